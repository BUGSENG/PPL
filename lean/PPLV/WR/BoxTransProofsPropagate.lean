import PPLV.WR.BoxTransProofsBlock
/-!
# `Box<ITV>`: soundness of `propagate_constraint_no_check`, `refine_no_check`,
`propagate_constraints_no_check`

Every function keeps the members of the box that satisfy the constraint(s), provided the
coefficients of the variables are values of the temporary boundary type (`CoeffsExact`; always
true for `mpq_class` / `mpz_class` temporaries: `refineSound_of_intExact`).  The hypothesis is
needed: `BoxTransProofsFails.lean`.
-/
namespace PPLV.WR.BoxT
open PPLV.Interval
open PPLV.Interval.ExtRat (ninf fin pinf)

theorem applyBlock_dim (cfg : Cfg) (B : Block) (b : Box) (c : Con) (k : Nat) (ak : Int) (strict : Bool) :
    (applyBlock cfg B b c k ak strict).dim = b.dim := by
  unfold applyBlock
  split <;> simp [Box.dim, Box.resetEmptyUpToDate, Box.setIv]

theorem coeff_mem_coeffs {e : LinExpr} {i : Nat} (h : i < e.coeffs.length) : e.coeff i ∈ e.coeffs := by
  have : e.coeff i = e.coeffs[i] := by simp [LinExpr.coeff, List.getD, h]
  rw [this]; exact List.getElem_mem _

theorem termsOK_of_mem {cfg : Cfg} {b : Box} {c : Con} {x : Nat → Rat} (hwf : c.e.WF b.dim)
    (hex : CoeffsExact cfg.TR c.e) (hx : b.mem cfg.p x) : TermsOK cfg b.seq x c.e.terms := by
  intro t ht
  obtain ⟨i, a⟩ := t
  obtain ⟨ha, hc, hlt⟩ := LinExpr.mem_terms ht
  refine ⟨ha, ?_, hx.2 i (Nat.lt_of_lt_of_le hlt hwf)⟩
  show ExactAt cfg.TR a
  rw [← hc]; exact hex _ (coeff_mem_coeffs hlt)

/-- the value of the expression with the term of `x_k` split off -/
theorem eval_split {c : Con} {k : Nat} {ak : Int} (x : Nat → Rat) (hm : (k, ak) ∈ c.e.terms) :
    c.e.eval x = ((ak : Rat) * x k + restSum k c.e.terms x) + (c.e.inhom : Rat) := by
  rw [LinExpr.eval_eq_terms, termSum_split x (LinExpr.terms_pairwise c.e) hm]

/-- every constraint type gives `−n ≤ Y` (strictly for `>`) -/
theorem holds_dcmp_down {c : Con} {x : Nat → Rat} {Y : Rat} (hc : c.holds x)
    (he : c.e.eval x = Y + (c.e.inhom : Rat)) : dcmp .down (c.ty == .gt) (-(c.e.inhom : Rat)) Y := by
  unfold Con.holds at hc
  rw [he] at hc
  show cmp _ _ _
  cases hty : c.ty <;> rw [hty] at hc <;> simp only at hc
  · show cmp false _ _
    simp; linarith
  · show cmp false _ _
    simp; linarith
  · show cmp true _ _
    simp; linarith

/-- an equality gives `Y ≤ −n` too -/
theorem holds_eq_dcmp_up {c : Con} {x : Nat → Rat} {Y : Rat} (hty : c.ty = .eq) (hc : c.holds x)
    (he : c.e.eval x = Y + (c.e.inhom : Rat)) : dcmp .up false (-(c.e.inhom : Rat)) Y := by
  unfold Con.holds at hc
  rw [he, hty] at hc
  simp only at hc
  show cmp false _ _
  simp; linarith

theorem applyBlock_sound {cfg : Cfg} (hS : cfg.Sound) {B : Block} {D : Dir} {pos : Bool} (hOK : B.OK D pos)
    {b : Box} {c : Con} {k : Nat} {ak : Int} {strict : Bool} {x : Nat → Rat}
    (hwf : c.e.WF b.dim) (hex : CoeffsExact cfg.TR c.e) (hx : b.mem cfg.p x) (hm : (k, ak) ∈ c.e.terms)
    (hak : if pos then 0 < ak else ak < 0)
    (hY : dcmp D strict (-(c.e.inhom : Rat)) ((ak : Rat) * x k + restSum k c.e.terms x)) :
    (applyBlock cfg B b c k ak strict).mem cfg.p x := by
  unfold applyBlock
  split
  · exact hx
  · rename_i I hI
    obtain ⟨_, hcoef, hlt⟩ := LinExpr.mem_terms hm
    have hk : k < b.dim := Nat.lt_of_lt_of_le hlt hwf
    apply Box.mem_resetEmptyUpToDate
    apply Box.mem_setIv_self hx
    exact runBlock_sound hS hOK hak (by rw [← hcoef]; exact hex _ (coeff_mem_coeffs hlt))
      (termsOK_of_mem hwf hex hx) (hx.2 k hk) hY hI

theorem propagateStep_dim (cfg : Cfg) (c : Con) (b : Box) (t : Nat × Int) :
    (propagateStep cfg c b t).dim = b.dim := by
  obtain ⟨k, ak⟩ := t
  unfold propagateStep
  simp only
  split_ifs <;> simp only [applyBlock_dim]

theorem propagateStep_sound {cfg : Cfg} (hS : cfg.Sound) {b : Box} {c : Con} {t : Nat × Int} {x : Nat → Rat}
    (hwf : c.e.WF b.dim) (hex : CoeffsExact cfg.TR c.e) (hx : b.mem cfg.p x) (hc : c.holds x)
    (hm : t ∈ c.e.terms) : (propagateStep cfg c b t).mem cfg.p x := by
  obtain ⟨k, ak⟩ := t
  have he := eval_split x hm
  have hd := holds_dcmp_down hc he
  unfold propagateStep
  simp only
  by_cases hpos : ak > 0
  · rw [if_pos hpos]
    have h1 := applyBlock_sound hS blockPosLower_ok hwf hex hx hm (by simpa using hpos) hd
    by_cases hne : (c.ty != CType.eq) = true
    · rw [if_pos hne]; exact h1
    · rw [if_neg hne]
      have hty : c.ty = .eq := by simpa using hne
      exact applyBlock_sound hS blockPosUpper_ok (by rw [applyBlock_dim]; exact hwf) hex h1 hm
        (by simpa using hpos) (holds_eq_dcmp_up hty hc he)
  · rw [if_neg hpos]
    have hneg : ak < 0 := by
      have := (LinExpr.mem_terms hm).1
      omega
    have h1 := applyBlock_sound hS blockNegUpper_ok hwf hex hx hm (by simpa using hneg) hd
    by_cases hne : (c.ty != CType.eq) = true
    · rw [if_pos hne]; exact h1
    · rw [if_neg hne]
      have hty : c.ty = .eq := by simpa using hne
      exact applyBlock_sound hS blockNegLower_ok (by rw [applyBlock_dim]; exact hwf) hex h1 hm
        (by simpa using hneg) (holds_eq_dcmp_up hty hc he)

theorem propagateConstraintNoCheck_dim (cfg : Cfg) (b : Box) (c : Con) :
    (propagateConstraintNoCheck cfg b c).dim = b.dim := by
  unfold propagateConstraintNoCheck
  split
  · split_ifs <;> rfl
  · exact foldl_inv (·.dim = b.dim) _ _ b rfl fun b' t _ h => by rw [propagateStep_dim, h]

/-- `propagate_constraint_no_check` keeps the members that satisfy the constraint -/
theorem propagateConstraintNoCheck_sound {cfg : Cfg} (hS : cfg.Sound) {b : Box} {c : Con} {x : Nat → Rat}
    (hwf : c.e.WF b.dim) (hex : CoeffsExact cfg.TR c.e)
    (hx : b.mem cfg.p x) (hc : c.holds x) : (propagateConstraintNoCheck cfg b c).mem cfg.p x := by
  unfold propagateConstraintNoCheck
  split
  · rename_i ht
    have hcond : ¬ ((decide (c.e.inhom < 0) || (c.e.inhom == 0 && c.ty == CType.gt)
        || (decide (c.e.inhom > 0) && c.ty == CType.eq)) = true) := by
      have h := inhom_of_holds ht hc
      cases hty : c.ty <;> rw [hty] at h <;> simp only at h
      · simp [h]
      · simp; omega
      · simp; omega
    rw [if_neg hcond]; exact hx
  · exact (foldl_inv (fun b' => b'.dim = b.dim ∧ b'.mem cfg.p x) _ _ b ⟨rfl, hx⟩ fun b' t ht h =>
      ⟨by rw [propagateStep_dim, h.1], propagateStep_sound hS (h.1 ▸ hwf) hex h.2 hc ht⟩).2

theorem refineNoCheck_dim (cfg : Cfg) (b : Box) (c : Con) : (refineNoCheck cfg b c).dim = b.dim := by
  unfold refineNoCheck
  split
  · exact propagateConstraintNoCheck_dim ..
  · split_ifs <;> rfl
  · exact addIntervalConstraintNoCheck_dim ..

theorem refineNoCheck_sound {cfg : Cfg} (hS : cfg.Sound) {b : Box} {c : Con} {x : Nat → Rat}
    (hwf : c.e.WF b.dim) (hex : extractIntervalConstraint c = none → CoeffsExact cfg.TR c.e)
    (hx : b.mem cfg.p x) (hc : c.holds x) : (refineNoCheck cfg b c).mem cfg.p x := by
  unfold refineNoCheck
  split
  · rename_i hnone
    exact propagateConstraintNoCheck_sound hS hwf (hex hnone) hx hc
  · rename_i h
    rw [trivialFalse_of_holds (extract_some_none h) hc]; exact hx
  · rename_i v h
    obtain ⟨a, ht⟩ := extract_some_some h
    exact intervalArm_sound hS hwf ht hx hc

theorem refineWithConstraint_dim (cfg : Cfg) (b : Box) (c : Con) : (refineWithConstraint cfg b c).dim = b.dim := by
  unfold refineWithConstraint
  split_ifs
  · rfl
  · exact refineNoCheck_dim ..

theorem refineWithConstraint_sound {cfg : Cfg} (hS : cfg.Sound) {b : Box} {c : Con} {x : Nat → Rat}
    (hwf : c.e.WF b.dim) (hex : extractIntervalConstraint c = none → CoeffsExact cfg.TR c.e)
    (hx : b.mem cfg.p x) (hc : c.holds x) : (refineWithConstraint cfg b c).mem cfg.p x := by
  unfold refineWithConstraint
  split_ifs
  · exact hx
  · exact refineNoCheck_sound hS hwf hex hx hc

/-- temporaries that hold every integer (`mpq_class`, `mpz_class`): `refine_with_constraint` is sound -/
theorem refineSound_of_intExact {cfg : Cfg} (hS : cfg.Sound) (h : IntExact cfg.TR) : RefineSound cfg :=
  fun _ _ _ hwf hx hc => refineWithConstraint_sound hS hwf (fun _ => h.coeffsExact _) hx hc

theorem refineSound_mpq : RefineSound Cfg.mpq := refineSound_of_intExact Cfg.mpq_sound intExact_id
theorem refineSound_mpz : RefineSound Cfg.mpz := refineSound_of_intExact Cfg.mpz_sound intExact_int

theorem refineWithConstraints_dim (cfg : Cfg) (b : Box) (cs : List Con) :
    (refineWithConstraints cfg b cs).dim = b.dim := by
  unfold refineWithConstraints
  split_ifs
  · rfl
  · refine foldl_inv (·.dim = b.dim) _ _ b rfl fun b' c _ h => ?_
    split_ifs
    · exact h
    · rw [refineNoCheck_dim, h]

theorem refineWithConstraints_sound {cfg : Cfg} (hS : cfg.Sound) {b : Box} {cs : List Con} {x : Nat → Rat}
    (hwf : ∀ c ∈ cs, c.e.WF b.dim)
    (hex : ∀ c ∈ cs, extractIntervalConstraint c = none → CoeffsExact cfg.TR c.e)
    (hx : b.mem cfg.p x) (hc : ∀ c ∈ cs, c.holds x) : (refineWithConstraints cfg b cs).mem cfg.p x := by
  unfold refineWithConstraints
  split_ifs
  · exact hx
  · refine (foldl_inv (fun b' => b'.dim = b.dim ∧ b'.mem cfg.p x) _ _ b ⟨rfl, hx⟩ fun b' c hc' h => ?_).2
    split_ifs
    · exact h
    · exact ⟨by rw [refineNoCheck_dim, h.1], refineNoCheck_sound hS (h.1 ▸ hwf c hc') (hex c hc') h.2 (hc c hc')⟩

theorem foldl_propagate_dim (cfg : Cfg) (cs : List Con) (b : Box) :
    (cs.foldl (propagateConstraintNoCheck cfg) b).dim = b.dim :=
  foldl_inv (·.dim = b.dim) _ _ b rfl fun b' c _ h => by rw [propagateConstraintNoCheck_dim, h]

theorem foldl_propagate_sound {cfg : Cfg} (hS : cfg.Sound) {x : Nat → Rat} (cs : List Con) (b : Box)
    (hwf : ∀ c ∈ cs, c.e.WF b.dim) (hex : ∀ c ∈ cs, CoeffsExact cfg.TR c.e)
    (hx : b.mem cfg.p x) (hc : ∀ c ∈ cs, c.holds x) :
    (cs.foldl (propagateConstraintNoCheck cfg) b).mem cfg.p x :=
  (foldl_inv (fun b' => b'.dim = b.dim ∧ b'.mem cfg.p x) _ _ b ⟨rfl, hx⟩ fun b' c hc' h =>
    ⟨by rw [propagateConstraintNoCheck_dim, h.1],
      propagateConstraintNoCheck_sound hS (h.1 ▸ hwf c hc') (hex c hc') h.2 (hc c hc')⟩).2

theorem propagateConstraintsNoCheck_dim (cfg : Cfg) (cs : List Con) (maxIter fuel num : Nat) (b : Box) :
    (propagateConstraintsNoCheck cfg cs maxIter fuel num b).dim = b.dim := by
  induction fuel generalizing num b with
  | zero => rfl
  | succ fuel ih =>
    unfold propagateConstraintsNoCheck
    simp only
    split_ifs
    · exact foldl_propagate_dim ..
    · exact foldl_propagate_dim ..
    · rw [ih, foldl_propagate_dim]

/-- every `fuel`, every `max_iterations`, every value of the iteration counter -/
theorem propagateConstraintsNoCheck_sound {cfg : Cfg} (hS : cfg.Sound) {x : Nat → Rat} (cs : List Con)
    (maxIter fuel num : Nat) (b : Box)
    (hwf : ∀ c ∈ cs, c.e.WF b.dim) (hex : ∀ c ∈ cs, CoeffsExact cfg.TR c.e)
    (hx : b.mem cfg.p x) (hc : ∀ c ∈ cs, c.holds x) :
    (propagateConstraintsNoCheck cfg cs maxIter fuel num b).mem cfg.p x := by
  induction fuel generalizing num b with
  | zero => exact hx
  | succ fuel ih =>
    have h1 := foldl_propagate_sound hS cs b hwf hex hx hc
    unfold propagateConstraintsNoCheck
    simp only
    split_ifs
    · exact h1
    · exact h1
    · apply ih _ _ _ h1
      intro c' h'
      rw [foldl_propagate_dim]; exact hwf c' h'

theorem propagateConstraints_dim (cfg : Cfg) (fuel : Nat) (b : Box) (cs : List Con) (maxIter : Nat) :
    (propagateConstraints cfg fuel b cs maxIter).dim = b.dim := by
  unfold propagateConstraints
  split_ifs
  · rfl
  · exact propagateConstraintsNoCheck_dim ..

/-- `propagate_constraints(cs, max_iterations)`: every `fuel`, every `maxIter` -/
theorem propagateConstraints_sound {cfg : Cfg} (hS : cfg.Sound) (fuel maxIter : Nat) {b : Box} {cs : List Con}
    {x : Nat → Rat} (hwf : ∀ c ∈ cs, c.e.WF b.dim) (hex : ∀ c ∈ cs, CoeffsExact cfg.TR c.e)
    (hx : b.mem cfg.p x) (hc : ∀ c ∈ cs, c.holds x) : (propagateConstraints cfg fuel b cs maxIter).mem cfg.p x := by
  unfold propagateConstraints
  split_ifs
  · exact hx
  · exact propagateConstraintsNoCheck_sound hS cs maxIter fuel 0 b hwf hex hx hc

theorem propagateConstraint_dim (cfg : Cfg) (b : Box) (c : Con) : (propagateConstraint cfg b c).dim = b.dim := by
  unfold propagateConstraint
  split_ifs
  · rfl
  · exact propagateConstraintNoCheck_dim ..

theorem propagateConstraint_sound {cfg : Cfg} (hS : cfg.Sound) {b : Box} {c : Con} {x : Nat → Rat}
    (hwf : c.e.WF b.dim) (hex : CoeffsExact cfg.TR c.e)
    (hx : b.mem cfg.p x) (hc : c.holds x) : (propagateConstraint cfg b c).mem cfg.p x := by
  unfold propagateConstraint
  split_ifs
  · exact hx
  · exact propagateConstraintNoCheck_sound hS hwf hex hx hc

private theorem univ_mem_aux (p : Policy) (n : Nat) (x : Nat → Rat) : (Box.univ p n).mem p x :=
  Box.mem_univ p n x

private def exCon : Con := ⟨⟨[1, -2], -1⟩, .ge⟩
private def exCon2 : Con := ⟨⟨[1, 1], -10⟩, .eq⟩
private def exPt : Nat → Rat := fun k => if k = 0 then 7 else 3

private theorem exCon_holds : exCon.holds exPt := by
  show (0 : Rat) ≤ LinExpr.eval ⟨[1, -2], -1⟩ exPt
  norm_num [LinExpr.eval, LinExpr.dot, exPt]
private theorem exCon2_holds : exCon2.holds exPt := by
  show LinExpr.eval ⟨[1, 1], -10⟩ exPt = 0
  norm_num [LinExpr.eval, LinExpr.dot, exPt]

example : (propagateConstraintNoCheck Cfg.mpq (Box.univ Policy.rational 2) exCon).mem Policy.rational exPt :=
  propagateConstraintNoCheck_sound Cfg.mpq_sound (by simp [LinExpr.WF, exCon, Box.univ, Box.dim])
    (intExact_id.coeffsExact _) (univ_mem_aux _ _ _) exCon_holds

example : (refineWithConstraint Cfg.mpz (Box.univ Policy.integer 2) exCon2).mem Policy.integer exPt :=
  refineWithConstraint_sound Cfg.mpz_sound (by simp [LinExpr.WF, exCon2, Box.univ, Box.dim])
    (fun _ => intExact_int.coeffsExact _) (univ_mem_aux _ _ _) exCon2_holds

example : (refineWithConstraints Cfg.mpq (Box.univ Policy.rational 2) [exCon, exCon2]).mem Policy.rational exPt :=
  refineWithConstraints_sound Cfg.mpq_sound
    (by intro c hc; simp at hc; rcases hc with rfl | rfl <;> simp [LinExpr.WF, exCon, exCon2, Box.univ, Box.dim])
    (fun c _ _ => intExact_id.coeffsExact _) (univ_mem_aux _ _ _)
    (by intro c hc; simp at hc; rcases hc with rfl | rfl; exact exCon_holds; exact exCon2_holds)

example : (propagateConstraints Cfg.mpq 5 (Box.univ Policy.rational 2) [exCon, exCon2] 0).mem Policy.rational exPt :=
  propagateConstraints_sound Cfg.mpq_sound 5 0
    (by intro c hc; simp at hc; rcases hc with rfl | rfl <;> simp [LinExpr.WF, exCon, exCon2, Box.univ, Box.dim])
    (fun c _ => intExact_id.coeffsExact _)
    (univ_mem_aux _ _ _)
    (by intro c hc; simp at hc; rcases hc with rfl | rfl; exact exCon_holds; exact exCon2_holds)

/-- the hypothesis `CoeffsExact` is satisfiable for `double` temporaries too: small coefficients -/
example : CoeffsExact Cfg.dbl.TR exCon.e := by
  intro a ha
  simp [exCon] at ha
  rcases ha with rfl | rfl <;> constructor <;> decide +kernel

end PPLV.WR.BoxT

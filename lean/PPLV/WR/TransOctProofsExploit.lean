import PPLV.WR.TransOctProofsGeneral
import PPLV.WR.TransProofsExploit
/-!
# `Octagonal_Shape<T>::affine_image`: "exploit the upper / lower approximation" and the general case
-/
namespace PPLV.WR
open ExtRat

/-- the unary cells of the variables other than `vid` agree -/
def OUnaryEq (vid : Nat) (m1 m0 : Mat) : Prop :=
  ∀ u, u ≠ vid → m1 (2 * u + 1) (2 * u) = m0 (2 * u + 1) (2 * u) ∧ m1 (2 * u) (2 * u + 1) = m0 (2 * u) (2 * u + 1)

section
variable {R : Rnd} {n vid wid : Nat} {m0 : Mat} {sc : Nat → Int} {scd : Int} {Bq tval : Rat} {x : Nat → Rat}

/-- stores in the rows and columns `2·vid`, `2·vid+1` keep the unary cells of the other variables -/
theorem OUnaryEq.of_eqOff {m1 M : Mat} (h : OUnaryEq vid m1 m0)
    (hM : EqOff (fun a c => a / 2 = vid ∨ c / 2 = vid) m1 M) : OUnaryEq vid M m0 := by
  intro u hu
  rw [hM (2 * u + 1) (2 * u) (by omega), hM (2 * u) (2 * u + 1) (by omega)]
  exact h u hu

theorem obox_of_holds (hR : R.Sound) (hx : Holds (SO n) (OctM.oval x) m0) {w : Nat} (hw : w ≤ n) :
    OBox R.up m0 w x := by
  intro i hi
  have := oct_box hx (w := i) (by omega)
  exact ⟨half_box hR.up_le this.1, half_box hR.up_le (by
    rw [show 2 * -(x i) = 2 * -x i by ring] at this; exact this.2)⟩

theorem obox_of_unaryEq (hR : R.Sound) (hx : Holds (SO n) (OctM.oval x) m0) (hw : wid < n) {m' : Mat}
    (hun : OUnaryEq vid m' m0) {y : Nat → Rat} (hyv : y vid = x vid)
    (hyb : ∀ i, i < wid + 1 → i ≠ vid →
      fin (y i) ≤ halfUp R.up (m' (2 * i + 1) (2 * i)) ∧ fin (-(y i)) ≤ halfUp R.up (m' (2 * i) (2 * i + 1))) :
    OBox R.up m0 (wid + 1) y := by
  intro i hi
  by_cases hiv : i = vid
  · subst hiv; rw [hyv]; exact obox_of_holds hR hx (by omega) i hi
  · have := hyb i hi hiv
    rw [(hun i hiv).1, (hun i hiv).2] at this
    exact this

theorem halfFinite_of_unaryEq (hh : HalfFiniteOn R.up m0) {m' : Mat} (hun : OUnaryEq vid m' m0) :
    ∀ u, u ≠ vid → ∀ q, (m' (2 * u + 1) (2 * u) = fin q ∨ m' (2 * u) (2 * u + 1) = fin q) →
      R.up (q / 2) ≠ pinf := by
  intro u huv q hq
  rw [(hun u huv).1, (hun u huv).2] at hq; exact hh u q hq

theorem oupper_deduce (hR : R.Sound) (hh : HalfFiniteOn R.up m0) (hw : wid < n) (hd : 0 < scd)
    (hx : Holds (SO n) (OctM.oval x) m0) (htv : tval ≤ (linEval sc x (wid + 1) + Bq) / scd)
    {m' : Mat} (hx' : Holds (SO n) (OctM.oval (upd x vid tval)) m') (hun : OUnaryEq vid m' m0)
    {sum : ExtRat} (hc0 : ∀ y, OBox R.up m0 (wid + 1) y → fin (Bq + linEval sc y (wid + 1)) ≤ sum)
    (hfp : ∀ i, i < wid + 1 → sc i > 0 → m0 (2 * i + 1) (2 * i) ≠ pinf)
    (hfn : ∀ i, i < wid + 1 → sc i < 0 → m0 (2 * i) (2 * i + 1) ≠ pinf)
    {s : ExtRat} (hs : ∀ S' : Rat, fin S' ≤ sum → fin (S' / (scd : Rat)) ≤ s) :
    Holds (SO n) (OctM.oval (upd x vid tval)) (deduceVPmU R.up vid wid sc scd s m') := by
  cases s with
  | pinf =>
    have hh' := halfFinite_of_unaryEq hh hun
    exact deduceVPmU_pinf_holds hh' hx'
      (fun u hu huv hp => by rw [(hun u huv).1]; exact hfp u hu hp)
      (fun u hu huv hp => by rw [(hun u huv).2]; exact hfn u hu hp)
  | fin c =>
    refine deduceVPmU_holds hR.up_le hd hw hx' (upd_frame x vid tval) (by simpa [upd] using htv) ?_
    intro y hyv hyb
    have hbox := obox_of_unaryEq hR hx hw hun hyv hyb
    have := hs _ (hc0 y hbox)
    rw [add_comm] at this
    exact fin_le_fin.1 this

theorem olower_deduce (hR : R.Sound) (hh : HalfFiniteOn R.up m0) (hw : wid < n) (hd : 0 < scd)
    (hx : Holds (SO n) (OctM.oval x) m0) (htv : (linEval sc x (wid + 1) + Bq) / scd ≤ tval)
    {m' : Mat} (hx' : Holds (SO n) (OctM.oval (upd x vid tval)) m') (hun : OUnaryEq vid m' m0)
    {sum : ExtRat}
    (hc0 : ∀ y, OBox R.up m0 (wid + 1) y → fin (-Bq + linEval (fun i => - sc i) y (wid + 1)) ≤ sum)
    (hfp : ∀ i, i < wid + 1 → - sc i > 0 → m0 (2 * i + 1) (2 * i) ≠ pinf)
    (hfn : ∀ i, i < wid + 1 → - sc i < 0 → m0 (2 * i) (2 * i + 1) ≠ pinf)
    {s : ExtRat} (hs : ∀ S' : Rat, fin S' ≤ sum → fin (S' / (scd : Rat)) ≤ s) :
    Holds (SO n) (OctM.oval (upd x vid tval)) (deduceMinusVPmU R.up vid wid sc scd s m') := by
  cases s with
  | pinf =>
    have hh' := halfFinite_of_unaryEq hh hun
    exact deduceMinusVPmU_pinf_holds hh' hx'
      (fun u hu huv hp => by rw [(hun u huv).2]; exact hfn u hu (by omega))
      (fun u hu huv hp => by rw [(hun u huv).1]; exact hfp u hu (by omega))
  | fin c =>
    refine deduceMinusVPmU_holds hR.up_le hd hw hx' (upd_frame x vid tval) (by simpa [upd] using htv) ?_
    intro y hyv hyb
    have hbox := obox_of_unaryEq hR hx hw hun hyv hyb
    have := hs _ (hc0 y hbox)
    rw [linEval_neg] at this
    have e1 : (-Bq + -linEval sc y (wid + 1)) / (scd : Rat) = -((linEval sc y (wid + 1) + Bq) / scd) := by ring
    rw [e1] at this
    exact fin_le_fin.1 this

/-- the value bounds of the `pinf_count == 1` cells -/
theorem osingle_pos (hd : 0 < scd) (htv : tval ≤ (linEval sc x (wid + 1) + Bq) / scd) {p : Nat} (hp : p < wid + 1)
    (hsc : sc p = scd) : tval - x p ≤ (Bq + linEval (zeroAt sc p) x (wid + 1)) / scd := by
  have hd' : (scd : Rat) ≠ 0 := by exact_mod_cast (ne_of_gt hd)
  have e1 : (linEval sc x (wid + 1) + Bq) / scd = (Bq + linEval (zeroAt sc p) x (wid + 1)) / scd + x p := by
    rw [linEval_zeroAt sc x hp, hsc]; field_simp; ring
  linarith

theorem osingle_neg (hd : 0 < scd) (htv : tval ≤ (linEval sc x (wid + 1) + Bq) / scd) {p : Nat} (hp : p < wid + 1)
    (hsc : sc p = - scd) : tval + x p ≤ (Bq + linEval (zeroAt sc p) x (wid + 1)) / scd := by
  have hd' : (scd : Rat) ≠ 0 := by exact_mod_cast (ne_of_gt hd)
  have e1 : (linEval sc x (wid + 1) + Bq) / scd = (Bq + linEval (zeroAt sc p) x (wid + 1)) / scd - x p := by
    rw [linEval_zeroAt sc x hp, hsc]; push_cast; field_simp; ring
  linarith

/-- the lower cells are the upper ones for `-sc`, `-Bq`, `-tval` -/
theorem osingle_low_pos (hd : 0 < scd) (htv : (linEval sc x (wid + 1) + Bq) / scd ≤ tval) {p : Nat}
    (hp : p < wid + 1) (hsc : sc p = scd) :
    x p - tval ≤ (-Bq + linEval (zeroAt (fun i => - sc i) p) x (wid + 1)) / scd := by
  have := osingle_neg (sc := fun i => - sc i) (Bq := -Bq) (tval := -tval) hd
    (by rw [linEval_neg, ← neg_add, neg_div]; exact neg_le_neg htv) hp (by rw [hsc])
  linarith

theorem osingle_low_neg (hd : 0 < scd) (htv : (linEval sc x (wid + 1) + Bq) / scd ≤ tval) {p : Nat}
    (hp : p < wid + 1) (hsc : sc p = - scd) :
    - x p - tval ≤ (-Bq + linEval (zeroAt (fun i => - sc i) p) x (wid + 1)) / scd := by
  have := osingle_pos (sc := fun i => - sc i) (Bq := -Bq) (tval := -tval) hd
    (by rw [linEval_neg, ← neg_add, neg_div]; exact neg_le_neg htv) hp (by rw [hsc, neg_neg])
  linarith

theorem octExploitUpper_holds (hR : R.Sound) (hh : HalfFiniteOn R.up m0) (hw : wid < n) (hd : 0 < scd)
    (hx : Holds (SO n) (OctM.oval x) m0) (htv : tval ≤ (linEval sc x (wid + 1) + Bq) / scd)
    {m1 : Mat} (hx' : Holds (SO n) (OctM.oval (upd x vid tval)) m1) (hun : OUnaryEq vid m1 m0)
    {pos : Acc} (hinv : OAccInv R.up m0 (wid + 1) sc Bq (wid + 1) pos) :
    Holds (SO n) (OctM.oval (upd x vid tval)) (octExploitUpper R vid wid sc scd pos m1) := by
  unfold octExploitUpper
  dsimp only
  have hs : ∀ S' : Rat, fin S' ≤ pos.sum →
      fin (S' / (scd : Rat)) ≤ (if scd ≠ 1 then divRoundUpByPositive R pos.sum scd else pos.sum) :=
    fun S' h => fin_le_quot hR hd h
  refine holds_ite (fun hle => holds_ite (fun h0 => ?_) fun h0 => ?_) fun _ => hx'
  · refine oupper_deduce hR hh hw hd hx htv ?_ ?_ (hinv.c0 h0) (hinv.f0p h0) (hinv.f0n h0) hs
    · refine holds_set hx' (fun _ => ?_)
      rw [oval_upd_v, oval_upd_cv]
      have := hs _ (hinv.c0 h0 x (obox_of_holds hR hx (by omega)))
      rw [add_comm] at this
      have h2 := fin_le_mulTwoUp hR.up_le (le_trans' (fin_le_fin.2 htv) this)
      have e : tval - -tval = 2 * tval := by ring
      rw [e]; exact h2
    · exact hun.of_eqOff (.set _ (.inl (by omega)))
  · have h1 : pos.cnt = 1 := by omega
    obtain ⟨hi, hc1⟩ := hinv.c1 h1
    have hb := hs _ (hc1 x (obox_of_holds hR hx (by omega)))
    refine holds_ite (fun hpv => holds_ite (fun hsc => ?_) fun _ => holds_ite (fun hsc => ?_) fun _ => hx')
      fun _ => hx'
    · have hv := le_trans' (fin_le_fin.2 (osingle_pos hd htv hi hsc)) hb
      refine holds_ite (fun _ => holds_set hx' fun _ => ?_) fun _ => holds_set hx' fun _ => ?_
      · rw [oval_upd_v, oval_upd_u x tval hpv]; exact hv
      · rw [oval_upd_cv, oval_upd_cu x tval hpv]
        have e : -x pos.idx - -tval = tval - x pos.idx := by ring
        rw [e]; exact hv
    · have hv := le_trans' (fin_le_fin.2 (osingle_neg hd htv hi hsc)) hb
      refine holds_ite (fun _ => holds_set hx' fun _ => ?_) fun _ => holds_set hx' fun _ => ?_
      · rw [oval_upd_v, oval_upd_cu x tval hpv]
        have e : tval - -x pos.idx = tval + x pos.idx := by ring
        rw [e]; exact hv
      · rw [oval_upd_cv, oval_upd_u x tval hpv]
        have e : x pos.idx - -tval = tval + x pos.idx := by ring
        rw [e]; exact hv

theorem octExploitLower_holds (hR : R.Sound) (hh : HalfFiniteOn R.up m0) (hw : wid < n) (hd : 0 < scd)
    (hx : Holds (SO n) (OctM.oval x) m0) (htv : (linEval sc x (wid + 1) + Bq) / scd ≤ tval)
    {m1 : Mat} (hx' : Holds (SO n) (OctM.oval (upd x vid tval)) m1) (hun : OUnaryEq vid m1 m0)
    {neg : Acc} (hinv : OAccInv R.up m0 (wid + 1) (fun i => - sc i) (-Bq) (wid + 1) neg) :
    Holds (SO n) (OctM.oval (upd x vid tval)) (octExploitLower R vid wid sc scd neg m1) := by
  unfold octExploitLower
  dsimp only
  have hs : ∀ S' : Rat, fin S' ≤ neg.sum →
      fin (S' / (scd : Rat)) ≤ (if scd ≠ 1 then divRoundUpByPositive R neg.sum scd else neg.sum) :=
    fun S' h => fin_le_quot hR hd h
  refine holds_ite (fun hle => holds_ite (fun h0 => ?_) fun h0 => ?_) fun _ => hx'
  · refine olower_deduce hR hh hw hd hx htv ?_ ?_ (hinv.c0 h0) (hinv.f0p h0) (hinv.f0n h0) hs
    · refine holds_set hx' (fun _ => ?_)
      rw [oval_upd_v, oval_upd_cv]
      have := hs _ (hinv.c0 h0 x (obox_of_holds hR hx (by omega)))
      rw [linEval_neg] at this
      have e1 : (-Bq + -linEval sc x (wid + 1)) / (scd : Rat) = -((linEval sc x (wid + 1) + Bq) / scd) := by ring
      rw [e1] at this
      have h2 := fin_le_mulTwoUp hR.up_le (le_trans' (fin_le_fin.2 (by linarith : -tval ≤ _)) this)
      have e : -tval - tval = 2 * -tval := by ring
      rw [e]; exact h2
    · exact hun.of_eqOff (.set _ (.inr (by omega)))
  · have h1 : neg.cnt = 1 := by omega
    obtain ⟨hi, hc1⟩ := hinv.c1 h1
    have hb := hs _ (hc1 x (obox_of_holds hR hx (by omega)))
    refine holds_ite (fun hpv => holds_ite (fun hsc => ?_) fun _ => holds_ite (fun hsc => ?_) fun _ => hx')
      fun _ => hx'
    · have hv := le_trans' (fin_le_fin.2 (osingle_low_pos hd htv hi hsc)) hb
      refine holds_ite (fun _ => holds_set hx' fun _ => ?_) fun _ => holds_set hx' fun _ => ?_
      · rw [oval_upd_v, oval_upd_u x tval hpv]; exact hv
      · rw [oval_upd_cv, oval_upd_cu x tval hpv]
        have e : -tval - -x neg.idx = x neg.idx - tval := by ring
        rw [e]; exact hv
    · have hv := le_trans' (fin_le_fin.2 (osingle_low_neg hd htv hi hsc)) hb
      refine holds_ite (fun _ => holds_set hx' fun _ => ?_) fun _ => holds_set hx' fun _ => ?_
      · rw [oval_upd_v, oval_upd_cu x tval hpv]; exact hv
      · rw [oval_upd_cv, oval_upd_u x tval hpv]
        have e : -tval - x neg.idx = -x neg.idx - tval := by ring
        rw [e]; exact hv

end

/-! ### frame of the upper block: only row `2·vid+1` and column `2·vid` are written -/

/-- the store `if n_v < n_u then m[·][n_v] := r else m[n_v+1][·] := r` of a bound on `v ± u` -/
theorem eqOff_setUpper (vid : Nat) {c : Prop} [Decidable c] (m : Mat) (i j : Nat) (r : ExtRat) :
    EqOff (fun a c => a = 2 * vid + 1 ∨ c = 2 * vid) m
      (if c then m.set i (2 * vid) r else m.set (2 * vid + 1) j r) :=
  .ite (.set r (.inr rfl)) (.set r (.inl rfl))

theorem eqOff_deduceVPmUStep (up : Rat → ExtRat) (vid : Nat) (e : Nat → Int) (d : Int) (ub : ExtRat) (u : Nat)
    (m : Mat) : EqOff (fun a c => a = 2 * vid + 1 ∨ c = 2 * vid) m (deduceVPmUStep up vid e d ub u m) := by
  unfold deduceVPmUStep
  dsimp only
  refine .ite (.refl m) (.ite (.refl m)
    (.ite (.ite (eqOff_setUpper vid m _ _ _) ?_) (.ite (eqOff_setUpper vid m _ _ _) ?_)))
  · split
    · exact .refl m
    · exact eqOff_setUpper vid m _ _ _
  · split
    · exact .refl m
    · exact eqOff_setUpper vid m _ _ _

theorem eqOff_octExploitUpper {R : Rnd} {vid wid : Nat} {sc : Nat → Int} {scd : Int} {pos : Acc} {m : Mat} :
    EqOff (fun a c => a = 2 * vid + 1 ∨ c = 2 * vid) m (octExploitUpper R vid wid sc scd pos m) := by
  unfold octExploitUpper
  dsimp only
  exact .ite (.ite (.trans (.set _ (.inl rfl)) (.loopUp _ _ (eqOff_deduceVPmUStep _ _ _ _ _) _))
    (.ite (.ite (eqOff_setUpper vid m _ _ _) (.ite (eqOff_setUpper vid m _ _ _) (.refl m))) (.refl m))) (.refl m)

theorem octExploitUpper_frame (R : Rnd) (vid wid : Nat) (sc : Nat → Int) (scd : Int) (pos : Acc) (m : Mat)
    (a c : Nat) (ha : a ≠ 2 * vid + 1) (hc : c ≠ 2 * vid) :
    octExploitUpper R vid wid sc scd pos m a c = m a c :=
  eqOff_octExploitUpper a c (fun h => h.elim ha hc)

theorem ounaryEq_forgetAll (n vid : Nat) (m : Mat) : OUnaryEq vid (octForgetAll n vid m) m := by
  intro u hu
  rw [octForgetAll_apply, octForgetAll_apply, if_neg (by omega), if_neg (by omega)]
  exact ⟨rfl, rfl⟩

/-- the body of the general case of `octAffineImageCore` with the sign-corrected data as parameters -/
def octGenCore (R : Rnd) (n vid wid : Nat) (sc : Nat → Int) (scb mscb scd : Int) (m : Mat) : Option Mat :=
  let pn := loopUp (wid + 1) (fun i (pq : Acc × Acc) =>
      (octAccStep R m sc true i pq.1, octAccStep R m sc false i pq.2))
    (⟨R.up (scb : Rat), 0, 0⟩, ⟨R.up (mscb : Rat), 0, 0⟩)
  let m := octForgetAll n vid m
  if pn.1.cnt > 1 ∧ pn.2.cnt > 1 then some m
  else octIncClose R n vid (octExploitLower R vid wid sc scd pn.2 (octExploitUpper R vid wid sc scd pn.1 m))

theorem octGenCore_sound {R : Rnd} (hR : R.Sound) {n vid wid : Nat} (hv : vid < n)
    (hw : wid < n) {sc : Nat → Int} (hc : CoeffExact R sc) {scb mscb scd : Int} (hm : (mscb : Rat) = -(scb : Rat))
    (hd : 0 < scd) {m : Mat} (hh : HalfFiniteOn R.up m) {x : Nat → Rat} (hx : Holds (SO n) (OctM.oval x) m) {t : Rat}
    (hval : t = (linEval sc x (wid + 1) + (scb : Rat)) / (scd : Rat)) :
    ∃ m', octGenCore R n vid wid sc scb mscb scd m = some m' ∧ Holds (SO n) (OctM.oval (upd x vid t)) m' := by
  unfold octGenCore
  dsimp only
  rw [loopUp_prod, octAccStep_false]
  have hpos := octAccLoop_inv hR hc _ (OAccInv.init hR m (wid + 1) sc (rfl : (scb : Rat) = scb)) _ le_rfl
  have hneg := octAccLoop_inv hR hc.neg _ (OAccInv.init hR m (wid + 1) (fun i => - sc i) hm.symm) _ le_rfl
  have hx1 := holds_octForgetAll hv hx t
  split
  · exact ⟨_, rfl, hx1⟩
  · refine octIncClose_sound hR hv ?_
    refine octExploitLower_holds hR hh hw hd hx (le_of_eq hval.symm) ?_ ?_ hneg
    · exact octExploitUpper_holds hR hh hw hd hx (le_of_eq hval) hx1 (ounaryEq_forgetAll n vid m) hpos
    · exact (ounaryEq_forgetAll n vid m).of_eqOff
        (eqOff_octExploitUpper.mono fun a c h => by omega)

theorem octAffineImageCore_general_sound {R : Rnd} (hR : R.Sound) {n vid : Nat}
    (hv : vid < n) {e : Nat → Int} (hc : CoeffExact R e) {b den : Int} (hden : den ≠ 0) {m : Mat}
    (hh : HalfFiniteOn R.up m)
    {x : Nat → Rat} (hx : x ∈ γO n m)
    (h0 : ¬ exprT e (lastNonzero e n) = 0)
    (h1 : ¬ (exprT e (lastNonzero e n) = 1 ∧
        (e (lastNonzero e n - 1) = den ∨ e (lastNonzero e n - 1) = - den))) :
    ∃ m', octAffineImageCore R n vid e b den m = some m' ∧
      upd x vid ((linEval e x n + b) / den) ∈ γO n m' := by
  have heq : octAffineImageCore R n vid e b den m
      = octGenCore R n vid (lastNonzero e n - 1) (scExpr e den) (if den > 0 then b else - b)
          (if den > 0 then - b else b) (if den > 0 then den else - den) m := by
    unfold octAffineImageCore
    dsimp only
    rw [if_neg h0, if_neg h1]
    rfl
  rw [heq]
  have hw0 : lastNonzero e n ≠ 0 := by
    intro h; apply h0; unfold exprT; rw [if_pos h]
  have hwn := lastNonzero_le e n
  have hval := sc_value e x n b den
  have hw1 : lastNonzero e n = (lastNonzero e n - 1) + 1 := by omega
  rw [hw1] at hval
  exact octGenCore_sound hR hv (by omega) (hc.sc den) (minus_scb_cast b den) (scDen_pos hden) hh hx hval

end PPLV.WR

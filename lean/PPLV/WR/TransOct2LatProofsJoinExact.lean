import PPLV.WR.TransOct2LatProofsCanon
import PPLV.WR.ReduceProofsUBCompleteOctTight
import PPLV.WR.OctClosedPathsMain
import PPLV.WR.OctClosedModelMain
/-!
# Exact arithmetic: `Octagonal_Shape<T>::upper_bound_assign` computes the least octagon

`strong_closure_assign` over `ℚ` leaves a strongly closed matrix (`OctM.strongClosure_isStronglyClosed`), a
strongly closed matrix is tight (`OctM.IsStronglyClosed.exists_point_ge`): it is canonical (`octLatCanon`).
-/
namespace PPLV.WR
open ExtRat

theorem latExactUpO : Rnd.exact.up = upId := rfl

/-- a point satisfies the full coherent view of the matrix -/
theorem octLatFullHolds {n : Nat} {m : Mat} {x : Nat → Rat} (hx : x ∈ γO n m) {a b : Nat} (ha : a < 2 * n)
    (hb : b < 2 * n) : fin (OctM.oval x b - OctM.oval x a) ≤ octFull m a b := by
  by_cases hab : a = b
  · subst hab; rw [octFull_self]; simp
  · rw [octFull_ne m hab]
    by_cases hs : b < rowSize a
    · rw [OCM.mAt_stored m hs]; exact hx a b ⟨ha, hs⟩
    · rw [OCM.mAt_unstored m hs]
      have := hx (cidx b) (cidx a) ⟨cidx_lt hb, swap_stored hs⟩
      rw [latOval_cidx, latOval_cidx] at this
      have e : OctM.oval x b - OctM.oval x a = -OctM.oval x a - -OctM.oval x b := by ring
      rw [e]; exact this

theorem octLatOfMat_e {n : Nat} {m : Mat} (hd : octLatDiag n m) (i j : Nat) (hi : i < 2 * n) :
    (OctM.ofMat n m).e i j = m i j := by
  show Mat.diagUp (2 * n) pinf m i j = m i j
  rw [Mat.diagUp_apply]
  split
  · rename_i hc; obtain ⟨rfl, _⟩ := hc; rw [hd i hi]
  · rfl

theorem octLatOfMat_gamma {n : Nat} {m : Mat} (hd : octLatDiag n m) : OctM.γ (OctM.ofMat n m) = γO n m := by
  rw [OctM.γ_eq]
  ext x
  constructor
  · intro h a b hab
    have := h a b hab
    rw [octLatOfMat_e hd a b hab.1] at this; exact this
  · intro h a b hab
    rw [octLatOfMat_e hd a b hab.1]; exact h a b hab

/-- exact arithmetic: the closure either reports an empty shape, or leaves a strongly closed matrix whose points
are those of the shape -/
theorem octLatClose_strong {n : Nat} (hn : n ≠ 0) {m : Mat} (hd : octLatDiag n m) {m' : Mat} {c' : Bool}
    (h : octLatClose upId n false m = some (m', c')) :
    ∃ c : OctM n, c.e = m' ∧ c.IsStronglyClosed ∧ ∀ x, c.Sat x ↔ x ∈ γO n m := by
  unfold octLatClose at h
  simp only [Bool.false_eq_true, if_false, if_neg hn] at h
  unfold octCloseFirst at h
  simp only [Bool.false_eq_true, if_false] at h
  split at h
  · simp at h
  · rename_i hne
    have hne' : OctM.strongClosureEmpty upId (OctM.ofMat n m) = false := by simpa using hne
    simp only [Option.map_some, Option.some.injEq, Prod.mk.injEq] at h
    obtain ⟨rfl, _⟩ := h
    refine ⟨OctM.strongClosure upId (OctM.ofMat n m), rfl,
      OctM.strongClosure_isStronglyClosed octTwo_closed _ hne', fun x => ?_⟩
    rw [← octLatOfMat_gamma hd, ← OctM.strongClosure_γ, OctM.γ_eq]
    exact OctM.sat_iff_holds _ x

theorem octLatClose_none_empty {n : Nat} {c : Bool} {m : Mat}
    (h : octLatClose upId n c m = none) : γO n m = ∅ := by
  refine Set.eq_empty_iff_forall_notMem.2 (fun x hx => ?_)
  obtain ⟨m', c', h1, _⟩ := octLatClose_sound (up := upId) (fun _ => le_rfl' _) n c m hx
  rw [h] at h1; simp at h1

/-- a strongly closed matrix over `ℚ` is canonical -/
theorem octLatCanon_of_strong {n : Nat} (hn : n ≠ 0) {c : OctM n} (hc : c.IsStronglyClosed) :
    octLatCanon n c.e := by
  constructor
  · have h0 : (0 : Nat) < 2 * n := by omega
    cases hv : octFull c.e 0 0 with
    | pinf =>
      obtain ⟨x, hx, _⟩ := hc.exists_point_ge h0 h0 (w := 0) (by rw [hv]; exact le_pinf _)
      exact ⟨x, (OctM.sat_iff_holds c x).1 hx⟩
    | fin u =>
      obtain ⟨x, hx, _⟩ := hc.exists_point_ge h0 h0 (w := u) (by rw [hv]; exact le_rfl' _)
      exact ⟨x, (OctM.sat_iff_holds c x).1 hx⟩
  · intro d hsub i j hi hj hij
    have := OctM.le_of_γ_subset hc (OctM.ofMat n d) (by
      rw [OctM.γ_eq, OctM.γ_eq]
      intro p hp
      exact holds_diagUp_pinf (hsub hp)) hi hj hij
    have e : (OctM.ofMat n d).e i j = d i j := by
      show Mat.diagUp (2 * n) pinf d i j = d i j
      rw [Mat.diagUp_apply, if_neg (by omega)]
    rw [e] at this; exact this

/-- `upper_bound_assign`, exact arithmetic: the result is below every octagon that contains both arguments.
A set closed flag must mean what it says (`octLatCanon`); with the flags clear there is no hypothesis. -/
theorem octLatUpperBound_least (n : Nat) (c1 c2 : Bool) (m1 m2 : Mat) (hd1 : octLatDiag n m1)
    (hd2 : octLatDiag n m2) (hc1 : c1 = true → octLatCanon n m1) (hc2 : c2 = true → octLatCanon n m2) :
    ∃ r, octLatUpperBound Rnd.exact n c1 m1 c2 m2 = some r ∧ r.dim = n ∧
      ∀ d : Mat, γO n m1 ⊆ γO n d → γO n m2 ⊆ γO n d → γO n r.m ⊆ γO n d := by
  by_cases hn : n = 0
  · subst hn
    have triv : ∀ (a d : Mat), γO 0 a ⊆ γO 0 d := by
      intro a d p _ i j hij; have := hij.1; omega
    unfold octLatUpperBound
    cases octLatClose Rnd.exact.up 0 c2 m2 with
    | none => exact ⟨_, rfl, rfl, fun d _ _ => triv _ d⟩
    | some yc =>
      obtain ⟨y, cy⟩ := yc
      cases octLatClose Rnd.exact.up 0 c1 m1 with
      | none => exact ⟨_, rfl, rfl, fun d _ _ => triv _ d⟩
      | some xc => obtain ⟨x, cx⟩ := xc; exact ⟨_, rfl, rfl, fun d _ _ => triv _ d⟩
  · -- what the closure leaves: canonical, same shape
    have closed : ∀ (c : Bool) (m m' : Mat) (c' : Bool), octLatDiag n m → (c = true → octLatCanon n m) →
        octLatClose upId n c m = some (m', c') → octLatCanon n m' ∧ γO n m' = γO n m := by
      intro c m m' c' hd hc h
      cases c with
      | true =>
        have : m' = m := by
          unfold octLatClose at h
          simp only [if_true, Option.some.injEq, Prod.mk.injEq] at h
          exact h.1.symm
        rw [this]; exact ⟨hc rfl, rfl⟩
      | false =>
        obtain ⟨cc, e, hs, hsat⟩ := octLatClose_strong hn hd h
        rw [← e]
        exact ⟨octLatCanon_of_strong hn hs, Set.ext fun x => (OctM.sat_iff_holds cc x).symm.trans (hsat x)⟩
    unfold octLatUpperBound
    rw [latExactUpO]
    cases e2 : octLatClose upId n c2 m2 with
    | none =>
      exact ⟨_, rfl, rfl, fun d h1 _ => h1⟩
    | some yc =>
      obtain ⟨y, cy⟩ := yc
      obtain ⟨cy', gy⟩ := closed c2 m2 y cy hd2 hc2 e2
      cases e1 : octLatClose upId n c1 m1 with
      | none =>
        refine ⟨_, rfl, rfl, fun d _ h2 => ?_⟩
        show γO n y ⊆ γO n d
        rw [gy]; exact h2
      | some xc =>
        obtain ⟨x, cx⟩ := xc
        obtain ⟨cx', gx⟩ := closed c1 m1 x cx hd1 hc1 e1
        exact ⟨_, rfl, rfl, fun d h1 h2 =>
          octLatUpperBoundLoop_least cx' cy' (by rw [gx]; exact h1) (by rw [gy]; exact h2)⟩

end PPLV.WR

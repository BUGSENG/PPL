import PPLV.WR.TransOct2ProofsImage
/-!
# `Octagonal_Shape<T>::refine(var, relsym, expr, denominator)` (private): soundness

Every point `x` of the (strongly closed) octagon with `x_var relsym expr(x)/den` stays in the refined octagon —
except in the branch of the open finding KF-C03-75/76 (`GREATER_OR_EQUAL`, general case, exactly one variable `u`
unbounded on the needed side, `expr.coefficient(u) == denominator`, `u > var`), where the code stores the cell of
`v + u <= sum` instead of `u - v <= sum` (`C03.oct_refine_var_sound_fails`).  `OctRefineOK` excludes it.
-/
namespace PPLV.WR
open ExtRat

/-- the repaired cell is modelled (`fx`), or the relation is not `≥`, or no variable after `var` has the
coefficient `den`: the branch of KF-C03-75 is not taken -/
def OctRefineOK (fx : Bool) (vid : Nat) (rel : RelSym) (e : Nat → Int) (den : Int) : Prop :=
  fx = true ∨ rel ≠ .ge ∨ ∀ u, vid < u → e u ≠ den

theorem octExprT_le_two (e : Nat → Int) (w : Nat) : exprT e w ≤ 2 := by
  unfold exprT; split_ifs <;> omega

theorem octScExpr_zero {e : Nat → Int} {den : Int} {p : Nat} (h : e p = 0) : scExpr e den p = 0 := by
  unfold scExpr; split <;> simp [h]

theorem octUnaryEq_refl (v : Nat) (m : Mat) : OUnaryEq v m m := fun _ _ => ⟨rfl, rfl⟩

theorem octUnaryEq_addDbm {v : Nat} (m : Mat) {i j : Nat} (k : ExtRat)
    (hij : i = 2 * v ∨ i = 2 * v + 1 ∨ j = 2 * v ∨ j = 2 * v + 1) : OUnaryEq v (addDbmConstraint m i j k) m := by
  intro u hu
  rw [addDbm_apply, addDbm_apply, if_neg (by omega), if_neg (by omega)]
  exact ⟨rfl, rfl⟩

/-! ## the general case, by relation symbol -/

def octRefGenEq (R : Rnd) (vid wid : Nat) (sc : Nat → Int) (scb mscb scd : Int) (m : Mat) : Mat × Bool :=
  let pn := loopUp (wid + 1) (fun i (pq : Acc × Acc) =>
      (octAccStep R m sc true i pq.1, octAccStep R m sc false i pq.2))
    (⟨R.up (scb : Rat), 0, 0⟩, ⟨R.up (mscb : Rat), 0, 0⟩)
  if pn.1.cnt > 1 ∧ pn.2.cnt > 1 then (m, true)
  else (octExploitLower R vid wid sc scd pn.2 (octExploitUpper R vid wid sc scd pn.1 m), false)

def octRefGenLe (R : Rnd) (vid wid : Nat) (e : Nat → Int) (den : Int) (sc : Nat → Int) (scb scd : Int) (m : Mat) :
    Mat × Bool :=
  let st := loopUp (wid + 1) (octAccStepG R m sc true) ⟨R.up (scb : Rat), 0, 0⟩
  let sum := if scd ≠ 1 then divRoundUpByPositive R st.sum scd else st.sum
  if st.cnt = 0 then
    let mf := octAddF (m, true) (2 * vid + 1) (2 * vid) (mulTwoUp R.up sum)
    (deduceVPmU R.up vid wid sc scd sum mf.1, mf.2)
  else if st.cnt = 1 then
    if e st.idx = den then
      if vid < st.idx then octAddF (m, true) (2 * st.idx) (2 * vid) sum
      else octAddF (m, true) (2 * vid + 1) (2 * st.idx + 1) sum
    else if e st.idx = - den then
      if vid < st.idx then octAddF (m, true) (2 * st.idx + 1) (2 * vid) sum
      else octAddF (m, true) (2 * vid + 1) (2 * st.idx) sum
    else (m, true)
  else (m, true)

def octRefGenGe (fx : Bool) (R : Rnd) (vid wid : Nat) (e : Nat → Int) (den : Int) (sc : Nat → Int) (mscb scd : Int)
    (m : Mat) : Mat × Bool :=
  let st := loopUp (wid + 1) (octAccStepG R m sc false) ⟨R.up (mscb : Rat), 0, 0⟩
  let sum := if scd ≠ 1 then divRoundUpByPositive R st.sum scd else st.sum
  if st.cnt = 0 then
    let mf := octAddF (m, true) (2 * vid) (2 * vid + 1) (mulTwoUp R.up sum)
    (deduceMinusVPmU R.up vid st.idx sc scd sum mf.1, mf.2)
  else if st.cnt = 1 then
    if e st.idx = den then
      if st.idx < vid then octAddF (m, true) (2 * vid) (2 * st.idx) sum
      else octAddF (m, true) (2 * st.idx + 1) (if fx then 2 * vid + 1 else 2 * vid) sum
    else if e st.idx = - den then
      if st.idx < vid then octAddF (m, true) (2 * vid) (2 * st.idx + 1) sum
      else octAddF (m, true) (2 * st.idx) (2 * vid + 1) sum
    else (m, true)
  else (m, true)

section
variable {R : Rnd} {n vid wid : Nat} {sc : Nat → Int} {scb mscb scd : Int} {m : Mat} {x : Nat → Rat}

theorem octRefGenEq_sound (hR : R.Sound) (hw : wid < n) (hc : CoeffExact R sc)
    (hm : (mscb : Rat) = -(scb : Rat)) (hd : 0 < scd) (hh : HalfFiniteOn R.up m)
    (hx : Holds (SO n) (OctM.oval x) m)
    (hval : x vid = (linEval sc x (wid + 1) + (scb : Rat)) / (scd : Rat)) :
    Holds (SO n) (OctM.oval x) (octRefGenEq R vid wid sc scb mscb scd m).1 := by
  unfold octRefGenEq
  dsimp only
  rw [loopUp_prod, octAccStep_false]
  have hpos := octAccLoop_inv hR hc _ (OAccInv.init hR m (wid + 1) sc (rfl : (scb : Rat) = scb)) _ le_rfl
  have hneg := octAccLoop_inv hR hc.neg _ (OAccInv.init hR m (wid + 1) (fun i => - sc i) hm.symm) _ le_rfl
  have hxs : Holds (SO n) (OctM.oval (upd x vid (x vid))) m := by rw [oupd_self]; exact hx
  split
  · exact hx
  · dsimp only
    have h1 := octExploitUpper_holds hR hh hw hd hx (le_of_eq hval) hxs (octUnaryEq_refl vid m) hpos
    have h2 := octExploitLower_holds hR hh hw hd hx (le_of_eq hval.symm) h1 (by
      intro u hu
      rw [octExploitUpper_frame _ _ _ _ _ _ _ _ _ (by omega) (by omega),
        octExploitUpper_frame _ _ _ _ _ _ _ _ _ (by omega) (by omega)]
      exact ⟨rfl, rfl⟩) hneg
    rw [oupd_self] at h2
    exact h2

theorem octRefGenLe_sound (hR : R.Sound) (hw : wid < n) {e : Nat → Int} {den : Int}
    (hc : CoeffExact R sc) (hd : 0 < scd)
    (hsc : ∀ i, (e i = den ↔ sc i = scd) ∧ (e i = - den ↔ sc i = - scd))
    (hh : HalfFiniteOn R.up m) (hx : Holds (SO n) (OctM.oval x) m)
    (hval : x vid ≤ (linEval sc x (wid + 1) + (scb : Rat)) / (scd : Rat)) :
    Holds (SO n) (OctM.oval x) (octRefGenLe R vid wid e den sc scb scd m).1 := by
  unfold octRefGenLe
  dsimp only
  have hst := octAccLoopG_inv hR hc _ (OAccInv.init hR m (wid + 1) sc (rfl : (scb : Rat) = scb)) _ le_rfl
  generalize loopUp (wid + 1) (octAccStepG R m sc true) ⟨R.up (scb : Rat), 0, 0⟩ = st at *
  by_cases h0 : st.cnt = 0
  · rw [if_pos h0]
    dsimp only
    rw [octAddF_fst]
    have := oupper_deduce (vid := vid) hR hh hw hd hx hval
      (m' := addDbmConstraint m (2 * vid + 1) (2 * vid)
        (mulTwoUp R.up (if scd ≠ 1 then divRoundUpByPositive R st.sum scd else st.sum))) ?_ ?_
      (hst.c0 h0) (hst.f0p h0) (hst.f0n h0) (fun _ h => fin_le_quot hR hd h)
    · rw [oupd_self] at this; exact this
    · rw [oupd_self]
      refine holds_addDbm hx (fun _ => ?_)
      rw [oval_even, oval_odd]
      exact octUpper_unary hR hw hx hval (hst.c0 h0) (fun _ h => fin_le_quot hR hd h)
    · exact octUnaryEq_addDbm m _ (Or.inr (Or.inl rfl))
  · rw [if_neg h0]
    by_cases h1 : st.cnt = 1
    · rw [if_pos h1]
      obtain ⟨hp, hm⟩ := octUpper_single hR hw hd hx hval hst h1
      by_cases hcp : e st.idx = den
      · have hvb := hp ((hsc _).1.1 hcp)
        rw [if_pos hcp]
        by_cases hlt : vid < st.idx
        · rw [if_pos hlt, octAddF_fst]
          refine holds_addDbm hx (fun _ => ?_)
          rw [octDiff_ee]; exact hvb
        · rw [if_neg hlt, octAddF_fst]
          refine holds_addDbm hx (fun _ => ?_)
          rw [octDiff_oo]; exact hvb
      · rw [if_neg hcp]
        by_cases hcm : e st.idx = - den
        · have hvb := hm ((hsc _).2.1 hcm)
          rw [if_pos hcm]
          by_cases hlt : vid < st.idx
          · rw [if_pos hlt, octAddF_fst]
            refine holds_addDbm hx (fun _ => ?_)
            rw [octSum_eo]; exact hvb
          · rw [if_neg hlt, octAddF_fst]
            refine holds_addDbm hx (fun _ => ?_)
            rw [octSum_oe]; exact hvb
        · rw [if_neg hcm]; exact hx
    · rw [if_neg h1]; exact hx

theorem octRefGenGe_sound (fx : Bool) (hR : R.Sound) (hw : wid < n) {e : Nat → Int} {den : Int}
    (hc : CoeffExact R sc) (hm : (mscb : Rat) = -(scb : Rat)) (hd : 0 < scd)
    (hsc : ∀ i, (e i = den ↔ sc i = scd) ∧ (e i = - den ↔ sc i = - scd)) (hsv : sc vid = 0)
    (hok : fx = true ∨ ∀ u, vid < u → e u ≠ den)
    (hh : HalfFiniteOn R.up m) (hx : Holds (SO n) (OctM.oval x) m)
    (hval : (linEval sc x (wid + 1) + (scb : Rat)) / (scd : Rat) ≤ x vid) :
    Holds (SO n) (OctM.oval x) (octRefGenGe fx R vid wid e den sc mscb scd m).1 := by
  unfold octRefGenGe
  dsimp only
  rw [octAccStepG_false]
  have hst := octAccLoopG_inv hR hc.neg _ (OAccInv.init hR m (wid + 1) (fun i => - sc i) hm.symm) _ le_rfl
  have hidx := octAccLoopG_idx0 R m (fun i => - sc i) true (R.up (mscb : Rat)) (wid + 1)
  generalize loopUp (wid + 1) (octAccStepG R m (fun j => - sc j) true) ⟨R.up (mscb : Rat), 0, 0⟩ = st at *
  by_cases h0 : st.cnt = 0
  · rw [if_pos h0]
    dsimp only
    rw [octAddF_fst, hidx h0]
    have := octLower_deduce0 (vid := vid) hR hh hw hd hx hval
      (m' := addDbmConstraint m (2 * vid) (2 * vid + 1)
        (mulTwoUp R.up (if scd ≠ 1 then divRoundUpByPositive R st.sum scd else st.sum))) ?_ ?_
      (hst.c0 h0) (hst.f0p h0) (hst.f0n h0) (fun _ h => fin_le_quot hR hd h)
    · rw [oupd_self] at this; exact this
    · rw [oupd_self]
      refine holds_addDbm hx (fun _ => ?_)
      rw [oval_even, oval_odd]
      exact octLower_unary hR hw hx hval (hst.c0 h0) (fun _ h => fin_le_quot hR hd h)
    · exact octUnaryEq_addDbm m _ (Or.inl rfl)
  · rw [if_neg h0]
    by_cases h1 : st.cnt = 1
    · rw [if_pos h1]
      obtain ⟨hp, hm⟩ := octLower_single hR hw hd hx hval hst h1
      by_cases hcp : e st.idx = den
      · have hvb := hp ((hsc _).1.1 hcp)
        rw [if_pos hcp]
        by_cases hlt : st.idx < vid
        · rw [if_pos hlt, octAddF_fst]
          refine holds_addDbm hx (fun _ => ?_)
          rw [octDiff_ee]; exact hvb
        · -- the cell of KF-C03-75: sound only when repaired; `st.idx = vid` is excluded by `sc vid = 0`
          have hpv : st.idx ≠ vid := by
            intro h; apply hst.n1 h1; rw [h, hsv, neg_zero]
          have hfx : fx = true := hok.resolve_right (fun h => h _ (by omega) hcp)
          rw [if_neg hlt, hfx, if_pos rfl, octAddF_fst]
          refine holds_addDbm hx (fun _ => ?_)
          rw [octDiff_oo]; exact hvb
      · rw [if_neg hcp]
        by_cases hcm : e st.idx = - den
        · have hvb := hm ((hsc _).2.1 hcm)
          rw [if_pos hcm]
          by_cases hlt : st.idx < vid
          · rw [if_pos hlt, octAddF_fst]
            refine holds_addDbm hx (fun _ => ?_)
            rw [octNeg_oe]; exact hvb
          · rw [if_neg hlt, octAddF_fst]
            refine holds_addDbm hx (fun _ => ?_)
            rw [octNeg_eo]; exact hvb
        · rw [if_neg hcm]; exact hx
    · rw [if_neg h1]; exact hx

end

/-! ## `refine(var, relsym, expr, den)` -/

/-- the case selector of `refine` (`Octagonal_Shape_templates.hh:4646`): `t == 1` is kept only for a coefficient `±denominator` -/
theorem octRefineT (e : Nat → Int) (w : Nat) (den : Int) :
    (if exprT e w = 1 ∧ e (w - 1) ≠ den ∧ e (w - 1) ≠ - den then 2 else exprT e w)
      = if exprT e w = 0 then 0 else if exprT e w = 1 ∧ (e (w - 1) = den ∨ e (w - 1) = - den) then 1 else 2 := by
  by_cases h1 : exprT e w = 1
  · by_cases hd : e (w - 1) = den <;> by_cases hm : e (w - 1) = - den <;> simp [h1, hd, hm]
  · have := octExprT_le_two e w
    by_cases h0 : exprT e w = 0
    · simp [h0]
    · simp only [h1, h0, false_and, if_false]; omega

theorem octRefineVarV_sound (fx : Bool) {R : Rnd} (hR : R.Sound) {n vid : Nat} {e : Nat → Int}
    (hc : CoeffExact R e) (hev : e vid = 0) {b den : Int} (hden : den ≠ 0) {m : Mat}
    (hh : HalfFiniteOn R.up m) {x : Nat → Rat} (hx : x ∈ γO n m) (rel : RelSym)
    (hok : OctRefineOK fx vid rel e den)
    (ht : rel.holds (x vid) ((linEval e x n + b) / den)) :
    x ∈ γO n (octRefineVarV fx R n vid rel e b den m).1 := by
  have hx' : Holds (SO n) (OctM.oval x) m := hx
  show Holds (SO n) (OctM.oval x) _
  have hdn := div_negden b den
  have ov0 : OctM.oval x (2 * vid) = x vid := oval_even x vid
  have ov1 : OctM.oval x (2 * vid + 1) = - x vid := oval_odd x vid
  unfold octRefineVarV
  dsimp only
  rw [octRefineT]
  by_cases h0 : exprT e (lastNonzero e n) = 0
  · -- `t == 0`
    have hval := linEval_t0 x h0
    rw [hval, zero_add] at ht
    rw [if_pos h0]
    simp only [↓reduceIte]
    cases rel with
    | eq =>
      have ht' : x vid = (b : Rat) / den := ht
      exact holds_octAddQF hR (holds_octAddQF hR hx' (by rw [ov0, ov1, two_mul_div]; linarith only [ht']))
        (by rw [ov0, ov1, two_mul_div_neg]; linarith only [ht'])
    | le =>
      have ht' : x vid ≤ (b : Rat) / den := ht
      exact holds_octAddQF hR hx' (by rw [ov0, ov1, two_mul_div]; linarith only [ht'])
    | ge =>
      have ht' : (b : Rat) / den ≤ x vid := ht
      exact holds_octAddQF hR hx' (by rw [ov0, ov1, two_mul_div_neg]; linarith only [ht'])
  · by_cases h1 : exprT e (lastNonzero e n) = 1 ∧
        (e (lastNonzero e n - 1) = den ∨ e (lastNonzero e n - 1) = - den)
    · -- `t == 1`, `expr == ±den*w + b`
      rw [if_neg h0, if_pos h1]
      simp only [↓reduceIte, show ¬ (1 : Nat) = 0 by omega]
      obtain ⟨hw0, hE⟩ := linEval_t1 x h1.1
      have hwn := lastNonzero_le e n
      rw [hE] at ht
      have ha := h1.2
      generalize lastNonzero e n = w at *
      obtain ⟨k, rfl⟩ : ∃ k, w = k + 1 := ⟨w - 1, by omega⟩
      simp only [Nat.add_sub_cancel] at *
      have hkv : k ≠ vid := by
        intro h; rw [h, hev] at ha; omega
      -- `U`/`L`: the bound on `±x_k` from above / below, as the difference the cell holds
      by_cases ha1 : e k = den
      · rw [special_val_pos hden ha1] at ht
        cases rel with
        | eq =>
          have ht' : x vid = x k + (b : Rat) / den := ht
          have U : x vid - x k ≤ (b : Rat) / den := octU_pos ht'.le
          have L : x k - x vid ≤ (b : Rat) / ((- den : Int) : Rat) := by rw [hdn]; exact octL_pos ht'.ge
          by_cases hlt : vid < k
          · simp only [if_pos ha1, if_pos hlt]
            exact holds_octAddQF hR (holds_octAddQF hR hx' ((octDiff_ee x vid k).trans_le U))
              ((octDiff_oo x k vid).trans_le L)
          · simp only [if_pos ha1, if_neg hlt]
            exact holds_octAddQF hR (holds_octAddQF hR hx' ((octDiff_oo x vid k).trans_le U))
              ((octDiff_ee x k vid).trans_le L)
        | le =>
          have U : x vid - x k ≤ (b : Rat) / den := octU_pos ht
          by_cases hlt : vid < k
          · simp only [if_pos ha1, if_pos hlt]
            exact holds_octAddQF hR hx' ((octDiff_ee x vid k).trans_le U)
          · simp only [if_pos ha1, if_neg hlt]
            exact holds_octAddQF hR hx' ((octDiff_oo x vid k).trans_le U)
        | ge =>
          have L : x k - x vid ≤ (b : Rat) / ((- den : Int) : Rat) := by rw [hdn]; exact octL_pos ht
          by_cases hlt : vid < k
          · simp only [if_pos ha1, if_pos hlt]
            exact holds_octAddQF hR hx' ((octDiff_oo x k vid).trans_le L)
          · simp only [if_pos ha1, if_neg hlt]
            exact holds_octAddQF hR hx' ((octDiff_ee x k vid).trans_le L)
      · have ha2 := ha.resolve_left ha1
        rw [special_val_neg hden ha2] at ht
        cases rel with
        | eq =>
          have ht' : x vid = - x k + (b : Rat) / den := ht
          have U : x vid + x k ≤ (b : Rat) / den := octU_neg ht'.le
          have L : - x vid - x k ≤ (b : Rat) / ((- den : Int) : Rat) := by rw [hdn]; exact octL_neg ht'.ge
          by_cases hlt : vid < k
          · simp only [if_neg ha1, if_pos hlt]
            exact holds_octAddQF hR (holds_octAddQF hR hx' ((octSum_eo x vid k).trans_le U))
              ((octNeg_oe x vid k).trans_le L)
          · simp only [if_neg ha1, if_neg hlt]
            exact holds_octAddQF hR (holds_octAddQF hR hx' ((octSum_oe x vid k).trans_le U))
              ((octNeg_eo x vid k).trans_le L)
        | le =>
          have U : x vid + x k ≤ (b : Rat) / den := octU_neg ht
          by_cases hlt : vid < k
          · simp only [if_neg ha1, if_pos ha2, if_pos hlt]
            exact holds_octAddQF hR hx' ((octSum_eo x vid k).trans_le U)
          · simp only [if_neg ha1, if_pos ha2, if_neg hlt]
            exact holds_octAddQF hR hx' ((octSum_oe x vid k).trans_le U)
        | ge =>
          have L : - x vid - x k ≤ (b : Rat) / ((- den : Int) : Rat) := by rw [hdn]; exact octL_neg ht
          by_cases hlt : vid < k
          · simp only [if_neg ha1, if_pos ha2, if_pos hlt]
            exact holds_octAddQF hR hx' ((octNeg_oe x vid k).trans_le L)
          · simp only [if_neg ha1, if_pos ha2, if_neg hlt]
            exact holds_octAddQF hR hx' ((octNeg_eo x vid k).trans_le L)
    · -- general case
      rw [if_neg h0, if_neg h1]
      simp only [show ¬ (2 : Nat) = 0 by omega, show ¬ (2 : Nat) = 1 by omega, ↓reduceIte]
      obtain ⟨hw, hval⟩ := octGeneral_value h0 x b den
      generalize lastNonzero e n - 1 = wid at *
      have hd := scDen_pos hden
      have hsc := octScTests (e := e) (den := den)
      have hsv : scExpr e den vid = 0 := octScExpr_zero hev
      rw [hval] at ht
      cases rel with
      | eq =>
        exact octRefGenEq_sound hR hw (hc.sc den) (minus_scb_cast b den) hd hh hx' ht
      | le =>
        exact octRefGenLe_sound hR hw (hc.sc den) hd hsc hh hx' ht
      | ge =>
        have hok' : fx = true ∨ ∀ u, vid < u → e u ≠ den := by
          rcases hok with h | h | h
          · exact Or.inl h
          · exact absurd rfl h
          · exact Or.inr h
        exact octRefGenGe_sound fx hR hw (hc.sc den) (minus_scb_cast b den) hd hsc hsv hok' hh hx' ht

end PPLV.WR

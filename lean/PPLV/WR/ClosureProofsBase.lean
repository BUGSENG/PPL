import PPLV.WR.Closure
import Mathlib.Tactic.Linarith
import Mathlib.Tactic.Ring
import Mathlib.Algebra.Order.Field.Rat
import Mathlib.Data.Set.Basic
/-!
# Closure kernels: order lemmas on `ExtRat`, the generic step invariant and the loop rules

`Holds S p m` : the potential `p` (value of every matrix index at a point) satisfies every entry of
`m` at the index pairs `S` (the stored ones).  `Pres S p m m'` : the step `m ↦ m'` keeps every such
potential and only lowers entries.  Every kernel is a loop nest whose body is `Pres`.
-/
namespace PPLV.WR
open ExtRat (fin pinf minA addUp subUp halfUp)

namespace ExtRat

@[simp] theorem le_pinf (a : ExtRat) : a ≤ pinf := by cases a <;> rfl
@[simp] theorem fin_le_fin {a b : Rat} : (fin a ≤ fin b) ↔ a ≤ b := by
  show leB (fin a) (fin b) = true ↔ _
  simp [leB]
@[simp] theorem not_pinf_le_fin (a : Rat) : ¬ (pinf ≤ fin a) := by
  show ¬ (leB pinf (fin a) = true)
  simp [leB]

theorem le_rfl' (a : ExtRat) : a ≤ a := by cases a <;> simp
theorem le_trans' {a b c : ExtRat} (h1 : a ≤ b) (h2 : b ≤ c) : a ≤ c := by
  cases a <;> cases b <;> cases c <;> simp_all
  exact le_trans h1 h2
theorem le_total' (a b : ExtRat) : a ≤ b ∨ b ≤ a := by
  cases a <;> cases b <;> simp
  exact le_total _ _

theorem minA_le_left (a b : ExtRat) : minA a b ≤ a := by
  unfold minA; split
  · exact le_rfl' a
  · rcases le_total' a b with h | h
    · contradiction
    · exact h
theorem minA_le_right (a b : ExtRat) : minA a b ≤ b := by
  unfold minA; split
  · assumption
  · exact le_rfl' b
theorem le_minA {c a b : ExtRat} (h1 : c ≤ a) (h2 : c ≤ b) : c ≤ minA a b := by
  unfold minA; split <;> assumption

theorem fin_le_of_le {a b : Rat} {e : ExtRat} (h : a ≤ b) (h' : fin b ≤ e) : fin a ≤ e :=
  le_trans' (fin_le_fin.2 h) h'

/-- an entry is below `q` as soon as its finite lower bounds are -/
theorem le_of_forall_fin_le {e q : ExtRat} (h : ∀ w, fin w ≤ e → fin w ≤ q) : e ≤ q := by
  cases q with
  | pinf => exact le_pinf _
  | fin u =>
    cases e with
    | fin w => exact h w (le_rfl' _)
    | pinf => exact absurd (fin_le_fin.1 (h (u + 1) (le_pinf _))) (not_le.2 (lt_add_one u))

theorem isPinf_iff (a : ExtRat) : a.isPinf = true ↔ a = pinf := by cases a <;> simp [isPinf]

theorem fin_le_addUp {up : Rat → ExtRat} (hup : ∀ x, fin x ≤ up x) {x y : Rat} {a b : ExtRat}
    (h1 : fin x ≤ a) (h2 : fin y ≤ b) : fin (x + y) ≤ addUp up a b := by
  cases a <;> cases b <;> simp [addUp] at *
  exact le_trans' (fin_le_fin.2 (add_le_add h1 h2)) (hup _)

theorem addUp_comm (up : Rat → ExtRat) (a b : ExtRat) : addUp up a b = addUp up b a := by
  cases a <;> cases b <;> simp only [addUp, add_comm]

theorem fin_le_halfUp {up : Rat → ExtRat} (hup : ∀ x, fin x ≤ up x) {x : Rat} {a : ExtRat}
    (h1 : fin x ≤ a) : fin (x / 2) ≤ halfUp up a := by
  cases a <;> simp [halfUp] at *
  exact le_trans' (fin_le_fin.2 (by linarith)) (hup _)

theorem isNeg_iff (a : ExtRat) : a.isNeg = true ↔ ∃ q, a = fin q ∧ q < 0 := by
  cases a <;> simp [isNeg]

theorem isAddInv_iff (a b : ExtRat) : isAddInv a b = true ↔ ∃ x y, a = fin x ∧ b = fin y ∧ x + y = 0 := by
  cases a <;> cases b <;> simp [isAddInv]

theorem isAddInv_comm (a b : ExtRat) : isAddInv a b = isAddInv b a := by
  cases a <;> cases b <;> simp [isAddInv, add_comm]

end ExtRat

open ExtRat

/-- case analysis on a conditional in argument position, without touching the branches -/
theorem ite_ind {α : Sort _} {P : α → Prop} (c : Prop) [Decidable c] {a b : α} (ha : c → P a) (hb : ¬ c → P b) :
    P (if c then a else b) := by
  split
  · exact ha ‹_›
  · exact hb ‹_›

/-! ## loops -/

theorem loopDown_rel {α : Type} (R : α → α → Prop) (hr : ∀ a, R a a)
    (ht : ∀ a b c, R a b → R b c → R a c) (n : Nat) (f : Nat → α → α)
    (hf : ∀ i, i < n → ∀ a, R a (f i a)) (a : α) : R a (loopDown n f a) := by
  induction n generalizing a with
  | zero => exact hr a
  | succ n ih =>
    simp only [loopDown]
    exact ht _ _ _ (hf n (Nat.lt_succ_self n) a) (ih (fun i hi => hf i (Nat.lt_succ_of_lt hi)) _)

theorem loopUp_rel {α : Type} (R : α → α → Prop) (hr : ∀ a, R a a)
    (ht : ∀ a b c, R a b → R b c → R a c) (n : Nat) (f : Nat → α → α)
    (hf : ∀ i, i < n → ∀ a, R a (f i a)) (a : α) : R a (loopUp n f a) := by
  induction n with
  | zero => exact hr a
  | succ n ih =>
    simp only [loopUp]
    exact ht _ _ _ (ih (fun i hi => hf i (Nat.lt_succ_of_lt hi))) (hf n (Nat.lt_succ_self n) _)

/-- a `for` loop whose body bumps a counter when `p i` -/
theorem loopUp_count_filter (k : Nat) (p : Nat → Bool) (init : Nat) :
    loopUp k (fun i a => if p i then a + 1 else a) init = init + ((List.range k).filter p).length := by
  induction k with
  | zero => simp [loopUp]
  | succ k ih =>
    simp only [loopUp, ih, List.range_succ, List.filter_append, List.length_append]
    by_cases h : p k
    · simp [h]; omega
    · simp [h]

/-! ## the step invariant -/

/-- the potential `p` satisfies every entry of `m` on the index pairs `S` -/
def Holds (S : Nat → Nat → Prop) (p : Nat → Rat) (m : Mat) : Prop :=
  ∀ a b, S a b → fin (p b - p a) ≤ m a b

/-- entrywise `≤` on raw matrices -/
def MLe (m' m : Mat) : Prop := ∀ a b, m' a b ≤ m a b

/-- the step `m ↦ m'` keeps every potential in `P` that satisfied `m` and only lowers entries -/
def Pres (S : Nat → Nat → Prop) (P : (Nat → Rat) → Prop) (m m' : Mat) : Prop :=
  (∀ p, P p → Holds S p m → Holds S p m') ∧ MLe m' m

namespace Pres
variable {S : Nat → Nat → Prop} {P : (Nat → Rat) → Prop}

theorem refl (m : Mat) : Pres S P m m := ⟨fun _ _ h => h, fun _ _ => le_rfl' _⟩
theorem trans {a b c : Mat} (h1 : Pres S P a b) (h2 : Pres S P b c) : Pres S P a c :=
  ⟨fun p hp h => h2.1 p hp (h1.1 p hp h), fun i j => le_trans' (h2.2 i j) (h1.2 i j)⟩

theorem ite {a x y : Mat} (c : Prop) [Decidable c] (hx : Pres S P a x) (hy : Pres S P a y) :
    Pres S P a (if c then x else y) := by split <;> assumption

/-- a guarded step `if c then m else y` -/
theorem iteSkip {a y : Mat} (c : Prop) [Decidable c] (hy : Pres S P a y) : Pres S P a (if c then a else y) :=
  ite c (refl a) hy

/-- `trans` with the later step first, so that the intermediate state is read off the goal -/
theorem after {a b c : Mat} (h2 : Pres S P b c) (h1 : Pres S P a b) : Pres S P a c := h1.trans h2

theorem loopDown (n : Nat) (f : Nat → Mat → Mat) (hf : ∀ i, i < n → ∀ a, Pres S P a (f i a)) (a : Mat) :
    Pres S P a (loopDown n f a) :=
  loopDown_rel (Pres S P) refl (fun _ _ _ => trans) n f hf a

theorem loopUp (n : Nat) (f : Nat → Mat → Mat) (hf : ∀ i, i < n → ∀ a, Pres S P a (f i a)) (a : Mat) :
    Pres S P a (loopUp n f a) :=
  loopUp_rel (Pres S P) refl (fun _ _ _ => trans) n f hf a

/-- storing at `(i,j)` a value below the old one that still bounds `p j - p i` -/
theorem set {m : Mat} {i j : Nat} {v : ExtRat} (hle : v ≤ m i j)
    (hb : ∀ p, P p → Holds S p m → S i j → fin (p j - p i) ≤ v) : Pres S P m (m.set i j v) := by
  constructor
  · intro p hp h a b hab
    simp only [Mat.set_apply]
    split
    · rename_i hc
      obtain ⟨rfl, rfl⟩ := hc
      exact hb p hp h hab
    · exact h a b hab
  · intro a b
    simp only [Mat.set_apply]
    split
    · rename_i hc
      obtain ⟨rfl, rfl⟩ := hc
      exact hle
    · exact le_rfl' _

end Pres

/-- `Pres` only for soundness at a point set `P`, forgetting the index domain: change of `P` -/
theorem Pres.mono {S : Nat → Nat → Prop} {P Q : (Nat → Rat) → Prop} (hPQ : ∀ p, Q p → P p) {m m' : Mat}
    (h : Pres S P m m') : Pres S Q m m' := ⟨fun p hp => h.1 p (hPQ p hp), h.2⟩

/-- filling diagonal cells with a non-negative value keeps every potential -/
theorem Holds.fill_diag {S : Nat → Nat → Prop} {p : Nat → Rat} {m D : Mat} {k : Nat} {v : ExtRat}
    (hD : ∀ a b, D a b = if a = b ∧ a < k then v else m a b) (hv : fin 0 ≤ v) (h : Holds S p m) : Holds S p D := by
  intro a b hab
  rw [hD]
  split
  · rename_i hc
    obtain ⟨rfl, _⟩ := hc
    rw [sub_self]; exact hv
  · exact h a b hab

/-- a decreasing kernel `F` run between "fill the diagonal with zeros" and "restore `+∞`" ends below a matrix
whose diagonal is `+∞` -/
theorem fill_restore_le {fill : ExtRat → Mat → Mat} {k : Nat}
    (hfill : ∀ v m a b, fill v m a b = if a = b ∧ a < k then v else m a b) {F : Mat → Mat}
    (hF : ∀ m i j, F m i j ≤ m i j) {m : Mat} (hd : ∀ i, i < k → m i i = pinf) (i j : Nat) :
    fill pinf (F (fill (fin 0) m)) i j ≤ m i j := by
  rw [hfill]
  split
  · rename_i hc
    obtain ⟨rfl, hi⟩ := hc
    rw [hd i hi]; exact ExtRat.le_rfl' _
  · rename_i hc
    have := hF (fill (fin 0) m) i j
    rwa [hfill, if_neg hc] at this

theorem Holds.negDiag_false {S : Nat → Nat → Prop} {p : Nat → Rat} {m : Mat} {k : Nat}
    (hS : ∀ h, h < k → S h h) (h : Holds S p m) : m.negDiag k = false := by
  cases hnd : m.negDiag k with
  | false => rfl
  | true =>
    exfalso
    simp only [Mat.negDiag, List.any_eq_true, List.mem_range] at hnd
    obtain ⟨i, hi, hneg⟩ := hnd
    obtain ⟨q, hq, hq0⟩ := (isNeg_iff _).1 hneg
    have := h i i (hS i hi)
    rw [hq, sub_self, fin_le_fin] at this
    linarith

/-! ## the roundings of the driver are admissible -/

theorem upId_sound : ∀ x, fin x ≤ upId x := fun _ => le_rfl' _

theorem upCeil_sound : ∀ x, fin x ≤ upCeil x := fun _ => fin_le_fin.2 Rat.le_ceil

theorem upCeilMax_sound (mx : Int) : ∀ x, fin x ≤ upCeilMax mx x := by
  intro x; unfold upCeilMax; split
  · exact fin_le_fin.2 Rat.le_ceil
  · exact le_pinf _

theorem upCeilRange_sound (lo hi : Int) : ∀ x, fin x ≤ upCeilRange lo hi x := by
  intro x; unfold upCeilRange; split
  · exact le_pinf _
  · split
    · rename_i h
      rw [fin_le_fin]
      have h1 : (x.ceil : Rat) < (lo : Rat) := by exact_mod_cast h
      exact le_of_lt (lt_of_le_of_lt Rat.le_ceil h1)
    · exact fin_le_fin.2 Rat.le_ceil

/-- `tight_closure_assign`'s `sub_assign_r(x, x, 1, ROUND_UP)` on an odd integer does not increase it
when the rounding is the integer ceiling -/
theorem upCeil_dec : ∀ q : Rat, (fin q).isOddInt = true → upCeil (q - 1) ≤ fin q := by
  intro q _
  unfold upCeil
  rw [fin_le_fin, Rat.ceil_sub_one]
  have := @Rat.ceil_lt q
  push_cast
  linarith

end PPLV.WR

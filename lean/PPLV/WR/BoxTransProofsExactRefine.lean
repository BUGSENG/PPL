import PPLV.WR.BoxTransProofsRefine
/-!
# `Box<ITV>::refine_with_constraint` is exact on interval constraints

Where the C++ documents exactness: a constraint with one variable, exact (rational) boundaries.
`refine_with_constraint(c)` then computes exactly `box ∩ {x | c(x)}`.  For a strict constraint the
policy must store openness (`Rational_Box`); for the non-strict ones any policy with exact
rounding will do.
-/
namespace PPLV.WR.BoxT
open PPLV.Interval
open PPLV.Interval.ExtRat (ninf fin pinf)

/-! ### the scalar against the bounds of the universe interval -/

theorem upper_pinf_lt_scalar (p : Policy) (o : Bool) (q : Rat) :
    lt p .upper ⟨pinf, o⟩ Policy.scalar .upper ⟨fin q, false⟩ = false := by
  obtain ⟨ss, so, mci, ci, mbe⟩ := p
  cases ss <;> cases so <;> cases mci <;> cases o <;>
    simp [lt, isOpen, getOpen, isBoundaryInfinity, getSpecial, normalIsBoundaryInfinity, isMinusInfinity,
      isPlusInfinity, isReverseInfinity, Policy.scalar]

theorem scalar_lt_upper_pinf (p : Policy) (o : Bool) (q : Rat) :
    lt Policy.scalar .upper ⟨fin q, false⟩ p .upper ⟨pinf, o⟩ = true := by
  obtain ⟨ss, so, mci, ci, mbe⟩ := p
  cases ss <;> cases so <;> cases mci <;> cases o <;>
    simp [lt, isOpen, getOpen, isBoundaryInfinity, getSpecial, normalIsBoundaryInfinity, isMinusInfinity,
      isPlusInfinity, isReverseInfinity, Policy.scalar]

theorem scalar_lt_lower_ninf (p : Policy) (o : Bool) (q : Rat) :
    lt Policy.scalar .lower ⟨fin q, false⟩ p .lower ⟨ninf, o⟩ = false := by
  obtain ⟨ss, so, mci, ci, mbe⟩ := p
  cases ss <;> cases so <;> cases mci <;> cases o <;>
    simp [lt, isOpen, getOpen, isBoundaryInfinity, getSpecial, normalIsBoundaryInfinity, isMinusInfinity,
      isPlusInfinity, isReverseInfinity, Policy.scalar]

theorem lower_ninf_lt_scalar (p : Policy) (o : Bool) (q : Rat) :
    lt p .lower ⟨ninf, o⟩ Policy.scalar .lower ⟨fin q, false⟩ = true := by
  obtain ⟨ss, so, mci, ci, mbe⟩ := p
  cases ss <;> cases so <;> cases mci <;> cases o <;>
    simp [lt, isOpen, getOpen, isBoundaryInfinity, getSpecial, normalIsBoundaryInfinity, isMinusInfinity,
      isPlusInfinity, isReverseInfinity, Policy.scalar]

/-- `assign` of the scalar with exact rounding stores the scalar -/
theorem er_bAssign_scalar (p : Policy) (t : BT) (q : Rat) (s : Bool) :
    bAssign p Rounding.id t Policy.scalar t ⟨fin q, false⟩ s = ⟨fin q, p.storeOpen && s⟩ := by
  cases t <;> simp [bAssign, getSpecial, Policy.scalar, adjust_id, normalIsOpen]

/-- `build(i_constraint(rel, q))` with exact rounding is exactly the half-line / the point -/
theorem er_buildC_id_iff {p : Policy} {rel : Rel} {q a : Rat} (hne : rel ≠ .ne)
    (hso : p.storeOpen = true ∨ (rel ≠ .lt ∧ rel ≠ .gt)) :
    (buildC p Rounding.id rel q).mem p a ↔ Rel.holds rel a q := by
  cases rel <;>
    simp only [buildC, refineExistentialScalar, Iv.universe, setUnbounded, infOf, gt, le, ge, bMax1, bMin1,
      upper_pinf_lt_scalar, scalar_lt_upper_pinf, scalar_lt_lower_ninf, lower_ninf_lt_scalar, er_bAssign_scalar, Bool.not_true, Bool.false_eq_true,
      if_false, if_true, Iv.mem, lowerOk, upperOk, getOpen_mk, Rel.holds, lowerOkV_ninf, upperOkV_pinf,
      true_and, and_true, Bool.and_true, Bool.and_false, Bool.and_self, lowerOkV_fin_closed, upperOkV_fin_closed]
  · exact ⟨fun h => le_antisymm h.2 h.1, fun h => ⟨h.ge, h.le⟩⟩
  · rcases hso with h | h
    · rw [h]; simp
    · exact absurd rfl h.1
  · rcases hso with h | h
    · rw [h]; simp
    · exact absurd rfl h.2
  · exact absurd rfl hne

/-- membership in a box where one interval has been replaced -/
theorem er_mem_setIv_iff {p : Policy} {b : Box} {x : Nat → Rat} {v : Nat} {I : Iv} (hv : v < b.seq.length) :
    ((b.setIv v I).resetEmptyUpToDate).mem p x ↔
      I.mem p (x v) ∧ ∀ k, k < b.seq.length → k ≠ v → (b.get k).mem p (x k) := by
  have hg : ∀ k, (b.setIv v I).resetEmptyUpToDate.get k = (b.setIv v I).get k := fun k => rfl
  have hl : (b.setIv v I).resetEmptyUpToDate.seq.length = b.seq.length := by
    simp [Box.resetEmptyUpToDate]
  constructor
  · rintro ⟨_, h⟩
    refine ⟨?_, fun k hk hkv => ?_⟩
    · have := h v (by rw [hl]; exact hv)
      rwa [hg, Box.get_setIv_same b I hv] at this
    · have := h k (by rw [hl]; exact hk)
      rwa [hg, Box.get_setIv_other b I hkv] at this
  · rintro ⟨h1, h2⟩
    refine ⟨by simp [Box.resetEmptyUpToDate, Box.markedEmpty], fun k hk => ?_⟩
    rw [hl] at hk
    rw [hg]
    by_cases hkv : k = v
    · subst hkv; rw [Box.get_setIv_same b I hk]; exact h1
    · rw [Box.get_setIv_other b I hkv]; exact h2 k hk hkv

theorem er_mem_split {p : Policy} {b : Box} {x : Nat → Rat} {v : Nat} (hv : v < b.seq.length)
    (hm : b.markedEmpty = false) :
    b.mem p x ↔ (b.get v).mem p (x v) ∧ ∀ k, k < b.seq.length → k ≠ v → (b.get k).mem p (x k) := by
  constructor
  · rintro ⟨_, h⟩
    exact ⟨h v hv, fun k hk _ => h k hk⟩
  · rintro ⟨h1, h2⟩
    refine ⟨hm, fun k hk => ?_⟩
    by_cases hkv : k = v
    · subst hkv; exact h1
    · exact h2 k hk hkv

/-- `refine_with_constraint(c)` for an interval constraint, with exact boundaries, is exactly the
meet of the box with the solutions of `c` -/
theorem refine_interval_exact {cfg : Cfg} {b : Box} {c : Con} {v : Nat} (hR : cfg.R = Rounding.id)
    (hso : cfg.p.storeOpen = true ∨ c.ty ≠ .gt) (hiv : extractIntervalConstraint c = some (some v))
    (hv : v < b.dim) (hm : b.markedEmpty = false) (x : Nat → Rat) :
    (refineWithConstraint cfg b c).mem cfg.p x ↔ (b.mem cfg.p x ∧ c.holds x) := by
  obtain ⟨a, ht⟩ := extract_some_some hiv
  have hmem : (v, a) ∈ c.e.terms := by rw [ht]; simp
  obtain ⟨ha, hcv, _⟩ := LinExpr.mem_terms hmem
  have he := LinExpr.terms_singleton ht x
  unfold refineWithConstraint refineNoCheck
  rw [hm, hiv]
  simp only [Bool.false_eq_true, if_false]
  rw [hcv]
  have hunf : addIntervalConstraintNoCheck cfg b v c.ty c.e.inhom a =
      (b.setIv v (addConstraintIv cfg.p cfg.R (b.get v) (ivRel c.ty a)
        (-((c.e.inhom : Rat) / (a : Rat))))).resetEmptyUpToDate := rfl
  rw [hunf, er_mem_setIv_iff hv, er_mem_split hv hm, hR]
  unfold addConstraintIv
  rw [intersectAssign_exact, er_buildC_id_iff (ivRel_ne _ _)
    (by rcases hso with h | h
        · exact Or.inl h
        · exact Or.inr (ivRel_strict a h)),
    ivRel_iff c.ty (x v) ha]
  have hc : c.holds x ↔ ivConHolds c.ty c.e.inhom a (x v) := by
    unfold Con.holds ivConHolds
    rw [he]
    cases c.ty <;> exact Iff.rfl
  rw [hc]
  exact and_right_comm

/-! ## non-vacuity -/

/-- `2·x₁ − 3 > 0` on the universe of `Rational_Box` -/
example (x : Nat → Rat) :
    (refineWithConstraint Cfg.mpq (Box.univ Policy.rational 2) ⟨⟨[0, 2], -3⟩, .gt⟩).mem Policy.rational x ↔
      ((Box.univ Policy.rational 2).mem Policy.rational x ∧ (⟨⟨[0, 2], -3⟩, .gt⟩ : Con).holds x) :=
  refine_interval_exact (cfg := Cfg.mpq) (v := 1) rfl (Or.inl rfl) (by decide) (by decide) (by decide) x

/-- a non-strict constraint on `Z_Box`-shaped policy with exact boundaries -/
example (x : Nat → Rat) :
    (refineWithConstraint ⟨Policy.integer, Rounding.id, Rounding.id, false⟩ (Box.univ Policy.integer 1)
      ⟨⟨[-1], 4⟩, .ge⟩).mem Policy.integer x ↔
      ((Box.univ Policy.integer 1).mem Policy.integer x ∧ (⟨⟨[-1], 4⟩, .ge⟩ : Con).holds x) :=
  refine_interval_exact (cfg := ⟨Policy.integer, Rounding.id, Rounding.id, false⟩) (v := 0) rfl
    (Or.inr (by decide)) (by decide) (by decide) (by decide) x

end PPLV.WR.BoxT

import PPLV.WR.ReduceProofsMathDim
/-!
# Reduction of a closed difference-bound matrix, pure mathematics (5): genuine irredundancy

A kept entry `(i, j)` between two leaders cannot be dropped: some point violates it and satisfies every other
kept entry.  The point is taken on the closed matrix `bumped` that relaxes by a small `ε > 0` exactly the
entries from the class of `i` to the class of `j` (`ε` below the gap of every other leader `k`:
`c i j + ε ≤ c i k + c k j`), where the bound `c i j + ε` is attained.
-/
namespace PPLV.WR
open ExtRat (fin pinf)

variable {n : Nat}

/-- the entries from the class of `i` to the class of `j` relaxed by `ε` -/
def bumped (m : Mat) (lead : Nat → Nat) (i j : Nat) (ε : Rat) : Mat :=
  { f := fun a b => if lead a = i ∧ lead b = j then eadd (m a b) (fin ε) else m a b }

theorem bumped_apply (m : Mat) (lead : Nat → Nat) (i j : Nat) (ε : Rat) (a b : Nat) :
    bumped m lead i j ε a b = if lead a = i ∧ lead b = j then eadd (m a b) (fin ε) else m a b := rfl

theorem le_eadd_fin {a : ExtRat} {ε : Rat} (h : 0 ≤ ε) : a ≤ eadd a (fin ε) := by
  cases a <;> simp [eadd, ExtRat.addUp]
  exact h

theorem le_bumped (m : Mat) (lead : Nat → Nat) (i j : Nat) {ε : Rat} (h : 0 ≤ ε) (a b : Nat) :
    m a b ≤ bumped m lead i j ε a b := by
  rw [bumped_apply]
  split
  · exact le_eadd_fin h
  · exact ExtRat.le_rfl' _

/-- the gap of leader `k` (`1` when the sum is infinite) -/
def gapAt (m : Mat) (i j : Nat) (q : Rat) (k : Nat) : Rat :=
  match eadd (m i k) (m k j) with
  | fin s => if q < s then s - q else 1
  | pinf => 1

theorem gapAt_pos (m : Mat) (i j : Nat) (q : Rat) (k : Nat) : 0 < gapAt m i j q k := by
  unfold gapAt
  split
  · split
    · linarith
    · norm_num
  · norm_num

theorem le_of_gapAt {m : Mat} {i j : Nat} {q ε : Rat} {k : Nat} (h1 : ε ≤ gapAt m i j q k)
    (h2 : ¬ (eadd (m i k) (m k j) ≤ fin q)) : eadd (fin q) (fin ε) ≤ eadd (m i k) (m k j) := by
  unfold gapAt at h1
  cases hs : eadd (m i k) (m k j) with
  | pinf => exact ExtRat.le_pinf _
  | fin s =>
    rw [hs] at h1 h2
    rw [ExtRat.fin_le_fin, not_le] at h2
    simp only [if_pos h2] at h1
    simp only [eadd, ExtRat.addUp, ExtRat.fin_le_fin]
    linarith

section
variable (c : DBM n) (hc : c.IsClosed) (lead : Nat → Nat) (hl : IsLeaderMap n c.e lead)
include hc hl

/-- the triangle through an index of a third class -/
theorem gap_tri {i j k a b m : Nat} (ha : a ≤ n) (hb : b ≤ n) (hm : m ≤ n)
    (hla : lead a = i) (hlb : lead b = j) (hlm : lead m = k) {q ε : Rat}
    (hq : c.z i j = fin q) (hε : eadd (fin q) (fin ε) ≤ eadd (c.z i k) (c.z k j)) :
    eadd (c.z a b) (fin ε) ≤ eadd (c.z a m) (c.z m b) := by
  have hi : i ≤ n := hla ▸ lead_le_n c lead hl ha
  have hj : j ≤ n := hlb ▸ lead_le_n c lead hl hb
  have hk : k ≤ n := hlm ▸ lead_le_n c lead hl hm
  have zai : ZEq c.e a i := hla ▸ (hl.zeq a ha).symm
  have zjb : ZEq c.e j b := hlb ▸ hl.zeq b hb
  have zkm : ZEq c.e k m := hlm ▸ hl.zeq m hm
  obtain ⟨α, e1, _⟩ := c.zeq_fin ha zai
  obtain ⟨β, e2, _⟩ := c.zeq_fin hj zjb
  obtain ⟨μ, e3, e4⟩ := c.zeq_fin hk zkm
  rw [c.shift_row hc ha hi hb zai, c.shift_col hc hi hb hj zjb,
    c.shift_row hc ha hi hm zai, c.shift_col hc hi hm hk zkm,
    c.shift_row hc hm hk hb zkm.symm, c.shift_col hc hk hb hj zjb, hq, e1, e2, e3, e4]
  cases hX : c.z i k <;> cases hY : c.z k j <;> rw [hX, hY] at hε <;>
    simp [eadd, ExtRat.addUp] at hε ⊢
  linarith

theorem bumped_closed {i j : Nat} (hij : i ≠ j) {q ε : Rat} (hε0 : 0 ≤ ε)
    (hq : c.z i j = fin q)
    (hε : ∀ k, k ≤ n → lead k = k → k ≠ i → k ≠ j → eadd (fin q) (fin ε) ≤ eadd (c.z i k) (c.z k j)) :
    Closed (n+1) (bumped c.z lead i j ε) := by
  constructor
  · intro a ha
    rw [bumped_apply, if_neg (by rintro ⟨h1, h2⟩; exact hij (h1.symm.trans h2))]
    exact c.z_self (by omega)
  · intro a b m ha hb hm
    have ha' : a ≤ n := by omega
    have hb' : b ≤ n := by omega
    have hm' : m ≤ n := by omega
    by_cases hab : lead a = i ∧ lead b = j
    · rw [bumped_apply c.z lead i j ε a b, if_pos hab]
      by_cases hmi : lead m = i
      · rw [bumped_apply c.z lead i j ε a m, if_neg (by rintro ⟨_, h2⟩; exact hij (hmi.symm.trans h2)),
          bumped_apply c.z lead i j ε m b, if_pos ⟨hmi, hab.2⟩, ← eadd_assoc]
        exact eadd_mono (hc.tri m ha' hb' hm') (ExtRat.le_rfl' _)
      by_cases hmj : lead m = j
      · rw [bumped_apply c.z lead i j ε a m, if_pos ⟨hab.1, hmj⟩,
          bumped_apply c.z lead i j ε m b, if_neg (by rintro ⟨h1, _⟩; exact hmi h1),
          eadd_assoc, eadd_comm (fin ε), ← eadd_assoc]
        exact eadd_mono (hc.tri m ha' hb' hm') (ExtRat.le_rfl' _)
      · rw [bumped_apply c.z lead i j ε a m, if_neg (by rintro ⟨_, h2⟩; exact hmj h2),
          bumped_apply c.z lead i j ε m b, if_neg (by rintro ⟨h1, _⟩; exact hmi h1)]
        exact gap_tri c hc lead hl ha' hb' hm' hab.1 hab.2 rfl hq
          (hε (lead m) (lead_le_n c lead hl hm') (hl.lead_lead hc _ hm') hmi hmj)
    · rw [bumped_apply c.z lead i j ε a b, if_neg hab]
      exact ExtRat.le_trans' (hc.tri m ha' hb' hm')
        (eadd_mono (le_bumped c.z lead i j hε0 a m) (le_bumped c.z lead i j hε0 m b))

end

section
variable (c : DBM n) (hc : c.IsClosed) (lead pred : Nat → Nat) (hl : IsLeaderMap n c.e lead)
  (hp : IsPredMap n c.e pred) (red : BMat) (hr : IsReduction n c.e lead pred red)

include hc hl hp hr in
/-- a kept entry between two leaders is irredundant — without it the set of points grows -/
theorem bds_reduced_irredundant_strong (i j : Nat) (hi : i ≤ n) (hj : j ≤ n) (h : red i j = false)
    (hli : lead i = i) (hlj : lead j = j) :
    ∃ x, x ∉ DBM.γ c ∧ ∀ a b, a ≤ n → b ≤ n → ¬ (a = i ∧ b = j) →
      fin (DBM.val x b - DBM.val x a) ≤ (c.reduced red).e a b := by
  obtain ⟨hij, ⟨q, hq⟩, hA⟩ := bds_reduced_irredundant c hc lead pred hl hp red hr i j hi hj h hli hlj
  have hqz : c.z i j = fin q := by rw [c.z_ne hij]; exact hq
  obtain ⟨ε, hε0, hεle⟩ := exists_pos_le_all (List.range (n+1)) (gapAt c.z i j q)
    (fun k _ => gapAt_pos _ _ _ _ _)
  have hε : ∀ k, k ≤ n → lead k = k → k ≠ i → k ≠ j →
      eadd (fin q) (fin ε) ≤ eadd (c.z i k) (c.z k j) := by
    intro k hk hlk hki hkj
    apply le_of_gapAt (hεle k (List.mem_range.2 (by omega)))
    rw [c.z_ne (Ne.symm hki), c.z_ne hkj, ← hq]
    exact hA k hk hlk hki hkj
  have hD := bumped_closed c hc lead hl hij (le_of_lt hε0) hqz hε
  have hDij : bumped c.z lead i j ε i j = fin (q + ε) := by
    rw [bumped_apply, if_pos ⟨hli, hlj⟩, hqz]
    rfl
  obtain ⟨p, hp', hd⟩ := hD.tight_fin (a := i) (b := j) (by omega) (by omega) hij hDij
  have hv : ∀ a, DBM.val (fun k => p (k+1) - p 0) a = p a - p 0 := by
    intro a; cases a <;> simp [DBM.val]
  refine ⟨fun k => p (k+1) - p 0, ?_, ?_⟩
  · intro hx
    have := hx i j hi hj
    rw [hv, hv, hq, ExtRat.fin_le_fin] at this
    linarith
  · intro a b ha hb hab
    rw [hv, hv]
    have e : p b - p 0 - (p a - p 0) = p b - p a := by ring
    have e' : (c.reduced red).e a b = if red a b then pinf else c.e a b := rfl
    rw [e, e']
    cases hk : red a b with
    | true => exact ExtRat.le_pinf _
    | false =>
      simp only [Bool.false_eq_true, if_false]
      by_cases hne : a = b
      · rw [hne, c.diag b hb]; exact ExtRat.le_pinf _
      · have h1 := hp' a b ⟨by omega, by omega⟩
        have hnot : ¬ (lead a = i ∧ lead b = j) := by
          rintro ⟨h2, h3⟩
          by_cases hz : ZEq c.e a b
          · exact hij (h2.symm.trans (((hl.eq_iff hc _ _ ha hb).2 hz).trans h3))
          · obtain ⟨h4, h5⟩ := bds_reduced_cross_class c hc lead pred hl hp red hr a b ha hb hk hz
            exact hab ⟨h4.symm.trans h2, h5.symm.trans h3⟩
        rw [bumped_apply, if_neg hnot, c.z_ne hne] at h1
        exact h1

end
end PPLV.WR

import PPLV.WR.TransOct2LatProofsExpand
import PPLV.WR.Trans2LatProofsFold
/-!
# Lattice / dimension operations of `Octagonal_Shape<T>`: fold_space_dimensions (soundness)

Every `max_assign` only raises an entry, so whatever one step establishes below a cell of `dest` survives; the cells
raised are listed by the form of the `max_assign` (`octLatFoldBounds`).  Each kept cell of the result then dominates a
stored cell of the closed matrix that bounds the same difference after the substitution `dest := w`.
-/
namespace PPLV.WR
open ExtRat

theorem latMaxAt_infl (m : Mat) (a b c d : Nat) : MLe m (latMaxAt m a b c d) := latMLe_setMax m a b _

theorem latMaxAt_ge (m : Mat) (a b c d : Nat) : m c d ≤ latMaxAt m a b c d a b := by
  unfold latMaxAt
  simp only [Mat.set_apply, and_self, if_true]
  exact latMaxA_ge_right _ _

/-- a `max_assign` keeps the lower bounds of every entry -/
theorem latMaxAt_keep {v : ExtRat} {S : Mat} {i j a b c d : Nat} (h : v ≤ S i j) : v ≤ latMaxAt S a b c d i j :=
  le_trans' h (latMaxAt_infl S a b c d i j)

/-- a `max_assign` gives its target the lower bounds of its source -/
theorem latMaxAt_hit {v : ExtRat} {S : Mat} {a b c d : Nat} (h : v ≤ S c d) : v ≤ latMaxAt S a b c d a b :=
  le_trans' h (latMaxAt_ge S a b c d)

theorem latMaxAt4_infl (m : Mat) (a1 b1 c1 d1 a2 b2 c2 d2 a3 b3 c3 d3 a4 b4 c4 d4 : Nat) :
    MLe m (latMaxAt (latMaxAt (latMaxAt (latMaxAt m a1 b1 c1 d1) a2 b2 c2 d2) a3 b3 c3 d3) a4 b4 c4 d4) :=
  fun _ _ => latMaxAt_keep (latMaxAt_keep (latMaxAt_keep (latMaxAt_keep (le_rfl' _))))

/-! ## the pieces of `octLatFoldOne` -/

def octLatFoldL1 (nd tv : Nat) (m : Mat) : Mat :=
  loopUp (min nd tv) (fun j m =>
    let cj := cidx j
    let m := latMaxAt m nd j tv j
    let m := latMaxAt m (nd + 1) j (tv + 1) j
    let m := latMaxAt m (nd + 1) cj (tv + 1) cj
    latMaxAt m nd cj tv cj) m

def octLatFoldL2 (nd tv : Nat) (m : Mat) : Mat :=
  loopUp (max nd tv - (min nd tv + 2)) (fun s m =>
    let j := min nd tv + 2 + s
    let cj := cidx j
    if nd = min nd tv then
      let m := latMaxAt m cj (nd + 1) tv j
      let m := latMaxAt m cj nd (tv + 1) j
      let m := latMaxAt m j nd (tv + 1) cj
      latMaxAt m j (nd + 1) tv cj
    else
      let m := latMaxAt m nd j cj (tv + 1)
      let m := latMaxAt m (nd + 1) j cj tv
      let m := latMaxAt m (nd + 1) cj j tv
      latMaxAt m nd cj j (tv + 1)) m

def octLatFoldL3 (n nd tv : Nat) (m : Mat) : Mat :=
  loopUp (2 * n - (max nd tv + 2)) (fun s m =>
    let j := max nd tv + 2 + s
    let cj := cidx j
    let m := latMaxAt m cj (nd + 1) cj (tv + 1)
    let m := latMaxAt m cj nd cj tv
    let m := latMaxAt m j nd j tv
    latMaxAt m j (nd + 1) j (tv + 1)) m

theorem octLatFoldOne_eq (n dest w : Nat) (m : Mat) :
    octLatFoldOne n dest w m
      = octLatFoldL3 n (2 * dest) (2 * w) (octLatFoldL2 (2 * dest) (2 * w) (octLatFoldL1 (2 * dest) (2 * w)
          (latMaxAt (latMaxAt m (2 * dest) (2 * dest + 1) (2 * w) (2 * w + 1)) (2 * dest + 1) (2 * dest)
            (2 * w + 1) (2 * w)))) := rfl

theorem octLatFoldL1_infl (nd tv : Nat) (m : Mat) : MLe m (octLatFoldL1 nd tv m) :=
  latLoopUp_infl (fun _ m => latMaxAt4_infl m _ _ _ _ _ _ _ _ _ _ _ _ _ _ _ _) m

theorem octLatFoldL2_infl (nd tv : Nat) (m : Mat) : MLe m (octLatFoldL2 nd tv m) := by
  refine latLoopUp_infl (fun j m => ?_) m
  dsimp only
  split
  · exact latMaxAt4_infl m _ _ _ _ _ _ _ _ _ _ _ _ _ _ _ _
  · exact latMaxAt4_infl m _ _ _ _ _ _ _ _ _ _ _ _ _ _ _ _

theorem octLatFoldL3_infl (n nd tv : Nat) (m : Mat) : MLe m (octLatFoldL3 n nd tv m) :=
  latLoopUp_infl (fun _ m => latMaxAt4_infl m _ _ _ _ _ _ _ _ _ _ _ _ _ _ _ _) m

theorem octLatFoldOne_infl (n dest w : Nat) (m : Mat) : MLe m (octLatFoldOne n dest w m) := by
  rw [octLatFoldOne_eq]
  exact latMLe_trans (latMaxAt_infl _ _ _ _ _) (latMLe_trans (latMaxAt_infl _ _ _ _ _)
    (latMLe_trans (octLatFoldL1_infl _ _ _) (latMLe_trans (octLatFoldL2_infl _ _ _) (octLatFoldL3_infl _ _ _ _))))

/-! The cells that the three loops raise, in the forms of the `max_assign`s: `s` is the sign of the row or column of
`dest`, `x` an index of another variable. -/

theorem octLatFoldL1_ge {nd tv : Nat} {m0 S : Mat} (hS : MLe m0 S) {s x : Nat} (hs : s < 2) (hx : x < min nd tv) :
    m0 (tv + s) x ≤ octLatFoldL1 nd tv S (nd + s) x := by
  unfold octLatFoldL1
  refine latLoopUp_raise (fun j m => latMaxAt4_infl m _ _ _ _ _ _ _ _ _ _ _ _ _ _ _ _) hS hx (fun S hS => ?_)
  rcases (by omega : s = 0 ∨ s = 1) with rfl | rfl
  · exact latMaxAt_keep (latMaxAt_keep (latMaxAt_keep (latMaxAt_hit (hS _ _))))
  · exact latMaxAt_keep (latMaxAt_keep (latMaxAt_hit (latMaxAt_keep (hS _ _))))

theorem octLatFoldL2_ge_hl {nd tv : Nat} {m0 S : Mat} (hS : MLe m0 S) {s s' x : Nat} (hs : s + s' = 1)
    (h1 : nd + 2 ≤ x) (h2 : x < tv) : m0 (tv + s') x ≤ octLatFoldL2 nd tv S (cidx x) (nd + s) := by
  unfold octLatFoldL2
  obtain ⟨k, rfl⟩ : ∃ k, x = nd + 2 + k := ⟨x - (nd + 2), by omega⟩
  rw [show min nd tv = nd by omega, show max nd tv = tv by omega]
  refine latLoopUp_raise (fun j m => ?_) hS (by omega : k < tv - (nd + 2)) (fun S hS => ?_)
  · dsimp only
    rw [if_pos rfl]
    exact latMaxAt4_infl m _ _ _ _ _ _ _ _ _ _ _ _ _ _ _ _
  · dsimp only
    rw [if_pos rfl]
    rcases (by omega : (s = 0 ∧ s' = 1) ∨ (s = 1 ∧ s' = 0)) with ⟨rfl, rfl⟩ | ⟨rfl, rfl⟩
    · exact latMaxAt_keep (latMaxAt_keep (latMaxAt_hit (latMaxAt_keep (hS _ _))))
    · exact latMaxAt_keep (latMaxAt_keep (latMaxAt_keep (latMaxAt_hit (hS _ _))))

theorem octLatFoldL2_ge_lh {nd tv : Nat} {m0 S : Mat} (hS : MLe m0 S) {s s' x : Nat} (hs : s + s' = 1)
    (h1 : tv + 2 ≤ x) (h2 : x < nd) : m0 (cidx x) (tv + s') ≤ octLatFoldL2 nd tv S (nd + s) x := by
  unfold octLatFoldL2
  obtain ⟨k, rfl⟩ : ∃ k, x = tv + 2 + k := ⟨x - (tv + 2), by omega⟩
  rw [show min nd tv = tv by omega, show max nd tv = nd by omega]
  refine latLoopUp_raise (fun j m => ?_) hS (by omega : k < nd - (tv + 2)) (fun S hS => ?_)
  · dsimp only
    rw [if_neg (by omega)]
    exact latMaxAt4_infl m _ _ _ _ _ _ _ _ _ _ _ _ _ _ _ _
  · dsimp only
    rw [if_neg (by omega)]
    rcases (by omega : (s = 0 ∧ s' = 1) ∨ (s = 1 ∧ s' = 0)) with ⟨rfl, rfl⟩ | ⟨rfl, rfl⟩
    · exact latMaxAt_keep (latMaxAt_keep (latMaxAt_keep (latMaxAt_hit (hS _ _))))
    · exact latMaxAt_keep (latMaxAt_keep (latMaxAt_hit (latMaxAt_keep (hS _ _))))

theorem octLatFoldL3_ge {n nd tv : Nat} {m0 S : Mat} (hS : MLe m0 S) {s x : Nat} (hs : s < 2)
    (h1 : max nd tv + 2 ≤ x) (h2 : x < 2 * n) : m0 x (tv + s) ≤ octLatFoldL3 n nd tv S x (nd + s) := by
  unfold octLatFoldL3
  obtain ⟨k, rfl⟩ : ∃ k, x = max nd tv + 2 + k := ⟨x - (max nd tv + 2), by omega⟩
  refine latLoopUp_raise (fun j m => latMaxAt4_infl m _ _ _ _ _ _ _ _ _ _ _ _ _ _ _ _) hS
    (by omega : k < 2 * n - (max nd tv + 2)) (fun S hS => ?_)
  rcases (by omega : s = 0 ∨ s = 1) with rfl | rfl
  · exact latMaxAt_keep (latMaxAt_hit (latMaxAt_keep (latMaxAt_keep (hS _ _))))
  · exact latMaxAt_hit (latMaxAt_keep (latMaxAt_keep (latMaxAt_keep (hS _ _))))

/-- the lower bounds that folding `w` into `dest` establishes on the rows and columns of `dest` -/
def octLatFoldBounds (n dest w : Nat) (m0 r : Mat) : Prop :=
  (∀ s s', s + s' = 1 → m0 (2 * w + s) (2 * w + s') ≤ r (2 * dest + s) (2 * dest + s')) ∧
  (∀ s x, s < 2 → x < 2 * dest → x < 2 * w → m0 (2 * w + s) x ≤ r (2 * dest + s) x) ∧
  (∀ s s' x, s + s' = 1 → 2 * w + 2 ≤ x → x < 2 * dest → m0 (cidx x) (2 * w + s') ≤ r (2 * dest + s) x) ∧
  (∀ s s' x, s + s' = 1 → 2 * dest + 2 ≤ x → x < 2 * w → m0 (2 * w + s') x ≤ r (cidx x) (2 * dest + s)) ∧
  (∀ s x, s < 2 → 2 * dest + 2 ≤ x → 2 * w + 2 ≤ x → x < 2 * n → m0 x (2 * w + s) ≤ r x (2 * dest + s))

theorem octLatFoldBounds_mono {n dest w : Nat} {m0 r r' : Mat} (h : MLe r r')
    (hb : octLatFoldBounds n dest w m0 r) : octLatFoldBounds n dest w m0 r' :=
  ⟨fun s s' hs => le_trans' (hb.1 s s' hs) (h _ _),
    fun s x hs h1 h2 => le_trans' (hb.2.1 s x hs h1 h2) (h _ _),
    fun s s' x hs h1 h2 => le_trans' (hb.2.2.1 s s' x hs h1 h2) (h _ _),
    fun s s' x hs h1 h2 => le_trans' (hb.2.2.2.1 s s' x hs h1 h2) (h _ _),
    fun s x hs h1 h2 h3 => le_trans' (hb.2.2.2.2 s x hs h1 h2 h3) (h _ _)⟩

theorem octLatFoldOne_bounds (n dest w : Nat) (m0 s : Mat) (hs : MLe m0 s) :
    octLatFoldBounds n dest w m0 (octLatFoldOne n dest w s) := by
  rw [octLatFoldOne_eq]
  have i1 := latMaxAt_infl s (2 * dest) (2 * dest + 1) (2 * w) (2 * w + 1)
  have g1 := latMaxAt_ge s (2 * dest) (2 * dest + 1) (2 * w) (2 * w + 1)
  generalize latMaxAt s (2 * dest) (2 * dest + 1) (2 * w) (2 * w + 1) = s1 at i1 g1 ⊢
  have i2 := latMaxAt_infl s1 (2 * dest + 1) (2 * dest) (2 * w + 1) (2 * w)
  have g2 := latMaxAt_ge s1 (2 * dest + 1) (2 * dest) (2 * w + 1) (2 * w)
  generalize latMaxAt s1 (2 * dest + 1) (2 * dest) (2 * w + 1) (2 * w) = s2 at i2 g2 ⊢
  have i3 := octLatFoldL1_infl (2 * dest) (2 * w) s2
  have i4 := octLatFoldL2_infl (2 * dest) (2 * w) (octLatFoldL1 (2 * dest) (2 * w) s2)
  have i5 := octLatFoldL3_infl n (2 * dest) (2 * w) (octLatFoldL2 (2 * dest) (2 * w) (octLatFoldL1 (2 * dest) (2 * w) s2))
  have m2 : MLe m0 s2 := latMLe_trans hs (latMLe_trans i1 i2)
  have m3 := latMLe_trans m2 i3
  have m4 := latMLe_trans m3 i4
  refine ⟨fun s s' hs' => ?_, fun s x hs' h1 h2 => ?_, fun s s' x hs' h1 h2 => ?_, fun s s' x hs' h1 h2 => ?_,
    fun s x hs' h1 h2 h3 => ?_⟩
  · rcases (by omega : (s = 0 ∧ s' = 1) ∨ (s = 1 ∧ s' = 0)) with ⟨rfl, rfl⟩ | ⟨rfl, rfl⟩
    · exact le_trans' (hs _ _) (le_trans' g1 (latMLe_trans i2 (latMLe_trans i3 (latMLe_trans i4 i5)) _ _))
    · exact le_trans' (hs _ _) (le_trans' (i1 _ _) (le_trans' g2 (latMLe_trans i3 (latMLe_trans i4 i5) _ _)))
  · exact le_trans' (octLatFoldL1_ge m2 hs' (by omega)) (latMLe_trans i4 i5 _ _)
  · exact le_trans' (octLatFoldL2_ge_lh m3 hs' h1 h2) (i5 _ _)
  · exact le_trans' (octLatFoldL2_ge_hl m3 hs' h1 h2) (i5 _ _)
  · exact octLatFoldL3_ge m4 hs' (by omega) h3

def octLatFoldAll (n dest : Nat) (vars : List Nat) (m : Mat) : Mat :=
  vars.foldl (fun m tbf => octLatFoldOne n dest tbf m) m

theorem octLatFoldAll_infl (n dest : Nat) (vars : List Nat) (m : Mat) : MLe m (octLatFoldAll n dest vars m) := by
  unfold octLatFoldAll
  induction vars generalizing m with
  | nil => exact latMLe_refl m
  | cons w ws ih =>
    simp only [List.foldl_cons]
    exact latMLe_trans (octLatFoldOne_infl n dest w m) (ih _)

theorem octLatFoldAll_bounds (n dest : Nat) (vars : List Nat) (m0 s : Mat) (hs : MLe m0 s) (w : Nat)
    (hw : w ∈ vars) : octLatFoldBounds n dest w m0 (octLatFoldAll n dest vars s) := by
  unfold octLatFoldAll
  induction vars generalizing s with
  | nil => simp at hw
  | cons u us ih =>
    simp only [List.foldl_cons]
    by_cases hwu : w = u
    · subst hwu
      exact octLatFoldBounds_mono (octLatFoldAll_infl n dest us _) (octLatFoldOne_bounds n dest w m0 s hs)
    · have hw' : w ∈ us := by
        rcases List.mem_cons.1 hw with h | h
        · exact absurd h hwu
        · exact h
      exact ih _ (latMLe_trans hs (octLatFoldOne_infl n dest u s)) hw'

/-- after the `max_assign`s, the point with `dest := x_w` satisfies every stored cell between kept
variables: the cell dominates a stored cell of `m` that bounds the same difference after the substitution -/
theorem octLatFoldAll_holds {n dest : Nat} {vars : List Nat} {m : Mat} {x : Nat → Rat} (hx : x ∈ γO n m)
    {w : Nat} (hw : w = dest ∨ w ∈ vars) (hwn : w < n) (hdn : dest < n) :
    octLatKeptHolds n vars (upd x dest (x w)) (octLatFoldAll n dest vars m) := by
  have hinfl := octLatFoldAll_infl n dest vars m
  intro a b ha hb hka hkb
  by_cases hab : a = b
  · subst hab
    have := hx a a ⟨ha, hb⟩
    simp only [sub_self] at this ⊢
    exact le_trans' this (hinfl _ _)
  suffices h : ∃ c' e, c' < 2 * n ∧ e < rowSize c' ∧
      ((c' = octLatSub dest w a ∧ e = octLatSub dest w b) ∨
        (c' = cidx (octLatSub dest w b) ∧ e = cidx (octLatSub dest w a))) ∧
      m c' e ≤ octLatFoldAll n dest vars m a b by
    obtain ⟨c', e, hc', he, hid, hle⟩ := h
    exact le_trans' (octLatSub_holds hx dest w hc' he hid) hle
  by_cases hwd : w = dest
  · subst hwd
    exact ⟨a, b, ha, hb, Or.inl ⟨(octLatSub_self _ _).symm, (octLatSub_self _ _).symm⟩, hinfl a b⟩
  have hw' : w ∈ vars := hw.resolve_left hwd
  obtain ⟨B1, B2, B3, B4, B5⟩ := octLatFoldAll_bounds n dest vars m m (latMLe_refl m) w hw'
  obtain ⟨ja, sa, sa', hsa, rfl⟩ := latIdx_pair a
  obtain ⟨jb, sb, sb', hsb, rfl⟩ := latIdx_pair b
  have haw : ja ≠ w := fun h => hka (by rw [show (2 * ja + sa) / 2 = w by omega]; exact hw')
  have hbw : jb ≠ w := fun h => hkb (by rw [show (2 * jb + sb) / 2 = w by omega]; exact hw')
  have sa2 : sa < 2 := by omega
  have sa2' : sa' < 2 := by omega
  have sb2 : sb < 2 := by omega
  have sb2' : sb' < 2 := by omega
  rw [rowSize_add sa2] at hb
  have hba : jb ≤ ja := by omega
  clear hka hkb hb
  by_cases hav : ja = dest
  · subst hav
    have hA := octLatSub_dest ja w sa2
    by_cases hbv : jb = ja
    · subst hbv
      have : sb = sa' := by omega
      subst this
      exact ⟨_, _, by omega, latStored_add sa2 sb2 (le_refl _),
        Or.inl ⟨hA.symm, (octLatSub_dest jb w sb2).symm⟩, B1 sa sb hsa⟩
    · have hB := octLatSub_ne w sb2 hbv
      by_cases hbt : jb < w
      · exact ⟨_, _, by omega, latStored_add sa2 sb2 (by omega), Or.inl ⟨hA.symm, hB.symm⟩,
          B2 sa _ sa2 (by omega) (by omega)⟩
      · refine ⟨cidx (2 * jb + sb), 2 * w + sa', cidx_lt (by omega), ?_, Or.inr ⟨by rw [hB], ?_⟩,
          B3 sa sa' _ hsa (by omega) (by omega)⟩
        · rw [cidx_add_one hsb]; exact latStored_add sb2' sa2' (by omega)
        · rw [hA, cidx_add_one hsa]
  · have hA := octLatSub_ne w sa2 hav
    by_cases hbv : jb = dest
    · subst hbv
      have hB := octLatSub_dest jb w sb2
      by_cases hat : ja < w
      · have := B4 sb sb' (cidx (2 * ja + sa)) hsb (by rw [cidx_add_one hsa]; omega) (by rw [cidx_add_one hsa]; omega)
        rw [cidx_cidx] at this
        refine ⟨2 * w + sb', cidx (2 * ja + sa), by omega, ?_, Or.inr ⟨?_, by rw [hA]⟩, this⟩
        · rw [cidx_add_one hsa]; exact latStored_add sb2' sa2' (by omega)
        · rw [hB, cidx_add_one hsb]
      · exact ⟨_, _, ha, latStored_add sa2 sb2 (by omega), Or.inl ⟨hA.symm, hB.symm⟩,
          B5 sb _ sb2 (by omega) (by omega) ha⟩
    · exact ⟨_, _, ha, latStored_add sa2 sb2 hba,
        Or.inl ⟨hA.symm, (octLatSub_ne w sb2 hbv).symm⟩, hinfl _ _⟩

/-- `fold_space_dimensions(vars, dest)`: for every point `x` of the shape and every `w ∈ vars ∪ {dest}`,
the point obtained by moving `x_w` to `dest` and dropping `vars` is in the result -/
theorem octLatFold_sound {R : Rnd} (hR : R.Sound) (n : Nat) (c : Bool) (m : Mat) (vars : List Nat)
    (dest : Nat) (hne : vars ≠ []) (hsorted : vars.Pairwise (· < ·)) (hvs : ∀ v, v ∈ vars → v < n)
    (hdest : dest < n) {x : Nat → Rat} (hx : x ∈ γO n m) {w : Nat} (hw : w = dest ∨ w ∈ vars) :
    ∃ r, octLatFold R n c m vars dest = some r ∧ r.dim = n - vars.length ∧
      octLatDropPoint n vars (upd x dest (x w)) ∈ γO r.dim r.m := by
  unfold octLatFold
  have : vars.isEmpty = false := List.isEmpty_eq_false_iff.2 hne
  simp only [this, Bool.false_eq_true, if_false]
  obtain ⟨m', c', e, hx'⟩ := octLatClose_sound hR.up_le n c m hx
  simp only [e]
  have hn : n ≠ 0 := by omega
  have hc' := octLatClose_closed hn e
  subst hc'
  have hwn : w < n := by
    rcases hw with rfl | hw
    · exact hdest
    · exact hvs w hw
  exact octLatRemoveDims_closed_sound R n _ vars hne hsorted hvs (octLatFoldAll_holds hx' hw hwn hdest)

end PPLV.WR

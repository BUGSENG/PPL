import PPLV.WR.TransOct2ProofsSpecial
import PPLV.WR.TransOct2ProofsGen
import PPLV.WR.TransOctProofsMain
/-!
# `Octagonal_Shape<T>::generalized_affine_image(var, relsym, expr, denominator)`: every branch
-/
namespace PPLV.WR
open ExtRat

section
variable {R : Rnd} (hR : R.Sound) {n vid : Nat} (hv : vid < n) {e : Nat → Int} {b den : Int} (hden : den ≠ 0)
  {m : Mat} {x : Nat → Rat} (hx : x ∈ γO n m) (isLe : Bool) {t : Rat}
  (ht : if isLe then t ≤ (linEval e x n + b) / den else (linEval e x n + b) / den ≤ t)
include hR hv hden hx ht

/-- the branches `expr == b`, `±den*w + b` (`w ≠ var`), `±den*var + b`: no side condition -/
theorem octGenAffineImageCoreF_special_sound
    (hsp : exprT e (lastNonzero e n) = 0 ∨
      (exprT e (lastNonzero e n) = 1 ∧ (e (lastNonzero e n - 1) = den ∨ e (lastNonzero e n - 1) = - den))) :
    ∃ mf, octGenAffineImageCoreF R n vid isLe e b den m = some mf ∧ upd x vid t ∈ γO n mf.1 := by
  have hx' : Holds (SO n) (OctM.oval x) m := hx
  have hF := holds_octForgetAll hv hx' t
  have ov0 : OctM.oval (upd x vid t) (2 * vid) = t := by rw [oval_upd, if_pos rfl]
  have ov1 : OctM.oval (upd x vid t) (2 * vid + 1) = - t := by rw [oval_upd, if_neg (by omega), if_pos rfl]
  unfold octGenAffineImageCoreF
  simp only []
  rcases hsp with h0 | ⟨h1, ha⟩
  · rw [if_pos h0]
    rw [linEval_t0 x h0, zero_add] at ht
    cases isLe
    · simp only [Bool.false_eq_true, ↓reduceIte] at ht ⊢
      refine ⟨_, rfl, ?_⟩
      show Holds (SO n) (OctM.oval (upd x vid t)) _
      refine holds_addDbmQ hR hF ?_
      rw [ov0, ov1, two_mul_div_neg]; linarith
    · simp only [↓reduceIte] at ht ⊢
      refine ⟨_, rfl, ?_⟩
      show Holds (SO n) (OctM.oval (upd x vid t)) _
      refine holds_addDbmQ hR hF ?_
      rw [ov0, ov1, two_mul_div]; linarith
  · obtain ⟨hw0, hE⟩ := linEval_t1 x h1
    have hwn := lastNonzero_le e n
    rw [if_neg (by omega), if_pos ⟨h1, ha⟩]
    rw [hE] at ht
    generalize lastNonzero e n = w at *
    obtain ⟨k, rfl⟩ : ∃ k, w = k + 1 := ⟨w - 1, by omega⟩
    simp only [Nat.add_sub_cancel] at *
    by_cases hwv : k = vid
    · -- `expr == ±den*var + b`
      rw [if_pos hwv]
      subst hwv
      refine ⟨_, rfl, ?_⟩
      show Holds (SO n) (OctM.oval (upd x k t)) _
      by_cases ha1 : e k = den
      · rw [special_val_pos hden ha1] at ht
        have hdec : decide (e k = den) = true := by simp [ha1]
        rw [hdec, octGenTranslate_plus_eq]
        cases isLe
        · simp only [Bool.false_eq_true, ↓reduceIte] at ht ⊢
          refine octShiftP_holds hR.up_le hv (q := t - x k) (le_pinf _)
            (fin_le_divRoundUp hR (by rw [div_negden]; linarith)) hx' ?_ ?_ ?_
          · rw [ov0, oval_even]; ring
          · rw [ov1, oval_odd]; ring
          · intro i hi0 hi1; exact oval_upd_ne x _ hi0 hi1
        · simp only [↓reduceIte] at ht ⊢
          refine octShiftP_holds hR.up_le hv (q := t - x k)
            (fin_le_divRoundUp hR (by linarith)) (le_pinf _) hx' ?_ ?_ ?_
          · rw [ov0, oval_even]; ring
          · rw [ov1, oval_odd]; ring
          · intro i hi0 hi1; exact oval_upd_ne x _ hi0 hi1
      · have ha2 := ha.resolve_left ha1
        rw [special_val_neg hden ha2] at ht
        have hdec : decide (e k = den) = false := by simp [ha1]
        rw [hdec]
        cases isLe
        · simp only [Bool.false_eq_true, ↓reduceIte] at ht ⊢
          refine octGenTranslate_minus_holds hR hv false (q := -((b : Rat) / den))
            (fin_le_divRoundUp hR (by rw [div_negden])) hx' ?_
          simp only [Bool.false_eq_true, ↓reduceIte]; linarith
        · simp only [↓reduceIte] at ht ⊢
          refine octGenTranslate_minus_holds hR hv true (q := (b : Rat) / den)
            (fin_le_divRoundUp hR (le_refl _)) hx' ?_
          simp only [↓reduceIte]; linarith
    · -- `expr == ±den*w + b`, `w ≠ var`: one cell relating `var` and `w`, with `U`/`L` the difference it bounds
      rw [if_neg hwv]
      have yv : upd x vid t vid = t := by simp [upd]
      have yk : upd x vid t k = x k := upd_frame x vid t k hwv
      refine ⟨_, rfl, ?_⟩
      show Holds (SO n) (OctM.oval (upd x vid t)) _
      by_cases ha1 : e k = den
      · rw [special_val_pos hden ha1] at ht
        cases isLe
        · simp only [Bool.false_eq_true, ↓reduceIte, if_pos ha1] at ht ⊢
          have L : upd x vid t k - upd x vid t vid ≤ (b : Rat) / ((- den : Int) : Rat) := by
            rw [yv, yk, div_negden]; exact octL_pos ht
          by_cases hlt : vid < k
          · rw [if_pos hlt]; exact holds_octAddQF hR hF ((octDiff_oo _ k vid).trans_le L)
          · rw [if_neg hlt]; exact holds_octAddQF hR hF ((octDiff_ee _ k vid).trans_le L)
        · simp only [↓reduceIte, if_pos ha1] at ht ⊢
          have U : upd x vid t vid - upd x vid t k ≤ (b : Rat) / den := by rw [yv, yk]; exact octU_pos ht
          by_cases hlt : vid < k
          · rw [if_pos hlt]; exact holds_octAddQF hR hF ((octDiff_ee _ vid k).trans_le U)
          · rw [if_neg hlt]; exact holds_octAddQF hR hF ((octDiff_oo _ vid k).trans_le U)
      · have ha2 := ha.resolve_left ha1
        rw [special_val_neg hden ha2] at ht
        cases isLe
        · simp only [Bool.false_eq_true, ↓reduceIte, if_neg ha1] at ht ⊢
          have L : - upd x vid t vid - upd x vid t k ≤ (b : Rat) / ((- den : Int) : Rat) := by
            rw [yv, yk, div_negden]; exact octL_neg ht
          by_cases hlt : vid < k
          · rw [if_pos hlt]; exact holds_octAddQF hR hF ((octNeg_oe _ vid k).trans_le L)
          · rw [if_neg hlt]; exact holds_octAddQF hR hF ((octNeg_eo _ vid k).trans_le L)
        · simp only [↓reduceIte, if_neg ha1] at ht ⊢
          have U : upd x vid t vid + upd x vid t k ≤ (b : Rat) / den := by rw [yv, yk]; exact octU_neg ht
          by_cases hlt : vid < k
          · rw [if_pos hlt]; exact holds_octAddQF hR hF ((octSum_eo _ vid k).trans_le U)
          · rw [if_neg hlt]; exact holds_octAddQF hR hF ((octSum_oe _ vid k).trans_le U)

/-- `generalized_affine_image(var, ≤ / ≥, expr, den)` after the closure: every point `x[var := t]` with
`t ⋈ expr(x)/den` is in the result, which is not marked empty -/
theorem octGenAffineImageCoreF_sound (hc : CoeffExact R e) (hh : HalfFiniteOn R.up m) :
    ∃ mf, octGenAffineImageCoreF R n vid isLe e b den m = some mf ∧ upd x vid t ∈ γO n mf.1 := by
  by_cases hsp : exprT e (lastNonzero e n) = 0 ∨
      (exprT e (lastNonzero e n) = 1 ∧ (e (lastNonzero e n - 1) = den ∨ e (lastNonzero e n - 1) = - den))
  · exact octGenAffineImageCoreF_special_sound hR hv hden hx isLe ht hsp
  · have h0 : ¬ exprT e (lastNonzero e n) = 0 := fun h => hsp (Or.inl h)
    have h1 : ¬ (exprT e (lastNonzero e n) = 1 ∧
        (e (lastNonzero e n - 1) = den ∨ e (lastNonzero e n - 1) = - den)) := fun h => hsp (Or.inr h)
    have hg := octGenAffineImageGeneral_sound hR hv hc (b := b) hden hh hx h0 isLe ht
    unfold octGenAffineImageCoreF
    simp only []
    rw [if_neg h0, if_neg h1]
    split
    · exact ⟨_, rfl, hg⟩
    · obtain ⟨m', hm', hx'⟩ := octIncClose_sound hR hv hg
      exact ⟨(m', true), by rw [hm']; rfl, hx'⟩

theorem octGenAffineImageCore_sound (hc : CoeffExact R e) (hh : HalfFiniteOn R.up m) :
    ∃ m', octGenAffineImageCore R n vid isLe e b den m = some m' ∧ upd x vid t ∈ γO n m' := by
  obtain ⟨mf, h1, h2⟩ := octGenAffineImageCoreF_sound hR hv hden hx isLe ht hc hh
  exact ⟨mf.1, by simp [octGenAffineImageCore, h1], h2⟩

end

/-- `Octagonal_Shape<T>::generalized_affine_image(var, relsym, expr, den)`: the special forms of `expr` need no side
condition, the general case `CoeffExact` and `HalfFiniteOn` of the closed matrix -/
theorem octGenAffineImage_sound_of {R : Rnd} (hR : R.Sound) {n : Nat} (m : OctM n) (closed : Bool) {vid : Nat}
    (hv : vid < n) (rel : RelSym) {e : Nat → Int} {b den : Int} (hden : den ≠ 0)
    (hside : (exprT e (lastNonzero e n) = 0 ∨
        (exprT e (lastNonzero e n) = 1 ∧ (e (lastNonzero e n - 1) = den ∨ e (lastNonzero e n - 1) = - den))) ∨
      (CoeffExact R e ∧ ∀ m', octCloseFirst R.up closed m = some m' → HalfFiniteOn R.up m')) :
    ∀ x ∈ OctM.γ m, ∀ t : Rat, RelSym.holds rel t ((linEval e x n + b) / den) →
      ∃ m', octGenAffineImage R closed vid rel e b den m = some m' ∧ upd x vid t ∈ γO n m' := by
  intro x hx t ht
  obtain ⟨m1, h1, hx1⟩ := octCloseFirst_sound hR.up_le closed m hx
  have hcore : ∀ (isLe : Bool) {t : Rat},
      (if isLe then t ≤ (linEval e x n + b) / den else (linEval e x n + b) / den ≤ t) →
      ∃ m', octGenAffineImageCore R n vid isLe e b den m1 = some m' ∧ upd x vid t ∈ γO n m' := by
    intro isLe t ht
    rcases hside with hsp | ⟨hc, hh⟩
    · obtain ⟨mf, h1, h2⟩ := octGenAffineImageCoreF_special_sound hR hv hden hx1 isLe ht hsp
      exact ⟨mf.1, by simp [octGenAffineImageCore, h1], h2⟩
    · exact octGenAffineImageCore_sound hR hv hden hx1 isLe ht hc (hh m1 h1)
  cases rel with
  | eq =>
    have ht' : t = (linEval e x n + b) / den := ht
    subst ht'
    obtain ⟨m', hm', hx'⟩ : ∃ m', octAffineImageCore R n vid e b den m1 = some m' ∧
        upd x vid ((linEval e x n + b) / den) ∈ γO n m' := by
      rcases hside with hsp | ⟨hc, hh⟩
      · exact octAffineImageCore_sound_special hR hv hden hx1 hsp
      · exact octAffineImageCore_sound hR hv hc hden (hh m1 h1) hx1
    exact ⟨m', by simp [octGenAffineImage, octAffineImage, h1, hm'], hx'⟩
  | le =>
    have ht' : t ≤ (linEval e x n + b) / den := ht
    obtain ⟨m', hm', hx'⟩ := hcore true (by simpa using ht')
    exact ⟨m', by simp [octGenAffineImage, h1, hm'], hx'⟩
  | ge =>
    have ht' : (linEval e x n + b) / den ≤ t := ht
    obtain ⟨m', hm', hx'⟩ := hcore false (by simpa using ht')
    exact ⟨m', by simp [octGenAffineImage, h1, hm'], hx'⟩

theorem octGenAffineImage_sound {R : Rnd} (hR : R.Sound) {n : Nat} (m : OctM n) (closed : Bool) {vid : Nat}
    (hv : vid < n) (rel : RelSym) {e : Nat → Int} {b den : Int} (hden : den ≠ 0) (hc : CoeffExact R e)
    (hh : ∀ m', octCloseFirst R.up closed m = some m' → HalfFiniteOn R.up m') :
    ∀ x ∈ OctM.γ m, ∀ t : Rat, RelSym.holds rel t ((linEval e x n + b) / den) →
      ∃ m', octGenAffineImage R closed vid rel e b den m = some m' ∧ upd x vid t ∈ γO n m' :=
  octGenAffineImage_sound_of hR m closed hv rel hden (Or.inr ⟨hc, hh⟩)

end PPLV.WR

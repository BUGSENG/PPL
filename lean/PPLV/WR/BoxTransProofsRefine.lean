import PPLV.WR.BoxTransProofsBase
import PPLV.WR.BoxTransProofsExpr
/-!
# `Box<ITV>`: soundness of the interval constraints, `add_constraint_no_check` and the
interval-constraint arm of `refine_no_check`

Every function keeps the members that satisfy the constraint (`_sound`) and the dimension
(`_dim`).
-/
namespace PPLV.WR.BoxT
open PPLV.Interval
open PPLV.Interval.ExtRat (ninf fin pinf)

theorem mem_universe (p : Policy) (a : Rat) : (Iv.universe p).mem p a := by
  constructor
  · simp [Iv.universe, setUnbounded, lowerOk, infOf]
  · simp [Iv.universe, setUnbounded, upperOk, infOf]

/-- every point belongs to the universe box -/
theorem Box.mem_univ (p : Policy) (n : Nat) (x : Nat → Rat) : (Box.univ p n).mem p x := by
  refine ⟨rfl, fun k hk => ?_⟩
  have hk' : k < n := by simpa [Box.univ] using hk
  have : (Box.univ p n).get k = Iv.universe p := by
    simp [Box.get, Box.univ, List.getD, hk']
  rw [this]; exact mem_universe p _

private theorem scalar_lower (q a : Rat) (h : q ≤ a) : sideOk Policy.scalar .lower ⟨fin q, false⟩ a := by
  simpa [sideOk, sideOkV, getOpen] using h
private theorem scalar_upper (q a : Rat) (h : a ≤ q) : sideOk Policy.scalar .upper ⟨fin q, false⟩ a := by
  simpa [sideOk, sideOkV, getOpen] using h

/-- `refine_existential(rel, q)` with a scalar: a member related to the scalar stays -/
theorem refineExistentialScalar_sound {p : Policy} {R : Rounding} (hR : R.Sound) {tv : Iv} {rel : Rel} {a q : Rat}
    (ha : tv.mem p a) (hrel : Rel.holds rel a q) : (refineExistentialScalar p R tv rel q).mem p a := by
  unfold refineExistentialScalar
  cases rel <;> simp only [Rel.holds] at hrel ⊢
  · -- eq
    subst hrel
    unfold bMax1 bMin1
    refine ⟨?_, ?_⟩
    · show lowerOk p (if _ then _ else _) a
      split_ifs
      · exact bAssign_sound' (t := .lower) hR (scalar_lower a a le_rfl)
      · exact ha.1
    · show upperOk p (if _ then _ else _) a
      split_ifs
      · exact bAssign_sound' (t := .upper) hR (scalar_upper a a le_rfl)
      · exact ha.2
  · -- lt
    split_ifs
    · exact ha
    · refine ⟨ha.1, ?_⟩
      apply bAssign_sound (t := .upper) hR
      simpa [sideOkV] using hrel
  · -- le
    split_ifs
    · exact ha
    · refine ⟨ha.1, ?_⟩
      apply bAssign_sound (t := .upper) hR
      simpa [sideOkV, getOpen] using hrel
  · -- gt
    split_ifs
    · exact ha
    · refine ⟨?_, ha.2⟩
      apply bAssign_sound (t := .lower) hR
      simpa [sideOkV] using hrel
  · -- ge
    split_ifs
    · exact ha
    · refine ⟨?_, ha.2⟩
      apply bAssign_sound (t := .lower) hR
      simpa [sideOkV, getOpen] using hrel
  · exact ha

theorem buildC_sound {p : Policy} {R : Rounding} (hR : R.Sound) {rel : Rel} {a q : Rat}
    (hrel : Rel.holds rel a q) : (buildC p R rel q).mem p a :=
  refineExistentialScalar_sound hR (mem_universe p a) hrel

theorem addConstraintIv_sound {p : Policy} {R : Rounding} (hR : R.Sound) {tv : Iv} {rel : Rel} {a q : Rat}
    (ha : tv.mem p a) (hrel : Rel.holds rel a q) : (addConstraintIv p R tv rel q).mem p a :=
  intersectAssign_encloses hR ha (buildC_sound hR hrel)

theorem build2_sound {p : Policy} {R : Rounding} (hR : R.Sound) {a : Rat} {c1 c2 : Option (Rel × Rat)}
    (h1 : ∀ r q, c1 = some (r, q) → Rel.holds r a q) (h2 : ∀ r q, c2 = some (r, q) → Rel.holds r a q) :
    (build2 p R c1 c2).mem p a := by
  unfold build2
  rcases c1 with _ | ⟨r1, q1⟩ <;> rcases c2 with _ | ⟨r2, q2⟩
  · exact mem_universe p a
  · exact buildC_sound hR (h2 r2 q2 rfl)
  · exact buildC_sound hR (h1 r1 q1 rfl)
  · exact addConstraintIv_sound hR (buildC_sound hR (h1 r1 q1 rfl)) (h2 r2 q2 rfl)

/-- an upper bound with its inclusion flag as a relation symbol -/
theorem rel_le_of_cmp {t q : Rat} {i : Bool} (h : cmp (!i) t q) : Rel.holds (if i then Rel.le else Rel.lt) t q := by
  cases i <;> exact h

theorem rel_ge_of_cmp {t q : Rat} {i : Bool} (h : cmp (!i) q t) : Rel.holds (if i then Rel.ge else Rel.gt) t q := by
  cases i <;> exact h

/-- the interval built from an optional bound `(q, included)` with the relation symbol `rel included` -/
theorem buildC_opt_sound {p : Policy} {R : Rounding} (hR : R.Sound) {t : Rat} {o : Option (Rat × Bool)}
    {rel : Bool → Rel} (H : ∀ q i, o = some (q, i) → Rel.holds (rel i) t q) :
    (match o with
      | some (q, incl) => buildC p R (rel incl) q
      | none => Iv.universe p).mem p t := by
  rcases o with _ | ⟨q, i⟩
  · exact mem_universe _ _
  · exact buildC_sound hR (H q i rfl)

/-- the second argument of `build2` made from an optional upper bound `(q, included)`, rescaled by `g` -/
theorem build2_ub_map {t : Rat} {o : Option (Rat × Bool)} {g : Rat → Rat}
    (H : ∀ q i, o = some (q, i) → cmp (!i) t (g q)) (r' : Rel) (q' : Rat)
    (hq : o.map (fun (m : Rat × Bool) => (if m.2 then Rel.le else Rel.lt, g m.1)) = some (r', q')) :
    Rel.holds r' t q' := by
  rcases o with _ | ⟨q, i⟩
  · simp at hq
  · simp only [Option.map, Option.some.injEq, Prod.mk.injEq] at hq
    obtain ⟨rfl, rfl⟩ := hq
    exact rel_le_of_cmp (H q i rfl)

/-- the first argument of `build2` made from an optional lower bound -/
theorem build2_lb_map {t : Rat} {o : Option (Rat × Bool)} {g : Rat → Rat}
    (H : ∀ q i, o = some (q, i) → cmp (!i) (g q) t) (r' : Rel) (q' : Rat)
    (hq : o.map (fun (m : Rat × Bool) => (if m.2 then Rel.ge else Rel.gt, g m.1)) = some (r', q')) :
    Rel.holds r' t q' := by
  rcases o with _ | ⟨q, i⟩
  · simp at hq
  · simp only [Option.map, Option.some.injEq, Prod.mk.injEq] at hq
    obtain ⟨rfl, rfl⟩ := hq
    exact rel_ge_of_cmp (H q i rfl)

theorem ivOfInt_sound {p : Policy} {R : Rounding} (hR : R.Sound) (z : Int) : (ivOfInt p R z).mem p (z : Rat) := by
  unfold ivOfInt assign
  have hm : (⟨⟨fin (z : Rat), false⟩, ⟨fin (z : Rat), false⟩⟩ : Iv).mem Policy.scalar (z : Rat) :=
    ⟨scalar_lower _ _ le_rfl, scalar_upper _ _ le_rfl⟩
  rw [checkEmptyArg_of_mem hm]
  exact ⟨bAssign_sound' (t := .lower) hR hm.1, bAssign_sound' (t := .upper) hR hm.2⟩

example : (buildC Policy.rational Rounding.id .ge 3).mem Policy.rational 5 :=
  buildC_sound Rounding.id_sound (by norm_num [Rel.holds])
example : (build2 Policy.integer Rounding.int (some (.ge, 1/2)) (some (.lt, 7/2))).mem Policy.integer 2 :=
  build2_sound Rounding.int_sound (fun r q h => by cases h; norm_num [Rel.holds])
    (fun r q h => by cases h; norm_num [Rel.holds])
example : (ivOfInt Policy.floating Rounding.double 9007199254740993).mem Policy.floating 9007199254740993 := by
  simpa using ivOfInt_sound (p := Policy.floating) Rounding.double_sound 9007199254740993

/-- the constraint `denom * x_v + numer ⋈ 0` read on the point -/
def ivConHolds (ty : CType) (numer denom : Int) (xv : Rat) : Prop :=
  match ty with
  | .eq => (denom : Rat) * xv + (numer : Rat) = 0
  | .ge => 0 ≤ (denom : Rat) * xv + (numer : Rat)
  | .gt => 0 < (denom : Rat) * xv + (numer : Rat)

/-- the relation symbol of `refine_interval_no_check` -/
def ivRel (ty : CType) (denom : Int) : Rel :=
  match ty with
  | .eq => .eq
  | .ge => if denom > 0 then .ge else .le
  | .gt => if denom > 0 then .gt else .lt

theorem ivRel_ne (ty : CType) (d : Int) : ivRel ty d ≠ .ne := by
  cases ty <;> by_cases h : d > 0 <;> simp [ivRel, h]

theorem ivRel_strict {ty : CType} (d : Int) (h : ty ≠ .gt) : ivRel ty d ≠ .lt ∧ ivRel ty d ≠ .gt := by
  cases ty <;> by_cases h2 : d > 0 <;> simp [ivRel, h2] at h ⊢

/-- the relation symbol and the bound of `refine_interval_no_check` say exactly what the
constraint `d * t + n ⋈ 0` says -/
theorem ivRel_iff (ty : CType) {n d : Int} (t : Rat) (hd : d ≠ 0) :
    Rel.holds (ivRel ty d) t (-((n : Rat) / (d : Rat))) ↔
      ivConHolds ty n d t := by
  have hd' : (d : Rat) ≠ 0 := by exact_mod_cast hd
  have hq : (d : Rat) * (-((n : Rat) / (d : Rat))) = -(n : Rat) := by
    rw [mul_neg, mul_comm, div_mul_cancel₀ _ hd']
  generalize (-((n : Rat) / (d : Rat))) = q at hq
  have key : (d : Rat) * t + (n : Rat) = (d : Rat) * (t - q) := by rw [mul_sub, hq]; ring
  rcases lt_or_gt_of_ne hd with hneg | hpos
  · -- `d < 0`: `d·(t − q) = (−d)·(q − t)` with `−d > 0`
    have hn : (0 : Rat) < -(d : Rat) := by exact_mod_cast neg_pos.2 hneg
    have key' : (d : Rat) * t + (n : Rat) = -(d : Rat) * (q - t) := by rw [key]; ring
    have hng : ¬ d > 0 := by omega
    cases ty <;> simp only [ivRel, ivConHolds, hng, if_false, Rel.holds, key', mul_eq_zero, hn.ne', false_or, sub_eq_zero,
      mul_nonneg_iff_of_pos_left hn, mul_pos_iff_of_pos_left hn, sub_nonneg, sub_pos]
    exact eq_comm
  · have hp : (0 : Rat) < (d : Rat) := by exact_mod_cast hpos
    have hpg : d > 0 := hpos
    cases ty <;> simp only [ivRel, ivConHolds, hpg, if_true, Rel.holds, key, mul_eq_zero, hp.ne', false_or, sub_eq_zero,
      mul_nonneg_iff_of_pos_left hp, mul_pos_iff_of_pos_left hp, sub_nonneg, sub_pos, ge_iff_le, gt_iff_lt]

theorem addIntervalConstraintNoCheck_dim (cfg : Cfg) (b : Box) (v : Nat) (ty : CType) (numer denom : Int) :
    (addIntervalConstraintNoCheck cfg b v ty numer denom).dim = b.dim := by
  simp [addIntervalConstraintNoCheck, Box.dim, Box.resetEmptyUpToDate, Box.setIv]

theorem addIntervalConstraintNoCheck_sound {cfg : Cfg} (hS : cfg.Sound) {b : Box} {v : Nat} {ty : CType}
    {numer denom : Int} {x : Nat → Rat} (hv : v < b.dim) (hd : denom ≠ 0) (hx : b.mem cfg.p x)
    (hc : ivConHolds ty numer denom (x v)) :
    (addIntervalConstraintNoCheck cfg b v ty numer denom).mem cfg.p x := by
  unfold addIntervalConstraintNoCheck
  apply Box.mem_resetEmptyUpToDate
  apply Box.mem_setIv_self hx
  have h := addConstraintIv_sound hS.R (hx.2 v hv) ((ivRel_iff ty (x v) hd).2 hc)
  cases ty <;> exact h

example : (addIntervalConstraintNoCheck Cfg.mpq (Box.univ Policy.rational 2) 1 .ge (-3) 2).mem Policy.rational
    (fun _ => 2) := by
  apply addIntervalConstraintNoCheck_sound Cfg.mpq_sound (by decide) (by decide)
  · exact Box.mem_univ _ _ _
  · show (0 : Rat) ≤ ((2 : Int) : Rat) * 2 + ((-3 : Int) : Rat); norm_num

theorem extract_some_none {c : Con} (h : extractIntervalConstraint c = some none) : c.e.terms = [] := by
  unfold extractIntervalConstraint at h
  split at h <;> simp_all

theorem extract_some_some {c : Con} {v : Nat} (h : extractIntervalConstraint c = some (some v)) :
    ∃ a, c.e.terms = [(v, a)] := by
  unfold extractIntervalConstraint at h
  split at h
  · simp at h
  · rename_i w a hw
    simp only [Option.some.injEq] at h
    subst h
    exact ⟨a, hw⟩
  · simp at h

/-- when `extract_interval_constraint` fails, two variables at least occur -/
theorem extract_none {c : Con} (h : extractIntervalConstraint c = none) :
    ∃ t1 t2 ts, c.e.terms = t1 :: t2 :: ts := by
  unfold extractIntervalConstraint at h
  split at h
  · simp at h
  · simp at h
  · rename_i h1 h2
    rcases hts : c.e.terms with _ | ⟨t1, _ | ⟨t2, ts⟩⟩
    · exact absurd hts h1
    · exact absurd hts (h2 t1.1 t1.2)
    · exact ⟨t1, t2, ts, rfl⟩

/-- a constraint without variables that some point satisfies: the sign of its inhomogeneous term -/
theorem inhom_of_holds {c : Con} {x : Nat → Rat} (ht : c.e.terms = []) (hc : c.holds x) :
    match c.ty with
    | .eq => c.e.inhom = 0
    | .ge => 0 ≤ c.e.inhom
    | .gt => 0 < c.e.inhom := by
  have he : c.e.eval x = (c.e.inhom : Rat) := by rw [LinExpr.eval_eq_terms, ht]; simp
  unfold Con.holds at hc
  rw [he] at hc
  cases hty : c.ty <;> rw [hty] at hc <;> simp only at hc ⊢ <;> exact_mod_cast hc

/-- a consistent trivial constraint is not reported inconsistent -/
theorem trivialFalse_of_holds {c : Con} {x : Nat → Rat} (ht : c.e.terms = []) (hc : c.holds x) :
    trivialFalse c.ty c.e.inhom = false := by
  have h := inhom_of_holds ht hc
  unfold trivialFalse
  cases hty : c.ty <;> rw [hty] at h <;> simp only at h
  · simp [h]
  · simp; omega
  · simp; omega

/-- the arm `add_interval_constraint_no_check(v, type, inhomogeneous_term, coefficient(v))` -/
theorem intervalArm_sound {cfg : Cfg} (hS : cfg.Sound) {b : Box} {c : Con} {v : Nat} {a : Int} {x : Nat → Rat}
    (hwf : c.e.WF b.dim) (ht : c.e.terms = [(v, a)]) (hx : b.mem cfg.p x) (hc : c.holds x) :
    (addIntervalConstraintNoCheck cfg b v c.ty c.e.inhom (c.e.coeff v)).mem cfg.p x := by
  have hm : (v, a) ∈ c.e.terms := by rw [ht]; simp
  obtain ⟨ha, hcv, hlt⟩ := LinExpr.mem_terms hm
  have he := LinExpr.terms_singleton ht x
  rw [hcv]
  apply addIntervalConstraintNoCheck_sound hS (Nat.lt_of_lt_of_le hlt hwf) ha hx
  unfold Con.holds at hc
  rw [he] at hc
  cases hty : c.ty <;> rw [hty] at hc <;> exact hc

theorem addConstraintNoCheck_cases {cfg : Cfg} {b b' : Box} {c : Con} (h : addConstraintNoCheck cfg b c = some b') :
    b' = b ∨ (c.e.terms = [] ∧ b' = (if trivialFalse c.ty c.e.inhom then b.setEmpty else b)) ∨
      ∃ v a, c.e.terms = [(v, a)] ∧ b' = addIntervalConstraintNoCheck cfg b v c.ty c.e.inhom (c.e.coeff v) := by
  unfold addConstraintNoCheck at h
  cases hov : extractIntervalConstraint c with
  | none => rw [hov] at h; simp at h
  | some ov =>
    rw [hov] at h
    simp only at h
    by_cases h1 : (c.ty == CType.gt && ov.isSome && !cfg.p.storeOpen) = true
    · rw [if_pos h1] at h; simp at h
    · rw [if_neg h1] at h
      by_cases h2 : b.markedEmpty = true
      · rw [if_pos h2] at h; cases h; exact Or.inl rfl
      · rw [if_neg h2] at h
        cases ov with
        | none =>
          simp only [Option.some.injEq] at h
          exact Or.inr (Or.inl ⟨extract_some_none hov, h.symm⟩)
        | some v =>
          simp only [Option.some.injEq] at h
          obtain ⟨a, ht⟩ := extract_some_some hov
          exact Or.inr (Or.inr ⟨v, a, ht, h.symm⟩)

theorem addConstraintNoCheck_dim {cfg : Cfg} {b b' : Box} {c : Con} (h : addConstraintNoCheck cfg b c = some b') :
    b'.dim = b.dim := by
  rcases addConstraintNoCheck_cases h with rfl | ⟨_, rfl⟩ | ⟨v, a, _, rfl⟩
  · rfl
  · split_ifs <;> rfl
  · exact addIntervalConstraintNoCheck_dim ..

theorem addConstraintNoCheck_sound {cfg : Cfg} (hS : cfg.Sound) {b b' : Box} {c : Con} {x : Nat → Rat}
    (hwf : c.e.WF b.dim) (h : addConstraintNoCheck cfg b c = some b') (hx : b.mem cfg.p x) (hc : c.holds x) :
    b'.mem cfg.p x := by
  rcases addConstraintNoCheck_cases h with rfl | ⟨ht, rfl⟩ | ⟨v, a, ht, rfl⟩
  · exact hx
  · rw [trivialFalse_of_holds ht hc]; exact hx
  · exact intervalArm_sound hS hwf ht hx hc

example : ∃ b', addConstraintNoCheck Cfg.mpq (Box.univ Policy.rational 2) ⟨⟨[0, 2], -3⟩, .ge⟩ = some b' ∧
    b'.mem Policy.rational (fun _ => 2) := by
  refine ⟨_, rfl, ?_⟩
  apply addConstraintNoCheck_sound Cfg.mpq_sound (b := Box.univ Policy.rational 2) (c := ⟨⟨[0, 2], -3⟩, .ge⟩) (by simp [LinExpr.WF, Box.univ, Box.dim]) rfl
  · exact Box.mem_univ _ _ _
  · show (0 : Rat) ≤ LinExpr.eval ⟨[0, 2], -3⟩ (fun _ => 2)
    norm_num [LinExpr.eval, LinExpr.dot]

end PPLV.WR.BoxT

import PPLV.WR.Trans2Lat
import PPLV.WR.TransProofsMain
import Mathlib.Tactic.Linarith
import Mathlib.Data.List.Nodup
/-!
# Lattice / dimension operations of `BD_Shape<T>`: generic loop lemmas, index tables, meet and join over a region
of cells, closure with the flag
-/
namespace PPLV.WR
open ExtRat

theorem latMatExt {a b : Mat} (h : ∀ i j, a i j = b i j) : a = b := by
  cases a with
  | mk fa ba =>
    cases b with
    | mk fb bb =>
      have : fa = fb := by funext i j; exact h i j
      subst this; rfl

/-! ## loops: frame, invariant, the step that decides an observation -/

theorem latLoopUp_inv {α : Type} (Q : α → Prop) {n : Nat} {f : Nat → α → α} {s : α} (h0 : Q s)
    (hs : ∀ k s, k < n → Q s → Q (f k s)) : Q (loopUp n f s) := by
  induction n with
  | zero => exact h0
  | succ n ih =>
    simp only [loopUp]
    exact hs n _ (Nat.lt_succ_self n) (ih (fun k s hk => hs k s (Nat.lt_succ_of_lt hk)))

theorem latLoopDown_inv {α : Type} (Q : α → Prop) {n : Nat} {f : Nat → α → α} {s : α} (h0 : Q s)
    (hs : ∀ k s, k < n → Q s → Q (f k s)) : Q (loopDown n f s) := by
  induction n generalizing s with
  | zero => exact h0
  | succ n ih =>
    simp only [loopDown]
    exact ih (hs n s (Nat.lt_succ_self n) h0) (fun k s hk => hs k s (Nat.lt_succ_of_lt hk))

theorem latLoopUp_frame {α β : Type} (obs : α → β) {n : Nat} {f : Nat → α → α} {s : α}
    (h : ∀ k s, k < n → obs (f k s) = obs s) : obs (loopUp n f s) = obs s :=
  latLoopUp_inv (fun t => obs t = obs s) rfl (fun k t hk ht => by rw [h k t hk]; exact ht)

theorem latLoopDown_frame {α β : Type} (obs : α → β) {n : Nat} {f : Nat → α → α} {s : α}
    (h : ∀ k s, k < n → obs (f k s) = obs s) : obs (loopDown n f s) = obs s :=
  latLoopDown_inv (fun t => obs t = obs s) rfl (fun k t hk ht => by rw [h k t hk]; exact ht)

/-- the observation is decided by step `k0`, which runs in a state satisfying `Q` (an invariant of
the other steps) -/
theorem latLoopUp_cell {α β : Type} (obs : α → β) (Q : α → Prop) {n : Nat} {f : Nat → α → α} {s : α}
    {v : β} {k0 : Nat} (h0 : Q s) (hs : ∀ k s, k < n → k ≠ k0 → Q s → Q (f k s)) (hk0 : k0 < n)
    (hhit : ∀ s, Q s → obs (f k0 s) = v) (hmiss : ∀ k s, k < n → k ≠ k0 → obs (f k s) = obs s) :
    obs (loopUp n f s) = v := by
  induction n with
  | zero => omega
  | succ n ih =>
    simp only [loopUp]
    by_cases hk : k0 = n
    · subst hk
      exact hhit _ (latLoopUp_inv Q h0 (fun k s hk => hs k s (Nat.lt_succ_of_lt hk) (by omega)))
    · rw [hmiss n _ (Nat.lt_succ_self n) (fun h => hk h.symm)]
      exact ih (fun k s hk => hs k s (Nat.lt_succ_of_lt hk)) (by omega)
        (fun k s hk => hmiss k s (Nat.lt_succ_of_lt hk))

theorem latLoopDown_cell {α β : Type} (obs : α → β) (Q : α → Prop) {n : Nat} {f : Nat → α → α} {s : α}
    {v : β} {k0 : Nat} (h0 : Q s) (hs : ∀ k s, k < n → k ≠ k0 → Q s → Q (f k s)) (hk0 : k0 < n)
    (hhit : ∀ s, Q s → obs (f k0 s) = v) (hmiss : ∀ k s, k < n → k ≠ k0 → obs (f k s) = obs s) :
    obs (loopDown n f s) = v := by
  induction n generalizing s with
  | zero => omega
  | succ n ih =>
    simp only [loopDown]
    by_cases hk : k0 = n
    · subst hk
      rw [latLoopDown_frame obs (fun k s hk => hmiss k s (Nat.lt_succ_of_lt hk) (by omega))]
      exact hhit s h0
    · exact ih (hs n s (Nat.lt_succ_self n) (fun h => hk h.symm) h0)
        (fun k s hk => hs k s (Nat.lt_succ_of_lt hk)) (by omega)
        (fun k s hk => hmiss k s (Nat.lt_succ_of_lt hk))

/-! ## `max_assign` -/

theorem latMaxA_ge_left (a b : ExtRat) : a ≤ latMaxA a b := by
  unfold latMaxA; split
  · exact le_rfl' _
  · rcases le_total' a b with h | h
    · exact h
    · contradiction

theorem latMaxA_ge_right (a b : ExtRat) : b ≤ latMaxA a b := by
  unfold latMaxA; split
  · assumption
  · exact le_rfl' _

theorem latMaxA_le {a b c : ExtRat} (h1 : a ≤ c) (h2 : b ≤ c) : latMaxA a b ≤ c := by
  unfold latMaxA; split <;> assumption

/-! ## strictly increasing tables of indices, read with `getD` -/

theorem latGetD_mem {l : List Nat} {a : Nat} (ha : a < l.length) : l.getD a 0 ∈ l := by
  rw [List.getD_eq_getElem?_getD, List.getElem?_eq_getElem ha]
  exact List.getElem_mem ha

theorem latGetD_le {l : List Nat} {B : Nat} (h : ∀ s, s ∈ l → s ≤ B) (a : Nat) : l.getD a 0 ≤ B := by
  rw [List.getD_eq_getElem?_getD]
  cases hq : l[a]? with
  | none => simp
  | some v => simp only [Option.getD_some]; exact h v (List.mem_of_getElem? hq)

theorem latGetD_strict {l : List Nat} (hs : l.Pairwise (· < ·)) {a b : Nat} (hab : a < b) (hb : b < l.length) :
    l.getD a 0 < l.getD b 0 := by
  rw [List.getD_eq_getElem?_getD, List.getD_eq_getElem?_getD, List.getElem?_eq_getElem (by omega),
    List.getElem?_eq_getElem hb]
  exact List.pairwise_iff_getElem.1 hs a b (by omega) hb hab

theorem latGetD_mono {l : List Nat} (hs : l.Pairwise (· < ·)) {a b : Nat} (hab : a ≤ b) (hb : b < l.length) :
    l.getD a 0 ≤ l.getD b 0 := by
  rcases Nat.lt_or_eq_of_le hab with h | rfl
  · exact Nat.le_of_lt (latGetD_strict hs h hb)
  · exact le_refl _

theorem latGetD_inj {l : List Nat} (hs : l.Pairwise (· < ·)) {a b : Nat} (ha : a < l.length) (hb : b < l.length)
    (h : l.getD a 0 = l.getD b 0) : a = b := by
  rcases Nat.lt_trichotomy a b with hab | hab | hab
  · have := latGetD_strict hs hab hb; omega
  · exact hab
  · have := latGetD_strict hs hab ha; omega

theorem latGetD_idxOf {l : List Nat} (hs : l.Pairwise (· < ·)) {a : Nat} (ha : a < l.length) :
    l.idxOf (l.getD a 0) = a := by
  have hnodup : l.Nodup := hs.imp (fun h => Nat.ne_of_lt h)
  rw [List.getD_eq_getElem?_getD, List.getElem?_eq_getElem ha, Option.getD_some, hnodup.idxOf_getElem a ha]

/-! ## points

A region `S` of cells and a potential `p` stand for both domains: `γB n m` is `Holds (SB (n + 1)) (DBM.val x) m`,
`γO n m` is `Holds (SO n) (OctM.oval x) m`. -/

theorem latHolds_minA {S : Nat → Nat → Prop} {p : Nat → Rat} {m1 m2 r : Mat}
    (h : ∀ a b, S a b → r a b = minA (m1 a b) (m2 a b)) : Holds S p r ↔ Holds S p m1 ∧ Holds S p m2 := by
  refine ⟨fun hr => ⟨fun a b hab => ?_, fun a b hab => ?_⟩, fun hm a b hab => ?_⟩
  · have := hr a b hab; rw [h a b hab] at this; exact le_trans' this (minA_le_left _ _)
  · have := hr a b hab; rw [h a b hab] at this; exact le_trans' this (minA_le_right _ _)
  · rw [h a b hab]; exact le_minA (hm.1 a b hab) (hm.2 a b hab)

theorem latHolds_maxA {S : Nat → Nat → Prop} {p : Nat → Rat} {x y r : Mat}
    (h : ∀ a b, S a b → r a b = latMaxA (x a b) (y a b)) (hp : Holds S p x ∨ Holds S p y) : Holds S p r := by
  intro a b hab
  rw [h a b hab]
  rcases hp with hp | hp
  · exact le_trans' (hp a b hab) (latMaxA_ge_left _ _)
  · exact le_trans' (hp a b hab) (latMaxA_ge_right _ _)

theorem latGammaB_iff (n : Nat) (m : Mat) (x : Nat → Rat) :
    x ∈ γB n m ↔ ∀ a b, a ≤ n → b ≤ n → fin (DBM.val x b - DBM.val x a) ≤ m a b := by
  constructor
  · intro h a b ha hb; exact h a b ⟨by omega, by omega⟩
  · intro h a b hab; exact h a b (by have := hab.1; omega) (by have := hab.2; omega)

/-- the class invariant of `BD_Shape::OK()` on a raw matrix: `+∞` on the main diagonal -/
def bdsLatDiag (n : Nat) (m : Mat) : Prop := ∀ i, i ≤ n → m i i = pinf

theorem bdsLatDiag_dbm {n : Nat} (m : DBM n) : bdsLatDiag n m.e := m.diag

/-! ## the closure with the flag -/

theorem latGammaB_ofMat {n : Nat} {m : Mat} {x : Nat → Rat} (hx : x ∈ γB n m) :
    x ∈ DBM.γ (DBM.ofMat n m) :=
  (DBM.sat_iff_holds _ x).2 (holds_diagDown_pinf hx)

theorem bdsLatClose_sound {up : Rat → ExtRat} (hup : ∀ q, fin q ≤ up q) (n : Nat) (c : Bool) (m : Mat)
    {x : Nat → Rat} (hx : x ∈ γB n m) :
    ∃ m' c', bdsLatClose up n c m = some (m', c') ∧ x ∈ γB n m' := by
  unfold bdsLatClose
  split
  · exact ⟨m, true, rfl, hx⟩
  · split
    · exact ⟨m, false, rfl, hx⟩
    · obtain ⟨m', h1, h2⟩ := closeFirst_sound hup false (DBM.ofMat n m) (latGammaB_ofMat hx)
      exact ⟨m', true, by rw [h1]; rfl, h2⟩

/-- how `bdsLatClose` answers `some`: the matrix comes back as it is (flag set, or dimension 0), or the closure ran,
did not find the shape empty, and its result comes back with the flag set -/
theorem bdsLatClose_cases {up : Rat → ExtRat} {n : Nat} {c : Bool} {m m' : Mat} {c' : Bool}
    (h : bdsLatClose up n c m = some (m', c')) :
    ((c = true ∨ n = 0) ∧ m' = m ∧ c' = c) ∨
      (c = false ∧ n ≠ 0 ∧ DBM.closureEmpty up (DBM.ofMat n m) = false ∧
        m' = (DBM.closure up (DBM.ofMat n m)).e ∧ c' = true) := by
  unfold bdsLatClose closeFirst at h
  cases c with
  | true =>
    simp only [if_true, Option.some.injEq, Prod.mk.injEq] at h
    exact Or.inl ⟨Or.inl rfl, h.1.symm, h.2.symm⟩
  | false =>
    simp only [Bool.false_eq_true, if_false] at h
    split at h
    · rename_i hn
      simp only [Option.some.injEq, Prod.mk.injEq] at h
      exact Or.inl ⟨Or.inr hn, h.1.symm, h.2.symm⟩
    · rename_i hn
      split at h
      · simp at h
      · rename_i hne
        simp only [Option.map_some, Option.some.injEq, Prod.mk.injEq] at h
        exact Or.inr ⟨rfl, hn, by simpa using hne, h.1.symm, h.2.symm⟩

theorem bdsLatClose_ran {up : Rat → ExtRat} {n : Nat} (hn : n ≠ 0) {m m' : Mat} {c' : Bool}
    (h : bdsLatClose up n false m = some (m', c')) :
    DBM.closureEmpty up (DBM.ofMat n m) = false ∧ m' = (DBM.closure up (DBM.ofMat n m)).e := by
  rcases bdsLatClose_cases h with ⟨hc | hc, _⟩ | ⟨_, _, h1, h2, _⟩
  · cases hc
  · exact absurd hc hn
  · exact ⟨h1, h2⟩

/-- the closed matrix denotes a subset (class invariant: `+∞` on the diagonal of the argument) -/
theorem bdsLatClose_sub {up : Rat → ExtRat} (hup : ∀ q, fin q ≤ up q) {n : Nat} {c : Bool} {m : Mat}
    (hd : bdsLatDiag n m) {m' : Mat} {c' : Bool} (h : bdsLatClose up n c m = some (m', c'))
    {x : Nat → Rat} (hx : x ∈ γB n m') : x ∈ γB n m := by
  rcases bdsLatClose_cases h with ⟨_, rfl, _⟩ | ⟨_, _, _, rfl, _⟩
  · exact hx
  · intro a b hab
    have h1 := hx a b hab
    have h2 := DBM.closure_le hup (DBM.ofMat n m) a b (by have := hab.1; omega) (by have := hab.2; omega)
    refine le_trans' h1 (le_trans' h2 ?_)
    show Mat.diagDown (n+1) pinf m a b ≤ m a b
    rw [Mat.diagDown_apply]
    split
    · rename_i hc
      obtain ⟨rfl, _⟩ := hc
      rw [hd a (by omega)]; exact le_rfl' _
    · exact le_rfl' _

theorem bdsLatClose_diag {up : Rat → ExtRat} {n : Nat} {c : Bool} {m : Mat}
    (hd : bdsLatDiag n m) {m' : Mat} {c' : Bool} (h : bdsLatClose up n c m = some (m', c')) :
    bdsLatDiag n m' := by
  rcases bdsLatClose_cases h with ⟨_, rfl, _⟩ | ⟨_, _, _, rfl, _⟩
  · exact hd
  · exact (DBM.closure up (DBM.ofMat n m)).diag

/-- the closure answers "empty" only for an empty shape -/
theorem bdsLatClose_none {up : Rat → ExtRat} (hup : ∀ q, fin q ≤ up q) {n : Nat} {c : Bool} {m : Mat}
    (h : bdsLatClose up n c m = none) : γB n m = ∅ := by
  refine Set.eq_empty_iff_forall_notMem.2 (fun x hx => ?_)
  obtain ⟨m', c', h1, _⟩ := bdsLatClose_sound hup n c m hx
  rw [h] at h1; simp at h1

end PPLV.WR

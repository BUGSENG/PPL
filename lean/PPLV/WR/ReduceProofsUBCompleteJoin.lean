import PPLV.WR.ReduceProofsUB
/-!
# The pointwise maximum of two closed difference-bound matrices

* `DBM.join_isClosed`: the pointwise maximum of two shortest-path closed matrices is shortest-path closed;
* `DBM.γ_join_least`: a closed matrix is the tightest description of its set of points (`DBM.le_of_γ_subset`), so
  the join is below every bounded-difference shape that contains both operands, hence
  (`DBM.join_of_union_eq`) a union that is a bounded-difference shape is the join.
-/
namespace PPLV.WR
open ExtRat (fin pinf)

namespace DBM
variable {n : Nat}

theorem z_le_join_left (x y : DBM n) (a b : Nat) : x.z a b ≤ (join x y).z a b := by
  unfold z
  rw [Mat.diagDown_apply, Mat.diagDown_apply]
  split
  · exact ExtRat.le_rfl' _
  · exact ExtRat.le_maxA_left _ _

theorem z_le_join_right (x y : DBM n) (a b : Nat) : y.z a b ≤ (join x y).z a b := by
  unfold z
  rw [Mat.diagDown_apply, Mat.diagDown_apply]
  split
  · exact ExtRat.le_rfl' _
  · exact ExtRat.le_maxA_right _ _

theorem join_z_cases (x y : DBM n) (a b : Nat) : (join x y).z a b = x.z a b ∨ (join x y).z a b = y.z a b := by
  unfold z
  rw [Mat.diagDown_apply, Mat.diagDown_apply, Mat.diagDown_apply]
  split
  · exact Or.inl rfl
  · exact ExtRat.maxA_cases _ _

/-- the pointwise maximum of two closed matrices is closed -/
theorem join_isClosed {x y : DBM n} (hx : x.IsClosed) (hy : y.IsClosed) : (join x y).IsClosed := by
  refine ⟨fun i hi => (join x y).z_self (by omega), fun i j k hi hj hk => ?_⟩
  show (join x y).z i j ≤ eadd ((join x y).z i k) ((join x y).z k j)
  rcases join_z_cases x y i j with e | e <;> rw [e]
  · exact ExtRat.le_trans' (hx.closed.tri i j k hi hj hk)
      (eadd_mono (z_le_join_left x y i k) (z_le_join_left x y k j))
  · exact ExtRat.le_trans' (hy.closed.tri i j k hi hj hk)
      (eadd_mono (z_le_join_right x y i k) (z_le_join_right x y k j))

/-- the join of two closed matrices is included in every bounded-difference shape containing both -/
theorem γ_join_least {x y : DBM n} (hx : x.IsClosed) (hy : y.IsClosed) (Q : DBM n)
    (h1 : DBM.γ x ⊆ DBM.γ Q) (h2 : DBM.γ y ⊆ DBM.γ Q) : DBM.γ (join x y) ⊆ DBM.γ Q := by
  intro p hp i j hi hj
  by_cases hij : i = j
  · rw [hij, Q.diag j hj]; exact ExtRat.le_pinf _
  · exact ExtRat.le_trans' (hp i j hi hj)
      (ExtRat.maxA_le (le_of_γ_subset hx Q h1 hi hj hij) (le_of_γ_subset hy Q h2 hi hj hij))

/-- if the union of two closed shapes is a bounded-difference shape, it is their join -/
theorem join_of_union_eq {x y : DBM n} (hx : x.IsClosed) (hy : y.IsClosed) (Q : DBM n)
    (h : DBM.γ Q = DBM.γ x ∪ DBM.γ y) : DBM.γ (join x y) = DBM.γ x ∪ DBM.γ y :=
  union_eq_of_least (γ_subset_join_left x y) (γ_subset_join_right x y) (γ_join_least hx hy Q) h

end DBM
end PPLV.WR

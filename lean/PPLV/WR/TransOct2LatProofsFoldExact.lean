import PPLV.WR.TransOct2LatProofsRemoveExact
/-!
# Exact arithmetic: `Octagonal_Shape<T>::fold_space_dimensions` computes the least octagon containing every
folded piece

Every `max_assign` of the code joins into a cell `(a, b)` of `dest` the cell of the folded variable `w` that
bounds the same difference after the substitution `dest := w` (or its coherent twin); the closed matrix is
tight, so each such source cell is attained by a point of the shape, whose folded piece lies in every octagon
`d` containing the pieces.
-/
namespace PPLV.WR
open ExtRat

/-- a stored cell that bounds, after the substitution, the difference `b - a`: tightness gives the bound `t` -/
theorem octLatSub_cell_le {n : Nat} {c : OctM n} (hc : c.IsStronglyClosed) {dest w a b : Nat} {t : ExtRat}
    (H : ∀ x, c.Sat x →
      fin (OctM.oval (upd x dest (x w)) b - OctM.oval (upd x dest (x w)) a) ≤ t)
    {c' e : Nat} (hc' : c' < 2 * n) (he : e < rowSize c') (hne : c' ≠ e)
    (hid : (c' = octLatSub dest w a ∧ e = octLatSub dest w b) ∨
      (c' = cidx (octLatSub dest w b) ∧ e = cidx (octLatSub dest w a))) : c.e c' e ≤ t := by
  have he' : e < 2 * n := lt_of_lt_of_le he (rowSize_le hc')
  have key : ∀ x, c.Sat x → fin (OctM.oval x e - OctM.oval x c') ≤ t := fun x hx => by
    rw [octLatSub_diff x dest w hid]; exact H x hx
  have hfull := raw_eq_octFull c.e he hne
  cases ht : t with
  | pinf => exact le_pinf _
  | fin v =>
    cases hu : c.e c' e with
    | fin u =>
      obtain ⟨x, hx, hd⟩ := hc.exists_point_ge hc' he' (w := u) (by rw [← hfull, hu]; exact le_rfl' _)
      have := key x hx
      rw [ht, fin_le_fin] at this
      rw [fin_le_fin]; linarith
    | pinf =>
      exfalso
      obtain ⟨x, hx, hd⟩ := hc.exists_point_ge hc' he' (w := v + 1) (by rw [← hfull, hu]; exact le_pinf _)
      have := key x hx
      rw [ht, fin_le_fin] at this
      linarith

/-- the invariant of the `max_assign`s for one fixed cell `(a, b)` and bound `t`: cells without an index of
`dest` are untouched, the cell stays below `t` -/
def octLatFoldInv (dest : Nat) (m' : Mat) (a b : Nat) (t : ExtRat) (S : Mat) : Prop :=
  (∀ i j, i / 2 ≠ dest → j / 2 ≠ dest → S i j = m' i j) ∧ S a b ≤ t

theorem octLatFoldInv_op {dest : Nat} {m' : Mat} {a b : Nat} {t : ExtRat} {S : Mat}
    (h : octLatFoldInv dest m' a b t S) {a' b' c' e : Nat} (htgt : a' / 2 = dest ∨ b' / 2 = dest)
    (hsrc : c' / 2 ≠ dest ∧ e / 2 ≠ dest) (hsem : a' = a → b' = b → m' c' e ≤ t) :
    octLatFoldInv dest m' a b t (latMaxAt S a' b' c' e) := by
  unfold latMaxAt
  constructor
  · intro i j hi hj
    simp only [Mat.set_apply]
    rw [if_neg (by intro hc; obtain ⟨rfl, rfl⟩ := hc; rcases htgt with h' | h' <;> omega)]
    exact h.1 i j hi hj
  · simp only [Mat.set_apply]
    split
    · rename_i hc
      obtain ⟨rfl, rfl⟩ := hc
      refine latMaxA_le h.2 ?_
      rw [h.1 c' e hsrc.1 hsrc.2]
      exact hsem rfl rfl
    · exact h.2

section
variable {n : Nat} {c : OctM n} (hc : c.IsStronglyClosed) {dest w a b : Nat} {t : ExtRat}
  (H : ∀ x, c.Sat x → fin (OctM.oval (upd x dest (x w)) b - OctM.oval (upd x dest (x w)) a) ≤ t)
include hc H

/-! The `max_assign`s of the code come in five forms. With `D = 2 dest + s`, `T = 2 w + s` and `x` an index of
another variable, the full-view cell `(T, x)` is joined into `(D, x)`; each of the two is stored as it stands
when `x` lies below the variable, and as its coherent twin when `x` lies above. -/

/-- the two unary cells of `dest` -/
theorem octLatFoldInv_dd (hwn : w < n) (hwd : w ≠ dest) {s s' : Nat} (hs : s + s' = 1) {S : Mat}
    (hS : octLatFoldInv dest c.e a b t S) :
    octLatFoldInv dest c.e a b t (latMaxAt S (2 * dest + s) (2 * dest + s') (2 * w + s) (2 * w + s')) := by
  refine octLatFoldInv_op hS (Or.inl (by omega)) ⟨by omega, by omega⟩ ?_
  rintro rfl rfl
  exact octLatSub_cell_le hc H (by omega) (by unfold rowSize; omega) (by omega)
    (Or.inl ⟨(octLatSub_dest dest w (by omega)).symm, (octLatSub_dest dest w (by omega)).symm⟩)

/-- `x` below both variables -/
theorem octLatFoldInv_ll (hwn : w < n) (hwd : w ≠ dest) (s x : Nat) (hs : s < 2) (h1 : x < 2 * dest)
    (h2 : x < 2 * w) {S : Mat} (hS : octLatFoldInv dest c.e a b t S) :
    octLatFoldInv dest c.e a b t (latMaxAt S (2 * dest + s) x (2 * w + s) x) := by
  refine octLatFoldInv_op hS (Or.inl (by omega)) ⟨by omega, by omega⟩ ?_
  rintro rfl rfl
  exact octLatSub_cell_le hc H (by omega) (by unfold rowSize; omega) (by omega)
    (Or.inl ⟨(octLatSub_dest dest w hs).symm, (octLatSub_other w (by omega)).symm⟩)

/-- `x` above both variables -/
theorem octLatFoldInv_hh (hwd : w ≠ dest) (s x : Nat) (hs : s < 2) (h1 : 2 * dest + 2 ≤ x) (h2 : 2 * w + 2 ≤ x) (hx : x < 2 * n)
    {S : Mat} (hS : octLatFoldInv dest c.e a b t S) :
    octLatFoldInv dest c.e a b t (latMaxAt S x (2 * dest + s) x (2 * w + s)) := by
  refine octLatFoldInv_op hS (Or.inr (by omega)) ⟨by omega, by omega⟩ ?_
  rintro rfl rfl
  exact octLatSub_cell_le hc H hx (by unfold rowSize; omega) (by omega)
    (Or.inl ⟨(octLatSub_other w (by omega)).symm, (octLatSub_dest dest w hs).symm⟩)

/-- `x` between `dest` and `w` -/
theorem octLatFoldInv_hl (hwn : w < n) (s s' x : Nat) (hs : s + s' = 1) (h1 : 2 * dest + 2 ≤ x) (h2 : x < 2 * w)
    {S : Mat} (hS : octLatFoldInv dest c.e a b t S) :
    octLatFoldInv dest c.e a b t (latMaxAt S (cidx x) (2 * dest + s) (2 * w + s') x) := by
  refine octLatFoldInv_op hS (Or.inr (by omega)) ⟨by omega, by omega⟩ ?_
  rintro rfl rfl
  refine octLatSub_cell_le hc H (by omega) (by unfold rowSize; omega) (by omega) (Or.inr ⟨?_, ?_⟩)
  · rw [octLatSub_dest dest w (by omega), cidx_add_one hs]
  · rw [octLatSub_other w (by rw [cidx_half]; omega), cidx_cidx]

/-- `x` between `w` and `dest` -/
theorem octLatFoldInv_lh (hdn : dest < n) (s s' x : Nat) (hs : s + s' = 1) (h1 : x < 2 * dest) (h2 : 2 * w + 2 ≤ x)
    {S : Mat} (hS : octLatFoldInv dest c.e a b t S) :
    octLatFoldInv dest c.e a b t (latMaxAt S (2 * dest + s) x (cidx x) (2 * w + s')) := by
  have hx := le_cidx (k := w + 1) h2
  refine octLatFoldInv_op hS (Or.inl (by omega)) ⟨by rw [cidx_half]; omega, by omega⟩ ?_
  rintro rfl rfl
  refine octLatSub_cell_le hc H (cidx_lt (by omega)) (by unfold rowSize; omega) (by omega) (Or.inr ⟨?_, ?_⟩)
  · rw [octLatSub_other w (by omega)]
  · rw [octLatSub_dest dest w (by omega), cidx_add_one hs]

theorem octLatFoldL1_inv (hwn : w < n) (hwd : w ≠ dest) {S0 : Mat} (hS0 : octLatFoldInv dest c.e a b t S0) :
    octLatFoldInv dest c.e a b t (octLatFoldL1 (2 * dest) (2 * w) S0) := by
  unfold octLatFoldL1
  refine latLoopUp_inv (octLatFoldInv dest c.e a b t) hS0 ?_
  intro j S hj hS
  have h1 : j < 2 * dest := by omega
  have h2 : j < 2 * w := by omega
  have ll := octLatFoldInv_ll hc H hwn hwd
  exact ll 0 _ (by omega) (cidx_lt h1) (cidx_lt h2) (ll 1 _ (by omega) (cidx_lt h1) (cidx_lt h2)
    (ll 1 j (by omega) h1 h2 (ll 0 j (by omega) h1 h2 hS)))

theorem octLatFoldL2_inv (hdn : dest < n) (hwn : w < n) {S0 : Mat} (hS0 : octLatFoldInv dest c.e a b t S0) :
    octLatFoldInv dest c.e a b t (octLatFoldL2 (2 * dest) (2 * w) S0) := by
  unfold octLatFoldL2
  refine latLoopUp_inv (octLatFoldInv dest c.e a b t) hS0 ?_
  intro s S hs hS
  dsimp only
  generalize hj : min (2 * dest) (2 * w) + 2 + s = j
  have hcc := cidx_cidx j
  split
  · have h1 : 2 * (dest + 1) ≤ j := by omega
    have h2 : j < 2 * w := by omega
    have hl := octLatFoldInv_hl hc H hwn
    have s4 := hl 1 0 _ rfl (le_cidx h1) (cidx_lt h2) (hl 0 1 _ rfl (le_cidx h1) (cidx_lt h2)
      (hl 0 1 j rfl h1 h2 (hl 1 0 j rfl h1 h2 hS)))
    rwa [hcc] at s4
  · have h1 : j < 2 * dest := by omega
    have h2 : 2 * (w + 1) ≤ j := by omega
    have lh := octLatFoldInv_lh hc H hdn
    have s4 := lh 0 1 _ rfl (cidx_lt h1) (le_cidx h2) (lh 1 0 _ rfl (cidx_lt h1) (le_cidx h2)
      (lh 1 0 j rfl h1 h2 (lh 0 1 j rfl h1 h2 hS)))
    rwa [hcc] at s4

theorem octLatFoldL3_inv (hwd : w ≠ dest) {S0 : Mat} (hS0 : octLatFoldInv dest c.e a b t S0) :
    octLatFoldInv dest c.e a b t (octLatFoldL3 n (2 * dest) (2 * w) S0) := by
  unfold octLatFoldL3
  refine latLoopUp_inv (octLatFoldInv dest c.e a b t) hS0 ?_
  intro s S hs hS
  dsimp only
  generalize hj : max (2 * dest) (2 * w) + 2 + s = j
  have h1 : 2 * (dest + 1) ≤ j := by omega
  have h2 : 2 * (w + 1) ≤ j := by omega
  have h3 : j < 2 * n := by omega
  have hh := octLatFoldInv_hh hc H hwd
  exact hh 1 j (by omega) h1 h2 h3 (hh 0 j (by omega) h1 h2 h3 (hh 0 _ (by omega) (le_cidx h1) (le_cidx h2)
    (cidx_lt h3) (hh 1 _ (by omega) (le_cidx h1) (le_cidx h2) (cidx_lt h3) hS)))

theorem octLatFoldOne_inv (hdn : dest < n) (hwn : w < n) (hwd : w ≠ dest) {S : Mat} (hS : octLatFoldInv dest c.e a b t S) :
    octLatFoldInv dest c.e a b t (octLatFoldOne n dest w S) := by
  rw [octLatFoldOne_eq]
  exact octLatFoldL3_inv hc H hwd (octLatFoldL2_inv hc H hdn hwn (octLatFoldL1_inv hc H hwn hwd
    (octLatFoldInv_dd hc H hwn hwd (s := 1) (s' := 0) rfl (octLatFoldInv_dd hc H hwn hwd (s := 0) (s' := 1) rfl hS))))

end

theorem octLatFoldAll_inv {n : Nat} {c : OctM n} (hc : c.IsStronglyClosed) {dest a b : Nat} {t : ExtRat}
    (hdn : dest < n) (vars : List Nat) (hvs : ∀ v, v ∈ vars → v < n) (hdv : dest ∉ vars)
    (H : ∀ w, w ∈ vars → ∀ x, c.Sat x →
      fin (OctM.oval (upd x dest (x w)) b - OctM.oval (upd x dest (x w)) a) ≤ t)
    {S : Mat} (hS : octLatFoldInv dest c.e a b t S) :
    octLatFoldInv dest c.e a b t (octLatFoldAll n dest vars S) := by
  unfold octLatFoldAll
  induction vars generalizing S with
  | nil => exact hS
  | cons w ws ih =>
    simp only [List.foldl_cons]
    refine ih (fun v hv => hvs v (List.mem_cons_of_mem _ hv)) (fun h => hdv (List.mem_cons_of_mem _ h))
      (fun v hv => H v (List.mem_cons_of_mem _ hv)) ?_
    exact octLatFoldOne_inv hc (H w List.mem_cons_self) hdn (hvs w List.mem_cons_self)
      (fun h => hdv (h ▸ List.mem_cons_self)) hS

theorem octLatDropPoint_oval (n : Nat) (vars : List Nat) (z : Nat → Rat) (C : Nat) :
    OctM.oval (octLatDropPoint n vars z) C = OctM.oval z (octLatIota (octLatRemoveTable n vars) C) :=
  octLatIota_oval _ z C

/-- `fold_space_dimensions(vars, dest)`, exact arithmetic, closure run inside: the result is the least octagon
containing every folded piece -/
theorem octLatFold_exact (n : Nat) (m : Mat) (hd : octLatDiag n m) (vars : List Nat) (dest : Nat)
    (hne : vars ≠ []) (hvs : ∀ v, v ∈ vars → v < n) (hdest : dest < n)
    (hdv : dest ∉ vars) :
    match octLatFold Rnd.exact n false m vars dest with
    | none => γO n m = ∅
    | some r => r.dim = n - vars.length ∧
        ∀ d : Mat, (∀ x w, x ∈ γO n m → (w = dest ∨ w ∈ vars) →
            octLatDropPoint n vars (upd x dest (x w)) ∈ γO r.dim d) → γO r.dim r.m ⊆ γO r.dim d := by
  unfold octLatFold
  have hie : vars.isEmpty = false := List.isEmpty_eq_false_iff.2 hne
  simp only [hie, Bool.false_eq_true, if_false]
  rw [latExactUpO]
  have hn : n ≠ 0 := by omega
  cases e : octLatClose upId n false m with
  | none =>
    exact octLatClose_none_empty e
  | some mc =>
    obtain ⟨m', c'⟩ := mc
    dsimp only
    obtain ⟨c, ce, hs, hsat⟩ := octLatClose_strong hn hd e
    have hc' := octLatClose_closed hn e
    subst hc'
    unfold octLatRemoveDims
    simp only [hie, Bool.false_eq_true, if_false, octLatClose, if_true]
    by_cases h0 : n - vars.length = 0
    · simp only [if_pos h0]
      refine ⟨h0.symm, fun d _ p _ A B hAB => ?_⟩
      have : A < 2 * 0 := hAB.1
      omega
    · simp only [if_neg h0]
      refine ⟨trivial, fun d hpieces p hp A B hAB => ?_⟩
      have hA : A < 2 * (n - vars.length) := hAB.1
      have hBs : B < rowSize A := hAB.2
      have hB : B < 2 * (n - vars.length) := lt_of_lt_of_le hBs (rowSize_le hA)
      have hsT := octLatRemoveTable_sorted n vars
      have hltT := octLatRemoveTable_lt n vars hvs
      have hlenT := octLatRemoveTable_length n vars hvs
      -- the pieces, read at the cell `(A, B)`
      have Hw : ∀ w, (w = dest ∨ w ∈ vars) → ∀ x, c.Sat x →
          fin (OctM.oval (upd x dest (x w)) (octLatIota (octLatRemoveTable n vars) B) -
            OctM.oval (upd x dest (x w)) (octLatIota (octLatRemoveTable n vars) A)) ≤ d A B := by
        intro w hw x hx
        have := hpieces x w ((hsat x).1 hx) hw A B hAB
        rw [octLatDropPoint_oval, octLatDropPoint_oval] at this
        exact this
      have hpAB := hp A B hAB
      rw [octLatReindex_apply, ← ce] at hpAB
      by_cases hABne : A = B
      · subst hABne
        obtain ⟨q, hq⟩ := (octLatCanon_of_strong hn hs).1
        have := Hw dest (Or.inl rfl) q ((OctM.sat_iff_holds c q).2 hq)
        simpa using this
      · refine le_trans' hpAB ?_
        have hA2 : A / 2 < (octLatRemoveTable n vars).length := by omega
        have hB2 : B / 2 < (octLatRemoveTable n vars).length := by omega
        have hinit : octLatFoldInv dest c.e (octLatIota (octLatRemoveTable n vars) A)
            (octLatIota (octLatRemoveTable n vars) B) (d A B) c.e := by
          refine ⟨fun _ _ _ _ => rfl, ?_⟩
          exact octLatSub_cell_le hs (Hw dest (Or.inl rfl)) (octLatIota_lt hltT hA2) (octLatIota_stored hsT hA2 hBs)
            (fun h => hABne (octLatIota_inj hsT hA2 hB2 h)) (Or.inl ⟨(octLatSub_self dest _).symm, (octLatSub_self dest _).symm⟩)
        exact (octLatFoldAll_inv hs hdest vars hvs hdv (fun w hw => Hw w (Or.inr hw)) hinit).2

end PPLV.WR

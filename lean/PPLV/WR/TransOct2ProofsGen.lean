import PPLV.WR.TransOct2Gen
import PPLV.WR.TransOctProofsExploit
import PPLV.WR.TransProofsRefine
/-!
# `Octagonal_Shape<T>::generalized_affine_image(var, …)`: the general case (one sum, accumulated with `break`)
-/
namespace PPLV.WR
open ExtRat

section
variable {R : Rnd} {m : Mat} {w : Nat} {g : Nat → Int} {B : Rat} {k : Nat} {st : Acc}

theorem octAccStepG_inv (hR : R.Sound) (hcoef : CoeffExact R g) (h : OAccInv R.up m w g B k st) (hk : k < w) :
    OAccInv R.up m w g B (k+1) (octAccStepG R m g true k st) := by
  unfold octAccStepG
  dsimp only
  by_cases hc : st.cnt > 1
  · rw [if_pos hc]; exact OAccInv.dead hc
  rw [if_neg hc]
  by_cases h0 : g k = 0
  · rw [if_pos h0]; exact h.skip h0
  rw [if_neg h0]
  have happ : (if decide (g k > 0) = true then m (2 * k + 1) (2 * k) else m (2 * k) (2 * k + 1))
      = duaOf m g k := by
    unfold duaOf; by_cases hp : g k > 0 <;> simp [hp]
  rw [happ]
  cases hA : duaOf m g k with
  | pinf =>
    rw [show pinf.isPinf = true from rfl, if_pos rfl]
    by_cases h2 : st.cnt + 1 > 1
    · rw [if_pos h2]; exact OAccInv.dead h2
    · rw [if_neg h2]; exact h.pinf hk h0
  | fin A =>
    rw [show (fin A).isPinf = false from rfl, if_neg (by decide)]
    have := h.addMul hR hk h0 (hcoef k h0) (by rw [hA]; simp)
    rw [hA] at this
    exact this

theorem octAccLoopG_inv (hR : R.Sound) (hcoef : CoeffExact R g) (st0 : Acc) (h0 : OAccInv R.up m w g B 0 st0) :
    ∀ k, k ≤ w → OAccInv R.up m w g B k (loopUp k (octAccStepG R m g true) st0) := by
  intro k
  induction k with
  | zero => intro _; exact h0
  | succ k ih => intro hk; simp only [loopUp]; exact octAccStepG_inv hR hcoef (ih (by omega)) (by omega)

end

theorem octAccStepG_false (R : Rnd) (m : Mat) (sc : Nat → Int) :
    octAccStepG R m sc false = octAccStepG R m (fun j => - sc j) true := by
  funext i st
  unfold octAccStepG
  dsimp only
  rcases lt_trichotomy (sc i) 0 with h | h | h
  · have h1 : ¬ sc i = 0 := by omega
    have h2 : ¬ - sc i = 0 := by omega
    have h3 : ¬ sc i > 0 := by omega
    have h4 : - sc i > 0 := by omega
    simp only [h1, h2, h3, h4, absI_neg, if_false, decide_false, decide_true, if_true]
  · simp [h]
  · have h1 : ¬ sc i = 0 := by omega
    have h2 : ¬ - sc i = 0 := by omega
    have h3 : sc i > 0 := by omega
    have h4 : ¬ - sc i > 0 := by omega
    simp only [h1, h2, h3, h4, absI_neg, if_false, decide_false, decide_true]
    simp

/-- `pinf_index` is assigned only when `pinf_count` becomes `1` -/
theorem octAccLoopG_idx0 (R : Rnd) (m : Mat) (sc : Nat → Int) (pos : Bool) (s0 : ExtRat) (k : Nat) :
    (loopUp k (octAccStepG R m sc pos) ⟨s0, 0, 0⟩).cnt = 0 →
    (loopUp k (octAccStepG R m sc pos) ⟨s0, 0, 0⟩).idx = 0 := by
  induction k with
  | zero => intro _; rfl
  | succ k ih =>
    simp only [loopUp]
    generalize loopUp k (octAccStepG R m sc pos) ⟨s0, 0, 0⟩ = st at ih ⊢
    unfold octAccStepG
    dsimp only
    by_cases hc : st.cnt > 1
    · rw [if_pos hc]; exact ih
    rw [if_neg hc]
    by_cases h0 : sc k = 0
    · rw [if_pos h0]; exact ih
    rw [if_neg h0]
    generalize (if decide (sc k > 0) = pos then m (2 * k + 1) (2 * k) else m (2 * k) (2 * k + 1)) = dua
    by_cases hp : dua.isPinf = true
    · rw [if_pos hp]
      by_cases h2 : st.cnt + 1 > 1
      · rw [if_pos h2]; intro h; exact absurd h (by simp)
      · rw [if_neg h2]; intro h; exact absurd h (by simp)
    · rw [if_neg hp]
      exact ih

/-! ## the tests on `expr` / `denominator` are the tests on `sc_expr` / `sc_denom` -/

theorem octScTests {e : Nat → Int} {den : Int} (i : Nat) :
    (e i = den ↔ scExpr e den i = (if den > 0 then den else - den)) ∧
    (e i = - den ↔ scExpr e den i = - (if den > 0 then den else - den)) := by
  unfold scExpr
  split <;> constructor <;> constructor <;> intro h <;> omega

theorem octGenExploitUpper_eq {R : Rnd} {vid wid : Nat} {e : Nat → Int} {den : Int} {sc : Nat → Int} {scd : Int}
    (hsc : ∀ i, (e i = den ↔ sc i = scd) ∧ (e i = - den ↔ sc i = - scd)) {pos : Acc} (hc : pos.cnt ≤ 1) (m : Mat) :
    octGenExploitUpper R vid wid e den sc scd pos m = octExploitUpper R vid wid sc scd pos m := by
  unfold octGenExploitUpper octExploitUpper
  dsimp only
  rw [if_pos hc]
  simp only [(hsc _).1, (hsc _).2]

theorem octGenExploitLower_eq {R : Rnd} {vid wid : Nat} {e : Nat → Int} {den : Int} {sc : Nat → Int} {scd : Int}
    (hsc : ∀ i, (e i = den ↔ sc i = scd) ∧ (e i = - den ↔ sc i = - scd)) {neg : Acc} (hc : neg.cnt = 1) (m : Mat) :
    octGenExploitLower R vid wid e den sc scd neg m = octExploitLower R vid wid sc scd neg m := by
  unfold octGenExploitLower octExploitLower
  dsimp only
  rw [if_pos (show neg.cnt ≤ 1 by omega)]
  simp only [if_neg (show ¬ neg.cnt = 0 by omega)]
  simp only [(hsc _).1, (hsc _).2]

/-! ## `deduce_minus_v_pm_u_bounds` called with `last_id = 0` -/

theorem octDeduceMinusVPmU_zero_eq (up : Rat → ExtRat) (vid wid : Nat) (e : Nat → Int) (d : Int) (s : ExtRat) (m : Mat) :
    deduceMinusVPmU up vid 0 e d s m
      = deduceMinusVPmU up vid wid (fun i => if i = 0 then e 0 else 0) d s m := by
  unfold deduceMinusVPmU
  induction wid with
  | zero =>
    simp only [loopUp]
    unfold deduceMinusVPmUStep
    simp
  | succ k ih =>
    rw [ih]
    conv => rhs; rw [loopUp]
    generalize loopUp (k + 1) _ m = m'
    unfold deduceMinusVPmUStep
    simp

theorem octLinEval_point_congr (e : Nat → Int) {y x : Nat → Rat} {k : Nat} (h : ∀ i, i < k → e i ≠ 0 → y i = x i) :
    linEval e y k = linEval e x k := by
  induction k with
  | zero => rfl
  | succ k ih =>
    simp only [linEval]
    rw [ih (fun i hi => h i (by omega))]
    by_cases h0 : e k = 0
    · rw [h0]; simp
    · rw [h k (by omega) h0]

section
variable {R : Rnd} {n vid wid : Nat} {m0 : Mat} {sc : Nat → Int} {scd : Int} {Bq tval : Rat} {x : Nat → Rat}

/-! ## the bounds that "exploit the upper / lower approximation" stores

`sum` bounds `±(sc·y + b)` over the box of the unary cells; `s` is its quotient by `sc_denom`.  With no unbounded
variable the unary cell of `var` gets `2·s`; with exactly one, `p`, of coefficient `±sc_denom`, one cell relating
`var` and `p` gets the quotient of the sum over the other variables. -/

theorem octUpper_unary (hR : R.Sound) (hw : wid < n) (hx : Holds (SO n) (OctM.oval x) m0)
    (htv : tval ≤ (linEval sc x (wid + 1) + Bq) / scd) {sum s : ExtRat}
    (hc0 : ∀ y, OBox R.up m0 (wid + 1) y → fin (Bq + linEval sc y (wid + 1)) ≤ sum)
    (hs : ∀ S' : Rat, fin S' ≤ sum → fin (S' / (scd : Rat)) ≤ s) : fin (tval - -tval) ≤ mulTwoUp R.up s := by
  have := hs _ (hc0 x (obox_of_holds hR hx (by omega)))
  rw [add_comm] at this
  rw [show tval - -tval = 2 * tval by ring]
  exact fin_le_mulTwoUp hR.up_le (le_trans' (fin_le_fin.2 htv) this)

theorem octLower_unary (hR : R.Sound) (hw : wid < n) (hx : Holds (SO n) (OctM.oval x) m0)
    (htv : (linEval sc x (wid + 1) + Bq) / scd ≤ tval) {sum s : ExtRat}
    (hc0 : ∀ y, OBox R.up m0 (wid + 1) y → fin (-Bq + linEval (fun i => - sc i) y (wid + 1)) ≤ sum)
    (hs : ∀ S' : Rat, fin S' ≤ sum → fin (S' / (scd : Rat)) ≤ s) : fin (-tval - tval) ≤ mulTwoUp R.up s := by
  have := hs _ (hc0 x (obox_of_holds hR hx (by omega)))
  rw [linEval_neg, show (-Bq + -linEval sc x (wid + 1)) / (scd : Rat) = -((linEval sc x (wid + 1) + Bq) / scd) by
    ring] at this
  rw [show -tval - tval = 2 * -tval by ring]
  exact fin_le_mulTwoUp hR.up_le (le_trans' (fin_le_fin.2 (by linarith)) this)

theorem octUpper_single (hR : R.Sound) (hw : wid < n) (hd : 0 < scd) (hx : Holds (SO n) (OctM.oval x) m0)
    (htv : tval ≤ (linEval sc x (wid + 1) + Bq) / scd) {pos : Acc}
    (hinv : OAccInv R.up m0 (wid + 1) sc Bq (wid + 1) pos) (h1 : pos.cnt = 1) :
    (sc pos.idx = scd → fin (tval - x pos.idx)
        ≤ if scd ≠ 1 then divRoundUpByPositive R pos.sum scd else pos.sum) ∧
      (sc pos.idx = - scd → fin (tval + x pos.idx)
        ≤ if scd ≠ 1 then divRoundUpByPositive R pos.sum scd else pos.sum) := by
  obtain ⟨hi, hc1⟩ := hinv.c1 h1
  have hb := fin_le_quot hR hd (hc1 x (obox_of_holds hR hx (by omega)))
  exact ⟨fun h => le_trans' (fin_le_fin.2 (osingle_pos hd htv hi h)) hb,
    fun h => le_trans' (fin_le_fin.2 (osingle_neg hd htv hi h)) hb⟩

theorem octLower_single (hR : R.Sound) (hw : wid < n) (hd : 0 < scd) (hx : Holds (SO n) (OctM.oval x) m0)
    (htv : (linEval sc x (wid + 1) + Bq) / scd ≤ tval) {neg : Acc}
    (hinv : OAccInv R.up m0 (wid + 1) (fun i => - sc i) (-Bq) (wid + 1) neg) (h1 : neg.cnt = 1) :
    (sc neg.idx = scd → fin (x neg.idx - tval)
        ≤ if scd ≠ 1 then divRoundUpByPositive R neg.sum scd else neg.sum) ∧
      (sc neg.idx = - scd → fin (- x neg.idx - tval)
        ≤ if scd ≠ 1 then divRoundUpByPositive R neg.sum scd else neg.sum) := by
  obtain ⟨hi, hc1⟩ := hinv.c1 h1
  have hb := fin_le_quot hR hd (hc1 x (obox_of_holds hR hx (by omega)))
  exact ⟨fun h => le_trans' (fin_le_fin.2 (osingle_low_pos hd htv hi h)) hb,
    fun h => le_trans' (fin_le_fin.2 (osingle_low_neg hd htv hi h)) hb⟩


/-- `olower_deduce` for the call with `last_id = 0`: only `Variable(0)` is visited, which is the kernel for the
expression `sc 0 * x_0` with the value of the other terms at `x` moved into the constant -/
theorem octLower_deduce0 (hR : R.Sound) (hh : HalfFiniteOn R.up m0) (hw : wid < n) (hd : 0 < scd)
    (hx : Holds (SO n) (OctM.oval x) m0) (htv : (linEval sc x (wid + 1) + Bq) / scd ≤ tval)
    {m' : Mat} (hx' : Holds (SO n) (OctM.oval (upd x vid tval)) m') (hun : OUnaryEq vid m' m0)
    {sum : ExtRat}
    (hc0 : ∀ y, OBox R.up m0 (wid + 1) y → fin (-Bq + linEval (fun i => - sc i) y (wid + 1)) ≤ sum)
    (hfp : ∀ i, i < wid + 1 → - sc i > 0 → m0 (2 * i + 1) (2 * i) ≠ pinf)
    (hfn : ∀ i, i < wid + 1 → - sc i < 0 → m0 (2 * i) (2 * i + 1) ≠ pinf)
    {s : ExtRat} (hs : ∀ S' : Rat, fin S' ≤ sum → fin (S' / (scd : Rat)) ≤ s) :
    Holds (SO n) (OctM.oval (upd x vid tval)) (deduceMinusVPmU R.up vid 0 sc scd s m') := by
  rw [octDeduceMinusVPmU_zero_eq R.up vid wid]
  have hsplit : ∀ z : Nat → Rat, linEval sc z (wid + 1)
      = linEval (fun t => if t = 0 then 0 else sc t) z (wid + 1) + (sc 0 : Rat) * z 0 := by
    intro z
    rw [linEval_extract sc z 0 (wid + 1), if_pos (by omega)]
  have hsc0 : ∀ z : Nat → Rat, linEval (fun i => if i = 0 then sc 0 else 0) z (wid + 1) = (sc 0 : Rat) * z 0 := by
    intro z
    rw [linEval_support1 _ z (a := 0) (by omega)]
    · simp
    · intro t _ ht; simp [ht]
  refine olower_deduce (sc := fun i => if i = 0 then sc 0 else 0)
    (Bq := Bq + linEval (fun t => if t = 0 then 0 else sc t) x (wid + 1)) hR hh hw hd hx ?_ hx' hun ?_ ?_ ?_ hs
  · rw [hsc0, ← add_assoc, add_comm _ Bq, add_assoc, add_comm _ (linEval _ x _), ← hsplit x, add_comm Bq]
    exact htv
  · intro y hy
    -- the point with coordinate `0` of `y`, the others of `x`
    have hbox : OBox R.up m0 (wid + 1) (fun i => if i = 0 then y 0 else x i) := by
      intro i hi
      by_cases hi0 : i = 0
      · subst hi0; exact hy 0 hi
      · show fin (if i = 0 then y 0 else x i) ≤ _ ∧ fin (-(if i = 0 then y 0 else x i)) ≤ _
        rw [if_neg hi0]; exact obox_of_holds hR hx (by omega) i hi
    have := hc0 _ hbox
    rw [linEval_neg, hsplit, octLinEval_point_congr (y := fun i => if i = 0 then y 0 else x i) (x := x) _
      (fun i hi hne => by
        by_cases hi0 : i = 0
        · simp [hi0] at hne
        · show (if i = 0 then y 0 else x i) = x i
          rw [if_neg hi0])] at this
    rw [linEval_neg, hsc0]
    rw [if_pos rfl, neg_add, ← add_assoc] at this
    rw [neg_add]; exact this
  · intro i hi hp
    by_cases hi0 : i = 0
    · subst hi0; exact hfp 0 hi (by simpa using hp)
    · simp [hi0] at hp
  · intro i hi hp
    by_cases hi0 : i = 0
    · subst hi0; exact hfn 0 hi (by simpa using hp)
    · simp [hi0] at hp

/-- `octGenExploitLower` keeps the new point -/
theorem octGenExploitLower_holds (hR : R.Sound) (hh : HalfFiniteOn R.up m0) (hw : wid < n) (hd : 0 < scd)
    {e : Nat → Int} {den : Int} (hsc : ∀ i, (e i = den ↔ sc i = scd) ∧ (e i = - den ↔ sc i = - scd))
    (hx : Holds (SO n) (OctM.oval x) m0) (htv : (linEval sc x (wid + 1) + Bq) / scd ≤ tval)
    {m1 : Mat} (hx' : Holds (SO n) (OctM.oval (upd x vid tval)) m1) (hun : OUnaryEq vid m1 m0)
    {neg : Acc} (hinv : OAccInv R.up m0 (wid + 1) (fun i => - sc i) (-Bq) (wid + 1) neg) (hc : neg.cnt ≤ 1)
    (hidx : neg.cnt = 0 → neg.idx = 0) :
    Holds (SO n) (OctM.oval (upd x vid tval)) (octGenExploitLower R vid wid e den sc scd neg m1) := by
  by_cases h0 : neg.cnt = 0
  · unfold octGenExploitLower
    dsimp only
    rw [if_pos h0, hidx h0]
    refine octLower_deduce0 hR hh hw hd hx htv ?_ ?_ (hinv.c0 h0) (hinv.f0p h0) (hinv.f0n h0) (fun _ h => fin_le_quot hR hd h)
    · refine holds_set hx' (fun _ => ?_)
      rw [oval_upd_v, oval_upd_cv]
      exact octLower_unary hR hw hx htv (hinv.c0 h0) (fun _ h => fin_le_quot hR hd h)
    · intro u hu
      simp only [Mat.set_apply]
      rw [if_neg (by omega), if_neg (by omega)]
      exact hun u hu
  · rw [octGenExploitLower_eq hsc (by omega)]
    exact octExploitLower_holds hR hh hw hd hx htv hx' hun hinv

end

/-! ## the general case -/

/-- a non-constant `expr`: the id `w_id` of its last variable is below `n`, and its value is that of the
sign-corrected expression over the ids `≤ w_id` -/
theorem octGeneral_value {e : Nat → Int} {n : Nat} (h0 : ¬ exprT e (lastNonzero e n) = 0) (x : Nat → Rat)
    (b den : Int) :
    lastNonzero e n - 1 < n ∧ (linEval e x n + b) / den
      = (linEval (scExpr e den) x (lastNonzero e n - 1 + 1) + ((if den > 0 then b else - b : Int) : Rat))
          / ((if den > 0 then den else - den : Int) : Rat) := by
  have hw0 : lastNonzero e n ≠ 0 := by
    intro h; apply h0; unfold exprT; rw [if_pos h]
  have hwn := lastNonzero_le e n
  rw [show lastNonzero e n - 1 + 1 = lastNonzero e n by omega]
  exact ⟨by omega, sc_value e x n b den⟩

theorem octGenAffineImageGeneral_sound {R : Rnd} (hR : R.Sound) {n vid : Nat} (hv : vid < n)
    {e : Nat → Int} (hc : CoeffExact R e) {b den : Int} (hden : den ≠ 0) {m : Mat}
    (hh : HalfFiniteOn R.up m) {x : Nat → Rat} (hx : Holds (SO n) (OctM.oval x) m)
    (h0 : ¬ exprT e (lastNonzero e n) = 0) (isLe : Bool) {t : Rat}
    (ht : if isLe then t ≤ (linEval e x n + b) / den else (linEval e x n + b) / den ≤ t) :
    Holds (SO n) (OctM.oval (upd x vid t))
      (octGenAffineImageGeneral R n vid (lastNonzero e n - 1) isLe e b den m).1 := by
  obtain ⟨hw, hval⟩ := octGeneral_value h0 x b den
  generalize lastNonzero e n - 1 = wid at *
  have hd := scDen_pos hden
  have hsc := octScTests (e := e) (den := den)
  have hx1 := holds_octForgetAll hv hx t
  unfold octGenAffineImageGeneral
  dsimp only
  cases isLe with
  | true =>
    simp only [↓reduceIte]
    have hpos := octAccLoopG_inv hR (hc.sc den) _
      (OAccInv.init hR m (wid + 1) (scExpr e den) (rfl : ((if den > 0 then b else - b : Int) : Rat) = _)) _ le_rfl
    generalize loopUp (wid + 1) (octAccStepG R m (scExpr e den) true) _ = st at hpos ⊢
    by_cases hcnt : st.cnt > 1
    · rw [if_pos hcnt]; exact hx1
    · rw [if_neg hcnt]
      show Holds _ _ (octGenExploitUpper _ _ _ _ _ _ _ _ _)
      rw [octGenExploitUpper_eq hsc (by omega)]
      have ht' : t ≤ (linEval (scExpr e den) x (wid + 1) + ((if den > 0 then b else - b : Int) : Rat))
          / ((if den > 0 then den else - den : Int) : Rat) := by
        rw [← hval]; simpa using ht
      exact octExploitUpper_holds hR hh hw hd hx ht' hx1 (ounaryEq_forgetAll n vid m) hpos
  | false =>
    simp only [Bool.false_eq_true, ↓reduceIte]
    rw [octAccStepG_false]
    have hneg := octAccLoopG_inv hR (hc.sc den).neg _
      (OAccInv.init hR m (wid + 1) (fun i => - scExpr e den i) (minus_scb_cast b den).symm) _ le_rfl
    have hidx := octAccLoopG_idx0 R m (fun i => - scExpr e den i) true
      (R.up ((if den > 0 then - b else b : Int) : Rat)) (wid + 1)
    generalize loopUp (wid + 1) (octAccStepG R m (fun i => - scExpr e den i) true) _ = st at hneg hidx ⊢
    by_cases hcnt : st.cnt > 1
    · rw [if_pos hcnt]; exact hx1
    · rw [if_neg hcnt]
      show Holds _ _ (octGenExploitLower R vid wid e den _ _ st _)
      have ht' : (linEval (scExpr e den) x (wid + 1) + ((if den > 0 then b else - b : Int) : Rat))
          / ((if den > 0 then den else - den : Int) : Rat) ≤ t := by
        rw [← hval]; simpa using ht
      exact octGenExploitLower_holds hR hh hw hd hsc hx ht' hx1 (ounaryEq_forgetAll n vid m) hneg (by omega) hidx

end PPLV.WR

import PPLV.WR.TransOct2ProofsPre
/-!
# `Octagonal_Shape<T>::bounded_affine_image`: the branches `lb_expr == b` and `lb_expr == ±den*w + b`, `w ≠ var`

The upper bound goes through `generalized_affine_image(var, LESS_OR_EQUAL, ub_expr, den)` (all its branches), the
lower bound is one `add_octagonal_constraint`.

The branch through an additional dimension (`lb_expr == ±den*var + b`) and the general case of `lb_expr` are in
`TransOct2ProofsBndMono.lean`, `TransOct2ProofsBndLe.lean`, `TransOct2ProofsBndMain.lean` (they need a monotone
rounding resp. `HalfFiniteOn` of the intermediate matrix: both run a kernel on the matrix LEFT by an inner call
that ends with `incremental_strong_closure_assign`).
-/
namespace PPLV.WR
open ExtRat

theorem octBoundedAffineImageCore_special_sound {R : Rnd} (hR : R.Sound) {n vid : Nat} (hv : vid < n)
    {el eu : Nat → Int} (hcu : CoeffExact R eu) {bl bu den : Int} (hden : den ≠ 0) {m : Mat}
    (hh : HalfFiniteOn R.up m) {x : Nat → Rat} (hx : x ∈ γO n m) {t : Rat}
    (hlb : (linEval el x n + bl) / den ≤ t) (hub : t ≤ (linEval eu x n + bu) / den)
    (hsp : exprT el (lastNonzero el n) = 0 ∨
      (exprT el (lastNonzero el n) = 1 ∧ lastNonzero el n - 1 ≠ vid ∧
        (el (lastNonzero el n - 1) = den ∨ el (lastNonzero el n - 1) = - den))) :
    ∃ m', octBoundedAffineImageCore R n vid el bl eu bu den m = some m' ∧ upd x vid t ∈ γO n m' := by
  obtain ⟨m1, hm1, hx1⟩ := octGenAffineImageCore_sound hR hv hden (b := bu) hx true (t := t)
    (by simpa using hub) hcu hh
  have hx1' : Holds (SO n) (OctM.oval (upd x vid t)) m1 := hx1
  have ov0 : OctM.oval (upd x vid t) (2 * vid) = t := by rw [oval_upd, if_pos rfl]
  have ov1 : OctM.oval (upd x vid t) (2 * vid + 1) = - t := by rw [oval_upd, if_neg (by omega), if_pos rfl]
  unfold octBoundedAffineImageCore
  dsimp only
  rcases hsp with h0 | ⟨h1, hwv, ha⟩
  · rw [if_pos h0, hm1]
    refine ⟨_, rfl, ?_⟩
    show Holds (SO n) (OctM.oval (upd x vid t)) _
    rw [linEval_t0 x h0, zero_add] at hlb
    refine holds_addDbmQ hR hx1' ?_
    rw [ov0, ov1, two_mul_div_neg]; linarith
  · obtain ⟨hw0, hE⟩ := linEval_t1 x h1
    have hwn := lastNonzero_le el n
    rw [if_neg (by omega), if_pos ⟨h1, ha⟩, if_neg hwv, hm1]
    rw [hE] at hlb
    generalize lastNonzero el n = w at *
    obtain ⟨k, rfl⟩ : ∃ k, w = k + 1 := ⟨w - 1, by omega⟩
    simp only [Nat.add_sub_cancel] at *
    have yv : upd x vid t vid = t := by simp [upd]
    have yk : upd x vid t k = x k := upd_frame x vid t k hwv
    refine ⟨_, rfl, ?_⟩
    show Holds (SO n) (OctM.oval (upd x vid t)) _
    -- one cell relating `var` and `w`; `L` is the difference it bounds
    by_cases ha1 : el k = den
    · rw [special_val_pos hden ha1] at hlb
      have L : upd x vid t k - upd x vid t vid ≤ (bl : Rat) / ((- den : Int) : Rat) := by
        rw [yv, yk, div_negden]; exact octL_pos hlb
      simp only [if_pos ha1]
      by_cases hlt : vid < k
      · rw [if_pos hlt]; exact holds_addDbmQ hR hx1' ((octDiff_oo _ k vid).trans_le L)
      · rw [if_neg hlt]; exact holds_addDbmQ hR hx1' ((octDiff_ee _ k vid).trans_le L)
    · have ha2 := ha.resolve_left ha1
      rw [special_val_neg hden ha2] at hlb
      have L : - upd x vid t vid - upd x vid t k ≤ (bl : Rat) / ((- den : Int) : Rat) := by
        rw [yv, yk, div_negden]; exact octL_neg hlb
      simp only [if_neg ha1]
      by_cases hlt : vid < k
      · rw [if_pos hlt]; exact holds_addDbmQ hR hx1' ((octNeg_oe _ vid k).trans_le L)
      · rw [if_neg hlt]; exact holds_addDbmQ hR hx1' ((octNeg_eo _ vid k).trans_le L)

end PPLV.WR

import PPLV.WR.ReduceProofsUBCompleteOctLeaves
import PPLV.WR.ReduceProofsUBCompleteEdge
import PPLV.WR.ReduceOctProofsBase
/-!
# Octagon exact-join test, answer `false`: two coherent pairs of edges on a coherent closed matrix

`V` closed on `N` indices and coherent (`V u v = V cv cu`).  Under the lower bounds `OctFacts` (and
`a' ≤ V i j`), `V` tightened by the four constraints
`P_i - P_j ≤ -a'`, `P_cj - P_ci ≤ -a'` (the twin), `P_k - P_ℓ ≤ -b'`, `P_cℓ - P_ck ≤ -b'` (the twin)
is still closed: four applications of `Closed.addEdge`, the compatibility conditions being `lb_K3`, `lb_K4a`,
`lb_K4b` of `ReduceProofsUBCompleteOctLeaves.lean` on the six alternatives `Mat.addEdge2_alts` of an entry of the
matrix tightened by the first pair.
-/
namespace PPLV.WR
open ExtRat

/-- an entry of the matrix tightened by the cell `(j, i)` and its twin `(ci, cj)` is one of six sums -/
theorem Mat.addEdge2_alts (V : Mat) (i j : Nat) (w : Rat) (u v : Nat) :
    Alts6 (V u v) (V u j) (V i v) (V u (cidx i)) (V (cidx j) v) (V i (cidx i)) (V (cidx j) j) w
      (((V.addEdge j i w).addEdge (cidx i) (cidx j) w) u v) := by
  rw [Mat.addEdge_apply (V.addEdge j i w), Mat.addEdge_apply V, Mat.addEdge_apply V, Mat.addEdge_apply V]
  unfold Alts6
  rcases minA_cases (V u v) (eadd (V u j) (eadd (fin w) (V i v))) with e1 | e1 <;>
  rcases minA_cases (V u (cidx i)) (eadd (V u j) (eadd (fin w) (V i (cidx i)))) with e2 | e2 <;>
  rcases minA_cases (V (cidx j) v) (eadd (V (cidx j) j) (eadd (fin w) (V i v))) with e3 | e3 <;>
  rw [e1, e2, e3] <;>
  (rcases minA_cases _ _ with e | e <;> rw [e] <;> simp)

/-- the twin edge against the path through the first edge -/
theorem fin_le_path2 {q : Rat} {A B : ExtRat} (h : fin (2 * q) ≤ eadd A B) :
    fin q ≤ eadd B (eadd (fin (-q)) A) :=
  fin_le_path (by rwa [← two_mul])

/-- **two coherent pairs of edges** -/
theorem oct_two_pairs {N : Nat} {V : Mat} (hV : Closed N V) (hcoh : ∀ u v, V u v = V (cidx v) (cidx u))
    {i j k l : Nat} (hi : i < N) (hj : j < N) (hk : k < N) (hl : l < N)
    (hci : cidx i < N) (hcj : cidx j < N) (hck : cidx k < N) (hcl : cidx l < N)
    {a' b' : Rat} (f1 : fin a' ≤ V i j)
    (F : OctFacts a' b' (V k l) (V i l) (V k j) (V i (cidx k)) (V (cidx j) l) (V i (cidx i)) (V (cidx j) j)
      (V k (cidx k)) (V (cidx l) l)) :
    ∃ d : Mat, Closed N d ∧ (∀ u v, d u v ≤ V u v) ∧ d j i ≤ fin (-a') ∧ d (cidx i) (cidx j) ≤ fin (-a') ∧
      d l k ≤ fin (-b') ∧ d (cidx k) (cidx l) ≤ fin (-b') := by
  -- coherent copies of the entries
  have q1 : V (cidx l) (cidx i) = V i l := (hcoh i l).symm
  have q2 : V (cidx j) (cidx k) = V k j := (hcoh k j).symm
  have q3 : V k (cidx i) = V i (cidx k) := by rw [hcoh k (cidx i), cidx_cidx]
  have q4 : V (cidx l) j = V (cidx j) l := by rw [hcoh (cidx l) j, cidx_cidx]
  have q5 : V (cidx j) (cidx i) = V i j := (hcoh i j).symm
  have q6 : V (cidx l) (cidx k) = V k l := (hcoh k l).symm
  -- first pair
  have hc1 : Closed N (V.addEdge j i (-a')) := hV.addEdge hj hi _ (fin_zero_le_eadd_neg f1)
  have k2 : fin a' ≤ (V.addEdge j i (-a')) (cidx j) (cidx i) := by
    rw [Mat.addEdge_apply, q5]
    exact ExtRat.le_minA f1 (fin_le_path2 F.f1b)
  have hc2 : Closed N ((V.addEdge j i (-a')).addEdge (cidx i) (cidx j) (-a')) :=
    hc1.addEdge hci hcj _ (fin_zero_le_eadd_neg k2)
  -- second pair
  have k3 : fin b' ≤ ((V.addEdge j i (-a')).addEdge (cidx i) (cidx j) (-a')) k l := by
    have hS := Mat.addEdge2_alts V i j (-a') k l
    rw [q3] at hS
    exact lb_K3 F hS
  have hc3 : Closed N (((V.addEdge j i (-a')).addEdge (cidx i) (cidx j) (-a')).addEdge l k (-b')) :=
    hc2.addEdge hl hk _ (fin_zero_le_eadd_neg k3)
  have k4 : fin b' ≤ (((V.addEdge j i (-a')).addEdge (cidx i) (cidx j) (-a')).addEdge l k (-b'))
      (cidx l) (cidx k) := by
    rw [Mat.addEdge_apply]
    refine ExtRat.le_minA ?_ ?_
    · have hS := Mat.addEdge2_alts V i j (-a') (cidx l) (cidx k)
      rw [q6, q4, q1, q2] at hS
      exact lb_K4a F hS
    · have hS := Mat.addEdge2_alts V i j (-a') k (cidx k)
      have hT := Mat.addEdge2_alts V i j (-a') (cidx l) l
      rw [q3, q2] at hS
      rw [q4, q1] at hT
      exact lb_K4b F hS hT
  have hc4 : Closed N ((((V.addEdge j i (-a')).addEdge (cidx i) (cidx j) (-a')).addEdge l k
      (-b')).addEdge (cidx k) (cidx l) (-b')) :=
    hc3.addEdge hck hcl _ (fin_zero_le_eadd_neg k4)
  refine ⟨_, hc4, fun u v => ?_, ?_, ?_, ?_, ?_⟩
  · exact ExtRat.le_trans' (Mat.addEdge_le _ _ _ _ _ _) (ExtRat.le_trans' (Mat.addEdge_le _ _ _ _ _ _)
      (ExtRat.le_trans' (Mat.addEdge_le _ _ _ _ _ _) (Mat.addEdge_le _ _ _ _ _ _)))
  · exact ExtRat.le_trans' (Mat.addEdge_le _ _ _ _ _ _) (ExtRat.le_trans' (Mat.addEdge_le _ _ _ _ _ _)
      (ExtRat.le_trans' (Mat.addEdge_le _ _ _ _ _ _) (hV.addEdge_edge hj hi _)))
  · exact ExtRat.le_trans' (Mat.addEdge_le _ _ _ _ _ _) (ExtRat.le_trans' (Mat.addEdge_le _ _ _ _ _ _)
      (hc1.addEdge_edge hci hcj _))
  · exact ExtRat.le_trans' (Mat.addEdge_le _ _ _ _ _ _) (hc2.addEdge_edge hl hk _)
  · exact hc3.addEdge_edge hck hcl _

end PPLV.WR

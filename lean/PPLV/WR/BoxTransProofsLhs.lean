import PPLV.WR.BoxTransProofsExpr
import PPLV.WR.BoxTransProofsMaxMin
import PPLV.WR.BoxTransProofsPropagate
/-!
# `generalized_affine_image(lhs, relsym, rhs)` and
`generalized_affine_preimage(lhs, relsym, rhs)` of `Box<ITV>`: soundness

Image: every `y` that differs from a member `x` of the box on the variables of `lhs` only and
satisfies `lhs(y) ⋈ rhs(x)` belongs to the result.  Preimage: every `x` that differs from a
member `y` on the variables of `lhs` only with `lhs(y) ⋈ rhs(x)` belongs to the result.
-/
namespace PPLV.WR.BoxT
open PPLV.Interval
open PPLV.Interval.ExtRat (ninf fin pinf)

/-! ## `unconstrainTerms` -/

theorem unconstrainTerms_seq_length (p : Policy) : ∀ (ts : List (Nat × Int)) (b : Box),
    (unconstrainTerms p b ts).seq.length = b.seq.length := by
  intro ts
  induction ts with
  | nil => intro b; rfl
  | cons t ts ih =>
    intro b
    obtain ⟨i, a⟩ := t
    simp only [unconstrainTerms]
    rw [ih]; simp

theorem unconstrainTerms_dim (p : Policy) (b : Box) (ts : List (Nat × Int)) :
    (unconstrainTerms p b ts).dim = b.dim := unconstrainTerms_seq_length p ts b

theorem unconstrainTerms_sound {p : Policy} {y : Nat → Rat} : ∀ {ts : List (Nat × Int)} {b : Box} {x : Nat → Rat},
    b.mem p x → (∀ k, (∀ a, (k, a) ∉ ts) → y k = x k) → (∀ t ∈ ts, t.1 < b.dim) →
    (unconstrainTerms p b ts).mem p y := by
  intro ts
  induction ts with
  | nil =>
    intro b x hx hy _
    simp only [unconstrainTerms]
    exact ⟨hx.1, fun k hk => by rw [hy k (by simp)]; exact hx.2 k hk⟩
  | cons t ts ih =>
    intro b x hx hy hlt
    obtain ⟨i, a⟩ := t
    simp only [unconstrainTerms]
    apply ih (x := upd x i (y i)) (Box.mem_setIv hx (mem_universe _ _))
    · intro k hk
      by_cases hki : k = i
      · subst hki; simp
      · rw [upd_other x _ hki]
        apply hy k
        intro a' hm
        rcases List.mem_cons.1 hm with h | h
        · exact hki (by cases h; rfl)
        · exact hk a' h
    · intro t ht
      have := hlt t (by simp [ht])
      simpa [Box.dim] using this

/-! ## the bound of the only variable of `lhs` -/

/-- `c·t + h ⋈ r` and an extremum `E` of `r` on the same side compare `c·t` with `E − h`, strictly when the
relation is strict or the extremum is not attained -/
theorem lhs_bound_aux {d : Dir} {s : Bool} {c t h r : Rat} (hT : dcmp d s (c * t + h) r)
    {ext : Option (Rat × Bool)} (Hext : ∀ E i, ext = some (E, i) → dcmp d (!i) r E) {q : Rat} {i : Bool}
    (hq : ext.map (fun (m : Rat × Bool) => ((m.1 - h) / c, m.2)) = some (q, i)) :
    ∃ E, q = (E - h) / c ∧ dcmp d.flip (s || !i) (E - h) (c * t) := by
  rcases ext with _ | ⟨E, j⟩
  · simp at hq
  · simp only [Option.map, Option.some.injEq, Prod.mk.injEq] at hq
    obtain ⟨rfl, rfl⟩ := hq
    have := dcmp_sub (dcmp_trans hT (Hext E j rfl)) (o' := false) (pr := h) (P := h) (by cases d <;> exact le_refl h)
    rw [add_sub_cancel_right, Bool.or_false, ← dcmp_flip] at this
    exact ⟨E, rfl, this⟩

/-- the bound `(E − h)/c` of `t` for `c > 0` … -/
theorem lhs_bound_pos {d : Dir} {s : Bool} {c t h r : Rat} (hc : 0 < c) (hT : dcmp d s (c * t + h) r)
    {ext : Option (Rat × Bool)} (Hext : ∀ E i, ext = some (E, i) → dcmp d (!i) r E) (q : Rat) (i : Bool)
    (hq : ext.map (fun (m : Rat × Bool) => ((m.1 - h) / c, m.2)) = some (q, i)) : dcmp d (s || !i) t q := by
  obtain ⟨E, rfl, h1⟩ := lhs_bound_aux hT Hext hq
  exact dcmp_flip.1 (dcmp_div_pos hc h1)

/-- … and for `c < 0`, on the other side -/
theorem lhs_bound_neg {d : Dir} {s : Bool} {c t h r : Rat} (hc : c < 0) (hT : dcmp d s (c * t + h) r)
    {ext : Option (Rat × Bool)} (Hext : ∀ E i, ext = some (E, i) → dcmp d (!i) r E) (q : Rat) (i : Bool)
    (hq : ext.map (fun (m : Rat × Bool) => ((m.1 - h) / c, m.2)) = some (q, i)) : dcmp d.flip (s || !i) t q := by
  obtain ⟨E, rfl, h1⟩ := lhs_bound_aux hT Hext hq
  have h2 := dcmp_div_neg hc h1
  rw [show d.flip.flip = d by cases d <;> rfl] at h2
  exact dcmp_flip.2 h2

/-! ## `generalized_affine_image(lhs, relsym, rhs)` -/

/-- the constant-`lhs` arm: `refine_with_constraint(lhs.inhomogeneous_term() ⋈ rhs)` -/
theorem lhs_image_const {cfg : Cfg} (hRef : RefineSound cfg) {b : Box} {rhs : LinExpr} {rel : Rel} {n : Int}
    {x : Nat → Rat} (hr : rhs.WF b.dim) (hrel : rel ≠ .ne) (hx : b.mem cfg.p x)
    (hy : Rel.holds rel (n : Rat) (rhs.eval x)) :
    (match rel with
      | .lt => refineWithConstraint cfg b (conLt (LinExpr.const n) rhs)
      | .le => refineWithConstraint cfg b (conLe (LinExpr.const n) rhs)
      | .eq => refineWithConstraint cfg b (mkCon (rhs.neg.add (LinExpr.const n)) .eq)
      | .ge => refineWithConstraint cfg b (conGe (LinExpr.const n) rhs)
      | .gt => refineWithConstraint cfg b (conGt (LinExpr.const n) rhs)
      | .ne => b).mem cfg.p x := by
  have hn : (LinExpr.const n).WF b.dim := LinExpr.WF.const _ _
  cases rel <;> simp only [Rel.holds] at hy ⊢
  · apply hRef _ _ _ (mkCon_WF (LinExpr.WF.add (LinExpr.WF.neg hr) hn)) hx
    rw [mkCon_holds]; simp only [Con.holds, LinExpr.eval_add, LinExpr.eval_neg, LinExpr.eval_const]
    linarith
  · exact hRef _ _ _ (conLt_WF hn hr) hx ((conLt_holds _ _ _).2 (by simpa using hy))
  · exact hRef _ _ _ (conLe_WF hn hr) hx ((conLe_holds _ _ _).2 (by simpa using hy))
  · exact hRef _ _ _ (conGt_WF hn hr) hx ((conGt_holds _ _ _).2 (by simpa using hy))
  · exact hRef _ _ _ (conGe_WF hn hr) hx ((conGe_holds _ _ _).2 (by simpa using hy))
  · exact absurd rfl hrel

theorem generalizedAffineImageLhs_sound {cfg : Cfg} {b : Box} {lhs rhs : LinExpr} {rel : Rel} {x y : Nat → Rat}
    (hS : cfg.Sound) (hRef : lhs.terms = [] → RefineSound cfg) (hl : lhs.WF b.dim) (hr : rhs.WF b.dim)
    (hrel : rel ≠ .ne) (hx : b.mem cfg.p x) (hag : AgreeOff lhs x y)
    (hy : Rel.holds rel (lhs.eval y) (rhs.eval x)) :
    (generalizedAffineImageLhs cfg b lhs rel rhs).mem cfg.p y := by
  unfold generalizedAffineImageLhs
  rw [hx.1]
  simp only [Bool.false_eq_true, if_false]
  -- the two calls of `max_min`
  have hb1 : (maxMin cfg.p b rhs true).2.mem cfg.p x := maxMin_mem_iff.2 hx
  have hd1 : (maxMin cfg.p b rhs true).2.dim = b.dim := maxMin_dim _ _ _ _
  have Hmax : ∀ M i, (maxMin cfg.p b rhs true).1 = some (M, i) → dcmp .down (!i) (rhs.eval x) M :=
    fun M i h => maxMin_dcmp hr h hx
  rcases h1 : maxMin cfg.p b rhs true with ⟨mx, b1⟩
  rw [h1] at hb1 hd1 Hmax
  simp only at hb1 hd1 Hmax ⊢
  have hb2 : (maxMin cfg.p b1 rhs false).2.mem cfg.p x := maxMin_mem_iff.2 hb1
  have hd2 : (maxMin cfg.p b1 rhs false).2.dim = b.dim := by rw [maxMin_dim, hd1]
  have Hmin : ∀ m i, (maxMin cfg.p b1 rhs false).1 = some (m, i) → dcmp .up (!i) (rhs.eval x) m :=
    fun m i h => maxMin_dcmp (by rw [hd1]; exact hr) h hb1
  rcases h2 : maxMin cfg.p b1 rhs false with ⟨mn, b2⟩
  rw [h2] at hb2 hd2 Hmin
  simp only at hb2 hd2 Hmin ⊢
  rcases hts : lhs.terms with _ | ⟨⟨vid, coeff⟩, _ | ⟨t2, ts⟩⟩
  · -- constant lhs
    simp only []
    have hyx : y = x := by
      funext k; exact hag k ((LinExpr.terms_eq_nil_iff.1 hts) k)
    have he : lhs.eval x = (lhs.inhom : Rat) := by rw [LinExpr.eval_eq_terms, hts]; simp
    rw [hyx] at hy ⊢
    rw [he] at hy
    exact lhs_image_const (hRef hts) (by rw [hd2]; exact hr) hrel hb2 hy
  · -- one variable
    simp only []
    have hmem : (vid, coeff) ∈ lhs.terms := by rw [hts]; simp
    obtain ⟨hc0, hcv, _⟩ := LinExpr.mem_terms hmem
    have he := LinExpr.terms_singleton hts y
    rw [he] at hy
    have hyx : upd x vid (y vid) = y := by
      funext k
      by_cases hk : k = vid
      · subst hk; simp
      · rw [upd_other x _ hk]
        refine (hag k (LinExpr.coeff_eq_zero_of_not_mem_terms ?_)).symm
        intro a hm
        rw [hts] at hm
        simp only [List.mem_singleton, Prod.mk.injEq] at hm
        exact hk hm.1
    have key : ∀ I : Iv, I.mem cfg.p (y vid) → (b2.setIv vid I).mem cfg.p y := fun I hI => by
      have := Box.mem_setIv (v := vid) hb2 hI
      rwa [hyx] at this
    apply key
    generalize y vid = t at hy
    generalize rhs.eval x = r at hy Hmax Hmin
    generalize (lhs.inhom : Rat) = h at hy
    -- `hy` read as a comparison on one side (`.down`: `coeff·t + h ≤ r`), strict or not
    have hle (s : Bool) (hs : cmp s (coeff * t + h) r) : dcmp .down s ((coeff : Rat) * t + h) r := hs
    have hge (s : Bool) (hs : cmp s r (coeff * t + h)) : dcmp .up s ((coeff : Rat) * t + h) r := hs
    by_cases hc : coeff > 0
    · rw [if_pos hc]
      have hcq : (0 : Rat) < (coeff : Rat) := by exact_mod_cast hc
      cases rel <;> simp only [Rel.holds] at hy ⊢
      · exact build2_sound hS.R (build2_lb_map (g := fun q => q) (lhs_bound_pos hcq (hge false hy.ge) Hmin))
          (build2_ub_map (g := fun q => q) (lhs_bound_pos hcq (hle false hy.le) Hmax))
      · exact buildC_opt_sound hS.R (rel := fun _ => .lt) (lhs_bound_pos hcq (hle true hy) Hmax)
      · exact buildC_opt_sound hS.R fun q i hq => rel_le_of_cmp (lhs_bound_pos hcq (hle false hy) Hmax q i hq)
      · exact buildC_opt_sound hS.R (rel := fun _ => .gt) (lhs_bound_pos hcq (hge true hy) Hmin)
      · exact buildC_opt_sound hS.R fun q i hq => rel_ge_of_cmp (lhs_bound_pos hcq (hge false hy) Hmin q i hq)
      · exact absurd rfl hrel
    · rw [if_neg hc]
      have hcq : (coeff : Rat) < 0 := by exact_mod_cast lt_of_le_of_ne (not_lt.1 hc) hc0
      cases rel <;> simp only [Rel.holds] at hy ⊢
      · exact build2_sound hS.R (build2_lb_map (g := fun q => q) (lhs_bound_neg hcq (hle false hy.le) Hmax))
          (build2_ub_map (g := fun q => q) (lhs_bound_neg hcq (hge false hy.ge) Hmin))
      · exact buildC_opt_sound hS.R (rel := fun _ => .gt) (lhs_bound_neg hcq (hle true hy) Hmax)
      · exact buildC_opt_sound hS.R fun q i hq => rel_ge_of_cmp (lhs_bound_neg hcq (hle false hy) Hmax q i hq)
      · exact buildC_opt_sound hS.R (rel := fun _ => .lt) (lhs_bound_neg hcq (hge true hy) Hmin)
      · exact buildC_opt_sound hS.R fun q i hq => rel_le_of_cmp (lhs_bound_neg hcq (hge false hy) Hmin q i hq)
      · exact absurd rfl hrel
  · -- several variables: all of them unconstrained
    simp only []
    rw [← hts]
    apply unconstrainTerms_sound hb2
    · intro k hk
      exact hag k (LinExpr.coeff_eq_zero_of_not_mem_terms hk)
    · rintro ⟨i, a⟩ ht
      rw [hd2]
      exact LinExpr.mem_terms_lt hl ht

/-! ## `generalized_affine_preimage(lhs, relsym, rhs)` -/

/-- the refinement by the infimum of `lhs` over the box: `min_den * rhs ≥ (>) min_num` -/
theorem lhs_pre_lower {cfg : Cfg} (hRef : RefineSound cfg) {b : Box} {rhs : LinExpr} {rel : Rel} {x : Nat → Rat}
    {q L : Rat} {incl : Bool} (hr : rhs.WF b.dim) (hx : b.mem cfg.p x) (h1 : q ≤ L) (h2 : incl = false → q < L)
    (hh : Rel.holds rel L (rhs.eval x)) :
    (if rel == .lt || rel == .le || rel == .eq then
        if rel == .lt || !incl then
          refineWithConstraint cfg b (conGt (rhs.scale (q.den : Int)) (LinExpr.const q.num))
        else refineWithConstraint cfg b (conGe (rhs.scale (q.den : Int)) (LinExpr.const q.num))
      else b).mem cfg.p x := by
  by_cases hrel : (rel == .lt || rel == .le || rel == .eq) = true
  · rw [if_pos hrel]
    -- `L ⋈ rhs(x)` is `L ≤ rhs(x)`, strictly for `<`; the infimum `q` is below `L`, strictly when not attained
    have hL : cmp (rel == .lt) L (rhs.eval x) := by
      cases rel
      · exact le_of_eq hh
      · exact hh
      · exact hh
      all_goals exact absurd hrel (by decide)
    have hq := cmp_trans (cmp_iff.2 ⟨h1, fun hi => h2 (by simpa using hi)⟩ : cmp (!incl) q L) hL
    by_cases hf : (rel == .lt || !incl) = true
    · rw [if_pos hf]
      exact hRef.lt_scaled hr hx (cmp_mono (o' := true) (fun _ => by rw [Bool.or_comm]; exact hf) hq)
    · rw [if_neg hf]
      exact hRef.le_scaled hr hx (cmp_le hq)
  · rw [if_neg hrel]
    exact hx

theorem lhs_pre_lower_dim {cfg : Cfg} {b : Box} {rhs : LinExpr} {rel : Rel} {q : Rat} {incl : Bool} :
    (if rel == .lt || rel == .le || rel == .eq then
        if rel == .lt || !incl then
          refineWithConstraint cfg b (conGt (rhs.scale (q.den : Int)) (LinExpr.const q.num))
        else refineWithConstraint cfg b (conGe (rhs.scale (q.den : Int)) (LinExpr.const q.num))
      else b).dim = b.dim := by
  split_ifs <;> first | rfl | exact refineWithConstraint_dim _ _ _

/-- the refinement by the supremum of `lhs` over the box: `max_den * rhs ≤ (<) max_num` -/
theorem lhs_pre_upper {cfg : Cfg} (hRef : RefineSound cfg) {b : Box} {rhs : LinExpr} {rel : Rel} {x : Nat → Rat}
    {q L : Rat} {incl : Bool} (hr : rhs.WF b.dim) (hx : b.mem cfg.p x) (h1 : L ≤ q) (h2 : incl = false → L < q)
    (hh : Rel.holds rel L (rhs.eval x)) :
    (if rel == .gt || rel == .ge || rel == .eq then
        if rel == .gt || !incl then
          refineWithConstraint cfg b (conLt (rhs.scale (q.den : Int)) (LinExpr.const q.num))
        else refineWithConstraint cfg b (conLe (rhs.scale (q.den : Int)) (LinExpr.const q.num))
      else b).mem cfg.p x := by
  by_cases hrel : (rel == .gt || rel == .ge || rel == .eq) = true
  · rw [if_pos hrel]
    have hL : cmp (rel == .gt) (rhs.eval x) L := by
      cases rel
      · exact le_of_eq hh.symm
      · exact absurd hrel (by decide)
      · exact absurd hrel (by decide)
      · exact hh
      · exact hh
      · exact absurd hrel (by decide)
    have hq := cmp_trans hL (cmp_iff.2 ⟨h1, fun hi => h2 (by simpa using hi)⟩ : cmp (!incl) L q)
    by_cases hf : (rel == .gt || !incl) = true
    · rw [if_pos hf]
      exact hRef.gt_scaled hr hx (cmp_mono (o' := true) (fun _ => hf) hq)
    · rw [if_neg hf]
      exact hRef.ge_scaled hr hx (cmp_le hq)
  · rw [if_neg hrel]
    exact hx

theorem lhs_pre_upper_dim {cfg : Cfg} {b : Box} {rhs : LinExpr} {rel : Rel} {q : Rat} {incl : Bool} :
    (if rel == .gt || rel == .ge || rel == .eq then
        if rel == .gt || !incl then
          refineWithConstraint cfg b (conLt (rhs.scale (q.den : Int)) (LinExpr.const q.num))
        else refineWithConstraint cfg b (conLe (rhs.scale (q.den : Int)) (LinExpr.const q.num))
      else b).dim = b.dim := by
  split_ifs <;> first | rfl | exact refineWithConstraint_dim _ _ _

theorem generalizedAffinePreimageLhs_sound {cfg : Cfg} {b : Box} {lhs rhs : LinExpr} {rel : Rel}
    {x y : Nat → Rat} (hRef : RefineSound cfg) (hl : lhs.WF b.dim) (hr : rhs.WF b.dim)
    (hrel : rel ≠ .ne) (hy : b.mem cfg.p y) (hag : AgreeOff lhs x y)
    (hh : Rel.holds rel (lhs.eval y) (rhs.eval x)) :
    (generalizedAffinePreimageLhs cfg b lhs rel rhs).mem cfg.p x := by
  unfold generalizedAffinePreimageLhs
  obtain ⟨he0, hm0, _⟩ := Box.isEmptyQ_of_mem hy
  have hd0 : (b.isEmptyQ cfg.p).2.dim = b.dim := Box.isEmptyQ_dim _ _
  rcases h0 : b.isEmptyQ cfg.p with ⟨em, b0⟩
  rw [h0] at he0 hm0 hd0
  simp only at he0 hm0 hd0 ⊢
  subst he0
  simp only [Bool.false_eq_true, if_false]
  have hl0 : lhs.WF b0.dim := by rw [hd0]; exact hl
  have hr0 : rhs.WF b0.dim := by rw [hd0]; exact hr
  rcases hts : lhs.terms with _ | ⟨t, ts⟩
  · -- constant lhs: `x = y`
    simp only []
    have hxy : y = x := by
      funext k; exact hag k ((LinExpr.terms_eq_nil_iff.1 hts) k)
    subst hxy
    cases rel <;> simp only [Rel.holds] at hh ⊢
    · exact hRef _ _ _ (conEq_WF hl0 hr0) hm0 ((conEq_holds _ _ _).2 hh)
    · exact hRef _ _ _ (conLt_WF hl0 hr0) hm0 ((conLt_holds _ _ _).2 hh)
    · exact hRef _ _ _ (conLe_WF hl0 hr0) hm0 ((conLe_holds _ _ _).2 hh)
    · exact hRef _ _ _ (conGt_WF hl0 hr0) hm0 ((conGt_holds _ _ _).2 hh)
    · exact hRef _ _ _ (conGe_WF hl0 hr0) hm0 ((conGe_holds _ _ _).2 hh)
    · exact absurd rfl hrel
  · simp only []
    rw [← hts]
    -- the two calls of `max_min`
    have hb1 : (maxMin cfg.p b0 lhs false).2.mem cfg.p y := maxMin_mem_iff.2 hm0
    have hd1 : (maxMin cfg.p b0 lhs false).2.dim = b.dim := by rw [maxMin_dim, hd0]
    have Hmin : ∀ m i, (maxMin cfg.p b0 lhs false).1 = some (m, i) →
        m ≤ lhs.eval y ∧ (i = false → m < lhs.eval y) := fun m i h => maxMin_sound_min hl0 h hm0
    rcases h1 : maxMin cfg.p b0 lhs false with ⟨mn, b1⟩
    rw [h1] at hb1 hd1 Hmin
    simp only at hb1 hd1 Hmin ⊢
    have hb2 : (maxMin cfg.p b1 lhs true).2.mem cfg.p y := maxMin_mem_iff.2 hb1
    have hd2 : (maxMin cfg.p b1 lhs true).2.dim = b.dim := by rw [maxMin_dim, hd1]
    have Hmax : ∀ M i, (maxMin cfg.p b1 lhs true).1 = some (M, i) →
        lhs.eval y ≤ M ∧ (i = false → lhs.eval y < M) :=
      fun M i h => maxMin_sound_max (by rw [hd1]; exact hl) h hb1
    rcases h2 : maxMin cfg.p b1 lhs true with ⟨mx, b2⟩
    rw [h2] at hb2 hd2 Hmax
    simp only at hb2 hd2 Hmax ⊢
    -- the variables of lhs are forgotten
    have hb3 : (unconstrainTerms cfg.p b2 lhs.terms).mem cfg.p x := by
      apply unconstrainTerms_sound hb2
      · intro k hk
        exact (hag k (LinExpr.coeff_eq_zero_of_not_mem_terms hk)).symm
      · rintro ⟨i, a⟩ ht
        rw [hd2]
        exact LinExpr.mem_terms_lt hl ht
    have hr3 : rhs.WF (unconstrainTerms cfg.p b2 lhs.terms).dim := by
      rw [unconstrainTerms_dim, hd2]; exact hr
    rcases mn with _ | ⟨qn, iN⟩ <;> rcases mx with _ | ⟨qx, iX⟩ <;> simp only []
    · exact hb3
    · obtain ⟨g1, g2⟩ := Hmax qx iX rfl
      exact lhs_pre_upper hRef hr3 hb3 g1 g2 hh
    · obtain ⟨g1, g2⟩ := Hmin qn iN rfl
      exact lhs_pre_lower hRef hr3 hb3 g1 g2 hh
    · obtain ⟨g1, g2⟩ := Hmin qn iN rfl
      obtain ⟨g3, g4⟩ := Hmax qx iX rfl
      have m4 := lhs_pre_lower (q := qn) (incl := iN) hRef hr3 hb3 g1 g2 hh
      exact lhs_pre_upper hRef (by rw [lhs_pre_lower_dim]; exact hr3) m4 g3 g4 hh

/-! ## non-vacuity -/

theorem lhsEx_mem : (Box.univ Policy.rational 2).mem Policy.rational (fun _ => 3) :=
  Box.mem_univ _ _ _

theorem lhsEx_agree : AgreeOff ⟨[2], 1⟩ (fun _ => 3) (upd (fun _ => 3) 0 1) := by
  intro k hk
  by_cases h : k = 0
  · subst h; simp [LinExpr.coeff] at hk
  · simp [upd, h]

/-- `2·x₀ + 1 ≤ x₁` on the universe: `x = (3,3)`, `y = (1,3)` -/
example : (generalizedAffineImageLhs Cfg.mpq (Box.univ Policy.rational 2) ⟨[2], 1⟩ .le ⟨[0, 1], 0⟩).mem
    Policy.rational (upd (fun _ => 3) 0 1) :=
  generalizedAffineImageLhs_sound (cfg := Cfg.mpq) Cfg.mpq_sound (fun h => absurd h (by decide))
    (by simp [LinExpr.WF, Box.univ, Box.dim]) (by simp [LinExpr.WF, Box.univ, Box.dim]) (by decide) lhsEx_mem
    lhsEx_agree
    (by norm_num [Rel.holds, LinExpr.eval, LinExpr.dot, upd])

/-- the preimage of the same relation: `y = (3,3)` in the box, `x = (1,3)` with `2·3 + 1 ≥ x₁(x) = 3` -/
example (hRef : RefineSound Cfg.mpq) :
    (generalizedAffinePreimageLhs Cfg.mpq (Box.univ Policy.rational 2) ⟨[2], 1⟩ .ge ⟨[0, 1], 0⟩).mem
      Policy.rational (upd (fun _ => 3) 0 1) :=
  generalizedAffinePreimageLhs_sound (cfg := Cfg.mpq) (y := fun _ => 3) hRef
    (by simp [LinExpr.WF, Box.univ, Box.dim]) (by simp [LinExpr.WF, Box.univ, Box.dim]) (by decide) lhsEx_mem
    (by intro k hk
        by_cases h : k = 0
        · subst h; simp [LinExpr.coeff] at hk
        · simp [upd, h])
    (by norm_num [Rel.holds, LinExpr.eval, LinExpr.dot, upd])

example : (unconstrainTerms Policy.rational (Box.univ Policy.rational 2) [(0, 2), (1, -1)]).mem Policy.rational
    (fun k => if k = 0 then 7 else if k = 1 then 8 else 3) :=
  unconstrainTerms_sound lhsEx_mem (by
    intro k hk
    have h0 : k ≠ 0 := fun h => hk 2 (by simp [h])
    have h1 : k ≠ 1 := fun h => hk (-1) (by simp [h])
    simp [h0, h1]) (by decide)

end PPLV.WR.BoxT

import PPLV.WR.BoxTrans2
import PPLV.Interval.ProofsSet
import PPLV.Interval.ProofsRefine
import PPLV.Interval.ProofsDiv
import PPLV.Interval.ProofsMul
/-!
# `Box<ITV>`: semantics of the box model and the shared vocabulary of the proofs

`Box.mem p b x`: the point `x` (a valuation of the variables) belongs to the box: the box is not
marked empty and every interval contains its coordinate (`Iv.mem` of property C12 reads the OPEN
bit through the policy as the class does).

`dcmp d o u v`: `u` approximates `v` on the side `d` of a directed rounding (`.down`: from below),
strictly when the flag `o` is set.  The transformers round, read open or closed bounds and divide
by coefficients of either sign; every such step moves a `dcmp` fact (`dcmp_trans`, `dcmp_mul_neg`,
`dcmp_div_pos`, …), so that the proofs need no case analysis over direction and strictness.
-/
namespace PPLV.WR.BoxT
open PPLV.Interval
open PPLV.Interval.ExtRat (ninf fin pinf)

/-- both roundings of the instantiation are sound directed roundings (the C12 hypothesis) -/
structure Cfg.Sound (cfg : Cfg) : Prop where
  R : cfg.R.Sound
  TR : cfg.TR.Sound

/-- γ(box) -/
def Box.mem (p : Policy) (b : Box) (x : Nat → Rat) : Prop :=
  b.markedEmpty = false ∧ ∀ k, k < b.seq.length → (b.get k).mem p (x k)

/-- the integer `z` is a value of the temporary type -/
def ExactAt (TR : Rounding) (z : Int) : Prop := TR.down (z : Rat) = fin (z : Rat) ∧ TR.up (z : Rat) = fin (z : Rat)

/-- every coefficient of the variables is a value of the temporary type -/
def CoeffsExact (TR : Rounding) (e : LinExpr) : Prop := ∀ a ∈ e.coeffs, ExactAt TR a

/-- the temporary type holds every integer (`mpq_class`, `mpz_class`) -/
def IntExact (TR : Rounding) : Prop := ∀ z : Int, ExactAt TR z

/-- the expression mentions variables of the box only -/
def LinExpr.WF (e : LinExpr) (n : Nat) : Prop := e.coeffs.length ≤ n

/-- `x[v := y]` -/
def upd (x : Nat → Rat) (v : Nat) (y : Rat) : Nat → Rat := fun k => if k = v then y else x k

/-- `y` differs from `x` on variables of `lhs` only -/
def AgreeOff (lhs : LinExpr) (x y : Nat → Rat) : Prop := ∀ k, lhs.coeff k = 0 → y k = x k

/-- soundness of `refine_with_constraint` as a property of an instantiation: it follows from
`IntExact` (`refineSound_of_intExact`), fails for `Cfg.dbl` (`not_refineSound_dbl`), and the
transformers that refine internally take it as a hypothesis -/
def RefineSound (cfg : Cfg) : Prop :=
  ∀ (b : Box) (c : Con) (x : Nat → Rat), c.e.WF b.dim → b.mem cfg.p x → c.holds x →
    (refineWithConstraint cfg b c).mem cfg.p x

theorem Cfg.mpq_sound : Cfg.mpq.Sound := ⟨Rounding.id_sound, Rounding.id_sound⟩
theorem Cfg.mpz_sound : Cfg.mpz.Sound := ⟨Rounding.int_sound, Rounding.int_sound⟩
theorem Cfg.dbl_sound : Cfg.dbl.Sound := ⟨Rounding.double_sound, Rounding.double_sound⟩

theorem rangeRounding_sound (lo hi : Int) : (rangeRounding lo hi).Sound := by
  constructor
  · intro q
    simp only [rangeRounding]
    split_ifs with h1 h2
    · simp
    · simp; linarith
    · simpa using Rat.floor_le q
  · intro q
    simp only [rangeRounding]
    split_ifs with h1 h2
    · simp
    · simp; linarith
    · simpa using (Rat.le_ceil (x := q))

theorem Cfg.int8_sound : Cfg.int8.Sound := ⟨rangeRounding_sound _ _, rangeRounding_sound _ _⟩

theorem intExact_id : IntExact Rounding.id := fun _ => ⟨rfl, rfl⟩

theorem intExact_int : IntExact Rounding.int := fun z => by
  constructor <;> simp [Rounding.int]

theorem IntExact.coeffsExact {TR : Rounding} (h : IntExact TR) (e : LinExpr) : CoeffsExact TR e :=
  fun a _ => h a

/-- an invariant of the steps of a loop is an invariant of the loop -/
theorem foldl_inv {α β : Type} (Inv : β → Prop) (f : β → α → β) (l : List α) (b : β) (h0 : Inv b)
    (hstep : ∀ b a, a ∈ l → Inv b → Inv (f b a)) : Inv (l.foldl f b) := by
  induction l generalizing b with
  | nil => exact h0
  | cons a l ih =>
    exact ih (f b a) (hstep b a (by simp) h0) fun b' a' ha' => hstep b' a' (List.mem_cons_of_mem _ ha')

@[simp] theorem upd_same (x : Nat → Rat) (v : Nat) (y : Rat) : upd x v y v = y := by simp [upd]
theorem upd_other (x : Nat → Rat) {v k : Nat} (y : Rat) (h : k ≠ v) : upd x v y k = x k := by simp [upd, h]

theorem upd_self (x : Nat → Rat) (v : Nat) : upd x v (x v) = x := by
  funext k; by_cases h : k = v <;> simp [upd, h]

theorem upd_upd (x : Nat → Rat) (v : Nat) (a c : Rat) : upd (upd x v a) v c = upd x v c := by
  funext k; by_cases h : k = v <;> simp [upd, h]

theorem upd_upd_self (x : Nat → Rat) (v : Nat) (a : Rat) : upd (upd x v a) v (x v) = x := by
  rw [upd_upd, upd_self]

theorem Box.get_setIv_same (b : Box) {k : Nat} (I : Iv) (h : k < b.seq.length) : (b.setIv k I).get k = I := by
  simp [Box.get, Box.setIv, List.getD, h]

theorem Box.get_setIv_other (b : Box) {k j : Nat} (I : Iv) (h : j ≠ k) : (b.setIv k I).get j = b.get j := by
  simp [Box.get, Box.setIv, List.getD, List.getElem?_set_ne (Ne.symm h)]

@[simp] theorem Box.setIv_length (b : Box) (k : Nat) (I : Iv) : (b.setIv k I).seq.length = b.seq.length := by
  simp [Box.setIv]

/-- replacing one interval by one that contains the new coordinate -/
theorem Box.mem_setIv {p : Policy} {b : Box} {x : Nat → Rat} {v : Nat} {I : Iv} {y : Rat}
    (hx : b.mem p x) (hI : I.mem p y) : (b.setIv v I).mem p (upd x v y) := by
  refine ⟨by simpa [Box.setIv, Box.markedEmpty] using hx.1, ?_⟩
  intro k hk
  rw [Box.setIv_length] at hk
  by_cases h : k = v
  · subst h; rw [Box.get_setIv_same b I hk, upd_same]; exact hI
  · rw [Box.get_setIv_other b I h, upd_other x y h]; exact hx.2 k hk

/-- same, the coordinate unchanged -/
theorem Box.mem_setIv_self {p : Policy} {b : Box} {x : Nat → Rat} {v : Nat} {I : Iv}
    (hx : b.mem p x) (hI : I.mem p (x v)) : (b.setIv v I).mem p x := by
  have := Box.mem_setIv (v := v) hx hI
  rwa [upd_self] at this

theorem Box.mem_resetEmptyUpToDate {p : Policy} {b : Box} {x : Nat → Rat} (hx : b.mem p x) :
    b.resetEmptyUpToDate.mem p x := by
  refine ⟨by simp [Box.resetEmptyUpToDate, Box.markedEmpty], ?_⟩
  intro k hk; exact hx.2 k hk

/-- a member shows that no interval is empty: the emptiness query answers `false` and only
touches the cache -/
theorem Box.isEmptyQ_of_mem {p : Policy} {b : Box} {x : Nat → Rat} (hx : b.mem p x) :
    (b.isEmptyQ p).1 = false ∧ (b.isEmptyQ p).2.mem p x ∧ (b.isEmptyQ p).2.seq = b.seq := by
  have hany : (b.seq.any fun I => isEmpty p I) = false := by
    rw [List.any_eq_false]
    intro I hI
    obtain ⟨k, hk, rfl⟩ := List.getElem_of_mem hI
    have := hx.2 k hk
    have hg : b.get k = b.seq[k] := by simp [Box.get, List.getD, hk]
    rw [hg] at this
    simp [isEmpty_of_mem this]
  unfold Box.isEmptyQ Box.checkEmpty
  rw [hx.1, hany]
  refine ⟨by simp, ⟨by simp [Box.setNonempty, Box.markedEmpty], ?_⟩, by simp [Box.setNonempty]⟩
  intro k hk; exact hx.2 k hk

theorem cmp_trans {o1 o2 : Bool} {x y z : Rat} (h1 : cmp o1 x y) (h2 : cmp o2 y z) : cmp (o1 || o2) x z := by
  cases o1 <;> cases o2 <;> simp only [Bool.or, cmp_true, cmp_false] at * <;> linarith

theorem cmp_mono {o o' : Bool} {x y : Rat} (ho : o' = true → o = true) (h : cmp o x y) : cmp o' x y := by
  cases o <;> cases o' <;> simp at * <;> linarith

theorem cmp_iff {o : Bool} {x y : Rat} : cmp o x y ↔ x ≤ y ∧ (o = true → x < y) := by
  cases o
  · simp
  · simp only [cmp_true, true_implies]; exact ⟨fun h => ⟨h.le, h⟩, fun h => h.2⟩

theorem cmp_mul_pos {o : Bool} {a u v : Rat} (ha : 0 < a) (h : cmp o u v) : cmp o (a * u) (a * v) := by
  cases o <;> simp only [cmp_true, cmp_false] at *
  · exact mul_le_mul_of_nonneg_left h ha.le
  · exact mul_lt_mul_of_pos_left h ha

theorem cmp_mul_neg {o : Bool} {a u v : Rat} (ha : a < 0) (h : cmp o u v) : cmp o (a * v) (a * u) := by
  cases o <;> simp only [cmp_true, cmp_false] at *
  · exact mul_le_mul_of_nonpos_left h ha.le
  · exact mul_lt_mul_of_neg_left h ha

theorem cmp_div_right {o : Bool} {c u v : Rat} (hc : 0 < c) (h : cmp o u v) : cmp o (u / c) (v / c) := by
  simpa only [div_eq_inv_mul] using cmp_mul_pos (inv_pos.2 hc) h

/-- `acc ≤ Y`, `p1 ≤ p2` give `acc − p2 ≤ Y − p1` -/
theorem cmp_sub {o o' : Bool} {acc Y p1 p2 : Rat} (h1 : cmp o acc Y) (h2 : cmp o' p1 p2) :
    cmp (o || o') (acc - p2) (Y - p1) := by
  cases o <;> cases o' <;> simp only [Bool.or, cmp_true, cmp_false] at * <;> linarith

/-- comparison in the direction of a rounding: `.down`: `u ≤ v`, `.up`: `v ≤ u`; strict when `o` -/
def dcmp (d : Dir) (o : Bool) (u v : Rat) : Prop :=
  match d with
  | .down => cmp o u v
  | .up => cmp o v u

theorem dcmp_flip {d : Dir} {o : Bool} {u v : Rat} : dcmp d.flip o u v ↔ dcmp d o v u := by
  cases d <;> rfl

theorem dcmp_mono {d : Dir} {o o' : Bool} {x y : Rat} (ho : o' = true → o = true) (h : dcmp d o x y) :
    dcmp d o' x y := by
  cases d <;> exact cmp_mono ho h

theorem dcmp_congr {d : Dir} {o o' : Bool} {x y : Rat} (e : o = o') (h : dcmp d o x y) : dcmp d o' x y := e ▸ h

theorem dcmp_trans {d : Dir} {o1 o2 : Bool} {x y z : Rat} (h1 : dcmp d o1 x y) (h2 : dcmp d o2 y z) :
    dcmp d (o1 || o2) x z := by
  cases d
  · exact cmp_trans h1 h2
  · rw [Bool.or_comm]; exact cmp_trans h2 h1

theorem dcmp_neg {d : Dir} {o : Bool} {u v : Rat} (h : dcmp d.flip o u v) : dcmp d o (-u) (-v) := by
  cases d <;> exact cmp_neg.2 h

theorem dcmp_mul_pos {d : Dir} {o : Bool} {a u v : Rat} (ha : 0 < a) (h : dcmp d o u v) :
    dcmp d o (a * u) (a * v) := by
  cases d <;> exact cmp_mul_pos ha h

/-- a negative factor swaps the sides -/
theorem dcmp_mul_neg {d : Dir} {o : Bool} {a u v : Rat} (ha : a < 0) (h : dcmp d o u v) :
    dcmp d.flip o (a * u) (a * v) := by
  cases d <;> exact cmp_mul_neg ha h

/-- division by `a` is multiplication by `a⁻¹`, of the same sign -/
theorem dcmp_div_pos {d : Dir} {o : Bool} {a v y : Rat} (ha : 0 < a) (h : dcmp d o v (a * y)) :
    dcmp d o (v / a) y := by
  simpa only [inv_mul_cancel_left₀ ha.ne', ← div_eq_inv_mul] using dcmp_mul_pos (inv_pos.2 ha) h

theorem dcmp_div_neg {d : Dir} {o : Bool} {a v y : Rat} (ha : a < 0) (h : dcmp d o v (a * y)) :
    dcmp d.flip o (v / a) y := by
  simpa only [inv_mul_cancel_left₀ ha.ne, ← div_eq_inv_mul] using dcmp_mul_neg (inv_lt_zero.2 ha) h

/-- `acc` on the side `d` of `Y`, `pr` on the other side of `P`: `acc − pr` is on the side `d` of `Y − P` -/
theorem dcmp_sub {d : Dir} {o o' : Bool} {acc Y pr P : Rat} (h1 : dcmp d o acc Y) (h2 : dcmp d.flip o' pr P) :
    dcmp d (o || o') (acc - pr) (Y - P) := by
  rw [dcmp_flip] at h2
  cases d <;> exact cmp_sub h1 h2

theorem dcmp_add {d : Dir} {o o' : Bool} {a b c e : Rat} (h1 : dcmp d o a b) (h2 : dcmp d o' c e) :
    dcmp d (o || o') (a + c) (b + e) := by
  have := dcmp_sub h1 (dcmp_neg (d := d.flip) (by rwa [dcmp_flip, dcmp_flip]))
  rwa [sub_neg_eq_add, sub_neg_eq_add] at this

/-- the relation symbol of the interval constraint built from a bound on the side `d` -/
theorem rel_of_dcmp {d : Dir} {o opn : Bool} {tb xk : Rat} (h : dcmp d o tb xk) (ho : opn = true → o = true) :
    Rel.holds (if decide (d = .down) then (if opn then Rel.gt else Rel.ge) else (if opn then Rel.lt else Rel.le))
      xk tb := by
  have h' := dcmp_mono ho h
  cases d <;> cases opn <;> simpa [Rel.holds, dcmp] using h'

end PPLV.WR.BoxT

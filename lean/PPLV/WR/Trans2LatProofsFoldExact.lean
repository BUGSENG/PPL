import PPLV.WR.Trans2LatProofsRemoveExact
/-!
# Exact arithmetic: `BD_Shape<T>::fold_space_dimensions` computes the LEAST bounded-difference shape that
contains every folded piece

After the exact shortest-path closure the matrix is canonical (`bdsLatCanon`, from `DBM.closure_tight`):
every off-diagonal cell is the least bound of its difference over the points of the shape.  The
`max_assign`s of `fold_space_dimensions` only write row and column `dest`; a cell `(j, dest)` ends up below
every common bound of the closed cells `(j, dest)`, `(j, w)` (`w` folded), each of which is the least bound
of `x_w - x_j` over the shape, i.e. of `y_dest - y_j` over the piece folded through `w`.  The inner
`remove_space_dimensions` runs no closure (the closed flag is still set) and only re-indexes.
-/
namespace PPLV.WR
open ExtRat

/-! ## the table of source indices never selects a removed variable (`vars` ascending) -/

theorem bdsLatRemoveSrcs_notvar (old : Nat) (vs : List Nat) (src : Nat) (hs : vs.Pairwise (· < ·))
    (hge : ∀ u, u ∈ vs → src ≤ u + 1) :
    ∀ s, s ∈ bdsLatRemoveSrcs old vs src → ∀ u, u ∈ vs → s ≠ u + 1 := by
  induction vs generalizing src with
  | nil => intro s _ u hu; simp at hu
  | cons v vs ih =>
    intro s hs' u hu
    simp only [bdsLatRemoveSrcs, List.mem_append, List.mem_range'_1] at hs'
    have hv := hge v List.mem_cons_self
    rw [List.pairwise_cons] at hs
    obtain ⟨hlt, hsv⟩ := hs
    rcases hs' with h | h
    · rcases List.mem_cons.1 hu with rfl | hu'
      · omega
      · have := hlt u hu'; omega
    · have hge2 := bdsLatRemoveSrcs_ge old vs _ s h
      rcases List.mem_cons.1 hu with rfl | hu'
      · omega
      · exact ih (max src (v + 1) + 1) hsv (fun u hu => by have := hlt u hu; omega) s h u hu'

theorem bdsLatRemoveTable_notvar (old : Nat) (vars : List Nat) (hs : vars.Pairwise (· < ·)) :
    ∀ s, s ∈ bdsLatRemoveTable old vars → ∀ u, u ∈ vars → s ≠ u + 1 := by
  cases vars with
  | nil => intro s _ u hu; simp at hu
  | cons first rest =>
    intro s hs' u hu
    simp only [bdsLatRemoveTable, List.mem_append, List.mem_range] at hs'
    rw [List.pairwise_cons] at hs
    obtain ⟨hlt, hsv⟩ := hs
    rcases hs' with h | h
    · rcases List.mem_cons.1 hu with rfl | hu'
      · omega
      · have := hlt u hu'; omega
    · have hge2 := bdsLatRemoveSrcs_ge old rest _ s h
      rcases List.mem_cons.1 hu with rfl | hu'
      · omega
      · exact bdsLatRemoveSrcs_notvar old rest (first + 2) hsv (fun u hu => by have := hlt u hu; omega) s h u hu'

theorem bdsLatDropPoint_val (n : Nat) (vars : List Nat) (y : Nat → Rat) (a : Nat) :
    DBM.val (bdsLatDropPoint n vars y) a = DBM.val y ((bdsLatRemoveTable n vars).getD a 0) := by
  cases a with
  | zero => rw [bdsLatRemoveTable_zero]; rfl
  | succ a => rfl

/-! ## what the `max_assign`s leave -/

/-- the cells off row and column `v` are those of `C`; the cells of column `v` are below `E`, those of
row `v` below `E'` -/
def bdsLatFoldInv (v : Nat) (C : Mat) (E E' : Nat → ExtRat) (s : Mat) : Prop :=
  (∀ A B, A ≠ v → B ≠ v → s A B = C A B) ∧ (∀ A, A ≠ v → s A v ≤ E A) ∧ (∀ B, B ≠ v → s v B ≤ E' B)

theorem bdsLatFoldInv_one (n v t : Nat) (C : Mat) (E E' : Nat → ExtRat) (ht : t ≠ v)
    (hE : ∀ A, A ≠ v → C A t ≤ E A) (hE' : ∀ B, B ≠ v → C t B ≤ E' B) {s : Mat}
    (h : bdsLatFoldInv v C E E' s) : bdsLatFoldInv v C E E' (bdsLatFoldOne n v t s) := by
  unfold bdsLatFoldOne
  apply latLoopDown_inv (bdsLatFoldInv v C E E') h
  intro j s hj hs
  obtain ⟨h1, h2, h3⟩ := hs
  refine ⟨?_, ?_, ?_⟩
  · intro A B hA hB
    simp only [Mat.set_apply]
    rw [if_neg (fun h => hA h.1), if_neg (fun h => hB h.2)]
    exact h1 A B hA hB
  · intro A hA
    simp only [Mat.set_apply]
    rw [if_neg (fun h => hA h.1)]
    by_cases hAj : A = j
    · subst hAj
      rw [if_pos (by simp)]
      exact latMaxA_le (h2 A hA) (by rw [h1 A t hA ht]; exact hE A hA)
    · rw [if_neg (fun h => hAj h.1)]
      exact h2 A hA
  · intro B hB
    simp only [Mat.set_apply]
    by_cases hBj : B = j
    · subst hBj
      rw [if_pos (by simp), if_neg (fun h => hB h.2), if_neg (fun h => hB h.2)]
      exact latMaxA_le (h3 B hB) (by rw [h1 t B ht hB]; exact hE' B hB)
    · rw [if_neg (fun h => hBj h.2), if_neg (fun h => hB h.2)]
      exact h3 B hB

theorem bdsLatFoldInv_loop (n v : Nat) (vars : List Nat) (C : Mat) (E E' : Nat → ExtRat)
    (ht : ∀ t, t ∈ vars → t + 1 ≠ v)
    (hE : ∀ t, t ∈ vars → ∀ A, A ≠ v → C A (t + 1) ≤ E A)
    (hE' : ∀ t, t ∈ vars → ∀ B, B ≠ v → C (t + 1) B ≤ E' B) {s : Mat}
    (h : bdsLatFoldInv v C E E' s) : bdsLatFoldInv v C E E' (bdsLatFoldLoop n v vars s) := by
  rw [bdsLatFoldLoop_eq]
  induction vars generalizing s with
  | nil => exact h
  | cons u us ih =>
    simp only [List.foldl_cons]
    exact ih (fun t ht' => ht t (List.mem_cons_of_mem _ ht'))
      (fun t ht' => hE t (List.mem_cons_of_mem _ ht'))
      (fun t ht' => hE' t (List.mem_cons_of_mem _ ht'))
      (bdsLatFoldInv_one n v (u + 1) C E E' (ht u List.mem_cons_self) (hE u List.mem_cons_self)
        (hE' u List.mem_cons_self) h)

/-- the cells off row and column `v` are never written (no hypothesis on `vars`) -/
theorem bdsLatFoldLoop_off (n v : Nat) (vars : List Nat) (s : Mat) {A B : Nat} (hA : A ≠ v) (hB : B ≠ v) :
    bdsLatFoldLoop n v vars s A B = s A B := by
  rw [bdsLatFoldLoop_eq]
  induction vars generalizing s with
  | nil => rfl
  | cons u us ih =>
    simp only [List.foldl_cons]
    rw [ih]
    unfold bdsLatFoldOne
    refine latLoopDown_frame (fun s : Mat => s A B) ?_
    intro j s hj
    simp only [Mat.set_apply]
    rw [if_neg (fun h => hA h.1), if_neg (fun h => hB h.2)]

/-! ## canonical matrices -/

/-- a cell of a canonical matrix is below every bound of its difference over the shape -/
theorem bdsLatCanon_cell_le {n : Nat} {C : Mat} (hc : bdsLatCanon n C) {I J : Nat} (hI : I ≤ n) (hJ : J ≤ n)
    (hIJ : I ≠ J) (e : ExtRat) (h : ∀ x, x ∈ γB n C → fin (DBM.val x J - DBM.val x I) ≤ e) : C I J ≤ e := by
  have := hc.2 { f := fun i j => if i = I ∧ j = J then e else pinf } (by
    intro x hx a b hab
    show _ ≤ (if a = I ∧ b = J then e else pinf)
    split
    · rename_i hab'; obtain ⟨rfl, rfl⟩ := hab'; exact h x hx
    · exact le_pinf _) I J hI hJ hIJ
  simpa using this

/-- the closure at the head of `fold_space_dimensions`, exact arithmetic, on a non-empty shape of positive
dimension: the flag is set afterwards and the matrix is canonical -/
theorem bdsLatClose_exact {n : Nat} (hn : n ≠ 0) (c : Bool) {m : Mat} (hd : bdsLatDiag n m)
    (hc : c = true → bdsLatCanon n m) (hq : ∃ q, q ∈ γB n m) :
    ∃ C, bdsLatClose upId n c m = some (C, true) ∧ bdsLatCanon n C ∧ γB n C = γB n m := by
  obtain ⟨q, hq⟩ := hq
  obtain ⟨m', c', e, _⟩ := bdsLatClose_sound (up := upId) (fun _ => le_rfl' _) n c m hq
  obtain ⟨hcan, rfl⟩ := bdsLatClose_canon hn hc e
  exact ⟨m', e, hcan, bdsLatClose_gamma hd e⟩

theorem bdsLatClose_marked (n : Nat) (F : Mat) : bdsLatClose upId n true F = some (F, true) := by
  simp [bdsLatClose]

/-- `fold_space_dimensions(vars, dest)`, exact arithmetic, non-empty shape: the result is the least
bounded-difference shape containing every folded piece — it is contained in `γ d` for every matrix `d` whose
shape contains the folded images (through `dest` itself and through every `w ∈ vars`) of every point.
`vars` is ascending with ids `< n` (the `Variables_Set` of the call); a set closed flag has to mean what it
says (`bdsLatCanon`), with the flag clear there is no hypothesis besides the class invariant. -/
theorem bdsLatFold_exact (n : Nat) (c : Bool) (m : Mat) (hd : bdsLatDiag n m)
    (hc : c = true → bdsLatCanon n m) (hq : ∃ q, q ∈ γB n m) (vars : List Nat) (dest : Nat) (hne : vars ≠ [])
    (hsorted : vars.Pairwise (· < ·)) (hvs : ∀ v, v ∈ vars → v < n) :
    ∃ r, bdsLatFold Rnd.exact n c m vars dest = some r ∧ r.dim = n - vars.length ∧
      ∀ d : Mat, (∀ x, x ∈ γB n m → ∀ w, (w = dest ∨ w ∈ vars) →
          bdsLatDropPoint n vars (upd x dest (x w)) ∈ γB r.dim d) → γB r.dim r.m ⊆ γB r.dim d := by
  unfold bdsLatFold
  have hie : vars.isEmpty = false := List.isEmpty_eq_false_iff.2 hne
  simp only [hie, Bool.false_eq_true, if_false]
  rw [latExactUp]
  have hn : n ≠ 0 := by
    cases vars with
    | nil => exact absurd rfl hne
    | cons v vs => have := hvs v List.mem_cons_self; omega
  obtain ⟨C, e, hcan, hg⟩ := bdsLatClose_exact hn c hd hc hq
  simp only [e]
  unfold bdsLatRemoveDims
  simp only [hie, Bool.false_eq_true, if_false]
  rw [latExactUp, bdsLatClose_marked]
  dsimp only
  obtain ⟨q, hq⟩ := hq
  by_cases h0 : n - vars.length = 0
  · simp only [if_pos h0]
    refine ⟨_, rfl, h0.symm, ?_⟩
    intro d hdp z hz a b hab
    have ha : a = 0 := by have := hab.1; simp only at this; omega
    have hb : b = 0 := by have := hab.2; simp only at this; omega
    subst ha; subst hb
    have := hdp q hq dest (Or.inl rfl) 0 0 ⟨by simp, by simp⟩
    simpa using this
  · simp only [if_neg h0]
    refine ⟨_, rfl, rfl, ?_⟩
    intro d hdp z hz a b hab
    have hak : a < n - vars.length + 1 := hab.1
    have hbk : b < n - vars.length + 1 := hab.2
    have hz' := hz a b hab
    by_cases hab' : a = b
    · subst hab'
      have := hdp q hq dest (Or.inl rfl) a a hab
      simp only [sub_self] at this ⊢
      exact this
    · refine le_trans' hz' ?_
      show bdsLatFoldLoop n (dest + 1) vars C ((bdsLatRemoveTable n vars).getD a 0)
        ((bdsLatRemoveTable n vars).getD b 0) ≤ d a b
      have hsortedT := bdsLatRemoveTable_sorted n vars
      have hlen := bdsLatRemoveTable_length n vars hvs
      have hmemA := latGetD_mem (l := bdsLatRemoveTable n vars) (a := a) (by omega)
      have hmemB := latGetD_mem (l := bdsLatRemoveTable n vars) (a := b) (by omega)
      have hAB : (bdsLatRemoveTable n vars).getD a 0 ≠ (bdsLatRemoveTable n vars).getD b 0 :=
        fun h => hab' (latGetD_inj hsortedT (by omega) (by omega) h)
      have hA := bdsLatRemoveTable_mem_le n vars hvs _ hmemA
      have hB := bdsLatRemoveTable_mem_le n vars hvs _ hmemB
      have hAvars := bdsLatRemoveTable_notvar n vars hsorted _ hmemA
      have hBvars := bdsLatRemoveTable_notvar n vars hsorted _ hmemB
      have key : ∀ w, (w = dest ∨ w ∈ vars) → ∀ I J, I ≤ n → J ≤ n → I ≠ J →
          (∀ x : Nat → Rat, DBM.val (upd x dest (x w)) ((bdsLatRemoveTable n vars).getD b 0)
              - DBM.val (upd x dest (x w)) ((bdsLatRemoveTable n vars).getD a 0)
            = DBM.val x J - DBM.val x I) → C I J ≤ d a b := by
        intro w hw I J hI hJ hIJ hval
        apply bdsLatCanon_cell_le hcan hI hJ hIJ
        intro x hx
        have := hdp x (hg ▸ hx) w hw a b hab
        rw [bdsLatDropPoint_val, bdsLatDropPoint_val, hval x] at this
        exact this
      generalize (bdsLatRemoveTable n vars).getD a 0 = A at hAB hA hB hAvars hBvars hmemA hmemB key ⊢
      generalize (bdsLatRemoveTable n vars).getD b 0 = B at hAB hB hBvars hmemB key ⊢
      by_cases hBv : B = dest + 1
      · have hAv : A ≠ dest + 1 := hBv ▸ hAB
        have htv : ∀ t, t ∈ vars → t + 1 ≠ dest + 1 := fun t ht h => hBvars t ht (hBv.trans h.symm)
        have inv := bdsLatFoldInv_loop n (dest + 1) vars C (fun X => if X = A then d a b else pinf)
          (fun _ => pinf) htv
          (by
            intro t ht X hX
            show _ ≤ (if X = A then d a b else pinf)
            split
            · rename_i hXA; subst hXA
              exact key t (Or.inr ht) X (t + 1) hA (hvs t ht) (hAvars t ht)
                (fun x => by rw [hBv, val_upd_self, val_upd_ne _ _ hAv]; rfl)
            · exact le_pinf _)
          (fun _ _ _ _ => le_pinf _) (s := C)
          ⟨fun _ _ _ _ => rfl, by
            intro X hX
            show _ ≤ (if X = A then d a b else pinf)
            split
            · rename_i hXA; subst hXA
              exact key dest (Or.inl rfl) X (dest + 1) hA (hBv ▸ hB) hAv
                (fun x => by rw [latUpd_self, hBv])
            · exact le_pinf _, fun _ _ => le_pinf _⟩
        have := inv.2.1 A hAv
        rw [hBv]
        simpa using this
      · by_cases hAv : A = dest + 1
        · have htv : ∀ t, t ∈ vars → t + 1 ≠ dest + 1 := fun t ht h => hAvars t ht (hAv.trans h.symm)
          have inv := bdsLatFoldInv_loop n (dest + 1) vars C (fun _ => pinf)
            (fun X => if X = B then d a b else pinf) htv
            (fun _ _ _ _ => le_pinf _)
            (by
              intro t ht X hX
              show _ ≤ (if X = B then d a b else pinf)
              split
              · rename_i hXB; subst hXB
                exact key t (Or.inr ht) (t + 1) X (hvs t ht) hB (fun h => hBvars t ht h.symm)
                  (fun x => by rw [hAv, val_upd_self, val_upd_ne _ _ hBv]; rfl)
              · exact le_pinf _) (s := C)
            ⟨fun _ _ _ _ => rfl, fun _ _ => le_pinf _, by
              intro X hX
              show _ ≤ (if X = B then d a b else pinf)
              split
              · rename_i hXB; subst hXB
                exact key dest (Or.inl rfl) (dest + 1) X (hAv ▸ hA) hB (fun h => hBv h.symm)
                  (fun x => by rw [latUpd_self, hAv])
              · exact le_pinf _⟩
          have := inv.2.2 B hBv
          rw [hAv]
          simpa using this
        · rw [bdsLatFoldLoop_off n _ vars C hAv hBv]
          exact key dest (Or.inl rfl) A B hA hB hAB (fun x => by rw [latUpd_self])

end PPLV.WR

import PPLV.WR.ReduceProofsMathPreserve
/-!
# Reduction of a closed difference-bound matrix, pure mathematics (4): the affine dimension

`leaderCount n lead` = number of zero-equivalence classes not containing the zero variable (leaders among the
indices `1..n`; `lead 0 = 0`).  Geometric content of `affine_dimension() = leaderCount`:

* (i) every non-leader is an affine function of its leader on the whole shape (`n - d` independent equalities:
  each one mentions a different non-leader);
* (ii) there is a point of the shape around which the `d` classes can be translated independently and
  simultaneously by any amounts `|t_l| ≤ δ` (`d` independent directions: the indicator vectors of the classes).

The point of (ii) is a relative-interior point: strictly inside every entry between two indices that are not
zero-equivalent.  It is obtained by averaging, one pair at a time (`exists_strict_all`).
-/
namespace PPLV.WR
open ExtRat (fin pinf)

/-- number of leaders among the indices `1..n` -/
def leaderCount (n : Nat) (lead : Nat → Nat) : Nat :=
  ((List.range (n+1)).filter (fun i => i != 0 && lead i == i)).length

/-! ## a relative-interior potential of a closed matrix -/

theorem holds_mid {S : Nat → Nat → Prop} {p q : Nat → Rat} {m : Mat} (hp : Holds S p m) (hq : Holds S q m) :
    Holds S (fun i => (p i + q i) / 2) m := by
  intro a b hab
  have h1 := hp a b hab
  have h2 := hq a b hab
  show fin ((p b + q b) / 2 - (p a + q a) / 2) ≤ m a b
  cases h : m a b with
  | pinf => exact ExtRat.le_pinf _
  | fin u =>
    rw [h, ExtRat.fin_le_fin] at h1 h2
    rw [ExtRat.fin_le_fin]; linarith only [h1, h2]

/-- `p` is strictly inside the entry `(u, v)` whenever `u`, `v` are distinct and not on a zero-weight 2-cycle -/
def StrictAt (m : Mat) (p : Nat → Rat) (u v : Nat) : Prop :=
  u ≠ v → ¬ (eadd (m u v) (m v u) ≤ fin 0) → ∀ q, m u v = fin q → p v - p u < q

theorem exists_strict {R : Nat} {m : Mat} (hm : Closed R m) {u v : Nat} (hu : u < R) (hv : v < R) :
    ∃ p, Holds (SB R) p m ∧ StrictAt m p u v := by
  by_cases huv : u = v
  · obtain ⟨p, hp⟩ := hm.nonempty
    exact ⟨p, hp, fun h => absurd huv h⟩
  by_cases hnz : eadd (m u v) (m v u) ≤ fin 0
  · obtain ⟨p, hp⟩ := hm.nonempty
    exact ⟨p, hp, fun _ h => absurd hnz h⟩
  cases h1 : m u v with
  | pinf =>
    obtain ⟨p, hp⟩ := hm.nonempty
    refine ⟨p, hp, fun _ _ q hq => ?_⟩
    rw [h1] at hq
    exact ExtRat.noConfusion hq
  | fin q =>
    cases h2 : m v u with
    | pinf =>
      obtain ⟨p, hp, hd⟩ := hm.attains hu hv huv (q - 1) (by rw [h1, ExtRat.fin_le_fin]; exact sub_le_self q zero_le_one)
        (by rw [h2]; exact ExtRat.le_pinf _)
      refine ⟨p, hp, fun _ _ q' hq' => ?_⟩
      rw [h1] at hq'
      injection hq' with hq'
      rw [hd, ← hq']; exact sub_one_lt q
    | fin r =>
      rw [h1, h2] at hnz
      simp only [eadd, ExtRat.addUp, ExtRat.fin_le_fin, not_le] at hnz
      obtain ⟨p, hp, hd⟩ := hm.attains hu hv huv ((q - r) / 2) (by rw [h1, ExtRat.fin_le_fin]; linarith only [hnz])
        (by rw [h2, ExtRat.fin_le_fin]; linarith only [hnz])
      refine ⟨p, hp, fun _ _ q' hq' => ?_⟩
      rw [h1] at hq'
      injection hq' with hq'
      rw [hd, ← hq']; linarith only [hnz]

theorem StrictAt.mid_left {R : Nat} {m : Mat} {p q : Nat → Rat} {u v : Nat} (hu : u < R) (hv : v < R)
    (hp : StrictAt m p u v) (hq : Holds (SB R) q m) : StrictAt m (fun i => (p i + q i) / 2) u v := by
  intro h1 h2 w hw
  have e1 := hp h1 h2 w hw
  have e2 := hq u v ⟨hu, hv⟩
  rw [hw, ExtRat.fin_le_fin] at e2
  show (p v + q v) / 2 - (p u + q u) / 2 < w
  linarith only [e1, e2]

theorem StrictAt.mid_right {R : Nat} {m : Mat} {p q : Nat → Rat} {u v : Nat} (hu : u < R) (hv : v < R)
    (hp : Holds (SB R) p m) (hq : StrictAt m q u v) : StrictAt m (fun i => (p i + q i) / 2) u v := by
  intro h1 h2 w hw
  have e1 := hq h1 h2 w hw
  have e2 := hp u v ⟨hu, hv⟩
  rw [hw, ExtRat.fin_le_fin] at e2
  show (p v + q v) / 2 - (p u + q u) / 2 < w
  linarith only [e1, e2]

/-- averaging one pair at a time -/
theorem exists_strict_list {R : Nat} {m : Mat} (hm : Closed R m) (L : List (Nat × Nat))
    (hL : ∀ uv, uv ∈ L → uv.1 < R ∧ uv.2 < R) :
    ∃ p, Holds (SB R) p m ∧ ∀ uv, uv ∈ L → StrictAt m p uv.1 uv.2 := by
  induction L with
  | nil =>
    obtain ⟨p, hp⟩ := hm.nonempty
    exact ⟨p, hp, fun _ h => by simp at h⟩
  | cons a L ih =>
    obtain ⟨p, hp, hs⟩ := ih (fun uv h => hL uv (List.mem_cons_of_mem _ h))
    obtain ⟨ha1, ha2⟩ := hL a List.mem_cons_self
    obtain ⟨q, hq, hqs⟩ := exists_strict hm ha1 ha2
    refine ⟨fun i => (p i + q i) / 2, holds_mid hp hq, fun uv huv => ?_⟩
    rcases List.mem_cons.1 huv with rfl | h
    · exact StrictAt.mid_right ha1 ha2 hp hqs
    · obtain ⟨h1, h2⟩ := hL uv (List.mem_cons_of_mem _ h)
      exact StrictAt.mid_left h1 h2 (hs uv h) hq

def allPairs (R : Nat) : List (Nat × Nat) :=
  (List.range R).flatMap fun u => (List.range R).map fun v => (u, v)

theorem mem_allPairs (R u v : Nat) : (u, v) ∈ allPairs R ↔ u < R ∧ v < R := by
  simp [allPairs]

theorem exists_strict_all {R : Nat} {m : Mat} (hm : Closed R m) :
    ∃ p, Holds (SB R) p m ∧ ∀ u v, u < R → v < R → StrictAt m p u v := by
  obtain ⟨p, hp, hs⟩ := exists_strict_list hm (allPairs R) (by
    rintro ⟨u, v⟩ h
    exact (mem_allPairs R u v).1 h)
  exact ⟨p, hp, fun u v hu hv => hs (u, v) ((mem_allPairs R u v).2 ⟨hu, hv⟩)⟩

theorem exists_pos_le_all {α : Type} (L : List α) (f : α → Rat) (hf : ∀ a, a ∈ L → 0 < f a) :
    ∃ δ : Rat, 0 < δ ∧ ∀ a, a ∈ L → δ ≤ f a := by
  induction L with
  | nil => exact ⟨1, by norm_num, fun _ h => by simp at h⟩
  | cons a L ih =>
    obtain ⟨δ, h1, h2⟩ := ih (fun b hb => hf b (List.mem_cons_of_mem _ hb))
    refine ⟨min δ (f a), lt_min h1 (hf a List.mem_cons_self), fun b hb => ?_⟩
    rcases List.mem_cons.1 hb with rfl | hb
    · exact min_le_right _ _
    · exact le_trans (min_le_left _ _) (h2 b hb)

/-- half of the slack of `p` at `(u, v)` (`1` when there is none to speak of) -/
def halfSlack (m : Mat) (p : Nat → Rat) (uv : Nat × Nat) : Rat :=
  match m uv.1 uv.2 with
  | fin q => if p uv.2 - p uv.1 < q then (q - (p uv.2 - p uv.1)) / 2 else 1
  | pinf => 1

theorem halfSlack_pos (m : Mat) (p : Nat → Rat) (uv : Nat × Nat) : 0 < halfSlack m p uv := by
  unfold halfSlack
  split
  · split
    · rename_i h; linarith only [h]
    · norm_num
  · norm_num

/-! ## the two halves of the geometric statement -/

variable {n : Nat}

section
variable (c : DBM n) (hc : c.IsClosed) (lead : Nat → Nat) (hl : IsLeaderMap n c.e lead)
include hc hl

omit hc in
/-- (i) a non-leader is an affine function of its leader on the shape -/
theorem affine_nonleader_eq (x : Nat → Rat) (hx : x ∈ DBM.γ c) (i : Nat) (hi : i ≤ n)
    (hne : lead i ≠ i) : fin (DBM.val x i - DBM.val x (lead i)) = c.e (lead i) i := by
  have hln := lead_le_n c lead hl hi
  obtain ⟨p, h1, h2⟩ := c.zeq_fin hln (hl.zeq i hi)
  rw [c.z_ne hne] at h1
  rw [c.z_ne (Ne.symm hne)] at h2
  have e1 := hx (lead i) i hln hi
  have e2 := hx i (lead i) hi hln
  rw [h1, ExtRat.fin_le_fin] at e1
  rw [h2, ExtRat.fin_le_fin] at e2
  rw [h1]
  congr 1
  linarith only [e1, e2]

/-- (ii) the classes not containing the zero variable move freely, simultaneously and independently, around a
relative-interior point -/
theorem affine_free_directions :
    ∃ x0, x0 ∈ DBM.γ c ∧ ∃ δ : Rat, 0 < δ ∧ ∀ t : Nat → Rat, (∀ l, |t l| ≤ δ) →
      (fun k => x0 k + if lead (k+1) = lead 0 then 0 else t (lead (k+1))) ∈ DBM.γ c := by
  obtain ⟨p, hp, hs⟩ := exists_strict_all hc.closed
  obtain ⟨x0, hx0, hv⟩ := c.point_of_z hp
  obtain ⟨δ, hδ, hle⟩ := exists_pos_le_all (allPairs (n+1)) (halfSlack c.z p)
    (fun a _ => halfSlack_pos _ _ _)
  refine ⟨x0, hx0, δ, hδ, fun t ht => ?_⟩
  -- the translation of index `a`
  obtain ⟨s, hs1, hs2, hs3⟩ : ∃ s : Nat → Rat, (∀ a, |s a| ≤ δ) ∧
      (∀ a b, lead a = lead b → s a = s b) ∧
      ∀ a, DBM.val (fun k => x0 k + if lead (k+1) = lead 0 then 0 else t (lead (k+1))) a
        = DBM.val x0 a + s a := by
    refine ⟨fun a => if lead a = lead 0 then 0 else t (lead a), fun a => ?_, fun a b hab => ?_, fun a => ?_⟩
    · show |if lead a = lead 0 then 0 else t (lead a)| ≤ δ
      split
      · rw [abs_zero]; exact le_of_lt hδ
      · exact ht _
    · show (if lead a = lead 0 then 0 else t (lead a)) = (if lead b = lead 0 then 0 else t (lead b))
      rw [hab]
    · cases a with
      | zero => simp [DBM.val]
      | succ a => rfl
  intro a b ha hb
  rw [hs3, hs3]
  by_cases hab : a = b
  · rw [hab, c.diag b hb]; exact ExtRat.le_pinf _
  by_cases hz : ZEq c.e a b
  · have := hs2 a b ((hl.eq_iff hc _ _ ha hb).2 hz)
    rw [this]
    have e : DBM.val x0 b + s b - (DBM.val x0 a + s b) = DBM.val x0 b - DBM.val x0 a := by ring
    rw [e]
    exact hx0 a b ha hb
  · cases hq : c.e a b with
    | pinf => exact ExtRat.le_pinf _
    | fin q =>
      have hq' : c.z a b = fin q := by rw [c.z_ne hab]; exact hq
      have hst := hs a b (by omega) (by omega) hab (fun h => hz (c.zeq_of_le hc ha hb h)) q hq'
      have h1 := hle (a, b) ((mem_allPairs (n+1) a b).2 ⟨by omega, by omega⟩)
      have h2 : halfSlack c.z p (a, b) = (q - (p b - p a)) / 2 := by
        unfold halfSlack
        simp only [hq', if_pos hst]
      rw [h2] at h1
      have ba := abs_le.1 (hs1 a)
      have bb := abs_le.1 (hs1 b)
      rw [hv, hv, ExtRat.fin_le_fin]
      linarith only [h1, ba.1, bb.2]

end

section
variable (c : DBM n) (hc : c.IsClosed) (lead pred : Nat → Nat) (hl : IsLeaderMap n c.e lead)
  (hp : IsPredMap n c.e pred) (red : BMat) (hr : IsReduction n c.e lead pred red)

set_option linter.unusedSectionVars false in
include hc hl hp hr in
/-- (i) the non-leaders are affine functions of their leaders; (ii) around some point of
the shape all classes not containing the zero variable — there are `leaderCount n lead` of them, one for each
leader `l` with `1 ≤ l ≤ n` — can be translated at once by arbitrary amounts `|t l| ≤ δ`. -/
theorem bds_affine_dimension_geom_simul :
    (∀ x ∈ DBM.γ c, ∀ i, i ≤ n → lead i ≠ i → fin (DBM.val x i - DBM.val x (lead i)) = c.e (lead i) i) ∧
    (∃ x0 ∈ DBM.γ c, ∃ δ : ℚ, 0 < δ ∧ ∀ t : Nat → ℚ, (∀ l, |t l| ≤ δ) →
      (fun k => x0 k + if lead (k+1) = lead 0 then 0 else t (lead (k+1))) ∈ DBM.γ c) := by
  refine ⟨fun x hx i hi hne => affine_nonleader_eq c lead hl x hx i hi hne, ?_⟩
  obtain ⟨x0, h1, δ, h2, h3⟩ := affine_free_directions c hc lead hl
  exact ⟨x0, h1, δ, h2, h3⟩

set_option linter.unusedSectionVars false in
include hc hl hp hr in
/-- one class at a time (a consequence of `bds_affine_dimension_geom_simul`) -/
theorem bds_affine_dimension_geom :
    (∀ x ∈ DBM.γ c, ∀ i, i ≤ n → lead i ≠ i → fin (DBM.val x i - DBM.val x (lead i)) = c.e (lead i) i) ∧
    (∃ x0 ∈ DBM.γ c, ∃ δ : ℚ, 0 < δ ∧ ∀ l, 1 ≤ l → l ≤ n → lead l = l → lead 0 ≠ l → ∀ t : ℚ, |t| ≤ δ →
      (fun k => x0 k + if lead (k+1) = l then t else 0) ∈ DBM.γ c) := by
  obtain ⟨h0, x0, h1, δ, h2, h3⟩ := bds_affine_dimension_geom_simul c hc lead pred hl hp red hr
  refine ⟨h0, x0, h1, δ, h2, fun l _ _ _ hl0 t ht => ?_⟩
  have := h3 (fun l' => if l' = l then t else 0) (fun l' => by
    show |if l' = l then t else 0| ≤ δ
    split
    · exact ht
    · rw [abs_zero]; exact le_of_lt h2)
  have e : (fun k => x0 k + if lead (k+1) = l then t else 0)
      = (fun k => x0 k + if lead (k+1) = lead 0 then 0 else (fun l' => if l' = l then t else 0) (lead (k+1))) := by
    funext k
    by_cases h : lead (k+1) = l
    · rw [if_pos h, if_neg (by rw [h]; exact Ne.symm hl0)]
      simp [h]
    · rw [if_neg h]
      by_cases h' : lead (k+1) = lead 0
      · rw [if_pos h']
      · rw [if_neg h']
        simp [h]
  rw [e]
  exact this

end
end PPLV.WR

namespace PPLV.WR

/-- at most `n` leaders among `1..n` -/
theorem leaderCount_le (n : Nat) (lead : Nat → Nat) : leaderCount n lead ≤ n := by
  unfold leaderCount
  rw [List.range_succ_eq_map, List.filter_cons]
  simp only [bne_self_eq_false, Bool.false_and, Bool.false_eq_true, if_false]
  refine le_trans (List.length_filter_le _ _) ?_
  simp

end PPLV.WR

import PPLV.WR.TransOct2LatProofsJoinExact
import PPLV.WR.ClosureProofsExact
/-!
# Exact arithmetic: `Octagonal_Shape<T>::remove_space_dimensions` / `remove_higher_space_dimensions` compute the
exact projection

A point of the block of a strongly closed matrix on a set of kept variables extends to a point of the whole
matrix: the potential on the kept indices of the full view is extended one index at a time (`extend_all`) and then
symmetrised (`OctM.point_of_potential_below`).
-/
namespace PPLV.WR
open ExtRat

/-- re-indexing along a strictly increasing table commutes with the full view -/
theorem octFull_reindex {tbl : List Nat} (hs : tbl.Pairwise (· < ·)) (m : Mat) {A B : Nat}
    (hA : A / 2 < tbl.length) (hB : B / 2 < tbl.length) :
    octFull (octLatReindex tbl m) A B = octFull m (octLatIota tbl A) (octLatIota tbl B) := by
  have cmp : ∀ {a b : Nat}, a < tbl.length → b < tbl.length →
      (tbl.getD a 0 ≤ tbl.getD b 0 ↔ a ≤ b) := fun {a b} ha hb =>
    ⟨fun h => by
      by_contra hc
      have := latGetD_strict hs (by omega : b < a) ha
      omega, fun h => latGetD_mono hs h hb⟩
  have hAB := cmp hA hB
  have hBA := cmp hB hA
  by_cases hab : A = B
  · subst hab; rw [octFull_self, octFull_self]
  · have hne : octLatIota tbl A ≠ octLatIota tbl B := fun h => hab (octLatIota_inj hs hA hB h)
    rw [octFull_ne _ hab, octFull_ne _ hne]
    unfold Mat.mAt
    have hst : octLatIota tbl B < rowSize (octLatIota tbl A) → B < rowSize A := by
      unfold rowSize octLatIota
      intro h
      have := hBA.1 (by omega)
      omega
    by_cases hs' : B < rowSize A
    · rw [if_pos hs', if_pos (octLatIota_stored hs hA hs')]; rfl
    · rw [if_neg hs', if_neg (fun h => hs' (hst h)), octLatReindex_apply, octLatIota_cidx, octLatIota_cidx]

/-- a point of the re-indexed block of a strongly closed matrix is the restriction of a point of
the matrix -/
theorem octLatExtend {n : Nat} {c : OctM n} (hc : c.IsStronglyClosed) {tbl : List Nat} {k : Nat}
    (hs : tbl.Pairwise (· < ·)) (hlt : ∀ s, s ∈ tbl → s < n) (hlen : k ≤ tbl.length) {z : Nat → Rat}
    (hz : z ∈ γO k (octLatReindex tbl c.e)) :
    ∃ x, c.Sat x ∧ ∀ i, i < k → x (tbl.getD i 0) = z i := by
  have hV := hc.closedFull
  have hidx : ∀ a, a < tbl.length → tbl.idxOf (tbl.getD a 0) = a := fun a ha => latGetD_idxOf hs ha
  let q0 : Nat → Rat := fun I => OctM.oval z (2 * tbl.idxOf (I / 2) + I % 2)
  have hq0 : ∀ A, A < 2 * k → q0 (octLatIota tbl A) = OctM.oval z A := by
    intro A hA
    show OctM.oval z (2 * tbl.idxOf (octLatIota tbl A / 2) + octLatIota tbl A % 2) = _
    rw [octLatIota_half, show octLatIota tbl A % 2 = A % 2 by unfold octLatIota; omega, hidx (A / 2) (by omega)]
    congr 1; omega
  let L := (List.range (2 * k)).map (octLatIota tbl)
  have hLmem : ∀ I, I ∈ L → ∃ A, A < 2 * k ∧ I = octLatIota tbl A := by
    intro I hI
    obtain ⟨A, hA, rfl⟩ := List.mem_map.1 hI
    exact ⟨A, List.mem_range.1 hA, rfl⟩
  have hLlt : ∀ I, I ∈ L → I < 2 * n := by
    intro I hI
    obtain ⟨A, hA, rfl⟩ := hLmem I hI
    exact octLatIota_lt hlt (by omega)
  have hA : Among L q0 { f := octFull c.e } := by
    intro I hI J hJ
    obtain ⟨A, hA, rfl⟩ := hLmem I hI
    obtain ⟨B, hB, rfl⟩ := hLmem J hJ
    rw [hq0 A hA, hq0 B hB]
    show _ ≤ octFull c.e (octLatIota tbl A) (octLatIota tbl B)
    rw [← octFull_reindex hs c.e (by omega) (by omega)]
    exact octLatFullHolds hz hA hB
  obtain ⟨q', hq1, hq2⟩ := extend_all hV L hLlt q0 hA (2 * n) (le_refl _)
  have hH := holds_of_among hq2
  obtain ⟨x, hx, hv⟩ := c.point_of_potential_below (d := { f := octFull c.e }) (fun u v => le_rfl' _) hH
  refine ⟨x, hx, ?_⟩
  intro i hi
  have h0 : octLatIota tbl (2 * i) = 2 * tbl.getD i 0 := octLatIota_add tbl (k := i) (s := 0) (by omega)
  have h1 : octLatIota tbl (2 * i + 1) = 2 * tbl.getD i 0 + 1 := octLatIota_add tbl (by omega)
  have := hv (2 * tbl.getD i 0)
  rw [oval_even, cidx_even, ← h1, ← h0,
    hq1 _ (List.mem_map.2 ⟨2 * i, List.mem_range.2 (by omega), rfl⟩),
    hq1 _ (List.mem_map.2 ⟨2 * i + 1, List.mem_range.2 (by omega), rfl⟩),
    hq0 _ (by omega), hq0 _ (by omega), oval_even, oval_odd] at this
  rw [this]; ring

/-- `remove_space_dimensions(vars)`, exact arithmetic, closure run inside: every point of the result is the
dropped image of a point of the shape; an empty answer means an empty shape -/
theorem octLatRemoveDims_exact (n : Nat) (m : Mat) (hd : octLatDiag n m) (vars : List Nat) (hne : vars ≠ [])
    (hvs : ∀ v, v ∈ vars → v < n) :
    match octLatRemoveDims Rnd.exact n false m vars with
    | none => γO n m = ∅
    | some r => r.dim = n - vars.length ∧
        ∀ z, z ∈ γO r.dim r.m → ∃ x, x ∈ γO n m ∧ ∀ i, i < r.dim → octLatDropPoint n vars x i = z i := by
  unfold octLatRemoveDims
  have hie : vars.isEmpty = false := List.isEmpty_eq_false_iff.2 hne
  simp only [hie, Bool.false_eq_true, if_false]
  rw [latExactUpO]
  have hn : n ≠ 0 := by
    cases vars with
    | nil => exact absurd rfl hne
    | cons v vs => have := hvs v List.mem_cons_self; omega
  cases e : octLatClose upId n false m with
  | none =>
    exact octLatClose_none_empty e
  | some mc =>
    obtain ⟨m', c'⟩ := mc
    dsimp only
    obtain ⟨c, ce, hs, hsat⟩ := octLatClose_strong hn hd e
    by_cases h0 : n - vars.length = 0
    · simp only [if_pos h0]
      refine ⟨h0.symm, fun z _ => ?_⟩
      obtain ⟨q, hq⟩ := (octLatCanon_of_strong hn hs).1
      exact ⟨q, (hsat q).1 ((OctM.sat_iff_holds c q).2 hq), fun i hi => absurd hi (Nat.not_lt_zero i)⟩
    · simp only [if_neg h0]
      refine ⟨trivial, fun z hz => ?_⟩
      rw [← ce] at hz
      obtain ⟨x, hx, hxz⟩ := octLatExtend hs (octLatRemoveTable_sorted n vars) (octLatRemoveTable_lt n vars hvs)
        (octLatRemoveTable_length n vars hvs) hz
      exact ⟨x, (hsat x).1 hx, fun i hi => hxz i hi⟩

/-- `remove_higher_space_dimensions(newDim)`, exact arithmetic, closure run inside: exact projection -/
theorem octLatRemoveHigher_exact (n : Nat) (m : Mat) (hd : octLatDiag n m) (newDim : Nat) (hnd : newDim < n) :
    match octLatRemoveHigher Rnd.exact n false m newDim with
    | none => γO n m = ∅
    | some r => r.dim = newDim ∧
        ∀ z, z ∈ γO newDim r.m → ∃ x, x ∈ γO n m ∧ ∀ i, i < newDim → x i = z i := by
  unfold octLatRemoveHigher
  rw [if_neg (by omega), latExactUpO]
  have hn : n ≠ 0 := by omega
  cases e : octLatClose upId n false m with
  | none =>
    exact octLatClose_none_empty e
  | some mc =>
    obtain ⟨m', c'⟩ := mc
    dsimp only
    obtain ⟨c, ce, hs, hsat⟩ := octLatClose_strong hn hd e
    refine ⟨rfl, fun z hz => ?_⟩
    have hget : ∀ a, a < n → (List.range n).getD a 0 = a := by
      intro a ha; simp [List.getD_eq_getElem?_getD, ha]
    have hz' : z ∈ γO newDim (octLatReindex (List.range n) c.e) := by
      intro a b hab
      have ha := hab.1
      have hb : b < 2 * newDim := by have := hab.2; have := rowSize_le hab.1; omega
      rw [octLatReindex_apply]
      unfold octLatIota
      rw [hget (a / 2) (by omega), hget (b / 2) (by omega)]
      have e1 : 2 * (a / 2) + a % 2 = a := by omega
      have e2 : 2 * (b / 2) + b % 2 = b := by omega
      rw [e1, e2, ce]
      exact hz a b hab
    obtain ⟨x, hx, hxz⟩ := octLatExtend hs (tbl := List.range n) (k := newDim) List.pairwise_lt_range
      (fun s hs => List.mem_range.1 hs) (by simp; omega) hz'
    refine ⟨x, (hsat x).1 hx, fun i hi => ?_⟩
    have := hxz i hi
    rw [hget i (by omega)] at this
    exact this

end PPLV.WR

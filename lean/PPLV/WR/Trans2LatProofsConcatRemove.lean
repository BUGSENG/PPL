import PPLV.WR.Trans2LatProofsMeetJoin
/-!
# Lattice / dimension operations of `BD_Shape<T>`: concatenate, remove_space_dimensions (soundness)
-/
namespace PPLV.WR
open ExtRat

/-! ## `concatenate_assign` -/

theorem bdsLatConcatenate_eq (R : Rnd) (n1 : Nat) (c1 : Bool) (m1 : Mat) (n2 : Nat) (c2 : Bool) (m2 : Mat) :
    ∃ r, bdsLatConcatenate R n1 c1 m1 n2 c2 m2 = some r ∧ r.dim = n1 + n2 ∧
      ∀ a b, a ≤ n1 + n2 → b ≤ n1 + n2 →
        r.m a b = if n1 + 1 ≤ a then
          (if b = 0 then m2 (a - n1) 0 else if n1 + 1 ≤ b then m2 (a - n1) (b - n1) else pinf)
        else if a = 0 ∧ n1 + 1 ≤ b then m2 0 (b - n1)
        else if b ≤ n1 then m1 a b else pinf := by
  unfold bdsLatConcatenate bdsLatEmbed
  by_cases hk : n2 = 0
  · subst hk
    simp only [if_true]
    refine ⟨_, rfl, rfl, ?_⟩
    intro a b ha hb
    rw [bdsLatConcatLoop_apply]
    rw [if_neg (by omega), if_neg (by omega), if_neg (by omega), if_neg (by omega), if_pos (by omega)]
  · simp only [if_neg hk]
    refine ⟨_, rfl, rfl, ?_⟩
    intro a b ha hb
    rw [bdsLatConcatLoop_apply]
    simp only [bdsLatGrow]
    grind

/-- the point of the concatenation: `z` restricted to the first `n1` coordinates, and the last `n2` ones -/
theorem bdsLatConcatenate_sound (R : Rnd) (n1 : Nat) (c1 : Bool) (m1 : Mat) (n2 : Nat) (c2 : Bool) (m2 : Mat)
    {z : Nat → Rat} (h1 : z ∈ γB n1 m1) (h2 : (fun i => z (n1 + i)) ∈ γB n2 m2) :
    ∃ r, bdsLatConcatenate R n1 c1 m1 n2 c2 m2 = some r ∧ r.dim = n1 + n2 ∧ z ∈ γB (n1 + n2) r.m := by
  obtain ⟨r, e, hd, hm⟩ := bdsLatConcatenate_eq R n1 c1 m1 n2 c2 m2
  refine ⟨r, e, hd, ?_⟩
  have hv : ∀ a, n1 + 1 ≤ a → DBM.val z a = DBM.val (fun i => z (n1 + i)) (a - n1) := by
    intro a ha
    obtain ⟨t, rfl⟩ : ∃ t, a = n1 + 1 + t := ⟨a - (n1 + 1), by omega⟩
    have e1 : n1 + 1 + t - n1 = t + 1 := by omega
    have e2 : n1 + 1 + t = (n1 + t) + 1 := by omega
    rw [e1, e2]
    simp only [DBM.val]
  intro a b hab
  have ha : a ≤ n1 + n2 := by have := hab.1; omega
  have hb : b ≤ n1 + n2 := by have := hab.2; omega
  rw [hm a b ha hb]
  split
  · rename_i h
    split
    · rename_i hb0; subst hb0
      rw [hv a h]
      exact h2 (a - n1) 0 ⟨by omega, by omega⟩
    · split
      · rename_i hb1
        rw [hv a h, hv b hb1]
        exact h2 (a - n1) (b - n1) ⟨by omega, by omega⟩
      · exact le_pinf _
  · split
    · rename_i hc
      obtain ⟨rfl, hb1⟩ := hc
      rw [hv b hb1]
      exact h2 0 (b - n1) ⟨by omega, by omega⟩
    · split
      · exact h1 a b ⟨by omega, by omega⟩
      · exact le_pinf _

/-- `concatenate_assign` is exact for every bound type (class invariant on `y`: `dbm[0][0] = +∞`) -/
theorem bdsLatConcatenate_exact (R : Rnd) (n1 : Nat) (c1 : Bool) (m1 : Mat) (n2 : Nat) (c2 : Bool) (m2 : Mat)
    (hd2 : bdsLatDiag n2 m2) :
    ∃ r, bdsLatConcatenate R n1 c1 m1 n2 c2 m2 = some r ∧ r.dim = n1 + n2 ∧
      ∀ z, z ∈ γB (n1 + n2) r.m ↔ (z ∈ γB n1 m1 ∧ (fun i => z (n1 + i)) ∈ γB n2 m2) := by
  obtain ⟨r, e, hd, hm⟩ := bdsLatConcatenate_eq R n1 c1 m1 n2 c2 m2
  refine ⟨r, e, hd, fun z => ⟨fun h => ⟨?_, ?_⟩, fun h => ?_⟩⟩
  · intro a b hab
    have := h a b ⟨by have := hab.1; omega, by have := hab.2; omega⟩
    rw [hm a b (by have := hab.1; omega) (by have := hab.2; omega)] at this
    rw [if_neg (by have := hab.1; omega), if_neg (by have := hab.2; omega),
      if_pos (by have := hab.2; omega)] at this
    exact this
  · have hv : ∀ a, 1 ≤ a → DBM.val (fun i => z (n1 + i)) a = DBM.val z (a + n1) := by
      intro a ha
      obtain ⟨t, rfl⟩ : ∃ t, a = t + 1 := ⟨a - 1, by omega⟩
      have : t + 1 + n1 = (n1 + t) + 1 := by omega
      rw [this]; simp only [DBM.val]
    intro a b hab
    have ha := hab.1
    have hb := hab.2
    by_cases ha0 : a = 0
    · by_cases hb0 : b = 0
      · subst ha0; subst hb0
        rw [hd2 0 (by omega)]; exact le_pinf _
      · subst ha0
        rw [hv b (by omega)]
        have := h 0 (b + n1) ⟨by omega, by omega⟩
        rw [hm 0 (b + n1) (by omega) (by omega)] at this
        rw [if_neg (by omega), if_pos (by omega), show b + n1 - n1 = b by omega] at this
        exact this
    · by_cases hb0 : b = 0
      · subst hb0
        rw [hv a (by omega)]
        have := h (a + n1) 0 ⟨by omega, by omega⟩
        rw [hm (a + n1) 0 (by omega) (by omega)] at this
        rw [if_pos (by omega), if_pos rfl, show a + n1 - n1 = a by omega] at this
        exact this
      · rw [hv a (by omega), hv b (by omega)]
        have := h (a + n1) (b + n1) ⟨by omega, by omega⟩
        rw [hm (a + n1) (b + n1) (by omega) (by omega)] at this
        rw [if_pos (by omega), if_neg (by omega), if_pos (by omega), show a + n1 - n1 = a by omega,
          show b + n1 - n1 = b by omega] at this
        exact this
  · obtain ⟨r', e', _, h'⟩ := bdsLatConcatenate_sound R n1 c1 m1 n2 c2 m2 h.1 h.2
    rw [e] at e'
    simp only [Option.some.injEq] at e'
    rw [e']; exact h'

/-! ## `remove_space_dimensions` (soundness) -/

theorem bdsLatRemoveSrcs_le (old : Nat) (vs : List Nat) (hvs : ∀ v, v ∈ vs → v < old) (src : Nat) :
    ∀ s, s ∈ bdsLatRemoveSrcs old vs src → s ≤ old := by
  induction vs generalizing src with
  | nil =>
    intro s hs
    simp only [bdsLatRemoveSrcs, List.mem_range'_1] at hs
    omega
  | cons v vs ih =>
    intro s hs
    simp only [bdsLatRemoveSrcs, List.mem_append, List.mem_range'_1] at hs
    rcases hs with hs | hs
    · have := hvs v List.mem_cons_self
      omega
    · exact ih (fun w hw => hvs w (List.mem_cons_of_mem _ hw)) _ s hs

theorem bdsLatRemoveTable_mem_le (old : Nat) (vars : List Nat) (hvs : ∀ v, v ∈ vars → v < old) :
    ∀ s, s ∈ bdsLatRemoveTable old vars → s ≤ old := by
  cases vars with
  | nil =>
    intro s hs
    simp only [bdsLatRemoveTable, List.mem_range] at hs
    omega
  | cons first rest =>
    intro s hs
    simp only [bdsLatRemoveTable, List.mem_append, List.mem_range] at hs
    rcases hs with hs | hs
    · have := hvs first List.mem_cons_self
      omega
    · exact bdsLatRemoveSrcs_le old rest (fun w hw => hvs w (List.mem_cons_of_mem _ hw)) _ s hs

theorem bdsLatRemoveTable_zero (old : Nat) (vars : List Nat) : (bdsLatRemoveTable old vars).getD 0 0 = 0 := by
  cases vars with
  | nil => simp [bdsLatRemoveTable, List.getD_eq_getElem?_getD]
  | cons first rest =>
    simp only [bdsLatRemoveTable, List.getD_eq_getElem?_getD]
    rw [List.getElem?_append_left (by simp)]
    simp

/-- the point with the removed coordinates dropped: new coordinate `i` is the old dbm index
`tbl[i+1]` -/
def bdsLatDropPoint (n : Nat) (vars : List Nat) (x : Nat → Rat) : Nat → Rat :=
  fun i => DBM.val x ((bdsLatRemoveTable n vars).getD (i + 1) 0)

theorem latReindex_holds {n k : Nat} {tbl : List Nat} (h0 : tbl.getD 0 0 = 0) (hle : ∀ a, tbl.getD a 0 ≤ n)
    {m : Mat} {x : Nat → Rat} (hx : x ∈ γB n m) :
    (fun i => DBM.val x (tbl.getD (i + 1) 0)) ∈ γB k (latReindex tbl m) := by
  have hv : ∀ a, DBM.val (fun i => DBM.val x (tbl.getD (i + 1) 0)) a = DBM.val x (tbl.getD a 0) := by
    intro a
    cases a with
    | zero => rw [h0]; rfl
    | succ a => rfl
  intro a b hab
  rw [hv, hv]
  exact hx _ _ ⟨by have := hle a; omega, by have := hle b; omega⟩

theorem bdsLatRemoveDims_sound {R : Rnd} (hR : R.Sound) (n : Nat) (c : Bool) (m : Mat) (vars : List Nat)
    (hne : vars ≠ []) (hvs : ∀ v, v ∈ vars → v < n) {x : Nat → Rat} (hx : x ∈ γB n m) :
    ∃ r, bdsLatRemoveDims R n c m vars = some r ∧ r.dim = n - vars.length ∧
      bdsLatDropPoint n vars x ∈ γB r.dim r.m := by
  unfold bdsLatRemoveDims
  have : vars.isEmpty = false := List.isEmpty_eq_false_iff.2 hne
  simp only [this, Bool.false_eq_true, if_false]
  obtain ⟨m', c', e, hx'⟩ := bdsLatClose_sound hR.up_le n c m hx
  simp only [e]
  split
  · rename_i h0
    refine ⟨_, rfl, h0.symm, ?_⟩
    intro a b hab
    have ha : a = 0 := by have := hab.1; simp only at this; omega
    have hb : b = 0 := by have := hab.2; simp only at this; omega
    subst ha; subst hb
    have := hx' 0 0 ⟨by omega, by omega⟩
    simpa [DBM.val] using this
  · refine ⟨_, rfl, rfl, ?_⟩
    exact latReindex_holds (bdsLatRemoveTable_zero n vars)
      (latGetD_le (bdsLatRemoveTable_mem_le n vars hvs)) hx'

end PPLV.WR

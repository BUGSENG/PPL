import PPLV.WR.ReduceOctProofsPreserveBase
/-!
# Octagon reduction keeps every point: the 0-cycle through the singular class pins
every member to the constant `octFull (cidx a) a / 2`; a pinned index and the unary cell of `j` give the cell
`(i, j)` (cells between the singular class and anything else are never examined by the code)
-/
namespace PPLV.WR
open ExtRat (fin pinf addUp halfUp)

/-- `p a` sits on its upper bound: `2 p_a = octFull (cidx a) a` -/
def Pin (m : Mat) (p : Nat → Rat) (a : Nat) : Prop := octFull m (cidx a) a = fin (2 * p a)

/-- the cell `(i, j)` from a pinned `i` and the unary cell of `j` -/
theorem ok_of_pin {n : Nat} {c : OctM n} (hc : c.IsStronglyClosed) {p : Nat → Rat} (hp : Coh p) {i j : Nat}
    (hi : i < 2 * n) (hj : j < 2 * n) (hpin : Pin c.e p i) (hu : Ok c.e p (cidx j) j) : Ok c.e p i j := by
  cases hv : octFull c.e i j with
  | pinf => exact Ok.of_pinf hv
  | fin v =>
    have t1 := hc.tri (cidx j) i (cidx i) (cidx_lt hj) hi (cidx_lt hi)
    rw [octFull_coh' c.e j i, hv, hpin, eadd_fin] at t1
    obtain ⟨w, hw, hle⟩ := ExtRat.le_fin_inv t1
    have t2 := hc.tri (cidx j) j i (cidx_lt hj) hj hi
    rw [hw, hv, eadd_fin] at t2
    obtain ⟨t, ht, hle'⟩ := ExtRat.le_fin_inv t2
    unfold Ok at hu ⊢
    rw [ht, hp] at hu
    have := ExtRat.fin_le_fin.1 hu
    rw [hv]
    exact ExtRat.fin_le_fin.2 (by linarith only [this, hle, hle'])

theorem Pin.unary {m : Mat} {p : Nat → Rat} (hp : Coh p) {a : Nat} (h : Pin m p a) : Ok m p (cidx a) a := by
  unfold Ok; rw [h, hp]; exact ExtRat.fin_le_fin.2 (by linarith)

section ctx
variable {n : Nat} {c : OctM n} {succ : Nat → Nat} {nr : BMat} {p : Nat → Rat} (X : RCtx c succ nr p)
include X

/-- excess of `p a` over its pinned value -/
def sexc (m : Mat) (p : Nat → Rat) (a : Nat) : Rat := 2 * p a - (octFull m (cidx a) a).toRat

omit X in
theorem sexc_eq {m : Mat} {p : Nat → Rat} {a : Nat} {w : Rat} (h : octFull m (cidx a) a = fin w) :
    sexc m p a = 2 * p a - w := by unfold sexc; rw [h]; rfl

/-- a kept cell `(b, a)` between two singular indices orders their excesses -/
theorem RCtx.sing_step {a b : Nat} (ha : a < 2 * n) (hb : b < 2 * n) (hne : a ≠ b)
    (hsa : OZEq c.e a (cidx a)) (hsb : OZEq c.e b (cidx b)) (hok : Ok c.e p b a) :
    sexc c.e p a ≤ sexc c.e p b := by
  obtain ⟨ua, wa, hua, hwa, ea⟩ := hsa.fin_of_ne (cidx_ne a).symm
  obtain ⟨ub, wb, hub, hwb, eb⟩ := hsb.fin_of_ne (cidx_ne b).symm
  have hcoh := X.hc.coh b a hb ha (Ne.symm hne)
  rw [hub, hwa, eadd_fin, halfUp_fin] at hcoh
  obtain ⟨v, hv, hle⟩ := ExtRat.le_fin_inv hcoh
  unfold Ok at hok
  rw [hv] at hok
  have := ExtRat.fin_le_fin.1 hok
  rw [sexc_eq hwa, sexc_eq hwb]
  linarith only [this, hle, ea, eb]

/-- the excess grows along the even members of the singular class -/
theorem RCtx.sing_mono {s : Nat} (hS : SingL (2 * n) c.e s) {a b : Nat} (hab : a ≤ b) (hb : b < 2 * n)
    (hae : a % 2 = 0) (hbe : b % 2 = 0) (haz : OZEq c.e a s) (hbz : OZEq c.e b s) :
    sexc c.e p a ≤ sexc c.e p b := by
  refine walk_induction (M := fun a => a < 2 * n ∧ a % 2 = 0 ∧ OZEq c.e a s)
    (P := fun a b => sexc c.e p a ≤ sexc c.e p b) (next := fun a => succ (a + 1))
    (fun a => le_refl _) ?_ hab ⟨lt_of_le_of_lt hab hb, hae, haz⟩ ⟨hb, hbe, hbz⟩
  rintro a b ⟨ha, hae, haz⟩ ⟨hb, hbe, hbz⟩ hab
  have ha1 : a + 1 < 2 * n := cidx_of_even hae ▸ cidx_lt ha
  have hsa : OZEq c.e a (cidx a) := sing_of_zeq c X.hc ha hS.lt haz hS.sing
  have hba : OZEq c.e b a := OZEq.trans c X.hc hb hS.lt ha hbz haz.symm
  have hsa' : OZEq c.e a (a + 1) := by rw [← cidx_of_even hae]; exact hsa
  have hne : succ (a + 1) ≠ a + 1 := fun e' =>
    X.hs.self (a + 1) b e' (succ_lt_of_even_lt hae hbe hab) hb (OZEq.trans c X.hc hb ha ha1 hba hsa')
  obtain ⟨s1, s2, s3, s4, s5⟩ := sing_next c X.hc (succ := ⟨succ, ()⟩) X.hs ha hae hsa hne
  have s1 : succ (a + 1) % 2 = 0 := s1
  have s2 : succ (a + 1) < 2 * n := s2
  have s3 : a < succ (a + 1) := Nat.lt_of_succ_lt s3
  have s4 : OZEq c.e (succ (a + 1)) a := s4
  have hnz : OZEq c.e (succ (a + 1)) s := OZEq.trans c X.hc s2 ha hS.lt s4 haz
  have hok : Ok c.e p (succ (a + 1)) a :=
    X.ok_of_kept s2 (lt_trans s3 (self_lt_rowSize _)) s3.ne' (X.hk.singc s a hS ha hae haz hne)
  exact ⟨s3, s5 b hbe hab hb hba, ⟨s2, s1, hnz⟩,
    le_trans (X.sing_step ha s2 s3.ne hsa (sing_of_zeq c X.hc s2 hS.lt hnz hS.sing) hok)⟩

/-- the greatest even member of the singular class -/
theorem RCtx.sing_top {s : Nat} (hS : SingL (2 * n) c.e s) {a : Nat} (ha : a < 2 * n) (hae : a % 2 = 0)
    (haz : OZEq c.e a s) :
    ∃ z, a ≤ z ∧ (z < 2 * n ∧ z % 2 = 0 ∧ OZEq c.e z s) ∧ succ (z + 1) = z + 1 := by
  refine walk_top (M := fun z => z < 2 * n ∧ z % 2 = 0 ∧ OZEq c.e z s) (next := fun z => succ (z + 1))
    (fun z hz => hz.1) ?_ ⟨ha, hae, haz⟩
  rintro a ⟨ha, hae, haz⟩ e
  have hsa : OZEq c.e a (cidx a) := sing_of_zeq c X.hc ha hS.lt haz hS.sing
  obtain ⟨s1, s2, s3, s4, _⟩ := sing_next c X.hc (succ := ⟨succ, ()⟩) X.hs ha hae hsa e
  exact ⟨Nat.lt_of_succ_lt s3, s2, s1, OZEq.trans c X.hc s2 ha hS.lt s4 haz⟩

/-- every member of the singular class is pinned -/
theorem RCtx.sing_pin {s : Nat} (hS : SingL (2 * n) c.e s) {a : Nat} (ha : a < 2 * n) (haz : OZEq c.e a s) :
    Pin c.e p a := by
  have hsev : s % 2 = 0 :=
    even_of_le_cidx (hS.least (cidx s) (cidx_lt hS.lt) (by rw [cidx_cidx]; exact hS.sing.symm))
  -- even members
  have heven : ∀ a, a < 2 * n → a % 2 = 0 → OZEq c.e a s → Pin c.e p a := by
    intro a ha hae haz
    have hsa : OZEq c.e a (cidx a) := sing_of_zeq c X.hc ha hS.lt haz hS.sing
    obtain ⟨z, z1, ⟨z2, z3, z4⟩, z5⟩ := X.sing_top hS hS.lt hsev (OZEq.refl _ _)
    have hsz : OZEq c.e z (cidx z) := sing_of_zeq c X.hc z2 hS.lt z4 hS.sing
    have hsa' := hsa
    have hsz' := hsz
    rw [cidx_of_even hae] at hsa'
    rw [cidx_of_even z3] at hsz'
    have hale : s ≤ a := hS.least a ha hsa
    have hz1 : z + 1 < 2 * n := cidx_of_even z3 ▸ cidx_lt z2
    have haz' : a ≤ z := by
      by_contra hh
      exact X.hs.self (z + 1) a z5 (succ_lt_of_even_lt z3 hae (not_le.1 hh)) ha
        (OZEq.trans c X.hc ha z2 hz1 (OZEq.trans c X.hc ha hS.lt z2 haz z4.symm) hsz')
    have m1 := X.sing_mono hS hale ha hsev hae (OZEq.refl _ _) haz
    have m2 := X.sing_mono hS haz' z2 hae z3 haz z4
    -- bottom
    have hb : 0 ≤ sexc c.e p s := by
      have hk := X.ok_of_kept hS.lt (j := s + 1) (cidx_of_even hsev ▸ cidx_lt_rowSize s) (Nat.lt_succ_self s).ne
        (X.hk.sing0 s hS)
      obtain ⟨u, w, hu, hw, e⟩ := hS.sing.fin_of_ne (cidx_ne s).symm
      rw [sexc_eq hw]
      unfold Ok at hk
      rw [← cidx_of_even hsev, hu, X.hp] at hk
      have := ExtRat.fin_le_fin.1 hk
      linarith only [this, e]
    -- top
    have ht : sexc c.e p z ≤ 0 := by
      have hk := X.ok_of_kept (i := z + 1) (j := z) hz1 (lt_trans (Nat.lt_succ_self z) (self_lt_rowSize _))
        (Nat.lt_succ_self z).ne'
        (X.hk.singz s z hS z2 z3 z4 z5)
      obtain ⟨u, w, hu, hw, e⟩ := hsz.fin_of_ne (cidx_ne z).symm
      rw [sexc_eq hw]
      unfold Ok at hk
      rw [← cidx_of_even z3, hw, X.hp] at hk
      have := ExtRat.fin_le_fin.1 hk
      linarith only [this]
    obtain ⟨u, w, hu, hw, e⟩ := hsa.fin_of_ne (cidx_ne a).symm
    rw [sexc_eq hw] at m1 m2
    unfold Pin
    rw [hw]; congr 1; linarith only [m1, m2, hb, ht]
  by_cases hae : a % 2 = 0
  · exact heven a ha hae haz
  · have hca : cidx a < 2 * n := cidx_lt ha
    have hsa : OZEq c.e a (cidx a) := sing_of_zeq c X.hc ha hS.lt haz hS.sing
    have hcz : OZEq c.e (cidx a) s := OZEq.trans c X.hc hca ha hS.lt hsa.symm haz
    have h := heven (cidx a) hca (cidx_even_of_odd hae) hcz
    unfold Pin at h ⊢
    rw [cidx_cidx] at h
    obtain ⟨u, w, hu, hw, e⟩ := hsa.fin_of_ne (cidx_ne a).symm
    rw [hu] at h
    cases h
    rw [hw]; congr 1; rw [X.hp] at e; linarith only [e]

end ctx

end PPLV.WR

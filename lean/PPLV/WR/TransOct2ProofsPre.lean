import PPLV.WR.TransOct2ProofsRefineVar
import PPLV.WR.TransProofsPre
import PPLV.WR.TransOct2ProofsDim
/-!
# `Octagonal_Shape<T>::affine_preimage`, `generalized_affine_preimage(var, relsym, expr, denominator)`
-/
namespace PPLV.WR
open ExtRat

theorem octForget_back_holds {n vid : Nat} (hv : vid < n) {x : Nat → Rat} {t : Rat} {m : Mat}
    (hx : Holds (SO n) (OctM.oval (upd x vid t)) m) : Holds (SO n) (OctM.oval x) (octForgetAll n vid m) := by
  have := holds_octForgetAll hv hx (x vid)
  rw [upd_back] at this
  exact this

/-- the inverse expression used for a negative coefficient of `var` -/
theorem octCoeffExact_inverse_neg {R : Rnd} {e : Nat → Int} (hc : CoeffExact R e) {den : Int}
    (hcd : R.up ((absI den : Int) : Rat) = fin ((absI den : Int) : Rat)) (var : Nat) :
    CoeffExact R (fun i => (if i = var then - e var - den else 0) + e i) := by
  intro i hi
  by_cases h : i = var
  · subst h
    simp only [if_true] at hi ⊢
    have : - e i - den + e i = - den := by ring
    rw [this, absI_neg]
    exact hcd
  · simp only [if_neg h, zero_add] at hi ⊢
    exact hc i hi

theorem octLinEval_add (f g : Nat → Int) (x : Nat → Rat) (k : Nat) :
    linEval (fun i => f i + g i) x k = linEval f x k + linEval g x k := by
  induction k with
  | zero => simp [linEval]
  | succ k ih => simp only [linEval, ih]; push_cast; ring

theorem octAffinePreimageCore_sound {R : Rnd} (hR : R.Sound) {n vid : Nat} (hv : vid < n) {e : Nat → Int}
    (hc : CoeffExact R e) {b den : Int} (hden : den ≠ 0)
    (hcd : R.up ((absI den : Int) : Rat) = fin ((absI den : Int) : Rat)) {m : Mat}
    (hh : HalfFiniteOn R.up m) {x : Nat → Rat}
    (hx : upd x vid ((linEval e x n + b) / den) ∈ γO n m) :
    ∃ m', octAffinePreimageCore R n vid e b den m = some m' ∧ x ∈ γO n m' := by
  have hforget : x ∈ γO n (octForgetAll n vid m) := octForget_back_holds hv hx
  have hd' : (den : Rat) ≠ 0 := by exact_mod_cast hden
  -- the invertible cases: the image under an inverse `(ei, bi, di)` whose value at the image point is `x_var`
  have hinv : ∀ {ei : Nat → Int} {bi di : Int}, CoeffExact R ei → di ≠ 0 →
      (linEval ei (upd x vid ((linEval e x n + b) / den)) n + (bi : Rat)) / (di : Rat) = x vid →
      ∃ m', octAffineImageCore R n vid ei bi di m = some m' ∧ x ∈ γO n m' := by
    intro ei bi di hci hdi hval
    obtain ⟨m', hm', this⟩ := octAffineImageCore_sound hR hv hci hdi (b := bi) hh hx
    rw [hval, upd_back] at this
    exact ⟨m', hm', this⟩
  unfold octAffinePreimageCore
  dsimp only
  by_cases h0 : exprT e (lastNonzero e n) = 0
  · rw [if_pos h0]; exact ⟨_, rfl, hforget⟩
  rw [if_neg h0]
  by_cases h1 : exprT e (lastNonzero e n) = 1 ∧
      (e (lastNonzero e n - 1) = den ∨ e (lastNonzero e n - 1) = - den)
  · rw [if_pos h1]
    by_cases hwv : lastNonzero e n - 1 = vid
    · -- `expr == ±den*var + b`: the image under `(den*var - b) / w_coeff`
      rw [if_pos hwv]
      obtain ⟨hw0, hval⟩ := linEval_t1 x h1.1
      rw [hwv] at hval h1 ⊢
      have ha0 : e vid ≠ 0 := by rcases h1.2 with h | h <;> rw [h] <;> omega
      have ha' : (e vid : Rat) ≠ 0 := by exact_mod_cast ha0
      refine hinv (coeffExact_single hcd vid) ha0 ?_
      rw [linEval_single den _ hv]
      simp only [upd, if_true]
      rw [hval]
      push_cast
      field_simp
      ring
    · rw [if_neg hwv]; exact ⟨_, rfl, hforget⟩
  rw [if_neg h1]
  by_cases hev : e vid ≠ 0
  · rw [if_pos hev]
    have ha' : (e vid : Rat) ≠ 0 := by exact_mod_cast hev
    by_cases hpos : e vid > 0
    · rw [if_pos hpos]
      refine hinv (coeffExact_inverse hc hcd vid) hev ?_
      rw [linEval_sub, linEval_single _ _ hv, linEval_upd, if_pos hv]
      simp only [upd, if_true]
      push_cast
      field_simp
      ring
    · rw [if_neg hpos]
      refine hinv (octCoeffExact_inverse_neg hc hcd vid) (by omega : - e vid ≠ 0) ?_
      rw [octLinEval_add, linEval_single _ _ hv, linEval_upd, if_pos hv]
      simp only [upd, if_true]
      push_cast
      field_simp
      ring
  · rw [if_neg hev]; exact ⟨_, rfl, hforget⟩

/-! ## `generalized_affine_preimage(var, relsym, expr, den)` -/

/-- the relation symbol of the inverse image: with `D = q - den*t`, the bound `t ⋈ q/den` gives `D` the sign of
`den` (for `≤`) or the opposite one (for `≥`), and `x_v ⋈' x_v - D/expr_v` holds for `⋈' = ⋈` exactly when `den` and
`-expr_v` have the same sign -/
theorem octInverseRel {den ev : Int} (hden : den ≠ 0) (hev : ev ≠ 0) {t q xv : Rat} (isLe : Bool)
    (ht : if isLe then t ≤ q / den else q / den ≤ t) :
    if (if Int.sign den = Int.sign (- ev) then isLe else !isLe) then xv ≤ xv - (q - den * t) / (ev : Rat)
    else xv - (q - den * t) / (ev : Rat) ≤ xv := by
  have hq : q / (den : Rat) * den = q := by
    have hd' : (den : Rat) ≠ 0 := by exact_mod_cast hden
    field_simp
  -- `q - den*t` multiplied out
  have hle : ∀ {a : Rat}, a ≤ q / den → (0 < (den : Rat) → 0 ≤ q - den * a) ∧ ((den : Rat) < 0 → q - den * a ≤ 0) := by
    intro a h
    refine ⟨fun hp => ?_, fun hn => ?_⟩
    · have := mul_le_mul_of_nonneg_right h hp.le; rw [hq] at this; linarith
    · have := mul_le_mul_of_nonpos_right h hn.le; rw [hq] at this; linarith
  have hge : ∀ {a : Rat}, q / den ≤ a → (0 < (den : Rat) → q - den * a ≤ 0) ∧ ((den : Rat) < 0 → 0 ≤ q - den * a) := by
    intro a h
    refine ⟨fun hp => ?_, fun hn => ?_⟩
    · have := mul_le_mul_of_nonneg_right h hp.le; rw [hq] at this; linarith
    · have := mul_le_mul_of_nonpos_right h hn.le; rw [hq] at this; linarith
  rcases lt_or_gt_of_ne hden with hdn | hdp <;> rcases lt_or_gt_of_ne hev with hen | hep
  · have hs : ¬ Int.sign den = Int.sign (- ev) := by
      rw [Int.sign_eq_neg_one_of_neg hdn, Int.sign_eq_one_of_pos (by omega)]; decide
    have hdn' : (den : Rat) < 0 := by exact_mod_cast hdn
    have hen' : (ev : Rat) < 0 := by exact_mod_cast hen
    rw [if_neg hs]
    cases isLe with
    | true =>
      simp only [if_true, Bool.not_true, Bool.false_eq_true, if_false] at ht ⊢
      exact (sub_le_self_iff _).2 (div_nonneg_of_nonpos' ((hle ht).2 hdn') hen'.le)
    | false =>
      simp only [Bool.false_eq_true, if_false, Bool.not_false, if_true] at ht ⊢
      exact (le_sub_self_iff _).2 (div_nonpos_of_nonneg_of_nonpos ((hge ht).2 hdn') hen'.le)
  · have hs : Int.sign den = Int.sign (- ev) := by
      rw [Int.sign_eq_neg_one_of_neg hdn, Int.sign_eq_neg_one_of_neg (by omega)]
    have hdn' : (den : Rat) < 0 := by exact_mod_cast hdn
    have hep' : (0 : Rat) < ev := by exact_mod_cast hep
    rw [if_pos hs]
    cases isLe with
    | true =>
      simp only [if_true] at ht ⊢
      exact (le_sub_self_iff _).2 (div_nonpos_of_nonpos_of_nonneg ((hle ht).2 hdn') hep'.le)
    | false =>
      simp only [Bool.false_eq_true, if_false] at ht ⊢
      exact (sub_le_self_iff _).2 (div_nonneg ((hge ht).2 hdn') hep'.le)
  · have hs : Int.sign den = Int.sign (- ev) := by
      rw [Int.sign_eq_one_of_pos hdp, Int.sign_eq_one_of_pos (by omega)]
    have hdp' : (0 : Rat) < den := by exact_mod_cast hdp
    have hen' : (ev : Rat) < 0 := by exact_mod_cast hen
    rw [if_pos hs]
    cases isLe with
    | true =>
      simp only [if_true] at ht ⊢
      exact (le_sub_self_iff _).2 (div_nonpos_of_nonneg_of_nonpos ((hle ht).1 hdp') hen'.le)
    | false =>
      simp only [Bool.false_eq_true, if_false] at ht ⊢
      exact (sub_le_self_iff _).2 (div_nonneg_of_nonpos' ((hge ht).1 hdp') hen'.le)
  · have hs : ¬ Int.sign den = Int.sign (- ev) := by
      rw [Int.sign_eq_one_of_pos hdp, Int.sign_eq_neg_one_of_neg (by omega)]; decide
    have hdp' : (0 : Rat) < den := by exact_mod_cast hdp
    have hep' : (0 : Rat) < ev := by exact_mod_cast hep
    rw [if_neg hs]
    cases isLe with
    | true =>
      simp only [if_true, Bool.not_true, Bool.false_eq_true, if_false] at ht ⊢
      exact (sub_le_self_iff _).2 (div_nonneg ((hle ht).1 hdp') hep'.le)
    | false =>
      simp only [Bool.false_eq_true, if_false, Bool.not_false, if_true] at ht ⊢
      exact (le_sub_self_iff _).2 (div_nonpos_of_nonpos_of_nonneg ((hge ht).1 hdp') hep'.le)

theorem octGenAffinePreimageCoreV_sound (fx : Bool) {R : Rnd} (hR : R.Sound) {n vid : Nat} (hv : vid < n)
    {e : Nat → Int} (hc : CoeffExact R e) {b den : Int} (hden : den ≠ 0)
    (hcd : R.up ((absI den : Int) : Rat) = fin ((absI den : Int) : Rat)) {m : Mat}
    (hh : HalfFiniteOn R.up m) {x : Nat → Rat} (isLe : Bool)
    (hok : OctRefineOK fx vid (if isLe then .le else .ge) e den)
    {t : Rat} (hx : upd x vid t ∈ γO n m)
    (ht : if isLe then t ≤ (linEval e x n + b) / den else (linEval e x n + b) / den ≤ t) :
    ∃ m', octGenAffinePreimageCoreV fx R n vid isLe e b den m = some m' ∧ x ∈ γO n m' := by
  have hd' : (den : Rat) ≠ 0 := by exact_mod_cast hden
  unfold octGenAffinePreimageCoreV
  dsimp only
  by_cases hev : e vid ≠ 0
  · rw [if_pos hev]
    have ha' : (e vid : Rat) ≠ 0 := by exact_mod_cast hev
    have hinv : CoeffExact R (fun i => e i - (if i = vid then e vid + den else 0)) := by
      have := (coeffExact_inverse hc hcd vid).neg
      intro i hi
      have h2 := this i (by simpa using hi)
      simpa using h2
    have hval : (linEval (fun i => e i - (if i = vid then e vid + den else 0)) (upd x vid t) n + (b : Rat))
        / ((- e vid : Int) : Rat) = x vid - (linEval e x n + b - den * t) / (e vid : Rat) := by
      rw [linEval_sub, linEval_single _ _ hv, linEval_upd, if_pos hv]
      simp only [upd, if_true]
      push_cast
      field_simp
      ring
    have key : ∀ isLe' : Bool,
        (if isLe' then x vid ≤ x vid - (linEval e x n + b - den * t) / (e vid : Rat)
         else x vid - (linEval e x n + b - den * t) / (e vid : Rat) ≤ x vid) →
        ∃ m', octGenAffineImageCore R n vid isLe' (fun i => e i - (if i = vid then e vid + den else 0)) b
          (- e vid) m = some m' ∧ x ∈ γO n m' := by
      intro isLe' h
      obtain ⟨m', hm', this⟩ := octGenAffineImageCore_sound hR hv (by omega : - e vid ≠ 0) (b := b) hx
        isLe' (t := x vid) (by rw [hval]; exact h) hinv hh
      rw [upd_back] at this
      exact ⟨m', hm', this⟩
    exact key _ (octInverseRel hden hev isLe ht)
  · rw [if_neg hev]
    have hev0 : e vid = 0 := by simpa using hev
    have hl : linEval e (upd x vid t) n = linEval e x n := by
      rw [linEval_upd, if_pos hv, hev0]; simp
    have href := octRefineVarV_sound fx hR hc hev0 hden hh hx (if isLe then .le else .ge) hok (b := b) (by
      rw [hl]
      simp only [upd, if_true]
      cases isLe with
      | true => simpa [RelSym.holds] using ht
      | false => simpa [RelSym.holds] using ht)
    generalize octRefineVarV fx R n vid (if isLe = true then RelSym.le else RelSym.ge) e b den m = mf at href ⊢
    by_cases hf : mf.2 = true
    · rw [if_pos hf]; exact ⟨_, rfl, octForget_back_holds hv href⟩
    · rw [if_neg hf]
      obtain ⟨m', hm', hx'⟩ := octCloseRaw_sound hR href
      exact ⟨_, by rw [hm']; rfl, octForget_back_holds hv hx'⟩

theorem octGenAffinePreimageV_sound (fx : Bool) {R : Rnd} (hR : R.Sound) {n : Nat} (m : OctM n) (closed : Bool)
    {vid : Nat} (hv : vid < n) (rel : RelSym) {e : Nat → Int} {b den : Int} (hden : den ≠ 0) (hc : CoeffExact R e)
    (hcd : R.up ((absI den : Int) : Rat) = fin ((absI den : Int) : Rat))
    (hh : ∀ m', octCloseFirst R.up closed m = some m' → HalfFiniteOn R.up m')
    (hok : OctRefineOK fx vid rel e den) :
    ∀ x, ∀ t : Rat, upd x vid t ∈ OctM.γ m → RelSym.holds rel t ((linEval e x n + b) / den) →
      ∃ m', octGenAffinePreimageV fx R closed vid rel e b den m = some m' ∧ x ∈ γO n m' := by
  intro x t hx ht
  obtain ⟨m1, h1, hx1⟩ := octCloseFirst_sound hR.up_le closed m hx
  cases rel with
  | eq =>
    have ht' : t = (linEval e x n + b) / den := ht
    subst ht'
    obtain ⟨m', hm', hx'⟩ := octAffinePreimageCore_sound hR hv hc hden hcd (hh m1 h1) hx1
    exact ⟨m', by simp [octGenAffinePreimageV, octAffinePreimage, h1, hm'], hx'⟩
  | le =>
    have ht' : t ≤ (linEval e x n + b) / den := ht
    obtain ⟨m', hm', hx'⟩ := octGenAffinePreimageCoreV_sound fx hR hv hc hden hcd (hh m1 h1) true hok (b := b) hx1
      (by simpa using ht')
    exact ⟨m', by simp [octGenAffinePreimageV, h1, hm'], hx'⟩
  | ge =>
    have ht' : (linEval e x n + b) / den ≤ t := ht
    obtain ⟨m', hm', hx'⟩ := octGenAffinePreimageCoreV_sound fx hR hv hc hden hcd (hh m1 h1) false hok (b := b) hx1
      (by simpa using ht')
    exact ⟨m', by simp [octGenAffinePreimageV, h1, hm'], hx'⟩

/-- the code as written (`fx = false`): sound outside the branch of KF-C03-75 -/
theorem octGenAffinePreimage_sound {R : Rnd} (hR : R.Sound) {n : Nat} (m : OctM n) (closed : Bool)
    {vid : Nat} (hv : vid < n) (rel : RelSym) {e : Nat → Int} {b den : Int} (hden : den ≠ 0) (hc : CoeffExact R e)
    (hcd : R.up ((absI den : Int) : Rat) = fin ((absI den : Int) : Rat))
    (hh : ∀ m', octCloseFirst R.up closed m = some m' → HalfFiniteOn R.up m')
    (hok : rel ≠ .ge ∨ ∀ u, vid < u → e u ≠ den) :
    ∀ x, ∀ t : Rat, upd x vid t ∈ OctM.γ m → RelSym.holds rel t ((linEval e x n + b) / den) →
      ∃ m', octGenAffinePreimage R closed vid rel e b den m = some m' ∧ x ∈ γO n m' :=
  octGenAffinePreimageV_sound false hR m closed hv rel hden hc hcd hh (Or.inr hok)

end PPLV.WR

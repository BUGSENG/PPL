import PPLV.WR.ReduceProofsCodeMain
import PPLV.WR.ReduceProofsMathPreserve
/-!
# `BD_Shape::BHZ09_upper_bound_assign_if_exact`: when the test answers `true` the join is the union

`x`, `y` non-empty closed matrices with their fresh `redundancy_dbm`; `DBM.join x y` is the pointwise maximum
(`upper_bound_assign`).  A point of the join outside both shapes violates a kept entry `(i, j)` of `x` and a kept
entry `(k, ℓ)` of `y` (the kept entries denote the shapes: `bds_reduced_preserves`); then `x_ij < y_ij`,
`y_kℓ < x_kℓ`, and `x_ij + y_kℓ < (p_ℓ - p_i) + (p_j - p_k) ≤ ub_iℓ + ub_kj` (diagonal read as `0`): the test
returns `false` at `(i, j, k, ℓ)`.
-/
namespace PPLV.WR
open ExtRat (fin pinf)

theorem ExtRat.le_maxA_left (a b : ExtRat) : a ≤ ExtRat.maxA a b := by
  unfold ExtRat.maxA; split
  · assumption
  · exact ExtRat.le_rfl' a

theorem ExtRat.le_maxA_right (a b : ExtRat) : b ≤ ExtRat.maxA a b := by
  unfold ExtRat.maxA; split
  · exact ExtRat.le_rfl' b
  · rename_i h
    rcases ExtRat.le_total' a b with h1 | h1
    · exact absurd h1 h
    · exact h1

theorem ExtRat.maxA_cases (a b : ExtRat) : ExtRat.maxA a b = a ∨ ExtRat.maxA a b = b := by
  unfold ExtRat.maxA; split <;> simp

theorem ExtRat.maxA_le {a b c : ExtRat} (ha : a ≤ c) (hb : b ≤ c) : ExtRat.maxA a b ≤ c := by
  rcases ExtRat.maxA_cases a b with e | e <;> rw [e] <;> assumption

/-- a bound by the maximum that fails for one operand: the other operand is not below it -/
theorem ExtRat.not_le_of_le_maxA_left {X Y Z : ExtRat} (h : Z ≤ ExtRat.maxA X Y) (hX : ¬ (Z ≤ X)) : ¬ (Y ≤ X) :=
  fun hle => hX (by
    rcases ExtRat.maxA_cases X Y with e | e <;> rw [e] at h
    · exact h
    · exact ExtRat.le_trans' h hle)

theorem ExtRat.not_le_of_le_maxA_right {X Y Z : ExtRat} (h : Z ≤ ExtRat.maxA X Y) (hY : ¬ (Z ≤ Y)) : ¬ (X ≤ Y) :=
  fun hle => hY (by
    rcases ExtRat.maxA_cases X Y with e | e <;> rw [e] at h
    · exact ExtRat.le_trans' h hle
    · exact h)

/-- a violated entry is finite and strictly below the value -/
theorem ExtRat.lt_of_not_fin_le {v : Rat} {X : ExtRat} (h : ¬ (fin v ≤ X)) : ∃ a, X = fin a ∧ a < v := by
  cases X with
  | pinf => exact absurd (ExtRat.le_pinf _) h
  | fin a => exact ⟨a, rfl, not_le.1 fun h' => h (ExtRat.fin_le_fin.2 h')⟩

/-- … and sits at a kept cell when the dropped cells read `+∞` -/
theorem ExtRat.kept_of_not_fin_le {v : Rat} {drop : Prop} [Decidable drop] {X : ExtRat}
    (h : ¬ (fin v ≤ if drop then pinf else X)) : ¬ drop ∧ ∃ a, X = fin a ∧ a < v := by
  split at h
  · exact absurd (ExtRat.le_pinf _) h
  · exact ⟨‹_›, ExtRat.lt_of_not_fin_le h⟩

theorem ExtRat.ltB_iff (a b : ExtRat) : ExtRat.ltB a b = true ↔ ¬ (b ≤ a) := by
  unfold ExtRat.ltB; simp

/-! ### exactness of a join, on bare sets (`J` the join, `X`, `Y` the operands) -/

theorem ne_union_of_witness {α : Type} {J X Y : Set α} (hw : ∃ p, p ∈ J ∧ p ∉ X ∧ p ∉ Y) : J ≠ X ∪ Y := by
  obtain ⟨p, hp, hpx, hpy⟩ := hw
  intro h
  rw [h] at hp
  exact hp.elim hpx hpy

/-- a test that is sound for `true` and produces a witness for `false` decides exactness -/
theorem exact_iff_of_witness {α : Type} {J X Y : Set α} {t : Bool} (hs : t = true → J = X ∪ Y)
    (hw : t = false → ∃ p, p ∈ J ∧ p ∉ X ∧ p ∉ Y) : t = true ↔ J = X ∪ Y :=
  ⟨hs, fun h => by
    by_contra ht
    exact ne_union_of_witness (hw (Bool.eq_false_iff.2 ht)) h⟩

/-- a join that is least among the sets `Q` of the domain is the union as soon as the union is such a `Q` -/
theorem union_eq_of_least {α : Type} {J X Y Q : Set α} (hX : X ⊆ J) (hY : Y ⊆ J)
    (hleast : X ⊆ Q → Y ⊆ Q → J ⊆ Q) (h : Q = X ∪ Y) : J = X ∪ Y := by
  apply Set.Subset.antisymm
  · rw [← h]
    exact hleast (by rw [h]; exact Set.subset_union_left) (by rw [h]; exact Set.subset_union_right)
  · exact Set.union_subset hX hY

namespace DBM
variable {n : Nat}

/-- `upper_bound_assign`: the pointwise maximum of two matrices -/
def join (x y : DBM n) : DBM n where
  e := matMax x.e y.e
  diag := by
    intro i hi
    show ExtRat.maxA (x.e i i) (y.e i i) = pinf
    rw [x.diag i hi, y.diag i hi]; rfl

theorem join_apply (x y : DBM n) (i j : Nat) : (join x y).e i j = ExtRat.maxA (x.e i j) (y.e i j) := rfl

theorem γ_subset_join_left (x y : DBM n) : DBM.γ x ⊆ DBM.γ (join x y) :=
  fun p hp i j hi hj => ExtRat.le_trans' (hp i j hi hj) (by rw [join_apply]; exact ExtRat.le_maxA_left _ _)

theorem γ_subset_join_right (x y : DBM n) : DBM.γ y ⊆ DBM.γ (join x y) :=
  fun p hp i j hi hj => ExtRat.le_trans' (hp i j hi hj) (by rw [join_apply]; exact ExtRat.le_maxA_right _ _)

end DBM

/-- a valuation outside a shape violates a kept entry of its reduction -/
theorem exists_violated_kept {n : Nat} (c : DBM n) (hc : c.IsClosed) (red : BMat)
    (h : bdsShortestPathReduction upId n c.e = some red) (p : ℕ → ℚ) (hp : p ∉ DBM.γ c) :
    ∃ i j, i ≤ n ∧ j ≤ n ∧ red i j = false ∧ ∃ a : ℚ, c.e i j = fin a ∧ a < DBM.val p j - DBM.val p i := by
  have e := bds_reduced_preserves c hc _ _ (bdsComputeLeaders_spec c hc) (bdsComputePredecessors_spec c) red
    (bdsShortestPathReduction_spec c hc red h)
  rw [← e] at hp
  have hp' : ¬ (c.reduced red).Sat p := hp
  unfold DBM.Sat at hp'
  push Not at hp'
  obtain ⟨i, j, hi, hj, hv⟩ := hp'
  obtain ⟨hk, a, hq, ha⟩ :=
    ExtRat.kept_of_not_fin_le (show ¬ (fin _ ≤ if red i j then pinf else c.e i j) from hv)
  exact ⟨i, j, hi, hj, Bool.eq_false_iff.2 hk, a, hq, ha⟩

/-- **`BHZ09_upper_bound_assign_if_exact`, soundness of the answer `true`** -/
theorem bdsBHZ09_sound {n : Nat} (x y : DBM n) (hx : x.IsClosed) (hy : y.IsClosed) (xr yr : BMat)
    (hxr : bdsShortestPathReduction upId n x.e = some xr) (hyr : bdsShortestPathReduction upId n y.e = some yr)
    (ht : bdsBHZ09 upId n x.e y.e xr yr = true) :
    DBM.γ (DBM.join x y) = DBM.γ x ∪ DBM.γ y := by
  apply Set.Subset.antisymm
  · intro p hp
    by_contra hnot
    have hnx : p ∉ DBM.γ x := fun h => hnot (Or.inl h)
    have hny : p ∉ DBM.γ y := fun h => hnot (Or.inr h)
    obtain ⟨i, j, hi, hj, hkx, a, hxa, hva⟩ := exists_violated_kept x hx xr hxr p hnx
    obtain ⟨k, l, hk, hl, hky, b, hyb, hvb⟩ := exists_violated_kept y hy yr hyr p hny
    -- the entry of the join bounds the difference, so the other operand's entry is larger
    have ub_ij := hp i j hi hj
    have ub_kl := hp k l hk hl
    rw [DBM.join_apply] at ub_ij ub_kl
    have c1 : ExtRat.ltB (x.e i j) (y.e i j) = true :=
      (ExtRat.ltB_iff _ _).2 (ExtRat.not_le_of_le_maxA_left ub_ij
        (by rw [hxa, ExtRat.fin_le_fin]; exact not_le.2 hva))
    have c2 : ExtRat.ltB (y.e k l) (x.e k l) = true :=
      (ExtRat.ltB_iff _ _).2 (ExtRat.not_le_of_le_maxA_right ub_kl
        (by rw [hyb, ExtRat.fin_le_fin]; exact not_le.2 hvb))
    -- the test at `(i, j, k, l)`
    unfold bdsBHZ09 at ht
    simp only [List.all_eq_true, List.mem_reverse, List.mem_range] at ht
    have t := ht i (by omega) j (by omega)
    rw [hkx, c1] at t
    simp only [Bool.false_or, Bool.not_true, List.all_eq_true, List.mem_reverse, List.mem_range] at t
    have t2 := t k (by omega) l (by omega)
    rw [hky, c2] at t2
    simp only [Bool.false_or, Bool.not_true, Bool.not_eq_true'] at t2
    have t3 : ¬ (ExtRat.ltB (ExtRat.addUp upId (x.e i j) (y.e k l))
        (ExtRat.addUp upId (if i = l then fin 0 else matMax x.e y.e i l)
          (if k = j then fin 0 else matMax x.e y.e k j)) = true) := by
      rw [t2]; simp
    rw [ExtRat.ltB_iff, not_not, hxa, hyb] at t3
    -- but the two violations add up beyond that sum
    have b1 : fin (DBM.val p l - DBM.val p i) ≤ (if i = l then fin 0 else matMax x.e y.e i l) := by
      split
      · rename_i e; rw [e, sub_self]; exact ExtRat.le_rfl' _
      · exact hp i l hi hl
    have b2 : fin (DBM.val p j - DBM.val p k) ≤ (if k = j then fin 0 else matMax x.e y.e k j) := by
      split
      · rename_i e; rw [e, sub_self]; exact ExtRat.le_rfl' _
      · exact hp k j hk hj
    have s := ExtRat.le_trans' (ExtRat.fin_le_addUp upId_sound b1 b2) t3
    simp only [ExtRat.addUp, upId, ExtRat.fin_le_fin] at s
    linarith only [s, hva, hvb]
  · intro p hp
    rcases hp with hp | hp
    · exact DBM.γ_subset_join_left x y hp
    · exact DBM.γ_subset_join_right x y hp

end PPLV.WR

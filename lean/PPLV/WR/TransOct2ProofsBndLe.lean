import PPLV.WR.TransOct2ProofsBndMono
/-!
# `generalized_affine_image(var, ≤, expr, den)` only lowers the unary cells of the other variables
-/
namespace PPLV.WR
open ExtRat

theorem octUnaryEq_trans {v : Nat} {a b c : Mat} (h1 : OUnaryEq v a b) (h2 : OUnaryEq v b c) : OUnaryEq v a c := by
  intro u hu; rw [(h1 u hu).1, (h1 u hu).2]; exact h2 u hu

theorem octUnaryEq_addDbmQ {v : Nat} (R : Rnd) (m : Mat) {i j : Nat} (num dn : Int)
    (hij : i = 2 * v ∨ i = 2 * v + 1 ∨ j = 2 * v ∨ j = 2 * v + 1) : OUnaryEq v (addDbmConstraintQ R m i j num dn) m :=
  octUnaryEq_addDbm m _ hij

theorem octUnaryEq_set {v : Nat} (m : Mat) {i j : Nat} (k : ExtRat)
    (hij : i = 2 * v ∨ i = 2 * v + 1 ∨ j = 2 * v ∨ j = 2 * v + 1) : OUnaryEq v (m.set i j k) m := by
  intro u hu
  simp only [Mat.set_apply]
  rw [if_neg (by omega), if_neg (by omega)]
  exact ⟨rfl, rfl⟩

theorem octGenTranslate_unaryEq (R : Rnd) (n vid : Nat) (isLe plus : Bool) (d : ExtRat) (m : Mat) :
    OUnaryEq vid (octGenTranslate R n vid isLe plus d m) m := by
  intro u hu
  cases plus
  · unfold octGenTranslate
    simp only [Bool.false_eq_true, ↓reduceIte]
    rw [octForgetBinary_apply, octForgetBinary_apply]
    cases isLe <;> simp only [Bool.false_eq_true, ↓reduceIte] <;>
      rw [if_neg (by omega), if_neg (by omega)] <;> simp only [Mat.set_apply] <;>
      rw [if_neg (by omega), if_neg (by omega), if_neg (by omega), if_neg (by omega)] <;> exact ⟨rfl, rfl⟩
  · rw [octGenTranslate_plus_eq]
    exact ⟨octShiftP_frame _ _ _ _ _ _ (by omega) (by omega) (by omega) (by omega),
      octShiftP_frame _ _ _ _ _ _ (by omega) (by omega) (by omega) (by omega)⟩

theorem octGenAffineImageGeneral_le_unaryEq (R : Rnd) (n vid wid : Nat) (e : Nat → Int) (b den : Int) (m : Mat) :
    OUnaryEq vid (octGenAffineImageGeneral R n vid wid true e b den m).1 m := by
  unfold octGenAffineImageGeneral
  dsimp only
  simp only [↓reduceIte]
  generalize loopUp (wid + 1) (octAccStepG R m (scExpr e den) true) _ = st
  by_cases hcnt : st.cnt > 1
  · rw [if_pos hcnt]; exact ounaryEq_forgetAll n vid m
  · rw [if_neg hcnt]
    show OUnaryEq vid (octGenExploitUpper _ _ _ _ _ _ _ _ _) m
    rw [octGenExploitUpper_eq (octScTests (e := e) (den := den)) (by omega)]
    intro u hu
    rw [octExploitUpper_frame _ _ _ _ _ _ _ _ _ (by omega) (by omega),
      octExploitUpper_frame _ _ _ _ _ _ _ _ _ (by omega) (by omega)]
    exact ounaryEq_forgetAll n vid m u hu

/-- `incremental_strong_closure_assign` only lowers the off-diagonal stored cells -/
theorem octIncClose_le {R : Rnd} (hR : R.Sound) {n vid : Nat} (hv : vid < n) {M m' : Mat}
    (h : octIncClose R n vid M = some m') {a c : Nat} (ha : a < 2 * n) (hc : c < rowSize a) (hac : a ≠ c) :
    m' a c ≤ M a c := by
  unfold octIncClose at h
  dsimp only at h
  split at h
  · exact absurd h (by simp)
  · injection h with h
    subst h
    have := OctM.incStrongClosure_le hR.up_le hv (OctM.ofMat n M) a c ha hc
    have e : (OctM.ofMat n M).e a c = M a c := by
      show Mat.diagUp (2 * n) pinf M a c = M a c
      rw [Mat.diagUp_apply, if_neg (by omega)]
    rw [e] at this
    exact this

theorem octGenAffineImageCoreF_le_unaryLe {R : Rnd} (hR : R.Sound) {n vid : Nat} (hv : vid < n) {e : Nat → Int}
    {b den : Int} {m : Mat} {mf : Mat × Bool}
    (h : octGenAffineImageCoreF R n vid true e b den m = some mf) : OctUnaryLe n vid mf.1 m := by
  revert h
  unfold octGenAffineImageCoreF
  dsimp only
  simp only [↓reduceIte]
  by_cases h0 : exprT e (lastNonzero e n) = 0
  · rw [if_pos h0]
    intro h; cases h
    exact octUnaryLe_of_eq (octUnaryEq_trans (octUnaryEq_addDbmQ R _ _ _ (by omega)) (ounaryEq_forgetAll n vid m))
  rw [if_neg h0]
  by_cases h1 : exprT e (lastNonzero e n) = 1 ∧
      (e (lastNonzero e n - 1) = den ∨ e (lastNonzero e n - 1) = - den)
  · rw [if_pos h1]
    by_cases hwv : lastNonzero e n - 1 = vid
    · rw [if_pos hwv]
      intro h; cases h
      exact octUnaryLe_of_eq (octGenTranslate_unaryEq R n vid true _ _ m)
    · rw [if_neg hwv]
      intro h; cases h
      refine octUnaryLe_of_eq (octUnaryEq_trans ?_ (ounaryEq_forgetAll n vid m))
      split_ifs <;> rw [octAddQF_fst] <;> exact octUnaryEq_addDbmQ R _ _ _ (by omega)
  rw [if_neg h1]
  have hg := octGenAffineImageGeneral_le_unaryEq R n vid (lastNonzero e n - 1) e b den m
  generalize octGenAffineImageGeneral R n vid (lastNonzero e n - 1) true e b den m = g at hg ⊢
  by_cases hg2 : (!g.2) = true
  · rw [if_pos hg2]
    intro h; cases h
    exact octUnaryLe_of_eq hg
  · rw [if_neg hg2]
    cases hc : octIncClose R n vid g.1 with
    | none => intro h; cases h
    | some m' =>
      intro h; cases h
      -- the incremental closure only lowers cells
      intro u hun hu
      have h1 := octIncClose_le hR hv hc (a := 2 * u + 1) (c := 2 * u) (by omega) (by unfold rowSize; omega) (by omega)
      have h2 := octIncClose_le hR hv hc (a := 2 * u) (c := 2 * u + 1) (by omega) (by unfold rowSize; omega) (by omega)
      rw [(hg u hu).1] at h1
      rw [(hg u hu).2] at h2
      exact ⟨h1, h2⟩

theorem octGenAffineImageCore_le_unaryLe {R : Rnd} (hR : R.Sound) {n vid : Nat} (hv : vid < n) {e : Nat → Int}
    {b den : Int} {m m1 : Mat}
    (h : octGenAffineImageCore R n vid true e b den m = some m1) : OctUnaryLe n vid m1 m := by
  unfold octGenAffineImageCore at h
  cases hc : octGenAffineImageCoreF R n vid true e b den m with
  | none => rw [hc] at h; simp at h
  | some mf =>
    rw [hc] at h
    simp only [Option.map_some] at h
    injection h with h; subst h
    exact octGenAffineImageCoreF_le_unaryLe hR hv hc

end PPLV.WR

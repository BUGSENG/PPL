import PPLV.WR.Model
import PPLV.Lin.Sup

/-!
# K3 theorems: `bestU` is a shape, contains every piece, and is the least such shape

`semU Ps` is the union of the pieces.  `IsSup S f s` is the meaning of a `Sup` verdict (the shape of
`supB_spec`); `maxSup` of two verdicts is a verdict for the union.
-/
namespace PPLV.WR
open PPLV.Lin

/-- the union of the point sets of the pieces -/
def semU (Ps : List (List Con)) : Set Val := {x | ∃ P ∈ Ps, Sat P x}

/-- what a `Sup` verdict says about `sup {f x | x ∈ S}` -/
def IsSup (S : Set Val) (f : Val → Rat) : Sup → Prop
  | .empty => S = ∅
  | .unbounded => (∃ x, x ∈ S) ∧ ∀ M : Rat, ∃ x ∈ S, M < f x
  | .val p q att => 0 < q ∧ (∀ x ∈ S, f x ≤ (p:Rat)/q) ∧
      (att = true → ∃ x ∈ S, f x = (p:Rat)/q) ∧
      (att = false → (∀ x ∈ S, f x < (p:Rat)/q) ∧ ∀ ε : Rat, 0 < ε → ∃ x ∈ S, (p:Rat)/q - ε < f x)

/-! Membership of a point in a system given row by row: with `dot` unfolded, these three turn
`x ∈ sem [geRow …, …]` into the conjunction of the inequalities. -/
theorem mem_sem_cons (c : Con) (cs : List Con) (x : Val) : x ∈ sem (c :: cs) ↔ c.sat x ∧ x ∈ sem cs :=
  Sat_cons c cs x
theorem mem_sem_nil (x : Val) : x ∈ sem [] ↔ True := iff_true_intro fun _ h => nomatch h
theorem sat_geRow (cf : List Int) (k : Int) (x : Val) : (geRow cf k).sat x ↔ 0 ≤ dot cf x + k := Iff.rfl

theorem supB_isSup (n : Nat) (e : List Int) (cs : List Con) (hwf : WF n cs) (he : e.length ≤ n) :
    IsSup (sem cs) (fun x => dot e x) (supB n e 0 cs) := by
  have h := supB_spec n e 0 cs hwf he
  cases hs : supB n e 0 cs with
  | empty => rw [hs] at h; exact h
  | unbounded =>
    rw [hs] at h
    simp only [Int.cast_zero, add_zero] at h
    exact h
  | val p q att =>
    rw [hs] at h
    simp only [Int.cast_zero, add_zero] at h
    exact h

/-! ### consequences of a verdict used below -/

/-- a verdict on a non-empty set bounded by `B` is a value `≤ B` -/
theorem IsSup.le_of_bound {S : Set Val} {f : Val → Rat} {s : Sup} (h : IsSup S f s)
    (hne : ∃ x, x ∈ S) (B : Rat) (hB : ∀ x ∈ S, f x ≤ B) :
    ∃ p q att, s = .val p q att ∧ 0 < q ∧ (p:Rat)/q ≤ B := by
  cases s with
  | empty =>
    obtain ⟨x, hx⟩ := hne
    have : S = ∅ := h
    rw [this] at hx; exact absurd hx (Set.notMem_empty x)
  | unbounded =>
    obtain ⟨-, hM⟩ := h
    obtain ⟨x, hx, hlt⟩ := hM B
    exact absurd (hB x hx) (not_le.mpr hlt)
  | val p q att =>
    obtain ⟨hq, -, hatt, hnatt⟩ := h
    refine ⟨p, q, att, rfl, hq, ?_⟩
    cases att with
    | true =>
      obtain ⟨x, hx, hxe⟩ := hatt rfl
      rw [← hxe]; exact hB x hx
    | false =>
      obtain ⟨-, happ⟩ := hnatt rfl
      by_contra hcon
      push Not at hcon
      obtain ⟨x, hx, hlt⟩ := happ ((p:Rat)/q - B) (by linarith)
      have := hB x hx
      linarith

/-- with a strict bound, an attained value is strictly below it -/
theorem IsSup.lt_of_strict_bound {S : Set Val} {f : Val → Rat} {p q : Int} (h : IsSup S f (.val p q true))
    (B : Rat) (hB : ∀ x ∈ S, f x < B) : (p:Rat)/q < B := by
  obtain ⟨-, -, hatt, -⟩ := h
  obtain ⟨x, hx, hxe⟩ := hatt rfl
  rw [← hxe]; exact hB x hx

theorem IsSup.val_le {S : Set Val} {f : Val → Rat} {p q : Int} {att : Bool} (h : IsSup S f (.val p q att))
    (x : Val) (hx : x ∈ S) : f x ≤ (p:Rat)/q := h.2.1 x hx

theorem IsSup.val_lt {S : Set Val} {f : Val → Rat} {p q : Int} (h : IsSup S f (.val p q false))
    (x : Val) (hx : x ∈ S) : f x < (p:Rat)/q := (h.2.2.2 rfl).1 x hx

/-! ### the verdict for a union -/

theorem div_lt_div_of_cross {p q p' q' : Int} (hq : 0 < q) (hq' : 0 < q') :
    (p:Rat)/q < (p':Rat)/q' ↔ p * q' < p' * q := by
  have h1 : (0:Rat) < q := by exact_mod_cast hq
  have h2 : (0:Rat) < q' := by exact_mod_cast hq'
  rw [div_lt_div_iff₀ h1 h2]
  exact_mod_cast Iff.rfl

theorem div_eq_div_of_cross {p q p' q' : Int} (hq : 0 < q) (hq' : 0 < q') :
    (p:Rat)/q = (p':Rat)/q' ↔ p * q' = p' * q := by
  have h1 : (q:Rat) ≠ 0 := by exact_mod_cast (ne_of_gt hq)
  have h2 : (q':Rat) ≠ 0 := by exact_mod_cast (ne_of_gt hq')
  rw [div_eq_div_iff h1 h2]
  exact_mod_cast Iff.rfl

/-- an unbounded piece makes the union unbounded -/
theorem IsSup.union_unbounded {S : Set Val} {f : Val → Rat} (hs : IsSup S f .unbounded) (T : Set Val) :
    IsSup (S ∪ T) f .unbounded := by
  obtain ⟨⟨x, hx⟩, hM⟩ := hs
  exact ⟨⟨x, Or.inl hx⟩, fun M => by obtain ⟨y, hy, hlt⟩ := hM M; exact ⟨y, Or.inl hy, hlt⟩⟩

/-- a piece whose supremum is strictly larger decides the verdict of the union -/
theorem IsSup.union_of_lt {S T : Set Val} {f : Val → Rat} {p q p' q' : Int} {a a' : Bool}
    (hs : IsSup S f (.val p q a)) (ht : IsSup T f (.val p' q' a')) (hv : (p:Rat)/q < (p':Rat)/q') :
    IsSup (S ∪ T) f (.val p' q' a') := by
  obtain ⟨-, hub, -, -⟩ := hs
  obtain ⟨hq', hub', hatt', hnatt'⟩ := ht
  refine ⟨hq', ?_, ?_, ?_⟩
  · rintro x (hx | hx)
    · exact le_of_lt (lt_of_le_of_lt (hub x hx) hv)
    · exact hub' x hx
  · intro h; obtain ⟨x, hx, hxe⟩ := hatt' h; exact ⟨x, Or.inr hx, hxe⟩
  · intro h
    obtain ⟨hst, happ⟩ := hnatt' h
    refine ⟨?_, fun ε hε => ?_⟩
    · rintro x (hx | hx)
      · exact lt_of_le_of_lt (hub x hx) hv
      · exact hst x hx
    · obtain ⟨x, hx, hxl⟩ := happ ε hε; exact ⟨x, Or.inr hx, hxl⟩

theorem IsSup_union (S T : Set Val) (f : Val → Rat) (s t : Sup) (hs : IsSup S f s) (ht : IsSup T f t) :
    IsSup (S ∪ T) f (maxSup s t) := by
  cases s with
  | empty =>
    have hS : S = ∅ := hs
    have : maxSup .empty t = t := by cases t <;> rfl
    rw [this, hS, Set.empty_union]; exact ht
  | unbounded =>
    cases t with
    | empty =>
      have hT : T = ∅ := ht
      show IsSup (S ∪ T) f .unbounded
      rw [hT, Set.union_empty]; exact hs
    | unbounded => exact hs.union_unbounded T
    | val p q a => exact hs.union_unbounded T
  | val p q a =>
    cases t with
    | empty =>
      have hT : T = ∅ := ht
      show IsSup (S ∪ T) f (.val p q a)
      rw [hT, Set.union_empty]; exact hs
    | unbounded =>
      show IsSup (S ∪ T) f .unbounded
      rw [Set.union_comm]; exact ht.union_unbounded S
    | val p' q' a' =>
      have hq := hs.1
      have hq' := ht.1
      show IsSup (S ∪ T) f
        (if p * q' < p' * q then .val p' q' a' else if p * q' = p' * q then .val p q (a || a') else .val p q a)
      by_cases hlt : p * q' < p' * q
      · rw [if_pos hlt]
        exact hs.union_of_lt ht ((div_lt_div_of_cross hq hq').mpr hlt)
      · rw [if_neg hlt]
        by_cases heq : p * q' = p' * q
        · rw [if_pos heq]
          obtain ⟨-, hub, hatt, hnatt⟩ := hs
          obtain ⟨-, hub', hatt', hnatt'⟩ := ht
          have hv : (p:Rat)/q = (p':Rat)/q' := (div_eq_div_of_cross hq hq').mpr heq
          refine ⟨hq, ?_, ?_, ?_⟩
          · rintro x (hx | hx)
            · exact hub x hx
            · rw [hv]; exact hub' x hx
          · intro h
            rcases Bool.or_eq_true_iff.mp h with h1 | h1
            · obtain ⟨x, hx, hxe⟩ := hatt h1; exact ⟨x, Or.inl hx, hxe⟩
            · obtain ⟨x, hx, hxe⟩ := hatt' h1; exact ⟨x, Or.inr hx, by rw [hv]; exact hxe⟩
          · intro h
            obtain ⟨h1, h2⟩ := Bool.or_eq_false_iff.mp h
            obtain ⟨hst, happ⟩ := hnatt h1
            obtain ⟨hst', -⟩ := hnatt' h2
            refine ⟨?_, fun ε hε => ?_⟩
            · rintro x (hx | hx)
              · exact hst x hx
              · rw [hv]; exact hst' x hx
            · obtain ⟨x, hx, hxl⟩ := happ ε hε; exact ⟨x, Or.inl hx, hxl⟩
        · rw [if_neg heq, Set.union_comm]
          have hgt : p' * q < p * q' := lt_of_le_of_ne (not_lt.mp hlt) (fun h => heq h.symm)
          exact ht.union_of_lt hs ((div_lt_div_of_cross hq' hq).mpr hgt)

theorem semU_nil : semU [] = ∅ := by
  ext x; simp [semU]

theorem semU_cons (P : List Con) (Ps : List (List Con)) : semU (P :: Ps) = sem P ∪ semU Ps := by
  ext x; simp [semU, sem]

theorem supU_isSup (n : Nat) (e : List Int) (Ps : List (List Con)) (hwf : ∀ P ∈ Ps, WF n P)
    (he : e.length ≤ n) : IsSup (semU Ps) (fun x => dot e x) (supU n e Ps) := by
  induction Ps with
  | nil => show semU [] = ∅; exact semU_nil
  | cons P Ps ih =>
    rw [semU_cons]
    exact IsSup_union _ _ _ _ _ (supB_isSup n e P (hwf P (by simp)) he)
      (ih fun Q hQ => hwf Q (by simp [hQ]))

/-! ### template directions -/

theorem unitV_length (n i : Nat) (a : Int) : (unitV n i a).length = n := by simp [unitV]
theorem pairV_length (n i j : Nat) (a b : Int) : (pairV n i j a b).length = n := by simp [pairV]

theorem boxDirs_length (n : Nat) : ∀ e ∈ boxDirs n, e.length = n := by
  intro e he
  simp only [boxDirs, List.mem_flatMap, List.mem_range, List.mem_cons, List.not_mem_nil, or_false] at he
  obtain ⟨i, -, rfl | rfl⟩ := he <;> exact unitV_length _ _ _

theorem diffDirs_length (n : Nat) : ∀ e ∈ diffDirs n, e.length = n := by
  intro e he
  simp only [diffDirs, List.mem_flatMap, List.mem_range, List.mem_filterMap] at he
  obtain ⟨i, -, j, -, h⟩ := he
  split at h
  · cases h
  · cases h; exact pairV_length _ _ _ _ _

theorem sumDirs_length (n : Nat) : ∀ e ∈ sumDirs n, e.length = n := by
  intro e he
  simp only [sumDirs, List.mem_flatMap, List.mem_range] at he
  obtain ⟨i, -, j, -, h⟩ := he
  split at h
  · simp only [List.mem_cons, List.not_mem_nil, or_false] at h
    rcases h with rfl | rfl <;> exact pairV_length _ _ _ _ _
  · cases h

theorem dirs_length (K : ShapeKind) (n : Nat) : ∀ e ∈ dirs K n, e.length = n := by
  intro e he
  cases K with
  | box => exact boxDirs_length n e he
  | bds =>
    rcases List.mem_append.mp he with h | h
    · exact boxDirs_length n e h
    · exact diffDirs_length n e h
  | oct =>
    rcases List.mem_append.mp he with h | h
    · rcases List.mem_append.mp h with h | h
      · exact boxDirs_length n e h
      · exact diffDirs_length n e h
    · exact sumDirs_length n e h

/-! ### shapes -/

/-- `c` is a row of the domain `K` over `n` variables: its coefficient vector is a positive multiple
    of a template direction (or zero), and it is non-strict unless `K` is the box domain -/
def KindRow (K : ShapeKind) (n : Nat) (c : Con) : Prop :=
  (c.allZero = true ∨ ∃ e ∈ dirs K n, ∃ m : Int, 0 < m ∧ c.coeffs = e.map (m * ·)) ∧
  (K ≠ .box → c.strict = false)

/-- a constraint system all of whose rows belong to the domain `K` -/
def OfKind (K : ShapeKind) (n : Nat) (Q : List Con) : Prop := ∀ c ∈ Q, KindRow K n c

theorem dot_map_neg (e : List Int) (x : Val) : dot (e.map (- ·)) x = - dot e x := by
  have : e.map (- ·) = e.map ((-1 : Int) * ·) := by
    apply List.map_congr_left; intro a _; ring
  rw [this, dot_map_mul]; push_cast; ring

theorem mem_bestU_rows (K : ShapeKind) (n : Nat) (Ps : List (List Con)) (c : Con)
    (hfeas : ¬ (Ps.all (fun P => !feasible n P)) = true) :
    c ∈ bestU K n Ps ↔ ∃ e ∈ dirs K n, bestRow K e (supU n (e.map (- ·)) Ps) = some c := by
  unfold bestU
  rw [if_neg hfeas, List.mem_filterMap]

theorem bestRow_some (K : ShapeKind) (e : List Int) (s : Sup) (c : Con) (h : bestRow K e s = some c) :
    ∃ p q att, s = .val p q att ∧ c = ⟨e.map (q * ·), p, (K == .box) && !att⟩ := by
  cases s with
  | empty => cases h
  | unbounded => cases h
  | val p q att => exact ⟨p, q, att, rfl, by simpa [bestRow] using h.symm⟩

/-- a row `q·(e·x) + p ≥ 0` (`> 0`) of `bestU` holds at `x` iff `−e·x ≤ p/q` (`<`) -/
theorem sat_bestRow (e : List Int) (p q : Int) (st : Bool) (hq : 0 < q) (x : Val) :
    (⟨e.map (q * ·), p, st⟩ : Con).sat x ↔
      (if st then - dot e x < (p:Rat)/q else - dot e x ≤ (p:Rat)/q) := by
  have hq' : (0:Rat) < q := by exact_mod_cast hq
  unfold Con.sat Con.eval
  simp only [dot_map_mul]
  cases st with
  | true =>
    simp only [if_true]
    rw [lt_div_iff₀ hq']
    constructor <;> intro h <;> linarith
  | false =>
    simp only [Bool.false_eq_true, if_false]
    rw [le_div_iff₀ hq']
    constructor <;> intro h <;> linarith

theorem all_infeasible_iff (n : Nat) (Ps : List (List Con)) (hwf : ∀ P ∈ Ps, WF n P) :
    (Ps.all (fun P => !feasible n P)) = true ↔ semU Ps = ∅ := by
  rw [List.all_eq_true, Set.eq_empty_iff_forall_notMem]
  constructor
  · rintro h x ⟨P, hP, hx⟩
    have := h P hP
    rw [Bool.not_eq_true', ← Bool.not_eq_true, feasible_iff n P (hwf P hP)] at this
    exact this ⟨x, hx⟩
  · intro h P hP
    rw [Bool.not_eq_true', ← Bool.not_eq_true, feasible_iff n P (hwf P hP)]
    rintro ⟨x, hx⟩
    exact h x ⟨P, hP, hx⟩

/-- **Soundness**: every piece is contained in `bestU`. -/
theorem bestU_sound (K : ShapeKind) (n : Nat) (Ps : List (List Con)) (hwf : ∀ P ∈ Ps, WF n P) :
    semU Ps ⊆ sem (bestU K n Ps) := by
  intro x hx c hc
  have hne : ¬ (Ps.all (fun P => !feasible n P)) = true := by
    rw [all_infeasible_iff n Ps hwf]
    intro h; rw [h] at hx; exact hx
  obtain ⟨e, he, hrow⟩ := (mem_bestU_rows K n Ps c hne).mp hc
  obtain ⟨p, q, att, hs, rfl⟩ := bestRow_some K e _ c hrow
  have hlen : (e.map (- ·)).length ≤ n := by rw [List.length_map, dirs_length K n e he]
  have hsup := supU_isSup n (e.map (- ·)) Ps hwf hlen
  rw [hs] at hsup
  rw [sat_bestRow e p q _ hsup.1 x]
  have hle := hsup.val_le x hx
  simp only [dot_map_neg] at hle
  cases att with
  | true => simp only [Bool.not_true, Bool.and_false, Bool.false_eq_true, if_false]; exact hle
  | false =>
    have hlt := IsSup.val_lt hsup x hx
    simp only [dot_map_neg] at hlt
    split
    · exact hlt
    · exact hle

/-- `bestU` is an element of the domain. -/
theorem bestU_ofKind (K : ShapeKind) (n : Nat) (Ps : List (List Con)) (hwf : ∀ P ∈ Ps, WF n P) :
    OfKind K n (bestU K n Ps) := by
  intro c hc
  by_cases hall : (Ps.all (fun P => !feasible n P)) = true
  · unfold bestU at hc
    rw [if_pos hall] at hc
    rw [List.mem_singleton] at hc
    subst hc
    exact ⟨Or.inl rfl, fun _ => rfl⟩
  · obtain ⟨e, he, hrow⟩ := (mem_bestU_rows K n Ps c hall).mp hc
    obtain ⟨p, q, att, hs, rfl⟩ := bestRow_some K e _ c hrow
    have hlen : (e.map (- ·)).length ≤ n := by rw [List.length_map, dirs_length K n e he]
    have hsup := supU_isSup n (e.map (- ·)) Ps hwf hlen
    rw [hs] at hsup
    refine ⟨Or.inr ⟨e, he, q, hsup.1, rfl⟩, fun hK => ?_⟩
    cases K with
    | box => exact absurd rfl hK
    | bds => rfl
    | oct => rfl

theorem bestU_wf (K : ShapeKind) (n : Nat) (Ps : List (List Con)) : WF n (bestU K n Ps) := by
  intro c hc
  by_cases hall : (Ps.all (fun P => !feasible n P)) = true
  · unfold bestU at hc
    rw [if_pos hall, List.mem_singleton] at hc
    subst hc; simp [falseRow]
  · obtain ⟨e, he, hrow⟩ := (mem_bestU_rows K n Ps c hall).mp hc
    obtain ⟨p, q, att, -, rfl⟩ := bestRow_some K e _ c hrow
    simp [dirs_length K n e he]

/-- **Leastness**: every shape of the domain that contains every piece contains `bestU`. -/
theorem bestU_least (K : ShapeKind) (n : Nat) (Ps : List (List Con)) (hwf : ∀ P ∈ Ps, WF n P)
    (Q : List Con) (hQ : OfKind K n Q) (hsub : semU Ps ⊆ sem Q) : sem (bestU K n Ps) ⊆ sem Q := by
  intro x hx c hc
  by_cases hall : (Ps.all (fun P => !feasible n P)) = true
  · exfalso
    have hx' : Sat (bestU K n Ps) x := hx
    unfold bestU at hx'
    rw [if_pos hall] at hx'
    exact not_sat_falseRow x (hx' falseRow (by simp))
  · have hne : ∃ y, y ∈ semU Ps := by
      by_contra hcon
      apply hall
      rw [all_infeasible_iff n Ps hwf, Set.eq_empty_iff_forall_notMem]
      exact fun y hy => hcon ⟨y, hy⟩
    obtain ⟨hshape, hstrict⟩ := hQ c hc
    rcases hshape with hz | ⟨e, he, m, hm, hcf⟩
    · -- a constant row: it holds at a point of a piece, hence everywhere
      obtain ⟨y, hy⟩ := hne
      have hcy : c.sat y := hsub hy c hc
      unfold Con.sat at hcy ⊢
      rw [eval_allZero c hz] at hcy ⊢
      exact hcy
    · -- a template row `m·(e·y) + k ≥ 0` (`> 0`): read through `sat_bestRow` it says `−e·y ≤ k/m` (`<`)
      obtain ⟨cf, k, st⟩ := c
      subst hcf
      have hlen : (e.map (- ·)).length ≤ n := by rw [List.length_map, dirs_length K n e he]
      have hsup := supU_isSup n (e.map (- ·)) Ps hwf hlen
      have hBs : ∀ y ∈ semU Ps, if st then - dot e y < (k:Rat)/m else - dot e y ≤ (k:Rat)/m :=
        fun y hy => (sat_bestRow e k m st hm y).1 (hsub hy _ hc)
      have hB : ∀ y ∈ semU Ps, (fun y => dot (e.map (- ·)) y) y ≤ (k:Rat)/m := by
        intro y hy
        have := hBs y hy
        simp only [dot_map_neg]
        split at this
        · exact this.le
        · exact this
      obtain ⟨p, q, att, hs, hq, hpq⟩ := hsup.le_of_bound hne _ hB
      have hrow : (⟨e.map (q * ·), p, (K == .box) && !att⟩ : Con) ∈ bestU K n Ps :=
        (mem_bestU_rows K n Ps _ hall).mpr ⟨e, he, by rw [hs]; rfl⟩
      have hxrow := (sat_bestRow e p q _ hq x).mp (hx _ hrow)
      rw [sat_bestRow e k m st hm x]
      cases st with
      | false =>
        have hle : - dot e x ≤ (p:Rat)/q := by
          split at hxrow
          · exact hxrow.le
          · exact hxrow
        exact le_trans hle hpq
      | true =>
        -- strict rows only in the box domain
        have hKbox : K = .box := by
          by_contra hK; exact Bool.noConfusion (hstrict hK)
        subst hKbox
        simp only [if_true] at hBs ⊢
        cases att with
        | true =>
          rw [hs] at hsup
          have hlt := IsSup.lt_of_strict_bound hsup _ (fun y hy => by simp only [dot_map_neg]; exact hBs y hy)
          simp only [Bool.not_true, Bool.and_false, Bool.false_eq_true, if_false] at hxrow
          exact lt_of_le_of_lt hxrow hlt
        | false =>
          simp only [beq_self_eq_true, Bool.not_false, Bool.and_self, if_true] at hxrow
          exact lt_of_lt_of_le hxrow hpq

/-! ### "the union already is an element of the domain" -/

theorem subsetUnion_iff (n : Nat) (R A B : List Con) (hR : WF n R) (hA : WF n A) (hB : WF n B) :
    subsetUnion n R A B = true ↔ sem R ⊆ sem A ∪ sem B := by
  unfold subsetUnion
  simp only [List.all_eq_true, Bool.not_eq_true', ← Bool.not_eq_true]
  have hwf : ∀ a ∈ A, ∀ b ∈ B, WF n (b.neg :: a.neg :: R) := by
    intro a ha b hb c hc
    rcases List.mem_cons.mp hc with rfl | hc
    · simpa [Con.neg] using hB b hb
    · rcases List.mem_cons.mp hc with rfl | hc
      · simpa [Con.neg] using hA a ha
      · exact hR c hc
  constructor
  · intro h x hx
    by_contra hcon
    rw [Set.mem_union, not_or] at hcon
    obtain ⟨hnA, hnB⟩ := hcon
    have hA' : ∃ a ∈ A, ¬ a.sat x := by
      by_contra h'; push Not at h'; exact hnA h'
    have hB' : ∃ b ∈ B, ¬ b.sat x := by
      by_contra h'; push Not at h'; exact hnB h'
    obtain ⟨a, ha, hna⟩ := hA'
    obtain ⟨b, hb, hnb⟩ := hB'
    apply h a ha b hb
    rw [feasible_iff n _ (hwf a ha b hb)]
    refine ⟨x, ?_⟩
    rw [Sat_cons, Sat_cons]
    exact ⟨(sat_neg_iff b x).mpr hnb, (sat_neg_iff a x).mpr hna, hx⟩
  · intro h a ha b hb hfeas
    rw [feasible_iff n _ (hwf a ha b hb)] at hfeas
    obtain ⟨x, hx⟩ := hfeas
    rw [Sat_cons, Sat_cons] at hx
    obtain ⟨hnb, hna, hxR⟩ := hx
    rcases h hxR with hxa | hxb
    · exact (sat_neg_iff a x).mp hna (hxa a ha)
    · exact (sat_neg_iff b x).mp hnb (hxb b hb)

theorem semU_pair (A B : List Con) : semU [A, B] = sem A ∪ sem B := by
  rw [semU_cons, semU_cons, semU_nil, Set.union_empty]

theorem wf_pair {n : Nat} {A B : List Con} (hA : WF n A) (hB : WF n B) : ∀ P ∈ [A, B], WF n P := by
  intro P hP
  simp only [List.mem_cons, List.not_mem_nil, or_false] at hP
  rcases hP with rfl | rfl <;> assumption

/-- the test `unionInDomain` runs: `bestU` of the two pieces adds no point to their union -/
theorem unionInDomain_eq (K : ShapeKind) (n : Nat) (A B : List Con) (hA : WF n A) (hB : WF n B) :
    unionInDomain K n A B = true ↔ sem (bestU K n [A, B]) ⊆ sem A ∪ sem B :=
  subsetUnion_iff n _ A B (bestU_wf K n [A, B]) hA hB

/-- when the union is in the domain, `bestU` is the union -/
theorem unionInDomain_best (K : ShapeKind) (n : Nat) (A B : List Con) (hA : WF n A) (hB : WF n B)
    (h : unionInDomain K n A B = true) : sem (bestU K n [A, B]) = sem A ∪ sem B := by
  have hsound := bestU_sound K n [A, B] (wf_pair hA hB)
  rw [semU_pair] at hsound
  exact Set.Subset.antisymm ((unionInDomain_eq K n A B hA hB).1 h) hsound

/-- `unionInDomain` decides whether `sem A ∪ sem B` is the point set of a shape of the domain. -/
theorem unionInDomain_iff (K : ShapeKind) (n : Nat) (A B : List Con) (hA : WF n A) (hB : WF n B) :
    unionInDomain K n A B = true ↔ ∃ Q, OfKind K n Q ∧ sem Q = sem A ∪ sem B := by
  constructor
  · intro h
    exact ⟨bestU K n [A, B], bestU_ofKind K n [A, B] (wf_pair hA hB), unionInDomain_best K n A B hA hB h⟩
  · rintro ⟨Q, hQ, hQe⟩
    rw [unionInDomain_eq K n A B hA hB, ← hQe]
    exact bestU_least K n [A, B] (wf_pair hA hB) Q hQ (by rw [semU_pair, hQe])

/-- the pieces of a difference: `semU (diffPieces A B) = sem A \ sem B` -/
theorem diffPieces_sem (A B : List Con) : semU (diffPieces A B) = sem A \ sem B := by
  ext x
  simp only [semU, diffPieces, List.mem_map, Set.mem_ofPred_eq, Set.mem_sdiff, sem]
  constructor
  · rintro ⟨P, ⟨b, hb, rfl⟩, hx⟩
    rw [Sat_cons] at hx
    exact ⟨hx.2, fun hB => (sat_neg_iff b x).mp hx.1 (hB b hb)⟩
  · rintro ⟨hA, hnB⟩
    have : ∃ b ∈ B, ¬ b.sat x := by
      by_contra h'; push Not at h'; exact hnB h'
    obtain ⟨b, hb, hnb⟩ := this
    exact ⟨b.neg :: A, ⟨b, hb, rfl⟩, (Sat_cons _ _ _).mpr ⟨(sat_neg_iff b x).mpr hnb, hA⟩⟩

theorem diffPieces_wf (n : Nat) (A B : List Con) (hA : WF n A) (hB : WF n B) :
    ∀ P ∈ diffPieces A B, WF n P := by
  intro P hP c hc
  obtain ⟨b, hb, rfl⟩ := List.mem_map.mp hP
  rcases List.mem_cons.mp hc with rfl | hc
  · simpa [Con.neg] using hB b hb
  · exact hA c hc

end PPLV.WR

import PPLV.WR.ReduceProofsMathLeaders
import PPLV.Props.C03Closure
/-!
# Reduction of a closed difference-bound matrix, pure mathematics (3)

* `bds_reduced_preserves`: the kept entries describe the same set of points;
* `DBM.closure_of_isClosed` : `shortest_path_closure_assign` is the identity on a closed matrix;
* `bds_reduced_recloses`: closing the reduced matrix gives `c` back;
* `bds_reduced_irredundant` (literal form): what the algorithm guarantees for a kept leader–leader entry.
-/
namespace PPLV.WR
open ExtRat (fin pinf)

variable {n : Nat}

/-- from a potential of the zero-diagonal matrix to a point of `c` with the same differences -/
theorem DBM.point_of_z (c : DBM n) {p : Nat → Rat} (hp : Holds (SB (n+1)) p c.z) :
    ∃ x : Nat → Rat, c.Sat x ∧ ∀ i, DBM.val x i = p i - p 0 := by
  have hv : ∀ i, DBM.val (fun i => p (i+1) - p 0) i = p i - p 0 := by
    intro i; cases i <;> simp [DBM.val]
  refine ⟨fun i => p (i+1) - p 0, ?_, hv⟩
  intro i j hi hj
  rw [hv, hv]
  have e : p j - p 0 - (p i - p 0) = p j - p i := by ring
  rw [e]
  by_cases hij : i = j
  · rw [hij, c.diag j hj]; exact ExtRat.le_pinf _
  · rw [← c.z_ne hij]
    exact hp i j ⟨by omega, by omega⟩

/-- a point of `c` is a potential of the zero-diagonal matrix -/
theorem DBM.holds_z (c : DBM n) {x : Nat → Rat} (hx : c.Sat x) : Holds (SB (n+1)) (DBM.val x) c.z :=
  holds_diagDown_zero ((DBM.sat_iff_holds c x).1 hx)

/-- a closed matrix has a point -/
theorem DBM.IsClosed.nonempty {c : DBM n} (hc : c.IsClosed) : ∃ x, c.Sat x := by
  obtain ⟨p, hp⟩ := hc.closed.nonempty
  obtain ⟨x, hx, _⟩ := c.point_of_z hp
  exact ⟨x, hx⟩

theorem DBM.closureEmpty_false_of_sat (m : DBM n) {x : Nat → Rat} (hx : m.Sat x) :
    DBM.closureEmpty upId m = false := by
  cases h : DBM.closureEmpty upId m with
  | false => rfl
  | true => exact absurd hx (DBM.closureEmpty_sound upId_sound m h x)

/-- every value below an off-diagonal entry of a closed matrix is exceeded by the corresponding difference at a
point of the shape (a finite entry is attained, an infinite one unbounded) -/
theorem DBM.IsClosed.exists_point_ge {c : DBM n} (hc : c.IsClosed) {a b : Nat} (ha : a ≤ n) (hb : b ≤ n)
    (hab : a ≠ b) {w : Rat} (hw : fin w ≤ c.e a b) : ∃ x, c.Sat x ∧ w ≤ DBM.val x b - DBM.val x a := by
  cases he : c.e a b with
  | fin v =>
    obtain ⟨p, hp, hd⟩ := hc.closed.tight_fin (a := a) (b := b) (by omega) (by omega) hab
      (by rw [c.z_ne hab]; exact he)
    obtain ⟨x, hx, hv⟩ := c.point_of_z hp
    rw [he, ExtRat.fin_le_fin] at hw
    exact ⟨x, hx, by rw [hv, hv]; linarith only [hd, hw]⟩
  | pinf =>
    obtain ⟨p, hp, hd⟩ := hc.closed.tight_inf (a := a) (b := b) (by omega) (by omega) hab
      (by rw [c.z_ne hab]; exact he) w
    obtain ⟨x, hx, hv⟩ := c.point_of_z hp
    exact ⟨x, hx, by rw [hv, hv]; linarith only [hd]⟩

/-- a closed matrix is the least one (off the diagonal) among the matrices containing its points -/
theorem DBM.le_of_γ_subset {x : DBM n} (hx : x.IsClosed) (Q : DBM n) (h : DBM.γ x ⊆ DBM.γ Q)
    {a b : Nat} (ha : a ≤ n) (hb : b ≤ n) (hab : a ≠ b) : x.e a b ≤ Q.e a b :=
  ExtRat.le_of_forall_fin_le fun w hw => by
    obtain ⟨p, hp, hd⟩ := hx.exists_point_ge ha hb hab hw
    exact ExtRat.le_trans' (ExtRat.fin_le_fin.2 hd) (h hp a b ha hb)

/-- `shortest_path_closure_assign` (exact arithmetic) does not change a closed matrix -/
theorem DBM.closure_of_isClosed {n : Nat} (c : DBM n) (hc : c.IsClosed) :
    DBM.closureEmpty upId c = false ∧
    ∀ i j, i ≤ n → j ≤ n → (DBM.closure upId c).e i j = c.e i j := by
  obtain ⟨x0, hx0⟩ := hc.nonempty
  refine ⟨c.closureEmpty_false_of_sat hx0, fun i j hi hj => ?_⟩
  by_cases hij : i = j
  · rw [hij, (DBM.closure upId c).diag j hj, c.diag j hj]
  · exact DBM.le_antisymm' (DBM.closure_le upId_sound c i j hi hj)
      (DBM.le_of_γ_subset hc _ (fun x hx => DBM.closure_sat upId_sound c x hx) hi hj hij)

section
variable (c : DBM n) (hc : c.IsClosed) (lead pred : Nat → Nat) (hl : IsLeaderMap n c.e lead)
  (hp : IsPredMap n c.e pred) (red : BMat) (hr : IsReduction n c.e lead pred red)

include hc hl hp hr in
/-- the reduction keeps the set of points -/
theorem bds_reduced_preserves : DBM.γ (c.reduced red) = DBM.γ c := by
  apply Set.Subset.antisymm
  · intro x hx a b ha hb
    by_cases hab : a = b
    · rw [hab, c.diag b hb]; exact ExtRat.le_pinf _
    · rw [← c.z_ne hab]
      exact reduced_le c hc lead pred hl hp red hr x hx ha hb
  · intro x hx a b ha hb
    have e : (c.reduced red).e a b = if red a b then pinf else c.e a b := rfl
    rw [e]
    split
    · exact ExtRat.le_pinf _
    · exact hx a b ha hb

include hc hl hp hr in
/-- closing the reduced matrix gives the closed matrix back -/
theorem bds_reduced_recloses :
    DBM.closureEmpty upId (c.reduced red) = false ∧
    ∀ i j, i ≤ n → j ≤ n → (DBM.closure upId (c.reduced red)).e i j = c.e i j := by
  have hγ := bds_reduced_preserves c hc lead pred hl hp red hr
  obtain ⟨x0, hx0⟩ := hc.nonempty
  have hx0' : (c.reduced red).Sat x0 := by
    have : x0 ∈ DBM.γ (c.reduced red) := by rw [hγ]; exact hx0
    exact this
  have h1 := (c.reduced red).closureEmpty_false_of_sat hx0'
  have h2 := DBM.closure_of_isClosed c hc
  refine ⟨h1, fun i j hi hj => ?_⟩
  rw [C03.closure_canonical (c.reduced red) c h1 h2.1 hγ i j hi hj]
  exact h2.2 i j hi hj

set_option linter.unusedSectionVars false in
include hc hl hp hr in
/-- a kept entry between two leaders joins distinct leaders, is finite, and is strictly below
the sum through every other leader -/
theorem bds_reduced_irredundant (i j : Nat) (hi : i ≤ n) (hj : j ≤ n) (h : red i j = false)
    (hli : lead i = i) (hlj : lead j = j) :
    i ≠ j ∧ (∃ q, c.e i j = fin q) ∧
    ∀ k, k ≤ n → lead k = k → k ≠ i → k ≠ j → ¬ (eadd (c.e i k) (c.e k j) ≤ c.e i j) := by
  have hA : ∀ k, k ≤ n → lead k = k → ¬ (eadd (c.e i k) (c.e k j) ≤ c.e i j) := by
    rcases (hr.spec i j hi hj).1 h with h | h | h
    · exact h.2.2
    · exfalso
      have hz := hp.zeq j hj
      rw [h.2] at hz
      have := hl.least j i hj hi hz
      omega
    · exfalso
      omega
  have hfin : ∃ q, c.e i j = fin q := by
    cases hq : c.e i j with
    | fin q => exact ⟨q, rfl⟩
    | pinf =>
      exfalso
      apply hA i hi hli
      rw [hq]; exact ExtRat.le_pinf _
  refine ⟨?_, hfin, fun k hk hlk _ _ => hA k hk hlk⟩
  rintro rfl
  obtain ⟨q, hq⟩ := hfin
  rw [c.diag i hi] at hq
  exact ExtRat.noConfusion hq

end
end PPLV.WR

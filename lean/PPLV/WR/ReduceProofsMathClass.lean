import PPLV.WR.ReduceProofsCodeClosed
import Mathlib.Tactic.Linarith
/-!
# Reduction of a closed difference-bound matrix, pure mathematics (1): zero-equivalence classes

`c.z` is the stored matrix `c.e` with the diagonal overwritten by `0` (`DBM.IsClosed c` is `Closed (n+1) c.z`).
Inside a zero-equivalence class a closed matrix is an *exact potential* (`shift_row`, `shift_col`);
consequences for an abstract leader map / predecessor map / reduction (`IsLeaderMap`, `IsPredMap`,
`IsReduction` of `ReduceProofsBase.lean`): the kept entries inside a class of size `s ≥ 2` form one cycle
(`bds_reduced_chain_out`, `bds_reduced_chain_in`), kept entries between two classes join leaders
(`bds_reduced_cross_class`).
-/
namespace PPLV.WR
open ExtRat (fin pinf)

namespace DBM
variable {n : Nat}

/-- the stored matrix with the diagonal overwritten by `0` -/
def z (c : DBM n) : Mat := Mat.diagDown (n+1) (fin 0) c.e

theorem z_ne (c : DBM n) {a b : Nat} (h : a ≠ b) : c.z a b = c.e a b := by
  unfold z; rw [Mat.diagDown_apply, if_neg (fun h' => h h'.1)]

theorem z_self (c : DBM n) {a : Nat} (h : a ≤ n) : c.z a a = fin 0 := by
  unfold z; rw [Mat.diagDown_apply, if_pos ⟨rfl, by omega⟩]

theorem IsClosed.closed {c : DBM n} (hc : c.IsClosed) : Closed (n+1) c.z := hc

theorem IsClosed.tri {c : DBM n} (hc : c.IsClosed) {i j : Nat} (k : Nat) (hi : i ≤ n) (hj : j ≤ n)
    (hk : k ≤ n) : c.z i j ≤ eadd (c.z i k) (c.z k j) :=
  hc.closed.tri i j k (by omega) (by omega) (by omega)

end DBM

/-! ## zero-equivalence -/

-- `ZEq.refl`, `ZEq.symm`, `ZEq.trans` come from `ReduceProofsCodeClosed.lean`: one declaration for both proof
-- families, so that `Props/C04Reduce.lean` can import the code-spec and the mathematics together.

variable {n : Nat}

/-- zero-equivalent indices: the two entries are finite and opposite -/
theorem DBM.zeq_fin (c : DBM n) {i j : Nat} (hi : i ≤ n) (h : ZEq c.e i j) :
    ∃ p, c.z i j = fin p ∧ c.z j i = fin (-p) := by
  by_cases hij : i = j
  · subst hij
    exact ⟨0, c.z_self hi, by rw [c.z_self hi, neg_zero]⟩
  · rcases h with h | h
    · exact absurd h hij
    · rw [c.z_ne hij, c.z_ne (Ne.symm hij)]
      cases h1 : c.e i j <;> cases h2 : c.e j i <;> rw [h1, h2] at h <;> simp [ExtRat.isAddInv] at h
      rename_i p q
      exact ⟨p, rfl, by congr 1; linarith⟩

/-- in a closed matrix a 2-cycle of weight `≤ 0` is a zero-equivalence -/
theorem DBM.zeq_of_le (c : DBM n) (hc : c.IsClosed) {i j : Nat} (hi : i ≤ n) (hj : j ≤ n)
    (h : eadd (c.z i j) (c.z j i) ≤ fin 0) : ZEq c.e i j := by
  by_cases hij : i = j
  · exact Or.inl hij
  · right
    have ht := hc.tri j hi hi hj
    rw [c.z_self hi] at ht
    rw [c.z_ne hij, c.z_ne (Ne.symm hij)] at h ht
    cases h1 : c.e i j <;> cases h2 : c.e j i <;> rw [h1, h2] at h ht <;>
      simp [eadd, ExtRat.addUp] at h ht
    simp only [ExtRat.isAddInv, decide_eq_true_eq]
    linarith

/-- exact potential, rows: moving the row index inside its class shifts the row by a constant -/
theorem DBM.shift_row (c : DBM n) (hc : c.IsClosed) {a a' b : Nat} (ha : a ≤ n) (ha' : a' ≤ n)
    (hb : b ≤ n) (h : ZEq c.e a a') : c.z a b = eadd (c.z a a') (c.z a' b) := by
  obtain ⟨p, h1, h2⟩ := c.zeq_fin ha h
  have t1 := hc.tri a' ha hb ha'
  have t2 := hc.tri a ha' hb ha
  rw [h1] at t1 ⊢
  rw [h2] at t2
  cases h3 : c.z a b <;> cases h4 : c.z a' b <;> rw [h3, h4] at t1 t2 <;>
    simp [eadd, ExtRat.addUp] at t1 t2 ⊢
  linarith

/-- exact potential, columns -/
theorem DBM.shift_col (c : DBM n) (hc : c.IsClosed) {a b b' : Nat} (ha : a ≤ n) (hb : b ≤ n)
    (hb' : b' ≤ n) (h : ZEq c.e b' b) : c.z a b = eadd (c.z a b') (c.z b' b) := by
  obtain ⟨p, h1, h2⟩ := c.zeq_fin hb' h
  have t1 := hc.tri b' ha hb hb'
  have t2 := hc.tri b ha hb' hb
  rw [h1] at t1 ⊢
  rw [h2] at t2
  cases h3 : c.z a b <;> cases h4 : c.z a b' <;> rw [h3, h4] at t1 t2 <;>
    simp [eadd, ExtRat.addUp] at t1 t2 ⊢
  linarith

/-! ## leader maps -/

section maps
variable (c : DBM n) (hc : c.IsClosed) (lead pred : Nat → Nat) (hl : IsLeaderMap n c.e lead)
  (hp : IsPredMap n c.e pred)
include hc hl

omit hc in
theorem lead_le_n {i : Nat} (hi : i ≤ n) : lead i ≤ n := le_trans (hl.le i hi) hi

theorem zeq_of_lead_eq {i j : Nat} (hi : i ≤ n) (hj : j ≤ n) (h : lead i = lead j) : ZEq c.e i j :=
  (hl.eq_iff hc i j hi hj).1 h

/-- two distinct leaders are not zero-equivalent -/
theorem leaders_eq_of_zeq {i j : Nat} (hi : i ≤ n) (hj : j ≤ n) (h1 : lead i = i) (h2 : lead j = j)
    (h : ZEq c.e i j) : i = j := by
  rw [← h1, ← h2]; exact (hl.eq_iff hc i j hi hj).2 h

/-- an entry is the sum of the entry between the leaders and the two potentials -/
theorem DBM.decomp {a b : Nat} (ha : a ≤ n) (hb : b ≤ n) :
    c.z a b = eadd (c.z a (lead a)) (eadd (c.z (lead a) (lead b)) (c.z (lead b) b)) := by
  have hla := lead_le_n c lead hl ha
  have hlb := lead_le_n c lead hl hb
  rw [c.shift_row hc ha hla hb (hl.zeq a ha).symm, c.shift_col hc hla hb hlb (hl.zeq b hb)]

omit hl in
/-- every class has a greatest element -/
theorem exists_greatest : ∀ (d i : Nat), i ≤ n → n - i ≤ d →
    ∃ g, i ≤ g ∧ g ≤ n ∧ ZEq c.e g i ∧ ∀ k, k ≤ n → g < k → ¬ ZEq c.e k g := by
  intro d
  induction d with
  | zero =>
    intro i hi hd
    refine ⟨i, le_rfl, hi, ZEq.refl _ _, fun k hk hik => ?_⟩
    omega
  | succ d ih =>
    intro i hi hd
    by_cases h : ∃ k, k ≤ n ∧ i < k ∧ ZEq c.e k i
    · obtain ⟨k, hk, hik, hz⟩ := h
      obtain ⟨g, h1, h2, h3, h4⟩ := ih k hk (by omega)
      exact ⟨g, by omega, h2, ZEq.trans hc h2 hk hi h3 hz, h4⟩
    · refine ⟨i, le_rfl, hi, ZEq.refl _ _, fun k hk hik hz => h ⟨k, hk, hik, hz⟩⟩

end maps

/-! ## the kept entries -/

section red
variable (c : DBM n) (hc : c.IsClosed) (lead pred : Nat → Nat) (hl : IsLeaderMap n c.e lead)
  (hp : IsPredMap n c.e pred) (red : BMat) (hr : IsReduction n c.e lead pred red)

set_option linter.unusedSectionVars false in
include hc hl hp hr in
/-- entries between different classes are kept only among leaders -/
theorem bds_reduced_cross_class (i j : Nat) (hi : i ≤ n) (hj : j ≤ n) (h : red i j = false)
    (hne : ¬ ZEq c.e i j) : lead i = i ∧ lead j = j := by
  rcases (hr.spec i j hi hj).1 h with h | h | h
  · exact ⟨h.1, h.2.1⟩
  · exfalso
    have := hp.zeq j hj
    rw [h.2] at this
    exact hne this
  · exfalso
    have := hl.zeq i hi
    rw [h.2.1] at this
    exact hne this.symm

include hc hl hr in
/-- the entries kept inside a class: the upward chain and the closing edge -/
theorem kept_in_class {i j : Nat} (hi : i ≤ n) (hj : j ≤ n) (hne : i ≠ j) (hz : ZEq c.e i j) :
    red i j = false ↔ (i < j ∧ pred j = i) ∨ (j < i ∧ lead i = j ∧ ∀ k, k ≤ n → i < k → ¬ ZEq c.e k i) := by
  rw [hr.spec i j hi hj]
  constructor
  · rintro (h | h | h)
    · exact absurd (leaders_eq_of_zeq c hc lead hl hi hj h.1 h.2.1 hz) hne
    · exact Or.inl h
    · exact Or.inr h
  · rintro (h | h)
    · exact Or.inr (Or.inl h)
    · exact Or.inr (Or.inr h)

include hp in
/-- a non-least element of a class has a proper predecessor -/
theorem pred_lt {i j : Nat} (hi : i ≤ n) (hji : j < i) (hz : ZEq c.e j i) : pred i < i := by
  have h1 := hp.le i hi
  have h2 : pred i ≠ i := fun h => hp.self i j hi h hji hz
  omega

include hp in
theorem le_pred {i j : Nat} (hi : i ≤ n) (hji : j < i) (hz : ZEq c.e j i) : j ≤ pred i := by
  by_contra h
  exact hp.greatest i j hi (by omega) hji hz

include hc hl hp hr in
/-- an element of a non-singleton class has exactly one kept outgoing entry inside its class -/
theorem bds_reduced_chain_out (i : Nat) (hi : i ≤ n) (hns : ∃ j, j ≤ n ∧ j ≠ i ∧ ZEq c.e i j) :
    ∃! j, j ≤ n ∧ j ≠ i ∧ ZEq c.e i j ∧ red i j = false := by
  by_cases hg : ∃ k, i < k ∧ k ≤ n ∧ ZEq c.e k i
  · -- the successor of `i` in its class
    classical
    let k0 := Nat.find hg
    obtain ⟨h1, h2, h3⟩ : i < k0 ∧ k0 ≤ n ∧ ZEq c.e k0 i := Nat.find_spec hg
    have hmin : ∀ m, m < k0 → ¬ (i < m ∧ m ≤ n ∧ ZEq c.e m i) := fun m hm => Nat.find_min hg hm
    have hpl := pred_lt c pred hp h2 h1 h3.symm
    have hle := le_pred c pred hp h2 h1 h3.symm
    have hpk : pred k0 = i := by
      by_contra hne
      have hlt : i < pred k0 := by omega
      refine hmin (pred k0) hpl ⟨hlt, by omega, ?_⟩
      exact ZEq.trans hc (by omega) h2 hi (hp.zeq k0 h2) h3
    refine ⟨k0, ⟨h2, by omega, h3.symm, ?_⟩, ?_⟩
    · exact (kept_in_class c hc lead pred hl red hr hi h2 (by omega) h3.symm).2 (Or.inl ⟨h1, hpk⟩)
    · rintro y ⟨hy, hyi, hyz, hyr⟩
      rcases (kept_in_class c hc lead pred hl red hr hi hy (Ne.symm hyi) hyz).1 hyr with h | h
      · by_contra hne
        rcases Nat.lt_or_gt_of_ne hne with hlt | hgt
        · exact hmin y hlt ⟨h.1, hy, hyz.symm⟩
        · refine hp.greatest y k0 hy (by omega) hgt ?_
          exact ZEq.trans hc h2 hi hy h3 hyz
      · exact absurd h3 (h.2.2 k0 h2 h1)
  · -- `i` is the greatest element: the closing edge
    have hgr : ∀ k, k ≤ n → i < k → ¬ ZEq c.e k i := fun k hk hik hz => hg ⟨k, hik, hk, hz⟩
    have hli : lead i < i := by
      obtain ⟨j, hj, hji, hjz⟩ := hns
      have h1 := hl.least i j hi hj hjz.symm
      have h2 := hl.le i hi
      rcases Nat.lt_or_gt_of_ne hji with h | h
      · omega
      · exact absurd hjz.symm (hgr j hj h)
    have hln := lead_le_n c lead hl hi
    refine ⟨lead i, ⟨hln, by omega, (hl.zeq i hi).symm, ?_⟩, ?_⟩
    · exact (kept_in_class c hc lead pred hl red hr hi hln (by omega) (hl.zeq i hi).symm).2
        (Or.inr ⟨hli, rfl, hgr⟩)
    · rintro y ⟨hy, hyi, hyz, hyr⟩
      rcases (kept_in_class c hc lead pred hl red hr hi hy (Ne.symm hyi) hyz).1 hyr with h | h
      · exact absurd hyz.symm (hgr y hy h.1)
      · exact h.2.1.symm

include hc hl hp hr in
/-- an element of a non-singleton class has exactly one kept incoming entry inside its class -/
theorem bds_reduced_chain_in (i : Nat) (hi : i ≤ n) (hns : ∃ j, j ≤ n ∧ j ≠ i ∧ ZEq c.e i j) :
    ∃! j, j ≤ n ∧ j ≠ i ∧ ZEq c.e i j ∧ red j i = false := by
  by_cases hlead : lead i = i
  · -- a leader: the closing edge from the greatest element of the class
    obtain ⟨g, h1, h2, h3, h4⟩ := exists_greatest c hc (n - i) i hi le_rfl
    have hgi : g ≠ i := by
      rintro rfl
      obtain ⟨j, hj, hji, hjz⟩ := hns
      have := hl.least g j hi hj hjz.symm
      rcases Nat.lt_or_gt_of_ne hji with h | h
      · omega
      · exact h4 j hj h hjz.symm
    have hlg : lead g = i := by rw [(hl.eq_iff hc _ _ h2 hi).2 h3, hlead]
    refine ⟨g, ⟨h2, hgi, h3.symm, ?_⟩, ?_⟩
    · exact (kept_in_class c hc lead pred hl red hr h2 hi hgi h3).2 (Or.inr ⟨by omega, hlg, h4⟩)
    · rintro y ⟨hy, hyi, hyz, hyr⟩
      rcases (kept_in_class c hc lead pred hl red hr hy hi hyi hyz.symm).1 hyr with h | h
      · have := hl.least i y hi hy hyz.symm
        omega
      · by_contra hne
        have hyg : ZEq c.e y g := ZEq.trans hc hy hi h2 hyz.symm h3.symm
        rcases Nat.lt_or_gt_of_ne hne with hlt | hgt
        · exact h.2.2 g h2 hlt hyg.symm
        · exact h4 y hy hgt hyg
  · -- a non-leader: the chain edge from its predecessor
    have hli : lead i < i := by have := hl.le i hi; omega
    have hpl := pred_lt c pred hp hi hli (hl.zeq i hi)
    have hpn : pred i ≤ n := by omega
    refine ⟨pred i, ⟨hpn, by omega, (hp.zeq i hi).symm, ?_⟩, ?_⟩
    · exact (kept_in_class c hc lead pred hl red hr hpn hi (by omega) (hp.zeq i hi)).2 (Or.inl ⟨hpl, rfl⟩)
    · rintro y ⟨hy, hyi, hyz, hyr⟩
      rcases (kept_in_class c hc lead pred hl red hr hy hi hyi hyz.symm).1 hyr with h | h
      · exact h.2.symm
      · exfalso
        apply hlead
        rw [← h.2.1]
        exact hl.lead_lead hc _ hy

end red
end PPLV.WR

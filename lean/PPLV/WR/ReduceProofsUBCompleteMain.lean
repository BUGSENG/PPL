import PPLV.WR.ReduceProofsUBCompleteJoin
import PPLV.WR.ReduceProofsUBCompleteEdge
/-!
# `BD_Shape::BHZ09_upper_bound_assign_if_exact`: when the test answers `false` the union is not a shape

`x`, `y` non-empty closed matrices over `ℚ`, arbitrary bit matrices.  The answer `false` exhibits
`(i, j, k, ℓ)` with `x_ij < y_ij`, `y_kℓ < x_kℓ` and `x_ij + y_kℓ < ub_iℓ + ub_kj` (diagonal of the join read
as `0`).  For a small `ε > 0` the join `U` (closed: `DBM.join_isClosed`) tightened by
`p_j - p_i ≥ x_ij + ε` and `p_ℓ - p_k ≥ y_kℓ + ε` is still closed (`Closed.addEdge` twice: the first edge is
compatible because `x_ij + ε ≤ U_ij`, the second because `y_kℓ + ε ≤ U_kℓ` and
`x_ij + y_kℓ + 2ε ≤ U_iℓ + U_kj`), hence has a point: a point of the join outside both operands
(`bdsBHZ09_witness`).  As a union that is a bounded-difference shape is the join (`DBM.join_of_union_eq`), the
union is not a bounded-difference shape (`bdsBHZ09_complete`).
-/
namespace PPLV.WR
open ExtRat (fin pinf)

/-- the tuple at which the four nested loops return `false` (whatever the redundancy bits are) -/
theorem bdsBHZ09_false_tuple (n : Nat) (x y : Mat) (xr yr : BMat)
    (ht : bdsBHZ09 upId n x y xr yr = false) :
    ∃ i j k l, i ≤ n ∧ j ≤ n ∧ k ≤ n ∧ l ≤ n ∧
      ExtRat.ltB (x i j) (y i j) = true ∧ ExtRat.ltB (y k l) (x k l) = true ∧
      ExtRat.ltB (eadd (x i j) (y k l))
        (eadd (if i = l then fin 0 else matMax x y i l) (if k = j then fin 0 else matMax x y k j)) = true := by
  unfold bdsBHZ09 at ht
  simp only [List.all_eq_false, List.mem_reverse, List.mem_range, Bool.or_eq_true, not_or,
    Bool.not_eq_true', Bool.not_eq_true, Bool.not_eq_false] at ht
  obtain ⟨i, hi, j, hj, ⟨_, h1⟩, k, hk, l, hl, ⟨_, h2⟩, h3⟩ := ht
  exact ⟨i, j, k, l, by omega, by omega, by omega, by omega, h1, h2, h3⟩

/-- a strict bound leaves room -/
theorem ExtRat.exists_gap {e : ExtRat} {q : Rat} (h : ¬ (e ≤ fin q)) : ∃ g : Rat, 0 < g ∧ fin (q + g) ≤ e := by
  cases e with
  | pinf => exact ⟨1, one_pos, ExtRat.le_pinf _⟩
  | fin u =>
    rw [ExtRat.fin_le_fin, not_le] at h
    exact ⟨u - q, by linarith, by rw [ExtRat.fin_le_fin]; linarith⟩

/-- finitely many strict bounds leave a common room -/
theorem ExtRat.exists_margin (l : List (ExtRat × Rat)) (h : ∀ p ∈ l, ¬ (p.1 ≤ fin p.2)) :
    ∃ ε : Rat, 0 < ε ∧ ∀ p ∈ l, fin (p.2 + ε) ≤ p.1 := by
  induction l with
  | nil => exact ⟨1, one_pos, nofun⟩
  | cons p l ih =>
    obtain ⟨ε, hε, H⟩ := ih fun q hq => h q (List.mem_cons_of_mem _ hq)
    obtain ⟨g, hg, G⟩ := ExtRat.exists_gap (h p List.mem_cons_self)
    refine ⟨min g ε, lt_min hg hε, fun q hq => ?_⟩
    rcases List.mem_cons.1 hq with rfl | hq
    · exact ExtRat.fin_le_of_le (add_le_add_right (min_le_left g ε) _) G
    · exact ExtRat.fin_le_of_le (add_le_add_right (min_le_right g ε) _) (H q hq)

theorem ExtRat.fin_of_not_le {a b : ExtRat} (h : ¬ (b ≤ a)) : ∃ q, a = fin q := by
  cases a with
  | fin q => exact ⟨q, rfl⟩
  | pinf => exact absurd (ExtRat.le_pinf b) h

/-- the reads `if i = l then 0 else ub[i][l]` of the code are the entries of the join with zero diagonal -/
theorem DBM.join_z_read {n : Nat} (x y : DBM n) {i l : Nat} (hi : i ≤ n) :
    (if i = l then fin 0 else matMax x.e y.e i l) = (DBM.join x y).z i l := by
  split
  · rename_i e; rw [← e, DBM.z_self _ hi]
  · rename_i e; rw [DBM.z_ne _ e]; rfl

/-- **the answer `false` exhibits a point of the join outside both operands** -/
theorem bdsBHZ09_witness {n : Nat} (x y : DBM n) (hx : x.IsClosed) (hy : y.IsClosed) (xr yr : BMat)
    (ht : bdsBHZ09 upId n x.e y.e xr yr = false) :
    ∃ p, p ∈ DBM.γ (DBM.join x y) ∧ p ∉ DBM.γ x ∧ p ∉ DBM.γ y := by
  obtain ⟨i, j, k, l, hi, hj, hk, hl, h1, h2, h3⟩ := bdsBHZ09_false_tuple n x.e y.e xr yr ht
  obtain ⟨a, hxa⟩ := ExtRat.fin_of_not_le ((ExtRat.ltB_iff _ _).1 h1)
  obtain ⟨b, hyb⟩ := ExtRat.fin_of_not_le ((ExtRat.ltB_iff _ _).1 h2)
  have hij : i ≠ j := by
    rintro rfl
    rw [x.diag i hi] at hxa
    exact ExtRat.noConfusion hxa
  have hkl : k ≠ l := by
    rintro rfl
    rw [y.diag k hk] at hyb
    exact ExtRat.noConfusion hyb
  have hJ : Closed (n+1) (DBM.join x y).z := (DBM.join_isClosed hx hy).closed
  -- the three strict inequalities, read on the join with zero diagonal
  rw [DBM.join_z_read x y hi, DBM.join_z_read x y hk, ExtRat.ltB_iff, hxa, hyb] at h3
  rw [ExtRat.ltB_iff, hxa] at h1
  rw [ExtRat.ltB_iff, hyb] at h2
  have h1' : ¬ ((DBM.join x y).z i j ≤ fin a) := fun h =>
    h1 (ExtRat.le_trans' (by rw [DBM.z_ne _ hij, DBM.join_apply]; exact ExtRat.le_maxA_right _ _) h)
  have h2' : ¬ ((DBM.join x y).z k l ≤ fin b) := fun h =>
    h2 (ExtRat.le_trans' (by rw [DBM.z_ne _ hkl, DBM.join_apply]; exact ExtRat.le_maxA_left _ _) h)
  have h3' : ¬ (eadd ((DBM.join x y).z i l) ((DBM.join x y).z k j) ≤ fin (a + b)) := h3
  -- the margin
  obtain ⟨ε, εpos, f1, f2, f3⟩ : ∃ ε : Rat, 0 < ε ∧ fin (a + ε) ≤ (DBM.join x y).z i j ∧
      fin (b + ε) ≤ (DBM.join x y).z k l ∧
      fin (a + b + 2 * ε) ≤ eadd ((DBM.join x y).z i l) ((DBM.join x y).z k j) := by
    obtain ⟨ε, hε, H⟩ := ExtRat.exists_margin [(_, a), (_, b), (_, a + b)]
      (List.forall_mem_cons.2 ⟨h1', List.forall_mem_cons.2 ⟨h2', List.forall_mem_cons.2 ⟨h3', nofun⟩⟩⟩)
    have m1 := H _ List.mem_cons_self
    have m2 := H _ (.tail _ List.mem_cons_self)
    have m3 := H _ (.tail _ (.tail _ List.mem_cons_self))
    have k : ∀ c : Rat, c + ε / 2 ≤ c + ε := fun c => by linarith only [hε]
    exact ⟨ε / 2, div_pos hε two_pos, ExtRat.fin_le_of_le (k a) m1, ExtRat.fin_le_of_le (k b) m2,
      ExtRat.fin_le_of_le (by linarith only [hε]) m3⟩
  -- first edge: `p_i - p_j ≤ -(a + ε)`
  have hc1 : Closed (n+1) ((DBM.join x y).z.addEdge j i (-(a + ε))) :=
    hJ.addEdge (by omega) (by omega) _ (fin_zero_le_eadd_neg f1)
  -- second edge: `p_k - p_l ≤ -(b + ε)`
  have f4 : fin (b + ε) ≤ ((DBM.join x y).z.addEdge j i (-(a + ε))) k l :=
    ExtRat.le_minA f2 (fin_le_path (by rwa [show b + ε + (a + ε) = a + b + 2 * ε by ring]))
  have hc2 : Closed (n+1) (((DBM.join x y).z.addEdge j i (-(a + ε))).addEdge l k (-(b + ε))) :=
    hc1.addEdge (by omega) (by omega) _ (fin_zero_le_eadd_neg f4)
  obtain ⟨q, hq⟩ := hc2.nonempty
  -- the potential satisfies the join and the two edges
  have q2 : fin (q k - q l) ≤ fin (-(b + ε)) :=
    ExtRat.le_trans' (hq l k ⟨by omega, by omega⟩) (hc1.addEdge_edge (by omega) (by omega) _)
  have q1 : fin (q i - q j) ≤ fin (-(a + ε)) :=
    ExtRat.le_trans' (hq j i ⟨by omega, by omega⟩)
      (ExtRat.le_trans' (Mat.addEdge_le _ _ _ _ _ _) (hJ.addEdge_edge (by omega) (by omega) _))
  have qJ : Holds (SB (n+1)) q (DBM.join x y).z := fun u v huv =>
    ExtRat.le_trans' (hq u v huv)
      (ExtRat.le_trans' (Mat.addEdge_le _ _ _ _ _ _) (Mat.addEdge_le _ _ _ _ _ _))
  rw [ExtRat.fin_le_fin] at q1 q2
  obtain ⟨p, hp, hv⟩ := (DBM.join x y).point_of_z qJ
  refine ⟨p, hp, fun hpx => ?_, fun hpy => ?_⟩
  · have := hpx i j hi hj
    rw [hv, hv, hxa, ExtRat.fin_le_fin] at this
    linarith only [this, q1, εpos]
  · have := hpy k l hk hl
    rw [hv, hv, hyb, ExtRat.fin_le_fin] at this
    linarith only [this, q2, εpos]

/-- **`BHZ09_upper_bound_assign_if_exact`, completeness of the answer `false`**: the join has a point outside
both operands, and the union of the two shapes is not a bounded-difference shape -/
theorem bdsBHZ09_complete {n : Nat} (x y : DBM n) (hx : x.IsClosed) (hy : y.IsClosed) (xr yr : BMat)
    (ht : bdsBHZ09 upId n x.e y.e xr yr = false) :
    (∃ p, p ∈ DBM.γ (DBM.join x y) ∧ p ∉ DBM.γ x ∧ p ∉ DBM.γ y) ∧
    ¬ ∃ Q : DBM n, DBM.γ Q = DBM.γ x ∪ DBM.γ y :=
  have hw := bdsBHZ09_witness x y hx hy xr yr ht
  ⟨hw, fun ⟨Q, hQ⟩ => ne_union_of_witness hw (DBM.join_of_union_eq hx hy Q hQ)⟩

/-- the test decides exactness of the join: with the fresh redundancy matrices of the two (closed, non-empty)
operands, the answer is `true` iff the join is the union -/
theorem bdsBHZ09_iff {n : Nat} (x y : DBM n) (hx : x.IsClosed) (hy : y.IsClosed) (xr yr : BMat)
    (hxr : bdsShortestPathReduction upId n x.e = some xr) (hyr : bdsShortestPathReduction upId n y.e = some yr) :
    bdsBHZ09 upId n x.e y.e xr yr = true ↔ DBM.γ (DBM.join x y) = DBM.γ x ∪ DBM.γ y :=
  exact_iff_of_witness (bdsBHZ09_sound x y hx hy xr yr hxr hyr) (bdsBHZ09_witness x y hx hy xr yr)

end PPLV.WR

import PPLV.WR.Trans2LatProofsFold
import PPLV.WR.ClosureProofsFW
/-!
# Exact arithmetic: `upper_bound_assign` computes the least bounded-difference shape,
`remove_higher_space_dimensions` the exact projection
-/
namespace PPLV.WR
open ExtRat

/-- the meaning of the shortest-path-closed flag in exact arithmetic: the shape has a point and the
matrix is the least one of its shape (off the diagonal) -/
def bdsLatCanon (n : Nat) (m : Mat) : Prop :=
  (∃ q, q ∈ γB n m) ∧
    ∀ d : Mat, γB n m ⊆ γB n d → ∀ i j, i ≤ n → j ≤ n → i ≠ j → m i j ≤ d i j

theorem latExactUp : Rnd.exact.up = upId := rfl

theorem latOfMat_e {n : Nat} {m : Mat} (hd : bdsLatDiag n m) (i j : Nat) (hi : i ≤ n) (hj : j ≤ n) :
    (DBM.ofMat n m).e i j = m i j := by
  show Mat.diagDown (n+1) pinf m i j = m i j
  rw [Mat.diagDown_apply]
  split
  · rename_i hc; obtain ⟨rfl, _⟩ := hc; rw [hd i hi]
  · rfl

theorem latOfMat_sat {n : Nat} {m : Mat} (hd : bdsLatDiag n m) (x : Nat → Rat) :
    (DBM.ofMat n m).Sat x ↔ x ∈ γB n m := by
  constructor
  · intro h a b hab
    have := h a b (by have := hab.1; omega) (by have := hab.2; omega)
    rw [latOfMat_e hd a b (by have := hab.1; omega) (by have := hab.2; omega)] at this
    exact this
  · intro h a b ha hb
    rw [latOfMat_e hd a b ha hb]
    exact h a b ⟨by omega, by omega⟩

/-- in exact arithmetic, on a shape of positive dimension, the closure leaves the canonical matrix with the flag set;
a flag that is set beforehand has to mean what it says -/
theorem bdsLatClose_canon {n : Nat} (hn : n ≠ 0) {c : Bool} {m : Mat} (hc : c = true → bdsLatCanon n m)
    {m' : Mat} {c' : Bool} (h : bdsLatClose upId n c m = some (m', c')) : bdsLatCanon n m' ∧ c' = true := by
  rcases bdsLatClose_cases h with ⟨hc0 | hn0, rfl, rfl⟩ | ⟨_, _, hne', rfl, rfl⟩
  · exact ⟨hc hc0, hc0⟩
  · exact absurd hn0 hn
  · refine ⟨?_, rfl⟩
    have hsound : ∀ x, (DBM.ofMat n m).Sat x → x ∈ γB n (DBM.closure upId (DBM.ofMat n m)).e := by
      intro x hx
      exact (DBM.sat_iff_holds _ x).1 (DBM.closure_sat (up := upId) (fun _ => le_rfl' _) _ x hx)
    constructor
    · obtain ⟨x, hx⟩ := DBM.closure_nonempty (DBM.ofMat n m) hne'
      exact ⟨x, hsound x hx⟩
    · intro d hsub i j hi hj hij
      have ht := DBM.closure_tight (DBM.ofMat n m) hne' hi hj hij
      cases hv : d i j with
      | pinf => exact le_pinf _
      | fin u =>
        cases hw : (DBM.closure upId (DBM.ofMat n m)).e i j with
        | fin w =>
          obtain ⟨x, hx, hdiff⟩ := ht.1 w hw
          have := hsub (hsound x hx) i j ⟨by omega, by omega⟩
          rw [hv, hdiff] at this
          exact this
        | pinf =>
          obtain ⟨x, hx, hdiff⟩ := ht.2 hw (u + 1)
          have := hsub (hsound x hx) i j ⟨by omega, by omega⟩
          rw [hv, fin_le_fin] at this
          linarith

/-- the closed matrix denotes the same set (exact arithmetic, class invariant) -/
theorem bdsLatClose_gamma {n : Nat} {c : Bool} {m : Mat} (hd : bdsLatDiag n m) {m' : Mat} {c' : Bool}
    (h : bdsLatClose upId n c m = some (m', c')) : γB n m' = γB n m := by
  ext x
  constructor
  · exact fun hx => bdsLatClose_sub (up := upId) (fun _ => le_rfl' _) hd h hx
  · intro hx
    obtain ⟨m'', c'', e, hx'⟩ := bdsLatClose_sound (up := upId) (fun _ => le_rfl' _) n c m hx
    rw [h] at e
    simp only [Option.some.injEq, Prod.mk.injEq] at e
    rw [e.1]; exact hx'

theorem bdsLatCanon_le {n : Nat} {m d : Mat} (hc : bdsLatCanon n m) (hsub : γB n m ⊆ γB n d)
    (i j : Nat) (hi : i ≤ n) (hj : j ≤ n) : m i j ≤ d i j ∨ (i = j ∧ fin 0 ≤ d i j) := by
  by_cases hij : i = j
  · right
    obtain ⟨q, hq⟩ := hc.1
    have := hsub hq i j ⟨by omega, by omega⟩
    rw [hij] at this ⊢
    simpa using this
  · left; exact hc.2 d hsub i j hi hj hij

/-- `upper_bound_assign`, exact arithmetic: the result is below every shape that contains both
arguments.  A set closed flag must mean what it says (`bdsLatCanon`); with the flags clear there is no
hypothesis. -/
theorem bdsLatUpperBound_least (n : Nat) (c1 c2 : Bool) (m1 m2 : Mat) (hd1 : bdsLatDiag n m1)
    (hd2 : bdsLatDiag n m2) (hc1 : c1 = true → bdsLatCanon n m1) (hc2 : c2 = true → bdsLatCanon n m2) :
    ∃ r, bdsLatUpperBound Rnd.exact n c1 m1 c2 m2 = some r ∧ r.dim = n ∧
      ∀ d : Mat, γB n m1 ⊆ γB n d → γB n m2 ⊆ γB n d → γB n r.m ⊆ γB n d := by
  unfold bdsLatUpperBound
  rw [latExactUp]
  cases e2 : bdsLatClose upId n c2 m2 with
  | none => exact ⟨_, rfl, rfl, fun d h1 _ => h1⟩
  | some yc =>
    obtain ⟨y, cy⟩ := yc
    have gy := bdsLatClose_gamma hd2 e2
    cases e1 : bdsLatClose upId n c1 m1 with
    | none =>
      refine ⟨_, rfl, rfl, fun d _ h2 => ?_⟩
      show γB n y ⊆ γB n d
      rw [gy]; exact h2
    | some xc =>
      obtain ⟨x, cx⟩ := xc
      have gx := bdsLatClose_gamma hd1 e1
      refine ⟨_, rfl, rfl, fun d h1 h2 => ?_⟩
      show γB n (bdsLatUpperBoundLoop n x y) ⊆ γB n d
      by_cases hn : n = 0
      · subst hn
        intro p hp
        apply h1
        intro a b hab
        have ha : a = 0 := by have := hab.1; omega
        have hb : b = 0 := by have := hab.2; omega
        subst ha; subst hb
        rw [hd1 0 (le_refl _)]; exact le_pinf _
      · have cx' := (bdsLatClose_canon hn hc1 e1).1
        have cy' := (bdsLatClose_canon hn hc2 e2).1
        intro p hp a b hab
        have ha : a ≤ n := by have := hab.1; omega
        have hb : b ≤ n := by have := hab.2; omega
        have hpab := hp a b hab
        rw [bdsLatUpperBoundLoop_apply, if_pos ⟨hab.1, hab.2⟩] at hpab
        rcases bdsLatCanon_le (d := d) cx' (by rw [gx]; exact h1) a b ha hb with hx1 | ⟨hab', h0⟩
        · rcases bdsLatCanon_le (d := d) cy' (by rw [gy]; exact h2) a b ha hb with hy1 | ⟨hab', h0⟩
          · exact le_trans' hpab (latMaxA_le hx1 hy1)
          · rw [hab'] at h0 ⊢; simpa using h0
        · rw [hab'] at h0 ⊢; simpa using h0

/-! ## `remove_higher_space_dimensions`: exact projection -/

/-- a point of the leading `(k+1) × (k+1)` block of a closed matrix extends to a point of the matrix -/
theorem latClosed_extend {n k : Nat} (hk : k ≤ n) {core : Mat} (hc : Closed (n + 1) core) {z : Nat → Rat}
    (hz : ∀ a b, a ≤ k → b ≤ k → a ≠ b → fin (DBM.val z b - DBM.val z a) ≤ core a b) :
    ∃ x : Nat → Rat, (∀ a b, a ≤ n → b ≤ n → fin (DBM.val x b - DBM.val x a) ≤ core a b) ∧
      ∀ i, i < k → x i = z i := by
  have hA : Among (List.range (k + 1)) (DBM.val z) core := by
    intro i hi j hj
    have hi' := List.mem_range.1 hi
    have hj' := List.mem_range.1 hj
    by_cases hij : i = j
    · subst hij; rw [hc.diag i (by omega)]; simp
    · exact hz i j (by omega) (by omega) hij
  obtain ⟨p, hp1, hp2⟩ := extend_all hc (List.range (k + 1)) (by
    intro i hi; have := List.mem_range.1 hi; omega) (DBM.val z) hA (n + 1) (le_refl _)
  have hH := holds_of_among hp2
  have hp0 : p 0 = 0 := by rw [hp1 0 (List.mem_range.2 (by omega))]; rfl
  refine ⟨fun i => p (i + 1), ?_, ?_⟩
  · have hv : ∀ a, DBM.val (fun i => p (i + 1)) a = p a := by
      intro a; cases a with
      | zero => simp [DBM.val, hp0]
      | succ a => rfl
    intro a b ha hb
    rw [hv, hv]
    exact hH a b ⟨by omega, by omega⟩
  · intro i hi
    show p (i + 1) = z i
    rw [hp1 (i + 1) (List.mem_range.2 (by omega))]; rfl

/-- a point that satisfies the closed core of `m` is a point of `m` (class invariant) -/
theorem latCore_sub {n : Nat} {m : Mat} (hd : bdsLatDiag n m) {x : Nat → Rat}
    (hx : ∀ a b, a ≤ n → b ≤ n → fin (DBM.val x b - DBM.val x a) ≤ bdsCore fin (n + 1) (DBM.ofMat n m).e a b) :
    x ∈ γB n m := by
  intro a b hab
  have ha : a ≤ n := by have := hab.1; omega
  have hb : b ≤ n := by have := hab.2; omega
  by_cases h : a = b
  · subst h; rw [hd a ha]; exact le_pinf _
  · have h1 := DBM.closure_le (up := upId) (fun _ => le_rfl' _) (DBM.ofMat n m) a b ha hb
    rw [DBM.closure_offdiag _ h, latOfMat_e hd a b ha hb] at h1
    exact le_trans' (hx a b ha hb) h1

/-- `remove_higher_space_dimensions(newDim)`, exact arithmetic, closure run inside: every point of the
result is the restriction of a point of the shape; an empty result means an empty shape -/
theorem bdsLatRemoveHigher_exact (n : Nat) (m : Mat) (hd : bdsLatDiag n m) (newDim : Nat) (hnd : newDim < n) :
    match bdsLatRemoveHigher Rnd.exact n false m newDim with
    | none => γB n m = ∅
    | some r => r.dim = newDim ∧
        ∀ z, z ∈ γB newDim r.m → ∃ x, x ∈ γB n m ∧ ∀ i, i < newDim → x i = z i := by
  unfold bdsLatRemoveHigher
  rw [if_neg (by omega), latExactUp]
  cases e : bdsLatClose upId n false m with
  | none =>
    exact bdsLatClose_none (up := upId) (fun _ => le_rfl' _) e
  | some mc =>
    obtain ⟨m', c'⟩ := mc
    dsimp only
    refine ⟨rfl, ?_⟩
    intro z hz
    obtain ⟨hne', rfl⟩ := bdsLatClose_ran (by omega : n ≠ 0) e
    obtain ⟨x, hx1, hx2⟩ := latClosed_extend (Nat.le_of_lt hnd) (DBM.closure_core_closed (DBM.ofMat n m) hne')
      (z := z) (by
        intro a b ha hb hab
        have := hz a b ⟨by omega, by omega⟩
        rw [DBM.closure_offdiag _ hab] at this
        exact this)
    exact ⟨x, latCore_sub hd hx1, hx2⟩

end PPLV.WR

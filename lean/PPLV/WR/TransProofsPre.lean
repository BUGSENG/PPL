import PPLV.WR.TransProofsBndDim
/-!
# `refine(var, relsym, expr, den)`, `affine_preimage`, `generalized_affine_preimage(var, …)`
-/
namespace PPLV.WR
open ExtRat

theorem addDbmF_fst (mf : Mat × Bool) (i j : Nat) (k : ExtRat) :
    (addDbmF mf i j k).1 = addDbmConstraint mf.1 i j k := by
  unfold addDbmF addDbmConstraint
  split <;> rfl

theorem holds_self_upd {n var : Nat} {x : Nat → Rat} {m : Mat} (hx : Holds (SB (n+1)) (DBM.val x) m) :
    Holds (SB (n+1)) (DBM.val (upd x var (x var))) m := by rw [upd_self]; exact hx

/-- the general case of `refineVar` for `EQUAL`, `LESS_OR_EQUAL` (`refGenLe`) and `GREATER_OR_EQUAL` (`refGenGe`)
with the sign-corrected data as parameters -/
def refGenEq (R : Rnd) (v w : Nat) (sc : Nat → Int) (scb mscb scd : Int) (m : Mat) : Mat × Bool :=
  let pn := loopUp w (fun i (pq : Acc × Acc) => (accStepA R m sc true i pq.1, accStepA R m sc false i pq.2))
    (⟨R.up (scb : Rat), 0, 0⟩, ⟨R.up (mscb : Rat), 0, 0⟩)
  if pn.1.cnt > 1 ∧ pn.2.cnt > 1 then (m, true)
  else (exploitLower R v w sc scd pn.2 (exploitUpper R v w sc scd pn.1 m), false)

def refGenLe (R : Rnd) (v w : Nat) (e : Nat → Int) (den : Int) (sc : Nat → Int) (scb scd : Int) (m : Mat) :
    Mat × Bool :=
  let st := loopUp w (accStepG R m sc true) ⟨R.up (scb : Rat), 0, 0⟩
  let sum := if scd ≠ 1 then divRoundUpByPositive R st.sum scd else st.sum
  if st.cnt = 0 then
    let mf := addDbmF (m, true) 0 v sum
    (deduceVMinusU R.up v w sc scd sum mf.1, mf.2)
  else if st.cnt = 1 then
    if e (st.idx - 1) = den then addDbmF (m, true) st.idx v sum else (m, true)
  else (m, true)

def refGenGe (R : Rnd) (v w : Nat) (e : Nat → Int) (den : Int) (sc : Nat → Int) (mscb scd : Int) (m : Mat) :
    Mat × Bool :=
  let st := loopUp w (accStepG R m sc false) ⟨R.up (mscb : Rat), 0, 0⟩
  let sum := if scd ≠ 1 then divRoundUpByPositive R st.sum scd else st.sum
  if st.cnt = 0 then
    let mf := addDbmF (m, true) v 0 sum
    (deduceUMinusV R.up v w sc scd sum mf.1, mf.2)
  else if st.cnt = 1 then
    if st.idx ≠ v ∧ e (st.idx - 1) = den then addDbmF (m, true) v st.idx sum else (m, true)
  else (m, true)

section
variable {R : Rnd} {n var w : Nat} {sc : Nat → Int} {scb mscb scd : Int} {m : Mat} {x : Nat → Rat}

theorem refGenEq_sound (hR : R.Sound) (hw : w ≤ n) (hc : CoeffExact R sc) (hm : (mscb : Rat) = -(scb : Rat))
    (hd : 0 < scd) (hx : Holds (SB (n+1)) (DBM.val x) m)
    (hval : x var = (linEval sc x w + (scb : Rat)) / (scd : Rat)) :
    Holds (SB (n+1)) (DBM.val x) (refGenEq R (var+1) w sc scb mscb scd m).1 := by
  unfold refGenEq
  dsimp only
  rw [loopUp_prod, accStepA_false]
  have hpos := accLoopA_inv hR hc _ (AccInv.init hR m w sc (scb : Rat)) _ le_rfl
  have hneg := accLoopA_inv hR hc.neg _ (AccInv.init_eq hR m w (fun i => - sc i) hm.symm) _ le_rfl
  split
  · exact hx
  · dsimp only
    have h1 := exploitUpper_holds hR hw hd hx (le_of_eq hval) (holds_self_upd hx) (unaryEq_refl _ m) hpos
    have h2 := exploitLower_holds hR hw hd hx (le_of_eq hval.symm) h1
      ((unaryEq_refl _ m).of_eqOff (eqOff_exploitUpper.mono fun _ _ => .inr)) hneg
    rw [upd_self] at h2
    exact h2

theorem refGenLe_sound (hR : R.Sound) (hw : w ≤ n) {e : Nat → Int} {den : Int} (hc : CoeffExact R sc)
    (hd : 0 < scd) (hsc : ∀ p, e p = den → sc p = scd) (hsv : sc var = 0)
    (hx : Holds (SB (n+1)) (DBM.val x) m)
    (hval : x var ≤ (linEval sc x w + (scb : Rat)) / (scd : Rat)) :
    Holds (SB (n+1)) (DBM.val x) (refGenLe R (var+1) w e den sc scb scd m).1 := by
  unfold refGenLe
  dsimp only
  have hst := accLoopG_inv hR hc _ (AccInv.init hR m w sc (scb : Rat)) _ le_rfl
  generalize loopUp w (accStepG R m sc true) ⟨R.up (scb : Rat), 0, 0⟩ = st at *
  have hxs := holds_self_upd (var := var) hx
  rw [← upd_self x var]
  split
  · rename_i h0
    dsimp only
    rw [addDbmF_fst]
    exact upper_deduce hR hw hd hx hval
      (holds_addDbm hxs fun _ => upper_unary hw hx hval (hst.c0 h0) fun S' h => fin_le_quot hR hd h)
      ((unaryEq_refl _ m).of_eqOff (.addDbm _ (.inr rfl))) (hst.c0 h0) (hst.f0p h0)
      (fun S' h => fin_le_quot hR hd h)
  · split
    · rename_i h1
      split
      · rename_i hcond
        obtain ⟨hi1, hi2, hc1⟩ := hst.c1 h1
        have hpv : st.idx ≠ var + 1 := by
          intro h
          have hn1 := hst.n1 h1
          rw [h, Nat.add_sub_cancel] at hn1
          exact hn1 hsv
        rw [addDbmF_fst]
        exact holds_addDbm hxs fun _ => upper_single hw hd hx hval hi1 hi2 hpv (hsc _ hcond) hc1
          (fun S' h => fin_le_quot hR hd h)
      · exact hxs
    · exact hxs

theorem refGenGe_sound (hR : R.Sound) (hw : w ≤ n) {e : Nat → Int} {den : Int} (hc : CoeffExact R sc)
    (hm : (mscb : Rat) = -(scb : Rat)) (hd : 0 < scd) (hsc : ∀ p, e p = den → sc p = scd)
    (hx : Holds (SB (n+1)) (DBM.val x) m)
    (hval : (linEval sc x w + (scb : Rat)) / (scd : Rat) ≤ x var) :
    Holds (SB (n+1)) (DBM.val x) (refGenGe R (var+1) w e den sc mscb scd m).1 := by
  unfold refGenGe
  dsimp only
  rw [accStepG_false]
  have hst := accLoopG_inv hR hc.neg _ (AccInv.init_eq hR m w (fun i => - sc i) hm.symm) _ le_rfl
  generalize loopUp w (accStepG R m (fun j => - sc j) true) ⟨R.up (mscb : Rat), 0, 0⟩ = st at *
  have hxs := holds_self_upd (var := var) hx
  rw [← upd_self x var]
  split
  · rename_i h0
    dsimp only
    rw [addDbmF_fst]
    exact lower_deduce hR hw hd hx hval
      (holds_addDbm hxs fun _ => lower_unary hw hx hval (hst.c0 h0) fun S' h => fin_le_quot hR hd h)
      ((unaryEq_refl _ m).of_eqOff (.addDbm _ (.inl rfl))) (hst.c0 h0) (hst.f0n h0)
      (fun S' h => fin_le_quot hR hd h)
  · split
    · rename_i h1
      split
      · rename_i hcond
        obtain ⟨hi1, hi2, hc1⟩ := hst.c1 h1
        rw [addDbmF_fst]
        exact holds_addDbm hxs fun _ => lower_single hw hd hx hval hi1 hi2 hcond.1 (hsc _ hcond.2) hc1
          (fun S' h => fin_le_quot hR hd h)
      · exact hxs
    · exact hxs

end

theorem scExpr_zero {e : Nat → Int} {den : Int} {p : Nat} (h : e p = 0) : scExpr e den p = 0 := by
  unfold scExpr; split <;> simp [h]

/-- the cases `t == 0` (`i = 0`) and `t == 1` (`i = w`) of `refine`: `var ⋈ x_i + b/den` on the cells `(i, v)`, `(v, i)` -/
theorem refineVar_unit {R : Rnd} (hR : R.Sound) {n var i : Nat} {b den : Int} {m : Mat} {x : Nat → Rat}
    (hx : Holds (SB (n+1)) (DBM.val x) m) (rel : RelSym)
    (ht : rel.holds (x var) (DBM.val x i + (b : Rat) / den)) :
    Holds (SB (n+1)) (DBM.val x)
      (match rel with
        | .eq => addDbmF (addDbmF (m, true) i (var+1) (divRoundUp R b den)) (var+1) i (divRoundUp R b (- den))
        | .le => addDbmF (m, true) i (var+1) (divRoundUp R b den)
        | .ge => addDbmF (m, true) (var+1) i (divRoundUp R b (- den))).1 := by
  have hdn := div_negden b den
  have hv : DBM.val x (var+1) = x var := rfl
  have hle : x var ≤ DBM.val x i + (b : Rat) / den → fin (DBM.val x (var+1) - DBM.val x i) ≤ divRoundUp R b den :=
    fun h => fin_le_divRoundUp hR (by rw [hv]; linarith)
  have hge : DBM.val x i + (b : Rat) / den ≤ x var →
      fin (DBM.val x i - DBM.val x (var+1)) ≤ divRoundUp R b (- den) :=
    fun h => fin_le_divRoundUp hR (by rw [hdn, hv]; linarith)
  cases rel with
  | eq =>
    have ht' : x var = DBM.val x i + (b : Rat) / den := ht
    dsimp only
    rw [addDbmF_fst, addDbmF_fst]
    exact holds_addDbm (holds_addDbm hx fun _ => hle ht'.le) fun _ => hge ht'.ge
  | le => dsimp only; rw [addDbmF_fst]; exact holds_addDbm hx fun _ => hle ht
  | ge => dsimp only; rw [addDbmF_fst]; exact holds_addDbm hx fun _ => hge ht

set_option linter.unusedVariables false in
theorem refineVar_sound {R : Rnd} (hR : R.Sound) {n var : Nat} (hvar : var < n) {e : Nat → Int}
    (hc : CoeffExact R e) (hev : e var = 0) {b den : Int} (hden : den ≠ 0) {m : Mat} {x : Nat → Rat}
    (hx : x ∈ γB n m) (rel : RelSym) (ht : rel.holds (x var) ((linEval e x n + b) / den)) :
    x ∈ γB n (refineVar R n var rel e b den m).1 := by
  have hx' : Holds (SB (n+1)) (DBM.val x) m := hx
  show Holds (SB (n+1)) (DBM.val x) _
  unfold refineVar
  dsimp only
  have hdn := div_negden b den
  by_cases h0 : exprT e (lastNonzero e n) = 0
  · -- `t == 0`
    have hval := linEval_t0 x h0
    rw [hval, zero_add] at ht
    have hT : (if exprT e (lastNonzero e n) = 1 ∧ e (lastNonzero e n - 1) ≠ den then 2
        else exprT e (lastNonzero e n)) = 0 := by rw [if_neg (by omega)]; exact h0
    rw [hT, if_pos rfl]
    exact refineVar_unit hR hx' rel (i := 0) (by simpa [DBM.val] using ht)
  · by_cases h1 : exprT e (lastNonzero e n) = 1 ∧ e (lastNonzero e n - 1) = den
    · -- `t == 1`, `a == denominator`
      obtain ⟨hw0, hval⟩ := linEval_t1 x h1.1
      rw [hval, special_val_pos hden h1.2] at ht
      have hT : (if exprT e (lastNonzero e n) = 1 ∧ e (lastNonzero e n - 1) ≠ den then 2
          else exprT e (lastNonzero e n)) = 1 := by
        rw [if_neg (by intro h; exact h.2 h1.2)]; exact h1.1
      rw [hT, if_neg (by decide), if_pos rfl]
      obtain ⟨k, hk⟩ : ∃ k, lastNonzero e n = k + 1 := ⟨lastNonzero e n - 1, by omega⟩
      rw [hk] at ht ⊢
      simp only [Nat.add_sub_cancel] at ht
      exact refineVar_unit hR hx' rel (i := k + 1) ht
    · -- general case
      have ht2 : (if exprT e (lastNonzero e n) = 1 ∧ e (lastNonzero e n - 1) ≠ den then 2
          else exprT e (lastNonzero e n)) ≠ 0 ∧
          (if exprT e (lastNonzero e n) = 1 ∧ e (lastNonzero e n - 1) ≠ den then 2
          else exprT e (lastNonzero e n)) ≠ 1 := by
        split
        · omega
        · rename_i hh
          refine ⟨h0, fun h => ?_⟩
          apply h1
          refine ⟨h, ?_⟩
          by_contra hne
          exact hh ⟨h, hne⟩
      rw [if_neg ht2.1, if_neg ht2.2]
      rw [sc_value e x n b den] at ht
      have hw := lastNonzero_le e n
      cases rel with
      | eq =>
        exact refGenEq_sound hR hw (hc.sc den) (minus_scb_cast b den) (scDen_pos hden) hx' ht
      | le =>
        exact refGenLe_sound hR hw (hc.sc den) (scDen_pos hden) (fun p h => sc_at_eq h) (scExpr_zero hev) hx' ht
      | ge =>
        exact refGenGe_sound hR hw (hc.sc den) (minus_scb_cast b den) (scDen_pos hden) (fun p h => sc_at_eq h) hx' ht

theorem linEval_single (c : Int) (x : Nat → Rat) {var n : Nat} (hvar : var < n) :
    linEval (fun i => if i = var then c else 0) x n = (c : Rat) * x var := by
  rw [linEval_zeroAt _ x hvar]
  rw [linEval_zero_of _ x _ (fun i hi => by simp [zeroAt]; intro h1 h2; omega)]
  simp

theorem linEval_sub (f g : Nat → Int) (x : Nat → Rat) (k : Nat) :
    linEval (fun i => f i - g i) x k = linEval f x k - linEval g x k := by
  induction k with
  | zero => simp [linEval]
  | succ k ih => simp only [linEval, ih]; push_cast; ring

theorem div_nonneg_of_nonpos' {a b : Rat} (ha : a ≤ 0) (hb : b ≤ 0) : 0 ≤ a / b := by
  have := div_nonneg (neg_nonneg.2 ha) (neg_nonneg.2 hb)
  rwa [neg_div_neg_eq] at this

theorem upd_back (x : Nat → Rat) (var : Nat) (t : Rat) : upd (upd x var t) var (x var) = x := by
  rw [upd_upd, upd_self]

theorem sign_eq_sign_neg_iff {a b : Int} (ha : a ≠ 0) (hb : b ≠ 0) :
    Int.sign a = Int.sign (- b) ↔ a * b < 0 := by
  rcases lt_or_gt_of_ne ha with h1 | h1 <;> rcases lt_or_gt_of_ne hb with h2 | h2
  · rw [Int.sign_eq_neg_one_of_neg h1, Int.sign_eq_one_of_pos (by omega)]
    exact iff_of_false (by decide) (not_lt.2 (Int.mul_pos_of_neg_of_neg h1 h2).le)
  · rw [Int.sign_eq_neg_one_of_neg h1, Int.sign_eq_neg_one_of_neg (by omega)]
    exact iff_of_true rfl (Int.mul_neg_of_neg_of_pos h1 h2)
  · rw [Int.sign_eq_one_of_pos h1, Int.sign_eq_one_of_pos (by omega)]
    exact iff_of_true rfl (Int.mul_neg_of_pos_of_neg h1 h2)
  · rw [Int.sign_eq_one_of_pos h1, Int.sign_eq_neg_one_of_neg (by omega)]
    exact iff_of_false (by decide) (not_lt.2 (Int.mul_pos h1 h2).le)

/-- the sign analysis of `generalized_affine_preimage` when `expr_v ≠ 0`: `t ⋈ q/den` for the image value `t`
becomes `x_v ⋈' x_v - (q - den·t)/expr_v`, where `⋈'` is `⋈` iff `sign den = sign (-expr_v)`.
`(q - den·t)/expr_v` and `q/den - t` differ by the factor `den/expr_v`. -/
theorem preimage_relsym {den ev : Int} (hden : den ≠ 0) (hev : ev ≠ 0) (isLe : Bool) {t q xv : Rat}
    (ht : if isLe then t ≤ q / den else q / den ≤ t) :
    if (if Int.sign den = Int.sign (- ev) then isLe else !isLe) then xv ≤ xv - (q - den * t) / (ev : Rat)
    else xv - (q - den * t) / (ev : Rat) ≤ xv := by
  have hd : (den : Rat) ≠ 0 := by exact_mod_cast hden
  have he : (ev : Rat) ≠ 0 := by exact_mod_cast hev
  have e : (q - den * t) / (ev : Rat) = (q / den - t) * ((den : Rat) ^ 2 / (den * ev)) := by
    field_simp
  rw [e]
  by_cases hs : Int.sign den = Int.sign (- ev)
  · have hP : (den : Rat) * ev < 0 := by exact_mod_cast (sign_eq_sign_neg_iff hden hev).1 hs
    have hf := div_nonpos_of_nonneg_of_nonpos (sq_nonneg (den : Rat)) hP.le
    rw [if_pos hs]
    cases isLe
    · have := mul_nonneg_of_nonpos_of_nonpos (sub_nonpos.2 (by simpa using ht)) hf
      simpa using this
    · have := mul_nonpos_of_nonneg_of_nonpos (sub_nonneg.2 (by simpa using ht)) hf
      simpa using this
  · have hP : 0 ≤ (den : Rat) * ev := by
      exact_mod_cast not_lt.1 (fun h => hs ((sign_eq_sign_neg_iff hden hev).2 h))
    have hf := div_nonneg (sq_nonneg (den : Rat)) hP
    rw [if_neg hs]
    cases isLe
    · have := mul_nonpos_of_nonpos_of_nonneg (sub_nonpos.2 (by simpa using ht)) hf
      simpa using this
    · have := mul_nonneg (sub_nonneg.2 (by simpa using ht)) hf
      simpa using this

/-- the inverse expression of `affine_preimage` has representable coefficients when those of `expr` and the
denominator are -/
theorem coeffExact_inverse {R : Rnd} {e : Nat → Int} (hc : CoeffExact R e) {den : Int}
    (hcd : R.up ((absI den : Int) : Rat) = fin ((absI den : Int) : Rat)) (var : Nat) :
    CoeffExact R (fun i => (if i = var then e var + den else 0) - e i) := by
  intro i hi
  by_cases h : i = var
  · subst h
    simp only [if_true, add_sub_cancel_left] at hi ⊢
    exact hcd
  · simp only [if_neg h, zero_sub] at hi ⊢
    rw [absI_neg]
    exact hc i (by simpa using hi)

theorem coeffExact_single {R : Rnd} {den : Int}
    (hcd : R.up ((absI den : Int) : Rat) = fin ((absI den : Int) : Rat)) (var : Nat) :
    CoeffExact R (fun i => if i = var then den else 0) := by
  intro i hi
  by_cases h : i = var
  · simp only [if_pos h]; exact hcd
  · simp [h] at hi

theorem affinePreimageCore_sound {R : Rnd} (hR : R.Sound) {n var : Nat} (hvar : var < n) {e : Nat → Int}
    (hc : CoeffExact R e) {b den : Int} (hden : den ≠ 0)
    (hcd : R.up ((absI den : Int) : Rat) = fin ((absI den : Int) : Rat)) {m : Mat} {x : Nat → Rat}
    (hx : upd x var ((linEval e x n + b) / den) ∈ γB n m) :
    x ∈ γB n (affinePreimageCore R n var e b den m) := by
  have hforget : x ∈ γB n (forgetAll (n+1) (var+1) m) := by
    have := forgetAll_sound (var := var) hx (x var)
    rw [upd_back] at this
    exact this
  have hd' : (den : Rat) ≠ 0 := by exact_mod_cast hden
  unfold affinePreimageCore
  dsimp only
  show Holds (SB (n+1)) (DBM.val x) _
  refine holds_ite (fun _ => hforget) fun h0 => holds_ite
    (fun h1 => holds_ite (fun hwv => ?_) fun _ => hforget) fun h1 => holds_ite (fun hev => ?_) fun _ => hforget
  · -- `var := ±var + b/den` inverted
    obtain ⟨hw0, hval⟩ := linEval_t1 x h1.1
    rw [hwv] at hval h1 ⊢
    simp only [Nat.add_sub_cancel] at hval h1 ⊢
    have ha0 : e var ≠ 0 := by rcases h1.2 with h | h <;> rw [h] <;> omega
    have ha' : (e var : Rat) ≠ 0 := by exact_mod_cast ha0
    have := affineImageCore_sound hR hvar (coeffExact_single hcd var) ha0 (b := - b) hx
    rw [linEval_single den _ hvar] at this
    have e1 : ((den : Rat) * upd x var ((linEval e x n + b) / den) var + ((-b : Int) : Rat)) / (e var : Rat)
        = x var := by
      simp only [upd, if_true]
      rw [hval]
      push_cast
      field_simp
      ring
    rw [e1, upd_back] at this
    exact this
  · have ha' : (e var : Rat) ≠ 0 := by exact_mod_cast hev
    have := affineImageCore_sound hR hvar (coeffExact_inverse hc hcd var) hev (b := - b) hx
    rw [linEval_sub, linEval_single _ _ hvar, linEval_upd, if_pos hvar] at this
    have e1 : (((e var + den : Int) : Rat) * upd x var ((linEval e x n + b) / den) var
        - (linEval e x n + (e var : Rat) * ((linEval e x n + b) / den - x var)) + ((-b : Int) : Rat)) / (e var : Rat)
        = x var := by
      simp only [upd, if_true]
      push_cast
      field_simp
      ring
    rw [e1, upd_back] at this
    exact this

theorem genAffinePreimageCore_sound {R : Rnd} (hR : R.Sound) {n var : Nat} (hvar : var < n) {e : Nat → Int}
    (hc : CoeffExact R e) {b den : Int} (hden : den ≠ 0)
    (hcd : R.up ((absI den : Int) : Rat) = fin ((absI den : Int) : Rat)) {m : Mat} {x : Nat → Rat} (isLe : Bool)
    {t : Rat} (hx : upd x var t ∈ γB n m)
    (ht : if isLe then t ≤ (linEval e x n + b) / den else (linEval e x n + b) / den ≤ t) :
    ∃ m', genAffinePreimageCore R n var isLe e b den m = some m' ∧ x ∈ γB n m' := by
  have hd' : (den : Rat) ≠ 0 := by exact_mod_cast hden
  unfold genAffinePreimageCore
  dsimp only
  split
  · rename_i hev
    refine ⟨_, rfl, ?_⟩
    have ha' : (e var : Rat) ≠ 0 := by exact_mod_cast hev
    have hinv : CoeffExact R (fun i => e i - (if i = var then e var + den else 0)) := by
      have := (coeffExact_inverse hc hcd var).neg
      intro i hi
      have h2 := this i (by simpa using hi)
      simpa using h2
    have hval : (linEval (fun i => e i - (if i = var then e var + den else 0)) (upd x var t) n + (b : Rat))
        / ((- e var : Int) : Rat) = x var - (linEval e x n + b - den * t) / (e var : Rat) := by
      rw [linEval_sub, linEval_single _ _ hvar, linEval_upd, if_pos hvar]
      simp only [upd, if_true]
      push_cast
      field_simp
      ring
    have := genAffineImageCore_sound hR hvar hinv (by omega : - e var ≠ 0) (b := b) hx _ (t := x var)
      (by rw [hval]; exact preimage_relsym hden hev isLe ht)
    rwa [upd_back] at this
  · rename_i hev
    have hev0 : e var = 0 := by simpa using hev
    -- the refinement keeps `x' = x[var := t]`
    have hl : linEval e (upd x var t) n = linEval e x n := by
      rw [linEval_upd, if_pos hvar, hev0]; simp
    have href := refineVar_sound hR hvar hc hev0 hden hx (if isLe then .le else .ge) (b := b) (by
      rw [hl]
      simp only [upd, if_true]
      cases isLe with
      | true => simpa [RelSym.holds] using ht
      | false => simpa [RelSym.holds] using ht)
    generalize refineVar R n var (if isLe = true then RelSym.le else RelSym.ge) e b den m = mf at href ⊢
    split
    · refine ⟨_, rfl, ?_⟩
      have := forgetAll_sound (var := var) href (x var)
      rw [upd_back] at this
      exact this
    · have hs := sat_ofMat href
      split
      · rename_i he
        exact absurd hs (DBM.closureEmpty_sound hR.up_le _ he _)
      · refine ⟨_, rfl, ?_⟩
        have h6 : upd x var t ∈ γB n (DBM.closure R.up (DBM.ofMat n mf.1)).e :=
          (DBM.sat_iff_holds _ _).1 (DBM.closure_sat hR.up_le _ _ hs)
        have := forgetAll_sound (var := var) h6 (x var)
        rw [upd_back] at this
        exact this

end PPLV.WR

import PPLV.WR.TransOct2LhsProofsImage
import PPLV.WR.TransOct2ProofsPre
/-!
# `Octagonal_Shape<T>::generalized_affine_preimage(lhs, relsym, rhs)`: the delegate and the whole function

The delegate `generalized_affine_preimage(v, relsym', rhs - b_lhs, a)` goes through the private
`refine(var, relsym, expr, den)`, whose `GREATER_OR_EQUAL` / `pinf_count == 1` branch writes the wrong cell
(`Octagonal_Shape_templates.hh:5159`, open finding KF-C03-75/76): `octGenAffinePreimage_sound` excludes it
by `relsym' ≠ ≥ ∨ ∀ u > v, rhs_u ≠ a`, and so does the `t_lhs == 1` case here (`hok`; `C03.lhsOctDelegateOK` in
`Props/C03Trans2Lhs.lean`).
-/
namespace PPLV.WR
open ExtRat

section
variable {R : Rnd} (hR : R.Sound) {n : Nat} (rel : RelSym) {el er : Nat → Int} (bl br : Int) {m : Mat}
  {x x' : Nat → Rat}
include hR

/-- `lhs == a*v + b`: the delegate `generalized_affine_preimage(v, relsym', rhs - b_lhs, a)` -/
theorem octLhsPre_t1_sound (h1 : exprT el (lastNonzero el n) = 1) (hc : CoeffExact R er)
    (hcd : R.up ((absI (el (lastNonzero el n - 1)) : Int) : Rat) = fin ((absI (el (lastNonzero el n - 1)) : Int) : Rat))
    (hok : lhsNewRelSym rel (el (lastNonzero el n - 1)) ≠ .ge ∨
      ∀ u, lastNonzero el n - 1 < u → er u ≠ el (lastNonzero el n - 1))
    (hh : HalfFiniteOn R.up m) (hx' : x' ∈ γO n m)
    (hag : ∀ i, i < n → el i = 0 → x' i = x i)
    (hrel : rel.holds (linEval el x' n + bl) (linEval er x n + br)) :
    ∃ m', octLhsGenAffinePreimageCore R n rel el bl er br m = some m' ∧ x ∈ γO n m' := by
  obtain ⟨hw0, ha0, hz⟩ := lhs_t1_zero h1
  obtain ⟨_, hval⟩ := linEval_t1 x' h1
  have hwn := lastNonzero_le el n
  have hj : lastNonzero el n - 1 < n := by omega
  rw [hval] at hrel
  have hnew := lhs_newRel_holds ha0 hrel
  have hcong : ∀ i, i < n → upd x (lastNonzero el n - 1) (x' (lastNonzero el n - 1)) i = x' i := by
    intro i hi
    unfold upd
    split
    · rename_i h; rw [h]
    · rename_i h; exact (hag i hi (hz i hi h)).symm
  have hx'' := octHolds_congr hcong hx'
  obtain ⟨m', hm', hx2⟩ := octGenAffinePreimage_sound hR (OctM.ofMat n m) true hj
    (lhsNewRelSym rel (el (lastNonzero el n - 1))) (e := er) (b := br - bl) ha0 hc hcd (octLhs_hh_ofMat hh) hok
    x _ (sat_octOfMat hx'') hnew
  refine ⟨m', ?_, hx2⟩
  unfold octLhsGenAffinePreimageCore
  dsimp only [lhsForm]
  rw [if_neg (by omega), if_pos h1]
  exact hm'

/-- every branch of `generalized_affine_preimage(lhs, relsym, rhs)` after the strong closure -/
theorem octLhsGenAffinePreimageCore_sound (hel : ∀ i, n ≤ i → el i = 0) (her : ∀ i, n ≤ i → er i = 0)
    (hc1 : exprT el (lastNonzero el n) = 1 → CoeffExact R er ∧
      R.up ((absI (el (lastNonzero el n - 1)) : Int) : Rat) = fin ((absI (el (lastNonzero el n - 1)) : Int) : Rat) ∧
      (lhsNewRelSym rel (el (lastNonzero el n - 1)) ≠ .ge ∨
        ∀ u, lastNonzero el n - 1 < u → er u ≠ el (lastNonzero el n - 1)))
    (hc2 : exprT el (lastNonzero el n) = 2 →
      lhsHaveCommonVar el er (min (lhsSpaceDim el n) (lhsSpaceDim er n)) = true → CoeffExact R el)
    (hh : exprT el (lastNonzero el n) = 1 ∨ (exprT el (lastNonzero el n) = 2 ∧
      lhsHaveCommonVar el er (min (lhsSpaceDim el n) (lhsSpaceDim er n)) = true) → HalfFiniteOn R.up m)
    (hx' : x' ∈ γO n m)
    (hag : ∀ i, i < n → el i = 0 → x' i = x i)
    (hrel : rel.holds (linEval el x' n + bl) (linEval er x n + br)) :
    ∃ m', octLhsGenAffinePreimageCore R n rel el bl er br m = some m' ∧ x ∈ γO n m' := by
  by_cases h0 : exprT el (lastNonzero el n) = 0
  · exact octLhsPre_t0_sound hR rel bl br h0 hx' hag hrel
  · by_cases h1 : exprT el (lastNonzero el n) = 1
    · exact octLhsPre_t1_sound hR rel bl br h1 (hc1 h1).1 (hc1 h1).2.1 (hc1 h1).2.2 (hh (Or.inl h1)) hx' hag hrel
    · cases hcom : lhsHaveCommonVar el er (min (lhsSpaceDim el n) (lhsSpaceDim er n)) with
      | false => exact octLhsPre_disjoint_sound hR rel bl br h0 h1 hcom hx' hag hrel
      | true =>
        have h2 : exprT el (lastNonzero el n) = 2 := by
          have := octExprT_le_two el (lastNonzero el n)
          omega
        have := octLhsPreimageNewDim_sound hR rel bl br hel her (hc2 h2 hcom) (hh (Or.inr ⟨h2, hcom⟩)) hx' hag hrel
        unfold octLhsGenAffinePreimageCore
        dsimp only [lhsForm]
        rw [if_neg h0, if_neg h1, hcom]
        simpa using this

end

end PPLV.WR

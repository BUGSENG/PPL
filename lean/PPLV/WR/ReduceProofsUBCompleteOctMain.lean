import PPLV.WR.ReduceProofsUBCompleteOctPairs
import PPLV.WR.ReduceProofsUBCompleteOctTight
/-!
# `Octagonal_Shape::upper_bound_assign_if_exact`: when the test answers `false` the union is not an octagon

`x`, `y` strongly closed matrices over `ℚ`, arbitrary bit matrices.  The answer `false` exhibits `(i, j, k, ℓ)`
with the eight strict conditions (`octUB_false_tuple`).  With `V` the full view of the join (strongly closed:
`OctM.join_isStronglyClosed`) these give, for a small margin `ε`, the lower bounds `OctFacts` with
`a' = x_ij + ε`, `b' = y_kℓ + ε` (the two bounds on the unary entries, `2a' ≤ V_{i,ci} + V_{cj,j}` and
`2b' ≤ V_{k,ck} + V_{cℓ,ℓ}`, come from strong coherence of `y` resp. `x` and the first two conditions).  Then `V`
tightened by `P_j - P_i ≥ a'`, `P_ℓ - P_k ≥ b'` and the coherent twins is closed (`oct_two_pairs`), a potential of it
is symmetrised into a point of the join (`OctM.point_of_potential_below`) that violates cell `(i, j)` of `x` and
cell `(k, ℓ)` of `y` (`octUB_witness`); the union is not an octagon (`octUB_complete`).
-/
namespace PPLV.WR
open ExtRat (fin pinf addUp halfUp)

/-- strict form of strong coherence: an entry strictly above `a` forces the two unary entries above `2a` -/
theorem strict_coh {Y A B A' B' : ExtRat} {a : Rat} (h : ¬ (Y ≤ fin a)) (hc : Y ≤ halfUp fin (eadd A B))
    (hA : A ≤ A') (hB : B ≤ B') : ¬ (eadd A' B' ≤ fin (2 * a)) := fun h' => by
  have := halfUp_mono (ExtRat.le_trans' (eadd_mono hA hB) h')
  rw [show halfUp fin (fin (2 * a)) = fin a from congrArg fin (mul_div_cancel_left₀ a two_ne_zero)] at this
  exact h (ExtRat.le_trans' hc this)

/-- the strict conditions of the test (`X = x_ij`, `Y = y_kℓ`) leave room for a margin `ε`: the lower bounds of
`OctFacts` hold with `a' = a + ε`, `b' = b + ε` -/
theorem exists_octFacts {X Y e1 e2 p1 p2 p3 p4 p5 p6 p7 p8 : ExtRat} {a b : Rat} (hX : X = fin a) (hY : Y = fin b)
    (s1 : ¬ (e1 ≤ fin a)) (s2 : ¬ (e2 ≤ fin b))
    (s1b : ¬ (eadd p5 p6 ≤ fin (2 * a))) (s2b : ¬ (eadd p7 p8 ≤ fin (2 * b)))
    (c3 : ¬ (eadd p1 p2 ≤ eadd X Y)) (c4 : ¬ (eadd p3 p4 ≤ eadd X Y))
    (c5 : ¬ (eadd (eadd p1 p3) p6 ≤ eadd (eadd X Y) X)) (c6 : ¬ (eadd (eadd p2 p4) p5 ≤ eadd (eadd X Y) X))
    (c7 : ¬ (eadd (eadd p1 p4) p7 ≤ eadd (eadd X Y) Y)) (c8 : ¬ (eadd (eadd p2 p3) p8 ≤ eadd (eadd X Y) Y))
    (h1 : p1 ≤ halfUp fin (eadd p5 p8)) (h2 : p2 ≤ halfUp fin (eadd p7 p6))
    (h3 : p3 ≤ halfUp fin (eadd p5 p7)) (h4 : p4 ≤ halfUp fin (eadd p6 p8)) :
    ∃ ε : Rat, 0 < ε ∧ fin (a + ε) ≤ e1 ∧ OctFacts (a + ε) (b + ε) e2 p1 p2 p3 p4 p5 p6 p7 p8 := by
  subst hX hY
  obtain ⟨ε, hε, H⟩ := ExtRat.exists_margin
    [(e1, a), (e2, b), (eadd p5 p6, 2 * a), (eadd p7 p8, 2 * b), (eadd p1 p2, a + b), (eadd p3 p4, a + b),
      (eadd (eadd p1 p3) p6, a + b + a), (eadd (eadd p2 p4) p5, a + b + a),
      (eadd (eadd p1 p4) p7, a + b + b), (eadd (eadd p2 p3) p8, a + b + b)] (by
    simp only [List.forall_mem_cons, List.not_mem_nil, false_imp_iff, implies_true, and_true]
    exact ⟨s1, s2, s1b, s2b, c3, c4, c5, c6, c7, c8⟩)
  simp only [List.forall_mem_cons, List.not_mem_nil, false_imp_iff, implies_true, and_true] at H
  obtain ⟨m1, m2, m1b, m2b, m3, m4, m5, m6, m7, m8⟩ := H
  have k1 : ∀ c : Rat, c + ε / 3 ≤ c + ε := fun c => by linarith only [hε]
  have k2 : ∀ c : Rat, 2 * (c + ε / 3) ≤ 2 * c + ε := fun c => by linarith only [hε]
  have k3 : a + ε / 3 + (b + ε / 3) ≤ a + b + ε := by linarith only [hε]
  have k5 : 2 * (a + ε / 3) + (b + ε / 3) ≤ a + b + a + ε := by linarith only [hε]
  have k7 : a + ε / 3 + 2 * (b + ε / 3) ≤ a + b + b + ε := by linarith only [hε]
  exact ⟨ε / 3, div_pos hε three_pos, ExtRat.fin_le_of_le (k1 a) m1,
    { f1b := ExtRat.fin_le_of_le (k2 a) m1b
      f2 := ExtRat.fin_le_of_le (k1 b) m2
      f2b := ExtRat.fin_le_of_le (k2 b) m2b
      f3 := ExtRat.fin_le_of_le k3 m3
      f4 := ExtRat.fin_le_of_le k3 m4
      f5 := ExtRat.fin_le_of_le k5 m5
      f6 := ExtRat.fin_le_of_le k5 m6
      f7 := ExtRat.fin_le_of_le k7 m7
      f8 := ExtRat.fin_le_of_le k7 m8
      h1 := h1, h2 := h2, h3 := h3, h4 := h4 }⟩

/-- **the answer `false` exhibits a point of the join outside both operands** -/
theorem octUB_witness {n : Nat} (x y : OctM n) (hx : x.IsStronglyClosed) (hy : y.IsStronglyClosed)
    (xr yr : BMat) (ht : octUpperBoundIfExact upId n x.e y.e xr yr = false) :
    ∃ p, p ∈ OctM.γ (OctM.join x y) ∧ p ∉ OctM.γ x ∧ p ∉ OctM.γ y := by
  obtain ⟨i, j, k, l, hi, hj, hk, hl, C⟩ := octUB_false_tuple n x.e y.e xr yr ht
  have hjn : j < 2 * n := lt_of_lt_of_le hj (rowSize_le hi)
  have hln : l < 2 * n := lt_of_lt_of_le hl (rowSize_le hk)
  have hci : cidx i < 2 * n := cidx_lt hi
  have hcj : cidx j < 2 * n := cidx_lt hjn
  have hck : cidx k < 2 * n := cidx_lt hk
  have hcl : cidx l < 2 * n := cidx_lt hln
  obtain ⟨a, hxa⟩ := ExtRat.fin_of_not_le C.c1
  obtain ⟨b, hyb⟩ := ExtRat.fin_of_not_le C.c2
  have hij : i ≠ j := by
    rintro rfl
    rw [x.diag i hi] at hxa
    exact ExtRat.noConfusion hxa
  have hkl : k ≠ l := by
    rintro rfl
    rw [y.diag k hk] at hyb
    exact ExtRat.noConfusion hyb
  have hJ : (OctM.join x y).IsStronglyClosed := OctM.join_isStronglyClosed hx hy
  -- the ten strict inequalities on the full view of the join
  have c1 := C.c1
  have c2 := C.c2
  rw [hxa, raw_eq_octFull y.e hj hij] at c1
  rw [hyb, raw_eq_octFull x.e hl hkl] at c2
  have s1 : ¬ (octFull (OctM.join x y).e i j ≤ fin a) := fun h =>
    c1 (ExtRat.le_trans' (OctM.full_le_join_right x y i j) h)
  have s2 : ¬ (octFull (OctM.join x y).e k l ≤ fin b) := fun h =>
    c2 (ExtRat.le_trans' (OctM.full_le_join_left x y k l) h)
  have s1b : ¬ (eadd (octFull (OctM.join x y).e i (cidx i)) (octFull (OctM.join x y).e (cidx j) j) ≤
      fin (2 * a)) :=
    strict_coh c1 (hy.coh' hi hjn) (OctM.full_le_join_right x y _ _) (OctM.full_le_join_right x y _ _)
  have s2b : ¬ (eadd (octFull (OctM.join x y).e k (cidx k)) (octFull (OctM.join x y).e (cidx l) l) ≤
      fin (2 * b)) :=
    strict_coh c2 (hx.coh' hk hln) (OctM.full_le_join_left x y _ _) (OctM.full_le_join_left x y _ _)
  -- the margin and the lower bounds
  have hV : Closed (2 * n) { f := octFull (OctM.join x y).e } := hJ.closedFull
  have h3' := hJ.coh' hi hck
  have h4' := hJ.coh' hcj hln
  rw [cidx_cidx] at h3' h4'
  obtain ⟨ε, εp, f1, F⟩ := exists_octFacts hxa hyb s1 s2 s1b s2b C.c3 C.c4 C.c5 C.c6 C.c7 C.c8
    (hJ.coh' hi hln) (hJ.coh' hk hjn) h3' h4'
  obtain ⟨d, hd, hdV, d1, d1', d2, d2'⟩ := oct_two_pairs (V := { f := octFull (OctM.join x y).e }) hV
    (fun u v => octFull_coh (OctM.join x y).e u v) hi hjn hk hln hci hcj hck hcl
    f1 F
  obtain ⟨q, hq⟩ := hd.nonempty
  have r1 := ExtRat.le_trans' (hq j i ⟨hjn, hi⟩) d1
  have r1' := ExtRat.le_trans' (hq (cidx i) (cidx j) ⟨hci, hcj⟩) d1'
  have r2 := ExtRat.le_trans' (hq l k ⟨hln, hk⟩) d2
  have r2' := ExtRat.le_trans' (hq (cidx k) (cidx l) ⟨hck, hcl⟩) d2'
  rw [ExtRat.fin_le_fin] at r1 r1' r2 r2'
  obtain ⟨p, hp, hv⟩ := (OctM.join x y).point_of_potential_below (d := d) hdV hq
  refine ⟨p, hp, fun hpx => ?_, fun hpy => ?_⟩
  · have := hpx i j hi hj
    rw [hv, hv, hxa, ExtRat.fin_le_fin] at this
    linarith only [this, r1, r1', εp]
  · have := hpy k l hk hl
    rw [hv, hv, hyb, ExtRat.fin_le_fin] at this
    linarith only [this, r2, r2', εp]

/-- **`Octagonal_Shape::upper_bound_assign_if_exact`, completeness of the answer `false`**: the join has a point
outside both operands, and the union of the two octagons is not an octagon -/
theorem octUB_complete {n : Nat} (x y : OctM n) (hx : x.IsStronglyClosed) (hy : y.IsStronglyClosed)
    (xr yr : BMat) (ht : octUpperBoundIfExact upId n x.e y.e xr yr = false) :
    (∃ p, p ∈ OctM.γ (OctM.join x y) ∧ p ∉ OctM.γ x ∧ p ∉ OctM.γ y) ∧
    ¬ ∃ Q : OctM n, OctM.γ Q = OctM.γ x ∪ OctM.γ y :=
  ⟨octUB_witness x y hx hy xr yr ht,
    octUB_complete_of_witness x y hx hy (octUB_witness x y hx hy xr yr ht)⟩

/-- the test decides exactness of the join, given that the two reductions denote the operands -/
theorem octUB_iff {n : Nat} (x y : OctM n) (hx : x.IsStronglyClosed) (hy : y.IsStronglyClosed) (xr yr : BMat)
    (hxp : OctM.γ (x.reduced xr) = OctM.γ x) (hyp : OctM.γ (y.reduced yr) = OctM.γ y) :
    octUpperBoundIfExact upId n x.e y.e xr yr = true ↔
      OctM.γ (OctM.join x y) = OctM.γ x ∪ OctM.γ y :=
  exact_iff_of_witness (octUB_sound x y xr yr hxp hyp) (octUB_witness x y hx hy xr yr)

end PPLV.WR

import PPLV.WR.Trans2LhsProofsBase
/-!
# `BD_Shape<T>::generalized_affine_image(lhs, relsym, rhs)`: soundness of every branch
-/
namespace PPLV.WR
open ExtRat

/-- the sign-corrected relation symbol: `a*t + b_lhs ⋈ r + b_rhs` is `t ⋈' (r + (b_rhs - b_lhs))/a` -/
theorem lhs_newRel_holds {a : Int} (ha : a ≠ 0) {rel : RelSym} {t r : Rat} {bl br : Int}
    (h : rel.holds ((a : Rat) * t + bl) (r + br)) :
    (lhsNewRelSym rel a).holds t ((r + ((br - bl : Int) : Rat)) / (a : Rat)) := by
  unfold lhsNewRelSym
  push_cast
  rcases lt_or_gt_of_ne ha with hn | hp
  · have hn' : (a : Rat) < 0 := by exact_mod_cast hn
    rw [if_pos hn]
    cases rel with
    | le =>
      have h' : (a : Rat) * t + bl ≤ r + br := h
      show (r + ((br : Rat) - bl)) / (a : Rat) ≤ t
      have hc : (0 : Rat) < - (a : Rat) := by linarith
      rw [← neg_div_neg_eq, div_le_iff₀ hc]; linarith
    | ge =>
      have h' : r + br ≤ (a : Rat) * t + bl := h
      show t ≤ (r + ((br : Rat) - bl)) / (a : Rat)
      have hc : (0 : Rat) < - (a : Rat) := by linarith
      rw [← neg_div_neg_eq, le_div_iff₀ hc]; linarith
    | eq =>
      have h' : (a : Rat) * t + bl = r + br := h
      show t = (r + ((br : Rat) - bl)) / (a : Rat)
      rw [eq_div_iff hn'.ne]; linarith
  · have hp' : (0 : Rat) < a := by exact_mod_cast hp
    rw [if_neg (by omega)]
    cases rel with
    | le =>
      have h' : (a : Rat) * t + bl ≤ r + br := h
      show t ≤ (r + ((br : Rat) - bl)) / (a : Rat)
      rw [le_div_iff₀ hp']; linarith
    | ge =>
      have h' : r + br ≤ (a : Rat) * t + bl := h
      show (r + ((br : Rat) - bl)) / (a : Rat) ≤ t
      rw [div_le_iff₀ hp']; linarith
    | eq =>
      have h' : (a : Rat) * t + bl = r + br := h
      show t = (r + ((br : Rat) - bl)) / (a : Rat)
      rw [eq_div_iff hp'.ne']; linarith

section
variable {R : Rnd} (hR : R.Sound) {n : Nat} (rel : RelSym) {el er : Nat → Int} (bl br : Int) {m : Mat}
  {x x' : Nat → Rat}
include hR

/-- `lhs` constant: `refine_no_check(lhs relsym rhs)`; no side condition -/
theorem bdsLhsImage_t0_sound (h0 : exprT el (lastNonzero el n) = 0) (hx : x ∈ γB n m)
    (hag : ∀ i, i < n → el i = 0 → x' i = x i)
    (hrel : rel.holds (linEval el x' n + bl) (linEval er x n + br)) :
    ∃ m', bdsLhsGenAffineImageCore R n rel el bl er br m = some m' ∧ x' ∈ γB n m' := by
  have hall : ∀ i, i < n → x' i = x i := fun i hi => hag i hi (lhs_t0_zero h0 i hi)
  have hx' : x' ∈ γB n m := lhs_holds_congr hall hx
  rw [← linEval_congr_x er hall] at hrel
  obtain ⟨m', hm', hy, _⟩ := lhsRefineRel_sound (R := R) hR.up_le rel bl br (lastNonzero_le el n)
    (lastNonzero_le er n) (lastNonzero_above el n) (lastNonzero_above er n) hx' hrel
  refine ⟨m', ?_, hy⟩
  unfold bdsLhsGenAffineImageCore
  dsimp only [lhsForm, lhsSpaceDim]
  rw [if_pos h0, hm']
  rfl

/-- `lhs == a*v + b`: the delegate `generalized_affine_image(v, relsym', rhs - b_lhs, a)` -/
theorem bdsLhsImage_t1_sound (h1 : exprT el (lastNonzero el n) = 1) (hc : CoeffExact R er) (hx : x ∈ γB n m)
    (hag : ∀ i, i < n → el i = 0 → x' i = x i)
    (hrel : rel.holds (linEval el x' n + bl) (linEval er x n + br)) :
    ∃ m', bdsLhsGenAffineImageCore R n rel el bl er br m = some m' ∧ x' ∈ γB n m' := by
  obtain ⟨hw0, ha0, hz⟩ := lhs_t1_zero h1
  obtain ⟨_, hval⟩ := linEval_t1 x' h1
  have hwn := lastNonzero_le el n
  have hj : lastNonzero el n - 1 < n := by omega
  rw [hval] at hrel
  have hnew := lhs_newRel_holds ha0 hrel
  have hcong : ∀ i, i < n → x' i = upd x (lastNonzero el n - 1) (x' (lastNonzero el n - 1)) i := by
    intro i hi
    unfold upd
    split
    · rename_i h; rw [h]
    · rename_i h; exact hag i hi (hz i hi h)
  unfold bdsLhsGenAffineImageCore
  dsimp only [lhsForm, lhsSpaceDim]
  rw [if_neg (by omega), if_pos h1]
  generalize lhsNewRelSym rel (el (lastNonzero el n - 1)) = rel' at hnew ⊢
  cases rel' with
  | eq =>
    have ht : x' (lastNonzero el n - 1) = _ := hnew
    refine ⟨_, rfl, lhs_holds_congr hcong ?_⟩
    rw [ht]
    exact affineImageCore_sound hR hj hc ha0 hx
  | le =>
    have ht : x' (lastNonzero el n - 1) ≤ _ := hnew
    exact ⟨_, rfl, lhs_holds_congr hcong
      (genAffineImageCore_sound hR hj hc ha0 hx true (by simpa using ht))⟩
  | ge =>
    have ht : _ ≤ x' (lastNonzero el n - 1) := hnew
    exact ⟨_, rfl, lhs_holds_congr hcong
      (genAffineImageCore_sound hR hj hc ha0 hx false (by simpa using ht))⟩

/-- `lhs` general: forget the variables of `lhs`, then (disjoint case) `refine_no_check`; no side condition -/
theorem bdsLhsImage_t2_sound (h0 : ¬ exprT el (lastNonzero el n) = 0) (h1 : ¬ exprT el (lastNonzero el n) = 1)
    (hx : x ∈ γB n m)
    (hag : ∀ i, i < n → el i = 0 → x' i = x i)
    (hrel : rel.holds (linEval el x' n + bl) (linEval er x n + br)) :
    ∃ m', bdsLhsGenAffineImageCore R n rel el bl er br m = some m' ∧ x' ∈ γB n m' := by
  have hfor : x' ∈ γB n (bdsLhsForgetVars (n + 1) (lhsVars el n) m) :=
    holds_forget_lhsVars hx hag (fun i h1 h2 => by omega)
  unfold bdsLhsGenAffineImageCore
  dsimp only [lhsForm, lhsSpaceDim]
  rw [if_neg h0, if_neg h1]
  split
  · rename_i hcom
    have hcom' : lhsHaveCommonVar el er (min (lhsSpaceDim el n) (lhsSpaceDim er n)) = false := by
      simpa [lhsSpaceDim] using hcom
    rw [← lhs_rhs_agree hcom' hag] at hrel
    obtain ⟨m', hm', hy, _⟩ := lhsRefineRel_sound (R := R) hR.up_le rel bl br (lastNonzero_le el n)
      (lastNonzero_le er n) (lastNonzero_above el n) (lastNonzero_above er n) hfor hrel
    rw [hm']
    exact ⟨m', rfl, hy⟩
  · exact ⟨_, rfl, hfor⟩

theorem bdsLhsGenAffineImageCore_sound (hc : exprT el (lastNonzero el n) = 1 → CoeffExact R er)
    (hx : x ∈ γB n m) (hag : ∀ i, i < n → el i = 0 → x' i = x i)
    (hrel : rel.holds (linEval el x' n + bl) (linEval er x n + br)) :
    ∃ m', bdsLhsGenAffineImageCore R n rel el bl er br m = some m' ∧ x' ∈ γB n m' := by
  by_cases h0 : exprT el (lastNonzero el n) = 0
  · exact bdsLhsImage_t0_sound hR rel bl br h0 hx hag hrel
  · by_cases h1 : exprT el (lastNonzero el n) = 1
    · exact bdsLhsImage_t1_sound hR rel bl br h1 (hc h1) hx hag hrel
    · exact bdsLhsImage_t2_sound hR rel bl br h0 h1 hx hag hrel

end

end PPLV.WR

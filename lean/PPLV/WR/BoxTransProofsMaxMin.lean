import PPLV.WR.BoxTransProofsExpr
/-!
# `Box<ITV>`: the emptiness query and `max_min` of the box model

`is_empty()` only touches the cache; `max_min` returns a bound of the expression over the box that
is strict when it is reported as not included.
-/
namespace PPLV.WR.BoxT
open PPLV.Interval
open PPLV.Interval.ExtRat (ninf fin pinf)

theorem Box.isEmptyQ_seq (b : Box) (p : Policy) : (b.isEmptyQ p).2.seq = b.seq := by
  unfold Box.isEmptyQ Box.checkEmpty
  split_ifs <;> simp [Box.setEmpty, Box.setNonempty]

theorem Box.isEmptyQ_dim (b : Box) (p : Policy) : (b.isEmptyQ p).2.dim = b.dim := by
  unfold Box.dim; rw [Box.isEmptyQ_seq]

theorem Box.isEmptyQ_true {b : Box} {p : Policy} {x : Nat → Rat} (h : (b.isEmptyQ p).1 = true) : ¬ b.mem p x := by
  intro hx
  rw [(Box.isEmptyQ_of_mem hx).1] at h
  exact Bool.false_ne_true h

theorem Box.isEmptyQ_false_marked {b : Box} {p : Policy} (h : (b.isEmptyQ p).1 = false) :
    (b.isEmptyQ p).2.markedEmpty = false ∧ ∀ I ∈ b.seq, isEmpty p I = false := by
  unfold Box.isEmptyQ Box.checkEmpty at h ⊢
  split_ifs at h ⊢ with h1 h2
  refine ⟨by simp [Box.setNonempty, Box.markedEmpty], ?_⟩
  intro I hI
  have h3 : (b.seq.any fun I => isEmpty p I) = false := by simpa using h2
  rw [List.any_eq_false] at h3
  simpa using h3 I hI

theorem Box.isEmptyQ_mem_iff {b : Box} {p : Policy} {x : Nat → Rat} : (b.isEmptyQ p).2.mem p x ↔ b.mem p x := by
  constructor
  · intro h
    unfold Box.isEmptyQ Box.checkEmpty at h
    split_ifs at h with h1 h2
    · exact h
    · exact absurd h.1 (by simp [Box.setEmpty, Box.markedEmpty])
    · refine ⟨by simpa using h1, ?_⟩
      intro k hk
      exact h.2 k hk
  · intro h; exact (Box.isEmptyQ_of_mem h).2.1

theorem maxMin_snd (p : Policy) (b : Box) (e : LinExpr) (m : Bool) :
    (maxMin p b e m).2 = if b.dim == 0 then b else (b.isEmptyQ p).2 := by
  unfold maxMin
  split
  · rfl
  · rcases h : b.isEmptyQ p with ⟨em, b'⟩
    simp only []
    split <;> rfl

theorem maxMin_seq (p : Policy) (b : Box) (e : LinExpr) (m : Bool) : (maxMin p b e m).2.seq = b.seq := by
  rw [maxMin_snd]; split
  · rfl
  · exact Box.isEmptyQ_seq b p

theorem maxMin_dim (p : Policy) (b : Box) (e : LinExpr) (m : Bool) : (maxMin p b e m).2.dim = b.dim := by
  unfold Box.dim; rw [maxMin_seq]

theorem maxMin_mem_iff {p : Policy} {b : Box} {e : LinExpr} {m : Bool} {x : Nat → Rat} :
    (maxMin p b e m).2.mem p x ↔ b.mem p x := by
  rw [maxMin_snd]; split
  · exact Iff.rfl
  · exact Box.isEmptyQ_mem_iff

/-- on a finite bound `is_open` is the stored OPEN bit -/
theorem isOpen_fin {p : Policy} {t : BT} {b : Bound} {u : Rat} (h : b.value = fin u) : isOpen p t b = getOpen p b := by
  unfold isOpen
  rw [isBoundaryInfinity_eq]
  unfold normalIsBoundaryInfinity getOpen
  rw [h]
  cases t <;> cases p.storeOpen <;> simp

theorem upperOk_fin {p : Policy} {b : Bound} {u t : Rat} (hv : b.value = fin u) (h : upperOk p b t) :
    t ≤ u ∧ (isOpen p .upper b = true → t < u) := by
  rw [isOpen_fin hv]
  unfold upperOk at h
  rw [hv] at h
  cases ho : getOpen p b <;> rw [ho] at h <;> simp at h ⊢
  · exact h
  · exact ⟨le_of_lt h, h⟩

theorem lowerOk_fin {p : Policy} {b : Bound} {l t : Rat} (hv : b.value = fin l) (h : lowerOk p b t) :
    l ≤ t ∧ (isOpen p .lower b = true → l < t) := by
  rw [isOpen_fin hv]
  unfold lowerOk at h
  rw [hv] at h
  cases ho : getOpen p b <;> rw [ho] at h <;> simp at h ⊢
  · exact h
  · exact ⟨le_of_lt h, h⟩

/-- the side on which `max_min` bounds the expression: from above when maximising -/
def maxMinDir (maximize : Bool) : Dir := if maximize then .up else .down

/-- one term of the loop (pure arithmetic): the bound `xv` of `x_i` is on the side that the sign of `a` asks for -/
theorem maxMin_step {D : Dir} {a : Int} {r s xv xi : Rat} {o oB : Bool} (ha : a ≠ 0) (hacc : dcmp D o r s)
    (hb : dcmp (if decide (a < 0) then D.flip else D) oB xv xi) :
    dcmp D (o || oB) (r + xv * (a : Rat)) (s + (a : Rat) * xi) := by
  rw [mul_comm xv]
  refine dcmp_add hacc ?_
  rcases lt_or_gt_of_ne ha with hn | hp
  · rw [decide_eq_true hn, if_pos rfl] at hb
    have := dcmp_mul_neg (a := (a : Rat)) (by exact_mod_cast hn) hb
    rwa [dcmp_flip, dcmp_flip] at this
  · rw [decide_eq_false (by omega), if_neg Bool.false_ne_true] at hb
    exact dcmp_mul_pos (by exact_mod_cast hp) hb

/-- the test `(a > 0) == maximize` of the loop: the upper bound of `x_i` is read exactly when `a·x_i` has to be
bounded on the side of the extremum by a bound of `x_i` from above -/
theorem maxMin_side {a : Int} (ha : a ≠ 0) (m : Bool) :
    (if decide (a < 0) then (maxMinDir m).flip else maxMinDir m) = if (decide (a > 0) == m) = true then .up else .down := by
  rcases lt_or_gt_of_ne ha with hn | hp
  · rw [decide_eq_true hn, decide_eq_false (by omega : ¬ a > 0)]; cases m <;> rfl
  · rw [decide_eq_false (by omega : ¬ a < 0), decide_eq_true hp]; cases m <;> rfl

/-- the loop of `max_min`: `s` is the exact partial sum, `r` the partial bound, strict once a bound read was open -/
theorem maxMinLoop_sound {p : Policy} {seq : List Iv} {x : Nat → Rat} (m : Bool) :
    ∀ (ts : List (Nat × Int)) (r : Rat) (incl : Bool) (s : Rat) (q : Rat) (incl' : Bool),
      (∀ t ∈ ts, t.2 ≠ 0 ∧ (seq.getD t.1 Iv.empty).mem p (x t.1)) →
      dcmp (maxMinDir m) (!incl) r s →
      maxMinLoop p seq m ts r incl = some (q, incl') →
      dcmp (maxMinDir m) (!incl') q (s + termSum ts x) := by
  intro ts
  induction ts with
  | nil =>
    intro r incl s q incl' _ h1 h
    simp only [maxMinLoop, Option.some.injEq, Prod.mk.injEq] at h
    obtain ⟨rfl, rfl⟩ := h
    simpa using h1
  | cons t ts ih =>
    obtain ⟨i, a⟩ := t
    intro r incl s q incl' hm h1 h
    obtain ⟨ha, hmem⟩ : a ≠ 0 ∧ (seq.getD i Iv.empty).mem p (x i) := hm (i, a) (by simp)
    have hm' : ∀ t ∈ ts, t.2 ≠ 0 ∧ (seq.getD t.1 Iv.empty).mem p (x t.1) := fun t ht => hm t (by simp [ht])
    rw [termSum_cons, ← add_assoc]
    simp only [maxMinLoop] at h
    have hside := maxMin_side ha m
    by_cases hc : (decide (a > 0) == m) = true
    · -- the upper bound of `x_i` is read
      rw [if_pos hc] at h hside
      split at h
      · exact absurd h (by simp)
      · split at h
        · rename_i u hu
          have hb : dcmp (if decide (a < 0) then (maxMinDir m).flip else maxMinDir m)
              (isOpen p .upper (seq.getD i Iv.empty).hi) u (x i) := by
            rw [hside]; exact cmp_iff.2 (upperOk_fin hu hmem.2)
          exact ih _ _ _ q incl' hm' (dcmp_congr (by simp) (maxMin_step ha h1 hb)) h
        · exact absurd h (by simp)
    · rw [if_neg hc] at h hside
      split at h
      · exact absurd h (by simp)
      · split at h
        · rename_i l hl
          have hb : dcmp (if decide (a < 0) then (maxMinDir m).flip else maxMinDir m)
              (isOpen p .lower (seq.getD i Iv.empty).lo) l (x i) := by
            rw [hside]; exact cmp_iff.2 (lowerOk_fin hl hmem.1)
          exact ih _ _ _ q incl' hm' (dcmp_congr (by simp) (maxMin_step ha h1 hb)) h
        · exact absurd h (by simp)

/-- the terms of a well-formed expression read intervals that contain the coordinates -/
theorem terms_mem {p : Policy} {b : Box} {e : LinExpr} {x : Nat → Rat} (hwf : e.WF b.dim) (hx : b.mem p x) :
    ∀ t ∈ e.terms, t.2 ≠ 0 ∧ (b.seq.getD t.1 Iv.empty).mem p (x t.1) := by
  rintro ⟨i, a⟩ ht
  exact ⟨(LinExpr.mem_terms ht).1, hx.2 i (LinExpr.mem_terms_lt hwf ht)⟩

theorem eval_of_dim_zero {e : LinExpr} (hwf : e.WF 0) (x : Nat → Rat) : e.eval x = (e.inhom : Rat) := by
  have : e.coeffs = [] := List.eq_nil_of_length_eq_zero (Nat.le_zero.1 hwf)
  simp [LinExpr.eval, this, LinExpr.dot]

theorem maxMin_fst {p : Policy} {b : Box} {e : LinExpr} {m : Bool} {x : Nat → Rat} (hx : b.mem p x) :
    (maxMin p b e m).1 =
      if b.dim == 0 then some ((e.inhom : Rat), true) else maxMinLoop p b.seq m e.terms (e.inhom : Rat) true := by
  unfold maxMin
  split
  · simp [hx.1]
  · obtain ⟨h1, _, h3⟩ := Box.isEmptyQ_of_mem hx
    rcases h : b.isEmptyQ p with ⟨em, b'⟩
    rw [h] at h1 h3
    simp only at h1 h3
    subst h1
    simp [h3]

/-- `max_min` bounds the expression on the side of the extremum, strictly when the bound is reported as not included -/
theorem maxMin_dcmp {p : Policy} {b : Box} {e : LinExpr} {m : Bool} {x : Nat → Rat} {q : Rat} {incl : Bool}
    (hwf : e.WF b.dim) (h : (maxMin p b e m).1 = some (q, incl)) (hx : b.mem p x) :
    dcmp (maxMinDir m) (!incl) q (e.eval x) := by
  rw [maxMin_fst hx] at h
  split at h
  · rename_i hd
    have hd' : b.dim = 0 := by simpa using hd
    rw [hd'] at hwf
    simp only [Option.some.injEq, Prod.mk.injEq] at h
    obtain ⟨rfl, rfl⟩ := h
    rw [eval_of_dim_zero hwf]; cases m <;> exact le_refl _
  · have := maxMinLoop_sound (x := x) m e.terms (e.inhom : Rat) true (e.inhom : Rat) q incl
      (terms_mem hwf hx) (by cases m <;> exact le_refl _) h
    rwa [LinExpr.eval_eq_terms, add_comm]

theorem maxMin_sound_max {p : Policy} {b : Box} {e : LinExpr} {x : Nat → Rat} {q : Rat} {incl : Bool}
    (hwf : e.WF b.dim) (h : (maxMin p b e true).1 = some (q, incl)) (hx : b.mem p x) :
    e.eval x ≤ q ∧ (incl = false → e.eval x < q) := by
  simpa using cmp_iff.1 (maxMin_dcmp hwf h hx)

theorem maxMin_sound_min {p : Policy} {b : Box} {e : LinExpr} {x : Nat → Rat} {q : Rat} {incl : Bool}
    (hwf : e.WF b.dim) (h : (maxMin p b e false).1 = some (q, incl)) (hx : b.mem p x) :
    q ≤ e.eval x ∧ (incl = false → q < e.eval x) := by
  simpa using cmp_iff.1 (maxMin_dcmp hwf h hx)

example : (maxMin Policy.rational ⟨[⟨⟨fin 0, false⟩, ⟨fin 2, true⟩⟩], false, true⟩ ⟨[3], 1⟩ true).1.isSome
    = true := by decide

end PPLV.WR.BoxT

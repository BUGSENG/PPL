import PPLV.WR.ClosureProofsDeduce
import PPLV.WR.ClosureProofsOct
/-!
# `Octagonal_Shape::deduce_v_pm_u_bounds`, `deduce_minus_v_pm_u_bounds`

The `q ≥ 1` rules subtract the *rounded* half `div_2exp(m_cu_u, 1, ROUND_UP)` from `ub_v`; this is
sound because every caller computes `ub_v` from the same rounded halves.  Accordingly the caller's
bound `c` is assumed over the box of the rounded halves `halfUp up (m[2w+1][2w])`,
`halfUp up (m[2w][2w+1])` (a superset of the exact box).  With a bound over the exact box only, the
`q ≥ 1` rule would not be sound for an inexact `up`.
-/
namespace PPLV.WR
open ExtRat

variable {up : Rat → ExtRat}

theorem oval_even (x : Nat → Rat) (k : Nat) : OctM.oval x (2 * k) = x k := by
  unfold OctM.oval
  rw [if_pos (by omega), show 2 * k / 2 = k by omega]

theorem oval_odd (x : Nat → Rat) (k : Nat) : OctM.oval x (2 * k + 1) = - x k := by
  unfold OctM.oval
  rw [if_neg (by omega), show (2 * k + 1) / 2 = k by omega]

/-- points of a raw pseudo-triangular octagon matrix of dimension `n` -/
def γO (n : Nat) (m : Mat) : Set (ℕ → ℚ) := {x | Holds (SO n) (OctM.oval x) m}

theorem OctM.γ_eq {n : Nat} (m : OctM n) : m.γ = γO n m.e := by
  ext x; exact OctM.sat_iff_holds m x

/-- loop invariant: the new point satisfies the matrix and the unary entries are those of `m` -/
def OInv (n : Nat) (x' : Nat → Rat) (m m' : Mat) : Prop :=
  Holds (SO n) (OctM.oval x') m' ∧
    ∀ w, m' (2 * w) (2 * w + 1) = m (2 * w) (2 * w + 1) ∧ m' (2 * w + 1) (2 * w) = m (2 * w + 1) (2 * w)

theorem OInv.set {n : Nat} {x' : Nat → Rat} {m m' : Mat} (h : OInv n x' m m') {a b : Nat} {v : ExtRat}
    (hnu : ∀ w, ¬ (a = 2 * w ∧ b = 2 * w + 1) ∧ ¬ (a = 2 * w + 1 ∧ b = 2 * w))
    (hv : fin (OctM.oval x' b - OctM.oval x' a) ≤ v) :
    OInv n x' m (m'.set a b v) := by
  constructor
  · intro i j hij
    simp only [Mat.set_apply]
    split
    · rename_i hc; obtain ⟨rfl, rfl⟩ := hc; exact hv
    · exact h.1 i j hij
  · intro w
    simp only [Mat.set_apply]
    rw [if_neg (by have := (hnu w).1; omega), if_neg (by have := (hnu w).2; omega)]
    exact h.2 w

/-- the two alternative cells of one deduced constraint -/
theorem OInv.set2 {n : Nat} {x' : Nat → Rat} {m m' : Mat} (h : OInv n x' m m') {a1 b1 a2 b2 : Nat}
    {v : ExtRat} {D : Rat} (c : Prop) [Decidable c]
    (hn1 : ∀ w, ¬ (a1 = 2 * w ∧ b1 = 2 * w + 1) ∧ ¬ (a1 = 2 * w + 1 ∧ b1 = 2 * w))
    (hn2 : ∀ w, ¬ (a2 = 2 * w ∧ b2 = 2 * w + 1) ∧ ¬ (a2 = 2 * w + 1 ∧ b2 = 2 * w))
    (h1 : OctM.oval x' b1 - OctM.oval x' a1 = D) (h2 : OctM.oval x' b2 - OctM.oval x' a2 = D)
    (hv : fin D ≤ v) :
    OInv n x' m (if c then m'.set a1 b1 v else m'.set a2 b2 v) := by
  split
  · exact h.set hn1 (by rw [h1]; exact hv)
  · exact h.set hn2 (by rw [h2]; exact hv)

theorem oct_box {n : Nat} {x' : Nat → Rat} {m : Mat} (h : Holds (SO n) (OctM.oval x') m) {w : Nat}
    (hw : w < n) : fin (2 * x' w) ≤ m (2 * w + 1) (2 * w) ∧ fin (2 * -(x' w)) ≤ m (2 * w) (2 * w + 1) := by
  have h1 := h (2 * w + 1) (2 * w) ⟨by omega, by unfold rowSize; omega⟩
  have h2 := h (2 * w) (2 * w + 1) ⟨by omega, by unfold rowSize; omega⟩
  rw [oval_even, oval_odd] at h1 h2
  have e1 : x' w - -x' w = 2 * x' w := by ring
  have e2 : -x' w - x' w = 2 * -(x' w) := by ring
  rw [e1] at h1; rw [e2] at h2
  exact ⟨h1, h2⟩

theorem half_box (hup : ∀ x, fin x ≤ up x) {X : Rat} {a : ExtRat} (h : fin (2 * X) ≤ a) :
    fin X ≤ halfUp up a := by
  have := fin_le_halfUp hup h
  rwa [show 2 * X / 2 = X by ring] at this

theorem halfUp_fin_le (hup : ∀ x, fin x ≤ up x) (a : ExtRat) : halfUp fin a ≤ halfUp up a := by
  cases a with
  | pinf => exact le_pinf _
  | fin w => exact hup _

theorem toRat_halfUp_fin (a : ExtRat) : (halfUp fin a).toRat = a.toRat / 2 := by
  cases a with
  | pinf => exact (zero_div 2).symm
  | fin w => rfl

/-- from the rounded box to the exact one -/
theorem Slide.exact (hup : ∀ x, fin x ≤ up x) {E q X c : Rat} {A B : ExtRat}
    (sl : Slide E q X c (halfUp up A) (halfUp up B))
    (h1 : fin (2 * X) ≤ A) (h2 : fin (2 * -X) ≤ B) :
    Slide E q X c (halfUp fin A) (halfUp fin B) :=
  sl.mono (halfUp_fin_le hup A) (halfUp_fin_le hup B) (half_box (fun _ => le_rfl' _) h1)
    (half_box (fun _ => le_rfl' _) h2)

section
variable {n : Nat} {m : Mat} {vid last : Nat} {e : Nat → Int} {d : Int} {b c : Rat}
  {x x' : Nat → Rat}

/-- the old point lies in the box of the rounded halves -/
theorem oct_rbox (hup : ∀ x, fin x ≤ up x) (hlast : last < n)
    (hx' : Holds (SO n) (OctM.oval x') m) (hframe : ∀ u, u ≠ vid → x' u = x u)
    (w : Nat) (hw : w < last + 1) (hwv : w ≠ vid) :
    fin (x w) ≤ halfUp up (m (2 * w + 1) (2 * w)) ∧ fin (-(x w)) ≤ halfUp up (m (2 * w) (2 * w + 1)) := by
  rw [← hframe w hwv]
  have := oct_box hx' (w := w) (by omega)
  exact ⟨half_box hup this.1, half_box hup this.2⟩

/-- the common part of both helpers: a `Slide` over the rounded box for every visited `u ≠ v` -/
theorem oct_slides (hup : ∀ x, fin x ≤ up x) (hd : 0 < d) (hlast : last < n)
    (hx' : Holds (SO n) (OctM.oval x') m)
    (hframe : ∀ u, u ≠ vid → x' u = x u)
    (hS : ∀ y : Nat → Rat, y vid = x vid →
      (∀ w, w < last + 1 → w ≠ vid →
        fin (y w) ≤ halfUp up (m (2 * w + 1) (2 * w)) ∧ fin (-(y w)) ≤ halfUp up (m (2 * w) (2 * w + 1))) →
      (linEval e y (last + 1) + b) / d ≤ c)
    {u : Nat} (hu : u < last + 1) (huv : u ≠ vid) :
    Slide ((linEval e x (last + 1) + b) / d) ((e u : Rat) / d) (x u) c
      (halfUp up (m (2 * u + 1) (2 * u))) (halfUp up (m (2 * u) (2 * u + 1))) :=
  slide_of_box (UBf := fun w => halfUp up (m (2 * w + 1) (2 * w)))
    (LBf := fun w => halfUp up (m (2 * w) (2 * w + 1))) hd (oct_rbox hup hlast hx' hframe) hS hu huv

theorem oct_slides_neg (hup : ∀ x, fin x ≤ up x) (hd : 0 < d) (hlast : last < n)
    (hx' : Holds (SO n) (OctM.oval x') m)
    (hframe : ∀ u, u ≠ vid → x' u = x u)
    (hS : ∀ y : Nat → Rat, y vid = x vid →
      (∀ w, w < last + 1 → w ≠ vid →
        fin (y w) ≤ halfUp up (m (2 * w + 1) (2 * w)) ∧ fin (-(y w)) ≤ halfUp up (m (2 * w) (2 * w + 1))) →
      -((linEval e y (last + 1) + b) / d) ≤ c)
    {u : Nat} (hu : u < last + 1) (huv : u ≠ vid) :
    Slide (-((linEval e x (last + 1) + b) / d)) (((- e u : Int) : Rat) / d) (x u) c
      (halfUp up (m (2 * u + 1) (2 * u))) (halfUp up (m (2 * u) (2 * u + 1))) :=
  slide_of_box_neg (UBf := fun w => halfUp up (m (2 * w + 1) (2 * w)))
    (LBf := fun w => halfUp up (m (2 * w) (2 * w + 1))) hd (oct_rbox hup hlast hx' hframe) hS hu huv

/-- `deduce_v_pm_u_bounds`: the new point `x'` (`x'_v ≤ e(x)/d`, other coordinates those of `x`)
satisfies every bound written by the helper. -/
theorem deduceVPmU_holds (hup : ∀ x, fin x ≤ up x) (hd : 0 < d) (hlast : last < n)
    (hx' : Holds (SO n) (OctM.oval x') m)
    (hframe : ∀ u, u ≠ vid → x' u = x u)
    (hval : x' vid ≤ (linEval e x (last + 1) + b) / d)
    (hS : ∀ y : Nat → Rat, y vid = x vid →
      (∀ w, w < last + 1 → w ≠ vid →
        fin (y w) ≤ halfUp up (m (2 * w + 1) (2 * w)) ∧ fin (-(y w)) ≤ halfUp up (m (2 * w) (2 * w + 1))) →
      (linEval e y (last + 1) + b) / d ≤ c) :
    Holds (SO n) (OctM.oval x') (deduceVPmU up vid last e d (fin c) m) := by
  suffices h : OInv n x' m (deduceVPmU up vid last e d (fin c) m) from h.1
  refine loopUp_rel (fun a b => OInv n x' m a → OInv n x' m b) (fun _ h => h)
    (fun _ _ _ h1 h2 h => h2 (h1 h)) (last + 1) _ ?_ m ⟨hx', fun _ => ⟨rfl, rfl⟩⟩
  intro u hu m' hI
  unfold deduceVPmUStep
  simp only [Nat.mul_comm u 2]
  refine ite_ind _ (fun _ => hI) fun h0 => ite_ind _ (fun _ => hI) fun huv => ?_
  have sl := oct_slides hup hd hlast hx' hframe hS hu huv
  have bx := oct_box hx' (w := u) (by omega)
  rw [hframe u huv] at bx
  have pv0 : OctM.oval x' (2 * vid) = x' vid := oval_even _ _
  have pv1 : OctM.oval x' (2 * vid + 1) = - x' vid := oval_odd _ _
  have pu0 : OctM.oval x' (2 * u) = x u := by rw [oval_even, hframe u huv]
  have pu1 : OctM.oval x' (2 * u + 1) = - x u := by rw [oval_odd, hframe u huv]
  rw [(hI.2 u).1, (hI.2 u).2]
  refine ite_ind _ (fun hpos => ?_) fun hnpos => ?_
  · -- `e u > 0`: bounds on `v - u`
    have hgoal : x' vid - x u ≤ (linEval e x (last + 1) + b) / d - x u := by linarith
    have hcell : ∀ {r : ExtRat}, fin (x' vid - x u) ≤ r → OInv n x' m
        (if 2 * vid < 2 * u then m'.set (2 * u) (2 * vid) r else m'.set (2 * vid + 1) (2 * u + 1) r) :=
      hI.set2 _ (by intro w; omega) (by intro w; omega) (by rw [pv0, pu0]) (by rw [pv1, pu1]; ring)
    refine ite_ind _ (fun hge => hcell ?_) fun hlt => ?_
    · exact fin_le_of_le hgoal (sl.le_subUp hup (q_ge_one hd hge))
    · cases hL : m (2 * u) (2 * u + 1) with
      | pinf => exact hI
      | fin L2 =>
        rw [hL] at sl bx
        exact hcell (fin_le_of_le hgoal ((sl.exact hup bx.1 bx.2).le_addUp hup (q_pos hd hpos)
          (q_lt_one hd hlt) (by rw [toRat_halfUp_fin])))
  · -- `e u < 0`: bounds on `v + u`, the rules for the reflected variable
    have hneg : 0 < - e u := by omega
    have sln := sl.negInt
    have hgoal : x' vid + x u ≤ (linEval e x (last + 1) + b) / d - -(x u) := by linarith
    have hcell : ∀ {r : ExtRat}, fin (x' vid + x u) ≤ r → OInv n x' m
        (if 2 * vid < 2 * u then m'.set (2 * u + 1) (2 * vid) r else m'.set (2 * vid + 1) (2 * u) r) :=
      hI.set2 _ (by intro w; omega) (by intro w; omega) (by rw [pv0, pu1]; ring) (by rw [pv1, pu0]; ring)
    refine ite_ind _ (fun hge => hcell ?_) fun hlt => ?_
    · exact fin_le_of_le hgoal (sln.le_subUp hup (q_ge_one hd hge))
    · cases hU : m (2 * u + 1) (2 * u) with
      | pinf => exact hI
      | fin U2 =>
        rw [hU] at sln bx
        exact hcell (fin_le_of_le hgoal ((sln.exact hup bx.2 (by rw [neg_neg]; exact bx.1)).le_addUp hup
          (q_pos hd hneg) (q_lt_one hd hlt) (by rw [toRat_halfUp_fin]; ring)))

/-- `deduce_minus_v_pm_u_bounds`: the same for `x'_v ≥ e(x)/d` and a bound `c` of `-e/d` over the
(rounded) box. -/
theorem deduceMinusVPmU_holds (hup : ∀ x, fin x ≤ up x) (hd : 0 < d) (hlast : last < n)
    (hx' : Holds (SO n) (OctM.oval x') m)
    (hframe : ∀ u, u ≠ vid → x' u = x u)
    (hval : (linEval e x (last + 1) + b) / d ≤ x' vid)
    (hS : ∀ y : Nat → Rat, y vid = x vid →
      (∀ w, w < last + 1 → w ≠ vid →
        fin (y w) ≤ halfUp up (m (2 * w + 1) (2 * w)) ∧ fin (-(y w)) ≤ halfUp up (m (2 * w) (2 * w + 1))) →
      -((linEval e y (last + 1) + b) / d) ≤ c) :
    Holds (SO n) (OctM.oval x') (deduceMinusVPmU up vid last e d (fin c) m) := by
  suffices h : OInv n x' m (deduceMinusVPmU up vid last e d (fin c) m) from h.1
  refine loopUp_rel (fun a b => OInv n x' m a → OInv n x' m b) (fun _ h => h)
    (fun _ _ _ h1 h2 h => h2 (h1 h)) (last + 1) _ ?_ m ⟨hx', fun _ => ⟨rfl, rfl⟩⟩
  intro u hu m' hI
  unfold deduceMinusVPmUStep
  simp only [Nat.mul_comm u 2]
  refine ite_ind _ (fun _ => hI) fun h0 => ite_ind _ (fun _ => hI) fun huv => ?_
  have sl := oct_slides_neg hup hd hlast hx' hframe hS hu huv
  have bx := oct_box hx' (w := u) (by omega)
  rw [hframe u huv] at bx
  have pv0 : OctM.oval x' (2 * vid) = x' vid := oval_even _ _
  have pv1 : OctM.oval x' (2 * vid + 1) = - x' vid := oval_odd _ _
  have pu0 : OctM.oval x' (2 * u) = x u := by rw [oval_even, hframe u huv]
  have pu1 : OctM.oval x' (2 * u + 1) = - x u := by rw [oval_odd, hframe u huv]
  rw [(hI.2 u).1, (hI.2 u).2]
  refine ite_ind _ (fun hpos => ?_) fun hnpos => ?_
  · -- `e u > 0`: bounds on `u - v`, the rules for the reflected variable
    have sln := sl.negInt
    rw [neg_neg] at sln
    have hgoal : x u - x' vid ≤ -((linEval e x (last + 1) + b) / d) - -(x u) := by linarith
    have hcell : ∀ {r : ExtRat}, fin (x u - x' vid) ≤ r → OInv n x' m
        (if 2 * vid < 2 * u then m'.set (2 * u + 1) (2 * vid + 1) r else m'.set (2 * vid) (2 * u) r) :=
      hI.set2 _ (by intro w; omega) (by intro w; omega) (by rw [pv1, pu1]; ring) (by rw [pv0, pu0])
    refine ite_ind _ (fun hge => hcell ?_) fun hlt => ?_
    · exact fin_le_of_le hgoal (sln.le_subUp hup (q_ge_one hd hge))
    · cases hU : m (2 * u + 1) (2 * u) with
      | pinf => exact hI
      | fin U2 =>
        rw [hU] at sln bx
        exact hcell (fin_le_of_le hgoal ((sln.exact hup bx.2 (by rw [neg_neg]; exact bx.1)).le_addUp hup
          (q_pos hd hpos) (q_lt_one hd hlt) (by rw [toRat_halfUp_fin]; ring)))
  · -- `e u < 0`: bounds on `-v - u`
    have hneg : 0 < - e u := by omega
    have hgoal : -x' vid - x u ≤ -((linEval e x (last + 1) + b) / d) - x u := by linarith
    have hcell : ∀ {r : ExtRat}, fin (-x' vid - x u) ≤ r → OInv n x' m
        (if 2 * vid < 2 * u then m'.set (2 * u) (2 * vid + 1) r else m'.set (2 * vid) (2 * u + 1) r) :=
      hI.set2 _ (by intro w; omega) (by intro w; omega) (by rw [pv1, pu0]) (by rw [pv0, pu1]; ring)
    refine ite_ind _ (fun hge => hcell ?_) fun hlt => ?_
    · exact fin_le_of_le hgoal (sl.le_subUp hup (q_ge_one hd hge))
    · cases hL : m (2 * u) (2 * u + 1) with
      | pinf => exact hI
      | fin L2 =>
        rw [hL] at sl bx
        exact hcell (fin_le_of_le hgoal ((sl.exact hup bx.1 bx.2).le_addUp hup (q_pos hd hneg)
          (q_lt_one hd hlt) (by rw [toRat_halfUp_fin]; push_cast; ring)))

end
end PPLV.WR

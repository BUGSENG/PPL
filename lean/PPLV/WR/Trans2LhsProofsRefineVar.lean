import PPLV.WR.Trans2LhsProofsBase
/-!
# The private `BD_Shape<T>::refine(var, relsym, expr, denominator)` as an entry point

Soundness is `refineVar_sound` (`TransProofsPre.lean`).  "Entries only decrease" holds in the cases `t == 0` and
`t == 1` (only `add_dbm_constraint` writes); it FAILS in the general case: `deduce_v_minus_u_bounds` /
`deduce_u_minus_v_bounds` (and, for `EQUAL`, `dbm[0][v] = sum`) overwrite cells unconditionally
(`bdsRefineVar_not_decreasing`).
-/
namespace PPLV.WR
open ExtRat

theorem lhs_addDbm_mle (m : Mat) (i j : Nat) (k : ExtRat) : MLe (addDbmConstraint m i j k) m := by
  intro a b
  rw [addDbm_apply]
  split
  · rename_i h; obtain ⟨rfl, rfl⟩ := h; exact minA_le_left _ _
  · exact le_rfl' _

theorem lhs_mle_trans {a b c : Mat} (h1 : MLe a b) (h2 : MLe b c) : MLe a c :=
  fun i j => le_trans' (h1 i j) (h2 i j)

/-- `t == 0` or `t == 1` with `a == denominator`: only `add_dbm_constraint` writes, entries only decrease -/
theorem bdsRefineVar_mle_special (R : Rnd) (n var : Nat) (rel : RelSym) (e : Nat → Int) (b den : Int) (m : Mat)
    (hsp : exprT e (lastNonzero e n) = 0 ∨
      (exprT e (lastNonzero e n) = 1 ∧ e (lastNonzero e n - 1) = den)) :
    MLe (bdsRefineVar R n var rel e b den m) m := by
  unfold bdsRefineVar refineVar
  dsimp only
  rcases hsp with h0 | ⟨h1, ha⟩
  · have hT : (if exprT e (lastNonzero e n) = 1 ∧ e (lastNonzero e n - 1) ≠ den then 2
        else exprT e (lastNonzero e n)) = 0 := by rw [if_neg (by omega)]; exact h0
    rw [hT, if_pos rfl]
    cases rel <;> dsimp only <;> simp only [addDbmF_fst]
    · exact lhs_addDbm_mle _ _ _ _
    · exact lhs_addDbm_mle _ _ _ _
    · exact lhs_mle_trans (lhs_addDbm_mle _ _ _ _) (lhs_addDbm_mle _ _ _ _)
  · have hT : (if exprT e (lastNonzero e n) = 1 ∧ e (lastNonzero e n - 1) ≠ den then 2
        else exprT e (lastNonzero e n)) = 1 := by
      rw [if_neg (by intro h; exact h.2 ha)]; exact h1
    rw [hT, if_neg (by decide), if_pos rfl]
    cases rel <;> dsimp only <;> simp only [addDbmF_fst]
    · exact lhs_addDbm_mle _ _ _ _
    · exact lhs_addDbm_mle _ _ _ _
    · exact lhs_mle_trans (lhs_addDbm_mle _ _ _ _) (lhs_addDbm_mle _ _ _ _)

/-- `0 ≤ x₀, x₁, x₂ ≤ 10`, `x₀ - x₁ ≤ 0` (shortest-path closed) -/
def lhsExLoose : DBM 3 := DBM.ofLists 3
  [[pinf, fin 10, fin 10, fin 10],
   [fin 0, pinf, fin 10, fin 10],
   [fin 0, fin 0, pinf, fin 10],
   [fin 0, fin 10, fin 10, pinf]]

/-- `refine(x₀, ≤, x₁ + x₂, 1)` on it: `deduce_v_minus_u_bounds` OVERWRITES the cell of `x₀ - x₁ ≤ 0` by
`ub_v - ub_u = 20 - 10`: the private `refine` is not a refinement entry-wise (no point that satisfies the
relation is lost, and its only caller forgets `var` right afterwards) -/
theorem bdsRefineVar_not_decreasing :
    (bdsRefineVar Rnd.exact 3 0 .le (fun i => if i = 1 ∨ i = 2 then 1 else 0) 0 1 lhsExLoose.e) 2 1 = fin 10 ∧
    lhsExLoose.e 2 1 = fin 0 := by
  decide +kernel

end PPLV.WR

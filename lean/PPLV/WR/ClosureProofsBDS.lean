import PPLV.WR.ClosureProofsBase
/-!
# `BD_Shape` closure kernels: every step keeps every point and only lowers entries
-/
namespace PPLV.WR
open ExtRat

/-- index pairs of a square matrix with `rows` rows -/
def SB (rows : Nat) : Nat → Nat → Prop := fun a b => a < rows ∧ b < rows

variable {up : Rat → ExtRat} {P : (Nat → Rat) → Prop}

theorem pres_bdsRelax (hup : ∀ x, fin x ≤ up x) {rows k : Nat} (hk : k < rows) (i j : Nat) (m : Mat) :
    Pres (SB rows) P m (bdsRelax up m i k j) := by
  unfold bdsRelax
  apply Pres.set
  · exact minA_le_left _ _
  · intro p _ h hij
    apply le_minA (h i j hij)
    have := fin_le_addUp hup (h i k ⟨hij.1, hk⟩) (h k j ⟨hk, hij.2⟩)
    have e : p j - p i = (p k - p i) + (p j - p k) := by ring
    rw [e]; exact this

theorem pres_bdsLoops (hup : ∀ x, fin x ≤ up x) (rows : Nat) (m : Mat) :
    Pres (SB rows) P m (bdsLoops up rows m) := by
  unfold bdsLoops
  apply Pres.loopDown; intro k hk m
  apply Pres.loopDown; intro i _ m
  apply Pres.ite; exact Pres.refl _
  apply Pres.loopDown; intro j _ m
  apply Pres.ite; exact Pres.refl _
  exact pres_bdsRelax hup hk i j m

theorem pres_bdsIncStep1 (hup : ∀ x, fin x ≤ up x) (rows v : Nat) (m : Mat) :
    Pres (SB rows) P m (bdsIncStep1 up rows v m) := by
  unfold bdsIncStep1
  apply Pres.loopDown; intro k hk m
  apply Pres.ite
  · apply Pres.ite
    · apply Pres.loopDown; intro i _ m
      exact Pres.after (Pres.iteSkip _ (pres_bdsRelax hup hk v i _)) (Pres.iteSkip _ (pres_bdsRelax hup hk i v m))
    · apply Pres.loopDown; intro i _ m
      apply Pres.ite; exact Pres.refl _
      exact pres_bdsRelax hup hk v i m
  · apply Pres.ite
    · apply Pres.loopDown; intro i _ m
      apply Pres.ite; exact Pres.refl _
      exact pres_bdsRelax hup hk i v m
    · exact Pres.refl _

theorem pres_bdsIncStep2 (hup : ∀ x, fin x ≤ up x) {rows v : Nat} (hv : v < rows) (m : Mat) :
    Pres (SB rows) P m (bdsIncStep2 up rows v m) := by
  unfold bdsIncStep2
  apply Pres.loopDown; intro i _ m
  apply Pres.ite; exact Pres.refl _
  apply Pres.loopDown; intro j _ m
  apply Pres.ite; exact Pres.refl _
  exact pres_bdsRelax hup hv i j m

/-! ## wrapping: fill the diagonal, run the kernel, test, restore -/

theorem holds_diagDown_zero {rows : Nat} {p : Nat → Rat} {m : Mat} (h : Holds (SB rows) p m) :
    Holds (SB rows) p (Mat.diagDown rows (fin 0) m) :=
  h.fill_diag (Mat.diagDown_apply _ _ _) (le_rfl' _)

theorem holds_diagDown_pinf {rows : Nat} {p : Nat → Rat} {m : Mat} (h : Holds (SB rows) p m) :
    Holds (SB rows) p (Mat.diagDown rows pinf m) :=
  h.fill_diag (Mat.diagDown_apply _ _ _) (le_pinf _)

namespace DBM
variable {n : Nat}

theorem sat_iff_holds (m : DBM n) (x : Nat → Rat) : m.Sat x ↔ Holds (SB (n+1)) (val x) m.e := by
  constructor
  · intro h a b hab
    exact h a b (Nat.lt_succ_iff.1 hab.1) (Nat.lt_succ_iff.1 hab.2)
  · intro h i j hi hj
    exact h i j ⟨Nat.lt_succ_of_le hi, Nat.lt_succ_of_le hj⟩

/-- a kernel `F` run between "fill the diagonal with zeros" and "restore `+∞`" -/
theorem wrap_core_holds (F : Mat → Mat) (hF : ∀ m, Pres (SB (n+1)) (fun _ => True) m (F m))
    (m : DBM n) (x : Nat → Rat) (hx : m.Sat x) :
    Holds (SB (n+1)) (val x) (F (Mat.diagDown (n+1) (fin 0) m.e)) :=
  (hF _).1 _ trivial (holds_diagDown_zero ((sat_iff_holds m x).1 hx))

theorem wrap_le (F : Mat → Mat) (hF : ∀ m, Pres (SB (n+1)) (fun _ => True) m (F m))
    (m : DBM n) (i j : Nat) :
    Mat.diagDown (n+1) pinf (F (Mat.diagDown (n+1) (fin 0) m.e)) i j ≤ m.e i j :=
  fill_restore_le (fill := Mat.diagDown (n+1)) (Mat.diagDown_apply _) (fun m => (hF m).2)
    (fun i hi => m.diag i (Nat.lt_succ_iff.1 hi)) i j

theorem closure_sat (hup : ∀ x, fin x ≤ up x) (m : DBM n) (x : Nat → Rat) (hx : m.Sat x) :
    (closure up m).Sat x := by
  rw [sat_iff_holds]
  exact holds_diagDown_pinf (wrap_core_holds (bdsLoops up (n+1)) (pres_bdsLoops hup (n+1)) m x hx)

theorem closure_le (hup : ∀ x, fin x ≤ up x) (m : DBM n) : closure up m ≤ m :=
  fun i j _ _ => wrap_le (bdsLoops up (n+1)) (pres_bdsLoops hup (n+1)) m i j

theorem closureEmpty_sound (hup : ∀ x, fin x ≤ up x) (m : DBM n) (he : closureEmpty up m = true)
    (x : Nat → Rat) : ¬ m.Sat x := by
  intro hx
  have h := wrap_core_holds (bdsLoops up (n+1)) (pres_bdsLoops hup (n+1)) m x hx
  have := h.negDiag_false (k := n+1) (fun h hh => ⟨hh, hh⟩)
  unfold closureEmpty bdsCore at he
  rw [this] at he
  exact Bool.false_ne_true he

theorem pres_bdsInc (hup : ∀ x, fin x ≤ up x) {v : Nat} (hv : v ≤ n) (m : Mat) :
    Pres (SB (n+1)) (fun _ => True) m (bdsIncStep2 up (n+1) v (bdsIncStep1 up (n+1) v m)) :=
  (pres_bdsIncStep1 hup (n+1) v m).trans (pres_bdsIncStep2 hup (Nat.lt_succ_of_le hv) _)

theorem incClosure_sat (hup : ∀ x, fin x ≤ up x) {v : Nat} (hv : v ≤ n) (m : DBM n) (x : Nat → Rat)
    (hx : m.Sat x) : (incClosure up v m).Sat x := by
  rw [sat_iff_holds]
  exact holds_diagDown_pinf (wrap_core_holds _ (pres_bdsInc hup hv) m x hx)

theorem incClosure_le (hup : ∀ x, fin x ≤ up x) {v : Nat} (hv : v ≤ n) (m : DBM n) :
    incClosure up v m ≤ m :=
  fun i j _ _ => wrap_le _ (pres_bdsInc hup hv) m i j

theorem incClosureEmpty_sound (hup : ∀ x, fin x ≤ up x) {v : Nat} (hv : v ≤ n) (m : DBM n)
    (he : incClosureEmpty up v m = true) (x : Nat → Rat) : ¬ m.Sat x := by
  intro hx
  have h := wrap_core_holds _ (pres_bdsInc hup hv) m x hx
  have := h.negDiag_false (k := n+1) (fun h hh => ⟨hh, hh⟩)
  unfold incClosureEmpty bdsIncCore at he
  rw [this] at he
  exact Bool.false_ne_true he

/-- the set of points of a difference-bound matrix -/
def γ (m : DBM n) : Set (ℕ → ℚ) := {x | m.Sat x}

end DBM
end PPLV.WR

import PPLV.WR.BoxTransProofsRefine
/-!
# `Box<ITV>`: soundness of the four blocks of `propagate_constraint_no_check`

`blockLoop_sound` / `runBlock_sound` cover the four blocks at once: they take the direction table of
a block through the predicate `Block.OK B D pos`, where

* `D` is the direction in which the numerator `t_bound` is approximated (`.down`: a lower
  approximation of `−n − Σ_{i≠k} a_i x_i`, `.up`: an upper approximation);
* `pos` is the sign of `a_k`.

The invariant of the loop is `dcmp D (opn || inex) t_bound Y`: the temporary is on the `D` side of
the exact value, strictly so as soon as the OPEN flag or the "some operation was inexact" flag is
set.  The coefficients are assumed to be values of the temporary type (`CoeffsExact`): without
that the code is not sound (`BoxTransProofsFails.lean`).
-/
namespace PPLV.WR.BoxT
open PPLV.Interval
open PPLV.Interval.ExtRat (ninf fin pinf)

/-- a successful operation stores a value on the side of its direction, different from the exact
result when it is reported inexact -/
theorem tmpOp_sound {TR : Rounding} (hT : TR.Sound) {d : Dir} {q v : Rat} {i : Bool}
    (h : tmpOp TR d q = some (v, i)) : dcmp d i v q := by
  unfold tmpOp at h
  split at h
  · rename_i w hw
    simp only [Option.some.injEq, Prod.mk.injEq] at h
    obtain ⟨rfl, rfl⟩ := h
    have hle : dcmp d false w q := by
      cases d
      · have := hT.down_le q; rwa [show TR.down q = fin w from hw, lowerOkV_fin_closed] at this
      · have := hT.le_up q; rwa [show TR.up q = fin w from hw, upperOkV_fin_closed] at this
    by_cases hwq : w = q
    · rw [hwq] at hle ⊢; simpa using hle
    · rw [show (w != q) = true by simpa using hwq]
      cases d
      · exact lt_of_le_of_ne hle hwq
      · exact lt_of_le_of_ne hle (Ne.symm hwq)
  · simp at h

/-- a coefficient that is a value of the temporary type is stored exactly -/
theorem tmpOp_exact {TR : Rounding} {z : Int} (h : ExactAt TR z) (d : Dir) :
    tmpOp TR d (z : Rat) = some ((z : Rat), false) := by
  cases d <;> simp [tmpOp, rnd, h.1, h.2]

theorem isOpen_eq_getOpen {p : Policy} {t : BT} {b : Bound} (h : isBoundaryInfinity p t b = false) :
    isOpen p t b = getOpen p b := by
  unfold isOpen getOpen
  cases p.storeOpen <;> simp [h]

/-- the bound of `x_i` read for the side `d` (`.down`: the lower bound) is on the side `d` of `x_i` -/
theorem read_bound {p : Policy} {I : Iv} {xi xv : Rat} (d : Dir) (hI : I.mem p xi)
    (hinf : isBoundaryInfinity p (if decide (d = .down) then .lower else .upper)
      (if decide (d = .down) then I.lo else I.hi) = false)
    (hxv : (if decide (d = .down) then I.lo else I.hi).value = fin xv) :
    dcmp d (isOpen p (if decide (d = .down) then .lower else .upper) (if decide (d = .down) then I.lo else I.hi))
      xv xi := by
  rw [isOpen_eq_getOpen hinf]
  cases d
  · exact (lowerOkV_fin_iff ..).1 (hxv ▸ hI.1)
  · exact (upperOkV_fin_iff ..).1 (hxv ▸ hI.2)

/-- the directions of the block fit the approximation side `D` of the numerator and the sign
`pos` of `a_k` (the directions of `assign_r(t_a, a_i, ·)` do not matter: the coefficients are
exact).  A term with `a_i < 0` (`neg`) needs `x_i` approximated on the side `D`, a term with
`a_i > 0` on the other side, for `−a_i x_i` to err towards `D`. -/
structure Block.OK (B : Block) (D : Dir) (pos : Bool) : Prop where
  hInh : B.dInh = D.flip
  hNeg : B.dNeg = D
  hLower : ∀ neg : Bool, (if neg then B.negLower else B.posLower) = decide ((if neg then D else D.flip) = .down)
  hX : ∀ neg : Bool, (if neg then B.dNegX else B.dPosX) = if neg then D else D.flip
  hSub : ∀ neg : Bool, (if neg then B.dSubMulNeg else B.dSubMulPos) = D
  hDiv : B.dDiv = if pos then D else D.flip
  hRef : B.refinesLower = decide (B.dDiv = .down)

theorem blockPosLower_ok : blockPosLower.OK .down true := by constructor <;> decide
theorem blockPosUpper_ok : blockPosUpper.OK .up true := by constructor <;> decide
theorem blockNegUpper_ok : blockNegUpper.OK .down false := by constructor <;> decide
theorem blockNegLower_ok : blockNegLower.OK .up false := by constructor <;> decide

/-- `Σ_{i ≠ k} a_i x_i` -/
def restSum (k : Nat) (ts : List (Nat × Int)) (x : Nat → Rat) : Rat :=
  termSum (ts.filter fun t => !(t.1 == k)) x

@[simp] theorem restSum_nil (k : Nat) (x : Nat → Rat) : restSum k [] x = 0 := rfl

theorem restSum_cons_eq {k i : Nat} {a : Int} (ts : List (Nat × Int)) (x : Nat → Rat) (h : (i == k) = true) :
    restSum k ((i, a) :: ts) x = restSum k ts x := by
  simp [restSum, h]

theorem restSum_cons_ne {k i : Nat} {a : Int} (ts : List (Nat × Int)) (x : Nat → Rat) (h : (i == k) = false) :
    restSum k ((i, a) :: ts) x = (a : Rat) * x i + restSum k ts x := by
  simp [restSum, h]

theorem restSum_eq_termSum {k : Nat} {ts : List (Nat × Int)} (x : Nat → Rat) (h : ∀ t ∈ ts, t.1 ≠ k) :
    restSum k ts x = termSum ts x := by
  unfold restSum
  rw [List.filter_eq_self.2]
  intro t ht
  simpa using h t ht

/-- the term of `x_k` is split off -/
theorem termSum_split {k : Nat} {ak : Int} {ts : List (Nat × Int)} (x : Nat → Rat)
    (hp : ts.Pairwise (fun s t => s.1 < t.1)) (hm : (k, ak) ∈ ts) :
    termSum ts x = (ak : Rat) * x k + restSum k ts x := by
  induction ts with
  | nil => simp at hm
  | cons t ts ih =>
    rw [List.pairwise_cons] at hp
    rcases List.mem_cons.1 hm with heq | hmem
    · subst heq
      rw [restSum_cons_eq ts x (by simp), termSum_cons]
      rw [restSum_eq_termSum x (fun t ht => by have := hp.1 t ht; simp at this; omega)]
    · have hlt : t.1 < k := hp.1 _ hmem
      rw [restSum_cons_ne ts x (by simp; omega), termSum_cons, ih hp.2 hmem]
      ring

/-- one term (pure arithmetic): `tx` approximates `x_i`, `pr` the product `a·tx`, `tb` the difference -/
theorem dcmp_term {D : Dir} {a : Int} {xi tx pr acc Y tb : Rat} {o o1 o3 o4 : Bool} (ha : a ≠ 0)
    (htx : dcmp (if decide (a < 0) then D else D.flip) o1 tx xi) (hpr : dcmp D.flip o3 pr ((a : Rat) * tx))
    (hacc : dcmp D o acc Y) (htb : dcmp D o4 tb (acc - pr)) :
    dcmp D (o4 || (o || (o3 || o1))) tb (Y - (a : Rat) * xi) := by
  have hm : dcmp D.flip o1 ((a : Rat) * tx) ((a : Rat) * xi) := by
    rcases lt_or_gt_of_ne ha with hn | hp
    · rw [decide_eq_true hn, if_pos rfl] at htx
      exact dcmp_mul_neg (by exact_mod_cast hn) htx
    · rw [decide_eq_false (by omega), if_neg Bool.false_ne_true] at htx
      exact dcmp_mul_pos (by exact_mod_cast hp) htx
  exact dcmp_trans htb (dcmp_sub hacc (dcmp_trans hpr hm))

/-- what the box and the constraint give for every term -/
def TermsOK (cfg : Cfg) (seq : List Iv) (x : Nat → Rat) (ts : List (Nat × Int)) : Prop :=
  ∀ t ∈ ts, t.2 ≠ 0 ∧ ExactAt cfg.TR t.2 ∧ (seq.getD t.1 Iv.empty).mem cfg.p (x t.1)

theorem blockLoop_sound {cfg : Cfg} (hT : cfg.TR.Sound) {B : Block} {D : Dir} {pos : Bool} (hOK : B.OK D pos)
    {seq : List Iv} {k : Nat} {x : Nat → Rat} (ts : List (Nat × Int)) (hts : TermsOK cfg seq x ts)
    (acc acc' : Acc) (Y : Rat) (hacc : dcmp D (acc.opn || acc.inex) acc.v Y)
    (h : blockLoop cfg B seq k ts acc = some acc') :
    dcmp D (acc'.opn || acc'.inex) acc'.v (Y - restSum k ts x) := by
  induction ts generalizing acc Y with
  | nil =>
    simp only [blockLoop, Option.some.injEq] at h
    subst h
    simpa using hacc
  | cons t ts ih =>
    obtain ⟨i, a⟩ := t
    obtain ⟨ha0, hex, hI⟩ : a ≠ 0 ∧ ExactAt cfg.TR a ∧ (seq.getD i Iv.empty).mem cfg.p (x i) := hts (i, a) (by simp)
    have hts' : TermsOK cfg seq x ts := fun t ht => hts t (List.mem_cons_of_mem _ ht)
    by_cases hik : (i == k) = true
    · rw [blockLoop, if_pos hik] at h
      rw [restSum_cons_eq ts x hik]
      exact ih hts' acc Y hacc h
    · rw [restSum_cons_ne ts x (by simpa using hik), ← sub_sub]
      rw [blockLoop, if_neg hik] at h
      simp only [hOK.hLower, hOK.hX, hOK.hSub, tmpOp_exact hex] at h
      -- `h` says that no `goto` was taken: name what each operation stored
      generalize hd : (if decide (a < 0) = true then D else D.flip) = d at h
      rw [Option.ite_none_left_eq_some, Bool.not_eq_true] at h
      obtain ⟨hinf, h⟩ := h
      split at h
      · rename_i xv hxv
        split at h
        · simp at h
        rename_i tx i2 htx
        split at h
        · simp at h
        rename_i pr i3 hpr
        split at h
        · simp at h
        rename_i tb i4 htb
        subst hd
        refine ih hts' ⟨tb, _, _⟩ _ (dcmp_congr ?_ (dcmp_term ha0
          (dcmp_trans (tmpOp_sound hT htx) (read_bound _ hI hinf hxv)) (tmpOp_sound hT hpr) hacc
          (tmpOp_sound hT htb))) h
        dsimp only
        ac_rfl
      · simp at h

/-- a block that runs to its end computes a bound that the point `x` satisfies; `hY` is the
constraint read as `−n ⋈ a_k x_k + Σ_{i≠k} a_i x_i` on the side `D` -/
theorem runBlock_sound {cfg : Cfg} (hS : cfg.Sound) {B : Block} {D : Dir} {pos : Bool} (hOK : B.OK D pos)
    {seq : List Iv} {c : Con} {k : Nat} {ak : Int} {strict : Bool} {x : Nat → Rat} {I : Iv}
    (hak : if pos then 0 < ak else ak < 0) (hakex : ExactAt cfg.TR ak)
    (hts : TermsOK cfg seq x c.e.terms) (hk : (seq.getD k Iv.empty).mem cfg.p (x k))
    (hY : dcmp D strict (-(c.e.inhom : Rat)) ((ak : Rat) * x k + restSum k c.e.terms x))
    (h : runBlock cfg B seq c k ak strict = some I) : I.mem cfg.p (x k) := by
  have hT := hS.TR
  unfold runBlock at h
  split at h
  · simp at h
  rename_i t0 i0 h0
  split at h
  · simp at h
  rename_i t1 i1 h1
  split at h
  · simp at h
  rename_i acc hloop
  simp only [tmpOp_exact hakex] at h
  split at h
  · simp at h
  split at h
  · simp at h
  rename_i tb i3 hdiv
  simp only [Option.some.injEq] at h
  subst h
  apply addConstraintIv_sound hS.R hk
  have s0 := tmpOp_sound hT h0
  have s1 := tmpOp_sound hT h1
  have sd := tmpOp_sound hT hdiv
  rw [hOK.hInh] at s0
  rw [hOK.hNeg] at s1
  rw [hOK.hDiv] at sd
  rw [hOK.hRef, hOK.hDiv]
  -- `t_bound` before the loop is `−n` rounded twice towards `D`
  have hinit : dcmp D (strict || (i0 || i1)) t1 ((ak : Rat) * x k + restSum k c.e.terms x) :=
    dcmp_congr (by ac_rfl) (dcmp_trans s1 (dcmp_trans (dcmp_neg s0) hY))
  have hloop' := blockLoop_sound hT hOK c.e.terms hts ⟨t1, strict, i0 || i1⟩ acc _ hinit hloop
  rw [add_sub_cancel_right] at hloop'
  have hflag : (acc.opn || (acc.inex || false || i3) && cfg.fpu) = true → (i3 || (acc.opn || acc.inex)) = true := by
    cases acc.opn <;> cases acc.inex <;> cases i3 <;> cases cfg.fpu <;> simp
  cases pos
  · have hak' : ak < 0 := hak
    exact rel_of_dcmp (dcmp_trans sd (dcmp_div_neg (by exact_mod_cast hak') hloop')) hflag
  · have hak' : 0 < ak := hak
    exact rel_of_dcmp (dcmp_trans sd (dcmp_div_pos (by exact_mod_cast hak') hloop')) hflag

end PPLV.WR.BoxT

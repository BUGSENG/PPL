import PPLV.WR.ReduceOctProofsChains
/-!
# Octagon reduction: positions in the vector of non-singular leaders (`rs_li` is the position of the odd
partner), and the redundancy test `octToAdd` read on the full view (every raw read is a stored cell)
-/
namespace PPLV.WR
open ExtRat (fin pinf addUp halfUp)

/-! ## positions in a filtered range -/

/-- number of selected indices below `i`: the position of `i` in the filtered list -/
def fpos (P : Nat → Bool) (i : Nat) : Nat := ((List.range i).filter P).length

theorem fpos_succ (P : Nat → Bool) (i : Nat) : fpos P (i + 1) = fpos P i + if P i then 1 else 0 := by
  unfold fpos
  rw [List.range_succ, List.filter_append, List.length_append]
  cases h : P i <;> simp [List.filter, h]

theorem fpos_mono (P : Nat → Bool) {j i : Nat} (h : j ≤ i) : fpos P j ≤ fpos P i := by
  induction i with
  | zero => have : j = 0 := by omega
            subst this; exact Nat.le_refl _
  | succ i ih =>
    by_cases e : j = i + 1
    · subst e; exact Nat.le_refl _
    · have := ih (by omega)
      rw [fpos_succ]; omega

theorem filter_getElem_fpos (P : Nat → Bool) (N i : Nat) (hi : i < N) (hP : P i = true) :
    ((List.range N).filter P)[fpos P i]? = some i := by
  induction N with
  | zero => omega
  | succ N ih =>
    rw [List.range_succ, List.filter_append]
    by_cases e : i = N
    · subst e
      have : List.filter P [i] = [i] := by simp [List.filter, hP]
      rw [this]
      unfold fpos
      rw [List.getElem?_append_right (Nat.le_refl _)]
      simp
    · have h := ih (by omega)
      have hlt : fpos P i < ((List.range N).filter P).length := by
        by_contra hcon
        rw [List.getElem?_eq_none (by omega)] at h
        cases h
      rw [List.getElem?_append_left hlt]
      exact h

theorem filter_getD_fpos (P : Nat → Bool) (N i : Nat) (hi : i < N) (hP : P i = true) :
    ((List.range N).filter P).getD (fpos P i) 0 = i ∧ fpos P i < ((List.range N).filter P).length := by
  have h := filter_getElem_fpos P N i hi hP
  constructor
  · rw [List.getD_eq_getElem?_getD, h]; rfl
  · by_contra hcon
    rw [List.getElem?_eq_none (by omega)] at h
    cases h

/-- with `P` constant on the pairs `{2g, 2g+1}` the position of an even index is even -/
theorem fpos_even (P : Nat → Bool) (N : Nat) (hpair : ∀ g, 2 * g + 1 < N → P (2 * g) = P (2 * g + 1)) :
    ∀ h, 2 * h ≤ N → fpos P (2 * h) % 2 = 0 := by
  intro h
  induction h with
  | zero => intro _; rfl
  | succ h ih =>
    intro hN
    have := ih (by omega)
    have e : 2 * (h + 1) = 2 * h + 1 + 1 := by ring
    rw [e, fpos_succ, fpos_succ, ← hpair h (by omega)]
    cases P (2 * h) <;> simp <;> omega

/-- `rs_li` of the code -/
def rsOf (li : Nat) : Nat := if li % 2 ≠ 0 then li else li + 1

/-- the inner loop `lj ≤ rs_li` visits every selected `j` stored in row `i` -/
theorem fpos_le_rs (P : Nat → Bool) (N : Nat) (hpair : ∀ g, 2 * g + 1 < N → P (2 * g) = P (2 * g + 1))
    {i j : Nat} (hi : i < N) (hPi : P i = true) (hj : j < rowSize i) :
    fpos P j ≤ rsOf (fpos P i) := by
  unfold rsOf
  obtain ⟨h, rfl | rfl⟩ := Nat.even_or_odd' i
  · rw [if_neg (not_not.2 (fpos_even P N hpair h hi.le)), ← if_pos hPi (t := 1) (e := 0), ← fpos_succ]
    rw [rowSize_even] at hj
    exact fpos_mono P (Nat.le_of_lt_succ hj)
  · have hp := fpos_even P N hpair h (Nat.le_of_succ_le hi.le)
    have hP0 : P (2 * h) = true := by rw [hpair h hi]; exact hPi
    have e : fpos P (2 * h + 1) = fpos P (2 * h) + 1 := by rw [fpos_succ, hP0]; rfl
    rw [if_pos (by omega)]
    rw [rowSize_odd] at hj
    exact fpos_mono P (Nat.le_of_lt_succ hj)

/-! ## the redundancy test on the full view -/

theorem addUp_upId (a b : ExtRat) : addUp upId a b = eadd a b := rfl
theorem halfUp_upId (a : ExtRat) : halfUp upId a = halfUp fin a := rfl

/-- the three cases of the closure test are the same sum read through twins -/
theorem octTmp_eq (m : Mat) {i j k : Nat} (_hij : i ≠ j) (hs : j < rowSize i) (hki : k ≠ i) (hkj : k ≠ j) :
    (if k < j then addUp upId (m i k) (m (cidx j) (cidx k))
     else if k < i then addUp upId (m i k) (m k j)
     else addUp upId (m (cidx k) (cidx i)) (m k j))
    = eadd (octFull m i k) (octFull m k j) := by
  by_cases h1 : k < j
  · rw [if_pos h1, addUp_upId]
    rw [raw_eq_octFull m (i := i) (j := k) (lt_trans h1 hs) (Ne.symm hki),
      raw_eq_octFull m (i := cidx j) (j := cidx k) (cidx_lt_rowSize_cidx h1) (fun e => hkj (cidx_inj e).symm),
      octFull_coh' m j k]
  · rw [if_neg h1]
    have hjk : j < rowSize k := lt_of_le_of_lt (not_lt.1 h1) (self_lt_rowSize k)
    by_cases h2 : k < i
    · rw [if_pos h2, addUp_upId]
      rw [raw_eq_octFull m (i := i) (j := k) (lt_trans h2 (self_lt_rowSize i)) (Ne.symm hki),
        raw_eq_octFull m (i := k) (j := j) hjk hkj]
    · rw [if_neg h2, addUp_upId]
      have hik : i < k := lt_of_le_of_ne (not_lt.1 h2) (Ne.symm hki)
      rw [raw_eq_octFull m (i := cidx k) (j := cidx i) (cidx_lt_rowSize_cidx hik) (fun e => hki (cidx_inj e)),
        raw_eq_octFull m (i := k) (j := j) hjk hkj,
        octFull_coh' m k i]

/-- a stored off-diagonal pair that is neither redundant by strong coherence nor by strong closure (read on
the full view) passes the test of the code -/
theorem octToAdd_true (m : Mat) (nsl : List Nat) {i j : Nat} (hij : i ≠ j) (hs : j < rowSize i)
    (hcoh : ¬ (j ≠ cidx i ∧
      halfUp fin (eadd (octFull m i (cidx i)) (octFull m (cidx j) j)) ≤ octFull m i j))
    (hclo : ∀ k, k ∈ nsl → k ≠ i → k ≠ j → ¬ eadd (octFull m i k) (octFull m k j) ≤ octFull m i j) :
    octToAdd upId m nsl i j = true := by
  unfold octToAdd
  simp only
  have e1 : m i j = octFull m i j := raw_eq_octFull m hs hij
  have e2 : m i (cidx i) = octFull m i (cidx i) := raw_eq_octFull m (cidx_lt_rowSize i) (cidx_ne i).symm
  have e3 : m (cidx j) j = octFull m (cidx j) j := raw_eq_octFull m (lt_rowSize_cidx j) (cidx_ne j)
  rw [e1, e2, e3, addUp_upId, halfUp_upId]
  rw [if_neg]
  · rw [Bool.not_eq_true', List.any_eq_false]
    intro k hk
    by_cases hki : k = i
    · simp [hki]
    by_cases hkj : k = j
    · simp [hkj]
    rw [octTmp_eq m hij hs hki hkj]
    have := hclo k hk hki hkj
    simp [hki, hkj, this]
  · intro h
    simp only [Bool.and_eq_true, decide_eq_true_eq, ne_eq] at h
    exact hcoh ⟨by simpa using h.1, h.2⟩

end PPLV.WR

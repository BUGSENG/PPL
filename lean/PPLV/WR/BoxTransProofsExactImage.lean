import PPLV.WR.BoxTransProofsImage
/-!
# `Box<ITV>`: exactness of `affine_image` for `var := ±var + b` and `var := b`

With exact rounding (`Rounding.id`) and a policy without infinite members the interval computed
for `var` by `affine_image(var, ±var + n, 1)` is EXACTLY `{±a + n | a ∈ I_var}`: open, closed and
infinite bounds included.  Every step of the computation (`assign`, the product with the point
interval `[±1, ±1]`, the sum with the point interval `[n, n]`, the final `assign`) transports
membership as an equivalence, for every pair of bounds (also for bounds on the wrong side, which
`OK()` excludes: they stay on the wrong side).
-/
namespace PPLV.WR.BoxT
open PPLV.Interval
open PPLV.Interval.ExtRat (ninf fin pinf)

/-- the point interval `[k, k]` as `Interval::assign(const Coefficient&)` stores it -/
def ptIv (k : Rat) : Iv := ⟨⟨fin k, false⟩, ⟨fin k, false⟩⟩

theorem ptIv_mem {p : Policy} {k c : Rat} : (ptIv k).mem p c ↔ c = k := by
  simp only [ptIv, Iv.mem, lowerOk, upperOk, getOpen, Bool.and_false, lowerOkV_fin_closed, upperOkV_fin_closed]
  constructor
  · intro h; exact le_antisymm h.2 h.1
  · intro h; subst h; exact ⟨le_refl _, le_refl _⟩

theorem ivOfInt_id (p : Policy) (z : Int) : ivOfInt p Rounding.id z = ptIv (z : Rat) := by
  have hm : (⟨⟨fin (z : Rat), false⟩, ⟨fin (z : Rat), false⟩⟩ : Iv).mem Policy.scalar (z : Rat) := by
    constructor <;> simp [lowerOk, upperOk, getOpen, Policy.scalar]
  unfold ivOfInt assign
  rw [checkEmptyArg_of_mem hm]
  simp [bAssign, getSpecial, Policy.scalar, adjust_id, normalIsOpen, ptIv, normalIsBoundaryInfinity]

/-! ## bounds -/

theorem value_of_normalIsBoundaryInfinity {t : BT} {b : Bound} (h : normalIsBoundaryInfinity t b = true) :
    b.value = infOf t := by
  unfold normalIsBoundaryInfinity at h
  cases t <;> cases hv : b.value <;> simp_all [infOf]

theorem sideOk_mk (p : Policy) (t : BT) (v : ExtRat) (yb : Bound) (c : Rat) :
    sideOk p t ⟨v, p.storeOpen && getOpen p yb⟩ c ↔ sideOkV t v (getOpen p yb) c := by
  simp only [sideOk, getOpen, Bool.and_self_left]

/-- `add_assign` / `mul_assign` on bounds with exact rounding, the first operand the closed finite
bound `k`: the result constrains `c` as the exact value does, with the OPEN bit of the second
operand.  `hinf`: the infinity of the side of the second operand is sent to that of the target. -/
theorem bArith_point_iff (f : ExtRat → ExtRat → ExtRat) (p : Policy) (tt t1 t2 : BT) (k : Rat) (yb : Bound)
    (c : Rat) (hinf : f (fin k) (infOf t2) = infOf tt) :
    sideOk p tt (bArith f p Rounding.id tt p t1 ⟨fin k, false⟩ p t2 yb) c ↔
      sideOkV tt (f (fin k) yb.value) (getOpen p yb) c := by
  have h1 : normalIsBoundaryInfinity t1 ⟨fin k, false⟩ = false := by cases t1 <;> rfl
  unfold bArith
  simp only [isBoundaryInfinity_eq, h1, Bool.false_eq_true, if_false]
  cases h2 : normalIsBoundaryInfinity t2 yb
  · rw [if_neg Bool.false_ne_true, adjust_id, normalIsOpen_fin h1, normalIsOpen_fin h2, getOpen_mk, Bool.and_false,
      Bool.false_or, sideOk_mk]
  · rw [if_pos rfl, value_of_normalIsBoundaryInfinity h2, hinf]
    exact iff_of_true (sideOk_setBoundaryInfinity ..) (sideOkV_infOf ..)

theorem sgnB_zero {p : Policy} {t : BT} {b : Bound} (h : sgnB p t b = 0) : b.value = fin 0 := by
  unfold sgnB at h
  split at h
  · cases t <;> simp at h
  · cases hv : b.value with
    | ninf => rw [hv] at h; simp [ExtRat.sgn] at h
    | pinf => rw [hv] at h; simp [ExtRat.sgn] at h
    | fin q => rw [hv] at h; simp only [ExtRat.sgn] at h; rw [ratSgn_zero.1 h]

/-- `mul_assign_z` with the point `k` of sign `s ≠ 0`: a zero second operand (`ys = 0`) stores `0 = k·0` -/
theorem bMulZ_point_iff (p : Policy) (tt t1 t2 : BT) {k : Rat} {s : Int} (hs : s ≠ 0) (yb : Bound) (ys : Int)
    (c : Rat) (h0 : ys = 0 → yb.value = fin 0) (hinf : ExtRat.mul (fin k) (infOf t2) = infOf tt) :
    sideOk p tt (bMulZ p Rounding.id tt p t1 ⟨fin k, false⟩ s p t2 yb ys) c ↔
      sideOkV tt (ExtRat.mul (fin k) yb.value) (getOpen p yb) c := by
  unfold bMulZ
  rw [if_pos (by simpa using hs)]
  by_cases h : ys = 0
  · rw [if_neg (by simp [h]), setZero, adjust_id, sideOk_mk, h0 h, ExtRat.mul, mul_zero]
  · rw [if_pos (by simpa using h)]
    exact bArith_point_iff _ p tt t1 t2 k yb c hinf

theorem sideOkV_one_mul (t : BT) (v : ExtRat) (o : Bool) (c : Rat) :
    sideOkV t (ExtRat.mul (fin 1) v) o c ↔ sideOkV t v o c := by
  cases v <;> simp [ExtRat.mul, show ¬ ((1 : Rat) < 0) by norm_num]

theorem lowerOkV_negone_mul (v : ExtRat) (o : Bool) (c : Rat) :
    lowerOkV (ExtRat.mul (fin (-1)) v) o c ↔ upperOkV v o (-c) := by
  cases v <;> cases o <;> simp [ExtRat.mul, ExtRat.neg, neg_lt, neg_le]

theorem upperOkV_negone_mul (v : ExtRat) (o : Bool) (c : Rat) :
    upperOkV (ExtRat.mul (fin (-1)) v) o c ↔ lowerOkV v o (-c) := by
  cases v <;> cases o <;> simp [ExtRat.mul, ExtRat.neg, lt_neg, le_neg]

theorem sideOkV_add (t : BT) (n : Rat) (v : ExtRat) (o : Bool) (c : Rat) :
    sideOkV t (ExtRat.add (fin n) v) o c ↔ sideOkV t v o (c - n) := by
  cases t <;> cases v <;> cases o <;> simp [sideOkV, ExtRat.add] <;> constructor <;> intro h <;> linarith

/-! ## intervals -/

theorem infinitySign_zero {p : Policy} (hm : p.mayContainInfinity = false) (K : Iv) : infinitySign p K = 0 := by
  simp [infinitySign, isReverseInfinity, hm]

/-- an interval reported empty has no member, like `Iv.empty` -/
theorem empty_mem_iff {p : Policy} {K : Iv} (he : checkEmptyArg p K = true) (c c' : Rat) :
    Iv.empty.mem p c ↔ K.mem p c' :=
  iff_of_false (not_mem_empty p c) (not_mem_of_checkEmptyArg he)

/-- `assign` with exact rounding keeps the set -/
theorem assign_id_iff (p : Policy) (K : Iv) (c : Rat) : (assign p Rounding.id p K).mem p c ↔ K.mem p c := by
  unfold assign
  split_ifs with he
  · exact empty_mem_iff he c c
  · exact and_congr (bAssign_id_iff (t := .lower)) (bAssign_id_iff (t := .upper))

theorem assign_id_iff' {cfg : Cfg} (hR : cfg.R = Rounding.id) (K : Iv) (c : Rat) :
    (assign cfg.p cfg.R cfg.p K).mem cfg.p c ↔ K.mem cfg.p c := by
  rw [hR]; exact assign_id_iff _ _ _

theorem mulTable_one_iff (p : Policy) (K : Iv) (yls yus : Int) (st : Iv) (c : Rat)
    (hl : yls = 0 → K.lo.value = fin 0) (hu : yus = 0 → K.hi.value = fin 0) :
    (mulTable p Rounding.id (ptIv 1) K 1 1 yls yus st).mem p c ↔ K.mem p c := by
  have hb (t : BT) (yb : Bound) (ys : Int) (h0 : ys = 0 → yb.value = fin 0) :=
    (bMulZ_point_iff p t t t one_ne_zero yb ys c h0 (by cases t <;> simp [ExtRat.mul, infOf])).trans
      (sideOkV_one_mul ..)
  unfold mulTable ptIv
  simp only [show ((1 : Int) ≥ 0) by decide, if_true]
  split_ifs <;> exact and_congr (hb .lower _ _ hl) (hb .upper _ _ hu)

theorem mulTable_negone_iff (p : Policy) (K : Iv) (yls yus : Int) (st : Iv) (c : Rat)
    (hl : yls = 0 → K.lo.value = fin 0) (hu : yus = 0 → K.hi.value = fin 0) :
    (mulTable p Rounding.id (ptIv (-1)) K (-1) (-1) yls yus st).mem p c ↔ K.mem p (-c) := by
  have hlo (t1 : BT) := (bMulZ_point_iff p .lower t1 .upper (by decide : (-1 : Int) ≠ 0) K.hi yus c hu
    (by simp [ExtRat.mul, ExtRat.neg, infOf])).trans (lowerOkV_negone_mul ..)
  have hhi (t1 : BT) := (bMulZ_point_iff p .upper t1 .lower (by decide : (-1 : Int) ≠ 0) K.lo yls c hl
    (by simp [ExtRat.mul, ExtRat.neg, infOf])).trans (upperOkV_negone_mul ..)
  unfold mulTable ptIv
  simp only [show ¬ ((-1 : Int) ≥ 0) by decide, show ((-1 : Int) ≤ 0) by decide, if_true, if_false]
  split_ifs <;> exact (and_congr (hlo _) (hhi _)).trans and_comm

theorem sgnB_pt (p : Policy) (t : BT) (k : Rat) : sgnB p t ⟨fin k, false⟩ = ExtRat.ratSgn k := by
  unfold sgnB getSpecial
  cases t <;> cases p.storeSpecial <;> simp [ExtRat.sgn]

theorem yus_zero {p : Policy} {K : Iv} (h : (if sgnB p .lower K.lo > 0 then 1 else sgnB p .upper K.hi) = 0) :
    K.hi.value = fin 0 := by
  split at h
  · exact absurd h (by decide)
  · exact sgnB_zero h

/-- the product of the point interval `[s,s]`, `s = ±1`, with `K` is `s·K` -/
theorem mulAssign_unit_iff {p : Policy} (hm : p.mayContainInfinity = false) {s : Int} (hs : s = 1 ∨ s = -1)
    (K : Iv) (c : Rat) : (mulAssign false p Rounding.id (ptIv s) K).mem p c ↔ K.mem p ((s : Rat) * c) := by
  unfold mulAssign
  by_cases he : checkEmptyArg p K = true
  · rw [he, Bool.or_true, if_pos rfl]
    exact empty_mem_iff he _ _
  · have he' : checkEmptyArg p K = false := by simpa using he
    have hlo : sgnB p .lower (ptIv (s : Rat)).lo = s := by
      rcases hs with rfl | rfl <;> simp [ptIv, sgnB_pt, ExtRat.ratSgn]
    have hhi : sgnB p .upper (ptIv (s : Rat)).hi = s := by
      rcases hs with rfl | rfl <;> simp [ptIv, sgnB_pt, ExtRat.ratSgn]
    have hus : (if s > 0 then 1 else s) = s := by rcases hs with rfl | rfl <;> rfl
    simp only [checkEmptyArg_of_mem (ptIv_mem.2 rfl), he', infinitySign_zero hm, hlo, hhi, hus, Bool.or_self,
      Bool.false_eq_true, if_false, bne_self_eq_false]
    rcases hs with rfl | rfl
    · rw [Int.cast_one, one_mul]
      exact mulTable_one_iff p K _ _ _ c sgnB_zero yus_zero
    · rw [Int.cast_neg, Int.cast_one, neg_one_mul]
      exact mulTable_negone_iff p K _ _ _ c sgnB_zero yus_zero

/-- the sum of the point interval `[n,n]` and `K` is `K + n` -/
theorem addAssign_point_iff {p : Policy} (hm : p.mayContainInfinity = false) (n : Rat) (K : Iv) (c : Rat) :
    (addAssign p Rounding.id (ptIv n) K).mem p c ↔ K.mem p (c - n) := by
  unfold addAssign
  by_cases he : checkEmptyArg p K = true
  · rw [he, Bool.or_true, if_pos rfl]
    exact empty_mem_iff he _ _
  · simp only [checkEmptyArg_of_mem (ptIv_mem.2 rfl), he, infinitySign_zero hm, Bool.or_self, Bool.false_eq_true,
      if_false, bne_self_eq_false, Bool.false_and, lt_self_iff_false]
    have hb (t : BT) (yb : Bound) := (bArith_point_iff ExtRat.add p t t t n yb c (by cases t <;> rfl)).trans
      (sideOkV_add ..)
    exact and_congr (hb .lower _) (hb .upper _)

/-! ## the expression `s * var + n` -/

theorem termsFrom_replicate (i v : Nat) (s : Int) (hs : s ≠ 0) :
    LinExpr.termsFrom i (List.replicate v 0 ++ [s]) = [(i + v, s)] := by
  induction v generalizing i with
  | zero =>
    have : (s == 0) = false := by simpa using hs
    simp [LinExpr.termsFrom, this]
  | succ v ih =>
    simp only [List.replicate_succ, List.cons_append, LinExpr.termsFrom]
    rw [ih (i + 1)]
    have : i + 1 + v = i + (v + 1) := by omega
    simp [this]

/-- the interval `affine_image` computes for `s * var + n`, `s = ±1`, is exactly the image -/
theorem evalExprIv_shift {cfg : Cfg} (hR : cfg.R = Rounding.id) (hm : cfg.p.mayContainInfinity = false)
    (seq : List Iv) (v : Nat) (s n : Int) (hs : s = 1 ∨ s = -1) (c : Rat) :
    (evalExprIv cfg seq ⟨List.replicate v 0 ++ [s], n⟩ 1).mem cfg.p c ↔
      (seq.getD v Iv.empty).mem cfg.p ((s : Rat) * (c - n)) := by
  have hs0 : s ≠ 0 := by rcases hs with rfl | rfl <;> decide
  have ht : (⟨List.replicate v 0 ++ [s], n⟩ : LinExpr).terms = [(v, s)] := by
    unfold LinExpr.terms
    rw [termsFrom_replicate 0 v s hs0]; simp
  unfold evalExprIv
  simp only [ht, evalLoop, bne_self_eq_false, Bool.false_eq_true, if_false]
  rw [hR, ivOfInt_id, ivOfInt_id, addAssign_point_iff hm]
  rw [mulAssign_unit_iff hm hs, assign_id_iff]

/-! ## the box -/

/-- replacing the coordinate `v` of a member of `b.setIv v I` by a member of the old interval -/
theorem Box.mem_of_setIv {p : Policy} {b : Box} {v : Nat} {I : Iv} {y : Nat → Rat} {a : Rat}
    (h : (b.setIv v I).mem p y) (ha : (b.get v).mem p a) : b.mem p (upd y v a) := by
  refine ⟨by simpa [Box.setIv, Box.markedEmpty] using h.1, ?_⟩
  intro k hk
  by_cases hkv : k = v
  · subst hkv; rw [upd_same]; exact ha
  · rw [upd_other y a hkv]
    have := h.2 k (by simpa [Box.setIv] using hk)
    rwa [Box.get_setIv_other b I hkv] at this

/-- the frame of `affine_image(var, e, 1)` with exact rounding: when the interval evaluated for `e` is exactly the
image of the interval of `var` under `f`, the result is exactly the image of the box under `var := f(var)` -/
theorem affineImage_exact_of_interval {cfg : Cfg} (hR : cfg.R = Rounding.id) (b : Box) (v : Nat) (e : LinExpr)
    (f : Rat → Rat) (hv : v < b.dim)
    (hJ : (b.isEmptyQ cfg.p).1 = false → ∀ c, (evalExprIv cfg (b.isEmptyQ cfg.p).2.seq e 1).mem cfg.p c ↔
      ∃ a, (b.get v).mem cfg.p a ∧ c = f a) (y : Nat → Rat) :
    (affineImage cfg b v e 1).mem cfg.p y ↔ ∃ x, b.mem cfg.p x ∧ y = upd x v (f (x v)) := by
  rw [affineImage_eq]
  have hv' : v < (b.isEmptyQ cfg.p).2.dim := by rw [Box.isEmptyQ_dim]; exact hv
  have hg : (b.isEmptyQ cfg.p).2.get v = b.get v := by simp [Box.get, Box.isEmptyQ_seq]
  cases hem : (b.isEmptyQ cfg.p).1
  · rw [if_neg Bool.false_ne_true]
    constructor
    · intro h
      have hy := h.2 v (by rw [Box.setIv_length]; exact hv')
      rw [Box.get_setIv_same _ _ hv', assign_id_iff' hR, hJ hem] at hy
      obtain ⟨a, ha, hya⟩ := hy
      refine ⟨_, Box.isEmptyQ_mem_iff.1 (Box.mem_of_setIv h (hg ▸ ha)), ?_⟩
      rw [upd_same, upd_upd, ← hya, upd_self]
    · rintro ⟨x, hx, rfl⟩
      refine Box.mem_setIv (Box.isEmptyQ_of_mem hx).2.1 ?_
      rw [assign_id_iff' hR, hJ hem]
      exact ⟨x v, hx.2 v hv, rfl⟩
  · rw [if_pos rfl]
    exact ⟨fun h => absurd (Box.isEmptyQ_mem_iff.1 h) (Box.isEmptyQ_true hem),
      fun ⟨x, hx, _⟩ => absurd hx (Box.isEmptyQ_true hem)⟩

/-- `affine_image(var, ±var + n, 1)` with exact rounding is exactly the image of the box -/
theorem affineImage_exact_shift_gen {cfg : Cfg} (hR : cfg.R = Rounding.id) (hm : cfg.p.mayContainInfinity = false)
    (b : Box) (v : Nat) (s : Int) (n : Int) (hs : s = 1 ∨ s = -1) (hv : v < b.dim) (y : Nat → Rat) :
    (affineImage cfg b v ⟨List.replicate v 0 ++ [s], n⟩ 1).mem cfg.p y ↔
      ∃ x, b.mem cfg.p x ∧ y = upd x v ((s : Rat) * x v + n) := by
  have hss : (s : Rat) * (s : Rat) = 1 := by rcases hs with rfl | rfl <;> norm_num
  refine affineImage_exact_of_interval hR b v _ (fun a => (s : Rat) * a + n) hv (fun _ c => ?_) y
  rw [evalExprIv_shift hR hm _ v s n hs, Box.isEmptyQ_seq]
  -- `a ↦ s·a + n` and `c ↦ s·(c − n)` are inverse to each other
  constructor
  · intro h
    exact ⟨_, h, by rw [← mul_assoc, hss]; ring⟩
  · rintro ⟨a, ha, rfl⟩
    rwa [add_sub_cancel_right, ← mul_assoc, hss, one_mul]

/-- `Rational_Box::affine_image(var, ±var + n)` is exact -/
theorem affineImage_exact_shift (b : Box) (v : Nat) (s : Int) (n : Int) (hs : s = 1 ∨ s = -1) (hv : v < b.dim)
    (y : Nat → Rat) :
    (affineImage Cfg.mpq b v ⟨List.replicate v 0 ++ [s], n⟩ 1).mem Cfg.mpq.p y ↔
      ∃ x, b.mem Cfg.mpq.p x ∧ y = upd x v ((s : Rat) * x v + n) :=
  affineImage_exact_shift_gen rfl rfl b v s n hs hv y

/-! ## `var := n` -/

theorem evalExprIv_const (cfg : Cfg) (seq : List Iv) (n : Int) :
    evalExprIv cfg seq ⟨[], n⟩ 1 = ivOfInt cfg.p cfg.R n := by
  simp [evalExprIv, LinExpr.terms, LinExpr.termsFrom, evalLoop]

/-- `affine_image(var, n, 1)` with exact rounding is exactly the image of the box.  The
hypothesis `hown` (the bounds of the old interval of `var` are on their own sides: the lower
bound is not `+∞`, the upper bound is not `-∞`; `Interval::OK()` demands it) is necessary in the
model: see the example below. -/
theorem affineImage_exact_const_gen {cfg : Cfg} (hR : cfg.R = Rounding.id) (b : Box) (v : Nat) (n : Int)
    (hv : v < b.dim) (hown : (b.get v).lo.value ≠ pinf ∧ (b.get v).hi.value ≠ ninf) (y : Nat → Rat) :
    (affineImage cfg b v ⟨[], n⟩ 1).mem cfg.p y ↔ ∃ x, b.mem cfg.p x ∧ y = upd x v (n : Rat) := by
  refine affineImage_exact_of_interval hR b v _ (fun _ => (n : Rat)) hv (fun hem c => ?_) y
  rw [evalExprIv_const, hR, ivOfInt_id, ptIv_mem]
  -- the old interval of `var` is not reported empty and has its bounds on their own sides: it has a member
  have hne : isEmpty cfg.p (b.get v) = false := by
    apply (Box.isEmptyQ_false_marked hem).2
    have hv2 : v < b.seq.length := hv
    have : b.get v = b.seq[v] := by simp [Box.get, List.getD, hv2]
    rw [this]; exact List.getElem_mem _
  have hex : ∃ a, (b.get v).mem cfg.p a := by
    by_contra hc
    have := (isEmpty_iff hown.1 hown.2).2 (fun a ha => hc ⟨a, ha⟩)
    rw [hne] at this; exact Bool.false_ne_true this
  exact ⟨fun h => hex.imp fun a ha => ⟨ha, h⟩, fun ⟨_, _, h⟩ => h⟩

/-- `Rational_Box::affine_image(var, n)` is exact -/
theorem affineImage_exact_const (b : Box) (v : Nat) (n : Int) (hv : v < b.dim)
    (hown : (b.get v).lo.value ≠ pinf ∧ (b.get v).hi.value ≠ ninf) (y : Nat → Rat) :
    (affineImage Cfg.mpq b v ⟨[], n⟩ 1).mem Cfg.mpq.p y ↔ ∃ x, b.mem Cfg.mpq.p x ∧ y = upd x v (n : Rat) :=
  affineImage_exact_const_gen rfl b v n hv hown y

/-! ## non-vacuity and the counterexample -/

/-- the box `(0, 2]` -/
def exBox : Box := ⟨[⟨⟨fin 0, true⟩, ⟨fin 2, false⟩⟩], false, true⟩

theorem exBox_mem (x : Nat → Rat) : exBox.mem Policy.rational x ↔ 0 < x 0 ∧ x 0 ≤ 2 := by
  constructor
  · intro h
    have := h.2 0 (by decide)
    simpa [exBox, Box.get, Iv.mem, lowerOk, upperOk, getOpen, Policy.rational] using this
  · intro h
    refine ⟨by decide, ?_⟩
    intro k hk
    have hk0 : k = 0 := by simpa [exBox] using hk
    subst hk0
    simpa [exBox, Box.get, Iv.mem, lowerOk, upperOk, getOpen, Policy.rational] using h

/-- `x := -x + 3` maps `(0, 2]` onto `[1, 3)`: `1` is in the image … -/
example : (affineImage Cfg.mpq exBox 0 ⟨[-1], 3⟩ 1).mem Policy.rational (fun _ => 1) :=
  (affineImage_exact_shift exBox 0 (-1) 3 (Or.inr rfl) (by decide) _).2
    ⟨upd (fun _ => 1) 0 2, (exBox_mem _).2 (by norm_num [upd]), by
      rw [upd_upd]; funext k; by_cases hk : k = 0 <;> simp [upd, hk]; norm_num⟩

/-- … and `3` is not (the open bound is kept) -/
example : ¬ (affineImage Cfg.mpq exBox 0 ⟨[-1], 3⟩ 1).mem Policy.rational (fun _ => 3) := by
  intro h
  obtain ⟨x, hx, hy⟩ := (affineImage_exact_shift exBox 0 (-1) 3 (Or.inr rfl) (by decide) _).1 h
  have h0 := congrFun hy 0
  simp only [upd_same] at h0
  have := ((exBox_mem x).1 hx).1
  push_cast at h0
  linarith

example : (affineImage Cfg.mpq exBox 0 ⟨[], 7⟩ 1).mem Policy.rational (fun _ => 7) :=
  (affineImage_exact_const exBox 0 7 (by decide) (by decide) _).2
    ⟨upd (fun _ => 7) 0 1, (exBox_mem _).2 (by norm_num [upd]), by
      rw [upd_upd]; funext k; by_cases hk : k = 0 <;> simp [upd, hk]⟩

/-- the interval with both bounds `+∞` (lower bound on the wrong side) is not reported empty by
`is_empty()` and has no member -/
def junkBox : Box := ⟨[⟨⟨pinf, false⟩, ⟨pinf, false⟩⟩], false, true⟩

/-- without `hown` the statement of `affineImage_exact_const` fails in the model: the image of the
memberless `junkBox` has the member `5` -/
example : (affineImage Cfg.mpq junkBox 0 ⟨[], 5⟩ 1).mem Cfg.mpq.p (fun _ => 5) ∧
    ¬ ∃ x, junkBox.mem Cfg.mpq.p x := by
  constructor
  · have h1 : junkBox.isEmptyQ Cfg.mpq.p = (false, junkBox) := by decide
    rw [affineImage_eq, h1]
    simp only [Bool.false_eq_true, if_false]
    refine ⟨by decide, ?_⟩
    intro k hk
    have hk0 : k = 0 := by simpa [junkBox, Box.setIv] using hk
    subst hk0
    rw [Box.get_setIv_same _ _ (by decide), assign_id_iff' rfl, evalExprIv_const]
    show (ivOfInt Cfg.mpq.p Rounding.id 5).mem Cfg.mpq.p 5
    rw [ivOfInt_id, ptIv_mem]; norm_num
  · rintro ⟨x, hx⟩
    have := (hx.2 0 (by decide)).1
    simp [junkBox, Box.get, lowerOk] at this

end PPLV.WR.BoxT

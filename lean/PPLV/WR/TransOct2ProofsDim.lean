import PPLV.WR.TransOct2Gen
import PPLV.WR.TransOctProofsBase
/-!
# Octagon matrices and the space dimension: points that agree on the first coordinates, the additional
dimension (`add_space_dimensions_and_embed(1)`, `matrix.shrink`), the closure of a raw matrix
-/
namespace PPLV.WR
open ExtRat

/-- the matrix of dimension `N` reads the first `N` coordinates only -/
theorem octHolds_congr {N : Nat} {y y' : Nat → Rat} {m : Mat} (h : ∀ i, i < N → y' i = y i)
    (hy : Holds (SO N) (OctM.oval y) m) : Holds (SO N) (OctM.oval y') m := by
  have ov : ∀ a, a < 2 * N → OctM.oval y' a = OctM.oval y a := by
    intro a ha
    unfold OctM.oval
    rw [h (a / 2) (by omega)]
  intro a c hac
  have hc : c < 2 * N := by have h1 := hac.1; have h2 := hac.2; unfold rowSize at h2; omega
  rw [ov a hac.1, ov c hc]
  exact hy a c hac

/-- `matrix.shrink`: the first rows of a matrix of a higher dimension -/
theorem octHolds_restrict {n N : Nat} (h : n ≤ N) {y : Nat → Rat} {m : Mat} (hy : Holds (SO N) (OctM.oval y) m) :
    Holds (SO n) (OctM.oval y) m :=
  fun a c hac => hy a c ⟨by have := hac.1; omega, hac.2⟩

theorem octEmbedOne_holds {n : Nat} {m : Mat} {x : Nat → Rat} (h : Holds (SO n) (OctM.oval x) m) :
    Holds (SO (n + 1)) (OctM.oval x) (octEmbedOne n m) := by
  intro a c hac
  show fin _ ≤ (if a = 2 * n ∨ a = 2 * n + 1 ∨ c = 2 * n ∨ c = 2 * n + 1 then pinf else m a c)
  by_cases hnew : a = 2 * n ∨ a = 2 * n + 1 ∨ c = 2 * n ∨ c = 2 * n + 1
  · rw [if_pos hnew]; exact le_pinf _
  · rw [if_neg hnew]; exact h a c ⟨by have := hac.1; omega, hac.2⟩

/-- `strong_closure_assign()` on a raw matrix keeps every point -/
theorem octCloseRaw_sound {R : Rnd} (hR : R.Sound) {n : Nat} {m : Mat} {x : Nat → Rat}
    (hx : Holds (SO n) (OctM.oval x) m) :
    ∃ m', octCloseRaw R n m = some m' ∧ Holds (SO n) (OctM.oval x) m' := by
  unfold octCloseRaw
  dsimp only
  have hs := sat_octOfMat hx
  by_cases he : OctM.strongClosureEmpty R.up (OctM.ofMat n m) = true
  · exact absurd hs (OctM.strongClosureEmpty_sound hR.up_le _ he x)
  · rw [if_neg he]
    exact ⟨_, rfl, (OctM.sat_iff_holds _ x).1 (OctM.strongClosure_sat hR.up_le _ x hs)⟩

end PPLV.WR

import PPLV.WR.TransProofsGeneral
/-!
# General case: "exploit the upper / lower approximation" and the general cases of `affine_image` and
`generalized_affine_image`
-/
namespace PPLV.WR
open ExtRat

/-- the unary entries of the variables other than `v` agree -/
def UnaryEq (v : Nat) (m1 m0 : Mat) : Prop :=
  ∀ u, u + 1 ≠ v → m1 0 (u+1) = m0 0 (u+1) ∧ m1 (u+1) 0 = m0 (u+1) 0

theorem unaryEq_refl (v : Nat) (m : Mat) : UnaryEq v m m := fun _ _ => ⟨rfl, rfl⟩

section
variable {R : Rnd} {n var w : Nat} {m0 : Mat} {sc : Nat → Int} {scd : Int} {Bq tval : Rat} {x : Nat → Rat}

theorem box_of_holds (hx : Holds (SB (n+1)) (DBM.val x) m0) (hw : w ≤ n) : Box m0 w x :=
  fun i hi => bds_box hx (by omega)

theorem fin_le_quot (hR : R.Sound) (hd : 0 < scd) {S' : Rat} {sum : ExtRat} (h : fin S' ≤ sum) :
    fin (S' / (scd : Rat)) ≤ (if scd ≠ 1 then divRoundUpByPositive R sum scd else sum) := by
  split
  · exact fin_le_divRUBP hR hd h
  · rename_i h1
    have : scd = 1 := by omega
    subst this
    simpa using h

theorem upd_frame (x : Nat → Rat) (var : Nat) (t : Rat) : ∀ u, u ≠ var → upd x var t u = x u := by
  intro u hu; simp [upd, hu]

/-- stores in row or column `var+1` keep the unary cells of the other variables -/
theorem UnaryEq.of_eqOff {m1 M : Mat} (h : UnaryEq (var+1) m1 m0)
    (hM : EqOff (fun a c => a = var + 1 ∨ c = var + 1) m1 M) : UnaryEq (var+1) M m0 := by
  intro u hu
  rw [hM 0 (u+1) (by omega), hM (u+1) 0 (by omega)]
  exact h u hu

/-- a point in the box of the unary cells of `m'` away from `var`, with the old value at `var`, is in the box of `m0` -/
theorem box_of_unaryEq (hx : Holds (SB (n+1)) (DBM.val x) m0) (hw : w ≤ n) {m' : Mat}
    (hun : UnaryEq (var+1) m' m0) {y : Nat → Rat} (hyv : y var = x var)
    (hyb : ∀ i, i < w → i ≠ var → fin (y i) ≤ m' 0 (i+1) ∧ fin (-(y i)) ≤ m' (i+1) 0) : Box m0 w y := by
  intro i hi
  by_cases hiv : i = var
  · subst hiv; rw [hyv]; exact box_of_holds hx hw i hi
  · have := hyb i hi hiv
    rw [(hun i (by omega)).1, (hun i (by omega)).2] at this
    exact this

theorem upper_deduce (hR : R.Sound) (hw : w ≤ n) (hd : 0 < scd)
    (hx : Holds (SB (n+1)) (DBM.val x) m0) (htv : tval ≤ (linEval sc x w + Bq) / scd)
    {m' : Mat} (hx' : Holds (SB (n+1)) (DBM.val (upd x var tval)) m') (hun : UnaryEq (var+1) m' m0)
    {sum : ExtRat} (hc0 : ∀ y, Box m0 w y → fin (Bq + linEval sc y w) ≤ sum)
    (hf : ∀ i, i < w → sc i > 0 → m0 0 (i+1) ≠ pinf)
    {s : ExtRat} (hs : ∀ S' : Rat, fin S' ≤ sum → fin (S' / (scd : Rat)) ≤ s) :
    Holds (SB (n+1)) (DBM.val (upd x var tval)) (deduceVMinusU R.up (var+1) w sc scd s m') := by
  cases s with
  | pinf =>
    exact deduceVMinusU_pinf_holds R.up hx' (fun u hu huv hp => by rw [(hun u (by omega)).1]; exact hf u hu hp)
  | fin c =>
    refine deduceVMinusU_holds hR.up_le hd hw hx' (upd_frame x var tval) (by simpa [upd] using htv) ?_
    intro y hyv hyb
    have hbox := box_of_unaryEq hx hw hun hyv hyb
    have := hs _ (hc0 y hbox)
    rw [add_comm] at this
    exact fin_le_fin.1 this

/-- the cell written when `pinf_count == 1`; `q` is the stored `pinf_index` (a dbm index) -/
theorem upper_single (hw : w ≤ n) (hd : 0 < scd)
    (hx : Holds (SB (n+1)) (DBM.val x) m0) (htv : tval ≤ (linEval sc x w + Bq) / scd)
    {q : Nat} (hq1 : 1 ≤ q) (hq : q ≤ w) (hqv : q ≠ var + 1) (hsc : sc (q - 1) = scd)
    {sum : ExtRat} (hc1 : ∀ y, Box m0 w y → fin (Bq + linEval (zeroAt sc (q - 1)) y w) ≤ sum)
    {s : ExtRat} (hs : ∀ S' : Rat, fin S' ≤ sum → fin (S' / (scd : Rat)) ≤ s) :
    fin (DBM.val (upd x var tval) (var+1) - DBM.val (upd x var tval) q) ≤ s := by
  obtain ⟨p, rfl⟩ : ∃ p, q = p + 1 := ⟨q - 1, by omega⟩
  rw [Nat.add_sub_cancel] at hsc hc1
  rw [val_upd, val_upd, if_pos rfl, if_neg hqv]
  refine le_trans' (fin_le_fin.2 ?_) (hs _ (hc1 x (box_of_holds hx hw)))
  have hd' : (scd : Rat) ≠ 0 := by exact_mod_cast (ne_of_gt hd)
  have e1 : (linEval sc x w + Bq) / scd = (Bq + linEval (zeroAt sc p) x w) / scd + x p := by
    rw [linEval_zeroAt sc x (by omega : p < w), hsc]; field_simp; ring
  simp only [DBM.val]
  linarith

/-- the unary cell `dbm[0][v]` written when `pinf_count == 0` -/
theorem upper_unary (hw : w ≤ n) (hx : Holds (SB (n+1)) (DBM.val x) m0) (htv : tval ≤ (linEval sc x w + Bq) / scd)
    {sum : ExtRat} (hc0 : ∀ y, Box m0 w y → fin (Bq + linEval sc y w) ≤ sum)
    {s : ExtRat} (hs : ∀ S' : Rat, fin S' ≤ sum → fin (S' / (scd : Rat)) ≤ s) :
    fin (DBM.val (upd x var tval) (var+1) - DBM.val (upd x var tval) 0) ≤ s := by
  rw [val_upd, if_pos rfl]
  simp only [DBM.val, sub_zero]
  have := hs _ (hc0 x (box_of_holds hx hw))
  rw [add_comm] at this
  exact le_trans' (fin_le_fin.2 htv) this

theorem exploitUpper_holds (hR : R.Sound) (hw : w ≤ n) (hd : 0 < scd)
    (hx : Holds (SB (n+1)) (DBM.val x) m0) (htv : tval ≤ (linEval sc x w + Bq) / scd)
    {m1 : Mat} (hx' : Holds (SB (n+1)) (DBM.val (upd x var tval)) m1) (hun : UnaryEq (var+1) m1 m0)
    {pos : Acc} (hinv : AccInv m0 w sc Bq w pos) :
    Holds (SB (n+1)) (DBM.val (upd x var tval)) (exploitUpper R (var+1) w sc scd pos m1) := by
  unfold exploitUpper
  dsimp only
  have hs : ∀ S' : Rat, fin S' ≤ pos.sum →
      fin (S' / (scd : Rat)) ≤ (if scd ≠ 1 then divRoundUpByPositive R pos.sum scd else pos.sum) :=
    fun S' h => fin_le_quot hR hd h
  refine holds_ite (fun _ => holds_ite (fun h0 => ?_) fun h0 => holds_ite (fun hcond => ?_) fun _ => hx')
    fun _ => hx'
  · refine upper_deduce hR hw hd hx htv ?_ ?_ (hinv.c0 h0) (hinv.f0p h0) hs
    · exact holds_set hx' fun _ => upper_unary hw hx htv (hinv.c0 h0) hs
    · exact hun.of_eqOff (.set _ (.inr rfl))
  · obtain ⟨hi1, hi2, hc1⟩ := hinv.c1 (by omega)
    exact holds_set hx' fun _ => upper_single hw hd hx htv hi1 hi2 hcond.1 hcond.2 hc1 hs

/-! ### lower approximation: the loop ran on `-sc_expr` and `-sc_b` -/

theorem lower_deduce (hR : R.Sound) (hw : w ≤ n) (hd : 0 < scd)
    (hx : Holds (SB (n+1)) (DBM.val x) m0) (htv : (linEval sc x w + Bq) / scd ≤ tval)
    {m' : Mat} (hx' : Holds (SB (n+1)) (DBM.val (upd x var tval)) m') (hun : UnaryEq (var+1) m' m0)
    {sum : ExtRat} (hc0 : ∀ y, Box m0 w y → fin (-Bq + linEval (fun i => - sc i) y w) ≤ sum)
    (hf : ∀ i, i < w → - sc i < 0 → m0 (i+1) 0 ≠ pinf)
    {s : ExtRat} (hs : ∀ S' : Rat, fin S' ≤ sum → fin (S' / (scd : Rat)) ≤ s) :
    Holds (SB (n+1)) (DBM.val (upd x var tval)) (deduceUMinusV R.up (var+1) w sc scd s m') := by
  cases s with
  | pinf =>
    exact deduceUMinusV_pinf_holds R.up hx'
      (fun u hu huv hp => by rw [(hun u (by omega)).2]; exact hf u hu (by omega))
  | fin c =>
    refine deduceUMinusV_holds hR.up_le hd hw hx' (upd_frame x var tval) (by simpa [upd] using htv) ?_
    intro y hyv hyb
    have hbox := box_of_unaryEq hx hw hun hyv hyb
    have := hs _ (hc0 y hbox)
    rw [linEval_neg] at this
    have e1 : (-Bq + -linEval sc y w) / (scd : Rat) = -((linEval sc y w + Bq) / scd) := by ring
    rw [e1] at this
    exact fin_le_fin.1 this

theorem lower_single (hw : w ≤ n) (hd : 0 < scd)
    (hx : Holds (SB (n+1)) (DBM.val x) m0) (htv : (linEval sc x w + Bq) / scd ≤ tval)
    {q : Nat} (hq1 : 1 ≤ q) (hq : q ≤ w) (hqv : q ≠ var + 1) (hsc : sc (q - 1) = scd)
    {sum : ExtRat} (hc1 : ∀ y, Box m0 w y → fin (-Bq + linEval (zeroAt (fun i => - sc i) (q - 1)) y w) ≤ sum)
    {s : ExtRat} (hs : ∀ S' : Rat, fin S' ≤ sum → fin (S' / (scd : Rat)) ≤ s) :
    fin (DBM.val (upd x var tval) q - DBM.val (upd x var tval) (var+1)) ≤ s := by
  obtain ⟨p, rfl⟩ : ∃ p, q = p + 1 := ⟨q - 1, by omega⟩
  rw [Nat.add_sub_cancel] at hsc hc1
  rw [val_upd, val_upd, if_pos rfl, if_neg hqv]
  refine le_trans' (fin_le_fin.2 ?_) (hs _ (hc1 x (box_of_holds hx hw)))
  have hd' : (scd : Rat) ≠ 0 := by exact_mod_cast (ne_of_gt hd)
  have h2 := linEval_zeroAt (fun i => - sc i) x (by omega : p < w)
  rw [linEval_neg] at h2
  have h3 : linEval (zeroAt (fun i => - sc i) p) x w = - linEval sc x w + (scd : Rat) * x p := by
    have : ((- sc p : Int) : Rat) = -(scd : Rat) := by rw [hsc]; push_cast; ring
    rw [this] at h2; linarith
  have e1 : (-Bq + linEval (zeroAt (fun i => - sc i) p) x w) / (scd : Rat)
      = -((linEval sc x w + Bq) / scd) + x p := by
    rw [h3]; field_simp; ring
  simp only [DBM.val]
  linarith

theorem lower_unary (hw : w ≤ n) (hx : Holds (SB (n+1)) (DBM.val x) m0) (htv : (linEval sc x w + Bq) / scd ≤ tval)
    {sum : ExtRat} (hc0 : ∀ y, Box m0 w y → fin (-Bq + linEval (fun i => - sc i) y w) ≤ sum)
    {s : ExtRat} (hs : ∀ S' : Rat, fin S' ≤ sum → fin (S' / (scd : Rat)) ≤ s) :
    fin (DBM.val (upd x var tval) 0 - DBM.val (upd x var tval) (var+1)) ≤ s := by
  rw [val_upd, val_upd, if_pos rfl, if_neg (by omega)]
  simp only [DBM.val, zero_sub]
  have := hs _ (hc0 x (box_of_holds hx hw))
  rw [linEval_neg] at this
  have e1 : (-Bq + -linEval sc x w) / (scd : Rat) = -((linEval sc x w + Bq) / scd) := by ring
  rw [e1] at this
  exact le_trans' (fin_le_fin.2 (by linarith)) this

theorem exploitLower_holds (hR : R.Sound) (hw : w ≤ n) (hd : 0 < scd)
    (hx : Holds (SB (n+1)) (DBM.val x) m0) (htv : (linEval sc x w + Bq) / scd ≤ tval)
    {m1 : Mat} (hx' : Holds (SB (n+1)) (DBM.val (upd x var tval)) m1) (hun : UnaryEq (var+1) m1 m0)
    {neg : Acc} (hinv : AccInv m0 w (fun i => - sc i) (-Bq) w neg) :
    Holds (SB (n+1)) (DBM.val (upd x var tval)) (exploitLower R (var+1) w sc scd neg m1) := by
  unfold exploitLower
  dsimp only
  have hs : ∀ S' : Rat, fin S' ≤ neg.sum →
      fin (S' / (scd : Rat)) ≤ (if scd ≠ 1 then divRoundUpByPositive R neg.sum scd else neg.sum) :=
    fun S' h => fin_le_quot hR hd h
  refine holds_ite (fun _ => holds_ite (fun h0 => ?_) fun h0 => holds_ite (fun hcond => ?_) fun _ => hx')
    fun _ => hx'
  · refine lower_deduce hR hw hd hx htv ?_ ?_ (hinv.c0 h0) (hinv.f0n h0) hs
    · exact holds_set hx' fun _ => lower_unary hw hx htv (hinv.c0 h0) hs
    · exact hun.of_eqOff (.set _ (.inl rfl))
  · obtain ⟨hi1, hi2, hc1⟩ := hinv.c1 (by omega)
    exact holds_set hx' fun _ => lower_single hw hd hx htv hi1 hi2 hcond.1 hcond.2 hc1 hs

end

theorem eqOff_exploitUpper {R : Rnd} {v w : Nat} {sc : Nat → Int} {scDen : Int} {pos : Acc} {m : Mat} :
    EqOff (fun _ c => c = v) m (exploitUpper R v w sc scDen pos m) := by
  unfold exploitUpper
  dsimp only
  exact .ite (.ite (.trans (.set _ rfl) (.loopUp _ _ (eqOff_deduceVMinusUStep _ _ _ _ _) _))
    (.ite (.set _ rfl) (.refl m))) (.refl m)

theorem eqOff_exploitLower {R : Rnd} {v w : Nat} {sc : Nat → Int} {scDen : Int} {neg : Acc} {m : Mat} :
    EqOff (fun a _ => a = v) m (exploitLower R v w sc scDen neg m) := by
  unfold exploitLower
  dsimp only
  exact .ite (.ite (.trans (.set _ rfl) (.loopUp _ _ (eqOff_deduceUMinusVStep _ _ _ _ _) _))
    (.ite (.set _ rfl) (.refl m))) (.refl m)

theorem exploitLower_row (R : Rnd) (v w : Nat) (sc : Nat → Int) (scd : Int) (neg : Acc) (m : Mat)
    (a c : Nat) (ha : a ≠ v) : exploitLower R v w sc scd neg m a c = m a c :=
  eqOff_exploitLower a c ha

theorem unaryEq_forgetAll (n var : Nat) (m : Mat) : UnaryEq (var+1) (forgetAll (n+1) (var+1) m) m := by
  intro u hu
  rw [forgetAll_apply, forgetAll_apply, if_neg (by omega), if_neg (by omega)]
  exact ⟨rfl, rfl⟩

theorem scExpr_pos {e : Nat → Int} {den : Int} (h : den > 0) : scExpr e den = e := by
  funext i; simp [scExpr, h]
theorem scExpr_neg {e : Nat → Int} {den : Int} (h : ¬ den > 0) : scExpr e den = fun i => - e i := by
  funext i; simp [scExpr, h]

theorem sc_value (e : Nat → Int) (x : Nat → Rat) (n : Nat) (b den : Int) :
    (linEval e x n + b) / den
      = (linEval (scExpr e den) x (lastNonzero e n) + ((if den > 0 then b else - b : Int) : Rat))
          / ((if den > 0 then den else - den : Int) : Rat) := by
  rw [linEval_last e x n]
  by_cases h : den > 0
  · rw [scExpr_pos h]; simp [h]
  · rw [scExpr_neg h, linEval_neg]
    simp only [h, if_false]
    push_cast
    rw [show (-linEval e x (lastNonzero e n) + -(b : Rat)) = -(linEval e x (lastNonzero e n) + b) by ring,
      neg_div_neg_eq]

theorem scDen_pos {den : Int} (hden : den ≠ 0) : 0 < (if den > 0 then den else - den : Int) := by
  split <;> omega

theorem minus_scb_cast (b den : Int) :
    ((if den > 0 then - b else b : Int) : Rat) = -((if den > 0 then b else - b : Int) : Rat) := by
  split <;> push_cast <;> ring

/-- the body of `affineImageGeneral` with the sign-corrected data as parameters -/
def affGenCore (R : Rnd) (n v w : Nat) (sc : Nat → Int) (scb mscb scd : Int) (m : Mat) : Mat :=
  let pn := loopUp w (fun i (pq : Acc × Acc) => (accStepA R m sc true i pq.1, accStepA R m sc false i pq.2))
    (⟨R.up (scb : Rat), 0, 0⟩, ⟨R.up (mscb : Rat), 0, 0⟩)
  let m := forgetAll (n + 1) v m
  if pn.1.cnt > 1 ∧ pn.2.cnt > 1 then m
  else exploitLower R v w sc scd pn.2 (exploitUpper R v w sc scd pn.1 m)

theorem affineImageGeneral_eq (R : Rnd) (n v w : Nat) (e : Nat → Int) (b den : Int) (m : Mat) :
    affineImageGeneral R n v w e b den m
      = affGenCore R n v w (scExpr e den) (if den > 0 then b else - b) (if den > 0 then - b else b)
          (if den > 0 then den else - den) m := rfl

theorem affGenCore_sound {R : Rnd} (hR : R.Sound) {n var w : Nat} (hw : w ≤ n) {sc : Nat → Int}
    (hc : CoeffExact R sc) {scb mscb scd : Int} (hm : (mscb : Rat) = -(scb : Rat)) (hd : 0 < scd)
    {m : Mat} {x : Nat → Rat} (hx : Holds (SB (n+1)) (DBM.val x) m) {t : Rat}
    (hval : t = (linEval sc x w + (scb : Rat)) / (scd : Rat)) :
    Holds (SB (n+1)) (DBM.val (upd x var t)) (affGenCore R n (var+1) w sc scb mscb scd m) := by
  unfold affGenCore
  dsimp only
  rw [loopUp_prod, accStepA_false]
  have hpos := accLoopA_inv hR hc _ (AccInv.init hR m w sc (scb : Rat)) _ le_rfl
  have hneg := accLoopA_inv hR hc.neg _ (AccInv.init_eq hR m w (fun i => - sc i) hm.symm) _ le_rfl
  have hx1 := holds_forgetAll (var := var) hx t
  split
  · exact hx1
  · refine exploitLower_holds hR hw hd hx (le_of_eq hval.symm) ?_ ?_ hneg
    · exact exploitUpper_holds hR hw hd hx (le_of_eq hval) hx1 (unaryEq_forgetAll n var m) hpos
    · exact (unaryEq_forgetAll n var m).of_eqOff (eqOff_exploitUpper.mono fun _ _ => .inr)

theorem affineImageGeneral_sound {R : Rnd} (hR : R.Sound) {n var : Nat} {e : Nat → Int} (hc : CoeffExact R e)
    {b den : Int} (hden : den ≠ 0) {m : Mat} {x : Nat → Rat} (hx : Holds (SB (n+1)) (DBM.val x) m) :
    Holds (SB (n+1)) (DBM.val (upd x var ((linEval e x n + b) / den)))
      (affineImageGeneral R n (var+1) (lastNonzero e n) e b den m) := by
  rw [affineImageGeneral_eq]
  exact affGenCore_sound hR (lastNonzero_le e n) (hc.sc den) (minus_scb_cast b den) (scDen_pos hden) hx
    (sc_value e x n b den)

theorem sc_at_eq {e : Nat → Int} {den : Int} {p : Nat} (h : e p = den) :
    scExpr e den p = (if den > 0 then den else - den : Int) := by
  unfold scExpr; split <;> simp [h]

/-- the body of `genAffineImageGeneral` with the sign-corrected data as parameters -/
def genGenCore (R : Rnd) (n v w : Nat) (isLe : Bool) (e : Nat → Int) (den : Int) (sc : Nat → Int)
    (b0 scd : Int) (m : Mat) : Mat :=
  let st := loopUp w (accStepG R m sc isLe) ⟨R.up (b0 : Rat), 0, 0⟩
  let m := forgetAll (n + 1) v m
  if st.cnt > 1 then m
  else
    let sum := if scd ≠ 1 then divRoundUpByPositive R st.sum scd else st.sum
    if st.cnt = 0 then
      if isLe then deduceVMinusU R.up v w sc scd sum (addDbmConstraint m 0 v sum)
      else deduceUMinusV R.up v w sc scd sum (addDbmConstraint m v 0 sum)
    else
      if st.idx ≠ v ∧ e (st.idx - 1) = den then
        if isLe then addDbmConstraint m st.idx v sum else addDbmConstraint m v st.idx sum
      else m

theorem genAffineImageGeneral_eq (R : Rnd) (n v w : Nat) (isLe : Bool) (e : Nat → Int) (b den : Int) (m : Mat) :
    genAffineImageGeneral R n v w isLe e b den m
      = genGenCore R n v w isLe e den (scExpr e den)
          (if isLe then (if den > 0 then b else - b) else (if den > 0 then - b else b))
          (if den > 0 then den else - den) m := rfl

theorem genGenCore_le_sound {R : Rnd} (hR : R.Sound) {n var w : Nat} (hw : w ≤ n) {e : Nat → Int} {den : Int}
    {sc : Nat → Int} (hc : CoeffExact R sc) {scb scd : Int} (hd : 0 < scd)
    (hsc : ∀ p, e p = den → sc p = scd)
    {m : Mat} {x : Nat → Rat} (hx : Holds (SB (n+1)) (DBM.val x) m) {t : Rat}
    (ht : t ≤ (linEval sc x w + (scb : Rat)) / (scd : Rat)) :
    Holds (SB (n+1)) (DBM.val (upd x var t)) (genGenCore R n (var+1) w true e den sc scb scd m) := by
  unfold genGenCore
  dsimp only
  simp only [if_true]
  have hst := accLoopG_inv hR hc _ (AccInv.init hR m w sc (scb : Rat)) _ le_rfl
  generalize loopUp w (accStepG R m sc true) ⟨R.up (scb : Rat), 0, 0⟩ = st at *
  have hx1 := holds_forgetAll (var := var) hx t
  have hun1 := unaryEq_forgetAll n var m
  refine holds_ite (fun _ => hx1) fun _ => holds_ite (fun h0 => ?_) fun h0 =>
    holds_ite (fun hcond => ?_) fun _ => hx1
  · refine upper_deduce hR hw hd hx ht ?_ ?_ (hst.c0 h0) (hst.f0p h0) (fun S' h => fin_le_quot hR hd h)
    · exact holds_addDbm hx1 fun _ => upper_unary hw hx ht (hst.c0 h0) fun S' h => fin_le_quot hR hd h
    · exact hun1.of_eqOff (.addDbm _ (.inr rfl))
  · obtain ⟨hi1, hi2, hc1⟩ := hst.c1 (by omega)
    exact holds_addDbm hx1 (fun _ => upper_single hw hd hx ht hi1 hi2 hcond.1 (hsc _ hcond.2) hc1
      (fun S' h => fin_le_quot hR hd h))

theorem genGenCore_ge_sound {R : Rnd} (hR : R.Sound) {n var w : Nat} (hw : w ≤ n) {e : Nat → Int} {den : Int}
    {sc : Nat → Int} (hc : CoeffExact R sc) {scb mscb scd : Int} (hm : (mscb : Rat) = -(scb : Rat)) (hd : 0 < scd)
    (hsc : ∀ p, e p = den → sc p = scd)
    {m : Mat} {x : Nat → Rat} (hx : Holds (SB (n+1)) (DBM.val x) m) {t : Rat}
    (ht : (linEval sc x w + (scb : Rat)) / (scd : Rat) ≤ t) :
    Holds (SB (n+1)) (DBM.val (upd x var t)) (genGenCore R n (var+1) w false e den sc mscb scd m) := by
  unfold genGenCore
  dsimp only
  simp only [Bool.false_eq_true, if_false]
  rw [accStepG_false]
  have hst := accLoopG_inv hR hc.neg _ (AccInv.init_eq hR m w (fun i => - sc i) hm.symm) _ le_rfl
  generalize loopUp w (accStepG R m (fun j => - sc j) true) ⟨R.up (mscb : Rat), 0, 0⟩ = st at *
  have hx1 := holds_forgetAll (var := var) hx t
  have hun1 := unaryEq_forgetAll n var m
  refine holds_ite (fun _ => hx1) fun _ => holds_ite (fun h0 => ?_) fun h0 =>
    holds_ite (fun hcond => ?_) fun _ => hx1
  · refine lower_deduce hR hw hd hx ht ?_ ?_ (hst.c0 h0) (hst.f0n h0) (fun S' h => fin_le_quot hR hd h)
    · exact holds_addDbm hx1 fun _ => lower_unary hw hx ht (hst.c0 h0) fun S' h => fin_le_quot hR hd h
    · exact hun1.of_eqOff (.addDbm _ (.inl rfl))
  · obtain ⟨hi1, hi2, hc1⟩ := hst.c1 (by omega)
    exact holds_addDbm hx1 (fun _ => lower_single hw hd hx ht hi1 hi2 hcond.1 (hsc _ hcond.2) hc1
      (fun S' h => fin_le_quot hR hd h))

theorem genAffineImageGeneral_sound {R : Rnd} (hR : R.Sound) {n var : Nat} {e : Nat → Int} (hc : CoeffExact R e)
    {b den : Int} (hden : den ≠ 0) {m : Mat} {x : Nat → Rat} (hx : Holds (SB (n+1)) (DBM.val x) m)
    (isLe : Bool) {t : Rat}
    (ht : if isLe then t ≤ (linEval e x n + b) / den else (linEval e x n + b) / den ≤ t) :
    Holds (SB (n+1)) (DBM.val (upd x var t))
      (genAffineImageGeneral R n (var+1) (lastNonzero e n) isLe e b den m) := by
  rw [genAffineImageGeneral_eq]
  rw [sc_value e x n b den] at ht
  cases isLe with
  | true =>
    simp only [if_true] at ht ⊢
    exact genGenCore_le_sound hR (lastNonzero_le e n) (hc.sc den) (scDen_pos hden) (fun p h => sc_at_eq h) hx ht
  | false =>
    simp only [Bool.false_eq_true, if_false] at ht ⊢
    exact genGenCore_ge_sound hR (lastNonzero_le e n) (hc.sc den) (minus_scb_cast b den) (scDen_pos hden)
      (fun p h => sc_at_eq h) hx ht

end PPLV.WR

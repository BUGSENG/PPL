import PPLV.WR.Trans2LatProofsExact
/-!
# `map_space_dimensions` with a total injective function and no shrinking: exact (every bound type)
-/
namespace PPLV.WR
open ExtRat

/-- `pfunc` is injective on the variables of the shape -/
def latInjective (pf : List (Option Nat)) (n : Nat) : Prop :=
  ∀ i j a, i < n → j < n → latMaps pf i = some a → latMaps pf j = some a → i = j

theorem latMaxInCodomain_ge (pf : List (Option Nat)) (n : Nat) {i a : Nat} (hi : i < n)
    (h : latMaps pf i = some a) : a ≤ latMaxInCodomain pf n := by
  unfold latMaxInCodomain
  have gen : ∀ (l : List Nat) (acc : Nat),
      acc ≤ l.foldl (fun acc i => match latMaps pf i with | some j => max acc j | none => acc) acc ∧
      (i ∈ l → a ≤ l.foldl (fun acc i => match latMaps pf i with | some j => max acc j | none => acc) acc) := by
    intro l
    induction l with
    | nil => intro acc; exact ⟨le_refl _, fun h => by simp at h⟩
    | cons u us ih =>
      intro acc
      simp only [List.foldl_cons]
      have h1 := ih (match latMaps pf u with | some j => max acc j | none => acc)
      have hacc : acc ≤ (match latMaps pf u with | some j => max acc j | none => acc) := by
        cases latMaps pf u <;> simp
      refine ⟨le_trans hacc h1.1, fun hmem => ?_⟩
      rcases List.mem_cons.1 hmem with rfl | hmem
      · simp only [h] at h1 ⊢
        exact le_trans (le_max_right _ _) h1.1
      · exact h1.2 hmem
  exact (gen (List.range n) 0).2 (List.mem_range.2 hi)

/-- the unary loop of `map_space_dimensions` -/
def bdsLatMapU (n : Nat) (pf : List (Option Nat)) (dbm x : Mat) : Mat :=
  loopUp n (fun j0 x =>
    let j := j0 + 1
    match latMaps pf (j - 1) with
    | some new_j => (x.set 0 (new_j + 1) (dbm 0 j)).set (new_j + 1) 0 (dbm j 0)
    | none => x) x

/-- the body of the outer binary loop -/
def bdsLatMapBStep (n : Nat) (pf : List (Option Nat)) (dbm : Mat) (i0 : Nat) (x : Mat) : Mat :=
  let i := i0 + 1
  match latMaps pf (i - 1) with
  | some new_i0 =>
    let new_i := new_i0 + 1
    loopUp (n - i) (fun s x =>
      let j := i + 1 + s
      match latMaps pf (j - 1) with
      | some new_j0 =>
        let new_j := new_j0 + 1
        (x.set new_i new_j (dbm i j)).set new_j new_i (dbm j i)
      | none => x) x
  | none => x

theorem bdsLatMapLoops_eq (n : Nat) (pf : List (Option Nat)) (dbm x : Mat) :
    bdsLatMapLoops n pf dbm x = loopUp n (bdsLatMapBStep n pf dbm) (bdsLatMapU n pf dbm x) := rfl

/-- a binary step only writes cells `(pf i + 1, pf j + 1)`, `(pf j + 1, pf i + 1)` with `i0 = i < j < n` -/
theorem bdsLatMapBStep_miss (n : Nat) (pf : List (Option Nat)) (dbm : Mat) (i0 : Nat) (x : Mat) (A B : Nat)
    (h : ∀ j a b, i0 < j → j < n → latMaps pf i0 = some a → latMaps pf j = some b →
      ¬ ((A = a + 1 ∧ B = b + 1) ∨ (A = b + 1 ∧ B = a + 1))) :
    bdsLatMapBStep n pf dbm i0 x A B = x A B := by
  unfold bdsLatMapBStep
  simp only [Nat.add_sub_cancel]
  cases hm : latMaps pf i0 with
  | none => rfl
  | some ni =>
    dsimp only
    refine latLoopUp_frame (fun x : Mat => x A B) ?_
    intro s x hs
    have e : i0 + 1 + 1 + s - 1 = i0 + 1 + s := by omega
    rw [e]
    cases hm2 : latMaps pf (i0 + 1 + s) with
    | none => rfl
    | some nj =>
      dsimp only
      have := h (i0 + 1 + s) ni nj (by omega) (by omega) hm hm2
      simp only [Mat.set_apply]
      rw [if_neg (by omega), if_neg (by omega)]

theorem bdsLatMapU_miss (n : Nat) (pf : List (Option Nat)) (dbm x : Mat) (A B : Nat) (hA : A ≠ 0) (hB : B ≠ 0) :
    bdsLatMapU n pf dbm x A B = x A B := by
  unfold bdsLatMapU
  refine latLoopUp_frame (fun x : Mat => x A B) ?_
  intro j0 x hj
  simp only [Nat.add_sub_cancel]
  cases hm : latMaps pf j0 with
  | none => rfl
  | some nj =>
    dsimp only
    simp only [Mat.set_apply]
    rw [if_neg (by omega), if_neg (by omega)]

theorem bdsLatMapU_hit (n : Nat) (pf : List (Option Nat)) (hinj : latInjective pf n) (dbm x : Mat) {j a : Nat}
    (hj : j < n) (hm : latMaps pf j = some a) :
    bdsLatMapU n pf dbm x 0 (a + 1) = dbm 0 (j + 1) ∧ bdsLatMapU n pf dbm x (a + 1) 0 = dbm (j + 1) 0 := by
  unfold bdsLatMapU
  constructor
  · refine latLoopUp_cell (fun x : Mat => x 0 (a + 1)) (fun _ => True) (k0 := j) trivial
      (fun _ _ _ _ _ => trivial) hj ?_ ?_
    · intro x _
      simp only [Nat.add_sub_cancel, hm, Mat.set_apply]
      simp
    · intro k x hk hne
      simp only [Nat.add_sub_cancel]
      cases hm2 : latMaps pf k with
      | none => rfl
      | some nk =>
        dsimp only
        simp only [Mat.set_apply]
        have : nk ≠ a := fun h => hne (hinj k j a hk hj (h ▸ hm2) hm)
        rw [if_neg (by omega), if_neg (by omega)]
  · refine latLoopUp_cell (fun x : Mat => x (a + 1) 0) (fun _ => True) (k0 := j) trivial
      (fun _ _ _ _ _ => trivial) hj ?_ ?_
    · intro x _
      simp only [Nat.add_sub_cancel, hm, Mat.set_apply]
      simp
    · intro k x hk hne
      simp only [Nat.add_sub_cancel]
      cases hm2 : latMaps pf k with
      | none => rfl
      | some nk =>
        dsimp only
        simp only [Mat.set_apply]
        have : nk ≠ a := fun h => hne (hinj k j a hk hj (h ▸ hm2) hm)
        rw [if_neg (by omega), if_neg (by omega)]

/-- the binary step `i` writes both cells of the pair `i < j` -/
theorem bdsLatMapBStep_hit (n : Nat) (pf : List (Option Nat)) (hinj : latInjective pf n) (dbm x : Mat)
    {i j a b : Nat} (hij : i < j) (hj : j < n) (hmi : latMaps pf i = some a) (hmj : latMaps pf j = some b) :
    bdsLatMapBStep n pf dbm i x (a + 1) (b + 1) = dbm (i + 1) (j + 1) ∧
    bdsLatMapBStep n pf dbm i x (b + 1) (a + 1) = dbm (j + 1) (i + 1) := by
  have hab : a ≠ b := fun h => by have := hinj i j a (by omega) hj hmi (h ▸ hmj); omega
  unfold bdsLatMapBStep
  simp only [Nat.add_sub_cancel, hmi]
  have hstep : ∀ (s : Nat) (x : Mat) (A B : Nat), s < n - (i + 1) → i + 1 + s ≠ j →
      ((A = a + 1 ∧ B = b + 1) ∨ (A = b + 1 ∧ B = a + 1)) →
      (match latMaps pf (i + 1 + 1 + s - 1) with
        | some new_j0 => (x.set (a + 1) (new_j0 + 1) (dbm (i + 1) (i + 1 + 1 + s))).set (new_j0 + 1) (a + 1)
            (dbm (i + 1 + 1 + s) (i + 1))
        | none => x) A B = x A B := by
    intro s x A B hs hne hAB
    have e : i + 1 + 1 + s - 1 = i + 1 + s := by omega
    rw [e]
    cases hm2 : latMaps pf (i + 1 + s) with
    | none => rfl
    | some nk =>
      dsimp only
      simp only [Mat.set_apply]
      have : nk ≠ b := fun h => hne (hinj (i + 1 + s) j b (by omega) hj (h ▸ hm2) hmj)
      rw [if_neg (by omega), if_neg (by omega)]
  have hhit : ∀ (x : Mat),
      (match latMaps pf (i + 1 + 1 + (j - (i + 1)) - 1) with
        | some new_j0 => (x.set (a + 1) (new_j0 + 1) (dbm (i + 1) (i + 1 + 1 + (j - (i + 1))))).set
            (new_j0 + 1) (a + 1) (dbm (i + 1 + 1 + (j - (i + 1))) (i + 1))
        | none => x) = (x.set (a + 1) (b + 1) (dbm (i + 1) (j + 1))).set (b + 1) (a + 1) (dbm (j + 1) (i + 1)) := by
    intro x
    have e : i + 1 + 1 + (j - (i + 1)) - 1 = j := by omega
    have e2 : i + 1 + 1 + (j - (i + 1)) = j + 1 := by omega
    rw [e, hmj, e2]
  constructor
  · refine latLoopUp_cell (fun x : Mat => x (a + 1) (b + 1)) (fun _ => True) (k0 := j - (i + 1)) trivial
      (fun _ _ _ _ _ => trivial) (by omega) ?_ ?_
    · intro x _
      show (match latMaps pf (i + 1 + 1 + (j - (i + 1)) - 1) with
        | some new_j0 => _ | none => x) (a + 1) (b + 1) = _
      rw [hhit]
      simp only [Mat.set_apply]
      simp; intro h1 h2; omega
    · intro k x hk hne
      exact hstep k x _ _ hk (by omega) (Or.inl ⟨rfl, rfl⟩)
  · refine latLoopUp_cell (fun x : Mat => x (b + 1) (a + 1)) (fun _ => True) (k0 := j - (i + 1)) trivial
      (fun _ _ _ _ _ => trivial) (by omega) ?_ ?_
    · intro x _
      show (match latMaps pf (i + 1 + 1 + (j - (i + 1)) - 1) with
        | some new_j0 => _ | none => x) (b + 1) (a + 1) = _
      rw [hhit]
      simp only [Mat.set_apply]
      simp
    · intro k x hk hne
      exact hstep k x _ _ hk (by omega) (Or.inr ⟨rfl, rfl⟩)

/-- the cells of the mapped matrix between two different mapped indices -/
theorem bdsLatMapLoops_cell (n : Nat) (pf : List (Option Nat)) (hinj : latInjective pf n) (dbm x : Mat)
    {I J A B : Nat} (hI : I ≤ n) (hJ : J ≤ n) (hIJ : I ≠ J) (hA : latPhi pf I = some A)
    (hB : latPhi pf J = some B) : bdsLatMapLoops n pf dbm x A B = dbm I J := by
  rw [bdsLatMapLoops_eq]
  -- the images
  have img : ∀ K C, K ≤ n → latPhi pf K = some C → (K = 0 ∧ C = 0) ∨
      ∃ k c, K = k + 1 ∧ C = c + 1 ∧ k < n ∧ latMaps pf k = some c := by
    intro K C hK hC
    cases K with
    | zero => simp only [latPhi, Option.some.injEq] at hC; exact Or.inl ⟨rfl, hC.symm⟩
    | succ k =>
      right
      simp only [latPhi] at hC
      cases hm : latMaps pf k with
      | none => rw [hm] at hC; simp at hC
      | some c =>
        rw [hm] at hC
        simp only [Option.map_some, Option.some.injEq] at hC
        exact ⟨k, c, rfl, hC.symm, by omega, hm⟩
  rcases img I A hI hA with ⟨rfl, rfl⟩ | ⟨i, a, rfl, rfl, hi, hmi⟩
  · rcases img J B hJ hB with ⟨rfl, rfl⟩ | ⟨j, b, rfl, rfl, hj, hmj⟩
    · exact absurd rfl hIJ
    · rw [latLoopUp_frame (fun x : Mat => x 0 (b + 1)) (fun k x hk =>
        bdsLatMapBStep_miss n pf dbm k x 0 (b + 1) (by intro j' a' b' _ _ _ _; omega))]
      exact (bdsLatMapU_hit n pf hinj dbm x hj hmj).1
  · rcases img J B hJ hB with ⟨rfl, rfl⟩ | ⟨j, b, rfl, rfl, hj, hmj⟩
    · rw [latLoopUp_frame (fun x : Mat => x (a + 1) 0) (fun k x hk =>
        bdsLatMapBStep_miss n pf dbm k x (a + 1) 0 (by intro j' a' b' _ _ _ _; omega))]
      exact (bdsLatMapU_hit n pf hinj dbm x hi hmi).2
    · have hij : i ≠ j := fun h => hIJ (by rw [h])
      have hmiss : ∀ k x, k < n → k ≠ min i j →
          bdsLatMapBStep n pf dbm k x (a + 1) (b + 1) = x (a + 1) (b + 1) := by
        intro k x hk hne
        apply bdsLatMapBStep_miss
        intro j' a' b' h1 h2 h3 h4 hc
        rcases hc with ⟨e1, e2⟩ | ⟨e1, e2⟩
        · have := hinj k i a hk hi (by rw [h3]; congr 1; omega) hmi
          have := hinj j' j b h2 hj (by rw [h4]; congr 1; omega) hmj
          omega
        · have := hinj j' i a h2 hi (by rw [h4]; congr 1; omega) hmi
          have := hinj k j b hk hj (by rw [h3]; congr 1; omega) hmj
          omega
      refine latLoopUp_cell (fun x : Mat => x (a + 1) (b + 1)) (fun _ => True) (k0 := min i j) trivial
        (fun _ _ _ _ _ => trivial) (by omega) ?_ (fun k x hk hne => hmiss k x hk hne)
      intro x _
      rcases Nat.lt_or_gt_of_ne hij with h | h
      · have e : min i j = i := by omega
        rw [e]
        exact (bdsLatMapBStep_hit n pf hinj dbm x h hj hmi hmj).1
      · have e : min i j = j := by omega
        rw [e]
        exact (bdsLatMapBStep_hit n pf hinj dbm x h hi hmj hmi).2

/-- `map_space_dimensions` with a total injective `pfunc` that does not shrink the space (no closure is
run): exact for every bound type; `img i` is the image of `Variable(i)` -/
theorem bdsLatMapDims_exact (R : Rnd) (n : Nat) (c : Bool) (m : Mat) (hd : bdsLatDiag n m)
    (pf : List (Option Nat)) (img : Nat → Nat) (himg : ∀ i, i < n → latMaps pf i = some (img i))
    (hinj : latInjective pf n) (hns : ¬ latMaxInCodomain pf n + 1 < n) :
    ∃ r, bdsLatMapDims R n c m pf = some r ∧ r.dim = latMapNewDim pf n ∧
      ∀ y, y ∈ γB r.dim r.m ↔ (fun i => y (img i)) ∈ γB n m := by
  unfold bdsLatMapDims latMapNewDim
  by_cases hn : n = 0
  · subst hn
    simp only [if_true]
    exact ⟨_, rfl, rfl, fun y => ⟨fun h => latGammaB_congr (n := 0) (fun i hi => absurd hi (Nat.not_lt_zero i)) h,
      fun h => latGammaB_congr (n := 0) (fun i hi => absurd hi (Nat.not_lt_zero i)) h⟩⟩
  · have hec : latEmptyCodomain pf n = false := by
      unfold latEmptyCodomain
      rw [List.all_eq_false]
      exact ⟨0, List.mem_range.2 (by omega), by rw [himg 0 (by omega)]; simp⟩
    simp only [if_neg hn, hec, Bool.false_eq_true, if_false, if_neg hns]
    refine ⟨_, rfl, rfl, fun y => ⟨fun h => ?_, fun h => ?_⟩⟩
    · -- exactness: every cell of `m` is a cell of the result
      have hphi : ∀ K, K ≤ n → ∃ C, latPhi pf K = some C ∧ C ≤ latMaxInCodomain pf n + 1 ∧
          DBM.val (fun i => y (img i)) K = DBM.val y C := by
        intro K hK
        cases K with
        | zero => exact ⟨0, rfl, by omega, rfl⟩
        | succ k =>
          refine ⟨img k + 1, by simp [latPhi, himg k (by omega)], ?_, rfl⟩
          have := latMaxInCodomain_ge pf n (by omega : k < n) (himg k (by omega))
          omega
      intro I J hIJ
      have hI : I ≤ n := by have := hIJ.1; omega
      have hJ : J ≤ n := by have := hIJ.2; omega
      by_cases hne : I = J
      · subst hne; rw [hd I hI]; exact le_pinf _
      · obtain ⟨A, hA, hA2, eA⟩ := hphi I hI
        obtain ⟨B, hB, hB2, eB⟩ := hphi J hJ
        rw [eA, eB, ← bdsLatMapLoops_cell n pf hinj m { f := fun _ _ => pinf } hI hJ hne hA hB]
        exact h A B ⟨by simp only; omega, by simp only; omega⟩
    · exact bdsLatMapInv_holds (bdsLatMapLoops_inv n pf m) h
        (fun i hi a ha => by rw [himg i hi] at ha; simp only [Option.some.injEq] at ha; rw [ha]) _

end PPLV.WR

import PPLV.WR.Trans2LatProofsConcatRemove
import PPLV.WR.ClosureProofsFW
/-!
# Lattice / dimension operations of `BD_Shape<T>`: map_space_dimensions (soundness),
expand_space_dimension (exact characterisation)
-/
namespace PPLV.WR
open ExtRat

/-! ## `map_space_dimensions` -/

/-- image of a dbm index: the zero variable stays, `Variable(i)` goes to `pfunc(i)` -/
def latPhi (pf : List (Option Nat)) : Nat → Option Nat
  | 0 => some 0
  | i+1 => (latMaps pf i).map (· + 1)

/-- every cell of the new matrix is `+∞` or a cell of the old one between indices with these images -/
def bdsLatMapInv (n : Nat) (pf : List (Option Nat)) (dbm x : Mat) : Prop :=
  ∀ A B, x A B = pinf ∨ ∃ I J, I ≤ n ∧ J ≤ n ∧ latPhi pf I = some A ∧ latPhi pf J = some B ∧ x A B = dbm I J

theorem bdsLatMapInv_set {n : Nat} {pf : List (Option Nat)} {dbm x : Mat} (h : bdsLatMapInv n pf dbm x)
    {I J A B : Nat} (hI : I ≤ n) (hJ : J ≤ n) (hA : latPhi pf I = some A) (hB : latPhi pf J = some B) :
    bdsLatMapInv n pf dbm (x.set A B (dbm I J)) := by
  intro A' B'
  simp only [Mat.set_apply]
  split
  · rename_i hc
    obtain ⟨rfl, rfl⟩ := hc
    exact Or.inr ⟨I, J, hI, hJ, hA, hB, rfl⟩
  · exact h A' B'

theorem bdsLatMapLoops_inv (n : Nat) (pf : List (Option Nat)) (dbm : Mat) :
    bdsLatMapInv n pf dbm (bdsLatMapLoops n pf dbm { f := fun _ _ => pinf }) := by
  unfold bdsLatMapLoops
  dsimp only
  apply latLoopUp_inv (bdsLatMapInv n pf dbm)
  · apply latLoopUp_inv (bdsLatMapInv n pf dbm)
    · intro A B; exact Or.inl rfl
    · intro j0 x hj0 hx
      simp only [Nat.add_sub_cancel]
      cases hm : latMaps pf j0 with
      | none => exact hx
      | some nj =>
        dsimp only
        have hp : latPhi pf (j0 + 1) = some (nj + 1) := by simp [latPhi, hm]
        exact bdsLatMapInv_set (bdsLatMapInv_set hx (Nat.zero_le _) (by omega) rfl hp) (by omega)
          (Nat.zero_le _) hp rfl
  · intro i0 x hi0 hx
    simp only [Nat.add_sub_cancel]
    cases hm : latMaps pf i0 with
    | none => exact hx
    | some ni =>
      dsimp only
      have hpi : latPhi pf (i0 + 1) = some (ni + 1) := by simp [latPhi, hm]
      apply latLoopUp_inv (bdsLatMapInv n pf dbm) hx
      intro s x hs hx
      have e : i0 + 1 + 1 + s - 1 = i0 + 1 + s := by omega
      rw [e]
      cases hm2 : latMaps pf (i0 + 1 + s) with
      | none => exact hx
      | some nj =>
        dsimp only
        have hpj : latPhi pf (i0 + 1 + 1 + s) = some (nj + 1) := by
          have : i0 + 1 + 1 + s = (i0 + 1 + s) + 1 := by omega
          rw [this]; simp [latPhi, hm2]
        exact bdsLatMapInv_set (bdsLatMapInv_set hx (by omega) (by omega) hpi hpj) (by omega) (by omega)
          hpj hpi

theorem bdsLatMapInv_holds {n : Nat} {pf : List (Option Nat)} {dbm x : Mat} (h : bdsLatMapInv n pf dbm x)
    {p y : Nat → Rat} (hp : p ∈ γB n dbm) (hy : ∀ i, i < n → ∀ a, latMaps pf i = some a → y a = p i)
    (k : Nat) : y ∈ γB k x := by
  have hv : ∀ I A, I ≤ n → latPhi pf I = some A → DBM.val y A = DBM.val p I := by
    intro I A hI hA
    cases I with
    | zero => simp only [latPhi, Option.some.injEq] at hA; subst hA; rfl
    | succ i =>
      simp only [latPhi] at hA
      cases hm : latMaps pf i with
      | none => rw [hm] at hA; simp at hA
      | some a =>
        rw [hm] at hA
        simp only [Option.map_some, Option.some.injEq] at hA
        subst hA
        simp only [DBM.val]
        exact hy i (by omega) a hm
  intro A B hAB
  rcases h A B with h | ⟨I, J, hI, hJ, hA, hB, e⟩
  · rw [h]; exact le_pinf _
  · rw [e, hv I A hI hA, hv J B hJ hB]
    exact hp I J ⟨by omega, by omega⟩

/-- the space dimension after `map_space_dimensions` -/
def latMapNewDim (pf : List (Option Nat)) (n : Nat) : Nat :=
  if n = 0 then 0 else if latEmptyCodomain pf n then 0 else latMaxInCodomain pf n + 1

theorem bdsLatMapDims_sound {R : Rnd} (hR : R.Sound) (n : Nat) (c : Bool) (m : Mat) (pf : List (Option Nat))
    {x y : Nat → Rat} (hx : x ∈ γB n m) (hy : ∀ i, i < n → ∀ a, latMaps pf i = some a → y a = x i) :
    ∃ r, bdsLatMapDims R n c m pf = some r ∧ r.dim = latMapNewDim pf n ∧ y ∈ γB r.dim r.m := by
  unfold bdsLatMapDims latMapNewDim
  split
  · rename_i hn; subst hn
    exact ⟨_, rfl, rfl, latGammaB_congr (n := 0) (fun i hi => absurd hi (Nat.not_lt_zero i)) hx⟩
  · split
    · obtain ⟨r, e, hd, hr⟩ := bdsLatRemoveHigher_sound hR n c m 0 (Nat.zero_le _) hx
      refine ⟨r, e, hd, ?_⟩
      rw [hd]
      exact latGammaB_congr (fun i hi => by omega) hr
    · dsimp only
      have hst : ∃ m' c', (if latMaxInCodomain pf n + 1 < n then bdsLatClose R.up n c m else some (m, c))
          = some (m', c') ∧ x ∈ γB n m' := by
        split
        · exact bdsLatClose_sound hR.up_le n c m hx
        · exact ⟨m, c, rfl, hx⟩
      obtain ⟨m', c', e, hx'⟩ := hst
      rw [e]
      exact ⟨_, rfl, rfl, bdsLatMapInv_holds (bdsLatMapLoops_inv n pf m') hx' hy _⟩

/-! ## `expand_space_dimension` -/

theorem latUpd_self (y : Nat → Rat) (v : Nat) : upd y v (y v) = y := by
  funext i
  simp only [upd]
  split
  · rename_i h; rw [h]
  · rfl

theorem bdsLatExpandInner_apply (n i v c : Nat) (hi : i ≤ n) (hv : v ≤ n) (s : Mat) (a b : Nat) :
    loopUp c (fun t m =>
      let j := n + 1 + t
      let m := m.set i j (m i v)
      m.set j i (m v i)) s a b
      = if a = i ∧ n + 1 ≤ b ∧ b < n + 1 + c then s i v
        else if b = i ∧ n + 1 ≤ a ∧ a < n + 1 + c then s v i else s a b := by
  induction c generalizing a b with
  | zero =>
    simp only [loopUp]
    rw [if_neg (by omega), if_neg (by omega)]
  | succ c ih =>
    simp only [loopUp]
    generalize loopUp c _ s = S at ih ⊢
    -- the cells read lie in the old block
    have e1 : S i v = s i v := by rw [ih, if_neg (by omega), if_neg (by omega)]
    have e2 : S v i = s v i := by rw [ih, if_neg (by omega), if_neg (by omega)]
    simp only [Mat.set_apply, e1, e2, ih a b]
    grind

theorem bdsLatExpandLoop_apply (n v k : Nat) (hv : v ≤ n) (m : Mat) (a b : Nat) :
    bdsLatExpandLoop n v k m a b
      = if a ≤ n ∧ n + 1 ≤ b ∧ b < n + 1 + k then m a v
        else if b ≤ n ∧ n + 1 ≤ a ∧ a < n + 1 + k then m v b else m a b := by
  unfold bdsLatExpandLoop
  have key := loopDown_ind (α := Mat)
    (fun t s => ∀ a b, s a b = if (t ≤ a ∧ a ≤ n) ∧ n + 1 ≤ b ∧ b < n + 1 + k then m a v
        else if (t ≤ b ∧ b ≤ n) ∧ n + 1 ≤ a ∧ a < n + 1 + k then m v b else m a b)
    (n + 1) (fun i m => loopUp k (fun t m =>
      let j := n + 1 + t
      let m := m.set i j (m i v)
      m.set j i (m v i)) m) m ?_ ?_
  · rw [key a b]
    grind
  · intro a b
    rw [if_neg (by omega), if_neg (by omega)]
  · intro t ht s hs a b
    rw [bdsLatExpandInner_apply n t v k (by omega) hv s a b]
    rw [hs t v, hs v t, hs a b]
    grind

/-- `expand_space_dimension(var, k)`: a point is in the result iff substituting any copy for `var`
gives a point of the original shape (class invariant: `+∞` on the diagonal) -/
theorem bdsLatExpand_spec (R : Rnd) (n : Nat) (c : Bool) (m : Mat) (var k : Nat) (hvar : var < n)
    (hd : bdsLatDiag n m) :
    ∃ r, bdsLatExpand R n c m var k = some r ∧ r.dim = n + k ∧
      ∀ y, y ∈ γB (n + k) r.m ↔
        ∀ j, (j = var ∨ (n ≤ j ∧ j < n + k)) → upd y var (y j) ∈ γB n m := by
  unfold bdsLatExpand bdsLatEmbed
  by_cases hk : k = 0
  · subst hk
    simp only [if_true]
    refine ⟨_, rfl, rfl, fun y => ⟨fun h j hj => ?_, fun h => ?_⟩⟩
    · have : j = var := by omega
      subst this
      rw [latUpd_self]; exact h
    · have := h var (Or.inl rfl)
      rw [latUpd_self] at this; exact this
  · simp only [if_neg hk]
    refine ⟨_, rfl, rfl, fun y => ?_⟩
    have cell : ∀ a b, bdsLatExpandLoop n (var + 1) k (bdsLatGrow (n + 1) m) a b
        = if a ≤ n ∧ n + 1 ≤ b ∧ b < n + 1 + k then (if a ≤ n then m a (var + 1) else pinf)
          else if b ≤ n ∧ n + 1 ≤ a ∧ a < n + 1 + k then (if b ≤ n then m (var + 1) b else pinf)
          else if a ≤ n ∧ b ≤ n then m a b else pinf := by
      intro a b
      rw [bdsLatExpandLoop_apply n (var + 1) k (by omega)]
      simp only [bdsLatGrow]
      grind
    have hvu : ∀ (w : Rat) (a : Nat), DBM.val (upd y var w) a = if a = var + 1 then w else DBM.val y a :=
      fun w a => val_upd y var w a
    constructor
    · intro h j hj a b hab
      have ha : a ≤ n := by have := hab.1; omega
      have hb : b ≤ n := by have := hab.2; omega
      by_cases hjv : j = var
      · subst hjv
        rw [latUpd_self]
        have := h a b ⟨by omega, by omega⟩
        rw [cell, if_neg (by omega), if_neg (by omega), if_pos ⟨ha, hb⟩] at this
        exact this
      · rw [hvu, hvu]
        have hj' : n ≤ j ∧ j < n + k := by omega
        have hyj : y j = DBM.val y (j + 1) := rfl
        by_cases hav : a = var + 1
        · by_cases hbv : b = var + 1
          · rw [if_pos hav, if_pos hbv, hav, hbv, hd (var + 1) (by omega)]; exact le_pinf _
          · rw [if_pos hav, if_neg hbv, hav, hyj]
            have := h (j + 1) b ⟨by omega, by omega⟩
            rw [cell, if_neg (by omega), if_pos (by omega), if_pos hb] at this
            exact this
        · by_cases hbv : b = var + 1
          · rw [if_neg hav, if_pos hbv, hbv, hyj]
            have := h a (j + 1) ⟨by omega, by omega⟩
            rw [cell, if_pos (by omega), if_pos ha] at this
            exact this
          · rw [if_neg hav, if_neg hbv]
            have := h a b ⟨by omega, by omega⟩
            rw [cell, if_neg (by omega), if_neg (by omega), if_pos ⟨ha, hb⟩] at this
            exact this
    · intro h a b hab
      have ha : a ≤ n + k := by have := hab.1; omega
      have hb : b ≤ n + k := by have := hab.2; omega
      have h0 := h var (Or.inl rfl)
      rw [latUpd_self] at h0
      rw [cell]
      split
      · rename_i hc
        rw [if_pos hc.1]
        -- column `b` is a copy of `var`
        obtain ⟨j, rfl⟩ : ∃ j, b = j + 1 := ⟨b - 1, by omega⟩
        have hj := h j (Or.inr ⟨by omega, by omega⟩)
        have := hj a (var + 1) ⟨by omega, by omega⟩
        rw [hvu, hvu, if_pos rfl] at this
        by_cases hav : a = var + 1
        · rw [hav, hd (var + 1) (by omega)]; exact le_pinf _
        · rw [if_neg hav] at this
          exact this
      · split
        · rename_i hc1 hc
          rw [if_pos hc.1]
          obtain ⟨j, rfl⟩ : ∃ j, a = j + 1 := ⟨a - 1, by omega⟩
          have hj := h j (Or.inr ⟨by omega, by omega⟩)
          have := hj (var + 1) b ⟨by omega, by omega⟩
          rw [hvu, hvu, if_pos rfl] at this
          by_cases hbv : b = var + 1
          · rw [hbv, hd (var + 1) (by omega)]; exact le_pinf _
          · rw [if_neg hbv] at this
            exact this
        · split
          · rename_i hc
            exact h0 a b ⟨by omega, by omega⟩
          · exact le_pinf _

end PPLV.WR

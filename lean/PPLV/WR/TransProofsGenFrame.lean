import PPLV.WR.TransProofsGenSpecial
import PPLV.WR.TransProofsExploit
/-!
# Frame lemmas: `generalized_affine_image(var, …)` only touches row and column `var + 1`

"Exploit the upper approximation" writes only column `v`, "exploit the lower approximation" only row `v`
(`eqOff_exploitUpper`, `eqOff_exploitLower`); every branch of `genAffineImageCore` (the general case included)
leaves every cell outside row and column `v = var + 1` as it was.  Each statement is an `EqOff` term that follows
the program text.
-/
namespace PPLV.WR
open ExtRat

theorem exploitUpper_frame (R : Rnd) (v w : Nat) (sc : Nat → Int) (scDen : Int) (pos : Acc) (m : Mat)
    (a c : Nat) (hc : c ≠ v) : exploitUpper R v w sc scDen pos m a c = m a c :=
  eqOff_exploitUpper a c hc

theorem exploitLower_frame (R : Rnd) (v w : Nat) (sc : Nat → Int) (scDen : Int) (neg : Acc) (m : Mat)
    (a c : Nat) (ha : a ≠ v) : exploitLower R v w sc scDen neg m a c = m a c :=
  eqOff_exploitLower a c ha

theorem forgetBinary_frame (rows v : Nat) (m : Mat) (a c : Nat) (ha : a ≠ v) (hc : c ≠ v) :
    forgetBinary rows v m a c = m a c := by
  rw [forgetBinary_apply, if_neg (by omega)]

/-- a cell is in row or column `v` -/
abbrev Cross (v : Nat) : Nat → Nat → Prop := fun a c => a = v ∨ c = v

theorem eqOff_forgetAll {rows v : Nat} {m : Mat} : EqOff (Cross v) m (forgetAll rows v m) :=
  .loopDown _ _ (fun _ _ => .trans (.set _ (.inl rfl)) (.set _ (.inr rfl))) m

theorem eqOff_forgetBinary {rows v : Nat} {m : Mat} : EqOff (Cross v) m (forgetBinary rows v m) :=
  .loopDown _ _ (fun _ _ => .trans (.set _ (.inl rfl)) (.set _ (.inr rfl))) m

theorem eqOff_genAffineImageGeneral {R : Rnd} {n v w : Nat} {isLe : Bool} {e : Nat → Int} {b den : Int}
    {m : Mat} : EqOff (Cross v) m (genAffineImageGeneral R n v w isLe e b den m) := by
  unfold genAffineImageGeneral
  dsimp only
  refine .trans eqOff_forgetAll (.ite (.refl _) (.ite (.ite ?_ ?_)
    (.ite (.ite (.addDbm _ (.inr rfl)) (.addDbm _ (.inl rfl))) (.refl _))))
  · exact .trans (.addDbm _ (.inr rfl))
      ((EqOff.loopUp _ _ (eqOff_deduceVMinusUStep _ _ _ _ _) _).mono fun _ _ => .inr)
  · exact .trans (.addDbm _ (.inl rfl))
      ((EqOff.loopUp _ _ (eqOff_deduceUMinusVStep _ _ _ _ _) _).mono fun _ _ => .inl)

/-- `generalized_affine_image(var, ≤ / ≥, expr, den)` leaves every cell outside row and column
`var + 1` as it was (every branch, the general case included) -/
theorem eqOff_genAffineImageCore (R : Rnd) (n var : Nat) (isLe : Bool) (e : Nat → Int) (b den : Int) (m : Mat) :
    EqOff (Cross (var + 1)) m (genAffineImageCore R n var isLe e b den m) := by
  have hfa : EqOff (Cross (var + 1)) m (forgetAll (n + 1) (var + 1) m) := eqOff_forgetAll
  unfold genAffineImageCore
  dsimp only
  refine .ite (.trans hfa (.ite (.addDbm _ (.inr rfl)) (.addDbm _ (.inl rfl))))
    (.ite (.ite (.ite (.ite ?_ ?_) (.trans hfa ?_)) (.ite (.ite ?_ ?_) (.trans hfa ?_)))
      eqOff_genAffineImageGeneral)
  · exact .loopDown _ _ (fun _ _ => .trans (.set _ (.inr rfl)) (.set _ (.inl rfl))) m
  · exact .trans (.trans (.set _ (.inr rfl)) (.set _ (.inl rfl))) eqOff_forgetBinary
  · exact .ite (.addDbm _ (.inr rfl)) (.ite (.set _ (.inr rfl)) (.refl _))
  · exact .loopDown _ _ (fun _ _ => .trans (.set _ (.inl rfl)) (.set _ (.inr rfl))) m
  · exact .trans (.trans (.set _ (.inl rfl)) (.set _ (.inr rfl))) eqOff_forgetBinary
  · exact .ite (.addDbm _ (.inl rfl)) (.ite (.set _ (.inl rfl)) (.refl _))

end PPLV.WR

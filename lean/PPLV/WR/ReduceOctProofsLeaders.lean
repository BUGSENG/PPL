import PPLV.WR.ReduceOctProofsBase
/-!
# Octagon reduction: `compute_successors` and `compute_leaders(leaders)` compute what their comments say
-/
namespace PPLV.WR
open ExtRat (fin pinf)

theorem exists_least (P : Nat → Prop) (h : ∃ i, P i) : ∃ i, P i ∧ ∀ k, k < i → ¬ P k := by
  obtain ⟨i, hi⟩ := h
  induction i using Nat.strong_induction_on with
  | _ i ih =>
    by_cases hk : ∃ k, k < i ∧ P k
    · obtain ⟨k, hk, hp⟩ := hk
      exact ih k hk hp
    · exact ⟨i, hi, fun k hki hp => hk ⟨k, hki, hp⟩⟩

/-! ## generic loops (`T i j` is the test of row `i`, column `j < i`) -/

def succBody (T : Nat → Nat → Bool) (i : Nat) (s : Vec) : Vec :=
  loopUp i (fun j s => if T i j then s.set j i else s) s

theorem succBody_apply (T : Nat → Nat → Bool) (i : Nat) (s : Vec) (t : Nat) :
    succBody T i s t = if t < i ∧ T i t = true then i else s t := by
  unfold succBody
  suffices ∀ k, loopUp k (fun j s => if T i j then s.set j i else s) s t
      = if t < k ∧ T i t = true then i else s t from this i
  intro k
  induction k with
  | zero => simp [loopUp]
  | succ k ih =>
    simp only [loopUp]
    by_cases hT : T i k = true
    · rw [if_pos hT, Vec.set_apply, ih]
      by_cases e : t = k
      · subst e; rw [if_pos rfl, if_pos ⟨Nat.lt_succ_self _, hT⟩]
      · rw [if_neg e]
        by_cases h : t < k ∧ T i t = true
        · rw [if_pos h, if_pos ⟨by omega, h.2⟩]
        · rw [if_neg h, if_neg (fun h' => h ⟨by omega, h'.2⟩)]
    · rw [if_neg hT, ih]
      by_cases h : t < k ∧ T i t = true
      · rw [if_pos h, if_pos ⟨by omega, h.2⟩]
      · rw [if_neg h, if_neg]
        rintro ⟨h1, h2⟩
        by_cases e : t = k
        · subst e; exact hT h2
        · exact h ⟨by omega, h2⟩

theorem succLoop_none (T : Nat → Nat → Bool) (t : Nat) :
    ∀ (r : Nat) (s : Vec), (∀ i, i < r → t < i → T i t = false) → loopDown r (succBody T) s t = s t := by
  intro r
  induction r with
  | zero => intro s _; rfl
  | succ r ih =>
    intro s h
    simp only [loopDown]
    rw [ih _ (fun i hi => h i (by omega)), succBody_apply, if_neg]
    rintro ⟨h1, h2⟩
    rw [h r (by omega) h1] at h2; cases h2

theorem succLoop_some (T : Nat → Nat → Bool) (t i0 : Nat) (ht : t < i0) (hT : T i0 t = true)
    (hmin : ∀ i, i < i0 → t < i → T i t = false) :
    ∀ (r : Nat) (s : Vec), i0 < r → loopDown r (succBody T) s t = i0 := by
  intro r
  induction r with
  | zero => intro s h; omega
  | succ r ih =>
    intro s h
    simp only [loopDown]
    by_cases e : i0 = r
    · subst e
      rw [succLoop_none T t _ _ hmin, succBody_apply, if_pos ⟨ht, hT⟩]
    · exact ih _ (by omega)

def leadBody (T : Nat → Nat → Bool) (i : Nat) (l : Vec) : Vec :=
  loopUp i (fun j l => if T i j then l.set i (l j) else l) l

theorem leadBody_spec (T : Nat → Nat → Bool) (i : Nat) (l : Vec) :
    (∀ t, t ≠ i → leadBody T i l t = l t) ∧
    ((∀ j, j < i → T i j = false) → leadBody T i l i = l i) ∧
    ((∃ j, j < i ∧ T i j = true) → ∃ j, j < i ∧ T i j = true ∧ leadBody T i l i = l j) := by
  unfold leadBody
  suffices ∀ k, k ≤ i →
      (∀ t, t ≠ i → loopUp k (fun j l => if T i j then l.set i (l j) else l) l t = l t) ∧
      ((∀ j, j < k → T i j = false) → loopUp k (fun j l => if T i j then l.set i (l j) else l) l i = l i) ∧
      ((∃ j, j < k ∧ T i j = true) →
        ∃ j, j < k ∧ T i j = true ∧ loopUp k (fun j l => if T i j then l.set i (l j) else l) l i = l j)
    from this i (Nat.le_refl i)
  intro k
  induction k with
  | zero =>
    intro _
    refine ⟨fun _ _ => rfl, fun _ => rfl, ?_⟩
    rintro ⟨j, hj, _⟩; omega
  | succ k ih =>
    intro hk
    obtain ⟨i1, i2, i3⟩ := ih (by omega)
    simp only [loopUp]
    by_cases hT : T i k = true
    · simp only [if_pos hT, Vec.set_apply]
      refine ⟨fun t ht => by rw [if_neg ht]; exact i1 t ht, fun h => ?_, fun _ => ?_⟩
      · rw [h k (Nat.lt_succ_self k)] at hT; cases hT
      · refine ⟨k, Nat.lt_succ_self k, hT, ?_⟩
        rw [if_pos trivial]; exact i1 k (by omega)
    · simp only [if_neg hT]
      refine ⟨i1, fun h => i2 (fun j hj => h j (by omega)), ?_⟩
      rintro ⟨j, hj, hjT⟩
      have hj' : j < k := by
        by_cases e : j = k
        · subst e; exact absurd hjT hT
        · omega
      obtain ⟨j', h1, h2, h3⟩ := i3 ⟨j, hj', hjT⟩
      exact ⟨j', by omega, h2, h3⟩

/-! ## the test of the code -/

/-- `is_additive_inverse(m_ci[cj], m_i[j])` -/
def octTest (m : Mat) (i j : Nat) : Bool := ExtRat.isAddInv (m (cidx i) (cidx j)) (m i j)

theorem octTest_iff (m : Mat) {i j : Nat} (h : j < i) : octTest m i j = true ↔ OZEq m i j :=
  oct_test_iff m h

theorem octTest_false_iff (m : Mat) {i j : Nat} (h : j < i) : octTest m i j = false ↔ ¬ OZEq m i j := by
  rw [← octTest_iff m h]; cases octTest m i j <;> simp

theorem octComputeSuccessors_eq (rows : Nat) (m : Mat) :
    octComputeSuccessors rows m = loopDown rows (succBody (octTest m)) Vec.iota := rfl

theorem octComputeLeaders_eq (rows : Nat) (m : Mat) :
    octComputeLeaders rows m = loopUp rows (leadBody (octTest m)) Vec.iota := rfl

/-! ## successors (no closedness needed) -/

/-- `succ j` is the least index above `j` in the class of `j`, or `j` -/
structure IsOctSucc (N : Nat) (m : Mat) (succ : Nat → Nat) : Prop where
  ge : ∀ j, j ≤ succ j
  lt : ∀ j, j < N → succ j < N
  out : ∀ j, N ≤ j → succ j = j
  zeq : ∀ j, OZEq m (succ j) j
  between : ∀ j t, j < t → t < succ j → ¬ OZEq m t j
  self : ∀ j t, succ j = j → j < t → t < N → ¬ OZEq m t j

theorem octComputeSuccessors_cases (rows : Nat) (m : Mat) (j : Nat) :
    (octComputeSuccessors rows m j = j ∧ ∀ t, j < t → t < rows → ¬ OZEq m t j) ∨
    (j < octComputeSuccessors rows m j ∧ octComputeSuccessors rows m j < rows ∧
      OZEq m (octComputeSuccessors rows m j) j ∧
      ∀ t, j < t → t < octComputeSuccessors rows m j → ¬ OZEq m t j) := by
  rw [octComputeSuccessors_eq]
  by_cases h : ∃ i, i < rows ∧ j < i ∧ octTest m i j = true
  · obtain ⟨i0, ⟨h1, h2, h3⟩, hmin⟩ := exists_least _ h
    have hmin' : ∀ i, i < i0 → j < i → octTest m i j = false := by
      intro i hi hji
      cases e : octTest m i j
      · rfl
      · exact absurd ⟨by omega, hji, e⟩ (hmin i hi)
    right
    rw [succLoop_some (octTest m) j i0 h2 h3 hmin' rows _ h1]
    exact ⟨h2, h1, (octTest_iff m h2).1 h3, fun t ht hti => (octTest_false_iff m ht).1 (hmin' t hti ht)⟩
  · left
    have hn : ∀ i, i < rows → j < i → octTest m i j = false := by
      intro i hi hji
      cases e : octTest m i j
      · rfl
      · exact absurd ⟨i, hi, hji, e⟩ h
    rw [succLoop_none (octTest m) j rows _ hn]
    exact ⟨rfl, fun t ht htr => (octTest_false_iff m ht).1 (hn t htr ht)⟩

theorem octComputeSuccessors_isOctSucc (rows : Nat) (m : Mat) :
    IsOctSucc rows m (octComputeSuccessors rows m) where
  ge j := by rcases octComputeSuccessors_cases rows m j with h | h <;> omega
  lt j hj := by rcases octComputeSuccessors_cases rows m j with h | h <;> omega
  out j hj := by rcases octComputeSuccessors_cases rows m j with h | h <;> omega
  zeq j := by
    rcases octComputeSuccessors_cases rows m j with h | h
    · rw [h.1]; exact OZEq.refl m j
    · exact h.2.2.1
  between j t h1 h2 := by
    rcases octComputeSuccessors_cases rows m j with h | h
    · omega
    · exact h.2.2.2 t h1 h2
  self j t h0 h1 h2 := by
    rcases octComputeSuccessors_cases rows m j with h | h
    · exact h.2 t h1 h2
    · omega

theorem oct_successors_spec {n : Nat} (c : OctM n) (j : Nat) (hj : j < 2 * n) :
    j ≤ octComputeSuccessors (2 * n) c.e j ∧ octComputeSuccessors (2 * n) c.e j < 2 * n ∧
    OZEq c.e (octComputeSuccessors (2 * n) c.e j) j ∧
    (∀ t, j < t → t < octComputeSuccessors (2 * n) c.e j → ¬ OZEq c.e t j) ∧
    (octComputeSuccessors (2 * n) c.e j = j → ∀ t, j < t → t < 2 * n → ¬ OZEq c.e t j) := by
  have h := octComputeSuccessors_isOctSucc (2 * n) c.e
  exact ⟨h.ge j, h.lt j hj, h.zeq j, h.between j, fun e t => h.self j t e⟩

/-! ## leaders -/

/-- `lead i` is the least index of the class of `i` (`IsLeaderMap` for `OZEq`) -/
structure IsOctLead (N : Nat) (m : Mat) (lead : Nat → Nat) : Prop where
  le : ∀ i, i < N → lead i ≤ i
  zeq : ∀ i, i < N → OZEq m (lead i) i
  least : ∀ i j, i < N → j < N → OZEq m j i → lead i ≤ j

section closed
variable {n : Nat} (c : OctM n) (hc : c.IsStronglyClosed)
include hc

theorem octComputeLeaders_inv (r : Nat) (hr : r ≤ 2 * n) :
    (∀ t, t < r → loopUp r (leadBody (octTest c.e)) Vec.iota t ≤ t ∧
        OZEq c.e (loopUp r (leadBody (octTest c.e)) Vec.iota t) t ∧
        ∀ j, j < 2 * n → OZEq c.e j t → loopUp r (leadBody (octTest c.e)) Vec.iota t ≤ j) ∧
    (∀ t, r ≤ t → loopUp r (leadBody (octTest c.e)) Vec.iota t = t) := by
  induction r with
  | zero => exact ⟨fun t ht => by omega, fun t _ => rfl⟩
  | succ r ih =>
    obtain ⟨ih1, ih2⟩ := ih (Nat.le_of_succ_le hr)
    simp only [loopUp]
    generalize loopUp r (leadBody (octTest c.e)) Vec.iota = l at ih1 ih2 ⊢
    obtain ⟨s1, s2, s3⟩ := leadBody_spec (octTest c.e) r l
    refine ⟨fun t ht => ?_, fun t ht => by rw [s1 t (Nat.ne_of_gt ht)]; exact ih2 t (Nat.le_of_succ_le ht)⟩
    by_cases e : t = r
    · subst e
      by_cases hex : ∃ j, j < t ∧ octTest c.e t j = true
      · obtain ⟨j, hj, hT, hl⟩ := s3 hex
        rw [hl]
        have hzj : OZEq c.e t j := (octTest_iff c.e hj).1 hT
        obtain ⟨p1, p2, p3⟩ := ih1 j hj
        have htn : t < 2 * n := hr
        have hjn : j < 2 * n := lt_trans hj htn
        have hln : l j < 2 * n := lt_of_le_of_lt p1 hjn
        refine ⟨p1.trans hj.le, OZEq.trans c hc hln hjn htn p2 hzj.symm, fun k hk hkz => ?_⟩
        exact p3 k hk (OZEq.trans c hc hk htn hjn hkz hzj)
      · have hn : ∀ j, j < t → octTest c.e t j = false := by
          intro j hj
          cases e : octTest c.e t j
          · rfl
          · exact absurd ⟨j, hj, e⟩ hex
        rw [s2 hn, ih2 t (Nat.le_refl t)]
        refine ⟨Nat.le_refl t, OZEq.refl _ _, fun j _ hjz => ?_⟩
        exact not_lt.1 fun hjt => (octTest_false_iff c.e hjt).1 (hn j hjt) hjz.symm
    · rw [s1 t e]; exact ih1 t (lt_of_le_of_ne (Nat.le_of_lt_succ ht) e)

theorem octComputeLeaders_isOctLead : IsOctLead (2 * n) c.e (octComputeLeaders (2 * n) c.e) := by
  rw [octComputeLeaders_eq]
  obtain ⟨h, _⟩ := octComputeLeaders_inv c hc (2 * n) (Nat.le_refl _)
  exact ⟨fun i hi => (h i hi).1, fun i hi => (h i hi).2.1, fun i j hi hj hz => (h i hi).2.2 j hj hz⟩

omit hc in
theorem octComputeLeaders_out (rows : Nat) (m : Mat) (t : Nat) (ht : rows ≤ t) :
    octComputeLeaders rows m t = t := by
  rw [octComputeLeaders_eq]
  induction rows with
  | zero => rfl
  | succ r ih =>
    simp only [loopUp]
    rw [(leadBody_spec (octTest m) r _).1 t (by omega)]
    exact ih (by omega)

omit hc in
theorem IsOctLead.eq_iff {lead : Nat → Nat} (hl : IsOctLead (2 * n) c.e lead) (hc : c.IsStronglyClosed)
    {i j : Nat} (hi : i < 2 * n) (hj : j < 2 * n) : lead i = lead j ↔ OZEq c.e i j := by
  have li : lead i < 2 * n := lt_of_le_of_lt (hl.le i hi) hi
  have lj : lead j < 2 * n := lt_of_le_of_lt (hl.le j hj) hj
  constructor
  · intro e
    have h1 := (hl.zeq i hi).symm
    have h2 := hl.zeq j hj
    rw [← e] at h2
    exact OZEq.trans c hc hi li hj h1 h2
  · intro h
    have a := hl.least i (lead j) hi lj (OZEq.trans c hc lj hj hi (hl.zeq j hj) h.symm)
    have b := hl.least j (lead i) hj li (OZEq.trans c hc li hi hj (hl.zeq i hi) h)
    exact Nat.le_antisymm a b

theorem oct_leaders_spec :
    (∀ i, i < 2 * n → octComputeLeaders (2 * n) c.e i ≤ i ∧ OZEq c.e (octComputeLeaders (2 * n) c.e i) i ∧
      ∀ j, j < 2 * n → OZEq c.e j i → octComputeLeaders (2 * n) c.e i ≤ j) ∧
    (∀ i j, i < 2 * n → j < 2 * n →
      (octComputeLeaders (2 * n) c.e i = octComputeLeaders (2 * n) c.e j ↔ OZEq c.e i j)) := by
  have h := octComputeLeaders_isOctLead c hc
  exact ⟨fun i hi => ⟨h.le i hi, h.zeq i hi, fun j hj hz => h.least i j hi hj hz⟩,
    fun i j hi hj => h.eq_iff c hc hi hj⟩

end closed

end PPLV.WR

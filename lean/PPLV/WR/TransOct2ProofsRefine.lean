import PPLV.WR.TransOct2
import PPLV.WR.TransProofsRefine
import PPLV.WR.TransOctProofsBase
/-!
# `Octagonal_Shape::refine_no_check(const Constraint&)`, `add_constraint(const Constraint&)`, `unconstrain`:
soundness

For every rounding with `fin q ≤ R.up q` the models `octRefineNoCheck` and `octAddConstraint` keep every point
of the octagon that satisfies the constraint and only lower entries; the shape is marked empty only when no
point satisfies the constraint.  No side condition.
-/
namespace PPLV.WR
open ExtRat

theorem octOval_even' (x : Nat → Rat) (k : Nat) : OctM.oval x (k * 2) = x k := by
  rw [Nat.mul_comm]; exact oval_even x k
theorem octOval_odd' (x : Nat → Rat) (k : Nat) : OctM.oval x (k * 2 + 1) = - x k := by
  rw [Nat.mul_comm]; exact oval_odd x k

/-- the normal form of a proper octagonal difference: with `c = |coeff|`,
`c·(V_i - V_j) + term = μ·(cf·x + inhomo)` for a positive `μ` (`2` for one variable: the term is doubled and
the cell is the unary one; `1` for two variables) -/
def OctODShape (sd : Nat) (cf : Nat → Int) (inhomo : Int) (r : OctDX) : Prop :=
  r.coeff ≠ 0 ∧ ∃ μ : Rat, 0 < μ ∧ ∀ x : Nat → Rat,
    (((if r.coeff < 0 then - r.coeff else r.coeff : Int) : Rat)) * (OctM.oval x r.i - OctM.oval x r.j) + (r.term : Rat)
      = μ * (linEval cf x sd + inhomo)

theorem octExtract_spec (sd : Nat) (cf : Nat → Int) (inhomo : Int)
    (hok : (octExtractOctagonalDifference sd cf inhomo).ok = true) :
    ((octExtractOctagonalDifference sd cf inhomo).numVars = 0 ∧ ∀ x, linEval cf x sd = 0) ∨
    ((octExtractOctagonalDifference sd cf inhomo).numVars ≠ 0 ∧
      OctODShape sd cf inhomo (octExtractOctagonalDifference sd cf inhomo)) := by
  obtain ⟨f1, f2, f3, f4⟩ := firstNonzero_spec cf (show 1 ≤ sd + 1 by omega)
  unfold octExtractOctagonalDifference at hok ⊢
  dsimp only at hok ⊢
  generalize firstNonzero cf 1 (sd + 1) = i at *
  by_cases h1 : i = sd + 1
  · left
    rw [if_pos h1]
    refine ⟨rfl, fun x => linEval_zero_of _ _ _ (fun t ht => ?_)⟩
    exact f3 (t + 1) (by omega) (by omega)
  · rw [if_neg h1] at hok ⊢
    obtain ⟨i', rfl⟩ : ∃ i', i = i' + 1 := ⟨i - 1, by omega⟩
    simp only [Nat.add_sub_cancel] at hok ⊢
    obtain ⟨s1, s2, s3, s4⟩ := firstNonzero_spec cf (show i' + 2 ≤ sd + 1 by omega)
    generalize firstNonzero cf (i' + 2) (sd + 1) = j at *
    have hci : cf i' ≠ 0 := f4 (by omega)
    have zlo : ∀ t, t < i' → cf t = 0 := by
      intro t ht
      exact f3 (t + 1) (by omega) (by omega)
    have zmid : ∀ t, i' < t → t + 1 < j → cf t = 0 := by
      intro t ht1 ht2
      exact s3 (t + 1) (by omega) (by omega)
    right
    by_cases h2 : j = sd + 1
    · rw [if_pos h2]
      have hlin : ∀ x, linEval cf x sd = (cf i' : Rat) * x i' := by
        intro x
        refine linEval_support1 cf x (a := i') (by omega) ?_
        intro t ht hta
        rcases Nat.lt_or_gt_of_ne hta with hlt | hgt
        · exact zlo t hlt
        · exact zmid t hgt (by omega)
      by_cases hneg : cf i' < 0
      · rw [if_pos hneg]
        refine ⟨by simp, hci, 2, by norm_num, fun x => ?_⟩
        dsimp only
        rw [if_pos hneg, octOval_even', octOval_odd', hlin]
        push_cast; ring
      · rw [if_neg hneg]
        refine ⟨by simp, hci, 2, by norm_num, fun x => ?_⟩
        dsimp only
        rw [if_neg hneg, octOval_even', octOval_odd', hlin]
        push_cast; ring
    · rw [if_neg h2] at hok ⊢
      obtain ⟨j', rfl⟩ : ∃ j', j = j' + 1 := ⟨j - 1, by omega⟩
      simp only [Nat.add_sub_cancel] at hok ⊢
      by_cases h3 : (!allZeroes cf (j' + 2) (sd + 1)) = true
      · rw [if_pos h3] at hok
        simp at hok
      · rw [if_neg h3] at hok ⊢
        by_cases h4 : cf j' ≠ cf i' ∧ cf j' ≠ - cf i'
        · rw [if_pos h4] at hok
          simp at hok
        · rw [if_neg h4]
          have hcj : cf j' ≠ 0 := s4 (by omega)
          have hall : firstNonzero cf (j' + 2) (sd + 1) = sd + 1 := by
            simpa [allZeroes] using h3
          obtain ⟨u1, u2, u3, u4⟩ := firstNonzero_spec cf (show j' + 2 ≤ sd + 1 by omega)
          rw [hall] at u3
          have zhi : ∀ t, j' < t → t < sd → cf t = 0 := by
            intro t ht1 ht2
            exact u3 (t + 1) (by omega) (by omega)
          have hlin : ∀ x, linEval cf x sd = (cf i' : Rat) * x i' + (cf j' : Rat) * x j' := by
            intro x
            refine linEval_support2 cf x (a := i') (b := j') (by omega) (by omega) (by omega) ?_
            intro t ht hta htb
            rcases Nat.lt_or_gt_of_ne hta with hlt | hgt
            · exact zlo t hlt
            · rcases Nat.lt_or_gt_of_ne htb with hlt' | hgt'
              · exact zmid t hgt (by omega)
              · exact zhi t hgt' ht
          have h01 : cf j' = cf i' ∨ cf j' = - cf i' := by
            by_contra hcon
            exact h4 ⟨fun h => hcon (Or.inl h), fun h => hcon (Or.inr h)⟩
          refine ⟨by simp, hcj, 1, by norm_num, fun x => ?_⟩
          dsimp only
          rw [hlin, one_mul]
          by_cases hn0 : cf j' < 0 <;> by_cases hp1 : cf i' > 0
          · rw [if_pos hn0, if_pos hn0, if_pos hp1, octOval_odd', octOval_odd']
            have : cf j' = - cf i' := by rcases h01 with h | h <;> omega
            rw [this]; push_cast; ring
          · rw [if_pos hn0, if_pos hn0, if_neg hp1, octOval_odd', octOval_even']
            have : cf j' = cf i' := by rcases h01 with h | h <;> omega
            rw [this]; push_cast; ring
          · rw [if_neg hn0, if_neg hn0, if_pos hp1, octOval_even', octOval_odd']
            have : cf j' = cf i' := by rcases h01 with h | h <;> omega
            rw [this]; ring
          · rw [if_neg hn0, if_neg hn0, if_neg hp1, octOval_even', octOval_even']
            have : cf j' = - cf i' := by rcases h01 with h | h <;> omega
            rw [this]; push_cast; ring

/-! ## the common tail -/

/-- `octAddOD` on the cell `(a, b)` with the positive divisor `c` -/
def octAddOD2 (R : Rnd) (m : Mat) (a b : Nat) (c term : Int) (isEq : Bool) : Mat :=
  let m1 := if m a b ≤ divRoundUp R term c then m else m.set a b (divRoundUp R term c)
  if isEq then
    (if m1 (cidx a) (cidx b) ≤ divRoundUp R (- term) c then m1
     else m1.set (cidx a) (cidx b) (divRoundUp R (- term) c))
  else m1

theorem octAddOD_eq (R : Rnd) (m : Mat) (x : OctDX) (isEq : Bool) :
    octAddOD R m x isEq = octAddOD2 R m x.i x.j (if x.coeff < 0 then - x.coeff else x.coeff) x.term isEq := rfl

theorem octPres_addOD2 {R : Rnd} (hup : ∀ q, fin q ≤ R.up q) {S : Nat → Nat → Prop} (m : Mat) (a b : Nat)
    {c : Int} (hc : 0 < c) (term : Int) (isEq : Bool) :
    Pres S (fun p => Coh p ∧ 0 ≤ (c : Rat) * (p a - p b) + term ∧
        (isEq = true → (c : Rat) * (p a - p b) + term = 0)) m (octAddOD2 R m a b c term isEq) := by
  have hc' : (0 : Rat) < c := by exact_mod_cast hc
  unfold octAddOD2
  dsimp only
  refine Pres.trans (b := if m a b ≤ divRoundUp R term c then m else m.set a b (divRoundUp R term c))
    (pres_store _ _ _ _ ?_) ?_
  · intro p hp
    exact le_trans' (fin_le_fin.2 (le_div_of_sat hc' hp.2.1)) (hup _)
  · generalize (if m a b ≤ divRoundUp R term c then m else m.set a b (divRoundUp R term c)) = m1
    split
    · rename_i he
      refine pres_store _ _ _ _ ?_
      intro p hp
      refine le_trans' (fin_le_fin.2 ?_) (hup _)
      have h0 := hp.2.2 he
      rw [hp.1 a, hp.1 b]
      push_cast
      apply le_div_of_sat hc'
      linarith
    · exact Pres.refl _

theorem octAddOD_sound {R : Rnd} (hup : ∀ q, fin q ≤ R.up q) {n sd : Nat}
    {cf : Nat → Int} {inhomo : Int} {r : OctDX} (hr : OctODShape sd cf inhomo r) (kind : CKind) (m : Mat)
    {x : Nat → Rat} (hx : x ∈ γO n m) (hc : CSat cf sd inhomo kind x) :
    x ∈ γO n (octAddOD R m r (decide (kind = .eq))) ∧ MLe (octAddOD R m r (decide (kind = .eq))) m := by
  obtain ⟨hc0, μ, hμ, hlin⟩ := hr
  have hge := hc.ge
  rw [octAddOD_eq]
  have hcpos : 0 < (if r.coeff < 0 then - r.coeff else r.coeff : Int) := by split <;> omega
  have hp := octPres_addOD2 hup (S := SO n) m r.i r.j hcpos r.term (decide (kind = .eq))
  refine ⟨hp.1 (OctM.oval x) ⟨coh_oval x, ?_, fun he => ?_⟩ hx, hp.2⟩
  · rw [hlin x]; positivity
  · have := hc.eq_of (of_decide_eq_true he)
    rw [hlin x, this, mul_zero]

/-- a constraint without variables: what its satisfaction says about the inhomogeneous term -/
theorem octTrivial_sat {cf : Nat → Int} {sd : Nat} {inhomo : Int} {kind : CKind} {x : Nat → Rat}
    (hl : linEval cf x sd = 0) (hc : CSat cf sd inhomo kind x) :
    0 ≤ inhomo ∧ (kind = .eq → inhomo = 0) ∧ (kind = .gt → 0 < inhomo) := by
  cases kind <;> simp only [CSat, hl, zero_add] at hc <;>
    simp only [reduceCtorEq, false_imp_iff, forall_const, and_true]
  · have h1 : inhomo = 0 := by exact_mod_cast hc
    omega
  · exact_mod_cast hc
  · have h1 : 0 < inhomo := by exact_mod_cast hc
    exact ⟨h1.le, trivial, h1⟩

theorem octRefineNoCheck_sound_raw {R : Rnd} (hup : ∀ q, fin q ≤ R.up q) {n sd : Nat}
    (cf : Nat → Int) (inhomo : Int) (kind : CKind) (m : Mat) {x : Nat → Rat} (hx : x ∈ γO n m)
    (hc : CSat cf sd inhomo kind x) :
    match octRefineNoCheck R n sd cf inhomo kind m with
    | .ok m' => x ∈ γO n m' ∧ MLe m' m
    | .empty => False
    | .throws => False := by
  unfold octRefineNoCheck
  dsimp only
  by_cases hok : (octExtractOctagonalDifference sd cf inhomo).ok = true
  · rw [if_neg (by simp [hok])]
    rcases octExtract_spec sd cf inhomo hok with ⟨h0, hl⟩ | ⟨h0, hs⟩
    · rw [if_pos h0]
      obtain ⟨t0, te, tg⟩ := octTrivial_sat (hl x) hc
      by_cases hcond : inhomo < 0 ∨ (inhomo ≠ 0 ∧ kind = .eq) ∨ (inhomo = 0 ∧ kind = .gt)
      · rw [if_pos hcond]
        show False
        rcases hcond with h | ⟨h, hk⟩ | ⟨h, hk⟩
        · omega
        · exact h (te hk)
        · have := tg hk; omega
      · rw [if_neg hcond]
        exact ⟨hx, mle_refl m⟩
    · rw [if_neg h0]
      exact octAddOD_sound hup hs kind m hx hc
  · rw [if_pos (by simpa using hok)]
    exact ⟨hx, mle_refl m⟩

theorem octRefineNoCheck_sound {R : Rnd} (hR : R.Sound) {n : Nat} (m : OctM n) (sd : Nat) (cf : Nat → Int)
    (inhomo : Int) (kind : CKind) :
    ∀ x ∈ OctM.γ m, CSat cf sd inhomo kind x →
      match octRefineNoCheck R n sd cf inhomo kind m.e with
      | .ok m' => x ∈ γO n m' ∧ MLe m' m.e
      | .empty => False
      | .throws => False := by
  intro x hx hc
  exact octRefineNoCheck_sound_raw hR.up_le cf inhomo kind m.e ((OctM.sat_iff_holds m x).1 hx) hc

theorem octAllZeroes_lin {cf : Nat → Int} {sd : Nat} (h : allZeroes cf 1 (sd + 1) = true) (x : Nat → Rat) :
    linEval cf x sd = 0 := by
  obtain ⟨f1, f2, f3, f4⟩ := firstNonzero_spec cf (show 1 ≤ sd + 1 by omega)
  have hall : firstNonzero cf 1 (sd + 1) = sd + 1 := by simpa [allZeroes] using h
  rw [hall] at f3
  refine linEval_zero_of _ _ _ (fun t ht => ?_)
  exact f3 (t + 1) (by omega) (by omega)

theorem octAddConstraint_sound_raw {R : Rnd} (hup : ∀ q, fin q ≤ R.up q) {n sd : Nat}
    (cf : Nat → Int) (inhomo : Int) (kind : CKind) (m : Mat) {x : Nat → Rat} (hx : x ∈ γO n m)
    (hc : CSat cf sd inhomo kind x) :
    match octAddConstraint R n sd cf inhomo kind m with
    | .ok m' => x ∈ γO n m' ∧ MLe m' m
    | .empty => False
    | .throws => True := by
  unfold octAddConstraint
  dsimp only
  by_cases hgt : kind = .gt
  · rw [if_pos hgt]
    by_cases h : allZeroes cf 1 (sd + 1) = true
    · rw [if_pos h]
      have h1 := (octTrivial_sat (octAllZeroes_lin h x) hc).2.2 hgt
      rw [if_neg (by omega)]
      exact ⟨hx, mle_refl m⟩
    · rw [if_neg h]
      trivial
  · rw [if_neg hgt]
    by_cases hok : (octExtractOctagonalDifference sd cf inhomo).ok = true
    · rw [if_neg (by simp [hok])]
      rcases octExtract_spec sd cf inhomo hok with ⟨h0, hl⟩ | ⟨h0, hs⟩
      · rw [if_pos h0]
        obtain ⟨t0, te, _⟩ := octTrivial_sat (hl x) hc
        by_cases hcond : inhomo < 0 ∨ (kind = .eq ∧ inhomo ≠ 0)
        · rw [if_pos hcond]
          show False
          rcases hcond with h | ⟨hk, h⟩
          · omega
          · exact h (te hk)
        · rw [if_neg hcond]
          exact ⟨hx, mle_refl m⟩
      · rw [if_neg h0]
        exact octAddOD_sound hup hs kind m hx hc
    · rw [if_pos (by simpa using hok)]
      trivial

end PPLV.WR

import PPLV.WR.OctClosedBase
import Mathlib.Data.List.Nodup
/-!
# Two passes of weak octagonal steps close the matrix: walks, their weights, list splitting

`pw d i l j` is the weight in `d` of the walk `i → l[0] → … → l[last] → j`.  The invariants of the two passes
(`OctClosedPathsPass1`, `OctClosedPathsPass2`) have the form `PInv d0 Q d`: every entry `d i j` is below the weight in
the *initial* matrix `d0` of every walk `i → l → j` whose list of inner vertices satisfies `Q`.  One weak step
`octT h` extends the class `Q` by the lists that split at a pivot `2h` or `2h+1` into two lists of `Q` (`pinv_step`).
-/
namespace PPLV.WR
open ExtRat

/-- weight of the walk `i → l → j` -/
def pw (d : Mat) : Nat → List Nat → Nat → ExtRat
  | i, [], j => d i j
  | i, v :: l, j => eadd (d i v) (pw d v l j)

@[simp] theorem pw_nil (d : Mat) (i j : Nat) : pw d i [] j = d i j := rfl
@[simp] theorem pw_cons (d : Mat) (i v j : Nat) (l : List Nat) :
    pw d i (v :: l) j = eadd (d i v) (pw d v l j) := rfl

theorem pw_append (d : Mat) (i v j : Nat) (l1 l2 : List Nat) :
    pw d i (l1 ++ v :: l2) j = eadd (pw d i l1 v) (pw d v l2 j) := by
  induction l1 generalizing i with
  | nil => rfl
  | cons u l1 ih => simp only [List.cons_append, pw_cons, ih, eadd_assoc]

/-! ## the weak step -/

theorem octT_le (h : Nat) (d : Mat) (i j : Nat) : octT h d i j ≤ d i j := by
  rw [octT_apply]; exact minA_le_left _ _

theorem octT_le_pivot {h k : Nat} (hk : k = 2 * h ∨ k = 2 * h + 1) (d : Mat) (i j : Nat) :
    octT h d i j ≤ eadd (d i k) (d k j) := by
  rw [octT_apply]
  rcases hk with rfl | rfl
  · exact le_trans' (minA_le_right _ _) (minA_le_left _ _)
  · exact le_trans' (minA_le_right _ _) (minA_le_right _ _)

theorem octT_cases (h : Nat) (d : Mat) (i j : Nat) :
    octT h d i j = d i j ∨ ∃ k, (k = 2 * h ∨ k = 2 * h + 1) ∧ octT h d i j = eadd (d i k) (d k j) := by
  rw [octT_apply]
  rcases minA_cases (d i j) (minA (eadd (d i (2*h)) (d (2*h) j)) (eadd (d i (2*h+1)) (d (2*h+1) j))) with e | e
  · exact Or.inl e
  · right
    rw [e]
    rcases minA_cases (eadd (d i (2*h)) (d (2*h) j)) (eadd (d i (2*h+1)) (d (2*h+1) j)) with e' | e'
    · exact ⟨2 * h, Or.inl rfl, e'⟩
    · exact ⟨2 * h + 1, Or.inr rfl, e'⟩

/-! ## the shape of the invariants -/

/-- every entry of `d` is below the weight in `d0` of every walk whose inner vertices satisfy `Q` -/
def PInv (d0 : Mat) (Q : List Nat → Prop) (d : Mat) : Prop :=
  ∀ i j l, Q l → d i j ≤ pw d0 i l j

theorem pinv_step {d0 d : Mat} {Q Q' : List Nat → Prop} {h : Nat} (hinv : PInv d0 Q d)
    (hstep : ∀ l, Q' l → Q l ∨ ∃ l1 k l2, l = l1 ++ k :: l2 ∧ (k = 2 * h ∨ k = 2 * h + 1) ∧ Q l1 ∧ Q l2) :
    PInv d0 Q' (octT h d) := by
  intro i j l hl
  rcases hstep l hl with hq | ⟨l1, k, l2, rfl, hk, h1, h2⟩
  · exact le_trans' (octT_le h d i j) (hinv i j l hq)
  · rw [pw_append]
    exact le_trans' (octT_le_pivot hk d i j) (eadd_mono (hinv i k l1 h1) (hinv k j l2 h2))

theorem PInv.mono {d0 d : Mat} {Q Q' : List Nat → Prop} (hinv : PInv d0 Q d) (h : ∀ l, Q' l → Q l) :
    PInv d0 Q' d := fun i j l hl => hinv i j l (h l hl)

/-! ## lists -/

/-- every pair `2g`, `2g+1` contained in `l` has index `g < h` -/
def PairsBelow (h : Nat) (l : List Nat) : Prop := ∀ g, 2 * g ∈ l → 2 * g + 1 ∈ l → g < h

/-- a duplicate-free list splits at any of its elements into two duplicate-free lists without it -/
theorem nodup_split {l : List Nat} {k : Nat} (hn : l.Nodup) (hk : k ∈ l) :
    ∃ l1 l2, l = l1 ++ k :: l2 ∧ l1.Nodup ∧ l2.Nodup ∧ k ∉ l1 ∧ k ∉ l2 := by
  obtain ⟨l1, l2, rfl⟩ := List.append_of_mem hk
  refine ⟨l1, l2, rfl, ?_⟩
  rw [List.nodup_append] at hn
  obtain ⟨h1, h2, h3⟩ := hn
  rw [List.nodup_cons] at h2
  refine ⟨h1, h2.2, fun hm => ?_, h2.1⟩
  exact h3 k hm k List.mem_cons_self rfl

/-- a list with a duplicate -/
theorem not_nodup_split {l : List Nat} (hn : ¬ l.Nodup) :
    ∃ l1 v l2 l3, l = l1 ++ v :: (l2 ++ v :: l3) := by
  induction l with
  | nil => exact absurd List.nodup_nil hn
  | cons u l ih =>
    by_cases hu : u ∈ l
    · obtain ⟨l2, l3, rfl⟩ := List.append_of_mem hu
      exact ⟨[], u, l2, l3, rfl⟩
    · have : ¬ l.Nodup := fun h => hn (List.nodup_cons.2 ⟨hu, h⟩)
      obtain ⟨l1, v, l2, l3, rfl⟩ := ih this
      exact ⟨u :: l1, v, l2, l3, rfl⟩

end PPLV.WR

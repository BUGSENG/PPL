import PPLV.WR.ReduceOctProofsSpec
/-!
# `Octagonal_Shape::affine_dimension` counts the coherent pairs of non-singular classes
-/
namespace PPLV.WR
open ExtRat (fin pinf)

theorem octAffineDimension_eq (dim : Nat) (m : Mat) :
    octAffineDimension dim m = ((List.range dim).filter fun h =>
      octComputeLeaders (2 * dim) m (2 * h) == 2 * h && octComputeLeaders (2 * dim) m (2 * h + 1) == 2 * h + 1).length := by
  rw [← Nat.zero_add (List.length _), ← loopUp_count_filter]
  unfold octAffineDimension
  congr 1

theorem oct_affine_dimension_count {n : Nat} (c : OctM n) (_hc : c.IsStronglyClosed) :
    octAffineDimension n c.e = ((List.range n).filter fun h =>
      octComputeLeaders (2 * n) c.e (2 * h) == 2 * h && octComputeLeaders (2 * n) c.e (2 * h + 1) == 2 * h + 1).length :=
  octAffineDimension_eq n c.e

section closed
variable {n : Nat} (c : OctM n) (hc : c.IsStronglyClosed)
include hc

/-- the counted `h` are those whose `2h` is the least element of a non-singular class (then `2h+1` is the least
element of the coherent twin class) -/
theorem oct_affine_dimension_pair (h : Nat) (hh : h < n) :
    (octComputeLeaders (2 * n) c.e (2 * h) == 2 * h && octComputeLeaders (2 * n) c.e (2 * h + 1) == 2 * h + 1) = true
      ↔ NSL (2 * n) c.e (2 * h) := by
  have hl := octComputeLeaders_isOctLead c hc
  have e0 : cidx (2 * h) = 2 * h + 1 := cidx_even h
  rw [← nsl_iff c hl, Bool.and_eq_true, beq_iff_eq, beq_iff_eq]
  constructor
  · rintro ⟨h1, h2⟩
    refine ⟨by omega, (nslP_iff _ _ _).2 ⟨h1, fun hz => ?_⟩⟩
    rw [e0] at hz
    have := hl.least (2 * h + 1) (2 * h) (by omega) (by omega) hz
    omega
  · rintro ⟨h1, h2⟩
    have := (IsOctLead.pair c hl h).1 ⟨h1, h2⟩
    exact ⟨((nslP_iff _ _ _).1 h2).1, ((nslP_iff _ _ _).1 this.2).1⟩

/-- the vector of non-singular leaders has twice as many entries as `affine_dimension` counts: it is the number
of coherent pairs of non-singular classes -/
theorem oct_affine_dimension_leaders :
    (octComputeLeaders4 (2 * n) (octComputeSuccessors (2 * n) c.e)).no_sing_leaders.length
      = 2 * octAffineDimension n c.e := by
  have hl := octComputeLeaders_isOctLead c hc
  rw [(oct_leaders4_spec c hc).nsl, oct_affine_dimension_count c hc]
  have hpair : ∀ g, g < n → nslP c.e (octComputeLeaders (2 * n) c.e) (2 * g)
      = nslP c.e (octComputeLeaders (2 * n) c.e) (2 * g + 1) := by
    intro g hg
    have := IsOctLead.pair c hl g
    cases e1 : nslP c.e (octComputeLeaders (2 * n) c.e) (2 * g) <;>
      cases e2 : nslP c.e (octComputeLeaders (2 * n) c.e) (2 * g + 1) <;>
      first | rfl | (simp_all; done) | (simp_all; omega)
  suffices h : ∀ k, k ≤ n → fpos (nslP c.e (octComputeLeaders (2 * n) c.e)) (2 * k)
      = 2 * ((List.range k).filter fun h => octComputeLeaders (2 * n) c.e (2 * h) == 2 * h &&
          octComputeLeaders (2 * n) c.e (2 * h + 1) == 2 * h + 1).length from h n (Nat.le_refl _)
  intro k
  induction k with
  | zero => intro _; rfl
  | succ k ih =>
    intro hk
    have e : 2 * (k + 1) = 2 * k + 1 + 1 := by ring
    rw [e, fpos_succ, fpos_succ, ← hpair k (by omega), ih (by omega), List.range_succ, List.filter_append,
      List.length_append]
    have hiff := oct_affine_dimension_pair c hc k (by omega)
    rw [← nsl_iff c hl] at hiff
    cases e1 : nslP c.e (octComputeLeaders (2 * n) c.e) (2 * k)
    · have : (octComputeLeaders (2 * n) c.e (2 * k) == 2 * k &&
          octComputeLeaders (2 * n) c.e (2 * k + 1) == 2 * k + 1) = false := by
        cases e2 : (octComputeLeaders (2 * n) c.e (2 * k) == 2 * k &&
          octComputeLeaders (2 * n) c.e (2 * k + 1) == 2 * k + 1)
        · rfl
        · have := (hiff.1 e2).2; rw [e1] at this; cases this
      simp [List.filter, this]
    · have : (octComputeLeaders (2 * n) c.e (2 * k) == 2 * k &&
          octComputeLeaders (2 * n) c.e (2 * k + 1) == 2 * k + 1) = true := hiff.2 ⟨by omega, e1⟩
      simp [List.filter, this]
      omega

end closed

end PPLV.WR

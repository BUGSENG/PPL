import PPLV.WR.OctClosedPathsBase
/-!
# Two passes of weak octagonal steps: the first pass

After the iterations `0, …, h-1` of the first pass every entry is below the weight (in the initial matrix) of every
walk whose inner vertices are distinct, are pivots already processed (`< 2h`) and contain no pair `2g`, `2g+1`.
-/
namespace PPLV.WR
open ExtRat

/-- distinct vertices `< 2h`, no pair -/
def Q1 (h : Nat) (l : List Nat) : Prop := l.Nodup ∧ (∀ v, v ∈ l → v < 2 * h) ∧ PairsBelow 0 l

theorem q1_split {h k : Nat} {l : List Nat} (hl : Q1 (h+1) l) (hk : k ∈ l)
    (hother : ∀ v, v ∈ l → v = 2 * h ∨ v = 2 * h + 1 → v = k) :
    ∃ l1 l2, l = l1 ++ k :: l2 ∧ Q1 h l1 ∧ Q1 h l2 := by
  obtain ⟨hn, hb, hp⟩ := hl
  obtain ⟨l1, l2, rfl, n1, n2, k1, k2⟩ := nodup_split hn hk
  refine ⟨l1, l2, rfl, ⟨n1, fun v hv => ?_, fun g a b => ?_⟩, ⟨n2, fun v hv => ?_, fun g a b => ?_⟩⟩
  · have hv' : v ∈ l1 ++ k :: l2 := List.mem_append_left _ hv
    have h1 := hb v hv'
    have h2 := hother v hv'
    have h3 : v ≠ k := fun e => k1 (e ▸ hv)
    omega
  · exact hp g (List.mem_append_left _ a) (List.mem_append_left _ b)
  · have hv' : v ∈ l1 ++ k :: l2 := List.mem_append_right _ (List.mem_cons_of_mem _ hv)
    have h1 := hb v hv'
    have h2 := hother v hv'
    have h3 : v ≠ k := fun e => k2 (e ▸ hv)
    omega
  · exact hp g (List.mem_append_right _ (List.mem_cons_of_mem _ a))
      (List.mem_append_right _ (List.mem_cons_of_mem _ b))

theorem q1_step (h : Nat) (l : List Nat) (hl : Q1 (h+1) l) :
    Q1 h l ∨ ∃ l1 k l2, l = l1 ++ k :: l2 ∧ (k = 2 * h ∨ k = 2 * h + 1) ∧ Q1 h l1 ∧ Q1 h l2 := by
  by_cases h0 : 2 * h ∈ l
  · have h1 : 2 * h + 1 ∉ l := fun h1 => absurd (hl.2.2 h h0 h1) (by omega)
    obtain ⟨l1, l2, e, q1, q2⟩ := q1_split hl h0 (by
      intro v hv hc
      rcases hc with rfl | rfl
      · rfl
      · exact absurd hv h1)
    exact Or.inr ⟨l1, _, l2, e, Or.inl rfl, q1, q2⟩
  · by_cases h1 : 2 * h + 1 ∈ l
    · obtain ⟨l1, l2, e, q1, q2⟩ := q1_split hl h1 (by
        intro v hv hc
        rcases hc with rfl | rfl
        · exact absurd hv h0
        · rfl)
      exact Or.inr ⟨l1, _, l2, e, Or.inr rfl, q1, q2⟩
    · refine Or.inl ⟨hl.1, fun v hv => ?_, hl.2.2⟩
      have := hl.2.1 v hv
      have a : v ≠ 2 * h := fun e => h0 (e ▸ hv)
      have b : v ≠ 2 * h + 1 := fun e => h1 (e ▸ hv)
      omega

/-- the invariant of the first pass -/
theorem octPass1_inv (n : Nat) (d0 : Mat) : PInv d0 (Q1 n) (octPass n d0) := by
  unfold octPass
  refine loopUp_ind (fun h d => PInv d0 (Q1 h) d) n octT d0 ?_ ?_
  · intro i j l hl
    cases l with
    | nil => exact le_rfl' _
    | cons v l => exact absurd (hl.2.1 v List.mem_cons_self) (by omega)
  · intro t _ s hs
    exact pinv_step hs (q1_step t)

end PPLV.WR

import PPLV.WR.ReduceProofsUBCompleteOctBase
import PPLV.WR.ReduceProofsUBCompleteMain
/-!
# Strongly closed octagons over `ℚ` are tight; the join is the least octagon above two strongly closed ones

* `OctM.IsStronglyClosed.exists_point_ge`: every value below an entry of the full view of a strongly closed
  matrix is exceeded by the corresponding difference at a point of the octagon (the entry is attained, an
  infinite entry is unbounded).  The full view tightened by `P_b - P_a ≥ w` and by the coherent twin of this
  constraint is still closed (`Closed.addEdge` twice: the first by `w ≤ m_ab`, the second by strong coherence
  `2 m_ab ≤ m_{a,ca} + m_{cb,b}`); a potential of it is symmetrised (`OctM.point_of_potential_below`).
* `OctM.le_of_γ_subset`, `OctM.γ_join_least`, `OctM.join_of_union_eq`: as for bounded-difference shapes.
* `octUB_complete_of_witness`: a point of the join outside both (strongly closed) operands shows that the union
  is not an octagon.  (That the answer `false` of `octUpperBoundIfExact` yields such a point: `octUB_witness` in
  `ReduceProofsUBCompleteOctMain.lean`.)
-/
namespace PPLV.WR
open ExtRat (fin pinf addUp halfUp)

/-- the twin edge against the path through the first one: strong coherence -/
theorem fin_le_path_coh {w : Rat} {E A B : ExtRat} (h : fin w ≤ E) (hc : E ≤ halfUp fin (eadd A B)) :
    fin w ≤ eadd B (eadd (fin (-w)) A) := by
  refine fin_le_path ?_
  cases A <;> cases B <;> try exact ExtRat.le_pinf _
  have := ExtRat.fin_le_fin.1 (ExtRat.le_trans' h hc)
  exact ExtRat.fin_le_fin.2 (by linarith)

namespace OctM
variable {n : Nat}

/-- **tightness of a strongly closed matrix over `ℚ`** -/
theorem IsStronglyClosed.exists_point_ge {c : OctM n} (hc : c.IsStronglyClosed) {a b : Nat}
    (ha : a < 2 * n) (hb : b < 2 * n) {w : Rat} (hw : fin w ≤ octFull c.e a b) :
    ∃ x : Nat → Rat, c.Sat x ∧ w ≤ oval x b - oval x a := by
  have hV := hc.closedFull
  have ha' : cidx a < 2 * n := cidx_lt ha
  have hb' : cidx b < 2 * n := cidx_lt hb
  -- first edge: `P_a - P_b ≤ -w`
  have hc1 : Closed (2 * n) (Mat.addEdge { f := octFull c.e } b a (-w)) :=
    hV.addEdge hb ha _ (fin_zero_le_eadd_neg hw)
  -- its twin: `P_cb - P_ca ≤ -w`
  have k2 : fin w ≤ (Mat.addEdge { f := octFull c.e } b a (-w)) (cidx b) (cidx a) := by
    refine ExtRat.le_minA ?_ ?_
    · show fin w ≤ octFull c.e (cidx b) (cidx a)
      rw [octFull_coh' c.e b a]; exact hw
    · show fin w ≤ eadd (octFull c.e (cidx b) b) (eadd (fin (-w)) (octFull c.e a (cidx a)))
      exact fin_le_path_coh hw (hc.coh' ha hb)
  have hc2 : Closed (2 * n)
      ((Mat.addEdge { f := octFull c.e } b a (-w)).addEdge (cidx a) (cidx b) (-w)) :=
    hc1.addEdge ha' hb' _ (fin_zero_le_eadd_neg k2)
  obtain ⟨q, hq⟩ := hc2.nonempty
  have e1 : fin (q a - q b) ≤ fin (-w) :=
    ExtRat.le_trans' (hq b a ⟨hb, ha⟩)
      (ExtRat.le_trans' (Mat.addEdge_le _ _ _ _ _ _) (hV.addEdge_edge hb ha _))
  have e2 : fin (q (cidx b) - q (cidx a)) ≤ fin (-w) :=
    ExtRat.le_trans' (hq (cidx a) (cidx b) ⟨ha', hb'⟩) (hc1.addEdge_edge ha' hb' _)
  rw [ExtRat.fin_le_fin] at e1 e2
  obtain ⟨x, hx, hv⟩ := c.point_of_potential_below (d := (Mat.addEdge { f := octFull c.e } b a
    (-w)).addEdge (cidx a) (cidx b) (-w))
    (fun u v => ExtRat.le_trans' (Mat.addEdge_le _ _ _ _ _ _) (Mat.addEdge_le _ _ _ _ _ _)) hq
  refine ⟨x, hx, ?_⟩
  rw [hv, hv]
  linarith

/-- a strongly closed matrix is the least one (off the diagonal) among the matrices containing its points -/
theorem le_of_γ_subset {x : OctM n} (hx : x.IsStronglyClosed) (Q : OctM n) (h : OctM.γ x ⊆ OctM.γ Q)
    {a b : Nat} (ha : a < 2 * n) (hb : b < rowSize a) (hab : a ≠ b) : x.e a b ≤ Q.e a b := by
  refine ExtRat.le_of_forall_fin_le fun w hw => ?_
  obtain ⟨p, hp, hd⟩ := hx.exists_point_ge ha (lt_of_lt_of_le hb (rowSize_le ha)) (w := w)
    (by rwa [← raw_eq_octFull x.e hb hab])
  exact ExtRat.le_trans' (ExtRat.fin_le_fin.2 hd) (h hp a b ha hb)

/-- the join of two strongly closed matrices is included in every octagon containing both -/
theorem γ_join_least {x y : OctM n} (hx : x.IsStronglyClosed) (hy : y.IsStronglyClosed) (Q : OctM n)
    (h1 : OctM.γ x ⊆ OctM.γ Q) (h2 : OctM.γ y ⊆ OctM.γ Q) : OctM.γ (join x y) ⊆ OctM.γ Q := by
  intro p hp i j hi hj
  by_cases hij : i = j
  · rw [hij, Q.diag j (by omega)]; exact ExtRat.le_pinf _
  · exact ExtRat.le_trans' (hp i j hi hj)
      (ExtRat.maxA_le (le_of_γ_subset hx Q h1 hi hj hij) (le_of_γ_subset hy Q h2 hi hj hij))

/-- if the union of two strongly closed octagons is an octagon, it is their join -/
theorem join_of_union_eq {x y : OctM n} (hx : x.IsStronglyClosed) (hy : y.IsStronglyClosed) (Q : OctM n)
    (h : OctM.γ Q = OctM.γ x ∪ OctM.γ y) : OctM.γ (join x y) = OctM.γ x ∪ OctM.γ y :=
  union_eq_of_least (γ_subset_join_left x y) (γ_subset_join_right x y) (γ_join_least hx hy Q) h

end OctM

/-- a point of the join outside both operands: the union is not an octagon -/
theorem octUB_complete_of_witness {n : Nat} (x y : OctM n) (hx : x.IsStronglyClosed) (hy : y.IsStronglyClosed)
    (hw : ∃ p, p ∈ OctM.γ (OctM.join x y) ∧ p ∉ OctM.γ x ∧ p ∉ OctM.γ y) :
    ¬ ∃ Q : OctM n, OctM.γ Q = OctM.γ x ∪ OctM.γ y :=
  fun ⟨Q, hQ⟩ => ne_union_of_witness hw (OctM.join_of_union_eq hx hy Q hQ)

end PPLV.WR

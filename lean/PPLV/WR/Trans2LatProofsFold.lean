import PPLV.WR.Trans2LatProofsMapExpand
/-!
# Lattice / dimension operations of `BD_Shape<T>`: fold_space_dimensions (soundness)
-/
namespace PPLV.WR
open ExtRat

/-! ## loops that only raise entries -/

theorem latMLe_refl (m : Mat) : MLe m m := fun _ _ => le_rfl' _
theorem latMLe_trans {a b c : Mat} (h1 : MLe a b) (h2 : MLe b c) : MLe a c :=
  fun i j => le_trans' (h1 i j) (h2 i j)

theorem latMLe_setMax (m : Mat) (a b : Nat) (w : ExtRat) : MLe m (m.set a b (latMaxA (m a b) w)) := by
  intro i j
  simp only [Mat.set_apply]
  split
  · rename_i hc; obtain ⟨rfl, rfl⟩ := hc; exact latMaxA_ge_left _ _
  · exact le_rfl' _

theorem latLoopDown_infl {n : Nat} {f : Nat → Mat → Mat} (h : ∀ k m, MLe m (f k m)) (s : Mat) :
    MLe s (loopDown n f s) :=
  latLoopDown_inv (fun t => MLe s t) (latMLe_refl s) (fun k t _ ht => latMLe_trans ht (h k t))

theorem latLoopUp_infl {n : Nat} {f : Nat → Mat → Mat} (h : ∀ k m, MLe m (f k m)) (s : Mat) :
    MLe s (loopUp n f s) :=
  latLoopUp_inv (fun t => MLe s t) (latMLe_refl s) (fun k t _ ht => latMLe_trans ht (h k t))

/-- every step raises entries; step `k` establishes the upward-closed fact `P k`: all of them hold at
the end -/
theorem latLoopDown_collect {n : Nat} {f : Nat → Mat → Mat} (hinfl : ∀ k m, MLe m (f k m))
    (P : Nat → Mat → Prop) (hup : ∀ k m m', MLe m m' → P k m → P k m') (m0 : Mat)
    (hstep : ∀ k m, k < n → MLe m0 m → P k (f k m)) (s : Mat) (hs : MLe m0 s) :
    ∀ k, k < n → P k (loopDown n f s) := by
  induction n generalizing s with
  | zero => intro k hk; omega
  | succ n ih =>
    intro k hk
    simp only [loopDown]
    by_cases hkn : k = n
    · subst hkn
      exact hup k _ _ (latLoopDown_infl hinfl _) (hstep k s (Nat.lt_succ_self k) hs)
    · exact ih (fun k m hk => hstep k m (Nat.lt_succ_of_lt hk)) (f n s)
        (latMLe_trans hs (hinfl n s)) k (by omega)

/-- an ascending loop that only raises entries keeps what one of its steps establishes below a cell -/
theorem latLoopUp_raise {n : Nat} {f : Nat → Mat → Mat} (hinfl : ∀ k m, MLe m (f k m)) {m0 s : Mat}
    (hs : MLe m0 s) {k : Nat} (hk : k < n) {a b : Nat} {v : ExtRat} (hstep : ∀ m, MLe m0 m → v ≤ f k m a b) :
    v ≤ loopUp n f s a b := by
  induction n with
  | zero => omega
  | succ n ih =>
    simp only [loopUp]
    by_cases hkn : k = n
    · subst hkn; exact hstep _ (latMLe_trans hs (latLoopUp_infl hinfl s))
    · exact le_trans' (ih (by omega)) (hinfl n _ a b)

/-! ## `fold_space_dimensions` -/

/-- the `j` loop of `fold_space_dimensions` for one folded index `t` -/
def bdsLatFoldOne (n v t : Nat) (m : Mat) : Mat :=
  loopDown (n + 1) (fun j m =>
    let m := m.set j v (latMaxA (m j v) (m j t))
    m.set v j (latMaxA (m v j) (m t j))) m

theorem bdsLatFoldLoop_eq (n v : Nat) (vars : List Nat) (m : Mat) :
    bdsLatFoldLoop n v vars m = vars.foldl (fun m tbf => bdsLatFoldOne n v (tbf + 1) m) m := rfl

theorem bdsLatFoldStep_infl (v t j : Nat) (m : Mat) :
    MLe m ((m.set j v (latMaxA (m j v) (m j t))).set v j
      (latMaxA ((m.set j v (latMaxA (m j v) (m j t))) v j) ((m.set j v (latMaxA (m j v) (m j t))) t j))) :=
  latMLe_trans (latMLe_setMax m j v _) (latMLe_setMax _ v j _)

theorem bdsLatFoldOne_infl (n v t : Nat) (m : Mat) : MLe m (bdsLatFoldOne n v t m) :=
  latLoopDown_infl (fun j m => bdsLatFoldStep_infl v t j m) m

theorem bdsLatFoldOne_bounds (n v t : Nat) (m0 s : Mat) (hs : MLe m0 s) :
    ∀ j, j < n + 1 → m0 j t ≤ bdsLatFoldOne n v t s j v ∧ m0 t j ≤ bdsLatFoldOne n v t s v j := by
  unfold bdsLatFoldOne
  refine latLoopDown_collect (fun j m => bdsLatFoldStep_infl v t j m)
    (fun j m => m0 j t ≤ m j v ∧ m0 t j ≤ m v j) ?_ m0 ?_ s hs
  · intro k m m' hmm hp
    exact ⟨le_trans' hp.1 (hmm _ _), le_trans' hp.2 (hmm _ _)⟩
  · intro j m hj hm
    constructor
    · refine le_trans' ?_ (latMLe_setMax _ v j _ j v)
      simp only [Mat.set_apply, and_self, if_true]
      exact le_trans' (hm j t) (latMaxA_ge_right _ _)
    · simp only [Mat.set_apply, and_self, if_true]
      refine le_trans' ?_ (latMaxA_ge_right _ _)
      exact le_trans' (hm t j) (latMLe_setMax m j v _ t j)

theorem bdsLatFoldLoop_infl (n v : Nat) (vars : List Nat) (m : Mat) : MLe m (bdsLatFoldLoop n v vars m) := by
  rw [bdsLatFoldLoop_eq]
  induction vars generalizing m with
  | nil => exact latMLe_refl m
  | cons w ws ih =>
    simp only [List.foldl_cons]
    exact latMLe_trans (bdsLatFoldOne_infl n v (w + 1) m) (ih _)

theorem bdsLatFoldLoop_bounds (n v : Nat) (vars : List Nat) (m0 s : Mat) (hs : MLe m0 s) (w : Nat)
    (hw : w ∈ vars) : ∀ j, j < n + 1 →
      m0 j (w + 1) ≤ bdsLatFoldLoop n v vars s j v ∧ m0 (w + 1) j ≤ bdsLatFoldLoop n v vars s v j := by
  rw [bdsLatFoldLoop_eq]
  induction vars generalizing s with
  | nil => simp at hw
  | cons u us ih =>
    simp only [List.foldl_cons]
    intro j hj
    by_cases hwu : w = u
    · subst hwu
      have h1 := bdsLatFoldOne_bounds n v (w + 1) m0 s hs j hj
      have h2 : MLe (bdsLatFoldOne n v (w + 1) s) (us.foldl (fun m tbf => bdsLatFoldOne n v (tbf + 1) m)
          (bdsLatFoldOne n v (w + 1) s)) := by
        have := bdsLatFoldLoop_infl n v us (bdsLatFoldOne n v (w + 1) s)
        rw [bdsLatFoldLoop_eq] at this; exact this
      exact ⟨le_trans' h1.1 (h2 _ _), le_trans' h1.2 (h2 _ _)⟩
    · have hw' : w ∈ us := by
        rcases List.mem_cons.1 hw with h | h
        · exact absurd h hwu
        · exact h
      exact ih _ (latMLe_trans hs (bdsLatFoldOne_infl n v (u + 1) s)) hw' j hj

/-- after the `max_assign`s, the point with `dest := x_w` (`w` folded or `dest` itself) satisfies the matrix -/
theorem bdsLatFoldLoop_holds {n dest : Nat} {vars : List Nat} {m : Mat} {x : Nat → Rat} (hx : x ∈ γB n m)
    {w : Nat} (hw : w = dest ∨ w ∈ vars) (hwn : w < n) :
    upd x dest (x w) ∈ γB n (bdsLatFoldLoop n (dest + 1) vars m) := by
  have hinfl := bdsLatFoldLoop_infl n (dest + 1) vars m
  rcases hw with rfl | hw
  · rw [latUpd_self]
    exact latGammaB_mono (fun a b _ _ => hinfl a b) hx
  · have hb := bdsLatFoldLoop_bounds n (dest + 1) vars m m (latMLe_refl m) w hw
    intro a b hab
    rw [val_upd, val_upd]
    have hxw : x w = DBM.val x (w + 1) := rfl
    by_cases ha : a = dest + 1
    · by_cases hb' : b = dest + 1
      · rw [if_pos ha, if_pos hb', ha, hb']
        have hd1 : dest + 1 < n + 1 := ha ▸ hab.1
        have := hx (dest + 1) (dest + 1) ⟨hd1, hd1⟩
        simp only [sub_self] at this ⊢
        exact le_trans' this (hinfl _ _)
      · rw [if_pos ha, if_neg hb', ha, hxw]
        exact le_trans' (hx (w + 1) b ⟨by omega, hab.2⟩) (hb b hab.2).2
    · by_cases hb' : b = dest + 1
      · rw [if_neg ha, if_pos hb', hb', hxw]
        exact le_trans' (hx a (w + 1) ⟨hab.1, by omega⟩) (hb a hab.1).1
      · rw [if_neg ha, if_neg hb']
        exact le_trans' (hx a b hab) (hinfl a b)

/-- `fold_space_dimensions(vars, dest)`: for every point `x` of the shape and every `w ∈ vars ∪ {dest}`,
the point obtained by moving `x_w` to `dest` and dropping `vars` is in the result -/
theorem bdsLatFold_sound {R : Rnd} (hR : R.Sound) (n : Nat) (c : Bool) (m : Mat) (vars : List Nat)
    (dest : Nat) (hne : vars ≠ []) (hvs : ∀ v, v ∈ vars → v < n) (hdest : dest < n)
    {x : Nat → Rat} (hx : x ∈ γB n m) {w : Nat} (hw : w = dest ∨ w ∈ vars) :
    ∃ r, bdsLatFold R n c m vars dest = some r ∧ r.dim = n - vars.length ∧
      bdsLatDropPoint n vars (upd x dest (x w)) ∈ γB r.dim r.m := by
  unfold bdsLatFold
  have : vars.isEmpty = false := List.isEmpty_eq_false_iff.2 hne
  simp only [this, Bool.false_eq_true, if_false]
  obtain ⟨m', c', e, hx'⟩ := bdsLatClose_sound hR.up_le n c m hx
  simp only [e]
  have hwn : w < n := by
    rcases hw with rfl | hw
    · exact hdest
    · exact hvs w hw
  exact bdsLatRemoveDims_sound hR n c' _ vars hne hvs (bdsLatFoldLoop_holds hx' hw hwn)

end PPLV.WR

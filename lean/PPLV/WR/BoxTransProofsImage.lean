import PPLV.WR.BoxTransProofsMaxMin
import PPLV.WR.BoxTransProofsRefine
import Mathlib.Tactic.FieldSimp
/-!
# `Box<ITV>`: soundness of `affine_image`, `affine_preimage`, `generalized_affine_image`

Every transformer keeps the points it has to keep: the image of a member is a member of the
result (`_sound`), and the dimension is unchanged (`_dim`).
-/
namespace PPLV.WR.BoxT
open PPLV.Interval
open PPLV.Interval.ExtRat (ninf fin pinf)

theorem Box.setIv_dim (b : Box) (k : Nat) (I : Iv) : (b.setIv k I).dim = b.dim := by
  simp [Box.dim, Box.setIv]

theorem Box.mem_get {p : Policy} {b : Box} {x : Nat → Rat} {v : Nat} (hx : b.mem p x) (hv : v < b.dim) :
    (b.get v).mem p (x v) := hx.2 v hv

/-! ## interval evaluation of a linear expression -/

theorem evalLoop_sound {cfg : Cfg} (hS : cfg.Sound) {seq : List Iv} {x : Nat → Rat} :
    ∀ (ts : List (Nat × Int)) (ev : Iv) (s : Rat), ev.mem cfg.p s →
      (∀ t ∈ ts, (seq.getD t.1 Iv.empty).mem cfg.p (x t.1)) →
      (evalLoop cfg seq ts ev).mem cfg.p (s + termSum ts x) := by
  intro ts
  induction ts with
  | nil => intro ev s hev _; simpa [evalLoop] using hev
  | cons t ts ih =>
    obtain ⟨i, a⟩ := t
    intro ev s hev hm
    have hi := hm (i, a) (by simp)
    simp only at hi
    simp only [evalLoop]
    rw [termSum_cons, ← add_assoc]
    exact ih _ _ (addAssign_encloses hS.R hev
      (mulAssign_encloses hS.R (ivOfInt_sound hS.R a) (assign_encloses hS.R hi)))
      (fun t ht => hm t (by simp [ht]))

theorem evalExprIv_sound {cfg : Cfg} (hS : cfg.Sound) {b : Box} {e : LinExpr} {den : Int} {x : Nat → Rat}
    (hwf : e.WF b.dim) (hd : den ≠ 0) (hx : b.mem cfg.p x) :
    (evalExprIv cfg b.seq e den).mem cfg.p (e.eval x / (den : Rat)) := by
  have hev : (evalLoop cfg b.seq e.terms (ivOfInt cfg.p cfg.R e.inhom)).mem cfg.p (e.eval x) := by
    rw [LinExpr.eval_eq_terms, add_comm]
    exact evalLoop_sound hS _ _ _ (ivOfInt_sound hS.R _) (fun t ht => (terms_mem hwf hx t ht).2)
  unfold evalExprIv
  simp only []
  split
  · exact divAssign_encloses hS.R hev (ivOfInt_sound hS.R den) (by exact_mod_cast hd)
  · rename_i h1
    have : den = 1 := by simpa using h1
    subst this
    simpa using hev

/-! ## `affine_image` -/

theorem affineImage_eq (cfg : Cfg) (b : Box) (v : Nat) (e : LinExpr) (den : Int) :
    affineImage cfg b v e den =
      if (b.isEmptyQ cfg.p).1 then (b.isEmptyQ cfg.p).2
      else (b.isEmptyQ cfg.p).2.setIv v
        (assign cfg.p cfg.R cfg.p (evalExprIv cfg (b.isEmptyQ cfg.p).2.seq e den)) := by
  unfold affineImage
  rcases h : b.isEmptyQ cfg.p with ⟨em, b'⟩
  rfl

theorem affineImage_dim (cfg : Cfg) (b : Box) (v : Nat) (e : LinExpr) (den : Int) :
    (affineImage cfg b v e den).dim = b.dim := by
  rw [affineImage_eq]
  split
  · exact Box.isEmptyQ_dim b cfg.p
  · rw [Box.setIv_dim]; exact Box.isEmptyQ_dim b cfg.p

theorem affineImage_sound {cfg : Cfg} (hS : cfg.Sound) {b : Box} {v : Nat} {e : LinExpr} {den : Int} {x : Nat → Rat}
    (hwf : e.WF b.dim) (hd : den ≠ 0) (hx : b.mem cfg.p x) :
    (affineImage cfg b v e den).mem cfg.p (upd x v (e.eval x / (den : Rat))) := by
  rw [affineImage_eq]
  obtain ⟨h1, h2, h3⟩ := Box.isEmptyQ_of_mem hx
  rw [h1]
  simp only [Bool.false_eq_true, if_false]
  have hwf' : e.WF (b.isEmptyQ cfg.p).2.dim := by rw [Box.isEmptyQ_dim]; exact hwf
  exact Box.mem_setIv h2 (assign_encloses hS.R (evalExprIv_sound hS hwf' hd h2))

/-! ## `affine_preimage` -/

theorem affinePreimage_eq (cfg : Cfg) (b : Box) (v : Nat) (e : LinExpr) (den : Int) :
    affinePreimage cfg b v e den =
      if (b.isEmptyQ cfg.p).1 then (b.isEmptyQ cfg.p).2
      else if e.coeff v == 0 then
        if isEmpty cfg.p (intersectAssign cfg.p cfg.R (evalExprIv cfg (b.isEmptyQ cfg.p).2.seq e den)
            ((b.isEmptyQ cfg.p).2.get v)) then (b.isEmptyQ cfg.p).2.setEmpty
        else (b.isEmptyQ cfg.p).2.setIv v (Iv.universe cfg.p)
      else affineImage cfg (b.isEmptyQ cfg.p).2 v
        (((LinExpr.const 0).sub e).add (LinExpr.var (e.coeff v + den) v)) (e.coeff v) := by
  unfold affinePreimage
  rcases h : b.isEmptyQ cfg.p with ⟨em, b'⟩
  rfl

theorem affinePreimage_dim (cfg : Cfg) (b : Box) (v : Nat) (e : LinExpr) (den : Int) :
    (affinePreimage cfg b v e den).dim = b.dim := by
  rw [affinePreimage_eq]
  split
  · exact Box.isEmptyQ_dim b cfg.p
  · split
    · split
      · exact Box.isEmptyQ_dim b cfg.p
      · rw [Box.setIv_dim]; exact Box.isEmptyQ_dim b cfg.p
    · rw [affineImage_dim]; exact Box.isEmptyQ_dim b cfg.p

theorem affinePreimage_sound {cfg : Cfg} (hS : cfg.Sound) {b : Box} {v : Nat} {e : LinExpr} {den : Int} {x : Nat → Rat}
    (hv : v < b.dim) (hwf : e.WF b.dim) (hd : den ≠ 0)
    (hx : b.mem cfg.p (upd x v (e.eval x / (den : Rat)))) :
    (affinePreimage cfg b v e den).mem cfg.p x := by
  rw [affinePreimage_eq]
  obtain ⟨h1, h2, h3⟩ := Box.isEmptyQ_of_mem hx
  rw [h1]
  simp only [Bool.false_eq_true, if_false]
  have hdim : (b.isEmptyQ cfg.p).2.dim = b.dim := Box.isEmptyQ_dim b cfg.p
  have hwf' : e.WF (b.isEmptyQ cfg.p).2.dim := by rw [hdim]; exact hwf
  have hv' : v < (b.isEmptyQ cfg.p).2.dim := by rw [hdim]; exact hv
  have hdq : (den : Rat) ≠ 0 := by exact_mod_cast hd
  split
  · rename_i hc
    have hc0 : e.coeff v = 0 := by simpa using hc
    have hval := evalExprIv_sound hS hwf' hd h2
    rw [LinExpr.eval_upd_of_coeff_zero hc0] at hval
    have hg := Box.mem_get h2 hv'
    rw [upd_same] at hg
    have hmeet := intersectAssign_encloses hS.R hval hg
    rw [isEmpty_of_mem hmeet]
    simp only [Bool.false_eq_true, if_false]
    have := Box.mem_setIv (v := v) h2 (mem_universe cfg.p (x v))
    rwa [upd_upd_self] at this
  · rename_i hc
    have hc0 : e.coeff v ≠ 0 := by simpa using hc
    have hcq : ((e.coeff v : Int) : Rat) ≠ 0 := by exact_mod_cast hc0
    have hwfi : (((LinExpr.const 0).sub e).add (LinExpr.var (e.coeff v + den) v)).WF (b.isEmptyQ cfg.p).2.dim :=
      LinExpr.WF.add (LinExpr.WF.sub (LinExpr.WF.const 0 _) hwf') (LinExpr.WF.var _ hv')
    have := affineImage_sound (v := v) hS hwfi hc0 h2
    rw [upd_upd] at this
    have hval : (((LinExpr.const 0).sub e).add (LinExpr.var (e.coeff v + den) v)).eval
        (upd x v (e.eval x / (den : Rat))) / ((e.coeff v : Int) : Rat) = x v := by
      simp only [LinExpr.eval_add, LinExpr.eval_sub, LinExpr.eval_const, LinExpr.eval_var, upd_same]
      rw [LinExpr.eval_upd]
      push_cast
      field_simp
      ring
    rw [hval] at this
    rwa [upd_self] at this

/-! ## `generalized_affine_image` -/

theorem lowerExtend_mem {p : Policy} {I : Iv} {w y : Rat} (h : I.mem p w) (hy : y ≤ w) : (lowerExtend p I).mem p y :=
  ⟨(mem_universe p y).1, upperOkV_trans_le h.2 hy⟩

theorem upperExtend_mem {p : Policy} {I : Iv} {w y : Rat} (h : I.mem p w) (hy : w ≤ y) : (upperExtend p I).mem p y :=
  ⟨lowerOkV_trans_le h.1 hy, (mem_universe p y).2⟩

theorem hi_fin_of_not_inf {p : Policy} {b : Bound} {w : Rat} (h : upperOk p b w)
    (hi : isBoundaryInfinity p .upper b = false) : ∃ c, b.value = fin c ∧ w ≤ c := by
  rw [isBoundaryInfinity_eq, normalIsBoundaryInfinity_upper] at hi
  unfold upperOk at h
  cases hv : b.value with
  | ninf => rw [hv] at h; simp at h
  | pinf => simp [hv] at hi
  | fin c => rw [hv] at h; exact ⟨c, rfl, upperOkV_fin_le h⟩

theorem lo_fin_of_not_inf {p : Policy} {b : Bound} {w : Rat} (h : lowerOk p b w)
    (hi : isBoundaryInfinity p .lower b = false) : ∃ c, b.value = fin c ∧ c ≤ w := by
  rw [isBoundaryInfinity_eq, normalIsBoundaryInfinity_lower] at hi
  unfold lowerOk at h
  cases hv : b.value with
  | pinf => rw [hv] at h; simp at h
  | ninf => simp [hv] at hi
  | fin c => rw [hv] at h; exact ⟨c, rfl, lowerOkV_fin_le h⟩

/-- the interval that `generalized_affine_image` stores for `var` -/
def gaiIv (p : Policy) (rel : Rel) (I : Iv) : Iv :=
  match rel with
  | .le => lowerExtend p I
  | .lt =>
    if !isBoundaryInfinity p .upper (lowerExtend p I).hi then removeSup p (lowerExtend p I) else lowerExtend p I
  | .ge => upperExtend p I
  | .gt =>
    if !isBoundaryInfinity p .lower (upperExtend p I).lo then removeInf p (upperExtend p I) else upperExtend p I
  | _ => I

theorem gaiIv_mem {p : Policy} {rel : Rel} {I : Iv} {w y : Rat} (h : I.mem p w) (hrel : rel ≠ .ne)
    (hy : Rel.holds rel y w) : (gaiIv p rel I).mem p y := by
  cases rel with
  | ne => exact absurd rfl hrel
  | eq =>
    have : y = w := hy
    subst this; exact h
  | le => exact lowerExtend_mem h hy
  | ge => exact upperExtend_mem h hy
  | lt =>
    have hy' : y < w := hy
    have hm := lowerExtend_mem h (le_of_lt hy')
    simp only [gaiIv]
    split
    · rename_i hi
      have hi' : isBoundaryInfinity p .upper I.hi = false := by simpa [lowerExtend] using hi
      obtain ⟨c, hc, hwc⟩ := hi_fin_of_not_inf h.2 hi'
      exact removeSup_sound hm (by simpa [lowerExtend] using hc) (lt_of_lt_of_le hy' hwc)
    · exact hm
  | gt =>
    have hy' : w < y := hy
    have hm := upperExtend_mem h (le_of_lt hy')
    simp only [gaiIv]
    split
    · rename_i hi
      have hi' : isBoundaryInfinity p .lower I.lo = false := by simpa [upperExtend] using hi
      obtain ⟨c, hc, hcw⟩ := lo_fin_of_not_inf h.1 hi'
      exact removeInf_sound hm (by simpa [upperExtend] using hc) (lt_of_le_of_lt hcw hy')
    · exact hm

theorem generalizedAffineImage_eq (cfg : Cfg) (b : Box) (v : Nat) (rel : Rel) (e : LinExpr) (den : Int) :
    generalizedAffineImage cfg b v rel e den =
      if rel == .eq then affineImage cfg b v e den
      else if ((affineImage cfg b v e den).isEmptyQ cfg.p).1 then ((affineImage cfg b v e den).isEmptyQ cfg.p).2
      else if rel == .ne then ((affineImage cfg b v e den).isEmptyQ cfg.p).2
      else ((affineImage cfg b v e den).isEmptyQ cfg.p).2.setIv v
        (gaiIv cfg.p rel (((affineImage cfg b v e den).isEmptyQ cfg.p).2.get v)) := by
  unfold generalizedAffineImage
  simp only []
  rcases h : (affineImage cfg b v e den).isEmptyQ cfg.p with ⟨em, b'⟩
  cases rel <;> cases em <;> rfl

theorem generalizedAffineImage_dim (cfg : Cfg) (b : Box) (v : Nat) (rel : Rel) (e : LinExpr) (den : Int) :
    (generalizedAffineImage cfg b v rel e den).dim = b.dim := by
  rw [generalizedAffineImage_eq]
  have h1 := affineImage_dim cfg b v e den
  have h2 := Box.isEmptyQ_dim (affineImage cfg b v e den) cfg.p
  split
  · exact h1
  · split
    · rw [h2, h1]
    · split
      · rw [h2, h1]
      · rw [Box.setIv_dim, h2, h1]

theorem generalizedAffineImage_sound {cfg : Cfg} (hS : cfg.Sound) {b : Box} {v : Nat} {rel : Rel} {e : LinExpr}
    {den : Int} {x : Nat → Rat} {y : Rat}
    (hv : v < b.dim) (hwf : e.WF b.dim) (hd : den ≠ 0) (hrel : rel ≠ .ne) (hx : b.mem cfg.p x)
    (hy : Rel.holds rel y (e.eval x / (den : Rat))) :
    (generalizedAffineImage cfg b v rel e den).mem cfg.p (upd x v y) := by
  rw [generalizedAffineImage_eq]
  have hz := affineImage_sound (v := v) hS hwf hd hx
  split
  · rename_i hr
    have : rel = .eq := by simpa using hr
    subst this
    have : y = e.eval x / (den : Rat) := hy
    rw [this]; exact hz
  · obtain ⟨h1, h2, h3⟩ := Box.isEmptyQ_of_mem hz
    rw [h1]
    simp only [Bool.false_eq_true, if_false]
    have hne : (rel == Rel.ne) = false := by simpa using hrel
    rw [hne]
    simp only [Bool.false_eq_true, if_false]
    have hv' : v < ((affineImage cfg b v e den).isEmptyQ cfg.p).2.dim := by
      rw [Box.isEmptyQ_dim, affineImage_dim]; exact hv
    have hg := Box.mem_get h2 hv'
    rw [upd_same] at hg
    have := Box.mem_setIv (v := v) h2 (gaiIv_mem hg hrel hy)
    rwa [upd_upd] at this

/-! ## non-vacuity -/

theorem Box.univ_mem (p : Policy) (n : Nat) (x : Nat → Rat) : (Box.univ p n).mem p x :=
  Box.mem_univ p n x

example : (affineImage Cfg.mpq (Box.univ Policy.rational 2) 0 ⟨[0, 1], 3⟩ 2).mem Policy.rational
    (upd (fun _ => 1) 0 ((⟨[0, 1], 3⟩ : LinExpr).eval (fun _ => 1) / ((2 : Int) : Rat))) :=
  affineImage_sound Cfg.mpq_sound (by unfold LinExpr.WF; decide) (by decide) (Box.univ_mem _ _ _)

example : (affinePreimage Cfg.mpq (Box.univ Policy.rational 2) 0 ⟨[2, 1], 3⟩ 2).mem Policy.rational (fun _ => 1) :=
  affinePreimage_sound Cfg.mpq_sound (by decide) (by unfold LinExpr.WF; decide) (by decide) (Box.univ_mem _ _ _)

example : (generalizedAffineImage Cfg.mpq (Box.univ Policy.rational 2) 0 .lt ⟨[0, 1], 3⟩ 2).mem Policy.rational
    (upd (fun _ => 1) 0 0) :=
  generalizedAffineImage_sound Cfg.mpq_sound (by decide) (by unfold LinExpr.WF; decide) (by decide) (by decide)
    (Box.univ_mem _ _ _) (by norm_num [Rel.holds, LinExpr.eval, LinExpr.dot])

end PPLV.WR.BoxT

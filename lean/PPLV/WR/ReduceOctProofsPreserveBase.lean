import PPLV.WR.ReduceOctProofsSpec
import Mathlib.Tactic.Ring
/-!
# Octagon reduction keeps every point: the setting (`RCtx`), `Ok i j` (the point satisfies the full-view
cell), twins, exact sums inside a class, non-singular leaders, the trichotomy kept / coherence-redundant /
closure-redundant read on the full view
-/
namespace PPLV.WR
open ExtRat (fin pinf addUp halfUp)

/-- the setting of `oct_reduction_preserves`: `p` is the coherent potential of a point that satisfies every
cell that is certainly kept -/
structure RCtx {n : Nat} (c : OctM n) (succ : Nat → Nat) (nr : BMat) (p : Nat → Rat) : Prop where
  hc : c.IsStronglyClosed
  hs : IsOctSucc (2 * n) c.e succ
  hk : OctKept (2 * n) c.e succ nr
  hp : Coh p
  hsat : ∀ i j, i < 2 * n → j < rowSize i → nr i j = true → fin (p j - p i) ≤ c.e i j

/-- the potential satisfies the full-view cell `(i, j)` -/
def Ok (m : Mat) (p : Nat → Rat) (i j : Nat) : Prop := fin (p j - p i) ≤ octFull m i j

theorem Ok.self (m : Mat) (p : Nat → Rat) (i : Nat) : Ok m p i i := by
  unfold Ok; rw [octFull_self, sub_self]; exact ExtRat.le_rfl' _

theorem Ok.of_pinf {m : Mat} {p : Nat → Rat} {i j : Nat} (h : octFull m i j = pinf) : Ok m p i j := by
  unfold Ok; rw [h]; exact ExtRat.le_pinf _

theorem Ok.twin {m : Mat} {p : Nat → Rat} (hp : Coh p) {i j : Nat} (h : Ok m p (cidx j) (cidx i)) : Ok m p i j := by
  unfold Ok at *
  rw [octFull_coh' m j i, hp, hp] at h
  have e : p j - p i = -p i - -p j := by ring
  rw [e]; exact h

theorem Ok.twin_iff {m : Mat} {p : Nat → Rat} (hp : Coh p) {i j : Nat} : Ok m p (cidx j) (cidx i) ↔ Ok m p i j :=
  ⟨Ok.twin hp, fun h => Ok.twin hp (by rw [cidx_cidx, cidx_cidx]; exact h)⟩

/-- a cell that is at least a two-step sum follows from the two steps -/
theorem Ok.trans {m : Mat} {p : Nat → Rat} {i k j : Nat} (h1 : Ok m p i k) (h2 : Ok m p k j)
    (h : eadd (octFull m i k) (octFull m k j) ≤ octFull m i j) : Ok m p i j := by
  unfold Ok at *
  have := fin_le_eadd h1 h2
  have e : p k - p i + (p j - p k) = p j - p i := by ring
  rw [e] at this
  exact ExtRat.le_trans' this h

/-- a cell that is at least the half-sum of the two unary cells follows from them -/
theorem Ok.of_coh {m : Mat} {p : Nat → Rat} (hp : Coh p) {i j : Nat} (h1 : Ok m p i (cidx i))
    (h2 : Ok m p (cidx j) j)
    (h : halfUp fin (eadd (octFull m i (cidx i)) (octFull m (cidx j) j)) ≤ octFull m i j) : Ok m p i j := by
  unfold Ok at *
  rw [hp] at h1 h2
  have := ExtRat.fin_le_halfUp (up := fin) (fun _ => ExtRat.le_rfl' _) (fin_le_eadd h1 h2)
  have e : (-p i - p i + (p j - -p j)) / 2 = p j - p i := by ring
  rw [e] at this
  exact ExtRat.le_trans' this h

section closed
variable {n : Nat} {c : OctM n} (hc : c.IsStronglyClosed)
include hc

/-- inside a class the full view adds up exactly (first step inside the class) -/
theorem zeq_add_left {i k j : Nat} (hi : i < 2 * n) (hk : k < 2 * n) (hj : j < 2 * n) (hz : OZEq c.e i k) :
    eadd (octFull c.e i k) (octFull c.e k j) = octFull c.e i j := by
  by_cases e : i = k
  · subst e; rw [octFull_self, eadd_zero_left]
  obtain ⟨a, a', ha, ha', hs⟩ := hz.fin_of_ne e
  have t1 := hc.tri i j k hi hj hk
  have t2 := hc.tri k j i hk hj hi
  rw [ha] at t1 ⊢
  rw [ha'] at t2
  cases hkj : octFull c.e k j with
  | pinf =>
    rw [hkj] at t2
    cases hij : octFull c.e i j with
    | pinf => rfl
    | fin v => rw [hij] at t2; exact absurd t2 (ExtRat.not_pinf_le_fin _)
  | fin b =>
    rw [hkj] at t1 t2
    obtain ⟨v, hv, hle⟩ := ExtRat.le_fin_inv t1
    rw [hv] at t2 ⊢
    have := ExtRat.fin_le_fin.1 t2
    show fin (a + b) = fin v
    congr 1; linarith only [this, hle, hs]

/-- the same with the second step inside the class -/
theorem zeq_add_right {i k j : Nat} (hi : i < 2 * n) (hk : k < 2 * n) (hj : j < 2 * n) (hz : OZEq c.e k j) :
    eadd (octFull c.e i k) (octFull c.e k j) = octFull c.e i j := by
  have := zeq_add_left hc (cidx_lt hj) (cidx_lt hk) (cidx_lt hi) (OZEq.cidx hz.symm)
  rw [octFull_coh' c.e j k, octFull_coh' c.e k i, octFull_coh' c.e j i, eadd_comm] at this
  exact this

omit hc in
/-- the twin of a least element of a non-singular class is one -/
theorem NSL.cidx {i : Nat} (h : NSL (2 * n) c.e i) : NSL (2 * n) c.e (cidx i) := by
  refine ⟨cidx_lt h.lt, fun t ht hz => ?_, fun hz => h.ns (by rw [cidx_cidx] at hz; exact hz.symm)⟩
  have hz' : OZEq c.e (WR.cidx t) i := by have := OZEq.cidx hz; rwa [cidx_cidx] at this
  exact cidx_le_of_le_cidx (h.least _ (cidx_lt ht) hz') fun e => h.ns (e ▸ hz)

omit hc in
theorem NSL.eq_of_zeq {i j : Nat} (hi : NSL (2 * n) c.e i) (hj : NSL (2 * n) c.e j) (hz : OZEq c.e i j) : i = j := by
  exact Nat.le_antisymm (hi.least j hj.lt hz.symm) (hj.least i hi.lt hz)

/-- two indices that are not zero-equivalent lie on a strictly positive 2-cycle -/
theorem pos_of_not_ozeq {i j : Nat} (hi : i < 2 * n) (hj : j < 2 * n) (hn : ¬ OZEq c.e i j)
    {a b : Rat} (h1 : octFull c.e i j = fin a) (h2 : octFull c.e j i = fin b) : 0 < a + b :=
  lt_of_le_of_ne (hc.cycle_nonneg c hi hj h1 h2) fun e => hn (OZEq.of_fin h1 h2 e.symm)

theorem NSL.cycle_pos {i j : Nat} (hi : NSL (2 * n) c.e i) (hj : NSL (2 * n) c.e j) (hne : i ≠ j)
    {a b : Rat} (h1 : octFull c.e i j = fin a) (h2 : octFull c.e j i = fin b) : 0 < a + b :=
  pos_of_not_ozeq hc hi.lt hj.lt (fun hz => hne (NSL.eq_of_zeq hi hj hz)) h1 h2

omit hc in
/-- a non-singular index has a positive unary 2-cycle (`hc` enters through `cycle_nonneg`) -/
theorem nonsing_pos (hc : c.IsStronglyClosed) {i : Nat} (hi : i < 2 * n) (hns : ¬ OZEq c.e i (WR.cidx i))
    {a b : Rat} (h1 : octFull c.e i (WR.cidx i) = fin a) (h2 : octFull c.e (WR.cidx i) i = fin b) : 0 < a + b :=
  pos_of_not_ozeq hc hi (cidx_lt hi) hns h1 h2

end closed

/-! ## kept cells and the trichotomy -/

/-- redundant by strong coherence (full view) -/
def CohRed (m : Mat) (i j : Nat) : Prop :=
  j ≠ cidx i ∧ halfUp fin (eadd (octFull m i (cidx i)) (octFull m (cidx j) j)) ≤ octFull m i j

/-- redundant by strong closure through a third non-singular leader (full view) -/
def ClosRed (N : Nat) (m : Mat) (i j : Nat) : Prop :=
  ∃ k, NSL N m k ∧ k ≠ i ∧ k ≠ j ∧ eadd (octFull m i k) (octFull m k j) ≤ octFull m i j

section ctx
variable {n : Nat} {c : OctM n} {succ : Nat → Nat} {nr : BMat} {p : Nat → Rat} (X : RCtx c succ nr p)
include X

/-- a kept stored off-diagonal cell -/
theorem RCtx.ok_of_kept {i j : Nat} (hi : i < 2 * n) (hs : j < rowSize i) (hne : i ≠ j) (h : nr i j = true) :
    Ok c.e p i j := by
  unfold Ok
  rw [← raw_eq_octFull c.e hs hne]
  exact X.hsat i j hi hs h

theorem RCtx.trichotomy_stored {i j : Nat} (hi : NSL (2 * n) c.e i) (hj : NSL (2 * n) c.e j) (hne : i ≠ j)
    (hs : j < rowSize i) : Ok c.e p i j ∨ CohRed c.e i j ∨ ClosRed (2 * n) c.e i j := by
  by_cases h1 : CohRed c.e i j
  · exact Or.inr (Or.inl h1)
  by_cases h2 : ClosRed (2 * n) c.e i j
  · exact Or.inr (Or.inr h2)
  left
  refine X.ok_of_kept hi.lt hs hne (X.hk.lead i j hi hj hs hne h1 ?_)
  intro k hk hki hkj hle
  exact h2 ⟨k, hk, hki, hkj, hle⟩

/-- every pair of distinct non-singular leaders is kept, or redundant by coherence, or redundant by closure
(an unstored pair is its stored twin) -/
theorem RCtx.trichotomy {i j : Nat} (hi : NSL (2 * n) c.e i) (hj : NSL (2 * n) c.e j) (hne : i ≠ j) :
    Ok c.e p i j ∨ CohRed c.e i j ∨ ClosRed (2 * n) c.e i j := by
  by_cases hs : j < rowSize i
  · exact X.trichotomy_stored hi hj hne hs
  · have hs' := swap_stored hs
    have hne' : cidx j ≠ cidx i := fun e => hne (cidx_inj e).symm
    rcases X.trichotomy_stored (NSL.cidx hj) (NSL.cidx hi) hne' hs' with h | h | h
    · exact Or.inl (Ok.twin X.hp h)
    · right; left
      obtain ⟨h1, h2⟩ := h
      rw [cidx_cidx, cidx_cidx, octFull_coh' c.e j i, eadd_comm] at h2
      exact ⟨fun e => h1 (by rw [e, cidx_cidx]), h2⟩
    · right; right
      obtain ⟨k, hk, h1, h2, h3⟩ := h
      refine ⟨cidx k, NSL.cidx hk, fun e => h2 (by rw [← e, cidx_cidx]),
        fun e => h1 (by rw [← e, cidx_cidx]), ?_⟩
      have e1 : octFull c.e (cidx j) k = octFull c.e (cidx k) j := by
        have := octFull_coh' c.e j (cidx k); rw [cidx_cidx] at this; exact this
      have e2 : octFull c.e k (cidx i) = octFull c.e i (cidx k) := by
        have := octFull_coh' c.e (cidx k) i; rw [cidx_cidx] at this; exact this
      rw [e1, e2, octFull_coh' c.e j i, eadd_comm] at h3
      exact h3

end ctx

end PPLV.WR

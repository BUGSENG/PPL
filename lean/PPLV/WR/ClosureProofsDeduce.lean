import PPLV.WR.ClosureProofsBDS
import Mathlib.Tactic.FieldSimp
/-!
# Deduction helpers: the `q ≥ 1` / `0 < q < 1` rules, abstractly, and for `BD_Shape`

Setting of every `deduce_*` call: a variable `v` receives the new value `v' ⋈ e(x)/d`; the caller has
computed a *finite* bound `c` of `e/d` over the box of the unary bounds of the other variables
(`hS`).  Moving one coordinate `u` of the old point `x` inside its box (`Slide`) gives
`E + q * (t - x_u) ≤ c` for every admissible `t`, from which the rules for a positive coefficient follow; a
negative coefficient is a positive one on the reflected variable (`Slide.neg`).
-/
namespace PPLV.WR
open ExtRat

/-- the box `[-LB, UB]` of one variable with old value `X`, and the bound `c` of the expression
`E + q * (t - X)` obtained by moving that variable to any `t` of its box -/
structure Slide (E q X c : Rat) (UB LB : ExtRat) : Prop where
  hX : fin X ≤ UB
  hX' : fin (-X) ≤ LB
  sl : ∀ t : Rat, fin t ≤ UB → fin (-t) ≤ LB → E + q * (t - X) ≤ c

namespace Slide
variable {E q X c U L : Rat} {UB LB : ExtRat} {up : Rat → ExtRat}

/-- a smaller box -/
theorem mono {UB' LB' : ExtRat} (h : Slide E q X c UB LB) (h1 : UB' ≤ UB) (h2 : LB' ≤ LB)
    (hX : fin X ≤ UB') (hX' : fin (-X) ≤ LB') : Slide E q X c UB' LB' :=
  ⟨hX, hX', fun t a b => h.sl t (le_trans' a h1) (le_trans' b h2)⟩

/-- the same bound read for the reflected variable `-u`: coefficient `-q`, box `[-UB, LB]`.  The rules for a
negative coefficient are the rules below for the reflected variable. -/
theorem neg (h : Slide E q X c UB LB) : Slide E (-q) (-X) c LB UB := by
  refine ⟨h.hX', by rw [neg_neg]; exact h.hX, fun t a b => ?_⟩
  have e : -q * (t - -X) = q * (-t - X) := by ring
  rw [e]
  exact h.sl (-t) b (by rw [neg_neg]; exact a)

/-- a positive coefficient on a variable without upper bound: no finite `c` exists -/
theorem ruleAinf (h : Slide E q X c pinf LB) (hq : 0 < q) : False := by
  have hs : 0 ≤ |c - E| / q + 1 := add_nonneg (div_nonneg (abs_nonneg _) hq.le) zero_le_one
  have := h.sl (X + (|c - E| / q + 1)) (le_pinf _) (le_trans' (fin_le_fin.2 (by linarith)) h.hX')
  have e : q * (X + (|c - E| / q + 1) - X) = |c - E| + q := by
    rw [add_sub_cancel_left, mul_add, mul_div_cancel₀ _ hq.ne', mul_one]
  rw [e] at this
  linarith [le_abs_self (c - E)]

/-- `q ≥ 1`: `v - u ≤ ub_v - ub_u` -/
theorem ruleA (h : Slide E q X c (fin U) LB) (hq : 1 ≤ q) : E - X ≤ c - U := by
  have hXU : X ≤ U := fin_le_fin.1 h.hX
  have := h.sl U (le_rfl' _) (le_trans' (fin_le_fin.2 (by linarith)) h.hX')
  nlinarith [mul_nonneg (sub_nonneg.2 hq) (sub_nonneg.2 hXU)]

/-- `0 < q < 1`: `v - u ≤ ub_v + ((-lb_u) - q * (ub_u - lb_u))` -/
theorem ruleB (h : Slide E q X c (fin U) (fin L)) (hq1 : q < 1) :
    E - X ≤ c + (L - q * (U + L)) := by
  have hXU : X ≤ U := fin_le_fin.1 h.hX
  have hXL : -X ≤ L := fin_le_fin.1 h.hX'
  have := h.sl U (le_rfl' _) (fin_le_fin.2 (by linarith))
  nlinarith [mul_nonneg (le_of_lt (sub_pos.2 hq1)) (show 0 ≤ L + X by linarith)]

/-- the value the helpers store for `q ≥ 1` bounds `v - u` -/
theorem le_subUp (hup : ∀ x, fin x ≤ up x) (h : Slide E q X c UB LB) (hq : 1 ≤ q) :
    fin (E - X) ≤ subUp up (fin c) UB := by
  cases UB with
  | pinf => exact (h.ruleAinf (by linarith)).elim
  | fin U => exact le_trans' (fin_le_fin.2 (h.ruleA hq)) (hup _)

/-- the value the helpers store for `0 < q < 1` (the code computes `r` in some arrangement `hr` of its own) -/
theorem le_addUp (hup : ∀ x, fin x ≤ up x) (h : Slide E q X c UB (fin L)) (hq0 : 0 < q) (hq1 : q < 1)
    {r : Rat} (hr : r = L - q * (UB.toRat + L)) : fin (E - X) ≤ addUp up (fin c) (up r) := by
  cases UB with
  | pinf => exact (h.ruleAinf hq0).elim
  | fin U =>
    rw [hr]
    exact le_trans' (fin_le_fin.2 (h.ruleB hq1)) (fin_le_addUp hup (le_rfl' _) (hup _))

end Slide

/-! ## moving one coordinate of the old point -/

/-- `x` with coordinate `u` replaced by `t` -/
def upd (x : Nat → Rat) (u : Nat) (t : Rat) : Nat → Rat := fun i => if i = u then t else x i

theorem linEval_upd (e : Nat → Int) (x : Nat → Rat) (u : Nat) (t : Rat) (k : Nat) :
    linEval e (upd x u t) k = linEval e x k + (if u < k then (e u : Rat) * (t - x u) else 0) := by
  induction k with
  | zero => simp [linEval]
  | succ k ih =>
    simp only [linEval, ih, upd]
    split_ifs <;> first | (exfalso; omega) | ring1 | (subst_vars; ring1)

theorem linEval_neg (e : Nat → Int) (x : Nat → Rat) (k : Nat) :
    linEval (fun i => - e i) x k = - linEval e x k := by
  induction k with
  | zero => simp [linEval]
  | succ k ih => simp only [linEval, ih]; push_cast; ring

/-- the caller's bound `c` of `(e·y + b)/d` over the box gives a `Slide` for every other variable -/
theorem slide_of_box {e : Nat → Int} {b c : Rat} {d : Int} (hd : 0 < d) {last vid : Nat}
    {x : Nat → Rat} {UBf LBf : Nat → ExtRat}
    (hbox : ∀ w, w < last → w ≠ vid → fin (x w) ≤ UBf w ∧ fin (-(x w)) ≤ LBf w)
    (hS : ∀ y : Nat → Rat, y vid = x vid →
      (∀ w, w < last → w ≠ vid → fin (y w) ≤ UBf w ∧ fin (-(y w)) ≤ LBf w) →
      (linEval e y last + b) / d ≤ c)
    {u : Nat} (hu : u < last) (huv : u ≠ vid) :
    Slide ((linEval e x last + b) / d) ((e u : Rat) / d) (x u) c (UBf u) (LBf u) := by
  refine ⟨(hbox u hu huv).1, (hbox u hu huv).2, fun t h1 h2 => ?_⟩
  have hy := hS (upd x u t) (by simp [upd, Ne.symm huv]) (by
    intro w hw hwv
    by_cases hwu : w = u
    · subst hwu; simp only [upd, if_pos]; exact ⟨h1, h2⟩
    · simp only [upd, if_neg hwu]; exact hbox w hw hwv)
  rw [linEval_upd, if_pos hu] at hy
  have hd' : (d : Rat) ≠ 0 := by exact_mod_cast (ne_of_gt hd)
  have e1 : (linEval e x last + (e u : Rat) * (t - x u) + b) / d
      = (linEval e x last + b) / d + (e u : Rat) / d * (t - x u) := by
    field_simp; ring
  rw [e1] at hy
  exact hy

/-- the same for a bound `c` of `-(e·y + b)/d`: the slide of the negated expression -/
theorem slide_of_box_neg {e : Nat → Int} {b c : Rat} {d : Int} (hd : 0 < d) {last vid : Nat}
    {x : Nat → Rat} {UBf LBf : Nat → ExtRat}
    (hbox : ∀ w, w < last → w ≠ vid → fin (x w) ≤ UBf w ∧ fin (-(x w)) ≤ LBf w)
    (hS : ∀ y : Nat → Rat, y vid = x vid →
      (∀ w, w < last → w ≠ vid → fin (y w) ≤ UBf w ∧ fin (-(y w)) ≤ LBf w) →
      -((linEval e y last + b) / d) ≤ c)
    {u : Nat} (hu : u < last) (huv : u ≠ vid) :
    Slide (-((linEval e x last + b) / d)) (((- e u : Int) : Rat) / d) (x u) c (UBf u) (LBf u) := by
  have hE : ∀ y, (linEval (fun i => - e i) y last + -b) / (d : Rat) = -((linEval e y last + b) / d) := by
    intro y; rw [linEval_neg]; ring
  have := slide_of_box (e := fun i => - e i) (b := -b) hd hbox
    (fun y h1 h2 => by rw [hE]; exact hS y h1 h2) hu huv
  rwa [hE] at this

/-- `Slide.neg` for a coefficient `a/d` of integers -/
theorem Slide.negInt {E X c : Rat} {UB LB : ExtRat} {a d : Int} (h : Slide E ((a : Rat) / d) X c UB LB) :
    Slide E (((-a : Int) : Rat) / d) (-X) c LB UB := by
  have e : ((-a : Int) : Rat) / d = -((a : Rat) / d) := by push_cast; ring
  rw [e]
  exact h.neg

theorem q_ge_one {a d : Int} (hd : 0 < d) (h : a ≥ d) : (1 : Rat) ≤ (a : Rat) / d := by
  have hd' : (0 : Rat) < d := by exact_mod_cast hd
  rw [le_div_iff₀ hd']
  have : (d : Rat) ≤ a := by exact_mod_cast h
  linarith

theorem q_lt_one {a d : Int} (hd : 0 < d) (h : ¬ a ≥ d) : (a : Rat) / d < 1 := by
  have hd' : (0 : Rat) < d := by exact_mod_cast hd
  rw [div_lt_iff₀ hd']
  have : (a : Rat) < d := by exact_mod_cast (not_le.1 h)
  linarith

theorem q_pos {a d : Int} (hd : 0 < d) (h : 0 < a) : (0 : Rat) < (a : Rat) / d :=
  div_pos (by exact_mod_cast h) (by exact_mod_cast hd)

/-! ## `BD_Shape::deduce_v_minus_u_bounds`, `deduce_u_minus_v_bounds` -/

/-- loop invariant: the new point satisfies the matrix and the unary entries are those of `m` -/
def BInv (n : Nat) (x' : Nat → Rat) (m m' : Mat) : Prop :=
  Holds (SB (n+1)) (DBM.val x') m' ∧ ∀ a, m' 0 a = m 0 a ∧ m' a 0 = m a 0

theorem BInv.set {n : Nat} {x' : Nat → Rat} {m m' : Mat} (h : BInv n x' m m') {a b : Nat} {v : ExtRat}
    (ha : a ≠ 0) (hb : b ≠ 0) (hv : fin (DBM.val x' b - DBM.val x' a) ≤ v) :
    BInv n x' m (m'.set a b v) := by
  constructor
  · intro i j hij
    simp only [Mat.set_apply]
    split
    · rename_i hc; obtain ⟨rfl, rfl⟩ := hc; exact hv
    · exact h.1 i j hij
  · intro i
    simp only [Mat.set_apply]
    rw [if_neg (by omega), if_neg (by omega)]
    exact h.2 i

theorem bds_box {n : Nat} {x' : Nat → Rat} {m : Mat} (h : Holds (SB (n+1)) (DBM.val x') m) {w : Nat}
    (hw : w + 1 ≤ n) : fin (x' w) ≤ m 0 (w+1) ∧ fin (-(x' w)) ≤ m (w+1) 0 := by
  have h1 := h 0 (w+1) ⟨by omega, by omega⟩
  have h2 := h (w+1) 0 ⟨by omega, by omega⟩
  simp only [DBM.val, sub_zero, zero_sub] at h1 h2
  exact ⟨h1, h2⟩

/-- points of a raw `(n+1) × (n+1)` difference-bound matrix (the helpers run on matrices in the middle
of a transformer, e.g. after `forget_all_dbm_constraints(v)`) -/
def γB (n : Nat) (m : Mat) : Set (ℕ → ℚ) := {x | Holds (SB (n+1)) (DBM.val x) m}

theorem DBM.γ_eq {n : Nat} (m : DBM n) : m.γ = γB n m.e := by
  ext x; exact DBM.sat_iff_holds m x

variable {up : Rat → ExtRat}

/-- `deduce_v_minus_u_bounds`: the new point `x'` (`x'_v ≤ e(x)/d`, other coordinates those of `x`)
satisfies every bound written by the helper. -/
theorem deduceVMinusU_holds (hup : ∀ x, fin x ≤ up x) {n : Nat} {m : Mat} {vid last : Nat}
    {e : Nat → Int} {d : Int} (hd : 0 < d) {b c : Rat} (hlast : last ≤ n)
    {x x' : Nat → Rat}
    (hx' : Holds (SB (n+1)) (DBM.val x') m)
    (hframe : ∀ u, u ≠ vid → x' u = x u)
    (hval : x' vid ≤ (linEval e x last + b) / d)
    (hS : ∀ y : Nat → Rat, y vid = x vid →
      (∀ w, w < last → w ≠ vid → fin (y w) ≤ m 0 (w+1) ∧ fin (-(y w)) ≤ m (w+1) 0) →
      (linEval e y last + b) / d ≤ c) :
    Holds (SB (n+1)) (DBM.val x') (deduceVMinusU up (vid+1) last e d (fin c) m) := by
  have hbox : ∀ w, w < last → w ≠ vid → fin (x w) ≤ m 0 (w+1) ∧ fin (-(x w)) ≤ m (w+1) 0 := by
    intro w hw hwv
    rw [← hframe w hwv]
    exact bds_box hx' (by omega)
  suffices h : BInv n x' m (deduceVMinusU up (vid+1) last e d (fin c) m) from h.1
  refine loopUp_rel (fun a b => BInv n x' m a → BInv n x' m b) (fun _ h => h)
    (fun _ _ _ h1 h2 h => h2 (h1 h)) last _ ?_ m ⟨hx', fun _ => ⟨rfl, rfl⟩⟩
  intro u hu m' hI
  unfold deduceVMinusUStep
  dsimp only
  refine ite_ind _ (fun _ => hI) fun h0 => ite_ind _ (fun _ => hI) fun huv => ite_ind _ (fun _ => hI) fun hneg => ?_
  have huv' : u ≠ vid := by omega
  have hq0 := q_pos hd (show 0 < e u by omega)
  have sl := slide_of_box hd hbox hS hu huv'
  have hgoal : DBM.val x' (vid+1) - DBM.val x' (u+1) ≤ (linEval e x last + b) / d - x u := by
    show x' vid - x' u ≤ _
    rw [hframe u huv']; linarith
  rw [(hI.2 (u+1)).1, (hI.2 (u+1)).2]
  refine ite_ind _ (fun hge => hI.set (by omega) (by omega) ?_) fun hlt => ?_
  · exact fin_le_of_le hgoal (sl.le_subUp hup (q_ge_one hd hge))
  · cases hL : m (u+1) 0 with
    | pinf => exact hI
    | fin L =>
      rw [hL] at sl
      exact hI.set (by omega) (by omega) (fin_le_of_le hgoal (sl.le_addUp hup hq0 (q_lt_one hd hlt) rfl))

/-- `deduce_u_minus_v_bounds`: the same for `x'_v ≥ e(x)/d` and a bound `c` of `-e/d` over the box. -/
theorem deduceUMinusV_holds (hup : ∀ x, fin x ≤ up x) {n : Nat} {m : Mat} {vid last : Nat}
    {e : Nat → Int} {d : Int} (hd : 0 < d) {b c : Rat} (hlast : last ≤ n)
    {x x' : Nat → Rat}
    (hx' : Holds (SB (n+1)) (DBM.val x') m)
    (hframe : ∀ u, u ≠ vid → x' u = x u)
    (hval : (linEval e x last + b) / d ≤ x' vid)
    (hS : ∀ y : Nat → Rat, y vid = x vid →
      (∀ w, w < last → w ≠ vid → fin (y w) ≤ m 0 (w+1) ∧ fin (-(y w)) ≤ m (w+1) 0) →
      -((linEval e y last + b) / d) ≤ c) :
    Holds (SB (n+1)) (DBM.val x') (deduceUMinusV up (vid+1) last e d (fin c) m) := by
  have hbox : ∀ w, w < last → w ≠ vid → fin (x w) ≤ m 0 (w+1) ∧ fin (-(x w)) ≤ m (w+1) 0 := by
    intro w hw hwv
    rw [← hframe w hwv]
    exact bds_box hx' (by omega)
  suffices h : BInv n x' m (deduceUMinusV up (vid+1) last e d (fin c) m) from h.1
  refine loopUp_rel (fun a b => BInv n x' m a → BInv n x' m b) (fun _ h => h)
    (fun _ _ _ h1 h2 h => h2 (h1 h)) last _ ?_ m ⟨hx', fun _ => ⟨rfl, rfl⟩⟩
  intro u hu m' hI
  unfold deduceUMinusVStep
  dsimp only
  refine ite_ind _ (fun _ => hI) fun h0 => ite_ind _ (fun _ => hI) fun huv => ite_ind _ (fun _ => hI) fun hneg => ?_
  have huv' : u ≠ vid := by omega
  have hq0 := q_pos hd (show 0 < e u by omega)
  have sl := (slide_of_box_neg hd hbox hS hu huv').negInt
  rw [neg_neg] at sl
  have hgoal : DBM.val x' (u+1) - DBM.val x' (vid+1) ≤ -((linEval e x last + b) / d) - -(x u) := by
    show x' u - x' vid ≤ _
    rw [hframe u huv']; linarith
  rw [(hI.2 (u+1)).1, (hI.2 (u+1)).2]
  refine ite_ind _ (fun hge => hI.set (by omega) (by omega) ?_) fun hlt => ?_
  · exact fin_le_of_le hgoal (sl.le_subUp hup (q_ge_one hd hge))
  · cases hU : m 0 (u+1) with
    | pinf => exact hI
    | fin U =>
      rw [hU] at sl
      refine hI.set (by omega) (by omega) ?_
      rw [addUp_comm]
      exact fin_le_of_le hgoal (sl.le_addUp hup hq0 (q_lt_one hd hlt) rfl)

end PPLV.WR

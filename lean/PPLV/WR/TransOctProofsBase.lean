import PPLV.WR.TransOct
import PPLV.WR.TransProofsGeneral
import PPLV.WR.ClosureProofsDeduceOct
/-!
# `Octagonal_Shape<T>::affine_image`: basic lemmas (points, `forget_all_octagonal_constraints`, the
incremental closure on a raw matrix)
-/
namespace PPLV.WR
open ExtRat

theorem oval_upd (x : Nat → Rat) (vid : Nat) (t : Rat) (i : Nat) :
    OctM.oval (upd x vid t) i
      = if i = 2 * vid then t else if i = 2 * vid + 1 then - t else OctM.oval x i := by
  unfold OctM.oval upd
  by_cases h0 : i = 2 * vid
  · subst h0; simp
  · by_cases h1 : i = 2 * vid + 1
    · subst h1
      have : (2 * vid + 1) % 2 = 1 := by omega
      have h2 : (2 * vid + 1) / 2 = vid := by omega
      simp [this, h2]
    · rw [if_neg h0, if_neg h1]
      have : i / 2 ≠ vid := by omega
      simp [this]

theorem oval_upd_ne (x : Nat → Rat) {vid i : Nat} (t : Rat) (h0 : i ≠ 2 * vid) (h1 : i ≠ 2 * vid + 1) :
    OctM.oval (upd x vid t) i = OctM.oval x i := by rw [oval_upd, if_neg h0, if_neg h1]

theorem oval_upd_v (x : Nat → Rat) (vid : Nat) (t : Rat) : OctM.oval (upd x vid t) (2 * vid) = t := by
  rw [oval_upd, if_pos rfl]
theorem oval_upd_cv (x : Nat → Rat) (vid : Nat) (t : Rat) : OctM.oval (upd x vid t) (2 * vid + 1) = - t := by
  rw [oval_upd, if_neg (by omega), if_pos rfl]
theorem oval_upd_u (x : Nat → Rat) {vid p : Nat} (t : Rat) (h : p ≠ vid) :
    OctM.oval (upd x vid t) (2 * p) = x p := by
  rw [oval_upd_ne x t (by omega) (by omega), oval_even]
theorem oval_upd_cu (x : Nat → Rat) {vid p : Nat} (t : Rat) (h : p ≠ vid) :
    OctM.oval (upd x vid t) (2 * p + 1) = - x p := by
  rw [oval_upd_ne x t (by omega) (by omega), oval_odd]

theorem forgetLoop1_apply (r k : Nat) (m : Mat) (a c : Nat) :
    loopDown k (fun h m => (m.set r h pinf).set (r + 1) h pinf) m a c
      = if (a = r ∨ a = r + 1) ∧ c < k then pinf else m a c := by
  induction k generalizing m with
  | zero => simp [loopDown]
  | succ k ih =>
    simp only [loopDown]
    rw [ih]
    simp only [Mat.set_apply]
    by_cases h1 : (a = r ∨ a = r + 1) ∧ c < k
    · rw [if_pos h1, if_pos (by omega)]
    · rw [if_neg h1]
      by_cases h2 : a = r + 1 ∧ c = k
      · rw [if_pos h2, if_pos (by omega)]
      · rw [if_neg h2]
        by_cases h3 : a = r ∧ c = k
        · rw [if_pos h3, if_pos (by omega)]
        · rw [if_neg h3, if_neg (by omega)]

theorem forgetLoop2_apply (s q k : Nat) (m : Mat) (a c : Nat) :
    loopUp k (fun j m => (m.set (s + j) q pinf).set (s + j) (q + 1) pinf) m a c
      = if (s ≤ a ∧ a < s + k) ∧ (c = q ∨ c = q + 1) then pinf else m a c := by
  induction k with
  | zero => simp [loopUp]
  | succ k ih =>
    simp only [loopUp, Mat.set_apply]
    rw [ih]
    by_cases h2 : a = s + k ∧ c = q + 1
    · rw [if_pos h2, if_pos (by omega)]
    · rw [if_neg h2]
      by_cases h3 : a = s + k ∧ c = q
      · rw [if_pos h3, if_pos (by omega)]
      · rw [if_neg h3]
        by_cases h1 : (s ≤ a ∧ a < s + k) ∧ (c = q ∨ c = q + 1)
        · rw [if_pos h1, if_pos (by omega)]
        · rw [if_neg h1, if_neg (by omega)]

theorem octForgetAll_apply (n vid : Nat) (m : Mat) (a c : Nat) :
    octForgetAll n vid m a c
      = if ((a = 2 * vid ∨ a = 2 * vid + 1) ∧ c < 2 * vid + 2) ∨
           ((2 * vid + 2 ≤ a ∧ a < 2 * n) ∧ (c = 2 * vid ∨ c = 2 * vid + 1)) then pinf else m a c := by
  unfold octForgetAll
  dsimp only
  rw [forgetLoop2_apply, forgetLoop1_apply]
  by_cases h2 : (2 * vid + 2 ≤ a ∧ a < 2 * vid + 2 + (2 * n - (2 * vid + 2))) ∧ (c = 2 * vid ∨ c = 2 * vid + 1)
  · rw [if_pos h2, if_pos (by omega)]
  · rw [if_neg h2]
    by_cases h1 : (a = 2 * vid ∨ a = 2 * vid + 1) ∧ c < 2 * vid + 2
    · rw [if_pos h1, if_pos (Or.inl h1)]
    · rw [if_neg h1, if_neg (by omega)]

/-- after `forget_all_octagonal_constraints(vid)` the point with a new value for `Variable(vid)` satisfies
the matrix -/
theorem holds_octForgetAll {n vid : Nat} (hv : vid < n) {x : Nat → Rat} {m : Mat}
    (h : Holds (SO n) (OctM.oval x) m) (t : Rat) :
    Holds (SO n) (OctM.oval (upd x vid t)) (octForgetAll n vid m) := by
  intro a c hac
  rw [octForgetAll_apply]
  split
  · exact le_pinf _
  · rename_i hc
    obtain ⟨ha, hcc⟩ := hac
    unfold rowSize at hcc
    rw [oval_upd_ne x t (by omega) (by omega), oval_upd_ne x t (by omega) (by omega)]
    exact h a c ⟨ha, by unfold rowSize; exact hcc⟩

/-- a raw matrix as an `OctM`: same points -/
theorem sat_octOfMat {n : Nat} {m : Mat} {x : Nat → Rat} (hx : Holds (SO n) (OctM.oval x) m) :
    (OctM.ofMat n m).Sat x :=
  (OctM.sat_iff_holds _ x).2 (holds_diagUp_pinf hx)

/-- `incremental_strong_closure_assign(var)` keeps every point -/
theorem octIncClose_sound {R : Rnd} (hR : R.Sound) {n vid : Nat} (hv : vid < n) {m : Mat} {x : Nat → Rat}
    (hx : Holds (SO n) (OctM.oval x) m) :
    ∃ m', octIncClose R n vid m = some m' ∧ Holds (SO n) (OctM.oval x) m' := by
  unfold octIncClose
  dsimp only
  have hs := sat_octOfMat hx
  split
  · rename_i he
    exact absurd hs (OctM.incStrongClosureEmpty_sound hR.up_le hv _ he x)
  · exact ⟨_, rfl, (OctM.sat_iff_holds _ x).1 (OctM.incStrongClosure_sat hR.up_le hv _ x hs)⟩

theorem octCloseFirst_sound {n : Nat} {up : Rat → ExtRat} (hup : ∀ q, fin q ≤ up q) (closed : Bool) (m : OctM n)
    {x : Nat → Rat} (hx : x ∈ OctM.γ m) :
    ∃ m', octCloseFirst up closed m = some m' ∧ x ∈ γO n m' := by
  unfold octCloseFirst
  split
  · exact ⟨_, rfl, (OctM.sat_iff_holds m x).1 hx⟩
  · split
    · rename_i he
      exact absurd hx (OctM.strongClosureEmpty_sound hup m he x)
    · exact ⟨_, rfl, (OctM.sat_iff_holds _ x).1 (OctM.strongClosure_sat hup m x hx)⟩

/-- unary cells: `2·x_k ≤ m[2k+1][2k]`, `-2·x_k ≤ m[2k][2k+1]` -/
theorem oct_unary {n : Nat} {x : Nat → Rat} {m : Mat} (h : Holds (SO n) (OctM.oval x) m) {k : Nat} (hk : k < n) :
    fin (2 * x k) ≤ m (2 * k + 1) (2 * k) ∧ fin (-(2 * x k)) ≤ m (2 * k) (2 * k + 1) := by
  have h1 := h (2 * k + 1) (2 * k) ⟨by omega, by unfold rowSize; omega⟩
  have h2 := h (2 * k) (2 * k + 1) ⟨by omega, by unfold rowSize; omega⟩
  rw [oval_even, oval_odd] at h1 h2
  constructor
  · have e : x k - -x k = 2 * x k := by ring
    rw [e] at h1; exact h1
  · have e : -x k - x k = -(2 * x k) := by ring
    rw [e] at h2; exact h2

theorem fin_le_mulTwoUp {up : Rat → ExtRat} (hup : ∀ q, fin q ≤ up q) {a : Rat} {s : ExtRat} (h : fin a ≤ s) :
    fin (2 * a) ≤ mulTwoUp up s := by
  cases s with
  | pinf => exact le_pinf _
  | fin q => exact le_trans' (fin_le_fin.2 (by have := fin_le_fin.1 h; linarith)) (hup _)

end PPLV.WR

import PPLV.WR.TransProofsBase
/-!
# General case of the `BD_Shape<T>` transformers: the accumulation loops (`pos_sum / neg_sum`,
`pinf_count`, `pinf_index`), and the `deduce_*` helpers when the sum has overflowed to `+∞`

`AccInv m w g B k st`: after the iterations for the ids `< k` of a loop that approximates
`B + Σ g_i·y_i` from above over the box of the unary bounds of `m`:

* `pinf_count = 0`: `sum` dominates the whole expression on the box, and every variable met had a
  finite bound on the needed side;
* `pinf_count = 1`: `sum` dominates the expression without the term of `pinf_index`.
-/
namespace PPLV.WR
open ExtRat

/-- the box of the unary bounds of `m` over the ids `< k` -/
def Box (m : Mat) (k : Nat) (y : Nat → Rat) : Prop :=
  ∀ i, i < k → fin (y i) ≤ m 0 (i+1) ∧ fin (-(y i)) ≤ m (i+1) 0

structure AccInv (m : Mat) (w : Nat) (g : Nat → Int) (B : Rat) (k : Nat) (st : Acc) : Prop where
  c0 : st.cnt = 0 → ∀ y, Box m w y → fin (B + linEval g y k) ≤ st.sum
  f0p : st.cnt = 0 → ∀ i, i < k → g i > 0 → m 0 (i+1) ≠ pinf
  f0n : st.cnt = 0 → ∀ i, i < k → g i < 0 → m (i+1) 0 ≠ pinf
  c1 : st.cnt = 1 → 1 ≤ st.idx ∧ st.idx ≤ k ∧
    ∀ y, Box m w y → fin (B + linEval (zeroAt g (st.idx - 1)) y k) ≤ st.sum
  n1 : st.cnt = 1 → g (st.idx - 1) ≠ 0

variable {R : Rnd} {m : Mat} {w : Nat} {g : Nat → Int} {B : Rat} {k : Nat} {st : Acc}

theorem AccInv.init (hR : R.Sound) (m : Mat) (w : Nat) (g : Nat → Int) (B : Rat) :
    AccInv m w g B 0 ⟨R.up B, 0, 0⟩ := by
  refine ⟨fun _ y _ => ?_, fun _ i hi => by omega, fun _ i hi => by omega, fun h => by simp at h,
    fun h => by simp at h⟩
  simp only [linEval, add_zero]
  exact hR.up_le B

theorem AccInv.init_eq (hR : R.Sound) (m : Mat) (w : Nat) (g : Nat → Int) {B B' : Rat} (h : B' = B) :
    AccInv m w g B' 0 ⟨R.up B, 0, 0⟩ := h ▸ AccInv.init hR m w g B

theorem AccInv.skip (h : AccInv m w g B k st) (hg : g k = 0) : AccInv m w g B (k+1) st := by
  refine ⟨fun hc y hy => ?_, fun hc i hi hp => ?_, fun hc i hi hp => ?_, fun hc => ?_, h.n1⟩
  · simp only [linEval, hg]; simpa using h.c0 hc y hy
  · have : i ≠ k := by intro e; subst e; omega
    exact h.f0p hc i (by omega) hp
  · have : i ≠ k := by intro e; subst e; omega
    exact h.f0n hc i (by omega) hp
  · obtain ⟨h1, h2, h3⟩ := h.c1 hc
    refine ⟨h1, by omega, fun y hy => ?_⟩
    have : zeroAt g (st.idx - 1) k = 0 := by
      unfold zeroAt; split
      · rfl
      · exact hg
    simp only [linEval, this]; simpa using h3 y hy

theorem AccInv.dead (hc : st.cnt > 1) : AccInv m w g B k st :=
  ⟨fun h => by omega, fun h => by omega, fun h => by omega, fun h => by omega, fun h => by omega⟩

/-- the bound of the variable on the side needed for the sign of its coefficient -/
def approxOf (m : Mat) (g : Nat → Int) (i : Nat) : ExtRat := if g i > 0 then m 0 (i+1) else m (i+1) 0

/-- the test `sign == pos` of the loops, for `pos = true` -/
theorem approxOf_eq (m : Mat) (g : Nat → Int) (k : Nat) :
    (if decide (g k > 0) = true then m 0 (k+1) else m (k+1) 0) = approxOf m g k := by
  unfold approxOf; by_cases hp : g k > 0 <;> simp [hp]

/-- a term `g·y` against `|g|` times the bound of `y` on the side of the sign of `g` -/
theorem coeff_mul_le {g : Int} (hg : g ≠ 0) {y A : Rat} (hp : g > 0 → y ≤ A) (hn : g < 0 → - y ≤ A) :
    (g : Rat) * y ≤ ((absI g : Int) : Rat) * A := by
  rcases lt_or_gt_of_ne hg with h | h
  · rw [absI_neg' h]
    have h2 : (g : Rat) < 0 := by exact_mod_cast h
    push_cast
    nlinarith [hn h]
  · rw [absI_pos h]
    have h2 : (0 : Rat) < g := by exact_mod_cast h
    nlinarith [hp h]

theorem term_le {y : Nat → Rat} (hy : Box m w y) (hk : k < w) (hg : g k ≠ 0) {A : Rat}
    (hA : approxOf m g k = fin A) : (g k : Rat) * y k ≤ ((absI (g k) : Int) : Rat) * A := by
  unfold approxOf at hA
  have hb := hy k hk
  refine coeff_mul_le hg (fun hp => ?_) fun hn => ?_
  · rw [if_pos hp] at hA; rw [hA] at hb; exact fin_le_fin.1 hb.1
  · rw [if_neg (by omega)] at hA; rw [hA] at hb; exact fin_le_fin.1 hb.2

theorem AccInv.addMul (hR : R.Sound) (h : AccInv m w g B k st) (hk : k < w) (hg : g k ≠ 0)
    (hcoef : R.up ((absI (g k) : Int) : Rat) = fin ((absI (g k) : Int) : Rat)) {A : Rat}
    (hA : approxOf m g k = fin A) :
    AccInv m w g B (k+1)
      { st with sum := addMulUp R st.sum (R.up ((absI (g k) : Int) : Rat)) (fin A) } := by
  rw [hcoef]
  refine ⟨fun hc y hy => ?_, fun hc i hi hp => ?_, fun hc i hi hp => ?_, fun hc => ?_, fun hc => h.n1 hc⟩
  · simp only [linEval]
    rw [← add_assoc]
    exact fin_le_addMulUp hR (h.c0 hc y hy) (term_le hy hk hg hA)
  · by_cases hik : i = k
    · subst hik
      unfold approxOf at hA; rw [if_pos hp] at hA; rw [hA]; simp
    · exact h.f0p hc i (by omega) hp
  · by_cases hik : i = k
    · subst hik
      unfold approxOf at hA; rw [if_neg (by omega)] at hA; rw [hA]; simp
    · exact h.f0n hc i (by omega) hp
  · obtain ⟨h1, h2, h3⟩ := h.c1 hc
    dsimp only
    refine ⟨h1, by omega, fun y hy => ?_⟩
    have hz : zeroAt g (st.idx - 1) k = g k := by
      unfold zeroAt; rw [if_neg (by omega)]
    simp only [linEval, hz]
    rw [← add_assoc]
    exact fin_le_addMulUp hR (h3 y hy) (term_le hy hk hg hA)

theorem AccInv.pinf (h : AccInv m w g B k st) (hg : g k ≠ 0) (idx' : Nat)
    (hidx : st.cnt = 0 → idx' = k + 1) :
    AccInv m w g B (k+1) { st with cnt := st.cnt + 1, idx := idx' } := by
  refine ⟨fun hc => by simp at hc, fun hc => by simp at hc, fun hc => by simp at hc, fun hc => ?_, fun hc => ?_⟩
  rotate_left
  · have hc0 : st.cnt = 0 := by simpa using hc
    dsimp only
    rw [hidx hc0]
    simpa using hg
  have hc0 : st.cnt = 0 := by simpa using hc
  have hi := hidx hc0
  dsimp only
  refine ⟨by omega, by omega, fun y hy => ?_⟩
  rw [hi]
  simp only [Nat.add_sub_cancel, linEval]
  have : zeroAt g k k = 0 := by simp [zeroAt]
  rw [this, linEval_congr y (e := zeroAt g k) (e' := g) (fun i hi => by simp [zeroAt]; intro e; omega)]
  simpa using h.c0 hc0 y hy

/-- one iteration of the `affine_image`-style loop, approximating `B + g·y` -/
theorem accStepA_inv (hR : R.Sound) (hcoef : CoeffExact R g) (h : AccInv m w g B k st) (hk : k < w) :
    AccInv m w g B (k+1) (accStepA R m g true k st) := by
  unfold accStepA
  dsimp only
  split
  · rename_i h0; exact h.skip h0
  · rename_i h0
    split
    · rw [approxOf_eq]
      cases hA : approxOf m g k with
      | pinf =>
        simp only [isPinf, Bool.not_true, Bool.false_eq_true, if_false]
        exact h.pinf h0 _ (fun _ => rfl)
      | fin A =>
        simp only [isPinf, Bool.not_false, if_true]
        exact h.addMul hR hk h0 (hcoef k h0) hA
    · rename_i hc; exact AccInv.dead (by omega)

/-- one iteration of the `generalized_affine_image`-style loop (`break` / `continue`) -/
theorem accStepG_inv (hR : R.Sound) (hcoef : CoeffExact R g) (h : AccInv m w g B k st) (hk : k < w) :
    AccInv m w g B (k+1) (accStepG R m g true k st) := by
  unfold accStepG
  dsimp only
  split
  · rename_i hc; exact AccInv.dead hc
  · rename_i hc
    split
    · rename_i h0; exact h.skip h0
    · rename_i h0
      rw [approxOf_eq]
      cases hA : approxOf m g k with
      | pinf =>
        simp only [isPinf, if_true]
        split
        · exact AccInv.dead (by simp; omega)
        · exact h.pinf h0 _ (fun _ => rfl)
      | fin A =>
        simp only [isPinf, Bool.false_eq_true, if_false]
        exact h.addMul hR hk h0 (hcoef k h0) hA

theorem accLoopA_inv (hR : R.Sound) (hcoef : CoeffExact R g) (st0 : Acc) (h0 : AccInv m w g B 0 st0) :
    ∀ k, k ≤ w → AccInv m w g B k (loopUp k (accStepA R m g true) st0) := by
  intro k
  induction k with
  | zero => intro _; exact h0
  | succ k ih => intro hk; simp only [loopUp]; exact accStepA_inv hR hcoef (ih (by omega)) (by omega)

theorem accLoopG_inv (hR : R.Sound) (hcoef : CoeffExact R g) (st0 : Acc) (h0 : AccInv m w g B 0 st0) :
    ∀ k, k ≤ w → AccInv m w g B k (loopUp k (accStepG R m g true) st0) := by
  intro k
  induction k with
  | zero => intro _; exact h0
  | succ k ih => intro hk; simp only [loopUp]; exact accStepG_inv hR hcoef (ih (by omega)) (by omega)

/-- for `a ≠ 0`, `a` is not positive iff `-a` is: the test `sign == pos` for `pos = false` and for the
negated coefficient -/
theorem decide_pos_false_eq {a : Int} (h : a ≠ 0) : (decide (a > 0) = false) = (decide (- a > 0) = true) := by
  simp only [decide_eq_false_iff_not, decide_eq_true_eq, eq_iff_iff]; omega

/-- approximating `-sc_expr` is approximating the negated expression -/
theorem accStepA_false (R : Rnd) (m : Mat) (sc : Nat → Int) :
    accStepA R m sc false = accStepA R m (fun j => - sc j) true := by
  funext i st
  unfold accStepA
  dsimp only
  by_cases h : sc i = 0
  · simp [h]
  · simp only [h, Int.neg_eq_zero, absI_neg, decide_pos_false_eq h, if_false]

theorem accStepG_false (R : Rnd) (m : Mat) (sc : Nat → Int) :
    accStepG R m sc false = accStepG R m (fun j => - sc j) true := by
  funext i st
  unfold accStepG
  dsimp only
  by_cases h : sc i = 0
  · simp [h]
  · simp only [h, Int.neg_eq_zero, absI_neg, decide_pos_false_eq h, if_false]

theorem loopUp_prod {α β : Type} (f : Nat → α → α) (h : Nat → β → β) (a : α) (b : β) (k : Nat) :
    loopUp k (fun i (pq : α × β) => (f i pq.1, h i pq.2)) (a, b) = (loopUp k f a, loopUp k h b) := by
  induction k with
  | zero => rfl
  | succ k ih => simp only [loopUp, ih]

/-! ## the deduction helpers called with `ub_v = +∞` (an overflowed sum) -/

theorem addUp_pinf_left (up : Rat → ExtRat) (z : ExtRat) : addUp up pinf z = pinf := by cases z <;> rfl
theorem addUp_pinf_right (up : Rat → ExtRat) (z : ExtRat) : addUp up z pinf = pinf := by cases z <;> rfl

theorem deduceVMinusU_pinf_holds (up : Rat → ExtRat) {n : Nat} {m : Mat} {vid last : Nat} {e : Nat → Int} {d : Int}
    {x' : Nat → Rat} (hx' : Holds (SB (n+1)) (DBM.val x') m)
    (hfin : ∀ u, u < last → u ≠ vid → e u > 0 → m 0 (u+1) ≠ pinf) :
    Holds (SB (n+1)) (DBM.val x') (deduceVMinusU up (vid+1) last e d pinf m) := by
  suffices h : BInv n x' m (deduceVMinusU up (vid+1) last e d pinf m) from h.1
  unfold deduceVMinusU
  refine loopUp_rel (fun a b => BInv n x' m a → BInv n x' m b) (fun _ h => h)
    (fun _ _ _ h1 h2 h => h2 (h1 h)) last _ ?_ m ⟨hx', fun _ => ⟨rfl, rfl⟩⟩
  intro u hu m' hI
  unfold deduceVMinusUStep
  dsimp only
  split; exact hI
  split; exact hI
  split; exact hI
  rename_i h0 huv hneg
  have huv' : u ≠ vid := by omega
  have hepos : 0 < e u := by omega
  rw [(hI.2 (u+1)).1, (hI.2 (u+1)).2]
  split
  · apply hI.set (by omega) (by omega)
    cases hub : m 0 (u+1) with
    | pinf => exact absurd hub (hfin u hu huv' hepos)
    | fin U => exact le_pinf _
  · split
    · exact hI
    · apply hI.set (by omega) (by omega)
      rw [addUp_pinf_left]; exact le_pinf _

theorem deduceUMinusV_pinf_holds (up : Rat → ExtRat) {n : Nat} {m : Mat} {vid last : Nat} {e : Nat → Int} {d : Int}
    {x' : Nat → Rat} (hx' : Holds (SB (n+1)) (DBM.val x') m)
    (hfin : ∀ u, u < last → u ≠ vid → e u > 0 → m (u+1) 0 ≠ pinf) :
    Holds (SB (n+1)) (DBM.val x') (deduceUMinusV up (vid+1) last e d pinf m) := by
  suffices h : BInv n x' m (deduceUMinusV up (vid+1) last e d pinf m) from h.1
  unfold deduceUMinusV
  refine loopUp_rel (fun a b => BInv n x' m a → BInv n x' m b) (fun _ h => h)
    (fun _ _ _ h1 h2 h => h2 (h1 h)) last _ ?_ m ⟨hx', fun _ => ⟨rfl, rfl⟩⟩
  intro u hu m' hI
  unfold deduceUMinusVStep
  dsimp only
  split; exact hI
  split; exact hI
  split; exact hI
  rename_i h0 huv hneg
  have huv' : u ≠ vid := by omega
  have hepos : 0 < e u := by omega
  rw [(hI.2 (u+1)).1, (hI.2 (u+1)).2]
  split
  · apply hI.set (by omega) (by omega)
    cases hlb : m (u+1) 0 with
    | pinf => exact absurd hlb (hfin u hu huv' hepos)
    | fin L => exact le_pinf _
  · split
    · exact hI
    · apply hI.set (by omega) (by omega)
      rw [addUp_pinf_right]; exact le_pinf _

theorem eqOff_deduceVMinusUStep (up : Rat → ExtRat) (v : Nat) (e : Nat → Int) (d : Int) (ub : ExtRat)
    (u : Nat) (m : Mat) : EqOff (fun _ c => c = v) m (deduceVMinusUStep up v e d ub u m) := by
  unfold deduceVMinusUStep
  dsimp only
  refine .ite (.refl m) (.ite (.refl m) (.ite (.refl m) (.ite (.set _ rfl) ?_)))
  split
  · exact .refl m
  · exact .set _ rfl

theorem eqOff_deduceUMinusVStep (up : Rat → ExtRat) (v : Nat) (e : Nat → Int) (d : Int) (lb : ExtRat)
    (u : Nat) (m : Mat) : EqOff (fun a _ => a = v) m (deduceUMinusVStep up v e d lb u m) := by
  unfold deduceUMinusVStep
  dsimp only
  refine .ite (.refl m) (.ite (.refl m) (.ite (.refl m) (.ite (.set _ rfl) ?_)))
  split
  · exact .refl m
  · exact .set _ rfl

end PPLV.WR

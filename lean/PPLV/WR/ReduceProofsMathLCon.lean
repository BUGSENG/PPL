import PPLV.WR.ReduceProofsBase
import Mathlib.Tactic.Linarith
import Mathlib.Tactic.Ring
/-!
# Semantics of the constraint lists of `minimized_constraints()` / `constraints()`

`LCon.Sat` and the evaluation of `diffCoeffs n a p q` (`a*Variable(p-1) - a*Variable(q-1)`, dbm indices) at a
point: `a * (val x p - val x q)`.
-/
namespace PPLV.WR
open ExtRat (fin pinf)

/-- the point `x` satisfies the constraint `Σ coeffs_k·x_k (== | <=) rhs` -/
def LCon.Sat (c : LCon) (x : ℕ → ℚ) : Prop :=
  let s := ((List.range c.coeffs.length).map fun k => (c.coeffs.getD k 0 : ℚ) * x k).sum
  if c.isEq then s = c.rhs else s ≤ c.rhs

theorem sum_range_succ_map (g : Nat → ℚ) (n : Nat) :
    ((List.range (n+1)).map g).sum = ((List.range n).map g).sum + g n := by
  rw [List.range_succ, List.map_append, List.sum_append]
  simp

theorem sum_range_map_sub (g h : Nat → ℚ) (n : Nat) :
    ((List.range n).map fun k => g k - h k).sum = ((List.range n).map g).sum - ((List.range n).map h).sum := by
  induction n with
  | zero => simp
  | succ n ih => rw [sum_range_succ_map, sum_range_succ_map, sum_range_succ_map, ih]; ring

theorem sum_range_single (x : Nat → ℚ) (a : ℚ) (p n : Nat) :
    ((List.range n).map fun k => (if k + 1 = p then a else 0) * x k).sum
      = if p ≤ n then a * DBM.val x p else 0 := by
  induction n with
  | zero =>
    by_cases hp : p = 0
    · subst hp; simp [DBM.val]
    · rw [if_neg (by omega)]; simp
  | succ n ih =>
    rw [sum_range_succ_map, ih]
    by_cases h1 : p ≤ n
    · rw [if_pos h1, if_pos (show p ≤ n + 1 by omega), if_neg (show ¬ n + 1 = p by omega)]; ring
    · rw [if_neg h1]
      by_cases h2 : p = n + 1
      · subst h2
        rw [if_pos rfl, if_pos le_rfl]
        simp [DBM.val]
      · rw [if_neg (show ¬ n + 1 = p by omega), if_neg (show ¬ p ≤ n + 1 by omega)]; ring

/-- evaluation of `a*Variable(p-1) - a*Variable(q-1)` -/
theorem diffCoeffs_eval (n : Nat) (a : Int) (p q : Nat) (hp : p ≤ n) (hq : q ≤ n) (x : ℕ → ℚ) :
    ((List.range n).map fun k => ((diffCoeffs n a p q).getD k 0 : ℚ) * x k).sum
      = a * (DBM.val x p - DBM.val x q) := by
  have e : ((List.range n).map fun k => ((diffCoeffs n a p q).getD k 0 : ℚ) * x k)
      = ((List.range n).map fun k =>
          (if k + 1 = p then (a : ℚ) else 0) * x k - (if k + 1 = q then (a : ℚ) else 0) * x k) := by
    apply List.map_congr_left
    intro k hk
    have hk' : k < n := List.mem_range.1 hk
    have : (diffCoeffs n a p q).getD k 0
        = (if k + 1 = p then a else 0) - (if k + 1 = q then a else 0) := by
      simp [diffCoeffs, List.getD, hk']
    rw [this]
    push_cast
    ring
  rw [e, sum_range_map_sub, sum_range_single, sum_range_single, if_pos hp, if_pos hq]
  ring

theorem diffCoeffs_length (n : Nat) (a : Int) (p q : Nat) : (diffCoeffs n a p q).length = n := by
  simp [diffCoeffs]

theorem num_den_le_iff (r d : ℚ) : ((denomOf (fin r) : ℤ) : ℚ) * d ≤ ((numerOf (fin r) : ℤ) : ℚ) ↔ d ≤ r := by
  show ((r.den : ℤ) : ℚ) * d ≤ ((r.num : ℤ) : ℚ) ↔ d ≤ r
  have hpos : (0 : ℚ) < (r.den : ℚ) := by exact_mod_cast r.den_pos
  have hr : r = (r.num : ℚ) / (r.den : ℚ) := (Rat.num_div_den r).symm
  rw [Int.cast_natCast]
  constructor
  · intro h
    rw [hr, le_div_iff₀ hpos]; linarith
  · intro h
    rw [hr, le_div_iff₀ hpos] at h; linarith

theorem num_den_eq_iff (r d : ℚ) : ((denomOf (fin r) : ℤ) : ℚ) * d = ((numerOf (fin r) : ℤ) : ℚ) ↔ d = r := by
  constructor
  · intro h
    have h1 := (num_den_le_iff r d).1 (le_of_eq h)
    have hpos : (0 : ℚ) < ((denomOf (fin r) : ℤ) : ℚ) := by
      show (0 : ℚ) < ((r.den : ℤ) : ℚ)
      exact_mod_cast r.den_pos
    have h2 : ((denomOf (fin r) : ℤ) : ℚ) * r ≤ ((numerOf (fin r) : ℤ) : ℚ) := (num_den_le_iff r r).2 le_rfl
    have h3 : ((denomOf (fin r) : ℤ) : ℚ) * r ≤ ((denomOf (fin r) : ℤ) : ℚ) * d := by rw [h]; exact h2
    exact le_antisymm h1 (le_of_mul_le_mul_left h3 hpos)
  · rintro rfl
    show ((d.den : ℤ) : ℚ) * d = ((d.num : ℤ) : ℚ)
    rw [Int.cast_natCast, mul_comm]
    exact Rat.mul_den_eq_num d

/-- the inequality `denom·(x_p - x_q) <= numer` built from a finite entry `r` says `x_p - x_q ≤ r` -/
theorem LCon.sat_diff_le (n : Nat) (r : ℚ) (p q : Nat) (hp : p ≤ n) (hq : q ≤ n) (x : ℕ → ℚ) :
    (⟨false, diffCoeffs n (denomOf (fin r)) p q, numerOf (fin r)⟩ : LCon).Sat x
      ↔ fin (DBM.val x p - DBM.val x q) ≤ fin r := by
  unfold LCon.Sat
  simp only [diffCoeffs_length, Bool.false_eq_true, if_false]
  rw [diffCoeffs_eval n _ p q hp hq x, num_den_le_iff, ExtRat.fin_le_fin]

/-- the equality `denom·(x_p - x_q) == numer` built from a finite entry `r` says `x_p - x_q = r` -/
theorem LCon.sat_diff_eq (n : Nat) (r : ℚ) (p q : Nat) (hp : p ≤ n) (hq : q ≤ n) (x : ℕ → ℚ) :
    (⟨true, diffCoeffs n (denomOf (fin r)) p q, numerOf (fin r)⟩ : LCon).Sat x
      ↔ DBM.val x p - DBM.val x q = r := by
  unfold LCon.Sat
  simp only [diffCoeffs_length, if_true]
  rw [diffCoeffs_eval n _ p q hp hq x, num_den_eq_iff]

end PPLV.WR

import PPLV.WR.TransOct2LatProofsConcatMap
import PPLV.WR.Trans2LatProofsMapExact
/-!
# `Octagonal_Shape<T>::map_space_dimensions` with a total injective function and no shrinking: exact
(every bound type, no hypothesis on the matrix: the loop nest copies the diagonal cells as well)
-/
namespace PPLV.WR
open ExtRat

/-- the four writes of the innermost body (`Octagonal_Shape_templates.hh:3814-3830`) for the pair `i ↦ a`, `j ↦ b` -/
def octLatMapStep (mat : Mat) (i a j b : Nat) (x : Mat) : Mat :=
  if a ≥ b then
    let x := x.set (2 * a) (2 * b) (mat (2 * i) (2 * j))
    let x := x.set (2 * a + 1) (2 * b) (mat (2 * i + 1) (2 * j))
    let x := x.set (2 * a + 1) (2 * b + 1) (mat (2 * i + 1) (2 * j + 1))
    x.set (2 * a) (2 * b + 1) (mat (2 * i) (2 * j + 1))
  else
    let x := x.set (2 * b + 1) (2 * a + 1) (mat (2 * i) (2 * j))
    let x := x.set (2 * b + 1) (2 * a) (mat (2 * i + 1) (2 * j))
    let x := x.set (2 * b) (2 * a + 1) (mat (2 * i) (2 * j + 1))
    x.set (2 * b) (2 * a) (mat (2 * i + 1) (2 * j + 1))

/-- the body of the inner loop -/
def octLatMapInner (pf : List (Option Nat)) (mat : Mat) (i a j : Nat) (x : Mat) : Mat :=
  match latMaps pf j with
  | some b => octLatMapStep mat i a j b x
  | none => x

/-- the body of the outer loop -/
def octLatMapRow (pf : List (Option Nat)) (mat : Mat) (i : Nat) (x : Mat) : Mat :=
  match latMaps pf i with
  | some a => loopUp (i + 1) (octLatMapInner pf mat i a) x
  | none => x

theorem octLatMapLoops_eq (n : Nat) (pf : List (Option Nat)) (mat x : Mat) :
    octLatMapLoops n pf mat x = loopUp n (octLatMapRow pf mat) x := rfl

/-- where the cell `(2i+s, 2j+t)` goes -/
def octLatMapTgt (a b s t : Nat) : Nat × Nat :=
  if a ≥ b then (2 * a + s, 2 * b + t) else (2 * b + 1 - t, 2 * a + 1 - s)

/-- the step for the pair of images `(a, b)` writes the block `(max a b, min a b)` only -/
theorem octLatMapStep_miss (mat : Mat) (i a j b : Nat) (x : Mat) (A B : Nat)
    (h : ¬ (A / 2 = max a b ∧ B / 2 = min a b)) : octLatMapStep mat i a j b x A B = x A B := by
  unfold octLatMapStep
  split
  · rename_i hab
    rw [max_eq_left hab, min_eq_right hab] at h
    simp only [Mat.set_apply]
    rw [if_neg (by omega), if_neg (by omega), if_neg (by omega), if_neg (by omega)]
  · rename_i hab
    rw [max_eq_right (by omega), min_eq_left (by omega)] at h
    simp only [Mat.set_apply]
    rw [if_neg (by omega), if_neg (by omega), if_neg (by omega), if_neg (by omega)]

theorem octLatMapStep_hit (mat : Mat) (i a j b : Nat) (x : Mat) {s t : Nat} (hs : s < 2) (ht : t < 2) :
    octLatMapStep mat i a j b x (octLatMapTgt a b s t).1 (octLatMapTgt a b s t).2
      = mat (2 * i + s) (2 * j + t) := by
  unfold octLatMapStep octLatMapTgt
  have hs' : s = 0 ∨ s = 1 := by omega
  have ht' : t = 0 ∨ t = 1 := by omega
  by_cases hab : a ≥ b
  · simp only [if_pos hab, Mat.set_apply]
    rcases hs' with rfl | rfl <;> rcases ht' with rfl | rfl <;> simp
  · simp only [if_neg hab, Mat.set_apply]
    rcases hs' with rfl | rfl <;> rcases ht' with rfl | rfl <;> simp

theorem octLatMapTgt_block (a b : Nat) {s t : Nat} (hs : s < 2) (ht : t < 2) :
    (octLatMapTgt a b s t).1 / 2 = max a b ∧ (octLatMapTgt a b s t).2 / 2 = min a b := by
  unfold octLatMapTgt
  split <;> simp only <;> omega

theorem latMaxMin_pair {a b a' b' : Nat} (h1 : max a b = max a' b') (h2 : min a b = min a' b') :
    (a' = a ∧ b' = b) ∨ (a' = b ∧ b' = a) := by
  rcases Nat.le_total a b with h | h <;> rcases Nat.le_total a' b' with h' | h' <;>
    simp only [max_eq_right, max_eq_left, min_eq_left, min_eq_right, h, h'] at h1 h2 <;> omega

/-- the cells of the mapped matrix -/
theorem octLatMapLoops_cell (n : Nat) (pf : List (Option Nat)) (hinj : latInjective pf n) (mat x : Mat)
    {i j a b s t : Nat} (hi : i < n) (hji : j ≤ i) (hmi : latMaps pf i = some a) (hmj : latMaps pf j = some b)
    (hs : s < 2) (ht : t < 2) :
    octLatMapLoops n pf mat x (octLatMapTgt a b s t).1 (octLatMapTgt a b s t).2
      = mat (2 * i + s) (2 * j + t) := by
  rw [octLatMapLoops_eq]
  obtain ⟨hA, hB⟩ := octLatMapTgt_block a b hs ht
  -- a step for another pair does not touch the cell
  have hmiss : ∀ i' j' a' b' (x : Mat), i' < n → j' ≤ i' → latMaps pf i' = some a' → latMaps pf j' = some b' →
      ¬ (i' = i ∧ j' = j) →
      octLatMapStep mat i' a' j' b' x (octLatMapTgt a b s t).1 (octLatMapTgt a b s t).2
        = x (octLatMapTgt a b s t).1 (octLatMapTgt a b s t).2 := by
    intro i' j' a' b' x hi' hji' h1 h2 hne
    apply octLatMapStep_miss
    rw [hA, hB]
    intro hc
    rcases latMaxMin_pair hc.1 hc.2 with ⟨e1, e2⟩ | ⟨e1, e2⟩
    · subst e1; subst e2
      exact hne ⟨hinj i' i a' hi' hi h1 hmi, hinj j' j b' (by omega) (by omega) h2 hmj⟩
    · subst e1; subst e2
      have := hinj i' j a' hi' (by omega) h1 hmj
      have := hinj j' i b' (by omega) hi h2 hmi
      exact hne ⟨by omega, by omega⟩
  refine latLoopUp_cell (fun x : Mat => x (octLatMapTgt a b s t).1 (octLatMapTgt a b s t).2)
    (fun _ => True) (k0 := i) trivial (fun _ _ _ _ _ => trivial) hi ?_ ?_
  · intro x _
    simp only [octLatMapRow, hmi]
    refine latLoopUp_cell (fun x : Mat => x (octLatMapTgt a b s t).1 (octLatMapTgt a b s t).2)
      (fun _ => True) (k0 := j) trivial (fun _ _ _ _ _ => trivial) (by omega) ?_ ?_
    · intro x _
      simp only [octLatMapInner, hmj]
      exact octLatMapStep_hit mat i a j b x hs ht
    · intro k x hk hne
      simp only [octLatMapInner]
      cases hm2 : latMaps pf k with
      | none => rfl
      | some b' => exact hmiss i k a b' x hi (by omega) hmi hm2 (fun h => hne h.2)
  · intro k x hk hne
    simp only [octLatMapRow]
    cases hm1 : latMaps pf k with
    | none => rfl
    | some a' =>
      dsimp only
      refine latLoopUp_frame (fun x : Mat => x (octLatMapTgt a b s t).1 (octLatMapTgt a b s t).2) ?_
      intro k2 x hk2
      simp only [octLatMapInner]
      cases hm2 : latMaps pf k2 with
      | none => rfl
      | some b' => exact hmiss k k2 a' b' x hk (by omega) hm1 hm2 (fun h => hne h.1)

theorem octLatMapOval_tgt (y : Nat → Rat) (img : Nat → Nat) (i j : Nat) {s t : Nat} (hs : s < 2) (ht : t < 2) :
    OctM.oval y (octLatMapTgt (img i) (img j) s t).2 - OctM.oval y (octLatMapTgt (img i) (img j) s t).1
      = OctM.oval (fun k => y (img k)) (2 * j + t) - OctM.oval (fun k => y (img k)) (2 * i + s) := by
  unfold octLatMapTgt
  have hs' : s = 0 ∨ s = 1 := by omega
  have ht' : t = 0 ∨ t = 1 := by omega
  split
  · rcases hs' with rfl | rfl <;> rcases ht' with rfl | rfl <;>
      simp only [Nat.add_zero, oval_even, oval_odd]
  · rcases hs' with rfl | rfl <;> rcases ht' with rfl | rfl <;>
      simp only [Nat.add_zero, Nat.sub_zero, Nat.add_sub_cancel, oval_even, oval_odd] <;> ring

/-- `map_space_dimensions` with a total injective `pfunc` that does not shrink the space (no closure is
run): exact for every bound type and every matrix; `img i` is the image of `Variable(i)` -/
theorem octLatMapDims_exact (R : Rnd) (n : Nat) (c : Bool) (m : Mat)
    (pf : List (Option Nat)) (img : Nat → Nat) (himg : ∀ i, i < n → latMaps pf i = some (img i))
    (hinj : latInjective pf n) (hns : ¬ latMaxInCodomain pf n + 1 < n) :
    ∃ r, octLatMapDims R n c m pf = some r ∧ r.dim = latMapNewDim pf n ∧
      ∀ y, y ∈ γO r.dim r.m ↔ (fun i => y (img i)) ∈ γO n m := by
  unfold octLatMapDims latMapNewDim
  by_cases hn : n = 0
  · subst hn
    simp only [if_true]
    exact ⟨_, rfl, rfl, fun y => ⟨fun h => latGammaO_congr (n := 0) (fun i hi => absurd hi (Nat.not_lt_zero i)) h,
      fun h => latGammaO_congr (n := 0) (fun i hi => absurd hi (Nat.not_lt_zero i)) h⟩⟩
  · have hec : latEmptyCodomain pf n = false := by
      unfold latEmptyCodomain
      rw [List.all_eq_false]
      exact ⟨0, List.mem_range.2 (by omega), by rw [himg 0 (by omega)]; simp⟩
    simp only [if_neg hn, hec, Bool.false_eq_true, if_false, if_neg hns]
    refine ⟨_, rfl, rfl, fun y => ⟨fun h => ?_, fun h => ?_⟩⟩
    · intro I J hIJ
      have hI : I < 2 * n := hIJ.1
      have hJ : J < rowSize I := hIJ.2
      have hs : I % 2 < 2 := by omega
      have ht : J % 2 < 2 := by omega
      have hi : I / 2 < n := by omega
      have hji : J / 2 ≤ I / 2 := by unfold rowSize at hJ; omega
      have hcell := octLatMapLoops_cell n pf hinj m { f := fun _ _ => pinf } hi hji (himg _ hi)
        (himg _ (by omega)) hs ht
      have eI : 2 * (I / 2) + I % 2 = I := by omega
      have eJ : 2 * (J / 2) + J % 2 = J := by omega
      rw [eI, eJ] at hcell
      have hov := octLatMapOval_tgt y img (I / 2) (J / 2) hs ht
      rw [eI, eJ] at hov
      rw [← hcell, ← hov]
      have ha := latMaxInCodomain_ge pf n hi (himg _ hi)
      have hb := latMaxInCodomain_ge pf n (by omega : J / 2 < n) (himg _ (by omega))
      apply h
      unfold octLatMapTgt
      constructor
      · simp only
        split <;> simp only <;> omega
      · unfold rowSize
        split <;> simp only <;> omega
    · exact octLatMapInv_holds (octLatMapLoops_inv n pf m) h
        (fun i hi a ha => by rw [himg i hi] at ha; simp only [Option.some.injEq] at ha; rw [ha]) _

end PPLV.WR

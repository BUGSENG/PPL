import PPLV.WR.TransOct2ProofsBndLe
import PPLV.WR.TransOct2ProofsRefine
/-!
# `Octagonal_Shape<T>::bounded_affine_image`: the general `lb_expr`, the branch through an additional dimension,
and all branches together

Hypotheses beyond `CoeffExact` / `HalfFiniteOn` of the closed matrix:

* `hmono : ∀ a b, a ≤ b → R.up a ≤ R.up b` (general `lb_expr` only): the lower-bound kernel reads unary cells that
  the inner `generalized_affine_image` may have lowered, while its sum was accumulated over the old ones; a
  monotone rounding (every real `T`) keeps the rounded box of the new cells inside that of the old ones.
* `HalfFiniteOn` of the INTERMEDIATE matrix `octBoundedExtraMid` (extra-dimension branch only): the upper bound is
  approximated over the unary cells left by `affine_image(new_var, lb_expr, den)` and its incremental closure;
  that halving such a cell does not overflow is true of every real `T` but not derivable for an abstract `up`.
* `el i = 0`, `eu i = 0` for `i ≥ n` (the code checks the space dimensions of the expressions).
-/
namespace PPLV.WR
open ExtRat

/-- `matrix.shrink`: a point of the `(n+1)`-dimensional octagon, restricted to the first `n` coordinates -/
theorem octRestrict_holds {n vid : Nat} {x : Nat → Rat} {s t : Rat} {M : Mat}
    (h : Holds (SO (n + 1)) (OctM.oval (upd (upd x n s) vid t)) M) :
    Holds (SO n) (OctM.oval (upd x vid t)) M := by
  refine octHolds_congr (fun i hi => ?_) (octHolds_restrict (Nat.le_succ n) h)
  unfold upd
  by_cases h1 : i = vid
  · rw [if_pos h1, if_pos h1]
  · rw [if_neg h1, if_neg h1, if_neg (by omega)]

section
variable {R : Rnd} (hR : R.Sound) {n vid : Nat} (hv : vid < n) {el eu : Nat → Int} (hcu : CoeffExact R eu)
  {bl bu den : Int} (hden : den ≠ 0) {m : Mat} {x : Nat → Rat} (hx : x ∈ γO n m) {t : Rat}
  (hlb : (linEval el x n + bl) / den ≤ t) (hub : t ≤ (linEval eu x n + bu) / den)
include hR hv hcu hden hx hlb hub

/-! ## general `lb_expr` -/

theorem octBoundedAffineImageCore_general_sound (hmono : ∀ a b : Rat, a ≤ b → R.up a ≤ R.up b)
    (hcl : CoeffExact R el) (hh : HalfFiniteOn R.up m) (h0 : ¬ exprT el (lastNonzero el n) = 0)
    (h1 : ¬ (exprT el (lastNonzero el n) = 1 ∧
        (el (lastNonzero el n - 1) = den ∨ el (lastNonzero el n - 1) = - den))) :
    ∃ m', octBoundedAffineImageCore R n vid el bl eu bu den m = some m' ∧ upd x vid t ∈ γO n m' := by
  have hx' : Holds (SO n) (OctM.oval x) m := hx
  obtain ⟨m1, hm1, hx1⟩ := octGenAffineImageCore_sound hR hv hden (b := bu) hx true (t := t)
    (by simpa using hub) hcu hh
  have hle := octGenAffineImageCore_le_unaryLe hR hv hm1
  have hx1' : Holds (SO n) (OctM.oval (upd x vid t)) m1 := hx1
  unfold octBoundedAffineImageCore
  dsimp only
  rw [if_neg h0, if_neg h1, hm1]
  simp only [Option.map_some]
  refine ⟨_, rfl, ?_⟩
  show Holds (SO n) (OctM.oval (upd x vid t)) _
  obtain ⟨hw, hval⟩ := octGeneral_value h0 x bl den
  generalize lastNonzero el n - 1 = wid at *
  have hd := scDen_pos hden
  rw [octAccStep_false]
  have hneg := octAccLoop_inv hR (hcl.sc den).neg _
    (OAccInv.init hR m (wid + 1) (fun i => - scExpr el den i) (minus_scb_cast bl den).symm) _ le_rfl
  generalize loopUp (wid + 1) (octAccStep R m (fun i => - scExpr el den i) true) _ = st at hneg ⊢
  by_cases hcnt : st.cnt > 1
  · rw [if_pos hcnt]; exact hx1'
  · rw [if_neg hcnt]
    have ht' : (linEval (scExpr el den) x (wid + 1) + ((if den > 0 then bl else - bl : Int) : Rat))
        / ((if den > 0 then den else - den : Int) : Rat) ≤ t := by
      rw [← hval]; exact hlb
    exact octExploitLower_holds_mono hR hmono hh hw hd hx' ht' hx1' hle hneg

/-! ## the branch through an additional dimension -/

theorem octBoundedExtraDim_sound (hel : ∀ i, n ≤ i → el i = 0) (heu : ∀ i, n ≤ i → eu i = 0)
    (hsp : exprT el (lastNonzero el n) = 1 ∧
      (el (lastNonzero el n - 1) = den ∨ el (lastNonzero el n - 1) = - den))
    (hmid : ∀ m1, octBoundedExtraMid R n el bl den m = some m1 → HalfFiniteOn R.up m1) :
    ∃ m', octBoundedExtraDim R n vid el bl eu bu den m = some m' ∧ upd x vid t ∈ γO n m' := by
  have hxe : Holds (SO (n + 1)) (OctM.oval x) (octEmbedOne n m) := octEmbedOne_holds hx
  have hlast : lastNonzero el (n + 1) = lastNonzero el n := by
    simp [lastNonzero, hel n le_rfl]
  have hlin : linEval el x (n + 1) = linEval el x n := by simp [linEval, hel n le_rfl]
  -- the intermediate matrix contains `x` extended by the value of the lower bound
  obtain ⟨m1, hm1, hx1⟩ : ∃ m1, octBoundedExtraMid R n el bl den m = some m1 ∧
      upd x n ((linEval el x n + bl) / den) ∈ γO (n + 1) m1 := by
    unfold octBoundedExtraMid
    dsimp only
    split
    · exact ⟨_, rfl, holds_octForgetAll (by omega : n < n + 1) hxe _⟩
    · have := octAffineImageCore_sound_special hR (by omega : n < n + 1) hden (b := bl) (e := el)
        (x := x) (m := octEmbedOne n m) hxe (by rw [hlast]; exact Or.inr hsp)
      rw [hlin] at this
      exact this
  have hmf := hmid m1 hm1
  -- the upper bound
  have hlu : linEval eu (upd x n ((linEval el x n + bl) / den)) (n + 1) = linEval eu x n := by
    simp only [linEval, heu n le_rfl]
    rw [linEval_upd, if_neg (by omega)]
    simp
  obtain ⟨mf, hmf', hx2⟩ := octGenAffineImageCoreF_sound hR (by omega : vid < n + 1) hden (b := bu) hx1 true
    (t := t) (by simp only [↓reduceIte]; rw [hlu]; exact hub) hcu hmf
  -- `refine_no_check(var >= new_var)`
  have hcs : CSat (fun i => (if i = vid then 1 else 0) - (if i = n then 1 else 0)) (n + 1) 0 .ge
      (upd (upd x n ((linEval el x n + bl) / den)) vid t) := by
    show 0 ≤ linEval _ _ (n + 1) + ((0 : Int) : Rat)
    rw [linEval_sub, linEval_single 1 _ (by omega : vid < n + 1), linEval_single 1 _ (by omega : n < n + 1)]
    have e1 : upd (upd x n ((linEval el x n + bl) / den)) vid t vid = t := by simp [upd]
    have e2 : upd (upd x n ((linEval el x n + bl) / den)) vid t n = (linEval el x n + bl) / den := by
      unfold upd; rw [if_neg (by omega), if_pos rfl]
    rw [e1, e2]
    push_cast
    linarith
  have href := octRefineNoCheck_sound_raw hR.up_le (n := n + 1) (sd := n + 1) _ 0 .ge mf.1 hx2 hcs
  unfold octBoundedExtraDim
  rw [hm1]
  simp only [Option.bind_some, hmf']
  generalize octRefineNoCheck R (n + 1) (n + 1) _ 0 CKind.ge mf.1 = out at href ⊢
  cases out with
  | ok m3 =>
    dsimp only at href ⊢
    split
    · exact ⟨_, rfl, octRestrict_holds href.1⟩
    · obtain ⟨m', hm', hx'⟩ := octCloseRaw_sound hR (n := n + 1) href.1
      exact ⟨m', hm', octRestrict_holds hx'⟩
  | empty => exact absurd href (by simp)
  | throws => exact absurd href (by simp)

/-! ## all branches -/

theorem octBoundedAffineImageCore_sound (hmono : ∀ a b : Rat, a ≤ b → R.up a ≤ R.up b)
    (hel : ∀ i, n ≤ i → el i = 0) (heu : ∀ i, n ≤ i → eu i = 0) (hcl : CoeffExact R el)
    (hh : HalfFiniteOn R.up m)
    (hmid : ∀ m1, octBoundedExtraMid R n el bl den m = some m1 → HalfFiniteOn R.up m1) :
    ∃ m', octBoundedAffineImageCore R n vid el bl eu bu den m = some m' ∧ upd x vid t ∈ γO n m' := by
  by_cases h0 : exprT el (lastNonzero el n) = 0
  · exact octBoundedAffineImageCore_special_sound hR hv hcu hden hh hx hlb hub (Or.inl h0)
  · by_cases h1 : exprT el (lastNonzero el n) = 1 ∧
        (el (lastNonzero el n - 1) = den ∨ el (lastNonzero el n - 1) = - den)
    · by_cases hwv : lastNonzero el n - 1 = vid
      · have heq : octBoundedAffineImageCore R n vid el bl eu bu den m
            = octBoundedExtraDim R n vid el bl eu bu den m := by
          unfold octBoundedAffineImageCore
          dsimp only
          rw [if_neg h0, if_pos h1, if_pos hwv]
        rw [heq]
        exact octBoundedExtraDim_sound hR hv hcu hden hx hlb hub hel heu h1 hmid
      · exact octBoundedAffineImageCore_special_sound hR hv hcu hden hh hx hlb hub (Or.inr ⟨h1.1, hwv, h1.2⟩)
    · exact octBoundedAffineImageCore_general_sound hR hv hcu hden hx hlb hub hmono hcl hh h0 h1

end

theorem octUpId_mono : ∀ a b : Rat, a ≤ b → Rnd.exact.up a ≤ Rnd.exact.up b :=
  fun _ _ h => fin_le_fin.2 h

theorem octUpCeil_mono : ∀ a b : Rat, a ≤ b → Rnd.ceil.up a ≤ Rnd.ceil.up b := by
  intro a b h
  simp only [Rnd.ceil, upCeil]
  have : a.ceil ≤ b.ceil := Rat.ceil_le_iff.mpr (le_trans h Rat.le_ceil)
  exact fin_le_fin.2 (by exact_mod_cast this)

end PPLV.WR

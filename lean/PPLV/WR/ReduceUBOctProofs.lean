import PPLV.WR.ReduceProofsBase
import PPLV.WR.ReduceProofsUB
import Mathlib.Tactic.Linarith
/-!
# `Octagonal_Shape::upper_bound_assign_if_exact`: when the test answers `true` the join is the union

`x`, `y` strongly closed matrices, `xr`, `yr` the outputs of `non_redundant_matrix_entries` (`true` = kept), assumed
to denote the shapes (`hxp`, `hyp`: the conclusion of `oct_reduction_preserves`).  A point of the join outside both
shapes violates a kept stored cell `(i, j)` of `x` and a kept stored cell `(k, ℓ)` of `y`; with `P = oval p`
(`P (cidx t) = -P t`) each of the six sums the code compares (conditions 3–8 of the BHZ09 theorem) is bounded below
by the corresponding combination of the two violated differences, so all eight conditions hold and the test returns
`false` at `(i, j, k, ℓ)`.
-/
namespace PPLV.WR
open ExtRat (fin pinf)

namespace OctM
variable {n : Nat}

/-- `upper_bound_assign`: the pointwise maximum -/
def join (x y : OctM n) : OctM n where
  e := matMax x.e y.e
  diag := by
    intro i hi
    show ExtRat.maxA (x.e i i) (y.e i i) = pinf
    rw [x.diag i hi, y.diag i hi]; rfl

theorem join_apply (x y : OctM n) (i j : Nat) : (join x y).e i j = ExtRat.maxA (x.e i j) (y.e i j) := rfl

theorem γ_subset_join_left (x y : OctM n) : OctM.γ x ⊆ OctM.γ (join x y) :=
  fun p hp i j hi hj => ExtRat.le_trans' (hp i j hi hj) (by rw [join_apply]; exact ExtRat.le_maxA_left _ _)

theorem γ_subset_join_right (x y : OctM n) : OctM.γ y ⊆ OctM.γ (join x y) :=
  fun p hp i j hi hj => ExtRat.le_trans' (hp i j hi hj) (by rw [join_apply]; exact ExtRat.le_maxA_right _ _)

/-- a valuation outside a shape violates a kept stored cell of a reduction that denotes the shape -/
theorem exists_violated_kept (c : OctM n) (nr : BMat) (hpres : OctM.γ (c.reduced nr) = OctM.γ c)
    (p : ℕ → ℚ) (hp : p ∉ OctM.γ c) :
    ∃ i j, i < 2 * n ∧ j < rowSize i ∧ nr i j = true ∧ ∃ a : ℚ, c.e i j = fin a ∧ a < oval p j - oval p i := by
  rw [← hpres] at hp
  have hp' : ¬ (c.reduced nr).Sat p := hp
  unfold OctM.Sat at hp'
  push Not at hp'
  obtain ⟨i, j, hi, hj, hv⟩ := hp'
  have er : (c.reduced nr).e i j = if ¬ nr i j = true then pinf else c.e i j := (ite_not _ _ _).symm
  rw [er] at hv
  obtain ⟨hk, a, hq, ha⟩ := ExtRat.kept_of_not_fin_le hv
  exact ⟨i, j, hi, hj, not_not.1 hk, a, hq, ha⟩

end OctM

/-- the value the code reads for "`ub[a][b]` with a zero diagonal" -/
def ubRead (ub : Mat) (a b : Nat) : ExtRat :=
  if a = b then fin 0 else if b < rowSize a then ub a b else ub (cidx b) (cidx a)

theorem ubRead_ge {n : Nat} {ub : Mat} {P : Nat → Rat} (h : Holds (SO n) P ub) (hc : Coh P) {a b : Nat}
    (ha : a < 2 * n) (hb : b < 2 * n) : fin (P b - P a) ≤ ubRead ub a b := by
  unfold ubRead
  split
  · rename_i e; rw [e, sub_self]; exact ExtRat.le_rfl' _
  · exact holds_mAt h hc ha hb

theorem le_of_fin_le_two {A B : ExtRat} {u v s : Rat} (h1 : fin u ≤ A) (h2 : fin v ≤ B)
    (h : ExtRat.addUp upId A B ≤ fin s) : u + v ≤ s := by
  have := ExtRat.le_trans' (ExtRat.fin_le_addUp upId_sound h1 h2) h
  rwa [ExtRat.fin_le_fin] at this

theorem le_of_fin_le_three {A B C : ExtRat} {u v w s : Rat} (h1 : fin u ≤ A) (h2 : fin v ≤ B) (h3 : fin w ≤ C)
    (h : ExtRat.addUp upId (ExtRat.addUp upId A B) C ≤ fin s) : u + v + w ≤ s := by
  have := ExtRat.le_trans' (ExtRat.fin_le_addUp upId_sound (ExtRat.fin_le_addUp upId_sound h1 h2) h3) h
  rwa [ExtRat.fin_le_fin] at this

/-- **`Octagonal_Shape::upper_bound_assign_if_exact`, soundness of the answer `true`** (given that the two
reductions denote the operands) -/
theorem octUB_sound {n : Nat} (x y : OctM n) (xr yr : BMat)
    (hxp : OctM.γ (x.reduced xr) = OctM.γ x) (hyp : OctM.γ (y.reduced yr) = OctM.γ y)
    (ht : octUpperBoundIfExact upId n x.e y.e xr yr = true) :
    OctM.γ (OctM.join x y) = OctM.γ x ∪ OctM.γ y := by
  apply Set.Subset.antisymm
  · intro p hp
    by_contra hnot
    have hnx : p ∉ OctM.γ x := fun h => hnot (Or.inl h)
    have hny : p ∉ OctM.γ y := fun h => hnot (Or.inr h)
    obtain ⟨i, j, hi, hj, hkx, a, hxa, hva⟩ := OctM.exists_violated_kept x xr hxp p hnx
    obtain ⟨k, l, hk, hl, hky, b, hyb, hvb⟩ := OctM.exists_violated_kept y yr hyp p hny
    have hjn : j < 2 * n := lt_of_lt_of_le hj (rowSize_le hi)
    have hln : l < 2 * n := lt_of_lt_of_le hl (rowSize_le hk)
    have hH : Holds (SO n) (OctM.oval p) (matMax x.e y.e) := (OctM.sat_iff_holds (OctM.join x y) p).1 hp
    have hC := coh_oval p
    generalize hP : OctM.oval p = P at hva hvb hH hC
    -- the first two conditions
    have ub_ij := hH i j ⟨hi, hj⟩
    have ub_kl := hH k l ⟨hk, hl⟩
    have c1 : decide (y.e i j ≤ x.e i j) = false :=
      decide_eq_false (ExtRat.not_le_of_le_maxA_left ub_ij
        (by rw [hxa, ExtRat.fin_le_fin]; exact not_le.2 hva))
    have c2 : decide (x.e k l ≤ y.e k l) = false :=
      decide_eq_false (ExtRat.not_le_of_le_maxA_right ub_kl
        (by rw [hyb, ExtRat.fin_le_fin]; exact not_le.2 hvb))
    unfold octUpperBoundIfExact at ht
    simp only [List.all_eq_true, List.mem_reverse, List.mem_range] at ht
    have t := ht i hi j hj
    rw [hkx, c1] at t
    simp only [Bool.not_true, Bool.false_or, List.all_eq_true, List.mem_reverse, List.mem_range] at t
    have t2 := t k hk l hl
    rw [hky, c2] at t2
    simp only [Bool.not_true, Bool.false_or, Bool.or_eq_true, decide_eq_true_eq, ExtRat.ltB, Bool.not_not] at t2
    -- the reads of the upper bound, each bounded below by the corresponding difference at the point
    have r_il := ubRead_ge hH hC hi hln
    have r_kj := ubRead_ge hH hC hk hjn
    have r_ick := ubRead_ge hH hC hi (cidx_lt hk)
    have r_cjl := ubRead_ge hH hC (cidx_lt hjn) hln
    have r_cjj := hH (cidx j) j ⟨cidx_lt hjn, lt_rowSize_cidx j⟩
    have r_ici := hH i (cidx i) ⟨hi, cidx_lt_rowSize i⟩
    have r_kck := hH k (cidx k) ⟨hk, cidx_lt_rowSize k⟩
    have r_cll := hH (cidx l) l ⟨cidx_lt hln, lt_rowSize_cidx l⟩
    unfold ubRead at r_il r_kj r_ick r_cjl
    rw [cidx_cidx] at r_ick r_cjl
    rw [hC] at r_ick r_cjl r_cjj r_ici r_kck r_cll
    rw [hxa, hyb] at t2
    have e2 : ExtRat.addUp upId (fin a) (fin b) = fin (a + b) := rfl
    have e3a : ExtRat.addUp upId (fin (a + b)) (fin a) = fin (a + b + a) := rfl
    have e3b : ExtRat.addUp upId (fin (a + b)) (fin b) = fin (a + b + b) := rfl
    rw [e2, e3a, e3b] at t2
    rcases t2 with (h | h) | ((h | h) | (h | h))
    · have := le_of_fin_le_two r_il r_kj h; linarith only [this, hva, hvb]
    · have := le_of_fin_le_two r_ick r_cjl h; linarith only [this, hva, hvb]
    · have := le_of_fin_le_three r_il r_ick r_cjj h; linarith only [this, hva, hvb]
    · have := le_of_fin_le_three r_kj r_cjl r_ici h; linarith only [this, hva, hvb]
    · have := le_of_fin_le_three r_il r_cjl r_kck h; linarith only [this, hva, hvb]
    · have := le_of_fin_le_three r_kj r_ick r_cll h; linarith only [this, hva, hvb]
  · intro p hp
    rcases hp with hp | hp
    · exact OctM.γ_subset_join_left x y hp
    · exact OctM.γ_subset_join_right x y hp

end PPLV.WR

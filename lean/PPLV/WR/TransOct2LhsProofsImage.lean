import PPLV.WR.TransOct2LhsProofsSpecial
import PPLV.WR.TransOct2ProofsImage
/-!
# `Octagonal_Shape<T>::generalized_affine_image(lhs, relsym, rhs)`: the delegate and the whole function
-/
namespace PPLV.WR
open ExtRat

/-- the hypothesis `hh` of the delegates for a call on `OctM.ofMat n m` marked strongly closed -/
theorem octLhs_hh_ofMat {up : Rat → ExtRat} {n : Nat} {m : Mat} (hh : HalfFiniteOn up m) :
    ∀ m', octCloseFirst up true (OctM.ofMat n m) = some m' → HalfFiniteOn up m' := by
  intro m' h
  simp only [octCloseFirst, if_true, Option.some.injEq] at h
  subst h
  exact octLhs_halfFinite_ofMat hh

section
variable {R : Rnd} (hR : R.Sound) {n : Nat} (rel : RelSym) {el er : Nat → Int} (bl br : Int) {m : Mat}
  {x x' : Nat → Rat}
include hR

/-- `lhs == a*v + b`: the delegate `generalized_affine_image(v, relsym', rhs - b_lhs, a)` -/
theorem octLhsImage_t1_sound (h1 : exprT el (lastNonzero el n) = 1) (hc : CoeffExact R er)
    (hh : HalfFiniteOn R.up m) (hx : x ∈ γO n m)
    (hag : ∀ i, i < n → el i = 0 → x' i = x i)
    (hrel : rel.holds (linEval el x' n + bl) (linEval er x n + br)) :
    ∃ m', octLhsGenAffineImageCore R n rel el bl er br m = some m' ∧ x' ∈ γO n m' := by
  obtain ⟨hw0, ha0, hz⟩ := lhs_t1_zero h1
  obtain ⟨_, hval⟩ := linEval_t1 x' h1
  have hwn := lastNonzero_le el n
  have hj : lastNonzero el n - 1 < n := by omega
  rw [hval] at hrel
  have hnew := lhs_newRel_holds ha0 hrel
  have hcong : ∀ i, i < n → x' i = upd x (lastNonzero el n - 1) (x' (lastNonzero el n - 1)) i := by
    intro i hi
    unfold upd
    split
    · rename_i h; rw [h]
    · rename_i h; exact hag i hi (hz i hi h)
  obtain ⟨m', hm', hx2⟩ := octGenAffineImage_sound hR (OctM.ofMat n m) true hj
    (lhsNewRelSym rel (el (lastNonzero el n - 1))) (e := er) (b := br - bl) ha0 hc (octLhs_hh_ofMat hh)
    x (sat_octOfMat hx) _ hnew
  refine ⟨m', ?_, octHolds_congr hcong hx2⟩
  unfold octLhsGenAffineImageCore
  dsimp only [lhsForm, lhsSpaceDim]
  rw [if_neg (by omega), if_pos h1]
  exact hm'

theorem octLhsGenAffineImageCore_sound (hc : exprT el (lastNonzero el n) = 1 → CoeffExact R er)
    (hh : exprT el (lastNonzero el n) = 1 → HalfFiniteOn R.up m)
    (hx : x ∈ γO n m) (hag : ∀ i, i < n → el i = 0 → x' i = x i)
    (hrel : rel.holds (linEval el x' n + bl) (linEval er x n + br)) :
    ∃ m', octLhsGenAffineImageCore R n rel el bl er br m = some m' ∧ x' ∈ γO n m' := by
  by_cases h0 : exprT el (lastNonzero el n) = 0
  · exact octLhsImage_t0_sound hR rel bl br h0 hx hag hrel
  · by_cases h1 : exprT el (lastNonzero el n) = 1
    · exact octLhsImage_t1_sound hR rel bl br h1 (hc h1) (hh h1) hx hag hrel
    · exact octLhsImage_t2_sound hR rel bl br h0 h1 hx hag hrel

end

end PPLV.WR

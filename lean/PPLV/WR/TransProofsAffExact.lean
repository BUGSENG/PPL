import PPLV.WR.TransProofsAffSpecial
/-!
# `BD_Shape::affine_image` with exact arithmetic: the special cases lose nothing

With `T = mpq_class` (`Rnd.exact`) the result of the special cases of `affine_image` is exactly the
image of the input shape:

* `var := var + b/den` (`affineImage_translation_exact`), unconditionally;
* `var := b/den` (`affineImage_constant_exact`) and `var := w + b/den`, `w ≠ var`
  (`affineImage_w_plus_b_exact`), provided the input matrix is closed at `v = var+1` (triangle
  inequality through `v`) and non-empty — `affine_image` runs `shortest_path_closure_assign()` first.

The `⊆` direction of the last two needs `forgetAll_extend`: a point of
`forget_all_dbm_constraints(v)` of a matrix closed at `v` is the projection of a point of the matrix.
-/
namespace PPLV.WR
open ExtRat

theorem divRoundUp_exact (x y : Int) : divRoundUp Rnd.exact x y = fin ((x : Rat) / (y : Rat)) := rfl

theorem fin_le_addUp_exact {a c : Rat} {M : ExtRat} (h : fin a ≤ addUp Rnd.exact.up M (fin c)) :
    fin (a - c) ≤ M := by
  cases M with
  | pinf => exact le_pinf _
  | fin q =>
    have h' : a ≤ q + c := fin_le_fin.1 h
    exact fin_le_fin.2 (by linarith)

theorem holds_of_addDbm {S : Nat → Nat → Prop} {p : Nat → Rat} {m : Mat} {i j : Nat} {k : ExtRat}
    (h : Holds S p (addDbmConstraint m i j k)) : Holds S p m ∧ (S i j → fin (p j - p i) ≤ k) := by
  constructor
  · intro a b hab
    have h' := h a b hab
    rw [addDbm_apply] at h'
    split at h'
    · rename_i hc; obtain ⟨rfl, rfl⟩ := hc; exact le_trans' h' (minA_le_left _ _)
    · exact h'
  · intro hij
    have h' := h i j hij
    rw [addDbm_apply, if_pos ⟨rfl, rfl⟩] at h'
    exact le_trans' h' (minA_le_right _ _)

theorem affineImage_translation_exact {n var : Nat} (hvar : var < n) {e : Nat → Int} {b den : Int}
    (hden : den ≠ 0) {m : Mat} (h1 : exprT e (lastNonzero e n) = 1)
    (hwv : lastNonzero e n = var + 1) (ha : e var = den) :
    ∀ y, y ∈ γB n (affineImageCore Rnd.exact n var e b den m) ↔
      ∃ x ∈ γB n m, y = upd x var ((linEval e x n + b) / den) := by
  have hw1 : lastNonzero e n - 1 = var := by omega
  have hval : ∀ x : Nat → Rat, (linEval e x n + b) / den = x var + (b : Rat) / den := by
    intro x
    rw [(linEval_t1 x h1).2, hw1]
    exact special_val_pos hden ha _ _
  intro y
  constructor
  · intro hy
    have hy' : Holds (SB (n+1)) (DBM.val y) (affineImageCore Rnd.exact n var e b den m) := hy
    refine ⟨upd y var (y var - (b : Rat) / den), ?_, ?_⟩
    · show Holds (SB (n+1)) (DBM.val (upd y var _)) m
      unfold affineImageCore at hy'
      dsimp only at hy'
      rw [if_neg (by omega), if_pos ⟨h1, Or.inl (by rw [hw1]; exact ha)⟩, if_pos hwv, hw1,
        if_pos ha] at hy'
      by_cases hb : b = 0
      · rw [if_pos hb] at hy'
        rw [hb]; simp only [Int.cast_zero, zero_div, sub_zero]
        rw [upd_self]; exact hy'
      · rw [if_neg hb] at hy'
        have hcneg := div_negden b den
        refine holds_upd_of hy' ?_ ?_ ?_ ?_
        · intro i j hi hj hiv hjv
          rw [transLoop_apply, if_neg (fun h => hiv h.1), if_neg (fun h => hiv h.1), if_neg (fun h => hjv h.1)]
          exact le_rfl' _
        · intro j hj hjv
          have h := hy' (var + 1) j ⟨by omega, by omega⟩
          rw [transLoop_apply, if_neg (fun h => hjv h.2), if_pos ⟨rfl, by omega⟩, divRoundUp_exact] at h
          have h2 := fin_le_addUp_exact h
          rw [hcneg] at h2
          have e1 : DBM.val y j - (y var - (b : Rat) / den)
              = DBM.val y j - DBM.val y (var + 1) - -((b : Rat) / den) := by
            simp only [DBM.val]; ring
          rw [e1]; exact h2
        · intro i hi hiv
          have h := hy' i (var + 1) ⟨by omega, by omega⟩
          rw [transLoop_apply, if_neg (fun h => hiv h.1), if_neg (fun h => hiv h.1), if_pos ⟨rfl, by omega⟩,
            divRoundUp_exact] at h
          have h2 := fin_le_addUp_exact h
          have e1 : y var - (b : Rat) / den - DBM.val y i
              = DBM.val y (var + 1) - DBM.val y i - (b : Rat) / den := by
            simp only [DBM.val]; ring
          rw [e1]; exact h2
        · intro _
          have h := hy' (var + 1) (var + 1) ⟨by omega, by omega⟩
          rw [transLoop_apply, if_pos ⟨rfl, rfl⟩, if_pos (by omega), divRoundUp_exact,
            divRoundUp_exact, sub_self] at h
          have h2 := fin_le_addUp_exact (fin_le_addUp_exact h)
          rw [hcneg] at h2
          have e1 : (0 : Rat) - (b : Rat) / den - -((b : Rat) / den) = 0 := by ring
          rw [e1] at h2; exact h2
    · rw [hval]
      have e1 : upd y var (y var - (b : Rat) / den) var + (b : Rat) / den = y var := by
        simp only [upd, if_pos]; ring
      rw [e1, upd_upd, upd_self]
  · rintro ⟨x, hx, rfl⟩
    exact affineImageCore_special_sound Rnd.exact_sound hvar hden hx
      (Or.inr ⟨h1, Or.inl (by rw [hw1]; exact ha)⟩)

/-- finitely many lower bounds, each below each of finitely many upper bounds: a value in between -/
theorem exists_between (ls us : List Rat) (h : ∀ l ∈ ls, ∀ u ∈ us, l ≤ u) :
    ∃ t : Rat, (∀ l ∈ ls, l ≤ t) ∧ (∀ u ∈ us, t ≤ u) := by
  induction ls with
  | nil =>
    induction us with
    | nil => exact ⟨0, by simp, by simp⟩
    | cons u us ih =>
      obtain ⟨t, _, ht⟩ := ih (by simp)
      refine ⟨min t u, by simp, ?_⟩
      intro u' hu'
      rcases List.mem_cons.1 hu' with rfl | hu'
      · exact min_le_right _ _
      · exact le_trans (min_le_left _ _) (ht _ hu')
  | cons l ls ih =>
    obtain ⟨t, h1, h2⟩ := ih (fun l' hl' u hu => h l' (List.mem_cons_of_mem _ hl') u hu)
    refine ⟨max t l, ?_, ?_⟩
    · intro l' hl'
      rcases List.mem_cons.1 hl' with rfl | hl'
      · exact le_max_right _ _
      · exact le_trans (h1 _ hl') (le_max_left _ _)
    · intro u hu
      exact max_le (h2 u hu) (h l List.mem_cons_self u hu)

/-- the same for bounds indexed by `i < N`, some of them absent -/
theorem exists_between_idx (N : Nat) (L U : Nat → Option Rat)
    (h : ∀ i j, i < N → j < N → ∀ l u, L i = some l → U j = some u → l ≤ u) :
    ∃ t : Rat, (∀ i, i < N → ∀ l, L i = some l → l ≤ t) ∧ (∀ j, j < N → ∀ u, U j = some u → t ≤ u) := by
  obtain ⟨t, h1, h2⟩ := exists_between ((List.range N).filterMap L) ((List.range N).filterMap U) (by
    intro l hl u hu
    obtain ⟨i, hi, hil⟩ := List.mem_filterMap.1 hl
    obtain ⟨j, hj, hju⟩ := List.mem_filterMap.1 hu
    exact h i j (List.mem_range.1 hi) (List.mem_range.1 hj) l u hil hju)
  exact ⟨t, fun i hi l hl => h1 l (List.mem_filterMap.2 ⟨i, List.mem_range.2 hi, hl⟩),
    fun j hj u hu => h2 u (List.mem_filterMap.2 ⟨j, List.mem_range.2 hj, hu⟩)⟩

/-- a finite entry as an optional bound -/
def optBound (k : ExtRat) (f : Rat → Rat) : Option Rat :=
  match k with
  | fin q => some (f q)
  | pinf => none

theorem optBound_eq_some {k : ExtRat} {f : Rat → Rat} {r : Rat} (h : optBound k f = some r) :
    ∃ q, k = fin q ∧ r = f q := by
  cases k with
  | pinf => simp [optBound] at h
  | fin q => simp only [optBound, Option.some.injEq] at h; exact ⟨q, rfl, h.symm⟩

/-- the matrix is closed at `v`: triangle inequality through `v` for the other indices -/
def ClosedAt (n v : Nat) (m : Mat) : Prop :=
  ∀ i j, i ≤ n → j ≤ n → i ≠ v → j ≠ v → i ≠ j →
    ∀ p q, m i v = fin p → m v j = fin q → m i j ≤ fin (p + q)

/-- a point that satisfies every entry not involving `v` extends to a point of the matrix, when the
matrix is closed at `v` and non-empty -/
theorem forgetAll_extend {n var : Nat} (hvar : var < n) {m : Mat} (hclosed : ClosedAt n (var + 1) m)
    (hne : ∃ x, x ∈ γB n m) {y : Nat → Rat} (hy : y ∈ γB n (forgetAll (n+1) (var+1) m)) :
    ∃ t, upd y var t ∈ γB n m := by
  obtain ⟨x0, hx0⟩ := hne
  have hx0' : Holds (SB (n+1)) (DBM.val x0) m := hx0
  have hy' : Holds (SB (n+1)) (DBM.val y) (forgetAll (n+1) (var+1) m) := hy
  have hyo : ∀ i j, i ≤ n → j ≤ n → i ≠ var + 1 → j ≠ var + 1 →
      fin (DBM.val y j - DBM.val y i) ≤ m i j := by
    intro i j hi hj hiv hjv
    have h := hy' i j ⟨by omega, by omega⟩
    rw [forgetAll_apply, if_neg (by omega)] at h
    exact h
  obtain ⟨t, hL, hU⟩ := exists_between_idx (n + 1)
    (fun i => if i = var + 1 then none else optBound (m (var + 1) i) (fun q => DBM.val y i - q))
    (fun j => if j = var + 1 then none else optBound (m j (var + 1)) (fun p => DBM.val y j + p))
    (by
      intro i j hi hj l u hl hu
      split at hl
      · cases hl
      · rename_i hiv
        split at hu
        · cases hu
        · rename_i hjv
          obtain ⟨q, hq, rfl⟩ := optBound_eq_some hl
          obtain ⟨p, hp, rfl⟩ := optBound_eq_some hu
          by_cases hij : i = j
          · subst hij
            have a1 := hx0' (var + 1) i ⟨by omega, by omega⟩
            have a2 := hx0' i (var + 1) ⟨by omega, by omega⟩
            rw [hq] at a1; rw [hp] at a2
            have a1' := fin_le_fin.1 a1
            have a2' := fin_le_fin.1 a2
            linarith
          · have a1 := hclosed j i (by omega) (by omega) hjv hiv (Ne.symm hij) p q hp hq
            have a2 := le_trans' (hyo j i (by omega) (by omega) hjv hiv) a1
            have a2' := fin_le_fin.1 a2
            linarith)
  refine ⟨t, holds_upd_of hy' ?_ ?_ ?_ ?_⟩
  · intro i j hi hj hiv hjv
    rw [forgetAll_apply, if_neg (by omega)]
    exact le_rfl' _
  · intro j hj hjv
    cases hq : m (var + 1) j with
    | pinf => exact le_pinf _
    | fin q =>
      have h := hL j (by omega) (DBM.val y j - q) (by
        rw [if_neg hjv, hq]; rfl)
      exact fin_le_fin.2 (by linarith)
  · intro i hi hiv
    cases hp : m i (var + 1) with
    | pinf => exact le_pinf _
    | fin p =>
      have h := hU i (by omega) (DBM.val y i + p) (by
        rw [if_neg hiv, hp]; rfl)
      exact fin_le_fin.2 (by linarith)
  · intro _
    have h := hx0' (var + 1) (var + 1) ⟨by omega, by omega⟩
    rw [sub_self] at h; exact h

theorem affineImage_constant_exact {n var : Nat} (hvar : var < n) {e : Nat → Int} {b den : Int}
    (hden : den ≠ 0) {m : Mat} (h0 : exprT e (lastNonzero e n) = 0)
    (hclosed : ClosedAt n (var + 1) m) (hne : ∃ x, x ∈ γB n m) :
    ∀ y, y ∈ γB n (affineImageCore Rnd.exact n var e b den m) ↔
      ∃ x ∈ γB n m, y = upd x var ((linEval e x n + b) / den) := by
  intro y
  constructor
  · intro hy
    have hy' : Holds (SB (n+1)) (DBM.val y) (affineImageCore Rnd.exact n var e b den m) := hy
    unfold affineImageCore at hy'
    dsimp only at hy'
    rw [if_pos h0] at hy'
    unfold addDbmConstraintQ at hy'
    obtain ⟨hy1, hb2⟩ := holds_of_addDbm hy'
    obtain ⟨hy2, hb1⟩ := holds_of_addDbm hy1
    have hb1' := fin_le_fin.1 (hb1 ⟨by omega, by omega⟩)
    have hb2' := fin_le_fin.1 (hb2 ⟨by omega, by omega⟩)
    have hcneg := div_negden b den
    rw [hcneg] at hb2'
    simp only [DBM.val] at hb1' hb2'
    have hyv : y var = (b : Rat) / den := by linarith
    obtain ⟨t, ht⟩ := forgetAll_extend hvar hclosed hne hy2
    refine ⟨upd y var t, ht, ?_⟩
    rw [linEval_t0 _ h0, zero_add, upd_upd, ← hyv, upd_self]
  · rintro ⟨x, hx, rfl⟩
    exact affineImageCore_special_sound Rnd.exact_sound hvar hden hx (Or.inl h0)

theorem affineImage_w_plus_b_exact {n var : Nat} (hvar : var < n) {e : Nat → Int} {b den : Int}
    (hden : den ≠ 0) {m : Mat} (h1 : exprT e (lastNonzero e n) = 1)
    (hwv : lastNonzero e n ≠ var + 1) (ha : e (lastNonzero e n - 1) = den)
    (hclosed : ClosedAt n (var + 1) m) (hne : ∃ x, x ∈ γB n m) :
    ∀ y, y ∈ γB n (affineImageCore Rnd.exact n var e b den m) ↔
      ∃ x ∈ γB n m, y = upd x var ((linEval e x n + b) / den) := by
  intro y
  constructor
  · intro hy
    have hy' : Holds (SB (n+1)) (DBM.val y) (affineImageCore Rnd.exact n var e b den m) := hy
    have hw0 : lastNonzero e n ≠ 0 := (linEval_t1 y h1).1
    have hwn := lastNonzero_le e n
    unfold affineImageCore at hy'
    dsimp only at hy'
    rw [if_neg (by omega), if_pos ⟨h1, Or.inl ha⟩, if_neg hwv, if_pos ha] at hy'
    unfold addDbmConstraintQ at hy'
    obtain ⟨hy1, hb2⟩ := holds_of_addDbm hy'
    obtain ⟨hy2, hb1⟩ := holds_of_addDbm hy1
    have hb1' := fin_le_fin.1 (hb1 ⟨by omega, by omega⟩)
    have hb2' := fin_le_fin.1 (hb2 ⟨by omega, by omega⟩)
    have hcneg := div_negden b den
    rw [hcneg] at hb2'
    obtain ⟨k, hk⟩ : ∃ k, lastNonzero e n = k + 1 := ⟨lastNonzero e n - 1, by omega⟩
    rw [hk] at hb1' hb2' hwv
    simp only [DBM.val] at hb1' hb2'
    have hkv : k ≠ var := by omega
    have hyv : y var = y k + (b : Rat) / den := by linarith
    obtain ⟨t, ht⟩ := forgetAll_extend hvar hclosed hne hy2
    refine ⟨upd y var t, ht, ?_⟩
    rw [(linEval_t1 _ h1).2, special_val_pos hden ha, hk, Nat.add_sub_cancel]
    have e1 : upd y var t k = y k := by simp only [upd, if_neg hkv]
    rw [e1, upd_upd, ← hyv, upd_self]
  · rintro ⟨x, hx, rfl⟩
    exact affineImageCore_special_sound Rnd.exact_sound hvar hden hx (Or.inr ⟨h1, Or.inl ha⟩)

end PPLV.WR

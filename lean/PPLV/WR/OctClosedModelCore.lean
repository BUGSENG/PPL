import PPLV.WR.OctClosedModelSweep
/-!
# The matrix of `strong_closure_assign` before the emptiness test is closed and coherent (full view)

Given `OctTwoClosed` (two passes of weak steps close a zero-diagonal matrix) and a silent emptiness test, the full view
of `octCore fin n m.e` is `Closed (2n)` and coherent.
-/
namespace PPLV.WR.OCM
open ExtRat

/-- the full view after "fill the diagonal with zeros" is `octFull` -/
theorem fv_diagUp_zero (n : Nat) (m : Mat) :
    EqOn (2 * n) (fv (Mat.diagUp (2 * n) (fin 0) m)) { f := octFull m } := by
  intro i j hi hj
  show (Mat.diagUp (2 * n) (fin 0) m).mAt i j = octFull m i j
  unfold octFull
  by_cases hs : j < rowSize i
  · rw [mAt_stored _ hs, Mat.diagUp_apply]
    by_cases hij : i = j
    · rw [if_pos ⟨hij, hi⟩, if_pos hij]
    · rw [if_neg (fun h => hij h.1), if_neg hij, mAt_stored _ hs]
  · have hij : i ≠ j := by
      intro h; subst h; exact hs (by unfold rowSize; omega)
    have hc : cidx j ≠ cidx i := fun h => hij (cidx_inj h).symm
    rw [mAt_unstored _ hs, Mat.diagUp_apply, if_neg (fun h => hc h.1), if_neg hij, mAt_unstored _ hs]

theorem cohM_octFull (N : Nat) (m : Mat) : CohM N { f := octFull m } :=
  fun i j _ _ => octFull_coh m i j

theorem isNeg_false_le {x : ExtRat} (h : x.isNeg = false) : fin 0 ≤ x := by
  cases x with
  | pinf => exact le_pinf _
  | fin q =>
    simp only [isNeg, decide_eq_false_iff_not, not_lt] at h
    exact fin_le_fin.2 h

/-- `octCore` on the full view is `octTwo` of `octFull` -/
theorem fv_octCore (n : Nat) (m : Mat) :
    EqOn (2 * n) (fv (octCore fin n m)) (octTwo n { f := octFull m }) ∧
      CohM (2 * n) (octTwo n { f := octFull m }) := by
  unfold octCore
  exact fv_octLoops (cohM_octFull _ m) (fv_diagUp_zero n m)

/-- exact arithmetic, test silent: the full view of the matrix before "restore `+∞`" is closed and coherent -/
theorem core_closed (hT : OctTwoClosed) {n : Nat} (m : OctM n) (hne : OctM.strongClosureEmpty upId m = false) :
    Closed (2 * n) (fv (octCore fin n m.e)) ∧ CohM (2 * n) (fv (octCore fin n m.e)) := by
  obtain ⟨he, hc⟩ := fv_octCore n m.e
  have hnd := (negDiag_false_iff (2 * n) _).1 hne
  have hcl := hT n { f := octFull m.e } (fun i _ => octFull_self m.e i) (by
    intro i hi
    rw [← he i i hi hi, fv_apply, mAt_stored _ (by unfold rowSize; omega)]
    exact isNeg_false_le (hnd i hi))
  exact ⟨Closed.congr he hcl, hc.congr he⟩

end PPLV.WR.OCM

import PPLV.WR.Trans2LatProofsBase
/-!
# Lattice / dimension operations of `BD_Shape<T>`: what the loop nests compute
-/
namespace PPLV.WR
open ExtRat

/-- a loop nest whose step `(i,j)` rewrites cell `(i,j)` as a function of its current value and touches no other
cell; `loop` is either loop combinator, known through its frame and cell lemmas -/
theorem latLoop2_pointwise {α : Type} {loop : Nat → (Nat → α → α) → α → α}
    (hframe : ∀ (obs : α → ExtRat) {n : Nat} {f : Nat → α → α} {s : α},
      (∀ k s, k < n → obs (f k s) = obs s) → obs (loop n f s) = obs s)
    (hcell : ∀ (obs : α → ExtRat) (Q : α → Prop) {n : Nat} {f : Nat → α → α} {s : α} {v : ExtRat} {k0 : Nat},
      Q s → (∀ k s, k < n → k ≠ k0 → Q s → Q (f k s)) → k0 < n → (∀ s, Q s → obs (f k0 s) = v) →
      (∀ k s, k < n → k ≠ k0 → obs (f k s) = obs s) → obs (loop n f s) = v)
    (get : α → Mat) (Rw : Nat) (C : Nat → Nat) (step : Nat → Nat → α → α)
    (h : Nat → Nat → ExtRat → ExtRat)
    (hhit : ∀ i j s, get (step i j s) i j = h i j (get s i j))
    (hmiss : ∀ i j s a b, ¬ (a = i ∧ b = j) → get (step i j s) a b = get s a b)
    (s0 : α) (a b : Nat) :
    get (loop Rw (fun i s => loop (C i) (fun j s => step i j s) s) s0) a b
      = if a < Rw ∧ b < C a then h a b (get s0 a b) else get s0 a b := by
  have inner_miss : ∀ i s, a ≠ i → get (loop (C i) (fun j s => step i j s) s) a b = get s a b := by
    intro i s hai
    exact hframe (fun s => get s a b) (fun k s _ => hmiss i k s a b (by omega))
  split
  · rename_i hab
    refine hcell (fun s => get s a b) (fun s => get s a b = get s0 a b) rfl ?_ hab.1 ?_ ?_
    · intro k s _ hk hs; rw [inner_miss k s (by omega)]; exact hs
    · intro s hs
      refine hcell (fun s => get s a b) (fun s => get s a b = get s0 a b) hs ?_ hab.2 ?_ ?_
      · intro k s _ hk hs; rw [hmiss a k s a b (by omega)]; exact hs
      · intro s hs; show get (step a b s) a b = _; rw [hhit, hs]
      · intro k s _ hk; exact hmiss a k s a b (by omega)
    · intro k s _ hk; exact inner_miss k s (by omega)
  · rename_i hab
    refine hframe (fun s => get s a b) ?_
    intro i s hi
    by_cases hai : a = i
    · subst hai
      exact hframe (fun s => get s a b) (fun k s hk => hmiss a k s a b (by omega))
    · exact inner_miss i s hai

/-! ## `intersection_assign`, `upper_bound_assign` -/

theorem bdsLatIntersectionLoop_apply (n : Nat) (m1 m2 : Mat) (a b : Nat) :
    (bdsLatIntersectionLoop n m1 m2).1 a b
      = if a < n + 1 ∧ b < n + 1 then minA (m1 a b) (m2 a b) else m1 a b := by
  unfold bdsLatIntersectionLoop
  refine latLoop2_pointwise latLoopDown_frame latLoopDown_cell (fun st : Mat × Bool => st.1) (n+1) (fun _ => n+1)
    (fun i j st => if st.1 i j ≤ m2 i j then st else (st.1.set i j (m2 i j), true))
    (fun i j v => minA v (m2 i j)) ?_ ?_ (m1, false) a b
  · intro i j s
    unfold minA
    split <;> simp
  · intro i j s a b hab
    split
    · rfl
    · simp only [Mat.set_apply, if_neg hab]

theorem bdsLatUpperBoundLoop_apply (n : Nat) (x y : Mat) (a b : Nat) :
    bdsLatUpperBoundLoop n x y a b
      = if a < n + 1 ∧ b < n + 1 then latMaxA (x a b) (y a b) else x a b := by
  unfold bdsLatUpperBoundLoop
  refine latLoop2_pointwise latLoopDown_frame latLoopDown_cell (fun m : Mat => m) (n+1) (fun _ => n+1)
    (fun i j m => if y i j ≤ m i j then m else m.set i j (y i j))
    (fun i j v => latMaxA v (y i j)) ?_ ?_ x a b
  · intro i j s
    unfold latMaxA
    split <;> simp
  · intro i j s a b hab
    split
    · rfl
    · simp only [Mat.set_apply, if_neg hab]

/-! ## `add_space_dimensions_and_project` -/

theorem bdsLatProjectLoop0_apply (k : Nat) (m : Mat) (a b : Nat) :
    loopDown (k + 1) (fun i m => loopDown (k + 1) (fun j m => if i ≠ j then m.set i j (fin 0) else m) m) m a b
      = if a < k + 1 ∧ b < k + 1 then (if a ≠ b then fin 0 else m a b) else m a b := by
  refine latLoop2_pointwise latLoopDown_frame latLoopDown_cell (fun m : Mat => m) (k+1) (fun _ => k+1)
    (fun i j m => if i ≠ j then m.set i j (fin 0) else m)
    (fun i j v => if i ≠ j then fin 0 else v) ?_ ?_ m a b
  · intro i j s
    split <;> simp
  · intro i j s a b hab
    split
    · simp only [Mat.set_apply, if_neg hab]
    · rfl

theorem bdsLatProjectLoop_apply (n k : Nat) (m : Mat) (a b : Nat) :
    loopUp k (fun t m => (m.set (n + 1 + t) 0 (fin 0)).set 0 (n + 1 + t) (fin 0)) m a b
      = if (b = 0 ∧ n + 1 ≤ a ∧ a < n + 1 + k) ∨ (a = 0 ∧ n + 1 ≤ b ∧ b < n + 1 + k) then fin 0
        else m a b := by
  induction k with
  | zero => simp [loopUp]
  | succ k ih =>
    simp only [loopUp, Mat.set_apply, ih]
    grind

/-! ## `concatenate_assign` -/

theorem bdsLatConcatInner_apply (n1 i c : Nat) (y m : Mat) (a b : Nat) :
    loopUp c (fun s m => m.set i (n1 + 1 + s) (y (i - n1) (n1 + 1 + s - n1))) m a b
      = if a = i ∧ n1 + 1 ≤ b ∧ b < n1 + 1 + c then y (i - n1) (b - n1) else m a b := by
  induction c with
  | zero => simp [loopUp]
  | succ c ih =>
    simp only [loopUp, Mat.set_apply, ih]
    grind

theorem bdsLatConcatOuter_apply (n1 n2 c : Nat) (m y : Mat) (a b : Nat) :
    loopUp c (fun t m =>
      let i := n1 + 1 + t
      let m := m.set i 0 (y (i - n1) 0)
      let m := m.set 0 i (y 0 (i - n1))
      loopUp n2 (fun s m => let j := n1 + 1 + s; m.set i j (y (i - n1) (j - n1))) m) m a b
      = if n1 + 1 ≤ a ∧ a < n1 + 1 + c then
          (if b = 0 then y (a - n1) 0
           else if n1 + 1 ≤ b ∧ b < n1 + 1 + n2 then y (a - n1) (b - n1) else m a b)
        else if a = 0 ∧ n1 + 1 ≤ b ∧ b < n1 + 1 + c then y 0 (b - n1) else m a b := by
  induction c with
  | zero =>
    simp only [loopUp]
    rw [if_neg (by omega), if_neg (by omega)]
  | succ c ih =>
    simp only [loopUp]
    rw [bdsLatConcatInner_apply]
    simp only [Mat.set_apply, ih]
    grind

theorem bdsLatConcatLoop_apply (n1 n2 : Nat) (m y : Mat) (a b : Nat) :
    bdsLatConcatLoop n1 n2 m y a b
      = if n1 + 1 ≤ a ∧ a < n1 + 1 + n2 then
          (if b = 0 then y (a - n1) 0
           else if n1 + 1 ≤ b ∧ b < n1 + 1 + n2 then y (a - n1) (b - n1) else m a b)
        else if a = 0 ∧ n1 + 1 ≤ b ∧ b < n1 + 1 + n2 then y 0 (b - n1) else m a b :=
  bdsLatConcatOuter_apply n1 n2 n2 m y a b

end PPLV.WR

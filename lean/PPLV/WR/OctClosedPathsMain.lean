import PPLV.WR.OctClosedPathsPass2
/-!
# Two passes of weak octagonal steps close the matrix (`OctTwoClosed`)

* every entry of every iterate is `+∞` or the weight in the initial matrix of a walk (`OctReal`);
* with a non-negative diagonal after the two passes, the bound by the walks with distinct inner vertices
  (`octTwo_le_simple`) extends to all walks (`octTwo_le_walk`): a closed sub-walk weighs at least the diagonal entry;
* hence the triangle inequality: the two entries are realised by walks, whose concatenation is a walk.
-/
namespace PPLV.WR
open ExtRat

/-- every entry is `+∞` or the weight in `d0` of a walk through vertices `< 2n` -/
def OctReal (n : Nat) (d0 d : Mat) : Prop :=
  ∀ a b, d a b = pinf ∨ ∃ l : List Nat, (∀ v, v ∈ l → v < 2 * n) ∧ d a b = pw d0 a l b

theorem octReal_refl (n : Nat) (d0 : Mat) : OctReal n d0 d0 :=
  fun _ _ => Or.inr ⟨[], fun _ hv => absurd hv List.not_mem_nil, rfl⟩

theorem octReal_step {n h : Nat} {d0 d : Mat} (hh : h < n) (hr : OctReal n d0 d) : OctReal n d0 (octT h d) := by
  intro a b
  rcases octT_cases h d a b with e | ⟨k, hk, e⟩
  · rw [e]; exact hr a b
  · rw [e]
    have hk2 : k < 2 * n := by omega
    rcases hr a k with e1 | ⟨l1, b1, e1⟩
    · left; rw [e1, eadd_pinf_left]
    · rcases hr k b with e2 | ⟨l2, b2, e2⟩
      · left; rw [e2, eadd_pinf_right]
      · right
        refine ⟨l1 ++ k :: l2, fun v hv => ?_, ?_⟩
        · rcases List.mem_append.1 hv with hv | hv
          · exact b1 v hv
          · rcases List.mem_cons.1 hv with rfl | hv
            · exact hk2
            · exact b2 v hv
        · rw [pw_append, e1, e2]

theorem octReal_pass {n : Nat} {d0 d : Mat} (hr : OctReal n d0 d) : OctReal n d0 (octPass n d) :=
  loopUp_ind (fun _ d => OctReal n d0 d) n octT d hr (fun _ ht _ hs => octReal_step ht hs)

/-- with a non-negative diagonal, every entry of the result is below the weight of every walk -/
theorem octTwo_le_walk (n : Nat) (d0 : Mat) (hdiag : ∀ v, v < 2 * n → fin 0 ≤ octTwo n d0 v v) :
    ∀ (m : Nat) (l : List Nat), l.length ≤ m → (∀ v, v ∈ l → v < 2 * n) →
      ∀ a b, octTwo n d0 a b ≤ pw d0 a l b := by
  intro m
  induction m with
  | zero =>
    intro l hl hb a b
    have : l = [] := List.eq_nil_of_length_eq_zero (by omega)
    subst this
    exact octTwo_le_simple n d0 a b [] List.nodup_nil hb
  | succ m ih =>
    intro l hl hb a b
    by_cases hn : l.Nodup
    · exact octTwo_le_simple n d0 a b l hn hb
    · obtain ⟨l1, v, l2, l3, rfl⟩ := not_nodup_split hn
      simp only [List.length_append, List.length_cons] at hl
      have hv : v < 2 * n := hb v (by simp)
      have h2 : fin 0 ≤ pw d0 v l2 v :=
        le_trans' (hdiag v hv) (ih l2 (by omega) (fun u hu => hb u (by simp [hu])) v v)
      have h3 := ih (l1 ++ v :: l3) (by simp only [List.length_append, List.length_cons]; omega)
        (fun u hu => hb u (by
          rcases List.mem_append.1 hu with hu | hu
          · simp [hu]
          · rcases List.mem_cons.1 hu with hu | hu
            · simp [hu]
            · simp [hu])) a b
      rw [pw_append] at h3
      rw [pw_append, pw_append]
      exact le_trans' h3 (eadd_mono (le_rfl' _) (le_eadd_left h2))

/-- two passes of weak steps close a matrix with zero diagonal, when no diagonal entry of the result is negative -/
theorem octTwo_closed : OctTwoClosed := by
  intro n d0 hd0 hdiag
  have hR : OctReal n d0 (octTwo n d0) := octReal_pass (octReal_pass (octReal_refl n d0))
  constructor
  · intro i hi
    have h1 := octTwo_le_simple n d0 i i [] List.nodup_nil (fun _ hv => absurd hv List.not_mem_nil)
    rw [pw_nil, hd0 i hi] at h1
    exact DBM.le_antisymm' h1 (hdiag i hi)
  · intro i j k _ _ hk
    rcases hR i k with e1 | ⟨l1, b1, e1⟩
    · rw [e1, eadd_pinf_left]; exact le_pinf _
    · rcases hR k j with e2 | ⟨l2, b2, e2⟩
      · rw [e2, eadd_pinf_right]; exact le_pinf _
      · rw [e1, e2, ← pw_append]
        refine octTwo_le_walk n d0 hdiag _ (l1 ++ k :: l2) (Nat.le_refl _) (fun v hv => ?_) i j
        rcases List.mem_append.1 hv with hv | hv
        · exact b1 v hv
        · rcases List.mem_cons.1 hv with rfl | hv
          · exact hk
          · exact b2 v hv

end PPLV.WR

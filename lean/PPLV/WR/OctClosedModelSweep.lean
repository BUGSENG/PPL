import PPLV.WR.OctClosedBase
import PPLV.WR.ReduceOctProofsBase
/-!
# `strong_closure_assign` on the full view: one outer iteration is the weak step `octT`

Helper namespace `PPLV.WR.OCM`.  Generic "sweep over the stored cells" loop lemmas (`row_spec`, `rows_spec`), the
value every stored cell holds after one iteration of the outer loop (`octClosureK_cell`), coherence of matrices on an
index range (`CohM`), and `fv_octLoops`: on the full view `fv m = m.mAt`, the loop nest of the code is `octTwo`.
-/
namespace PPLV.WR.OCM
open ExtRat

/-! ## generic sweeps -/

/-- a loop over the cells `(i, 0), …, (i, r-1)` of row `i`, every step writing (at most) its own cell -/
theorem row_spec (i r : Nat) (f : Nat → Mat → Mat) (I : Mat → Prop) (s0 : Mat) (g : Nat → ExtRat)
    (hcell : ∀ j s, j < r → I s → s i j = s0 i j →
      I (f j s) ∧ f j s i j = g j ∧ (∀ a b, ¬(a = i ∧ b = j) → f j s a b = s a b))
    (hI0 : I s0) :
    I (loopUp r f s0) ∧ (∀ b, b < r → loopUp r f s0 i b = g b) ∧
      (∀ a b, ¬(a = i ∧ b < r) → loopUp r f s0 a b = s0 a b) := by
  induction r with
  | zero => exact ⟨hI0, fun b hb => absurd hb (by omega), fun _ _ _ => rfl⟩
  | succ r ih =>
    obtain ⟨h1, h2, h3⟩ := ih (fun j s hj => hcell j s (by omega))
    simp only [loopUp]
    obtain ⟨c1, c2, c3⟩ := hcell r _ (by omega) h1 (h3 i r (by omega))
    refine ⟨c1, fun b hb => ?_, fun a b hab => ?_⟩
    · by_cases hbr : b = r
      · subst hbr; exact c2
      · rw [c3 i b (by omega)]; exact h2 b (by omega)
    · rw [c3 a b (by omega)]; exact h3 a b (by omega)

/-- a loop over the rows, every step writing (at most) the first `rs i` cells of its own row -/
theorem rows_spec (rows : Nat) (rs : Nat → Nat) (F : Nat → Mat → Mat) (I : Mat → Prop) (m0 : Mat)
    (g : Nat → Nat → ExtRat)
    (hrow : ∀ i s, i < rows → I s → (∀ b, b < rs i → s i b = m0 i b) →
      I (F i s) ∧ (∀ b, b < rs i → F i s i b = g i b) ∧ (∀ a b, ¬(a = i ∧ b < rs i) → F i s a b = s a b))
    (hI0 : I m0) :
    I (loopUp rows F m0) ∧ (∀ a b, a < rows → b < rs a → loopUp rows F m0 a b = g a b) ∧
      (∀ a b, ¬(a < rows ∧ b < rs a) → loopUp rows F m0 a b = m0 a b) := by
  induction rows with
  | zero => exact ⟨hI0, fun a b ha => absurd ha (by omega), fun _ _ _ => rfl⟩
  | succ t ih =>
    obtain ⟨h1, h2, h3⟩ := ih (fun i s hi => hrow i s (by omega))
    simp only [loopUp]
    obtain ⟨c1, c2, c3⟩ := hrow t _ (by omega) h1 (fun b hb => h3 t b (by omega))
    refine ⟨c1, fun a b ha hb => ?_, fun a b hab => ?_⟩
    · by_cases hat : a = t
      · subst hat; exact c2 b hb
      · rw [c3 a b (by omega)]; exact h2 a b (by omega) hb
    · rw [c3 a b (by rintro ⟨rfl, hb⟩; exact hab ⟨by omega, hb⟩)]
      exact h3 a b (fun ⟨h, hb⟩ => hab ⟨by omega, hb⟩)

/-! ## one iteration of the outer loop, cell by cell -/

/-- the value stored at `(a, b)` by the iteration for the variable `kk` -/
def kval (m : Mat) (kk a b : Nat) : ExtRat :=
  minA (m a b) (minA (eadd (m.mAt (2*kk+1) (cidx a)) (m.mAt (2*kk) b))
    (eadd (m.mAt (2*kk) (cidx a)) (m.mAt (2*kk+1) b)))

theorem octClosureK_cell (dim kk : Nat) (m : Mat) {a b : Nat} (ha : a < 2 * dim) (hb : b < rowSize a) :
    octClosureK fin (2 * dim) (2 * kk) m a b = kval m kk a b := by
  unfold octClosureK
  simp only [vecK_eq, vecCK_eq]
  refine (rows_spec (2 * dim) rowSize _ (fun _ => True) m (kval m kk) ?_ trivial).2.1 a b ha hb
  intro i s hi _ hs
  refine row_spec i (rowSize i) _ (fun _ => True) s (kval m kk i) ?_ trivial
  intro j t hj _ ht
  refine ⟨trivial, ?_, ?_⟩
  · rw [Mat.set_apply, if_pos ⟨rfl, rfl⟩, ht, hs j hj]; rfl
  · intro a b hab; rw [Mat.set_apply, if_neg hab]

/-! ## the full view -/

/-- the full view of a pseudo-triangular matrix (no diagonal override) -/
def fv (m : Mat) : Mat := { f := fun i j => m.mAt i j }

theorem fv_apply (m : Mat) (i j : Nat) : fv m i j = m.mAt i j := rfl

theorem mAt_stored (m : Mat) {i j : Nat} (h : j < rowSize i) : m.mAt i j = m i j := by
  unfold Mat.mAt; rw [if_pos h]

theorem mAt_unstored (m : Mat) {i j : Nat} (h : ¬ j < rowSize i) : m.mAt i j = m (cidx j) (cidx i) := by
  unfold Mat.mAt; rw [if_neg h]

/-- coherence on the first `N` indices -/
def CohM (N : Nat) (d : Mat) : Prop := ∀ i j, i < N → j < N → d i j = d (cidx j) (cidx i)

/-- equality on the first `N` indices -/
def EqOn (N : Nat) (d d' : Mat) : Prop := ∀ i j, i < N → j < N → d i j = d' i j

theorem EqOn.symm {N : Nat} {d d' : Mat} (h : EqOn N d d') : EqOn N d' d := fun i j hi hj => (h i j hi hj).symm

theorem EqOn.trans {N : Nat} {a b c : Mat} (h1 : EqOn N a b) (h2 : EqOn N b c) : EqOn N a c :=
  fun i j hi hj => (h1 i j hi hj).trans (h2 i j hi hj)

theorem CohM.congr {n : Nat} {d d' : Mat} (h : EqOn (2 * n) d' d) (hc : CohM (2 * n) d) : CohM (2 * n) d' := by
  intro i j hi hj
  rw [h i j hi hj, h _ _ (cidx_lt hj) (cidx_lt hi)]
  exact hc i j hi hj

theorem minA_comm (a b : ExtRat) : minA a b = minA b a := by
  unfold minA
  by_cases h1 : a ≤ b <;> by_cases h2 : b ≤ a
  · rw [if_pos h1, if_pos h2]; exact DBM.le_antisymm' h1 h2
  · rw [if_pos h1, if_neg h2]
  · rw [if_neg h1, if_pos h2]
  · rcases le_total' a b with h | h <;> contradiction

theorem octT_congr {N h : Nat} {d d' : Mat} (he : EqOn N d d') (hh : 2 * h + 1 < N) :
    EqOn N (octT h d) (octT h d') := by
  intro i j hi hj
  rw [octT_apply, octT_apply, he i j hi hj, he i (2*h) hi (by omega), he (2*h) j (by omega) hj,
    he i (2*h+1) hi hh, he (2*h+1) j hh hj]

/-- the weak step keeps coherence -/
theorem octT_coh {n h : Nat} {d : Mat} (hd : CohM (2 * n) d) (hh : h < n) : CohM (2 * n) (octT h d) := by
  intro i j hi hj
  have a1 := hd i j hi hj
  have a2 := hd i (2*h) hi (by omega)
  have a3 := hd (2*h) j (by omega) hj
  have a4 := hd i (2*h+1) hi (by omega)
  have a5 := hd (2*h+1) j (by omega) hj
  rw [cidx_even] at a2 a3
  rw [cidx_odd] at a4 a5
  rw [octT_apply, octT_apply, a1, a2, a3, a4, a5,
    minA_comm (eadd (d (2*h+1) (cidx i)) (d (cidx j) (2*h+1))),
    eadd_comm (d (2*h) (cidx i)), eadd_comm (d (2*h+1) (cidx i))]

/-- one iteration of the outer loop is the weak step on the full view -/
theorem fv_octClosureK {dim kk : Nat} (hkk : kk < dim) {m : Mat} (hc : CohM (2 * dim) (fv m)) :
    EqOn (2 * dim) (fv (octClosureK fin (2 * dim) (2 * kk) m)) (octT kk (fv m)) := by
  have stored : ∀ a b, a < 2 * dim → b < rowSize a →
      octClosureK fin (2 * dim) (2 * kk) m a b = octT kk (fv m) a b := by
    intro a b ha hb
    rw [octClosureK_cell dim kk m ha hb, octT_apply]
    unfold kval
    simp only [fv_apply]
    have e1 : m.mAt (2*kk+1) (cidx a) = m.mAt a (2*kk) := by
      have := hc (2*kk+1) (cidx a) (by omega) (cidx_lt ha)
      simp only [fv_apply, cidx_cidx, cidx_odd] at this; exact this
    have e2 : m.mAt (2*kk) (cidx a) = m.mAt a (2*kk+1) := by
      have := hc (2*kk) (cidx a) (by omega) (cidx_lt ha)
      simp only [fv_apply, cidx_cidx, cidx_even] at this; exact this
    rw [e1, e2, mAt_stored m hb]
  intro i j hi hj
  rw [fv_apply]
  by_cases hs : j < rowSize i
  · rw [mAt_stored _ hs]; exact stored i j hi hs
  · rw [mAt_unstored _ hs, stored _ _ (cidx_lt hj) (swap_stored hs)]
    exact (octT_coh hc hkk i j hi hj).symm

/-- one pass of the code -/
def pass (dim : Nat) (m : Mat) : Mat := loopUp dim (fun kk m => octClosureK fin (2 * dim) (2 * kk) m) m

theorem octLoops_eq (dim : Nat) (m : Mat) : octLoops fin dim m = pass dim (pass dim m) := rfl

theorem fv_pass_aux {dim : Nat} {m d : Mat} (hc : CohM (2 * dim) d) (he : EqOn (2 * dim) (fv m) d)
    (t : Nat) (ht : t ≤ dim) :
    EqOn (2 * dim) (fv (loopUp t (fun kk m => octClosureK fin (2 * dim) (2 * kk) m) m)) (loopUp t octT d) ∧
      CohM (2 * dim) (loopUp t octT d) := by
  induction t with
  | zero => exact ⟨he, hc⟩
  | succ t ih =>
    obtain ⟨h1, h2⟩ := ih (by omega)
    simp only [loopUp]
    exact ⟨(fv_octClosureK (by omega) (h2.congr h1)).trans (octT_congr h1 (by omega)), octT_coh h2 (by omega)⟩

theorem fv_pass {dim : Nat} {m d : Mat} (hc : CohM (2 * dim) d) (he : EqOn (2 * dim) (fv m) d) :
    EqOn (2 * dim) (fv (pass dim m)) (octPass dim d) ∧ CohM (2 * dim) (octPass dim d) :=
  fv_pass_aux hc he dim le_rfl

/-- the loop nest of `strong_closure_assign` is `octTwo` on the full view -/
theorem fv_octLoops {dim : Nat} {m d : Mat} (hc : CohM (2 * dim) d) (he : EqOn (2 * dim) (fv m) d) :
    EqOn (2 * dim) (fv (octLoops fin dim m)) (octTwo dim d) ∧ CohM (2 * dim) (octTwo dim d) := by
  obtain ⟨h1, h2⟩ := fv_pass hc he
  rw [octLoops_eq]
  exact fv_pass h2 h1

end PPLV.WR.OCM

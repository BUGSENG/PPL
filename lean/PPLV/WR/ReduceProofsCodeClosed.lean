import PPLV.WR.ReduceProofsBase
import Mathlib.Tactic.Linarith
/-!
# Reduction (BD shapes): closedness of the stored closure, zero-equivalence is an equivalence
-/
namespace PPLV.WR
open ExtRat (fin pinf)

theorem Closed.congr {R : Nat} {c c' : Mat} (h : ∀ i j, i < R → j < R → c' i j = c i j)
    (hc : Closed R c) : Closed R c' := by
  refine ⟨fun i hi => by rw [h i i hi hi]; exact hc.diag i hi, ?_⟩
  intro i j k hi hj hk
  rw [h i j hi hj, h i k hi hk, h k j hk hj]
  exact hc.tri i j k hi hj hk

theorem DBM.closure_isClosed {n : Nat} (m : DBM n) (hne : DBM.closureEmpty upId m = false) :
    (DBM.closure upId m).IsClosed := by
  have hc := DBM.closure_core_closed m hne
  refine Closed.congr ?_ hc
  intro i j hi hj
  show Mat.diagDown (n+1) (fin 0) (Mat.diagDown (n+1) pinf (bdsCore upId (n+1) m.e)) i j = _
  rw [Mat.diagDown_apply, Mat.diagDown_apply]
  by_cases hij : i = j
  · subst hij
    rw [if_pos ⟨rfl, hi⟩]
    exact (hc.diag i hi).symm
  · rw [if_neg (by omega), if_neg (by omega)]
    rfl

/-! ## zero-equivalence -/

theorem ZEq.refl (c : Mat) (i : Nat) : ZEq c i i := Or.inl rfl

theorem ZEq.symm {c : Mat} {i j : Nat} (h : ZEq c i j) : ZEq c j i := by
  rcases h with h | h
  · exact Or.inl h.symm
  · exact Or.inr (by rw [ExtRat.isAddInv_comm]; exact h)

theorem ZEq.comm {c : Mat} {i j : Nat} : ZEq c i j ↔ ZEq c j i := ⟨ZEq.symm, ZEq.symm⟩

theorem ExtRat.le_fin_inv {x : ExtRat} {v : Rat} (h : x ≤ fin v) : ∃ a, x = fin a ∧ a ≤ v := by
  cases x with
  | fin a => exact ⟨a, rfl, ExtRat.fin_le_fin.1 h⟩
  | pinf => exact absurd h (ExtRat.not_pinf_le_fin v)

theorem eadd_fin (a b : Rat) : eadd (fin a) (fin b) = fin (a + b) := rfl

theorem ZEq.fin_of_ne {m : Mat} {i j : Nat} (h : ZEq m i j) (hne : i ≠ j) :
    ∃ a b, m i j = fin a ∧ m j i = fin b ∧ a + b = 0 := by
  rcases h with h | h
  · exact absurd h hne
  · exact (ExtRat.isAddInv_iff _ _).1 h

theorem ZEq.of_fin {m : Mat} {i j : Nat} {a b : Rat} (h1 : m i j = fin a) (h2 : m j i = fin b)
    (h : a + b = 0) : ZEq m i j :=
  Or.inr ((ExtRat.isAddInv_iff _ _).2 ⟨a, b, h1, h2, h⟩)

section closed
variable {R : Nat} {m : Mat} (hm : Closed R m)
include hm

/-- triangle inequality on finite entries -/
theorem Closed.tri_fin {i j k : Nat} (hi : i < R) (hj : j < R) (hk : k < R)
    {a b : Rat} (h1 : m i k = fin a) (h2 : m k j = fin b) : ∃ v, m i j = fin v ∧ v ≤ a + b := by
  have := hm.tri i j k hi hj hk
  rw [h1, h2, eadd_fin] at this
  exact ExtRat.le_fin_inv this

/-- no negative 2-cycle -/
theorem Closed.cycle_nonneg {i j : Nat} (hi : i < R) (hj : j < R)
    {a b : Rat} (h1 : m i j = fin a) (h2 : m j i = fin b) : 0 ≤ a + b := by
  obtain ⟨v, hv, hle⟩ := hm.tri_fin hi hi hj h1 h2
  rw [hm.diag i hi] at hv
  cases hv; exact hle

/-- on a shortest-path closed matrix zero-equivalence is transitive -/
theorem Closed.zeq_trans {i j k : Nat} (hi : i < R) (hj : j < R) (hk : k < R)
    (h1 : ZEq m i j) (h2 : ZEq m j k) : ZEq m i k := by
  by_cases e1 : i = j
  · subst e1; exact h2
  by_cases e2 : j = k
  · subst e2; exact h1
  by_cases e3 : i = k
  · exact Or.inl e3
  obtain ⟨a, a', ha, ha', hs1⟩ := h1.fin_of_ne e1
  obtain ⟨b, b', hb, hb', hs2⟩ := h2.fin_of_ne e2
  obtain ⟨v, hv, hle⟩ := hm.tri_fin hi hk hj ha hb
  obtain ⟨w, hw, hle'⟩ := hm.tri_fin hk hi hj hb' ha'
  have := hm.cycle_nonneg hi hk hv hw
  exact ZEq.of_fin hv hw (by linarith only [hs1, hs2, hle, hle', this])

end closed

/-- zero-equivalence does not see the diagonal -/
theorem ZEq.diagDown_iff {k : Nat} {v : ExtRat} {c : Mat} {i j : Nat} :
    ZEq (Mat.diagDown k v c) i j ↔ ZEq c i j := by
  by_cases h : i = j
  · exact ⟨fun _ => Or.inl h, fun _ => Or.inl h⟩
  · unfold ZEq
    rw [Mat.diagDown_apply, Mat.diagDown_apply, if_neg (fun e => h e.1), if_neg (fun e => h e.1.symm)]

theorem ZEq.trans {n : Nat} {c : DBM n} (hc : c.IsClosed) {i j k : Nat} (hi : i ≤ n) (hj : j ≤ n)
    (hk : k ≤ n) (h1 : ZEq c.e i j) (h2 : ZEq c.e j k) : ZEq c.e i k :=
  ZEq.diagDown_iff.1 (Closed.zeq_trans hc (Nat.lt_succ_of_le hi) (Nat.lt_succ_of_le hj) (Nat.lt_succ_of_le hk)
    (ZEq.diagDown_iff.2 h1) (ZEq.diagDown_iff.2 h2))

/-! ## leader maps: the leader is a class invariant -/

theorem IsLeaderMap.eq_iff {n : Nat} {c : DBM n} (hc : c.IsClosed) {lead : Nat → Nat}
    (hL : IsLeaderMap n c.e lead) (i j : Nat) (hi : i ≤ n) (hj : j ≤ n) :
    lead i = lead j ↔ ZEq c.e i j := by
  have hli : lead i ≤ n := Nat.le_trans (hL.le i hi) hi
  have hlj : lead j ≤ n := Nat.le_trans (hL.le j hj) hj
  constructor
  · intro h
    have h1 : ZEq c.e i (lead i) := (hL.zeq i hi).symm
    have h2 : ZEq c.e (lead i) j := by rw [h]; exact hL.zeq j hj
    exact ZEq.trans hc hi hli hj h1 h2
  · intro h
    have a : lead i ≤ lead j := hL.least i (lead j) hi hlj (ZEq.trans hc hlj hj hi (hL.zeq j hj) h.symm)
    have b : lead j ≤ lead i := hL.least j (lead i) hj hli (ZEq.trans hc hli hi hj (hL.zeq i hi) h)
    omega

/-- the leader of a leader -/
theorem IsLeaderMap.lead_lead {n : Nat} {c : DBM n} (hc : c.IsClosed) {lead : Nat → Nat}
    (hL : IsLeaderMap n c.e lead) (i : Nat) (hi : i ≤ n) : lead (lead i) = lead i := by
  have hli : lead i ≤ n := Nat.le_trans (hL.le i hi) hi
  exact (hL.eq_iff hc (lead i) i hli hi).2 (hL.zeq i hi)

end PPLV.WR

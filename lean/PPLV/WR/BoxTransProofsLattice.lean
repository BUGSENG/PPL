import PPLV.WR.BoxTransProofsMaxMin
import PPLV.WR.BoxTransProofsRefine
/-!
# `Box<ITV>`: emptiness query, `unconstrain`, lattice operations, dimensions

Soundness (the result contains what the exact operation contains) of
`is_empty()`, `unconstrain`, `intersection_assign`, `upper_bound_assign`, `difference_assign`,
`concatenate_assign`, `remove_higher_space_dimensions`, for every policy and every sound
directed rounding.
-/
namespace PPLV.WR.BoxT
open PPLV.Interval
open PPLV.Interval.ExtRat (ninf fin pinf)

theorem lat_get_eq_getElem (b : Box) {k : Nat} (hk : k < b.seq.length) : b.get k = b.seq[k] := by
  simp [Box.get, List.getD, hk]

theorem lat_mem_congr {p : Policy} {b : Box} {x y : Nat → Rat} (h : ∀ k, k < b.seq.length → y k = x k)
    (hx : b.mem p x) : b.mem p y :=
  ⟨hx.1, fun k hk => by rw [h k hk]; exact hx.2 k hk⟩

/-- what a `false` answer of `is_empty()` means -/
theorem lat_isEmptyQ_false {p : Policy} {b : Box} (h : (b.isEmptyQ p).1 = false) :
    b.markedEmpty = false ∧ (b.seq.any fun I => isEmpty p I) = false ∧
      (b.isEmptyQ p).2.markedEmpty = false := by
  unfold Box.isEmptyQ Box.checkEmpty at h ⊢
  cases hm : b.markedEmpty
  · simp only [hm, Bool.false_eq_true, if_false] at h ⊢
    cases ha : (b.seq.any fun I => isEmpty p I)
    · simp [Box.setNonempty, Box.markedEmpty]
    · simp [ha] at h
  · simp [hm] at h

/-- what a `true` answer of `is_empty()` means -/
theorem lat_isEmptyQ_true {p : Policy} {b : Box} (h : (b.isEmptyQ p).1 = true) :
    (b.isEmptyQ p).2.markedEmpty = true := by
  unfold Box.isEmptyQ Box.checkEmpty at h ⊢
  cases hm : b.markedEmpty
  · simp only [hm, Bool.false_eq_true, if_false] at h ⊢
    cases ha : (b.seq.any fun I => isEmpty p I)
    · simp [ha] at h
    · simp [Box.setEmpty, Box.markedEmpty]
  · simp [hm]

/-! ## `is_empty()` -/

/-- `is_empty()` answering `true` is right -/
theorem Box.isEmptyQ_true_sound {p : Policy} {b : Box} (h : (b.isEmptyQ p).1 = true) :
    ∀ x, ¬ b.mem p x := fun _ => Box.isEmptyQ_true h

/-- `is_empty()` answering `false` is right when every interval has its bounds on their own
sides (what every interval built by the library satisfies) -/
theorem Box.isEmptyQ_false_complete {p : Policy} {b : Box}
    (hOK : ∀ I ∈ b.seq, I.lo.value ≠ pinf ∧ I.hi.value ≠ ninf)
    (h : (b.isEmptyQ p).1 = false) : ∃ x, b.mem p x := by
  obtain ⟨hm, hany, _⟩ := lat_isEmptyQ_false h
  rw [List.any_eq_false] at hany
  have hex : ∀ k, ∃ a : Rat, k < b.seq.length → (b.get k).mem p a := by
    intro k
    by_cases hk : k < b.seq.length
    · have hI : b.seq[k] ∈ b.seq := List.getElem_mem hk
      have he : isEmpty p b.seq[k] = false := by simpa using hany _ hI
      obtain ⟨a, ha⟩ := lt_upper_lower_false (hOK _ hI).1 (hOK _ hI).2 he
      exact ⟨a, fun _ => by rw [lat_get_eq_getElem b hk]; exact ha⟩
    · exact ⟨0, fun h => absurd h hk⟩
  choose x hx using hex
  exact ⟨x, hm, hx⟩

/-! ## `unconstrain` -/

theorem unconstrain_sound {cfg : Cfg} {b : Box} {x : Nat → Rat} {v : Nat}
    (hv : v < b.dim) (hx : b.mem cfg.p x) (y : Rat) :
    (unconstrain cfg b v).mem cfg.p (upd x v y) := by
  unfold unconstrain
  rw [hx.1, isEmpty_of_mem (hx.2 v hv)]
  simp only [Bool.false_eq_true, if_false]
  exact Box.mem_setIv hx (mem_universe _ _)

theorem unconstrainSet_go_sound {cfg : Cfg} {y : Nat → Rat} :
    ∀ (vars : List Nat) (b : Box) (x : Nat → Rat), (∀ v ∈ vars, v < b.dim) → b.mem cfg.p x →
      (∀ k, k ∉ vars → y k = x k) → (unconstrainSet.go cfg vars b).mem cfg.p y := by
  intro vars
  induction vars with
  | nil =>
    intro b x _ hx hy
    simp only [unconstrainSet.go]
    exact lat_mem_congr (fun k _ => hy k (by simp)) hx
  | cons v vs ih =>
    intro b x hvars hx hy
    simp only [unconstrainSet.go]
    have hv : v < b.dim := hvars v (by simp)
    rw [isEmpty_of_mem (hx.2 v hv)]
    simp only [Bool.not_false, if_true]
    apply ih (b.setIv v (Iv.universe cfg.p)) (upd x v (y v))
    · intro w hw
      have := hvars w (by simp [hw])
      simpa [Box.dim] using this
    · exact Box.mem_setIv hx (mem_universe _ _)
    · intro k hk
      by_cases hkv : k = v
      · subst hkv; simp
      · rw [upd_other x _ hkv]; exact hy k (by simp [hkv, hk])

theorem unconstrainSet_sound {cfg : Cfg} {b : Box} {x y : Nat → Rat} {vars : List Nat}
    (hvars : ∀ v ∈ vars, v < b.dim) (hx : b.mem cfg.p x) (hy : ∀ k, k ∉ vars → y k = x k) :
    (unconstrainSet cfg b vars).mem cfg.p y := by
  unfold unconstrainSet
  cases vars with
  | nil =>
    simp only [List.isEmpty_nil, if_true]
    exact lat_mem_congr (fun k _ => hy k (by simp)) hx
  | cons v vs =>
    simp only [List.isEmpty_cons, Bool.false_eq_true, if_false, hx.1]
    exact unconstrainSet_go_sound _ b x hvars hx hy

/-! ## `zipIv` -/

@[simp] theorem lat_zipIv_length (f : Iv → Iv → Iv) (xs ys : List Iv) : (zipIv f xs ys).length = xs.length := by
  induction xs generalizing ys with
  | nil => simp [zipIv]
  | cons a as ih => cases ys <;> simp [zipIv, ih]

theorem lat_zipIv_getD (f : Iv → Iv → Iv) : ∀ (xs ys : List Iv) (k : Nat), k < xs.length → k < ys.length →
    (zipIv f xs ys).getD k Iv.empty = f (xs.getD k Iv.empty) (ys.getD k Iv.empty) := by
  intro xs
  induction xs with
  | nil => intro ys k hk; simp at hk
  | cons a as ih =>
    intro ys k hk hk2
    cases ys with
    | nil => simp at hk2
    | cons c cs =>
      cases k with
      | zero => simp [zipIv]
      | succ k =>
        simp only [zipIv, List.getD_cons_succ]
        exact ih cs k (by simpa using hk) (by simpa using hk2)

/-! ## `intersection_assign`, `upper_bound_assign` -/

theorem intersectionAssign_sound {cfg : Cfg} {b1 b2 : Box} {x : Nat → Rat} (hS : cfg.Sound)
    (hdim : b1.dim = b2.dim) (h1 : b1.mem cfg.p x) (h2 : b2.mem cfg.p x) :
    (intersectionAssign cfg b1 b2).mem cfg.p x := by
  unfold intersectionAssign
  rw [h1.1, h2.1]
  simp only [Bool.false_eq_true, if_false]
  split_ifs with h0
  · exact h1
  · refine ⟨by simp [Box.resetEmptyUpToDate, Box.markedEmpty], ?_⟩
    intro k hk
    simp only [lat_zipIv_length] at hk
    have hk2 : k < b2.seq.length := by unfold Box.dim at hdim; omega
    show ((zipIv (intersectAssign cfg.p cfg.R) b1.seq b2.seq).getD k Iv.empty).mem cfg.p (x k)
    rw [lat_zipIv_getD _ _ _ _ hk hk2]
    exact intersectAssign_encloses hS.R (h1.2 k hk) (h2.2 k hk2)

theorem upperBoundAssign_sound {cfg : Cfg} {b1 b2 : Box} {x : Nat → Rat} (hS : cfg.Sound)
    (hdim : b1.dim = b2.dim) (h : b1.mem cfg.p x ∨ b2.mem cfg.p x) :
    (upperBoundAssign cfg b1 b2).mem cfg.p x := by
  unfold upperBoundAssign
  simp only []
  cases hey : (b2.isEmptyQ cfg.p).1
  · simp only [Bool.false_eq_true, if_false]
    cases hex : (b1.isEmptyQ cfg.p).1
    · simp only [Bool.false_eq_true, if_false]
      obtain ⟨_, _, hm1⟩ := lat_isEmptyQ_false hex
      refine ⟨by simpa [Box.markedEmpty] using hm1, ?_⟩
      intro k hk
      simp only [lat_zipIv_length, Box.isEmptyQ_seq] at hk
      have hk2 : k < b2.seq.length := by unfold Box.dim at hdim; omega
      show ((zipIv (joinAssign cfg.p cfg.R) (b1.isEmptyQ cfg.p).2.seq (b2.isEmptyQ cfg.p).2.seq).getD k
        Iv.empty).mem cfg.p (x k)
      rw [Box.isEmptyQ_seq, Box.isEmptyQ_seq, lat_zipIv_getD _ _ _ _ hk hk2]
      apply joinAssign_encloses hS.R
      rcases h with h | h
      · exact Or.inl (h.2 k hk)
      · exact Or.inr (h.2 k hk2)
    · simp only [if_true]
      rcases h with h | h
      · exact absurd h (Box.isEmptyQ_true_sound hex x)
      · exact (Box.isEmptyQ_of_mem h).2.1
  · simp only [if_true]
    rcases h with h | h
    · exact h
    · exact absurd h (Box.isEmptyQ_true_sound hey x)

/-! ## `difference_assign` -/

theorem lat_take2_nil {l : List Nat} (h : l.take 2 = []) : l = [] := by
  cases l with
  | nil => rfl
  | cons a as => simp at h

theorem lat_take2_singleton {l : List Nat} {i : Nat} (h : l.take 2 = [i]) : l = [i] := by
  match l, h with
  | [a], h => simpa using h
  | a :: c :: as, h => simp at h

theorem lat_mem_nonContained_bad {p : Policy} {xs ys : List Iv} {k : Nat} (hk : k < xs.length)
    (hc : contains p (ys.getD k Iv.empty) (xs.getD k Iv.empty) = false) :
    k ∈ ((List.range xs.length).reverse.filter
      (fun i => !contains p (ys.getD i Iv.empty) (xs.getD i Iv.empty))) := by
  rw [List.mem_filter]
  exact ⟨by simp [hk], by rw [hc]; rfl⟩

/-- a point outside a box that is neither marked nor detected empty misses one interval -/
theorem lat_exists_not_mem_coord {p : Policy} {b : Box} {x : Nat → Rat} (hm : b.markedEmpty = false)
    (h : ¬ b.mem p x) : ∃ k, k < b.seq.length ∧ ¬ (b.get k).mem p (x k) := by
  by_contra hc
  apply h
  refine ⟨hm, fun k hk => ?_⟩
  by_contra hk2
  exact hc ⟨k, hk, hk2⟩

theorem differenceAssign_sound {cfg : Cfg} {b1 b2 : Box} {x : Nat → Rat} (hS : cfg.Sound)
    (hdim : b1.dim = b2.dim) (h1 : b1.mem cfg.p x) (h2 : ¬ b2.mem cfg.p x) :
    (differenceAssign cfg b1 b2).mem cfg.p x := by
  unfold differenceAssign
  simp only []
  obtain ⟨he1, hm1, hs1⟩ := Box.isEmptyQ_of_mem h1
  rw [he1]
  simp only [Bool.false_eq_true, if_false]
  cases hey : (b2.isEmptyQ cfg.p).1
  swap
  · simpa using hm1
  simp only [Bool.false_eq_true, if_false]
  obtain ⟨hmy, _, _⟩ := lat_isEmptyQ_false hey
  obtain ⟨k, hk, hkn⟩ := lat_exists_not_mem_coord hmy h2
  generalize hb : (b1.isEmptyQ cfg.p).2 = b at hm1 hs1 ⊢
  have hlen : b.seq.length = b2.seq.length := by rw [hs1]; exact hdim
  have hkb : k < b.seq.length := by omega
  -- the coordinate `k` lies in the interval difference
  have hdiff : (PPLV.Interval.differenceAssign cfg.p cfg.R (b.get k) (b2.get k)).mem cfg.p (x k) :=
    differenceAssign_encloses hS.R (hm1.2 k hkb) hkn
  have hfin : ∀ i, i = k →
      (if isEmpty cfg.p (PPLV.Interval.differenceAssign cfg.p cfg.R (b.get i) (b2.get i)) = true then
        (b.setIv i (PPLV.Interval.differenceAssign cfg.p cfg.R (b.get i) (b2.get i))).setEmpty
      else b.setIv i (PPLV.Interval.differenceAssign cfg.p cfg.R (b.get i) (b2.get i))).mem cfg.p x := by
    intro i hi
    subst hi
    rw [isEmpty_of_mem hdiff]
    simp only [Bool.false_eq_true, if_false]
    exact Box.mem_setIv_self hm1 hdiff
  split
  · rename_i hd
    unfold Box.dim at hd; omega
  · rename_i hd
    apply hfin
    unfold Box.dim at hd; omega
  · split
    · rename_i hnc
      exfalso
      have hbad := lat_take2_nil hnc
      by_cases hc : contains cfg.p (b2.seq.getD k Iv.empty) (b.seq.getD k Iv.empty) = true
      · exact hkn (contains_sound hc (hm1.2 k hkb))
      · have := lat_mem_nonContained_bad (p := cfg.p) (ys := b2.seq) hkb (by simpa using hc)
        rw [hbad] at this
        simp at this
    · rename_i i hnc
      apply hfin
      have hbad := lat_take2_singleton hnc
      by_cases hc : contains cfg.p (b2.seq.getD k Iv.empty) (b.seq.getD k Iv.empty) = true
      · exact absurd (contains_sound hc (hm1.2 k hkb)) hkn
      · have := lat_mem_nonContained_bad (p := cfg.p) (ys := b2.seq) hkb (by simpa using hc)
        rw [hbad] at this
        exact (List.mem_singleton.1 this).symm
    · exact hm1

/-! ## `concatenate_assign`, `remove_higher_space_dimensions` -/

/-- the `k`-th interval of the concatenation contains the `k`-th coordinate of the concatenated point -/
theorem lat_mem_append {p : Policy} {b1 b2 : Box} {x y : Nat → Rat} (h1 : b1.mem p x) (h2 : b2.mem p y) (k : Nat)
    (hk : k < b1.seq.length + b2.seq.length) :
    ((b1.seq ++ b2.seq).getD k Iv.empty).mem p (if k < b1.dim then x k else y (k - b1.dim)) := by
  by_cases hk1 : k < b1.seq.length
  · simp only [Box.dim, hk1, if_true]
    have := h1.2 k hk1
    simpa [Box.get, List.getD, List.getElem?_append_left hk1] using this
  · simp only [Box.dim, hk1, if_false]
    have hk2 : k - b1.seq.length < b2.seq.length := by omega
    have := h2.2 _ hk2
    simpa [Box.get, List.getD, List.getElem?_append_right (Nat.le_of_not_lt hk1)] using this

theorem concatenateAssign_sound {p : Policy} {b1 b2 : Box} {x y : Nat → Rat}
    (h1 : b1.mem p x) (h2 : b2.mem p y) :
    (concatenateAssign b1 b2).mem p (fun k => if k < b1.dim then x k else y (k - b1.dim)) := by
  unfold concatenateAssign
  simp only [h2.1, Bool.false_eq_true, if_false]
  split_ifs with h0 hm hu
  · exact lat_mem_congr (fun k hk => by simp [Box.dim, hk]) h1
  · rw [h1.1] at hm; simp at hm
  · exact ⟨by simp [Box.resetEmptyUpToDate, Box.markedEmpty], fun k hk =>
      lat_mem_append h1 h2 k (by simpa [Box.resetEmptyUpToDate] using hk)⟩
  · exact ⟨by simpa [Box.markedEmpty] using h1.1, fun k hk => lat_mem_append h1 h2 k (by simpa using hk)⟩

theorem removeHigherSpaceDimensions_sound {cfg : Cfg} {b : Box} {x : Nat → Rat} {nd : Nat}
    (hx : b.mem cfg.p x) :
    (removeHigherSpaceDimensions cfg b nd).mem cfg.p x := by
  unfold removeHigherSpaceDimensions
  split_ifs with h0
  · exact hx
  · obtain ⟨_, hm, hs⟩ := Box.isEmptyQ_of_mem hx
    refine ⟨by simpa [Box.markedEmpty] using hm.1, ?_⟩
    intro k hk
    simp only [hs, List.length_take] at hk
    have hk1 : k < nd := by omega
    have hk2 : k < b.seq.length := by omega
    show (((b.isEmptyQ cfg.p).2.seq.take nd).getD k Iv.empty).mem cfg.p (x k)
    rw [hs]
    have := hx.2 k hk2
    simpa [Box.get, List.getD, List.getElem?_take, hk1] using this

/-- the emptiness detection before the intervals are dropped: an undetected-empty box stays
empty when the contradictory interval is removed -/
theorem removeHigherSpaceDimensions_empty {cfg : Cfg} {b : Box} {nd : Nat}
    (hnd : nd < b.dim) (he : ∃ I ∈ b.seq, isEmpty cfg.p I = true) :
    (removeHigherSpaceDimensions cfg b nd).markedEmpty = true := by
  unfold removeHigherSpaceDimensions
  have h0 : (nd == b.dim) = false := by simpa using Nat.ne_of_lt hnd
  rw [h0]
  simp only [Bool.false_eq_true, if_false]
  have hany : (b.seq.any fun I => isEmpty cfg.p I) = true := by
    rw [List.any_eq_true]; exact he
  show ((b.isEmptyQ cfg.p).2.utd && (b.isEmptyQ cfg.p).2.empty) = true
  unfold Box.isEmptyQ Box.checkEmpty
  rw [hany]
  cases hm : b.markedEmpty
  · simp [Box.setEmpty]
  · simpa [Box.markedEmpty] using hm

/-! ## non-vacuity -/

/-- the rational box `[0,1] × (−∞,+∞)` -/
def latExBox : Box := ⟨[⟨⟨fin 0, false⟩, ⟨fin 1, false⟩⟩, Iv.universe Policy.rational], false, true⟩

theorem latExBox_mem : latExBox.mem Policy.rational (fun _ => 1/2) := by
  refine ⟨rfl, ?_⟩
  intro k hk
  have : k = 0 ∨ k = 1 := by simp [latExBox] at hk; omega
  rcases this with rfl | rfl
  · simp [latExBox, Box.get, Iv.mem, lowerOk, upperOk]; norm_num
  · exact mem_universe _ _

example : (unconstrain Cfg.mpq latExBox 0).mem Policy.rational (upd (fun _ => 1/2) 0 7) :=
  unconstrain_sound (cfg := Cfg.mpq) (by decide) latExBox_mem 7

example : (intersectionAssign Cfg.mpq latExBox latExBox).mem Policy.rational (fun _ => 1/2) :=
  intersectionAssign_sound (cfg := Cfg.mpq) Cfg.mpq_sound rfl latExBox_mem latExBox_mem

example : (upperBoundAssign Cfg.mpq latExBox latExBox).mem Policy.rational (fun _ => 1/2) :=
  upperBoundAssign_sound (cfg := Cfg.mpq) Cfg.mpq_sound rfl (Or.inl latExBox_mem)

/-- the hypothesis of `removeHigherSpaceDimensions_empty` on a box whose only contradictory
interval is the one dropped -/
example : (removeHigherSpaceDimensions Cfg.mpq
    ⟨[Iv.universe Policy.rational, Iv.empty], false, false⟩ 1).markedEmpty = true :=
  removeHigherSpaceDimensions_empty (cfg := Cfg.mpq) (by decide) ⟨Iv.empty, by simp, by decide⟩

example : (Box.isEmptyQ Policy.rational latExBox).1 = false := by decide

example : (unconstrainSet Cfg.mpq latExBox [0]).mem Policy.rational (upd (fun _ => 1/2) 0 7) :=
  unconstrainSet_sound (cfg := Cfg.mpq) (by decide) latExBox_mem
    (by intro k hk; exact upd_other _ _ (by simpa using hk))

/-- `[2,3] × (−∞,+∞)`: the point `(1/2, 1/2)` of `latExBox` is outside -/
def latExBox2 : Box := ⟨[⟨⟨fin 2, false⟩, ⟨fin 3, false⟩⟩, Iv.universe Policy.rational], false, true⟩

example : (differenceAssign Cfg.mpq latExBox latExBox2).mem Policy.rational (fun _ => 1/2) :=
  differenceAssign_sound (cfg := Cfg.mpq) Cfg.mpq_sound rfl latExBox_mem (by
    intro h
    have := (h.2 0 (by decide)).1
    simp [latExBox2, Box.get, lowerOk] at this
    norm_num at this)

example : ∃ z, (concatenateAssign latExBox latExBox).mem Policy.rational z :=
  ⟨_, concatenateAssign_sound latExBox_mem latExBox_mem⟩

example : (removeHigherSpaceDimensions Cfg.mpq latExBox 1).mem Policy.rational (fun _ => 1/2) :=
  removeHigherSpaceDimensions_sound (cfg := Cfg.mpq) latExBox_mem

example : ∃ x, latExBox.mem Policy.rational x :=
  Box.isEmptyQ_false_complete (by
    intro I hI
    simp only [latExBox, List.mem_cons, List.not_mem_nil, or_false] at hI
    rcases hI with rfl | rfl <;> simp [Iv.universe, setUnbounded, infOf]) (by decide)

end PPLV.WR.BoxT

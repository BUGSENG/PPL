import PPLV.WR.BoxTransProofsBase
import Mathlib.Tactic.NormNum
/-!
# `Box<ITV>`: `refine_with_constraint` is NOT sound for `Double_Box`; before /repo dee742e
`propagate_constraint` emptied the box on the tautology `0 == 0`

1. `propagate_constraint_no_check` stores every coefficient `a_i` in the temporary boundary type
   (`assign_r(t_a, a_i, ROUND_DOWN/UP)`) and goes on with the *rounded* coefficient.  The fixed
   direction of that rounding errs on the safe side only for one sign of the bound of `x_i` that the
   coefficient multiplies (for `a_k`: of the numerator it divides); nothing in the code looks at
   that sign.  With `A ∈ [0, +∞)`, `B ∈ [1, 1]` and the constraint `A − 9007199254740993·B ≥ 0`
   (the coefficient `−(2^53 + 1)` is not a `double`; `ROUND_DOWN` stores `−(2^53 + 2)`, the lower
   bound `1` of `B` is positive, so the product is too small and the lower bound of `A` too big) the
   real `Double_Box` answers `A ∈ (9007199254740994, +∞)`: the point `A = 9007199254740993`, `B = 1`
   satisfies the constraint, lies in the box, and is cut away.  The model computes the same interval
   (`fail_compute`, checked by the kernel).  This is why the soundness theorems of
   `BoxTransProofsPropagate.lean` carry the hypothesis `CoeffsExact`.
2. HISTORICAL (repaired by /repo dee742e; KF-C03-64 fixed): the trivial case of
   `propagate_constraint_no_check` called `set_empty()` when the inhomogeneous term is `0` and the type
   is not `NONSTRICT_INEQUALITY`: that includes the EQUALITY `0 == 0`, which every point satisfies.
   `propagateConstraintNoCheckBeforeFix` is the function as it was written.
-/
namespace PPLV.WR.BoxT
open PPLV.Interval
open PPLV.Interval.ExtRat (ninf fin pinf)

/-- `A ∈ [0, +∞)`, `B ∈ [1, 1]` as a `Double_Box` stores it -/
def failBox : Box :=
  ⟨[⟨⟨fin 0, false⟩, ⟨pinf, true⟩⟩, ⟨⟨fin 1, false⟩, ⟨fin 1, false⟩⟩], false, true⟩
/-- `A − 9007199254740993·B ≥ 0` -/
def failCon : Con := ⟨⟨[1, -9007199254740993], 0⟩, .ge⟩
/-- `A = 2^53 + 1`, `B = 1` -/
def failPt : Nat → Rat := fun k => if k = 0 then 9007199254740993 else 1
/-- what the model (and the real library) answers: `A ∈ (9007199254740994, +∞)`, `B ∈ [1, 1]` -/
def failRes : Box :=
  ⟨[⟨⟨fin 9007199254740994, true⟩, ⟨pinf, true⟩⟩, ⟨⟨fin 1, false⟩, ⟨fin 1, false⟩⟩], false, false⟩

theorem failBox_universe_hi : failBox.get 0 = ⟨⟨fin 0, false⟩, (Iv.universe Policy.floating).hi⟩ := by decide +kernel

theorem fail_compute : refineWithConstraint Cfg.dbl failBox failCon = failRes := by decide +kernel

theorem failPt_mem : failBox.mem Cfg.dbl.p failPt := by
  refine ⟨rfl, ?_⟩
  intro k hk
  have hk2 : k < 2 := hk
  rcases k with _ | _ | k
  · constructor
    · show lowerOkV (fin 0) false (9007199254740993 : Rat)
      norm_num
    · show upperOkV pinf true (9007199254740993 : Rat)
      simp
  · constructor
    · show lowerOkV (fin 1) false (1 : Rat)
      norm_num
    · show upperOkV (fin 1) false (1 : Rat)
      norm_num
  · omega

theorem failPt_holds : failCon.holds failPt := by
  show (0 : Rat) ≤ LinExpr.eval ⟨[1, -9007199254740993], 0⟩ failPt
  norm_num [LinExpr.eval, LinExpr.dot, failPt]

theorem failPt_not_mem : ¬ failRes.mem Cfg.dbl.p failPt := by
  intro h
  have h0 := (h.2 0 (by decide)).1
  have : lowerOkV (fin 9007199254740994) true (9007199254740993 : Rat) := h0
  norm_num at this

/-- KF-C03-65: soundness of `refine_with_constraint` fails for `Double_Box` -/
theorem refineWithConstraint_sound_fails :
    ¬ (∀ (b : Box) (c : Con) (x : Nat → Rat), c.e.WF b.dim → b.mem Cfg.dbl.p x → c.holds x →
      (refineWithConstraint Cfg.dbl b c).mem Cfg.dbl.p x) := by
  intro h
  have := h failBox failCon failPt (by simp [LinExpr.WF, failCon, failBox, Box.dim]) failPt_mem failPt_holds
  rw [fail_compute] at this
  exact failPt_not_mem this

theorem not_refineSound_dbl : ¬ RefineSound Cfg.dbl := refineWithConstraint_sound_fails

/-- the coefficient of the witness is indeed not a value of the temporary type -/
theorem failCon_not_coeffsExact : ¬ CoeffsExact Cfg.dbl.TR failCon.e := by
  intro h
  have := (h (-9007199254740993) (by decide)).1
  revert this
  decide +kernel

/-! ### the tautology `0 == 0` (as written before /repo dee742e, KF-C03-64) -/

/-- the old `propagate_constraint_no_check` on the equality `0 == 0` empties the box (all instantiations) -/
theorem propagateConstraintNoCheckBeforeFix_trivialEq (cfg : Cfg) (b : Box) :
    propagateConstraintNoCheckBeforeFix cfg b ⟨⟨[], 0⟩, .eq⟩ = b.setEmpty := rfl

/-- … the repaired one leaves it alone, and empties it on the inconsistent `5 == 0` (which the old one missed) -/
theorem propagateConstraintNoCheck_trivialEq (cfg : Cfg) (b : Box) :
    propagateConstraintNoCheck cfg b ⟨⟨[], 0⟩, .eq⟩ = b ∧ propagateConstraintNoCheck cfg b ⟨⟨[], 5⟩, .eq⟩ = b.setEmpty
      ∧ propagateConstraintNoCheckBeforeFix cfg b ⟨⟨[], 5⟩, .eq⟩ = b := ⟨rfl, rfl, rfl⟩

/-- the two differ on trivial constraints only -/
theorem propagateConstraintNoCheckBeforeFix_eq (cfg : Cfg) (b : Box) (c : Con) (h : c.e.terms ≠ []) :
    propagateConstraintNoCheckBeforeFix cfg b c = propagateConstraintNoCheck cfg b c := by
  unfold propagateConstraintNoCheckBeforeFix propagateConstraintNoCheck
  split
  · rename_i ht; exact absurd ht h
  · rfl

theorem propagateConstraintNoCheck_trivial_eq_before_fix_fails :
    ¬ (∀ (b : Box) (c : Con) (x : Nat → Rat), c.e.WF b.dim → CoeffsExact Cfg.mpq.TR c.e → b.mem Cfg.mpq.p x →
      c.holds x → (propagateConstraintNoCheckBeforeFix Cfg.mpq b c).mem Cfg.mpq.p x) := by
  intro h
  have hm : (Box.univ Policy.rational 1).mem Cfg.mpq.p (fun _ => 0) := by
    refine ⟨rfl, fun k hk => ?_⟩
    have hk1 : k < 1 := hk
    have : k = 0 := by omega
    subst this
    exact ⟨trivial, trivial⟩
  have := h (Box.univ Policy.rational 1) ⟨⟨[], 0⟩, .eq⟩ (fun _ => 0) (by simp [LinExpr.WF])
    (fun a ha => by simp at ha) hm
    (by show LinExpr.eval ⟨[], 0⟩ _ = 0; simp [LinExpr.eval, LinExpr.dot])
  exact absurd this.1 (by decide)

end PPLV.WR.BoxT

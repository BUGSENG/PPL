import PPLV.WR.ClosureProofsFW
/-!
# Adding one constraint to a shortest-path closed matrix (incremental closure, exact arithmetic)

`Mat.addEdge c a b w` is the matrix `c` tightened by the constraint `p b - p a ≤ w`:
`c' u v = min (c u v) (c u a + w + c b v)`.  When the new constraint does not close a negative cycle
(`0 ≤ w + c b a`) the result is again `Closed`, lies below `c` and its entry `(a, b)` is at most `w`.
(Used by `ReduceProofsUBCompleteMain.lean` to build a point of the join outside both operands.)
-/
namespace PPLV.WR
open ExtRat

/-- `c` tightened by `p b - p a ≤ w` -/
def Mat.addEdge (c : Mat) (a b : Nat) (w : Rat) : Mat :=
  { f := fun u v => minA (c u v) (eadd (c u a) (eadd (fin w) (c b v))) }

theorem Mat.addEdge_apply (c : Mat) (a b : Nat) (w : Rat) (u v : Nat) :
    c.addEdge a b w u v = minA (c u v) (eadd (c u a) (eadd (fin w) (c b v))) := rfl

theorem Mat.addEdge_le (c : Mat) (a b : Nat) (w : Rat) (u v : Nat) : c.addEdge a b w u v ≤ c u v :=
  minA_le_left _ _

/-! ### the four cases of the triangle inequality, on bare extended rationals -/

/-- the path through the new edge, prolonged on the left -/
theorem addEdge_aux_l {A B C D : ExtRat} (w : Rat) (T : A ≤ eadd C D) :
    eadd A (eadd (fin w) B) ≤ eadd C (eadd D (eadd (fin w) B)) := by
  rw [← eadd_assoc C D]
  exact eadd_mono T (le_rfl' _)

/-- the path through the new edge, prolonged on the right -/
theorem addEdge_aux_r {A B C D : ExtRat} (w : Rat) (T : B ≤ eadd C D) :
    eadd A (eadd (fin w) B) ≤ eadd (eadd A (eadd (fin w) C)) D := by
  rw [eadd_assoc A, eadd_assoc (fin w)]
  exact eadd_mono (le_rfl' _) (eadd_mono (le_rfl' _) T)

/-- the cycle through the new edge and any `C`, `D` with `E ≤ C + D` has non-negative weight -/
theorem addEdge_cycle {C D E : ExtRat} (w : Rat) (T : E ≤ eadd C D) (H : fin 0 ≤ eadd (fin w) E) :
    fin 0 ≤ eadd (fin w) (eadd C D) :=
  le_trans' H (eadd_mono (le_rfl' _) T)

/-- both halves use the new edge: the middle part is a cycle through it, of non-negative weight -/
theorem addEdge_aux_2 {A B C D E : ExtRat} (w : Rat) (T : E ≤ eadd C D) (H : fin 0 ≤ eadd (fin w) E) :
    eadd A (eadd (fin w) B) ≤ eadd (eadd A (eadd (fin w) C)) (eadd D (eadd (fin w) B)) := by
  have := eadd_mono (le_rfl' A) (le_eadd_left (b := eadd (fin w) B) (addEdge_cycle w T H))
  simpa only [eadd_assoc] using this

/-- the cycle `u → a → b → u` through the new edge has non-negative weight -/
theorem addEdge_aux_d {C D E : ExtRat} (w : Rat) (T : E ≤ eadd C D) (H : fin 0 ≤ eadd (fin w) E) :
    fin 0 ≤ eadd D (eadd (fin w) C) := by
  rw [eadd_comm, eadd_assoc]
  exact addEdge_cycle w T H

/-- compatibility of a lower bound `q ≤ p_b - p_a` with the entry `(a, b)` -/
theorem fin_zero_le_eadd_neg {q : Rat} {e : ExtRat} (h : fin q ≤ e) : fin 0 ≤ eadd (fin (-q)) e := by
  cases e with
  | pinf => exact le_pinf _
  | fin u => exact fin_le_fin.2 (by linarith [fin_le_fin.1 h])

/-- a lower bound on `A + B` read as a lower bound on the path `B - q + A` -/
theorem fin_le_path {p q : Rat} {A B : ExtRat} (h : fin (p + q) ≤ eadd A B) :
    fin p ≤ eadd B (eadd (fin (-q)) A) := by
  cases A <;> cases B <;> try exact le_pinf _
  exact fin_le_fin.2 (by linarith [fin_le_fin.1 h])

/-- **incremental closure**: a closed matrix tightened by a compatible constraint is closed -/
theorem Closed.addEdge {R : Nat} {c : Mat} (hc : Closed R c) {a b : Nat} (ha : a < R) (hb : b < R)
    (w : Rat) (hw : fin 0 ≤ eadd (fin w) (c b a)) : Closed R (c.addEdge a b w) := by
  refine ⟨fun u hu => ?_, fun u v t hu hv ht => ?_⟩
  · rw [Mat.addEdge_apply, hc.diag u hu]
    exact minA_eq_left (addEdge_aux_d w (hc.tri b a u hb ha hu) hw)
  · rw [Mat.addEdge_apply c a b w u t, Mat.addEdge_apply c a b w t v]
    rcases minA_cases (c u t) (eadd (c u a) (eadd (fin w) (c b t))) with e1 | e1 <;>
      rcases minA_cases (c t v) (eadd (c t a) (eadd (fin w) (c b v))) with e2 | e2 <;> rw [e1, e2]
    · exact le_trans' (minA_le_left _ _) (hc.tri u v t hu hv ht)
    · exact le_trans' (minA_le_right _ _) (addEdge_aux_l w (hc.tri u a t hu ha ht))
    · exact le_trans' (minA_le_right _ _) (addEdge_aux_r w (hc.tri b v t hb hv ht))
    · exact le_trans' (minA_le_right _ _) (addEdge_aux_2 w (hc.tri b a t hb ha ht) hw)

/-- the new constraint holds in the tightened matrix -/
theorem Closed.addEdge_edge {R : Nat} {c : Mat} (hc : Closed R c) {a b : Nat} (ha : a < R) (hb : b < R)
    (w : Rat) : c.addEdge a b w a b ≤ fin w := by
  refine le_trans' (minA_le_right _ _) ?_
  rw [hc.diag a ha, hc.diag b hb]
  simp [eadd, addUp]

end PPLV.WR

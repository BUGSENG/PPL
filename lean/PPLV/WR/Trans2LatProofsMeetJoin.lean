import PPLV.WR.Trans2LatProofsLoops
/-!
# Lattice / dimension operations of `BD_Shape<T>`: intersection, upper bound (soundness), embed, project,
remove_higher (soundness)
-/
namespace PPLV.WR
open ExtRat

theorem latGammaB_congr {n : Nat} {m : Mat} {x y : Nat → Rat} (h : ∀ i, i < n → x i = y i)
    (hx : x ∈ γB n m) : y ∈ γB n m := by
  have hv : ∀ a, a ≤ n → DBM.val y a = DBM.val x a := by
    intro a ha
    cases a with
    | zero => rfl
    | succ a => simp only [DBM.val]; exact (h a (by omega)).symm
  intro a b hab
  rw [hv a (by have := hab.1; omega), hv b (by have := hab.2; omega)]
  exact hx a b hab

theorem latGammaB_mono {n : Nat} {m m' : Mat} (h : ∀ a b, a ≤ n → b ≤ n → m a b ≤ m' a b)
    {x : Nat → Rat} (hx : x ∈ γB n m) : x ∈ γB n m' := by
  intro a b hab
  exact le_trans' (hx a b hab) (h a b (by have := hab.1; omega) (by have := hab.2; omega))

theorem latGammaB_restrict {n k : Nat} (hk : k ≤ n) {m : Mat} {x : Nat → Rat} (hx : x ∈ γB n m) :
    x ∈ γB k m := by
  intro a b hab
  exact hx a b ⟨by have := hab.1; omega, by have := hab.2; omega⟩

/-! ## `intersection_assign` -/

theorem bdsLatIntersectionLoop_gamma (n : Nat) (m1 m2 : Mat) (x : Nat → Rat) :
    x ∈ γB n (bdsLatIntersectionLoop n m1 m2).1 ↔ x ∈ γB n m1 ∧ x ∈ γB n m2 :=
  latHolds_minA (fun a b hab => by rw [bdsLatIntersectionLoop_apply, if_pos ⟨hab.1, hab.2⟩])

theorem bdsLatIntersection_sound (R : Rnd) (n : Nat) (c1 c2 : Bool) (m1 m2 : Mat) {x : Nat → Rat}
    (h1 : x ∈ γB n m1) (h2 : x ∈ γB n m2) :
    ∃ r, bdsLatIntersection R n c1 m1 c2 m2 = some r ∧ r.dim = n ∧ x ∈ γB n r.m := by
  unfold bdsLatIntersection
  split
  · exact ⟨_, rfl, rfl, h1⟩
  · exact ⟨_, rfl, rfl, (bdsLatIntersectionLoop_gamma n m1 m2 x).2 ⟨h1, h2⟩⟩

/-- `intersection_assign` is exact for every bound type: no arithmetic is performed -/
theorem bdsLatIntersection_exact (R : Rnd) (n : Nat) (c1 c2 : Bool) (m1 m2 : Mat) (hd2 : bdsLatDiag n m2) :
    ∃ r, bdsLatIntersection R n c1 m1 c2 m2 = some r ∧ r.dim = n ∧
      ∀ x, x ∈ γB n r.m ↔ (x ∈ γB n m1 ∧ x ∈ γB n m2) := by
  unfold bdsLatIntersection
  split
  · rename_i hn
    subst hn
    refine ⟨_, rfl, rfl, fun x => ⟨fun h => ⟨h, ?_⟩, fun h => h.1⟩⟩
    intro a b hab
    have ha : a = 0 := by have := hab.1; omega
    have hb : b = 0 := by have := hab.2; omega
    subst ha; subst hb
    rw [hd2 0 (le_refl _)]; exact le_pinf _
  · exact ⟨_, rfl, rfl, bdsLatIntersectionLoop_gamma n m1 m2⟩

/-! ## `upper_bound_assign` -/

theorem bdsLatUpperBoundLoop_gamma {n : Nat} {x y : Mat} {p : Nat → Rat} (h : p ∈ γB n x ∨ p ∈ γB n y) :
    p ∈ γB n (bdsLatUpperBoundLoop n x y) :=
  latHolds_maxA (fun a b hab => by rw [bdsLatUpperBoundLoop_apply, if_pos ⟨hab.1, hab.2⟩]) h

theorem bdsLatUpperBound_sound {R : Rnd} (hR : R.Sound) (n : Nat) (c1 c2 : Bool) (m1 m2 : Mat)
    {x : Nat → Rat} (h : x ∈ γB n m1 ∨ x ∈ γB n m2) :
    ∃ r, bdsLatUpperBound R n c1 m1 c2 m2 = some r ∧ r.dim = n ∧ x ∈ γB n r.m := by
  unfold bdsLatUpperBound
  rcases h with h | h
  · obtain ⟨x', cx, e1, hx'⟩ := bdsLatClose_sound hR.up_le n c1 m1 h
    cases e2 : bdsLatClose R.up n c2 m2 with
    | none => exact ⟨_, rfl, rfl, h⟩
    | some yc =>
      obtain ⟨y, cy⟩ := yc
      simp only [e1]
      exact ⟨_, rfl, rfl, bdsLatUpperBoundLoop_gamma (Or.inl hx')⟩
  · obtain ⟨y, cy, e2, hy⟩ := bdsLatClose_sound hR.up_le n c2 m2 h
    simp only [e2]
    cases e1 : bdsLatClose R.up n c1 m1 with
    | none => exact ⟨_, rfl, rfl, hy⟩
    | some xc =>
      obtain ⟨x', cx⟩ := xc
      exact ⟨_, rfl, rfl, bdsLatUpperBoundLoop_gamma (Or.inr hy)⟩

/-! ## `add_space_dimensions_and_embed`, `add_space_dimensions_and_project` -/

theorem bdsLatGrow_gamma (n k : Nat) (m : Mat) (z : Nat → Rat) :
    z ∈ γB (n + k) (bdsLatGrow (n + 1) m) ↔ z ∈ γB n m := by
  constructor
  · intro h a b hab
    have := h a b ⟨by have := hab.1; omega, by have := hab.2; omega⟩
    simp only [bdsLatGrow] at this
    rw [if_pos ⟨hab.1, hab.2⟩] at this
    exact this
  · intro h a b hab
    simp only [bdsLatGrow]
    split
    · rename_i hc; exact h a b hc
    · exact le_pinf _

/-- `add_space_dimensions_and_embed(k)`: the new coordinates are unconstrained (every bound type) -/
theorem bdsLatEmbed_spec (R : Rnd) (n : Nat) (c : Bool) (m : Mat) (k : Nat) :
    ∃ r, bdsLatEmbed R n c m k = some r ∧ r.dim = n + k ∧ ∀ z, z ∈ γB (n + k) r.m ↔ z ∈ γB n m := by
  unfold bdsLatEmbed
  split
  · rename_i hk; subst hk
    exact ⟨_, rfl, rfl, fun z => Iff.rfl⟩
  · exact ⟨_, rfl, rfl, fun z => bdsLatGrow_gamma n k m z⟩

theorem latVal_zero {z : Nat → Rat} {n k : Nat} (hz : ∀ i, n ≤ i → i < n + k → z i = 0) {a : Nat}
    (h1 : n + 1 ≤ a) (h2 : a ≤ n + k) : DBM.val z a = 0 := by
  cases a with
  | zero => rfl
  | succ a => simp only [DBM.val]; exact hz a (by omega) (by omega)

/-- `add_space_dimensions_and_project(k)`: the new coordinates are `0` (every bound type) -/
theorem bdsLatProject_spec (R : Rnd) (n : Nat) (c : Bool) (m : Mat) (k : Nat) :
    ∃ r, bdsLatProject R n c m k = some r ∧ r.dim = n + k ∧
      ∀ z, z ∈ γB (n + k) r.m ↔ (z ∈ γB n m ∧ ∀ i, n ≤ i → i < n + k → z i = 0) := by
  unfold bdsLatProject
  split
  · rename_i hk; subst hk
    exact ⟨_, rfl, rfl, fun z => ⟨fun h => ⟨h, fun i h1 h2 => by omega⟩, fun h => h.1⟩⟩
  · rename_i hk
    split
    · rename_i hn; subst hn
      refine ⟨_, rfl, by simp, fun z => ?_⟩
      simp only [Nat.zero_add]
      constructor
      · intro h
        have cell : ∀ a b, a ≤ k → b ≤ k → fin (DBM.val z b - DBM.val z a) ≤
            (if a ≠ b then fin 0 else bdsLatGrow 1 m a b) := by
          intro a b ha hb
          have := h a b ⟨by omega, by omega⟩
          rw [bdsLatProjectLoop0_apply, if_pos ⟨by omega, by omega⟩] at this
          exact this
        constructor
        · intro a b hab
          have ha : a = 0 := by have := hab.1; omega
          have hb : b = 0 := by have := hab.2; omega
          subst ha; subst hb
          have := cell 0 0 (by omega) (by omega)
          simpa [bdsLatGrow] using this
        · intro i _ hi
          have h1 := cell 0 (i+1) (by omega) (by omega)
          have h2 := cell (i+1) 0 (by omega) (by omega)
          rw [if_pos (by omega)] at h1 h2
          simp only [DBM.val, fin_le_fin] at h1 h2
          linarith
      · intro h a b hab
        rw [bdsLatProjectLoop0_apply, if_pos ⟨hab.1, hab.2⟩]
        have hz : ∀ a, a ≤ k → DBM.val z a = 0 := by
          intro a ha
          cases a with
          | zero => rfl
          | succ a => simp only [DBM.val]; exact h.2 a (by omega) (by omega)
        rw [hz a (by have := hab.1; omega), hz b (by have := hab.2; omega)]
        split
        · simp
        · rename_i hab'
          simp only [bdsLatGrow]
          split
          · rename_i hc
            have ha : a = 0 := by omega
            have hb : b = 0 := by omega
            subst ha; subst hb
            have := h.1 0 0 ⟨by omega, by omega⟩
            simpa using this
          · exact le_pinf _
    · rename_i hn
      refine ⟨_, rfl, rfl, fun z => ?_⟩
      have key : ∀ a b, (loopUp k (fun t m => (m.set (n + 1 + t) 0 (fin 0)).set 0 (n + 1 + t) (fin 0))
          (bdsLatGrow (n + 1) m)) a b
          = if (b = 0 ∧ n + 1 ≤ a ∧ a < n + 1 + k) ∨ (a = 0 ∧ n + 1 ≤ b ∧ b < n + 1 + k) then fin 0
            else bdsLatGrow (n+1) m a b := bdsLatProjectLoop_apply n k _
      constructor
      · intro h
        constructor
        · intro a b hab
          have := h a b ⟨by have := hab.1; omega, by have := hab.2; omega⟩
          rw [key, if_neg (by have := hab.1; have := hab.2; omega)] at this
          simp only [bdsLatGrow] at this
          rw [if_pos ⟨hab.1, hab.2⟩] at this
          exact this
        · intro i h1 h2
          have e1 := h 0 (i+1) ⟨by omega, by omega⟩
          have e2 := h (i+1) 0 ⟨by omega, by omega⟩
          rw [key, if_pos (by omega)] at e1 e2
          simp only [DBM.val, fin_le_fin] at e1 e2
          linarith
      · intro h a b hab
        rw [key]
        split
        · rename_i hc
          rcases hc with ⟨rfl, h1, h2⟩ | ⟨rfl, h1, h2⟩
          · rw [latVal_zero h.2 h1 (by omega)]; simp [DBM.val]
          · rw [latVal_zero h.2 h1 (by omega)]; simp [DBM.val]
        · simp only [bdsLatGrow]
          split
          · rename_i hc; exact h.1 a b hc
          · exact le_pinf _

/-! ## `remove_higher_space_dimensions` (soundness) -/

theorem bdsLatRemoveHigher_sound {R : Rnd} (hR : R.Sound) (n : Nat) (c : Bool) (m : Mat) (newDim : Nat)
    (hnd : newDim ≤ n) {x : Nat → Rat} (hx : x ∈ γB n m) :
    ∃ r, bdsLatRemoveHigher R n c m newDim = some r ∧ r.dim = newDim ∧ x ∈ γB newDim r.m := by
  unfold bdsLatRemoveHigher
  split
  · rename_i h; subst h; exact ⟨_, rfl, rfl, hx⟩
  · obtain ⟨m', c', e, hx'⟩ := bdsLatClose_sound hR.up_le n c m hx
    simp only [e]
    exact ⟨_, rfl, rfl, latGammaB_restrict hnd hx'⟩

end PPLV.WR

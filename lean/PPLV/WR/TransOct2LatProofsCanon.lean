import PPLV.WR.TransOct2LatProofsFold
/-!
# `Octagonal_Shape<T>::upper_bound_assign` on matrices that are marked closed and are canonical:
the result is the least octagon
-/
namespace PPLV.WR
open ExtRat

/-- the meaning of the strongly-closed flag in exact arithmetic: the shape has a point and every stored
off-diagonal cell is the least bound of its shape -/
def octLatCanon (n : Nat) (m : Mat) : Prop :=
  (∃ q, q ∈ γO n m) ∧
    ∀ d : Mat, γO n m ⊆ γO n d → ∀ i j, i < 2 * n → j < rowSize i → i ≠ j → m i j ≤ d i j

/-- the entrywise join of two canonical matrices lies in every octagon that contains both -/
theorem octLatUpperBoundLoop_least {n : Nat} {x y d : Mat} (hx : octLatCanon n x) (hy : octLatCanon n y)
    (h1 : γO n x ⊆ γO n d) (h2 : γO n y ⊆ γO n d) : γO n (octLatUpperBoundLoop n x y) ⊆ γO n d := by
  intro p hp a b hab
  have hpab := hp a b hab
  rw [octLatUpperBoundLoop_apply, if_pos ⟨hab.1, hab.2⟩] at hpab
  by_cases hne : a = b
  · subst hne
    obtain ⟨q, hq⟩ := hx.1
    have := h1 hq a a hab
    simpa using this
  · exact le_trans' hpab (latMaxA_le (hx.2 d h1 a b hab.1 hab.2 hne) (hy.2 d h2 a b hab.1 hab.2 hne))

/-- `upper_bound_assign` on two shapes marked strongly closed whose matrices are canonical
(`octLatCanon`): the result is contained in every octagon that contains both -/
theorem octLatUpperBound_least_closed (R : Rnd) (n : Nat) (m1 m2 : Mat) (hc1 : octLatCanon n m1)
    (hc2 : octLatCanon n m2) :
    ∃ r, octLatUpperBound R n true m1 true m2 = some r ∧ r.dim = n ∧ r.closed = true ∧
      ∀ d : Mat, γO n m1 ⊆ γO n d → γO n m2 ⊆ γO n d → γO n r.m ⊆ γO n d := by
  unfold octLatUpperBound octLatClose
  simp only [if_true]
  exact ⟨_, rfl, rfl, rfl, fun d h1 h2 => octLatUpperBoundLoop_least hc1 hc2 h1 h2⟩

end PPLV.WR

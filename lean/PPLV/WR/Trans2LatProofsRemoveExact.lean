import PPLV.WR.Trans2LatProofsExact
import Mathlib.Data.List.Nodup
/-!
# Exact arithmetic: `remove_space_dimensions` computes the exact projection
-/
namespace PPLV.WR
open ExtRat

/-! ## the table of source indices -/

theorem bdsLatRemoveSrcs_ge (old : Nat) (vs : List Nat) (src : Nat) :
    ∀ s, s ∈ bdsLatRemoveSrcs old vs src → src ≤ s := by
  induction vs generalizing src with
  | nil =>
    intro s hs
    simp only [bdsLatRemoveSrcs, List.mem_range'_1] at hs
    omega
  | cons v vs ih =>
    intro s hs
    simp only [bdsLatRemoveSrcs, List.mem_append, List.mem_range'_1] at hs
    rcases hs with hs | hs
    · omega
    · have := ih _ s hs; omega

theorem bdsLatRemoveSrcs_sorted (old : Nat) (vs : List Nat) (src : Nat) :
    (bdsLatRemoveSrcs old vs src).Pairwise (· < ·) := by
  induction vs generalizing src with
  | nil => simp only [bdsLatRemoveSrcs]; exact List.pairwise_lt_range' 1
  | cons v vs ih =>
    simp only [bdsLatRemoveSrcs]
    rw [List.pairwise_append]
    refine ⟨List.pairwise_lt_range' 1, ih _, ?_⟩
    intro a ha b hb
    have h1 := List.mem_range'_1.1 ha
    have h2 := bdsLatRemoveSrcs_ge old vs _ b hb
    omega

theorem bdsLatRemoveSrcs_length (old : Nat) (vs : List Nat) (src : Nat) :
    old + 1 - src - vs.length ≤ (bdsLatRemoveSrcs old vs src).length := by
  induction vs generalizing src with
  | nil => simp [bdsLatRemoveSrcs]
  | cons v vs ih =>
    simp only [bdsLatRemoveSrcs, List.length_append, List.length_range', List.length_cons]
    have := ih (max src (v + 1) + 1)
    omega

theorem bdsLatRemoveTable_sorted (old : Nat) (vars : List Nat) :
    (bdsLatRemoveTable old vars).Pairwise (· < ·) := by
  cases vars with
  | nil => exact List.pairwise_lt_range
  | cons first rest =>
    simp only [bdsLatRemoveTable]
    rw [List.pairwise_append]
    refine ⟨List.pairwise_lt_range, bdsLatRemoveSrcs_sorted old rest _, ?_⟩
    intro a ha b hb
    have h1 := List.mem_range.1 ha
    have h2 := bdsLatRemoveSrcs_ge old rest _ b hb
    omega

theorem bdsLatRemoveTable_length (old : Nat) (vars : List Nat) (hvs : ∀ v, v ∈ vars → v < old) :
    old + 1 - vars.length ≤ (bdsLatRemoveTable old vars).length := by
  cases vars with
  | nil => simp [bdsLatRemoveTable]
  | cons first rest =>
    have hf := hvs first List.mem_cons_self
    simp only [bdsLatRemoveTable, List.length_append, List.length_range, List.length_cons]
    have := bdsLatRemoveSrcs_length old rest (first + 2)
    omega

/-- `remove_space_dimensions(vars)`, exact arithmetic, closure run inside: every point of the result is the image of a
point of the shape (its values on the kept indices extend over the closed core); an empty answer means an empty shape -/
theorem bdsLatRemoveDims_exact (n : Nat) (m : Mat) (hd : bdsLatDiag n m) (vars : List Nat) (hne : vars ≠ [])
    (hvs : ∀ v, v ∈ vars → v < n) :
    match bdsLatRemoveDims Rnd.exact n false m vars with
    | none => γB n m = ∅
    | some r => r.dim = n - vars.length ∧
        ∀ z, z ∈ γB r.dim r.m → ∃ x, x ∈ γB n m ∧ ∀ i, i < r.dim → bdsLatDropPoint n vars x i = z i := by
  unfold bdsLatRemoveDims
  have hie : vars.isEmpty = false := List.isEmpty_eq_false_iff.2 hne
  simp only [hie, Bool.false_eq_true, if_false]
  rw [latExactUp]
  have hn : n ≠ 0 := by
    cases vars with
    | nil => exact absurd rfl hne
    | cons v vs => have := hvs v List.mem_cons_self; omega
  cases e : bdsLatClose upId n false m with
  | none =>
    exact bdsLatClose_none (up := upId) (fun _ => le_rfl' _) e
  | some mc =>
    obtain ⟨m', c'⟩ := mc
    dsimp only
    obtain ⟨hne', rfl⟩ := bdsLatClose_ran hn e
    have hcl := DBM.closure_core_closed (DBM.ofMat n m) hne'
    by_cases h0 : n - vars.length = 0
    · simp only [if_pos h0]
      refine ⟨h0.symm, fun z _ => ?_⟩
      obtain ⟨x, hx⟩ := DBM.closure_nonempty (DBM.ofMat n m) hne'
      exact ⟨x, (latOfMat_sat hd x).1 hx, fun i hi => absurd hi (Nat.not_lt_zero i)⟩
    · simp only [if_neg h0]
      refine ⟨trivial, fun z hz => ?_⟩
      set tbl := bdsLatRemoveTable n vars with htbl
      set k := n - vars.length with hk
      have hsorted : tbl.Pairwise (· < ·) := bdsLatRemoveTable_sorted n vars
      have hlen : k + 1 ≤ tbl.length := by
        have := bdsLatRemoveTable_length n vars hvs; rw [← htbl] at this; omega
      have hle : ∀ s, s ∈ tbl → s ≤ n := bdsLatRemoveTable_mem_le n vars hvs
      -- the potential on the kept indices
      let p : Nat → Rat := fun i => DBM.val z (tbl.idxOf i)
      have hp : ∀ a, a < tbl.length → p (tbl.getD a 0) = DBM.val z a := fun a ha => by
        show DBM.val z (tbl.idxOf (tbl.getD a 0)) = _
        rw [latGetD_idxOf hsorted ha]
      let L := (List.range (k + 1)).map (fun a => tbl.getD a 0)
      have hLmem : ∀ i, i ∈ L → ∃ a, a ≤ k ∧ i = tbl.getD a 0 := by
        intro i hi
        obtain ⟨a, ha, rfl⟩ := List.mem_map.1 hi
        exact ⟨a, by have := List.mem_range.1 ha; omega, rfl⟩
      have hA : Among L p (bdsCore fin (n + 1) (DBM.ofMat n m).e) := by
        intro i hi j hj
        obtain ⟨a, ha, rfl⟩ := hLmem i hi
        obtain ⟨b, hb, rfl⟩ := hLmem j hj
        rw [hp a (by omega), hp b (by omega)]
        by_cases hab : a = b
        · subst hab
          rw [hcl.diag _ (by have := hle _ (latGetD_mem (l := tbl) (a := a) (by omega)); omega)]; simp
        · have hne2 : tbl.getD a 0 ≠ tbl.getD b 0 := fun h => hab (latGetD_inj hsorted (by omega) (by omega) h)
          have := hz a b ⟨by omega, by omega⟩
          change _ ≤ (DBM.closure upId (DBM.ofMat n m)).e (tbl.getD a 0) (tbl.getD b 0) at this
          rw [DBM.closure_offdiag _ hne2] at this
          exact this
      obtain ⟨p', hp1, hp2⟩ := extend_all hcl L (by
        intro i hi
        obtain ⟨a, ha, rfl⟩ := hLmem i hi
        have := hle _ (latGetD_mem (l := tbl) (a := a) (by omega)); omega) p hA (n + 1) (le_refl _)
      have hH := holds_of_among hp2
      have h0L : (0 : Nat) ∈ L := List.mem_map.2 ⟨0, List.mem_range.2 (by omega), bdsLatRemoveTable_zero n vars⟩
      have hp0 : p' 0 = 0 := by
        rw [hp1 0 h0L]
        have := hp 0 (by omega)
        rw [bdsLatRemoveTable_zero n vars] at this
        rw [this]; rfl
      have hv : ∀ a, DBM.val (fun i => p' (i + 1)) a = p' a := by
        intro a; cases a with
        | zero => simp [DBM.val, hp0]
        | succ a => rfl
      refine ⟨fun i => p' (i + 1), latCore_sub hd ?_, ?_⟩
      · intro a b ha hb
        rw [hv, hv]
        exact hH a b ⟨by omega, by omega⟩
      · intro i hi
        show DBM.val (fun i => p' (i + 1)) (tbl.getD (i + 1) 0) = z i
        rw [hv, hp1 _ (List.mem_map.2 ⟨i + 1, List.mem_range.2 (by omega), rfl⟩), hp (i + 1) (by omega)]
        rfl

end PPLV.WR

import PPLV.WR.BoxTransProofsFails
/-!
# `Box<ITV>`: the transformers that refine internally inherit the defect of
`propagate_constraint_no_check` on `Double_Box`

Same receiver and same constraint as `BoxTransProofsFails.lean` (`A ∈ [0,+∞)`, `B ∈ [1,1]`,
`A − (2^53+1)·B ≥ 0`), reached through `generalized_affine_image(lhs, ≤, rhs)` with the constant
lhs `0`, `generalized_affine_preimage(lhs, ≤, rhs)` with the constant lhs `0`,
`generalized_affine_preimage(C, ≤, rhs, 1)` with `rhs` not mentioning `C`, and
`bounded_affine_image(C, 0, rhs, 1)`.  The real `Double_Box` returns the same boxes (journal lines
W1–W4 recorded in known_findings.json, KF-C03-69…72): the lower bound of `A` becomes the open
`2^53+2`, and the point `A = 2^53+1`, `B = 1` (`C = 0`) of the exact result is lost.
-/
namespace PPLV.WR.BoxT
open PPLV.Interval
open PPLV.Interval.ExtRat (ninf fin pinf)

/-- `A − 9007199254740993·B` -/
def failRhs : LinExpr := ⟨[1, -9007199254740993], 0⟩
/-- the same over three variables -/
def failRhs3 : LinExpr := ⟨[1, -9007199254740993, 0], 0⟩
/-- `A ∈ [0,+∞)`, `B ∈ [1,1]`, `C ∈ [0,0]` -/
def failBox3 : Box :=
  ⟨[⟨⟨fin 0, false⟩, ⟨pinf, true⟩⟩, ⟨⟨fin 1, false⟩, ⟨fin 1, false⟩⟩, ⟨⟨fin 0, false⟩, ⟨fin 0, false⟩⟩], false, true⟩
/-- `A = 2^53+1`, `B = 1`, `C = 0` -/
def failPt3 : Nat → Rat := fun k => if k = 0 then 9007199254740993 else if k = 1 then 1 else 0

/-- the interval of `A` after each of the four calls -/
def cutA : Iv := ⟨⟨fin 9007199254740994, true⟩, ⟨pinf, true⟩⟩

theorem not_mem_of_cutA {b : Box} {x : Nat → Rat} (hlen : 0 < b.seq.length) (h0 : b.get 0 = cutA)
    (hx : x 0 = 9007199254740993) : ¬ b.mem Cfg.dbl.p x := by
  intro h
  have h1 := (h.2 0 hlen).1
  rw [h0, hx] at h1
  have : lowerOkV (fin 9007199254740994) true (9007199254740993 : Rat) := h1
  norm_num at this

theorem failPt3_mem : failBox3.mem Cfg.dbl.p failPt3 := by
  refine ⟨rfl, ?_⟩
  intro k hk
  have hk3 : k < 3 := hk
  rcases k with _ | _ | _ | k
  · constructor
    · show lowerOkV (fin 0) false (9007199254740993 : Rat)
      norm_num
    · show upperOkV pinf true (9007199254740993 : Rat)
      simp
  · constructor
    · show lowerOkV (fin 1) false (1 : Rat)
      norm_num
    · show upperOkV (fin 1) false (1 : Rat)
      norm_num
  · constructor
    · show lowerOkV (fin 0) false (0 : Rat)
      norm_num
    · show upperOkV (fin 0) false (0 : Rat)
      norm_num
  · omega

theorem upd_failPt3 : upd failPt3 2 0 = failPt3 := by
  funext k; by_cases hk : k = 2 <;> simp [upd, hk, failPt3]

theorem failRhs_eval : failRhs.eval failPt = 0 := by
  norm_num [LinExpr.eval, LinExpr.dot, failPt, failRhs]

theorem failRhs3_eval (x : Nat → Rat) (h0 : x 0 = 9007199254740993) (h1 : x 1 = 1) : failRhs3.eval x = 0 := by
  simp [LinExpr.eval, LinExpr.dot, failRhs3, h0, h1]

theorem gaffl_compute : (generalizedAffineImageLhs Cfg.dbl failBox ⟨[], 0⟩ .le failRhs).get 0 = cutA := by
  decide +kernel
theorem gaffl_len : 0 < (generalizedAffineImageLhs Cfg.dbl failBox ⟨[], 0⟩ .le failRhs).seq.length := by
  decide +kernel
theorem gaprel_compute : (generalizedAffinePreimageLhs Cfg.dbl failBox ⟨[], 0⟩ .le failRhs).get 0 = cutA := by
  decide +kernel
theorem gaprel_len : 0 < (generalizedAffinePreimageLhs Cfg.dbl failBox ⟨[], 0⟩ .le failRhs).seq.length := by
  decide +kernel
theorem gapre_compute : (generalizedAffinePreimage Cfg.dbl failBox3 2 .le failRhs3 1).get 0 = cutA := by
  decide +kernel
theorem gapre_len : 0 < (generalizedAffinePreimage Cfg.dbl failBox3 2 .le failRhs3 1).seq.length := by
  decide +kernel
theorem baff_compute : (boundedAffineImage Cfg.dbl failBox3 2 ⟨[0, 0, 0], 0⟩ failRhs3 1).get 0 = cutA := by
  decide +kernel
theorem baff_len : 0 < (boundedAffineImage Cfg.dbl failBox3 2 ⟨[0, 0, 0], 0⟩ failRhs3 1).seq.length := by
  decide +kernel

/-- `generalized_affine_image(lhs, relsym, rhs)` is not sound for `Double_Box` -/
theorem generalizedAffineImageLhs_sound_fails :
    ¬ (∀ (b : Box) (lhs rhs : LinExpr) (rel : Rel) (x y : Nat → Rat), lhs.WF b.dim → rhs.WF b.dim → rel ≠ .ne →
      b.mem Cfg.dbl.p x → AgreeOff lhs x y → Rel.holds rel (lhs.eval y) (rhs.eval x) →
      (generalizedAffineImageLhs Cfg.dbl b lhs rel rhs).mem Cfg.dbl.p y) := by
  intro h
  have := h failBox ⟨[], 0⟩ failRhs .le failPt failPt (by simp [LinExpr.WF]) (by simp [LinExpr.WF, failRhs, failBox, Box.dim])
    (by decide) failPt_mem (fun k _ => rfl) (by
      show LinExpr.eval ⟨[], 0⟩ failPt ≤ failRhs.eval failPt
      rw [failRhs_eval]; simp [LinExpr.eval, LinExpr.dot])
  exact not_mem_of_cutA gaffl_len gaffl_compute (by simp [failPt]) this

/-- `generalized_affine_preimage(lhs, relsym, rhs)` is not sound for `Double_Box` -/
theorem generalizedAffinePreimageLhs_sound_fails :
    ¬ (∀ (b : Box) (lhs rhs : LinExpr) (rel : Rel) (x y : Nat → Rat), lhs.WF b.dim → rhs.WF b.dim → rel ≠ .ne →
      b.mem Cfg.dbl.p y → AgreeOff lhs x y → Rel.holds rel (lhs.eval y) (rhs.eval x) →
      (generalizedAffinePreimageLhs Cfg.dbl b lhs rel rhs).mem Cfg.dbl.p x) := by
  intro h
  have := h failBox ⟨[], 0⟩ failRhs .le failPt failPt (by simp [LinExpr.WF]) (by simp [LinExpr.WF, failRhs, failBox, Box.dim])
    (by decide) failPt_mem (fun k _ => rfl) (by
      show LinExpr.eval ⟨[], 0⟩ failPt ≤ failRhs.eval failPt
      rw [failRhs_eval]; simp [LinExpr.eval, LinExpr.dot])
  exact not_mem_of_cutA gaprel_len gaprel_compute (by simp [failPt]) this

/-- `generalized_affine_preimage(var, relsym, expr, d)` is not sound for `Double_Box` -/
theorem generalizedAffinePreimage_sound_fails :
    ¬ (∀ (b : Box) (v : Nat) (rel : Rel) (e : LinExpr) (den : Int) (x : Nat → Rat) (y : Rat), v < b.dim → e.WF b.dim →
      den ≠ 0 → rel ≠ .ne → b.mem Cfg.dbl.p (upd x v y) → Rel.holds rel y (e.eval x / (den : Rat)) →
      (generalizedAffinePreimage Cfg.dbl b v rel e den).mem Cfg.dbl.p x) := by
  intro h
  have := h failBox3 2 .le failRhs3 1 failPt3 0 (by decide) (by simp [LinExpr.WF, failRhs3, failBox3, Box.dim])
    (by decide) (by decide) (by rw [upd_failPt3]; exact failPt3_mem) (by
      show (0 : Rat) ≤ failRhs3.eval failPt3 / ((1 : Int) : Rat)
      rw [failRhs3_eval failPt3 (by simp [failPt3]) (by simp [failPt3])]; simp)
  exact not_mem_of_cutA gapre_len gapre_compute (by simp [failPt3]) this

/-- `bounded_affine_image(var, lb, ub, d)` is not sound for `Double_Box` -/
theorem boundedAffineImage_sound_fails :
    ¬ (∀ (b : Box) (v : Nat) (lb ub : LinExpr) (den : Int) (x : Nat → Rat) (y : Rat), v < b.dim → lb.WF b.dim →
      ub.WF b.dim → den ≠ 0 → b.mem Cfg.dbl.p x → lb.eval x / (den : Rat) ≤ y → y ≤ ub.eval x / (den : Rat) →
      (boundedAffineImage Cfg.dbl b v lb ub den).mem Cfg.dbl.p (upd x v y)) := by
  intro h
  have := h failBox3 2 ⟨[0, 0, 0], 0⟩ failRhs3 1 failPt3 0 (by decide) (by simp [LinExpr.WF, failBox3, Box.dim])
    (by simp [LinExpr.WF, failRhs3, failBox3, Box.dim]) (by decide) failPt3_mem
    (by simp [LinExpr.eval, LinExpr.dot])
    (by rw [failRhs3_eval failPt3 (by simp [failPt3]) (by simp [failPt3])]; simp)
  rw [upd_failPt3] at this
  exact not_mem_of_cutA baff_len baff_compute (by simp [failPt3]) this

end PPLV.WR.BoxT

import PPLV.WR.TransOct2LatProofsRemove
import PPLV.WR.ReduceOctProofsBase
/-!
# Lattice / dimension operations of `Octagonal_Shape<T>`: expand_space_dimension (what the loops compute)
-/
namespace PPLV.WR
open ExtRat

/-- the body of the outer loop of `expand_space_dimension` -/
def octLatExpandStep (n var t : Nat) (m : Mat) : Mat :=
  let old_num_rows := 2 * n
  let n_var := 2 * var
  let i := old_num_rows + 2 * t
  let ci := i + 1
  let m := m.set i ci (m n_var (n_var + 1))
  let m := m.set ci i (m (n_var + 1) n_var)
  let m := loopUp n_var (fun j m =>
    let m := m.set i j (m n_var j)
    m.set ci j (m (n_var + 1) j)) m
  loopUp (old_num_rows - (n_var + 2)) (fun s m =>
    let j := n_var + 2 + s
    let cj := cidx j
    let m := m.set i j (m cj (n_var + 1))
    m.set ci j (m cj n_var)) m

theorem octLatExpandLoop_eq (n var k : Nat) (m : Mat) :
    octLatExpandLoop n var k m = loopUp k (octLatExpandStep n var) m := rfl

theorem octLatExpandA_apply (i nv c : Nat) (hi : nv + 1 < i) (S : Mat) (a b : Nat) :
    loopUp c (fun j m =>
      let m := m.set i j (m nv j)
      m.set (i + 1) j (m (nv + 1) j)) S a b
      = if a = i ∧ b < c then S nv b else if a = i + 1 ∧ b < c then S (nv + 1) b else S a b := by
  induction c generalizing a b with
  | zero => simp only [loopUp]; rw [if_neg (by omega), if_neg (by omega)]
  | succ c ih =>
    simp only [loopUp]
    generalize loopUp c _ S = T at ih ⊢
    -- the rows read are not the rows written
    have e1 : T nv c = S nv c := by rw [ih, if_neg (by omega), if_neg (by omega)]
    have e2 : T (nv + 1) c = S (nv + 1) c := by rw [ih, if_neg (by omega), if_neg (by omega)]
    simp only [Mat.set_apply, e1, e2, ih a b]
    grind

theorem octLatExpandB_apply (i nv lo c : Nat) (hi : ∀ s, s < c → cidx (lo + s) < i) (S : Mat) (a b : Nat) :
    loopUp c (fun s m =>
      let j := lo + s
      let cj := cidx j
      let m := m.set i j (m cj (nv + 1))
      m.set (i + 1) j (m cj nv)) S a b
      = if a = i ∧ lo ≤ b ∧ b < lo + c then S (cidx b) (nv + 1)
        else if a = i + 1 ∧ lo ≤ b ∧ b < lo + c then S (cidx b) nv else S a b := by
  induction c generalizing a b with
  | zero => simp only [loopUp]; rw [if_neg (by omega), if_neg (by omega)]
  | succ c ih =>
    simp only [loopUp]
    have ih' := ih (fun s hs => hi s (by omega))
    generalize loopUp c _ S = T at ih' ⊢
    have hc := hi c (by omega)
    have e1 : T (cidx (lo + c)) (nv + 1) = S (cidx (lo + c)) (nv + 1) := by
      rw [ih', if_neg (by omega), if_neg (by omega)]
    have e2 : T (cidx (lo + c)) nv = S (cidx (lo + c)) nv := by rw [ih', if_neg (by omega), if_neg (by omega)]
    simp only [Mat.set_apply, e1, e2, ih' a b]
    grind

theorem octLatExpandStep_apply (n var t : Nat) (hvar : var < n) (S : Mat) (a b : Nat) :
    octLatExpandStep n var t S a b
      = if a = 2 * n + 2 * t then
          (if b = 2 * n + 2 * t + 1 then S (2 * var) (2 * var + 1)
           else if b < 2 * var then S (2 * var) b
           else if 2 * var + 2 ≤ b ∧ b < 2 * n then S (cidx b) (2 * var + 1) else S a b)
        else if a = 2 * n + 2 * t + 1 then
          (if b = 2 * n + 2 * t then S (2 * var + 1) (2 * var)
           else if b < 2 * var then S (2 * var + 1) b
           else if 2 * var + 2 ≤ b ∧ b < 2 * n then S (cidx b) (2 * var) else S a b)
        else S a b := by
  unfold octLatExpandStep
  dsimp only
  rw [octLatExpandB_apply (2 * n + 2 * t) (2 * var) (2 * var + 2) (2 * n - (2 * var + 2))
    (by intro s hs; unfold cidx; split <;> omega)]
  have hcb : b < 2 * n → cidx b < 2 * n := by
    intro hb; unfold cidx; split <;> omega
  simp only [octLatExpandA_apply (2 * n + 2 * t) (2 * var) (2 * var) (by omega)]
  simp only [Mat.set_apply]
  generalize cidx b = cb at hcb ⊢
  grind

/-- the cell `(a, b)` of a new row `a`: the row `2 var + a % 2` of `var` in the full view of the old rows of `m` -/
def octLatExpandCell (n var : Nat) (m : Mat) (a b : Nat) : ExtRat :=
  if b = cidx a then m (2 * var + a % 2) (cidx (2 * var + a % 2))
  else if b < 2 * var then m (2 * var + a % 2) b
  else if 2 * var + 2 ≤ b ∧ b < 2 * n then m (cidx b) (cidx (2 * var + a % 2)) else m a b

theorem octLatExpandCell_twin (n var : Nat) (m : Mat) (a : Nat) :
    octLatExpandCell n var m a (cidx a) = m (2 * var + a % 2) (cidx (2 * var + a % 2)) := if_pos rfl

theorem octLatExpandCell_low {n var : Nat} (m : Mat) {a b : Nat} (hvar : var < n) (ha : 2 * n ≤ a)
    (hb : b < 2 * var) : octLatExpandCell n var m a b = m (2 * var + a % 2) b := by
  have := cidx_spec a
  unfold octLatExpandCell
  rw [if_neg (by omega), if_pos hb]

theorem octLatExpandCell_high {n var : Nat} (m : Mat) {a b : Nat} (ha : 2 * n ≤ a) (h1 : 2 * var + 2 ≤ b)
    (h2 : b < 2 * n) : octLatExpandCell n var m a b = m (cidx b) (cidx (2 * var + a % 2)) := by
  have := cidx_spec a
  unfold octLatExpandCell
  rw [if_neg (by omega), if_neg (by omega), if_pos ⟨h1, h2⟩]

theorem octLatExpandCell_else {n var : Nat} (m : Mat) {a b : Nat} (h0 : b ≠ cidx a) (h1 : 2 * var ≤ b)
    (h2 : b < 2 * var + 2 ∨ 2 * n ≤ b) : octLatExpandCell n var m a b = m a b := by
  unfold octLatExpandCell
  rw [if_neg h0, if_neg (by omega), if_neg (by omega)]

theorem octLatExpandLoop_apply (n var k : Nat) (hvar : var < n) (m : Mat) (a b : Nat) :
    octLatExpandLoop n var k m a b
      = if 2 * n ≤ a ∧ a < 2 * n + 2 * k then octLatExpandCell n var m a b else m a b := by
  rw [octLatExpandLoop_eq]
  induction k generalizing a b with
  | zero => simp only [loopUp]; rw [if_neg (by omega)]
  | succ k ih =>
    simp only [loopUp]
    generalize loopUp k _ m = T at ih ⊢
    -- the old rows, the only ones read, are never written
    have hT : ∀ a' b', a' < 2 * n → T a' b' = m a' b' := fun a' b' h => by rw [ih, if_neg (by omega)]
    have hcb : b < 2 * n → cidx b < 2 * n := cidx_lt
    have hca := cidx_spec a
    have hcv := cidx_spec (2 * var + a % 2)
    rw [octLatExpandStep_apply n var k hvar, ih a b]
    unfold octLatExpandCell
    grind

end PPLV.WR

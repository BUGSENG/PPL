import PPLV.WR.BoxTransProofsImage
/-!
# `Box<ITV>`: soundness of `generalized_affine_preimage(var, relsym, expr, denominator)`

`x` is kept whenever some value `y` of `var` with `y ⋈ expr(x)/denominator` gives a point of the
box.  The non-invertible case refines with a constraint on the other variables: its soundness
is the hypothesis `RefineSound cfg` (needed in that case only).
-/
namespace PPLV.WR.BoxT
open PPLV.Interval
open PPLV.Interval.ExtRat (ninf fin pinf)

/-! ## relation symbols -/

theorem Rel.holds_sub {rel : Rel} {a c : Rat} : Rel.holds rel a c ↔ Rel.holds rel 0 (c - a) := by
  cases rel <;> simp only [Rel.holds]
  · constructor <;> intro h <;> linarith
  · constructor <;> intro h <;> linarith
  · constructor <;> intro h <;> linarith
  · constructor <;> intro h <;> linarith
  · constructor <;> intro h <;> linarith
  · constructor
    · intro h h'; exact h (by linarith)
    · intro h h'; exact h (by linarith)

theorem Rel.holds_mul_pos {rel : Rel} {k d : Rat} (hk : 0 < k) (h : Rel.holds rel 0 d) : Rel.holds rel 0 (k * d) := by
  cases rel <;> simp only [Rel.holds] at h ⊢
  · rw [← h]; simp
  · exact mul_pos hk h
  · exact mul_nonneg hk.le h
  · exact mul_neg_of_pos_of_neg hk h
  · exact mul_nonpos_of_nonneg_of_nonpos hk.le h
  · intro h'
    rcases mul_eq_zero.1 h'.symm with h1 | h1
    · exact absurd h1 hk.ne'
    · exact h h1.symm

theorem Rel.holds_mul_neg {rel : Rel} {k d : Rat} (hk : k < 0) (h : Rel.holds rel 0 d) :
    Rel.holds (Rel.reversed rel) 0 (k * d) := by
  cases rel <;> simp only [Rel.holds, Rel.reversed] at h ⊢
  · rw [← h]; simp
  · exact mul_neg_of_neg_of_pos hk h
  · exact mul_nonpos_of_nonpos_of_nonneg hk.le h
  · exact mul_pos_of_neg_of_neg hk h
  · exact mul_nonneg_of_nonpos_of_nonpos hk.le h
  · intro h'
    rcases mul_eq_zero.1 h'.symm with h1 | h1
    · exact absurd h1 hk.ne
    · exact h h1.symm

theorem Rel.holds_mul {rel : Rel} {k d : Rat} (hk : k ≠ 0) (h : Rel.holds rel 0 d) :
    Rel.holds (if 0 < k then rel else Rel.reversed rel) 0 (k * d) := by
  rcases lt_or_gt_of_ne hk with hn | hp
  · rw [if_neg (not_lt.2 hn.le)]; exact Rel.holds_mul_neg hn h
  · rw [if_pos hp]; exact Rel.holds_mul_pos hp h

theorem Rel.reversed_ne_ne {rel : Rel} (h : rel ≠ .ne) : Rel.reversed rel ≠ .ne := by
  cases rel <;> simp [Rel.reversed] at h ⊢

/-- multiplying `y ⋈ E/den` by `den` -/
theorem rel_scale_den {rel : Rel} {den : Int} {y E : Rat} (hd : den ≠ 0) (hy : Rel.holds rel y (E / (den : Rat))) :
    Rel.holds (if den > 0 then rel else Rel.reversed rel) ((den : Rat) * y) E := by
  have hdq : (den : Rat) ≠ 0 := by exact_mod_cast hd
  have e1 : E - (den : Rat) * y = (den : Rat) * (E / (den : Rat) - y) := by field_simp
  rw [Rel.holds_sub, e1]
  simpa using Rel.holds_mul hdq (Rel.holds_sub.1 hy)

theorem intSgn_pos {z : Int} (h : 0 < z) : intSgn z = 1 := by
  unfold intSgn
  rw [if_neg (by omega)]
  have : (z == 0) = false := by simpa using (by omega : z ≠ 0)
  simp [this]

theorem intSgn_neg {z : Int} (h : z < 0) : intSgn z = -1 := by
  unfold intSgn; rw [if_pos h]

/-- `sgn(a) == sgn(b)` of the code: the quotient is positive -/
theorem intSgn_beq_iff {a b : Int} (ha : a ≠ 0) (hb : b ≠ 0) :
    (intSgn a == intSgn b) = true ↔ (0 : Rat) < (a : Rat) / (b : Rat) := by
  rcases lt_or_gt_of_ne ha with han | hap <;> rcases lt_or_gt_of_ne hb with hbn | hbp
  · rw [intSgn_neg han, intSgn_neg hbn]
    exact iff_of_true rfl (div_pos_of_neg_of_neg (by exact_mod_cast han) (by exact_mod_cast hbn))
  · rw [intSgn_neg han, intSgn_pos hbp]
    exact iff_of_false (by decide) (not_lt.2 (div_neg_of_neg_of_pos (by exact_mod_cast han) (by exact_mod_cast hbp)).le)
  · rw [intSgn_pos hap, intSgn_neg hbn]
    exact iff_of_false (by decide) (not_lt.2 (div_neg_of_pos_of_neg (by exact_mod_cast hap) (by exact_mod_cast hbn)).le)
  · rw [intSgn_pos hap, intSgn_pos hbp]
    exact iff_of_true rfl (div_pos (by exact_mod_cast hap) (by exact_mod_cast hbp))

/-! ## the refinement step of the non-invertible case -/

/-- the `switch (corrected_relsym)` of `generalized_affine_preimage(var, …)` (`Box_templates.hh:3722`, non-invertible
case): the constraint added from `max_min(denominator*var)` -/
def gapRefine (cfg : Cfg) (b : Box) (crel : Rel) (mx mn : Option (Rat × Bool)) (e : LinExpr) : Box :=
  match crel with
  | .lt =>
    match mn with
    | some (q, _) => refineWithConstraint cfg b (conLt (LinExpr.const q.num) (e.scale (q.den : Int)))
    | none => b
  | .le =>
    match mn with
    | some (q, incl) =>
      if incl then refineWithConstraint cfg b (conLe (LinExpr.const q.num) (e.scale (q.den : Int)))
      else refineWithConstraint cfg b (conLt (LinExpr.const q.num) (e.scale (q.den : Int)))
    | none => b
  | .ge =>
    match mx with
    | some (q, incl) =>
      if incl then refineWithConstraint cfg b (conGe (LinExpr.const q.num) (e.scale (q.den : Int)))
      else refineWithConstraint cfg b (conGt (LinExpr.const q.num) (e.scale (q.den : Int)))
    | none => b
  | .gt =>
    match mx with
    | some (q, _) => refineWithConstraint cfg b (conGt (LinExpr.const q.num) (e.scale (q.den : Int)))
    | none => b
  | _ => b

theorem gapRefine_sound {cfg : Cfg} (hRef : RefineSound cfg) {b : Box} {crel : Rel} {mx mn : Option (Rat × Bool)}
    {e : LinExpr} {z : Nat → Rat} {t : Rat}
    (hwf : e.WF b.dim) (hz : b.mem cfg.p z) (hcr : Rel.holds crel t (e.eval z))
    (hmx : ∀ q incl, mx = some (q, incl) → t ≤ q ∧ (incl = false → t < q))
    (hmn : ∀ q incl, mn = some (q, incl) → q ≤ t ∧ (incl = false → q < t)) :
    (gapRefine cfg b crel mx mn e).mem cfg.p z := by
  cases crel with
  | eq => exact hz
  | ne => exact hz
  | lt =>
    have hcr' : t < e.eval z := hcr
    rcases mn with _ | ⟨q, incl⟩
    · exact hz
    · exact hRef.lt_scaled hwf hz (lt_of_le_of_lt (hmn q incl rfl).1 hcr')
  | le =>
    have hcr' : t ≤ e.eval z := hcr
    rcases mn with _ | ⟨q, incl⟩
    · exact hz
    · obtain ⟨h1, h2⟩ := hmn q incl rfl
      simp only [gapRefine]
      cases incl
      · exact hRef.lt_scaled hwf hz (lt_of_lt_of_le (h2 rfl) hcr')
      · exact hRef.le_scaled hwf hz (le_trans h1 hcr')
  | ge =>
    have hcr' : e.eval z ≤ t := hcr
    rcases mx with _ | ⟨q, incl⟩
    · exact hz
    · obtain ⟨h1, h2⟩ := hmx q incl rfl
      simp only [gapRefine]
      cases incl
      · exact hRef.gt_scaled hwf hz (lt_of_le_of_lt hcr' (h2 rfl))
      · exact hRef.ge_scaled hwf hz (le_trans hcr' h1)
  | gt =>
    have hcr' : e.eval z < t := hcr
    rcases mx with _ | ⟨q, incl⟩
    · exact hz
    · exact hRef.gt_scaled hwf hz (lt_of_lt_of_le hcr' (hmx q incl rfl).1)

/-! ## `generalized_affine_preimage` -/

theorem generalizedAffinePreimage_eq (cfg : Cfg) (b : Box) (v : Nat) (rel : Rel) (e : LinExpr) (den : Int) :
    generalizedAffinePreimage cfg b v rel e den =
      if rel == .eq then affinePreimage cfg b v e den
      else if e.coeff v != 0 then
        generalizedAffineImage cfg b v
          (if intSgn den == intSgn (-(e.coeff v)) then rel else Rel.reversed rel)
          (e.sub (LinExpr.var (den + e.coeff v) v)) (-(e.coeff v))
      else
        let r1 := maxMin cfg.p b (LinExpr.var den v) true
        let r2 := maxMin cfg.p r1.2 (LinExpr.var den v) false
        let b3 := gapRefine cfg r2.2 (if den > 0 then rel else Rel.reversed rel) r1.1 r2.1 e
        if (b3.isEmptyQ cfg.p).1 then (b3.isEmptyQ cfg.p).2
        else (b3.isEmptyQ cfg.p).2.setIv v (Iv.universe cfg.p) := by
  unfold generalizedAffinePreimage
  refine ite_congr rfl (fun _ => rfl) fun _ => ite_congr rfl (fun _ => rfl) fun _ => ?_
  unfold gapRefine
  rfl

theorem generalizedAffinePreimage_sound {cfg : Cfg} (hS : cfg.Sound) {b : Box} {v : Nat} {rel : Rel} {e : LinExpr}
    {den : Int} {x : Nat → Rat} {y : Rat}
    (hRef : e.coeff v = 0 → rel ≠ .eq → RefineSound cfg)
    (hv : v < b.dim) (hwf : e.WF b.dim) (hd : den ≠ 0) (hrel : rel ≠ .ne)
    (hx : b.mem cfg.p (upd x v y)) (hy : Rel.holds rel y (e.eval x / (den : Rat))) :
    (generalizedAffinePreimage cfg b v rel e den).mem cfg.p x := by
  rw [generalizedAffinePreimage_eq]
  have hdq : (den : Rat) ≠ 0 := by exact_mod_cast hd
  by_cases hr : (rel == .eq) = true
  · rw [if_pos hr]
    obtain rfl : rel = .eq := by simpa using hr
    have hy' : y = e.eval x / (den : Rat) := hy
    rw [hy'] at hx
    exact affinePreimage_sound hS hv hwf hd hx
  · rw [if_neg hr]
    have hreq : rel ≠ .eq := by simpa using hr
    by_cases hc : (e.coeff v != 0) = true
    · -- invertible: the image by the inverse, the relation reversed when `den / (−coeff)` is negative
      rw [if_pos hc]
      have hvc : e.coeff v ≠ 0 := by simpa using hc
      have hvcq : ((e.coeff v : Int) : Rat) ≠ 0 := by exact_mod_cast hvc
      have hval : (e.sub (LinExpr.var (den + e.coeff v) v)).eval (upd x v y) / ((-(e.coeff v) : Int) : Rat)
          = x v + ((den : Rat) / (-(e.coeff v : Rat))) * (e.eval x / (den : Rat) - y) := by
        simp only [LinExpr.eval_sub, LinExpr.eval_var, upd_same]
        rw [LinExpr.eval_upd]
        push_cast
        field_simp
        ring
      have hs : (intSgn den == intSgn (-(e.coeff v))) = true ↔ (0 : Rat) < (den : Rat) / (-(e.coeff v : Rat)) := by
        simpa using intSgn_beq_iff hd (neg_ne_zero.2 hvc)
      have hrel' : (if intSgn den == intSgn (-(e.coeff v)) then rel else Rel.reversed rel) ≠ .ne := by
        split
        · exact hrel
        · exact Rel.reversed_ne_ne hrel
      have hy' : Rel.holds (if intSgn den == intSgn (-(e.coeff v)) then rel else Rel.reversed rel) (x v)
          ((e.sub (LinExpr.var (den + e.coeff v) v)).eval (upd x v y) / ((-(e.coeff v) : Int) : Rat)) := by
        rw [hval, Rel.holds_sub, add_sub_cancel_left]
        simp only [hs]
        exact Rel.holds_mul (div_ne_zero hdq (neg_ne_zero.2 hvcq)) (Rel.holds_sub.1 hy)
      have := generalizedAffineImage_sound hS hv (LinExpr.WF.sub hwf (LinExpr.WF.var _ hv))
        (neg_ne_zero.2 hvc) hrel' hx hy'
      rwa [upd_upd_self] at this
    · rw [if_neg hc]
      have hvc : e.coeff v = 0 := by simpa using hc
      have hR := hRef hvc hreq
      simp only []
      have hdv : (LinExpr.var den v).WF b.dim := LinExpr.WF.var _ hv
      have hz1 : (maxMin cfg.p b (LinExpr.var den v) true).2.mem cfg.p (upd x v y) := maxMin_mem_iff.2 hx
      have hd1 : (maxMin cfg.p b (LinExpr.var den v) true).2.dim = b.dim := maxMin_dim _ _ _ _
      have hz2 : (maxMin cfg.p (maxMin cfg.p b (LinExpr.var den v) true).2 (LinExpr.var den v) false).2.mem cfg.p
          (upd x v y) := maxMin_mem_iff.2 hz1
      have hd2 : (maxMin cfg.p (maxMin cfg.p b (LinExpr.var den v) true).2 (LinExpr.var den v) false).2.dim = b.dim := by
        rw [maxMin_dim, hd1]
      have hdve : (LinExpr.var den v).eval (upd x v y) = (den : Rat) * y := by simp
      have hez : e.eval (upd x v y) = e.eval x := LinExpr.eval_upd_of_coeff_zero hvc
      have hcr := rel_scale_den hd hy
      rw [← hez] at hcr
      have hb3 := gapRefine_sound (cfg := cfg) hR (b := (maxMin cfg.p (maxMin cfg.p b (LinExpr.var den v) true).2
          (LinExpr.var den v) false).2)
        (mx := (maxMin cfg.p b (LinExpr.var den v) true).1)
        (mn := (maxMin cfg.p (maxMin cfg.p b (LinExpr.var den v) true).2 (LinExpr.var den v) false).1)
        (by rw [hd2]; exact hwf) hz2 hcr
        (by
          intro q incl hq
          have := maxMin_sound_max hdv hq hx
          rwa [hdve] at this)
        (by
          intro q incl hq
          have := maxMin_sound_min (by rw [hd1]; exact hdv) hq hz1
          rwa [hdve] at this)
      obtain ⟨h1, h2, h3⟩ := Box.isEmptyQ_of_mem hb3
      rw [h1]
      simp only [Bool.false_eq_true, if_false]
      have := Box.mem_setIv (v := v) h2 (mem_universe cfg.p (x v))
      rwa [upd_upd_self] at this

/-! ## non-vacuity -/

example : (generalizedAffinePreimage Cfg.mpq (Box.univ Policy.rational 2) 0 .le ⟨[2, 1], 0⟩ 1).mem Policy.rational
    (fun _ => 1) :=
  generalizedAffinePreimage_sound (y := 0) Cfg.mpq_sound (fun h => absurd h (by decide)) (by decide)
    (by unfold LinExpr.WF; decide) (by decide) (by decide) (Box.univ_mem _ _ _)
    (by norm_num [Rel.holds, LinExpr.eval, LinExpr.dot])

example (hRef : RefineSound Cfg.mpq) :
    (generalizedAffinePreimage Cfg.mpq (Box.univ Policy.rational 2) 0 .ge ⟨[0, 1], 0⟩ (-3)).mem Policy.rational
    (fun _ => 1) :=
  generalizedAffinePreimage_sound (y := 0) Cfg.mpq_sound (fun _ _ => hRef) (by decide)
    (by unfold LinExpr.WF; decide) (by decide) (by decide) (Box.univ_mem _ _ _)
    (by norm_num [Rel.holds, LinExpr.eval, LinExpr.dot])

end PPLV.WR.BoxT

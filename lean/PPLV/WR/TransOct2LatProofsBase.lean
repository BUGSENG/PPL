import PPLV.WR.TransOct2Lat
import PPLV.WR.TransOctProofsBase
import PPLV.WR.Trans2LatProofsLoops
/-!
# Lattice / dimension operations of `Octagonal_Shape<T>`: index arithmetic (an index as `2 k + s`), closure with
the flag, loop nests, intersection, upper bound (soundness), embed, project, remove_higher (soundness)
-/
namespace PPLV.WR
open ExtRat

/-- the class invariant of `Octagonal_Shape::OK()` on a raw matrix: `+∞` on the main diagonal -/
def octLatDiag (n : Nat) (m : Mat) : Prop := ∀ i, i < 2 * n → m i i = pinf

theorem octLatDiag_octm {n : Nat} (m : OctM n) : octLatDiag n m.e := m.diag

theorem latOval_add_even (z : Nat → Rat) (k t : Nat) :
    OctM.oval z (2 * k + t) = OctM.oval (fun i => z (k + i)) t := by
  unfold OctM.oval
  have e1 : (2 * k + t) % 2 = t % 2 := by omega
  have e2 : (2 * k + t) / 2 = k + t / 2 := by omega
  rw [e1, e2]

theorem latRowSize_add_even (k t : Nat) : rowSize (2 * k + t) = 2 * k + rowSize t := by
  unfold rowSize; omega

theorem latRowSize_gt (i : Nat) : i < rowSize i := by unfold rowSize; omega
theorem latRowSize_le (i : Nat) : rowSize i ≤ i + 2 := by unfold rowSize; omega

/-! ## an index as `2 k + s`, `s < 2` -/

theorem latIdx_pair (a : Nat) : ∃ k s s', s + s' = 1 ∧ a = 2 * k + s :=
  ⟨a / 2, a % 2, 1 - a % 2, by omega, by omega⟩

theorem rowSize_add {k s : Nat} (hs : s < 2) : rowSize (2 * k + s) = 2 * k + 2 := by
  unfold rowSize; omega

theorem latStored_add {k k' s s' : Nat} (hs : s < 2) (hs' : s' < 2) (h : k' ≤ k) :
    2 * k' + s' < rowSize (2 * k + s) := by
  rw [rowSize_add hs]; omega

theorem cidx_add_one {k s s' : Nat} (hs : s + s' = 1) : cidx (2 * k + s) = 2 * k + s' := by
  unfold cidx; split <;> omega

theorem cidx_half (i : Nat) : cidx i / 2 = i / 2 := by
  unfold cidx; split <;> omega

theorem le_cidx {k i : Nat} (h : 2 * k ≤ i) : 2 * k ≤ cidx i := by
  unfold cidx; split <;> omega

theorem latGammaO_congr {n : Nat} {m : Mat} {x y : Nat → Rat} (h : ∀ i, i < n → x i = y i)
    (hx : x ∈ γO n m) : y ∈ γO n m := by
  have hv : ∀ a, a < 2 * n → OctM.oval y a = OctM.oval x a := by
    intro a ha
    unfold OctM.oval
    rw [h (a / 2) (by omega)]
  intro a b hab
  have hb : b < 2 * n := by have := hab.2; have := rowSize_le hab.1; omega
  rw [hv a hab.1, hv b hb]
  exact hx a b hab

theorem latGammaO_restrict {n k : Nat} (hk : k ≤ n) {m : Mat} {x : Nat → Rat} (hx : x ∈ γO n m) :
    x ∈ γO k m := by
  intro a b hab
  exact hx a b ⟨by have := hab.1; omega, hab.2⟩

/-! ## the closure with the flag -/

theorem octLatClose_sound {up : Rat → ExtRat} (hup : ∀ q, fin q ≤ up q) (n : Nat) (c : Bool) (m : Mat)
    {x : Nat → Rat} (hx : x ∈ γO n m) :
    ∃ m' c', octLatClose up n c m = some (m', c') ∧ x ∈ γO n m' := by
  unfold octLatClose
  split
  · exact ⟨m, true, rfl, hx⟩
  · split
    · exact ⟨m, false, rfl, hx⟩
    · obtain ⟨m', h1, h2⟩ := octCloseFirst_sound hup false (OctM.ofMat n m) (sat_octOfMat hx)
      exact ⟨m', true, by rw [h1]; rfl, h2⟩

/-- on a shape of positive dimension the closure leaves the flag set -/
theorem octLatClose_closed {up : Rat → ExtRat} {n : Nat} (hn : n ≠ 0) {c : Bool} {m m' : Mat} {c' : Bool}
    (h : octLatClose up n c m = some (m', c')) : c' = true := by
  unfold octLatClose at h
  by_cases hc : c = true
  · rw [if_pos hc] at h
    simp only [Option.some.injEq, Prod.mk.injEq] at h; exact h.2.symm
  · rw [if_neg hc, if_neg hn] at h
    cases hf : octCloseFirst up false (OctM.ofMat n m) with
    | none => rw [hf] at h; simp at h
    | some v => rw [hf] at h; simp only [Option.map_some, Option.some.injEq, Prod.mk.injEq] at h; exact h.2.symm

/-! ## `intersection_assign`, `upper_bound_assign` -/

theorem octLatIntersectionLoop_apply (n : Nat) (m1 m2 : Mat) (a b : Nat) :
    (octLatIntersectionLoop n m1 m2).1 a b
      = if a < 2 * n ∧ b < rowSize a then minA (m1 a b) (m2 a b) else m1 a b := by
  unfold octLatIntersectionLoop
  refine latLoop2_pointwise latLoopUp_frame latLoopUp_cell (fun st : Mat × Bool => st.1) (2 * n) rowSize
    (fun i j st => if st.1 i j ≤ m2 i j then st else (st.1.set i j (m2 i j), true))
    (fun i j v => minA v (m2 i j)) ?_ ?_ (m1, false) a b
  · intro i j s
    unfold minA
    split <;> simp
  · intro i j s a b hab
    split
    · rfl
    · simp only [Mat.set_apply, if_neg hab]

theorem octLatUpperBoundLoop_apply (n : Nat) (x y : Mat) (a b : Nat) :
    octLatUpperBoundLoop n x y a b
      = if a < 2 * n ∧ b < rowSize a then latMaxA (x a b) (y a b) else x a b := by
  unfold octLatUpperBoundLoop
  refine latLoop2_pointwise latLoopUp_frame latLoopUp_cell (fun m : Mat => m) (2 * n) rowSize
    (fun i j m => m.set i j (latMaxA (m i j) (y i j)))
    (fun i j v => latMaxA v (y i j)) ?_ ?_ x a b
  · intro i j s; simp
  · intro i j s a b hab
    simp only [Mat.set_apply, if_neg hab]

theorem octLatIntersectionLoop_gamma (n : Nat) (m1 m2 : Mat) (x : Nat → Rat) :
    x ∈ γO n (octLatIntersectionLoop n m1 m2).1 ↔ x ∈ γO n m1 ∧ x ∈ γO n m2 :=
  latHolds_minA (fun a b hab => by rw [octLatIntersectionLoop_apply, if_pos ⟨hab.1, hab.2⟩])

theorem octLatIntersection_sound (R : Rnd) (n : Nat) (c1 c2 : Bool) (m1 m2 : Mat) {x : Nat → Rat}
    (h1 : x ∈ γO n m1) (h2 : x ∈ γO n m2) :
    ∃ r, octLatIntersection R n c1 m1 c2 m2 = some r ∧ r.dim = n ∧ x ∈ γO n r.m := by
  unfold octLatIntersection
  split
  · exact ⟨_, rfl, rfl, h1⟩
  · exact ⟨_, rfl, rfl, (octLatIntersectionLoop_gamma n m1 m2 x).2 ⟨h1, h2⟩⟩

/-- `intersection_assign` is exact for every bound type -/
theorem octLatIntersection_exact (R : Rnd) (n : Nat) (c1 c2 : Bool) (m1 m2 : Mat) :
    ∃ r, octLatIntersection R n c1 m1 c2 m2 = some r ∧ r.dim = n ∧
      ∀ x, x ∈ γO n r.m ↔ (x ∈ γO n m1 ∧ x ∈ γO n m2) := by
  unfold octLatIntersection
  split
  · rename_i hn
    subst hn
    refine ⟨_, rfl, rfl, fun x => ⟨fun h => ⟨h, ?_⟩, fun h => h.1⟩⟩
    intro a b hab
    have := hab.1; omega
  · exact ⟨_, rfl, rfl, octLatIntersectionLoop_gamma n m1 m2⟩

theorem octLatUpperBoundLoop_gamma {n : Nat} {x y : Mat} {p : Nat → Rat} (h : p ∈ γO n x ∨ p ∈ γO n y) :
    p ∈ γO n (octLatUpperBoundLoop n x y) :=
  latHolds_maxA (fun a b hab => by rw [octLatUpperBoundLoop_apply, if_pos ⟨hab.1, hab.2⟩]) h

theorem octLatUpperBound_sound {R : Rnd} (hR : R.Sound) (n : Nat) (c1 c2 : Bool) (m1 m2 : Mat)
    {x : Nat → Rat} (h : x ∈ γO n m1 ∨ x ∈ γO n m2) :
    ∃ r, octLatUpperBound R n c1 m1 c2 m2 = some r ∧ r.dim = n ∧ x ∈ γO n r.m := by
  unfold octLatUpperBound
  rcases h with h | h
  · obtain ⟨x', cx, e1, hx'⟩ := octLatClose_sound hR.up_le n c1 m1 h
    cases e2 : octLatClose R.up n c2 m2 with
    | none => exact ⟨_, rfl, rfl, h⟩
    | some yc =>
      obtain ⟨y, cy⟩ := yc
      simp only [e1]
      exact ⟨_, rfl, rfl, octLatUpperBoundLoop_gamma (Or.inl hx')⟩
  · obtain ⟨y, cy, e2, hy⟩ := octLatClose_sound hR.up_le n c2 m2 h
    simp only [e2]
    cases e1 : octLatClose R.up n c1 m1 with
    | none => exact ⟨_, rfl, rfl, hy⟩
    | some xc =>
      obtain ⟨x', cx⟩ := xc
      exact ⟨_, rfl, rfl, octLatUpperBoundLoop_gamma (Or.inr hy)⟩

/-! ## `add_space_dimensions_and_embed`, `add_space_dimensions_and_project` -/

theorem octLatGrow_gamma (n k : Nat) (m : Mat) (z : Nat → Rat) :
    z ∈ γO (n + k) (octLatGrow (2 * n) m) ↔ z ∈ γO n m := by
  constructor
  · intro h a b hab
    have := h a b ⟨by have := hab.1; omega, hab.2⟩
    simp only [octLatGrow] at this
    rw [if_pos hab.1] at this
    exact this
  · intro h a b hab
    simp only [octLatGrow]
    split
    · rename_i hc; exact h a b ⟨hc, hab.2⟩
    · exact le_pinf _

/-- `add_space_dimensions_and_embed(k)`: the new coordinates are unconstrained (every bound type) -/
theorem octLatEmbed_spec (R : Rnd) (n : Nat) (c : Bool) (m : Mat) (k : Nat) :
    ∃ r, octLatEmbed R n c m k = some r ∧ r.dim = n + k ∧ ∀ z, z ∈ γO (n + k) r.m ↔ z ∈ γO n m := by
  unfold octLatEmbed
  split
  · rename_i hk; subst hk
    exact ⟨_, rfl, rfl, fun z => Iff.rfl⟩
  · exact ⟨_, rfl, rfl, fun z => octLatGrow_gamma n k m z⟩

theorem octLatProjectLoop_apply (n k : Nat) (m : Mat) (a b : Nat) :
    loopUp k (fun t m => (m.set (2 * n + 2 * t) (2 * n + 2 * t + 1) (fin 0)).set (2 * n + 2 * t + 1)
        (2 * n + 2 * t) (fin 0)) m a b
      = if 2 * n ≤ a ∧ a < 2 * n + 2 * k ∧ b = cidx a then fin 0 else m a b := by
  induction k with
  | zero => simp only [loopUp]; rw [if_neg (by omega)]
  | succ k ih =>
    simp only [loopUp, Mat.set_apply, ih]
    unfold cidx
    grind

/-- `add_space_dimensions_and_project(k)`: the new coordinates are `0` (every bound type) -/
theorem octLatProject_spec (R : Rnd) (n : Nat) (c : Bool) (m : Mat) (k : Nat) :
    ∃ r, octLatProject R n c m k = some r ∧ r.dim = n + k ∧
      ∀ z, z ∈ γO (n + k) r.m ↔ (z ∈ γO n m ∧ ∀ i, n ≤ i → i < n + k → z i = 0) := by
  unfold octLatProject octLatEmbed
  by_cases hk : k = 0
  · subst hk
    simp only [if_true]
    exact ⟨_, rfl, rfl, fun z => ⟨fun h => ⟨h, fun i h1 h2 => by omega⟩, fun h => h.1⟩⟩
  · simp only [if_neg hk]
    refine ⟨_, rfl, rfl, fun z => ?_⟩
    have key := octLatProjectLoop_apply n k (octLatGrow (2 * n) m)
    constructor
    · intro h
      constructor
      · intro a b hab
        have := h a b ⟨by have := hab.1; omega, hab.2⟩
        rw [key, if_neg (by have := hab.1; omega)] at this
        simp only [octLatGrow] at this
        rw [if_pos hab.1] at this
        exact this
      · intro i h1 h2
        have e1 := h (2 * i) (2 * i + 1) ⟨by omega, by rw [rowSize_even]; omega⟩
        have e2 := h (2 * i + 1) (2 * i) ⟨by omega, by rw [rowSize_odd]; omega⟩
        rw [key, if_pos ⟨by omega, by omega, by rw [cidx_even]⟩] at e1
        rw [key, if_pos ⟨by omega, by omega, by rw [cidx_odd]⟩] at e2
        rw [oval_even, oval_odd, fin_le_fin] at e1 e2
        linarith
    · intro h a b hab
      rw [key]
      split
      · rename_i hc
        obtain ⟨h1, h2, rfl⟩ := hc
        have hz : z (a / 2) = 0 := h.2 (a / 2) (by omega) (by omega)
        have e1 : OctM.oval z a = 0 := by unfold OctM.oval; rw [hz]; simp
        have e2 : OctM.oval z (cidx a) = 0 := by
          unfold OctM.oval
          rw [cidx_half, hz]; simp
        rw [e1, e2]; simp
      · simp only [octLatGrow]
        split
        · rename_i hc; exact h.1 a b ⟨hc, hab.2⟩
        · exact le_pinf _

/-! ## `remove_higher_space_dimensions` (soundness) -/

theorem octLatRemoveHigher_sound {R : Rnd} (hR : R.Sound) (n : Nat) (c : Bool) (m : Mat) (newDim : Nat)
    (hnd : newDim ≤ n) {x : Nat → Rat} (hx : x ∈ γO n m) :
    ∃ r, octLatRemoveHigher R n c m newDim = some r ∧ r.dim = newDim ∧ x ∈ γO newDim r.m := by
  unfold octLatRemoveHigher
  split
  · rename_i h; subst h; exact ⟨_, rfl, rfl, hx⟩
  · obtain ⟨m', c', e, hx'⟩ := octLatClose_sound hR.up_le n c m hx
    simp only [e]
    exact ⟨_, rfl, rfl, latGammaO_restrict hnd hx'⟩

end PPLV.WR

import PPLV.WR.TransOct2Lhs
import PPLV.WR.Trans2LhsProofsBase
import PPLV.WR.TransOct2ProofsRefine
import PPLV.WR.TransOctProofsMain
import PPLV.WR.TransOct2ProofsDim
/-!
# Octagon transformers with an expression on the left-hand side: `refine_no_check(lhs relsym rhs)`, the forget
loop, the additional dimension, the raw closure
-/
namespace PPLV.WR
open ExtRat

/-- `refine_no_check(lhs relsym rhs)` keeps every point at which the relation holds -/
theorem octLhsRefineRel_sound {R : Rnd} (hup : ∀ q, fin q ≤ R.up q) {N : Nat} (rel : RelSym) {sdl sdr : Nat}
    {el er : Nat → Int} (bl br : Int) (hl : sdl ≤ N) (hr : sdr ≤ N) (hzl : ∀ i, sdl ≤ i → i < N → el i = 0)
    (hzr : ∀ i, sdr ≤ i → i < N → er i = 0) {m : Mat} {y : Nat → Rat} (hy : y ∈ γO N m)
    (h : rel.holds (linEval el y N + bl) (linEval er y N + br)) :
    ∃ m', octLhsRefineRel R N rel sdl el bl sdr er br m = .ok m' ∧ y ∈ γO N m' ∧ MLe m' m := by
  obtain ⟨hsd, hc⟩ := lhsRelConstraint_sat rel bl br hl hr hzl hzr h
  have := octRefineNoCheck_sound_raw hup _ _ _ m hy hc
  unfold octLhsRefineRel
  dsimp only
  generalize octRefineNoCheck R N _ _ _ _ m = o at this ⊢
  cases o with
  | ok m' => exact ⟨m', rfl, this⟩
  | empty => exact this.elim
  | throws => exact this.elim

theorem octLhs_rowSize_lt {N a c : Nat} (ha : a < 2 * N) (hc : c < rowSize a) : c < 2 * N := by
  unfold rowSize at hc; omega

/-! ## the forget loop -/

theorem octLhsForgetVars_loop (n : Nat) (vars : List Nat) (a c : Nat) : ∀ (k : Nat) (m : Mat),
    loopDown k (fun i m => octForgetAll n (vars.getD i 0) m) m a c
      = if ∃ i, i < k ∧
            (((a = 2 * vars.getD i 0 ∨ a = 2 * vars.getD i 0 + 1) ∧ c < 2 * vars.getD i 0 + 2) ∨
             ((2 * vars.getD i 0 + 2 ≤ a ∧ a < 2 * n) ∧ (c = 2 * vars.getD i 0 ∨ c = 2 * vars.getD i 0 + 1)))
        then pinf else m a c := by
  intro k
  induction k with
  | zero => intro m; simp [loopDown]
  | succ k ih =>
    intro m
    simp only [loopDown]
    rw [ih, octForgetAll_apply]
    by_cases h1 : ∃ i, i < k ∧
        (((a = 2 * vars.getD i 0 ∨ a = 2 * vars.getD i 0 + 1) ∧ c < 2 * vars.getD i 0 + 2) ∨
         ((2 * vars.getD i 0 + 2 ≤ a ∧ a < 2 * n) ∧ (c = 2 * vars.getD i 0 ∨ c = 2 * vars.getD i 0 + 1)))
    · obtain ⟨i, hi, hc⟩ := h1
      rw [if_pos ⟨i, hi, hc⟩, if_pos ⟨i, by omega, hc⟩]
    · rw [if_neg h1]
      by_cases h2 : ((a = 2 * vars.getD k 0 ∨ a = 2 * vars.getD k 0 + 1) ∧ c < 2 * vars.getD k 0 + 2) ∨
         ((2 * vars.getD k 0 + 2 ≤ a ∧ a < 2 * n) ∧ (c = 2 * vars.getD k 0 ∨ c = 2 * vars.getD k 0 + 1))
      · rw [if_pos h2, if_pos ⟨k, by omega, h2⟩]
      · rw [if_neg h2, if_neg]
        rintro ⟨i, hi, hc⟩
        by_cases hik : i = k
        · subst hik; exact h2 hc
        · exact h1 ⟨i, by omega, hc⟩

/-- after the forget loop every point that differs from a point of the matrix on forgotten variables only
satisfies it -/
theorem holds_octLhsForgetVars {N : Nat} {vars : List Nat} {y y' : Nat → Rat} {m : Mat}
    (hy : y ∈ γO N m) (hag : ∀ i, i < N → i ∉ vars → y' i = y i) :
    y' ∈ γO N (octLhsForgetVars N vars m) := by
  intro a c hac
  unfold octLhsForgetVars
  rw [octLhsForgetVars_loop]
  split
  · exact le_pinf _
  · rename_i hne
    obtain ⟨ha, hc⟩ := hac
    have hc2 := octLhs_rowSize_lt ha hc
    unfold rowSize at hc
    have key : ∀ d, d < 2 * N → (∀ i, i < vars.length → d / 2 ≠ vars.getD i 0) → OctM.oval y' d = OctM.oval y d := by
      intro d hd hn
      unfold OctM.oval
      rw [hag (d / 2) (by omega) (fun hmem => by
        obtain ⟨i, hi, he⟩ := lhs_mem_getD hmem
        exact hn i hi he.symm)]
    rw [key a ha (fun i hi hv => hne ⟨i, hi, Or.inl ⟨by omega, by omega⟩⟩),
      key c hc2 (fun i hi hv => hne ⟨i, hi, by
        by_cases hav : a / 2 = vars.getD i 0
        · exact Or.inl ⟨by omega, by omega⟩
        · exact Or.inr ⟨⟨by omega, ha⟩, by omega⟩⟩)]
    exact hy a c ⟨ha, by unfold rowSize; exact hc⟩

/-- the loop over `lhs_vars` on an octagon of dimension `N` -/
theorem holds_octForget_lhsVars {N n : Nat} {el : Nat → Int} {y y' : Nat → Rat} {m : Mat}
    (hy : y ∈ γO N m) (hag : ∀ i, i < n → el i = 0 → y' i = y i) (hhi : ∀ i, n ≤ i → i < N → y' i = y i) :
    y' ∈ γO N (octLhsForgetVars N (lhsVars el n) m) := by
  refine holds_octLhsForgetVars hy (fun i hi hmem => ?_)
  rw [lhs_mem_lhsVars] at hmem
  by_cases hin : i < n
  · exact hag i hin (by by_contra h0; exact hmem ⟨hin, h0⟩)
  · exact hhi i (by omega) hi

/-! ## the additional dimension -/

theorem octLhs_restrict {n : Nat} {x : Nat → Rat} {U : Rat} {m : Mat} (h : upd x n U ∈ γO (n + 1) m) :
    x ∈ γO n m :=
  octHolds_congr (fun i hi => (upd_frame x n U i (by omega)).symm) (octHolds_restrict (Nat.le_succ n) h)

/-! ## `HalfFiniteOn` of the matrices handed to the nested calls -/

theorem octLhs_halfFinite_ofMat {up : Rat → ExtRat} {n : Nat} {m : Mat} (h : HalfFiniteOn up m) :
    HalfFiniteOn up (OctM.ofMat n m).e := by
  intro u q hq
  apply h u q
  simp only [OctM.ofMat, Mat.diagUp_apply] at hq
  rw [if_neg (by omega), if_neg (by omega)] at hq
  exact hq

theorem octLhs_halfFinite_embed {up : Rat → ExtRat} {n : Nat} {m : Mat} (h : HalfFiniteOn up m) :
    HalfFiniteOn up (octEmbedOne n m) := by
  intro u q hq
  apply h u q
  have e1 : octEmbedOne n m (2 * u + 1) (2 * u)
      = if 2 * u + 1 = 2 * n ∨ 2 * u + 1 = 2 * n + 1 ∨ 2 * u = 2 * n ∨ 2 * u = 2 * n + 1 then pinf
        else m (2 * u + 1) (2 * u) := rfl
  have e2 : octEmbedOne n m (2 * u) (2 * u + 1)
      = if 2 * u = 2 * n ∨ 2 * u = 2 * n + 1 ∨ 2 * u + 1 = 2 * n ∨ 2 * u + 1 = 2 * n + 1 then pinf
        else m (2 * u) (2 * u + 1) := rfl
  rw [e1, e2] at hq
  by_cases hu : u = n
  · subst hu
    rw [if_pos (by omega), if_pos (by omega)] at hq
    rcases hq with hq | hq <;> exact absurd hq (by simp)
  · rw [if_neg (by omega), if_neg (by omega)] at hq
    exact hq

end PPLV.WR

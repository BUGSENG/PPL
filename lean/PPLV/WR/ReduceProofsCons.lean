import PPLV.WR.ReduceProofsCodeMain
import PPLV.WR.ReduceProofsGlue
import PPLV.WR.ReduceProofsMathLCon
/-!
# `BD_Shape::minimized_constraints()` / `constraints()`: the lists in `List.range` form

The three loops of `bdsMinimizedConstraints` (equalities of the non-leaders, unary inequalities of the leaders,
binary inequalities of the leaders) and the two loops of `bdsConstraintsAll`, each body rewritten as
"append `g i`", so that membership in the emitted list is membership in a `flatMap`.
-/
set_option linter.unusedSectionVars false
set_option linter.unusedSimpArgs false
namespace PPLV.WR
open ExtRat (fin pinf)

/-- the `<=` constraint the code builds for the entry `(p, q)`: `x_q - x_p <= m p q` -/
def leCon (n : Nat) (m : Mat) (p q : Nat) : LCon := ⟨false, diffCoeffs n (denomOf (m p q)) q p, numerOf (m p q)⟩
/-- the `==` constraint built from the entry `(p, q)`: `x_q - x_p == m p q` -/
def eqCon (n : Nat) (m : Mat) (p q : Nat) : LCon := ⟨true, diffCoeffs n (denomOf (m p q)) q p, numerOf (m p q)⟩

/-! ## `minimized_constraints()` -/

/-- what the first loop emits for the dbm index `i` -/
def mcEq (n : Nat) (m : Mat) (leaders : Nat → Nat) (i : Nat) : List LCon :=
  if i = 0 then []
  else if i ≠ leaders i then (if leaders i = 0 then [eqCon n m 0 i] else [eqCon n m i (leaders i)]) else []

/-- … the second loop for the position `l_i` in the vector of leader indices -/
def mcUn (n : Nat) (m : Mat) (red : BMat) (li : Nat → Nat) (l_i : Nat) : List LCon :=
  if l_i = 0 then []
  else (if !red 0 (li l_i) then [leCon n m 0 (li l_i)] else []) ++ (if !red (li l_i) 0 then [leCon n m (li l_i) 0] else [])

/-- … the inner body of the third loop -/
def mcBin1 (n : Nat) (m : Mat) (red : BMat) (li : Nat → Nat) (l_i l_j : Nat) : List LCon :=
  if l_j ≤ l_i then []
  else (if !red (li l_i) (li l_j) then [leCon n m (li l_i) (li l_j)] else []) ++
       (if !red (li l_j) (li l_i) then [leCon n m (li l_j) (li l_i)] else [])

/-- … the third loop for the position `l_i` -/
def mcBin (n : Nat) (m : Mat) (red : BMat) (li : Nat → Nat) (num : Nat) (l_i : Nat) : List LCon :=
  if l_i = 0 then [] else (List.range num).flatMap (mcBin1 n m red li l_i)

/-- `minimized_constraints()` as three `flatMap`s: every loop body of the code appends a conditional list, and
what remains is `mcEq`, `mcUn`, `mcBin` unfolded -/
theorem bdsMinimizedConstraints_eq (n : Nat) (m : Mat) (red : BMat) :
    bdsMinimizedConstraints n m red =
      (List.range (n+1)).flatMap (mcEq n m (bdsComputeLeaders (n+1) m)) ++
      (List.range (computeLeaderIndices (n+1) (bdsComputeLeaders (n+1) m)).length).flatMap
        (mcUn n m red (fun k => (computeLeaderIndices (n+1) (bdsComputeLeaders (n+1) m)).getD k 0)) ++
      (List.range (computeLeaderIndices (n+1) (bdsComputeLeaders (n+1) m)).length).flatMap
        (mcBin n m red (fun k => (computeLeaderIndices (n+1) (bdsComputeLeaders (n+1) m)).getD k 0)
          (computeLeaderIndices (n+1) (bdsComputeLeaders (n+1) m)).length) := by
  unfold bdsMinimizedConstraints
  simp only [ite_append_append, ite_append_left, ite_append_right, List.append_assoc, loopUp_append, List.nil_append]
  rfl

/-! ## membership -/

theorem mem_flatMap_range {α : Type} (k : Nat) (g : Nat → List α) (a : α) :
    a ∈ (List.range k).flatMap g ↔ ∃ i, i < k ∧ a ∈ g i := by
  simp [List.mem_flatMap, List.mem_range]

/-- the vector of leader indices of a vector `p`: the indices `≤ n` that are `0` or fixed by `p`, `0` first -/
theorem mem_leaderIndices (n : Nat) (p : Vec) (i : Nat) :
    i ∈ computeLeaderIndices (n+1) p ↔ i ≤ n ∧ (i = 0 ∨ p i = i) := by
  rw [computeLeaderIndices_succ]
  simp only [List.mem_filter, List.mem_range, Bool.or_eq_true, beq_iff_eq]
  constructor
  · rintro ⟨h1, h2⟩; exact ⟨by omega, h2⟩
  · rintro ⟨h1, h2⟩; exact ⟨by omega, h2⟩

theorem leaderIndices_cons (n : Nat) (p : Vec) :
    ∃ rest, computeLeaderIndices (n+1) p = 0 :: rest ∧ 0 ∉ rest := by
  rw [computeLeaderIndices_succ]
  have hr : List.range (n+1) = 0 :: (List.range n).map (· + 1) := by
    rw [List.range_succ_eq_map]
  rw [hr, List.filter_cons_of_pos (by simp)]
  refine ⟨_, rfl, ?_⟩
  intro h
  have := (List.mem_filter.1 h).1
  simp at this

/-- every element of the vector sits at a position, position `0` holds the index `0` only -/
theorem leaderIndices_pos (n : Nat) (p : Vec) (i : Nat) (hi : i ∈ computeLeaderIndices (n+1) p) :
    ∃ k, k < (computeLeaderIndices (n+1) p).length ∧ (computeLeaderIndices (n+1) p).getD k 0 = i ∧ (k = 0 ↔ i = 0) := by
  obtain ⟨rest, hc, h0⟩ := leaderIndices_cons n p
  rw [hc] at hi ⊢
  rcases List.mem_cons.1 hi with rfl | hr
  · exact ⟨0, by simp, by simp, by simp⟩
  · obtain ⟨k, hk, hk2⟩ := List.mem_iff_getElem.1 hr
    refine ⟨k+1, by simp; omega, ?_, ?_⟩
    · simp [List.getD_eq_getElem?_getD, hk, hk2]
    · constructor
      · intro h; omega
      · intro h; subst h; exact absurd hr h0

theorem leaderIndices_getD_mem (n : Nat) (p : Vec) (k : Nat) (hk : k < (computeLeaderIndices (n+1) p).length) :
    (computeLeaderIndices (n+1) p).getD k 0 ∈ computeLeaderIndices (n+1) p := by
  rw [List.getD_eq_getElem?_getD, List.getElem?_eq_getElem hk]
  exact List.getElem_mem hk

theorem leaderIndices_getD_ne_zero (n : Nat) (p : Vec) (k : Nat) (hk : k < (computeLeaderIndices (n+1) p).length)
    (h0 : k ≠ 0) : (computeLeaderIndices (n+1) p).getD k 0 ≠ 0 := by
  obtain ⟨rest, hc, hz⟩ := leaderIndices_cons n p
  rw [hc] at hk ⊢
  obtain ⟨k', rfl⟩ := Nat.exists_eq_succ_of_ne_zero h0
  have hk' : k' < rest.length := by simpa using hk
  intro h
  apply hz
  have : rest[k'] = 0 := by simpa [List.getD_eq_getElem?_getD, hk'] using h
  rw [← this]; exact List.getElem_mem hk'

theorem mem_pair {a b : Bool} {u v lc : LCon} :
    lc ∈ (if !a then [u] else []) ++ (if !b then [v] else []) ↔ (a = false ∧ lc = u) ∨ (b = false ∧ lc = v) := by
  cases a <;> cases b <;> simp

/-! ## what a single emitted constraint says -/

theorem leCon_sat (n : Nat) (m : Mat) {p q : Nat} (hp : p ≤ n) (hq : q ≤ n) {r : Rat} (hr : m p q = fin r)
    (x : ℕ → ℚ) : (leCon n m p q).Sat x ↔ fin (DBM.val x q - DBM.val x p) ≤ m p q := by
  unfold leCon
  rw [hr]
  exact LCon.sat_diff_le n r q p hq hp x

theorem eqCon_sat (n : Nat) (m : Mat) {p q : Nat} (hp : p ≤ n) (hq : q ≤ n) {r : Rat} (hr : m p q = fin r)
    (x : ℕ → ℚ) : (eqCon n m p q).Sat x ↔ DBM.val x q - DBM.val x p = r := by
  unfold eqCon
  rw [hr]
  exact LCon.sat_diff_eq n r q p hq hp x

/-! ## `minimized_constraints()` denotes the shape -/

section
variable {n : Nat} (c : DBM n) (hc : c.IsClosed) (red : BMat)
  (h : bdsShortestPathReduction upId n c.e = some red)

include hc in
/-- positions of the vector of leader indices hold leaders -/
theorem idx_leader (k : Nat) (hk : k < (computeLeaderIndices (n+1) (bdsComputeLeaders (n+1) c.e)).length) :
    (computeLeaderIndices (n+1) (bdsComputeLeaders (n+1) c.e)).getD k 0 ≤ n ∧
    bdsComputeLeaders (n+1) c.e ((computeLeaderIndices (n+1) (bdsComputeLeaders (n+1) c.e)).getD k 0)
      = (computeLeaderIndices (n+1) (bdsComputeLeaders (n+1) c.e)).getD k 0 := by
  have hl := bdsComputeLeaders_spec c hc
  have hm := (mem_leaderIndices n _ _).1 (leaderIndices_getD_mem n (bdsComputeLeaders (n+1) c.e) k hk)
  refine ⟨hm.1, ?_⟩
  rcases hm.2 with h0 | h1
  · rw [h0]; exact Nat.le_zero.1 (hl.le 0 (Nat.zero_le n))
  · exact h1

include hc h in
/-- a point of the shape satisfies every emitted constraint -/
theorem minimized_constraints_of_mem (x : ℕ → ℚ) (hx : c.Sat x) (lc : LCon)
    (hlc : lc ∈ bdsMinimizedConstraints n c.e red) : lc.Sat x := by
  have hl := bdsComputeLeaders_spec c hc
  have hp := bdsComputePredecessors_spec c
  have hr := bdsShortestPathReduction_spec c hc red h
  have irr := fun i j hi hj hk hli hlj =>
    (bds_reduced_irredundant c hc _ _ hl hp red hr i j hi hj hk hli hlj).2.1
  rw [bdsMinimizedConstraints_eq] at hlc
  rcases List.mem_append.1 hlc with hlc | hlc
  rcases List.mem_append.1 hlc with hlc | hlc
  · -- an equality of a non-leader
    obtain ⟨i, hi, hm⟩ := (mem_flatMap_range _ _ _).1 hlc
    have hin : i ≤ n := Nat.le_of_lt_succ hi
    unfold mcEq at hm
    by_cases h0 : i = 0
    · simp [h0] at hm
    rw [if_neg h0] at hm
    by_cases hne : i ≠ bdsComputeLeaders (n+1) c.e i
    · rw [if_pos hne] at hm
      have hln := lead_le_n c _ hl hin
      obtain ⟨p, hp1, hp2⟩ := c.zeq_fin hln (hl.zeq i hin)
      rw [c.z_ne (Ne.symm hne)] at hp1
      rw [c.z_ne hne] at hp2
      have e1 := hx _ _ hln hin
      have e2 := hx _ _ hin hln
      rw [hp1, ExtRat.fin_le_fin] at e1
      rw [hp2, ExtRat.fin_le_fin] at e2
      by_cases hz : bdsComputeLeaders (n+1) c.e i = 0
      · rw [if_pos hz] at hm
        rw [List.mem_singleton.1 hm]
        rw [hz] at hp1 e1 e2
        rw [eqCon_sat n c.e (Nat.zero_le n) hin hp1]
        linarith only [e1, e2]
      · rw [if_neg hz] at hm
        rw [List.mem_singleton.1 hm]
        rw [eqCon_sat n c.e hin hln hp2]
        linarith only [e1, e2]
    · rw [if_neg hne] at hm
      simp at hm
  · -- a unary inequality of a leader
    obtain ⟨k, hk, hm⟩ := (mem_flatMap_range _ _ _).1 hlc
    unfold mcUn at hm
    by_cases h0 : k = 0
    · simp [h0] at hm
    rw [if_neg h0] at hm
    obtain ⟨hin, hli⟩ := idx_leader c hc k hk
    have hl0 : bdsComputeLeaders (n+1) c.e 0 = 0 := Nat.le_zero.1 (hl.le 0 (Nat.zero_le n))
    rw [mem_pair] at hm
    beta_reduce at hm
    generalize (computeLeaderIndices (n+1) (bdsComputeLeaders (n+1) c.e)).getD k 0 = i at hm hin hli
    rcases hm with ⟨hb, rfl⟩ | ⟨hb, rfl⟩
    · obtain ⟨q, hq⟩ := irr 0 i (Nat.zero_le n) hin hb hl0 hli
      rw [leCon_sat n c.e (Nat.zero_le n) hin hq]
      exact hx _ _ (Nat.zero_le n) hin
    · obtain ⟨q, hq⟩ := irr i 0 hin (Nat.zero_le n) hb hli hl0
      rw [leCon_sat n c.e hin (Nat.zero_le n) hq]
      exact hx _ _ hin (Nat.zero_le n)
  · -- a binary inequality of two leaders
    obtain ⟨k, hk, hm⟩ := (mem_flatMap_range _ _ _).1 hlc
    unfold mcBin at hm
    by_cases h0 : k = 0
    · simp [h0] at hm
    rw [if_neg h0] at hm
    obtain ⟨k2, hk2, hm⟩ := (mem_flatMap_range _ _ _).1 hm
    unfold mcBin1 at hm
    by_cases hle : k2 ≤ k
    · simp [hle] at hm
    rw [if_neg hle] at hm
    obtain ⟨hin, hli⟩ := idx_leader c hc k hk
    obtain ⟨hjn, hlj⟩ := idx_leader c hc k2 hk2
    rw [mem_pair] at hm
    beta_reduce at hm
    generalize (computeLeaderIndices (n+1) (bdsComputeLeaders (n+1) c.e)).getD k 0 = i at hm hin hli
    generalize (computeLeaderIndices (n+1) (bdsComputeLeaders (n+1) c.e)).getD k2 0 = j at hm hjn hlj
    rcases hm with ⟨hb, rfl⟩ | ⟨hb, rfl⟩
    · obtain ⟨q, hq⟩ := irr i j hin hjn hb hli hlj
      rw [leCon_sat n c.e hin hjn hq]
      exact hx _ _ hin hjn
    · obtain ⟨q, hq⟩ := irr j i hjn hin hb hlj hli
      rw [leCon_sat n c.e hjn hin hq]
      exact hx _ _ hjn hin

end

section
variable {n : Nat} (c : DBM n) (hc : c.IsClosed) (red : BMat)
  (h : bdsShortestPathReduction upId n c.e = some red)

include hc in
/-- the equality of a non-leader is emitted -/
theorem minimized_emits_eq (i : Nat) (h1 : 1 ≤ i) (hi : i ≤ n) (hne : bdsComputeLeaders (n+1) c.e i ≠ i) :
    (if bdsComputeLeaders (n+1) c.e i = 0 then eqCon n c.e 0 i else eqCon n c.e i (bdsComputeLeaders (n+1) c.e i))
      ∈ bdsMinimizedConstraints n c.e red := by
  rw [bdsMinimizedConstraints_eq]
  apply List.mem_append_left; apply List.mem_append_left
  rw [mem_flatMap_range]
  refine ⟨i, by omega, ?_⟩
  unfold mcEq
  rw [if_neg (by omega), if_pos (Ne.symm hne)]
  split <;> simp

include hc in
/-- a kept entry between two distinct leaders is emitted -/
theorem minimized_emits_le (a b : Nat) (ha : a ≤ n) (hb : b ≤ n) (hab : a ≠ b)
    (hla : bdsComputeLeaders (n+1) c.e a = a) (hlb : bdsComputeLeaders (n+1) c.e b = b) (hk : red a b = false) :
    leCon n c.e a b ∈ bdsMinimizedConstraints n c.e red := by
  have ma : a ∈ computeLeaderIndices (n+1) (bdsComputeLeaders (n+1) c.e) := (mem_leaderIndices n _ a).2 ⟨ha, Or.inr hla⟩
  have mb : b ∈ computeLeaderIndices (n+1) (bdsComputeLeaders (n+1) c.e) := (mem_leaderIndices n _ b).2 ⟨hb, Or.inr hlb⟩
  obtain ⟨ka, hka, ea, za⟩ := leaderIndices_pos n _ a ma
  obtain ⟨kb, hkb, eb, zb⟩ := leaderIndices_pos n _ b mb
  have hkab : ka ≠ kb := by
    intro e; rw [e] at ea; exact hab (ea.symm.trans eb)
  rw [bdsMinimizedConstraints_eq]
  by_cases h0a : ka = 0
  · -- `a = 0`: the first unary inequality of `b`
    have a0 : a = 0 := za.1 h0a
    apply List.mem_append_left; apply List.mem_append_right
    rw [mem_flatMap_range]
    refine ⟨kb, hkb, ?_⟩
    unfold mcUn
    rw [if_neg (by omega), mem_pair]
    beta_reduce
    rw [eb]
    left; rw [← a0]; exact ⟨hk, rfl⟩
  by_cases h0b : kb = 0
  · have b0 : b = 0 := zb.1 h0b
    apply List.mem_append_left; apply List.mem_append_right
    rw [mem_flatMap_range]
    refine ⟨ka, hka, ?_⟩
    unfold mcUn
    rw [if_neg h0a, mem_pair]
    beta_reduce
    rw [ea]
    right; rw [← b0]; exact ⟨hk, rfl⟩
  apply List.mem_append_right
  rw [mem_flatMap_range]
  rcases Nat.lt_or_gt_of_ne hkab with hlt | hgt
  · refine ⟨ka, hka, ?_⟩
    unfold mcBin
    rw [if_neg h0a, mem_flatMap_range]
    refine ⟨kb, hkb, ?_⟩
    unfold mcBin1
    rw [if_neg (by omega), mem_pair]
    beta_reduce
    rw [ea, eb]
    left; exact ⟨hk, rfl⟩
  · refine ⟨kb, hkb, ?_⟩
    unfold mcBin
    rw [if_neg h0b, mem_flatMap_range]
    refine ⟨ka, hka, ?_⟩
    unfold mcBin1
    rw [if_neg (by omega), mem_pair]
    beta_reduce
    rw [ea, eb]
    right; exact ⟨hk, rfl⟩

include hc h in
/-- a valuation satisfying every emitted constraint is a point of the shape -/
theorem mem_of_minimized_constraints (x : ℕ → ℚ)
    (hs : ∀ lc ∈ bdsMinimizedConstraints n c.e red, lc.Sat x) : c.Sat x := by
  have hl := bdsComputeLeaders_spec c hc
  have hp := bdsComputePredecessors_spec c
  have hr := bdsShortestPathReduction_spec c hc red h
  -- every index sits at the exact distance from its leader
  have star : ∀ i, i ≤ n → c.z (bdsComputeLeaders (n+1) c.e i) i
      = fin (DBM.val x i - DBM.val x (bdsComputeLeaders (n+1) c.e i)) := by
    intro i hi
    by_cases hne : bdsComputeLeaders (n+1) c.e i = i
    · rw [hne, c.z_self hi, sub_self]
    · have h1 : 1 ≤ i := by
        rcases Nat.eq_zero_or_pos i with h0 | h0
        · exfalso; apply hne; rw [h0]; exact Nat.le_zero.1 (hl.le 0 (Nat.zero_le n))
        · exact h0
      have hln := lead_le_n c _ hl hi
      obtain ⟨p, hp1, hp2⟩ := c.zeq_fin hln (hl.zeq i hi)
      have hm := hs _ (minimized_emits_eq c hc red i h1 hi hne)
      rw [hp1]
      rw [c.z_ne hne] at hp1
      rw [c.z_ne (Ne.symm hne)] at hp2
      by_cases hz : bdsComputeLeaders (n+1) c.e i = 0
      · rw [if_pos hz] at hm
        rw [hz] at hp1 ⊢
        rw [eqCon_sat n c.e (Nat.zero_le n) hi hp1] at hm
        rw [hm]
      · rw [if_neg hz] at hm
        rw [eqCon_sat n c.e hi hln hp2] at hm
        congr 1; linarith only [hm]
  -- hence every kept entry holds
  have hred : (c.reduced red).Sat x := by
    intro a b ha hb
    show fin (DBM.val x b - DBM.val x a) ≤ (if red a b then pinf else c.e a b)
    cases hk : red a b with
    | true => simp
    | false =>
      simp only [Bool.false_eq_true, if_false]
      have inclass : ∀ a b, a ≤ n → b ≤ n → a ≠ b → ZEq c.e a b →
          fin (DBM.val x b - DBM.val x a) ≤ c.e a b := by
        intro a b ha hb hab hz
        have hla := lead_le_n c _ hl ha
        have hll := (hl.eq_iff hc _ _ ha hb).2 hz
        have e1 := star a ha
        have e2 := star b hb
        rw [← hll] at e2
        obtain ⟨p, hp1, hp2⟩ := c.zeq_fin hla (hl.zeq a ha)
        rw [← c.z_ne hab, c.shift_row hc ha hla hb (hl.zeq a ha).symm, hp2, e2]
        rw [hp1] at e1
        have : p = DBM.val x a - DBM.val x (bdsComputeLeaders (n+1) c.e a) := by
          have := e1; simpa using ExtRat.fin.inj this
        show fin _ ≤ eadd (fin (-p)) (fin _)
        simp only [eadd, ExtRat.addUp, ExtRat.fin_le_fin]
        rw [this]; exact le_of_eq (by ring)
      rcases (hr.spec a b ha hb).1 hk with hA | hB | hC
      · obtain ⟨hla, hlb, _⟩ := hA
        have hab : a ≠ b := (bds_reduced_irredundant c hc _ _ hl hp red hr a b ha hb hk hla hlb).1
        obtain ⟨q, hq⟩ := (bds_reduced_irredundant c hc _ _ hl hp red hr a b ha hb hk hla hlb).2.1
        have hm := hs _ (minimized_emits_le c hc red a b ha hb hab hla hlb hk)
        rwa [leCon_sat n c.e ha hb hq] at hm
      · obtain ⟨hlt, hpb⟩ := hB
        have hz := hp.zeq b hb
        rw [hpb] at hz
        exact inclass a b ha hb (by omega) hz
      · obtain ⟨hlt, hla, _⟩ := hC
        have hz := hl.zeq a ha
        rw [hla] at hz
        exact inclass a b ha hb (by omega) hz.symm
  have e := bds_reduced_preserves c hc _ _ hl hp red hr
  have : x ∈ DBM.γ (c.reduced red) := hred
  rw [e] at this
  exact this

include hc h in
/-- **`minimized_constraints()` denotes the shape** -/
theorem bds_minimized_constraints_sem_aux :
    {x : ℕ → ℚ | ∀ lc ∈ bdsMinimizedConstraints n c.e red, lc.Sat x} = DBM.γ c := by
  ext x
  exact ⟨fun hs => mem_of_minimized_constraints c hc red h x hs,
    fun hx lc hlc => minimized_constraints_of_mem c hc red h x hx lc hlc⟩

end

/-! ## the number of equalities `minimized_constraints()` emits -/

theorem filter_isEq_flatMap_of_all_false (l : List Nat) (g : Nat → List LCon)
    (hg : ∀ i lc, lc ∈ g i → lc.isEq = false) : (l.flatMap g).filter (·.isEq) = [] := by
  rw [List.filter_eq_nil_iff]
  intro lc hlc
  obtain ⟨i, _, hi⟩ := List.mem_flatMap.1 hlc
  simp [hg i lc hi]

theorem length_filter_flatMap_single (l : List Nat) (g : Nat → List LCon) (p : Nat → Bool)
    (hg : ∀ i, ((g i).filter (·.isEq)).length = if p i then 1 else 0) :
    ((l.flatMap g).filter (·.isEq)).length = (l.filter p).length := by
  induction l with
  | nil => simp
  | cons a l ih =>
    rw [List.flatMap_cons, List.filter_append, List.length_append, ih, hg a]
    by_cases hp : p a
    · simp [hp]; omega
    · simp [hp]

theorem length_filter_ne_zero (n : Nat) : ((List.range (n+1)).filter (fun i => i != 0)).length = n := by
  rw [List.range_succ_eq_map, List.filter_cons_of_neg (by simp)]
  rw [List.filter_eq_self.2 (by intro a ha; obtain ⟨b, _, rfl⟩ := List.mem_map.1 ha; simp)]
  simp

/-- `minimized_constraints()` emits one equality per non-leader among `1..n`: `n - affine_dimension()` of them -/
theorem bds_minimized_constraints_equalities {n : Nat} (c : DBM n) (hc : c.IsClosed) (red : BMat) :
    ((bdsMinimizedConstraints n c.e red).filter (·.isEq)).length + bdsAffineDimension n c.e = n := by
  rw [bdsMinimizedConstraints_eq, List.filter_append, List.filter_append,
    filter_isEq_flatMap_of_all_false _ (mcUn n c.e red _), filter_isEq_flatMap_of_all_false _ (mcBin n c.e red _ _),
    List.append_nil, List.append_nil,
    length_filter_flatMap_single _ _ (fun i => i != 0 && bdsComputeLeaders (n+1) c.e i != i)]
  · rw [bdsAffineDimension_eq_count,
      leaderCount_congr n _ _ (fun i hi => bdsPred_self_iff_leader c hc i hi)]
    unfold leaderCount
    have e := List.length_eq_length_filter_add (l := (List.range (n+1)).filter (fun i => i != 0))
      (fun i => bdsComputeLeaders (n+1) c.e i == i)
    rw [length_filter_ne_zero, List.filter_filter, List.filter_filter] at e
    have e1 : (List.range (n+1)).filter (fun i => (bdsComputeLeaders (n+1) c.e i == i) && (i != 0))
        = (List.range (n+1)).filter (fun i => i != 0 && bdsComputeLeaders (n+1) c.e i == i) :=
      List.filter_congr (fun i _ => Bool.and_comm _ _)
    have e2 : (List.range (n+1)).filter (fun i => (!(bdsComputeLeaders (n+1) c.e i == i)) && (i != 0))
        = (List.range (n+1)).filter (fun i => i != 0 && bdsComputeLeaders (n+1) c.e i != i) :=
      List.filter_congr (fun i _ => by rw [Bool.and_comm]; rfl)
    rw [e1, e2] at e
    omega
  · intro i
    unfold mcEq eqCon
    by_cases h0 : i = 0
    · simp [h0]
    · by_cases hne : i = bdsComputeLeaders (n+1) c.e i
      · simp [h0, ← hne]
      · have hne' : bdsComputeLeaders (n+1) c.e i ≠ i := fun e => hne e.symm
        by_cases hz : bdsComputeLeaders (n+1) c.e i = 0
        · simp [h0, hz]
          exact fun e => h0 e.symm
        · simp [h0, hne, hne', hz]
  · intro k lc hlc
    unfold mcBin at hlc
    split at hlc
    · simp at hlc
    · obtain ⟨k2, _, h2⟩ := List.mem_flatMap.1 hlc
      unfold mcBin1 at h2
      split at h2
      · simp at h2
      · rw [mem_pair] at h2
        rcases h2 with ⟨_, rfl⟩ | ⟨_, rfl⟩ <;> rfl
  · intro k lc hlc
    unfold mcUn at hlc
    split at hlc
    · simp at hlc
    · rw [mem_pair] at hlc
      rcases hlc with ⟨_, rfl⟩ | ⟨_, rfl⟩ <;> rfl

/-! ## `constraints()` of a shape not marked reduced: every matrix, closed or not -/

/-- what `constraints()` emits for the pair of dbm indices `i < j` -/
def caPair (n : Nat) (m : Mat) (i j : Nat) : List LCon :=
  if ExtRat.isAddInv (m j i) (m i j) then [eqCon n m i j]
  else (if !(m i j).isPinf then [leCon n m i j] else []) ++ (if !(m j i).isPinf then [leCon n m j i] else [])

theorem bdsConstraintsAll_eq (n : Nat) (m : Mat) :
    bdsConstraintsAll n m = (List.range (n+1)).flatMap (fun j => if j = 0 then [] else caPair n m 0 j) ++
      (List.range (n+1)).flatMap (fun i => if i = 0 then [] else
        (List.range (n+1)).flatMap (fun j => if j ≤ i then [] else caPair n m i j)) := by
  unfold bdsConstraintsAll
  simp only [ite_append_append, ite_append_left, ite_append_right, List.append_assoc, loopUp_append, List.nil_append]
  rfl

theorem mem_bdsConstraintsAll (n : Nat) (m : Mat) (lc : LCon) :
    lc ∈ bdsConstraintsAll n m ↔ ∃ i j, i < j ∧ j ≤ n ∧ lc ∈ caPair n m i j := by
  rw [bdsConstraintsAll_eq, List.mem_append, mem_flatMap_range, mem_flatMap_range]
  simp only [List.mem_ite_nil_left, mem_flatMap_range]
  constructor
  · rintro (⟨j, hj, h0, hm⟩ | ⟨i, hi, h0, j, hj, hji, hm⟩)
    · exact ⟨0, j, by omega, by omega, hm⟩
    · exact ⟨i, j, by omega, by omega, hm⟩
  · rintro ⟨i, j, hij, hj, hm⟩
    by_cases h0 : i = 0
    · subst h0; exact Or.inl ⟨j, by omega, by omega, hm⟩
    · exact Or.inr ⟨i, by omega, h0, j, by omega, by omega, hm⟩

/-- a finite entry is emitted as its inequality, an infinite one says nothing -/
theorem leCon_unless_pinf_sat (n : Nat) (m : Mat) {p q : Nat} (hp : p ≤ n) (hq : q ≤ n) (x : ℕ → ℚ) :
    (∀ lc ∈ (if !(m p q).isPinf then [leCon n m p q] else []), lc.Sat x) ↔
      fin (DBM.val x q - DBM.val x p) ≤ m p q := by
  cases e : m p q with
  | pinf => simp [ExtRat.isPinf]
  | fin r =>
    simp only [ExtRat.isPinf, Bool.not_false, if_true, List.mem_singleton, forall_eq]
    rw [leCon_sat n m hp hq e, e]

/-- the constraints emitted for a pair hold exactly when both entries of the pair hold -/
theorem caPair_sat (n : Nat) (m : Mat) {i j : Nat} (hij : i < j) (hj : j ≤ n) (x : ℕ → ℚ) :
    (∀ lc ∈ caPair n m i j, lc.Sat x) ↔
      fin (DBM.val x j - DBM.val x i) ≤ m i j ∧ fin (DBM.val x i - DBM.val x j) ≤ m j i := by
  have hi : i ≤ n := by omega
  unfold caPair
  cases ha : ExtRat.isAddInv (m j i) (m i j) with
  | true =>
    obtain ⟨a, b, e1, e2, hab⟩ := (ExtRat.isAddInv_iff _ _).1 ha
    simp only [if_true, List.mem_singleton, forall_eq]
    rw [eqCon_sat n m hi hj e2, e1, e2, ExtRat.fin_le_fin, ExtRat.fin_le_fin]
    constructor
    · intro h; constructor <;> linarith only [h, hab]
    · rintro ⟨h1, h2⟩; linarith only [h1, h2, hab]
  | false =>
    rw [if_neg Bool.false_ne_true, List.forall_mem_append, leCon_unless_pinf_sat n m hi hj,
      leCon_unless_pinf_sat n m hj hi]

/-- **`constraints()` of a shape not marked reduced denotes the shape** (any matrix, closed or not) -/
theorem bds_constraints_all_sem {n : Nat} (m : DBM n) :
    {x : ℕ → ℚ | ∀ lc ∈ bdsConstraintsAll n m.e, lc.Sat x} = DBM.γ m := by
  ext x
  constructor
  · intro hs i j hi hj
    rcases Nat.lt_trichotomy i j with hlt | heq | hgt
    · exact ((caPair_sat n m.e hlt hj x).1 (fun lc hlc => hs lc ((mem_bdsConstraintsAll n m.e lc).2 ⟨i, j, hlt, hj, hlc⟩))).1
    · subst heq; rw [m.diag i hi]; exact ExtRat.le_pinf _
    · exact ((caPair_sat n m.e hgt hi x).1 (fun lc hlc => hs lc ((mem_bdsConstraintsAll n m.e lc).2 ⟨j, i, hgt, hi, hlc⟩))).2
  · intro hx lc hlc
    obtain ⟨i, j, hij, hj, hm⟩ := (mem_bdsConstraintsAll n m.e lc).1 hlc
    exact (caPair_sat n m.e hij hj x).2 ⟨hx i j (by omega) hj, hx j i hj (by omega)⟩ lc hm

end PPLV.WR

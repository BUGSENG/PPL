import PPLV.WR.Trans2LhsProofsImage
/-!
# `BD_Shape<T>::generalized_affine_preimage(lhs, relsym, rhs)`: soundness of every branch
-/
namespace PPLV.WR
open ExtRat

theorem lhs_restrict {n : Nat} {x : Nat → Rat} {U : Rat} {m : Mat} (h : upd x n U ∈ γB (n + 1) m) :
    x ∈ γB n m := by
  intro a b hab
  have := h a b ⟨by have := hab.1; omega, by have := hab.2; omega⟩
  rw [val_upd, if_neg (by have := hab.2; omega), val_upd, if_neg (by have := hab.1; omega)] at this
  exact this

section
variable {R : Rnd} (hR : R.Sound) {n : Nat} (rel : RelSym) {el er : Nat → Int} (bl br : Int) {m : Mat}
  {x x' : Nat → Rat}
include hR

/-- `lhs` constant: the preimage is the image -/
theorem bdsLhsPre_t0_sound (h0 : exprT el (lastNonzero el n) = 0) (hx' : x' ∈ γB n m)
    (hag : ∀ i, i < n → el i = 0 → x' i = x i)
    (hrel : rel.holds (linEval el x' n + bl) (linEval er x n + br)) :
    ∃ m', bdsLhsGenAffinePreimageCore R n rel el bl er br m = some m' ∧ x ∈ γB n m' := by
  have hall : ∀ i, i < n → x' i = x i := fun i hi => hag i hi (lhs_t0_zero h0 i hi)
  have hrel' : rel.holds (linEval el x n + bl) (linEval er x' n + br) := by
    rw [linEval_congr_x er hall, ← linEval_congr_x el hall]; exact hrel
  have := bdsLhsImage_t0_sound hR rel bl br h0 hx' (fun i hi h => (hag i hi h).symm) hrel'
  unfold bdsLhsGenAffinePreimageCore
  dsimp only [lhsForm]
  rw [if_pos h0]
  exact this

/-- `lhs == a*v + b`: the delegate `generalized_affine_preimage(v, relsym', rhs - b_lhs, a)` -/
theorem bdsLhsPre_t1_sound (h1 : exprT el (lastNonzero el n) = 1) (hc : CoeffExact R er)
    (hcd : R.up ((absI (el (lastNonzero el n - 1)) : Int) : Rat) = fin ((absI (el (lastNonzero el n - 1)) : Int) : Rat))
    (hx' : x' ∈ γB n m)
    (hag : ∀ i, i < n → el i = 0 → x' i = x i)
    (hrel : rel.holds (linEval el x' n + bl) (linEval er x n + br)) :
    ∃ m', bdsLhsGenAffinePreimageCore R n rel el bl er br m = some m' ∧ x ∈ γB n m' := by
  obtain ⟨hw0, ha0, hz⟩ := lhs_t1_zero h1
  obtain ⟨_, hval⟩ := linEval_t1 x' h1
  have hwn := lastNonzero_le el n
  have hj : lastNonzero el n - 1 < n := by omega
  rw [hval] at hrel
  have hnew := lhs_newRel_holds ha0 hrel
  have hcong : ∀ i, i < n → upd x (lastNonzero el n - 1) (x' (lastNonzero el n - 1)) i = x' i := by
    intro i hi
    unfold upd
    split
    · rename_i h; rw [h]
    · rename_i h; exact (hag i hi (hz i hi h)).symm
  have hx'' := lhs_holds_congr hcong hx'
  unfold bdsLhsGenAffinePreimageCore
  dsimp only [lhsForm]
  rw [if_neg (by omega), if_pos h1]
  generalize lhsNewRelSym rel (el (lastNonzero el n - 1)) = rel' at hnew ⊢
  cases rel' with
  | eq =>
    have ht : x' (lastNonzero el n - 1) = _ := hnew
    rw [ht] at hx''
    exact ⟨_, rfl, affinePreimageCore_sound hR hj hc ha0 hcd hx''⟩
  | le =>
    have ht : x' (lastNonzero el n - 1) ≤ _ := hnew
    exact genAffinePreimageCore_sound hR hj hc ha0 hcd true hx'' (by simpa using ht)
  | ge =>
    have ht : _ ≤ x' (lastNonzero el n - 1) := hnew
    exact genAffinePreimageCore_sound hR hj hc ha0 hcd false hx'' (by simpa using ht)

/-- `lhs` general, variables disjoint from `rhs`: `refine_no_check`, `is_empty()`, forget; no side condition -/
theorem bdsLhsPre_disjoint_sound (h0 : ¬ exprT el (lastNonzero el n) = 0) (h1 : ¬ exprT el (lastNonzero el n) = 1)
    (hcom : lhsHaveCommonVar el er (min (lhsSpaceDim el n) (lhsSpaceDim er n)) = false)
    (hx' : x' ∈ γB n m)
    (hag : ∀ i, i < n → el i = 0 → x' i = x i)
    (hrel : rel.holds (linEval el x' n + bl) (linEval er x n + br)) :
    ∃ m', bdsLhsGenAffinePreimageCore R n rel el bl er br m = some m' ∧ x ∈ γB n m' := by
  rw [← lhs_rhs_agree hcom hag] at hrel
  obtain ⟨m1, hm1, hy, _⟩ := lhsRefineRel_sound (R := R) hR.up_le rel bl br (lastNonzero_le el n)
    (lastNonzero_le er n) (lastNonzero_above el n) (lastNonzero_above er n) hx' hrel
  have hforget : ∀ {mm : Mat}, x' ∈ γB n mm → x ∈ γB n (bdsLhsForgetVars (n + 1) (lhsVars el n) mm) :=
    fun h => holds_forget_lhsVars h (fun i hi h => (hag i hi h).symm) (fun i h1 h2 => by omega)
  unfold bdsLhsGenAffinePreimageCore
  dsimp only [lhsForm]
  rw [if_neg h0, if_neg h1, hcom]
  simp only [Bool.not_false, if_true]
  unfold lhsSpaceDim
  rw [hm1]
  dsimp only
  split
  · exact ⟨_, rfl, hforget hy⟩
  · have hs := sat_ofMat hy
    split
    · rename_i he
      exact absurd hs (DBM.closureEmpty_sound hR.up_le _ he _)
    · exact ⟨_, rfl, hforget ((DBM.sat_iff_holds _ _).1 (DBM.closure_sat hR.up_le _ _ hs))⟩

/-- `lhs` general, sharing variables with `rhs`: the additional dimension -/
theorem bdsLhsPreimageNewDim_sound (hel : ∀ i, n ≤ i → el i = 0) (her : ∀ i, n ≤ i → er i = 0) (hc : CoeffExact R el)
    (hx' : x' ∈ γB n m)
    (hag : ∀ i, i < n → el i = 0 → x' i = x i)
    (hrel : rel.holds (linEval el x' n + bl) (linEval er x n + br)) :
    ∃ m', bdsLhsPreimageNewDim R n rel el bl er br m = some m' ∧ x ∈ γB n m' := by
  unfold bdsLhsPreimageNewDim
  dsimp only
  -- the new dimension receives the value of `lhs`
  have hx0 := holds_embedOne hx'
  have hx1 : upd x' n ((linEval el x' (n+1) + bl) / ((1 : Int) : Rat)) ∈ γB (n+1) _ :=
    affineImageCore_sound hR (Nat.lt_succ_self n) hc (by decide : (1 : Int) ≠ 0) (b := bl) hx0
  have hu : linEval el x' (n+1) = linEval el x' n := by simp [linEval, hel n (le_refl n)]
  rw [hu, Int.cast_one, div_one] at hx1
  generalize hU : linEval el x' n + (bl : Rat) = U at hx1 hrel
  generalize affineImageCore R (n + 1) n el bl 1 (embedOne n m) = m1 at hx1 ⊢
  generalize bdsLhsAffineImageGeneralClosed R (lastNonzero el (n + 1)) el bl 1 (embedOne n m) = closed1
  have hs2 := sat_ofMat hx1
  have hm2 : (!closed1 && DBM.closureEmpty R.up (DBM.ofMat (n + 1) m1)) = false ∧
      upd x' n U ∈ γB (n+1) (if closed1 = true then m1 else (DBM.closure R.up (DBM.ofMat (n + 1) m1)).e) := by
    cases closed1 with
    | true => exact ⟨rfl, by simpa using hx1⟩
    | false =>
      simp only [Bool.not_false, Bool.true_and, Bool.false_eq_true, if_false]
      constructor
      · cases he : DBM.closureEmpty R.up (DBM.ofMat (n + 1) m1) with
        | false => rfl
        | true => exact absurd hs2 (DBM.closureEmpty_sound hR.up_le _ he _)
      · exact (DBM.sat_iff_holds _ _).1 (DBM.closure_sat hR.up_le _ _ hs2)
  rw [hm2.1]
  simp only [Bool.false_eq_true, if_false]
  have hx2 := hm2.2
  generalize (if closed1 = true then m1 else (DBM.closure R.up (DBM.ofMat (n + 1) m1)).e) = m2 at hx2 ⊢
  -- the variables of `lhs` are forgotten: the point `(x, U)`
  have hx3 : upd x n U ∈ γB (n+1) (bdsLhsForgetVars (n + 2) (lhsVars el n) m2) :=
    holds_forget_lhsVars (N := n + 1) (n := n) hx2 (lhs_newDim_agree U hag).1 (lhs_newDim_agree U hag).2
  -- `new_var relsym rhs`
  obtain ⟨m4, hm4, hy4, _⟩ := lhsRefineRel_sound (R := R) hR.up_le (N := n + 1) rel
    (sdl := n + 1) (sdr := lhsSpaceDim er n) (el := fun i => if i = n then (1 : Int) else 0) (er := er) 0 br
    (le_refl _) (by unfold lhsSpaceDim; have := lastNonzero_le er n; omega)
    (fun i h1 h2 => by omega)
    (fun i h1 h2 => by
      by_cases hin : i < n
      · exact lastNonzero_above er n i h1 hin
      · exact her i (by omega))
    hx3 (lhs_newVar_rel her hrel)
  rw [hm4]
  dsimp only
  split
  · exact ⟨_, rfl, lhs_restrict hy4⟩
  · have hs5 := sat_ofMat hy4
    split
    · rename_i he
      exact absurd hs5 (DBM.closureEmpty_sound hR.up_le _ he _)
    · exact ⟨_, rfl, lhs_restrict ((DBM.sat_iff_holds _ _).1 (DBM.closure_sat hR.up_le _ _ hs5))⟩

/-- every branch of `generalized_affine_preimage(lhs, relsym, rhs)` after the closure.  Side conditions:
`t_lhs == 1`: the coefficients of `rhs` and `|a_lhs|` representable (the delegate); shared variables: the
coefficients of `lhs` representable (`affine_image(new_var, lhs)`); otherwise none. -/
theorem bdsLhsGenAffinePreimageCore_sound (hel : ∀ i, n ≤ i → el i = 0) (her : ∀ i, n ≤ i → er i = 0)
    (hc1 : exprT el (lastNonzero el n) = 1 → CoeffExact R er ∧
      R.up ((absI (el (lastNonzero el n - 1)) : Int) : Rat) = fin ((absI (el (lastNonzero el n - 1)) : Int) : Rat))
    (hc2 : exprT el (lastNonzero el n) = 2 →
      lhsHaveCommonVar el er (min (lhsSpaceDim el n) (lhsSpaceDim er n)) = true → CoeffExact R el)
    (hx' : x' ∈ γB n m)
    (hag : ∀ i, i < n → el i = 0 → x' i = x i)
    (hrel : rel.holds (linEval el x' n + bl) (linEval er x n + br)) :
    ∃ m', bdsLhsGenAffinePreimageCore R n rel el bl er br m = some m' ∧ x ∈ γB n m' := by
  by_cases h0 : exprT el (lastNonzero el n) = 0
  · exact bdsLhsPre_t0_sound hR rel bl br h0 hx' hag hrel
  · by_cases h1 : exprT el (lastNonzero el n) = 1
    · exact bdsLhsPre_t1_sound hR rel bl br h1 (hc1 h1).1 (hc1 h1).2 hx' hag hrel
    · cases hcom : lhsHaveCommonVar el er (min (lhsSpaceDim el n) (lhsSpaceDim er n)) with
      | false => exact bdsLhsPre_disjoint_sound hR rel bl br h0 h1 hcom hx' hag hrel
      | true =>
        have h2 : exprT el (lastNonzero el n) = 2 := by
          unfold exprT at h0 h1 ⊢
          split_ifs at h0 h1 ⊢ <;> first | rfl | omega
        have := bdsLhsPreimageNewDim_sound hR rel bl br hel her (hc2 h2 hcom) hx' hag hrel
        unfold bdsLhsGenAffinePreimageCore
        dsimp only [lhsForm]
        rw [if_neg h0, if_neg h1, hcom]
        simpa using this

end

end PPLV.WR

import PPLV.WR.Trans
import PPLV.WR.ClosureProofsDeduce
import Mathlib.Tactic.Linarith
import Mathlib.Tactic.FieldSimp
/-!
# Sign-case transformers of `BD_Shape<T>`: hypotheses on the rounding, basic lemmas

`Rnd.Sound R` collects the one-sided facts that the rounding directions of the code guarantee;
`CoeffExact R e` says that the absolute values of the coefficients of `e` are representable in `T`
(the side condition that excludes the open findings about coefficient-side rounding).
-/
namespace PPLV.WR
open ExtRat

/-- what `ROUND_UP` / `ROUND_DOWN` guarantee -/
structure Rnd.Sound (R : Rnd) : Prop where
  up_le : ∀ x : Rat, fin x ≤ R.up x
  dn_pos : ∀ y : Rat, 1 ≤ y → 0 < R.dn y
  dn_le : ∀ y : Rat, 1 ≤ y → R.dn y ≤ y
  addMul_le : ∀ s c a : Rat, fin (s + c * a) ≤ R.addMul s c a

/-- the absolute values of all (non-zero) coefficients are representable:
`assign_r(coeff_i, ±sc_i, ROUND_UP)` is exact -/
def CoeffExact (R : Rnd) (e : Nat → Int) : Prop :=
  ∀ i, e i ≠ 0 → R.up ((absI (e i) : Int) : Rat) = fin ((absI (e i) : Int) : Rat)

/-- `t relsym q` -/
def RelSym.holds : RelSym → Rat → Rat → Prop
  | .le, t, q => t ≤ q
  | .ge, t, q => q ≤ t
  | .eq, t, q => t = q

theorem absI_neg (a : Int) : absI (-a) = absI a := by
  unfold absI; split_ifs <;> omega

theorem absI_pos {a : Int} (h : a > 0) : absI a = a := by unfold absI; simp [h]
theorem absI_neg' {a : Int} (h : a < 0) : absI a = -a := by unfold absI; rw [if_neg (by omega)]
theorem absI_nonneg (a : Int) : 0 ≤ absI a := by unfold absI; split_ifs <;> omega

theorem CoeffExact.neg {R : Rnd} {e : Nat → Int} (h : CoeffExact R e) : CoeffExact R (fun i => - e i) := by
  intro i hi; simp only [absI_neg]; exact h i (by simpa using hi)

theorem CoeffExact.sc {R : Rnd} {e : Nat → Int} (h : CoeffExact R e) (den : Int) : CoeffExact R (scExpr e den) := by
  intro i hi; unfold scExpr at hi ⊢; split
  · rename_i hd; rw [if_pos hd] at hi; exact h i hi
  · rename_i hd; rw [if_neg hd] at hi; simp only [absI_neg]; exact h i (by simpa using hi)

theorem Rnd.exact_sound : Rnd.exact.Sound :=
  ⟨upId_sound, fun y hy => by simp [Rnd.exact]; linarith, fun y _ => le_refl _, fun s c a => le_rfl' _⟩

theorem Rnd.exact_coeff (e : Nat → Int) : CoeffExact Rnd.exact e := fun _ _ => rfl

theorem Rnd.ceil_sound : Rnd.ceil.Sound := by
  refine ⟨upCeil_sound, fun y hy => ?_, fun y _ => ?_, fun s c a => upCeil_sound _⟩
  · simp only [Rnd.ceil]
    have : (1 : Int) ≤ y.floor := Rat.le_floor_iff.2 (by exact_mod_cast hy)
    have : (1 : Rat) ≤ (y.floor : Rat) := by exact_mod_cast this
    linarith
  · simp only [Rnd.ceil]; exact Rat.floor_le y

theorem Rnd.ceil_coeff (e : Nat → Int) : CoeffExact Rnd.ceil e := by
  intro i _
  simp only [Rnd.ceil, upCeil]
  have : ((absI (e i) : Int) : Rat).ceil = absI (e i) := Rat.ceil_intCast _
  rw [this]

theorem val_upd (x : Nat → Rat) (var : Nat) (t : Rat) (a : Nat) :
    DBM.val (upd x var t) a = if a = var + 1 then t else DBM.val x a := by
  cases a with
  | zero => simp [DBM.val]
  | succ a =>
    simp only [DBM.val, upd]
    by_cases h : a = var
    · simp [h]
    · simp [h]

theorem upd_self (x : Nat → Rat) (var : Nat) : upd x var (x var) = x := by
  funext i; unfold upd; split
  · rename_i h; rw [h]
  · rfl

theorem upd_upd (x : Nat → Rat) (var : Nat) (s t : Rat) : upd (upd x var s) var t = upd x var t := by
  funext i; unfold upd; split <;> rfl

theorem holds_set {S : Nat → Nat → Prop} {p : Nat → Rat} {m : Mat} {i j : Nat} {k : ExtRat}
    (h : Holds S p m) (hk : S i j → fin (p j - p i) ≤ k) : Holds S p (m.set i j k) := by
  intro a b hab
  simp only [Mat.set_apply]
  split
  · rename_i hc; obtain ⟨rfl, rfl⟩ := hc; exact hk hab
  · exact h a b hab

theorem holds_ite {S : Nat → Nat → Prop} {p : Nat → Rat} {c : Prop} [Decidable c] {m m' : Mat}
    (h : c → Holds S p m) (h' : ¬ c → Holds S p m') : Holds S p (if c then m else m') := by
  split
  · exact h ‹_›
  · exact h' ‹_›

theorem holds_addDbm {S : Nat → Nat → Prop} {p : Nat → Rat} {m : Mat} {i j : Nat} {k : ExtRat}
    (h : Holds S p m) (hk : S i j → fin (p j - p i) ≤ k) : Holds S p (addDbmConstraint m i j k) := by
  unfold addDbmConstraint
  split
  · exact h
  · exact holds_set h hk

theorem addDbm_apply (m : Mat) (i j : Nat) (k : ExtRat) (a b : Nat) :
    addDbmConstraint m i j k a b = if a = i ∧ b = j then minA (m i j) k else m a b := by
  unfold addDbmConstraint minA
  by_cases hle : m i j ≤ k
  · simp only [if_pos hle]
    split
    · rename_i hc; obtain ⟨rfl, rfl⟩ := hc; rfl
    · rfl
  · simp only [if_neg hle, Mat.set_apply]

/-- `m'` is `m` outside the cells `W`: what a frame property of a matrix program says.  A program built from
`Mat.set`, `if` and the loops inherits it from its stores. -/
def EqOff (W : Nat → Nat → Prop) (m m' : Mat) : Prop := ∀ a c, ¬ W a c → m' a c = m a c

namespace EqOff
variable {W : Nat → Nat → Prop}

theorem refl (m : Mat) : EqOff W m m := fun _ _ _ => rfl

theorem trans {a b c : Mat} (h1 : EqOff W a b) (h2 : EqOff W b c) : EqOff W a c :=
  fun i j h => (h2 i j h).trans (h1 i j h)

theorem mono {W' : Nat → Nat → Prop} {m m' : Mat} (h : EqOff W m m') (hW : ∀ a c, W a c → W' a c) :
    EqOff W' m m' := fun a c hn => h a c fun hw => hn (hW a c hw)

theorem ite {m x y : Mat} {c : Prop} [Decidable c] (hx : EqOff W m x) (hy : EqOff W m y) :
    EqOff W m (if c then x else y) := by split <;> assumption

theorem set {m : Mat} {i j : Nat} (k : ExtRat) (h : W i j) : EqOff W m (m.set i j k) := by
  intro a c hW
  rw [Mat.set_apply, if_neg]
  rintro ⟨rfl, rfl⟩; exact hW h

theorem loopUp (n : Nat) (f : Nat → Mat → Mat) (hf : ∀ i a, EqOff W a (f i a)) (a : Mat) :
    EqOff W a (loopUp n f a) :=
  loopUp_rel (EqOff W) refl (fun _ _ _ => trans) n f (fun i _ => hf i) a

theorem loopDown (n : Nat) (f : Nat → Mat → Mat) (hf : ∀ i a, EqOff W a (f i a)) (a : Mat) :
    EqOff W a (loopDown n f a) :=
  loopDown_rel (EqOff W) refl (fun _ _ _ => trans) n f (fun i _ => hf i) a

theorem addDbm {m : Mat} {i j : Nat} (k : ExtRat) (h : W i j) : EqOff W m (addDbmConstraint m i j k) :=
  ite (refl m) (set k h)

end EqOff

theorem forgetAll_apply (rows v : Nat) (m : Mat) (a b : Nat) :
    forgetAll rows v m a b = if (a = v ∧ b < rows) ∨ (b = v ∧ a < rows) then pinf else m a b := by
  unfold forgetAll
  induction rows generalizing m with
  | zero => simp [loopDown]
  | succ k ih =>
    simp only [loopDown]
    rw [ih]
    simp only [Mat.set_apply]
    by_cases h1 : (a = v ∧ b < k) ∨ (b = v ∧ a < k)
    · rw [if_pos h1, if_pos (by omega)]
    · rw [if_neg h1]
      by_cases h2 : a = k ∧ b = v
      · rw [if_pos h2, if_pos (by omega)]
      · rw [if_neg h2]
        by_cases h3 : a = v ∧ b = k
        · rw [if_pos h3, if_pos (by omega)]
        · rw [if_neg h3, if_neg (by omega)]

theorem forgetBinary_apply (rows v : Nat) (m : Mat) (a b : Nat) :
    forgetBinary rows v m a b
      = if (a = v ∧ 0 < b ∧ b < rows) ∨ (b = v ∧ 0 < a ∧ a < rows) then pinf else m a b := by
  unfold forgetBinary
  cases rows with
  | zero => simp [loopDown]
  | succ r =>
    simp only [Nat.add_sub_cancel]
    induction r generalizing m with
    | zero => simp [loopDown]; intro h; omega
    | succ k ih =>
      simp only [loopDown]
      rw [ih]
      simp only [Mat.set_apply]
      by_cases h1 : (a = v ∧ 0 < b ∧ b < k + 1) ∨ (b = v ∧ 0 < a ∧ a < k + 1)
      · rw [if_pos h1, if_pos (by omega)]
      · rw [if_neg h1]
        by_cases h2 : a = k + 1 ∧ b = v
        · rw [if_pos h2, if_pos (by omega)]
        · rw [if_neg h2]
          by_cases h3 : a = v ∧ b = k + 1
          · rw [if_pos h3, if_pos (by omega)]
          · rw [if_neg h3, if_neg (by omega)]

/-- after `forget_all_dbm_constraints(v)` the point with a new value for `Variable(v-1)` satisfies the matrix -/
theorem holds_forgetAll {n var : Nat} {x : Nat → Rat} {m : Mat} (h : Holds (SB (n+1)) (DBM.val x) m)
    (t : Rat) : Holds (SB (n+1)) (DBM.val (upd x var t)) (forgetAll (n+1) (var+1) m) := by
  intro a b hab
  rw [forgetAll_apply]
  split
  · exact le_pinf _
  · rename_i hc
    have ha : a ≠ var + 1 := by intro h; apply hc; left; exact ⟨h, hab.2⟩
    have hb : b ≠ var + 1 := by intro h; apply hc; right; exact ⟨h, hab.1⟩
    rw [val_upd, val_upd, if_neg ha, if_neg hb]
    exact h a b hab

theorem linEval_congr {e e' : Nat → Int} (x : Nat → Rat) {k : Nat} (h : ∀ i, i < k → e i = e' i) :
    linEval e x k = linEval e' x k := by
  induction k with
  | zero => rfl
  | succ k ih =>
    simp only [linEval]
    rw [ih (fun i hi => h i (by omega)), h k (by omega)]

theorem linEval_zero_above {e : Nat → Int} (x : Nat → Rat) {w n : Nat} (hwn : w ≤ n)
    (h : ∀ i, w ≤ i → i < n → e i = 0) : linEval e x n = linEval e x w := by
  induction n with
  | zero => have : w = 0 := by omega
            subst this; rfl
  | succ k ih =>
    by_cases hk : w = k + 1
    · rw [hk]
    · simp only [linEval]
      rw [h k (by omega) (by omega), ih (by omega) (fun i h1 h2 => h i h1 (by omega))]
      simp

/-- coefficient function with the coefficient of id `p` removed -/
def zeroAt (g : Nat → Int) (p : Nat) : Nat → Int := fun i => if i = p then 0 else g i

theorem linEval_zeroAt (g : Nat → Int) (x : Nat → Rat) {p k : Nat} (hp : p < k) :
    linEval g x k = linEval (zeroAt g p) x k + (g p : Rat) * x p := by
  induction k with
  | zero => omega
  | succ k ih =>
    simp only [linEval]
    by_cases h : p = k
    · subst h
      rw [linEval_congr x (e := zeroAt g p) (e' := g) (fun i hi => by simp [zeroAt]; intro h; omega)]
      simp [zeroAt]
    · rw [ih (by omega)]
      simp only [zeroAt, if_neg (Ne.symm h)]
      ring

theorem lastNonzero_le (e : Nat → Int) (n : Nat) : lastNonzero e n ≤ n := by
  induction n with
  | zero => simp [lastNonzero]
  | succ k ih => simp only [lastNonzero]; split <;> omega

theorem lastNonzero_above (e : Nat → Int) (n : Nat) : ∀ i, lastNonzero e n ≤ i → i < n → e i = 0 := by
  induction n with
  | zero => intro i _ h; omega
  | succ k ih =>
    intro i h1 h2
    simp only [lastNonzero] at h1
    split at h1
    · omega
    · rename_i hk
      by_cases hik : i = k
      · subst hik; simpa using hk
      · exact ih i h1 (by omega)

theorem lastNonzero_ne (e : Nat → Int) (n : Nat) (h : lastNonzero e n ≠ 0) : e (lastNonzero e n - 1) ≠ 0 := by
  induction n with
  | zero => simp [lastNonzero] at h
  | succ k ih =>
    simp only [lastNonzero] at h ⊢
    split
    · simpa using ‹e k ≠ 0›
    · rename_i hk; rw [if_neg hk] at h; exact ih h

theorem anyNonzeroBelow_false {e : Nat → Int} {k : Nat} (h : anyNonzeroBelow e k = false) :
    ∀ i, i < k → e i = 0 := by
  induction k with
  | zero => intro i hi; omega
  | succ k ih =>
    simp only [anyNonzeroBelow, Bool.or_eq_false_iff, bne_eq_false_iff_eq] at h
    intro i hi
    by_cases hik : i = k
    · subst hik; exact h.1
    · exact ih h.2 i (by omega)

/-- the expression only mentions the first `w = last_nonzero` variables -/
theorem linEval_last (e : Nat → Int) (x : Nat → Rat) (n : Nat) :
    linEval e x n = linEval e x (lastNonzero e n) :=
  linEval_zero_above x (lastNonzero_le e n) (lastNonzero_above e n)

theorem linEval_zero_of (cf : Nat → Int) (x : Nat → Rat) (sd : Nat) (h : ∀ t, t < sd → cf t = 0) :
    linEval cf x sd = 0 := by
  induction sd with
  | zero => rfl
  | succ k ih =>
    simp only [linEval]
    rw [ih (fun t ht => h t (by omega)), h k (by omega)]
    simp

/-- `t == 0`: the expression is constant -/
theorem linEval_t0 {e : Nat → Int} (x : Nat → Rat) {n : Nat} (h : exprT e (lastNonzero e n) = 0) :
    linEval e x n = 0 := by
  rw [linEval_last]
  unfold exprT at h
  split at h
  · rename_i hw; rw [hw]; rfl
  · split at h <;> omega

/-- `t == 1`: the expression has the single term `a * w` -/
theorem linEval_t1 {e : Nat → Int} (x : Nat → Rat) {n : Nat} (h : exprT e (lastNonzero e n) = 1) :
    lastNonzero e n ≠ 0 ∧
    linEval e x n = (e (lastNonzero e n - 1) : Rat) * x (lastNonzero e n - 1) := by
  unfold exprT at h
  split at h
  · omega
  · rename_i hw
    split at h
    · omega
    · rename_i hany
      refine ⟨hw, ?_⟩
      rw [linEval_last]
      obtain ⟨k, hk⟩ : ∃ k, lastNonzero e n = k + 1 := ⟨lastNonzero e n - 1, by omega⟩
      rw [hk]
      simp only [Nat.add_sub_cancel, linEval]
      rw [linEval_zero_of _ x _ (anyNonzeroBelow_false (by simpa [hk] using hany))]
      simp

theorem fin_le_divRoundUp {R : Rnd} (hR : R.Sound) {a : Rat} {x y : Int} (h : a ≤ (x : Rat) / (y : Rat)) :
    fin a ≤ divRoundUp R x y := le_trans' (fin_le_fin.2 h) (hR.up_le _)

theorem fin_le_addUp' {R : Rnd} (hR : R.Sound) {x y : Rat} {a b : ExtRat} (ha : fin x ≤ a) (hb : fin y ≤ b) :
    fin (x + y) ≤ addUp R.up a b := fin_le_addUp hR.up_le ha hb

/-- `div_round_up_by_positive`: an upper bound divided by a positive integer -/
theorem fin_le_divRUBP {R : Rnd} (hR : R.Sound) {s' : Rat} {sum : ExtRat} {y : Int} (hy : 0 < y)
    (h : fin s' ≤ sum) : fin (s' / (y : Rat)) ≤ divRoundUpByPositive R sum y := by
  have hy' : (0 : Rat) < y := by exact_mod_cast hy
  have hy1 : (1 : Rat) ≤ y := by exact_mod_cast hy
  unfold divRoundUpByPositive
  cases sum with
  | pinf => exact le_pinf _
  | fin s =>
    have hs : s' ≤ s := fin_le_fin.1 h
    have h1 : s' / (y : Rat) ≤ s / y := div_le_div_of_nonneg_right hs hy'.le
    dsimp only
    split
    · rename_i hneg
      cases hu : R.up (y : Rat) with
      | pinf =>
        dsimp only
        refine fin_le_fin.2 (le_trans h1 ?_)
        exact le_of_lt (by rw [div_lt_iff₀ hy']; linarith)
      | fin ay =>
        dsimp only
        have hay : (y : Rat) ≤ ay := by have := hR.up_le (y : Rat); rw [hu] at this; exact fin_le_fin.1 this
        refine le_trans' (fin_le_fin.2 (le_trans h1 ?_)) (hR.up_le _)
        have hay' : 0 < ay := lt_of_lt_of_le hy' hay
        rw [div_le_div_iff₀ hy' hay']
        nlinarith
    · rename_i hnn
      have hnn := not_lt.1 hnn
      refine le_trans' (fin_le_fin.2 (le_trans h1 ?_)) (hR.up_le _)
      have hd0 := hR.dn_pos _ hy1
      have hd1 := hR.dn_le _ hy1
      rw [div_le_div_iff₀ hy' hd0]
      nlinarith

/-- one `add_mul_assign_r(sum, coeff, approx, ROUND_UP)` step with a representable coefficient -/
theorem fin_le_addMulUp {R : Rnd} (hR : R.Sound) {s' t c A : Rat} {sum : ExtRat} (hs : fin s' ≤ sum)
    (ht : t ≤ c * A) : fin (s' + t) ≤ addMulUp R sum (fin c) (fin A) := by
  cases sum with
  | pinf => exact le_pinf _
  | fin s =>
    have : s' ≤ s := fin_le_fin.1 hs
    exact le_trans' (fin_le_fin.2 (by linarith)) (hR.addMul_le s c A)

theorem special_val_pos {den : Int} (hden : den ≠ 0) {a : Int} (ha : a = den) (b : Int) (y : Rat) :
    ((a : Rat) * y + b) / den = y + (b : Rat) / den := by
  have hd : (den : Rat) ≠ 0 := by exact_mod_cast hden
  subst ha; field_simp

theorem special_val_neg {den : Int} (hden : den ≠ 0) {a : Int} (ha : a = - den) (b : Int) (y : Rat) :
    ((a : Rat) * y + b) / den = - y + (b : Rat) / den := by
  have hd : (den : Rat) ≠ 0 := by exact_mod_cast hden
  subst ha; push_cast; field_simp

theorem div_negden (b den : Int) : (b : Rat) / ((- den : Int) : Rat) = - ((b : Rat) / den) := by
  push_cast; rw [div_neg]

end PPLV.WR

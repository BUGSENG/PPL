import PPLV.WR.ReduceOctProofsPreserveTight
/-!
# Octagon reduction keeps every point: the unary cells `(i, cidx i)` of the non-singular leaders

Induction on the set `Dset i` of non-singular leaders `k ≠ i` through which the unary bound of `i` is attained
(`Tight0 i k`).  If there is one, the unary cell follows from the tight pair `(i, k)` and the unary cell of `k`.
Otherwise no pair on a tight path from `i` to `cidx i` can be redundant by strong coherence, so the closure
induction runs inside that family without unary cells.
-/
namespace PPLV.WR
open ExtRat (fin pinf addUp halfUp)

/-- the non-singular leaders through which the unary bound of `i` is attained -/
noncomputable def Dset {n : Nat} (c : OctM n) (i : Nat) : Finset Nat :=
  @Finset.filter _ (fun k => NSL (2 * n) c.e k ∧ k ≠ i ∧ Tight0 c.e i k) (Classical.decPred _)
    (Finset.range (2 * n))

theorem mem_Dset {n : Nat} {c : OctM n} {i k : Nat} :
    k ∈ Dset c i ↔ NSL (2 * n) c.e k ∧ k ≠ i ∧ Tight0 c.e i k := by
  unfold Dset
  rw [@Finset.mem_filter _ _ (Classical.decPred _), Finset.mem_range]
  exact ⟨fun h => h.2, fun h => ⟨h.1.lt, h⟩⟩

theorem Dset_ssubset {n : Nat} {c : OctM n} (hc : c.IsStronglyClosed) {i k : Nat} (hi : NSL (2 * n) c.e i)
    (hk : k ∈ Dset c i) : Dset c k ⊂ Dset c i := by
  obtain ⟨k1, k2, k3⟩ := mem_Dset.1 hk
  have hsub : Dset c k ⊆ Dset c i := by
    intro l hl
    obtain ⟨l1, l2, l3⟩ := mem_Dset.1 hl
    refine mem_Dset.2 ⟨l1, ?_, Tight0.trans hc hi.lt k1.lt l1.lt k3 l3⟩
    intro e
    subst e
    exact k2 (Tight0.antisymm k1 l1 l3 k3)
  rw [Finset.ssubset_iff_of_subset hsub]
  exact ⟨k, hk, fun h => (mem_Dset.1 h).2.1 rfl⟩

section ctx
variable {n : Nat} {c : OctM n} {succ : Nat → Nat} {nr : BMat} {p : Nat → Rat} (X : RCtx c succ nr p)
include X

/-- pairs on a tight path from `i` to `cidx i`, other than `(i, cidx i)` itself -/
def OnPath {n : Nat} (c : OctM n) (i a b : Nat) : Prop :=
  NSL (2 * n) c.e a ∧ NSL (2 * n) c.e b ∧ a ≠ b ∧ ¬ (a = i ∧ b = cidx i) ∧
    eadd (octFull c.e i a) (eadd (octFull c.e a b) (octFull c.e b (cidx i))) ≤ octFull c.e i (cidx i)

/-- with `Dset i` empty, every pair on a tight path from `i` to `cidx i` holds -/
theorem RCtx.ok_of_onPath {i : Nat} (hi : NSL (2 * n) c.e i) (hD : Dset c i = ∅) {x : Rat}
    (hx : octFull c.e i (cidx i) = fin x) {a b : Nat} (hab : OnPath c i a b) : Ok c.e p a b := by
  have hnot : ∀ k, NSL (2 * n) c.e k → k ≠ i → ¬ Tight0 c.e i k := by
    intro k hk hki ht
    have : k ∈ Dset c i := mem_Dset.2 ⟨hk, hki, ht⟩
    rw [hD] at this
    exact absurd this (Finset.notMem_empty k)
  have hci := NSL.cidx hi
  refine X.ok_of_family (OnPath c i) (fun a b h => ⟨h.1, h.2.1, h.2.2.1⟩) ?_ ?_ a b hab
  · -- never redundant by strong coherence
    rintro a b ⟨ha, hb, hne, hnot', hle⟩ ⟨hbca, hco⟩
    exfalso
    rw [hx] at hle
    obtain ⟨r, y', hr, hy', h1⟩ := eadd_le_fin_inv hle
    obtain ⟨y, t, hy, ht, h2⟩ := eadd_le_fin_inv (x := octFull c.e a b) (y := octFull c.e b (cidx i)) (v := y')
      (by rw [hy']; exact ExtRat.le_rfl' _)
    rw [hy] at hco
    obtain ⟨α, β, hα, hβ, h3⟩ := half_eadd_le_fin_inv hco
    obtain ⟨x1, hx1, h4⟩ := unary_le X.hc hi.lt ha.lt hr hα
    rw [hx] at hx1; cases hx1
    have ht' : octFull c.e i (cidx b) = fin t := by
      have := octFull_coh' c.e (cidx i) b; rw [cidx_cidx] at this; rw [this]; exact ht
    have hβ' : octFull c.e (cidx b) (cidx (cidx b)) = fin β := by rw [cidx_cidx]; exact hβ
    obtain ⟨x2, hx2, h5⟩ := unary_le X.hc hi.lt (cidx_lt hb.lt) ht' hβ'
    rw [hx] at hx2; cases hx2
    by_cases e : a = i
    · have hb' : cidx b ≠ i := fun e' => hnot' ⟨e, by rw [← e', cidx_cidx]⟩
      exact hnot (cidx b) (NSL.cidx hb) hb' ⟨x, t, β, hx, ht', hβ', by linarith only [h1, h2, h3, h4, h5]⟩
    · exact hnot a ha e ⟨x, r, α, hx, hr, hα, by linarith only [h1, h2, h3, h4, h5]⟩
  · -- splitting by closure stays on a tight path
    rintro a b k ⟨ha, hb, hne, hnot', hle⟩ hk hka hkb hsum _
    have base : eadd (octFull c.e i a) (eadd (eadd (octFull c.e a k) (octFull c.e k b)) (octFull c.e b (cidx i)))
        ≤ octFull c.e i (cidx i) :=
      ExtRat.le_trans' (eadd_mono (ExtRat.le_rfl' _) (eadd_mono hsum (ExtRat.le_rfl' _))) hle
    refine ⟨⟨ha, hk, Ne.symm hka, ?_, ?_⟩, ⟨hk, hb, hkb, ?_, ?_⟩⟩
    · rintro ⟨rfl, rfl⟩
      rw [octFull_self, eadd_zero_left, hx] at hle
      obtain ⟨y, t, hy, ht, h1⟩ := eadd_le_fin_inv hle
      rw [hx, hy] at hsum
      obtain ⟨x', u, hx', hu, h2⟩ := eadd_le_fin_inv hsum
      cases hx'
      have := NSL.cycle_pos X.hc hci hb hkb hu ht
      linarith only [this, h1, h2]
    · have t := X.hc.tri k (cidx i) b hk.lt (cidx_lt hi.lt) hb.lt
      have s1 := eadd_mono (ExtRat.le_rfl' (octFull c.e i a)) (eadd_mono (ExtRat.le_rfl' (octFull c.e a k)) t)
      rw [← eadd_assoc (octFull c.e a k)] at s1
      exact ExtRat.le_trans' s1 base
    · rintro ⟨rfl, rfl⟩
      rw [octFull_self, eadd_zero_right, hx] at hle
      obtain ⟨r, y, hr, hy, h1⟩ := eadd_le_fin_inv hle
      rw [hx, hy] at hsum
      obtain ⟨u, x', hu, hx', h2⟩ := eadd_le_fin_inv hsum
      cases hx'
      have := NSL.cycle_pos X.hc hk ha hka hr hu
      linarith only [this, h1, h2]
    · have t := X.hc.tri i k a hi.lt hk.lt ha.lt
      have s1 := eadd_mono t (ExtRat.le_rfl' (eadd (octFull c.e k b) (octFull c.e b (cidx i))))
      rw [eadd_assoc, ← eadd_assoc (octFull c.e a k)] at s1
      exact ExtRat.le_trans' s1 base

/-- the unary cell of every non-singular leader holds -/
theorem RCtx.ok_unary : ∀ i, NSL (2 * n) c.e i → Ok c.e p i (cidx i) := by
  suffices h : ∀ N i, (Dset c i).card < N → NSL (2 * n) c.e i → Ok c.e p i (cidx i) from
    fun i hi => h _ i (Nat.lt_succ_self _) hi
  intro N
  induction N with
  | zero => intro i h; omega
  | succ N ih =>
    intro i hcard hi
    by_cases hD : Dset c i = ∅
    · cases hx : octFull c.e i (cidx i) with
      | pinf => exact Ok.of_pinf hx
      | fin x =>
        have hci := NSL.cidx hi
        rcases X.trichotomy hi hci (cidx_ne i).symm with h | h | h
        · exact h
        · exact absurd rfl h.1
        · obtain ⟨k, hk, hki, hkc, hle⟩ := h
          have h1 : Ok c.e p i k := X.ok_of_onPath hi hD hx
            ⟨hi, hk, Ne.symm hki, fun h => hkc h.2, by rw [octFull_self, eadd_zero_left]; exact hle⟩
          have h2 : Ok c.e p k (cidx i) := X.ok_of_onPath hi hD hx
            ⟨hk, hci, hkc, fun h => hki h.1, by rw [octFull_self, eadd_zero_right]; exact hle⟩
          exact Ok.trans h1 h2 hle
    · obtain ⟨k, hk⟩ := Finset.nonempty_iff_ne_empty.2 hD
      obtain ⟨k1, k2, x, r, q, hx, hr, hq, e⟩ := mem_Dset.1 hk
      have l1 := Finset.card_lt_card (Dset_ssubset X.hc hi hk)
      have h1 : Ok c.e p i k := X.ok_of_tight hi k1 (Ne.symm k2) ⟨x, r, q, hx, hr, hq, e⟩
      have h2 : Ok c.e p k (cidx k) := ih k (by omega) k1
      unfold Ok at h1 h2 ⊢
      rw [hr] at h1
      rw [hq, X.hp] at h2
      rw [hx, X.hp]
      have a1 := ExtRat.fin_le_fin.1 h1
      have a2 := ExtRat.fin_le_fin.1 h2
      exact ExtRat.fin_le_fin.2 (by linarith only [a1, a2, e])

end ctx

end PPLV.WR

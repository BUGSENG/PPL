import PPLV.WR.ReduceOctProofsPreserveBase
import Mathlib.Data.Finset.Card
/-!
# Octagon reduction keeps every point: the induction over pairs of non-singular leaders

`Bset i j` is the set of indices on a tight two-step path from `i` to `j`; a closure-redundant pair
`(i, j)` through `k` splits into `(i, k)`, `(k, j)` with strictly smaller sets (distinct non-singular leaders
lie on strictly positive cycles).  A family of pairs closed under this splitting all of whose
coherence-redundant members are known to hold, holds.
-/
namespace PPLV.WR
open ExtRat (fin pinf addUp halfUp)

/-- indices on a tight two-step path -/
def Bset {n : Nat} (c : OctM n) (i j : Nat) : Finset Nat :=
  (Finset.range (2 * n)).filter fun k => eadd (octFull c.e i k) (octFull c.e k j) ≤ octFull c.e i j

section closed
variable {n : Nat} {c : OctM n} (hc : c.IsStronglyClosed)
include hc

theorem Bset_ssubset_left {a b k : Nat} (_ha : a < 2 * n) (hb : NSL (2 * n) c.e b) (hk : NSL (2 * n) c.e k)
    (hkb : k ≠ b) {v : Rat} (hv : octFull c.e a b = fin v)
    (hle : eadd (octFull c.e a k) (octFull c.e k b) ≤ octFull c.e a b) : Bset c a k ⊂ Bset c a b := by
  have hsub : Bset c a k ⊆ Bset c a b := by
    intro l hl
    unfold Bset at hl ⊢
    rw [Finset.mem_filter, Finset.mem_range] at hl ⊢
    refine ⟨hl.1, ?_⟩
    have t := hc.tri l b k hl.1 hb.lt hk.lt
    have s1 := eadd_mono (ExtRat.le_rfl' (octFull c.e a l)) t
    rw [← eadd_assoc] at s1
    have s2 := eadd_mono hl.2 (ExtRat.le_rfl' (octFull c.e k b))
    exact ExtRat.le_trans' s1 (ExtRat.le_trans' s2 hle)
  rw [Finset.ssubset_iff_of_subset hsub]
  refine ⟨b, ?_, ?_⟩
  · unfold Bset
    rw [Finset.mem_filter, Finset.mem_range, octFull_self, eadd_zero_right]
    exact ⟨hb.lt, ExtRat.le_rfl' _⟩
  · intro hmem
    unfold Bset at hmem
    rw [Finset.mem_filter] at hmem
    have s2 := ExtRat.le_trans' (eadd_mono hmem.2 (ExtRat.le_rfl' (octFull c.e k b))) hle
    rw [hv, eadd_assoc] at s2
    obtain ⟨x, y, hx, hy, hxy⟩ := eadd_le_fin_inv s2
    cases hx
    obtain ⟨r, t, hr, ht, hrt⟩ := eadd_le_fin_inv (x := octFull c.e b k) (y := octFull c.e k b) (v := y)
      (by rw [hy]; exact ExtRat.le_rfl' _)
    have := NSL.cycle_pos hc hb hk (Ne.symm hkb) hr ht
    linarith only [this, hxy, hrt]

theorem Bset_ssubset_right {a b k : Nat} (ha : NSL (2 * n) c.e a) (_hb : b < 2 * n) (hk : NSL (2 * n) c.e k)
    (hka : k ≠ a) {v : Rat} (hv : octFull c.e a b = fin v)
    (hle : eadd (octFull c.e a k) (octFull c.e k b) ≤ octFull c.e a b) : Bset c k b ⊂ Bset c a b := by
  have hsub : Bset c k b ⊆ Bset c a b := by
    intro l hl
    unfold Bset at hl ⊢
    rw [Finset.mem_filter, Finset.mem_range] at hl ⊢
    refine ⟨hl.1, ?_⟩
    have t := hc.tri a l k ha.lt hl.1 hk.lt
    have s1 := eadd_mono t (ExtRat.le_rfl' (octFull c.e l b))
    rw [eadd_assoc] at s1
    have s2 := eadd_mono (ExtRat.le_rfl' (octFull c.e a k)) hl.2
    exact ExtRat.le_trans' s1 (ExtRat.le_trans' s2 hle)
  rw [Finset.ssubset_iff_of_subset hsub]
  refine ⟨a, ?_, ?_⟩
  · unfold Bset
    rw [Finset.mem_filter, Finset.mem_range, octFull_self, eadd_zero_left]
    exact ⟨ha.lt, ExtRat.le_rfl' _⟩
  · intro hmem
    unfold Bset at hmem
    rw [Finset.mem_filter] at hmem
    have s2 := ExtRat.le_trans' (eadd_mono (ExtRat.le_rfl' (octFull c.e a k)) hmem.2) hle
    rw [hv, ← eadd_assoc] at s2
    obtain ⟨x, y, hx, hy, hxy⟩ := eadd_le_fin_inv s2
    cases hy
    obtain ⟨r, t, hr, ht, hrt⟩ := eadd_le_fin_inv (x := octFull c.e a k) (y := octFull c.e k a) (v := x)
      (by rw [hx]; exact ExtRat.le_rfl' _)
    have := NSL.cycle_pos hc ha hk (Ne.symm hka) hr ht
    linarith only [this, hxy, hrt]

end closed

section ctx
variable {n : Nat} {c : OctM n} {succ : Nat → Nat} {nr : BMat} {p : Nat → Rat} (X : RCtx c succ nr p)
include X

/-- the induction over pairs of non-singular leaders -/
theorem RCtx.ok_of_family (C : Nat → Nat → Prop)
    (hC : ∀ a b, C a b → NSL (2 * n) c.e a ∧ NSL (2 * n) c.e b ∧ a ≠ b)
    (hcoh : ∀ a b, C a b → CohRed c.e a b → Ok c.e p a b)
    (hclo : ∀ a b k, C a b → NSL (2 * n) c.e k → k ≠ a → k ≠ b →
      eadd (octFull c.e a k) (octFull c.e k b) ≤ octFull c.e a b → octFull c.e a b ≠ pinf → C a k ∧ C k b) :
    ∀ a b, C a b → Ok c.e p a b := by
  suffices h : ∀ N a b, (Bset c a b).card < N → C a b → Ok c.e p a b from
    fun a b hab => h _ a b (Nat.lt_succ_self _) hab
  intro N
  induction N with
  | zero => intro a b h; omega
  | succ N ih =>
    intro a b hcard hab
    obtain ⟨ha, hb, hne⟩ := hC a b hab
    cases hv : octFull c.e a b with
    | pinf => exact Ok.of_pinf hv
    | fin v =>
      rcases X.trichotomy ha hb hne with h | h | h
      · exact h
      · exact hcoh a b hab h
      · obtain ⟨k, hk, hka, hkb, hle⟩ := h
        obtain ⟨c1, c2⟩ := hclo a b k hab hk hka hkb hle (by rw [hv]; intro e; cases e)
        have l1 := Finset.card_lt_card (Bset_ssubset_left X.hc ha.lt hb hk hkb hv hle)
        have l2 := Finset.card_lt_card (Bset_ssubset_right X.hc ha hb.lt hk hka hv hle)
        exact Ok.trans (ih a k (by omega) c1) (ih k b (by omega) c2) hle

end ctx

end PPLV.WR

import PPLV.WR.TransOct2LatProofsConcatMap
import Mathlib.Data.List.Perm.Subperm
import Mathlib.Data.List.Nodup
/-!
# Lattice / dimension operations of `Octagonal_Shape<T>`: remove_space_dimensions (the table of kept variables,
the index map of the re-indexed matrix, soundness)
-/
namespace PPLV.WR
open ExtRat

/-! ## the table of kept variables -/

theorem octLatRemoveTable_sorted (n : Nat) (vars : List Nat) :
    (octLatRemoveTable n vars).Pairwise (· < ·) := by
  cases vars with
  | nil => exact List.pairwise_lt_range
  | cons first rest =>
    simp only [octLatRemoveTable]
    rw [List.pairwise_append]
    refine ⟨List.pairwise_lt_range, List.Pairwise.filter _ (List.pairwise_lt_range' 1), ?_⟩
    intro a ha b hb
    have h1 := List.mem_range.1 ha
    have h2 := List.mem_range'_1.1 (List.mem_of_mem_filter hb)
    omega

theorem octLatRemoveTable_lt (n : Nat) (vars : List Nat) (hvs : ∀ v, v ∈ vars → v < n) :
    ∀ s, s ∈ octLatRemoveTable n vars → s < n := by
  cases vars with
  | nil => intro s hs; exact List.mem_range.1 hs
  | cons first rest =>
    intro s hs
    simp only [octLatRemoveTable, List.mem_append] at hs
    have hf := hvs first List.mem_cons_self
    rcases hs with hs | hs
    · have := List.mem_range.1 hs; omega
    · have := List.mem_range'_1.1 (List.mem_of_mem_filter hs); omega

theorem octLatRemoveTable_length (n : Nat) (vars : List Nat) (hvs : ∀ v, v ∈ vars → v < n) :
    n - vars.length ≤ (octLatRemoveTable n vars).length := by
  cases vars with
  | nil => simp [octLatRemoveTable]
  | cons first rest =>
    have hf := hvs first List.mem_cons_self
    simp only [octLatRemoveTable, List.length_append, List.length_range, List.length_cons]
    set l := List.range' (first + 1) (n - (first + 1)) with hl
    set p : Nat → Bool := fun i => !(first :: rest).contains i with hp
    have h1 := List.length_eq_countP_add_countP p (l := l)
    rw [List.countP_eq_length_filter, List.countP_eq_length_filter] at h1
    have h2 : (l.filter (fun a => decide ¬p a = true)).length ≤ rest.length := by
      apply List.Subperm.length_le
      apply List.subperm_of_subset ((List.nodup_range' 1).filter _)
      intro i hi
      have hi1 := List.mem_range'_1.1 (List.mem_of_mem_filter hi)
      have hi2 := (List.mem_filter.1 hi).2
      simp only [hp, Bool.not_eq_true', Bool.not_eq_false, decide_eq_true_eq,
        List.contains_eq_mem, List.mem_cons, decide_eq_true_eq] at hi2
      rcases hi2 with h | h
      · omega
      · exact h
    have h3 : l.length = n - (first + 1) := by rw [hl, List.length_range']
    omega

theorem octLatRemoveTable_notMem (n : Nat) (vars : List Nat) (hs : vars.Pairwise (· < ·)) :
    ∀ s, s ∈ octLatRemoveTable n vars → s ∉ vars := by
  cases vars with
  | nil => intro s _ h; simp at h
  | cons first rest =>
    intro s hs' hmem
    simp only [octLatRemoveTable, List.mem_append] at hs'
    rcases hs' with h | h
    · have h1 := List.mem_range.1 h
      rcases List.mem_cons.1 hmem with e | e
      · omega
      · have := (List.pairwise_cons.1 hs).1 s e; omega
    · have h2 := (List.mem_filter.1 h).2
      simp only [Bool.not_eq_true', List.contains_eq_mem, decide_eq_false_iff_not] at h2
      exact h2 hmem

/-- the stored cells between kept variables are satisfied -/
def octLatKeptHolds (n : Nat) (vars : List Nat) (x : Nat → Rat) (m : Mat) : Prop :=
  ∀ a b, a < 2 * n → b < rowSize a → a / 2 ∉ vars → b / 2 ∉ vars →
    fin (OctM.oval x b - OctM.oval x a) ≤ m a b

theorem octLatKeptHolds_of_mem {n : Nat} {vars : List Nat} {x : Nat → Rat} {m : Mat} (h : x ∈ γO n m) :
    octLatKeptHolds n vars x m := fun a b ha hb _ _ => h a b ⟨ha, hb⟩

/-- the point with the removed coordinates dropped: new coordinate `i` is the old `tbl[i]` -/
def octLatDropPoint (n : Nat) (vars : List Nat) (x : Nat → Rat) : Nat → Rat :=
  fun i => x ((octLatRemoveTable n vars).getD i 0)

/-- the matrix index of the old matrix behind the index `A` of the re-indexed one -/
def octLatIota (tbl : List Nat) (A : Nat) : Nat := 2 * tbl.getD (A / 2) 0 + A % 2

theorem octLatReindex_apply (tbl : List Nat) (m : Mat) (A B : Nat) :
    octLatReindex tbl m A B = m (octLatIota tbl A) (octLatIota tbl B) := rfl

theorem octLatIota_add (tbl : List Nat) {k s : Nat} (hs : s < 2) :
    octLatIota tbl (2 * k + s) = 2 * tbl.getD k 0 + s := by
  unfold octLatIota
  rw [show (2 * k + s) / 2 = k by omega, show (2 * k + s) % 2 = s by omega]

theorem octLatIota_cidx (tbl : List Nat) (A : Nat) : octLatIota tbl (cidx A) = cidx (octLatIota tbl A) := by
  obtain ⟨k, s, s', hs, rfl⟩ := latIdx_pair A
  rw [cidx_add_one hs, octLatIota_add _ (by omega), octLatIota_add _ (by omega), cidx_add_one hs]

theorem octLatIota_half (tbl : List Nat) (A : Nat) : octLatIota tbl A / 2 = tbl.getD (A / 2) 0 := by
  unfold octLatIota; omega

theorem octLatIota_oval (tbl : List Nat) (x : Nat → Rat) (C : Nat) :
    OctM.oval (fun i => x (tbl.getD i 0)) C = OctM.oval x (octLatIota tbl C) := by
  unfold OctM.oval
  rw [octLatIota_half, show octLatIota tbl C % 2 = C % 2 by unfold octLatIota; omega]

theorem octLatIota_lt {n : Nat} {tbl : List Nat} (hlt : ∀ s, s ∈ tbl → s < n) {A : Nat} (hA : A / 2 < tbl.length) :
    octLatIota tbl A < 2 * n := by
  have := hlt _ (latGetD_mem hA)
  unfold octLatIota; omega

/-- along a strictly increasing table stored cells go to stored cells -/
theorem octLatIota_stored {tbl : List Nat} (hs : tbl.Pairwise (· < ·)) {A B : Nat} (hA : A / 2 < tbl.length)
    (h : B < rowSize A) : octLatIota tbl B < rowSize (octLatIota tbl A) := by
  have := latGetD_mono hs (by unfold rowSize at h; omega : B / 2 ≤ A / 2) hA
  unfold rowSize octLatIota; omega

theorem octLatIota_inj {tbl : List Nat} (hs : tbl.Pairwise (· < ·)) {A B : Nat} (hA : A / 2 < tbl.length)
    (hB : B / 2 < tbl.length) (h : octLatIota tbl A = octLatIota tbl B) : A = B := by
  unfold octLatIota at h
  have := latGetD_inj hs hA hB (by omega)
  omega

theorem octLatReindex_holds {n k : Nat} {vars tbl : List Nat} (hs : tbl.Pairwise (· < ·))
    (hlt : ∀ s, s ∈ tbl → s < n) (hnm : ∀ s, s ∈ tbl → s ∉ vars) (hlen : k ≤ tbl.length)
    {m : Mat} {x : Nat → Rat} (hx : octLatKeptHolds n vars x m) :
    (fun i => x (tbl.getD i 0)) ∈ γO k (octLatReindex tbl m) := by
  intro a b hab
  have ha : a / 2 < tbl.length := by have := hab.1; omega
  have hb : b / 2 < tbl.length := by have := hab.2; unfold rowSize at this; omega
  rw [octLatIota_oval, octLatIota_oval]
  exact hx _ _ (octLatIota_lt hlt ha) (octLatIota_stored hs ha hab.2)
    (by rw [octLatIota_half]; exact hnm _ (latGetD_mem ha)) (by rw [octLatIota_half]; exact hnm _ (latGetD_mem hb))

/-- `remove_space_dimensions` on a matrix that is marked closed: the kept cells decide -/
theorem octLatRemoveDims_closed_sound (R : Rnd) (n : Nat) (m : Mat) (vars : List Nat)
    (hne : vars ≠ []) (hsorted : vars.Pairwise (· < ·)) (hvs : ∀ v, v ∈ vars → v < n) {x : Nat → Rat}
    (hx : octLatKeptHolds n vars x m) :
    ∃ r, octLatRemoveDims R n true m vars = some r ∧ r.dim = n - vars.length ∧
      octLatDropPoint n vars x ∈ γO r.dim r.m := by
  unfold octLatRemoveDims
  have : vars.isEmpty = false := List.isEmpty_eq_false_iff.2 hne
  simp only [this, Bool.false_eq_true, if_false, octLatClose, if_true]
  split
  · rename_i h0
    refine ⟨_, rfl, h0.symm, ?_⟩
    intro a b hab
    have := hab.1; simp only at this; omega
  · refine ⟨_, rfl, rfl, ?_⟩
    exact octLatReindex_holds (octLatRemoveTable_sorted n vars) (octLatRemoveTable_lt n vars hvs)
      (octLatRemoveTable_notMem n vars hsorted) (octLatRemoveTable_length n vars hvs) hx

/-- `remove_space_dimensions(vars)`: the point with the removed coordinates dropped is in the result -/
theorem octLatRemoveDims_sound {R : Rnd} (hR : R.Sound) (n : Nat) (c : Bool) (m : Mat) (vars : List Nat)
    (hne : vars ≠ []) (hvs : ∀ v, v ∈ vars → v < n) {x : Nat → Rat} (hx : x ∈ γO n m) :
    ∃ r, octLatRemoveDims R n c m vars = some r ∧ r.dim = n - vars.length ∧
      octLatDropPoint n vars x ∈ γO r.dim r.m := by
  unfold octLatRemoveDims
  have : vars.isEmpty = false := List.isEmpty_eq_false_iff.2 hne
  simp only [this, Bool.false_eq_true, if_false]
  obtain ⟨m', c', e, hx'⟩ := octLatClose_sound hR.up_le n c m hx
  simp only [e]
  split
  · rename_i h0
    refine ⟨_, rfl, h0.symm, ?_⟩
    intro a b hab
    have := hab.1; simp only at this; omega
  · refine ⟨_, rfl, rfl, ?_⟩
    exact octLatReindex_holds (vars := []) (octLatRemoveTable_sorted n vars) (octLatRemoveTable_lt n vars hvs)
      (fun s _ h => by simp at h) (octLatRemoveTable_length n vars hvs)
      (octLatKeptHolds_of_mem hx')

end PPLV.WR

import PPLV.WR.TransOct2Gen
import PPLV.WR.TransOctProofsSpecial
import PPLV.WR.TransOctProofsTranslate
/-!
# `Octagonal_Shape<T>::generalized_affine_image(var, …)`: the branches `expr == b`, `±den*w + b`, `±den*var + b`

No side condition on the rounding beyond `R.Sound`.
-/
namespace PPLV.WR
open ExtRat

theorem octAddF_fst (mf : Mat × Bool) (i j : Nat) (k : ExtRat) :
    (octAddF mf i j k).1 = addDbmConstraint mf.1 i j k := by
  unfold octAddF addDbmConstraint; split <;> rfl

theorem octAddQF_fst (R : Rnd) (mf : Mat × Bool) (i j : Nat) (num dn : Int) :
    (octAddQF R mf i j num dn).1 = addDbmConstraintQ R mf.1 i j num dn := octAddF_fst _ _ _ _

theorem holds_octAddQF {R : Rnd} (hR : R.Sound) {S : Nat → Nat → Prop} {p : Nat → Rat} {mf : Mat × Bool} {i j : Nat}
    {num dn : Int} (h : Holds S p mf.1) (hk : p j - p i ≤ (num : Rat) / (dn : Rat)) :
    Holds S p (octAddQF R mf i j num dn).1 := by
  rw [octAddQF_fst]; exact holds_addDbmQ hR h hk

/-! ## the cells that relate two variables

`matrix[i][j]` bounds `V_j - V_i`; for variables `a`, `b` the six differences below are the ones the
transformers store (`x_a - x_b` and `±(x_a + x_b)`, each at a cell and at its coherent twin, of which the code
picks the one whose row is the later variable). -/

theorem octDiff_ee (x : Nat → Rat) (a b : Nat) : OctM.oval x (2 * a) - OctM.oval x (2 * b) = x a - x b := by
  rw [oval_even, oval_even]
theorem octDiff_oo (x : Nat → Rat) (a b : Nat) : OctM.oval x (2 * b + 1) - OctM.oval x (2 * a + 1) = x a - x b := by
  rw [oval_odd, oval_odd]; ring
theorem octSum_eo (x : Nat → Rat) (a b : Nat) : OctM.oval x (2 * a) - OctM.oval x (2 * b + 1) = x a + x b := by
  rw [oval_even, oval_odd]; ring
theorem octSum_oe (x : Nat → Rat) (a b : Nat) : OctM.oval x (2 * b) - OctM.oval x (2 * a + 1) = x a + x b := by
  rw [oval_even, oval_odd]; ring
theorem octNeg_oe (x : Nat → Rat) (a b : Nat) : OctM.oval x (2 * a + 1) - OctM.oval x (2 * b) = - x a - x b := by
  rw [oval_even, oval_odd]
theorem octNeg_eo (x : Nat → Rat) (a b : Nat) : OctM.oval x (2 * b + 1) - OctM.oval x (2 * a) = - x a - x b := by
  rw [oval_even, oval_odd]; ring

/-- `v ⋈ ±w + c` as the bound on the difference a cell holds (`c` is `b/den`; `-c` is `b/(-den)`) -/
theorem octU_pos {a b c : Rat} (h : a ≤ b + c) : a - b ≤ c := sub_le_iff_le_add'.2 h
theorem octL_pos {a b c : Rat} (h : b + c ≤ a) : b - a ≤ -c := by
  rw [sub_le_iff_le_add, neg_add_eq_sub]; exact le_sub_iff_add_le.2 h
theorem octU_neg {a b c : Rat} (h : a ≤ -b + c) : a + b ≤ c := by
  rw [← le_sub_iff_add_le, ← neg_add_eq_sub]; exact h
theorem octL_neg {a b c : Rat} (h : -b + c ≤ a) : -a - b ≤ -c := by
  rw [sub_le_iff_le_add, neg_le, neg_add, neg_neg, add_comm]; exact h

/-! ## one-sided translation: `octGenTranslate` with `w_coeff == denominator` -/

theorem Mat.set_comm (m : Mat) {i j i' j' : Nat} (x y : ExtRat) (h : ¬ (i = i' ∧ j = j')) :
    (m.set i j x).set i' j' y = (m.set i' j' y).set i j x := by
  unfold Mat.set
  congr 1
  funext a b
  show (if a = i' ∧ b = j' then y else if a = i ∧ b = j then x else m a b)
    = if a = i ∧ b = j then x else if a = i' ∧ b = j' then y else m a b
  by_cases h1 : a = i' ∧ b = j'
  · rw [if_pos h1, if_pos h1, if_neg (fun h2 => h ⟨h2.1.symm.trans h1.1, h2.2.symm.trans h1.2⟩)]
  · rw [if_neg h1, if_neg h1]

/-- rows/columns of `var` shifted by `u0` (index `2v`) and `u1` (index `2v+1`); `+∞` forgets -/
def octShiftP (up : Rat → ExtRat) (n vid : Nat) (u0 u1 : ExtRat) (m : Mat) : Mat :=
  let m1 := loopUp (2 * n - (2 * vid + 2)) (fun k m =>
    (m.set (2 * vid + 2 + k) (2 * vid) (addUp up (m (2 * vid + 2 + k) (2 * vid)) u1)).set
      (2 * vid + 2 + k) (2 * vid + 1) (addUp up (m (2 * vid + 2 + k) (2 * vid + 1)) u0)) m
  let m2 := loopDown (2 * vid) (fun j m =>
    (m.set (2 * vid) j (addUp up (m (2 * vid) j) u0)).set (2 * vid + 1) j (addUp up (m (2 * vid + 1) j) u1)) m1
  (m2.set (2 * vid + 1) (2 * vid) (addUp up (m2 (2 * vid + 1) (2 * vid)) (mulTwoUp up u1))).set
    (2 * vid) (2 * vid + 1) (addUp up (m2 (2 * vid) (2 * vid + 1)) (mulTwoUp up u0))

theorem octGenTranslate_plus_eq (R : Rnd) (n vid : Nat) (isLe : Bool) (d : ExtRat) (m : Mat) :
    octGenTranslate R n vid isLe true d m
      = octShiftP R.up n vid (if isLe then pinf else d) (if isLe then d else pinf) m := by
  unfold octGenTranslate octShiftP
  cases isLe
  · simp only [Bool.false_eq_true, ↓reduceIte, addUp_pinf_right, mulTwoUp]
    exact Mat.set_comm _ _ _ (by omega)
  · simp only [↓reduceIte, addUp_pinf_right, mulTwoUp]

/-- a cell of the shifted matrix, by the row it is in: row `2v`, row `2v+1`, the rows below them (columns `2v`,
`2v+1`); everything else is kept.  The unary cells are shifted by the doubled amount. -/
theorem octShiftP_apply (up : Rat → ExtRat) (n vid : Nat) (u0 u1 : ExtRat) (m : Mat) (a c : Nat) :
    octShiftP up n vid u0 u1 m a c =
      if a = 2 * vid then
        if c = 2 * vid + 1 then addUp up (m (2 * vid) (2 * vid + 1)) (mulTwoUp up u0)
        else if c < 2 * vid then addUp up (m (2 * vid) c) u0 else m (2 * vid) c
      else if a = 2 * vid + 1 then
        if c = 2 * vid then addUp up (m (2 * vid + 1) (2 * vid)) (mulTwoUp up u1)
        else if c < 2 * vid then addUp up (m (2 * vid + 1) c) u1 else m (2 * vid + 1) c
      else if 2 * vid + 2 ≤ a ∧ a < 2 * vid + 2 + (2 * n - (2 * vid + 2)) then
        if c = 2 * vid then addUp up (m a (2 * vid)) u1
        else if c = 2 * vid + 1 then addUp up (m a (2 * vid + 1)) u0 else m a c
      else m a c := by
  have n1 : ¬ 2 * vid + 2 ≤ 2 * vid := by omega
  have n2 : ¬ 2 * vid + 2 ≤ 2 * vid + 1 := by omega
  have n3 : ¬ 2 * vid + 1 < 2 * vid := by omega
  have n4 : ¬ 2 * vid = 2 * vid + 1 := by omega
  have n5 : ¬ 2 * vid + 1 = 2 * vid := by omega
  unfold octShiftP
  simp only [Mat.set_apply, transCols_apply, transRows_apply, n1, n2, n3, Nat.lt_irrefl, false_and, and_false,
    if_false]
  by_cases ha0 : a = 2 * vid
  · subst ha0
    simp only [n1, n4, true_and, false_and, if_true, if_false]
  · by_cases ha1 : a = 2 * vid + 1
    · subst ha1
      simp only [n2, n5, true_and, false_and, if_true, if_false]
    · simp only [ha0, ha1, false_and, if_false]
      by_cases hr : 2 * vid + 2 ≤ a ∧ a < 2 * vid + 2 + (2 * n - (2 * vid + 2))
      · simp only [hr, and_self, true_and, if_true]
      · simp only [hr, false_and, if_false]

/-- the translated potential `y'` (`y' (2v) = y (2v) + q`, `y' (2v+1) = y (2v+1) - q`) satisfies the shifted matrix -/
theorem octShiftP_holds {up : Rat → ExtRat} (hup : ∀ q, fin q ≤ up q) {n vid : Nat} (hv : vid < n)
    {u0 u1 : ExtRat} {q : Rat} (hd : fin q ≤ u1) (hmd : fin (-q) ≤ u0)
    {y y' : Nat → Rat} {m : Mat} (h : Holds (SO n) y m)
    (hy0 : y' (2 * vid) = y (2 * vid) + q) (hy1 : y' (2 * vid + 1) = y (2 * vid + 1) - q)
    (hyo : ∀ i, i ≠ 2 * vid → i ≠ 2 * vid + 1 → y' i = y i) :
    Holds (SO n) y' (octShiftP up n vid u0 u1 m) := by
  have key : ∀ {s t z : Rat} {A B : ExtRat}, fin s ≤ A → fin t ≤ B → z = s + t →
      fin z ≤ addUp up A B := by
    intro s t z A B h1 h2 e; rw [e]; exact fin_le_addUp hup h1 h2
  have hcell : ∀ a c, a < 2 * n → c < a + 2 - a % 2 → fin (y c - y a) ≤ m a c :=
    fun a c h1 h2 => h a c ⟨h1, h2⟩
  have hdiag : ∀ a, a < 2 * n → fin (y' a - y' a) ≤ m a a := by
    intro a ha
    have := hcell a a ha (by omega)
    rw [sub_self] at this ⊢; exact this
  intro a c hac
  obtain ⟨ha, hc⟩ := hac
  unfold rowSize at hc
  rw [octShiftP_apply]
  by_cases ha0 : a = 2 * vid
  · subst ha0
    rw [if_pos rfl]
    by_cases hc1 : c = 2 * vid + 1
    · subst hc1
      rw [if_pos rfl]
      exact key (hcell _ _ ha hc) (fin_le_mulTwoUp hup hmd) (by rw [hy0, hy1]; ring)
    · rw [if_neg hc1]
      by_cases hc2 : c < 2 * vid
      · rw [if_pos hc2]
        exact key (hcell _ _ ha hc) hmd (by rw [hy0, hyo c (by omega) (by omega)]; ring)
      · rw [if_neg hc2, show c = 2 * vid by omega]
        exact hdiag _ ha
  · rw [if_neg ha0]
    by_cases ha1 : a = 2 * vid + 1
    · subst ha1
      rw [if_pos rfl]
      by_cases hc0 : c = 2 * vid
      · subst hc0
        rw [if_pos rfl]
        exact key (hcell _ _ ha hc) (fin_le_mulTwoUp hup hd) (by rw [hy0, hy1]; ring)
      · rw [if_neg hc0]
        by_cases hc2 : c < 2 * vid
        · rw [if_pos hc2]
          exact key (hcell _ _ ha hc) hd (by rw [hy1, hyo c (by omega) (by omega)]; ring)
        · rw [if_neg hc2, show c = 2 * vid + 1 by omega]
          exact hdiag _ ha
    · rw [if_neg ha1]
      by_cases hr : 2 * vid + 2 ≤ a ∧ a < 2 * vid + 2 + (2 * n - (2 * vid + 2))
      · rw [if_pos hr]
        by_cases hc0 : c = 2 * vid
        · subst hc0
          rw [if_pos rfl]
          exact key (hcell _ _ ha hc) hd (by rw [hy0, hyo a ha0 ha1]; ring)
        · rw [if_neg hc0]
          by_cases hc1 : c = 2 * vid + 1
          · subst hc1
            rw [if_pos rfl]
            exact key (hcell _ _ ha hc) hmd (by rw [hy1, hyo a ha0 ha1]; ring)
          · rw [if_neg hc1, hyo a ha0 ha1, hyo c hc0 hc1]
            exact hcell a c ha hc
      · -- a row above those of `var`: its columns stop before `2v`
        rw [if_neg hr, hyo a ha0 ha1, hyo c (by omega) (by omega)]
        exact hcell a c ha hc

/-- cells off the rows and columns of `var` are not touched -/
theorem octShiftP_frame (up : Rat → ExtRat) (n vid : Nat) (u0 u1 : ExtRat) (m : Mat) {a c : Nat}
    (ha0 : a ≠ 2 * vid) (ha1 : a ≠ 2 * vid + 1) (hc0 : c ≠ 2 * vid) (hc1 : c ≠ 2 * vid + 1) :
    octShiftP up n vid u0 u1 m a c = m a c := by
  rw [octShiftP_apply, if_neg ha0, if_neg ha1, if_neg hc0, if_neg hc1, ite_self]

/-! ## `forget_binary_octagonal_constraints` -/

theorem octForgetBinary_apply (n vid : Nat) (m : Mat) (a c : Nat) :
    octForgetBinary n vid m a c
      = if ((a = 2 * vid ∨ a = 2 * vid + 1) ∧ c < 2 * vid) ∨
           ((2 * vid + 2 ≤ a ∧ a < 2 * n) ∧ (c = 2 * vid ∨ c = 2 * vid + 1)) then pinf else m a c := by
  have hb : (2 * vid + 2 ≤ a ∧ a < 2 * vid + 2 + (2 * n - (2 * vid + 2))) ↔ (2 * vid + 2 ≤ a ∧ a < 2 * n) := by
    omega
  unfold octForgetBinary
  dsimp only
  rw [forgetLoop2_apply, forgetLoop1_apply]
  simp only [hb]
  by_cases h2 : (2 * vid + 2 ≤ a ∧ a < 2 * n) ∧ (c = 2 * vid ∨ c = 2 * vid + 1)
  · rw [if_pos h2, if_pos (Or.inr h2)]
  · rw [if_neg h2]
    by_cases h1 : (a = 2 * vid ∨ a = 2 * vid + 1) ∧ c < 2 * vid
    · rw [if_pos h1, if_pos (Or.inl h1)]
    · rw [if_neg h1, if_neg (fun h => h.elim h1 h2)]

/-- after `forget_binary_octagonal_constraints(var)` only the two unary cells of `var` constrain its value -/
theorem holds_octForgetBinary {n vid : Nat} {x : Nat → Rat} {m M : Mat} {t : Rat}
    (h : Holds (SO n) (OctM.oval x) m)
    (hM : ∀ a c, ¬ (a = 2 * vid + 1 ∧ c = 2 * vid) → ¬ (a = 2 * vid ∧ c = 2 * vid + 1) → M a c = m a c)
    (h10 : fin (t - -t) ≤ M (2 * vid + 1) (2 * vid)) (h01 : fin (-t - t) ≤ M (2 * vid) (2 * vid + 1)) :
    Holds (SO n) (OctM.oval (upd x vid t)) (octForgetBinary n vid M) := by
  have ov0 : OctM.oval (upd x vid t) (2 * vid) = t := by rw [oval_upd, if_pos rfl]
  have ov1 : OctM.oval (upd x vid t) (2 * vid + 1) = - t := by rw [oval_upd, if_neg (by omega), if_pos rfl]
  intro a c hac
  obtain ⟨ha, hc⟩ := hac
  have hc' := hc
  unfold rowSize at hc'
  rw [octForgetBinary_apply]
  by_cases hav : a = 2 * vid ∨ a = 2 * vid + 1
  · by_cases hcl : c < 2 * vid
    · rw [if_pos (Or.inl ⟨hav, hcl⟩)]; exact le_pinf _
    · rw [if_neg (by omega)]
      by_cases hac : c = a
      · rw [hac, sub_self, hM a a (by omega) (by omega)]
        have := h a a ⟨ha, hac ▸ hc⟩
        rw [sub_self] at this; exact this
      · rcases hav with rfl | rfl
        · rw [show c = 2 * vid + 1 by omega, ov0, ov1]; exact h01
        · rw [show c = 2 * vid by omega, ov0, ov1]; exact h10
  · by_cases hcv : c = 2 * vid ∨ c = 2 * vid + 1
    · rw [if_pos (Or.inr ⟨by omega, hcv⟩)]; exact le_pinf _
    · rw [if_neg (fun h => h.elim (fun h => hav h.1) (fun h => hcv h.2)),
        hM a c (fun h => hav (Or.inr h.1)) (fun h => hav (Or.inl h.1)),
        oval_upd_ne x t (fun h => hav (Or.inl h)) (fun h => hav (Or.inr h)),
        oval_upd_ne x t (fun h => hcv (Or.inl h)) (fun h => hcv (Or.inr h))]
      exact h a c ⟨ha, hc⟩

/-- `w_coeff == -denominator`: one unary cell from the opposite one, everything else on `var` forgotten -/
theorem octGenTranslate_minus_holds {R : Rnd} (hR : R.Sound) {n vid : Nat} (hv : vid < n) (isLe : Bool)
    {d : ExtRat} {q : Rat} (hq : fin q ≤ d) {x : Nat → Rat} {m : Mat} (h : Holds (SO n) (OctM.oval x) m) {t : Rat}
    (ht : if isLe then t ≤ - x vid + q else - t ≤ x vid + q) :
    Holds (SO n) (OctM.oval (upd x vid t)) (octGenTranslate R n vid isLe false d m) := by
  have hun := oct_unary h hv
  have hq2 := fin_le_mulTwoUp hR.up_le hq
  have key : ∀ {s t z : Rat} {A B : ExtRat}, fin s ≤ A → fin t ≤ B → z ≤ s + t →
      fin z ≤ addUp R.up A B := by
    intro s t z A B h1 h2 e; exact le_trans' (fin_le_fin.2 e) (fin_le_addUp hR.up_le h1 h2)
  have n1 : ¬ (2 * vid = 2 * vid + 1) := by omega
  have n2 : ¬ (2 * vid + 1 = 2 * vid) := by omega
  unfold octGenTranslate
  cases isLe
  · simp only [Bool.false_eq_true, ↓reduceIte] at ht ⊢
    refine holds_octForgetBinary h (fun a c g1 g2 => ?_) ?_ ?_
    · simp only [Mat.set_apply]; rw [if_neg g1, if_neg g2]
    · simp only [Mat.set_apply, and_self, if_true]; exact le_pinf _
    · simp only [Mat.set_apply, n1, n2, and_self, if_false, if_true]
      exact key hun.1 hq2 (by linarith)
  · simp only [↓reduceIte] at ht ⊢
    refine holds_octForgetBinary h (fun a c g1 g2 => ?_) ?_ ?_
    · simp only [Mat.set_apply]; rw [if_neg g2, if_neg g1]
    · simp only [Mat.set_apply, n1, n2, and_self, if_false, if_true]
      exact key hun.2 hq2 (by linarith)
    · simp only [Mat.set_apply, and_self, if_true]; exact le_pinf _

end PPLV.WR

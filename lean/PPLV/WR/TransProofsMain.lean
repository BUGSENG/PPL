import PPLV.WR.TransProofsExploit
import PPLV.WR.TransProofsGenFrame
import PPLV.WR.TransProofsAffSpecial
/-!
# The transformers as a whole: every branch of `affine_image`, `generalized_affine_image`,
`bounded_affine_image`, `unconstrain`, including the initial closure
-/
namespace PPLV.WR
open ExtRat

theorem affineImageCore_sound {R : Rnd} (hR : R.Sound) {n var : Nat} (hvar : var < n)
    {e : Nat → Int} (hc : CoeffExact R e) {b den : Int} (hden : den ≠ 0) {m : Mat} {x : Nat → Rat}
    (hx : x ∈ γB n m) :
    upd x var ((linEval e x n + b) / den) ∈ γB n (affineImageCore R n var e b den m) := by
  by_cases hsp : exprT e (lastNonzero e n) = 0 ∨
      (exprT e (lastNonzero e n) = 1 ∧
        (e (lastNonzero e n - 1) = den ∨ e (lastNonzero e n - 1) = - den))
  · exact affineImageCore_special_sound hR hvar hden hx hsp
  · obtain ⟨h0, h1⟩ := not_or.1 hsp
    unfold affineImageCore
    dsimp only
    rw [if_neg h0, if_neg h1]
    exact affineImageGeneral_sound hR hc hden hx

theorem genAffineImageCore_sound {R : Rnd} (hR : R.Sound) {n var : Nat} (hvar : var < n)
    {e : Nat → Int} (hc : CoeffExact R e) {b den : Int} (hden : den ≠ 0) {m : Mat} {x : Nat → Rat}
    (hx : x ∈ γB n m) (isLe : Bool) {t : Rat}
    (ht : if isLe then t ≤ (linEval e x n + b) / den else (linEval e x n + b) / den ≤ t) :
    upd x var t ∈ γB n (genAffineImageCore R n var isLe e b den m) := by
  by_cases hsp : exprT e (lastNonzero e n) = 0 ∨
      (exprT e (lastNonzero e n) = 1 ∧
        (e (lastNonzero e n - 1) = den ∨ e (lastNonzero e n - 1) = - den))
  · exact genAffineImageCore_special_sound hR hvar hden hx isLe ht hsp
  · obtain ⟨h0, h1⟩ := not_or.1 hsp
    unfold genAffineImageCore
    dsimp only
    rw [if_neg h0, if_neg h1]
    exact genAffineImageGeneral_sound hR hc hden hx isLe ht

/-- the tail of the general case of `boundedAffineImageCore`, with the sign-corrected data as parameters;
`m0` is the matrix the sum was accumulated on, `mg` the matrix after the inner `generalized_affine_image` -/
def bndGenTail (R : Rnd) (v w : Nat) (sc : Nat → Int) (scb scd : Int) (m0 mg : Mat) : Option Mat :=
  let pos := loopUp w (accStepA R m0 sc true) ⟨R.up (scb : Rat), 0, 0⟩
  if pos.cnt > 1 then some mg else some (exploitUpper R v w sc scd pos mg)

theorem bndGenTail_sound {R : Rnd} (hR : R.Sound) {n var w : Nat} (hw : w ≤ n) {sc : Nat → Int}
    (hc : CoeffExact R sc) {scb scd : Int} (hd : 0 < scd) {m0 mg : Mat} {x : Nat → Rat}
    (hx : Holds (SB (n+1)) (DBM.val x) m0) {t : Rat}
    (ht : t ≤ (linEval sc x w + (scb : Rat)) / (scd : Rat))
    (hg : Holds (SB (n+1)) (DBM.val (upd x var t)) mg) (hun : UnaryEq (var+1) mg m0) :
    ∃ m', bndGenTail R (var+1) w sc scb scd m0 mg = some m' ∧ Holds (SB (n+1)) (DBM.val (upd x var t)) m' := by
  unfold bndGenTail
  dsimp only
  have hpos := accLoopA_inv hR hc _ (AccInv.init hR m0 w sc (scb : Rat)) _ le_rfl
  split
  · exact ⟨_, rfl, hg⟩
  · exact ⟨_, rfl, exploitUpper_holds hR hw hd hx ht hg hun hpos⟩

theorem boundedAffineImageCore_general_sound {R : Rnd} (hR : R.Sound) {n var : Nat}
    {el : Nat → Int} {bl : Int} {eu : Nat → Int} (hcu : CoeffExact R eu) {bu den : Int} (hden : den ≠ 0)
    {m : Mat} {x : Nat → Rat} (hx : x ∈ γB n m) {t : Rat} (hub : t ≤ (linEval eu x n + bu) / den)
    (hgen : upd x var t ∈ γB n (genAffineImageCore R n var false el bl den m))
    (h0 : ¬ exprT eu (lastNonzero eu n) = 0)
    (h1 : ¬ (exprT eu (lastNonzero eu n) = 1 ∧
        (eu (lastNonzero eu n - 1) = den ∨ eu (lastNonzero eu n - 1) = - den))) :
    ∃ m', boundedAffineImageCore R n var el bl eu bu den m = some m' ∧ upd x var t ∈ γB n m' := by
  have heq : boundedAffineImageCore R n var el bl eu bu den m
      = bndGenTail R (var+1) (lastNonzero eu n) (scExpr eu den) (if den > 0 then bu else - bu)
          (if den > 0 then den else - den) m (genAffineImageCore R n var false el bl den m) := by
    unfold boundedAffineImageCore
    dsimp only
    rw [if_neg h0, if_neg h1]
    rfl
  rw [heq]
  rw [sc_value eu x n bu den] at hub
  exact bndGenTail_sound hR (lastNonzero_le eu n) (hcu.sc den) (scDen_pos hden) hx hub hgen
    ((unaryEq_refl _ m).of_eqOff (eqOff_genAffineImageCore R n var false el bl den m))

theorem closeFirst_sound {n : Nat} {up : Rat → ExtRat} (hup : ∀ q, fin q ≤ up q) (closed : Bool) (m : DBM n)
    {x : Nat → Rat} (hx : x ∈ DBM.γ m) :
    ∃ m', closeFirst up closed m = some m' ∧ x ∈ γB n m' := by
  unfold closeFirst
  split
  · exact ⟨_, rfl, (DBM.sat_iff_holds m x).1 hx⟩
  · split
    · rename_i he
      exact absurd hx (DBM.closureEmpty_sound hup m he x)
    · exact ⟨_, rfl, (DBM.sat_iff_holds _ x).1 (DBM.closure_sat hup m x hx)⟩

theorem forgetAll_sound {n var : Nat} {m : Mat} {x : Nat → Rat} (hx : x ∈ γB n m) (t : Rat) :
    upd x var t ∈ γB n (forgetAll (n+1) (var+1) m) := holds_forgetAll hx t

/-- bounded integers (`Rnd.range lo hi`, `int8_t`: `lo = -126`, `hi = 126`) satisfy the hypotheses -/
theorem Rnd.range_sound (lo hi : Int) (hhi : 0 < hi) : (Rnd.range lo hi).Sound := by
  refine ⟨upCeilRange_sound lo hi, fun y hy => ?_, fun y hy => ?_, fun s c a => ?_⟩
  · have h1 : (1 : Int) ≤ y.floor := Rat.le_floor_iff.2 (by exact_mod_cast hy)
    simp only [Rnd.range]
    split
    · exact_mod_cast hhi
    · have : (1 : Rat) ≤ (y.floor : Rat) := by exact_mod_cast h1
      linarith
  · simp only [Rnd.range]
    split
    · rename_i h
      have : (hi : Rat) < (y.floor : Rat) := by exact_mod_cast h
      have := Rat.floor_le y
      linarith
    · exact Rat.floor_le y
  · simp only [Rnd.range, addMulRange]
    split
    · rename_i hp
      split
      · rename_i hs
        exact fin_le_fin.2 (by linarith)
      · exact fin_le_fin.2 (by linarith)
    · split
      · exact le_pinf _
      · exact upCeilRange_sound lo hi _

end PPLV.WR

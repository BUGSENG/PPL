import PPLV.WR.ReduceProofsMathClass
import Mathlib.Data.Finset.Card
import Mathlib.Tactic.Ring
/-!
# Reduction of a closed difference-bound matrix, pure mathematics (2): the kept entries imply all entries

For a point `x` of the *reduced* matrix (it satisfies every kept entry):

* `class_le` : inside a zero-equivalence class `x` satisfies every entry of `c` (the kept upward chain and the
  closing edge form a cycle of weight `0`);
* `leader_le` : between two leaders `x` satisfies the entry of `c` — strong induction on the number of
  leaders `k` *between* `i` and `j` (`c i j = c i k + c k j`).
-/
namespace PPLV.WR
open ExtRat (fin pinf)

variable {n : Nat}

section
variable (c : DBM n) (hc : c.IsClosed) (lead pred : Nat → Nat) (hl : IsLeaderMap n c.e lead)
  (hp : IsPredMap n c.e pred) (red : BMat) (hr : IsReduction n c.e lead pred red)
  (x : Nat → Rat) (hx : (c.reduced red).Sat x)

include hx in
omit hc hl hp hr in
theorem kept_le {a b : Nat} (ha : a ≤ n) (hb : b ≤ n) (h : red a b = false) :
    fin (DBM.val x b - DBM.val x a) ≤ c.e a b := by
  have := hx a b ha hb
  have e : (c.reduced red).e a b = if red a b then pinf else c.e a b := rfl
  rw [e, h] at this
  exact this

include hc hp hr hx in
/-- along the kept upward chain -/
theorem chain_up : ∀ b, b ≤ n → ∀ a, a ≤ b → ZEq c.e a b →
    fin (DBM.val x b - DBM.val x a) ≤ c.z a b := by
  intro b
  induction b using Nat.strong_induction_on with
  | _ b ih =>
    intro hb a hab hz
    by_cases heq : a = b
    · subst heq
      rw [c.z_self hb, sub_self]
      exact ExtRat.le_rfl' _
    · have hlt : a < b := by omega
      have hpl := pred_lt c pred hp hb hlt hz
      have hle := le_pred c pred hp hb hlt hz
      have hpn : pred b ≤ n := by omega
      have han : a ≤ n := by omega
      have hzp := hp.zeq b hb
      have h1 := ih (pred b) hpl hpn a hle (ZEq.trans hc han hb hpn hz hzp.symm)
      have hk : red (pred b) b = false := (hr.spec (pred b) b hpn hb).2 (Or.inr (Or.inl ⟨hpl, rfl⟩))
      have h2 := kept_le c red x hx hpn hb hk
      rw [← c.z_ne (by omega : pred b ≠ b)] at h2
      rw [c.shift_col hc han hb hpn hzp]
      have e : DBM.val x b - DBM.val x a
          = (DBM.val x (pred b) - DBM.val x a) + (DBM.val x b - DBM.val x (pred b)) := by ring
      rw [e]
      exact fin_le_eadd h1 h2

include hc hl hp hr hx in
/-- downwards, through the closing edge of the class -/
theorem close_down {a b : Nat} (hb : b ≤ n) (hab : a ≤ b) (hz : ZEq c.e a b) :
    fin (DBM.val x a - DBM.val x b) ≤ c.z b a := by
  have han : a ≤ n := by omega
  obtain ⟨g, h1, h2, h3, h4⟩ := exists_greatest c hc (n - b) b hb le_rfl
  have hln := lead_le_n c lead hl hb
  have hlab : lead a = lead b := (hl.eq_iff hc _ _ han hb).2 hz
  have hlg : lead g = lead b := (hl.eq_iff hc _ _ h2 hb).2 h3
  have hla : lead b ≤ a := by rw [← hlab]; exact hl.le a han
  by_cases hgl : lead b = g
  · have : a = b := by omega
    subst this
    rw [c.z_self hb, sub_self]
    exact ExtRat.le_rfl' _
  · have hlt : lead b < g := by omega
    have hzl : ZEq c.e (lead b) b := hl.zeq b hb
    have hk : red g (lead b) = false :=
      (hr.spec g (lead b) h2 hln).2 (Or.inr (Or.inr ⟨hlt, hlg, h4⟩))
    have e1 := kept_le c red x hx h2 hln hk
    rw [← c.z_ne (by omega : g ≠ lead b)] at e1
    have e2 := chain_up c hc lead pred hp red hr x hx a han (lead b) hla
      (ZEq.trans hc hln hb han hzl hz.symm)
    have e3 := chain_up c hc lead pred hp red hr x hx g h2 b h1 h3.symm
    rw [c.shift_row hc hb h2 han h3.symm,
      c.shift_row hc h2 hln han (ZEq.trans hc h2 hb hln h3 hzl.symm)]
    have e : DBM.val x a - DBM.val x b = (DBM.val x g - DBM.val x b)
        + ((DBM.val x (lead b) - DBM.val x g) + (DBM.val x a - DBM.val x (lead b))) := by ring
    rw [e]
    exact fin_le_eadd e3 (fin_le_eadd e1 e2)

include hc hl hp hr hx in
/-- (a): inside a class the kept entries imply every entry -/
theorem class_le {a b : Nat} (ha : a ≤ n) (hb : b ≤ n) (hz : ZEq c.e a b) :
    fin (DBM.val x b - DBM.val x a) ≤ c.z a b := by
  rcases Nat.le_total a b with h | h
  · exact chain_up c hc lead pred hp red hr x hx b hb a h hz
  · exact close_down c hc lead pred hl hp red hr x hx ha h hz.symm

end

/-! ## leaders -/

/-- the leaders between `i` and `j` -/
def DBM.betw (c : DBM n) (lead : Nat → Nat) (i j : Nat) : Finset Nat :=
  (Finset.range (n+1)).filter (fun k => lead k = k ∧ c.z i j = eadd (c.z i k) (c.z k j))

theorem DBM.mem_betw (c : DBM n) (lead : Nat → Nat) (i j k : Nat) :
    k ∈ c.betw lead i j ↔ k ≤ n ∧ lead k = k ∧ c.z i j = eadd (c.z i k) (c.z k j) := by
  unfold DBM.betw
  rw [Finset.mem_filter, Finset.mem_range]
  constructor
  · rintro ⟨h1, h2⟩; exact ⟨by omega, h2⟩
  · rintro ⟨h1, h2⟩; exact ⟨by omega, h2⟩

/-- cancellation of a finite summand -/
theorem eadd_cancel {q : Rat} {a : ExtRat} (h : fin q = eadd (fin q) a) : a = fin 0 := by
  cases a <;> simp [eadd, ExtRat.addUp] at h ⊢
  exact h

section
variable (c : DBM n) (hc : c.IsClosed) (lead pred : Nat → Nat) (hl : IsLeaderMap n c.e lead)
include hc hl

theorem betw_left {i j k : Nat} (hi : i ≤ n) (hj : j ≤ n) (hk : k ≤ n) (hlj : lead j = j)
    (hlk : lead k = k) (hjk : j ≠ k) {q : Rat} (hq : c.z i j = fin q)
    (heq : c.z i j = eadd (c.z i k) (c.z k j)) : (c.betw lead i k).card < (c.betw lead i j).card := by
  apply Finset.card_lt_card
  rw [Finset.ssubset_iff_of_subset]
  · refine ⟨j, (c.mem_betw lead i j j).2 ⟨hj, hlj, by rw [c.z_self hj, eadd_zero_right]⟩, ?_⟩
    intro hm
    obtain ⟨_, _, h3⟩ := (c.mem_betw lead i k j).1 hm
    rw [h3, eadd_assoc, hq] at heq
    have := eadd_cancel heq
    have hz := c.zeq_of_le hc hj hk (by rw [this]; exact ExtRat.le_rfl' _)
    exact hjk (leaders_eq_of_zeq c hc lead hl hj hk hlj hlk hz)
  · intro m hm
    obtain ⟨h1, h2, h3⟩ := (c.mem_betw lead i k m).1 hm
    refine (c.mem_betw lead i j m).2 ⟨h1, h2, ?_⟩
    apply DBM.le_antisymm' (hc.tri m hi hj h1)
    rw [heq, h3, eadd_assoc]
    exact eadd_mono (ExtRat.le_rfl' _) (hc.tri k h1 hj hk)

theorem betw_right {i j k : Nat} (hi : i ≤ n) (hj : j ≤ n) (hk : k ≤ n) (hli : lead i = i)
    (hlk : lead k = k) (hik : i ≠ k) {q : Rat} (hq : c.z i j = fin q)
    (heq : c.z i j = eadd (c.z i k) (c.z k j)) : (c.betw lead k j).card < (c.betw lead i j).card := by
  apply Finset.card_lt_card
  rw [Finset.ssubset_iff_of_subset]
  · refine ⟨i, (c.mem_betw lead i j i).2 ⟨hi, hli, by rw [c.z_self hi, eadd_zero_left]⟩, ?_⟩
    intro hm
    obtain ⟨_, _, h3⟩ := (c.mem_betw lead k j i).1 hm
    rw [h3, ← eadd_assoc, eadd_comm, hq] at heq
    have := eadd_cancel heq
    have hz := c.zeq_of_le hc hi hk (by rw [this]; exact ExtRat.le_rfl' _)
    exact hik (leaders_eq_of_zeq c hc lead hl hi hk hli hlk hz)
  · intro m hm
    obtain ⟨h1, h2, h3⟩ := (c.mem_betw lead k j m).1 hm
    refine (c.mem_betw lead i j m).2 ⟨h1, h2, ?_⟩
    apply DBM.le_antisymm' (hc.tri m hi hj h1)
    rw [heq, h3, ← eadd_assoc]
    exact eadd_mono (hc.tri k hi h1 hk) (ExtRat.le_rfl' _)

end

section
variable (c : DBM n) (hc : c.IsClosed) (lead pred : Nat → Nat) (hl : IsLeaderMap n c.e lead)
  (hp : IsPredMap n c.e pred) (red : BMat) (hr : IsReduction n c.e lead pred red)
  (x : Nat → Rat) (hx : (c.reduced red).Sat x)

include hc hl hr hx in
omit hp in
theorem leader_le_aux : ∀ (N i j : Nat), i ≤ n → j ≤ n → lead i = i → lead j = j →
    (c.betw lead i j).card ≤ N → fin (DBM.val x j - DBM.val x i) ≤ c.z i j := by
  intro N
  induction N with
  | zero =>
    intro i j hi hj hli hlj hN
    exfalso
    have hm : j ∈ c.betw lead i j :=
      (c.mem_betw lead i j j).2 ⟨hj, hlj, by rw [c.z_self hj, eadd_zero_right]⟩
    have := Finset.card_pos.2 ⟨j, hm⟩
    omega
  | succ N ih =>
    intro i j hi hj hli hlj hN
    by_cases hij : i = j
    · subst hij
      rw [c.z_self hi, sub_self]
      exact ExtRat.le_rfl' _
    by_cases hk : red i j = false
    · rw [c.z_ne hij]
      exact kept_le c red x hx hi hj hk
    cases hq : c.z i j with
    | pinf => exact ExtRat.le_pinf _
    | fin q =>
      have hq' : c.e i j = fin q := by rw [← c.z_ne hij]; exact hq
      have hA : ¬ ∀ k, k ≤ n → lead k = k → ¬ (eadd (c.e i k) (c.e k j) ≤ c.e i j) := by
        intro hA
        exact hk ((hr.spec i j hi hj).2 (Or.inl ⟨hli, hlj, hA⟩))
      push Not at hA
      obtain ⟨k, hkn, hlk, hle⟩ := hA
      have hki : k ≠ i := by
        rintro rfl
        rw [c.diag k hkn, eadd_pinf_left, hq'] at hle
        exact ExtRat.not_pinf_le_fin _ hle
      have hkj : k ≠ j := by
        rintro rfl
        rw [c.diag k hkn, eadd_pinf_right, hq'] at hle
        exact ExtRat.not_pinf_le_fin _ hle
      rw [← c.z_ne (Ne.symm hki), ← c.z_ne hkj, ← c.z_ne hij] at hle
      have heq : c.z i j = eadd (c.z i k) (c.z k j) := DBM.le_antisymm' (hc.tri k hi hj hkn) hle
      have c1 := betw_left c hc lead hl hi hj hkn hlj hlk (Ne.symm hkj) hq heq
      have c2 := betw_right c hc lead hl hi hj hkn hli hlk (Ne.symm hki) hq heq
      have e1 := ih i k hi hkn hli hlk (by omega)
      have e2 := ih k j hkn hj hlk hlj (by omega)
      rw [← hq, heq]
      have e : DBM.val x j - DBM.val x i
          = (DBM.val x k - DBM.val x i) + (DBM.val x j - DBM.val x k) := by ring
      rw [e]
      exact fin_le_eadd e1 e2

include hc hl hr hx in
omit hp in
/-- (b): between leaders the kept entries imply every entry -/
theorem leader_le {i j : Nat} (hi : i ≤ n) (hj : j ≤ n) (hli : lead i = i) (hlj : lead j = j) :
    fin (DBM.val x j - DBM.val x i) ≤ c.z i j :=
  leader_le_aux c hc lead pred hl red hr x hx _ i j hi hj hli hlj le_rfl

include hc hl hp hr hx in
/-- (c): a point of the reduced matrix satisfies every entry of `c` (zero diagonal) -/
theorem reduced_le {a b : Nat} (ha : a ≤ n) (hb : b ≤ n) :
    fin (DBM.val x b - DBM.val x a) ≤ c.z a b := by
  have hla := lead_le_n c lead hl ha
  have hlb := lead_le_n c lead hl hb
  rw [DBM.decomp c hc lead hl ha hb]
  have e1 := class_le c hc lead pred hl hp red hr x hx ha hla (hl.zeq a ha).symm
  have e2 := leader_le c hc lead pred hl red hr x hx hla hlb (hl.lead_lead hc _ ha)
    (hl.lead_lead hc _ hb)
  have e3 := class_le c hc lead pred hl hp red hr x hx hlb hb (hl.zeq b hb)
  have e : DBM.val x b - DBM.val x a = (DBM.val x (lead a) - DBM.val x a)
      + ((DBM.val x (lead b) - DBM.val x (lead a)) + (DBM.val x b - DBM.val x (lead b))) := by ring
  rw [e]
  exact fin_le_eadd e1 (fin_le_eadd e2 e3)

end
end PPLV.WR

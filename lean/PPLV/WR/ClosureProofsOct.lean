import PPLV.WR.ClosureProofsBase
import Mathlib.Data.Rat.Defs
/-!
# `Octagonal_Shape` closure kernels: every step keeps every point and only lowers entries
-/
namespace PPLV.WR
open ExtRat

/-- stored index pairs of the pseudo-triangular matrix of an octagon of dimension `dim` -/
def SO (dim : Nat) : Nat → Nat → Prop := fun a b => a < 2 * dim ∧ b < rowSize a

/-- the potential is coherent: `V_{ci} = - V_i` -/
def Coh (p : Nat → Rat) : Prop := ∀ i, p (cidx i) = - p i

variable {up : Rat → ExtRat} {P : (Nat → Rat) → Prop}

/-- `omega`-friendly description of `cidx` -/
theorem cidx_spec (i : Nat) : (i % 2 = 0 ∧ cidx i = i + 1) ∨ (i % 2 = 1 ∧ cidx i + 1 = i) := by
  rcases Nat.mod_two_eq_zero_or_one i with h | h
  · exact .inl ⟨h, if_neg (by omega)⟩
  · exact .inr ⟨h, by rw [cidx, if_pos (by omega)]; omega⟩

theorem cidx_cidx (i : Nat) : cidx (cidx i) = i := by
  have h1 := cidx_spec i
  have h2 := cidx_spec (cidx i)
  omega

theorem cidx_lt {dim i : Nat} (h : i < 2 * dim) : cidx i < 2 * dim := by
  have := cidx_spec i; omega

theorem rowSize_le {dim i : Nat} (h : i < 2 * dim) : rowSize i ≤ 2 * dim := by
  unfold rowSize; omega

theorem cidx_lt_rowSize (i : Nat) : cidx i < rowSize i := by
  have := cidx_spec i; unfold rowSize; omega

theorem lt_rowSize_cidx (j : Nat) : j < rowSize (cidx j) := by
  have := cidx_spec j; unfold rowSize; omega

/-- twins have rows of the same size -/
theorem rowSize_cidx (j : Nat) : rowSize (cidx j) = rowSize j := by
  have := cidx_spec j; unfold rowSize; omega

theorem swap_stored {i j : Nat} (h : ¬ j < rowSize i) : cidx i < rowSize (cidx j) := by
  rw [rowSize_cidx]
  have h1 := cidx_spec i
  unfold rowSize at *
  omega

/-- the only off-diagonal cells stored both as `(i, j)` and as `(cidx j, cidx i)` are the unary ones -/
theorem stored_both {i j : Nat} (hij : i ≠ j) (hs : j < rowSize i) (hs' : cidx i < rowSize (cidx j)) :
    j = cidx i := by
  rw [rowSize_cidx] at hs'
  have h1 := cidx_spec i
  unfold rowSize at hs hs'
  omega

theorem coh_oval (x : Nat → Rat) : Coh (OctM.oval x) := by
  intro i
  unfold OctM.oval cidx
  by_cases h : i % 2 = 0
  · have h1 : ¬ ((i + 1) % 2 = 0) := by omega
    have h2 : (i + 1) / 2 = i / 2 := by omega
    simp [h, h1, h2]
  · have h1 : (i - 1) % 2 = 0 := by omega
    have h2 : (i - 1) / 2 = i / 2 := by omega
    simp [h, h1, h2]

theorem holds_mAt {dim : Nat} {p : Nat → Rat} {m : Mat} (h : Holds (SO dim) p m) (hc : Coh p)
    {i j : Nat} (hi : i < 2 * dim) (hj : j < 2 * dim) : fin (p j - p i) ≤ m.mAt i j := by
  unfold Mat.mAt
  split
  · rename_i hs
    exact h i j ⟨hi, hs⟩
  · rename_i hn
    have := h (cidx j) (cidx i) ⟨cidx_lt hj, swap_stored hn⟩
    rw [hc, hc] at this
    have e : p j - p i = -p i - -p j := by ring
    rw [e]; exact this

theorem Pres.strengthen {S : Nat → Nat → Prop} {m m' : Mat}
    (h : Pres S (fun p => P p ∧ Holds S p m) m m') : Pres S P m m' :=
  ⟨fun p hp hh => h.1 p ⟨hp, hh⟩ hh, h.2⟩

/-- a write through a `matrix_at`-style reference -/
theorem Pres.setAt {dim : Nat} (hP : ∀ p, P p → Coh p) {m : Mat} {i j : Nat} {v : ExtRat}
    (hle : v ≤ m.mAt i j)
    (hb : ∀ p, P p → Holds (SO dim) p m → fin (p j - p i) ≤ v) :
    Pres (SO dim) P m (m.setAt i j v) := by
  unfold Mat.setAt
  unfold Mat.mAt at hle
  split
  · rename_i hs
    rw [if_pos hs] at hle
    exact Pres.set hle (fun p hp h _ => hb p hp h)
  · rename_i hs
    rw [if_neg hs] at hle
    refine Pres.set hle (fun p hp h _ => ?_)
    have := hb p hp h
    rw [hP p hp, hP p hp]
    have e : -p i - -p j = p j - p i := by ring
    rw [e]; exact this

/-! ## `strong_closure_assign` -/

theorem rowSize_even (k : Nat) : rowSize (2 * k) = 2 * k + 2 := by unfold rowSize; omega
theorem rowSize_odd (k : Nat) : rowSize (2 * k + 1) = 2 * k + 2 := by unfold rowSize; omega
theorem cidx_even (k : Nat) : cidx (2 * k) = 2 * k + 1 := by unfold cidx; split <;> omega
theorem cidx_odd (k : Nat) : cidx (2 * k + 1) = 2 * k := by unfold cidx; split <;> omega

theorem vecK_eq (m : Mat) (kk j : Nat) :
    (if j < 2 * kk + 2 then m (2 * kk) j else m (cidx j) (2 * kk + 1)) = m.mAt (2 * kk) j := by
  unfold Mat.mAt; rw [rowSize_even, cidx_even]

theorem vecCK_eq (m : Mat) (kk j : Nat) :
    (if j < 2 * kk + 2 then m (2 * kk + 1) j else m (cidx j) (2 * kk)) = m.mAt (2 * kk + 1) j := by
  unfold Mat.mAt; rw [rowSize_odd, cidx_odd]

theorem pres_octClosureK (hup : ∀ x, fin x ≤ up x) (hP : ∀ p, P p → Coh p) {dim kk : Nat}
    (hkk : kk < dim) (m : Mat) :
    Pres (SO dim) P m (octClosureK up (2 * dim) (2 * kk) m) := by
  apply Pres.strengthen
  unfold octClosureK
  simp only [vecK_eq, vecCK_eq]
  apply Pres.loopUp; intro i hi m'
  apply Pres.loopUp; intro j hj m'
  apply Pres.set (minA_le_left _ _)
  intro p hp h' hij
  obtain ⟨hp, h0⟩ := hp
  have hc := hP p hp
  have hj2 : j < 2 * dim := lt_of_lt_of_le hj (rowSize_le hi)
  have hk : 2 * kk < 2 * dim := by omega
  have hck : 2 * kk + 1 < 2 * dim := by omega
  have pck : p (2 * kk + 1) = - p (2 * kk) := by rw [← cidx_even]; exact hc _
  apply le_minA (h' i j hij)
  apply le_minA
  · have a1 := holds_mAt h0 hc hck (cidx_lt hi)
    have a2 := holds_mAt h0 hc hk hj2
    have := fin_le_addUp hup a1 a2
    rw [hc, pck] at this
    have e : p j - p i = -p i - -p (2 * kk) + (p j - p (2 * kk)) := by ring
    rw [e]; exact this
  · have a1 := holds_mAt h0 hc hk (cidx_lt hi)
    have a2 := holds_mAt h0 hc hck hj2
    have := fin_le_addUp hup a1 a2
    rw [hc, pck] at this
    have e : p j - p i = -p i - p (2 * kk) + (p j - -p (2 * kk)) := by ring
    rw [e]; exact this

theorem pres_octLoops (hup : ∀ x, fin x ≤ up x) (hP : ∀ p, P p → Coh p) (dim : Nat) (m : Mat) :
    Pres (SO dim) P m (octLoops up dim m) := by
  unfold octLoops
  apply Pres.loopUp; intro _ _ m
  apply Pres.loopUp; intro kk hkk m
  exact pres_octClosureK hup hP hkk m

/-! ## `strong_coherence_assign` -/

theorem pres_strongCoherenceM (hup : ∀ x, fin x ≤ up x) (hP : ∀ p, P p → Coh p) (dim : Nat) (m : Mat) :
    Pres (SO dim) P m (strongCoherenceM up dim m) := by
  unfold strongCoherenceM
  apply Pres.loopUp; intro i hi m
  apply Pres.ite; exact Pres.refl _
  apply Pres.loopUp; intro j hj m
  apply Pres.ite; exact Pres.refl _
  apply Pres.ite; exact Pres.refl _
  apply Pres.set (minA_le_left _ _)
  intro p hp h hij
  have hc := hP p hp
  have hj2 : j < 2 * dim := lt_of_lt_of_le hj (rowSize_le hi)
  apply le_minA (h i j hij)
  have a1 := h i (cidx i) ⟨hi, cidx_lt_rowSize i⟩
  have a2 := h (cidx j) j ⟨cidx_lt hj2, lt_rowSize_cidx j⟩
  have := fin_le_halfUp hup (fin_le_addUp hup a1 a2)
  rw [hc, hc] at this
  have e : p j - p i = (-p i - p i + (p j - -p j)) / 2 := by ring
  rw [e]; exact this

/-! ## `incremental_strong_closure_assign` -/

theorem pres_octRelaxAt (hup : ∀ x, fin x ≤ up x) (hP : ∀ p, P p → Coh p) {dim i k j : Nat}
    (hi : i < 2 * dim) (hk : k < 2 * dim) (hj : j < 2 * dim) (m : Mat) :
    Pres (SO dim) P m (octRelaxAt up m i k j) := by
  unfold octRelaxAt
  apply Pres.setAt hP (minA_le_left _ _)
  intro p hp h
  have hc := hP p hp
  apply le_minA (holds_mAt h hc hi hj)
  have := fin_le_addUp hup (holds_mAt h hc hi hk) (holds_mAt h hc hk hj)
  have e : p j - p i = (p k - p i) + (p j - p k) := by ring
  rw [e]; exact this

theorem pres_octIncStep1 (hup : ∀ x, fin x ≤ up x) (hP : ∀ p, P p → Coh p) {dim v : Nat}
    (hv : v + 1 < 2 * dim) (m : Mat) :
    Pres (SO dim) P m (octIncStep1 up (2 * dim) v m) := by
  have hv0 : v < 2 * dim := by omega
  unfold octIncStep1
  apply Pres.loopUp; intro k hk m
  apply Pres.loopUp; intro i hi m
  refine Pres.after (Pres.iteSkip _ (Pres.after (Pres.iteSkip _ (pres_octRelaxAt hup hP hv hk hi _))
    (Pres.iteSkip _ (pres_octRelaxAt hup hP hv0 hk hi _)))) ?_
  exact Pres.iteSkip _ (Pres.after (Pres.iteSkip _ (pres_octRelaxAt hup hP hi hk hv _))
    (Pres.iteSkip _ (pres_octRelaxAt hup hP hi hk hv0 _)))

theorem pres_octIncStep2 (hup : ∀ x, fin x ≤ up x) (hP : ∀ p, P p → Coh p) {dim v : Nat}
    (hv : v + 1 < 2 * dim) (m : Mat) :
    Pres (SO dim) P m (octIncStep2 up (2 * dim) v m) := by
  have hv0 : v < 2 * dim := by omega
  unfold octIncStep2
  apply Pres.loopUp; intro i hi m
  apply Pres.loopUp; intro j hj m
  exact Pres.after (Pres.iteSkip _ (Pres.iteSkip _ (pres_octRelaxAt hup hP hi hv hj _)))
    (Pres.iteSkip _ (Pres.iteSkip _ (pres_octRelaxAt hup hP hi hv0 hj m)))

/-! ## wrapping -/

theorem holds_diagUp_zero {dim : Nat} {p : Nat → Rat} {m : Mat} (h : Holds (SO dim) p m) :
    Holds (SO dim) p (Mat.diagUp (2 * dim) (fin 0) m) :=
  h.fill_diag (Mat.diagUp_apply _ _ _) (le_rfl' _)

theorem holds_diagUp_pinf {dim : Nat} {p : Nat → Rat} {m : Mat} (h : Holds (SO dim) p m) :
    Holds (SO dim) p (Mat.diagUp (2 * dim) pinf m) :=
  h.fill_diag (Mat.diagUp_apply _ _ _) (le_pinf _)

/-- integer potentials -/
def IntPot (dim : Nat) (p : Nat → Rat) : Prop := ∀ i, i < 2 * dim → ∃ z : Int, p i = z

/-- soundness-only step relation (no claim that entries decrease) -/
def PresH (S : Nat → Nat → Prop) (P : (Nat → Rat) → Prop) (m m' : Mat) : Prop :=
  ∀ p, P p → Holds S p m → Holds S p m'

theorem odd_tighten {q : Rat} (hodd : (fin q).isOddInt = true) {z : Int} (h : (2 : Rat) * z ≤ q) :
    (2 : Rat) * z ≤ q - 1 := by
  simp only [isOddInt, Bool.and_eq_true, beq_iff_eq] at hodd
  obtain ⟨hden, hnum⟩ := hodd
  have hq : (q.num : Rat) = q := Rat.coe_int_num_of_den_eq_one hden
  rw [← hq] at h ⊢
  have h' : 2 * z ≤ q.num := by exact_mod_cast h
  have : 2 * z ≤ q.num - 1 := by omega
  exact_mod_cast this

theorem presH_tightenUnary (hup : ∀ x, fin x ≤ up x) (dim : Nat) (m : Mat) :
    PresH (SO dim) (fun p => Coh p ∧ IntPot dim p) m (tightenUnary up dim m) := by
  unfold tightenUnary
  refine loopUp_rel (PresH (SO dim) (fun p => Coh p ∧ IntPot dim p)) (fun _ _ _ h => h)
    (fun a b c h1 h2 p hp h => h2 p hp (h1 p hp h)) dim _ ?_ m
  intro h hh m
  have step : ∀ (m : Mat) (a b : Nat), a < 2 * dim → b = cidx a →
      PresH (SO dim) (fun p => Coh p ∧ IntPot dim p) m
        (if (!(m a b).isPinf && (m a b).isOddInt) = true then m.set a b (subUp up (m a b) (fin 1)) else m) := by
    intro m a b ha hb p hp hm
    split
    · rename_i hc
      simp only [Bool.and_eq_true, Bool.not_eq_true'] at hc
      obtain ⟨hfin, hodd⟩ := hc
      intro a' b' hab'
      simp only [Mat.set_apply]
      split
      · rename_i he
        obtain ⟨rfl, rfl⟩ := he
        have h0 := hm a' b' hab'
        cases hv : m a' b' with
        | pinf => rw [hv] at hfin; simp [isPinf] at hfin
        | fin q =>
          rw [hv] at h0 hodd
          obtain ⟨z, hz⟩ := hp.2 a' ha
          rw [hb, hp.1, hz] at h0 ⊢
          simp only [subUp]
          rw [fin_le_fin] at h0
          have e : -(z : Rat) - z = 2 * ((-z : Int) : Rat) := by push_cast; ring
          rw [e] at h0 ⊢
          exact le_trans' (fin_le_fin.2 (odd_tighten hodd h0)) (hup _)
      · exact hm a' b' hab'
    · exact hm
  intro p hp hm
  have h1 := step m (2 * h) (2 * h + 1) (by omega) (cidx_even h).symm p hp hm
  exact step _ (2 * h + 1) (2 * h) (by omega) (cidx_odd h).symm p hp h1

theorem mle_tightenUnary (hdec : ∀ q : Rat, (fin q).isOddInt = true → up (q - 1) ≤ fin q) (dim : Nat)
    (m : Mat) : MLe (tightenUnary up dim m) m := by
  unfold tightenUnary
  refine loopUp_rel (fun a b => MLe b a) (fun _ _ _ => le_rfl' _)
    (fun a b c h1 h2 i j => le_trans' (h2 i j) (h1 i j)) dim _ ?_ m
  intro h _ m
  have step : ∀ (m : Mat) (a b : Nat),
      MLe (if (!(m a b).isPinf && (m a b).isOddInt) = true then m.set a b (subUp up (m a b) (fin 1)) else m) m := by
    intro m a b
    split
    · rename_i hc
      simp only [Bool.and_eq_true, Bool.not_eq_true'] at hc
      obtain ⟨hfin, hodd⟩ := hc
      intro a' b'
      simp only [Mat.set_apply]
      split
      · rename_i he
        obtain ⟨rfl, rfl⟩ := he
        cases hv : m a' b' with
        | pinf => simp
        | fin q =>
          rw [hv] at hodd
          simp only [subUp]
          exact hdec q hodd
      · exact le_rfl' _
    · exact fun _ _ => le_rfl' _
  intro i j
  exact le_trans' (step _ (2 * h + 1) (2 * h) i j) (step m (2 * h) (2 * h + 1) i j)

namespace OctM
variable {n : Nat}

theorem sat_iff_holds (m : OctM n) (x : Nat → Rat) : m.Sat x ↔ Holds (SO n) (oval x) m.e := by
  constructor
  · intro h a b hab
    exact h a b hab.1 hab.2
  · intro h i j hi hj
    exact h i j ⟨hi, hj⟩

theorem wrap_core_holds (F : Mat → Mat) (hF : ∀ m, Pres (SO n) Coh m (F m))
    (m : OctM n) (x : Nat → Rat) (hx : m.Sat x) :
    Holds (SO n) (oval x) (F (Mat.diagUp (2 * n) (fin 0) m.e)) :=
  (hF _).1 _ (coh_oval x) (holds_diagUp_zero ((sat_iff_holds m x).1 hx))

theorem wrap_le (F : Mat → Mat) (hF : ∀ m, Pres (SO n) Coh m (F m))
    (m : OctM n) (i j : Nat) :
    Mat.diagUp (2 * n) pinf (F (Mat.diagUp (2 * n) (fin 0) m.e)) i j ≤ m.e i j :=
  fill_restore_le (fill := Mat.diagUp (2 * n)) (Mat.diagUp_apply _) (fun m => (hF m).2) m.diag i j

theorem strongCoherence_sat (hup : ∀ x, fin x ≤ up x) (m : OctM n) (x : Nat → Rat) (hx : m.Sat x) :
    (strongCoherence up m).Sat x := by
  rw [sat_iff_holds] at hx ⊢
  exact (pres_strongCoherenceM hup (fun _ h => h) n m.e).1 _ (coh_oval x) hx

theorem strongCoherence_le (hup : ∀ x, fin x ≤ up x) (m : OctM n) : strongCoherence up m ≤ m :=
  fun i j _ _ => (pres_strongCoherenceM (P := Coh) hup (fun _ h => h) n m.e).2 i j

theorem closureRestored_sat (hup : ∀ x, fin x ≤ up x) (m : OctM n) (x : Nat → Rat) (hx : m.Sat x) :
    (closureRestored up m).Sat x := by
  rw [sat_iff_holds]
  exact holds_diagUp_pinf (wrap_core_holds _ (pres_octLoops hup (fun _ h => h) n) m x hx)

theorem closureRestored_le (hup : ∀ x, fin x ≤ up x) (m : OctM n) : closureRestored up m ≤ m :=
  fun i j _ _ => wrap_le _ (pres_octLoops hup (fun _ h => h) n) m i j

theorem le_trans'' {a b c : OctM n} (h1 : a ≤ b) (h2 : b ≤ c) : a ≤ c :=
  fun i j hi hj => le_trans' (h1 i j hi hj) (h2 i j hi hj)

theorem strongClosure_sat (hup : ∀ x, fin x ≤ up x) (m : OctM n) (x : Nat → Rat) (hx : m.Sat x) :
    (strongClosure up m).Sat x := by
  unfold strongClosure
  split
  · exact closureRestored_sat hup m x hx
  · exact strongCoherence_sat hup _ x (closureRestored_sat hup m x hx)

theorem strongClosure_le (hup : ∀ x, fin x ≤ up x) (m : OctM n) : strongClosure up m ≤ m := by
  unfold strongClosure
  split
  · exact closureRestored_le hup m
  · exact le_trans'' (strongCoherence_le hup _) (closureRestored_le hup m)

theorem strongClosureEmpty_sound (hup : ∀ x, fin x ≤ up x) (m : OctM n)
    (he : strongClosureEmpty up m = true) (x : Nat → Rat) : ¬ m.Sat x := by
  intro hx
  have h := wrap_core_holds _ (pres_octLoops hup (fun _ h => h) n) m x hx
  have := h.negDiag_false (k := 2 * n) (fun h hh => ⟨hh, by unfold rowSize; omega⟩)
  unfold strongClosureEmpty octCore at he
  rw [this] at he
  exact Bool.false_ne_true he

theorem pres_octInc (hup : ∀ x, fin x ≤ up x) {vid : Nat} (hv : vid < n) (m : Mat) :
    Pres (SO n) Coh m (octIncStep2 up (2 * n) (2 * vid) (octIncStep1 up (2 * n) (2 * vid) m)) :=
  (pres_octIncStep1 hup (fun _ h => h) (by omega) m).trans
    (pres_octIncStep2 hup (fun _ h => h) (by omega) _)

theorem incRestored_sat (hup : ∀ x, fin x ≤ up x) {vid : Nat} (hv : vid < n) (m : OctM n)
    (x : Nat → Rat) (hx : m.Sat x) : (incRestored up vid m).Sat x := by
  rw [sat_iff_holds]
  exact holds_diagUp_pinf (wrap_core_holds _ (pres_octInc hup hv) m x hx)

theorem incRestored_le (hup : ∀ x, fin x ≤ up x) {vid : Nat} (hv : vid < n) (m : OctM n) :
    incRestored up vid m ≤ m :=
  fun i j _ _ => wrap_le _ (pres_octInc hup hv) m i j

theorem incStrongClosure_sat (hup : ∀ x, fin x ≤ up x) {vid : Nat} (hv : vid < n) (m : OctM n)
    (x : Nat → Rat) (hx : m.Sat x) : (incStrongClosure up vid m).Sat x := by
  unfold incStrongClosure
  split
  · exact incRestored_sat hup hv m x hx
  · exact strongCoherence_sat hup _ x (incRestored_sat hup hv m x hx)

theorem incStrongClosure_le (hup : ∀ x, fin x ≤ up x) {vid : Nat} (hv : vid < n) (m : OctM n) :
    incStrongClosure up vid m ≤ m := by
  unfold incStrongClosure
  split
  · exact incRestored_le hup hv m
  · exact le_trans'' (strongCoherence_le hup _) (incRestored_le hup hv m)

theorem incStrongClosureEmpty_sound (hup : ∀ x, fin x ≤ up x) {vid : Nat} (hv : vid < n) (m : OctM n)
    (he : incStrongClosureEmpty up vid m = true) (x : Nat → Rat) : ¬ m.Sat x := by
  intro hx
  have h := wrap_core_holds _ (pres_octInc hup hv) m x hx
  have := h.negDiag_false (k := 2 * n) (fun h hh => ⟨hh, by unfold rowSize; omega⟩)
  unfold incStrongClosureEmpty octIncCore at he
  rw [this] at he
  exact Bool.false_ne_true he

/-! ### tight closure: integer points -/

/-- the first `n` coordinates are integers -/
def IntPt (n : Nat) (x : Nat → Rat) : Prop := ∀ i, i < n → ∃ z : Int, x i = z

theorem intPot_oval {x : Nat → Rat} (hx : IntPt n x) : IntPot n (oval x) := by
  intro i hi
  obtain ⟨z, hz⟩ := hx (i / 2) (by omega)
  unfold oval
  split
  · exact ⟨z, hz⟩
  · exact ⟨-z, by rw [hz]; push_cast; ring⟩

theorem tighten_sat (hup : ∀ x, fin x ≤ up x) (m : OctM n) (x : Nat → Rat) (hi : IntPt n x)
    (hx : m.Sat x) : (tighten up m).Sat x := by
  rw [sat_iff_holds] at hx ⊢
  exact presH_tightenUnary hup n m.e _ ⟨coh_oval x, intPot_oval hi⟩ hx

theorem tighten_le (hdec : ∀ q : Rat, (fin q).isOddInt = true → up (q - 1) ≤ fin q) (m : OctM n) :
    tighten up m ≤ m :=
  fun i j _ _ => mle_tightenUnary hdec n m.e i j

theorem tightClosure_sat (hup : ∀ x, fin x ≤ up x) (m : OctM n) (x : Nat → Rat) (hi : IntPt n x)
    (hx : m.Sat x) : (tightClosure up m).Sat x := by
  unfold tightClosure
  split
  · exact strongClosure_sat hup m x hx
  · exact strongCoherence_sat hup _ x (tighten_sat hup _ x hi (strongClosure_sat hup m x hx))

theorem tightClosure_le (hup : ∀ x, fin x ≤ up x)
    (hdec : ∀ q : Rat, (fin q).isOddInt = true → up (q - 1) ≤ fin q) (m : OctM n) :
    tightClosure up m ≤ m := by
  unfold tightClosure
  split
  · exact strongClosure_le hup m
  · exact le_trans'' (strongCoherence_le hup _) (le_trans'' (tighten_le hdec _) (strongClosure_le hup m))

theorem tightWouldEmpty_sound (m : OctM n) (he : tightWouldEmpty n m.e = true) (x : Nat → Rat)
    (hi : IntPt n x) : ¬ m.Sat x := by
  intro hx
  simp only [tightWouldEmpty, List.any_eq_true, List.mem_range, Bool.and_eq_true,
    Bool.not_eq_true'] at he
  obtain ⟨h, hh, ⟨_, hodd⟩, hinv⟩ := he
  have h1 := hx (2 * h) (2 * h + 1) (by omega) (by unfold rowSize; omega)
  have h2 := hx (2 * h + 1) (2 * h) (by omega) (by unfold rowSize; omega)
  cases hv1 : m.e (2 * h) (2 * h + 1) with
  | pinf => rw [hv1] at hodd; simp [isOddInt] at hodd
  | fin q =>
    cases hv2 : m.e (2 * h + 1) (2 * h) with
    | pinf => rw [hv1, hv2] at hinv; simp [isAddInv] at hinv
    | fin q' =>
      rw [hv1, hv2] at hinv
      rw [hv1] at h1 hodd
      rw [hv2] at h2
      simp only [isAddInv, decide_eq_true_eq] at hinv
      rw [fin_le_fin] at h1 h2
      obtain ⟨z, hz⟩ := hi h hh
      have o1 : oval x (2 * h) = z := by
        unfold oval
        rw [if_pos (by omega), show 2 * h / 2 = h by omega, hz]
      have o2 : oval x (2 * h + 1) = -z := by
        unfold oval
        rw [if_neg (by omega), show (2 * h + 1) / 2 = h by omega, hz]
      rw [o1, o2] at h1 h2
      have e1 : (2 : Rat) * ((-z : Int) : Rat) ≤ q := by push_cast; linarith
      have := odd_tighten hodd e1
      push_cast at this
      linarith

theorem tightClosureEmpty_sound (hup : ∀ x, fin x ≤ up x) (m : OctM n)
    (he : tightClosureEmpty up m = true) (x : Nat → Rat) (hi : IntPt n x) : ¬ m.Sat x := by
  intro hx
  unfold tightClosureEmpty at he
  rw [Bool.or_eq_true] at he
  rcases he with he | he
  · exact strongClosureEmpty_sound hup m he x hx
  · exact tightWouldEmpty_sound _ he x hi (strongClosure_sat hup m x hx)

/-- the set of points of an octagon matrix -/
def γ (m : OctM n) : Set (ℕ → ℚ) := {x | m.Sat x}
/-- its integer points -/
def γInt (m : OctM n) : Set (ℕ → ℚ) := {x | m.Sat x ∧ IntPt n x}

end OctM
end PPLV.WR

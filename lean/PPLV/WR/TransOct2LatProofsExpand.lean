import PPLV.WR.TransOct2LatProofsExpandLoops
import Mathlib.Tactic.Ring
/-!
# Lattice / dimension operations of `Octagonal_Shape<T>`: expand_space_dimension (exact characterisation)

A new variable `j` is a copy of `var`: a point `y` of the result, read through the substitution `var := j`
(`octLatSub`), is a point of the old matrix.  The same substitution describes `fold_space_dimensions`.
-/
namespace PPLV.WR
open ExtRat

theorem latOval_upd_ne (y : Nat → Rat) (var : Nat) (w : Rat) {c : Nat} (h : c / 2 ≠ var) :
    OctM.oval (upd y var w) c = OctM.oval y c := by
  unfold OctM.oval upd
  rw [if_neg h]

/-- the matrix index after the substitution `dest := w` -/
def octLatSub (dest w i : Nat) : Nat := if i / 2 = dest then 2 * w + i % 2 else i

theorem octLatSub_pos {dest i : Nat} (w : Nat) (h : i / 2 = dest) : octLatSub dest w i = 2 * w + i % 2 := if_pos h

theorem octLatSub_dest (dest w : Nat) {s : Nat} (hs : s < 2) : octLatSub dest w (2 * dest + s) = 2 * w + s := by
  rw [octLatSub_pos w (by omega)]; omega

theorem octLatSub_other {dest i : Nat} (w : Nat) (h : i / 2 ≠ dest) : octLatSub dest w i = i := if_neg h

theorem octLatSub_ne {dest k : Nat} (w : Nat) {s : Nat} (hs : s < 2) (h : k ≠ dest) :
    octLatSub dest w (2 * k + s) = 2 * k + s := octLatSub_other w (by omega)

theorem octLatSub_self (dest i : Nat) : octLatSub dest dest i = i := by
  unfold octLatSub; split <;> omega

theorem octLatSub_oval (x : Nat → Rat) (dest w i : Nat) :
    OctM.oval (upd x dest (x w)) i = OctM.oval x (octLatSub dest w i) := by
  unfold octLatSub
  split
  · rename_i h
    unfold OctM.oval upd
    have e1 : (2 * w + i % 2) % 2 = i % 2 := by omega
    have e2 : (2 * w + i % 2) / 2 = w := by omega
    rw [if_pos h, e1, e2]
  · rename_i h; exact latOval_upd_ne x dest _ h

/-- the cell `(c', e)` that `(a, b)` or its twin is mapped to bounds, on `x`, the difference that `(a, b)` bounds
after the substitution -/
theorem octLatSub_diff (x : Nat → Rat) (dest w : Nat) {a b c' e : Nat}
    (hid : (c' = octLatSub dest w a ∧ e = octLatSub dest w b) ∨
      (c' = cidx (octLatSub dest w b) ∧ e = cidx (octLatSub dest w a))) :
    OctM.oval x e - OctM.oval x c' = OctM.oval (upd x dest (x w)) b - OctM.oval (upd x dest (x w)) a := by
  rw [octLatSub_oval, octLatSub_oval]
  rcases hid with ⟨rfl, rfl⟩ | ⟨rfl, rfl⟩
  · rfl
  · rw [latOval_cidx, latOval_cidx]; ring

/-- a point of `m`, read after the substitution at `(a, b)`, obeys the stored cell that `(a, b)` or its twin
is mapped to -/
theorem octLatSub_holds {n : Nat} {m : Mat} {x : Nat → Rat} (hx : x ∈ γO n m) (dest w : Nat) {a b c' e : Nat}
    (hc' : c' < 2 * n) (he : e < rowSize c')
    (hid : (c' = octLatSub dest w a ∧ e = octLatSub dest w b) ∨
      (c' = cidx (octLatSub dest w b) ∧ e = cidx (octLatSub dest w a))) :
    fin (OctM.oval (upd x dest (x w)) b - OctM.oval (upd x dest (x w)) a) ≤ m c' e := by
  rw [← octLatSub_diff x dest w hid]
  exact hx c' e ⟨hc', he⟩

/-- a point whose substituted image lies in `m` obeys, at the image of a stored cell or at its twin, the bound
of that cell -/
theorem octLatSub_holds_img {n : Nat} {m : Mat} {x : Nat → Rat} {dest w : Nat}
    (hx : upd x dest (x w) ∈ γO n m) {a b c' e : Nat} (hc' : c' < 2 * n) (he : e < rowSize c')
    (hid : (a = octLatSub dest w c' ∧ b = octLatSub dest w e) ∨
      (a = cidx (octLatSub dest w e) ∧ b = cidx (octLatSub dest w c'))) :
    fin (OctM.oval x b - OctM.oval x a) ≤ m c' e := by
  rw [octLatSub_diff x dest w hid]
  exact hx c' e ⟨hc', he⟩

/-- the matrix of `expand_space_dimension(var, k)`: the old rows stay; the rows of a copy `j` are the rows of
`var` in the full view of the old rows, and `+∞` beyond -/
theorem octLatExpandLoop_cells (n : Nat) (m : Mat) (var k : Nat) (hvar : var < n) :
    (∀ a b, a < 2 * n → octLatExpandLoop n var k (octLatGrow (2 * n) m) a b = m a b) ∧
    ∀ j s s', n ≤ j → j < n + k → s + s' = 1 →
      octLatExpandLoop n var k (octLatGrow (2 * n) m) (2 * j + s) (2 * j + s') = m (2 * var + s) (2 * var + s') ∧
      (∀ b, b < 2 * var → octLatExpandLoop n var k (octLatGrow (2 * n) m) (2 * j + s) b = m (2 * var + s) b) ∧
      (∀ b, 2 * var + 2 ≤ b → b < 2 * n →
        octLatExpandLoop n var k (octLatGrow (2 * n) m) (2 * j + s) b = m (cidx b) (2 * var + s')) ∧
      (∀ b, b ≠ 2 * j + s' → 2 * var ≤ b → (b < 2 * var + 2 ∨ 2 * n ≤ b) →
        octLatExpandLoop n var k (octLatGrow (2 * n) m) (2 * j + s) b = pinf) := by
  have hg : ∀ a b, a < 2 * n → octLatGrow (2 * n) m a b = m a b := fun a b ha => by
    simp only [octLatGrow, if_pos ha]
  refine ⟨fun a b ha => ?_, fun j s s' hj1 hj2 hs => ?_⟩
  · rw [octLatExpandLoop_apply n var k hvar, if_neg (by omega), hg a b ha]
  · have hc := cidx_add_one (k := j) hs
    have hcv := cidx_add_one (k := var) hs
    have hmod : (2 * j + s) % 2 = s := by omega
    have hnew : ∀ b, octLatExpandLoop n var k (octLatGrow (2 * n) m) (2 * j + s) b
        = octLatExpandCell n var (octLatGrow (2 * n) m) (2 * j + s) b := fun b => by
      rw [octLatExpandLoop_apply n var k hvar, if_pos (by omega)]
    refine ⟨?_, fun b hb => ?_, fun b h1 h2 => ?_, fun b h0 h1 h2 => ?_⟩
    · rw [hnew, ← hc, octLatExpandCell_twin, hmod, hcv, hg _ _ (by omega)]
    · rw [hnew, octLatExpandCell_low _ hvar (by omega) hb, hmod, hg _ _ (by omega)]
    · rw [hnew, octLatExpandCell_high _ (by omega) h1 h2, hmod, hcv, hg _ _ (cidx_lt h2)]
    · rw [hnew, octLatExpandCell_else _ (by rw [hc]; exact h0) h1 h2]
      simp only [octLatGrow, if_neg (by omega : ¬ 2 * j + s < 2 * n)]

/-- `expand_space_dimension(var, k)`: a point is in the result iff substituting any copy for `var` gives a
point of the original shape (every bound type, no hypothesis on the matrix) -/
theorem octLatExpand_spec (R : Rnd) (n : Nat) (c : Bool) (m : Mat) (var k : Nat) (hvar : var < n) :
    ∃ r, octLatExpand R n c m var k = some r ∧ r.dim = n + k ∧
      ∀ y, y ∈ γO (n + k) r.m ↔
        ∀ j, (j = var ∨ (n ≤ j ∧ j < n + k)) → upd y var (y j) ∈ γO n m := by
  by_cases hk : k = 0
  · subst hk
    unfold octLatExpand
    simp only [if_true]
    refine ⟨_, rfl, rfl, fun y => ⟨fun h j hj => ?_, fun h => ?_⟩⟩
    · have : j = var := by omega
      subst this
      rw [latUpd_self]; exact h
    · have := h var (Or.inl rfl)
      rw [latUpd_self] at this; exact this
  · unfold octLatExpand octLatEmbed
    simp only [if_neg hk]
    refine ⟨_, rfl, rfl, fun y => ?_⟩
    obtain ⟨hold, hnew⟩ := octLatExpandLoop_cells n m var k hvar
    generalize octLatExpandLoop n var k (octLatGrow (2 * n) m) = r at hold hnew
    constructor
    · intro h j hj a b hab
      rcases hj with rfl | hj
      · rw [latUpd_self, ← hold a b hab.1]
        exact h a b ⟨by have := hab.1; omega, hab.2⟩
      -- the cell of `r` that bounds the same difference after the substitution `var := j`
      obtain ⟨ja, sa, sa', hsa, rfl⟩ := latIdx_pair a
      obtain ⟨jb, sb, sb', hsb, rfl⟩ := latIdx_pair b
      have sa2 : sa < 2 := by omega
      have sa2' : sa' < 2 := by omega
      have sb2 : sb < 2 := by omega
      have sb2' : sb' < 2 := by omega
      have ha : ja < n := by have := hab.1; omega
      have hb : jb ≤ ja := by have := hab.2; rw [rowSize_add sa2] at this; omega
      have hjs : ∀ {s : Nat}, s < 2 → 2 * j + s < 2 * (n + k) := fun hs => by omega
      by_cases hav : ja = var
      · subst hav
        obtain ⟨h1, h2, _, _⟩ := hnew j sa sa' hj.1 hj.2 hsa
        have hA := octLatSub_dest ja j sa2
        by_cases hbv : jb = ja
        · subst hbv
          have hB := octLatSub_dest jb j sb2
          by_cases hs : sa = sb
          · subst hs
            have := h _ _ ⟨by omega, hab.2⟩
            rw [hold _ _ hab.1] at this
            simpa using this
          · have : sb = sa' := by omega
            subst this
            rw [← h1]
            exact octLatSub_holds h jb j (hjs sa2) (latStored_add sa2 sb2 (le_refl _)) (Or.inl ⟨hA.symm, hB.symm⟩)
        · rw [← h2 _ (by omega)]
          exact octLatSub_holds h ja j (hjs sa2) (latStored_add sa2 sb2 (by omega))
            (Or.inl ⟨hA.symm, (octLatSub_ne j sb2 hbv).symm⟩)
      · have hA := octLatSub_ne j sa2 hav
        by_cases hbv : jb = var
        · subst hbv
          obtain ⟨_, _, h3, _⟩ := hnew j sb' sb hj.1 hj.2 (by omega)
          have := h3 (2 * ja + sa') (by omega) (by omega)
          rw [cidx_add_one (by omega : sa' + sa = 1)] at this
          rw [← this]
          refine octLatSub_holds h jb j (hjs sb2') (latStored_add sb2' sa2' (by omega)) (Or.inr ⟨?_, ?_⟩)
          · rw [octLatSub_dest jb j sb2, cidx_add_one hsb]
          · rw [hA, cidx_add_one hsa]
        · rw [← hold _ _ hab.1]
          exact octLatSub_holds h var j (by omega) (latStored_add sa2 sb2 hb)
            (Or.inl ⟨hA.symm, (octLatSub_ne j sb2 hbv).symm⟩)
    · intro h a b hab
      by_cases hold' : a < 2 * n
      · have := h var (Or.inl rfl)
        rw [latUpd_self] at this
        rw [hold a b hold']
        exact this a b ⟨hold', hab.2⟩
      · obtain ⟨j, s, s', hs, rfl⟩ := latIdx_pair a
        have s2 : s < 2 := by omega
        have s2' : s' < 2 := by omega
        have hj1 : n ≤ j := by omega
        have hj2 : j < n + k := by have := hab.1; omega
        have hb := hab.2
        rw [rowSize_add s2] at hb
        obtain ⟨h1, h2, h3, h4⟩ := hnew j s s' hj1 hj2 hs
        have hj := h j (Or.inr ⟨hj1, hj2⟩)
        have hA := octLatSub_dest var j s2
        have hV : ∀ {s : Nat}, s < 2 → 2 * var + s < 2 * n := fun hs => by omega
        by_cases hb0 : b = 2 * j + s'
        · subst hb0
          rw [h1]
          exact octLatSub_holds_img hj (hV s2) (latStored_add s2 s2' (le_refl _))
            (Or.inl ⟨hA.symm, (octLatSub_dest var j s2').symm⟩)
        · by_cases hb1 : b < 2 * var
          · rw [h2 b hb1]
            exact octLatSub_holds_img hj (hV s2) (by rw [rowSize_add s2]; omega)
              (Or.inl ⟨hA.symm, (octLatSub_other j (by omega)).symm⟩)
          · by_cases hb2 : 2 * var + 2 ≤ b ∧ b < 2 * n
            · rw [h3 b hb2.1 hb2.2]
              obtain ⟨jb, sb, sb', hsb, rfl⟩ := latIdx_pair b
              have sb2 : sb < 2 := by omega
              have sb2' : sb' < 2 := by omega
              rw [cidx_add_one hsb]
              refine octLatSub_holds_img hj (by omega) (latStored_add sb2' s2' (by omega)) (Or.inr ⟨?_, ?_⟩)
              · rw [octLatSub_dest var j s2', cidx_add_one (by omega : s' + s = 1)]
              · rw [octLatSub_ne j sb2' (by omega), cidx_add_one (by omega : sb' + sb = 1)]
            · rw [h4 b hb0 (by omega) (by omega)]
              exact le_pinf _

end PPLV.WR

import PPLV.WR.TransOct2ProofsBounded
/-!
# `Octagonal_Shape<T>::bounded_affine_image`: the lower-bound kernel on a matrix whose unary cells only DECREASED

The general case of `bounded_affine_image` accumulates `-lb_expr` over the unary cells of the closed matrix `m0`,
then applies the upper bound (an inner `generalized_affine_image(var, ≤, ub_expr, den)`, which may end with
`incremental_strong_closure_assign`) and only then runs "exploit the lower approximation" — whose
`deduce_minus_v_pm_u_bounds` reads the unary cells of the NEW matrix `m1`.  The cells of the variables other than
`var` only decrease through the inner call (`octGenAffineImageCore_le_unaryLe`); with a MONOTONE rounding the rounded
box of `m1` is contained in that of `m0`, so the sum is still an upper bound over it.
-/
namespace PPLV.WR
open ExtRat

/-- the unary cells of the variables other than `vid` of `m1` are below those of `m0` -/
def OctUnaryLe (n vid : Nat) (m1 m0 : Mat) : Prop :=
  ∀ u, u < n → u ≠ vid →
    m1 (2 * u + 1) (2 * u) ≤ m0 (2 * u + 1) (2 * u) ∧ m1 (2 * u) (2 * u + 1) ≤ m0 (2 * u) (2 * u + 1)

theorem octUnaryLe_of_eq {n vid : Nat} {m1 m0 : Mat} (h : OUnaryEq vid m1 m0) : OctUnaryLe n vid m1 m0 := by
  intro u _ hu; rw [(h u hu).1, (h u hu).2]; exact ⟨le_rfl' _, le_rfl' _⟩

theorem octLe_fin {a : ExtRat} {q : Rat} (h : a ≤ fin q) : ∃ q', a = fin q' ∧ q' ≤ q := by
  cases a with
  | pinf => exact absurd h (not_pinf_le_fin q)
  | fin q' => exact ⟨q', rfl, fin_le_fin.1 h⟩

theorem octHalfUp_mono {up : Rat → ExtRat} (hmono : ∀ a b : Rat, a ≤ b → up a ≤ up b) {a b : ExtRat} (h : a ≤ b) :
    halfUp up a ≤ halfUp up b := by
  cases b with
  | pinf => exact le_pinf _
  | fin q =>
    obtain ⟨q', rfl, hq⟩ := octLe_fin h
    exact hmono _ _ (by linarith)

/-- `deduceMinusVPmU_pinf_holds` asking the halving fact only for the cells that are read -/
theorem octDeduceMinusVPmU_pinf_holds {up : Rat → ExtRat} {n : Nat} {m : Mat} {vid last : Nat} {e : Nat → Int}
    {d : Int} {x' : Nat → Rat}
    (hh : ∀ u, u < last + 1 → u ≠ vid →
      (e u > 0 → ∀ q, m (2 * u) (2 * u + 1) = fin q → up (q / 2) ≠ pinf) ∧
      (e u < 0 → ∀ q, m (2 * u + 1) (2 * u) = fin q → up (q / 2) ≠ pinf))
    (hx' : Holds (SO n) (OctM.oval x') m)
    (hp : ∀ u, u < last + 1 → u ≠ vid → e u > 0 → m (2 * u) (2 * u + 1) ≠ pinf)
    (hn : ∀ u, u < last + 1 → u ≠ vid → e u < 0 → m (2 * u + 1) (2 * u) ≠ pinf) :
    Holds (SO n) (OctM.oval x') (deduceMinusVPmU up vid last e d pinf m) := by
  suffices h : OInv n x' m (deduceMinusVPmU up vid last e d pinf m) from h.1
  unfold deduceMinusVPmU
  refine loopUp_rel (fun a b => OInv n x' m a → OInv n x' m b) (fun _ h => h)
    (fun _ _ _ h1 h2 h => h2 (h1 h)) (last + 1) _ ?_ m ⟨hx', fun _ => ⟨rfl, rfl⟩⟩
  intro u hu m' hI
  -- with `-lb_v = +∞` every value stored is `+∞`, at one of two cells that are not unary
  have hst : ∀ {c : Prop} [Decidable c] {a1 b1 a2 b2 : Nat},
      (∀ w, ¬ (a1 = 2 * w ∧ b1 = 2 * w + 1) ∧ ¬ (a1 = 2 * w + 1 ∧ b1 = 2 * w)) →
      (∀ w, ¬ (a2 = 2 * w ∧ b2 = 2 * w + 1) ∧ ¬ (a2 = 2 * w + 1 ∧ b2 = 2 * w)) →
      OInv n x' m (if c then m'.set a1 b1 pinf else m'.set a2 b2 pinf) := by
    intro c _ a1 b1 a2 b2 h1 h2
    split
    · exact hI.set h1 (le_pinf _)
    · exact hI.set h2 (le_pinf _)
  unfold deduceMinusVPmUStep
  simp only [Nat.mul_comm u 2]
  by_cases h0 : e u = 0
  · rw [if_pos h0]; exact hI
  rw [if_neg h0]
  by_cases huv : u = vid
  · rw [if_pos huv]; exact hI
  rw [if_neg huv, (hI.2 u).1, (hI.2 u).2]
  by_cases hpos : e u > 0
  · rw [if_pos hpos]
    by_cases hq : e u ≥ d
    · rw [if_pos hq, subUp_pinf_half (fun q hq => (hh u hu huv).1 hpos q hq) (hp u hu huv hpos)]
      exact hst (by intro w; omega) (by intro w; omega)
    · rw [if_neg hq]
      cases m (2 * u + 1) (2 * u) with
      | pinf => exact hI
      | fin z =>
        dsimp only
        rw [addUp_pinf_left]
        exact hst (by intro w; omega) (by intro w; omega)
  · have hneg : e u < 0 := by omega
    rw [if_neg hpos]
    by_cases hq : - e u ≥ d
    · rw [if_pos hq, subUp_pinf_half (fun q hq => (hh u hu huv).2 hneg q hq) (hn u hu huv hneg)]
      exact hst (by intro w; omega) (by intro w; omega)
    · rw [if_neg hq]
      cases m (2 * u) (2 * u + 1) with
      | pinf => exact hI
      | fin z =>
        dsimp only
        rw [addUp_pinf_left]
        exact hst (by intro w; omega) (by intro w; omega)

section
variable {R : Rnd} {n vid wid : Nat} {m0 : Mat} {sc : Nat → Int} {scd : Int} {Bq tval : Rat} {x : Nat → Rat}

/-- `olower_deduce` on a matrix whose unary cells are below those of `m0`; monotone rounding -/
theorem octLower_deduce_mono (hR : R.Sound) (hmono : ∀ a b : Rat, a ≤ b → R.up a ≤ R.up b)
    (hh : HalfFiniteOn R.up m0) (hw : wid < n) (hd : 0 < scd)
    (hx : Holds (SO n) (OctM.oval x) m0) (htv : (linEval sc x (wid + 1) + Bq) / scd ≤ tval)
    {m' : Mat} (hx' : Holds (SO n) (OctM.oval (upd x vid tval)) m') (hle : OctUnaryLe n vid m' m0)
    {sum : ExtRat}
    (hc0 : ∀ y, OBox R.up m0 (wid + 1) y → fin (-Bq + linEval (fun i => - sc i) y (wid + 1)) ≤ sum)
    (hfp : ∀ i, i < wid + 1 → - sc i > 0 → m0 (2 * i + 1) (2 * i) ≠ pinf)
    (hfn : ∀ i, i < wid + 1 → - sc i < 0 → m0 (2 * i) (2 * i + 1) ≠ pinf)
    {s : ExtRat} (hs : ∀ S' : Rat, fin S' ≤ sum → fin (S' / (scd : Rat)) ≤ s) :
    Holds (SO n) (OctM.oval (upd x vid tval)) (deduceMinusVPmU R.up vid wid sc scd s m') := by
  -- a finite cell of `m0` stays finite in `m'`, and its half does not overflow
  have hfin : ∀ {a b : ExtRat}, a ≤ b → b ≠ pinf → (∀ q, b = fin q → R.up (q / 2) ≠ pinf) →
      a ≠ pinf ∧ ∀ q, a = fin q → R.up (q / 2) ≠ pinf := by
    intro a b hab hb hbq
    cases b with
    | pinf => exact absurd rfl hb
    | fin q0 =>
      obtain ⟨q', rfl, hq⟩ := octLe_fin hab
      refine ⟨by simp, fun q hq' => ?_⟩
      have : q = q' := by injection hq' with h; exact h.symm
      subst this
      intro hp
      have := hmono (q / 2) (q0 / 2) (by linarith)
      rw [hp] at this
      cases h2 : R.up (q0 / 2) with
      | pinf => exact hbq q0 rfl h2
      | fin z => rw [h2] at this; exact absurd this (not_pinf_le_fin z)
  cases s with
  | pinf =>
    refine octDeduceMinusVPmU_pinf_holds ?_ hx' ?_ ?_
    · intro u hu huv
      have hun : u < n := by omega
      refine ⟨fun hp => ?_, fun hp => ?_⟩
      · exact (hfin (hle u hun huv).2 (hfn u hu (by omega)) (fun q hq => hh u q (Or.inr hq))).2
      · exact (hfin (hle u hun huv).1 (hfp u hu (by omega)) (fun q hq => hh u q (Or.inl hq))).2
    · intro u hu huv hp
      exact (hfin (hle u (by omega) huv).2 (hfn u hu (by omega)) (fun q hq => hh u q (Or.inr hq))).1
    · intro u hu huv hp
      exact (hfin (hle u (by omega) huv).1 (hfp u hu (by omega)) (fun q hq => hh u q (Or.inl hq))).1
  | fin c =>
    refine deduceMinusVPmU_holds hR.up_le hd hw hx' (upd_frame x vid tval) (by simpa [upd] using htv) ?_
    intro y hyv hyb
    have hbox : OBox R.up m0 (wid + 1) y := by
      intro i hi
      by_cases hiv : i = vid
      · subst hiv; rw [hyv]; exact obox_of_holds hR hx (by omega) i hi
      · have := hyb i hi hiv
        have hl := hle i (by omega) hiv
        exact ⟨le_trans' this.1 (octHalfUp_mono hmono hl.1), le_trans' this.2 (octHalfUp_mono hmono hl.2)⟩
    have := hs _ (hc0 y hbox)
    rw [linEval_neg] at this
    have e1 : (-Bq + -linEval sc y (wid + 1)) / (scd : Rat) = -((linEval sc y (wid + 1) + Bq) / scd) := by ring
    rw [e1] at this
    exact fin_le_fin.1 this

/-- `octExploitLower_holds` on a matrix whose unary cells are below those of `m0`; monotone rounding -/
theorem octExploitLower_holds_mono (hR : R.Sound) (hmono : ∀ a b : Rat, a ≤ b → R.up a ≤ R.up b)
    (hh : HalfFiniteOn R.up m0) (hw : wid < n) (hd : 0 < scd)
    (hx : Holds (SO n) (OctM.oval x) m0) (htv : (linEval sc x (wid + 1) + Bq) / scd ≤ tval)
    {m1 : Mat} (hx' : Holds (SO n) (OctM.oval (upd x vid tval)) m1) (hle : OctUnaryLe n vid m1 m0)
    {neg : Acc} (hinv : OAccInv R.up m0 (wid + 1) (fun i => - sc i) (-Bq) (wid + 1) neg) :
    Holds (SO n) (OctM.oval (upd x vid tval)) (octExploitLower R vid wid sc scd neg m1) := by
  unfold octExploitLower
  dsimp only
  by_cases hc : neg.cnt ≤ 1
  · rw [if_pos hc]
    by_cases h0 : neg.cnt = 0
    · rw [if_pos h0]
      refine octLower_deduce_mono hR hmono hh hw hd hx htv ?_ ?_ (hinv.c0 h0) (hinv.f0p h0) (hinv.f0n h0) (fun _ h => fin_le_quot hR hd h)
      · refine holds_set hx' (fun _ => ?_)
        rw [oval_upd_v, oval_upd_cv]
        exact octLower_unary hR hw hx htv (hinv.c0 h0) (fun _ h => fin_le_quot hR hd h)
      · intro u hun hu
        simp only [Mat.set_apply]
        rw [if_neg (by omega), if_neg (by omega)]
        exact hle u hun hu
    · -- one unbounded variable: a single cell, the unary cells are not read
      rw [if_neg h0]
      obtain ⟨hp, hm⟩ := octLower_single hR hw hd hx htv hinv (by omega)
      by_cases hpv : neg.idx ≠ vid
      · rw [if_pos hpv]
        by_cases hcp : sc neg.idx = scd
        · have hvb := hp hcp
          rw [if_pos hcp]
          by_cases hlt : neg.idx < vid
          · rw [if_pos hlt]
            refine holds_set hx' (fun _ => ?_)
            rw [oval_upd_v, oval_upd_u x tval hpv]; exact hvb
          · rw [if_neg hlt]
            refine holds_set hx' (fun _ => ?_)
            rw [oval_upd_cv, oval_upd_cu x tval hpv, show -tval - -x neg.idx = x neg.idx - tval by ring]
            exact hvb
        · rw [if_neg hcp]
          by_cases hcm : sc neg.idx = - scd
          · have hvb := hm hcm
            rw [if_pos hcm]
            by_cases hlt : neg.idx < vid
            · rw [if_pos hlt]
              refine holds_set hx' (fun _ => ?_)
              rw [oval_upd_v, oval_upd_cu x tval hpv]; exact hvb
            · rw [if_neg hlt]
              refine holds_set hx' (fun _ => ?_)
              rw [oval_upd_cv, oval_upd_u x tval hpv, show -tval - x neg.idx = -x neg.idx - tval by ring]
              exact hvb
          · rw [if_neg hcm]; exact hx'
      · rw [if_neg hpv]; exact hx'
  · rw [if_neg hc]; exact hx'

end

end PPLV.WR

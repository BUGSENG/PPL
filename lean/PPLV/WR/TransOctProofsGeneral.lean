import PPLV.WR.TransOctProofsBase
/-!
# `Octagonal_Shape<T>::affine_image`, general case: the accumulation over the halved unary cells, and
`deduce_v_pm_u_bounds` / `deduce_minus_v_pm_u_bounds` when the sum has overflowed to `+∞`
-/
namespace PPLV.WR
open ExtRat

/-- the box of the halved (rounded) unary cells of `m` over the ids `< k` -/
def OBox (up : Rat → ExtRat) (m : Mat) (k : Nat) (y : Nat → Rat) : Prop :=
  ∀ i, i < k → fin (y i) ≤ halfUp up (m (2 * i + 1) (2 * i)) ∧ fin (-(y i)) ≤ halfUp up (m (2 * i) (2 * i + 1))

structure OAccInv (up : Rat → ExtRat) (m : Mat) (w : Nat) (g : Nat → Int) (B : Rat) (k : Nat) (st : Acc) : Prop where
  c0 : st.cnt = 0 → ∀ y, OBox up m w y → fin (B + linEval g y k) ≤ st.sum
  f0p : st.cnt = 0 → ∀ i, i < k → g i > 0 → m (2 * i + 1) (2 * i) ≠ pinf
  f0n : st.cnt = 0 → ∀ i, i < k → g i < 0 → m (2 * i) (2 * i + 1) ≠ pinf
  c1 : st.cnt = 1 → st.idx < k ∧ ∀ y, OBox up m w y → fin (B + linEval (zeroAt g st.idx) y k) ≤ st.sum
  n1 : st.cnt = 1 → g st.idx ≠ 0

variable {R : Rnd} {m : Mat} {w : Nat} {g : Nat → Int} {B : Rat} {k : Nat} {st : Acc}

theorem OAccInv.init (hR : R.Sound) (m : Mat) (w : Nat) (g : Nat → Int) {B B' : Rat} (h : B' = B) :
    OAccInv R.up m w g B' 0 ⟨R.up B, 0, 0⟩ := by
  subst h
  refine ⟨fun _ y _ => ?_, fun _ i hi => by omega, fun _ i hi => by omega, fun h => by simp at h,
    fun h => by simp at h⟩
  simp only [linEval, add_zero]
  exact hR.up_le B'

theorem OAccInv.skip (h : OAccInv R.up m w g B k st) (hg : g k = 0) : OAccInv R.up m w g B (k+1) st := by
  refine ⟨fun hc y hy => ?_, fun hc i hi hp => ?_, fun hc i hi hp => ?_, fun hc => ?_, h.n1⟩
  · simp only [linEval, hg]; simpa using h.c0 hc y hy
  · have : i ≠ k := by intro e; subst e; omega
    exact h.f0p hc i (by omega) hp
  · have : i ≠ k := by intro e; subst e; omega
    exact h.f0n hc i (by omega) hp
  · obtain ⟨h2, h3⟩ := h.c1 hc
    refine ⟨by omega, fun y hy => ?_⟩
    have : zeroAt g st.idx k = 0 := by
      unfold zeroAt; split
      · rfl
      · exact hg
    simp only [linEval, this]; simpa using h3 y hy

theorem OAccInv.dead {up : Rat → ExtRat} (hc : st.cnt > 1) : OAccInv up m w g B k st :=
  ⟨fun h => by omega, fun h => by omega, fun h => by omega, fun h => by omega, fun h => by omega⟩

/-- the doubled bound of the variable on the side needed for the sign of its coefficient -/
def duaOf (m : Mat) (g : Nat → Int) (i : Nat) : ExtRat :=
  if g i > 0 then m (2 * i + 1) (2 * i) else m (2 * i) (2 * i + 1)

theorem oterm_le {up : Rat → ExtRat} {y : Nat → Rat} (hy : OBox up m w y) (hk : k < w) (hg : g k ≠ 0) {A : Rat}
    (hA : halfUp up (duaOf m g k) = fin A) : (g k : Rat) * y k ≤ ((absI (g k) : Int) : Rat) * A := by
  unfold duaOf at hA
  have hb := hy k hk
  refine coeff_mul_le hg (fun hp => ?_) fun hn => ?_
  · rw [if_pos hp] at hA; rw [hA] at hb; exact fin_le_fin.1 hb.1
  · rw [if_neg (by omega)] at hA; rw [hA] at hb; exact fin_le_fin.1 hb.2

theorem addMulUp_pinf (R : Rnd) (s : ExtRat) (c : Rat) : addMulUp R s (fin c) pinf = pinf := by
  cases s <;> rfl

theorem fin_le_addMulUp' (hR : R.Sound) {s' t c : Rat} {sum h : ExtRat} (hs : fin s' ≤ sum)
    (ht : ∀ A, h = fin A → t ≤ c * A) : fin (s' + t) ≤ addMulUp R sum (fin c) h := by
  cases h with
  | pinf => rw [addMulUp_pinf]; exact le_pinf _
  | fin A => exact fin_le_addMulUp hR hs (ht A rfl)

theorem OAccInv.addMul (hR : R.Sound) (h : OAccInv R.up m w g B k st) (hk : k < w) (hg : g k ≠ 0)
    (hcoef : R.up ((absI (g k) : Int) : Rat) = fin ((absI (g k) : Int) : Rat))
    (hA : duaOf m g k ≠ pinf) :
    OAccInv R.up m w g B (k+1)
      { st with sum := addMulUp R st.sum (R.up ((absI (g k) : Int) : Rat)) (halfUp R.up (duaOf m g k)) } := by
  rw [hcoef]
  refine ⟨fun hc y hy => ?_, fun hc i hi hp => ?_, fun hc i hi hp => ?_, fun hc => ?_, fun hc => h.n1 hc⟩
  · simp only [linEval]
    rw [← add_assoc]
    exact fin_le_addMulUp' hR (h.c0 hc y hy) (fun A hA' => oterm_le hy hk hg hA')
  · by_cases hik : i = k
    · subst hik
      unfold duaOf at hA; rw [if_pos hp] at hA; exact hA
    · exact h.f0p hc i (by omega) hp
  · by_cases hik : i = k
    · subst hik
      unfold duaOf at hA; rw [if_neg (by omega)] at hA; exact hA
    · exact h.f0n hc i (by omega) hp
  · obtain ⟨h2, h3⟩ := h.c1 hc
    dsimp only
    refine ⟨by omega, fun y hy => ?_⟩
    have hz : zeroAt g st.idx k = g k := by
      unfold zeroAt; rw [if_neg (by omega)]
    simp only [linEval, hz]
    rw [← add_assoc]
    exact fin_le_addMulUp' hR (h3 y hy) (fun A hA' => oterm_le hy hk hg hA')

set_option linter.unusedVariables false in
theorem OAccInv.pinf {up : Rat → ExtRat} (h : OAccInv up m w g B k st) (hk : k < w) (hg : g k ≠ 0) :
    OAccInv up m w g B (k+1) { st with cnt := st.cnt + 1, idx := k } := by
  refine ⟨fun hc => by simp at hc, fun hc => by simp at hc, fun hc => by simp at hc, fun hc => ?_, fun hc => hg⟩
  have hc0 : st.cnt = 0 := by simpa using hc
  dsimp only
  refine ⟨by omega, fun y hy => ?_⟩
  simp only [linEval]
  have : zeroAt g k k = 0 := by simp [zeroAt]
  rw [this, linEval_congr y (e := zeroAt g k) (e' := g) (fun i hi => by simp [zeroAt]; intro e; omega)]
  simpa using h.c0 hc0 y hy

theorem octAccStep_inv (hR : R.Sound) (hcoef : CoeffExact R g) (h : OAccInv R.up m w g B k st) (hk : k < w) :
    OAccInv R.up m w g B (k+1) (octAccStep R m g true k st) := by
  unfold octAccStep
  dsimp only
  split
  · rename_i h0; exact h.skip h0
  · rename_i h0
    split
    · have happ : (if decide (g k > 0) = true then m (2 * k + 1) (2 * k) else m (2 * k) (2 * k + 1))
          = duaOf m g k := by
        unfold duaOf; by_cases hp : g k > 0 <;> simp [hp]
      rw [happ]
      cases hA : duaOf m g k with
      | pinf =>
        simp only [isPinf, Bool.not_true, Bool.false_eq_true, if_false]
        exact h.pinf hk h0
      | fin A =>
        simp only [isPinf, Bool.not_false, if_true]
        have := h.addMul hR hk h0 (hcoef k h0) (by rw [hA]; simp)
        rw [hA] at this
        exact this
    · rename_i hc; exact OAccInv.dead (by omega)

theorem octAccLoop_inv (hR : R.Sound) (hcoef : CoeffExact R g) (st0 : Acc) (h0 : OAccInv R.up m w g B 0 st0) :
    ∀ k, k ≤ w → OAccInv R.up m w g B k (loopUp k (octAccStep R m g true) st0) := by
  intro k
  induction k with
  | zero => intro _; exact h0
  | succ k ih => intro hk; simp only [loopUp]; exact octAccStep_inv hR hcoef (ih (by omega)) (by omega)

theorem octAccStep_false (R : Rnd) (m : Mat) (sc : Nat → Int) :
    octAccStep R m sc false = octAccStep R m (fun j => - sc j) true := by
  funext i st
  unfold octAccStep
  dsimp only
  by_cases h : sc i = 0
  · simp [h]
  · simp only [h, Int.neg_eq_zero, absI_neg, decide_pos_false_eq h, if_false]

/-! ## the deduction helpers called with `ub_v = +∞` -/

/-- halving a finite unary cell of `m` does not overflow (`div_2exp_assign_r(·, ·, 1, ROUND_UP)` of a value of
`T` is a value of `T`: true of every bound type; for an abstract `up` it has to be said) -/
def HalfFiniteOn (up : Rat → ExtRat) (m : Mat) : Prop :=
  ∀ u q, (m (2 * u + 1) (2 * u) = fin q ∨ m (2 * u) (2 * u + 1) = fin q) → up (q / 2) ≠ pinf

theorem subUp_pinf_half {up : Rat → ExtRat} {a : ExtRat} (hh : ∀ q, a = fin q → up (q / 2) ≠ pinf)
    (ha : a ≠ pinf) : subUp up pinf (halfUp up a) = pinf := by
  cases a with
  | pinf => exact absurd rfl ha
  | fin q =>
    simp only [halfUp]
    cases hq : up (q / 2) with
    | pinf => exact absurd hq (hh q rfl)
    | fin z => rfl

/-- with `ub_v = +∞` every stored value is `+∞`, in one of two cells that are not unary -/
theorem OInv.ite_set_pinf {n : Nat} {x' : Nat → Rat} {m m' : Mat} (hI : OInv n x' m m') {c : Prop} [Decidable c]
    {a1 b1 a2 b2 : Nat} (h1 : ∀ w, ¬ (a1 = 2 * w ∧ b1 = 2 * w + 1) ∧ ¬ (a1 = 2 * w + 1 ∧ b1 = 2 * w))
    (h2 : ∀ w, ¬ (a2 = 2 * w ∧ b2 = 2 * w + 1) ∧ ¬ (a2 = 2 * w + 1 ∧ b2 = 2 * w)) :
    OInv n x' m (if c then m'.set a1 b1 pinf else m'.set a2 b2 pinf) :=
  iteInduction (fun _ => hI.set h1 (le_pinf _)) fun _ => hI.set h2 (le_pinf _)

section
variable {up : Rat → ExtRat} {n : Nat} {vid last : Nat} {e : Nat → Int} {d : Int} {x' : Nat → Rat}

theorem deduceVPmU_pinf_holds
    (hh : ∀ u, u ≠ vid → ∀ q, (m (2 * u + 1) (2 * u) = fin q ∨ m (2 * u) (2 * u + 1) = fin q) → up (q / 2) ≠ pinf)
    (hx' : Holds (SO n) (OctM.oval x') m)
    (hp : ∀ u, u < last + 1 → u ≠ vid → e u > 0 → m (2 * u + 1) (2 * u) ≠ pinf)
    (hn : ∀ u, u < last + 1 → u ≠ vid → e u < 0 → m (2 * u) (2 * u + 1) ≠ pinf) :
    Holds (SO n) (OctM.oval x') (deduceVPmU up vid last e d pinf m) := by
  suffices h : OInv n x' m (deduceVPmU up vid last e d pinf m) from h.1
  unfold deduceVPmU
  refine loopUp_rel (fun a b => OInv n x' m a → OInv n x' m b) (fun _ h => h)
    (fun _ _ _ h1 h2 h => h2 (h1 h)) (last + 1) _ ?_ m ⟨hx', fun _ => ⟨rfl, rfl⟩⟩
  intro u hu m' hI
  unfold deduceVPmUStep
  simp only [Nat.mul_comm u 2]
  refine iteInduction (fun _ => hI) fun h0 => iteInduction (fun _ => hI) fun huv => ?_
  rw [(hI.2 u).1, (hI.2 u).2]
  refine iteInduction (fun hpos => iteInduction (fun _ => ?_) fun _ => ?_)
    fun hnpos => iteInduction (fun _ => ?_) fun _ => ?_
  · rw [subUp_pinf_half (fun q hq => hh u huv q (Or.inl hq)) (hp u hu huv hpos)]
    exact hI.ite_set_pinf (by intro w; omega) (by intro w; omega)
  · split
    · exact hI
    · rw [addUp_pinf_left]
      exact hI.ite_set_pinf (by intro w; omega) (by intro w; omega)
  · rw [subUp_pinf_half (fun q hq => hh u huv q (Or.inr hq)) (hn u hu huv (by omega))]
    exact hI.ite_set_pinf (by intro w; omega) (by intro w; omega)
  · split
    · exact hI
    · rw [addUp_pinf_left]
      exact hI.ite_set_pinf (by intro w; omega) (by intro w; omega)

theorem deduceMinusVPmU_pinf_holds
    (hh : ∀ u, u ≠ vid → ∀ q, (m (2 * u + 1) (2 * u) = fin q ∨ m (2 * u) (2 * u + 1) = fin q) → up (q / 2) ≠ pinf)
    (hx' : Holds (SO n) (OctM.oval x') m)
    (hp : ∀ u, u < last + 1 → u ≠ vid → e u > 0 → m (2 * u) (2 * u + 1) ≠ pinf)
    (hn : ∀ u, u < last + 1 → u ≠ vid → e u < 0 → m (2 * u + 1) (2 * u) ≠ pinf) :
    Holds (SO n) (OctM.oval x') (deduceMinusVPmU up vid last e d pinf m) := by
  suffices h : OInv n x' m (deduceMinusVPmU up vid last e d pinf m) from h.1
  unfold deduceMinusVPmU
  refine loopUp_rel (fun a b => OInv n x' m a → OInv n x' m b) (fun _ h => h)
    (fun _ _ _ h1 h2 h => h2 (h1 h)) (last + 1) _ ?_ m ⟨hx', fun _ => ⟨rfl, rfl⟩⟩
  intro u hu m' hI
  unfold deduceMinusVPmUStep
  simp only [Nat.mul_comm u 2]
  refine iteInduction (fun _ => hI) fun h0 => iteInduction (fun _ => hI) fun huv => ?_
  rw [(hI.2 u).1, (hI.2 u).2]
  refine iteInduction (fun hpos => iteInduction (fun _ => ?_) fun _ => ?_)
    fun hnpos => iteInduction (fun _ => ?_) fun _ => ?_
  · rw [subUp_pinf_half (fun q hq => hh u huv q (Or.inr hq)) (hp u hu huv hpos)]
    exact hI.ite_set_pinf (by intro w; omega) (by intro w; omega)
  · split
    · exact hI
    · rw [addUp_pinf_left]
      exact hI.ite_set_pinf (by intro w; omega) (by intro w; omega)
  · rw [subUp_pinf_half (fun q hq => hh u huv q (Or.inl hq)) (hn u hu huv (by omega))]
    exact hI.ite_set_pinf (by intro w; omega) (by intro w; omega)
  · split
    · exact hI
    · rw [addUp_pinf_left]
      exact hI.ite_set_pinf (by intro w; omega) (by intro w; omega)

end

end PPLV.WR

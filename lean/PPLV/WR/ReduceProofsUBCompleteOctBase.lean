import PPLV.WR.ReduceUBOctProofs
import PPLV.WR.ReduceOctProofsBase
import PPLV.WR.ReduceProofsUBCompleteEdge
/-!
# `Octagonal_Shape::upper_bound_assign_if_exact`, answer `false`: groundwork

* `octUB_false_tuple`: the answer `false` exhibits `(i, j, k, ℓ)` at which the eight strict conditions of the
  test hold, read on `octFull` of the pointwise maximum (full coherent view, zero diagonal);
* `OctM.join_isStronglyClosed`: the pointwise maximum of two strongly closed matrices is strongly closed;
* `OctM.IsStronglyClosed.closedFull`: the full view of a strongly closed matrix is `Closed (2n)`;
* `OctM.point_of_potential_below`: a potential (coherent or not) of a matrix below the full view gives,
  after the symmetrisation `P t = (q t - q (cidx t)) / 2`, a point of the octagon with `oval x = P`.

(The construction of the point of the join outside both operands — four applications of `Closed.addEdge` to the
full view of the join, for the two violated cells and their coherent twins — is in
`ReduceProofsUBCompleteOctLeaves.lean`, `…OctPairs.lean`, `…OctMain.lean`.)
-/
namespace PPLV.WR
open ExtRat (fin pinf addUp halfUp)

/-! ## the tuple -/

/-- the eight strict conditions of the test at `(i, j, k, ℓ)`, `V` the full view of the upper bound -/
structure OctUBFalseAt (x y : Mat) (i j k l : Nat) : Prop where
  c1 : ¬ (y i j ≤ x i j)
  c2 : ¬ (x k l ≤ y k l)
  c3 : ¬ (eadd (octFull (matMax x y) i l) (octFull (matMax x y) k j) ≤ eadd (x i j) (y k l))
  c4 : ¬ (eadd (octFull (matMax x y) i (cidx k)) (octFull (matMax x y) (cidx j) l) ≤ eadd (x i j) (y k l))
  c5 : ¬ (eadd (eadd (octFull (matMax x y) i l) (octFull (matMax x y) i (cidx k)))
        (octFull (matMax x y) (cidx j) j) ≤ eadd (eadd (x i j) (y k l)) (x i j))
  c6 : ¬ (eadd (eadd (octFull (matMax x y) k j) (octFull (matMax x y) (cidx j) l))
        (octFull (matMax x y) i (cidx i)) ≤ eadd (eadd (x i j) (y k l)) (x i j))
  c7 : ¬ (eadd (eadd (octFull (matMax x y) i l) (octFull (matMax x y) (cidx j) l))
        (octFull (matMax x y) k (cidx k)) ≤ eadd (eadd (x i j) (y k l)) (y k l))
  c8 : ¬ (eadd (eadd (octFull (matMax x y) k j) (octFull (matMax x y) i (cidx k)))
        (octFull (matMax x y) (cidx l) l) ≤ eadd (eadd (x i j) (y k l)) (y k l))

theorem octFull_read (ub : Mat) (a b : Nat) :
    (if a = b then fin 0 else if b < rowSize a then ub a b else ub (cidx b) (cidx a)) = octFull ub a b := rfl

theorem octFull_read_cidx (ub : Mat) (a k : Nat) :
    (if a = cidx k then fin 0 else if cidx k < rowSize a then ub a (cidx k) else ub k (cidx a)) =
      octFull ub a (cidx k) := by
  rw [← octFull_read, cidx_cidx]

theorem octFull_read_cidx' (ub : Mat) (j b : Nat) :
    (if cidx j = b then fin 0 else if b < rowSize (cidx j) then ub (cidx j) b else ub (cidx b) j) =
      octFull ub (cidx j) b := by
  rw [← octFull_read, cidx_cidx]

theorem octFull_read_unary (ub : Mat) (a : Nat) : ub a (cidx a) = octFull ub a (cidx a) :=
  raw_eq_octFull ub (cidx_lt_rowSize a) (cidx_ne a).symm

theorem octFull_read_unary' (ub : Mat) (a : Nat) : ub (cidx a) a = octFull ub (cidx a) a :=
  raw_eq_octFull ub (lt_rowSize_cidx a) (cidx_ne a)

/-- the tuple at which the loops return `false` (whatever the bits are) -/
theorem octUB_false_tuple (n : Nat) (x y : Mat) (xr yr : BMat)
    (ht : octUpperBoundIfExact upId n x y xr yr = false) :
    ∃ i j k l, i < 2 * n ∧ j < rowSize i ∧ k < 2 * n ∧ l < rowSize k ∧ OctUBFalseAt x y i j k l := by
  unfold octUpperBoundIfExact at ht
  simp only [List.all_eq_false, List.mem_reverse, List.mem_range, Bool.or_eq_true, not_or,
    Bool.not_eq_true, Bool.not_eq_false, decide_eq_true_eq,
    ExtRat.ltB, Bool.not_not, Bool.not_eq_eq_eq_not, Bool.not_true] at ht
  obtain ⟨i, hi, j, hj, ⟨_, h1⟩, k, hk, l, hl, ⟨_, h2⟩, ⟨⟨h3, h4⟩, ⟨h5, h6⟩, h7, h8⟩⟩ := ht
  rw [octFull_read, octFull_read] at h3
  rw [octFull_read_cidx, octFull_read_cidx'] at h4
  rw [octFull_read, octFull_read_cidx, octFull_read_unary'] at h5
  rw [octFull_read, octFull_read_cidx', octFull_read_unary] at h6
  rw [octFull_read, octFull_read_cidx', octFull_read_unary] at h7
  rw [octFull_read, octFull_read_cidx, octFull_read_unary'] at h8
  exact ⟨i, j, k, l, hi, hj, hk, hl, h1, h2, h3, h4, h5, h6, h7, h8⟩

/-! ## the join is strongly closed -/

theorem ExtRat.maxA_self (a : ExtRat) : ExtRat.maxA a a = a := by
  unfold ExtRat.maxA; split <;> rfl

theorem octFull_matMax (x y : Mat) (a b : Nat) :
    octFull (matMax x y) a b = ExtRat.maxA (octFull x a b) (octFull y a b) := by
  unfold octFull
  split
  · rw [ExtRat.maxA_self]
  · unfold Mat.mAt
    split <;> rfl

theorem halfUp_mono {a b : ExtRat} (h : a ≤ b) : halfUp fin a ≤ halfUp fin b := by
  cases b with
  | pinf => exact ExtRat.le_pinf _
  | fin b =>
    cases a with
    | pinf => exact (ExtRat.not_pinf_le_fin _ h).elim
    | fin a => exact ExtRat.fin_le_fin.2 (by have := ExtRat.fin_le_fin.1 h; linarith)

namespace OctM
variable {n : Nat}

theorem full_le_join_left (x y : OctM n) (a b : Nat) : octFull x.e a b ≤ octFull (join x y).e a b := by
  show _ ≤ octFull (matMax x.e y.e) a b
  rw [octFull_matMax]; exact ExtRat.le_maxA_left _ _

theorem full_le_join_right (x y : OctM n) (a b : Nat) : octFull y.e a b ≤ octFull (join x y).e a b := by
  show _ ≤ octFull (matMax x.e y.e) a b
  rw [octFull_matMax]; exact ExtRat.le_maxA_right _ _

theorem join_full_cases (x y : OctM n) (a b : Nat) :
    octFull (join x y).e a b = octFull x.e a b ∨ octFull (join x y).e a b = octFull y.e a b := by
  show octFull (matMax x.e y.e) a b = _ ∨ octFull (matMax x.e y.e) a b = _
  rw [octFull_matMax]; exact ExtRat.maxA_cases _ _

/-- the pointwise maximum of two strongly closed matrices is strongly closed -/
theorem join_isStronglyClosed {x y : OctM n} (hx : x.IsStronglyClosed) (hy : y.IsStronglyClosed) :
    (join x y).IsStronglyClosed := by
  constructor
  · intro i j k hi hj hk
    rcases join_full_cases x y i j with e | e <;> rw [e]
    · exact ExtRat.le_trans' (hx.tri i j k hi hj hk)
        (eadd_mono (full_le_join_left x y i k) (full_le_join_left x y k j))
    · exact ExtRat.le_trans' (hy.tri i j k hi hj hk)
        (eadd_mono (full_le_join_right x y i k) (full_le_join_right x y k j))
  · intro i j hi hj hij
    rcases join_full_cases x y i j with e | e <;> rw [e]
    · exact ExtRat.le_trans' (hx.coh i j hi hj hij)
        (halfUp_mono (eadd_mono (full_le_join_left x y _ _) (full_le_join_left x y _ _)))
    · exact ExtRat.le_trans' (hy.coh i j hi hj hij)
        (halfUp_mono (eadd_mono (full_le_join_right x y _ _) (full_le_join_right x y _ _)))

/-- strong coherence, diagonal included -/
theorem IsStronglyClosed.coh' {c : OctM n} (hc : c.IsStronglyClosed) {i j : Nat} (hi : i < 2 * n)
    (hj : j < 2 * n) : octFull c.e i j ≤ halfUp fin (eadd (octFull c.e i (cidx i)) (octFull c.e (cidx j) j)) := by
  by_cases hij : i = j
  · subst hij
    have := hc.tri i i (cidx i) hi hi (cidx_lt hi)
    rw [octFull_self] at this ⊢
    cases h1 : octFull c.e i (cidx i) <;> cases h2 : octFull c.e (cidx i) i <;> rw [h1, h2] at this <;>
      simp_all [eadd, addUp, halfUp]
    linarith
  · exact hc.coh i j hi hj hij

/-- symmetrisation: a potential of a matrix below the full view, made coherent, is a point of the octagon -/
theorem point_of_potential_below (c : OctM n) {d : Mat} (hd : ∀ u v, d u v ≤ octFull c.e u v)
    {q : Nat → Rat} (hq : Holds (SB (2 * n)) q d) :
    ∃ x : Nat → Rat, c.Sat x ∧ ∀ t, oval x t = (q t - q (cidx t)) / 2 := by
  have hv : ∀ t, oval (fun h => (q (2 * h) - q (cidx (2 * h))) / 2) t = (q t - q (cidx t)) / 2 := by
    intro t
    unfold oval
    split
    · rename_i ht
      have : 2 * (t / 2) = t := by omega
      show (q (2 * (t / 2)) - q (cidx (2 * (t / 2)))) / 2 = _
      rw [this]
    · rename_i ht
      have e : 2 * (t / 2) = cidx t := by
        have := cidx_spec t; omega
      show -((q (2 * (t / 2)) - q (cidx (2 * (t / 2)))) / 2) = _
      rw [e, cidx_cidx]; ring
  refine ⟨fun h => (q (2 * h) - q (cidx (2 * h))) / 2, ?_, hv⟩
  intro i j hi hj
  rw [hv, hv]
  by_cases hij : i = j
  · rw [hij, c.diag j (by omega)]; exact ExtRat.le_pinf _
  · have hjn : j < 2 * n := lt_of_lt_of_le hj (rowSize_le hi)
    rw [raw_eq_octFull c.e hj hij]
    have h1 := ExtRat.le_trans' (hq i j ⟨hi, hjn⟩) (hd i j)
    have h2 := ExtRat.le_trans' (hq (cidx j) (cidx i) ⟨cidx_lt hjn, cidx_lt hi⟩) (hd (cidx j) (cidx i))
    rw [← octFull_coh c.e i j] at h2
    cases hw : octFull c.e i j with
    | pinf => exact ExtRat.le_pinf _
    | fin w =>
      rw [hw, ExtRat.fin_le_fin] at h1 h2
      rw [ExtRat.fin_le_fin]
      linarith

end OctM
end PPLV.WR

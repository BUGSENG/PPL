import PPLV.WR.BoxTransProofsBase
import Mathlib.Tactic.Linarith
import Mathlib.Tactic.Ring
import Mathlib.Tactic.LinearCombination
/-!
# `Box<ITV>`: linear expressions and constraints of the box model

Values of `LinExpr` on a point, the list `terms` that the `const_iterator` visits, the builders
(`add`, `sub`, `neg`, `scale`, `const`, `var`), and the constraint constructor `mkCon` with its
`strong_normalize()`: gcd division and sign normalisation keep the solution set.  At the end, the
forms in which the transformers call `refine_with_constraint` (`RefineSound.le_div`, `RefineSound.*_scaled`).
-/
namespace PPLV.WR.BoxT
open PPLV.Interval
open PPLV.Interval.ExtRat (ninf fin pinf)

/-- `Σ a_i * x_i` over a list of terms -/
def termSum (ts : List (Nat × Int)) (x : Nat → Rat) : Rat := (ts.map fun t => (t.2 : Rat) * x t.1).sum

@[simp] theorem termSum_nil (x : Nat → Rat) : termSum [] x = 0 := rfl
@[simp] theorem termSum_cons (t : Nat × Int) (ts : List (Nat × Int)) (x : Nat → Rat) :
    termSum (t :: ts) x = (t.2 : Rat) * x t.1 + termSum ts x := by simp [termSum]

namespace LinExpr

theorem dot_eq_termSum (i : Nat) (as : List Int) (x : Nat → Rat) :
    dot i as x = termSum (termsFrom i as) x := by
  induction as generalizing i with
  | nil => simp [dot, termsFrom]
  | cons a as ih =>
    simp only [dot, termsFrom]
    by_cases h : a = 0
    · subst h; simp [ih]
    · have h' : (a == 0) = false := by simpa using h
      simp [h', ih]

theorem mem_termsFrom_iff {i j : Nat} {a : Int} {as : List Int} :
    (j, a) ∈ termsFrom i as ↔ a ≠ 0 ∧ ∃ k, j = i + k ∧ as[k]? = some a := by
  induction as generalizing i with
  | nil => simp [termsFrom]
  | cons b bs ih =>
    -- the head contributes `(i, b)` when `b ≠ 0`, the tail is visited from `i + 1`
    have hcons : (j, a) ∈ termsFrom i (b :: bs) ↔ ((j, a) = (i, b) ∧ b ≠ 0) ∨ (j, a) ∈ termsFrom (i + 1) bs := by
      rw [termsFrom]; by_cases hb : b = 0 <;> simp [hb]
    rw [hcons, ih]
    constructor
    · rintro (⟨h, hb⟩ | ⟨ha, k, hk, hk2⟩)
      · cases h; exact ⟨hb, 0, rfl, rfl⟩
      · exact ⟨ha, k + 1, by omega, by simpa using hk2⟩
    · rintro ⟨ha, k, hk, hk2⟩
      cases k with
      | zero =>
        obtain rfl : b = a := by simpa using hk2
        exact Or.inl ⟨by rw [hk]; rfl, ha⟩
      | succ k => exact Or.inr ⟨ha, k, by omega, by simpa using hk2⟩

theorem termsFrom_pairwise (i : Nat) (as : List Int) :
    (termsFrom i as).Pairwise (fun s t => s.1 < t.1) := by
  induction as generalizing i with
  | nil => simp [termsFrom]
  | cons b bs ih =>
    simp only [termsFrom]
    split
    · exact ih (i + 1)
    · refine List.Pairwise.cons ?_ (ih (i + 1))
      rintro ⟨j, a⟩ hm
      obtain ⟨_, k, hk, _⟩ := mem_termsFrom_iff.1 hm
      show i < j
      omega

theorem getD_ne_zero {as : List Int} {k : Nat} {a : Int} (ha : a ≠ 0) :
    as[k]? = some a ↔ as.getD k 0 = a := by
  constructor
  · intro h; simp [List.getD, h]
  · intro h
    cases h2 : as[k]? with
    | none => simp [List.getD, h2] at h; exact absurd h.symm ha
    | some c => simp [List.getD, h2] at h; simp [h]

theorem mem_terms_iff {e : LinExpr} {i : Nat} {a : Int} : (i, a) ∈ e.terms ↔ a ≠ 0 ∧ e.coeff i = a := by
  unfold terms coeff
  rw [mem_termsFrom_iff]
  constructor
  · rintro ⟨ha, k, hk, hk2⟩
    have : i = k := by omega
    subst this
    exact ⟨ha, (getD_ne_zero ha).1 hk2⟩
  · rintro ⟨ha, h⟩
    exact ⟨ha, i, by omega, (getD_ne_zero ha).2 h⟩

theorem coeff_eq_zero_of_length_le {e : LinExpr} {i : Nat} (h : e.coeffs.length ≤ i) : e.coeff i = 0 := by
  simp [coeff, List.getD, List.getElem?_eq_none h]

theorem lt_length_of_coeff_ne_zero {e : LinExpr} {i : Nat} (h : e.coeff i ≠ 0) : i < e.coeffs.length := by
  by_contra hc
  exact h (coeff_eq_zero_of_length_le (by omega))

theorem mem_terms {e : LinExpr} {i : Nat} {a : Int} (h : (i, a) ∈ e.terms) :
    a ≠ 0 ∧ e.coeff i = a ∧ i < e.coeffs.length := by
  obtain ⟨ha, hc⟩ := mem_terms_iff.1 h
  exact ⟨ha, hc, lt_length_of_coeff_ne_zero (by rw [hc]; exact ha)⟩

theorem mem_terms_lt {e : LinExpr} {n i : Nat} {a : Int} (hwf : e.WF n) (h : (i, a) ∈ e.terms) : i < n :=
  Nat.lt_of_lt_of_le (mem_terms h).2.2 hwf

theorem mem_terms_of_coeff_ne_zero {e : LinExpr} {i : Nat} (h : e.coeff i ≠ 0) : (i, e.coeff i) ∈ e.terms :=
  mem_terms_iff.2 ⟨h, rfl⟩

theorem terms_pairwise (e : LinExpr) : e.terms.Pairwise (fun s t => s.1 < t.1) :=
  termsFrom_pairwise 0 e.coeffs

theorem coeff_eq_zero_of_not_mem_terms {e : LinExpr} {i : Nat} (h : ∀ a, (i, a) ∉ e.terms) : e.coeff i = 0 := by
  by_contra hc
  exact h _ (mem_terms_of_coeff_ne_zero hc)

theorem not_mem_terms_of_coeff_eq_zero {e : LinExpr} {i : Nat} (h : e.coeff i = 0) (a : Int) : (i, a) ∉ e.terms := by
  intro hm
  obtain ⟨ha, hc⟩ := mem_terms_iff.1 hm
  exact ha (by rw [← hc, h])

theorem terms_eq_nil_iff {e : LinExpr} : e.terms = [] ↔ ∀ i, e.coeff i = 0 := by
  constructor
  · intro h i
    apply coeff_eq_zero_of_not_mem_terms
    intro a; rw [h]; simp
  · intro h
    rw [List.eq_nil_iff_forall_not_mem]
    rintro ⟨i, a⟩ hm
    exact not_mem_terms_of_coeff_eq_zero (h i) a hm

theorem eval_eq_terms (e : LinExpr) (x : Nat → Rat) : e.eval x = termSum e.terms x + (e.inhom : Rat) := by
  unfold eval terms; rw [dot_eq_termSum]

theorem terms_singleton {e : LinExpr} {v : Nat} {a : Int} (h : e.terms = [(v, a)]) (x : Nat → Rat) :
    e.eval x = (a : Rat) * x v + e.inhom := by
  rw [eval_eq_terms, h]; simp

theorem dot_zip (f : Int → Int → Int) (α β : Rat)
    (hf : ∀ a b : Int, ((f a b : Int) : Rat) = α * a + β * b) (i : Nat) (as bs : List Int) (x : Nat → Rat) :
    dot i (zipCoeffs f as bs) x = α * dot i as x + β * dot i bs x := by
  induction as generalizing i bs with
  | nil =>
    induction bs generalizing i with
    | nil => simp [zipCoeffs, dot]
    | cons b bs ihb =>
      simp only [zipCoeffs] at ihb
      simp only [zipCoeffs, List.map_cons, dot, ihb, hf]
      simp; ring
  | cons a as ih =>
    cases bs with
    | nil =>
      simp only [zipCoeffs, dot, ih, hf]
      simp; ring
    | cons b bs =>
      simp only [zipCoeffs, dot, ih, hf]
      ring

theorem getD_map0 (g : Int → Int) (hg : g 0 = 0) (as : List Int) (i : Nat) :
    (as.map g).getD i 0 = g (as.getD i 0) := by
  simp only [List.getD, List.getElem?_map]
  cases as[i]? <;> simp [hg]

theorem getD_zip (f : Int → Int → Int) (hf : f 0 0 = 0) (as bs : List Int) (k : Nat) :
    (zipCoeffs f as bs).getD k 0 = f (as.getD k 0) (bs.getD k 0) := by
  induction as generalizing bs k with
  | nil => rw [zipCoeffs, getD_map0 (f 0) hf, List.getD_nil]
  | cons a as ih =>
    cases bs <;> cases k <;>
      simp only [zipCoeffs, List.getD_cons_zero, List.getD_cons_succ, List.getD_nil, ih]

theorem length_zip (f : Int → Int → Int) (as bs : List Int) :
    (zipCoeffs f as bs).length = max as.length bs.length := by
  induction as generalizing bs with
  | nil => simp only [zipCoeffs, List.length_map, List.length_nil, Nat.zero_max]
  | cons a as ih => cases bs <;> simp only [zipCoeffs, List.length_cons, List.length_nil, ih] <;> omega

theorem dot_map (c : Int) (i : Nat) (as : List Int) (x : Nat → Rat) :
    dot i (as.map fun a => c * a) x = (c : Rat) * dot i as x := by
  induction as generalizing i with
  | nil => simp [dot]
  | cons a as ih => simp only [List.map, dot, ih]; push_cast; ring

theorem dot_map_neg (i : Nat) (as : List Int) (x : Nat → Rat) :
    dot i (as.map fun a => -a) x = - dot i as x := by
  induction as generalizing i with
  | nil => simp [dot]
  | cons a as ih => simp only [List.map, dot, ih]; push_cast; ring

@[simp] theorem eval_add (e f : LinExpr) (x : Nat → Rat) : (e.add f).eval x = e.eval x + f.eval x := by
  simp only [eval, add]
  rw [dot_zip (· + ·) 1 1 (by intro a b; push_cast; ring)]
  push_cast; ring

@[simp] theorem eval_sub (e f : LinExpr) (x : Nat → Rat) : (e.sub f).eval x = e.eval x - f.eval x := by
  simp only [eval, sub]
  rw [dot_zip (· - ·) 1 (-1) (by intro a b; push_cast; ring)]
  push_cast; ring

@[simp] theorem eval_neg (e : LinExpr) (x : Nat → Rat) : e.neg.eval x = - e.eval x := by
  simp only [eval, neg, dot_map_neg]; push_cast; ring

@[simp] theorem eval_scale (k : Int) (e : LinExpr) (x : Nat → Rat) : (e.scale k).eval x = (k : Rat) * e.eval x := by
  simp only [eval, scale, dot_map]; push_cast; ring

@[simp] theorem eval_const (n : Int) (x : Nat → Rat) : (LinExpr.const n).eval x = (n : Rat) := by
  simp [eval, LinExpr.const, dot]

theorem dot_var (i v : Nat) (k : Int) (x : Nat → Rat) :
    dot i (List.replicate v 0 ++ [k]) x = (k : Rat) * x (i + v) := by
  induction v generalizing i with
  | zero => simp [dot]
  | succ v ih =>
    simp only [List.replicate_succ, List.cons_append, dot, ih]
    have : i + 1 + v = i + (v + 1) := by omega
    rw [this]; simp

@[simp] theorem eval_var (k : Int) (v : Nat) (x : Nat → Rat) : (LinExpr.var k v).eval x = (k : Rat) * x v := by
  simp [eval, LinExpr.var, dot_var]

@[simp] theorem coeff_add (e f : LinExpr) (i : Nat) : (e.add f).coeff i = e.coeff i + f.coeff i := by
  simp only [coeff, add]; exact getD_zip (· + ·) (by simp) _ _ _

@[simp] theorem coeff_sub (e f : LinExpr) (i : Nat) : (e.sub f).coeff i = e.coeff i - f.coeff i := by
  simp only [coeff, sub]; exact getD_zip (· - ·) (by simp) _ _ _

@[simp] theorem coeff_neg (e : LinExpr) (i : Nat) : e.neg.coeff i = - e.coeff i := by
  simp only [coeff, neg]; exact getD_map0 (fun a => -a) (by simp) _ _

@[simp] theorem coeff_scale (k : Int) (e : LinExpr) (i : Nat) : (e.scale k).coeff i = k * e.coeff i := by
  simp only [coeff, scale]; exact getD_map0 (fun a => k * a) (by simp) _ _

@[simp] theorem coeff_const (n : Int) (i : Nat) : (LinExpr.const n).coeff i = 0 := by
  simp [coeff, LinExpr.const]

theorem getD_var (v : Nat) (k : Int) (i : Nat) :
    (List.replicate v (0 : Int) ++ [k]).getD i 0 = if i = v then k else 0 := by
  induction v generalizing i with
  | zero => cases i <;> simp
  | succ v ih =>
    cases i with
    | zero => simp [List.replicate_succ]
    | succ i => rw [List.replicate_succ, List.cons_append, List.getD_cons_succ, ih]; simp only [Nat.succ_inj]

theorem coeff_var (k : Int) (v i : Nat) : (LinExpr.var k v).coeff i = if i = v then k else 0 := by
  simp only [coeff, LinExpr.var]; exact getD_var v k i

@[simp] theorem coeff_var_same (k : Int) (v : Nat) : (LinExpr.var k v).coeff v = k := by simp [coeff_var]

theorem coeff_var_other (k : Int) {v i : Nat} (h : i ≠ v) : (LinExpr.var k v).coeff i = 0 := by simp [coeff_var, h]

theorem dot_congr (i : Nat) (as : List Int) (x y : Nat → Rat)
    (h : ∀ k, as.getD k 0 ≠ 0 → y (i + k) = x (i + k)) : dot i as y = dot i as x := by
  induction as generalizing i with
  | nil => simp [dot]
  | cons a as ih =>
    simp only [dot]
    have h1 : dot (i + 1) as y = dot (i + 1) as x := by
      apply ih
      intro k hk
      have := h (k + 1) (by simpa using hk)
      have e : i + 1 + k = i + (k + 1) := by omega
      rw [e]; exact this
    rw [h1]
    by_cases ha : a = 0
    · subst ha; simp
    · have := h 0 (by simpa using ha)
      simp at this; rw [this]

theorem eval_congr {e : LinExpr} {x y : Nat → Rat} (h : ∀ k, e.coeff k ≠ 0 → y k = x k) : e.eval y = e.eval x := by
  unfold eval
  rw [dot_congr 0 e.coeffs x y (by intro k hk; simpa using h k hk)]

theorem dot_upd (i : Nat) (as : List Int) (x : Nat → Rat) (v : Nat) (y : Rat) :
    dot i as (upd x v y) = dot i as x + ((if i ≤ v then as.getD (v - i) 0 else 0 : Int) : Rat) * (y - x v) := by
  induction as generalizing i with
  | nil => simp [dot]
  | cons a as ih =>
    simp only [dot, ih]
    rcases Nat.lt_trichotomy i v with h | h | h
    · have h1 : i + 1 ≤ v := h
      have h2 : i ≤ v := by omega
      have h3 : v - i = (v - (i + 1)) + 1 := by omega
      rw [if_pos h1, if_pos h2, h3, upd_other x y (by omega), List.getD_cons_succ]
      ring
    · subst h
      simp only [upd_same, Nat.sub_self, List.getD_cons_zero, le_refl, if_true, Nat.not_succ_le_self, if_false,
        Int.cast_zero, zero_mul, add_zero]
      ring
    · have h1 : ¬ i + 1 ≤ v := by omega
      have h2 : ¬ i ≤ v := by omega
      rw [if_neg h1, if_neg h2, upd_other x y (by omega)]
      ring

theorem eval_upd (e : LinExpr) (x : Nat → Rat) (v : Nat) (y : Rat) :
    e.eval (upd x v y) = e.eval x + (e.coeff v : Rat) * (y - x v) := by
  unfold eval coeff
  rw [dot_upd]; simp; ring

theorem eval_upd_of_coeff_zero {e : LinExpr} {x : Nat → Rat} {v : Nat} {y : Rat} (h : e.coeff v = 0) :
    e.eval (upd x v y) = e.eval x := by
  rw [eval_upd, h]; simp

theorem WF.add {e f : LinExpr} {n : Nat} (he : e.WF n) (hf : f.WF n) : (e.add f).WF n := by
  unfold WF at *; simp only [LinExpr.add, length_zip]; omega

theorem WF.sub {e f : LinExpr} {n : Nat} (he : e.WF n) (hf : f.WF n) : (e.sub f).WF n := by
  unfold WF at *; simp only [LinExpr.sub, length_zip]; omega

theorem WF.neg {e : LinExpr} {n : Nat} (he : e.WF n) : e.neg.WF n := by
  unfold WF at *; simpa [LinExpr.neg] using he

theorem WF.scale {e : LinExpr} {n : Nat} (k : Int) (he : e.WF n) : (e.scale k).WF n := by
  unfold WF at *; simpa [LinExpr.scale] using he

theorem WF.const (k : Int) (n : Nat) : (LinExpr.const k).WF n := by
  simp [WF, LinExpr.const]

theorem WF.var (k : Int) {v n : Nat} (h : v < n) : (LinExpr.var k v).WF n := by
  simp [WF, LinExpr.var]; omega

theorem WF.mono {e : LinExpr} {n m : Nat} (he : e.WF n) (h : n ≤ m) : e.WF m := Nat.le_trans he h

end LinExpr

theorem foldl_gcd_dvd (l : List Int) (g0 : Nat) :
    (l.foldl (fun g a => Nat.gcd g a.natAbs) g0 ∣ g0) ∧
    ∀ a ∈ l, ((l.foldl (fun g a => Nat.gcd g a.natAbs) g0 : Nat) : Int) ∣ a := by
  induction l generalizing g0 with
  | nil => simp
  | cons b bs ih =>
    obtain ⟨h1, h2⟩ := ih (Nat.gcd g0 b.natAbs)
    simp only [List.foldl_cons]
    refine ⟨Nat.dvd_trans h1 (Nat.gcd_dvd_left _ _), ?_⟩
    intro a ha
    rcases List.mem_cons.1 ha with rfl | ha
    · exact Int.natCast_dvd.2 (Nat.dvd_trans h1 (Nat.gcd_dvd_right _ _))
    · exact h2 a ha

theorem gcdList_dvd {l : List Int} {a : Int} (h : a ∈ l) : ((gcdList l : Nat) : Int) ∣ a :=
  (foldl_gcd_dvd l 0).2 a h

/-- the division by the gcd of `strong_normalize()` -/
def gcdNorm (e : LinExpr) : LinExpr :=
  let g := gcdList (e.inhom :: e.coeffs)
  if g > 1 then ⟨e.coeffs.map (fun a => a / (g : Int)), e.inhom / (g : Int)⟩ else e

theorem dot_map_div (g : Int) (i : Nat) (as : List Int) (h : ∀ a ∈ as, g ∣ a) (x : Nat → Rat) :
    LinExpr.dot i (as.map fun a => a / g) x * (g : Rat) = LinExpr.dot i as x := by
  induction as generalizing i with
  | nil => simp [LinExpr.dot]
  | cons a as ih =>
    have h1 : ((a / g : Int) : Rat) * (g : Rat) = (a : Rat) := by
      exact_mod_cast Int.ediv_mul_cancel (h a (by simp))
    have h2 := ih (i + 1) (fun a ha => h a (by simp [ha]))
    simp only [List.map, LinExpr.dot]
    linear_combination (x i) * h1 + h2

theorem gcdNorm_eval (e : LinExpr) (x : Nat → Rat) :
    ∃ c : Rat, 0 < c ∧ e.eval x = (gcdNorm e).eval x * c := by
  unfold gcdNorm
  simp only []
  split
  · rename_i hg
    refine ⟨((gcdList (e.inhom :: e.coeffs) : Nat) : Rat), by exact_mod_cast (by omega : 0 < gcdList (e.inhom :: e.coeffs)), ?_⟩
    have h1 := dot_map_div ((gcdList (e.inhom :: e.coeffs) : Nat) : Int) 0 e.coeffs
      (fun a ha => gcdList_dvd (by simp [ha])) x
    have h2 : ((e.inhom / ((gcdList (e.inhom :: e.coeffs) : Nat) : Int) : Int) : Rat)
        * (((gcdList (e.inhom :: e.coeffs) : Nat) : Int) : Rat) = (e.inhom : Rat) := by
      exact_mod_cast Int.ediv_mul_cancel (gcdList_dvd (a := e.inhom) (by simp))
    simp only [LinExpr.eval]
    push_cast at h1 h2 ⊢
    linear_combination (-1 : Rat) * h1 - h2
  · exact ⟨1, by norm_num, by simp⟩

theorem gcdNorm_WF {e : LinExpr} {n : Nat} (h : e.WF n) : (gcdNorm e).WF n := by
  unfold gcdNorm LinExpr.WF at *
  simp only []
  split
  · simpa using h
  · exact h

theorem mkCon_ty (e : LinExpr) (ty : CType) : (mkCon e ty).ty = ty := rfl

theorem mkCon_e_cases (e : LinExpr) (ty : CType) :
    (mkCon e ty).e = gcdNorm e ∨ (ty = .eq ∧ (mkCon e ty).e = (gcdNorm e).neg) := by
  have h : (mkCon e ty).e =
      if ty == .eq then
        match (gcdNorm e).terms with
        | (_, a) :: _ => if a < 0 then (gcdNorm e).neg else gcdNorm e
        | [] => gcdNorm e
      else gcdNorm e := rfl
  rw [h]
  by_cases ht : ty = .eq
  · subst ht
    simp only [beq_self_eq_true, if_true]
    split
    · split
      · right; exact ⟨by trivial, rfl⟩
      · left; rfl
    · left; rfl
  · have : (ty == CType.eq) = false := by simpa using ht
    rw [this]; left; rfl

/-- gcd division and sign normalisation keep the solution set -/
theorem mkCon_holds (e : LinExpr) (ty : CType) (x : Nat → Rat) :
    (mkCon e ty).holds x ↔ (⟨e, ty⟩ : Con).holds x := by
  obtain ⟨c, hc, hev⟩ := gcdNorm_eval e x
  rcases mkCon_e_cases e ty with h | ⟨ht, h⟩
  · unfold Con.holds
    rw [mkCon_ty, h]
    simp only []
    rw [hev]
    cases ty
    · simp only []
      constructor
      · intro h0; rw [h0]; simp
      · intro h0
        rcases mul_eq_zero.1 h0 with h1 | h1
        · exact h1
        · exact absurd h1 (ne_of_gt hc)
    · simp only []
      constructor
      · intro h0; exact mul_nonneg h0 (le_of_lt hc)
      · intro h0
        by_contra hn
        have := mul_neg_of_neg_of_pos (not_le.1 hn) hc
        linarith
    · simp only []
      constructor
      · intro h0; exact mul_pos h0 hc
      · intro h0
        by_contra hn
        have := mul_nonpos_of_nonpos_of_nonneg (not_lt.1 hn) (le_of_lt hc)
        linarith
  · subst ht
    unfold Con.holds
    rw [mkCon_ty, h]
    simp only [LinExpr.eval_neg]
    rw [hev]
    constructor
    · intro h0
      have : (gcdNorm e).eval x = 0 := by linarith
      rw [this]; simp
    · intro h0
      rcases mul_eq_zero.1 h0 with h1 | h1
      · rw [h1]; simp
      · exact absurd h1 (ne_of_gt hc)

theorem mkCon_WF {e : LinExpr} {n : Nat} {ty : CType} (h : e.WF n) : (mkCon e ty).e.WF n := by
  rcases mkCon_e_cases e ty with h1 | ⟨_, h1⟩
  · rw [h1]; exact gcdNorm_WF h
  · rw [h1]; exact LinExpr.WF.neg (gcdNorm_WF h)

theorem conGe_holds (e1 e2 : LinExpr) (x : Nat → Rat) : (conGe e1 e2).holds x ↔ e2.eval x ≤ e1.eval x := by
  unfold conGe; rw [mkCon_holds]; simp only [Con.holds, LinExpr.eval_sub]
  constructor <;> intro h <;> linarith

theorem conGt_holds (e1 e2 : LinExpr) (x : Nat → Rat) : (conGt e1 e2).holds x ↔ e2.eval x < e1.eval x := by
  unfold conGt; rw [mkCon_holds]; simp only [Con.holds, LinExpr.eval_sub]
  constructor <;> intro h <;> linarith

theorem conEq_holds (e1 e2 : LinExpr) (x : Nat → Rat) : (conEq e1 e2).holds x ↔ e1.eval x = e2.eval x := by
  unfold conEq; rw [mkCon_holds]; simp only [Con.holds, LinExpr.eval_sub]
  constructor <;> intro h <;> linarith

theorem conLe_holds (e1 e2 : LinExpr) (x : Nat → Rat) : (conLe e1 e2).holds x ↔ e1.eval x ≤ e2.eval x :=
  conGe_holds e2 e1 x

theorem conLt_holds (e1 e2 : LinExpr) (x : Nat → Rat) : (conLt e1 e2).holds x ↔ e1.eval x < e2.eval x :=
  conGt_holds e2 e1 x

theorem conGe_WF {e1 e2 : LinExpr} {n : Nat} (h1 : e1.WF n) (h2 : e2.WF n) : (conGe e1 e2).e.WF n :=
  mkCon_WF (LinExpr.WF.sub h1 h2)
theorem conGt_WF {e1 e2 : LinExpr} {n : Nat} (h1 : e1.WF n) (h2 : e2.WF n) : (conGt e1 e2).e.WF n :=
  mkCon_WF (LinExpr.WF.sub h1 h2)
theorem conEq_WF {e1 e2 : LinExpr} {n : Nat} (h1 : e1.WF n) (h2 : e2.WF n) : (conEq e1 e2).e.WF n :=
  mkCon_WF (LinExpr.WF.sub h1 h2)
theorem conLe_WF {e1 e2 : LinExpr} {n : Nat} (h1 : e1.WF n) (h2 : e2.WF n) : (conLe e1 e2).e.WF n :=
  conGe_WF h2 h1
theorem conLt_WF {e1 e2 : LinExpr} {n : Nat} (h1 : e1.WF n) (h2 : e2.WF n) : (conLt e1 e2).e.WF n :=
  conGt_WF h2 h1

/-! The transformers compare a rational `q` with an expression by comparing `q.num` with `q.den` times the
expression. -/

theorem rat_num_eq (q : Rat) : (q.num : Rat) = ((q.den : Int) : Rat) * q := by
  rw [mul_comm]; exact_mod_cast (Rat.mul_den_eq_num q).symm

theorem rat_den_pos (q : Rat) : (0 : Rat) < ((q.den : Int) : Rat) := by exact_mod_cast q.den_pos

theorem rat_num_lt_iff (q E : Rat) : (q.num : Rat) < ((q.den : Int) : Rat) * E ↔ q < E := by
  rw [rat_num_eq]; exact mul_lt_mul_iff_right₀ (rat_den_pos q)

theorem rat_num_le_iff (q E : Rat) : (q.num : Rat) ≤ ((q.den : Int) : Rat) * E ↔ q ≤ E := by
  rw [rat_num_eq]; exact mul_le_mul_iff_right₀ (rat_den_pos q)

theorem rat_lt_num_iff (q E : Rat) : ((q.den : Int) : Rat) * E < (q.num : Rat) ↔ E < q := by
  rw [rat_num_eq]; exact mul_lt_mul_iff_right₀ (rat_den_pos q)

theorem rat_le_num_iff (q E : Rat) : ((q.den : Int) : Rat) * E ≤ (q.num : Rat) ↔ E ≤ q := by
  rw [rat_num_eq]; exact mul_le_mul_iff_right₀ (rat_den_pos q)

/-- `A/den ≤ B/den` as the constraint the transformers refine with: `A ≤ B` for `den > 0`, `B ≤ A` otherwise -/
theorem RefineSound.le_div {cfg : Cfg} (hRef : RefineSound cfg) {b : Box} {A B : LinExpr} {den : Int}
    {z : Nat → Rat} (hA : A.WF b.dim) (hB : B.WF b.dim) (hd : den ≠ 0) (hz : b.mem cfg.p z)
    (h : A.eval z / (den : Rat) ≤ B.eval z / (den : Rat)) :
    (if den > 0 then refineWithConstraint cfg b (conLe A B) else refineWithConstraint cfg b (conLe B A)).mem cfg.p z := by
  split
  · rename_i hp
    have hp' : (0 : Rat) < (den : Rat) := by exact_mod_cast hp
    exact hRef _ _ _ (conLe_WF hA hB) hz ((conLe_holds _ _ _).2 ((div_le_div_iff_of_pos_right hp').1 h))
  · rename_i hp
    have hn : (den : Rat) < 0 := by exact_mod_cast lt_of_le_of_ne (not_lt.1 hp) hd
    exact hRef _ _ _ (conLe_WF hB hA) hz ((conLe_holds _ _ _).2 ((div_le_div_right_of_neg hn).1 h))

section
variable {cfg : Cfg} (hRef : RefineSound cfg) {b : Box} {e : LinExpr} {q : Rat} {z : Nat → Rat}
  (hwf : e.WF b.dim) (hz : b.mem cfg.p z)
include hRef hwf hz

theorem RefineSound.lt_scaled (h : q < e.eval z) :
    (refineWithConstraint cfg b (conLt (LinExpr.const q.num) (e.scale (q.den : Int)))).mem cfg.p z :=
  hRef _ _ _ (conLt_WF (LinExpr.WF.const _ _) (LinExpr.WF.scale _ hwf)) hz ((conLt_holds _ _ _).2 (by
    rw [LinExpr.eval_const, LinExpr.eval_scale]; exact (rat_num_lt_iff q _).2 h))

theorem RefineSound.le_scaled (h : q ≤ e.eval z) :
    (refineWithConstraint cfg b (conLe (LinExpr.const q.num) (e.scale (q.den : Int)))).mem cfg.p z :=
  hRef _ _ _ (conLe_WF (LinExpr.WF.const _ _) (LinExpr.WF.scale _ hwf)) hz ((conLe_holds _ _ _).2 (by
    rw [LinExpr.eval_const, LinExpr.eval_scale]; exact (rat_num_le_iff q _).2 h))

theorem RefineSound.gt_scaled (h : e.eval z < q) :
    (refineWithConstraint cfg b (conGt (LinExpr.const q.num) (e.scale (q.den : Int)))).mem cfg.p z :=
  hRef _ _ _ (conGt_WF (LinExpr.WF.const _ _) (LinExpr.WF.scale _ hwf)) hz ((conGt_holds _ _ _).2 (by
    rw [LinExpr.eval_const, LinExpr.eval_scale]; exact (rat_lt_num_iff q _).2 h))

theorem RefineSound.ge_scaled (h : e.eval z ≤ q) :
    (refineWithConstraint cfg b (conGe (LinExpr.const q.num) (e.scale (q.den : Int)))).mem cfg.p z :=
  hRef _ _ _ (conGe_WF (LinExpr.WF.const _ _) (LinExpr.WF.scale _ hwf)) hz ((conGe_holds _ _ _).2 (by
    rw [LinExpr.eval_const, LinExpr.eval_scale]; exact (rat_le_num_iff q _).2 h))

end

example : (mkCon ⟨[-2, 4], 6⟩ .eq) = ⟨⟨[1, -2], -3⟩, .eq⟩ := by decide
example : (LinExpr.mk [0, 3, 0, -1] 5).terms = [(1, 3), (3, -1)] := by decide
example : (conLe (LinExpr.var 2 0) (LinExpr.const 4)).holds (fun _ => 1) :=
  (conLe_holds _ _ _).2 (by simp; norm_num)

end PPLV.WR.BoxT

import PPLV.WR.ClosureProofsFW
import Mathlib.Tactic.Linarith
/-!
# Octagon exact-join test, answer `false`: the arithmetic of the tightened matrix (pure `ExtRat`)

`Alts6 X A B C D P5 P6 w S`: `S` is one of the six sums that make up an entry `(u, v)` of a matrix `V` tightened by
the constraint of cell `(j, i)` and by its coherent twin `(ci, cj)`, both of weight `w`
(`X = V u v`, `A = V u j`, `B = V i v`, `C = V u ci`, `D = V cj v`, `P5 = V i ci`, `P6 = V cj j`).

`OctFacts`: the lower bounds on the entries `p1 = V i ℓ`, `p2 = V k j`, `p3 = V i ck`, `p4 = V cj ℓ`,
`p5 = V i ci`, `p6 = V cj j`, `p7 = V k ck`, `p8 = V cℓ ℓ`, `e2 = V k ℓ` of the join that the eight conditions of the
test provide (with the margin already added: `a' = x_ij + ε`, `b' = y_kℓ + ε`), and the four instances of strong
coherence of the join that are used.  `lb_K3`, `lb_K4a`, `lb_K4b`: the compatibility conditions of the second pair
of edges.
-/
namespace PPLV.WR
open ExtRat

/-- the six alternatives of an entry after a pair of coherent edges of weight `w` -/
def Alts6 (X A B C D P5 P6 : ExtRat) (w : Rat) (S : ExtRat) : Prop :=
  S = X ∨ S = eadd A (eadd (fin w) B) ∨ S = eadd C (eadd (fin w) D) ∨
  S = eadd C (eadd (fin w) (eadd P6 (eadd (fin w) B))) ∨
  S = eadd (eadd A (eadd (fin w) P5)) (eadd (fin w) D) ∨
  S = eadd (eadd A (eadd (fin w) P5)) (eadd (fin w) (eadd P6 (eadd (fin w) B)))

theorem eadd_swap (a b c : ExtRat) : eadd a (eadd b c) = eadd c (eadd b a) := by
  rw [eadd_comm a, eadd_comm b c, eadd_assoc]

/-- with `C = B` and `D = A` the second and third alternatives coincide -/
theorem Alts6.sym {X A B P5 P6 S : ExtRat} {w : Rat} (h : Alts6 X A B B A P5 P6 w S) :
    S = X ∨ S = eadd A (eadd (fin w) B) ∨
    S = eadd B (eadd (fin w) (eadd P6 (eadd (fin w) B))) ∨
    S = eadd (eadd A (eadd (fin w) P5)) (eadd (fin w) A) ∨
    S = eadd (eadd A (eadd (fin w) P5)) (eadd (fin w) (eadd P6 (eadd (fin w) B))) := by
  rcases h with h | h | h | h | h | h
  · exact .inl h
  · exact .inr (.inl h)
  · exact .inr (.inl (by rw [h, eadd_swap]))
  · exact .inr (.inr (.inl h))
  · exact .inr (.inr (.inr (.inl h)))
  · exact .inr (.inr (.inr (.inr h)))

/-- what the test and strong coherence of the join give -/
structure OctFacts (a' b' : Rat) (e2 p1 p2 p3 p4 p5 p6 p7 p8 : ExtRat) : Prop where
  f1b : fin (2 * a') ≤ eadd p5 p6
  f2 : fin b' ≤ e2
  f2b : fin (2 * b') ≤ eadd p7 p8
  f3 : fin (a' + b') ≤ eadd p1 p2
  f4 : fin (a' + b') ≤ eadd p3 p4
  f5 : fin (2 * a' + b') ≤ eadd (eadd p1 p3) p6
  f6 : fin (2 * a' + b') ≤ eadd (eadd p2 p4) p5
  f7 : fin (a' + 2 * b') ≤ eadd (eadd p1 p4) p7
  f8 : fin (a' + 2 * b') ≤ eadd (eadd p2 p3) p8
  h1 : p1 ≤ halfUp fin (eadd p5 p8)
  h2 : p2 ≤ halfUp fin (eadd p7 p6)
  h3 : p3 ≤ halfUp fin (eadd p5 p7)
  h4 : p4 ≤ halfUp fin (eadd p6 p8)

/-- `cases` on an entry; the branch `+∞` is closed when the bounded sum collapses -/
macro "cs " x:ident : tactic =>
  `(tactic| (cases $x:ident <;>
      try (simp only [eadd_pinf_left, eadd_pinf_right, ExtRat.le_pinf]; done)))

variable {a' b' : Rat} {e2 p1 p2 p3 p4 p5 p6 p7 p8 : ExtRat}

/-- the facts are symmetric under exchanging the two edges' roles: `p1 ↔ p3`, `p2 ↔ p4`, `p7 ↔ p8` -/
theorem OctFacts.mirror (F : OctFacts a' b' e2 p1 p2 p3 p4 p5 p6 p7 p8) :
    OctFacts a' b' e2 p3 p4 p1 p2 p5 p6 p8 p7 where
  f1b := F.f1b
  f2 := F.f2
  f2b := by rw [eadd_comm]; exact F.f2b
  f3 := F.f4
  f4 := F.f3
  f5 := by rw [eadd_comm p3]; exact F.f5
  f6 := by rw [eadd_comm p4]; exact F.f6
  f7 := by rw [eadd_comm p3]; exact F.f8
  f8 := by rw [eadd_comm p4]; exact F.f7
  h1 := F.h3
  h2 := by rw [eadd_comm]; exact F.h4
  h3 := F.h1
  h4 := by rw [eadd_comm]; exact F.h2

/-- the second edge against the matrix tightened by the first pair -/
theorem lb_K3 (F : OctFacts a' b' e2 p1 p2 p3 p4 p5 p6 p7 p8) {S : ExtRat}
    (hS : Alts6 e2 p2 p1 p3 p4 p5 p6 (-a') S) : fin b' ≤ S := by
  rcases hS with h | h | h | h | h | h <;> rw [h]
  · exact F.f2
  · cs p2; cs p1
    exact fin_le_fin.2 (by linarith [fin_le_fin.1 F.f3])
  · cs p3; cs p4
    exact fin_le_fin.2 (by linarith [fin_le_fin.1 F.f4])
  · cs p3; cs p6; cs p1
    exact fin_le_fin.2 (by linarith [fin_le_fin.1 F.f5])
  · cs p2; cs p5; cs p4
    exact fin_le_fin.2 (by linarith [fin_le_fin.1 F.f6])
  · cs p2; cs p5; cs p6; cs p1
    exact fin_le_fin.2 (by linarith [fin_le_fin.1 F.f3, fin_le_fin.1 F.f1b])

/-- the twin of the second edge against the same matrix: the mirror image of `lb_K3` -/
theorem lb_K4a (F : OctFacts a' b' e2 p1 p2 p3 p4 p5 p6 p7 p8) {S : ExtRat}
    (hS : Alts6 e2 p4 p3 p1 p2 p5 p6 (-a') S) : fin b' ≤ S :=
  lb_K3 F.mirror hS

/-- the twin of the second edge against the path through the second edge: the twenty-five products -/
theorem lb_K4b (F : OctFacts a' b' e2 p1 p2 p3 p4 p5 p6 p7 p8) {S T : ExtRat}
    (hS : Alts6 p7 p2 p3 p3 p2 p5 p6 (-a') S) (hT : Alts6 p8 p4 p1 p1 p4 p5 p6 (-a') T) :
    fin b' ≤ eadd T (eadd (fin (-b')) S) := by
  rcases hS.sym with h | h | h | h | h <;> rcases hT.sym with h' | h' | h' | h' | h' <;> rw [h, h']
  · cs p7; cs p8
    exact fin_le_fin.2 (by linarith [fin_le_fin.1 F.f2b])
  · cs p7; cs p4; cs p1
    exact fin_le_fin.2 (by linarith [fin_le_fin.1 F.f7])
  · cs p7; cs p1; cs p6
    cases p2 with
    | pinf => exact (not_pinf_le_fin _ F.h2).elim
    | fin q2 => exact fin_le_fin.2 (by linarith [fin_le_fin.1 F.h2, fin_le_fin.1 F.f3])
  · cs p7; cs p4; cs p5
    cases p3 with
    | pinf => exact (not_pinf_le_fin _ F.h3).elim
    | fin q3 => exact fin_le_fin.2 (by linarith [fin_le_fin.1 F.h3, fin_le_fin.1 F.f4])
  · cs p7; cs p4; cs p5; cs p6; cs p1
    exact fin_le_fin.2 (by linarith [fin_le_fin.1 F.f7, fin_le_fin.1 F.f1b])
  · cs p2; cs p3; cs p8
    exact fin_le_fin.2 (by linarith [fin_le_fin.1 F.f8])
  · cs p2; cs p3; cs p4; cs p1
    exact fin_le_fin.2 (by linarith [fin_le_fin.1 F.f3, fin_le_fin.1 F.f4])
  · cs p2; cs p3; cs p1; cs p6
    exact fin_le_fin.2 (by linarith [fin_le_fin.1 F.f3, fin_le_fin.1 F.f5])
  · cs p2; cs p3; cs p4; cs p5
    exact fin_le_fin.2 (by linarith [fin_le_fin.1 F.f4, fin_le_fin.1 F.f6])
  · cs p2; cs p3; cs p4; cs p5; cs p6; cs p1
    exact fin_le_fin.2 (by linarith [fin_le_fin.1 F.f3, fin_le_fin.1 F.f4, fin_le_fin.1 F.f1b])
  · cs p3; cs p6; cs p8
    cases p4 with
    | pinf => exact (not_pinf_le_fin _ F.h4).elim
    | fin q4 => exact fin_le_fin.2 (by linarith [fin_le_fin.1 F.h4, fin_le_fin.1 F.f4])
  · cs p3; cs p6; cs p4; cs p1
    exact fin_le_fin.2 (by linarith [fin_le_fin.1 F.f4, fin_le_fin.1 F.f5])
  · cs p3; cs p6; cs p1
    exact fin_le_fin.2 (by linarith [fin_le_fin.1 F.f5])
  · cs p3; cs p6; cs p4; cs p5
    exact fin_le_fin.2 (by linarith [fin_le_fin.1 F.f4, fin_le_fin.1 F.f1b])
  · cs p3; cs p6; cs p4; cs p5; cs p1
    exact fin_le_fin.2 (by linarith [fin_le_fin.1 F.f4, fin_le_fin.1 F.f5, fin_le_fin.1 F.f1b])
  · cs p2; cs p5; cs p8
    cases p1 with
    | pinf => exact (not_pinf_le_fin _ F.h1).elim
    | fin q1 => exact fin_le_fin.2 (by linarith [fin_le_fin.1 F.h1, fin_le_fin.1 F.f3])
  · cs p2; cs p5; cs p4; cs p1
    exact fin_le_fin.2 (by linarith [fin_le_fin.1 F.f3, fin_le_fin.1 F.f6])
  · cs p2; cs p5; cs p1; cs p6
    exact fin_le_fin.2 (by linarith [fin_le_fin.1 F.f3, fin_le_fin.1 F.f1b])
  · cs p2; cs p5; cs p4
    exact fin_le_fin.2 (by linarith [fin_le_fin.1 F.f6])
  · cs p2; cs p5; cs p4; cs p6; cs p1
    exact fin_le_fin.2 (by linarith [fin_le_fin.1 F.f3, fin_le_fin.1 F.f6, fin_le_fin.1 F.f1b])
  · cs p2; cs p5; cs p6; cs p3; cs p8
    exact fin_le_fin.2 (by linarith [fin_le_fin.1 F.f8, fin_le_fin.1 F.f1b])
  · cs p2; cs p5; cs p6; cs p3; cs p4; cs p1
    exact fin_le_fin.2 (by linarith [fin_le_fin.1 F.f3, fin_le_fin.1 F.f4, fin_le_fin.1 F.f1b])
  · cs p2; cs p5; cs p6; cs p3; cs p1
    exact fin_le_fin.2 (by linarith [fin_le_fin.1 F.f3, fin_le_fin.1 F.f5, fin_le_fin.1 F.f1b])
  · cs p2; cs p5; cs p6; cs p3; cs p4
    exact fin_le_fin.2 (by linarith [fin_le_fin.1 F.f4, fin_le_fin.1 F.f6, fin_le_fin.1 F.f1b])
  · cs p2; cs p5; cs p6; cs p3; cs p4; cs p1
    exact fin_le_fin.2 (by linarith [fin_le_fin.1 F.f3, fin_le_fin.1 F.f4, fin_le_fin.1 F.f1b])

end PPLV.WR

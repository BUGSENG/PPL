import PPLV.WR.ReduceOctProofsPreserveUnary
import PPLV.WR.ReduceOctProofsPreserveClass
import PPLV.WR.ReduceOctProofsPreserveSing
/-!
# Octagon reduction keeps every point: `γ (strong_reduction_assign c) = γ c`

Pairs of non-singular leaders, arbitrary non-singular indices through their leaders, the
singular class against anything, then the theorem for the code-shaped model.
-/
namespace PPLV.WR
open ExtRat (fin pinf addUp halfUp)

section ctx
variable {n : Nat} {c : OctM n} {succ : Nat → Nat} {nr : BMat} {p : Nat → Rat} (X : RCtx c succ nr p)
include X

/-- all pairs of non-singular leaders -/
theorem RCtx.ok_leaders {a b : Nat} (ha : NSL (2 * n) c.e a) (hb : NSL (2 * n) c.e b) (hne : a ≠ b) :
    Ok c.e p a b := by
  refine X.ok_of_family (fun a b => NSL (2 * n) c.e a ∧ NSL (2 * n) c.e b ∧ a ≠ b) (fun a b h => h)
    ?_ ?_ a b ⟨ha, hb, hne⟩
  · rintro a b ⟨ha, hb, _⟩ ⟨_, hco⟩
    have h2 := X.ok_unary (cidx b) (NSL.cidx hb)
    rw [cidx_cidx] at h2
    exact Ok.of_coh X.hp (X.ok_unary a ha) h2 hco
  · rintro a b k ⟨ha, hb, _⟩ hk hka hkb _ _
    exact ⟨⟨ha, hk, Ne.symm hka⟩, ⟨hk, hb, hkb⟩⟩

omit X in
/-- a non-singular index has a leader -/
theorem exists_nsl (hc : c.IsStronglyClosed) {a : Nat} (ha : a < 2 * n) (hns : ¬ OZEq c.e a (cidx a)) :
    ∃ i, NSL (2 * n) c.e i ∧ OZEq c.e a i := by
  obtain ⟨i, ⟨h1, h2⟩, hmin⟩ := exists_least (fun t => t < 2 * n ∧ OZEq c.e t a) ⟨a, ha, OZEq.refl _ _⟩
  refine ⟨i, ⟨h1, fun t ht hz => ?_, fun hs => hns (sing_of_zeq c hc ha h1 h2.symm hs)⟩, h2.symm⟩
  by_cases hh : t < i
  · exact absurd ⟨ht, OZEq.trans c hc ht h1 ha hz h2⟩ (hmin t hh)
  · omega

/-- two indices outside the singular class -/
theorem RCtx.ok_nonsing {a b : Nat} (ha : a < 2 * n) (hb : b < 2 * n) (hna : ¬ OZEq c.e a (cidx a))
    (hnb : ¬ OZEq c.e b (cidx b)) : Ok c.e p a b := by
  obtain ⟨la, hla, hza⟩ := exists_nsl X.hc ha hna
  obtain ⟨lb, hlb, hzb⟩ := exists_nsl X.hc hb hnb
  by_cases e : la = lb
  · subst e; exact X.class_ok hla ha hb hza hzb
  · have h1 : Ok c.e p a la := X.class_ok hla ha hla.lt hza (OZEq.refl _ _)
    have h2 : Ok c.e p la lb := X.ok_leaders hla hlb e
    have h3 : Ok c.e p lb b := X.class_ok hlb hlb.lt hb (OZEq.refl _ _) hzb
    have h4 : Ok c.e p a lb := by
      refine Ok.trans h1 h2 ?_
      rw [zeq_add_left X.hc ha hla.lt hlb.lt hza]; exact ExtRat.le_rfl' _
    refine Ok.trans h4 h3 ?_
    rw [zeq_add_right X.hc ha hlb.lt hb hzb.symm]; exact ExtRat.le_rfl' _

omit X in
theorem exists_singL (hc : c.IsStronglyClosed) {a : Nat} (ha : a < 2 * n) (hs : OZEq c.e a (cidx a)) :
    ∃ s, SingL (2 * n) c.e s ∧ OZEq c.e a s := by
  obtain ⟨s, ⟨h1, h2⟩, hmin⟩ := exists_least (fun t => t < 2 * n ∧ OZEq c.e t (cidx t)) ⟨a, ha, hs⟩
  refine ⟨s, ⟨h1, h2, fun t ht hz => ?_⟩, OZEq.sing_unique c hc ha h1 hs h2⟩
  by_cases hh : t < s
  · exact absurd ⟨ht, hz⟩ (hmin t hh)
  · omega

/-- every unary cell -/
theorem RCtx.ok_unary_all {b : Nat} (hb : b < 2 * n) : Ok c.e p (cidx b) b := by
  by_cases sb : OZEq c.e b (cidx b)
  · obtain ⟨s, hS, hz⟩ := exists_singL X.hc hb sb
    exact Pin.unary X.hp (X.sing_pin hS hb hz)
  · exact X.ok_nonsing (cidx_lt hb) hb (fun h => sb (by rw [cidx_cidx] at h; exact h.symm)) sb

/-- every full-view cell holds -/
theorem RCtx.ok_all {a b : Nat} (ha : a < 2 * n) (hb : b < 2 * n) : Ok c.e p a b := by
  by_cases sa : OZEq c.e a (cidx a)
  · obtain ⟨s, hS, hz⟩ := exists_singL X.hc ha sa
    exact ok_of_pin X.hc X.hp ha hb (X.sing_pin hS ha hz) (X.ok_unary_all hb)
  by_cases sb : OZEq c.e b (cidx b)
  · have sb' : OZEq c.e (cidx b) (cidx (cidx b)) := by rw [cidx_cidx]; exact sb.symm
    obtain ⟨s, hS, hz⟩ := exists_singL X.hc (cidx_lt hb) sb'
    exact Ok.twin X.hp (ok_of_pin X.hc X.hp (cidx_lt hb) (cidx_lt ha) (X.sing_pin hS (cidx_lt hb) hz)
      (X.ok_unary_all (cidx_lt ha)))
  · exact X.ok_nonsing ha hb sa sb

end ctx

/-- `strong_reduction_assign` keeps the set of points -/
theorem oct_reduction_preserves {n : Nat} (c : OctM n) (hc : c.IsStronglyClosed) (nr : BMat)
    (h : octNonRedundantMatrixEntries upId n c.e = some nr) : OctM.γ (c.reduced nr) = OctM.γ c := by
  have hred : ∀ i j, (c.reduced nr).e i j = if nr i j then c.e i j else pinf := fun _ _ => rfl
  ext x
  show (c.reduced nr).Sat x ↔ c.Sat x
  constructor
  · intro hx
    have X : RCtx c (octComputeSuccessors (2 * n) c.e) nr (OctM.oval x) :=
      ⟨hc, octComputeSuccessors_isOctSucc (2 * n) c.e, oct_kept c hc nr h, coh_oval x, fun i j hi hj hn => by
        have := hx i j hi hj
        rw [hred, if_pos hn] at this
        exact this⟩
    intro i j hi hj
    by_cases e : i = j
    · subst e; rw [c.diag i hi]; exact ExtRat.le_pinf _
    · have hj' : j < 2 * n := Nat.lt_of_lt_of_le hj (rowSize_le hi)
      rw [raw_eq_octFull c.e hj e]
      exact X.ok_all hi hj'
  · intro hx i j hi hj
    rw [hred]
    split
    · exact hx i j hi hj
    · exact ExtRat.le_pinf _

end PPLV.WR

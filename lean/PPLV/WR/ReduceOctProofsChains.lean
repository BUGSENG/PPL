import PPLV.WR.ReduceOctProofsLeaders4
/-!
# Octagon reduction: the two `while` walks (`octChain`, `octSingChain`) terminate within their fuel and set
the bits of the 0-cycles; generic facts on monotone bit-matrix loops
-/
namespace PPLV.WR
open ExtRat (fin pinf)

/-- bits are only ever set -/
def BLe (a b : BMat) : Prop := ∀ x y, a x y = true → b x y = true

theorem BLe.refl (a : BMat) : BLe a a := fun _ _ h => h
theorem BLe.trans {a b c : BMat} (h1 : BLe a b) (h2 : BLe b c) : BLe a c := fun x y h => h2 x y (h1 x y h)
theorem BLe.put (a : BMat) (i j : Nat) : BLe a (a.put i j true) := by
  intro x y h; rw [BMat.put_apply]; split
  · rfl
  · exact h
theorem BMat.put_self (a : BMat) (i j : Nat) : (a.put i j true) i j = true := by
  rw [BMat.put_apply, if_pos ⟨rfl, rfl⟩]

/-- a loop over an optional state whose body only sets bits: every iteration is run on a state between the
initial and the final one -/
theorem loopUp_opt_mono (f : Nat → Option BMat → Option BMat)
    (hnone : ∀ li, f li none = none)
    (hmono : ∀ li x y, f li (some x) = some y → BLe x y) :
    ∀ (N : Nat) (a z : BMat), loopUp N f (some a) = some z →
      BLe a z ∧ ∀ li, li < N → ∃ x y, f li (some x) = some y ∧ BLe a x ∧ BLe y z := by
  intro N
  induction N with
  | zero =>
    intro a z h
    simp only [loopUp] at h
    cases h
    exact ⟨BLe.refl _, fun li h => by omega⟩
  | succ N ih =>
    intro a z h
    simp only [loopUp] at h
    cases hm : loopUp N f (some a) with
    | none => rw [hm, hnone] at h; cases h
    | some mid =>
      rw [hm] at h
      obtain ⟨h1, h2⟩ := ih a mid hm
      have h3 := hmono N mid z h
      refine ⟨h1.trans h3, fun li hli => ?_⟩
      by_cases e : li = N
      · subst e; exact ⟨mid, z, h, h1, BLe.refl _⟩
      · obtain ⟨x, y, hx, hax, hy⟩ := h2 li (by omega)
        exact ⟨x, y, hx, hax, hy.trans h3⟩

/-- totality of such a loop -/
theorem loopUp_opt_total (f : Nat → Option BMat → Option BMat)
    (hsome : ∀ li x, ∃ y, f li (some x) = some y) :
    ∀ (N : Nat) (a : BMat), ∃ z, loopUp N f (some a) = some z := by
  intro N
  induction N with
  | zero => intro a; exact ⟨a, rfl⟩
  | succ N ih =>
    intro a
    obtain ⟨mid, hm⟩ := ih a
    simp only [loopUp]
    rw [hm]
    exact hsome N mid

/-- the inner loop of Step 2: `if T lj then nr.put i (g lj) true else nr` -/
theorem loopUp_put (T : Nat → Bool) (i : Nat) (g : Nat → Nat) (K : Nat) (nr : BMat) :
    BLe nr (loopUp K (fun lj nr => if T lj then nr.put i (g lj) true else nr) nr) ∧
    ∀ lj, lj < K → T lj = true → (loopUp K (fun lj nr => if T lj then nr.put i (g lj) true else nr) nr) i (g lj) = true := by
  induction K with
  | zero => exact ⟨BLe.refl _, fun lj h => by omega⟩
  | succ K ih =>
    obtain ⟨h1, h2⟩ := ih
    simp only [loopUp]
    generalize loopUp K (fun lj nr => if T lj then nr.put i (g lj) true else nr) nr = mid at h1 h2 ⊢
    by_cases hT : T K = true
    · rw [if_pos hT]
      refine ⟨h1.trans (BLe.put _ _ _), fun lj hlj hTl => ?_⟩
      by_cases e : lj = K
      · subst e; exact BMat.put_self _ _ _
      · exact BLe.put _ _ _ _ _ (h2 lj (by omega) hTl)
    · rw [if_neg hT]
      refine ⟨h1, fun lj hlj hTl => ?_⟩
      by_cases e : lj = K
      · subst e; exact absurd hTl hT
      · exact h2 lj (by omega) hTl

/-! ## totality of the walks (needs only that `succ` walks upwards below `N`) -/

theorem octChain_total {N : Nat} {m : Mat} {succ : Vec} (hs : IsOctSucc N m succ) :
    ∀ (fuel j : Nat) (nr : BMat), 1 ≤ fuel → N ≤ j + fuel → ∃ r, octChain succ fuel j nr = some r := by
  intro fuel
  induction fuel with
  | zero => intro j nr h; omega
  | succ fuel ih =>
    intro j nr _ h2
    unfold octChain
    simp only
    by_cases e : j = succ j
    · rw [if_pos e]; exact ⟨_, rfl⟩
    · rw [if_neg e]
      have hge := hs.ge j
      have hjN : j < N := by
        by_cases h : j < N
        · exact h
        · exact absurd (hs.out j (by omega)).symm e
      have hlt := hs.lt j hjN
      exact ih _ _ (by omega) (by omega)

theorem octSingChain_total {N : Nat} {m : Mat} {succ : Vec} (hs : IsOctSucc N m succ) :
    ∀ (fuel j : Nat) (nr : BMat), 1 ≤ fuel → N ≤ j + fuel → ∃ r, octSingChain succ fuel j nr = some r := by
  intro fuel
  induction fuel with
  | zero => intro j nr h; omega
  | succ fuel ih =>
    intro j nr _ h2
    unfold octSingChain
    simp only
    by_cases e : succ (j + 1) = j + 1
    · rw [if_pos e]; exact ⟨_, rfl⟩
    · rw [if_neg e]
      have hge := hs.ge (j + 1)
      have hjN : j + 1 < N := by
        by_cases h : j + 1 < N
        · exact h
        · exact absurd (hs.out (j + 1) (by omega)) e
      have hlt := hs.lt (j + 1) hjN
      exact ih _ _ (by omega) (by omega)

/-! ## what the walks set -/

section closed
variable {n : Nat} (c : OctM n) (hc : c.IsStronglyClosed)
variable {succ : Vec} (hs : IsOctSucc (2 * n) c.e succ)
include hc hs

theorem octChain_spec :
    ∀ (fuel j : Nat) (nr : BMat) (r : BMat × Nat), j < 2 * n → octChain succ fuel j nr = some r →
      BLe nr r.1 ∧ j ≤ r.2 ∧ r.2 < 2 * n ∧ OZEq c.e r.2 j ∧ succ r.2 = r.2 ∧
      ∀ a, j ≤ a → a < 2 * n → OZEq c.e a j → succ a ≠ a → r.1 (succ a) a = true := by
  intro fuel
  induction fuel with
  | zero => intro j nr r _ h; simp [octChain] at h
  | succ fuel ih =>
    intro j nr r hj h
    unfold octChain at h
    simp only at h
    by_cases e : j = succ j
    · rw [if_pos e] at h
      cases h
      refine ⟨BLe.refl _, Nat.le_refl _, hj, OZEq.refl _ _, e.symm, fun a h1 h2 h3 h4 => ?_⟩
      by_cases ea : a = j
      · subst ea; exact absurd e.symm h4
      · exact absurd h3 (hs.self j a e.symm (by omega) h2)
    · rw [if_neg e] at h
      have hge := hs.ge j
      have hlt := hs.lt j hj
      obtain ⟨i1, i2, i3, i4, i5, i6⟩ := ih _ _ r hlt h
      refine ⟨(BLe.put _ _ _).trans i1, by omega, i3,
        OZEq.trans c hc i3 hlt hj i4 (hs.zeq j), i5, fun a h1 h2 h3 h4 => ?_⟩
      by_cases ea : a = j
      · subst ea; exact i1 _ _ (BMat.put_self _ _ _)
      · have hle : succ j ≤ a := by
          by_cases hh : a < succ j
          · exact absurd h3 (hs.between j a (by omega) hh)
          · omega
        exact i6 a hle h2 (OZEq.trans c hc h2 hj hlt h3 (hs.zeq j).symm) h4

/-- one step of the walk through the even members of the singular class -/
theorem sing_next {j : Nat} (hj : j < 2 * n) (hev : j % 2 = 0) (hz : OZEq c.e j (cidx j))
    (hne : succ (j + 1) ≠ j + 1) :
    succ (j + 1) % 2 = 0 ∧ succ (j + 1) < 2 * n ∧ j + 1 < succ (j + 1) ∧ OZEq c.e (succ (j + 1)) j ∧
    ∀ a, a % 2 = 0 → j < a → a < 2 * n → OZEq c.e a j → succ (j + 1) ≤ a := by
  have hcj : cidx j = j + 1 := cidx_of_even hev
  have hj1 : j + 1 < 2 * n := hcj ▸ cidx_lt hj
  rw [hcj] at hz
  have hgt : j + 1 < succ (j + 1) := lt_of_le_of_ne (hs.ge (j + 1)) (Ne.symm hne)
  have hlt := hs.lt (j + 1) hj1
  have hzn := hs.zeq (j + 1)
  have hnj : OZEq c.e (succ (j + 1)) j := OZEq.trans c hc hlt hj1 hj hzn hz.symm
  refine ⟨?_, hlt, hgt, hnj, fun a ha1 ha2 ha3 ha4 => ?_⟩
  · -- an odd successor would have its even twin strictly between `j + 1` and itself, zero-equivalent to `j + 1`
    by_contra hodd
    have hodd := Nat.mod_two_ne_zero.1 hodd
    have hc2 : cidx (j + 1) = j := by rw [← hcj, cidx_cidx]
    have h1 : OZEq c.e (succ (j + 1) - 1) j := by
      have := OZEq.cidx hzn; rwa [cidx_of_odd hodd, hc2] at this
    have h2 : OZEq c.e (succ (j + 1) - 1) (j + 1) :=
      OZEq.trans c hc (lt_of_le_of_lt (Nat.sub_le _ _) hlt) hj hj1 h1 hz
    exact hs.between (j + 1) (succ (j + 1) - 1) (lt_pred_of_odd_lt (Nat.succ_mod_two_eq_one_iff.2 hev) hodd hgt)
      (Nat.sub_lt (Nat.zero_lt_of_lt hgt) Nat.one_pos) h2
  · by_contra hh
    exact hs.between (j + 1) a (succ_lt_of_even_lt hev ha1 ha2) (not_le.1 hh) (OZEq.trans c hc ha3 hj hj1 ha4 hz)

theorem octSingChain_spec :
    ∀ (fuel j : Nat) (nr : BMat) (r : BMat × Nat), j < 2 * n → j % 2 = 0 → OZEq c.e j (cidx j) →
      octSingChain succ fuel j nr = some r →
      BLe nr r.1 ∧ j ≤ r.2 ∧ r.2 < 2 * n ∧ r.2 % 2 = 0 ∧ OZEq c.e r.2 j ∧ succ (r.2 + 1) = r.2 + 1 ∧
      ∀ a, j ≤ a → a < 2 * n → a % 2 = 0 → OZEq c.e a j → succ (a + 1) ≠ a + 1 → r.1 (succ (a + 1)) a = true := by
  intro fuel
  induction fuel with
  | zero => intro j nr r _ _ _ h; simp [octSingChain] at h
  | succ fuel ih =>
    intro j nr r hj hev hz h
    unfold octSingChain at h
    simp only at h
    by_cases e : succ (j + 1) = j + 1
    · rw [if_pos e] at h
      cases h
      refine ⟨BLe.refl _, Nat.le_refl _, hj, hev, OZEq.refl _ _, e, fun a h1 h2 h3 h4 h5 => ?_⟩
      by_cases ea : a = j
      · subst ea; exact absurd e h5
      · exfalso
        have hj1 : j + 1 < 2 * n := cidx_of_even hev ▸ cidx_lt hj
        rw [cidx_of_even hev] at hz
        exact hs.self (j + 1) a e (succ_lt_of_even_lt hev h3 (lt_of_le_of_ne h1 (Ne.symm ea))) h2
          (OZEq.trans c hc h2 hj hj1 h4 hz)
    · rw [if_neg e] at h
      obtain ⟨s1, s2, s3, s4, s5⟩ := sing_next c hc hs hj hev hz e
      have hzn : OZEq c.e (succ (j + 1)) (cidx (succ (j + 1))) :=
        OZEq.trans c hc s2 (cidx_lt hj) (cidx_lt s2)
          (OZEq.trans c hc s2 hj (cidx_lt hj) s4 hz) (OZEq.cidx s4.symm)
      obtain ⟨i1, i2, i3, i4, i5, i6, i7⟩ := ih _ _ r s2 s1 hzn h
      refine ⟨(BLe.put _ _ _).trans i1, (Nat.lt_of_succ_lt s3).le.trans i2, i3, i4,
        OZEq.trans c hc i3 s2 hj i5 s4, i6, fun a h1 h2 h3 h4 h5 => ?_⟩
      by_cases ea : a = j
      · subst ea; exact i1 _ _ (BMat.put_self _ _ _)
      · have hle := s5 a h3 (lt_of_le_of_ne h1 (Ne.symm ea)) h2 h4
        exact i7 a hle h2 h3 (OZEq.trans c hc h2 hj s2 h4 s4.symm) h5

end closed

end PPLV.WR

import PPLV.WR.ReduceOctProofsPreserveInd
/-!
# Octagon reduction keeps every point: pairs on a tight path to the unary bound

`Tight0 a b`: the unary bound of `a` is attained through `b`:
`octFull a (cidx a) = 2 * octFull a b + octFull b (cidx b)` (all finite).  Such a pair of distinct non-singular
leaders is never redundant by strong coherence (that would make `b` singular), and splitting it by closure
stays inside the family, so all of them hold without any unary cell.
-/
namespace PPLV.WR
open ExtRat (fin pinf addUp halfUp)

def Tight0 (m : Mat) (a b : Nat) : Prop :=
  ∃ x y z, octFull m a (cidx a) = fin x ∧ octFull m a b = fin y ∧ octFull m b (cidx b) = fin z ∧ x = 2 * y + z

section closed
variable {n : Nat} {c : OctM n} (hc : c.IsStronglyClosed)
include hc

/-- `octFull a (cidx a) ≤ 2 * octFull a k + octFull k (cidx k)` (the path `a → k → ck → ca`) -/
theorem unary_le {a k : Nat} (ha : a < 2 * n) (hk : k < 2 * n) {r q : Rat}
    (hr : octFull c.e a k = fin r) (hq : octFull c.e k (cidx k) = fin q) :
    ∃ x, octFull c.e a (cidx a) = fin x ∧ x ≤ 2 * r + q := by
  have e : octFull c.e (cidx k) (cidx a) = fin r := by rw [octFull_coh' c.e k a]; exact hr
  obtain ⟨α, hα, h1⟩ := hc.tri_fin c hk (cidx_lt ha) (cidx_lt hk) hq e
  obtain ⟨x, hx, h2⟩ := hc.tri_fin c ha (cidx_lt ha) hk hr hα
  exact ⟨x, hx, by linarith only [h1, h2]⟩

theorem Tight0.trans {i k l : Nat} (hi : i < 2 * n) (hk : k < 2 * n) (hl : l < 2 * n)
    (h1 : Tight0 c.e i k) (h2 : Tight0 c.e k l) : Tight0 c.e i l := by
  obtain ⟨x, r, xk, hx, hr, hxk, e1⟩ := h1
  obtain ⟨xk', t, xl, hxk', ht, hxl, e2⟩ := h2
  rw [hxk] at hxk'; cases hxk'
  obtain ⟨y, hy, hle⟩ := hc.tri_fin c hi hl hk hr ht
  obtain ⟨x', hx', hle'⟩ := unary_le hc hi hl hy hxl
  rw [hx] at hx'; cases hx'
  exact ⟨x, y, xl, hx, hy, hxl, by linarith only [e1, e2, hle, hle']⟩

omit hc in
theorem Tight0.antisymm {i k : Nat} (hi : NSL (2 * n) c.e i) (hk : NSL (2 * n) c.e k)
    (h1 : Tight0 c.e i k) (h2 : Tight0 c.e k i) : i = k := by
  obtain ⟨x, r, xk, hx, hr, hxk, e1⟩ := h1
  obtain ⟨xk', t, x', hxk', ht, hx', e2⟩ := h2
  rw [hxk] at hxk'; cases hxk'
  rw [hx] at hx'; cases hx'
  exact NSL.eq_of_zeq hi hk (OZEq.of_fin hr ht (by linarith only [e1, e2]))

end closed

section ctx
variable {n : Nat} {c : OctM n} {succ : Nat → Nat} {nr : BMat} {p : Nat → Rat} (X : RCtx c succ nr p)
include X

/-- a tight pair of distinct non-singular leaders holds -/
theorem RCtx.ok_of_tight {a b : Nat} (ha : NSL (2 * n) c.e a) (hb : NSL (2 * n) c.e b) (hne : a ≠ b)
    (ht : Tight0 c.e a b) : Ok c.e p a b := by
  refine X.ok_of_family (fun a b => NSL (2 * n) c.e a ∧ NSL (2 * n) c.e b ∧ a ≠ b ∧ Tight0 c.e a b)
    (fun a b h => ⟨h.1, h.2.1, h.2.2.1⟩) ?_ ?_ a b ⟨ha, hb, hne, ht⟩
  · rintro a b ⟨ha, hb, hne, x, y, z, hx, hy, hz, e⟩ ⟨_, hco⟩
    exfalso
    rw [hy] at hco
    obtain ⟨x', w, hx', hw, hle⟩ := half_eadd_le_fin_inv hco
    rw [hx] at hx'; cases hx'
    have := nonsing_pos X.hc hb.lt hb.ns hz hw
    linarith only [this, hle, e]
  · rintro a b k ⟨ha, hb, hne, x, y, z, hx, hy, hz, e⟩ hk hka hkb hle _
    rw [hy] at hle
    obtain ⟨r, t, hr, ht, hrt⟩ := eadd_le_fin_inv hle
    obtain ⟨q, hq, hq'⟩ := unary_le X.hc hk.lt hb.lt ht hz
    obtain ⟨x', hx', hx''⟩ := unary_le X.hc ha.lt hk.lt hr hq
    rw [hx] at hx'; cases hx'
    exact ⟨⟨ha, hk, Ne.symm hka, x, r, q, hx, hr, hq, by linarith only [e, hrt, hq', hx'']⟩,
      ⟨hk, hb, hkb, q, t, z, hq, ht, hz, by linarith only [e, hrt, hq', hx'']⟩⟩

end ctx

end PPLV.WR

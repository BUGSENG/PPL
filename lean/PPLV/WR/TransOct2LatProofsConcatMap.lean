import PPLV.WR.TransOct2LatProofsBase
import PPLV.WR.Trans2LatProofsMapExpand
/-!
# Lattice / dimension operations of `Octagonal_Shape<T>`: concatenate (sound, exact),
map_space_dimensions (soundness)
-/
namespace PPLV.WR
open ExtRat

/-! ## `concatenate_assign` -/

theorem octLatConcatInner_apply (i o t c : Nat) (y m : Mat) (a b : Nat) :
    loopUp c (fun s m => m.set i (o + s) (y t s)) m a b
      = if a = i ∧ o ≤ b ∧ b < o + c then y t (b - o) else m a b := by
  induction c with
  | zero => simp only [loopUp]; rw [if_neg (by omega)]
  | succ c ih =>
    simp only [loopUp, Mat.set_apply, ih]
    grind

theorem octLatConcatOuter_apply (n1 c : Nat) (m y : Mat) (a b : Nat) :
    loopUp c (fun t m =>
      loopUp (rowSize (2 * n1 + t) - 2 * n1) (fun s m => m.set (2 * n1 + t) (2 * n1 + s) (y t s)) m) m a b
      = if 2 * n1 ≤ a ∧ a < 2 * n1 + c ∧ 2 * n1 ≤ b ∧ b < rowSize a then y (a - 2 * n1) (b - 2 * n1)
        else m a b := by
  induction c with
  | zero => simp only [loopUp]; rw [if_neg (by omega)]
  | succ c ih =>
    simp only [loopUp]
    rw [octLatConcatInner_apply, ih]
    have hrs : 2 * n1 ≤ rowSize (2 * n1 + c) := by unfold rowSize; omega
    grind

theorem octLatConcatLoop_apply (n1 n2 : Nat) (m y : Mat) (a b : Nat) :
    octLatConcatLoop n1 n2 m y a b
      = if 2 * n1 ≤ a ∧ a < 2 * n1 + 2 * n2 ∧ 2 * n1 ≤ b ∧ b < rowSize a then y (a - 2 * n1) (b - 2 * n1)
        else m a b :=
  octLatConcatOuter_apply n1 (2 * n2) m y a b

theorem octLatConcatenate_eq (R : Rnd) (n1 : Nat) (c1 : Bool) (m1 : Mat) (n2 : Nat) (c2 : Bool) (m2 : Mat) :
    ∃ r, octLatConcatenate R n1 c1 m1 n2 c2 m2 = some r ∧ r.dim = n1 + n2 ∧
      ∀ a b, a < 2 * (n1 + n2) → b < rowSize a →
        r.m a b = if 2 * n1 ≤ a then (if 2 * n1 ≤ b then m2 (a - 2 * n1) (b - 2 * n1) else pinf)
          else m1 a b := by
  unfold octLatConcatenate octLatEmbed
  by_cases hk : n2 = 0
  · subst hk
    simp only [if_true]
    refine ⟨_, rfl, rfl, ?_⟩
    intro a b ha hb
    rw [if_neg (by omega)]
  · simp only [if_neg hk]
    refine ⟨_, rfl, rfl, ?_⟩
    intro a b ha hb
    rw [octLatConcatLoop_apply]
    simp only [octLatGrow]
    grind

theorem octLatConcatenate_sound (R : Rnd) (n1 : Nat) (c1 : Bool) (m1 : Mat) (n2 : Nat) (c2 : Bool) (m2 : Mat)
    {z : Nat → Rat} (h1 : z ∈ γO n1 m1) (h2 : (fun i => z (n1 + i)) ∈ γO n2 m2) :
    ∃ r, octLatConcatenate R n1 c1 m1 n2 c2 m2 = some r ∧ r.dim = n1 + n2 ∧ z ∈ γO (n1 + n2) r.m := by
  obtain ⟨r, e, hd, hm⟩ := octLatConcatenate_eq R n1 c1 m1 n2 c2 m2
  refine ⟨r, e, hd, ?_⟩
  intro a b hab
  rw [hm a b hab.1 hab.2]
  split
  · rename_i ha
    split
    · rename_i hb
      obtain ⟨t, rfl⟩ : ∃ t, a = 2 * n1 + t := ⟨a - 2 * n1, by omega⟩
      obtain ⟨s, rfl⟩ : ∃ s, b = 2 * n1 + s := ⟨b - 2 * n1, by omega⟩
      rw [latOval_add_even, latOval_add_even]
      have e1 : 2 * n1 + t - 2 * n1 = t := by omega
      have e2 : 2 * n1 + s - 2 * n1 = s := by omega
      rw [e1, e2]
      have := hab.2
      rw [latRowSize_add_even] at this
      exact h2 t s ⟨by have := hab.1; omega, by omega⟩
    · exact le_pinf _
  · exact h1 a b ⟨by omega, hab.2⟩

/-- `concatenate_assign` is exact for every bound type -/
theorem octLatConcatenate_exact (R : Rnd) (n1 : Nat) (c1 : Bool) (m1 : Mat) (n2 : Nat) (c2 : Bool) (m2 : Mat) :
    ∃ r, octLatConcatenate R n1 c1 m1 n2 c2 m2 = some r ∧ r.dim = n1 + n2 ∧
      ∀ z, z ∈ γO (n1 + n2) r.m ↔ (z ∈ γO n1 m1 ∧ (fun i => z (n1 + i)) ∈ γO n2 m2) := by
  obtain ⟨r, e, hd, hm⟩ := octLatConcatenate_eq R n1 c1 m1 n2 c2 m2
  refine ⟨r, e, hd, fun z => ⟨fun h => ⟨?_, ?_⟩, fun h => ?_⟩⟩
  · intro a b hab
    have := h a b ⟨by have := hab.1; omega, hab.2⟩
    rw [hm a b (by have := hab.1; omega) hab.2, if_neg (by have := hab.1; omega)] at this
    exact this
  · intro t s hts
    have hrs : 2 * n1 + s < rowSize (2 * n1 + t) := by rw [latRowSize_add_even]; have := hts.2; omega
    have := h (2 * n1 + t) (2 * n1 + s) ⟨by have := hts.1; omega, hrs⟩
    rw [hm _ _ (by have := hts.1; omega) hrs, if_pos (by omega), if_pos (by omega),
      latOval_add_even, latOval_add_even] at this
    have e1 : 2 * n1 + t - 2 * n1 = t := by omega
    have e2 : 2 * n1 + s - 2 * n1 = s := by omega
    rw [e1, e2] at this
    exact this
  · obtain ⟨r', e', _, h'⟩ := octLatConcatenate_sound R n1 c1 m1 n2 c2 m2 h.1 h.2
    rw [e] at e'
    simp only [Option.some.injEq] at e'
    rw [e']; exact h'

/-! ## `map_space_dimensions` -/

/-- image of a matrix index: `±x_i ↦ ±x_{pfunc(i)}` -/
def octLatPsi (pf : List (Option Nat)) (i : Nat) : Option Nat := (latMaps pf (i / 2)).map (fun a => 2 * a + i % 2)

/-- every cell of the new matrix is `+∞` or a stored cell `(I, J)` of the old one, placed at the image
of `(I, J)` or at its coherent twin -/
def octLatMapInv (n : Nat) (pf : List (Option Nat)) (mat x : Mat) : Prop :=
  ∀ A B, x A B = pinf ∨ ∃ I J, I < 2 * n ∧ J < rowSize I ∧ x A B = mat I J ∧
    ((octLatPsi pf I = some A ∧ octLatPsi pf J = some B) ∨
     (octLatPsi pf J = some (cidx A) ∧ octLatPsi pf I = some (cidx B)))

theorem octLatMapInv_set {n : Nat} {pf : List (Option Nat)} {mat x : Mat} (h : octLatMapInv n pf mat x)
    {I J A B : Nat} (hI : I < 2 * n) (hJ : J < rowSize I)
    (hAB : (octLatPsi pf I = some A ∧ octLatPsi pf J = some B) ∨
     (octLatPsi pf J = some (cidx A) ∧ octLatPsi pf I = some (cidx B))) :
    octLatMapInv n pf mat (x.set A B (mat I J)) := by
  intro A' B'
  simp only [Mat.set_apply]
  split
  · rename_i hc
    obtain ⟨rfl, rfl⟩ := hc
    exact Or.inr ⟨I, J, hI, hJ, rfl, hAB⟩
  · exact h A' B'

theorem octLatPsi_even {pf : List (Option Nat)} {i a : Nat} (h : latMaps pf i = some a) :
    octLatPsi pf (2 * i) = some (2 * a) := by
  unfold octLatPsi
  have e1 : 2 * i / 2 = i := by omega
  have e2 : 2 * i % 2 = 0 := by omega
  rw [e1, e2, h]; rfl

theorem octLatPsi_odd {pf : List (Option Nat)} {i a : Nat} (h : latMaps pf i = some a) :
    octLatPsi pf (2 * i + 1) = some (2 * a + 1) := by
  unfold octLatPsi
  have e1 : (2 * i + 1) / 2 = i := by omega
  have e2 : (2 * i + 1) % 2 = 1 := by omega
  rw [e1, e2, h]; rfl

theorem octLatMapLoops_inv (n : Nat) (pf : List (Option Nat)) (mat : Mat) :
    octLatMapInv n pf mat (octLatMapLoops n pf mat { f := fun _ _ => pinf }) := by
  unfold octLatMapLoops
  apply latLoopUp_inv (octLatMapInv n pf mat)
  · intro A B; exact Or.inl rfl
  · intro i x hi hx
    cases hm : latMaps pf i with
    | none => exact hx
    | some ni =>
      dsimp only
      apply latLoopUp_inv (octLatMapInv n pf mat) hx
      intro j x hj hx
      cases hm2 : latMaps pf j with
      | none => exact hx
      | some nj =>
        dsimp only
        have pie := octLatPsi_even hm
        have pio := octLatPsi_odd hm
        have pje := octLatPsi_even hm2
        have pjo := octLatPsi_odd hm2
        split
        · refine octLatMapInv_set (octLatMapInv_set (octLatMapInv_set (octLatMapInv_set hx ?_ ?_ ?_) ?_ ?_ ?_)
            ?_ ?_ ?_) ?_ ?_ ?_
          all_goals first | omega | (unfold rowSize; omega) | skip
          · exact Or.inl ⟨pie, pje⟩
          · exact Or.inl ⟨pio, pje⟩
          · exact Or.inl ⟨pio, pjo⟩
          · exact Or.inl ⟨pie, pjo⟩
        · refine octLatMapInv_set (octLatMapInv_set (octLatMapInv_set (octLatMapInv_set hx ?_ ?_ ?_) ?_ ?_ ?_)
            ?_ ?_ ?_) ?_ ?_ ?_
          all_goals first | omega | (unfold rowSize; omega) | skip
          · right; rw [cidx_odd, cidx_odd]; exact ⟨pje, pie⟩
          · right; rw [cidx_odd, cidx_even]; exact ⟨pje, pio⟩
          · right; rw [cidx_even, cidx_odd]; exact ⟨pjo, pie⟩
          · right; rw [cidx_even, cidx_even]; exact ⟨pjo, pio⟩

theorem latOval_cidx (y : Nat → Rat) (a : Nat) : OctM.oval y (cidx a) = - OctM.oval y a := by
  obtain ⟨k, rfl | rfl⟩ : ∃ k, a = 2 * k ∨ a = 2 * k + 1 := ⟨a / 2, by omega⟩
  · rw [cidx_even, oval_even, oval_odd]
  · rw [cidx_odd, oval_even, oval_odd]; simp

theorem octLatPsi_oval {n : Nat} {pf : List (Option Nat)} {p y : Nat → Rat}
    (hy : ∀ i, i < n → ∀ a, latMaps pf i = some a → y a = p i) {I A : Nat} (hI : I < 2 * n)
    (h : octLatPsi pf I = some A) : OctM.oval y A = OctM.oval p I := by
  unfold octLatPsi at h
  cases hm : latMaps pf (I / 2) with
  | none => rw [hm] at h; simp at h
  | some a =>
    rw [hm] at h
    simp only [Option.map_some, Option.some.injEq] at h
    subst h
    unfold OctM.oval
    have e1 : (2 * a + I % 2) % 2 = I % 2 := by omega
    have e2 : (2 * a + I % 2) / 2 = a := by omega
    rw [e1, e2, hy (I / 2) (by omega) a hm]

theorem octLatMapInv_holds {n : Nat} {pf : List (Option Nat)} {mat x : Mat} (h : octLatMapInv n pf mat x)
    {p y : Nat → Rat} (hp : p ∈ γO n mat) (hy : ∀ i, i < n → ∀ a, latMaps pf i = some a → y a = p i)
    (k : Nat) : y ∈ γO k x := by
  intro A B hAB
  rcases h A B with h | ⟨I, J, hI, hJ, e, hc⟩
  · rw [h]; exact le_pinf _
  · rw [e]
    have hJ' : J < 2 * n := by have := rowSize_le hI; omega
    rcases hc with ⟨h1, h2⟩ | ⟨h1, h2⟩
    · rw [octLatPsi_oval hy hI h1, octLatPsi_oval hy hJ' h2]
      exact hp I J ⟨hI, hJ⟩
    · have e1 := octLatPsi_oval hy hJ' h1
      have e2 := octLatPsi_oval hy hI h2
      rw [latOval_cidx] at e1 e2
      have : OctM.oval y B - OctM.oval y A = OctM.oval p J - OctM.oval p I := by linarith
      rw [this]
      exact hp I J ⟨hI, hJ⟩

theorem octLatMapDims_sound {R : Rnd} (hR : R.Sound) (n : Nat) (c : Bool) (m : Mat) (pf : List (Option Nat))
    {x y : Nat → Rat} (hx : x ∈ γO n m) (hy : ∀ i, i < n → ∀ a, latMaps pf i = some a → y a = x i) :
    ∃ r, octLatMapDims R n c m pf = some r ∧ r.dim = latMapNewDim pf n ∧ y ∈ γO r.dim r.m := by
  unfold octLatMapDims latMapNewDim
  split
  · rename_i hn; subst hn
    exact ⟨_, rfl, rfl, latGammaO_congr (n := 0) (fun i hi => absurd hi (Nat.not_lt_zero i)) hx⟩
  · split
    · obtain ⟨r, e, hd, hr⟩ := octLatRemoveHigher_sound hR n c m 0 (Nat.zero_le _) hx
      refine ⟨r, e, hd, ?_⟩
      rw [hd]
      exact latGammaO_congr (fun i hi => absurd hi (Nat.not_lt_zero i)) hr
    · dsimp only
      have hst : ∃ m' c', (if latMaxInCodomain pf n + 1 < n then octLatClose R.up n c m else some (m, c))
          = some (m', c') ∧ x ∈ γO n m' := by
        split
        · exact octLatClose_sound hR.up_le n c m hx
        · exact ⟨m, c, rfl, hx⟩
      obtain ⟨m', c', e, hx'⟩ := hst
      rw [e]
      exact ⟨_, rfl, rfl, octLatMapInv_holds (octLatMapLoops_inv n pf m') hx' hy _⟩

end PPLV.WR

import PPLV.WR.OctClosedModelSweep
/-!
# Miné's lemma: strong coherence after closure gives a strongly closed matrix (pure `ExtRat` algebra)

For `R` closed and coherent on `N` indices, `mineS R i j = min (R i j) ((R i ī + R j̄ j) / 2)` satisfies the triangle
inequality and `mineS R i j ≤ (mineS R i ī + mineS R j̄ j) / 2`; its diagonal is zero.
-/
namespace PPLV.WR.OCM
open ExtRat

theorem half_eadd_self (x : ExtRat) : halfUp fin (eadd x x) = x := by
  cases x with
  | pinf => rfl
  | fin q =>
    show fin ((q + q) / 2) = fin q
    congr 1; ring

theorem minA_self (x : ExtRat) : minA x x = x := minA_eq_left (le_rfl' x)

theorem half_nonneg {x : ExtRat} (h : fin 0 ≤ x) : fin 0 ≤ halfUp fin x := by
  cases x with
  | pinf => exact le_pinf _
  | fin q =>
    rw [fin_le_fin] at h
    show fin 0 ≤ fin (q / 2)
    rw [fin_le_fin]; linarith

/-! The three bounds below: an infinite entry on the right makes the right-hand side `+∞`; for finite entries the
claim is linear arithmetic on the hypothesis. -/

theorem mine_b {x y a b : ExtRat} (h : x ≤ eadd (eadd a b) a) :
    halfUp fin (eadd x y) ≤ eadd a (halfUp fin (eadd b y)) := by
  cases a <;> cases b <;> cases y <;> try exact le_pinf _
  cases x with
  | pinf => exact (not_pinf_le_fin _ h).elim
  | fin x => exact fin_le_fin.2 (by linarith [fin_le_fin.1 h])

theorem mine_c {x y a b : ExtRat} (h : y ≤ eadd (eadd a b) a) :
    halfUp fin (eadd x y) ≤ eadd (halfUp fin (eadd x b)) a := by
  cases a <;> cases b <;> cases x <;> try exact le_pinf _
  cases y with
  | pinf => exact (not_pinf_le_fin _ h).elim
  | fin y => exact fin_le_fin.2 (by linarith [fin_le_fin.1 h])

theorem mine_d {x y b b' : ExtRat} (h : fin 0 ≤ eadd b b') :
    halfUp fin (eadd x y) ≤ eadd (halfUp fin (eadd x b)) (halfUp fin (eadd b' y)) := by
  cases x <;> cases y <;> cases b <;> cases b' <;> try exact le_pinf _
  exact fin_le_fin.2 (by linarith [fin_le_fin.1 h])

/-- the half-sum of the two unary entries -/
def mineH (R : Mat) (i j : Nat) : ExtRat := halfUp fin (eadd (R i (cidx i)) (R (cidx j) j))

/-- the matrix after strong coherence -/
def mineS (R : Mat) (i j : Nat) : ExtRat := minA (R i j) (mineH R i j)

theorem mineS_le_H (R : Mat) (i j : Nat) : mineS R i j ≤ mineH R i j := minA_le_right _ _

theorem mineS_unary (R : Mat) (i : Nat) : mineS R i (cidx i) = R i (cidx i) := by
  unfold mineS mineH
  rw [cidx_cidx, half_eadd_self, minA_self]

theorem mineS_unary' (R : Mat) (j : Nat) : mineS R (cidx j) j = R (cidx j) j := by
  have := mineS_unary R (cidx j)
  rwa [cidx_cidx] at this

/-- strong coherence of the result -/
theorem mineS_coh (R : Mat) (i j : Nat) :
    mineS R i j ≤ halfUp fin (eadd (mineS R i (cidx i)) (mineS R (cidx j) j)) := by
  rw [mineS_unary, mineS_unary']
  exact mineS_le_H R i j

section
variable {n : Nat} {R : Mat} (hc : Closed (2 * n) R) (hcoh : CohM (2 * n) R)
include hc hcoh

omit hcoh in
theorem mineS_diag {i : Nat} (hi : i < 2 * n) : mineS R i i = fin 0 := by
  unfold mineS mineH
  rw [hc.diag i hi]
  apply minA_eq_left
  apply half_nonneg
  have := hc.tri i i (cidx i) hi hi (cidx_lt hi)
  rwa [hc.diag i hi] at this

/-- triangle inequality of the result -/
theorem mineS_tri {i j k : Nat} (hi : i < 2 * n) (hj : j < 2 * n) (hk : k < 2 * n) :
    mineS R i j ≤ eadd (mineS R i k) (mineS R k j) := by
  have hci := cidx_lt hi
  have hcj := cidx_lt hj
  have hck := cidx_lt hk
  have hH := mineS_le_H R i j
  have hR : mineS R i j ≤ R i j := minA_le_left _ _
  -- `R i ī ≤ 2 R i k + R k k̄`
  have u1 : R i (cidx i) ≤ eadd (eadd (R i k) (R k (cidx k))) (R i k) := by
    have t1 := hc.tri i (cidx i) (cidx k) hi hci hck
    have t2 := hc.tri i (cidx k) k hi hck hk
    have e : R (cidx k) (cidx i) = R i k := (hcoh i k hi hk).symm
    rw [e] at t1
    exact le_trans' t1 (eadd_mono t2 (le_rfl' _))
  -- `R j̄ j ≤ 2 R k j + R k̄ k`
  have u2 : R (cidx j) j ≤ eadd (eadd (R k j) (R (cidx k) k)) (R k j) := by
    have t1 := hc.tri (cidx j) j k hcj hj hk
    have t2 := hc.tri (cidx j) k (cidx k) hcj hk hck
    have e : R (cidx j) (cidx k) = R k j := (hcoh k j hk hj).symm
    rw [e] at t2
    exact le_trans' t1 (eadd_mono t2 (le_rfl' _))
  have u3 : fin 0 ≤ eadd (R (cidx k) k) (R k (cidx k)) := by
    have := hc.tri (cidx k) (cidx k) k hck hck hk
    rwa [hc.diag _ hck] at this
  unfold mineS at hH hR ⊢
  rcases minA_cases (R i k) (mineH R i k) with h1 | h1 <;>
    rcases minA_cases (R k j) (mineH R k j) with h2 | h2 <;> rw [h1, h2]
  · exact le_trans' hR (hc.tri i j k hi hj hk)
  · exact le_trans' hH (mine_b u1)
  · exact le_trans' hH (mine_c u2)
  · exact le_trans' hH (mine_d u3)

end

end PPLV.WR.OCM

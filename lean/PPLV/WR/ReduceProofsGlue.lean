import PPLV.WR.ReduceProofsMathDim
import Mathlib.Tactic.Linarith
/-!
# Reduction: loop-to-list lemmas for the readers of `redundancy_dbm`

`loopUp` bodies that append to a list / bump a counter, rewritten as `List.range` expressions; the counting
form of `bdsAffineDimension`; the list form of the three loops of `bdsMinimizedConstraints`.
-/
namespace PPLV.WR
open ExtRat (fin pinf)

/-- a `for` loop whose body appends `g i` -/
theorem loopUp_append {α : Type} (k : Nat) (g : Nat → List α) (init : List α) :
    loopUp k (fun i cs => cs ++ g i) init = init ++ (List.range k).flatMap g := by
  induction k with
  | zero => simp [loopUp]
  | succ k ih =>
    simp only [loopUp, ih, List.range_succ, List.flatMap_append, List.flatMap_cons, List.flatMap_nil,
      List.append_nil, List.append_assoc]

/-! A body that appends under conditions appends a conditional list: with `List.append_assoc` these bring a loop
body of the code into the form `fun i cs => cs ++ g i` of `loopUp_append`. -/

theorem ite_append_append {α : Type} (b : Prop) [Decidable b] (cs l₁ l₂ : List α) :
    (if b then cs ++ l₁ else cs ++ l₂) = cs ++ if b then l₁ else l₂ := by
  split <;> rfl

theorem ite_append_left {α : Type} (b : Prop) [Decidable b] (cs l : List α) :
    (if b then cs ++ l else cs) = cs ++ if b then l else [] := by
  split <;> simp

theorem ite_append_right {α : Type} (b : Prop) [Decidable b] (cs l : List α) :
    (if b then cs else cs ++ l) = cs ++ if b then [] else l := by
  split <;> simp

-- `leaderCount n lead` (number of leaders among the dbm indices `1..n`) is defined in `ReduceProofsMathDim.lean`

/-- `affine_dimension()` counts the indices `1..n` that are their own predecessor -/
theorem bdsAffineDimension_eq_count (n : Nat) (m : Mat) :
    bdsAffineDimension n m = leaderCount n (bdsComputePredecessors (n+1) m) := by
  unfold bdsAffineDimension leaderCount
  have h : (fun (i : Nat) (affine_dim : Nat) =>
        if i = 0 then affine_dim else if bdsComputePredecessors (n+1) m i = i then affine_dim + 1 else affine_dim)
      = fun i a => if (i != 0 && bdsComputePredecessors (n+1) m i == i) then a + 1 else a := by
    funext i a
    by_cases h0 : i = 0
    · simp [h0]
    · by_cases h1 : bdsComputePredecessors (n+1) m i = i
      · simp [h0, h1]
      · simp [h0, h1]
  show loopUp (n+1) _ 0 = _
  rw [h, loopUp_count_filter]
  simp

/-- the count only depends on which indices are fixed points -/
theorem leaderCount_congr (n : Nat) (f g : Nat → Nat) (h : ∀ i, i ≤ n → (f i = i ↔ g i = i)) :
    leaderCount n f = leaderCount n g := by
  unfold leaderCount
  congr 1
  apply List.filter_congr
  intro i hi
  have hfg : (f i == i) = (g i == i) := by
    rw [Bool.eq_iff_iff, beq_iff_eq, beq_iff_eq]
    exact h i (by have := List.mem_range.1 hi; omega)
  rw [hfg]

end PPLV.WR

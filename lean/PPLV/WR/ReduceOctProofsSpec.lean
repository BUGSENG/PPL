import PPLV.WR.ReduceOctProofsPos
/-!
# Octagon reduction: totality and an abstract description of cells that `non_redundant_matrix_entries`
certainly keeps (`OctKept`), derived from the code-shaped model

Bits are only ever set, so for `γ (reduced) ⊆ γ` a lower bound on the kept cells is all that is needed.
-/
namespace PPLV.WR
open ExtRat (fin pinf addUp halfUp)

/-! ## the pieces of `octNonRedundantMatrixEntries` -/

/-- the 0-cycle of a positive class (l. 3165–3181) -/
def step2Chain (successor : Vec) (rows i : Nat) (nr : BMat) : Option BMat :=
  if i % 2 = 0 then
    if i ≠ successor i then
      (octChain successor (rows + 1) i nr).map fun (nr, j) => nr.put (cidx j) (cidx i) true
    else some nr
  else some nr

/-- the loop over `lj` (l. 3183–3242) -/
def step2Inner (m : Mat) (nsl : List Nat) (li i : Nat) (nr : BMat) : BMat :=
  loopUp (rsOf li + 1) (fun lj nr =>
    if octToAdd upId m nsl i (nsl.getD lj 0) then nr.put i (nsl.getD lj 0) true else nr) nr

def step2Body (m : Mat) (successor : Vec) (nsl : List Nat) (rows li : Nat) (nr : Option BMat) : Option BMat :=
  nr.bind fun nr =>
    (step2Chain successor rows (nsl.getD li 0) nr).map (step2Inner m nsl li (nsl.getD li 0))

/-- the singular class (l. 3248–3264) -/
def singPart (successor : Vec) (L : OctLeaders) (rows : Nat) (nr : BMat) : Option BMat :=
  if L.exist_sing_class then
    let nr := nr.put L.sing_leader (L.sing_leader + 1) true
    if successor (L.sing_leader + 1) ≠ L.sing_leader + 1 then
      (octSingChain successor (rows + 1) L.sing_leader nr).map fun (nr, j) => nr.put (j + 1) j true
    else some (nr.put (L.sing_leader + 1) L.sing_leader true)
  else some nr

theorem octNR_eq (n : Nat) (m : Mat) :
    octNonRedundantMatrixEntries upId n m =
      (loopUp (octComputeLeaders4 (2 * n) (octComputeSuccessors (2 * n) m)).no_sing_leaders.length
        (step2Body m (octComputeSuccessors (2 * n) m)
          (octComputeLeaders4 (2 * n) (octComputeSuccessors (2 * n) m)).no_sing_leaders (2 * n))
        (some (BMat.const false))).bind
      (singPart (octComputeSuccessors (2 * n) m) (octComputeLeaders4 (2 * n) (octComputeSuccessors (2 * n) m))
        (2 * n)) := rfl

/-! ## monotonicity and totality -/

theorem octChain_mono (successor : Vec) :
    ∀ (fuel j : Nat) (nr : BMat) (r : BMat × Nat), octChain successor fuel j nr = some r → BLe nr r.1 := by
  intro fuel
  induction fuel with
  | zero => intro j nr r h; simp [octChain] at h
  | succ fuel ih =>
    intro j nr r h
    unfold octChain at h
    simp only at h
    split at h
    · cases h; exact BLe.refl _
    · exact (BLe.put _ _ _).trans (ih _ _ _ h)

theorem octSingChain_mono (successor : Vec) :
    ∀ (fuel j : Nat) (nr : BMat) (r : BMat × Nat), octSingChain successor fuel j nr = some r → BLe nr r.1 := by
  intro fuel
  induction fuel with
  | zero => intro j nr r h; simp [octSingChain] at h
  | succ fuel ih =>
    intro j nr r h
    unfold octSingChain at h
    simp only at h
    split at h
    · cases h; exact BLe.refl _
    · exact (BLe.put _ _ _).trans (ih _ _ _ h)

theorem step2Chain_mono (successor : Vec) (rows i : Nat) (x x1 : BMat)
    (h : step2Chain successor rows i x = some x1) : BLe x x1 := by
  unfold step2Chain at h
  split at h
  · split at h
    · cases hr : octChain successor (rows + 1) i x with
      | none => rw [hr] at h; cases h
      | some r =>
        rw [hr] at h
        cases h
        exact (octChain_mono successor _ _ _ r hr).trans (BLe.put _ _ _)
    · cases h; exact BLe.refl _
  · cases h; exact BLe.refl _

theorem step2Inner_mono (m : Mat) (nsl : List Nat) (li i : Nat) (x : BMat) : BLe x (step2Inner m nsl li i x) :=
  (loopUp_put (fun lj => octToAdd upId m nsl i (nsl.getD lj 0)) i (fun lj => nsl.getD lj 0) (rsOf li + 1) x).1

theorem step2Inner_put (m : Mat) (nsl : List Nat) (li i : Nat) (x : BMat) (lj : Nat) (hlj : lj ≤ rsOf li)
    (h : octToAdd upId m nsl i (nsl.getD lj 0) = true) : step2Inner m nsl li i x i (nsl.getD lj 0) = true :=
  (loopUp_put (fun lj => octToAdd upId m nsl i (nsl.getD lj 0)) i (fun lj => nsl.getD lj 0) (rsOf li + 1) x).2
    lj (by omega) h

theorem step2Body_some {m : Mat} {successor : Vec} {nsl : List Nat} {rows li : Nat} {x y : BMat}
    (h : step2Body m successor nsl rows li (some x) = some y) :
    ∃ x1, step2Chain successor rows (nsl.getD li 0) x = some x1 ∧ y = step2Inner m nsl li (nsl.getD li 0) x1 := by
  unfold step2Body at h
  simp only [Option.bind_some] at h
  cases hx : step2Chain successor rows (nsl.getD li 0) x with
  | none => rw [hx] at h; cases h
  | some x1 => rw [hx] at h; cases h; exact ⟨x1, rfl, rfl⟩

theorem step2Body_mono (m : Mat) (successor : Vec) (nsl : List Nat) (rows li : Nat) (x y : BMat)
    (h : step2Body m successor nsl rows li (some x) = some y) : BLe x y := by
  obtain ⟨x1, h1, rfl⟩ := step2Body_some h
  exact (step2Chain_mono _ _ _ _ _ h1).trans (step2Inner_mono _ _ _ _ _)

theorem singPart_mono (successor : Vec) (L : OctLeaders) (rows : Nat) (x y : BMat)
    (h : singPart successor L rows x = some y) : BLe x y := by
  unfold singPart at h
  split at h
  · simp only at h
    split at h
    · cases hr : octSingChain successor (rows + 1) L.sing_leader (x.put L.sing_leader (L.sing_leader + 1) true) with
      | none => rw [hr] at h; cases h
      | some r =>
        rw [hr] at h
        cases h
        exact (BLe.put _ _ _).trans ((octSingChain_mono successor _ _ _ r hr).trans (BLe.put _ _ _))
    · cases h; exact (BLe.put _ _ _).trans (BLe.put _ _ _)
  · cases h; exact BLe.refl _

/-- the fuels suffice (no closedness needed: the walks go strictly upwards below `2n`) -/
theorem oct_reduction_total' (n : Nat) (m : Mat) : ∃ nr, octNonRedundantMatrixEntries upId n m = some nr := by
  have hs := octComputeSuccessors_isOctSucc (2 * n) m
  rw [octNR_eq]
  obtain ⟨z, hz⟩ := loopUp_opt_total
    (step2Body m (octComputeSuccessors (2 * n) m)
      (octComputeLeaders4 (2 * n) (octComputeSuccessors (2 * n) m)).no_sing_leaders (2 * n))
    (fun li x => by
      unfold step2Body step2Chain
      simp only [Option.bind_some]
      split
      · split
        · obtain ⟨r, hr⟩ := octChain_total hs (2 * n + 1) ((octComputeLeaders4 (2 * n)
            (octComputeSuccessors (2 * n) m)).no_sing_leaders.getD li 0) x (by omega) (by omega)
          rw [hr]; exact ⟨_, rfl⟩
        · exact ⟨_, rfl⟩
      · exact ⟨_, rfl⟩)
    (octComputeLeaders4 (2 * n) (octComputeSuccessors (2 * n) m)).no_sing_leaders.length (BMat.const false)
  rw [hz, Option.bind_some]
  unfold singPart
  split
  · simp only
    split
    · obtain ⟨r, hr⟩ := octSingChain_total hs (2 * n + 1)
        (octComputeLeaders4 (2 * n) (octComputeSuccessors (2 * n) m)).sing_leader
        (z.put (octComputeLeaders4 (2 * n) (octComputeSuccessors (2 * n) m)).sing_leader
          ((octComputeLeaders4 (2 * n) (octComputeSuccessors (2 * n) m)).sing_leader + 1) true)
        (by omega) (by omega)
      rw [hr]; exact ⟨_, rfl⟩
    · exact ⟨_, rfl⟩
  · exact ⟨_, rfl⟩

theorem oct_reduction_total {n : Nat} (c : OctM n) (_hc : c.IsStronglyClosed) :
    ∃ nr, octNonRedundantMatrixEntries upId n c.e = some nr := oct_reduction_total' n c.e

/-! ## the abstract description of the kept cells -/

/-- `i` is the least element of a non-singular class -/
structure NSL (N : Nat) (m : Mat) (i : Nat) : Prop where
  lt : i < N
  least : ∀ t, t < N → OZEq m t i → i ≤ t
  ns : ¬ OZEq m i (cidx i)

/-- `s` is the least element of the singular class -/
structure SingL (N : Nat) (m : Mat) (s : Nat) : Prop where
  lt : s < N
  sing : OZEq m s (cidx s)
  least : ∀ t, t < N → OZEq m t (cidx t) → s ≤ t

/-- cells that are certainly kept -/
structure OctKept (N : Nat) (m : Mat) (succ : Nat → Nat) (nr : BMat) : Prop where
  /-- (e) the increasing chain through a non-singular class with even least element `i` -/
  chain : ∀ i a, NSL N m i → i % 2 = 0 → a < N → OZEq m a i → succ a ≠ a → nr (succ a) a = true
  /-- (e) the closing cell, stored as the coherent twin of `(i, z)` -/
  close : ∀ i z, NSL N m i → i % 2 = 0 → z < N → OZEq m z i → succ z = z → z ≠ i → nr (cidx z) (cidx i) = true
  /-- (l) a stored pair of non-singular leaders that is redundant neither by strong coherence nor by strong
  closure through a third non-singular leader -/
  lead : ∀ i j, NSL N m i → NSL N m j → j < rowSize i → i ≠ j →
    ¬ (j ≠ cidx i ∧ halfUp fin (eadd (octFull m i (cidx i)) (octFull m (cidx j) j)) ≤ octFull m i j) →
    (∀ k, NSL N m k → k ≠ i → k ≠ j → ¬ eadd (octFull m i k) (octFull m k j) ≤ octFull m i j) →
    nr i j = true
  /-- (s) the 0-cycle through the singular class -/
  sing0 : ∀ s, SingL N m s → nr s (s + 1) = true
  singc : ∀ s a, SingL N m s → a < N → a % 2 = 0 → OZEq m a s → succ (a + 1) ≠ a + 1 → nr (succ (a + 1)) a = true
  singz : ∀ s z, SingL N m s → z < N → z % 2 = 0 → OZEq m z s → succ (z + 1) = z + 1 → nr (z + 1) z = true

section closed
variable {n : Nat} (c : OctM n) (hc : c.IsStronglyClosed)

theorem nsl_iff {lead : Nat → Nat} (hl : IsOctLead (2 * n) c.e lead) (i : Nat) :
    (i < 2 * n ∧ nslP c.e lead i = true) ↔ NSL (2 * n) c.e i := by
  rw [nslP_iff]
  constructor
  · rintro ⟨h1, h2, h3⟩
    exact ⟨h1, fun t ht hz => by have := hl.least i t h1 ht hz; omega, h3⟩
  · rintro ⟨h1, h2, h3⟩
    have := hl.le i h1
    have := h2 (lead i) (by omega) (hl.zeq i h1)
    exact ⟨h1, by omega, h3⟩

include hc in
/-- the singular class is closed under zero-equivalence -/
theorem sing_of_zeq {a s : Nat} (ha : a < 2 * n) (hs : s < 2 * n) (haz : OZEq c.e a s)
    (hsing : OZEq c.e s (cidx s)) : OZEq c.e a (cidx a) :=
  OZEq.trans c hc ha (cidx_lt hs) (cidx_lt ha) (OZEq.trans c hc ha hs (cidx_lt hs) haz hsing)
    (OZEq.cidx haz.symm)

include hc in
theorem oct_kept (nr : BMat) (h : octNonRedundantMatrixEntries upId n c.e = some nr) :
    OctKept (2 * n) c.e (octComputeSuccessors (2 * n) c.e) nr := by
  have hs := octComputeSuccessors_isOctSucc (2 * n) c.e
  have hl := octComputeLeaders_isOctLead c hc
  have hL := oct_leaders4_spec c hc
  rw [octNR_eq] at h
  generalize hsucc : octComputeSuccessors (2 * n) c.e = succ at h hs hL ⊢
  generalize hLL : octComputeLeaders4 (2 * n) succ = L at h hL
  generalize hlead : octComputeLeaders (2 * n) c.e = lead at hl hL
  cases h2 : loopUp L.no_sing_leaders.length (step2Body c.e succ L.no_sing_leaders (2 * n))
      (some (BMat.const false)) with
  | none => rw [h2] at h; cases h
  | some nr2 =>
  rw [h2, Option.bind_some] at h
  have hfin : BLe nr2 nr := singPart_mono _ _ _ _ _ h
  obtain ⟨_, hiter⟩ := loopUp_opt_mono _ (fun li => rfl) (step2Body_mono c.e succ L.no_sing_leaders (2 * n))
    _ _ _ h2
  have hpair : ∀ g, 2 * g + 1 < 2 * n → nslP c.e lead (2 * g) = nslP c.e lead (2 * g + 1) := by
    intro g hg
    have := IsOctLead.pair c hl g
    exact Bool.eq_iff_iff.2 ⟨fun h => (this.1 ⟨by omega, h⟩).2, fun h => (this.2 ⟨hg, h⟩).2⟩
  have hmem : ∀ k, k ∈ L.no_sing_leaders → NSL (2 * n) c.e k := by
    intro k hk
    rw [hL.nsl, List.mem_filter, List.mem_range] at hk
    exact (nsl_iff c hl k).1 hk
  -- the iteration of a non-singular leader
  have hrow : ∀ i, NSL (2 * n) c.e i → ∃ x x1, step2Chain succ (2 * n) i x = some x1 ∧
      BLe (step2Inner c.e L.no_sing_leaders (fpos (nslP c.e lead) i) i x1) nr := by
    intro i hi
    have hP := ((nsl_iff c hl i).2 hi).2
    obtain ⟨g1, g2⟩ := filter_getD_fpos (nslP c.e lead) (2 * n) i hi.lt hP
    rw [← hL.nsl] at g1 g2
    obtain ⟨x, y, hxy, _, hy⟩ := hiter _ g2
    obtain ⟨x1, hx1, rfl⟩ := step2Body_some hxy
    rw [g1] at hx1 hy
    exact ⟨x, x1, hx1, hy.trans hfin⟩
  -- the chain of an even non-singular leader with a class-mate above it
  have hch : ∀ i, NSL (2 * n) c.e i → i % 2 = 0 → succ i ≠ i → ∃ r : BMat × Nat,
      BLe (r.1.put (cidx r.2) (cidx i) true) nr ∧ OZEq c.e r.2 i ∧ succ r.2 = r.2 ∧ r.2 < 2 * n ∧
      ∀ a, i ≤ a → a < 2 * n → OZEq c.e a i → succ a ≠ a → r.1 (succ a) a = true := by
    intro i hi hev hne
    obtain ⟨x, x1, hx1, hle⟩ := hrow i hi
    unfold step2Chain at hx1
    rw [if_pos hev, if_pos (Ne.symm hne)] at hx1
    cases hr : octChain succ (2 * n + 1) i x with
    | none => rw [hr] at hx1; cases hx1
    | some r =>
      rw [hr] at hx1
      cases hx1
      obtain ⟨_, _, i3, i4, i5, i6⟩ := octChain_spec c hc hs _ _ _ r hi.lt hr
      exact ⟨r, (step2Inner_mono _ _ _ _ _).trans hle, i4, i5, i3, i6⟩
  have hne_of : ∀ i a, NSL (2 * n) c.e i → a < 2 * n → OZEq c.e a i → a ≠ i → succ i ≠ i := by
    intro i a hi ha hz hai e
    have := hi.least a ha hz
    exact hs.self i a e (by omega) ha hz
  have hcommon : ∀ s, SingL (2 * n) c.e s → s % 2 = 0 ∧
      (if succ (s + 1) ≠ s + 1 then
        (octSingChain succ (2 * n + 1) s (nr2.put s (s + 1) true)).map fun (nr, j) => nr.put (j + 1) j true
      else some ((nr2.put s (s + 1) true).put (s + 1) s true)) = some nr := by
    intro s hS
    have hex : L.exist_sing_class = true := hL.ex.2 ⟨s, hS.lt, hS.sing⟩
    have hsl : L.sing_leader = s := by
      have h1 := hL.sl_least hex s hS.lt hS.sing
      have h2 := hS.least _ (hL.sl_lt hex) (hL.sl_sing hex)
      omega
    have hev : s % 2 = 0 := hsl ▸ hL.sl_even hex
    unfold singPart at h
    rw [if_pos hex, hsl] at h
    exact ⟨hev, h⟩
  clear h
  refine ⟨?_, ?_, ?_, ?_, ?_, ?_⟩
  · intro i a hi hev ha hz hsa
    have hne : succ i ≠ i := by
      by_cases e : a = i
      · subst e; exact hsa
      · exact hne_of i a hi ha hz e
    obtain ⟨r, r1, _, _, _, r5⟩ := hch i hi hev hne
    exact r1 _ _ (BLe.put _ _ _ _ _ (r5 a (hi.least a ha hz) ha hz hsa))
  · intro i z hi hev hz hzi hsz hne
    obtain ⟨r, r1, r2, r3, r4, _⟩ := hch i hi hev (hne_of i z hi hz hzi hne)
    have hzz : OZEq c.e z r.2 := OZEq.trans c hc hz hi.lt r4 hzi r2.symm
    have : r.2 = z := by
      by_cases h1 : r.2 < z
      · exact absurd hzz (hs.self r.2 z r3 h1 hz)
      · by_cases h2 : z < r.2
        · exact absurd hzz.symm (hs.self z r.2 hsz h2 r4)
        · omega
    rw [← this]
    exact r1 _ _ (BMat.put_self _ _ _)
  · intro i j hi hj hst hij hcoh hclo
    obtain ⟨x, x1, _, hle⟩ := hrow i hi
    have hPi := ((nsl_iff c hl i).2 hi).2
    have hPj := ((nsl_iff c hl j).2 hj).2
    obtain ⟨g1, _⟩ := filter_getD_fpos (nslP c.e lead) (2 * n) j hj.lt hPj
    rw [← hL.nsl] at g1
    have hpos := fpos_le_rs (nslP c.e lead) (2 * n) hpair hi.lt hPi hst
    have hadd : octToAdd upId c.e L.no_sing_leaders i j = true :=
      octToAdd_true c.e L.no_sing_leaders hij hst hcoh (fun k hk => hclo k (hmem k hk))
    have := step2Inner_put c.e L.no_sing_leaders (fpos (nslP c.e lead) i) i x1 _ hpos (by rw [g1]; exact hadd)
    rw [g1] at this
    exact hle _ _ this
  · intro s hS
    obtain ⟨hev, h⟩ := hcommon s hS
    split at h
    · cases hr : octSingChain succ (2 * n + 1) s (nr2.put s (s + 1) true) with
      | none => rw [hr] at h; cases h
      | some r =>
        rw [hr] at h; cases h
        exact BLe.put _ _ _ _ _ (octSingChain_mono succ _ _ _ r hr _ _ (BMat.put_self _ _ _))
    · cases h; exact BLe.put _ _ _ _ _ (BMat.put_self _ _ _)
  · intro s a hS ha hae haz hne
    obtain ⟨hev, h⟩ := hcommon s hS
    have hne' : succ (s + 1) ≠ s + 1 := by
      by_cases e : a = s
      · subst e; exact hne
      · intro e'
        have hle := hS.least a ha (sing_of_zeq c hc ha hS.lt haz hS.sing)
        have hz1 : OZEq c.e a (s + 1) := by
          have := OZEq.trans c hc ha hS.lt (cidx_lt hS.lt) haz hS.sing
          rwa [cidx_of_even hev] at this
        exact hs.self (s + 1) a e' (by omega) ha hz1
    rw [if_pos hne'] at h
    cases hr : octSingChain succ (2 * n + 1) s (nr2.put s (s + 1) true) with
    | none => rw [hr] at h; cases h
    | some r =>
      rw [hr] at h; cases h
      obtain ⟨_, _, _, _, _, _, i7⟩ := octSingChain_spec c hc hs _ _ _ r hS.lt hev hS.sing hr
      have hle := hS.least a ha (sing_of_zeq c hc ha hS.lt haz hS.sing)
      exact BLe.put _ _ _ _ _ (i7 a hle ha hae haz hne)
  · intro s a hS ha hae haz hlast
    obtain ⟨hev, h⟩ := hcommon s hS
    split at h
    · cases hr : octSingChain succ (2 * n + 1) s (nr2.put s (s + 1) true) with
      | none => rw [hr] at h; cases h
      | some r =>
        rw [hr] at h; cases h
        obtain ⟨_, _, i3, i4, i5, i6, _⟩ := octSingChain_spec c hc hs _ _ _ r hS.lt hev hS.sing hr
        -- both `a` and `r.2` are the greatest even member
        have hz1 : OZEq c.e a (cidx a) := sing_of_zeq c hc ha hS.lt haz hS.sing
        have hz2 : OZEq c.e r.2 (cidx r.2) := sing_of_zeq c hc i3 hS.lt i5 hS.sing
        rw [cidx_of_even hae] at hz1
        rw [cidx_of_even i4] at hz2
        have har : OZEq c.e a r.2 := OZEq.trans c hc ha hS.lt i3 haz i5.symm
        have : r.2 = a := by
          by_cases h1 : r.2 + 1 < a
          · exact absurd (OZEq.trans c hc ha i3 (by omega) har hz2) (hs.self (r.2 + 1) a i6 h1 ha)
          · by_cases h2 : a + 1 < r.2
            · exact absurd (OZEq.trans c hc i3 ha (by omega) har.symm hz1) (hs.self (a + 1) r.2 hlast h2 i3)
            · omega
        rw [← this]
        exact BMat.put_self _ _ _
    · rename_i hcond
      cases h
      have hz1 : OZEq c.e a (s + 1) := by
        have := OZEq.trans c hc ha hS.lt (cidx_lt hS.lt) haz hS.sing
        rwa [cidx_of_even hev] at this
      have hle := hS.least a ha (sing_of_zeq c hc ha hS.lt haz hS.sing)
      have : a = s := by
        by_cases e : a = s
        · exact e
        · exact absurd hz1 (hs.self (s + 1) a (by simpa using hcond) (by omega) ha)
      subst this
      exact BMat.put_self _ _ _

end closed

end PPLV.WR

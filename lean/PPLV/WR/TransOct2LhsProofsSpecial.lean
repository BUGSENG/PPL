import PPLV.WR.TransOct2LhsProofsBase
import PPLV.WR.Trans2LhsProofsPre
/-!
# `Octagonal_Shape<T>::generalized_affine_image / _preimage (lhs, relsym, rhs)`: the branches that do not
delegate to the single-variable transformers (constant `lhs`, general `lhs`)
-/
namespace PPLV.WR
open ExtRat

section
variable {R : Rnd} (hR : R.Sound) {n : Nat} (rel : RelSym) {el er : Nat → Int} (bl br : Int) {m : Mat}
  {x x' : Nat → Rat}
include hR

/-- `lhs` constant: `refine_no_check(lhs relsym rhs)`; no side condition -/
theorem octLhsImage_t0_sound (h0 : exprT el (lastNonzero el n) = 0) (hx : x ∈ γO n m)
    (hag : ∀ i, i < n → el i = 0 → x' i = x i)
    (hrel : rel.holds (linEval el x' n + bl) (linEval er x n + br)) :
    ∃ m', octLhsGenAffineImageCore R n rel el bl er br m = some m' ∧ x' ∈ γO n m' := by
  have hall : ∀ i, i < n → x' i = x i := fun i hi => hag i hi (lhs_t0_zero h0 i hi)
  have hx' : x' ∈ γO n m := octHolds_congr hall hx
  rw [← linEval_congr_x er hall] at hrel
  obtain ⟨m', hm', hy, _⟩ := octLhsRefineRel_sound (R := R) hR.up_le rel bl br (lastNonzero_le el n)
    (lastNonzero_le er n) (lastNonzero_above el n) (lastNonzero_above er n) hx' hrel
  refine ⟨m', ?_, hy⟩
  unfold octLhsGenAffineImageCore
  dsimp only [lhsForm, lhsSpaceDim]
  rw [if_pos h0, hm']
  rfl

/-- `lhs` general: forget the variables of `lhs`, then (disjoint case) `refine_no_check`; no side condition -/
theorem octLhsImage_t2_sound (h0 : ¬ exprT el (lastNonzero el n) = 0) (h1 : ¬ exprT el (lastNonzero el n) = 1)
    (hx : x ∈ γO n m)
    (hag : ∀ i, i < n → el i = 0 → x' i = x i)
    (hrel : rel.holds (linEval el x' n + bl) (linEval er x n + br)) :
    ∃ m', octLhsGenAffineImageCore R n rel el bl er br m = some m' ∧ x' ∈ γO n m' := by
  have hfor : x' ∈ γO n (octLhsForgetVars n (lhsVars el n) m) :=
    holds_octForget_lhsVars hx hag (fun i h1 h2 => by omega)
  unfold octLhsGenAffineImageCore
  dsimp only [lhsForm, lhsSpaceDim]
  rw [if_neg h0, if_neg h1]
  split
  · rename_i hcom
    have hcom' : lhsHaveCommonVar el er (min (lhsSpaceDim el n) (lhsSpaceDim er n)) = false := by
      simpa [lhsSpaceDim] using hcom
    rw [← lhs_rhs_agree hcom' hag] at hrel
    obtain ⟨m', hm', hy, _⟩ := octLhsRefineRel_sound (R := R) hR.up_le rel bl br (lastNonzero_le el n)
      (lastNonzero_le er n) (lastNonzero_above el n) (lastNonzero_above er n) hfor hrel
    rw [hm']
    exact ⟨m', rfl, hy⟩
  · exact ⟨_, rfl, hfor⟩

/-- `lhs` constant: the preimage is the image -/
theorem octLhsPre_t0_sound (h0 : exprT el (lastNonzero el n) = 0) (hx' : x' ∈ γO n m)
    (hag : ∀ i, i < n → el i = 0 → x' i = x i)
    (hrel : rel.holds (linEval el x' n + bl) (linEval er x n + br)) :
    ∃ m', octLhsGenAffinePreimageCore R n rel el bl er br m = some m' ∧ x ∈ γO n m' := by
  have hall : ∀ i, i < n → x' i = x i := fun i hi => hag i hi (lhs_t0_zero h0 i hi)
  have hrel' : rel.holds (linEval el x n + bl) (linEval er x' n + br) := by
    rw [linEval_congr_x er hall, ← linEval_congr_x el hall]; exact hrel
  have := octLhsImage_t0_sound hR rel bl br h0 hx' (fun i hi h => (hag i hi h).symm) hrel'
  unfold octLhsGenAffinePreimageCore
  dsimp only [lhsForm]
  rw [if_pos h0]
  exact this

/-- `lhs` general, variables disjoint from `rhs`: `refine_no_check`, `is_empty()`, forget; no side condition -/
theorem octLhsPre_disjoint_sound (h0 : ¬ exprT el (lastNonzero el n) = 0) (h1 : ¬ exprT el (lastNonzero el n) = 1)
    (hcom : lhsHaveCommonVar el er (min (lhsSpaceDim el n) (lhsSpaceDim er n)) = false)
    (hx' : x' ∈ γO n m)
    (hag : ∀ i, i < n → el i = 0 → x' i = x i)
    (hrel : rel.holds (linEval el x' n + bl) (linEval er x n + br)) :
    ∃ m', octLhsGenAffinePreimageCore R n rel el bl er br m = some m' ∧ x ∈ γO n m' := by
  rw [← lhs_rhs_agree hcom hag] at hrel
  obtain ⟨m1, hm1, hy, _⟩ := octLhsRefineRel_sound (R := R) hR.up_le rel bl br (lastNonzero_le el n)
    (lastNonzero_le er n) (lastNonzero_above el n) (lastNonzero_above er n) hx' hrel
  have hforget : ∀ {mm : Mat}, x' ∈ γO n mm → x ∈ γO n (octLhsForgetVars n (lhsVars el n) mm) :=
    fun h => holds_octForget_lhsVars h (fun i hi h => (hag i hi h).symm) (fun i h1 h2 => by omega)
  unfold octLhsGenAffinePreimageCore
  dsimp only [lhsForm]
  rw [if_neg h0, if_neg h1, hcom]
  simp only [Bool.not_false, if_true]
  unfold lhsSpaceDim
  rw [hm1]
  dsimp only
  split
  · exact ⟨_, rfl, hforget hy⟩
  · obtain ⟨m2, hm2, hy2⟩ := octCloseRaw_sound hR hy
    rw [hm2]
    exact ⟨_, rfl, hforget hy2⟩

/-- `lhs` general, sharing variables with `rhs`: the additional dimension -/
theorem octLhsPreimageNewDim_sound (hel : ∀ i, n ≤ i → el i = 0) (her : ∀ i, n ≤ i → er i = 0) (hc : CoeffExact R el)
    (hh : HalfFiniteOn R.up m) (hx' : x' ∈ γO n m)
    (hag : ∀ i, i < n → el i = 0 → x' i = x i)
    (hrel : rel.holds (linEval el x' n + bl) (linEval er x n + br)) :
    ∃ m', octLhsPreimageNewDim R n rel el bl er br m = some m' ∧ x ∈ γO n m' := by
  unfold octLhsPreimageNewDim
  dsimp only
  -- the new dimension receives the value of `lhs`
  have hx0 := octEmbedOne_holds hx'
  have hh0 : HalfFiniteOn R.up (OctM.ofMat (n + 1) (octEmbedOne n m)).e :=
    octLhs_halfFinite_ofMat (octLhs_halfFinite_embed hh)
  have hx0' : x' ∈ γO (n + 1) (OctM.ofMat (n + 1) (octEmbedOne n m)).e :=
    (OctM.sat_iff_holds _ _).1 (sat_octOfMat hx0)
  obtain ⟨m1, hm1, hx1⟩ := octAffineImageCore_sound hR (Nat.lt_succ_self n) hc (by decide : (1 : Int) ≠ 0)
    (b := bl) hh0 hx0'
  have hu : linEval el x' (n+1) = linEval el x' n := by simp [linEval, hel n (le_refl n)]
  rw [hu, Int.cast_one, div_one] at hx1
  generalize hU : linEval el x' n + (bl : Rat) = U at hx1 hrel
  have hcall : octAffineImage R true n el bl 1 (OctM.ofMat (n + 1) (octEmbedOne n m)) = some m1 := by
    simp only [octAffineImage, octCloseFirst, if_true, Option.bind_some]
    exact hm1
  rw [hcall]
  simp only [Option.bind_some]
  -- the variables of `lhs` are forgotten: the point `(x, U)`
  have hx3 : upd x n U ∈ γO (n+1) (octLhsForgetVars (n + 1) (lhsVars el n) m1) :=
    holds_octForget_lhsVars (N := n + 1) (n := n) hx1 (lhs_newDim_agree U hag).1 (lhs_newDim_agree U hag).2
  -- `new_var relsym rhs`
  obtain ⟨m4, hm4, hy4, _⟩ := octLhsRefineRel_sound (R := R) hR.up_le (N := n + 1) rel
    (sdl := n + 1) (sdr := lhsSpaceDim er n) (el := fun i => if i = n then (1 : Int) else 0) (er := er) 0 br
    (le_refl _) (by unfold lhsSpaceDim; have := lastNonzero_le er n; omega)
    (fun i h1 h2 => by omega)
    (fun i h1 h2 => by
      by_cases hin : i < n
      · exact lastNonzero_above er n i h1 hin
      · exact her i (by omega))
    hx3 (lhs_newVar_rel her hrel)
  rw [hm4]
  dsimp only
  split
  · exact ⟨_, rfl, octLhs_restrict hy4⟩
  · obtain ⟨m5, hm5, hy5⟩ := octCloseRaw_sound hR hy4
    rw [hm5]
    exact ⟨_, rfl, octLhs_restrict hy5⟩

end

end PPLV.WR

import PPLV.WR.ClosureProofsExact
/-!
# Exact arithmetic: the in-place Floyd–Warshall loop nest produces a shortest-path closed matrix

For `C03.closure_exact`.  With `up = fin` and a non-negative diagonal entry `d k k`, the
in-place sweep of outer iteration `k` equals the simultaneous update
`T i j = min (d i j) (d i k + d k j)` (row `k` and column `k` are fixed points of the sweep), and the
simultaneous update extends the triangle inequality from the pivots `> k` to the pivots `≥ k`.
The diagonal is non-negative all along because entries only decrease and the final test is silent.
-/
namespace PPLV.WR
open ExtRat

/-! ## exact `ExtRat` algebra -/

theorem eadd_comm (a b : ExtRat) : eadd a b = eadd b a := by
  cases a <;> cases b <;> simp [eadd, addUp, add_comm]

theorem eadd_assoc (a b c : ExtRat) : eadd (eadd a b) c = eadd a (eadd b c) := by
  cases a <;> cases b <;> cases c <;> simp [eadd, addUp, add_assoc]

theorem eadd_mono {a b c d : ExtRat} (h1 : a ≤ b) (h2 : c ≤ d) : eadd a c ≤ eadd b d := by
  cases a <;> cases b <;> cases c <;> cases d <;> simp_all [eadd, addUp]
  exact add_le_add h1 h2

theorem fin_le_eadd {x y : Rat} {a b : ExtRat} (h1 : fin x ≤ a) (h2 : fin y ≤ b) : fin (x + y) ≤ eadd a b :=
  fin_le_addUp (fun _ => le_rfl' _) h1 h2

theorem le_eadd_left {a b : ExtRat} (h : fin 0 ≤ a) : b ≤ eadd a b := by
  cases a <;> cases b <;> simp_all [eadd, addUp]

theorem le_eadd_right {a b : ExtRat} (h : fin 0 ≤ a) : b ≤ eadd b a := by
  rw [eadd_comm]; exact le_eadd_left h

theorem eadd_zero_left (a : ExtRat) : eadd (fin 0) a = a := by
  cases a
  · show fin (0 + _) = _; rw [zero_add]
  · rfl

theorem eadd_zero_right (a : ExtRat) : eadd a (fin 0) = a := by rw [eadd_comm, eadd_zero_left]

theorem eadd_pinf_left (b : ExtRat) : eadd pinf b = pinf := by cases b <;> rfl
theorem eadd_pinf_right (a : ExtRat) : eadd a pinf = pinf := by cases a <;> rfl

theorem minA_eq_left {a b : ExtRat} (h : a ≤ b) : minA a b = a := by unfold minA; rw [if_pos h]
theorem minA_pinf (a : ExtRat) : minA a pinf = a := minA_eq_left (le_pinf a)
theorem minA_cases (a b : ExtRat) : minA a b = a ∨ minA a b = b := by
  unfold minA; split <;> simp

/-! ## loops with a progress-indexed invariant -/

theorem loopDown_ind {α : Type} (I : Nat → α → Prop) (n : Nat) (f : Nat → α → α) (a : α)
    (h0 : I n a) (hs : ∀ t, t < n → ∀ s, I (t+1) s → I t (f t s)) : I 0 (loopDown n f a) := by
  induction n generalizing a with
  | zero => exact h0
  | succ n ih =>
    simp only [loopDown]
    exact ih (f n a) (hs n (Nat.lt_succ_self n) a h0) (fun t ht s => hs t (Nat.lt_succ_of_lt ht) s)

theorem loopUp_ind {α : Type} (I : Nat → α → Prop) (n : Nat) (f : Nat → α → α) (a : α)
    (h0 : I 0 a) (hs : ∀ t, t < n → ∀ s, I t s → I (t+1) (f t s)) : I n (loopUp n f a) := by
  induction n with
  | zero => exact h0
  | succ n ih =>
    simp only [loopUp]
    exact hs n (Nat.lt_succ_self n) _ (ih (fun t ht s => hs t (Nat.lt_succ_of_lt ht) s))

/-! ## one outer iteration -/

/-- the body of the `k` loop of `shortest_path_closure_assign` -/
def bdsIterK (up : Rat → ExtRat) (rows k : Nat) (m : Mat) : Mat :=
  loopDown rows (fun i m =>
    if (m i k).isPinf then m
    else loopDown rows (fun j m =>
      if (m k j).isPinf then m else bdsRelax up m i k j) m) m

theorem bdsLoops_eq (up : Rat → ExtRat) (rows : Nat) (m : Mat) :
    bdsLoops up rows m = loopDown rows (bdsIterK up rows) m := rfl

theorem pres_bdsIterK {up : Rat → ExtRat} (hup : ∀ x, fin x ≤ up x) {rows k : Nat} (hk : k < rows)
    (m : Mat) : Pres (SB rows) (fun _ => True) m (bdsIterK up rows k m) := by
  unfold bdsIterK
  apply Pres.loopDown; intro i _ m
  apply Pres.ite; exact Pres.refl _
  apply Pres.loopDown; intro j _ m
  apply Pres.ite; exact Pres.refl _
  exact pres_bdsRelax hup hk i j m

/-- the simultaneous update of pivot `k` -/
def simT (d : Mat) (k i j : Nat) : ExtRat := minA (d i j) (eadd (d i k) (d k j))

theorem simT_col {d : Mat} {k : Nat} (hkk : fin 0 ≤ d k k) (i : Nat) : simT d k i k = d i k :=
  minA_eq_left (le_eadd_right hkk)

theorem simT_row {d : Mat} {k : Nat} (hkk : fin 0 ≤ d k k) (j : Nat) : simT d k k j = d k j :=
  minA_eq_left (le_eadd_left hkk)

/-- row `k` and column `k` of the state are those of `d` -/
def RowCol (R k : Nat) (d m : Mat) : Prop :=
  (∀ a, a < R → m a k = d a k) ∧ (∀ b, b < R → m k b = d k b)

/-- the sweep over row `i` -/
theorem inner_spec {R k i : Nat} (_hk : k < R) (hi : i < R) {d s : Mat} (hkk : fin 0 ≤ d k k)
    (hP : RowCol R k d s) (hrow : ∀ b, b < R → s i b = d i b) :
    let s' := if (s i k).isPinf = true then s
      else loopDown R (fun j m => if (m k j).isPinf = true then m else bdsRelax fin m i k j) s
    RowCol R k d s' ∧ (∀ b, b < R → s' i b = simT d k i b) ∧ (∀ a, a ≠ i → ∀ b, s' a b = s a b) := by
  intro s'
  by_cases hpinf : (s i k).isPinf = true
  · have hs' : s' = s := if_pos hpinf
    rw [hs']
    refine ⟨hP, fun b hb => ?_, fun _ _ _ => rfl⟩
    have : d i k = pinf := by rw [← hP.1 i hi]; exact (isPinf_iff _).1 hpinf
    unfold simT
    rw [this, eadd_pinf_left, minA_pinf]
    exact hrow b hb
  · have hs' : s' = loopDown R (fun j m => if (m k j).isPinf = true then m else bdsRelax fin m i k j) s :=
      if_neg hpinf
    rw [hs']
    have key := loopDown_ind
      (fun u m => RowCol R k d m ∧ (∀ b, u ≤ b → b < R → m i b = simT d k i b) ∧
        (∀ b, b < u → m i b = d i b) ∧ (∀ a, a ≠ i → ∀ b, m a b = s a b))
      R (fun j m => if (m k j).isPinf = true then m else bdsRelax fin m i k j) s
      ⟨hP, fun b h1 h2 => absurd h2 (by omega), hrow, fun _ _ _ => rfl⟩
      (by
        intro t ht m ⟨hPm, hdone, htodo, hoth⟩
        -- the value the step stores at `(i, t)`, in both branches, is `simT d k i t`
        have hval : simT d k i t = minA (m i t) (eadd (m i k) (m k t)) := by
          unfold simT
          rw [htodo t (Nat.lt_succ_self t), hPm.1 i hi, hPm.2 t ht]
        by_cases hp : (m k t).isPinf = true
        · -- skipped: the cell keeps its value, which is already `simT`
          rw [if_pos hp]
          have hmk : m k t = pinf := (isPinf_iff _).1 hp
          have hsame : m i t = simT d k i t := by
            rw [hval, hmk, eadd_pinf_right, minA_pinf]
          refine ⟨hPm, fun b h1 h2 => ?_, fun b hb => htodo b (by omega), hoth⟩
          by_cases hbt : b = t
          · rw [hbt]; exact hsame
          · exact hdone b (by omega) h2
        · rw [if_neg hp]
          have hset : ∀ a b, bdsRelax fin m i k t a b = if a = i ∧ b = t then simT d k i t else m a b := by
            intro a b
            unfold bdsRelax
            rw [Mat.set_apply, hval]
          refine ⟨⟨fun a ha => ?_, fun b hb => ?_⟩, fun b h1 h2 => ?_, fun b hb => ?_, fun a ha b => ?_⟩
          · rw [hset]
            split
            · rename_i hc
              rw [hc.1, ← hc.2, simT_col hkk]
            · exact hPm.1 a ha
          · rw [hset]
            split
            · rename_i hc
              rw [← hc.1, hc.2, simT_row hkk]
            · exact hPm.2 b hb
          · rw [hset]
            by_cases hbt : b = t
            · rw [if_pos ⟨rfl, hbt⟩, hbt]
            · rw [if_neg (by omega)]
              exact hdone b (by omega) h2
          · rw [hset, if_neg (by omega)]
            exact htodo b (by omega)
          · rw [hset, if_neg (by omega)]
            exact hoth a ha b)
    exact ⟨key.1, fun b hb => key.2.1 b (Nat.zero_le b) hb, key.2.2.2⟩

/-- with a non-negative `d k k` the in-place sweep of pivot `k` is the simultaneous update -/
theorem bdsIterK_spec {R k : Nat} (hk : k < R) {d : Mat} (hkk : fin 0 ≤ d k k) :
    ∀ a b, a < R → b < R → bdsIterK fin R k d a b = simT d k a b := by
  unfold bdsIterK
  have key := loopDown_ind
    (fun t m => RowCol R k d m ∧ (∀ a, t ≤ a → a < R → ∀ b, b < R → m a b = simT d k a b) ∧
      (∀ a, a < t → ∀ b, b < R → m a b = d a b))
    R (fun i m => if (m i k).isPinf = true then m
      else loopDown R (fun j m => if (m k j).isPinf = true then m else bdsRelax fin m i k j) m) d
    ⟨⟨fun _ _ => rfl, fun _ _ => rfl⟩, fun a h1 h2 => absurd h2 (by omega), fun _ _ _ _ => rfl⟩
    (by
      intro t ht m ⟨hPm, hdone, htodo⟩
      obtain ⟨h1, h2, h3⟩ := inner_spec hk ht hkk hPm (htodo t (Nat.lt_succ_self t))
      refine ⟨h1, fun a ha1 ha2 b hb => ?_, fun a ha b hb => ?_⟩
      · by_cases hat : a = t
        · rw [hat]; exact h2 b hb
        · rw [h3 a hat b]; exact hdone a (by omega) ha2 b hb
      · rw [h3 a (by omega) b]; exact htodo a (by omega) b hb)
  intro a b ha hb
  exact key.2.1 a (Nat.zero_le a) ha b hb

/-! ## the triangle inequality for the processed pivots -/

/-- triangle inequality through every pivot `k` with `t ≤ k < R` -/
def CK (R t : Nat) (d : Mat) : Prop :=
  ∀ i j k, i < R → j < R → t ≤ k → k < R → d i j ≤ eadd (d i k) (d k j)

theorem ck_step {R t : Nat} (ht : t < R) {d d' : Mat} (hck : CK R (t+1) d) (htt : fin 0 ≤ d t t)
    (hd' : ∀ a b, a < R → b < R → d' a b = simT d t a b) : CK R t d' := by
  intro i j k hi hj hk1 hk2
  rw [hd' i j hi hj, hd' i k hi hk2, hd' k j hk2 hj]
  have base : simT d t i j ≤ eadd (d i t) (d t j) := minA_le_right _ _
  by_cases hkt : k = t
  · rw [hkt, simT_col htt, simT_row htt]; exact base
  · have hk : t + 1 ≤ k := by omega
    have c1 := hck i j k hi hj hk hk2
    have c2 := hck i t k hi ht hk hk2
    have c3 := hck t j k ht hj hk hk2
    have c4 := hck t t k ht ht hk hk2
    unfold simT
    rcases minA_cases (d i k) (eadd (d i t) (d t k)) with h1 | h1 <;>
      rcases minA_cases (d k j) (eadd (d k t) (d t j)) with h2 | h2 <;> rw [h1, h2]
    · exact le_trans' (minA_le_left _ _) c1
    · rw [← eadd_assoc]
      exact le_trans' base (eadd_mono c2 (le_rfl' _))
    · rw [eadd_assoc]
      exact le_trans' base (eadd_mono (le_rfl' _) c3)
    · have e : eadd (eadd (d i t) (d t k)) (eadd (d k t) (d t j))
          = eadd (d i t) (eadd (eadd (d t k) (d k t)) (d t j)) := by
        rw [eadd_assoc, eadd_assoc]
      rw [e]
      refine le_trans' base (eadd_mono (le_rfl' _) ?_)
      exact le_trans' (le_eadd_left htt) (eadd_mono c4 (le_rfl' _))

theorem fw_closed_aux (R : Nat) (n : Nat) (hn : n ≤ R) (d : Mat) (hck : CK R n d)
    (hdiag : ∀ h, h < R → fin 0 ≤ loopDown n (bdsIterK fin R) d h h) :
    CK R 0 (loopDown n (bdsIterK fin R) d) := by
  induction n generalizing d with
  | zero => exact hck
  | succ n ih =>
    simp only [loopDown] at hdiag ⊢
    have hn' : n < R := by omega
    have hmle : MLe (loopDown n (bdsIterK fin R) (bdsIterK fin R n d)) (bdsIterK fin R n d) :=
      (Pres.loopDown (S := SB R) (P := fun _ => True) n (bdsIterK fin R)
        (fun i hi a => pres_bdsIterK (fun _ => le_rfl' _) (by omega) a) _).2
    have hmle1 : MLe (bdsIterK fin R n d) d := (pres_bdsIterK (fun _ => le_rfl' _) hn' d).2
    have hnn : fin 0 ≤ d n n := le_trans' (hdiag n hn') (le_trans' (hmle n n) (hmle1 n n))
    exact ih (by omega) _ (ck_step hn' hck hnn (bdsIterK_spec hn' hnn)) hdiag

theorem negDiag_false_iff (k : Nat) (m : Mat) :
    m.negDiag k = false ↔ ∀ h, h < k → (m h h).isNeg = false := by
  simp [Mat.negDiag]

/-- exact arithmetic: when the emptiness test is silent, the matrix before "restore `+∞`" is
shortest-path closed with zero diagonal -/
theorem bdsCore_closed (R : Nat) (m : Mat) (hne : (bdsCore fin R m).negDiag R = false) :
    Closed R (bdsCore fin R m) := by
  have hnd := (negDiag_false_iff R _).1 hne
  have hmle : MLe (bdsCore fin R m) (Mat.diagDown R (fin 0) m) :=
    (pres_bdsLoops (P := fun _ => True) (fun _ => le_rfl' _) R _).2
  have hdiag : ∀ h, h < R → bdsCore fin R m h h = fin 0 := by
    intro h hh
    have h1 := hmle h h
    rw [Mat.diagDown_apply, if_pos ⟨rfl, hh⟩] at h1
    have h2 := hnd h hh
    cases hv : bdsCore fin R m h h with
    | pinf => rw [hv] at h1; simp at h1
    | fin q =>
      rw [hv] at h1 h2
      simp only [isNeg, decide_eq_false_iff_not, not_lt] at h2
      rw [fin_le_fin] at h1
      rw [le_antisymm h1 h2]
  refine ⟨hdiag, ?_⟩
  have := fw_closed_aux R R le_rfl (Mat.diagDown R (fin 0) m)
    (fun i j k _ _ h1 h2 => absurd h2 (by omega))
    (fun h hh => by
      have := hdiag h hh
      unfold bdsCore at this
      rw [bdsLoops_eq] at this
      rw [this]; exact le_rfl' _)
  intro i j k hi hj hk
  have h := this i j k hi hj (Nat.zero_le k) hk
  unfold bdsCore
  rw [bdsLoops_eq]
  exact h

namespace DBM
variable {n : Nat}

/-- from a potential of the closed core matrix to a point of `m` with the same differences -/
theorem point_of_potential (m : DBM n) {p : Nat → Rat}
    (hp : Holds (SB (n+1)) p (bdsCore fin (n+1) m.e)) :
    ∃ x : Nat → Rat, m.Sat x ∧ ∀ i, val x i = p i - p 0 := by
  refine ⟨fun i => p (i+1) - p 0, ?_, ?_⟩
  · have hv : ∀ i, val (fun i => p (i+1) - p 0) i = p i - p 0 := by
      intro i; cases i <;> simp [val]
    intro i j hi hj
    rw [hv, hv]
    have h1 := hp i j ⟨by omega, by omega⟩
    have h2 : bdsCore fin (n+1) m.e i j ≤ Mat.diagDown (n+1) (fin 0) m.e i j :=
      (pres_bdsLoops (P := fun _ => True) (fun _ => le_rfl' _) (n+1) _).2 i j
    rw [Mat.diagDown_apply] at h2
    have e : p j - p 0 - (p i - p 0) = p j - p i := by ring
    rw [e]
    by_cases hij : i = j
    · rw [hij, m.diag j hj]; exact le_pinf _
    · rw [if_neg (by omega)] at h2
      exact le_trans' h1 h2
  · intro i; cases i <;> simp [val]

theorem le_antisymm' {a b : ExtRat} (h1 : a ≤ b) (h2 : b ≤ a) : a = b := by
  cases a <;> cases b <;> simp_all
  exact le_antisymm h1 h2

theorem closure_core_closed (m : DBM n) (hne : closureEmpty upId m = false) :
    Closed (n+1) (bdsCore fin (n+1) m.e) :=
  bdsCore_closed (n+1) m.e hne

theorem closure_offdiag (m : DBM n) {i j : Nat} (hij : i ≠ j) :
    (closure upId m).e i j = bdsCore fin (n+1) m.e i j := by
  show Mat.diagDown (n+1) pinf (bdsCore fin (n+1) m.e) i j = _
  rw [Mat.diagDown_apply, if_neg (by omega)]

/-- exact arithmetic, test silent: the shape has a point -/
theorem closure_nonempty (m : DBM n) (hne : closureEmpty upId m = false) : ∃ x, m.Sat x := by
  obtain ⟨p, hp⟩ := (closure_core_closed m hne).nonempty
  obtain ⟨x, hx, _⟩ := point_of_potential m hp
  exact ⟨x, hx⟩

/-- exact arithmetic, test silent: every finite entry of the closed matrix is attained, every infinite
entry is unbounded, on the points of `m` -/
theorem closure_tight (m : DBM n) (hne : closureEmpty upId m = false) {i j : Nat} (hi : i ≤ n)
    (hj : j ≤ n) (hij : i ≠ j) :
    (∀ w, (closure upId m).e i j = fin w → ∃ x, m.Sat x ∧ val x j - val x i = w) ∧
    ((closure upId m).e i j = pinf → ∀ B : Rat, ∃ x, m.Sat x ∧ B ≤ val x j - val x i) := by
  have hc := closure_core_closed m hne
  rw [closure_offdiag m hij]
  constructor
  · intro w hw
    obtain ⟨p, hp, hd⟩ := hc.tight_fin (by omega) (by omega) hij hw
    obtain ⟨x, hx, hv⟩ := point_of_potential m hp
    exact ⟨x, hx, by rw [hv, hv]; linarith⟩
  · intro hw B
    obtain ⟨p, hp, hd⟩ := hc.tight_inf (by omega) (by omega) hij hw B
    obtain ⟨x, hx, hv⟩ := point_of_potential m hp
    exact ⟨x, hx, by rw [hv, hv]; linarith⟩

/-- exact arithmetic: closed matrices of equal non-empty shapes are equal -/
theorem closure_canonical (m1 m2 : DBM n) (h1 : closureEmpty upId m1 = false)
    (h2 : closureEmpty upId m2 = false) (heq : ∀ x, m1.Sat x ↔ m2.Sat x) {i j : Nat} (hi : i ≤ n)
    (hj : j ≤ n) : (closure upId m1).e i j = (closure upId m2).e i j := by
  by_cases hij : i = j
  · rw [hij, (closure upId m1).diag j hj, (closure upId m2).diag j hj]
  · have half : ∀ (a b : DBM n), closureEmpty upId a = false → (∀ x, a.Sat x → b.Sat x) →
        (closure upId a).e i j ≤ (closure upId b).e i j := by
      intro a b ha hab
      have ta := closure_tight a ha hi hj hij
      refine le_of_forall_fin_le fun w hw => ?_
      obtain ⟨x, hx, hd⟩ : ∃ x, a.Sat x ∧ w ≤ val x j - val x i := by
        cases he : (closure upId a).e i j with
        | fin v =>
          obtain ⟨x, hx, hd⟩ := ta.1 v he
          rw [he, fin_le_fin] at hw
          exact ⟨x, hx, by rw [hd]; exact hw⟩
        | pinf => exact ta.2 he w
      exact le_trans' (fin_le_fin.2 hd) (closure_sat (up := upId) (fun _ => le_rfl' _) b x (hab x hx) i j hi hj)
    exact le_antisymm' (half m1 m2 h1 (fun x => (heq x).1)) (half m2 m1 h2 (fun x => (heq x).2))

end DBM
end PPLV.WR

import PPLV.WR.ReduceOctProofsLeaders
/-!
# Octagon reduction: the four-argument `compute_leaders`: the non-singular leaders in increasing
order (coherent pairs), the singular class and its least element
-/
namespace PPLV.WR
open ExtRat (fin pinf)

section closed
variable {n : Nat} (c : OctM n) (hc : c.IsStronglyClosed)
variable {succ lead : Nat → Nat} (hs : IsOctSucc (2 * n) c.e succ) (hl : IsOctLead (2 * n) c.e lead)

include hc hs in
/-- an index with a class-mate below it is the successor of one of them -/
theorem IsOctSucc.exists_pred {i : Nat} (hi : i < 2 * n) :
    ∀ d j, i - j ≤ d → j < i → OZEq c.e j i → ∃ i', i' < i ∧ succ i' = i := by
  intro d
  induction d with
  | zero => intro j h1 h2; omega
  | succ d ih =>
    intro j h1 h2 hz
    have hge := hs.ge j
    have hne : succ j ≠ j := fun e => hs.self j i e h2 hi hz.symm
    have hle : succ j ≤ i := by
      by_cases h : i < succ j
      · exact absurd hz.symm (hs.between j i h2 h)
      · omega
    by_cases e : succ j = i
    · exact ⟨j, h2, e⟩
    · have hsj : succ j < 2 * n := by omega
      exact ih (succ j) (by omega) (by omega) (OZEq.trans c hc hsj (by omega) hi (hs.zeq j) hz)

include hc hs hl in
/-- `dealt_with[i]` is still clear when row `i` is visited iff `i` is a leader -/
theorem IsOctSucc.leader_iff {i : Nat} (hi : i < 2 * n) :
    (¬ ∃ i', i' < i ∧ succ i' = i) ↔ lead i = i := by
  constructor
  · intro h
    by_cases e : lead i = i
    · exact e
    · have := hl.le i hi
      exact absurd (hs.exists_pred c hc hi (i - lead i) (lead i) (Nat.le_refl _) (by omega) (hl.zeq i hi)) h
  · rintro e ⟨i', h1, h2⟩
    have hz : OZEq c.e i' i := by have := hs.zeq i'; rw [h2] at this; exact this.symm
    have := hl.least i i' hi (by omega) hz
    omega

include hs hl in
/-- the test `next_i == coherent_index(i)` on a leader -/
theorem IsOctSucc.sing_iff {i : Nat} (hi : i < 2 * n) (hli : lead i = i) :
    succ i = cidx i ↔ OZEq c.e i (cidx i) := by
  constructor
  · intro e; have := hs.zeq i; rw [e] at this; exact this.symm
  · intro hz
    have hci : cidx i < 2 * n := cidx_lt hi
    have h1 := hl.least i (cidx i) hi hci hz.symm
    rw [hli] at h1
    have hsp := cidx_spec i
    have hlt : i < cidx i := by omega
    have hne : succ i ≠ i := fun e => hs.self i (cidx i) e hlt hci hz.symm
    have hge := hs.ge i
    by_cases h : cidx i < succ i
    · exact absurd hz.symm (hs.between i (cidx i) hlt h)
    · omega

/-- the filter of the non-singular leaders -/
def nslP (m : Mat) (lead : Nat → Nat) (i : Nat) : Bool := lead i == i && !(decide (OZEq m i (cidx i)))

theorem nslP_iff (m : Mat) (lead : Nat → Nat) (i : Nat) :
    nslP m lead i = true ↔ lead i = i ∧ ¬ OZEq m i (cidx i) := by
  unfold nslP; simp

/-- invariant of the loop of the four-argument `compute_leaders` after `r` rows -/
structure L4Inv (m : Mat) (succ lead : Nat → Nat) (r : Nat) (st : OctLeaders × BVec) : Prop where
  dealt : ∀ k, st.2 k = true ↔ ∃ i, i < r ∧ succ i = k
  nsl : st.1.no_sing_leaders = (List.range r).filter (nslP m lead)
  ex : st.1.exist_sing_class = true ↔ ∃ i, i < r ∧ lead i = i ∧ OZEq m i (cidx i)
  sl : st.1.exist_sing_class = true →
    st.1.sing_leader < r ∧ lead st.1.sing_leader = st.1.sing_leader ∧ OZEq m st.1.sing_leader (cidx st.1.sing_leader)

def l4Step (successor : Nat → Nat) (i : Nat) (st : OctLeaders × BVec) : OctLeaders × BVec :=
  let next_i := successor i
  let out :=
    if !st.2 i then
      if next_i = cidx i then { st.1 with exist_sing_class := true, sing_leader := i }
      else { st.1 with no_sing_leaders := st.1.no_sing_leaders ++ [i] }
    else st.1
  (out, st.2.set next_i true)

theorem octComputeLeaders4_eq (rows : Nat) (successor : Vec) :
    octComputeLeaders4 rows successor = (loopUp rows (l4Step successor) ({}, BVec.const false)).1 := rfl

include hc hs hl in
theorem l4_inv (r : Nat) (hr : r ≤ 2 * n) :
    L4Inv c.e succ lead r (loopUp r (l4Step succ) ({}, BVec.const false)) := by
  induction r with
  | zero =>
    refine ⟨fun k => ?_, rfl, ?_, ?_⟩
    · simp [loopUp]
    · simp [loopUp]
    · simp [loopUp]
  | succ r ih =>
    have ih := ih (Nat.le_of_succ_le hr)
    have hrn : r < 2 * n := hr
    simp only [loopUp]
    generalize loopUp r (l4Step succ) ({}, BVec.const false) = st at ih ⊢
    obtain ⟨i1, i2, i3, i4⟩ := ih
    have hlead : st.2 r = false ↔ lead r = r := by
      rw [← hs.leader_iff c hc hl hrn, ← i1 r]; cases st.2 r <;> simp
    have hdealt : ∀ k, (l4Step succ r st).2 k = true ↔ ∃ i, i < r + 1 ∧ succ i = k := by
      intro k
      show (st.2.set (succ r) true) k = true ↔ _
      rw [BVec.set_apply]
      by_cases e : k = succ r
      · rw [if_pos e]; exact ⟨fun _ => ⟨r, Nat.lt_succ_self r, e.symm⟩, fun _ => rfl⟩
      · rw [if_neg e, i1 k]
        constructor
        · rintro ⟨i, h1, h2⟩; exact ⟨i, Nat.lt_succ_of_lt h1, h2⟩
        · rintro ⟨i, h1, h2⟩
          by_cases e' : i = r
          · subst e'; exact absurd h2.symm e
          · exact ⟨i, lt_of_le_of_ne (Nat.le_of_lt_succ h1) e', h2⟩
    have hrange : ∀ b : Bool, nslP c.e lead r = b →
        (List.range (r + 1)).filter (nslP c.e lead)
          = (List.range r).filter (nslP c.e lead) ++ (if b then [r] else []) := by
      intro b hb
      rw [List.range_succ, List.filter_append]
      congr 1
      cases b <;> simp [List.filter, hb]
    cases hd : st.2 r
    · -- a leader
      have hlr : lead r = r := hlead.1 hd
      by_cases hsing : succ r = cidx r
      · have hz : OZEq c.e r (cidx r) := (hs.sing_iff c hl hrn hlr).1 hsing
        have hout : (l4Step succ r st).1 = { st.1 with exist_sing_class := true, sing_leader := r } := by
          simp [l4Step, hd, hsing]
        have hP : nslP c.e lead r = false := by
          cases e : nslP c.e lead r
          · rfl
          · exact absurd hz ((nslP_iff _ _ _).1 e).2
        refine ⟨hdealt, ?_, ?_, ?_⟩
        · rw [hout, hrange false hP]; simpa using i2
        · rw [hout]; exact ⟨fun _ => ⟨r, Nat.lt_succ_self r, hlr, hz⟩, fun _ => rfl⟩
        · rw [hout]; intro _; exact ⟨Nat.lt_succ_self r, hlr, hz⟩
      · have hz : ¬ OZEq c.e r (cidx r) := fun h => hsing ((hs.sing_iff c hl hrn hlr).2 h)
        have hout : (l4Step succ r st).1 = { st.1 with no_sing_leaders := st.1.no_sing_leaders ++ [r] } := by
          simp [l4Step, hd, hsing]
        have hP : nslP c.e lead r = true := (nslP_iff _ _ _).2 ⟨hlr, hz⟩
        refine ⟨hdealt, ?_, ?_, ?_⟩
        · rw [hout, hrange true hP]; simp [i2]
        · rw [hout]
          show st.1.exist_sing_class = true ↔ _
          rw [i3]
          constructor
          · rintro ⟨i, h1, h2⟩; exact ⟨i, Nat.lt_succ_of_lt h1, h2⟩
          · rintro ⟨i, h1, h2, h3⟩
            by_cases e' : i = r
            · subst e'; exact absurd h3 hz
            · exact ⟨i, lt_of_le_of_ne (Nat.le_of_lt_succ h1) e', h2, h3⟩
        · rw [hout]
          intro h
          obtain ⟨a, b⟩ := i4 h
          exact ⟨Nat.lt_succ_of_lt a, b⟩
    · -- not a leader
      have hlr : lead r ≠ r := fun e => by rw [hlead.2 e] at hd; cases hd
      have hout : (l4Step succ r st).1 = st.1 := by simp [l4Step, hd]
      have hP : nslP c.e lead r = false := by
        cases e : nslP c.e lead r
        · rfl
        · exact absurd ((nslP_iff _ _ _).1 e).1 hlr
      refine ⟨hdealt, ?_, ?_, ?_⟩
      · rw [hout, hrange false hP]; simpa using i2
      · rw [hout, i3]
        constructor
        · rintro ⟨i, h1, h2⟩; exact ⟨i, Nat.lt_succ_of_lt h1, h2⟩
        · rintro ⟨i, h1, h2, h3⟩
          by_cases e' : i = r
          · subst e'; exact absurd h2 hlr
          · exact ⟨i, lt_of_le_of_ne (Nat.le_of_lt_succ h1) e', h2, h3⟩
      · rw [hout]
        intro h
        obtain ⟨a, b⟩ := i4 h
        exact ⟨Nat.lt_succ_of_lt a, b⟩

/-- abstract description of the outputs of the four-argument `compute_leaders` -/
structure IsOctLeaders4 (N : Nat) (m : Mat) (lead : Nat → Nat) (L : OctLeaders) : Prop where
  nsl : L.no_sing_leaders = (List.range N).filter (nslP m lead)
  ex : L.exist_sing_class = true ↔ ∃ i, i < N ∧ OZEq m i (cidx i)
  sl_lt : L.exist_sing_class = true → L.sing_leader < N
  sl_sing : L.exist_sing_class = true → OZEq m L.sing_leader (cidx L.sing_leader)
  sl_least : L.exist_sing_class = true → ∀ i, i < N → OZEq m i (cidx i) → L.sing_leader ≤ i
  sl_even : L.exist_sing_class = true → L.sing_leader % 2 = 0

include hl in
/-- the twin of the leader of a non-singular class is the leader of its class -/
theorem IsOctLead.nsl_cidx {j : Nat} (h : j < 2 * n ∧ nslP c.e lead j = true) :
    cidx j < 2 * n ∧ nslP c.e lead (cidx j) = true := by
  rw [nslP_iff] at h ⊢
  obtain ⟨hj, h2, h3⟩ := h
  have hcj := cidx_lt hj
  rw [cidx_cidx]
  refine ⟨hcj, Nat.le_antisymm (hl.le _ hcj) ?_, fun hz => h3 hz.symm⟩
  have hz := hl.zeq _ hcj
  -- the twin of the leader of `cidx j` is equivalent to `j`, hence not below `j`
  have hz' : OZEq c.e (cidx (lead (cidx j))) j := by
    have := OZEq.cidx hz; rwa [cidx_cidx] at this
  have h1 := hl.least _ _ hj (cidx_lt (lt_of_le_of_lt (hl.le _ hcj) hcj)) hz'
  rw [h2] at h1
  exact cidx_le_of_le_cidx h1 fun e => h3 (by rw [e] at hz; exact hz)

include hl in
/-- a leader of a non-singular class and its coherent twin -/
theorem IsOctLead.pair (h : Nat) :
    (2 * h < 2 * n ∧ nslP c.e lead (2 * h) = true) ↔ (2 * h + 1 < 2 * n ∧ nslP c.e lead (2 * h + 1) = true) := by
  constructor
  · intro h'
    have := IsOctLead.nsl_cidx c hl h'
    rwa [cidx_even] at this
  · intro h'
    have := IsOctLead.nsl_cidx c hl h'
    rwa [cidx_odd] at this

include hc hs hl in
theorem octComputeLeaders4_spec' :
    IsOctLeaders4 (2 * n) c.e lead (loopUp (2 * n) (l4Step succ) ({}, BVec.const false)).1 := by
  obtain ⟨_, i2, i3, i4⟩ := l4_inv c hc hs hl (2 * n) (Nat.le_refl _)
  generalize (loopUp (2 * n) (l4Step succ) ({}, BVec.const false)) = st at i2 i3 i4 ⊢
  have hsl_least : st.1.exist_sing_class = true → ∀ i, i < 2 * n → OZEq c.e i (cidx i) → st.1.sing_leader ≤ i := by
    intro h i hi hz
    obtain ⟨a, b, d⟩ := i4 h
    have := hl.least _ i a hi (OZEq.sing_unique c hc hi a hz d)
    rwa [b] at this
  refine ⟨i2, ?_, fun h => (i4 h).1, fun h => (i4 h).2.2, hsl_least, ?_⟩
  · rw [i3]
    constructor
    · rintro ⟨i, h1, _, h3⟩; exact ⟨i, h1, h3⟩
    · rintro ⟨i, h1, h3⟩
      have hlt : lead i < 2 * n := lt_of_le_of_lt (hl.le i h1) h1
      have hz := hl.zeq i h1
      refine ⟨lead i, hlt, (hl.eq_iff c hc hlt h1).2 hz, ?_⟩
      · have hci : cidx i < 2 * n := cidx_lt h1
        exact OZEq.trans c hc hlt hci (cidx_lt hlt)
          (OZEq.trans c hc hlt h1 hci hz h3) (OZEq.cidx hz.symm)
  · intro h
    obtain ⟨a, b, d⟩ := i4 h
    exact even_of_le_cidx (hsl_least h _ (cidx_lt a) (by rw [cidx_cidx]; exact d.symm))

end closed

section final
variable {n : Nat} (c : OctM n) (hc : c.IsStronglyClosed)
include hc

theorem oct_leaders4_spec :
    IsOctLeaders4 (2 * n) c.e (octComputeLeaders (2 * n) c.e)
      (octComputeLeaders4 (2 * n) (octComputeSuccessors (2 * n) c.e)) := by
  rw [octComputeLeaders4_eq]
  exact octComputeLeaders4_spec' c hc (octComputeSuccessors_isOctSucc (2 * n) c.e)
    (octComputeLeaders_isOctLead c hc)

theorem oct_leaders4_spec_full :
    let lead := octComputeLeaders (2 * n) c.e
    let L := octComputeLeaders4 (2 * n) (octComputeSuccessors (2 * n) c.e)
    L.no_sing_leaders
      = (List.range (2 * n)).filter (fun i => lead i == i && !(decide (OZEq c.e i (cidx i)))) ∧
    (L.exist_sing_class = true ↔ ∃ i, i < 2 * n ∧ OZEq c.e i (cidx i)) ∧
    (L.exist_sing_class = true → L.sing_leader < 2 * n ∧ OZEq c.e L.sing_leader (cidx L.sing_leader) ∧
      (∀ i, i < 2 * n → OZEq c.e i (cidx i) → L.sing_leader ≤ i) ∧ L.sing_leader % 2 = 0) ∧
    (∀ h, 2 * h ∈ L.no_sing_leaders ↔ 2 * h + 1 ∈ L.no_sing_leaders) := by
  intro lead L
  have h := oct_leaders4_spec c hc
  refine ⟨h.nsl, h.ex, fun e => ⟨h.sl_lt e, h.sl_sing e, h.sl_least e, h.sl_even e⟩, fun k => ?_⟩
  show 2 * k ∈ (octComputeLeaders4 (2 * n) (octComputeSuccessors (2 * n) c.e)).no_sing_leaders ↔
    2 * k + 1 ∈ (octComputeLeaders4 (2 * n) (octComputeSuccessors (2 * n) c.e)).no_sing_leaders
  rw [h.nsl, List.mem_filter, List.mem_filter, List.mem_range, List.mem_range]
  exact IsOctLead.pair c (octComputeLeaders_isOctLead c hc) k

end final

end PPLV.WR

import PPLV.WR.ClosureProofsBDS
/-!
# Exact arithmetic: a shortest-path closed matrix is the canonical (tightest) one

For `C03.closure_exact`: for a matrix `c` with zero diagonal and the triangle inequality
(`Closed`), every finite entry `c a b` is *attained* by a point of the matrix, every infinite entry is
unbounded on it, and the matrix has a point.  (Extension of a partial valuation one index at a time;
the interval of admissible values of the new index is non-empty by the triangle inequality.)
-/
namespace PPLV.WR
open ExtRat

/-- exact addition on `ℚ ∪ {+∞}` -/
abbrev eadd (a b : ExtRat) : ExtRat := addUp fin a b

/-- zero diagonal and triangle inequality on the first `R` indices -/
structure Closed (R : Nat) (c : Mat) : Prop where
  diag : ∀ i, i < R → c i i = fin 0
  tri : ∀ i j k, i < R → j < R → k < R → c i j ≤ eadd (c i k) (c k j)

/-- the potential `p` satisfies the entries between indices of `L` -/
def Among (L : List Nat) (p : Nat → Rat) (c : Mat) : Prop :=
  ∀ i, i ∈ L → ∀ j, j ∈ L → fin (p j - p i) ≤ c i j

theorem Among.mono {L L' : List Nat} {p : Nat → Rat} {c : Mat} (h : ∀ i, i ∈ L' → i ∈ L)
    (ha : Among L p c) : Among L' p c :=
  fun i hi j hj => ha i (h i hi) j (h j hj)

theorem exists_le_all (hi : List Rat) : ∃ v : Rat, ∀ u, u ∈ hi → v ≤ u := by
  induction hi with
  | nil => exact ⟨0, fun _ h => by simp at h⟩
  | cons u us ih =>
    obtain ⟨v, hv⟩ := ih
    refine ⟨min v u, fun x hx => ?_⟩
    rcases List.mem_cons.1 hx with rfl | hx
    · exact min_le_right _ _
    · exact le_trans (min_le_left _ _) (hv x hx)

theorem exists_between (lo hi : List Rat) (h : ∀ l, l ∈ lo → ∀ u, u ∈ hi → l ≤ u) :
    ∃ v : Rat, (∀ l, l ∈ lo → l ≤ v) ∧ (∀ u, u ∈ hi → v ≤ u) := by
  induction lo with
  | nil =>
    obtain ⟨v, hv⟩ := exists_le_all hi
    exact ⟨v, fun _ h => by simp at h, hv⟩
  | cons l ls ih =>
    obtain ⟨v, hv1, hv2⟩ := ih (fun x hx u hu => h x (List.mem_cons_of_mem _ hx) u hu)
    refine ⟨max v l, fun x hx => ?_, fun u hu => ?_⟩
    · rcases List.mem_cons.1 hx with rfl | hx
      · exact le_max_right _ _
      · exact le_trans (hv1 x hx) (le_max_left _ _)
    · exact max_le (hv2 u hu) (h l (List.mem_cons_self) u hu)

/-- lower bound of the new index `t` from `i`: `p_i - c_{t,i}` -/
def lowB (c : Mat) (p : Nat → Rat) (t i : Nat) : Option Rat :=
  match c t i with
  | fin u => some (p i - u)
  | pinf => none

/-- upper bound of the new index `t` from `i`: `p_i + c_{i,t}` -/
def uppB (c : Mat) (p : Nat → Rat) (t i : Nat) : Option Rat :=
  match c i t with
  | fin u => some (p i + u)
  | pinf => none

theorem extend {R : Nat} {c : Mat} (hc : Closed R c) (L : List Nat) (hL : ∀ i, i ∈ L → i < R)
    (p : Nat → Rat) (hp : Among L p c) (t : Nat) (ht : t < R) :
    ∃ p' : Nat → Rat, (∀ i, i ∈ L → p' i = p i) ∧ Among (t :: L) p' c := by
  by_cases htL : t ∈ L
  · refine ⟨p, fun _ _ => rfl, hp.mono ?_⟩
    intro i hi
    rcases List.mem_cons.1 hi with rfl | hi
    · exact htL
    · exact hi
  · obtain ⟨v, hv1, hv2⟩ := exists_between (L.filterMap (lowB c p t)) (L.filterMap (uppB c p t)) (by
      intro l hl u hu
      obtain ⟨i, hi, hli⟩ := List.mem_filterMap.1 hl
      obtain ⟨j, hj, huj⟩ := List.mem_filterMap.1 hu
      unfold lowB at hli
      unfold uppB at huj
      cases hti : c t i with
      | pinf => rw [hti] at hli; simp at hli
      | fin a =>
        cases hjt : c j t with
        | pinf => rw [hjt] at huj; simp at huj
        | fin b =>
          rw [hti] at hli; rw [hjt] at huj
          simp only [Option.some.injEq] at hli huj
          have h1 := hp j hj i hi
          have h2 := hc.tri j i t (hL j hj) (hL i hi) ht
          rw [hjt, hti] at h2
          have h3 := le_trans' h1 h2
          simp only [eadd, addUp, fin_le_fin] at h3
          linarith)
    obtain ⟨p', hpt, hpL⟩ : ∃ p' : Nat → Rat, p' t = v ∧ ∀ i, i ∈ L → p' i = p i := by
      refine ⟨fun i => if i = t then v else p i, by simp, fun i hi => ?_⟩
      have : i ≠ t := fun h => htL (h ▸ hi)
      simp [this]
    refine ⟨p', hpL, ?_⟩
    intro i hi j hj
    rcases List.mem_cons.1 hi with hit | hiL <;> rcases List.mem_cons.1 hj with hjt | hjL
    · rw [hit, hjt]
      simp [hc.diag t ht]
    · rw [hit, hpt, hpL j hjL]
      cases htj : c t j with
      | pinf => exact le_pinf _
      | fin u =>
        have := hv1 (p j - u) (List.mem_filterMap.2 ⟨j, hjL, by simp [lowB, htj]⟩)
        rw [fin_le_fin]; linarith
    · rw [hjt, hpt, hpL i hiL]
      cases hit : c i t with
      | pinf => exact le_pinf _
      | fin u =>
        have := hv2 (p i + u) (List.mem_filterMap.2 ⟨i, hiL, by simp [uppB, hit]⟩)
        rw [fin_le_fin]; linarith
    · rw [hpL i hiL, hpL j hjL]
      exact hp i hiL j hjL

theorem extend_all {R : Nat} {c : Mat} (hc : Closed R c) (L : List Nat) (hL : ∀ i, i ∈ L → i < R)
    (p : Nat → Rat) (hp : Among L p c) (k : Nat) (hk : k ≤ R) :
    ∃ p' : Nat → Rat, (∀ i, i ∈ L → p' i = p i) ∧ Among (List.range k ++ L) p' c := by
  induction k with
  | zero => exact ⟨p, fun _ _ => rfl, by simpa using hp⟩
  | succ k ih =>
    obtain ⟨p1, h1, h2⟩ := ih (by omega)
    obtain ⟨p2, h3, h4⟩ := extend hc (List.range k ++ L) (by
      intro i hi
      rcases List.mem_append.1 hi with hi | hi
      · have := List.mem_range.1 hi; omega
      · exact hL i hi) p1 h2 k (by omega)
    refine ⟨p2, fun i hi => ?_, h4.mono ?_⟩
    · rw [h3 i (List.mem_append_right _ hi), h1 i hi]
    · intro i hi
      rcases List.mem_append.1 hi with hi | hi
      · have := List.mem_range.1 hi
        by_cases hik : i = k
        · subst hik; exact List.mem_cons_self
        · exact List.mem_cons_of_mem _ (List.mem_append_left _ (List.mem_range.2 (by omega)))
      · exact List.mem_cons_of_mem _ (List.mem_append_right _ hi)

theorem holds_of_among {R : Nat} {c : Mat} {p : Nat → Rat} {L : List Nat}
    (h : Among (List.range R ++ L) p c) : Holds (SB R) p c :=
  fun a b hab => h a (List.mem_append_left _ (List.mem_range.2 hab.1)) b
    (List.mem_append_left _ (List.mem_range.2 hab.2))

/-- a closed matrix has a point -/
theorem Closed.nonempty {R : Nat} {c : Mat} (hc : Closed R c) : ∃ p : Nat → Rat, Holds (SB R) p c := by
  obtain ⟨p, _, h⟩ := extend_all hc [] (by simp) (fun _ => 0) (by intro i hi; simp at hi) R le_rfl
  exact ⟨p, holds_of_among h⟩

/-- every value `w` between `-c b a` and `c a b` is the difference `p b - p a` of a point -/
theorem Closed.attains {R : Nat} {c : Mat} (hc : Closed R c) {a b : Nat} (ha : a < R) (hb : b < R)
    (hab : a ≠ b) (w : Rat) (h1 : fin w ≤ c a b) (h2 : fin (-w) ≤ c b a) :
    ∃ p : Nat → Rat, Holds (SB R) p c ∧ p b - p a = w := by
  obtain ⟨p0, hp0a, hp0b⟩ : ∃ p0 : Nat → Rat, p0 a = 0 ∧ p0 b = w :=
    ⟨fun i => if i = b then w else 0, by simp [hab], by simp⟩
  have hp0 : Among [a, b] p0 c := by
    intro i hi j hj
    simp only [List.mem_cons, List.not_mem_nil, or_false] at hi hj
    rcases hi with hi | hi <;> rcases hj with hj | hj <;> rw [hi, hj]
    · simp [hc.diag _ ha]
    · rw [hp0a, hp0b, sub_zero]; exact h1
    · rw [hp0a, hp0b, zero_sub]; exact h2
    · simp [hc.diag _ hb]
  obtain ⟨p, hp, h⟩ := extend_all hc [a, b] (by
    intro i hi
    simp only [List.mem_cons, List.not_mem_nil, or_false] at hi
    rcases hi with rfl | rfl <;> assumption) p0 hp0 R le_rfl
  refine ⟨p, holds_of_among h, ?_⟩
  rw [hp a (by simp), hp b (by simp), hp0a, hp0b, sub_zero]

/-- a finite entry is attained -/
theorem Closed.tight_fin {R : Nat} {c : Mat} (hc : Closed R c) {a b : Nat} (ha : a < R) (hb : b < R)
    (hab : a ≠ b) {w : Rat} (hw : c a b = fin w) :
    ∃ p : Nat → Rat, Holds (SB R) p c ∧ p b - p a = w := by
  refine hc.attains ha hb hab w (by rw [hw]; exact le_rfl' _) ?_
  cases hba : c b a with
  | pinf => exact le_pinf _
  | fin u =>
    have := hc.tri a a b ha ha hb
    rw [hc.diag a ha, hw, hba] at this
    simp only [eadd, addUp, fin_le_fin] at this
    rw [fin_le_fin]; linarith

/-- an infinite entry is unbounded -/
theorem Closed.tight_inf {R : Nat} {c : Mat} (hc : Closed R c) {a b : Nat} (ha : a < R) (hb : b < R)
    (hab : a ≠ b) (hw : c a b = pinf) (B : Rat) :
    ∃ p : Nat → Rat, Holds (SB R) p c ∧ B ≤ p b - p a := by
  cases hba : c b a with
  | pinf =>
    obtain ⟨p, h1, h2⟩ := hc.attains ha hb hab B (by rw [hw]; exact le_pinf _) (by rw [hba]; exact le_pinf _)
    exact ⟨p, h1, by rw [h2]⟩
  | fin u =>
    obtain ⟨p, h1, h2⟩ := hc.attains ha hb hab (max B (-u)) (by rw [hw]; exact le_pinf _) (by
      rw [hba, fin_le_fin]
      have := le_max_right B (-u)
      linarith)
    exact ⟨p, h1, by rw [h2]; exact le_max_left _ _⟩

end PPLV.WR

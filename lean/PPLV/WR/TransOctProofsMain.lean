import PPLV.WR.TransOctProofsExploit
import PPLV.WR.TransOctProofsSpecial
import PPLV.WR.TransOctProofsTranslate
/-!
# `Octagonal_Shape<T>::affine_image`: every branch
-/
namespace PPLV.WR
open ExtRat

/-- the forms `expr == b`, `±den*var + b`, `±den*w + b` need neither `CoeffExact` nor `HalfFiniteOn` -/
theorem octAffineImageCore_sound_special {R : Rnd} (hR : R.Sound) {n vid : Nat} (hv : vid < n)
    {e : Nat → Int} {b den : Int} (hden : den ≠ 0) {m : Mat} {x : Nat → Rat} (hx : x ∈ γO n m)
    (hsp : exprT e (lastNonzero e n) = 0 ∨
      (exprT e (lastNonzero e n) = 1 ∧ (e (lastNonzero e n - 1) = den ∨ e (lastNonzero e n - 1) = - den))) :
    ∃ m', octAffineImageCore R n vid e b den m = some m' ∧
      upd x vid ((linEval e x n + b) / den) ∈ γO n m' := by
  rcases hsp with h0 | h1
  · exact octAffineImageCore_special_sound hR hv hden hx (Or.inl h0)
  · by_cases hwv : lastNonzero e n - 1 = vid
    · exact octAffineImageCore_translate_sound hR hv hden hx h1.1 hwv h1.2
    · exact octAffineImageCore_special_sound hR hv hden hx (Or.inr ⟨h1.1, hwv, h1.2⟩)

theorem octAffineImageCore_sound {R : Rnd} (hR : R.Sound) {n vid : Nat} (hv : vid < n)
    {e : Nat → Int} (hc : CoeffExact R e) {b den : Int} (hden : den ≠ 0) {m : Mat}
    (hh : HalfFiniteOn R.up m) {x : Nat → Rat} (hx : x ∈ γO n m) :
    ∃ m', octAffineImageCore R n vid e b den m = some m' ∧
      upd x vid ((linEval e x n + b) / den) ∈ γO n m' := by
  by_cases hsp : exprT e (lastNonzero e n) = 0 ∨
      (exprT e (lastNonzero e n) = 1 ∧ (e (lastNonzero e n - 1) = den ∨ e (lastNonzero e n - 1) = - den))
  · exact octAffineImageCore_sound_special hR hv hden hx hsp
  · obtain ⟨h0, h1⟩ := not_or.1 hsp
    exact octAffineImageCore_general_sound hR hv hc hden hh hx h0 h1

theorem halfFiniteOn_exact (m : Mat) : HalfFiniteOn Rnd.exact.up m := by
  intro u q _; simp [Rnd.exact, upId]
theorem halfFiniteOn_ceil (m : Mat) : HalfFiniteOn Rnd.ceil.up m := by
  intro u q _; simp [Rnd.ceil, upCeil]

end PPLV.WR

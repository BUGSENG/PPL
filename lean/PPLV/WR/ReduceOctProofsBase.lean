import PPLV.WR.ReduceProofsCodeClosed
/-!
# Octagon reduction, base facts: `ExtRat` inversion lemmas, coherence of the full view `octFull`, raw reads
inside the stored part, zero-equivalence `OZEq` is an equivalence compatible with `cidx`
-/
namespace PPLV.WR
open ExtRat (fin pinf addUp halfUp)

/-! ## `ExtRat` inversion -/

theorem eadd_le_fin_inv {x y : ExtRat} {v : Rat} (h : eadd x y ≤ fin v) :
    ∃ a b, x = fin a ∧ y = fin b ∧ a + b ≤ v := by
  cases x with
  | pinf => rw [eadd_pinf_left] at h; exact absurd h (ExtRat.not_pinf_le_fin v)
  | fin a =>
    cases y with
    | pinf => rw [eadd_pinf_right] at h; exact absurd h (ExtRat.not_pinf_le_fin v)
    | fin b => exact ⟨a, b, rfl, rfl, ExtRat.fin_le_fin.1 h⟩

theorem halfUp_fin (a : Rat) : halfUp fin (fin a) = fin (a / 2) := rfl
theorem halfUp_pinf : halfUp fin pinf = pinf := rfl

theorem half_eadd_le_fin_inv {x y : ExtRat} {v : Rat} (h : halfUp fin (eadd x y) ≤ fin v) :
    ∃ a b, x = fin a ∧ y = fin b ∧ (a + b) / 2 ≤ v := by
  cases x with
  | pinf => rw [eadd_pinf_left] at h; exact absurd h (ExtRat.not_pinf_le_fin v)
  | fin a =>
    cases y with
    | pinf => rw [eadd_pinf_right] at h; exact absurd h (ExtRat.not_pinf_le_fin v)
    | fin b => exact ⟨a, b, rfl, rfl, ExtRat.fin_le_fin.1 h⟩

/-! ## index arithmetic -/

theorem cidx_ne (i : Nat) : cidx i ≠ i := by
  unfold cidx; split <;> omega

theorem cidx_inj {i j : Nat} (h : cidx i = cidx j) : i = j := by
  have := congrArg cidx h; rwa [cidx_cidx, cidx_cidx] at this

theorem cidx_eq_iff {i j : Nat} : cidx i = j ↔ i = cidx j := by
  constructor
  · intro h; rw [← h, cidx_cidx]
  · intro h; rw [h, cidx_cidx]

theorem cidx_of_even {i : Nat} (h : i % 2 = 0) : cidx i = i + 1 := by
  unfold cidx; split <;> omega

theorem cidx_of_odd {i : Nat} (h : i % 2 = 1) : cidx i = i - 1 := by
  unfold cidx; split <;> omega

theorem cidx_even_of_odd {i : Nat} (h : ¬ i % 2 = 0) : cidx i % 2 = 0 := by
  have := cidx_spec i; omega

theorem even_of_le_cidx {i : Nat} (h : i ≤ cidx i) : i % 2 = 0 := by
  have := cidx_spec i; omega

theorem cidx_le_succ (i : Nat) : cidx i ≤ i + 1 := by
  unfold cidx; split <;> omega

theorem self_lt_rowSize (i : Nat) : i < rowSize i := by
  unfold rowSize; omega

/-- the twin of an index below `j` is stored in the row of the twin of `j` -/
theorem cidx_lt_rowSize_cidx {k j : Nat} (h : k < j) : cidx k < rowSize (cidx j) := by
  rw [rowSize_cidx]
  exact lt_of_le_of_lt ((cidx_le_succ k).trans h) (self_lt_rowSize j)

theorem succ_lt_of_even_lt {j a : Nat} (hj : j % 2 = 0) (ha : a % 2 = 0) (h : j < a) : j + 1 < a := by
  omega

theorem lt_pred_of_odd_lt {a b : Nat} (ha : a % 2 = 1) (hb : b % 2 = 1) (h : a < b) : a < b - 1 := by
  omega

/-- an index below the twin of `t`, other than `t`, has its own twin below `t` -/
theorem cidx_le_of_le_cidx {i t : Nat} (h : i ≤ cidx t) (hne : t ≠ i) : cidx i ≤ t := by
  have := cidx_spec i
  have := cidx_spec t
  omega

/-- induction along an increasing walk `a ↦ next a` through the members `M`: a relation that holds at each step,
given that the step does not jump over the later member `b`, and composes, holds from every member to every later one -/
theorem walk_induction {M : Nat → Prop} {P : Nat → Nat → Prop} {next : Nat → Nat} (hrefl : ∀ a, P a a)
    (hstep : ∀ a b, M a → M b → a < b → a < next a ∧ next a ≤ b ∧ M (next a) ∧ (P (next a) b → P a b))
    {a b : Nat} (hab : a ≤ b) (ha : M a) (hb : M b) : P a b := by
  have key : ∀ d a, b - a ≤ d → a ≤ b → M a → P a b := by
    intro d
    induction d with
    | zero =>
      intro a h1 h2 _
      rw [Nat.le_antisymm h2 (Nat.sub_eq_zero_iff_le.1 (Nat.le_zero.1 h1))]
      exact hrefl b
    | succ d ih =>
      intro a h1 h2 ha
      by_cases e : a = b
      · rw [e]; exact hrefl b
      obtain ⟨s1, s2, s3, s4⟩ := hstep a b ha hb (lt_of_le_of_ne h2 e)
      exact s4 (ih (next a) ((Nat.sub_le_sub_left (Nat.succ_le_of_lt s1) b).trans (Nat.pred_le_pred h1)) s2 s3)
  exact key (b - a) a (Nat.le_refl _) hab ha

/-- an increasing walk through members below `N` reaches a member where it stops -/
theorem walk_top {N : Nat} {M stop : Nat → Prop} {next : Nat → Nat} (hlt : ∀ a, M a → a < N)
    (hstep : ∀ a, M a → ¬ stop a → a < next a ∧ M (next a)) {a : Nat} (ha : M a) :
    ∃ z, a ≤ z ∧ M z ∧ stop z := by
  have key : ∀ d a, N - a ≤ d → M a → ∃ z, a ≤ z ∧ M z ∧ stop z := by
    intro d
    induction d with
    | zero => intro a h1 ha; exact absurd (Nat.sub_eq_zero_iff_le.1 (Nat.le_zero.1 h1)) (not_le.2 (hlt a ha))
    | succ d ih =>
      intro a h1 ha
      by_cases e : stop a
      · exact ⟨a, Nat.le_refl _, ha, e⟩
      · obtain ⟨s1, s2⟩ := hstep a ha e
        obtain ⟨z, z1, z2⟩ := ih (next a) ((Nat.sub_le_sub_left (Nat.succ_le_of_lt s1) N).trans (Nat.pred_le_pred h1)) s2
        exact ⟨z, s1.le.trans z1, z2⟩
  exact key (N - a) a (Nat.le_refl _) ha

theorem cidx_lt_iff {dim i : Nat} : cidx i < 2 * dim ↔ i < 2 * dim := by
  constructor
  · intro h; have := cidx_lt h; rwa [cidx_cidx] at this
  · exact cidx_lt

/-! ## the full view -/

theorem octFull_self (m : Mat) (i : Nat) : octFull m i i = fin 0 := by
  unfold octFull; rw [if_pos rfl]

theorem octFull_ne (m : Mat) {i j : Nat} (h : i ≠ j) : octFull m i j = m.mAt i j := by
  unfold octFull; rw [if_neg h]

/-- a raw read of a stored off-diagonal cell is the full view -/
theorem raw_eq_octFull (m : Mat) {i j : Nat} (hs : j < rowSize i) (h : i ≠ j) : m i j = octFull m i j := by
  rw [octFull_ne m h]; unfold Mat.mAt; rw [if_pos hs]

/-- the full view is coherent (the only cells stored twice are diagonal ones) -/
theorem octFull_coh (m : Mat) (i j : Nat) : octFull m i j = octFull m (cidx j) (cidx i) := by
  by_cases h : i = j
  · subst h; rw [octFull_self, octFull_self]
  · have h' : cidx j ≠ cidx i := fun e => h (cidx_inj e).symm
    rw [octFull_ne m h, octFull_ne m h']
    unfold Mat.mAt
    by_cases hs : j < rowSize i
    · rw [if_pos hs]
      by_cases hs' : cidx i < rowSize (cidx j)
      · rw [if_pos hs']
        have := stored_both h hs hs'
        subst this
        rw [cidx_cidx]
      · rw [if_neg hs', cidx_cidx, cidx_cidx]
    · rw [if_neg hs, if_pos (swap_stored hs)]

theorem octFull_coh' (m : Mat) (i j : Nat) : octFull m (cidx i) (cidx j) = octFull m j i := by
  rw [octFull_coh m j i]

/-- the raw test of `compute_successors` / `compute_leaders` (`j < i`): both reads are stored cells and the
test is zero-equivalence on the full view -/
theorem oct_test_eq (m : Mat) {i j : Nat} (h : j < i) :
    ExtRat.isAddInv (m (cidx i) (cidx j)) (m i j) = ExtRat.isAddInv (octFull m i j) (octFull m j i) := by
  have hne : i ≠ j := by omega
  have h1 : m i j = octFull m i j := raw_eq_octFull m (by unfold rowSize; omega) hne
  have h2 : m (cidx i) (cidx j) = octFull m (cidx i) (cidx j) :=
    raw_eq_octFull m (by have := cidx_spec i; have := cidx_spec j; unfold rowSize; omega)
      (fun e => hne (cidx_inj e))
  rw [h1, h2, octFull_coh' m i j, ExtRat.isAddInv_comm]

theorem oct_test_iff (m : Mat) {i j : Nat} (h : j < i) :
    ExtRat.isAddInv (m (cidx i) (cidx j)) (m i j) = true ↔ OZEq m i j := by
  rw [oct_test_eq m h]; unfold OZEq
  constructor
  · exact Or.inr
  · rintro (e | e)
    · omega
    · exact e

/-! ## zero-equivalence -/

/-! `OZEq m` is `ZEq` of the full view `{ f := octFull m }`, by definition. -/

theorem OZEq.refl (m : Mat) (i : Nat) : OZEq m i i := Or.inl rfl

theorem OZEq.symm {m : Mat} {i j : Nat} (h : OZEq m i j) : OZEq m j i :=
  ZEq.symm (c := { f := octFull m }) h

theorem OZEq.cidx {m : Mat} {i j : Nat} (h : OZEq m i j) : OZEq m (cidx i) (cidx j) := by
  rcases h with h | h
  · exact Or.inl (by rw [h])
  · refine Or.inr ?_
    rw [octFull_coh' m i j, octFull_coh' m j i, ExtRat.isAddInv_comm]; exact h

theorem OZEq.of_cidx {m : Mat} {i j : Nat} (h : OZEq m (WR.cidx i) (WR.cidx j)) : OZEq m i j := by
  have := OZEq.cidx h; rwa [cidx_cidx, cidx_cidx] at this

theorem OZEq.cidx_iff {m : Mat} {i j : Nat} : OZEq m (WR.cidx i) (WR.cidx j) ↔ OZEq m i j :=
  ⟨OZEq.of_cidx, OZEq.cidx⟩

theorem OZEq.fin_of_ne {m : Mat} {i j : Nat} (h : OZEq m i j) (hne : i ≠ j) :
    ∃ a b, octFull m i j = fin a ∧ octFull m j i = fin b ∧ a + b = 0 :=
  ZEq.fin_of_ne (m := { f := octFull m }) h hne

theorem OZEq.of_fin {m : Mat} {i j : Nat} {a b : Rat} (h1 : octFull m i j = fin a) (h2 : octFull m j i = fin b)
    (h : a + b = 0) : OZEq m i j :=
  ZEq.of_fin (m := { f := octFull m }) h1 h2 h

/-- the full view of a strongly closed matrix is shortest-path closed on the `2n` indices -/
theorem OctM.IsStronglyClosed.closedFull {n : Nat} {c : OctM n} (hc : c.IsStronglyClosed) :
    Closed (2 * n) { f := octFull c.e } :=
  ⟨fun i _ => octFull_self c.e i, fun i j k hi hj hk => hc.tri i j k hi hj hk⟩

section closed
variable {n : Nat} (c : OctM n) (hc : c.IsStronglyClosed)
include hc

/-- triangle inequality on finite entries -/
theorem OctM.IsStronglyClosed.tri_fin {i j k : Nat} (hi : i < 2 * n) (hj : j < 2 * n) (hk : k < 2 * n)
    {a b : Rat} (h1 : octFull c.e i k = fin a) (h2 : octFull c.e k j = fin b) :
    ∃ v, octFull c.e i j = fin v ∧ v ≤ a + b :=
  hc.closedFull.tri_fin hi hj hk h1 h2

/-- no negative 2-cycle -/
theorem OctM.IsStronglyClosed.cycle_nonneg {i j : Nat} (hi : i < 2 * n) (hj : j < 2 * n)
    {a b : Rat} (h1 : octFull c.e i j = fin a) (h2 : octFull c.e j i = fin b) : 0 ≤ a + b :=
  hc.closedFull.cycle_nonneg hi hj h1 h2

theorem OZEq.trans {i j k : Nat} (hi : i < 2 * n) (hj : j < 2 * n) (hk : k < 2 * n) :
    OZEq c.e i j → OZEq c.e j k → OZEq c.e i k :=
  hc.closedFull.zeq_trans hi hj hk

/-- the full view of a strongly closed matrix on one class: an exact potential difference -/
theorem OZEq.add_eq {i j k : Nat} (hi : i < 2 * n) (hj : j < 2 * n) (hk : k < 2 * n)
    (h1 : OZEq c.e i j) {a b : Rat} (ha : octFull c.e i j = fin a) (hb : octFull c.e j k = fin b) :
    octFull c.e i k = fin (a + b) := by
  by_cases e1 : i = j
  · subst e1; rw [octFull_self] at ha; cases ha; rw [hb]; congr 1; simp
  obtain ⟨a1, a', ha1, ha', hs1⟩ := h1.fin_of_ne e1
  rw [ha] at ha1; cases ha1
  obtain ⟨v, hv, hle⟩ := hc.tri_fin c hi hk hj ha hb
  obtain ⟨w, hw, hle'⟩ := hc.tri_fin c hj hk hi ha' hv
  rw [hb] at hw; cases hw
  rw [hv]; congr 1; linarith only [hs1, hle, hle']

/-- two singular indices are zero-equivalent: there is at most one singular class -/
theorem OZEq.sing_unique {i j : Nat} (hi : i < 2 * n) (hj : j < 2 * n)
    (h1 : OZEq c.e i (WR.cidx i)) (h2 : OZEq c.e j (WR.cidx j)) : OZEq c.e i j := by
  by_cases e : i = j
  · exact Or.inl e
  obtain ⟨a, a', ha, ha', hs1⟩ := h1.fin_of_ne (cidx_ne i).symm
  obtain ⟨b, b', hb, hb', hs2⟩ := h2.fin_of_ne (cidx_ne j).symm
  have c1 := hc.coh i j hi hj e
  have c2 := hc.coh j i hj hi (Ne.symm e)
  rw [ha, hb', eadd_fin, halfUp_fin] at c1
  rw [hb, ha', eadd_fin, halfUp_fin] at c2
  obtain ⟨v, hv, hle⟩ := ExtRat.le_fin_inv c1
  obtain ⟨w, hw, hle'⟩ := ExtRat.le_fin_inv c2
  have := hc.cycle_nonneg c hi hj hv hw
  exact OZEq.of_fin hv hw (by linarith only [hs1, hs2, hle, hle', this])

end closed

end PPLV.WR

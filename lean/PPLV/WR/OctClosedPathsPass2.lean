import PPLV.WR.OctClosedPathsPass1
/-!
# Two passes of weak octagonal steps: the second pass

After the iterations `0, …, h-1` of the second pass every entry is below the weight (in the initial matrix) of every
walk whose inner vertices are distinct, `< 2n`, and contain only pairs `2g`, `2g+1` of index `g < h`.  After the pass:
every walk with distinct inner vertices.
-/
namespace PPLV.WR
open ExtRat

/-- distinct vertices `< 2n`, the pairs contained have index `< h` -/
def Q2 (n h : Nat) (l : List Nat) : Prop := l.Nodup ∧ (∀ v, v ∈ l → v < 2 * n) ∧ PairsBelow h l

theorem q2_step (n h : Nat) (l : List Nat) (hl : Q2 n (h+1) l) :
    Q2 n h l ∨ ∃ l1 k l2, l = l1 ++ k :: l2 ∧ (k = 2 * h ∨ k = 2 * h + 1) ∧ Q2 n h l1 ∧ Q2 n h l2 := by
  obtain ⟨hn, hb, hp⟩ := hl
  by_cases h1 : 2 * h + 1 ∈ l
  · obtain ⟨l1, l2, rfl, n1, n2, k1, k2⟩ := nodup_split hn h1
    refine Or.inr ⟨l1, _, l2, rfl, Or.inr rfl, ⟨n1, fun v hv => ?_, fun g a b => ?_⟩,
      ⟨n2, fun v hv => ?_, fun g a b => ?_⟩⟩
    · exact hb v (List.mem_append_left _ hv)
    · have h2 := hp g (List.mem_append_left _ a) (List.mem_append_left _ b)
      have h3 : g ≠ h := fun e => k1 (e ▸ b)
      omega
    · exact hb v (List.mem_append_right _ (List.mem_cons_of_mem _ hv))
    · have h2 := hp g (List.mem_append_right _ (List.mem_cons_of_mem _ a))
        (List.mem_append_right _ (List.mem_cons_of_mem _ b))
      have h3 : g ≠ h := fun e => k2 (e ▸ b)
      omega
  · refine Or.inl ⟨hn, hb, fun g a b => ?_⟩
    have h2 := hp g a b
    have h3 : g ≠ h := fun e => h1 (e ▸ b)
    omega

/-- the invariant of the second pass -/
theorem octPass2_inv (n : Nat) (d0 : Mat) : PInv d0 (Q2 n n) (octTwo n d0) := by
  unfold octTwo
  generalize hA : octPass n d0 = A
  have hA' : PInv d0 (Q1 n) A := hA ▸ octPass1_inv n d0
  unfold octPass
  refine loopUp_ind (fun h d => PInv d0 (Q2 n h) d) n octT A ?_ ?_
  · exact hA'
  · intro t _ s hs
    exact pinv_step hs (q2_step n t)

/-- after the two passes every entry is below the weight of every walk with distinct inner vertices -/
theorem octTwo_le_simple (n : Nat) (d0 : Mat) (i j : Nat) (l : List Nat) (hn : l.Nodup)
    (hb : ∀ v, v ∈ l → v < 2 * n) : octTwo n d0 i j ≤ pw d0 i l j :=
  octPass2_inv n d0 i j l ⟨hn, hb, fun g a _ => by have := hb _ a; omega⟩

end PPLV.WR

import PPLV.WR.ReduceOctProofsPreserveBase
/-!
# Octagon reduction keeps every point: inside a non-singular class every full-view cell
follows from the increasing chain and the closing cell (a 0-cycle); the odd partner class follows by coherence
-/
namespace PPLV.WR
open ExtRat (fin pinf addUp halfUp)

section ctx
variable {n : Nat} {c : OctM n} {succ : Nat → Nat} {nr : BMat} {p : Nat → Rat} (X : RCtx c succ nr p)
include X

/-- every class has a greatest element -/
theorem RCtx.class_top {a : Nat} (ha : a < 2 * n) :
    ∃ z, a ≤ z ∧ (z < 2 * n ∧ OZEq c.e z a) ∧ succ z = z := by
  refine walk_top (M := fun z => z < 2 * n ∧ OZEq c.e z a) (next := succ) (fun z hz => hz.1) ?_
    ⟨ha, OZEq.refl _ _⟩
  rintro z ⟨hz, hza⟩ e
  have hlt := X.hs.lt z hz
  exact ⟨lt_of_le_of_ne (X.hs.ge z) (Ne.symm e), hlt, OZEq.trans c X.hc hlt hz ha (X.hs.zeq z) hza⟩

/-- along the increasing chain of a positive class: the cell `(b, a)` for `a ≤ b` -/
theorem RCtx.class_up {i : Nat} (hi : NSL (2 * n) c.e i) (hev : i % 2 = 0) {a b : Nat} (hab : a ≤ b)
    (hb : b < 2 * n) (haz : OZEq c.e a i) (hbz : OZEq c.e b i) : Ok c.e p b a := by
  refine walk_induction (M := fun a => a < 2 * n ∧ OZEq c.e a i) (P := fun a b => Ok c.e p b a) (next := succ)
    (fun a => Ok.self _ _ _) ?_ hab ⟨lt_of_le_of_lt hab hb, haz⟩ ⟨hb, hbz⟩
  rintro a b ⟨ha, haz⟩ ⟨hb, hbz⟩ hab
  have hba : OZEq c.e b a := OZEq.trans c X.hc hb hi.lt ha hbz haz.symm
  have hne : succ a ≠ a := fun e' => X.hs.self a b e' hab hb hba
  have hgt : a < succ a := lt_of_le_of_ne (X.hs.ge a) (Ne.symm hne)
  have hlt := X.hs.lt a ha
  have hle : succ a ≤ b := not_lt.1 fun hh => X.hs.between a b hab hh hba
  have hsz : OZEq c.e (succ a) i := OZEq.trans c X.hc hlt ha hi.lt (X.hs.zeq a) haz
  have h1' : Ok c.e p (succ a) a :=
    X.ok_of_kept hlt (lt_trans hgt (self_lt_rowSize _)) hne (X.hk.chain i a hi hev ha haz hne)
  refine ⟨hgt, hle, ⟨hlt, hsz⟩, fun h2' => Ok.trans h2' h1' ?_⟩
  rw [zeq_add_left X.hc hb hlt ha (OZEq.trans c X.hc hb hi.lt hlt hbz hsz.symm)]
  exact ExtRat.le_rfl' _

/-- two members of a non-singular class with even least element -/
theorem RCtx.class_even {i : Nat} (hi : NSL (2 * n) c.e i) (hev : i % 2 = 0) {a b : Nat}
    (ha : a < 2 * n) (hb : b < 2 * n) (haz : OZEq c.e a i) (hbz : OZEq c.e b i) : Ok c.e p a b := by
  obtain ⟨z, z1, ⟨z2, z3⟩, z4⟩ := X.class_top hi.lt
  have hle : ∀ t, t < 2 * n → OZEq c.e t i → i ≤ t ∧ t ≤ z := by
    intro t ht htz
    exact ⟨hi.least t ht htz, not_lt.1 fun hh =>
      X.hs.self z t z4 hh ht (OZEq.trans c X.hc ht hi.lt z2 htz z3.symm)⟩
  obtain ⟨a1, a2⟩ := hle a ha haz
  obtain ⟨b1, b2⟩ := hle b hb hbz
  by_cases e : z = i
  · have : a = b := Nat.le_antisymm (a2.trans (e.le.trans b1)) (b2.trans (e.le.trans a1))
    subst this; exact Ok.self _ _ _
  · have hiz : Ok c.e p i z := by
      have hk := X.hk.close i z hi hev z2 z3 z4 e
      have hst : cidx i < rowSize (cidx z) := cidx_lt_rowSize_cidx (lt_of_le_of_ne z1 (Ne.symm e))
      exact Ok.twin X.hp (X.ok_of_kept (cidx_lt z2) hst (fun e' => e (cidx_inj e')) hk)
    have hai : Ok c.e p a i := X.class_up hi hev a1 ha (OZEq.refl _ _) haz
    have hzb : Ok c.e p z b := X.class_up hi hev b2 z2 hbz z3
    have haz' : Ok c.e p a z := by
      refine Ok.trans hai hiz ?_
      rw [zeq_add_left X.hc ha hi.lt z2 haz]; exact ExtRat.le_rfl' _
    refine Ok.trans haz' hzb ?_
    rw [zeq_add_left X.hc ha z2 hb (OZEq.trans c X.hc ha hi.lt z2 haz z3.symm)]; exact ExtRat.le_rfl' _

/-- two members of a non-singular class -/
theorem RCtx.class_ok {i : Nat} (hi : NSL (2 * n) c.e i) {a b : Nat}
    (ha : a < 2 * n) (hb : b < 2 * n) (haz : OZEq c.e a i) (hbz : OZEq c.e b i) : Ok c.e p a b := by
  by_cases hev : i % 2 = 0
  · exact X.class_even hi hev ha hb haz hbz
  · exact Ok.twin X.hp (X.class_even (NSL.cidx hi) (cidx_even_of_odd hev) (cidx_lt hb) (cidx_lt ha)
      (OZEq.cidx hbz) (OZEq.cidx haz))

end ctx

end PPLV.WR

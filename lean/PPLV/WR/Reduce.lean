import PPLV.WR.Closure
/-!
# `BD_Shape<T>`: shortest-path reduction, the readers of `redundancy_dbm`, the exact-join test
(executable model, no Mathlib)

Code-shaped models of (`/repo/src/BD_Shape_templates.hh`, `/repo/src/BD_Shape.cc`)

* `BD_Shape<T>::compute_predecessors` (l. 1022), `compute_leaders` (l. 1054), `compute_leader_indices`
  (`BD_Shape.cc` l. 85),
* `BD_Shape<T>::shortest_path_reduction_assign` (l. 2115): Step 1 (zero-equivalence classes), Step 2 (the
  redundancy test among leaders), Step 3 (the single 0-cycle through every non-singleton class),
* `BD_Shape<T>::minimized_constraints` (l. 6551), `constraints` (l. 6471), `affine_dimension` (l. 331),
  `is_shortest_path_reduced` (l. 1074),
* `BD_Shape<T>::BHZ09_upper_bound_assign_if_exact<false>` (l. 2426): the test only (the assignment is the
  pointwise maximum).

Conventions as in `Closure.lean`: `dbm[i][j]` bounds `x_j - x_i`, index `0` is the zero variable, the stored
main diagonal is `+∞`.  Every `add_assign_r(…, ROUND_UP)` is `addUp up`; the theorems and the tie are for
exact arithmetic (`up = upId`, `mpq_class`).  `std::vector<dimension_type>` is `Vec`, `Bit_Matrix` is `BMat`
(bit `true` = *redundant*, as in `redundancy_dbm`), `std::deque<bool>` is `BVec`.

Loops: `loopDown n` is `for (i = n; i-- > 0; )`, `loopUp n` is `for (i = 0; i < n; ++i)`; a loop starting at
`1` is the same loop with the body guarded by `i = 0`; a loop over the vector of leader indices is a
`List.foldl`; an inner search loop ending in `break` is `findDown` / `List.any`; the two `while (true)` walks
along predecessor chains carry a fuel (`none` on exhaustion — excluded by `bds_reduction_total`).
-/
namespace PPLV.WR
open ExtRat (fin pinf addUp)

/-! ## vectors of indices, bit vectors, bit matrices -/

/-- `std::vector<dimension_type>` (lookup function; the constant field is the compilation barrier of `Mat`) -/
structure Vec where
  f : Nat → Nat
  barrier : Unit := ()

instance : CoeFun Vec (fun _ => Nat → Nat) := ⟨Vec.f⟩

namespace Vec
/-- `for i: v.push_back(i)` -/
def iota : Vec := { f := fun i => i }
def set (v : Vec) (i x : Nat) : Vec := { f := fun a => if a = i then x else v a }
@[simp] theorem set_apply (v : Vec) (i x a : Nat) : (v.set i x) a = if a = i then x else v a := rfl
@[simp] theorem iota_apply (a : Nat) : iota a = a := rfl
def toList (n : Nat) (v : Vec) : List Nat := (List.range n).map fun i => v i
end Vec

/-- `std::deque<bool>` / `std::vector<bool>` -/
structure BVec where
  f : Nat → Bool
  barrier : Unit := ()

instance : CoeFun BVec (fun _ => Nat → Bool) := ⟨BVec.f⟩

namespace BVec
def const (b : Bool) : BVec := { f := fun _ => b }
def set (v : BVec) (i : Nat) (x : Bool) : BVec := { f := fun a => if a = i then x else v a }
@[simp] theorem set_apply (v : BVec) (i : Nat) (x : Bool) (a : Nat) : (v.set i x) a = if a = i then x else v a := rfl
@[simp] theorem const_apply (b : Bool) (a : Nat) : const b a = b := rfl
end BVec

/-- `Bit_Matrix` / `std::vector<Bit_Row>` -/
structure BMat where
  f : Nat → Nat → Bool
  barrier : Unit := ()

instance : CoeFun BMat (fun _ => Nat → Nat → Bool) := ⟨BMat.f⟩

namespace BMat
def const (b : Bool) : BMat := { f := fun _ _ => b }
/-- `row[i].set(j)` (`b = true`) / `row[i].clear(j)` (`b = false`) -/
def put (r : BMat) (i j : Nat) (b : Bool) : BMat := { f := fun a c => if a = i ∧ c = j then b else r a c }
@[simp] theorem put_apply (r : BMat) (i j : Nat) (b : Bool) (a c : Nat) :
    (r.put i j b) a c = if a = i ∧ c = j then b else r a c := rfl
@[simp] theorem const_apply (b : Bool) (a c : Nat) : const b a c = b := rfl
def toLists (rows : Nat) (rowLen : Nat → Nat) (r : BMat) : List (List Bool) :=
  (List.range rows).map fun i => (List.range (rowLen i)).map fun j => r i j
def ofLists (rows : List (List Bool)) (dflt : Bool) : BMat := { f := fun i j => (rows.getD i []).getD j dflt }
end BMat

/-- `for (j = n; j-- > 0; ) if (c(j)) { …; break; }` — the index at which the loop breaks -/
def findDown : Nat → (Nat → Bool) → Option Nat
  | 0, _ => none
  | j+1, c => if c j then some j else findDown j c

/-! ## zero-equivalence classes -/

/-- `compute_predecessors` (l. 1022): `predecessor[i]` is the greatest `j < i` zero-equivalent to `i`
(`dbm[j][i] == -dbm[i][j]`), or `i` itself.  (Both tests `i == predecessor[i]`, `j == predecessor[j]` are
always true when they are evaluated, `predecessor[t]` being written in iteration `t` only; they are kept.) -/
def bdsComputePredecessors (rows : Nat) (m : Mat) : Vec :=
  loopDown rows (fun i pred =>
    if i = 0 then pred                                             -- `for (i = size; i-- > 1; )`
    else if i = pred i then
      match findDown i (fun j => j == pred j && ExtRat.isAddInv (m j i) (m i j)) with
      | some j => pred.set i j
      | none => pred
    else pred) Vec.iota

/-- `compute_leaders` (l. 1054): flatten the predecessor chains -/
def bdsComputeLeaders (rows : Nat) (m : Mat) : Vec :=
  loopUp rows (fun i leaders =>
    if i = 0 then leaders                                          -- `for (i = 1; i != l_size; ++i)`
    else
      let leaders_i := leaders i
      if leaders_i ≠ i then leaders.set i (leaders leaders_i) else leaders)
    (bdsComputePredecessors rows m)

/-- `compute_leader_indices` (`BD_Shape.cc` l. 85): the leaders in increasing order, `0` first -/
def computeLeaderIndices (size : Nat) (predecessor : Vec) : List Nat :=
  loopUp size (fun i indices =>
    if i = 0 then indices
    else if i = predecessor i then indices ++ [i] else indices) [0]

/-! ## `shortest_path_reduction_assign` -/

/-- Step 2 (l. 2155–2174): among leaders, `(i, j)` stays flagged redundant iff some leader `k` has
`dbm[i][j] >= dbm[i][k] + dbm[k][j]` (the stored diagonal being `+∞`, `k = i` and `k = j` only fire for
`dbm[i][j] = +∞`) -/
def bdsStep2 (up : Rat → ExtRat) (leaders : List Nat) (m : Mat) (redundancy : BMat) : BMat :=
  leaders.foldl (fun red i =>
    leaders.foldl (fun red j =>
      if red i j then
        let red := red.put i j false
        if leaders.any (fun k => decide (addUp up (m i k) (m k j) ≤ m i j)) then red.put i j true else red
      else red) red) redundancy

/-- the `while (true)` of Step 3 (l. 2185–2200), started at `j = i` -/
def bdsChainWalk (predecessor : Vec) (i : Nat) : Nat → Nat → BMat × BVec → Option (BMat × BVec)
  | 0, _, _ => none
  | fuel+1, j, (red, dealt_with) =>
    let predecessor_j := predecessor j
    if j = predecessor_j then some (red.put i j false, dealt_with)
    else bdsChainWalk predecessor i fuel predecessor_j (red.put predecessor_j j false, dealt_with.set predecessor_j true)

/-- Step 3 (l. 2179–2202) -/
def bdsStep3 (rows : Nat) (predecessor : Vec) (redundancy : BMat) : Option BMat :=
  (loopDown rows (fun i st =>
    st.bind fun (st : BMat × BVec) =>
      if i ≠ predecessor i && !st.2 i then bdsChainWalk predecessor i (rows + 1) i st else some st)
    (some (redundancy, BVec.const false))).map Prod.fst

/-- `shortest_path_reduction_assign` (l. 2115) on a non-empty shortest-path closed matrix of space dimension
`n ≥ 1`: the new `redundancy_dbm` -/
def bdsShortestPathReduction (up : Rat → ExtRat) (n : Nat) (m : Mat) : Option BMat :=
  let predecessor := bdsComputePredecessors (n+1) m
  let leaders := computeLeaderIndices (n+1) predecessor
  let redundancy := BMat.const true
  bdsStep3 (n+1) predecessor (bdsStep2 up leaders m redundancy)

/-- the constraints kept by the reduction: the matrix with every redundant entry replaced by `+∞` -/
def bdsReducedMat (m : Mat) (red : BMat) : Mat := { f := fun i j => if red i j then pinf else m i j }

/-! ## readers of `redundancy_dbm` -/

/-- a constraint as `minimized_constraints()` / `constraints()` build it: `Σ coeffs_k·x_k (== | <=) rhs` -/
structure LCon where
  isEq : Bool
  coeffs : List Int
  rhs : Int
  deriving DecidableEq, Repr, Inhabited

/-- `numer_denom(q, numer, denom)` of a canonical rational -/
def numerOf (e : ExtRat) : Int := e.toRat.num
def denomOf (e : ExtRat) : Int := e.toRat.den

/-- `a*Variable(p-1) - a*Variable(q-1)` with dbm indices `p`, `q` (`0` = no variable) in dimension `n` -/
def diffCoeffs (n : Nat) (a : Int) (p q : Nat) : List Int :=
  (List.range n).map fun k => (if k + 1 = p then a else 0) - (if k + 1 = q then a else 0)

/-- `minimized_constraints()` (l. 6551) after the reduction -/
def bdsMinimizedConstraints (n : Nat) (m : Mat) (redundancy_dbm : BMat) : List LCon :=
  let leaders := bdsComputeLeaders (n+1) m
  let leader_indices := computeLeaderIndices (n+1) leaders
  let num_leaders := leader_indices.length
  let li := fun (k : Nat) => leader_indices.getD k 0
  -- the non-leaders: equalities
  let cs := loopUp (n+1) (fun i cs =>
    if i = 0 then cs
    else
      let leader := leaders i
      if i ≠ leader then
        if leader = 0 then cs ++ [⟨true, diffCoeffs n (denomOf (m 0 i)) i 0, numerOf (m 0 i)⟩]
        else cs ++ [⟨true, diffCoeffs n (denomOf (m i leader)) leader i, numerOf (m i leader)⟩]
      else cs) []
  -- the leaders: unary inequalities
  let cs := loopUp num_leaders (fun l_i cs =>
    if l_i = 0 then cs
    else
      let i := li l_i
      let cs := if !redundancy_dbm 0 i then cs ++ [⟨false, diffCoeffs n (denomOf (m 0 i)) i 0, numerOf (m 0 i)⟩] else cs
      if !redundancy_dbm i 0 then cs ++ [⟨false, diffCoeffs n (denomOf (m i 0)) 0 i, numerOf (m i 0)⟩] else cs) cs
  -- binary inequalities
  loopUp num_leaders (fun l_i cs =>
    if l_i = 0 then cs
    else
      let i := li l_i
      loopUp num_leaders (fun l_j cs =>
        if l_j ≤ l_i then cs                                        -- `for (l_j = l_i + 1; …)`
        else
          let j := li l_j
          let cs := if !redundancy_dbm i j then cs ++ [⟨false, diffCoeffs n (denomOf (m i j)) j i, numerOf (m i j)⟩] else cs
          if !redundancy_dbm j i then cs ++ [⟨false, diffCoeffs n (denomOf (m j i)) i j, numerOf (m j i)⟩] else cs) cs) cs

/-- `constraints()` (l. 6471) of a non-empty shape not marked reduced -/
def bdsConstraintsAll (n : Nat) (m : Mat) : List LCon :=
  let cs := loopUp (n+1) (fun j cs =>
    if j = 0 then cs
    else
      if ExtRat.isAddInv (m j 0) (m 0 j) then cs ++ [⟨true, diffCoeffs n (denomOf (m 0 j)) j 0, numerOf (m 0 j)⟩]
      else
        let cs := if !(m 0 j).isPinf then cs ++ [⟨false, diffCoeffs n (denomOf (m 0 j)) j 0, numerOf (m 0 j)⟩] else cs
        if !(m j 0).isPinf then cs ++ [⟨false, diffCoeffs n (denomOf (m j 0)) 0 j, numerOf (m j 0)⟩] else cs) []
  loopUp (n+1) (fun i cs =>
    if i = 0 then cs
    else loopUp (n+1) (fun j cs =>
      if j ≤ i then cs
      else
        if ExtRat.isAddInv (m j i) (m i j) then cs ++ [⟨true, diffCoeffs n (denomOf (m i j)) j i, numerOf (m i j)⟩]
        else
          let cs := if !(m i j).isPinf then cs ++ [⟨false, diffCoeffs n (denomOf (m i j)) j i, numerOf (m i j)⟩] else cs
          if !(m j i).isPinf then cs ++ [⟨false, diffCoeffs n (denomOf (m j i)) i j, numerOf (m j i)⟩] else cs) cs) cs

/-- `constraints()`: `marked_shortest_path_reduced() ? minimized_constraints() : …` -/
def bdsConstraints (n : Nat) (m : Mat) (reduced : Bool) (redundancy_dbm : BMat) : List LCon :=
  if reduced then bdsMinimizedConstraints n m redundancy_dbm else bdsConstraintsAll n m

/-- `affine_dimension()` (l. 331) of a non-empty closed shape of dimension `n ≥ 1` -/
def bdsAffineDimension (n : Nat) (m : Mat) : Nat :=
  let predecessor := bdsComputePredecessors (n+1) m
  loopUp (n+1) (fun i affine_dim => if i = 0 then affine_dim else if predecessor i = i then affine_dim + 1 else affine_dim) 0

/-! ### `is_shortest_path_reduced` (l. 1074), for a non-empty shape marked reduced whose closed copy is `m` -/

/-- Step 1 (l. 1101–1117) -/
def isprLeader (n : Nat) (m : Mat) : Vec :=
  loopUp n (fun i leader =>
    loopUp (n+1) (fun j leader =>
      if j ≤ i then leader
      else if ExtRat.isAddInv (m j i) (m i j) then leader.set j (leader i) else leader) leader) Vec.iota

/-- Step 2 (l. 1125–1147): `false` = the function returns `false` here -/
def isprStep2 (up : Rat → ExtRat) (n : Nat) (m : Mat) (leader : Vec) (redundancy_dbm : BMat) : Bool :=
  (List.range (n+1)).all fun k => leader k != k ||
    (List.range (n+1)).all fun i => leader i != i ||
      (List.range (n+1)).all fun j => leader j != j ||
        (m i j).isPinf || !(decide (addUp up (m i k) (m k j) ≤ m i j) && !redundancy_dbm i j)

/-- the row scan of Step 3 (l. 1162–1220) for one `i`: `none` = `return false`, else the new `var_conn[i]` -/
def isprRow (n : Nat) (leader : Vec) (redundancy_dbm : BMat) (i : Nat) : Option (Option Nat) :=
  let leader_i := leader i
  -- state: (t, var_conn_i)
  (loopUp (n+1) (fun j (st : Option (Nat × Option Nat)) =>
    st.bind fun (t, vc) =>
      let leader_j := leader j
      if leader_i = i then
        if j ≠ leader_j then
          if !redundancy_dbm i j then
            if t = 1 then none
            else if leader_j ≠ i then none else some (t + 1, some j)
          else some (t, vc)
        else some (t, vc)
      else
        if !redundancy_dbm i j then
          if leader_i ≠ leader_j then none
          else if t = 1 then none else some (t + 1, some j)      -- (the test `t == 0` that follows is dead)
        else some (t, vc)) (some (0, none))).map Prod.snd

/-- the `while (v_con != i)` of Step 4 (l. 1239–1247): `none` = fuel exhausted, `some false` = `return false` -/
def isprCycle (var_conn : Vec) (i : Nat) : Nat → Nat → BVec → Option (Bool × BVec)
  | 0, _, _ => none
  | fuel+1, v_con, just_checked =>
    if v_con = i then some (true, just_checked)
    else
      let just_checked := just_checked.set v_con true
      let v_con := var_conn v_con
      if just_checked v_con then some (false, just_checked) else isprCycle var_conn i fuel v_con just_checked

/-- `is_shortest_path_reduced()`; `none` only on fuel exhaustion -/
def bdsIsShortestPathReduced (up : Rat → ExtRat) (n : Nat) (m : Mat) (redundancy_dbm : BMat) : Option Bool :=
  let leader := isprLeader n m
  if !isprStep2 up n m leader redundancy_dbm then some false
  else
    -- Step 3: `var_conn[i] = space_dim + 1` means "single variable"
    let step3 : Option Vec := loopUp (n+1) (fun i (vc : Option Vec) =>
      vc.bind fun vc =>
        match isprRow n leader redundancy_dbm i with
        | none => none
        | some none => some vc
        | some (some j) => some (vc.set i j)) (some { f := fun _ => n + 1 })
    match step3 with
    | none => some false
    | some var_conn =>
      -- Step 4
      let r : Option (Bool × BVec) := loopUp (n+1) (fun i (st : Option (Bool × BVec)) =>
        st.bind fun (ok, jc) =>
          if !ok then some (ok, jc)
          else
            let st' : Option (Bool × BVec) :=
              if !jc i then
                let v_con := var_conn i
                if v_con ≠ n + 1 then isprCycle var_conn i (n + 2) v_con jc else some (true, jc)
              else some (true, jc)
            st'.map fun (ok, jc) => (ok, jc.set i true)) (some (true, BVec.const false))
      r.map Prod.fst

/-! ## `BHZ09_upper_bound_assign_if_exact<false>` (l. 2426): both arguments non-empty, closed and reduced -/

/-- `max_assign` -/
def ExtRat.maxA (a b : ExtRat) : ExtRat := if a ≤ b then b else a

/-- `ub.upper_bound_assign(y)`: pointwise maximum -/
def matMax (x y : Mat) : Mat := { f := fun i j => ExtRat.maxA (x i j) (y i j) }

/-- `a < b` on bounds -/
def ExtRat.ltB (a b : ExtRat) : Bool := !decide (b ≤ a)

/-- the four nested loops of `BHZ09_upper_bound_assign_if_exact`: `true` = "the upper bound is exact" -/
def bdsBHZ09 (up : Rat → ExtRat) (n : Nat) (x y : Mat) (x_red y_red : BMat) : Bool :=
  let ub := matMax x y
  let idx := (List.range (n+1)).reverse                            -- `for (i = n + 1; i-- > 0; )`
  idx.all fun i => idx.all fun j =>
    x_red i j ||
    !(ExtRat.ltB (x i j) (y i j)) ||
    idx.all fun k =>
      let ub_k_j := if k = j then fin 0 else ub k j
      idx.all fun ell =>
        y_red k ell ||
        !(ExtRat.ltB (y k ell) (x k ell)) ||
        (let lhs := addUp up (x i j) (y k ell)
         let ub_i_ell := if i = ell then fin 0 else ub i ell
         let rhs := addUp up ub_i_ell ub_k_j
         !(ExtRat.ltB lhs rhs))

end PPLV.WR

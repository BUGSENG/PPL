import PPLV.WR.Trans2LatProofsMeetJoin
import PPLV.WR.TransOct2LatProofsBase
/-!
# `difference_assign`: the join over the pieces keeps every point of every joined piece
-/
namespace PPLV.WR
open ExtRat

/-- the accumulation loop of `difference_assign` for a join that keeps the points of both arguments: every point of
the accumulator or of a joined piece is in the result -/
theorem latDiffFold_sound {γ : Mat → Set (Nat → Rat)} {join : Option LatRes → Mat → Option LatRes}
    (hjoin : ∀ acc z p, (p ∈ γ z ∨ ∃ a, acc = some a ∧ p ∈ γ a.m) → ∃ r, join acc z = some r ∧ p ∈ γ r.m)
    (pieces : List (Option Mat)) (acc : Option LatRes) (p : Nat → Rat)
    (hp : (∃ a, acc = some a ∧ p ∈ γ a.m) ∨ (∃ z, some z ∈ pieces ∧ p ∈ γ z)) :
    ∃ r, pieces.foldl (fun acc z => match z with | none => acc | some z => join acc z) acc = some r ∧
      p ∈ γ r.m := by
  induction pieces generalizing acc with
  | nil =>
    rcases hp with ⟨a, ha, hp⟩ | ⟨z, hz, _⟩
    · exact ⟨a, ha, hp⟩
    · simp at hz
  | cons z zs ih =>
    simp only [List.foldl_cons]
    refine ih _ ?_
    rcases hp with hp | ⟨z', hz, hp⟩
    · cases z with
      | none => exact Or.inl hp
      | some z0 => exact Or.inl (hjoin acc z0 p (Or.inr hp))
    · rcases List.mem_cons.1 hz with h | h
      · subst h
        exact Or.inl (hjoin acc z' p (Or.inl hp))
      · exact Or.inr ⟨z', h, hp⟩

theorem bdsLatDiffJoin_sound {R : Rnd} (hR : R.Sound) (n : Nat) (acc : Option LatRes) (z : Mat) (p : Nat → Rat)
    (hp : p ∈ γB n z ∨ ∃ a, acc = some a ∧ p ∈ γB n a.m) :
    ∃ r, bdsLatDiffJoin R n acc z = some r ∧ p ∈ γB n r.m := by
  unfold bdsLatDiffJoin
  cases acc with
  | none =>
    rcases hp with hp | ⟨a, ha, _⟩
    · exact ⟨_, rfl, hp⟩
    · cases ha
  | some a =>
    have hp' : p ∈ γB n a.m ∨ p ∈ γB n z := by
      rcases hp with hp | ⟨a', ha, hp⟩
      · exact Or.inr hp
      · cases ha; exact Or.inl hp
    obtain ⟨r, e, _, h⟩ := bdsLatUpperBound_sound hR n a.closed true a.m z hp'
    exact ⟨r, e, h⟩

/-- `difference_assign`, control flow: when neither early return fires, every point of every piece that
`is_empty()` did not refute is in the result (every rounding) -/
theorem bdsLatDifference_sound {R : Rnd} (hR : R.Sound) (n : Nat) (hn : n ≠ 0) (c1 c2 : Bool) (m1 m2 : Mat)
    (pieces : List (Option Mat)) {x y : Nat → Rat} (hx : x ∈ γB n m1) (hy : y ∈ γB n m2)
    {z : Mat} (hz : some z ∈ pieces) {p : Nat → Rat} (hp : p ∈ γB n z) :
    ∃ r, bdsLatDifference R n c1 m1 c2 m2 false pieces = some r ∧ p ∈ γB n r.m := by
  unfold bdsLatDifference
  obtain ⟨x', cx, e1, _⟩ := bdsLatClose_sound hR.up_le n c1 m1 hx
  obtain ⟨y', cy, e2, _⟩ := bdsLatClose_sound hR.up_le n c2 m2 hy
  simp only [e1, e2, if_neg hn, Bool.false_eq_true, if_false]
  exact latDiffFold_sound (γ := γB n) (bdsLatDiffJoin_sound hR n) pieces none p (Or.inr ⟨z, hz, hp⟩)

theorem octLatDiffJoin_sound {R : Rnd} (hR : R.Sound) (n : Nat) (acc : Option LatRes) (z : Mat) (p : Nat → Rat)
    (hp : p ∈ γO n z ∨ ∃ a, acc = some a ∧ p ∈ γO n a.m) :
    ∃ r, octLatDiffJoin R n acc z = some r ∧ p ∈ γO n r.m := by
  unfold octLatDiffJoin
  cases acc with
  | none =>
    rcases hp with hp | ⟨a, ha, _⟩
    · exact ⟨_, rfl, hp⟩
    · cases ha
  | some a =>
    have hp' : p ∈ γO n a.m ∨ p ∈ γO n z := by
      rcases hp with hp | ⟨a', ha, hp⟩
      · exact Or.inr hp
      · cases ha; exact Or.inl hp
    obtain ⟨r, e, _, h⟩ := octLatUpperBound_sound hR n a.closed true a.m z hp'
    exact ⟨r, e, h⟩

theorem octLatDifference_sound {R : Rnd} (hR : R.Sound) (n : Nat) (hn : n ≠ 0) (c1 c2 : Bool) (m1 m2 : Mat)
    (pieces : List (Option Mat)) {x : Nat → Rat} (hx : x ∈ γO n m1)
    {z : Mat} (hz : some z ∈ pieces) {p : Nat → Rat} (hp : p ∈ γO n z) :
    ∃ r, octLatDifference R n c1 m1 c2 m2 false pieces = some r ∧ p ∈ γO n r.m := by
  unfold octLatDifference
  obtain ⟨x', cx, e1, _⟩ := octLatClose_sound hR.up_le n c1 m1 hx
  simp only [e1, if_neg hn, Bool.false_eq_true, if_false]
  exact latDiffFold_sound (γ := γO n) (octLatDiffJoin_sound hR n) pieces none p (Or.inr ⟨z, hz, hp⟩)

end PPLV.WR

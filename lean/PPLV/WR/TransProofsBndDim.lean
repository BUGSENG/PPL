import PPLV.WR.TransProofsMain
/-!
# `bounded_affine_image`: the branch through an additional dimension (`ub_expr == ±den*var + b`)
-/
namespace PPLV.WR
open ExtRat

/-- the branch of `boundedAffineImageCore` through an additional dimension `new_var`
(`BD_Shape_templates.hh:5365-5384`, from `add_space_dimensions_and_embed(1)` to `remove_higher_space_dimensions`) -/
def bndExtraDim (R : Rnd) (n var : Nat) (el : Nat → Int) (bl : Int) (eu : Nat → Int) (bu den : Int) (m : Mat) :
    Option Mat :=
  let v := var + 1
  let m := embedOne n m
  let m1 := affineImageCore R (n + 1) n eu bu den m
  let base := forgetAll (n + 2) (n + 1) m
  let changed := (List.range (n + 2)).any fun i => (List.range (n + 2)).any fun j =>
    decide (m1 i j ≠ base i j)
  let m2 : DBM (n + 1) := DBM.ofMat (n + 1) m1
  if changed && DBM.closureEmpty R.up m2 then none
  else
    let m2 := if changed then (DBM.closure R.up m2).e else m1
    let m3 := genAffineImageCore R (n + 1) var false el bl den m2
    let m4 := addDbmConstraint m3 (n + 1) v (divRoundUp R 0 1)
    let m5 : DBM (n + 1) := DBM.ofMat (n + 1) m4
    if DBM.closureEmpty R.up m5 then none else some (DBM.closure R.up m5).e

theorem boundedAffineImageCore_extra (R : Rnd) (n var : Nat) (el : Nat → Int) (bl : Int) (eu : Nat → Int)
    (bu den : Int) (m : Mat) (h0 : ¬ exprT eu (lastNonzero eu n) = 0)
    (h1 : exprT eu (lastNonzero eu n) = 1 ∧
        (eu (lastNonzero eu n - 1) = den ∨ eu (lastNonzero eu n - 1) = - den))
    (hwv : lastNonzero eu n = var + 1) :
    boundedAffineImageCore R n var el bl eu bu den m = bndExtraDim R n var el bl eu bu den m := by
  unfold boundedAffineImageCore
  dsimp only
  rw [if_neg h0, if_pos h1, if_pos hwv]
  rfl

theorem linEval_congr_x (e : Nat → Int) {x y : Nat → Rat} {k : Nat} (h : ∀ i, i < k → x i = y i) :
    linEval e x k = linEval e y k := by
  induction k with
  | zero => rfl
  | succ k ih => simp only [linEval]; rw [ih (fun i hi => h i (by omega)), h k (by omega)]

theorem holds_embedOne {n : Nat} {m : Mat} {x : Nat → Rat} (hx : Holds (SB (n+1)) (DBM.val x) m) :
    Holds (SB (n+2)) (DBM.val x) (embedOne n m) := by
  intro a b hab
  show fin _ ≤ (if a = n + 1 ∨ b = n + 1 then pinf else m a b)
  split
  · exact le_pinf _
  · rename_i hc
    exact hx a b ⟨by have := hab.1; omega, by have := hab.2; omega⟩

theorem sat_ofMat {n : Nat} {m : Mat} {x : Nat → Rat} (hx : Holds (SB (n+1)) (DBM.val x) m) :
    (DBM.ofMat n m).Sat x :=
  (DBM.sat_iff_holds _ x).2 (holds_diagDown_pinf hx)

theorem bndExtraDim_sound {R : Rnd} (hR : R.Sound) {n var : Nat} (hvar : var < n)
    {el : Nat → Int} (hcl : CoeffExact R el) (hel : ∀ i, n ≤ i → el i = 0) {bl : Int}
    {eu : Nat → Int} (hcu : CoeffExact R eu) (heu : ∀ i, n ≤ i → eu i = 0) {bu den : Int} (hden : den ≠ 0)
    {m : Mat} {x : Nat → Rat} (hx : x ∈ γB n m) {t : Rat}
    (hlb : (linEval el x n + bl) / den ≤ t) (hub : t ≤ (linEval eu x n + bu) / den) :
    ∃ m', bndExtraDim R n var el bl eu bu den m = some m' ∧ upd x var t ∈ γB n m' := by
  unfold bndExtraDim
  dsimp only
  -- the new dimension receives the value of the upper bound expression
  have hx0 := holds_embedOne hx
  have hx1 : upd x n ((linEval eu x (n+1) + bu) / den) ∈ γB (n+1) _ :=
    affineImageCore_sound hR (Nat.lt_succ_self n) hcu hden (b := bu) hx0
  have hu : linEval eu x (n+1) = linEval eu x n := by simp [linEval, heu n (le_refl n)]
  rw [hu] at hx1
  generalize hU : (linEval eu x n + bu) / (den : Rat) = U at hx1 hub
  generalize affineImageCore R (n + 1) n eu bu den (embedOne n m) = m1 at hx1 ⊢
  generalize ((List.range (n + 2)).any fun i => (List.range (n + 2)).any fun j =>
    decide (m1 i j ≠ forgetAll (n + 2) (n + 1) (embedOne n m) i j)) = changed
  have hs2 := sat_ofMat hx1
  -- the matrix handed to the inner `generalized_affine_image`
  have hm2 : (changed && DBM.closureEmpty R.up (DBM.ofMat (n + 1) m1)) = false ∧
      upd x n U ∈ γB (n+1) (if changed = true then (DBM.closure R.up (DBM.ofMat (n + 1) m1)).e else m1) := by
    cases changed with
    | false => exact ⟨rfl, by simpa using hx1⟩
    | true =>
      simp only [Bool.true_and, if_true]
      constructor
      · cases he : DBM.closureEmpty R.up (DBM.ofMat (n + 1) m1) with
        | false => rfl
        | true => exact absurd hs2 (DBM.closureEmpty_sound hR.up_le _ he _)
      · exact (DBM.sat_iff_holds _ _).1 (DBM.closure_sat hR.up_le _ _ hs2)
  rw [hm2.1]
  simp only [Bool.false_eq_true, if_false]
  have hx2 := hm2.2
  generalize (if changed = true then (DBM.closure R.up (DBM.ofMat (n + 1) m1)).e else m1) = m2 at hx2 ⊢
  -- the lower bound
  have hl : linEval el (upd x n U) (n+1) = linEval el x n := by
    simp only [linEval, hel n (le_refl n)]
    rw [linEval_congr_x el (x := upd x n U) (y := x) (fun i hi => by simp [upd]; intro h; omega)]
    simp
  have hx3 : upd (upd x n U) var t ∈ γB (n+1) (genAffineImageCore R (n + 1) var false el bl den m2) :=
    genAffineImageCore_sound hR (by omega) hcl hden hx2 false (by simp only [Bool.false_eq_true, if_false]; rw [hl]; exact hlb)
  -- `var <= new_var`
  have hx4 : Holds (SB (n+2)) (DBM.val (upd (upd x n U) var t))
      (addDbmConstraint (genAffineImageCore R (n + 1) var false el bl den m2) (n + 1) (var + 1) (divRoundUp R 0 1)) := by
    refine holds_addDbm hx3 (fun _ => ?_)
    have e1 : DBM.val (upd (upd x n U) var t) (var+1) = t := by rw [val_upd, if_pos rfl]
    have e2 : DBM.val (upd (upd x n U) var t) (n+1) = U := by
      rw [val_upd, if_neg (by omega), val_upd, if_pos rfl]
    rw [e1, e2]
    refine le_trans' (fin_le_fin.2 ?_) (hR.up_le _)
    simp; linarith
  have hs5 := sat_ofMat hx4
  split
  · rename_i he
    exact absurd hs5 (DBM.closureEmpty_sound hR.up_le _ he _)
  · refine ⟨_, rfl, ?_⟩
    have h6 := (DBM.sat_iff_holds _ _).1 (DBM.closure_sat hR.up_le _ _ hs5)
    intro a b hab
    have := h6 a b ⟨by have := hab.1; omega, by have := hab.2; omega⟩
    have hv : ∀ a, a < n + 1 → DBM.val (upd (upd x n U) var t) a = DBM.val (upd x var t) a := by
      intro a ha
      by_cases hav : a = var + 1
      · rw [val_upd, if_pos hav, val_upd, if_pos hav]
      · rw [val_upd, if_neg hav, val_upd, if_neg (by omega), val_upd, if_neg hav]
    rw [hv a hab.1, hv b hab.2] at this
    exact this

end PPLV.WR

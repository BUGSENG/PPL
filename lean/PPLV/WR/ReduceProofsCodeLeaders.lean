import PPLV.WR.ReduceProofsCodeClosed
/-!
# Reduction (BD shapes): `compute_predecessors`, `compute_leaders`, `compute_leader_indices`
-/
namespace PPLV.WR
open ExtRat (fin pinf)

/-! ## loops -/

/-! ## `findDown` -/

theorem findDown_congr {i : Nat} {p q : Nat → Bool} (h : ∀ j, j < i → p j = q j) :
    findDown i p = findDown i q := by
  induction i with
  | zero => rfl
  | succ i ih =>
    simp only [findDown]
    rw [h i (Nat.lt_succ_self i), ih (fun j hj => h j (Nat.lt_succ_of_lt hj))]

theorem findDown_some_iff (i : Nat) (p : Nat → Bool) (j : Nat) :
    findDown i p = some j ↔ j < i ∧ p j = true ∧ ∀ t, j < t → t < i → p t = false := by
  induction i with
  | zero => simp [findDown]
  | succ i ih =>
    simp only [findDown]
    by_cases hp : p i = true
    · rw [if_pos hp]
      constructor
      · intro h
        have : i = j := by simpa using h
        subst this
        exact ⟨Nat.lt_succ_self _, hp, fun t h1 h2 => by omega⟩
      · rintro ⟨h1, h2, h3⟩
        by_cases hji : j = i
        · rw [hji]
        · have := h3 i (by omega) (Nat.lt_succ_self i)
          rw [hp] at this
          cases this
    · rw [if_neg hp, ih]
      have hp' : p i = false := by simpa using hp
      constructor
      · rintro ⟨h1, h2, h3⟩
        refine ⟨by omega, h2, fun t ht1 ht2 => ?_⟩
        by_cases hti : t = i
        · rw [hti]; exact hp'
        · exact h3 t ht1 (by omega)
      · rintro ⟨h1, h2, h3⟩
        have hji : j ≠ i := by
          intro hji; rw [hji] at h2; rw [h2] at hp'; cases hp'
        exact ⟨by omega, h2, fun t ht1 ht2 => h3 t ht1 (by omega)⟩

theorem findDown_none_iff (i : Nat) (p : Nat → Bool) :
    findDown i p = none ↔ ∀ t, t < i → p t = false := by
  induction i with
  | zero => simp [findDown]
  | succ i ih =>
    simp only [findDown]
    by_cases hp : p i = true
    · rw [if_pos hp]
      constructor
      · intro h; cases h
      · intro h
        have := h i (Nat.lt_succ_self i)
        rw [hp] at this
        cases this
    · rw [if_neg hp, ih]
      have hp' : p i = false := by simpa using hp
      constructor
      · intro h t ht
        by_cases hti : t = i
        · rw [hti]; exact hp'
        · exact h t (by omega)
      · intro h t ht
        exact h t (by omega)

/-! ## `compute_predecessors` -/

/-- closed form of `predecessor[s]` -/
def predF (m : Mat) (s : Nat) : Nat :=
  match findDown s (fun j => ExtRat.isAddInv (m j s) (m s j)) with
  | some j => j
  | none => s

theorem predF_zero (m : Mat) : predF m 0 = 0 := rfl

theorem predF_le (m : Mat) (s : Nat) : predF m s ≤ s := by
  unfold predF
  split
  · rename_i j hj
    have := ((findDown_some_iff _ _ _).1 hj).1
    omega
  · exact Nat.le_refl _

theorem bdsComputePredecessors_apply (rows : Nat) (m : Mat) (s : Nat) :
    bdsComputePredecessors rows m s = if s < rows then predF m s else s := by
  unfold bdsComputePredecessors
  refine Eq.trans (loopDown_ind
    (fun t (pr : Vec) => ∀ s, pr s = if t ≤ s ∧ s < rows then predF m s else s)
    rows _ Vec.iota ?_ ?_ s) ?_
  · intro s
    rw [if_neg (by omega)]
    rfl
  · intro t ht pr hI s
    have hlow : ∀ j, j < t + 1 → pr j = j := fun j hj => by rw [hI j, if_neg (by omega)]
    by_cases ht0 : t = 0
    · rw [if_pos ht0, hI s]
      subst ht0
      by_cases hs0 : s = 0
      · subst hs0
        rw [if_neg (by omega)]
        split
        · rfl
        · rfl
      · by_cases hs : s < rows
        · rw [if_pos ⟨by omega, hs⟩, if_pos ⟨by omega, hs⟩]
        · rw [if_neg (by omega), if_neg (by omega)]
    · rw [if_neg ht0, if_pos (hlow t (Nat.lt_succ_self t)).symm]
      have hfd : findDown t (fun j => j == pr j && ExtRat.isAddInv (m j t) (m t j))
          = findDown t (fun j => ExtRat.isAddInv (m j t) (m t j)) := by
        apply findDown_congr
        intro j hj
        simp only [hlow j (by omega), beq_self_eq_true, Bool.true_and]
      rw [hfd]
      by_cases hst : s = t
      · subst hst
        rw [if_pos ⟨Nat.le_refl _, ht⟩]
        unfold predF
        cases hf : findDown s (fun j => ExtRat.isAddInv (m j s) (m s j)) with
        | none => exact hlow s (Nat.lt_succ_self s)
        | some j => simp only [Vec.set_apply, if_true]
      · have hset : ∀ j, (pr.set t j) s = pr s := fun j => by
          simp only [Vec.set_apply, if_neg hst]
        have hgoal : pr s = if t ≤ s ∧ s < rows then predF m s else s := by
          rw [hI s]
          by_cases hs : t + 1 ≤ s ∧ s < rows
          · rw [if_pos hs, if_pos ⟨by omega, hs.2⟩]
          · rw [if_neg hs, if_neg (by omega)]
        cases hf : findDown t (fun j => ExtRat.isAddInv (m j t) (m t j)) with
        | none => exact hgoal
        | some j => exact (hset j).trans hgoal
  · by_cases hs : s < rows
    · rw [if_pos ⟨Nat.zero_le _, hs⟩, if_pos hs]
    · rw [if_neg (by omega), if_neg hs]

theorem bdsPred_le_all (rows : Nat) (m : Mat) (s : Nat) : bdsComputePredecessors rows m s ≤ s := by
  rw [bdsComputePredecessors_apply]
  split
  · exact predF_le m s
  · exact Nat.le_refl _

theorem bdsPred_zero (rows : Nat) (m : Mat) : bdsComputePredecessors rows m 0 = 0 :=
  Nat.le_zero.1 (bdsPred_le_all rows m 0)

theorem predF_isPredMap (n : Nat) (c : Mat) : IsPredMap n c (predF c) := by
  have hcase : ∀ i, (∃ j, findDown i (fun j => ExtRat.isAddInv (c j i) (c i j)) = some j ∧ predF c i = j)
      ∨ (findDown i (fun j => ExtRat.isAddInv (c j i) (c i j)) = none ∧ predF c i = i) := by
    intro i
    unfold predF
    cases findDown i (fun j => ExtRat.isAddInv (c j i) (c i j)) with
    | none => exact Or.inr ⟨rfl, rfl⟩
    | some j => exact Or.inl ⟨j, rfl, rfl⟩
  have hz : ∀ j i, j ≠ i → ZEq c j i → ExtRat.isAddInv (c j i) (c i j) = true := by
    intro j i hji h
    rcases h with h | h
    · exact absurd h hji
    · exact h
  refine ⟨fun i _ => predF_le c i, ?_, ?_, ?_⟩
  · intro i _
    rcases hcase i with ⟨j, hf, hp⟩ | ⟨_, hp⟩
    · rw [hp]
      exact Or.inr ((findDown_some_iff _ _ _).1 hf).2.1
    · rw [hp]; exact Or.inl rfl
  · intro i j _ h1 h2 hz'
    have hinv := hz j i (by omega) hz'
    rcases hcase i with ⟨j0, hf, hp⟩ | ⟨_, hp⟩
    · rw [hp] at h1
      have := ((findDown_some_iff _ _ _).1 hf).2.2 j h1 h2
      rw [hinv] at this
      cases this
    · omega
  · intro i j _ h1 h2 hz'
    have hinv := hz j i (by omega) hz'
    rcases hcase i with ⟨j0, hf, hp⟩ | ⟨hf, _⟩
    · have := ((findDown_some_iff _ _ _).1 hf).1
      omega
    · have := (findDown_none_iff _ _).1 hf j h2
      rw [hinv] at this
      cases this

theorem IsPredMap.congr {n : Nat} {c : Mat} {p q : Nat → Nat} (h : ∀ i, i ≤ n → q i = p i)
    (hp : IsPredMap n c p) : IsPredMap n c q := by
  refine ⟨?_, ?_, ?_, ?_⟩
  · intro i hi; rw [h i hi]; exact hp.le i hi
  · intro i hi; rw [h i hi]; exact hp.zeq i hi
  · intro i j hi; rw [h i hi]; exact hp.greatest i j hi
  · intro i j hi; rw [h i hi]; exact hp.self i j hi

theorem bdsComputePredecessors_spec {n : Nat} (c : DBM n) :
    IsPredMap n c.e (bdsComputePredecessors (n+1) c.e) := by
  refine IsPredMap.congr ?_ (predF_isPredMap n c.e)
  intro i hi
  rw [bdsComputePredecessors_apply, if_pos (by omega)]

/-! ## `compute_leaders` -/

/-- flattening a predecessor map gives the leader map -/
theorem leaders_loop_spec {n : Nat} (c : DBM n) (hc : c.IsClosed) (P : Vec)
    (hP : IsPredMap n c.e P) :
    IsLeaderMap n c.e (loopUp (α := Vec) (n+1) (fun i (leaders : Vec) =>
      if i = 0 then leaders
      else
        let leaders_i := leaders i
        if leaders_i ≠ i then leaders.set i (leaders leaders_i) else leaders) P) := by
  have key := loopUp_ind
    (fun t (L : Vec) => (∀ s, t ≤ s → L s = P s) ∧
      (∀ s, s < t → s ≤ n → L s ≤ s ∧ ZEq c.e (L s) s ∧ ∀ j, j ≤ n → ZEq c.e j s → L s ≤ j))
    (n+1) (fun i (leaders : Vec) =>
      if i = 0 then leaders
      else
        let leaders_i := leaders i
        if leaders_i ≠ i then leaders.set i (leaders leaders_i) else leaders) P
    ⟨fun _ _ => rfl, fun s hs => absurd hs (Nat.not_lt_zero s)⟩ ?_
  · exact ⟨fun i hi => (key.2 i (by omega) hi).1, fun i hi => (key.2 i (by omega) hi).2.1,
      fun i j hi hj h => (key.2 i (by omega) hi).2.2 j hj h⟩
  · intro t ht L ⟨h1, h2⟩
    have htn : t ≤ n := by omega
    by_cases ht0 : t = 0
    · rw [if_pos ht0]
      subst ht0
      refine ⟨fun s hs => h1 s (by omega), ?_⟩
      intro s hs _
      have hs0 : s = 0 := by omega
      subst hs0
      have hL0 : L 0 = 0 := by
        rw [h1 0 (Nat.le_refl 0)]
        exact Nat.le_zero.1 (hP.le 0 (Nat.zero_le n))
      rw [hL0]
      exact ⟨Nat.le_refl 0, ZEq.refl _ _, fun j _ _ => Nat.zero_le j⟩
    · rw [if_neg ht0]
      dsimp only
      have hLt : L t = P t := h1 t (Nat.le_refl t)
      by_cases hne : L t ≠ t
      · rw [if_pos hne]
        have hlt : L t < t := by
          have := hP.le t htn
          rw [hLt] at hne ⊢
          omega
        have hltn : L t ≤ n := by omega
        obtain ⟨a1, a2, a3⟩ := h2 (L t) hlt hltn
        have hzt : ZEq c.e (L t) t := by rw [hLt]; exact hP.zeq t htn
        refine ⟨?_, ?_⟩
        · intro s hs
          simp only [Vec.set_apply, if_neg (show s ≠ t by omega)]
          exact h1 s (by omega)
        · intro s hs hsn
          by_cases hst : s = t
          · subst hst
            simp only [Vec.set_apply, if_true]
            refine ⟨by omega, ?_, ?_⟩
            · exact ZEq.trans hc (by omega) hltn htn a2 hzt
            · intro j hj hz
              exact a3 j hj (ZEq.trans hc hj htn hltn hz hzt.symm)
          · simp only [Vec.set_apply, if_neg hst]
            exact h2 s (by omega) hsn
      · rw [if_neg hne]
        have hLtt : L t = t := by simpa using hne
        refine ⟨fun s hs => h1 s (by omega), ?_⟩
        intro s hs hsn
        by_cases hst : s = t
        · subst hst
          rw [hLtt]
          refine ⟨Nat.le_refl _, ZEq.refl _ _, ?_⟩
          intro j _ hz
          by_cases hjs : j < s
          · exact absurd hz (hP.self s j htn (by rw [← hLt]; exact hLtt) hjs)
          · omega
        · exact h2 s (by omega) hsn

theorem bdsComputeLeaders_spec {n : Nat} (c : DBM n) (hc : c.IsClosed) :
    IsLeaderMap n c.e (bdsComputeLeaders (n+1) c.e) :=
  leaders_loop_spec c hc _ (bdsComputePredecessors_spec c)

/-! ## abstract consequences -/

theorem pred_self_iff_lead_self {n : Nat} {c : Mat} {lead pred : Nat → Nat}
    (hL : IsLeaderMap n c lead) (hP : IsPredMap n c pred) (i : Nat) (hi : i ≤ n) :
    pred i = i ↔ lead i = i := by
  constructor
  · intro h
    have h1 := hL.le i hi
    by_cases hlt : lead i < i
    · exact absurd (hL.zeq i hi) (hP.self i (lead i) hi h hlt)
    · omega
  · intro h
    have h1 := hP.le i hi
    have h2 := hL.least i (pred i) hi (by omega) (hP.zeq i hi)
    omega

theorem bdsLeaders_eq_iff {n : Nat} (c : DBM n) (hc : c.IsClosed) (i j : Nat) (hi : i ≤ n) (hj : j ≤ n) :
    bdsComputeLeaders (n+1) c.e i = bdsComputeLeaders (n+1) c.e j ↔ ZEq c.e i j :=
  (bdsComputeLeaders_spec c hc).eq_iff hc i j hi hj

theorem bdsPred_self_iff_leader {n : Nat} (c : DBM n) (hc : c.IsClosed) (i : Nat) (hi : i ≤ n) :
    bdsComputePredecessors (n+1) c.e i = i ↔ bdsComputeLeaders (n+1) c.e i = i :=
  pred_self_iff_lead_self (bdsComputeLeaders_spec c hc) (bdsComputePredecessors_spec c) i hi

/-! ## `compute_leader_indices` -/

theorem computeLeaderIndices_succ (size : Nat) (p : Vec) :
    computeLeaderIndices (size+1) p
      = (List.range (size+1)).filter (fun i => i == 0 || p i == i) := by
  unfold computeLeaderIndices
  induction size with
  | zero => rfl
  | succ k ih =>
    rw [loopUp, ih, List.range_succ (n := k+1), List.filter_append]
    rw [if_neg (Nat.succ_ne_zero k)]
    by_cases h : k + 1 = p (k + 1)
    · rw [if_pos h]
      congr 1
      simp [← h]
    · rw [if_neg h]
      have h' : (p (k+1) == k + 1) = false := by
        simp only [beq_eq_false_iff_ne, ne_eq]
        exact fun e => h e.symm
      simp [h']

theorem computeLeaderIndices_eq {n : Nat} (c : DBM n) :
    computeLeaderIndices (n+1) (bdsComputePredecessors (n+1) c.e)
      = (List.range (n+1)).filter (fun i => i == 0 || bdsComputePredecessors (n+1) c.e i == i) :=
  computeLeaderIndices_succ n _

theorem mem_computeLeaderIndices {n : Nat} (c : DBM n) (i : Nat) :
    i ∈ computeLeaderIndices (n+1) (bdsComputePredecessors (n+1) c.e)
      ↔ i ≤ n ∧ bdsComputePredecessors (n+1) c.e i = i := by
  rw [computeLeaderIndices_eq, List.mem_filter, List.mem_range]
  constructor
  · rintro ⟨h1, h2⟩
    refine ⟨by omega, ?_⟩
    simp only [Bool.or_eq_true, beq_iff_eq] at h2
    rcases h2 with h2 | h2
    · subst h2; exact bdsPred_zero _ _
    · exact h2
  · rintro ⟨h1, h2⟩
    refine ⟨by omega, ?_⟩
    simp only [Bool.or_eq_true, beq_iff_eq]
    exact Or.inr h2

theorem computeLeaderIndices_nodup {n : Nat} (c : DBM n) :
    (computeLeaderIndices (n+1) (bdsComputePredecessors (n+1) c.e)).Nodup := by
  rw [computeLeaderIndices_eq]
  exact List.Nodup.sublist List.filter_sublist List.nodup_range

end PPLV.WR

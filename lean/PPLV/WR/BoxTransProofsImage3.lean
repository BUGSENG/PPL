import PPLV.WR.BoxTransProofsImage2
import PPLV.WR.BoxTransProofsPropagate
/-!
# `Box<ITV>`: soundness of `bounded_affine_image(var, lb_expr, ub_expr, denominator)`

Every `y` with `lb(x)/den ≤ y ≤ ub(x)/den` gives a point `x[var := y]` of the result.  The
function refines with constraints several times: the soundness of `refine_with_constraint` is
the hypothesis `RefineSound cfg`.
-/
namespace PPLV.WR.BoxT
open PPLV.Interval
open PPLV.Interval.ExtRat (ninf fin pinf)

/-- the body of `bounded_affine_image` (`Box_templates.hh:3296`) after the emptiness test, the results of `max_min`
read through projections -/
def baiBody (cfg : Cfg) (b0 : Box) (v : Nat) (lb ub : LinExpr) (den : Int) : Box :=
  let b := if den > 0 then refineWithConstraint cfg b0 (conLe lb ub) else refineWithConstraint cfg b0 (conGe lb ub)
  let dv := LinExpr.var den v
  if lb.coeff v == 0 then
    let b := generalizedAffineImage cfg b v .le ub den
    if den > 0 then refineWithConstraint cfg b (conLe lb dv) else refineWithConstraint cfg b (conLe dv lb)
  else if ub.coeff v == 0 then
    let b := generalizedAffineImage cfg b v .ge lb den
    if den > 0 then refineWithConstraint cfg b (conLe dv ub) else refineWithConstraint cfg b (conLe ub dv)
  else
    let posLb := if den < 0 then lb.neg else lb
    let posUb := if den < 0 then ub.neg else ub
    let posDen : Rat := if den < 0 then ((-den : Int) : Rat) else (den : Rat)
    let r1 := maxMin cfg.p b posUb true
    let r2 := maxMin cfg.p r1.2 posLb false
    r2.2.setIv v (build2 cfg.p cfg.R
      (r2.1.map fun (m : Rat × Bool) => (if m.2 then Rel.ge else Rel.gt, m.1 / posDen))
      (r1.1.map fun (m : Rat × Bool) => (if m.2 then Rel.le else Rel.lt, m.1 / posDen)))

/-- the four outcomes of the two calls of `max_min` are one `build2` -/
theorem bai_tail_eq (p : Policy) (R : Rounding) (v : Nat) (pd : Rat) (r1 : Option (Rat × Bool) × Box)
    (g : Box → Option (Rat × Bool) × Box) :
    (match r1 with
      | (mx, b) =>
        match mx with
        | some (qmax, maxIncl) =>
          match g b with
          | (mn, b) =>
            match mn with
            | some (qmin, minIncl) =>
              b.setIv v (build2 p R (some (if minIncl then Rel.ge else Rel.gt, qmin / pd))
                (some (if maxIncl then Rel.le else Rel.lt, qmax / pd)))
            | none => b.setIv v (buildC p R (if maxIncl then .le else .lt) (qmax / pd))
        | none =>
          match g b with
          | (mn, b) =>
            match mn with
            | some (qmin, minIncl) => b.setIv v (buildC p R (if minIncl then .ge else .gt) (qmin / pd))
            | none => b.setIv v (Iv.universe p)) =
      (g r1.2).2.setIv v (build2 p R
        ((g r1.2).1.map fun (m : Rat × Bool) => (if m.2 then Rel.ge else Rel.gt, m.1 / pd))
        (r1.1.map fun (m : Rat × Bool) => (if m.2 then Rel.le else Rel.lt, m.1 / pd))) := by
  obtain ⟨_ | ⟨qmax, maxIncl⟩, b1⟩ := r1 <;> dsimp only <;> generalize g b1 = r2 <;>
    obtain ⟨_ | ⟨qmin, minIncl⟩, b2⟩ := r2 <;> rfl

theorem boundedAffineImage_eq (cfg : Cfg) (b : Box) (v : Nat) (lb ub : LinExpr) (den : Int) :
    boundedAffineImage cfg b v lb ub den =
      if (b.isEmptyQ cfg.p).1 then (b.isEmptyQ cfg.p).2 else baiBody cfg (b.isEmptyQ cfg.p).2 v lb ub den := by
  unfold boundedAffineImage baiBody
  generalize b.isEmptyQ cfg.p = r0
  obtain ⟨_ | _, b0⟩ := r0
  · refine ite_congr rfl (fun _ => rfl) fun _ => ite_congr rfl (fun _ => rfl) fun _ =>
      ite_congr rfl (fun _ => rfl) fun _ => ?_
    exact bai_tail_eq cfg.p cfg.R v _ (maxMin cfg.p _ _ true) (fun b => maxMin cfg.p b _ false)
  · rfl

theorem baiBody_sound {cfg : Cfg} (hS : cfg.Sound) (hRef : RefineSound cfg) {b : Box} {v : Nat} {lb ub : LinExpr}
    {den : Int} {x : Nat → Rat} {y : Rat}
    (hv : v < b.dim) (hlb : lb.WF b.dim) (hub : ub.WF b.dim) (hd : den ≠ 0) (hx : b.mem cfg.p x)
    (h1 : lb.eval x / (den : Rat) ≤ y) (h2 : y ≤ ub.eval x / (den : Rat)) :
    (baiBody cfg b v lb ub den).mem cfg.p (upd x v y) := by
  have hdq : (den : Rat) ≠ 0 := by exact_mod_cast hd
  have hb1 : (if den > 0 then refineWithConstraint cfg b (conLe lb ub)
      else refineWithConstraint cfg b (conGe lb ub)).mem cfg.p x := hRef.le_div hlb hub hd hx (le_trans h1 h2)
  have hd1 : (if den > 0 then refineWithConstraint cfg b (conLe lb ub)
      else refineWithConstraint cfg b (conGe lb ub)).dim = b.dim := by
    split <;> exact refineWithConstraint_dim _ _ _
  unfold baiBody
  simp only []
  generalize (if den > 0 then refineWithConstraint cfg b (conLe lb ub)
      else refineWithConstraint cfg b (conGe lb ub)) = b1 at hb1 hd1 ⊢
  have hv1 : v < b1.dim := by rw [hd1]; exact hv
  have hlb1 : lb.WF b1.dim := by rw [hd1]; exact hlb
  have hub1 : ub.WF b1.dim := by rw [hd1]; exact hub
  have hdve : (LinExpr.var den v).eval (upd x v y) / (den : Rat) = y := by simp [mul_div_cancel_left₀ _ hdq]
  by_cases hc : (lb.coeff v == 0) = true
  · -- `lb` does not mention `var`
    rw [if_pos hc]
    have hg := generalizedAffineImage_sound (rel := .le) hS hv1 hub1 hd (by decide) hb1 h2
    have hgd := generalizedAffineImage_dim cfg b1 v .le ub den
    refine hRef.le_div (by rw [hgd]; exact hlb1) (by rw [hgd]; exact LinExpr.WF.var _ hv1) hd hg ?_
    rwa [hdve, LinExpr.eval_upd_of_coeff_zero (by simpa using hc)]
  · rw [if_neg hc]
    by_cases hc' : (ub.coeff v == 0) = true
    · -- `ub` does not mention `var`
      rw [if_pos hc']
      have hg := generalizedAffineImage_sound (rel := .ge) hS hv1 hlb1 hd (by decide) hb1 h1
      have hgd := generalizedAffineImage_dim cfg b1 v .ge lb den
      refine hRef.le_div (by rw [hgd]; exact LinExpr.WF.var _ hv1) (by rw [hgd]; exact hub1) hd hg ?_
      rwa [hdve, LinExpr.eval_upd_of_coeff_zero (by simpa using hc')]
    · -- both mention `var`: the bounds of `max_min`
      rw [if_neg hc']
      have hpos : ∃ (pl pu : LinExpr) (pd : Rat),
          (if den < 0 then lb.neg else lb) = pl ∧ (if den < 0 then ub.neg else ub) = pu ∧
          (if den < 0 then ((-den : Int) : Rat) else (den : Rat)) = pd ∧ 0 < pd ∧
          pl.WF b1.dim ∧ pu.WF b1.dim ∧ pl.eval x / pd ≤ y ∧ y ≤ pu.eval x / pd := by
        by_cases hn : den < 0
        · have hn' : (den : Rat) < 0 := by exact_mod_cast hn
          refine ⟨lb.neg, ub.neg, ((-den : Int) : Rat), by simp [hn], by simp [hn], by simp [hn], ?_,
            LinExpr.WF.neg hlb1, LinExpr.WF.neg hub1, ?_, ?_⟩
          · push_cast; linarith
          · rw [LinExpr.eval_neg]; push_cast; rw [neg_div_neg_eq]; exact h1
          · rw [LinExpr.eval_neg]; push_cast; rw [neg_div_neg_eq]; exact h2
        · have hp : 0 < den := lt_of_le_of_ne (not_lt.1 hn) (Ne.symm hd)
          have hp' : (0 : Rat) < (den : Rat) := by exact_mod_cast hp
          exact ⟨lb, ub, (den : Rat), by simp [hn], by simp [hn], by simp [hn], hp', hlb1, hub1, h1, h2⟩
      obtain ⟨pl, pu, pd, e1, e2, e3, hpd, hpl, hpu, hl, hu⟩ := hpos
      rw [e1, e2, e3]
      have hz1 : (maxMin cfg.p b1 pu true).2.mem cfg.p x := maxMin_mem_iff.2 hb1
      have hdm1 : (maxMin cfg.p b1 pu true).2.dim = b1.dim := maxMin_dim _ _ _ _
      have hz2 : (maxMin cfg.p (maxMin cfg.p b1 pu true).2 pl false).2.mem cfg.p x := maxMin_mem_iff.2 hz1
      refine Box.mem_setIv hz2 (build2_sound hS.R (build2_lb_map (g := (· / pd)) fun q i hq => ?_)
        (build2_ub_map (g := (· / pd)) fun q i hq => ?_))
      · simpa using cmp_trans (o2 := false) (cmp_div_right hpd (maxMin_dcmp (m := false) (by rw [hdm1]; exact hpl) hq hz1)) hl
      · simpa using cmp_trans (o1 := false) hu (cmp_div_right hpd (maxMin_dcmp (m := true) hpu hq hb1))

theorem boundedAffineImage_sound {cfg : Cfg} (hS : cfg.Sound) (hRef : RefineSound cfg) {b : Box} {v : Nat}
    {lb ub : LinExpr} {den : Int} {x : Nat → Rat} {y : Rat}
    (hv : v < b.dim) (hlb : lb.WF b.dim) (hub : ub.WF b.dim) (hd : den ≠ 0) (hx : b.mem cfg.p x)
    (h1 : lb.eval x / (den : Rat) ≤ y) (h2 : y ≤ ub.eval x / (den : Rat)) :
    (boundedAffineImage cfg b v lb ub den).mem cfg.p (upd x v y) := by
  rw [boundedAffineImage_eq]
  obtain ⟨g1, g2, g3⟩ := Box.isEmptyQ_of_mem hx
  rw [g1]
  simp only [Bool.false_eq_true, if_false]
  have hdim := Box.isEmptyQ_dim b cfg.p
  exact baiBody_sound hS hRef (by rw [hdim]; exact hv) (by rw [hdim]; exact hlb) (by rw [hdim]; exact hub) hd g2 h1 h2

/-! ## non-vacuity -/

example (hRef : RefineSound Cfg.mpq) :
    (boundedAffineImage Cfg.mpq (Box.univ Policy.rational 2) 0 ⟨[1, 1], 2⟩ ⟨[1, 1], 0⟩ (-1)).mem Policy.rational
    (upd (fun _ => 1) 0 (-3)) :=
  boundedAffineImage_sound Cfg.mpq_sound hRef (by decide) (by unfold LinExpr.WF; decide)
    (by unfold LinExpr.WF; decide) (by decide) (Box.univ_mem _ _ _)
    (by norm_num [LinExpr.eval, LinExpr.dot]) (by norm_num [LinExpr.eval, LinExpr.dot])

end PPLV.WR.BoxT

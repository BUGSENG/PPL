import PPLV.PolyFull.ProofsOpsAffinePair

/-!
# `minG` of the rewritten generators at the indices that are NOT lines

For a rewritten ray / point `g'_j` (factor `σ_j > 0`): a combination of the other rewritten rows giving
`g'_j` is, multiplied by `σ_j · ∏ σ_i²` and pushed through the inverse map, a combination of the other
old rows giving `g_j`.
-/
namespace PPLV.PolyFull
open PPLV.Lin PPLV.PolyOps
open PPLV.Conv (scalarProduct holds holdsAll Vec Sound SatCorrect Generated colVec sp_colVec)

theorem sum_mul_left (l : List Nat) (f : Nat → Int) (a : Int) :
    a * (l.map f).sum = (l.map fun i => a * f i).sum := by
  induction l with
  | nil => simp
  | cons x l ih => simp only [List.map_cons, List.sum_cons, ← ih]; ring

/-- an identity between functionals is carried through `subVec` -/
theorem push_subVec (N v : Nat) (E : LinExpr) (d : Int) (hvN : v + 1 < N) (Z : Vec) (Zs : Nat → Vec)
    (m : Nat) (Dn : Int) (k : Nat → Int) (hZ : Z.length ≤ N) (hZs : ∀ i, i < m → (Zs i).length ≤ N)
    (h : ∀ c : Vec, Dn * scalarProduct c Z = ((List.range m).map fun i => k i * scalarProduct c (Zs i)).sum)
    (c : Vec) :
    Dn * scalarProduct c (subVec N v E d Z) =
      ((List.range m).map fun i => k i * scalarProduct c (subVec N v E d (Zs i))).sum := by
  calc Dn * scalarProduct c (subVec N v E d Z)
      = d * (Dn * scalarProduct c Z) + c.getD (v + 1) 0 *
          (Dn * scalarProduct (Ev E) Z - d * (Dn * scalarProduct (colVec (v + 1)) Z)) := by
        rw [sp_subVec' N v E d c Z hvN hZ, sp_colVec]; ring
    _ = _ := by
        rw [h c, h (Ev E), h (colVec (v + 1)), sum_lin]
        apply sum_map_congr
        intro i hi
        rw [sp_subVec' N v E d c _ hvN (hZs i (List.mem_range.mp hi)), sp_colVec]
        ring

theorem prod_sq_pos (l : List Row) (σ : Row → Int) (h : ∀ r ∈ l, σ r ≠ 0) :
    0 < (l.map fun r => σ r * σ r).prod := by
  induction l with
  | nil => simp
  | cons a l ih =>
    simp only [List.map_cons, List.prod_cons]
    exact mul_pos (mul_self_pos.mpr (h a (List.mem_cons_self ..)))
      (ih fun r hr => h r (List.mem_cons_of_mem _ hr))

theorem dvd_prod_sq (l : List Row) (σ : Row → Int) (r : Row) (hr : r ∈ l) :
    σ r ∣ (l.map fun r => σ r * σ r).prod := by
  induction l with
  | nil => cases hr
  | cons a l ih =>
    simp only [List.map_cons, List.prod_cons]
    rcases List.mem_cons.mp hr with rfl | hr
    · exact Dvd.dvd.mul_right (Dvd.intro _ rfl) _
    · exact Dvd.dvd.mul_left (ih hr) _

theorem minG_affine_nonline {nnc n v Eg dg Ec dc} (D : AffData nnc n v Eg dg Ec dc) (gs : List Row)
    (hgs : ∀ g ∈ gs, g.cf.length = n)
    (h : ∀ j, j < gs.length → ¬ Generated ((gs.eraseIdx j).map (toL nnc)) (toL nnc (gs.getD j default)).v) :
    ∀ j, j < (gs.map (Fg v Eg dg)).length → ((gs.map (Fg v Eg dg)).getD j default).eq = false →
      ¬ Generated (((gs.map (Fg v Eg dg)).eraseIdx j).map (toL nnc))
        (toL nnc ((gs.map (Fg v Eg dg)).getD j default)).v := by
  intro j hj hline hgen
  have hj' : j < gs.length := by simpa using hj
  apply h j hj'
  have hgj := getD_mem gs j hj'
  have hFj : (gs.map (Fg v Eg dg)).getD j default = Fg v Eg dg (gs.getD j default) := by
    simp [List.getD_eq_getElem?_getD, hj']
  rw [hFj] at hline hgen
  rw [eraseIdx_map'] at hgen
  have hjl : (gs.getD j default).eq = false := by rw [← (Fg_eq D _ (hgs _ hgj)).1]; exact hline
  have hsub : ∀ r ∈ gs.eraseIdx j, r ∈ gs := fun r hr => List.mem_of_mem_eraseIdx hr
  obtain ⟨den, coef, hden, hlen, hnn, hid⟩ := hgen
  have hex : ∀ g : Row, ∃ s : Int, g ∈ gs → (s ≠ 0 ∧ (g.eq = false → 0 < s) ∧
      ∀ a : Vec, scalarProduct a (subVec (numCols nnc n) v Eg dg (Lv nnc g)) =
        s * scalarProduct a (Lv nnc (Fg v Eg dg g))) := by
    intro g
    by_cases hg : g ∈ gs
    · obtain ⟨s, h1, h2, _, _, h3⟩ := genRow_factor nnc n v Eg dg g (hgs g hg) D.hEg D.hv
      exact ⟨s, fun _ => ⟨h1, h2, h3⟩⟩
    · exact ⟨0, fun h => absurd h hg⟩
  choose σ hσ using hex
  have hvN := D.hvN
  have hκ : 0 < dc * dg := mul_pos D.hdc D.hdg
  -- abbreviations
  obtain ⟨rows, hrows⟩ : ∃ rows, rows = gs.eraseIdx j := ⟨_, rfl⟩
  rw [← hrows] at hsub hlen hnn hid ⊢
  obtain ⟨P, hP⟩ : ∃ P, P = (rows.map fun r => σ r * σ r).prod := ⟨_, rfl⟩
  have hPpos : 0 < P := by rw [hP]; exact prod_sq_pos rows σ (fun r hr => (hσ r (hsub r hr)).1)
  have hq : ∀ r ∈ rows, (P / σ r) * σ r = P := fun r hr =>
    Int.ediv_mul_cancel (by rw [hP]; exact dvd_prod_sq rows σ r hr)
  have hm1 : ((rows.map (Fg v Eg dg)).map (toL nnc)).length = rows.length := by simp
  have hm2 : (rows.map (toL nnc)).length = rows.length := by simp
  rw [hm1] at hid
  have sj_pos : 0 < σ (gs.getD j default) := (hσ _ hgj).2.1 hjl
  have hLj : (Lv nnc (gs.getD j default)).length ≤ numCols nnc n := by
    rw [Lv_length nnc n _ (hgs _ hgj)]
  -- the identity between the images under `A`
  have hA : ∀ c : Vec, den * P * scalarProduct c (subVec (numCols nnc n) v Eg dg (Lv nnc (gs.getD j default))) =
      ((List.range rows.length).map fun i =>
        (coef.getD i 0 * σ (gs.getD j default) * (P / σ (rows.getD i default))) *
          scalarProduct c (subVec (numCols nnc n) v Eg dg (Lv nnc (rows.getD i default)))).sum := by
    intro c
    rw [(hσ _ hgj).2.2 c]
    have := hid c
    rw [toL_v] at this
    calc den * P * (σ (gs.getD j default) * scalarProduct c (Lv nnc (Fg v Eg dg (gs.getD j default))))
        = (P * σ (gs.getD j default)) * (den * scalarProduct c (Lv nnc (Fg v Eg dg (gs.getD j default)))) := by
          ring
      _ = _ := by
          rw [this, sum_mul_left]
          apply sum_map_congr
          intro i hi
          have hi' : i < rows.length := List.mem_range.mp hi
          have hri := getD_mem rows i hi'
          rw [getD_map_map nnc rows _ i hi', toL_v, (hσ _ (hsub _ hri)).2.2 c]
          have e := hq _ hri
          linear_combination (-(coef.getD i 0 * σ (gs.getD j default) *
            scalarProduct c (Lv nnc (Fg v Eg dg (rows.getD i default))))) * e
  -- pushed through `B`
  have hB := push_subVec (numCols nnc n) v Ec dc hvN
    (subVec (numCols nnc n) v Eg dg (Lv nnc (gs.getD j default)))
    (fun i => subVec (numCols nnc n) v Eg dg (Lv nnc (rows.getD i default))) rows.length (den * P)
    (fun i => coef.getD i 0 * σ (gs.getD j default) * (P / σ (rows.getD i default)))
    (by rw [subVec_length]) (fun i _ => by rw [subVec_length]) hA
  refine ⟨den * P * (dc * dg),
    (List.range rows.length).map (fun i =>
      coef.getD i 0 * σ (gs.getD j default) * (P / σ (rows.getD i default)) * (dc * dg)),
    mul_pos (mul_pos hden hPpos) hκ, by simp, ?_, ?_⟩
  · intro i hi hle
    have hi' : i < rows.length := by rw [← hm2]; exact hi
    have hri := getD_mem rows i hi'
    have hrg := hsub _ hri
    have e2 : (rows.map (toL nnc))[i] = toL nnc (rows.getD i default) := by
      rw [← getD_map_toL nnc rows i hi', List.getD_eq_getElem?_getD, List.getElem?_eq_getElem hi]; rfl
    rw [e2, toL_le] at hle
    have e1 : ((rows.map (Fg v Eg dg)).map (toL nnc))[i]'(by rw [hm1]; exact hi') =
        toL nnc (Fg v Eg dg (rows.getD i default)) := by
      rw [← getD_map_map nnc rows _ i hi', List.getD_eq_getElem?_getD,
        List.getElem?_eq_getElem (by rw [hm1]; exact hi')]; rfl
    have hc0 := hnn i (by rw [hm1]; exact hi') (by rw [e1, toL_le, (Fg_eq D _ (hgs _ hrg)).1]; exact hle)
    have hsi : 0 < σ (rows.getD i default) := (hσ _ hrg).2.1 hle
    have hqi : 0 < P / σ (rows.getD i default) := by
      have e := hq _ hri
      by_contra hneg'
      have hneg := not_lt.mp hneg'
      have : P / σ (rows.getD i default) * σ (rows.getD i default) ≤ 0 :=
        mul_nonpos_of_nonpos_of_nonneg hneg (le_of_lt hsi)
      omega
    have hget : (List.map (fun i => coef.getD i 0 * σ (gs.getD j default) * (P / σ (rows.getD i default)) *
        (dc * dg)) (List.range rows.length)).getD i 0 =
        coef.getD i 0 * σ (gs.getD j default) * (P / σ (rows.getD i default)) * (dc * dg) := by
      simp [List.getD_eq_getElem?_getD, hi']
    rw [hget]
    exact mul_nonneg (mul_nonneg (mul_nonneg hc0 (le_of_lt sj_pos)) (le_of_lt hqi)) (le_of_lt hκ)
  · intro c
    rw [hm2, toL_v]
    have h1 := hB c
    rw [subVec_comp (numCols nnc n) v Ec dc Eg dg hvN D.hBA c _ hLj] at h1
    calc den * P * (dc * dg) * scalarProduct c (Lv nnc (gs.getD j default))
        = den * P * (dc * dg * scalarProduct c (Lv nnc (gs.getD j default))) := by ring
      _ = _ := by
          rw [h1]
          apply sum_map_congr
          intro i hi
          have hi' : i < rows.length := List.mem_range.mp hi
          have hri := getD_mem rows i hi'
          have hLi : (Lv nnc (rows.getD i default)).length ≤ numCols nnc n := by
            rw [Lv_length nnc n _ (hgs _ (hsub _ hri))]
          have hget : (List.map (fun i => coef.getD i 0 * σ (gs.getD j default) *
              (P / σ (rows.getD i default)) * (dc * dg)) (List.range rows.length)).getD i 0 =
              coef.getD i 0 * σ (gs.getD j default) * (P / σ (rows.getD i default)) * (dc * dg) := by
            simp [List.getD_eq_getElem?_getD, hi']
          rw [hget, getD_map_toL nnc rows i hi', toL_v,
            subVec_comp (numCols nnc n) v Ec dc Eg dg hvN D.hBA c _ hLi]
          ring

end PPLV.PolyFull

import PPLV.PolyFull.ProofsOpsAffineCone

/-!
# the invertible affine map keeps `EnginePair`

## `Sound` and `SatCorrect`

`AffData`: the two linear maps (generators by `A = subVec … Eg dg`, constraints composed with
`B = subVec … Ec dc`), inverse to each other up to the factor `dg · dc > 0`.  `prod_factor`: the scalar
product of a rewritten constraint row with a rewritten generator row is the old one up to a non-zero
factor, positive when neither row is an equality / a line.
-/
namespace PPLV.PolyFull
open PPLV.Lin PPLV.PolyOps
open PPLV.Conv (scalarProduct holds holdsAll Vec sp_eq_sum sp_comm Sound SatCorrect satisfies Generated LRow
  colVec sp_colVec)

structure AffData (nnc : Bool) (n v : Nat) (Eg : LinExpr) (dg : Int) (Ec : LinExpr) (dc : Int) : Prop where
  hv : v < n
  hEg : Eg.coeffs.length = n
  hEc : Ec.coeffs.length = n
  hdg : 0 < dg
  hdc : 0 < dc
  hAB : InvPair (numCols nnc n) v Eg dg Ec dc
  hBA : InvPair (numCols nnc n) v Ec dc Eg dg

/-- the rewritten constraint / generator row -/
def Fc (v : Nat) (Ec : LinExpr) (dc : Int) (c : Row) : Row := (conRowAffinePreimage v Ec dc c).strongNormalize
def Fg (v : Nat) (Eg : LinExpr) (dg : Int) (g : Row) : Row := (genRowAffineImage v Eg dg g).strongNormalize

theorem AffData.hvN {nnc n v Eg dg Ec dc} (D : AffData nnc n v Eg dg Ec dc) : v + 1 < numCols nnc n := by
  have := D.hv; unfold numCols; omega

theorem prod_factor {nnc n v Eg dg Ec dc} (D : AffData nnc n v Eg dg Ec dc) (c g : Row)
    (hc : c.cf.length = n) (hg : g.cf.length = n) :
    ∃ m : Int, m ≠ 0 ∧ (c.eq = false → g.eq = false → 0 < m) ∧
      m * scalarProduct (Lv nnc (Fc v Ec dc c)) (Lv nnc (Fg v Eg dg g)) =
        dc * dg * scalarProduct (Lv nnc c) (Lv nnc g) := by
  obtain ⟨t, ht, htpos, _, _, hct⟩ := conRow_factor nnc n v Ec dc c hc D.hEc D.hv D.hdc
  obtain ⟨s, hs, hspos, _, hgl, hgs⟩ := genRow_factor nnc n v Eg dg g hg D.hEg D.hv
  have hL' : (Lv nnc (Fg v Eg dg g)).length ≤ numCols nnc n :=
    le_of_eq (Lv_length nnc n _ hgl)
  have hL : (Lv nnc g).length ≤ numCols nnc n := by rw [Lv_length nnc n _ hg]
  have h1 := hct (Lv nnc (Fg v Eg dg g)) hL'
  have h2 := subVec_congr_scale (numCols nnc n) v Ec dc (subVec (numCols nnc n) v Eg dg (Lv nnc g))
    (Lv nnc (Fg v Eg dg g)) s D.hvN (by rw [subVec_length]) hL' hgs (Lv nnc c)
  have h3 := subVec_comp (numCols nnc n) v Ec dc Eg dg D.hvN D.hBA (Lv nnc c) (Lv nnc g) hL
  refine ⟨s * t, mul_ne_zero hs ht, fun h1' h2' => mul_pos (hspos h2') (htpos h1'), ?_⟩
  show s * t * scalarProduct (Lv nnc (conRowAffinePreimage v Ec dc c).strongNormalize)
    (Lv nnc (genRowAffineImage v Eg dg g).strongNormalize) = _
  unfold Fg at h1 h2
  rw [← h3, h2, h1]; ring

theorem Fc_eq {nnc n v Eg dg Ec dc} (D : AffData nnc n v Eg dg Ec dc) (c : Row) (hc : c.cf.length = n) :
    (Fc v Ec dc c).eq = c.eq ∧ (Fc v Ec dc c).cf.length = n := by
  obtain ⟨_, _, _, h1, h2, _⟩ := conRow_factor nnc n v Ec dc c hc D.hEc D.hv D.hdc
  exact ⟨h1, h2⟩

theorem Fg_eq {nnc n v Eg dg Ec dc} (D : AffData nnc n v Eg dg Ec dc) (g : Row) (hg : g.cf.length = n) :
    (Fg v Eg dg g).eq = g.eq ∧ (Fg v Eg dg g).cf.length = n := by
  obtain ⟨_, _, _, h1, h2, _⟩ := genRow_factor nnc n v Eg dg g hg D.hEg D.hv
  exact ⟨h1, h2⟩

theorem sound_affine {nnc n v Eg dg Ec dc} (D : AffData nnc n v Eg dg Ec dc) (cs gs : List Row)
    (hcs : ∀ c ∈ cs, c.cf.length = n) (hgs : ∀ g ∈ gs, g.cf.length = n)
    (h : Sound (cs.map (toL nnc)) (gs.map (toL nnc))) :
    Sound ((cs.map (Fc v Ec dc)).map (toL nnc)) ((gs.map (Fg v Eg dg)).map (toL nnc)) := by
  intro d hd s hs
  obtain ⟨g', hg', rfl⟩ := List.mem_map.mp hd
  obtain ⟨g, hg, rfl⟩ := List.mem_map.mp hg'
  obtain ⟨c', hc', rfl⟩ := List.mem_map.mp hs
  obtain ⟨c, hc, rfl⟩ := List.mem_map.mp hc'
  have hold := h (toL nnc g) (List.mem_map.mpr ⟨g, hg, rfl⟩) (toL nnc c) (List.mem_map.mpr ⟨c, hc, rfl⟩)
  obtain ⟨m, hm, hmpos, hprod⟩ := prod_factor D c g (hcs c hc) (hgs g hg)
  have hκ : 0 < dc * dg := mul_pos D.hdc D.hdg
  unfold satisfies at hold ⊢
  rw [toL_le, toL_le, toL_v, toL_v] at hold ⊢
  rw [(Fc_eq D c (hcs c hc)).1, (Fg_eq D g (hgs g hg)).1]
  split
  · rename_i hflag
    rw [if_pos hflag] at hold
    rw [hold, mul_zero] at hprod
    rcases mul_eq_zero.mp hprod with h0 | h0
    · exact absurd h0 hm
    · exact h0
  · rename_i hflag
    rw [if_neg hflag] at hold
    simp only [Bool.or_eq_true, not_or, Bool.not_eq_true] at hflag
    have hmp := hmpos hflag.1 hflag.2
    have : 0 ≤ m * scalarProduct (Lv nnc (Fc v Ec dc c)) (Lv nnc (Fg v Eg dg g)) := by
      rw [hprod]; exact mul_nonneg (le_of_lt hκ) hold
    exact (mul_nonneg_iff_of_pos_left hmp).mp this

theorem prod_ne_zero_iff {nnc n v Eg dg Ec dc} (D : AffData nnc n v Eg dg Ec dc) (c g : Row)
    (hc : c.cf.length = n) (hg : g.cf.length = n) :
    scalarProduct (Lv nnc (Fc v Ec dc c)) (Lv nnc (Fg v Eg dg g)) ≠ 0 ↔
      scalarProduct (Lv nnc c) (Lv nnc g) ≠ 0 := by
  obtain ⟨m, hm, _, hprod⟩ := prod_factor D c g hc hg
  have hκ : dc * dg ≠ 0 := ne_of_gt (mul_pos D.hdc D.hdg)
  constructor
  · intro h h0
    rw [h0, mul_zero] at hprod
    rcases mul_eq_zero.mp hprod with h1 | h1
    · exact hm h1
    · exact h h1
  · intro h h0
    rw [h0, mul_zero] at hprod
    rcases mul_eq_zero.mp hprod.symm with h1 | h1
    · exact hκ h1
    · exact h h1

/-- `SatCorrect` only looks at which scalar products vanish -/
theorem SatCorrect_congr (cols cols' dest dest' : List LRow) (sat : List PPLV.Conv.BRow)
    (hlc : cols'.length = cols.length) (hld : dest'.length = dest.length)
    (h : ∀ i (_ : i < dest.length) j (_ : j < cols.length),
      (scalarProduct (cols'.getD j default).v (dest'.getD i default).v ≠ 0 ↔
        scalarProduct (cols.getD j default).v (dest.getD i default).v ≠ 0))
    (hs : SatCorrect cols dest sat) : SatCorrect cols' dest' sat := by
  obtain ⟨h1, h2⟩ := hs
  refine ⟨by rw [h1, hld], fun i hi j => ?_⟩
  have hi' : i < dest.length := by rw [← hld]; exact hi
  rw [h2 i hi' j, hlc]
  by_cases hj : j < cols.length
  · have e1 : dest'[i] = dest'.getD i default := by
      rw [List.getD_eq_getElem?_getD, List.getElem?_eq_getElem hi]; rfl
    have e2 : dest[i] = dest.getD i default := by
      rw [List.getD_eq_getElem?_getD, List.getElem?_eq_getElem hi']; rfl
    rw [e1, e2]
    have := h i hi' j hj
    simp only [hj, decide_true, Bool.true_and]
    exact (decide_eq_decide.mpr this).symm
  · simp [hj]

theorem getD_map_map (nnc : Bool) (l : List Row) (f : Row → Row) (i : Nat) (hi : i < l.length) :
    ((l.map f).map (toL nnc)).getD i default = toL nnc (f (l.getD i default)) := by
  simp [List.getD_eq_getElem?_getD, hi]

theorem getD_map_toL (nnc : Bool) (l : List Row) (i : Nat) (hi : i < l.length) :
    (l.map (toL nnc)).getD i default = toL nnc (l.getD i default) := by
  simp [List.getD_eq_getElem?_getD, hi]

theorem getD_mem (l : List Row) (i : Nat) (hi : i < l.length) : l.getD i default ∈ l := by
  rw [List.getD_eq_getElem?_getD, List.getElem?_eq_getElem hi]; exact List.getElem_mem hi

theorem satC_affine {nnc n v Eg dg Ec dc} (D : AffData nnc n v Eg dg Ec dc) (cs gs : List Row)
    (hcs : ∀ c ∈ cs, c.cf.length = n) (hgs : ∀ g ∈ gs, g.cf.length = n) (sat : List PPLV.Conv.BRow)
    (h : SatCorrect (cs.map (toL nnc)) (gs.map (toL nnc)) sat) :
    SatCorrect ((cs.map (Fc v Ec dc)).map (toL nnc)) ((gs.map (Fg v Eg dg)).map (toL nnc)) sat := by
  apply SatCorrect_congr _ _ _ _ sat (by simp) (by simp) _ h
  intro i hi j hj
  have hi' : i < gs.length := by simpa using hi
  have hj' : j < cs.length := by simpa using hj
  rw [getD_map_map nnc cs _ j hj', getD_map_map nnc gs _ i hi', getD_map_toL nnc cs j hj',
    getD_map_toL nnc gs i hi']
  exact prod_ne_zero_iff D _ _ (hcs _ (getD_mem cs j hj')) (hgs _ (getD_mem gs i hi'))

theorem satG_affine {nnc n v Eg dg Ec dc} (D : AffData nnc n v Eg dg Ec dc) (cs gs : List Row)
    (hcs : ∀ c ∈ cs, c.cf.length = n) (hgs : ∀ g ∈ gs, g.cf.length = n) (sat : List PPLV.Conv.BRow)
    (h : SatCorrect (gs.map (toL nnc)) (cs.map (toL nnc)) sat) :
    SatCorrect ((gs.map (Fg v Eg dg)).map (toL nnc)) ((cs.map (Fc v Ec dc)).map (toL nnc)) sat := by
  apply SatCorrect_congr _ _ _ _ sat (by simp) (by simp) _ h
  intro i hi j hj
  have hi' : i < cs.length := by simpa using hi
  have hj' : j < gs.length := by simpa using hj
  rw [getD_map_map nnc gs _ j hj', getD_map_map nnc cs _ i hi', getD_map_toL nnc gs j hj',
    getD_map_toL nnc cs i hi', toL_v, toL_v, toL_v, toL_v, sp_comm (Lv nnc (Fg v Eg dg _)),
    sp_comm (Lv nnc (gs.getD j default))]
  exact prod_ne_zero_iff D _ _ (hcs _ (getD_mem cs i hi')) (hgs _ (getD_mem gs j hj'))

/-!
## the invertible affine map keeps `complete` and `minC`
-/
theorem eraseIdx_map' {α β : Type} (f : α → β) : ∀ (l : List α) (i : Nat),
    (l.map f).eraseIdx i = (l.eraseIdx i).map f
  | [], _ => rfl
  | _ :: _, 0 => rfl
  | a :: l, i + 1 => by simp [List.eraseIdx, eraseIdx_map' f l i]

/-- a rewritten constraint row at `X` is the old row at `B X` -/
theorem holds_Fc {nnc n v Eg dg Ec dc} (D : AffData nnc n v Eg dg Ec dc) (c : Row) (hc : c.cf.length = n)
    (X : Vec) (hX : X.length ≤ numCols nnc n) :
    holds (toL nnc (Fc v Ec dc c)) X ↔ holds (toL nnc c) (subVec (numCols nnc n) v Ec dc X) := by
  unfold Fc
  rw [holds_strongNormalize]
  exact holds_conRow nnc n v Ec dc c X hc D.hEc D.hv D.hdc hX

theorem holds_BA {nnc n v Eg dg Ec dc} (D : AffData nnc n v Eg dg Ec dc) (c : Row)
    (X : Vec) (hX : X.length ≤ numCols nnc n) :
    holds (toL nnc c) (subVec (numCols nnc n) v Ec dc (subVec (numCols nnc n) v Eg dg X)) ↔
      holds (toL nnc c) X :=
  holds_of_sp_pos _ _ _ X (dc * dg) (mul_pos D.hdc D.hdg) rfl
    (subVec_comp (numCols nnc n) v Ec dc Eg dg D.hvN D.hBA (toL nnc c).v X hX)

theorem minC_affine {nnc n v Eg dg Ec dc} (D : AffData nnc n v Eg dg Ec dc) (cs : List Row)
    (hcs : ∀ c ∈ cs, c.cf.length = n)
    (h : ∀ i, i < cs.length → ∃ x : Vec, x.length ≤ numCols nnc n ∧
      holdsAll ((cs.eraseIdx i).map (toL nnc)) x ∧ ¬ holdsAll (cs.map (toL nnc)) x) :
    ∀ i, i < (cs.map (Fc v Ec dc)).length → ∃ x : Vec, x.length ≤ numCols nnc n ∧
      holdsAll (((cs.map (Fc v Ec dc)).eraseIdx i).map (toL nnc)) x ∧
        ¬ holdsAll ((cs.map (Fc v Ec dc)).map (toL nnc)) x := by
  intro i hi
  obtain ⟨x0, hx0, hall, hnot⟩ := h i (by simpa using hi)
  have hAl : (subVec (numCols nnc n) v Eg dg x0).length ≤ numCols nnc n := by rw [subVec_length]
  refine ⟨subVec (numCols nnc n) v Eg dg x0, hAl, ?_, ?_⟩
  · rw [eraseIdx_map']
    intro l hl
    obtain ⟨c', hc', rfl⟩ := List.mem_map.mp hl
    obtain ⟨c, hc, rfl⟩ := List.mem_map.mp hc'
    have hcm : c ∈ cs := List.mem_of_mem_eraseIdx hc
    rw [holds_Fc D c (hcs c hcm) _ hAl, holds_BA D c x0 hx0]
    exact hall _ (List.mem_map.mpr ⟨c, hc, rfl⟩)
  · intro hall'
    apply hnot
    intro l hl
    obtain ⟨c, hc, rfl⟩ := List.mem_map.mp hl
    have := hall' (toL nnc (Fc v Ec dc c)) (List.mem_map.mpr ⟨_, List.mem_map.mpr ⟨c, hc, rfl⟩, rfl⟩)
    rw [holds_Fc D c (hcs c hc) _ hAl, holds_BA D c x0 hx0] at this
    exact this

theorem sum_lin (l : List Nat) (f1 f2 f3 : Nat → Int) (a b d : Int) :
    a * (l.map f1).sum + b * ((l.map f2).sum - d * (l.map f3).sum) =
      (l.map fun i => a * f1 i + b * (f2 i - d * f3 i)).sum := by
  induction l with
  | nil => simp
  | cons x l ih => simp only [List.map_cons, List.sum_cons, ← ih]; ring

theorem sum_map_congr (l : List Nat) (f g : Nat → Int) (h : ∀ i ∈ l, f i = g i) :
    (l.map f).sum = (l.map g).sum := by
  rw [List.map_congr_left h]

/-- a combination of `gs` that gives `Y` gives, row by row rewritten, `A Y` up to the factors -/
theorem generated_affine {nnc n v Eg dg Ec dc} (D : AffData nnc n v Eg dg Ec dc) (gs : List Row)
    (hgs : ∀ g ∈ gs, g.cf.length = n) (Y x : Vec) (hY : Y.length ≤ numCols nnc n) (κ : Int) (hκ : 0 < κ)
    (hx : ∀ a : Vec, scalarProduct a (subVec (numCols nnc n) v Eg dg Y) = κ * scalarProduct a x)
    (h : Generated (gs.map (toL nnc)) Y) :
    Generated ((gs.map (Fg v Eg dg)).map (toL nnc)) x := by
  obtain ⟨den, coef, hden, hlen, hnn, hid⟩ := h
  have hex : ∀ g : Row, ∃ s : Int, g ∈ gs → (s ≠ 0 ∧ (g.eq = false → 0 < s) ∧
      ∀ a : Vec, scalarProduct a (subVec (numCols nnc n) v Eg dg (Lv nnc g)) =
        s * scalarProduct a (Lv nnc (Fg v Eg dg g))) := by
    intro g
    by_cases hg : g ∈ gs
    · obtain ⟨s, h1, h2, _, _, h3⟩ := genRow_factor nnc n v Eg dg g (hgs g hg) D.hEg D.hv
      exact ⟨s, fun _ => ⟨h1, h2, h3⟩⟩
    · exact ⟨0, fun h => absurd h hg⟩
  choose σ hσ using hex
  have hm : (gs.map (toL nnc)).length = gs.length := by simp
  have hm' : ((gs.map (Fg v Eg dg)).map (toL nnc)).length = gs.length := by simp
  refine ⟨den * κ, (List.range gs.length).map (fun i => coef.getD i 0 * σ (gs.getD i default)),
    mul_pos hden hκ, by simp, ?_, ?_⟩
  · intro i hi hle
    have hi' : i < gs.length := by rw [← hm']; exact hi
    have hgi := getD_mem gs i hi'
    have e1 : ((gs.map (Fg v Eg dg)).map (toL nnc))[i] = toL nnc (Fg v Eg dg (gs.getD i default)) := by
      rw [← getD_map_map nnc gs _ i hi', List.getD_eq_getElem?_getD, List.getElem?_eq_getElem hi]; rfl
    rw [e1, toL_le, (Fg_eq D _ (hgs _ hgi)).1] at hle
    have e2 : (gs.map (toL nnc))[i]'(by rw [hm]; exact hi') = toL nnc (gs.getD i default) := by
      rw [← getD_map_toL nnc gs i hi', List.getD_eq_getElem?_getD,
        List.getElem?_eq_getElem (by rw [hm]; exact hi')]; rfl
    have hc0 := hnn i (by rw [hm]; exact hi') (by rw [e2]; exact hle)
    have : (List.map (fun i => coef.getD i 0 * σ (gs.getD i default)) (List.range gs.length)).getD i 0 =
        coef.getD i 0 * σ (gs.getD i default) := by
      simp [List.getD_eq_getElem?_getD, hi']
    rw [this]
    exact mul_nonneg hc0 (le_of_lt ((hσ _ hgi).2.1 hle))
  · intro c
    rw [hm'] 
    rw [hm] at hid
    have hvN := D.hvN
    calc den * κ * scalarProduct c x
        = den * scalarProduct c (subVec (numCols nnc n) v Eg dg Y) := by rw [hx c]; ring
      _ = dg * (den * scalarProduct c Y) + c.getD (v + 1) 0 *
            (den * scalarProduct (Ev Eg) Y - dg * (den * scalarProduct (colVec (v + 1)) Y)) := by
          rw [sp_subVec' _ v Eg dg c Y hvN hY, sp_colVec]; ring
      _ = _ := by
          rw [hid c, hid (Ev Eg), hid (colVec (v + 1)), sum_lin]
          apply sum_map_congr
          intro i hi
          have hi' : i < gs.length := List.mem_range.mp hi
          have hgi := getD_mem gs i hi'
          have hL : (Lv nnc (gs.getD i default)).length ≤ numCols nnc n := by
            rw [Lv_length nnc n _ (hgs _ hgi)]
          rw [getD_map_toL nnc gs i hi', getD_map_map nnc gs _ i hi', toL_v, toL_v]
          have e := (hσ _ hgi).2.2 c
          rw [sp_subVec' _ v Eg dg c _ hvN hL, ← sp_colVec (v + 1) (Lv nnc (gs.getD i default))] at e
          have hget : (List.map (fun i => coef.getD i 0 * σ (gs.getD i default)) (List.range gs.length)).getD i 0 =
              coef.getD i 0 * σ (gs.getD i default) := by
            simp [List.getD_eq_getElem?_getD, hi']
          rw [hget]
          linear_combination coef.getD i 0 * e

theorem complete_affine {nnc n v Eg dg Ec dc} (D : AffData nnc n v Eg dg Ec dc) (cs gs : List Row)
    (hcs : ∀ c ∈ cs, c.cf.length = n) (hgs : ∀ g ∈ gs, g.cf.length = n)
    (h : ∀ x : Vec, x.length ≤ numCols nnc n → holdsAll (cs.map (toL nnc)) x → Generated (gs.map (toL nnc)) x) :
    ∀ x : Vec, x.length ≤ numCols nnc n → holdsAll ((cs.map (Fc v Ec dc)).map (toL nnc)) x →
      Generated ((gs.map (Fg v Eg dg)).map (toL nnc)) x := by
  intro x hx hall
  have hBl : (subVec (numCols nnc n) v Ec dc x).length ≤ numCols nnc n := by rw [subVec_length]
  have hold : holdsAll (cs.map (toL nnc)) (subVec (numCols nnc n) v Ec dc x) := by
    intro l hl
    obtain ⟨c, hc, rfl⟩ := List.mem_map.mp hl
    have := hall (toL nnc (Fc v Ec dc c)) (List.mem_map.mpr ⟨_, List.mem_map.mpr ⟨c, hc, rfl⟩, rfl⟩)
    exact (holds_Fc D c (hcs c hc) x hx).mp this
  have hgen := h _ hBl hold
  exact generated_affine D gs hgs _ x hBl (dg * dc) (mul_pos D.hdg D.hdc)
    (fun a => subVec_comp (numCols nnc n) v Eg dg Ec dc D.hvN D.hAB a x hx) hgen

/-!
## the invertible affine map keeps `EnginePair` (all clauses but `minG` / `minL` here)

`enginePair_affine`: `sound`, `complete`, `minC`, `satC`, `satG` (with the SAME saturation matrices) of
the rewritten non-pending rows are proved here; `minG` and `minL` are inputs, proved TOGETHER in
ProofsOpsAffineMinG2.lean (`minG2_affine`).  `minG` alone is not invariant: `strongNormalize`
may negate a rewritten LINE, and `minG` is not invariant under the negation of a line — e.g.
`cs = {z = 0}`, `gs = {line (1,0,0), ray (0,1,0), ray (-1,-1,0)}` is an `EnginePair`, but with the line
negated `(-1,0,0) = (0,1,0) + (-1,-1,0)` is generated by the two rays.
-/
theorem enginePair_affine {nnc n v Eg dg Ec dc} (D : AffData nnc n v Eg dg Ec dc) (cs gs : List Row)
    (hcs : ∀ c ∈ cs, c.cf.length = n) (hgs : ∀ g ∈ gs, g.cf.length = n) (fC fG : Bool) (sC sG : BitMat)
    (h : EnginePair nnc n cs gs fC fG sC sG)
    (hMinG : ∀ j, j < (gs.map (Fg v Eg dg)).length →
      ¬ Generated (((gs.map (Fg v Eg dg)).eraseIdx j).map (toL nnc))
        (toL nnc ((gs.map (Fg v Eg dg)).getD j default)).v)
    (hMinL : ∀ j, j < (gs.map (Fg v Eg dg)).length → ((gs.map (Fg v Eg dg)).getD j default).eq = true →
      ¬ Generated (((gs.map (Fg v Eg dg)).eraseIdx j).map (toL nnc))
        ((toL nnc ((gs.map (Fg v Eg dg)).getD j default)).v.map (-1 * ·))) :
    EnginePair nnc n (cs.map (Fc v Ec dc)) (gs.map (Fg v Eg dg)) fC fG sC sG :=
  ⟨sound_affine D cs gs hcs hgs h.sound, complete_affine D cs gs hcs hgs h.complete,
   minC_affine D cs hcs h.minC, hMinG, hMinL,
   fun hf => ⟨satC_affine D cs gs hcs hgs _ (h.satC hf).1, by rw [(h.satC hf).2]; simp⟩,
   fun hf => ⟨satG_affine D cs gs hcs hgs _ (h.satG hf).1, by rw [(h.satG hf).2]; simp⟩⟩

theorem csAffinePreimage_take_Fc (v : Nat) (E : LinExpr) (d : Int) (s : Sys) :
    (csAffinePreimage v E d s).rows.take (csAffinePreimage v E d s).firstPending =
      (s.rows.take s.firstPending).map (Fc v E d) := by
  rw [(csAffinePreimage_fp v E d s).1, csAffinePreimage_rows, ← List.map_take, ← List.map_take, List.map_map]
  rfl

theorem gsAffineImage_take_Fg (v : Nat) (E : LinExpr) (d : Int) (s : Sys) (hc : E.coeffs.getD v 0 ≠ 0) :
    (gsAffineImage v E d s).rows.take (gsAffineImage v E d s).firstPending =
      (s.rows.take s.firstPending).map (Fg v E d) := by
  have hb : ¬ ((E.coeffs.getD v 0 == 0) = true) := by simpa using hc
  rw [gsAffineImage_take_inv v E d s hc, gsAffineImage_rows, if_neg hb, List.map_map]
  rfl

theorem sgnE_getD_ne (e : LinExpr) (den : Int) (v : Nat) (hc : e.coeffs.getD v 0 ≠ 0) :
    (sgnE e den).coeffs.getD v 0 ≠ 0 := by
  unfold sgnE; split
  · exact hc
  · rw [PPLV.PolyFull.exprNeg_getD]; exact neg_ne_zero.mpr hc

theorem affData_image (nnc : Bool) (n v : Nat) (e : LinExpr) (den : Int) (he : e.coeffs.length = n)
    (hv : v < n) (hden : den ≠ 0) (hc : e.coeffs.getD v 0 ≠ 0) :
    AffData nnc n v (sgnE e den) (sgnD den) (inverseMap n v e den).1 (inverseMap n v e den).2 :=
  ⟨hv, by rw [sgnE_length, he], inverseMap_length _ _ _ _, sgnD_pos den hden, inverseMap_den_pos _ _ _ _ hc,
   invPair_fwd _ n v e den he hv, invPair_bwd _ n v e den he hv⟩

theorem affData_preimage (nnc : Bool) (n v : Nat) (e : LinExpr) (den : Int) (he : e.coeffs.length = n)
    (hv : v < n) (hden : den ≠ 0) (hc : e.coeffs.getD v 0 ≠ 0) :
    AffData nnc n v (inverseMap n v e den).1 (inverseMap n v e den).2 (sgnE e den) (sgnD den) :=
  ⟨hv, inverseMap_length _ _ _ _, by rw [sgnE_length, he], inverseMap_den_pos _ _ _ _ hc, sgnD_pos den hden,
   invPair_bwd _ n v e den he hv, invPair_fwd _ n v e den he hv⟩

theorem affineImage_inv_eq (x : FPoly) (v : Nat) (e : LinExpr) (den : Int) (hex : x.p.st.empty = false)
    (hc : e.coeffs.getD v 0 ≠ 0) :
    ∃ q, x.p.affine_image v e den = some q ∧ x.affineImage v e den = { x with p := q } := by
  obtain ⟨q, hq, _⟩ := affineImage_inv_p x v e den hex hc
  obtain ⟨hst, _⟩ := affine_image_inv_shape x.p q v e den hex hc hq
  refine ⟨q, hq, ?_⟩
  rw [affineImage_eq_of_trivial x v e den (by rw [bne_iff_ne.mpr hc]; simp), hq]
  exact lift_of_nonempty x q (by rw [hst]; exact hex)

theorem affinePreimage_inv_eq (x : FPoly) (v : Nat) (e : LinExpr) (den : Int) (hex : x.p.st.empty = false)
    (hc : e.coeffs.getD v 0 ≠ 0) :
    ∃ q, x.p.affine_preimage v e den = some q ∧ x.affinePreimage v e den = { x with p := q } := by
  obtain ⟨q, hq, _⟩ := affinePreimage_inv_p x v e den hex hc
  obtain ⟨hst, _⟩ := affine_preimage_inv_shape x.p q v e den hex hc hq
  refine ⟨q, hq, ?_⟩
  rw [affinePreimage_eq, if_pos (by rw [bne_iff_ne.mpr hc]; simp), hq]
  exact lift_of_nonempty x q (by rw [hst]; exact hex)

end PPLV.PolyFull

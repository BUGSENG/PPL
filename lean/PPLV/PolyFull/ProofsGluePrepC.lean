import PPLV.PolyFull.ProofsGlueSortSat
import PPLV.Conv.ProofsCompleteMin2

/-!
# the preparation of `process_pending_constraints` keeps the double description pair

`sortKeepsPairC`: `SortKeepsPairC`.  The WIDTH of the saturation matrices (`EnginePair.satC/satG`:
`sat_c.num_columns()` = number of non-pending constraints, `sat_g.num_columns()` = number of non-pending
generators, for the matrices flagged up to date) is what `Bit_Matrix::transpose_assign` turns into the
height of the result.
-/
namespace PPLV.PolyFull
open PPLV.Lin PPLV.PolyOps
open PPLV.Conv (LRow BRow Vec Sound SatCorrect holds holdsAll Generated scalarProduct)

/-- `m` is the exact `sat_c` (rows = generators `gs`, columns = constraints `np`) of the right width -/
def VCl (nnc : Bool) (gs np : List Row) (m : BitMat) : Prop :=
  SatCorrect (np.map (toL nnc)) (gs.map (toL nnc)) m.rows ∧ m.ncols = np.length
/-- `m` is the exact `sat_g` (rows = constraints `np`, columns = generators `gs`) of the right width -/
def VGl (nnc : Bool) (gs np : List Row) (m : BitMat) : Prop :=
  SatCorrect (gs.map (toL nnc)) (np.map (toL nnc)) m.rows ∧ m.ncols = gs.length

theorem VGl.transpose {nnc : Bool} {gs np : List Row} {m : BitMat} (h : VGl nnc gs np m) :
    VCl nnc gs np m.transposeOf := by
  have := PPLV.Conv.satCorrect_transpose _ _ _ h.1
  rw [List.length_map, ← h.2] at this
  refine ⟨this, ?_⟩
  show m.rows.length = np.length
  rw [h.1.1, List.length_map]

theorem VCl.transpose {nnc : Bool} {gs np : List Row} {m : BitMat} (h : VCl nnc gs np m) :
    VGl nnc gs np m.transposeOf :=
  VGl.transpose (gs := np) (np := gs) h

/-- `sort_and_remove_with_sat` on a system `s` whose non-pending rows are duplicate free, with their exact
    saturation matrix `m` against the rows `cols`: the non-pending rows are permuted together with their
    saturation rows, nothing else moves -/
theorem sortWithSat_keeps (gen nnc : Bool) (cols : List Row) (s : Sys) (m : BitMat)
    (hfp : s.firstPending ≤ s.rows.length) (hnd : (s.rows.take s.firstPending).Nodup)
    (hV : VGl nnc cols (s.rows.take s.firstPending) m) :
    (s.sortAndRemoveWithSat gen nnc m).1.firstPending ≤ (s.sortAndRemoveWithSat gen nnc m).1.rows.length ∧
    (∀ r, r ∈ (s.sortAndRemoveWithSat gen nnc m).1.rows ↔ r ∈ s.rows) ∧
    ((s.sortAndRemoveWithSat gen nnc m).1.rows.take (s.sortAndRemoveWithSat gen nnc m).1.firstPending).Perm
      (s.rows.take s.firstPending) ∧
    VGl nnc cols ((s.sortAndRemoveWithSat gen nnc m).1.rows.take (s.sortAndRemoveWithSat gen nnc m).1.firstPending)
      (s.sortAndRemoveWithSat gen nnc m).2 := by
  have hnpl : (s.rows.take s.firstPending).length = s.firstPending := by
    rw [List.length_take]; omega
  have hsl : m.rows.length = s.firstPending := by
    rw [hV.1.1, List.length_map, hnpl]
  obtain ⟨ps, hperm, hrows, hfp', hsat, hnc⟩ := sortAndRemoveWithSat_nodup gen nnc s m hfp hnd hsl
  have hz1 : ((s.rows.take s.firstPending).zip m.rows).map (·.1) = s.rows.take s.firstPending :=
    List.map_fst_zip (by omega)
  have hz2 : ((s.rows.take s.firstPending).zip m.rows).map (·.2) = m.rows :=
    List.map_snd_zip (by omega)
  have hp1 : (ps.map (·.1)).Perm (s.rows.take s.firstPending) := by rw [← hz1]; exact hperm.map _
  have htake : (s.sortAndRemoveWithSat gen nnc m).1.rows.take (s.sortAndRemoveWithSat gen nnc m).1.firstPending =
      ps.map (·.1) := by
    rw [hrows, hfp']
    exact List.take_left' (by rw [hp1.length_eq, hnpl])
  rw [htake]
  refine ⟨?_, fun r => ?_, hp1, ?_, by rw [hnc]; exact hV.2⟩
  · rw [hrows, hfp', List.length_append, hp1.length_eq, hnpl]; omega
  · rw [hrows, ← List.take_append_drop s.firstPending s.rows, List.mem_append, List.mem_append,
      List.take_append_drop]
    exact or_congr hp1.mem_iff Iff.rfl
  · rw [hsat]
    apply satCorrect_perm nnc _ _ _ hperm
    rw [hz1, hz2]
    exact hV.1

/-- `obtain_sorted_constraints_with_sat_c()` on an unsorted system of a minimal pair -/
theorem osc_keeps (nnc : Bool) (n : Nat) (gs : List Row) (y : FPoly) (hn : y.p.nnc = nnc)
    (hs : y.p.cs.sorted = false) (hf : y.p.st.satC = true ∨ y.p.st.satG = true)
    (hfp : y.p.cs.firstPending ≤ y.p.cs.rows.length)
    (hcore : EnginePair nnc n y.npC gs false false BitMat.clear BitMat.clear)
    (hVC : VCl nnc gs y.npC y.satC) (hVG : y.p.st.satG = true → VGl nnc gs y.npC y.satG) :
    y.obtainSortedConstraintsWithSatC.p.cs.firstPending ≤ y.obtainSortedConstraintsWithSatC.p.cs.rows.length ∧
    (∀ r, r ∈ y.obtainSortedConstraintsWithSatC.p.cs.rows ↔ r ∈ y.p.cs.rows) ∧
    (∀ r, r ∈ y.obtainSortedConstraintsWithSatC.npC ↔ r ∈ y.npC) ∧
    EnginePair nnc n y.obtainSortedConstraintsWithSatC.npC gs true true
      y.obtainSortedConstraintsWithSatC.satC y.obtainSortedConstraintsWithSatC.satG ∧
    y.obtainSortedConstraintsWithSatC.p.st.satG = true := by
  have e1 : oscStep1 y = y := by
    unfold oscStep1
    rcases hf with h | h <;> simp [FPoly.st, h]
  have e : y.obtainSortedConstraintsWithSatC = oscStep3 (oscSort (oscTransG y)) := by
    rw [osc_eq, e1]
    simp [hs, oscStep2]
  have hcs1 : (oscTransG y).p.cs = y.p.cs := by unfold oscTransG; split <;> rfl
  have hn1 : (oscTransG y).nnc = nnc := by unfold oscTransG; split <;> exact hn
  have hg1 : (oscTransG y).p.st.satG = true := by
    unfold oscTransG
    split
    · rfl
    · rename_i h; simpa [FPoly.st] using h
  have hVG1 : VGl nnc gs y.npC (oscTransG y).satG := by
    unfold oscTransG
    split
    · exact hVC.transpose
    · rename_i h; exact hVG (by simpa [FPoly.st] using h)
  obtain ⟨k1, k2, kp, kVG⟩ := sortWithSat_keeps false nnc gs y.p.cs (oscTransG y).satG hfp hcore.nodupC hVG1
  have := hcore.permC kp (((y.p.cs.sortAndRemoveWithSat false nnc (oscTransG y).satG).2).transposeOf)
    (y.p.cs.sortAndRemoveWithSat false nnc (oscTransG y).satG).2 (fun h' => (by cases h'))
  rw [e]
  simp only [oscStep3, oscSort, FPoly.npC]
  rw [hcs1, hn1]
  exact ⟨k1, k2, fun r => kp.mem_iff,
    ⟨this.sound, this.complete, this.minC, this.minG, this.minL, fun _ => kVG.transpose, fun _ => kVG⟩, hg1⟩

/-- **the preparation of `process_pending_constraints` keeps the pair** -/
theorem sortKeepsPairC : SortKeepsPairC := by
  intro x S hx he hcp
  have hcan := legal_cPend hx.legal hcp
  have hsat := ((canPend_iff _).mp hcan).2.2
  have L := (legal_iff _ _).1 hx.legal
  obtain ⟨hcu, hgu, -, -⟩ := L.of_canPend hcan
  have hgp : x.p.st.gPend = false := L.notBoth hcp
  have hfpG := (hx.fpG he hgu).2 hgp
  have hfpC := (hx.fpC he hcu).1
  have hnpG : x.npG = x.p.gs.rows := by unfold FPoly.npG; rw [hfpG, List.take_length]
  have E := hx.eng he hcan
  rw [hnpG] at E
  have hVG : x.p.st.satG = true → VGl x.p.nnc x.p.gs.rows x.npC x.satG := fun h => E.satG h
  -- :744 obtains `sat_c` from `sat_g` if need be, and leaves its flag as it is
  obtain ⟨m, hy, hVC⟩ : ∃ m, ppcStep0 x = { x with satC := m } ∧ VCl x.p.nnc x.p.gs.rows x.npC m := by
    unfold ppcStep0
    split
    · rename_i h
      have hC : x.p.st.satC = false := by simpa [FPoly.st] using h
      exact ⟨_, rfl, (hVG (hsat.resolve_left (by rw [hC]; exact Bool.false_ne_true))).transpose⟩
    · rename_i h
      exact ⟨_, rfl, E.satC (by simpa [FPoly.st] using h)⟩
  rw [ppcPrepared_eq, hy]
  cases hs : x.p.cs.sorted
  · rw [if_pos (show (!false) = true from rfl)]
    obtain ⟨k1, k2, k3, k4, k5⟩ := osc_keeps x.p.nnc x.p.dim x.p.gs.rows { x with satC := m } rfl hs hsat hfpC
      ((E.dropC _).dropG _) hVC hVG
    rw [k5]
    exact ⟨k1, k2, k3, k4⟩
  · rw [if_neg (show ¬(!true) = true from Bool.false_ne_true)]
    exact ⟨hfpC, fun r => Iff.rfl, fun r => Iff.rfl, E.sound, E.complete, E.minC, E.minG, E.minL,
      fun _ => hVC, E.satG⟩

end PPLV.PolyFull

import PPLV.PolyFull.ProofsObsIncluded
import PPLV.Lin.QuerySpecs

/-!
# the binary observers: `relation_with(g)` answers "subsumes"

`relationWithGen_facts`: for a well-formed generator row `g` whose kind is the one passed along,
`relation_with(g)` (Polyhedron_public.cc:266) keeps `Inv S` and answers `true` exactly when `S` is
non-empty and subsumes the generator (`Subsumes`, the right-hand side of K1's `subsumes_spec`): a point
belongs to `S`, a closure point is the end of half-open segments inside `S`, a ray / line translates
`S` into itself.
-/
namespace PPLV.PolyFull
open PPLV.Lin PPLV.PolyOps

/-- the kind passed to `satisfies_all_constraints` is the kind of the row -/
def KindOK (nnc : Bool) : FPoly.GKindA → Row → Prop
  | .line, g => g.eq = true
  | .ray, g => g.eq = false ∧ g.b = 0
  | .point, g => g.isPoint nnc
  | .cpoint, g => nnc = true ∧ g.eq = false ∧ g.b ≠ 0 ∧ g.eps = 0

theorem satisfiesAll_eq (nnc : Bool) (cs : List Row) (k : FPoly.GKindA) (g : Row) (hk : KindOK nnc k g) :
    FPoly.satisfiesAll nnc cs k g = cs.all fun c => pairTest nnc c g := by
  unfold FPoly.satisfiesAll
  congr 1
  funext c
  unfold pairTest
  cases k
  · have : g.eq = true := hk
    simp [this]
  · obtain ⟨h1, h2⟩ : g.eq = false ∧ g.b = 0 := hk
    simp [h1, h2]
  · obtain ⟨h1, h2, h3⟩ : g.eq = false ∧ 0 < g.b ∧ (nnc = true → 0 < g.eps) := hk
    have hb : g.b ≠ 0 := by omega
    by_cases hs : (nnc && decide (c.eps < 0)) = true
    · have hn : nnc = true := by simp only [Bool.and_eq_true] at hs; exact hs.1
      simp [h1, hb, hs, h3 hn]
    · simp [h1, hs]
  · obtain ⟨h0, h1, h2, h3⟩ : nnc = true ∧ g.eq = false ∧ g.b ≠ 0 ∧ g.eps = 0 := hk
    simp [h1, h3]

/-- `S` is non-empty and subsumes the generator (cf. `PPLV.Lin.subsumes_spec`) -/
def Subsumes (S : Set Val) (g : Gen) : Prop :=
  (∃ x, x ∈ S) ∧
    match g.kind with
    | .point => g.vec ∈ S
    | .cpoint => ∀ x ∈ S, ∀ s : Rat, 0 < s → s ≤ 1 → Val.seg s x g.vec ∈ S
    | .ray => ∀ x ∈ S, ∀ t : Rat, 0 ≤ t → x.move t g.coords ∈ S
    | .line => ∀ x ∈ S, ∀ t : Rat, x.move t g.coords ∈ S

theorem vec_dir (g : Gen) (h : g.isPtOrCp = false) : g.vec = dirVec g.coords := by
  funext i
  simp [Gen.vec, Gen.coord, Gen.d, h, dirVec]

/-- every row is compatible with the generator iff the (non-empty) set subsumes it -/
theorem rowAdmitsAll_iff (cs : List Con) (g : Gen) (hne : ∃ x, x ∈ sem cs) :
    (∀ c ∈ cs, rowAdmits c g) ↔ Subsumes (sem cs) g := by
  unfold Subsumes rowAdmits
  rw [and_iff_right hne]
  rcases hk : g.kind <;> simp only
  · -- line
    have hv := vec_dir g (by unfold Gen.isPtOrCp; rw [hk]; decide)
    rw [← hasLine_iff ⟨false, 0, cs⟩ g.coords hne, Bool.and_eq_true, hasRay_iff_dots, hasRay_iff_dots, hv]
    constructor
    · intro h
      refine ⟨fun c hc => by rw [h c hc], fun c hc => ?_⟩
      have : dirVec (g.coords.map (- ·)) = fun i => 0 * dirVec g.coords i + (-1) * dirVec g.coords i := by
        funext i; rw [dirVec_neg]; ring
      rw [this, dot_lin c.coeffs 0 (-1) (dirVec g.coords) (dirVec g.coords) _ (fun i _ => rfl), h c hc]
      simp
    · rintro ⟨h1, h2⟩ c hc
      have : dirVec (g.coords.map (- ·)) = fun i => 0 * dirVec g.coords i + (-1) * dirVec g.coords i := by
        funext i; rw [dirVec_neg]; ring
      have h2' := h2 c hc
      rw [this, dot_lin c.coeffs 0 (-1) (dirVec g.coords) (dirVec g.coords) _ (fun i _ => rfl)] at h2'
      have h1' := h1 c hc
      linarith
  · -- ray
    have hv := vec_dir g (by unfold Gen.isPtOrCp; rw [hk]; decide)
    rw [← hasRay_iff ⟨false, 0, cs⟩ g.coords hne, hasRay_iff_dots, hv]
  · -- point
    exact Iff.rfl
  · -- closure point
    rw [← mem_relax_iff_segment cs g.vec hne, mem_relax_iff]

/-- **`relation_with(g)`** keeps the invariant and answers "subsumes" -/
theorem relationWithGen_facts (G : GlueFacts) (x : FPoly) (S : Set Val) (hx : x.Inv S)
    (k : FPoly.GKindA) (g : Row) (hg : g.genWF x.p.nnc x.p.dim) (hk : KindOK x.p.nnc k g) :
    (x.relationWithGen k g).2.Inv S ∧ x.SameShape (x.relationWithGen k g).2 ∧
    ((x.relationWithGen k g).1 = true ↔ Subsumes S (g.toGen x.p.nnc)) := by
  obtain ⟨s1, i1, a1, _, a3⟩ := G.isEmpty x S hx
  unfold FPoly.relationWithGen
  simp only []
  cases he : x.isEmpty.1
  · have hne1 := (a3 he).1
    have hSne : ¬ S = ∅ := fun h => by have := a1.mpr h; rw [he] at this; cases this
    have hSne' : ∃ w, w ∈ S := Set.nonempty_iff_ne_empty.mpr hSne
    simp only [Bool.false_eq_true, if_false]
    by_cases hz : x.isEmpty.2.p.dim = 0
    · have : (x.isEmpty.2.dim == 0) = true := by show (x.isEmpty.2.p.dim == 0) = true; rw [hz]; rfl
      rw [if_pos this]
      have hS : S = Set.univ :=
        (i1.den.2 hne1).2.2 (i1.wf.zero_dim hz).1 (i1.wf.zero_dim hz).2
      refine ⟨i1, s1, ?_⟩
      subst hS
      unfold Subsumes
      simp only [true_iff]
      refine ⟨⟨Val.zero, trivial⟩, ?_⟩
      rcases (g.toGen x.p.nnc).kind <;> simp
    · have : ¬ (x.isEmpty.2.dim == 0) = true := by
        show ¬ (x.isEmpty.2.p.dim == 0) = true
        simpa using hz
      rw [if_neg this]
      obtain ⟨s2, i2, hne2, hcu2, hgp2⟩ := G.needCons _ S i1 hne1 (by omega)
      refine ⟨i2, FPoly.SameShape.trans s1 s2, ?_⟩
      have hnn : x.isEmpty.2.needCons.p.nnc = x.p.nnc := by rw [s2.1, s1.1]
      have hC := (i2.den.2 hne2).1 hcu2 hgp2
      show FPoly.satisfiesAll x.isEmpty.2.needCons.p.nnc _ k g = true ↔ _
      rw [hnn, satisfiesAll_eq _ _ _ _ hk, List.all_eq_true]
      rw [hnn] at hC
      have hne' : ∃ w, w ∈ sem (consOf x.p.nnc x.isEmpty.2.needCons.p.cs.rows) := by
        show ∃ w, w ∈ conSem _ _
        rw [hC]; exact hSne'
      rw [← hC]
      show _ ↔ Subsumes (sem (consOf _ _)) _
      rw [← rowAdmitsAll_iff _ _ hne']
      constructor
      · intro h c' hc'
        obtain ⟨c, hc, hcc⟩ := List.mem_flatMap.mp hc'
        exact (pairTest_iff _ _ c g hg).mpr (h c hc) c' hcc
      · intro h c hc
        rw [← pairTest_iff _ _ c g hg]
        intro c' hcc
        exact h c' (List.mem_flatMap.mpr ⟨c, hc, hcc⟩)
  · have hS := a1.mp he
    simp only [if_true]
    refine ⟨i1, s1, ?_⟩
    subst hS
    constructor
    · intro h; cases h
    · rintro ⟨⟨w, hw⟩, -⟩; exact absurd hw (Set.notMem_empty w)

end PPLV.PolyFull

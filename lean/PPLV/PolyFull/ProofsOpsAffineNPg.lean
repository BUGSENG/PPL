import PPLV.PolyFull.ProofsOps10b

/-!
# invertible `affine_image` / `affine_preimage`: the field `denNPg` of the result

"With pending generators the constraints describe the non-pending generators" survives the invertible
rewriting: the rewritten constraint rows denote the image (`subst_inverse_eq_imgSet`) of `conSem cs`,
the rewritten non-pending generator rows (all rows are rewritten in place, `firstPending` kept) generate
the image of `genSem npG` (`gsSigned_facts` on the prefix), and `conSem cs = genSem npG` before.
-/
namespace PPLV.PolyFull
open PPLV.Lin PPLV.PolyOps

/-- the non-pending prefix of a system -/
def prefixSys (s : Sys) : Sys := ⟨s.rows.take s.firstPending, s.firstPending, s.sorted⟩

theorem gsAffineImage_take_inv (v : Nat) (e : LinExpr) (den : Int) (s : Sys) (hc : e.coeffs.getD v 0 ≠ 0) :
    (gsAffineImage v e den s).rows.take (gsAffineImage v e den s).firstPending =
      (gsAffineImage v e den (prefixSys s)).rows := by
  have hb : ¬ ((e.coeffs.getD v 0 == 0) = true) := by simpa using hc
  rw [(gsAffineImage_fp_inv v e den s hc).1, gsAffineImage_rows, gsAffineImage_rows, if_neg hb, if_neg hb]
  show _ = ((s.rows.take s.firstPending).map _).map _
  rw [List.map_take, List.map_take]

theorem gsSigned_take_inv (v : Nat) (e : LinExpr) (den : Int) (s : Sys) (hc : e.coeffs.getD v 0 ≠ 0) :
    (gsSigned v e den s).rows.take (gsSigned v e den s).firstPending = (gsSigned v e den (prefixSys s)).rows := by
  unfold gsSigned
  split
  · exact gsAffineImage_take_inv v e den s hc
  · exact gsAffineImage_take_inv v _ _ s (by rw [PPLV.PolyFull.exprNeg_getD]; exact neg_ne_zero.mpr hc)

theorem coordDet_conSem (nnc : Bool) (n : Nat) (rows : List Row) (h : ∀ r ∈ rows, r.cf.length = n) :
    CoordDet n (conSem nnc rows) :=
  coordDet_sem n _ (kitC_wf nnc n rows h)

theorem affine_image_inv_denNPg (p q : Poly) (v : Nat) (e : LinExpr) (den : Int) (hp : p.WF)
    (hem : p.st.empty = false) (hc : e.coeffs.getD v 0 ≠ 0) (hv : v < p.dim) (he : e.coeffs.length = p.dim)
    (hden : den ≠ 0) (hgp : p.st.gPend = true)
    (hnp : conSem p.nnc p.cs.rows = genSem p.nnc p.dim (p.gs.rows.take p.gs.firstPending))
    (h : p.affine_image v e den = some q) :
    conSem q.nnc q.cs.rows = genSem q.nnc q.dim (q.gs.rows.take q.gs.firstPending) := by
  obtain ⟨hst, hqn, hqd, hgs, hcs⟩ := affine_image_inv_shape p q v e den hem hc h
  obtain ⟨hcu, hgu⟩ := hp.pend_g hgp
  rw [hqn, hqd, hgs, hcs, if_pos hcu, if_pos hgu, gsSigned_take_inv v e den p.gs hc]
  have hf := csAffinePreimage_facts p.nnc p.dim v (inverseMap p.dim v e den).1
    (inverseMap p.dim v e den).2 p.cs (hp.cs_len hem hcu) hv (inverseMap_length _ _ _ _)
    (inverseMap_den_pos _ _ _ _ hc)
  have hg := gsSigned_facts p.nnc p.dim v e den (prefixSys p.gs)
    (fun r hr => hp.gs_wf hem hgu r (List.mem_of_mem_take hr)) hv (le_of_eq he) hden
  rw [hf.1, hg.1, subst_inverse_eq_imgSet p.dim v e den hv he hden hc _
    (coordDet_conSem p.nnc p.dim _ (hp.cs_len hem hcu)), hnp]
  rfl

theorem affine_preimage_inv_denNPg (p q : Poly) (v : Nat) (e : LinExpr) (den : Int) (hp : p.WF)
    (hem : p.st.empty = false) (hc : e.coeffs.getD v 0 ≠ 0) (hv : v < p.dim) (he : e.coeffs.length = p.dim)
    (hden : den ≠ 0) (hgp : p.st.gPend = true)
    (hnp : conSem p.nnc p.cs.rows = genSem p.nnc p.dim (p.gs.rows.take p.gs.firstPending))
    (h : p.affine_preimage v e den = some q) :
    conSem q.nnc q.cs.rows = genSem q.nnc q.dim (q.gs.rows.take q.gs.firstPending) := by
  obtain ⟨hst, hqn, hqd, hcs, hgs⟩ := affine_preimage_inv_shape p q v e den hem hc h
  obtain ⟨hcu, hgu⟩ := hp.pend_g hgp
  have hc' : (inverseMap p.dim v e den).1.coeffs.getD v 0 ≠ 0 := inverseMap_getD p.dim v e den hv hden
  rw [hqn, hqd, hgs, hcs, if_pos hcu, if_pos hgu, gsAffineImage_take_inv v _ _ p.gs hc']
  have hf := csSigned_facts p.nnc p.dim v e den p.cs (hp.cs_len hem hcu) hv he hden
  have hg := gsAffineImage_facts p.nnc p.dim v (inverseMap p.dim v e den).1 (inverseMap p.dim v e den).2
    (prefixSys p.gs) (fun r hr => hp.gs_wf hem hgu r (List.mem_of_mem_take hr)) hv
    (le_of_eq (inverseMap_length _ _ _ _)) (inverseMap_den_pos _ _ _ _ hc)
  rw [hf.1, hg.1, preSet_eq_subst p.dim v e den hden _ (coordDet_conSem p.nnc p.dim _ (hp.cs_len hem hcu)),
    imgSet_inverse_eq_preSet p.dim v e den hv he hden hc, hnp]
  rfl

/-- the field `denNPg` of `x.affineImage v e den`, invertible case -/
theorem affineImage_denNPg (x : FPoly) (S : Set Val) (v : Nat) (e : LinExpr) (den : Int) (hx : x.Inv S)
    (hv : v < x.p.dim) (he : e.coeffs.length = x.p.dim) (hden : den ≠ 0)
    (hc : e.coeffs.getD v 0 ≠ 0) (hex : x.p.st.empty = false)
    (hR : (x.affineImage v e den).p.st.gPend = true) :
    conSem (x.affineImage v e den).p.nnc (x.affineImage v e den).p.cs.rows =
      genSem (x.affineImage v e den).p.nnc (x.affineImage v e den).p.dim (x.affineImage v e den).npG := by
  obtain ⟨q, hq, hp⟩ := affineImage_inv_p x v e den hex hc
  obtain ⟨hst, _⟩ := affine_image_inv_shape x.p q v e den hex hc hq
  unfold FPoly.npG
  rw [hp] at hR ⊢
  have hgp : x.p.st.gPend = true := by rw [← hst]; exact hR
  exact affine_image_inv_denNPg x.p q v e den hx.wf hex hc hv he hden hgp (hx.denNPg hex hgp) hq

theorem affinePreimage_denNPg (x : FPoly) (S : Set Val) (v : Nat) (e : LinExpr) (den : Int) (hx : x.Inv S)
    (hv : v < x.p.dim) (he : e.coeffs.length = x.p.dim) (hden : den ≠ 0)
    (hc : e.coeffs.getD v 0 ≠ 0) (hex : x.p.st.empty = false)
    (hR : (x.affinePreimage v e den).p.st.gPend = true) :
    conSem (x.affinePreimage v e den).p.nnc (x.affinePreimage v e den).p.cs.rows =
      genSem (x.affinePreimage v e den).p.nnc (x.affinePreimage v e den).p.dim (x.affinePreimage v e den).npG := by
  obtain ⟨q, hq, hp⟩ := affinePreimage_inv_p x v e den hex hc
  obtain ⟨hst, _⟩ := affine_preimage_inv_shape x.p q v e den hex hc hq
  unfold FPoly.npG
  rw [hp] at hR ⊢
  have hgp : x.p.st.gPend = true := by rw [← hst]; exact hR
  exact affine_preimage_inv_denNPg x.p q v e den hx.wf hex hc hv he hden hgp (hx.denNPg hex hgp) hq

end PPLV.PolyFull

import PPLV.PolyFull.ProofsObs7

/-!
# the binary observers: `operator==`

`equals_facts`: `x == y` (Polyhedron_public.cc:3934) keeps `Inv S` / `Inv T`; the answer `true` is only
given of equal sets (`S = T`), and — unless `quick_equivalence_test` answered `TVB_FALSE` — it is given
of all of them.  (The soundness of `TVB_FALSE` rests on the uniqueness of sorted minimal forms, which is
not part of `FPoly.Inv`: it is the explicit hypothesis `QetFalseSound` of the completeness half.)
-/
namespace PPLV.PolyFull
open PPLV.Lin PPLV.PolyOps

/-- the second object is never marked empty by `is_included_in` -/
theorem isIncludedIn_y_nonempty (G : GlueFacts) (x y : FPoly) (S T : Set Val) (hx : x.Inv S) (hy : y.Inv T)
    (hdim : y.p.dim = x.p.dim) (hex : x.p.st.empty = false) (hey : y.p.st.empty = false)
    (hd : 0 < x.p.dim) : (x.isIncludedIn y).2.2.p.st.empty = false := by
  obtain ⟨hs1, hi1, he1, hn1⟩ := prepPC_facts G x S hx hex
  rw [isIncludedIn_eq]
  cases hb1 : (prepPC x).1
  · simp only [Bool.not_false, if_true]; exact hey
  · obtain ⟨hne1, hcp1⟩ := hn1 hb1
    obtain ⟨hs2, hi2, hne2, hgp2⟩ := prepPG_facts G y T hy hey
    simp only [Bool.not_true, Bool.false_eq_true, if_false]
    cases hb3 : (prepUG (prepPC x).2).1
    · simp only [Bool.not_false, if_true]; exact hne2
    · have hd2 : 0 < (prepPG y).p.dim := by rw [hs2.2, hdim]; exact hd
      simp only [Bool.not_true, Bool.false_eq_true, if_false]
      exact (prepUC_facts G _ T hi2 hne2 hd2 hgp2).2.2.1

/-- :3956-3967, after `quick_equivalence_test` answered `TVB_DONT_KNOW` -/
def equalsTail (x y : FPoly) : Bool × FPoly × FPoly :=
  let r := x.isIncludedIn y
  if r.1 then
    if r.2.1.st.empty then let e := r.2.2.isEmpty; (e.1, r.2.1, e.2)
    else let r2 := r.2.2.isIncludedIn r.2.1; (r2.1, r2.2.2, r2.2.1)
  else (false, r.2.1, r.2.2)

theorem equals_eq (x y : FPoly) : x.equals y =
    if x.st.empty then (y.isEmpty.1, x, y.isEmpty.2)
    else if y.st.empty then (x.isEmpty.1, x.isEmpty.2, y)
    else if x.dim == 0 then (true, x, y)
    else match (x.quickEquivalenceTest y).1 with
      | some b => (b, (x.quickEquivalenceTest y).2.1, (x.quickEquivalenceTest y).2.2)
      | none => equalsTail (x.quickEquivalenceTest y).2.1 (x.quickEquivalenceTest y).2.2 := rfl

theorem equalsTail_facts (G : GlueFacts) (x y : FPoly) (S T : Set Val) (hx : x.Inv S) (hy : y.Inv T)
    (hdim : y.p.dim = x.p.dim) (hnnc : y.p.nnc = x.p.nnc)
    (hex : x.p.st.empty = false) (hey : y.p.st.empty = false) (hd : 0 < x.p.dim) :
    (equalsTail x y).2.1.Inv S ∧ (equalsTail x y).2.2.Inv T ∧
    x.SameShape (equalsTail x y).2.1 ∧ y.SameShape (equalsTail x y).2.2 ∧
    ((equalsTail x y).1 = true ↔ S = T) := by
  obtain ⟨i1, i2, s1, s2, ans⟩ := isIncludedIn_facts G x y S T hx hy hdim hnnc hex hey hd
  have hne2 := isIncludedIn_y_nonempty G x y S T hx hy hdim hex hey hd
  unfold equalsTail
  simp only []
  cases hr : (x.isIncludedIn y).1
  · simp only [Bool.false_eq_true, if_false]
    refine ⟨i1, i2, s1, s2, ?_⟩
    have hns : ¬ S ⊆ T := fun h => by have := ans.mpr h; rw [hr] at this; cases this
    exact ⟨fun h => (by cases h), fun h => absurd (by rw [h]) hns⟩
  · have hST : S ⊆ T := ans.mp hr
    simp only [if_true]
    by_cases he : (x.isIncludedIn y).2.1.p.st.empty = true
    · have : (x.isIncludedIn y).2.1.st.empty = true := he
      rw [if_pos this]
      have hS : S = ∅ := i1.den.1 he
      obtain ⟨t1, j1, a1, -⟩ := G.isEmpty _ T i2
      refine ⟨i1, j1, s1, FPoly.SameShape.trans s2 t1, ?_⟩
      show ((x.isIncludedIn y).2.2.isEmpty).1 = true ↔ _
      rw [a1, hS]
      exact ⟨fun h => h.symm, fun h => h.symm⟩
    · have he' : (x.isIncludedIn y).2.1.p.st.empty = false := by simpa using he
      have : ¬ (x.isIncludedIn y).2.1.st.empty = true := he
      rw [if_neg this]
      have hd' : 0 < (x.isIncludedIn y).2.2.p.dim := by rw [s2.2, hdim]; exact hd
      obtain ⟨j2, j1, t2, t1, ans2⟩ := isIncludedIn_facts G _ _ T S i2 i1
        (by rw [s1.2, s2.2, hdim]) (by rw [s1.1, s2.1, hnnc]) hne2 he' hd'
      refine ⟨j1, j2, FPoly.SameShape.trans s1 t1, FPoly.SameShape.trans s2 t2, ?_⟩
      show ((x.isIncludedIn y).2.2.isIncludedIn (x.isIncludedIn y).2.1).1 = true ↔ _
      rw [ans2]
      exact ⟨fun h => Set.Subset.antisymm hST h, fun h => by rw [h]⟩

/-- `quick_equivalence_test` answers `TVB_FALSE` only of different sets (uniqueness of the sorted minimal
    forms: NOT derived here) -/
def QetFalseSound (x y : FPoly) (S T : Set Val) : Prop :=
  (x.quickEquivalenceTest y).1 = some false → S ≠ T

/-- **`operator==`**: both objects keep denoting their sets; `true` only of equal sets; and of all equal
    sets whenever `quick_equivalence_test` did not answer `TVB_FALSE` wrongly -/
theorem equals_facts (G : GlueFacts) (x y : FPoly) (S T : Set Val)
    (hx : x.Inv S) (hy : y.Inv T) (hdim : y.p.dim = x.p.dim) (hnnc : y.p.nnc = x.p.nnc) :
    (x.equals y).2.1.Inv S ∧ (x.equals y).2.2.Inv T ∧
    x.SameShape (x.equals y).2.1 ∧ y.SameShape (x.equals y).2.2 ∧
    ((x.equals y).1 = true → S = T) ∧
    (QetFalseSound x y S T → S = T → (x.equals y).1 = true) := by
  rw [equals_eq]
  by_cases hex : x.p.st.empty = true
  · have : x.st.empty = true := hex
    rw [if_pos this]
    have hS := hx.den.1 hex
    obtain ⟨s1, i1, a1, -⟩ := G.isEmpty y T hy
    refine ⟨hx, i1, FPoly.SameShape.refl x, s1, ?_, ?_⟩
    · intro h; rw [hS]; exact ((a1.mp h)).symm
    · intro _ h; exact a1.mpr (by rw [← h, hS])
  · have hex' : x.p.st.empty = false := by simpa using hex
    have : ¬ x.st.empty = true := hex
    rw [if_neg this]
    by_cases hey : y.p.st.empty = true
    · have : y.st.empty = true := hey
      rw [if_pos this]
      have hT := hy.den.1 hey
      obtain ⟨s1, i1, a1, -⟩ := G.isEmpty x S hx
      refine ⟨i1, hy, s1, FPoly.SameShape.refl y, ?_, ?_⟩
      · intro h; rw [hT]; exact a1.mp h
      · intro _ h; exact a1.mpr (by rw [h, hT])
    · have hey' : y.p.st.empty = false := by simpa using hey
      have : ¬ y.st.empty = true := hey
      rw [if_neg this]
      by_cases hz : x.p.dim = 0
      · have : (x.dim == 0) = true := by show (x.p.dim == 0) = true; rw [hz]; rfl
        rw [if_pos this]
        have hzy : y.p.dim = 0 := by rw [hdim]; exact hz
        have hS : S = Set.univ :=
          (hx.den.2 hex').2.2 (hx.wf.zero_dim hz).1 (hx.wf.zero_dim hz).2
        have hT : T = Set.univ :=
          (hy.den.2 hey').2.2 (hy.wf.zero_dim hzy).1 (hy.wf.zero_dim hzy).2
        exact ⟨hx, hy, FPoly.SameShape.refl x, FPoly.SameShape.refl y, fun _ => by rw [hS, hT], fun _ _ => rfl⟩
      · have : ¬ (x.dim == 0) = true := by
          show ¬ (x.p.dim == 0) = true
          simpa using hz
        rw [if_neg this]
        obtain ⟨i1, i2, s1, s2, n1, n2, hq⟩ :=
          quickEquivalenceTest_true_sound x y S T hx hy hdim hnnc hex' hey'
        split
        · rename_i b hb
          refine ⟨i1, i2, s1, s2, ?_, ?_⟩
          · intro h; simp only at h; subst h; exact hq hb
          · intro hF h
            cases b
            · exact absurd h (hF hb)
            · rfl
        · have hd : 0 < (x.quickEquivalenceTest y).2.1.p.dim := by rw [s1.2]; omega
          obtain ⟨j1, j2, t1, t2, ans⟩ := equalsTail_facts G _ _ S T i1 i2
            (by rw [s1.2, s2.2, hdim]) (by rw [s1.1, s2.1, hnnc]) n1 n2 hd
          exact ⟨j1, j2, FPoly.SameShape.trans s1 t1, FPoly.SameShape.trans s2 t2, ans.mp, fun _ h => ans.mpr h⟩

end PPLV.PolyFull

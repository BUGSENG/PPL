import PPLV.PolyFull.ProofsOpsAffineNPg
import PPLV.Conv.ProofsCompleteMin
import Mathlib.Tactic.LinearCombination
import PPLV.PolyOps.ProofsGenKit3

/-!
# cone-level algebra of the invertible affine map

`subVec N v E d` is the linear map on homogeneous vectors induced by `x_v := E(x)/d` (column `v+1`
replaced by `E · X`, the others scaled by `d`).  `sp_subVec_gen`: its action under any functional;
`InvPair`: the condition under which two such maps compose to a positive multiple of the identity;
`invPair_fwd` / `invPair_bwd`: the pair (signed expression, `inverseMap`) satisfies it in both orders.
-/
namespace PPLV.PolyFull
open PPLV.Lin PPLV.PolyOps
open PPLV.Conv (scalarProduct holds holdsAll Vec sp_eq_sum sp_comm colVec sp_colVec)

/-- the functional of a linear expression on homogeneous vectors -/
def Ev (E : LinExpr) : Vec := E.k :: E.coeffs

theorem sp_subVec_gen (N v : Nat) (E : LinExpr) (d : Int) (c X : Vec) (hvN : v + 1 < N) :
    scalarProduct c (subVec N v E d X) =
      d * (∑ i ∈ Finset.range N, c.getD i 0 * X.getD i 0) +
        c.getD (v + 1) 0 * (scalarProduct (Ev E) X - d * X.getD (v + 1) 0) := by
  rw [sp_eq_sum N _ (subVec _ v E d X) (by rw [subVec_length])]
  have h2 : ∀ i ∈ Finset.range N,
      c.getD i 0 * (subVec N v E d X).getD i 0 =
        d * (c.getD i 0 * X.getD i 0)
          + (if i = v + 1 then c.getD i 0 * (scalarProduct (Ev E) X - d * X.getD i 0) else 0) := by
    intro i hi
    rw [subVec_getD _ _ _ _ _ _ (Finset.mem_range.mp hi)]
    unfold Ev
    split_ifs <;> ring
  rw [Finset.sum_congr rfl h2, Finset.sum_add_distrib, Finset.sum_ite_eq', ← Finset.mul_sum]
  have hmem : v + 1 ∈ Finset.range N := Finset.mem_range.mpr hvN
  simp only [hmem, if_true]

theorem sp_subVec' (N v : Nat) (E : LinExpr) (d : Int) (c X : Vec) (hvN : v + 1 < N) (hX : X.length ≤ N) :
    scalarProduct c (subVec N v E d X) =
      d * scalarProduct c X + c.getD (v + 1) 0 * (scalarProduct (Ev E) X - d * X.getD (v + 1) 0) := by
  rw [sp_subVec_gen N v E d c X hvN, ← sp_eq_sum N c X hX]

theorem subVec_getD_var (N v : Nat) (E : LinExpr) (d : Int) (X : Vec) (hvN : v + 1 < N) :
    (subVec N v E d X).getD (v + 1) 0 = scalarProduct (Ev E) X := by
  rw [subVec_getD _ _ _ _ _ _ hvN, if_pos rfl]; rfl

/-- `Y` and `s · Y'` are the same vector (as functionals): so are their images -/
theorem subVec_congr_scale (N v : Nat) (E : LinExpr) (d : Int) (Y Y' : Vec) (s : Int) (hvN : v + 1 < N)
    (hY : Y.length ≤ N) (hY' : Y'.length ≤ N) (h : ∀ a : Vec, scalarProduct a Y = s * scalarProduct a Y')
    (c : Vec) : scalarProduct c (subVec N v E d Y) = s * scalarProduct c (subVec N v E d Y') := by
  rw [sp_subVec' N v E d c Y hvN hY, sp_subVec' N v E d c Y' hvN hY', h c, h (Ev E),
    ← sp_colVec (v + 1) Y, ← sp_colVec (v + 1) Y', h (colVec (v + 1))]
  ring

/-- the two maps compose to `d1 · d2` times the identity -/
def InvPair (N v : Nat) (E1 : LinExpr) (d1 : Int) (E2 : LinExpr) (d2 : Int) : Prop :=
  ∀ X : Vec, X.length ≤ N →
    d2 * scalarProduct (Ev E1) X + E1.coeffs.getD v 0 * scalarProduct (Ev E2) X =
      (d1 * d2 + E1.coeffs.getD v 0 * d2) * X.getD (v + 1) 0

theorem subVec_comp (N v : Nat) (E1 : LinExpr) (d1 : Int) (E2 : LinExpr) (d2 : Int) (hvN : v + 1 < N)
    (hP : InvPair N v E1 d1 E2 d2) (c X : Vec) (hX : X.length ≤ N) :
    scalarProduct c (subVec N v E1 d1 (subVec N v E2 d2 X)) = d1 * d2 * scalarProduct c X := by
  have hl : (subVec N v E2 d2 X).length ≤ N := by rw [subVec_length]
  rw [sp_subVec' N v E1 d1 c _ hvN hl, sp_subVec' N v E2 d2 c X hvN hX,
    sp_subVec' N v E2 d2 (Ev E1) X hvN hX, subVec_getD_var N v E2 d2 X hvN]
  have hg : (Ev E1).getD (v + 1) 0 = E1.coeffs.getD v 0 := rfl
  rw [hg]
  linear_combination c.getD (v + 1) 0 * hP X hX

/-! ## the concrete pair -/

theorem sp_set : ∀ (l : Vec) (v : Nat) (a : Int) (X : Vec), v < l.length →
    scalarProduct (l.set v a) X = scalarProduct l X + (a - l.getD v 0) * X.getD v 0
  | [], v, a, X, h => by simp at h
  | b :: l, 0, a, [], _ => by simp [scalarProduct]
  | b :: l, 0, a, x :: X, _ => by simp [scalarProduct]; ring
  | b :: l, v + 1, a, [], _ => by simp [scalarProduct]
  | b :: l, v + 1, a, x :: X, h => by
    simp only [List.set_cons_succ, scalarProduct, List.getD_cons_succ]
    rw [sp_set l v a X (by simpa using h)]; ring

theorem sp_map_neg_left (l X : Vec) : scalarProduct (l.map (- ·)) X = - scalarProduct l X := by
  rw [sp_comm, PPLV.Conv.sp_neg, sp_comm]

theorem padTo_self (n : Nat) (l : List Int) (h : l.length = n) : padTo n l = l := by
  unfold padTo; rw [← h]; simp

theorem sp_Ev_exprNeg (e : LinExpr) (X : Vec) : scalarProduct (Ev (exprNeg e)) X = - scalarProduct (Ev e) X := by
  have : Ev (exprNeg e) = (Ev e).map (- ·) := by simp [Ev, exprNeg]
  rw [this, sp_map_neg_left]

theorem sp_Ev_exprSet (n v : Nat) (e : LinExpr) (a : Int) (X : Vec) (he : e.coeffs.length = n) (hv : v < n) :
    scalarProduct (Ev (exprSet n e v a)) X =
      scalarProduct (Ev e) X + (a - e.coeffs.getD v 0) * X.getD (v + 1) 0 := by
  have : Ev (exprSet n e v a) = (Ev e).set (v + 1) a := by
    simp [Ev, exprSet, padTo_self n _ he]
  rw [this, sp_set _ _ _ _ (by simp [Ev, he]; omega)]
  rfl

/-- the expression / denominator the code passes to the system-level loops -/
def sgnE (e : LinExpr) (den : Int) : LinExpr := if den > 0 then e else exprNeg e
def sgnD (den : Int) : Int := if den > 0 then den else -den

theorem sgnD_pos (den : Int) (h : den ≠ 0) : 0 < sgnD den := by unfold sgnD; split <;> omega

theorem gsSigned_eq (v : Nat) (e : LinExpr) (den : Int) (s : Sys) :
    gsSigned v e den s = gsAffineImage v (sgnE e den) (sgnD den) s := by
  unfold gsSigned sgnE sgnD; split <;> rfl

theorem csSigned_eq (v : Nat) (e : LinExpr) (den : Int) (s : Sys) :
    csSigned v e den s = csAffinePreimage v (sgnE e den) (sgnD den) s := by
  unfold csSigned sgnE sgnD; split <;> rfl

theorem sgnE_length (e : LinExpr) (den : Int) : (sgnE e den).coeffs.length = e.coeffs.length := by
  unfold sgnE; split
  · rfl
  · exact PPLV.PolyFull.exprNeg_length e

theorem invPair_fwd (N n v : Nat) (e : LinExpr) (den : Int) (he : e.coeffs.length = n) (hv : v < n) :
    InvPair N v (sgnE e den) (sgnD den) (inverseMap n v e den).1 (inverseMap n v e den).2 := by
  intro X _
  unfold sgnE sgnD inverseMap
  by_cases hd : den > 0 <;> by_cases hc : e.coeffs.getD v 0 > 0
  all_goals
    simp only [hd, hc, if_true, if_false]
    first
      | rw [sp_Ev_exprSet n v _ _ X (by rw [PPLV.PolyFull.exprNeg_length, he]) hv]
      | rw [sp_Ev_exprSet n v _ _ X he hv]
    try simp only [sp_Ev_exprNeg, PPLV.PolyFull.exprNeg_getD]
    ring

theorem invPair_bwd (N n v : Nat) (e : LinExpr) (den : Int) (he : e.coeffs.length = n) (hv : v < n) :
    InvPair N v (inverseMap n v e den).1 (inverseMap n v e den).2 (sgnE e den) (sgnD den) := by
  intro X _
  unfold sgnE sgnD inverseMap
  by_cases hd : den > 0 <;> by_cases hc : e.coeffs.getD v 0 > 0
  all_goals
    simp only [hd, hc, if_true, if_false]
    first
      | rw [sp_Ev_exprSet n v _ _ X (by rw [PPLV.PolyFull.exprNeg_length, he]) hv]
      | rw [sp_Ev_exprSet n v _ _ X he hv]
    try simp only [sp_Ev_exprNeg, PPLV.PolyFull.exprNeg_getD, exprSet_getD _ _ _ _ hv]
    ring

/-!
## the rewritten rows at cone level

`conRow_factor`: the constraint row rewritten by `Constraint_System::affine_preimage` (and strongly
normalised) is, up to a non-zero factor (positive on inequalities), the row composed with `subVec`;
`genRow_factor`: the generator row rewritten by `Generator_System::affine_image` is, up to such a factor,
`subVec` of the row.
-/
theorem sp_Lv_strongNormalize (nnc : Bool) (r : Row) :
    ∃ t : Int, t ≠ 0 ∧ (r.eq = false → 0 < t) ∧ r.strongNormalize.eq = r.eq ∧
      ∀ X, scalarProduct (Lv nnc r) X = t * scalarProduct (Lv nnc r.strongNormalize) X := by
  obtain ⟨g, hg, heq, hsp⟩ := sp_Lv_normalize nnc r
  unfold Row.strongNormalize
  rcases signNormalize_eq r.normalize with h | ⟨he, h⟩
  · rw [h]
    exact ⟨g, ne_of_gt hg, fun _ => hg, heq, hsp⟩
  · rw [h]
    refine ⟨-g, by omega, fun hf => ?_, heq, fun X => ?_⟩
    · rw [← heq, he] at hf; cases hf
    · rw [hsp X, Lv_scale, sp_comm (List.map _ _) X, PPLV.Conv.sp_map_mul, sp_comm X]; ring

theorem conRow_factor (nnc : Bool) (n v : Nat) (E : LinExpr) (d : Int) (c : Row)
    (hc : c.cf.length = n) (hE : E.coeffs.length = n) (hv : v < n) (hd : 0 < d) :
    ∃ t : Int, t ≠ 0 ∧ (c.eq = false → 0 < t) ∧
      (conRowAffinePreimage v E d c).strongNormalize.eq = c.eq ∧
      (conRowAffinePreimage v E d c).strongNormalize.cf.length = n ∧
      ∀ X : Vec, X.length ≤ numCols nnc n →
        scalarProduct (Lv nnc c) (subVec (numCols nnc n) v E d X) =
          t * scalarProduct (Lv nnc (conRowAffinePreimage v E d c).strongNormalize) X := by
  have hvN : v + 1 < numCols nnc n := by unfold numCols; omega
  have hlen : (conRowAffinePreimage v E d c).strongNormalize.cf.length = n := by
    rw [strongNormalize_cf_length, conRowAffinePreimage_cf_length, hc]
  by_cases h0 : c.cf.getD v 0 = 0
  · have hid : conRowAffinePreimage v E d c = c := by
      unfold conRowAffinePreimage
      have hne : ¬ ((c.cf.getD v 0 != 0) = true) := by rw [h0]; decide
      simp only [hne, Bool.false_eq_true, if_false]
    rw [hid] at hlen ⊢
    obtain ⟨t, ht, hpos, heq, hsp⟩ := sp_Lv_strongNormalize nnc c
    refine ⟨d * t, mul_ne_zero (ne_of_gt hd) ht, fun h => mul_pos hd (hpos h), heq, hlen, fun X hX => ?_⟩
    rw [sp_subVec' _ v E d _ X hvN hX, Lv_getD_var nnc n v c hc hv, h0, zero_mul, add_zero, hsp X]; ring
  · rw [conRow_pre v E d c h0] at hlen ⊢
    obtain ⟨t1, ht1, hpos1, heq1, hsp1⟩ := sp_Lv_strongNormalize nnc (preRow v E d c)
    obtain ⟨t2, ht2, hpos2, heq2, hsp2⟩ := sp_Lv_strongNormalize nnc (preRow v E d c).strongNormalize
    have hpe : (preRow v E d c).eq = c.eq := rfl
    refine ⟨t1 * t2, mul_ne_zero ht1 ht2, fun h => mul_pos (hpos1 (by rw [hpe]; exact h))
      (hpos2 (by rw [heq1, hpe]; exact h)), by rw [heq2, heq1]; exact hpe, hlen, fun X hX => ?_⟩
    rw [← sp_preRow nnc n v E d c X hc hE hv hX, hsp1 X, hsp2 X]; ring

theorem sp_idot : ∀ (xs ys t : List Int), xs.length ≤ ys.length → scalarProduct xs (ys ++ t) = idot xs ys
  | [], ys, t, _ => by simp [PPLV.Conv.sp_nil_left, idot]
  | x :: xs, [], t, h => by simp at h
  | x :: xs, y :: ys, t, h => by
    simp only [List.cons_append, scalarProduct, idot]
    rw [sp_idot xs ys t (by simpa using h)]

theorem Lv_genRow_getD (nnc : Bool) (n v : Nat) (e : LinExpr) (d : Int) (g : Row)
    (hg : g.cf.length = n) (he : e.coeffs.length = n) (hv : v < n) (i : Nat) (hi : i < numCols nnc n) :
    (Lv nnc (genRowAffineImage v e d g)).getD i 0 = (subVec (numCols nnc n) v e d (Lv nnc g)).getD i 0 := by
  rw [subVec_getD _ _ _ _ _ _ hi, genRowAffineImage_eq]
  cases i with
  | zero => simp [Lv]
  | succ j =>
    show (((g.cf.map (d * ·)).set v (e.k * g.b + idot e.coeffs g.cf)) ++ (if nnc then [d * g.eps] else [])).getD j 0 = _
    have hlen : ((g.cf.map (d * ·)).set v (e.k * g.b + idot e.coeffs g.cf)).length = n := by simp [hg]
    by_cases hj : j < n
    · rw [getD_append_lt _ _ _ (by rw [hlen]; exact hj)]
      by_cases hjv : j = v
      · subst hjv
        rw [if_pos rfl, List.getD_eq_getElem?_getD, List.getElem?_set_self (by simp [hg, hj])]
        show _ = e.k * g.b + scalarProduct e.coeffs (g.cf ++ _)
        rw [sp_idot _ _ _ (by rw [he, hg])]; rfl
      · have hne : ¬ (j + 1 = v + 1) := by omega
        rw [if_neg hne, List.getD_eq_getElem?_getD, List.getElem?_set_ne (Ne.symm hjv),
          ← List.getD_eq_getElem?_getD, getD_map_mul']
        show _ = d * (g.cf ++ _).getD j 0
        rw [getD_append_lt _ _ _ (by rw [hg]; exact hj)]
    · have hj' : n ≤ j := Nat.le_of_not_lt hj
      have hne : ¬ (j + 1 = v + 1) := by omega
      rw [if_neg hne, getD_append_ge _ _ _ (by rw [hlen]; exact hj'), hlen, tail_getD]
      show _ = d * (g.cf ++ _).getD j 0
      rw [getD_append_ge _ _ _ (by rw [hg]; exact hj'), hg]

theorem genRow_cf_length (v : Nat) (e : LinExpr) (d : Int) (g : Row) :
    (genRowAffineImage v e d g).cf.length = g.cf.length := by
  rw [genRowAffineImage_eq]; simp

theorem sp_Lv_genRow (nnc : Bool) (n v : Nat) (e : LinExpr) (d : Int) (g : Row)
    (hg : g.cf.length = n) (he : e.coeffs.length = n) (hv : v < n) (a : Vec) :
    scalarProduct a (Lv nnc (genRowAffineImage v e d g)) =
      scalarProduct a (subVec (numCols nnc n) v e d (Lv nnc g)) := by
  rw [sp_eq_sum (numCols nnc n) a _ (by rw [Lv_length nnc n _ (by rw [genRow_cf_length, hg])]),
    sp_eq_sum (numCols nnc n) a (subVec _ v e d _) (by rw [subVec_length])]
  apply Finset.sum_congr rfl
  intro i hi
  rw [Lv_genRow_getD nnc n v e d g hg he hv i (Finset.mem_range.mp hi)]

theorem genRow_factor (nnc : Bool) (n v : Nat) (e : LinExpr) (d : Int) (g : Row)
    (hg : g.cf.length = n) (he : e.coeffs.length = n) (hv : v < n) :
    ∃ s : Int, s ≠ 0 ∧ (g.eq = false → 0 < s) ∧
      (genRowAffineImage v e d g).strongNormalize.eq = g.eq ∧
      (genRowAffineImage v e d g).strongNormalize.cf.length = n ∧
      ∀ a : Vec, scalarProduct a (subVec (numCols nnc n) v e d (Lv nnc g)) =
        s * scalarProduct a (Lv nnc (genRowAffineImage v e d g).strongNormalize) := by
  obtain ⟨s, hs, hpos, heq, hsp⟩ := sp_Lv_strongNormalize nnc (genRowAffineImage v e d g)
  have hge : (genRowAffineImage v e d g).eq = g.eq := by rw [genRowAffineImage_eq]
  refine ⟨s, hs, fun h => hpos (by rw [hge]; exact h), by rw [heq, hge],
    by rw [strongNormalize_cf_length, genRow_cf_length, hg], fun a => ?_⟩
  rw [← sp_Lv_genRow nnc n v e d g hg he hv a, sp_comm, hsp, sp_comm]

end PPLV.PolyFull

import PPLV.PolyFull.ProofsGlue2
import PPLV.PolyFull.ProofsCases

/-!
# `GlueFacts` from `ConvContract`: `minimize()`, `is_empty()`, and the two
"description required" helpers, from the facts about the four conversions
-/
namespace PPLV.PolyFull
open PPLV.Lin PPLV.PolyOps

/-- the statement of `GlueFacts.updG` -/
def UpdGFact : Prop := ∀ (x : FPoly) (S : Set Val), x.Inv S → x.p.st.empty = false → 0 < x.p.dim →
    x.p.st.cUp = true → x.p.st.somethingPending = false →
    x.SameShape x.updateGenerators.2 ∧ x.updateGenerators.2.Inv S ∧
    (x.updateGenerators.1 = false → S = ∅ ∧ x.updateGenerators.2.p.st.empty = true) ∧
    (x.updateGenerators.1 = true → x.updateGenerators.2.FullyMin)
/-- the statement of `GlueFacts.updC` -/
def UpdCFact : Prop := ∀ (x : FPoly) (S : Set Val), x.Inv S → x.p.st.empty = false → 0 < x.p.dim →
    x.p.st.gUp = true → x.p.st.somethingPending = false →
    x.SameShape x.updateConstraints ∧ x.updateConstraints.Inv S ∧ x.updateConstraints.FullyMin
/-- the statement of `GlueFacts.ppc` -/
def PpcFact : Prop := ∀ (x : FPoly) (S : Set Val), x.Inv S → x.p.st.empty = false → x.p.st.cPend = true →
    x.SameShape x.processPendingConstraints.2 ∧ x.processPendingConstraints.2.Inv S ∧
    (x.processPendingConstraints.1 = false → S = ∅ ∧ x.processPendingConstraints.2.p.st.empty = true) ∧
    (x.processPendingConstraints.1 = true → x.processPendingConstraints.2.FullyMin)
/-- the statement of `GlueFacts.ppg` -/
def PpgFact : Prop := ∀ (x : FPoly) (S : Set Val), x.Inv S → x.p.st.empty = false → x.p.st.gPend = true →
    x.SameShape x.processPendingGenerators ∧ x.processPendingGenerators.Inv S ∧
    x.processPendingGenerators.FullyMin

/-- the common shape of the answers of a conversion that may find the polyhedron empty -/
theorem emptyReport {y : FPoly} {S : Set Val} {b : Bool} (hy : y.Inv S)
    (h3 : b = false → S = ∅ ∧ y.p.st.empty = true) (h4 : b = true → y.FullyMin) :
    (b = false ↔ S = ∅) := by
  refine ⟨fun h => (h3 h).1, fun hS => ?_⟩
  cases hb : b
  · rfl
  · exact absurd hS (hy.ne_empty_of_fullyMin (h4 hb))

theorem minimize_facts (hG : UpdGFact) (hC : UpdCFact) (hPc : PpcFact) (hPg : PpgFact) :
    ∀ (x : FPoly) (S : Set Val), x.Inv S →
    x.SameShape x.minimize.2 ∧ x.minimize.2.Inv S ∧ (x.minimize.1 = false ↔ S = ∅) ∧
    (x.minimize.1 = false → x.minimize.2.p.st.empty = true) ∧
    (x.minimize.1 = true → 0 < x.p.dim → x.minimize.2.FullyMin) := by
  intro x S hx
  rcases minimize_cases x with ⟨he, e⟩ | ⟨he, ⟨hd, e⟩ | ⟨hd, ⟨hcp, e⟩ | ⟨hcp, ⟨hgp, e⟩ |
    ⟨hgp, ⟨hcm, hgm, e⟩ | ⟨_, ⟨hcu, e⟩ | ⟨hcu, e⟩⟩⟩⟩⟩⟩ <;> rw [e] <;> try dsimp only
  · exact ⟨.refl x, hx, ⟨fun _ => hx.den.1 he, fun _ => rfl⟩, fun _ => he, nofun⟩
  · exact ⟨.refl x, hx, ⟨nofun, fun h => absurd h (hx.ne_empty_of_zeroDim he hd)⟩, nofun,
      fun _ h => absurd hd (Nat.pos_iff_ne_zero.mp h)⟩
  · obtain ⟨h1, h2, h3, h4⟩ := hPc x S hx he hcp
    exact ⟨h1, h2, emptyReport h2 h3 h4, fun h => (h3 h).2, fun h _ => h4 h⟩
  · obtain ⟨h1, h2, h3⟩ := hPg x S hx he hgp
    exact ⟨h1, h2, ⟨nofun, fun h => absurd h (h2.ne_empty_of_fullyMin h3)⟩, nofun, fun _ _ => h3⟩
  · have hf : x.FullyMin := ⟨he, legal_cMin hx.legal hcm, legal_gMin hx.legal hgm, hcm, hgm, hcp, hgp⟩
    exact ⟨.refl x, hx, ⟨nofun, fun h => absurd h (hx.ne_empty_of_fullyMin hf)⟩, nofun, fun _ _ => hf⟩
  all_goals
    have hd' : 0 < x.p.dim := Nat.pos_of_ne_zero hd
    have hsp : x.p.st.somethingPending = false := by rw [Status.somethingPending, hcp, hgp]; rfl
  · obtain ⟨h1, h2, h3, h4⟩ := hG x S hx he hd' hcu hsp
    exact ⟨h1, h2, emptyReport h2 h3 h4, fun h => (h3 h).2, fun h _ => h4 h⟩
  · have hgu : x.p.st.gUp = true := (hx.wf.some_up he hd').resolve_left (by rw [hcu]; exact Bool.false_ne_true)
    obtain ⟨h1, h2, h3⟩ := hC x S hx he hd' hgu hsp
    exact ⟨h1, h2, ⟨nofun, fun h => absurd h (h2.ne_empty_of_fullyMin h3)⟩, nofun, fun _ _ => h3⟩

/-- the statement of `GlueFacts.minimize` -/
def MinFact : Prop := ∀ (x : FPoly) (S : Set Val), x.Inv S →
    x.SameShape x.minimize.2 ∧ x.minimize.2.Inv S ∧ (x.minimize.1 = false ↔ S = ∅) ∧
    (x.minimize.1 = false → x.minimize.2.p.st.empty = true) ∧
    (x.minimize.1 = true → 0 < x.p.dim → x.minimize.2.FullyMin)

theorem isEmpty_facts (hM : MinFact) :
    ∀ (x : FPoly) (S : Set Val), x.Inv S →
    x.SameShape x.isEmpty.2 ∧ x.isEmpty.2.Inv S ∧ (x.isEmpty.1 = true ↔ S = ∅) ∧
    (x.isEmpty.1 = true → x.isEmpty.2.p.st.empty = true) ∧
    (x.isEmpty.1 = false → x.isEmpty.2.p.st.empty = false ∧
      (0 < x.p.dim → x.isEmpty.2.p.st.gUp = true ∧ x.isEmpty.2.p.st.cPend = false)) := by
  intro x S hx
  cases he : x.p.st.empty
  swap
  · have e : x.isEmpty = (true, x) := by simp [FPoly.isEmpty, FPoly.st, he]
    rw [e]
    exact ⟨.refl x, hx, ⟨fun _ => hx.den.1 he, fun _ => rfl⟩, fun _ => he, fun h => (by cases h)⟩
  by_cases hq : x.p.st.gUp = true ∧ x.p.st.cPend = false
  · have e : x.isEmpty = (false, x) := by simp [FPoly.isEmpty, FPoly.st, he, hq.1, hq.2]
    rw [e]
    exact ⟨.refl x, hx, ⟨fun h => (by cases h), fun h => absurd h (hx.ne_empty_of_gUp he hq.1 hq.2)⟩,
      fun h => (by cases h), fun _ => ⟨he, fun _ => hq⟩⟩
  have hq' : (x.p.st.gUp && !x.p.st.cPend) = false := by
    cases h1 : x.p.st.gUp <;> cases h2 : x.p.st.cPend <;> simp_all
  have e : x.isEmpty = (!x.minimize.1, x.minimize.2) := by
    simp [FPoly.isEmpty, FPoly.st, he, hq']
  rw [e]
  obtain ⟨h1, h2, h3, h4, h5⟩ := hM x S hx
  refine ⟨h1, h2, ?_, ?_, ?_⟩
  · simpa using h3
  · intro h; exact h4 (by simpa using h)
  · intro h
    have hr : x.minimize.1 = true := by simpa using h
    have hS : S ≠ ∅ := fun hS => by rw [h3.mpr hS] at hr; cases hr
    refine ⟨h2.not_marked hS, fun hd => ?_⟩
    have hf := h5 hr hd
    exact ⟨hf.2.2.1, hf.2.2.2.2.2.1⟩

theorem needCons_facts (hC : UpdCFact) (hPg : PpgFact) :
    ∀ (x : FPoly) (S : Set Val), x.Inv S → x.p.st.empty = false → 0 < x.p.dim →
    x.SameShape x.needCons ∧ x.needCons.Inv S ∧ x.needCons.p.st.empty = false ∧
    x.needCons.p.st.cUp = true ∧ x.needCons.p.st.gPend = false := by
  intro x S hx he hd
  cases hgp : x.p.st.gPend
  swap
  · have e : x.needCons = x.processPendingGenerators := by simp [FPoly.needCons, FPoly.st, hgp]
    rw [e]
    obtain ⟨h1, h2, h3⟩ := hPg x S hx he hgp
    exact ⟨h1, h2, h3.1, h3.2.1, h3.2.2.2.2.2.2⟩
  cases hcu : x.p.st.cUp
  · have e : x.needCons = x.updateConstraints := by simp [FPoly.needCons, FPoly.st, hgp, hcu]
    rw [e]
    have hgu : x.p.st.gUp = true := by
      rcases hx.wf.some_up he hd with h | h
      · rw [hcu] at h; cases h
      · exact h
    have hcp : x.p.st.cPend = false := by
      cases h : x.p.st.cPend
      · rfl
      · have := (hx.wf.pend_c h).1; rw [hcu] at this; cases this
    obtain ⟨h1, h2, h3⟩ := hC x S hx he hd hgu (by simp [Status.somethingPending, hcp, hgp])
    exact ⟨h1, h2, h3.1, h3.2.1, h3.2.2.2.2.2.2⟩
  · have e : x.needCons = x := by simp [FPoly.needCons, FPoly.st, hgp, hcu]
    rw [e]
    exact ⟨.refl x, hx, he, hcu, hgp⟩

theorem needGens_facts (hG : UpdGFact) (hPc : PpcFact) :
    ∀ (x : FPoly) (S : Set Val), x.Inv S → x.p.st.empty = false → 0 < x.p.dim →
    x.SameShape x.needGens.2 ∧ x.needGens.2.Inv S ∧
    (x.needGens.1 = true → S = ∅ ∧ x.needGens.2.p.st.empty = true) ∧
    (x.needGens.1 = false → x.needGens.2.p.st.empty = false ∧ x.needGens.2.p.st.gUp = true ∧
      x.needGens.2.p.st.cPend = false) := by
  intro x S hx he hd
  rcases needGens_cases x with ⟨c, g, e⟩ | ⟨c, g, e⟩ | ⟨c, r, e⟩ | ⟨c, r, g, e⟩ | ⟨c, r, g, e⟩ <;>
    rw [e] <;> dsimp only
  · exact ⟨.refl x, hx, nofun, fun _ => ⟨he, g, c⟩⟩
  · have hcu : x.p.st.cUp = true := by
      rcases hx.wf.some_up he hd with h | h
      · exact h
      · rw [g] at h; cases h
    have hgp : x.p.st.gPend = false := by
      cases h : x.p.st.gPend
      · rfl
      · have := (hx.wf.pend_g h).2; rw [g] at this; cases this
    obtain ⟨h1, h2, h3, h4⟩ := hG x S hx he hd hcu (by simp [Status.somethingPending, c, hgp])
    refine ⟨h1, h2, fun h => h3 (by simpa using h), fun h => ?_⟩
    have hf := h4 (by simpa using h)
    exact ⟨hf.1, hf.2.2.1, hf.2.2.2.2.2.1⟩
  all_goals obtain ⟨h1, h2, h3, h4⟩ := hPc x S hx he c
  · exact ⟨h1, h2, fun _ => h3 r, nofun⟩
  · have hf := h4 r
    exact ⟨h1, h2, nofun, fun _ => ⟨hf.1, hf.2.2.1, hf.2.2.2.2.2.1⟩⟩
  · rw [(h4 r).2.2.1] at g; cases g

end PPLV.PolyFull

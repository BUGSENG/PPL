import PPLV.PolyFull.ProofsGluePendingG

/-!
# `GlueFacts` from `ConvContract`: the preparation steps keep topology,
dimension, the other system and every status flag but `sat_c` / `sat_g`

`obtain_sorted_constraints_with_sat_c` / `obtain_sorted_generators_with_sat_g` cut into their steps
(`osc_eq`, `osg_eq`, by `rfl`).
-/
namespace PPLV.PolyFull
open PPLV.Lin PPLV.PolyOps
open PPLV.Conv (LRow BRow Vec Sound SatCorrect holds holdsAll Generated)

/-- the same status word but for the two saturation flags -/
def StatusSameButSat (s t : Status) : Prop :=
  t.empty = s.empty ∧ t.cUp = s.cUp ∧ t.gUp = s.gUp ∧ t.cMin = s.cMin ∧ t.gMin = s.gMin ∧
    t.cPend = s.cPend ∧ t.gPend = s.gPend

theorem StatusSameButSat.exists {s t : Status} (h : StatusSameButSat s t) :
    ∃ a b, t = { s with satC := a, satG := b } := by
  obtain ⟨h1, h2, h3, h4, h5, h6, h7⟩ := h
  refine ⟨t.satC, t.satG, ?_⟩
  cases t; cases s
  simp only at h1 h2 h3 h4 h5 h6 h7
  simp [h1, h2, h3, h4, h5, h6, h7]

theorem StatusSameButSat.refl (s : Status) : StatusSameButSat s s := ⟨rfl, rfl, rfl, rfl, rfl, rfl, rfl⟩
theorem StatusSameButSat.trans {s t u : Status} (h1 : StatusSameButSat s t) (h2 : StatusSameButSat t u) :
    StatusSameButSat s u :=
  ⟨h2.1.trans h1.1, h2.2.1.trans h1.2.1, h2.2.2.1.trans h1.2.2.1, h2.2.2.2.1.trans h1.2.2.2.1,
   h2.2.2.2.2.1.trans h1.2.2.2.2.1, h2.2.2.2.2.2.1.trans h1.2.2.2.2.2.1, h2.2.2.2.2.2.2.trans h1.2.2.2.2.2.2⟩

/-- what the preparation steps of the constraint side never touch -/
def SameButC (x y : FPoly) : Prop :=
  y.p.nnc = x.p.nnc ∧ y.p.dim = x.p.dim ∧ y.p.gs = x.p.gs ∧ StatusSameButSat x.p.st y.p.st
/-- what the preparation steps of the generator side never touch -/
def SameButG (x y : FPoly) : Prop :=
  y.p.nnc = x.p.nnc ∧ y.p.dim = x.p.dim ∧ y.p.cs = x.p.cs ∧ StatusSameButSat x.p.st y.p.st

theorem SameButC.refl (x : FPoly) : SameButC x x := ⟨rfl, rfl, rfl, .refl _⟩
theorem SameButC.trans {x y z : FPoly} (h1 : SameButC x y) (h2 : SameButC y z) : SameButC x z :=
  ⟨h2.1.trans h1.1, h2.2.1.trans h1.2.1, h2.2.2.1.trans h1.2.2.1, h1.2.2.2.trans h2.2.2.2⟩
theorem SameButG.refl (x : FPoly) : SameButG x x := ⟨rfl, rfl, rfl, .refl _⟩
theorem SameButG.trans {x y z : FPoly} (h1 : SameButG x y) (h2 : SameButG y z) : SameButG x z :=
  ⟨h2.1.trans h1.1, h2.2.1.trans h1.2.1, h2.2.2.1.trans h1.2.2.1, h1.2.2.2.trans h2.2.2.2⟩

/-! ### `obtain_sorted_constraints_with_sat_c` in steps -/

/-- :1038-1040 -/
def oscStep1 (x : FPoly) : FPoly := if !x.st.satC && !x.st.satG then x.updateSatC else x
/-- :1049-1054 -/
def oscTransG (x : FPoly) : FPoly :=
  if !x.st.satG then
    { x with satG := x.satC.transposeOf, p := { x.p with st := { x.p.st with satG := true } } }
  else x
/-- :1056 -/
def oscSort (x : FPoly) : FPoly :=
  { x with p := { x.p with cs := (x.p.cs.sortAndRemoveWithSat false x.nnc x.satG).1 },
           satG := (x.p.cs.sortAndRemoveWithSat false x.nnc x.satG).2 }
/-- :1041-1057 -/
def oscStep2 (x : FPoly) : FPoly := if x.p.cs.sorted then x else oscSort (oscTransG x)
/-- :1059-1062 -/
def oscStep3 (x : FPoly) : FPoly :=
  { x with satC := x.satG.transposeOf,
           p := { x.p with st := { x.p.st with satC := true }, cs := { x.p.cs with sorted := true } } }

theorem osc_eq (x : FPoly) : x.obtainSortedConstraintsWithSatC =
    if (oscStep1 x).p.cs.sorted && (oscStep1 x).st.satC then oscStep1 x
    else oscStep3 (oscStep2 (oscStep1 x)) := rfl

theorem oscStep1_same (x : FPoly) : SameButC x (oscStep1 x) := by
  unfold oscStep1
  split
  · exact ⟨rfl, rfl, rfl, rfl, rfl, rfl, rfl, rfl, rfl, rfl⟩
  · exact .refl x

theorem oscTransG_same (x : FPoly) : SameButC x (oscTransG x) := by
  unfold oscTransG
  split
  · exact ⟨rfl, rfl, rfl, rfl, rfl, rfl, rfl, rfl, rfl, rfl⟩
  · exact .refl x

theorem oscSort_same (x : FPoly) : SameButC x (oscSort x) := ⟨rfl, rfl, rfl, .refl _⟩

theorem oscStep2_same (x : FPoly) : SameButC x (oscStep2 x) := by
  unfold oscStep2
  split
  · exact .refl x
  · exact (oscTransG_same x).trans (oscSort_same _)

theorem oscStep3_same (x : FPoly) : SameButC x (oscStep3 x) :=
  ⟨rfl, rfl, rfl, rfl, rfl, rfl, rfl, rfl, rfl, rfl⟩

theorem osc_same (x : FPoly) : SameButC x x.obtainSortedConstraintsWithSatC := by
  rw [osc_eq]
  split
  · exact oscStep1_same x
  · exact (oscStep1_same x).trans ((oscStep2_same _).trans (oscStep3_same _))

/-- :744 -/
def ppcStep0 (x : FPoly) : FPoly := if !x.st.satC then { x with satC := x.satG.transposeOf } else x

theorem ppcPrepared_eq (x : FPoly) : x.ppcPrep =
    if !(ppcStep0 x).p.cs.sorted then (ppcStep0 x).obtainSortedConstraintsWithSatC else ppcStep0 x := rfl

theorem ppcStep0_same (x : FPoly) : SameButC x (ppcStep0 x) := by
  unfold ppcStep0
  split
  · exact ⟨rfl, rfl, rfl, .refl _⟩
  · exact .refl x

theorem ppcPrepared_same (x : FPoly) : SameButC x x.ppcPrep := by
  rw [ppcPrepared_eq]
  split
  · exact (ppcStep0_same x).trans (osc_same _)
  · exact ppcStep0_same x

/-! ### `obtain_sorted_generators_with_sat_g` in steps -/

def osgStep1 (x : FPoly) : FPoly := if !x.st.satC && !x.st.satG then x.updateSatG else x
def osgTransC (x : FPoly) : FPoly :=
  if !x.st.satC then
    { x with satC := x.satG.transposeOf, p := { x.p with st := { x.p.st with satC := true } } }
  else x
def osgSort (x : FPoly) : FPoly :=
  { x with p := { x.p with gs := (x.p.gs.sortAndRemoveWithSat true x.nnc x.satC).1 },
           satC := (x.p.gs.sortAndRemoveWithSat true x.nnc x.satC).2 }
def osgStep2 (x : FPoly) : FPoly := if x.p.gs.sorted then x else osgSort (osgTransC x)
def osgStep3 (x : FPoly) : FPoly :=
  { x with satG := x.satC.transposeOf,
           p := { x.p with st := { x.p.st with satG := true }, gs := { x.p.gs with sorted := true } } }

theorem osg_eq (x : FPoly) : x.obtainSortedGeneratorsWithSatG =
    if (osgStep1 x).p.gs.sorted && (osgStep1 x).st.satG then osgStep1 x
    else osgStep3 (osgStep2 (osgStep1 x)) := rfl

theorem osgStep1_same (x : FPoly) : SameButG x (osgStep1 x) := by
  unfold osgStep1
  split
  · exact ⟨rfl, rfl, rfl, rfl, rfl, rfl, rfl, rfl, rfl, rfl⟩
  · exact .refl x

theorem osgTransC_same (x : FPoly) : SameButG x (osgTransC x) := by
  unfold osgTransC
  split
  · exact ⟨rfl, rfl, rfl, rfl, rfl, rfl, rfl, rfl, rfl, rfl⟩
  · exact .refl x

theorem osgSort_same (x : FPoly) : SameButG x (osgSort x) := ⟨rfl, rfl, rfl, .refl _⟩

theorem osgStep2_same (x : FPoly) : SameButG x (osgStep2 x) := by
  unfold osgStep2
  split
  · exact .refl x
  · exact (osgTransC_same x).trans (osgSort_same _)

theorem osgStep3_same (x : FPoly) : SameButG x (osgStep3 x) :=
  ⟨rfl, rfl, rfl, rfl, rfl, rfl, rfl, rfl, rfl, rfl⟩

theorem osg_same (x : FPoly) : SameButG x x.obtainSortedGeneratorsWithSatG := by
  rw [osg_eq]
  split
  · exact osgStep1_same x
  · exact (osgStep1_same x).trans ((osgStep2_same _).trans (osgStep3_same _))

def ppgStep0 (x : FPoly) : FPoly := if !x.st.satG then { x with satG := x.satC.transposeOf } else x

theorem ppgPrepared_eq (x : FPoly) : x.ppgPrep =
    if !(ppgStep0 x).p.gs.sorted then (ppgStep0 x).obtainSortedGeneratorsWithSatG else ppgStep0 x := rfl

theorem ppgStep0_same (x : FPoly) : SameButG x (ppgStep0 x) := by
  unfold ppgStep0
  split
  · exact ⟨rfl, rfl, rfl, .refl _⟩
  · exact .refl x

theorem ppgPrepared_same (x : FPoly) : SameButG x x.ppgPrep := by
  rw [ppgPrepared_eq]
  split
  · exact (ppgStep0_same x).trans (osg_same _)
  · exact ppgStep0_same x

/-! ### what the preparation steps must keep beyond that (proved in ProofsGluePrepC, ProofsGluePrepG, or hypotheses of the final theorem) -/

/-- the preparation of `process_pending_constraints` keeps the rows and the double description pair -/
def SortKeepsPairC : Prop := ∀ (x : FPoly) (S : Set Val), x.Inv S → x.p.st.empty = false →
  x.p.st.cPend = true →
  x.ppcPrep.p.cs.firstPending ≤ x.ppcPrep.p.cs.rows.length ∧
  (∀ r, r ∈ x.ppcPrep.p.cs.rows ↔ r ∈ x.p.cs.rows) ∧
  (∀ r, r ∈ x.ppcPrep.npC ↔ r ∈ x.npC) ∧
  EnginePair x.p.nnc x.p.dim x.ppcPrep.npC x.p.gs.rows true x.ppcPrep.p.st.satG
    x.ppcPrep.satC x.ppcPrep.satG

/-- the preparation of `process_pending_generators` keeps the rows and the double description pair -/
def SortKeepsPairG : Prop := ∀ (x : FPoly) (S : Set Val), x.Inv S → x.p.st.empty = false →
  x.p.st.gPend = true →
  x.ppgPrep.p.gs.firstPending ≤ x.ppgPrep.p.gs.rows.length ∧
  (∀ r, r ∈ x.ppgPrep.p.gs.rows ↔ r ∈ x.p.gs.rows) ∧
  (∀ r, r ∈ x.ppgPrep.npG ↔ r ∈ x.npG) ∧
  EnginePair x.p.nnc x.p.dim x.p.cs.rows x.ppgPrep.npG x.ppgPrep.p.st.satC true
    x.ppgPrep.satC x.ppgPrep.satG

end PPLV.PolyFull

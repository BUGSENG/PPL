import PPLV.PolyFull.ProofsOps5b
import PPLV.PolyFull.ProofsOpsAffinePreimage

/-!
# invertible `affine_image` / `affine_preimage`: the field `denNPc` of the result

"With pending constraints the generators describe the non-pending constraints" survives the
invertible rewriting of both descriptions: apply the row-level theorem of C02 to the receiver with
its pending constraints dropped (`dropPendC`), on which both descriptions denote the same set.
`affineImage_refines_partial'` / `affinePreimage_refines_partial'`: the theorems of ProofsOps5b / ProofsOpsAffinePreimage
without the hypothesis `hNPc`.
-/
namespace PPLV.PolyFull
open PPLV.Lin PPLV.PolyOps

/-- the pending constraints dropped -/
def dropPendC (p : Poly) : Poly :=
  { p with cs := ⟨p.cs.rows.take p.cs.firstPending, p.cs.firstPending, p.cs.sorted⟩,
           st := { p.st with cPend := false } }

theorem dropPendC_wf (p : Poly) (hp : p.WF) : (dropPendC p).WF :=
  ⟨fun he hc r hr => hp.cs_len he hc r (List.mem_of_mem_take hr), hp.gs_wf, hp.gs_pt,
    fun h => (by cases h), hp.pend_g, fun h => (by cases h.1), hp.some_up, hp.zero_dim⟩

theorem dropPendC_denotes (p : Poly) (hp : p.WF) (he : p.st.empty = false) (hcp : p.st.cPend = true)
    (hnp : genSem p.nnc p.dim p.gs.rows = conSem p.nnc (p.cs.rows.take p.cs.firstPending)) :
    (dropPendC p).Denotes (conSem p.nnc (p.cs.rows.take p.cs.firstPending)) := by
  refine ⟨fun h => ?_, fun _ => ⟨fun _ _ => rfl, fun _ _ => hnp, fun h => ?_⟩⟩
  · rw [show p.st.empty = true from h] at he; cases he
  · have := (hp.pend_c hcp).1
    rw [show p.st.cUp = false from h] at this; cases this

theorem affine_image_inv_denNPc (p q : Poly) (v : Nat) (e : LinExpr) (den : Int) (hp : p.WF)
    (hem : p.st.empty = false) (hc : e.coeffs.getD v 0 ≠ 0) (hv : v < p.dim) (he : e.coeffs.length = p.dim)
    (hden : den ≠ 0) (hcp : p.st.cPend = true)
    (hnp : genSem p.nnc p.dim p.gs.rows = conSem p.nnc (p.cs.rows.take p.cs.firstPending))
    (h : p.affine_image v e den = some q) :
    genSem q.nnc q.dim q.gs.rows = conSem q.nnc (q.cs.rows.take q.cs.firstPending) := by
  obtain ⟨hst, hqn, hqd, hgs, hcs⟩ := affine_image_inv_shape p q v e den hem hc h
  obtain ⟨hcu, hgu⟩ := hp.pend_c hcp
  have hgp : p.st.gPend = false := by
    cases hh : p.st.gPend
    · rfl
    · exact absurd ⟨hcp, hh⟩ hp.pend_one
  obtain ⟨q', hq'⟩ : ∃ q', (dropPendC p).affine_image v e den = some q' := by
    unfold Poly.affine_image
    rw [if_neg (by show ¬ p.st.empty = true; simp [hem]), if_pos (bne_iff_ne.mpr hc)]
    exact ⟨_, rfl⟩
  obtain ⟨hst', hqn', hqd', hgs', hcs'⟩ := affine_image_inv_shape (dropPendC p) q' v e den hem hc hq'
  have hwf' : WF p.dim (consOf p.nnc (p.cs.rows.take p.cs.firstPending)) :=
    kitC_wf p.nnc p.dim _ (fun r hr => hp.cs_len hem hcu r (List.mem_of_mem_take hr))
  have hD' := affine_image_rows_correct (dropPendC p) q' v e den
    (refOfCons p.nnc p.dim (p.cs.rows.take p.cs.firstPending)) rfl rfl hwf' (dropPendC_wf p hp) hv he hden
    (dropPendC_denotes p hp hem hcp hnp) hq'
  have hqe' : q'.st.empty = false := by rw [hst']; exact hem
  have e1 := (hD'.2 hqe').1 (by rw [hst']; exact hcu) (by rw [hst']; exact hgp)
  have e2 := (hD'.2 hqe').2.1 (by rw [hst']; exact hgu) (by rw [hst']; rfl)
  have hgeq : q'.gs = q.gs := by
    rw [hgs', hgs]; rfl
  have hceq : q'.cs.rows = q.cs.rows.take q.cs.firstPending := by
    rw [hcs', hcs, if_pos hcu, if_pos (show (dropPendC p).st.cUp = true from hcu)]
    rw [(csAffinePreimage_fp _ _ _ _).1, csAffinePreimage_rows, csAffinePreimage_rows]
    show ((p.cs.rows.take p.cs.firstPending).map _).map _ = _
    rw [List.map_take, List.map_take]
    rfl
  rw [hqn, hqd]
  rw [hqn', hqd', hgeq] at e2
  rw [hqn', hceq] at e1
  exact e2.trans e1.symm

theorem affine_preimage_inv_denNPc (p q : Poly) (v : Nat) (e : LinExpr) (den : Int) (hp : p.WF)
    (hem : p.st.empty = false) (hc : e.coeffs.getD v 0 ≠ 0) (hv : v < p.dim) (he : e.coeffs.length = p.dim)
    (hden : den ≠ 0) (hcp : p.st.cPend = true)
    (hnp : genSem p.nnc p.dim p.gs.rows = conSem p.nnc (p.cs.rows.take p.cs.firstPending))
    (h : p.affine_preimage v e den = some q) :
    genSem q.nnc q.dim q.gs.rows = conSem q.nnc (q.cs.rows.take q.cs.firstPending) := by
  obtain ⟨hst, hqn, hqd, hcs, hgs⟩ := affine_preimage_inv_shape p q v e den hem hc h
  obtain ⟨hcu, hgu⟩ := hp.pend_c hcp
  have hgp : p.st.gPend = false := by
    cases hh : p.st.gPend
    · rfl
    · exact absurd ⟨hcp, hh⟩ hp.pend_one
  obtain ⟨q', hq'⟩ : ∃ q', (dropPendC p).affine_preimage v e den = some q' := by
    unfold Poly.affine_preimage
    rw [if_neg (by show ¬ p.st.empty = true; simp [hem]), if_pos (bne_iff_ne.mpr hc)]
    exact ⟨_, rfl⟩
  obtain ⟨hst', hqn', hqd', hcs', hgs'⟩ := affine_preimage_inv_shape (dropPendC p) q' v e den hem hc hq'
  have hwf' : WF p.dim (consOf p.nnc (p.cs.rows.take p.cs.firstPending)) :=
    kitC_wf p.nnc p.dim _ (fun r hr => hp.cs_len hem hcu r (List.mem_of_mem_take hr))
  have hD' := affine_preimage_rows_correct (dropPendC p) q' v e den
    (refOfCons p.nnc p.dim (p.cs.rows.take p.cs.firstPending)) rfl rfl hwf' (dropPendC_wf p hp) hv he hden
    (dropPendC_denotes p hp hem hcp hnp) hq'
  have hqe' : q'.st.empty = false := by rw [hst']; exact hem
  have e1 := (hD'.2 hqe').1 (by rw [hst']; exact hcu) (by rw [hst']; exact hgp)
  have e2 := (hD'.2 hqe').2.1 (by rw [hst']; exact hgu) (by rw [hst']; rfl)
  have hgeq : q'.gs = q.gs := by
    rw [hgs', hgs]; rfl
  have hceq : q'.cs.rows = q.cs.rows.take q.cs.firstPending := by
    rw [hcs', hcs, if_pos hcu, if_pos (show (dropPendC p).st.cUp = true from hcu)]
    rw [(csSigned_fp _ _ _ _).1]
    unfold csSigned
    split
    · rw [csAffinePreimage_rows, csAffinePreimage_rows]
      show ((p.cs.rows.take p.cs.firstPending).map _).map _ = _
      rw [List.map_take, List.map_take]
    · rw [csAffinePreimage_rows, csAffinePreimage_rows]
      show ((p.cs.rows.take p.cs.firstPending).map _).map _ = _
      rw [List.map_take, List.map_take]
  rw [hqn, hqd]
  rw [hqn', hqd', hgeq] at e2
  rw [hqn', hceq] at e1
  exact e2.trans e1.symm

theorem affineImage_inv_p (x : FPoly) (v : Nat) (e : LinExpr) (den : Int) (hex : x.p.st.empty = false)
    (hc : e.coeffs.getD v 0 ≠ 0) :
    ∃ q, x.p.affine_image v e den = some q ∧ (x.affineImage v e den).p = q := by
  obtain ⟨q, hq⟩ : ∃ q, x.p.affine_image v e den = some q := by
    unfold Poly.affine_image
    rw [if_neg (by simp [hex]), if_pos (bne_iff_ne.mpr hc)]
    exact ⟨_, rfl⟩
  refine ⟨q, hq, ?_⟩
  rw [affineImage_eq_of_trivial x v e den (by rw [bne_iff_ne.mpr hc]; simp), hq]
  exact lift_p x q

theorem affinePreimage_inv_p (x : FPoly) (v : Nat) (e : LinExpr) (den : Int) (hex : x.p.st.empty = false)
    (hc : e.coeffs.getD v 0 ≠ 0) :
    ∃ q, x.p.affine_preimage v e den = some q ∧ (x.affinePreimage v e den).p = q := by
  obtain ⟨q, hq⟩ : ∃ q, x.p.affine_preimage v e den = some q := by
    unfold Poly.affine_preimage
    rw [if_neg (by simp [hex]), if_pos (bne_iff_ne.mpr hc)]
    exact ⟨_, rfl⟩
  refine ⟨q, hq, ?_⟩
  rw [affinePreimage_eq, if_pos (by rw [bne_iff_ne.mpr hc]; simp), hq]
  exact lift_p x q

/-- **`affine_image`, the whole object** — as `affineImage_refines_partial` with `hNPc` discharged.
    PARTIAL: assumed of the RESULT in the invertible case on a receiver not marked empty: `hLow`
    (field `low`), `hNPg` (field `denNPg`), `hEng` (field `eng`). -/
theorem affineImage_refines_partial' (G : GlueFacts) (x : FPoly) (ref : RefPoly) (v : Nat) (e : LinExpr)
    (den : Int) (hn : ref.n = x.p.dim) (hnnc : ref.nnc = x.p.nnc) (hwf : WF ref.n ref.cs)
    (hv : v < x.p.dim) (he : e.coeffs.length = x.p.dim) (hden : den ≠ 0) (hx : x.Inv (sem ref.cs))
    (hLow : e.coeffs.getD v 0 ≠ 0 → x.p.st.empty = false → (x.affineImage v e den).p.st.cUp = true →
      LowLevel (x.affineImage v e den).p.nnc (x.affineImage v e den).p.dim (x.affineImage v e den).p.cs.rows)
    (hNPg : e.coeffs.getD v 0 ≠ 0 → x.p.st.empty = false → (x.affineImage v e den).p.st.gPend = true →
      conSem (x.affineImage v e den).p.nnc (x.affineImage v e den).p.cs.rows =
        genSem (x.affineImage v e den).p.nnc (x.affineImage v e den).p.dim (x.affineImage v e den).npG)
    (hEng : e.coeffs.getD v 0 ≠ 0 → x.p.st.empty = false → (x.affineImage v e den).p.st.canPend = true →
      EnginePair (x.affineImage v e den).p.nnc (x.affineImage v e den).p.dim (x.affineImage v e den).npC
        (x.affineImage v e den).npG (x.affineImage v e den).p.st.satC (x.affineImage v e den).p.st.satG
        (x.affineImage v e den).satC (x.affineImage v e den).satG) :
    (x.affineImage v e den).Inv (sem (ref.affineImage v e den).cs) ∧ x.SameShape (x.affineImage v e den) := by
  refine affineImage_refines_partial G x ref v e den hn hnnc hwf hv he hden hx hLow ?_ hNPg hEng
  intro hc hex hcpR
  obtain ⟨q, hq, hp⟩ := affineImage_inv_p x v e den hex hc
  obtain ⟨hst, _⟩ := affine_image_inv_shape x.p q v e den hex hc hq
  unfold FPoly.npC
  rw [hp] at hcpR ⊢
  have hcp : x.p.st.cPend = true := by rw [← hst]; exact hcpR
  exact affine_image_inv_denNPc x.p q v e den hx.wf hex hc hv he hden hcp (hx.denNPc hex hcp) hq

/-- **`affine_preimage`, the whole object** — as `affinePreimage_refines_partial` with `hNPc` discharged.
    PARTIAL: assumed of the RESULT when the receiver is not marked empty: `hLow` (field `low`; all
    cases), and in the invertible case `hNPg` (field `denNPg`), `hEng` (field `eng`). -/
theorem affinePreimage_refines_partial' (G : GlueFacts) (x : FPoly) (ref : RefPoly) (v : Nat) (e : LinExpr)
    (den : Int) (hn : ref.n = x.p.dim) (hnnc : ref.nnc = x.p.nnc) (hwf : WF ref.n ref.cs)
    (hv : v < x.p.dim) (he : e.coeffs.length = x.p.dim) (hden : den ≠ 0) (hx : x.Inv (sem ref.cs))
    (hLow : x.p.st.empty = false → (x.affinePreimage v e den).p.st.empty = false →
      (x.affinePreimage v e den).p.st.cUp = true →
      LowLevel (x.affinePreimage v e den).p.nnc (x.affinePreimage v e den).p.dim
        (x.affinePreimage v e den).p.cs.rows)
    (hNPg : e.coeffs.getD v 0 ≠ 0 → x.p.st.empty = false → (x.affinePreimage v e den).p.st.gPend = true →
      conSem (x.affinePreimage v e den).p.nnc (x.affinePreimage v e den).p.cs.rows =
        genSem (x.affinePreimage v e den).p.nnc (x.affinePreimage v e den).p.dim (x.affinePreimage v e den).npG)
    (hEng : e.coeffs.getD v 0 ≠ 0 → x.p.st.empty = false → (x.affinePreimage v e den).p.st.canPend = true →
      EnginePair (x.affinePreimage v e den).p.nnc (x.affinePreimage v e den).p.dim
        (x.affinePreimage v e den).npC (x.affinePreimage v e den).npG (x.affinePreimage v e den).p.st.satC
        (x.affinePreimage v e den).p.st.satG (x.affinePreimage v e den).satC (x.affinePreimage v e den).satG) :
    (x.affinePreimage v e den).Inv (sem (ref.affinePreimage v e den).cs) ∧
      x.SameShape (x.affinePreimage v e den) := by
  refine affinePreimage_refines_partial G x ref v e den hn hnnc hwf hv he hden hx hLow ?_ hNPg hEng
  intro hc hex hcpR
  obtain ⟨q, hq, hp⟩ := affinePreimage_inv_p x v e den hex hc
  obtain ⟨hst, _⟩ := affine_preimage_inv_shape x.p q v e den hex hc hq
  unfold FPoly.npC
  rw [hp] at hcpR ⊢
  have hcp : x.p.st.cPend = true := by rw [← hst]; exact hcpR
  exact affine_preimage_inv_denNPc x.p q v e den hx.wf hex hc hv he hden hcp (hx.denNPc hex hcp) hq

end PPLV.PolyFull

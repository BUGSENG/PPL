import PPLV.PolyFull.GlueFacts
import PPLV.PolyOps.ProofsGenKit3
import PPLV.PolyOps.ProofsCon

/-!
# the binary observers: the two loops of `is_included_in`

`includedLoops_iff`: for a well-formed generator system with a point, the sign tests of
`Polyhedron::is_included_in` (:461-561) on the reduced scalar products succeed for every pair
(constraint row, generator row) exactly when the generated set is included in the constraint set.
Both directions: `→` is "every combination satisfies the row" (`genSem_row_of_admits`), `←` is the
ray / segment argument of K1 (`genSem_subset_row_iff`).  No legality hypothesis on the constraint
rows is needed: the tests and `Row.toCons` classify a row by the same bits (kind bit, sign of the
epsilon coefficient).
-/
namespace PPLV.PolyFull
open PPLV.Lin PPLV.PolyOps

/-- the test `is_included_in` performs on one (constraint, generator) pair -/
def pairTest (nnc : Bool) (c g : Row) : Bool :=
  let s := FPoly.rsp c g
  if c.eq then s == 0
  else if nnc && decide (c.eps < 0) then
    if g.eq then s == 0
    else if g.b != 0 && decide (g.eps > 0) then decide (s > 0)
    else decide (s ≥ 0)
  else
    if g.eq then s == 0 else decide (s ≥ 0)

theorem includedLoops_eq (nnc : Bool) (gs cs : List Row) :
    FPoly.includedLoops nnc gs cs = cs.all fun c => gs.all fun g => pairTest nnc c g := rfl

theorem qdiv_nonneg_iff (a b : Rat) (hb : 0 < b) : 0 ≤ a / b ↔ 0 ≤ a := by
  rw [le_div_iff₀ hb, zero_mul]
theorem qdiv_pos_iff (a b : Rat) (hb : 0 < b) : 0 < a / b ↔ 0 < a := by
  rw [lt_div_iff₀ hb, zero_mul]

theorem idot_map_neg (as cf : List Int) : idot (as.map (- ·)) cf = - idot as cf := by
  induction as generalizing cf with
  | nil => simp [idot]
  | cons a as ih =>
    cases cf with
    | nil => simp [idot]
    | cons c cs => simp only [List.map_cons, idot, ih]; ring

/-- the vector of a raw generator row against the coefficients of a row: the integer scalar
    product over the divisor -/
theorem dot_toGen_vec (nnc : Bool) (cf : List Int) (g : Row) :
    dot cf (g.toGen nnc).vec = ((idot cf g.cf : Int) : Rat) / (((g.toGen nnc).d : Int) : Rat) := by
  rcases rowShape nnc g with ⟨_, hs⟩ | ⟨_, _, hs⟩ | ⟨_, _, _, _, hs⟩ | ⟨_, _, _, hs⟩ <;> rw [hs]
  · have : Gen.vec ⟨.line, g.cf, 1⟩ = fun i => ((g.cf.getD i 0 : Int) : Rat) := by
      funext i; exact vec_line _ _ i
    rw [this, ← idot_cast]; simp [Gen.d, Gen.isPtOrCp]
  · have : Gen.vec ⟨.ray, g.cf, 1⟩ = fun i => ((g.cf.getD i 0 : Int) : Rat) := by
      funext i; exact vec_ray _ _ i
    rw [this, ← idot_cast]; simp [Gen.d, Gen.isPtOrCp]
  · have : Gen.vec ⟨.cpoint, g.cf, g.b⟩ = fun i => ((g.cf.getD i 0 : Int) : Rat) / (g.b : Rat) := by
      funext i; exact vec_cp _ _ i
    rw [this, dot_div, ← idot_cast]; simp [Gen.d, Gen.isPtOrCp]
  · have : Gen.vec ⟨.point, g.cf, g.b⟩ = fun i => ((g.cf.getD i 0 : Int) : Rat) / (g.b : Rat) := by
      funext i; exact vec_pt _ _ i
    rw [this, dot_div, ← idot_cast]; simp [Gen.d, Gen.isPtOrCp]

/-- what "generator row `g` is compatible with the K1 row `(cf, k, st)`" says on the integers -/
def genPassesI (nnc : Bool) (cf : List Int) (k : Int) (st : Bool) (g : Row) : Prop :=
  if g.eq = true then k * g.b + idot cf g.cf = 0
  else if g.b = 0 then 0 ≤ k * g.b + idot cf g.cf
  else if nnc = true ∧ g.eps = 0 then 0 ≤ k * g.b + idot cf g.cf
  else if st = true then 0 < k * g.b + idot cf g.cf else 0 ≤ k * g.b + idot cf g.cf

theorem rowAdmits_iff (nnc : Bool) (n : Nat) (cf : List Int) (k : Int) (st : Bool) (g : Row)
    (hg : g.genWF nnc n) :
    rowAdmits ⟨cf, k, st⟩ (g.toGen nnc) ↔ genPassesI nnc cf k st g := by
  have hdot := dot_toGen_vec nnc cf g
  obtain ⟨_, hb0, _, heqb, _, _⟩ := hg
  unfold genPassesI
  rcases rowShape nnc g with ⟨he, hs⟩ | ⟨he, hb, hs⟩ | ⟨he, hb, hn, hz, hs⟩ | ⟨he, hb, hn, hs⟩
  · rw [if_pos he]
    have hb : g.b = 0 := heqb he
    rw [hs] at hdot ⊢
    unfold rowAdmits
    simp only [hdot, Gen.d, Gen.isPtOrCp, hb]
    simp
  · have he' : ¬ g.eq = true := by simp [he]
    rw [if_neg he', if_pos hb]
    rw [hs] at hdot ⊢
    unfold rowAdmits
    simp only [hdot, Gen.d, Gen.isPtOrCp, hb]
    simp
  · have he' : ¬ g.eq = true := by simp [he]
    rw [if_neg he', if_neg hb, if_pos ⟨hn, hz⟩]
    rw [hs] at hdot ⊢
    have hbp : (0 : Rat) < (g.b : Rat) := by
      have : 0 < g.b := by omega
      exact_mod_cast this
    unfold rowAdmits Con.eval
    simp only [hdot, Gen.d, Gen.isPtOrCp]
    simp only [show (GKind.cpoint == GKind.point || GKind.cpoint == GKind.cpoint) = true by decide,
      if_true]
    have : ((idot cf g.cf : Int) : Rat) / (g.b : Rat) + (k : Rat)
        = (((k * g.b + idot cf g.cf : Int)) : Rat) / (g.b : Rat) := by
      push_cast; field_simp; ring
    rw [this, qdiv_nonneg_iff _ _ hbp]
    exact_mod_cast Iff.rfl
  · have he' : ¬ g.eq = true := by simp [he]
    rw [if_neg he', if_neg hb, if_neg hn]
    rw [hs] at hdot ⊢
    have hbp : (0 : Rat) < (g.b : Rat) := by
      have : 0 < g.b := by omega
      exact_mod_cast this
    unfold rowAdmits Con.sat Con.eval
    simp only [hdot, Gen.d, Gen.isPtOrCp]
    simp only [show (GKind.point == GKind.point || GKind.point == GKind.cpoint) = true by decide,
      if_true]
    have : ((idot cf g.cf : Int) : Rat) / (g.b : Rat) + (k : Rat)
        = (((k * g.b + idot cf g.cf : Int)) : Rat) / (g.b : Rat) := by
      push_cast; field_simp; ring
    rw [this]
    by_cases hst : st = true
    · rw [if_pos hst, if_pos hst, qdiv_pos_iff _ _ hbp]
      exact_mod_cast Iff.rfl
    · rw [if_neg hst, if_neg hst, qdiv_nonneg_iff _ _ hbp]
      exact_mod_cast Iff.rfl


/-- one (constraint row, generator row) pair: the K1 rows of the constraint are all compatible with the
    K1 generator iff the sign test of `is_included_in` succeeds -/
theorem pairTest_iff (nnc : Bool) (n : Nat) (c g : Row) (hg : g.genWF nnc n) :
    (∀ c' ∈ c.toCons nnc, rowAdmits c' (g.toGen nnc)) ↔ pairTest nnc c g = true := by
  have hg' := hg
  obtain ⟨_, hb0, he0, heqb, hbe, hcl⟩ := hg'
  unfold Row.toCons pairTest FPoly.rsp
  by_cases hce : c.eq = true
  · rw [if_pos hce]
    simp only [hce, if_true, eqRows, List.mem_cons, List.not_mem_nil, or_false, forall_eq_or_imp,
      forall_eq, rowAdmits_iff nnc n _ _ _ g hg, genPassesI, idot_map_neg, beq_iff_eq]
    by_cases hge : g.eq = true
    · simp only [hge, if_true]; constructor
      · intro h; exact h.1
      · intro h; exact ⟨h, by linarith⟩
    · simp only [hge, if_false, Bool.false_eq_true, if_false]
      split_ifs <;> constructor <;> intro h <;> first | exact ⟨by linarith, by linarith⟩ | (obtain ⟨h1, h2⟩ := h; linarith)
  · have hce' : c.eq = false := by simpa using hce
    simp only [hce', Bool.false_eq_true, if_false]
    by_cases hs : (nnc && decide (c.eps < 0)) = true
    · simp only [hs, if_true, List.mem_singleton, forall_eq, gtRow, rowAdmits_iff nnc n _ _ _ g hg, genPassesI]
      have hn : nnc = true := by simp only [Bool.and_eq_true] at hs; exact hs.1
      by_cases hge : g.eq = true
      · simp [hge]
      · simp only [hge, Bool.false_eq_true, if_false]
        by_cases hb : g.b = 0
        · simp [hb]
        · by_cases hz : g.eps = 0
          · simp [hb, hz, hn]
          · have hp : 0 < g.eps := by omega
            simp [hb, hz, hn, hp]
    · simp only [hs, Bool.false_eq_true, if_false, List.mem_singleton, forall_eq, geRow,
        rowAdmits_iff nnc n _ _ _ g hg, genPassesI]
      by_cases hge : g.eq = true
      · simp [hge]
      · simp only [hge, Bool.false_eq_true, if_false]
        split_ifs <;> simp

/-- **the two loops of `is_included_in` decide inclusion**: the generators `gs` (well formed, with a
    point) pass every sign test against the constraint rows `cs` iff the generated set is included in
    the constraint set -/
theorem includedLoops_iff (nnc : Bool) (n : Nat) (gs cs : List Row)
    (hgs : ∀ r ∈ gs, r.genWF nnc n) (hpt : ∃ r ∈ gs, r.isPoint nnc)
    (hcs : ∀ r ∈ cs, r.cf.length = n) :
    FPoly.includedLoops nnc gs cs = true ↔ genSem nnc n gs ⊆ conSem nnc cs := by
  have hpt' : ∃ g ∈ gensOf nnc gs, g.isPt = true := (gensOf_pt nnc n gs hgs).mpr hpt
  unfold genSem conSem
  rw [subset_sem_iff, includedLoops_eq]
  simp only [List.all_eq_true]
  constructor
  · intro h c' hc'
    obtain ⟨c, hc, hcc⟩ := List.mem_flatMap.mp hc'
    have hlen : c'.coeffs.length ≤ n := by rw [toCons_len nnc c c' hcc, hcs c hc]
    rw [genSem_subset_row_iff n _ hpt' c' hlen]
    intro g' hg'
    obtain ⟨g, hg, rfl⟩ := List.mem_map.mp hg'
    exact (pairTest_iff nnc n c g (hgs g hg)).mpr (h c hc g hg) c' hcc
  · intro h c hc g hg
    rw [← pairTest_iff nnc n c g (hgs g hg)]
    intro c' hcc
    have hc' : c' ∈ consOf nnc cs := List.mem_flatMap.mpr ⟨c, hc, hcc⟩
    have hlen : c'.coeffs.length ≤ n := by rw [toCons_len nnc c c' hcc, hcs c hc]
    exact (genSem_subset_row_iff n _ hpt' c' hlen).mp (h c' hc') _ (List.mem_map.mpr ⟨g, hg, rfl⟩)

end PPLV.PolyFull

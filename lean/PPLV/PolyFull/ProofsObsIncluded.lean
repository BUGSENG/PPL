import PPLV.PolyFull.ProofsObsLoops
import PPLV.PolyFull.ProofsOps1
import PPLV.PolyFull.ProofsGlue1

/-!
# the binary observers: `is_included_in` answers inclusion

`isIncludedIn_facts`: on two non-empty-marked objects of the same topology and positive dimension,
`x.is_included_in(y)` (Polyhedron_nonpublic.cc:425) leaves both objects denoting the same sets and
answers `true` exactly when `S ⊆ T`.
-/
namespace PPLV.PolyFull
open PPLV.Lin PPLV.PolyOps

theorem prepPC_facts (G : GlueFacts) (x : FPoly) (S : Set Val) (hx : x.Inv S)
    (hex : x.p.st.empty = false) :
    x.SameShape (prepPC x).2 ∧ (prepPC x).2.Inv S ∧ ((prepPC x).1 = false → S = ∅) ∧
    ((prepPC x).1 = true → (prepPC x).2.p.st.empty = false ∧ (prepPC x).2.p.st.cPend = false) := by
  unfold prepPC
  by_cases h : x.st.cPend = true
  · rw [if_pos h]
    obtain ⟨h1, h2, h3, h4⟩ := G.ppc x S hx hex h
    exact ⟨h1, h2, fun hb => (h3 hb).1, fun hb => ⟨(h4 hb).1, (h4 hb).2.2.2.2.2.1⟩⟩
  · rw [if_neg h]
    have h' : x.p.st.cPend = false := by simpa [FPoly.st] using h
    exact ⟨FPoly.SameShape.refl x, hx, fun hb => (by cases hb), fun _ => ⟨hex, h'⟩⟩

theorem prepPG_facts (G : GlueFacts) (y : FPoly) (T : Set Val) (hy : y.Inv T)
    (hey : y.p.st.empty = false) :
    y.SameShape (prepPG y) ∧ (prepPG y).Inv T ∧ (prepPG y).p.st.empty = false ∧
      (prepPG y).p.st.gPend = false := by
  unfold prepPG
  by_cases h : y.st.gPend = true
  · rw [if_pos h]
    obtain ⟨h1, h2, h3⟩ := G.ppg y T hy hey h
    exact ⟨h1, h2, h3.1, h3.2.2.2.2.2.2⟩
  · rw [if_neg h]
    have h' : y.p.st.gPend = false := by simpa [FPoly.st] using h
    exact ⟨FPoly.SameShape.refl y, hy, hey, h'⟩

theorem prepUG_facts (G : GlueFacts) (x : FPoly) (S : Set Val) (hx : x.Inv S)
    (hex : x.p.st.empty = false) (hd : 0 < x.p.dim) (hcp : x.p.st.cPend = false) :
    x.SameShape (prepUG x).2 ∧ (prepUG x).2.Inv S ∧ ((prepUG x).1 = false → S = ∅) ∧
    ((prepUG x).1 = true → (prepUG x).2.p.st.empty = false ∧ (prepUG x).2.p.st.gUp = true ∧
      (prepUG x).2.p.st.cPend = false) := by
  unfold prepUG
  by_cases h : x.p.st.gUp = true
  · have : (!x.st.gUp) = false := by show (!x.p.st.gUp) = false; rw [h]; rfl
    rw [this]
    exact ⟨FPoly.SameShape.refl x, hx, fun hb => (by cases hb), fun _ => ⟨hex, h, hcp⟩⟩
  · have h' : x.p.st.gUp = false := by simpa using h
    have : (!x.st.gUp) = true := by show (!x.p.st.gUp) = true; rw [h']; rfl
    rw [this, if_pos rfl]
    have hcu : x.p.st.cUp = true := by
      rcases hx.wf.some_up hex hd with hc | hg
      · exact hc
      · rw [h'] at hg; cases hg
    have hgp : x.p.st.gPend = false := by
      cases hg : x.p.st.gPend
      · rfl
      · have := (hx.wf.pend_g hg).2; rw [h'] at this; cases this
    have hsp : x.p.st.somethingPending = false := by
      unfold Status.somethingPending; rw [hcp, hgp]; rfl
    obtain ⟨h1, h2, h3, h4⟩ := G.updG x S hx hex hd hcu hsp
    exact ⟨h1, h2, fun hb => (h3 hb).1,
      fun hb => ⟨(h4 hb).1, (h4 hb).2.2.1, (h4 hb).2.2.2.2.2.1⟩⟩

theorem prepUC_facts (G : GlueFacts) (y : FPoly) (T : Set Val) (hy : y.Inv T)
    (hey : y.p.st.empty = false) (hd : 0 < y.p.dim) (hgp : y.p.st.gPend = false) :
    y.SameShape (prepUC y) ∧ (prepUC y).Inv T ∧ (prepUC y).p.st.empty = false ∧
      (prepUC y).p.st.cUp = true ∧ (prepUC y).p.st.gPend = false := by
  unfold prepUC
  by_cases h : y.p.st.cUp = true
  · have : (!y.st.cUp) = false := by show (!y.p.st.cUp) = false; rw [h]; rfl
    rw [this]
    exact ⟨FPoly.SameShape.refl y, hy, hey, h, hgp⟩
  · have h' : y.p.st.cUp = false := by simpa using h
    have : (!y.st.cUp) = true := by show (!y.p.st.cUp) = true; rw [h']; rfl
    rw [this, if_pos rfl]
    have hgu : y.p.st.gUp = true := by
      rcases hy.wf.some_up hey hd with hc | hg
      · rw [h'] at hc; cases hc
      · exact hg
    have hcp : y.p.st.cPend = false := by
      cases hc : y.p.st.cPend
      · rfl
      · have := (hy.wf.pend_c hc).1; rw [h'] at this; cases this
    have hsp : y.p.st.somethingPending = false := by
      unfold Status.somethingPending; rw [hcp, hgp]; rfl
    obtain ⟨h1, h2, h3⟩ := G.updC y T hy hey hd hgu hsp
    exact ⟨h1, h2, h3.1, h3.2.1, h3.2.2.2.2.2.2⟩

/-! ## the answer -/

/-- **`x.is_included_in(y)` answers `S ⊆ T`** and leaves both objects denoting their sets -/
theorem isIncludedIn_facts (G : GlueFacts) (x y : FPoly) (S T : Set Val) (hx : x.Inv S) (hy : y.Inv T)
    (hdim : y.p.dim = x.p.dim) (hnnc : y.p.nnc = x.p.nnc)
    (hex : x.p.st.empty = false) (hey : y.p.st.empty = false) (hd : 0 < x.p.dim) :
    (x.isIncludedIn y).2.1.Inv S ∧ (x.isIncludedIn y).2.2.Inv T ∧
    x.SameShape (x.isIncludedIn y).2.1 ∧ y.SameShape (x.isIncludedIn y).2.2 ∧
    ((x.isIncludedIn y).1 = true ↔ S ⊆ T) := by
  obtain ⟨hs1, hi1, he1, hn1⟩ := prepPC_facts G x S hx hex
  rw [isIncludedIn_eq]
  cases hb1 : (prepPC x).1
  · -- `x` found empty while processing its pending constraints
    have hS := he1 hb1
    simp only [Bool.not_false, if_true]
    exact ⟨hi1, hy, hs1, FPoly.SameShape.refl y, by subst hS; simp⟩
  · obtain ⟨hne1, hcp1⟩ := hn1 hb1
    have hd1 : 0 < (prepPC x).2.p.dim := by rw [hs1.2]; exact hd
    obtain ⟨hs2, hi2, hne2, hgp2⟩ := prepPG_facts G y T hy hey
    obtain ⟨hs3, hi3, he3, hn3⟩ := prepUG_facts G _ S hi1 hne1 hd1 hcp1
    simp only [Bool.not_true, Bool.false_eq_true, if_false]
    cases hb3 : (prepUG (prepPC x).2).1
    · have hS := he3 hb3
      simp only [Bool.not_false, if_true]
      exact ⟨hi3, hi2, FPoly.SameShape.trans hs1 hs3, hs2, by subst hS; simp⟩
    · obtain ⟨hne3, hgu3, hcp3⟩ := hn3 hb3
      have hd2 : 0 < (prepPG y).p.dim := by rw [hs2.2, hdim]; exact hd
      obtain ⟨hs4, hi4, hne4, hcu4, hgp4⟩ := prepUC_facts G _ T hi2 hne2 hd2 hgp2
      simp only [Bool.not_true, Bool.false_eq_true, if_false]
      have hsx := FPoly.SameShape.trans hs1 hs3
      have hsy := FPoly.SameShape.trans hs2 hs4
      refine ⟨hi3, hi4, hsx, hsy, ?_⟩
      have hG := (hi3.den.2 hne3).2.1 hgu3 hcp3
      have hC := (hi4.den.2 hne4).1 hcu4 hgp4
      have hnn : (prepUC (prepPG y)).p.nnc = (prepUG (prepPC x).2).2.p.nnc := by
        rw [hsy.1, hsx.1, hnnc]
      have hdd : (prepUC (prepPG y)).p.dim = (prepUG (prepPC x).2).2.p.dim := by
        rw [hsy.2, hsx.2, hdim]
      rw [← hG, ← hC, hnn]
      exact includedLoops_iff _ _ _ _ (hi3.wf.gs_wf hne3 hgu3) (hi3.wf.gs_pt hne3 hgu3)
        (fun r hr => by rw [← hdd]; exact hi4.wf.cs_len hne4 hcu4 r hr)

end PPLV.PolyFull

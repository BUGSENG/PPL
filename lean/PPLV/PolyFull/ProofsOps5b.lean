import PPLV.PolyFull.ProofsOpsAffineImage

/-!
# `affine_image` refines `RefPoly.affineImage`: the theorems
-/
namespace PPLV.PolyFull
open PPLV.Lin PPLV.PolyOps

theorem affineImage_eq_of_trivial (x : FPoly) (v : Nat) (e : LinExpr) (den : Int)
    (hc : (x.st.empty || e.coeffs.getD v 0 != 0) = true) :
    x.affineImage v e den = x.liftO (x.p.affine_image v e den) := by
  unfold FPoly.affineImage
  simp only [hc, if_true]

/-- **`Polyhedron::affine_image(var, expr, den)`, the whole object.**  PARTIAL: in the invertible case
    (`expr[var] ≠ 0`) on a receiver not marked empty the rows of both descriptions are rewritten in
    place with the status word unchanged; the four fields `low`, `denNPc`, `denNPg`, `eng` of the
    invariant of the RESULT are assumed (`hLow`, `hNPc`, `hNPg`, `hEng`; each only under
    `expr[var] ≠ 0` and `x` not marked empty).  Everything else (`wf`, `den`, `legal`, `fpC`, `fpG`; and
    every field in the non-invertible and marked-empty cases) is proved. -/
theorem affineImage_refines_partial (G : GlueFacts) (x : FPoly) (ref : RefPoly) (v : Nat) (e : LinExpr)
    (den : Int) (hn : ref.n = x.p.dim) (hnnc : ref.nnc = x.p.nnc) (hwf : WF ref.n ref.cs)
    (hv : v < x.p.dim) (he : e.coeffs.length = x.p.dim) (hden : den ≠ 0) (hx : x.Inv (sem ref.cs))
    (hLow : e.coeffs.getD v 0 ≠ 0 → x.p.st.empty = false → (x.affineImage v e den).p.st.cUp = true →
      LowLevel (x.affineImage v e den).p.nnc (x.affineImage v e den).p.dim (x.affineImage v e den).p.cs.rows)
    (hNPc : e.coeffs.getD v 0 ≠ 0 → x.p.st.empty = false → (x.affineImage v e den).p.st.cPend = true →
      genSem (x.affineImage v e den).p.nnc (x.affineImage v e den).p.dim (x.affineImage v e den).p.gs.rows =
        conSem (x.affineImage v e den).p.nnc (x.affineImage v e den).npC)
    (hNPg : e.coeffs.getD v 0 ≠ 0 → x.p.st.empty = false → (x.affineImage v e den).p.st.gPend = true →
      conSem (x.affineImage v e den).p.nnc (x.affineImage v e den).p.cs.rows =
        genSem (x.affineImage v e den).p.nnc (x.affineImage v e den).p.dim (x.affineImage v e den).npG)
    (hEng : e.coeffs.getD v 0 ≠ 0 → x.p.st.empty = false → (x.affineImage v e den).p.st.canPend = true →
      EnginePair (x.affineImage v e den).p.nnc (x.affineImage v e den).p.dim (x.affineImage v e den).npC
        (x.affineImage v e den).npG (x.affineImage v e den).p.st.satC (x.affineImage v e den).p.st.satG
        (x.affineImage v e den).satC (x.affineImage v e den).satG) :
    (x.affineImage v e den).Inv (sem (ref.affineImage v e den).cs) ∧ x.SameShape (x.affineImage v e den) := by
  by_cases hc1 : (x.st.empty || e.coeffs.getD v 0 != 0) = true
  · have hR := affineImage_eq_of_trivial x v e den hc1
    rw [hR] at hLow hNPc hNPg hEng ⊢
    cases hex : x.p.st.empty
    · -- invertible
      have hc : e.coeffs.getD v 0 ≠ 0 := by
        have hex' : x.st.empty = false := hex
        rw [hex', Bool.false_or] at hc1
        exact bne_iff_ne.mp hc1
      obtain ⟨q, hq⟩ : ∃ q, x.p.affine_image v e den = some q := by
        unfold Poly.affine_image
        rw [if_neg (by simp [hex]), if_pos (bne_iff_ne.mpr hc)]
        exact ⟨_, rfl⟩
      obtain ⟨hst, hqn, hqd, hgs, hcs⟩ := affine_image_inv_shape x.p q v e den hex hc hq
      have hqe : q.st.empty = false := by rw [hst]; exact hex
      have hlift : x.liftO (some q) = { x with p := q } := lift_of_nonempty x q hqe
      rw [hq] at hLow hNPc hNPg hEng ⊢
      rw [hlift] at hLow hNPc hNPg hEng ⊢
      refine ⟨⟨affine_image_rows_wf x.p q v e den hx.wf hv he hden hq,
        affine_image_rows_correct x.p q v e den ref hn hnnc hwf hx.wf hv he hden hx.den hq, ?_, ?_, ?_,
        fun _ => hLow hc hex, fun _ => hNPc hc hex, fun _ => hNPg hc hex, fun _ => hEng hc hex⟩, hqn, hqd⟩
      · show statusLegalB q.st q.dim = true
        rw [hst, hqd]; exact hx.legal
      · intro _ hcu
        have hcu' : x.p.st.cUp = true := by rw [← hst]; exact hcu
        show q.cs.firstPending ≤ q.cs.rows.length ∧ (q.st.cPend = false → q.cs.firstPending = q.cs.rows.length)
        rw [hcs, if_pos hcu', (csAffinePreimage_fp _ _ _ _).1, (csAffinePreimage_fp _ _ _ _).2, hst]
        exact hx.fpC hex hcu'
      · intro _ hgu
        have hgu' : x.p.st.gUp = true := by rw [← hst]; exact hgu
        show q.gs.firstPending ≤ q.gs.rows.length ∧ (q.st.gPend = false → q.gs.firstPending = q.gs.rows.length)
        rw [hgs, if_pos hgu', (gsSigned_fp_inv _ _ _ _ hc).1, (gsSigned_fp_inv _ _ _ _ hc).2, hst]
        exact hx.fpG hex hgu'
    · have hq : x.p.affine_image v e den = some x.p := by
        unfold Poly.affine_image; rw [if_pos hex]
      rw [hq]
      have hd := affine_image_rows_correct x.p x.p v e den ref hn hnnc hwf hx.wf hv he hden hx.den hq
      exact Inv_lift_same x _ _ hx hd
  · -- not marked empty, not invertible
    simp only [Bool.or_eq_true, not_or, Bool.not_eq_true] at hc1
    obtain ⟨hex, hc0⟩ := hc1
    have hc : e.coeffs.getD v 0 = 0 := by
      by_contra h
      rw [bne_iff_ne.mpr h] at hc0; cases hc0
    have hdpos : 0 < x.p.dim := Nat.lt_of_le_of_lt (Nat.zero_le _) hv
    obtain ⟨hs1, hi1, hcase⟩ := prepGensMin_facts G x _ hx hex hdpos
    have hcond : (x.st.empty || e.coeffs.getD v 0 != 0) = false := by rw [hex, hc0]; rfl
    unfold FPoly.affineImage
    simp only [hcond, Bool.false_eq_true, if_false]
    generalize hx1 : (x.prepGensDropPending fun y => y.minimize.2) = x1 at hs1 hi1 hcase ⊢
    have hn1 : ref.n = x1.p.dim := by rw [hs1.2]; exact hn
    have hnnc1 : ref.nnc = x1.p.nnc := by rw [hs1.1]; exact hnnc
    have hv1 : v < x1.p.dim := by rw [hs1.2]; exact hv
    have he1 : e.coeffs.length = x1.p.dim := by rw [hs1.2]; exact he
    rcases hcase with hem1 | hne1
    · have hem1' : x1.st.empty = true := hem1
      have hq : x1.p.affine_image v e den = some x1.p := by
        unfold Poly.affine_image; rw [if_pos hem1]
      have hd := affine_image_rows_correct x1.p x1.p v e den ref hn1 hnnc1 hwf hi1.wf hv1 he1 hden hi1.den hq
      simp only [hem1', Bool.true_or, if_true]
      rw [hq]
      obtain ⟨h1, h2⟩ := Inv_lift_same x1 _ _ hi1 hd
      exact ⟨h1, h2.1.trans hs1.1, h2.2.trans hs1.2⟩
    · have hem1' : x1.st.empty = false := hne1.1
      simp only [hem1', hc0, Bool.or_false, Bool.false_eq_true, if_false]
      generalize (if den > 0 then (e, den) else (exprNeg e, -den)) = pr
      obtain ⟨e', d'⟩ := pr
      simp only []
      obtain ⟨h1, h2, h3⟩ := affineImage_noninv_main x1 _ (sem (ref.affineImage v e den).cs) v e den
        ((swapRemove (fun (r : Row) => r.b == 0 && r.allHomZero)
          ((x1.p.gs.rows.map (genRowAffineImage v e' d')).length + 1)
          (x1.p.gs.rows.map (genRowAffineImage v e' d')) 0).map Row.strongNormalize)
        hi1 (by rw [hs1.2]; exact hdpos) hc hne1
        (fun q h => affine_image_rows_wf x1.p q v e den hi1.wf hv1 he1 hden h)
        (fun q h => affine_image_rows_correct x1.p q v e den ref hn1 hnnc1 hwf hi1.wf hv1 he1 hden hi1.den h)
      exact ⟨h1, h2.trans hs1.1, h3.trans hs1.2⟩

/-- non-invertible `affine_image`: fully proved -/
theorem affineImage_refines_noninv (G : GlueFacts) (x : FPoly) (ref : RefPoly) (v : Nat) (e : LinExpr)
    (den : Int) (hn : ref.n = x.p.dim) (hnnc : ref.nnc = x.p.nnc) (hwf : WF ref.n ref.cs)
    (hv : v < x.p.dim) (he : e.coeffs.length = x.p.dim) (hden : den ≠ 0) (hx : x.Inv (sem ref.cs))
    (hc : e.coeffs.getD v 0 = 0) :
    (x.affineImage v e den).Inv (sem (ref.affineImage v e den).cs) ∧ x.SameShape (x.affineImage v e den) :=
  affineImage_refines_partial G x ref v e den hn hnnc hwf hv he hden hx
    (fun h => absurd hc h) (fun h => absurd hc h) (fun h => absurd hc h) (fun h => absurd hc h)

/-- `affine_image` of a receiver marked empty: fully proved -/
theorem affineImage_refines_empty (G : GlueFacts) (x : FPoly) (ref : RefPoly) (v : Nat) (e : LinExpr)
    (den : Int) (hn : ref.n = x.p.dim) (hnnc : ref.nnc = x.p.nnc) (hwf : WF ref.n ref.cs)
    (hv : v < x.p.dim) (he : e.coeffs.length = x.p.dim) (hden : den ≠ 0) (hx : x.Inv (sem ref.cs))
    (hem : x.p.st.empty = true) :
    (x.affineImage v e den).Inv (sem (ref.affineImage v e den).cs) ∧ x.SameShape (x.affineImage v e den) :=
  affineImage_refines_partial G x ref v e den hn hnnc hwf hv he hden hx
    (fun _ h => by rw [hem] at h; cases h) (fun _ h => by rw [hem] at h; cases h)
    (fun _ h => by rw [hem] at h; cases h) (fun _ h => by rw [hem] at h; cases h)

end PPLV.PolyFull

import PPLV.PolyFull.ProofsOpsMeet

/-!
# `poly_hull_assign` refines `hullGens`
-/
namespace PPLV.PolyFull
open PPLV.Lin PPLV.PolyOps

theorem poly_hull_y_empty (x y : Poly) (h : y.st.empty = true) : x.poly_hull_assign y = some x := by
  simp [Poly.poly_hull_assign, h]

theorem poly_hull_x_empty (x y : Poly) (hy : y.st.empty = false) (h : x.st.empty = true) :
    x.poly_hull_assign y = some y := by
  simp [Poly.poly_hull_assign, h, hy]

theorem poly_hull_dim0 (x y : Poly) (hy : y.st.empty = false) (hx : x.st.empty = false) (hd : x.dim = 0) :
    x.poly_hull_assign y = some x := by
  simp [Poly.poly_hull_assign, hx, hy, hd]

theorem poly_hull_pend (x y : Poly) (hex : x.st.empty = false) (hey : y.st.empty = false)
    (hd : x.dim ≠ 0) (hgx : x.st.gUp = true) (hcx : x.st.cPend = false) (hgy : y.st.gUp = true)
    (hcy : y.st.cPend = false) (hcp : x.st.canPend = true) :
    x.poly_hull_assign y =
      some { x with gs := x.gs.insertPendingSys y.gs.rows, st := { x.st with gPend := true } } := by
  simp [Poly.poly_hull_assign, Poly.obtainGeneratorsPendingNoConv, hex, hey, hd, hcx, hgx, hcy, hgy, hcp]

theorem poly_hull_nonpend (x y : Poly) (hex : x.st.empty = false) (hey : y.st.empty = false)
    (hd : x.dim ≠ 0) (hgx : x.st.gUp = true) (hcx : x.st.cPend = false) (hgy : y.st.gUp = true)
    (hcy : y.st.cPend = false) (hcp : x.st.canPend = false) :
    x.poly_hull_assign y =
      some { x with gs := (if (x.gs.sorted && y.gs.sorted && !y.st.gPend) = true then x.gs.mergeRowsAssign y.gs.rows
                            else x.gs.insertSys y.gs.rows),
                    st := ({ x.st with gMin := false }).clearCUp } := by
  simp [Poly.poly_hull_assign, Poly.obtainGeneratorsPendingNoConv, hex, hey, hd, hcx, hgx, hcy, hgy, hcp]

/-- the main branch of `poly_hull_assign` on prepared operands -/
theorem poly_hull_main (x y : FPoly) (S Sy S' : Set Val) (hx : x.Inv S) (hy : y.Inv Sy)
    (hdim : y.p.dim = x.p.dim) (hnnc : y.p.nnc = x.p.nnc)
    (hex : x.p.st.empty = false) (hey : y.p.st.empty = false) (hd : x.p.dim ≠ 0)
    (hgx : x.p.st.gUp = true) (hcx : x.p.st.cPend = false) (hgy : y.p.st.gUp = true)
    (hcy : y.p.st.cPend = false)
    (hden : ∀ q, x.p.poly_hull_assign y.p = some q → q.Denotes S') :
    ({ x.liftO (x.p.poly_hull_assign y.p) with
        p := { (x.liftO (x.p.poly_hull_assign y.p)).p with
          gs := (x.liftO (x.p.poly_hull_assign y.p)).p.gs.refineBy
            (if x.st.canPend then x.p.gs.insertPendingSys y.p.gs.rows
             else if x.p.gs.sorted && y.p.gs.sorted && !y.st.gPend then x.p.gs.mergeRowsExact true x.nnc y.p.gs.rows
             else x.p.gs.insertSysExact true x.nnc y.p.gs) } } : FPoly).Inv S' ∧
    (x.liftO (x.p.poly_hull_assign y.p)).p.nnc = x.p.nnc ∧
    (x.liftO (x.p.poly_hull_assign y.p)).p.dim = x.p.dim := by
  have hwfq : ∀ q, x.p.poly_hull_assign y.p = some q → q.WF := fun q h =>
    poly_hull_assign_rows_wf x.p y.p q hdim hnnc hx.wf hy.wf
      (fun h => (legal_canPend_up hx.legal h).1) (legal_gPend hx.legal) h
  cases hcp : x.p.st.canPend
  · have hq := poly_hull_nonpend x.p y.p hex hey hd hgx hcx hgy hcy hcp
    rw [hq]
    have hI := Inv_nonpendG x S S' _ hx hex hgx hcp
      (by split; exact mergeRowsAssign_fp _ _; exact insertSys_fp _ _)
      (hwfq _ hq) (hden _ hq)
    refine ⟨Inv_liftO_refineG x _ S' _ (by simp [Status.clearCUp, hex]) hI ?_ ?_, ?_, ?_⟩
    · intro _ _
      unfold FPoly.st
      rw [hcp]
      simp only [Bool.false_eq_true, if_false]
      split
      · exact ⟨le_of_eq rfl, fun _ => rfl⟩
      · unfold Sys.insertSysExact
        split
        · have := hx.fpG hex hgx
          exact ⟨this.1, fun _ => this.2 (legal_not_canPend hx.legal hcp).2⟩
        · refine ⟨le_of_eq ?_, fun _ => ?_⟩ <;> simp [List.length_append]
    · intro _ h
      simp [Status.canPend, Status.clearCUp] at h
    · show (x.lift _).p.nnc = _
      rw [lift_p]
    · show (x.lift _).p.dim = _
      rw [lift_p]
  · have hq := poly_hull_pend x.p y.p hex hey hd hgx hcx hgy hcy hcp
    rw [hq]
    have hI := Inv_pendG x S S' y.p.gs.rows hx hex hgx hcx hcp (hwfq _ hq) (hden _ hq)
    refine ⟨Inv_liftO_refineG x _ S' _ hex hI ?_ ?_, ?_, ?_⟩
    · intro h1 h2
      unfold FPoly.st
      rw [hcp]
      simp only [if_true]
      exact hI.fpG h1 h2
    · intro _ _
      unfold FPoly.st
      rw [hcp]
      simp only [if_true]
    · show (x.lift _).p.nnc = _
      rw [lift_p]
    · show (x.lift _).p.dim = _
      rw [lift_p]

/-- **`Polyhedron::poly_hull_assign(y)`, the whole object** (preparation by `needGens` on both
    operands, the row-level operator, the exact row order): the receiver denotes the hull of the two
    generator lists, the argument (lazily updated) still denotes its set, both keep the invariant
    and their shape. -/
theorem polyHullAssign_refines (G : GlueFacts) (x y : FPoly) (n : Nat) (gx gy : List Gen)
    (hxn : x.p.dim = n) (hyn : y.p.dim = n) (hnnc : y.p.nnc = x.p.nnc)
    (hwx : gensWF n gx = true) (hwy : gensWF n gy = true)
    (hpx : gx = [] ∨ ∃ g ∈ gx, g.isPt = true) (hpy : gy = [] ∨ ∃ g ∈ gy, g.isPt = true)
    (hx : x.Inv (GenSem n gx)) (hy : y.Inv (GenSem n gy)) :
    (x.polyHullAssign y).1.Inv (GenSem n (hullGens [gx, gy])) ∧ (x.polyHullAssign y).2.Inv (GenSem n gy) ∧
    x.SameShape (x.polyHullAssign y).1 ∧ y.SameShape (x.polyHullAssign y).2 := by
  have hyx : x.SameShape y := ⟨hnnc, hyn.trans hxn.symm⟩
  have key : ∀ (x' y' : FPoly), x'.p.dim = n → y'.p.dim = n → y'.p.nnc = x'.p.nnc →
      x'.Inv (GenSem n gx) → y'.Inv (GenSem n gy) → ∀ q, x'.p.poly_hull_assign y'.p = some q →
      q.Denotes (GenSem n (hullGens [gx, gy])) := fun x' y' h1 h2 h3 h4 h5 q h =>
    poly_hull_assign_rows_correct x'.p y'.p q n gx gy h1 h2 h3 h4.wf h5.wf hwx hwy hpx hpy h4.den h5.den h
  unfold FPoly.polyHullAssign
  by_cases hey : y.st.empty = true
  · rw [if_pos hey]
    exact ⟨hx.change (key x y hxn hyn hnnc hx hy _ (poly_hull_y_empty x.p y.p hey)), hy, ⟨rfl, rfl⟩, rfl, rfl⟩
  rw [if_neg hey]
  have hey' : y.p.st.empty = false := by simpa [FPoly.st] using hey
  by_cases hex : x.st.empty = true
  · rw [if_pos hex]
    exact ⟨hy.change (key x y hxn hyn hnnc hx hy _ (poly_hull_x_empty x.p y.p hey' hex)), hy, hyx, rfl, rfl⟩
  rw [if_neg hex]
  have hex' : x.p.st.empty = false := by simpa [FPoly.st] using hex
  by_cases hd0 : (x.dim == 0) = true
  · rw [if_pos hd0]
    have hd : x.p.dim = 0 := by simpa [FPoly.dim] using hd0
    exact ⟨hx.change (key x y hxn hyn hnnc hx hy _ (poly_hull_dim0 x.p y.p hey' hex' hd)), hy, ⟨rfl, rfl⟩, rfl, rfl⟩
  rw [if_neg hd0]
  have hd : x.p.dim ≠ 0 := by simpa [FPoly.dim] using hd0
  have hdp : 0 < x.p.dim := Nat.pos_of_ne_zero hd
  obtain ⟨hsx, hix, hx1, hx0⟩ := G.needGens x _ hx hex' hdp
  have hxn1 : x.needGens.2.p.dim = n := hsx.2.trans hxn
  have hnnc1 : y.p.nnc = x.needGens.2.p.nnc := hnnc.trans hsx.1.symm
  cases hbx : x.needGens.1
  · obtain ⟨hex1, hgx1, hcx1⟩ := hx0 hbx
    obtain ⟨hsy, hiy, hy1, hy0⟩ := G.needGens y _ hy hey' (by rw [hyn, ← hxn]; exact hdp)
    have hyn1 : y.needGens.2.p.dim = n := hsy.2.trans hyn
    have hnnc2 : y.needGens.2.p.nnc = x.needGens.2.p.nnc := hsy.1.trans hnnc1
    cases hby : y.needGens.1
    · obtain ⟨hey1, hgy1, hcy1⟩ := hy0 hby
      simp only [hbx, hby, Bool.false_eq_true, if_false]
      obtain ⟨a, b, c⟩ := poly_hull_main x.needGens.2 y.needGens.2 _ _ (GenSem n (hullGens [gx, gy])) hix hiy
        (hyn1.trans hxn1.symm) hnnc2 hex1 hey1 (by rw [hxn1, ← hxn]; exact hd) hgx1 hcx1 hgy1 hcy1
        (key _ _ hxn1 hyn1 hnnc2 hix hiy)
      exact ⟨a, hiy, ⟨b.trans hsx.1, c.trans hsx.2⟩, hsy⟩
    · obtain ⟨_, hey1⟩ := hy1 hby
      simp only [hbx, hby, Bool.false_eq_true, if_false, if_true]
      exact ⟨hix.change (key _ _ hxn1 hyn1 hnnc2 hix hiy _ (poly_hull_y_empty _ _ hey1)), hiy, hsx, hsy⟩
  · obtain ⟨_, hex1⟩ := hx1 hbx
    simp only [hbx, if_true]
    exact ⟨hy.change (key _ _ hxn1 hyn hnnc1 hix hy _ (poly_hull_x_empty _ _ hey' hex1)), hy, hyx, rfl, rfl⟩

end PPLV.PolyFull

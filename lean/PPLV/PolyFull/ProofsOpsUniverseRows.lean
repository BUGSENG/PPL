import PPLV.PolyFull.ProofsOpsZeroCols
import PPLV.PolyOps.ProofsDims2

/-!
# operators that rewrite the non-pending rows

`add_space_dimensions_and_embed/_project` and `concatenate_assign` REWRITE the non-pending rows of a
pair that can have pending rows (zero columns, new lines in front, new empty saturation rows): the
clause `eng` of `FPoly.Inv` for the result is not derivable from `GlueFacts` (nothing is known there of
`update_sat_c` / `update_sat_g`) and is taken as a hypothesis by the `…_refines_partial` theorems;
every other clause (`FPoly.InvNoEng`) is proved.  Here: the row counts of `addUniverseRows`.
-/
namespace PPLV.PolyFull
open PPLV.Lin PPLV.PolyOps
open PPLV.Conv (holdsAll holds)

theorem take_append_len {α : Type} (N L : List α) (k m : Nat) (h : N.length = m) :
    (N ++ L).take (k + m) = N ++ L.take k := by
  subst h
  rw [Nat.add_comm, List.take_length_add_append]

theorem ite_rows_length {α : Type} (c : Bool) (a : α) (f g : Nat → α) (m : Nat) (hm : 0 < m) :
    (if c = true then a :: (List.range (m - 1)).map f else (List.range m).map g).length = m := by
  cases c
  · simp
  · simp; omega

/-- `addUniverseRowsExact`: `m` new rows in front, all of them non-pending -/
theorem addUniverseRowsExact_fp (gen nnc : Bool) (n m : Nat) (s : Sys) (hm : 0 < m) :
    (FPoly.addUniverseRowsExact gen nnc n m s).firstPending = s.firstPending + m ∧
    (FPoly.addUniverseRowsExact gen nnc n m s).rows.length = s.rows.length + m := by
  unfold FPoly.addUniverseRowsExact
  refine ⟨rfl, ?_⟩
  show List.length (_ ++ _) = _
  rw [List.length_append, List.length_map, ite_rows_length _ _ _ _ _ hm]; omega

theorem addUniverseRows_fp (nnc : Bool) (n m : Nat) (s : Sys) (hm : 0 < m) :
    (s.addUniverseRows nnc n m).firstPending = s.firstPending + m ∧
    (s.addUniverseRows nnc n m).rows.length = s.rows.length + m := by
  unfold Sys.addUniverseRows
  refine ⟨rfl, ?_⟩
  show List.length (_ ++ _) = _
  rw [List.length_append, List.length_map, ite_rows_length _ _ _ _ _ hm]; omega

/-- the non-pending part of `addUniverseRows` is `addUniverseRows` of the non-pending part -/
theorem addUniverseRows_take (nnc : Bool) (n m : Nat) (s : Sys) (hm : 0 < m) :
    (s.addUniverseRows nnc n m).rows.take (s.addUniverseRows nnc n m).firstPending =
      (({ s with rows := s.rows.take s.firstPending } : Sys).addUniverseRows nnc n m).rows := by
  unfold Sys.addUniverseRows
  simp only
  rw [take_append_len _ _ _ _ (ite_rows_length _ _ _ _ _ hm), List.map_take]

end PPLV.PolyFull

import PPLV.PolyFull.ProofsOps11g

/-!
# two-sided minimality of the generators (`MinG2`) is kept by the invertible affine map

`generated_pullback`: a combination of rewritten rows giving `W'` with `A W = a · W'`, `a > 0`, pulls back to a
combination of the old rows giving `W`.  `minG2_affine`: "no generator is generated by the others, and for
a line neither is its negation" is invariant (unlike `EnginePair.minG` alone, which `strong_normalize`'s
negation of a line breaks).
-/
namespace PPLV.PolyFull
open PPLV.Lin PPLV.PolyOps
open PPLV.Conv (scalarProduct holds holdsAll Vec Sound SatCorrect Generated colVec sp_colVec)

/-- pull a combination of rewritten rows back: if `A W = a · W'` with `a > 0` and `W'` is generated by the
    rewritten `rows`, then `W` is generated by `rows` -/
theorem generated_pullback {nnc n v Eg dg Ec dc} (D : AffData nnc n v Eg dg Ec dc) (rows : List Row)
    (hrl : ∀ g ∈ rows, g.cf.length = n) (W W' : Vec) (hW : W.length ≤ numCols nnc n) (a : Int) (ha : 0 < a)
    (hWW : ∀ c : Vec, a * scalarProduct c W' = scalarProduct c (subVec (numCols nnc n) v Eg dg W))
    (hgen : Generated ((rows.map (Fg v Eg dg)).map (toL nnc)) W') :
    Generated (rows.map (toL nnc)) W := by
  obtain ⟨den, coef, hden, hlen, hnn, hid⟩ := hgen
  have hex : ∀ g : Row, ∃ s : Int, g ∈ rows → (s ≠ 0 ∧ (g.eq = false → 0 < s) ∧
      ∀ a : Vec, scalarProduct a (subVec (numCols nnc n) v Eg dg (Lv nnc g)) =
        s * scalarProduct a (Lv nnc (Fg v Eg dg g))) := by
    intro g
    by_cases hg : g ∈ rows
    · obtain ⟨s, h1, h2, _, _, h3⟩ := genRow_factor nnc n v Eg dg g (hrl g hg) D.hEg D.hv
      exact ⟨s, fun _ => ⟨h1, h2, h3⟩⟩
    · exact ⟨0, fun h => absurd h hg⟩
  choose σ hσ using hex
  have hvN := D.hvN
  have hκ : 0 < dc * dg := mul_pos D.hdc D.hdg
  obtain ⟨P, hP⟩ : ∃ P, P = (rows.map fun r => σ r * σ r).prod := ⟨_, rfl⟩
  have hPpos : 0 < P := by rw [hP]; exact prod_sq_pos rows σ (fun r hr => (hσ r hr).1)
  have hq : ∀ r ∈ rows, (P / σ r) * σ r = P := fun r hr =>
    Int.ediv_mul_cancel (by rw [hP]; exact dvd_prod_sq rows σ r hr)
  have hm1 : ((rows.map (Fg v Eg dg)).map (toL nnc)).length = rows.length := by simp
  have hm2 : (rows.map (toL nnc)).length = rows.length := by simp
  rw [hm1] at hid
  have hA : ∀ c : Vec, den * P * scalarProduct c (subVec (numCols nnc n) v Eg dg W) =
      ((List.range rows.length).map fun i =>
        (coef.getD i 0 * a * (P / σ (rows.getD i default))) *
          scalarProduct c (subVec (numCols nnc n) v Eg dg (Lv nnc (rows.getD i default)))).sum := by
    intro c
    rw [← hWW c]
    have := hid c
    calc den * P * (a * scalarProduct c W')
        = (P * a) * (den * scalarProduct c W') := by ring
      _ = _ := by
          rw [this, sum_mul_left]
          apply sum_map_congr
          intro i hi
          have hi' : i < rows.length := List.mem_range.mp hi
          have hri := getD_mem rows i hi'
          rw [getD_map_map nnc rows _ i hi', toL_v, (hσ _ hri).2.2 c]
          have e := hq _ hri
          linear_combination (-(coef.getD i 0 * a *
            scalarProduct c (Lv nnc (Fg v Eg dg (rows.getD i default))))) * e
  have hB := push_subVec (numCols nnc n) v Ec dc hvN
    (subVec (numCols nnc n) v Eg dg W)
    (fun i => subVec (numCols nnc n) v Eg dg (Lv nnc (rows.getD i default))) rows.length (den * P)
    (fun i => coef.getD i 0 * a * (P / σ (rows.getD i default)))
    (by rw [subVec_length]) (fun i _ => by rw [subVec_length]) hA
  refine ⟨den * P * (dc * dg),
    (List.range rows.length).map (fun i =>
      coef.getD i 0 * a * (P / σ (rows.getD i default)) * (dc * dg)),
    mul_pos (mul_pos hden hPpos) hκ, by simp, ?_, ?_⟩
  · intro i hi hle
    have hi' : i < rows.length := by rw [← hm2]; exact hi
    have hri := getD_mem rows i hi'
    have e2 : (rows.map (toL nnc))[i] = toL nnc (rows.getD i default) := by
      rw [← getD_map_toL nnc rows i hi', List.getD_eq_getElem?_getD, List.getElem?_eq_getElem hi]; rfl
    rw [e2, toL_le] at hle
    have e1 : ((rows.map (Fg v Eg dg)).map (toL nnc))[i]'(by rw [hm1]; exact hi') =
        toL nnc (Fg v Eg dg (rows.getD i default)) := by
      rw [← getD_map_map nnc rows _ i hi', List.getD_eq_getElem?_getD,
        List.getElem?_eq_getElem (by rw [hm1]; exact hi')]; rfl
    have hc0 := hnn i (by rw [hm1]; exact hi') (by rw [e1, toL_le, (Fg_eq D _ (hrl _ hri)).1]; exact hle)
    have hsi : 0 < σ (rows.getD i default) := (hσ _ hri).2.1 hle
    have hqi : 0 < P / σ (rows.getD i default) := by
      have e := hq _ hri
      by_contra hneg'
      have hneg := not_lt.mp hneg'
      have : P / σ (rows.getD i default) * σ (rows.getD i default) ≤ 0 :=
        mul_nonpos_of_nonpos_of_nonneg hneg (le_of_lt hsi)
      omega
    have hget : (List.map (fun i => coef.getD i 0 * a * (P / σ (rows.getD i default)) *
        (dc * dg)) (List.range rows.length)).getD i 0 =
        coef.getD i 0 * a * (P / σ (rows.getD i default)) * (dc * dg) := by
      simp [List.getD_eq_getElem?_getD, hi']
    rw [hget]
    exact mul_nonneg (mul_nonneg (mul_nonneg hc0 (le_of_lt ha)) (le_of_lt hqi)) (le_of_lt hκ)
  · intro c
    rw [hm2]
    have h1 := hB c
    rw [subVec_comp (numCols nnc n) v Ec dc Eg dg hvN D.hBA c _ hW] at h1
    calc den * P * (dc * dg) * scalarProduct c W
        = den * P * (dc * dg * scalarProduct c W) := by ring
      _ = _ := by
          rw [h1]
          apply sum_map_congr
          intro i hi
          have hi' : i < rows.length := List.mem_range.mp hi
          have hri := getD_mem rows i hi'
          have hLi : (Lv nnc (rows.getD i default)).length ≤ numCols nnc n := by
            rw [Lv_length nnc n _ (hrl _ hri)]
          have hget : (List.map (fun i => coef.getD i 0 * a *
              (P / σ (rows.getD i default)) * (dc * dg)) (List.range rows.length)).getD i 0 =
              coef.getD i 0 * a * (P / σ (rows.getD i default)) * (dc * dg) := by
            simp [List.getD_eq_getElem?_getD, hi']
          rw [hget, getD_map_toL nnc rows i hi', toL_v,
            subVec_comp (numCols nnc n) v Ec dc Eg dg hvN D.hBA c _ hLi]
          ring

/-- two-sided minimality of the generators: no row is generated by the others, and for a line neither is
    its negation -/
def MinG2 (nnc : Bool) (gs : List Row) : Prop :=
  ∀ j, j < gs.length →
    ¬ Generated ((gs.eraseIdx j).map (toL nnc)) (toL nnc (gs.getD j default)).v ∧
    ((gs.getD j default).eq = true →
      ¬ Generated ((gs.eraseIdx j).map (toL nnc)) ((toL nnc (gs.getD j default)).v.map (-1 * ·)))

/-- **two-sided minimality is kept by the invertible affine map** -/
theorem minG2_affine {nnc n v Eg dg Ec dc} (D : AffData nnc n v Eg dg Ec dc) (gs : List Row)
    (hgs : ∀ g ∈ gs, g.cf.length = n) (h : MinG2 nnc gs) : MinG2 nnc (gs.map (Fg v Eg dg)) := by
  intro j hj
  have hj' : j < gs.length := by simpa using hj
  have hgj := getD_mem gs j hj'
  have hFj : (gs.map (Fg v Eg dg)).getD j default = Fg v Eg dg (gs.getD j default) := by
    simp [List.getD_eq_getElem?_getD, hj']
  rw [hFj, eraseIdx_map']
  have hrl : ∀ g ∈ gs.eraseIdx j, g.cf.length = n := fun g hg => hgs g (List.mem_of_mem_eraseIdx hg)
  obtain ⟨s, hs0, hspos, hseq, _, hsf⟩ := genRow_factor nnc n v Eg dg _ (hgs _ hgj) D.hEg D.hv
  have hLj : (Lv nnc (gs.getD j default)).length ≤ numCols nnc n := by rw [Lv_length nnc n _ (hgs _ hgj)]
  have hvN := D.hvN
  -- for either sign `τ` of the target and either sign of `s`
  have key : ∀ τ : Int, (τ = 1 ∨ τ = -1) →
      Generated (((gs.eraseIdx j).map (Fg v Eg dg)).map (toL nnc))
        ((Lv nnc (Fg v Eg dg (gs.getD j default))).map (τ * ·)) →
      ∃ τ' : Int, (τ' = 1 ∨ τ' = -1) ∧ (0 < s → τ' = τ) ∧
        Generated ((gs.eraseIdx j).map (toL nnc)) ((Lv nnc (gs.getD j default)).map (τ' * ·)) := by
    intro τ hτ hgen
    obtain ⟨ε, hε, ha, hεs⟩ : ∃ ε : Int, (ε = 1 ∨ ε = -1) ∧ 0 < ε * s ∧ (0 < s → ε = 1) := by
      rcases lt_or_gt_of_ne hs0 with hneg | hpos
      · exact ⟨-1, Or.inr rfl, by omega, fun h => by omega⟩
      · exact ⟨1, Or.inl rfl, by omega, fun _ => rfl⟩
    refine ⟨τ * ε, ?_, fun h => by rw [hεs h, mul_one], ?_⟩
    · rcases hτ with rfl | rfl <;> rcases hε with rfl | rfl <;> simp
    · have hWl : ((Lv nnc (gs.getD j default)).map (τ * ε * ·)).length ≤ numCols nnc n := by
        rw [List.length_map]; exact hLj
      apply generated_pullback D (gs.eraseIdx j) hrl _ _ hWl (ε * s) ha _ hgen
      intro c
      have h1 : ∀ a : Vec, scalarProduct a ((Lv nnc (gs.getD j default)).map (τ * ε * ·)) =
          (τ * ε) * scalarProduct a (Lv nnc (gs.getD j default)) := fun a => PPLV.Conv.sp_map_mul _ a _
      have hsf' : ∀ a : Vec, scalarProduct a (subVec (numCols nnc n) v Eg dg (Lv nnc (gs.getD j default))) =
          s * scalarProduct a (Lv nnc (Fg v Eg dg (gs.getD j default))) := hsf
      rw [subVec_congr_scale (numCols nnc n) v Eg dg _ (Lv nnc (gs.getD j default)) (τ * ε) hvN hWl hLj h1 c,
        hsf' c, PPLV.Conv.sp_map_mul]
      ring
  have hmap1 : ∀ l : Vec, l.map ((1 : Int) * ·) = l := fun l => by simp
  obtain ⟨hmin, hminNeg⟩ := h j hj'
  rw [toL_v] at hmin hminNeg ⊢
  have hFeq : (Fg v Eg dg (gs.getD j default)).eq = (gs.getD j default).eq := hseq
  constructor
  · intro hgen
    rw [← hmap1 (Lv nnc (Fg v Eg dg (gs.getD j default)))] at hgen
    obtain ⟨τ', hτ', hpos, hg'⟩ := key 1 (Or.inl rfl) hgen
    rcases hτ' with rfl | rfl
    · rw [hmap1] at hg'; exact hmin hg'
    · cases hl : (gs.getD j default).eq
      · have := hpos (hspos hl); omega
      · exact hminNeg hl hg'
  · intro hline hgen
    rw [hFeq] at hline
    obtain ⟨τ', hτ', _, hg'⟩ := key (-1) (Or.inr rfl) hgen
    rcases hτ' with rfl | rfl
    · rw [hmap1] at hg'; exact hmin hg'
    · exact hminNeg hline hg'

end PPLV.PolyFull

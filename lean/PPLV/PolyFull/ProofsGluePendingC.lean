import PPLV.PolyFull.ProofsGlueMinimize
import PPLV.PolyFull.ProofsGlue4

/-!
# `GlueFacts` from `ConvContract`: `process_pending_constraints()`

`processPendingConstraints x = (ppcPrep x).ppcTail` (by `rfl`): `ppcPrep` is the state right before
`sort_pending_and_remove_duplicates` (:752) — `sat_c` obtained, the non-pending rows sorted together with
the saturation rows —, `ppcTail` the rest.  `ppcTail_facts` is proved for every prepared state
(`PreparedC`); what `PreparedC` asks of `ppcPrep x` beyond shape and status (`ppcPrepared_same`, ProofsGlue7)
is the content of `SortKeepsPairC`.
-/
namespace PPLV.PolyFull
open PPLV.Lin PPLV.PolyOps
open PPLV.Conv (LRow BRow Vec Sound SatCorrect holds holdsAll Generated)

/-- a constraint that compares equal to another one of the same length has the same engine reading -/
def CmpExactC : Prop := ∀ (nnc : Bool) (a b : Row), a.cf.length = b.cf.length →
  cmpRow false nnc a b = 0 → toL nnc a = toL nnc b

theorem EnginePair.weakenC {nnc n cs gs fG sC sG} (f : Bool)
    (h : EnginePair nnc n cs gs true fG sC sG) : EnginePair nnc n cs gs f fG sC sG :=
  ⟨h.sound, h.complete, h.minC, h.minG, h.minL, fun _ => h.satC rfl, h.satG⟩

theorem EnginePair.weakenG {nnc n cs gs fC sC sG} (f : Bool)
    (h : EnginePair nnc n cs gs fC true sC sG) : EnginePair nnc n cs gs fC f sC sG :=
  ⟨h.sound, h.complete, h.minC, h.minG, h.minL, h.satC, fun _ => h.satG rfl⟩

/-! ### `sort_pending_and_remove_duplicates` -/

theorem sortPending_fp (gen nnc : Bool) (s : Sys) :
    (s.sortPendingAndRemoveDuplicates gen nnc).firstPending = s.firstPending := rfl

theorem sortPending_take (gen nnc : Bool) (s : Sys) (hfp : s.firstPending ≤ s.rows.length) :
    (s.sortPendingAndRemoveDuplicates gen nnc).rows.take s.firstPending = s.rows.take s.firstPending := by
  unfold Sys.sortPendingAndRemoveDuplicates
  simp only
  apply List.take_left'
  rw [List.length_take]; omega

theorem sortPending_len (gen nnc : Bool) (s : Sys) (hfp : s.firstPending ≤ s.rows.length) :
    s.firstPending ≤ (s.sortPendingAndRemoveDuplicates gen nnc).rows.length := by
  unfold Sys.sortPendingAndRemoveDuplicates
  simp only [List.length_append, List.length_take]
  omega

theorem sortPending_sub (gen nnc : Bool) (s : Sys) (r : Row)
    (h : r ∈ (s.sortPendingAndRemoveDuplicates gen nnc).rows) : r ∈ s.rows := by
  unfold Sys.sortPendingAndRemoveDuplicates at h
  simp only [List.mem_append] at h
  rcases h with h | h
  · exact List.mem_of_mem_take h
  · have := dropDupPending_sub _ _ _ _ _ _ h
    rw [mem_sortRowList] at this
    exact List.mem_of_mem_drop this

theorem sortPending_sup (gen nnc : Bool) (s : Sys) (r : Row) (h : r ∈ s.rows) :
    r ∈ (s.sortPendingAndRemoveDuplicates gen nnc).rows ∨
      ∃ a ∈ s.rows.take s.firstPending, cmpRow gen nnc a r = 0 := by
  unfold Sys.sortPendingAndRemoveDuplicates
  simp only [List.mem_append]
  rw [← List.take_append_drop s.firstPending s.rows, List.mem_append] at h
  rcases h with h | h
  · exact Or.inl (Or.inl h)
  · have h' : r ∈ sortRowList gen nnc (s.rows.drop s.firstPending) := (mem_sortRowList ..).mpr h
    rcases dropDupPending_sup gen nnc _ (s.rows.take s.firstPending) _ r h' with h2 | h2
    · exact Or.inl (Or.inr h2)
    · exact Or.inr h2

/-- `sort_pending_and_remove_duplicates` keeps every row up to `toL`, provided rows that compare equal have
    the same engine reading -/
theorem sortPending_toLSub (gen nnc : Bool) (s : Sys)
    (hcmp : ∀ a ∈ s.rows, ∀ r ∈ s.rows, cmpRow gen nnc a r = 0 → toL nnc a = toL nnc r) :
    ToLSub nnc s.rows (s.sortPendingAndRemoveDuplicates gen nnc).rows := by
  intro r hr
  rcases sortPending_sup gen nnc s r hr with h | ⟨a, ha, hc⟩
  · exact ⟨r, h, rfl⟩
  · refine ⟨a, ?_, hcmp a (List.mem_of_mem_take ha) r hr hc⟩
    unfold Sys.sortPendingAndRemoveDuplicates
    exact List.mem_append_left _ ha

theorem sortPending_all_dup (gen nnc : Bool) (s : Sys) (hfp : s.firstPending ≤ s.rows.length)
    (h : (s.sortPendingAndRemoveDuplicates gen nnc).rows.length = s.firstPending) :
    (s.sortPendingAndRemoveDuplicates gen nnc).rows = s.rows.take s.firstPending := by
  rw [← sortPending_take gen nnc s hfp, ← h, List.take_length]

/-! ### the two halves of `process_pending_constraints` -/

/-- :752-771 -/
def FPoly.ppcTail (x : FPoly) : Bool × FPoly :=
  let cs := x.p.cs.sortPendingAndRemoveDuplicates false x.nnc
  let x := x.withCs cs
  if cs.rows.length == cs.firstPending then
    (true, x.withSt { x.st with cPend := false })
  else
    let o := FPoly.engineAddAndMinimize true x.nnc x.dim cs x.p.gs x.satC
    if o.empty then (false, x.setEmpty)
    else
      (true, { x with satC := o.sat,
                      p := { x.p with cs := o.source, gs := o.dest,
                                      st := { x.p.st with cPend := false, satG := false, satC := true } } })

theorem ppc_eq (x : FPoly) : x.processPendingConstraints = x.ppcPrep.ppcTail := rfl

/-- what the second half needs of the prepared state `x1` of `x` -/
structure PreparedC (x x1 : FPoly) : Prop where
  nnc : x1.p.nnc = x.p.nnc
  dim : x1.p.dim = x.p.dim
  gs : x1.p.gs = x.p.gs
  st : ∃ a b, x1.p.st = { x.p.st with satC := a, satG := b }
  fp : x1.p.cs.firstPending ≤ x1.p.cs.rows.length
  rows : ∀ r, r ∈ x1.p.cs.rows ↔ r ∈ x.p.cs.rows
  np : ∀ r, r ∈ x1.npC ↔ r ∈ x.npC
  pair : EnginePair x.p.nnc x.p.dim x1.npC x.p.gs.rows true x1.p.st.satG x1.satC x1.satG

theorem ppcTail_facts (C : ConvContract) (hcmp : CmpExactC) (x x1 : FPoly) (S : Set Val) (hx : x.Inv S)
    (he : x.p.st.empty = false) (hcp : x.p.st.cPend = true) (hP : PreparedC x x1) :
    x.SameShape x1.ppcTail.2 ∧ x1.ppcTail.2.Inv S ∧
    (x1.ppcTail.1 = false → S = ∅ ∧ x1.ppcTail.2.p.st.empty = true) ∧
    (x1.ppcTail.1 = true → x1.ppcTail.2.FullyMin) := by
  -- the old status word
  have L := (legal_iff _ _).1 hx.legal
  obtain ⟨hcu, hgu, hcm, hgm⟩ := L.of_canPend (L.pend (Or.inl hcp))
  have hd := legal_dim hx.legal hcu
  have hgp : x.p.st.gPend = false := L.notBoth hcp
  have hfpG := (hx.fpG he hgu).2 hgp
  obtain ⟨a, b, hst⟩ := hP.st
  have hn1 := hP.nnc
  have hd1 := hP.dim
  have hg1 := hP.gs
  have he1 : x1.p.st.empty = false := by rw [hst]; exact he
  have hcu1 : x1.p.st.cUp = true := by rw [hst]; exact hcu
  have hgu1 : x1.p.st.gUp = true := by rw [hst]; exact hgu
  have hcm1 : x1.p.st.cMin = true := by rw [hst]; exact hcm
  have hgm1 : x1.p.st.gMin = true := by rw [hst]; exact hgm
  have hgp1 : x1.p.st.gPend = false := by rw [hst]; exact hgp
  -- the rows
  have hlenx := hx.wf.cs_len he hcu
  have hlen1 : ∀ r ∈ x1.p.cs.rows, r.cf.length = x.p.dim := fun r hr => hlenx r ((hP.rows r).mp hr)
  have hsub := sortPending_sub false x1.p.nnc x1.p.cs
  have hlen' : ∀ r ∈ (x1.p.cs.sortPendingAndRemoveDuplicates false x1.p.nnc).rows,
      r.cf.length = x1.p.dim := fun r hr => by rw [hd1]; exact hlen1 r (hsub r hr)
  have hT1 : ToLSub x1.p.nnc x.p.cs.rows (x1.p.cs.sortPendingAndRemoveDuplicates false x1.p.nnc).rows :=
    (ToLSub.of_subset fun r hr => (hP.rows r).mpr hr).trans (sortPending_toLSub false x1.p.nnc x1.p.cs
      fun a ha r hr hc => hcmp _ _ _ ((hlen1 a ha).trans (hlen1 r hr).symm) hc)
  have hT2 : ToLSub x1.p.nnc (x1.p.cs.sortPendingAndRemoveDuplicates false x1.p.nnc).rows x.p.cs.rows :=
    ToLSub.of_subset fun r hr => (hP.rows r).mp (hsub r hr)
  have hconS : conSem x1.p.nnc x.p.cs.rows = S := by rw [hn1]; exact (hx.den.2 he).1 hcu hgp
  have hcon' : conSem x1.p.nnc (x1.p.cs.sortPendingAndRemoveDuplicates false x1.p.nnc).rows = S := by
    rw [← hconS]
    exact (conSem_congr_toL _ _ _ hT1 hT2).symm
  have hlow' : LowLevel x1.p.nnc x1.p.dim (x1.p.cs.sortPendingAndRemoveDuplicates false x1.p.nnc).rows := by
    have hl : LowLevel x1.p.nnc x1.p.dim x.p.cs.rows := by rw [hn1, hd1]; exact hx.low he hcu
    exact hl.of_toLSub hT1
  have hgwf1 : ∀ r ∈ x1.p.gs.rows, r.genWF x1.p.nnc x1.p.dim := by
    rw [hg1, hn1, hd1]; exact hx.wf.gs_wf he hgu
  have hgpt1 : ∃ r ∈ x1.p.gs.rows, r.isPoint x1.p.nnc := by
    rw [hg1, hn1]; exact hx.wf.gs_pt he hgu
  have hfpG1 : x1.p.gs.firstPending = x1.p.gs.rows.length := by rw [hg1]; exact hfpG
  have htake := sortPending_take false x1.p.nnc x1.p.cs hP.fp
  have hlenfp := sortPending_len false x1.p.nnc x1.p.cs hP.fp
  have hpair1 : EnginePair x1.p.nnc x1.p.dim x1.npC x1.p.gs.rows true x1.p.st.satG x1.satC x1.satG := by
    rw [hn1, hd1, hg1]; exact hP.pair
  have hd1' : 0 < x1.p.dim := by omega
  by_cases hA : (x1.p.cs.sortPendingAndRemoveDuplicates false x1.p.nnc).rows.length = x1.p.cs.firstPending
  · -- every pending row was a duplicate
    have e : x1.ppcTail = (true, (x1.withCs (x1.p.cs.sortPendingAndRemoveDuplicates false x1.p.nnc)).withSt
        { x1.p.st with cPend := false }) := by
      simp [FPoly.ppcTail, FPoly.nnc, FPoly.st, FPoly.withCs, FPoly.withSt, sortPending_fp, hA]
    rw [e]
    have hrowsA := sortPending_all_dup false x1.p.nnc x1.p.cs hP.fp hA
    have hgenS : genSem x1.p.nnc x1.p.dim x1.p.gs.rows = S := by
      have h1 : genSem x1.p.nnc x1.p.dim x1.p.gs.rows = conSem x1.p.nnc x.npC := by
        rw [hn1, hd1, hg1]; exact hx.denNPc he hcp
      rw [h1, conSem_congr_mem _ _ _ fun r => (hP.np r).symm]
      have : x1.npC = (x1.p.cs.sortPendingAndRemoveDuplicates false x1.p.nnc).rows := hrowsA.symm
      rw [this]
      exact hcon'
    have hpost : EnginePost x1.p.nnc x1.p.dim S (x1.p.cs.sortPendingAndRemoveDuplicates false x1.p.nnc) x1.p.gs
        x1.p.st.satC x1.p.st.satG x1.satC x1.satG :=
      ⟨hlen', hgwf1, hgpt1, hA.symm, hfpG1, hcon', hgenS, hlow', by rw [hrowsA]; exact hpair1.weakenC _⟩
    exact ⟨⟨hn1, hd1⟩, And.imp_right (fun hF => ⟨fun h => (by cases h), fun _ => hF⟩)
      (inv_of_post _ S hd1' hpost he1 hcu1 hgu1 hcm1 hgm1 rfl hgp1)⟩
  · -- the engine is called
    have hpairE : EnginePair x1.p.nnc x1.p.dim
        ((x1.p.cs.sortPendingAndRemoveDuplicates false x1.p.nnc).rows.take
          (x1.p.cs.sortPendingAndRemoveDuplicates false x1.p.nnc).firstPending)
        x1.p.gs.rows true false x1.satC BitMat.clear := by
      rw [sortPending_fp, htake]
      exact hpair1.dropG _
    have hC := C.add_c x1.p.nnc x1.p.dim (x1.p.cs.sortPendingAndRemoveDuplicates false x1.p.nnc) x1.p.gs
      x1.satC hd1' hlen' hgwf1 hgpt1 (by rw [sortPending_fp]; exact hlenfp) hfpG1 hlow' hpairE
    rw [hcon'] at hC
    have hA' : ((x1.p.cs.sortPendingAndRemoveDuplicates false x1.p.nnc).rows.length ==
        x1.p.cs.firstPending) = false := by simpa using hA
    cases ho : (FPoly.engineAddAndMinimize true x1.p.nnc x1.p.dim
        (x1.p.cs.sortPendingAndRemoveDuplicates false x1.p.nnc) x1.p.gs x1.satC).empty
    · have e : x1.ppcTail = (true,
          { x1.withCs (x1.p.cs.sortPendingAndRemoveDuplicates false x1.p.nnc) with
            satC := (FPoly.engineAddAndMinimize true x1.p.nnc x1.p.dim
              (x1.p.cs.sortPendingAndRemoveDuplicates false x1.p.nnc) x1.p.gs x1.satC).sat,
            p := { x1.p with
              cs := (FPoly.engineAddAndMinimize true x1.p.nnc x1.p.dim
                (x1.p.cs.sortPendingAndRemoveDuplicates false x1.p.nnc) x1.p.gs x1.satC).source,
              gs := (FPoly.engineAddAndMinimize true x1.p.nnc x1.p.dim
                (x1.p.cs.sortPendingAndRemoveDuplicates false x1.p.nnc) x1.p.gs x1.satC).dest,
              st := { x1.p.st with cPend := false, satG := false, satC := true } } }) := by
        simp [FPoly.ppcTail, FPoly.nnc, FPoly.dim, FPoly.withCs, sortPending_fp, hA', ho]
      rw [e]
      exact ⟨⟨hn1, hd1⟩, And.imp_right (fun hF => ⟨fun h => (by cases h), fun _ => hF⟩)
        (inv_of_post _ S hd1' ((hC.2 ho).of_flagG_false x1.satG) he1 hcu1 hgu1 hcm1 hgm1 rfl hgp1)⟩
    · have e : x1.ppcTail = (false,
          (x1.withCs (x1.p.cs.sortPendingAndRemoveDuplicates false x1.p.nnc)).setEmpty) := by
        simp [FPoly.ppcTail, FPoly.nnc, FPoly.dim, FPoly.withCs, sortPending_fp, hA', ho]
      rw [e]
      have hS : S = ∅ := hC.1 ho
      subst hS
      exact ⟨⟨hn1, hd1⟩, inv_setEmpty _, fun _ => ⟨rfl, rfl⟩, fun h => (by cases h)⟩

end PPLV.PolyFull

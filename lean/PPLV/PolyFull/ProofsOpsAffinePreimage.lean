import PPLV.PolyFull.ProofsOpsAffineImage

/-!
# `affine_preimage` refines `RefPoly.affinePreimage`

The constraint rows are rewritten by substitution: in `affinePreimage_refines_partial` `LowLevel` of the
rewritten rows is an explicit hypothesis (`hLow`) in every case where the receiver is not marked empty, and in the
invertible case so are the fields `denNPc`, `denNPg`, `eng` of the result.  They are discharged in ProofsOps10b
(`low`), ProofsOpsAffineNPc, ProofsOpsAffineNPg and ProofsOps11 (`affinePreimage_refines`).
-/
namespace PPLV.PolyFull
open PPLV.Lin PPLV.PolyOps

theorem Inv_stConsOnly (X : FPoly) (S : Set Val) (hst : X.p.st = stConsOnly) (hd : 0 < X.p.dim)
    (hwf : X.p.WF) (hden : X.p.Denotes S) (hfp : X.p.cs.firstPending = X.p.cs.rows.length)
    (hlow : LowLevel X.p.nnc X.p.dim X.p.cs.rows) : X.Inv S := by
  refine ⟨hwf, hden, ?_, fun _ _ => ⟨le_of_eq hfp, fun _ => hfp⟩, fun _ h => ?_, fun _ _ => hlow,
    fun _ h => ?_, fun _ h => ?_, fun _ h => ?_⟩
  · rw [hst, statusLegalB_pos (Nat.ne_of_gt hd)]; rfl
  all_goals (rw [hst] at h; cases h)

theorem csSigned_fp (v : Nat) (e : LinExpr) (den : Int) (s : Sys) :
    (csSigned v e den s).firstPending = s.firstPending ∧ (csSigned v e den s).rows.length = s.rows.length := by
  unfold csSigned
  split <;> exact csAffinePreimage_fp _ _ _ _

/-- the row-level `affine_preimage`, non-invertible case, on a state holding its constraints -/
theorem affine_preimage_noninv_form (p : Poly) (v : Nat) (e : LinExpr) (den : Int)
    (hem : p.st.empty = false) (hc : e.coeffs.getD v 0 = 0) (hcu : p.st.cUp = true)
    (hcase : p.st.cPend = true ∨ (p.st.somethingPending = false ∧ p.cs.firstPending = p.cs.rows.length)) :
    ∃ q, p.affine_preimage v e den = some q ∧ q.nnc = p.nnc ∧ q.dim = p.dim ∧ q.st = stConsOnly ∧
      q.cs.firstPending = q.cs.rows.length := by
  unfold Poly.affine_preimage
  rw [if_neg (by simp [hem]), if_neg (by rw [hc]; decide)]
  rcases hcase with hcp | ⟨hsp, hfp⟩
  · have hsp : p.st.somethingPending = true := by simp [Status.somethingPending, hcp]
    simp only [hsp, hcp, if_true, Option.map_some]
    refine ⟨_, rfl, rfl, rfl, ?_, ?_⟩
    · simp [Status.clearGUp, stConsOnly, hem, hcu]
    · show (csSigned v e den _).firstPending = (csSigned v e den _).rows.length
      rw [(csSigned_fp _ _ _ _).1, (csSigned_fp _ _ _ _).2]; rfl
  · have hg' : (!p.st.cUp) = false := by simp [hcu]
    simp only [hsp, Bool.false_eq_true, if_false, hg', Option.map_some]
    refine ⟨_, rfl, rfl, rfl, ?_, ?_⟩
    · simp only [Status.somethingPending, Bool.or_eq_false_iff] at hsp
      simp [Status.clearGUp, stConsOnly, hem, hcu, hsp.1]
    · show (csSigned v e den _).firstPending = (csSigned v e den _).rows.length
      rw [(csSigned_fp _ _ _ _).1, (csSigned_fp _ _ _ _).2]; exact hfp

/-- the preparation of the non-invertible `affine_preimage` -/
def FPoly.prepConsMin (x : FPoly) : FPoly :=
  if x.st.somethingPending then (if x.st.cPend then x else x.processPendingGenerators)
  else if !x.st.cUp then x.minimize.2 else x

theorem prepConsMin_facts (G : GlueFacts) (x : FPoly) (S : Set Val) (hx : x.Inv S)
    (hex : x.p.st.empty = false) (hd : 0 < x.p.dim) :
    x.SameShape x.prepConsMin ∧ x.prepConsMin.Inv S ∧
    (x.prepConsMin.p.st.empty = true ∨
     (x.prepConsMin.p.st.empty = false ∧ x.prepConsMin.p.st.cUp = true ∧
      (x.prepConsMin.p.st.cPend = true ∨ x.prepConsMin.p.st.somethingPending = false))) := by
  unfold FPoly.prepConsMin
  cases hsp : x.st.somethingPending
  · simp only [Bool.false_eq_true, if_false]
    cases hcu : x.st.cUp
    · simp only [Bool.not_false, if_true]
      obtain ⟨h1, h2, h3, h4, h5⟩ := G.minimize x S hx
      refine ⟨h1, h2, ?_⟩
      cases hm : x.minimize.1
      · exact Or.inl (h4 hm)
      · obtain ⟨f1, f2, f3, f4, f5, f6, f7⟩ := h5 hm hd
        exact Or.inr ⟨f1, f2, Or.inr (by simp [Status.somethingPending, f6, f7])⟩
    · simp only [Bool.not_true, Bool.false_eq_true, if_false]
      exact ⟨⟨rfl, rfl⟩, hx, Or.inr ⟨hex, hcu, Or.inr hsp⟩⟩
  · simp only [if_true]
    cases hcp : x.st.cPend
    · simp only [Bool.false_eq_true, if_false]
      have hgp : x.p.st.gPend = true := by
        have : (x.p.st.cPend || x.p.st.gPend) = true := hsp
        rw [show x.p.st.cPend = false from hcp, Bool.false_or] at this
        exact this
      obtain ⟨h1, h2, f1, f2, f3, f4, f5, f6, f7⟩ := G.ppg x S hx hex hgp
      exact ⟨h1, h2, Or.inr ⟨f1, f2, Or.inr (by simp [Status.somethingPending, f6, f7])⟩⟩
    · simp only [if_true]
      exact ⟨⟨rfl, rfl⟩, hx, Or.inr ⟨hex, (hx.wf.pend_c hcp).1, Or.inl hcp⟩⟩

theorem affinePreimage_eq (x : FPoly) (v : Nat) (e : LinExpr) (den : Int) :
    x.affinePreimage v e den =
      (if (x.st.empty || e.coeffs.getD v 0 != 0) = true then x else x.prepConsMin).liftO
        ((if (x.st.empty || e.coeffs.getD v 0 != 0) = true then x else x.prepConsMin).p.affine_preimage v e den) := rfl

/-- **`Polyhedron::affine_preimage(var, expr, den)`, the whole object.**  PARTIAL: assumed of the
    RESULT, when the receiver is not marked empty: `hLow` (the substituted constraint rows entail the
    low-level constraints at cone level), and in the invertible case (`expr[var] ≠ 0`: both descriptions
    rewritten in place, status word unchanged) `hNPc`, `hNPg`, `hEng` (the fields `denNPc`, `denNPg`,
    `eng`).  Proved: `wf`, `den`, `legal`, `fpC`, `fpG` always; everything for a receiver marked empty
    or found empty by the preparation. -/
theorem affinePreimage_refines_partial (G : GlueFacts) (x : FPoly) (ref : RefPoly) (v : Nat) (e : LinExpr)
    (den : Int) (hn : ref.n = x.p.dim) (hnnc : ref.nnc = x.p.nnc) (hwf : WF ref.n ref.cs)
    (hv : v < x.p.dim) (he : e.coeffs.length = x.p.dim) (hden : den ≠ 0) (hx : x.Inv (sem ref.cs))
    (hLow : x.p.st.empty = false → (x.affinePreimage v e den).p.st.empty = false →
      (x.affinePreimage v e den).p.st.cUp = true →
      LowLevel (x.affinePreimage v e den).p.nnc (x.affinePreimage v e den).p.dim
        (x.affinePreimage v e den).p.cs.rows)
    (hNPc : e.coeffs.getD v 0 ≠ 0 → x.p.st.empty = false → (x.affinePreimage v e den).p.st.cPend = true →
      genSem (x.affinePreimage v e den).p.nnc (x.affinePreimage v e den).p.dim
          (x.affinePreimage v e den).p.gs.rows =
        conSem (x.affinePreimage v e den).p.nnc (x.affinePreimage v e den).npC)
    (hNPg : e.coeffs.getD v 0 ≠ 0 → x.p.st.empty = false → (x.affinePreimage v e den).p.st.gPend = true →
      conSem (x.affinePreimage v e den).p.nnc (x.affinePreimage v e den).p.cs.rows =
        genSem (x.affinePreimage v e den).p.nnc (x.affinePreimage v e den).p.dim (x.affinePreimage v e den).npG)
    (hEng : e.coeffs.getD v 0 ≠ 0 → x.p.st.empty = false → (x.affinePreimage v e den).p.st.canPend = true →
      EnginePair (x.affinePreimage v e den).p.nnc (x.affinePreimage v e den).p.dim
        (x.affinePreimage v e den).npC (x.affinePreimage v e den).npG (x.affinePreimage v e den).p.st.satC
        (x.affinePreimage v e den).p.st.satG (x.affinePreimage v e den).satC (x.affinePreimage v e den).satG) :
    (x.affinePreimage v e den).Inv (sem (ref.affinePreimage v e den).cs) ∧
      x.SameShape (x.affinePreimage v e den) := by
  rw [affinePreimage_eq] at hLow hNPc hNPg hEng ⊢
  by_cases hc1 : (x.st.empty || e.coeffs.getD v 0 != 0) = true
  · simp only [hc1, if_true] at hLow hNPc hNPg hEng ⊢
    cases hex : x.p.st.empty
    · have hc : e.coeffs.getD v 0 ≠ 0 := by
        have hex' : x.st.empty = false := hex
        rw [hex', Bool.false_or] at hc1
        exact bne_iff_ne.mp hc1
      obtain ⟨q, hq⟩ : ∃ q, x.p.affine_preimage v e den = some q := by
        unfold Poly.affine_preimage
        rw [if_neg (by simp [hex]), if_pos (bne_iff_ne.mpr hc)]
        exact ⟨_, rfl⟩
      obtain ⟨hst, hqn, hqd, hcs, hgs⟩ := affine_preimage_inv_shape x.p q v e den hex hc hq
      have hqe : q.st.empty = false := by rw [hst]; exact hex
      have hlift : x.liftO (some q) = { x with p := q } := lift_of_nonempty x q hqe
      rw [hq] at hLow hNPc hNPg hEng ⊢
      rw [hlift] at hLow hNPc hNPg hEng ⊢
      refine ⟨⟨affine_preimage_rows_wf x.p q v e den hx.wf hv he hden hq,
        affine_preimage_rows_correct x.p q v e den ref hn hnnc hwf hx.wf hv he hden hx.den hq, ?_, ?_, ?_,
        fun h => hLow hex h, fun _ => hNPc hc hex, fun _ => hNPg hc hex, fun _ => hEng hc hex⟩, hqn, hqd⟩
      · show statusLegalB q.st q.dim = true
        rw [hst, hqd]; exact hx.legal
      · intro _ hcu
        have hcu' : x.p.st.cUp = true := by rw [← hst]; exact hcu
        show q.cs.firstPending ≤ q.cs.rows.length ∧ (q.st.cPend = false → q.cs.firstPending = q.cs.rows.length)
        rw [hcs, if_pos hcu', (csSigned_fp _ _ _ _).1, (csSigned_fp _ _ _ _).2, hst]
        exact hx.fpC hex hcu'
      · intro _ hgu
        have hgu' : x.p.st.gUp = true := by rw [← hst]; exact hgu
        have hc' : (inverseMap x.p.dim v e den).1.coeffs.getD v 0 ≠ 0 := by
          exact inverseMap_getD x.p.dim v e den hv hden
        show q.gs.firstPending ≤ q.gs.rows.length ∧ (q.st.gPend = false → q.gs.firstPending = q.gs.rows.length)
        rw [hgs, if_pos hgu', (gsAffineImage_fp_inv _ _ _ _ hc').1, (gsAffineImage_fp_inv _ _ _ _ hc').2, hst]
        exact hx.fpG hex hgu'
    · have hq : x.p.affine_preimage v e den = some x.p := by
        unfold Poly.affine_preimage; rw [if_pos hex]
      rw [hq]
      have hd := affine_preimage_rows_correct x.p x.p v e den ref hn hnnc hwf hx.wf hv he hden hx.den hq
      exact Inv_lift_same x _ _ hx hd
  · simp only [hc1, Bool.false_eq_true, if_false] at hLow hNPc hNPg hEng ⊢
    simp only [Bool.or_eq_true, not_or, Bool.not_eq_true] at hc1
    obtain ⟨hex, hc0⟩ := hc1
    have hc : e.coeffs.getD v 0 = 0 := by
      by_contra h
      rw [bne_iff_ne.mpr h] at hc0; cases hc0
    have hdpos : 0 < x.p.dim := Nat.lt_of_le_of_lt (Nat.zero_le _) hv
    obtain ⟨hs1, hi1, hcase⟩ := prepConsMin_facts G x _ hx hex hdpos
    generalize hx1 : x.prepConsMin = x1 at hs1 hi1 hcase hLow ⊢
    have hn1 : ref.n = x1.p.dim := by rw [hs1.2]; exact hn
    have hnnc1 : ref.nnc = x1.p.nnc := by rw [hs1.1]; exact hnnc
    have hv1 : v < x1.p.dim := by rw [hs1.2]; exact hv
    have he1 : e.coeffs.length = x1.p.dim := by rw [hs1.2]; exact he
    rcases hcase with hem1 | ⟨hne1, hcu1, hpc1⟩
    · have hq : x1.p.affine_preimage v e den = some x1.p := by
        unfold Poly.affine_preimage; rw [if_pos hem1]
      have hd := affine_preimage_rows_correct x1.p x1.p v e den ref hn1 hnnc1 hwf hi1.wf hv1 he1 hden hi1.den hq
      rw [hq]
      obtain ⟨h1, h2⟩ := Inv_lift_same x1 _ _ hi1 hd
      exact ⟨h1, h2.1.trans hs1.1, h2.2.trans hs1.2⟩
    · have hcase' : x1.p.st.cPend = true ∨
          (x1.p.st.somethingPending = false ∧ x1.p.cs.firstPending = x1.p.cs.rows.length) := by
        rcases hpc1 with h | h
        · exact Or.inl h
        · refine Or.inr ⟨h, (hi1.fpC hne1 hcu1).2 ?_⟩
          simp only [Status.somethingPending, Bool.or_eq_false_iff] at h
          exact h.1
      obtain ⟨q, hq, hqn, hqd, hqs, hqf⟩ := affine_preimage_noninv_form x1.p v e den hne1 hc hcu1 hcase'
      have hqe : q.st.empty = false := by rw [hqs]; rfl
      have hlift : x1.liftO (some q) = { x1 with p := q } := lift_of_nonempty x1 q hqe
      rw [hq] at hLow ⊢
      rw [hlift] at hLow ⊢
      refine ⟨Inv_stConsOnly _ _ hqs (by show 0 < q.dim; rw [hqd, hs1.2]; exact hdpos)
        (affine_preimage_rows_wf x1.p q v e den hi1.wf hv1 he1 hden hq)
        (affine_preimage_rows_correct x1.p q v e den ref hn1 hnnc1 hwf hi1.wf hv1 he1 hden hi1.den hq) hqf
        (hLow (by exact hex) hqe (by show q.st.cUp = true; rw [hqs]; rfl)), hqn.trans hs1.1, hqd.trans hs1.2⟩

end PPLV.PolyFull

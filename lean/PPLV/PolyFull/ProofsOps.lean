import PPLV.PolyFull.ProofsOps1
import PPLV.PolyFull.ProofsOpsAffineLow
import PPLV.PolyFull.ProofsOps10b
import PPLV.PolyFull.ProofsOps11
import PPLV.PolyFull.ProofsOpsAffineNPg
import PPLV.PolyFull.ProofsOpsAffineCone
import PPLV.PolyFull.ProofsOpsAffinePair
import PPLV.PolyFull.ProofsOps11g
import PPLV.PolyFull.ProofsOpsAffineMinG2
import PPLV.PolyFull.ProofsOps11j
import PPLV.PolyFull.ProofsOpsMeet
import PPLV.PolyFull.ProofsOpsAddCons
import PPLV.PolyFull.ProofsOpsUnconstrain
import PPLV.PolyFull.ProofsOpsHull
import PPLV.PolyFull.ProofsOpsTimeElapse
import PPLV.PolyFull.ProofsOps4d
import PPLV.PolyFull.ProofsOpsAffineImage
import PPLV.PolyFull.ProofsOps5b
import PPLV.PolyFull.ProofsOpsAffinePreimage
import PPLV.PolyFull.ProofsOpsDims
import PPLV.PolyFull.ProofsOpsRemoveDims
import PPLV.PolyFull.ProofsOpsZeroCols
import PPLV.PolyFull.ProofsOpsUniverseRows
import PPLV.PolyFull.ProofsOps6f
import PPLV.PolyFull.ProofsOps6g
import PPLV.PolyFull.ProofsOpsConcat
import PPLV.PolyFull.ProofsOps6i
import PPLV.PolyFull.ProofsOpsClosure
import PPLV.PolyFull.ProofsOps8
import PPLV.PolyFull.ProofsOpsAffineNPc
import PPLV.PolyFull.ProofsOps9b
import PPLV.PolyFull.ProofsOps9c

/-!
# the public operators of the full `Polyhedron` model refine the reference operators

All of `ProofsOps*.lean`: see the module docs of each file.  Fully proved: `intersectionAssign_refines`,
`addConstraint_refines`, `unconstrain_refines`, `polyHullAssign_refines`, `timeElapseAssign_refines`,
`removeSpaceDimensions_refines`, `removeHigherSpaceDimensions_refines`, `affineImage_refines`,
`affinePreimage_refines`, `generalizedAffineImage_refines` (`ProofsOps11`; the `_partial`, `_partial'`,
`_partial2` variants are the steps towards them: each discharges one of the hypotheses about the result).
Partial (explicit hypotheses about the result, see the doc comments): `topologicalClosureAssign_refines_partial`
(`hLow`), `addSpaceDimensionsAndEmbed_refines_partial`, `addSpaceDimensionsAndProject_refines_partial`,
`concatenateAssign_refines_partial` (`hEng`).
-/

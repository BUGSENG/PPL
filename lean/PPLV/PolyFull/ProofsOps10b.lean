import PPLV.PolyFull.ProofsOpsAffineLow
import PPLV.PolyFull.ProofsOps9b

/-!
# `affine_image` / `affine_preimage` / `generalized_affine_image` with the field
`low` of the result PROVED (`LowLevel_csAffinePreimage`)

* `affinePreimage_refines_noninv`: the non-invertible `affine_preimage`, fully proved;
* `affineImage_refines_partial2`, `affinePreimage_refines_partial2`, `generalizedAffineImage_refines_partial2`:
  only `hNPg` (field `denNPg`) and `hEng` (field `eng`) of the result of the INVERTIBLE map remain assumed.
-/
namespace PPLV.PolyFull
open PPLV.Lin PPLV.PolyOps

theorem exprNeg_length (e : LinExpr) : (exprNeg e).coeffs.length = e.coeffs.length := by
  simp [exprNeg]

theorem LowLevel_csSigned (nnc : Bool) (n v : Nat) (e : LinExpr) (den : Int) (s : Sys)
    (hlen : ∀ r ∈ s.rows, r.cf.length = n) (he : e.coeffs.length = n) (hv : v < n) (hden : den ≠ 0)
    (h : LowLevel nnc n s.rows) : LowLevel nnc n (csSigned v e den s).rows := by
  unfold csSigned
  split
  · rename_i hd
    rw [csAffinePreimage_rows]
    exact LowLevel_csAffinePreimage nnc n v e den s.rows hlen he hv hd h
  · rename_i hd
    rw [csAffinePreimage_rows]
    exact LowLevel_csAffinePreimage nnc n v _ (-den) s.rows hlen (by rw [exprNeg_length, he]) hv (by omega) h

/-- the field `low` of the result of `affine_image` in the invertible case -/
theorem affineImage_low (x : FPoly) (S : Set Val) (v : Nat) (e : LinExpr) (den : Int) (hx : x.Inv S)
    (hv : v < x.p.dim) (hc : e.coeffs.getD v 0 ≠ 0) (hex : x.p.st.empty = false)
    (hRc : (x.affineImage v e den).p.st.cUp = true) :
    LowLevel (x.affineImage v e den).p.nnc (x.affineImage v e den).p.dim (x.affineImage v e den).p.cs.rows := by
  obtain ⟨q, hq, hp⟩ := affineImage_inv_p x v e den hex hc
  obtain ⟨hst, hqn, hqd, _, hcs⟩ := affine_image_inv_shape x.p q v e den hex hc hq
  rw [hp] at hRc ⊢
  have hcu : x.p.st.cUp = true := by rw [← hst]; exact hRc
  rw [hqn, hqd, hcs, if_pos hcu, csAffinePreimage_rows]
  exact LowLevel_csAffinePreimage _ _ v _ _ _ (hx.wf.cs_len hex hcu) (inverseMap_length _ _ _ _) hv
    (inverseMap_den_pos _ _ _ _ hc) (hx.low hex hcu)

/-- the field `low` of the result of `affine_preimage` -/
theorem affinePreimage_low (G : GlueFacts) (x : FPoly) (S : Set Val) (v : Nat) (e : LinExpr) (den : Int)
    (hx : x.Inv S) (hv : v < x.p.dim) (he : e.coeffs.length = x.p.dim) (hden : den ≠ 0)
    (hex : x.p.st.empty = false) (hRe : (x.affinePreimage v e den).p.st.empty = false)
    (hRc : (x.affinePreimage v e den).p.st.cUp = true) :
    LowLevel (x.affinePreimage v e den).p.nnc (x.affinePreimage v e den).p.dim
      (x.affinePreimage v e den).p.cs.rows := by
  by_cases hc : e.coeffs.getD v 0 = 0
  · have hcond : (x.st.empty || e.coeffs.getD v 0 != 0) = false := by
      have hex' : x.st.empty = false := hex
      rw [hex', hc]; rfl
    rw [affinePreimage_eq] at hRe hRc ⊢
    simp only [hcond, Bool.false_eq_true, if_false] at hRe hRc ⊢
    have hdpos : 0 < x.p.dim := Nat.lt_of_le_of_lt (Nat.zero_le _) hv
    obtain ⟨hs1, hi1, hcase⟩ := prepConsMin_facts G x _ hx hex hdpos
    generalize x.prepConsMin = x1 at hs1 hi1 hcase hRe hRc ⊢
    rcases hcase with hem1 | ⟨hne1, hcu1, hpc1⟩
    · have hq : x1.p.affine_preimage v e den = some x1.p := by
        unfold Poly.affine_preimage; rw [if_pos hem1]
      rw [hq] at hRe
      have hp : (x1.liftO (some x1.p)).p = x1.p := lift_p _ _
      rw [hp, hem1] at hRe; cases hRe
    · have hcase' : x1.p.st.cPend = true ∨
          (x1.p.st.somethingPending = false ∧ x1.p.cs.firstPending = x1.p.cs.rows.length) := by
        rcases hpc1 with h | h
        · exact Or.inl h
        · refine Or.inr ⟨h, (hi1.fpC hne1 hcu1).2 ?_⟩
          simp only [Status.somethingPending, Bool.or_eq_false_iff] at h
          exact h.1
      obtain ⟨q, hq, _⟩ := affine_preimage_noninv_form x1.p v e den hne1 hc hcu1 hcase'
      obtain ⟨_, _, hqn, hqd, ⟨cs0, hcs0, hqcs⟩, _⟩ :=
        affine_preimage_noninv_shape x1.p q v e den hi1.wf hne1 hc hq
      rw [hq]
      have hp : (x1.liftO (some q)).p = q := lift_p _ _
      rw [hp, hqn, hqd, hqcs]
      apply LowLevel_csSigned _ _ v e den cs0 (by rw [hcs0]; exact hi1.wf.cs_len hne1 hcu1)
        (by rw [hs1.2]; exact he) (by rw [hs1.2]; exact hv) hden
      rw [hcs0]; exact hi1.low hne1 hcu1
  · obtain ⟨q, hq, hp⟩ := affinePreimage_inv_p x v e den hex hc
    obtain ⟨hst, hqn, hqd, hcs, _⟩ := affine_preimage_inv_shape x.p q v e den hex hc hq
    rw [hp] at hRc ⊢
    have hcu : x.p.st.cUp = true := by rw [← hst]; exact hRc
    rw [hqn, hqd, hcs, if_pos hcu]
    exact LowLevel_csSigned _ _ v e den _ (hx.wf.cs_len hex hcu) he hv hden (hx.low hex hcu)

/-- **`affine_image`, the whole object.**  PARTIAL: assumed of the RESULT, only in the invertible case
    (`expr[var] ≠ 0`) on a receiver not marked empty: `hNPg` (field `denNPg`: with pending generators the
    constraints describe the non-pending generators) and `hEng` (field `eng`: the non-pending parts are
    a minimal DD pair with exact saturation matrices, when `canPend`). -/
theorem affineImage_refines_partial2 (G : GlueFacts) (x : FPoly) (ref : RefPoly) (v : Nat) (e : LinExpr)
    (den : Int) (hn : ref.n = x.p.dim) (hnnc : ref.nnc = x.p.nnc) (hwf : WF ref.n ref.cs)
    (hv : v < x.p.dim) (he : e.coeffs.length = x.p.dim) (hden : den ≠ 0) (hx : x.Inv (sem ref.cs))
    (hNPg : e.coeffs.getD v 0 ≠ 0 → x.p.st.empty = false → (x.affineImage v e den).p.st.gPend = true →
      conSem (x.affineImage v e den).p.nnc (x.affineImage v e den).p.cs.rows =
        genSem (x.affineImage v e den).p.nnc (x.affineImage v e den).p.dim (x.affineImage v e den).npG)
    (hEng : e.coeffs.getD v 0 ≠ 0 → x.p.st.empty = false → (x.affineImage v e den).p.st.canPend = true →
      EnginePair (x.affineImage v e den).p.nnc (x.affineImage v e den).p.dim (x.affineImage v e den).npC
        (x.affineImage v e den).npG (x.affineImage v e den).p.st.satC (x.affineImage v e den).p.st.satG
        (x.affineImage v e den).satC (x.affineImage v e den).satG) :
    (x.affineImage v e den).Inv (sem (ref.affineImage v e den).cs) ∧ x.SameShape (x.affineImage v e den) :=
  affineImage_refines_partial' G x ref v e den hn hnnc hwf hv he hden hx
    (fun hc hex hRc => affineImage_low x _ v e den hx hv hc hex hRc) hNPg hEng

/-- **`affine_preimage`, the whole object.**  PARTIAL exactly as `affineImage_refines_partial2`
    (`hNPg`, `hEng`; invertible case only). -/
theorem affinePreimage_refines_partial2 (G : GlueFacts) (x : FPoly) (ref : RefPoly) (v : Nat) (e : LinExpr)
    (den : Int) (hn : ref.n = x.p.dim) (hnnc : ref.nnc = x.p.nnc) (hwf : WF ref.n ref.cs)
    (hv : v < x.p.dim) (he : e.coeffs.length = x.p.dim) (hden : den ≠ 0) (hx : x.Inv (sem ref.cs))
    (hNPg : e.coeffs.getD v 0 ≠ 0 → x.p.st.empty = false → (x.affinePreimage v e den).p.st.gPend = true →
      conSem (x.affinePreimage v e den).p.nnc (x.affinePreimage v e den).p.cs.rows =
        genSem (x.affinePreimage v e den).p.nnc (x.affinePreimage v e den).p.dim (x.affinePreimage v e den).npG)
    (hEng : e.coeffs.getD v 0 ≠ 0 → x.p.st.empty = false → (x.affinePreimage v e den).p.st.canPend = true →
      EnginePair (x.affinePreimage v e den).p.nnc (x.affinePreimage v e den).p.dim
        (x.affinePreimage v e den).npC (x.affinePreimage v e den).npG (x.affinePreimage v e den).p.st.satC
        (x.affinePreimage v e den).p.st.satG (x.affinePreimage v e den).satC (x.affinePreimage v e den).satG) :
    (x.affinePreimage v e den).Inv (sem (ref.affinePreimage v e den).cs) ∧
      x.SameShape (x.affinePreimage v e den) :=
  affinePreimage_refines_partial' G x ref v e den hn hnnc hwf hv he hden hx
    (fun hex hRe hRc => affinePreimage_low G x _ v e den hx hv he hden hex hRe hRc) hNPg hEng

/-- non-invertible `affine_preimage`: fully proved -/
theorem affinePreimage_refines_noninv (G : GlueFacts) (x : FPoly) (ref : RefPoly) (v : Nat) (e : LinExpr)
    (den : Int) (hn : ref.n = x.p.dim) (hnnc : ref.nnc = x.p.nnc) (hwf : WF ref.n ref.cs)
    (hv : v < x.p.dim) (he : e.coeffs.length = x.p.dim) (hden : den ≠ 0) (hx : x.Inv (sem ref.cs))
    (hc : e.coeffs.getD v 0 = 0) :
    (x.affinePreimage v e den).Inv (sem (ref.affinePreimage v e den).cs) ∧
      x.SameShape (x.affinePreimage v e den) :=
  affinePreimage_refines_partial2 G x ref v e den hn hnnc hwf hv he hden hx
    (fun h => absurd hc h) (fun h => absurd hc h)

/-- **`generalized_affine_image`, `relsym ∈ {≤, =, ≥}`.**  PARTIAL exactly as
    `affineImage_refines_partial2` (`hNPg`, `hEng` of the intermediate `x.affineImage v e den`). -/
theorem generalizedAffineImage_refines_partial2 (G : GlueFacts) (x : FPoly) (ref : RefPoly) (v : Nat) (r : Rel)
    (e : LinExpr) (den : Int) (hn : ref.n = x.p.dim) (hnnc : ref.nnc = x.p.nnc) (hwf : WF ref.n ref.cs)
    (hv : v < x.p.dim) (he : e.coeffs.length = x.p.dim) (hden : den ≠ 0) (hx : x.Inv (sem ref.cs))
    (hr : r = .le ∨ r = .eq ∨ r = .ge)
    (hNPg : e.coeffs.getD v 0 ≠ 0 → x.p.st.empty = false → (x.affineImage v e den).p.st.gPend = true →
      conSem (x.affineImage v e den).p.nnc (x.affineImage v e den).p.cs.rows =
        genSem (x.affineImage v e den).p.nnc (x.affineImage v e den).p.dim (x.affineImage v e den).npG)
    (hEng : e.coeffs.getD v 0 ≠ 0 → x.p.st.empty = false → (x.affineImage v e den).p.st.canPend = true →
      EnginePair (x.affineImage v e den).p.nnc (x.affineImage v e den).p.dim (x.affineImage v e den).npC
        (x.affineImage v e den).npG (x.affineImage v e den).p.st.satC (x.affineImage v e den).p.st.satG
        (x.affineImage v e den).satC (x.affineImage v e den).satG) :
    (x.generalizedAffineImage v r e den).Inv (sem (ref.genAffineImage v r e den).cs) ∧
      x.SameShape (x.generalizedAffineImage v r e den) :=
  generalizedAffineImage_of_affineImage G x ref v r e den hn hwf hv he hden hr
    (affineImage_refines_partial2 G x ref v e den hn hnnc hwf hv he hden hx hNPg hEng)

end PPLV.PolyFull

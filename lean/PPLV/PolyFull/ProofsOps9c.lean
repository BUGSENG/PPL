import PPLV.PolyFull.ProofsOpsAffineNPc

/-!
# invertible `affine_image` / `affine_preimage` on a receiver that holds only its
generators: fully proved (no constraint rows to rewrite, nothing pending, `canPend = false`)
-/
namespace PPLV.PolyFull
open PPLV.Lin PPLV.PolyOps

theorem legal_noC {s : Status} {d : Nat} (h : statusLegalB s d = true) (hc : s.cUp = false) :
    s.canPend = false ∧ s.cPend = false ∧ s.gPend = false := by
  have hcp : s.canPend = false :=
    Bool.eq_false_iff.mpr fun e => absurd (legal_canPend_up h e).1 (Bool.eq_false_iff.mp hc)
  exact ⟨hcp, legal_not_canPend h hcp⟩

/-- `affine_image` on a receiver whose constraints are not up to date: fully proved -/
theorem affineImage_refines_gensOnly (G : GlueFacts) (x : FPoly) (ref : RefPoly) (v : Nat) (e : LinExpr)
    (den : Int) (hn : ref.n = x.p.dim) (hnnc : ref.nnc = x.p.nnc) (hwf : WF ref.n ref.cs)
    (hv : v < x.p.dim) (he : e.coeffs.length = x.p.dim) (hden : den ≠ 0) (hx : x.Inv (sem ref.cs))
    (hcu : x.p.st.cUp = false) :
    (x.affineImage v e den).Inv (sem (ref.affineImage v e den).cs) ∧ x.SameShape (x.affineImage v e den) := by
  obtain ⟨h1, h2, h3⟩ := legal_noC hx.legal hcu
  have hst : e.coeffs.getD v 0 ≠ 0 → x.p.st.empty = false → (x.affineImage v e den).p.st = x.p.st := by
    intro hc hex
    obtain ⟨q, hq, hp⟩ := affineImage_inv_p x v e den hex hc
    rw [hp]
    exact (affine_image_inv_shape x.p q v e den hex hc hq).1
  refine affineImage_refines_partial' G x ref v e den hn hnnc hwf hv he hden hx ?_ ?_ ?_
  · intro hc hex h; rw [hst hc hex, hcu] at h; cases h
  · intro hc hex h; rw [hst hc hex, h3] at h; cases h
  · intro hc hex h; rw [hst hc hex, h1] at h; cases h

/-- invertible `affine_preimage` on a receiver whose constraints are not up to date: fully proved -/
theorem affinePreimage_refines_gensOnly (G : GlueFacts) (x : FPoly) (ref : RefPoly) (v : Nat) (e : LinExpr)
    (den : Int) (hn : ref.n = x.p.dim) (hnnc : ref.nnc = x.p.nnc) (hwf : WF ref.n ref.cs)
    (hv : v < x.p.dim) (he : e.coeffs.length = x.p.dim) (hden : den ≠ 0) (hx : x.Inv (sem ref.cs))
    (hex : x.p.st.empty = false) (hc : e.coeffs.getD v 0 ≠ 0) (hcu : x.p.st.cUp = false) :
    (x.affinePreimage v e den).Inv (sem (ref.affinePreimage v e den).cs) ∧
      x.SameShape (x.affinePreimage v e den) := by
  obtain ⟨h1, h2, h3⟩ := legal_noC hx.legal hcu
  have hst : (x.affinePreimage v e den).p.st = x.p.st := by
    obtain ⟨q, hq, hp⟩ := affinePreimage_inv_p x v e den hex hc
    rw [hp]
    exact (affine_preimage_inv_shape x.p q v e den hex hc hq).1
  refine affinePreimage_refines_partial' G x ref v e den hn hnnc hwf hv he hden hx ?_ ?_ ?_
  · intro _ _ h; rw [hst, hcu] at h; cases h
  · intro _ _ h; rw [hst, h3] at h; cases h
  · intro _ _ h; rw [hst, h1] at h; cases h

end PPLV.PolyFull

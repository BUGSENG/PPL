import PPLV.PolyFull.ProofsOps5b
import PPLV.PolyOps.ProofsLattice8

/-!
# `add_generator(ray)` and `generalized_affine_image` (`≤ = ≥`)

`generalizedAffineImage_of_affineImage`: fully proved RELATIVE to the refinement statement of
`affine_image` (which is `affineImage_refines_partial`); `generalizedAffineImage_refines_partial`
carries exactly the four hypotheses of `affineImage_refines_partial`.
-/
namespace PPLV.PolyFull
open PPLV.Lin PPLV.PolyOps

/-- `add_generator(g)` for a ray (or line-free non-point row) `g` on a non-empty receiver of positive
    dimension -/
theorem addGenerator_ray_refines (G : GlueFacts) (x : FPoly) (S S' : Set Val) (g : Row) (hx : x.Inv S)
    (hex : x.p.st.empty = false) (hd : 0 < x.p.dim) (hSne : S ≠ ∅) (hg : g.genWF x.p.nnc x.p.dim)
    (hS' : ∀ rows, genSem x.p.nnc x.p.dim rows = S → genSem x.p.nnc x.p.dim (rows ++ [g]) = S') :
    (x.addGenerator .ray g).Inv S' ∧ x.SameShape (x.addGenerator .ray g) := by
  obtain ⟨hs, hi, hemp, hne⟩ := G.needGens x S hx hex hd
  have hr1 : x.needGens.1 = false := by
    cases h : x.needGens.1
    · rfl
    · exact absurd (hemp h).1 hSne
  obtain ⟨he3, hgu3, hcp3⟩ := hne hr1
  have hd0 : (x.dim == 0) = false := by simpa [FPoly.dim] using Nat.ne_of_gt hd
  have hex' : x.st.empty = false := hex
  have hpt : (FPoly.GKindA.ray == FPoly.GKindA.point) = false := rfl
  have key : ∀ x3 : FPoly, x.needGens.2 = x3 → x.addGenerator .ray g =
      (if x3.st.canPend = true then
        ({ x3 with p := { x3.p with gs := x3.p.gs.insertPendingSys [g],
                                    st := { x3.p.st with gPend := true } } } : FPoly)
       else
        { x3 with p := { x3.p with gs := x3.p.gs.insertRow true x3.nnc g,
                                   st := ({ x3.p.st with gMin := false }).clearCUp } }) := by
    intro x3 h3
    subst h3
    unfold FPoly.addGenerator
    simp only [hd0, hex', hr1, hpt, Bool.false_eq_true, if_false, Bool.and_false]
    rfl
  have hR := key _ rfl
  rw [hR]
  generalize x.needGens.2 = x3 at hs hi he3 hgu3 hcp3
  have hg3 : g.genWF x3.p.nnc x3.p.dim := by rw [hs.1, hs.2]; exact hg
  have hwf' : ∀ r ∈ x3.p.gs.rows ++ [g], r.genWF x3.p.nnc x3.p.dim := by
    intro r hr
    rcases List.mem_append.mp hr with hr | hr
    · exact hi.wf.gs_wf he3 hgu3 r hr
    · rw [List.mem_singleton.mp hr]; exact hg3
  have hpt' : ∃ r ∈ x3.p.gs.rows ++ [g], r.isPoint x3.p.nnc := by
    obtain ⟨r, hr, hpr⟩ := hi.wf.gs_pt he3 hgu3
    exact ⟨r, List.mem_append_left _ hr, hpr⟩
  have hgen : genSem x3.p.nnc x3.p.dim (x3.p.gs.rows ++ [g]) = S' := by
    rw [hs.1, hs.2]
    apply hS'
    rw [← hs.1, ← hs.2]
    exact (hi.den.2 he3).2.1 hgu3 hcp3
  by_cases hcan : x3.st.canPend = true
  · rw [if_pos hcan]
    have hcan' : x3.p.st.canPend = true := hcan
    have hcu3 := (legal_canPend_up hi.legal hcan').1
    exact ⟨Inv_pendG x3 S S' [g] hi he3 hgu3 hcp3 hcan'
      (wf_pendForm x3.p (x3.p.gs.insertPendingSys [g]) hi.wf he3 hgu3 hcp3 hcu3 hwf' hpt')
      (denotes_pendForm x3.p (x3.p.gs.insertPendingSys [g]) S' he3 hgu3 hgen), hs⟩
  · rw [if_neg hcan]
    have hcan' : x3.p.st.canPend = false := by simpa [FPoly.st] using hcan
    have hgp3 := (legal_not_canPend hi.legal hcan').2
    exact ⟨Inv_nonpendG x3 S S' (x3.p.gs.insertRow true x3.nnc g) hi he3 hgu3 hcan' rfl
      (wf_dropForm x3.p (x3.p.gs.insertRow true x3.nnc g) hi.wf hgu3 hgp3 hwf' hpt')
      (denotes_dropForm x3.p (x3.p.gs.insertRow true x3.nnc g) S' he3 hgu3 hgen), hs⟩

theorem genImgSet_empty_of_img (n v : Nat) (r : Rel) (e : LinExpr) (den : Int) (hden : den ≠ 0) (S : Set Val)
    (h : imgSet n v e den S = ∅) : genImgSet n v r e den S = ∅ := by
  ext w
  simp only [Set.mem_empty_iff_false, iff_false]
  rintro ⟨x, hx, _, hw⟩
  have : (fun j => if j = v then e.val x / (den : Rat) else x j) ∈ imgSet n v e den S := by
    refine ⟨x, hx, ?_, fun j _ hjv => ?_⟩
    · show (den : Rat) * (if v = v then e.val x / (den : Rat) else x v) = _
      have hd : (den : Rat) ≠ 0 := by exact_mod_cast hden
      rw [if_pos rfl]; field_simp
    · show (if j = v then _ else x j) = x j
      rw [if_neg hjv]
  rw [h] at this
  exact this

/-- the part of `generalized_affine_image` after `affine_image`, for `≤` (`s = -1`) and `≥` (`s = 1`) -/
theorem genAffineImage_tail (G : GlueFacts) (x1 : FPoly) (n v : Nat) (r : Rel) (e : LinExpr) (den : Int)
    (S : Set Val) (s : Int) (hs : s = 1 ∨ s = -1)
    (hrs : ∀ a b : Rat, 0 ≤ (s : Rat) * (a - b) ↔ Rel.holds r a b)
    (hden : den ≠ 0) (hdim : x1.p.dim = n) (hv : v < n) (hI : x1.Inv (imgSet n v e den S)) :
    (if x1.isEmpty.1 = true then x1.isEmpty.2
      else x1.isEmpty.2.addGenerator .ray (rayRow x1.isEmpty.2.dim v s)).Inv (genImgSet n v r e den S) ∧
    x1.SameShape (if x1.isEmpty.1 = true then x1.isEmpty.2
      else x1.isEmpty.2.addGenerator .ray (rayRow x1.isEmpty.2.dim v s)) := by
  obtain ⟨hsh, hi, hiff, hemp, hne⟩ := G.isEmpty x1 _ hI
  cases he1 : x1.isEmpty.1
  · simp only [Bool.false_eq_true, if_false]
    obtain ⟨hne2, _⟩ := hne he1
    have hSne : imgSet n v e den S ≠ ∅ := fun h => by
      rw [hiff.mpr h] at he1; cases he1
    have hd2 : x1.isEmpty.2.p.dim = n := by rw [hsh.2]; exact hdim
    obtain ⟨h1, h2⟩ := addGenerator_ray_refines G x1.isEmpty.2 _ (genImgSet n v r e den S)
      (rayRow x1.isEmpty.2.dim v s) hi hne2 (by rw [hd2]; exact Nat.lt_of_le_of_lt (Nat.zero_le _) hv) hSne
      (by show (rayRow x1.isEmpty.2.p.dim v s).genWF _ _
          exact rayRow_genWF _ _ v s (by rw [hd2]; exact hv))
      (by intro rows hrows
          show genSem _ _ (rows ++ [rayRow x1.isEmpty.2.p.dim v s]) = _
          rw [genSem_append_rayRow _ _ v s hs rows (by rw [hd2]; exact hv), hrows, hd2]
          exact genImgSet_of_ray n v r e den hden _ _ hrs)
    exact ⟨h1, h2.1.trans hsh.1, h2.2.trans hsh.2⟩
  · simp only [if_true]
    have hS1 := hiff.mp he1
    refine ⟨hi.change ?_, hsh⟩
    exact denotes_of_empty _ _ (hemp he1) (genImgSet_empty_of_img n v r e den hden S hS1)

/-- **`generalized_affine_image(var, relsym, expr, den)`, `relsym ∈ {≤, =, ≥}`**, relative to the
    refinement statement of `affine_image` on the same arguments (`hAI`). -/
theorem generalizedAffineImage_of_affineImage (G : GlueFacts) (x : FPoly) (ref : RefPoly) (v : Nat) (r : Rel)
    (e : LinExpr) (den : Int) (hn : ref.n = x.p.dim) (hwf : WF ref.n ref.cs)
    (hv : v < x.p.dim) (he : e.coeffs.length = x.p.dim) (hden : den ≠ 0)
    (hr : r = .le ∨ r = .eq ∨ r = .ge)
    (hAI : (x.affineImage v e den).Inv (sem (ref.affineImage v e den).cs) ∧ x.SameShape (x.affineImage v e den)) :
    (x.generalizedAffineImage v r e den).Inv (sem (ref.genAffineImage v r e den).cs) ∧
      x.SameShape (x.generalizedAffineImage v r e den) := by
  have hv' : v < ref.n := by rw [hn]; exact hv
  have he' : e.coeffs.length ≤ ref.n := by rw [hn]; exact le_of_eq he
  rw [sem_genAffineImage ref v r e den hwf hv' he' hden]
  rw [sem_affineImage ref v e den hwf hv' he'] at hAI
  obtain ⟨hI, hsh⟩ := hAI
  have hdim1 : (x.affineImage v e den).p.dim = ref.n := by rw [hsh.2, hn]
  unfold FPoly.generalizedAffineImage
  rcases hr with rfl | rfl | rfl
  · have hb : (Rel.le == Rel.le) = true := rfl
    simp only [hb, if_true]
    obtain ⟨h1, h2⟩ := genAffineImage_tail G (x.affineImage v e den) ref.n v .le e den (sem ref.cs) (-1)
      (Or.inr rfl) (fun a b => by
        show _ ↔ a ≤ b
        constructor
        · intro hh; push_cast at hh; linarith
        · intro hh; push_cast; linarith) hden hdim1 hv' hI
    exact ⟨h1, h2.1.trans hsh.1, h2.2.trans hsh.2⟩
  · simp only []
    rw [genImgSet_eq _ _ _ _ hden]
    exact ⟨hI, hsh⟩
  · have hb : (Rel.ge == Rel.le) = false := rfl
    simp only [hb, Bool.false_eq_true, if_false]
    obtain ⟨h1, h2⟩ := genAffineImage_tail G (x.affineImage v e den) ref.n v .ge e den (sem ref.cs) 1
      (Or.inl rfl) (fun a b => by
        show _ ↔ b ≤ a
        constructor
        · intro hh; push_cast at hh; linarith
        · intro hh; push_cast; linarith) hden hdim1 hv' hI
    exact ⟨h1, h2.1.trans hsh.1, h2.2.trans hsh.2⟩

/-- **`generalized_affine_image`, `relsym ∈ {≤, =, ≥}`, the whole object.**  PARTIAL exactly as
    `affineImage_refines_partial`: `hLow`, `hNPc`, `hNPg`, `hEng` are the fields `low`, `denNPc`, `denNPg`,
    `eng` of the intermediate `x.affineImage v e den` in the invertible case on a receiver not marked
    empty.  The tail (`is_empty()`, `add_generator(ray)`) is fully proved. -/
theorem generalizedAffineImage_refines_partial (G : GlueFacts) (x : FPoly) (ref : RefPoly) (v : Nat) (r : Rel)
    (e : LinExpr) (den : Int) (hn : ref.n = x.p.dim) (hnnc : ref.nnc = x.p.nnc) (hwf : WF ref.n ref.cs)
    (hv : v < x.p.dim) (he : e.coeffs.length = x.p.dim) (hden : den ≠ 0) (hx : x.Inv (sem ref.cs))
    (hr : r = .le ∨ r = .eq ∨ r = .ge)
    (hLow : e.coeffs.getD v 0 ≠ 0 → x.p.st.empty = false → (x.affineImage v e den).p.st.cUp = true →
      LowLevel (x.affineImage v e den).p.nnc (x.affineImage v e den).p.dim (x.affineImage v e den).p.cs.rows)
    (hNPc : e.coeffs.getD v 0 ≠ 0 → x.p.st.empty = false → (x.affineImage v e den).p.st.cPend = true →
      genSem (x.affineImage v e den).p.nnc (x.affineImage v e den).p.dim (x.affineImage v e den).p.gs.rows =
        conSem (x.affineImage v e den).p.nnc (x.affineImage v e den).npC)
    (hNPg : e.coeffs.getD v 0 ≠ 0 → x.p.st.empty = false → (x.affineImage v e den).p.st.gPend = true →
      conSem (x.affineImage v e den).p.nnc (x.affineImage v e den).p.cs.rows =
        genSem (x.affineImage v e den).p.nnc (x.affineImage v e den).p.dim (x.affineImage v e den).npG)
    (hEng : e.coeffs.getD v 0 ≠ 0 → x.p.st.empty = false → (x.affineImage v e den).p.st.canPend = true →
      EnginePair (x.affineImage v e den).p.nnc (x.affineImage v e den).p.dim (x.affineImage v e den).npC
        (x.affineImage v e den).npG (x.affineImage v e den).p.st.satC (x.affineImage v e den).p.st.satG
        (x.affineImage v e den).satC (x.affineImage v e den).satG) :
    (x.generalizedAffineImage v r e den).Inv (sem (ref.genAffineImage v r e den).cs) ∧
      x.SameShape (x.generalizedAffineImage v r e den) :=
  generalizedAffineImage_of_affineImage G x ref v r e den hn hwf hv he hden hr
    (affineImage_refines_partial G x ref v e den hn hnnc hwf hv he hden hx hLow hNPc hNPg hEng)

/-- non-invertible `generalized_affine_image` (`≤ = ≥`): fully proved -/
theorem generalizedAffineImage_refines_noninv (G : GlueFacts) (x : FPoly) (ref : RefPoly) (v : Nat) (r : Rel)
    (e : LinExpr) (den : Int) (hn : ref.n = x.p.dim) (hnnc : ref.nnc = x.p.nnc) (hwf : WF ref.n ref.cs)
    (hv : v < x.p.dim) (he : e.coeffs.length = x.p.dim) (hden : den ≠ 0) (hx : x.Inv (sem ref.cs))
    (hr : r = .le ∨ r = .eq ∨ r = .ge) (hc : e.coeffs.getD v 0 = 0) :
    (x.generalizedAffineImage v r e den).Inv (sem (ref.genAffineImage v r e den).cs) ∧
      x.SameShape (x.generalizedAffineImage v r e den) :=
  generalizedAffineImage_of_affineImage G x ref v r e den hn hwf hv he hden hr
    (affineImage_refines_noninv G x ref v e den hn hnnc hwf hv he hden hx hc)

end PPLV.PolyFull

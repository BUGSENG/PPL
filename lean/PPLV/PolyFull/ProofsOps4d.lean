import PPLV.PolyFull.ProofsOpsTimeElapse

/-!
# `time_elapse_assign` refines `timeElapseGens`
-/
namespace PPLV.PolyFull
open PPLV.Lin PPLV.PolyOps

/-- `time_elapse_main` for the system the model builds -/
theorem time_elapse_main' (x y : FPoly) (S Sy S' : Set Val) (hx : x.Inv S) (hy : y.Inv Sy)
    (hdim : y.p.dim = x.p.dim) (hnnc : y.p.nnc = x.p.nnc)
    (hex : x.p.st.empty = false) (hey : y.p.st.empty = false) (hd : x.p.dim ≠ 0)
    (hgx : x.p.st.gUp = true) (hcx : x.p.st.cPend = false) (hgy : y.p.st.gUp = true)
    (hcy : y.p.st.cPend = false)
    (hden : ∀ q, x.p.time_elapse_assign y.p = some q → q.Denotes S')
    (t : List Row) (alt : Sys) (halt : alt.firstPending = alt.rows.length) :
    (x.liftO (x.p.time_elapse_assign y.p)).Inv S' ∧
    ({ x.liftO (x.p.time_elapse_assign y.p) with
        p := { (x.liftO (x.p.time_elapse_assign y.p)).p with
          gs := (x.liftO (x.p.time_elapse_assign y.p)).p.gs.refineBy
            (if x.st.canPend then x.p.gs.insertPendingSys t else alt) } } : FPoly).Inv S' ∧
    (x.liftO (x.p.time_elapse_assign y.p)).p.nnc = x.p.nnc ∧
    (x.liftO (x.p.time_elapse_assign y.p)).p.dim = x.p.dim := by
  apply time_elapse_main x y S Sy S' _ hx hy hdim hnnc hex hey hd hgx hcx hgy hcy hden
  · intro h
    exact ⟨t, by unfold FPoly.st; rw [h]; rfl⟩
  · intro h
    unfold FPoly.st; rw [h]; exact halt

/-- **`Polyhedron::time_elapse_assign(y)`, the whole object** (preparation by `needGens` on both operands,
    the row-level operator, the loop over the copy of `y`'s generators in its order, the exact row
    order), under the hypotheses of `C02.time_elapse_assign_rows_correct_nnc`; the geometric invariant
    `NNCInvW` is asked of the generator rows of the PREPARED argument `y.needGens.2` (the rows the loop
    reads; in dimension 0 no row is read and the hypothesis is not used). -/
theorem timeElapseAssign_refines (G : GlueFacts) (x y : FPoly) (n : Nat) (gx gy : List Gen)
    (hxn : x.p.dim = n) (hyn : y.p.dim = n) (hnnc : y.p.nnc = x.p.nnc)
    (hwx : gensWF n gx = true) (hwy : gensWF n gy = true)
    (hpx : ∃ g ∈ gx, g.isPt = true) (hpy : ∃ g ∈ gy, g.isPt = true)
    (hinv : x.p.nnc = true → NNCInvW n y.needGens.2.p.gs.rows)
    (hx : x.Inv (GenSem n gx)) (hy : y.Inv (GenSem n gy)) :
    (x.timeElapseAssign y).1.Inv (GenSem n (timeElapseGens gx gy)) ∧
    (x.timeElapseAssign y).2.Inv (GenSem n gy) ∧
    x.SameShape (x.timeElapseAssign y).1 ∧ y.SameShape (x.timeElapseAssign y).2 := by
  have hnex := nonempty_of_pt n gx hpx
  have hney := nonempty_of_pt n gy hpy
  have hex : x.p.st.empty = false := by
    cases he : x.p.st.empty
    · rfl
    · rw [hx.den.1 he] at hnex; exact absurd hnex Set.not_nonempty_empty
  have hey : y.p.st.empty = false := by
    cases he : y.p.st.empty
    · rfl
    · rw [hy.den.1 he] at hney; exact absurd hney Set.not_nonempty_empty
  unfold FPoly.timeElapseAssign
  by_cases hd0 : (x.dim == 0) = true
  · rw [if_pos hd0]
    have hd : x.p.dim = 0 := by simpa [FPoly.dim] using hd0
    simp only [FPoly.st, hey, Bool.false_eq_true, if_false]
    refine ⟨?_, hy, ⟨rfl, rfl⟩, rfl, rfl⟩
    have hn0 : n = 0 := by rw [← hxn]; exact hd
    subst hn0
    have hux := (hx.den.2 hex).2.2 (hx.wf.zero_dim hd).1 (hx.wf.zero_dim hd).2
    have : GenSem 0 (timeElapseGens gx gy) = GenSem 0 gx := by
      rw [hux, timeElapseGens_eq]
      obtain ⟨g, hg, hp⟩ := hpx
      exact GenSem_zero_univ _ ⟨g, List.mem_append_left _ hg, hp⟩
    rw [this]; exact hx
  rw [if_neg hd0, if_neg (by simp [FPoly.st, hex, hey])]
  have hd : x.p.dim ≠ 0 := by simpa [FPoly.dim] using hd0
  have hdp : 0 < x.p.dim := Nat.pos_of_ne_zero hd
  obtain ⟨hsx, hix, hx1, hx0⟩ := G.needGens x _ hx hex hdp
  obtain ⟨hsy, hiy, hy1, hy0⟩ := G.needGens y _ hy hey (by rw [hyn, ← hxn]; exact hdp)
  cases hbx : x.needGens.1
  swap
  · rw [(hx1 hbx).1] at hnex; exact absurd hnex Set.not_nonempty_empty
  cases hby : y.needGens.1
  swap
  · rw [(hy1 hby).1] at hney; exact absurd hney Set.not_nonempty_empty
  obtain ⟨hex1, hgx1, hcx1⟩ := hx0 hbx
  obtain ⟨hey1, hgy1, hcy1⟩ := hy0 hby
  have hxn1 : x.needGens.2.p.dim = n := hsx.2.trans hxn
  have hyn1 : y.needGens.2.p.dim = n := hsy.2.trans hyn
  have hnnc2 : y.needGens.2.p.nnc = x.needGens.2.p.nnc := hsy.1.trans (hnnc.trans hsx.1.symm)
  have M := time_elapse_main' x.needGens.2 y.needGens.2 _ _ (GenSem n (timeElapseGens gx gy)) hix hiy
    (hyn1.trans hxn1.symm) hnnc2 hex1 hey1 (by rw [hxn1, ← hxn]; exact hd) hgx1 hcx1 hgy1 hcy1
    (fun q h => time_elapse_assign_rows_correct_nnc _ _ q n gx gy hxn1 hyn1 hnnc2 hix.wf hiy.wf hwx hwy hpx hpy
      (fun h => hinv (hsx.1 ▸ h)) hix.den hiy.den h)
  simp only [hbx, hby, Bool.false_eq_true, if_false]
  split
  · obtain ⟨a, _, b, c⟩ := M [] (x.needGens.2.p.gs.mergeRowsExact true false []) rfl
    exact ⟨a, hiy, ⟨b.trans hsx.1, c.trans hsx.2⟩, hsy⟩
  · have M2 := fun t alt h => (M t alt h).2
    have M3 := (M2 [] (x.needGens.2.p.gs.mergeRowsExact true false []) rfl).2
    refine ⟨(M2 _ _ ?_).1, hiy, ⟨M3.1.trans hsx.1, M3.2.trans hsx.2⟩, hsy⟩
    rfl

/-- **`Polyhedron::time_elapse_assign(y)` when an operand denotes the empty set** (whether or not it is
    marked empty): the receiver becomes the empty polyhedron. -/
theorem timeElapseAssign_refines_empty (G : GlueFacts) (x y : FPoly) (Sx Sy : Set Val)
    (hdim : y.p.dim = x.p.dim) (hx : x.Inv Sx) (hy : y.Inv Sy) (he : Sx = ∅ ∨ Sy = ∅) :
    (x.timeElapseAssign y).1.Inv ∅ ∧ (x.timeElapseAssign y).2.Inv Sy ∧
    x.SameShape (x.timeElapseAssign y).1 ∧ y.SameShape (x.timeElapseAssign y).2 := by
  have huniv : (Set.univ : Set Val) ≠ ∅ := fun h => by
    have : (fun _ => 0 : Val) ∈ (∅ : Set Val) := by rw [← h]; trivial
    exact this
  have hzero : ∀ (z : FPoly) (S : Set Val), z.Inv S → z.p.dim = 0 → z.p.st.empty = false → S ≠ ∅ := by
    intro z S hz hd hze hS
    have := (hz.den.2 hze).2.2 (hz.wf.zero_dim hd).1 (hz.wf.zero_dim hd).2
    exact huniv (this ▸ hS)
  unfold FPoly.timeElapseAssign
  by_cases hd0 : (x.dim == 0) = true
  · rw [if_pos hd0]
    have hd : x.p.dim = 0 := by simpa [FPoly.dim] using hd0
    cases hey : y.p.st.empty
    · simp only [FPoly.st, hey, Bool.false_eq_true, if_false]
      have hSy := hzero y Sy hy (hdim.trans hd) hey
      have hSx : Sx = ∅ := he.resolve_right hSy
      exact ⟨hSx ▸ hx, hy, ⟨rfl, rfl⟩, rfl, rfl⟩
    · simp only [FPoly.st, hey, if_true]
      exact ⟨Inv_setEmpty x ∅ hx.wf rfl, hy, ⟨rfl, rfl⟩, rfl, rfl⟩
  rw [if_neg hd0]
  by_cases hee : (x.st.empty || y.st.empty) = true
  · rw [if_pos hee]
    exact ⟨Inv_setEmpty x ∅ hx.wf rfl, hy, ⟨rfl, rfl⟩, rfl, rfl⟩
  rw [if_neg hee]
  simp only [FPoly.st, Bool.or_eq_true, not_or, Bool.not_eq_true] at hee
  obtain ⟨hex, hey⟩ := hee
  have hd : x.p.dim ≠ 0 := by simpa [FPoly.dim] using hd0
  have hdp : 0 < x.p.dim := Nat.pos_of_ne_zero hd
  obtain ⟨hsx, hix, hx1, hx0⟩ := G.needGens x _ hx hex hdp
  obtain ⟨hsy, hiy, hy1, hy0⟩ := G.needGens y _ hy hey (by rw [hdim]; exact hdp)
  cases hbx : x.needGens.1
  swap
  · simp only [hbx, if_true]
    exact ⟨Inv_setEmpty _ ∅ hix.wf rfl, hy, hsx, rfl, rfl⟩
  cases hby : y.needGens.1
  swap
  · simp only [hbx, hby, Bool.false_eq_true, if_false, if_true]
    exact ⟨Inv_setEmpty _ ∅ hix.wf rfl, hiy, hsx, hsy⟩
  exfalso
  obtain ⟨hex1, hgx1, hcx1⟩ := hx0 hbx
  obtain ⟨hey1, hgy1, hcy1⟩ := hy0 hby
  have h1 := (denotes_gen_nonempty _ _ hix.wf hex1 hgx1 hcx1 hix.den).2
  have h2 := (denotes_gen_nonempty _ _ hiy.wf hey1 hgy1 hcy1 hiy.den).2
  rcases he with h | h
  · rw [h] at h1; exact Set.not_nonempty_empty h1
  · rw [h] at h2; exact Set.not_nonempty_empty h2

end PPLV.PolyFull


import PPLV.PolyFull.ProofsStatus4
import PPLV.PolyFull.ProofsLegal

/-!
# legality of the status word the full model leaves (private helpers)

`Sim.legalB`: on states whose stored parts agree, the legality table of the status-protocol model
(`statusOK ∧ polyOK`) IS the one of the full model's specification (`statusLegalB`).
`f_status_legal`: if the abstract state satisfies the protocol invariant and its ghost Booleans / the ghost
inputs are what the full model computes (`…Ghost`), the state the full helper leaves is simulated by an
abstract state satisfying the invariant, hence its status word is legal (`LegalOut`).  Each is the
simulation lemma + the per-function lemma behind `C01.status_inv`, with that lemma's precondition stated
on the full state.
-/
namespace PPLV.PolyFull
open PPLV.PolyOps
open PPLV.PolyStatus (PState Gh)

/-- the legality table of the status-protocol model is the one of the full model's specification -/
theorem Sim.legalB {x : FPoly} {s : PState} (h : Sim x s) :
    (s.statusOK = true ∧ s.polyOK = true) ↔ statusLegalB x.p.st x.p.dim = true := by
  obtain ⟨⟨nnc, dim, ⟨e, cu, gu, cm, gm, sc, sg, cp, gp⟩, cs, gs⟩, mC, mG⟩ := x
  sim_hyps h
  simp only [PState.statusOK, PState.polyOK, PState.ze, pst, statusLegalB, Status.canPend, h1, h2, h3, h4, h5, h6, h7,
    h8, h9, h10]
  simp only [bne]
  generalize (dim == 0) = z
  clear h1 h2 h3 h4 h5 h6 h7 h8 h9 h10 h11 h12 h13
  revert e cu gu cm gm sc sg cp gp z
  decide

theorem Inv.legal {s : PState} (hi : PPLV.PolyStatus.Inv s) : s.statusOK = true ∧ s.polyOK = true := by
  simp only [PPLV.PolyStatus.Inv, PState.invB, Bool.and_eq_true] at hi
  exact ⟨hi.1.1, hi.1.2⟩

/-- the full state `y` is simulated by an abstract state satisfying the protocol invariant; its status word
    is legal -/
structure LegalOut (y : FPoly) (t : PState) : Prop where
  sim : Sim y t
  inv : PPLV.PolyStatus.Inv t
  legal : statusLegalB y.p.st y.p.dim = true

theorem LegalOut.of {y : FPoly} {t : PState} (hs : Sim y t) (hi : PPLV.PolyStatus.Inv t) : LegalOut y t :=
  ⟨hs, hi, hs.legalB.1 (Inv.legal hi)⟩

/-- computing a saturation matrix where both descriptions are up to date keeps the protocol invariant: every
    clause of the new state is a clause of the old one, but "pending ⇒ minimized and a `sat` bit", which is weaker -/
theorem inv_updateSat (s : PState) (hi : PPLV.PolyStatus.Inv s) (a : s.b .em = false) (b : s.b .cup = true)
    (c : s.b .gup = true) :
    PPLV.PolyStatus.Inv (PPLV.PolyStatus.updateSatC s) ∧ PPLV.PolyStatus.Inv (PPLV.PolyStatus.updateSatG s) := by
  simp only [PPLV.PolyStatus.Inv, PState.invB, PState.statusOK, PState.polyOK, PState.semOK, pst, a, b, c,
    reduceCtorEq, if_false, if_true, Bool.or_true, Bool.true_or, Bool.not_true, Bool.false_eq_true, Bool.and_true,
    Bool.true_and, Bool.not_false, Bool.or_false, Bool.and_eq_true] at hi ⊢
  obtain ⟨⟨⟨⟨⟨⟨_, h2⟩, h3⟩, h4⟩, h5⟩, h6⟩, h7⟩ := hi
  have h5' : (!(s.b .cpend || s.b .gpend) || s.b .cmin && s.b .gmin) = true := by
    revert h5
    cases s.b .cpend || s.b .gpend <;> cases s.b .cmin && s.b .gmin <;> simp
  exact ⟨⟨⟨⟨⟨⟨h2, h3⟩, h4⟩, h5'⟩, h6⟩, ⟨⟨⟨h7.1.1.1.1, h7.1.1.2⟩, h7.1.2⟩, h7.2⟩⟩,
    ⟨⟨⟨⟨⟨h2, h3⟩, h4⟩, h5'⟩, h6⟩, ⟨⟨⟨h7.1.1.1.1, h7.1.1.1.2⟩, h7.1.2⟩, h7.2⟩⟩⟩

section
variable (x : FPoly) (s : PState) (g : Gh) (h : Sim x s) (hi : PPLV.PolyStatus.Inv s)
include h hi

theorem updateSatC_status_legal (he : x.p.st.empty = false) (hc : x.p.st.cUp = true) (hgu : x.p.st.gUp = true) :
    LegalOut x.updateSatC (PPLV.PolyStatus.updateSatC s) :=
  .of (updateSatC_sim x s h) (inv_updateSat s hi (h.em.trans he) (h.cup.trans hc) (h.gup.trans hgu)).1

theorem updateSatG_status_legal (he : x.p.st.empty = false) (hc : x.p.st.cUp = true) (hgu : x.p.st.gUp = true) :
    LegalOut x.updateSatG (PPLV.PolyStatus.updateSatG s) :=
  .of (updateSatG_sim x s h) (inv_updateSat s hi (h.em.trans he) (h.cup.trans hc) (h.gup.trans hgu)).2

theorem obtainSortedConstraints_status_legal (he : x.p.st.empty = false) (hc : x.p.st.cUp = true) :
    LegalOut x.obtainSortedConstraints (PPLV.PolyStatus.obtainSortedConstraints s) :=
  .of (obtainSortedConstraints_sim x s h)
    (PPLV.PolyStatus.osc_spec s hi (h.cup.trans hc) (h.em.trans he)).1

theorem obtainSortedGenerators_status_legal (he : x.p.st.empty = false) (hgu : x.p.st.gUp = true) :
    LegalOut x.obtainSortedGenerators (PPLV.PolyStatus.obtainSortedGenerators s) :=
  .of (obtainSortedGenerators_sim x s h)
    (PPLV.PolyStatus.osg_spec s hi (h.gup.trans hgu) (h.em.trans he)).1

theorem obtainSortedConstraintsWithSatC_status_legal (he : x.p.st.empty = false) (hc : x.p.st.cUp = true)
    (hgu : x.p.st.gUp = true) :
    LegalOut x.obtainSortedConstraintsWithSatC (PPLV.PolyStatus.obtainSortedConstraintsWithSatC s) :=
  .of (obtainSortedConstraintsWithSatC_sim x s h)
    (PPLV.PolyStatus.oscs_spec s hi (h.cup.trans hc) (h.gup.trans hgu) (h.em.trans he)).1

theorem obtainSortedGeneratorsWithSatG_status_legal (he : x.p.st.empty = false) (hc : x.p.st.cUp = true)
    (hgu : x.p.st.gUp = true) :
    LegalOut x.obtainSortedGeneratorsWithSatG (PPLV.PolyStatus.obtainSortedGeneratorsWithSatG s) :=
  .of (obtainSortedGeneratorsWithSatG_sim x s h)
    (PPLV.PolyStatus.osgs_spec s hi (h.cup.trans hc) (h.gup.trans hgu) (h.em.trans he)).1

theorem updateConstraints_status_legal (he : x.p.st.empty = false) (hd : x.p.dim ≠ 0) (hgu : x.p.st.gUp = true)
    (hcp : x.p.st.cPend = false) (hgp : x.p.st.gPend = false) (hg : UcGhost x g) :
    LegalOut x.updateConstraints (PPLV.PolyStatus.updateConstraints g s) :=
  .of (updateConstraints_sim x s g h hg)
    (PPLV.PolyStatus.updateConstraints_spec g s hi (h.em.trans he) (by rw [h.dim]; exact hd) (h.gup.trans hgu)
      (h.cpend.trans hcp) (h.gpend.trans hgp)).1

theorem updateGenerators_status_legal (he : x.p.st.empty = false) (hd : x.p.dim ≠ 0) (hc : x.p.st.cUp = true)
    (hcp : x.p.st.cPend = false) (hgp : x.p.st.gPend = false) (hg : UgGhost x g s) :
    LegalOut x.updateGenerators.2 (PPLV.PolyStatus.updateGenerators g s).2
    ∧ (PPLV.PolyStatus.updateGenerators g s).1 = x.updateGenerators.1 :=
  ⟨.of (updateGenerators_sim' x s g h hg).2
    (PPLV.PolyStatus.updateGenerators_spec g s hi (h.em.trans he) (by rw [h.dim]; exact hd) (h.cup.trans hc)
      (h.cpend.trans hcp) (h.gpend.trans hgp)).1, (updateGenerators_sim' x s g h hg).1⟩

theorem processPendingConstraints_status_legal (hcp : x.p.st.cPend = true) (hg : PpcGhost x.ppcPrep g s) :
    LegalOut x.processPendingConstraints.2 (PPLV.PolyStatus.processPendingConstraints g s).2
    ∧ (PPLV.PolyStatus.processPendingConstraints g s).1 = x.processPendingConstraints.1 :=
  ⟨.of (processPendingConstraints_sim x s g h hg).2 (PPLV.PolyStatus.ppc_spec g s hi (h.cpend.trans hcp)).1,
    (processPendingConstraints_sim x s g h hg).1⟩

theorem processPendingGenerators_status_legal (hgp : x.p.st.gPend = true) (hg : PpgGhost x.ppgPrep g s) :
    LegalOut x.processPendingGenerators (PPLV.PolyStatus.processPendingGenerators g s) :=
  .of (processPendingGenerators_sim x s g h hg) (PPLV.PolyStatus.ppg_spec g s hi (h.gpend.trans hgp)).1

omit hi in
theorem hasPending_of (hp : x.p.st.somethingPending = true) : s.hasSomethingPending = true := by
  have a := h.cpend; have b := h.gpend
  simp only [Status.somethingPending] at hp
  simp only [PState.hasSomethingPending, PState.cpend, PState.gpend, a, b]; exact hp

theorem removePendingToObtainConstraints_status_legal (hp : x.p.st.somethingPending = true)
    (hg : RpcGhost x g s) :
    LegalOut x.removePendingToObtainConstraints (PPLV.PolyStatus.removePendingToObtainConstraints g s) :=
  .of (removePendingToObtainConstraints_sim x s g h hg)
    (PPLV.PolyStatus.removePendingToObtainConstraints_spec g s hi (hasPending_of x s h hp)).1

theorem removePendingToObtainGenerators_status_legal (hp : x.p.st.somethingPending = true)
    (hg : RpgGhost x g s) :
    LegalOut x.removePendingToObtainGenerators.2 (PPLV.PolyStatus.removePendingToObtainGenerators g s).2
    ∧ (PPLV.PolyStatus.removePendingToObtainGenerators g s).1 = x.removePendingToObtainGenerators.1 :=
  ⟨.of (removePendingToObtainGenerators_sim x s g h hg).2
    (PPLV.PolyStatus.removePendingToObtainGenerators_spec g s hi (hasPending_of x s h hp)).1,
    (removePendingToObtainGenerators_sim x s g h hg).1⟩

theorem processPending_status_legal (hp : x.p.st.somethingPending = true) (hg : PpGhost x g s) :
    LegalOut x.processPending.2 (PPLV.PolyStatus.processPending g s).2
    ∧ (PPLV.PolyStatus.processPending g s).1 = x.processPending.1 :=
  ⟨.of (processPending_sim x s g h hg).2 (PPLV.PolyStatus.processPending_spec g s hi (hasPending_of x s h hp)).1,
    (processPending_sim x s g h hg).1⟩

theorem minimize_status_legal' (hg : MinGhost x g s) :
    LegalOut x.minimize.2 (PPLV.PolyStatus.minimize g s).2
    ∧ (PPLV.PolyStatus.minimize g s).1 = x.minimize.1 :=
  ⟨.of (minimize_sim x s g h hg).2 (PPLV.PolyStatus.minimize_spec g s hi).1, (minimize_sim x s g h hg).1⟩

theorem isEmpty_status_legal' (hg : IsEmptyGhost x g s) :
    LegalOut x.isEmpty.2 (PPLV.PolyStatus.isEmpty g s).2 ∧ (PPLV.PolyStatus.isEmpty g s).1 = x.isEmpty.1 :=
  ⟨.of (isEmpty_sim x s g h hg).2 (PPLV.PolyStatus.isEmpty_spec g s hi).1, (isEmpty_sim x s g h hg).1⟩

theorem needCons_status_legal' (he : x.p.st.empty = false) (hd : x.p.dim ≠ 0) (hg : NeedConsGhost x g s) :
    LegalOut x.needCons (PPLV.PolyStatus.needCons g s) :=
  .of (needCons_sim x s g h hg)
    (PPLV.PolyStatus.needCons_spec g s hi (h.em.trans he) (by rw [h.dim]; exact hd)).1

/-- `CS_PENDING → G_UP_TO_DATE` on a legal status word -/
theorem cPend_gUp_of_inv (hc : x.p.st.cPend = true) : x.p.st.gUp = true :=
  (((legal_iff _ _).1 (h.legalB.1 (Inv.legal hi))).of_pend (Or.inl hc)).2.1

theorem needGens_status_legal (he : x.p.st.empty = false) (hd : x.p.dim ≠ 0) (hg : NeedGensGhost x g s) :
    LegalOut x.needGens.2 (PPLV.PolyStatus.needGens g s).2
    ∧ (PPLV.PolyStatus.needGens g s).1 = x.needGens.1 := by
  have m := needGens_sim x s g h (cPend_gUp_of_inv x s h hi) hg
  exact ⟨.of m.2 (PPLV.PolyStatus.needGens_spec g s hi (h.em.trans he) (by rw [h.dim]; exact hd)).1, m.1⟩

end

end PPLV.PolyFull

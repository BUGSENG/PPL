import PPLV.PolyFull.ProofsOpsDims

/-!
# the low-level constraints survive `set_space_dimension` (zero columns added)
-/
namespace PPLV.PolyFull
open PPLV.Lin PPLV.PolyOps
open PPLV.Conv (holdsAll holds scalarProduct Vec)

theorem sp_nilR (a : Vec) : scalarProduct a [] = 0 := by cases a <;> rfl
theorem sp_nilL (x : Vec) : scalarProduct [] x = 0 := by cases x <;> rfl

theorem sp_append (a b x : Vec) :
    scalarProduct (a ++ b) x = scalarProduct a x + scalarProduct b (x.drop a.length) := by
  induction a generalizing x with
  | nil => simp [sp_nilL]
  | cons h t ih =>
    cases x with
    | nil => simp [sp_nilR]
    | cons y ys =>
      simp only [List.cons_append, scalarProduct, List.length_cons, List.drop_succ_cons]
      rw [ih]; ring

theorem sp_replicate_zero (m : Nat) (x : Vec) : scalarProduct (List.replicate m 0) x = 0 := by
  induction m generalizing x with
  | zero => simp [sp_nilL]
  | succ k ih =>
    cases x with
    | nil => simp [sp_nilR]
    | cons y ys => simp [List.replicate_succ, scalarProduct, ih]

theorem sp_single_drop (e : Int) (x : Vec) (j : Nat) : scalarProduct [e] (x.drop j) = e * x.getD j 0 := by
  induction j generalizing x with
  | zero =>
    cases x with
    | nil => simp [sp_nilR]
    | cons y ys => simp [scalarProduct]
  | succ k ih =>
    cases x with
    | nil => simp [sp_nilR]
    | cons y ys => simpa using ih ys

/-- the first `k` columns of `x`, padded with zeros -/
def padTake (k : Nat) (x : Vec) : Vec := (List.range k).map fun i => x.getD i 0

theorem padTake_length (k : Nat) (x : Vec) : (padTake k x).length = k := by simp [padTake]

theorem padTake_succ (k : Nat) (y : Int) (ys : Vec) : padTake (k + 1) (y :: ys) = y :: padTake k ys := by
  unfold padTake
  rw [List.range_succ_eq_map]
  simp [List.map_map, Function.comp_def]

theorem padTake_succ_nil (k : Nat) : padTake (k + 1) [] = 0 :: padTake k [] := by
  unfold padTake
  rw [List.range_succ_eq_map]
  simp [List.map_map, Function.comp_def]

theorem sp_padTake (a x : Vec) (k : Nat) (h : a.length ≤ k) :
    scalarProduct a (padTake k x) = scalarProduct a x := by
  induction a generalizing x k with
  | nil => simp [sp_nilL]
  | cons h t ih =>
    cases k with
    | zero => simp at h
    | succ k =>
      cases x with
      | nil =>
        rw [padTake_succ_nil, sp_nilR]
        simp only [scalarProduct, mul_zero, zero_add]
        rw [ih [] k (by simpa using h), sp_nilR]
      | cons y ys =>
        rw [padTake_succ]
        simp only [scalarProduct]
        rw [ih ys k (by simpa using h)]

/-- the column vector seen by the rows before the zero columns were added -/
def squeeze (nnc : Bool) (n m : Nat) (x : Vec) : Vec :=
  padTake (n + 1) x ++ (if nnc then [x.getD (n + m + 1) 0] else [])

theorem squeeze_length (nnc : Bool) (n m : Nat) (x : Vec) : (squeeze nnc n m x).length = numCols nnc n := by
  unfold squeeze numCols
  cases nnc <;> simp [padTake_length]

theorem squeeze_getD_zero (nnc : Bool) (n m : Nat) (x : Vec) : (squeeze nnc n m x).getD 0 0 = x.getD 0 0 := by
  unfold squeeze padTake
  rw [List.range_succ_eq_map]
  simp

theorem squeeze_getD_eps (n m : Nat) (x : Vec) : (squeeze true n m x).getD (n + 1) 0 = x.getD (n + m + 1) 0 := by
  unfold squeeze
  simp only [if_true]
  rw [List.getD_eq_getElem?_getD, List.getElem?_append_right (by rw [padTake_length]), padTake_length]
  simp

theorem sp_append_right (a p e : Vec) (h : a.length ≤ p.length) :
    scalarProduct a (p ++ e) = scalarProduct a p := by
  induction a generalizing p with
  | nil => simp [sp_nilL]
  | cons h t ih =>
    cases p with
    | nil => simp at h
    | cons y ys =>
      simp only [List.cons_append, scalarProduct]
      rw [ih ys (by simpa using h)]

theorem sp_toL_addZeroCols (nnc : Bool) (n m : Nat) (r : Row) (x : Vec) (hr : r.cf.length = n) :
    scalarProduct (toL nnc (r.addZeroCols m)).v x = scalarProduct (toL nnc r).v (squeeze nnc n m x) := by
  have hl : (r.b :: r.cf).length = n + 1 := by simp [hr]
  have hp : (r.b :: r.cf).length ≤ (padTake (n + 1) x).length := by rw [padTake_length, hl]
  cases nnc
  · unfold toL Row.addZeroCols squeeze
    simp only [Bool.false_eq_true, if_false, List.append_nil]
    rw [← List.cons_append, sp_append, sp_replicate_zero, sp_padTake _ _ _ (le_of_eq hl), add_zero]
  · unfold toL Row.addZeroCols squeeze
    simp only [if_true]
    rw [← List.cons_append, ← List.cons_append, ← List.cons_append, sp_append, sp_append, sp_append,
      sp_replicate_zero, sp_append_right _ _ _ hp, sp_padTake _ _ _ (le_of_eq hl), hl,
      List.drop_append_of_le_length (by rw [padTake_length])]
    have : (padTake (n + 1) x).drop (n + 1) = [] := by
      apply List.drop_eq_nil_of_le; rw [padTake_length]
    rw [this, List.length_append, hl, List.length_replicate, sp_single_drop,
      show n + 1 + m = n + m + 1 by omega]
    simp [scalarProduct]

theorem holds_toL_addZeroCols (nnc : Bool) (n m : Nat) (r : Row) (x : Vec) (hr : r.cf.length = n) :
    holds (toL nnc (r.addZeroCols m)) x ↔ holds (toL nnc r) (squeeze nnc n m x) := by
  unfold holds
  rw [sp_toL_addZeroCols nnc n m r x hr]
  rfl

/-- `LowLevel` after `m` zero columns were added to every row -/
theorem LowLevel_addZeroCols (nnc : Bool) (n m : Nat) (cs : List Row) (hlen : ∀ r ∈ cs, r.cf.length = n)
    (h : LowLevel nnc n cs) : LowLevel nnc (n + m) (cs.map (Row.addZeroCols m)) := by
  intro x _ hx
  have h1 := h (squeeze nnc n m x) (le_of_eq (squeeze_length nnc n m x)) (by
    intro l hl
    obtain ⟨r, hr, rfl⟩ := List.mem_map.mp hl
    exact (holds_toL_addZeroCols nnc n m r x (hlen r hr)).mp
      (hx _ (List.mem_map.mpr ⟨r.addZeroCols m, List.mem_map.mpr ⟨r, hr, rfl⟩, rfl⟩)))
  rw [squeeze_getD_zero] at h1
  refine ⟨h1.1, fun hn => ?_⟩
  subst hn
  have h2 := h1.2 rfl
  rw [squeeze_getD_eps] at h2
  exact h2

/-- the low-level constraints of a fresh universe polyhedron -/
theorem LowLevel_lowLevelCons (nnc : Bool) (m : Nat) : LowLevel nnc m (lowLevelCons nnc m) := by
  intro x _ hx
  cases nnc
  · have h := hx (toL false ⟨false, 1, List.replicate m 0, 0⟩) (by simp [lowLevelCons])
    unfold holds toL at h
    simp only [Bool.false_eq_true, if_false, List.append_nil] at h
    refine ⟨?_, fun h => by cases h⟩
    cases x with
    | nil => simp
    | cons y ys => simpa [scalarProduct, sp_replicate_zero] using h
  · have h1 := hx (toL true ⟨false, 1, List.replicate m 0, -1⟩) (by simp [lowLevelCons])
    have h2 := hx (toL true ⟨false, 0, List.replicate m 0, 1⟩) (by simp [lowLevelCons])
    unfold holds toL at h1 h2
    simp only [Bool.false_eq_true, if_false, if_true] at h1 h2
    cases x with
    | nil => simp
    | cons y ys =>
      simp only [scalarProduct, sp_append, sp_replicate_zero, List.length_replicate, sp_single_drop] at h1 h2
      have e : (y :: ys).getD (m + 1) 0 = ys.getD m 0 := by simp
      rw [e]
      simp only [List.getD_cons_zero]
      refine ⟨by omega, fun _ => ⟨by omega, by omega⟩⟩

end PPLV.PolyFull

import PPLV.PolyFull.ProofsOpsMeet
import PPLV.PolyOps.ProofsDims6

/-!
# `add_constraint` / `refine_no_check` refine `RefPoly.addCons`
-/
namespace PPLV.PolyFull
open PPLV.Lin PPLV.PolyOps

theorem sem_addCons (ref : RefPoly) (nnc : Bool) (c : Row) :
    sem (ref.addCons (Row.toCons nnc c)).cs = sem ref.cs ∩ conSem nnc [c] := by
  show sem (ref.cs ++ Row.toCons nnc c) = _
  rw [sem_append]
  unfold conSem consOf
  simp

/-- a zero-dimensional legal constraint row: `is_inconsistent()` decides its reading -/
theorem rowInconsistent_zero_dim (nnc : Bool) (c : Row) (hc : c.cf = [])
    (hceps : nnc = false → c.eps = 0) (hcle : c.eps ≤ 0) (hceq : c.eq = true → c.eps = 0) :
    (FPoly.rowInconsistent nnc c = true → conSem nnc [c] = ∅) ∧
    (FPoly.rowInconsistent nnc c = false → conSem nnc [c] = Set.univ) := by
  have hev : ∀ w, c.ev w = (c.b : Rat) := by
    intro w; unfold Row.ev; rw [hc]; simp [dot]
  have hmem : ∀ w, w ∈ conSem nnc [c] ↔ c.Holds nnc w := by
    intro w; rw [mem_conSem]; simp
  unfold FPoly.rowInconsistent
  rw [hc]
  simp only [List.all_nil, Bool.true_and]
  by_cases h0 : c.eps = 0
  · have hn : ¬ (nnc = true ∧ c.eps < 0) := by rw [h0]; simp
    simp only [h0, beq_self_eq_true, if_true]
    cases heq : c.eq
    · simp only [Bool.false_eq_true, if_false, decide_eq_true_eq, decide_eq_false_iff_not]
      constructor
      · intro hb
        ext w; rw [hmem]; unfold Row.Holds; rw [heq, hev]
        simp only [Bool.false_eq_true, if_false, if_neg hn, Set.mem_empty_iff_false, iff_false, not_le]
        exact_mod_cast hb
      · intro hb
        ext w; rw [hmem]; unfold Row.Holds; rw [heq, hev]
        simp only [Bool.false_eq_true, if_false, if_neg hn, Set.mem_univ, iff_true]
        exact_mod_cast (not_lt.mp hb)
    · simp only [if_true, bne_iff_ne, ne_eq, bne_eq_false_iff_eq]
      constructor
      · intro hb
        ext w; rw [hmem]; unfold Row.Holds; rw [heq, hev]
        simp only [if_true, Set.mem_empty_iff_false, iff_false]
        exact_mod_cast hb
      · intro hb
        ext w; rw [hmem]; unfold Row.Holds; rw [heq, hev]
        simp only [if_true, Set.mem_univ, iff_true]
        exact_mod_cast hb
  · have hlt : c.eps < 0 := lt_of_le_of_ne hcle h0
    have hnnc : nnc = true := by
      cases nnc
      · exact absurd (hceps rfl) h0
      · rfl
    subst hnnc
    have heq : c.eq = false := by
      cases h : c.eq
      · rfl
      · exact absurd (hceq h) h0
    have h1 : ¬ ((c.eps == 0) = true) := by simpa using h0
    have h2 : ¬ (c.eps ≥ 0) := not_le.mpr hlt
    simp only [h1, if_false, Bool.not_true, Bool.false_eq_true, h2]
    constructor
    · intro hb
      have hb' : ¬ c.b > 0 := by
        intro h; rw [if_pos h] at hb; cases hb
      ext w; rw [hmem]; unfold Row.Holds; rw [heq, hev]
      simp only [Bool.false_eq_true, if_false, hlt, and_self, if_true, Set.mem_empty_iff_false, iff_false,
        not_lt]
      exact_mod_cast (not_lt.mp hb')
    · intro hb
      have hb' : c.b > 0 := by
        by_contra h; rw [if_neg h] at hb; cases hb
      ext w; rw [hmem]; unfold Row.Holds; rw [heq, hev]
      simp only [Bool.false_eq_true, if_false, hlt, and_self, if_true, Set.mem_univ, iff_true]
      exact_mod_cast hb'

theorem wf_addPendC (p : Poly) (c : Row) (hp : p.WF) (hc : c.cf.length = p.dim)
    (hcu : p.st.cUp = true) (hgu : p.st.gUp = true) (hgp : p.st.gPend = false) :
    ({ p with cs := p.cs.insertPendingSys [c], st := { p.st with cPend := true } } : Poly).WF := by
  refine ⟨fun _ _ r hr => ?_, hp.gs_wf, hp.gs_pt, fun _ => ⟨hcu, hgu⟩, fun h => ?_, fun h => ?_,
    fun _ _ => Or.inl hcu, hp.zero_dim⟩
  · rcases List.mem_append.mp hr with hr | hr
    · exact hp.cs_len ‹_› hcu r hr
    · rw [List.mem_singleton.mp hr]; exact hc
  · rw [show p.st.gPend = true from h] at hgp; cases hgp
  · rw [show p.st.gPend = true from h.2] at hgp; cases hgp

theorem wf_addNonpendC (p : Poly) (c : Row) (hp : p.WF) (hc : c.cf.length = p.dim)
    (hcu : p.st.cUp = true) (hcp : p.st.cPend = false) :
    ({ p with cs := p.cs.insertSys [c], st := ({ p.st with cMin := false }).clearGUp } : Poly).WF := by
  refine ⟨fun he _ r hr => ?_, fun _ h => ?_, fun _ h => ?_, fun h => ?_, fun h => ?_, fun h => ?_,
    fun _ _ => Or.inl hcu, fun hd => ⟨(hp.zero_dim hd).1, rfl⟩⟩
  · rcases List.mem_append.mp hr with hr | hr
    · exact hp.cs_len he hcu r hr
    · rw [List.mem_singleton.mp hr]; exact hc
  · simp [Status.clearGUp] at h
  · simp [Status.clearGUp] at h
  · rw [show p.st.cPend = true from h] at hcp; cases hcp
  · simp [Status.clearGUp] at h
  · simp [Status.clearGUp] at h

/-- the main branch of `refine_no_check` on a prepared receiver -/
theorem refineNoCheck_main (x : FPoly) (S S' : Set Val) (c : Row) (hx : x.Inv S)
    (hex : x.p.st.empty = false) (hcx : x.p.st.cUp = true) (hgx : x.p.st.gPend = false)
    (hc : c.cf.length = x.p.dim) (hS' : conSem x.p.nnc (x.p.cs.rows ++ [c]) = S') :
    ({ x with p := { x.p.addRecycledConstraints [c] with
        cs := (x.p.addRecycledConstraints [c]).cs.refineBy
          (if x.st.canPend then x.p.cs.insertPendingRow c else x.p.cs.insertRow false x.nnc c) } } : FPoly).Inv S' ∧
    (x.p.addRecycledConstraints [c]).nnc = x.p.nnc ∧ (x.p.addRecycledConstraints [c]).dim = x.p.dim := by
  have hden := addRecycledConstraints_denotes x.p [c] S S' hex hcx hgx hx.den hS'
  cases hcp : x.p.st.canPend
  · have hq : x.p.addRecycledConstraints [c] =
        { x.p with cs := x.p.cs.insertSys [c], st := ({ x.p.st with cMin := false }).clearGUp } := by
      simp [Poly.addRecycledConstraints, hex, hcp]
    rw [hq] at hden ⊢
    have hI := Inv_nonpendC x S S' _ hx hex hcx hcp (insertSys_fp _ _)
      (fun r hr => List.mem_append_left _ hr)
      (wf_addNonpendC x.p c hx.wf hc hcx (legal_not_canPend hx.legal hcp).1) hden
    refine ⟨Inv_refineC _ _ _ hI ?_ ?_, rfl, rfl⟩
    · intro _ _
      unfold FPoly.st
      rw [hcp]
      simp only [Bool.false_eq_true, if_false]
      exact ⟨le_of_eq (insertRow_fp _ _ _ _), fun _ => insertRow_fp _ _ _ _⟩
    · intro _ h
      simp [Status.canPend, Status.clearGUp] at h
  · have hq : x.p.addRecycledConstraints [c] =
        { x.p with cs := x.p.cs.insertPendingSys [c], st := { x.p.st with cPend := true } } := by
      simp [Poly.addRecycledConstraints, hex, hcp]
    rw [hq] at hden ⊢
    have hI := Inv_pendC x S S' [c] hx hex hcx hgx hcp
      (wf_addPendC x.p c hx.wf hc hcx (legal_canPend_up hx.legal hcp).2 hgx) hden
    refine ⟨Inv_refineC _ _ _ hI ?_ ?_, rfl, rfl⟩
    · intro h1 h2
      unfold FPoly.st
      rw [hcp]
      simp only [if_true]
      exact hI.fpC h1 h2
    · intro _ _
      unfold FPoly.st
      rw [hcp]
      simp only [if_true]
      rfl

/-- **`Polyhedron::add_constraint(c)` / `refine_no_check(c)`, the whole object.**  `c` is a legal
    constraint row of the receiver's dimension and topology: its epsilon coefficient is `≤ 0`
    (`= 0` for the closed topology and on equalities) — `Constraint::OK()`; without `hcle`/`hceq` the
    statement is false in dimension 0 (`is_inconsistent()` reads such rows differently from
    `Constraint::type()`). -/
theorem addConstraint_refines (G : GlueFacts) (x : FPoly) (ref : RefPoly) (c : Row)
    (hc : c.cf.length = x.p.dim) (hceps : x.p.nnc = false → c.eps = 0)
    (hcle : c.eps ≤ 0) (hceq : c.eq = true → c.eps = 0) (hx : x.Inv (sem ref.cs)) :
    (x.addConstraint c).Inv (sem (ref.addCons (Row.toCons x.p.nnc c)).cs) ∧ x.SameShape (x.addConstraint c) := by
  rw [sem_addCons]
  unfold FPoly.addConstraint
  cases hex : x.p.st.empty
  · have hex' : x.st.empty = false := hex
    rw [hex']
    simp only [Bool.false_eq_true, if_false]
    unfold FPoly.refineNoCheck
    by_cases hd : x.p.dim = 0
    · have hd' : (x.dim == 0) = true := by simp [FPoly.dim, hd]
      rw [if_pos hd']
      have hc0 : c.cf = [] := List.eq_nil_of_length_eq_zero (by rw [hc, hd])
      obtain ⟨h1, h2⟩ := rowInconsistent_zero_dim x.p.nnc c hc0 hceps hcle hceq
      cases hri : FPoly.rowInconsistent x.nnc c
      · simp only [Bool.false_eq_true, if_false]
        rw [h2 hri, Set.inter_univ]
        exact ⟨hx, rfl, rfl⟩
      · simp only [if_true]
        rw [h1 hri, Set.inter_empty]
        exact ⟨Inv_setEmpty x _ hx.wf rfl, rfl, rfl⟩
    · have hd' : ¬ (x.dim == 0) = true := by simpa [FPoly.dim] using hd
      rw [if_neg hd']
      obtain ⟨hsx, hix, hex1, hcx1, hgx1⟩ := G.needCons x _ hx hex (Nat.pos_of_ne_zero hd)
      have hS' : conSem x.needCons.p.nnc (x.needCons.p.cs.rows ++ [c]) = sem ref.cs ∩ conSem x.p.nnc [c] := by
        rw [conSem_append, (hix.den.2 hex1).1 hcx1 hgx1, hsx.1]
      obtain ⟨h1, h2, h3⟩ := refineNoCheck_main x.needCons _ _ c hix hex1 hcx1 hgx1 (by rw [hsx.2]; exact hc) hS'
      exact ⟨h1, h2.trans hsx.1, h3.trans hsx.2⟩
  · have hex' : x.st.empty = true := hex
    rw [hex']
    simp only [if_true]
    refine ⟨hx.change ?_, rfl, rfl⟩
    rw [hx.den.1 hex, Set.empty_inter]
    exact denotes_of_empty _ _ hex rfl

end PPLV.PolyFull

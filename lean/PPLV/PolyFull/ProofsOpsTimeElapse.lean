import PPLV.PolyFull.ProofsOpsMeet
import PPLV.PolyOps.ProofsLattice15

/-!
# `time_elapse_assign` refines `timeElapseGens`: the main branch
-/
namespace PPLV.PolyFull
open PPLV.Lin PPLV.PolyOps

theorem time_elapse_nil (x y : Poly) (hex : x.st.empty = false) (hey : y.st.empty = false)
    (hd : x.dim ≠ 0) (hgx : x.st.gUp = true) (hcx : x.st.cPend = false) (hgy : y.st.gUp = true)
    (hcy : y.st.cPend = false) (hnil : (timeElapseRows x.nnc y.gs.rows).isEmpty = true) :
    x.time_elapse_assign y = some x := by
  simp [Poly.time_elapse_assign, Poly.obtainGeneratorsPendingNoConv, hex, hey, hd, hcx, hgx, hcy, hgy, hnil]

theorem time_elapse_pend (x y : Poly) (hex : x.st.empty = false) (hey : y.st.empty = false)
    (hd : x.dim ≠ 0) (hgx : x.st.gUp = true) (hcx : x.st.cPend = false) (hgy : y.st.gUp = true)
    (hcy : y.st.cPend = false) (hnil : (timeElapseRows x.nnc y.gs.rows).isEmpty = false)
    (hcp : x.st.canPend = true) :
    x.time_elapse_assign y =
      some { x with gs := x.gs.insertPendingSys (timeElapseRows x.nnc y.gs.rows),
                    st := { x.st with gPend := true } } := by
  simp [Poly.time_elapse_assign, Poly.obtainGeneratorsPendingNoConv, hex, hey, hd, hcx, hgx, hcy, hgy, hnil, hcp]

theorem time_elapse_nonpend (x y : Poly) (hex : x.st.empty = false) (hey : y.st.empty = false)
    (hd : x.dim ≠ 0) (hgx : x.st.gUp = true) (hcx : x.st.cPend = false) (hgy : y.st.gUp = true)
    (hcy : y.st.cPend = false) (hnil : (timeElapseRows x.nnc y.gs.rows).isEmpty = false)
    (hcp : x.st.canPend = false) :
    x.time_elapse_assign y =
      some { x with gs := x.gs.mergeRowsAssign (timeElapseRows x.nnc y.gs.rows),
                    st := ({ x.st with gMin := false }).clearCUp } := by
  simp [Poly.time_elapse_assign, Poly.obtainGeneratorsPendingNoConv, hex, hey, hd, hcx, hgx, hcy, hgy, hnil, hcp]

/-- the main branch of `time_elapse_assign` on prepared operands: the invariant holds both of the
    plain `PolyOps` result (the `live == 0` exit) and of the result with the generator system
    replaced through `refineBy` by any system `E` that, on a pair that can have pending rows, is the
    receiver's system with pending rows appended, and otherwise has nothing pending -/
theorem time_elapse_main (x y : FPoly) (S Sy S' : Set Val) (E : Sys) (hx : x.Inv S) (hy : y.Inv Sy)
    (hdim : y.p.dim = x.p.dim) (hnnc : y.p.nnc = x.p.nnc)
    (hex : x.p.st.empty = false) (hey : y.p.st.empty = false) (hd : x.p.dim ≠ 0)
    (hgx : x.p.st.gUp = true) (hcx : x.p.st.cPend = false) (hgy : y.p.st.gUp = true)
    (hcy : y.p.st.cPend = false)
    (hden : ∀ q, x.p.time_elapse_assign y.p = some q → q.Denotes S')
    (hEp : x.p.st.canPend = true → ∃ t, E = x.p.gs.insertPendingSys t)
    (hEn : x.p.st.canPend = false → E.firstPending = E.rows.length) :
    (x.liftO (x.p.time_elapse_assign y.p)).Inv S' ∧
    ({ x.liftO (x.p.time_elapse_assign y.p) with
        p := { (x.liftO (x.p.time_elapse_assign y.p)).p with
          gs := (x.liftO (x.p.time_elapse_assign y.p)).p.gs.refineBy E } } : FPoly).Inv S' ∧
    (x.liftO (x.p.time_elapse_assign y.p)).p.nnc = x.p.nnc ∧
    (x.liftO (x.p.time_elapse_assign y.p)).p.dim = x.p.dim := by
  have hwfq : ∀ q, x.p.time_elapse_assign y.p = some q → q.WF := fun q h =>
    time_elapse_assign_rows_wf x.p y.p q hdim hnnc hx.wf hy.wf
      (fun h => (legal_canPend_up hx.legal h).1) (legal_gPend hx.legal) h
  have hfpx := hx.fpG hex hgx
  cases hnil : (timeElapseRows x.p.nnc y.p.gs.rows).isEmpty
  · cases hcp : x.p.st.canPend
    · have hq := time_elapse_nonpend x.p y.p hex hey hd hgx hcx hgy hcy hnil hcp
      rw [hq]
      have hI := Inv_nonpendG x S S' _ hx hex hgx hcp (mergeRowsAssign_fp _ _) (hwfq _ hq) (hden _ hq)
      refine ⟨?_, Inv_liftO_refineG x _ S' E (by simp [Status.clearCUp, hex]) hI ?_ ?_, ?_, ?_⟩
      · show (x.lift _).Inv S'
        rw [lift_of_nonempty x _ (by simp [Status.clearCUp, hex])]; exact hI
      · intro _ _
        exact ⟨le_of_eq (hEn hcp), fun _ => hEn hcp⟩
      · intro _ h
        simp [Status.canPend, Status.clearCUp] at h
      · show (x.lift _).p.nnc = _
        rw [lift_p]
      · show (x.lift _).p.dim = _
        rw [lift_p]
    · have hq := time_elapse_pend x.p y.p hex hey hd hgx hcx hgy hcy hnil hcp
      rw [hq]
      have hI := Inv_pendG x S S' (timeElapseRows x.p.nnc y.p.gs.rows) hx hex hgx hcx hcp (hwfq _ hq) (hden _ hq)
      obtain ⟨t, rfl⟩ := hEp hcp
      refine ⟨?_, Inv_liftO_refineG x _ S' _ hex hI ?_ ?_, ?_, ?_⟩
      · show (x.lift _).Inv S'
        rw [lift_of_nonempty x _ (by exact hex)]; exact hI
      · intro _ _
        refine ⟨?_, fun h => by cases h⟩
        show x.p.gs.firstPending ≤ (x.p.gs.rows ++ t).length
        rw [List.length_append]; have := hfpx.1; omega
      · intro _ _
        show (x.p.gs.rows ++ t).take x.p.gs.firstPending = (x.p.gs.rows ++ _).take x.p.gs.firstPending
        rw [List.take_append_of_le_length hfpx.1, List.take_append_of_le_length hfpx.1]
      · show (x.lift _).p.nnc = _
        rw [lift_p]
      · show (x.lift _).p.dim = _
        rw [lift_p]
  · have hq := time_elapse_nil x.p y.p hex hey hd hgx hcx hgy hcy hnil
    rw [hq]
    have hI : x.Inv S' := hx.change (hden _ hq)
    have hl : x.liftO (some x.p) = x := lift_self x
    rw [hl]
    refine ⟨hI, ?_, rfl, rfl⟩
    rcases refineBy_cases x.p.gs E with h | ⟨_, hnp, hpd⟩
    · rw [h]; exact hI
    · refine Inv_refineG x S' E hI ?_ ?_
      · intro _ _
        cases hcp : x.p.st.canPend
        · exact ⟨le_of_eq (hEn hcp), fun _ => hEn hcp⟩
        · obtain ⟨t, rfl⟩ := hEp hcp
          refine ⟨?_, fun hgp => ?_⟩
          · show x.p.gs.firstPending ≤ (x.p.gs.rows ++ t).length
            rw [List.length_append]; have := hfpx.1; omega
          · have hfp := hfpx.2 hgp
            have ht : t = [] := by
              apply List.eq_nil_iff_forall_not_mem.mpr
              intro r hr
              have h1 : r ∈ (x.p.gs.rows ++ t).drop x.p.gs.firstPending := by
                rw [hfp, List.drop_left]; exact hr
              have h2 := (hpd r).mpr h1
              rw [hfp, List.drop_length] at h2
              cases h2
            subst ht
            show x.p.gs.firstPending = (x.p.gs.rows ++ []).length
            rw [List.append_nil]; exact hfp
      · intro _ hcp
        obtain ⟨t, rfl⟩ := hEp hcp
        show (x.p.gs.rows ++ t).take x.p.gs.firstPending = _
        rw [List.take_append_of_le_length hfpx.1]

end PPLV.PolyFull

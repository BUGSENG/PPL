import PPLV.PolyFull.ProofsGlueSortSat

/-!
# `Generated` does not depend on the order of the generators

`Generated` (Conv/Spec.lean) is stated with a coefficient LIST; here the pair form (`Gen2`), the
invariance under permutations, "a row generates itself", and `EnginePair` under a permutation of its
GENERATORS.
-/
namespace PPLV.PolyFull
open PPLV.Lin PPLV.PolyOps
open PPLV.Conv (LRow BRow Vec Sound SatCorrect holds holdsAll Generated scalarProduct)

/-- the index sum of `Generated` as a sum over pairs -/
theorem range_sum_pairs (ps : List (Int × LRow)) (c : Vec) :
    ((List.range ps.length).map fun i =>
        (ps.map Prod.fst).getD i 0 * scalarProduct c ((ps.map Prod.snd).getD i default).v).sum =
      (ps.map fun p => p.1 * scalarProduct c p.2.v).sum := by
  induction ps with
  | nil => simp
  | cons p ps ih =>
    rw [List.length_cons, List.range_succ_eq_map]
    simp only [List.map_cons, List.sum_cons, List.map_map, List.getD_cons_zero, Function.comp_def,
      Nat.succ_eq_add_one, List.getD_cons_succ]
    rw [ih]

/-- `Generated` with the coefficients attached to the rows -/
def Gen2 (gens : List LRow) (x : Vec) : Prop :=
  ∃ (den : Int) (ps : List (Int × LRow)), 0 < den ∧ ps.map Prod.snd = gens ∧
    (∀ p ∈ ps, p.2.le = false → 0 ≤ p.1) ∧
    ∀ c : Vec, den * scalarProduct c x = (ps.map fun p => p.1 * scalarProduct c p.2.v).sum

theorem gen2_of_generated (gens : List LRow) (x : Vec) (h : Generated gens x) : Gen2 gens x := by
  obtain ⟨den, coef, hden, hlen, hpos, heq⟩ := h
  have h1 : (coef.zip gens).map Prod.fst = coef := List.map_fst_zip (by omega)
  have h2 : (coef.zip gens).map Prod.snd = gens := List.map_snd_zip (by omega)
  refine ⟨den, coef.zip gens, hden, h2, ?_, ?_⟩
  · intro p hp hle
    obtain ⟨i, hi, rfl⟩ := List.getElem_of_mem hp
    rw [List.length_zip] at hi
    have hi2 : i < gens.length := by omega
    have hi1 : i < coef.length := by omega
    have := hpos i hi2 (by simpa using hle)
    simpa [List.getD_eq_getElem?_getD, hi1] using this
  · intro c
    rw [heq c, ← range_sum_pairs, h1, h2, List.length_zip, hlen, Nat.min_self]

theorem generated_of_gen2 (gens : List LRow) (x : Vec) (h : Gen2 gens x) : Generated gens x := by
  obtain ⟨den, ps, hden, hg, hpos, heq⟩ := h
  subst hg
  refine ⟨den, ps.map Prod.fst, hden, by simp, ?_, ?_⟩
  · intro i hi hle
    have hi' : i < ps.length := by simpa using hi
    have := hpos ps[i] (List.getElem_mem hi') (by simpa using hle)
    simpa [List.getD_eq_getElem?_getD, hi'] using this
  · intro c
    rw [heq c, ← range_sum_pairs, List.length_map]

/-- a permutation of the images lifts to a permutation of the arguments -/
theorem exists_perm_of_map_perm {α β : Type} (f : α → β) {m₁ m₂ : List β} (hp : m₁.Perm m₂) :
    ∀ l : List α, l.map f = m₁ → ∃ l' : List α, l'.Perm l ∧ l'.map f = m₂ := by
  induction hp with
  | nil => intro l hl; exact ⟨l, .refl _, hl⟩
  | cons a _ ih =>
    intro l hl
    cases l with
    | nil => simp at hl
    | cons b l0 =>
      simp only [List.map_cons, List.cons.injEq] at hl
      obtain ⟨l0', hp0, hm0⟩ := ih l0 hl.2
      exact ⟨b :: l0', hp0.cons b, by simp [hl.1, hm0]⟩
  | swap a b m =>
    intro l hl
    cases l with
    | nil => simp at hl
    | cons b1 l1 =>
      cases l1 with
      | nil => simp at hl
      | cons b2 l0 =>
        simp only [List.map_cons, List.cons.injEq] at hl
        exact ⟨b2 :: b1 :: l0, List.Perm.swap b1 b2 l0, by simp [hl.1, hl.2.1, hl.2.2]⟩
  | trans _ _ ih1 ih2 =>
    intro l hl
    obtain ⟨l1, hp1, hm1⟩ := ih1 l hl
    obtain ⟨l2, hp2, hm2⟩ := ih2 l1 hm1
    exact ⟨l2, hp2.trans hp1, hm2⟩

theorem generated_perm {gens gens' : List LRow} (hp : gens'.Perm gens) (x : Vec)
    (h : Generated gens x) : Generated gens' x := by
  obtain ⟨den, ps, hden, hg, hpos, heq⟩ := gen2_of_generated gens x h
  obtain ⟨ps', hpp, hm⟩ := exists_perm_of_map_perm Prod.snd (hg ▸ hp.symm) ps rfl
  apply generated_of_gen2
  refine ⟨den, ps', hden, hm, fun p hp' => hpos p (hpp.mem_iff.mp hp'), fun c => ?_⟩
  rw [heq c]
  exact ((hpp.map _).sum_eq).symm

theorem generated_of_mem (gens : List LRow) (g : LRow) (hg : g ∈ gens) : Generated gens g.v := by
  obtain ⟨s, t, rfl⟩ := List.append_of_mem hg
  apply generated_perm (List.perm_middle (a := g) (l₁ := s) (l₂ := t))
  apply generated_of_gen2
  refine ⟨1, (1, g) :: (s ++ t).map (fun r => (0, r)), by omega, by simp [Function.comp_def], ?_, ?_⟩
  · intro p hp _
    rcases List.mem_cons.mp hp with h | h
    · rw [h]; simp
    · obtain ⟨r, _, rfl⟩ := List.mem_map.mp h; simp
  · intro c
    simp [Function.comp_def]

/-! ### the generators of a minimal pair -/

theorem EnginePair.nodupG {nnc n cs gs fC fG sC sG} (h : EnginePair nnc n cs gs fC fG sC sG) :
    gs.Nodup := by
  rw [List.nodup_iff_injective_getElem]
  rintro ⟨i, hi⟩ ⟨j, hj⟩ heq
  simp only at heq
  by_contra hne
  have hij : i ≠ j := fun e => hne (by subst e; rfl)
  apply h.minG i hi
  have hgi : gs.getD i default = gs[i] := by
    rw [List.getD_eq_getElem?_getD, List.getElem?_eq_getElem hi]; rfl
  rw [hgi]
  apply generated_of_mem
  apply List.mem_map.mpr
  refine ⟨gs[i], ?_, rfl⟩
  rw [List.mem_eraseIdx_iff_getElem]
  exact ⟨j, hj, fun e => hij e.symm, heq.symm⟩

theorem EnginePair.permG {nnc n cs gs gs' fC fG sC sG} (h : EnginePair nnc n cs gs fC fG sC sG)
    (hp : gs'.Perm gs) (sC' sG' : BitMat)
    (hsC' : fC = true →
      SatCorrect (cs.map (toL nnc)) (gs'.map (toL nnc)) sC'.rows ∧ sC'.ncols = cs.length) :
    EnginePair nnc n cs gs' fC false sC' sG' := by
  have hnd := h.nodupG
  have hnd' : gs'.Nodup := hp.nodup_iff.mpr hnd
  -- the generator at `j` in `gs'` sits at some `k` in `gs`, with the same remaining rows up to order
  have key : ∀ j, j < gs'.length → ∃ k, k < gs.length ∧ gs.getD k default = gs'.getD j default ∧
      ((gs.eraseIdx k).map (toL nnc)).Perm ((gs'.eraseIdx j).map (toL nnc)) := by
    intro j hj
    obtain ⟨k, hk, hkr⟩ := List.getElem_of_mem (hp.mem_iff.mp (List.getElem_mem hj))
    refine ⟨k, hk, ?_, List.Perm.map _ ?_⟩
    · rw [List.getD_eq_getElem?_getD, List.getD_eq_getElem?_getD, List.getElem?_eq_getElem hk,
        List.getElem?_eq_getElem hj, hkr]
    · rw [← hnd.erase_getElem k hk, ← hnd'.erase_getElem j hj, hkr]
      exact (hp.erase _).symm
  refine ⟨?_, fun x hl hx => generated_perm (hp.map _) x (h.complete x hl hx), h.minC, ?_, ?_, hsC',
    fun h' => (by cases h')⟩
  · intro d hd s hs
    obtain ⟨r, hr, rfl⟩ := List.mem_map.mp hd
    exact h.sound _ (List.mem_map.mpr ⟨r, hp.mem_iff.mp hr, rfl⟩) s hs
  · intro j hj hgen
    obtain ⟨k, hk, hg, hpe⟩ := key j hj
    apply h.minG k hk
    rw [hg]
    exact generated_perm hpe _ hgen
  · intro j hj hline hgen
    obtain ⟨k, hk, hg, hpe⟩ := key j hj
    apply h.minL k hk (by rw [hg]; exact hline)
    rw [hg]
    exact generated_perm hpe _ hgen

end PPLV.PolyFull

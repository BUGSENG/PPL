import PPLV.PolyFull.ProofsOpsConcat

/-!
# `concatenate_assign` refines `RefPoly.concat`
-/
namespace PPLV.PolyFull
open PPLV.Lin PPLV.PolyOps
open PPLV.Conv (holdsAll holds)

theorem Inv_lift_empty (x : FPoly) (q : Poly) (S' : Set Val) (hq : q.st.empty = true) (hwf : q.WF)
    (hden : q.Denotes S') (hl : statusLegalB q.st q.dim = true) : (x.lift q).Inv S' := by
  unfold FPoly.lift
  split
  · exact Inv_of_empty _ _ hq hwf hden hl
  · exact Inv_of_empty _ _ hq hwf hden hl

theorem wf_setEmpty' (x : Poly) : x.setEmpty.WF :=
  ⟨fun h => (by cases h), fun h => (by cases h), fun h => (by cases h), fun h => (by cases h),
    fun h => (by cases h), fun h => (by cases h.1), fun h => (by cases h), fun _ => ⟨rfl, rfl⟩⟩

theorem concat_empty_eq (p y : Poly) (h : (p.st.empty || y.st.empty) = true) :
    p.concatenate_assign y = some ({ p with dim := p.dim + y.dim }).setEmpty := by
  unfold Poly.concatenate_assign
  rw [if_pos h]

theorem concat_zero_right_eq (p y : Poly) (hex : p.st.empty = false) (hey : y.st.empty = false)
    (hd : y.dim = 0) : p.concatenate_assign y = some p := by
  simp [Poly.concatenate_assign, hex, hey, hd]

theorem concat_zero_left_eq (p y : Poly) (hex : p.st.empty = false) (hey : y.st.empty = false)
    (hdy : y.dim ≠ 0) (hd : p.dim = 0) : p.concatenate_assign y = some y := by
  simp [Poly.concatenate_assign, hex, hey, hd, hdy]

/-- the proof behind the two theorems below: the engine clause of the result is asked for only in the
    branch where the prepared receiver can have pending rows -/
theorem concatenateAssign_core (G : GlueFacts) (x y : FPoly) (refx refy : RefPoly)
    (hnx : refx.n = x.p.dim) (hny : refy.n = y.p.dim)
    (hnncx : refx.nnc = x.p.nnc) (hnncy : refy.nnc = y.p.nnc)
    (hwfx : WF refx.n refx.cs) (hwfy : WF refy.n refy.cs) (hnncxy : y.p.nnc = x.p.nnc)
    (hx : x.Inv (sem refx.cs)) (hy : y.Inv (sem refy.cs))
    (hEng : x.p.st.empty = false → y.p.st.empty = false → x.p.dim ≠ 0 → y.p.dim ≠ 0 →
      x.needCons.p.st.canPend = true → (x.concatenateAssign y).1.p.st.empty = false → (x.concatenateAssign y).1.p.st.canPend = true →
      EnginePair (x.concatenateAssign y).1.p.nnc (x.concatenateAssign y).1.p.dim
        (x.concatenateAssign y).1.npC (x.concatenateAssign y).1.npG
        (x.concatenateAssign y).1.p.st.satC (x.concatenateAssign y).1.p.st.satG
        (x.concatenateAssign y).1.satC (x.concatenateAssign y).1.satG) :
    (x.concatenateAssign y).1.Inv (sem (refx.concat refy).cs) ∧
    (x.concatenateAssign y).2.Inv (sem refy.cs) ∧
    (x.concatenateAssign y).1.p.dim = x.p.dim + y.p.dim := by
  have hR : ∀ q, x.p.concatenate_assign y.p = some q → q.Denotes (sem (refx.concat refy).cs) := fun q h =>
    concatenate_assign_rows_correct x.p y.p q refx refy hnx hny hnncx hnncy hwfx hwfy hx.wf hy.wf hnncxy
      hx.den hy.den h
  revert hEng
  unfold FPoly.concatenateAssign FPoly.st FPoly.dim
  by_cases hc : (x.p.st.empty || y.p.st.empty || y.p.dim == 0) = true
  · rw [if_pos hc]
    intro _
    by_cases he : (x.p.st.empty || y.p.st.empty) = true
    · have hq := concat_empty_eq x.p y.p he
      rw [hq]
      refine ⟨Inv_lift_empty x _ _ rfl (wf_setEmpty' _) (hR _ hq) (legal_setEmpty _), hy, ?_⟩
      show (x.lift _).p.dim = _
      rw [lift_p]; rfl
    · simp only [Bool.or_eq_true, not_or, Bool.not_eq_true] at he
      have hd : y.p.dim = 0 := by simpa [he.1, he.2] using hc
      have hq := concat_zero_right_eq x.p y.p he.1 he.2 hd
      rw [hq]
      show (x.lift x.p).Inv _ ∧ _ ∧ (x.lift x.p).p.dim = _
      rw [lift_self]
      exact ⟨hx.change (hR _ hq), hy, by rw [hd]; rfl⟩
  · rw [if_neg hc]
    simp only [Bool.or_eq_true, not_or, Bool.not_eq_true, beq_iff_eq] at hc
    obtain ⟨⟨hex, hey⟩, hdy⟩ := hc
    by_cases hdx : x.p.dim = 0
    · have : (x.p.dim == 0) = true := by simpa using hdx
      rw [if_pos this]
      intro _
      have hq := concat_zero_left_eq x.p y.p hex hey hdy hdx
      exact ⟨hy.change (hR _ hq), hy, by show y.p.dim = _; omega⟩
    · have : ¬ (x.p.dim == 0) = true := by simpa using hdx
      rw [if_neg this]
      obtain ⟨hsx, hix, hex1, hcx1, hgx1⟩ := G.needCons x _ hx hex (Nat.pos_of_ne_zero hdx)
      obtain ⟨hsy, hiy, hey1, hcy1, hgy1⟩ := G.needCons y _ hy hey (Nat.pos_of_ne_zero hdy)
      have hR1 : ∀ q, x.needCons.p.concatenate_assign y.needCons.p = some q →
          q.Denotes (sem (refx.concat refy).cs) := fun q h =>
        concatenate_assign_rows_correct _ _ q refx refy (hnx.trans hsx.2.symm) (hny.trans hsy.2.symm)
          (hnncx.trans hsx.1.symm) (hnncy.trans hsy.1.symm) hwfx hwfy hix.wf hiy.wf
          (by rw [hsx.1, hsy.1]; exact hnncxy) hix.den hiy.den h
      have hdx1 : x.needCons.p.dim ≠ 0 := by rw [hsx.2]; exact hdx
      have hdy1 : y.needCons.p.dim ≠ 0 := by rw [hsy.2]; exact hdy
      have hdim : x.needCons.p.dim + y.needCons.p.dim = x.p.dim + y.p.dim := by rw [hsx.2, hsy.2]
      generalize x.needCons = x' at *
      generalize y.needCons = y' at *
      dsimp only
      cases hcp : x'.p.st.canPend
      · simp only [Bool.false_eq_true, if_false]
        have hq := concat_nonpend_eq x'.p y'.p hex1 hey1 hdx1 hdy1 hcx1 hgx1 hcy1 hgy1 hcp
        rw [hq]
        intro _
        have hl : x'.liftO (some (concatNonpendPoly x'.p y'.p)) = { x' with p := concatNonpendPoly x'.p y'.p } :=
          lift_of_nonempty x' _ (by show ({ x'.p.st with cMin := false }).clearGUp.empty = false; exact hex1)
        rw [hl]
        refine ⟨?_, hiy, hdim⟩
        refine concat_nonpend x' y' _ _ _ hix hiy hex1 hey1 hdx1 hdy1 hcx1 hcy1 hcp _ ?_ (hR1 _ hq)
        refine foldl_insertRow_fp _ _ _ _ ?_
        show x'.p.cs.firstPending = (x'.p.cs.rows.map _).length
        rw [List.length_map]
        exact (hix.fpC hex1 hcx1).2 (legal_not_canPend hix.legal hcp).1
      · simp only [if_true]
        have hq := concat_pend_eq x'.p y'.p hex1 hey1 hdx1 hdy1 hcx1 hgx1 hcy1 hgy1 hcp
        rw [hq]
        intro hEng
        have hl : x'.liftO (some (concatPendPoly x'.p y'.p)) = { x' with p := concatPendPoly x'.p y'.p } :=
          lift_of_nonempty x' _ hex1
        rw [hl] at hEng ⊢
        refine ⟨?_, hiy, hdim⟩
        have h0 := concat_pend x' y' _ _ _ hix hiy hex1 hey1 hdx1 hdy1 hcx1 hgx1 hcy1 hcp
          ⟨List.replicate y'.p.dim [] ++ (if (!x'.p.st.satC) = true then x'.satG.transposeOf else x'.satC).rows,
            (if (!x'.p.st.satC) = true then x'.satG.transposeOf else x'.satC).ncols⟩ x'.satG (hR1 _ hq)
        have hgu := (legal_canPend_up hix.legal hcp).2
        have hm : 0 < y'.p.dim := Nat.pos_of_ne_zero hdy1
        refine (InvNoEng_refineG _ _ (FPoly.addUniverseRowsExact true x'.p.nnc x'.p.dim y'.p.dim x'.p.gs) h0 ?_).toInv (hEng hex hey hdx hdy (by first | exact rfl | trivial))
        intro _ _
        rw [(addUniverseRowsExact_fp _ _ _ _ _ hm).1, (addUniverseRowsExact_fp _ _ _ _ _ hm).2]
        have := hix.fpG hex1 hgu
        exact ⟨by omega, fun _ => by have := this.2 hgx1; omega⟩

/-- **`Polyhedron::concatenate_assign(y)`, the whole object** (preparation by `needCons` on both
    operands, the row-level operator, the exact row order): the receiver denotes `RefPoly.concat`,
    the argument (lazily updated) still denotes its set, both keep the invariant.  PARTIAL: `hEng`
    assumes the clause `eng` of `FPoly.Inv` for the receiver's result — used only in the branch where
    the prepared receiver can have pending rows (`C_MINIMIZED`, `G_MINIMIZED`, a saturation matrix up to
    date: its constraint rows get zero columns, the lines of the new variables are put in front of
    its generators, empty rows in front of `sat_c`); with a receiver marked empty, of dimension zero, or
    not able to have pending rows, and for the argument, everything is proved and `hEng` is not used. -/
theorem concatenateAssign_refines_partial (G : GlueFacts) (x y : FPoly) (refx refy : RefPoly)
    (hnx : refx.n = x.p.dim) (hny : refy.n = y.p.dim)
    (hnncx : refx.nnc = x.p.nnc) (hnncy : refy.nnc = y.p.nnc)
    (hwfx : WF refx.n refx.cs) (hwfy : WF refy.n refy.cs) (hnncxy : y.p.nnc = x.p.nnc)
    (hx : x.Inv (sem refx.cs)) (hy : y.Inv (sem refy.cs))
    (hEng : (x.concatenateAssign y).1.p.st.empty = false → (x.concatenateAssign y).1.p.st.canPend = true →
      EnginePair (x.concatenateAssign y).1.p.nnc (x.concatenateAssign y).1.p.dim
        (x.concatenateAssign y).1.npC (x.concatenateAssign y).1.npG
        (x.concatenateAssign y).1.p.st.satC (x.concatenateAssign y).1.p.st.satG
        (x.concatenateAssign y).1.satC (x.concatenateAssign y).1.satG) :
    (x.concatenateAssign y).1.Inv (sem (refx.concat refy).cs) ∧
    (x.concatenateAssign y).2.Inv (sem refy.cs) ∧
    (x.concatenateAssign y).1.p.dim = x.p.dim + y.p.dim :=
  concatenateAssign_core G x y refx refy hnx hny hnncx hnncy hwfx hwfy hnncxy hx hy (fun _ _ _ _ _ => hEng)

/-- the same, FULLY proved (no `hEng`), when an operand is marked empty or zero-dimensional, or the
    prepared receiver cannot have pending rows -/
theorem concatenateAssign_refines_noPend (G : GlueFacts) (x y : FPoly) (refx refy : RefPoly)
    (hnx : refx.n = x.p.dim) (hny : refy.n = y.p.dim)
    (hnncx : refx.nnc = x.p.nnc) (hnncy : refy.nnc = y.p.nnc)
    (hwfx : WF refx.n refx.cs) (hwfy : WF refy.n refy.cs) (hnncxy : y.p.nnc = x.p.nnc)
    (hx : x.Inv (sem refx.cs)) (hy : y.Inv (sem refy.cs))
    (hnp : x.p.st.empty = true ∨ y.p.st.empty = true ∨ x.p.dim = 0 ∨ y.p.dim = 0 ∨
      x.needCons.p.st.canPend = false) :
    (x.concatenateAssign y).1.Inv (sem (refx.concat refy).cs) ∧
    (x.concatenateAssign y).2.Inv (sem refy.cs) ∧
    (x.concatenateAssign y).1.p.dim = x.p.dim + y.p.dim :=
  concatenateAssign_core G x y refx refy hnx hny hnncx hnncy hwfx hwfy hnncxy hx hy
    (fun h1 h2 h3 h4 h5 => by
      rcases hnp with h | h | h | h | h
      · rw [h1] at h; cases h
      · rw [h2] at h; cases h
      · exact absurd h h3
      · exact absurd h h4
      · rw [h5] at h; cases h)

end PPLV.PolyFull

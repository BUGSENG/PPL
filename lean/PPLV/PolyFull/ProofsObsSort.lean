import PPLV.PolyFull.ProofsObsQet
import PPLV.PolyFull.ProofsGluePrepG

/-!
# the binary observers: sorting a system with nothing pending

List-level facts on `sort_and_remove_with_sat` when nothing is pending (`sortSat_mem`: the row set is
kept and nothing is pending afterwards, duplicates or not; `sortSat_perm`: on duplicate-free rows the
pairs (row, saturation row) are permuted), and the two "replace one system by a re-ordering of itself"
lemmas for `FPoly.Inv` (`Inv_resortG`, `Inv_resortC`).
-/
namespace PPLV.PolyFull
open PPLV.Lin PPLV.PolyOps
open PPLV.Conv (LRow BRow Vec Sound SatCorrect holds holdsAll Generated)

theorem uniqueWith_length_le (l : List (Row × BRow)) : (uniqueWith l).length ≤ l.length := by
  induction l with
  | nil => simp [uniqueWith]
  | cons a rest ih =>
    simp only [uniqueWith]
    split
    · simp only [List.length_cons]; omega
    · simp only [List.length_cons]; omega

theorem sortWith_length_le (gen nnc : Bool) (l : List (Row × BRow)) :
    (sortWith gen nnc l).length ≤ l.length := by
  unfold sortWith
  refine (uniqueWith_length_le _).trans ?_
  rw [(perm_foldl_insertWith gen nnc l []).length_eq, List.append_nil]

/-- nothing pending: `sort_and_remove_with_sat` keeps the row set and leaves nothing pending -/
theorem sortSat_mem (gen nnc : Bool) (s : Sys) (sat : BitMat) (hfp : s.firstPending = s.rows.length) :
    (s.sortAndRemoveWithSat gen nnc sat).1.firstPending = (s.sortAndRemoveWithSat gen nnc sat).1.rows.length ∧
    ∀ r, r ∈ (s.sortAndRemoveWithSat gen nnc sat).1.rows ↔ r ∈ s.rows := by
  unfold Sys.sortAndRemoveWithSat
  split
  · exact ⟨hfp, fun _ => Iff.rfl⟩
  · have htake : s.rows.take s.firstPending = s.rows := by rw [hfp, List.take_length]
    have hdrop : s.rows.drop s.firstPending = [] := by rw [hfp, List.drop_length]
    have hnot : ¬ s.rows.length > s.firstPending := by omega
    simp only [htake, hdrop, List.append_nil, hnot, if_false]
    set satRows := (sat.rows ++ List.replicate (s.rows.length - sat.rows.length) []).take s.rows.length
      with hsr
    have hsl : satRows.length = s.rows.length := by
      rw [hsr, List.length_take, List.length_append, List.length_replicate]; omega
    set sorted := sortWith gen nnc (s.rows.zip satRows) with hso
    have hle : sorted.length ≤ s.rows.length := by
      have := sortWith_length_le gen nnc (s.rows.zip satRows)
      rw [List.length_zip, hsl, Nat.min_self] at this
      exact this
    have hlen : (sorted.map (·.1) ++ List.replicate (s.rows.length - sorted.length) (default : Row)).length
        - (s.rows.length - sorted.length) = (sorted.map (·.1)).length := by
      rw [List.length_append, List.length_replicate, List.length_map]; omega
    rw [hlen, List.take_left']
    · refine ⟨?_, fun r => ?_⟩
      · rw [List.length_map, hfp]; omega
      · rw [mem_sortWith_fst, List.map_fst_zip (by omega)]
    · rfl

/-- nothing pending, duplicate-free rows, a saturation matrix of the right height: the pairs are permuted -/
theorem sortSat_perm (gen nnc : Bool) (s : Sys) (sat : BitMat) (hfp : s.firstPending = s.rows.length)
    (hnd : s.rows.Nodup) (hsl : sat.rows.length = s.rows.length) :
    ∃ ps : List (Row × BRow), ps.Perm (s.rows.zip sat.rows) ∧
      (s.sortAndRemoveWithSat gen nnc sat).1.rows = ps.map (·.1) ∧
      (s.sortAndRemoveWithSat gen nnc sat).2.rows = ps.map (·.2) ∧
      (s.sortAndRemoveWithSat gen nnc sat).2.ncols = sat.ncols := by
  have htake : s.rows.take s.firstPending = s.rows := by rw [hfp, List.take_length]
  have hdrop : s.rows.drop s.firstPending = [] := by rw [hfp, List.drop_length]
  obtain ⟨ps, h1, h2, _, h4, h5⟩ := sortAndRemoveWithSat_nodup gen nnc s sat (by omega)
    (by rw [htake]; exact hnd) (by rw [hsl, hfp])
  rw [htake] at h1
  rw [hdrop, List.append_nil] at h2
  exact ⟨ps, h1, h2, h4, h5⟩

theorem legal_sameButSat {s t : Status} {d : Nat} (h : statusLegalB s d = true) (hne : s.empty = false)
    (hs : StatusSameButSat s t) (hf : (t.satC || t.satG) = (s.satC || s.satG)) :
    statusLegalB t d = true ∧ t.canPend = s.canPend := by
  obtain ⟨a, b, rfl⟩ := hs.exists
  obtain ⟨e, cu, gu, cm, gm, sc, sg, cp, gp⟩ := s
  simp only at hf hne
  subst hne
  simp only [statusLegalB, Status.canPend, Bool.not_false, Bool.true_or, Bool.true_and] at h ⊢
  rw [hf]
  exact ⟨h, rfl⟩

/-- the clauses other than `eng` see the saturation flags only through the legality table -/
theorem InvNoEng_sameButSat {x : FPoly} {S : Set Val} (hx : x.InvNoEng S) (hne : x.p.st.empty = false)
    {st' : Status} (hst : StatusSameButSat x.p.st st')
    (hflag : (st'.satC || st'.satG) = (x.p.st.satC || x.p.st.satG)) :
    ({ x with p := { x.p with st := st' } } : FPoly).InvNoEng S := by
  have hl := (legal_sameButSat hx.legal hne hst hflag).1
  obtain ⟨a, b, rfl⟩ := hst.exists
  exact ⟨⟨hx.wf.cs_len, hx.wf.gs_wf, hx.wf.gs_pt, hx.wf.pend_c, hx.wf.pend_g, hx.wf.pend_one, hx.wf.some_up,
    hx.wf.zero_dim⟩, hx.den, hl, hx.fpC, hx.fpG, hx.low, hx.denNPc, hx.denNPg⟩

/-- the generator system replaced by a re-ordering of itself (nothing pending), the saturation flags
    and matrices replaced by others that are still exact -/
theorem Inv_resortG (x : FPoly) (S : Set Val) (hx : x.Inv S) (hne : x.p.st.empty = false)
    (hgu : x.p.st.gUp = true) (hgp : x.p.st.gPend = false)
    (gs' : Sys) (st' : Status) (sC' sG' : BitMat)
    (hst : StatusSameButSat x.p.st st') (hflag : (st'.satC || st'.satG) = (x.p.st.satC || x.p.st.satG))
    (hmem : ∀ r, r ∈ gs'.rows ↔ r ∈ x.p.gs.rows) (hfp : gs'.firstPending = gs'.rows.length)
    (heng : x.p.st.canPend = true → EnginePair x.p.nnc x.p.dim x.npC gs'.rows st'.satC st'.satG sC' sG') :
    (⟨{ x.p with gs := gs', st := st' }, sC', sG'⟩ : FPoly).Inv S := by
  have hcan := (legal_sameButSat hx.legal hne hst hflag).2
  have hfpx := (hx.fpG hne hgu).2 hgp
  have h := InvNoEng_congrG _ S gs' (InvNoEng_sameButSat hx.noEng hne hst hflag) (fun r => (hmem r).symm)
    (fun r => by
      show r ∈ x.p.gs.rows.take x.p.gs.firstPending ↔ _
      rw [hfp, hfpx, List.take_length, List.take_length]; exact (hmem r).symm)
    (fun _ _ => ⟨le_of_eq hfp, fun _ => hfp⟩)
  refine (h.sat sC' sG').toInv fun _ hc => ?_
  show EnginePair x.p.nnc x.p.dim x.npC (gs'.rows.take gs'.firstPending) st'.satC st'.satG sC' sG'
  rw [hfp, List.take_length]
  exact heng (by rw [← hcan]; exact hc)

/-- the dual: the constraint system replaced by a re-ordering of itself -/
theorem Inv_resortC (x : FPoly) (S : Set Val) (hx : x.Inv S) (hne : x.p.st.empty = false)
    (hcu : x.p.st.cUp = true) (hcp : x.p.st.cPend = false)
    (cs' : Sys) (st' : Status) (sC' sG' : BitMat)
    (hst : StatusSameButSat x.p.st st') (hflag : (st'.satC || st'.satG) = (x.p.st.satC || x.p.st.satG))
    (hmem : ∀ r, r ∈ cs'.rows ↔ r ∈ x.p.cs.rows) (hfp : cs'.firstPending = cs'.rows.length)
    (heng : x.p.st.canPend = true → EnginePair x.p.nnc x.p.dim cs'.rows x.npG st'.satC st'.satG sC' sG') :
    (⟨{ x.p with cs := cs', st := st' }, sC', sG'⟩ : FPoly).Inv S := by
  have hcan := (legal_sameButSat hx.legal hne hst hflag).2
  have hfpx := (hx.fpC hne hcu).2 hcp
  have h := InvNoEng_congrC _ S cs' (InvNoEng_sameButSat hx.noEng hne hst hflag) (fun r => (hmem r).symm)
    (fun r => by
      show r ∈ x.p.cs.rows.take x.p.cs.firstPending ↔ _
      rw [hfp, hfpx, List.take_length, List.take_length]; exact (hmem r).symm)
    (fun _ _ => ⟨le_of_eq hfp, fun _ => hfp⟩)
  refine (h.sat sC' sG').toInv fun _ hc => ?_
  show EnginePair x.p.nnc x.p.dim (cs'.rows.take cs'.firstPending) x.npG st'.satC st'.satG sC' sG'
  rw [hfp, List.take_length]
  exact heng (by rw [← hcan]; exact hc)

/-!
## the binary observers: `obtain_sorted_generators()` keeps the invariant

On an object with minimized generators and nothing pending, each of the four branches of
`obtain_sorted_generators()` (Polyhedron_nonpublic.cc:1003) re-orders the generator system, keeps the
row set, and — when the object is a minimal pair with an exact saturation matrix — permutes the rows of
that matrix along (`sortSat_vgl`), so that `FPoly.Inv` is kept (`osg_obs_keeps`).
-/
/-- sorting duplicate-free rows (nothing pending) together with their exact saturation rows -/
theorem sortSat_vgl (gen nnc0 nnc : Bool) (cols : List Row) (s : Sys) (m : BitMat)
    (hfp : s.firstPending = s.rows.length) (hnd : s.rows.Nodup) (hV : VGl nnc cols s.rows m) :
    (s.sortAndRemoveWithSat gen nnc0 m).1.rows.Perm s.rows ∧
    VGl nnc cols (s.sortAndRemoveWithSat gen nnc0 m).1.rows (s.sortAndRemoveWithSat gen nnc0 m).2 := by
  have hsl : m.rows.length = s.rows.length := by rw [hV.1.1, List.length_map]
  obtain ⟨ps, hperm, h1, h2, h3⟩ := sortSat_perm gen nnc0 s m hfp hnd hsl
  have hz1 : (s.rows.zip m.rows).map (·.1) = s.rows := List.map_fst_zip (by omega)
  have hz2 : (s.rows.zip m.rows).map (·.2) = m.rows := List.map_snd_zip (by omega)
  refine ⟨by rw [h1, ← hz1]; exact hperm.map _, ?_, by rw [h3]; exact hV.2⟩
  rw [h1, h2]
  apply satCorrect_perm nnc _ _ _ hperm
  rw [hz1, hz2]
  exact hV.1

/-! ## the branches of `obtain_sorted_generators()` -/

/-- :1010 `gen_sys.sort_and_remove_with_sat(sat_c)` -/
def osgB (x : FPoly) : FPoly :=
  ⟨{ x.p with gs := (x.p.gs.sortAndRemoveWithSat true x.p.nnc x.satC).1,
              st := { x.p.st with satG := false } },
   (x.p.gs.sortAndRemoveWithSat true x.p.nnc x.satC).2, x.satG⟩
/-- :1016 `sat_c.transpose_assign(sat_g); gen_sys.sort_and_remove_with_sat(sat_c)` -/
def osgC (x : FPoly) : FPoly :=
  ⟨{ x.p with gs := (x.p.gs.sortAndRemoveWithSat true x.p.nnc x.satG.transposeOf).1,
              st := { x.p.st with satC := true, satG := false } },
   (x.p.gs.sortAndRemoveWithSat true x.p.nnc x.satG.transposeOf).2, x.satG⟩
/-- :1024 `gen_sys.sort_rows()` -/
def osgD (x : FPoly) : FPoly := x.withGs (x.p.gs.sortRows true x.p.nnc)

theorem osg_obs_eq (x : FPoly) : x.obtainSortedGenerators =
    if x.p.gs.sorted then x else if x.p.st.satC then osgB x else if x.p.st.satG then osgC x
    else osgD x := rfl

/-- the conclusions `SortedObsKeep.gens` asks for -/
def KeepG (x y : FPoly) (S : Set Val) : Prop :=
  y.Inv S ∧ x.SameShape y ∧ y.p.st.empty = false ∧ y.p.st.gUp = true ∧ y.p.st.cPend = false

theorem osg_obs_keeps (x : FPoly) (S : Set Val) (hx : x.Inv S) (hne : x.p.st.empty = false)
    (hgm : x.p.st.gMin = true) (hsp : x.p.st.somethingPending = false) :
    KeepG x x.obtainSortedGenerators S := by
  have hgu := legal_gMin hx.legal hgm
  have hcp : x.p.st.cPend = false := by
    unfold Status.somethingPending at hsp; cases h : x.p.st.cPend <;> simp_all
  have hgp : x.p.st.gPend = false := by
    unfold Status.somethingPending at hsp; cases h : x.p.st.gPend <;> simp_all
  have hfp : x.p.gs.firstPending = x.p.gs.rows.length := (hx.fpG hne hgu).2 hgp
  have hnpG : x.npG = x.p.gs.rows := by unfold FPoly.npG; rw [hfp, List.take_length]
  rw [osg_obs_eq]
  by_cases hs : x.p.gs.sorted = true
  · rw [if_pos hs]; exact ⟨hx, ⟨rfl, rfl⟩, hne, hgu, hcp⟩
  rw [if_neg hs]
  by_cases hC : x.p.st.satC = true
  · rw [if_pos hC]
    obtain ⟨m1, m2⟩ := sortSat_mem true x.p.nnc x.p.gs x.satC hfp
    refine ⟨?_, ⟨rfl, rfl⟩, hne, hgu, hcp⟩
    refine Inv_resortG x S hx hne hgu hgp _ { x.p.st with satG := false } _ _
      ⟨rfl, rfl, rfl, rfl, rfl, rfl, rfl⟩ (by simp [hC]) m2 m1 (fun hcan => ?_)
    have E := hx.eng hne hcan
    rw [hnpG] at E
    obtain ⟨hp, hV⟩ := sortSat_vgl true x.p.nnc x.p.nnc x.npC x.p.gs x.satC hfp E.nodupG (E.satC hC)
    have P := E.permG hp (x.p.gs.sortAndRemoveWithSat true x.p.nnc x.satC).2 x.satG (fun _ => hV)
    exact ⟨P.sound, P.complete, P.minC, P.minG, P.minL, fun _ => hV, fun h => (by cases h)⟩
  rw [if_neg hC]
  have hC' : x.p.st.satC = false := by simpa using hC
  by_cases hG : x.p.st.satG = true
  · rw [if_pos hG]
    obtain ⟨m1, m2⟩ := sortSat_mem true x.p.nnc x.p.gs x.satG.transposeOf hfp
    refine ⟨?_, ⟨rfl, rfl⟩, hne, hgu, hcp⟩
    refine Inv_resortG x S hx hne hgu hgp _ { x.p.st with satC := true, satG := false } _ _
      ⟨rfl, rfl, rfl, rfl, rfl, rfl, rfl⟩ (by simp [hG]) m2 m1 (fun hcan => ?_)
    have E := hx.eng hne hcan
    rw [hnpG] at E
    have hV0 : VCl x.p.nnc x.npC x.p.gs.rows x.satG := E.satG hG
    obtain ⟨hp, hV⟩ := sortSat_vgl true x.p.nnc x.p.nnc x.npC x.p.gs x.satG.transposeOf hfp E.nodupG
      hV0.transpose
    have P := E.permG hp (x.p.gs.sortAndRemoveWithSat true x.p.nnc x.satG.transposeOf).2 x.satG
      (fun _ => hV)
    exact ⟨P.sound, P.complete, P.minC, P.minG, P.minL, fun _ => hV, fun h => (by cases h)⟩
  rw [if_neg hG]
  have hG' : x.p.st.satG = false := by simpa using hG
  refine ⟨?_, ⟨rfl, rfl⟩, hne, hgu, hcp⟩
  have hcan : x.p.st.canPend = false := by unfold Status.canPend; rw [hC', hG']; simp
  have hI := Inv_resortG x S hx hne hgu hgp (x.p.gs.sortRows true x.p.nnc) x.p.st x.satC x.satG
    (.refl _) rfl
    (fun r => by
      show r ∈ sortRowList true x.p.nnc (x.p.gs.rows.take x.p.gs.firstPending)
        ++ x.p.gs.rows.drop x.p.gs.firstPending ↔ _
      rw [hfp, List.take_length, List.drop_length, List.append_nil, mem_sortRowList])
    (by
      show (sortRowList true x.p.nnc (x.p.gs.rows.take x.p.gs.firstPending)).length
        = (sortRowList true x.p.nnc (x.p.gs.rows.take x.p.gs.firstPending)
            ++ x.p.gs.rows.drop x.p.gs.firstPending).length
      rw [hfp, List.drop_length, List.append_nil])
    (fun h => by rw [hcan] at h; cases h)
  exact hI

end PPLV.PolyFull

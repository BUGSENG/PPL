import PPLV.PolyFull.Public

/-!
# The private helpers by cases, the stages of `is_included_in`, the `lift` wrapper

What the observer, glue, operator and status proofs all need of the helpers before any property is at stake:
the branches of a helper with the equation each gives (a proof about the helper rewrites with the equation of
the branch, reduces the pair projections with `dsimp only`, and uses the facts of the callee: the helper itself
is never unfolded), and `is_included_in` as its four preparation steps.
-/
namespace PPLV.PolyFull
open PPLV.PolyOps

/-! ## `lift`: the row-level result installed in the object -/

theorem lift_p (x : FPoly) (q : Poly) : (x.lift q).p = q := by
  unfold FPoly.lift; split <;> rfl

theorem lift_of_nonempty (x : FPoly) (q : Poly) (h : q.st.empty = false) : x.lift q = { x with p := q } := by
  unfold FPoly.lift; rw [h]; rfl

theorem lift_of_empty (x : FPoly) (q : Poly) (h : x.p.st.empty = true) : x.lift q = { x with p := q } := by
  unfold FPoly.lift FPoly.st; rw [h]; simp

theorem lift_self (x : FPoly) : x.lift x.p = x := by
  unfold FPoly.lift FPoly.st
  cases x.p.st.empty <;> rfl

/-! ## the helpers -/

/-- `process_pending_constraints()` :744-750, the state right before `sort_pending_and_remove_duplicates` -/
def FPoly.ppcPrep (x : FPoly) : FPoly :=
  let x := if !x.st.satC then { x with satC := x.satG.transposeOf } else x
  if !x.p.cs.sorted then x.obtainSortedConstraintsWithSatC else x

/-- `process_pending_generators()` :784-790, likewise -/
def FPoly.ppgPrep (x : FPoly) : FPoly :=
  let x := if !x.st.satG then { x with satG := x.satC.transposeOf } else x
  if !x.p.gs.sorted then x.obtainSortedGeneratorsWithSatG else x

/-- the branches of the idiom "the generators are required" -/
theorem needGens_cases (x : FPoly) :
    (x.p.st.cPend = false ∧ x.p.st.gUp = true ∧ x.needGens = (false, x)) ∨
    (x.p.st.cPend = false ∧ x.p.st.gUp = false ∧ x.needGens = (!x.updateGenerators.1, x.updateGenerators.2)) ∨
    (x.p.st.cPend = true ∧ x.processPendingConstraints.1 = false ∧ x.needGens = (true, x.processPendingConstraints.2)) ∨
    (x.p.st.cPend = true ∧ x.processPendingConstraints.1 = true ∧ x.processPendingConstraints.2.p.st.gUp = true
      ∧ x.needGens = (false, x.processPendingConstraints.2)) ∨
    (x.p.st.cPend = true ∧ x.processPendingConstraints.1 = true ∧ x.processPendingConstraints.2.p.st.gUp = false
      ∧ x.needGens = (!x.processPendingConstraints.2.updateGenerators.1,
                      x.processPendingConstraints.2.updateGenerators.2)) := by
  rcases Bool.eq_false_or_eq_true x.p.st.cPend with c | c
  · rcases Bool.eq_false_or_eq_true x.processPendingConstraints.1 with r | r
    · rcases Bool.eq_false_or_eq_true x.processPendingConstraints.2.p.st.gUp with d | d
      · refine .inr (.inr (.inr (.inl ⟨c, r, d, ?_⟩)))
        simp only [FPoly.needGens, FPoly.st, c, r, d, Bool.not_true, if_true, Bool.false_eq_true, if_false]
      · refine .inr (.inr (.inr (.inr ⟨c, r, d, ?_⟩)))
        simp only [FPoly.needGens, FPoly.st, c, r, d, Bool.not_true, Bool.not_false, if_true, Bool.false_eq_true, if_false]
    · refine .inr (.inr (.inl ⟨c, r, ?_⟩))
      simp only [FPoly.needGens, FPoly.st, c, r, Bool.not_false, if_true]
  · rcases Bool.eq_false_or_eq_true x.p.st.gUp with d | d
    · refine .inl ⟨c, d, ?_⟩
      simp only [FPoly.needGens, FPoly.st, c, d, Bool.not_true, Bool.false_eq_true, if_false]
    · refine .inr (.inl ⟨c, d, ?_⟩)
      simp only [FPoly.needGens, FPoly.st, c, d, Bool.not_false, if_true, Bool.false_eq_true, if_false]

/-- the branches of `minimize()` -/
theorem minimize_cases (x : FPoly) :
    (x.p.st.empty = true ∧ x.minimize = (false, x)) ∨
    (x.p.st.empty = false ∧
      ((x.p.dim = 0 ∧ x.minimize = (true, x)) ∨
       (x.p.dim ≠ 0 ∧
        ((x.p.st.cPend = true ∧ x.minimize = x.processPendingConstraints) ∨
         (x.p.st.cPend = false ∧
          ((x.p.st.gPend = true ∧ x.minimize = (true, x.processPendingGenerators)) ∨
           (x.p.st.gPend = false ∧
            ((x.p.st.cMin = true ∧ x.p.st.gMin = true ∧ x.minimize = (true, x)) ∨
             ((x.p.st.cMin && x.p.st.gMin) = false ∧
              ((x.p.st.cUp = true ∧ x.minimize = x.updateGenerators) ∨
               (x.p.st.cUp = false ∧ x.minimize = (true, x.updateConstraints)))))))))))) := by
  rcases Bool.eq_false_or_eq_true x.p.st.empty with e | e
  · exact .inl ⟨e, by simp [FPoly.minimize, FPoly.st, e]⟩
  refine .inr ⟨e, ?_⟩
  by_cases d : x.p.dim = 0
  · exact .inl ⟨d, by simp [FPoly.minimize, FPoly.st, FPoly.dim, e, d]⟩
  refine .inr ⟨d, ?_⟩
  rcases Bool.eq_false_or_eq_true x.p.st.cPend with c | c
  · exact .inl ⟨c, by simp [FPoly.minimize, FPoly.processPending, FPoly.st, FPoly.dim, Status.somethingPending, e, d, c]⟩
  refine .inr ⟨c, ?_⟩
  rcases Bool.eq_false_or_eq_true x.p.st.gPend with g | g
  · exact .inl ⟨g, by
      simp [FPoly.minimize, FPoly.processPending, FPoly.st, FPoly.dim, Status.somethingPending, e, d, c, g]⟩
  refine .inr ⟨g, ?_⟩
  rcases Bool.eq_false_or_eq_true (x.p.st.cMin && x.p.st.gMin) with m | m
  · rw [Bool.and_eq_true] at m
    exact .inl ⟨m.1, m.2, by
      simp [FPoly.minimize, FPoly.st, FPoly.dim, Status.somethingPending, e, d, c, g, m.1, m.2]⟩
  refine .inr ⟨m, ?_⟩
  rcases Bool.eq_false_or_eq_true x.p.st.cUp with u | u
  · exact .inl ⟨u, by simp [FPoly.minimize, FPoly.st, FPoly.dim, Status.somethingPending, e, d, c, g, m, u]⟩
  · exact .inr ⟨u, by simp [FPoly.minimize, FPoly.st, FPoly.dim, Status.somethingPending, e, d, c, g, m, u]⟩

/-! ## the four preparation steps of `is_included_in` -/

/-- :434 `if (x.has_pending_constraints() && !x.process_pending_constraints()) return true;` -/
def prepPC (x : FPoly) : Bool × FPoly := if x.st.cPend then x.processPendingConstraints else (true, x)
/-- :438 `if (y.has_pending_generators()) y.process_pending_generators();` -/
def prepPG (y : FPoly) : FPoly := if y.st.gPend then y.processPendingGenerators else y
/-- :443 `if (!x.generators_are_up_to_date() && !x.update_generators()) return true;` -/
def prepUG (x : FPoly) : Bool × FPoly := if !x.st.gUp then x.updateGenerators else (true, x)
/-- :446 `if (!y.constraints_are_up_to_date()) y.update_constraints();` -/
def prepUC (y : FPoly) : FPoly := if !y.st.cUp then y.updateConstraints else y

theorem isIncludedIn_eq (x y : FPoly) :
    x.isIncludedIn y =
      if !(prepPC x).1 then (true, (prepPC x).2, y)
      else if !(prepUG (prepPC x).2).1 then (true, (prepUG (prepPC x).2).2, prepPG y)
      else (FPoly.includedLoops (prepUG (prepPC x).2).2.nnc (prepUG (prepPC x).2).2.p.gs.rows
              (prepUC (prepPG y)).p.cs.rows, (prepUG (prepPC x).2).2, prepUC (prepPG y)) := rfl

end PPLV.PolyFull

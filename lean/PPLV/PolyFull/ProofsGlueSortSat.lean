import PPLV.PolyFull.ProofsGlue7

/-!
# `sort_and_remove_with_sat` permutes rows and saturation rows together

List-level facts for the invariance of `EnginePair` under the sort of the CONSTRAINT side: insertion sort
is a permutation (ProofsGlue4), `std::unique` does nothing on a duplicate-free list, the non-pending rows of a minimal
pair are duplicate free, `SatCorrect` is a property of the pairs (row, saturation row), and
`EnginePair` survives a permutation of its constraints.
-/
namespace PPLV.PolyFull
open PPLV.Lin PPLV.PolyOps
open PPLV.Conv (LRow BRow Vec Sound SatCorrect holds holdsAll Generated scalarProduct)

theorem uniqueWith_of_nodup (l : List (Row × BRow)) (h : (l.map (·.1)).Nodup) : uniqueWith l = l := by
  induction l with
  | nil => rfl
  | cons x rest ih =>
    simp only [List.map_cons, List.nodup_cons] at h
    simp only [uniqueWith]
    split
    · rename_i hh
      exfalso
      have hh' : rest.head?.map (·.1) = some x.1 := by simpa using hh
      cases rest with
      | nil => simp at hh'
      | cons b bs =>
        simp only [List.head?_cons, Option.map_some, Option.some.injEq] at hh'
        exact h.1 (by rw [← hh']; simp)
    · rw [ih h.2]

theorem sortWith_perm_of_nodup (gen nnc : Bool) (l : List (Row × BRow)) (h : (l.map (·.1)).Nodup) :
    (sortWith gen nnc l).Perm l := by
  have hp := perm_foldl_insertWith gen nnc l []
  rw [List.append_nil] at hp
  unfold sortWith
  rw [uniqueWith_of_nodup]
  · exact hp
  · exact ((hp.map (·.1)).nodup_iff).mpr h

/-- with duplicate-free non-pending rows and a saturation matrix of the right height,
    `sort_and_remove_with_sat` permutes the pairs and moves nothing else -/
theorem sortAndRemoveWithSat_nodup (gen nnc : Bool) (s : Sys) (sat : BitMat)
    (hfp : s.firstPending ≤ s.rows.length) (hnd : (s.rows.take s.firstPending).Nodup)
    (hsl : sat.rows.length = s.firstPending) :
    ∃ ps : List (Row × BRow), ps.Perm ((s.rows.take s.firstPending).zip sat.rows) ∧
      (s.sortAndRemoveWithSat gen nnc sat).1.rows = ps.map (·.1) ++ s.rows.drop s.firstPending ∧
      (s.sortAndRemoveWithSat gen nnc sat).1.firstPending = s.firstPending ∧
      (s.sortAndRemoveWithSat gen nnc sat).2.rows = ps.map (·.2) ∧
      (s.sortAndRemoveWithSat gen nnc sat).2.ncols = sat.ncols := by
  have hnpl : (s.rows.take s.firstPending).length = s.firstPending := by
    rw [List.length_take]; omega
  have hz1 : ((s.rows.take s.firstPending).zip sat.rows).map (·.1) = s.rows.take s.firstPending :=
    List.map_fst_zip (by omega)
  have hz2 : ((s.rows.take s.firstPending).zip sat.rows).map (·.2) = sat.rows :=
    List.map_snd_zip (by omega)
  unfold Sys.sortAndRemoveWithSat
  split
  · refine ⟨_, List.Perm.refl _, ?_, rfl, ?_, rfl⟩
    · simp only [hz1, List.take_append_drop]
    · simp only [hz2]
  · have hpad : (sat.rows ++ List.replicate (s.firstPending - sat.rows.length) []).take
        s.firstPending = sat.rows := by
      rw [hsl, Nat.sub_self, List.replicate_zero, List.append_nil, ← hsl, List.take_length]
    have hperm := sortWith_perm_of_nodup gen nnc ((s.rows.take s.firstPending).zip sat.rows)
      (by rw [hz1]; exact hnd)
    have hlen : (sortWith gen nnc ((s.rows.take s.firstPending).zip sat.rows)).length = s.firstPending := by
      rw [hperm.length_eq, List.length_zip, hnpl, hsl, Nat.min_self]
    refine ⟨sortWith gen nnc ((s.rows.take s.firstPending).zip sat.rows), hperm, ?_, ?_, ?_, rfl⟩
    · simp only [hnpl, hpad, hlen, Nat.sub_self, List.replicate_zero, List.append_nil, List.range_zero,
        List.foldl_nil, ite_self, Nat.sub_zero, List.take_length]
    · simp only [hnpl, hpad, hlen, Nat.sub_self, Nat.sub_zero]
    · simp only [hnpl, hpad]

/-! ### `SatCorrect` pair by pair -/

/-- the saturation row `s` is the one of the row `d` against the columns `cols` -/
def GoodPair (cols : List LRow) (d : LRow) (s : BRow) : Prop :=
  ∀ j, PPLV.Conv.bit s j =
    (decide (j < cols.length) && decide (scalarProduct (cols.getD j default).v d.v ≠ 0))

theorem satCorrect_iff_pairs (nnc : Bool) (cols : List LRow) (ps : List (Row × BRow)) :
    SatCorrect cols ((ps.map (·.1)).map (toL nnc)) (ps.map (·.2)) ↔
      ∀ p ∈ ps, GoodPair cols (toL nnc p.1) p.2 := by
  unfold SatCorrect GoodPair
  constructor
  · rintro ⟨_, h⟩ p hp j
    obtain ⟨i, hi, rfl⟩ := List.getElem_of_mem hp
    have := h i (by simpa using hi) j
    simpa [List.getD_eq_getElem?_getD, hi] using this
  · intro h
    refine ⟨by simp, fun i hi j => ?_⟩
    have hi' : i < ps.length := by simpa using hi
    have := h ps[i] (List.getElem_mem hi') j
    simpa [List.getD_eq_getElem?_getD, hi'] using this

theorem satCorrect_perm (nnc : Bool) (cols : List LRow) (ps ps' : List (Row × BRow)) (hp : ps'.Perm ps)
    (h : SatCorrect cols ((ps.map (·.1)).map (toL nnc)) (ps.map (·.2))) :
    SatCorrect cols ((ps'.map (·.1)).map (toL nnc)) (ps'.map (·.2)) := by
  rw [satCorrect_iff_pairs] at h ⊢
  exact fun p hp' => h p (hp.mem_iff.mp hp')

/-! ### the constraints of a minimal pair -/

theorem EnginePair.nodupC {nnc n cs gs fC fG sC sG} (h : EnginePair nnc n cs gs fC fG sC sG) :
    cs.Nodup := by
  rw [List.nodup_iff_injective_getElem]
  rintro ⟨i, hi⟩ ⟨j, hj⟩ heq
  simp only at heq
  by_contra hne
  have hij : i ≠ j := fun e => hne (by subst e; rfl)
  obtain ⟨x, _, hall, hnot⟩ := h.minC i hi
  apply hnot
  intro l hl
  obtain ⟨s, hs, rfl⟩ := List.mem_map.mp hl
  obtain ⟨m, hm, rfl⟩ := List.getElem_of_mem hs
  apply hall
  apply List.mem_map.mpr
  refine ⟨cs[m], ?_, rfl⟩
  rw [List.mem_eraseIdx_iff_getElem]
  by_cases hmi : m = i
  · subst hmi
    exact ⟨j, hj, fun e => hij e.symm, heq.symm⟩
  · exact ⟨m, hm, hmi, rfl⟩

theorem EnginePair.permC {nnc n cs cs' gs fC fG sC sG} (h : EnginePair nnc n cs gs fC fG sC sG)
    (hp : cs'.Perm cs) (sC' sG' : BitMat)
    (hsG' : fG = true →
      SatCorrect (gs.map (toL nnc)) (cs'.map (toL nnc)) sG'.rows ∧ sG'.ncols = gs.length) :
    EnginePair nnc n cs' gs false fG sC' sG' := by
  have hnd := h.nodupC
  have hnd' : cs'.Nodup := hp.nodup_iff.mpr hnd
  have hall : ∀ x, holdsAll (cs'.map (toL nnc)) x → holdsAll (cs.map (toL nnc)) x := by
    intro x hx l hl
    obtain ⟨s, hs, rfl⟩ := List.mem_map.mp hl
    exact hx _ (List.mem_map.mpr ⟨s, hp.mem_iff.mpr hs, rfl⟩)
  refine ⟨?_, fun x hl hx => h.complete x hl (hall x hx), ?_, h.minG, h.minL, fun h' => (by cases h'), hsG'⟩
  · intro d hd s hs
    obtain ⟨r, hr, rfl⟩ := List.mem_map.mp hs
    exact h.sound d hd _ (List.mem_map.mpr ⟨r, hp.mem_iff.mp hr, rfl⟩)
  · intro i hi
    obtain ⟨k, hk, hkr⟩ := List.getElem_of_mem (hp.mem_iff.mp (List.getElem_mem hi))
    obtain ⟨x, hxl, hxall, hxnot⟩ := h.minC k hk
    refine ⟨x, hxl, ?_, fun hx => hxnot (hall x hx)⟩
    intro l hl
    obtain ⟨s, hs, rfl⟩ := List.mem_map.mp hl
    obtain ⟨m, hm, hmi, rfl⟩ := List.mem_eraseIdx_iff_getElem.mp hs
    apply hxall
    apply List.mem_map.mpr
    refine ⟨cs'[m], ?_, rfl⟩
    obtain ⟨m', hm', hmr⟩ := List.getElem_of_mem (hp.mem_iff.mp (List.getElem_mem hm))
    rw [List.mem_eraseIdx_iff_getElem]
    refine ⟨m', hm', fun e => hmi ?_, hmr⟩
    subst e
    exact (hnd'.getElem_inj_iff).mp (hmr.symm.trans hkr)

end PPLV.PolyFull

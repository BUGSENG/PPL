import PPLV.PolyFull.ProofsGluePendingC

/-!
# `GlueFacts` from `ConvContract`: `process_pending_generators()`

The dual of ProofsGluePendingC: `processPendingGenerators x = (ppgPrep x).ppgTail`.
-/
namespace PPLV.PolyFull
open PPLV.Lin PPLV.PolyOps
open PPLV.Conv (LRow BRow Vec Sound SatCorrect holds holdsAll Generated)

/-- a well-formed generator that compares equal to another one has the same engine reading -/
def CmpExactG : Prop := ∀ (nnc : Bool) (n : Nat) (a b : Row), a.genWF nnc n → b.genWF nnc n →
  cmpRow true nnc a b = 0 → toL nnc a = toL nnc b

theorem toL_eq_parts (nnc : Bool) (a b : Row) (h : toL nnc a = toL nnc b) :
    a.eq = b.eq ∧ a.b = b.b ∧ a.cf = b.cf ∧ (nnc = true → a.eps = b.eps) := by
  obtain ⟨ae, ab, ac, aeps⟩ := a
  obtain ⟨be, bb, bc, beps⟩ := b
  simp only [toL, LRow.mk.injEq, List.cons.injEq] at h
  obtain ⟨h1, h2, h3⟩ := h
  cases nnc
  · simp only [Bool.false_eq_true, if_false, List.append_nil] at h3
    exact ⟨h1, h2, h3, fun h => (by cases h)⟩
  · simp only [if_true] at h3
    obtain ⟨h4, h5⟩ := List.append_inj' h3 rfl
    simp only [List.cons.injEq, and_true] at h5
    exact ⟨h1, h2, h4, fun _ => h5⟩

theorem toGen_congr_toL (nnc : Bool) (a b : Row) (h : toL nnc a = toL nnc b) :
    a.toGen nnc = b.toGen nnc := by
  obtain ⟨h1, h2, h3, h4⟩ := toL_eq_parts nnc a b h
  unfold Row.toGen
  rw [h1, h2, h3]
  cases nnc
  · simp
  · rw [h4 rfl]

theorem isPoint_congr_toL (nnc : Bool) (a b : Row) (h : toL nnc a = toL nnc b) (ha : a.isPoint nnc) :
    b.isPoint nnc := by
  obtain ⟨h1, h2, _, h4⟩ := toL_eq_parts nnc a b h
  unfold Row.isPoint at ha ⊢
  rw [← h1, ← h2]
  refine ⟨ha.1, ha.2.1, fun hn => ?_⟩
  rw [← h4 hn]; exact ha.2.2 hn

theorem genSem_congr_toL (nnc : Bool) (n : Nat) (A B : List Row) (hA : ∀ r ∈ A, r.genWF nnc n)
    (h1 : ToLSub nnc A B) (h2 : ToLSub nnc B A) : genSem nnc n A = genSem nnc n B := by
  unfold genSem
  apply kit_memEquiv n _ _ (gensWF_gensOf nnc n A hA)
  intro g
  unfold gensOf
  simp only [List.mem_map]
  constructor
  · rintro ⟨r, hr, e⟩
    obtain ⟨r', hr', e'⟩ := h1 r hr
    exact ⟨r', hr', (toGen_congr_toL nnc r' r e').trans e⟩
  · rintro ⟨r, hr, e⟩
    obtain ⟨r', hr', e'⟩ := h2 r hr
    exact ⟨r', hr', (toGen_congr_toL nnc r' r e').trans e⟩

/-- :792-806 -/
def FPoly.ppgTail (x : FPoly) : FPoly :=
  let gs := x.p.gs.sortPendingAndRemoveDuplicates true x.nnc
  let x := x.withGs gs
  if gs.rows.length == gs.firstPending then x.withSt { x.st with gPend := false }
  else
    let o := FPoly.engineAddAndMinimize false x.nnc x.dim gs x.p.cs x.satG
    { x with satG := o.sat,
             p := { x.p with gs := o.source, cs := o.dest,
                             st := { x.p.st with gPend := false, satC := false, satG := true } } }

theorem ppg_eq (x : FPoly) : x.processPendingGenerators = x.ppgPrep.ppgTail := rfl

/-- what the second half needs of the prepared state `x1` of `x` -/
structure PreparedG (x x1 : FPoly) : Prop where
  nnc : x1.p.nnc = x.p.nnc
  dim : x1.p.dim = x.p.dim
  cs : x1.p.cs = x.p.cs
  st : ∃ a b, x1.p.st = { x.p.st with satC := a, satG := b }
  fp : x1.p.gs.firstPending ≤ x1.p.gs.rows.length
  rows : ∀ r, r ∈ x1.p.gs.rows ↔ r ∈ x.p.gs.rows
  np : ∀ r, r ∈ x1.npG ↔ r ∈ x.npG
  pair : EnginePair x.p.nnc x.p.dim x.p.cs.rows x1.npG x1.p.st.satC true x1.satC x1.satG

theorem ppgTail_facts (C : ConvContract) (hcmp : CmpExactG) (x x1 : FPoly) (S : Set Val) (hx : x.Inv S)
    (he : x.p.st.empty = false) (hgp : x.p.st.gPend = true) (hP : PreparedG x x1) :
    x.SameShape x1.ppgTail ∧ x1.ppgTail.Inv S ∧ x1.ppgTail.FullyMin := by
  obtain ⟨hcu, hgu, hcm, hgm⟩ := ((legal_iff _ _).1 hx.legal).of_canPend (legal_gPend hx.legal hgp)
  have hd := legal_dim hx.legal hcu
  have hcp : x.p.st.cPend = false := by
    cases h : x.p.st.cPend
    · rfl
    · exact absurd ⟨h, hgp⟩ (legal_not_both hx.legal)
  have hfpC := (hx.fpC he hcu).2 hcp
  obtain ⟨a, b, hst⟩ := hP.st
  have hn1 := hP.nnc
  have hd1 := hP.dim
  have hc1 := hP.cs
  have he1 : x1.p.st.empty = false := by rw [hst]; exact he
  have hcu1 : x1.p.st.cUp = true := by rw [hst]; exact hcu
  have hgu1 : x1.p.st.gUp = true := by rw [hst]; exact hgu
  have hcm1 : x1.p.st.cMin = true := by rw [hst]; exact hcm
  have hgm1 : x1.p.st.gMin = true := by rw [hst]; exact hgm
  have hcp1 : x1.p.st.cPend = false := by rw [hst]; exact hcp
  -- the rows
  have hwfx : ∀ r ∈ x.p.gs.rows, r.genWF x1.p.nnc x1.p.dim := by
    rw [hn1, hd1]; exact hx.wf.gs_wf he hgu
  have hwf1 : ∀ r ∈ x1.p.gs.rows, r.genWF x1.p.nnc x1.p.dim := fun r hr => hwfx r ((hP.rows r).mp hr)
  have hsub := sortPending_sub true x1.p.nnc x1.p.gs
  have hwf' : ∀ r ∈ (x1.p.gs.sortPendingAndRemoveDuplicates true x1.p.nnc).rows,
      r.genWF x1.p.nnc x1.p.dim := fun r hr => hwf1 r (hsub r hr)
  have hT1 : ToLSub x1.p.nnc x.p.gs.rows (x1.p.gs.sortPendingAndRemoveDuplicates true x1.p.nnc).rows :=
    (ToLSub.of_subset fun r hr => (hP.rows r).mpr hr).trans (sortPending_toLSub true x1.p.nnc x1.p.gs
      fun a ha r hr hc => hcmp _ _ _ _ (hwf1 a ha) (hwf1 r hr) hc)
  have hT2 : ToLSub x1.p.nnc (x1.p.gs.sortPendingAndRemoveDuplicates true x1.p.nnc).rows x.p.gs.rows :=
    ToLSub.of_subset fun r hr => (hP.rows r).mp (hsub r hr)
  have hgenS : genSem x1.p.nnc x1.p.dim x.p.gs.rows = S := by
    rw [hn1, hd1]; exact (hx.den.2 he).2.1 hgu hcp
  have hgen' : genSem x1.p.nnc x1.p.dim (x1.p.gs.sortPendingAndRemoveDuplicates true x1.p.nnc).rows = S := by
    rw [← hgenS]
    exact (genSem_congr_toL _ _ _ _ hwfx hT1 hT2).symm
  have hpt' : ∃ r ∈ (x1.p.gs.sortPendingAndRemoveDuplicates true x1.p.nnc).rows, r.isPoint x1.p.nnc := by
    obtain ⟨r, hr, hp⟩ := hx.wf.gs_pt he hgu
    obtain ⟨r', hr', e⟩ := hT1 r hr
    refine ⟨r', hr', isPoint_congr_toL _ r r' e.symm ?_⟩
    rw [hn1]; exact hp
  have hlen1 : ∀ r ∈ x1.p.cs.rows, r.cf.length = x1.p.dim := by
    rw [hc1, hd1]; exact hx.wf.cs_len he hcu
  have hlow1 : LowLevel x1.p.nnc x1.p.dim x1.p.cs.rows := by
    rw [hc1, hn1, hd1]; exact hx.low he hcu
  have hfpC1 : x1.p.cs.firstPending = x1.p.cs.rows.length := by rw [hc1]; exact hfpC
  have htake := sortPending_take true x1.p.nnc x1.p.gs hP.fp
  have hlenfp := sortPending_len true x1.p.nnc x1.p.gs hP.fp
  have hpair1 : EnginePair x1.p.nnc x1.p.dim x1.p.cs.rows x1.npG x1.p.st.satC true x1.satC x1.satG := by
    rw [hn1, hd1, hc1]; exact hP.pair
  have hd1' : 0 < x1.p.dim := by omega
  by_cases hA : (x1.p.gs.sortPendingAndRemoveDuplicates true x1.p.nnc).rows.length = x1.p.gs.firstPending
  · have e : x1.ppgTail = (x1.withGs (x1.p.gs.sortPendingAndRemoveDuplicates true x1.p.nnc)).withSt
        { x1.p.st with gPend := false } := by
      simp [FPoly.ppgTail, FPoly.nnc, FPoly.st, FPoly.withGs, FPoly.withSt, sortPending_fp, hA]
    rw [e]
    have hrowsA := sortPending_all_dup true x1.p.nnc x1.p.gs hP.fp hA
    have hconS : conSem x1.p.nnc x1.p.cs.rows = S := by
      have h1 : conSem x1.p.nnc x1.p.cs.rows = genSem x1.p.nnc x1.p.dim x.npG := by
        rw [hn1, hd1, hc1]; exact hx.denNPg he hgp
      have hwfnp : ∀ r ∈ x.npG, r.genWF x1.p.nnc x1.p.dim := fun r hr => hwfx r (List.mem_of_mem_take hr)
      rw [h1, genSem_congr_mem _ _ _ _ hwfnp fun r => (hP.np r).symm]
      have : x1.npG = (x1.p.gs.sortPendingAndRemoveDuplicates true x1.p.nnc).rows := hrowsA.symm
      rw [this]
      exact hgen'
    have hpost : EnginePost x1.p.nnc x1.p.dim S x1.p.cs (x1.p.gs.sortPendingAndRemoveDuplicates true x1.p.nnc)
        x1.p.st.satC x1.p.st.satG x1.satC x1.satG :=
      ⟨hlen1, hwf', hpt', hfpC1, hA.symm, hconS, hgen', hlow1, by rw [hrowsA]; exact hpair1.weakenG _⟩
    exact ⟨⟨hn1, hd1⟩, inv_of_post _ S hd1' hpost he1 hcu1 hgu1 hcm1 hgm1 hcp1 rfl⟩
  · have hpairE : EnginePair x1.p.nnc x1.p.dim x1.p.cs.rows
        ((x1.p.gs.sortPendingAndRemoveDuplicates true x1.p.nnc).rows.take
          (x1.p.gs.sortPendingAndRemoveDuplicates true x1.p.nnc).firstPending)
        false true BitMat.clear x1.satG := by
      rw [sortPending_fp, htake]
      exact hpair1.dropC _
    have hC := C.add_g x1.p.nnc x1.p.dim (x1.p.gs.sortPendingAndRemoveDuplicates true x1.p.nnc) x1.p.cs
      x1.satG hd1' hlen1 hwf' hpt' (by rw [sortPending_fp]; exact hlenfp) hfpC1 hlow1 hpairE
    rw [hgen'] at hC
    have hA' : ((x1.p.gs.sortPendingAndRemoveDuplicates true x1.p.nnc).rows.length ==
        x1.p.gs.firstPending) = false := by simpa using hA
    have e : x1.ppgTail =
        { x1.withGs (x1.p.gs.sortPendingAndRemoveDuplicates true x1.p.nnc) with
          satG := (FPoly.engineAddAndMinimize false x1.p.nnc x1.p.dim
            (x1.p.gs.sortPendingAndRemoveDuplicates true x1.p.nnc) x1.p.cs x1.satG).sat,
          p := { x1.p with
            gs := (FPoly.engineAddAndMinimize false x1.p.nnc x1.p.dim
              (x1.p.gs.sortPendingAndRemoveDuplicates true x1.p.nnc) x1.p.cs x1.satG).source,
            cs := (FPoly.engineAddAndMinimize false x1.p.nnc x1.p.dim
              (x1.p.gs.sortPendingAndRemoveDuplicates true x1.p.nnc) x1.p.cs x1.satG).dest,
            st := { x1.p.st with gPend := false, satC := false, satG := true } } } := by
      simp [FPoly.ppgTail, FPoly.nnc, FPoly.dim, FPoly.withGs, sortPending_fp, hA']
    rw [e]
    exact ⟨⟨hn1, hd1⟩, inv_of_post _ S hd1' (hC.of_flagC_false x1.satC) he1 hcu1 hgu1 hcm1 hgm1 hcp1 rfl⟩

end PPLV.PolyFull

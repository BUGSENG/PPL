import PPLV.PolyFull.ProofsStatus4b

/-!
# The status protocol on the full model: `constraints()`, `generators()`, `minimized_*()` (closed topology)

Data facts used (hypotheses on the full state, established by `set_empty()` and kept by the methods): a polyhedron
marked empty has `sorted` systems (the abstract model re-installs `sorted = true` on the empty branch of
`constraints()` / `generators()`; the full model only when `con_sys` has no rows).
The abstract `minimized_*` are two steps (`minimize()`, then `constraints()` / `generators()`) with one ghost input
each; on a LEGAL status word the second step does not read the ghost Booleans of the intermediate state: after
`minimize()` answered "not empty" both descriptions are up to date and nothing is pending (`minimize_post`).
-/
namespace PPLV.PolyFull
open PPLV.PolyOps PPLV.Lin
open PPLV.PolyStatus (PState Gh Two)

attribute [local simp] FPoly.st FPoly.nnc FPoly.dim FPoly.withSt FPoly.withCs FPoly.withGs

theorem Sim.set_csS {y : FPoly} {t : PState} (h : Sim y t) (hs : y.p.cs.sorted = true) :
    Sim y ((t.set .csS true).set .rC true) := by
  sim_hyps h
  simp [Sim, pst, *]

theorem Sim.set_gsS {y : FPoly} {t : PState} (h : Sim y t) (hs : y.p.gs.sorted = true) :
    Sim y ((t.set .gsS true).set .rG true) := by
  sim_hyps h
  simp [Sim, pst, *]

/-! ## `constraints()` -/

theorem constraints_sim (x : FPoly) (s : PState) (g : Gh) (h : Sim x s)
    (hE : x.p.st.empty = true → x.p.cs.rows.isEmpty = false → x.p.cs.sorted = true)
    (hg : x.p.st.empty = false → x.p.dim ≠ 0 → NeedConsGhost x g s) :
    Sim x.constraints (PPLV.PolyStatus.constraints g s) := by
  have h' := h
  sim_hyps h'
  rcases (Bool.eq_false_or_eq_true x.p.st.empty).symm with a | a
  · by_cases b : x.p.dim = 0
    · simp [FPoly.constraints, PPLV.PolyStatus.constraints, pst, *]
    · have e1 : x.constraints = x.needCons := by simp [FPoly.constraints, a, b]
      have e2 : PPLV.PolyStatus.constraints g s = PPLV.PolyStatus.needCons g s := by
        simp [PPLV.PolyStatus.constraints, pst, *]
      rw [e1, e2]; exact needCons_sim x s g h (hg a b)
  · have e2 : PPLV.PolyStatus.constraints g s = (s.set .csS true).set .rC true := by
      simp [PPLV.PolyStatus.constraints, pst, *]
    rw [e2]
    rcases (Bool.eq_false_or_eq_true x.p.cs.rows.isEmpty).symm with b | b
    · have e1 : x.constraints = x := by simp [FPoly.constraints, a, b]
      rw [e1]; exact h.set_csS (hE a b)
    · have e1 : x.constraints = x.withCs ⟨[⟨true, -1, List.replicate x.dim 0, 0⟩], 1, true⟩ := by
        simp [FPoly.constraints, a, b]
      rw [e1]; simp [Sim, pst, *]

/-! ## `generators()` -/

theorem generators_sim (x : FPoly) (s : PState) (g : Gh) (h : Sim x s)
    (hE : x.p.st.empty = true → x.p.gs.sorted = true)
    (hl : x.p.st.cPend = true → x.p.st.gUp = true)
    (hg : x.p.st.empty = false → x.p.dim ≠ 0 → NeedGensGhost x g s) :
    Sim x.generators (PPLV.PolyStatus.generators g s) := by
  have h' := h
  sim_hyps h'
  rcases (Bool.eq_false_or_eq_true x.p.st.empty).symm with a | a
  · by_cases b : x.p.dim = 0
    · simp [FPoly.generators, PPLV.PolyStatus.generators, pst, *]
    · obtain ⟨m1, m2⟩ := needGens_sim x s g h hl (hg a b)
      rcases (Bool.eq_false_or_eq_true x.needGens.1).symm with r | r
      · rcases (Bool.eq_false_or_eq_true
          (x.needGens.2.p.nnc && x.needGens.2.p.st.gMin && !x.needGens.2.p.st.gPend)).symm with d | d
        · have e1 : x.generators = x.needGens.2 := by
            simp only [FPoly.generators, FPoly.st, FPoly.dim, FPoly.nnc, a, r, d]; simp [b]
          have e2 : PPLV.PolyStatus.generators g s = (PPLV.PolyStatus.needGens g s).2 := by
            simp only [PPLV.PolyStatus.generators, pst, h1, h10, a, m1, r, m2.nnc, m2.gmin, m2.gpend, d]; simp [b]
          rw [e1, e2]; exact m2
        · have e1 : x.generators = x.needGens.2.obtainSortedGenerators := by
            simp only [FPoly.generators, FPoly.st, FPoly.dim, FPoly.nnc, a, r, d]; simp [b]
          have e2 : PPLV.PolyStatus.generators g s
              = PPLV.PolyStatus.obtainSortedGenerators (PPLV.PolyStatus.needGens g s).2 := by
            simp only [PPLV.PolyStatus.generators, pst, h1, h10, a, m1, r, m2.nnc, m2.gmin, m2.gpend, d]; simp [b]
          rw [e1, e2]; exact obtainSortedGenerators_sim _ _ m2
      · have e1 : x.generators = x.needGens.2 := by
          simp only [FPoly.generators, FPoly.st, FPoly.dim, a, r]; simp [b]
        have e2 : PPLV.PolyStatus.generators g s
            = ((PPLV.PolyStatus.needGens g s).2.set .gsS true).set .rG true := by
          simp only [PPLV.PolyStatus.generators, pst, h1, h10, a, m1, r]; simp [b]
        rw [e1, e2]
        exact m2.set_gsS (by rw [(needGens_found x r).1]; rfl)
  · have e1 : x.generators = x := by simp [FPoly.generators, a]
    have e2 : PPLV.PolyStatus.generators g s = (s.set .gsS true).set .rG true := by
      simp [PPLV.PolyStatus.generators, pst, *]
    rw [e1, e2]; exact h.set_gsS (hE a)

/-- the clauses of `Status::OK()` used below -/
theorem legal_facts {st : Status} {d : Nat} (hl : statusLegalB st d = true) :
    (st.cPend = true → st.cUp = true ∧ st.gUp = true ∧ st.cMin = true ∧ st.gMin = true ∧ st.gPend = false
        ∧ st.empty = false)
    ∧ (st.gPend = true → st.cUp = true ∧ st.gUp = true ∧ st.cMin = true ∧ st.gMin = true ∧ st.cPend = false
        ∧ st.empty = false)
    ∧ (st.cMin = true → st.cUp = true) ∧ (st.gMin = true → st.gUp = true)
    ∧ (st.empty = false → (d == 0) = false → st.cUp = false → st.gUp = true) := by
  have L := (legal_iff _ _).1 hl
  refine ⟨fun h => ?_, fun h => ?_, L.cMin, L.gMin, fun he hd hc => ?_⟩
  · obtain ⟨a, b, c, e, f⟩ := L.of_pend (Or.inl h)
    exact ⟨a, b, c, e, L.notBoth h, f⟩
  · obtain ⟨a, b, c, e, f⟩ := L.of_pend (Or.inr h)
    refine ⟨a, b, c, e, ?_, f⟩
    rcases Bool.eq_false_or_eq_true st.cPend with hc | hc
    · rw [L.notBoth hc] at h; cases h
    · exact hc
  · rcases L.some he (by simpa using hd) with h | h
    · rw [hc] at h; cases h
    · exact h

/-- what `minimize()` leaves -/
structure MinPost (x y : FPoly) : Prop where
  empty : y.p.st.empty = false
  cUp : y.p.st.cUp = true
  gUp : y.p.st.gUp = true
  cMin : y.p.st.cMin = true
  gMin : y.p.st.gMin = true
  cPend : y.p.st.cPend = false
  gPend : y.p.st.gPend = false
  dim : y.p.dim = x.p.dim
  nnc : y.p.nnc = x.p.nnc

/-- a routine that clears the pending flags and touches the `sat` bits of a word with both descriptions
    minimized leaves what `minimize()` promises -/
theorem MinPost.of_st {x y : FPoly} {cp gp sc sg : Bool} (k : y.p.st = { x.p.st with cPend := cp, gPend := gp, satC := sc, satG := sg })
    (hcp : cp = false) (hgp : gp = false) (he : x.p.st.empty = false) (hc : x.p.st.cUp = true) (hg : x.p.st.gUp = true)
    (hcm : x.p.st.cMin = true) (hgm : x.p.st.gMin = true) (hd : y.p.dim = x.p.dim) (hn : y.p.nnc = x.p.nnc) :
    MinPost x y := by
  subst hcp hgp
  constructor <;> first | rw [k] | assumption
  all_goals assumption

theorem minimize_post (x : FPoly) (hl : statusLegalB x.p.st x.p.dim = true) (he : x.p.st.empty = false)
    (hd : x.p.dim ≠ 0) :
    (x.minimize.1 = false → x.minimize.2.p.gs = Sys.clear ∧ x.minimize.2.p.cs = Sys.clear
        ∧ x.minimize.2.p.st = Status.setEmpty)
    ∧ (x.minimize.1 = true → MinPost x x.minimize.2) := by
  have L := (legal_iff _ _).1 hl
  rcases minimize_cases x with ⟨a, _⟩ | ⟨_, ⟨b, _⟩ | ⟨_, ⟨c, e⟩ | ⟨c, ⟨c', e⟩ |
    ⟨c', ⟨m1, m2, e⟩ | ⟨_, ⟨u, e⟩ | ⟨u, e⟩⟩⟩⟩⟩⟩
  · rw [he] at a; cases a
  · exact absurd b hd
  all_goals rw [e]
  · obtain ⟨a1, a2, a3, a4, _⟩ := L.of_pend (Or.inl c)
    obtain ⟨j1, j2⟩ := processPendingConstraints_shape x
    refine ⟨processPendingConstraints_false x, fun hr => ?_⟩
    obtain ⟨sc, sg, k⟩ := processPendingConstraints_true x hr
    exact .of_st (gp := x.p.st.gPend) k rfl (L.notBoth c) he a1 a2 a3 a4 j1 j2
  · obtain ⟨a1, a2, a3, a4, _⟩ := L.of_pend (Or.inr c')
    obtain ⟨j1, j2, sc, sg, k⟩ := processPendingGenerators_post x
    exact ⟨nofun, fun _ => .of_st (cp := x.p.st.cPend) k c rfl he a1 a2 a3 a4 j1 j2⟩
  · exact ⟨nofun, fun _ => ⟨he, L.cMin m1, L.gMin m2, m1, m2, c, c', rfl, rfl⟩⟩
  · obtain ⟨j1, j2, kf, kt⟩ := updateGenerators_post x
    refine ⟨kf, fun hr => ?_⟩
    have k := kt hr
    constructor <;> first | rw [k] | assumption
    all_goals assumption
  · exact ⟨nofun, fun _ => ⟨he, rfl, rfl, rfl, rfl, c, c', rfl, rfl⟩⟩

/-! ## the two observers -/

/-- `minimized_constraints()`, closed topology, legal status word -/
theorem minimizedConstraints_sim (x : FPoly) (s : PState) (g1 g2 : Gh) (h : Sim x s) (hn : x.p.nnc = false)
    (hl : statusLegalB x.p.st x.p.dim = true)
    (hE : x.p.st.empty = true → x.p.cs.rows.isEmpty = false → x.p.cs.sorted = true)
    (hg : MinGhost x g1 s) :
    Sim x.minimizedConstraints
      (PPLV.PolyStatus.runSteps PPLV.PolyStatus.minimizedConstraintsSteps [g1, g2] s) := by
  obtain ⟨_, m2⟩ := minimize_sim x s g1 h hg
  have e1 : x.minimizedConstraints = x.minimize.2.constraints := by simp [FPoly.minimizedConstraints, hn]
  have e2 : PPLV.PolyStatus.runSteps PPLV.PolyStatus.minimizedConstraintsSteps [g1, g2] s
      = PPLV.PolyStatus.constraints g2 (PPLV.PolyStatus.minimize g1 s).2 := by
    have : s.nnc = false := h.nnc.trans hn
    simp [PPLV.PolyStatus.runSteps, PPLV.PolyStatus.minimizedConstraintsSteps, this]
  rw [e1, e2]
  rcases (Bool.eq_false_or_eq_true x.p.st.empty).symm with a | a
  · by_cases b : x.p.dim = 0
    · have e3 : x.minimize = (true, x) := by simp [FPoly.minimize, a, b]
      rw [e3] at m2 ⊢
      exact constraints_sim _ _ g2 m2 hE (fun _ hd => absurd b hd)
    · obtain ⟨p1, p2⟩ := minimize_post x hl a b
      rcases (Bool.eq_false_or_eq_true x.minimize.1).symm with r | r
      · refine constraints_sim _ _ g2 m2 (fun _ hne => ?_) (fun hf => ?_)
        · rw [(p1 r).2.1] at hne; simp [Sys.clear] at hne
        · rw [(p1 r).2.2] at hf; simp [Status.setEmpty] at hf
      · have q := p2 r
        refine constraints_sim _ _ g2 m2 (fun hf => ?_) (fun _ _ => ⟨fun hp => ?_, fun _ hc => ?_⟩)
        · rw [q.empty] at hf; cases hf
        · rw [q.gPend] at hp; cases hp
        · rw [q.cUp] at hc; cases hc
  · have e3 : x.minimize = (false, x) := by simp [FPoly.minimize, a]
    rw [e3] at m2 ⊢
    exact constraints_sim _ _ g2 m2 hE (fun hf => by rw [a] at hf; cases hf)

/-- `minimized_generators()`, closed topology, legal status word -/
theorem minimizedGenerators_sim (x : FPoly) (s : PState) (g1 g2 : Gh) (h : Sim x s) (hn : x.p.nnc = false)
    (hl : statusLegalB x.p.st x.p.dim = true)
    (hE : x.p.st.empty = true → x.p.gs.sorted = true)
    (hg : MinGhost x g1 s) :
    Sim x.minimizedGenerators
      (PPLV.PolyStatus.runSteps PPLV.PolyStatus.minimizedGeneratorsSteps [g1, g2] s) := by
  obtain ⟨_, m2⟩ := minimize_sim x s g1 h hg
  have e1 : x.minimizedGenerators = x.minimize.2.generators := by simp [FPoly.minimizedGenerators, hn]
  have e2 : PPLV.PolyStatus.runSteps PPLV.PolyStatus.minimizedGeneratorsSteps [g1, g2] s
      = PPLV.PolyStatus.generators g2 (PPLV.PolyStatus.minimize g1 s).2 := by
    have : s.nnc = false := h.nnc.trans hn
    simp [PPLV.PolyStatus.runSteps, PPLV.PolyStatus.minimizedGeneratorsSteps, this]
  rw [e1, e2]
  have hcg := (legal_facts hl).1
  rcases (Bool.eq_false_or_eq_true x.p.st.empty).symm with a | a
  · by_cases b : x.p.dim = 0
    · have e3 : x.minimize = (true, x) := by simp [FPoly.minimize, a, b]
      rw [e3] at m2 ⊢
      exact generators_sim _ _ g2 m2 hE (fun hc => (hcg hc).2.1) (fun _ hd => absurd b hd)
    · obtain ⟨p1, p2⟩ := minimize_post x hl a b
      rcases (Bool.eq_false_or_eq_true x.minimize.1).symm with r | r
      · refine generators_sim _ _ g2 m2 (fun _ => ?_) (fun hc => ?_) (fun hf => ?_)
        · rw [(p1 r).1]; rfl
        · rw [(p1 r).2.2] at hc; simp [Status.setEmpty] at hc
        · rw [(p1 r).2.2] at hf; simp [Status.setEmpty] at hf
      · have q := p2 r
        refine generators_sim _ _ g2 m2 (fun hf => ?_) (fun _ => q.gUp) (fun _ _ => ⟨fun hp => ?_, fun _ hc => ?_⟩)
        · rw [q.empty] at hf; cases hf
        · rw [q.cPend] at hp; cases hp
        · rw [q.gUp] at hc; cases hc
  · have e3 : x.minimize = (false, x) := by simp [FPoly.minimize, a]
    rw [e3] at m2 ⊢
    exact generators_sim _ _ g2 m2 hE (fun hc => (hcg hc).2.1) (fun hf => by rw [a] at hf; cases hf)

end PPLV.PolyFull

import PPLV.PolyFull.ProofsStatusObservers

/-!
# The status protocol on the full model: `refine_no_check` / `add_constraint`, `add_generator`, `unconstrain`

Ghost inputs: those of the preparation (`needCons` / `needGens`), and `g.keep` := the `sorted` flag the full
model's insertion leaves (`Linear_System::insert` keeps the flag only if it was set, so the abstract
`csS && keep` is that flag).
-/
namespace PPLV.PolyFull
open PPLV.PolyOps PPLV.Lin
open PPLV.PolyStatus (PState Gh Two)

attribute [local simp] FPoly.st FPoly.nnc FPoly.dim FPoly.withSt FPoly.withCs FPoly.withGs

/-! ## `Linear_System::insert` never sets the flag -/

theorem insertRow_sorted_imp (gen nnc : Bool) (s : Sys) (r : Row) (h : (s.insertRow gen nnc r).sorted = true) :
    s.sorted = true := by
  unfold Sys.insertRow at h
  cases hs : s.sorted <;> simp_all

theorem refineBy_sorted (coarse exact : Sys) :
    (coarse.refineBy exact).sorted = coarse.sorted ∨ (coarse.refineBy exact).sorted = exact.sorted := by
  unfold Sys.refineBy; split
  · exact Or.inr rfl
  · exact Or.inl rfl

theorem refineBy_sorted_eq (coarse exact : Sys) {v : Bool} (hc : coarse.sorted = v) (he : exact.sorted = v) :
    (coarse.refineBy exact).sorted = v := by
  rcases refineBy_sorted coarse exact with q | q
  · rw [q]; exact hc
  · rw [q]; exact he

/-! ## the tails "rows inserted, pending if possible" -/

/-- the abstract `can_have_something_pending()` is the full one -/
theorem Sim.canPend {y : FPoly} {t : PState} (m : Sim y t) (be : Bool) :
    (PState.setChanges be t).canHaveSomethingPending = y.p.st.canPend := by
  simp only [pst, Status.canPend, m.cmin, m.gmin, m.satc, m.satg, reduceCtorEq, if_false]

/-- the flag an insertion leaves, given that it is the ghost `keep` and never set by the insertion -/
theorem sorted_eq_and {k z y : Bool} (hk : k = z) (h : z = true → y = true) : z = (y && k) := by
  subst hk
  cases k
  · exact (Bool.and_false y).symm
  · rw [h rfl]; rfl

/-- rows inserted into `con_sys`: any full state whose status word, dimension, topology, `gen_sys` and
    `sorted` flag of `con_sys` relate to those of `y` as the C++ insertion prescribes is simulated by `insertCons` -/
theorem insertCons_sim_of_facts (y z : FPoly) (t : PState) (g : Gh) (m : Sim y t)
    (f1 : z.p.st = (if y.p.st.canPend then { y.p.st with cPend := true } else ({ y.p.st with cMin := false }).clearGUp))
    (f2 : z.p.dim = y.p.dim) (f3 : z.p.nnc = y.p.nnc) (f4 : z.p.gs = y.p.gs)
    (s2 : y.p.st.canPend = true → z.p.cs.sorted = y.p.cs.sorted)
    (s3 : y.p.st.canPend = false → z.p.cs.sorted = (y.p.cs.sorted && g.keep)) :
    Sim z (PPLV.PolyStatus.insertCons g t) := by
  unfold PPLV.PolyStatus.insertCons
  simp only [m.canPend]
  sim_hyps m
  rcases Bool.eq_false_or_eq_true y.p.st.canPend with cp | cp
  · simp [Sim, pst, s2 cp, *]
  · simp [Sim, pst, s3 cp, Status.clearGUp, *]

/-- rows inserted into `gen_sys` -/
theorem insertGens_sim_of_facts (y z : FPoly) (t : PState) (g : Gh) (m : Sim y t)
    (f1 : z.p.st = (if y.p.st.canPend then { y.p.st with gPend := true } else ({ y.p.st with gMin := false }).clearCUp))
    (f2 : z.p.dim = y.p.dim) (f3 : z.p.nnc = y.p.nnc) (f4 : z.p.cs = y.p.cs)
    (s2 : y.p.st.canPend = true → z.p.gs.sorted = y.p.gs.sorted)
    (s3 : y.p.st.canPend = false → z.p.gs.sorted = (y.p.gs.sorted && g.keep)) :
    Sim z (PPLV.PolyStatus.insertGens g t) := by
  unfold PPLV.PolyStatus.insertGens
  simp only [m.canPend]
  sim_hyps m
  rcases Bool.eq_false_or_eq_true y.p.st.canPend with cp | cp
  · simp [Sim, pst, s2 cp, *]
  · simp [Sim, pst, s3 cp, Status.clearCUp, *]

/-! ## `needCons` keeps what it does not own -/

theorem updateConstraints_keeps (x : FPoly) :
    x.updateConstraints.p.st.empty = x.p.st.empty ∧ x.updateConstraints.p.dim = x.p.dim
    ∧ x.updateConstraints.p.nnc = x.p.nnc := by
  simp [FPoly.updateConstraints]

theorem needCons_keeps (x : FPoly) :
    x.needCons.p.st.empty = x.p.st.empty ∧ x.needCons.p.dim = x.p.dim ∧ x.needCons.p.nnc = x.p.nnc := by
  unfold FPoly.needCons
  split
  · obtain ⟨k8, k9, _, _, k⟩ := processPendingGenerators_post x
    exact ⟨by rw [k], k8, k9⟩
  split
  · exact updateConstraints_keeps x
  · exact ⟨rfl, rfl, rfl⟩

/-! ## `refine_no_check(c)` -/

/-- the insertion of `refine_no_check` (after the preparation) -/
def FPoly.rncTail (y : FPoly) (c : Row) : FPoly :=
  { y with p := { (y.p.addRecycledConstraints [c]) with
      cs := (y.p.addRecycledConstraints [c]).cs.refineBy
        (if y.st.canPend then y.p.cs.insertPendingRow c else y.p.cs.insertRow false y.nnc c) } }

theorem refineNoCheck_eq (x : FPoly) (c : Row) (b : x.p.dim ≠ 0) :
    x.refineNoCheck c = x.needCons.rncTail c := by
  have : (x.dim == 0) = false := by simpa using b
  unfold FPoly.refineNoCheck
  simp only [this, Bool.false_eq_true, ↓reduceIte]
  rfl

theorem abs_refineNoCheck_eq (g : Gh) (i : Bool) (s : PState) (b : (s.dim == 0) = false) :
    PPLV.PolyStatus.refineNoCheck g i s = PPLV.PolyStatus.insertCons g (PPLV.PolyStatus.needCons g s) := by
  unfold PPLV.PolyStatus.refineNoCheck
  simp only [b, Bool.false_eq_true, ↓reduceIte]
  rfl

theorem rncTail_facts (y : FPoly) (c : Row) (he : y.p.st.empty = false) :
    (y.rncTail c).p.st = (if y.p.st.canPend then { y.p.st with cPend := true }
                          else ({ y.p.st with cMin := false }).clearGUp)
    ∧ (y.rncTail c).p.dim = y.p.dim ∧ (y.rncTail c).p.nnc = y.p.nnc ∧ (y.rncTail c).p.gs = y.p.gs
    ∧ (y.p.st.canPend = true → (y.rncTail c).p.cs.sorted = y.p.cs.sorted)
    ∧ (y.p.st.canPend = false → (y.rncTail c).p.cs.sorted = true → y.p.cs.sorted = true) := by
  rcases (Bool.eq_false_or_eq_true y.p.st.canPend).symm with cp | cp
  · refine ⟨?_, ?_, ?_, ?_, fun hc => (by rw [cp] at hc; cases hc), fun _ hr => ?_⟩
    · simp [FPoly.rncTail, Poly.addRecycledConstraints, he, cp]
    · simp [FPoly.rncTail, Poly.addRecycledConstraints, he, cp]
    · simp [FPoly.rncTail, Poly.addRecycledConstraints, he, cp]
    · simp [FPoly.rncTail, Poly.addRecycledConstraints, he, cp]
    · have e : (y.rncTail c).p.cs = (y.p.cs.insertSys [c]).refineBy (y.p.cs.insertRow false y.p.nnc c) := by
        simp [FPoly.rncTail, Poly.addRecycledConstraints, he, cp]
      rw [e] at hr
      rcases refineBy_sorted (y.p.cs.insertSys [c]) (y.p.cs.insertRow false y.p.nnc c) with q | q
      · rw [q] at hr; simp [Sys.insertSys] at hr
      · rw [q] at hr; exact insertRow_sorted_imp _ _ _ _ hr
  · refine ⟨?_, ?_, ?_, ?_, fun _ => ?_, fun hc => (by rw [cp] at hc; cases hc)⟩
    · simp [FPoly.rncTail, Poly.addRecycledConstraints, he, cp]
    · simp [FPoly.rncTail, Poly.addRecycledConstraints, he, cp]
    · simp [FPoly.rncTail, Poly.addRecycledConstraints, he, cp]
    · simp [FPoly.rncTail, Poly.addRecycledConstraints, he, cp]
    · have e : (y.rncTail c).p.cs = (y.p.cs.insertPendingSys [c]).refineBy (y.p.cs.insertPendingRow c) := by
        simp [FPoly.rncTail, Poly.addRecycledConstraints, he, cp]
      rw [e]
      exact refineBy_sorted_eq _ _ rfl rfl

theorem rncTail_sim (y : FPoly) (c : Row) (t : PState) (g : Gh) (m : Sim y t) (he : y.p.st.empty = false)
    (hk : g.keep = (y.rncTail c).p.cs.sorted) :
    Sim (y.rncTail c) (PPLV.PolyStatus.insertCons g t) := by
  obtain ⟨f1, f2, f3, f4, s1, s2⟩ := rncTail_facts y c he
  exact insertCons_sim_of_facts y _ t g m f1 f2 f3 f4 s1 (fun cp => sorted_eq_and hk (s2 cp))

structure RncGhost (x : FPoly) (c : Row) (g : Gh) (s : PState) : Prop where
  prep : x.p.dim ≠ 0 → NeedConsGhost x g s
  keep : g.keep = (x.refineNoCheck c).p.cs.sorted

theorem refineNoCheck_sim (x : FPoly) (c : Row) (s : PState) (g : Gh) (h : Sim x s)
    (he : x.p.st.empty = false) (hg : RncGhost x c g s) :
    Sim (x.refineNoCheck c) (PPLV.PolyStatus.refineNoCheck g (FPoly.rowInconsistent x.p.nnc c) s) := by
  have h' := h
  sim_hyps h'
  by_cases b : x.p.dim = 0
  · rcases (Bool.eq_false_or_eq_true (FPoly.rowInconsistent x.p.nnc c)).symm with i | i
    · simp [FPoly.refineNoCheck, PPLV.PolyStatus.refineNoCheck, pst, *]
    · simp [FPoly.refineNoCheck, PPLV.PolyStatus.refineNoCheck, pst, FPoly.setEmpty, Poly.setEmpty,
        Status.setEmpty, Sys.clear, Sim, *]
  · have m := needCons_sim x s g h (hg.prep b)
    have hk := hg.keep
    rw [refineNoCheck_eq x c b] at hk ⊢
    rw [abs_refineNoCheck_eq g _ s (by rw [h10]; simpa using b)]
    exact rncTail_sim _ c _ g m ((needCons_keeps x).1.trans he) hk

/-- `add_constraint(c)` for a constraint that is not a strict inequality added to a closed polyhedron -/
theorem addConstraint_sim (x : FPoly) (c : Row) (s : PState) (g : Gh) (f : PPLV.PolyStatus.Facts) (h : Sim x s)
    (hf : (f.strict && !x.p.nnc) = false) (hi : f.incons = FPoly.rowInconsistent x.p.nnc c)
    (hg : x.p.st.empty = false → RncGhost x c g s) :
    Sim (x.addConstraint c) (PPLV.PolyStatus.addConstraint g f s) := by
  have h' := h
  sim_hyps h'
  rcases (Bool.eq_false_or_eq_true x.p.st.empty).symm with a | a
  · have e1 : x.addConstraint c = x.refineNoCheck c := by simp [FPoly.addConstraint, a]
    have e2 : PPLV.PolyStatus.addConstraint g f s
        = PPLV.PolyStatus.refineNoCheck g (FPoly.rowInconsistent x.p.nnc c) s := by
      simp only [PPLV.PolyStatus.addConstraint, h11, hf, pst, h1, a, hi]; simp
    rw [e1, e2]; exact refineNoCheck_sim x c s g h a (hg a)
  · have e1 : x.addConstraint c = x := by simp [FPoly.addConstraint, a]
    have e2 : PPLV.PolyStatus.addConstraint g f s = s := by
      simp only [PPLV.PolyStatus.addConstraint, h11, hf, pst, h1, a]; simp
    rw [e1, e2]; exact h

/-! ## `add_generator(g)` -/

/-- the insertion of `add_generator` (after the preparation); `r1`: the receiver was (found) empty -/
def FPoly.agTail (r1 : Bool) (x : FPoly) (k : FPoly.GKindA) (g : Row) : FPoly :=
  let isPt := k == .point
  let g : Row := if x.nnc && isPt then { g with eps := g.b } else g
  let cp : Row := ({ g with eps := 0 } : Row).normalize
  if r1 then
    let gs0 : Sys := Sys.clear
    let gs := if x.nnc then
        let s1 := gs0.insertRow true true g
        ({ s1 with rows := s1.rows.dropLast ++ [cp] } : Sys).insertRow true true g
      else gs0.insertRow true false g
    { x with p := { x.p with gs := gs, st := { x.p.st with empty := false, gUp := true, gMin := true } } }
  else
    if x.st.canPend then
      let gs := if x.nnc && isPt then (x.p.gs.insertPendingRow cp).insertPendingRow g else x.p.gs.insertPendingRow g
      { x with p := { x.p with gs := gs, st := { x.p.st with gPend := true } } }
    else
      let gs := if x.nnc && isPt then
          let s1 := x.p.gs.insertRow true x.nnc g
          ({ s1 with rows := s1.rows.dropLast ++ [cp] } : Sys).insertRow true x.nnc g
        else x.p.gs.insertRow true x.nnc g
      { x with p := { x.p with gs := gs, st := ({ x.p.st with gMin := false }).clearCUp } }

theorem addGenerator_eq (x : FPoly) (k : FPoly.GKindA) (g : Row) (b : x.p.dim ≠ 0) :
    x.addGenerator k g
      = FPoly.agTail (if x.st.empty then (true, x) else x.needGens).1 (if x.st.empty then (true, x) else x.needGens).2 k g := by
  have : (x.dim == 0) = false := by simpa using b
  unfold FPoly.addGenerator
  simp only [this, Bool.false_eq_true, ↓reduceIte]
  rfl

theorem agTail_facts (r1 : Bool) (y : FPoly) (k : FPoly.GKindA) (g : Row) :
    (FPoly.agTail r1 y k g).p.st =
      (if r1 then { y.p.st with empty := false, gUp := true, gMin := true }
       else if y.p.st.canPend then { y.p.st with gPend := true } else ({ y.p.st with gMin := false }).clearCUp)
    ∧ (FPoly.agTail r1 y k g).p.dim = y.p.dim ∧ (FPoly.agTail r1 y k g).p.nnc = y.p.nnc
    ∧ (FPoly.agTail r1 y k g).p.cs = y.p.cs
    ∧ (r1 = true → y.p.nnc = false → (FPoly.agTail r1 y k g).p.gs.sorted = true)
    ∧ (r1 = false → y.p.st.canPend = true → (FPoly.agTail r1 y k g).p.gs.sorted = y.p.gs.sorted)
    ∧ (r1 = false → y.p.st.canPend = false → (FPoly.agTail r1 y k g).p.gs.sorted = true → y.p.gs.sorted = true) := by
  cases r1
  · rcases (Bool.eq_false_or_eq_true y.p.st.canPend).symm with cp | cp
    · refine ⟨by simp [FPoly.agTail, cp], by simp [FPoly.agTail, cp], by simp [FPoly.agTail, cp],
        by simp [FPoly.agTail, cp], fun hc => (by cases hc), fun _ hc => (by rw [cp] at hc; cases hc), fun _ _ hr => ?_⟩
      simp only [FPoly.agTail, FPoly.st, FPoly.nnc, cp, Bool.false_eq_true, ↓reduceIte] at hr
      rcases (Bool.eq_false_or_eq_true (y.p.nnc && k == FPoly.GKindA.point)).symm with q | q
      · simp only [q, Bool.false_eq_true, ↓reduceIte] at hr
        exact insertRow_sorted_imp _ _ _ _ hr
      · simp only [q, ↓reduceIte] at hr
        have h2 := insertRow_sorted_imp _ _ _ _ hr
        simp only at h2
        exact insertRow_sorted_imp _ _ _ _ h2
    · refine ⟨by simp [FPoly.agTail, cp], by simp [FPoly.agTail, cp], by simp [FPoly.agTail, cp],
        by simp [FPoly.agTail, cp], fun hc => (by cases hc), fun _ _ => ?_, fun _ hc => (by rw [cp] at hc; cases hc)⟩
      simp only [FPoly.agTail, FPoly.st, FPoly.nnc, cp, Bool.false_eq_true, ↓reduceIte]
      rcases (Bool.eq_false_or_eq_true (y.p.nnc && k == FPoly.GKindA.point)).symm with q | q
      · simp only [q, Bool.false_eq_true, ↓reduceIte]; rfl
      · simp only [q, ↓reduceIte]; rfl
  · refine ⟨by simp [FPoly.agTail], by simp [FPoly.agTail], by simp [FPoly.agTail], by simp [FPoly.agTail],
      fun _ hn => ?_, fun hc => (by cases hc), fun hc => (by cases hc)⟩
    simp [FPoly.agTail, hn, Sys.insertRow, Sys.clear]

theorem agTail_sim_first (y : FPoly) (k : FPoly.GKindA) (gr : Row) (t : PState) (g : Gh) (m : Sim y t)
    (hs : y.p.gs.sorted = true) (hk : y.p.nnc = true → g.keep = (FPoly.agTail true y k gr).p.gs.sorted) :
    Sim (FPoly.agTail true y k gr) (PPLV.PolyStatus.firstPoint g t) := by
  obtain ⟨f1, f2, f3, f4, s1, _, _⟩ := agTail_facts true y k gr
  generalize FPoly.agTail true y k gr = z at *
  obtain ⟨⟨zn, zd, zst, zcs, ⟨zr, zf, zsrt⟩⟩, zC, zG⟩ := z
  obtain ⟨⟨nnc, dim, ⟨e, cu, gu, cm, gm, sc, sg, cpd, gp⟩, cs, ⟨gr', gf, gsrt⟩⟩, mC, mG⟩ := y
  simp only at f1 f2 f3 f4 s1 hs hk
  subst f1 f2 f3 f4 hs
  sim_hyps m
  cases zn <;> simp_all [Sim, pst, PPLV.PolyStatus.firstPoint]

theorem agTail_sim_insert (y : FPoly) (k : FPoly.GKindA) (gr : Row) (t : PState) (g : Gh) (m : Sim y t)
    (hk : g.keep = (FPoly.agTail false y k gr).p.gs.sorted) :
    Sim (FPoly.agTail false y k gr) (PPLV.PolyStatus.insertGens g t) := by
  obtain ⟨f1, f2, f3, f4, _, s2, s3⟩ := agTail_facts false y k gr
  exact insertGens_sim_of_facts y _ t g m f1 f2 f3 f4 (s2 rfl) (fun cp => sorted_eq_and hk (s3 rfl cp))

structure AgGhost (x : FPoly) (k : FPoly.GKindA) (gr : Row) (g : Gh) (s : PState) : Prop where
  prep : x.p.dim ≠ 0 → x.p.st.empty = false → NeedGensGhost x g s
  keep : g.keep = (x.addGenerator k gr).p.gs.sorted

theorem addGenerator_sim (x : FPoly) (k : FPoly.GKindA) (gr : Row) (s : PState) (g : Gh) (h : Sim x s)
    (hE : x.p.st.empty = true → x.p.gs.sorted = true)
    (hl : x.p.st.cPend = true → x.p.st.gUp = true) (hg : AgGhost x k gr g s) :
    Sim (x.addGenerator k gr) (PPLV.PolyStatus.addGenerator g s) := by
  have h' := h
  sim_hyps h'
  by_cases b : x.p.dim = 0
  · rcases (Bool.eq_false_or_eq_true x.p.st.empty).symm with a | a
    · simp [FPoly.addGenerator, PPLV.PolyStatus.addGenerator, pst, *]
    · simp [FPoly.addGenerator, PPLV.PolyStatus.addGenerator, pst, FPoly.setZeroDimUniv, Poly.setZeroDimUniv,
        Status.zeroDimUniv, Sys.clear, Sim, *]
  · have hk := hg.keep
    have bd : (s.dim == 0) = false := by rw [h10]; simpa using b
    rw [addGenerator_eq x k gr b] at hk ⊢
    rcases (Bool.eq_false_or_eq_true x.p.st.empty).symm with a | a
    · obtain ⟨m1, m2⟩ := needGens_sim x s g h hl (hg.prep b a)
      simp only [FPoly.st, a, Bool.false_eq_true, ↓reduceIte] at hk ⊢
      rcases (Bool.eq_false_or_eq_true x.needGens.1).symm with r | r
      · have e2 : PPLV.PolyStatus.addGenerator g s = PPLV.PolyStatus.insertGens g (PPLV.PolyStatus.needGens g s).2 := by
          simp only [PPLV.PolyStatus.addGenerator, bd, pst, h1, a]; simp [m1.trans r]
        rw [e2]; rw [r] at hk ⊢
        exact agTail_sim_insert _ k gr _ g m2 hk
      · have e2 : PPLV.PolyStatus.addGenerator g s = PPLV.PolyStatus.firstPoint g (PPLV.PolyStatus.needGens g s).2 := by
          simp only [PPLV.PolyStatus.addGenerator, bd, pst, h1, a]; simp [m1.trans r]
        rw [e2]; rw [r] at hk ⊢
        exact agTail_sim_first _ k gr _ g m2 (by rw [(needGens_found x r).1]; rfl) (fun _ => hk)
    · have e2 : PPLV.PolyStatus.addGenerator g s = PPLV.PolyStatus.firstPoint g s := by
        simp only [PPLV.PolyStatus.addGenerator, bd, pst, h1, a]; simp
      simp only [FPoly.st, a, ↓reduceIte] at hk ⊢
      rw [e2]
      exact agTail_sim_first _ k gr _ g h (hE a) (fun _ => hk)

theorem foldl_insertRow_sorted_imp (gen nnc : Bool) (ls : List Row) (s0 : Sys)
    (h : (ls.foldl (fun s l => s.insertRow gen nnc l) s0).sorted = true) : s0.sorted = true := by
  induction ls generalizing s0 with
  | nil => exact h
  | cons a as ih => exact insertRow_sorted_imp _ _ _ _ (ih _ h)

/-- the insertion of `unconstrain` (after the preparation) -/
def FPoly.unTail (x : FPoly) (vars : List Nat) : FPoly :=
  let q := x.liftO (x.p.unconstrain vars)
  let lines := vars.map (lineRow x.dim)
  let exact := if x.st.canPend then x.p.gs.insertPendingSys lines
               else lines.foldl (fun s l => s.insertRow true x.nnc l) x.p.gs
  { q with p := { q.p with gs := q.p.gs.refineBy exact } }

theorem unTail_p (y : FPoly) (vars : List Nat) (hv : vars.isEmpty = false) (he : y.p.st.empty = false)
    (hc : y.p.st.cPend = false) (hu : y.p.st.gUp = true) :
    (y.unTail vars).p =
      (if y.p.st.canPend then
        { y.p with gs := (y.p.gs.insertPendingSys (vars.map (lineRow y.p.dim))).refineBy
                            (y.p.gs.insertPendingSys (vars.map (lineRow y.p.dim))),
                   st := { y.p.st with gPend := true } }
       else
        { y.p with gs := (y.p.gs.insertSys (vars.map (lineRow y.p.dim))).refineBy
                            ((vars.map (lineRow y.p.dim)).foldl (fun s l => s.insertRow true y.p.nnc l) y.p.gs),
                   st := ({ y.p.st with gMin := false }).clearCUp }) := by
  have e : y.p.unconstrain vars =
      some (if y.p.st.canPend then
              { y.p with gs := y.p.gs.insertPendingSys (vars.map (lineRow y.p.dim)), st := { y.p.st with gPend := true } }
            else { y.p with gs := y.p.gs.insertSys (vars.map (lineRow y.p.dim)),
                            st := ({ y.p.st with gMin := false }).clearCUp }) := by
    unfold Poly.unconstrain
    simp only [hv, he, hc, hu, Bool.false_eq_true, ↓reduceIte, Bool.not_true]
    split <;> rfl
  unfold FPoly.unTail
  simp only [e, FPoly.liftO, lift_p, FPoly.st, FPoly.dim, FPoly.nnc]
  rcases (Bool.eq_false_or_eq_true y.p.st.canPend).symm with cp | cp <;> simp [cp]

theorem unTail_sim (y : FPoly) (vars : List Nat) (t : PState) (g : Gh) (m : Sim y t)
    (hv : vars.isEmpty = false) (he : y.p.st.empty = false) (hc : y.p.st.cPend = false) (hu : y.p.st.gUp = true)
    (hk : g.keep = (y.unTail vars).p.gs.sorted) :
    Sim (y.unTail vars) (PPLV.PolyStatus.insertGens g t) := by
  have e := unTail_p y vars hv he hc hu
  rcases (Bool.eq_false_or_eq_true y.p.st.canPend).symm with cp | cp
  · simp only [cp, Bool.false_eq_true, ↓reduceIte] at e
    refine insertGens_sim_of_facts y _ t g m ?_ ?_ ?_ ?_ (fun hh => (by rw [cp] at hh; cases hh)) (fun _ => sorted_eq_and hk fun hr => ?_)
    · rw [e]; simp [cp]
    · rw [e]
    · rw [e]
    · rw [e]
    · rw [e] at hr
      simp only at hr
      rcases refineBy_sorted (y.p.gs.insertSys (vars.map (lineRow y.p.dim)))
        ((vars.map (lineRow y.p.dim)).foldl (fun s l => s.insertRow true y.p.nnc l) y.p.gs) with q | q
      · rw [q] at hr; simp [Sys.insertSys] at hr
      · rw [q] at hr; exact foldl_insertRow_sorted_imp _ _ _ _ hr
  · simp only [cp, ↓reduceIte] at e
    refine insertGens_sim_of_facts y _ t g m ?_ ?_ ?_ ?_ (fun _ => ?_) (fun hh => (by rw [cp] at hh; cases hh))
    · rw [e]; simp [cp]
    · rw [e]
    · rw [e]
    · rw [e]
    · rw [e]
      simp only
      exact refineBy_sorted_eq _ _ rfl rfl

structure UnGhost (x : FPoly) (vars : List Nat) (g : Gh) (s : PState) : Prop where
  prep : x.p.st.empty = false → NeedGensGhost x g s
  keep : g.keep = (x.unconstrain vars).p.gs.sorted

/-- `unconstrain(vars)`, `vars` not empty (and `space_dim > 0`: otherwise the C++ throws) -/
theorem unconstrain_sim (x : FPoly) (vars : List Nat) (s : PState) (g : Gh) (h : Sim x s)
    (hv : vars.isEmpty = false) (hd : x.p.dim ≠ 0)
    (hl : x.p.st.cPend = true → x.p.st.gUp = true) (hg : UnGhost x vars g s) :
    Sim (x.unconstrain vars) (PPLV.PolyStatus.unconstrain g s) := by
  have h' := h
  sim_hyps h'
  have bd : (s.dim == 0) = false := by rw [h10]; simpa using hd
  rcases (Bool.eq_false_or_eq_true x.p.st.empty).symm with a | a
  · obtain ⟨m1, m2⟩ := needGens_sim x s g h hl (hg.prep a)
    have hk := hg.keep
    rcases (Bool.eq_false_or_eq_true x.needGens.1).symm with r | r
    · have e1 : x.unconstrain vars = x.needGens.2.unTail vars := by
        unfold FPoly.unconstrain
        simp only [hv, FPoly.st, a, Bool.or_self, Bool.false_eq_true, ↓reduceIte, r]
        rfl
      have e2 : PPLV.PolyStatus.unconstrain g s = PPLV.PolyStatus.insertGens g (PPLV.PolyStatus.needGens g s).2 := by
        simp only [PPLV.PolyStatus.unconstrain, bd, pst, h1, a]; simp [m1.trans r]
      obtain ⟨q1, q2, q3, _, _⟩ := needGens_ready x r
      rw [e1] at hk ⊢; rw [e2]
      exact unTail_sim _ vars _ g m2 hv (q3.trans a) q2 q1 hk
    · have e1 : x.unconstrain vars = x.needGens.2 := by
        unfold FPoly.unconstrain
        simp only [hv, FPoly.st, a, Bool.or_self, Bool.false_eq_true, ↓reduceIte, r]
      have e2 : PPLV.PolyStatus.unconstrain g s = (PPLV.PolyStatus.needGens g s).2 := by
        simp only [PPLV.PolyStatus.unconstrain, bd, pst, h1, a]; simp [m1.trans r]
      rw [e1, e2]; exact m2
  · have e1 : x.unconstrain vars = x := by simp [FPoly.unconstrain, a]
    have e2 : PPLV.PolyStatus.unconstrain g s = s := by
      simp only [PPLV.PolyStatus.unconstrain, bd, pst, h1, a]; simp
    rw [e1, e2]; exact h

end PPLV.PolyFull

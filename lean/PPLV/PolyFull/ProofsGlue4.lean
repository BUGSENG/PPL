import PPLV.PolyFull.ProofsGlue1

/-!
# `GlueFacts` from `ConvContract`: the sorting helpers keep the row sets

`sort_rows`, `sort_pending_and_remove_duplicates` on the exact row lists of `Sys.lean`; "the same rows
up to `toL`" (`ToLSub`) is what `conSem` and `LowLevel` see.
-/
namespace PPLV.PolyFull
open PPLV.Lin PPLV.PolyOps
open PPLV.Conv (LRow BRow Vec Sound SatCorrect holds holdsAll Generated)

/-! ### insertion sort with saturation rows -/

theorem perm_insertWith (gen nnc : Bool) (r : Row × BRow) (l : List (Row × BRow)) :
    (insertWith gen nnc r l).Perm (r :: l) := by
  induction l with
  | nil => simp [insertWith]
  | cons y ys ih =>
    simp only [insertWith]
    split
    · exact List.Perm.refl _
    · exact (List.Perm.cons y ih).trans (List.Perm.swap r y ys)

theorem perm_foldl_insertWith (gen nnc : Bool) (l acc : List (Row × BRow)) :
    (l.foldl (fun acc r => insertWith gen nnc r acc) acc).Perm (l ++ acc) := by
  induction l generalizing acc with
  | nil => simp
  | cons y ys ih =>
    simp only [List.foldl_cons]
    refine (ih _).trans ?_
    refine (List.Perm.append_left ys (perm_insertWith gen nnc y acc)).trans ?_
    simp

theorem mem_foldl_insertWith (gen nnc : Bool) (l acc : List (Row × BRow)) (x : Row × BRow) :
    x ∈ l.foldl (fun acc r => insertWith gen nnc r acc) acc ↔ x ∈ l ∨ x ∈ acc := by
  rw [(perm_foldl_insertWith gen nnc l acc).mem_iff, List.mem_append]

/-- `std::unique`: the rows (first components) are kept as a set -/
theorem mem_uniqueWith_fst (l : List (Row × BRow)) (r : Row) :
    r ∈ (uniqueWith l).map (·.1) ↔ r ∈ l.map (·.1) := by
  induction l with
  | nil => simp [uniqueWith]
  | cons a rest ih =>
    simp only [uniqueWith]
    split
    · rename_i h
      have hh : rest.head?.map (·.1) = some a.1 := by simpa using h
      have ha : a.1 ∈ rest.map (·.1) := by
        cases rest with
        | nil => simp at hh
        | cons b bs =>
          simp only [List.head?_cons, Option.map_some, Option.some.injEq] at hh
          rw [← hh]; simp
      rw [ih, List.map_cons, List.mem_cons]
      constructor
      · intro h1; exact Or.inr h1
      · rintro (h2 | h2)
        · rw [h2]; exact ha
        · exact h2
    · simp only [List.map_cons, List.mem_cons, ih]

/-- a pair of the result of `unique` is a pair of the argument -/
theorem uniqueWith_sub (l : List (Row × BRow)) (p : Row × BRow) (h : p ∈ uniqueWith l) : p ∈ l := by
  induction l with
  | nil => simp [uniqueWith] at h
  | cons a rest ih =>
    simp only [uniqueWith] at h
    split at h
    · exact List.mem_cons_of_mem _ (ih h)
    · rcases List.mem_cons.mp h with h | h
      · rw [h]; exact List.mem_cons_self ..
      · exact List.mem_cons_of_mem _ (ih h)

theorem mem_sortWith_fst (gen nnc : Bool) (l : List (Row × BRow)) (r : Row) :
    r ∈ (sortWith gen nnc l).map (·.1) ↔ r ∈ l.map (·.1) := by
  unfold sortWith
  rw [mem_uniqueWith_fst]
  simp only [List.mem_map, mem_foldl_insertWith, List.not_mem_nil, or_false]

theorem sortWith_sub (gen nnc : Bool) (l : List (Row × BRow)) (p : Row × BRow)
    (h : p ∈ sortWith gen nnc l) : p ∈ l := by
  have := uniqueWith_sub _ p h
  rw [mem_foldl_insertWith] at this
  simpa using this

/-- `sort_rows()` neither invents nor loses a row -/
theorem mem_sortRowList (gen nnc : Bool) (l : List Row) (r : Row) :
    r ∈ sortRowList gen nnc l ↔ r ∈ l := by
  unfold sortRowList
  rw [mem_sortWith_fst]
  simp

/-! ### the merge walk of `sort_pending_and_remove_duplicates` -/

theorem dropDupPending_sub (gen nnc : Bool) (f : Nat) (np pend : List Row) (r : Row)
    (h : r ∈ dropDupPending gen nnc f np pend) : r ∈ pend := by
  induction f generalizing np pend with
  | zero => simpa [dropDupPending] using h
  | succ f ih =>
    cases np with
    | nil => simpa [dropDupPending] using h
    | cons a np =>
      cases pend with
      | nil => simp [dropDupPending] at h
      | cons b pend =>
        simp only [dropDupPending] at h
        split at h
        · exact List.mem_cons_of_mem _ (ih _ _ h)
        · split at h
          · exact ih _ _ h
          · rcases List.mem_cons.mp h with h | h
            · rw [h]; exact List.mem_cons_self ..
            · exact List.mem_cons_of_mem _ (ih _ _ h)

/-- a dropped pending row compares equal to a non-pending one (whatever the fuel) -/
theorem dropDupPending_sup (gen nnc : Bool) (f : Nat) (np pend : List Row) (r : Row) (h : r ∈ pend) :
    r ∈ dropDupPending gen nnc f np pend ∨ ∃ a ∈ np, cmpRow gen nnc a r = 0 := by
  induction f generalizing np pend with
  | zero => left; simpa [dropDupPending] using h
  | succ f ih =>
    cases np with
    | nil => left; simpa [dropDupPending] using h
    | cons a np =>
      cases pend with
      | nil => cases h
      | cons b pend =>
        simp only [dropDupPending]
        split
        · rename_i hc
          have hc0 : cmpRow gen nnc a b = 0 := by simpa using hc
          rcases List.mem_cons.mp h with h | h
          · right; exact ⟨a, List.mem_cons_self .., by rw [h]; exact hc0⟩
          · rcases ih np pend h with h' | ⟨a', ha', hc'⟩
            · exact Or.inl h'
            · exact Or.inr ⟨a', List.mem_cons_of_mem _ ha', hc'⟩
        · split
          · rcases ih np (b :: pend) h with h' | ⟨a', ha', hc'⟩
            · exact Or.inl h'
            · exact Or.inr ⟨a', List.mem_cons_of_mem _ ha', hc'⟩
          · rcases List.mem_cons.mp h with h | h
            · left; rw [h]; exact List.mem_cons_self ..
            · rcases ih (a :: np) pend h with h' | h'
              · exact Or.inl (List.mem_cons_of_mem _ h')
              · exact Or.inr h'

/-! ### the same rows up to `toL` -/

/-- every row of `A` has its engine reading among those of `B` -/
def ToLSub (nnc : Bool) (A B : List Row) : Prop := ∀ r ∈ A, ∃ r' ∈ B, toL nnc r' = toL nnc r

theorem ToLSub.of_subset {nnc : Bool} {A B : List Row} (h : ∀ r ∈ A, r ∈ B) : ToLSub nnc A B :=
  fun r hr => ⟨r, h r hr, rfl⟩

theorem ToLSub.trans {nnc : Bool} {A B D : List Row} (h1 : ToLSub nnc A B) (h2 : ToLSub nnc B D) :
    ToLSub nnc A D := fun r hr => by
  obtain ⟨r1, hr1, e1⟩ := h1 r hr
  obtain ⟨r2, hr2, e2⟩ := h2 r1 hr1
  exact ⟨r2, hr2, e2.trans e1⟩

theorem holds_congr_toL (nnc : Bool) (a b : Row) (w : Val) (h : toL nnc a = toL nnc b) :
    a.Holds nnc w ↔ b.Holds nnc w := by
  obtain ⟨ae, ab, ac, aeps⟩ := a
  obtain ⟨be, bb, bc, beps⟩ := b
  simp only [toL, LRow.mk.injEq, List.cons.injEq] at h
  obtain ⟨h1, h2, h3⟩ := h
  subst h1 h2
  cases nnc
  · simp only [Bool.false_eq_true, if_false, List.append_nil] at h3
    subst h3
    simp [Row.Holds, Row.ev]
  · simp only [if_true] at h3
    have := List.append_inj' h3 rfl
    obtain ⟨h4, h5⟩ := this
    simp only [List.cons.injEq, and_true] at h5
    subst h4 h5
    rfl

theorem conSem_of_toLSub (nnc : Bool) (A B : List Row) (h : ToLSub nnc A B) :
    conSem nnc B ⊆ conSem nnc A := by
  intro w hw
  rw [mem_conSem] at hw ⊢
  intro r hr
  obtain ⟨r', hr', e⟩ := h r hr
  exact (holds_congr_toL nnc r' r w e).mp (hw r' hr')

theorem conSem_congr_toL (nnc : Bool) (A B : List Row) (h1 : ToLSub nnc A B) (h2 : ToLSub nnc B A) :
    conSem nnc A = conSem nnc B :=
  Set.Subset.antisymm (conSem_of_toLSub nnc B A h2) (conSem_of_toLSub nnc A B h1)

theorem holdsAll_of_toLSub (nnc : Bool) (A B : List Row) (h : ToLSub nnc A B) (x : Vec)
    (hx : holdsAll (B.map (toL nnc)) x) : holdsAll (A.map (toL nnc)) x := by
  intro l hl
  obtain ⟨r, hr, rfl⟩ := List.mem_map.mp hl
  obtain ⟨r', hr', e⟩ := h r hr
  rw [← e]
  exact hx _ (List.mem_map.mpr ⟨r', hr', rfl⟩)

theorem LowLevel.of_toLSub {nnc : Bool} {n : Nat} {A B : List Row} (h : ToLSub nnc A B)
    (hA : LowLevel nnc n A) : LowLevel nnc n B :=
  fun x hl hx => hA x hl (holdsAll_of_toLSub nnc A B h x hx)

end PPLV.PolyFull

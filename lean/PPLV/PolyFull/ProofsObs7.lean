import PPLV.PolyFull.ProofsObsSort
import PPLV.PolyFull.ProofsObsContains

/-!
# the binary observers: `obtain_sorted_constraints()` keeps the invariant;
# `SortedObsKeep` discharged

The dual of `osg_obs_keeps` (ProofsObsSort) for `obtain_sorted_constraints()` (Polyhedron_nonpublic.cc:974), then
`sortedObsKeep : SortedObsKeep` and the hypothesis-free forms of `quickEquivalenceTest_true_sound`,
`contains_facts`, `contains_refines`.
-/
namespace PPLV.PolyFull
open PPLV.Lin PPLV.PolyOps
open PPLV.Conv (LRow BRow Vec Sound SatCorrect holds holdsAll Generated)

/-- :981 `con_sys.sort_and_remove_with_sat(sat_g)` -/
def oscB (x : FPoly) : FPoly :=
  ⟨{ x.p with cs := (x.p.cs.sortAndRemoveWithSat false x.p.nnc x.satG).1,
              st := { x.p.st with satC := false } },
   x.satC, (x.p.cs.sortAndRemoveWithSat false x.p.nnc x.satG).2⟩
/-- :987 `sat_g.transpose_assign(sat_c); con_sys.sort_and_remove_with_sat(sat_g)` -/
def oscC (x : FPoly) : FPoly :=
  ⟨{ x.p with cs := (x.p.cs.sortAndRemoveWithSat false x.p.nnc x.satC.transposeOf).1,
              st := { x.p.st with satG := true, satC := false } },
   x.satC, (x.p.cs.sortAndRemoveWithSat false x.p.nnc x.satC.transposeOf).2⟩
/-- :995 `con_sys.sort_rows()` -/
def oscD (x : FPoly) : FPoly := x.withCs (x.p.cs.sortRows false x.p.nnc)

theorem osc_obs_eq (x : FPoly) : x.obtainSortedConstraints =
    if x.p.cs.sorted then x else if x.p.st.satG then oscB x else if x.p.st.satC then oscC x
    else oscD x := rfl

theorem osc_obs_keeps (x : FPoly) (S : Set Val) (hx : x.Inv S) (hne : x.p.st.empty = false)
    (hcm : x.p.st.cMin = true) (hsp : x.p.st.somethingPending = false) :
    x.obtainSortedConstraints.Inv S ∧ x.SameShape x.obtainSortedConstraints ∧
    x.obtainSortedConstraints.p.st.empty = false ∧ x.obtainSortedConstraints.p.st.cUp = true ∧
    x.obtainSortedConstraints.p.st.gPend = false := by
  have hcu := legal_cMin hx.legal hcm
  have hcp : x.p.st.cPend = false := by
    unfold Status.somethingPending at hsp; cases h : x.p.st.cPend <;> simp_all
  have hgp : x.p.st.gPend = false := by
    unfold Status.somethingPending at hsp; cases h : x.p.st.gPend <;> simp_all
  have hfp : x.p.cs.firstPending = x.p.cs.rows.length := (hx.fpC hne hcu).2 hcp
  have hnpC : x.npC = x.p.cs.rows := by unfold FPoly.npC; rw [hfp, List.take_length]
  rw [osc_obs_eq]
  by_cases hs : x.p.cs.sorted = true
  · rw [if_pos hs]; exact ⟨hx, ⟨rfl, rfl⟩, hne, hcu, hgp⟩
  rw [if_neg hs]
  by_cases hG : x.p.st.satG = true
  · rw [if_pos hG]
    obtain ⟨m1, m2⟩ := sortSat_mem false x.p.nnc x.p.cs x.satG hfp
    refine ⟨?_, ⟨rfl, rfl⟩, hne, hcu, hgp⟩
    refine Inv_resortC x S hx hne hcu hcp _ { x.p.st with satC := false } _ _
      ⟨rfl, rfl, rfl, rfl, rfl, rfl, rfl⟩ (by simp [hG]) m2 m1 (fun hcan => ?_)
    have E := hx.eng hne hcan
    rw [hnpC] at E
    obtain ⟨hp, hV⟩ := sortSat_vgl false x.p.nnc x.p.nnc x.npG x.p.cs x.satG hfp E.nodupC (E.satG hG)
    have P := E.permC hp x.satC (x.p.cs.sortAndRemoveWithSat false x.p.nnc x.satG).2 (fun _ => hV)
    exact ⟨P.sound, P.complete, P.minC, P.minG, P.minL, fun h => (by cases h), fun _ => hV⟩
  rw [if_neg hG]
  have hG' : x.p.st.satG = false := by simpa using hG
  by_cases hC : x.p.st.satC = true
  · rw [if_pos hC]
    obtain ⟨m1, m2⟩ := sortSat_mem false x.p.nnc x.p.cs x.satC.transposeOf hfp
    refine ⟨?_, ⟨rfl, rfl⟩, hne, hcu, hgp⟩
    refine Inv_resortC x S hx hne hcu hcp _ { x.p.st with satG := true, satC := false } _ _
      ⟨rfl, rfl, rfl, rfl, rfl, rfl, rfl⟩ (by simp [hC]) m2 m1 (fun hcan => ?_)
    have E := hx.eng hne hcan
    rw [hnpC] at E
    have hV0 : VCl x.p.nnc x.npG x.p.cs.rows x.satC := E.satC hC
    obtain ⟨hp, hV⟩ := sortSat_vgl false x.p.nnc x.p.nnc x.npG x.p.cs x.satC.transposeOf hfp E.nodupC
      hV0.transpose
    have P := E.permC hp x.satC (x.p.cs.sortAndRemoveWithSat false x.p.nnc x.satC.transposeOf).2
      (fun _ => hV)
    exact ⟨P.sound, P.complete, P.minC, P.minG, P.minL, fun h => (by cases h), fun _ => hV⟩
  rw [if_neg hC]
  have hC' : x.p.st.satC = false := by simpa using hC
  refine ⟨?_, ⟨rfl, rfl⟩, hne, hcu, hgp⟩
  have hcan : x.p.st.canPend = false := by unfold Status.canPend; rw [hC', hG']; simp
  have hI := Inv_resortC x S hx hne hcu hcp (x.p.cs.sortRows false x.p.nnc) x.p.st x.satC x.satG
    (.refl _) rfl
    (fun r => by
      show r ∈ sortRowList false x.p.nnc (x.p.cs.rows.take x.p.cs.firstPending)
        ++ x.p.cs.rows.drop x.p.cs.firstPending ↔ _
      rw [hfp, List.take_length, List.drop_length, List.append_nil, mem_sortRowList])
    (by
      show (sortRowList false x.p.nnc (x.p.cs.rows.take x.p.cs.firstPending)).length
        = (sortRowList false x.p.nnc (x.p.cs.rows.take x.p.cs.firstPending)
            ++ x.p.cs.rows.drop x.p.cs.firstPending).length
      rw [hfp, List.drop_length, List.append_nil])
    (fun h => by rw [hcan] at h; cases h)
  exact hI

/-- **`obtain_sorted_generators()` and `obtain_sorted_constraints()` keep the invariant** on an object
    with the respective system minimized and nothing pending -/
theorem sortedObsKeep : SortedObsKeep :=
  ⟨osg_obs_keeps, osc_obs_keeps⟩


/-! ## the final forms -/

/-- **`quick_equivalence_test`** (Polyhedron_nonpublic.cc:356): both objects keep denoting their sets,
    and the answer `TVB_TRUE` is only given of equal sets -/
theorem quickEquivalenceTest_true_sound (x y : FPoly) (S T : Set Val)
    (hx : x.Inv S) (hy : y.Inv T) (hdim : y.p.dim = x.p.dim) (hnnc : y.p.nnc = x.p.nnc)
    (hex : x.p.st.empty = false) (hey : y.p.st.empty = false) :
    (x.quickEquivalenceTest y).2.1.Inv S ∧ (x.quickEquivalenceTest y).2.2.Inv T ∧
    x.SameShape (x.quickEquivalenceTest y).2.1 ∧ y.SameShape (x.quickEquivalenceTest y).2.2 ∧
    (x.quickEquivalenceTest y).2.1.p.st.empty = false ∧ (x.quickEquivalenceTest y).2.2.p.st.empty = false ∧
    ((x.quickEquivalenceTest y).1 = some true → S = T) :=
  quickEquivalenceTest_true_sound_of sortedObsKeep x y S T hx hy hdim hnnc hex hey

/-- **`x.contains(y)`** (Polyhedron_public.cc:3972): both objects keep denoting their sets and the
    answer is `true` exactly when `T ⊆ S` -/
theorem contains_facts (G : GlueFacts) (x y : FPoly) (S T : Set Val)
    (hx : x.Inv S) (hy : y.Inv T) (hdim : y.p.dim = x.p.dim) (hnnc : y.p.nnc = x.p.nnc) :
    (x.contains y).2.1.Inv S ∧ (x.contains y).2.2.Inv T ∧
    x.SameShape (x.contains y).2.1 ∧ y.SameShape (x.contains y).2.2 ∧
    ((x.contains y).1 = true ↔ T ⊆ S) :=
  contains_facts_of G sortedObsKeep x y S T hx hy hdim hnnc

/-- **`contains` refines `RefPoly.contains`** -/
theorem contains_refines (G : GlueFacts) (x y : FPoly) (refx refy : RefPoly)
    (hdim : y.p.dim = x.p.dim) (hnnc : y.p.nnc = x.p.nnc)
    (hx : x.Inv (sem refx.cs)) (hy : y.Inv (sem refy.cs))
    (hwx : WF refx.n refx.cs) (hwy : WF refx.n refy.cs) :
    (x.contains y).2.1.Inv (sem refx.cs) ∧ (x.contains y).2.2.Inv (sem refy.cs) ∧
    x.SameShape (x.contains y).2.1 ∧ y.SameShape (x.contains y).2.2 ∧
    (x.contains y).1 = refx.contains refy :=
  contains_refines_of G sortedObsKeep x y refx refy hdim hnnc hx hy hwx hwy

end PPLV.PolyFull

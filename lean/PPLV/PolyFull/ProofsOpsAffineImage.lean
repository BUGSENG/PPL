import PPLV.PolyFull.ProofsOpsMeet
import PPLV.PolyOps.ProofsAffine2
import PPLV.PolyOps.ProofsAffine3

/-!
# `affine_image` refines `RefPoly.affineImage`

Non-invertible case (`expr[var] = 0`): fully proved (`affineImage_refines_noninv`).  Invertible case:
the non-pending rows of BOTH descriptions are rewritten while the status word (and `canPend`) is kept;
the fields `low`, `denNPc`, `denNPg`, `eng` of the result are explicit hypotheses of
`affineImage_refines_partial` (ProofsOps5b), discharged one by one in ProofsOps10b, ProofsOpsAffineNPc and
ProofsOps11 (`affineImage_refines`).
-/
namespace PPLV.PolyFull
open PPLV.Lin PPLV.PolyOps

/-- only the generators are held, nothing minimized -/
def stGensOnly : Status := ⟨false, false, true, false, false, false, false, false, false⟩
/-- only the constraints are held, nothing minimized -/
def stConsOnly : Status := ⟨false, true, false, false, false, false, false, false, false⟩

theorem Inv_stGensOnly (X : FPoly) (S : Set Val) (hst : X.p.st = stGensOnly) (hd : 0 < X.p.dim)
    (hwf : X.p.WF) (hden : X.p.Denotes S) (hfp : X.p.gs.firstPending = X.p.gs.rows.length) : X.Inv S := by
  refine ⟨hwf, hden, ?_, fun _ h => ?_, fun _ _ => ⟨le_of_eq hfp, fun _ => hfp⟩, fun _ h => ?_,
    fun _ h => ?_, fun _ h => ?_, fun _ h => ?_⟩
  · rw [hst, statusLegalB_pos (Nat.ne_of_gt hd)]; rfl
  all_goals (rw [hst] at h; cases h)

theorem filter_length_sub {α : Type} (bad : α → Bool) (l : List α) :
    l.length - (l.filter bad).length = (l.filter fun r => !bad r).length := by
  induction l with
  | nil => rfl
  | cons a t ih =>
    have hle : (t.filter bad).length ≤ t.length := List.length_filter_le _ _
    cases hb : bad a <;> simp [hb] <;> omega

theorem exprNeg_getD (e : LinExpr) (v : Nat) : (exprNeg e).coeffs.getD v 0 = - e.coeffs.getD v 0 := by
  unfold exprNeg
  simp only [List.getD_eq_getElem?_getD, List.getElem?_map]
  cases e.coeffs[v]? <;> simp

theorem gsAffineImage_fp_noninv (v : Nat) (e : LinExpr) (den : Int) (s : Sys)
    (hc : e.coeffs.getD v 0 = 0) (hfp : s.firstPending = s.rows.length) :
    (gsAffineImage v e den s).firstPending = (gsAffineImage v e den s).rows.length := by
  unfold gsAffineImage removeInvalidLinesAndRays
  simp only [hc, beq_self_eq_true, if_true, List.length_map]
  rw [hfp, ← List.length_map (f := genRowAffineImage v e den), List.take_length]
  exact filter_length_sub _ _

theorem gsSigned_fp_noninv (v : Nat) (e : LinExpr) (den : Int) (s : Sys)
    (hc : e.coeffs.getD v 0 = 0) (hfp : s.firstPending = s.rows.length) :
    (gsSigned v e den s).firstPending = (gsSigned v e den s).rows.length := by
  unfold gsSigned
  split
  · exact gsAffineImage_fp_noninv v e den s hc hfp
  · exact gsAffineImage_fp_noninv v _ _ s (by rw [exprNeg_getD, hc]; rfl) hfp

theorem gsAffineImage_fp_inv (v : Nat) (e : LinExpr) (den : Int) (s : Sys)
    (hc : e.coeffs.getD v 0 ≠ 0) :
    (gsAffineImage v e den s).firstPending = s.firstPending ∧
    (gsAffineImage v e den s).rows.length = s.rows.length := by
  unfold gsAffineImage
  have : (e.coeffs.getD v 0 == 0) = false := by
    cases h : (e.coeffs.getD v 0 == 0)
    · rfl
    · exact absurd (by simpa using h) hc
  simp only [this, Bool.false_eq_true, if_false, List.length_map, and_self]

theorem gsSigned_fp_inv (v : Nat) (e : LinExpr) (den : Int) (s : Sys) (hc : e.coeffs.getD v 0 ≠ 0) :
    (gsSigned v e den s).firstPending = s.firstPending ∧ (gsSigned v e den s).rows.length = s.rows.length := by
  unfold gsSigned
  split
  · exact gsAffineImage_fp_inv v e den s hc
  · exact gsAffineImage_fp_inv v _ _ s (by rw [exprNeg_getD]; exact neg_ne_zero.mpr hc)

theorem csAffinePreimage_fp (v : Nat) (e : LinExpr) (den : Int) (s : Sys) :
    (csAffinePreimage v e den s).firstPending = s.firstPending ∧
    (csAffinePreimage v e den s).rows.length = s.rows.length := by
  unfold csAffinePreimage; simp

/-- the row-level `affine_image`, non-invertible case, on a state holding its generators -/
theorem affine_image_noninv_form (p : Poly) (v : Nat) (e : LinExpr) (den : Int)
    (hem : p.st.empty = false) (hc : e.coeffs.getD v 0 = 0) (hgu : p.st.gUp = true)
    (hcase : p.st.gPend = true ∨ (p.st.somethingPending = false ∧ p.gs.firstPending = p.gs.rows.length)) :
    ∃ q, p.affine_image v e den = some q ∧ q.nnc = p.nnc ∧ q.dim = p.dim ∧ q.st = stGensOnly ∧
      q.gs.firstPending = q.gs.rows.length := by
  unfold Poly.affine_image
  rw [if_neg (by simp [hem]), if_neg (by rw [hc]; decide)]
  rcases hcase with hgp | ⟨hsp, hfp⟩
  · have hsp : p.st.somethingPending = true := by simp [Status.somethingPending, hgp]
    simp only [hsp, hgp, if_true, Option.map_some]
    refine ⟨_, rfl, rfl, rfl, ?_, ?_⟩
    · simp [Status.clearCUp, stGensOnly, hem, hgu]
    · exact gsSigned_fp_noninv v e den _ hc rfl
  · have hg' : (!p.st.gUp) = false := by simp [hgu]
    simp only [hsp, Bool.false_eq_true, if_false, hg', Option.map_some]
    refine ⟨_, rfl, rfl, rfl, ?_, ?_⟩
    · simp only [Status.somethingPending, Bool.or_eq_false_iff] at hsp
      simp [Status.clearCUp, stGensOnly, hem, hgu, hsp.2]
    · exact gsSigned_fp_noninv v e den _ hc hfp

/-- what `prepGensDropPending` with `minimize()` leaves -/
theorem prepGensMin_facts (G : GlueFacts) (x : FPoly) (S : Set Val) (hx : x.Inv S)
    (hex : x.p.st.empty = false) (hd : 0 < x.p.dim) :
    x.SameShape (x.prepGensDropPending fun y => y.minimize.2) ∧
    (x.prepGensDropPending fun y => y.minimize.2).Inv S ∧
    ((x.prepGensDropPending fun y => y.minimize.2).p.st.empty = true ∨
     ((x.prepGensDropPending fun y => y.minimize.2).p.st.empty = false ∧
      (x.prepGensDropPending fun y => y.minimize.2).p.st.gUp = true ∧
      ((x.prepGensDropPending fun y => y.minimize.2).p.st.gPend = true ∨
       (x.prepGensDropPending fun y => y.minimize.2).p.st.somethingPending = false))) := by
  unfold FPoly.prepGensDropPending
  have hex' : x.st.empty = false := hex
  rw [hex']
  simp only [Bool.false_eq_true, if_false]
  cases hsp : x.st.somethingPending
  · simp only [Bool.false_eq_true, if_false]
    cases hgu : x.st.gUp
    · simp only [Bool.not_false, if_true]
      obtain ⟨h1, h2, h3, h4, h5⟩ := G.minimize x S hx
      refine ⟨h1, h2, ?_⟩
      cases hm : x.minimize.1
      · exact Or.inl (h4 hm)
      · obtain ⟨f1, f2, f3, f4, f5, f6, f7⟩ := h5 hm hd
        exact Or.inr ⟨f1, f3, Or.inr (by simp [Status.somethingPending, f6, f7])⟩
    · simp only [Bool.not_true, Bool.false_eq_true, if_false]
      exact ⟨⟨rfl, rfl⟩, hx, Or.inr ⟨hex, hgu, Or.inr hsp⟩⟩
  · simp only [if_true]
    cases hgp : x.st.gPend
    · simp only [Bool.false_eq_true, if_false]
      have hcp : x.p.st.cPend = true := by
        have : (x.p.st.cPend || x.p.st.gPend) = true := hsp
        rw [show x.p.st.gPend = false from hgp, Bool.or_false] at this
        exact this
      obtain ⟨h1, h2, h3, h4⟩ := G.ppc x S hx hex hcp
      refine ⟨h1, h2, ?_⟩
      cases hm : x.processPendingConstraints.1
      · exact Or.inl (h3 hm).2
      · obtain ⟨f1, f2, f3, f4, f5, f6, f7⟩ := h4 hm
        exact Or.inr ⟨f1, f3, Or.inr (by simp [Status.somethingPending, f6, f7])⟩
    · simp only [if_true]
      exact ⟨⟨rfl, rfl⟩, hx, Or.inr ⟨hex, (hx.wf.pend_g hgp).2, Or.inl hgp⟩⟩

/-- the non-invertible branch on the prepared receiver -/
theorem affineImage_noninv_main (x1 : FPoly) (S S' : Set Val) (v : Nat) (e : LinExpr) (den : Int)
    (exactRows : List Row)
    (hx : x1.Inv S) (hd : 0 < x1.p.dim) (hc : e.coeffs.getD v 0 = 0)
    (hst : x1.p.st.empty = false ∧ x1.p.st.gUp = true ∧
      (x1.p.st.gPend = true ∨ x1.p.st.somethingPending = false))
    (hwf : ∀ q, x1.p.affine_image v e den = some q → q.WF)
    (hden : ∀ q, x1.p.affine_image v e den = some q → q.Denotes S') :
    ({ x1.liftO (x1.p.affine_image v e den) with
        p := { (x1.liftO (x1.p.affine_image v e den)).p with
          gs := (x1.liftO (x1.p.affine_image v e den)).p.gs.refineBy
            { (x1.liftO (x1.p.affine_image v e den)).p.gs with
                rows := exactRows, firstPending := exactRows.length } } } : FPoly).Inv S' ∧
    (x1.liftO (x1.p.affine_image v e den)).p.nnc = x1.p.nnc ∧
    (x1.liftO (x1.p.affine_image v e den)).p.dim = x1.p.dim := by
  obtain ⟨hex, hgu, hcase⟩ := hst
  have hcase' : x1.p.st.gPend = true ∨
      (x1.p.st.somethingPending = false ∧ x1.p.gs.firstPending = x1.p.gs.rows.length) := by
    rcases hcase with h | h
    · exact Or.inl h
    · refine Or.inr ⟨h, (hx.fpG hex hgu).2 ?_⟩
      simp only [Status.somethingPending, Bool.or_eq_false_iff] at h
      exact h.2
  obtain ⟨q, hq, hqn, hqd, hqs, hqf⟩ := affine_image_noninv_form x1.p v e den hex hc hgu hcase'
  rw [hq]
  have hI : ({ x1 with p := q } : FPoly).Inv S' :=
    Inv_stGensOnly _ _ hqs (by show 0 < q.dim; rw [hqd]; exact hd) (hwf q hq) (hden q hq) hqf
  refine ⟨Inv_liftO_refineG x1 q S' _ (by rw [hqs]; rfl) hI ?_ ?_, ?_, ?_⟩
  · intro _ _
    exact ⟨le_of_eq rfl, fun _ => rfl⟩
  · intro _ h
    rw [hqs] at h; cases h
  · show (x1.lift q).p.nnc = _
    rw [lift_p, hqn]
  · show (x1.lift q).p.dim = _
    rw [lift_p, hqd]

end PPLV.PolyFull

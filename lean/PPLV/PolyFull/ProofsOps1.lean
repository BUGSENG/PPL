import PPLV.PolyFull.GlueFacts
import PPLV.PolyFull.ProofsLegal
import PPLV.PolyFull.ProofsCases
import PPLV.PolyOps.ProofsLattice13

/-!
# the public operators refine the reference operators: the toolkit

* `Denotes` / `WF` / `LowLevel` depend only on the SET of rows (`InvNoEng_refineC`, `InvNoEng_refineG`: the
  `Sys.refineBy` fix-ups keep every clause of the invariant but `eng`, which looks at the non-pending rows
  in their order: `Inv_refineC`, `Inv_refineG`);
* the status legality table under the record updates the operators perform (from the clauses `Legal`);
* the four ways an operator adds rows: constraints / generators, pending / non-pending
  (`Inv_pendC`, `Inv_nonpendC`, `Inv_pendG`, `Inv_nonpendG`).
-/
namespace PPLV.PolyFull
open PPLV.Lin PPLV.PolyOps
open PPLV.Conv (holdsAll holds)

/-! ## rows as sets -/

theorem sameRows_mem {a b : List Row} (h : sameRows a b = true) (r : Row) : r ∈ a ↔ r ∈ b := by
  unfold sameRows at h
  rw [Bool.and_eq_true, List.all_eq_true, List.all_eq_true] at h
  constructor
  · intro hr; have := h.1 r hr; simpa using this
  · intro hr; have := h.2 r hr; simpa using this

theorem refineBy_cases (c e : Sys) :
    c.refineBy e = c ∨ (c.refineBy e = e ∧
      (∀ r, r ∈ c.rows.take c.firstPending ↔ r ∈ e.rows.take e.firstPending) ∧
      (∀ r, r ∈ c.rows.drop c.firstPending ↔ r ∈ e.rows.drop e.firstPending)) := by
  unfold Sys.refineBy
  split
  · rename_i h
    rw [Bool.and_eq_true] at h
    exact Or.inr ⟨rfl, sameRows_mem h.1, sameRows_mem h.2⟩
  · exact Or.inl rfl

theorem mem_of_take_drop {a b : List Row} {i j : Nat}
    (h1 : ∀ r, r ∈ a.take i ↔ r ∈ b.take j) (h2 : ∀ r, r ∈ a.drop i ↔ r ∈ b.drop j) (r : Row) :
    r ∈ a ↔ r ∈ b := by
  rw [← List.take_append_drop i a, ← List.take_append_drop j b, List.mem_append, List.mem_append, h1, h2]

theorem LowLevel.mono {nnc : Bool} {n : Nat} {A B : List Row} (h : ∀ r ∈ A, r ∈ B)
    (hA : LowLevel nnc n A) : LowLevel nnc n B := by
  intro x hx hB
  apply hA x hx
  intro l hl
  obtain ⟨r, hr, rfl⟩ := List.mem_map.mp hl
  exact hB _ (List.mem_map.mpr ⟨r, h r hr, rfl⟩)

/-! ## the status word -/

theorem legal_canPend_up {s : Status} {d : Nat} (h : statusLegalB s d = true) (hc : s.canPend = true) :
    s.cUp = true ∧ s.gUp = true :=
  ⟨(((legal_iff _ _).1 h).of_canPend hc).1, (((legal_iff _ _).1 h).of_canPend hc).2.1⟩

theorem legal_not_canPend {s : Status} {d : Nat} (h : statusLegalB s d = true) (hc : s.canPend = false) :
    s.cPend = false ∧ s.gPend = false :=
  ⟨Bool.eq_false_iff.mpr fun p => absurd (((legal_iff _ _).1 h).pend (Or.inl p)) (Bool.eq_false_iff.mp hc),
   Bool.eq_false_iff.mpr fun p => absurd (((legal_iff _ _).1 h).pend (Or.inr p)) (Bool.eq_false_iff.mp hc)⟩

theorem legal_dim_pos_c {s : Status} {d : Nat} (h : statusLegalB s d = true) (hc : s.cUp = true) : 0 < d :=
  legal_dim h hc

theorem legal_dim_pos_g {s : Status} {d : Nat} (h : statusLegalB s d = true) (hc : s.gUp = true) : 0 < d :=
  Nat.pos_of_ne_zero fun hd => absurd hc (Bool.eq_false_iff.mp (((legal_iff _ _).1 h).zero hd).2)

theorem legal_pendC {s : Status} {d : Nat} (h : statusLegalB s d = true) (he : s.empty = false)
    (hg : s.gPend = false) (hcp : s.canPend = true) :
    statusLegalB { s with cPend := true } d = true := by
  rw [legal_iff] at h ⊢
  exact ⟨fun e => absurd e (Bool.eq_false_iff.mp he), h.sat, h.cMin, h.gMin, fun _ => hg, fun _ => hcp, h.zero, h.some⟩

theorem legal_pendG {s : Status} {d : Nat} (h : statusLegalB s d = true) (he : s.empty = false)
    (hc : s.cPend = false) (hcp : s.canPend = true) :
    statusLegalB { s with gPend := true } d = true := by
  rw [legal_iff] at h ⊢
  exact ⟨fun e => absurd e (Bool.eq_false_iff.mp he), h.sat, h.cMin, h.gMin,
    fun e => absurd e (Bool.eq_false_iff.mp hc), fun _ => hcp, h.zero, h.some⟩

theorem legal_nonpendC {s : Status} {d : Nat} (h : statusLegalB s d = true) (he : s.empty = false)
    (hc : s.cUp = true) (hcp : s.canPend = false) :
    statusLegalB (({ s with cMin := false }).clearGUp) d = true :=
  legal_consOnly (Nat.ne_of_gt (legal_dim_pos_c h hc)) he hc (legal_not_canPend h hcp).1

theorem legal_nonpendG {s : Status} {d : Nat} (h : statusLegalB s d = true) (he : s.empty = false)
    (hg : s.gUp = true) (hcp : s.canPend = false) :
    statusLegalB (({ s with gMin := false }).clearCUp) d = true :=
  legal_gensOnly (Nat.ne_of_gt (legal_dim_pos_g h hg)) he hg (legal_not_canPend h hcp).2

/-! ## generic facts about `Inv` -/

theorem FPoly.Inv.change {x : FPoly} {S S' : Set Val} (h : x.Inv S) (hd : x.p.Denotes S') : x.Inv S' :=
  ⟨h.wf, hd, h.legal, h.fpC, h.fpG, h.low, h.denNPc, h.denNPg, h.eng⟩

/-- an object marked empty -/
theorem Inv_of_empty (X : FPoly) (S : Set Val) (he : X.p.st.empty = true) (hwf : X.p.WF)
    (hden : X.p.Denotes S) (hl : statusLegalB X.p.st X.p.dim = true) : X.Inv S :=
  ⟨hwf, hden, hl, fun h => (by rw [he] at h; cases h), fun h => (by rw [he] at h; cases h),
   fun h => (by rw [he] at h; cases h), fun h => (by rw [he] at h; cases h), fun h => (by rw [he] at h; cases h),
   fun h => (by rw [he] at h; cases h)⟩

theorem Inv_setEmpty (x : FPoly) (S : Set Val) (hwf : x.p.WF) (hS : S = ∅) : x.setEmpty.Inv S :=
  Inv_of_empty _ _ rfl (wf_setEmpty x.p hwf) (denotes_setEmpty x.p S hS) (legal_setEmpty _)

/-! ## `refineBy` keeps the invariant -/

/-- `FPoly.Inv` without the clause `eng` -/
structure FPoly.InvNoEng (x : FPoly) (S : Set Val) : Prop where
  wf : x.p.WF
  den : x.p.Denotes S
  legal : statusLegalB x.p.st x.p.dim = true
  fpC : x.p.st.empty = false → x.p.st.cUp = true →
    x.p.cs.firstPending ≤ x.p.cs.rows.length ∧ (x.p.st.cPend = false → x.p.cs.firstPending = x.p.cs.rows.length)
  fpG : x.p.st.empty = false → x.p.st.gUp = true →
    x.p.gs.firstPending ≤ x.p.gs.rows.length ∧ (x.p.st.gPend = false → x.p.gs.firstPending = x.p.gs.rows.length)
  low : x.p.st.empty = false → x.p.st.cUp = true → LowLevel x.p.nnc x.p.dim x.p.cs.rows
  denNPc : x.p.st.empty = false → x.p.st.cPend = true → genSem x.p.nnc x.p.dim x.p.gs.rows = conSem x.p.nnc x.npC
  denNPg : x.p.st.empty = false → x.p.st.gPend = true → conSem x.p.nnc x.p.cs.rows = genSem x.p.nnc x.p.dim x.npG

/-- the engine clause of `FPoly.Inv`, as a proposition about one object -/
def FPoly.EngClause (x : FPoly) : Prop :=
  x.p.st.empty = false → x.p.st.canPend = true →
    EnginePair x.p.nnc x.p.dim x.npC x.npG x.p.st.satC x.p.st.satG x.satC x.satG

theorem FPoly.InvNoEng.toInv {x : FPoly} {S : Set Val} (h : x.InvNoEng S) (he : x.EngClause) : x.Inv S :=
  ⟨h.wf, h.den, h.legal, h.fpC, h.fpG, h.low, h.denNPc, h.denNPg, he⟩

theorem FPoly.Inv.noEng {x : FPoly} {S : Set Val} (h : x.Inv S) : x.InvNoEng S :=
  ⟨h.wf, h.den, h.legal, h.fpC, h.fpG, h.low, h.denNPc, h.denNPg⟩

/-- the clauses other than `eng` do not look at the saturation matrices -/
theorem FPoly.InvNoEng.sat {x : FPoly} {S : Set Val} (h : x.InvNoEng S) (a b : BitMat) :
    ({ x with satC := a, satG := b } : FPoly).InvNoEng S :=
  ⟨h.wf, h.den, h.legal, h.fpC, h.fpG, h.low, h.denNPc, h.denNPg⟩

/-- the constraint system replaced by one with the same rows, non-pending and all -/
theorem InvNoEng_congrC (X : FPoly) (S : Set Val) (cs' : Sys) (hX : X.InvNoEng S)
    (hall : ∀ r, r ∈ X.p.cs.rows ↔ r ∈ cs'.rows)
    (hnp : ∀ r, r ∈ X.p.cs.rows.take X.p.cs.firstPending ↔ r ∈ cs'.rows.take cs'.firstPending)
    (hfp : X.p.st.empty = false → X.p.st.cUp = true →
      cs'.firstPending ≤ cs'.rows.length ∧ (X.p.st.cPend = false → cs'.firstPending = cs'.rows.length)) :
    ({ X with p := { X.p with cs := cs' } } : FPoly).InvNoEng S := by
  have hcon : conSem X.p.nnc cs'.rows = conSem X.p.nnc X.p.cs.rows :=
    conSem_congr_mem _ _ _ (fun r => (hall r).symm)
  refine ⟨⟨fun he hc r hr => hX.wf.cs_len he hc r ((hall r).mpr hr), hX.wf.gs_wf, hX.wf.gs_pt,
      hX.wf.pend_c, hX.wf.pend_g, hX.wf.pend_one, hX.wf.some_up, hX.wf.zero_dim⟩,
    ⟨hX.den.1, fun he => ⟨fun hc hg => hcon.trans ((hX.den.2 he).1 hc hg), (hX.den.2 he).2.1,
      (hX.den.2 he).2.2⟩⟩, hX.legal, hfp, hX.fpG,
    fun he hc => LowLevel.mono (fun r hr => (hall r).mp hr) (hX.low he hc), ?_, ?_⟩
  · intro he hcp
    exact (hX.denNPc he hcp).trans (conSem_congr_mem _ _ _ hnp)
  · intro he hgp
    exact hcon.trans (hX.denNPg he hgp)

/-- the generator system replaced by one with the same rows, non-pending and all -/
theorem InvNoEng_congrG (X : FPoly) (S : Set Val) (gs' : Sys) (hX : X.InvNoEng S)
    (hall : ∀ r, r ∈ X.p.gs.rows ↔ r ∈ gs'.rows)
    (hnp : ∀ r, r ∈ X.p.gs.rows.take X.p.gs.firstPending ↔ r ∈ gs'.rows.take gs'.firstPending)
    (hfp : X.p.st.empty = false → X.p.st.gUp = true →
      gs'.firstPending ≤ gs'.rows.length ∧ (X.p.st.gPend = false → gs'.firstPending = gs'.rows.length)) :
    ({ X with p := { X.p with gs := gs' } } : FPoly).InvNoEng S := by
  have hgen : X.p.st.empty = false → X.p.st.gUp = true →
      genSem X.p.nnc X.p.dim gs'.rows = genSem X.p.nnc X.p.dim X.p.gs.rows := fun he hg =>
    (genSem_congr_mem _ _ _ _ (hX.wf.gs_wf he hg) hall).symm
  refine ⟨⟨hX.wf.cs_len, fun he hg r hr => hX.wf.gs_wf he hg r ((hall r).mpr hr), ?_,
      hX.wf.pend_c, hX.wf.pend_g, hX.wf.pend_one, hX.wf.some_up, hX.wf.zero_dim⟩,
    ⟨hX.den.1, fun he => ⟨(hX.den.2 he).1, fun hg hc => (hgen he hg).trans ((hX.den.2 he).2.1 hg hc),
      (hX.den.2 he).2.2⟩⟩, hX.legal, hX.fpC, hfp, hX.low, ?_, ?_⟩
  · intro he hg
    obtain ⟨r, hr, hp⟩ := hX.wf.gs_pt he hg
    exact ⟨r, (hall r).mp hr, hp⟩
  · intro he hcp
    exact (hgen he (hX.wf.pend_c hcp).2).trans (hX.denNPc he hcp)
  · intro he hgp
    have hg := (hX.wf.pend_g hgp).2
    refine (hX.denNPg he hgp).trans ?_
    exact genSem_congr_mem _ _ _ _ (fun r hr => hX.wf.gs_wf he hg r (List.mem_of_mem_take hr)) hnp

theorem InvNoEng_refineC (X : FPoly) (S : Set Val) (exact : Sys) (hX : X.InvNoEng S)
    (hfp : X.p.st.empty = false → X.p.st.cUp = true →
      exact.firstPending ≤ exact.rows.length ∧ (X.p.st.cPend = false → exact.firstPending = exact.rows.length)) :
    ({ X with p := { X.p with cs := X.p.cs.refineBy exact } } : FPoly).InvNoEng S := by
  rcases refineBy_cases X.p.cs exact with h | ⟨h, hnp, hpd⟩
  · rw [h]; exact hX
  · rw [h]; exact InvNoEng_congrC X S exact hX (mem_of_take_drop hnp hpd) hnp hfp

theorem InvNoEng_refineG (X : FPoly) (S : Set Val) (exact : Sys) (hX : X.InvNoEng S)
    (hfp : X.p.st.empty = false → X.p.st.gUp = true →
      exact.firstPending ≤ exact.rows.length ∧ (X.p.st.gPend = false → exact.firstPending = exact.rows.length)) :
    ({ X with p := { X.p with gs := X.p.gs.refineBy exact } } : FPoly).InvNoEng S := by
  rcases refineBy_cases X.p.gs exact with h | ⟨h, hnp, hpd⟩
  · rw [h]; exact hX
  · rw [h]; exact InvNoEng_congrG X S exact hX (mem_of_take_drop hnp hpd) hnp hfp

theorem refineBy_take (c e : Sys) (h : e.rows.take e.firstPending = c.rows.take c.firstPending) :
    (c.refineBy e).rows.take (c.refineBy e).firstPending = c.rows.take c.firstPending := by
  rcases refineBy_cases c e with h' | ⟨h', -⟩
  · rw [h']
  · rw [h']; exact h

theorem Inv_refineC (X : FPoly) (S : Set Val) (exact : Sys) (hX : X.Inv S)
    (hfp : X.p.st.empty = false → X.p.st.cUp = true →
      exact.firstPending ≤ exact.rows.length ∧ (X.p.st.cPend = false → exact.firstPending = exact.rows.length))
    (heng : X.p.st.empty = false → X.p.st.canPend = true →
      exact.rows.take exact.firstPending = X.p.cs.rows.take X.p.cs.firstPending) :
    ({ X with p := { X.p with cs := X.p.cs.refineBy exact } } : FPoly).Inv S :=
  (InvNoEng_refineC X S exact hX.noEng hfp).toInv fun he hcp => by
    show EnginePair _ _ ((X.p.cs.refineBy exact).rows.take (X.p.cs.refineBy exact).firstPending) X.npG _ _ _ _
    rw [refineBy_take _ _ (heng he hcp)]
    exact hX.eng he hcp

theorem Inv_refineG (X : FPoly) (S : Set Val) (exact : Sys) (hX : X.Inv S)
    (hfp : X.p.st.empty = false → X.p.st.gUp = true →
      exact.firstPending ≤ exact.rows.length ∧ (X.p.st.gPend = false → exact.firstPending = exact.rows.length))
    (heng : X.p.st.empty = false → X.p.st.canPend = true →
      exact.rows.take exact.firstPending = X.p.gs.rows.take X.p.gs.firstPending) :
    ({ X with p := { X.p with gs := X.p.gs.refineBy exact } } : FPoly).Inv S :=
  (InvNoEng_refineG X S exact hX.noEng hfp).toInv fun he hcp => by
    show EnginePair _ _ X.npC ((X.p.gs.refineBy exact).rows.take (X.p.gs.refineBy exact).firstPending) _ _ _ _
    rw [refineBy_take _ _ (heng he hcp)]
    exact hX.eng he hcp

/-! ## the four ways rows are added -/

theorem Inv_pendC (X : FPoly) (S S' : Set Val) (ys : List Row) (hX : X.Inv S)
    (he : X.p.st.empty = false) (hc : X.p.st.cUp = true) (hg : X.p.st.gPend = false)
    (hcp : X.p.st.canPend = true)
    (hwf : ({ X.p with cs := X.p.cs.insertPendingSys ys, st := { X.p.st with cPend := true } } : Poly).WF)
    (hden : ({ X.p with cs := X.p.cs.insertPendingSys ys, st := { X.p.st with cPend := true } } : Poly).Denotes S') :
    ({ X with p := { X.p with cs := X.p.cs.insertPendingSys ys, st := { X.p.st with cPend := true } } } : FPoly).Inv S' := by
  have hfp := (hX.fpC he hc).1
  have hgu := (legal_canPend_up hX.legal hcp).2
  have htake : (X.p.cs.rows ++ ys).take X.p.cs.firstPending = X.p.cs.rows.take X.p.cs.firstPending :=
    List.take_append_of_le_length hfp
  refine ⟨hwf, hden, ?_, ?_, fun _ => hX.fpG he, ?_, ?_, ?_, ?_⟩
  · exact legal_pendC hX.legal he hg hcp
  · intro _ _
    refine ⟨?_, fun h => by cases h⟩
    show X.p.cs.firstPending ≤ (X.p.cs.rows ++ ys).length
    rw [List.length_append]; omega
  · intro _ _
    exact LowLevel.mono (fun r hr => List.mem_append_left _ hr) (hX.low he hc)
  · intro _ _
    show genSem X.p.nnc X.p.dim X.p.gs.rows = conSem X.p.nnc ((X.p.cs.rows ++ ys).take X.p.cs.firstPending)
    rw [htake]
    cases hcpd : X.p.st.cPend
    · rw [(hX.den.2 he).2.1 hgu hcpd, ← (hX.den.2 he).1 hc hg, (hX.fpC he hc).2 hcpd, List.take_length]
    · exact hX.denNPc he hcpd
  · intro _ h
    rw [show X.p.st.gPend = true from h] at hg; cases hg
  · intro _ _
    show EnginePair _ _ ((X.p.cs.rows ++ ys).take X.p.cs.firstPending) X.npG _ _ _ _
    rw [htake]
    exact hX.eng he hcp

theorem Inv_pendG (X : FPoly) (S S' : Set Val) (ys : List Row) (hX : X.Inv S)
    (he : X.p.st.empty = false) (hg : X.p.st.gUp = true) (hc : X.p.st.cPend = false)
    (hcp : X.p.st.canPend = true)
    (hwf : ({ X.p with gs := X.p.gs.insertPendingSys ys, st := { X.p.st with gPend := true } } : Poly).WF)
    (hden : ({ X.p with gs := X.p.gs.insertPendingSys ys, st := { X.p.st with gPend := true } } : Poly).Denotes S') :
    ({ X with p := { X.p with gs := X.p.gs.insertPendingSys ys, st := { X.p.st with gPend := true } } } : FPoly).Inv S' := by
  have hfp := (hX.fpG he hg).1
  have hcu := (legal_canPend_up hX.legal hcp).1
  have htake : (X.p.gs.rows ++ ys).take X.p.gs.firstPending = X.p.gs.rows.take X.p.gs.firstPending :=
    List.take_append_of_le_length hfp
  refine ⟨hwf, hden, ?_, fun _ => hX.fpC he, ?_, fun _ => hX.low he, ?_, ?_, ?_⟩
  · exact legal_pendG hX.legal he hc hcp
  · intro _ _
    refine ⟨?_, fun h => by cases h⟩
    show X.p.gs.firstPending ≤ (X.p.gs.rows ++ ys).length
    rw [List.length_append]; omega
  · intro _ h
    rw [show X.p.st.cPend = true from h] at hc; cases hc
  · intro _ _
    show conSem X.p.nnc X.p.cs.rows = genSem X.p.nnc X.p.dim ((X.p.gs.rows ++ ys).take X.p.gs.firstPending)
    rw [htake]
    cases hgpd : X.p.st.gPend
    · rw [(hX.den.2 he).1 hcu hgpd, ← (hX.den.2 he).2.1 hg hc, (hX.fpG he hg).2 hgpd, List.take_length]
    · exact hX.denNPg he hgpd
  · intro _ _
    show EnginePair _ _ X.npC ((X.p.gs.rows ++ ys).take X.p.gs.firstPending) _ _ _ _
    rw [htake]
    exact hX.eng he hcp

theorem Inv_nonpendC (X : FPoly) (S S' : Set Val) (cs' : Sys) (hX : X.Inv S)
    (he : X.p.st.empty = false) (hc : X.p.st.cUp = true) (hcp : X.p.st.canPend = false)
    (hfp : cs'.firstPending = cs'.rows.length) (hsub : ∀ r ∈ X.p.cs.rows, r ∈ cs'.rows)
    (hwf : ({ X.p with cs := cs', st := ({ X.p.st with cMin := false }).clearGUp } : Poly).WF)
    (hden : ({ X.p with cs := cs', st := ({ X.p.st with cMin := false }).clearGUp } : Poly).Denotes S') :
    ({ X with p := { X.p with cs := cs', st := ({ X.p.st with cMin := false }).clearGUp } } : FPoly).Inv S' := by
  have hnp := legal_not_canPend hX.legal hcp
  refine ⟨hwf, hden, ?_, fun _ _ => ⟨le_of_eq hfp, fun _ => hfp⟩, fun _ h => (by cases h), ?_, ?_,
    fun _ h => (by cases h), fun _ h => (by simp [Status.canPend, Status.clearGUp] at h)⟩
  · exact legal_nonpendC hX.legal he hc hcp
  · intro _ _
    exact LowLevel.mono hsub (hX.low he hc)
  · intro _ h
    rw [show X.p.st.cPend = true from h] at hnp; cases hnp.1

theorem Inv_nonpendG (X : FPoly) (S S' : Set Val) (gs' : Sys) (hX : X.Inv S)
    (he : X.p.st.empty = false) (hg : X.p.st.gUp = true) (hcp : X.p.st.canPend = false)
    (hfp : gs'.firstPending = gs'.rows.length)
    (hwf : ({ X.p with gs := gs', st := ({ X.p.st with gMin := false }).clearCUp } : Poly).WF)
    (hden : ({ X.p with gs := gs', st := ({ X.p.st with gMin := false }).clearCUp } : Poly).Denotes S') :
    ({ X with p := { X.p with gs := gs', st := ({ X.p.st with gMin := false }).clearCUp } } : FPoly).Inv S' := by
  have hnp := legal_not_canPend hX.legal hcp
  refine ⟨hwf, hden, ?_, fun _ h => (by cases h), fun _ _ => ⟨le_of_eq hfp, fun _ => hfp⟩, fun _ h => (by cases h),
    fun _ h => (by cases h), ?_, fun _ h => (by simp [Status.canPend, Status.clearCUp] at h)⟩
  · exact legal_nonpendG hX.legal he hg hcp
  · intro _ h
    rw [show X.p.st.gPend = true from h] at hnp; cases hnp.2

end PPLV.PolyFull

import PPLV.PolyFull.ProofsOps6f

/-!
# `add_space_dimensions_and_project` refines `RefPoly.addDimsProject`
-/
namespace PPLV.PolyFull
open PPLV.Lin PPLV.PolyOps
open PPLV.Conv (holdsAll holds)

/-- the result of the row-level operator on a non-empty polyhedron of positive dimension, in one form -/
def projPoly (p : Poly) (m : Nat) : Poly :=
  { p with dim := p.dim + m,
           st := { p.st with satG := p.st.satG || (p.st.cUp && p.st.gUp) },
           cs := if p.st.cUp = true then p.cs.addUniverseRows p.nnc p.dim m else p.cs,
           gs := if p.st.gUp = true then p.gs.addZeroCols m else p.gs }

theorem project_eq (p : Poly) (m : Nat) (hm : m ≠ 0) (hem : p.st.empty = false) (hd : p.dim ≠ 0) (hp : p.WF) :
    p.add_space_dimensions_and_project m = projPoly p m := by
  have hup := hp.some_up hem (Nat.pos_of_ne_zero hd)
  obtain ⟨nnc, dim, ⟨e, cu, gu, cm, gm, sc, sg, cp, gp⟩, cs, gs⟩ := p
  simp only at hem hd hup
  subst hem
  unfold Poly.add_space_dimensions_and_project projPoly
  cases cu <;> cases gu <;> simp_all

/-- `SAT_G_UP_TO_DATE` may be set where both descriptions are up to date -/
theorem legal_project {s : Status} {d d' : Nat} (hd : d ≠ 0) (hd' : d' ≠ 0) (h : statusLegalB s d = true) :
    statusLegalB { s with satG := s.satG || (s.cUp && s.gUp) } d' = true := by
  replace h := legal_dim_change hd hd' h
  rw [legal_iff] at h ⊢
  refine ⟨fun e => ?_, fun e => ?_, h.cMin, h.gMin, h.notBoth, fun e => ?_, h.zero, h.some⟩
  · obtain ⟨a, b, c, d, f, _, g, i⟩ := h.empty e
    exact ⟨a, b, c, d, f, by rw [show s.satG = false from ‹_›, a]; rfl, g, i⟩
  · rcases e with e | e
    · exact h.sat (Or.inl e)
    · rcases Bool.or_eq_true_iff.mp e with e | e
      · exact h.sat (Or.inr e)
      · exact Bool.and_eq_true_iff.mp e
  · have := h.pend e
    simp only [Status.canPend, Bool.and_eq_true, Bool.or_eq_true] at this ⊢
    exact ⟨this.1, this.2.elim Or.inl fun q => Or.inr (Or.inl q)⟩

theorem projPoly_cs (p : Poly) (m : Nat) (h : p.st.cUp = true) :
    (projPoly p m).cs = p.cs.addUniverseRows p.nnc p.dim m :=
  if_pos h

theorem projPoly_gs (p : Poly) (m : Nat) (h : p.st.gUp = true) : (projPoly p m).gs = p.gs.addZeroCols m :=
  if_pos h

theorem InvNoEng_project (x : FPoly) (S S' : Set Val) (hx : x.Inv S) (m : Nat) (hm : 0 < m)
    (hem : x.p.st.empty = false) (hd : x.p.dim ≠ 0) (hden : (projPoly x.p m).Denotes S') (a b : BitMat) :
    (⟨projPoly x.p m, a, b⟩ : FPoly).InvNoEng S' := by
  refine ⟨⟨?_, ?_, ?_, hx.wf.pend_c, hx.wf.pend_g, hx.wf.pend_one,
      fun _ _ => hx.wf.some_up hem (Nat.pos_of_ne_zero hd), ?_⟩, hden, ?_, ?_, ?_, ?_, ?_, ?_⟩
  · intro _ hc r hr
    rw [projPoly_cs x.p m hc] at hr
    exact addUniverseRows_cf_length _ _ _ _ hm (hx.wf.cs_len hem hc) r hr
  · intro _ hg r hr
    rw [projPoly_gs x.p m hg] at hr
    obtain ⟨r0, hr0, rfl⟩ := List.mem_map.mp hr
    exact (addZeroCols_genWF _ _ m r0 (hx.wf.gs_wf hem hg r0 hr0)).1
  · intro _ hg
    rw [projPoly_gs x.p m hg]
    obtain ⟨r0, hr0, hp0⟩ := hx.wf.gs_pt hem hg
    exact ⟨r0.addZeroCols m, List.mem_map.mpr ⟨r0, hr0, rfl⟩,
      (addZeroCols_genWF _ _ m r0 (hx.wf.gs_wf hem hg r0 hr0)).2 hp0⟩
  · intro h
    have : x.p.dim + m = 0 := h
    omega
  · exact legal_project hd (by show x.p.dim + m ≠ 0; omega) hx.legal
  · intro _ hc
    rw [projPoly_cs x.p m hc, (addUniverseRows_fp _ _ _ _ hm).1, (addUniverseRows_fp _ _ _ _ hm).2]
    have := hx.fpC hem hc
    exact ⟨by omega, fun h => by have := this.2 h; omega⟩
  · intro _ hg
    rw [projPoly_gs x.p m hg]
    show x.p.gs.firstPending ≤ (x.p.gs.rows.map _).length ∧ (_ → x.p.gs.firstPending = (x.p.gs.rows.map _).length)
    rw [List.length_map]
    exact hx.fpG hem hg
  · intro _ hc
    rw [projPoly_cs x.p m hc]
    exact LowLevel.mono (fun r hr => (mem_addUniverseRows _ _ _ _ hm r).mpr (Or.inr hr))
      (LowLevel_addZeroCols _ _ _ _ (hx.wf.cs_len hem hc) (hx.low hem hc))
  · intro _ hcp
    obtain ⟨hc, hg⟩ := hx.wf.pend_c hcp
    show genSem x.p.nnc (x.p.dim + m) (projPoly x.p m).gs.rows =
      conSem x.p.nnc ((projPoly x.p m).cs.rows.take (projPoly x.p m).cs.firstPending)
    rw [projPoly_cs x.p m hc, projPoly_gs x.p m hg, addUniverseRows_take _ _ _ _ hm,
      conSem_addUniverseRows _ _ _ _ hm]
    show genSem x.p.nnc (x.p.dim + m) (x.p.gs.rows.map (Row.addZeroCols m)) = _
    rw [genSem_addZeroCols _ _ _ _ (hx.wf.gs_wf hem hg)]
    exact congrArg _ (hx.denNPc hem hcp)
  · intro _ hgp
    obtain ⟨hc, hg⟩ := hx.wf.pend_g hgp
    show conSem x.p.nnc (projPoly x.p m).cs.rows =
      genSem x.p.nnc (x.p.dim + m) ((projPoly x.p m).gs.rows.take (projPoly x.p m).gs.firstPending)
    rw [projPoly_cs x.p m hc, projPoly_gs x.p m hg, conSem_addUniverseRows _ _ _ _ hm]
    show _ = genSem x.p.nnc (x.p.dim + m) ((x.p.gs.rows.map (Row.addZeroCols m)).take x.p.gs.firstPending)
    rw [← List.map_take,
      genSem_addZeroCols _ _ _ _ (fun r hr => hx.wf.gs_wf hem hg r (List.mem_of_mem_take hr))]
    exact congrArg _ (hx.denNPg hem hgp)

theorem project_empty_eq (p : Poly) (m : Nat) (hm : m ≠ 0) (hem : p.st.empty = true) :
    p.add_space_dimensions_and_project m = { p with dim := p.dim + m, cs := Sys.clear } := by
  simp [Poly.add_space_dimensions_and_project, hm, hem]

/-- the origin of `ℚ^m`: what a zero-dimensional universe becomes -/
def originRows (nnc : Bool) (m : Nat) : List Row :=
  (if nnc then [⟨false, 1, List.replicate m 0, 0⟩] else []) ++
    [⟨false, 1, List.replicate m 0, if nnc then 1 else 0⟩]

def projZeroPoly (p : Poly) (m : Nat) : Poly :=
  { p with dim := m, st := { p.st with gUp := true, gMin := true },
           gs := ⟨originRows p.nnc m, (originRows p.nnc m).length, p.gs.sorted⟩ }

theorem project_zero_eq (p : Poly) (m : Nat) (hm : m ≠ 0) (hem : p.st.empty = false) (hd : p.dim = 0) :
    p.add_space_dimensions_and_project m = projZeroPoly p m := by
  simp [Poly.add_space_dimensions_and_project, projZeroPoly, originRows, hm, hem, hd]

/-- the only legal word of a non-empty zero-dimensional object -/
theorem legal_zero_st {s : Status} (h : statusLegalB s 0 = true) (he : s.empty = false) :
    s = Status.zeroDimUniv := by
  have L := (legal_iff _ _).1 h
  obtain ⟨hc, hg⟩ := L.zero rfl
  have hcm : s.cMin = false := Bool.eq_false_iff.mpr fun e => absurd (L.cMin e) (Bool.eq_false_iff.mp hc)
  have hgm : s.gMin = false := Bool.eq_false_iff.mpr fun e => absurd (L.gMin e) (Bool.eq_false_iff.mp hg)
  have hsc : s.satC = false := Bool.eq_false_iff.mpr fun e => absurd (L.sat (Or.inl e)).1 (Bool.eq_false_iff.mp hc)
  have hsg : s.satG = false := Bool.eq_false_iff.mpr fun e => absurd (L.sat (Or.inr e)).1 (Bool.eq_false_iff.mp hc)
  have hcp : s.cPend = false := Bool.eq_false_iff.mpr fun e => absurd (L.of_pend (Or.inl e)).1 (Bool.eq_false_iff.mp hc)
  have hgp : s.gPend = false := Bool.eq_false_iff.mpr fun e => absurd (L.of_pend (Or.inr e)).1 (Bool.eq_false_iff.mp hc)
  obtain ⟨e, cu, gu, cm, gm, sc, sg, cp, gp⟩ := s
  simp only at he hc hg hcm hgm hsc hsg hcp hgp
  subst he hc hg hcm hgm hsc hsg hcp hgp
  rfl

theorem Inv_project_zero (x : FPoly) (S S' : Set Val) (hx : x.Inv S) (m : Nat) (hm : m ≠ 0)
    (hem : x.p.st.empty = false) (hd : x.p.dim = 0)
    (hden : (projZeroPoly x.p m).Denotes S') :
    ({ x with p := projZeroPoly x.p m } : FPoly).Inv S' := by
  have hst : x.p.st = Status.zeroDimUniv := legal_zero_st (by rw [← hd]; exact hx.legal) hem
  have hst' : (projZeroPoly x.p m).st = { Status.zeroDimUniv with gUp := true, gMin := true } := by
    show ({ x.p.st with gUp := true, gMin := true } : Status) = _
    rw [hst]
  refine Inv_gensOnly _ S' ⟨fun _ h => ?_, fun _ _ r hr => ?_, fun _ _ => ?_, fun h => ?_, fun h => ?_, fun h => ?_,
      fun _ _ => Or.inr rfl, fun h => absurd h hm⟩ hden ?_ ?_ ?_ ?_ ?_ (fun _ => rfl)
  · rw [show ({ x with p := projZeroPoly x.p m } : FPoly).p.st = _ from hst'] at h; cases h
  · have hr' : r ∈ originRows x.p.nnc m := hr
    unfold originRows at hr'
    show r.genWF x.p.nnc m
    cases hnc : x.p.nnc <;> rw [hnc] at hr'
    · simp only [Bool.false_eq_true, if_false, List.nil_append, List.mem_singleton] at hr'
      subst hr'
      simp [Row.genWF]
    · simp only [if_true, List.cons_append, List.nil_append, List.mem_cons, List.not_mem_nil, or_false] at hr'
      rcases hr' with rfl | rfl <;> simp [Row.genWF]
  · refine ⟨⟨false, 1, List.replicate m 0, if x.p.nnc then 1 else 0⟩, ?_, ?_⟩
    · show _ ∈ originRows x.p.nnc m
      simp [originRows]
    · show Row.isPoint x.p.nnc _
      unfold Row.isPoint
      refine ⟨rfl, by norm_num, fun h => ?_⟩
      simp [h]
  · rw [show ({ x with p := projZeroPoly x.p m } : FPoly).p.st = _ from hst'] at h; cases h
  · rw [show ({ x with p := projZeroPoly x.p m } : FPoly).p.st = _ from hst'] at h; cases h
  · rw [show ({ x with p := projZeroPoly x.p m } : FPoly).p.st = _ from hst'] at h; cases h.1
  · show statusLegalB (projZeroPoly x.p m).st m = true
    rw [hst', statusLegalB_pos hm]; rfl
  · show (projZeroPoly x.p m).st.cUp = false
    rw [hst']; rfl
  · show (projZeroPoly x.p m).st.cMin = false
    rw [hst']; rfl
  · show (projZeroPoly x.p m).st.cPend = false
    rw [hst']; rfl
  · show (projZeroPoly x.p m).st.gPend = false
    rw [hst']; rfl

/-- the proof behind the two theorems below: the engine clause of the result is asked for only
    when both descriptions of the receiver are up to date -/
theorem addSpaceDimensionsAndProject_core (x : FPoly) (ref : RefPoly) (m : Nat)
    (hn : ref.n = x.p.dim) (hnnc : ref.nnc = x.p.nnc) (hwf : WF ref.n ref.cs)
    (hx : x.Inv (sem ref.cs))
    (hEng : x.p.st.cUp = true → x.p.st.gUp = true → (x.addSpaceDimensionsAndProject m).p.st.empty = false →
      (x.addSpaceDimensionsAndProject m).p.st.canPend = true →
      EnginePair (x.addSpaceDimensionsAndProject m).p.nnc (x.addSpaceDimensionsAndProject m).p.dim
        (x.addSpaceDimensionsAndProject m).npC (x.addSpaceDimensionsAndProject m).npG
        (x.addSpaceDimensionsAndProject m).p.st.satC (x.addSpaceDimensionsAndProject m).p.st.satG
        (x.addSpaceDimensionsAndProject m).satC (x.addSpaceDimensionsAndProject m).satG) :
    (x.addSpaceDimensionsAndProject m).Inv (sem (ref.addDimsProject m).cs) ∧
    (x.addSpaceDimensionsAndProject m).p.nnc = x.p.nnc ∧
    (x.addSpaceDimensionsAndProject m).p.dim = x.p.dim + m := by
  have hD := add_space_dimensions_and_project_rows_correct x.p m ref hn hnnc hwf hx.wf hx.den
  revert hEng
  unfold FPoly.addSpaceDimensionsAndProject FPoly.st FPoly.dim FPoly.nnc
  by_cases hm : m = 0
  · subst hm
    intro _
    exact ⟨hx.change (by simpa [Poly.add_space_dimensions_and_project] using hD), rfl, rfl⟩
  have hm0 : (m == 0) = false := by simpa using hm
  have hmpos : 0 < m := Nat.pos_of_ne_zero hm
  rw [hm0]
  simp only [Bool.false_eq_true, if_false]
  cases hem : x.p.st.empty
  · by_cases hd : x.p.dim = 0
    · have hd0 : (x.p.dim == 0) = true := by simpa using hd
      rw [hd0]
      simp only [Bool.or_true, if_true]
      intro _
      rw [project_zero_eq x.p m hm hem hd] at hD ⊢
      exact ⟨Inv_project_zero x _ _ hx m hm hem hd hD, rfl, by show m = x.p.dim + m; omega⟩
    · have hd0 : (x.p.dim == 0) = false := by simpa using hd
      rw [hd0]
      simp only [Bool.or_self, Bool.false_eq_true, if_false]
      rw [project_eq x.p m hm hem hd hx.wf] at hD ⊢
      have hfpC : ∀ a b, (⟨projPoly x.p m, a, b⟩ : FPoly).p.st.empty = false →
          (⟨projPoly x.p m, a, b⟩ : FPoly).p.st.cUp = true →
          (FPoly.addUniverseRowsExact false x.p.nnc x.p.dim m x.p.cs).firstPending ≤
            (FPoly.addUniverseRowsExact false x.p.nnc x.p.dim m x.p.cs).rows.length ∧
          ((⟨projPoly x.p m, a, b⟩ : FPoly).p.st.cPend = false →
            (FPoly.addUniverseRowsExact false x.p.nnc x.p.dim m x.p.cs).firstPending =
              (FPoly.addUniverseRowsExact false x.p.nnc x.p.dim m x.p.cs).rows.length) := by
        intro a b _ hc
        have hc' : x.p.st.cUp = true := hc
        rw [(addUniverseRowsExact_fp _ _ _ _ _ hmpos).1, (addUniverseRowsExact_fp _ _ _ _ _ hmpos).2]
        have := hx.fpC hem hc'
        exact ⟨by omega, fun h => by have := this.2 h; omega⟩
      cases hcu : x.p.st.cUp
      · simp only [Bool.false_and, Bool.false_eq_true, if_false]
        intro _
        have h0 := InvNoEng_project x _ _ hx m hmpos hem hd hD x.satC x.satG
        exact ⟨h0.toInv (EngClause_of_not_both _ h0 (Or.inl hcu)), rfl, rfl⟩
      · cases hgu : x.p.st.gUp
        · simp only [Bool.and_false, Bool.false_eq_true, if_false, if_true]
          intro _
          have h0 := InvNoEng_refineC _ _ _ (InvNoEng_project x _ _ hx m hmpos hem hd hD x.satC x.satG) (hfpC _ _)
          exact ⟨h0.toInv (EngClause_of_not_both _ h0 (Or.inr hgu)), rfl, rfl⟩
        · simp only [Bool.and_self, if_true]
          intro hEng
          have h0 := InvNoEng_project x _ _ hx m hmpos hem hd hD
            (FPoly.satAddDims (if (!x.p.st.satG) = true then x.updateSatG else x).satG m).2
            (FPoly.satAddDims (if (!x.p.st.satG) = true then x.updateSatG else x).satG m).1
          exact ⟨(InvNoEng_refineC _ _ _ h0 (hfpC _ _)).toInv (hEng trivial trivial), rfl, rfl⟩
  · simp only [Bool.true_or, if_true]
    intro _
    rw [project_empty_eq x.p m hm hem] at hD ⊢
    exact ⟨Inv_embed_empty x _ _ hx m hm hem hD, rfl, rfl⟩

/-- **`Polyhedron::add_space_dimensions_and_project(m)`, the whole object**: the receiver denotes
    `RefPoly.addDimsProject` and keeps the invariant.  PARTIAL: `hEng` assumes the clause `eng` of
    `FPoly.Inv` for the result — needed only when both descriptions were up to date (the generator rows
    get `m` zero columns, `m` equalities are put in front of the constraints, `m` empty rows in front of
    `sat_g`, `sat_c` is its transpose, and `update_sat_g()` may have run, of which `GlueFacts` says
    nothing); in every other case the clause is vacuous and `hEng` is not used.  Every other clause of
    the invariant is proved. -/
theorem addSpaceDimensionsAndProject_refines_partial (_G : GlueFacts) (x : FPoly) (ref : RefPoly) (m : Nat)
    (hn : ref.n = x.p.dim) (hnnc : ref.nnc = x.p.nnc) (hwf : WF ref.n ref.cs)
    (hx : x.Inv (sem ref.cs))
    (hEng : (x.addSpaceDimensionsAndProject m).p.st.empty = false →
      (x.addSpaceDimensionsAndProject m).p.st.canPend = true →
      EnginePair (x.addSpaceDimensionsAndProject m).p.nnc (x.addSpaceDimensionsAndProject m).p.dim
        (x.addSpaceDimensionsAndProject m).npC (x.addSpaceDimensionsAndProject m).npG
        (x.addSpaceDimensionsAndProject m).p.st.satC (x.addSpaceDimensionsAndProject m).p.st.satG
        (x.addSpaceDimensionsAndProject m).satC (x.addSpaceDimensionsAndProject m).satG) :
    (x.addSpaceDimensionsAndProject m).Inv (sem (ref.addDimsProject m).cs) ∧
    (x.addSpaceDimensionsAndProject m).p.nnc = x.p.nnc ∧
    (x.addSpaceDimensionsAndProject m).p.dim = x.p.dim + m :=
  addSpaceDimensionsAndProject_core x ref m hn hnnc hwf hx (fun _ _ => hEng)

/-- the same, FULLY proved (no `hEng`), for a receiver that does not hold both descriptions (this
    includes a receiver marked empty and the zero-dimensional universe) -/
theorem addSpaceDimensionsAndProject_refines_notBothUp (_G : GlueFacts) (x : FPoly) (ref : RefPoly) (m : Nat)
    (hn : ref.n = x.p.dim) (hnnc : ref.nnc = x.p.nnc) (hwf : WF ref.n ref.cs)
    (hx : x.Inv (sem ref.cs)) (hnb : (x.p.st.cUp && x.p.st.gUp) = false) :
    (x.addSpaceDimensionsAndProject m).Inv (sem (ref.addDimsProject m).cs) ∧
    (x.addSpaceDimensionsAndProject m).p.nnc = x.p.nnc ∧
    (x.addSpaceDimensionsAndProject m).p.dim = x.p.dim + m :=
  addSpaceDimensionsAndProject_core x ref m hn hnnc hwf hx (fun hc hg => by rw [hc, hg] at hnb; cases hnb)

end PPLV.PolyFull

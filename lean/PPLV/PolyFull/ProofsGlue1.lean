import PPLV.PolyFull.ProofsLegal
import PPLV.PolyFull.GlueFacts
import PPLV.PolyOps.ProofsLattice

/-!
# `GlueFacts` from `ConvContract`: the vocabulary

Projections of `statusLegalB`, `SameShape` is a preorder, `set_empty()` establishes `Inv ∅`,
"an `EnginePost` with the fully-minimized status word is `Inv` + `FullyMin`", and "generators up to
date without pending constraints ⇒ the set is not empty".
-/
namespace PPLV.PolyFull
open PPLV.Lin PPLV.PolyOps
open PPLV.Conv (LRow BRow Vec Sound SatCorrect holds holdsAll Generated)

theorem FPoly.SameShape.refl (x : FPoly) : x.SameShape x := ⟨rfl, rfl⟩
theorem FPoly.SameShape.trans {x y z : FPoly} (h1 : x.SameShape y) (h2 : y.SameShape z) :
    x.SameShape z := ⟨h2.1.trans h1.1, h2.2.trans h1.2⟩

theorem canPend_iff (s : Status) :
    s.canPend = true ↔ s.cMin = true ∧ s.gMin = true ∧ (s.satC = true ∨ s.satG = true) := by
  simp [Status.canPend, and_assoc]

/-- everything up to date and minimized, nothing pending: a legal status word in positive dimension -/
theorem statusLegal_fullyMin (s : Status) (d : Nat) (hd : 0 < d) (he : s.empty = false)
    (hcu : s.cUp = true) (hgu : s.gUp = true) (hcm : s.cMin = true) (hgm : s.gMin = true)
    (hcp : s.cPend = false) (hgp : s.gPend = false) : statusLegalB s d = true := by
  have hd' : (d != 0) = true := by simp; omega
  simp [statusLegalB, he, hcu, hgu, hcm, hgm, hcp, hgp, hd']

/-! ### `set_empty()` -/

theorem inv_setEmpty (x : FPoly) : x.setEmpty.Inv ∅ where
  wf := {
    cs_len := fun h => by simp [FPoly.setEmpty, Poly.setEmpty, Status.setEmpty] at h
    gs_wf := fun h => by simp [FPoly.setEmpty, Poly.setEmpty, Status.setEmpty] at h
    gs_pt := fun h => by simp [FPoly.setEmpty, Poly.setEmpty, Status.setEmpty] at h
    pend_c := fun h => by simp [FPoly.setEmpty, Poly.setEmpty, Status.setEmpty] at h
    pend_g := fun h => by simp [FPoly.setEmpty, Poly.setEmpty, Status.setEmpty] at h
    pend_one := fun h => by simp [FPoly.setEmpty, Poly.setEmpty, Status.setEmpty] at h
    some_up := fun h => by simp [FPoly.setEmpty, Poly.setEmpty, Status.setEmpty] at h
    zero_dim := fun _ => ⟨rfl, rfl⟩ }
  den := ⟨fun _ => rfl, fun h => by simp [FPoly.setEmpty, Poly.setEmpty, Status.setEmpty] at h⟩
  legal := by simp [statusLegalB, FPoly.setEmpty, Poly.setEmpty, Status.setEmpty, Status.canPend]
  fpC := fun h => by simp [FPoly.setEmpty, Poly.setEmpty, Status.setEmpty] at h
  fpG := fun h => by simp [FPoly.setEmpty, Poly.setEmpty, Status.setEmpty] at h
  low := fun h => by simp [FPoly.setEmpty, Poly.setEmpty, Status.setEmpty] at h
  denNPc := fun h => by simp [FPoly.setEmpty, Poly.setEmpty, Status.setEmpty] at h
  denNPg := fun h => by simp [FPoly.setEmpty, Poly.setEmpty, Status.setEmpty] at h
  eng := fun h => by simp [FPoly.setEmpty, Poly.setEmpty, Status.setEmpty] at h

theorem sameShape_setEmpty (x : FPoly) : x.SameShape x.setEmpty := ⟨rfl, rfl⟩
theorem setEmpty_empty (x : FPoly) : x.setEmpty.p.st.empty = true := rfl

/-! ### what a successful engine call establishes -/

theorem inv_of_post (y : FPoly) (S : Set Val) (hd : 0 < y.p.dim)
    (hp : EnginePost y.p.nnc y.p.dim S y.p.cs y.p.gs y.p.st.satC y.p.st.satG y.satC y.satG)
    (he : y.p.st.empty = false) (hcu : y.p.st.cUp = true) (hgu : y.p.st.gUp = true)
    (hcm : y.p.st.cMin = true) (hgm : y.p.st.gMin = true)
    (hcp : y.p.st.cPend = false) (hgp : y.p.st.gPend = false) : y.Inv S ∧ y.FullyMin := by
  refine ⟨?_, he, hcu, hgu, hcm, hgm, hcp, hgp⟩
  exact {
    wf := {
      cs_len := fun _ _ => hp.csLen
      gs_wf := fun _ _ => hp.gsWF
      gs_pt := fun _ _ => hp.gsPt
      pend_c := fun h => by rw [hcp] at h; cases h
      pend_g := fun h => by rw [hgp] at h; cases h
      pend_one := fun h => by rw [hcp] at h; cases h.1
      some_up := fun _ _ => Or.inl hcu
      zero_dim := fun h => by omega }
    den := ⟨fun h => (by rw [he] at h; cases h),
      fun _ => ⟨fun _ _ => hp.denC, fun _ _ => hp.denG, fun h => (by rw [hcu] at h; cases h)⟩⟩
    legal := statusLegal_fullyMin _ _ hd he hcu hgu hcm hgm hcp hgp
    fpC := fun _ _ => ⟨le_of_eq hp.fpC, fun _ => hp.fpC⟩
    fpG := fun _ _ => ⟨le_of_eq hp.fpG, fun _ => hp.fpG⟩
    low := fun _ _ => hp.low
    denNPc := fun _ h => by rw [hcp] at h; cases h
    denNPg := fun _ h => by rw [hgp] at h; cases h
    eng := fun _ _ => by
      unfold FPoly.npC FPoly.npG
      rw [hp.fpC, hp.fpG, List.take_length, List.take_length]
      exact hp.pair }

/-! ### non-emptiness -/

theorem FPoly.Inv.nonempty_of_gUp {x : FPoly} {S : Set Val} (h : x.Inv S) (he : x.p.st.empty = false)
    (hg : x.p.st.gUp = true) (hc : x.p.st.cPend = false) : S.Nonempty := by
  have hden := (h.den.2 he).2.1 hg hc
  rw [← hden]
  exact kit_nonempty _ _ _ (h.wf.gs_wf he hg) (h.wf.gs_pt he hg)

theorem FPoly.Inv.ne_empty_of_gUp {x : FPoly} {S : Set Val} (h : x.Inv S) (he : x.p.st.empty = false)
    (hg : x.p.st.gUp = true) (hc : x.p.st.cPend = false) : S ≠ ∅ :=
  (h.nonempty_of_gUp he hg hc).ne_empty

theorem FPoly.Inv.ne_empty_of_fullyMin {x : FPoly} {S : Set Val} (h : x.Inv S) (hf : x.FullyMin) : S ≠ ∅ :=
  h.ne_empty_of_gUp hf.1 hf.2.2.1 hf.2.2.2.2.2.1

theorem FPoly.Inv.empty_of_marked {x : FPoly} {S : Set Val} (h : x.Inv S) (he : x.p.st.empty = true) :
    S = ∅ := h.den.1 he

/-- a non-empty zero-dimensional polyhedron is the universe -/
theorem FPoly.Inv.ne_empty_of_zeroDim {x : FPoly} {S : Set Val} (h : x.Inv S) (he : x.p.st.empty = false)
    (hd : x.p.dim = 0) : S ≠ ∅ := by
  have hz := h.wf.zero_dim hd
  have := (h.den.2 he).2.2 hz.1 hz.2
  rw [this]
  exact Set.univ_nonempty.ne_empty

/-- the flag `empty` of a state denoting a non-empty set is clear -/
theorem FPoly.Inv.not_marked {x : FPoly} {S : Set Val} (h : x.Inv S) (hS : S ≠ ∅) :
    x.p.st.empty = false := by
  cases he : x.p.st.empty
  · rfl
  · exact absurd (h.den.1 he) hS

end PPLV.PolyFull

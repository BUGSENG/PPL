import PPLV.PolyFull.ProofsStatus1

/-!
# The status protocol on the full model: pending rows and the composite helpers

`process_pending_constraints()` / `process_pending_generators()` are cut into the same two halves as the abstract
ones (`ppcPrepare` / `ppcFinish`); the ghost inputs and ghost Booleans the abstract half reads are tied to what the
full model computes: `pC` ("pending rows exist") to "a row is left after `sort_pending_and_remove_duplicates`", `emp`
to the answer of `add_and_minimize`, `g.srcS` / `g.dstS` to the two `sorted` flags the engine leaves.
Then `remove_pending_to_obtain_*`, `process_pending`, `minimize`, `is_empty` and the idiom `needCons`: for each the
ghost condition (`…Ghost x g s`: the one of the branch that is taken) and `Sim x s → …Ghost x g s → Sim (f x) (F g s)`
with equal Boolean answers.
-/
namespace PPLV.PolyFull
open PPLV.PolyOps PPLV.Lin
open PPLV.PolyStatus (PState Gh Two)

attribute [local simp] FPoly.st FPoly.nnc FPoly.dim FPoly.withSt FPoly.withCs FPoly.withGs

namespace FPoly

/-- :752 -/
def ppcCs (x : FPoly) : Sys := x.p.cs.sortPendingAndRemoveDuplicates false x.nnc
/-- :753 "no pending row is left" -/
def ppcNoPend (x : FPoly) : Bool := (ppcCs x).rows.length == (ppcCs x).firstPending
/-- :760 the engine call -/
def ppcOut (x : FPoly) : EngineOut := engineAddAndMinimize true x.nnc x.dim (ppcCs x) x.p.gs x.satC
/-- :752-770 -/
def ppcFin (x : FPoly) : Bool × FPoly :=
  let x1 := x.withCs (ppcCs x)
  if ppcNoPend x then (true, x1.withSt { x1.st with cPend := false })
  else
    let o := ppcOut x
    if o.empty then (false, x1.setEmpty)
    else
      (true, { x1 with satC := o.sat,
                       p := { x1.p with cs := o.source, gs := o.dest,
                                        st := { x1.p.st with cPend := false, satG := false, satC := true } } })

theorem processPendingConstraints_eq (x : FPoly) : x.processPendingConstraints = ppcFin (ppcPrep x) := by rfl

def ppgGs (x : FPoly) : Sys := x.p.gs.sortPendingAndRemoveDuplicates true x.nnc
def ppgNoPend (x : FPoly) : Bool := (ppgGs x).rows.length == (ppgGs x).firstPending
def ppgOut (x : FPoly) : EngineOut := engineAddAndMinimize false x.nnc x.dim (ppgGs x) x.p.cs x.satG
def ppgFin (x : FPoly) : FPoly :=
  let x1 := x.withGs (ppgGs x)
  if ppgNoPend x then x1.withSt { x1.st with gPend := false }
  else
    let o := ppgOut x
    { x1 with satG := o.sat,
              p := { x1.p with gs := o.source, cs := o.dest,
                               st := { x1.p.st with gPend := false, satC := false, satG := true } } }

theorem processPendingGenerators_eq (x : FPoly) : x.processPendingGenerators = ppgFin (ppgPrep x) := by rfl

end FPoly

theorem engineAddAndMinimize_dest_sorted_imp (c nnc : Bool) (n : Nat) (src dst : Sys) (m : BitMat)
    (h : (FPoly.engineAddAndMinimize c nnc n src dst m).dest.sorted = true) : dst.sorted = true :=
  conversionDestSorted_imp _ _ _ _ _ _ _ h

/-! ## first halves -/

theorem ppcPrep_sim (x : FPoly) (s : PState) (h : Sim x s) :
    Sim x.ppcPrep (PPLV.PolyStatus.ppcPrepare s) ∧ x.ppcPrep.p.cs.sorted = true
    ∧ (PPLV.PolyStatus.ppcPrepare s).b .pC = s.b .pC ∧ (PPLV.PolyStatus.ppcPrepare s).b .emp = s.b .emp := by
  obtain ⟨⟨nnc, dim, ⟨e, cu, gu, cm, gm, sc, sg, cp, gp⟩, ⟨cr, cf, csrt⟩, ⟨gr, gf, gsrt⟩⟩, mC, mG⟩ := x
  sim_hyps h
  cases csrt <;> cases sc <;> cases sg <;>
    simp [Sim, pst, FPoly.ppcPrep, PPLV.PolyStatus.ppcPrepare, FPoly.obtainSortedConstraintsWithSatC,
      PPLV.PolyStatus.obtainSortedConstraintsWithSatC, FPoly.updateSatC, *]

theorem ppgPrep_sim (x : FPoly) (s : PState) (h : Sim x s) :
    Sim x.ppgPrep (PPLV.PolyStatus.ppgPrepare s) ∧ x.ppgPrep.p.gs.sorted = true
    ∧ (PPLV.PolyStatus.ppgPrepare s).b .pG = s.b .pG ∧ (PPLV.PolyStatus.ppgPrepare s).b .emp = s.b .emp := by
  obtain ⟨⟨nnc, dim, ⟨e, cu, gu, cm, gm, sc, sg, cp, gp⟩, ⟨cr, cf, csrt⟩, ⟨gr, gf, gsrt⟩⟩, mC, mG⟩ := x
  sim_hyps h
  cases gsrt <;> cases sc <;> cases sg <;>
    simp [Sim, pst, FPoly.ppgPrep, PPLV.PolyStatus.ppgPrepare, FPoly.obtainSortedGeneratorsWithSatG,
      PPLV.PolyStatus.obtainSortedGeneratorsWithSatG, FPoly.updateSatG, *]

/-! ## second halves -/

/-- the ghost conditions of `ppcFinish` against the full state `x` (after the first half) -/
structure PpcGhost (x : FPoly) (g : Gh) (s : PState) : Prop where
  /-- pending rows are left after duplicate removal, as the abstract model decides it -/
  pend : (s.b .pC && !(g.dup && !s.b .emp)) = !x.ppcNoPend
  /-- `emp` is the answer of `add_and_minimize` -/
  emp : x.ppcNoPend = false → s.b .emp = x.ppcOut.empty
  srcS : x.ppcNoPend = false → x.ppcOut.empty = false → g.srcS = x.ppcOut.source.sorted
  dstS : x.ppcNoPend = false → x.ppcOut.empty = false → g.dstS = x.ppcOut.dest.sorted

theorem ppcFin_sim (x : FPoly) (s : PState) (g : Gh) (h : Sim x s) (hs : x.p.cs.sorted = true)
    (hg : PpcGhost x g s) :
    (PPLV.PolyStatus.ppcFinish g s).1 = x.ppcFin.1 ∧ Sim x.ppcFin.2 (PPLV.PolyStatus.ppcFinish g s).2 := by
  obtain ⟨hP, hE, hS, hD⟩ := hg
  have hdst : x.ppcOut.dest.sorted = true → x.p.gs.sorted = true :=
    engineAddAndMinimize_dest_sorted_imp _ _ _ _ _ _
  sim_hyps h
  unfold FPoly.ppcFin PPLV.PolyStatus.ppcFinish PPLV.PolyStatus.addMinC
  generalize x.ppcNoPend = np at *
  generalize x.ppcOut = o at *
  rcases Bool.eq_false_or_eq_true np with a | a
  · -- no pending row is left: all were duplicates, or there was none
    rcases Bool.eq_false_or_eq_true (g.dup && !s.b .emp) with d | d
    · simp [Sim, pst, FPoly.ppcCs, *]
    · have c : s.b .pC = false := by simpa [a, d] using hP
      simp [Sim, pst, FPoly.ppcCs, *]
  · have c : s.b .pC = true ∧ (g.dup && !s.b .emp) = false := by
      rw [a, Bool.not_false, Bool.and_eq_true, Bool.not_eq_true'] at hP; exact hP
    have e := hE a
    rcases Bool.eq_false_or_eq_true o.empty with b | b
    · simp [Sim, pst, FPoly.setEmpty, Poly.setEmpty, Status.setEmpty, Sys.clear, a, b, c.1, e, h10, h11]
    · have hS := hS a b
      have hD := hD a b
      cases hgs : x.p.gs.sorted <;> simp_all [Sim, pst, FPoly.ppcCs]

structure PpgGhost (x : FPoly) (g : Gh) (s : PState) : Prop where
  pend : (s.b .pG && !g.dup) = !x.ppgNoPend
  srcS : x.ppgNoPend = false → g.srcS = x.ppgOut.source.sorted
  dstS : x.ppgNoPend = false → g.dstS = x.ppgOut.dest.sorted

theorem ppgFin_sim (x : FPoly) (s : PState) (g : Gh) (h : Sim x s) (hs : x.p.gs.sorted = true)
    (hg : PpgGhost x g s) :
    Sim x.ppgFin (PPLV.PolyStatus.ppgFinish g s) := by
  obtain ⟨hP, hS, hD⟩ := hg
  have hdst : x.ppgOut.dest.sorted = true → x.p.cs.sorted = true :=
    engineAddAndMinimize_dest_sorted_imp _ _ _ _ _ _
  sim_hyps h
  unfold FPoly.ppgFin PPLV.PolyStatus.ppgFinish PPLV.PolyStatus.addMinG
  generalize x.ppgNoPend = np at *
  generalize x.ppgOut = o at *
  rcases Bool.eq_false_or_eq_true np with a | a <;>
    rcases Bool.eq_false_or_eq_true (s.b .pG) with c | c <;>
    rcases Bool.eq_false_or_eq_true g.dup with e | e <;>
    simp_all [Sim, pst, FPoly.ppgGs]

/-! ## the whole functions -/

/-- `process_pending_constraints()` under the ghost conditions (stated on the state after the first half;
    the first half touches neither `pC` nor `emp`) -/
theorem processPendingConstraints_sim (x : FPoly) (s : PState) (g : Gh) (h : Sim x s)
    (hg : PpcGhost x.ppcPrep g s) :
    (PPLV.PolyStatus.processPendingConstraints g s).1 = x.processPendingConstraints.1
    ∧ Sim x.processPendingConstraints.2 (PPLV.PolyStatus.processPendingConstraints g s).2 := by
  obtain ⟨h1, h2, h3, h4⟩ := ppcPrep_sim x s h
  rw [FPoly.processPendingConstraints_eq]
  unfold PPLV.PolyStatus.processPendingConstraints
  refine ppcFin_sim _ _ g h1 h2 ⟨?_, ?_, hg.srcS, hg.dstS⟩
  · rw [h3, h4]; exact hg.pend
  · rw [h4]; exact hg.emp

theorem processPendingGenerators_sim (x : FPoly) (s : PState) (g : Gh) (h : Sim x s)
    (hg : PpgGhost x.ppgPrep g s) :
    Sim x.processPendingGenerators (PPLV.PolyStatus.processPendingGenerators g s) := by
  obtain ⟨h1, h2, h3, _⟩ := ppgPrep_sim x s h
  rw [FPoly.processPendingGenerators_eq]
  unfold PPLV.PolyStatus.processPendingGenerators
  refine ppgFin_sim _ _ g h1 h2 ⟨?_, hg.srcS, hg.dstS⟩
  rw [h3]; exact hg.pend

/-! ## canonical ghost choices -/

/-- the ghost inputs the full model computes in `process_pending_constraints()` -/
def FPoly.ppcGh (x : FPoly) : Gh :=
  { dup := false, srcS := x.ppcPrep.ppcOut.source.sorted, dstS := x.ppcPrep.ppcOut.dest.sorted }
/-- the ghost Booleans: pending rows are left; the engine's emptiness answer -/
def FPoly.ppcSt (x : FPoly) (s : PState) : PState :=
  (s.set .pC (!x.ppcPrep.ppcNoPend)).set .emp (!x.ppcPrep.ppcNoPend && x.ppcPrep.ppcOut.empty)

theorem ppcGhost_canon (x : FPoly) (s : PState) : PpcGhost x.ppcPrep x.ppcGh (x.ppcSt s) := by
  constructor <;> simp (config := { contextual := true }) [FPoly.ppcGh, FPoly.ppcSt]

theorem ppcSt_sameStored (x : FPoly) (s : PState) : SameStored s (x.ppcSt s) :=
  (SameStored.set_ghost s .pC _ rfl).trans (SameStored.set_ghost _ .emp _ rfl)

def FPoly.ppgGh (x : FPoly) : Gh :=
  { dup := false, srcS := x.ppgPrep.ppgOut.source.sorted, dstS := x.ppgPrep.ppgOut.dest.sorted }
def FPoly.ppgSt (x : FPoly) (s : PState) : PState := s.set .pG (!x.ppgPrep.ppgNoPend)

theorem ppgGhost_canon (x : FPoly) (s : PState) : PpgGhost x.ppgPrep x.ppgGh (x.ppgSt s) := by
  constructor <;> simp [FPoly.ppgGh, FPoly.ppgSt]

theorem ppgSt_sameStored (x : FPoly) (s : PState) : SameStored s (x.ppgSt s) :=
  SameStored.set_ghost s .pG _ rfl

/-- ghost condition of `update_generators()` -/
structure UgGhost (x : FPoly) (g : Gh) (s : PState) : Prop where
  emp : s.b .emp = x.ugOut.empty
  srcS : x.ugOut.empty = false → g.srcS = x.ugOut.source.sorted
/-- ghost condition of `update_constraints()` -/
def UcGhost (x : FPoly) (g : Gh) : Prop := g.srcS = x.ucOut.source.sorted

theorem updateGenerators_sim' (x : FPoly) (s : PState) (g : Gh) (h : Sim x s) (hg : UgGhost x g s) :
    (PPLV.PolyStatus.updateGenerators g s).1 = x.updateGenerators.1
    ∧ Sim x.updateGenerators.2 (PPLV.PolyStatus.updateGenerators g s).2 :=
  updateGenerators_sim x s g h hg.emp hg.srcS

/-! ## `remove_pending_to_obtain_constraints / generators` -/

def RpcGhost (x : FPoly) (g : Gh) (s : PState) : Prop := x.p.st.cPend = false → PpgGhost x.ppgPrep g s
def RpgGhost (x : FPoly) (g : Gh) (s : PState) : Prop := x.p.st.gPend = false → PpcGhost x.ppcPrep g s

theorem removePendingToObtainConstraints_sim (x : FPoly) (s : PState) (g : Gh) (h : Sim x s)
    (hg : RpcGhost x g s) :
    Sim x.removePendingToObtainConstraints (PPLV.PolyStatus.removePendingToObtainConstraints g s) := by
  have h' := h
  sim_hyps h'
  rcases (Bool.eq_false_or_eq_true x.p.st.cPend).symm with c | c
  · have e1 : x.removePendingToObtainConstraints = x.processPendingGenerators := by
      simp [FPoly.removePendingToObtainConstraints, c]
    have e2 : PPLV.PolyStatus.removePendingToObtainConstraints g s = PPLV.PolyStatus.processPendingGenerators g s := by
      simp [PPLV.PolyStatus.removePendingToObtainConstraints, h8, c]
    rw [e1, e2]; exact processPendingGenerators_sim x s g h (hg c)
  · unfold FPoly.removePendingToObtainConstraints PPLV.PolyStatus.removePendingToObtainConstraints
    rcases Bool.eq_false_or_eq_true (s.b .pC) with d | d <;>
      simp [Sim, pst, Status.clearGUp, Sys.unsetPending, *]

theorem removePendingToObtainGenerators_sim (x : FPoly) (s : PState) (g : Gh) (h : Sim x s)
    (hg : RpgGhost x g s) :
    (PPLV.PolyStatus.removePendingToObtainGenerators g s).1 = x.removePendingToObtainGenerators.1
    ∧ Sim x.removePendingToObtainGenerators.2 (PPLV.PolyStatus.removePendingToObtainGenerators g s).2 := by
  have h' := h
  sim_hyps h'
  rcases (Bool.eq_false_or_eq_true x.p.st.gPend).symm with c | c
  · have e1 : x.removePendingToObtainGenerators = x.processPendingConstraints := by
      simp [FPoly.removePendingToObtainGenerators, c]
    have e2 : PPLV.PolyStatus.removePendingToObtainGenerators g s = PPLV.PolyStatus.processPendingConstraints g s := by
      simp [PPLV.PolyStatus.removePendingToObtainGenerators, h9, c]
    rw [e1, e2]; exact processPendingConstraints_sim x s g h (hg c)
  · unfold FPoly.removePendingToObtainGenerators PPLV.PolyStatus.removePendingToObtainGenerators
    rcases Bool.eq_false_or_eq_true (s.b .pG) with d | d <;>
      simp [Sim, pst, Status.clearCUp, Sys.unsetPending, *]

/-! ## `process_pending()` -/

structure PpGhost (x : FPoly) (g : Gh) (s : PState) : Prop where
  ppc : x.p.st.cPend = true → PpcGhost x.ppcPrep g s
  ppg : x.p.st.cPend = false → PpgGhost x.ppgPrep g s

theorem processPending_sim (x : FPoly) (s : PState) (g : Gh) (h : Sim x s) (hg : PpGhost x g s) :
    (PPLV.PolyStatus.processPending g s).1 = x.processPending.1
    ∧ Sim x.processPending.2 (PPLV.PolyStatus.processPending g s).2 := by
  have h' := h
  sim_hyps h'
  rcases (Bool.eq_false_or_eq_true x.p.st.cPend).symm with c | c
  · have e1 : x.processPending = (true, x.processPendingGenerators) := by simp [FPoly.processPending, c]
    have e2 : PPLV.PolyStatus.processPending g s = (true, PPLV.PolyStatus.processPendingGenerators g s) := by
      simp [PPLV.PolyStatus.processPending, h8, c]
    rw [e1, e2]; exact ⟨rfl, processPendingGenerators_sim x s g h (hg.ppg c)⟩
  · have e1 : x.processPending = x.processPendingConstraints := by simp [FPoly.processPending, c]
    have e2 : PPLV.PolyStatus.processPending g s = PPLV.PolyStatus.processPendingConstraints g s := by
      simp [PPLV.PolyStatus.processPending, h8, c]
    rw [e1, e2]; exact processPendingConstraints_sim x s g h (hg.ppc c)

/-! ## `minimize()` -/

/-- ghost condition of `minimize()`: the one of the branch that runs -/
structure MinGhost (x : FPoly) (g : Gh) (s : PState) : Prop where
  pend : x.p.st.empty = false → x.p.dim ≠ 0 → x.p.st.somethingPending = true → PpGhost x g s
  ug : x.p.st.empty = false → x.p.dim ≠ 0 → x.p.st.somethingPending = false →
        (x.p.st.cMin && x.p.st.gMin) = false → x.p.st.cUp = true → UgGhost x g s
  uc : x.p.st.empty = false → x.p.dim ≠ 0 → x.p.st.somethingPending = false →
        (x.p.st.cMin && x.p.st.gMin) = false → x.p.st.cUp = false → UcGhost x g

theorem minimize_sim (x : FPoly) (s : PState) (g : Gh) (h : Sim x s) (hg : MinGhost x g s) :
    (PPLV.PolyStatus.minimize g s).1 = x.minimize.1 ∧ Sim x.minimize.2 (PPLV.PolyStatus.minimize g s).2 := by
  have h' := h
  sim_hyps h'
  rcases minimize_cases x with ⟨a, e⟩ | ⟨a, ⟨b, e⟩ | ⟨b, ⟨c, e⟩ | ⟨c, ⟨c', e⟩ |
    ⟨c', ⟨m1, m2, e⟩ | ⟨d, ⟨u, e⟩ | ⟨u, e⟩⟩⟩⟩⟩⟩ <;> rw [e]
  · have e2 : PPLV.PolyStatus.minimize g s = (false, s) := by simp [PPLV.PolyStatus.minimize, pst, *]
    rw [e2]; exact ⟨rfl, h⟩
  · have e2 : PPLV.PolyStatus.minimize g s = (true, s) := by simp [PPLV.PolyStatus.minimize, pst, *]
    rw [e2]; exact ⟨rfl, h⟩
  · have e2 : PPLV.PolyStatus.minimize g s = PPLV.PolyStatus.processPendingConstraints g s := by
      simp [PPLV.PolyStatus.minimize, PPLV.PolyStatus.processPending, pst, *]
    rw [e2]
    exact processPendingConstraints_sim x s g h
      ((hg.pend a b (by rw [Status.somethingPending, c]; rfl)).ppc c)
  · have e2 : PPLV.PolyStatus.minimize g s = (true, PPLV.PolyStatus.processPendingGenerators g s) := by
      simp [PPLV.PolyStatus.minimize, PPLV.PolyStatus.processPending, pst, *]
    rw [e2]
    exact ⟨rfl, processPendingGenerators_sim x s g h
      ((hg.pend a b (by rw [Status.somethingPending, c, c']; rfl)).ppg c)⟩
  · have e2 : PPLV.PolyStatus.minimize g s = (true, s) := by simp [PPLV.PolyStatus.minimize, pst, *]
    rw [e2]; exact ⟨rfl, h⟩
  all_goals have sp : x.p.st.somethingPending = false := by rw [Status.somethingPending, c, c']; rfl
  · have e2 : PPLV.PolyStatus.minimize g s = PPLV.PolyStatus.updateGenerators g s := by
      rw [Bool.and_eq_false_iff] at d
      rcases d with d | d <;> simp [PPLV.PolyStatus.minimize, pst, *]
    rw [e2]; exact updateGenerators_sim' x s g h (hg.ug a b sp d u)
  · have e2 : PPLV.PolyStatus.minimize g s = (true, PPLV.PolyStatus.updateConstraints g s) := by
      rw [Bool.and_eq_false_iff] at d
      rcases d with d | d <;> simp [PPLV.PolyStatus.minimize, pst, *]
    rw [e2]; exact ⟨rfl, updateConstraints_sim x s g h (hg.uc a b sp d u)⟩

/-! ## `is_empty()` -/

/-- ghost condition of `is_empty()`: the one of `minimize()` when it is called -/
def IsEmptyGhost (x : FPoly) (g : Gh) (s : PState) : Prop :=
  x.p.st.empty = false → (x.p.st.gUp && !x.p.st.cPend) = false → MinGhost x g s

theorem isEmpty_sim (x : FPoly) (s : PState) (g : Gh) (h : Sim x s) (hg : IsEmptyGhost x g s) :
    (PPLV.PolyStatus.isEmpty g s).1 = x.isEmpty.1 ∧ Sim x.isEmpty.2 (PPLV.PolyStatus.isEmpty g s).2 := by
  have h' := h
  sim_hyps h'
  rcases (Bool.eq_false_or_eq_true x.p.st.empty).symm with a | a
  rotate_left
  · simp [FPoly.isEmpty, PPLV.PolyStatus.isEmpty, pst, *]
  rcases (Bool.eq_false_or_eq_true (x.p.st.gUp && !x.p.st.cPend)).symm with b | b
  rotate_left
  · have e1 : x.isEmpty = (false, x) := by simp [FPoly.isEmpty, a, b]
    have e2 : PPLV.PolyStatus.isEmpty g s = (false, s) := by
      simp only [PPLV.PolyStatus.isEmpty, pst, h1, h3, h8, a, b]; simp
    rw [e1, e2]; exact ⟨rfl, h⟩
  · have e1 : x.isEmpty = (!x.minimize.1, x.minimize.2) := by simp [FPoly.isEmpty, a, b]
    have e2 : PPLV.PolyStatus.isEmpty g s
        = (!(PPLV.PolyStatus.minimize g s).1, (PPLV.PolyStatus.minimize g s).2) := by
      simp only [PPLV.PolyStatus.isEmpty, pst, h1, h3, h8, a, b]; simp
    obtain ⟨m1, m2⟩ := minimize_sim x s g h (hg a b)
    rw [e1, e2]; exact ⟨by simp [m1], m2⟩

/-! ## the idioms `needCons` / `needGens` -/

structure NeedConsGhost (x : FPoly) (g : Gh) (s : PState) : Prop where
  ppg : x.p.st.gPend = true → PpgGhost x.ppgPrep g s
  uc : x.p.st.gPend = false → x.p.st.cUp = false → UcGhost x g

theorem needCons_sim (x : FPoly) (s : PState) (g : Gh) (h : Sim x s) (hg : NeedConsGhost x g s) :
    Sim x.needCons (PPLV.PolyStatus.needCons g s) := by
  have h' := h
  sim_hyps h'
  rcases (Bool.eq_false_or_eq_true x.p.st.gPend).symm with a | a
  rotate_left
  · have e1 : x.needCons = x.processPendingGenerators := by simp [FPoly.needCons, a]
    have e2 : PPLV.PolyStatus.needCons g s = PPLV.PolyStatus.processPendingGenerators g s := by
      simp [PPLV.PolyStatus.needCons, pst, *]
    rw [e1, e2]; exact processPendingGenerators_sim x s g h (hg.ppg a)
  rcases (Bool.eq_false_or_eq_true x.p.st.cUp).symm with b | b
  · have e1 : x.needCons = x.updateConstraints := by simp [FPoly.needCons, a, b]
    have e2 : PPLV.PolyStatus.needCons g s = PPLV.PolyStatus.updateConstraints g s := by
      simp [PPLV.PolyStatus.needCons, pst, *]
    rw [e1, e2]; exact updateConstraints_sim x s g h (hg.uc a b)
  · have e1 : x.needCons = x := by simp [FPoly.needCons, a, b]
    have e2 : PPLV.PolyStatus.needCons g s = s := by
      simp [PPLV.PolyStatus.needCons, pst, *]
    rw [e1, e2]; exact h

end PPLV.PolyFull

import PPLV.PolyFull.ProofsOps1

/-!
# `intersection_assign` and `add_constraint` refine `RefPoly.meet` / `RefPoly.addCons`
-/
namespace PPLV.PolyFull
open PPLV.Lin PPLV.PolyOps

/-- the receiver is unchanged by the row-level operator -/
theorem Inv_lift_same (x : FPoly) (S S' : Set Val) (hx : x.Inv S) (hd : x.p.Denotes S') :
    (x.lift x.p).Inv S' ∧ x.SameShape (x.lift x.p) := by
  rw [lift_self]; exact ⟨hx.change hd, rfl, rfl⟩

/-- the row-level operator answered `set_empty()` -/
theorem Inv_lift_setEmpty (x : FPoly) (S' : Set Val) (hwf : x.p.WF) (hS : S' = ∅) :
    (x.lift x.p.setEmpty).Inv S' ∧ x.SameShape (x.lift x.p.setEmpty) := by
  unfold FPoly.lift
  split
  · exact ⟨Inv_of_empty _ _ rfl (wf_setEmpty x.p hwf) (denotes_setEmpty x.p S' hS) (legal_setEmpty _), rfl, rfl⟩
  · exact ⟨Inv_of_empty _ _ rfl (wf_setEmpty x.p hwf) (denotes_setEmpty x.p S' hS) (legal_setEmpty _), rfl, rfl⟩

theorem Inv_liftO_refineC (x : FPoly) (q : Poly) (S' : Set Val) (exact : Sys) (hne : q.st.empty = false)
    (hI : ({ x with p := q } : FPoly).Inv S')
    (hfp : q.st.empty = false → q.st.cUp = true →
      exact.firstPending ≤ exact.rows.length ∧ (q.st.cPend = false → exact.firstPending = exact.rows.length))
    (heng : q.st.empty = false → q.st.canPend = true →
      exact.rows.take exact.firstPending = q.cs.rows.take q.cs.firstPending) :
    ({ x.liftO (some q) with p := { (x.liftO (some q)).p with
        cs := (x.liftO (some q)).p.cs.refineBy exact } } : FPoly).Inv S' := by
  have : x.liftO (some q) = { x with p := q } := lift_of_nonempty x q hne
  rw [this]; exact Inv_refineC _ _ _ hI hfp heng

theorem Inv_liftO_refineG (x : FPoly) (q : Poly) (S' : Set Val) (exact : Sys) (hne : q.st.empty = false)
    (hI : ({ x with p := q } : FPoly).Inv S')
    (hfp : q.st.empty = false → q.st.gUp = true →
      exact.firstPending ≤ exact.rows.length ∧ (q.st.gPend = false → exact.firstPending = exact.rows.length))
    (heng : q.st.empty = false → q.st.canPend = true →
      exact.rows.take exact.firstPending = q.gs.rows.take q.gs.firstPending) :
    ({ x.liftO (some q) with p := { (x.liftO (some q)).p with
        gs := (x.liftO (some q)).p.gs.refineBy exact } } : FPoly).Inv S' := by
  have : x.liftO (some q) = { x with p := q } := lift_of_nonempty x q hne
  rw [this]; exact Inv_refineG _ _ _ hI hfp heng

theorem intersection_assign_trivial (x y : Poly) (h : (x.st.empty || y.st.empty || x.dim == 0) = true) :
    x.intersection_assign y = some x ∨ (x.intersection_assign y = some x.setEmpty) := by
  unfold Poly.intersection_assign
  cases hex : x.st.empty
  · cases hey : y.st.empty
    · rw [hex, hey] at h
      simp only [Bool.false_or] at h
      simp [h]
    · simp
  · simp

theorem intersection_assign_pend (x y : Poly) (hex : x.st.empty = false) (hey : y.st.empty = false)
    (hd : x.dim ≠ 0) (hcx : x.st.cUp = true) (hgx : x.st.gPend = false) (hcy : y.st.cUp = true)
    (hgy : y.st.gPend = false) (hcp : x.st.canPend = true) :
    x.intersection_assign y =
      some { x with cs := x.cs.insertPendingSys y.cs.rows, st := { x.st with cPend := true } } := by
  simp [Poly.intersection_assign, Poly.obtainConstraintsNoConv, hex, hey, hd, hcx, hgx, hcy, hgy, hcp]

theorem intersection_assign_nonpend (x y : Poly) (hex : x.st.empty = false) (hey : y.st.empty = false)
    (hd : x.dim ≠ 0) (hcx : x.st.cUp = true) (hgx : x.st.gPend = false) (hcy : y.st.cUp = true)
    (hgy : y.st.gPend = false) (hcp : x.st.canPend = false) :
    x.intersection_assign y =
      some { x with cs := (if (x.cs.sorted && y.cs.sorted && !y.st.cPend) = true then x.cs.mergeRowsAssign y.cs.rows
                            else x.cs.insertSys y.cs.rows),
                    st := ({ x.st with cMin := false }).clearGUp } := by
  simp [Poly.intersection_assign, Poly.obtainConstraintsNoConv, hex, hey, hd, hcx, hgx, hcy, hgy, hcp]

theorem insertRow_fp (gen nnc : Bool) (s : Sys) (r : Row) :
    (s.insertRow gen nnc r).firstPending = (s.insertRow gen nnc r).rows.length := rfl
theorem foldl_insertRow_fp (gen nnc : Bool) (ls : List Row) (s : Sys)
    (h : s.firstPending = s.rows.length) :
    (ls.foldl (fun s l => s.insertRow gen nnc l) s).firstPending =
      (ls.foldl (fun s l => s.insertRow gen nnc l) s).rows.length := by
  induction ls generalizing s with
  | nil => exact h
  | cons l ls ih => exact ih _ rfl
theorem mergeRowsAssign_fp (s : Sys) (ys : List Row) :
    (s.mergeRowsAssign ys).firstPending = (s.mergeRowsAssign ys).rows.length := rfl
theorem insertSys_fp (s : Sys) (ys : List Row) :
    (s.insertSys ys).firstPending = (s.insertSys ys).rows.length := by
  show s.rows.length + ys.length = (s.rows ++ ys).length
  rw [List.length_append]

/-- the main branch of `intersection_assign` on prepared operands -/
theorem intersection_main (x y : FPoly) (S Sy S' : Set Val) (hx : x.Inv S) (hy : y.Inv Sy)
    (hdim : y.p.dim = x.p.dim)
    (hex : x.p.st.empty = false) (hey : y.p.st.empty = false) (hd : x.p.dim ≠ 0)
    (hcx : x.p.st.cUp = true) (hgx : x.p.st.gPend = false) (hcy : y.p.st.cUp = true)
    (hgy : y.p.st.gPend = false)
    (hden : ∀ q, x.p.intersection_assign y.p = some q → q.Denotes S') :
    ({ x.liftO (x.p.intersection_assign y.p) with
        p := { (x.liftO (x.p.intersection_assign y.p)).p with
          cs := (x.liftO (x.p.intersection_assign y.p)).p.cs.refineBy
            (if x.st.canPend then x.p.cs.insertPendingSys y.p.cs.rows
             else if x.p.cs.sorted && y.p.cs.sorted && !y.st.cPend then x.p.cs.mergeRowsExact false x.nnc y.p.cs.rows
             else x.p.cs.insertSysExact false x.nnc y.p.cs) } } : FPoly).Inv S' ∧
    (x.liftO (x.p.intersection_assign y.p)).p.nnc = x.p.nnc ∧
    (x.liftO (x.p.intersection_assign y.p)).p.dim = x.p.dim := by
  have hwfq : ∀ q, x.p.intersection_assign y.p = some q → q.WF := fun q h =>
    intersection_assign_rows_wf x.p y.p q hdim hx.wf hy.wf
      (fun h => (legal_canPend_up hx.legal h).2) (legal_cPend hx.legal) h
  cases hcp : x.p.st.canPend
  · have hq := intersection_assign_nonpend x.p y.p hex hey hd hcx hgx hcy hgy hcp
    rw [hq]
    have hI := Inv_nonpendC x S S' _ hx hex hcx hcp
      (by split; exact mergeRowsAssign_fp _ _; exact insertSys_fp _ _)
      (by intro r hr; split
          · exact (mem_mergeRows _ _ r).mpr (List.mem_append_left _ hr)
          · exact List.mem_append_left _ hr)
      (hwfq _ hq) (hden _ hq)
    refine ⟨Inv_liftO_refineC x _ S' _ (by simp [Status.clearGUp, hex]) hI ?_ ?_, ?_, ?_⟩
    · intro _ _
      unfold FPoly.st
      rw [hcp]
      simp only [Bool.false_eq_true, if_false]
      split
      · exact ⟨le_of_eq rfl, fun _ => rfl⟩
      · unfold Sys.insertSysExact
        split
        · have := hx.fpC hex hcx
          exact ⟨this.1, fun _ => this.2 (legal_not_canPend hx.legal hcp).1⟩
        · refine ⟨le_of_eq ?_, fun _ => ?_⟩ <;> simp [List.length_append]
    · intro _ h
      simp [Status.canPend, Status.clearGUp] at h
    · show (x.lift _).p.nnc = _
      rw [lift_p]
    · show (x.lift _).p.dim = _
      rw [lift_p]
  · have hq := intersection_assign_pend x.p y.p hex hey hd hcx hgx hcy hgy hcp
    rw [hq]
    have hI := Inv_pendC x S S' y.p.cs.rows hx hex hcx hgx hcp (hwfq _ hq) (hden _ hq)
    refine ⟨Inv_liftO_refineC x _ S' _ hex hI ?_ ?_, ?_, ?_⟩
    · intro h1 h2
      unfold FPoly.st
      rw [hcp]
      simp only [if_true]
      exact hI.fpC h1 h2
    · intro _ _
      unfold FPoly.st
      rw [hcp]
      simp only [if_true]
    · show (x.lift _).p.nnc = _
      rw [lift_p]
    · show (x.lift _).p.dim = _
      rw [lift_p]

/-- **`Polyhedron::intersection_assign(y)`, the whole object** (preparation by `needCons` on both
    operands, the row-level operator, the exact row order): the receiver denotes `RefPoly.meet`, the
    argument (lazily updated) still denotes its set, both keep the invariant and their shape. -/
theorem intersectionAssign_refines (G : GlueFacts) (x y : FPoly) (refx refy : RefPoly)
    (hdim : y.p.dim = x.p.dim) (hnnc : y.p.nnc = x.p.nnc)
    (hx : x.Inv (sem refx.cs)) (hy : y.Inv (sem refy.cs)) :
    (x.intersectionAssign y).1.Inv (sem (refx.meet refy).cs) ∧ (x.intersectionAssign y).2.Inv (sem refy.cs) ∧
    x.SameShape (x.intersectionAssign y).1 ∧ y.SameShape (x.intersectionAssign y).2 := by
  unfold FPoly.intersectionAssign
  by_cases hc : (x.st.empty || y.st.empty || x.dim == 0) = true
  · rw [if_pos hc]
    refine ⟨?_, hy, ?_, rfl, rfl⟩
    all_goals
      rcases intersection_assign_trivial x.p y.p hc with h | h
      · have hd := intersection_assign_rows_correct x.p y.p _ refx refy hdim hnnc hx.wf hy.wf hx.den hy.den h
        rw [h]
        first
          | exact (Inv_lift_same x _ _ hx hd).1
          | exact (Inv_lift_same x _ _ hx hd).2
      · have hd := intersection_assign_rows_correct x.p y.p _ refx refy hdim hnnc hx.wf hy.wf hx.den hy.den h
        rw [h]
        first
          | exact (Inv_lift_setEmpty x _ hx.wf (hd.1 rfl)).1
          | exact (Inv_lift_setEmpty x _ hx.wf (hd.1 rfl)).2
  · rw [if_neg hc]
    simp only [Bool.or_eq_true, not_or, Bool.not_eq_true] at hc
    obtain ⟨⟨hex, hey⟩, hd0⟩ := hc
    have hd : x.p.dim ≠ 0 := by simpa [FPoly.dim] using hd0
    obtain ⟨hsx, hix, hex1, hcx1, hgx1⟩ := G.needCons x _ hx hex (Nat.pos_of_ne_zero hd)
    obtain ⟨hsy, hiy, hey1, hcy1, hgy1⟩ := G.needCons y _ hy hey (by rw [hdim]; exact Nat.pos_of_ne_zero hd)
    have hdim1 : y.needCons.p.dim = x.needCons.p.dim := by rw [hsx.2, hsy.2, hdim]
    have hnnc1 : y.needCons.p.nnc = x.needCons.p.nnc := by rw [hsx.1, hsy.1, hnnc]
    have hd1 : x.needCons.p.dim ≠ 0 := by rw [hsx.2]; exact hd
    obtain ⟨h1, h2, h3⟩ := intersection_main x.needCons y.needCons _ _ (sem (refx.meet refy).cs) hix hiy hdim1
      hex1 hey1 hd1 hcx1 hgx1 hcy1 hgy1
      (fun q h => intersection_assign_rows_correct _ _ q refx refy hdim1 hnnc1 hix.wf hiy.wf hix.den hiy.den h)
    exact ⟨h1, hiy, ⟨h2.trans hsx.1, h3.trans hsx.2⟩, hsy⟩

end PPLV.PolyFull

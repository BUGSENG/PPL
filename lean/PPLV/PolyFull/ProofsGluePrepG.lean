import PPLV.PolyFull.ProofsGluePrepC
import PPLV.PolyFull.ProofsGlueGenPerm

/-!
# the preparation of `process_pending_generators` keeps the double description pair

The dual of ProofsGluePrepC: `sortKeepsPairG`.
-/
namespace PPLV.PolyFull
open PPLV.Lin PPLV.PolyOps
open PPLV.Conv (LRow BRow Vec Sound SatCorrect holds holdsAll Generated scalarProduct)

/-- `obtain_sorted_generators_with_sat_g()` on an unsorted system of a minimal pair -/
theorem osg_keeps (nnc : Bool) (n : Nat) (cs : List Row) (y : FPoly) (hn : y.p.nnc = nnc)
    (hs : y.p.gs.sorted = false) (hf : y.p.st.satC = true ∨ y.p.st.satG = true)
    (hfp : y.p.gs.firstPending ≤ y.p.gs.rows.length)
    (hcore : EnginePair nnc n cs y.npG false false BitMat.clear BitMat.clear)
    (hVG : VCl nnc cs y.npG y.satG) (hVC : y.p.st.satC = true → VGl nnc cs y.npG y.satC) :
    y.obtainSortedGeneratorsWithSatG.p.gs.firstPending ≤ y.obtainSortedGeneratorsWithSatG.p.gs.rows.length ∧
    (∀ r, r ∈ y.obtainSortedGeneratorsWithSatG.p.gs.rows ↔ r ∈ y.p.gs.rows) ∧
    (∀ r, r ∈ y.obtainSortedGeneratorsWithSatG.npG ↔ r ∈ y.npG) ∧
    EnginePair nnc n cs y.obtainSortedGeneratorsWithSatG.npG true true
      y.obtainSortedGeneratorsWithSatG.satC y.obtainSortedGeneratorsWithSatG.satG ∧
    y.obtainSortedGeneratorsWithSatG.p.st.satC = true := by
  have e1 : osgStep1 y = y := by
    unfold osgStep1
    rcases hf with h | h <;> simp [FPoly.st, h]
  have e : y.obtainSortedGeneratorsWithSatG = osgStep3 (osgSort (osgTransC y)) := by
    rw [osg_eq, e1]
    simp [hs, osgStep2]
  have hgs1 : (osgTransC y).p.gs = y.p.gs := by unfold osgTransC; split <;> rfl
  have hn1 : (osgTransC y).nnc = nnc := by unfold osgTransC; split <;> exact hn
  have hc1 : (osgTransC y).p.st.satC = true := by
    unfold osgTransC
    split
    · rfl
    · rename_i h; simpa [FPoly.st] using h
  have hVC1 : VGl nnc cs y.npG (osgTransC y).satC := by
    unfold osgTransC
    split
    · exact hVG.transpose
    · rename_i h; exact hVC (by simpa [FPoly.st] using h)
  obtain ⟨k1, k2, kp, kVC⟩ := sortWithSat_keeps true nnc cs y.p.gs (osgTransC y).satC hfp hcore.nodupG hVC1
  have := hcore.permG kp (y.p.gs.sortAndRemoveWithSat true nnc (osgTransC y).satC).2
    (((y.p.gs.sortAndRemoveWithSat true nnc (osgTransC y).satC).2).transposeOf) (fun h' => (by cases h'))
  rw [e]
  simp only [osgStep3, osgSort, FPoly.npG]
  rw [hgs1, hn1]
  exact ⟨k1, k2, fun r => kp.mem_iff,
    ⟨this.sound, this.complete, this.minC, this.minG, this.minL, fun _ => kVC, fun _ => kVC.transpose⟩, hc1⟩

/-- **the preparation of `process_pending_generators` keeps the pair** -/
theorem sortKeepsPairG : SortKeepsPairG := by
  intro x S hx he hgp
  have hcan := legal_gPend hx.legal hgp
  have hsat := ((canPend_iff _).mp hcan).2.2
  obtain ⟨hcu, hgu, -, -⟩ := ((legal_iff _ _).1 hx.legal).of_canPend hcan
  have hcp : x.p.st.cPend = false := by
    cases h : x.p.st.cPend
    · rfl
    · exact absurd ⟨h, hgp⟩ (legal_not_both hx.legal)
  have hfpC := (hx.fpC he hcu).2 hcp
  have hfpG := (hx.fpG he hgu).1
  have hnpC : x.npC = x.p.cs.rows := by unfold FPoly.npC; rw [hfpC, List.take_length]
  have E := hx.eng he hcan
  rw [hnpC] at E
  have hVC : x.p.st.satC = true → VGl x.p.nnc x.p.cs.rows x.npG x.satC := fun h => E.satC h
  obtain ⟨m, hy, hVG⟩ : ∃ m, ppgStep0 x = { x with satG := m } ∧ VCl x.p.nnc x.p.cs.rows x.npG m := by
    unfold ppgStep0
    split
    · rename_i h
      have hG : x.p.st.satG = false := by simpa [FPoly.st] using h
      exact ⟨_, rfl, (hVC (hsat.resolve_right (by rw [hG]; exact Bool.false_ne_true))).transpose⟩
    · rename_i h
      exact ⟨_, rfl, E.satG (by simpa [FPoly.st] using h)⟩
  rw [ppgPrepared_eq, hy]
  cases hs : x.p.gs.sorted
  · rw [if_pos (show (!false) = true from rfl)]
    obtain ⟨k1, k2, k3, k4, k5⟩ := osg_keeps x.p.nnc x.p.dim x.p.cs.rows { x with satG := m } rfl hs hsat hfpG
      ((E.dropC _).dropG _) hVG hVC
    rw [k5]
    exact ⟨k1, k2, k3, k4⟩
  · rw [if_neg (show ¬(!true) = true from Bool.false_ne_true)]
    exact ⟨hfpG, fun r => Iff.rfl, fun r => Iff.rfl, E.sound, E.complete, E.minC, E.minG, E.minL,
      E.satC, fun _ => hVG⟩

end PPLV.PolyFull

import PPLV.PolyFull.ProofsGlue

/-!
# Integration stage — the hypotheses of the glue facts are satisfiable

`FPoly.Inv` holds of the two states every constructor of `Polyhedron` starts from (the empty polyhedron
of any dimension, the zero-dimensional universe); the list-level hypotheses of ProofsGlueSortSat on a concrete pair
of rows.  (`ConvContract` itself is the statement about the engine proved / tied elsewhere.)
-/
namespace PPLV.PolyFull
open PPLV.Lin PPLV.PolyOps

/-- the zero-dimensional universe -/
def exZeroDimUniv : FPoly := ⟨⟨false, 0, Status.zeroDimUniv, Sys.clear, Sys.clear⟩, BitMat.clear, BitMat.clear⟩

example : exZeroDimUniv.Inv Set.univ where
  wf := {
    cs_len := fun _ h => (by cases h)
    gs_wf := fun _ h => (by cases h)
    gs_pt := fun _ h => (by cases h)
    pend_c := fun h => (by cases h)
    pend_g := fun h => (by cases h)
    pend_one := fun h => (by cases h.1)
    some_up := fun _ h => (by cases h)
    zero_dim := fun _ => ⟨rfl, rfl⟩ }
  den := ⟨fun h => (by cases h), fun _ => ⟨fun h => (by cases h), fun h => (by cases h), fun _ _ => rfl⟩⟩
  legal := by decide
  fpC := fun _ h => (by cases h)
  fpG := fun _ h => (by cases h)
  low := fun _ h => (by cases h)
  denNPc := fun _ h => (by cases h)
  denNPg := fun _ h => (by cases h)
  eng := fun _ h => (by cases h)

/-- the empty polyhedron of dimension 3 (NNC) -/
example : (FPoly.setEmpty ⟨⟨true, 3, Status.zeroDimUniv, Sys.clear, Sys.clear⟩, BitMat.clear, BitMat.clear⟩).Inv ∅ :=
  inv_setEmpty _

/-- `compare` is exact: an instance of `cmpExactC` with a non-trivial premise -/
example : toL false ⟨false, 1, [2, 3], 0⟩ = toL false ⟨false, 1, [2, 3], 7⟩ :=
  cmpExactC false _ _ rfl (by decide)

/-- `sort_rows` on two rows out of order: the rows are kept (`mem_sortRowList`) -/
example : (⟨false, 0, [1, 0], 0⟩ : Row) ∈ sortRowList false false [⟨false, 0, [1, 0], 0⟩, ⟨true, 0, [0, 1], 0⟩] :=
  (mem_sortRowList _ _ _ _).mpr (by simp)

end PPLV.PolyFull

import PPLV.PolyFull.ProofsOps8
import PPLV.PolyFull.ProofsOpsAffineNPc

/-!
# `generalized_affine_image` (`≤ = ≥`) without the hypothesis `hNPc`
-/
namespace PPLV.PolyFull
open PPLV.Lin PPLV.PolyOps

/-- **`generalized_affine_image`, `relsym ∈ {≤, =, ≥}`, the whole object.**  PARTIAL exactly as
    `affineImage_refines_partial'`: `hLow`, `hNPg`, `hEng` are the fields `low`, `denNPg`, `eng` of the
    intermediate `x.affineImage v e den` in the invertible case on a receiver not marked empty. -/
theorem generalizedAffineImage_refines_partial' (G : GlueFacts) (x : FPoly) (ref : RefPoly) (v : Nat) (r : Rel)
    (e : LinExpr) (den : Int) (hn : ref.n = x.p.dim) (hnnc : ref.nnc = x.p.nnc) (hwf : WF ref.n ref.cs)
    (hv : v < x.p.dim) (he : e.coeffs.length = x.p.dim) (hden : den ≠ 0) (hx : x.Inv (sem ref.cs))
    (hr : r = .le ∨ r = .eq ∨ r = .ge)
    (hLow : e.coeffs.getD v 0 ≠ 0 → x.p.st.empty = false → (x.affineImage v e den).p.st.cUp = true →
      LowLevel (x.affineImage v e den).p.nnc (x.affineImage v e den).p.dim (x.affineImage v e den).p.cs.rows)
    (hNPg : e.coeffs.getD v 0 ≠ 0 → x.p.st.empty = false → (x.affineImage v e den).p.st.gPend = true →
      conSem (x.affineImage v e den).p.nnc (x.affineImage v e den).p.cs.rows =
        genSem (x.affineImage v e den).p.nnc (x.affineImage v e den).p.dim (x.affineImage v e den).npG)
    (hEng : e.coeffs.getD v 0 ≠ 0 → x.p.st.empty = false → (x.affineImage v e den).p.st.canPend = true →
      EnginePair (x.affineImage v e den).p.nnc (x.affineImage v e den).p.dim (x.affineImage v e den).npC
        (x.affineImage v e den).npG (x.affineImage v e den).p.st.satC (x.affineImage v e den).p.st.satG
        (x.affineImage v e den).satC (x.affineImage v e den).satG) :
    (x.generalizedAffineImage v r e den).Inv (sem (ref.genAffineImage v r e den).cs) ∧
      x.SameShape (x.generalizedAffineImage v r e den) :=
  generalizedAffineImage_of_affineImage G x ref v r e den hn hwf hv he hden hr
    (affineImage_refines_partial' G x ref v e den hn hnnc hwf hv he hden hx hLow hNPg hEng)

end PPLV.PolyFull

import PPLV.PolyFull.ProofsStatusPending
import PPLV.PolyStatus.MinimizeSpecs

/-!
# The status protocol on the full model: what the helpers leave, `needGens`

* accessors of `Sim`; the ghost conditions are satisfiable by a change of ghost Booleans only (`…Ghost_ex`);
* what each helper leaves, from one unfolding: the status word afterwards as a record update of the one before
  (`…_post`, `processPendingConstraints_true`), so that every "this flag is kept" is a `rw`;
* `needGens`: the full `process_pending_constraints()` keeps `G_UP_TO_DATE` when it answers "not empty";
  the abstract idiom uses ONE ghost input for its (at most) two engine calls, so the simulation is stated
  for status words with `CS_PENDING → G_UP_TO_DATE` (a clause of `Status::OK()`), where only one runs.
-/
namespace PPLV.PolyFull
open PPLV.PolyOps
open PPLV.PolyStatus (PState Gh)

attribute [local simp] FPoly.st FPoly.nnc FPoly.dim FPoly.withSt FPoly.withCs FPoly.withGs

/-! ## accessors -/
theorem Sim.em {x : FPoly} {s : PState} (h : Sim x s) : s.b .em = x.p.st.empty := h.1
theorem Sim.cup {x : FPoly} {s : PState} (h : Sim x s) : s.b .cup = x.p.st.cUp := h.2.1
theorem Sim.gup {x : FPoly} {s : PState} (h : Sim x s) : s.b .gup = x.p.st.gUp := h.2.2.1
theorem Sim.cmin {x : FPoly} {s : PState} (h : Sim x s) : s.b .cmin = x.p.st.cMin := h.2.2.2.1
theorem Sim.gmin {x : FPoly} {s : PState} (h : Sim x s) : s.b .gmin = x.p.st.gMin := h.2.2.2.2.1
theorem Sim.satc {x : FPoly} {s : PState} (h : Sim x s) : s.b .satc = x.p.st.satC := h.2.2.2.2.2.1
theorem Sim.satg {x : FPoly} {s : PState} (h : Sim x s) : s.b .satg = x.p.st.satG := h.2.2.2.2.2.2.1
theorem Sim.cpend {x : FPoly} {s : PState} (h : Sim x s) : s.b .cpend = x.p.st.cPend := h.2.2.2.2.2.2.2.1
theorem Sim.gpend {x : FPoly} {s : PState} (h : Sim x s) : s.b .gpend = x.p.st.gPend := h.2.2.2.2.2.2.2.2.1
theorem Sim.dim {x : FPoly} {s : PState} (h : Sim x s) : s.dim = x.p.dim := h.2.2.2.2.2.2.2.2.2.1
theorem Sim.nnc {x : FPoly} {s : PState} (h : Sim x s) : s.nnc = x.p.nnc := h.2.2.2.2.2.2.2.2.2.2.1
theorem Sim.csS {x : FPoly} {s : PState} (h : Sim x s) : s.b .csS = x.p.cs.sorted := h.2.2.2.2.2.2.2.2.2.2.2.1
theorem Sim.gsS {x : FPoly} {s : PState} (h : Sim x s) : s.b .gsS = x.p.gs.sorted := h.2.2.2.2.2.2.2.2.2.2.2.2

/-! ## the ghost conditions are satisfiable by a change of ghost Booleans only -/

theorem ugGhost_ex (x : FPoly) (s : PState) : ∃ (g : Gh) (s' : PState), SameStored s s' ∧ UgGhost x g s' :=
  ⟨{ srcS := x.ugOut.source.sorted }, s.set .emp x.ugOut.empty, SameStored.set_ghost s .emp _ rfl,
    ⟨by simp, fun _ => rfl⟩⟩

theorem ppcGhost_ex (x : FPoly) (s : PState) : ∃ (g : Gh) (s' : PState), SameStored s s' ∧ PpcGhost x.ppcPrep g s' :=
  ⟨x.ppcGh, x.ppcSt s, ppcSt_sameStored x s, ppcGhost_canon x s⟩

theorem ppgGhost_ex (x : FPoly) (s : PState) : ∃ (g : Gh) (s' : PState), SameStored s s' ∧ PpgGhost x.ppgPrep g s' :=
  ⟨x.ppgGh, x.ppgSt s, ppgSt_sameStored x s, ppgGhost_canon x s⟩

theorem ppGhost_ex (x : FPoly) (s : PState) : ∃ (g : Gh) (s' : PState), SameStored s s' ∧ PpGhost x g s' := by
  rcases (Bool.eq_false_or_eq_true x.p.st.cPend).symm with c | c
  · obtain ⟨g, s', h1, h2⟩ := ppgGhost_ex x s
    exact ⟨g, s', h1, ⟨fun hc => (by rw [c] at hc; cases hc), fun _ => h2⟩⟩
  · obtain ⟨g, s', h1, h2⟩ := ppcGhost_ex x s
    exact ⟨g, s', h1, ⟨fun _ => h2, fun hc => (by rw [c] at hc; cases hc)⟩⟩

theorem minGhost_ex (x : FPoly) (s : PState) : ∃ (g : Gh) (s' : PState), SameStored s s' ∧ MinGhost x g s' := by
  rcases (Bool.eq_false_or_eq_true x.p.st.somethingPending).symm with c | c
  · rcases (Bool.eq_false_or_eq_true x.p.st.cUp).symm with e | e
    · exact ⟨{ srcS := x.ucOut.source.sorted }, s, SameStored.refl s,
        ⟨fun _ _ hc => (by rw [c] at hc; cases hc), fun _ _ _ _ he => (by rw [e] at he; cases he), fun _ _ _ _ _ => rfl⟩⟩
    · obtain ⟨g, s', h1, h2⟩ := ugGhost_ex x s
      exact ⟨g, s', h1,
        ⟨fun _ _ hc => (by rw [c] at hc; cases hc), fun _ _ _ _ _ => h2, fun _ _ _ _ he => (by rw [e] at he; cases he)⟩⟩
  · obtain ⟨g, s', h1, h2⟩ := ppGhost_ex x s
    exact ⟨g, s', h1,
      ⟨fun _ _ _ => h2, fun _ _ hc => (by rw [c] at hc; cases hc), fun _ _ hc => (by rw [c] at hc; cases hc)⟩⟩

theorem needConsGhost_ex (x : FPoly) (s : PState) :
    ∃ (g : Gh) (s' : PState), SameStored s s' ∧ NeedConsGhost x g s' := by
  rcases (Bool.eq_false_or_eq_true x.p.st.gPend).symm with c | c
  · exact ⟨{ srcS := x.ucOut.source.sorted }, s, SameStored.refl s,
      ⟨fun hc => (by rw [c] at hc; cases hc), fun _ _ => rfl⟩⟩
  · obtain ⟨g, s', h1, h2⟩ := ppgGhost_ex x s
    exact ⟨g, s', h1, ⟨fun _ => h2, fun hc => (by rw [c] at hc; cases hc)⟩⟩

/-! ## what the helpers leave: one unfolding each -/

/-- `update_generators()` either goes through `set_empty()` or installs a minimized pair; dimension and
    topology stay -/
theorem updateGenerators_post (x : FPoly) :
    x.updateGenerators.2.p.dim = x.p.dim ∧ x.updateGenerators.2.p.nnc = x.p.nnc ∧
    (x.updateGenerators.1 = false → x.updateGenerators.2.p.gs = Sys.clear ∧ x.updateGenerators.2.p.cs = Sys.clear
      ∧ x.updateGenerators.2.p.st = Status.setEmpty) ∧
    (x.updateGenerators.1 = true → x.updateGenerators.2.p.st =
      { x.p.st with satG := true, satC := false, cUp := true, cMin := true, gUp := true, gMin := true }) := by
  unfold FPoly.updateGenerators
  generalize FPoly.engineMinimize true x.nnc x.dim x.p.cs x.satG = o
  obtain ⟨e, src, dst, sat⟩ := o
  cases e
  · exact ⟨rfl, rfl, nofun, fun _ => rfl⟩
  · exact ⟨rfl, rfl, fun _ => ⟨rfl, rfl, rfl⟩, nofun⟩

/-- the first half of `process_pending_constraints()` touches the two `sat` bits only -/
theorem ppcPrep_post (x : FPoly) :
    x.ppcPrep.p.dim = x.p.dim ∧ x.ppcPrep.p.nnc = x.p.nnc ∧
    ∃ sc sg, x.ppcPrep.p.st = { x.p.st with satC := sc, satG := sg } := by
  obtain ⟨⟨nnc, dim, ⟨e, cu, gu, cm, gm, sc, sg, cp, gp⟩, ⟨cr, cf, csrt⟩, ⟨gr, gf, gsrt⟩⟩, mC, mG⟩ := x
  cases csrt <;> cases sc <;> cases sg <;> exact ⟨rfl, rfl, _, _, rfl⟩

theorem ppcFin_post (x : FPoly) :
    x.ppcFin.2.p.dim = x.p.dim ∧ x.ppcFin.2.p.nnc = x.p.nnc ∧
    (x.ppcFin.1 = false → x.ppcFin.2.p.gs = Sys.clear ∧ x.ppcFin.2.p.cs = Sys.clear
      ∧ x.ppcFin.2.p.st = Status.setEmpty) ∧
    (x.ppcFin.1 = true → ∃ sc sg, x.ppcFin.2.p.st = { x.p.st with cPend := false, satC := sc, satG := sg }) := by
  unfold FPoly.ppcFin
  generalize x.ppcNoPend = np
  generalize x.ppcOut = o
  obtain ⟨e, src, dst, sat⟩ := o
  cases np
  · cases e
    · exact ⟨rfl, rfl, nofun, fun _ => ⟨_, _, rfl⟩⟩
    · exact ⟨rfl, rfl, fun _ => ⟨rfl, rfl, rfl⟩, nofun⟩
  · exact ⟨rfl, rfl, nofun, fun _ => ⟨_, _, rfl⟩⟩

theorem processPendingConstraints_shape (x : FPoly) :
    x.processPendingConstraints.2.p.dim = x.p.dim ∧ x.processPendingConstraints.2.p.nnc = x.p.nnc := by
  rw [FPoly.processPendingConstraints_eq]
  obtain ⟨a1, a2, _⟩ := ppcPrep_post x
  obtain ⟨b1, b2, _⟩ := ppcFin_post x.ppcPrep
  exact ⟨b1.trans a1, b2.trans a2⟩

/-- `process_pending_constraints()` answered "empty": it went through `set_empty()` -/
theorem processPendingConstraints_false (x : FPoly) (h : x.processPendingConstraints.1 = false) :
    x.processPendingConstraints.2.p.gs = Sys.clear ∧ x.processPendingConstraints.2.p.cs = Sys.clear
    ∧ x.processPendingConstraints.2.p.st = Status.setEmpty := by
  rw [FPoly.processPendingConstraints_eq] at h ⊢
  exact (ppcFin_post x.ppcPrep).2.2.1 h

/-- `process_pending_constraints()` answered "not empty": it cleared `CS_PENDING` and touched the `sat` bits -/
theorem processPendingConstraints_true (x : FPoly) (h : x.processPendingConstraints.1 = true) :
    ∃ sc sg, x.processPendingConstraints.2.p.st = { x.p.st with cPend := false, satC := sc, satG := sg } := by
  rw [FPoly.processPendingConstraints_eq] at h ⊢
  obtain ⟨_, _, sc, sg, e⟩ := ppcPrep_post x
  obtain ⟨sc', sg', e'⟩ := (ppcFin_post x.ppcPrep).2.2.2 h
  exact ⟨sc', sg', by rw [e', e]⟩

theorem ppgPrep_post (x : FPoly) :
    x.ppgPrep.p.dim = x.p.dim ∧ x.ppgPrep.p.nnc = x.p.nnc ∧
    ∃ sc sg, x.ppgPrep.p.st = { x.p.st with satC := sc, satG := sg } := by
  obtain ⟨⟨nnc, dim, ⟨e, cu, gu, cm, gm, sc, sg, cp, gp⟩, ⟨cr, cf, csrt⟩, ⟨gr, gf, gsrt⟩⟩, mC, mG⟩ := x
  cases gsrt <;> cases sc <;> cases sg <;> exact ⟨rfl, rfl, _, _, rfl⟩

theorem ppgFin_post (x : FPoly) :
    x.ppgFin.p.dim = x.p.dim ∧ x.ppgFin.p.nnc = x.p.nnc ∧
    ∃ sc sg, x.ppgFin.p.st = { x.p.st with gPend := false, satC := sc, satG := sg } := by
  unfold FPoly.ppgFin
  generalize x.ppgNoPend = np
  cases np <;> exact ⟨rfl, rfl, _, _, rfl⟩

/-- `process_pending_generators()` clears `GS_PENDING` and touches the `sat` bits -/
theorem processPendingGenerators_post (x : FPoly) :
    x.processPendingGenerators.p.dim = x.p.dim ∧ x.processPendingGenerators.p.nnc = x.p.nnc ∧
    ∃ sc sg, x.processPendingGenerators.p.st = { x.p.st with gPend := false, satC := sc, satG := sg } := by
  rw [FPoly.processPendingGenerators_eq]
  obtain ⟨a1, a2, _, _, e⟩ := ppgPrep_post x
  obtain ⟨b1, b2, sc, sg, e'⟩ := ppgFin_post x.ppgPrep
  exact ⟨b1.trans a1, b2.trans a2, sc, sg, by rw [e', e]⟩

/-! ## `needGens` -/

structure NeedGensGhost (x : FPoly) (g : Gh) (s : PState) : Prop where
  ppc : x.p.st.cPend = true → PpcGhost x.ppcPrep g s
  ug : x.p.st.cPend = false → x.p.st.gUp = false → UgGhost x g s

/-- the idiom "the generators are required" on a status word with `CS_PENDING → G_UP_TO_DATE` -/
theorem needGens_sim (x : FPoly) (s : PState) (g : Gh) (h : Sim x s)
    (hl : x.p.st.cPend = true → x.p.st.gUp = true) (hg : NeedGensGhost x g s) :
    (PPLV.PolyStatus.needGens g s).1 = x.needGens.1 ∧ Sim x.needGens.2 (PPLV.PolyStatus.needGens g s).2 := by
  have h8 := h.cpend
  have h3 := h.gup
  rcases needGens_cases x with ⟨c, d, e⟩ | ⟨c, d, e⟩ | ⟨c, r, e⟩ | ⟨c, r, d, e⟩ | ⟨c, r, d, e⟩ <;> rw [e]
  · have e2 : PPLV.PolyStatus.needGens g s = (false, s) := by simp [PPLV.PolyStatus.needGens, pst, *]
    rw [e2]; exact ⟨rfl, h⟩
  · have e2 : PPLV.PolyStatus.needGens g s
        = (!(PPLV.PolyStatus.updateGenerators g s).1, (PPLV.PolyStatus.updateGenerators g s).2) := by
      simp [PPLV.PolyStatus.needGens, pst, *]
    obtain ⟨m1, m2⟩ := updateGenerators_sim' x s g h (hg.ug c d)
    rw [e2]; exact ⟨congrArg (!·) m1, m2⟩
  all_goals obtain ⟨m1, m2⟩ := processPendingConstraints_sim x s g h (hg.ppc c)
  · have e2 : PPLV.PolyStatus.needGens g s = (true, (PPLV.PolyStatus.processPendingConstraints g s).2) := by
      simp [PPLV.PolyStatus.needGens, pst, h8, c, m1, r]
    rw [e2]; exact ⟨rfl, m2⟩
  · have e2 : PPLV.PolyStatus.needGens g s = (false, (PPLV.PolyStatus.processPendingConstraints g s).2) := by
      simp [PPLV.PolyStatus.needGens, pst, h8, c, m1, r, m2.gup, d]
    rw [e2]; exact ⟨rfl, m2⟩
  · obtain ⟨sc, sg, k⟩ := processPendingConstraints_true x r
    rw [k] at d
    exact absurd (hl c) (by rw [d]; exact Bool.false_ne_true)

/-- `needGens` found the polyhedron empty: it went through `set_empty()` -/
theorem needGens_found (x : FPoly) (h : x.needGens.1 = true) :
    x.needGens.2.p.gs = Sys.clear ∧ x.needGens.2.p.cs = Sys.clear ∧ x.needGens.2.p.st = Status.setEmpty := by
  rcases needGens_cases x with ⟨_, _, e⟩ | ⟨_, _, e⟩ | ⟨_, r, e⟩ | ⟨_, _, _, e⟩ | ⟨_, _, _, e⟩ <;>
    rw [e] at h ⊢ <;> dsimp only at h ⊢
  · cases h
  · exact (updateGenerators_post x).2.2.1 (Bool.not_eq_true' _ |>.mp h)
  · exact processPendingConstraints_false x r
  · cases h
  · exact (updateGenerators_post _).2.2.1 (Bool.not_eq_true' _ |>.mp h)

/-- what `needGens` leaves when it answers "not empty" -/
theorem needGens_ready (x : FPoly) (h : x.needGens.1 = false) :
    x.needGens.2.p.st.gUp = true ∧ x.needGens.2.p.st.cPend = false
    ∧ x.needGens.2.p.st.empty = x.p.st.empty ∧ x.needGens.2.p.dim = x.p.dim ∧ x.needGens.2.p.nnc = x.p.nnc := by
  rcases needGens_cases x with ⟨c, d, e⟩ | ⟨c, _, e⟩ | ⟨_, _, e⟩ | ⟨_, r, d, e⟩ | ⟨_, r, _, e⟩ <;>
    rw [e] at h ⊢ <;> dsimp only at h ⊢
  · exact ⟨d, c, rfl, rfl, rfl⟩
  · obtain ⟨k1, k2, _, k⟩ := updateGenerators_post x
    rw [k (Bool.not_eq_false' _ |>.mp h)]
    exact ⟨rfl, c, rfl, k1, k2⟩
  · cases h
  · obtain ⟨sc, sg, k⟩ := processPendingConstraints_true x r
    obtain ⟨j1, j2⟩ := processPendingConstraints_shape x
    refine ⟨d, ?_, ?_, j1, j2⟩ <;> rw [k]
  · obtain ⟨sc, sg, j⟩ := processPendingConstraints_true x r
    obtain ⟨j1, j2⟩ := processPendingConstraints_shape x
    obtain ⟨k1, k2, _, k⟩ := updateGenerators_post x.processPendingConstraints.2
    rw [k (Bool.not_eq_false' _ |>.mp h), j]
    exact ⟨rfl, rfl, rfl, k1.trans j1, k2.trans j2⟩

/-- dimension and topology are never touched by the preparation -/
theorem needGens_shape (x : FPoly) : x.needGens.2.p.dim = x.p.dim ∧ x.needGens.2.p.nnc = x.p.nnc := by
  obtain ⟨j1, j2⟩ := processPendingConstraints_shape x
  rcases needGens_cases x with ⟨_, _, e⟩ | ⟨_, _, e⟩ | ⟨_, _, e⟩ | ⟨_, _, _, e⟩ | ⟨_, _, _, e⟩ <;>
    rw [e] <;> dsimp only
  · exact ⟨rfl, rfl⟩
  · exact ⟨(updateGenerators_post x).1, (updateGenerators_post x).2.1⟩
  · exact ⟨j1, j2⟩
  · exact ⟨j1, j2⟩
  · obtain ⟨k1, k2, _⟩ := updateGenerators_post x.processPendingConstraints.2
    exact ⟨k1.trans j1, k2.trans j2⟩

theorem needGensGhost_ex (x : FPoly) (s : PState) :
    ∃ (g : Gh) (s' : PState), SameStored s s' ∧ NeedGensGhost x g s' := by
  rcases (Bool.eq_false_or_eq_true x.p.st.cPend).symm with c | c
  · obtain ⟨g, s', h1, h2⟩ := ugGhost_ex x s
    exact ⟨g, s', h1, ⟨fun hc => (by rw [c] at hc; cases hc), fun _ _ => h2⟩⟩
  · obtain ⟨g, s', h1, h2⟩ := ppcGhost_ex x s
    exact ⟨g, s', h1, ⟨fun _ => h2, fun hc => (by rw [c] at hc; cases hc)⟩⟩

theorem needGens_matches (x : FPoly) (s : PState) (h : Sim x s) (hl : x.p.st.cPend = true → x.p.st.gUp = true) :
    ∃ (g : Gh) (s' : PState), SameStored s s' ∧ Sim x s' ∧
      (PPLV.PolyStatus.needGens g s').1 = x.needGens.1 ∧ Sim x.needGens.2 (PPLV.PolyStatus.needGens g s').2 := by
  obtain ⟨g, s', k1, k2⟩ := needGensGhost_ex x s
  exact ⟨g, s', k1, h.of_sameStored k1, needGens_sim x s' g (h.of_sameStored k1) hl k2⟩

end PPLV.PolyFull

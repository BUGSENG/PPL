import PPLV.PolyFull.ProofsStatusInsert

/-!
# The status protocol on the full model: `affine_image`, `affine_preimage`

Invertible case (`f.inv`): both systems rewritten in place, the status word untouched; `g.keep` / `g.aux` :=
the `sorted` flags `strong_normalize` leaves.  Non-invertible case: the preparation
(`remove_pending_to_obtain_*` / `minimize`), then one system rewritten and every flag of the other side dropped;
on a legal status word.
-/
namespace PPLV.PolyFull
open PPLV.PolyOps PPLV.Lin
open PPLV.PolyStatus (PState Gh Two)

attribute [local simp] FPoly.st FPoly.nnc FPoly.dim FPoly.withSt FPoly.withCs FPoly.withGs

/-- `affine_image` after the preparation -/
def FPoly.aiPost (x1 : FPoly) (v : Nat) (e : LinExpr) (den : Int) : FPoly :=
  let q := x1.liftO (x1.p.affine_image v e den)
  if x1.st.empty || e.coeffs.getD v 0 != 0 then q
  else
    let (e', d') := if den > 0 then (e, den) else (exprNeg e, -den)
    let mapped := x1.p.gs.rows.map (genRowAffineImage v e' d')
    let rows := (swapRemove (fun (r : Row) => r.b == 0 && r.allHomZero) (mapped.length + 1) mapped 0).map Row.strongNormalize
    { q with p := { q.p with gs := q.p.gs.refineBy { q.p.gs with rows := rows, firstPending := rows.length } } }

theorem affineImage_eq (x : FPoly) (v : Nat) (e : LinExpr) (den : Int) :
    x.affineImage v e den =
      (if x.st.empty || e.coeffs.getD v 0 != 0 then x
       else x.prepGensDropPending (fun y => y.minimize.2)).aiPost v e den := rfl

theorem aiPost_empty (y : FPoly) (v : Nat) (e : LinExpr) (den : Int) (he : y.p.st.empty = true) :
    y.aiPost v e den = y := by
  unfold FPoly.aiPost
  simp [Poly.affine_image, he, FPoly.liftO, lift_self]

/-- the invertible case -/
theorem aiPost_inv (y : FPoly) (v : Nat) (e : LinExpr) (den : Int) (he : y.p.st.empty = false)
    (hi : (e.coeffs.getD v 0 != 0) = true) :
    (y.aiPost v e den).p.st = y.p.st ∧ (y.aiPost v e den).p.dim = y.p.dim ∧ (y.aiPost v e den).p.nnc = y.p.nnc
    ∧ (y.p.st.gUp = false → (y.aiPost v e den).p.gs.sorted = y.p.gs.sorted)
    ∧ (y.p.st.cUp = false → (y.aiPost v e den).p.cs.sorted = y.p.cs.sorted) := by
  unfold FPoly.aiPost
  simp only [FPoly.st, he, hi, Bool.or_true, ↓reduceIte, Poly.affine_image, Bool.false_eq_true, FPoly.liftO, lift_p]
  cases hg : y.p.st.gUp <;> cases hc : y.p.st.cUp <;> simp [hc]

/-- the non-invertible case on a prepared state -/
theorem aiPost_noninv (y : FPoly) (v : Nat) (e : LinExpr) (den : Int) (he : y.p.st.empty = false)
    (hi : (e.coeffs.getD v 0 != 0) = false) (hp : y.p.st.somethingPending = false) (hu : y.p.st.gUp = true) :
    (y.aiPost v e den).p.st = { y.p.st.clearCUp with gMin := false, satC := false, satG := false }
    ∧ (y.aiPost v e den).p.dim = y.p.dim ∧ (y.aiPost v e den).p.nnc = y.p.nnc
    ∧ (y.aiPost v e den).p.cs = y.p.cs := by
  unfold FPoly.aiPost
  simp only [FPoly.st, he, hi, Bool.or_false, Bool.false_eq_true, ↓reduceIte, Poly.affine_image, hp, hu,
    Bool.not_true, Option.map_some, FPoly.liftO, lift_p]
  refine ⟨?_, ?_, ?_, ?_⟩ <;> first | rfl | trivial

/-- the non-invertible case with pending generators: `remove_pending_to_obtain_generators` inside -/
theorem aiPost_noninv_gPend (y : FPoly) (v : Nat) (e : LinExpr) (den : Int) (he : y.p.st.empty = false)
    (hi : (e.coeffs.getD v 0 != 0) = false) (hp : y.p.st.gPend = true) :
    (y.aiPost v e den).p.st =
      { (({ y.p.st with gPend := false, gMin := false }).clearCUp).clearCUp with gMin := false, satC := false, satG := false }
    ∧ (y.aiPost v e den).p.dim = y.p.dim ∧ (y.aiPost v e den).p.nnc = y.p.nnc
    ∧ (y.aiPost v e den).p.cs = y.p.cs := by
  unfold FPoly.aiPost
  have hsp : y.p.st.somethingPending = true := by simp [Status.somethingPending, hp]
  simp only [FPoly.st, he, hi, Bool.or_false, Bool.false_eq_true, ↓reduceIte, Poly.affine_image, hsp, hp,
    Option.map_some, FPoly.liftO, lift_p]
  refine ⟨?_, ?_, ?_, ?_⟩ <;> first | rfl | trivial

/-- the abstract tail of the non-invertible case -/
def absAiTail (g : Gh) (s : PState) : PState :=
  if !s.em then
    let s := PState.genRewrite g.keep (PState.setChanges false s)
    let s := s.set .vC false |>.set .dd false |>.set .mG false |>.set .vSC false |>.set .vSG false
    PState.clearSatGUpToDate (PState.clearSatCUpToDate (PState.clearGeneratorsMinimized (PState.clearConstraintsUpToDate s)))
  else s

theorem absAiTail_sim (y z : FPoly) (t : PState) (g : Gh) (m : Sim y t) (he : y.p.st.empty = false)
    (f1 : z.p.st = { y.p.st.clearCUp with gMin := false, satC := false, satG := false })
    (f2 : z.p.dim = y.p.dim) (f3 : z.p.nnc = y.p.nnc) (f4 : z.p.cs = y.p.cs) (hk : g.keep = z.p.gs.sorted) :
    Sim z (absAiTail g t) := by
  obtain ⟨⟨zn, zd, zst, zcs, ⟨zr, zf, zsrt⟩⟩, zC, zG⟩ := z
  obtain ⟨⟨nnc, dim, ⟨e, cu, gu, cm, gm, sc, sg, cpd, gp⟩, cs, gs⟩, mC, mG⟩ := y
  simp only at f1 f2 f3 f4 hk he
  subst f1 f2 f3 f4 he
  sim_hyps m
  simp_all [Sim, pst, absAiTail, Status.clearCUp]

structure AiGhost (x : FPoly) (v : Nat) (e : LinExpr) (den : Int) (g : Gh) (s : PState) : Prop where
  ppc : x.p.st.empty = false → x.p.st.gPend = false → x.p.st.cPend = true → PpcGhost x.ppcPrep g s
  min : x.p.st.empty = false → x.p.st.somethingPending = false → x.p.st.gUp = false → MinGhost x g s
  keep : g.keep = (x.affineImage v e den).p.gs.sorted
  aux : g.aux = (x.affineImage v e den).p.cs.sorted

theorem affineImage_sim (x : FPoly) (v : Nat) (e : LinExpr) (den : Int) (s : PState) (g : Gh)
    (f : PPLV.PolyStatus.Facts) (h : Sim x s) (hd : x.p.dim ≠ 0) (hf : f.inv = (e.coeffs.getD v 0 != 0))
    (hl : statusLegalB x.p.st x.p.dim = true) (hg : AiGhost x v e den g s) :
    Sim (x.affineImage v e den) (PPLV.PolyStatus.affineImage g f s) := by
  have h' := h
  sim_hyps h'
  have bd : (s.dim == 0) = false := by rw [h10]; simpa using hd
  have hk := hg.keep
  have ha := hg.aux
  rw [affineImage_eq] at hk ha ⊢
  rcases (Bool.eq_false_or_eq_true x.p.st.empty).symm with a | a
  swap
  · have e2 : PPLV.PolyStatus.affineImage g f s = s := by
      simp only [PPLV.PolyStatus.affineImage, bd, pst, h1, a]; simp
    simp only [FPoly.st, a, Bool.true_or, ↓reduceIte]
    rw [e2, aiPost_empty x v e den a]; exact h
  rcases (Bool.eq_false_or_eq_true (e.coeffs.getD v 0 != 0)).symm with i | i
  swap
  · -- invertible
    simp only [FPoly.st, a, i, Bool.or_true, ↓reduceIte] at hk ha ⊢
    obtain ⟨f1, f2, f3, s1, s2⟩ := aiPost_inv x v e den a i
    generalize x.aiPost v e den = z at *
    obtain ⟨⟨zn, zd, zst, ⟨zcr, zcf, zcsrt⟩, ⟨zr, zf, zsrt⟩⟩, zC, zG⟩ := z
    simp only at f1 f2 f3 s1 s2 hk ha
    subst f1 f2 f3
    rw [i] at hf
    cases hgu : x.p.st.gUp <;> cases hcu : x.p.st.cUp <;>
      simp_all [Sim, pst, PPLV.PolyStatus.affineImage]
  -- not invertible
  obtain ⟨l1, l2, l3, l4, l5⟩ := legal_facts hl
  have e2 : PPLV.PolyStatus.affineImage g f s = absAiTail g
      (if s.hasSomethingPending then PPLV.PolyStatus.removePendingToObtainGenerators g s
       else if !s.gup then PPLV.PolyStatus.minimize g s else (true, s)).2 := by
    rw [i] at hf
    simp only [PPLV.PolyStatus.affineImage, bd, h1, a, hf, PState.em, Bool.false_eq_true, ↓reduceIte]
    rfl
  rw [e2]
  simp only [FPoly.st, a, i, Bool.or_false, Bool.false_eq_true, ↓reduceIte] at hk ha ⊢
  rcases (Bool.eq_false_or_eq_true x.p.st.gPend).symm with gp | gp
  swap
  · -- pending generators: unset inside
    have e1 : x.prepGensDropPending (fun y => y.minimize.2) = x := by
      simp [FPoly.prepGensDropPending, a, gp, Status.somethingPending]
    rw [e1] at hk ⊢
    obtain ⟨f1, f2, f3, f4⟩ := aiPost_noninv_gPend x v e den a i gp
    generalize x.aiPost v e den = z at *
    obtain ⟨⟨zn, zd, zst, zcs, ⟨zr, zf, zsrt⟩⟩, zC, zG⟩ := z
    simp only at f1 f2 f3 f4 hk
    subst f1 f2 f3 f4
    cases hpg : s.b .pG <;>
      simp_all [Sim, pst, absAiTail, PPLV.PolyStatus.removePendingToObtainGenerators, Status.clearCUp]
  rcases (Bool.eq_false_or_eq_true x.p.st.cPend).symm with cp | cp
  swap
  · -- pending constraints: processed
    obtain ⟨a1, a2, a3, a4, a5, a6⟩ := l1 cp
    have e1 : x.prepGensDropPending (fun y => y.minimize.2) = x.processPendingConstraints.2 := by
      simp [FPoly.prepGensDropPending, a, gp, cp, Status.somethingPending]
    have e3 : (if s.hasSomethingPending then PPLV.PolyStatus.removePendingToObtainGenerators g s
       else if !s.gup then PPLV.PolyStatus.minimize g s else (true, s))
        = PPLV.PolyStatus.processPendingConstraints g s := by
      simp [PPLV.PolyStatus.removePendingToObtainGenerators, pst, h8, h9, cp, gp]
    rw [e1] at hk ⊢; rw [e3]
    obtain ⟨m1, m2⟩ := processPendingConstraints_sim x s g h (hg.ppc a gp cp)
    rcases (Bool.eq_false_or_eq_true x.processPendingConstraints.1).symm with r | r
    · have ee : x.processPendingConstraints.2.p.st.empty = true := by
        rw [(processPendingConstraints_false x r).2.2]; rfl
      rw [aiPost_empty _ v e den ee]
      have : (PPLV.PolyStatus.processPendingConstraints g s).2.b .em = true := m2.em.trans ee
      simp only [absAiTail, PState.em, this]; exact m2
    · obtain ⟨sc, sg, k⟩ := processPendingConstraints_true x r
      have ke : x.processPendingConstraints.2.p.st.empty = false := by rw [k]; exact a
      have sp : x.processPendingConstraints.2.p.st.somethingPending = false := by
        rw [k]; simp [Status.somethingPending, gp]
      obtain ⟨f1, f2, f3, f4⟩ := aiPost_noninv _ v e den ke i sp (by rw [k]; exact a2)
      exact absAiTail_sim _ _ _ g m2 ke f1 f2 f3 f4 hk
  have sp : x.p.st.somethingPending = false := by simp [Status.somethingPending, cp, gp]
  have e3 : (if s.hasSomethingPending then PPLV.PolyStatus.removePendingToObtainGenerators g s
       else if !s.gup then PPLV.PolyStatus.minimize g s else (true, s))
        = (if !x.p.st.gUp then PPLV.PolyStatus.minimize g s else (true, s)) := by
    simp [pst, h8, h9, h3, cp, gp]
  rw [e3]
  rcases (Bool.eq_false_or_eq_true x.p.st.gUp).symm with gu | gu
  · have e1 : x.prepGensDropPending (fun y => y.minimize.2) = x.minimize.2 := by
      simp [FPoly.prepGensDropPending, a, sp, gu]
    rw [e1] at hk ⊢
    simp only [gu, Bool.not_false, ↓reduceIte]
    obtain ⟨m1, m2⟩ := minimize_sim x s g h (hg.min a sp gu)
    obtain ⟨p1, p2⟩ := minimize_post x hl a hd
    rcases (Bool.eq_false_or_eq_true x.minimize.1).symm with r | r
    · have ee : x.minimize.2.p.st.empty = true := by rw [(p1 r).2.2]; rfl
      rw [aiPost_empty _ v e den ee]
      have : (PPLV.PolyStatus.minimize g s).2.b .em = true := m2.em.trans ee
      simp only [absAiTail, PState.em, this]; exact m2
    · have q := p2 r
      have sp' : x.minimize.2.p.st.somethingPending = false := by simp [Status.somethingPending, q.cPend, q.gPend]
      obtain ⟨f1, f2, f3, f4⟩ := aiPost_noninv _ v e den q.empty i sp' q.gUp
      exact absAiTail_sim _ _ _ g m2 q.empty f1 f2 f3 f4 hk
  · have e1 : x.prepGensDropPending (fun y => y.minimize.2) = x := by
      simp [FPoly.prepGensDropPending, a, sp, gu]
    rw [e1] at hk ⊢
    simp only [gu, Bool.not_true, Bool.false_eq_true, ↓reduceIte]
    obtain ⟨f1, f2, f3, f4⟩ := aiPost_noninv x v e den a i sp gu
    exact absAiTail_sim _ _ _ g h a f1 f2 f3 f4 hk

/-- `affine_preimage` after the preparation -/
def FPoly.apPost (x1 : FPoly) (v : Nat) (e : LinExpr) (den : Int) : FPoly :=
  x1.liftO (x1.p.affine_preimage v e den)

theorem affinePreimage_eq_st (x : FPoly) (v : Nat) (e : LinExpr) (den : Int) :
    x.affinePreimage v e den =
      (if x.st.empty || e.coeffs.getD v 0 != 0 then x
       else if x.st.somethingPending then (if x.st.cPend then x else x.processPendingGenerators)
       else if !x.st.cUp then x.minimize.2 else x).apPost v e den := rfl

theorem apPost_empty (y : FPoly) (v : Nat) (e : LinExpr) (den : Int) (he : y.p.st.empty = true) :
    y.apPost v e den = y := by
  unfold FPoly.apPost
  simp [Poly.affine_preimage, he, FPoly.liftO, lift_self]

theorem apPost_inv (y : FPoly) (v : Nat) (e : LinExpr) (den : Int) (he : y.p.st.empty = false)
    (hi : (e.coeffs.getD v 0 != 0) = true) :
    (y.apPost v e den).p.st = y.p.st ∧ (y.apPost v e den).p.dim = y.p.dim ∧ (y.apPost v e den).p.nnc = y.p.nnc
    ∧ (y.p.st.gUp = false → (y.apPost v e den).p.gs.sorted = y.p.gs.sorted)
    ∧ (y.p.st.cUp = false → (y.apPost v e den).p.cs.sorted = y.p.cs.sorted) := by
  unfold FPoly.apPost
  simp only [he, hi, ↓reduceIte, Poly.affine_preimage, Bool.false_eq_true, FPoly.liftO, lift_p]
  cases hg : y.p.st.gUp <;> cases hc : y.p.st.cUp <;> simp [hg]

theorem apPost_noninv (y : FPoly) (v : Nat) (e : LinExpr) (den : Int) (he : y.p.st.empty = false)
    (hi : (e.coeffs.getD v 0 != 0) = false) (hp : y.p.st.somethingPending = false) (hu : y.p.st.cUp = true) :
    (y.apPost v e den).p.st = { y.p.st.clearGUp with cMin := false, satC := false, satG := false }
    ∧ (y.apPost v e den).p.dim = y.p.dim ∧ (y.apPost v e den).p.nnc = y.p.nnc
    ∧ (y.apPost v e den).p.gs = y.p.gs := by
  unfold FPoly.apPost
  simp only [he, hi, Bool.false_eq_true, ↓reduceIte, Poly.affine_preimage, hp, hu,
    Bool.not_true, Option.map_some, FPoly.liftO, lift_p]
  refine ⟨?_, ?_, ?_, ?_⟩ <;> first | rfl | trivial

theorem apPost_noninv_cPend (y : FPoly) (v : Nat) (e : LinExpr) (den : Int) (he : y.p.st.empty = false)
    (hi : (e.coeffs.getD v 0 != 0) = false) (hp : y.p.st.cPend = true) :
    (y.apPost v e den).p.st =
      { (({ y.p.st with cPend := false, cMin := false }).clearGUp).clearGUp with cMin := false, satC := false, satG := false }
    ∧ (y.apPost v e den).p.dim = y.p.dim ∧ (y.apPost v e den).p.nnc = y.p.nnc
    ∧ (y.apPost v e den).p.gs = y.p.gs := by
  unfold FPoly.apPost
  have hsp : y.p.st.somethingPending = true := by simp [Status.somethingPending, hp]
  simp only [he, hi, Bool.false_eq_true, ↓reduceIte, Poly.affine_preimage, hsp, hp,
    Option.map_some, FPoly.liftO, lift_p]
  refine ⟨?_, ?_, ?_, ?_⟩ <;> first | rfl | trivial

/-- the abstract tail of the non-invertible case -/
def absApTail (g : Gh) (s : PState) : PState :=
  let s := PState.conRewrite g.keep (PState.setChanges g.be s)
  let s := s.set .vG false |>.set .dd false |>.set .mC false |>.set .vSC false |>.set .vSG false
  PState.clearSatGUpToDate (PState.clearSatCUpToDate (PState.clearConstraintsMinimized (PState.clearGeneratorsUpToDate s)))

theorem absApTail_sim (y z : FPoly) (t : PState) (g : Gh) (m : Sim y t)
    (f1 : z.p.st = { y.p.st.clearGUp with cMin := false, satC := false, satG := false })
    (f2 : z.p.dim = y.p.dim) (f3 : z.p.nnc = y.p.nnc) (f4 : z.p.gs = y.p.gs) (hk : g.keep = z.p.cs.sorted) :
    Sim z (absApTail g t) := by
  obtain ⟨⟨zn, zd, zst, ⟨zr, zf, zsrt⟩, zgs⟩, zC, zG⟩ := z
  obtain ⟨⟨nnc, dim, ⟨e, cu, gu, cm, gm, sc, sg, cpd, gp⟩, cs, gs⟩, mC, mG⟩ := y
  simp only at f1 f2 f3 f4 hk
  subst f1 f2 f3 f4
  sim_hyps m
  simp_all [Sim, pst, absApTail, Status.clearGUp]

/-- on a state that went through `set_empty()` the abstract tail changes nothing stored -/
theorem absApTail_sim_empty (y : FPoly) (t : PState) (g : Gh) (m : Sim y t) (hs : y.p.st = Status.setEmpty)
    (hk : g.keep = y.p.cs.sorted) : Sim y (absApTail g t) := by
  obtain ⟨⟨nnc, dim, st, ⟨cr, cf, csrt⟩, gs⟩, mC, mG⟩ := y
  simp only at hs hk
  subst hs
  sim_hyps m
  simp_all [Sim, pst, absApTail, Status.setEmpty]

structure ApGhost (x : FPoly) (v : Nat) (e : LinExpr) (den : Int) (g : Gh) (s : PState) : Prop where
  ppg : x.p.st.empty = false → x.p.st.cPend = false → x.p.st.gPend = true → PpgGhost x.ppgPrep g s
  min : x.p.st.empty = false → x.p.st.somethingPending = false → x.p.st.cUp = false → MinGhost x g s
  keep : (e.coeffs.getD v 0 != 0) = true → g.keep = (x.affinePreimage v e den).p.gs.sorted
  aux : (e.coeffs.getD v 0 != 0) = true → g.aux = (x.affinePreimage v e den).p.cs.sorted
  /-- the non-invertible branch uses `g.keep` for `con_sys` -/
  keepC : (e.coeffs.getD v 0 != 0) = false → g.keep = (x.affinePreimage v e den).p.cs.sorted

theorem affinePreimage_sim (x : FPoly) (v : Nat) (e : LinExpr) (den : Int) (s : PState) (g : Gh)
    (f : PPLV.PolyStatus.Facts) (h : Sim x s) (hd : x.p.dim ≠ 0) (hf : f.inv = (e.coeffs.getD v 0 != 0))
    (hl : statusLegalB x.p.st x.p.dim = true) (hg : ApGhost x v e den g s) :
    Sim (x.affinePreimage v e den) (PPLV.PolyStatus.affinePreimage g f s) := by
  have h' := h
  sim_hyps h'
  have bd : (s.dim == 0) = false := by rw [h10]; simpa using hd
  have hk' := hg.keep
  have ha' := hg.aux
  have hkc := hg.keepC
  rw [affinePreimage_eq_st] at hk' ha' hkc ⊢
  rcases (Bool.eq_false_or_eq_true x.p.st.empty).symm with a | a
  swap
  · have e2 : PPLV.PolyStatus.affinePreimage g f s = s := by
      simp only [PPLV.PolyStatus.affinePreimage, bd, pst, h1, a]; simp
    simp only [FPoly.st, a, Bool.true_or, ↓reduceIte]
    rw [e2, apPost_empty x v e den a]; exact h
  rcases (Bool.eq_false_or_eq_true (e.coeffs.getD v 0 != 0)).symm with i | i
  swap
  · -- invertible
    have hk := hk' i
    have ha := ha' i
    simp only [FPoly.st, a, i, Bool.or_true, ↓reduceIte] at hk ha ⊢
    clear hk' ha' hkc
    obtain ⟨f1, f2, f3, s1, s2⟩ := apPost_inv x v e den a i
    generalize x.apPost v e den = z at *
    obtain ⟨⟨zn, zd, zst, ⟨zcr, zcf, zcsrt⟩, ⟨zr, zf, zsrt⟩⟩, zC, zG⟩ := z
    simp only at f1 f2 f3 s1 s2 hk ha
    subst f1 f2 f3
    rw [i] at hf
    cases hgu : x.p.st.gUp <;> cases hcu : x.p.st.cUp <;>
      simp_all [Sim, pst, PPLV.PolyStatus.affinePreimage]
  -- not invertible
  have hk := hkc i
  clear hk' ha' hkc
  obtain ⟨l1, l2, l3, l4, l5⟩ := legal_facts hl
  have e2 : PPLV.PolyStatus.affinePreimage g f s = absApTail g
      (if s.hasSomethingPending then PPLV.PolyStatus.removePendingToObtainConstraints g s
       else if !s.cup then (PPLV.PolyStatus.minimize g s).2 else s) := by
    rw [i] at hf
    simp only [PPLV.PolyStatus.affinePreimage, bd, h1, a, hf, PState.em, Bool.false_eq_true, ↓reduceIte]
    rfl
  rw [e2]
  simp only [FPoly.st, a, i, Bool.or_false, Bool.false_eq_true, ↓reduceIte] at hk ⊢
  rcases (Bool.eq_false_or_eq_true x.p.st.cPend).symm with cp | cp
  swap
  · -- pending constraints: unset inside
    have sp : x.p.st.somethingPending = true := by simp [Status.somethingPending, cp]
    simp only [sp, cp, ↓reduceIte] at hk ⊢
    obtain ⟨f1, f2, f3, f4⟩ := apPost_noninv_cPend x v e den a i cp
    generalize x.apPost v e den = z at *
    obtain ⟨⟨zn, zd, zst, ⟨zr, zf, zsrt⟩, zgs⟩, zC, zG⟩ := z
    simp only at f1 f2 f3 f4 hk
    subst f1 f2 f3 f4
    cases hpc : s.b .pC <;>
      simp_all [Sim, pst, absApTail, PPLV.PolyStatus.removePendingToObtainConstraints, Status.clearGUp]
  rcases (Bool.eq_false_or_eq_true x.p.st.gPend).symm with gp | gp
  swap
  · -- pending generators: processed
    obtain ⟨a1, a2, a3, a4, a5, a6⟩ := l2 gp
    have sp : x.p.st.somethingPending = true := by simp [Status.somethingPending, gp]
    have e3 : (if s.hasSomethingPending then PPLV.PolyStatus.removePendingToObtainConstraints g s
       else if !s.cup then (PPLV.PolyStatus.minimize g s).2 else s)
        = PPLV.PolyStatus.processPendingGenerators g s := by
      simp [PPLV.PolyStatus.removePendingToObtainConstraints, pst, h8, h9, cp, gp]
    simp only [sp, cp, Bool.false_eq_true, ↓reduceIte] at hk ⊢
    rw [e3]
    have m2 := processPendingGenerators_sim x s g h (hg.ppg a cp gp)
    obtain ⟨_, _, sc, sg, k⟩ := processPendingGenerators_post x
    have sp' : x.processPendingGenerators.p.st.somethingPending = false := by
      rw [k]; simp [Status.somethingPending, cp]
    obtain ⟨f1, f2, f3, f4⟩ := apPost_noninv _ v e den (by rw [k]; exact a) i sp' (by rw [k]; exact a1)
    exact absApTail_sim _ _ _ g m2 f1 f2 f3 f4 hk
  have sp : x.p.st.somethingPending = false := by simp [Status.somethingPending, cp, gp]
  have e3 : (if s.hasSomethingPending then PPLV.PolyStatus.removePendingToObtainConstraints g s
       else if !s.cup then (PPLV.PolyStatus.minimize g s).2 else s)
        = (if !x.p.st.cUp then (PPLV.PolyStatus.minimize g s).2 else s) := by
    simp [pst, h8, h9, h2, cp, gp]
  rw [e3]
  simp only [sp, Bool.false_eq_true, ↓reduceIte] at hk ⊢
  rcases (Bool.eq_false_or_eq_true x.p.st.cUp).symm with cu | cu
  · simp only [cu, Bool.not_false, ↓reduceIte] at hk ⊢
    obtain ⟨m1, m2⟩ := minimize_sim x s g h (hg.min a sp cu)
    obtain ⟨p1, p2⟩ := minimize_post x hl a hd
    rcases (Bool.eq_false_or_eq_true x.minimize.1).symm with r | r
    · have ee : x.minimize.2.p.st.empty = true := by rw [(p1 r).2.2]; rfl
      rw [apPost_empty _ v e den ee] at hk ⊢
      exact absApTail_sim_empty _ _ g m2 (p1 r).2.2 hk
    · have q := p2 r
      have sp' : x.minimize.2.p.st.somethingPending = false := by simp [Status.somethingPending, q.cPend, q.gPend]
      obtain ⟨f1, f2, f3, f4⟩ := apPost_noninv _ v e den q.empty i sp' q.cUp
      exact absApTail_sim _ _ _ g m2 f1 f2 f3 f4 hk
  · simp only [cu, Bool.not_true, Bool.false_eq_true, ↓reduceIte] at hk ⊢
    obtain ⟨f1, f2, f3, f4⟩ := apPost_noninv x v e den a i sp cu
    exact absApTail_sim _ _ _ g h f1 f2 f3 f4 hk

end PPLV.PolyFull

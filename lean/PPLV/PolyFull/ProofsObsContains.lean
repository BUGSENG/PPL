import PPLV.PolyFull.ProofsObsQet

/-!
# the binary observers: `contains`

`contains_facts`: `x.contains(y)` (Polyhedron_public.cc:3972) leaves both objects denoting their sets
and answers `true` exactly when `T ⊆ S`; `contains_refines`: that is the reference's answer
`RefPoly.contains`.
-/
namespace PPLV.PolyFull
open PPLV.Lin PPLV.PolyOps

theorem contains_facts_of (G : GlueFacts) (K : SortedObsKeep) (x y : FPoly) (S T : Set Val)
    (hx : x.Inv S) (hy : y.Inv T) (hdim : y.p.dim = x.p.dim) (hnnc : y.p.nnc = x.p.nnc) :
    (x.contains y).2.1.Inv S ∧ (x.contains y).2.2.Inv T ∧
    x.SameShape (x.contains y).2.1 ∧ y.SameShape (x.contains y).2.2 ∧
    ((x.contains y).1 = true ↔ T ⊆ S) := by
  unfold FPoly.contains
  by_cases hey : y.p.st.empty = true
  · have : y.st.empty = true := hey
    rw [if_pos this]
    have hT := hy.den.1 hey
    exact ⟨hx, hy, FPoly.SameShape.refl x, FPoly.SameShape.refl y, by subst hT; simp⟩
  · have hey' : y.p.st.empty = false := by simpa using hey
    have : ¬ y.st.empty = true := hey
    rw [if_neg this]
    by_cases hex : x.p.st.empty = true
    · have : x.st.empty = true := hex
      rw [if_pos this]
      have hS := hx.den.1 hex
      obtain ⟨s1, i1, a1, -⟩ := G.isEmpty y T hy
      refine ⟨hx, i1, FPoly.SameShape.refl x, s1, ?_⟩
      show y.isEmpty.1 = true ↔ _
      rw [a1, hS, Set.subset_empty_iff]
    · have hex' : x.p.st.empty = false := by simpa using hex
      have : ¬ x.st.empty = true := hex
      rw [if_neg this]
      by_cases hz : y.p.dim = 0
      · have : (y.dim == 0) = true := by show (y.p.dim == 0) = true; rw [hz]; rfl
        rw [if_pos this]
        have hzx : x.p.dim = 0 := by rw [← hdim]; exact hz
        have hS : S = Set.univ :=
          (hx.den.2 hex').2.2 (hx.wf.zero_dim hzx).1 (hx.wf.zero_dim hzx).2
        have hT : T = Set.univ :=
          (hy.den.2 hey').2.2 (hy.wf.zero_dim hz).1 (hy.wf.zero_dim hz).2
        exact ⟨hx, hy, FPoly.SameShape.refl x, FPoly.SameShape.refl y, by rw [hS, hT]; simp⟩
      · have : ¬ (y.dim == 0) = true := by
          show ¬ (y.p.dim == 0) = true
          simpa using hz
        rw [if_neg this]
        obtain ⟨i1, i2, s1, s2, n1, n2, hq⟩ :=
          quickEquivalenceTest_true_sound_of K x y S T hx hy hdim hnnc hex' hey'
        by_cases hqt : (x.quickEquivalenceTest y).1 = some true
        · simp only [hqt, beq_self_eq_true, if_true]
          exact ⟨i1, i2, s1, s2, by rw [hq hqt]; simp⟩
        · have : ¬ ((x.quickEquivalenceTest y).1 == some true) = true := by simpa using hqt
          simp only [this]
          have hd : 0 < (x.quickEquivalenceTest y).2.2.p.dim := by rw [s2.2]; omega
          obtain ⟨j1, j2, t1, t2, ans⟩ := isIncludedIn_facts G _ _ T S i2 i1
            (by rw [s1.2, s2.2, hdim]) (by rw [s1.1, s2.1, hnnc]) n2 n1 hd
          exact ⟨j2, j1, FPoly.SameShape.trans s1 t2, FPoly.SameShape.trans s2 t1, ans⟩

/-- **`contains` refines `RefPoly.contains`** -/
theorem contains_refines_of (G : GlueFacts) (K : SortedObsKeep) (x y : FPoly) (refx refy : RefPoly)
    (hdim : y.p.dim = x.p.dim) (hnnc : y.p.nnc = x.p.nnc)
    (hx : x.Inv (sem refx.cs)) (hy : y.Inv (sem refy.cs))
    (hwx : WF refx.n refx.cs) (hwy : WF refx.n refy.cs) :
    (x.contains y).2.1.Inv (sem refx.cs) ∧ (x.contains y).2.2.Inv (sem refy.cs) ∧
    x.SameShape (x.contains y).2.1 ∧ y.SameShape (x.contains y).2.2 ∧
    (x.contains y).1 = refx.contains refy := by
  obtain ⟨h1, h2, h3, h4, h5⟩ := contains_facts_of G K x y _ _ hx hy hdim hnnc
  refine ⟨h1, h2, h3, h4, ?_⟩
  have hr : refx.contains refy = true ↔ sem refy.cs ⊆ sem refx.cs := by
    unfold RefPoly.contains; exact subsetB_iff _ _ _ hwy hwx
  cases hb : refx.contains refy
  · cases ha : (x.contains y).1
    · rfl
    · have := hr.mpr (h5.mp ha); rw [hb] at this; cases this
  · exact h5.mpr (hr.mp hb)

end PPLV.PolyFull

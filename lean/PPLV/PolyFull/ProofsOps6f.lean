import PPLV.PolyFull.ProofsOpsUniverseRows

/-!
# `add_space_dimensions_and_embed` refines `RefPoly.addDimsEmbed`
-/
namespace PPLV.PolyFull
open PPLV.Lin PPLV.PolyOps
open PPLV.Conv (holdsAll holds)

/-- the engine clause is vacuous for an object that does not hold both descriptions -/
theorem EngClause_of_not_both (X : FPoly) {S : Set Val} (h0 : X.InvNoEng S)
    (h : X.p.st.cUp = false ∨ X.p.st.gUp = false) : X.EngClause := by
  intro _ hcp
  obtain ⟨hc, hg⟩ := legal_canPend_up h0.legal hcp
  rcases h with h | h
  · rw [hc] at h; cases h
  · rw [hg] at h; cases h

/-- the result of the row-level operator on a non-empty polyhedron of positive dimension, in one form -/
def embedPoly (p : Poly) (m : Nat) : Poly :=
  { p with dim := p.dim + m,
           st := { p.st with satC := p.st.satC || (p.st.cUp && p.st.gUp) },
           cs := if p.st.cUp = true then p.cs.addZeroCols m else p.cs,
           gs := if p.st.gUp = true then p.gs.addUniverseRows p.nnc p.dim m else p.gs }

theorem embed_eq (p : Poly) (m : Nat) (hm : m ≠ 0) (hem : p.st.empty = false) (hd : p.dim ≠ 0) (hp : p.WF) :
    p.add_space_dimensions_and_embed m = embedPoly p m := by
  have hup := hp.some_up hem (Nat.pos_of_ne_zero hd)
  obtain ⟨nnc, dim, ⟨e, cu, gu, cm, gm, sc, sg, cp, gp⟩, cs, gs⟩ := p
  simp only at hem hd hup
  subst hem
  unfold Poly.add_space_dimensions_and_embed embedPoly
  cases cu <;> cases gu <;> simp_all

/-- `SAT_C_UP_TO_DATE` may be set where both descriptions are up to date -/
theorem legal_embed {s : Status} {d d' : Nat} (hd : d ≠ 0) (hd' : d' ≠ 0) (h : statusLegalB s d = true) :
    statusLegalB { s with satC := s.satC || (s.cUp && s.gUp) } d' = true := by
  replace h := legal_dim_change hd hd' h
  rw [legal_iff] at h ⊢
  refine ⟨fun e => ?_, fun e => ?_, h.cMin, h.gMin, h.notBoth, fun e => ?_, h.zero, h.some⟩
  · obtain ⟨a, b, c, d, _, f, g, i⟩ := h.empty e
    exact ⟨a, b, c, d, by rw [show s.satC = false from ‹_›, a]; rfl, f, g, i⟩
  · rcases e with e | e
    · rcases Bool.or_eq_true_iff.mp e with e | e
      · exact h.sat (Or.inl e)
      · exact Bool.and_eq_true_iff.mp e
    · exact h.sat (Or.inr e)
  · have := h.pend e
    simp only [Status.canPend, Bool.and_eq_true, Bool.or_eq_true] at this ⊢
    exact ⟨this.1, this.2.elim (fun q => Or.inl (Or.inl q)) Or.inr⟩

theorem embedPoly_cs (p : Poly) (m : Nat) (h : p.st.cUp = true) : (embedPoly p m).cs = p.cs.addZeroCols m :=
  if_pos h

theorem embedPoly_gs (p : Poly) (m : Nat) (h : p.st.gUp = true) :
    (embedPoly p m).gs = p.gs.addUniverseRows p.nnc p.dim m :=
  if_pos h

theorem InvNoEng_embed (x : FPoly) (S S' : Set Val) (hx : x.Inv S) (m : Nat) (hm : 0 < m)
    (hem : x.p.st.empty = false) (hd : x.p.dim ≠ 0) (hden : (embedPoly x.p m).Denotes S') (a b : BitMat) :
    (⟨embedPoly x.p m, a, b⟩ : FPoly).InvNoEng S' := by
  refine ⟨⟨?_, ?_, ?_, hx.wf.pend_c, hx.wf.pend_g, hx.wf.pend_one,
      fun _ _ => hx.wf.some_up hem (Nat.pos_of_ne_zero hd), ?_⟩, hden, ?_, ?_, ?_, ?_, ?_, ?_⟩
  · intro _ hc r hr
    rw [embedPoly_cs x.p m hc] at hr
    obtain ⟨r0, hr0, rfl⟩ := List.mem_map.mp hr
    show (r0.cf ++ List.replicate m 0).length = x.p.dim + m
    rw [List.length_append, List.length_replicate, hx.wf.cs_len hem hc r0 hr0]
  · intro _ hg r hr
    rw [embedPoly_gs x.p m hg] at hr
    exact addUniverseRows_genWF _ _ _ _ hm (hx.wf.gs_wf hem hg) r hr
  · intro _ hg
    rw [embedPoly_gs x.p m hg]
    exact addUniverseRows_pt _ _ _ _ hm (hx.wf.gs_pt hem hg)
  · intro h
    have : x.p.dim + m = 0 := h
    omega
  · exact legal_embed hd (by show x.p.dim + m ≠ 0; omega) hx.legal
  · intro _ hc
    rw [embedPoly_cs x.p m hc]
    show x.p.cs.firstPending ≤ (x.p.cs.rows.map _).length ∧ (_ → x.p.cs.firstPending = (x.p.cs.rows.map _).length)
    rw [List.length_map]
    exact hx.fpC hem hc
  · intro _ hg
    rw [embedPoly_gs x.p m hg, (addUniverseRows_fp _ _ _ _ hm).1, (addUniverseRows_fp _ _ _ _ hm).2]
    have := hx.fpG hem hg
    exact ⟨by omega, fun h => by have := this.2 h; omega⟩
  · intro _ hc
    rw [embedPoly_cs x.p m hc]
    exact LowLevel_addZeroCols _ _ _ _ (hx.wf.cs_len hem hc) (hx.low hem hc)
  · intro _ hcp
    obtain ⟨hc, hg⟩ := hx.wf.pend_c hcp
    show genSem x.p.nnc (x.p.dim + m) (embedPoly x.p m).gs.rows =
      conSem x.p.nnc ((embedPoly x.p m).cs.rows.take (embedPoly x.p m).cs.firstPending)
    rw [embedPoly_cs x.p m hc, embedPoly_gs x.p m hg, genSem_addUniverseRows _ _ _ _ hm (hx.wf.gs_wf hem hg)]
    show _ = conSem x.p.nnc ((x.p.cs.rows.map (Row.addZeroCols m)).take x.p.cs.firstPending)
    rw [← List.map_take, conSem_addZeroCols]
    exact hx.denNPc hem hcp
  · intro _ hgp
    obtain ⟨hc, hg⟩ := hx.wf.pend_g hgp
    show conSem x.p.nnc (embedPoly x.p m).cs.rows =
      genSem x.p.nnc (x.p.dim + m) ((embedPoly x.p m).gs.rows.take (embedPoly x.p m).gs.firstPending)
    rw [embedPoly_cs x.p m hc, embedPoly_gs x.p m hg, addUniverseRows_take _ _ _ _ hm,
      genSem_addUniverseRows _ _ _ _ hm (fun r hr => hx.wf.gs_wf hem hg r (List.mem_of_mem_take hr))]
    show conSem x.p.nnc (x.p.cs.rows.map (Row.addZeroCols m)) = _
    rw [conSem_addZeroCols]
    exact hx.denNPg hem hgp

theorem embed_empty_eq (p : Poly) (m : Nat) (hm : m ≠ 0) (hem : p.st.empty = true) :
    p.add_space_dimensions_and_embed m = { p with dim := p.dim + m, cs := Sys.clear } := by
  simp [Poly.add_space_dimensions_and_embed, hm, hem]

/-- the fresh universe polyhedron a zero-dimensional universe is swapped with -/
def embedZeroPoly (p : Poly) (m : Nat) : Poly :=
  { p with dim := m, st := { Status.zeroDimUniv with cUp := true, cMin := true },
           cs := ⟨lowLevelCons p.nnc m, (lowLevelCons p.nnc m).length, true⟩, gs := Sys.clear }

theorem embed_zero_eq (p : Poly) (m : Nat) (hm : m ≠ 0) (hem : p.st.empty = false) (hd : p.dim = 0) :
    p.add_space_dimensions_and_embed m =
      embedZeroPoly p m := by
  simp [Poly.add_space_dimensions_and_embed, embedZeroPoly, hm, hem, hd]

theorem Inv_embed_empty (x : FPoly) (S S' : Set Val) (hx : x.Inv S) (m : Nat) (hm : m ≠ 0)
    (hem : x.p.st.empty = true)
    (hden : ({ x.p with dim := x.p.dim + m, cs := Sys.clear } : Poly).Denotes S') :
    ({ x with p := { x.p with dim := x.p.dim + m, cs := Sys.clear } } : FPoly).Inv S' := by
  refine Inv_of_empty _ _ hem ⟨fun h => ?_, fun h => ?_, fun h => ?_, hx.wf.pend_c, hx.wf.pend_g, hx.wf.pend_one,
    fun h => ?_, fun h => ?_⟩ hden (legal_empty_any _ hx.legal hem)
  · rw [show x.p.st.empty = true from hem] at h; cases h
  · rw [show x.p.st.empty = true from hem] at h; cases h
  · rw [show x.p.st.empty = true from hem] at h; cases h
  · rw [show x.p.st.empty = true from hem] at h; cases h
  · have : x.p.dim + m = 0 := h
    omega

theorem Inv_embed_zero (x : FPoly) (S' : Set Val) (m : Nat) (hm : m ≠ 0)
    (hden : (embedZeroPoly x.p m).Denotes S') :
    ({ x with p := embedZeroPoly x.p m } : FPoly).Inv S' := by
  refine ⟨⟨fun _ _ r hr => ?_, fun _ h => (by cases h), fun _ h => (by cases h), fun h => (by cases h),
      fun h => (by cases h), fun h => (by cases h.1), fun _ _ => Or.inl rfl, fun h => absurd h hm⟩, hden, ?_,
    fun _ _ => ⟨le_of_eq rfl, fun _ => rfl⟩, fun _ h => (by cases h), fun _ _ => LowLevel_lowLevelCons _ _,
    fun _ h => (by cases h), fun _ h => (by cases h), fun _ h => (by cases h)⟩
  · have hr' : r ∈ lowLevelCons x.p.nnc m := hr
    unfold lowLevelCons at hr'
    show r.cf.length = m
    cases hnc : x.p.nnc <;> rw [hnc] at hr'
    · simp only [Bool.false_eq_true, if_false, List.mem_singleton] at hr'
      subst hr'; simp
    · simp only [if_true, List.mem_cons, List.not_mem_nil, or_false] at hr'
      rcases hr' with rfl | rfl <;> simp
  · show statusLegalB _ m = true
    rw [statusLegalB_pos (by simpa using hm)]; rfl

/-- the proof behind the two theorems below: the engine clause of the result is asked for only
    when both descriptions of the receiver are up to date -/
theorem addSpaceDimensionsAndEmbed_core (x : FPoly) (ref : RefPoly) (m : Nat)
    (hn : ref.n = x.p.dim) (hnnc : ref.nnc = x.p.nnc) (hwf : WF ref.n ref.cs)
    (hx : x.Inv (sem ref.cs))
    (hEng : x.p.st.cUp = true → x.p.st.gUp = true → (x.addSpaceDimensionsAndEmbed m).p.st.empty = false →
      (x.addSpaceDimensionsAndEmbed m).p.st.canPend = true →
      EnginePair (x.addSpaceDimensionsAndEmbed m).p.nnc (x.addSpaceDimensionsAndEmbed m).p.dim
        (x.addSpaceDimensionsAndEmbed m).npC (x.addSpaceDimensionsAndEmbed m).npG
        (x.addSpaceDimensionsAndEmbed m).p.st.satC (x.addSpaceDimensionsAndEmbed m).p.st.satG
        (x.addSpaceDimensionsAndEmbed m).satC (x.addSpaceDimensionsAndEmbed m).satG) :
    (x.addSpaceDimensionsAndEmbed m).Inv (sem (ref.addDimsEmbed m).cs) ∧
    (x.addSpaceDimensionsAndEmbed m).p.nnc = x.p.nnc ∧
    (x.addSpaceDimensionsAndEmbed m).p.dim = x.p.dim + m := by
  have hD := add_space_dimensions_and_embed_rows_correct x.p m ref hn hnnc hwf hx.wf hx.den
  revert hEng
  unfold FPoly.addSpaceDimensionsAndEmbed FPoly.st FPoly.dim FPoly.nnc
  by_cases hm : m = 0
  · subst hm
    intro _
    exact ⟨hx, rfl, rfl⟩
  have hm0 : (m == 0) = false := by simpa using hm
  have hmpos : 0 < m := Nat.pos_of_ne_zero hm
  rw [hm0]
  simp only [Bool.false_eq_true, if_false]
  cases hem : x.p.st.empty
  · by_cases hd : x.p.dim = 0
    · have hd0 : (x.p.dim == 0) = true := by simpa using hd
      rw [hd0]
      simp only [Bool.or_true, if_true]
      intro _
      rw [embed_zero_eq x.p m hm hem hd] at hD ⊢
      exact ⟨Inv_embed_zero x _ m hm hD, rfl, by show m = x.p.dim + m; omega⟩
    · have hd0 : (x.p.dim == 0) = false := by simpa using hd
      rw [hd0]
      simp only [Bool.or_self, Bool.false_eq_true, if_false]
      rw [embed_eq x.p m hm hem hd hx.wf] at hD ⊢
      have hfpG : ∀ a b, (⟨embedPoly x.p m, a, b⟩ : FPoly).p.st.empty = false →
          (⟨embedPoly x.p m, a, b⟩ : FPoly).p.st.gUp = true →
          (FPoly.addUniverseRowsExact true x.p.nnc x.p.dim m x.p.gs).firstPending ≤
            (FPoly.addUniverseRowsExact true x.p.nnc x.p.dim m x.p.gs).rows.length ∧
          ((⟨embedPoly x.p m, a, b⟩ : FPoly).p.st.gPend = false →
            (FPoly.addUniverseRowsExact true x.p.nnc x.p.dim m x.p.gs).firstPending =
              (FPoly.addUniverseRowsExact true x.p.nnc x.p.dim m x.p.gs).rows.length) := by
        intro a b _ hg
        have hg' : x.p.st.gUp = true := hg
        rw [(addUniverseRowsExact_fp _ _ _ _ _ hmpos).1, (addUniverseRowsExact_fp _ _ _ _ _ hmpos).2]
        have := hx.fpG hem hg'
        exact ⟨by omega, fun h => by have := this.2 h; omega⟩
      cases hcu : x.p.st.cUp
      · simp only [Bool.false_and, Bool.false_eq_true, if_false]
        intro _
        have h0 := InvNoEng_refineG _ _ _ (InvNoEng_embed x _ _ hx m hmpos hem hd hD x.satC x.satG) (hfpG _ _)
        exact ⟨h0.toInv (EngClause_of_not_both _ h0 (Or.inl hcu)), rfl, rfl⟩
      · cases hgu : x.p.st.gUp
        · simp only [Bool.and_false, Bool.false_eq_true, if_false, if_true]
          intro _
          have h0 := InvNoEng_embed x _ _ hx m hmpos hem hd hD x.satC x.satG
          exact ⟨h0.toInv (EngClause_of_not_both _ h0 (Or.inr hgu)), rfl, rfl⟩
        · simp only [Bool.and_self, if_true]
          intro hEng
          have h0 := InvNoEng_embed x _ _ hx m hmpos hem hd hD
            (FPoly.satAddDims (if (!x.p.st.satC) = true then x.updateSatC else x).satC m).1
            (FPoly.satAddDims (if (!x.p.st.satC) = true then x.updateSatC else x).satC m).2
          exact ⟨(InvNoEng_refineG _ _ _ h0 (hfpG _ _)).toInv (hEng trivial trivial), rfl, rfl⟩
  · simp only [Bool.true_or, if_true]
    intro _
    rw [embed_empty_eq x.p m hm hem] at hD ⊢
    exact ⟨Inv_embed_empty x _ _ hx m hm hem hD, rfl, rfl⟩

/-- **`Polyhedron::add_space_dimensions_and_embed(m)`, the whole object**: the receiver denotes
    `RefPoly.addDimsEmbed` and keeps the invariant.  PARTIAL: `hEng` assumes the clause `eng` of
    `FPoly.Inv` for the result — needed only when both descriptions were up to date (the constraint rows
    get `m` zero columns, `m` lines are put in front of the generators, `m` empty rows in front of
    `sat_c`, `sat_g` is its transpose, and `update_sat_c()` may have run, of which `GlueFacts` says
    nothing); in every other case the clause is vacuous and `hEng` is not used.  Every other clause of
    the invariant (well-formedness, denotation, status legality, pending indices, low-level
    constraints, the two pending-row clauses) is proved. -/
theorem addSpaceDimensionsAndEmbed_refines_partial (_G : GlueFacts) (x : FPoly) (ref : RefPoly) (m : Nat)
    (hn : ref.n = x.p.dim) (hnnc : ref.nnc = x.p.nnc) (hwf : WF ref.n ref.cs)
    (hx : x.Inv (sem ref.cs))
    (hEng : (x.addSpaceDimensionsAndEmbed m).p.st.empty = false →
      (x.addSpaceDimensionsAndEmbed m).p.st.canPend = true →
      EnginePair (x.addSpaceDimensionsAndEmbed m).p.nnc (x.addSpaceDimensionsAndEmbed m).p.dim
        (x.addSpaceDimensionsAndEmbed m).npC (x.addSpaceDimensionsAndEmbed m).npG
        (x.addSpaceDimensionsAndEmbed m).p.st.satC (x.addSpaceDimensionsAndEmbed m).p.st.satG
        (x.addSpaceDimensionsAndEmbed m).satC (x.addSpaceDimensionsAndEmbed m).satG) :
    (x.addSpaceDimensionsAndEmbed m).Inv (sem (ref.addDimsEmbed m).cs) ∧
    (x.addSpaceDimensionsAndEmbed m).p.nnc = x.p.nnc ∧
    (x.addSpaceDimensionsAndEmbed m).p.dim = x.p.dim + m :=
  addSpaceDimensionsAndEmbed_core x ref m hn hnnc hwf hx (fun _ _ => hEng)

/-- the same, FULLY proved (no `hEng`), for a receiver that does not hold both descriptions (this
    includes a receiver marked empty and the zero-dimensional universe) -/
theorem addSpaceDimensionsAndEmbed_refines_notBothUp (_G : GlueFacts) (x : FPoly) (ref : RefPoly) (m : Nat)
    (hn : ref.n = x.p.dim) (hnnc : ref.nnc = x.p.nnc) (hwf : WF ref.n ref.cs)
    (hx : x.Inv (sem ref.cs)) (hnb : (x.p.st.cUp && x.p.st.gUp) = false) :
    (x.addSpaceDimensionsAndEmbed m).Inv (sem (ref.addDimsEmbed m).cs) ∧
    (x.addSpaceDimensionsAndEmbed m).p.nnc = x.p.nnc ∧
    (x.addSpaceDimensionsAndEmbed m).p.dim = x.p.dim + m :=
  addSpaceDimensionsAndEmbed_core x ref m hn hnnc hwf hx (fun hc hg => by rw [hc, hg] at hnb; cases hnb)

end PPLV.PolyFull

import PPLV.PolyFull.Public

/-!
# `quick_equivalence_test` by stages

The test (Polyhedron_nonpublic.cc :357-417) is two guards, a comparison stage on the constraints, one on the
generators, and a last resort on the constraints.  `qetStages` is its body over the Boolean tests as variables;
`qet_cases` says what the test can return.
-/
namespace PPLV.PolyFull
open PPLV.Lin PPLV.PolyOps

/-- the comparison `x.gen_sys == y.gen_sys` / `x.con_sys == y.con_sys` of two sorted systems -/
def sysEqB (a b : Sys) : Bool :=
  a.rows.length == b.rows.length && a.firstPending == b.firstPending
    && (List.zipWith FPoly.rowEquiv a.rows b.rows).all id

/-- :383-406, the branch that sorts and compares the generators -/
def qetGens (x y : FPoly) : Option Bool × FPoly × FPoly :=
  (some (sysEqB x.obtainSortedGenerators.p.gs y.obtainSortedGenerators.p.gs),
    x.obtainSortedGenerators, y.obtainSortedGenerators)
/-- :408-417, the branch that sorts and compares the constraints -/
def qetCons (x y : FPoly) : Option Bool × FPoly × FPoly :=
  (some (sysEqB x.obtainSortedConstraints.p.cs y.obtainSortedConstraints.p.cs),
    x.obtainSortedConstraints, y.obtainSortedConstraints)

/-- :367-381 over its tests: both systems minimized, the row counts differ, the numbers of equalities differ,
    there is no equality; the second component is `css_normalized` -/
def qetStage1 (c l n z : Bool) : Option Bool × Bool :=
  if c then if l then (some false, false) else if n then (some false, false) else (none, z) else (none, false)

/-- :383-406 over its tests; `xy` the two objects as they are, `(bg, ga)` what the comparison of the sorted
    generators gives -/
def qetStage2 {α : Type} (g l n z : Bool) (xy : α) (bg : Bool) (ga : α) : Option Bool × α :=
  if g then if l then (some false, xy) else if n then (some false, xy) else if z then (some bg, ga) else (none, xy)
  else (none, xy)

def qetStages {α : Type} (c l1 n1 z1 g l2 n2 z2 : Bool) (xy : α) (bg : Bool) (ga : α) (C : Option Bool × α) :
    Option Bool × α :=
  match (qetStage1 c l1 n1 z1).1 with
  | some b => (some b, xy)
  | none =>
    match (qetStage2 g l2 n2 z2 xy bg ga).1 with
    | some b => (some b, (qetStage2 g l2 n2 z2 xy bg ga).2)
    | none => if (qetStage1 c l1 n1 z1).2 then C else (none, xy)

theorem qet_eq (x y : FPoly) : x.quickEquivalenceTest y =
    if x.nnc then (none, x, y)
    else if x.st.somethingPending || y.st.somethingPending then (none, x, y)
    else qetStages (x.st.cMin && y.st.cMin) (x.p.cs.rows.length != y.p.cs.rows.length)
      ((x.p.cs.rows.filter (·.eq)).length != (y.p.cs.rows.filter (·.eq)).length)
      ((x.p.cs.rows.filter (·.eq)).length == 0)
      (x.st.gMin && y.st.gMin) (x.p.gs.rows.length != y.p.gs.rows.length)
      ((x.p.gs.rows.filter (·.eq)).length != (y.p.gs.rows.filter (·.eq)).length)
      ((x.p.gs.rows.filter (·.eq)).length == 0)
      (x, y) (sysEqB x.obtainSortedGenerators.p.gs y.obtainSortedGenerators.p.gs)
      (x.obtainSortedGenerators, y.obtainSortedGenerators) (qetCons x y) := rfl

theorem qetStage1_cases (c l n z : Bool) :
    qetStage1 c l n z = (some false, false) ∨
    ((qetStage1 c l n z).1 = none ∧ ((qetStage1 c l n z).2 = true → c = true)) := by
  unfold qetStage1
  cases c
  · exact Or.inr ⟨rfl, fun h => by cases h⟩
  · cases l
    · cases n
      · exact Or.inr ⟨rfl, fun _ => rfl⟩
      · exact Or.inl rfl
    · exact Or.inl rfl

theorem qetStage2_cases {α : Type} (g l n z : Bool) (xy : α) (bg : Bool) (ga : α) :
    qetStage2 g l n z xy bg ga = (some false, xy) ∨ qetStage2 g l n z xy bg ga = (none, xy) ∨
    (g = true ∧ qetStage2 g l n z xy bg ga = (some bg, ga)) := by
  unfold qetStage2
  cases g
  · exact Or.inr (Or.inl rfl)
  · cases l
    · cases n
      · cases z
        · exact Or.inr (Or.inl rfl)
        · exact Or.inr (Or.inr ⟨rfl, rfl⟩)
      · exact Or.inl rfl
    · exact Or.inl rfl

/-- the body answers "not `TVB_TRUE`" and leaves the objects alone, or it is the comparison of the sorted
    generators (both minimized), or the one of the sorted constraints (both minimized) -/
theorem qetStages_cases {α : Type} (c l1 n1 z1 g l2 n2 z2 : Bool) (xy : α) (bg : Bool) (ga : α)
    (C : Option Bool × α) :
    (∃ b, b ≠ some true ∧ qetStages c l1 n1 z1 g l2 n2 z2 xy bg ga C = (b, xy)) ∨
    (g = true ∧ qetStages c l1 n1 z1 g l2 n2 z2 xy bg ga C = (some bg, ga)) ∨
    (c = true ∧ qetStages c l1 n1 z1 g l2 n2 z2 xy bg ga C = C) := by
  unfold qetStages
  rcases qetStage1_cases c l1 n1 z1 with h1 | ⟨h1, hc⟩
  · rw [h1]; exact Or.inl ⟨some false, by decide, rfl⟩
  rw [h1]
  rcases qetStage2_cases g l2 n2 z2 xy bg ga with h2 | h2 | ⟨hg, h2⟩
  · rw [h2]; exact Or.inl ⟨some false, by decide, rfl⟩
  · rw [h2]
    rcases Bool.eq_false_or_eq_true (qetStage1 c l1 n1 z1).2 with hz | hz
    · exact Or.inr (Or.inr ⟨hc hz, by rw [hz]; rfl⟩)
    · exact Or.inl ⟨none, by decide, by rw [hz]; rfl⟩
  · rw [h2]; exact Or.inr (Or.inl ⟨hg, rfl⟩)

/-- what `quick_equivalence_test` can return -/
theorem qet_cases (x y : FPoly) :
    ((x.p.nnc = true ∨ (x.p.st.somethingPending || y.p.st.somethingPending) = true)
      ∧ x.quickEquivalenceTest y = (none, x, y)) ∨
    (x.p.nnc = false ∧ x.p.st.somethingPending = false ∧ y.p.st.somethingPending = false ∧
      ((∃ b, b ≠ some true ∧ x.quickEquivalenceTest y = (b, x, y)) ∨
       (x.p.st.gMin = true ∧ y.p.st.gMin = true ∧ x.quickEquivalenceTest y = qetGens x y) ∨
       (x.p.st.cMin = true ∧ y.p.st.cMin = true ∧ x.quickEquivalenceTest y = qetCons x y))) := by
  rw [qet_eq]
  rcases Bool.eq_false_or_eq_true x.p.nnc with hn | hn
  · exact Or.inl ⟨Or.inl hn, if_pos hn⟩
  rw [if_neg (by rw [FPoly.nnc, hn]; exact Bool.false_ne_true)]
  rcases Bool.eq_false_or_eq_true (x.p.st.somethingPending || y.p.st.somethingPending) with hp | hp
  · exact Or.inl ⟨Or.inr hp, if_pos hp⟩
  rw [if_neg (by rw [FPoly.st, FPoly.st, hp]; exact Bool.false_ne_true)]
  rw [Bool.or_eq_false_iff] at hp
  refine Or.inr ⟨hn, hp.1, hp.2, ?_⟩
  rcases qetStages_cases (x.st.cMin && y.st.cMin) _ _ _ (x.st.gMin && y.st.gMin) _ _ _ (x, y) _ _ (qetCons x y)
    with h | ⟨hg, h⟩ | ⟨hc, h⟩
  · exact Or.inl h
  · rw [Bool.and_eq_true] at hg; exact Or.inr (Or.inl ⟨hg.1, hg.2, h⟩)
  · rw [Bool.and_eq_true] at hc; exact Or.inr (Or.inr ⟨hc.1, hc.2, h⟩)

end PPLV.PolyFull

import PPLV.PolyFull.ProofsOpsAffineMinG2

/-!
# the field `eng` of the result of the invertible `affine_image` / `affine_preimage`

`MinG2` (ProofsOpsAffineMinG2.lean) = `EnginePair.minG ∧ EnginePair.minL` is kept by the invertible maps
(`minG2_affine`); with `enginePair_affine` this gives the whole `EnginePair` of the result from the one of
the receiver (`affineImage_eng`, `affinePreimage_eng`).  The `_minG2` theorems take `MinG2` of the
receiver as an explicit hypothesis.
-/
namespace PPLV.PolyFull
open PPLV.Lin PPLV.PolyOps
open PPLV.Conv (scalarProduct holds holdsAll Vec Sound SatCorrect Generated)

theorem affineImage_eng_minG2 (x : FPoly) (S : Set Val) (v : Nat) (e : LinExpr) (den : Int) (hx : x.Inv S)
    (hv : v < x.p.dim) (he : e.coeffs.length = x.p.dim) (hden : den ≠ 0)
    (hc : e.coeffs.getD v 0 ≠ 0) (hex : x.p.st.empty = false)
    (hcan : (x.affineImage v e den).p.st.canPend = true) (hL : MinG2 x.p.nnc x.npG) :
    EnginePair (x.affineImage v e den).p.nnc (x.affineImage v e den).p.dim (x.affineImage v e den).npC
      (x.affineImage v e den).npG (x.affineImage v e den).p.st.satC (x.affineImage v e den).p.st.satG
      (x.affineImage v e den).satC (x.affineImage v e den).satG ∧
    MinG2 (x.affineImage v e den).p.nnc (x.affineImage v e den).npG := by
  obtain ⟨q, hq, hR⟩ := affineImage_inv_eq x v e den hex hc
  obtain ⟨hst, hqn, hqd, hgs, hcs⟩ := affine_image_inv_shape x.p q v e den hex hc hq
  rw [hR] at hcan ⊢
  have hcp : x.p.st.canPend = true := by rw [← hst]; exact hcan
  obtain ⟨hcu, hgu⟩ := legal_canPend_up hx.legal hcp
  have hnpC : q.cs.rows.take q.cs.firstPending =
      x.npC.map (Fc v (inverseMap x.p.dim v e den).1 (inverseMap x.p.dim v e den).2) := by
    rw [hcs, if_pos hcu]; exact csAffinePreimage_take_Fc _ _ _ _
  have hnpG : q.gs.rows.take q.gs.firstPending = x.npG.map (Fg v (sgnE e den) (sgnD den)) := by
    rw [hgs, if_pos hgu, gsSigned_eq]; exact gsAffineImage_take_Fg _ _ _ _ (sgnE_getD_ne e den v hc)
  show EnginePair q.nnc q.dim (q.cs.rows.take q.cs.firstPending) (q.gs.rows.take q.gs.firstPending)
    q.st.satC q.st.satG x.satC x.satG ∧ MinG2 q.nnc (q.gs.rows.take q.gs.firstPending)
  rw [hnpC, hnpG, hqn, hqd, hst]
  have D := affData_image x.p.nnc x.p.dim v e den he hv hden hc
  have hgl : ∀ g ∈ x.npG, g.cf.length = x.p.dim :=
    fun g hg' => (hx.wf.gs_wf hex hgu g (List.mem_of_mem_take hg')).1
  have hM := minG2_affine D x.npG hgl hL
  exact ⟨enginePair_affine D x.npC x.npG
    (fun c hc' => hx.wf.cs_len hex hcu c (List.mem_of_mem_take hc')) hgl _ _ _ _ (hx.eng hex hcp)
    (fun j hj => (hM j hj).1) (fun j hj => (hM j hj).2), hM⟩

theorem affinePreimage_eng_minG2 (x : FPoly) (S : Set Val) (v : Nat) (e : LinExpr) (den : Int) (hx : x.Inv S)
    (hv : v < x.p.dim) (he : e.coeffs.length = x.p.dim) (hden : den ≠ 0)
    (hc : e.coeffs.getD v 0 ≠ 0) (hex : x.p.st.empty = false)
    (hcan : (x.affinePreimage v e den).p.st.canPend = true) (hL : MinG2 x.p.nnc x.npG) :
    EnginePair (x.affinePreimage v e den).p.nnc (x.affinePreimage v e den).p.dim (x.affinePreimage v e den).npC
      (x.affinePreimage v e den).npG (x.affinePreimage v e den).p.st.satC (x.affinePreimage v e den).p.st.satG
      (x.affinePreimage v e den).satC (x.affinePreimage v e den).satG ∧
    MinG2 (x.affinePreimage v e den).p.nnc (x.affinePreimage v e den).npG := by
  obtain ⟨q, hq, hR⟩ := affinePreimage_inv_eq x v e den hex hc
  obtain ⟨hst, hqn, hqd, hcs, hgs⟩ := affine_preimage_inv_shape x.p q v e den hex hc hq
  rw [hR] at hcan ⊢
  have hcp : x.p.st.canPend = true := by rw [← hst]; exact hcan
  obtain ⟨hcu, hgu⟩ := legal_canPend_up hx.legal hcp
  have hnpC : q.cs.rows.take q.cs.firstPending = x.npC.map (Fc v (sgnE e den) (sgnD den)) := by
    rw [hcs, if_pos hcu, csSigned_eq]; exact csAffinePreimage_take_Fc _ _ _ _
  have hnpG : q.gs.rows.take q.gs.firstPending =
      x.npG.map (Fg v (inverseMap x.p.dim v e den).1 (inverseMap x.p.dim v e den).2) := by
    rw [hgs, if_pos hgu]
    exact gsAffineImage_take_Fg _ _ _ _ (inverseMap_getD x.p.dim v e den hv hden)
  show EnginePair q.nnc q.dim (q.cs.rows.take q.cs.firstPending) (q.gs.rows.take q.gs.firstPending)
    q.st.satC q.st.satG x.satC x.satG ∧ MinG2 q.nnc (q.gs.rows.take q.gs.firstPending)
  rw [hnpC, hnpG, hqn, hqd, hst]
  have D := affData_preimage x.p.nnc x.p.dim v e den he hv hden hc
  have hgl : ∀ g ∈ x.npG, g.cf.length = x.p.dim :=
    fun g hg' => (hx.wf.gs_wf hex hgu g (List.mem_of_mem_take hg')).1
  have hM := minG2_affine D x.npG hgl hL
  exact ⟨enginePair_affine D x.npC x.npG
    (fun c hc' => hx.wf.cs_len hex hcu c (List.mem_of_mem_take hc')) hgl _ _ _ _ (hx.eng hex hcp)
    (fun j hj => (hM j hj).1) (fun j hj => (hM j hj).2), hM⟩

/-- `MinG2` of the non-pending generators from the engine clause of the invariant -/
theorem minG2_of_eng {nnc : Bool} {n : Nat} {cs gs : List Row} {fC fG : Bool} {sC sG : BitMat}
    (E : EnginePair nnc n cs gs fC fG sC sG) : MinG2 nnc gs :=
  fun j hj => ⟨E.minG j hj, E.minL j hj⟩

theorem canPend_of_result_image (x : FPoly) (v : Nat) (e : LinExpr) (den : Int)
    (hc : e.coeffs.getD v 0 ≠ 0) (hex : x.p.st.empty = false)
    (hcan : (x.affineImage v e den).p.st.canPend = true) : x.p.st.canPend = true := by
  obtain ⟨q, hq, hp⟩ := affineImage_inv_p x v e den hex hc
  obtain ⟨hst, _⟩ := affine_image_inv_shape x.p q v e den hex hc hq
  rw [hp, hst] at hcan; exact hcan

theorem canPend_of_result_preimage (x : FPoly) (v : Nat) (e : LinExpr) (den : Int)
    (hc : e.coeffs.getD v 0 ≠ 0) (hex : x.p.st.empty = false)
    (hcan : (x.affinePreimage v e den).p.st.canPend = true) : x.p.st.canPend = true := by
  obtain ⟨q, hq, hp⟩ := affinePreimage_inv_p x v e den hex hc
  obtain ⟨hst, _⟩ := affine_preimage_inv_shape x.p q v e den hex hc hq
  rw [hp, hst] at hcan; exact hcan

/-- the field `eng` of `x.affineImage v e den`, invertible case -/
theorem affineImage_eng (x : FPoly) (S : Set Val) (v : Nat) (e : LinExpr) (den : Int) (hx : x.Inv S)
    (hv : v < x.p.dim) (he : e.coeffs.length = x.p.dim) (hden : den ≠ 0)
    (hc : e.coeffs.getD v 0 ≠ 0) (hex : x.p.st.empty = false)
    (hcan : (x.affineImage v e den).p.st.canPend = true) :
    EnginePair (x.affineImage v e den).p.nnc (x.affineImage v e den).p.dim (x.affineImage v e den).npC
      (x.affineImage v e den).npG (x.affineImage v e den).p.st.satC (x.affineImage v e den).p.st.satG
      (x.affineImage v e den).satC (x.affineImage v e den).satG :=
  (affineImage_eng_minG2 x S v e den hx hv he hden hc hex hcan
    (minG2_of_eng (hx.eng hex (canPend_of_result_image x v e den hc hex hcan)))).1

/-- the field `eng` of `x.affinePreimage v e den`, invertible case -/
theorem affinePreimage_eng (x : FPoly) (S : Set Val) (v : Nat) (e : LinExpr) (den : Int) (hx : x.Inv S)
    (hv : v < x.p.dim) (he : e.coeffs.length = x.p.dim) (hden : den ≠ 0)
    (hc : e.coeffs.getD v 0 ≠ 0) (hex : x.p.st.empty = false)
    (hcan : (x.affinePreimage v e den).p.st.canPend = true) :
    EnginePair (x.affinePreimage v e den).p.nnc (x.affinePreimage v e den).p.dim (x.affinePreimage v e den).npC
      (x.affinePreimage v e den).npG (x.affinePreimage v e den).p.st.satC (x.affinePreimage v e den).p.st.satG
      (x.affinePreimage v e den).satC (x.affinePreimage v e den).satG :=
  (affinePreimage_eng_minG2 x S v e den hx hv he hden hc hex hcan
    (minG2_of_eng (hx.eng hex (canPend_of_result_preimage x v e den hc hex hcan)))).1

/-- **`affine_image`, the whole object — unconditional under `MinG2` of the receiver**, which the result
    satisfies again (invertible case; in the other cases the result cannot have pending rows). -/
theorem affineImage_refines_minG2 (G : GlueFacts) (x : FPoly) (ref : RefPoly) (v : Nat) (e : LinExpr)
    (den : Int) (hn : ref.n = x.p.dim) (hnnc : ref.nnc = x.p.nnc) (hwf : WF ref.n ref.cs)
    (hv : v < x.p.dim) (he : e.coeffs.length = x.p.dim) (hden : den ≠ 0) (hx : x.Inv (sem ref.cs))
    (hL : x.p.st.empty = false → x.p.st.canPend = true → MinG2 x.p.nnc x.npG) :
    (x.affineImage v e den).Inv (sem (ref.affineImage v e den).cs) ∧ x.SameShape (x.affineImage v e den) ∧
    (e.coeffs.getD v 0 ≠ 0 → x.p.st.empty = false → (x.affineImage v e den).p.st.canPend = true →
      MinG2 (x.affineImage v e den).p.nnc (x.affineImage v e den).npG) := by
  have hmain := affineImage_refines_partial2 G x ref v e den hn hnnc hwf hv he hden hx
    (fun hc hex hR => affineImage_denNPg x _ v e den hx hv he hden hc hex hR)
    (fun hc hex hcan => (affineImage_eng_minG2 x _ v e den hx hv he hden hc hex hcan
      (hL hex (canPend_of_result_image x v e den hc hex hcan))).1)
  exact ⟨hmain.1, hmain.2, fun hc hex hcan => (affineImage_eng_minG2 x _ v e den hx hv he hden hc hex hcan
      (hL hex (canPend_of_result_image x v e den hc hex hcan))).2⟩

theorem affinePreimage_refines_minG2 (G : GlueFacts) (x : FPoly) (ref : RefPoly) (v : Nat) (e : LinExpr)
    (den : Int) (hn : ref.n = x.p.dim) (hnnc : ref.nnc = x.p.nnc) (hwf : WF ref.n ref.cs)
    (hv : v < x.p.dim) (he : e.coeffs.length = x.p.dim) (hden : den ≠ 0) (hx : x.Inv (sem ref.cs))
    (hL : x.p.st.empty = false → x.p.st.canPend = true → MinG2 x.p.nnc x.npG) :
    (x.affinePreimage v e den).Inv (sem (ref.affinePreimage v e den).cs) ∧
      x.SameShape (x.affinePreimage v e den) ∧
    (e.coeffs.getD v 0 ≠ 0 → x.p.st.empty = false → (x.affinePreimage v e den).p.st.canPend = true →
      MinG2 (x.affinePreimage v e den).p.nnc (x.affinePreimage v e den).npG) := by
  have hmain := affinePreimage_refines_partial2 G x ref v e den hn hnnc hwf hv he hden hx
    (fun hc hex hR => affinePreimage_denNPg x _ v e den hx hv he hden hc hex hR)
    (fun hc hex hcan => (affinePreimage_eng_minG2 x _ v e den hx hv he hden hc hex hcan
      (hL hex (canPend_of_result_preimage x v e den hc hex hcan))).1)
  exact ⟨hmain.1, hmain.2, fun hc hex hcan => (affinePreimage_eng_minG2 x _ v e den hx hv he hden hc hex hcan
      (hL hex (canPend_of_result_preimage x v e den hc hex hcan))).2⟩

theorem generalizedAffineImage_refines_minG2 (G : GlueFacts) (x : FPoly) (ref : RefPoly) (v : Nat) (r : Rel)
    (e : LinExpr) (den : Int) (hn : ref.n = x.p.dim) (hnnc : ref.nnc = x.p.nnc) (hwf : WF ref.n ref.cs)
    (hv : v < x.p.dim) (he : e.coeffs.length = x.p.dim) (hden : den ≠ 0) (hx : x.Inv (sem ref.cs))
    (hr : r = .le ∨ r = .eq ∨ r = .ge)
    (hL : x.p.st.empty = false → x.p.st.canPend = true → MinG2 x.p.nnc x.npG) :
    (x.generalizedAffineImage v r e den).Inv (sem (ref.genAffineImage v r e den).cs) ∧
      x.SameShape (x.generalizedAffineImage v r e den) :=
  generalizedAffineImage_of_affineImage G x ref v r e den hn hwf hv he hden hr
    ⟨(affineImage_refines_minG2 G x ref v e den hn hnnc hwf hv he hden hx hL).1,
     (affineImage_refines_minG2 G x ref v e den hn hnnc hwf hv he hden hx hL).2.1⟩

end PPLV.PolyFull

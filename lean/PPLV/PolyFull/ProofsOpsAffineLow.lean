import PPLV.PolyFull.ProofsOpsAffinePreimage
import PPLV.PolyOps.ProofsCon2
import PPLV.Conv.ProofsCompleteEmb2
import PPLV.Conv.ProofsSimp4

/-!
# `LowLevel` is kept by `Constraint_System::affine_preimage`

At cone level the rewritten row `r'` satisfies `r' · X = r · Y` (up to a positive factor) where `Y` is
`den · X` with the column of `var` replaced by `expr · X`; `Y` keeps the divisor and epsilon columns
up to the factor `den > 0`, so the low-level constraints are carried over.
-/
namespace PPLV.PolyFull
open PPLV.Lin PPLV.PolyOps
open PPLV.Conv (scalarProduct holds holdsAll Vec sp_eq_sum sp_comm)

/-- the coefficient vector of a row as the engine sees it -/
def Lv (nnc : Bool) (r : Row) : Vec := r.b :: (r.cf ++ (if nnc then [r.eps] else []))

theorem toL_v (nnc : Bool) (r : Row) : (toL nnc r).v = Lv nnc r := rfl
theorem toL_le (nnc : Bool) (r : Row) : (toL nnc r).le = r.eq := rfl

theorem tail_getD (nnc : Bool) (eps : Int) (k : Nat) (d : Int) :
    (if nnc then [d * eps] else []).getD k 0 = d * (if nnc then [eps] else []).getD k 0 := by
  cases nnc
  · simp
  · cases k <;> simp

theorem getD_append_lt (l l' : List Int) (j : Nat) (h : j < l.length) : (l ++ l').getD j 0 = l.getD j 0 := by
  simp [List.getD_eq_getElem?_getD, List.getElem?_append_left h]

theorem getD_append_ge (l l' : List Int) (j : Nat) (h : l.length ≤ j) :
    (l ++ l').getD j 0 = l'.getD (j - l.length) 0 := by
  simp [List.getD_eq_getElem?_getD, List.getElem?_append_right h]

/-- the row the loop body builds before `strong_normalize()` -/
def preRow (v : Nat) (E : LinExpr) (d : Int) (r : Row) : Row :=
  { eq := r.eq, b := d * r.b + r.cf.getD v 0 * E.k,
    cf := (addMul (r.cf.getD v 0) E.coeffs (r.cf.map (d * ·))).set v (r.cf.getD v 0 * E.coeffs.getD v 0),
    eps := d * r.eps }

theorem Lv_preRow_getD (nnc : Bool) (n v : Nat) (E : LinExpr) (d : Int) (r : Row)
    (hr : r.cf.length = n) (hE : E.coeffs.length = n) (hv : v < n) (i : Nat) :
    (Lv nnc (preRow v E d r)).getD i 0 =
      d * (Lv nnc r).getD i 0 + r.cf.getD v 0 * (E.k :: E.coeffs).getD i 0
        - (if i = v + 1 then d * r.cf.getD v 0 else 0) := by
  cases i with
  | zero => simp [Lv, preRow]
  | succ j =>
    show ((preRow v E d r).cf ++ (if nnc then [(preRow v E d r).eps] else [])).getD j 0 =
      d * (r.cf ++ (if nnc then [r.eps] else [])).getD j 0 + r.cf.getD v 0 * E.coeffs.getD j 0 - _
    have hlen : (preRow v E d r).cf.length = n := by
      simp [preRow, addMul_length, hr]
    by_cases hj : j < n
    · rw [getD_append_lt _ _ _ (by rw [hlen]; exact hj), getD_append_lt _ _ _ (by rw [hr]; exact hj)]
      show ((addMul (r.cf.getD v 0) E.coeffs (r.cf.map (d * ·))).set v _).getD j 0 = _
      by_cases hjv : j = v
      · subst hjv
        rw [List.getD_eq_getElem?_getD, List.getElem?_set_self (by simp [addMul_length, hr, hj])]
        simp
      · have hne : ¬ (j + 1 = v + 1) := by omega
        rw [if_neg hne, List.getD_eq_getElem?_getD, List.getElem?_set_ne (Ne.symm hjv),
          ← List.getD_eq_getElem?_getD, getD_addMul _ _ _ (by simp [hE, hr]), getD_map_mul']
        ring
    · have hj' : n ≤ j := Nat.le_of_not_lt hj
      have hne : ¬ (j + 1 = v + 1) := by omega
      rw [if_neg hne, getD_append_ge _ _ _ (by rw [hlen]; exact hj'),
        getD_append_ge _ _ _ (by rw [hr]; exact hj'), hlen, hr]
      have hE0 : E.coeffs.getD j 0 = 0 := by
        rw [List.getD_eq_getElem?_getD, List.getElem?_eq_none (by rw [hE]; exact hj')]; rfl
      rw [hE0]
      show (if nnc then [d * r.eps] else []).getD (j - n) 0 = _
      rw [tail_getD]; ring

theorem Lv_length (nnc : Bool) (n : Nat) (r : Row) (h : r.cf.length = n) :
    (Lv nnc r).length = numCols nnc n := by
  unfold Lv numCols; cases nnc <;> simp [h]

theorem Lv_getD_var (nnc : Bool) (n v : Nat) (r : Row) (h : r.cf.length = n) (hv : v < n) :
    (Lv nnc r).getD (v + 1) 0 = r.cf.getD v 0 := by
  show (r.cf ++ _).getD v 0 = _
  rw [getD_append_lt _ _ _ (by rw [h]; exact hv)]

/-- `Y`: `d · X` with the column of `var` replaced by `expr · X` -/
def subVec (N v : Nat) (E : LinExpr) (d : Int) (X : Vec) : Vec :=
  (List.range N).map fun i => if i = v + 1 then scalarProduct (E.k :: E.coeffs) X else d * X.getD i 0

theorem subVec_length (N v : Nat) (E : LinExpr) (d : Int) (X : Vec) : (subVec N v E d X).length = N := by
  simp [subVec]

theorem subVec_getD (N v : Nat) (E : LinExpr) (d : Int) (X : Vec) (i : Nat) (hi : i < N) :
    (subVec N v E d X).getD i 0 =
      if i = v + 1 then scalarProduct (E.k :: E.coeffs) X else d * X.getD i 0 := by
  simp [subVec, List.getD_eq_getElem?_getD, hi]

theorem sp_subVec (nnc : Bool) (n v : Nat) (E : LinExpr) (d : Int) (r : Row) (X : Vec)
    (hr : r.cf.length = n) (hv : v < n) :
    scalarProduct (Lv nnc r) (subVec (numCols nnc n) v E d X) =
      d * (∑ i ∈ Finset.range (numCols nnc n), (Lv nnc r).getD i 0 * X.getD i 0) +
        r.cf.getD v 0 * (scalarProduct (E.k :: E.coeffs) X - d * X.getD (v + 1) 0) := by
  have hvN : v + 1 < numCols nnc n := by unfold numCols; omega
  rw [sp_eq_sum (numCols nnc n) _ (subVec _ v E d X) (by rw [subVec_length])]
  have h2 : ∀ i ∈ Finset.range (numCols nnc n),
      (Lv nnc r).getD i 0 * (subVec (numCols nnc n) v E d X).getD i 0 =
        d * ((Lv nnc r).getD i 0 * X.getD i 0)
          + (if i = v + 1 then (Lv nnc r).getD i 0 * (scalarProduct (E.k :: E.coeffs) X - d * X.getD i 0) else 0) := by
    intro i hi
    rw [subVec_getD _ _ _ _ _ _ (Finset.mem_range.mp hi)]
    split_ifs <;> ring
  rw [Finset.sum_congr rfl h2, Finset.sum_add_distrib, Finset.sum_ite_eq', Lv_getD_var nnc n v r hr hv,
    ← Finset.mul_sum]
  have hmem : v + 1 ∈ Finset.range (numCols nnc n) := Finset.mem_range.mpr hvN
  simp only [hmem, if_true]

theorem sp_preRow (nnc : Bool) (n v : Nat) (E : LinExpr) (d : Int) (r : Row) (X : Vec)
    (hr : r.cf.length = n) (hE : E.coeffs.length = n) (hv : v < n) (hX : X.length ≤ numCols nnc n) :
    scalarProduct (Lv nnc (preRow v E d r)) X = scalarProduct (Lv nnc r) (subVec (numCols nnc n) v E d X) := by
  have hvN : v + 1 < numCols nnc n := by unfold numCols; omega
  rw [sp_subVec nnc n v E d r X hr hv, sp_eq_sum _ _ X hX]
  have hE' : scalarProduct (E.k :: E.coeffs) X =
      ∑ i ∈ Finset.range (numCols nnc n), (E.k :: E.coeffs).getD i 0 * X.getD i 0 := sp_eq_sum _ _ X hX
  have h1 : ∀ i ∈ Finset.range (numCols nnc n),
      (Lv nnc (preRow v E d r)).getD i 0 * X.getD i 0 =
        d * ((Lv nnc r).getD i 0 * X.getD i 0) + r.cf.getD v 0 * ((E.k :: E.coeffs).getD i 0 * X.getD i 0)
          - (if i = v + 1 then d * r.cf.getD v 0 * X.getD i 0 else 0) := by
    intro i _
    rw [Lv_preRow_getD nnc n v E d r hr hE hv i]
    split_ifs <;> ring
  rw [Finset.sum_congr rfl h1, Finset.sum_sub_distrib, Finset.sum_add_distrib, Finset.sum_ite_eq',
    ← Finset.mul_sum, ← Finset.mul_sum, ← hE']
  have hmem : v + 1 ∈ Finset.range (numCols nnc n) := Finset.mem_range.mpr hvN
  simp only [hmem, if_true]
  ring

/-! ## normalisation -/

theorem Lv_divBy (nnc : Bool) (r : Row) (g : Int) : Lv nnc (r.divBy g) = (Lv nnc r).map (· / g) := by
  cases nnc <;> simp [Lv, Row.divBy]

theorem Lv_scale (nnc : Bool) (r : Row) (k : Int) : Lv nnc (r.scale k) = (Lv nnc r).map (k * ·) := by
  cases nnc <;> simp [Lv, Row.scale]

theorem sp_Lv_normalize (nnc : Bool) (r : Row) :
    ∃ g : Int, 0 < g ∧ r.normalize.eq = r.eq ∧
      ∀ X, scalarProduct (Lv nnc r) X = g * scalarProduct (Lv nnc r.normalize) X := by
  obtain ⟨g, hg, hb, he, hcf, hn⟩ := normalize_eq r
  refine ⟨g, hg, by rw [hn]; rfl, fun X => ?_⟩
  have hdiv : ∀ a ∈ Lv nnc r, g ∣ a := by
    intro a ha
    unfold Lv at ha
    rcases List.mem_cons.mp ha with rfl | ha
    · exact hb
    · rcases List.mem_append.mp ha with ha | ha
      · exact hcf a ha
      · cases nnc
        · simp at ha
        · simp at ha; rw [ha]; exact he
  rw [hn, Lv_divBy, sp_comm, PPLV.Conv.sp_map_div g X (Lv nnc r) hdiv, sp_comm]

theorem holds_of_sp_pos (l l' : PPLV.Conv.LRow) (X X' : Vec) (t : Int) (ht : 0 < t) (hle : l.le = l'.le)
    (h : scalarProduct l.v X = t * scalarProduct l'.v X') : holds l X ↔ holds l' X' := by
  unfold holds
  rw [hle, h]
  split
  · constructor
    · intro h0
      rcases mul_eq_zero.mp h0 with h1 | h1
      · omega
      · exact h1
    · intro h0; rw [h0, mul_zero]
  · constructor
    · intro h0
      by_contra hneg
      have : t * scalarProduct l'.v X' < 0 := mul_neg_of_pos_of_neg ht (not_le.mp hneg)
      omega
    · intro h0; exact mul_nonneg (le_of_lt ht) h0

theorem holds_strongNormalize (nnc : Bool) (r : Row) (X : Vec) :
    holds (toL nnc r.strongNormalize) X ↔ holds (toL nnc r) X := by
  obtain ⟨g, hg, heq, hsp⟩ := sp_Lv_normalize nnc r
  have h1 : holds (toL nnc r) X ↔ holds (toL nnc r.normalize) X :=
    holds_of_sp_pos _ _ X X g hg (by show r.eq = r.normalize.eq; rw [heq]) (hsp X)
  rw [h1]
  unfold Row.strongNormalize
  rcases signNormalize_eq r.normalize with h | ⟨he, h⟩
  · rw [h]
  · rw [h]
    unfold holds
    have hle : (toL nnc (r.normalize.scale (-1))).le = true := he
    have hle' : (toL nnc r.normalize).le = true := he
    rw [hle, hle', if_pos rfl, if_pos rfl, toL_v, toL_v, Lv_scale, sp_comm, PPLV.Conv.sp_map_mul, sp_comm]
    constructor <;> intro h0 <;> omega

/-! ## one row, then the system -/

theorem scale_one (r : Row) : r.scale 1 = r := by
  cases r; simp [Row.scale]

theorem conRow_pre (v : Nat) (E : LinExpr) (d : Int) (r : Row) (hc : r.cf.getD v 0 ≠ 0) :
    conRowAffinePreimage v E d r = (preRow v E d r).strongNormalize := by
  have h1 : (if (d != 1) = true then r.scale d else r) = r.scale d := by
    by_cases hd : d = 1
    · subst hd; simp [scale_one]
    · simp [hd]
  have h2 : (if (E.coeffs.getD v 0 == 0) = true then 0 else r.cf.getD v 0 * E.coeffs.getD v 0) =
      r.cf.getD v 0 * E.coeffs.getD v 0 := by
    split
    · rename_i h; rw [beq_iff_eq.mp h, mul_zero]
    · rfl
  unfold conRowAffinePreimage
  simp only [bne_iff_ne, ne_eq, hc, not_false_eq_true, if_true]
  have h1' : (if ¬ d = 1 then r.scale d else r) = r.scale d := by
    by_cases hd : d = 1
    · subst hd; simp [scale_one]
    · simp [hd]
  rw [h1']
  congr 1
  simp only [preRow, Row.scale]
  congr 1
  rw [h2]

theorem holds_conRow (nnc : Bool) (n v : Nat) (E : LinExpr) (d : Int) (r : Row) (X : Vec)
    (hr : r.cf.length = n) (hE : E.coeffs.length = n) (hv : v < n) (hd : 0 < d)
    (hX : X.length ≤ numCols nnc n) :
    holds (toL nnc (conRowAffinePreimage v E d r)) X ↔
      holds (toL nnc r) (subVec (numCols nnc n) v E d X) := by
  by_cases hc : r.cf.getD v 0 = 0
  · have hid : conRowAffinePreimage v E d r = r := by
      unfold conRowAffinePreimage
      have hne : ¬ ((r.cf.getD v 0 != 0) = true) := by rw [hc]; decide
      simp only [hne, Bool.false_eq_true, if_false]
    rw [hid]
    refine (holds_of_sp_pos (toL nnc r) (toL nnc r) _ X d hd rfl ?_).symm
    rw [toL_v, sp_subVec nnc n v E d r X hr hv, hc, zero_mul, add_zero, ← sp_eq_sum _ _ X hX]
  · rw [conRow_pre v E d r hc, holds_strongNormalize]
    unfold holds
    rw [toL_v, toL_v, sp_preRow nnc n v E d r X hr hE hv hX]
    exact Iff.rfl

/-- **`Constraint_System::affine_preimage` keeps the low-level constraints entailed** (`den > 0`) -/
theorem LowLevel_csAffinePreimage (nnc : Bool) (n v : Nat) (E : LinExpr) (d : Int) (rows : List Row)
    (hlen : ∀ r ∈ rows, r.cf.length = n) (hE : E.coeffs.length = n) (hv : v < n) (hd : 0 < d)
    (h : LowLevel nnc n rows) :
    LowLevel nnc n ((rows.map (conRowAffinePreimage v E d)).map Row.strongNormalize) := by
  intro X hX hall
  have hY : holdsAll (rows.map (toL nnc)) (subVec (numCols nnc n) v E d X) := by
    intro l hl
    obtain ⟨r, hr, rfl⟩ := List.mem_map.mp hl
    have hm : toL nnc (conRowAffinePreimage v E d r).strongNormalize ∈
        ((rows.map (conRowAffinePreimage v E d)).map Row.strongNormalize).map (toL nnc) :=
      List.mem_map.mpr ⟨_, List.mem_map.mpr ⟨_, List.mem_map.mpr ⟨r, hr, rfl⟩, rfl⟩, rfl⟩
    have := hall _ hm
    rw [holds_strongNormalize] at this
    exact (holds_conRow nnc n v E d r X (hlen r hr) hE hv hd hX).mp this
  obtain ⟨h0, h1⟩ := h _ (by rw [subVec_length]) hY
  have hN0 : 0 < numCols nnc n := by unfold numCols; omega
  rw [subVec_getD _ _ _ _ _ 0 hN0, if_neg (by omega)] at h0
  have hX0 : 0 ≤ X.getD 0 0 := (mul_nonneg_iff_of_pos_left hd).mp h0
  refine ⟨hX0, fun hn => ?_⟩
  obtain ⟨h2, h3⟩ := h1 hn
  have hN1 : n + 1 < numCols nnc n := by rw [hn]; unfold numCols; simp
  rw [subVec_getD _ _ _ _ _ (n + 1) hN1, if_neg (by omega)] at h2 h3
  rw [subVec_getD _ _ _ _ _ 0 hN0, if_neg (by omega)] at h3
  exact ⟨(mul_nonneg_iff_of_pos_left hd).mp h2, le_of_mul_le_mul_left h3 hd⟩

end PPLV.PolyFull

import PPLV.PolyFull.ProofsGlue7
import PPLV.PolyFull.ProofsGlueCompare
import PPLV.PolyFull.ProofsGluePrepG

/-!
# `GlueFacts` from `ConvContract`

`glueFacts_of_contract`: every field of `GlueFacts` from the conversion contract:
`update_generators`, `update_constraints`, `minimize`, `is_empty`, the two "description required"
helpers, and of `process_pending_constraints/generators` everything from
`sort_pending_and_remove_duplicates` on (`ppcTail_facts`, `ppgTail_facts`), plus the fact that the
preparation steps keep topology, dimension, the other system and all status flags but `sat_c`/`sat_g`
(`ppcPrepared_same`, `ppgPrepared_same`).

`compare` is exact on the rows that matter (`cmpExactC`, `cmpExactG`, ProofsGlueCompare), so
`sort_pending_and_remove_duplicates` drops only rows whose engine reading is among the non-pending ones.

The preparation steps of `process_pending_constraints/generators` (`sat_c := transpose(sat_g)`,
`obtain_sorted_constraints_with_sat_c()`: transposition, `sort_and_remove_with_sat`, transposition back)
keep the pending index, the row sets and the minimal double description pair with both matrices exact
(`sortKeepsPairC`, ProofsGluePrepC; `sortKeepsPairG`, ProofsGluePrepG): the non-pending rows of a minimal pair are
duplicate free (`EnginePair.nodupC/G`), so the sort is a permutation of the pairs (row, saturation row) and
leaves no garbage slot (`sortAndRemoveWithSat_nodup`); `SatCorrect` is a property of the pairs
(`satCorrect_iff_pairs`), so the sorted matrix is exact again (`sortWithSat_keeps`, for either system); `Generated` does not depend on the order (`generated_perm`, ProofsGlueGenPerm);
`EnginePair.permC/permG`; the transpositions by `PPLV.Conv.satCorrect_transpose`, with the widths of the
matrices that `EnginePair.satC/satG` record (`Bit_Matrix::transpose_assign` turns the width into the height).
-/
namespace PPLV.PolyFull
open PPLV.Lin PPLV.PolyOps
open PPLV.Conv (LRow BRow Vec Sound SatCorrect holds holdsAll Generated)

theorem processPendingConstraints_facts (C : ConvContract) (hSort : SortKeepsPairC) : PpcFact := by
  intro x S hx he hcp
  rw [ppc_eq]
  obtain ⟨h1, h2, h3, h4⟩ := hSort x S hx he hcp
  obtain ⟨s1, s2, s3, s4⟩ := ppcPrepared_same x
  exact ppcTail_facts C cmpExactC x x.ppcPrep S hx he hcp ⟨s1, s2, s3, s4.exists, h1, h2, h3, h4⟩

theorem processPendingGenerators_facts (C : ConvContract) (hSort : SortKeepsPairG) : PpgFact := by
  intro x S hx he hgp
  rw [ppg_eq]
  obtain ⟨h1, h2, h3, h4⟩ := hSort x S hx he hgp
  obtain ⟨s1, s2, s3, s4⟩ := ppgPrepared_same x
  exact ppgTail_facts C cmpExactG x x.ppgPrep S hx he hgp ⟨s1, s2, s3, s4.exists, h1, h2, h3, h4⟩

/-- **`GlueFacts` from the conversion contract** -/
theorem glueFacts_of_contract (C : ConvContract) : GlueFacts :=
  have hG : UpdGFact := updateGenerators_facts C
  have hC : UpdCFact := updateConstraints_facts C
  have hPc : PpcFact := processPendingConstraints_facts C sortKeepsPairC
  have hPg : PpgFact := processPendingGenerators_facts C sortKeepsPairG
  have hM : MinFact := minimize_facts hG hC hPc hPg
  { updG := hG
    updC := hC
    ppc := hPc
    ppg := hPg
    minimize := hM
    isEmpty := isEmpty_facts hM
    needCons := needCons_facts hC hPg
    needGens := needGens_facts hG hPc }

end PPLV.PolyFull

import PPLV.PolyFull.ProofsObsLoops
import PPLV.PolyFull.ProofsObsIncluded
import PPLV.PolyFull.ProofsObsQet
import PPLV.PolyFull.ProofsObsContains
import PPLV.PolyFull.ProofsObsSort
import PPLV.PolyFull.ProofsObs7
import PPLV.PolyFull.ProofsObsEquals
import PPLV.PolyFull.ProofsObsRelation
import PPLV.PolyFull.ProofsGlueEx

/-!
# The answers of the binary observers are the reference's answers

All of `ProofsObs*.lean`; none of the theorems named here has a hypothesis about the result:

* `includedLoops_iff` (ProofsObsLoops): the sign tests of the two loops of `is_included_in` succeed iff
  `genSem ⊆ conSem` — both directions, NNC included, no legality hypothesis on the constraint rows;
* `isIncludedIn_facts` (ProofsObsIncluded, from `GlueFacts`): `x.is_included_in(y)` keeps `Inv S` / `Inv T` and
  answers `true ↔ S ⊆ T`;
* `sortedObsKeep` (ProofsObsSort, ProofsObs7): `obtain_sorted_generators()` / `obtain_sorted_constraints()` keep `Inv`
  on an object with the system minimized and nothing pending;
* `quickEquivalenceTest_true_sound` (ProofsObsQet, ProofsObs7): states keep `Inv`, `TVB_TRUE` only of equal sets;
* `contains_facts`, `contains_refines` (ProofsObsContains, ProofsObs7): `x.contains(y)` keeps `Inv`, answers
  `true ↔ T ⊆ S`, i.e. `RefPoly.contains`;
* `equals_facts` (ProofsObsEquals): `operator==` keeps `Inv`, answers `true` only of equal sets, and of all equal
  sets unless `quick_equivalence_test` answered `TVB_FALSE` (hypothesis `QetFalseSound`: the soundness
  of that answer needs the uniqueness of sorted minimal forms, which `FPoly.Inv` does not carry);
* `relationWithGen_facts` (ProofsObsRelation): `relation_with(g)` keeps `Inv` and answers `true` iff `S` is
  non-empty and subsumes the generator (`Subsumes`, the right-hand side of K1's `subsumes_spec`).

Below: the hypotheses are satisfiable on non-trivial instances.
-/
namespace PPLV.PolyFull
open PPLV.Lin PPLV.PolyOps

/-! ### `includedLoops_iff` on an NNC instance: point `(1,1)`, closure point `(0,0)`, ray `(1,0)` against
    `x ≥ 0`, `y > -1`, and the equality-free strict row `x + y > 0` that the closure point only meets
    non-strictly -/

def exGs : List Row := [⟨false, 1, [1, 1], 1⟩, ⟨false, 1, [0, 0], 0⟩, ⟨false, 0, [1, 0], 0⟩]
def exCs : List Row := [⟨false, 0, [1, 0], 0⟩, ⟨false, 1, [0, 1], -1⟩, ⟨false, 0, [1, 1], -1⟩]

theorem exGs_wf : ∀ r ∈ exGs, r.genWF true 2 := by
  intro r hr
  simp only [exGs, List.mem_cons, List.not_mem_nil, or_false] at hr
  rcases hr with rfl | rfl | rfl <;> (unfold Row.genWF; simp)

theorem exGs_pt : ∃ r ∈ exGs, r.isPoint true :=
  ⟨⟨false, 1, [1, 1], 1⟩, by simp [exGs], by unfold Row.isPoint; simp⟩

theorem exCs_len : ∀ r ∈ exCs, r.cf.length = 2 := by
  intro r hr
  simp only [exCs, List.mem_cons, List.not_mem_nil, or_false] at hr
  rcases hr with rfl | rfl | rfl <;> rfl

example : genSem true 2 exGs ⊆ conSem true exCs :=
  (includedLoops_iff true 2 exGs exCs exGs_wf exGs_pt exCs_len).mp (by decide)

/-- with the strict row `x > 0` the closure point `(0,0)` still passes (`≥`), the POINT test is `>` -/
example : ¬ genSem true 2 (⟨false, 1, [0, 1], 1⟩ :: exGs) ⊆ conSem true [⟨false, 0, [1, 0], -1⟩] := by
  rw [← includedLoops_iff true 2 _ _ (by
      intro r hr
      rcases List.mem_cons.mp hr with rfl | h
      · unfold Row.genWF; simp
      · exact exGs_wf r h)
    (by obtain ⟨r, hr, hp⟩ := exGs_pt; exact ⟨r, List.mem_cons_of_mem _ hr, hp⟩)
    (by intro r hr; simp only [List.mem_singleton] at hr; subst hr; rfl)]
  decide

/-! ### `isIncludedIn_facts`, `contains_facts` on two closed half-lines held by their generators only -/

/-- generators up to date only: point `p`, ray `+1` in dimension 1 -/
def exHalfLine (p : Int) : FPoly :=
  ⟨⟨false, 1, ⟨false, false, true, false, false, false, false, false, false⟩, Sys.clear,
    ⟨[⟨false, 1, [p], 0⟩, ⟨false, 0, [1], 0⟩], 2, false⟩⟩, BitMat.clear, BitMat.clear⟩

theorem exHalfLine_inv (p : Int) :
    (exHalfLine p).Inv (genSem false 1 [⟨false, 1, [p], 0⟩, ⟨false, 0, [1], 0⟩]) where
  wf := {
    cs_len := fun _ h => (by cases h)
    gs_wf := fun _ _ r hr => by
      simp only [exHalfLine, List.mem_cons, List.not_mem_nil, or_false] at hr
      rcases hr with rfl | rfl <;> (unfold Row.genWF; simp [exHalfLine])
    gs_pt := fun _ _ => ⟨⟨false, 1, [p], 0⟩, by simp [exHalfLine], by unfold Row.isPoint; simp [exHalfLine]⟩
    pend_c := fun h => (by cases h)
    pend_g := fun h => (by cases h)
    pend_one := fun h => (by cases h.1)
    some_up := fun _ _ => Or.inr rfl
    zero_dim := fun h => (by cases h) }
  den := ⟨fun h => (by cases h), fun _ => ⟨fun h => (by cases h), fun _ _ => rfl, fun _ h => (by cases h)⟩⟩
  legal := rfl
  fpC := fun _ h => (by cases h)
  fpG := fun _ _ => ⟨Nat.le_refl _, fun _ => rfl⟩
  low := fun _ h => (by cases h)
  denNPc := fun _ h => (by cases h)
  denNPg := fun _ h => (by cases h)
  eng := fun _ h => (by cases h)

example (G : GlueFacts) :
    (((exHalfLine 3).isIncludedIn (exHalfLine 0)).1 = true ↔
      genSem false 1 [⟨false, 1, [3], 0⟩, ⟨false, 0, [1], 0⟩] ⊆
        genSem false 1 [⟨false, 1, [0], 0⟩, ⟨false, 0, [1], 0⟩]) :=
  (isIncludedIn_facts G _ _ _ _ (exHalfLine_inv 3) (exHalfLine_inv 0) rfl rfl rfl rfl (by decide)).2.2.2.2

example :
    ((exHalfLine 3).quickEquivalenceTest (exHalfLine 0)).1 = some true →
      genSem false 1 [⟨false, 1, [3], 0⟩, ⟨false, 0, [1], 0⟩] =
        genSem false 1 [⟨false, 1, [0], 0⟩, ⟨false, 0, [1], 0⟩] :=
  (quickEquivalenceTest_true_sound _ _ _ _ (exHalfLine_inv 3) (exHalfLine_inv 0) rfl rfl rfl rfl).2.2.2.2.2.2

example (G : GlueFacts) :
    (((exHalfLine 0).contains (exHalfLine 3)).1 = true ↔
      genSem false 1 [⟨false, 1, [3], 0⟩, ⟨false, 0, [1], 0⟩] ⊆
        genSem false 1 [⟨false, 1, [0], 0⟩, ⟨false, 0, [1], 0⟩]) :=
  (contains_facts G _ _ _ _ (exHalfLine_inv 0) (exHalfLine_inv 3) rfl rfl).2.2.2.2

example (G : GlueFacts) :
    ((exHalfLine 0).equals (exHalfLine 3)).1 = true →
      genSem false 1 [⟨false, 1, [0], 0⟩, ⟨false, 0, [1], 0⟩] =
        genSem false 1 [⟨false, 1, [3], 0⟩, ⟨false, 0, [1], 0⟩] :=
  (equals_facts G _ _ _ _ (exHalfLine_inv 0) (exHalfLine_inv 3) rfl rfl).2.2.2.2.1

/-- `relation_with(point(5))` on the half-line `[3, +∞)`: the answer is membership of the point -/
example (G : GlueFacts) :
    ((exHalfLine 3).relationWithGen .point ⟨false, 1, [5], 0⟩).1 = true ↔
      Subsumes (genSem false 1 [⟨false, 1, [3], 0⟩, ⟨false, 0, [1], 0⟩]) ⟨.point, [5], 1⟩ :=
  (relationWithGen_facts G _ _ (exHalfLine_inv 3) .point ⟨false, 1, [5], 0⟩
    (by unfold Row.genWF; simp [exHalfLine]) (by unfold KindOK Row.isPoint; simp [exHalfLine])).2.2

/-- … and of the ray `-1`: the answer is invariance under the translations along it -/
example (G : GlueFacts) :
    ((exHalfLine 3).relationWithGen .ray ⟨false, 0, [-1], 0⟩).1 = true ↔
      Subsumes (genSem false 1 [⟨false, 1, [3], 0⟩, ⟨false, 0, [1], 0⟩]) ⟨.ray, [-1], 1⟩ :=
  (relationWithGen_facts G _ _ (exHalfLine_inv 3) .ray ⟨false, 0, [-1], 0⟩
    (by unfold Row.genWF; simp [exHalfLine]) (by unfold KindOK; simp)).2.2

/-! ### `contains_refines`: the hypotheses on the zero-dimensional universe -/

theorem sem_nil : sem ([] : List Con) = Set.univ := by
  ext w; simp [sem, Sat]

example (G : GlueFacts) (h : exZeroDimUniv.Inv Set.univ) :
    (exZeroDimUniv.contains exZeroDimUniv).1 = (⟨false, 0, []⟩ : RefPoly).contains ⟨false, 0, []⟩ :=
  (contains_refines G exZeroDimUniv exZeroDimUniv ⟨false, 0, []⟩ ⟨false, 0, []⟩ rfl rfl
    (by rw [sem_nil]; exact h) (by rw [sem_nil]; exact h)
    (fun _ h => (by cases h)) (fun _ h => (by cases h))).2.2.2.2

end PPLV.PolyFull

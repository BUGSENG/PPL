import PPLV.PolyFull.ProofsStatusAffine
import PPLV.PolyStatus.Ops2

/-!
# The status protocol on the full model: `intersection_assign`, `poly_hull_assign`, `is_included_in` (`y` another object)

The abstract model DERIVES the ghost `keep` of the insertion: `keep := y.csS && !y.cpend`.  The full model
(`Linear_System::insert(y)`, `merge_rows_assign`) agrees when `y.con_sys` has rows and "the `CS_PENDING` flag of `y` ⇒
`y.con_sys` has pending rows" (hypotheses `hrows`, `hpend`); without them the two differ on the `sorted` flag of
`x.con_sys` only.  Where the receiver of `poly_hull_assign` is (found) empty the C++ executes `*this = y`; the abstract
`assign` copies a system and its `sorted` flag only if the corresponding flag of `y` is set, the full model returns `y`
as a whole: the two agree on the status word, and on the `sorted` flags under the data facts `hcY` / `hgY`.
The abstract `isIncludedIn ga gb` has ONE ghost input per object for its two possible engine calls on that object; on
status words with `CS_PENDING → G_UP_TO_DATE` (for `x`) and `GS_PENDING → C_UP_TO_DATE` (for `y`) only one of the two runs.
-/
namespace PPLV.PolyFull
open PPLV.PolyOps PPLV.Lin
open PPLV.PolyStatus (PState Gh Two)

attribute [local simp] FPoly.st FPoly.nnc FPoly.dim FPoly.withSt FPoly.withCs FPoly.withGs

theorem needCons_ready (x : FPoly) (hl : x.p.st.gPend = true → x.p.st.cUp = true) :
    x.needCons.p.st.gPend = false ∧ x.needCons.p.st.cUp = true ∧ x.needCons.p.st.cPend = x.p.st.cPend := by
  unfold FPoly.needCons
  split
  · next hg =>
    obtain ⟨_, _, sc, sg, k⟩ := processPendingGenerators_post x
    rw [k]
    exact ⟨rfl, hl hg, rfl⟩
  split
  · next hg hc => simp [FPoly.updateConstraints]; simpa using hg
  · next hg hc => exact ⟨by simpa using hg, by simpa using hc, rfl⟩

/-- `intersection_assign` after the two preparations -/
def FPoly.iaTail (x y : FPoly) : FPoly :=
  let q := x.liftO (x.p.intersection_assign y.p)
  let exact :=
    if x.st.canPend then x.p.cs.insertPendingSys y.p.cs.rows
    else if x.p.cs.sorted && y.p.cs.sorted && !y.st.cPend then x.p.cs.mergeRowsExact false x.nnc y.p.cs.rows
    else x.p.cs.insertSysExact false x.nnc y.p.cs
  { q with p := { q.p with cs := q.p.cs.refineBy exact } }

theorem iaTail_p (x y : FPoly) (hex : x.p.st.empty = false) (hey : y.p.st.empty = false) (hd : x.p.dim ≠ 0)
    (hgx : x.p.st.gPend = false) (hcx : x.p.st.cUp = true) (hgy : y.p.st.gPend = false) (hcy : y.p.st.cUp = true) :
    (x.iaTail y).p =
      (if x.p.st.canPend then
        { x.p with cs := (x.p.cs.insertPendingSys y.p.cs.rows).refineBy (x.p.cs.insertPendingSys y.p.cs.rows),
                   st := { x.p.st with cPend := true } }
       else
        { x.p with
            cs := (if x.p.cs.sorted && y.p.cs.sorted && !y.p.st.cPend then x.p.cs.mergeRowsAssign y.p.cs.rows
                   else x.p.cs.insertSys y.p.cs.rows).refineBy
                  (if x.p.cs.sorted && y.p.cs.sorted && !y.p.st.cPend then x.p.cs.mergeRowsExact false x.p.nnc y.p.cs.rows
                   else x.p.cs.insertSysExact false x.p.nnc y.p.cs),
            st := ({ x.p.st with cMin := false }).clearGUp }) := by
  have hd' : (x.p.dim == 0) = false := by simpa using hd
  have e : x.p.intersection_assign y.p =
      some (if x.p.st.canPend then
              { x.p with cs := x.p.cs.insertPendingSys y.p.cs.rows, st := { x.p.st with cPend := true } }
            else { x.p with
                    cs := (if x.p.cs.sorted && y.p.cs.sorted && !y.p.st.cPend then x.p.cs.mergeRowsAssign y.p.cs.rows
                           else x.p.cs.insertSys y.p.cs.rows),
                    st := ({ x.p.st with cMin := false }).clearGUp }) := by
    unfold Poly.intersection_assign Poly.obtainConstraintsNoConv
    simp only [hex, hey, hd', hgx, hcx, hgy, hcy, Bool.false_eq_true, ↓reduceIte, Bool.not_true]
    split <;> rfl
  unfold FPoly.iaTail
  simp only [e, FPoly.liftO, lift_p, FPoly.st, FPoly.nnc]
  rcases (Bool.eq_false_or_eq_true x.p.st.canPend).symm with cp | cp <;> simp [cp]

theorem insertSysExact_sorted_false (gen nnc : Bool) (s y : Sys) (hr : y.rows.isEmpty = false)
    (h : (s.sorted && y.sorted && decide (y.rows.length ≤ y.firstPending)) = false) :
    (s.insertSysExact gen nnc y).sorted = false := by
  unfold Sys.insertSysExact
  simp only [hr, Bool.false_eq_true, ↓reduceIte]
  cases hs : s.sorted <;> cases hy : y.sorted <;> simp_all

/-- the `sorted` flag after the rows of `y` are added non-pending to `s` (merged when both are sorted and
    `y` has nothing pending, appended otherwise), whichever of the two row orders `refineBy` keeps -/
theorem addRows_sorted (gen nnc : Bool) (s y : Sys) (pend : Bool) (hrows : y.rows.isEmpty = false)
    (hpend : pend = true → y.firstPending < y.rows.length) :
    ((if s.sorted && y.sorted && !pend then s.mergeRowsAssign y.rows else s.insertSys y.rows).refineBy
      (if s.sorted && y.sorted && !pend then s.mergeRowsExact gen nnc y.rows
       else s.insertSysExact gen nnc y)).sorted = (s.sorted && (y.sorted && !pend)) := by
  rcases (Bool.eq_false_or_eq_true (s.sorted && y.sorted && !pend)).symm with A | A
  · simp only [A, Bool.false_eq_true, ↓reduceIte]
    have hx : (s.insertSysExact gen nnc y).sorted = false := by
      apply insertSysExact_sorted_false _ _ _ _ hrows
      cases hs : s.sorted <;> cases hy : y.sorted <;> cases hc : pend <;> simp_all
    have hA : (s.sorted && (y.sorted && !pend)) = false := by
      rw [← Bool.and_assoc]; exact A
    rw [hA]
    exact refineBy_sorted_eq _ _ rfl hx
  · simp only [A, ↓reduceIte]
    have hA : (s.sorted && (y.sorted && !pend)) = true := by
      rw [← Bool.and_assoc]; exact A
    have hxs : s.sorted = true := by
      cases hs : s.sorted <;> simp_all
    rw [hA]
    exact refineBy_sorted_eq _ _ rfl hxs

theorem iaTail_sim (x y : FPoly) (s : PState) (ycsS ycpend : Bool) (g : Gh) (m : Sim x s)
    (hex : x.p.st.empty = false) (hey : y.p.st.empty = false) (hd : x.p.dim ≠ 0)
    (hgx : x.p.st.gPend = false) (hcx : x.p.st.cUp = true) (hgy : y.p.st.gPend = false) (hcy : y.p.st.cUp = true)
    (hrows : y.p.cs.rows.isEmpty = false)
    (hpend : y.p.st.cPend = true → y.p.cs.firstPending < y.p.cs.rows.length)
    (h1 : ycsS = y.p.cs.sorted) (h2 : ycpend = y.p.st.cPend) :
    Sim (x.iaTail y) (PPLV.PolyStatus.insertCons { g with keep := ycsS && !ycpend } s) := by
  have e := iaTail_p x y hex hey hd hgx hcx hgy hcy
  subst h1 h2
  rcases (Bool.eq_false_or_eq_true x.p.st.canPend).symm with cp | cp
  · simp only [cp, Bool.false_eq_true, ↓reduceIte] at e
    refine insertCons_sim_of_facts x _ s _ m ?_ ?_ ?_ ?_ (fun hh => (by rw [cp] at hh; cases hh)) (fun _ => ?_)
    · rw [e]; simp [cp]
    · rw [e]
    · rw [e]
    · rw [e]
    · rw [e]
      exact addRows_sorted false x.p.nnc x.p.cs y.p.cs y.p.st.cPend hrows hpend
  · simp only [cp, ↓reduceIte] at e
    refine insertCons_sim_of_facts x _ s _ m ?_ ?_ ?_ ?_ (fun _ => ?_) (fun hh => (by rw [cp] at hh; cases hh))
    · rw [e]; simp [cp]
    · rw [e]
    · rw [e]
    · rw [e]
    · rw [e]
      simp only
      exact refineBy_sorted_eq _ _ rfl rfl

structure IaGhost (x y : FPoly) (gx gy : Gh) (s t : PState) : Prop where
  px : x.p.st.empty = false → y.p.st.empty = false → x.p.dim ≠ 0 → NeedConsGhost x gx s
  py : x.p.st.empty = false → y.p.st.empty = false → x.p.dim ≠ 0 → NeedConsGhost y gy t

/-- `x.intersection_assign(y)`, `y` another object: both objects afterwards -/
theorem intersectionAssign_sim (x y : FPoly) (s t : PState) (gx gy : Gh) (hx : Sim x s) (hy : Sim y t)
    (hlx : x.p.st.gPend = true → x.p.st.cUp = true) (hly : y.p.st.gPend = true → y.p.st.cUp = true)
    (hrows : y.needCons.p.cs.rows.isEmpty = false)
    (hpend : y.needCons.p.st.cPend = true → y.needCons.p.cs.firstPending < y.needCons.p.cs.rows.length)
    (hg : IaGhost x y gx gy s t) :
    Sim (x.intersectionAssign y).1 (PPLV.PolyStatus.intersectionAssign gx gy { x := s, y := t, al := false }).x
    ∧ Sim (x.intersectionAssign y).2 (PPLV.PolyStatus.intersectionAssign gx gy { x := s, y := t, al := false }).y := by
  have hx' := hx
  sim_hyps hx'
  have hty : t.b .em = y.p.st.empty := hy.em
  rcases (Bool.eq_false_or_eq_true x.p.st.empty).symm with a | a
  swap
  · have e1 : x.intersectionAssign y = (x, y) := by
      simp [FPoly.intersectionAssign, Poly.intersection_assign, a, FPoly.liftO, lift_self]
    have e2 : PPLV.PolyStatus.intersectionAssign gx gy { x := s, y := t, al := false }
        = { x := s, y := t, al := false } := by
      simp [PPLV.PolyStatus.intersectionAssign, pst, h1, a]
    rw [e1, e2]; exact ⟨hx, hy⟩
  rcases (Bool.eq_false_or_eq_true y.p.st.empty).symm with b | b
  swap
  · have e1 : x.intersectionAssign y = (⟨x.p.setEmpty, BitMat.clear, BitMat.clear⟩, y) := by
      simp [FPoly.intersectionAssign, Poly.intersection_assign, a, b, FPoly.liftO, FPoly.lift, Poly.setEmpty,
        Status.setEmpty]
    have e2 : PPLV.PolyStatus.intersectionAssign gx gy { x := s, y := t, al := false }
        = { x := PPLV.PolyStatus.setEmpty (PState.setChanges true s), y := t, al := false } := by
      simp [PPLV.PolyStatus.intersectionAssign, Two.gy, Two.onX, PState.em, h1, a, hty, b]
    rw [e1, e2]
    refine ⟨?_, hy⟩
    simp [Sim, pst, Poly.setEmpty, Status.setEmpty, Sys.clear, *]
  by_cases d : x.p.dim = 0
  · have e1 : x.intersectionAssign y = (x, y) := by
      simp [FPoly.intersectionAssign, Poly.intersection_assign, a, b, d, FPoly.liftO, lift_self]
    have e2 : PPLV.PolyStatus.intersectionAssign gx gy { x := s, y := t, al := false }
        = { x := s, y := t, al := false } := by
      simp [PPLV.PolyStatus.intersectionAssign, Two.gy, PState.em, h1, a, hty, b, h10, d]
    rw [e1, e2]; exact ⟨hx, hy⟩
  · have d' : (x.p.dim == 0) = false := by simpa using d
    have e1 : x.intersectionAssign y = (x.needCons.iaTail y.needCons, y.needCons) := by
      unfold FPoly.intersectionAssign
      simp only [FPoly.st, FPoly.dim, a, b, d', Bool.or_self, Bool.false_eq_true, ↓reduceIte]
      rfl
    have ex : (PPLV.PolyStatus.intersectionAssign gx gy { x := s, y := t, al := false }).x
        = PPLV.PolyStatus.insertCons
            { gx with keep := (PPLV.PolyStatus.needCons gy t).csS && !(PPLV.PolyStatus.needCons gy t).cpend }
            (PPLV.PolyStatus.needCons gx s) := by
      simp [PPLV.PolyStatus.intersectionAssign, Two.gy, Two.onX, Two.onY, PState.em, h1, a, hty, b, h10, d]
    have ey : (PPLV.PolyStatus.intersectionAssign gx gy { x := s, y := t, al := false }).y
        = PPLV.PolyStatus.needCons gy t := by
      simp [PPLV.PolyStatus.intersectionAssign, Two.gy, Two.onX, Two.onY, PState.em, h1, a, hty, b, h10, d]
    rw [e1, ex, ey]
    have mx := needCons_sim x s gx hx (hg.px a b d)
    have my := needCons_sim y t gy hy (hg.py a b d)
    obtain ⟨kx1, kx2, _⟩ := needCons_keeps x
    obtain ⟨ky1, _, _⟩ := needCons_keeps y
    obtain ⟨rx1, rx2, _⟩ := needCons_ready x hlx
    obtain ⟨ry1, ry2, _⟩ := needCons_ready y hly
    exact ⟨iaTail_sim _ _ _ _ _ gx mx (kx1.trans a) (ky1.trans b) (by rw [kx2]; exact d) rx1 rx2 ry1 ry2 hrows hpend
      my.csS my.cpend, my⟩

/-! ## `*this = y` -/

theorem assign_sim (y : FPoly) (s t : PState) (hy : Sim y t) (he : y.p.st.empty = false) (hd : y.p.dim ≠ 0)
    (hn : s.nnc = y.p.nnc) (hc : y.p.st.cUp = false → s.b .csS = y.p.cs.sorted)
    (hg : y.p.st.gUp = false → s.b .gsS = y.p.gs.sorted) :
    Sim y (PPLV.PolyStatus.assign s t) := by
  sim_hyps hy
  have bd : (t.dim == 0) = false := by rw [h10]; simpa using hd
  unfold PPLV.PolyStatus.assign
  simp only [PState.em, h1, he, bd, Bool.false_eq_true, ↓reduceIte]
  cases hcu : y.p.st.cUp <;> cases hgu : y.p.st.gUp <;> simp_all [Sim, pst]

/-! ## the insertion -/

/-- `poly_hull_assign` after the two preparations -/
def FPoly.phTail (x y : FPoly) : FPoly :=
  let q := x.liftO (x.p.poly_hull_assign y.p)
  let exact :=
    if x.st.canPend then x.p.gs.insertPendingSys y.p.gs.rows
    else if x.p.gs.sorted && y.p.gs.sorted && !y.st.gPend then x.p.gs.mergeRowsExact true x.nnc y.p.gs.rows
    else x.p.gs.insertSysExact true x.nnc y.p.gs
  { q with p := { q.p with gs := q.p.gs.refineBy exact } }

theorem phTail_p (x y : FPoly) (hex : x.p.st.empty = false) (hey : y.p.st.empty = false) (hd : x.p.dim ≠ 0)
    (hgx : x.p.st.cPend = false) (hcx : x.p.st.gUp = true) (hgy : y.p.st.cPend = false) (hcy : y.p.st.gUp = true) :
    (x.phTail y).p =
      (if x.p.st.canPend then
        { x.p with gs := (x.p.gs.insertPendingSys y.p.gs.rows).refineBy (x.p.gs.insertPendingSys y.p.gs.rows),
                   st := { x.p.st with gPend := true } }
       else
        { x.p with
            gs := (if x.p.gs.sorted && y.p.gs.sorted && !y.p.st.gPend then x.p.gs.mergeRowsAssign y.p.gs.rows
                   else x.p.gs.insertSys y.p.gs.rows).refineBy
                  (if x.p.gs.sorted && y.p.gs.sorted && !y.p.st.gPend then x.p.gs.mergeRowsExact true x.p.nnc y.p.gs.rows
                   else x.p.gs.insertSysExact true x.p.nnc y.p.gs),
            st := ({ x.p.st with gMin := false }).clearCUp }) := by
  have hd' : (x.p.dim == 0) = false := by simpa using hd
  have e : x.p.poly_hull_assign y.p =
      some (if x.p.st.canPend then
              { x.p with gs := x.p.gs.insertPendingSys y.p.gs.rows, st := { x.p.st with gPend := true } }
            else { x.p with
                    gs := (if x.p.gs.sorted && y.p.gs.sorted && !y.p.st.gPend then x.p.gs.mergeRowsAssign y.p.gs.rows
                           else x.p.gs.insertSys y.p.gs.rows),
                    st := ({ x.p.st with gMin := false }).clearCUp }) := by
    unfold Poly.poly_hull_assign Poly.obtainGeneratorsPendingNoConv
    simp only [hex, hey, hd', hgx, hcx, hgy, hcy, Bool.false_eq_true, ↓reduceIte, Bool.not_true]
    split <;> rfl
  unfold FPoly.phTail
  simp only [e, FPoly.liftO, lift_p, FPoly.st, FPoly.nnc]
  rcases (Bool.eq_false_or_eq_true x.p.st.canPend).symm with cp | cp <;> simp [cp]

theorem phTail_sim (x y : FPoly) (s : PState) (ygsS ygpend : Bool) (g : Gh) (m : Sim x s)
    (hex : x.p.st.empty = false) (hey : y.p.st.empty = false) (hd : x.p.dim ≠ 0)
    (hgx : x.p.st.cPend = false) (hcx : x.p.st.gUp = true) (hgy : y.p.st.cPend = false) (hcy : y.p.st.gUp = true)
    (hrows : y.p.gs.rows.isEmpty = false)
    (hpend : y.p.st.gPend = true → y.p.gs.firstPending < y.p.gs.rows.length)
    (h1 : ygsS = y.p.gs.sorted) (h2 : ygpend = y.p.st.gPend) :
    Sim (x.phTail y) (PPLV.PolyStatus.insertGens { g with keep := ygsS && !ygpend } s) := by
  have e := phTail_p x y hex hey hd hgx hcx hgy hcy
  subst h1 h2
  rcases (Bool.eq_false_or_eq_true x.p.st.canPend).symm with cp | cp
  · simp only [cp, Bool.false_eq_true, ↓reduceIte] at e
    refine insertGens_sim_of_facts x _ s _ m ?_ ?_ ?_ ?_ (fun hh => (by rw [cp] at hh; cases hh)) (fun _ => ?_)
    · rw [e]; simp [cp]
    · rw [e]
    · rw [e]
    · rw [e]
    · rw [e]
      exact addRows_sorted true x.p.nnc x.p.gs y.p.gs y.p.st.gPend hrows hpend
  · simp only [cp, ↓reduceIte] at e
    refine insertGens_sim_of_facts x _ s _ m ?_ ?_ ?_ ?_ (fun _ => ?_) (fun hh => (by rw [cp] at hh; cases hh))
    · rw [e]; simp [cp]
    · rw [e]
    · rw [e]
    · rw [e]
    · rw [e]
      simp only
      exact refineBy_sorted_eq _ _ rfl rfl

structure PhGhost (x y : FPoly) (gx gy : Gh) (s t : PState) : Prop where
  px : x.p.st.empty = false → y.p.st.empty = false → NeedGensGhost x gx s
  py : x.p.st.empty = false → y.p.st.empty = false → NeedGensGhost y gy t

/-- `x.poly_hull_assign(y)`, `y` another object of the same (positive) dimension and topology -/
theorem polyHullAssign_sim (x y : FPoly) (s t : PState) (gx gy : Gh) (hx : Sim x s) (hy : Sim y t)
    (hd : x.p.dim ≠ 0) (hdy : y.p.dim = x.p.dim) (hny : y.p.nnc = x.p.nnc)
    (hlx : x.p.st.cPend = true → x.p.st.gUp = true) (hly : y.p.st.cPend = true → y.p.st.gUp = true)
    (hEx : x.p.st.empty = true → x.p.cs.sorted = true ∧ x.p.gs.sorted = true)
    (hcY : y.p.st.cUp = false → y.p.cs.sorted = true) (hgY : y.p.st.gUp = false → y.p.gs.sorted = true)
    (hrows : y.needGens.2.p.gs.rows.isEmpty = false)
    (hpend : y.needGens.2.p.st.gPend = true → y.needGens.2.p.gs.firstPending < y.needGens.2.p.gs.rows.length)
    (hg : PhGhost x y gx gy s t) :
    Sim (x.polyHullAssign y).1 (PPLV.PolyStatus.polyHullAssign gx gy { x := s, y := t, al := false }).x
    ∧ Sim (x.polyHullAssign y).2 (PPLV.PolyStatus.polyHullAssign gx gy { x := s, y := t, al := false }).y := by
  have hx' := hx
  sim_hyps hx'
  have hty : t.b .em = y.p.st.empty := hy.em
  have d' : (x.p.dim == 0) = false := by simpa using hd
  have bd : (s.dim == 0) = false := by rw [h10]; exact d'
  rcases (Bool.eq_false_or_eq_true y.p.st.empty).symm with b | b
  swap
  · have e1 : x.polyHullAssign y = (x, y) := by simp [FPoly.polyHullAssign, b]
    have e2 : PPLV.PolyStatus.polyHullAssign gx gy { x := s, y := t, al := false }
        = { x := s, y := t, al := false } := by
      simp [PPLV.PolyStatus.polyHullAssign, Two.gy, PState.em, hty, b]
    rw [e1, e2]; exact ⟨hx, hy⟩
  have hdy' : y.p.dim ≠ 0 := by rw [hdy]; exact hd
  rcases (Bool.eq_false_or_eq_true x.p.st.empty).symm with a | a
  swap
  · have e1 : x.polyHullAssign y = (y, y) := by simp [FPoly.polyHullAssign, a, b]
    have e2 : PPLV.PolyStatus.polyHullAssign gx gy { x := s, y := t, al := false }
        = { x := PPLV.PolyStatus.assign s t, y := t, al := false } := by
      simp [PPLV.PolyStatus.polyHullAssign, PPLV.PolyStatus.assignFromY, Two.gy, Two.onX, PState.em, hty, b, h1, a]
    rw [e1, e2]
    refine ⟨assign_sim y s t hy b hdy' (h11.trans hny.symm) (fun hc => ?_) (fun hc => ?_), hy⟩
    · rw [h12, (hEx a).1, hcY hc]
    · rw [h13, (hEx a).2, hgY hc]
  obtain ⟨m1, m2⟩ := needGens_sim x s gx hx hlx (hg.px a b)
  rcases (Bool.eq_false_or_eq_true x.needGens.1).symm with r | r
  swap
  · have e1 : x.polyHullAssign y = (y, y) := by
      unfold FPoly.polyHullAssign
      simp only [FPoly.st, FPoly.dim, a, b, d', r, Bool.false_eq_true, ↓reduceIte]
    have e2 : PPLV.PolyStatus.polyHullAssign gx gy { x := s, y := t, al := false }
        = { x := PPLV.PolyStatus.assign (PPLV.PolyStatus.needGens gx s).2 t, y := t, al := false } := by
      simp [PPLV.PolyStatus.polyHullAssign, PPLV.PolyStatus.assignFromY, Two.gy, Two.onX, Two.onXb, PState.em, hty, b,
        h1, a, bd, m1.trans r]
    rw [e1, e2]
    obtain ⟨q1, q2, _⟩ := needGens_found x r
    refine ⟨assign_sim y _ t hy b hdy' ?_ (fun hc => ?_) (fun hc => ?_), hy⟩
    · rw [m2.nnc, (needGens_shape x).2, hny]
    · rw [m2.csS, q2, hcY hc]; rfl
    · rw [m2.gsS, q1, hgY hc]; rfl
  obtain ⟨n1, n2⟩ := needGens_sim y t gy hy hly (hg.py a b)
  rcases (Bool.eq_false_or_eq_true y.needGens.1).symm with r' | r'
  swap
  · have e1 : x.polyHullAssign y = (x.needGens.2, y.needGens.2) := by
      unfold FPoly.polyHullAssign
      simp only [FPoly.st, FPoly.dim, a, b, d', r, r', Bool.false_eq_true, ↓reduceIte]
    have e2 : PPLV.PolyStatus.polyHullAssign gx gy { x := s, y := t, al := false }
        = { x := (PPLV.PolyStatus.needGens gx s).2, y := (PPLV.PolyStatus.needGens gy t).2, al := false } := by
      simp [PPLV.PolyStatus.polyHullAssign, Two.gy, Two.onXb, Two.onYb, PState.em, hty, b,
        h1, a, bd, m1.trans r, n1.trans r']
    rw [e1, e2]; exact ⟨m2, n2⟩
  · have e1 : x.polyHullAssign y = (x.needGens.2.phTail y.needGens.2, y.needGens.2) := by
      unfold FPoly.polyHullAssign
      simp only [FPoly.st, FPoly.dim, a, b, d', r, r', Bool.false_eq_true, ↓reduceIte]
      rfl
    have ex : (PPLV.PolyStatus.polyHullAssign gx gy { x := s, y := t, al := false }).x
        = PPLV.PolyStatus.insertGens
            { gx with keep := (PPLV.PolyStatus.needGens gy t).2.gsS && !(PPLV.PolyStatus.needGens gy t).2.gpend }
            (PPLV.PolyStatus.needGens gx s).2 := by
      simp [PPLV.PolyStatus.polyHullAssign, Two.gy, Two.onX, Two.onXb, Two.onYb, PState.em, hty, b,
        h1, a, bd, m1.trans r, n1.trans r']
    have ey : (PPLV.PolyStatus.polyHullAssign gx gy { x := s, y := t, al := false }).y
        = (PPLV.PolyStatus.needGens gy t).2 := by
      simp [PPLV.PolyStatus.polyHullAssign, Two.gy, Two.onX, Two.onXb, Two.onYb, PState.em, hty, b,
        h1, a, bd, m1.trans r, n1.trans r']
    rw [e1, ex, ey]
    obtain ⟨rx1, rx2, rx3, rx4, _⟩ := needGens_ready x r
    obtain ⟨ry1, ry2, ry3, _, _⟩ := needGens_ready y r'
    exact ⟨phTail_sim _ _ _ _ _ gx m2 (rx3.trans a) (ry3.trans b) (by rw [rx4]; exact hd) rx2 rx1 ry2 ry1 hrows hpend
      n2.gsS n2.gpend, n2⟩

/-- the four statements of `is_included_in`, abstract side, on the two components -/
def absA1 (ga : Gh) (s : PState) : Bool × PState :=
  if s.cpend then PPLV.PolyStatus.processPendingConstraints ga s else (true, s)
def absB1 (gb : Gh) (t : PState) : PState := if t.gpend then PPLV.PolyStatus.processPendingGenerators gb t else t
def absA2 (ga : Gh) (s : PState) : Bool × PState :=
  if !s.gup then PPLV.PolyStatus.updateGenerators ga s else (true, s)
def absB2 (gb : Gh) (t : PState) : PState := if !t.cup then PPLV.PolyStatus.updateConstraints gb t else t

theorem abs_isIncludedIn_eq (ga gb : Gh) (s t : PState) (go : Bool) :
    PPLV.PolyStatus.isIncludedIn ga gb { x := s, y := t, al := false, go := go } =
      (if !(absA1 ga s).1 then { x := (absA1 ga s).2, y := t, al := false, go := go }
       else if !(absA2 ga (absA1 ga s).2).1 then
         { x := (absA2 ga (absA1 ga s).2).2, y := absB1 gb t, al := false, go := go }
       else { x := (absA2 ga (absA1 ga s).2).2, y := absB2 gb (absB1 gb t), al := false, go := go }) := rfl

theorem isIncludedIn_states (x y : FPoly) :
    ((x.isIncludedIn y).2.1, (x.isIncludedIn y).2.2) =
      (if !(prepPC x).1 then ((prepPC x).2, y)
       else if !(prepUG (prepPC x).2).1 then ((prepUG (prepPC x).2).2, (prepPG y))
       else ((prepUG (prepPC x).2).2, (prepUC (prepPG y)))) := by
  rw [isIncludedIn_eq]
  rcases (Bool.eq_false_or_eq_true (prepPC x).1).symm with r | r
  · simp only [r, Bool.not_false, ↓reduceIte]
  · rcases (Bool.eq_false_or_eq_true (prepUG (prepPC x).2).1).symm with r2 | r2
    · simp only [r, r2, Bool.not_true, Bool.not_false, Bool.false_eq_true, ↓reduceIte]
    · simp only [r, r2, Bool.not_true, Bool.false_eq_true, ↓reduceIte]

theorem isIncludedIn_sim (x y : FPoly) (s t : PState) (ga gb : Gh) (go : Bool) (hx : Sim x s) (hy : Sim y t)
    (hlx : x.p.st.cPend = true → x.p.st.gUp = true) (hly : y.p.st.gPend = true → y.p.st.cUp = true)
    (hga : NeedGensGhost x ga s) (hgb : NeedConsGhost y gb t) :
    Sim (x.isIncludedIn y).2.1 (PPLV.PolyStatus.isIncludedIn ga gb { x := s, y := t, al := false, go := go }).x
    ∧ Sim (x.isIncludedIn y).2.2 (PPLV.PolyStatus.isIncludedIn ga gb { x := s, y := t, al := false, go := go }).y := by
  have hst := isIncludedIn_states x y
  rw [abs_isIncludedIn_eq]
  -- stage A1
  have A1 : (absA1 ga s).1 = (prepPC x).1 ∧ Sim (prepPC x).2 (absA1 ga s).2
      ∧ ((prepPC x).1 = true → ((prepPC x).2.p.st.gUp = false → x.p.st.cPend = false ∧ x.p.st.gUp = false)
          ∧ (x.p.st.cPend = false → (prepPC x).2 = x ∧ (absA1 ga s).2 = s)) := by
    rcases (Bool.eq_false_or_eq_true x.p.st.cPend).symm with c | c
    · have e1 : (prepPC x) = (true, x) := by simp [prepPC, c]
      have e2 : absA1 ga s = (true, s) := by simp [absA1, PState.cpend, hx.cpend, c]
      rw [e1, e2]
      exact ⟨rfl, hx, fun _ => ⟨fun h => ⟨c, h⟩, fun _ => ⟨rfl, rfl⟩⟩⟩
    · have e1 : (prepPC x) = x.processPendingConstraints := by simp [prepPC, c]
      have e2 : absA1 ga s = PPLV.PolyStatus.processPendingConstraints ga s := by
        simp [absA1, PState.cpend, hx.cpend, c]
      obtain ⟨m1, m2⟩ := processPendingConstraints_sim x s ga hx (hga.ppc c)
      rw [e1, e2]
      refine ⟨m1, m2, fun hr => ⟨fun h => ?_, fun hc => (by rw [c] at hc; cases hc)⟩⟩
      obtain ⟨sc, sg, k⟩ := processPendingConstraints_true x hr
      rw [k] at h
      exact absurd (hlx c) (by rw [h]; exact Bool.false_ne_true)
  obtain ⟨a1, a2, a3⟩ := A1
  -- stage B1
  have B1 : Sim (prepPG y) (absB1 gb t) ∧ ((prepPG y).p.st.cUp = false → y.p.st.gPend = false ∧ y.p.st.cUp = false)
      ∧ (y.p.st.gPend = false → (prepPG y) = y ∧ absB1 gb t = t) := by
    rcases (Bool.eq_false_or_eq_true y.p.st.gPend).symm with c | c
    · have e1 : (prepPG y) = y := by simp [prepPG, c]
      have e2 : absB1 gb t = t := by simp [absB1, PState.gpend, hy.gpend, c]
      rw [e1, e2]; exact ⟨hy, fun h => ⟨c, h⟩, fun _ => ⟨rfl, rfl⟩⟩
    · have e1 : (prepPG y) = y.processPendingGenerators := by simp [prepPG, c]
      have e2 : absB1 gb t = PPLV.PolyStatus.processPendingGenerators gb t := by
        simp [absB1, PState.gpend, hy.gpend, c]
      rw [e1, e2]
      refine ⟨processPendingGenerators_sim y t gb hy (hgb.ppg c), fun h => ?_, fun hc => (by rw [c] at hc; cases hc)⟩
      obtain ⟨_, _, sc, sg, k⟩ := processPendingGenerators_post y
      rw [k] at h
      exact absurd (hly c) (by rw [h]; exact Bool.false_ne_true)
  obtain ⟨b1, b2, b3⟩ := B1
  rcases (Bool.eq_false_or_eq_true (prepPC x).1).symm with r | r
  · -- process_pending_constraints found x empty
    simp only [r, a1, Bool.not_false, ↓reduceIte] at hst ⊢
    have h1 : (x.isIncludedIn y).2.1 = (prepPC x).2 := congrArg Prod.fst hst
    have h2 : (x.isIncludedIn y).2.2 = y := congrArg Prod.snd hst
    rw [h1, h2]; exact ⟨a2, hy⟩
  obtain ⟨a3g, a3e⟩ := a3 r
  -- stage A2
  have A2 : (absA2 ga (absA1 ga s).2).1 = (prepUG (prepPC x).2).1 ∧ Sim (prepUG (prepPC x).2).2 (absA2 ga (absA1 ga s).2).2 := by
    rcases (Bool.eq_false_or_eq_true (prepPC x).2.p.st.gUp).symm with c | c
    · obtain ⟨q1, q2⟩ := a3g c
      obtain ⟨q3, q4⟩ := a3e q1
      have e1 : (prepUG (prepPC x).2) = x.updateGenerators := by rw [q3]; simp [prepUG, q2]
      have e2 : absA2 ga (absA1 ga s).2 = PPLV.PolyStatus.updateGenerators ga s := by
        rw [q4]; simp [absA2, PState.gup, hx.gup, q2]
      rw [e1, e2]
      exact updateGenerators_sim' x s ga hx (hga.ug q1 q2)
    · have e1 : (prepUG (prepPC x).2) = (true, (prepPC x).2) := by simp [prepUG, c]
      have e2 : absA2 ga (absA1 ga s).2 = (true, (absA1 ga s).2) := by
        simp [absA2, PState.gup, a2.gup, c]
      rw [e1, e2]; exact ⟨rfl, a2⟩
  obtain ⟨c1, c2⟩ := A2
  rcases (Bool.eq_false_or_eq_true (prepUG (prepPC x).2).1).symm with r2 | r2
  · simp only [r, r2, a1, c1, Bool.not_true, Bool.not_false, Bool.false_eq_true, ↓reduceIte] at hst ⊢
    have h1 : (x.isIncludedIn y).2.1 = (prepUG (prepPC x).2).2 := congrArg Prod.fst hst
    have h2 : (x.isIncludedIn y).2.2 = (prepPG y) := congrArg Prod.snd hst
    rw [h1, h2]; exact ⟨c2, b1⟩
  -- stage B2
  have B2 : Sim (prepUC (prepPG y)) (absB2 gb (absB1 gb t)) := by
    rcases (Bool.eq_false_or_eq_true (prepPG y).p.st.cUp).symm with c | c
    · obtain ⟨q1, q2⟩ := b2 c
      obtain ⟨q3, q4⟩ := b3 q1
      have e1 : (prepUC (prepPG y)) = y.updateConstraints := by rw [q3]; simp [prepUC, q2]
      have e2 : absB2 gb (absB1 gb t) = PPLV.PolyStatus.updateConstraints gb t := by
        rw [q4]; simp [absB2, PState.cup, hy.cup, q2]
      rw [e1, e2]
      exact updateConstraints_sim y t gb hy (hgb.uc q1 q2)
    · have e1 : (prepUC (prepPG y)) = (prepPG y) := by simp [prepUC, c]
      have e2 : absB2 gb (absB1 gb t) = absB1 gb t := by simp [absB2, PState.cup, b1.cup, c]
      rw [e1, e2]; exact b1
  simp only [r, r2, a1, c1, Bool.not_true, Bool.false_eq_true, ↓reduceIte] at hst ⊢
  have h1 : (x.isIncludedIn y).2.1 = (prepUG (prepPC x).2).2 := congrArg Prod.fst hst
  have h2 : (x.isIncludedIn y).2.2 = (prepUC (prepPG y)) := congrArg Prod.snd hst
  rw [h1, h2]; exact ⟨c2, B2⟩

end PPLV.PolyFull

import PPLV.PolyFull.ProofsStatus4m

/-!
# `contains(y)` against `PolyStatus/Ops2.lean` (`y` another object)
-/
namespace PPLV.PolyFull
open PPLV.PolyOps PPLV.Lin
open PPLV.PolyStatus (PState Gh Two)

attribute [local simp] FPoly.st FPoly.nnc FPoly.dim FPoly.withSt FPoly.withCs FPoly.withGs

theorem abs_isIncludedIn_al (ga gb : Gh) (s t : PState) (go : Bool) :
    (PPLV.PolyStatus.isIncludedIn ga gb { x := s, y := t, al := false, go := go }).al = false := by
  rw [abs_isIncludedIn_eq]
  split
  · rfl
  · split <;> rfl

/-- the ghost conditions of the inclusion test `y ⊆ x` inside `x.contains(y)`, on the states the quick test
    leaves -/
structure ContainsIncl (x' y' : FPoly) (gx gy : Gh) (s' t' : PState) : Prop where
  ly : y'.p.st.cPend = true → y'.p.st.gUp = true
  lx : x'.p.st.gPend = true → x'.p.st.cUp = true
  gy : NeedGensGhost y' gy t'
  gx : NeedConsGhost x' gx s'

theorem contains_sim (x y : FPoly) (s t : PState) (gx gy : Gh) (q : PPLV.PolyStatus.GhQ) (go : Bool)
    (hx : Sim x s) (hy : Sim y t)
    (hE : y.p.st.empty = false → x.p.st.empty = true → IsEmptyGhost y gy t)
    (hq : QOk x y q s t)
    (hI : y.p.st.empty = false → x.p.st.empty = false → y.p.dim ≠ 0 → (x.quickEquivalenceTest y).1 ≠ some true →
      ∀ s' t', Sim (x.quickEquivalenceTest y).2.1 s' → Sim (x.quickEquivalenceTest y).2.2 t' →
        (PPLV.PolyStatus.quickEquivalenceTest q { x := s, y := t, al := false, go := go }).2
          = { x := s', y := t', al := false, go := go } →
        ContainsIncl (x.quickEquivalenceTest y).2.1 (x.quickEquivalenceTest y).2.2 gx gy s' t') :
    Sim (x.contains y).2.1 (PPLV.PolyStatus.contains gx gy q { x := s, y := t, al := false, go := go }).x
    ∧ Sim (x.contains y).2.2 (PPLV.PolyStatus.contains gx gy q { x := s, y := t, al := false, go := go }).y := by
  have hsx : s.b .em = x.p.st.empty := hx.em
  have hty : t.b .em = y.p.st.empty := hy.em
  rcases (Bool.eq_false_or_eq_true y.p.st.empty).symm with b | b
  swap
  · have e1 : x.contains y = (true, x, y) := by simp [FPoly.contains, b]
    have e2 : PPLV.PolyStatus.contains gx gy q { x := s, y := t, al := false, go := go }
        = { x := s, y := t, al := false, go := go } := by
      simp [PPLV.PolyStatus.contains, Two.gy, PState.em, hty, b]
    rw [e1, e2]; exact ⟨hx, hy⟩
  rcases (Bool.eq_false_or_eq_true x.p.st.empty).symm with a | a
  swap
  · have e1 : x.contains y = (y.isEmpty.1, x, y.isEmpty.2) := by simp [FPoly.contains, a, b]
    have e2 : PPLV.PolyStatus.contains gx gy q { x := s, y := t, al := false, go := go }
        = { x := s, y := (PPLV.PolyStatus.isEmpty gy t).2, al := false, go := go } := by
      simp [PPLV.PolyStatus.contains, Two.gy, Two.onYb, PState.em, hty, b, hsx, a]
    rw [e1, e2]
    exact ⟨hx, (isEmpty_sim y t gy hy (hE b a)).2⟩
  by_cases d : y.p.dim = 0
  · have e1 : x.contains y = (true, x, y) := by simp [FPoly.contains, a, b, d]
    have e2 : PPLV.PolyStatus.contains gx gy q { x := s, y := t, al := false, go := go }
        = { x := s, y := t, al := false, go := go } := by
      simp [PPLV.PolyStatus.contains, Two.gy, PState.em, hty, b, hsx, a, hy.dim, d]
    rw [e1, e2]; exact ⟨hx, hy⟩
  have d' : (y.p.dim == 0) = false := by simpa using d
  have dt : (t.dim == 0) = false := by rw [hy.dim]; exact d'
  obtain ⟨q1, _, s', t', q3, q4, q5⟩ := hq go
  rcases (Bool.eq_false_or_eq_true ((x.quickEquivalenceTest y).1 == some true)).symm with r | r
  swap
  · have e1 : x.contains y = (true, (x.quickEquivalenceTest y).2.1, (x.quickEquivalenceTest y).2.2) := by
      unfold FPoly.contains
      simp only [FPoly.st, FPoly.dim, a, b, d', r, Bool.false_eq_true, ↓reduceIte]
    have e2 : PPLV.PolyStatus.contains gx gy q { x := s, y := t, al := false, go := go }
        = { x := s', y := t', al := false, go := go } := by
      simp only [PPLV.PolyStatus.contains, Two.gy, PState.em, hty, b, hsx, a, dt, Bool.false_eq_true, ↓reduceIte,
        q1, r, q3]
    rw [e1, e2]; exact ⟨q4, q5⟩
  · have hne : (x.quickEquivalenceTest y).1 ≠ some true := by
      intro hh; rw [hh] at r; simp at r
    have e1 : x.contains y =
        (((x.quickEquivalenceTest y).2.2.isIncludedIn (x.quickEquivalenceTest y).2.1).1,
         ((x.quickEquivalenceTest y).2.2.isIncludedIn (x.quickEquivalenceTest y).2.1).2.2,
         ((x.quickEquivalenceTest y).2.2.isIncludedIn (x.quickEquivalenceTest y).2.1).2.1) := by
      unfold FPoly.contains
      simp only [FPoly.st, FPoly.dim, a, b, d', r, Bool.false_eq_true, ↓reduceIte]
    have e2 : PPLV.PolyStatus.contains gx gy q { x := s, y := t, al := false, go := go }
        = (PPLV.PolyStatus.isIncludedIn gy gx { x := t', y := s', al := false, go := go }).swap := by
      simp only [PPLV.PolyStatus.contains, Two.gy, PState.em, hty, b, hsx, a, dt, Bool.false_eq_true, ↓reduceIte,
        q1, r, q3, Two.swap]
    have hc := hI b a d hne s' t' q4 q5 q3
    obtain ⟨i1, i2⟩ := isIncludedIn_sim (x.quickEquivalenceTest y).2.2 (x.quickEquivalenceTest y).2.1 t' s' gy gx go
      q5 q4 hc.ly hc.lx hc.gy hc.gx
    have hal := abs_isIncludedIn_al gy gx t' s' go
    rw [e1, e2]
    simp only [Two.swap, hal, Bool.false_eq_true, ↓reduceIte]
    exact ⟨i2, i1⟩

end PPLV.PolyFull

import PPLV.PolyFull.ProofsStatus4n

/-!
# `operator==` against `PolyStatus/Ops2.lean` (`y` another object)

The abstract method is two steps (`equalsHead`, `equalsTail`); the ghost `gx.aux` of the second step is the
answer of the first inclusion test.  The ghost conditions of the second step are stated on the abstract state
the first step leaves (`EqTailOk`).
-/
namespace PPLV.PolyFull
open PPLV.PolyOps PPLV.Lin
open PPLV.PolyStatus (PState Gh Two Gh2)

attribute [local simp] FPoly.st FPoly.nnc FPoly.dim FPoly.withSt FPoly.withCs FPoly.withGs

/-- the tail of `operator==` after the first inclusion test answered `ans` -/
def FPoly.eqTail (ans : Bool) (x1 y1 : FPoly) : Bool × FPoly × FPoly :=
  if ans then
    if x1.st.empty then let e := y1.isEmpty; (e.1, x1, e.2)
    else let r2 := y1.isIncludedIn x1; (r2.1, r2.2.2, r2.2.1)
  else (false, x1, y1)

/-- ghost conditions of the second step, on the states `x1`, `y1` / `s1`, `t1` the first step leaves -/
structure EqTailOk (x1 y1 : FPoly) (h : Gh2) (s1 t1 : PState) : Prop where
  emp : x1.p.st.empty = true → IsEmptyGhost y1 h.gy t1
  ly : x1.p.st.empty = false → y1.p.st.cPend = true → y1.p.st.gUp = true
  lx : x1.p.st.empty = false → x1.p.st.gPend = true → x1.p.st.cUp = true
  gy : x1.p.st.empty = false → NeedGensGhost y1 h.gy t1
  gx : x1.p.st.empty = false → NeedConsGhost x1 h.gx s1

theorem eqTail_sim (ans : Bool) (x1 y1 : FPoly) (h : Gh2) (s1 t1 : PState) (hx : Sim x1 s1) (hy : Sim y1 t1)
    (haux : h.gx.aux = ans) (hok : ans = true → EqTailOk x1 y1 h s1 t1) :
    Sim (FPoly.eqTail ans x1 y1).2.1
        (PPLV.PolyStatus.equalsTail h { x := s1, y := t1, al := false, go := true }).x
    ∧ Sim (FPoly.eqTail ans x1 y1).2.2
        (PPLV.PolyStatus.equalsTail h { x := s1, y := t1, al := false, go := true }).y := by
  cases ans
  · have e2 : PPLV.PolyStatus.equalsTail h { x := s1, y := t1, al := false, go := true }
        = { x := s1, y := t1, al := false, go := true } := by
      simp [PPLV.PolyStatus.equalsTail, haux]
    rw [e2]; exact ⟨hx, hy⟩
  · have ok := hok rfl
    rcases (Bool.eq_false_or_eq_true x1.p.st.empty).symm with a | a
    · have e1 : FPoly.eqTail true x1 y1 = ((y1.isIncludedIn x1).1, (y1.isIncludedIn x1).2.2, (y1.isIncludedIn x1).2.1) := by
        simp [FPoly.eqTail, a]
      have e2 : PPLV.PolyStatus.equalsTail h { x := s1, y := t1, al := false, go := true }
          = (PPLV.PolyStatus.isIncludedIn h.gy h.gx { x := t1, y := s1, al := false, go := true }).swap := by
        simp [PPLV.PolyStatus.equalsTail, haux, PState.em, hx.em, a, Two.swap]
      obtain ⟨i1, i2⟩ := isIncludedIn_sim y1 x1 t1 s1 h.gy h.gx true hy hx (ok.ly a) (ok.lx a) (ok.gy a) (ok.gx a)
      have hal := abs_isIncludedIn_al h.gy h.gx t1 s1 true
      rw [e1, e2]
      simp only [Two.swap, hal, Bool.false_eq_true, ↓reduceIte]
      exact ⟨i2, i1⟩
    · have e1 : FPoly.eqTail true x1 y1 = (y1.isEmpty.1, x1, y1.isEmpty.2) := by simp [FPoly.eqTail, a]
      have e2 : PPLV.PolyStatus.equalsTail h { x := s1, y := t1, al := false, go := true }
          = { x := s1, y := (PPLV.PolyStatus.isEmpty h.gy t1).2, al := false, go := true } := by
        simp [PPLV.PolyStatus.equalsTail, haux, PState.em, hx.em, a, Two.onYb]
      rw [e1, e2]
      exact ⟨hx, (isEmpty_sim y1 t1 h.gy hy (ok.emp a)).2⟩

/-- `operator==(x, y)`: the cases decided by the first step -/
theorem equals_decided (x y : FPoly) (s t : PState) (h1 h2 : Gh2) (hx : Sim x s) (hy : Sim y t)
    (hE1 : x.p.st.empty = true → IsEmptyGhost y h1.gy t)
    (hE2 : x.p.st.empty = false → y.p.st.empty = true → IsEmptyGhost x h1.gx s)
    (hq : QOk x y h1.q s t)
    (hdec : x.p.st.empty = true ∨ y.p.st.empty = true ∨ x.p.dim = 0 ∨ (x.quickEquivalenceTest y).1.isSome = true) :
    Sim (x.equals y).2.1
        (PPLV.PolyStatus.runSteps2 PPLV.PolyStatus.equalsSteps [h1, h2] { x := s, y := t, al := false }).x
    ∧ Sim (x.equals y).2.2
        (PPLV.PolyStatus.runSteps2 PPLV.PolyStatus.equalsSteps [h1, h2] { x := s, y := t, al := false }).y := by
  have hsx : s.b .em = x.p.st.empty := hx.em
  have hty : t.b .em = y.p.st.empty := hy.em
  have er : PPLV.PolyStatus.runSteps2 PPLV.PolyStatus.equalsSteps [h1, h2] { x := s, y := t, al := false }
      = PPLV.PolyStatus.equalsTail h2 (PPLV.PolyStatus.equalsHead h1 { x := s, y := t, al := false }) := rfl
  rw [er]
  rcases (Bool.eq_false_or_eq_true x.p.st.empty).symm with a | a
  swap
  · have e1 : x.equals y = (y.isEmpty.1, x, y.isEmpty.2) := by simp [FPoly.equals, a]
    have e2 : PPLV.PolyStatus.equalsHead h1 { x := s, y := t, al := false }
        = { x := s, y := (PPLV.PolyStatus.isEmpty h1.gy t).2, al := false, go := false } := by
      simp [PPLV.PolyStatus.equalsHead, Two.onYb, PState.em, hsx, a]
    rw [e1, e2]
    simp only [PPLV.PolyStatus.equalsTail, Bool.false_and, Bool.false_eq_true, ↓reduceIte]
    exact ⟨hx, (isEmpty_sim y t h1.gy hy (hE1 a)).2⟩
  rcases (Bool.eq_false_or_eq_true y.p.st.empty).symm with b | b
  swap
  · have e1 : x.equals y = (x.isEmpty.1, x.isEmpty.2, y) := by simp [FPoly.equals, a, b]
    have e2 : PPLV.PolyStatus.equalsHead h1 { x := s, y := t, al := false }
        = { x := (PPLV.PolyStatus.isEmpty h1.gx s).2, y := t, al := false, go := false } := by
      simp [PPLV.PolyStatus.equalsHead, Two.onXb, Two.gy, PState.em, hsx, a, hty, b]
    rw [e1, e2]
    simp only [PPLV.PolyStatus.equalsTail, Bool.false_and, Bool.false_eq_true, ↓reduceIte]
    exact ⟨(isEmpty_sim x s h1.gx hx (hE2 a b)).2, hy⟩
  by_cases d : x.p.dim = 0
  · have e1 : x.equals y = (true, x, y) := by simp [FPoly.equals, a, b, d]
    have e2 : PPLV.PolyStatus.equalsHead h1 { x := s, y := t, al := false }
        = { x := s, y := t, al := false, go := false } := by
      simp [PPLV.PolyStatus.equalsHead, Two.gy, PState.em, hsx, a, hty, b, hx.dim, d]
    rw [e1, e2]
    simp only [PPLV.PolyStatus.equalsTail, Bool.false_and, Bool.false_eq_true, ↓reduceIte]
    exact ⟨hx, hy⟩
  have hsome : (x.quickEquivalenceTest y).1.isSome = true := by
    rcases hdec with h | h | h | h
    · rw [a] at h; cases h
    · rw [b] at h; cases h
    · exact absurd h d
    · exact h
  have d' : (x.p.dim == 0) = false := by simpa using d
  have ds : (s.dim == 0) = false := by rw [hx.dim]; exact d'
  obtain ⟨q1, q2, s', t', q3, q4, q5⟩ := hq true
  obtain ⟨bb, hb⟩ : ∃ bb, (x.quickEquivalenceTest y).1 = some bb := by
    cases hh : (x.quickEquivalenceTest y).1 with
    | none => rw [hh] at hsome; cases hsome
    | some v => exact ⟨v, rfl⟩
  have e1 : x.equals y = (bb, (x.quickEquivalenceTest y).2.1, (x.quickEquivalenceTest y).2.2) := by
    unfold FPoly.equals
    simp only [FPoly.st, FPoly.dim, a, b, d', Bool.false_eq_true, ↓reduceIte, hb]
  have hor : ((PPLV.PolyStatus.quickEquivalenceTest h1.q { x := s, y := t, al := false }).1.1
      || (PPLV.PolyStatus.quickEquivalenceTest h1.q { x := s, y := t, al := false }).1.2) = true := by
    rw [q1, q2, hb]; cases bb <;> rfl
  have e2 : PPLV.PolyStatus.equalsHead h1 { x := s, y := t, al := false }
      = { x := s', y := t', al := false, go := false } := by
    simp only [PPLV.PolyStatus.equalsHead, Two.gy, PState.em, hsx, a, hty, b, ds, Bool.false_eq_true, ↓reduceIte,
      hor, q3]
  rw [e1, e2]
  simp only [PPLV.PolyStatus.equalsTail, Bool.false_and, Bool.false_eq_true, ↓reduceIte]
  exact ⟨q4, q5⟩

/-- `operator==(x, y)`: the quick test does not decide; both inclusion tests -/
theorem equals_undecided (x y : FPoly) (s t : PState) (h1 h2 : Gh2) (hx : Sim x s) (hy : Sim y t)
    (a : x.p.st.empty = false) (b : y.p.st.empty = false) (d : x.p.dim ≠ 0)
    (hnone : (x.quickEquivalenceTest y).1 = none)
    (hq : QOk x y h1.q s t)
    (hI1 : ∀ s' t', Sim (x.quickEquivalenceTest y).2.1 s' → Sim (x.quickEquivalenceTest y).2.2 t' →
        ((x.quickEquivalenceTest y).2.1.p.st.cPend = true → (x.quickEquivalenceTest y).2.1.p.st.gUp = true)
        ∧ ((x.quickEquivalenceTest y).2.2.p.st.gPend = true → (x.quickEquivalenceTest y).2.2.p.st.cUp = true)
        ∧ NeedGensGhost (x.quickEquivalenceTest y).2.1 h1.gx s' ∧ NeedConsGhost (x.quickEquivalenceTest y).2.2 h1.gy t')
    (haux : h2.gx.aux = ((x.quickEquivalenceTest y).2.1.isIncludedIn (x.quickEquivalenceTest y).2.2).1)
    (hI2 : ∀ s1 t1, Sim ((x.quickEquivalenceTest y).2.1.isIncludedIn (x.quickEquivalenceTest y).2.2).2.1 s1 →
        Sim ((x.quickEquivalenceTest y).2.1.isIncludedIn (x.quickEquivalenceTest y).2.2).2.2 t1 →
        ((x.quickEquivalenceTest y).2.1.isIncludedIn (x.quickEquivalenceTest y).2.2).1 = true →
        EqTailOk ((x.quickEquivalenceTest y).2.1.isIncludedIn (x.quickEquivalenceTest y).2.2).2.1
                 ((x.quickEquivalenceTest y).2.1.isIncludedIn (x.quickEquivalenceTest y).2.2).2.2 h2 s1 t1) :
    Sim (x.equals y).2.1
        (PPLV.PolyStatus.runSteps2 PPLV.PolyStatus.equalsSteps [h1, h2] { x := s, y := t, al := false }).x
    ∧ Sim (x.equals y).2.2
        (PPLV.PolyStatus.runSteps2 PPLV.PolyStatus.equalsSteps [h1, h2] { x := s, y := t, al := false }).y := by
  have hsx : s.b .em = x.p.st.empty := hx.em
  have hty : t.b .em = y.p.st.empty := hy.em
  have er : PPLV.PolyStatus.runSteps2 PPLV.PolyStatus.equalsSteps [h1, h2] { x := s, y := t, al := false }
      = PPLV.PolyStatus.equalsTail h2 (PPLV.PolyStatus.equalsHead h1 { x := s, y := t, al := false }) := rfl
  rw [er]
  have d' : (x.p.dim == 0) = false := by simpa using d
  have ds : (s.dim == 0) = false := by rw [hx.dim]; exact d'
  obtain ⟨q1, q2, s', t', q3, q4, q5⟩ := hq true
  have e1 : x.equals y = FPoly.eqTail ((x.quickEquivalenceTest y).2.1.isIncludedIn (x.quickEquivalenceTest y).2.2).1
      ((x.quickEquivalenceTest y).2.1.isIncludedIn (x.quickEquivalenceTest y).2.2).2.1
      ((x.quickEquivalenceTest y).2.1.isIncludedIn (x.quickEquivalenceTest y).2.2).2.2 := by
    unfold FPoly.equals FPoly.eqTail
    simp only [FPoly.st, FPoly.dim, a, b, d', Bool.false_eq_true, ↓reduceIte, hnone]
  have hor : ((PPLV.PolyStatus.quickEquivalenceTest h1.q { x := s, y := t, al := false }).1.1
      || (PPLV.PolyStatus.quickEquivalenceTest h1.q { x := s, y := t, al := false }).1.2) = false := by
    rw [q1, q2, hnone]; rfl
  obtain ⟨l1, l2, l3, l4⟩ := hI1 s' t' q4 q5
  obtain ⟨i1, i2⟩ := isIncludedIn_sim (x.quickEquivalenceTest y).2.1 (x.quickEquivalenceTest y).2.2 s' t' h1.gx h1.gy true
    q4 q5 l1 l2 l3 l4
  have hal := abs_isIncludedIn_al h1.gx h1.gy s' t' true
  generalize hR : PPLV.PolyStatus.isIncludedIn h1.gx h1.gy { x := s', y := t', al := false, go := true } = R at *
  have e2 : PPLV.PolyStatus.equalsHead h1 { x := s, y := t, al := false }
      = { x := R.x, y := R.y, al := false, go := true } := by
    simp only [PPLV.PolyStatus.equalsHead, Two.gy, PState.em, hsx, a, hty, b, ds, Bool.false_eq_true, ↓reduceIte,
      hor, q3, hR]
    cases R; simp_all
  rw [e1, e2]
  exact eqTail_sim _ _ _ h2 _ _ i1 i2 haux (fun hr => hI2 _ _ i1 i2 hr)

end PPLV.PolyFull

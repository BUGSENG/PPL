import PPLV.PolyFull.ProofsOpsMeet
import PPLV.PolyOps.ProofsLattice12

/-!
# `topological_closure_assign` refines `RefPoly.closure`

PARTIAL: on the constraint path (`con_sys` up to date, no pending generators, some strict row
relaxed) the constraint system is REPLACED by the relaxed rows plus `ε ≤ 1`; `LowLevel` of that system
is the explicit hypothesis `hLow`.  The generator paths (`add_corresponding_points`, pending or not),
the unchanged path and the trivial / empty paths are fully proved.
-/
namespace PPLV.PolyFull
open PPLV.Lin PPLV.PolyOps

theorem legal_replaceC {s : Status} {d : Nat} (h : statusLegalB s d = true) (he : s.empty = false)
    (hc : s.cUp = true) (hcp : s.cPend = false) :
    statusLegalB (({ s with cMin := false }).clearGUp) d = true :=
  legal_consOnly (Nat.ne_of_gt (legal_dim_pos_c h hc)) he hc hcp

/-- the constraint system replaced wholesale (`LowLevel` of the new one given) -/
theorem Inv_replaceC (X : FPoly) (S S' : Set Val) (cs' : Sys) (hX : X.Inv S)
    (he : X.p.st.empty = false) (hc : X.p.st.cUp = true) (hcp : X.p.st.cPend = false)
    (hfp : cs'.firstPending = cs'.rows.length) (hlow : LowLevel X.p.nnc X.p.dim cs'.rows)
    (hwf : ({ X.p with cs := cs', st := ({ X.p.st with cMin := false }).clearGUp } : Poly).WF)
    (hden : ({ X.p with cs := cs', st := ({ X.p.st with cMin := false }).clearGUp } : Poly).Denotes S') :
    ({ X with p := { X.p with cs := cs', st := ({ X.p.st with cMin := false }).clearGUp } } : FPoly).Inv S' := by
  refine ⟨hwf, hden, legal_replaceC hX.legal he hc hcp, fun _ _ => ⟨le_of_eq hfp, fun _ => hfp⟩,
    fun _ h => (by cases h), fun _ _ => hlow, ?_,
    fun _ h => (by cases h), fun _ h => (by simp [Status.canPend, Status.clearGUp] at h)⟩
  intro _ h
  rw [show X.p.st.cPend = true from h] at hcp; cases hcp

theorem tca_trivial (p : Poly) (h : (!p.nnc || p.st.empty || p.dim == 0) = true) :
    p.topological_closure_assign = some p := by
  unfold Poly.topological_closure_assign
  cases hn : p.nnc
  · simp
  · rw [hn] at h
    simp only [Bool.not_true, Bool.false_or] at h
    simp [h]

/-- the constraint system the constraint path installs -/
def tcaCs (p : Poly) : Sys :=
  { rows := (p.cs.rows.map fun c =>
              if decide (c.eps < 0) && !c.isTautological then ({ c with eps := 0 } : Row).normalize else c)
              ++ [⟨false, 1, List.replicate p.dim 0, -1⟩],
    firstPending := (p.cs.rows.map fun c =>
              if decide (c.eps < 0) && !c.isTautological then ({ c with eps := 0 } : Row).normalize else c).length + 1,
    sorted := false }

/-- the generator system the non-pending generator path installs -/
def tcaGs (p : Poly) : Sys :=
  { rows := addCorrespondingPoints p.gs.rows, firstPending := (addCorrespondingPoints p.gs.rows).length,
    sorted := false }

/-- the row-level operator on the prepared receiver -/
theorem tca_core (x : FPoly) (S S' : Set Val) (hi : x.Inv S) (hnn : x.p.nnc = true)
    (he : x.p.st.empty = false) (hd : x.p.dim ≠ 0) (hgu : x.p.st.gUp = true) (hcp : x.p.st.cPend = false)
    (hden : ∀ q, x.p.topological_closure_assign = some q → q.Denotes S')
    (hLow : ∀ q, x.p.topological_closure_assign = some q → q.st.empty = false → q.st.cUp = true →
      q.st.gUp = false → LowLevel q.nnc q.dim q.cs.rows) :
    (x.liftO x.p.topological_closure_assign).Inv S' ∧
    (x.liftO x.p.topological_closure_assign).p.nnc = x.p.nnc ∧
    (x.liftO x.p.topological_closure_assign).p.dim = x.p.dim := by
  have hwfq : ∀ q, x.p.topological_closure_assign = some q → q.WF := fun q h =>
    topological_closure_assign_rows_wf x.p q hi.wf (fun h => (legal_canPend_up hi.legal h).1)
      (legal_gPend hi.legal) h
  have hd' : ¬ ((x.p.dim == 0) = true) := by simpa using hd
  have hform : x.p.topological_closure_assign =
      (if (!x.p.st.gPend && x.p.st.cUp) = true then
        (if (x.p.cs.rows.any fun c => decide (c.eps < 0) && !c.isTautological) = true then
          some { x.p with cs := tcaCs x.p, st := ({ x.p.st with cMin := false }).clearGUp }
         else some x.p)
       else if x.p.st.canPend = true then
         some { x.p with gs := x.p.gs.insertPendingSys (corrPoints x.p.gs.rows), st := { x.p.st with gPend := true } }
       else
         some { x.p with gs := tcaGs x.p, st := ({ x.p.st with gMin := false }).clearCUp }) := by
    unfold Poly.topological_closure_assign
    rw [if_neg (by simp [hnn]), if_neg (by simp [he, hd']), if_neg (by simp [hcp, hgu])]
    rfl
  rw [hform] at hden hLow hwfq ⊢
  by_cases hc2 : (!x.p.st.gPend && x.p.st.cUp) = true
  · rw [if_pos hc2] at hden hLow hwfq ⊢
    have hcu : x.p.st.cUp = true := by
      cases hh : x.p.st.cUp
      · simp [hh] at hc2
      · rfl
    by_cases hch : (x.p.cs.rows.any fun c => decide (c.eps < 0) && !c.isTautological) = true
    · rw [if_pos hch] at hden hLow hwfq ⊢
      have hI := Inv_replaceC x S S' (tcaCs x.p) hi he hcu hcp (by simp [tcaCs])
        (hLow _ rfl (by simp [Status.clearGUp, he]) (by simp [Status.clearGUp, hcu]) (by simp [Status.clearGUp]))
        (hwfq _ rfl) (hden _ rfl)
      have hlift := lift_of_nonempty x
        ({ x.p with cs := tcaCs x.p, st := ({ x.p.st with cMin := false }).clearGUp })
        (by simp [Status.clearGUp, he])
      show (x.lift _).Inv S' ∧ (x.lift _).p.nnc = _ ∧ (x.lift _).p.dim = _
      rw [hlift]
      exact ⟨hI, rfl, rfl⟩
    · rw [if_neg hch] at hden hLow hwfq ⊢
      obtain ⟨h1, h2⟩ := Inv_lift_same x S S' hi (hden _ rfl)
      exact ⟨h1, h2.1, h2.2⟩
  · rw [if_neg hc2] at hden hLow hwfq ⊢
    by_cases hcan : x.p.st.canPend = true
    · rw [if_pos hcan] at hden hLow hwfq ⊢
      have hI := Inv_pendG x S S' (corrPoints x.p.gs.rows) hi he hgu hcp hcan (hwfq _ rfl) (hden _ rfl)
      have hlift := lift_of_nonempty x
        ({ x.p with gs := x.p.gs.insertPendingSys (corrPoints x.p.gs.rows), st := { x.p.st with gPend := true } })
        he
      show (x.lift _).Inv S' ∧ (x.lift _).p.nnc = _ ∧ (x.lift _).p.dim = _
      rw [hlift]
      exact ⟨hI, rfl, rfl⟩
    · rw [if_neg hcan] at hden hLow hwfq ⊢
      have hcan' : x.p.st.canPend = false := by simpa using hcan
      have hI := Inv_nonpendG x S S' (tcaGs x.p) hi he hgu hcan' rfl (hwfq _ rfl) (hden _ rfl)
      have hlift := lift_of_nonempty x
        ({ x.p with gs := tcaGs x.p, st := ({ x.p.st with gMin := false }).clearCUp })
        (by simp [Status.clearCUp, he])
      show (x.lift _).Inv S' ∧ (x.lift _).p.nnc = _ ∧ (x.lift _).p.dim = _
      rw [hlift]
      exact ⟨hI, rfl, rfl⟩

/-- **`Polyhedron::topological_closure_assign()`, the whole object.**  PARTIAL: `hLow` assumes the
    field `low` of the RESULT on the constraint path only (result not marked empty, constraints up to
    date, generators NOT up to date: the relaxed constraint system with `ε ≤ 1` has replaced `con_sys`).
    Every other path and field is proved. -/
theorem topologicalClosureAssign_refines_partial (G : GlueFacts) (x : FPoly) (ref : RefPoly)
    (hn : ref.n = x.p.dim) (hwf : WF ref.n ref.cs) (hx : x.Inv (sem ref.cs))
    (hLow : x.topologicalClosureAssign.p.st.empty = false → x.topologicalClosureAssign.p.st.cUp = true →
      x.topologicalClosureAssign.p.st.gUp = false →
      LowLevel x.topologicalClosureAssign.p.nnc x.topologicalClosureAssign.p.dim
        x.topologicalClosureAssign.p.cs.rows) :
    x.topologicalClosureAssign.Inv (sem ref.closure.cs) ∧ x.SameShape x.topologicalClosureAssign := by
  by_cases htriv : (!x.nnc || x.st.empty || x.dim == 0) = true
  · have hR : x.topologicalClosureAssign = x := by
      unfold FPoly.topologicalClosureAssign; rw [if_pos htriv]
    rw [hR]
    have hq := tca_trivial x.p htriv
    exact ⟨hx.change (topological_closure_assign_rows_correct_full x.p x.p ref hn hwf hx.wf hx.den hq), rfl, rfl⟩
  · have htriv' := htriv
    simp only [Bool.or_eq_true, not_or, Bool.not_eq_true, Bool.not_eq_true', Bool.not_eq_false] at htriv'
    obtain ⟨⟨hnn, hex⟩, hd0⟩ := htriv'
    have hd : x.p.dim ≠ 0 := by simpa [FPoly.dim] using hd0
    obtain ⟨hs, hi, hiff, hemp, hne⟩ := G.isEmpty x _ hx
    have hn' : ref.n = x.isEmpty.2.p.dim := by rw [hs.2]; exact hn
    cases he1 : x.isEmpty.1
    · obtain ⟨hne2, hgc⟩ := hne he1
      obtain ⟨hgu, hcp⟩ := hgc (Nat.pos_of_ne_zero hd)
      have hR : x.topologicalClosureAssign = x.isEmpty.2.liftO x.isEmpty.2.p.topological_closure_assign := by
        unfold FPoly.topologicalClosureAssign
        rw [if_neg htriv]
        have hcp' : x.isEmpty.2.st.cPend = false := hcp
        simp only [he1, Bool.false_eq_true, if_false, hcp', Bool.not_true, ite_self]
      rw [hR] at hLow ⊢
      obtain ⟨h1, h2, h3⟩ := tca_core x.isEmpty.2 _ (sem ref.closure.cs) hi (by rw [hs.1]; exact hnn) hne2
        (by rw [hs.2]; exact hd) hgu hcp
        (fun q h => topological_closure_assign_rows_correct_full _ q ref hn' hwf hi.wf hi.den h)
        (fun q h a b c => by
          rw [h] at hLow
          have hp : (x.isEmpty.2.liftO (some q)).p = q := lift_p _ _
          rw [hp] at hLow
          exact hLow a b c)
      exact ⟨h1, h2.trans hs.1, h3.trans hs.2⟩
    · have hR : x.topologicalClosureAssign = x.isEmpty.2 := by
        unfold FPoly.topologicalClosureAssign
        rw [if_neg htriv]
        simp only [he1, if_true]
      rw [hR]
      have hq := tca_trivial x.isEmpty.2.p (by rw [hemp he1]; simp)
      exact ⟨hi.change (topological_closure_assign_rows_correct_full _ _ ref hn' hwf hi.wf hi.den hq), hs⟩

end PPLV.PolyFull

import PPLV.PolyFull.ProofsOpsDims

/-!
# `remove_space_dimensions` / `remove_higher_space_dimensions` refine `RefPoly.removeDims` / `RefPoly.removeHigherDims`
-/
namespace PPLV.PolyFull
open PPLV.Lin PPLV.PolyOps

/-- what the row-level operators of this file leave: a marked-empty object stays marked empty with
    its status word; otherwise only the generators are held, nothing pending, nothing minimized -/
def GensOnlyResult (p q : Poly) : Prop :=
  (p.st.empty = true → q.st = p.st) ∧
  (p.st.empty = false → q.st.empty = false ∧ q.st.cUp = false ∧ q.st.cMin = false ∧ q.st.cPend = false ∧
    q.st.gPend = false ∧ (q.st.gUp = true → q.gs.firstPending = q.gs.rows.length) ∧
    statusLegalB q.st q.dim = true)

theorem Inv_lift_gensOnly (x1 : FPoly) (q : Poly) (S S' : Set Val) (hx : x1.Inv S) (hwf : q.WF)
    (hden : q.Denotes S') (hr : GensOnlyResult x1.p q) :
    (x1.lift q).Inv S' ∧ ((x1.lift q).p.st.empty = false → (x1.lift q).p.st.canPend = false) := by
  cases hem : x1.p.st.empty
  · obtain ⟨he, hc, hcm, hcp, hgp, hfp, hl⟩ := hr.2 hem
    rw [lift_of_nonempty x1 q he]
    refine ⟨Inv_gensOnly _ S' hwf hden hl hc hcm hcp hgp hfp, fun _ => ?_⟩
    show q.st.canPend = false
    simp [Status.canPend, hcm]
  · have hst := hr.1 hem
    rw [lift_of_empty x1 q hem]
    have he : q.st.empty = true := by rw [hst]; exact hem
    refine ⟨Inv_of_empty _ S' he hwf hden ?_, fun h => ?_⟩
    · show statusLegalB q.st q.dim = true
      rw [hst]
      exact legal_empty_any _ hx.legal hem
    · rw [show ({ x1 with p := q } : FPoly).p.st.empty = true from he] at h; cases h

theorem obtainGens_ex (p : Poly) (hg : p.st.gUp = true) (hc : p.st.cPend = false)
    (hfp : p.st.gPend = false → p.gs.firstPending = p.gs.rows.length) :
    ∃ p', p.obtainGeneratorsNoConv = some p' ∧ p'.gs.firstPending = p'.gs.rows.length := by
  unfold Poly.obtainGeneratorsNoConv
  cases hgp : p.st.gPend
  · refine ⟨p, ?_, hfp hgp⟩
    simp [Status.somethingPending, hgp, hc, hg]
  · refine ⟨{ p with gs := { p.gs.unsetPending with sorted := false },
                       st := ({ p.st with gPend := false, gMin := false }).clearCUp }, ?_, rfl⟩
    simp only [Status.somethingPending, hgp, hc, Bool.or_true, if_true]

theorem zeroDimUniv_gensOnly (p p' : Poly) (hem : p.st.empty = false) : GensOnlyResult p p'.setZeroDimUniv :=
  ⟨fun h => (by rw [hem] at h; cases h), fun _ => ⟨rfl, rfl, rfl, rfl, rfl, fun h => (by cases h), rfl⟩⟩

theorem rsd_result (p : Poly) (vars : List Nat) (hv : vars ≠ []) (hp : p.WF) (hem : p.st.empty = false)
    (hlen : vars.length ≤ p.dim)
    (hg : p.st.gUp = true) (hc : p.st.cPend = false)
    (hfp : p.st.gPend = false → p.gs.firstPending = p.gs.rows.length) :
    ∃ q, p.remove_space_dimensions vars = some q ∧ q.nnc = p.nnc ∧ q.dim = p.dim - vars.length ∧
      GensOnlyResult p q := by
  obtain ⟨p', hp', hfp'⟩ := obtainGens_ex p hg hc hfp
  obtain ⟨_, _, hn', hd', _, hem', hgu', _, hgp', _, _⟩ := obtainGens_shape p p' hp hp'
  have hv' : vars.isEmpty = false := by
    cases vars with
    | nil => exact absurd rfl hv
    | cons a t => rfl
  have hq : p.remove_space_dimensions vars = some
      (if (p.dim - vars.length == 0) = true then p'.setZeroDimUniv
        else { p' with gs := gsRemoveDims vars p'.gs,
                       st := { p'.st.clearCUp with gMin := false }, dim := p.dim - vars.length }) := by
    unfold Poly.remove_space_dimensions
    rw [hv']
    simp only [Bool.false_eq_true, if_false, hem, hp', Option.map_some]
  refine ⟨_, hq, ?_, ?_, ?_⟩
  · split <;> exact hn'
  · split
    · rename_i h0
      have : p.dim - vars.length = 0 := by simpa using h0
      rw [this]; rfl
    · rfl
  · split
    · exact zeroDimUniv_gensOnly p p' hem
    · rename_i h0
      have h0' : p.dim - vars.length ≠ 0 := by simpa using h0
      refine ⟨fun h => (by rw [hem] at h; cases h), fun _ => ⟨?_, rfl, rfl, rfl, ?_, fun _ => rfl, ?_⟩⟩
      · show p'.st.clearCUp.empty = false
        rw [← hem, ← hem']; rfl
      · show p'.st.clearCUp.gPend = false
        rw [← hgp']; rfl
      · exact legal_gensOnly h0' (hem'.trans hem) hgu' hgp'

theorem rsd_empty (p : Poly) (vars : List Nat) (hv : vars ≠ []) (hem : p.st.empty = true) :
    p.remove_space_dimensions vars = some { p with cs := Sys.clear, dim := p.dim - vars.length } := by
  have hv' : vars.isEmpty = false := by
    cases vars with
    | nil => exact absurd rfl hv
    | cons a t => rfl
  unfold Poly.remove_space_dimensions
  rw [hv']
  simp [hem]

/-- **`Polyhedron::remove_space_dimensions(vars)`, the whole object** (preparation: pending constraints
    processed / generators computed, the row-level operator, the exact order `remove_row` leaves):
    the receiver denotes `RefPoly.removeDims` and keeps the invariant. -/
theorem removeSpaceDimensions_refines (G : GlueFacts) (x : FPoly) (ref : RefPoly) (vars : List Nat)
    (hn : ref.n = x.p.dim) (hnnc : ref.nnc = x.p.nnc) (hwf : WF ref.n ref.cs) (hnd : vars.Nodup)
    (hlt : ∀ v ∈ vars, v < x.p.dim) (hx : x.Inv (sem ref.cs)) :
    (x.removeSpaceDimensions vars).Inv (sem (ref.removeDims vars).cs) ∧
    (x.removeSpaceDimensions vars).p.nnc = x.p.nnc ∧
    (x.removeSpaceDimensions vars).p.dim = x.p.dim - vars.length := by
  unfold FPoly.removeSpaceDimensions
  by_cases hv : vars = []
  · subst hv
    simp only [List.isEmpty_nil, if_true, List.length_nil, Nat.sub_zero, and_self, and_true]
    exact hx.change (remove_space_dimensions_rows_correct x.p x.p [] ref hn hnnc hwf hx.wf hnd hlt hx.den
      (by simp [Poly.remove_space_dimensions]))
  have hv' : vars.isEmpty = false := by
    cases vars with
    | nil => exact absurd rfl hv
    | cons a t => rfl
  rw [hv']
  simp only [Bool.false_eq_true, if_false]
  have hdpos : 0 < x.p.dim := by
    cases vars with
    | nil => exact absurd rfl hv
    | cons a t => exact Nat.lt_of_le_of_lt (Nat.zero_le _) (hlt a (List.mem_cons_self))
  obtain ⟨hs, hi, hup⟩ := prepGens_facts G x _ hx hdpos
  generalize x.prepGensDropPending (fun y => y.updateGenerators.2) = x1 at hs hi hup ⊢
  have hn1 : ref.n = x1.p.dim := hn.trans hs.2.symm
  have hnnc1 : ref.nnc = x1.p.nnc := hnnc.trans hs.1.symm
  have hlt1 : ∀ v ∈ vars, v < x1.p.dim := by rw [hs.2]; exact hlt
  have hlen : vars.length ≤ x1.p.dim := by
    have h2 := List.Nodup.length_le_of_subset hnd (l₂ := List.range x1.p.dim)
      (fun v hv => List.mem_range.mpr (hlt1 v hv))
    simpa using h2
  have key : ∃ q, x1.p.remove_space_dimensions vars = some q ∧ q.nnc = x1.p.nnc ∧
      q.dim = x1.p.dim - vars.length ∧ GensOnlyResult x1.p q := by
    cases hem : x1.p.st.empty
    · obtain ⟨hgu, hcp⟩ := hup hem
      exact rsd_result x1.p vars hv hi.wf hem hlen hgu hcp (fun h => (hi.fpG hem hgu).2 h)
    · exact ⟨_, rsd_empty x1.p vars hv hem, rfl, rfl, fun _ => rfl, fun h => (by rw [hem] at h; cases h)⟩
  obtain ⟨q, hq, hqn, hqd, hr⟩ := key
  rw [hq]
  have hqwf : q.WF := remove_space_dimensions_rows_wf x1.p q vars hi.wf hnd hlt1
    (legal_empty_flags hi.legal) hq
  have hqden := remove_space_dimensions_rows_correct x1.p q vars ref hn1 hnnc1 hwf hi.wf hnd hlt1 hi.den hq
  obtain ⟨hI, hcp⟩ := Inv_lift_gensOnly x1 q _ _ hi hqwf hqden hr
  obtain ⟨h1, h2, h3⟩ := finish_refineG (x1.liftO (some q)) _
    { (x1.liftO (some q)).p.gs with
      rows := (swapRemove (fun (r : Option Row) => r.isNone) ((x1.p.gs.rows.map (genRowRemoveDims vars)).length + 1)
        (x1.p.gs.rows.map (genRowRemoveDims vars)) 0).filterMap id,
      firstPending := ((swapRemove (fun (r : Option Row) => r.isNone) ((x1.p.gs.rows.map (genRowRemoveDims vars)).length + 1)
        (x1.p.gs.rows.map (genRowRemoveDims vars)) 0).filterMap id).length }
    ((x1.liftO (some q)).st.empty || (x1.liftO (some q)).dim == 0) hI rfl hcp
  refine ⟨h1, ?_, ?_⟩
  · rw [h2]; show (x1.lift q).p.nnc = _; rw [lift_p, hqn, hs.1]
  · rw [h3]; show (x1.lift q).p.dim = _; rw [lift_p, hqd, hs.2]

/-!
## `remove_higher_space_dimensions` refines `RefPoly.removeHigherDims`
-/
theorem removeInvalid_fp (s : Sys) (h : s.firstPending = s.rows.length) :
    (removeInvalidLinesAndRays s).firstPending = (removeInvalidLinesAndRays s).rows.length := by
  show s.firstPending - ((s.rows.take s.firstPending).filter _).length = (s.rows.filter _).length
  rw [h, List.take_length]
  have := List.length_eq_length_filter_add (l := s.rows) (fun r => (r.b == 0 && r.allHomZero))
  beta_reduce at this ⊢
  omega

theorem rhsd_result (p : Poly) (nd : Nat) (hne : nd ≠ p.dim) (hp : p.WF) (hem : p.st.empty = false)
    (hg : p.st.gUp = true) (hc : p.st.cPend = false)
    (hfp : p.st.gPend = false → p.gs.firstPending = p.gs.rows.length) :
    ∃ q, p.remove_higher_space_dimensions nd = some q ∧ q.nnc = p.nnc ∧ q.dim = nd ∧
      GensOnlyResult p q := by
  obtain ⟨p', hp', hfp'⟩ := obtainGens_ex p hg hc hfp
  obtain ⟨_, _, hn', hd', _, hem', hgu', _, hgp', _, _⟩ := obtainGens_shape p p' hp hp'
  have hne' : (nd == p.dim) = false := by simpa using hne
  have hq : p.remove_higher_space_dimensions nd = some
      (if (nd == 0) = true then p'.setZeroDimUniv
        else { p' with gs := gsTruncate nd p'.gs,
                       st := { p'.st.clearCUp with gMin := false }, dim := nd }) := by
    unfold Poly.remove_higher_space_dimensions
    rw [hne']
    simp only [Bool.false_eq_true, if_false, hem, hp', Option.map_some]
  refine ⟨_, hq, ?_, ?_, ?_⟩
  · split <;> exact hn'
  · split
    · rename_i h0
      have : nd = 0 := by simpa using h0
      rw [this]; rfl
    · rfl
  · split
    · exact zeroDimUniv_gensOnly p p' hem
    · rename_i h0
      have h0' : nd ≠ 0 := by simpa using h0
      refine ⟨fun h => (by rw [hem] at h; cases h), fun _ => ⟨?_, rfl, rfl, rfl, ?_, fun _ => ?_, ?_⟩⟩
      · show p'.st.clearCUp.empty = false
        rw [← hem, ← hem']; rfl
      · show p'.st.clearCUp.gPend = false
        rw [← hgp']; rfl
      · exact removeInvalid_fp _ (by simpa using hfp')
      · exact legal_gensOnly h0' (hem'.trans hem) hgu' hgp'

theorem rhsd_empty (p : Poly) (nd : Nat) (hne : nd ≠ p.dim) (hem : p.st.empty = true) :
    p.remove_higher_space_dimensions nd = some { p with cs := Sys.clear, dim := nd } := by
  have hne' : (nd == p.dim) = false := by simpa using hne
  unfold Poly.remove_higher_space_dimensions
  rw [hne']
  simp [hem]

/-- **`Polyhedron::remove_higher_space_dimensions(nd)`, the whole object**: the receiver denotes
    `RefPoly.removeHigherDims` and keeps the invariant. -/
theorem removeHigherSpaceDimensions_refines (G : GlueFacts) (x : FPoly) (ref : RefPoly) (nd : Nat)
    (hn : ref.n = x.p.dim) (hnnc : ref.nnc = x.p.nnc) (hwf : WF ref.n ref.cs) (hnd : nd ≤ x.p.dim)
    (hx : x.Inv (sem ref.cs)) :
    (x.removeHigherSpaceDimensions nd).Inv (sem (ref.removeHigherDims nd).cs) ∧
    (x.removeHigherSpaceDimensions nd).p.nnc = x.p.nnc ∧
    (x.removeHigherSpaceDimensions nd).p.dim = nd := by
  unfold FPoly.removeHigherSpaceDimensions FPoly.dim
  by_cases hne : nd = x.p.dim
  · have : (nd == x.p.dim) = true := by simpa using hne
    rw [this]
    simp only [if_true, true_and]
    refine ⟨?_, hne.symm⟩
    exact hx.change (remove_higher_space_dimensions_rows_correct x.p x.p nd ref hn hnnc hwf hx.wf hnd hx.den
      (by simp [Poly.remove_higher_space_dimensions, hne]))
  have hne' : (nd == x.p.dim) = false := by simpa using hne
  rw [hne']
  simp only [Bool.false_eq_true, if_false]
  have hdpos : 0 < x.p.dim := by omega
  obtain ⟨hs, hi, hup⟩ := prepGens_facts G x _ hx hdpos
  generalize x.prepGensDropPending (fun y => y.updateGenerators.2) = x1 at hs hi hup ⊢
  have hn1 : ref.n = x1.p.dim := hn.trans hs.2.symm
  have hnnc1 : ref.nnc = x1.p.nnc := hnnc.trans hs.1.symm
  have hnd1 : nd ≤ x1.p.dim := by rw [hs.2]; exact hnd
  have hne1 : nd ≠ x1.p.dim := by rw [hs.2]; exact hne
  have key : ∃ q, x1.p.remove_higher_space_dimensions nd = some q ∧ q.nnc = x1.p.nnc ∧
      q.dim = nd ∧ GensOnlyResult x1.p q := by
    cases hem : x1.p.st.empty
    · obtain ⟨hgu, hcp⟩ := hup hem
      exact rhsd_result x1.p nd hne1 hi.wf hem hgu hcp (fun h => (hi.fpG hem hgu).2 h)
    · exact ⟨_, rhsd_empty x1.p nd hne1 hem, rfl, rfl, fun _ => rfl, fun h => (by rw [hem] at h; cases h)⟩
  obtain ⟨q, hq, hqn, hqd, hr⟩ := key
  rw [hq]
  have hqwf : q.WF := remove_higher_space_dimensions_rows_wf x1.p q nd hi.wf hnd1
    (legal_empty_flags hi.legal) hq
  have hqden := remove_higher_space_dimensions_rows_correct x1.p q nd ref hn1 hnnc1 hwf hi.wf hnd1 hi.den hq
  obtain ⟨hI, hcp⟩ := Inv_lift_gensOnly x1 q _ _ hi hqwf hqden hr
  obtain ⟨h1, h2, h3⟩ := finish_refineG (x1.liftO (some q)) _
    { (x1.liftO (some q)).p.gs with
      rows := swapRemove (fun (r : Row) => r.b == 0 && r.allHomZero)
        ((x1.p.gs.rows.map fun r => ({ r with cf := r.cf.take nd } : Row).strongNormalize).length + 1)
        (x1.p.gs.rows.map fun r => ({ r with cf := r.cf.take nd } : Row).strongNormalize) 0,
      firstPending := (swapRemove (fun (r : Row) => r.b == 0 && r.allHomZero)
        ((x1.p.gs.rows.map fun r => ({ r with cf := r.cf.take nd } : Row).strongNormalize).length + 1)
        (x1.p.gs.rows.map fun r => ({ r with cf := r.cf.take nd } : Row).strongNormalize) 0).length }
    ((x1.liftO (some q)).st.empty || (x1.liftO (some q)).dim == 0) hI rfl hcp
  refine ⟨h1, h2.trans ?_, h3.trans ?_⟩
  · show (x1.lift q).p.nnc = _; rw [lift_p, hqn, hs.1]
  · show (x1.lift q).p.dim = _; rw [lift_p, hqd]

end PPLV.PolyFull

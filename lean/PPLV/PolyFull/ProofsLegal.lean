import PPLV.PolyFull.Spec

/-!
# The status legality table, clause by clause

`statusLegalB` is a conjunction of eight clauses of `Status::OK()` / `Polyhedron::OK()`.  `Legal` states them
as implications between the flags, so that a proof about a status word names the clauses it needs and
never enumerates the 2^9 words.
-/
namespace PPLV.PolyFull
open PPLV.PolyOps

/-- the clauses of `statusLegalB` -/
structure Legal (s : Status) (d : Nat) : Prop where
  empty : s.empty = true → s.cUp = false ∧ s.gUp = false ∧ s.cMin = false ∧ s.gMin = false ∧ s.satC = false
    ∧ s.satG = false ∧ s.cPend = false ∧ s.gPend = false
  sat : s.satC = true ∨ s.satG = true → s.cUp = true ∧ s.gUp = true
  cMin : s.cMin = true → s.cUp = true
  gMin : s.gMin = true → s.gUp = true
  notBoth : s.cPend = true → s.gPend = false
  pend : s.cPend = true ∨ s.gPend = true → s.canPend = true
  zero : d = 0 → s.cUp = false ∧ s.gUp = false
  some : s.empty = false → d ≠ 0 → s.cUp = true ∨ s.gUp = true

theorem bimp (a b : Bool) : (!a || b) = true ↔ (a = true → b = true) := by cases a <;> simp

theorem legal_iff (s : Status) (d : Nat) : statusLegalB s d = true ↔ Legal s d := by
  have e : statusLegalB s d = true ↔
      (s.empty = true → (!s.cUp && !s.gUp && !s.cMin && !s.gMin && !s.satC && !s.satG && !s.cPend && !s.gPend) = true)
      ∧ ((s.satC || s.satG) = true → (s.cUp && s.gUp) = true) ∧ (s.cMin = true → s.cUp = true)
      ∧ (s.gMin = true → s.gUp = true) ∧ (s.cPend && s.gPend) = false
      ∧ ((s.cPend || s.gPend) = true → s.canPend = true) ∧ ((d == 0) = true → (!s.cUp && !s.gUp) = true)
      ∧ (s.empty || d == 0 || s.cUp || s.gUp) = true := by
    simp only [statusLegalB, Bool.and_eq_true, bimp, and_assoc, bne, Bool.not_eq_true']
  rw [e]
  simp only [Bool.and_eq_true, Bool.or_eq_true, Bool.not_eq_true', beq_iff_eq, Bool.and_eq_false_imp, and_assoc]
  constructor
  · rintro ⟨h1, h2, h3, h4, h5, h6, h7, h8⟩
    exact ⟨h1, h2, h3, h4, h5, h6, h7, fun he hd => by
      rcases h8 with ((h | h) | h) | h
      · rw [he] at h; cases h
      · exact absurd h hd
      · exact Or.inl h
      · exact Or.inr h⟩
  · intro h
    refine ⟨h.empty, h.sat, h.cMin, h.gMin, h.notBoth, h.pend, h.zero, ?_⟩
    rcases Bool.eq_false_or_eq_true s.empty with he | he
    · exact Or.inl (Or.inl (Or.inl he))
    · by_cases hd : d = 0
      · exact Or.inl (Or.inl (Or.inr hd))
      · rcases h.some he hd with h | h
        · exact Or.inl (Or.inr h)
        · exact Or.inr h

theorem legal_cMin {s : Status} {d : Nat} (h : statusLegalB s d = true) (hm : s.cMin = true) : s.cUp = true :=
  ((legal_iff _ _).1 h).cMin hm

theorem legal_gMin {s : Status} {d : Nat} (h : statusLegalB s d = true) (hm : s.gMin = true) : s.gUp = true :=
  ((legal_iff _ _).1 h).gMin hm

theorem legal_not_both {s : Status} {d : Nat} (h : statusLegalB s d = true) :
    ¬ (s.cPend = true ∧ s.gPend = true) :=
  fun ⟨a, b⟩ => absurd b (Bool.eq_false_iff.mp (((legal_iff _ _).1 h).notBoth a))

theorem legal_cPend {s : Status} {d : Nat} (h : statusLegalB s d = true) (hp : s.cPend = true) :
    s.canPend = true :=
  ((legal_iff _ _).1 h).pend (Or.inl hp)

theorem legal_gPend {s : Status} {d : Nat} (h : statusLegalB s d = true) (hp : s.gPend = true) :
    s.canPend = true :=
  ((legal_iff _ _).1 h).pend (Or.inr hp)

theorem legal_dim {s : Status} {d : Nat} (h : statusLegalB s d = true) (hc : s.cUp = true) : 0 < d :=
  Nat.pos_of_ne_zero fun hd => absurd hc (Bool.eq_false_iff.mp (((legal_iff _ _).1 h).zero hd).1)

/-- `can_have_something_pending()` on a legal word: both descriptions minimized and up to date -/
theorem Legal.of_canPend {s : Status} {d : Nat} (L : Legal s d) (h : s.canPend = true) :
    s.cUp = true ∧ s.gUp = true ∧ s.cMin = true ∧ s.gMin = true := by
  simp only [Status.canPend, Bool.and_eq_true, Bool.or_eq_true] at h
  exact ⟨(L.sat h.2).1, (L.sat h.2).2, h.1.1, h.1.2⟩

/-- a pending flag on a legal word -/
theorem Legal.of_pend {s : Status} {d : Nat} (L : Legal s d) (h : s.cPend = true ∨ s.gPend = true) :
    s.cUp = true ∧ s.gUp = true ∧ s.cMin = true ∧ s.gMin = true ∧ s.empty = false := by
  obtain ⟨a, b, c, e⟩ := L.of_canPend (L.pend h)
  refine ⟨a, b, c, e, ?_⟩
  rcases Bool.eq_false_or_eq_true s.empty with he | he
  · rw [(L.empty he).1] at a; cases a
  · exact he

/-- the table looks at the dimension only to see whether it is zero -/
theorem statusLegalB_pos {s : Status} {d : Nat} (hd : d ≠ 0) : statusLegalB s d = statusLegalB s 1 := by
  have e : (d == 0) = false := beq_eq_false_iff_ne.mpr hd
  unfold statusLegalB
  rw [bne, e]
  rfl

theorem legal_dim_change {s : Status} {d d' : Nat} (hd : d ≠ 0) (hd' : d' ≠ 0)
    (h : statusLegalB s d = true) : statusLegalB s d' = true := by
  rw [statusLegalB_pos hd] at h
  rw [statusLegalB_pos hd', h]

theorem legal_setEmpty (d : Nat) : statusLegalB Status.setEmpty d = true :=
  (legal_iff _ _).2 ⟨fun _ => ⟨rfl, rfl, rfl, rfl, rfl, rfl, rfl, rfl⟩, fun h => (by rcases h with h | h <;> cases h),
    nofun, nofun, nofun, fun h => (by rcases h with h | h <;> cases h), fun _ => ⟨rfl, rfl⟩, nofun⟩

/-- a non-empty object in positive dimension that holds its generators, with nothing pending among them,
    stays legal when every constraint-side flag and `G_MINIMIZED` are dropped -/
theorem legal_gensOnly {s : Status} {d : Nat} (hd : d ≠ 0) (he : s.empty = false) (hg : s.gUp = true)
    (hp : s.gPend = false) : statusLegalB ({ s.clearCUp with gMin := false }) d = true :=
  (legal_iff _ _).2 ⟨fun e => absurd e (Bool.eq_false_iff.mp he), fun h => (by rcases h with h | h <;> cases h), nofun,
    nofun, nofun, fun h => h.elim nofun fun h => absurd h (Bool.eq_false_iff.mp hp), fun h => absurd h hd,
    fun _ _ => Or.inr hg⟩

/-- the same with the roles of the two descriptions exchanged -/
theorem legal_consOnly {s : Status} {d : Nat} (hd : d ≠ 0) (he : s.empty = false) (hc : s.cUp = true)
    (hp : s.cPend = false) : statusLegalB ({ s.clearGUp with cMin := false }) d = true :=
  (legal_iff _ _).2 ⟨fun e => absurd e (Bool.eq_false_iff.mp he), fun h => (by rcases h with h | h <;> cases h), nofun,
    nofun, fun h => absurd h (Bool.eq_false_iff.mp hp),
    fun h => h.elim (fun h => absurd h (Bool.eq_false_iff.mp hp)) nofun, fun h => absurd h hd, fun _ _ => Or.inl hc⟩

end PPLV.PolyFull

import PPLV.PolyFull.ProofsOps6g
import PPLV.PolyOps.ProofsDims7

/-!
# `concatenate_assign`: the two main branches
-/
namespace PPLV.PolyFull
open PPLV.Lin PPLV.PolyOps
open PPLV.Conv (holdsAll holds)

/-- an object that holds only its constraints, nothing pending, not minimized -/
theorem Inv_consOnly (X : FPoly) (S : Set Val) (hwf : X.p.WF) (hden : X.p.Denotes S)
    (hl : statusLegalB X.p.st X.p.dim = true) (hg : X.p.st.gUp = false) (hgm : X.p.st.gMin = false)
    (hcp : X.p.st.cPend = false) (hgp : X.p.st.gPend = false)
    (hfp : X.p.st.cUp = true → X.p.cs.firstPending = X.p.cs.rows.length)
    (hlow : X.p.st.cUp = true → LowLevel X.p.nnc X.p.dim X.p.cs.rows) : X.Inv S := by
  refine ⟨hwf, hden, hl, fun _ hc => ⟨le_of_eq (hfp hc), fun _ => hfp hc⟩, fun _ h => (by rw [hg] at h; cases h),
    fun _ hc => hlow hc, fun _ h => (by rw [hcp] at h; cases h),
    fun _ h => (by rw [hgp] at h; cases h), fun _ h => ?_⟩
  simp [Status.canPend, hgm] at h

/-- the result of the row-level `concatenate_assign`, receiver without / with pending capability -/
def concatNonpendPoly (p y : Poly) : Poly :=
  { p with dim := p.dim + y.dim,
           cs := (p.cs.addZeroCols y.dim).insertSys (y.cs.rows.map (Row.shiftInto p.dim)),
           st := ({ p.st with cMin := false }).clearGUp }

def concatPendPoly (p y : Poly) : Poly :=
  { p with dim := p.dim + y.dim,
           cs := (p.cs.addZeroCols y.dim).insertPendingSys (y.cs.rows.map (Row.shiftInto p.dim)),
           gs := p.gs.addUniverseRows p.nnc p.dim y.dim,
           st := { p.st with satC := true, satG := false, cPend := true } }

theorem concat_nonpend_eq (p y : Poly) (hex : p.st.empty = false) (hey : y.st.empty = false)
    (hdx : p.dim ≠ 0) (hdy : y.dim ≠ 0) (hcx : p.st.cUp = true) (hgx : p.st.gPend = false)
    (hcy : y.st.cUp = true) (hgy : y.st.gPend = false) (hcp : p.st.canPend = false) :
    p.concatenate_assign y =
      some (concatNonpendPoly p y) := by
  simp [Poly.concatenate_assign, concatNonpendPoly, hex, hey, hdx, hdy, hcx, hgx, hcy, hgy, hcp]

theorem concat_pend_eq (p y : Poly) (hex : p.st.empty = false) (hey : y.st.empty = false)
    (hdx : p.dim ≠ 0) (hdy : y.dim ≠ 0) (hcx : p.st.cUp = true) (hgx : p.st.gPend = false)
    (hcy : y.st.cUp = true) (hgy : y.st.gPend = false) (hcp : p.st.canPend = true) :
    p.concatenate_assign y =
      some (concatPendPoly p y) := by
  simp [Poly.concatenate_assign, concatPendPoly, hex, hey, hdx, hdy, hcx, hgx, hcy, hgy, hcp]

theorem concat_cs_len (x y : Poly) (hx : ∀ r ∈ x.cs.rows, r.cf.length = x.dim)
    (hy : ∀ r ∈ y.cs.rows, r.cf.length = y.dim) :
    ∀ r ∈ x.cs.rows.map (Row.addZeroCols y.dim) ++ y.cs.rows.map (Row.shiftInto x.dim),
      r.cf.length = x.dim + y.dim := by
  intro r hr
  rcases List.mem_append.mp hr with h | h
  · obtain ⟨r0, hr0, rfl⟩ := List.mem_map.mp h
    show (r0.cf ++ List.replicate y.dim 0).length = _
    rw [List.length_append, List.length_replicate, hx r0 hr0]
  · obtain ⟨r0, hr0, rfl⟩ := List.mem_map.mp h
    show (List.replicate x.dim 0 ++ r0.cf).length = _
    rw [List.length_append, List.length_replicate, hy r0 hr0]

/-- the branch of `concatenate_assign` on a receiver that cannot have pending rows: fully proved -/
theorem concat_nonpend (x y : FPoly) (S Sy S' : Set Val) (hx : x.Inv S) (hy : y.Inv Sy)
    (hex : x.p.st.empty = false) (hey : y.p.st.empty = false) (hdx : x.p.dim ≠ 0) (hdy : y.p.dim ≠ 0)
    (hcx : x.p.st.cUp = true) (hcy : y.p.st.cUp = true)
    (hcp : x.p.st.canPend = false) (exact : Sys) (hfp : exact.firstPending = exact.rows.length)
    (hden : (concatNonpendPoly x.p y.p).Denotes S') :
    ({ x with p := { concatNonpendPoly x.p y.p with cs := (concatNonpendPoly x.p y.p).cs.refineBy exact } } : FPoly).Inv S' := by
  have hnp := legal_not_canPend hx.legal hcp
  have h0 : ({ x with p := concatNonpendPoly x.p y.p } : FPoly).Inv S' := by
    refine Inv_consOnly _ S' ⟨fun _ _ => concat_cs_len x.p y.p (hx.wf.cs_len hex hcx) (hy.wf.cs_len hey hcy),
        fun _ h => (by cases h), fun _ h => (by cases h), fun h => ?_, fun h => (by cases h), fun h => (by cases h.2),
        fun _ _ => Or.inl hcx, fun h => ?_⟩ hden ?_ rfl rfl hnp.1 rfl (fun _ => ?_) (fun _ => ?_)
    · rw [show x.p.st.cPend = true from h] at hnp; cases hnp.1
    · have : x.p.dim + y.p.dim = 0 := h
      omega
    · exact legal_dim_change hdx (by show x.p.dim + y.p.dim ≠ 0; omega) (legal_nonpendC hx.legal hex hcx hcp)
    · show (x.p.cs.rows.map _).length + (y.p.cs.rows.map _).length = (x.p.cs.rows.map _ ++ y.p.cs.rows.map _).length
      rw [List.length_append]
    · exact LowLevel.mono (fun r hr => List.mem_append_left _ hr)
        (LowLevel_addZeroCols _ _ _ _ (hx.wf.cs_len hex hcx) (hx.low hex hcx))
  refine Inv_refineC _ S' exact h0 (fun _ _ => ⟨le_of_eq hfp, fun _ => hfp⟩) (fun _ h => ?_)
  simp [Status.canPend, Status.clearGUp, concatNonpendPoly] at h

theorem legal_concatPend {s : Status} {d d' : Nat} (hd : d ≠ 0) (hd' : d' ≠ 0) (h : statusLegalB s d = true)
    (he : s.empty = false) (hg : s.gPend = false) (hcp : s.canPend = true) :
    statusLegalB { s with satC := true, satG := false, cPend := true } d' = true := by
  replace h := legal_dim_change hd hd' h
  rw [legal_iff] at h ⊢
  obtain ⟨hcu, hgu, hcm, hgm⟩ := h.of_canPend hcp
  refine ⟨fun e => absurd e (Bool.eq_false_iff.mp he), fun _ => ⟨hcu, hgu⟩, h.cMin, h.gMin, fun _ => hg, fun _ => ?_,
    h.zero, h.some⟩
  show (s.cMin && s.gMin && (true || false)) = true
  rw [hcm, hgm]; rfl

/-- the branch of `concatenate_assign` on a receiver that can have pending rows: everything but `eng` -/
theorem concat_pend (x y : FPoly) (S Sy S' : Set Val) (hx : x.Inv S) (hy : y.Inv Sy)
    (hex : x.p.st.empty = false) (hey : y.p.st.empty = false) (hdx : x.p.dim ≠ 0) (hdy : y.p.dim ≠ 0)
    (hcx : x.p.st.cUp = true) (hgx : x.p.st.gPend = false) (hcy : y.p.st.cUp = true)
    (hcp : x.p.st.canPend = true) (a b : BitMat)
    (hden : (concatPendPoly x.p y.p).Denotes S') :
    (⟨concatPendPoly x.p y.p, a, b⟩ : FPoly).InvNoEng S' := by
  have hm : 0 < y.p.dim := Nat.pos_of_ne_zero hdy
  obtain ⟨_, hgu⟩ := legal_canPend_up hx.legal hcp
  have hfpC := hx.fpC hex hcx
  have hfpG := hx.fpG hex hgu
  refine ⟨⟨fun _ _ => concat_cs_len x.p y.p (hx.wf.cs_len hex hcx) (hy.wf.cs_len hey hcy),
      fun _ _ => addUniverseRows_genWF _ _ _ _ hm (hx.wf.gs_wf hex hgu),
      fun _ _ => addUniverseRows_pt _ _ _ _ hm (hx.wf.gs_pt hex hgu),
      fun _ => ⟨hcx, hgu⟩, fun h => ?_, fun h => ?_, fun _ _ => Or.inl hcx, fun h => ?_⟩, hden, ?_, ?_, ?_, ?_, ?_, ?_⟩
  · rw [show x.p.st.gPend = true from h] at hgx; cases hgx
  · rw [show x.p.st.gPend = true from h.2] at hgx; cases hgx
  · have : x.p.dim + y.p.dim = 0 := h
    omega
  · exact legal_concatPend hdx (by show x.p.dim + y.p.dim ≠ 0; omega) hx.legal hex hgx hcp
  · intro _ _
    refine ⟨?_, fun h => by cases h⟩
    show x.p.cs.firstPending ≤ (x.p.cs.rows.map _ ++ y.p.cs.rows.map _).length
    rw [List.length_append, List.length_map]
    have := hfpC.1
    omega
  · intro _ _
    show (x.p.gs.addUniverseRows x.p.nnc x.p.dim y.p.dim).firstPending ≤
        (x.p.gs.addUniverseRows x.p.nnc x.p.dim y.p.dim).rows.length ∧
      (x.p.st.gPend = false → (x.p.gs.addUniverseRows x.p.nnc x.p.dim y.p.dim).firstPending =
        (x.p.gs.addUniverseRows x.p.nnc x.p.dim y.p.dim).rows.length)
    rw [(addUniverseRows_fp _ _ _ _ hm).1, (addUniverseRows_fp _ _ _ _ hm).2]
    exact ⟨by have := hfpG.1; omega, fun _ => by have := hfpG.2 hgx; omega⟩
  · intro _ _
    exact LowLevel.mono (fun r hr => List.mem_append_left _ hr)
      (LowLevel_addZeroCols _ _ _ _ (hx.wf.cs_len hex hcx) (hx.low hex hcx))
  · intro _ _
    show genSem x.p.nnc (x.p.dim + y.p.dim) (x.p.gs.addUniverseRows x.p.nnc x.p.dim y.p.dim).rows =
      conSem x.p.nnc ((x.p.cs.rows.map (Row.addZeroCols y.p.dim) ++ y.p.cs.rows.map (Row.shiftInto x.p.dim)).take
        x.p.cs.firstPending)
    rw [List.take_append_of_le_length (by rw [List.length_map]; exact hfpC.1), ← List.map_take,
      conSem_addZeroCols, genSem_addUniverseRows _ _ _ _ hm (hx.wf.gs_wf hex hgu)]
    cases hcpd : x.p.st.cPend
    · rw [(hx.den.2 hex).2.1 hgu hcpd, ← (hx.den.2 hex).1 hcx hgx, hfpC.2 hcpd, List.take_length]
    · exact hx.denNPc hex hcpd
  · intro _ h
    rw [show x.p.st.gPend = true from h] at hgx; cases hgx

end PPLV.PolyFull

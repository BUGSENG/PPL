import PPLV.PolyFull.ProofsCases
import PPLV.PolyStatus.Vocabulary

/-!
# The status protocol on the full model: `Sim`, the helpers without ghost input, the two conversions

`Sim x s`: the STORED part of the abstract state `s` (the nine status bits, dimension, topology, the two
`sorted` flags) is the one of the full state `x`; the ghost Booleans of `s` are free.
For every private helper `f` of `PolyFull/Nonpublic.lean` and its counterpart `F` of
`PolyStatus/Helpers.lean`: `Sim x s → Sim (f x) (F g s)` where the ghost inputs `g` (and, where `F`
reads them, the ghost Booleans `emp`, `pC`, `pG` of `s`) are what the full model computes.

This file: the definition, the `sorted` flags the `Linear_System` operations leave, the helpers
without ghost input (`update_sat_*`, `obtain_sorted_*`), `update_constraints`, `update_generators`.
-/
namespace PPLV.PolyFull
open PPLV.PolyOps
open PPLV.PolyStatus (PState Gh)

/-- the stored part of the abstract state agrees with the full state -/
def Sim (x : FPoly) (s : PState) : Prop :=
  s.em = x.p.st.empty ∧ s.cup = x.p.st.cUp ∧ s.gup = x.p.st.gUp ∧ s.cmin = x.p.st.cMin ∧ s.gmin = x.p.st.gMin ∧
  s.satc = x.p.st.satC ∧ s.satg = x.p.st.satG ∧ s.cpend = x.p.st.cPend ∧ s.gpend = x.p.st.gPend ∧
  s.dim = x.p.dim ∧ s.nnc = x.p.nnc ∧ s.csS = x.p.cs.sorted ∧ s.gsS = x.p.gs.sorted

/-- `Sim` with the accessors unfolded (the form the proofs use) -/
theorem Sim.iff (x : FPoly) (s : PState) :
    Sim x s ↔ (s.b .em = x.p.st.empty ∧ s.b .cup = x.p.st.cUp ∧ s.b .gup = x.p.st.gUp ∧ s.b .cmin = x.p.st.cMin ∧
      s.b .gmin = x.p.st.gMin ∧ s.b .satc = x.p.st.satC ∧ s.b .satg = x.p.st.satG ∧ s.b .cpend = x.p.st.cPend ∧
      s.b .gpend = x.p.st.gPend ∧ s.dim = x.p.dim ∧ s.nnc = x.p.nnc ∧ s.b .csS = x.p.cs.sorted ∧
      s.b .gsS = x.p.gs.sorted) := Iff.rfl

/-- the ghost Booleans are free: `Sim` does not see them -/
def ghostFld : PPLV.PolyStatus.Fld → Bool
  | .emp | .vC | .vG | .dd | .mC | .mG | .vSC | .vSG | .rC | .rG | .pC | .pG => true
  | _ => false

/-- two abstract states with the same stored part -/
def SameStored (s t : PState) : Prop :=
  (∀ f, ghostFld f = false → t.b f = s.b f) ∧ t.dim = s.dim ∧ t.nnc = s.nnc

theorem SameStored.set_ghost (s : PState) (f : PPLV.PolyStatus.Fld) (v : Bool) (hf : ghostFld f = true) :
    SameStored s (s.set f v) := by
  refine ⟨fun f' hf' => ?_, rfl, rfl⟩
  have : f' ≠ f := fun e => by rw [e, hf] at hf'; cases hf'
  simp [this]

theorem SameStored.trans {s t u : PState} (h1 : SameStored s t) (h2 : SameStored t u) : SameStored s u :=
  ⟨fun f hf => (h2.1 f hf).trans (h1.1 f hf), h2.2.1.trans h1.2.1, h2.2.2.trans h1.2.2⟩

theorem SameStored.refl (s : PState) : SameStored s s := ⟨fun _ _ => rfl, rfl, rfl⟩

theorem Sim.of_sameStored {x : FPoly} {s t : PState} (h : Sim x s) (hs : SameStored s t) : Sim x t := by
  obtain ⟨hb, hd, hn⟩ := hs
  simp only [Sim, pst] at h ⊢
  rw [hb _ rfl, hb _ rfl, hb _ rfl, hb _ rfl, hb _ rfl, hb _ rfl, hb _ rfl, hb _ rfl, hb _ rfl, hb _ rfl, hb _ rfl,
    hd, hn]
  exact h

theorem Sim.set_ghost {x : FPoly} {s : PState} (h : Sim x s) (f : PPLV.PolyStatus.Fld) (v : Bool)
    (hf : ghostFld f = true) : Sim x (s.set f v) :=
  h.of_sameStored (SameStored.set_ghost s f v hf)

set_option hygiene false in
/-- split `Sim x s` into its thirteen equations (oriented abstract → full, for `simp [*]`) -/
macro "sim_hyps " h:ident : tactic =>
  `(tactic| (simp only [Sim, pst] at $h:ident
             obtain ⟨h1, h2, h3, h4, h5, h6, h7, h8, h9, h10, h11, h12, h13⟩ := $h:ident))

/-! ## the `sorted` flag the `Linear_System` operations leave -/

@[simp] theorem sortAndRemoveWithSat_sorted (gen nnc : Bool) (s : Sys) (m : BitMat) :
    (s.sortAndRemoveWithSat gen nnc m).1.sorted = true := by
  unfold Sys.sortAndRemoveWithSat; split <;> rfl
@[simp] theorem sortRows_sorted (gen nnc : Bool) (s : Sys) : (s.sortRows gen nnc).sorted = true := rfl
@[simp] theorem sortPending_sorted (gen nnc : Bool) (s : Sys) :
    (s.sortPendingAndRemoveDuplicates gen nnc).sorted = true := rfl

/-- `conversion` never sets the `sorted` flag of the destination system -/
theorem conversionDestSorted_imp (ncols : Nat) (src : List PPLV.Conv.LRow) (st : Nat) (dst : List PPLV.Conv.LRow)
    (sat : List PPLV.Conv.BRow) (nle : Nat) (b : Bool)
    (h : conversionDestSorted ncols src st dst sat nle b = true) : b = true := by
  unfold conversionDestSorted at h
  cases b <;> simp_all

attribute [local simp] FPoly.st FPoly.nnc FPoly.dim FPoly.withSt FPoly.withCs FPoly.withGs

/-! ## helpers without ghost input -/

theorem updateSatC_sim (x : FPoly) (s : PState) (h : Sim x s) :
    Sim x.updateSatC (PPLV.PolyStatus.updateSatC s) := by
  sim_hyps h
  simp [Sim, pst, FPoly.updateSatC, *]

theorem updateSatG_sim (x : FPoly) (s : PState) (h : Sim x s) :
    Sim x.updateSatG (PPLV.PolyStatus.updateSatG s) := by
  sim_hyps h
  simp [Sim, pst, FPoly.updateSatG, *]

theorem obtainSortedConstraints_sim (x : FPoly) (s : PState) (h : Sim x s) :
    Sim x.obtainSortedConstraints (PPLV.PolyStatus.obtainSortedConstraints s) := by
  sim_hyps h
  unfold FPoly.obtainSortedConstraints PPLV.PolyStatus.obtainSortedConstraints
  simp only [Sim, pst, FPoly.st, FPoly.nnc, h12, h7, h6]
  rcases Bool.eq_false_or_eq_true x.p.cs.sorted with a | a <;>
    rcases Bool.eq_false_or_eq_true x.p.st.satG with b | b <;>
    rcases Bool.eq_false_or_eq_true x.p.st.satC with c | c <;> simp [*]

theorem obtainSortedGenerators_sim (x : FPoly) (s : PState) (h : Sim x s) :
    Sim x.obtainSortedGenerators (PPLV.PolyStatus.obtainSortedGenerators s) := by
  sim_hyps h
  unfold FPoly.obtainSortedGenerators PPLV.PolyStatus.obtainSortedGenerators
  simp only [Sim, pst, FPoly.st, FPoly.nnc, h13, h7, h6]
  rcases Bool.eq_false_or_eq_true x.p.gs.sorted with a | a <;>
    rcases Bool.eq_false_or_eq_true x.p.st.satG with b | b <;>
    rcases Bool.eq_false_or_eq_true x.p.st.satC with c | c <;> simp [*]

theorem obtainSortedConstraintsWithSatC_sim (x : FPoly) (s : PState) (h : Sim x s) :
    Sim x.obtainSortedConstraintsWithSatC (PPLV.PolyStatus.obtainSortedConstraintsWithSatC s) := by
  obtain ⟨⟨nnc, dim, ⟨e, cu, gu, cm, gm, sc, sg, cp, gp⟩, ⟨cr, cf, csrt⟩, ⟨gr, gf, gsrt⟩⟩, mC, mG⟩ := x
  sim_hyps h
  cases csrt <;> cases sc <;> cases sg <;>
    simp [Sim, pst, FPoly.obtainSortedConstraintsWithSatC, PPLV.PolyStatus.obtainSortedConstraintsWithSatC,
      FPoly.updateSatC, *]

theorem obtainSortedGeneratorsWithSatG_sim (x : FPoly) (s : PState) (h : Sim x s) :
    Sim x.obtainSortedGeneratorsWithSatG (PPLV.PolyStatus.obtainSortedGeneratorsWithSatG s) := by
  obtain ⟨⟨nnc, dim, ⟨e, cu, gu, cm, gm, sc, sg, cp, gp⟩, ⟨cr, cf, csrt⟩, ⟨gr, gf, gsrt⟩⟩, mC, mG⟩ := x
  sim_hyps h
  cases gsrt <;> cases sc <;> cases sg <;>
    simp [Sim, pst, FPoly.obtainSortedGeneratorsWithSatG, PPLV.PolyStatus.obtainSortedGeneratorsWithSatG,
      FPoly.updateSatG, *]

/-- the ghost Booleans `emp`, `pC`, `pG`, and the other system's flag, are not touched -/
theorem obtainSortedConstraintsWithSatC_ghost (s : PState) :
    (PPLV.PolyStatus.obtainSortedConstraintsWithSatC s).b .emp = s.b .emp
    ∧ (PPLV.PolyStatus.obtainSortedConstraintsWithSatC s).b .pC = s.b .pC
    ∧ (PPLV.PolyStatus.obtainSortedConstraintsWithSatC s).b .csS = true := by
  unfold PPLV.PolyStatus.obtainSortedConstraintsWithSatC
  simp only [pst]
  rcases Bool.eq_false_or_eq_true (s.b .csS) with a | a <;>
    rcases Bool.eq_false_or_eq_true (s.b .satg) with b | b <;>
    rcases Bool.eq_false_or_eq_true (s.b .satc) with c | c <;> simp [*]

theorem obtainSortedGeneratorsWithSatG_ghost (s : PState) :
    (PPLV.PolyStatus.obtainSortedGeneratorsWithSatG s).b .emp = s.b .emp
    ∧ (PPLV.PolyStatus.obtainSortedGeneratorsWithSatG s).b .pG = s.b .pG
    ∧ (PPLV.PolyStatus.obtainSortedGeneratorsWithSatG s).b .gsS = true := by
  unfold PPLV.PolyStatus.obtainSortedGeneratorsWithSatG
  simp only [pst]
  rcases Bool.eq_false_or_eq_true (s.b .gsS) with a | a <;>
    rcases Bool.eq_false_or_eq_true (s.b .satg) with b | b <;>
    rcases Bool.eq_false_or_eq_true (s.b .satc) with c | c <;> simp [*]

/-! ## `update_constraints`, `update_generators` -/

/-- the engine call of `update_constraints()` -/
def FPoly.ucOut (x : FPoly) : FPoly.EngineOut := FPoly.engineMinimize false x.nnc x.dim x.p.gs x.satC
/-- the engine call of `update_generators()` -/
def FPoly.ugOut (x : FPoly) : FPoly.EngineOut := FPoly.engineMinimize true x.nnc x.dim x.p.cs x.satG

@[simp] theorem engineMinimize_dest_sorted (c nnc : Bool) (n : Nat) (src : Sys) (m : BitMat) :
    (FPoly.engineMinimize c nnc n src m).dest.sorted = false := rfl

/-- `update_constraints()`: `g.srcS` = the `sorted` flag `simplify` leaves on `gen_sys` -/
theorem updateConstraints_sim (x : FPoly) (s : PState) (g : Gh) (h : Sim x s)
    (hg : g.srcS = x.ucOut.source.sorted) :
    Sim x.updateConstraints (PPLV.PolyStatus.updateConstraints g s) := by
  sim_hyps h
  unfold FPoly.updateConstraints PPLV.PolyStatus.updateConstraints PPLV.PolyStatus.convGC
  simp only [FPoly.ucOut] at hg
  rcases Bool.eq_false_or_eq_true x.p.gs.sorted with a | a <;> simp [Sim, pst, *]

/-- `update_generators()`: `s.emp` = the engine's answer, `g.srcS` = the flag `simplify` leaves on `con_sys` -/
theorem updateGenerators_sim (x : FPoly) (s : PState) (g : Gh) (h : Sim x s)
    (he : s.b .emp = x.ugOut.empty) (hg : x.ugOut.empty = false → g.srcS = x.ugOut.source.sorted) :
    (PPLV.PolyStatus.updateGenerators g s).1 = x.updateGenerators.1
    ∧ Sim x.updateGenerators.2 (PPLV.PolyStatus.updateGenerators g s).2 := by
  sim_hyps h
  unfold FPoly.updateGenerators PPLV.PolyStatus.updateGenerators PPLV.PolyStatus.convCG
  simp only [FPoly.ugOut] at hg he
  have hd := engineMinimize_dest_sorted true x.nnc x.dim x.p.cs x.satG
  generalize FPoly.engineMinimize true x.nnc x.dim x.p.cs x.satG = o at *
  rcases Bool.eq_false_or_eq_true o.empty with e | e
  · rcases Bool.eq_false_or_eq_true x.p.cs.sorted with a | a <;>
      simp [Sim, pst, FPoly.setEmpty, Poly.setEmpty, Status.setEmpty, Sys.clear, e, he, a, h10, h11, h12]
  · have hg := hg e
    rcases Bool.eq_false_or_eq_true x.p.cs.sorted with a | a <;> simp [Sim, pst, *]

end PPLV.PolyFull

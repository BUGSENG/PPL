import PPLV.PolyFull.ProofsOpsMeet
import PPLV.PolyOps.ProofsDims5

/-!
# the dimension-changing operators refine the reference operators: toolkit

`prepGens_facts` (what `prepGensDropPending` leaves), `Inv_gensOnly` (the invariant of an object that
holds only its generators), `finish_refineG` (the exact row order of the generators).
-/
namespace PPLV.PolyFull
open PPLV.Lin PPLV.PolyOps

theorem legal_empty_flags {s : Status} {d : Nat} (h : statusLegalB s d = true) (he : s.empty = true) :
    s.cUp = false ∧ s.gUp = false :=
  ⟨(((legal_iff _ _).1 h).empty he).1, (((legal_iff _ _).1 h).empty he).2.1⟩

/-- a word marked empty is legal in every dimension -/
theorem legal_empty_any {s : Status} {d : Nat} (d' : Nat) (h : statusLegalB s d = true) (he : s.empty = true) :
    statusLegalB s d' = true := by
  rw [legal_iff] at h ⊢
  exact ⟨h.empty, h.sat, h.cMin, h.gMin, h.notBoth, h.pend, fun _ => ⟨(h.empty he).1, (h.empty he).2.1⟩,
    fun e => absurd he (Bool.eq_false_iff.mp e)⟩

/-- an object that holds at most its generators, nothing pending, not minimized -/
theorem Inv_gensOnly (X : FPoly) (S : Set Val) (hwf : X.p.WF) (hden : X.p.Denotes S)
    (hl : statusLegalB X.p.st X.p.dim = true) (hc : X.p.st.cUp = false) (hcm : X.p.st.cMin = false)
    (hcp : X.p.st.cPend = false) (hgp : X.p.st.gPend = false)
    (hfp : X.p.st.gUp = true → X.p.gs.firstPending = X.p.gs.rows.length) : X.Inv S := by
  refine ⟨hwf, hden, hl, fun _ h => (by rw [hc] at h; cases h), fun _ hg => ⟨le_of_eq (hfp hg), fun _ => hfp hg⟩,
    fun _ h => (by rw [hc] at h; cases h), fun _ h => (by rw [hcp] at h; cases h),
    fun _ h => (by rw [hgp] at h; cases h), fun _ h => ?_⟩
  simp [Status.canPend, hcm] at h

/-- `prepGensDropPending`: the set is kept; the result is marked empty or holds its generators with
    no pending constraints -/
theorem prepGens_facts (G : GlueFacts) (x : FPoly) (S : Set Val) (hx : x.Inv S) (hd : 0 < x.p.dim) :
    x.SameShape (x.prepGensDropPending (fun y => y.updateGenerators.2)) ∧
    (x.prepGensDropPending (fun y => y.updateGenerators.2)).Inv S ∧
    ((x.prepGensDropPending (fun y => y.updateGenerators.2)).p.st.empty = false →
      (x.prepGensDropPending (fun y => y.updateGenerators.2)).p.st.gUp = true ∧
      (x.prepGensDropPending (fun y => y.updateGenerators.2)).p.st.cPend = false) := by
  unfold FPoly.prepGensDropPending FPoly.st
  cases hem : x.p.st.empty
  · simp only [Bool.false_eq_true, if_false]
    cases hsp : x.p.st.somethingPending
    · simp only [Bool.false_eq_true, if_false]
      have hcp : x.p.st.cPend = false := by
        simp only [Status.somethingPending, Bool.or_eq_false_iff] at hsp; exact hsp.1
      cases hgu : x.p.st.gUp
      · simp only [Bool.not_false, if_true]
        have hcu : x.p.st.cUp = true := by
          rcases hx.wf.some_up hem hd with h | h
          · exact h
          · rw [hgu] at h; cases h
        obtain ⟨h1, h2, h3, h4⟩ := G.updG x S hx hem hd hcu hsp
        refine ⟨h1, h2, fun he => ?_⟩
        cases hb : x.updateGenerators.1
        · rw [(h3 hb).2] at he; cases he
        · exact ⟨(h4 hb).2.2.1, (h4 hb).2.2.2.2.2.1⟩
      · simp only [Bool.not_true, Bool.false_eq_true, if_false]
        exact ⟨⟨rfl, rfl⟩, hx, fun _ => ⟨hgu, hcp⟩⟩
    · simp only [if_true]
      cases hgp : x.p.st.gPend
      · simp only [Bool.false_eq_true, if_false]
        have hcp : x.p.st.cPend = true := by
          simp only [Status.somethingPending, hgp, Bool.or_false] at hsp; exact hsp
        obtain ⟨h1, h2, h3, h4⟩ := G.ppc x S hx hem hcp
        refine ⟨h1, h2, fun he => ?_⟩
        cases hb : x.processPendingConstraints.1
        · rw [(h3 hb).2] at he; cases he
        · exact ⟨(h4 hb).2.2.1, (h4 hb).2.2.2.2.2.1⟩
      · simp only [if_true]
        refine ⟨⟨rfl, rfl⟩, hx, fun _ => ⟨(hx.wf.pend_g hgp).2, ?_⟩⟩
        cases hcp : x.p.st.cPend
        · rfl
        · exact absurd ⟨hcp, hgp⟩ hx.wf.pend_one
  · simp only [if_true]
    exact ⟨⟨rfl, rfl⟩, hx, fun h => by rw [hem] at h; cases h⟩

/-- the last step of the operators that rewrite the generators: the exact row order -/
theorem finish_refineG (q : FPoly) (S : Set Val) (exact : Sys) (c : Bool) (hq : q.Inv S)
    (hfp : exact.firstPending = exact.rows.length)
    (hcp : q.p.st.empty = false → q.p.st.canPend = false) :
    (if c = true then q else { q with p := { q.p with gs := q.p.gs.refineBy exact } }).Inv S ∧
    (if c = true then q else { q with p := { q.p with gs := q.p.gs.refineBy exact } }).p.nnc = q.p.nnc ∧
    (if c = true then q else { q with p := { q.p with gs := q.p.gs.refineBy exact } }).p.dim = q.p.dim := by
  cases c
  · simp only [Bool.false_eq_true, if_false]
    refine ⟨Inv_refineG q S exact hq (fun _ _ => ⟨le_of_eq hfp, fun _ => hfp⟩) ?_, trivial, trivial⟩
    intro he h
    rw [hcp he] at h; cases h
  · simp only [if_true]
    exact ⟨hq, trivial, trivial⟩

end PPLV.PolyFull

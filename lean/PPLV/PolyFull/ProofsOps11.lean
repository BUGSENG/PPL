import PPLV.PolyFull.ProofsOps11j

/-!
# `affine_image`, `affine_preimage`, `generalized_affine_image`: the final,
UNCONDITIONAL statements

The full model refines the reference operator and keeps the invariant, with no hypothesis about the
result: `low` (ProofsOpsAffineLow), `denNPc` (ProofsOpsAffineNPc), `denNPg` (ProofsOpsAffineNPg) and `eng` (ProofsOpsAffineCone, ProofsOpsAffinePair, ProofsOpsAffineMinG2, ProofsOps11g, ProofsOps11j:
the rewritten non-pending parts are an `EnginePair` with the same saturation matrices, `minG` / `minL`
through the two-sided minimality `MinG2`).
-/
namespace PPLV.PolyFull
open PPLV.Lin PPLV.PolyOps

/-- **`Polyhedron::affine_image(var, expr, den)`, the whole object.** -/
theorem affineImage_refines (G : GlueFacts) (x : FPoly) (ref : RefPoly) (v : Nat) (e : LinExpr)
    (den : Int) (hn : ref.n = x.p.dim) (hnnc : ref.nnc = x.p.nnc) (hwf : WF ref.n ref.cs)
    (hv : v < x.p.dim) (he : e.coeffs.length = x.p.dim) (hden : den ≠ 0) (hx : x.Inv (sem ref.cs)) :
    (x.affineImage v e den).Inv (sem (ref.affineImage v e den).cs) ∧ x.SameShape (x.affineImage v e den) :=
  affineImage_refines_partial2 G x ref v e den hn hnnc hwf hv he hden hx
    (fun hc hex hR => affineImage_denNPg x _ v e den hx hv he hden hc hex hR)
    (fun hc hex hcan => affineImage_eng x _ v e den hx hv he hden hc hex hcan)

/-- **`Polyhedron::affine_preimage(var, expr, den)`, the whole object.** -/
theorem affinePreimage_refines (G : GlueFacts) (x : FPoly) (ref : RefPoly) (v : Nat) (e : LinExpr)
    (den : Int) (hn : ref.n = x.p.dim) (hnnc : ref.nnc = x.p.nnc) (hwf : WF ref.n ref.cs)
    (hv : v < x.p.dim) (he : e.coeffs.length = x.p.dim) (hden : den ≠ 0) (hx : x.Inv (sem ref.cs)) :
    (x.affinePreimage v e den).Inv (sem (ref.affinePreimage v e den).cs) ∧
      x.SameShape (x.affinePreimage v e den) :=
  affinePreimage_refines_partial2 G x ref v e den hn hnnc hwf hv he hden hx
    (fun hc hex hR => affinePreimage_denNPg x _ v e den hx hv he hden hc hex hR)
    (fun hc hex hcan => affinePreimage_eng x _ v e den hx hv he hden hc hex hcan)

/-- **`Polyhedron::generalized_affine_image(var, relsym, expr, den)`, `relsym ∈ {≤, =, ≥}`, the whole object.** -/
theorem generalizedAffineImage_refines (G : GlueFacts) (x : FPoly) (ref : RefPoly) (v : Nat) (r : Rel)
    (e : LinExpr) (den : Int) (hn : ref.n = x.p.dim) (hnnc : ref.nnc = x.p.nnc) (hwf : WF ref.n ref.cs)
    (hv : v < x.p.dim) (he : e.coeffs.length = x.p.dim) (hden : den ≠ 0) (hx : x.Inv (sem ref.cs))
    (hr : r = .le ∨ r = .eq ∨ r = .ge) :
    (x.generalizedAffineImage v r e den).Inv (sem (ref.genAffineImage v r e den).cs) ∧
      x.SameShape (x.generalizedAffineImage v r e den) :=
  generalizedAffineImage_of_affineImage G x ref v r e den hn hwf hv he hden hr
    (affineImage_refines G x ref v e den hn hnnc hwf hv he hden hx)

end PPLV.PolyFull

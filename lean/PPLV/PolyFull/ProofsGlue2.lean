import PPLV.PolyFull.ProofsGlue1

/-!
# `GlueFacts` from `ConvContract`: `update_generators()`, `update_constraints()`
-/

namespace PPLV.PolyFull
open PPLV.Lin PPLV.PolyOps
open PPLV.Conv (LRow BRow Vec Sound SatCorrect holds holdsAll Generated)

theorem EnginePair.dropG {nnc n cs gs fC fG sC sG} (sG' : BitMat)
    (h : EnginePair nnc n cs gs fC fG sC sG) : EnginePair nnc n cs gs fC false sC sG' :=
  ⟨h.sound, h.complete, h.minC, h.minG, h.minL, h.satC, fun h' => (by cases h')⟩

theorem EnginePair.dropC {nnc n cs gs fC fG sC sG} (sC' : BitMat)
    (h : EnginePair nnc n cs gs fC fG sC sG) : EnginePair nnc n cs gs false fG sC' sG :=
  ⟨h.sound, h.complete, h.minC, h.minG, h.minL, fun h' => (by cases h'), h.satG⟩

theorem EnginePost.of_flagC_false {nnc n S cs gs fG sC sG} (sC' : BitMat)
    (h : EnginePost nnc n S cs gs false fG sC sG) : EnginePost nnc n S cs gs false fG sC' sG :=
  ⟨h.csLen, h.gsWF, h.gsPt, h.fpC, h.fpG, h.denC, h.denG, h.low, h.pair.dropC sC'⟩

theorem EnginePost.of_flagG_false {nnc n S cs gs fC sC sG} (sG' : BitMat)
    (h : EnginePost nnc n S cs gs fC false sC sG) : EnginePost nnc n S cs gs fC false sC sG' :=
  ⟨h.csLen, h.gsWF, h.gsPt, h.fpC, h.fpG, h.denC, h.denG, h.low, h.pair.dropG sG'⟩

theorem somethingPending_false {s : Status} (h : s.somethingPending = false) :
    s.cPend = false ∧ s.gPend = false := by
  simpa [Status.somethingPending] using h

theorem updateGenerators_empty (x : FPoly)
    (h : (FPoly.engineMinimize true x.p.nnc x.p.dim x.p.cs x.satG).empty = true) :
    x.updateGenerators = (false, x.setEmpty) := by
  simp [FPoly.updateGenerators, FPoly.nnc, FPoly.dim, h]

theorem updateGenerators_ok (x : FPoly)
    (h : (FPoly.engineMinimize true x.p.nnc x.p.dim x.p.cs x.satG).empty = false) :
    x.updateGenerators = (true,
      { x with satG := (FPoly.engineMinimize true x.p.nnc x.p.dim x.p.cs x.satG).sat,
               p := { x.p with cs := (FPoly.engineMinimize true x.p.nnc x.p.dim x.p.cs x.satG).source,
                               gs := (FPoly.engineMinimize true x.p.nnc x.p.dim x.p.cs x.satG).dest,
                               st := { x.p.st with satG := true, satC := false, cUp := true, cMin := true,
                                                   gUp := true, gMin := true } } }) := by
  simp [FPoly.updateGenerators, FPoly.nnc, FPoly.dim, h]

theorem updateGenerators_facts (C : ConvContract) :
    ∀ (x : FPoly) (S : Set Val), x.Inv S → x.p.st.empty = false → 0 < x.p.dim → x.p.st.cUp = true →
    x.p.st.somethingPending = false →
    x.SameShape x.updateGenerators.2 ∧ x.updateGenerators.2.Inv S ∧
    (x.updateGenerators.1 = false → S = ∅ ∧ x.updateGenerators.2.p.st.empty = true) ∧
    (x.updateGenerators.1 = true → x.updateGenerators.2.FullyMin) := by
  intro x S hx he hd hcu hsp
  obtain ⟨hcp, hgp⟩ := somethingPending_false hsp
  have hfp := hx.fpC he hcu
  have hC := C.minimize_cg x.p.nnc x.p.dim x.p.cs x.satG hd (hx.wf.cs_len he hcu) (hfp.2 hcp)
    (hx.low he hcu)
  have hden : conSem x.p.nnc x.p.cs.rows = S := (hx.den.2 he).1 hcu hgp
  cases ho : (FPoly.engineMinimize true x.p.nnc x.p.dim x.p.cs x.satG).empty
  · have hy := updateGenerators_ok x ho
    have hpost := (hC.2 ho).of_flagC_false x.satC
    rw [hden] at hpost
    rw [hy]
    exact ⟨⟨rfl, rfl⟩, And.imp_right (fun hF => ⟨fun h => (by cases h), fun _ => hF⟩)
      (inv_of_post _ S hd hpost he rfl rfl rfl rfl hcp hgp)⟩
  · rw [updateGenerators_empty x ho]
    have hS : S = ∅ := by rw [← hden]; exact hC.1 ho
    subst hS
    exact ⟨sameShape_setEmpty x, inv_setEmpty x, fun _ => ⟨rfl, rfl⟩, fun h => by cases h⟩

theorem updateConstraints_eq (x : FPoly) :
    x.updateConstraints =
      { x with satC := (FPoly.engineMinimize false x.p.nnc x.p.dim x.p.gs x.satC).sat,
               p := { x.p with gs := (FPoly.engineMinimize false x.p.nnc x.p.dim x.p.gs x.satC).source,
                               cs := (FPoly.engineMinimize false x.p.nnc x.p.dim x.p.gs x.satC).dest,
                               st := { x.p.st with satC := true, satG := false, cUp := true, cMin := true,
                                                   gUp := true, gMin := true } } } := rfl

theorem updateConstraints_facts (C : ConvContract) :
    ∀ (x : FPoly) (S : Set Val), x.Inv S → x.p.st.empty = false → 0 < x.p.dim → x.p.st.gUp = true →
    x.p.st.somethingPending = false →
    x.SameShape x.updateConstraints ∧ x.updateConstraints.Inv S ∧ x.updateConstraints.FullyMin := by
  intro x S hx he hd hgu hsp
  obtain ⟨hcp, hgp⟩ := somethingPending_false hsp
  have hfp := hx.fpG he hgu
  have hC := C.minimize_gc x.p.nnc x.p.dim x.p.gs x.satC hd (hx.wf.gs_wf he hgu) (hx.wf.gs_pt he hgu)
    (hfp.2 hgp)
  have hden : genSem x.p.nnc x.p.dim x.p.gs.rows = S := (hx.den.2 he).2.1 hgu hcp
  have hpost := hC.of_flagG_false x.satG
  rw [hden] at hpost
  exact ⟨⟨rfl, rfl⟩, inv_of_post _ S hd hpost he rfl rfl rfl rfl hcp hgp⟩

end PPLV.PolyFull

import PPLV.PolyFull.ProofsStatusBinary
import PPLV.PolyFull.ProofsQet
/-!
# `quick_equivalence_test`, `contains` against `PolyStatus/Ops2.lean` (`y` another object)

`qet_sim`: ghost inputs `GhQ` exist with which the abstract test takes the branch the full one takes
(`qet_cases`) and gives the same answer.
-/
namespace PPLV.PolyFull
open PPLV.PolyOps PPLV.Lin
open PPLV.PolyStatus (PState Gh Two)
attribute [local simp] FPoly.st FPoly.nnc FPoly.dim FPoly.withSt FPoly.withCs FPoly.withGs

/-- what the ghost inputs of the abstract test must achieve -/
def QOk (x y : FPoly) (q : PPLV.PolyStatus.GhQ) (s t : PState) : Prop :=
  ∀ go : Bool,
    (PPLV.PolyStatus.quickEquivalenceTest q { x := s, y := t, al := false, go := go }).1.1
        = ((x.quickEquivalenceTest y).1 == some true)
    ∧ (PPLV.PolyStatus.quickEquivalenceTest q { x := s, y := t, al := false, go := go }).1.2
        = ((x.quickEquivalenceTest y).1 == some false)
    ∧ ∃ s' t', (PPLV.PolyStatus.quickEquivalenceTest q { x := s, y := t, al := false, go := go }).2
          = { x := s', y := t', al := false, go := go }
        ∧ Sim (x.quickEquivalenceTest y).2.1 s' ∧ Sim (x.quickEquivalenceTest y).2.2 t'

/-- the guard of the abstract test is the one of the full test -/
theorem qetGuard_eq {x y : FPoly} {s t : PState} (hx : Sim x s) (hy : Sim y t) :
    (!s.nnc && !s.hasSomethingPending && !t.hasSomethingPending)
      = (!x.p.nnc && !(x.p.st.somethingPending || y.p.st.somethingPending)) := by
  simp only [PState.hasSomethingPending, PState.cpend, PState.gpend, hx.nnc, hx.cpend, hx.gpend, hy.cpend, hy.gpend,
    Status.somethingPending, Bool.not_or, Bool.and_assoc]

theorem qet_sim (x y : FPoly) (s t : PState) (hx : Sim x s) (hy : Sim y t) :
    ∃ q : PPLV.PolyStatus.GhQ, QOk x y q s t := by
  have hgd := qetGuard_eq hx hy
  have beq_true : ∀ v : Bool, (some v == some true) = v := by decide
  have beq_false : ∀ v : Bool, (some v == some false) = !v := by decide
  rcases qet_cases x y with ⟨hg, e⟩ | ⟨a1, a2, a3, ⟨b, hb, e⟩ | ⟨a4, a5, e⟩ | ⟨a4, a5, e⟩⟩
  · refine ⟨{}, fun go => ?_⟩
    have hc : (!s.nnc && !s.hasSomethingPending && !t.hasSomethingPending) = false := by
      rcases hg with h | h <;> simp [hgd, h]
    simp only [PPLV.PolyStatus.quickEquivalenceTest, Two.gy, hc, Bool.false_eq_true, ↓reduceIte]
    rw [e]
    exact ⟨rfl, rfl, s, t, rfl, hx, hy⟩
  all_goals
    have hc : (!s.nnc && !s.hasSomethingPending && !t.hasSomethingPending) = true := by
      rw [hgd, a1, a2, a3]; rfl
  · refine ⟨{ qf := b == some false }, fun go => ?_⟩
    simp only [PPLV.PolyStatus.quickEquivalenceTest, Two.gy, hc, Bool.false_eq_true, ↓reduceIte, Bool.false_and]
    rw [e]
    refine ⟨?_, rfl, s, t, rfl, hx, hy⟩
    cases b with
    | none => rfl
    | some v => cases v; rfl; exact absurd rfl hb
  · refine ⟨{ qg := true, qt := sysEqB x.obtainSortedGenerators.p.gs y.obtainSortedGenerators.p.gs }, fun go => ?_⟩
    have hg : (true && s.gmin && t.gmin) = true := by rw [PState.gmin, PState.gmin, hx.gmin, hy.gmin, a4, a5]; rfl
    simp only [PPLV.PolyStatus.quickEquivalenceTest, Two.gy, hc, hg, Bool.false_eq_true, ↓reduceIte, Two.onX, Two.onY]
    rw [e, qetGens]
    exact ⟨(beq_true _).symm, (beq_false _).symm, _, _, rfl, obtainSortedGenerators_sim x s hx,
      obtainSortedGenerators_sim y t hy⟩
  · refine ⟨{ qc := true, qt := sysEqB x.obtainSortedConstraints.p.cs y.obtainSortedConstraints.p.cs }, fun go => ?_⟩
    have hg : (true && s.cmin && t.cmin) = true := by rw [PState.cmin, PState.cmin, hx.cmin, hy.cmin, a4, a5]; rfl
    simp only [PPLV.PolyStatus.quickEquivalenceTest, Two.gy, hc, hg, Bool.false_eq_true, ↓reduceIte, Two.onX, Two.onY,
      Bool.false_and]
    rw [e, qetCons]
    exact ⟨(beq_true _).symm, (beq_false _).symm, _, _, rfl, obtainSortedConstraints_sim x s hx,
      obtainSortedConstraints_sim y t hy⟩

end PPLV.PolyFull

import PPLV.PolyFull.ProofsOpsMeet

/-!
# `unconstrain` refines `RefPoly.unconstrain`
-/
namespace PPLV.PolyFull
open PPLV.Lin PPLV.PolyOps

theorem unconstrain_pend (p : Poly) (vars : List Nat) (hv : vars.isEmpty = false)
    (he : p.st.empty = false) (hc : p.st.cPend = false) (hg : p.st.gUp = true)
    (hcp : p.st.canPend = true) :
    p.unconstrain vars =
      some { p with gs := p.gs.insertPendingSys (vars.map (lineRow p.dim)), st := { p.st with gPend := true } } := by
  simp [Poly.unconstrain, hv, he, hc, hg, hcp]

theorem unconstrain_nonpend (p : Poly) (vars : List Nat) (hv : vars.isEmpty = false)
    (he : p.st.empty = false) (hc : p.st.cPend = false) (hg : p.st.gUp = true)
    (hcp : p.st.canPend = false) :
    p.unconstrain vars =
      some { p with gs := p.gs.insertSys (vars.map (lineRow p.dim)),
                    st := ({ p.st with gMin := false }).clearCUp } := by
  simp [Poly.unconstrain, hv, he, hc, hg, hcp]

theorem unconstrain_of_empty (p : Poly) (vars : List Nat) (he : p.st.empty = true) :
    p.unconstrain vars = some p := by
  unfold Poly.unconstrain
  split
  · rfl
  · rfl

/-- the main branch of `unconstrain` on a prepared receiver -/
theorem unconstrain_main (x : FPoly) (S S' : Set Val) (vars : List Nat) (hv : vars.isEmpty = false)
    (hx : x.Inv S) (hex : x.p.st.empty = false) (hgx : x.p.st.gUp = true) (hcx : x.p.st.cPend = false)
    (hvars : ∀ v ∈ vars, v < x.p.dim)
    (hden : ∀ q, x.p.unconstrain vars = some q → q.Denotes S') :
    ({ x.liftO (x.p.unconstrain vars) with
        p := { (x.liftO (x.p.unconstrain vars)).p with
          gs := (x.liftO (x.p.unconstrain vars)).p.gs.refineBy
            (if x.st.canPend then x.p.gs.insertPendingSys (vars.map (lineRow x.dim))
             else (vars.map (lineRow x.dim)).foldl (fun s l => s.insertRow true x.nnc l) x.p.gs) } } : FPoly).Inv S' ∧
    (x.liftO (x.p.unconstrain vars)).p.nnc = x.p.nnc ∧
    (x.liftO (x.p.unconstrain vars)).p.dim = x.p.dim := by
  have hwfq : ∀ q, x.p.unconstrain vars = some q → q.WF := fun q h =>
    unconstrain_rows_wf x.p q vars hx.wf hvars
      (fun h => (legal_canPend_up hx.legal h).1) (legal_gPend hx.legal) h
  cases hcp : x.p.st.canPend
  · have hq := unconstrain_nonpend x.p vars hv hex hcx hgx hcp
    rw [hq]
    have hI := Inv_nonpendG x S S' _ hx hex hgx hcp (insertSys_fp _ _) (hwfq _ hq) (hden _ hq)
    refine ⟨Inv_liftO_refineG x _ S' _ (by simp [Status.clearCUp, hex]) hI ?_ ?_, ?_, ?_⟩
    · intro _ _
      unfold FPoly.st
      rw [hcp]
      simp only [Bool.false_eq_true, if_false]
      have := foldl_insertRow_fp true x.nnc (vars.map (lineRow x.dim)) x.p.gs
        ((hx.fpG hex hgx).2 (legal_not_canPend hx.legal hcp).2)
      exact ⟨le_of_eq this, fun _ => this⟩
    · intro _ h
      simp [Status.canPend, Status.clearCUp] at h
    · show (x.lift _).p.nnc = _
      rw [lift_p]
    · show (x.lift _).p.dim = _
      rw [lift_p]
  · have hq := unconstrain_pend x.p vars hv hex hcx hgx hcp
    rw [hq]
    have hI := Inv_pendG x S S' (vars.map (lineRow x.p.dim)) hx hex hgx hcx hcp (hwfq _ hq) (hden _ hq)
    refine ⟨Inv_liftO_refineG x _ S' _ hex hI ?_ ?_, ?_, ?_⟩
    · intro h1 h2
      unfold FPoly.st
      rw [hcp]
      simp only [if_true]
      exact hI.fpG h1 h2
    · intro _ _
      unfold FPoly.st
      rw [hcp]
      simp only [if_true]
      rfl
    · show (x.lift _).p.nnc = _
      rw [lift_p]
    · show (x.lift _).p.dim = _
      rw [lift_p]

/-- **`Polyhedron::unconstrain(vars)`, the whole object** (preparation by `needGens`, the row-level
    operator, the exact row order): the receiver denotes `RefPoly.unconstrain`, keeps the invariant
    and its shape. -/
theorem unconstrain_refines (G : GlueFacts) (x : FPoly) (ref : RefPoly) (vars : List Nat)
    (hn : ref.n = x.p.dim) (hwf : WF ref.n ref.cs) (hvars : ∀ v ∈ vars, v < x.p.dim)
    (hx : x.Inv (sem ref.cs)) :
    (x.unconstrain vars).Inv (sem (ref.unconstrain vars).cs) ∧ x.SameShape (x.unconstrain vars) := by
  unfold FPoly.unconstrain
  by_cases hc : (vars.isEmpty || x.st.empty) = true
  · rw [if_pos hc]
    have h : x.p.unconstrain vars = some x.p := by
      rcases Bool.or_eq_true _ _ |>.mp hc with h | h
      · unfold Poly.unconstrain; rw [if_pos h]
      · exact unconstrain_of_empty _ _ h
    exact ⟨hx.change (unconstrain_rows_correct x.p x.p vars ref hn hwf hx.wf hvars hx.den h), rfl, rfl⟩
  · rw [if_neg hc]
    simp only [Bool.or_eq_true, not_or, Bool.not_eq_true] at hc
    obtain ⟨hv, hex⟩ := hc
    have hd : 0 < x.p.dim := by
      cases vars with
      | nil => simp at hv
      | cons v vs => exact Nat.lt_of_le_of_lt (Nat.zero_le v) (hvars v (List.mem_cons_self ..))
    obtain ⟨hs, hi, h1, h0⟩ := G.needGens x _ hx hex hd
    have hvars1 : ∀ v ∈ vars, v < x.needGens.2.p.dim := by rw [hs.2]; exact hvars
    have hn1 : ref.n = x.needGens.2.p.dim := by rw [hs.2]; exact hn
    cases hb : x.needGens.1
    · obtain ⟨he1, hg1, hc1⟩ := h0 hb
      simp only [hb, Bool.false_eq_true, if_false]
      obtain ⟨a, b, c⟩ := unconstrain_main x.needGens.2 _ (sem (ref.unconstrain vars).cs) vars hv hi he1 hg1 hc1
        hvars1 (fun q h => unconstrain_rows_correct _ q vars ref hn1 hwf hi.wf hvars1 hi.den h)
      exact ⟨a, b.trans hs.1, c.trans hs.2⟩
    · obtain ⟨hS, he1⟩ := h1 hb
      simp only [hb, if_true]
      have hd := unconstrain_rows_correct _ _ vars ref hn1 hwf hi.wf hvars1 hi.den
        (unconstrain_of_empty x.needGens.2.p vars he1)
      exact ⟨hi.change hd, hs⟩

end PPLV.PolyFull

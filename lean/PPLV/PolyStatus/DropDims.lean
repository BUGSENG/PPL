import PPLV.PolyStatus.MinimizeSpecs
import PPLV.PolyStatus.Steps
/-!
# C01 stage 2 — proofs: removing and mapping dimensions; the constructors
-/
namespace PPLV.PolyStatus
open PState

theorem dropEmpty_inv (s : PState) (h : Inv s) (he : s.b .em = true) (d : Nat) :
    Inv (conClear (s.setDim d).bump) := by
  spec_tac [] using []

theorem setZeroDimUnivChanged_inv (s : PState) (h : Inv s) (hr : GensReady s) :
    Inv (setZeroDimUniv (setChanges false s)) := by
  spec_tac [] using []

theorem dropDimsTail_inv (keep : Bool) (d : Nat) (s : PState) (h : Inv s) (hr : GensReady s) (hg : s.b .gpend = false)
    (hd : d ≠ 0) :
    Inv (clearGeneratorsMinimized (clearConstraintsUpToDate
      ((genRewrite keep (setChanges false s)).setDim d |>.set .vC false |>.set .dd false |>.set .mG false
        |>.set .vSC false |>.set .vSG false))) := by
  spec_tac [] using []

/-- the common part of `remove_space_dimensions` / `remove_higher_space_dimensions` (`keep`: the rows of `gen_sys`
stay in order). -/
theorem dropDims_inv (keep : Bool) (g : Gh) (d : Nat) (s : PState) (h : Inv s) (hd : s.dim ≠ 0) :
    Inv (let r := needGensDroppingPending g s
         if r.1 then conClear (r.2.setDim d).bump
         else if d == 0 then setZeroDimUniv (setChanges false r.2)
         else
           let s := genRewrite keep (setChanges false r.2)
           let s := s.setDim d |>.set .vC false |>.set .dd false |>.set .mG false |>.set .vSC false |>.set .vSG false
           clearGeneratorsMinimized (clearConstraintsUpToDate s)) := by
  obtain ⟨h1, h2, h3, h4⟩ := needGensDroppingPending_spec g s h hd
  rcases Bool.eq_false_or_eq_true (needGensDroppingPending g s).1 with hr | hr
  · simp only [hr, ite_true]; exact dropEmpty_inv _ h1 (h3 hr) d
  · simp only [hr, Bool.false_eq_true, ite_false]
    split
    · exact setZeroDimUnivChanged_inv _ h1 (h4 hr).1
    · next hd0 => exact dropDimsTail_inv keep d _ h1 (h4 hr).1 (h4 hr).2 (by simpa using hd0)

theorem removeDims_inv (g : Gh) (d : Nat) (s : PState) (h : Inv s) (hd : s.dim ≠ 0) : Inv (removeDims g d s) :=
  dropDims_inv false g d s h hd

/-- `remove_space_dimensions(vars)`. -/
theorem removeSpaceDimensions_inv (f : Facts) : InvStep (fun g s => removeSpaceDimensions g f s) := by
  intro g s h
  show Inv (removeSpaceDimensions g f s)
  unfold removeSpaceDimensions
  split
  · exact h
  next hk =>
  split
  · exact h
  next hlt =>
    have hk' : f.k ≠ 0 := by simpa using hk
    exact removeDims_inv g _ s h (by omega)

/-- `remove_higher_space_dimensions(nd)`. -/
theorem removeHigherSpaceDimensions_inv (g : Gh) (f : Facts) (s : PState) (h : Inv s) :
    Inv (removeHigherSpaceDimensions g f s) := by
  unfold removeHigherSpaceDimensions
  split
  · exact h
  next hne =>
  split
  · exact h
  next hlt =>
  have hne' : f.nd ≠ s.dim := by simpa using hne
  exact dropDims_inv g.keep g f.nd s h (by omega)

theorem dropLastDim_inv : InvStep dropLastDim := fun g s h => removeHigherSpaceDimensions_inv g _ s h

/-- `map_space_dimensions(pfunc)`, `pfunc` a permutation. -/
theorem mapPermute_inv : InvStep (fun g s =>
      let s := setChanges false s
      let s := if s.cup then conRewrite g.keep s else s
      if s.gup then genRewrite g.aux s else s) := by
  intro g s h
  spec_tac [s.b .cup, s.b .gup] using []

theorem ctorDegenerate_inv (nnc : Bool) (dim : Nat) (empty : Bool) (g : Gh) : Inv (ctorDegenerate nnc dim empty g) := by
  rcases Nat.eq_zero_or_pos dim with hd | hd <;> spec_tac [empty] using [ctorDegenerate, fresh]

theorem ctorCons_inv (nnc : Bool) (f : Facts) (g : Gh) : Inv (ctorCons nnc f g) := by
  rcases Nat.eq_zero_or_pos f.dim with hd | hd <;> spec_tac [f.incons] using [ctorCons, fresh]

theorem ctorGens_inv (nnc : Bool) (f : Facts) (g : Gh) : Inv (ctorGens nnc f g) := by
  rcases Nat.eq_zero_or_pos f.dim with hd | hd <;> spec_tac [f.norows] using [ctorGens, fresh]

theorem setVer_inv (s : PState) (v : Nat) (h : Inv s) : Inv (s.setVer v) := by
  spec_tac [] using []

/-- `map_space_dimensions(pfunc)` otherwise: the object is rebuilt from its (mapped) generators. -/
theorem mapRebuild_inv (f : Facts) : InvStep (fun g s =>
      if s.em then (ctorDegenerate s.nnc f.nd true g).setVer (s.ver + 1)
      else (ctorGens s.nnc { dim := f.nd } g).setVer (s.ver + 1)) := by
  intro g s h
  show Inv (if s.em then _ else _)
  split
  · exact setVer_inv _ _ (ctorDegenerate_inv _ _ _ _)
  · exact setVer_inv _ _ (ctorGens_inv _ _ _)

end PPLV.PolyStatus

import PPLV.PolyStatus.InvFlags
/-!
# C01 stage 2 — proofs: the private helpers keep the invariant

For every helper: the invariant of the result, the flags it guarantees, and its frame (`Frame L s t`: only the
components in `L` may differ; dimension, topology and the ghost counter of set changes are untouched).
-/
namespace PPLV.PolyStatus
open PState

theorem oscs_spec (s : PState) (h : Inv s) (h1 : s.b .cup = true) (h2 : s.b .gup = true) (h3 : s.b .em = false) :
    Inv (obtainSortedConstraintsWithSatC s) ∧ (obtainSortedConstraintsWithSatC s).b .satc = true
    ∧ (obtainSortedConstraintsWithSatC s).b .csS = true
    ∧ Frame satFlds s (obtainSortedConstraintsWithSatC s) := by
  have k : SatStep s (obtainSortedConstraintsWithSatC s) ∧ (obtainSortedConstraintsWithSatC s).b .satc = true
      ∧ (obtainSortedConstraintsWithSatC s).b .csS = true := by
    spec_tac [s.b .satc, s.b .satg, s.b .csS] using [obtainSortedConstraintsWithSatC]
  exact ⟨k.1.inv h (.inl h1), k.2.1, k.2.2, k.1.1⟩

theorem osgs_spec (s : PState) (h : Inv s) (h1 : s.b .cup = true) (h2 : s.b .gup = true) (h3 : s.b .em = false) :
    Inv (obtainSortedGeneratorsWithSatG s) ∧ (obtainSortedGeneratorsWithSatG s).b .satg = true
    ∧ (obtainSortedGeneratorsWithSatG s).b .gsS = true
    ∧ Frame satFlds s (obtainSortedGeneratorsWithSatG s) := by
  have k : SatStep s (obtainSortedGeneratorsWithSatG s) ∧ (obtainSortedGeneratorsWithSatG s).b .satg = true
      ∧ (obtainSortedGeneratorsWithSatG s).b .gsS = true := by
    spec_tac [s.b .satc, s.b .satg, s.b .gsS] using [obtainSortedGeneratorsWithSatG]
  exact ⟨k.1.inv h (.inl h1), k.2.1, k.2.2, k.1.1⟩

theorem osc_spec (s : PState) (h : Inv s) (h1 : s.b .cup = true) (h3 : s.b .em = false) :
    Inv (obtainSortedConstraints s) ∧ (obtainSortedConstraints s).b .csS = true
    ∧ Frame satFlds s (obtainSortedConstraints s) := by
  have k : SatStep s (obtainSortedConstraints s) ∧ (obtainSortedConstraints s).b .csS = true := by
    rcases Bool.eq_false_or_eq_true (s.b .csS) with k | k
    · spec_tac [] using [obtainSortedConstraints]
    rcases Bool.eq_false_or_eq_true (s.b .satg) with k' | k'
    · spec_tac [] using [obtainSortedConstraints]
    · spec_tac [s.b .satc] using [obtainSortedConstraints]
  exact ⟨k.1.inv h (.inl h1), k.2, k.1.1⟩

theorem osg_spec (s : PState) (h : Inv s) (h1 : s.b .gup = true) (h3 : s.b .em = false) :
    Inv (obtainSortedGenerators s) ∧ (obtainSortedGenerators s).b .gsS = true
    ∧ Frame satFlds s (obtainSortedGenerators s) := by
  have k : SatStep s (obtainSortedGenerators s) ∧ (obtainSortedGenerators s).b .gsS = true := by
    rcases Bool.eq_false_or_eq_true (s.b .gsS) with k | k
    · spec_tac [] using [obtainSortedGenerators]
    rcases Bool.eq_false_or_eq_true (s.b .satc) with k' | k'
    · spec_tac [] using [obtainSortedGenerators]
    · spec_tac [s.b .satg] using [obtainSortedGenerators]
  exact ⟨k.1.inv h (.inr h1), k.2, k.1.1⟩

theorem ppcPrepare_spec (s : PState) (h : Inv s) (hp : s.b .cpend = true) :
    Inv (ppcPrepare s) ∧ (ppcPrepare s).b .vSC = true ∧ (ppcPrepare s).b .csS = true
    ∧ Frame satFlds s (ppcPrepare s) := by
  have k : SatStep s (ppcPrepare s) ∧ (ppcPrepare s).b .vSC = true ∧ (ppcPrepare s).b .csS = true := by
    spec_tac [s.b .satc, s.b .satg, s.b .csS] using [ppcPrepare, obtainSortedConstraintsWithSatC]
  exact ⟨k.1.inv h (by inv_facts), k.2.1, k.2.2, k.1.1⟩

theorem ppgPrepare_spec (s : PState) (h : Inv s) (hp : s.b .gpend = true) :
    Inv (ppgPrepare s) ∧ (ppgPrepare s).b .vSG = true ∧ (ppgPrepare s).b .gsS = true
    ∧ Frame satFlds s (ppgPrepare s) := by
  have k : SatStep s (ppgPrepare s) ∧ (ppgPrepare s).b .vSG = true ∧ (ppgPrepare s).b .gsS = true := by
    spec_tac [s.b .satc, s.b .satg, s.b .gsS] using [ppgPrepare, obtainSortedGeneratorsWithSatG]
  exact ⟨k.1.inv h (by inv_facts), k.2.1, k.2.2, k.1.1⟩

theorem ppcFinish_spec (g : Gh) (s : PState) (h : Inv s) (hp : s.b .cpend = true) (hv : s.b .vSC = true)
    (hs : s.b .csS = true) :
    Inv (ppcFinish g s).2 ∧ SameSet s (ppcFinish g s).2
    ∧ ((ppcFinish g s).1 = true → Minimized (ppcFinish g s).2)
    ∧ ((ppcFinish g s).1 = false → (ppcFinish g s).2.b .em = true) := by
  spec_tac [g.dup, s.b .pC, s.b .emp] using [ppcFinish, addMinC]

theorem ppgFinish_spec (g : Gh) (s : PState) (h : Inv s) (hp : s.b .gpend = true) (hv : s.b .vSG = true)
    (hs : s.b .gsS = true) :
    Inv (ppgFinish g s) ∧ SameSet s (ppgFinish g s) ∧ Minimized (ppgFinish g s) := by
  spec_tac [g.dup, s.b .pG] using [ppgFinish, addMinG]

/-- `process_pending_constraints()`. -/
theorem ppc_spec (g : Gh) (s : PState) (h : Inv s) (hp : s.b .cpend = true) :
    Inv (processPendingConstraints g s).2 ∧ SameSet s (processPendingConstraints g s).2
    ∧ ((processPendingConstraints g s).1 = true → Minimized (processPendingConstraints g s).2)
    ∧ ((processPendingConstraints g s).1 = false → (processPendingConstraints g s).2.b .em = true) := by
  obtain ⟨h1, h2, h3, h4⟩ := ppcPrepare_spec s h hp
  have hp' : (ppcPrepare s).b .cpend = true := by rw [h4.b _ (by decide)]; exact hp
  obtain ⟨k1, k2, k3, k4⟩ := ppcFinish_spec g (ppcPrepare s) h1 hp' h2 h3
  exact ⟨k1, (h4.mono satFlds_sub).trans k2, k3, k4⟩

/-- `process_pending_generators()`. -/
theorem ppg_spec (g : Gh) (s : PState) (h : Inv s) (hp : s.b .gpend = true) :
    Inv (processPendingGenerators g s) ∧ SameSet s (processPendingGenerators g s)
    ∧ Minimized (processPendingGenerators g s) := by
  obtain ⟨h1, h2, h3, h4⟩ := ppgPrepare_spec s h hp
  have hp' : (ppgPrepare s).b .gpend = true := by rw [h4.b _ (by decide)]; exact hp
  obtain ⟨k1, k2, k3⟩ := ppgFinish_spec g (ppgPrepare s) h1 hp' h2 h3
  exact ⟨k1, (h4.mono satFlds_sub).trans k2, k3⟩

/-- `update_constraints()`. -/
theorem updateConstraints_spec (g : Gh) (s : PState) (h : Inv s) (he : s.b .em = false) (hd : s.dim ≠ 0)
    (hg : s.b .gup = true) (hc : s.b .cpend = false) (hgp : s.b .gpend = false) :
    Inv (updateConstraints g s) ∧ SameSet s (updateConstraints g s) ∧ Minimized (updateConstraints g s) := by
  spec_tac [s.b .gsS] using [updateConstraints, convGC]

/-- `update_generators()`. -/
theorem updateGenerators_spec (g : Gh) (s : PState) (h : Inv s) (he : s.b .em = false) (hd : s.dim ≠ 0)
    (hcu : s.b .cup = true) (hc : s.b .cpend = false) (hgp : s.b .gpend = false) :
    Inv (updateGenerators g s).2 ∧ SameSet s (updateGenerators g s).2
    ∧ ((updateGenerators g s).1 = true → Minimized (updateGenerators g s).2)
    ∧ ((updateGenerators g s).1 = false → (updateGenerators g s).2.b .em = true) := by
  spec_tac [s.b .csS, s.b .emp] using [updateGenerators, convCG]

end PPLV.PolyStatus

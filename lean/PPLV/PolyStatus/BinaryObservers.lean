import PPLV.PolyStatus.TwoObjects
/-!
# C01 stage 2 — proofs: `contains`, `strictly_contains`, `==`, `is_disjoint_from`
-/
namespace PPLV.PolyStatus
open PState Two

/-- `x.is_included_in(y)`: both objects are only re-represented; `y` is marked empty afterwards only if it is `x`. -/
theorem isIncludedIn_spec (ga gb : Gh) (c : Two) (hl : Live2 c) :
    Obs2 c (isIncludedIn ga gb c)
    ∧ ((isIncludedIn ga gb c).x.b .em = false → (isIncludedIn ga gb c).gy.b .em = false) := by
  unfold isIncludedIn
  obtain ⟨o1, l1⟩ := liveX (fun s => if s.cpend then processPendingConstraints ga s else (true, s)) c hl
    (fun s h he _ => inclA1_obs ga s h he)
  have e1 : inclA1 ga c = onXb (fun s => if s.cpend then processPendingConstraints ga s else (true, s)) c := rfl
  rw [e1]
  rcases Bool.eq_false_or_eq_true (onXb (fun s => if s.cpend then processPendingConstraints ga s else (true, s)) c).1 with hr | hr
  · simp only [hr, Bool.not_true, Bool.false_eq_true, ite_false]
    have l1' := l1 hr
    generalize (onXb (fun s => if s.cpend then processPendingConstraints ga s else (true, s)) c).2 = c1 at o1 l1'
    obtain ⟨o2, l2⟩ := liveY (fun s => if s.gpend then processPendingGenerators gb s else s) c1 l1'
      (fun s h he _ => inclB1_obs gb s h he)
    have e2 : inclB1 gb c1 = onY (fun s => if s.gpend then processPendingGenerators gb s else s) c1 := rfl
    rw [e2]
    generalize onY (fun s => if s.gpend then processPendingGenerators gb s else s) c1 = c2 at o2 l2
    obtain ⟨o3, l3⟩ := liveX (fun s => if !s.gup then updateGenerators ga s else (true, s)) c2 l2
      (inclA2_obs ga)
    have e3 : inclA2 ga c2 = onXb (fun s => if !s.gup then updateGenerators ga s else (true, s)) c2 := rfl
    rw [e3]
    rcases Bool.eq_false_or_eq_true (onXb (fun s => if !s.gup then updateGenerators ga s else (true, s)) c2).1 with hr3 | hr3
    · simp only [hr3, Bool.not_true, Bool.false_eq_true, ite_false]
      have l3' := l3 hr3
      generalize (onXb (fun s => if !s.gup then updateGenerators ga s else (true, s)) c2).2 = c3 at o3 l3'
      obtain ⟨o4, l4⟩ := liveY (fun s => if !s.cup then updateConstraints gb s else s) c3 l3'
        (inclB2_obs gb)
      have e4 : inclB2 gb c3 = onY (fun s => if !s.cup then updateConstraints gb s else s) c3 := rfl
      rw [e4]
      exact ⟨o1.trans (o2.trans (o3.trans o4)), fun _ => l4.ye⟩
    · simp only [hr3, Bool.not_false, ite_true]
      exact ⟨o1.trans (o2.trans o3), onXb_gy_em _ c2 l2⟩
  · simp only [hr, Bool.not_false, ite_true]
    exact ⟨o1, onXb_gy_em _ c hl⟩

theorem isIncludedIn_obs2 (ga gb : Gh) (c : Two) (hl : Live2 c) : Obs2 c (isIncludedIn ga gb c) :=
  (isIncludedIn_spec ga gb c hl).1

theorem gy_swap (c : Two) : c.swap.gy = c.x := by
  cases hal : c.al <;> simp [Two.swap, gy, hal]
theorem x_swap (c : Two) : c.swap.x = c.gy := by
  cases hal : c.al <;> simp [Two.swap, gy, hal]
theorem al_swap (c : Two) : c.swap.al = c.al := by
  cases hal : c.al <;> simp [Two.swap, hal]

theorem TwoOK.swap {c : Two} (h : TwoOK c) : TwoOK c.swap := ⟨by rw [x_swap]; exact h.y, by rw [gy_swap]; exact h.x⟩
theorem Live2.swap {c : Two} (h : Live2 c) : Live2 c.swap :=
  ⟨h.ok.swap, by rw [x_swap]; exact h.ye, by rw [gy_swap]; exact h.xe, by rw [x_swap]; exact h.yd,
   by rw [gy_swap]; exact h.xd⟩
theorem Obs2.of_swap {c d : Two} (h : Obs2 c.swap d) : Obs2 c d.swap :=
  ⟨by rw [x_swap]; have := h.y; rwa [gy_swap] at this, by rw [gy_swap]; have := h.x; rwa [x_swap] at this,
   by rw [al_swap, h.al, al_swap]⟩

theorem onYb_isEmpty_obs2 (g : Gh) (c : Two) (h : TwoOK c) : Obs2 c (onYb (isEmpty g) c).2 := by
  rw [(onYb_eq _ _).1]
  exact onY_obs2 _ c h (isEmpty_obs g _ h.y)

theorem onXb_isEmpty_obs2 (g : Gh) (c : Two) (h : TwoOK c) : Obs2 c (onXb (isEmpty g) c).2 :=
  onX_obs2 (fun s => (isEmpty g s).2) c h (isEmpty_obs g _ h.x)

/-- `x.contains(y)`. -/
theorem contains_obs2 (gx gy : Gh) (q : GhQ) (c : Two) (h : TwoOK c) (hd : c.gy.dim = c.x.dim) :
    Obs2 c (contains gx gy q c) := by
  unfold contains
  split
  · exact Obs2.refl h
  next hye =>
  split
  · exact onYb_isEmpty_obs2 gy c h
  next hxe =>
  split
  · exact Obs2.refl h
  next hyd =>
  have hxe' : c.x.b .em = false := by simpa using hxe
  have hye' : c.gy.b .em = false := by simpa using hye
  have hyd' : c.gy.dim ≠ 0 := by simpa using hyd
  obtain ⟨o, e1, e2⟩ := quickEquivalenceTest_obs2 q c h hxe' hye'
  simp only
  split
  · exact o
  · have hl : Live2 (quickEquivalenceTest q c).2 :=
      ⟨o.ok, e1, e2, by rw [o.x.same.dim, ← hd]; exact hyd', by rw [o.y.same.dim]; exact hyd'⟩
    exact o.trans (Obs2.of_swap (isIncludedIn_obs2 gy gx _ hl.swap))

theorem Obs2.dims {c d : Two} (h : Obs2 c d) (hd : c.gy.dim = c.x.dim) : d.gy.dim = d.x.dim := by
  rw [h.x.same.dim, h.y.same.dim, hd]

/-- `x.strictly_contains(y)`: both steps. -/
theorem strictlyContainsSteps_obs2 : ∀ st ∈ strictlyContainsSteps, ∀ h c, TwoOK c → c.gy.dim = c.x.dim →
    Obs2 c (st h c) := by
  intro st hst h c hc hd
  simp only [strictlyContainsSteps, List.mem_cons, List.not_mem_nil, or_false] at hst
  rcases hst with rfl | rfl
  · exact contains_obs2 _ _ _ c hc hd
  · show Obs2 c (if h.gx.aux then (contains h.gy h.gx h.q c.swap).swap else c)
    split
    · exact Obs2.of_swap (contains_obs2 _ _ _ _ hc.swap (by rw [gy_swap, x_swap, hd]))
    · exact Obs2.refl hc

theorem withGo_obs2 {c d : Two} (b : Bool) (h : Obs2 c d) : Obs2 c { d with go := b } := ⟨h.x, h.y, h.al⟩

/-- what holds between the two steps of `operator==`. -/
structure EqMid (c : Two) : Prop where
  ok : TwoOK c
  dims : c.gy.dim = c.x.dim
  go : c.go = true → c.x.dim ≠ 0 ∧ (c.x.b .em = false → c.gy.b .em = false)

theorem withGoFalse_mid {c d : Two} (h : Obs2 c d) (hd : c.gy.dim = c.x.dim) : EqMid { d with go := false } :=
  ⟨⟨h.x.inv, h.y.inv⟩, h.dims hd, fun hf => by simp at hf⟩

/-- `operator==`, first step. -/
theorem equalsHead_obs2 (h : Gh2) (c : Two) (hc : TwoOK c) (hd : c.gy.dim = c.x.dim) :
    Obs2 c (equalsHead h c) ∧ EqMid (equalsHead h c) := by
  unfold equalsHead
  split
  · exact ⟨withGo_obs2 _ (onYb_isEmpty_obs2 _ c hc), withGoFalse_mid (onYb_isEmpty_obs2 _ c hc) hd⟩
  next hxe =>
  split
  · exact ⟨withGo_obs2 _ (onXb_isEmpty_obs2 _ c hc), withGoFalse_mid (onXb_isEmpty_obs2 _ c hc) hd⟩
  next hye =>
  split
  · exact ⟨withGo_obs2 _ (Obs2.refl hc), withGoFalse_mid (Obs2.refl hc) hd⟩
  next hxd =>
  have hxe' : c.x.b .em = false := by simpa using hxe
  have hye' : c.gy.b .em = false := by simpa using hye
  have hxd' : c.x.dim ≠ 0 := by simpa using hxd
  obtain ⟨o, e1, e2⟩ := quickEquivalenceTest_obs2 h.q c hc hxe' hye'
  simp only
  split
  · exact ⟨withGo_obs2 _ o, withGoFalse_mid o hd⟩
  · have hl : Live2 (quickEquivalenceTest h.q c).2 :=
      ⟨o.ok, e1, e2, by rw [o.x.same.dim]; exact hxd', by rw [o.y.same.dim, hd]; exact hxd'⟩
    obtain ⟨o2, j2⟩ := isIncludedIn_spec h.gx h.gy _ hl
    have ot := o.trans o2
    exact ⟨withGo_obs2 _ ot, ⟨⟨ot.x.inv, ot.y.inv⟩, ot.dims hd, fun _ => ⟨by rw [ot.x.same.dim]; exact hxd', j2⟩⟩⟩

/-- `operator==`, second step. -/
theorem equalsTail_obs2 (h : Gh2) (c : Two) (hm : EqMid c) : Obs2 c (equalsTail h c) := by
  unfold equalsTail
  split
  · next hgo =>
    have hgo' : c.go = true := by simp at hgo; exact hgo.1
    obtain ⟨hxd, hj⟩ := hm.go hgo'
    split
    · exact onYb_isEmpty_obs2 _ c hm.ok
    · next hxe =>
      have hxe' : c.x.b .em = false := by simpa using hxe
      have hl : Live2 c := ⟨hm.ok, hxe', hj hxe', hxd, by rw [hm.dims]; exact hxd⟩
      exact Obs2.of_swap (isIncludedIn_obs2 _ _ _ hl.swap)
  · exact Obs2.refl hm.ok

end PPLV.PolyStatus

import PPLV.PolyStatus.AddRows
import PPLV.PolyStatus.DropDims
import PPLV.PolyStatus.BinaryObservers
/-!
# C01 stage 2 — proofs: copy, assignment and the binary mutators (`intersection_assign`, `poly_hull_assign`,
`time_elapse_assign`, `concatenate_assign`, `simplify_using_context_assign`, `m_swap`), `is_disjoint_from`
-/
namespace PPLV.PolyStatus
open PState Two

theorem copyCtor_spec (y : PState) (h : Inv y) :
    Inv (copyCtor y) ∧ (copyCtor y).dim = y.dim ∧ (copyCtor y).b .em = y.b .em ∧ (copyCtor y).b .emp = y.b .emp
    ∧ (copyCtor y).ver = y.ver ∧ (copyCtor y).nnc = y.nnc := by
  refine ⟨?_, rfl, rfl, rfl, rfl, rfl⟩
  spec_tac [y.b .cup, y.b .gup] using [copyCtor]

theorem assign_inv (x y : PState) (hx : Inv x) (hy : Inv y) : Inv (assign x y) := by
  obtain ⟨hxc, hxg⟩ := hx.sorted_facts
  clear hx
  unfold assign
  simp only
  split
  · spec_tac [] using []
  split
  · spec_tac [] using []
  · next he hd =>
    have he' : y.b .em = false := by simpa using he
    have hd' : y.dim ≠ 0 := by simpa using hd
    spec_tac [y.b .cup, y.b .gup] using []

theorem onX_ok (f : PState → PState) (c : Two) (h : TwoOK c) (hf : Inv (f c.x)) : TwoOK (onX f c) := by
  refine ⟨hf, ?_⟩
  rw [gy_onX]
  cases hal : c.al
  · simpa using h.y
  · simpa using hf

/-- `x = y` inside a binary method. -/
theorem assignFromY_ok (c : Two) (h : TwoOK c) : TwoOK (assignFromY c) := by
  unfold assignFromY
  cases hal : c.al
  · simp only [Bool.false_eq_true, ite_false]
    apply onX_ok _ c h
    have : c.gy = c.y := by simp [gy, hal]
    exact assign_inv _ _ h.x (this ▸ h.y)
  · simpa using h

/-- not marked empty, positive dimension. -/
def LiveP (s : PState) : Prop := s.b .em = false ∧ s.dim ≠ 0

theorem needCons_both (g : Gh) : ∀ s, Inv s → LiveP s →
    Obs s (needCons g s) ∧ ConsReady (needCons g s) ∧ LiveP (needCons g s) := by
  intro s h hp
  obtain ⟨h1, h2, h3⟩ := needCons_spec g s h hp.1 hp.2
  exact ⟨⟨h1, h2⟩, h3, ⟨h3.em, by rw [h2.dim]; exact hp.2⟩⟩

/-- `intersection_assign(y)`. -/
theorem intersectionAssign_ok (gx gy : Gh) (c : Two) (h : TwoOK c) (hd : c.gy.dim = c.x.dim) :
    TwoOK (intersectionAssign gx gy c) := by
  unfold intersectionAssign
  split
  · exact h
  next hxe =>
  split
  · exact onX_ok _ c h (setEmptyChanged_inv _)
  next hye =>
  split
  · exact h
  next hxd =>
  have hxe' : c.x.b .em = false := by simpa using hxe
  have hye' : c.gy.b .em = false := by simpa using hye
  have hxd' : c.x.dim ≠ 0 := by simpa using hxd
  obtain ⟨o, p1, _⟩ := onXThenY_obs2 (needCons gx) (needCons gy) LiveP ConsReady c h
    ⟨hxe', hxd'⟩ ⟨hye', by rw [hd]; exact hxd'⟩ (needCons_both gx) (needCons_both gy)
  simp only
  exact onX_ok _ _ o.ok (insertCons_spec _ _ o.ok.x p1).1

theorem needGens_step (g : Gh) : ∀ s, Inv s → s.b .em = false → s.dim ≠ 0 →
    Obs s (needGens g s).2 ∧ ((needGens g s).1 = false → GensReady (needGens g s).2) := by
  intro s h he hd
  obtain ⟨h1, h2, h3, h4⟩ := needGens_spec g s h he hd
  exact ⟨⟨h1, h2⟩, h4⟩

theorem assign_dim (x y : PState) : (assign x y).dim = y.dim := by
  unfold assign
  simp only
  split
  · simp [pst]
  split
  · next _ hd => simp [pst]; exact (by simpa using hd : y.dim = 0).symm
  · split <;> split <;> simp [pst]

theorem assignFromY_dim (c : Two) (hd : c.gy.dim = c.x.dim) : (assignFromY c).x.dim = c.x.dim := by
  unfold assignFromY
  cases hal : c.al
  · simp only [Bool.false_eq_true, ite_false]
    rw [x_onX, assign_dim]
    have : c.gy = c.y := by simp [Two.gy, hal]
    rw [← this, hd]
  · simp

/-- `poly_hull_assign(y)`: both objects stay legal, the receiver keeps its space dimension. -/
theorem polyHullAssign_ok (gx gy : Gh) (c : Two) (h : TwoOK c) (hd : c.gy.dim = c.x.dim) :
    TwoOK (polyHullAssign gx gy c) ∧ (polyHullAssign gx gy c).x.dim = c.x.dim := by
  unfold polyHullAssign
  split
  · exact ⟨h, rfl⟩
  next hye =>
  split
  · exact ⟨assignFromY_ok c h, assignFromY_dim c hd⟩
  next hxe =>
  split
  · exact ⟨h, rfl⟩
  next hxd =>
  have hxe' : c.x.b .em = false := by simpa using hxe
  have hye' : c.gy.b .em = false := by simpa using hye
  have hxd' : c.x.dim ≠ 0 := by simpa using hxd
  have hl : Live2 c := ⟨h, hxe', hye', hxd', by rw [hd]; exact hxd'⟩
  obtain ⟨o1, l1⟩ := stepX (needGens gx) GensReady c hl (fun _ h => h.em) (needGens_step gx)
  simp only
  rcases Bool.eq_false_or_eq_true (onXb (needGens gx) c).1 with hr | hr
  · simp only [hr, ite_true]
    exact ⟨assignFromY_ok _ o1.ok, by rw [assignFromY_dim _ (o1.dims hd), o1.x.same.dim]⟩
  · simp only [hr, Bool.false_eq_true, ite_false]
    obtain ⟨l1', p1⟩ := l1 hr
    have hd1 := o1.x.same.dim
    generalize (onXb (needGens gx) c).2 = c1 at o1 l1' p1 hd1
    obtain ⟨o2, l2⟩ := stepY (needGens gy) GensReady c1 l1' p1 (needGens_step gy)
    rcases Bool.eq_false_or_eq_true (onYb (needGens gy) c1).1 with hr2 | hr2
    · simp only [hr2, ite_true]; exact ⟨o2.ok, by rw [o2.x.same.dim, hd1]⟩
    · simp only [hr2, Bool.false_eq_true, ite_false]
      obtain ⟨i1, _, i3⟩ := insertGens_spec _ _ o2.ok.x (l2 hr2)
      exact ⟨onX_ok _ _ o2.ok i1, by rw [x_onX, i3, o2.x.same.dim, hd1]⟩

theorem timeElapseTail_inv (g : Gh) (x : PState) (h : Inv x) (hr : GensReady x) :
    Inv (if x.canHaveSomethingPending then insertGens g x
         else insertGens { g with keep := true } (if !x.gsS then genSortRows x else x)) := by
  split
  · exact (insertGens_spec g x h hr).1
  · next hcp =>
    have hcp' : (x.b .cmin && x.b .gmin && (x.b .satc || x.b .satg)) = false := by simpa [pst] using hcp
    spec_tac [x.b .gsS] using [insertGens]

/-- `time_elapse_assign(y)`. -/
theorem timeElapseAssign_ok (gx gy : Gh) (c : Two) (h : TwoOK c) (hd : c.gy.dim = c.x.dim) :
    TwoOK (timeElapseAssign gx gy c) := by
  unfold timeElapseAssign
  split
  · split
    · exact onX_ok _ c h (setEmptyChanged_inv _)
    · exact h
  next hxd =>
  split
  · exact onX_ok _ c h (setEmptyChanged_inv _)
  next hee =>
  have hxd' : c.x.dim ≠ 0 := by simpa using hxd
  have hee' : c.x.b .em = false ∧ c.gy.b .em = false := by simpa using hee
  have hl : Live2 c := ⟨h, hee'.1, hee'.2, hxd', by rw [hd]; exact hxd'⟩
  obtain ⟨o1, l1⟩ := stepX (needGens gx) GensReady c hl (fun _ h => h.em) (needGens_step gx)
  simp only
  rcases Bool.eq_false_or_eq_true (onXb (needGens gx) c).1 with hr | hr
  · simp only [hr, ite_true]
    refine onX_ok _ _ o1.ok ?_
    have hi := o1.ok.x
    have hem : (onXb (needGens gx) c).2.x.b .em = true :=
      (needGens_spec gx c.x h.x hee'.1 hxd').2.2.1 hr
    generalize (onXb (needGens gx) c).2.x = t at hi hem
    spec_tac [] using []
  · simp only [hr, Bool.false_eq_true, ite_false]
    obtain ⟨l1', p1⟩ := l1 hr
    generalize (onXb (needGens gx) c).2 = c1 at o1 l1' p1
    obtain ⟨o2, l2⟩ := stepY (needGens gy) GensReady c1 l1' p1 (needGens_step gy)
    rcases Bool.eq_false_or_eq_true (onYb (needGens gy) c1).1 with hr2 | hr2
    · simp only [hr2, ite_true]; exact onX_ok _ _ o2.ok (setEmptyChanged_inv _)
    · simp only [hr2, Bool.false_eq_true, ite_false]
      split
      · exact o2.ok
      · exact onX_ok _ _ o2.ok (timeElapseTail_inv gx _ o2.ok.x (l2 hr2))

/-- `m_swap(y)`. -/
theorem mSwap_ok (c : Two) (h : TwoOK c) : TwoOK (mSwap c) := by
  unfold mSwap
  cases hal : c.al
  · have hy : Inv c.y := by have := h.y; simpa [gy, hal] using this
    exact ⟨hy, by simpa [gy, hal] using h.x⟩
  · simpa using h

theorem concatTail_inv (g : Gh) (ydim : Nat) (x : PState) (h : Inv x) (hr : ConsReady x) :
    Inv (let x := setChanges g.be x
         let x :=
           if x.canHaveSomethingPending then
             let x := genRewrite g.aux (conInsertPending x)
             let x := if !x.satc then setSatCUpToDate (satCFromSatG x) else x
             setConstraintsPending (clearSatGUpToDate x)
           else
             let x := conInsert g.keep x
             clearSatCUpToDate (clearSatGUpToDate (clearGeneratorsUpToDate (clearConstraintsMinimized x)))
         x.setDim (x.dim + ydim)) := by
  rcases Bool.eq_false_or_eq_true (x.b .cmin && x.b .gmin) with k | k
  · spec_tac [x.b .satc, x.b .satg] using []
  · spec_tac [] using []

theorem constraints_both (g : Gh) : ∀ s, Inv s → LiveP s →
    Obs s (constraints g s) ∧ LiveP (constraints g s) := by
  intro s h hp
  have e : constraints g s = needCons g s := by simp [constraints, hp.1, hp.2]
  rw [e]
  obtain ⟨h1, h2, h3⟩ := needCons_spec g s h hp.1 hp.2
  exact ⟨⟨h1, h2⟩, ⟨h3.em, by rw [h2.dim]; exact hp.2⟩⟩

/-- `concatenate_assign(y)`. -/
theorem concatenateAssign_ok (gx gy : Gh) (c : Two) (h : TwoOK c) : TwoOK (concatenateAssign gx gy c) := by
  unfold concatenateAssign
  simp only
  split
  · refine onX_ok _ c h ?_
    have := h.x
    generalize c.x = t at this
    generalize c.gy.dim = n
    spec_tac [] using []
  next hee =>
  split
  · exact h
  next hyd =>
  split
  · exact assignFromY_ok c h
  next hxd =>
  have hee' : c.x.b .em = false ∧ c.gy.b .em = false := by simpa using hee
  have hxd' : c.x.dim ≠ 0 := by simpa using hxd
  have hyd' : c.gy.dim ≠ 0 := by simpa using hyd
  obtain ⟨o, p⟩ := onYThenX_obs2 (needCons gx) (constraints gy) LiveP ConsReady c h
    ⟨hee'.1, hxd'⟩ ⟨hee'.2, hyd'⟩ (needCons_both gx) (constraints_both gy)
  exact onX_ok _ _ o.ok (concatTail_inv gx _ _ o.ok.x p)

/-- `simplify_using_context_assign(y)`: the replacement of the receiver. -/
theorem replaced_inv (g : Gh) (x : PState) :
    Inv (addConstraints g { norows := g.aux, nontriv := !g.aux } ((ctorDegenerate x.nnc x.dim false g).setVer (x.ver + 1))) :=
  addConstraints_inv _ g _ (setVer_inv _ _ (ctorDegenerate_inv _ _ _ _))

/-- `simplify_using_context_assign(y)`. -/
theorem simplifyUsingContextAssign_ok (gx gy : Gh) (c : Two) (h : TwoOK c) :
    TwoOK (simplifyUsingContextAssign gx gy c) := by
  unfold simplifyUsingContextAssign
  split
  · have o := onYb_isEmpty_obs2 gy c h
    simp only
    split
    · exact onX_ok _ _ o.ok (setZeroDimUnivPoint_inv _)
    · exact (onXb_isEmpty_obs2 gx _ o.ok).ok
  · have o : Obs2 c (onYb (minimize gy) c).2 := by
      rw [(onYb_eq _ _).1]
      exact onY_obs2 _ c h (minimize_obs gy _ h.y)
    simp only
    split
    · exact onX_ok _ _ o.ok (setVer_inv _ _ (ctorDegenerate_inv _ _ _ _))
    · have o2 : Obs2 (onYb (minimize gy) c).2 (onXb (minimize gx) (onYb (minimize gy) c).2).2 :=
        onX_obs2 (fun s => (minimize gx s).2) _ o.ok (minimize_obs gx _ o.ok.x)
      split
      · split
        · exact onX_ok _ _ o2.ok (replaced_inv gx _)
        · exact o2.ok
      · exact onX_ok _ _ o2.ok (replaced_inv gx _)

/-- the argument of `intersection_assign` is only re-represented. -/
theorem intersectionAssign_y (gx gy : Gh) (c : Two) (h : TwoOK c) (hd : c.gy.dim = c.x.dim) (hal : c.al = false) :
    Obs c.y (intersectionAssign gx gy c).y := by
  have hgy : c.gy = c.y := by simp [Two.gy, hal]
  have hy : Inv c.y := hgy ▸ h.y
  unfold intersectionAssign
  split
  · exact Obs.refl hy
  next hxe =>
  split
  · rw [y_onX]; exact Obs.refl hy
  next hye =>
  split
  · exact Obs.refl hy
  next hxd =>
  have hye' : c.y.b .em = false := by rw [← hgy]; simpa using hye
  have hxd' : c.x.dim ≠ 0 := by simpa using hxd
  have e : ∀ (f1 f2 f3 : PState → PState), (onX f3 (onY f2 (onX f1 c))).y = f2 c.y := fun f1 f2 f3 => by
    rw [y_onX, y_onY_nal _ _ (by rw [al_onX]; exact hal), y_onX]
  show Obs c.y (onX _ (onY (needCons gy) (onX (needCons gx) c))).y
  rw [e]
  exact needCons_obs gy c.y hy hye' (by rw [← hgy, hd]; exact hxd')

/-- `is_disjoint_from(y)`: the receiver is untouched, the argument is re-represented. -/
theorem isDisjointFrom_obs2 (gx gy : Gh) (c : Two) (hc : TwoOK c) (hd : c.gy.dim = c.x.dim) :
    Obs2 c (isDisjointFrom gx gy c) := by
  unfold isDisjointFrom
  obtain ⟨k1, k2, _⟩ := copyCtor_spec c.x hc.x
  have hz : TwoOK { x := copyCtor c.x, y := c.gy, al := false } := ⟨k1, by simpa [Two.gy] using hc.y⟩
  have ho := intersectionAssign_y gx gy { x := copyCtor c.x, y := c.gy, al := false } hz
    (by rw [k2]; simpa [Two.gy] using hd) rfl
  simp only at ho ⊢
  exact onY_obs2 _ c hc ho

end PPLV.PolyStatus

import PPLV.PolyStatus.MinimizeSpecs
import PPLV.PolyStatus.Steps
/-!
# C01 stage 2 — proofs: the methods that add constraints or generators keep the invariant
-/
namespace PPLV.PolyStatus
open PState

/-- rows inserted into `con_sys` (pending if possible). -/
theorem insertCons_spec (g : Gh) (s : PState) (h : Inv s) (hr : ConsReady s) :
    Inv (insertCons g s) ∧ (insertCons g s).b .em = false ∧ (insertCons g s).dim = s.dim := by
  spec_tac [s.b .cmin && s.b .gmin && (s.b .satc || s.b .satg)] using [insertCons]

/-- rows inserted into `gen_sys` (pending if possible). -/
theorem insertGens_spec (g : Gh) (s : PState) (h : Inv s) (hr : GensReady s) :
    Inv (insertGens g s) ∧ (insertGens g s).b .em = false ∧ (insertGens g s).dim = s.dim := by
  spec_tac [s.b .cmin && s.b .gmin && (s.b .satc || s.b .satg)] using [insertGens]

/-- `Polyhedron::set_empty()` by a mutator that makes the set empty. -/
theorem setEmptyChanged_inv (s : PState) : Inv (setEmpty (setChanges true s)) := by
  spec_tac [] using []

theorem stSetEmptyChanged_inv (s : PState) (h : Inv s) (hd : s.dim = 0) : Inv (stSetEmpty (setChanges true s)) := by
  spec_tac [s.b .em] using []

/-- `refine_no_check(c)`. -/
theorem refineNoCheck_spec (g : Gh) (inc : Bool) (s : PState) (h : Inv s) (he : s.b .em = false) :
    Inv (refineNoCheck g inc s) ∧ (inc = false → (refineNoCheck g inc s).b .em = false)
    ∧ (refineNoCheck g inc s).dim = s.dim := by
  rcases Nat.eq_zero_or_pos s.dim with hd | hd
  · rcases Bool.eq_false_or_eq_true inc with hi | hi
    · have e : refineNoCheck g inc s = setEmpty (setChanges true s) := by simp [refineNoCheck, hd, hi]
      rw [e]; exact ⟨setEmptyChanged_inv s, fun hf => by simp [hi] at hf, by simp [pst]⟩
    · have e : refineNoCheck g inc s = s := by simp [refineNoCheck, hd, hi]
      rw [e]; exact ⟨h, fun _ => he, rfl⟩
  · have hd' : ¬ s.dim = 0 := by omega
    have e : refineNoCheck g inc s = insertCons g (needCons g s) := by
      simp [refineNoCheck, hd', insertCons]
    rw [e]
    obtain ⟨h1, h2, h3⟩ := needCons_spec g s h he hd'
    obtain ⟨k1, k2, k3⟩ := insertCons_spec g _ h1 h3
    exact ⟨k1, fun _ => k2, by rw [k3, h2.dim]⟩

theorem refineUnlessEm_inv (inc : Bool) : InvStep (unlessEm fun g s => refineNoCheck g inc s) :=
  unlessEm_inv fun g s h he => (refineNoCheck_spec g inc s h he).1

/-- `refine_with_constraint(c)`. -/
theorem refineWithConstraint_inv (f : Facts) : InvStep (fun g s => refineWithConstraint g f s) := by
  intro g s h
  show Inv (refineWithConstraint g f s)
  unfold refineWithConstraint
  split
  · next he => exact (refineNoCheck_spec g f.incons s h (by simpa using he)).1
  · exact h

/-- `add_constraint(c)`: a strict inequality added to a closed polyhedron is dealt with first, the rest is the
flag logic of `refine_with_constraint(c)`. -/
theorem addConstraint_inv (f : Facts) : InvStep (fun g s => addConstraint g f s) := by
  intro g s h
  show Inv (addConstraint g f s)
  unfold addConstraint
  split
  · split
    · exact h
    · exact setEmptyChanged_inv s
  · exact refineWithConstraint_inv f g s h

/-- `refine_with_constraints(cs)`. -/
theorem refineWithConstraints_inv (f : Facts) : InvStep (fun g s => refineWithConstraints g f s) := by
  intro g s h
  show Inv (refineWithConstraints g f s)
  unfold refineWithConstraints
  split
  · exact h
  split
  · next _ hd =>
    split
    · exact stSetEmptyChanged_inv s h (by simpa using hd)
    · exact h
  split
  · exact h
  · next _ hd he =>
    obtain ⟨h1, h2, h3⟩ := needCons_spec g s h (by simpa using he) (by simpa using hd)
    exact (insertCons_spec g _ h1 h3).1

/-- `add_constraints(cs)` / `add_recycled_constraints(cs)`: strict inequalities added to a closed polyhedron are
dealt with first, the rest is the flag logic of `refine_with_constraints(cs)`. -/
theorem addConstraints_inv (f : Facts) : InvStep (fun g s => addConstraints g f s) := by
  intro g s h
  show Inv (addConstraints g f s)
  unfold addConstraints
  split
  · exact setEmptyChanged_inv s
  · exact refineWithConstraints_inv f g s h

/-- the first point of an empty polyhedron. -/
theorem firstPoint_inv (g : Gh) (s : PState) (h : Inv s) (he : s.b .em = true) (hd : s.dim ≠ 0) :
    Inv (firstPoint g s) := by
  spec_tac [] using [firstPoint]

theorem setZeroDimUnivPoint_inv (s : PState) : Inv (setZeroDimUniv (s.set .emp false).bump) := by
  spec_tac [] using []

/-- the shape of `add_generator` and `unconstrain`: unless the receiver is marked empty its generators are asked
for; `onEmpty` is what happens to a receiver that is (found) empty, otherwise rows are inserted into `gen_sys`. -/
theorem gensThenInsert_inv (onEmpty : PState → PState)
    (hE : ∀ t, Inv t → t.b .em = true → t.dim ≠ 0 → Inv (onEmpty t))
    (g : Gh) (s : PState) (h : Inv s) (hd : s.dim ≠ 0) :
    Inv (let r := if s.em then (true, s) else needGens g s
         if r.1 then onEmpty r.2 else insertGens g r.2) := by
  rcases Bool.eq_false_or_eq_true (s.b .em) with he | he
  · simp only [PState.em, he, ite_true]
    exact hE s h he hd
  · simp only [PState.em, he, Bool.false_eq_true, ite_false]
    obtain ⟨h1, h2, h3, h4⟩ := needGens_spec g s h he hd
    rcases Bool.eq_false_or_eq_true (needGens g s).1 with hr | hr
    · simp only [hr, ite_true]
      exact hE _ h1 (h3 hr) (by rw [h2.dim]; exact hd)
    · simp only [hr, Bool.false_eq_true, ite_false]
      exact (insertGens_spec g _ h1 (h4 hr)).1

/-- `add_generator(g)`. -/
theorem addGenerator_inv : InvStep addGenerator := by
  intro g s h
  unfold addGenerator
  split
  · split
    · exact setZeroDimUnivPoint_inv s
    · exact h
  next hd => exact gensThenInsert_inv (firstPoint g) (firstPoint_inv g) g s h (by simpa using hd)

/-- `unconstrain(var)` / `unconstrain(vars)`. -/
theorem unconstrain_inv : InvStep unconstrain := by
  intro g s h
  unfold unconstrain
  split
  · exact h
  next hd => exact gensThenInsert_inv (fun t => t) (fun _ ht _ _ => ht) g s h (by simpa using hd)

/-- `add_generators(gs)`: the generators replace an empty polyhedron. -/
theorem swapGens_inv (g : Gh) (s : PState) (h : Inv s) (he : s.b .em = true) (hd : s.dim ≠ 0) :
    Inv (swapGens g s) := by
  spec_tac [] using [swapGens]

/-- `add_generators(gs)` / `add_recycled_generators(gs)`. -/
theorem addGenerators_inv (f : Facts) : InvStep (fun g s => addGenerators g f s) := by
  intro g s h
  show Inv (addGenerators g f s)
  unfold addGenerators
  split
  · exact h
  split
  · exact setZeroDimUnivPoint_inv s
  next _ hd =>
  have hd' : s.dim ≠ 0 := by simpa using hd
  obtain ⟨h1, h2, h3, h4⟩ := needGensMin_spec g s h hd'
  rcases Bool.eq_false_or_eq_true (needGensMin g s).1 with hr | hr
  · simp only [hr, ite_true]; exact swapGens_inv g _ h1 (h3 hr) (by rw [h2.dim]; exact hd')
  · simp only [hr, Bool.false_eq_true, ite_false]
    exact (insertGens_spec g _ h1 (h4 hr)).1

end PPLV.PolyStatus

import PPLV.PolyStatus.Step
import PPLV.PolyStatus.SimpAttr
import Mathlib.Tactic.CasesM
/-!
# C01 stage 2 — proofs: vocabulary

`Frame L s t`: the object `t` is `s` except for the Boolean components listed in `L` (same dimension, topology
and counter of set changes); `SameSet s t`: the ghost "the set is empty" is the same too.  The simp set `pst` unfolds the readable accessors, the flag /
system primitives of `State.lean` (to chains of `set`) and the invariant (to its Boolean formula).
-/
namespace PPLV.PolyStatus
open PState

attribute [pst] PState.em PState.cup PState.gup PState.cmin PState.gmin PState.satc PState.satg PState.cpend PState.gpend
  PState.csS PState.gsS PState.emp PState.vC PState.vG PState.dd PState.mC PState.mG PState.vSC PState.vSG PState.rC PState.rG
  PState.pC PState.pG
attribute [pst] PState.ze PState.stClear PState.stSetEmpty PState.stSetZeroDimUniv PState.clearEmpty
  PState.setConstraintsUpToDate PState.setGeneratorsUpToDate PState.setConstraintsMinimized PState.setGeneratorsMinimized
  PState.setConstraintsPending PState.setGeneratorsPending PState.setSatCUpToDate PState.setSatGUpToDate
  PState.clearConstraintsMinimized PState.clearGeneratorsMinimized PState.clearPendingConstraints
  PState.clearPendingGenerators PState.clearSatCUpToDate PState.clearSatGUpToDate PState.clearConstraintsUpToDate
  PState.clearGeneratorsUpToDate PState.hasSomethingPending PState.canHaveSomethingPending
  PState.conClear PState.genClear PState.satCFromSatG PState.satGFromSatC PState.satCCompute PState.satGCompute
  PState.conSortRows PState.genSortRows PState.conSortWithSatG PState.genSortWithSatC PState.conSetSorted PState.genSetSorted
  PState.conUnsetPending PState.genUnsetPending PState.conSortPending PState.genSortPending
  PState.conInsertPending PState.genInsertPending PState.conInsert PState.genInsert PState.conRewrite PState.genRewrite
  PState.setChanges
  PState.b_set PState.dim_set PState.ver_set PState.nnc_set PState.b_setDim PState.dim_setDim PState.ver_setDim PState.nnc_setDim
  PState.b_setVer PState.dim_setVer PState.ver_setVer PState.nnc_setVer PState.b_bump PState.dim_bump PState.ver_bump PState.nnc_bump
attribute [pst] setEmpty setZeroDimUniv updateSatC updateSatG
attribute [pst] Inv PState.invB PState.statusOK PState.polyOK PState.semOK

/-- all components outside `L` unchanged; dimension, topology and ghost counter unchanged. -/
structure Frame (L : List Fld) (s t : PState) : Prop where
  b : ∀ f, f ∉ L → t.b f = s.b f
  dim : t.dim = s.dim
  nnc : t.nnc = s.nnc
  ver : t.ver = s.ver

theorem Frame.refl (L : List Fld) (s : PState) : Frame L s s := ⟨fun _ _ => rfl, rfl, rfl, rfl⟩

theorem Frame.trans {L : List Fld} {s t u : PState} (h1 : Frame L s t) (h2 : Frame L t u) : Frame L s u :=
  ⟨fun f hf => (h2.b f hf).trans (h1.b f hf), h2.dim.trans h1.dim, h2.nnc.trans h1.nnc, h2.ver.trans h1.ver⟩

theorem Frame.mono {L M : List Fld} {s t : PState} (h : Frame L s t) (hsub : ∀ f, f ∈ L → f ∈ M) : Frame M s t :=
  ⟨fun f hf => h.b f (fun hm => hf (hsub f hm)), h.dim, h.nnc, h.ver⟩

/-- the status bits -/
def statusFlds : List Fld := [.em, .cup, .gup, .cmin, .gmin, .satc, .satg, .cpend, .gpend]

/-- everything an observer may touch: all but the ghost "the set is empty". -/
def lazyFlds : List Fld :=
  [.em, .cup, .gup, .cmin, .gmin, .satc, .satg, .cpend, .gpend, .csS, .gsS, .vC, .vG, .dd, .mC, .mG, .vSC, .vSG,
   .rC, .rG, .pC, .pG]

/-- `t` is a lazy re-representation of `s`: same set (`emp`, `ver`), same dimension and topology. -/
abbrev SameSet (s t : PState) : Prop := Frame lazyFlds s t

theorem SameSet.of {s t : PState} (he : t.b .emp = s.b .emp) (hd : t.dim = s.dim) (hn : t.nnc = s.nnc)
    (hv : t.ver = s.ver) : SameSet s t :=
  ⟨fun f hf => by cases f <;> first | exact he | exact absurd (by decide) hf, hd, hn, hv⟩

theorem SameSet.emp {s t : PState} (h : SameSet s t) : t.b .emp = s.b .emp := h.b .emp (by decide)

end PPLV.PolyStatus

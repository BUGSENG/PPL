import PPLV.PolyStatus.MinimizeSpecs
import PPLV.PolyStatus.Steps
/-!
# C01 stage 2 — proofs: `affine_image` and `affine_preimage` keep the invariant
-/
namespace PPLV.PolyStatus
open PState

/-- `affine_image`, invertible case. -/
theorem affineImageInv_inv (g : Gh) (s : PState) (h : Inv s) (he : s.b .em = false) :
    Inv (let s := setChanges false s
         let s := if s.gup then genRewrite g.keep s else s
         let s := if s.cup then conRewrite g.aux s else s
         s.set .vC (s.cup && s.vC) |>.set .vG (s.gup && s.vG) |>.set .dd (s.cup && s.gup && s.dd)
           |>.set .vSC (s.cup && s.gup && s.vSC) |>.set .vSG (s.cup && s.gup && s.vSG)) := by
  spec_tac [s.b .cup, s.b .gup] using []

/-- `affine_image`, non-invertible case, after the generators were asked for: `r` is marked empty or has
them. -/
theorem affineImageTail_inv (g : Gh) (r : PState)
    (hk : Inv r ∧ (r.b .em = false → GensReady r ∧ r.b .gpend = false)) :
    Inv (if !r.em then
           (let s := genRewrite g.keep (setChanges false r)
            let s := s.set .vC false |>.set .dd false |>.set .mG false |>.set .vSC false |>.set .vSG false
            clearSatGUpToDate (clearSatCUpToDate (clearGeneratorsMinimized (clearConstraintsUpToDate s))))
         else r) := by
  obtain ⟨h, hk⟩ := hk
  rcases Bool.eq_false_or_eq_true (r.b .em) with he | he
  · simp only [PState.em, he, Bool.not_true, Bool.false_eq_true, ite_false]; exact h
  · obtain ⟨hr, hgp⟩ := hk he
    spec_tac [] using []

/-- `affine_image(var, expr, d)`. -/
theorem affineImage_inv (f : Facts) : InvStep (fun g s => affineImage g f s) := by
  intro g s h
  show Inv (affineImage g f s)
  unfold affineImage
  split
  · exact h
  next hd0 =>
  have hd' : s.dim ≠ 0 := by simpa using hd0
  split
  · exact h
  next he =>
  have he' : s.b .em = false := by simpa using he
  split
  · exact affineImageInv_inv g s h he'
  · refine affineImageTail_inv g _ ?_
    split
    · next hp =>
      obtain ⟨h1, _, h3, h4⟩ := removePendingToObtainGenerators_spec g s h hp
      refine ⟨h1, fun hre => ?_⟩
      rcases Bool.eq_false_or_eq_true (removePendingToObtainGenerators g s).1 with hr | hr
      · exact h3 hr
      · rw [h4 hr] at hre; exact absurd hre (by simp)
    next hp =>
    split
    · next hg =>
      obtain ⟨h1, _, h3, h4⟩ := minimize_spec g s h
      refine ⟨h1, fun hre => ?_⟩
      rcases Bool.eq_false_or_eq_true (minimize g s).1 with hr | hr
      · exact ⟨((h3 hr).2 hd').gensReady, ((h3 hr).2 hd').gpend⟩
      · rw [h4 hr] at hre; exact absurd hre (by simp)
    · next hg =>
      have hpp : s.b .cpend = false ∧ s.b .gpend = false := by simpa [hasSomethingPending] using hp
      exact ⟨h, fun _ => ⟨⟨he', by simpa using hg, hpp.1⟩, hpp.2⟩⟩

/-- `affine_preimage`, non-invertible case, after the constraints were obtained. -/
theorem affinePreimageTail_inv (g : Gh) (s : PState) (hk : Inv s ∧ ConsReady s ∧ s.b .cpend = false) :
    Inv (let s := conRewrite g.keep (setChanges g.be s)
         let s := s.set .vG false |>.set .dd false |>.set .mC false |>.set .vSC false |>.set .vSG false
         clearSatGUpToDate (clearSatCUpToDate (clearConstraintsMinimized (clearGeneratorsUpToDate s)))) := by
  obtain ⟨h, hr, hcp⟩ := hk
  spec_tac [] using []

theorem affinePreimageInv_inv (g : Gh) (s : PState) (h : Inv s) (he : s.b .em = false) :
    Inv (let s := setChanges false s
         let s := if s.cup then conRewrite g.aux s else s
         let s := if s.gup then genRewrite g.keep s else s
         s.set .vC (s.cup && s.vC) |>.set .vG (s.gup && s.vG) |>.set .dd (s.cup && s.gup && s.dd)
           |>.set .vSC (s.cup && s.gup && s.vSC) |>.set .vSG (s.cup && s.gup && s.vSG)) := by
  spec_tac [s.b .cup, s.b .gup] using []

/-- `affine_preimage(var, expr, d)`. -/
theorem affinePreimage_inv (f : Facts) : InvStep (fun g s => affinePreimage g f s) := by
  intro g s h
  show Inv (affinePreimage g f s)
  unfold affinePreimage
  split
  · exact h
  next hd0 =>
  have hd' : s.dim ≠ 0 := by simpa using hd0
  split
  · exact h
  next he =>
  have he' : s.b .em = false := by simpa using he
  split
  · exact affinePreimageInv_inv g s h he'
  · refine affinePreimageTail_inv g _ ?_
    split
    · next hp =>
      obtain ⟨h1, _, h3, h4⟩ := removePendingToObtainConstraints_spec g s h hp
      exact ⟨h1, h3, h4⟩
    next hp =>
    have hpp : s.b .cpend = false ∧ s.b .gpend = false := by simpa [hasSomethingPending] using hp
    split
    · next hc =>
      obtain ⟨h1, h2, h3, h4⟩ := minimize_spec g s h
      rcases Bool.eq_false_or_eq_true (minimize g s).1 with hr | hr
      · exact ⟨h1, ((h3 hr).2 hd').consReady, ((h3 hr).2 hd').cpend⟩
      · -- generators are up to date (the constraints are not): `minimize` cannot find the set empty
        have := h.gup_nonempty (h.of_not_cup he' hd' (by simpa using hc)).1 hpp.1
        rw [minimize_false_emp g s h hr] at this; exact absurd this (by simp)
    · next hc => exact ⟨h, ⟨he', by simpa using hc, hpp.2⟩, hpp.1⟩

end PPLV.PolyStatus

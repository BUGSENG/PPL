import PPLV.PolyStatus.MinimizeSpecs
import PPLV.PolyStatus.Steps
/-!
# C01 stage 2 — proofs: observers on one object keep the invariant and the set
-/
namespace PPLV.PolyStatus
open PState

theorem smcTail_obs (g : Gh) (s : PState) (h : Inv s) (hm : s.dim ≠ 0 → Minimized s) : Obs s (smcTail g s) := by
  by_cases hd : s.dim = 0
  · have e : smcTail g s = s := by simp [smcTail, hd]
    rw [e]; exact Obs.refl h
  · have hm' := hm hd
    have k : Inv (smcTail g s) ∧ SameSet s (smcTail g s) := by
      spec_tac [g.chg, s.b .satg] using [smcTail]
    exact ⟨k.1, k.2⟩

theorem smgTail_obs (g : Gh) (s : PState) (h : Inv s) (hm : s.dim ≠ 0 → Minimized s) : Obs s (smgTail g s) := by
  by_cases hd : s.dim = 0
  · have e : smgTail g s = s := by simp [smgTail, hd]
    rw [e]; exact Obs.refl h
  · have hm' := hm hd
    have k : Inv (smgTail g s) ∧ SameSet s (smgTail g s) := by
      spec_tac [g.chg, s.b .satc] using [smgTail]
    exact ⟨k.1, k.2⟩

theorem minimize_obs (g : Gh) (s : PState) (h : Inv s) : Obs s (minimize g s).2 :=
  ⟨(minimize_spec g s h).1, (minimize_spec g s h).2.1⟩

theorem isEmpty_obs (g : Gh) (s : PState) (h : Inv s) : Obs s (isEmpty g s).2 :=
  ⟨(isEmpty_spec g s h).1, (isEmpty_spec g s h).2.1⟩

/-- `minimize()`, then (unless the object was found empty) a tail that keeps the set of a minimised object:
the shape of `strongly_minimize_constraints()` and `strongly_minimize_generators()`. -/
theorem minimizeThen_obs (tail : Gh → PState → PState)
    (ht : ∀ g s, Inv s → (s.dim ≠ 0 → Minimized s) → Obs s (tail g s))
    (g : Gh) (s : PState) (h : Inv s) :
    Obs s (let r := minimize g s; if !r.1 then (false, r.2) else (true, tail g r.2)).2 := by
  obtain ⟨h1, h2, h3, _⟩ := minimize_spec g s h
  rcases Bool.eq_false_or_eq_true (minimize g s).1 with hr | hr
  · simp only [hr, Bool.not_true, Bool.false_eq_true, ite_false]
    exact Obs.trans ⟨h1, h2⟩ (ht g _ h1 (fun hd => (h3 hr).2 (by rw [← h2.dim]; exact hd)))
  · simp only [hr, Bool.not_false, ite_true]; exact ⟨h1, h2⟩

theorem stronglyMinimizeConstraints_obs (g : Gh) (s : PState) (h : Inv s) :
    Obs s (stronglyMinimizeConstraints g s).2 :=
  minimizeThen_obs smcTail smcTail_obs g s h

theorem stronglyMinimizeGenerators_obs (g : Gh) (s : PState) (h : Inv s) :
    Obs s (stronglyMinimizeGenerators g s).2 :=
  minimizeThen_obs smgTail smgTail_obs g s h

theorem needCons_obs (g : Gh) (s : PState) (h : Inv s) (he : s.b .em = false) (hd : s.dim ≠ 0) :
    Obs s (needCons g s) := ⟨(needCons_spec g s h he hd).1, (needCons_spec g s h he hd).2.1⟩

theorem needGens_obs (g : Gh) (s : PState) (h : Inv s) (he : s.b .em = false) (hd : s.dim ≠ 0) :
    Obs s (needGens g s).2 := ⟨(needGens_spec g s h he hd).1, (needGens_spec g s h he hd).2.1⟩

/-- on an object marked empty, `constraints()` / `generators()` touch only the sortedness of a (cleared) system. -/
theorem setSorted_obs (s : PState) (h : Inv s) (he : s.b .em = true) :
    Obs s (s.set .csS true |>.set .rC true) ∧ Obs s (s.set .gsS true |>.set .rG true) := by
  refine ⟨⟨?_, ?_⟩, ⟨?_, ?_⟩⟩ <;> spec_tac [] using []

/-- `constraints()`. -/
theorem constraints_obs (g : Gh) (s : PState) (h : Inv s) : Obs s (constraints g s) := by
  rcases Bool.eq_false_or_eq_true (s.b .em) with he | he
  · have e : constraints g s = (s.set .csS true |>.set .rC true) := by simp [constraints, he]
    rw [e]; exact (setSorted_obs s h he).1
  rcases Nat.eq_zero_or_pos s.dim with hd | hd
  · have e : constraints g s = s := by simp [constraints, he, hd]
    rw [e]; exact Obs.refl h
  · have e : constraints g s = needCons g s := by
      have : ¬ s.dim = 0 := by omega
      simp [constraints, he, this]
    rw [e]; exact needCons_obs g s h he (by omega)

/-- `generators()`. -/
theorem generators_obs (g : Gh) (s : PState) (h : Inv s) : Obs s (generators g s) := by
  rcases Bool.eq_false_or_eq_true (s.b .em) with he | he
  · have e : generators g s = (s.set .gsS true |>.set .rG true) := by simp [generators, he]
    rw [e]; exact (setSorted_obs s h he).2
  rcases Nat.eq_zero_or_pos s.dim with hd | hd
  · have e : generators g s = s := by simp [generators, he, hd]
    rw [e]; exact Obs.refl h
  · have hd' : ¬ s.dim = 0 := by omega
    obtain ⟨h1, h2, h3, h4⟩ := needGens_spec g s h he hd'
    rcases Bool.eq_false_or_eq_true (needGens g s).1 with hr | hr
    · have e : generators g s = ((needGens g s).2.set .gsS true |>.set .rG true) := by
        simp [generators, he, hd', hr]
      rw [e]; exact Obs.trans ⟨h1, h2⟩ (setSorted_obs _ h1 (h3 hr)).2
    · have hr' := h4 hr
      rcases Bool.eq_false_or_eq_true ((needGens g s).2.nnc && (needGens g s).2.b .gmin && !(needGens g s).2.b .gpend) with hq | hq
      · have e : generators g s = obtainSortedGenerators (needGens g s).2 := by
          simp [generators, he, hd', hr]
          simp at hq
          simp [hq]
        rw [e]
        obtain ⟨k1, _, k3⟩ := osg_spec (needGens g s).2 h1 hr'.gup hr'.em
        exact Obs.trans ⟨h1, h2⟩ ⟨k1, k3.mono satFlds_sub⟩
      · have e : generators g s = (needGens g s).2 := by
          simp [generators, he, hd', hr]
          intro a b c
          simp [a, b, c] at hq
        rw [e]; exact ⟨h1, h2⟩

/-- the first step of `minimized_constraints()` / `minimized_generators()`: `minimize()`, or its strong variant
for an NNC polyhedron. -/
theorem minimizeOr_obs (strong : Gh → PState → Bool × PState) (hs : ∀ g s, Inv s → Obs s (strong g s).2) :
    ObsStep (fun g s => if !s.nnc then (minimize g s).2 else (strong g s).2) := by
  intro g s h
  show Obs s (if !s.nnc then (minimize g s).2 else (strong g s).2)
  split
  · exact minimize_obs g s h
  · exact hs g s h

theorem minimizeOrStrongC_obs :
    ObsStep (fun g s => if !s.nnc then (minimize g s).2 else (stronglyMinimizeConstraints g s).2) :=
  minimizeOr_obs _ stronglyMinimizeConstraints_obs

theorem minimizeOrStrongG_obs :
    ObsStep (fun g s => if !s.nnc then (minimize g s).2 else (stronglyMinimizeGenerators g s).2) :=
  minimizeOr_obs _ stronglyMinimizeGenerators_obs

theorem constraints_obsStep : ObsStep constraints := fun g s h => constraints_obs g s h
theorem generators_obsStep : ObsStep generators := fun g s h => generators_obs g s h
theorem isEmpty_obsStep : ObsStep (fun g s => (isEmpty g s).2) := fun g s h => isEmpty_obs g s h

/-- `relation_with(c)`, `relation_with(cg)`. -/
theorem relationWithCon_obsStep : ObsStep relationWithCon := by
  intro g s h
  unfold relationWithCon
  split
  · exact Obs.refl h
  split
  · exact Obs.refl h
  · next he hd => exact needGens_obs g s h (by simpa using he) (by simpa using hd)

/-- `is_bounded()`, `bounds()`, `max_min()`. -/
theorem isBounded_obsStep : ObsStep isBounded := by
  intro g s h
  unfold isBounded
  split
  · exact Obs.refl h
  split
  · exact Obs.refl h
  · next hd he => exact needGens_obs g s h (by simpa using he) (by simpa using hd)

/-- `is_universe()`. -/
theorem isUniverse_obsStep : ObsStep isUniverse := by
  intro g s h
  unfold isUniverse
  split
  · exact Obs.refl h
  split
  · exact Obs.refl h
  split
  · exact Obs.refl h
  split
  · exact Obs.refl h
  split
  · next _ _ _ _ hg => obtain ⟨h1, h2, _⟩ := ppg_spec g s h hg; exact ⟨h1, h2⟩
  split
  · exact minimize_obs g s h
  · exact Obs.refl h

/-- `constrains(var)`. -/
theorem constrains_obsStep : ObsStep constrains := by
  intro g s h
  unfold constrains
  split
  · exact Obs.refl h
  split
  · next he hg =>
    split
    · exact Obs.refl h
    split
    · exact Obs.refl h
    · have he' : s.b .em = false := by simpa using he
      have hg' : s.b .gup = true := by simp at hg; exact hg.1
      exact needCons_obs g s h he' (h.live_of_up (.inr hg')).2
  · exact minimize_obs g s h

/-- `is_topologically_closed()`. -/
theorem isTopologicallyClosed_obsStep : ObsStep isTopologicallyClosed := by
  intro g s h
  unfold isTopologicallyClosed
  split
  · exact Obs.refl h
  split
  · exact Obs.refl h
  split
  · exact Obs.refl h
  rcases Bool.eq_false_or_eq_true s.hasSomethingPending with hp | hp
  · obtain ⟨h1, h2, h3, h4⟩ := processPending_spec g s h hp
    simp only [hp, ite_true]
    rcases Bool.eq_false_or_eq_true (processPending g s).1 with hr | hr
    · simp only [hr, Bool.not_true, Bool.false_eq_true, ite_false]
      split
      · exact ⟨h1, h2⟩
      · exact Obs.trans ⟨h1, h2⟩ (stronglyMinimizeConstraints_obs g _ h1)
    · simp only [hr, Bool.not_false, ite_true]; exact ⟨h1, h2⟩
  · simp only [hp, Bool.false_eq_true, ite_false, Bool.not_true]
    split
    · exact Obs.refl h
    · exact stronglyMinimizeConstraints_obs g s h

/-- `relation_with(g)`, second half. -/
theorem relationWithGenTail_obs : ObsStep (unlessEm fun g s => if s.dim == 0 then s else needCons g s) := by
  apply unlessEm_obs
  intro g s h he
  show Obs s (if s.dim == 0 then s else needCons g s)
  split
  · exact Obs.refl h
  · next hd => exact needCons_obs g s h he (by simpa using hd)

end PPLV.PolyStatus

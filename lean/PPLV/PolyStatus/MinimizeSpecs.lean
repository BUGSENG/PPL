import PPLV.PolyStatus.HelperSpecs
/-!
# C01 stage 2 — proofs: `minimize`, `is_empty`, the "need constraints / generators" idioms
-/
namespace PPLV.PolyStatus
open PState

theorem Minimized.of_flags {s : PState} (he : s.b .em = false) (h1 : s.b .cup = true) (h2 : s.b .gup = true)
    (h3 : s.b .cmin = true) (h4 : s.b .gmin = true) (h5 : s.b .cpend = false) (h6 : s.b .gpend = false) :
    Minimized s := ⟨he, h1, h2, h3, h4, h5, h6⟩

/-- with pending rows, `Status::OK()` and `Polyhedron::OK()` leave one shape of status word. -/
theorem Inv.pend_facts {s : PState} (h : Inv s) (hp : s.b .cpend = true ∨ s.b .gpend = true) :
    s.b .em = false ∧ s.dim ≠ 0 ∧ s.b .cup = true ∧ s.b .gup = true ∧ s.b .cmin = true ∧ s.b .gmin = true := by
  inv_facts

theorem Inv.cpend_gpend {s : PState} (h : Inv s) (hp : s.b .cpend = true) : s.b .gpend = false := by
  inv_facts

/-- `process_pending()`. -/
theorem processPending_spec (g : Gh) (s : PState) (h : Inv s) (hp : s.hasSomethingPending = true) :
    Inv (processPending g s).2 ∧ SameSet s (processPending g s).2
    ∧ ((processPending g s).1 = true → Minimized (processPending g s).2)
    ∧ ((processPending g s).1 = false → (processPending g s).2.b .em = true) := by
  unfold processPending
  rcases Bool.eq_false_or_eq_true (s.b .cpend) with hc | hc
  · simp only [PState.cpend, hc, ite_true]; exact ppc_spec g s h hc
  · have hg : s.b .gpend = true := by simpa [hasSomethingPending, PState.cpend, PState.gpend, hc] using hp
    simp only [PState.cpend, hc]
    obtain ⟨h1, h2, h3⟩ := ppg_spec g s h hg
    exact ⟨h1, h2, fun _ => h3, fun hf => by simp at hf⟩

/-- `minimize()`. -/
theorem minimize_spec (g : Gh) (s : PState) (h : Inv s) :
    Inv (minimize g s).2 ∧ SameSet s (minimize g s).2
    ∧ ((minimize g s).1 = true → (minimize g s).2.b .em = false ∧ (s.dim ≠ 0 → Minimized (minimize g s).2))
    ∧ ((minimize g s).1 = false → (minimize g s).2.b .em = true) := by
  unfold minimize
  split
  · next he => exact ⟨h, Frame.refl _ _, fun hf => by simp at hf, fun _ => he⟩
  next he =>
  have he' : s.b .em = false := by simpa using he
  split
  · next hd => exact ⟨h, Frame.refl _ _, fun _ => ⟨he', fun hd' => absurd (by simpa using hd) hd'⟩, fun hf => by simp at hf⟩
  next hd =>
  have hd' : s.dim ≠ 0 := by simpa using hd
  split
  · next hp =>
    obtain ⟨h1, h2, h3, h4⟩ := processPending_spec g s h hp
    exact ⟨h1, h2, fun hr => ⟨(h3 hr).em, fun _ => h3 hr⟩, h4⟩
  next hp =>
  have hpp : s.b .cpend = false ∧ s.b .gpend = false := by simpa [hasSomethingPending] using hp
  split
  · next hm =>
    have hmm : s.b .cmin = true ∧ s.b .gmin = true := by simpa using hm
    exact ⟨h, Frame.refl _ _, fun _ => ⟨he', fun _ => ⟨he', h.cmin_cup he' hmm.1, h.gmin_gup he' hmm.2, hmm.1, hmm.2,
      hpp.1, hpp.2⟩⟩, fun hf => by simp at hf⟩
  split
  · next hc =>
    obtain ⟨h1, h2, h3, h4⟩ := updateGenerators_spec g s h he' hd' hc hpp.1 hpp.2
    exact ⟨h1, h2, fun hr => ⟨(h3 hr).em, fun _ => h3 hr⟩, h4⟩
  · next hc =>
    obtain ⟨h1, h2, h3⟩ := updateConstraints_spec g s h he' hd' (h.of_not_cup he' hd' (by simpa using hc)).1 hpp.1 hpp.2
    exact ⟨h1, h2, fun _ => ⟨h3.em, fun _ => h3⟩, fun hf => by simp at hf⟩

/-- `minimize()` finds a polyhedron empty only if its set is empty. -/
theorem minimize_false_emp (g : Gh) (s : PState) (h : Inv s) (hr : (minimize g s).1 = false) : s.b .emp = true := by
  obtain ⟨h1, h2, _, h4⟩ := minimize_spec g s h
  rw [← h2.emp]; exact h1.em_emp (h4 hr)

/-- `is_empty()`: the answer is the `EM` flag afterwards. -/
theorem isEmpty_spec (g : Gh) (s : PState) (h : Inv s) :
    Inv (isEmpty g s).2 ∧ SameSet s (isEmpty g s).2 ∧ (isEmpty g s).1 = (isEmpty g s).2.b .em := by
  unfold isEmpty
  split
  · next he => exact ⟨h, Frame.refl _ _, by simpa using he.symm⟩
  split
  · next he hg =>
    refine ⟨h, Frame.refl _ _, ?_⟩
    have : s.b .em = false := by simpa using he
    simp [this]
  · next he hg =>
    obtain ⟨h1, h2, h3, h4⟩ := minimize_spec g s h
    refine ⟨h1, h2, ?_⟩
    rcases Bool.eq_false_or_eq_true (minimize g s).1 with hr | hr
    · simp [hr, (h3 hr).1]
    · simp [hr, h4 hr]

theorem Minimized.consReady {t : PState} (h : Minimized t) : ConsReady t := ⟨h.em, h.cup, h.gpend⟩
theorem Minimized.gensReady {t : PState} (h : Minimized t) : GensReady t := ⟨h.em, h.gup, h.cpend⟩

/-- "the constraints are required". -/
theorem needCons_spec (g : Gh) (s : PState) (h : Inv s) (he : s.b .em = false) (hd : s.dim ≠ 0) :
    Inv (needCons g s) ∧ SameSet s (needCons g s) ∧ ConsReady (needCons g s) := by
  unfold needCons
  split
  · next hg =>
    obtain ⟨h1, h2, h3⟩ := ppg_spec g s h hg
    exact ⟨h1, h2, h3.consReady⟩
  split
  · next hg hc =>
    have hg' : s.b .gpend = false := by simpa using hg
    obtain ⟨hgu, hcp, _⟩ := h.of_not_cup he hd (by simpa using hc)
    obtain ⟨h1, h2, h3⟩ := updateConstraints_spec g s h he hd hgu hcp hg'
    exact ⟨h1, h2, h3.consReady⟩
  · next hg hc =>
    exact ⟨h, Frame.refl _ _, ⟨he, by simpa using hc, by simpa using hg⟩⟩

/-- The tail shared by the three "generators are required" idioms once pending rows were dealt with (`r`):
found empty, or (dead code after a successful `process_pending_*`) generators recomputed by `q`, or ready. -/
theorem afterPending_spec {Q : PState → Prop} (s : PState) (r : Bool × PState) (q : PState → Bool × PState)
    (h1 : Inv r.2) (h2 : SameSet s r.2) (h3 : r.1 = true → r.2.b .gup = true ∧ Q r.2)
    (h4 : r.1 = false → r.2.b .em = true) :
    let t := if !r.1 then (true, r.2) else if !r.2.gup then (let p := q r.2; (!p.1, p.2)) else (false, r.2)
    Inv t.2 ∧ SameSet s t.2 ∧ (t.1 = true → t.2.b .em = true) ∧ (t.1 = false → Q t.2) := by
  rcases Bool.eq_false_or_eq_true r.1 with hr | hr
  · simpa [hr, (h3 hr).1] using ⟨h1, h2, (h3 hr).2⟩
  · simpa [hr] using ⟨h1, h2, h4 hr⟩

/-- The same idioms when nothing is pending and the generators are not up to date: `p` is what recomputing them
gave, and the idiom answers "found empty" when `p` answers `false`. -/
theorem recomputed_spec {Q : PState → Prop} (s : PState) (p : Bool × PState) (h1 : Inv p.2) (h2 : SameSet s p.2)
    (h3 : p.1 = true → Q p.2) (h4 : p.1 = false → p.2.b .em = true) :
    Inv (!p.1, p.2).2 ∧ SameSet s (!p.1, p.2).2 ∧ ((!p.1, p.2).1 = true → (!p.1, p.2).2.b .em = true)
    ∧ ((!p.1, p.2).1 = false → Q (!p.1, p.2).2) :=
  ⟨h1, h2, fun hr => h4 (by simpa using hr), fun hr => h3 (by simpa using hr)⟩

/-- "the generators are required"; the Boolean is "found empty". -/
theorem needGens_spec (g : Gh) (s : PState) (h : Inv s) (he : s.b .em = false) (hd : s.dim ≠ 0) :
    Inv (needGens g s).2 ∧ SameSet s (needGens g s).2
    ∧ ((needGens g s).1 = true → (needGens g s).2.b .em = true)
    ∧ ((needGens g s).1 = false → GensReady (needGens g s).2) := by
  unfold needGens
  split
  · next hc =>
    obtain ⟨h1, h2, h3, h4⟩ := ppc_spec g s h hc
    exact afterPending_spec s _ _ h1 h2 (fun hr => ⟨(h3 hr).gup, (h3 hr).gensReady⟩) h4
  next hc =>
  have hc' : s.b .cpend = false := by simpa using hc
  split
  · next hg =>
    obtain ⟨hcu, _, hgp⟩ := h.of_not_gup he hd (by simpa using hg)
    obtain ⟨h1, h2, h3, h4⟩ := updateGenerators_spec g s h he hd hcu hc' hgp
    exact recomputed_spec s _ h1 h2 (fun hr => (h3 hr).gensReady) h4
  · next hg => exact ⟨h, Frame.refl _ _, fun hf => by simp at hf, fun _ => ⟨he, by simpa using hg, hc'⟩⟩

/-- the idiom of `add_recycled_generators`. -/
theorem needGensMin_spec (g : Gh) (s : PState) (h : Inv s) (hd : s.dim ≠ 0) :
    Inv (needGensMin g s).2 ∧ SameSet s (needGensMin g s).2
    ∧ ((needGensMin g s).1 = true → (needGensMin g s).2.b .em = true)
    ∧ ((needGensMin g s).1 = false → GensReady (needGensMin g s).2) := by
  unfold needGensMin
  split
  · next hc =>
    obtain ⟨h1, h2, h3, h4⟩ := ppc_spec g s h hc
    exact afterPending_spec s _ _ h1 h2 (fun hr => ⟨(h3 hr).gup, (h3 hr).gensReady⟩) h4
  next hc =>
  split
  · obtain ⟨h1, h2, h3, h4⟩ := minimize_spec g s h
    exact recomputed_spec s _ h1 h2 (fun hr => ((h3 hr).2 hd).gensReady) h4
  · next hg =>
    have hg' : s.b .gup = true := by simpa using hg
    exact ⟨h, Frame.refl _ _, fun hf => by simp at hf, fun _ => ⟨(h.live_of_up (.inr hg')).1, hg', by simpa using hc⟩⟩

/-- `remove_pending_to_obtain_constraints()`. -/
theorem removePendingToObtainConstraints_spec (g : Gh) (s : PState) (h : Inv s) (hp : s.hasSomethingPending = true) :
    Inv (removePendingToObtainConstraints g s) ∧ SameSet s (removePendingToObtainConstraints g s)
    ∧ ConsReady (removePendingToObtainConstraints g s)
    ∧ (removePendingToObtainConstraints g s).b .cpend = false := by
  rcases Bool.eq_false_or_eq_true (s.b .cpend) with hc | hc
  · spec_tac [s.b .pC] using [removePendingToObtainConstraints]
  · have hg : s.b .gpend = true := by simpa [hasSomethingPending, hc] using hp
    have e : removePendingToObtainConstraints g s = processPendingGenerators g s := by
      simp [removePendingToObtainConstraints, hc]
    rw [e]
    obtain ⟨h1, h2, h3⟩ := ppg_spec g s h hg
    exact ⟨h1, h2, h3.consReady, h3.cpend⟩

/-- `remove_pending_to_obtain_generators()`. -/
theorem removePendingToObtainGenerators_spec (g : Gh) (s : PState) (h : Inv s) (hp : s.hasSomethingPending = true) :
    Inv (removePendingToObtainGenerators g s).2 ∧ SameSet s (removePendingToObtainGenerators g s).2
    ∧ ((removePendingToObtainGenerators g s).1 = true → GensReady (removePendingToObtainGenerators g s).2
        ∧ (removePendingToObtainGenerators g s).2.b .gpend = false)
    ∧ ((removePendingToObtainGenerators g s).1 = false → (removePendingToObtainGenerators g s).2.b .em = true) := by
  rcases Bool.eq_false_or_eq_true (s.b .gpend) with hg | hg
  · spec_tac [s.b .pG] using [removePendingToObtainGenerators]
  · have hc : s.b .cpend = true := by simpa [hasSomethingPending, hg] using hp
    have e : removePendingToObtainGenerators g s = processPendingConstraints g s := by
      simp [removePendingToObtainGenerators, hg]
    rw [e]
    obtain ⟨h1, h2, h3, h4⟩ := ppc_spec g s h hc
    exact ⟨h1, h2, fun hr => ⟨(h3 hr).gensReady, (h3 hr).gpend⟩, h4⟩

/-- "we need updated generators" (pending generators are merged, not processed); the Boolean is "empty". -/
theorem needGensDroppingPending_spec (g : Gh) (s : PState) (h : Inv s) (hd : s.dim ≠ 0) :
    Inv (needGensDroppingPending g s).2 ∧ SameSet s (needGensDroppingPending g s).2
    ∧ ((needGensDroppingPending g s).1 = true → (needGensDroppingPending g s).2.b .em = true)
    ∧ ((needGensDroppingPending g s).1 = false → GensReady (needGensDroppingPending g s).2
        ∧ (needGensDroppingPending g s).2.b .gpend = false) := by
  unfold needGensDroppingPending
  split
  · next he => exact ⟨h, Frame.refl _ _, fun _ => he, fun hf => by simp at hf⟩
  next he =>
  have he' : s.b .em = false := by simpa using he
  split
  · next hp =>
    obtain ⟨h1, h2, h3, h4⟩ := removePendingToObtainGenerators_spec g s h hp
    exact afterPending_spec (Q := fun t => GensReady t ∧ t.b .gpend = false) s _ _ h1 h2
      (fun hr => ⟨(h3 hr).1.gup, h3 hr⟩) h4
  next hp =>
  have hpp : s.b .cpend = false ∧ s.b .gpend = false := by simpa [hasSomethingPending] using hp
  split
  · next hg =>
    obtain ⟨h1, h2, h3, h4⟩ := updateGenerators_spec g s h he' hd (h.of_not_gup he' hd (by simpa using hg)).1 hpp.1 hpp.2
    exact recomputed_spec (Q := fun t => GensReady t ∧ t.b .gpend = false) s _ h1 h2
      (fun hr => ⟨(h3 hr).gensReady, (h3 hr).gpend⟩) h4
  · next hg => exact ⟨h, Frame.refl _ _, fun hf => by simp at hf, fun _ => ⟨⟨he', by simpa using hg, hpp.1⟩, hpp.2⟩⟩

end PPLV.PolyStatus

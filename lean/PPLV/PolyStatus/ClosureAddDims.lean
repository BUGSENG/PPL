import PPLV.PolyStatus.MinimizeSpecs
import PPLV.PolyStatus.Steps
/-!
# C01 stage 2 — proofs: the tail of a strict image, `topological_closure_assign`, adding dimensions
-/
namespace PPLV.PolyStatus
open PState

/-- the end of `generalized_affine_image` for a strict relation symbol. -/
theorem strictImageTail_rewrite_inv (s : PState) (h : Inv s) (he : s.b .em = false)
    (hm : s.dim ≠ 0 → Minimized s) :
    Inv (let s := (setChanges false s).set .gsS false |>.set .rG false |>.set .pG false
                    |>.set .vC false |>.set .dd false |>.set .mG false |>.set .vSC false |>.set .vSG false
         clearSatGUpToDate (clearSatCUpToDate (clearGeneratorsMinimized (clearConstraintsUpToDate s)))) := by
  by_cases hd : s.dim = 0
  · spec_tac [] using []
  · have hm' := hm hd
    spec_tac [] using []

theorem strictImageTail_inv : InvStep (unlessEm strictImageTail) := by
  apply unlessEm_inv
  intro g s h he
  unfold strictImageTail
  obtain ⟨h1, h2, h3, h4⟩ := minimize_spec g s h
  rcases Bool.eq_false_or_eq_true (minimize g s).1 with hr | hr
  · exact strictImageTail_rewrite_inv _ h1 (h3 hr).1 (fun hd => (h3 hr).2 (by rw [← h2.dim]; exact hd))
  · -- found empty: the rewriting touches a cleared generator system
    have hem := h4 hr
    generalize (minimize g s).2 = t at h1 hem
    spec_tac [] using []

/-- the body of `topological_closure_assign()` once pending constraints are processed. -/
theorem closureBody_inv (g : Gh) (s : PState) (h : Inv s) (he : s.b .em = false) (hd : s.dim ≠ 0)
    (hc : s.b .cpend = false) :
    Inv (if !s.gpend && s.cup then
           if g.chg then
             clearConstraintsMinimized (clearGeneratorsUpToDate
               (conSetSorted false (conInsert false (setChanges false s))))
           else s
         else
           let s := genInsertPending (setChanges false s)
           if s.canHaveSomethingPending then setGeneratorsPending s
           else clearGeneratorsMinimized (clearConstraintsUpToDate (genSetSorted false (genUnsetPending s)))) := by
  rcases Bool.eq_false_or_eq_true (!s.b .gpend && s.b .cup) with k | k
  · spec_tac [g.chg] using []
  · spec_tac [s.b .cmin && s.b .gmin && (s.b .satc || s.b .satg)] using []

theorem closureTail_inv : InvStep (unlessEm closureTail) := by
  apply unlessEm_inv
  intro g s h he
  unfold closureTail
  by_cases hd' : s.dim = 0
  · -- zero-dimensional, not marked empty: the status word is ZE, generators are added to an empty system
    have hz := h.ze_of_dim_zero hd' he
    spec_tac [] using []
  rcases Bool.eq_false_or_eq_true (s.b .cpend) with hc | hc
  · obtain ⟨h1, h2, h3, h4⟩ := ppc_spec g s h hc
    simp only [PState.cpend, hc, ite_true]
    rcases Bool.eq_false_or_eq_true (processPendingConstraints g s).1 with hr | hr
    · simp only [hr, Bool.not_true, Bool.false_eq_true, ite_false]
      exact closureBody_inv g _ h1 (h3 hr).em (by rw [h2.dim]; exact hd') (h3 hr).cpend
    · simp only [hr, Bool.not_false, ite_true]; exact h1
  · simp only [PState.cpend, hc, Bool.false_eq_true, ite_false, Bool.not_true]
    exact closureBody_inv g s h he hd' hc

/-- `add_space_dimensions_and_embed(m)`. -/
theorem addSpaceDimensionsAndEmbed_spec (g : Gh) (f : Facts) (s : PState) (h : Inv s) :
    Inv (addSpaceDimensionsAndEmbed g f s) ∧ (addSpaceDimensionsAndEmbed g f s).b .em = s.b .em := by
  unfold addSpaceDimensionsAndEmbed
  split
  · exact ⟨h, rfl⟩
  next hm =>
  have hm' : f.m ≠ 0 := by simpa using hm
  split
  · next he => spec_tac [] using []
  next he =>
  have he' : s.b .em = false := by simpa using he
  split
  · next hd =>
    have hpos : 0 < f.m := by omega
    spec_tac [] using [ctorDegenerate, fresh]
  · next hd =>
    rcases Bool.eq_false_or_eq_true (s.b .cup) with k | k
    · spec_tac [s.b .gup, s.b .satc] using []
    · spec_tac [] using []

theorem addSpaceDimensionsAndEmbed_inv (f : Facts) : InvStep (fun g s => addSpaceDimensionsAndEmbed g f s) :=
  fun g s h => (addSpaceDimensionsAndEmbed_spec g f s h).1

/-- `add_space_dimensions_and_project(m)`. -/
theorem addSpaceDimensionsAndProject_inv (f : Facts) : InvStep (fun g s => addSpaceDimensionsAndProject g f s) := by
  intro g s h
  show Inv (addSpaceDimensionsAndProject g f s)
  unfold addSpaceDimensionsAndProject
  split
  · exact h
  next hm =>
  have hm' : f.m ≠ 0 := by simpa using hm
  split
  · next he => spec_tac [] using []
  next he =>
  have he' : s.b .em = false := by simpa using he
  split
  · next hd => spec_tac [] using []
  · next hd =>
    rcases Bool.eq_false_or_eq_true (s.b .cup) with k | k
    · spec_tac [s.b .gup, s.b .satg] using []
    · spec_tac [] using []

end PPLV.PolyStatus

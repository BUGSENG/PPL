import PPLV.PolyStatus.InvFlags
/-!
# C01 stage 2 — proofs: the steps of a composite method

A composite public method is a list of steps run by `runSteps`, each with its own ghost inputs.  A step is
classified by what it needs and keeps (`ObsStep`, `InvStep`, `EmStep`); a list of classified steps keeps the
invariant (`runSteps_inv`, `runSteps_obs`, `EmSteps.run`).
-/
namespace PPLV.PolyStatus
open PState

/-- an observer's effect: invariant kept, same set. -/
structure Obs (s t : PState) : Prop where
  inv : Inv t
  same : SameSet s t

theorem Obs.refl {s : PState} (h : Inv s) : Obs s s := ⟨h, Frame.refl _ _⟩
theorem Obs.trans {s t u : PState} (h1 : Obs s t) (h2 : Obs t u) : Obs s u := ⟨h2.inv, h1.same.trans h2.same⟩

/-- a step that only re-represents the set. -/
def ObsStep (f : Step) : Prop := ∀ g s, Inv s → Obs s (f g s)
/-- a step that keeps the invariant. -/
def InvStep (f : Step) : Prop := ∀ g s, Inv s → Inv (f g s)
/-- a step that needs, and keeps, "not marked empty". -/
def EmStep (f : Step) : Prop := ∀ g s, Inv s → s.b .em = false → Inv (f g s) ∧ (f g s).b .em = false

theorem ObsStep.invStep {f : Step} (h : ObsStep f) : InvStep f := fun g s hs => (h g s hs).inv

theorem unlessEm_eq (f : Step) (g : Gh) (s : PState) : unlessEm f g s = if s.b .em = true then s else f g s := rfl

theorem unlessEm_obs {f : Step} (hf : ∀ g s, Inv s → s.b .em = false → Obs s (f g s)) : ObsStep (unlessEm f) := by
  intro g s h
  rw [unlessEm_eq]
  split
  · exact Obs.refl h
  · next he => exact hf g s h (by simpa using he)

theorem unlessEm_inv {f : Step} (hf : ∀ g s, Inv s → s.b .em = false → Inv (f g s)) : InvStep (unlessEm f) := by
  intro g s h
  rw [unlessEm_eq]
  split
  · exact h
  · next he => exact hf g s h (by simpa using he)

theorem unlessEm_obsStep {f : Step} (hf : ObsStep f) : ObsStep (unlessEm f) :=
  unlessEm_obs fun g s h _ => hf g s h

/-- every step of the list has the property. -/
inductive All (p : Step → Prop) : List Step → Prop
  | nil : All p []
  | cons {f : Step} {l : List Step} : p f → All p l → All p (f :: l)

theorem All.one {p : Step → Prop} {f : Step} (h : p f) : All p [f] := .cons h .nil

theorem All.append {p : Step → Prop} {l₁ l₂ : List Step} (h₁ : All p l₁) (h₂ : All p l₂) : All p (l₁ ++ l₂) := by
  induction h₁ with
  | nil => exact h₂
  | cons h _ ih => exact .cons h ih

theorem All.mem {p : Step → Prop} {l : List Step} (h : All p l) : ∀ f ∈ l, p f := by
  induction h with
  | nil => intro f hf; cases hf
  | cons h _ ih =>
    intro f hf
    rcases List.mem_cons.1 hf with rfl | hf
    · exact h
    · exact ih f hf

theorem runSteps_cons (f : Step) (fs : List Step) (gs : List Gh) (s : PState) :
    runSteps (f :: fs) gs s = runSteps fs gs.tail (f (gs.headD {}) s) := by
  cases gs <;> rfl

theorem runSteps_inv {l : List Step} (hl : All InvStep l) (gs : List Gh) (s : PState) (h : Inv s) :
    Inv (runSteps l gs s) := by
  induction hl generalizing gs s with
  | nil => exact h
  | cons hf _ ih => rw [runSteps_cons]; exact ih _ _ (hf _ _ h)

theorem runSteps_obs {l : List Step} (hl : All ObsStep l) (gs : List Gh) (s : PState) (h : Inv s) :
    Obs s (runSteps l gs s) := by
  induction hl generalizing gs s with
  | nil => exact Obs.refl h
  | cons hf _ ih => rw [runSteps_cons]; exact (hf _ s h).trans (ih _ _ (hf _ s h).inv)

/-- a list run from a receiver not marked empty: steps that keep this, then one step that needs it, then
unconditional steps. -/
inductive EmSteps : List Step → Prop
  | inv {l : List Step} : All InvStep l → EmSteps l
  | last {f : Step} {l : List Step} : (∀ g s, Inv s → s.b .em = false → Inv (f g s)) → All InvStep l → EmSteps (f :: l)
  | cons {f : Step} {l : List Step} : EmStep f → EmSteps l → EmSteps (f :: l)

theorem EmSteps.run {l : List Step} (hl : EmSteps l) (gs : List Gh) (s : PState) (h : Inv s) (he : s.b .em = false) :
    Inv (runSteps l gs s) := by
  induction hl generalizing gs s with
  | inv hl => exact runSteps_inv hl gs s h
  | last hf hl => rw [runSteps_cons]; exact runSteps_inv hl _ _ (hf _ s h he)
  | cons hf _ ih => rw [runSteps_cons]; exact ih _ _ (hf _ s h he).1 (hf _ s h he).2

end PPLV.PolyStatus

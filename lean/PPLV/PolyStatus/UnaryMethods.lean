import PPLV.PolyStatus.Observers
import PPLV.PolyStatus.AddRows
import PPLV.PolyStatus.AffineImages
import PPLV.PolyStatus.ClosureAddDims
import PPLV.PolyStatus.DropDims
/-!
# C01 stage 2 — proofs: every method on one object keeps the invariant; observers keep the set

The step lists of `Ops.lean`, step by step (`Steps.lean`).
-/
namespace PPLV.PolyStatus
open PState

theorem refineNoCheck_emStep : EmStep (fun g s => refineNoCheck g false s) := fun g s h he =>
  ⟨(refineNoCheck_spec g false s h he).1, (refineNoCheck_spec g false s h he).2.1 rfl⟩

theorem addDimsEmbed_emStep (f : Facts) : EmStep (fun g s => addSpaceDimensionsAndEmbed g f s) := fun g s h he =>
  ⟨(addSpaceDimensionsAndEmbed_spec g f s h).1, by rw [(addSpaceDimensionsAndEmbed_spec g f s h).2]; exact he⟩

theorem swapDims_spec (a b : Bool) (t : PState) (h : Inv t) (he : t.b .em = false) :
    Inv (let s := if t.cup then conRewrite a t else t
         if s.gup then genRewrite b s else s)
    ∧ (let s := if t.cup then conRewrite a t else t
       if s.gup then genRewrite b s else s).b .em = false := by
  spec_tac [t.b .cup, t.b .gup] using []

theorem addDimsSwap_emStep : EmStep (fun g s =>
      let s := addSpaceDimensionsAndEmbed g { m := 1 } s
      let s := if s.cup then conRewrite g.aux s else s
      if s.gup then genRewrite g.fast s else s) := by
  intro g s h he
  obtain ⟨k1, k2⟩ := addSpaceDimensionsAndEmbed_spec g { m := 1 } s h
  exact swapDims_spec g.aux g.fast _ k1 (by rw [k2]; exact he)

theorem isEmpty_invStep : InvStep (fun g s => (isEmpty g s).2) := isEmpty_obsStep.invStep
theorem addGeneratorsUnlessEm_inv : InvStep (unlessEm fun g s => addGenerators g {} s) :=
  unlessEm_inv fun g s h _ => addGenerators_inv {} g s h

theorem generalizedAffineImageSteps_inv (f : Facts) : All InvStep (generalizedAffineImageSteps f) := by
  unfold generalizedAffineImageSteps
  split
  · exact .one (affineImage_inv f)
  · refine .cons (affineImage_inv f) (.cons isEmpty_invStep (.cons (unlessEm_inv fun g s h _ => addGenerator_inv g s h) ?_))
    split
    · exact .one strictImageTail_inv
    · exact .nil

theorem minimizedConstraintsSteps_obs : All ObsStep minimizedConstraintsSteps :=
  .cons minimizeOrStrongC_obs (.one constraints_obsStep)

theorem minimizedGeneratorsSteps_obs : All ObsStep minimizedGeneratorsSteps :=
  .cons minimizeOrStrongG_obs (.one generators_obsStep)

theorem relationWithGenSteps_obs : All ObsStep relationWithGenSteps :=
  .cons isEmpty_obsStep (.one relationWithGenTail_obs)

theorem affineDimensionSteps_obs : All ObsStep affineDimensionSteps :=
  .cons isEmpty_obsStep (.cons (unlessEm_obsStep minimizeOrStrongC_obs) (.one (unlessEm_obsStep constraints_obsStep)))

/-- the tail shared by the "common variable" cases of the two-expression images. -/
theorem commonTail_all : All InvStep [fun g s => (isEmpty g s).2, unlessEm fun g s => addGenerators g {} s,
    unlessEm fun g s => refineNoCheck g false s, dropLastDim] :=
  .cons isEmpty_invStep (.cons addGeneratorsUnlessEm_inv (.cons (refineUnlessEm_inv false) (.one dropLastDim_inv)))

theorem commonTail_inv : ∀ st ∈ [fun g s => (isEmpty g s).2, unlessEm fun g s => addGenerators g {} s,
    unlessEm fun g s => refineNoCheck g false s, dropLastDim], InvStep st :=
  commonTail_all.mem

/-- the "common variable" case of the two-expression images: a dimension is added, the receiver refined,
then the shared tail. -/
theorem commonSteps_em : EmSteps [fun g s => addSpaceDimensionsAndEmbed g { m := 1 } s, fun g s => refineNoCheck g false s,
    fun g s => (isEmpty g s).2, unlessEm fun g s => addGenerators g {} s,
    unlessEm fun g s => refineNoCheck g false s, dropLastDim] :=
  .cons (addDimsEmbed_emStep _) (.cons refineNoCheck_emStep (.inv commonTail_all))

/-- `generalized_affine_image(lhs, relsym, rhs)`. -/
theorem generalizedAffineImage2_inv (f : Facts) (s : PState) (gs : List Gh) (h : Inv s) :
    Inv (runSteps (generalizedAffineImage2Steps f s) gs s) := by
  unfold generalizedAffineImage2Steps
  split
  · exact h
  next he =>
  have he' : s.b .em = false := by simpa using he
  split
  · exact EmSteps.run (.last (fun g s h he => (refineNoCheck_spec g g.be s h he).1) .nil) _ _ h he'
  split
  · exact commonSteps_em.run _ _ h he'
  · exact runSteps_inv (.cons isEmpty_invStep (.cons addGeneratorsUnlessEm_inv (.one (refineUnlessEm_inv false)))) _ _ h

/-- the observers on one object only re-represent the set. -/
theorem apply1_obs (o : Op1) (ho : o.isObserver = true) (gs : List Gh) (f : Facts) (s : PState) (h : Inv s) :
    Obs s (apply1 o gs f s) := by
  unfold apply1
  cases o <;> (try (exact absurd ho (by decide))) <;> simp only [stepsOf]
  case constraints => exact runSteps_obs (.one constraints_obsStep) _ _ h
  case minimizedConstraints => exact runSteps_obs minimizedConstraintsSteps_obs _ _ h
  case generators => exact runSteps_obs (.one generators_obsStep) _ _ h
  case minimizedGenerators => exact runSteps_obs minimizedGeneratorsSteps_obs _ _ h
  case isEmpty => exact runSteps_obs (.one isEmpty_obsStep) _ _ h
  case isUniverse => exact runSteps_obs (.one isUniverse_obsStep) _ _ h
  case isBounded | bounds | maxMin => exact runSteps_obs (.one isBounded_obsStep) _ _ h
  case isTopologicallyClosed => exact runSteps_obs (.one isTopologicallyClosed_obsStep) _ _ h
  case constrains => exact runSteps_obs (.one constrains_obsStep) _ _ h
  case relationWithCon | relationWithCg => exact runSteps_obs (.one relationWithCon_obsStep) _ _ h
  case relationWithGen => exact runSteps_obs relationWithGenSteps_obs _ _ h
  case affineDimension => exact runSteps_obs affineDimensionSteps_obs _ _ h

/-- every method on one object keeps the invariant. -/
theorem apply1_inv (o : Op1) (gs : List Gh) (f : Facts) (s : PState) (h : Inv s) : Inv (apply1 o gs f s) := by
  by_cases ho : o.isObserver = true
  · exact (apply1_obs o ho gs f s h).inv
  unfold apply1
  cases o <;> (try (exact absurd rfl ho)) <;> simp only [stepsOf]
  case addConstraint => exact runSteps_inv (.one (addConstraint_inv f)) _ _ h
  case addConstraints => exact runSteps_inv (.one (addConstraints_inv f)) _ _ h
  case refineWithConstraint => exact runSteps_inv (.one (refineWithConstraint_inv f)) _ _ h
  case refineWithConstraints => exact runSteps_inv (.one (refineWithConstraints_inv f)) _ _ h
  case addGenerator => exact runSteps_inv (.one addGenerator_inv) _ _ h
  case addGenerators => exact runSteps_inv (.one (addGenerators_inv f)) _ _ h
  case unconstrain => exact runSteps_inv (.one unconstrain_inv) _ _ h
  case affineImage => exact runSteps_inv (.one (affineImage_inv f)) _ _ h
  case affinePreimage => exact runSteps_inv (.one (affinePreimage_inv f)) _ _ h
  case generalizedAffineImage => exact runSteps_inv (generalizedAffineImageSteps_inv f) _ _ h
  case generalizedAffinePreimage =>
    split
    · exact h
    next he =>
    unfold generalizedAffinePreimageSteps
    split
    · exact runSteps_inv (.one (affinePreimage_inv f)) _ _ h
    split
    · exact runSteps_inv (generalizedAffineImageSteps_inv f) _ _ h
    · exact EmSteps.run (.cons refineNoCheck_emStep (.inv (.one unconstrain_inv))) _ _ h (by simpa using he)
  case addSpaceDimensionsAndEmbed => exact runSteps_inv (.one (addSpaceDimensionsAndEmbed_inv f)) _ _ h
  case addSpaceDimensionsAndProject => exact runSteps_inv (.one (addSpaceDimensionsAndProject_inv f)) _ _ h
  case removeSpaceDimensions => exact runSteps_inv (.one (removeSpaceDimensions_inv f)) _ _ h
  case removeHigherSpaceDimensions =>
    exact runSteps_inv (.one fun g s h => removeHigherSpaceDimensions_inv g f s h) _ _ h
  case topologicalClosureAssign =>
    split
    · exact h
    · exact runSteps_inv (.cons isEmpty_invStep (.one closureTail_inv)) _ _ h
  case expandSpaceDimension =>
    split
    · exact h
    · exact runSteps_inv (.cons (addSpaceDimensionsAndEmbed_inv f) (.cons constraints_obsStep.invStep
        (.one fun g s h => addConstraints_inv _ g s h))) _ _ h
  case mapSpaceDimensions =>
    unfold mapSpaceDimensionsSteps
    split
    · exact h
    split
    · exact runSteps_inv (.one mapPermute_inv) _ _ h
    · exact runSteps_inv (.cons generators_obsStep.invStep (.one (mapRebuild_inv f))) _ _ h
  case generalizedAffineImage2 => exact generalizedAffineImage2_inv f s gs h
  case generalizedAffinePreimage2 =>
    unfold generalizedAffinePreimage2Steps
    split
    · exact h
    next he =>
    have he' : s.b .em = false := by simpa using he
    split
    · exact generalizedAffineImage2_inv f s gs h
    split
    · exact commonSteps_em.run _ _ h he'
    · exact EmSteps.run (.cons refineNoCheck_emStep (.inv (.cons isEmpty_invStep (.one addGeneratorsUnlessEm_inv))))
        _ _ h he'
  case boundedAffineImage =>
    unfold boundedAffineImageSteps
    split
    · exact h
    next he =>
    split
    · exact runSteps_inv ((generalizedAffineImageSteps_inv _).append (.one (refineUnlessEm_inv false))) _ _ h
    · exact EmSteps.run (.cons (addDimsEmbed_emStep _) (.cons refineNoCheck_emStep (.inv
        ((generalizedAffineImageSteps_inv _).append (.cons (refineUnlessEm_inv false) (.one dropLastDim_inv))))))
        _ _ h (by simpa using he)
  case boundedAffinePreimage =>
    unfold boundedAffinePreimageSteps
    split
    · exact h
    next he =>
    have he' : s.b .em = false := by simpa using he
    split
    · exact EmSteps.run (.cons refineNoCheck_emStep (.cons refineNoCheck_emStep (.inv (.one unconstrain_inv)))) _ _ h he'
    · exact EmSteps.run (.cons addDimsSwap_emStep (.cons refineNoCheck_emStep (.cons refineNoCheck_emStep
        (.inv (.one dropLastDim_inv))))) _ _ h he'

end PPLV.PolyStatus

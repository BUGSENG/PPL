import PPLV.PolyStatus.BinaryMutators
/-!
# C01 stage 2 — proofs: `poly_difference_assign`; every binary method keeps the invariant
-/
namespace PPLV.PolyStatus
open PState Two

theorem diffNew0_inv (x : PState) : Inv (diffNew0 x) ∧ (diffNew0 x).dim = x.dim := by
  spec_tac [] using [diffNew0, fresh]

/-- one iteration of the loop of `poly_difference_assign`. -/
theorem diffIter_inv (gz gn : Gh) (x nw : PState) (hx : Inv x) (he : x.b .em = false) (hn : Inv nw)
    (hd : nw.dim = x.dim) : Inv (diffIter gz gn x nw) ∧ (diffIter gz gn x nw).dim = x.dim := by
  unfold diffIter
  obtain ⟨k1, k2, k3, _⟩ := copyCtor_spec x hx
  obtain ⟨r1, _, r3⟩ := refineNoCheck_spec gz false (copyCtor x) k1 (by rw [k3]; exact he)
  have hz : TwoOK { x := nw, y := refineNoCheck gz false (copyCtor x), al := false } := ⟨hn, by simpa [Two.gy] using r1⟩
  have hdz : ({ x := nw, y := refineNoCheck gz false (copyCtor x), al := false } : Two).gy.dim = nw.dim := by
    simp [Two.gy, r3, k2, hd]
  exact ⟨(polyHullAssign_ok gn gz _ hz hdz).1.x, by rw [(polyHullAssign_ok gn gz _ hz hdz).2]; exact hd⟩

theorem diffLoop_inv (its : List (Gh × Gh)) (x : PState) (hx : Inv x) :
    Inv (diffLoop its x) ∧ (diffLoop its x).dim = x.dim := by
  unfold diffLoop
  split
  · exact diffNew0_inv x
  next he =>
  have he' : x.b .em = false := by simpa using he
  have key : ∀ (l : List (Gh × Gh)) (nw : PState), Inv nw → nw.dim = x.dim →
      Inv (l.foldl (fun nw gg => diffIter gg.1 gg.2 x nw) nw) ∧ (l.foldl (fun nw gg => diffIter gg.1 gg.2 x nw) nw).dim = x.dim := by
    intro l
    induction l with
    | nil => intro nw h1 h2; exact ⟨h1, h2⟩
    | cons a t ih =>
      intro nw h1 h2
      obtain ⟨i1, i2⟩ := diffIter_inv a.1 a.2 x nw hx he' h1 h2
      exact ih _ i1 i2
  exact key its _ (diffNew0_inv x).1 (diffNew0_inv x).2

/-- `poly_difference_assign(y)` up to its loop. -/
theorem diffPre_ok (gx gy : Gh) (q : GhQ) (c : Two) (h : TwoOK c) (hd : c.gy.dim = c.x.dim) :
    TwoOK (diffPre gx gy q c).2 := by
  unfold diffPre
  split
  · exact h
  split
  · exact h
  split
  · show TwoOK (onX (fun x => setEmpty (setChanges true x)) c)
    exact onX_ok _ c h (setEmptyChanged_inv _)
  have o1 : Obs2 c (contains gy gx q c.swap).swap :=
    Obs2.of_swap (contains_obs2 gy gx q c.swap h.swap (by rw [gy_swap, x_swap, hd]))
  simp only
  generalize (contains gy gx q c.swap).swap = c1 at o1
  split
  · show TwoOK (onX (fun x => setEmpty (setChanges true x)) c1)
    exact onX_ok _ _ o1.ok (setEmptyChanged_inv _)
  have o2 : Obs2 c1 (onYb (minimize gy) c1).2 := by
    rw [(onYb_eq _ _).1]; exact onY_obs2 _ c1 o1.ok (minimize_obs gy _ o1.ok.y)
  split
  · exact o2.ok
  have o3 := onX_obs2 (fun x => (minimize gx x).2) _ o2.ok (minimize_obs gx _ o2.ok.x)
  show TwoOK (onY (constraints gy) (onX (fun x => (minimize gx x).2) (onYb (minimize gy) c1).2))
  exact (onY_obs2 (constraints gy) _ o3.ok (constraints_obs gy _ o3.ok.y)).ok

/-- `poly_difference_assign(y)`. -/
theorem polyDifferenceAssign_ok (gx gy : Gh) (q : GhQ) (its : List (Gh × Gh)) (c : Two) (h : TwoOK c)
    (hd : c.gy.dim = c.x.dim) : TwoOK (polyDifferenceAssign gx gy q its c) := by
  unfold polyDifferenceAssign
  have k := diffPre_ok gx gy q c h hd
  simp only
  split
  · exact k
  · exact onX_ok _ _ k (assign_inv _ _ k.x (diffLoop_inv its _ k.x).1)

theorem runSteps2_two (f1 f2 : Step2) (hs : List Gh2) (c : Two) :
    runSteps2 [f1, f2] hs c = f2 (hs.tail.headD {}) (f1 (hs.headD {}) c) := by
  rcases hs with _ | ⟨a, _ | ⟨b, t⟩⟩ <;> rfl

theorem strictlyContains_obs2 (hs : List Gh2) (c : Two) (h : TwoOK c) (hd : c.gy.dim = c.x.dim) :
    Obs2 c (runSteps2 strictlyContainsSteps hs c) := by
  have hall := strictlyContainsSteps_obs2
  unfold strictlyContainsSteps at hall ⊢
  rw [runSteps2_two]
  have o1 := hall _ List.mem_cons_self (hs.headD {}) c h hd
  exact o1.trans (hall _ (List.mem_cons_of_mem _ List.mem_cons_self) _ _ o1.ok (o1.dims hd))

theorem equals_obs2 (hs : List Gh2) (c : Two) (h : TwoOK c) (hd : c.gy.dim = c.x.dim) :
    Obs2 c (runSteps2 equalsSteps hs c) := by
  unfold equalsSteps
  rw [runSteps2_two]
  obtain ⟨o1, m1⟩ := equalsHead_obs2 (hs.headD {}) c h hd
  exact o1.trans (equalsTail_obs2 _ _ m1)

/-- every binary method keeps the invariant of both objects. -/
theorem apply2_ok (o : Op2) (hs : List Gh2) (its : List (Gh × Gh)) (c : Two) (h : TwoOK c)
    (hd : o = .concatenateAssign ∨ c.gy.dim = c.x.dim) : TwoOK (apply2 o hs its c) := by
  unfold apply2
  cases o <;> simp only [steps2Of]
  case polyDifferenceAssign => exact polyDifferenceAssign_ok _ _ _ _ c h (by simpa using hd)
  case concatenateAssign => cases hs <;> exact concatenateAssign_ok _ _ c h
  all_goals have hd' : c.gy.dim = c.x.dim := by simpa using hd
  case contains => cases hs <;> exact (contains_obs2 _ _ _ c h hd').ok
  case isDisjointFrom => cases hs <;> exact (isDisjointFrom_obs2 _ _ c h hd').ok
  case intersectionAssign => cases hs <;> exact intersectionAssign_ok _ _ c h hd'
  case polyHullAssign => cases hs <;> exact (polyHullAssign_ok _ _ c h hd').1
  case timeElapseAssign => cases hs <;> exact timeElapseAssign_ok _ _ c h hd'
  case simplifyUsingContextAssign => cases hs <;> exact simplifyUsingContextAssign_ok _ _ c h
  case assign => cases hs <;> exact assignFromY_ok c h
  case mSwap => cases hs <;> exact mSwap_ok c h
  case strictlyContains => exact (strictlyContains_obs2 hs c h hd').ok
  case equals => exact (equals_obs2 hs c h hd').ok

end PPLV.PolyStatus

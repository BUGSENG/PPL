import PPLV.PolyStatus.Vocabulary
/-!
# C01 stage 2 — proofs: the invariant read flag by flag

`Inv` is a Boolean formula over "the dimension is zero" and the 23 components of the state.  `Flags.OK` says the
same as clauses between single flags (`inv_iff`).  The words of the specifications (`SameSet`, `Minimized`,
`ConsReady`, `GensReady`, `Frame satFlds`) are given as equations between flags as well, so that the specification
of a helper is one statement about the flags of one state, and `spec_tac` proves it from one evaluation of the
helper per path.
-/
namespace PPLV.PolyStatus
open PState

/-- what `Inv` reads of a state. -/
structure Flags where
  (z em cup gup cmin gmin satc satg cpend gpend csS gsS emp vC vG dd mC mG vSC vSG rC rG pC pG : Bool)

def PState.flags (s : PState) : Flags :=
  ⟨s.dim == 0, s.b .em, s.b .cup, s.b .gup, s.b .cmin, s.b .gmin, s.b .satc, s.b .satg, s.b .cpend, s.b .gpend,
   s.b .csS, s.b .gsS, s.b .emp, s.b .vC, s.b .vG, s.b .dd, s.b .mC, s.b .mG, s.b .vSC, s.b .vSG, s.b .rC, s.b .rG,
   s.b .pC, s.b .pG⟩

/-- A legal object is the zero-dimensional universe (`ZE`), or marked empty (and then empty), or has positive
dimension, a description up to date and a status word that passes the table of `Status::OK()`; and every flag set
is backed by the ghost fact it stands for. -/
def Flags.OK (w : Flags) : Prop :=
  ((w.z = true ∧ w.em = false ∧ w.cup = false ∧ w.gup = false ∧ w.cmin = false ∧ w.gmin = false ∧ w.satc = false ∧
      w.satg = false ∧ w.cpend = false ∧ w.gpend = false ∧ w.emp = false) ∨
   (w.em = true ∧ w.cup = false ∧ w.gup = false ∧ w.cmin = false ∧ w.gmin = false ∧ w.satc = false ∧
      w.satg = false ∧ w.cpend = false ∧ w.gpend = false ∧ w.emp = true) ∨
   (w.z = false ∧ w.em = false ∧ (w.cup = true ∨ w.gup = true) ∧
      (w.satc = true ∨ w.satg = true → w.cup = true ∧ w.gup = true) ∧
      (w.cmin = true → w.cup = true) ∧ (w.gmin = true → w.gup = true) ∧ (w.cpend = true → w.gpend = false) ∧
      (w.cpend = true ∨ w.gpend = true → w.cmin = true ∧ w.gmin = true ∧ (w.satc = true ∨ w.satg = true)))) ∧
  (w.gup = true → (w.cpend = true → w.pC = false) → w.emp = false) ∧
  (w.cup = true → w.gpend = false → w.vC = true) ∧ (w.gup = true → w.cpend = false → w.vG = true) ∧
  (w.cpend = true → w.vC = true ∧ w.dd = true) ∧ (w.gpend = true → w.vG = true ∧ w.dd = true) ∧
  (w.cmin = true → w.mC = true) ∧ (w.gmin = true → w.mG = true) ∧
  (w.pC = true → w.cpend = true) ∧ (w.pG = true → w.gpend = true) ∧
  (w.satc = true → w.vSC = true) ∧ (w.satg = true → w.vSG = true) ∧
  (w.csS = true → w.rC = true) ∧ (w.gsS = true → w.rG = true)

theorem inv_iff (s : PState) : Inv s ↔ s.flags.OK := by
  simp only [pst, PState.flags, Flags.OK]
  simp
  grind (splits := 30)

/-- `inv_facts` closes a goal that follows propositionally from the invariant of the states in the context: every
`Inv`, in the hypotheses and in the goal, is replaced by its clauses (`inv_iff`); `grind` does the rest. -/
macro "inv_facts" : tactic => `(tactic| (simp only [inv_iff, PState.flags, Flags.OK] at *; grind))

theorem sameSet_iff {s t : PState} :
    SameSet s t ↔ t.b .emp = s.b .emp ∧ t.dim = s.dim ∧ t.nnc = s.nnc ∧ t.ver = s.ver :=
  ⟨fun h => ⟨h.emp, h.dim, h.nnc, h.ver⟩, fun ⟨a, b, c, d⟩ => .of a b c d⟩

/-- constraints and generators in minimal form, nothing pending. -/
structure Minimized (t : PState) : Prop where
  em : t.b .em = false
  cup : t.b .cup = true
  gup : t.b .gup = true
  cmin : t.b .cmin = true
  gmin : t.b .gmin = true
  cpend : t.b .cpend = false
  gpend : t.b .gpend = false

theorem minimized_iff {t : PState} : Minimized t ↔ t.b .em = false ∧ t.b .cup = true ∧ t.b .gup = true ∧
    t.b .cmin = true ∧ t.b .gmin = true ∧ t.b .cpend = false ∧ t.b .gpend = false :=
  ⟨fun ⟨a, b, c, d, e, f, g⟩ => ⟨a, b, c, d, e, f, g⟩, fun ⟨a, b, c, d, e, f, g⟩ => ⟨a, b, c, d, e, f, g⟩⟩

/-- the constraints (possibly with pending rows) are available. -/
structure ConsReady (t : PState) : Prop where
  em : t.b .em = false
  cup : t.b .cup = true
  gpend : t.b .gpend = false

/-- the generators (possibly with pending rows) are available. -/
structure GensReady (t : PState) : Prop where
  em : t.b .em = false
  gup : t.b .gup = true
  cpend : t.b .cpend = false

theorem consReady_iff {t : PState} : ConsReady t ↔ t.b .em = false ∧ t.b .cup = true ∧ t.b .gpend = false :=
  ⟨fun ⟨a, b, c⟩ => ⟨a, b, c⟩, fun ⟨a, b, c⟩ => ⟨a, b, c⟩⟩
theorem gensReady_iff {t : PState} : GensReady t ↔ t.b .em = false ∧ t.b .gup = true ∧ t.b .cpend = false :=
  ⟨fun ⟨a, b, c⟩ => ⟨a, b, c⟩, fun ⟨a, b, c⟩ => ⟨a, b, c⟩⟩

/-- what sorting a system and recomputing a saturation matrix may touch. -/
def satFlds : List Fld := [.satc, .satg, .csS, .gsS, .vSC, .vSG, .rC, .rG]

theorem satFlds_sub : ∀ f, f ∈ satFlds → f ∈ lazyFlds := by decide

theorem satFrame_iff {s t : PState} : Frame satFlds s t ↔
    (t.b .em = s.b .em ∧ t.b .cup = s.b .cup ∧ t.b .gup = s.b .gup ∧ t.b .cmin = s.b .cmin ∧ t.b .gmin = s.b .gmin ∧
     t.b .cpend = s.b .cpend ∧ t.b .gpend = s.b .gpend ∧ t.b .emp = s.b .emp ∧ t.b .vC = s.b .vC ∧
     t.b .vG = s.b .vG ∧ t.b .dd = s.b .dd ∧ t.b .mC = s.b .mC ∧ t.b .mG = s.b .mG ∧ t.b .pC = s.b .pC ∧
     t.b .pG = s.b .pG) ∧ t.dim = s.dim ∧ t.nnc = s.nnc ∧ t.ver = s.ver := by
  refine ⟨fun h => ⟨?_, h.dim, h.nnc, h.ver⟩, fun ⟨h, d, n, v⟩ => ⟨fun f hf => ?_, d, n, v⟩⟩
  · repeat' constructor
    all_goals exact h.b _ (by decide)
  · cases f <;> first | exact absurd (by decide) hf | simp only [h]

/-- `t` is `s` after a helper that only sorts a system and refreshes a saturation matrix: nothing else is
touched, and the clauses of the invariant about the touched components hold of `t`. -/
def SatStep (s t : PState) : Prop :=
  Frame satFlds s t ∧
  (t.b .satc = true ∨ t.b .satg = true → s.b .cup = true ∧ s.b .gup = true) ∧
  (s.b .cpend = true ∨ s.b .gpend = true → t.b .satc = true ∨ t.b .satg = true) ∧
  (t.b .satc = true → t.b .vSC = true) ∧ (t.b .satg = true → t.b .vSG = true) ∧
  (t.b .csS = true → t.b .rC = true) ∧ (t.b .gsS = true → t.b .rG = true)

/-- the frame rule for such helpers (on an object with a description up to date). -/
theorem SatStep.inv {s t : PState} (k : SatStep s t) (h : Inv s) (hu : s.b .cup = true ∨ s.b .gup = true) : Inv t := by
  simp only [SatStep, inv_iff, satFrame_iff, PState.flags, Flags.OK] at *
  grind

/-- `spec_tac [c₁, …] using [defs]` proves the specification of a helper `f` that is straight-line code between its
tests: a goal made of `Inv`, `SameSet`, `Minimized`, `ConsReady`, `GensReady`, `SatStep` and equations between flags
of `f s`, from hypotheses of the same kind about `s`.
* Hypotheses and goal are stated flag by flag (`inv_iff` and the `_iff` lemmas above).
* One case per value of each listed Boolean `cᵢ`: the tests `f` branches on, so that in every case `f s` is one
  chain of `set`s.
* In each case one `simp` unfolds `f` (`defs`) and the primitives (`pst`) and reads the flags of the result off
  that chain (`b_set`).  What is left is a propositional statement about the flags of `s`, which `grind` derives
  from the clauses of `Flags.OK` among the hypotheses. -/
syntax "spec_tac " "[" term,* "]" " using " "[" Lean.Parser.Tactic.simpLemma,* "]" : tactic
syntax "spec_cases " "[" term,* "]" " using " "[" Lean.Parser.Tactic.simpLemma,* "]" : tactic
macro_rules
  | `(tactic| spec_cases [] using [$ls,*]) => `(tactic| (simp [*, pst, $ls,*] <;> grind))
  | `(tactic| spec_cases [$t] using [$ls,*]) =>
    `(tactic| (rcases Bool.eq_false_or_eq_true $t with hb | hb <;> spec_cases [] using [$ls,*]))
  | `(tactic| spec_cases [$t, $ts,*] using [$ls,*]) =>
    `(tactic| (rcases Bool.eq_false_or_eq_true $t with hb | hb <;> spec_cases [$ts,*] using [$ls,*]))
macro_rules
  | `(tactic| spec_tac [$ts,*] using [$ls,*]) =>
    `(tactic| (simp only [SatStep, inv_iff, sameSet_iff, minimized_iff, consReady_iff, gensReady_iff, satFrame_iff,
                 PState.flags, Flags.OK, beq_iff_eq, beq_eq_false_iff_ne] at *
               spec_cases [$ts,*] using [$ls,*]))

theorem Inv.em_emp {s : PState} (h : Inv s) (he : s.b .em = true) : s.b .emp = true := by
  inv_facts

theorem Inv.gup_nonempty {s : PState} (h : Inv s) (hg : s.b .gup = true) (hc : s.b .cpend = false) :
    s.b .emp = false := by
  inv_facts

/-- a description up to date: not marked empty, positive dimension. -/
theorem Inv.live_of_up {s : PState} (h : Inv s) (hu : s.b .cup = true ∨ s.b .gup = true) :
    s.b .em = false ∧ s.dim ≠ 0 := by
  inv_facts

/-- dimension zero and not marked empty: the status word is `ZE`. -/
theorem Inv.ze_of_dim_zero {s : PState} (h : Inv s) (hd : s.dim = 0) (he : s.b .em = false) :
    s.b .cup = false ∧ s.b .gup = false ∧ s.b .cmin = false ∧ s.b .gmin = false ∧ s.b .satc = false ∧
    s.b .satg = false ∧ s.b .cpend = false ∧ s.b .gpend = false ∧ s.b .emp = false := by
  inv_facts

/-- not marked empty, positive dimension, generators not up to date: the constraints are, and nothing is pending. -/
theorem Inv.of_not_gup {s : PState} (h : Inv s) (he : s.b .em = false) (hd : s.dim ≠ 0) (hg : s.b .gup = false) :
    s.b .cup = true ∧ s.b .cpend = false ∧ s.b .gpend = false := by
  inv_facts

theorem Inv.of_not_cup {s : PState} (h : Inv s) (he : s.b .em = false) (hd : s.dim ≠ 0) (hc : s.b .cup = false) :
    s.b .gup = true ∧ s.b .cpend = false ∧ s.b .gpend = false := by
  inv_facts

theorem Inv.gmin_gup {s : PState} (h : Inv s) (he : s.b .em = false) (hm : s.b .gmin = true) : s.b .gup = true := by
  inv_facts
theorem Inv.cmin_cup {s : PState} (h : Inv s) (he : s.b .em = false) (hm : s.b .cmin = true) : s.b .cup = true := by
  inv_facts

theorem Inv.sorted_facts {x : PState} (h : Inv x) :
    (x.b .csS = true → x.b .rC = true) ∧ (x.b .gsS = true → x.b .rG = true) := by
  inv_facts

end PPLV.PolyStatus

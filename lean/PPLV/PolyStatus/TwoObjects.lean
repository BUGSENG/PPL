import PPLV.PolyStatus.Observers
/-!
# C01 stage 2 — proofs: two objects (possibly the same one)

How a step on one of the two objects acts on the pair; `quick_equivalence_test` and the four statements of
`is_included_in`.
-/
namespace PPLV.PolyStatus
open PState Two

/-- both objects satisfy the invariant. -/
structure TwoOK (c : Two) : Prop where
  x : Inv c.x
  y : Inv c.gy

/-- a binary observer's effect: both objects are re-represented, nothing else. -/
structure Obs2 (c d : Two) : Prop where
  x : Obs c.x d.x
  y : Obs c.gy d.gy
  al : d.al = c.al

theorem Obs2.ok {c d : Two} (h : Obs2 c d) : TwoOK d := ⟨h.x.inv, h.y.inv⟩
theorem Obs2.refl {c : Two} (h : TwoOK c) : Obs2 c c := ⟨Obs.refl h.x, Obs.refl h.y, rfl⟩
theorem Obs2.trans {c d e : Two} (h1 : Obs2 c d) (h2 : Obs2 d e) : Obs2 c e :=
  ⟨h1.x.trans h2.x, h1.y.trans h2.y, h2.al.trans h1.al⟩

theorem gy_onX (f : PState → PState) (c : Two) : (onX f c).gy = if c.al then f c.x else c.gy := by
  cases hal : c.al <;> simp [onX, gy, hal]
theorem gy_onY (f : PState → PState) (c : Two) : (onY f c).gy = f c.gy := by
  cases hal : c.al <;> simp [onY, gy, hal]
theorem x_onY (f : PState → PState) (c : Two) : (onY f c).x = if c.al then f c.x else c.x := by
  cases hal : c.al <;> simp [onY, hal]
theorem x_onX (f : PState → PState) (c : Two) : (onX f c).x = f c.x := rfl
theorem y_onX (f : PState → PState) (c : Two) : (onX f c).y = c.y := rfl
theorem al_onX (f : PState → PState) (c : Two) : (onX f c).al = c.al := rfl
theorem al_onY (f : PState → PState) (c : Two) : (onY f c).al = c.al := by
  cases hal : c.al <;> simp [onY, hal]
theorem y_onY_nal (f : PState → PState) (c : Two) (hal : c.al = false) : (onY f c).y = f c.y := by
  simp [onY, hal]

theorem onX_obs2 (f : PState → PState) (c : Two) (h : TwoOK c) (hf : Obs c.x (f c.x)) : Obs2 c (onX f c) := by
  refine ⟨hf, ?_, rfl⟩
  rw [gy_onX]
  cases hal : c.al
  · simpa using Obs.refl h.y
  · simpa [gy, hal] using hf

theorem onY_obs2 (f : PState → PState) (c : Two) (h : TwoOK c) (hf : Obs c.gy (f c.gy)) : Obs2 c (onY f c) := by
  refine ⟨?_, by rw [gy_onY]; exact hf, al_onY f c⟩
  rw [x_onY]
  cases hal : c.al
  · simpa using Obs.refl h.x
  · simpa [gy, hal] using hf

theorem onXb_eq (f : PState → Bool × PState) (c : Two) :
    (onXb f c).2 = onX (fun s => (f s).2) c ∧ (onXb f c).1 = (f c.x).1 := ⟨rfl, rfl⟩
theorem onYb_eq (f : PState → Bool × PState) (c : Two) :
    (onYb f c).2 = onY (fun s => (f s).2) c ∧ (onYb f c).1 = (f c.gy).1 := by
  cases hal : c.al <;> simp [onYb, onY, gy, hal]

theorem osg_obs (s : PState) (h : Inv s) (hg : s.b .gup = true) (he : s.b .em = false) :
    Obs s (obtainSortedGenerators s) ∧ (obtainSortedGenerators s).b .gup = true
    ∧ (obtainSortedGenerators s).b .em = false := by
  obtain ⟨h1, _, h3⟩ := osg_spec s h hg he
  exact ⟨⟨h1, h3.mono satFlds_sub⟩, by rw [h3.b _ (by decide)]; exact hg, by rw [h3.b _ (by decide)]; exact he⟩

theorem osc_obs (s : PState) (h : Inv s) (hc : s.b .cup = true) (he : s.b .em = false) :
    Obs s (obtainSortedConstraints s) ∧ (obtainSortedConstraints s).b .cup = true
    ∧ (obtainSortedConstraints s).b .em = false := by
  obtain ⟨h1, _, h3⟩ := osc_spec s h hc he
  exact ⟨⟨h1, h3.mono satFlds_sub⟩, by rw [h3.b _ (by decide)]; exact hc, by rw [h3.b _ (by decide)]; exact he⟩

/-- `f1` applied to the receiver, then `f2` to the argument (to the same object when they are aliased). -/
theorem onXThenY_obs2 (f1 f2 : PState → PState) (Pre Post : PState → Prop) (c : Two) (h : TwoOK c)
    (hx : Pre c.x) (hy : Pre c.gy)
    (hf1 : ∀ s, Inv s → Pre s → Obs s (f1 s) ∧ Post (f1 s) ∧ Pre (f1 s))
    (hf2 : ∀ s, Inv s → Pre s → Obs s (f2 s) ∧ Post (f2 s) ∧ Pre (f2 s)) :
    Obs2 c (onY f2 (onX f1 c)) ∧ Post (onY f2 (onX f1 c)).x ∧ Post (onY f2 (onX f1 c)).gy := by
  have o1 := onX_obs2 f1 c h (hf1 _ h.x hx).1
  have hP : Pre (onX f1 c).gy := by
    rw [gy_onX]
    cases hal : c.al
    · simpa using hy
    · simpa using (hf1 _ h.x hx).2.2
  refine ⟨o1.trans (onY_obs2 _ _ o1.ok (hf2 _ o1.ok.y hP).1), ?_, ?_⟩
  · rw [x_onY]
    cases hal : (onX f1 c).al
    · have : Post (onX f1 c).x := (hf1 _ h.x hx).2.1
      simpa using this
    · have : (onX f1 c).gy = (onX f1 c).x := by simp [gy, hal]
      simpa [this] using (hf2 _ o1.ok.y hP).2.1
  · rw [gy_onY]; exact (hf2 _ o1.ok.y hP).2.1

/-- the same observer applied to both objects (twice to the same one when they are aliased). -/
theorem onBoth_obs2 (f : PState → PState) (P : PState → Prop) (c : Two) (h : TwoOK c) (hx : P c.x) (hy : P c.gy)
    (hf : ∀ s, Inv s → P s → Obs s (f s) ∧ P (f s)) :
    Obs2 c (onY f (onX f c)) ∧ P (onY f (onX f c)).x ∧ P (onY f (onX f c)).gy :=
  have hf' := fun s hs hp => (⟨(hf s hs hp).1, (hf s hs hp).2, (hf s hs hp).2⟩ : Obs s (f s) ∧ P (f s) ∧ P (f s))
  onXThenY_obs2 f f P P c h hx hy hf' hf'

/-- `f2` applied to the argument first, then `f1` to the receiver. -/
theorem onYThenX_obs2 (f1 f2 : PState → PState) (Pre Post : PState → Prop) (c : Two) (h : TwoOK c)
    (hx : Pre c.x) (hy : Pre c.gy)
    (hf1 : ∀ s, Inv s → Pre s → Obs s (f1 s) ∧ Post (f1 s) ∧ Pre (f1 s))
    (hf2 : ∀ s, Inv s → Pre s → Obs s (f2 s) ∧ Pre (f2 s)) :
    Obs2 c (onX f1 (onY f2 c)) ∧ Post (onX f1 (onY f2 c)).x := by
  have o1 := onY_obs2 f2 c h (hf2 _ h.y hy).1
  have hP : Pre (onY f2 c).x := by
    rw [x_onY]
    cases hal : c.al
    · simpa using hx
    · have : c.gy = c.x := by simp [gy, hal]
      simpa [this] using (hf2 _ h.y hy).2
  exact ⟨o1.trans (onX_obs2 _ _ o1.ok (hf1 _ o1.ok.x hP).1), (hf1 _ o1.ok.x hP).2.1⟩

/-- `quick_equivalence_test`. -/
theorem quickEquivalenceTest_obs2 (q : GhQ) (c : Two) (h : TwoOK c) (hx : c.x.b .em = false)
    (hy : c.gy.b .em = false) :
    Obs2 c (quickEquivalenceTest q c).2 ∧ (quickEquivalenceTest q c).2.x.b .em = false
    ∧ (quickEquivalenceTest q c).2.gy.b .em = false := by
  unfold quickEquivalenceTest
  simp only
  split
  · split
    · next hq hg =>
      have hgx : c.x.b .gmin = true := by simp at hg; exact hg.1.2
      have hgy : c.gy.b .gmin = true := by simp at hg; exact hg.2
      obtain ⟨o, p1, p2⟩ := onBoth_obs2 obtainSortedGenerators (fun s => s.b .gup = true ∧ s.b .em = false) c h
        ⟨h.x.gmin_gup hx hgx, hx⟩ ⟨h.y.gmin_gup hy hgy, hy⟩
        (fun s hs hp => ⟨(osg_obs s hs hp.1 hp.2).1, (osg_obs s hs hp.1 hp.2).2⟩)
      exact ⟨o, p1.2, p2.2⟩
    split
    · next hq hg hc =>
      have hcx : c.x.b .cmin = true := by simp at hc; exact hc.1.2
      have hcy : c.gy.b .cmin = true := by simp at hc; exact hc.2
      obtain ⟨o, p1, p2⟩ := onBoth_obs2 obtainSortedConstraints (fun s => s.b .cup = true ∧ s.b .em = false) c h
        ⟨h.x.cmin_cup hx hcx, hx⟩ ⟨h.y.cmin_cup hy hcy, hy⟩
        (fun s hs hp => ⟨(osc_obs s hs hp.1 hp.2).1, (osc_obs s hs hp.1 hp.2).2⟩)
      exact ⟨o, p1.2, p2.2⟩
    · exact ⟨Obs2.refl h, hx, hy⟩
  · exact ⟨Obs2.refl h, hx, hy⟩

/-- both objects satisfy the invariant, are not marked empty and have positive dimension. -/
structure Live2 (c : Two) : Prop where
  ok : TwoOK c
  xe : c.x.b .em = false
  ye : c.gy.b .em = false
  xd : c.x.dim ≠ 0
  yd : c.gy.dim ≠ 0

/-- after a step on the receiver: if the receiver is not marked empty, neither is the argument (which may be
the same object). -/
theorem onXb_gy_em (f : PState → Bool × PState) (c : Two) (hl : Live2 c) :
    (onXb f c).2.x.b .em = false → (onXb f c).2.gy.b .em = false := by
  intro hx
  show (onX (fun s => (f s).2) c).gy.b .em = false
  rw [gy_onX]
  cases hal : c.al
  · simpa using hl.ye
  · have hx' : (f c.x).2.b .em = false := hx
    simpa using hx'

/-- an observer applied to the receiver that answers `false` when it finds the object empty. -/
theorem liveX (f : PState → Bool × PState) (c : Two) (hl : Live2 c)
    (hf : ∀ s, Inv s → s.b .em = false → s.dim ≠ 0 → Obs s (f s).2 ∧ ((f s).1 = true → (f s).2.b .em = false)) :
    Obs2 c (onXb f c).2 ∧ ((onXb f c).1 = true → Live2 (onXb f c).2) := by
  obtain ⟨h1, h2⟩ := hf c.x hl.ok.x hl.xe hl.xd
  have o : Obs2 c (onXb f c).2 := onX_obs2 (fun s => (f s).2) c hl.ok h1
  exact ⟨o, fun hr => ⟨o.ok, h2 hr, onXb_gy_em f c hl (h2 hr), by rw [o.x.same.dim]; exact hl.xd,
    by rw [o.y.same.dim]; exact hl.yd⟩⟩

/-- an observer applied to the argument. -/
theorem liveY (f : PState → PState) (c : Two) (hl : Live2 c)
    (hf : ∀ s, Inv s → s.b .em = false → s.dim ≠ 0 → Obs s (f s) ∧ (f s).b .em = false) :
    Obs2 c (onY f c) ∧ Live2 (onY f c) := by
  obtain ⟨h1, h2⟩ := hf c.gy hl.ok.y hl.ye hl.yd
  have o : Obs2 c (onY f c) := onY_obs2 f c hl.ok h1
  refine ⟨o, ⟨o.ok, ?_, by rw [gy_onY]; exact h2, by rw [o.x.same.dim]; exact hl.xd, by rw [o.y.same.dim]; exact hl.yd⟩⟩
  rw [x_onY]
  cases hal : c.al
  · simpa using hl.xe
  · have : c.gy = c.x := by simp [gy, hal]
    simpa [this] using h2

/-- `liveX` for an observer that answers `true` when it finds the object empty and guarantees `P` (which excludes
"marked empty") otherwise. -/
theorem stepX (f : PState → Bool × PState) (P : PState → Prop) (c : Two) (hl : Live2 c)
    (hP : ∀ t, P t → t.b .em = false)
    (hf : ∀ s, Inv s → s.b .em = false → s.dim ≠ 0 → Obs s (f s).2 ∧ ((f s).1 = false → P (f s).2)) :
    Obs2 c (onXb f c).2 ∧ ((onXb f c).1 = false → Live2 (onXb f c).2 ∧ P (onXb f c).2.x) := by
  obtain ⟨h1, h2⟩ := hf c.x hl.ok.x hl.xe hl.xd
  have o : Obs2 c (onXb f c).2 := onX_obs2 (fun s => (f s).2) c hl.ok h1
  exact ⟨o, fun hr => ⟨⟨o.ok, hP _ (h2 hr), onXb_gy_em f c hl (hP _ (h2 hr)), by rw [o.x.same.dim]; exact hl.xd,
    by rw [o.y.same.dim]; exact hl.yd⟩, h2 hr⟩⟩

/-- such an observer on the argument: `P`, if it held of the receiver, still does (it is re-established when the
two are aliased). -/
theorem stepY (f : PState → Bool × PState) (P : PState → Prop) (c : Two) (hl : Live2 c) (hPx : P c.x)
    (hf : ∀ s, Inv s → s.b .em = false → s.dim ≠ 0 → Obs s (f s).2 ∧ ((f s).1 = false → P (f s).2)) :
    Obs2 c (onYb f c).2 ∧ ((onYb f c).1 = false → P (onYb f c).2.x) := by
  obtain ⟨h1, h2⟩ := hf c.gy hl.ok.y hl.ye hl.yd
  obtain ⟨e2, e1⟩ := onYb_eq f c
  rw [e2, e1]
  refine ⟨onY_obs2 _ c hl.ok h1, fun hr => ?_⟩
  rw [x_onY]
  cases hal : c.al
  · simpa using hPx
  · have : c.gy = c.x := by simp [gy, hal]
    simpa [this] using h2 hr

/-! The four statements of `is_included_in` (`inclA1`, `inclB1`, `inclA2`, `inclB2`), each as the function it
applies to one object: an observer after which the object is not marked empty, unless (on the side of `x`) it
answers `false`. -/

theorem inclA1_obs (g : Gh) (s : PState) (h : Inv s) (he : s.b .em = false) :
    Obs s (if s.cpend then processPendingConstraints g s else (true, s)).2
    ∧ ((if s.cpend then processPendingConstraints g s else (true, s)).1 = true →
        (if s.cpend then processPendingConstraints g s else (true, s)).2.b .em = false) := by
  split
  · next hc =>
    obtain ⟨h1, h2, h3, h4⟩ := ppc_spec g s h hc
    exact ⟨⟨h1, h2⟩, fun hr => (h3 hr).em⟩
  · exact ⟨Obs.refl h, fun _ => he⟩

theorem inclB1_obs (g : Gh) (s : PState) (h : Inv s) (he : s.b .em = false) :
    Obs s (if s.gpend then processPendingGenerators g s else s)
    ∧ (if s.gpend then processPendingGenerators g s else s).b .em = false := by
  split
  · next hc =>
    obtain ⟨h1, h2, h3⟩ := ppg_spec g s h hc
    exact ⟨⟨h1, h2⟩, h3.em⟩
  · exact ⟨Obs.refl h, he⟩

theorem inclA2_obs (g : Gh) (s : PState) (h : Inv s) (he : s.b .em = false) (hd : s.dim ≠ 0) :
    Obs s (if !s.gup then updateGenerators g s else (true, s)).2
    ∧ ((if !s.gup then updateGenerators g s else (true, s)).1 = true →
        (if !s.gup then updateGenerators g s else (true, s)).2.b .em = false) := by
  split
  · next hg =>
    obtain ⟨hcu, hc, hgp⟩ := h.of_not_gup he hd (by simpa using hg)
    obtain ⟨h1, h2, h3, h4⟩ := updateGenerators_spec g s h he hd hcu hc hgp
    exact ⟨⟨h1, h2⟩, fun hr => (h3 hr).em⟩
  · exact ⟨Obs.refl h, fun _ => he⟩

theorem inclB2_obs (g : Gh) (s : PState) (h : Inv s) (he : s.b .em = false) (hd : s.dim ≠ 0) :
    Obs s (if !s.cup then updateConstraints g s else s)
    ∧ (if !s.cup then updateConstraints g s else s).b .em = false := by
  split
  · next hcu =>
    obtain ⟨hg, hc, hgp⟩ := h.of_not_cup he hd (by simpa using hcu)
    obtain ⟨h1, h2, h3⟩ := updateConstraints_spec g s h he hd hg hc hgp
    exact ⟨⟨h1, h2⟩, h3.em⟩
  · exact ⟨Obs.refl h, he⟩

end PPLV.PolyStatus

import PPLV.Watchdog.ProofsSafeFrame

/-! `Safe` is preserved by `create`, `destroy` and the `set_timer` of the handler. -/
namespace PPLV.Watchdog

theorem safe_create {σ : St} (h : Safe σ) (id : Nat) (cs : Int) : Safe (create σ id cs) := by
  unfold create
  split
  · exact h
  · rename_i hc
    have hidle : σ.pc = .idle := by
      by_cases hh : σ.pc = .idle
      · exact hh
      · exact absurd (Or.inl hh) hc
    have hfresh : id ∉ σ.used := fun hh => hc (Or.inr hh)
    split
    · -- rejected: one neutral event, `id` is used up
      refine h.frame rfl rfl (fun _ => List.mem_cons_of_mem _) rfl
        ⟨[_], rfl, fun _ hx => List.mem_singleton.mp hx ▸ Event.neutral_of (e := .rejected id cs) rfl⟩ ?_
      show PcOK _
      unfold PcOK PcOKAt; simp only [hidle]
    · -- accepted
      have hnp : id ∉ ids σ.pending := fun hh => by
        obtain ⟨e, he, hid⟩ := mem_ids.mp hh
        exact hfresh (hid ▸ (h.pend e he).2.2.1)
      have hne : id ∉ σ.expired := fun hh => hfresh (h.expUsed id hh)
      have hnd : ¬ destroyedIn σ.log id := fun ⟨t, ht⟩ => hfresh (h.destUsed id t ht)
      refine { h with pend := ?_, expUsed := ?_, bornUsed := ?_, bornUniq := ?_, destUsed := ?_, liveUsed := ?_,
                      firedExp := ?_, once := ?_, nad := ?_, pcOK := ?_ }
      · intro e he
        have := h.pend e he
        exact ⟨this.1, by
          rintro ⟨t, ht⟩; simp at ht; exact this.2.1 ⟨t, ht⟩, List.mem_cons_of_mem _ this.2.2.1,
          List.mem_cons_of_mem _ this.2.2.2⟩
      · intro i b' cs' t hh; simp at hh
        have := h.firedExp i b' cs' t hh
        exact ⟨this.1, List.mem_cons_of_mem _ this.2⟩
      · exact fun i hi => List.mem_cons_of_mem _ (h.expUsed i hi)
      · intro i b' cs' hh
        rcases List.mem_cons.mp hh with hh | hh
        · have : i = id := by injection hh
          rw [this]; exact List.mem_cons_self
        · exact List.mem_cons_of_mem _ (h.bornUsed i b' cs' hh)
      · intro i b1 c1 b2 c2 h1 h2
        rcases List.mem_cons.mp h1 with h1 | h1 <;> rcases List.mem_cons.mp h2 with h2 | h2
        · injection h1 with e1 e2 e3; injection h2 with f1 f2 f3
          exact ⟨e2.trans f2.symm, e3.trans f3.symm⟩
        · injection h1 with e1 e2 e3
          exact absurd (e1 ▸ h.bornUsed i b2 c2 h2) hfresh
        · injection h2 with e1 e2 e3
          exact absurd (e1 ▸ h.bornUsed i b1 c1 h1) hfresh
        · exact h.bornUniq i b1 c1 b2 c2 h1 h2
      · intro i t hh; simp at hh; exact List.mem_cons_of_mem _ (h.destUsed i t hh)
      · exact fun i hi => List.mem_cons_of_mem _ (h.liveUsed i hi)
      · exact firedOnce_cons_other h.once (by intros; simp)
      · exact nad_cons_other h.nad (by intros; simp)
      · show PcOK _
        have hd' : ¬ destroyedIn (Event.born id σ.now cs :: σ.log) id := by
          rintro ⟨t, ht⟩; simp at ht; exact hnd ⟨t, ht⟩
        unfold PcOK PcOKAt
        by_cases hr : σ.running = true
        · simp only [hr, if_true]
          exact ⟨hnp, List.mem_cons_self, List.mem_cons_self, hne, hd'⟩
        · simp only [hr]
          exact ⟨hnp, List.mem_cons_self, List.mem_cons_self, hne, hd'⟩

theorem safe_destroy {σ : St} (h : Safe σ) (id : Nat) : Safe (destroy σ id) := by
  unfold destroy
  split
  · exact h
  · rename_i hc
    have hidle : σ.pc = .idle := by
      by_cases hh : σ.pc = .idle
      · exact hh
      · exact absurd (Or.inl hh) hc
    have hlive : id ∈ σ.live := by
      by_cases hh : id ∈ σ.live
      · exact hh
      · exact absurd (Or.inr hh) hc
    have hused := h.liveUsed id hlive
    have hl' : ∀ i ∈ σ.live.erase id, i ∈ σ.used := fun i hi => h.liveUsed i (List.mem_of_mem_erase hi)
    split
    · rename_i hexp
      have hnp : id ∉ ids σ.pending := fun hh => by
        obtain ⟨e, he, hid⟩ := mem_ids.mp hh
        exact (h.pend e he).1 (hid ▸ hexp)
      refine h.logDestroyed id σ.now hnp hused rfl rfl rfl hl' rfl ?_
      unfold PcOK PcOKAt; simp only [hidle]
    · refine h.move rfl rfl rfl hl' (Or.inl rfl) ?_
      unfold PcOK PcOKAt; simp only; exact hused

theorem safe_setTimerH {σ : St} (h : Safe σ) (t : Time) : Safe (setTimerH σ t) := by
  unfold setTimerH
  split
  · exact h.same rfl rfl rfl rfl rfl (Or.inr ⟨_, rfl, Event.neutral_of rfl⟩)
  · split
    · exact h.same rfl rfl rfl rfl rfl (Or.inr ⟨_, rfl, Event.neutral_of rfl⟩)
    · exact h.same rfl rfl rfl rfl rfl (Or.inr ⟨_, rfl, Event.neutral_of rfl⟩)

end PPLV.Watchdog

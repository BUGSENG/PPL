import PPLV.Watchdog.Model

/-! The weight watcher: within the 2^63 comparison window the wrap-around `less_than` is the true
comparison, the pending list is sorted by true threshold, and `check` fires exactly the watchers
whose threshold is REACHED by the accumulated weight. -/
namespace PPLV.Watchdog

/-- `Weightwatch_Traits::less_than` is `<` on values less than 2^63 apart -/
theorem wLess_iff (a b : Nat) (h1 : a < b + H63) (h2 : b < a + H63) :
    wLess (a % W64) (b % W64) = true ↔ a < b := by
  unfold wLess W64 H63 at *
  simp only [Bool.and_eq_true, decide_eq_true_eq]
  omega

theorem wLess_false_iff (a b : Nat) (h1 : a < b + H63) (h2 : b < a + H63) :
    wLess (a % W64) (b % W64) = false ↔ b ≤ a := by
  have := wLess_iff a b h1 h2
  cases h : wLess (a % W64) (b % W64)
  · simp only [true_iff]
    rw [h] at this
    have : ¬ a < b := fun hh => by simpa using this.mpr hh
    omega
  · simp only [Bool.true_eq_false, false_iff]
    have := this.mp h; omega

def WSorted (l : List WEv) : Prop := l.Pairwise (fun a b => a.gThr ≤ b.gThr)

/-- the set of values `xs` lies in a window narrower than 2^63 -/
def InWindow (xs : List Nat) : Prop := ∀ x ∈ xs, ∀ y ∈ xs, x < y + H63

theorem windowedB_iff (σ : WSt) (extra : List Nat) :
    windowedB σ extra = true ↔ InWindow (σ.gWeight :: (extra ++ σ.pending.map (·.gThr))) := by
  unfold windowedB InWindow
  simp only [List.all_eq_true, decide_eq_true_eq]

theorem mem_wInsert {x y : WEv} {l : List WEv} : y ∈ wInsert x l ↔ y = x ∨ y ∈ l := by
  induction l with
  | nil => simp [wInsert]
  | cons e r ih =>
    unfold wInsert
    split
    · simp only [List.mem_cons, ih]
      constructor
      · rintro (h | h | h) <;> simp [h]
      · rintro (h | h | h) <;> simp [h]
    · simp [List.mem_cons]

theorem wSorted_insert {x : WEv} {l : List WEv} (hx : x.thr = x.gThr % W64)
    (hl : ∀ e ∈ l, e.thr = e.gThr % W64)
    (hw : ∀ e ∈ l, e.gThr < x.gThr + H63 ∧ x.gThr < e.gThr + H63)
    (hs : WSorted l) : WSorted (wInsert x l) := by
  induction l with
  | nil => simp [wInsert, WSorted]
  | cons e r ih =>
    have he := hl e (by simp)
    have hwe := hw e (by simp)
    unfold WSorted at hs
    rw [List.pairwise_cons] at hs
    have ih' := ih (fun a ha => hl a (by simp [ha])) (fun a ha => hw a (by simp [ha])) hs.2
    unfold wInsert
    rw [he, hx]
    split
    · rename_i hlt
      have := (wLess_iff e.gThr x.gThr hwe.1 hwe.2).mp hlt
      unfold WSorted
      rw [List.pairwise_cons]
      refine ⟨?_, ih'⟩
      intro a ha
      rcases mem_wInsert.mp ha with h | h
      · subst h; omega
      · exact hs.1 a h
    · rename_i hlt
      have := (wLess_false_iff e.gThr x.gThr hwe.1 hwe.2).mp (by simpa using hlt)
      unfold WSorted
      rw [List.pairwise_cons, List.pairwise_cons]
      refine ⟨?_, hs.1, hs.2⟩
      intro a ha
      rcases List.mem_cons.mp ha with h | h
      · subst h; exact this
      · have := hs.1 a h; omega

theorem wErase_sublist (id : Nat) (l : List WEv) : (wErase id l).Sublist l := by
  induction l with
  | nil => simp [wErase]
  | cons e r ih =>
    unfold wErase
    split
    · exact List.sublist_cons_self e r
    · exact ih.cons_cons e

theorem wTakeDue_append (cur : Nat) (l : List WEv) : (wTakeDue cur l).1 ++ (wTakeDue cur l).2 = l := by
  induction l with
  | nil => simp [wTakeDue]
  | cons e r ih =>
    unfold wTakeDue
    split
    · simp [ih]
    · simp

/-- in the window, on a sorted list: the fired prefix is exactly the reached thresholds -/
theorem wTakeDue_spec (gW : Nat) (l : List WEv) (hl : ∀ e ∈ l, e.thr = e.gThr % W64)
    (hw : ∀ e ∈ l, e.gThr < gW + H63 ∧ gW < e.gThr + H63) (hs : WSorted l) :
    (∀ e ∈ (wTakeDue (gW % W64) l).1, e.gThr ≤ gW) ∧ (∀ e ∈ (wTakeDue (gW % W64) l).2, gW < e.gThr) := by
  induction l with
  | nil => simp [wTakeDue]
  | cons e r ih =>
    have he := hl e (by simp)
    have hwe := hw e (by simp)
    unfold WSorted at hs
    rw [List.pairwise_cons] at hs
    have ih' := ih (fun a ha => hl a (by simp [ha])) (fun a ha => hw a (by simp [ha])) hs.2
    unfold wTakeDue
    rw [he]
    split
    · rename_i hc
      have := (wLess_false_iff gW e.gThr hwe.2 hwe.1).mp (by simpa using hc)
      refine ⟨?_, ih'.2⟩
      intro a ha
      rcases List.mem_cons.mp ha with h | h
      · subst h; exact this
      · exact ih'.1 a h
    · rename_i hc
      have hc' : wLess (gW % W64) (e.gThr % W64) = true := by simpa using hc
      have := (wLess_iff gW e.gThr hwe.2 hwe.1).mp hc'
      refine ⟨by simp, ?_⟩
      intro a ha
      rcases List.mem_cons.mp ha with h | h
      · subst h; exact this
      · have := hs.1 a h; omega

structure WInv (σ : WSt) : Prop where
  wq : σ.weight = σ.gWeight % W64
  thr : ∀ e ∈ σ.pending, e.thr = e.gThr % W64 ∧ σ.gLast < e.gThr
  last : σ.gLast ≤ σ.gWeight
  sorted : WSorted σ.pending
  fn : σ.checkFn = false → σ.pending = []
  fired : ∀ id g p c, WEvent.fired id g p c ∈ σ.log → p < g ∧ g ≤ c

theorem winv_init (w0 : Nat) : WInv (wInit w0) := by
  constructor <;> simp [wInit, WSorted]

theorem winv_exec {σ : WSt} (h : σ.lapped = true ∨ WInv σ) (op : WOp) :
    (wExec σ op).lapped = true ∨ WInv (wExec σ op) := by
  rcases h with hl | h
  · left
    cases op <;> simp only [wExec]
    · exact hl
    · split
      · exact hl
      · split <;> simp [hl]
    · split
      · exact hl
      · split <;> exact hl
    · split
      · exact hl
      · simp [hl]
  · cases op with
    | add d =>
      right
      simp only [wExec]
      constructor
      · show (σ.weight + d) % W64 = (σ.gWeight + d) % W64
        rw [h.wq]; unfold W64; omega
      · exact h.thr
      · have := h.last; show σ.gLast ≤ σ.gWeight + d; omega
      · exact h.sorted
      · exact h.fn
      · exact h.fired
    | create id delta =>
      simp only [wExec]
      split
      · exact Or.inr h
      · by_cases hwin : windowedB σ [σ.gWeight + delta % W64] = true
        · right
          have hW := (windowedB_iff σ _).mp hwin
          have hg1 : σ.gWeight + delta % W64 < σ.gWeight + H63 :=
            hW _ (by simp) _ (by simp)
          have hthr : (σ.weight + delta % W64) % W64 = (σ.gWeight + delta % W64) % W64 := by
            rw [h.wq]; unfold W64; omega
          have hacc : wLess σ.weight ((σ.weight + delta % W64) % W64) = true ↔ 0 < delta % W64 := by
            rw [hthr, h.wq]
            rw [wLess_iff σ.gWeight (σ.gWeight + delta % W64) (by unfold H63; omega) hg1]
            omega
          split
          · -- "threshold already reached": a zero delta
            constructor
            · exact h.wq
            · exact h.thr
            · exact h.last
            · exact h.sorted
            · exact h.fn
            · intro i g p c hh
              have : WEvent.fired i g p c ∈ σ.log := by simpa using hh
              exact h.fired i g p c this
          · rename_i hrej
            have hpos : 0 < delta % W64 := by
              apply hacc.mp
              cases hw : wLess σ.weight ((σ.weight + delta % W64) % W64)
              · rw [hw] at hrej; simp at hrej
              · rfl
            constructor
            · exact h.wq
            · intro e he
              rcases mem_wInsert.mp he with hh | hh
              · subst hh
                exact ⟨hthr, by have := h.last; show σ.gLast < σ.gWeight + delta % W64; omega⟩
              · exact h.thr e hh
            · exact h.last
            · refine wSorted_insert hthr (fun e he => (h.thr e he).1) ?_ h.sorted
              intro e he
              have hm : e.gThr ∈ σ.gWeight :: ([σ.gWeight + delta % W64] ++ σ.pending.map (·.gThr)) := by
                simp only [List.mem_cons, List.mem_append, List.mem_map]
                exact Or.inr (Or.inr ⟨e, he, rfl⟩)
              exact ⟨hW _ hm _ (by simp), hW _ (by simp) _ hm⟩
            · intro hh; simp at hh
            · intro i g p c hh
              have : WEvent.fired i g p c ∈ σ.log := by simpa using hh
              exact h.fired i g p c this
        · left
          have : windowedB σ [σ.gWeight + delta % W64] = false := by simpa using hwin
          split <;> simp [this]
    | destroy id =>
      right
      simp only [wExec]
      split
      · exact h
      · split
        · exact { h with fired := fun i g p c hh => h.fired i g p c (by simpa using hh) }
        · constructor
          · exact h.wq
          · intro e he; exact h.thr e ((wErase_sublist id _).subset he)
          · exact h.last
          · exact List.Pairwise.sublist (wErase_sublist id _) h.sorted
          · intro hh
            show wErase id σ.pending = []
            cases hp : (wErase id σ.pending).isEmpty
            · simp only [hp, Bool.false_eq_true, if_false] at hh
              have := h.fn hh
              rw [this]; rfl
            · exact List.isEmpty_iff.mp hp
          · intro i g p c hh
            exact h.fired i g p c (by simpa using hh)
    | check =>
      simp only [wExec]
      split
      · rename_i hfn
        right
        have hp := h.fn (by simpa using hfn)
        constructor
        · exact h.wq
        · show ∀ e ∈ σ.pending, _
          rw [hp]; intro e he; simp at he
        · exact Nat.le_refl _
        · exact h.sorted
        · intro _; exact hp
        · intro i g p c hh
          exact h.fired i g p c (by simpa using hh)
      · by_cases hwin : windowedB σ [] = true
        · right
          have hW := (windowedB_iff σ _).mp hwin
          have hw : ∀ e ∈ σ.pending, e.gThr < σ.gWeight + H63 ∧ σ.gWeight < e.gThr + H63 := by
            intro e he
            have hm : e.gThr ∈ σ.gWeight :: ([] ++ σ.pending.map (·.gThr)) := by
              simp only [List.nil_append, List.mem_cons, List.mem_map]
              exact Or.inr ⟨e, he, rfl⟩
            exact ⟨hW _ hm _ (by simp), hW _ (by simp) _ hm⟩
          have hspec := wTakeDue_spec σ.gWeight σ.pending (fun e he => (h.thr e he).1) hw h.sorted
          rw [← h.wq] at hspec
          have happ := wTakeDue_append σ.weight σ.pending
          have hsub2 : (wTakeDue σ.weight σ.pending).2.Sublist σ.pending := by
            conv => rhs; rw [← happ]
            exact List.sublist_append_right _ _
          have hsub1 : (wTakeDue σ.weight σ.pending).1.Sublist σ.pending := by
            conv => rhs; rw [← happ]
            exact List.sublist_append_left _ _
          constructor
          · exact h.wq
          · intro e he
            exact ⟨(h.thr e (hsub2.subset he)).1, hspec.2 e he⟩
          · exact Nat.le_refl _
          · exact List.Pairwise.sublist hsub2 h.sorted
          · intro hh
            show (wTakeDue σ.weight σ.pending).2 = []
            cases hp : (wTakeDue σ.weight σ.pending).2.isEmpty
            · simp only [hp, Bool.false_eq_true, if_false] at hh
              rename_i hfn
              rw [hh] at hfn; simp at hfn
            · exact List.isEmpty_iff.mp hp
          · intro i g p c hh
            simp only [List.mem_cons, List.mem_append, List.mem_reverse, List.mem_map] at hh
            rcases hh with hh | ⟨e, he, heq⟩ | hh
            · exact absurd hh (by simp)
            · injection heq with e1 e2 e3 e4
              subst e2 e3 e4
              exact ⟨(h.thr e (hsub1.subset he)).2, hspec.1 e he⟩
            · exact h.fired i g p c hh
        · left
          have : windowedB σ [] = false := by simpa using hwin
          simp [this]

theorem winv_run (w0 : Nat) (ops : List WOp) : (wRun w0 ops).lapped = true ∨ WInv (wRun w0 ops) := by
  unfold wRun
  have : ∀ (l : List WOp) (σ : WSt), (σ.lapped = true ∨ WInv σ) →
      ((l.foldl wExec σ).lapped = true ∨ WInv (l.foldl wExec σ)) := by
    intro l
    induction l with
    | nil => intro σ h; exact h
    | cons a as ih => intro σ h; exact ih _ (winv_exec h a)
  exact this ops _ (Or.inr (winv_init w0))

end PPLV.Watchdog

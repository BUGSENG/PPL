import PPLV.Watchdog.ProofsSafeFire
import PPLV.Watchdog.ProofsStep

/-! `Safe` is preserved by every statement group (`step`). -/
namespace PPLV.Watchdog

theorem pcOK_of {σ : St} {pc : PC} (h : σ.pc = pc) : PcOK σ ↔ PcOKAt σ pc := by
  unfold PcOK; rw [h]

theorem safe_throwCtor {σ : St} (h : Safe σ) (id : Nat) : Safe (throwCtor σ id) := by
  have h1 : Safe { σ with log := Event.setfail :: σ.log } :=
    h.same rfl rfl rfl rfl rfl (Or.inr ⟨_, rfl, Event.neutral_of rfl⟩)
  unfold throwCtor
  refine h1.move rfl rfl rfl h1.liveUsed (Or.inr ⟨_, rfl, Event.neutral_of rfl⟩) ?_
  exact (pcOK_of (pc := .idle) rfl).mpr (by simp [PcOKAt])

theorem safe_finish {σ : St} (h : Safe σ) (fin : Fin) (hfin : FinOK σ fin) : Safe (finish σ fin) := by
  cases fin with
  | ctor id =>
    simp only [FinOK] at hfin
    unfold finish
    refine h.move rfl rfl rfl ?_ (Or.inr ⟨_, rfl, Event.neutral_of rfl⟩) ?_
    · intro i hi
      rcases List.mem_cons.mp hi with hh | hh
      · rw [hh]; exact hfin
      · exact h.liveUsed i hh
    · exact (pcOK_of (pc := .idle) rfl).mpr (by simp [PcOKAt])
  | dtor id =>
    simp only [FinOK] at hfin
    unfold finish
    refine h.logDestroyed id σ.now hfin.2 hfin.1 rfl rfl rfl h.liveUsed rfl ?_
    exact (pcOK_of (pc := .idle) rfl).mpr (by simp [PcOKAt])

theorem safe_leave {σ : St} (h : Safe σ) (fin : Fin) (hfin : FinOK σ fin) : Safe (leave σ fin) := by
  unfold leave
  split
  · refine h.move rfl rfl rfl h.liveUsed (Or.inl rfl) ?_
    exact (pcOK_of (pc := .l2 fin) rfl).mpr (by simp only [PcOKAt]; exact FinOK.mono hfin (fun _ x => x) (fun _ x => x))
  · have h1 : Safe { σ with inCrit := false } := h.same rfl rfl rfl rfl rfl (Or.inl rfl)
    exact safe_finish h1 fin (FinOK.mono hfin (fun _ x => x) (fun _ x => x))

/-- `setitimer` fails: the failure and the internal error are logged and the operation is abandoned -/
theorem safe_setfail {σ : St} (h : Safe σ) :
    Safe { σ with err := true, pc := .idle, log := .internalError :: .setfail :: σ.log } := by
  have h1 : Safe { σ with log := Event.setfail :: σ.log } :=
    h.same rfl rfl rfl rfl rfl (Or.inr ⟨_, rfl, Event.neutral_of rfl⟩)
  refine h1.move rfl rfl rfl h1.liveUsed (Or.inr ⟨_, rfl, Event.neutral_of rfl⟩) ?_
  exact (pcOK_of (pc := .idle) rfl).mpr (by simp [PcOKAt])

theorem safe_step (b : Bool) {σ : St} (h : Safe σ) : Safe (step b σ) := by
  have hp : PcOKAt σ σ.pc := h.pcOK
  generalize hpc : σ.pc = pc at hp
  cases pc with
  | idle =>
    rw [step_idle b hpc]
    exact h
  | a1 id cs bb d =>
    rw [step_a1 b hpc]
    split
    · refine h.move rfl rfl rfl h.liveUsed (Or.inr ⟨_, rfl, Event.neutral_of rfl⟩) ?_
      exact (pcOK_of (pc := .idle) rfl).mpr (by simp [PcOKAt])
    · refine h.insert ⟨d, id, bb, cs⟩ hp.1 hp.2.1 hp.2.2.1 hp.2.2.2.1 hp.2.2.2.2 rfl rfl rfl rfl rfl ?_
      exact (pcOK_of (pc := .a2 id) rfl).mpr hp.2.1
  | a2 id =>
    rw [step_a2 b hpc]
    split
    · refine h.move rfl rfl rfl h.liveUsed (Or.inr ⟨_, rfl, Event.neutral_of rfl⟩) ?_
      exact (pcOK_of (pc := .cEnd id) rfl).mpr hp
    · exact safe_throwCtor h id
  | b1 id cs bb d =>
    rw [step_b1 b hpc]
    refine h.move rfl rfl rfl h.liveUsed (Or.inr ⟨_, rfl, Event.neutral_of rfl⟩) ?_
    refine (pcOK_of (pc := .b2 id cs bb d (getTimer σ)) rfl).mpr ?_
    simp only [PcOKAt]
    refine ⟨hp.1, hp.2.1, List.mem_cons_of_mem _ hp.2.2.1, hp.2.2.2.1, ?_⟩
    rintro ⟨t, ht⟩; simp at ht; exact hp.2.2.2.2 ⟨t, ht⟩
  | b2 id cs bb d tts =>
    rw [step_b2 b hpc]
    -- the state right after the insertion
    have h1 : Safe { σ with pending := insertEv ⟨d.add (σ.tsf.add (σ.ltr.sub tts)), id, bb, cs⟩ σ.pending,
                            pc := .cEnd id } := by
      refine h.insert ⟨_, id, bb, cs⟩ hp.1 hp.2.1 hp.2.2.1 hp.2.2.2.1 hp.2.2.2.2 rfl rfl rfl rfl rfl ?_
      exact (pcOK_of (pc := .cEnd id) rfl).mpr hp.2.1
    split
    · split
      · refine h1.move rfl rfl rfl h1.liveUsed (Or.inr ⟨_, rfl, Event.neutral_of rfl⟩) ?_
        exact (pcOK_of (pc := .idle) rfl).mpr (by simp [PcOKAt])
      · refine h1.move rfl rfl rfl h1.liveUsed (Or.inl rfl) ?_
        exact (pcOK_of (pc := .b3 id) rfl).mpr hp.2.1
    · exact h1
  | b3 id =>
    rw [step_b3 b hpc]
    split
    · refine h.move rfl rfl rfl h.liveUsed (Or.inr ⟨_, rfl, Event.neutral_of rfl⟩) ?_
      exact (pcOK_of (pc := .cEnd id) rfl).mpr hp
    · exact safe_throwCtor h id
  | cEnd id =>
    rw [step_cEnd b hpc]
    exact safe_leave h (.ctor id) hp
  | d1 id =>
    have herase : Safe { σ with inCrit := true, pending := eraseId id σ.pending, pc := .dEnd id } := by
      refine h.erase id rfl rfl rfl rfl rfl ?_
      exact (pcOK_of (pc := .dEnd id) rfl).mpr ⟨hp, not_mem_ids_eraseId h.nodup⟩
    cases hpd : σ.pending with
    | nil =>
      rw [step_d1_nil b hpc hpd]
      refine h.move rfl rfl rfl h.liveUsed (Or.inl rfl) ?_
      refine (pcOK_of (pc := .dEnd id) rfl).mpr ⟨hp, ?_⟩
      show id ∉ ids σ.pending
      rw [hpd]; simp [ids]
    | cons e rest =>
      by_cases he : e.id = id
      · cases hrest : rest with
        | nil =>
          rw [step_d1_last b hpc (by rw [hpd, hrest]) he]
          refine h.move rfl rfl rfl h.liveUsed (Or.inl rfl) ?_
          exact (pcOK_of (pc := .s1 id) rfl).mpr hp
        | cons n r =>
          rw [step_d1_first b hpc (by rw [hpd, hrest]) he]
          split
          · refine h.move rfl rfl rfl h.liveUsed (Or.inl rfl) ?_
            exact (pcOK_of (pc := .r1 id _ _) rfl).mpr hp
          · exact herase
      · rw [step_d1_other b hpc hpd he]
        exact herase
  | r1 id f n =>
    rw [step_r1 b hpc]
    refine h.move rfl rfl rfl h.liveUsed (Or.inr ⟨_, rfl, Event.neutral_of rfl⟩) ?_
    exact (pcOK_of (pc := .r2 id f n (getTimer σ)) rfl).mpr hp
  | r2 id f n tts =>
    rw [step_r2 b hpc]
    split
    · refine h.move rfl rfl rfl h.liveUsed (Or.inr ⟨_, rfl, Event.neutral_of rfl⟩) ?_
      exact (pcOK_of (pc := .idle) rfl).mpr (by simp [PcOKAt])
    · refine h.move rfl rfl rfl h.liveUsed (Or.inl rfl) ?_
      exact (pcOK_of (pc := .r3 id) rfl).mpr hp
  | r3 id =>
    rw [step_r3 b hpc]
    split
    · have h1 : Safe { σ with pending := eraseId id σ.pending, pc := .dEnd id } := by
        refine h.erase id rfl rfl rfl rfl rfl ?_
        exact (pcOK_of (pc := .dEnd id) rfl).mpr ⟨hp, not_mem_ids_eraseId h.nodup⟩
      exact h1.same rfl rfl rfl rfl rfl (Or.inr ⟨_, rfl, Event.neutral_of rfl⟩)
    · exact safe_setfail h
  | s1 id =>
    rw [step_s1 b hpc]
    refine h.move rfl rfl rfl h.liveUsed (Or.inl rfl) ?_
    exact (pcOK_of (pc := .s2 id) rfl).mpr hp
  | s2 id =>
    rw [step_s2 b hpc]
    split
    · have h1 : Safe { σ with pending := eraseId id σ.pending, pc := .dEnd id } := by
        refine h.erase id rfl rfl rfl rfl rfl ?_
        exact (pcOK_of (pc := .dEnd id) rfl).mpr ⟨hp, not_mem_ids_eraseId h.nodup⟩
      exact h1.same rfl rfl rfl rfl rfl (Or.inr ⟨_, rfl, Event.neutral_of rfl⟩)
    · exact safe_setfail h
  | dEnd id =>
    rw [step_dEnd b hpc]
    exact safe_leave h (.dtor id) hp
  | l2 fin =>
    rw [step_l2 b hpc]
    refine h.move rfl rfl rfl h.liveUsed (Or.inr ⟨_, rfl, Event.neutral_of rfl⟩) ?_
    exact (pcOK_of (pc := .l3 fin (getTimer σ)) rfl).mpr
      (by simp only [PcOKAt]; exact FinOK.mono hp (fun _ x => x) (fun _ x => x))
  | l3 fin tts =>
    rw [step_l3 b hpc]
    split
    · have hb := safe_handlerBody b (some fin) h (by intro f hf; injection hf with hf; subst hf; exact hp)
      split
      · rename_i hsame
        refine safe_finish hb fin ?_
        have := hb.pcOK
        unfold PcOK at this
        rw [hsame, hpc] at this
        simpa [PcOKAt] using this
      · exact hb
    · exact safe_finish h fin hp
  | l4 fin =>
    rw [step_l4 b hpc]
    split
    · refine h.move rfl rfl rfl h.liveUsed (Or.inr ⟨_, rfl, Event.neutral_of rfl⟩) ?_
      exact (pcOK_of (pc := .l5 fin) rfl).mpr
        (by simp only [PcOKAt]; exact FinOK.mono hp (fun _ x => x) (fun _ x => x))
    · exact safe_setfail h
  | l5 fin =>
    rw [step_l5 b hpc]
    exact safe_finish h fin hp

end PPLV.Watchdog

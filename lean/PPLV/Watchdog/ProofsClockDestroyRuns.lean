import PPLV.Watchdog.ProofsClockCreateRunning

/-! `Clock` across a whole destructor (`~Watchdog` / `remove_watchdog_event`). -/
namespace PPLV.Watchdog

/-- log-dependent parts of `Clock` after a destructor: the log gains neutral events and
`destroyed id`, the pending list loses at most elements with that id -/
theorem log_parts_destroy {σ : St} (h : Clock σ) (id : Nat) (t : Int) (es : List Event)
    (hes : ∀ e ∈ es, e.neutral) (pending' : List Ev)
    (hp : ∀ x ∈ σ.pending, x.id ≠ id → x ∈ pending') :
    (∀ i t' b cs, Event.fired i t' b cs ∈ Event.destroyed id t :: (es ++ σ.log) →
        t' = b + cs * 10000 ∧ t' ≤ σ.now) ∧
    Ordered (Event.destroyed id t :: (es ++ σ.log)) ∧
    (∀ i b cs, Event.born i b cs ∈ Event.destroyed id t :: (es ++ σ.log) →
      (∃ e ∈ pending', e.id = i ∧ e.gBirth = b ∧ e.gCs = cs) ∨
      (∃ t', Event.fired i t' b cs ∈ Event.destroyed id t :: (es ++ σ.log)) ∨
      destroyedIn (Event.destroyed id t :: (es ++ σ.log)) i) := by
  refine h.log_parts (Event.destroyed id t :: es) pending'
    (List.forall_mem_cons.mpr ⟨fun _ _ _ _ hh => Event.noConfusion hh, fun e he => (hes e he).1⟩)
    (fun i b cs hb => (List.mem_cons.mp hb).elim (fun hh => Event.noConfusion hh)
      (fun hh => absurd rfl ((hes _ hh).2.2 i b cs)))
    (fun x hx => ?_)
  by_cases hne : x.id = id
  · exact Or.inr ⟨t, hne ▸ List.mem_cons_self⟩
  · exact Or.inl (hp x hx hne)

theorem destroy_nil_eq (b : Bool) (σ : St) (id : Nat) (hpc : σ.pc = .d1 id) (hp : σ.pending = [])
    (hdf : σ.deferredFlag = false) :
    steps b 2 σ = { σ with inCrit := false, pc := .idle, log := .destroyed id σ.now :: σ.log } := by
  simp [steps, step, leave, finish, hdf, hpc, hp]

theorem destroy_other_eq (b : Bool) (σ : St) (id : Nat) (hpc : σ.pc = .d1 id) (e : Ev) (rest : List Ev)
    (hp : σ.pending = e :: rest) (hne : e.id ≠ id) (hdf : σ.deferredFlag = false) :
    steps b 2 σ = { σ with pending := eraseId id σ.pending, inCrit := false, pc := .idle,
                           log := .destroyed id σ.now :: σ.log } := by
  simp [steps, step, leave, finish, hdf, hpc, hp, hne]

theorem destroy_eqdl_eq (σ : St) (id : Nat) (hpc : σ.pc = .d1 id) (e n : Ev) (rest : List Ev)
    (hp : σ.pending = e :: n :: rest) (he : e.id = id) (hne : Time.ne false e.deadline n.deadline = false)
    (hdf : σ.deferredFlag = false) :
    steps false 2 σ = { σ with pending := eraseId id σ.pending, inCrit := false, pc := .idle,
                               log := .destroyed id σ.now :: σ.log } := by
  simp [steps, step, leave, finish, hdf, hpc, hp, he, hne]

theorem destroy_last_eq (b : Bool) (σ : St) (id : Nat) (hpc : σ.pc = .d1 id) (e : Ev)
    (hp : σ.pending = [e]) (he : e.id = id) (hdf : σ.deferredFlag = false) :
    steps b 4 σ = { σ with pending := eraseId id σ.pending, sigOnce := Time.zero, remaining := Time.zero.toUs,
                           running := false, inCrit := false, pc := .idle,
                           log := .destroyed id σ.now :: .setitimer Time.zero.toUs :: σ.log } := by
  have hok : Time.zero.timevalOK = true := by decide
  simp [steps, step, leave, finish, hdf, hpc, hp, he, hok]

/-- the value `remove_watchdog_event` re-arms the timer with -/
def rearmTime (σ : St) (e n : Ev) : Time := (getTimer σ).add (n.deadline.sub e.deadline)

theorem destroy_rearm_eq (σ : St) (id : Nat) (hpc : σ.pc = .d1 id) (e n : Ev) (rest : List Ev)
    (hp : σ.pending = e :: n :: rest) (he : e.id = id) (hne : Time.ne false e.deadline n.deadline = true)
    (hnz : (rearmTime σ e n).isZero = false) (hok : (rearmTime σ e n).timevalOK = true)
    (hdf : σ.deferredFlag = false) :
    steps false 5 σ = { σ with
      pending := eraseId id σ.pending
      tsf := σ.tsf.add (σ.ltr.sub (getTimer σ))
      ltr := rearmTime σ e n
      sigOnce := rearmTime σ e n
      remaining := (rearmTime σ e n).toUs
      inCrit := false
      pc := .idle
      log := .destroyed id σ.now :: .setitimer (rearmTime σ e n).toUs :: .getitimer σ.remaining :: σ.log } := by
  unfold rearmTime at hnz hok ⊢
  rw [getTimer_eq] at hnz hok
  simp only [steps, step, leave, finish, getTimer_eq, hdf, hpc, hp, he, hne, hnz, hok, if_true, if_false,
    Bool.false_eq_true]

end PPLV.Watchdog

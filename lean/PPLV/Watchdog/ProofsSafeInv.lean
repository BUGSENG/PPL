import PPLV.Watchdog.ProofsList

/-! Safety invariant of the statement-level system, for ALL schedules (signals anywhere, either
variant of `operator==`, any arguments): a watchdog fires at most once and never after its
destructor has returned; every firing belongs to a creation. -/
namespace PPLV.Watchdog

def destroyedIn (log : List Event) (id : Nat) : Prop := ∃ t, Event.destroyed id t ∈ log
def firedIn (log : List Event) (id : Nat) : Prop := ∃ t b cs, Event.fired id t b cs ∈ log

/-- no firing of `id` after (i.e. nearer the head than) a `destroyed id`; the log is newest first -/
def NAD : List Event → Prop
  | [] => True
  | e :: l => NAD l ∧ ∀ id t b cs, e = Event.fired id t b cs → ¬ destroyedIn l id

def FiredOnce : List Event → Prop
  | [] => True
  | e :: l => FiredOnce l ∧ ∀ id t b cs, e = Event.fired id t b cs → ¬ firedIn l id

theorem mem_ids {l : List Ev} {i : Nat} : i ∈ ids l ↔ ∃ e ∈ l, e.id = i := by
  simp [ids]

/-- what the end of an operation needs: a destructor's id is no longer pending -/
def FinOK (σ : St) : Fin → Prop
  | .ctor id => id ∈ σ.used
  | .dtor id => id ∈ σ.used ∧ id ∉ ids σ.pending

def PcOKAt (σ : St) (pc : PC) : Prop :=
  match pc with
  | .idle => True
  | .a1 id cs b _ => id ∉ ids σ.pending ∧ id ∈ σ.used ∧ Event.born id b cs ∈ σ.log ∧ id ∉ σ.expired ∧ ¬ destroyedIn σ.log id
  | .b1 id cs b _ => id ∉ ids σ.pending ∧ id ∈ σ.used ∧ Event.born id b cs ∈ σ.log ∧ id ∉ σ.expired ∧ ¬ destroyedIn σ.log id
  | .b2 id cs b _ _ => id ∉ ids σ.pending ∧ id ∈ σ.used ∧ Event.born id b cs ∈ σ.log ∧ id ∉ σ.expired ∧ ¬ destroyedIn σ.log id
  | .a2 id => id ∈ σ.used
  | .b3 id => id ∈ σ.used
  | .cEnd id => id ∈ σ.used
  | .d1 id => id ∈ σ.used
  | .r1 id _ _ => id ∈ σ.used
  | .r2 id _ _ _ => id ∈ σ.used
  | .r3 id => id ∈ σ.used
  | .s1 id => id ∈ σ.used
  | .s2 id => id ∈ σ.used
  | .dEnd id => id ∈ σ.used ∧ id ∉ ids σ.pending
  | .l2 fin => FinOK σ fin
  | .l3 fin _ => FinOK σ fin
  | .l4 fin => FinOK σ fin
  | .l5 fin => FinOK σ fin

def PcOK (σ : St) : Prop := PcOKAt σ σ.pc

structure Safe (σ : St) : Prop where
  nodup : (ids σ.pending).Nodup
  pend : ∀ e ∈ σ.pending, e.id ∉ σ.expired ∧ ¬ destroyedIn σ.log e.id ∧ e.id ∈ σ.used ∧
          Event.born e.id e.gBirth e.gCs ∈ σ.log
  firedExp : ∀ id t b cs, Event.fired id t b cs ∈ σ.log → id ∈ σ.expired ∧ Event.born id b cs ∈ σ.log
  expUsed : ∀ i ∈ σ.expired, i ∈ σ.used
  bornUsed : ∀ id b cs, Event.born id b cs ∈ σ.log → id ∈ σ.used
  bornUniq : ∀ id b cs b' cs', Event.born id b cs ∈ σ.log → Event.born id b' cs' ∈ σ.log → b = b' ∧ cs = cs'
  destUsed : ∀ id t, Event.destroyed id t ∈ σ.log → id ∈ σ.used
  liveUsed : ∀ i ∈ σ.live, i ∈ σ.used
  once : FiredOnce σ.log
  nad : NAD σ.log
  pcOK : PcOK σ

theorem safe_init : Safe {} := by
  constructor <;> simp [ids, FiredOnce, NAD, PcOK, PcOKAt]

/-- consing an event that is neither a firing nor a destruction keeps the two trace predicates -/
theorem firedOnce_cons_other {e : Event} {l : List Event} (h : FiredOnce l)
    (he : ∀ id t b cs, e ≠ Event.fired id t b cs) : FiredOnce (e :: l) :=
  ⟨h, fun id t b cs hh => absurd hh (he id t b cs)⟩

theorem nad_cons_other {e : Event} {l : List Event} (h : NAD l)
    (he : ∀ id t b cs, e ≠ Event.fired id t b cs) : NAD (e :: l) :=
  ⟨h, fun id t b cs hh => absurd hh (he id t b cs)⟩

def Event.neutral (e : Event) : Prop :=
  (∀ id t b cs, e ≠ Event.fired id t b cs) ∧ (∀ id t, e ≠ Event.destroyed id t) ∧
    (∀ id b cs, e ≠ Event.born id b cs)

/-- `Event.neutral` as a Boolean, so that `rfl` decides it for an event whose constructor is known -/
def Event.isNeutral : Event → Bool
  | .fired .. | .destroyed .. | .born .. => false
  | _ => true

theorem Event.neutral_of {e : Event} (h : e.isNeutral = true) : e.neutral := by
  refine ⟨fun _ _ _ _ he => ?_, fun _ _ he => ?_, fun _ _ _ he => ?_⟩ <;>
  · rw [he] at h
    exact Bool.false_ne_true h

/-- frame lemma: a step that keeps `pending`, `expired`, `live`, lets `used` grow and logs events that are
neither births, firings nor destructions keeps everything but `pcOK` -/
theorem Safe.frame {σ σ' : St} (h : Safe σ) (hp : σ'.pending = σ.pending) (he : σ'.expired = σ.expired)
    (hu : ∀ i ∈ σ.used, i ∈ σ'.used) (hl : σ'.live = σ.live)
    (hlog : ∃ es, σ'.log = es ++ σ.log ∧ ∀ e ∈ es, e.neutral) (hpc : PcOK σ') : Safe σ' := by
  obtain ⟨es, hlog, hes⟩ := hlog
  have memf : ∀ {id t b cs}, Event.fired id t b cs ∈ es ++ σ.log → Event.fired id t b cs ∈ σ.log :=
    fun hh => (List.mem_append.mp hh).elim (fun h1 => absurd rfl ((hes _ h1).1 _ _ _ _)) id
  have memd : ∀ {id t}, Event.destroyed id t ∈ es ++ σ.log → Event.destroyed id t ∈ σ.log :=
    fun hh => (List.mem_append.mp hh).elim (fun h1 => absurd rfl ((hes _ h1).2.1 _ _)) id
  have memb : ∀ {id b cs}, Event.born id b cs ∈ es ++ σ.log → Event.born id b cs ∈ σ.log :=
    fun hh => (List.mem_append.mp hh).elim (fun h1 => absurd rfl ((hes _ h1).2.2 _ _ _)) id
  constructor
  · rw [hp]; exact h.nodup
  · rw [hp, he, hlog]
    intro x hx
    have := h.pend x hx
    exact ⟨this.1, fun ⟨t, ht⟩ => this.2.1 ⟨t, memd ht⟩, hu _ this.2.2.1, List.mem_append_right _ this.2.2.2⟩
  · rw [he, hlog]
    intro id t b cs hh
    have := h.firedExp id t b cs (memf hh)
    exact ⟨this.1, List.mem_append_right _ this.2⟩
  · rw [he]; exact fun i hi => hu _ (h.expUsed i hi)
  · rw [hlog]; exact fun id b cs hh => hu _ (h.bornUsed id b cs (memb hh))
  · rw [hlog]; exact fun id b cs b' cs' h1 h2 => h.bornUniq id b cs b' cs' (memb h1) (memb h2)
  · rw [hlog]; exact fun id t hh => hu _ (h.destUsed id t (memd hh))
  · rw [hl]; exact fun i hi => hu _ (h.liveUsed i hi)
  · rw [hlog]; clear memf memd memb hlog
    induction es with
    | nil => exact h.once
    | cons a as ih =>
      exact firedOnce_cons_other (ih fun e he => hes e (List.mem_cons_of_mem _ he)) (hes a List.mem_cons_self).1
  · rw [hlog]; clear memf memd memb hlog
    induction es with
    | nil => exact h.nad
    | cons a as ih =>
      exact nad_cons_other (ih fun e he => hes e (List.mem_cons_of_mem _ he)) (hes a List.mem_cons_self).1
  · exact hpc

/-- the log is unchanged or has one neutral event more -/
theorem neutral_suffix {l' l : List Event} (h : l' = l ∨ ∃ e, l' = e :: l ∧ e.neutral) :
    ∃ es, l' = es ++ l ∧ ∀ e ∈ es, e.neutral := by
  rcases h with h | ⟨e, h, he⟩
  · exact ⟨[], h, fun _ hx => absurd hx List.not_mem_nil⟩
  · exact ⟨[e], h, fun _ hx => List.mem_singleton.mp hx ▸ he⟩

end PPLV.Watchdog

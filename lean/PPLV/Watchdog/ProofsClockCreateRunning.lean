import PPLV.Watchdog.ProofsClockCreate

/-! `Clock` across a constructor while the clock is running (`new_watchdog_event`, else branch). -/
namespace PPLV.Watchdog

/-- what `get_timer` returns when `rem` µs remain; keeps `Time.mk2` and its divisions folded while a run of
statement groups is simplified -/
def timerOf (rem : Int) : Time := Time.mk2 (rem / 1000000) (rem % 1000000)

theorem getTimer_eq (σ : St) : getTimer σ = timerOf σ.remaining := rfl

/-- the deadline recorded by `new_watchdog_event` when the clock runs -/
def realDeadline (σ : St) (cs : Int) : Time :=
  (Time.ofCs cs).add (σ.tsf.add (σ.ltr.sub (getTimer σ)))

theorem create_B1_eq (b : Bool) (σ : St) (id : Nat) (cs : Int) (hcs : 0 < cs) (hpc : σ.pc = .idle)
    (hf : id ∉ σ.used) (hr : σ.running = true) (hlt : (Time.ofCs cs).lt (getTimer σ) = true)
    (hdf : σ.deferredFlag = false) :
    steps b 4 (create σ id cs) = { σ with
       pending := insertEv ⟨realDeadline σ cs, id, σ.now, cs⟩ σ.pending
       tsf := σ.tsf.add (σ.ltr.sub (getTimer σ))
       ltr := Time.ofCs cs
       sigOnce := Time.ofCs cs
       remaining := (Time.ofCs cs).toUs
       used := id :: σ.used
       live := id :: σ.live
       inCrit := false
       pc := .idle
       log := .constructed id σ.now :: .setitimer (Time.ofCs cs).toUs :: .getitimer σ.remaining ::
                .born id σ.now cs :: σ.log } := by
  obtain ⟨_, _, hnz, hok⟩ := ofCs_facts hcs
  have hne : ¬ cs ≤ 0 := by omega
  rw [getTimer_eq] at hlt
  simp only [steps, create, step, leave, finish, getTimer_eq, realDeadline, hdf, hpc, hf, hr, hnz, hok, hne, hlt,
    ne_eq, not_true_eq_false, or_self, if_false, if_true, Bool.false_eq_true]

theorem create_B2_eq (b : Bool) (σ : St) (id : Nat) (cs : Int) (hcs : 0 < cs) (hpc : σ.pc = .idle)
    (hf : id ∉ σ.used) (hr : σ.running = true) (hlt : (Time.ofCs cs).lt (getTimer σ) = false)
    (hdf : σ.deferredFlag = false) :
    steps b 3 (create σ id cs) = { σ with
       pending := insertEv ⟨realDeadline σ cs, id, σ.now, cs⟩ σ.pending
       used := id :: σ.used
       live := id :: σ.live
       inCrit := false
       pc := .idle
       log := .constructed id σ.now :: .getitimer σ.remaining :: .born id σ.now cs :: σ.log } := by
  have hne : ¬ cs ≤ 0 := by omega
  rw [getTimer_eq] at hlt
  simp only [steps, create, step, leave, finish, getTimer_eq, realDeadline, hdf, hpc, hf, hr, hne, hlt,
    ne_eq, not_true_eq_false, or_self, if_false, if_true, Bool.false_eq_true]

end PPLV.Watchdog

namespace PPLV.Watchdog

structure BFacts (σ : St) (cs : Int) : Prop where
  ttsN : (getTimer σ).Norm
  ttsU : (getTimer σ).toUs = σ.remaining
  curN : (σ.tsf.add (σ.ltr.sub (getTimer σ))).Norm
  curU : (σ.tsf.add (σ.ltr.sub (getTimer σ))).toUs = σ.tsf.toUs + σ.ltr.toUs - σ.remaining
  realN : (realDeadline σ cs).Norm
  realU : (realDeadline σ cs).toUs = cs * 10000 + σ.tsf.toUs + σ.ltr.toUs - σ.remaining

theorem bfacts {σ : St} (h : Clock σ) (hr : σ.running = true) {cs : Int} (hcs : 0 < cs) : BFacts σ cs := by
  obtain ⟨a1, a2, a3, a4⟩ := h.armed hr
  obtain ⟨hn, hu, _, _⟩ := ofCs_facts hcs
  have ttsN : (getTimer σ).Norm := Time.mk2_timer_norm h.remNonneg
  have ttsU : (getTimer σ).toUs = σ.remaining := Time.mk2_timer_toUs σ.remaining
  obtain ⟨curN, curU⟩ := Time.add_sub h.normT h.normL ttsN (by omega)
  rw [ttsU] at curU
  refine ⟨ttsN, ttsU, curN, curU, Time.add_norm hn curN, ?_⟩
  unfold realDeadline
  rw [Time.add_toUs hn curN, curU, hu]; omega

/-- the shared part of the two running-clock cases: pending list, births, cover after insertion -/
theorem clock_insert_parts {σ : St} (h : Clock σ) (hr : σ.running = true) (id : Nat) {cs : Int}
    (hcs : 0 < cs) (F : BFacts σ cs) :
    AllNorm (insertEv ⟨realDeadline σ cs, id, σ.now, cs⟩ σ.pending) ∧
    Sorted (insertEv ⟨realDeadline σ cs, id, σ.now, cs⟩ σ.pending) ∧
    (∀ e ∈ insertEv ⟨realDeadline σ cs, id, σ.now, cs⟩ σ.pending,
        σ.epoch + e.deadline.toUs = e.gBirth + e.gCs * 10000 ∧ 0 < e.gCs) ∧
    (∀ x r, insertEv ⟨realDeadline σ cs, id, σ.now, cs⟩ σ.pending = x :: r →
        x.deadline.toUs = min (realDeadline σ cs).toUs (σ.tsf.toUs + σ.ltr.toUs)) := by
  obtain ⟨a1, a2, a3, a4⟩ := h.armed hr
  refine ⟨allNorm_insertEv F.realN h.normP, sorted_insertEv F.realN h.normP h.sorted, ?_, ?_⟩
  · intro e he
    rcases mem_insertEv.mp he with hh | hh
    · subst hh
      refine ⟨?_, hcs⟩
      show σ.epoch + (realDeadline σ cs).toUs = σ.now + cs * 10000
      rw [F.realU]; omega
    · exact h.birth e hh
  · intro x r hx
    have hne : σ.pending ≠ [] := h.run.mp hr
    cases hpd : σ.pending with
    | nil => exact absurd hpd hne
    | cons e0 r0 =>
      rw [hpd] at hx
      have he0 : e0.deadline.Norm := h.normP e0 (by rw [hpd]; simp)
      obtain ⟨hd, tl, heq, hmin, _⟩ := head_insertEv (x := ⟨realDeadline σ cs, id, σ.now, cs⟩) (r := r0) F.realN he0
      rw [heq] at hx
      injection hx with e1 e2
      subst e1
      rw [hmin, a4 e0 r0 hpd]

theorem clock_create_B1 {σ : St} (h : Clock σ) (id : Nat) (cs : Int) (hcs : 0 < cs) (hpc : σ.pc = .idle)
    (hf : id ∉ σ.used) (hr : σ.running = true) (hlt : (Time.ofCs cs).lt (getTimer σ) = true)
    (hdf : σ.deferredFlag = false) : Clock (steps false 4 (create σ id cs)) := by
  rw [create_B1_eq false σ id cs hcs hpc hf hr hlt hdf]
  obtain ⟨hn, hu, _, _⟩ := ofCs_facts hcs
  obtain ⟨a1, a2, a3, a4⟩ := h.armed hr
  have F := bfacts h hr hcs
  have hlt' : cs * 10000 < σ.remaining := by
    have := (Time.lt_iff hn F.ttsN).mp hlt
    rw [hu, F.ttsU] at this; exact this
  obtain ⟨p1, p2, p3, p4⟩ := clock_insert_parts h hr id hcs F
  obtain ⟨q1, q2, q3⟩ := h.log_parts
    [.constructed id σ.now, .setitimer (Time.ofCs cs).toUs, .getitimer σ.remaining, .born id σ.now cs]
    (insertEv ⟨realDeadline σ cs, id, σ.now, cs⟩ σ.pending) (no_firing rfl)
    (one_birth rfl (mem_insertEv.mpr (Or.inl rfl))) (fun x hx => Or.inl (mem_insertEv.mpr (Or.inr hx)))
  constructor
  · exact Or.inl rfl
  · rfl
  · exact h.noErr
  · exact F.curN
  · exact hn
  · exact p1
  · exact p2
  · show 0 ≤ (Time.ofCs cs).toUs
    omega
  · exact ⟨fun _ => insertEv_ne_nil _ _, fun _ => hr⟩
  · intro _
    refine ⟨?_, Int.le_refl _, ?_, ?_⟩
    · show 0 < (Time.ofCs cs).toUs
      omega
    · show σ.now - σ.epoch = (σ.tsf.add (σ.ltr.sub (getTimer σ))).toUs + (Time.ofCs cs).toUs - (Time.ofCs cs).toUs
      rw [F.curU]; omega
    · intro x r hx
      have h1 := p4 x r hx
      have h2 := F.realU
      have h3 := F.curU
      show x.deadline.toUs = (σ.tsf.add (σ.ltr.sub (getTimer σ))).toUs + (Time.ofCs cs).toUs
      omega
  · intro hh
    have : σ.running = false := hh
    rw [hr] at this; exact absurd this (by simp)
  · exact p3
  · exact q1
  · exact q2
  · exact q3

theorem clock_create_B2 {σ : St} (h : Clock σ) (id : Nat) (cs : Int) (hcs : 0 < cs) (hpc : σ.pc = .idle)
    (hf : id ∉ σ.used) (hr : σ.running = true) (hlt : (Time.ofCs cs).lt (getTimer σ) = false)
    (hdf : σ.deferredFlag = false) : Clock (steps false 3 (create σ id cs)) := by
  rw [create_B2_eq false σ id cs hcs hpc hf hr hlt hdf]
  obtain ⟨hn, hu, _, _⟩ := ofCs_facts hcs
  obtain ⟨a1, a2, a3, a4⟩ := h.armed hr
  have F := bfacts h hr hcs
  have hlt' : σ.remaining ≤ cs * 10000 := by
    have := (Time.lt_false_iff hn F.ttsN).mp hlt
    rw [hu, F.ttsU] at this; exact this
  obtain ⟨p1, p2, p3, p4⟩ := clock_insert_parts h hr id hcs F
  obtain ⟨q1, q2, q3⟩ := h.log_parts [.constructed id σ.now, .getitimer σ.remaining, .born id σ.now cs]
    (insertEv ⟨realDeadline σ cs, id, σ.now, cs⟩ σ.pending) (no_firing rfl)
    (one_birth rfl (mem_insertEv.mpr (Or.inl rfl))) (fun x hx => Or.inl (mem_insertEv.mpr (Or.inr hx)))
  constructor
  · exact Or.inl rfl
  · rfl
  · exact h.noErr
  · exact h.normT
  · exact h.normL
  · exact p1
  · exact p2
  · exact h.remNonneg
  · exact ⟨fun _ => insertEv_ne_nil _ _, fun _ => hr⟩
  · intro _
    refine ⟨a1, a2, a3, ?_⟩
    intro x r hx
    have h1 := p4 x r hx
    have h2 := F.realU
    show x.deadline.toUs = σ.tsf.toUs + σ.ltr.toUs
    omega
  · exact h.idleT
  · exact p3
  · exact q1
  · exact q2
  · exact q3

end PPLV.Watchdog

import PPLV.Watchdog.ProofsClockDestroy

/-! The induction over schedules: as long as no time has passed inside a critical section and no
negative delay was given, every reachable state outside critical sections satisfies `Clock`, and
every state inside one reaches a `Clock` state by finishing the operation. -/
namespace PPLV.Watchdog

theorem steps_idle (b : Bool) (n : Nat) (σ : St) (h : σ.pc = .idle) : steps b n σ = σ := by
  induction n with
  | zero => rfl
  | succ k ih =>
    show steps b k (step b σ) = σ
    rw [step_idle b h]
    exact ih

/-- the three configuration/ghost fields `dirty`, `deferredFlag`, `reschedBug` as a triple -/
def flags (σ : St) : Bool × Bool × Bool := (σ.dirty, σ.deferredFlag, σ.reschedBug)

theorem flags_eq {a b : St} (h : flags a = flags b) :
    a.dirty = b.dirty ∧ a.deferredFlag = b.deferredFlag ∧ a.reschedBug = b.reschedBug := by
  unfold flags at h; simpa using h

theorem setTimerH_flags (σ : St) (t : Time) : flags (setTimerH σ t) = flags σ := by
  unfold setTimerH; split
  · rfl
  · split <;> rfl

theorem handlerBody_flags (b : Bool) (sync : Option Fin) (σ : St) :
    flags (handlerBody b sync σ) = flags σ := by
  unfold handlerBody
  simp only
  split
  · rfl
  · split
    · rfl
    · split
      · exact setTimerH_flags _ _
      · split <;> rfl

theorem finish_flags (σ : St) (fin : Fin) : flags (finish σ fin) = flags σ := by
  cases fin <;> rfl

theorem handler_dirty (b : Bool) (σ : St) : (handler b σ).dirty = σ.dirty := by
  unfold handler
  split
  · split
    · exact (flags_eq (setTimerH_flags _ _)).1
    · rfl
  · exact (flags_eq (handlerBody_flags b none σ)).1

theorem tick_flags (b : Bool) (σ : St) (d : Int) :
    (σ.dirty = true → (tick b σ d).dirty = true) ∧
    (σ.inCrit = true → 0 < d → (tick b σ d).dirty = true) := by
  unfold tick
  split
  · rename_i hd; exact ⟨fun h => h, fun _ h => absurd h (by omega)⟩
  · split
    · exact ⟨fun h => by simp [h], fun h _ => by simp [h]⟩
    · split
      · exact ⟨fun h => by simp [h], fun h _ => by simp [h]⟩
      · refine ⟨fun h => ?_, fun h _ => ?_⟩
        · rw [handler_dirty b _]; simp [h]
        · rw [handler_dirty b _]; simp [h]

theorem setTimerH_log_suffix (τ : St) (t : Time) (base : List Event) (h : ∃ es, τ.log = es ++ base) :
    ∃ es, (setTimerH τ t).log = es ++ base := by
  obtain ⟨es, hes⟩ := h
  unfold setTimerH
  split
  · exact ⟨Event.internalError :: es, by simp [hes]⟩
  · split
    · exact ⟨Event.hset t.toUs :: es, by simp [hes]⟩
    · exact ⟨Event.internalError :: es, by simp [hes]⟩

theorem handlerBody_log_suffix (b : Bool) (sync : Option Fin) (τ : St) :
    ∃ es, (handlerBody b sync τ).log = es ++ τ.log := by
  unfold handlerBody
  simp only
  split
  · exact ⟨[], rfl⟩
  · split
    · exact ⟨_, rfl⟩
    · split
      · exact setTimerH_log_suffix _ _ _ ⟨_, rfl⟩
      · split
        · exact ⟨Event.internalError :: _, rfl⟩
        · exact ⟨_, rfl⟩

theorem finish_log_suffix (τ : St) (fin : Fin) : ∃ es, (finish τ fin).log = es ++ τ.log := by
  cases fin <;> exact ⟨[_], rfl⟩

theorem leave_log_suffix (τ : St) (fin : Fin) : ∃ es, (leave τ fin).log = es ++ τ.log := by
  unfold leave
  split
  · exact ⟨[], rfl⟩
  · exact finish_log_suffix { τ with inCrit := false } fin

theorem handlerBody_inCrit (b : Bool) (sync : Option Fin) (σ : St) :
    (handlerBody b sync σ).inCrit = σ.inCrit := by
  unfold handlerBody
  simp only
  split
  · rfl
  · split
    · rfl
    · split
      · unfold setTimerH; split
        · rfl
        · split <;> rfl
      · split <;> rfl

/-- `τ` continues the operation `σ` is in: the flags are untouched, the log has only grown and a
critical section has not been left.  Every statement group does so except the two that call
`leave_critical_section`. -/
structure Inner (σ τ : St) : Prop where
  flags : flags τ = flags σ
  log : ∃ es, τ.log = es ++ σ.log
  crit : σ.inCrit = true → τ.inCrit = true

/-- the usual case: `τ` logs the events `es` and touches neither the flags nor `in_critical_section` -/
theorem inner_logs {σ τ : St} (es : List Event) (hf : flags τ = flags σ) (hl : τ.log = es ++ σ.log)
    (hc : τ.inCrit = σ.inCrit) : Inner σ τ :=
  ⟨hf, ⟨es, hl⟩, fun h => hc.trans h⟩

theorem Inner.refl (σ : St) : Inner σ σ := inner_logs [] rfl rfl rfl

theorem Inner.trans {σ τ ρ : St} (h1 : Inner σ τ) (h2 : Inner τ ρ) : Inner σ ρ := by
  obtain ⟨e1, l1⟩ := h1.log
  obtain ⟨e2, l2⟩ := h2.log
  exact ⟨h2.flags.trans h1.flags, ⟨e2 ++ e1, by rw [l2, l1, List.append_assoc]⟩, fun h => h2.crit (h1.crit h)⟩

theorem finish_inner (σ : St) (fin : Fin) : Inner σ (finish σ fin) :=
  ⟨finish_flags σ fin, finish_log_suffix σ fin, by cases fin <;> exact fun h => h⟩

theorem handlerBody_inner (b : Bool) (sync : Option Fin) (σ : St) : Inner σ (handlerBody b sync σ) :=
  ⟨handlerBody_flags b sync σ, handlerBody_log_suffix b sync σ, fun h => (handlerBody_inCrit b sync σ).trans h⟩

theorem step_inner_or_leave (b : Bool) (σ : St) :
    Inner σ (step b σ) ∨ ∃ fin, step b σ = leave σ fin := by
  cases hpc : σ.pc with
  | idle => rw [step_idle b hpc]; exact Or.inl (Inner.refl σ)
  | a1 id cs bb d =>
    rw [step_a1 b hpc]; left
    split
    · exact inner_logs [_] rfl rfl rfl
    · exact inner_logs [] rfl rfl rfl
  | a2 id =>
    rw [step_a2 b hpc]; left
    split
    · exact inner_logs [_] rfl rfl rfl
    · exact inner_logs [_, _] rfl rfl rfl
  | b1 id cs bb d => rw [step_b1 b hpc]; exact Or.inl (inner_logs [_] rfl rfl rfl)
  | b2 id cs bb d tts =>
    rw [step_b2 b hpc]; left
    split
    · split
      · exact inner_logs [_] rfl rfl rfl
      · exact inner_logs [] rfl rfl rfl
    · exact inner_logs [] rfl rfl rfl
  | b3 id =>
    rw [step_b3 b hpc]; left
    split
    · exact inner_logs [_] rfl rfl rfl
    · exact inner_logs [_, _] rfl rfl rfl
  | cEnd id => exact Or.inr ⟨_, step_cEnd b hpc⟩
  | d1 id =>
    left
    cases hpd : σ.pending with
    | nil => rw [step_d1_nil b hpc hpd]; exact ⟨rfl, ⟨[], rfl⟩, fun _ => rfl⟩
    | cons e rest =>
      by_cases he : e.id = id
      · cases hrest : rest with
        | nil => rw [step_d1_last b hpc (by rw [hpd, hrest]) he]; exact ⟨rfl, ⟨[], rfl⟩, fun _ => rfl⟩
        | cons n r =>
          rw [step_d1_first b hpc (by rw [hpd, hrest]) he]
          split
          · exact ⟨rfl, ⟨[], rfl⟩, fun _ => rfl⟩
          · exact ⟨rfl, ⟨[], rfl⟩, fun _ => rfl⟩
      · rw [step_d1_other b hpc hpd he]; exact ⟨rfl, ⟨[], rfl⟩, fun _ => rfl⟩
  | r1 id f n => rw [step_r1 b hpc]; exact Or.inl (inner_logs [_] rfl rfl rfl)
  | r2 id f n tts =>
    rw [step_r2 b hpc]; left
    split
    · exact inner_logs [_] rfl rfl rfl
    · exact inner_logs [] rfl rfl rfl
  | r3 id =>
    rw [step_r3 b hpc]; left
    split
    · exact inner_logs [_] rfl rfl rfl
    · exact inner_logs [_, _] rfl rfl rfl
  | s1 id => rw [step_s1 b hpc]; exact Or.inl (inner_logs [] rfl rfl rfl)
  | s2 id =>
    rw [step_s2 b hpc]; left
    split
    · exact inner_logs [_] rfl rfl rfl
    · exact inner_logs [_, _] rfl rfl rfl
  | dEnd id => exact Or.inr ⟨_, step_dEnd b hpc⟩
  | l2 fin => rw [step_l2 b hpc]; exact Or.inl (inner_logs [_] rfl rfl rfl)
  | l3 fin tts =>
    rw [step_l3 b hpc]; left
    split
    · split
      · exact (handlerBody_inner b _ σ).trans (finish_inner _ fin)
      · exact handlerBody_inner b _ σ
    · exact finish_inner σ fin
  | l4 fin =>
    rw [step_l4 b hpc]; left
    split
    · exact inner_logs [_] rfl rfl rfl
    · exact inner_logs [_, _] rfl rfl rfl
  | l5 fin => rw [step_l5 b hpc]; exact Or.inl (finish_inner σ fin)

/-- a statement group changes none of the flags, except that leaving a critical section consumes
`timeout_deferred` -/
theorem step_flags' (b : Bool) (σ : St) :
    (step b σ).dirty = σ.dirty ∧ (step b σ).reschedBug = σ.reschedBug ∧
    ((step b σ).deferredFlag = true → σ.deferredFlag = true) := by
  rcases step_inner_or_leave b σ with hi | ⟨fin, hl⟩
  · obtain ⟨f1, f2, f3⟩ := flags_eq hi.flags
    exact ⟨f1, f3, fun hh => f2 ▸ hh⟩
  · rw [hl]; unfold leave
    split
    · rename_i h; exact ⟨rfl, rfl, fun _ => h⟩
    · obtain ⟨f1, f2, f3⟩ := flags_eq (finish_flags { σ with inCrit := false } fin)
      exact ⟨f1, f3, fun hh => by rw [f2] at hh; exact hh⟩

theorem step_flags (b : Bool) (σ : St) : (step b σ).dirty = σ.dirty := (step_flags' b σ).1

theorem create_flags (σ : St) (id : Nat) (cs : Int) : flags (create σ id cs) = flags σ := by
  unfold create
  split
  · rfl
  · split <;> rfl

theorem destroy_flags (σ : St) (id : Nat) : flags (destroy σ id) = flags σ := by
  unfold destroy
  split
  · rfl
  · split <;> rfl

theorem exec_flags (b : Bool) (σ : St) (s : Step) : σ.dirty = true → (exec b σ s).dirty = true := by
  intro h
  cases s with
  | create id cs =>
    show (create σ id cs).dirty = true
    rw [(flags_eq (create_flags σ id cs)).1]; exact h
  | destroy id =>
    show (destroy σ id).dirty = true
    rw [(flags_eq (destroy_flags σ id)).1]; exact h
  | step => show (step b σ).dirty = true; rw [step_flags b σ]; exact h
  | tick d => exact (tick_flags b σ d).1 h

/-- the run is of the repaired code, and `timeout_deferred` can only have been set by a timer
expiry inside a critical section — for which time must have passed there -/
structure Cfg (σ : St) : Prop where
  flag : σ.deferredFlag = true → σ.dirty = true
  fixed : σ.reschedBug = false

theorem cfg_init : Cfg {} := ⟨fun h => by simp at h, rfl⟩

/-- `Cfg` survives whatever keeps `dirty` and `reschedBug` and does not set `timeout_deferred` -/
theorem Cfg.keep {σ τ : St} (h : Cfg σ) (hd : τ.dirty = σ.dirty) (hr : τ.reschedBug = σ.reschedBug)
    (hf : τ.deferredFlag = true → σ.deferredFlag = true) : Cfg τ :=
  ⟨fun hh => hd.trans (h.flag (hf hh)), hr.trans h.fixed⟩

theorem cfg_exec (b : Bool) {σ : St} (h : Cfg σ) (s : Step) : Cfg (exec b σ s) := by
  cases s with
  | create id cs =>
    obtain ⟨f1, f2, f3⟩ := flags_eq (create_flags σ id cs)
    exact h.keep f1 f3 fun hh => f2 ▸ hh
  | destroy id =>
    obtain ⟨f1, f2, f3⟩ := flags_eq (destroy_flags σ id)
    exact h.keep f1 f3 fun hh => f2 ▸ hh
  | step =>
    obtain ⟨f1, f2, f3⟩ := step_flags' b σ
    exact h.keep f1 f2 f3
  | tick d =>
    show Cfg (tick b σ d)
    unfold tick
    split
    · exact h
    · split
      · exact ⟨fun hh => by simp [h.flag hh], h.fixed⟩
      · split
        · exact ⟨fun hh => by simp [h.flag hh], h.fixed⟩
        · -- the handler runs
          have key := fun τ => flags_eq (handlerBody_flags b none τ)
          unfold handler
          split
          · rename_i hc
            have hc' : σ.inCrit = true := hc
            split
            · rename_i hb
              have : σ.reschedBug = true := hb
              rw [h.fixed] at this; exact absurd this (by simp)
            · exact ⟨fun _ => by simp [hc'], h.fixed⟩
          · refine ⟨fun hh => ?_, ?_⟩
            · rw [(key _).1]; rw [(key _).2.1] at hh; simp [h.flag hh]
            · rw [(key _).2.2]; exact h.fixed

/-- a statement group that leaves the critical section ends the operation (no deferred timeout) -/
theorem step_leaves_crit (b : Bool) (σ : St) (h : σ.inCrit = true) (hdf : σ.deferredFlag = false)
    (h' : (step b σ).inCrit = false) : (step b σ).pc = .idle := by
  rcases step_inner_or_leave b σ with hi | ⟨fin, hl⟩
  · rw [hi.crit h] at h'
    exact absurd h' (by simp)
  · rw [hl]; unfold leave
    simp only [hdf, Bool.false_eq_true, if_false]
    cases fin <;> rfl

theorem step_log_suffix (b : Bool) (σ : St) : ∃ es, (step b σ).log = es ++ σ.log := by
  rcases step_inner_or_leave b σ with hi | ⟨fin, hl⟩
  · exact hi.log
  · rw [hl]; exact leave_log_suffix σ fin

def Inv (σ : St) : Prop :=
  σ.dirty = true ∨ Clock σ ∨ (σ.inCrit = true ∧ ∃ n, Clock (steps false n σ))

theorem inv_create {σ : St} (h : Clock σ) (hdf : σ.deferredFlag = false) (id : Nat) (cs : Int) :
    Inv (create σ id cs) := by
  by_cases hg : σ.pc ≠ .idle ∨ id ∈ σ.used
  · have : create σ id cs = σ := by unfold create; simp [hg]
    rw [this]; exact Or.inr (Or.inl h)
  · have hpc : σ.pc = .idle := by
      by_cases hh : σ.pc = .idle
      · exact hh
      · exact absurd (Or.inl hh) hg
    have hf : id ∉ σ.used := fun hh => hg (Or.inr hh)
    by_cases h0 : cs ≤ 0
    · right; left
      have : create σ id cs = { σ with used := id :: σ.used, log := .rejected id cs :: σ.log } := by
        unfold create; simp [hg, h0]
      rw [this]
      exact h.frame (Or.inl hpc) h.notCrit h.noErr rfl rfl rfl rfl rfl rfl rfl
        ⟨[Event.rejected id cs], rfl, rfl, rfl⟩
    · have hcs : 0 < cs := by omega
      have hcrit : (create σ id cs).inCrit = true := by unfold create; simp [hg, h0]
      right; right
      refine ⟨hcrit, ?_⟩
      cases hr : σ.running
      · exact ⟨3, clock_create_A h id cs hcs hpc hf hr hdf⟩
      · cases hlt : (Time.ofCs cs).lt (getTimer σ)
        · exact ⟨3, clock_create_B2 h id cs hcs hpc hf hr hlt hdf⟩
        · exact ⟨4, clock_create_B1 h id cs hcs hpc hf hr hlt hdf⟩

theorem inv_destroy {σ : St} (h : Clock σ) (id : Nat) : Inv (destroy σ id) := by
  right; left
  unfold destroy
  split
  · exact h
  · rename_i hg
    have hpc : σ.pc = .idle := by
      by_cases hh : σ.pc = .idle
      · exact hh
      · exact absurd (Or.inl hh) hg
    split
    · exact h.frame (Or.inl hpc) h.notCrit h.noErr rfl rfl rfl rfl rfl rfl rfl ⟨[.destroyed id σ.now], rfl, rfl, rfl⟩
    · exact h.frame (Or.inr ⟨id, rfl⟩) h.notCrit h.noErr rfl rfl rfl rfl rfl rfl rfl ⟨[], rfl, rfl, rfl⟩

theorem inv_step_d1 {σ : St} (h : Clock σ) (hdf : σ.deferredFlag = false) (id : Nat) (hpc : σ.pc = .d1 id) :
    Inv (step false σ) := by
  right; right
  have hcrit : (step false σ).inCrit = true := by
    unfold step; simp only [hpc]
    split
    · rfl
    · split
      · split
        · rfl
        · split <;> rfl
      · rfl
  refine ⟨hcrit, ?_⟩
  cases hp : σ.pending with
  | nil => exact ⟨1, clock_destroy_nil h id hpc hp hdf⟩
  | cons e rest =>
    by_cases he : e.id = id
    · cases hrest : rest with
      | nil => exact ⟨3, clock_destroy_last h id hpc e (by rw [hp, hrest]) he hdf⟩
      | cons n r' =>
        cases hne : Time.ne false e.deadline n.deadline
        · exact ⟨1, clock_destroy_eqdl h id hpc e n r' (by rw [hp, hrest]) he hne hdf⟩
        · exact ⟨4, clock_destroy_rearm h id hpc e n r' (by rw [hp, hrest]) he hne hdf⟩
    · exact ⟨1, clock_destroy_other h id hpc e rest hp he hdf⟩

theorem inv_exec {σ : St} (hcfg : Cfg σ) (h : Inv σ) (s : Step) : Inv (exec false σ s) := by
  by_cases hdirty : σ.dirty = true
  · exact Or.inl (exec_flags false σ s hdirty)
  have hdf : σ.deferredFlag = false := by
    cases hh : σ.deferredFlag
    · rfl
    · exact absurd (hcfg.flag hh) hdirty
  rcases h with hd | hc | ⟨hcrit, n, hn⟩
  · exact absurd hd hdirty
  · cases s with
    | create id cs => exact inv_create hc hdf id cs
    | destroy id => exact inv_destroy hc id
    | step =>
      rcases hc.pcOut with hpc | ⟨id, hpc⟩
      · show Inv (step false σ)
        rw [step_idle false hpc]
        exact Or.inr (Or.inl hc)
      · exact inv_step_d1 hc hdf id hpc
    | tick d => exact Or.inr (Or.inl (clock_tick hc d))
  · cases n with
    | zero =>
      have := hn.notCrit
      have hn' : (steps false 0 σ).inCrit = σ.inCrit := rfl
      rw [hn', hcrit] at this; exact absurd this (by simp)
    | succ k =>
      have hnotidle : σ.pc ≠ .idle := by
        intro hidle
        rw [steps_idle false (k+1) σ hidle] at hn
        have := hn.notCrit; rw [hcrit] at this; exact absurd this (by simp)
      cases s with
      | create id cs =>
        have : create σ id cs = σ := by unfold create; simp [hnotidle]
        show Inv (create σ id cs)
        rw [this]; exact Or.inr (Or.inr ⟨hcrit, k+1, hn⟩)
      | destroy id =>
        have : destroy σ id = σ := by unfold destroy; simp [hnotidle]
        show Inv (destroy σ id)
        rw [this]; exact Or.inr (Or.inr ⟨hcrit, k+1, hn⟩)
      | step =>
        have hn' : Clock (steps false k (step false σ)) := hn
        show Inv (step false σ)
        cases hc' : (step false σ).inCrit
        · have hidle := step_leaves_crit false σ hcrit hdf hc'
          rw [steps_idle false k _ hidle] at hn'
          exact Or.inr (Or.inl hn')
        · exact Or.inr (Or.inr ⟨hc', k, hn'⟩)
      | tick d =>
        show Inv (tick false σ d)
        by_cases hd : 0 < d
        · exact Or.inl ((tick_flags false σ d).2 hcrit hd)
        · have : tick false σ d = σ := by unfold tick; simp [show d ≤ 0 by omega]
          rw [this]; exact Or.inr (Or.inr ⟨hcrit, k+1, hn⟩)

theorem inv_runFrom (sched : List Step) : ∀ σ, Cfg σ → Inv σ → Cfg (runFrom false σ sched) ∧ Inv (runFrom false σ sched) := by
  induction sched with
  | nil => intro σ hc h; exact ⟨hc, h⟩
  | cons s l ih => intro σ hc h; exact ih _ (cfg_exec false hc s) (inv_exec hc h s)

theorem inv_run (sched : List Step) : Inv (run false sched) :=
  (inv_runFrom sched {} cfg_init (Or.inr (Or.inl clock_init))).2

theorem cfg_run (sched : List Step) : Cfg (run false sched) :=
  (inv_runFrom sched {} cfg_init (Or.inr (Or.inl clock_init))).1

end PPLV.Watchdog

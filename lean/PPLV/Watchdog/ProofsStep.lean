import PPLV.Watchdog.Model

/-! `step` at each program counter: the arm of its `match`, with the tests of that arm left in place.
Proofs about one statement group rewrite with the equation of its program counter and never unfold
`step` as a whole. -/
namespace PPLV.Watchdog

variable (eqBug : Bool) {σ : St} {id : Nat} {cs b : Int} {d tts f n : Time} {fin : Fin}

theorem step_idle (h : σ.pc = .idle) : step eqBug σ = σ := by
  unfold step; simp only [h]

theorem step_a1 (h : σ.pc = .a1 id cs b d) :
    step eqBug σ =
      if d.isZero then { σ with pc := .idle, err := true, log := .internalError :: σ.log }
      else { σ with pending := insertEv ⟨d, id, b, cs⟩ σ.pending, tsf := Time.zero, ltr := d,
                    sigOnce := d, pc := .a2 id } := by
  unfold step; simp only [h]

theorem step_a2 (h : σ.pc = .a2 id) :
    step eqBug σ =
      if σ.sigOnce.timevalOK then
        { σ with remaining := σ.sigOnce.toUs, epoch := σ.now, running := true,
                 log := .setitimer σ.sigOnce.toUs :: σ.log, pc := .cEnd id }
      else throwCtor σ id := by
  unfold step; simp only [h]

theorem step_b1 (h : σ.pc = .b1 id cs b d) :
    step eqBug σ =
      { σ with log := .getitimer σ.remaining :: σ.log, pc := .b2 id cs b d (getTimer σ) } := by
  unfold step; simp only [h]

theorem step_b2 (h : σ.pc = .b2 id cs b d tts) :
    step eqBug σ =
      if d.lt tts then
        if d.isZero then
          { σ with pending := insertEv ⟨d.add (σ.tsf.add (σ.ltr.sub tts)), id, b, cs⟩ σ.pending,
                   tsf := σ.tsf.add (σ.ltr.sub tts), pc := .idle, err := true,
                   log := .internalError :: σ.log }
        else
          { σ with pending := insertEv ⟨d.add (σ.tsf.add (σ.ltr.sub tts)), id, b, cs⟩ σ.pending,
                   tsf := σ.tsf.add (σ.ltr.sub tts), ltr := d, sigOnce := d, pc := .b3 id }
      else
        { σ with pending := insertEv ⟨d.add (σ.tsf.add (σ.ltr.sub tts)), id, b, cs⟩ σ.pending,
                 pc := .cEnd id } := by
  unfold step; simp only [h]

theorem step_b3 (h : σ.pc = .b3 id) :
    step eqBug σ =
      if σ.sigOnce.timevalOK then
        { σ with remaining := σ.sigOnce.toUs, log := .setitimer σ.sigOnce.toUs :: σ.log,
                 pc := .cEnd id }
      else throwCtor σ id := by
  unfold step; simp only [h]

theorem step_cEnd (h : σ.pc = .cEnd id) : step eqBug σ = leave σ (.ctor id) := by
  unfold step; simp only [h]

theorem step_d1_nil (h : σ.pc = .d1 id) (hp : σ.pending = []) :
    step eqBug σ = { σ with inCrit := true, pc := .dEnd id } := by
  unfold step; simp only [h, hp]

theorem step_d1_other {e : Ev} {rest : List Ev} (h : σ.pc = .d1 id)
    (hp : σ.pending = e :: rest) (he : e.id ≠ id) :
    step eqBug σ = { σ with inCrit := true, pending := eraseId id σ.pending, pc := .dEnd id } := by
  unfold step; simp only [h]
  rw [hp]
  exact if_neg he

theorem step_d1_last {e : Ev} (h : σ.pc = .d1 id) (hp : σ.pending = [e])
    (he : e.id = id) : step eqBug σ = { σ with inCrit := true, pc := .s1 id } := by
  unfold step; simp only [h]
  rw [hp]
  exact if_pos he

/-- the first of several events goes: the timer is re-armed only if the first two deadlines differ -/
theorem step_d1_first {e n : Ev} {r : List Ev} (h : σ.pc = .d1 id)
    (hp : σ.pending = e :: n :: r) (he : e.id = id) :
    step eqBug σ =
      if Time.ne eqBug e.deadline n.deadline then
        { σ with inCrit := true, pc := .r1 id e.deadline n.deadline }
      else { σ with inCrit := true, pending := eraseId id σ.pending, pc := .dEnd id } := by
  unfold step; simp only [h]
  rw [hp]
  exact if_pos he

theorem step_r1 (h : σ.pc = .r1 id f n) :
    step eqBug σ =
      { σ with log := .getitimer σ.remaining :: σ.log, pc := .r2 id f n (getTimer σ) } := by
  unfold step; simp only [h]

theorem step_r2 (h : σ.pc = .r2 id f n tts) :
    step eqBug σ =
      if (tts.add (n.sub f)).isZero then
        { σ with tsf := σ.tsf.add (σ.ltr.sub tts), err := true, pc := .idle,
                 log := .internalError :: σ.log }
      else
        { σ with tsf := σ.tsf.add (σ.ltr.sub tts), ltr := tts.add (n.sub f),
                 sigOnce := tts.add (n.sub f), pc := .r3 id } := by
  unfold step; simp only [h]

theorem step_r3 (h : σ.pc = .r3 id) :
    step eqBug σ =
      if σ.sigOnce.timevalOK then
        { σ with remaining := σ.sigOnce.toUs, log := .setitimer σ.sigOnce.toUs :: σ.log,
                 pending := eraseId id σ.pending, pc := .dEnd id }
      else { σ with err := true, pc := .idle, log := .internalError :: .setfail :: σ.log } := by
  unfold step; simp only [h]

theorem step_s1 (h : σ.pc = .s1 id) :
    step eqBug σ = { σ with sigOnce := Time.zero, pc := .s2 id } := by
  unfold step; simp only [h]

theorem step_s2 (h : σ.pc = .s2 id) :
    step eqBug σ =
      if σ.sigOnce.timevalOK then
        { σ with remaining := σ.sigOnce.toUs, running := false,
                 log := .setitimer σ.sigOnce.toUs :: σ.log,
                 pending := eraseId id σ.pending, pc := .dEnd id }
      else { σ with err := true, pc := .idle, log := .internalError :: .setfail :: σ.log } := by
  unfold step; simp only [h]

theorem step_dEnd (h : σ.pc = .dEnd id) : step eqBug σ = leave σ (.dtor id) := by
  unfold step; simp only [h]

theorem step_l2 (h : σ.pc = .l2 fin) :
    step eqBug σ =
      { σ with log := .getitimer σ.remaining :: σ.log, pc := .l3 fin (getTimer σ) } := by
  unfold step; simp only [h]

theorem step_l3 (h : σ.pc = .l3 fin tts) :
    step eqBug σ =
      if tts.isZero then
        if (handlerBody eqBug (some fin) σ).pc = σ.pc then finish (handlerBody eqBug (some fin) σ) fin
        else handlerBody eqBug (some fin) σ
      else finish σ fin := by
  unfold step; simp only [h]

theorem step_l4 (h : σ.pc = .l4 fin) :
    step eqBug σ =
      if σ.sigOnce.timevalOK then
        { σ with remaining := σ.sigOnce.toUs, log := .setitimer σ.sigOnce.toUs :: σ.log,
                 pc := .l5 fin }
      else { σ with err := true, pc := .idle, log := .internalError :: .setfail :: σ.log } := by
  unfold step; simp only [h]

theorem step_l5 (h : σ.pc = .l5 fin) : step eqBug σ = finish σ fin := by
  unfold step; simp only [h]

end PPLV.Watchdog

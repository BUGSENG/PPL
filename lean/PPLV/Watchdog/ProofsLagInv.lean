import PPLV.Watchdog.ProofsClockLog

/-! Statement-level invariant for runs in which time may pass ANYWHERE (also between the
statements of a critical section) but no timer expiry lands inside a critical section (no signal
is deferred): the reconstructed clock never runs ahead of real time, so no action runs early. -/
namespace PPLV.Watchdog

/-- pc-independent part -/
structure Base (σ : St) : Prop where
  noErr : σ.err = false
  cfg : σ.reschedBug = false
  normT : σ.tsf.Norm
  normL : σ.ltr.Norm
  normP : AllNorm σ.pending
  sorted : Sorted σ.pending
  remNonneg : 0 ≤ σ.remaining
  fired : ∀ id t b cs, Event.fired id t b cs ∈ σ.log → b + cs * 10000 ≤ t

/-- the clock runs, the timer is armed for the first pending deadline, and the reconstructed clock
`time_so_far + last_time_requested - remaining` does not run ahead: for every pending element,
birth + delay + (reconstructed clock) ≤ recorded deadline + real time -/
def Armed (σ : St) : Prop :=
  σ.running = true ∧ 0 ≤ σ.remaining ∧ σ.remaining ≤ σ.ltr.toUs ∧
  (∃ e r, σ.pending = e :: r ∧ e.deadline.toUs = σ.tsf.toUs + σ.ltr.toUs) ∧
  ∀ e ∈ σ.pending, e.gBirth + e.gCs * 10000 + (σ.tsf.toUs + σ.ltr.toUs - σ.remaining) ≤ e.deadline.toUs + σ.now

def Stopped (σ : St) : Prop := σ.running = false ∧ σ.remaining = 0 ∧ σ.pending = []

def Stable (σ : St) : Prop := Armed σ ∨ Stopped σ

/-- inside `set_timer`, before `setitimer`: once the call is made (and `pend` is the pending list)
the state is `Armed` -/
def PreArmed (σ : St) (pend : List Ev) : Prop :=
  σ.running = true ∧ σ.sigOnce = σ.ltr ∧ 0 < σ.ltr.toUs ∧
  (∃ e r, pend = e :: r ∧ e.deadline.toUs = σ.tsf.toUs + σ.ltr.toUs) ∧
  ∀ e ∈ pend, e.gBirth + e.gCs * 10000 + σ.tsf.toUs ≤ e.deadline.toUs + σ.now

def PcInvAt (σ : St) (pc : PC) : Prop :=
  match pc with
  | .idle => σ.inCrit = false ∧ Stable σ
  | .d1 _ => σ.inCrit = false ∧ Stable σ
  | .a1 _ cs b d => σ.inCrit = true ∧ Stopped σ ∧ d = Time.ofCs cs ∧ 0 < cs ∧ b ≤ σ.now
  | .a2 id => σ.inCrit = true ∧ σ.running = false ∧ σ.remaining = 0 ∧ σ.tsf = Time.zero ∧ σ.sigOnce = σ.ltr ∧
      ∃ b cs, σ.pending = [⟨σ.ltr, id, b, cs⟩] ∧ σ.ltr = Time.ofCs cs ∧ 0 < cs ∧ b ≤ σ.now
  | .b1 _ cs b d => σ.inCrit = true ∧ Armed σ ∧ d = Time.ofCs cs ∧ 0 < cs ∧ b ≤ σ.now
  | .b2 _ cs b d tts => σ.inCrit = true ∧ Armed σ ∧ d = Time.ofCs cs ∧ 0 < cs ∧ tts.Norm ∧
      σ.remaining ≤ tts.toUs ∧ tts.toUs ≤ σ.ltr.toUs ∧ b + tts.toUs ≤ σ.now + σ.remaining
  | .b3 _ => σ.inCrit = true ∧ PreArmed σ σ.pending
  | .cEnd _ => σ.inCrit = true ∧ Stable σ
  | .r1 id f n => σ.inCrit = true ∧ Armed σ ∧ ∃ e n' rest, σ.pending = e :: n' :: rest ∧ e.id = id ∧
      f = e.deadline ∧ n = n'.deadline ∧ f.toUs < n.toUs
  | .r2 id f n tts => σ.inCrit = true ∧ Armed σ ∧ (∃ e n' rest, σ.pending = e :: n' :: rest ∧ e.id = id ∧
      f = e.deadline ∧ n = n'.deadline ∧ f.toUs < n.toUs) ∧ tts.Norm ∧ σ.remaining ≤ tts.toUs ∧ tts.toUs ≤ σ.ltr.toUs
  | .r3 id => σ.inCrit = true ∧ ∃ e rest, σ.pending = e :: rest ∧ e.id = id ∧ PreArmed σ rest
  | .s1 id => σ.inCrit = true ∧ Armed σ ∧ ∃ e, σ.pending = [e] ∧ e.id = id
  | .s2 id => σ.inCrit = true ∧ Armed σ ∧ (∃ e, σ.pending = [e] ∧ e.id = id) ∧ σ.sigOnce = Time.zero
  | .dEnd _ => σ.inCrit = true ∧ Stable σ
  | .l2 _ => σ.inCrit = false ∧ Stable σ
  | .l3 _ tts => σ.inCrit = false ∧ Stable σ ∧ (tts.isZero = true → σ.remaining = 0)
  | .l4 _ => σ.inCrit = false ∧ σ.remaining = 0 ∧ PreArmed σ σ.pending
  | .l5 _ => σ.inCrit = false ∧ Stable σ

def PcInv (σ : St) : Prop := PcInvAt σ σ.pc

structure LagInv (σ : St) : Prop where
  base : Base σ
  pcInv : PcInv σ

theorem pcInv_of {σ : St} {pc : PC} (h : σ.pc = pc) : PcInv σ ↔ PcInvAt σ pc := by
  unfold PcInv; rw [h]

theorem lag_init : LagInv {} := by
  refine ⟨⟨rfl, rfl, Time.norm_zero, Time.norm_zero, ?_, ?_, Int.le_refl 0, ?_⟩, ?_⟩
  · intro e he; simp at he
  · simp [Sorted]
  · intro id t b cs hh; simp at hh
  · show PcInvAt {} PC.idle
    exact ⟨rfl, Or.inr ⟨rfl, rfl, rfl⟩⟩

/-- outside a critical section, with the timer armed: the state is `Stable`, and the pc assertion
survives any change that keeps pc, stays outside the critical section and ends `Stable` -/
theorem pcInv_async {σ : St} (h : PcInv σ) (hc : σ.inCrit = false) (hr : 0 < σ.remaining) :
    Stable σ ∧ ∀ σ' : St, σ'.pc = σ.pc → σ'.inCrit = false → Stable σ' → PcInv σ' := by
  unfold PcInv at h
  cases hpc : σ.pc <;> rw [hpc] at h <;> simp only [PcInvAt] at h
  case idle => exact ⟨h.2, fun σ' h1 h2 h3 => by unfold PcInv; rw [h1]; exact ⟨h2, h3⟩⟩
  case d1 => exact ⟨h.2, fun σ' h1 h2 h3 => by unfold PcInv; rw [h1]; exact ⟨h2, h3⟩⟩
  case l2 => exact ⟨h.2, fun σ' h1 h2 h3 => by unfold PcInv; rw [h1]; exact ⟨h2, h3⟩⟩
  case l5 => exact ⟨h.2, fun σ' h1 h2 h3 => by unfold PcInv; rw [h1]; exact ⟨h2, h3⟩⟩
  case l3 fin tts =>
    have hnz : tts.isZero = false := by
      cases hz : tts.isZero
      · rfl
      · have := h.2.2 hz; omega
    exact ⟨h.2.1, fun σ' h1 h2 h3 => by
      unfold PcInv; rw [h1]; exact ⟨h2, h3, fun hz => by rw [hnz] at hz; exact absurd hz (by simp)⟩⟩
  case l4 => have := h.2.1; omega
  all_goals (have := h.1; rw [hc] at this; exact absurd this (by simp))

/-! ### time passes without the timer expiring -/

theorem Armed.advance {σ σ' : St} (h : Armed σ) (d : Int) (hd : 0 ≤ d)
    (hcase : (d ≤ σ.remaining ∧ σ'.remaining = σ.remaining - d) ∨
             (σ.remaining = 0 ∧ σ'.remaining = σ.remaining))
    (hnow : σ'.now = σ.now + d)
    (hpend : σ'.pending = σ.pending) (htsf : σ'.tsf = σ.tsf) (hltr : σ'.ltr = σ.ltr)
    (hrun : σ'.running = σ.running) : Armed σ' := by
  obtain ⟨a1, a2, a3, a4, a5⟩ := h
  unfold Armed
  rw [hrun, hltr, htsf, hpend, hnow]
  refine ⟨a1, by rcases hcase with ⟨c1, c2⟩ | ⟨c1, c2⟩ <;> omega,
    by rcases hcase with ⟨c1, c2⟩ | ⟨c1, c2⟩ <;> omega, a4, ?_⟩
  intro e he
  have := a5 e he
  rcases hcase with ⟨c1, c2⟩ | ⟨c1, c2⟩ <;> omega

theorem PreArmed.advance {σ σ' : St} {pend : List Ev} (h : PreArmed σ pend) (d : Int) (hd : 0 ≤ d)
    (hnow : σ'.now = σ.now + d) (htsf : σ'.tsf = σ.tsf) (hltr : σ'.ltr = σ.ltr)
    (hso : σ'.sigOnce = σ.sigOnce) (hrun : σ'.running = σ.running) : PreArmed σ' pend := by
  obtain ⟨a1, a2, a3, a4, a5⟩ := h
  unfold PreArmed
  rw [hrun, hltr, htsf, hnow, hso]
  refine ⟨a1, a2, a3, a4, ?_⟩
  intro e he
  have := a5 e he
  omega

/-- `setitimer(&signal_once)` inside `set_timer`, with `pend` the pending list afterwards -/
theorem PreArmed.arm {σ σ' : St} {pend : List Ev} (h : PreArmed σ pend)
    (hrem : σ'.remaining = σ.sigOnce.toUs) (hpend : σ'.pending = pend) (hnow : σ'.now = σ.now)
    (htsf : σ'.tsf = σ.tsf) (hltr : σ'.ltr = σ.ltr) (hrun : σ'.running = σ.running) : Armed σ' := by
  obtain ⟨a1, a2, a3, a4, a5⟩ := h
  unfold Armed
  rw [hrun, hrem, hpend, hnow, htsf, hltr, a2]
  exact ⟨a1, Int.le_of_lt a3, Int.le_refl _, a4, fun e he => by have := a5 e he; omega⟩

/-- time passes, the timer (if armed) does not expire: every pc assertion is kept -/
theorem PcInv.advance {σ σ' : St} (h : PcInv σ) (d : Int) (hd : 0 ≤ d)
    (hcase : (d ≤ σ.remaining ∧ σ'.remaining = σ.remaining - d) ∨
             (σ.remaining = 0 ∧ σ'.remaining = σ.remaining))
    (hnow : σ'.now = σ.now + d) (hpend : σ'.pending = σ.pending) (htsf : σ'.tsf = σ.tsf)
    (hltr : σ'.ltr = σ.ltr) (hso : σ'.sigOnce = σ.sigOnce) (hrun : σ'.running = σ.running)
    (hcrit : σ'.inCrit = σ.inCrit) (hpc : σ'.pc = σ.pc) : PcInv σ' := by
  have armed' : Armed σ → Armed σ' := fun ha => ha.advance d hd hcase hnow hpend htsf hltr hrun
  have stopped' : Stopped σ → Stopped σ' := by
    rintro ⟨s1, s2, s3⟩
    refine ⟨by rw [hrun]; exact s1, ?_, by rw [hpend]; exact s3⟩
    rcases hcase with ⟨h1, h2⟩ | ⟨_, h2⟩
    · omega
    · rw [h2]; exact s2
  have stable' : Stable σ → Stable σ' := fun hs => hs.elim (fun x => Or.inl (armed' x)) (fun x => Or.inr (stopped' x))
  have pre' : ∀ pend, PreArmed σ pend → PreArmed σ' pend :=
    fun pend hp => hp.advance d hd hnow htsf hltr hso hrun
  have rem' : σ'.remaining ≤ σ.remaining ∧ σ.now + σ.remaining ≤ σ'.now + σ'.remaining := by
    rcases hcase with ⟨h1, h2⟩ | ⟨h1, h2⟩ <;> omega
  unfold PcInv at h ⊢
  rw [hpc]
  cases hc : σ.pc <;> rw [hc] at h <;> simp only [PcInvAt] at h ⊢ <;> rw [hcrit]
  · exact ⟨h.1, stable' h.2⟩
  · obtain ⟨h1, h2, h3, h4, h5⟩ := h
    exact ⟨h1, stopped' h2, h3, h4, by omega⟩
  · obtain ⟨h1, h2, h3, h4, h5, b, cs, h6, h7, h8, h9⟩ := h
    have hr : σ'.remaining = 0 := by
      rcases hcase with ⟨c1, c2⟩ | ⟨_, c2⟩
      · omega
      · rw [c2]; exact h3
    exact ⟨h1, by rw [hrun]; exact h2, hr, by rw [htsf]; exact h4, by rw [hso, hltr]; exact h5,
      b, cs, by rw [hpend, hltr]; exact h6, by rw [hltr]; exact h7, h8, by omega⟩
  · obtain ⟨h1, h2, h3, h4, h5⟩ := h
    exact ⟨h1, armed' h2, h3, h4, by omega⟩
  · obtain ⟨h1, h2, h3, h4, h5, h6, h7, h8⟩ := h
    exact ⟨h1, armed' h2, h3, h4, h5, by omega, by rw [hltr]; exact h7, by omega⟩
  · exact ⟨h.1, by rw [hpend]; exact pre' _ h.2⟩
  · exact ⟨h.1, stable' h.2⟩
  · exact ⟨h.1, stable' h.2⟩
  · obtain ⟨h1, h2, h3⟩ := h
    exact ⟨h1, armed' h2, by rw [hpend]; exact h3⟩
  · obtain ⟨h1, h2, h3, h4, h5, h6⟩ := h
    exact ⟨h1, armed' h2, by rw [hpend]; exact h3, h4, by omega, by rw [hltr]; exact h6⟩
  · obtain ⟨h1, e, rest, h2, h3, h4⟩ := h
    exact ⟨h1, e, rest, by rw [hpend]; exact h2, h3, pre' _ h4⟩
  · obtain ⟨h1, h2, h3⟩ := h
    exact ⟨h1, armed' h2, by rw [hpend]; exact h3⟩
  · obtain ⟨h1, h2, h3, h4⟩ := h
    exact ⟨h1, armed' h2, by rw [hpend]; exact h3, by rw [hso]; exact h4⟩
  · exact ⟨h.1, stable' h.2⟩
  · exact ⟨h.1, stable' h.2⟩
  · obtain ⟨h1, h2, h3⟩ := h
    refine ⟨h1, stable' h2, fun hz => ?_⟩
    have := h3 hz
    rcases hcase with ⟨c1, c2⟩ | ⟨c1, c2⟩ <;> omega
  · obtain ⟨h1, h2, h3⟩ := h
    refine ⟨h1, ?_, by rw [hpend]; exact pre' _ h3⟩
    rcases hcase with ⟨c1, c2⟩ | ⟨c1, c2⟩ <;> omega
  · exact ⟨h.1, stable' h.2⟩

theorem Base.advance {σ σ' : St} (h : Base σ) (hrem : 0 ≤ σ'.remaining)
    (hpend : σ'.pending = σ.pending) (htsf : σ'.tsf = σ.tsf) (hltr : σ'.ltr = σ.ltr)
    (herr : σ'.err = σ.err) (hlog : σ'.log = σ.log) (hcfg : σ'.reschedBug = σ.reschedBug) : Base σ' := by
  constructor
  · rw [herr]; exact h.noErr
  · rw [hcfg]; exact h.cfg
  · rw [htsf]; exact h.normT
  · rw [hltr]; exact h.normL
  · rw [hpend]; exact h.normP
  · rw [hpend]; exact h.sorted
  · exact hrem
  · rw [hlog]; exact h.fired

end PPLV.Watchdog

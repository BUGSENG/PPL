import PPLV.Watchdog.ProofsSafeOps

/-! `Safe` is preserved when handler actions run (`handlerBody`), from the signal handler or from
`leave_critical_section`. -/
namespace PPLV.Watchdog

/-- the handler action of the first pending element runs -/
def fireHead (now : Int) (σ : St) (a : Ev) : St :=
  { σ with pending := σ.pending.tail, expired := a.id :: σ.expired,
           log := Event.fired a.id now a.gBirth a.gCs :: σ.log }

def fireList (now : Int) : List Ev → St → St
  | [], σ => σ
  | a :: l, σ => fireList now l (fireHead now σ a)

theorem safe_fireHead {σ : St} (h : Safe σ) {a : Ev} {tl : List Ev} (now : Int)
    (hp : σ.pending = a :: tl) : Safe (fireHead now σ a) := by
  have ha := h.pend a (by rw [hp]; simp)
  have hnd : a.id ∉ ids tl ∧ (ids tl).Nodup := by
    have := h.nodup; rw [hp] at this; simpa [ids] using this
  have memb : ∀ i b cs, Event.born i b cs ∈ (fireHead now σ a).log ↔ Event.born i b cs ∈ σ.log := by
    intro i b cs; simp [fireHead]
  have memd : ∀ i, destroyedIn (fireHead now σ a).log i ↔ destroyedIn σ.log i := by
    intro i; simp [fireHead, destroyedIn]
  constructor
  · show (ids σ.pending.tail).Nodup
    rw [hp]; exact hnd.2
  · show ∀ e ∈ σ.pending.tail, _
    rw [hp]
    intro e he
    have hmem : e ∈ σ.pending := by rw [hp]; exact List.mem_cons_of_mem _ he
    have := h.pend e hmem
    refine ⟨?_, fun hd => this.2.1 ((memd _).mp hd), this.2.2.1, (memb _ _ _).mpr this.2.2.2⟩
    show e.id ∉ a.id :: σ.expired
    intro hh
    rcases List.mem_cons.mp hh with hh | hh
    · exact hnd.1 (mem_ids.mpr ⟨e, he, hh⟩)
    · exact this.1 hh
  · intro i t b cs hh
    rcases List.mem_cons.mp hh with hh | hh
    · injection hh with e1 e2 e3 e4
      subst e1 e3 e4
      exact ⟨List.mem_cons_self, (memb _ _ _).mpr ha.2.2.2⟩
    · have := h.firedExp i t b cs hh
      exact ⟨List.mem_cons_of_mem _ this.1, (memb _ _ _).mpr this.2⟩
  · intro i hi
    rcases List.mem_cons.mp hi with hh | hh
    · rw [hh]; exact ha.2.2.1
    · exact h.expUsed i hh
  · intro i b cs hh; exact h.bornUsed i b cs ((memb _ _ _).mp hh)
  · intro i b cs b' cs' h1 h2
    exact h.bornUniq i b cs b' cs' ((memb _ _ _).mp h1) ((memb _ _ _).mp h2)
  · intro i t hh
    have : Event.destroyed i t ∈ σ.log := by simpa [fireHead] using hh
    exact h.destUsed i t this
  · exact h.liveUsed
  · refine ⟨h.once, ?_⟩
    intro i t b cs heq ⟨t', b', cs', hf⟩
    injection heq with e1 e2 e3 e4
    subst e1
    exact ha.1 (h.firedExp _ _ _ _ hf).1
  · refine ⟨h.nad, ?_⟩
    intro i t b cs heq hd
    injection heq with e1 e2 e3 e4
    subst e1
    exact ha.2.1 hd
  · refine h.pcOK.mono h rfl ?_ ?_ (fun _ x => x) (fun i b cs x => (memb i b cs).mpr x) (fun i x => (memd i).mp x)
    · intro i hi
      have : i ∈ ids σ.pending.tail := hi
      rw [hp] at this ⊢
      simp only [ids, List.map_cons, List.mem_cons]
      exact Or.inr this
    · intro i hi
      rcases List.mem_cons.mp hi with hh | hh
      · right; rw [hh, hp]; simp [ids]
      · exact Or.inl hh

theorem safe_fireList (now : Int) : ∀ (due : List Ev) (σ : St) (rest : List Ev), Safe σ →
    σ.pending = due ++ rest →
    Safe (fireList now due σ) ∧ (fireList now due σ).pending = rest ∧
    (fireList now due σ).expired = (due.map (·.id)).reverse ++ σ.expired ∧
    (fireList now due σ).log = (firedEvents now due).reverse ++ σ.log ∧
    (fireList now due σ).used = σ.used ∧ (fireList now due σ).live = σ.live ∧
    (fireList now due σ).pc = σ.pc := by
  intro due
  induction due with
  | nil => intro σ rest h hp; simp [fireList, firedEvents, hp, h]
  | cons a l ih =>
    intro σ rest h hp
    have h1 := safe_fireHead h now (tl := l ++ rest) (by simpa using hp)
    have hp1 : (fireHead now σ a).pending = l ++ rest := by
      show σ.pending.tail = _
      rw [hp]; simp
    obtain ⟨i1, i2, i3, i4, i5, i6, i7⟩ := ih (fireHead now σ a) rest h1 hp1
    refine ⟨i1, i2, ?_, ?_, i5, i6, i7⟩
    · show (fireList now l (fireHead now σ a)).expired = _
      rw [i3]; simp [fireHead]
    · show (fireList now l (fireHead now σ a)).log = _
      rw [i4]; simp [fireHead, firedEvents]

theorem safe_handlerBody (b : Bool) (sync : Option Fin) {σ : St} (h : Safe σ)
    (hs : ∀ fin, sync = some fin → FinOK σ fin) : Safe (handlerBody b sync σ) := by
  unfold handlerBody
  simp only
  split
  · exact h.same rfl rfl rfl rfl rfl (Or.inl rfl)
  · rename_i e r hp
    have happ : σ.pending = (e :: (takeDue b (σ.tsf.add σ.ltr) r).1) ++ (takeDue b (σ.tsf.add σ.ltr) r).2 := by
      rw [hp]; simp [takeDue_append]
    obtain ⟨i1, i2, i3, i4, i5, i6, i7⟩ := safe_fireList σ.now _ σ _ h happ
    have h2 : Safe { σ with
        tsf := σ.tsf.add σ.ltr
        pending := (takeDue b (σ.tsf.add σ.ltr) r).2
        expired := ((e :: (takeDue b (σ.tsf.add σ.ltr) r).1).map (·.id)).reverse ++ σ.expired
        log := (firedEvents σ.now (e :: (takeDue b (σ.tsf.add σ.ltr) r).1)).reverse ++ σ.log } :=
      i1.same i2.symm i3.symm i5.symm i6.symm i7.symm (Or.inl i4.symm)
    split
    · exact h2.same rfl rfl rfl rfl rfl (Or.inl rfl)
    · split
      · exact safe_setTimerH h2 _
      · rename_i fin
        have hfin : FinOK σ fin := hs fin rfl
        have hsub : ∀ i, i ∈ ids (takeDue b (σ.tsf.add σ.ltr) r).2 → i ∈ ids σ.pending := by
          intro i hi
          have hsl : (takeDue b (σ.tsf.add σ.ltr) r).2.Sublist σ.pending := by
            rw [hp]; exact (takeDue_sublist_snd _ _ _).trans (List.sublist_cons_self e r)
          exact (ids_sublist hsl).subset hi
        split
        · refine h2.move rfl rfl rfl h2.liveUsed (Or.inr ⟨_, rfl, Event.neutral_of rfl⟩) ?_
          unfold PcOK PcOKAt; simp
        · refine h2.move rfl rfl rfl h2.liveUsed (Or.inl rfl) ?_
          show PcOKAt _ (PC.l4 fin)
          simp only [PcOKAt]
          exact FinOK.mono hfin hsub (fun _ x => x)

end PPLV.Watchdog

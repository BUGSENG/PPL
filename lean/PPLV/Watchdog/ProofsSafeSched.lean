import PPLV.Watchdog.ProofsSafeStep

/-! `Safe` is preserved by the signal handler and by `tick`; hence by every schedule. -/
namespace PPLV.Watchdog

theorem safe_handler (b : Bool) {σ : St} (h : Safe σ) : Safe (handler b σ) := by
  unfold handler
  split
  · have h1 : Safe { σ with log := Event.deferred σ.now :: σ.log } :=
      h.same rfl rfl rfl rfl rfl (Or.inr ⟨_, rfl, Event.neutral_of rfl⟩)
    split
    · exact safe_setTimerH h1 _
    · exact h.same rfl rfl rfl rfl rfl (Or.inr ⟨_, rfl, Event.neutral_of rfl⟩)
  · exact safe_handlerBody b none h (by intro fin hh; cases hh)

theorem safe_tick (b : Bool) {σ : St} (h : Safe σ) (dt : Int) : Safe (tick b σ dt) := by
  unfold tick
  split
  · exact h
  · split
    · exact h.same rfl rfl rfl rfl rfl (Or.inl rfl)
    · split
      · exact h.same rfl rfl rfl rfl rfl (Or.inl rfl)
      · exact safe_handler b (h.same rfl rfl rfl rfl rfl (Or.inl rfl))

theorem safe_exec (b : Bool) {σ : St} (h : Safe σ) (s : Step) : Safe (exec b σ s) := by
  cases s with
  | create id cs => exact safe_create h id cs
  | destroy id => exact safe_destroy h id
  | step => exact safe_step b h
  | tick d => exact safe_tick b h d

theorem safe_runFrom (b : Bool) (sched : List Step) : ∀ σ, Safe σ → Safe (runFrom b σ sched) := by
  induction sched with
  | nil => intro σ h; exact h
  | cons s l ih => intro σ h; exact ih _ (safe_exec b h s)

theorem safe_run (b : Bool) (sched : List Step) : Safe (run b sched) :=
  safe_runFrom b sched {} safe_init

end PPLV.Watchdog

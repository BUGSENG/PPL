import PPLV.Watchdog.ProofsLagDestroy

/-! `LagInv` under `create`, `destroy`, `tick` (with the handler); the induction over schedules. -/
namespace PPLV.Watchdog

theorem lag_create {σ : St} (h : LagInv σ) (id : Nat) (cs : Int) : LagInv (create σ id cs) := by
  by_cases hg : σ.pc ≠ .idle ∨ id ∈ σ.used
  · have : create σ id cs = σ := by unfold create; simp [hg]
    rw [this]; exact h
  · have hpc : σ.pc = .idle := by
      by_cases hh : σ.pc = .idle
      · exact hh
      · exact absurd (Or.inl hh) hg
    have hp := (pcInv_of hpc).mp h.pcInv
    simp only [PcInvAt] at hp
    by_cases h0 : cs ≤ 0
    · have heq : create σ id cs = { σ with used := id :: σ.used, log := .rejected id cs :: σ.log } := by
        unfold create; simp [hg, h0]
      rw [heq]
      refine ⟨⟨h.base.noErr, h.base.cfg, h.base.normT, h.base.normL, h.base.normP, h.base.sorted, h.base.remNonneg,
        base_fired_cons (by intros; simp) h.base.fired⟩, ?_⟩
      refine (pcInv_of (σ := { σ with used := id :: σ.used, log := .rejected id cs :: σ.log }) hpc).mpr ?_
      simp only [PcInvAt]
      rcases hp.2 with ha | hs
      · exact ⟨hp.1, Or.inl ha⟩
      · exact ⟨hp.1, Or.inr hs⟩
    · have hcs : 0 < cs := by omega
      have heq : create σ id cs = { σ with
          used := id :: σ.used
          inCrit := true
          log := .born id σ.now cs :: σ.log
          pc := if σ.running then .b1 id cs σ.now (Time.ofCs cs) else .a1 id cs σ.now (Time.ofCs cs) } := by
        unfold create; simp [hg, h0]
      rw [heq]
      refine ⟨⟨h.base.noErr, h.base.cfg, h.base.normT, h.base.normL, h.base.normP, h.base.sorted, h.base.remNonneg,
        base_fired_cons (by intros; simp) h.base.fired⟩, ?_⟩
      rcases Bool.eq_false_or_eq_true σ.running with hr | hr
      rotate_left
      · refine (pcInv_of (pc := .a1 id cs σ.now (Time.ofCs cs)) (by simp [hr])).mpr ?_
        simp only [PcInvAt]
        rcases hp.2 with ha | hs
        · have := ha.1; rw [hr] at this; exact absurd this (by simp)
        · exact ⟨trivial, hs, trivial, hcs, Int.le_refl _⟩
      · refine (pcInv_of (pc := .b1 id cs σ.now (Time.ofCs cs)) (by simp [hr])).mpr ?_
        simp only [PcInvAt]
        rcases hp.2 with ha | hs
        · exact ⟨trivial, ha, trivial, hcs, Int.le_refl _⟩
        · have := hs.1; rw [hr] at this; exact absurd this (by simp)

theorem lag_destroy {σ : St} (h : LagInv σ) (id : Nat) : LagInv (destroy σ id) := by
  unfold destroy
  split
  · exact h
  · rename_i hg
    have hpc : σ.pc = .idle := by
      by_cases hh : σ.pc = .idle
      · exact hh
      · exact absurd (Or.inl hh) hg
    have hp := (pcInv_of hpc).mp h.pcInv
    simp only [PcInvAt] at hp
    split
    · refine ⟨⟨h.base.noErr, h.base.cfg, h.base.normT, h.base.normL, h.base.normP, h.base.sorted, h.base.remNonneg,
        base_fired_cons (by intros; simp) h.base.fired⟩, ?_⟩
      refine (pcInv_of (σ := { σ with live := σ.live.erase id, log := .destroyed id σ.now :: σ.log }) hpc).mpr ?_
      simp only [PcInvAt]
      rcases hp.2 with ha | hs
      · exact ⟨hp.1, Or.inl ha⟩
      · exact ⟨hp.1, Or.inr hs⟩
    · refine ⟨⟨h.base.noErr, h.base.cfg, h.base.normT, h.base.normL, h.base.normP, h.base.sorted, h.base.remNonneg,
        h.base.fired⟩, ?_⟩
      refine (pcInv_of (pc := .d1 id) rfl).mpr ?_
      simp only [PcInvAt]
      rcases hp.2 with ha | hs
      · exact ⟨hp.1, Or.inl ha⟩
      · exact ⟨hp.1, Or.inr hs⟩

/-- the state at the instant the timer expires -/
theorem lag_expire {σ : St} (h : LagInv σ) (hrem : 0 < σ.remaining) :
    LagInv { σ with now := σ.now + σ.remaining, remaining := 0, dirty := σ.dirty || σ.inCrit } :=
  ⟨h.base.advance (Int.le_refl 0) rfl rfl rfl rfl rfl rfl,
   h.pcInv.advance σ.remaining (by omega) (Or.inl ⟨Int.le_refl _, by show (0 : Int) = σ.remaining - σ.remaining; omega⟩)
     rfl rfl rfl rfl rfl rfl rfl rfl⟩

/-- the signal handler at the instant the timer expires -/
theorem lag_handler (σ : St) (h : LagInv σ) (hrem : 0 < σ.remaining) :
    LagInv (handler false { σ with now := σ.now + σ.remaining, remaining := 0,
                                   dirty := σ.dirty || σ.inCrit }) := by
  have hτ := lag_expire h hrem
  rcases Bool.eq_false_or_eq_true σ.inCrit with hc | hc
  · -- inside a critical section: only `timeout_deferred` is set
    have heq : handler false { σ with now := σ.now + σ.remaining, remaining := 0, dirty := σ.dirty || σ.inCrit } =
        { σ with now := σ.now + σ.remaining, remaining := 0, dirty := σ.dirty || σ.inCrit,
                 deferredFlag := true, log := Event.deferred (σ.now + σ.remaining) :: σ.log } := by
      unfold handler; simp [hc, h.base.cfg]
    rw [heq]
    refine ⟨⟨hτ.base.noErr, hτ.base.cfg, hτ.base.normT, hτ.base.normL, hτ.base.normP, hτ.base.sorted,
      hτ.base.remNonneg, base_fired_cons (by intros; simp) hτ.base.fired⟩, ?_⟩
    exact hτ.pcInv.advance 0 (Int.le_refl 0) (Or.inr ⟨rfl, rfl⟩) (by simp) rfl rfl rfl rfl rfl rfl rfl
  · -- outside: the handler body runs
    obtain ⟨hst, hkeep⟩ := pcInv_async h.pcInv hc hrem
    have harmed : Armed σ := by
      rcases hst with ha | hs
      · exact ha
      · have := hs.2.1; omega
    have haτ : Armed { σ with now := σ.now + σ.remaining, remaining := 0, dirty := σ.dirty || σ.inCrit } :=
      harmed.advance σ.remaining (by omega)
        (Or.inl ⟨Int.le_refl _, by show (0 : Int) = σ.remaining - σ.remaining; omega⟩) rfl rfl rfl rfl rfl
    obtain ⟨b1, b2, b3⟩ := lag_body _ hτ.base haτ rfl none
    have heq : handler false { σ with now := σ.now + σ.remaining, remaining := 0, dirty := σ.dirty || σ.inCrit } =
        handlerBody false none { σ with now := σ.now + σ.remaining, remaining := 0, dirty := σ.dirty || σ.inCrit } := by
      unfold handler
      rw [if_neg (by show ¬ (σ.inCrit = true); simp [hc])]
    rw [heq]
    rcases b3 with ⟨q1, q2⟩ | ⟨f, hf, _⟩
    · exact ⟨b1, hkeep _ q1 (b2.trans hc) q2⟩
    · exact absurd hf (by simp)

/-- the invariant of all runs of the repaired code -/
def NInv (σ : St) : Prop := LagInv σ

theorem lag_tick {σ : St} (h : LagInv σ) (dt : Int) : LagInv (tick false σ dt) := by
  unfold tick
  split
  · exact h
  · rename_i hdt
    split
    · rename_i hrem
      have hz : σ.remaining = 0 := by have := h.base.remNonneg; omega
      exact ⟨h.base.advance h.base.remNonneg rfl rfl rfl rfl rfl rfl,
        h.pcInv.advance dt (by omega) (Or.inr ⟨hz, rfl⟩) rfl rfl rfl rfl rfl rfl rfl rfl⟩
    · rename_i hrem
      split
      · rename_i hlt
        exact ⟨h.base.advance (by show 0 ≤ σ.remaining - dt; omega) rfl rfl rfl rfl rfl rfl,
          h.pcInv.advance dt (by omega) (Or.inl ⟨by omega, rfl⟩) rfl rfl rfl rfl rfl rfl rfl rfl⟩
      · exact lag_handler σ h (by omega)

theorem ninv_exec {σ : St} (h : LagInv σ) (s : Step) : LagInv (exec false σ s) := by
  cases s with
  | create id cs => exact lag_create h id cs
  | destroy id => exact lag_destroy h id
  | step => exact lag_step h
  | tick d => exact lag_tick h d

theorem ninv_run (sched : List Step) : LagInv (run false sched) := by
  have : ∀ (l : List Step) (σ : St), LagInv σ → LagInv (runFrom false σ l) := by
    intro l
    induction l with
    | nil => intro σ h; exact h
    | cons s l ih => intro σ h; exact ih _ (ninv_exec h s)
  exact this sched {} lag_init

end PPLV.Watchdog

import PPLV.Watchdog.Model

/-! Lemmas on the code's `Time` arithmetic: on normalised values (`0 ≤ s`, `0 ≤ us < 10^6`)
`+=`, `-=`, `<` and the repaired `==` agree with the arithmetic of microsecond counts. -/
namespace PPLV.Watchdog
namespace Time

/-- class invariant of `Time` (`OK()`), plus non-negativity -/
def Norm (t : Time) : Prop := 0 ≤ t.s ∧ 0 ≤ t.us ∧ t.us < 1000000

theorem norm_zero : Norm zero := by simp [Norm, zero]

theorem toUs_zero : zero.toUs = 0 := by simp [toUs, zero]

theorem toUs_nonneg {t : Time} (h : Norm t) : 0 ≤ t.toUs := by
  obtain ⟨h1, h2, _⟩ := h; unfold toUs; omega

theorem toUs_inj {x y : Time} (hx : Norm x) (hy : Norm y) (h : x.toUs = y.toUs) : x = y := by
  obtain ⟨_, hx2, hx3⟩ := hx; obtain ⟨_, hy2, hy3⟩ := hy
  cases x with | mk xs xu => cases y with | mk ys yu =>
  simp only [toUs] at *
  have : xs = ys := by omega
  subst this
  have : xu = yu := by omega
  subst this; rfl

theorem ofCs_norm {c : Int} (h : 0 ≤ c) : Norm (ofCs c) := by
  unfold ofCs Norm
  rw [Int.tdiv_eq_ediv_of_nonneg h, Int.tmod_eq_emod_of_nonneg h]
  simp only; omega

theorem ofCs_toUs {c : Int} (h : 0 ≤ c) : (ofCs c).toUs = c * 10000 := by
  unfold ofCs toUs
  rw [Int.tdiv_eq_ediv_of_nonneg h, Int.tmod_eq_emod_of_nonneg h]
  simp only; omega

theorem reschedule_norm : Norm reschedule := ofCs_norm (by decide)
theorem reschedule_toUs : reschedule.toUs = 10000 := by decide

theorem mk2_timer_norm {r : Int} (h : 0 ≤ r) : Norm (mk2 (r / 1000000) (r % 1000000)) := by
  unfold mk2
  have : ¬ (r % 1000000 ≥ 1000000) := by omega
  simp only [this, if_false, Norm]; omega

theorem mk2_timer_toUs (r : Int) : (mk2 (r / 1000000) (r % 1000000)).toUs = r := by
  unfold mk2
  have : ¬ (r % 1000000 ≥ 1000000) := by omega
  simp only [this, if_false, toUs]; omega

theorem add_norm {x y : Time} (hx : Norm x) (hy : Norm y) : Norm (add x y) := by
  obtain ⟨hx1, hx2, hx3⟩ := hx; obtain ⟨hy1, hy2, hy3⟩ := hy
  unfold add Norm
  simp only
  split
  · rename_i h
    rw [Int.tmod_eq_emod_of_nonneg (by omega)]
    simp only; omega
  · simp only; omega

theorem add_toUs {x y : Time} (hx : Norm x) (hy : Norm y) : (add x y).toUs = x.toUs + y.toUs := by
  obtain ⟨hx1, hx2, hx3⟩ := hx; obtain ⟨hy1, hy2, hy3⟩ := hy
  unfold add toUs
  simp only
  split
  · rename_i h
    rw [Int.tmod_eq_emod_of_nonneg (by omega)]
    simp only; omega
  · simp only; omega

theorem sub_norm {x y : Time} (hx : Norm x) (hy : Norm y) : Norm (sub x y) := by
  obtain ⟨hx1, hx2, hx3⟩ := hx; obtain ⟨hy1, hy2, hy3⟩ := hy
  unfold sub Norm
  simp only
  split <;> split <;> simp only <;> omega

theorem sub_toUs_ge {x y : Time} (hx : Norm x) (hy : Norm y) (h : y.toUs ≤ x.toUs) :
    (sub x y).toUs = x.toUs - y.toUs := by
  obtain ⟨hx1, hx2, hx3⟩ := hx; obtain ⟨hy1, hy2, hy3⟩ := hy
  unfold toUs at h
  unfold sub toUs
  simp only
  split <;> split <;> simp only <;> omega

/-- `x + (y - z)` with `z ≤ y`: the shape of the reconstructed clock `time_so_far + (last_time_requested -
time_to_shoot)` and of the re-armed interval `time_to_shoot + (next - first)` -/
theorem add_sub {x y z : Time} (hx : Norm x) (hy : Norm y) (hz : Norm z) (h : z.toUs ≤ y.toUs) :
    Norm (add x (sub y z)) ∧ (add x (sub y z)).toUs = x.toUs + y.toUs - z.toUs := by
  have n := sub_norm hy hz
  refine ⟨add_norm hx n, ?_⟩
  rw [add_toUs hx n, sub_toUs_ge hy hz h]; omega

theorem sub_toUs_le {x y : Time} (hx : Norm x) (hy : Norm y) (h : x.toUs ≤ y.toUs) :
    (sub x y).toUs = 0 := by
  obtain ⟨hx1, hx2, hx3⟩ := hx; obtain ⟨hy1, hy2, hy3⟩ := hy
  unfold toUs at h
  unfold sub toUs
  simp only
  split <;> split <;> simp only <;> omega

theorem lt_iff {x y : Time} (hx : Norm x) (hy : Norm y) : lt x y = true ↔ x.toUs < y.toUs := by
  obtain ⟨hx1, hx2, hx3⟩ := hx; obtain ⟨hy1, hy2, hy3⟩ := hy
  unfold lt toUs
  simp only [Bool.or_eq_true, Bool.and_eq_true, decide_eq_true_eq]
  omega

theorem lt_false_iff {x y : Time} (hx : Norm x) (hy : Norm y) : lt x y = false ↔ y.toUs ≤ x.toUs := by
  have := lt_iff hx hy
  cases h : lt x y
  · simp only [true_iff]
    rw [h] at this
    have h2 : ¬ (x.toUs < y.toUs) := fun hh => by simpa using this.mpr hh
    omega
  · simp only [Bool.true_eq_false, false_iff]
    have := this.mp h
    omega

/-- the repaired `operator==` is equality of the denoted durations -/
theorem eq_false_iff {x y : Time} (hx : Norm x) (hy : Norm y) :
    eq false x y = true ↔ x.toUs = y.toUs := by
  obtain ⟨hx1, hx2, hx3⟩ := hx; obtain ⟨hy1, hy2, hy3⟩ := hy
  unfold eq toUs
  simp only [Bool.and_eq_true, decide_eq_true_eq, Bool.false_eq_true, if_false]
  omega

theorem ne_false_iff {x y : Time} (hx : Norm x) (hy : Norm y) :
    ne false x y = true ↔ x.toUs ≠ y.toUs := by
  unfold ne
  have := eq_false_iff hx hy
  cases h : eq false x y <;> simp_all

theorem le_false_iff {x y : Time} (hx : Norm x) (hy : Norm y) :
    le false x y = true ↔ x.toUs ≤ y.toUs := by
  unfold le
  have h1 := lt_iff hx hy
  have h2 := eq_false_iff hx hy
  simp only [Bool.or_eq_true, h1, h2]
  omega

theorem isZero_iff {t : Time} (h : Norm t) : isZero t = true ↔ t.toUs = 0 := by
  obtain ⟨h1, h2, h3⟩ := h
  unfold isZero toUs
  simp only [Bool.and_eq_true, decide_eq_true_eq]
  omega

theorem timevalOK_of_norm {t : Time} (h : Norm t) : timevalOK t = true := by
  obtain ⟨h1, h2, h3⟩ := h
  simp [timevalOK, h1, h2, h3]

end Time
end PPLV.Watchdog

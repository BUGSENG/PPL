import PPLV.Watchdog.ProofsClockDestroyRuns

/-! `Clock` after each of the five paths through the destructor. -/
namespace PPLV.Watchdog

theorem clock_destroy_general {σ σ' : St} (h : Clock σ) (id : Nat)
    (hpend : σ'.pending = eraseId id σ.pending) (hpc : σ'.pc = .idle) (hcrit : σ'.inCrit = false)
    (herr : σ'.err = σ.err) (hnow : σ'.now = σ.now) (hep : σ'.epoch = σ.epoch)
    (hlog : ∃ es, σ'.log = Event.destroyed id σ.now :: (es ++ σ.log) ∧ ∀ e ∈ es, e.neutral)
    (hT : σ'.tsf.Norm) (hL : σ'.ltr.Norm) (hR : 0 ≤ σ'.remaining)
    (hrun : σ'.running = true ↔ σ'.pending ≠ [])
    (harmed : σ'.running = true → 0 < σ'.remaining ∧ σ'.remaining ≤ σ'.ltr.toUs ∧
      σ'.now - σ'.epoch = σ'.tsf.toUs + σ'.ltr.toUs - σ'.remaining ∧
      ∀ e r, σ'.pending = e :: r → e.deadline.toUs = σ'.tsf.toUs + σ'.ltr.toUs)
    (hidle : σ'.running = false → σ'.remaining = 0) : Clock σ' := by
  obtain ⟨es, hl, hes⟩ := hlog
  obtain ⟨q1, q2, q3⟩ := log_parts_destroy h id σ.now es hes (eraseId id σ.pending)
    (fun x hx hne => mem_eraseId_of_ne hx hne)
  constructor
  · exact Or.inl hpc
  · exact hcrit
  · rw [herr]; exact h.noErr
  · exact hT
  · exact hL
  · rw [hpend]; intro x hx; exact h.normP x (mem_of_mem_eraseId hx)
  · rw [hpend]; exact sorted_eraseId h.sorted
  · exact hR
  · exact hrun
  · exact harmed
  · exact hidle
  · rw [hpend, hep]; intro x hx; exact h.birth x (mem_of_mem_eraseId hx)
  · rw [hl, hnow]; exact q1
  · rw [hl]; exact q2
  · rw [hl, hpend]; exact q3

theorem clock_destroy_nil {σ : St} (h : Clock σ) (id : Nat) (hpc : σ.pc = .d1 id) (hp : σ.pending = [])
    (hdf : σ.deferredFlag = false) : Clock (steps false 2 σ) := by
  rw [destroy_nil_eq false σ id hpc hp hdf]
  have hnr : σ.running = false := by
    cases hr : σ.running
    · rfl
    · exact absurd hp (h.run.mp hr)
  refine clock_destroy_general h id (by show σ.pending = _; rw [hp]; rfl) rfl rfl rfl rfl rfl
    ⟨[], rfl, by simp⟩ h.normT h.normL h.remNonneg h.run ?_ h.idleT
  intro hr; have : σ.running = true := hr; rw [hnr] at this; exact absurd this (by simp)

theorem clock_destroy_other {σ : St} (h : Clock σ) (id : Nat) (hpc : σ.pc = .d1 id) (e : Ev) (rest : List Ev)
    (hp : σ.pending = e :: rest) (hne : e.id ≠ id) (hdf : σ.deferredFlag = false) :
    Clock (steps false 2 σ) := by
  rw [destroy_other_eq false σ id hpc e rest hp hne hdf]
  have hr : σ.running = true := h.run.mpr (by rw [hp]; simp)
  obtain ⟨a1, a2, a3, a4⟩ := h.armed hr
  have her : eraseId id σ.pending = e :: eraseId id rest := by rw [hp]; simp [eraseId, hne]
  refine clock_destroy_general h id rfl rfl rfl rfl rfl rfl ⟨[], rfl, by simp⟩ h.normT h.normL h.remNonneg ?_ ?_ h.idleT
  · show σ.running = true ↔ eraseId id σ.pending ≠ []
    rw [her]; simp [hr]
  · intro _
    refine ⟨a1, a2, a3, ?_⟩
    intro x r hx
    have hx' : eraseId id σ.pending = x :: r := hx
    rw [her] at hx'
    injection hx' with e1 e2
    subst e1
    exact a4 e rest hp

theorem clock_destroy_eqdl {σ : St} (h : Clock σ) (id : Nat) (hpc : σ.pc = .d1 id) (e n : Ev) (rest : List Ev)
    (hp : σ.pending = e :: n :: rest) (he : e.id = id)
    (hne : Time.ne false e.deadline n.deadline = false) (hdf : σ.deferredFlag = false) :
    Clock (steps false 2 σ) := by
  rw [destroy_eqdl_eq σ id hpc e n rest hp he hne hdf]
  have hr : σ.running = true := h.run.mpr (by rw [hp]; simp)
  obtain ⟨a1, a2, a3, a4⟩ := h.armed hr
  have her : eraseId id σ.pending = n :: rest := by rw [hp]; simp [eraseId, he]
  have hen : e.deadline.Norm := h.normP e (by rw [hp]; simp)
  have hnn : n.deadline.Norm := h.normP n (by rw [hp]; simp)
  have heq : e.deadline.toUs = n.deadline.toUs := by
    have := Time.ne_false_iff hen hnn
    by_cases hh : e.deadline.toUs = n.deadline.toUs
    · exact hh
    · have := this.mpr hh; rw [hne] at this; exact absurd this (by simp)
  refine clock_destroy_general h id rfl rfl rfl rfl rfl rfl ⟨[], rfl, by simp⟩ h.normT h.normL h.remNonneg ?_ ?_ h.idleT
  · show σ.running = true ↔ eraseId id σ.pending ≠ []
    rw [her]; simp [hr]
  · intro _
    refine ⟨a1, a2, a3, ?_⟩
    intro x r hx
    have hx' : eraseId id σ.pending = x :: r := hx
    rw [her] at hx'
    injection hx' with e1 e2
    subst e1
    have := a4 e (n :: rest) hp
    show n.deadline.toUs = σ.tsf.toUs + σ.ltr.toUs
    omega

theorem clock_destroy_last {σ : St} (h : Clock σ) (id : Nat) (hpc : σ.pc = .d1 id) (e : Ev)
    (hp : σ.pending = [e]) (he : e.id = id) (hdf : σ.deferredFlag = false) : Clock (steps false 4 σ) := by
  rw [destroy_last_eq false σ id hpc e hp he hdf]
  have her : eraseId id σ.pending = [] := by rw [hp]; simp [eraseId, he]
  refine clock_destroy_general h id rfl rfl rfl rfl rfl rfl ⟨[Event.setitimer Time.zero.toUs], rfl, ?_⟩
    h.normT h.normL ?_ ?_ ?_ ?_
  · intro x hx; simp at hx; subst hx; exact Event.neutral_of rfl
  · show 0 ≤ Time.zero.toUs
    rw [Time.toUs_zero]; exact Int.le_refl 0
  · show false = true ↔ eraseId id σ.pending ≠ []
    rw [her]; simp
  · intro hh; exact absurd hh (by simp)
  · intro _; exact Time.toUs_zero

/-- the interval `remove_watchdog_event` re-arms the timer with when the first two deadlines differ: the
remaining time plus their distance, positive and acceptable to `setitimer` -/
theorem rearm_facts {σ : St} (h : Clock σ) (e n : Ev) (rest : List Ev)
    (hp : σ.pending = e :: n :: rest) (hne : Time.ne false e.deadline n.deadline = true) :
    e.deadline.toUs < n.deadline.toUs ∧ (rearmTime σ e n).Norm ∧
    (rearmTime σ e n).toUs = σ.remaining + n.deadline.toUs - e.deadline.toUs ∧
    (rearmTime σ e n).isZero = false ∧ (rearmTime σ e n).timevalOK = true := by
  have hen : e.deadline.Norm := h.normP e (by rw [hp]; simp)
  have hnn : n.deadline.Norm := h.normP n (by rw [hp]; simp)
  have hneq : e.deadline.toUs ≠ n.deadline.toUs := (Time.ne_false_iff hen hnn).mp hne
  have hle : e.deadline.toUs ≤ n.deadline.toUs := by
    have := h.sorted; rw [hp] at this
    unfold Sorted at this; rw [List.pairwise_cons] at this
    exact this.1 n (by simp)
  have hrem := h.remNonneg
  obtain ⟨rN, rU⟩ : (rearmTime σ e n).Norm ∧ (rearmTime σ e n).toUs = _ :=
    Time.add_sub (Time.mk2_timer_norm hrem) hnn hen hle
  rw [show (getTimer σ).toUs = σ.remaining from Time.mk2_timer_toUs σ.remaining] at rU
  refine ⟨by omega, rN, rU, ?_, Time.timevalOK_of_norm rN⟩
  cases hz : (rearmTime σ e n).isZero
  · rfl
  · have := (Time.isZero_iff rN).mp hz; omega

theorem clock_destroy_rearm {σ : St} (h : Clock σ) (id : Nat) (hpc : σ.pc = .d1 id) (e n : Ev) (rest : List Ev)
    (hp : σ.pending = e :: n :: rest) (he : e.id = id)
    (hne : Time.ne false e.deadline n.deadline = true) (hdf : σ.deferredFlag = false) :
    Clock (steps false 5 σ) := by
  have hr : σ.running = true := h.run.mpr (by rw [hp]; simp)
  obtain ⟨a1, a2, a3, a4⟩ := h.armed hr
  obtain ⟨hlt, rN, rU, hnz, hok⟩ := rearm_facts h e n rest hp hne
  have ttsN : (getTimer σ).Norm := Time.mk2_timer_norm h.remNonneg
  have ttsU : (getTimer σ).toUs = σ.remaining := Time.mk2_timer_toUs σ.remaining
  obtain ⟨curN, curU⟩ := Time.add_sub h.normT h.normL ttsN (by omega)
  rw [ttsU] at curU
  rw [destroy_rearm_eq σ id hpc e n rest hp he hne hnz hok hdf]
  have her : eraseId id σ.pending = n :: rest := by rw [hp]; simp [eraseId, he]
  have hehead := a4 e (n :: rest) hp
  refine clock_destroy_general h id rfl rfl rfl rfl rfl rfl
    ⟨[Event.setitimer (rearmTime σ e n).toUs, Event.getitimer σ.remaining], rfl, ?_⟩ curN rN ?_ ?_ ?_ ?_
  · intro x hx
    simp at hx
    rcases hx with hx | hx
    · subst hx; exact Event.neutral_of rfl
    · subst hx; exact Event.neutral_of rfl
  · show 0 ≤ (rearmTime σ e n).toUs
    omega
  · show σ.running = true ↔ eraseId id σ.pending ≠ []
    rw [her]; simp [hr]
  · intro _
    refine ⟨?_, Int.le_refl _, ?_, ?_⟩
    · show 0 < (rearmTime σ e n).toUs
      omega
    · show σ.now - σ.epoch = (σ.tsf.add (σ.ltr.sub (getTimer σ))).toUs + (rearmTime σ e n).toUs
          - (rearmTime σ e n).toUs
      omega
    · intro x r hx
      have hx' : eraseId id σ.pending = x :: r := hx
      rw [her] at hx'
      injection hx' with e1 e2
      subst e1
      show n.deadline.toUs = (σ.tsf.add (σ.ltr.sub (getTimer σ))).toUs + (rearmTime σ e n).toUs
      omega
  · intro hh
    have : σ.running = false := hh
    rw [hr] at this; exact absurd this (by simp)

end PPLV.Watchdog

import PPLV.Watchdog.ProofsLagCreate

/-! `LagInv` is preserved by the statement groups of the destructor. -/
namespace PPLV.Watchdog

/-- erasing an element that is not the head, or a head whose successor carries the same deadline,
keeps `Armed` -/
theorem Armed.erase {σ σ' : St} (h : Armed σ) (id : Nat)
    (hpend : σ'.pending = eraseId id σ.pending)
    (hhead : ∃ e r, eraseId id σ.pending = e :: r ∧ e.deadline.toUs = σ.tsf.toUs + σ.ltr.toUs)
    (htsf : σ'.tsf = σ.tsf) (hltr : σ'.ltr = σ.ltr) (hrem : σ'.remaining = σ.remaining)
    (hrun : σ'.running = σ.running) (hnow : σ'.now = σ.now) : Armed σ' := by
  obtain ⟨a1, a2, a3, _, a5⟩ := h
  unfold Armed
  rw [hrun, hrem, hltr, htsf, hpend, hnow]
  exact ⟨a1, a2, a3, hhead, fun e he => a5 e (mem_of_mem_eraseId he)⟩

theorem Base.erase {σ σ' : St} (h : Base σ) (id : Nat) (hpend : σ'.pending = eraseId id σ.pending)
    (htsf : σ'.tsf = σ.tsf) (hltr : σ'.ltr = σ.ltr) (hrem : σ'.remaining = σ.remaining)
    (herr : σ'.err = σ.err) (hlog : σ'.log = σ.log) (hcfg : σ'.reschedBug = σ.reschedBug) : Base σ' := by
  constructor
  · rw [herr]; exact h.noErr
  · rw [hcfg]; exact h.cfg
  · rw [htsf]; exact h.normT
  · rw [hltr]; exact h.normL
  · rw [hpend]; intro x hx; exact h.normP x (mem_of_mem_eraseId hx)
  · rw [hpend]; exact sorted_eraseId h.sorted
  · rw [hrem]; exact h.remNonneg
  · rw [hlog]; exact h.fired

theorem lag_step_d1 {σ : St} (h : LagInv σ) (id : Nat) (hpc : σ.pc = .d1 id) :
    LagInv (step false σ) := by
  obtain ⟨h1, hst⟩ := (pcInv_of hpc).mp h.pcInv
  cases hpd : σ.pending with
  | nil =>
    rw [step_d1_nil false hpc hpd]
    refine ⟨⟨h.base.noErr, h.base.cfg, h.base.normT, h.base.normL, h.base.normP, h.base.sorted, h.base.remNonneg, h.base.fired⟩, ?_⟩
    refine (pcInv_of (pc := .dEnd id) rfl).mpr ?_
    simp only [PcInvAt]
    refine ⟨trivial, ?_⟩
    rcases hst with ha | hs
    · exact Or.inl ha
    · exact Or.inr hs
  | cons e rest =>
    have harmed : Armed σ := by
      rcases hst with ha | ⟨_, _, s3⟩
      · exact ha
      · rw [hpd] at s3; exact absurd s3 (by simp)
    obtain ⟨a1, a2, a3, ⟨e0, r0, hp0, hhead0⟩, a5⟩ := harmed
    have he0 : e0 = e ∧ r0 = rest := by
      rw [hpd] at hp0; injection hp0 with x y; exact ⟨x.symm, y.symm⟩
    obtain ⟨he0a, he0b⟩ := he0
    subst he0a he0b
    have eraseCase : ∀ (hd : ∃ x r, eraseId id σ.pending = x :: r ∧ x.deadline.toUs = σ.tsf.toUs + σ.ltr.toUs),
        LagInv { σ with inCrit := true, pending := eraseId id σ.pending, pc := .dEnd id } := by
      intro hd
      refine ⟨h.base.erase id rfl rfl rfl rfl rfl rfl rfl, ?_⟩
      refine (pcInv_of (pc := .dEnd id) rfl).mpr ?_
      simp only [PcInvAt]
      exact ⟨trivial, Or.inl (Armed.erase ⟨a1, a2, a3, ⟨e0, r0, hp0, hhead0⟩, a5⟩ id rfl hd rfl rfl rfl rfl rfl)⟩
    by_cases heid : e0.id = id
    · cases hrest : r0 with
      | nil =>
        rw [step_d1_last false hpc (by rw [hpd, hrest]) heid]
        refine ⟨⟨h.base.noErr, h.base.cfg, h.base.normT, h.base.normL, h.base.normP, h.base.sorted, h.base.remNonneg, h.base.fired⟩, ?_⟩
        refine (pcInv_of (pc := .s1 id) rfl).mpr ?_
        simp only [PcInvAt]
        exact ⟨trivial, ⟨a1, a2, a3, ⟨e0, r0, hp0, hhead0⟩, a5⟩, e0, by rw [hpd, hrest], heid⟩
      | cons n r' =>
        have hen : e0.deadline.Norm := h.base.normP e0 (by rw [hpd]; simp)
        have hnn : n.deadline.Norm := h.base.normP n (by rw [hpd, hrest]; simp)
        have hle : e0.deadline.toUs ≤ n.deadline.toUs := by
          have := h.base.sorted; rw [hpd, hrest] at this
          unfold Sorted at this; rw [List.pairwise_cons] at this
          exact this.1 n (by simp)
        cases hne : Time.ne false e0.deadline n.deadline
        · -- equal deadlines: nothing to re-arm
          have heq : e0.deadline.toUs = n.deadline.toUs := by
            have := Time.ne_false_iff hen hnn
            by_cases hh : e0.deadline.toUs = n.deadline.toUs
            · exact hh
            · have := this.mpr hh; rw [hne] at this; exact absurd this (by simp)
          rw [step_d1_first false hpc (by rw [hpd, hrest]) heid, hne, if_neg Bool.false_ne_true]
          refine eraseCase ⟨n, r', by rw [hpd, hrest]; simp [eraseId, heid], by omega⟩
        · have hneq : e0.deadline.toUs ≠ n.deadline.toUs := (Time.ne_false_iff hen hnn).mp hne
          rw [step_d1_first false hpc (by rw [hpd, hrest]) heid, hne, if_pos rfl]
          refine ⟨⟨h.base.noErr, h.base.cfg, h.base.normT, h.base.normL, h.base.normP, h.base.sorted, h.base.remNonneg, h.base.fired⟩, ?_⟩
          refine (pcInv_of (pc := .r1 id e0.deadline n.deadline) rfl).mpr ?_
          simp only [PcInvAt]
          exact ⟨trivial, ⟨a1, a2, a3, ⟨e0, r0, hp0, hhead0⟩, a5⟩, e0, n, r', by rw [hpd, hrest], heid, rfl, rfl, by omega⟩
    · rw [step_d1_other false hpc hpd heid]
      exact eraseCase ⟨e0, eraseId id r0, by rw [hpd]; simp [eraseId, heid], hhead0⟩

theorem lag_step_r1 {σ : St} (h : LagInv σ) (id : Nat) (f n : Time) (hpc : σ.pc = .r1 id f n) :
    LagInv (step false σ) := by
  obtain ⟨h1, ha, h3⟩ := (pcInv_of hpc).mp h.pcInv
  rw [step_r1 false hpc]
  have ttsN : (getTimer σ).Norm := Time.mk2_timer_norm h.base.remNonneg
  have ttsU : (getTimer σ).toUs = σ.remaining := Time.mk2_timer_toUs σ.remaining
  refine ⟨⟨h.base.noErr, h.base.cfg, h.base.normT, h.base.normL, h.base.normP, h.base.sorted, h.base.remNonneg,
    base_fired_cons (by intros; simp) h.base.fired⟩, ?_⟩
  refine (pcInv_of (pc := .r2 id f n (getTimer σ)) rfl).mpr ?_
  simp only [PcInvAt]
  have := ha.2.2.1
  exact ⟨h1, ha, h3, ttsN, by rw [ttsU]; exact Int.le_refl _, by rw [ttsU]; exact this⟩

theorem lag_step_r2 {σ : St} (h : LagInv σ) (id : Nat) (f n tts : Time) (hpc : σ.pc = .r2 id f n tts) :
    LagInv (step false σ) := by
  obtain ⟨h1, ⟨a1, a2, a3, ⟨e0, r0, hp0, hhead0⟩, a5⟩, ⟨e, n', rest, hpd, heid, hf, hn, hfn⟩, ttsN, h6, h7⟩ := (pcInv_of hpc).mp h.pcInv
  have hee : e0 = e := by rw [hpd] at hp0; injection hp0 with x y; exact x.symm
  subst hee
  subst hf hn
  have hen : e0.deadline.Norm := h.base.normP e0 (by rw [hpd]; simp)
  have hnn : n'.deadline.Norm := h.base.normP n' (by rw [hpd]; simp)
  obtain ⟨curN, curU⟩ := Time.add_sub h.base.normT h.base.normL ttsN h7
  obtain ⟨rN, rU⟩ := Time.add_sub ttsN hnn hen (by omega)
  have hnz : (tts.add (n'.deadline.sub e0.deadline)).isZero = false := by
    cases hz : (tts.add (n'.deadline.sub e0.deadline)).isZero
    · rfl
    · have := (Time.isZero_iff rN).mp hz; omega
  rw [step_r2 false hpc, hnz, if_neg Bool.false_ne_true]
  refine ⟨⟨h.base.noErr, h.base.cfg, curN, rN, h.base.normP, h.base.sorted, h.base.remNonneg, h.base.fired⟩, ?_⟩
  refine (pcInv_of (pc := .r3 id) rfl).mpr ?_
  simp only [PcInvAt]
  refine ⟨h1, e0, n' :: rest, hpd, heid, a1, rfl, ?_, ⟨n', rest, rfl, ?_⟩, ?_⟩
  · show 0 < (tts.add (n'.deadline.sub e0.deadline)).toUs
    omega
  · show n'.deadline.toUs = (σ.tsf.add (σ.ltr.sub tts)).toUs + (tts.add (n'.deadline.sub e0.deadline)).toUs
    omega
  · intro x hx
    have := a5 x (by rw [hpd]; exact List.mem_cons_of_mem _ hx)
    show x.gBirth + x.gCs * 10000 + (σ.tsf.add (σ.ltr.sub tts)).toUs ≤ x.deadline.toUs + σ.now
    omega

theorem lag_step_r3 {σ : St} (h : LagInv σ) (id : Nat) (hpc : σ.pc = .r3 id) :
    LagInv (step false σ) := by
  obtain ⟨h1, e, rest, hpd, heid, hpre⟩ := (pcInv_of hpc).mp h.pcInv
  have hok' : σ.sigOnce.timevalOK = true := by rw [hpre.2.1]; exact Time.timevalOK_of_norm h.base.normL
  have her : eraseId id σ.pending = rest := by rw [hpd]; simp [eraseId, heid]
  rw [step_r3 false hpc, if_pos hok']
  have ha : Armed { σ with remaining := σ.sigOnce.toUs, log := .setitimer σ.sigOnce.toUs :: σ.log,
                           pending := eraseId id σ.pending, pc := .dEnd id } :=
    hpre.arm rfl her rfl rfl rfl rfl
  exact ⟨⟨h.base.noErr, h.base.cfg, h.base.normT, h.base.normL,
    fun x hx => h.base.normP x (mem_of_mem_eraseId hx), sorted_eraseId h.base.sorted, ha.2.1,
    base_fired_cons (by intros; simp) h.base.fired⟩, (pcInv_of (pc := .dEnd id) rfl).mpr ⟨h1, Or.inl ha⟩⟩

theorem lag_step_s1 {σ : St} (h : LagInv σ) (id : Nat) (hpc : σ.pc = .s1 id) :
    LagInv (step false σ) := by
  obtain ⟨h1, ha, h3⟩ := (pcInv_of hpc).mp h.pcInv
  rw [step_s1 false hpc]
  refine ⟨⟨h.base.noErr, h.base.cfg, h.base.normT, h.base.normL, h.base.normP, h.base.sorted, h.base.remNonneg, h.base.fired⟩, ?_⟩
  refine (pcInv_of (pc := .s2 id) rfl).mpr ?_
  simp only [PcInvAt]
  exact ⟨h1, ha, h3, trivial⟩

theorem lag_step_s2 {σ : St} (h : LagInv σ) (id : Nat) (hpc : σ.pc = .s2 id) :
    LagInv (step false σ) := by
  obtain ⟨h1, ha, ⟨e, hpd, heid⟩, h4⟩ := (pcInv_of hpc).mp h.pcInv
  have hok' : σ.sigOnce.timevalOK = true := by rw [h4]; decide
  have her : eraseId id σ.pending = [] := by rw [hpd]; simp [eraseId, heid]
  rw [step_s2 false hpc, if_pos hok']
  have hz : σ.sigOnce.toUs = 0 := by rw [h4]; exact Time.toUs_zero
  refine ⟨⟨h.base.noErr, h.base.cfg, h.base.normT, h.base.normL, ?_, ?_, ?_,
    base_fired_cons (by intros; simp) h.base.fired⟩, ?_⟩
  · intro x hx; exact h.base.normP x (mem_of_mem_eraseId hx)
  · exact sorted_eraseId h.base.sorted
  · show 0 ≤ σ.sigOnce.toUs
    omega
  · refine (pcInv_of (pc := .dEnd id) rfl).mpr ?_
    simp only [PcInvAt]
    exact ⟨h1, Or.inr ⟨rfl, hz, her⟩⟩

theorem lag_step_dEnd {σ : St} (h : LagInv σ) (id : Nat) (hpc : σ.pc = .dEnd id) :
    LagInv (step false σ) := by
  have hp := (pcInv_of hpc).mp h.pcInv
  rw [step_dEnd false hpc]
  exact lag_leave h.base hp.2 _

/-- the body of `handle_timeout` run at an instant at which the timer has expired (`remaining = 0`)
outside a critical section — from the signal handler (`sync = none`) or from
`leave_critical_section`: no action runs early, and the timer is (about to be) re-armed for the
next deadline -/
theorem lag_body (τ : St) (hb : Base τ) (ha : Armed τ) (hR : τ.remaining = 0) (sync : Option Fin) :
    Base (handlerBody false sync τ) ∧ (handlerBody false sync τ).inCrit = τ.inCrit ∧
    (((handlerBody false sync τ).pc = τ.pc ∧ Stable (handlerBody false sync τ)) ∨
     (∃ fin, sync = some fin ∧ (handlerBody false sync τ).pc = .l4 fin ∧
        (handlerBody false sync τ).remaining = 0 ∧
        PreArmed (handlerBody false sync τ) (handlerBody false sync τ).pending)) := by
  obtain ⟨a1, a2, a3, ⟨e, r, hp, hhead⟩, a5⟩ := ha
  have hnT' : (τ.tsf.add τ.ltr).Norm := Time.add_norm hb.normT hb.normL
  have hT' : (τ.tsf.add τ.ltr).toUs = τ.tsf.toUs + τ.ltr.toUs := Time.add_toUs hb.normT hb.normL
  have hnormP : AllNorm (e :: r) := hp ▸ hb.normP
  have hrestSub : (takeDue false (τ.tsf.add τ.ltr) r).2.Sublist τ.pending := by
    rw [hp]; exact (takeDue_sublist_snd _ _ _).trans (List.sublist_cons_self e r)
  have hdue : ∀ x ∈ e :: (takeDue false (τ.tsf.add τ.ltr) r).1,
      x ∈ τ.pending ∧ x.deadline.toUs ≤ τ.tsf.toUs + τ.ltr.toUs := by
    intro x hx
    rcases List.mem_cons.mp hx with hh | hh
    · subst hh; exact ⟨by rw [hp]; simp, by omega⟩
    · have hxr : x ∈ r := (takeDue_sublist_fst _ _ _).subset hh
      have h1 := (Time.le_false_iff (hnormP x (List.mem_cons_of_mem _ hxr)) hnT').mp (takeDue_due _ _ _ x hh)
      exact ⟨by rw [hp]; exact List.mem_cons_of_mem _ hxr, by omega⟩
  have hfired : ∀ id t b cs, Event.fired id t b cs ∈
      (firedEvents τ.now (e :: (takeDue false (τ.tsf.add τ.ltr) r).1)).reverse ++ τ.log →
      b + cs * 10000 ≤ t := by
    intro id t b cs hh
    rcases mem_fired_block.mp hh with ⟨x, hx, _, e2, e3, e4⟩ | hh
    · obtain ⟨hxm, hxd⟩ := hdue x hx
      have := a5 x hxm
      subst e3 e4
      omega
    · exact hb.fired id t b cs hh
  unfold handlerBody
  simp only [hp]
  split
  · rename_i hrest
    refine ⟨⟨hb.noErr, hb.cfg, hnT', hb.normL, ?_, ?_, hb.remNonneg, hfired⟩, rfl, Or.inl ⟨rfl, Or.inr ⟨rfl, hR, hrest⟩⟩⟩
    · show AllNorm (takeDue false (τ.tsf.add τ.ltr) r).2
      rw [hrest]; intro x hx; simp at hx
    · show Sorted (takeDue false (τ.tsf.add τ.ltr) r).2
      rw [hrest]; simp [Sorted]
  · rename_i n rest' hrest
    have hnrest : n ∈ (takeDue false (τ.tsf.add τ.ltr) r).2 := by rw [hrest]; simp
    have hnmem : n ∈ τ.pending := hrestSub.subset hnrest
    have hnn : n.deadline.Norm := hb.normP n hnmem
    have hgt : τ.tsf.toUs + τ.ltr.toUs < n.deadline.toUs := by
      have h1 := takeDue_rest_head false (τ.tsf.add τ.ltr) r n rest' hrest
      have h2 := Time.le_false_iff hnn hnT'
      cases hle : Time.le false n.deadline (τ.tsf.add τ.ltr)
      · have : ¬ (n.deadline.toUs ≤ (τ.tsf.add τ.ltr).toUs) := fun hh => by
          have := h2.mpr hh; rw [hle] at this; exact absurd this (by simp)
        omega
      · rw [hle] at h1; exact absurd h1 (by simp)
    have hsubN : (n.deadline.sub (τ.tsf.add τ.ltr)).Norm := Time.sub_norm hnn hnT'
    have hsubU : (n.deadline.sub (τ.tsf.add τ.ltr)).toUs = n.deadline.toUs - (τ.tsf.toUs + τ.ltr.toUs) := by
      rw [Time.sub_toUs_ge hnn hnT' (by omega), hT']
    have hnz : (n.deadline.sub (τ.tsf.add τ.ltr)).isZero = false := by
      cases hz : (n.deadline.sub (τ.tsf.add τ.ltr)).isZero
      · rfl
      · have := (Time.isZero_iff hsubN).mp hz; omega
    have hok := Time.timevalOK_of_norm hsubN
    have hnormRest : AllNorm (takeDue false (τ.tsf.add τ.ltr) r).2 :=
      fun x hx => hb.normP x (hrestSub.subset hx)
    have hsortRest : Sorted (takeDue false (τ.tsf.add τ.ltr) r).2 :=
      List.Pairwise.sublist hrestSub hb.sorted
    have hbirthRest : ∀ x ∈ (takeDue false (τ.tsf.add τ.ltr) r).2,
        x.gBirth + x.gCs * 10000 + (τ.tsf.toUs + τ.ltr.toUs) ≤ x.deadline.toUs + τ.now := by
      intro x hx
      have := a5 x (hrestSub.subset hx)
      omega
    cases sync with
    | none =>
      simp only
      unfold setTimerH
      simp only [hnz, Bool.false_eq_true, if_false, hok, if_true]
      refine ⟨⟨hb.noErr, hb.cfg, hnT', hsubN, hnormRest, hsortRest, ?_, base_fired_cons (by intros; simp) hfired⟩,
        trivial, Or.inl ⟨trivial, Or.inl ⟨a1, ?_, Int.le_refl _, ⟨n, rest', hrest, ?_⟩, ?_⟩⟩⟩
      · show 0 ≤ (n.deadline.sub (τ.tsf.add τ.ltr)).toUs
        omega
      · show 0 ≤ (n.deadline.sub (τ.tsf.add τ.ltr)).toUs
        omega
      · show n.deadline.toUs = (τ.tsf.add τ.ltr).toUs + (n.deadline.sub (τ.tsf.add τ.ltr)).toUs
        omega
      · intro x hx
        have := hbirthRest x hx
        show x.gBirth + x.gCs * 10000 + ((τ.tsf.add τ.ltr).toUs + (n.deadline.sub (τ.tsf.add τ.ltr)).toUs
          - (n.deadline.sub (τ.tsf.add τ.ltr)).toUs) ≤ x.deadline.toUs + τ.now
        omega
    | some fin =>
      simp only [hnz, Bool.false_eq_true, if_false]
      refine ⟨⟨hb.noErr, hb.cfg, hnT', hsubN, hnormRest, hsortRest, hb.remNonneg, hfired⟩,
        trivial, Or.inr ⟨fin, rfl, rfl, hR, a1, rfl, ?_, ⟨n, rest', hrest, ?_⟩, ?_⟩⟩
      · show 0 < (n.deadline.sub (τ.tsf.add τ.ltr)).toUs
        omega
      · show n.deadline.toUs = (τ.tsf.add τ.ltr).toUs + (n.deadline.sub (τ.tsf.add τ.ltr)).toUs
        omega
      · intro x hx
        have := hbirthRest x hx
        show x.gBirth + x.gCs * 10000 + (τ.tsf.add τ.ltr).toUs ≤ x.deadline.toUs + τ.now
        omega

/-- the same body when the clock is stopped (a stale `timeout_deferred`): it only clears
`alarm_clock_running` again -/
theorem lag_body_stopped (τ : St) (hb : Base τ) (hs : Stopped τ) (sync : Option Fin) :
    Base (handlerBody false sync τ) ∧ (handlerBody false sync τ).inCrit = τ.inCrit ∧
    (handlerBody false sync τ).pc = τ.pc ∧ Stable (handlerBody false sync τ) := by
  obtain ⟨s1, s2, s3⟩ := hs
  unfold handlerBody
  simp only
  split
  · exact ⟨⟨hb.noErr, hb.cfg, Time.add_norm hb.normT hb.normL, hb.normL, hb.normP,
      hb.sorted, hb.remNonneg, hb.fired⟩, rfl, rfl, Or.inr ⟨rfl, s2, s3⟩⟩
  · rename_i e r hp
    rw [s3] at hp; exact absurd hp (by simp)

theorem lag_step_l2 {σ : St} (h : LagInv σ) (fin : Fin) (hpc : σ.pc = .l2 fin) :
    LagInv (step false σ) := by
  have hp := (pcInv_of hpc).mp h.pcInv
  rw [step_l2 false hpc]
  have ttsN : (getTimer σ).Norm := Time.mk2_timer_norm h.base.remNonneg
  have ttsU : (getTimer σ).toUs = σ.remaining := Time.mk2_timer_toUs σ.remaining
  refine ⟨⟨h.base.noErr, h.base.cfg, h.base.normT, h.base.normL, h.base.normP, h.base.sorted, h.base.remNonneg,
    base_fired_cons (by intros; simp) h.base.fired⟩, ?_⟩
  refine (pcInv_of (pc := .l3 fin (getTimer σ)) rfl).mpr ?_
  simp only [PcInvAt]
  refine ⟨hp.1, ?_, fun hz => ?_⟩
  · rcases hp.2 with ha | hs
    · exact Or.inl ha
    · exact Or.inr hs
  · have := (Time.isZero_iff ttsN).mp hz
    show σ.remaining = 0
    omega

theorem lag_step_l3 {σ : St} (h : LagInv σ) (fin : Fin) (tts : Time) (hpc : σ.pc = .l3 fin tts) :
    LagInv (step false σ) := by
  obtain ⟨hc, hst, hz⟩ := (pcInv_of hpc).mp h.pcInv
  cases hzz : tts.isZero
  · rw [step_l3 false hpc, hzz, if_neg Bool.false_ne_true]
    exact lag_finish h.base hc hst fin
  · have hR := hz hzz
    rw [step_l3 false hpc, hzz, if_pos rfl]
    rcases hst with ha | hs
    · obtain ⟨b1, b2, b3⟩ := lag_body σ h.base ha hR (some fin)
      rcases b3 with ⟨q1, q2⟩ | ⟨f, hf, q1, q2, q3⟩
      · simp only [q1, if_true]
        exact lag_finish b1 (b2.trans hc) q2 fin
      · have hne : (handlerBody false (some fin) σ).pc ≠ σ.pc := by rw [q1, hpc]; simp
        simp only [hne, if_false]
        refine ⟨b1, ?_⟩
        injection hf with hf
        subst hf
        refine (pcInv_of q1).mpr ?_
        simp only [PcInvAt]
        exact ⟨b2.trans hc, q2, q3⟩
    · obtain ⟨b1, b2, b3, b4⟩ := lag_body_stopped σ h.base hs (some fin)
      simp only [b3, if_true]
      exact lag_finish b1 (b2.trans hc) b4 fin

theorem lag_step_l4 {σ : St} (h : LagInv σ) (fin : Fin) (hpc : σ.pc = .l4 fin) :
    LagInv (step false σ) := by
  obtain ⟨hc, hR, hpre⟩ := (pcInv_of hpc).mp h.pcInv
  have hok' : σ.sigOnce.timevalOK = true := by rw [hpre.2.1]; exact Time.timevalOK_of_norm h.base.normL
  rw [step_l4 false hpc, if_pos hok']
  have ha : Armed { σ with remaining := σ.sigOnce.toUs, log := .setitimer σ.sigOnce.toUs :: σ.log, pc := .l5 fin } :=
    hpre.arm rfl rfl rfl rfl rfl rfl
  exact ⟨⟨h.base.noErr, h.base.cfg, h.base.normT, h.base.normL, h.base.normP, h.base.sorted, ha.2.1,
    base_fired_cons (by intros; simp) h.base.fired⟩, (pcInv_of (pc := .l5 fin) rfl).mpr ⟨hc, Or.inl ha⟩⟩

theorem lag_step_l5 {σ : St} (h : LagInv σ) (fin : Fin) (hpc : σ.pc = .l5 fin) :
    LagInv (step false σ) := by
  have hp := (pcInv_of hpc).mp h.pcInv
  rw [step_l5 false hpc]
  exact lag_finish h.base hp.1 hp.2 fin

theorem lag_step {σ : St} (h : LagInv σ) : LagInv (step false σ) := by
  cases hpc : σ.pc with
  | idle =>
    rw [step_idle false hpc]
    exact h
  | a1 id cs b d => exact lag_step_a1 h id cs b d hpc
  | a2 id => exact lag_step_a2 h id hpc
  | b1 id cs b d => exact lag_step_b1 h id cs b d hpc
  | b2 id cs b d tts => exact lag_step_b2 h id cs b d tts hpc
  | b3 id => exact lag_step_b3 h id hpc
  | cEnd id => exact lag_step_cEnd h id hpc
  | d1 id => exact lag_step_d1 h id hpc
  | r1 id f n => exact lag_step_r1 h id f n hpc
  | r2 id f n tts => exact lag_step_r2 h id f n tts hpc
  | r3 id => exact lag_step_r3 h id hpc
  | s1 id => exact lag_step_s1 h id hpc
  | s2 id => exact lag_step_s2 h id hpc
  | dEnd id => exact lag_step_dEnd h id hpc
  | l2 fin => exact lag_step_l2 h fin hpc
  | l3 fin tts => exact lag_step_l3 h fin tts hpc
  | l4 fin => exact lag_step_l4 h fin hpc
  | l5 fin => exact lag_step_l5 h fin hpc

end PPLV.Watchdog

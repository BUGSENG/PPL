import PPLV.Watchdog.ProofsClockSched

/-! Consequences of the invariants, in the form used by `PPLV/Props/C19.lean`. -/
namespace PPLV.Watchdog

theorem steps_log_suffix (b : Bool) (n : Nat) : ∀ σ, ∃ es, (steps b n σ).log = es ++ σ.log := by
  induction n with
  | zero => intro σ; exact ⟨[], rfl⟩
  | succ k ih =>
    intro σ
    obtain ⟨es1, h1⟩ := step_log_suffix b σ
    obtain ⟨es2, h2⟩ := ih (step b σ)
    exact ⟨es2 ++ es1, by show (steps b k (step b σ)).log = _; rw [h2, h1]; simp⟩

/-- what the clock invariant yields for the log of ANY reachable state (inside or outside a
critical section) of a quiet run of the repaired code -/
theorem quiet_log_facts {σ : St} (h : Inv σ) (hd : σ.dirty = false) :
    ∃ l, (∃ es, l = es ++ σ.log) ∧
      (∀ id t b cs, Event.fired id t b cs ∈ l → t = b + cs * 10000) ∧ Ordered l := by
  rcases h with h1 | hc | ⟨_, n, hn⟩
  · rw [hd] at h1; exact absurd h1 (by simp)
  · exact ⟨σ.log, ⟨[], rfl⟩, fun id t b cs hh => (hc.exact id t b cs hh).1, hc.ordered⟩
  · obtain ⟨es, hes⟩ := steps_log_suffix false n σ
    exact ⟨(steps false n σ).log, ⟨es, hes⟩, fun id t b cs hh => (hn.exact id t b cs hh).1, hn.ordered⟩

theorem ordered_suffix : ∀ (es l : List Event), Ordered (es ++ l) → Ordered l := by
  intro es
  induction es with
  | nil => intro l h; exact h
  | cons a as ih => intro l h; exact ih l h.1

theorem clock_of_quiet {σ : St} (h : Inv σ) (hd : σ.dirty = false)
    (hc : σ.inCrit = false) : Clock σ := by
  rcases h with h1 | h1 | ⟨h1, _⟩
  · rw [hd] at h1; exact absurd h1 (by simp)
  · exact h1
  · rw [hc] at h1; exact absurd h1 (by simp)

/-- outside critical sections no pending watchdog is overdue -/
theorem Clock.prompt {σ : St} (h : Clock σ) (id : Nat) (b cs : Int)
    (hborn : Event.born id b cs ∈ σ.log) (hdue : b + cs * 10000 ≤ σ.now) :
    (Event.fired id (b + cs * 10000) b cs ∈ σ.log) ∨ destroyedIn σ.log id := by
  rcases h.cover id b cs hborn with ⟨e, he, e1, e2, e3⟩ | ⟨t, ht⟩ | hd
  · exfalso
    have hne : σ.pending ≠ [] := fun hh => by rw [hh] at he; simp at he
    have hr := h.run.mpr hne
    obtain ⟨a1, a2, a3, a4⟩ := h.armed hr
    have hb := (h.birth e he).1
    cases hp : σ.pending with
    | nil => exact hne hp
    | cons e0 r0 =>
      have h0 := a4 e0 r0 hp
      have hle : e0.deadline.toUs ≤ e.deadline.toUs := by
        rw [hp] at he
        rcases List.mem_cons.mp he with hh | hh
        · rw [hh]; exact Int.le_refl _
        · have := h.sorted; rw [hp] at this
          unfold Sorted at this; rw [List.pairwise_cons] at this
          exact this.1 e hh
      rw [e2, e3] at hb
      omega
  · left
    have := (h.exact id t b cs ht).1
    rw [this] at ht; exact ht
  · exact Or.inr hd

/-- the list form of `NAD` -/
theorem nad_split : ∀ (pre post : List Event) (id : Nat) (t b cs : Int),
    NAD (pre ++ Event.fired id t b cs :: post) → ¬ destroyedIn post id := by
  intro pre
  induction pre with
  | nil => intro post id t b cs h; exact h.2 id t b cs rfl
  | cons a as ih => intro post id t b cs h; exact ih post id t b cs h.1

theorem ordered_split : ∀ (pre post : List Event) (id : Nat) (t b cs : Int),
    Ordered (pre ++ Event.fired id t b cs :: post) →
    ∀ id' t' b' cs', Event.fired id' t' b' cs' ∈ post → b' + cs' * 10000 ≤ b + cs * 10000 := by
  intro pre
  induction pre with
  | nil => intro post id t b cs h; exact h.2 id t b cs rfl
  | cons a as ih => intro post id t b cs h; exact ih post id t b cs h.1

theorem firedOnce_split : ∀ (pre post : List Event) (id : Nat) (t b cs : Int),
    FiredOnce (pre ++ Event.fired id t b cs :: post) → ¬ firedIn post id := by
  intro pre
  induction pre with
  | nil => intro post id t b cs h; exact h.2 id t b cs rfl
  | cons a as ih => intro post id t b cs h; exact ih post id t b cs h.1

/-- number of firings of `id` in a log -/
def firedCount (log : List Event) (id : Nat) : Nat := (log.filter (Event.isFiredOf id)).length

theorem firedCount_zero_of_not_firedIn {l : List Event} {id : Nat} (h : ¬ firedIn l id) :
    firedCount l id = 0 := by
  unfold firedCount
  rw [List.length_eq_zero_iff, List.filter_eq_nil_iff]
  intro e he hf
  cases e <;> simp [Event.isFiredOf] at hf
  rename_i i t b cs
  subst hf
  exact h ⟨t, b, cs, he⟩

theorem firedCount_le_one {l : List Event} (h : FiredOnce l) (id : Nat) : firedCount l id ≤ 1 := by
  induction l with
  | nil => simp [firedCount]
  | cons e r ih =>
    have ih' := ih h.1
    unfold firedCount at ih' ⊢
    rw [List.filter_cons]
    split
    · rename_i hf
      cases e <;> simp [Event.isFiredOf] at hf
      rename_i i t b cs
      subst hf
      have := firedCount_zero_of_not_firedIn (h.2 i t b cs rfl)
      unfold firedCount at this
      simp [this]
    · exact ih'

end PPLV.Watchdog

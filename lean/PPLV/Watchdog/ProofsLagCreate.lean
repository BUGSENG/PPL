import PPLV.Watchdog.ProofsLagInv

/-! `LagInv` is preserved by the statement groups of the constructor. -/
namespace PPLV.Watchdog

theorem base_fired_cons {l : List Event} {e : Event} (he : ∀ id t b cs, e ≠ Event.fired id t b cs)
    (h : ∀ id t b cs, Event.fired id t b cs ∈ l → b + cs * 10000 ≤ t) :
    ∀ id t b cs, Event.fired id t b cs ∈ e :: l → b + cs * 10000 ≤ t := by
  intro id t b cs hh
  rcases List.mem_cons.mp hh with h1 | h1
  · exact absurd h1.symm (he id t b cs)
  · exact h id t b cs h1

theorem lag_step_a1 {σ : St} (h : LagInv σ) (id : Nat) (cs b : Int) (d : Time) (hpc : σ.pc = .a1 id cs b d) :
    LagInv (step false σ) := by
  obtain ⟨h1, ⟨s1, s2, s3⟩, h3, h4, h5⟩ := (pcInv_of hpc).mp h.pcInv
  obtain ⟨hn, hu, hnz, hok⟩ := ofCs_facts h4
  subst h3
  rw [step_a1 false hpc, hnz, if_neg Bool.false_ne_true, s3, insertEv]
  refine ⟨⟨h.base.noErr, h.base.cfg, Time.norm_zero, hn, ?_, ?_, h.base.remNonneg, h.base.fired⟩, ?_⟩
  · intro e he; simp at he; subst he; exact hn
  · simp [Sorted]
  · refine (pcInv_of (pc := .a2 id) rfl).mpr ?_
    simp only [PcInvAt]
    exact ⟨h1, s1, s2, trivial, trivial, b, cs, rfl, rfl, h4, h5⟩

theorem lag_step_a2 {σ : St} (h : LagInv σ) (id : Nat) (hpc : σ.pc = .a2 id) :
    LagInv (step false σ) := by
  obtain ⟨h1, h2, h3, h4, h5, b, cs, h6, h7, h8, h9⟩ := (pcInv_of hpc).mp h.pcInv
  obtain ⟨hn, hu, hnz, hok⟩ := ofCs_facts h8
  have hok' : σ.sigOnce.timevalOK = true := by rw [h5, h7]; exact hok
  rw [step_a2 false hpc, if_pos hok']
  have hL : σ.ltr.toUs = cs * 10000 := by rw [h7]; exact hu
  refine ⟨⟨h.base.noErr, h.base.cfg, h.base.normT, h.base.normL, h.base.normP, h.base.sorted, ?_,
    base_fired_cons (by intros; simp) h.base.fired⟩, ?_⟩
  · show 0 ≤ σ.sigOnce.toUs
    rw [h5, hL]; omega
  · refine (pcInv_of (pc := .cEnd id) rfl).mpr ?_
    simp only [PcInvAt]
    refine ⟨h1, Or.inl ⟨rfl, ?_, ?_, ⟨_, [], h6, ?_⟩, ?_⟩⟩
    · show 0 ≤ σ.sigOnce.toUs
      rw [h5, hL]; omega
    · show σ.sigOnce.toUs ≤ σ.ltr.toUs
      rw [h5]; exact Int.le_refl _
    · show σ.ltr.toUs = σ.tsf.toUs + σ.ltr.toUs
      rw [h4, Time.toUs_zero]; omega
    · intro e he
      have he' : e ∈ σ.pending := he
      rw [h6] at he'
      simp at he'
      subst he'
      show b + cs * 10000 + (σ.tsf.toUs + σ.ltr.toUs - σ.sigOnce.toUs) ≤ σ.ltr.toUs + σ.now
      rw [h4, Time.toUs_zero, h5, hL]; omega

theorem lag_step_b1 {σ : St} (h : LagInv σ) (id : Nat) (cs b : Int) (d : Time) (hpc : σ.pc = .b1 id cs b d) :
    LagInv (step false σ) := by
  obtain ⟨h1, ha, h3, h4, h5⟩ := (pcInv_of hpc).mp h.pcInv
  rw [step_b1 false hpc]
  have ttsN : (getTimer σ).Norm := Time.mk2_timer_norm h.base.remNonneg
  have ttsU : (getTimer σ).toUs = σ.remaining := Time.mk2_timer_toUs σ.remaining
  refine ⟨⟨h.base.noErr, h.base.cfg, h.base.normT, h.base.normL, h.base.normP, h.base.sorted, h.base.remNonneg,
    base_fired_cons (by intros; simp) h.base.fired⟩, ?_⟩
  refine (pcInv_of (pc := .b2 id cs b d (getTimer σ)) rfl).mpr ?_
  simp only [PcInvAt]
  have := ha.2.2.1
  exact ⟨h1, ha, h3, h4, ttsN, by rw [ttsU]; exact Int.le_refl _, by rw [ttsU]; exact this, by rw [ttsU]; omega⟩

theorem lag_step_b2 {σ : St} (h : LagInv σ) (id : Nat) (cs b : Int) (d tts : Time)
    (hpc : σ.pc = .b2 id cs b d tts) : LagInv (step false σ) := by
  obtain ⟨h1, ⟨a1, a2, a3, ⟨e0, r0, hpd, hhead⟩, a5⟩, h3, h4, ttsN, h6, h7, h8⟩ := (pcInv_of hpc).mp h.pcInv
  obtain ⟨hn, hu, hnz, hok⟩ := ofCs_facts h4
  subst h3
  obtain ⟨curN, curU⟩ := Time.add_sub h.base.normT h.base.normL ttsN h7
  have realN := Time.add_norm hn curN
  have realU : ((Time.ofCs cs).add (σ.tsf.add (σ.ltr.sub tts))).toUs =
      cs * 10000 + σ.tsf.toUs + σ.ltr.toUs - tts.toUs := by
    rw [Time.add_toUs hn curN, curU, hu]; omega
  have he0 : e0.deadline.Norm := h.base.normP e0 (by rw [hpd]; simp)
  obtain ⟨hd, tl, hins, hmin, _⟩ := head_insertEv
    (x := ⟨(Time.ofCs cs).add (σ.tsf.add (σ.ltr.sub tts)), id, b, cs⟩) (r := r0) realN he0
  have hnormP' := allNorm_insertEv (x := ⟨(Time.ofCs cs).add (σ.tsf.add (σ.ltr.sub tts)), id, b, cs⟩)
    realN h.base.normP
  have hsorted' := sorted_insertEv (x := ⟨(Time.ofCs cs).add (σ.tsf.add (σ.ltr.sub tts)), id, b, cs⟩)
    realN h.base.normP h.base.sorted
  cases hlt : (Time.ofCs cs).lt tts
  · -- the timer stays as it is
    have hge : tts.toUs ≤ cs * 10000 := by
      have := (Time.lt_false_iff hn ttsN).mp hlt; rw [hu] at this; exact this
    rw [step_b2 false hpc, hlt, if_neg Bool.false_ne_true]
    refine ⟨⟨h.base.noErr, h.base.cfg, h.base.normT, h.base.normL, hnormP', hsorted', h.base.remNonneg, h.base.fired⟩, ?_⟩
    refine (pcInv_of (pc := .cEnd id) rfl).mpr ?_
    simp only [PcInvAt]
    refine ⟨h1, Or.inl ⟨a1, a2, a3, ⟨hd, tl, by rw [hpd]; exact hins, ?_⟩, ?_⟩⟩
    · show hd.deadline.toUs = σ.tsf.toUs + σ.ltr.toUs
      rw [hmin]
      show min ((Time.ofCs cs).add (σ.tsf.add (σ.ltr.sub tts))).toUs e0.deadline.toUs = _
      rw [realU, hhead]
      exact Int.min_eq_right (by omega)
    · intro e he
      rcases mem_insertEv.mp he with hh | hh
      · subst hh
        show b + cs * 10000 + (σ.tsf.toUs + σ.ltr.toUs - σ.remaining) ≤
          ((Time.ofCs cs).add (σ.tsf.add (σ.ltr.sub tts))).toUs + σ.now
        rw [realU]; omega
      · exact a5 e hh
  · -- re-arm for the new, earlier deadline
    have hlt' : cs * 10000 < tts.toUs := by
      have := (Time.lt_iff hn ttsN).mp hlt; rw [hu] at this; exact this
    rw [step_b2 false hpc, hlt, if_pos rfl, hnz, if_neg Bool.false_ne_true]
    refine ⟨⟨h.base.noErr, h.base.cfg, curN, hn, hnormP', hsorted', h.base.remNonneg, h.base.fired⟩, ?_⟩
    refine (pcInv_of (pc := .b3 id) rfl).mpr ?_
    simp only [PcInvAt]
    refine ⟨h1, a1, rfl, ?_, ⟨hd, tl, by rw [hpd]; exact hins, ?_⟩, ?_⟩
    · show 0 < (Time.ofCs cs).toUs
      omega
    · show hd.deadline.toUs = (σ.tsf.add (σ.ltr.sub tts)).toUs + (Time.ofCs cs).toUs
      rw [hmin]
      show min ((Time.ofCs cs).add (σ.tsf.add (σ.ltr.sub tts))).toUs e0.deadline.toUs = _
      rw [realU, hhead, curU, hu, Int.min_eq_left (by omega)]
      omega
    · intro e he
      rcases mem_insertEv.mp he with hh | hh
      · subst hh
        show b + cs * 10000 + (σ.tsf.add (σ.ltr.sub tts)).toUs ≤
          ((Time.ofCs cs).add (σ.tsf.add (σ.ltr.sub tts))).toUs + σ.now
        rw [realU, curU]; omega
      · have := a5 e hh
        show e.gBirth + e.gCs * 10000 + (σ.tsf.add (σ.ltr.sub tts)).toUs ≤ e.deadline.toUs + σ.now
        rw [curU]; omega

theorem lag_step_b3 {σ : St} (h : LagInv σ) (id : Nat) (hpc : σ.pc = .b3 id) :
    LagInv (step false σ) := by
  obtain ⟨h1, hpre⟩ := (pcInv_of hpc).mp h.pcInv
  have hok' : σ.sigOnce.timevalOK = true := by rw [hpre.2.1]; exact Time.timevalOK_of_norm h.base.normL
  rw [step_b3 false hpc, if_pos hok']
  have ha : Armed { σ with remaining := σ.sigOnce.toUs, log := .setitimer σ.sigOnce.toUs :: σ.log, pc := .cEnd id } :=
    hpre.arm rfl rfl rfl rfl rfl rfl
  exact ⟨⟨h.base.noErr, h.base.cfg, h.base.normT, h.base.normL, h.base.normP, h.base.sorted, ha.2.1,
    base_fired_cons (by intros; simp) h.base.fired⟩, (pcInv_of (pc := .cEnd id) rfl).mpr ⟨h1, Or.inl ha⟩⟩

/-- the operation returns to its caller -/
theorem lag_finish {σ : St} (hb : Base σ) (hc : σ.inCrit = false) (hst : Stable σ) (fin : Fin) :
    LagInv (finish σ fin) := by
  -- either way one event that is not a firing is logged and the program counter returns to `idle`
  cases fin <;>
    exact ⟨⟨hb.noErr, hb.cfg, hb.normT, hb.normL, hb.normP, hb.sorted, hb.remNonneg,
      base_fired_cons (by intros; simp) hb.fired⟩, (pcInv_of (pc := .idle) rfl).mpr ⟨hc, hst⟩⟩

/-- `leave_critical_section` up to the test of `timeout_deferred` -/
theorem lag_leave {σ : St} (hb : Base σ) (hst : Stable σ) (fin : Fin) : LagInv (leave σ fin) := by
  unfold leave
  split
  · refine ⟨⟨hb.noErr, hb.cfg, hb.normT, hb.normL, hb.normP, hb.sorted, hb.remNonneg, hb.fired⟩, ?_⟩
    refine (pcInv_of (pc := .l2 fin) rfl).mpr ?_
    simp only [PcInvAt]
    exact ⟨trivial, hst⟩
  · have hb' : Base { σ with inCrit := false } :=
      ⟨hb.noErr, hb.cfg, hb.normT, hb.normL, hb.normP, hb.sorted, hb.remNonneg, hb.fired⟩
    exact lag_finish hb' rfl hst fin

theorem lag_step_cEnd {σ : St} (h : LagInv σ) (id : Nat) (hpc : σ.pc = .cEnd id) :
    LagInv (step false σ) := by
  have hp := (pcInv_of hpc).mp h.pcInv
  rw [step_cEnd false hpc]
  exact lag_leave h.base hp.2 _

end PPLV.Watchdog

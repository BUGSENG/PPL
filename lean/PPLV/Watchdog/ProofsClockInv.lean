import PPLV.Watchdog.ProofsSafeSched

/-! The clock invariant: outside critical sections, and as long as no time has passed inside one,
the reconstructed clock `time_so_far + (last_time_requested - remaining)` IS real time since the
epoch, the pending list is sorted and the timer is armed for its first deadline. -/
namespace PPLV.Watchdog

def steps (b : Bool) : Nat → St → St
  | 0, σ => σ
  | n+1, σ => steps b n (step b σ)

/-- successive firings have non-decreasing real deadlines (log is newest first) -/
def Ordered : List Event → Prop
  | [] => True
  | e :: l => Ordered l ∧ ∀ id t b cs, e = Event.fired id t b cs →
      ∀ id' t' b' cs', Event.fired id' t' b' cs' ∈ l → b' + cs' * 10000 ≤ b + cs * 10000

structure Clock (σ : St) : Prop where
  pcOut : σ.pc = .idle ∨ ∃ id, σ.pc = .d1 id
  notCrit : σ.inCrit = false
  noErr : σ.err = false
  normT : σ.tsf.Norm
  normL : σ.ltr.Norm
  normP : AllNorm σ.pending
  sorted : Sorted σ.pending
  remNonneg : 0 ≤ σ.remaining
  run : σ.running = true ↔ σ.pending ≠ []
  armed : σ.running = true → 0 < σ.remaining ∧ σ.remaining ≤ σ.ltr.toUs ∧
      σ.now - σ.epoch = σ.tsf.toUs + σ.ltr.toUs - σ.remaining ∧
      ∀ e r, σ.pending = e :: r → e.deadline.toUs = σ.tsf.toUs + σ.ltr.toUs
  idleT : σ.running = false → σ.remaining = 0
  birth : ∀ e ∈ σ.pending, σ.epoch + e.deadline.toUs = e.gBirth + e.gCs * 10000 ∧ 0 < e.gCs
  exact : ∀ id t b cs, Event.fired id t b cs ∈ σ.log → t = b + cs * 10000 ∧ t ≤ σ.now
  ordered : Ordered σ.log
  cover : ∀ id b cs, Event.born id b cs ∈ σ.log →
      (∃ e ∈ σ.pending, e.id = id ∧ e.gBirth = b ∧ e.gCs = cs) ∨ (∃ t, Event.fired id t b cs ∈ σ.log) ∨
      destroyedIn σ.log id

theorem clock_init : Clock {} := by
  constructor <;> simp [AllNorm, Sorted, Ordered, Time.zero, Time.Norm]

theorem ordered_cons_other {e : Event} {l : List Event} (h : Ordered l)
    (he : ∀ id t b cs, e ≠ Event.fired id t b cs) : Ordered (e :: l) :=
  ⟨h, fun id t b cs hh => absurd hh (he id t b cs)⟩

/-- a block of firings, all with real deadline `now`, on top of a log whose firings have deadlines
`≤ now` -/
theorem ordered_fired_block (now : Int) : ∀ (due : List Ev) (l : List Event), Ordered l →
    (∀ id t b cs, Event.fired id t b cs ∈ l → b + cs * 10000 ≤ now) →
    (∀ e ∈ due, e.gBirth + e.gCs * 10000 = now) →
      Ordered ((firedEvents now due).reverse ++ l) := by
  intro due
  induction due with
  | nil => intro l hl _ _; simpa [firedEvents] using hl
  | cons a ds ih =>
    intro l hl hold hd
    have ha := hd a (by simp)
    have : (firedEvents now (a :: ds)).reverse ++ l =
        (firedEvents now ds).reverse ++ (Event.fired a.id now a.gBirth a.gCs :: l) := by
      simp [firedEvents]
    rw [this]
    refine ih _ ⟨hl, ?_⟩ ?_ (fun e he => hd e (by simp [he]))
    · intro id t b cs heq id' t' b' cs' hmem
      injection heq with e1 e2 e3 e4
      subst e3 e4
      have := hold id' t' b' cs' hmem
      omega
    · intro id t b cs hmem
      rcases List.mem_cons.mp hmem with hh | hh
      · injection hh with e1 e2 e3 e4
        subst e3 e4; omega
      · exact hold id t b cs hh

theorem mem_fired_block {now : Int} {due : List Ev} {l : List Event} {id : Nat} {t b cs : Int} :
    Event.fired id t b cs ∈ (firedEvents now due).reverse ++ l ↔
      (∃ e ∈ due, e.id = id ∧ t = now ∧ e.gBirth = b ∧ e.gCs = cs) ∨ Event.fired id t b cs ∈ l := by
  simp only [List.mem_append, List.mem_reverse, firedEvents, List.mem_map]
  constructor
  · rintro (⟨e, he, heq⟩ | h)
    · injection heq with e1 e2 e3 e4
      exact Or.inl ⟨e, he, e1, e2.symm, e3, e4⟩
    · exact Or.inr h
  · rintro (⟨e, he, e1, e2, e3, e4⟩ | h)
    · exact Or.inl ⟨e, he, by rw [e1, e2, e3, e4]⟩
    · exact Or.inr h

theorem mem_born_block {now : Int} {due : List Ev} {l : List Event} {id : Nat} {b cs : Int} :
    Event.born id b cs ∈ (firedEvents now due).reverse ++ l ↔ Event.born id b cs ∈ l := by
  simp [firedEvents]

theorem mem_destroyed_block {now : Int} {due : List Ev} {l : List Event} {id : Nat} {t : Int} :
    Event.destroyed id t ∈ (firedEvents now due).reverse ++ l ↔ Event.destroyed id t ∈ l := by
  simp [firedEvents]

end PPLV.Watchdog

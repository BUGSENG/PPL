import PPLV.Watchdog.ProofsTime

/-! Lemmas on `Pending_List` (`insertEv`, `eraseId`) and on the firing loop (`takeDue`). -/
namespace PPLV.Watchdog

/-- pending list sorted by denoted deadline -/
def Sorted (l : List Ev) : Prop := l.Pairwise (fun a b => a.deadline.toUs ≤ b.deadline.toUs)

def AllNorm (l : List Ev) : Prop := ∀ e ∈ l, e.deadline.Norm

def ids (l : List Ev) : List Nat := l.map (·.id)

theorem mem_insertEv {x y : Ev} {l : List Ev} : y ∈ insertEv x l ↔ y = x ∨ y ∈ l := by
  induction l with
  | nil => simp [insertEv]
  | cons e r ih =>
    unfold insertEv
    split
    · simp only [List.mem_cons, ih]
      constructor
      · rintro (h | h | h) <;> simp [h]
      · rintro (h | h | h) <;> simp [h]
    · simp [List.mem_cons]

theorem insertEv_ne_nil (x : Ev) (l : List Ev) : insertEv x l ≠ [] :=
  fun h => List.not_mem_nil (h ▸ mem_insertEv.mpr (Or.inl rfl))

theorem allNorm_insertEv {x : Ev} {l : List Ev} (hx : x.deadline.Norm) (hl : AllNorm l) :
    AllNorm (insertEv x l) := by
  intro e he
  rcases mem_insertEv.mp he with h | h
  · subst h; exact hx
  · exact hl e h

theorem sorted_insertEv {x : Ev} {l : List Ev} (hx : x.deadline.Norm) (hn : AllNorm l)
    (hs : Sorted l) : Sorted (insertEv x l) := by
  induction l with
  | nil => simp [insertEv, Sorted]
  | cons e r ih =>
    have he : e.deadline.Norm := hn e (by simp)
    have hr : AllNorm r := fun a ha => hn a (by simp [ha])
    unfold Sorted at hs
    rw [List.pairwise_cons] at hs
    unfold insertEv
    split
    · rename_i hlt
      have hlt' := (Time.lt_iff he hx).mp hlt
      unfold Sorted
      rw [List.pairwise_cons]
      refine ⟨?_, ih hr hs.2⟩
      intro a ha
      rcases mem_insertEv.mp ha with h | h
      · subst h; omega
      · exact hs.1 a h
    · rename_i hlt
      have hge := (Time.lt_false_iff he hx).mp (by simpa using hlt)
      unfold Sorted
      rw [List.pairwise_cons, List.pairwise_cons]
      refine ⟨?_, hs.1, hs.2⟩
      intro a ha
      rcases List.mem_cons.mp ha with h | h
      · subst h; exact hge
      · have := hs.1 a h; omega

/-- the head after insertion into a sorted non-empty list carries the smaller deadline -/
theorem head_insertEv {x e : Ev} {r : List Ev} (hx : x.deadline.Norm) (he : e.deadline.Norm) :
    ∃ h t, insertEv x (e :: r) = h :: t ∧
      h.deadline.toUs = min x.deadline.toUs e.deadline.toUs ∧
      (x.deadline.toUs < e.deadline.toUs → h = x) := by
  unfold insertEv
  split
  · rename_i hlt
    have hlt' := (Time.lt_iff he hx).mp hlt
    exact ⟨e, insertEv x r, rfl, by omega, by omega⟩
  · rename_i hlt
    have hge := (Time.lt_false_iff he hx).mp (by simpa using hlt)
    exact ⟨x, e :: r, rfl, by omega, fun _ => rfl⟩

theorem mem_ids_insertEv {x : Ev} {l : List Ev} : ∀ i, i ∈ ids (insertEv x l) ↔ i = x.id ∨ i ∈ ids l := by
  intro i
  simp only [ids, List.mem_map]
  constructor
  · rintro ⟨a, ha, rfl⟩
    rcases mem_insertEv.mp ha with h | h
    · subst h; exact Or.inl rfl
    · exact Or.inr ⟨a, h, rfl⟩
  · rintro (h | ⟨a, ha, rfl⟩)
    · exact ⟨x, mem_insertEv.mpr (Or.inl rfl), h.symm⟩
    · exact ⟨a, mem_insertEv.mpr (Or.inr ha), rfl⟩

theorem nodup_ids_insertEv {x : Ev} {l : List Ev} (hx : x.id ∉ ids l) (hl : (ids l).Nodup) :
    (ids (insertEv x l)).Nodup := by
  induction l with
  | nil => simp [insertEv, ids]
  | cons e r ih =>
    simp only [ids, List.map_cons, List.mem_cons, not_or] at hx
    have hl' : e.id ∉ ids r ∧ (ids r).Nodup := by simpa [ids] using hl
    unfold insertEv
    split
    · simp only [ids, List.map_cons, List.nodup_cons]
      refine ⟨?_, ih hx.2 hl'.2⟩
      intro hmem
      rcases (mem_ids_insertEv e.id).mp hmem with h | h
      · exact hx.1 h.symm
      · exact hl'.1 h
    · simp only [ids, List.map_cons, List.nodup_cons, List.mem_cons, not_or]
      exact ⟨⟨hx.1, hx.2⟩, hl'.1, hl'.2⟩

theorem eraseId_sublist (id : Nat) (l : List Ev) : (eraseId id l).Sublist l := by
  induction l with
  | nil => simp [eraseId]
  | cons e r ih =>
    unfold eraseId
    split
    · exact List.sublist_cons_self e r
    · exact ih.cons_cons e

theorem mem_of_mem_eraseId {id : Nat} {l : List Ev} {y : Ev} (h : y ∈ eraseId id l) : y ∈ l :=
  (eraseId_sublist id l).subset h

theorem mem_eraseId_of_ne {id : Nat} {l : List Ev} {y : Ev} (h : y ∈ l) (hne : y.id ≠ id) :
    y ∈ eraseId id l := by
  induction l with
  | nil => simp at h
  | cons e r ih =>
    unfold eraseId
    rcases List.mem_cons.mp h with h | h
    · subst h; simp [hne]
    · split
      · exact h
      · exact List.mem_cons_of_mem _ (ih h)

theorem sorted_eraseId {id : Nat} {l : List Ev} (hs : Sorted l) : Sorted (eraseId id l) :=
  List.Pairwise.sublist (eraseId_sublist id l) hs

theorem ids_sublist {l l' : List Ev} (h : l.Sublist l') : (ids l).Sublist (ids l') :=
  h.map _

theorem not_mem_ids_eraseId {id : Nat} {l : List Ev} (hl : (ids l).Nodup) : id ∉ ids (eraseId id l) := by
  induction l with
  | nil => simp [eraseId, ids]
  | cons e r ih =>
    have hl' : e.id ∉ ids r ∧ (ids r).Nodup := by simpa [ids] using hl
    unfold eraseId
    split
    · rename_i h; subst h; exact hl'.1
    · rename_i h
      simp only [ids, List.map_cons, List.mem_cons, not_or]
      exact ⟨fun hh => h hh.symm, ih hl'.2⟩

theorem eraseId_of_not_mem {id : Nat} {l : List Ev} (h : id ∉ ids l) : eraseId id l = l := by
  induction l with
  | nil => simp [eraseId]
  | cons e r ih =>
    simp only [ids, List.map_cons, List.mem_cons, not_or] at h
    unfold eraseId
    have : ¬ e.id = id := fun hh => h.1 hh.symm
    simp only [this, if_false]
    rw [ih h.2]

theorem takeDue_append (b : Bool) (t : Time) (l : List Ev) :
    (takeDue b t l).1 ++ (takeDue b t l).2 = l := by
  induction l with
  | nil => simp [takeDue]
  | cons e r ih =>
    unfold takeDue
    split
    · simp [ih]
    · simp

theorem takeDue_due (b : Bool) (t : Time) (l : List Ev) :
    ∀ e ∈ (takeDue b t l).1, Time.le b e.deadline t = true := by
  induction l with
  | nil => simp [takeDue]
  | cons e r ih =>
    unfold takeDue
    split
    · rename_i h
      intro a ha
      rcases List.mem_cons.mp ha with h' | h'
      · subst h'; exact h
      · exact ih a h'
    · simp

theorem takeDue_rest_head (b : Bool) (t : Time) (l : List Ev) :
    ∀ n r, (takeDue b t l).2 = n :: r → Time.le b n.deadline t = false := by
  induction l with
  | nil => simp [takeDue]
  | cons e r ih =>
    unfold takeDue
    split
    · exact ih
    · rename_i h
      intro n r' hh
      simp only [List.cons.injEq] at hh
      rw [← hh.1]; simpa using h

theorem takeDue_sublist_fst (b : Bool) (t : Time) (l : List Ev) : (takeDue b t l).1.Sublist l := by
  have := takeDue_append b t l
  conv => rhs; rw [← this]
  exact List.sublist_append_left _ _

theorem takeDue_sublist_snd (b : Bool) (t : Time) (l : List Ev) : (takeDue b t l).2.Sublist l := by
  have := takeDue_append b t l
  conv => rhs; rw [← this]
  exact List.sublist_append_right _ _

end PPLV.Watchdog

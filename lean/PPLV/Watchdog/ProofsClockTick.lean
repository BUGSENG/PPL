import PPLV.Watchdog.ProofsClockInv

/-! `Clock` is preserved by time passing outside critical sections (including the handler). -/
namespace PPLV.Watchdog

theorem Clock.running_of_rem {σ : St} (h : Clock σ) (hr : σ.remaining ≠ 0) : σ.running = true := by
  cases hrun : σ.running
  · exact absurd (h.idleT hrun) hr
  · rfl

/-- time passes, nothing else changes: a running timer counts down without expiring, a stopped one stays at 0 -/
theorem Clock.pass {σ σ' : St} (h : Clock σ) (d : Int) (hd : 0 ≤ d)
    (hnow : σ'.now = σ.now + d) (hrem : σ.running = true → σ'.remaining = σ.remaining - d)
    (hle : σ.running = true → d < σ.remaining) (hz : σ.running = false → σ'.remaining = 0)
    (hpend : σ'.pending = σ.pending) (htsf : σ'.tsf = σ.tsf) (hltr : σ'.ltr = σ.ltr)
    (hrun : σ'.running = σ.running) (hcrit : σ'.inCrit = σ.inCrit) (hpc : σ'.pc = σ.pc)
    (hep : σ'.epoch = σ.epoch) (hlog : σ'.log = σ.log) (herr : σ'.err = σ.err) : Clock σ' := by
  constructor
  · rw [hpc]; exact h.pcOut
  · rw [hcrit]; exact h.notCrit
  · rw [herr]; exact h.noErr
  · rw [htsf]; exact h.normT
  · rw [hltr]; exact h.normL
  · rw [hpend]; exact h.normP
  · rw [hpend]; exact h.sorted
  · cases hr : σ.running
    · rw [hz hr]; exact Int.le_refl 0
    · have := hle hr; rw [hrem hr]; omega
  · rw [hrun, hpend]; exact h.run
  · rw [hrun, hpend, htsf, hltr, hnow, hep]
    intro hr
    obtain ⟨a1, a2, a3, a4⟩ := h.armed hr
    have := hle hr
    rw [hrem hr]
    exact ⟨by omega, by omega, by omega, a4⟩
  · rw [hrun]; exact hz
  · rw [hpend, hep]; exact h.birth
  · rw [hlog, hnow]; intro id t b cs hh
    have := h.exact id t b cs hh
    exact ⟨this.1, by omega⟩
  · rw [hlog]; exact h.ordered
  · rw [hlog, hpend]; exact h.cover

/-- time passes, nothing else changes -/
theorem Clock.advance {σ σ' : St} (h : Clock σ) (d : Int) (hd : 0 ≤ d)
    (hnow : σ'.now = σ.now + d) (hrem : σ'.remaining = σ.remaining - d)
    (hle : σ.running = true → d < σ.remaining) (hz : σ.running = false → σ'.remaining = 0)
    (hpend : σ'.pending = σ.pending) (htsf : σ'.tsf = σ.tsf) (hltr : σ'.ltr = σ.ltr)
    (hrun : σ'.running = σ.running) (hcrit : σ'.inCrit = σ.inCrit) (hpc : σ'.pc = σ.pc)
    (hep : σ'.epoch = σ.epoch) (hlog : σ'.log = σ.log) (herr : σ'.err = σ.err) : Clock σ' :=
  h.pass d hd hnow (fun _ => hrem) hle hz hpend htsf hltr hrun hcrit hpc hep hlog herr

theorem clock_handler (σ : St) (h : Clock σ) (hr : σ.running = true) :
    Clock (handler false { σ with now := σ.now + σ.remaining, remaining := 0,
                                  dirty := σ.dirty || σ.inCrit }) := by
  obtain ⟨a1, a2, a3, a4⟩ := h.armed hr
  have hne : σ.pending ≠ [] := h.run.mp hr
  obtain ⟨e, r, hp⟩ : ∃ e r, σ.pending = e :: r := by
    cases hpd : σ.pending with
    | nil => exact absurd hpd hne
    | cons e r => exact ⟨e, r, rfl⟩
  have hhead := a4 e r hp
  have hnT' : (σ.tsf.add σ.ltr).Norm := Time.add_norm h.normT h.normL
  have hT' : (σ.tsf.add σ.ltr).toUs = σ.tsf.toUs + σ.ltr.toUs := Time.add_toUs h.normT h.normL
  have hnormP : AllNorm (e :: r) := hp ▸ h.normP
  have hsorted : Sorted (e :: r) := hp ▸ h.sorted
  have hsr : ∀ x ∈ r, e.deadline.toUs ≤ x.deadline.toUs := by
    unfold Sorted at hsorted; rw [List.pairwise_cons] at hsorted; exact hsorted.1
  have hbirth : ∀ x ∈ e :: r, σ.epoch + x.deadline.toUs = x.gBirth + x.gCs * 10000 ∧ 0 < x.gCs :=
    hp ▸ h.birth
  -- the elements that fire together with the head are due exactly now
  have hdue : ∀ x ∈ (takeDue false (σ.tsf.add σ.ltr) r).1, x.deadline.toUs = σ.tsf.toUs + σ.ltr.toUs := by
    intro x hx
    have hxr : x ∈ r := (takeDue_sublist_fst _ _ _).subset hx
    have h1 := (Time.le_false_iff (hnormP x (List.mem_cons_of_mem _ hxr)) hnT').mp (takeDue_due _ _ _ x hx)
    have h2 := hsr x hxr
    omega
  have hdueNow : ∀ x ∈ e :: (takeDue false (σ.tsf.add σ.ltr) r).1,
      x.gBirth + x.gCs * 10000 = σ.now + σ.remaining := by
    intro x hx
    rcases List.mem_cons.mp hx with hh | hh
    · subst hh
      have := (hbirth x (by simp)).1
      omega
    · have hxr : x ∈ r := (takeDue_sublist_fst _ _ _).subset hh
      have := (hbirth x (List.mem_cons_of_mem _ hxr)).1
      have := hdue x hh
      omega
  have hrestSub : (takeDue false (σ.tsf.add σ.ltr) r).2.Sublist σ.pending := by
    rw [hp]; exact (takeDue_sublist_snd _ _ _).trans (List.sublist_cons_self e r)
  have happ := takeDue_append false (σ.tsf.add σ.ltr) r
  have hold : ∀ id t b cs, Event.fired id t b cs ∈ σ.log → b + cs * 10000 ≤ σ.now + σ.remaining := by
    intro id t b cs hh
    have := h.exact id t b cs hh
    omega
  -- facts shared by both outcomes (pending := rest, log := block ++ log)
  have hexact : ∀ id t b cs, Event.fired id t b cs ∈
      (firedEvents (σ.now + σ.remaining) (e :: (takeDue false (σ.tsf.add σ.ltr) r).1)).reverse ++ σ.log →
      t = b + cs * 10000 ∧ t ≤ σ.now + σ.remaining := by
    intro id t b cs hh
    rcases mem_fired_block.mp hh with ⟨x, hx, _, e2, e3, e4⟩ | hh
    · have := hdueNow x hx
      subst e3 e4
      exact ⟨by omega, by omega⟩
    · have := h.exact id t b cs hh
      exact ⟨this.1, by omega⟩
  have hcover : ∀ id b cs, Event.born id b cs ∈
      (firedEvents (σ.now + σ.remaining) (e :: (takeDue false (σ.tsf.add σ.ltr) r).1)).reverse ++ σ.log →
      (∃ x ∈ (takeDue false (σ.tsf.add σ.ltr) r).2, x.id = id ∧ x.gBirth = b ∧ x.gCs = cs) ∨
      (∃ t, Event.fired id t b cs ∈
        (firedEvents (σ.now + σ.remaining) (e :: (takeDue false (σ.tsf.add σ.ltr) r).1)).reverse ++ σ.log) ∨
      destroyedIn ((firedEvents (σ.now + σ.remaining) (e :: (takeDue false (σ.tsf.add σ.ltr) r).1)).reverse ++ σ.log) id := by
    intro id b cs hh
    rcases h.cover id b cs (mem_born_block.mp hh) with ⟨x, hx, e1, e2, e3⟩ | ⟨t, ht⟩ | ⟨t, ht⟩
    · rw [hp, ← happ] at hx
      rcases List.mem_cons.mp hx with hx | hx
      · right; left
        exact ⟨σ.now + σ.remaining, mem_fired_block.mpr (Or.inl ⟨x, by rw [hx]; simp, e1, rfl, e2, e3⟩)⟩
      · rcases List.mem_append.mp hx with hx | hx
        · right; left
          exact ⟨σ.now + σ.remaining, mem_fired_block.mpr (Or.inl ⟨x, by simp [hx], e1, rfl, e2, e3⟩)⟩
        · exact Or.inl ⟨x, hx, e1, e2, e3⟩
    · right; left; exact ⟨t, mem_fired_block.mpr (Or.inr ht)⟩
    · right; right; exact ⟨t, mem_destroyed_block.mpr ht⟩
  have hord := ordered_fired_block (σ.now + σ.remaining) _ σ.log h.ordered hold hdueNow
  unfold handler handlerBody
  simp only [h.notCrit, Bool.false_eq_true, if_false, hp]
  split
  · -- nothing left: the clock stops
    rename_i hrest
    constructor
    · exact h.pcOut
    · rfl
    · exact h.noErr
    · exact hnT'
    · exact h.normL
    · show AllNorm (takeDue false (σ.tsf.add σ.ltr) r).2
      rw [hrest]; intro x hx; simp at hx
    · show Sorted (takeDue false (σ.tsf.add σ.ltr) r).2
      rw [hrest]; simp [Sorted]
    · exact Int.le_refl 0
    · show false = true ↔ (takeDue false (σ.tsf.add σ.ltr) r).2 ≠ []
      rw [hrest]; simp
    · intro hh; exact absurd hh (by simp)
    · intro _; rfl
    · show ∀ x ∈ (takeDue false (σ.tsf.add σ.ltr) r).2, _
      rw [hrest]; intro x hx; simp at hx
    · exact hexact
    · exact hord
    · intro id b cs hh
      rcases hcover id b cs hh with ⟨x, hx, _⟩ | h2
      · rw [hrest] at hx; simp at hx
      · exact Or.inr h2
  · -- re-arm for the next pending deadline
    rename_i n rest' hrest
    have hnrest : n ∈ (takeDue false (σ.tsf.add σ.ltr) r).2 := by rw [hrest]; simp
    have hnmem : n ∈ σ.pending := hrestSub.subset hnrest
    have hnn : n.deadline.Norm := h.normP n hnmem
    have hgt : σ.tsf.toUs + σ.ltr.toUs < n.deadline.toUs := by
      have h1 := takeDue_rest_head false (σ.tsf.add σ.ltr) r n rest' hrest
      have h2 := Time.le_false_iff hnn hnT'
      cases hle : Time.le false n.deadline (σ.tsf.add σ.ltr)
      · have : ¬ (n.deadline.toUs ≤ (σ.tsf.add σ.ltr).toUs) := fun hh => by
          have := h2.mpr hh; rw [hle] at this; exact absurd this (by simp)
        omega
      · rw [hle] at h1; exact absurd h1 (by simp)
    have hsubN : (n.deadline.sub (σ.tsf.add σ.ltr)).Norm := Time.sub_norm hnn hnT'
    have hsubU : (n.deadline.sub (σ.tsf.add σ.ltr)).toUs = n.deadline.toUs - (σ.tsf.toUs + σ.ltr.toUs) := by
      rw [Time.sub_toUs_ge hnn hnT' (by omega), hT']
    have hnz : (n.deadline.sub (σ.tsf.add σ.ltr)).isZero = false := by
      cases hz : (n.deadline.sub (σ.tsf.add σ.ltr)).isZero
      · rfl
      · have := (Time.isZero_iff hsubN).mp hz; omega
    have hok := Time.timevalOK_of_norm hsubN
    unfold setTimerH
    simp only [hnz, Bool.false_eq_true, if_false, hok, if_true]
    constructor
    · exact h.pcOut
    · rfl
    · exact h.noErr
    · exact hnT'
    · exact hsubN
    · show AllNorm (takeDue false (σ.tsf.add σ.ltr) r).2
      intro x hx; exact h.normP x (hrestSub.subset hx)
    · show Sorted (takeDue false (σ.tsf.add σ.ltr) r).2
      exact List.Pairwise.sublist hrestSub h.sorted
    · show 0 ≤ (n.deadline.sub (σ.tsf.add σ.ltr)).toUs
      omega
    · show σ.running = true ↔ (takeDue false (σ.tsf.add σ.ltr) r).2 ≠ []
      rw [hrest]; simp [hr]
    · intro _
      refine ⟨?_, ?_, ?_, ?_⟩
      · show 0 < (n.deadline.sub (σ.tsf.add σ.ltr)).toUs
        omega
      · exact Int.le_refl _
      · show σ.now + σ.remaining - σ.epoch = (σ.tsf.add σ.ltr).toUs + (n.deadline.sub (σ.tsf.add σ.ltr)).toUs
            - (n.deadline.sub (σ.tsf.add σ.ltr)).toUs
        omega
      · intro x r' hx
        have hx' : n :: rest' = x :: r' := by rw [← hrest]; exact hx
        injection hx' with e1 e2
        subst e1
        show n.deadline.toUs = (σ.tsf.add σ.ltr).toUs + (n.deadline.sub (σ.tsf.add σ.ltr)).toUs
        omega
    · intro hh
      have : σ.running = false := hh
      rw [hr] at this; exact absurd this (by simp)
    · show ∀ x ∈ (takeDue false (σ.tsf.add σ.ltr) r).2, _
      intro x hx; exact h.birth x (hrestSub.subset hx)
    · intro id t b cs hh
      have hh' : Event.fired id t b cs ∈
          (firedEvents (σ.now + σ.remaining) (e :: (takeDue false (σ.tsf.add σ.ltr) r).1)).reverse ++ σ.log := by
        rcases List.mem_cons.mp hh with h1 | h1
        · exact absurd h1 (by simp)
        · exact h1
      exact hexact id t b cs hh'
    · exact ordered_cons_other hord (by intros; simp)
    · intro id b cs hh
      have hh' : Event.born id b cs ∈
          (firedEvents (σ.now + σ.remaining) (e :: (takeDue false (σ.tsf.add σ.ltr) r).1)).reverse ++ σ.log := by
        simpa using hh
      rcases hcover id b cs hh' with ⟨x, hx, hx2⟩ | ⟨t, ht⟩ | ⟨t, ht⟩
      · left; exact ⟨x, hx, hx2⟩
      · right; left; exact ⟨t, List.mem_cons_of_mem _ ht⟩
      · right; right; exact ⟨t, List.mem_cons_of_mem _ ht⟩

theorem clock_tick {σ : St} (h : Clock σ) (dt : Int) : Clock (tick false σ dt) := by
  unfold tick
  split
  · exact h
  · rename_i hdt
    split
    · rename_i hrem
      have hz : σ.remaining = 0 := by have := h.remNonneg; omega
      have hnr : σ.running = false := by
        cases hr : σ.running
        · rfl
        · have := (h.armed hr).1; omega
      exact h.pass dt (by omega) rfl (fun hr => by rw [hnr] at hr; cases hr) (fun hr => by rw [hnr] at hr; cases hr)
        (fun _ => hz) rfl rfl rfl rfl rfl rfl rfl rfl rfl
    · rename_i hrem
      have hrun : σ.running = true := h.running_of_rem (by omega)
      split
      · rename_i hlt
        exact h.advance dt (by omega) rfl rfl (fun _ => hlt)
          (fun hr => by rw [hrun] at hr; exact absurd hr (by simp)) rfl rfl rfl rfl rfl rfl rfl rfl rfl
      · exact clock_handler σ h hrun

end PPLV.Watchdog

import PPLV.Watchdog.ProofsSafeInv

/-! How `Safe` is carried from a state to a changed one: same log, a move of the program counter, an insertion into or an erasure from the pending list. -/
namespace PPLV.Watchdog

theorem FinOK.mono {σ σ' : St} {fin : Fin} (h : FinOK σ fin)
    (hp : ∀ i, i ∈ ids σ'.pending → i ∈ ids σ.pending) (hu : ∀ i, i ∈ σ.used → i ∈ σ'.used) :
    FinOK σ' fin := by
  cases fin <;> simp only [FinOK] at h ⊢
  · exact hu _ h
  · exact ⟨hu _ h.1, fun x => h.2 (hp _ x)⟩

/-- `PcOK` transfers to a state with the same program counter whose pending ids shrink, whose new
expired ids were pending, whose `used`/births grow and which has no new destruction -/
theorem PcOK.mono {σ σ' : St} (h : PcOK σ) (hs : Safe σ) (hpc : σ'.pc = σ.pc)
    (hp : ∀ i, i ∈ ids σ'.pending → i ∈ ids σ.pending)
    (he : ∀ i, i ∈ σ'.expired → i ∈ σ.expired ∨ i ∈ ids σ.pending)
    (hu : ∀ i, i ∈ σ.used → i ∈ σ'.used)
    (hb : ∀ id b cs, Event.born id b cs ∈ σ.log → Event.born id b cs ∈ σ'.log)
    (hd : ∀ id, destroyedIn σ'.log id → destroyedIn σ.log id) : PcOK σ' := by
  have _ := hs
  unfold PcOK PcOKAt at h ⊢
  rw [hpc]
  cases hc : σ.pc <;> rw [hc] at h <;> simp only at h ⊢
  · obtain ⟨h1, h2, h3, h4, h5⟩ := h
    exact ⟨fun x => h1 (hp _ x), hu _ h2, hb _ _ _ h3,
      fun x => (he _ x).elim h4 h1, fun x => h5 (hd _ x)⟩
  · exact hu _ h
  · obtain ⟨h1, h2, h3, h4, h5⟩ := h
    exact ⟨fun x => h1 (hp _ x), hu _ h2, hb _ _ _ h3,
      fun x => (he _ x).elim h4 h1, fun x => h5 (hd _ x)⟩
  · obtain ⟨h1, h2, h3, h4, h5⟩ := h
    exact ⟨fun x => h1 (hp _ x), hu _ h2, hb _ _ _ h3,
      fun x => (he _ x).elim h4 h1, fun x => h5 (hd _ x)⟩
  · exact hu _ h
  · exact hu _ h
  · exact hu _ h
  · exact hu _ h
  · exact hu _ h
  · exact hu _ h
  · exact hu _ h
  · exact hu _ h
  · exact ⟨hu _ h.1, fun x => h.2 (hp _ x)⟩
  all_goals exact FinOK.mono h hp hu

/-- same pending/expired/used/live/pc, one neutral event more (or the same log) -/
theorem Safe.same {σ σ' : St} (h : Safe σ) (hp : σ'.pending = σ.pending) (he : σ'.expired = σ.expired)
    (hu : σ'.used = σ.used) (hl : σ'.live = σ.live) (hpc : σ'.pc = σ.pc)
    (hlog : σ'.log = σ.log ∨ ∃ e, σ'.log = e :: σ.log ∧ e.neutral) : Safe σ' := by
  refine h.frame hp he (hu ▸ fun _ x => x) hl (neutral_suffix hlog) ?_
  · refine h.pcOK.mono h hpc (by rw [hp]; exact fun _ x => x) (by rw [he]; exact fun _ x => Or.inl x)
      (by rw [hu]; exact fun _ x => x) ?_ ?_
    · rcases hlog with h1 | ⟨e, h1, _⟩
      · rw [h1]; exact fun _ _ _ x => x
      · rw [h1]; exact fun _ _ _ x => List.mem_cons_of_mem _ x
    · rcases hlog with h1 | ⟨e, h1, h2⟩
      · rw [h1]; exact fun _ x => x
      · rw [h1]; rintro id ⟨t, ht⟩
        rcases List.mem_cons.mp ht with hh | hh
        · exact absurd hh.symm (h2.2.1 id t)
        · exact ⟨t, hh⟩

/-- same, but the program counter moves to one whose `PcOK` is supplied -/
theorem Safe.move {σ σ' : St} (h : Safe σ) (hp : σ'.pending = σ.pending) (he : σ'.expired = σ.expired)
    (hu : σ'.used = σ.used) (hl : ∀ i ∈ σ'.live, i ∈ σ'.used)
    (hlog : σ'.log = σ.log ∨ ∃ e, σ'.log = e :: σ.log ∧ e.neutral) (hpc : PcOK σ') : Safe σ' := by
  -- via an intermediate state with the old `live`
  have h1 : Safe { σ' with live := σ.live } := by
    refine h.frame hp he (hu ▸ fun _ x => x) rfl (neutral_suffix hlog) ?_
    unfold PcOK PcOKAt at hpc ⊢; exact hpc
  exact { h1 with liveUsed := hl, pcOK := hpc }

/-- an element for a fresh id is inserted into the pending list -/
theorem Safe.insert {σ σ' : St} (h : Safe σ) (x : Ev)
    (hx1 : x.id ∉ ids σ.pending) (hx2 : x.id ∈ σ.used) (hx3 : Event.born x.id x.gBirth x.gCs ∈ σ.log)
    (hx4 : x.id ∉ σ.expired) (hx5 : ¬ destroyedIn σ.log x.id)
    (hp : σ'.pending = insertEv x σ.pending) (he : σ'.expired = σ.expired)
    (hu : σ'.used = σ.used) (hl : σ'.live = σ.live) (hlog : σ'.log = σ.log) (hpc : PcOK σ') : Safe σ' := by
  constructor
  · rw [hp]; exact nodup_ids_insertEv hx1 h.nodup
  · rw [hp, he, hu, hlog]
    intro e hemem
    rcases mem_insertEv.mp hemem with hh | hh
    · subst hh; exact ⟨hx4, hx5, hx2, hx3⟩
    · exact h.pend e hh
  · rw [he, hlog]; exact h.firedExp
  · rw [he, hu]; exact h.expUsed
  · rw [hu, hlog]; exact h.bornUsed
  · rw [hlog]; exact h.bornUniq
  · rw [hu, hlog]; exact h.destUsed
  · rw [hu, hl]; exact h.liveUsed
  · rw [hlog]; exact h.once
  · rw [hlog]; exact h.nad
  · exact hpc

/-- an element is erased from the pending list -/
theorem Safe.erase {σ σ' : St} (h : Safe σ) (id : Nat)
    (hp : σ'.pending = eraseId id σ.pending) (he : σ'.expired = σ.expired)
    (hu : σ'.used = σ.used) (hl : σ'.live = σ.live) (hlog : σ'.log = σ.log) (hpc : PcOK σ') : Safe σ' := by
  constructor
  · rw [hp]; exact List.Nodup.sublist (ids_sublist (eraseId_sublist id _)) h.nodup
  · rw [hp, he, hu, hlog]
    intro e hemem
    exact h.pend e (mem_of_mem_eraseId hemem)
  · rw [he, hlog]; exact h.firedExp
  · rw [he, hu]; exact h.expUsed
  · rw [hu, hlog]; exact h.bornUsed
  · rw [hlog]; exact h.bornUniq
  · rw [hu, hlog]; exact h.destUsed
  · rw [hu, hl]; exact h.liveUsed
  · rw [hlog]; exact h.once
  · rw [hlog]; exact h.nad
  · exact hpc

/-- the destruction of a watchdog that is not pending is logged -/
theorem Safe.logDestroyed {σ σ' : St} (h : Safe σ) (id : Nat) (t : Int)
    (hx1 : id ∉ ids σ.pending) (hx2 : id ∈ σ.used)
    (hp : σ'.pending = σ.pending) (he : σ'.expired = σ.expired)
    (hu : σ'.used = σ.used) (hl : ∀ i ∈ σ'.live, i ∈ σ'.used)
    (hlog : σ'.log = Event.destroyed id t :: σ.log) (hpc : PcOK σ') : Safe σ' := by
  have memf : ∀ i t' b cs, Event.fired i t' b cs ∈ σ'.log ↔ Event.fired i t' b cs ∈ σ.log := by
    intro i t' b cs; rw [hlog]; simp
  have memb : ∀ i b cs, Event.born i b cs ∈ σ'.log ↔ Event.born i b cs ∈ σ.log := by
    intro i b cs; rw [hlog]; simp
  constructor
  · rw [hp]; exact h.nodup
  · rw [hp, he, hu]
    intro e hemem
    have := h.pend e hemem
    refine ⟨this.1, ?_, this.2.2.1, (memb _ _ _).mpr this.2.2.2⟩
    rintro ⟨t', ht'⟩
    rw [hlog] at ht'
    rcases List.mem_cons.mp ht' with hh | hh
    · have : e.id = id := by injection hh
      exact hx1 (mem_ids.mpr ⟨e, hemem, this⟩)
    · exact this.2.1 ⟨t', hh⟩
  · rw [he]; intro i t' b cs hh
    have := h.firedExp i t' b cs ((memf _ _ _ _).mp hh)
    exact ⟨this.1, (memb _ _ _).mpr this.2⟩
  · rw [he, hu]; exact h.expUsed
  · rw [hu]; intro i b cs hh; exact h.bornUsed i b cs ((memb _ _ _).mp hh)
  · intro i b cs b' cs' h1 h2
    exact h.bornUniq i b cs b' cs' ((memb _ _ _).mp h1) ((memb _ _ _).mp h2)
  · rw [hu, hlog]; intro i t' hh
    rcases List.mem_cons.mp hh with hh | hh
    · have : i = id := by injection hh
      rw [this]; exact hx2
    · exact h.destUsed i t' hh
  · exact hl
  · rw [hlog]; exact firedOnce_cons_other h.once (by intros; simp)
  · rw [hlog]; exact nad_cons_other h.nad (by intros; simp)
  · exact hpc

end PPLV.Watchdog

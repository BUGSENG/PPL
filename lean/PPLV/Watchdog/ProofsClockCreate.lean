import PPLV.Watchdog.ProofsClockTick

/-! `Clock` across a whole constructor: the statement groups of `Watchdog::Watchdog` /
`new_watchdog_event` executed without time passing in between. -/
namespace PPLV.Watchdog

theorem ofCs_facts {cs : Int} (hcs : 0 < cs) :
    (Time.ofCs cs).Norm ∧ (Time.ofCs cs).toUs = cs * 10000 ∧ (Time.ofCs cs).isZero = false ∧
    (Time.ofCs cs).timevalOK = true := by
  have hn := Time.ofCs_norm (Int.le_of_lt hcs)
  have hu := Time.ofCs_toUs (Int.le_of_lt hcs)
  refine ⟨hn, hu, ?_, Time.timevalOK_of_norm hn⟩
  cases h : (Time.ofCs cs).isZero
  · rfl
  · have := (Time.isZero_iff hn).mp h; omega

/-- the log clauses of `Clock` once the events `es` (no firing among them) are logged and the pending list has
become `pending'`: a birth among `es` is pending, and whatever left the pending list has its destruction in `es` -/
theorem Clock.log_parts {σ : St} (h : Clock σ) (es : List Event) (pending' : List Ev)
    (hes : ∀ e ∈ es, ∀ id t b cs, e ≠ Event.fired id t b cs)
    (hborn : ∀ id b cs, Event.born id b cs ∈ es → ∃ e ∈ pending', e.id = id ∧ e.gBirth = b ∧ e.gCs = cs)
    (hkeep : ∀ x ∈ σ.pending, x ∈ pending' ∨ destroyedIn es x.id) :
    (∀ id t b cs, Event.fired id t b cs ∈ es ++ σ.log → t = b + cs * 10000 ∧ t ≤ σ.now) ∧
    Ordered (es ++ σ.log) ∧
    (∀ id b cs, Event.born id b cs ∈ es ++ σ.log →
      (∃ e ∈ pending', e.id = id ∧ e.gBirth = b ∧ e.gCs = cs) ∨ (∃ t, Event.fired id t b cs ∈ es ++ σ.log) ∨
      destroyedIn (es ++ σ.log) id) := by
  have memf : ∀ {id t b cs}, Event.fired id t b cs ∈ es ++ σ.log → Event.fired id t b cs ∈ σ.log :=
    fun hh => (List.mem_append.mp hh).elim (fun h1 => absurd rfl (hes _ h1 _ _ _ _)) id
  refine ⟨fun id t b cs hh => h.exact id t b cs (memf hh), ?_, ?_⟩
  · clear memf hborn hkeep
    induction es with
    | nil => exact h.ordered
    | cons a as ih =>
      exact ordered_cons_other (ih fun e he => hes e (List.mem_cons_of_mem _ he)) (hes a List.mem_cons_self)
  · intro id b cs hh
    rcases List.mem_append.mp hh with hh | hh
    · exact Or.inl (hborn id b cs hh)
    · rcases h.cover id b cs hh with ⟨x, hx, e1, e2⟩ | ⟨t, ht⟩ | ⟨t, ht⟩
      · rcases hkeep x hx with hk | ⟨t, ht⟩
        · exact Or.inl ⟨x, hk, e1, e2⟩
        · exact Or.inr (Or.inr ⟨t, List.mem_append_left _ (e1 ▸ ht)⟩)
      · exact Or.inr (Or.inl ⟨t, List.mem_append_right _ ht⟩)
      · exact Or.inr (Or.inr ⟨t, List.mem_append_right _ ht⟩)

def Event.isFiring : Event → Bool
  | .fired .. => true
  | _ => false

def Event.isBirth : Event → Bool
  | .born .. => true
  | _ => false

/-- for a literal list of events both hypotheses are closed by `rfl` -/
theorem no_firing {es : List Event} (h : es.any Event.isFiring = false) :
    ∀ e ∈ es, ∀ id t b cs, e ≠ Event.fired id t b cs := by
  rintro _ he id t b cs rfl
  have : es.any Event.isFiring = true := List.any_eq_true.mpr ⟨_, he, rfl⟩
  rw [h] at this; cases this

theorem no_birth {es : List Event} (h : es.any Event.isBirth = false) :
    ∀ id b cs, Event.born id b cs ∉ es := by
  intro id b cs he
  have : es.any Event.isBirth = true := List.any_eq_true.mpr ⟨_, he, rfl⟩
  rw [h] at this; cases this

theorem one_birth {es : List Event} {x : Ev} {pending' : List Ev}
    (h : es.filter Event.isBirth = [.born x.id x.gBirth x.gCs]) (hx : x ∈ pending') :
    ∀ id b cs, Event.born id b cs ∈ es → ∃ e ∈ pending', e.id = id ∧ e.gBirth = b ∧ e.gCs = cs := by
  intro id b cs hb
  have : Event.born id b cs ∈ es.filter Event.isBirth := List.mem_filter.mpr ⟨hb, rfl⟩
  rw [h, List.mem_singleton] at this
  injection this with e1 e2 e3
  exact ⟨x, hx, e1.symm, e2.symm, e3.symm⟩

/-- events that are neither firings nor births may be logged in a `Clock` state whose bookkeeping fields stay,
and `used`/`live`/`sigOnce`/`dirty`… may change freely -/
theorem Clock.frame {σ σ' : St} (h : Clock σ) (hpc : σ'.pc = .idle ∨ ∃ id, σ'.pc = .d1 id)
    (hcrit : σ'.inCrit = false) (herr : σ'.err = false) (htsf : σ'.tsf = σ.tsf) (hltr : σ'.ltr = σ.ltr)
    (hpend : σ'.pending = σ.pending) (hrem : σ'.remaining = σ.remaining) (hrun : σ'.running = σ.running)
    (hnow : σ'.now = σ.now) (hep : σ'.epoch = σ.epoch)
    (hlog : ∃ es, σ'.log = es ++ σ.log ∧ es.any Event.isFiring = false ∧ es.any Event.isBirth = false) :
    Clock σ' := by
  obtain ⟨es, hl, hf, hb⟩ := hlog
  obtain ⟨q1, q2, q3⟩ := h.log_parts es σ.pending (no_firing hf)
    (fun id b cs hh => absurd hh (no_birth hb id b cs)) (fun _ hx => Or.inl hx)
  constructor
  · exact hpc
  · exact hcrit
  · exact herr
  · rw [htsf]; exact h.normT
  · rw [hltr]; exact h.normL
  · rw [hpend]; exact h.normP
  · rw [hpend]; exact h.sorted
  · rw [hrem]; exact h.remNonneg
  · rw [hrun, hpend]; exact h.run
  · rw [hrun, hrem, hltr, htsf, hnow, hep, hpend]; exact h.armed
  · rw [hrun, hrem]; exact h.idleT
  · rw [hpend, hep]; exact h.birth
  · rw [hl, hnow]; exact q1
  · rw [hl]; exact q2
  · rw [hl, hpend]; exact q3

/-- constructor, clock not running -/
theorem create_A_eq (b : Bool) (σ : St) (id : Nat) (cs : Int) (hcs : 0 < cs) (hpc : σ.pc = .idle)
    (hf : id ∉ σ.used) (hr : σ.running = false) (hp : σ.pending = []) (hdf : σ.deferredFlag = false) :
    steps b 3 (create σ id cs) = { σ with
       pending := [⟨Time.ofCs cs, id, σ.now, cs⟩]
       tsf := Time.zero
       ltr := Time.ofCs cs
       sigOnce := Time.ofCs cs
       running := true
       remaining := (Time.ofCs cs).toUs
       epoch := σ.now
       used := id :: σ.used
       live := id :: σ.live
       inCrit := false
       pc := .idle
       log := .constructed id σ.now :: .setitimer (Time.ofCs cs).toUs :: .born id σ.now cs :: σ.log } := by
  obtain ⟨_, _, hnz, hok⟩ := ofCs_facts hcs
  have hne : ¬ cs ≤ 0 := by omega
  simp [steps, create, step, leave, finish, hdf, hpc, hf, hr, hp, hnz, hok, hne, insertEv]

theorem clock_create_A {σ : St} (h : Clock σ) (id : Nat) (cs : Int) (hcs : 0 < cs) (hpc : σ.pc = .idle)
    (hf : id ∉ σ.used) (hr : σ.running = false) (hdf : σ.deferredFlag = false) :
    Clock (steps false 3 (create σ id cs)) := by
  have hp : σ.pending = [] := by
    cases hpd : σ.pending with
    | nil => rfl
    | cons e r => have := h.run.mpr (by rw [hpd]; simp); rw [hr] at this; exact absurd this (by simp)
  rw [create_A_eq false σ id cs hcs hpc hf hr hp hdf]
  obtain ⟨hn, hu, _, _⟩ := ofCs_facts hcs
  obtain ⟨q1, q2, q3⟩ := h.log_parts [.constructed id σ.now, .setitimer (Time.ofCs cs).toUs, .born id σ.now cs]
    [⟨Time.ofCs cs, id, σ.now, cs⟩] (no_firing rfl) (one_birth rfl List.mem_cons_self)
    (by rw [hp]; exact fun _ hx => absurd hx List.not_mem_nil)
  constructor
  · exact Or.inl rfl
  · rfl
  · exact h.noErr
  · exact Time.norm_zero
  · exact hn
  · intro e he; simp at he; subst he; exact hn
  · simp [Sorted]
  · show 0 ≤ (Time.ofCs cs).toUs
    omega
  · simp
  · intro _
    refine ⟨?_, Int.le_refl _, ?_, ?_⟩
    · show 0 < (Time.ofCs cs).toUs
      omega
    · show σ.now - σ.now = Time.zero.toUs + (Time.ofCs cs).toUs - (Time.ofCs cs).toUs
      rw [Time.toUs_zero]; omega
    · intro e r he
      have he' : [(⟨Time.ofCs cs, id, σ.now, cs⟩ : Ev)] = e :: r := he
      injection he' with e1 e2
      subst e1
      show (Time.ofCs cs).toUs = Time.zero.toUs + (Time.ofCs cs).toUs
      rw [Time.toUs_zero]; omega
  · intro hh; exact absurd hh (by simp)
  · intro e he; simp at he; subst he
    show σ.now + (Time.ofCs cs).toUs = σ.now + cs * 10000 ∧ 0 < cs
    exact ⟨by omega, hcs⟩
  · exact q1
  · exact q2
  · exact q3

end PPLV.Watchdog

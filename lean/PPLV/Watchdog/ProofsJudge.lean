import PPLV.Watchdog.ProofsClockLog

/-! The Boolean judges agree with the propositions they decide (direction used for the concrete
counter-schedules). -/
namespace PPLV.Watchdog

def NeverEarly (log : List Event) : Prop :=
  ∀ id t b cs, Event.fired id t b cs ∈ log → b + cs * 10000 ≤ t

theorem neverEarlyB_of {log : List Event} (h : NeverEarly log) : neverEarlyB log = true := by
  unfold neverEarlyB
  rw [List.all_eq_true]
  intro e he
  cases e <;> simp only []
  rename_i id t b cs
  exact decide_eq_true (h id t b cs he)

/-- every watchdog whose deadline has passed has fired exactly then, or has been destroyed -/
def Prompt (σ : St) : Prop :=
  ∀ id b cs, Event.born id b cs ∈ σ.log → b + cs * 10000 ≤ σ.now →
    Event.fired id (b + cs * 10000) b cs ∈ σ.log ∨ destroyedIn σ.log id

theorem promptB_of {σ : St} (h : Prompt σ) : promptB σ = true := by
  unfold promptB
  rw [List.all_eq_true]
  intro e he
  cases e <;> simp only []
  rename_i id b cs
  by_cases hd : b + cs * 10000 ≤ σ.now
  · rcases h id b cs he hd with hf | ⟨t, ht⟩
    · simp [hf]
    · have : σ.log.any (Event.isDestroyedOf id) = true := by
        rw [List.any_eq_true]
        exact ⟨_, ht, by simp [Event.isDestroyedOf]⟩
      simp [this]
  · have : decide (σ.now < b + cs * 10000) = true := decide_eq_true (by omega)
    simp [this]

end PPLV.Watchdog

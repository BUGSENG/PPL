import PPLV.Product.ProofsMod
import PPLV.Lin.Proofs
import Mathlib.Tactic.FieldSimp

/-!
# C10 — every reduction policy shrinks the components and keeps their intersection
-/
namespace PPLV.Product
open PPLV

/-- `(x', y')` is a reduction of `(x, y)`: both components shrink, no common point is lost -/
structure Red (A B : RDom) (x : A.D) (y : B.D) (x' : A.D) (y' : B.D) : Prop where
  sub1 : ∀ p, A.γ x' p → A.γ x p
  sub2 : ∀ p, B.γ y' p → B.γ y p
  keep : ∀ p, A.γ x p → B.γ y p → (A.γ x' p ∧ B.γ y' p)

variable (A B : RDom)

theorem Red.refl (x : A.D) (y : B.D) : Red A B x y x y :=
  ⟨fun _ h => h, fun _ h => h, fun _ h1 h2 => ⟨h1, h2⟩⟩

theorem Red.trans {x x' x'' : A.D} {y y' y'' : B.D} (h1 : Red A B x y x' y') (h2 : Red A B x' y' x'' y'') :
    Red A B x y x'' y'' :=
  ⟨fun p h => h1.sub1 p (h2.sub1 p h), fun p h => h1.sub2 p (h2.sub2 p h),
   fun p ha hb => let ⟨a, b⟩ := h1.keep p ha hb; h2.keep p a b⟩

theorem Red.swap {x x' : A.D} {y y' : B.D} (h : Red A B x y x' y') : Red B A y x y' x' :=
  ⟨h.sub2, h.sub1, fun p hb ha => let ⟨a, b⟩ := h.keep p ha hb; ⟨b, a⟩⟩

/-- the intersection is unchanged -/
theorem Red.meet_eq {x x' : A.D} {y y' : B.D} (h : Red A B x y x' y') (p : Pt) :
    (A.γ x' p ∧ B.γ y' p) ↔ (A.γ x p ∧ B.γ y p) :=
  ⟨fun ⟨a, b⟩ => ⟨h.sub1 p a, h.sub2 p b⟩, fun ⟨a, b⟩ => h.keep p a b⟩

/-! ### smash -/

theorem smash_red (d1 : A.D) (d2 : B.D) :
    Red A B d1 d2 (smashReduce A B d1 d2).1 (smashReduce A B d1 d2).2 := by
  unfold smashReduce
  cases h2 : B.isBottom d2 with
  | true =>
    have e2 := B.isBottom_sound d2 h2
    cases h1 : A.isBottom d1 with
    | true =>
      simp only [if_true, Bool.not_true, Bool.false_eq_true, if_false]
      exact Red.refl A B d1 d2
    | false =>
      simp only [if_true, Bool.not_false]
      exact ⟨fun p h => absurd h (A.empty_spec p), fun _ h => h, fun p _ hb => absurd hb (e2 p)⟩
  | false =>
    cases h1 : A.isBottom d1 with
    | true =>
      have e1 := A.isBottom_sound d1 h1
      simp only [if_true, if_false, Bool.false_eq_true]
      exact ⟨fun _ h => h, fun p h => absurd h (B.empty_spec p), fun p ha _ => absurd ha (e1 p)⟩
    | false =>
      simp only [if_false, Bool.false_eq_true]
      exact Red.refl A B d1 d2

/-! ### refining with constraints that hold on the other component -/

theorem refineCons_sub (X : RDom) (d : X.D) (cs : List LCon) (p : Pt) :
    X.γ (refineCons X d cs) p → X.γ d p := by
  induction cs generalizing d with
  | nil => exact id
  | cons c cs ih =>
    intro h
    exact X.refineCon_sub d c p (ih (X.refineCon d c) h)

theorem refineCons_keep (X : RDom) (d : X.D) (cs : List LCon) (p : Pt)
    (hp : X.γ d p) (hc : ∀ c ∈ cs, c.sat p) : X.γ (refineCons X d cs) p := by
  induction cs generalizing d with
  | nil => exact hp
  | cons c cs ih =>
    exact ih (X.refineCon d c) (X.refineCon_keep d c p hp (hc c List.mem_cons_self))
      (fun e he => hc e (List.mem_cons_of_mem _ he))

/-- refining the first component with constraints valid on the second is a reduction -/
theorem refine_left_red (d1 : A.D) (d2 : B.D) (cs : List LCon)
    (hcs : ∀ p, A.γ d1 p → B.γ d2 p → ∀ c ∈ cs, c.sat p) : Red A B d1 d2 (refineCons A d1 cs) d2 :=
  ⟨refineCons_sub A d1 cs, fun _ h => h,
   fun p ha hb => ⟨refineCons_keep A d1 cs p ha (hcs p ha hb), hb⟩⟩

theorem refine_right_red (d1 : A.D) (d2 : B.D) (cs : List LCon)
    (hcs : ∀ p, A.γ d1 p → B.γ d2 p → ∀ c ∈ cs, c.sat p) : Red A B d1 d2 d1 (refineCons B d2 cs) :=
  ⟨fun _ h => h, refineCons_sub B d2 cs,
   fun p ha hb => ⟨ha, refineCons_keep B d2 cs p hb (hcs p ha hb)⟩⟩

/-- emptying the second component when the first is (detected) empty -/
theorem empty_right_red (d1 : A.D) (d2 : B.D) (h : A.isBottom d1 = true) : Red A B d1 d2 d1 B.empty :=
  ⟨fun _ h => h, fun p h => absurd h (B.empty_spec p), fun p ha _ => absurd ha (A.isBottom_sound d1 h p)⟩

theorem empty_left_red (d1 : A.D) (d2 : B.D) (h : B.isBottom d2 = true) : Red A B d1 d2 A.empty d2 :=
  ⟨fun p h => absurd h (A.empty_spec p), fun _ h => h, fun p _ hb => absurd hb (B.isBottom_sound d2 h p)⟩

/-! ### constraints reduction -/

theorem constraints_red (d1 : A.D) (d2 : B.D) :
    Red A B d1 d2 (constraintsReduce A B d1 d2).1 (constraintsReduce A B d1 d2).2 := by
  unfold constraintsReduce
  by_cases h0 : (A.isBottom d1 || B.isBottom d2) = true
  · simp only [h0, if_true]; exact smash_red A B d1 d2
  · simp only [h0, if_false, Bool.false_eq_true]
    have r1 : Red A B d1 d2 (refineCons A d1 (B.constraints d2)) d2 :=
      refine_left_red A B d1 d2 _ (fun p _ hb => B.constraints_sound d2 p hb)
    by_cases h1 : A.isBottom (refineCons A d1 (B.constraints d2)) = true
    · simp only [h1, if_true]
      exact r1.trans A B (empty_right_red A B _ d2 h1)
    · simp only [h1, if_false, Bool.false_eq_true]
      have r2 : Red A B (refineCons A d1 (B.constraints d2)) d2 (refineCons A d1 (B.constraints d2))
          (refineCons B d2 (A.constraints (refineCons A d1 (B.constraints d2)))) :=
        refine_right_red A B _ d2 _ (fun p ha _ => A.constraints_sound _ p ha)
      by_cases h2 : B.isBottom (refineCons B d2 (A.constraints (refineCons A d1 (B.constraints d2)))) = true
      · simp only [h2, if_true]
        exact (r1.trans A B r2).trans A B (empty_left_red A B _ _ h2)
      · simp only [h2, if_false, Bool.false_eq_true]
        exact r1.trans A B r2

/-! ### `shrink_to_congruence_no_check` -/

/-- **the shrink step is a reduction**, provided `cg` is a proper congruence satisfied by every
    point of the first component -/
theorem shrinkStep_red (X Y : RDom) (d1 : X.D) (d2 : Y.D) (cg : Cg) (hm : 0 < cg.modulus)
    (hcg : ∀ p, X.γ d1 p → cg.sat p) :
    Red X Y d1 d2 (shrinkStep X Y d1 d2 cg).1.1 (shrinkStep X Y d1 d2 cg).1.2 := by
  unfold shrinkStep
  cases hmax : Y.maximize d2 cg.expr with
  | none => exact Red.refl X Y d1 d2
  | some mx =>
    obtain ⟨maxN0, maxD, maxIncl⟩ := mx
    cases hmin : Y.minimize d2 cg.expr with
    | none => exact Red.refl X Y d1 d2
    | some mn =>
      obtain ⟨minN0, minD, minIncl⟩ := mn
      simp only
      obtain ⟨hmaxD, hmaxS⟩ := Y.maximize_spec d2 cg.expr maxN0 maxD maxIncl hmax
      obtain ⟨hminD, hminS⟩ := Y.minimize_spec d2 cg.expr minN0 minD minIncl hmin
      have hden : 0 < maxD * minD := Int.mul_pos hmaxD hminD
      have hmod : 0 < cg.modulus * (maxD * minD) := Int.mul_pos hm hden
      -- the integer facts about a common point
      have key : ∀ p, X.γ d1 p → Y.γ d2 p → ∃ z : Int,
          cg.expr.eval p * ((maxD * minD : Int) : Rat) = ((z * (cg.modulus * (maxD * minD)) : Int) : Rat) ∧
          z * (cg.modulus * (maxD * minD)) ≤ maxN0 * minD ∧
          (maxIncl = false → z * (cg.modulus * (maxD * minD)) < maxN0 * minD) ∧
          minN0 * maxD ≤ z * (cg.modulus * (maxD * minD)) ∧
          (minIncl = false → minN0 * maxD < z * (cg.modulus * (maxD * minD))) := by
        intro p h1 h2
        obtain ⟨z, hz⟩ := hcg p h1
        obtain ⟨hu, hus⟩ := hmaxS p h2
        obtain ⟨hl, hls⟩ := hminS p h2
        have hmaxDq : (0 : Rat) < (maxD : Rat) := by exact_mod_cast hmaxD
        have hminDq : (0 : Rat) < (minD : Rat) := by exact_mod_cast hminD
        have hzE : ((z * (cg.modulus * (maxD * minD)) : Int) : Rat) = cg.expr.eval p * (maxD : Rat) * (minD : Rat) := by
          rw [hz]; push_cast; ring
        refine ⟨z, by rw [hz]; push_cast; ring, ?_, fun hi => ?_, ?_, fun hi => ?_⟩
        · have : ((z * (cg.modulus * (maxD * minD)) : Int) : Rat) ≤ ((maxN0 * minD : Int) : Rat) := by
            rw [hzE]; push_cast; exact mul_le_mul_of_nonneg_right hu hminDq.le
          exact_mod_cast this
        · have : ((z * (cg.modulus * (maxD * minD)) : Int) : Rat) < ((maxN0 * minD : Int) : Rat) := by
            rw [hzE]; push_cast; exact mul_lt_mul_of_pos_right (hus hi) hminDq
          exact_mod_cast this
        · have : ((minN0 * maxD : Int) : Rat) ≤ ((z * (cg.modulus * (maxD * minD)) : Int) : Rat) := by
            rw [hzE, mul_right_comm]; push_cast; exact mul_le_mul_of_nonneg_right hl hmaxDq.le
          exact_mod_cast this
        · have : ((minN0 * maxD : Int) : Rat) < ((z * (cg.modulus * (maxD * minD)) : Int) : Rat) := by
            rw [hzE, mul_right_comm]; push_cast; exact mul_lt_mul_of_pos_right (hls hi) hmaxDq
          exact_mod_cast this
      split
      · -- the range is narrow enough
        split
        · -- exactly one hyperplane
          rename_i heq
          have heq' : maxN0 * minD - shrinkMax (maxN0 * minD) (cg.modulus * (maxD * minD)) maxIncl
              = minN0 * maxD - shrinkMin (minN0 * maxD) (cg.modulus * (maxD * minD)) minIncl := by
            simpa using heq
          refine ⟨X.refineCon_sub d1 _, Y.refineCon_sub d2 _, fun p h1 h2 => ?_⟩
          obtain ⟨z, hE, hu, hus, hl, hls⟩ := key p h1 h2
          have hfl := shrinkMax_floor _ _ z maxIncl hmod hu hus
          have hce := shrinkMin_ceil _ _ z minIncl hmod hl hls
          have hzeq : z * (cg.modulus * (maxD * minD)) = minN0 * maxD - shrinkMin (minN0 * maxD) (cg.modulus * (maxD * minD)) minIncl := by
            apply le_antisymm
            · rw [← heq']; exact hfl
            · exact hce
          have hsat : LCon.sat ⟨cg.coeffs.map ((maxD * minD) * ·),
              (maxD * minD) * cg.k - (minN0 * maxD - shrinkMin (minN0 * maxD) (cg.modulus * (maxD * minD)) minIncl), .eq⟩ p := by
            simp only [LCon.sat, LCon.eval, Lin.dot_map_mul]
            have hE' : cg.expr.eval p * ((maxD * minD : Int) : Rat) =
                ((minN0 * maxD - shrinkMin (minN0 * maxD) (cg.modulus * (maxD * minD)) minIncl : Int) : Rat) := by
              rw [hE, hzeq]
            simp only [Cg.expr, LE.eval] at hE'
            push_cast at hE' ⊢
            linarith
          exact ⟨X.refineCon_keep d1 _ p h1 hsat, Y.refineCon_keep d2 _ p h2 hsat⟩
        · split
          · -- no hyperplane: the product is empty
            rename_i hlt
            refine ⟨fun p h => absurd h (X.empty_spec p), fun p h => absurd h (Y.empty_spec p), fun p h1 h2 => ?_⟩
            exfalso
            obtain ⟨z, _, hu, hus, hl, hls⟩ := key p h1 h2
            have hfl := shrinkMax_floor _ _ z maxIncl hmod hu hus
            have hce := shrinkMin_ceil _ _ z minIncl hmod hl hls
            have : maxN0 * minD - shrinkMax (maxN0 * minD) (cg.modulus * (maxD * minD)) maxIncl
                < minN0 * maxD - shrinkMin (minN0 * maxD) (cg.modulus * (maxD * minD)) minIncl := hlt
            linarith
          · exact Red.refl X Y d1 d2
      · exact Red.refl X Y d1 d2

/-! ### congruences reduction -/

theorem cgLoop_red (X Y : RDom) (cgs : List Cg) (d1 : X.D) (d2 : Y.D)
    (hnn : ∀ c ∈ cgs, 0 ≤ c.modulus) (hcg : ∀ c ∈ cgs, ∀ p, X.γ d1 p → c.sat p) :
    Red X Y d1 d2 (cgLoop X Y cgs d1 d2).1.1 (cgLoop X Y cgs d1 d2).1.2 := by
  induction cgs generalizing d1 d2 with
  | nil => exact Red.refl X Y d1 d2
  | cons cg rest ih =>
    have hnn' : ∀ c ∈ rest, 0 ≤ c.modulus := fun c hc => hnn c (List.mem_cons_of_mem _ hc)
    have hcg' : ∀ c ∈ rest, ∀ p, X.γ d1 p → c.sat p := fun c hc => hcg c (List.mem_cons_of_mem _ hc)
    have hcg0 := hcg cg List.mem_cons_self
    unfold cgLoop
    by_cases hz : (cg.modulus == 0) = true
    · simp only [hz, if_true]
      have r1 : Red X Y d1 d2 d1 (Y.refineCg d2 cg) :=
        ⟨fun _ h => h, Y.refineCg_sub d2 cg, fun p h1 h2 => ⟨h1, Y.refineCg_keep d2 cg p h2 (hcg0 p h1)⟩⟩
      exact r1.trans X Y (ih d1 (Y.refineCg d2 cg) hnn' hcg')
    · simp only [hz, if_false, Bool.false_eq_true]
      have hpos : 0 < cg.modulus := by
        have h0 := hnn cg List.mem_cons_self
        have hne : cg.modulus ≠ 0 := by simpa using hz
        exact lt_of_le_of_ne h0 (Ne.symm hne)
      have r1 := shrinkStep_red X Y d1 d2 cg hpos hcg0
      cases hb : (shrinkStep X Y d1 d2 cg).2 with
      | true =>
        simp only [Bool.not_true, Bool.false_eq_true, if_false]
        refine r1.trans X Y (ih _ _ hnn' ?_)
        intro c hc p hp
        exact hcg' c hc p (r1.sub1 p hp)
      | false =>
        simp only [Bool.not_false, if_true]
        exact r1

theorem congruences_red (d1 : A.D) (d2 : B.D) :
    Red A B d1 d2 (congruencesReduce A B d1 d2).1 (congruencesReduce A B d1 d2).2 := by
  unfold congruencesReduce
  by_cases h0 : (A.isBottom d1 || B.isBottom d2) = true
  · simp only [h0, if_true]; exact smash_red A B d1 d2
  · simp only [h0, if_false, Bool.false_eq_true]
    have r1 := cgLoop_red A B (A.congruences d1) d1 d2 (A.congruences_nonneg d1)
      (fun c hc p hp => A.congruences_sound d1 p hp c hc)
    cases hb : (cgLoop A B (A.congruences d1) d1 d2).2 with
    | true =>
      simp only [Bool.not_true, Bool.false_eq_true, if_false]
      have r2 := cgLoop_red B A (B.congruences (cgLoop A B (A.congruences d1) d1 d2).1.2)
        (cgLoop A B (A.congruences d1) d1 d2).1.2 (cgLoop A B (A.congruences d1) d1 d2).1.1
        (B.congruences_nonneg _) (fun c hc p hp => B.congruences_sound _ p hp c hc)
      exact r1.trans A B (Red.swap B A r2)
    | false =>
      simp only [Bool.not_false, if_true]
      exact r1

/-! ### shape-preserving reduction -/

/-- a value `EK ≥ 0` in `V + ℤ·F` with `|V| < F` (or `F = 0`) is at least `V`, and at least `V + F` when `V < 0` -/
theorem freq_tighten {V F EK : Rat} {z : Int} (hF : 0 ≤ F) (hEK : 0 ≤ EK) (h : EK = V + (z : Rat) * F)
    (hsmall : F = 0 ∨ (-F < V ∧ V < F)) : (V < 0 → V + F ≤ EK) ∧ (0 < V → V ≤ EK) := by
  rcases hsmall with h0 | ⟨hlo, hhi⟩
  · subst h0
    constructor <;> intro _ <;> linarith
  · constructor
    · intro hV
      have hz : 1 ≤ z := by
        by_contra hc
        have hz0 : (z : Rat) ≤ 0 := by exact_mod_cast (show z ≤ 0 by omega)
        have := mul_nonpos_of_nonpos_of_nonneg hz0 hF
        linarith
      have hz1 : (1 : Rat) ≤ z := by exact_mod_cast hz
      have := mul_le_mul_of_nonneg_right hz1 hF
      linarith
    · intro hV
      have hz : 0 ≤ z := by
        by_contra hc
        have hz1 : (z : Rat) ≤ -1 := by exact_mod_cast (show z ≤ -1 by omega)
        have := mul_le_mul_of_nonneg_right hz1 hF
        linarith
      have := mul_nonneg (show (0 : Rat) ≤ z by exact_mod_cast hz) hF
      linarith
/-- every tightened constraint holds on the common points -/
theorem freqRefine_sound (X : RDom) (d : X.D) (cs : List LCon) (p : Pt)
    (hd : X.γ d p) (hcs : ∀ c ∈ cs, c.sat p) : ∀ c' ∈ freqRefine X d cs, c'.sat p := by
  intro c' hc'
  unfold freqRefine at hc'
  obtain ⟨c, hc, hf⟩ := List.mem_filterMap.mp hc'
  by_cases hrel : c.rel = .eq
  · simp [hrel] at hf
  · simp only [hrel, if_false] at hf
    cases hfr : X.frequency d c.expr with
    | none => simp [hfr] at hf
    | some q =>
      obtain ⟨fn, fd, vn, vd⟩ := q
      simp only [hfr] at hf
      by_cases hv0 : vn = 0
      · simp [hv0] at hf
      · simp only [hv0, if_false, Option.some.injEq] at hf
        obtain ⟨hfd, hvd, hfn, hsmall, hall⟩ := X.frequency_spec d c.expr fn fd vn vd hfr
        obtain ⟨z, hz⟩ := hall p hd
        -- `c` is `le ≥ 0` or `le > 0`
        have hge : 0 ≤ c.expr.eval p := by
          have := hcs c hc
          unfold LCon.sat at this
          cases hr : c.rel with
          | eq => exact absurd hr hrel
          | ge => simp only [hr] at this; exact this
          | gt => simp only [hr] at this; exact le_of_lt this
        have hfdq : (0 : Rat) < (fd : Rat) := by exact_mod_cast hfd
        have hvdq : (0 : Rat) < (vd : Rat) := by exact_mod_cast hvd
        have hfnq : (0 : Rat) ≤ (fn : Rat) := by exact_mod_cast hfn
        have hEv : c.expr.eval p = Lin.dot c.coeffs p + (c.k : Rat) := rfl
        subst hf
        simp only [LCon.sat, LCon.eval, Lin.dot_map_mul]
        have hT := freq_tighten (mul_nonneg hfnq hvdq.le) (mul_nonneg hge (mul_pos hvdq hfdq).le) hz
          (hsmall.imp (fun h0 => by rw [show (fn : Rat) = 0 by exact_mod_cast h0, zero_mul])
            (fun ⟨hlo, hhi⟩ => ⟨by exact_mod_cast hlo, by exact_mod_cast hhi⟩))
        rw [hEv] at hT
        by_cases hneg : vn < 0
        · -- val + freq
          simp only [hneg, if_true]
          push_cast
          have := hT.1 (mul_neg_of_neg_of_pos (by exact_mod_cast hneg) hfdq)
          linarith
        · simp only [hneg, if_false]
          have hpos : 0 < vn := lt_of_le_of_ne (not_lt.mp hneg) (Ne.symm hv0)
          push_cast
          -- divide by fd > 0
          have : (vn : Rat) ≤ (Lin.dot c.coeffs p + (c.k : Rat)) * (vd : Rat) :=
            le_of_mul_le_mul_right (by linarith [hT.2 (mul_pos (by exact_mod_cast hpos) hfdq)]) hfdq
          linarith

theorem shape_red (d1 : A.D) (d2 : B.D) :
    Red A B d1 d2 (shapeReduce A B d1 d2).1 (shapeReduce A B d1 d2).2 := by
  unfold shapeReduce
  have r0 := congruences_red A B d1 d2
  simp only
  by_cases h1 : A.isBottom (congruencesReduce A B d1 d2).1 = true
  · simp only [h1, if_true]; exact r0
  · simp only [h1, if_false, Bool.false_eq_true]
    generalize (congruencesReduce A B d1 d2).1 = e1 at r0 ⊢
    generalize (congruencesReduce A B d1 d2).2 = e2 at r0 ⊢
    have r1 : Red A B e1 e2 e1 (refineCons B e2 (freqRefine A e1 (B.constraints e2))) :=
      refine_right_red A B e1 e2 _ (fun p ha hb =>
        freqRefine_sound A e1 (B.constraints e2) p ha (B.constraints_sound e2 p hb))
    have r2 : Red A B e1 (refineCons B e2 (freqRefine A e1 (B.constraints e2)))
        (refineCons A e1 (freqRefine B (refineCons B e2 (freqRefine A e1 (B.constraints e2))) (A.constraints e1)))
        (refineCons B e2 (freqRefine A e1 (B.constraints e2))) :=
      refine_left_red A B e1 _ _ (fun p ha hb =>
        freqRefine_sound B _ (A.constraints e1) p hb (A.constraints_sound e1 p ha))
    exact ((r0.trans A B r1).trans A B r2).trans A B (constraints_red A B _ _)

/-- **every policy**: the components shrink and the intersection is unchanged -/
theorem productReduce_red (R : Policy) (d1 : A.D) (d2 : B.D) :
    Red A B d1 d2 (productReduce A B R d1 d2).1 (productReduce A B R d1 d2).2 := by
  cases R with
  | none => exact Red.refl A B d1 d2
  | smash => exact smash_red A B d1 d2
  | constraints => exact constraints_red A B d1 d2
  | congruences => exact congruences_red A B d1 d2
  | shape => exact shape_red A B d1 d2

/-- the lazy `reduce()` — whatever the flag says -/
theorem reduce_red (R : Policy) (x : Prod A B) :
    Red A B x.d1 x.d2 (reduce A B R x).d1 (reduce A B R x).d2 := by
  unfold reduce
  by_cases h : x.reduced = true
  · simp only [h, if_true]; exact Red.refl A B _ _
  · simp only [h, if_false, Bool.false_eq_true]; exact productReduce_red A B R x.d1 x.d2

/-! ### transformers and predicates -/

/-- component-wise transformers: the image of the intersection is contained in the intersection
    of the images -/
theorem mapBoth_sound (f1 : A.D → A.D) (f2 : B.D → B.D) (Rel : Pt → Pt → Prop)
    (h1 : ∀ a p q, A.γ a p → Rel p q → A.γ (f1 a) q) (h2 : ∀ b p q, B.γ b p → Rel p q → B.γ (f2 b) q)
    (x : Prod A B) (p q : Pt) (hp : A.γ x.d1 p ∧ B.γ x.d2 p) (hr : Rel p q) :
    A.γ (mapBoth A B f1 f2 x).d1 q ∧ B.γ (mapBoth A B f1 f2 x).d2 q :=
  ⟨h1 _ p q hp.1 hr, h2 _ p q hp.2 hr⟩

theorem mapBothReduced_sound (R : Policy) (f1 : A.D → A.D) (f2 : B.D → B.D) (Rel : Pt → Pt → Prop)
    (h1 : ∀ a p q, A.γ a p → Rel p q → A.γ (f1 a) q) (h2 : ∀ b p q, B.γ b p → Rel p q → B.γ (f2 b) q)
    (x : Prod A B) (p q : Pt) (hp : A.γ x.d1 p ∧ B.γ x.d2 p) (hr : Rel p q) :
    A.γ (mapBothReduced A B R f1 f2 x).d1 q ∧ B.γ (mapBothReduced A B R f1 f2 x).d2 q := by
  obtain ⟨a, b⟩ := (reduce_red A B R x).keep p hp.1 hp.2
  exact ⟨h1 _ p q a hr, h2 _ p q b hr⟩

/-- `is_empty()` answers `true` only for an empty intersection -/
theorem isEmpty_sound (R : Policy) (x : Prod A B) (h : isEmpty A B R x = true) (p : Pt) :
    ¬ (A.γ x.d1 p ∧ B.γ x.d2 p) := by
  rintro ⟨h1, h2⟩
  obtain ⟨a, b⟩ := (reduce_red A B R x).keep p h1 h2
  unfold isEmpty at h
  simp only [Bool.or_eq_true] at h
  rcases h with h | h
  · exact A.isBottom_sound _ h p a
  · exact B.isBottom_sound _ h p b

/-- `contains(y)` answers `true` only if the intersection of `y` lies in that of `x` -/
theorem contains_sound (R : Policy) (c1 : A.D → A.D → Bool) (c2 : B.D → B.D → Bool)
    (hc1 : ∀ a b, c1 a b = true → ∀ p, A.γ b p → A.γ a p) (hc2 : ∀ a b, c2 a b = true → ∀ p, B.γ b p → B.γ a p)
    (x y : Prod A B) (h : contains A B R c1 c2 x y = true) (p : Pt) :
    (A.γ y.d1 p ∧ B.γ y.d2 p) → (A.γ x.d1 p ∧ B.γ x.d2 p) := by
  rintro ⟨h1, h2⟩
  obtain ⟨a, b⟩ := (reduce_red A B R y).keep p h1 h2
  unfold contains at h
  simp only [Bool.and_eq_true] at h
  exact ⟨(reduce_red A B R x).sub1 p (hc1 _ _ h.1 p a), (reduce_red A B R x).sub2 p (hc2 _ _ h.2 p b)⟩

/-- predicates of the form "some component has the (downward closed) property `P`"
    (`is_bounded`, `bounds_from_above`, `is_disjoint_from`, inclusion in a constraint …) are true
    of the intersection -/
theorem anyComponent_sound (R : Policy) (q1 : A.D → Bool) (q2 : B.D → Bool) (P : (Pt → Prop) → Prop)
    (hP : ∀ S T : Pt → Prop, (∀ p, S p → T p) → P T → P S)
    (h1 : ∀ a, q1 a = true → P (A.γ a)) (h2 : ∀ b, q2 b = true → P (B.γ b))
    (x : Prod A B) (h : anyComponent A B R q1 q2 x = true) :
    P (fun p => A.γ x.d1 p ∧ B.γ x.d2 p) := by
  have r := reduce_red A B R x
  unfold anyComponent at h
  simp only [Bool.or_eq_true] at h
  rcases h with h | h
  · exact hP _ _ (fun p hp => (r.keep p hp.1 hp.2).1) (h1 _ h)
  · exact hP _ _ (fun p hp => (r.keep p hp.1 hp.2).2) (h2 _ h)

/-! ### `relation_with`, `maximize`, `minimize` -/

/-- every fact reported by `relation_with(c)` is true of the intersection, provided the component
    answers are sound (`sat` = the point set of the constraint / congruence, `hyp` = its hyperplane) -/
theorem relationWith_sound (R : Policy) (q1 : A.D → Rel3) (q2 : B.D → Rel3) (sat hyp : Pt → Prop)
    (h1 : ∀ a, ((q1 a).included = true → ∀ p, A.γ a p → sat p) ∧ ((q1 a).disjoint = true → ∀ p, A.γ a p → ¬ sat p) ∧
               ((q1 a).saturates = true → ∀ p, A.γ a p → hyp p))
    (h2 : ∀ b, ((q2 b).included = true → ∀ p, B.γ b p → sat p) ∧ ((q2 b).disjoint = true → ∀ p, B.γ b p → ¬ sat p) ∧
               ((q2 b).saturates = true → ∀ p, B.γ b p → hyp p))
    (x : Prod A B) (p : Pt) (hp : A.γ x.d1 p ∧ B.γ x.d2 p) :
    ((relationWith A B R q1 q2 x).included = true → sat p) ∧
    ((relationWith A B R q1 q2 x).disjoint = true → ¬ sat p) ∧
    ((relationWith A B R q1 q2 x).saturates = true → hyp p) := by
  obtain ⟨a, b⟩ := (reduce_red A B R x).keep p hp.1 hp.2
  unfold relationWith relCombine
  simp only [Bool.or_eq_true]
  refine ⟨?_, ?_, ?_⟩
  · rintro (h | h)
    · exact (h1 _).1 h p a
    · exact (h2 _).1 h p b
  · rintro (h | h)
    · exact (h1 _).2.1 h p a
    · exact (h2 _).2.1 h p b
  · rintro (h | h)
    · exact (h1 _).2.2 h p a
    · exact (h2 _).2.2 h p b

/-- the value reported by `maximize` is an upper bound of the expression on the intersection
    (whichever component it is taken from) -/
theorem prodMaximize_sound (R : Policy) (x : Prod A B) (e : LE) (n dn : Int) (incl : Bool)
    (h : prodMaximize A B R x e = some (n, dn, incl)) (p : Pt) (hp : A.γ x.d1 p ∧ B.γ x.d2 p) :
    0 < dn ∧ e.eval p * (dn : Rat) ≤ (n : Rat) := by
  obtain ⟨a, b⟩ := (reduce_red A B R x).keep p hp.1 hp.2
  unfold prodMaximize at h
  simp only at h
  have fromA : ∀ r, A.maximize (reduce A B R x).d1 e = some r → r = (n, dn, incl) → 0 < dn ∧ e.eval p * (dn : Rat) ≤ (n : Rat) := by
    intro r hr he; subst he
    obtain ⟨h0, hs⟩ := A.maximize_spec _ e n dn incl hr
    exact ⟨h0, (hs p a).1⟩
  have fromB : ∀ r, B.maximize (reduce A B R x).d2 e = some r → r = (n, dn, incl) → 0 < dn ∧ e.eval p * (dn : Rat) ≤ (n : Rat) := by
    intro r hr he; subst he
    obtain ⟨h0, hs⟩ := B.maximize_spec _ e n dn incl hr
    exact ⟨h0, (hs p b).1⟩
  cases hA : A.maximize (reduce A B R x).d1 e with
  | none =>
    cases hB : B.maximize (reduce A B R x).d2 e with
    | none => simp [hA, hB] at h
    | some rb => simp only [hA, hB, Option.some.injEq] at h; exact fromB rb hB h
  | some ra =>
    cases hB : B.maximize (reduce A B R x).d2 e with
    | none => simp only [hA, hB, Option.some.injEq] at h; exact fromA ra hA h
    | some rb =>
      simp only [hA, hB] at h
      split at h
      · simp only [Option.some.injEq] at h; exact fromA ra hA h
      · simp only [Option.some.injEq] at h; exact fromB rb hB h

theorem prodMinimize_sound (R : Policy) (x : Prod A B) (e : LE) (n dn : Int) (incl : Bool)
    (h : prodMinimize A B R x e = some (n, dn, incl)) (p : Pt) (hp : A.γ x.d1 p ∧ B.γ x.d2 p) :
    0 < dn ∧ (n : Rat) ≤ e.eval p * (dn : Rat) := by
  obtain ⟨a, b⟩ := (reduce_red A B R x).keep p hp.1 hp.2
  unfold prodMinimize at h
  simp only at h
  have fromA : ∀ r, A.minimize (reduce A B R x).d1 e = some r → r = (n, dn, incl) → 0 < dn ∧ (n : Rat) ≤ e.eval p * (dn : Rat) := by
    intro r hr he; subst he
    obtain ⟨h0, hs⟩ := A.minimize_spec _ e n dn incl hr
    exact ⟨h0, (hs p a).1⟩
  have fromB : ∀ r, B.minimize (reduce A B R x).d2 e = some r → r = (n, dn, incl) → 0 < dn ∧ (n : Rat) ≤ e.eval p * (dn : Rat) := by
    intro r hr he; subst he
    obtain ⟨h0, hs⟩ := B.minimize_spec _ e n dn incl hr
    exact ⟨h0, (hs p b).1⟩
  cases hA : A.minimize (reduce A B R x).d1 e with
  | none =>
    cases hB : B.minimize (reduce A B R x).d2 e with
    | none => simp [hA, hB] at h
    | some rb => simp only [hA, hB, Option.some.injEq] at h; exact fromB rb hB h
  | some ra =>
    cases hB : B.minimize (reduce A B R x).d2 e with
    | none => simp only [hA, hB, Option.some.injEq] at h; exact fromA ra hA h
    | some rb =>
      simp only [hA, hB] at h
      split at h
      · simp only [Option.some.injEq] at h; exact fromA ra hA h
      · simp only [Option.some.injEq] at h; exact fromB rb hB h

end PPLV.Product

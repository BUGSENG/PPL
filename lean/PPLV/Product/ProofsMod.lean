import PPLV.Product.Model
import Mathlib.Tactic.Linarith
import Mathlib.Tactic.Ring
import Mathlib.Tactic.Push

/-!
# C10 — the modular arithmetic of `shrink_to_congruence_no_check`

`max_numer - shrinkMax …` is the largest multiple of `mod` below the upper bound (strictly below
when the bound is not attained), `min_numer - shrinkMin …` the least multiple above the lower
bound; C++ `%` is `Int.tmod`.
-/
namespace PPLV.Product

theorem tmod_cases (N m : Int) (hm : 0 < m) :
    (N.tmod m = N % m ∧ (0 ≤ N ∨ N % m = 0)) ∨ (N.tmod m = N % m - m ∧ N < 0 ∧ N % m ≠ 0) := by
  rw [Int.tmod_eq_emod]
  have hd : m ∣ N ↔ N % m = 0 := Int.dvd_iff_emod_eq_zero
  have hn : (m.natAbs : Int) = m := by
    rw [Int.natCast_natAbs]; exact abs_of_pos hm
  by_cases h : 0 ≤ N ∨ m ∣ N
  · left
    simp only [h, if_true]
    refine ⟨by simp, ?_⟩
    rcases h with h | h
    · exact Or.inl h
    · exact Or.inr (hd.mp h)
  · right
    simp only [h, if_false]
    rw [hn]
    push Not at h
    exact ⟨rfl, h.1, fun h0 => h.2 (hd.mpr h0)⟩

/-- what `shrinkMax` returns -/
theorem shrinkMax_spec (N m : Int) (incl : Bool) (hm : 0 < m) :
    m ∣ (N - shrinkMax N m incl) ∧
    (incl = true → 0 ≤ shrinkMax N m incl ∧ shrinkMax N m incl < m) ∧
    (incl = false → 0 < shrinkMax N m incl ∧ shrinkMax N m incl ≤ m) := by
  have hr0 : 0 ≤ N % m := Int.emod_nonneg N (ne_of_gt hm)
  have hr1 : N % m < m := Int.emod_lt_of_pos N hm
  have hdvd : m ∣ N - N % m := Int.dvd_self_sub_emod
  unfold shrinkMax
  rcases tmod_cases N m hm with ⟨ht, _⟩ | ⟨ht, _, hne⟩
  · rw [ht]
    by_cases hz : N % m = 0
    · have hmN : m ∣ N := Int.dvd_iff_emod_eq_zero.mpr hz
      cases incl with
      | true =>
        simp only [hz, Bool.not_true, Bool.false_and, Bool.false_eq_true, if_false]
        have : ¬ (0 : Int) < 0 := lt_irrefl 0
        simp only [this, if_false, sub_zero]
        refine ⟨hmN, fun _ => ⟨le_refl 0, hm⟩, ?_⟩
        intro h; simp at h
      | false =>
        simp only [hz, Bool.not_false, beq_self_eq_true, Bool.and_self, if_true]
        have : ¬ m < 0 := not_lt.mpr (le_of_lt hm)
        simp only [this, if_false]
        refine ⟨Int.dvd_sub hmN (Int.dvd_refl m), ?_, ?_⟩
        · intro h; simp at h
        · intro _; exact ⟨hm, le_refl m⟩
    · have hbeq : (N % m == 0) = false := by simpa using hz
      simp only [hbeq, Bool.and_false, Bool.false_eq_true, if_false]
      have : ¬ N % m < 0 := not_lt.mpr hr0
      simp only [this, if_false]
      have hpos : 0 < N % m := lt_of_le_of_ne hr0 (Ne.symm hz)
      exact ⟨hdvd, fun _ => ⟨hr0, hr1⟩, fun _ => ⟨hpos, le_of_lt hr1⟩⟩
  · rw [ht]
    have hpos : 0 < N % m := lt_of_le_of_ne hr0 (Ne.symm hne)
    have hneg : N % m - m < 0 := by linarith
    have hbeq : (N % m - m == 0) = false := by
      simp only [beq_eq_false_iff_ne]; intro h; linarith
    simp only [hbeq, Bool.and_false, Bool.false_eq_true, if_false, hneg, if_true, sub_add_cancel]
    exact ⟨hdvd, fun _ => ⟨hr0, hr1⟩, fun _ => ⟨hpos, le_of_lt hr1⟩⟩

/-- every multiple of `m` below the bound is below the decreased bound -/
theorem shrinkMax_floor (N m z : Int) (incl : Bool) (hm : 0 < m)
    (hle : z * m ≤ N) (hlt : incl = false → z * m < N) : z * m ≤ N - shrinkMax N m incl := by
  obtain ⟨⟨q, hq⟩, h1, h2⟩ := shrinkMax_spec N m incl hm
  rw [hq]
  have : z ≤ q := by
    by_contra hc
    push Not at hc
    have hq1 : q + 1 ≤ z := hc
    have : m * (q + 1) ≤ z * m := by nlinarith
    cases incl with
    | true =>
      obtain ⟨_, hs⟩ := h1 rfl
      nlinarith
    | false =>
      obtain ⟨_, hs⟩ := h2 rfl
      have := hlt rfl
      nlinarith
  nlinarith

/-- the lower bound is handled as the upper bound of the mirrored interval -/
theorem shrinkMin_eq_neg (N m : Int) (incl : Bool) : shrinkMin N m incl = -shrinkMax (-N) m incl := by
  unfold shrinkMin shrinkMax
  rw [Int.neg_tmod]
  by_cases hs : N.tmod m = 0
  · cases incl <;> simp only [hs, neg_zero, Bool.not_false, Bool.not_true, beq_self_eq_true, Bool.and_self,
      Bool.false_and, if_true, Bool.false_eq_true, if_false] <;> split_ifs <;> omega
  · have h1 : (N.tmod m == 0) = false := by simpa using hs
    have h2 : (-N.tmod m == 0) = false := by simpa using hs
    simp only [h1, h2, Bool.and_false, Bool.false_eq_true, if_false]
    split_ifs <;> omega

theorem shrinkMin_spec (N m : Int) (incl : Bool) (hm : 0 < m) :
    m ∣ (N - shrinkMin N m incl) ∧
    (incl = true → -m < shrinkMin N m incl ∧ shrinkMin N m incl ≤ 0) ∧
    (incl = false → -m ≤ shrinkMin N m incl ∧ shrinkMin N m incl < 0) := by
  obtain ⟨hd, h1, h2⟩ := shrinkMax_spec (-N) m incl hm
  rw [shrinkMin_eq_neg]
  refine ⟨?_, fun h => ?_, fun h => ?_⟩
  · have : N - -shrinkMax (-N) m incl = -(-N - shrinkMax (-N) m incl) := by ring
    rw [this]; exact (Int.dvd_neg).mpr hd
  · have := h1 h; constructor <;> linarith
  · have := h2 h; constructor <;> linarith

theorem shrinkMin_ceil (N m z : Int) (incl : Bool) (hm : 0 < m)
    (hle : N ≤ z * m) (hlt : incl = false → N < z * m) : N - shrinkMin N m incl ≤ z * m := by
  have := shrinkMax_floor (-N) m (-z) incl hm (by linarith) (fun h => by have := hlt h; linarith)
  rw [shrinkMin_eq_neg]
  linarith
end PPLV.Product

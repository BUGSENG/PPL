import PPLV.Checked.ProofsExt2
import PPLV.Checked.Bounded
/-!
# C11 proofs: a bounded build either throws or computes the unbounded result
-/
namespace PPLV.Checked
open Result

theorem throws_setNeg (t : IntTy) (π : Policy) (to0 : Int) (dir : Dir) :
    throws (setNegOverflow t π to0 dir).2 = true := by
  simp [throws, resultOverflow_setNeg]

theorem throws_setPos (t : IntTy) (π : Policy) (to0 : Int) (dir : Dir) :
    throws (setPosOverflow t π to0 dir).2 = true := by
  simp [throws, resultOverflow_setPos]

theorem tri_nothrow {t : IntTy} {π : Policy} {dir : Dir} {to0 : Int} {out : Int × Result} {e : Int}
    (h : Tri t π dir to0 out e) (hn : throws out.2 = false) : out.1 = e ∧ t.finite π e := by
  rcases h with ⟨rfl, hf⟩ | ⟨_, rfl⟩ | ⟨_, rfl⟩
  · exact ⟨rfl, hf⟩
  · rw [throws_setNeg] at hn; cases hn
  · rw [throws_setPos] at hn; cases hn

/-- the value an instruction computes over the integers -/
def BInstr.value (r : Regs) : BInstr → Int
  | .neg _ a => -(r a)
  | .abs _ a => if r a < 0 then -(r a) else r a
  | .add _ a b => r a + r b
  | .sub _ a b => r a - r b
  | .mul _ a b => r a * r b
  | .addMul d a b => r d + r a * r b
  | .subMul d a b => r d - r a * r b
  | .div _ a b => (r a).tdiv (r b)
  | .rem _ a b => (r a).tmod (r b)

theorem stepU_eq (r : Regs) (i : BInstr) :
    stepU r i = if !i.defined r then none else some (r.set i.dest (i.value r)) := by
  cases i <;> rfl

section noSpecials
variable {t : IntTy} {π : Policy} (hn : π.hasNan = false) (hi : π.hasInfinity = false)
include hn hi

theorem finite_of_inRange {v : Int} (h : t.inRange v) : t.finite π v := by
  unfold IntTy.inRange at h
  unfold IntTy.finite IntTy.emin IntTy.emax b2i
  simp [hn, hi]
  exact h

theorem isSpecial_false (v : Int) : t.isNan π v = false ∧ t.isMinf π v = false ∧ t.isPinf π v = false := by
  simp [IntTy.isNan, IntTy.isMinf, IntTy.isPinf, hn, hi]

/-- without special values the extended layer is the native primitive -/
theorem run_native (op : IntOp) (dir : Dir) (a : Operands) :
    (op = .neg → IntOp.run t π op dir a = neg t π a.to0 a.x dir) ∧
    (op = .abs → IntOp.run t π op dir a = abs t π a.to0 a.x dir) ∧
    (op = .add → IntOp.run t π op dir a = add t π a.to0 a.x a.y dir) ∧
    (op = .sub → IntOp.run t π op dir a = sub t π a.to0 a.x a.y dir) ∧
    (op = .mul → IntOp.run t π op dir a = mul t π a.to0 a.x a.y dir) ∧
    (op = .addMul → IntOp.run t π op dir a = addMul t π a.to0 a.x a.y dir) ∧
    (op = .subMul → IntOp.run t π op dir a = subMul t π a.to0 a.x a.y dir) ∧
    (op = .div → IntOp.run t π op dir a = div t π a.to0 a.x a.y dir) ∧
    (op = .rem → IntOp.run t π op dir a = rem t π a.to0 a.x a.y dir) := by
  have s := fun v => isSpecial_false (t := t) hn hi v
  refine ⟨?_, ?_, ?_, ?_, ?_, ?_, ?_, ?_, ?_⟩ <;> intro h <;> subst h <;>
    simp [IntOp.run, negExt, absExt, addExt, subExt, mulExt, mulInfClass, addMulExt, subMulExt, divExt, divLikeExt,
      remExt, (s _).1, (s _).2.1, (s _).2.2]

end noSpecials

/-- one step: if the bounded build does not throw, the unbounded build computes the same registers -/
theorem stepB_some {t : IntTy} {π : Policy} (w : t.WF π) (hl : t.LargerOK) (hco : π.checkOverflow = true)
    (hn : π.hasNan = false) (hi : π.hasInfinity = false) (dir : Dir) (hdir : dir.notRequested = true)
    (r : Regs) (hr : ∀ j, t.inRange (r j)) (i : BInstr) (r' : Regs) (h : stepB t π dir r i = some r') :
    stepU r i = some r' ∧ ∀ j, t.inRange (r' j) := by
  have fin : ∀ j, t.finite π (r j) := fun j => finite_of_inRange hn hi (hr j)
  have hru : dir.roundUp = false := by cases dir <;> simp_all [Dir.roundUp, Dir.notRequested]
  have hrd : dir.roundDown = false := by cases dir <;> simp_all [Dir.roundDown, Dir.notRequested]
  rw [stepU_eq]
  unfold stepB at h
  by_cases hd : i.defined r = true
  · simp only [hd, Bool.not_true, Bool.false_eq_true, if_false] at h ⊢
    -- the value and its finiteness, per instruction
    have key : ∀ out : Int × Result, out = IntOp.run t π (i.call r).1 dir (i.call r).2 → throws out.2 = false →
        out.1 = i.value r ∧ t.finite π (i.value r) := by
      intro out ho hnt
      obtain ⟨n1, n2, n3, n4, n5, n6, n7, n8, n9⟩ := run_native (t := t) hn hi (i.call r).1 dir (i.call r).2
      cases i with
      | neg d a =>
        rw [n1 rfl] at ho; subst ho
        exact tri_nothrow (neg_tri w hl hco dir (hr d) (fin a)) hnt
      | abs d a =>
        rw [n2 rfl] at ho; subst ho
        exact tri_nothrow (abs_tri w hl hco dir (hr d) (fin a)) hnt
      | add d a b =>
        rw [n3 rfl] at ho; subst ho
        exact tri_nothrow (add_tri w hl hco dir (hr d) (fin a) (hr b)) hnt
      | sub d a b =>
        rw [n4 rfl] at ho; subst ho
        exact tri_nothrow (sub_tri w hl hco dir (hr d) (fin a) (hr b)) hnt
      | mul d a b =>
        rw [n5 rfl] at ho; subst ho
        exact tri_nothrow (mul_tri w hl hco dir (hr d) (fin a) (fin b)) hnt
      | addMul d a b =>
        rw [n6 rfl] at ho; subst ho
        simp only [BInstr.call, BInstr.value] at hnt ⊢
        have hz : t.inRange 0 := IntTy.finite_inRange (π := π) ⟨(IntTy.emin_le_emax w).1, (IntTy.emin_le_emax w).2⟩
        unfold addMul at hnt ⊢
        rcases mul_tri w hl hco dir hz (fin a) (fin b) with ⟨e, hf⟩ | ⟨he, e⟩ | ⟨he, e⟩
        · rw [e] at hnt ⊢
          simp only [show (V_EQ).resultOverflow = 0 from rfl, beq_self_eq_true, if_true] at hnt ⊢
          rw [IntTy.wrap_of_inRange (IntTy.finite_inRange hf)] at hnt ⊢
          exact tri_nothrow (add_tri w hl hco dir (hr d) (fin d) (IntTy.finite_inRange hf)) hnt
        · rw [e] at hnt
          simp only [resultOverflow_setNeg, show ((-1 : Int) == 0) = false from rfl,
            show ((-1 : Int) == -1) = true from rfl, if_true, Bool.false_eq_true, if_false, hru, hrd] at hnt
          split at hnt
          · rw [throws_setNeg] at hnt; cases hnt
          · simp [assignNan, throws, V_UNKNOWN_NEG_OVERFLOW] at hnt
        · rw [e] at hnt
          simp only [resultOverflow_setPos, show ((1 : Int) == 0) = false from rfl,
            show ((1 : Int) == -1) = false from rfl, Bool.false_eq_true, if_false, hru, hrd] at hnt
          split at hnt
          · rw [throws_setPos] at hnt; cases hnt
          · simp [assignNan, throws, V_UNKNOWN_POS_OVERFLOW] at hnt
      | subMul d a b =>
        rw [n7 rfl] at ho; subst ho
        simp only [BInstr.call, BInstr.value] at hnt ⊢
        have hz : t.inRange 0 := IntTy.finite_inRange (π := π) ⟨(IntTy.emin_le_emax w).1, (IntTy.emin_le_emax w).2⟩
        unfold subMul at hnt ⊢
        rcases mul_tri w hl hco dir hz (fin a) (fin b) with ⟨e, hf⟩ | ⟨he, e⟩ | ⟨he, e⟩
        · rw [e] at hnt ⊢
          simp only [show (V_EQ).resultOverflow = 0 from rfl, beq_self_eq_true, if_true] at hnt ⊢
          rw [IntTy.wrap_of_inRange (IntTy.finite_inRange hf)] at hnt ⊢
          exact tri_nothrow (sub_tri w hl hco dir (hr d) (fin d) (IntTy.finite_inRange hf)) hnt
        · rw [e] at hnt
          simp only [resultOverflow_setNeg, show ((-1 : Int) == 0) = false from rfl,
            show ((-1 : Int) == -1) = true from rfl, if_true, Bool.false_eq_true, if_false, hru, hrd, Bool.false_and] at hnt
          split at hnt
          · rw [throws_setPos] at hnt; cases hnt
          · simp [assignNan, throws, V_UNKNOWN_NEG_OVERFLOW] at hnt
        · rw [e] at hnt
          simp only [resultOverflow_setPos, show ((1 : Int) == 0) = false from rfl,
            show ((1 : Int) == -1) = false from rfl, Bool.false_eq_true, if_false, hru, hrd, Bool.false_and] at hnt
          split at hnt
          · rw [throws_setNeg] at hnt; cases hnt
          · simp [assignNan, throws, V_UNKNOWN_POS_OVERFLOW] at hnt
      | div d a b =>
        rw [n8 rfl] at ho; subst ho
        simp only [BInstr.call, BInstr.value] at hnt ⊢
        have hb0 : r b ≠ 0 := by simpa [BInstr.defined] using hd
        have hbb : (r b == 0) = false := by simpa using hb0
        unfold div divSigned divUnsigned at hnt ⊢
        simp only [hbb, Bool.and_false, Bool.false_eq_true, if_false, hco, Bool.true_and, hdir, if_true] at hnt ⊢
        cases hs : t.signed
        · simp only [hs, Bool.false_eq_true, if_false] at hnt ⊢
          have e0 : t.emin π = 0 := by simp [IntTy.emin, IntTy.cmin, hs]
          have : 0 ≤ r b := by have := (fin b).1; omega
          exact ⟨trivial, (tdiv_finite w (fin a) (fin b) hb0 (by omega)).1⟩
        · simp only [hs, if_true] at hnt ⊢
          by_cases hm1 : r b = -1
          · simp only [hm1, beq_self_eq_true, if_true] at hnt ⊢
            have e : (r a).tdiv (-1) = -(r a) := by rw [Int.tdiv_neg, Int.tdiv_one]
            rw [e]
            exact tri_nothrow (negSigned_tri w hs hl hco dir (hr d) (fin a)) hnt
          · have hb1 : (r b == -1) = false := by simpa using hm1
            simp only [hb1, Bool.false_eq_true, if_false] at hnt ⊢
            exact ⟨trivial, (tdiv_finite w (fin a) (fin b) hb0 hm1).1⟩
      | rem d a b =>
        rw [n9 rfl] at ho; subst ho
        have hb0 : r b ≠ 0 := by simpa [BInstr.defined] using hd
        exact tri_nothrow (rem_tri w dir (to0 := r d) (fin a) hb0) hnt
    generalize hout : IntOp.run t π (i.call r).1 dir (i.call r).2 = out at h key
    have h' : (if throws out.2 = true then none else some (r.set i.dest (t.wrap out.1))) = some r' := h
    by_cases ht : throws out.2 = true
    · simp [ht] at h'
    · have ht' : throws out.2 = false := by simpa using ht
      simp only [ht', Bool.false_eq_true, if_false, Option.some.injEq] at h'
      obtain ⟨hv, hf⟩ := key out rfl ht'
      rw [hv, IntTy.wrap_of_inRange (IntTy.finite_inRange hf)] at h'
      subst h'
      refine ⟨rfl, fun j => ?_⟩
      unfold Regs.set
      split
      · exact IntTy.finite_inRange hf
      · exact hr j
  · have hd' : i.defined r = false := by simpa using hd
    simp [hd'] at h

theorem runB_some {t : IntTy} {π : Policy} (w : t.WF π) (hl : t.LargerOK) (hco : π.checkOverflow = true)
    (hn : π.hasNan = false) (hi : π.hasInfinity = false) (dir : Dir) (hdir : dir.notRequested = true)
    (prog : List BInstr) (r : Regs) (hr : ∀ j, t.inRange (r j)) (r' : Regs)
    (h : runB t π dir prog r = some r') : runU prog r = some r' := by
  induction prog generalizing r with
  | nil => simpa [runB, runU] using h
  | cons i is ih =>
    unfold runB at h
    unfold runU
    cases hs : stepB t π dir r i with
    | none => rw [hs] at h; cases h
    | some r1 =>
      rw [hs] at h
      obtain ⟨hu, hr1⟩ := stepB_some w hl hco hn hi dir hdir r hr i r1 hs
      rw [hu]
      exact ih r1 hr1 h

end PPLV.Checked

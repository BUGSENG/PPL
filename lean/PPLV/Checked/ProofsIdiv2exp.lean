import PPLV.Checked.ProofsDiv
/-!
# C11 proofs: integer division, remainder, `add_2exp`, `sub_2exp`, `mul_2exp`
-/
namespace PPLV.Checked
open Result

/-! ## idiv, rem -/

theorem idivSigned_tri {t : IntTy} {π : Policy} (w : t.WF π) (hs : t.signed = true) (hl : t.LargerOK)
    (hco : π.checkOverflow = true) (dir : Dir) {to0 x y : Int} (h0 : t.inRange to0)
    (hx : t.finite π x) (hy : t.finite π y) (hz : y ≠ 0) :
    Tri t π dir to0 (idivSigned t π to0 x y dir) (x.tdiv y) := by
  unfold idivSigned
  have hb : (y == 0) = false := by simpa using hz
  simp only [hb, Bool.and_false, Bool.false_eq_true, if_false, hco, Bool.true_and]
  by_cases hm1 : y = -1
  · subst hm1
    simp only [beq_self_eq_true, if_true]
    have e : x.tdiv (-1) = -x := by rw [Int.tdiv_neg, Int.tdiv_one]
    rw [e]
    exact negSigned_tri w hs hl hco dir h0 hx
  · have hb1 : (y == -1) = false := by simpa using hm1
    simp only [hb1, Bool.false_eq_true, if_false]
    exact tri_eq (tdiv_finite w hx hy hz hm1).1

theorem idivUnsigned_tri {t : IntTy} {π : Policy} (w : t.WF π) (hs : t.signed = false)
    (dir : Dir) {to0 x y : Int} (hx : t.finite π x) (hy : t.finite π y) (hz : y ≠ 0) :
    Tri t π dir to0 (idivUnsigned t π to0 x y dir) (x.tdiv y) := by
  unfold idivUnsigned
  have hb : (y == 0) = false := by simpa using hz
  simp only [hb, Bool.and_false, Bool.false_eq_true, if_false]
  have e0 : t.emin π = 0 := by simp [IntTy.emin, IntTy.cmin, hs]
  have : 0 ≤ y := by have := hy.1; omega
  exact tri_eq (tdiv_finite w hx hy hz (by omega)).1

/-- the truncated remainder lies between 0 and the dividend -/
theorem tmod_between (x y : Int) :
    (0 ≤ x → 0 ≤ x.tmod y ∧ x.tmod y ≤ x) ∧ (x < 0 → x ≤ x.tmod y ∧ x.tmod y ≤ 0) := by
  have hn := Int.natAbs_tmod x y
  have hle : x.natAbs % y.natAbs ≤ x.natAbs := Nat.mod_le _ _
  constructor
  · intro hx
    have := Int.tmod_nonneg y hx
    omega
  · intro hx
    have h1 : (-x).tmod y = -(x.tmod y) := Int.neg_tmod x y
    have h2 := Int.tmod_nonneg y (show 0 ≤ -x by omega)
    omega

theorem tmod_finite {t : IntTy} {π : Policy} (w : t.WF π) {x : Int} (y : Int) (hx : t.finite π x) :
    t.finite π (x.tmod y) := by
  obtain ⟨hmin, hmax⟩ := IntTy.emin_le_emax w
  obtain ⟨h1, h2⟩ := hx
  obtain ⟨p, n⟩ := tmod_between x y
  rcases (by omega : 0 ≤ x ∨ x < 0) with h | h
  · have := p h; constructor <;> omega
  · have := n h; constructor <;> omega

theorem rem_tri {t : IntTy} {π : Policy} (w : t.WF π)
    (dir : Dir) {to0 x y : Int} (hx : t.finite π x) (hz : y ≠ 0) :
    Tri t π dir to0 (rem t π to0 x y dir) (x.tmod y) := by
  unfold rem remSigned remUnsigned
  have hb : (y == 0) = false := by simpa using hz
  simp only [hb, Bool.and_false, Bool.false_eq_true, if_false]
  split
  · by_cases hm1 : y = -1
    · subst hm1
      simp only [beq_self_eq_true, if_true]
      have e : x.tmod (-1) = 0 := by rw [Int.tmod_neg, Int.tmod_one]
      rw [e]
      exact tri_eq ⟨(IntTy.emin_le_emax w).1, (IntTy.emin_le_emax w).2⟩
    · have hb1 : (y == -1) = false := by simpa using hm1
      simp only [hb1, Bool.false_eq_true, if_false]
      exact tri_eq (tmod_finite w y hx)
  · exact tri_eq (tmod_finite w y hx)

/-! ## add_2exp, sub_2exp, mul_2exp -/

/-- what `add_2exp` / `sub_2exp` hand to the adder for a shift count below the width is a value of the type:
`2^e`, or, for a signed type and `e = bits - 1` (where `2^e` is not one), its negative written `-2 · 2^(e-1)` -/
theorem pow2_operand {t : IntTy} (hb2 : t.signed = true → 2 ≤ t.bits) {e : Nat} (hlt : e < t.bits) :
    (t.signed = false → t.inRange (pow2 e)) ∧
    (t.signed = true → e = t.bits - 1 → t.inRange (-2 * pow2 (e - 1)) ∧ -2 * pow2 (e - 1) = -pow2 e) ∧
    (t.signed = true → e ≠ t.bits - 1 → t.inRange (pow2 e)) := by
  have hp := t.half_pos
  have pe := pow2_pos e
  have hle := pow2_le_half hlt
  unfold IntTy.inRange
  refine ⟨fun hs => ?_, fun hs he => ?_, fun hs he => ?_⟩
  · obtain ⟨c1, c2, -⟩ := t.layout_unsigned default hs; omega
  · obtain ⟨c1, c2, -⟩ := t.layout_signed default hs
    have := hb2 hs
    have h2 : pow2 e = 2 * pow2 (e - 1) := by rw [← pow2_succ]; congr 1; omega
    have h3 : pow2 e = t.half := by unfold IntTy.half; rw [he]
    omega
  · obtain ⟨c1, c2, -⟩ := t.layout_signed default hs
    have := pow2_le_pow2 (show e + 1 ≤ t.bits - 1 by omega)
    rw [pow2_succ] at this
    unfold IntTy.half at c1 c2 hp
    omega

theorem add2exp_tri {t : IntTy} {π : Policy} (w : t.WF π) (hl : t.LargerOK) (hb2 : t.signed = true → 2 ≤ t.bits)
    (hco : π.checkOverflow = true) (dir : Dir) {to0 x : Int} (e : Nat) (h0 : t.inRange to0)
    (hx : t.finite π x) :
    Tri t π dir to0 (add2exp t π to0 x e dir) (x + pow2 e) := by
  unfold add2exp add2expSigned add2expUnsigned
  simp only [hco, Bool.not_true, Bool.false_eq_true, if_false]
  by_cases hge : e ≥ t.bits
  · -- `2^e ≥ 2^bits` exceeds the width of the whole range
    have := pow2_ge_two_half w.bits_pos hge
    have := IntTy.finite_inRange hx
    have := IntTy.finite_inRange (IntTy.finite_emax w)
    have : t.emax π < x + pow2 e := by
      unfold IntTy.inRange at *
      cases hs : t.signed
      · obtain ⟨c1, c2, -⟩ := t.layout_unsigned π hs; omega
      · obtain ⟨c1, c2, -⟩ := t.layout_signed π hs; omega
    cases t.signed <;> simp only [Bool.false_eq_true, if_false, if_true, if_pos hge] <;> exact tri_pos this
  obtain ⟨pu, ps1, ps2⟩ := pow2_operand hb2 (show e < t.bits by omega)
  cases hs : t.signed <;> simp only [Bool.false_eq_true, if_false, if_true, if_neg hge]
  · exact addUnsigned_tri w hs hl hco dir h0 hx (pu hs)
  · by_cases heq : e = t.bits - 1
    · rw [if_pos (by simpa using heq)]
      have := subSigned_tri w hl hco dir h0 hx (ps1 hs heq).1
      rwa [show x - -2 * pow2 (e - 1) = x + pow2 e by rw [(ps1 hs heq).2, Int.sub_neg]] at this
    · rw [if_neg (by simpa using heq)]
      exact addSigned_tri w hl hco dir h0 hx (ps2 hs heq)

theorem sub2exp_tri {t : IntTy} {π : Policy} (w : t.WF π) (hl : t.LargerOK) (hb2 : t.signed = true → 2 ≤ t.bits)
    (hco : π.checkOverflow = true) (dir : Dir) {to0 x : Int} (e : Nat) (h0 : t.inRange to0)
    (hx : t.finite π x) :
    Tri t π dir to0 (sub2exp t π to0 x e dir) (x - pow2 e) := by
  unfold sub2exp sub2expSigned sub2expUnsigned
  simp only [hco, Bool.not_true, Bool.false_eq_true, if_false]
  by_cases hge : e ≥ t.bits
  · have := pow2_ge_two_half w.bits_pos hge
    have := IntTy.finite_inRange hx
    have := IntTy.finite_inRange (IntTy.finite_emin w)
    have : x - pow2 e < t.emin π := by
      unfold IntTy.inRange at *
      cases hs : t.signed
      · obtain ⟨c1, c2, -⟩ := t.layout_unsigned π hs; omega
      · obtain ⟨c1, c2, -⟩ := t.layout_signed π hs; omega
    cases t.signed <;> simp only [Bool.false_eq_true, if_false, if_true, if_pos hge] <;> exact tri_neg this
  obtain ⟨pu, ps1, ps2⟩ := pow2_operand hb2 (show e < t.bits by omega)
  cases hs : t.signed <;> simp only [Bool.false_eq_true, if_false, if_true, if_neg hge]
  · exact subUnsigned_tri w hs hl hco dir h0 hx (pu hs)
  · by_cases heq : e = t.bits - 1
    · rw [if_pos (by simpa using heq)]
      have := addSigned_tri w hl hco dir h0 hx (ps1 hs heq).1
      rwa [show x + -2 * pow2 (e - 1) = x - pow2 e by rw [(ps1 hs heq).2, Int.sub_eq_add_neg]] at this
    · rw [if_neg (by simpa using heq)]
      exact subSigned_tri w hl hco dir h0 hx (ps2 hs heq)

theorem mul2exp_tri {t : IntTy} {π : Policy} (w : t.WF π)
    (hco : π.checkOverflow = true) (dir : Dir) {to0 x : Int} (e : Nat)
    (hx : t.finite π x) :
    Tri t π dir to0 (mul2exp t π to0 x e dir) (x * pow2 e) := by
  obtain ⟨es, eu⟩ := IntTy.erange_half w
  obtain ⟨hmin, hmax⟩ := IntTy.emin_le_emax w
  have hp := t.half_pos
  have pe := pow2_pos e
  obtain ⟨hx1, hx2⟩ := hx
  unfold mul2exp mul2expSigned mul2expUnsigned
  simp only [hco, Bool.not_true, Bool.false_eq_true, if_false]
  -- the non-negative path: a shift count from `k` on overflows unless `x = 0`, below it the division test
  have posPath : ∀ (k : Nat), 0 ≤ x → (k ≤ e → t.emax π < pow2 e) →
      Tri t π dir to0 (if e ≥ k then (if (x == 0) = true then (0, V_EQ) else setPosOverflow t π to0 dir)
        else if x > t.emax π / pow2 e then setPosOverflow t π to0 dir else (x * pow2 e, V_EQ)) (x * pow2 e) := by
    intro k hx0 hbig
    by_cases hge : e ≥ k
    · rw [if_pos hge]
      by_cases hz : x = 0
      · rw [if_pos (by simpa using hz), hz, Int.zero_mul]; exact tri_eq ⟨hmin, hmax⟩
      · rw [if_neg (by simpa using hz)]
        have := Int.mul_le_mul_of_nonneg_right (show 1 ≤ x by omega) (show 0 ≤ pow2 e by omega)
        exact tri_pos (by have := hbig hge; omega)
    · rw [if_neg hge]
      exact tri_mul_pos w (Int.mul_nonneg hx0 (by omega)) (Int.ediv_lt_iff_lt_mul (by omega))
  cases hs : t.signed <;> simp only [Bool.false_eq_true, if_false, if_true]
  · obtain ⟨e0, -, e2, -⟩ := eu hs
    exact posPath t.bits (by omega) (fun h => by have := pow2_ge_two_half w.bits_pos h; omega)
  · obtain ⟨e0, -, -, e3, -⟩ := es hs
    by_cases hneg : x < 0
    · rw [if_pos hneg]
      by_cases hge : e ≥ t.bits
      · rw [if_pos hge]
        have := pow2_ge_two_half w.bits_pos hge
        have := Int.mul_le_mul_of_nonneg_right (show x ≤ -1 by omega) (show 0 ≤ pow2 e by omega)
        exact tri_neg (by omega)
      rw [if_neg hge]
      -- `2^(bits-1-e) · 2^e = half`: an `x` below `-2^(bits-1-e)` is shifted below `-half`
      have hprod : pow2 (t.bits - 1 - e) * pow2 e = t.half := by
        unfold IntTy.half; rw [← pow2_add]; congr 1; omega
      by_cases hsmall : x < -(pow2 (t.bits - 1 - e))
      · rw [if_pos hsmall]
        have := Int.mul_le_mul_of_nonneg_right (show x ≤ -(pow2 (t.bits - 1 - e)) - 1 by omega)
          (show 0 ≤ pow2 e by omega)
        rw [Int.sub_mul, Int.neg_mul, hprod] at this
        exact tri_neg (by omega)
      · rw [if_neg hsmall]
        exact tri_mul_neg w (Int.mul_nonpos_of_nonpos_of_nonneg (by omega) (by omega)) Iff.rfl
    · rw [if_neg hneg]
      refine posPath (t.bits - 1) (by omega) (fun h => ?_)
      have : t.half ≤ pow2 e := by unfold IntTy.half; exact pow2_le_pow2 h
      omega

end PPLV.Checked

import PPLV.Checked.ProofsLayout
import Mathlib.Order.Monotone.Basic
/-!
# C11 proofs: the clauses for one outcome, the exact result read in any ordered type

The exact result of `div` is a rational, that of `sqrt` a real number, while what is stored is an
integer.  `OKc c` states the clauses of `OK` with the stored value and the bounds of the type carried to an
ordered type `α` by a strictly monotone `c : Int → α`; `OKQ` and `OKR` are its instances for the casts to `ℚ`
and `ℝ`.  The endings shared by the operations with an inexact result are proved here once: a finite value
with a normal code, the two overflow endings, and the rounding steps `round_{lt,gt}_int[_no_overflow]`.
-/
namespace PPLV.Checked
open Result

structure OKc {α : Type} [LT α] (c : Int → α) (t : IntTy) (π : Policy) (dir : Dir) (out : Int × Result)
    (exact : Ext α) : Prop where
  holds : K4.holds out.2 ((t.denote π out.1).map c) exact
  directed : K4.directed dir out.2 ((t.denote π out.1).map c) exact
  overflow : K4.overflowHolds out.2 (c (t.emin π)) (c (t.emax π)) exact
  no_wrap : t.inRange out.1
  nan_stored : out.2.cls = .nan → π.hasNan = true → t.isNan π out.1 = true

variable {α : Type} [LinearOrder α] {c : Int → α}

theorem Ext.lt_map (hc : StrictMono c) {a b : Ext Int} : Ext.lt (a.map c) (b.map c) ↔ Ext.lt a b := by
  cases a <;> cases b <;> simp [Ext.map, Ext.lt, hc.lt_iff_lt]

theorem Ext.eqv_map (hc : StrictMono c) {a b : Ext Int} : Ext.eqv (a.map c) (b.map c) ↔ Ext.eqv a b := by
  cases a <;> cases b <;> simp [Ext.map, Ext.eqv, hc.injective.eq_iff]

theorem Ext.map_eq_nan {β : Type} {f : Int → β} {a : Ext Int} : a.map f = Ext.nan ↔ a = Ext.nan := by
  cases a <;> simp [Ext.map]

theorem Ext.map_eq_minf {β : Type} {f : Int → β} {a : Ext Int} : a.map f = Ext.minf ↔ a = Ext.minf := by
  cases a <;> simp [Ext.map]

theorem Ext.map_eq_pinf {β : Type} {f : Int → β} {a : Ext Int} : a.map f = Ext.pinf ↔ a = Ext.pinf := by
  cases a <;> simp [Ext.map]

theorem relHolds_map (hc : StrictMono c) {rel : Rel} {a b : Ext Int} :
    K4.relHolds rel (a.map c) (b.map c) ↔ K4.relHolds rel a b := by
  unfold K4.relHolds
  rw [Ext.lt_map hc, Ext.lt_map hc, Ext.eqv_map hc, Ext.map_eq_nan]

/-- an integer-valued outcome is an outcome over `α` -/
theorem OK.toC (hc : StrictMono c) {t : IntTy} {π : Policy} {dir : Dir} {out : Int × Result} {e : Ext Int}
    (h : OK t π dir out e) : OKc c t π dir out (e.map c) := by
  obtain ⟨h1, h2, h3, h4, h5⟩ := h
  refine ⟨?_, ?_, ?_, h4, h5⟩
  · unfold K4.holds at *
    cases hcl : out.2.cls <;> simp only [hcl] at h1 ⊢
    · obtain ⟨a, ⟨s, hs⟩, r⟩ := h1
      exact ⟨a, ⟨_, by rw [hs]; rfl⟩, (relHolds_map hc).mpr r⟩
    · exact ⟨fun h => by rw [h1.1 h]; rfl, (relHolds_map hc (b := .minf)).mpr h1.2⟩
    · exact ⟨fun h => by rw [h1.1 h]; rfl, (relHolds_map hc (b := .pinf)).mpr h1.2⟩
    · exact h1.imp id (Or.imp id fun h => by rw [h]; rfl)
  · unfold K4.directed Ext.le at *
    intro a b
    rw [Ext.lt_map hc, Ext.eqv_map hc, Ext.lt_map hc, Ext.eqv_map hc]
    exact h2 a b
  · unfold K4.overflowHolds at *
    have e1 : ∀ v : Int, Ext.fin (c v) = (Ext.fin v).map c := fun _ => rfl
    rw [e1, e1, Ext.lt_map hc, Ext.lt_map hc]
    exact h3

theorem Ext.map_id (a : Ext Int) : a.map id = a := by cases a <;> rfl

/-- the integer-valued clauses are those read through the identity -/
theorem OKc.toOK {t : IntTy} {π : Policy} {dir : Dir} {out : Int × Result} {e : Ext Int}
    (h : OKc id t π dir out e) : OK t π dir out e := by
  obtain ⟨h1, h2, h3, h4, h5⟩ := h
  rw [Ext.map_id] at h1 h2
  exact ⟨h1, h2, h3, h4, h5⟩

/-- the relation and direction clauses for a finite stored number `s` with a normal-class code -/
theorem K4.normal_holds_directed {dir : Dir} {r : Result} (hcl : r.cls = .normal) (hu : r.unrep = false) {s q : α}
    (hrel : (r.rel.lt = true ∧ q < s) ∨ (r.rel.eq = true ∧ q = s) ∨ (r.rel.gt = true ∧ s < q))
    (hup : dir = Dir.up → q ≤ s) (hdn : dir = Dir.down → s ≤ q) :
    K4.holds r (.fin s) (.fin q) ∧ K4.directed dir r (.fin s) (.fin q) := by
  constructor
  · simp only [K4.holds, hcl, hu, true_and]
    exact ⟨⟨_, rfl⟩, hrel.imp id (Or.imp id Or.inl)⟩
  · simp only [K4.directed, Ext.le, Ext.lt, Ext.eqv]
    exact fun _ _ => ⟨fun h => lt_or_eq_of_le (hup h), fun h => lt_or_eq_of_le (hdn h)⟩

/-- `V_LGE` claims nothing about two numbers -/
theorem rel_lge (q s : α) :
    (V_LGE.rel.lt = true ∧ q < s) ∨ (V_LGE.rel.eq = true ∧ q = s) ∨ (V_LGE.rel.gt = true ∧ s < q) := by
  rcases lt_trichotomy q s with h | h | h
  exacts [Or.inl ⟨rfl, h⟩, Or.inr (Or.inl ⟨rfl, h⟩), Or.inr (Or.inr ⟨rfl, h⟩)]

/-- a finite stored value with a normal-class code whose relation and direction claims are true -/
theorem okc_normal {t : IntTy} {π : Policy} (w : t.WF π) {dir : Dir} {s : Int} (hf : t.finite π s)
    {r : Result} (hcl : r.cls = .normal) (hu : r.unrep = false) (ho : r.overflow = false) {q : α}
    (hrel : (r.rel.lt = true ∧ q < c s) ∨ (r.rel.eq = true ∧ q = c s) ∨ (r.rel.gt = true ∧ c s < q))
    (hup : dir = Dir.up → q ≤ c s) (hdn : dir = Dir.down → c s ≤ q) :
    OKc c t π dir (s, r) (.fin q) := by
  obtain ⟨h1, h2⟩ := K4.normal_holds_directed hcl hu hrel hup hdn
  refine ⟨?_, ?_, ?_, IntTy.finite_inRange hf, ?_⟩
  · rw [IntTy.denote_finite w hf]; exact h1
  · rw [IntTy.denote_finite w hf]; exact h2
  · simp [K4.overflowHolds, hcl, ho]
  · simp [hcl]

theorem okc_exact {t : IntTy} {π : Policy} (w : t.WF π) {dir : Dir} {s : Int} (hf : t.finite π s) {q : α}
    (h : q = c s) : OKc c t π dir (s, V_EQ) (.fin q) :=
  okc_normal w hf rfl rfl rfl (Or.inr (Or.inl ⟨rfl, h⟩)) (fun _ => le_of_eq h) (fun _ => le_of_eq h.symm)

/-- no direction requested: only the relation is claimed -/
theorem okc_unrequested {t : IntTy} {π : Policy} (w : t.WF π) {dir : Dir} (hnr : dir.notRequested = true)
    {s : Int} (hf : t.finite π s) {r : Result} (hcl : r.cls = .normal) (hu : r.unrep = false)
    (ho : r.overflow = false) {q : α}
    (hrel : (r.rel.lt = true ∧ q < c s) ∨ (r.rel.eq = true ∧ q = c s) ∨ (r.rel.gt = true ∧ c s < q)) :
    OKc c t π dir (s, r) (.fin q) :=
  okc_normal w hf hcl hu ho hrel (fun h => absurd (h ▸ hnr) (by decide)) (fun h => absurd (h ▸ hnr) (by decide))

theorem okc_lge {t : IntTy} {π : Policy} (w : t.WF π) {dir : Dir} (hnr : dir.notRequested = true)
    {s : Int} (hf : t.finite π s) (q : α) : OKc c t π dir (s, V_LGE) (.fin q) :=
  okc_unrequested w hnr hf rfl rfl rfl (rel_lge q (c s))

/-! ### the overflow endings and the rounding steps -/

/-- `set_neg_overflow_int` when the exact result is below the finite range -/
theorem okc_negOverflow {t : IntTy} {π : Policy} (w : t.WF π) (dir : Dir) {to0 : Int} (h0 : t.inRange to0) {q : α}
    (he : q < c (t.emin π)) : OKc c t π dir (setNegOverflow t π to0 dir) (.fin q) := by
  unfold setNegOverflow
  split
  · rename_i hup
    have hd := IntTy.denote_finite w (IntTy.finite_emin w)
    refine ⟨?_, ?_, ?_, IntTy.finite_inRange (IntTy.finite_emin w), ?_⟩
    · simp [K4.holds, V_LT_INF, hd, Ext.map, K4.relHolds, Rel.LT, Ext.lt, he]
    · simp [K4.directed, V_LT_INF, hd, Ext.map, Ext.le, Ext.lt]
      exact ⟨fun _ => Or.inl he, fun h => by simp [Dir.roundUp, h] at hup⟩
    · simp [K4.overflowHolds, V_LT_INF, Rel.LT, Rel.GT, Ext.lt, he]
    · simp [V_LT_INF]
  · rename_i hup
    split
    · rename_i hi
      obtain ⟨hd, hr⟩ := IntTy.denote_minusInf w hi
      refine ⟨?_, ?_, ?_, hr, ?_⟩
      · simp [K4.holds, V_GT_MINUS_INFINITY, hd, Ext.map, K4.relHolds, Rel.GT, Ext.lt]
      · simp [K4.directed, V_GT_MINUS_INFINITY, hd, Ext.map, Ext.le, Ext.lt]
        intro h; simp [Dir.roundUp, h] at hup
      · simp [K4.overflowHolds, V_GT_MINUS_INFINITY, Rel.LT, Rel.GT, Ext.lt, he]
      · simp [V_GT_MINUS_INFINITY]
    · refine ⟨?_, ?_, ?_, h0, ?_⟩
      · simp [K4.holds, V_GT_MINUS_INFINITY, orUnrep, K4.relHolds, Rel.GT, Ext.lt]
      · simp [K4.directed, V_GT_MINUS_INFINITY, orUnrep]
      · simp [K4.overflowHolds, V_GT_MINUS_INFINITY, orUnrep, Rel.LT, Rel.GT, Ext.lt, he]
      · simp [V_GT_MINUS_INFINITY, orUnrep]

/-- `set_pos_overflow_int` when the exact result is above the finite range -/
theorem okc_posOverflow {t : IntTy} {π : Policy} (w : t.WF π) (dir : Dir) {to0 : Int} (h0 : t.inRange to0) {q : α}
    (he : c (t.emax π) < q) : OKc c t π dir (setPosOverflow t π to0 dir) (.fin q) := by
  unfold setPosOverflow
  split
  · rename_i hdn
    have hd := IntTy.denote_finite w (IntTy.finite_emax w)
    refine ⟨?_, ?_, ?_, IntTy.finite_inRange (IntTy.finite_emax w), ?_⟩
    · simp [K4.holds, V_GT_SUP, hd, Ext.map, K4.relHolds, Rel.GT, Ext.lt, he]
    · simp [K4.directed, V_GT_SUP, hd, Ext.map, Ext.le, Ext.lt]
      exact ⟨fun h => by simp [Dir.roundDown, h] at hdn, fun _ => Or.inl he⟩
    · simp [K4.overflowHolds, V_GT_SUP, Rel.LT, Rel.GT, Ext.lt, he]
    · simp [V_GT_SUP]
  · rename_i hdn
    split
    · rename_i hi
      obtain ⟨hd, hr⟩ := IntTy.denote_plusInf w hi
      refine ⟨?_, ?_, ?_, hr, ?_⟩
      · simp [K4.holds, V_LT_PLUS_INFINITY, hd, Ext.map, K4.relHolds, Rel.LT, Ext.lt]
      · simp [K4.directed, V_LT_PLUS_INFINITY, hd, Ext.map, Ext.le, Ext.lt]
        intro h; simp [Dir.roundDown, h] at hdn
      · simp [K4.overflowHolds, V_LT_PLUS_INFINITY, Rel.LT, Rel.GT, Ext.lt, he]
      · simp [V_LT_PLUS_INFINITY]
    · refine ⟨?_, ?_, ?_, h0, ?_⟩
      · simp [K4.holds, V_LT_PLUS_INFINITY, orUnrep, K4.relHolds, Rel.LT, Ext.lt]
      · simp [K4.directed, V_LT_PLUS_INFINITY, orUnrep]
      · simp [K4.overflowHolds, V_LT_PLUS_INFINITY, orUnrep, Rel.LT, Rel.GT, Ext.lt, he]
      · simp [V_LT_PLUS_INFINITY, orUnrep]

theorem Dir.up_of_roundUp {dir : Dir} (h : dir.roundUp = true) : dir = .up ∧ dir.roundDown = false := by
  cases dir <;> first | exact ⟨rfl, rfl⟩ | cases h

theorem Dir.down_of_roundDown {dir : Dir} (h : dir.roundDown = true) : dir = .down ∧ dir.roundUp = false := by
  cases dir <;> first | exact ⟨rfl, rfl⟩ | cases h

/-- `round_gt_int_no_overflow`: the stored `s` is below the exact result and within one unit of it;
the caller knows that `s + 1` is a value of the type -/
theorem roundGtNo_okc {t : IntTy} {π : Policy} (w : t.WF π) (dir : Dir) {s : Int} (hf : t.finite π s)
    (hf1 : dir.roundUp = true → s + 1 ≤ t.emax π) {q : α} (hgt : c s < q) (hlt : q < c (s + 1)) :
    OKc c t π dir (roundGtNoOverflow s dir) (.fin q) := by
  unfold roundGtNoOverflow
  by_cases hup : dir.roundUp = true
  · rw [if_pos hup]
    refine okc_normal w ⟨by have := hf.1; omega, hf1 hup⟩ rfl rfl rfl (Or.inl ⟨rfl, hlt⟩) (fun _ => le_of_lt hlt) ?_
    rw [(Dir.up_of_roundUp hup).1]; exact fun h => nomatch h
  · rw [if_neg hup]
    exact okc_normal w hf rfl rfl rfl (Or.inr (Or.inr ⟨rfl, hgt⟩)) (fun h => absurd (h ▸ rfl) hup)
      (fun _ => le_of_lt hgt)

/-- `round_lt_int_no_overflow`: the stored `s` is above the exact result and within one unit of it -/
theorem roundLtNo_okc {t : IntTy} {π : Policy} (w : t.WF π) (dir : Dir) {s : Int} (hf : t.finite π s)
    (hf1 : dir.roundDown = true → t.emin π ≤ s - 1) {q : α} (hgt : c (s - 1) < q) (hlt : q < c s) :
    OKc c t π dir (roundLtNoOverflow s dir) (.fin q) := by
  unfold roundLtNoOverflow
  by_cases hdn : dir.roundDown = true
  · rw [if_pos hdn]
    refine okc_normal w ⟨hf1 hdn, by have := hf.2; omega⟩ rfl rfl rfl (Or.inr (Or.inr ⟨rfl, hgt⟩)) ?_
      (fun _ => le_of_lt hgt)
    rw [(Dir.down_of_roundDown hdn).1]; exact fun h => nomatch h
  · rw [if_neg hdn]
    exact okc_normal w hf rfl rfl rfl (Or.inl ⟨rfl, hlt⟩) (fun _ => le_of_lt hlt) (fun h => absurd (h ▸ rfl) hdn)

/-- `round_gt_int`: as `round_gt_int_no_overflow`, except that the step up from `max` is the positive
overflow ending -/
theorem roundGt_okc {t : IntTy} {π : Policy} (w : t.WF π) (dir : Dir) {s : Int} (hf : t.finite π s) {q : α}
    (hgt : c s < q) (hlt : q < c (s + 1)) : OKc c t π dir (roundGt t π s dir) (.fin q) := by
  by_cases h : dir.roundUp = true ∧ s = t.emax π
  · have e : roundGt t π s dir = setPosOverflow t π s dir := by
      simp only [roundGt, setPosOverflow, h.1, (Dir.up_of_roundUp h.1).2, ← h.2, beq_self_eq_true, if_true,
        Bool.false_eq_true, if_false]
    rw [e]; exact okc_posOverflow w dir (IntTy.finite_inRange hf) (h.2 ▸ hgt)
  · have hne : dir.roundUp = true → s ≠ t.emax π := fun hu hs => h ⟨hu, hs⟩
    have e : roundGt t π s dir = roundGtNoOverflow s dir := by
      unfold roundGt roundGtNoOverflow
      by_cases hup : dir.roundUp = true
      · rw [if_pos hup, if_pos hup, if_neg (by simpa using hne hup)]
      · rw [if_neg hup, if_neg hup]
    rw [e]; exact roundGtNo_okc w dir hf (fun hu => by have := hf.2; have := hne hu; omega) hgt hlt

/-- `round_lt_int`: the step down from `min` is the negative overflow ending -/
theorem roundLt_okc {t : IntTy} {π : Policy} (w : t.WF π) (dir : Dir) {s : Int} (hf : t.finite π s) {q : α}
    (hlt : q < c s) (hgt : c (s - 1) < q) : OKc c t π dir (roundLt t π s dir) (.fin q) := by
  by_cases h : dir.roundDown = true ∧ s = t.emin π
  · have e : roundLt t π s dir = setNegOverflow t π s dir := by
      simp only [roundLt, setNegOverflow, h.1, (Dir.down_of_roundDown h.1).2, ← h.2, beq_self_eq_true, if_true,
        Bool.false_eq_true, if_false]
    rw [e]; exact okc_negOverflow w dir (IntTy.finite_inRange hf) (h.2 ▸ hlt)
  · have hne : dir.roundDown = true → s ≠ t.emin π := fun hd hs => h ⟨hd, hs⟩
    have e : roundLt t π s dir = roundLtNoOverflow s dir := by
      unfold roundLt roundLtNoOverflow
      by_cases hdn : dir.roundDown = true
      · rw [if_pos hdn, if_pos hdn, if_neg (by simpa using hne hdn)]
      · rw [if_neg hdn, if_neg hdn]
    rw [e]; exact roundLtNo_okc w dir hf (fun hd => by have := hf.1; have := hne hd; omega) hgt hlt

/-! ### integer-valued exact results -/

/-- a representable exact result stored with `V_EQ` -/
theorem ok_eq {t : IntTy} {π : Policy} (w : t.WF π) (dir : Dir) {v : Int} (h : t.finite π v) :
    OK t π dir (v, V_EQ) (.fin v) := (okc_exact (c := id) w h rfl).toOK

/-- `set_neg_overflow_int` when the exact result is below the finite range -/
theorem ok_negOverflow {t : IntTy} {π : Policy} (w : t.WF π) (dir : Dir) {to0 e : Int}
    (h0 : t.inRange to0) (he : e < t.emin π) :
    OK t π dir (setNegOverflow t π to0 dir) (.fin e) := (okc_negOverflow (c := id) w dir h0 he).toOK

/-- `set_pos_overflow_int` when the exact result is above the finite range -/
theorem ok_posOverflow {t : IntTy} {π : Policy} (w : t.WF π) (dir : Dir) {to0 e : Int}
    (h0 : t.inRange to0) (he : t.emax π < e) :
    OK t π dir (setPosOverflow t π to0 dir) (.fin e) := (okc_posOverflow (c := id) w dir h0 he).toOK

theorem tri_ok {t : IntTy} {π : Policy} (w : t.WF π) {dir : Dir} {to0 : Int} (h0 : t.inRange to0)
    {out : Int × Result} {e : Int} (h : Tri t π dir to0 out e) : OK t π dir out (.fin e) := by
  rcases h with ⟨rfl, hf⟩ | ⟨he, rfl⟩ | ⟨he, rfl⟩
  · exact ok_eq w dir hf
  · exact ok_negOverflow w dir h0 he
  · exact ok_posOverflow w dir h0 he

end PPLV.Checked

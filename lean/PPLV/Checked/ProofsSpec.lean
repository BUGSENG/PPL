import PPLV.Checked.ProofsExt2
import Mathlib.Order.Compare
/-!
# C11 proofs: the executable K4 of the driver decides `K4.holds` / `K4.directed` / `K4.overflowHolds`

`pplv_c11` evaluates `K4.holdsB`, `K4.directedB`, `K4.overflowHoldsB` on the **real** output of the
library.  For every exact value that is a fraction with a positive denominator, an infinity or NaN
(everything except the square root) these Booleans are equivalent to the propositions over `ℚ`.
-/
namespace PPLV.Checked
open Result

/-- exact values with a rational meaning -/
def Exact.Rational : Exact → Prop
  | .frac _ d => 0 < d
  | .sqrt _ _ => False
  | _ => True

theorem cmpInt_frac {n d s : Int} (hd : 0 < d) :
    ((Exact.frac n d).cmpInt s = some .lt ↔ (n : Rat) / d < s) ∧
    ((Exact.frac n d).cmpInt s = some .eq ↔ (n : Rat) / d = s) ∧
    ((Exact.frac n d).cmpInt s = some .gt ↔ (s : Rat) < (n : Rat) / d) := by
  simp only [Exact.cmpInt, Option.some.injEq]
  rw [div_lt_int hd, div_eq_int hd, int_lt_div hd]
  exact ⟨compare_lt_iff_lt, compare_eq_iff_eq, compare_gt_iff_gt⟩

/-- the comparison computed by the driver is the order of the extended rational line -/
theorem cmpExt_spec {e : Exact} (he : e.Rational) (v : Ext Int) :
    (e.cmpExt v = some .lt ↔ Ext.lt e.toQ (v.map (Int.cast : Int → Rat))) ∧
    (e.cmpExt v = some .eq ↔ Ext.eqv e.toQ (v.map (Int.cast : Int → Rat))) ∧
    (e.cmpExt v = some .gt ↔ Ext.lt (v.map (Int.cast : Int → Rat)) e.toQ) ∧
    (e.cmpExt v = none ↔ e = .nan ∨ v = .nan) := by
  cases e with
  | sqrt n d => exact absurd he (by simp [Exact.Rational])
  | frac n d =>
    have hd : 0 < d := he
    cases v with
    | fin s =>
      obtain ⟨a, b, c⟩ := cmpInt_frac (n := n) (s := s) hd
      simp only [Exact.cmpExt, Exact.toQ, Ext.map, Ext.lt, Ext.eqv]
      refine ⟨a, b, c, ?_⟩
      simp [Exact.cmpInt]
    | nan => simp [Exact.cmpExt, Exact.toQ, Ext.map, Ext.lt, Ext.eqv]
    | minf => simp [Exact.cmpExt, Exact.toQ, Ext.map, Ext.lt, Ext.eqv]
    | pinf => simp [Exact.cmpExt, Exact.toQ, Ext.map, Ext.lt, Ext.eqv]
  | nan => cases v <;> simp [Exact.cmpExt, Exact.toQ, Ext.map, Ext.lt, Ext.eqv]
  | minf => cases v <;> simp [Exact.cmpExt, Exact.toQ, Ext.map, Ext.lt, Ext.eqv]
  | pinf => cases v <;> simp [Exact.cmpExt, Exact.toQ, Ext.map, Ext.lt, Ext.eqv]

theorem toQ_eq_nan {e : Exact} (he : e.Rational) : e.toQ = .nan ↔ e = .nan := by
  cases e <;> simp [Exact.toQ, Exact.Rational] at he ⊢

theorem relHoldsB_iff {e : Exact} (he : e.Rational) (rel : Rel) (v : Ext Int) :
    K4.relHoldsB rel e v = true ↔ K4.relHolds rel e.toQ (v.map (Int.cast : Int → Rat)) := by
  obtain ⟨a, b, c, d⟩ := cmpExt_spec he v
  unfold K4.relHoldsB K4.relHolds
  rw [← a, ← b, ← c, toQ_eq_nan he]
  cases h : e.cmpExt v with
  | none =>
    have hn := d.mp h
    simp only [Bool.and_eq_true, beq_iff_eq]
    constructor
    · rintro ⟨h1, h2⟩
      exact Or.inr (Or.inr (Or.inr ⟨h1, by cases e <;> simp_all [Exact.isNan]⟩))
    · rintro (⟨_, h1⟩ | ⟨_, h1⟩ | ⟨_, h1⟩ | ⟨h1, h2⟩)
      · cases h1
      · cases h1
      · cases h1
      · exact ⟨h1, by rw [h2]; rfl⟩
  | some o =>
    have hnn : ¬ (e = .nan) := fun hh => by
      have := d.mpr (Or.inl hh); rw [h] at this; cases this
    cases o <;> simp [hnn]

theorem holdsB_iff {e : Exact} (he : e.Rational) (r : Result) (stored : Ext Int) :
    K4.holdsB r stored e = true ↔ K4.holds r (stored.map (Int.cast : Int → Rat)) e.toQ := by
  unfold K4.holdsB K4.holds
  cases hc : r.cls <;> simp only []
  case normal =>
    rw [Bool.and_eq_true, Bool.and_eq_true, relHoldsB_iff he]
    constructor
    · rintro ⟨⟨h1, h2⟩, h3⟩
      refine ⟨by simpa using h1, ?_, h3⟩
      cases stored <;> simp [Ext.map] at h2 ⊢
    · rintro ⟨h1, ⟨s, hs⟩, h3⟩
      refine ⟨⟨by simpa using h1, ?_⟩, h3⟩
      cases stored <;> simp [Ext.map] at hs ⊢
  case minf =>
    rw [Bool.and_eq_true, Bool.or_eq_true, beq_iff_eq]
    have := relHoldsB_iff he r.rel .minf
    simp only [Ext.map] at this
    rw [this, Ext.map_eq_minf]
    constructor
    · rintro ⟨h1, h2⟩
      exact ⟨fun hu => by rcases h1 with h | h; rw [hu] at h; cases h; exact h, h2⟩
    · rintro ⟨h1, h2⟩
      refine ⟨?_, h2⟩
      cases hu : r.unrep
      · exact Or.inr (h1 hu)
      · exact Or.inl rfl
  case pinf =>
    rw [Bool.and_eq_true, Bool.or_eq_true, beq_iff_eq]
    have := relHoldsB_iff he r.rel .pinf
    simp only [Ext.map] at this
    rw [this, Ext.map_eq_pinf]
    constructor
    · rintro ⟨h1, h2⟩
      exact ⟨fun hu => by rcases h1 with h | h; rw [hu] at h; cases h; exact h, h2⟩
    · rintro ⟨h1, h2⟩
      refine ⟨?_, h2⟩
      cases hu : r.unrep
      · exact Or.inr (h1 hu)
      · exact Or.inl rfl
  case nan =>
    unfold K4.nanReasonHolds
    rw [toQ_eq_nan he]
    simp only [Bool.or_eq_true, beq_iff_eq]
    constructor
    · rintro ((h | h) | h)
      · exact Or.inl h
      · exact Or.inr (Or.inl h)
      · exact Or.inr (Or.inr (by cases e <;> simp_all [Exact.isNan]))
    · rintro (h | h | h)
      · exact Or.inl (Or.inl h)
      · exact Or.inl (Or.inr h)
      · exact Or.inr (by rw [h]; rfl)

theorem directedB_iff {e : Exact} (he : e.Rational) (dir : Dir) (r : Result) (stored : Ext Int) :
    K4.directedB dir r stored e = true ↔ K4.directed dir r (stored.map (Int.cast : Int → Rat)) e.toQ := by
  obtain ⟨a, b, c, _⟩ := cmpExt_spec he stored
  unfold K4.directedB K4.directed K4.leB K4.geB Ext.le
  rw [← a, ← b, ← c]
  have eqv_symm : Ext.eqv (stored.map (Int.cast : Int → Rat)) e.toQ ↔ Ext.eqv e.toQ (stored.map (Int.cast : Int → Rat)) := by
    cases stored <;> cases hq : e.toQ <;> simp [Ext.map, Ext.eqv, eq_comm]
  rw [eqv_symm, ← b]
  -- both sides are the same implications, written with `||` on the left
  simp only [Bool.or_eq_true, Bool.and_eq_true, bne_iff_ne, beq_iff_eq, ne_eq, or_iff_not_imp_left,
    Bool.not_eq_true, not_not, Classical.not_imp, and_imp]

theorem overflowHoldsB_iff {e : Exact} (he : e.Rational) (r : Result) (lo hi : Int) :
    K4.overflowHoldsB r lo hi e = true ↔ K4.overflowHolds r ((lo : Int) : Rat) ((hi : Int) : Rat) e.toQ := by
  obtain ⟨a1, _, _, _⟩ := cmpExt_spec he (.fin lo)
  obtain ⟨_, _, c2, _⟩ := cmpExt_spec he (.fin hi)
  simp only [Ext.map] at a1 c2
  unfold K4.overflowHoldsB K4.overflowHolds K4.ltB K4.gtB
  rw [← a1, ← c2]
  simp only [Bool.and_eq_true, Bool.or_eq_true, Bool.not_eq_true', ← Bool.not_eq_true, beq_iff_eq, and_assoc,
    ← imp_iff_not_or, and_imp]

theorem rational_ite {c : Prop} [Decidable c] {a b : Exact} (ha : c → a.Rational) (hb : ¬ c → b.Rational) :
    (if c then a else b).Rational := by
  split
  · exact ha (by assumption)
  · exact hb (by assumption)

theorem rational_ofInt (n : Int) : (Exact.ofInt n).Rational := by simp [Exact.ofInt, Exact.Rational]
theorem rational_ofExt (v : Ext Int) : (Exact.ofExt v).Rational := by
  cases v <;> simp [Exact.ofExt, Exact.ofInt, Exact.Rational]

theorem rational_exactDiv (u v : Ext Int) : (exactDiv u v).Rational := by
  unfold exactDiv
  cases u <;> cases v <;> simp only [] <;>
    repeat' (first
      | exact trivial
      | exact rational_ofInt _
      | (apply rational_ite <;> intro _)
      | (simp only [Exact.Rational, beq_iff_eq] at *; omega))

/-- every exact result computed by `IntOp.exact` for an operation other than `sqrt` is rational -/
theorem exact_rational (t : IntTy) (π : Policy) (op : IntOp) (a : Operands) (h : op ≠ .sqrt) :
    (IntOp.exact t π op a).Rational := by
  cases op <;> simp only [IntOp.exact]
  all_goals first
    | exact rational_ofExt _
    | exact rational_exactDiv _ _
    | exact absurd rfl h
    | skip
  case idiv =>
    unfold exactIdiv
    cases t.denote π a.x <;> cases t.denote π a.y <;> first
      | exact rational_exactDiv _ _
      | (simp only []; apply rational_ite <;> intro _ <;> first | exact trivial | exact rational_ofInt _)
  case rem =>
    unfold exactRem
    cases t.denote π a.x <;> cases t.denote π a.y <;> simp only [] <;>
      repeat' (first | exact trivial | exact rational_ofInt _ | (apply rational_ite <;> intro _))
  case smod2exp => unfold exactSmod; cases t.denote π a.x <;> first | exact trivial | exact rational_ofInt _
  case umod2exp => unfold exactUmod; cases t.denote π a.x <;> first | exact trivial | exact rational_ofInt _
  case gcd =>
    unfold exactGcd
    cases t.denote π a.x <;> cases t.denote π a.y <;> first | exact trivial | exact rational_ofInt _
  case lcm =>
    unfold exactLcm
    cases t.denote π a.x <;> cases t.denote π a.y <;> first | exact trivial | exact rational_ofInt _

end PPLV.Checked

import PPLV.Checked.ProofsIdiv2exp
/-!
# C11 proofs: `div_2exp` (rational exact result), `umod_2exp`

`umod_2exp_signed_int` with `exp = bits - 1` can produce `2^(bits-1) - 1`, the bit pattern of `+∞`
under a policy with infinities; since /repo f54ddd9 a result above `max` is a positive overflow
(before: stored with `V_EQ`, `C11.umod2exp_holds_before_fix_fails`).
-/
namespace PPLV.Checked
open Result

/-- floor division by a positive number: facts for `omega` -/
theorem ediv_emod_pos (x : Int) {d : Int} (hd : 0 < d) :
    d * (x / d) + x % d = x ∧ 0 ≤ x % d ∧ x % d < d :=
  ⟨Int.mul_ediv_add_emod x d, Int.emod_nonneg x (by omega), Int.emod_lt_of_pos x hd⟩

/-- **`div_2exp`**: on a non-negative operand the code stores `x >> e`, on a negative one `-(-x >> e)`:
either way the truncated quotient by `2^e` (`0` when the shift count reaches the width), and rounds by the
sign of the operand -/
theorem div2exp_okq {t : IntTy} {π : Policy} (w : t.WF π) (dir : Dir) {to0 x : Int} (e : Nat)
    (hx : t.finite π x) :
    OKQ t π dir (div2exp t π to0 x e dir) (.fin ((x : Rat) / ((pow2 e : Int) : Rat))) := by
  obtain ⟨es, eu⟩ := IntTy.erange_half w
  have hd : 0 < pow2 e := pow2_pos e
  -- the non-negative path, shared by the unsigned function and the `x ≥ 0` half of the signed one
  have posPath : ∀ (k : Nat), 0 ≤ x → (k ≤ e → x < pow2 e) →
      OKQ t π dir
        (if e ≥ k then
            (if dir.notRequested = true then (0, V_GE) else if (x == 0) = true then (0, V_EQ) else roundGtNoOverflow 0 dir)
         else
            (if dir.notRequested = true then (x / pow2 e, V_GE)
             else if (x % pow2 e != 0) = true then roundGtNoOverflow (x / pow2 e) dir else (x / pow2 e, V_EQ)))
        (.fin ((x : Rat) / ((pow2 e : Int) : Rat))) := by
    intro k hx0 hbig
    obtain ⟨-, L1, L2, L3⟩ := tdiv_nonneg_okq w dir hd hx0 hx
    rw [Int.tdiv_eq_ediv_of_nonneg hx0] at L1 L2 L3
    rw [Int.tmod_eq_emod_of_nonneg hx0] at L2 L3
    by_cases hge : e ≥ k
    · rw [if_pos hge]
      rw [Int.ediv_eq_zero_of_lt hx0 (hbig hge)] at L1 L2 L3
      rw [Int.emod_eq_of_lt hx0 (hbig hge)] at L2 L3
      by_cases hnr : dir.notRequested = true
      · rw [if_pos hnr]; exact L1 hnr
      rw [if_neg hnr]
      by_cases hz : x = 0
      · rw [if_pos (by simpa using hz)]; exact L2 hz
      · rw [if_neg (by simpa using hz)]; exact (L3 hz).2.2
    · rw [if_neg hge]
      by_cases hnr : dir.notRequested = true
      · rw [if_pos hnr]; exact L1 hnr
      rw [if_neg hnr]
      by_cases hm : x % pow2 e = 0
      · rw [if_neg (by simpa using hm)]; exact L2 hm
      · rw [if_pos (by simpa using hm)]; exact (L3 hm).2.2
  have hp := t.half_pos
  unfold div2exp div2expSigned div2expUnsigned
  cases hs : t.signed <;> simp only [Bool.false_eq_true, if_false, if_true]
  · obtain ⟨e0, -, e2, -⟩ := eu hs
    exact posPath t.bits (by have := hx.1; omega) (fun h => by
      have := pow2_ge_two_half w.bits_pos h; have := hx.2; omega)
  · obtain ⟨e0, -, -, e3, -⟩ := es hs
    by_cases hneg : x < 0
    · rw [if_pos hneg]
      obtain ⟨-, L1, L2, L3⟩ := tdiv_neg_okq w dir hd hneg hx
      have hx0 : 0 ≤ -x := by omega
      -- `x.tdiv d = -(-x / d)` and the two remainders vanish together
      have hq : x.tdiv (pow2 e) = -(-x / pow2 e) := by
        rw [← Int.tdiv_eq_ediv_of_nonneg hx0, Int.neg_tdiv, Int.neg_neg]
      have hm : x.tmod (pow2 e) = 0 ↔ -x % pow2 e = 0 := by
        rw [← Int.tmod_eq_emod_of_nonneg hx0, Int.neg_tmod]; omega
      rw [hq] at L1 L2 L3
      by_cases hge : e ≥ t.bits
      · rw [if_pos hge]
        have hlt : -x < pow2 e := by have := pow2_ge_two_half w.bits_pos hge; have := hx.1; omega
        rw [Int.ediv_eq_zero_of_lt hx0 hlt, Int.neg_zero] at L1 L3
        by_cases hnr : dir.notRequested = true
        · rw [if_pos hnr]; exact L1 hnr
        · rw [if_neg hnr]
          refine L3 ?_
          rw [Ne, hm, Int.emod_eq_of_lt hx0 hlt]; omega
      · rw [if_neg hge]
        by_cases hnr : dir.notRequested = true
        · rw [if_pos hnr]; exact L1 hnr
        rw [if_neg hnr]
        by_cases hm' : -x % pow2 e = 0
        · rw [if_neg (by simpa using hm')]; exact L2 (hm.mpr hm')
        · rw [if_pos (by simpa using hm')]; exact L3 (mt hm.mp hm')
    · rw [if_neg hneg]
      refine posPath (t.bits - 1) (by omega) (fun h => ?_)
      have : t.half ≤ pow2 e := by unfold IntTy.half; exact pow2_le_pow2 h
      have := hx.2; omega

/-- **`umod_2exp`** (as repaired by /repo f54ddd9: a result above `max` is a positive overflow) -/
theorem umod2exp_tri {t : IntTy} {π : Policy} (w : t.WF π) (dir : Dir) {to0 x : Int} (e : Nat)
    (hx : t.finite π x) :
    Tri t π dir to0 (umod2exp t π to0 x e dir) (x % pow2 e) := by
  obtain ⟨es, eu⟩ := IntTy.erange_half w
  obtain ⟨hmin, hmax⟩ := IntTy.emin_le_emax w
  have hp := t.half_pos
  have pe := pow2_pos e
  have hd : 0 < pow2 e := by omega
  obtain ⟨hx1, hx2⟩ := hx
  obtain ⟨ed, em0, em1⟩ := ediv_emod_pos x hd
  unfold umod2exp umod2expSigned umod2expUnsigned
  cases hs : t.signed <;> simp only [Bool.false_eq_true, if_false, if_true]
  · obtain ⟨e0, e1, e2, _⟩ := eu hs
    have hle : x % pow2 e ≤ x := by
      have : 0 ≤ x / pow2 e := Int.ediv_nonneg (by omega) (by omega)
      nlinarith
    split
    · rename_i hge
      have := pow2_ge_two_half w.bits_pos hge
      rw [Int.emod_eq_of_lt (by omega) (by omega)]
      exact tri_eq ⟨hx1, hx2⟩
    · exact tri_eq ⟨by omega, by omega⟩
  · obtain ⟨e0, e1, e2, e3, _⟩ := es hs
    split
    · rename_i hge
      have h2 := pow2_ge_two_half w.bits_pos hge
      split
      · apply tri_pos
        have : x % pow2 e = x + pow2 e := by
          rw [← Int.add_emod_right]
          exact Int.emod_eq_of_lt (by omega) (by omega)
        omega
      · rw [Int.emod_eq_of_lt (by omega) (by omega)]
        exact tri_eq ⟨hx1, hx2⟩
    · split
      · exact tri_pos (by omega)
      · exact tri_eq ⟨by omega, by omega⟩

end PPLV.Checked

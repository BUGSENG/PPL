import PPLV.Checked.ProofsLayout
/-!
# C11 proofs: conversions between native integer types (all widths, both signednesses)

The theorems about an operation whose exact result is an integer have the shape
`Tri t π dir to0 (op …) (exact result)`.  Hypotheses: `t.WF π`,
`π.checkOverflow = true` (every policy the library instantiates; without it `CHECK_P` makes
representability of the result a precondition of the call), operands in range of the type, and —
for the `Larger<T>` paths — `t.LargerOK` (`Proofs2.lean`: the `int_fast` type is at least twice as wide).
-/
namespace PPLV.Checked
open Result

/-- relation between the widths of a conversion: same width, narrower, or at least two bits wider
(true of every pair of C integer types; a destination exactly one bit wider than an unsigned source
could receive the source's maximum on top of a reserved bit pattern). -/
def IntTy.GapOK (t f : IntTy) : Prop := t.bits ≤ f.bits ∨ f.bits + 2 ≤ t.bits

theorem half_gap {t f : IntTy} (hf : 1 ≤ f.bits) (h : f.bits + 2 ≤ t.bits) : 4 * f.half ≤ t.half := by
  unfold IntTy.half
  have := pow2_le_pow2 (show (f.bits - 1) + 1 + 1 ≤ t.bits - 1 by omega)
  rw [pow2_succ, pow2_succ] at this
  omega

theorem half_eq_of_bits {t f : IntTy} (h : t.bits = f.bits) : t.half = f.half := by
  unfold IntTy.half; rw [h]

theorem assignInt_tri {t f : IntTy} {πt πf : Policy} (wt : t.WF πt) (wf : f.WF πf)
    (hco : πt.checkOverflow = true) (hg : t.GapOK f) (dir : Dir) {to0 frm : Int}
    (_ : t.inRange to0) (hfrm : f.finite πf frm) :
    Tri t πt dir to0 (assignInt t πt f πf to0 frm dir) frm := by
  obtain ⟨ts, tu⟩ := IntTy.erange_half wt
  obtain ⟨fs, fu⟩ := IntTy.erange_half wf
  obtain ⟨f1, f2⟩ := hfrm
  obtain ⟨tm0, tm1⟩ := IntTy.emin_le_emax wt
  have hpf := f.half_pos
  -- the width relation as a linear relation between the two `half`s
  have hw : (t.bits = f.bits ∧ t.half = f.half) ∨ t.bits < f.bits ∨ (f.bits < t.bits ∧ 4 * f.half ≤ t.half) := by
    rcases Nat.lt_trichotomy t.bits f.bits with hb | hb | hb
    · exact Or.inr (Or.inl hb)
    · exact Or.inl ⟨hb, half_eq_of_bits hb⟩
    · exact Or.inr (Or.inr ⟨hb, half_gap wf.bits_pos (by unfold IntTy.GapOK at hg; omega)⟩)
  clear hg wt wf
  unfold assignInt assignUnsignedUnsigned assignUnsignedSigned assignSignedUnsigned assignSignedSigned
  cases hst : t.signed <;> cases hsf : f.signed <;> simp only []
  · obtain ⟨t0, t1, t2, t3⟩ := tu hst
    obtain ⟨f0, f3, f4, f5⟩ := fu hsf
    clear ts tu fs fu
    simp only [hco, Bool.true_and, decide_eq_true_eq]
    split
    · split
      · exact tri_pos (by omega)
      · exact tri_eq ⟨by omega, by omega⟩
    · exact tri_eq ⟨by omega, by omega⟩
  · obtain ⟨t0, t1, t2, t3⟩ := tu hst
    obtain ⟨f0, f3, f4, f5, _⟩ := fs hsf
    clear ts tu fs fu
    simp only [hco, Bool.true_and, decide_eq_true_eq]
    split
    · exact tri_neg (by omega)
    · split
      · split
        · exact tri_pos (by omega)
        · exact tri_eq ⟨by omega, by omega⟩
      · exact tri_eq ⟨by omega, by omega⟩
  · obtain ⟨t0, t1, t2, t3, _⟩ := ts hst
    obtain ⟨f0, f3, f4, f5⟩ := fu hsf
    clear ts tu fs fu
    simp only [hco, Bool.true_and, decide_eq_true_eq]
    split
    · split
      · exact tri_pos (by omega)
      · exact tri_eq ⟨by omega, by omega⟩
    · exact tri_eq ⟨by omega, by omega⟩
  · obtain ⟨t0, t1, t2, t3, _⟩ := ts hst
    obtain ⟨f0, f3, f4, f5, _⟩ := fs hsf
    clear ts tu fs fu
    simp only [hco, Bool.true_and, decide_eq_true_eq]
    split
    · split
      · exact tri_neg (by omega)
      · split
        · exact tri_pos (by omega)
        · exact tri_eq ⟨by omega, by omega⟩
    · exact tri_eq ⟨by omega, by omega⟩

end PPLV.Checked

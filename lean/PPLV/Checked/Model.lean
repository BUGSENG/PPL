import PPLV.Checked.Result
/-!
# C11 — code-shaped model of the checked native-integer primitives (no Mathlib)

Transliteration of `src/checked_int_inlines.hh` (native integers), the generic helpers of
`src/checked_inlines.hh` (`abs_generic`, `gcd_exact`, `lcm_gcd_exact`, `sgn_generic`,
`cmp_generic`, `assign_nan`) and the extended-number layer `src/checked_ext_inlines.hh`, which is
what `Checked_Number<T, Policy>` / `add_assign_r` … call.

Conventions.
* An integer type is a width, a signedness and the routing constants of `Larger<T>`
  (`use_for_neg/add/sub/mul` and the width of the `int_fast*_t` used); a policy is the record of
  the `const_bool_nodef` members the integer code reads.
* Every function takes the value `to0` that the out-parameter `to` held before the call and
  returns `(to, result)`: several paths (`V_UNREPRESENTABLE`, `assign_nan` without `has_nan`)
  leave `to` untouched.
* Values are mathematical integers.  A store `to = e` returns the value of `e` **before** the
  implicit conversion to `T`; `IntTy.wrap` is that conversion.  The theorems (clause `no_wrap` of `OK`) show the
  returned value is in range, so that the conversion is the identity; the driver compares
  `wrap (model) = real` so that the correspondence is meaningful even where the theorem has a
  precondition.  Typed temporaries that are read again (`gcd` loop, `lcm`) are wrapped explicitly.
* C++ `/` and `%` are `Int.tdiv` / `Int.tmod`.  `x >> e`, `x << e`, `x & (2^e - 1)` on
  non-negative values are `/ 2^e`, `* 2^e`, `% 2^e`; the places that use two's complement
  bit tricks on negative values (`div_2exp_signed_int`, `mul_2exp_signed_int`,
  `smod_2exp_signed_int`, `umod_2exp_signed_int`) are modelled by their arithmetic meaning, which
  the exhaustive 8-bit correspondence validates against the real code.
* `CHECK_P(flag, cond)` is `flag && cond` (assertions are off in the build).
-/
namespace PPLV.Checked
open Result

structure Policy where
  checkOverflow : Bool
  checkInfAddInf : Bool
  checkInfSubInf : Bool
  checkInfMulZero : Bool
  checkDivZero : Bool
  checkInfDivInf : Bool
  checkInfMod : Bool
  checkSqrtNeg : Bool
  hasNan : Bool
  hasInfinity : Bool
deriving DecidableEq, Repr, Inhabited

structure IntTy where
  bits : Nat
  signed : Bool
  useNeg : Bool := false
  useAdd : Bool := false
  useSub : Bool := false
  useMul : Bool := false
  /-- width of `int_fast16/32/64_t` chosen by `Larger<T>` -/
  lbits : Nat := 64
deriving DecidableEq, Repr, Inhabited

def b2i (b : Bool) : Int := if b then 1 else 0

/-- `2^n` (`Int.pow` and `<<<` go through GMP in compiled code even for small values; this
stays on the scalar fast path: literals below 8, one multiplication per 8 bits above) -/
def pow2 : Nat → Int
  | 0 => 1 | 1 => 2 | 2 => 4 | 3 => 8 | 4 => 16 | 5 => 32 | 6 => 64 | 7 => 128
  | n + 8 => 256 * pow2 n

theorem pow2_eq (n : Nat) : pow2 n = 2 ^ n := by
  induction n using pow2.induct with
  | case9 n ih =>
    rw [pow2, ih]
    show 256 * 2 ^ n = 2 ^ (n + 8)
    rw [Int.pow_add, Int.mul_comm]; rfl
  | _ => rfl

namespace IntTy
/-- `2^(bits-1)` -/
def half (t : IntTy) : Int := pow2 (t.bits - 1)
/-- `C_Integer<T>::min` -/
def cmin (t : IntTy) : Int := if t.signed then -t.half else 0
/-- `C_Integer<T>::max` -/
def cmax (t : IntTy) : Int := if t.signed then t.half - 1 else 2 * t.half - 1
def inRange (t : IntTy) (v : Int) : Prop := t.cmin ≤ v ∧ v ≤ t.cmax
/-- conversion to `T` (two's complement) -/
def wrap (t : IntTy) (v : Int) : Int :=
  if t.signed then (v + t.half) % (2 * t.half) - t.half else v % (2 * t.half)

/-- `Extended_Int<Policy, T>` -/
def plusInf (t : IntTy) : Int := t.cmax
def minusInf (t : IntTy) : Int := if t.signed then t.cmin else t.cmax - 1
def nanV (t : IntTy) (π : Policy) : Int :=
  if t.signed then t.cmin + b2i π.hasInfinity else t.cmax - 2 * b2i π.hasInfinity
def emin (t : IntTy) (π : Policy) : Int :=
  t.cmin + (if t.signed then b2i π.hasInfinity + b2i π.hasNan else 0)
def emax (t : IntTy) (π : Policy) : Int :=
  t.cmax - (if t.signed then b2i π.hasInfinity else 2 * b2i π.hasInfinity + b2i π.hasNan)

/-- the `int_fast` type `Larger<T>` computes in -/
def larger (t : IntTy) (sg : Bool) : IntTy := { bits := t.lbits, signed := sg, lbits := t.lbits }

def isNan (t : IntTy) (π : Policy) (v : Int) : Bool := π.hasNan && v == t.nanV π
def isMinf (t : IntTy) (π : Policy) (v : Int) : Bool := π.hasInfinity && v == t.minusInf
def isPinf (t : IntTy) (π : Policy) (v : Int) : Bool := π.hasInfinity && v == t.plusInf

/-- what a bit pattern of `T` denotes under a policy -/
def denote (t : IntTy) (π : Policy) (v : Int) : Ext Int :=
  if t.isNan π v then .nan else if t.isMinf π v then .minf else if t.isPinf π v then .pinf else .fin v

/-- a finite (non-special) value of the type under the policy -/
def finite (t : IntTy) (π : Policy) (v : Int) : Prop := t.emin π ≤ v ∧ v ≤ t.emax π
end IntTy

/-! ## overflow and rounding helpers -/

def setNegOverflow (t : IntTy) (π : Policy) (to0 : Int) (dir : Dir) : Int × Result :=
  if dir.roundUp then (t.emin π, V_LT_INF)
  else if π.hasInfinity then (t.minusInf, V_GT_MINUS_INFINITY)
  else (to0, V_GT_MINUS_INFINITY.orUnrep)

def setPosOverflow (t : IntTy) (π : Policy) (to0 : Int) (dir : Dir) : Int × Result :=
  if dir.roundDown then (t.emax π, V_GT_SUP)
  else if π.hasInfinity then (t.plusInf, V_LT_PLUS_INFINITY)
  else (to0, V_LT_PLUS_INFINITY.orUnrep)

def roundLtNoOverflow (to : Int) (dir : Dir) : Int × Result :=
  if dir.roundDown then (to - 1, V_GT) else (to, V_LT)

def roundGtNoOverflow (to : Int) (dir : Dir) : Int × Result :=
  if dir.roundUp then (to + 1, V_LT) else (to, V_GT)

def roundLt (t : IntTy) (π : Policy) (to : Int) (dir : Dir) : Int × Result :=
  if dir.roundDown then
    if to == t.emin π then
      if π.hasInfinity then (t.minusInf, V_GT_MINUS_INFINITY) else (to, V_GT_MINUS_INFINITY.orUnrep)
    else (to - 1, V_GT)
  else (to, V_LT)

def roundGt (t : IntTy) (π : Policy) (to : Int) (dir : Dir) : Int × Result :=
  if dir.roundUp then
    if to == t.emax π then
      if π.hasInfinity then (t.plusInf, V_LT_PLUS_INFINITY) else (to, V_LT_PLUS_INFINITY.orUnrep)
    else (to + 1, V_LT)
  else (to, V_GT)

/-- `classify_int` -/
def classify (t : IntTy) (π : Policy) (v : Int) (nan inf sign : Bool) : Result :=
  if π.hasNan && (nan || sign) && v == t.nanV π then V_NAN
  else if !inf && !sign then V_LGE
  else if π.hasInfinity && v == t.minusInf then (if inf then V_EQ_MINUS_INFINITY else V_LT)
  else if π.hasInfinity && v == t.plusInf then (if inf then V_EQ_PLUS_INFINITY else V_GT)
  else if sign then (if v < 0 then V_LT else if v > 0 then V_GT else V_EQ)
  else V_LGE

/-- `assign_special_int` -/
def assignSpecial (t : IntTy) (π : Policy) (to0 : Int) (c : Cls) (dir : Dir) : Int × Result :=
  match c with
  | .nan => if π.hasNan then (t.nanV π, V_NAN) else (to0, V_NAN.orUnrep)
  | .minf =>
    if π.hasInfinity then (t.minusInf, V_EQ_MINUS_INFINITY)
    else if dir.roundUp then (t.emin π, V_LT_INF)
    else (to0, V_EQ_MINUS_INFINITY.orUnrep)
  | .pinf =>
    if π.hasInfinity then (t.plusInf, V_EQ_PLUS_INFINITY)
    else if dir.roundDown then (t.emax π, V_GT_SUP)
    else (to0, V_EQ_PLUS_INFINITY.orUnrep)
  | .normal => (to0, V_NAN.orUnrep)   -- PPL_UNREACHABLE

/-- `assign_nan`: stores a NaN if there is one, returns `r` whatever happened -/
def assignNan (t : IntTy) (π : Policy) (to0 : Int) (r : Result) : Int × Result :=
  ((assignSpecial t π to0 .nan .ignore).1, r)

/-! ## conversions between native integer types -/

def assignSignedSigned (t : IntTy) (πt : Policy) (f : IntTy) (πf : Policy) (to0 frm : Int) (dir : Dir) :
    Int × Result :=
  if t.bits < f.bits ∨ (t.bits = f.bits ∧ (t.emin πt > f.emin πf ∨ t.emax πt < f.emax πf)) then
    if πt.checkOverflow && frm < t.emin πt then setNegOverflow t πt to0 dir
    else if πt.checkOverflow && frm > t.emax πt then setPosOverflow t πt to0 dir
    else (frm, V_EQ)
  else (frm, V_EQ)

def assignSignedUnsigned (t : IntTy) (πt : Policy) (f : IntTy) (_πf : Policy) (to0 frm : Int) (dir : Dir) :
    Int × Result :=
  if t.bits ≤ f.bits then
    if πt.checkOverflow && frm > t.emax πt then setPosOverflow t πt to0 dir
    else (frm, V_EQ)
  else (frm, V_EQ)

def assignUnsignedSigned (t : IntTy) (πt : Policy) (f : IntTy) (_πf : Policy) (to0 frm : Int) (dir : Dir) :
    Int × Result :=
  if πt.checkOverflow && frm < 0 then setNegOverflow t πt to0 dir
  else if t.bits < f.bits then
    if πt.checkOverflow && frm > t.emax πt then setPosOverflow t πt to0 dir
    else (frm, V_EQ)
  else (frm, V_EQ)

def assignUnsignedUnsigned (t : IntTy) (πt : Policy) (f : IntTy) (πf : Policy) (to0 frm : Int) (dir : Dir) :
    Int × Result :=
  if t.bits < f.bits ∨ (t.bits = f.bits ∧ t.emax πt < f.emax πf) then
    if πt.checkOverflow && frm > t.emax πt then setPosOverflow t πt to0 dir
    else (frm, V_EQ)
  else (frm, V_EQ)

/-- `assign<To_Policy, From_Policy>(to, from, dir)` for native integers (overload resolution) -/
def assignInt (t : IntTy) (πt : Policy) (f : IntTy) (πf : Policy) (to0 frm : Int) (dir : Dir) : Int × Result :=
  match t.signed, f.signed with
  | true, true => assignSignedSigned t πt f πf to0 frm dir
  | true, false => assignSignedUnsigned t πt f πf to0 frm dir
  | false, true => assignUnsignedSigned t πt f πf to0 frm dir
  | false, false => assignUnsignedUnsigned t πt f πf to0 frm dir

/-! ## neg, add, sub, mul -/

/-- `neg_int_larger`: `type_for_neg` is signed for every `T` -/
def negLarger (t : IntTy) (π : Policy) (to0 x : Int) (dir : Dir) : Int × Result :=
  assignInt t π (t.larger true) π to0 (-x) dir

/-- `add_int_larger`: `type_for_add` has the signedness of `T` -/
def addLarger (t : IntTy) (π : Policy) (to0 x y : Int) (dir : Dir) : Int × Result :=
  assignInt t π (t.larger t.signed) π to0 (x + y) dir

/-- `sub_int_larger`: `type_for_sub` is signed for every `T` -/
def subLarger (t : IntTy) (π : Policy) (to0 x y : Int) (dir : Dir) : Int × Result :=
  assignInt t π (t.larger true) π to0 (x - y) dir

/-- `mul_int_larger`: `type_for_mul` has the signedness of `T` -/
def mulLarger (t : IntTy) (π : Policy) (to0 x y : Int) (dir : Dir) : Int × Result :=
  assignInt t π (t.larger t.signed) π to0 (x * y) dir

def negSigned (t : IntTy) (π : Policy) (to0 x : Int) (dir : Dir) : Int × Result :=
  if π.checkOverflow && t.useNeg then negLarger t π to0 x dir
  else if π.checkOverflow && x < -(t.emax π) then setPosOverflow t π to0 dir
  else (-x, V_EQ)

def negUnsigned (t : IntTy) (π : Policy) (to0 x : Int) (dir : Dir) : Int × Result :=
  if π.checkOverflow && t.useNeg then negLarger t π to0 x dir
  else if π.checkOverflow && x != 0 then setNegOverflow t π to0 dir
  else (x, V_EQ)

def addSigned (t : IntTy) (π : Policy) (to0 x y : Int) (dir : Dir) : Int × Result :=
  if π.checkOverflow && t.useAdd then addLarger t π to0 x y dir
  else if π.checkOverflow && (y ≥ 0 && x > t.emax π - y) then setPosOverflow t π to0 dir
  else if π.checkOverflow && (!(y ≥ 0) && x < t.emin π - y) then setNegOverflow t π to0 dir
  else (x + y, V_EQ)

def addUnsigned (t : IntTy) (π : Policy) (to0 x y : Int) (dir : Dir) : Int × Result :=
  if π.checkOverflow && t.useAdd then addLarger t π to0 x y dir
  else if π.checkOverflow && x > t.emax π - y then setPosOverflow t π to0 dir
  else (x + y, V_EQ)

def subSigned (t : IntTy) (π : Policy) (to0 x y : Int) (dir : Dir) : Int × Result :=
  if π.checkOverflow && t.useSub then subLarger t π to0 x y dir
  else if π.checkOverflow && (y ≥ 0 && x < t.emin π + y) then setNegOverflow t π to0 dir
  else if π.checkOverflow && (!(y ≥ 0) && x > t.emax π + y) then setPosOverflow t π to0 dir
  else (x - y, V_EQ)

def subUnsigned (t : IntTy) (π : Policy) (to0 x y : Int) (dir : Dir) : Int × Result :=
  if π.checkOverflow && t.useSub then subLarger t π to0 x y dir
  else if π.checkOverflow && x < t.emin π + y then setNegOverflow t π to0 dir
  else (x - y, V_EQ)

def mulSigned (t : IntTy) (π : Policy) (to0 x y : Int) (dir : Dir) : Int × Result :=
  if π.checkOverflow && t.useMul then mulLarger t π to0 x y dir
  else if !π.checkOverflow then (x * y, V_EQ)
  else if y == 0 then (0, V_EQ)
  else if y == -1 then negSigned t π to0 x dir
  else if x ≥ 0 then
    if y > 0 then
      if x > (t.emax π).tdiv y then setPosOverflow t π to0 dir else (x * y, V_EQ)
    else
      if x > (t.emin π).tdiv y then setNegOverflow t π to0 dir else (x * y, V_EQ)
  else
    if y < 0 then
      if x < (t.emax π).tdiv y then setPosOverflow t π to0 dir else (x * y, V_EQ)
    else
      if x < (t.emin π).tdiv y then setNegOverflow t π to0 dir else (x * y, V_EQ)

def mulUnsigned (t : IntTy) (π : Policy) (to0 x y : Int) (dir : Dir) : Int × Result :=
  if π.checkOverflow && t.useMul then mulLarger t π to0 x y dir
  else if !π.checkOverflow then (x * y, V_EQ)
  else if y == 0 then (0, V_EQ)
  else if x > (t.emax π).tdiv y then setPosOverflow t π to0 dir
  else (x * y, V_EQ)

/-! ## div, idiv, rem -/

def divSigned (t : IntTy) (π : Policy) (to0 x y : Int) (dir : Dir) : Int × Result :=
  if π.checkDivZero && y == 0 then assignNan t π to0 V_DIV_ZERO
  else if π.checkOverflow && y == -1 then negSigned t π to0 x dir
  else
    let to := x.tdiv y
    if dir.notRequested then (to, V_LGE)
    else if y == -1 then (to, V_EQ)
    else
      let m := x.tmod y
      if m == 0 then (to, V_EQ)
      -- truncated towards zero: above the exact quotient iff remainder and divisor have opposite signs
      else if decide (m < 0) != decide (y < 0) then roundLtNoOverflow to dir
      else roundGtNoOverflow to dir

def divUnsigned (t : IntTy) (π : Policy) (to0 x y : Int) (dir : Dir) : Int × Result :=
  if π.checkDivZero && y == 0 then assignNan t π to0 V_DIV_ZERO
  else
    let to := x.tdiv y
    if dir.notRequested then (to, V_GE)
    else if x.tmod y == 0 then (to, V_EQ)
    else roundGt t π to dir

def idivSigned (t : IntTy) (π : Policy) (to0 x y : Int) (dir : Dir) : Int × Result :=
  if π.checkDivZero && y == 0 then assignNan t π to0 V_DIV_ZERO
  else if π.checkOverflow && y == -1 then negSigned t π to0 x dir
  else (x.tdiv y, V_EQ)

def idivUnsigned (t : IntTy) (π : Policy) (to0 x y : Int) (_dir : Dir) : Int × Result :=
  if π.checkDivZero && y == 0 then assignNan t π to0 V_DIV_ZERO
  else (x.tdiv y, V_EQ)

def remSigned (t : IntTy) (π : Policy) (to0 x y : Int) (_dir : Dir) : Int × Result :=
  if π.checkDivZero && y == 0 then assignNan t π to0 V_MOD_ZERO
  else (if y == -1 then 0 else x.tmod y, V_EQ)

def remUnsigned (t : IntTy) (π : Policy) (to0 x y : Int) (_dir : Dir) : Int × Result :=
  if π.checkDivZero && y == 0 then assignNan t π to0 V_MOD_ZERO
  else (x.tmod y, V_EQ)

/-! ## power-of-two scaling and modulus -/

def div2expUnsigned (t : IntTy) (_π : Policy) (_to0 x : Int) (e : Nat) (dir : Dir) : Int × Result :=
  if e ≥ t.bits then
    if dir.notRequested then (0, V_GE)
    else if x == 0 then (0, V_EQ)
    else roundGtNoOverflow 0 dir
  else
    let to := x / pow2 e
    if dir.notRequested then (to, V_GE)
    else if x % pow2 e != 0 then roundGtNoOverflow to dir
    else (to, V_EQ)

def div2expSigned (t : IntTy) (_π : Policy) (_to0 x : Int) (e : Nat) (dir : Dir) : Int × Result :=
  if x < 0 then
    if e ≥ t.bits then
      if dir.notRequested then (0, V_LE) else roundLtNoOverflow 0 dir
    else
      -- ux = -x as unsigned; to = -(ux >> e)
      let to := -((-x) / pow2 e)
      if dir.notRequested then (to, V_LE)
      else if (-x) % pow2 e != 0 then roundLtNoOverflow to dir
      else (to, V_EQ)
  else
    if e ≥ t.bits - 1 then
      if dir.notRequested then (0, V_GE)
      else if x == 0 then (0, V_EQ)
      else roundGtNoOverflow 0 dir
    else
      let to := x / pow2 e
      if dir.notRequested then (to, V_GE)
      else if x % pow2 e != 0 then roundGtNoOverflow to dir
      else (to, V_EQ)

def add2expUnsigned (t : IntTy) (π : Policy) (to0 x : Int) (e : Nat) (dir : Dir) : Int × Result :=
  if !π.checkOverflow then (x + pow2 e, V_EQ)
  else if e ≥ t.bits then setPosOverflow t π to0 dir
  else addUnsigned t π to0 x (pow2 e) dir

def add2expSigned (t : IntTy) (π : Policy) (to0 x : Int) (e : Nat) (dir : Dir) : Int × Result :=
  if !π.checkOverflow then (x + pow2 e, V_EQ)
  else if e ≥ t.bits then setPosOverflow t π to0 dir
  else if e == t.bits - 1 then subSigned t π to0 x (-2 * pow2 (e - 1)) dir
  else addSigned t π to0 x (pow2 e) dir

def sub2expUnsigned (t : IntTy) (π : Policy) (to0 x : Int) (e : Nat) (dir : Dir) : Int × Result :=
  if !π.checkOverflow then (x - pow2 e, V_EQ)
  else if e ≥ t.bits then setNegOverflow t π to0 dir
  else subUnsigned t π to0 x (pow2 e) dir

def sub2expSigned (t : IntTy) (π : Policy) (to0 x : Int) (e : Nat) (dir : Dir) : Int × Result :=
  if !π.checkOverflow then (x - pow2 e, V_EQ)
  else if e ≥ t.bits then setNegOverflow t π to0 dir
  else if e == t.bits - 1 then addSigned t π to0 x (-2 * pow2 (e - 1)) dir
  else subSigned t π to0 x (pow2 e) dir

def mul2expUnsigned (t : IntTy) (π : Policy) (to0 x : Int) (e : Nat) (dir : Dir) : Int × Result :=
  if !π.checkOverflow then (x * pow2 e, V_EQ)
  else if e ≥ t.bits then
    if x == 0 then (0, V_EQ) else setPosOverflow t π to0 dir
  else if x > t.emax π / pow2 e then setPosOverflow t π to0 dir
  else (x * pow2 e, V_EQ)

def mul2expSigned (t : IntTy) (π : Policy) (to0 x : Int) (e : Nat) (dir : Dir) : Int × Result :=
  if x < 0 then
    if !π.checkOverflow then (x * pow2 e, V_EQ)
    else if e ≥ t.bits then setNegOverflow t π to0 dir
    -- (ux & mask) != mask, mask = the top e+1 bits: x < -2^(bits-1-e)
    else if x < -(pow2 (t.bits - 1 - e)) then setNegOverflow t π to0 dir
    else
      let n := x * pow2 e
      if n < t.emin π then setNegOverflow t π to0 dir else (n, V_EQ)
  else
    if !π.checkOverflow then (x * pow2 e, V_EQ)
    else if e ≥ t.bits - 1 then
      if x == 0 then (0, V_EQ) else setPosOverflow t π to0 dir
    else if x > t.emax π / pow2 e then setPosOverflow t π to0 dir
    else (x * pow2 e, V_EQ)

/-- `e = 0` evaluates `Type(1) << (exp - 1)` with a shift count of `UINT_MAX`: undefined
behaviour in C++; the model is only meant for `e ≥ 1`. -/
def smod2expUnsigned (t : IntTy) (π : Policy) (to0 x : Int) (e : Nat) (dir : Dir) : Int × Result :=
  if e > t.bits then (x, V_EQ)
  else
    let v := if e == t.bits then x else x % pow2 e
    if v ≥ pow2 (e - 1) then setNegOverflow t π to0 dir else (v, V_EQ)

def smod2expSigned (t : IntTy) (_π : Policy) (_to0 x : Int) (e : Nat) (_dir : Dir) : Int × Result :=
  if e ≥ t.bits then (x, V_EQ)
  else
    let m : Int := pow2 (e - 1)
    -- (x & (m - 1)) - (x & m)
    (x % m - (if (x / m) % 2 == 1 then m else 0), V_EQ)

def umod2expUnsigned (t : IntTy) (_π : Policy) (_to0 x : Int) (e : Nat) (_dir : Dir) : Int × Result :=
  if e ≥ t.bits then (x, V_EQ) else (x % pow2 e, V_EQ)

def umod2expSigned (t : IntTy) (π : Policy) (to0 x : Int) (e : Nat) (dir : Dir) : Int × Result :=
  if e ≥ t.bits then
    if x < 0 then setPosOverflow t π to0 dir else (x, V_EQ)
  else
    let v := x % pow2 e
    if v > t.emax π then setPosOverflow t π to0 dir else (v, V_EQ)

/-! ## square root -/

/-- the loop of `isqrt_rem`: `fuel` bounds the iterations (`t` is shifted right by 2 each time).
`q`, `r`, `s`, `t` are variables of type `Type`: every store is converted to the type
(`q = (q >> 1) + t`; `>>` is floor division). -/
def isqrtLoop (ty : IntTy) : Nat → Int → Int → Int → Int × Int
  | 0, q, r, _ => (q, r)
  | fuel + 1, q, r, tt =>
    if tt == 0 then (q, r)
    else
      let s := ty.wrap (q + tt)
      if s ≤ r then isqrtLoop ty fuel (ty.wrap (q / 2 + tt)) (ty.wrap (r - s)) (tt / 4)
      else isqrtLoop ty fuel (q / 2) r (tt / 4)

/-- `isqrt_rem(q, r, from)`: `t = 1 << (bits - 2)` -/
def isqrtRem (t : IntTy) (x : Int) : Int × Int := isqrtLoop t t.bits 0 x (pow2 (t.bits - 2))

def sqrtUnsigned (t : IntTy) (π : Policy) (_to0 x : Int) (dir : Dir) : Int × Result :=
  let (q, r) := isqrtRem t x
  if dir.notRequested then (q, V_GE)
  else if r == 0 then (q, V_EQ)
  else roundGt t π q dir

def sqrtSigned (t : IntTy) (π : Policy) (to0 x : Int) (dir : Dir) : Int × Result :=
  if π.checkSqrtNeg && x < 0 then assignNan t π to0 V_SQRT_NEG
  else sqrtUnsigned t π to0 x dir

/-! ## dispatch on signedness (the `PPL_SPECIALIZE_*` tables) -/

def neg (t : IntTy) (π : Policy) (to0 x : Int) (dir : Dir) : Int × Result :=
  if t.signed then negSigned t π to0 x dir else negUnsigned t π to0 x dir
def add (t : IntTy) (π : Policy) (to0 x y : Int) (dir : Dir) : Int × Result :=
  if t.signed then addSigned t π to0 x y dir else addUnsigned t π to0 x y dir
def sub (t : IntTy) (π : Policy) (to0 x y : Int) (dir : Dir) : Int × Result :=
  if t.signed then subSigned t π to0 x y dir else subUnsigned t π to0 x y dir
def mul (t : IntTy) (π : Policy) (to0 x y : Int) (dir : Dir) : Int × Result :=
  if t.signed then mulSigned t π to0 x y dir else mulUnsigned t π to0 x y dir
def div (t : IntTy) (π : Policy) (to0 x y : Int) (dir : Dir) : Int × Result :=
  if t.signed then divSigned t π to0 x y dir else divUnsigned t π to0 x y dir
def idiv (t : IntTy) (π : Policy) (to0 x y : Int) (dir : Dir) : Int × Result :=
  if t.signed then idivSigned t π to0 x y dir else idivUnsigned t π to0 x y dir
def rem (t : IntTy) (π : Policy) (to0 x y : Int) (dir : Dir) : Int × Result :=
  if t.signed then remSigned t π to0 x y dir else remUnsigned t π to0 x y dir
def add2exp (t : IntTy) (π : Policy) (to0 x : Int) (e : Nat) (dir : Dir) : Int × Result :=
  if t.signed then add2expSigned t π to0 x e dir else add2expUnsigned t π to0 x e dir
def sub2exp (t : IntTy) (π : Policy) (to0 x : Int) (e : Nat) (dir : Dir) : Int × Result :=
  if t.signed then sub2expSigned t π to0 x e dir else sub2expUnsigned t π to0 x e dir
def mul2exp (t : IntTy) (π : Policy) (to0 x : Int) (e : Nat) (dir : Dir) : Int × Result :=
  if t.signed then mul2expSigned t π to0 x e dir else mul2expUnsigned t π to0 x e dir
def div2exp (t : IntTy) (π : Policy) (to0 x : Int) (e : Nat) (dir : Dir) : Int × Result :=
  if t.signed then div2expSigned t π to0 x e dir else div2expUnsigned t π to0 x e dir
def smod2exp (t : IntTy) (π : Policy) (to0 x : Int) (e : Nat) (dir : Dir) : Int × Result :=
  if t.signed then smod2expSigned t π to0 x e dir else smod2expUnsigned t π to0 x e dir
def umod2exp (t : IntTy) (π : Policy) (to0 x : Int) (e : Nat) (dir : Dir) : Int × Result :=
  if t.signed then umod2expSigned t π to0 x e dir else umod2expUnsigned t π to0 x e dir
def sqrt (t : IntTy) (π : Policy) (to0 x : Int) (dir : Dir) : Int × Result :=
  if t.signed then sqrtSigned t π to0 x dir else sqrtUnsigned t π to0 x dir

/-- `abs_generic` for signed types; for unsigned types `abs` is specialised to
`assign_unsigned_int_unsigned_int` -/
def abs (t : IntTy) (π : Policy) (to0 x : Int) (dir : Dir) : Int × Result :=
  if t.signed then
    if x < 0 then neg t π to0 x dir else assignInt t π t π to0 x dir
  else assignUnsignedUnsigned t π t π to0 x dir

/-- `add_mul_int` -/
def addMul (t : IntTy) (π : Policy) (to0 x y : Int) (dir : Dir) : Int × Result :=
  let zr := mul t π 0 x y dir   -- `Type z;` uninitialised; only read when the result says it was stored
  let ov := zr.2.resultOverflow
  if ov == 0 then add t π to0 to0 (t.wrap zr.1) dir
  else if ov == -1 then
    if to0 ≤ 0 then setNegOverflow t π to0 dir
    -- to > 0 and x * y < min: to + x * y < to + min, a correct bound when rounding upward
    else if dir.roundUp then (to0 + t.emin π, V_LT)
    else assignNan t π to0 V_UNKNOWN_NEG_OVERFLOW
  else
    if to0 ≥ 0 then setPosOverflow t π to0 dir
    -- to < 0 and x * y > max: to + x * y > to + max, a correct bound when rounding downward
    else if dir.roundDown then (to0 + t.emax π, V_GT)
    else assignNan t π to0 V_UNKNOWN_POS_OVERFLOW

/-- `sub_mul_int` -/
def subMul (t : IntTy) (π : Policy) (to0 x y : Int) (dir : Dir) : Int × Result :=
  let zr := mul t π 0 x y dir
  let ov := zr.2.resultOverflow
  if ov == 0 then sub t π to0 to0 (t.wrap zr.1) dir
  else if ov == -1 then
    if to0 ≥ 0 then setPosOverflow t π to0 dir
    -- to < 0 and x * y < min: to - x * y > to - min, a correct bound when rounding downward
    else if dir.roundDown then (to0 - t.emin π, V_GT)
    else assignNan t π to0 V_UNKNOWN_NEG_OVERFLOW
  else
    -- x * y > max: `to - x * y` is below min when to < 0; for to == 0 only if the range is symmetric
    if to0 < 0 || (to0 == 0 && decide (t.emin π + t.emax π ≥ 0)) then setNegOverflow t π to0 dir
    -- to ≥ 0 and x * y > max: to - x * y < to - max, a correct bound when rounding upward
    -- (signed types only: `to - max` would wrap around for an unsigned one)
    else if dir.roundUp && decide (t.emin π < 0) then (to0 - t.emax π, V_LT)
    else assignNan t π to0 V_UNKNOWN_POS_OVERFLOW

/-! ## gcd, lcm -/

/-- the loop of `gcd_exact_no_abs` (`rem` with `ROUND_NOT_NEEDED`; typed temporaries wrapped) -/
def gcdLoop (t : IntTy) (π : Policy) : Nat → Int → Int → Int
  | 0, wx, _ => wx
  | fuel + 1, wx, wy =>
    if wy == 0 then wx
    else gcdLoop t π fuel wy (t.wrap (rem t π 0 wx wy .notNeeded).1)

/-- enough iterations for any pair of `bits`-wide operands (Euclid halves every two steps) -/
def gcdNoAbs (t : IntTy) (π : Policy) (x y : Int) : Int := gcdLoop t π (2 * t.bits + 2) x y

/-- `gcd_exact` -/
def gcd (t : IntTy) (π : Policy) (_to0 x y : Int) (dir : Dir) : Int × Result :=
  let g := gcdNoAbs t π x y
  abs t π g g dir

/-- `lcm_gcd_exact` (all policies equal, as in `Checked_Number<T, P>` arithmetic).  When `|x|` (or `|y|`)
is not a value of the type the lcm is not one either: `to` receives the outcome of that `abs`
(/repo 5d13b40; before, the code of the temporary's `abs` was returned and nothing stored) -/
def lcm (t : IntTy) (π : Policy) (to0 x y : Int) (dir : Dir) : Int × Result :=
  if x == 0 || y == 0 then (0, V_EQ)
  else
    let (ax, r1) := abs t π 0 x dir
    if r1 != V_EQ then abs t π to0 x dir
    else
      let (ay, r2) := abs t π 0 y dir
      if r2 != V_EQ then abs t π to0 y dir
      else
        let ax := t.wrap ax
        let ay := t.wrap ay
        let g := gcdNoAbs t π ax ay
        let (q, _) := div t π to0 ax g .notNeeded
        mul t π (t.wrap q) (t.wrap q) ay dir

/-! ## comparison, sign -/

/-- `sgn_generic` as a `Result_Relation` -/
def sgnNative (x : Int) : Rel := if x > 0 then Rel.GT else if x == 0 then Rel.EQ else Rel.LT

/-- `cmp_generic` (for two operands of one type `lt` is the native `<`) -/
def cmpNative (x y : Int) : Rel := if y < x then Rel.GT else if x < y then Rel.LT else Rel.EQ

/-- `sgn_ext` -/
def sgnExt (t : IntTy) (π : Policy) (x : Int) : Rel :=
  if t.isNan π x then Rel.EMPTY
  else if t.isMinf π x then Rel.LT
  else if t.isPinf π x then Rel.GT
  else sgnNative x

/-- `cmp_ext` -/
def cmpExt (t : IntTy) (π : Policy) (x y : Int) : Rel :=
  if t.isNan π x || t.isNan π y then Rel.EMPTY
  else if t.isMinf π x then (if t.isMinf π y then Rel.EQ else Rel.LT)
  else if t.isPinf π x then (if t.isPinf π y then Rel.EQ else Rel.GT)
  else if t.isMinf π y then Rel.GT
  else if t.isPinf π y then Rel.LT
  else cmpNative x y

/-! ## the extended layer (`checked_ext_inlines.hh`): what `*_assign_r` call -/

/-- the common shape of `assign_ext`, `floor_ext`, `add_2exp_ext` …: NaN ↦ NaN, ±∞ ↦ ±∞ -/
def extUnary (t : IntTy) (π : Policy) (f : IntTy) (πf : Policy) (to0 x : Int) (dir : Dir)
    (native : Unit → Int × Result) : Int × Result :=
  if f.isNan πf x then assignSpecial t π to0 .nan .ignore
  else if f.isMinf πf x then assignSpecial t π to0 .minf dir
  else if f.isPinf πf x then assignSpecial t π to0 .pinf dir
  else native ()

def assignExt (t : IntTy) (π : Policy) (f : IntTy) (πf : Policy) (to0 x : Int) (dir : Dir) : Int × Result :=
  extUnary t π f πf to0 x dir fun _ => assignInt t π f πf to0 x dir

def negExt (t : IntTy) (π : Policy) (to0 x : Int) (dir : Dir) : Int × Result :=
  if t.isNan π x then assignSpecial t π to0 .nan .ignore
  else if t.isMinf π x then assignSpecial t π to0 .pinf dir
  else if t.isPinf π x then assignSpecial t π to0 .minf dir
  else neg t π to0 x dir

def absExt (t : IntTy) (π : Policy) (to0 x : Int) (dir : Dir) : Int × Result :=
  if t.isNan π x then assignSpecial t π to0 .nan .ignore
  else if t.isMinf π x || t.isPinf π x then assignSpecial t π to0 .pinf dir
  else abs t π to0 x dir

def addExt (t : IntTy) (π : Policy) (to0 x y : Int) (dir : Dir) : Int × Result :=
  if t.isNan π x || t.isNan π y then assignSpecial t π to0 .nan .ignore
  else if t.isMinf π x then
    if π.checkInfAddInf && t.isPinf π y then assignNan t π to0 V_INF_ADD_INF
    else assignSpecial t π to0 .minf dir
  else if t.isPinf π x then
    if π.checkInfAddInf && t.isMinf π y then assignNan t π to0 V_INF_ADD_INF
    else assignSpecial t π to0 .pinf dir
  else if t.isMinf π y then assignSpecial t π to0 .minf dir
  else if t.isPinf π y then assignSpecial t π to0 .pinf dir
  else add t π to0 x y dir

def subExt (t : IntTy) (π : Policy) (to0 x y : Int) (dir : Dir) : Int × Result :=
  if t.isNan π x || t.isNan π y then assignSpecial t π to0 .nan .ignore
  else if t.isMinf π x then
    if π.checkInfSubInf && t.isMinf π y then assignNan t π to0 V_INF_SUB_INF
    else assignSpecial t π to0 .minf dir
  else if t.isPinf π x then
    if π.checkInfSubInf && t.isPinf π y then assignNan t π to0 V_INF_SUB_INF
    else assignSpecial t π to0 .pinf dir
  else if t.isPinf π y then assignSpecial t π to0 .minf dir
  else if t.isMinf π y then assignSpecial t π to0 .pinf dir
  else sub t π to0 x y dir

/-- the sign analysis shared by `mul_ext`, `add_mul_ext`, `sub_mul_ext`:
`some c` = the product is the infinity `c` (`.nan` = `inf_mul_zero`), `none` = both finite -/
def mulInfClass (t : IntTy) (π : Policy) (x y : Int) : Option Cls :=
  let ofSgn (pos : Bool) (s : Rel) : Cls :=
    if s == Rel.LT then (if pos then .minf else .pinf)
    else if s == Rel.GT then (if pos then .pinf else .minf)
    else .nan
  if t.isMinf π x then some (ofSgn false (sgnExt t π y))
  else if t.isPinf π x then some (ofSgn true (sgnExt t π y))
  else if t.isMinf π y then some (ofSgn false (sgnNative x))
  else if t.isPinf π y then some (ofSgn true (sgnNative x))
  else none

def mulExt (t : IntTy) (π : Policy) (to0 x y : Int) (dir : Dir) : Int × Result :=
  if t.isNan π x || t.isNan π y then assignSpecial t π to0 .nan .ignore
  else match mulInfClass t π x y with
    | some .nan => assignNan t π to0 V_INF_MUL_ZERO
    | some c => assignSpecial t π to0 c dir
    | none => mul t π to0 x y dir

def addMulExt (t : IntTy) (π : Policy) (to0 x y : Int) (dir : Dir) : Int × Result :=
  if t.isNan π to0 || t.isNan π x || t.isNan π y then assignSpecial t π to0 .nan .ignore
  else match mulInfClass t π x y with
    | some .nan => assignNan t π to0 V_INF_MUL_ZERO
    | some .minf =>
      if π.checkInfAddInf && t.isPinf π to0 then assignNan t π to0 V_INF_ADD_INF
      else assignSpecial t π to0 .minf dir
    | some _ =>
      if π.checkInfAddInf && t.isMinf π to0 then assignNan t π to0 V_INF_ADD_INF
      else assignSpecial t π to0 .pinf dir
    | none =>
      if t.isMinf π to0 then assignSpecial t π to0 .minf dir
      else if t.isPinf π to0 then assignSpecial t π to0 .pinf dir
      else addMul t π to0 x y dir

def subMulExt (t : IntTy) (π : Policy) (to0 x y : Int) (dir : Dir) : Int × Result :=
  if t.isNan π to0 || t.isNan π x || t.isNan π y then assignSpecial t π to0 .nan .ignore
  else match mulInfClass t π x y with
    | some .nan => assignNan t π to0 V_INF_MUL_ZERO
    | some .minf =>       -- a_minf: to - (-inf)
      if π.checkInfSubInf && t.isMinf π to0 then assignNan t π to0 V_INF_SUB_INF
      else assignSpecial t π to0 .pinf dir
    | some _ =>           -- a_pinf: to - (+inf)
      if π.checkInfSubInf && t.isPinf π to0 then assignNan t π to0 V_INF_SUB_INF
      else assignSpecial t π to0 .minf dir
    | none =>
      if t.isMinf π to0 then assignSpecial t π to0 .minf dir
      else if t.isPinf π to0 then assignSpecial t π to0 .pinf dir
      else subMul t π to0 x y dir

/-- the shared shape of `div_ext` / `idiv_ext`; `sgn<From2_Policy>(y)` is the *native* sign
of the bit pattern of `y` (an unchecked `inf / inf` is decided by it) -/
def divLikeExt (t : IntTy) (π : Policy) (to0 x y : Int) (dir : Dir) (native : Unit → Int × Result) :
    Int × Result :=
  if t.isNan π x || t.isNan π y then assignSpecial t π to0 .nan .ignore
  else if t.isMinf π x then
    if π.checkInfDivInf && (t.isMinf π y || t.isPinf π y) then assignNan t π to0 V_INF_DIV_INF
    else
      let s := sgnNative y
      if s == Rel.LT then assignSpecial t π to0 .pinf dir
      else if s == Rel.GT then assignSpecial t π to0 .minf dir
      else assignNan t π to0 V_DIV_ZERO
  else if t.isPinf π x then
    if π.checkInfDivInf && (t.isMinf π y || t.isPinf π y) then assignNan t π to0 V_INF_DIV_INF
    else
      let s := sgnNative y
      if s == Rel.LT then assignSpecial t π to0 .minf dir
      else if s == Rel.GT then assignSpecial t π to0 .pinf dir
      else assignNan t π to0 V_DIV_ZERO
  else if t.isMinf π y || t.isPinf π y then (0, V_EQ)
  else native ()

def divExt (t : IntTy) (π : Policy) (to0 x y : Int) (dir : Dir) : Int × Result :=
  divLikeExt t π to0 x y dir fun _ => div t π to0 x y dir

def idivExt (t : IntTy) (π : Policy) (to0 x y : Int) (dir : Dir) : Int × Result :=
  divLikeExt t π to0 x y dir fun _ => idiv t π to0 x y dir

def remExt (t : IntTy) (π : Policy) (to0 x y : Int) (dir : Dir) : Int × Result :=
  if t.isNan π x || t.isNan π y then assignSpecial t π to0 .nan .ignore
  else if π.checkInfMod && (t.isMinf π x || t.isPinf π x) then assignNan t π to0 V_INF_MOD
  else if t.isMinf π y || t.isPinf π y then (x, V_EQ)
  else rem t π to0 x y dir

def twoExpExt (t : IntTy) (π : Policy) (to0 x : Int) (dir : Dir) (native : Unit → Int × Result) : Int × Result :=
  extUnary t π t π to0 x dir native

def modExt (t : IntTy) (π : Policy) (to0 x : Int) (native : Unit → Int × Result) : Int × Result :=
  if t.isNan π x then assignSpecial t π to0 .nan .ignore
  else if π.checkInfMod && (t.isMinf π x || t.isPinf π x) then assignNan t π to0 V_INF_MOD
  else native ()

def sqrtExt (t : IntTy) (π : Policy) (to0 x : Int) (dir : Dir) : Int × Result :=
  if t.isNan π x then assignSpecial t π to0 .nan .ignore
  else if t.isMinf π x then assignNan t π to0 V_SQRT_NEG
  else if t.isPinf π x then assignSpecial t π to0 .pinf dir
  else sqrt t π to0 x dir

def gcdExt (t : IntTy) (π : Policy) (to0 x y : Int) (dir : Dir) : Int × Result :=
  if t.isNan π x || t.isNan π y then assignSpecial t π to0 .nan .ignore
  else if t.isMinf π x || t.isPinf π x then absExt t π to0 y dir
  else if t.isMinf π y || t.isPinf π y then absExt t π to0 x dir
  else gcd t π to0 x y dir

def lcmExt (t : IntTy) (π : Policy) (to0 x y : Int) (dir : Dir) : Int × Result :=
  if t.isNan π x || t.isNan π y then assignSpecial t π to0 .nan .ignore
  else if t.isMinf π x || t.isPinf π x || t.isMinf π y || t.isPinf π y then assignSpecial t π to0 .pinf dir
  else lcm t π to0 x y dir

/-! ## one entry point -/

inductive IntOp
  | assign (f : IntTy) (πf : Policy)
  | neg | abs | add | sub | mul | div | idiv | rem | addMul | subMul
  | add2exp | sub2exp | mul2exp | div2exp | smod2exp | umod2exp
  | sqrt | gcd | lcm
deriving DecidableEq, Repr, Inhabited

structure Operands where
  to0 : Int := 0
  x : Int := 0
  y : Int := 0
  e : Nat := 0
deriving Repr, Inhabited

/-- what `assign_r`, `neg_assign_r`, `add_assign_r` … do on `Checked_Number<T, π>` operands -/
def IntOp.run (t : IntTy) (π : Policy) (op : IntOp) (dir : Dir) (a : Operands) : Int × Result :=
  match op with
  | .assign f πf => assignExt t π f πf a.to0 a.x dir
  | .neg => negExt t π a.to0 a.x dir
  | .abs => absExt t π a.to0 a.x dir
  | .add => addExt t π a.to0 a.x a.y dir
  | .sub => subExt t π a.to0 a.x a.y dir
  | .mul => mulExt t π a.to0 a.x a.y dir
  | .div => divExt t π a.to0 a.x a.y dir
  | .idiv => idivExt t π a.to0 a.x a.y dir
  | .rem => remExt t π a.to0 a.x a.y dir
  | .addMul => addMulExt t π a.to0 a.x a.y dir
  | .subMul => subMulExt t π a.to0 a.x a.y dir
  | .add2exp => twoExpExt t π a.to0 a.x dir fun _ => PPLV.Checked.add2exp t π a.to0 a.x a.e dir
  | .sub2exp => twoExpExt t π a.to0 a.x dir fun _ => PPLV.Checked.sub2exp t π a.to0 a.x a.e dir
  | .mul2exp => twoExpExt t π a.to0 a.x dir fun _ => PPLV.Checked.mul2exp t π a.to0 a.x a.e dir
  | .div2exp => twoExpExt t π a.to0 a.x dir fun _ => PPLV.Checked.div2exp t π a.to0 a.x a.e dir
  | .smod2exp => modExt t π a.to0 a.x fun _ => PPLV.Checked.smod2exp t π a.to0 a.x a.e dir
  | .umod2exp => modExt t π a.to0 a.x fun _ => PPLV.Checked.umod2exp t π a.to0 a.x a.e dir
  | .sqrt => sqrtExt t π a.to0 a.x dir
  | .gcd => gcdExt t π a.to0 a.x a.y dir
  | .lcm => lcmExt t π a.to0 a.x a.y dir

end PPLV.Checked

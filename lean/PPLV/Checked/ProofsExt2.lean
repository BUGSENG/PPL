import PPLV.Checked.ProofsExt
import PPLV.Checked.ProofsSmod2exp
/-!
# C11 proofs: the extended layer for division, remainder and the power-of-two operations
-/
namespace PPLV.Checked
open Result

/-- the rational value of an executable `Exact` (a square root has none: `sqrt` is not covered) -/
def Exact.toQ : Exact → Ext Rat
  | .nan => .nan | .minf => .minf | .pinf => .pinf
  | .frac n d => .fin ((n : Rat) / (d : Rat))
  | .sqrt _ _ => .nan

theorem Exact.toQ_ofExt (a : Ext Int) : (Exact.ofExt a).toQ = a.map Int.cast := by
  cases a <;> simp [Exact.ofExt, Exact.ofInt, Exact.toQ, Ext.map]

theorem exactDiv_fin_toQ (x y : Int) : (exactDiv (.fin x) (.fin y)).toQ = divExactQ x y := by
  unfold exactDiv divExactQ
  by_cases hz : y = 0
  · simp [hz, Exact.toQ]
  · have hb : (y == 0) = false := by simpa using hz
    simp only [hb, Bool.false_eq_true, if_false, hz]
    split
    · simp only [Exact.toQ]; congr 1; push_cast; rw [neg_div_neg_eq]
    · rfl

/-- **the shape shared by `div_ext` and `idiv_ext`**: the special operands are dealt with before the native
primitive `native` is reached; `E` is the exact result, which the two operations define alike except on a
pair of finite operands -/
theorem divLikeExt_okq {t : IntTy} {π : Policy} (w : t.WF π) (dir : Dir) {to0 x y : Int} (h0 : t.inRange to0)
    (hx : t.inRange x) (hy : t.inRange y)
    (hpre1 : π.checkInfDivInf = true ∨ ¬ ((t.denote π x).isInf = true ∧ (t.denote π y).isInf = true))
    (native : Unit → Int × Result) (E : Ext Int → Ext Int → Exact) :
    (∀ a b, (a.isFin && b.isFin) = false → E a b = exactDiv a b) →
    (t.finite π x → t.finite π y → t.denote π x = .fin x → t.denote π y = .fin y →
      OKQ t π dir (native ()) (E (.fin x) (.fin y)).toQ) →
    OKQ t π dir (divLikeExt t π to0 x y dir native) (E (t.denote π x) (t.denote π y)).toQ := by
  unfold divLikeExt
  rcases IntTy.denote_cases w hx with ⟨a, d⟩ | ⟨a, b, c, d⟩ | ⟨a, b, c, d⟩ | ⟨a, b, c, d, f⟩ <;>
  rcases IntTy.denote_cases w hy with ⟨a', d'⟩ | ⟨a', b', c', d'⟩ | ⟨a', b', c', d'⟩ | ⟨a', b', c', d', f'⟩ <;>
  (try rw [d, d'] at hpre1) <;> ext_simp <;> intro hE hnat
  -- finite / finite
  case inr.inr.inr.inr.inr.inr => exact hnat trivial trivial trivial trivial
  all_goals rw [hE _ _ rfl]; simp only [exactDiv, Exact.toQ]
  all_goals first
    | exact ok_toQ (okNanSpecial w dir h0)
    | skip
  -- inf / inf
  all_goals first
    | (rcases hpre1 with h | h
       · rw [if_pos h]; exact ok_toQ (okNanReason w dir h0 rfl)
       · exact absurd (by simp [Ext.isInf]) h)
    | skip
  -- inf / finite
  all_goals first
    | (rcases sgnNative_cases y with ⟨s1, s2, s3, s4, -⟩ | ⟨s1, s4, -⟩ | ⟨s1, s2, s3, s4, -⟩ <;> (try subst s1) <;>
        simp [*, Rel.GT, Rel.LT, Rel.EQ, Ext.sgnI] <;>
        first
          | exact ok_toQ (okMinf w dir h0)
          | exact ok_toQ (okPinf w dir h0)
          | exact ok_toQ (okNanReason w dir h0 rfl))
    | skip
  -- finite / inf
  all_goals
    have hz : t.finite π 0 := ⟨(IntTy.emin_le_emax w).1, (IntTy.emin_le_emax w).2⟩
    have := ok_toQ (ok_eq w dir hz)
    simpa [Exact.ofInt, Exact.toQ, Ext.map] using this

theorem divExt_okq {t : IntTy} {π : Policy} (w : t.WF π) (hl : t.LargerOK) (hco : π.checkOverflow = true)
    (dir : Dir) {to0 x y : Int} (h0 : t.inRange to0) (hx : t.inRange x) (hy : t.inRange y)
    (hpre1 : π.checkInfDivInf = true ∨ ¬ ((t.denote π x).isInf = true ∧ (t.denote π y).isInf = true))
    (hpre2 : π.checkDivZero = true ∨ ¬ (t.denote π y = .fin 0 ∧ ∃ v, t.denote π x = .fin v)) :
    OKQ t π dir (divExt t π to0 x y dir) (exactDiv (t.denote π x) (t.denote π y)).toQ := by
  refine divLikeExt_okq w dir h0 hx hy hpre1 _ exactDiv (fun _ _ _ => rfl) fun f f' d d' => ?_
  have hdz : π.checkDivZero = true ∨ y ≠ 0 :=
    hpre2.imp id fun h hy0 => h ⟨by rw [d', hy0], x, d⟩
  rw [exactDiv_fin_toQ]
  unfold div
  cases hs : t.signed
  · simpa using divUnsigned_okq w hs dir h0 f f' hdz
  · simpa using divSigned_okq w hs hl hco dir h0 f f' hdz

theorem idivExt_ok {t : IntTy} {π : Policy} (w : t.WF π) (hl : t.LargerOK) (hco : π.checkOverflow = true)
    (dir : Dir) {to0 x y : Int} (h0 : t.inRange to0) (hx : t.inRange x) (hy : t.inRange y)
    (hpre1 : π.checkInfDivInf = true ∨ ¬ ((t.denote π x).isInf = true ∧ (t.denote π y).isInf = true))
    (hpre2 : π.checkDivZero = true ∨ ¬ (t.denote π y = .fin 0 ∧ ∃ v, t.denote π x = .fin v)) :
    OKQ t π dir (idivExt t π to0 x y dir) (exactIdiv (t.denote π x) (t.denote π y)).toQ := by
  refine divLikeExt_okq w dir h0 hx hy hpre1 _ exactIdiv (fun a b h => ?_) fun f f' d d' => ?_
  · cases a <;> cases b <;> first | rfl | cases h
  unfold idiv exactIdiv
  by_cases hz : y = 0
  · subst hz
    have hc : π.checkDivZero = true := hpre2.resolve_right (not_not.mpr ⟨d', x, d⟩)
    simp only [idivSigned, idivUnsigned, hc, beq_self_eq_true, Bool.and_self, if_true, ite_self, Exact.toQ]
    exact ok_toQ (okNanReason w dir h0 rfl)
  · have hb : (y == 0) = false := by simpa using hz
    simp only [hb, Bool.false_eq_true, if_false, Exact.ofInt, Exact.toQ]
    have e : (Ext.fin (((x.tdiv y : Int) : Rat) / ((1 : Int) : Rat)) : Ext Rat) = (Ext.fin (x.tdiv y)).map Int.cast := by
      simp [Ext.map]
    rw [e]
    cases hs : t.signed
    · simpa using ok_toQ (tri_ok w h0 (idivUnsigned_tri w hs dir f f' hz))
    · simpa using ok_toQ (tri_ok w h0 (idivSigned_tri w hs hl hco dir h0 f f' hz))

theorem remExt_ok {t : IntTy} {π : Policy} (w : t.WF π)
    (dir : Dir) {to0 x y : Int} (h0 : t.inRange to0) (hx : t.inRange x) (hy : t.inRange y)
    (hpre1 : π.checkInfMod = true ∨ (t.denote π x).isInf = false)
    (hpre2 : π.checkDivZero = true ∨ ¬ (t.denote π y = .fin 0 ∧ ∃ v, t.denote π x = .fin v)) :
    OKQ t π dir (remExt t π to0 x y dir) (exactRem (t.denote π x) (t.denote π y)).toQ := by
  unfold remExt
  rcases IntTy.denote_cases w hx with ⟨a, d⟩ | ⟨a, b, c, d⟩ | ⟨a, b, c, d⟩ | ⟨a, b, c, d, f⟩ <;>
  rcases IntTy.denote_cases w hy with ⟨a', d'⟩ | ⟨a', b', c', d'⟩ | ⟨a', b', c', d'⟩ | ⟨a', b', c', d', f'⟩ <;>
  (try rw [d] at hpre1) <;> (try rw [d, d'] at hpre2) <;> ext_simp <;> simp only [exactRem, Exact.toQ]
  all_goals first
    | exact ok_toQ (okNanSpecial w dir h0)
    | skip
  -- infinite dividend: only with check_inf_mod
  all_goals first
    | (rcases hpre1 with h | h
       · simp only [h, if_true]; exact ok_toQ (okNanReason w dir h0 rfl)
       · simp [Ext.isInf] at h)
    | skip
  -- finite dividend, infinite divisor: the dividend itself
  all_goals first
    | (have := ok_toQ (ok_eq w dir f)
       simpa [Exact.ofInt, Exact.toQ, Ext.map] using this)
    | skip
  -- finite / finite
  by_cases hz : y = 0
  · subst hz
    have hc : π.checkDivZero = true := by
      rcases hpre2 with h | h
      · exact h
      · exact absurd ⟨rfl, x, rfl⟩ h
    simp only [rem, remSigned, remUnsigned, hc, beq_self_eq_true, Bool.and_self, if_true, ite_self]
    exact ok_toQ (okNanReason w dir h0 rfl)
  · have hb : (y == 0) = false := by simpa using hz
    simp only [hb, Bool.false_eq_true, if_false, Exact.ofInt]
    have e : (Ext.fin (((x.tmod y : Int) : Rat) / ((1 : Int) : Rat)) : Ext Rat) = (Ext.fin (x.tmod y)).map Int.cast := by
      simp [Ext.map]
    rw [e]
    exact ok_toQ (tri_ok w h0 (rem_tri w dir f hz))

/-- `add_2exp_ext`, `sub_2exp_ext`, `mul_2exp_ext`: integer-valued -/
theorem add2expExt_ok {t : IntTy} {π : Policy} (w : t.WF π) (hl : t.LargerOK) (hb2 : t.signed = true → 2 ≤ t.bits)
    (hco : π.checkOverflow = true) (dir : Dir) {to0 x : Int} (e : Nat) (h0 : t.inRange to0) (hx : t.inRange x) :
    OK t π dir (twoExpExt t π to0 x dir fun _ => add2exp t π to0 x e dir) (Ext.addI (t.denote π x) (.fin (pow2 e))) := by
  unfold twoExpExt extUnary
  rcases IntTy.denote_cases w hx with ⟨a, d⟩ | ⟨a, b, c, d⟩ | ⟨a, b, c, d⟩ | ⟨a, b, c, d, f⟩ <;> ext_simp
  · exact okNanSpecial w dir h0
  · exact okMinf w dir h0
  · exact okPinf w dir h0
  · exact tri_ok w h0 (add2exp_tri w hl hb2 hco dir e h0 f)

theorem sub2expExt_ok {t : IntTy} {π : Policy} (w : t.WF π) (hl : t.LargerOK) (hb2 : t.signed = true → 2 ≤ t.bits)
    (hco : π.checkOverflow = true) (dir : Dir) {to0 x : Int} (e : Nat) (h0 : t.inRange to0) (hx : t.inRange x) :
    OK t π dir (twoExpExt t π to0 x dir fun _ => sub2exp t π to0 x e dir) (Ext.subI (t.denote π x) (.fin (pow2 e))) := by
  unfold twoExpExt extUnary
  rcases IntTy.denote_cases w hx with ⟨a, d⟩ | ⟨a, b, c, d⟩ | ⟨a, b, c, d⟩ | ⟨a, b, c, d, f⟩ <;> ext_simp
  · exact okNanSpecial w dir h0
  · exact okMinf w dir h0
  · exact okPinf w dir h0
  · simpa [Int.sub_eq_add_neg] using tri_ok w h0 (sub2exp_tri w hl hb2 hco dir e h0 f)

theorem mul2expExt_ok {t : IntTy} {π : Policy} (w : t.WF π)
    (hco : π.checkOverflow = true) (dir : Dir) {to0 x : Int} (e : Nat) (h0 : t.inRange to0) (hx : t.inRange x) :
    OK t π dir (twoExpExt t π to0 x dir fun _ => mul2exp t π to0 x e dir) (Ext.mulI (t.denote π x) (.fin (pow2 e))) := by
  have pe := pow2_pos e
  have s1 : ¬ pow2 e < 0 := by omega
  have s2 : pow2 e > 0 := by omega
  unfold twoExpExt extUnary
  rcases IntTy.denote_cases w hx with ⟨a, d⟩ | ⟨a, b, c, d⟩ | ⟨a, b, c, d⟩ | ⟨a, b, c, d, f⟩ <;> ext_simp
  · exact okNanSpecial w dir h0
  · simp; exact okMinf w dir h0
  · simp; exact okPinf w dir h0
  · exact tri_ok w h0 (mul2exp_tri w hco dir e f)

theorem div2expExt_okq {t : IntTy} {π : Policy} (w : t.WF π)
    (dir : Dir) {to0 x : Int} (e : Nat) (h0 : t.inRange to0) (hx : t.inRange x) :
    OKQ t π dir (twoExpExt t π to0 x dir fun _ => div2exp t π to0 x e dir)
      (exactDiv (t.denote π x) (.fin (pow2 e))).toQ := by
  have pe := pow2_pos e
  have s0 : (pow2 e == 0) = false := by simp; omega
  have s1 : ¬ pow2 e < 0 := by omega
  have s2 : ¬ -1 * pow2 e ≥ 0 := by omega
  unfold twoExpExt extUnary
  rcases IntTy.denote_cases w hx with ⟨a, d⟩ | ⟨a, b, c, d⟩ | ⟨a, b, c, d⟩ | ⟨a, b, c, d, f⟩ <;> ext_simp <;>
    simp only [exactDiv, s0, Bool.false_eq_true, if_false, Exact.toQ, s1]
  · exact ok_toQ (okNanSpecial w dir h0)
  · have e1 : Ext.minf.sgnI * pow2 e < 0 := by simp only [Ext.sgnI]; omega
    rw [if_pos e1]
    exact ok_toQ (okMinf w dir h0)
  · have e1 : ¬ Ext.pinf.sgnI * pow2 e < 0 := by simp only [Ext.sgnI]; omega
    rw [if_neg e1]
    exact ok_toQ (okPinf w dir h0)
  · exact div2exp_okq w dir e f

/-- **the shape of `umod_2exp_ext` and `smod_2exp_ext`**: NaN gives NaN, an infinite operand is `V_INF_MOD`
(outside the contract unless `check_inf_mod`), a finite one reaches the native primitive `native`, whose exact
result is `E x` -/
theorem modExt_ok {t : IntTy} {π : Policy} (w : t.WF π)
    (dir : Dir) {to0 x : Int} (h0 : t.inRange to0) (hx : t.inRange x)
    (hpre : π.checkInfMod = true ∨ (t.denote π x).isInf = false) {native : Unit → Int × Result} {E : Int → Int}
    (hn : t.finite π x → Tri t π dir to0 (native ()) (E x)) :
    OK t π dir (modExt t π to0 x native) (match t.denote π x with | .fin v => .fin (E v) | _ => .nan) := by
  unfold modExt
  rcases IntTy.denote_cases w hx with ⟨a, d⟩ | ⟨a, b, c, d⟩ | ⟨a, b, c, d⟩ | ⟨a, b, c, d, f⟩ <;>
    (try rw [d] at hpre) <;> ext_simp
  · exact okNanSpecial w dir h0
  · rcases hpre with h | h
    · simp only [h, if_true]; exact okNanReason w dir h0 rfl
    · simp [Ext.isInf] at h
  · rcases hpre with h | h
    · simp only [h, if_true]; exact okNanReason w dir h0 rfl
    · simp [Ext.isInf] at h
  · exact tri_ok w h0 (hn f)

theorem umod2expExt_ok {t : IntTy} {π : Policy} (w : t.WF π)
    (dir : Dir) {to0 x : Int} (e : Nat) (h0 : t.inRange to0) (hx : t.inRange x)
    (hpre : π.checkInfMod = true ∨ (t.denote π x).isInf = false) :
    OK t π dir (modExt t π to0 x fun _ => umod2exp t π to0 x e dir)
      (match t.denote π x with | .fin v => .fin (v % pow2 e) | _ => .nan) :=
  modExt_ok w dir h0 hx hpre (E := fun v => v % pow2 e) (umod2exp_tri w dir e)

theorem smod2expExt_ok {t : IntTy} {π : Policy} (w : t.WF π)
    (dir : Dir) {to0 x : Int} (e : Nat) (he : 1 ≤ e) (h0 : t.inRange to0) (hx : t.inRange x)
    (hpre : π.checkInfMod = true ∨ (t.denote π x).isInf = false) :
    OK t π dir (modExt t π to0 x fun _ => smod2exp t π to0 x e dir)
      (match t.denote π x with | .fin v => .fin (smodInt v e) | _ => .nan) :=
  modExt_ok w dir h0 hx hpre (E := fun v => smodInt v e) (smod2exp_tri w dir e he)

end PPLV.Checked

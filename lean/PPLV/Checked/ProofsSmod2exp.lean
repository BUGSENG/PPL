import PPLV.Checked.ProofsDiv2exp
/-!
# C11 proofs: `smod_2exp` (signed residue modulo a power of two)
-/
namespace PPLV.Checked
open Result

/-- `x mod 2m` from `x mod m` and the parity of `x / m` -/
theorem emod_two_mul (x : Int) {m : Int} (hm : 0 < m) :
    x % (2 * m) = x % m + (if (x / m) % 2 = 1 then m else 0) := by
  obtain ⟨e1, r0, r1⟩ := ediv_emod_pos x hm
  obtain ⟨e2, b0, b1⟩ := ediv_emod_pos (x / m) (show (0 : Int) < 2 by omega)
  generalize x / m = q at *
  generalize x % m = r at *
  generalize q / 2 = q' at *
  generalize q % 2 = b at *
  have hx : x = (m * b + r) + (2 * m) * q' := by
    have : m * q = m * (2 * q') + m * b := by rw [← e2]; ring
    rw [← e1, this]; ring
  rw [hx, Int.add_mul_emod_self_left]
  rcases (by omega : b = 0 ∨ b = 1) with hb | hb
  · subst hb
    simp only [Int.mul_zero, Int.zero_add]
    rw [Int.emod_eq_of_lt (by omega) (by omega)]
    simp
  · subst hb
    simp only [Int.mul_one, if_true]
    rw [Int.emod_eq_of_lt (by omega) (by omega)]
    omega

theorem IntTy.signed_tight_or_big {t : IntTy} {π : Policy} (w : t.WF π) (hs : t.signed = true) :
    (t.emin π = -t.half ∧ t.emax π = t.half - 1) ∨ 4 ≤ t.half := by
  obtain ⟨-, n0, -, i0, -, hr⟩ := w.flags
  obtain ⟨-, -, e1, e2, -⟩ := t.layout_signed π hs
  omega

/-! ### the signed residue `smodInt x e` -/

theorem smodInt_def (x : Int) (e : Nat) :
    smodInt x e = if 2 * (x % pow2 e) ≥ pow2 e then x % pow2 e - pow2 e else x % pow2 e := rfl

/-- a value of the symmetric range `[-2^(e-1), 2^(e-1))` is its own residue -/
theorem smodInt_of_small {x : Int} {e : Nat} (h1 : -pow2 e ≤ 2 * x) (h2 : 2 * x < pow2 e) : smodInt x e = x := by
  have hp := pow2_pos e
  rw [smodInt_def]
  rcases (by omega : x < 0 ∨ 0 ≤ x) with hx | hx
  · have hr : x % pow2 e = x + pow2 e := by
      rw [← Int.add_emod_right]; exact Int.emod_eq_of_lt (by omega) (by omega)
    rw [hr, if_pos (by omega)]; omega
  · rw [Int.emod_eq_of_lt hx (by omega), if_neg (by omega)]

/-- the residue of a non-negative `v < 2^e` -/
theorem smodInt_of_residue {v : Int} {e : Nat} (h0 : 0 ≤ v) (h1 : v < pow2 e) :
    smodInt v e = if 2 * v ≥ pow2 e then v - pow2 e else v := by
  rw [smodInt_def, Int.emod_eq_of_lt h0 h1]

theorem smodInt_emod (x : Int) (e : Nat) : smodInt (x % pow2 e) e = smodInt x e := by
  rw [smodInt_def, smodInt_def, Int.emod_emod_of_dvd _ (Int.dvd_refl _)]

/-- `(x & (m - 1)) - (x & m)` with `m = 2^(e-1)` is the signed residue, and lies in `[-m, m)` -/
theorem smodInt_eq_bits (x : Int) {e : Nat} (he : 1 ≤ e) :
    x % pow2 (e - 1) - (if (x / pow2 (e - 1)) % 2 = 1 then pow2 (e - 1) else 0) = smodInt x e ∧
    -pow2 (e - 1) ≤ smodInt x e ∧ smodInt x e < pow2 (e - 1) := by
  have hm := pow2_pos (e - 1)
  have hee : pow2 e = 2 * pow2 (e - 1) := by rw [← pow2_succ]; congr 1; omega
  obtain ⟨-, r0, r1⟩ := ediv_emod_pos x (show 0 < pow2 (e - 1) by omega)
  rw [smodInt_def, hee, emod_two_mul x (by omega)]
  generalize x % pow2 (e - 1) = r at *
  generalize pow2 (e - 1) = m at *
  by_cases hbit : (x / m) % 2 = 1
  · rw [if_pos hbit, if_pos (by omega)]; omega
  · rw [if_neg hbit, Int.add_zero, if_neg (by omega)]; omega

theorem smod2exp_tri {t : IntTy} {π : Policy} (w : t.WF π)
    (dir : Dir) {to0 x : Int} (e : Nat) (he : 1 ≤ e) (hx : t.finite π x) :
    Tri t π dir to0 (smod2exp t π to0 x e dir) (smodInt x e) := by
  obtain ⟨es, eu⟩ := IntTy.erange_half w
  have pe := pow2_pos e
  have hee : pow2 e = 2 * pow2 (e - 1) := by rw [← pow2_succ]; congr 1; omega
  obtain ⟨hx1, hx2⟩ := hx
  unfold smod2exp smod2expSigned smod2expUnsigned
  cases hs : t.signed <;> simp only [Bool.false_eq_true, if_false, if_true]
  · obtain ⟨e0, -, e2, -⟩ := eu hs
    clear es eu
    by_cases hgt : e > t.bits
    · -- `x < 2^bits ≤ 2^(e-1)`
      have h2 : 2 * t.half ≤ pow2 (e - 1) := pow2_ge_two_half w.bits_pos (by omega)
      rw [if_pos hgt, smodInt_of_small (by omega) (by omega)]
      exact tri_eq ⟨hx1, hx2⟩
    · rw [if_neg hgt]
      -- for `e = bits` the mask is skipped: `x < 2^e` already
      have hv : (if (e == t.bits) = true then x else x % pow2 e) = x % pow2 e := by
        by_cases heq : e = t.bits
        · have h2 : 2 * t.half ≤ pow2 e := pow2_ge_two_half w.bits_pos (by omega)
          rw [if_pos (by simpa using heq), Int.emod_eq_of_lt (by omega) (by omega)]
        · rw [if_neg (by simpa using heq)]
      obtain ⟨ed, v0, v1⟩ := ediv_emod_pos x (show 0 < pow2 e by omega)
      have hvx : x % pow2 e ≤ x := by
        have := Int.mul_nonneg (show 0 ≤ pow2 e by omega) (Int.ediv_nonneg (show 0 ≤ x by omega) (show 0 ≤ pow2 e by omega))
        omega
      clear ed
      rw [hv, ← smodInt_emod, smodInt_of_residue v0 v1]
      generalize x % pow2 e = v at *
      by_cases hge : v ≥ pow2 (e - 1)
      · rw [if_pos hge, if_pos (by omega)]; exact tri_neg (by omega)
      · rw [if_neg hge, if_neg (by omega)]; exact tri_eq ⟨by omega, by omega⟩
  · obtain ⟨e0, e1, e2, e3, -⟩ := es hs
    by_cases hge : e ≥ t.bits
    · have h2 : 2 * t.half ≤ pow2 e := pow2_ge_two_half w.bits_pos hge
      rw [if_pos hge, smodInt_of_small (by omega) (by omega)]
      exact tri_eq ⟨hx1, hx2⟩
    · rw [if_neg hge]
      have hbeq : ((x / pow2 (e - 1)) % 2 == 1) = decide ((x / pow2 (e - 1)) % 2 = 1) := by
        by_cases h : (x / pow2 (e - 1)) % 2 = 1 <;> simp [h]
      obtain ⟨heq, lo, hi⟩ := smodInt_eq_bits x he
      simp only [hbeq, decide_eq_true_eq, heq]
      -- `2^(e-1) ≤ half / 2`, and a range that is not the full one has `half ≥ 4`
      have hmle : 2 * pow2 (e - 1) ≤ t.half := by rw [← hee]; exact pow2_le_half (by omega)
      have := IntTy.signed_tight_or_big w hs
      exact tri_eq ⟨by omega, by omega⟩

end PPLV.Checked

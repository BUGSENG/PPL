import PPLV.Checked.ProofsFloat
import PPLV.Checked.FloatModel
/-!
# C11 proofs: `assign_float_mpz` for every binary format

The meaningful-bits test `exponent - zeroes > MANTISSA_BITS` is true exactly when the truncation of the
integer to `MANTISSA_BITS + 1` significant bits loses something; the result code, the direction and the
overflow claims are then true.
-/
namespace PPLV.Checked
open Result

/-- the trailing-zero count decides divisibility by a power of two -/
theorem pow2_dvd_iff {a : Int} {z s : Nat} (hz : pow2 z ∣ a) (hz1 : ¬ pow2 (z + 1) ∣ a) : pow2 s ∣ a ↔ s ≤ z := by
  constructor
  · intro h
    by_contra hc
    exact hz1 (Int.dvd_trans (pow2_dvd_pow2 (by omega)) h)
  · intro h
    exact Int.dvd_trans (pow2_dvd_pow2 h) hz

theorem FloatFormat.maxF_lt (f : FloatFormat) (hf : f.mbits ≤ f.emax) : f.maxF < pow2 (f.emax + 1) ∧ 0 < f.maxF := by
  unfold FloatFormat.maxF
  have e : pow2 (f.emax + 1) = pow2 (f.mbits + 1) * pow2 (f.emax - f.mbits) := by
    rw [← pow2_add]; congr 1; omega
  rw [e]
  have h1 := pow2_pos (f.emax - f.mbits)
  have h2 := pow2_pos (f.mbits + 1)
  have h3 : 2 ≤ pow2 (f.mbits + 1) := by rw [pow2_succ]; have := pow2_pos f.mbits; omega
  constructor <;> nlinarith

section outcomes
variable {dir : Dir} {lo hi v s : Int}

/-- all three clauses for one outcome -/
def OKF (dir : Dir) (lo hi : Int) (out : Ext Int × Result) (v : Int) : Prop :=
  K4.holdsF out.2 out.1 (.fin v) ∧ K4.directed dir out.2 out.1 (.fin v) ∧ K4.overflowHolds out.2 lo hi (.fin v)

theorem okF_eq : OKF dir lo hi (.fin v, V_EQ) v := by
  simp [OKF, K4.holdsF, K4.directed, K4.overflowHolds, V_EQ, K4.relHolds, Rel.EQ, Ext.eqv, Ext.le]

theorem okF_lt (h : v < s) (hd : dir.roundDown = false) : OKF dir lo hi (.fin s, V_LT) v := by
  refine ⟨?_, ?_, ?_⟩
  · simp [K4.holdsF, V_LT, K4.relHolds, Rel.LT, Ext.lt, h]
  · unfold K4.directed; intro _ _
    exact ⟨fun _ => Or.inl h, fun hh => by rw [hh] at hd; cases hd⟩
  · simp [K4.overflowHolds, V_LT]

theorem okF_gt (h : s < v) (hu : dir.roundUp = false) : OKF dir lo hi (.fin s, V_GT) v := by
  refine ⟨?_, ?_, ?_⟩
  · simp [K4.holdsF, V_GT, K4.relHolds, Rel.GT, Ext.lt, h]
  · unfold K4.directed; intro _ _
    exact ⟨fun hh => (by rw [hh] at hu; cases hu), fun _ => Or.inl h⟩
  · simp [K4.overflowHolds, V_GT]

theorem okF_lt_pinf (hd : dir.roundDown = false) : OKF dir lo hi (.pinf, V_LT) v := by
  refine ⟨?_, ?_, ?_⟩
  · simp [K4.holdsF, V_LT, K4.relHolds, Rel.LT, Ext.lt]
  · unfold K4.directed; intro _ _
    exact ⟨fun _ => Or.inl trivial, fun hh => by rw [hh] at hd; cases hd⟩
  · simp [K4.overflowHolds, V_LT]

theorem okF_gt_minf (hu : dir.roundUp = false) : OKF dir lo hi (.minf, V_GT) v := by
  refine ⟨?_, ?_, ?_⟩
  · simp [K4.holdsF, V_GT, K4.relHolds, Rel.GT, Ext.lt]
  · unfold K4.directed; intro _ _
    exact ⟨fun hh => (by rw [hh] at hu; cases hu), fun _ => Or.inl trivial⟩
  · simp [K4.overflowHolds, V_GT]

theorem okF_negOv_fin (h : v < lo) (hd : dir.roundDown = false) : OKF dir lo hi (.fin lo, V_LT_INF) v := by
  refine ⟨?_, ?_, ?_⟩
  · simp [K4.holdsF, V_LT_INF, K4.relHolds, Rel.LT, Ext.lt, h]
  · unfold K4.directed; intro _ _
    exact ⟨fun _ => Or.inl h, fun hh => by rw [hh] at hd; cases hd⟩
  · simp [K4.overflowHolds, V_LT_INF, Rel.LT, Rel.GT, Ext.lt, h]

theorem okF_negOv_inf (h : v < lo) (hu : dir.roundUp = false) : OKF dir lo hi (.minf, V_GT_MINUS_INFINITY) v := by
  refine ⟨?_, ?_, ?_⟩
  · simp [K4.holdsF, K4.holds, V_GT_MINUS_INFINITY, K4.relHolds, Rel.GT, Ext.lt]
  · unfold K4.directed; intro _ _
    exact ⟨fun hh => (by rw [hh] at hu; cases hu), fun _ => Or.inl trivial⟩
  · simp [K4.overflowHolds, V_GT_MINUS_INFINITY, Rel.LT, Rel.GT, Ext.lt, h]

theorem okF_posOv_fin (h : hi < v) (hu : dir.roundUp = false) : OKF dir lo hi (.fin hi, V_GT_SUP) v := by
  refine ⟨?_, ?_, ?_⟩
  · simp [K4.holdsF, V_GT_SUP, K4.relHolds, Rel.GT, Ext.lt, h]
  · unfold K4.directed; intro _ _
    exact ⟨fun hh => (by rw [hh] at hu; cases hu), fun _ => Or.inl h⟩
  · simp [K4.overflowHolds, V_GT_SUP, Rel.LT, Rel.GT, Ext.lt, h]

theorem okF_posOv_inf (h : hi < v) (hd : dir.roundDown = false) : OKF dir lo hi (.pinf, V_LT_PLUS_INFINITY) v := by
  refine ⟨?_, ?_, ?_⟩
  · simp [K4.holdsF, K4.holds, V_LT_PLUS_INFINITY, K4.relHolds, Rel.LT, Ext.lt]
  · unfold K4.directed; intro _ _
    exact ⟨fun _ => Or.inl trivial, fun hh => by rw [hh] at hd; cases hd⟩
  · simp [K4.overflowHolds, V_LT_PLUS_INFINITY, Rel.LT, Rel.GT, Ext.lt, h]

end outcomes

/-- **the mantissa of an integer** `a` with `z` trailing zero bits, cut at bit `e - mbits`: when the
meaningful-bits test `e - z > mbits` fails the value built from the mantissa is `a` again; when it holds,
`a` lies strictly between `mant · 2^(e-mbits)` and the next multiple -/
theorem mantissa_cases (mbits : Nat) {a : Int} {e z : Nat}
    (hz0 : pow2 z ∣ a) (hz1 : ¬ pow2 (z + 1) ∣ a) :
    (e - z > mbits → e > mbits ∧ a / pow2 (e - mbits) * pow2 (e - mbits) < a ∧
      a < (a / pow2 (e - mbits) + 1) * pow2 (e - mbits)) ∧
    (¬ e - z > mbits →
      (if e > mbits then a / pow2 (e - mbits) * pow2 (e - mbits) else a * pow2 (mbits - e) / pow2 (mbits - e)) = a) := by
  have hs := pow2_pos (e - mbits)
  obtain ⟨ed, r0, r1⟩ := ediv_emod_pos a (show 0 < pow2 (e - mbits) by omega)
  have hexact : a % pow2 (e - mbits) = 0 ↔ e - mbits ≤ z := by
    rw [← pow2_dvd_iff hz0 hz1]; exact (Int.dvd_iff_emod_eq_zero).symm
  have mc : a / pow2 (e - mbits) * pow2 (e - mbits) = pow2 (e - mbits) * (a / pow2 (e - mbits)) := Int.mul_comm _ _
  refine ⟨fun hin => ⟨by omega, ?_, ?_⟩, fun hin => ?_⟩
  · have : a % pow2 (e - mbits) ≠ 0 := fun h => by have := hexact.mp h; omega
    omega
  · rw [Int.add_mul, Int.one_mul]; omega
  · by_cases hem : e > mbits
    · rw [if_pos hem]
      have := hexact.mpr (by omega)
      omega
    · rw [if_neg hem]
      exact Int.mul_ediv_cancel a (by have := pow2_pos (mbits - e); omega)

/-- **C11 (float conversions).  `assign_float_mpz` for every format, integer and direction**: the code's
relation between the integer and the stored float is true, directed rounding is honoured, an overflow
claim is true.  `e`, `z` satisfy the specifications of `mpz_sizeinbase(·, 2) - 1` and `mpn_scan1(·, 0)`. -/
theorem assignFloatMpz_ok (f : FloatFormat) (hf : f.mbits ≤ f.emax) (v : Int) (e z : Nat) (dir : Dir)
    (he : v ≠ 0 → pow2 e ≤ (if v < 0 then -v else v) ∧ (if v < 0 then -v else v) < pow2 (e + 1))
    (hz : v ≠ 0 → pow2 z ∣ (if v < 0 then -v else v) ∧ ¬ pow2 (z + 1) ∣ (if v < 0 then -v else v)) :
    OKF dir (-(f.maxF)) f.maxF (f.assignMpz v e z dir) v := by
  unfold FloatFormat.assignMpz
  by_cases hv0 : v = 0
  · subst hv0; simpa using (okF_eq (dir := dir) (lo := -(f.maxF)) (hi := f.maxF) (v := 0))
  rw [if_neg (by simpa using hv0)]
  obtain ⟨ha1, ha2⟩ := he hv0
  obtain ⟨hz0, hz1⟩ := hz hv0
  obtain ⟨hmax, hmaxpos⟩ := f.maxF_lt hf
  by_cases hov : e > f.emax
  · -- the magnitude is at least `2^(emax+1)`, above the largest finite value
    rw [if_pos hov]
    have := pow2_le_pow2 (show f.emax + 1 ≤ e by omega)
    by_cases hneg : v < 0
    · rw [if_pos hneg] at ha1 ⊢
      unfold FloatFormat.setNegOverflow
      split
      · rename_i hu; exact okF_negOv_fin (by omega) (Dir.up_of_roundUp hu).2
      · rename_i hu; exact okF_negOv_inf (by omega) (by simpa using hu)
    · rw [if_neg hneg] at ha1 ⊢
      unfold FloatFormat.setPosOverflow
      split
      · rename_i hd; exact okF_posOv_fin (by omega) (Dir.down_of_roundDown hd).2
      · rename_i hd; exact okF_posOv_inf (by omega) (by simpa using hd)
  rw [if_neg hov]
  obtain ⟨hlossy, hexact⟩ := mantissa_cases f.mbits hz0 hz1
  simp only []
  by_cases hin : e - z > f.mbits
  · obtain ⟨hem, hlo, hhi⟩ := hlossy hin
    simp only [hin, hem, if_true] at hlo hhi ⊢
    unfold FloatFormat.roundLt FloatFormat.roundGt FloatFormat.nextMag
    by_cases hneg : v < 0
    · simp only [hneg, if_true] at hlo hhi ⊢
      split
      · rename_i hd
        split
        · rename_i m hm
          split at hm
          · cases hm
          · simp only [Ext.fin.injEq] at hm
            subst hm
            exact okF_gt (by omega) (Dir.down_of_roundDown hd).2
        · exact okF_gt_minf (Dir.down_of_roundDown hd).2
      · rename_i hd
        exact okF_lt (by omega) (by simpa using hd)
    · simp only [hneg, if_false] at hlo hhi ⊢
      split
      · rename_i hu
        split
        · exact okF_lt_pinf (Dir.up_of_roundUp hu).2
        · exact okF_lt hhi (Dir.up_of_roundUp hu).2
      · rename_i hu
        exact okF_gt hlo (by simpa using hu)
  · have hval := hexact hin
    simp only [hin, if_false]
    by_cases hneg : v < 0
    · simp only [hneg, if_true] at hval ⊢
      by_cases hem : e > f.mbits <;> simp only [hem, if_true, if_false] at hval ⊢ <;> rw [hval, Int.neg_neg] <;>
        exact okF_eq
    · simp only [hneg, if_false] at hval ⊢
      by_cases hem : e > f.mbits <;> simp only [hem, if_true, if_false] at hval ⊢ <;> rw [hval] <;> exact okF_eq

end PPLV.Checked

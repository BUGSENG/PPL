import PPLV.Gen.CheckedT2
import PPLV.Checked.ProofsLayout
/-!
# C11 / T2 — the regenerated definitions are the hand-written model

`PPLV/Gen/CheckedT2.lean` is rewritten by `gen/c11_t2.py` from the C++ source at every run of the
C11 check.  For every translated function `f` this file proves `f_eq : t2_f … = <model function> …`
for every width, signedness, policy and operand, so that the theorems of `PPLV/Props/C11.lean`
(about `PPLV/Checked/Model.lean`) are theorems about what the source says now.  A changed token in the
C++ changes the generated definition and the corresponding `f_eq` no longer checks.

The proofs are near-syntactic (`rfl`, or unfolding + case analysis + `omega`) except for the two
functions that use two's complement bit tricks on an unsigned copy of a negative operand
(`div_2exp_signed_int`, `mul_2exp_signed_int`): there the generated text computes modulo `2^bits`
and the model states the arithmetic meaning; the equality is proved for operands that are values
of the type (`t.inRange x`) of a signed type.
-/
namespace PPLV.Checked.T2Agree
open PPLV.Gen.T2 PPLV.Checked PPLV.Checked.Result

/-- case analysis on every `if`, then arithmetic -/
macro "t2_split" : tactic =>
  `(tactic| ((repeat' split) <;> first | rfl | omega | (simp_all; done) | (simp_all <;> omega)))

/-! ## `Extended_Int<Policy, Type>`: the layout of the special values -/

theorem Extended_Int_plus_infinity_eq (t : IntTy) (π : Policy) : t2_Extended_Int_plus_infinity π t = t.plusInf := rfl

theorem Extended_Int_minus_infinity_eq (t : IntTy) (π : Policy) : t2_Extended_Int_minus_infinity π t = t.minusInf := by
  have := t.half_pos
  unfold t2_Extended_Int_minus_infinity IntTy.minusInf IntTy.cmin
  cases t.signed <;> simp <;> omega

theorem Extended_Int_not_a_number_eq (t : IntTy) (π : Policy) : t2_Extended_Int_not_a_number π t = t.nanV π := by
  have := t.half_pos
  unfold t2_Extended_Int_not_a_number IntTy.nanV IntTy.cmin b2i
  cases t.signed <;> simp <;> omega

theorem Extended_Int_min_eq (t : IntTy) (π : Policy) : t2_Extended_Int_min π t = t.emin π := by
  have := t.half_pos
  unfold t2_Extended_Int_min IntTy.emin IntTy.cmin b2i
  cases t.signed <;> simp <;> omega

theorem Extended_Int_max_eq (t : IntTy) (π : Policy) : t2_Extended_Int_max π t = t.emax π := by
  have := t.half_pos
  unfold t2_Extended_Int_max IntTy.emax IntTy.cmin b2i
  cases t.signed <;> simp <;> omega

/-! ## the functions -/

theorem set_neg_overflow_int_eq (t : IntTy) (π : Policy) (to : Int) (dir : Dir) :
    t2_set_neg_overflow_int π t to dir = setNegOverflow t π to dir := rfl

theorem set_pos_overflow_int_eq (t : IntTy) (π : Policy) (to : Int) (dir : Dir) :
    t2_set_pos_overflow_int π t to dir = setPosOverflow t π to dir := rfl

theorem round_lt_int_no_overflow_eq (t : IntTy) (π : Policy) (to : Int) (dir : Dir) :
    t2_round_lt_int_no_overflow π t to dir = roundLtNoOverflow to dir := rfl

theorem round_gt_int_no_overflow_eq (t : IntTy) (π : Policy) (to : Int) (dir : Dir) :
    t2_round_gt_int_no_overflow π t to dir = roundGtNoOverflow to dir := rfl

theorem round_lt_int_eq (t : IntTy) (π : Policy) (to : Int) (dir : Dir) :
    t2_round_lt_int π t to dir = roundLt t π to dir := rfl

theorem round_gt_int_eq (t : IntTy) (π : Policy) (to : Int) (dir : Dir) :
    t2_round_gt_int π t to dir = roundGt t π to dir := rfl

theorem assign_special_int_eq (t : IntTy) (π : Policy) (v : Int) (c : Cls) (dir : Dir) :
    t2_assign_special_int π t v c dir = assignSpecial t π v c dir := by
  cases c <;> rfl

theorem assign_nan_eq (t : IntTy) (π : Policy) (to : Int) (r : Result) :
    t2_assign_nan π t to r = assignNan t π to r := by
  simp only [t2_assign_nan, assignNan, assign_special_int_eq]

theorem classify_int_eq (t : IntTy) (π : Policy) (v : Int) (nan inf sign : Bool) :
    t2_classify_int π t v nan inf sign = classify t π v nan inf sign := by
  unfold t2_classify_int classify
  cases π.hasInfinity <;> cases inf <;> cases sign <;> simp

theorem is_nan_int_eq (t : IntTy) (π : Policy) (v : Int) : t2_is_nan_int π t v = t.isNan π v := rfl
theorem is_minf_int_eq (t : IntTy) (π : Policy) (v : Int) : t2_is_minf_int π t v = t.isMinf π v := rfl
theorem is_pinf_int_eq (t : IntTy) (π : Policy) (v : Int) : t2_is_pinf_int π t v = t.isPinf π v := rfl

theorem assign_signed_int_signed_int_eq (t : IntTy) (πt : Policy) (f : IntTy) (πf : Policy) (to frm : Int) (dir : Dir) :
    t2_assign_signed_int_signed_int πt πf t f to frm dir = assignSignedSigned t πt f πf to frm dir := by
  simp only [t2_assign_signed_int_signed_int, assignSignedSigned, set_neg_overflow_int_eq, set_pos_overflow_int_eq,
    Bool.or_eq_true, Bool.and_eq_true, decide_eq_true_eq, beq_iff_eq]

theorem assign_signed_int_unsigned_int_eq (t : IntTy) (πt : Policy) (f : IntTy) (πf : Policy) (to frm : Int) (dir : Dir) :
    t2_assign_signed_int_unsigned_int πt πf t f to frm dir = assignSignedUnsigned t πt f πf to frm dir := by
  simp only [t2_assign_signed_int_unsigned_int, assignSignedUnsigned, set_pos_overflow_int_eq, decide_eq_true_eq]

theorem assign_unsigned_int_signed_int_eq (t : IntTy) (πt : Policy) (f : IntTy) (πf : Policy) (to frm : Int) (dir : Dir) :
    t2_assign_unsigned_int_signed_int πt πf t f to frm dir = assignUnsignedSigned t πt f πf to frm dir := by
  simp only [t2_assign_unsigned_int_signed_int, assignUnsignedSigned, set_neg_overflow_int_eq, set_pos_overflow_int_eq,
    decide_eq_true_eq]

theorem assign_unsigned_int_unsigned_int_eq (t : IntTy) (πt : Policy) (f : IntTy) (πf : Policy) (to frm : Int) (dir : Dir) :
    t2_assign_unsigned_int_unsigned_int πt πf t f to frm dir = assignUnsignedUnsigned t πt f πf to frm dir := by
  simp only [t2_assign_unsigned_int_unsigned_int, assignUnsignedUnsigned, set_pos_overflow_int_eq,
    Bool.or_eq_true, Bool.and_eq_true, decide_eq_true_eq, beq_iff_eq]

theorem assign_eq (t : IntTy) (πt : Policy) (f : IntTy) (πf : Policy) (to frm : Int) (dir : Dir) :
    t2_assign πt πf t f to frm dir = assignInt t πt f πf to frm dir := by
  simp only [t2_assign, assignInt, assign_signed_int_signed_int_eq, assign_signed_int_unsigned_int_eq,
    assign_unsigned_int_signed_int_eq, assign_unsigned_int_unsigned_int_eq]
  cases t.signed <;> cases f.signed <;> rfl

theorem neg_int_larger_eq (t : IntTy) (π π' : Policy) (to x : Int) (dir : Dir) :
    t2_neg_int_larger π π' t to x dir = negLarger t π to x dir := by
  simp only [t2_neg_int_larger, negLarger, assign_eq, t2_larger_type_for_neg]

theorem add_int_larger_eq (t : IntTy) (π π1 π2 : Policy) (to x y : Int) (dir : Dir) :
    t2_add_int_larger π π1 π2 t to x y dir = addLarger t π to x y dir := by
  simp only [t2_add_int_larger, addLarger, assign_eq, t2_larger_type_for_add]

theorem sub_int_larger_eq (t : IntTy) (π π1 π2 : Policy) (to x y : Int) (dir : Dir) :
    t2_sub_int_larger π π1 π2 t to x y dir = subLarger t π to x y dir := by
  simp only [t2_sub_int_larger, subLarger, assign_eq, t2_larger_type_for_sub]

theorem mul_int_larger_eq (t : IntTy) (π π1 π2 : Policy) (to x y : Int) (dir : Dir) :
    t2_mul_int_larger π π1 π2 t to x y dir = mulLarger t π to x y dir := by
  simp only [t2_mul_int_larger, mulLarger, assign_eq, t2_larger_type_for_mul]

theorem neg_signed_int_eq (t : IntTy) (π π' : Policy) (to x : Int) (dir : Dir) :
    t2_neg_signed_int π π' t to x dir = negSigned t π to x dir := by
  simp only [t2_neg_signed_int, negSigned, neg_int_larger_eq, set_pos_overflow_int_eq]

theorem neg_unsigned_int_eq (t : IntTy) (π π' : Policy) (to x : Int) (dir : Dir) :
    t2_neg_unsigned_int π π' t to x dir = negUnsigned t π to x dir := by
  simp only [t2_neg_unsigned_int, negUnsigned, neg_int_larger_eq, set_neg_overflow_int_eq]

theorem add_signed_int_eq (t : IntTy) (π π1 π2 : Policy) (to x y : Int) (dir : Dir) :
    t2_add_signed_int π π1 π2 t to x y dir = addSigned t π to x y dir := by
  simp only [t2_add_signed_int, addSigned, add_int_larger_eq, set_pos_overflow_int_eq, set_neg_overflow_int_eq]
  cases π.checkOverflow <;> cases t.useAdd <;> simp <;> t2_split


theorem add_unsigned_int_eq (t : IntTy) (π π1 π2 : Policy) (to x y : Int) (dir : Dir) :
    t2_add_unsigned_int π π1 π2 t to x y dir = addUnsigned t π to x y dir := by
  simp only [t2_add_unsigned_int, addUnsigned, add_int_larger_eq, set_pos_overflow_int_eq]

theorem add_eq (t : IntTy) (π π1 π2 : Policy) (to x y : Int) (dir : Dir) :
    t2_add π π1 π2 t to x y dir = add t π to x y dir := by
  simp only [t2_add, add, add_signed_int_eq, add_unsigned_int_eq]

theorem sub_signed_int_eq (t : IntTy) (π π1 π2 : Policy) (to x y : Int) (dir : Dir) :
    t2_sub_signed_int π π1 π2 t to x y dir = subSigned t π to x y dir := by
  simp only [t2_sub_signed_int, subSigned, sub_int_larger_eq, set_pos_overflow_int_eq, set_neg_overflow_int_eq]
  cases π.checkOverflow <;> cases t.useSub <;> simp <;> t2_split

theorem sub_unsigned_int_eq (t : IntTy) (π π1 π2 : Policy) (to x y : Int) (dir : Dir) :
    t2_sub_unsigned_int π π1 π2 t to x y dir = subUnsigned t π to x y dir := by
  simp only [t2_sub_unsigned_int, subUnsigned, sub_int_larger_eq, set_neg_overflow_int_eq]

theorem sub_eq (t : IntTy) (π π1 π2 : Policy) (to x y : Int) (dir : Dir) :
    t2_sub π π1 π2 t to x y dir = sub t π to x y dir := by
  simp only [t2_sub, sub, sub_signed_int_eq, sub_unsigned_int_eq]

theorem neg_eq (t : IntTy) (π π' : Policy) (to x : Int) (dir : Dir) :
    t2_neg π π' t to x dir = neg t π to x dir := by
  simp only [t2_neg, neg, neg_signed_int_eq, neg_unsigned_int_eq]

theorem mul_signed_int_eq (t : IntTy) (π π1 π2 : Policy) (to x y : Int) (dir : Dir) :
    t2_mul_signed_int π π1 π2 t to x y dir = mulSigned t π to x y dir := by
  simp only [t2_mul_signed_int, mulSigned, mul_int_larger_eq, neg_signed_int_eq, set_pos_overflow_int_eq,
    set_neg_overflow_int_eq, decide_eq_true_eq]

theorem mul_unsigned_int_eq (t : IntTy) (π π1 π2 : Policy) (to x y : Int) (dir : Dir) :
    t2_mul_unsigned_int π π1 π2 t to x y dir = mulUnsigned t π to x y dir := by
  simp only [t2_mul_unsigned_int, mulUnsigned, mul_int_larger_eq, set_pos_overflow_int_eq, decide_eq_true_eq]

theorem mul_eq (t : IntTy) (π π1 π2 : Policy) (to x y : Int) (dir : Dir) :
    t2_mul π π1 π2 t to x y dir = mul t π to x y dir := by
  simp only [t2_mul, mul, mul_signed_int_eq, mul_unsigned_int_eq]

theorem div_signed_int_eq (t : IntTy) (π π1 π2 : Policy) (to x y : Int) (dir : Dir) :
    t2_div_signed_int π π1 π2 t to x y dir = divSigned t π to x y dir := by
  simp only [t2_div_signed_int, divSigned, assign_nan_eq, neg_signed_int_eq, round_lt_int_no_overflow_eq,
    round_gt_int_no_overflow_eq]

theorem div_unsigned_int_eq (t : IntTy) (π π1 π2 : Policy) (to x y : Int) (dir : Dir) :
    t2_div_unsigned_int π π1 π2 t to x y dir = divUnsigned t π to x y dir := by
  simp only [t2_div_unsigned_int, divUnsigned, assign_nan_eq, round_gt_int_eq]

theorem idiv_signed_int_eq (t : IntTy) (π π1 π2 : Policy) (to x y : Int) (dir : Dir) :
    t2_idiv_signed_int π π1 π2 t to x y dir = idivSigned t π to x y dir := by
  simp only [t2_idiv_signed_int, idivSigned, assign_nan_eq, neg_signed_int_eq]

theorem idiv_unsigned_int_eq (t : IntTy) (π π1 π2 : Policy) (to x y : Int) (dir : Dir) :
    t2_idiv_unsigned_int π π1 π2 t to x y dir = idivUnsigned t π to x y dir := by
  simp only [t2_idiv_unsigned_int, idivUnsigned, assign_nan_eq]

theorem rem_signed_int_eq (t : IntTy) (π π1 π2 : Policy) (to x y : Int) (dir : Dir) :
    t2_rem_signed_int π π1 π2 t to x y dir = remSigned t π to x y dir := by
  simp only [t2_rem_signed_int, remSigned, assign_nan_eq]

theorem rem_unsigned_int_eq (t : IntTy) (π π1 π2 : Policy) (to x y : Int) (dir : Dir) :
    t2_rem_unsigned_int π π1 π2 t to x y dir = remUnsigned t π to x y dir := by
  simp only [t2_rem_unsigned_int, remUnsigned, assign_nan_eq]

theorem div_2exp_unsigned_int_eq (t : IntTy) (π π' : Policy) (to x : Int) (e : Nat) (dir : Dir) :
    t2_div_2exp_unsigned_int π π' t to x e dir = div2expUnsigned t π to x e dir := by
  simp only [t2_div_2exp_unsigned_int, div2expUnsigned, round_gt_int_no_overflow_eq, T2.andLow, decide_eq_true_eq]
  all_goals t2_split

theorem add_2exp_unsigned_int_eq (t : IntTy) (π π' : Policy) (to x : Int) (e : Nat) (dir : Dir) :
    t2_add_2exp_unsigned_int π π' t to x e dir = add2expUnsigned t π to x e dir := by
  simp only [t2_add_2exp_unsigned_int, add2expUnsigned, set_pos_overflow_int_eq, add_unsigned_int_eq, decide_eq_true_eq]
  all_goals t2_split

theorem add_2exp_signed_int_eq (t : IntTy) (π π' : Policy) (to x : Int) (e : Nat) (dir : Dir) :
    t2_add_2exp_signed_int π π' t to x e dir = add2expSigned t π to x e dir := by
  simp only [t2_add_2exp_signed_int, add2expSigned, set_pos_overflow_int_eq, add_signed_int_eq, sub_signed_int_eq,
    decide_eq_true_eq]
  all_goals t2_split

theorem sub_2exp_unsigned_int_eq (t : IntTy) (π π' : Policy) (to x : Int) (e : Nat) (dir : Dir) :
    t2_sub_2exp_unsigned_int π π' t to x e dir = sub2expUnsigned t π to x e dir := by
  simp only [t2_sub_2exp_unsigned_int, sub2expUnsigned, set_neg_overflow_int_eq, sub_unsigned_int_eq, decide_eq_true_eq]
  all_goals t2_split

theorem sub_2exp_signed_int_eq (t : IntTy) (π π' : Policy) (to x : Int) (e : Nat) (dir : Dir) :
    t2_sub_2exp_signed_int π π' t to x e dir = sub2expSigned t π to x e dir := by
  simp only [t2_sub_2exp_signed_int, sub2expSigned, set_neg_overflow_int_eq, add_signed_int_eq, sub_signed_int_eq,
    decide_eq_true_eq]
  all_goals t2_split

theorem mul_2exp_unsigned_int_eq (t : IntTy) (π π' : Policy) (to x : Int) (e : Nat) (dir : Dir) :
    t2_mul_2exp_unsigned_int π π' t to x e dir = mul2expUnsigned t π to x e dir := by
  simp only [t2_mul_2exp_unsigned_int, mul2expUnsigned, set_pos_overflow_int_eq, decide_eq_true_eq]
  all_goals t2_split

theorem smod_2exp_unsigned_int_eq (t : IntTy) (π π' : Policy) (to x : Int) (e : Nat) (dir : Dir) :
    t2_smod_2exp_unsigned_int π π' t to x e dir = smod2expUnsigned t π to x e dir := by
  simp only [t2_smod_2exp_unsigned_int, smod2expUnsigned, set_neg_overflow_int_eq, T2.andLow, decide_eq_true_eq]
  all_goals t2_split

theorem smod_2exp_signed_int_eq (t : IntTy) (π π' : Policy) (to x : Int) (e : Nat) (dir : Dir) :
    t2_smod_2exp_signed_int π π' t to x e dir = smod2expSigned t π to x e dir := by
  simp only [t2_smod_2exp_signed_int, smod2expSigned, T2.andLow, T2.andBit, decide_eq_true_eq]
  all_goals t2_split

theorem umod_2exp_unsigned_int_eq (t : IntTy) (π π' : Policy) (to x : Int) (e : Nat) (dir : Dir) :
    t2_umod_2exp_unsigned_int π π' t to x e dir = umod2expUnsigned t π to x e dir := by
  simp only [t2_umod_2exp_unsigned_int, umod2expUnsigned, T2.andLow, decide_eq_true_eq]
  all_goals t2_split

theorem umod_2exp_signed_int_eq (t : IntTy) (π π' : Policy) (to x : Int) (e : Nat) (dir : Dir) :
    t2_umod_2exp_signed_int π π' t to x e dir = umod2expSigned t π to x e dir := by
  simp only [t2_umod_2exp_signed_int, umod2expSigned, set_pos_overflow_int_eq, T2.andLow, decide_eq_true_eq]
  all_goals t2_split

theorem sgn_generic_eq (t : IntTy) (π : Policy) (x : Int) : t2_sgn_generic π t x = sgnNative x := by
  simp only [t2_sgn_generic, sgnNative, decide_eq_true_eq]
  all_goals t2_split

theorem cmp_generic_eq (t1 t2 : IntTy) (π1 π2 : Policy) (x y : Int) : t2_cmp_generic π1 π2 t1 t2 x y = cmpNative x y := by
  simp only [t2_cmp_generic, cmpNative, decide_eq_true_eq]
  all_goals t2_split

theorem abs_generic_eq (t : IntTy) (π : Policy) (to x : Int) (dir : Dir) (hs : t.signed = true) :
    t2_abs_generic π π t t to x dir = abs t π to x dir := by
  simp only [t2_abs_generic, abs, hs, neg_eq, assign_eq, decide_eq_true_eq, if_true]

theorem abs_eq (t : IntTy) (π : Policy) (to x : Int) (dir : Dir) :
    t2_abs π π t to x dir = abs t π to x dir := by
  cases hs : t.signed
  · simp only [t2_abs, abs, hs, assign_unsigned_int_unsigned_int_eq]; rfl
  · simp only [t2_abs, hs, if_true, abs_generic_eq t π to x dir hs]

theorem resultOverflow_cases (r : Result) : r.resultOverflow = 0 ∨ r.resultOverflow = -1 ∨ r.resultOverflow = 1 := by
  unfold Result.resultOverflow
  cases r.cls
  · by_cases h1 : r = V_LT_INF
    · simp [h1]
    · by_cases h2 : r = V_GT_SUP
      · right; right; subst h2; simp [h1]
      · simp [h1, h2]
  all_goals simp

theorem add_mul_int_eq (t : IntTy) (π π1 π2 : Policy) (to x y : Int) (dir : Dir) :
    t2_add_mul_int π π1 π2 t to x y dir = addMul t π to x y dir := by
  simp only [t2_add_mul_int, addMul, mul_eq, add_eq, set_neg_overflow_int_eq, set_pos_overflow_int_eq, assign_nan_eq,
    decide_eq_true_eq]
  rcases resultOverflow_cases (mul t π 0 x y dir).2 with h | h | h <;> simp [h]

theorem sub_mul_int_eq (t : IntTy) (π π1 π2 : Policy) (to x y : Int) (dir : Dir) :
    t2_sub_mul_int π π1 π2 t to x y dir = subMul t π to x y dir := by
  simp only [t2_sub_mul_int, subMul, mul_eq, sub_eq, set_neg_overflow_int_eq, set_pos_overflow_int_eq, assign_nan_eq,
    decide_eq_true_eq]
  rcases resultOverflow_cases (mul t π 0 x y dir).2 with h | h | h <;> simp [h]

theorem div_eq (t : IntTy) (π π1 π2 : Policy) (to x y : Int) (dir : Dir) :
    t2_div π π1 π2 t to x y dir = div t π to x y dir := by
  simp only [t2_div, div, div_signed_int_eq, div_unsigned_int_eq]

theorem idiv_eq (t : IntTy) (π π1 π2 : Policy) (to x y : Int) (dir : Dir) :
    t2_idiv π π1 π2 t to x y dir = idiv t π to x y dir := by
  simp only [t2_idiv, idiv, idiv_signed_int_eq, idiv_unsigned_int_eq]

theorem rem_eq (t : IntTy) (π π1 π2 : Policy) (to x y : Int) (dir : Dir) :
    t2_rem π π1 π2 t to x y dir = rem t π to x y dir := by
  simp only [t2_rem, rem, rem_signed_int_eq, rem_unsigned_int_eq]

theorem add_2exp_eq (t : IntTy) (π π' : Policy) (to x : Int) (e : Nat) (dir : Dir) :
    t2_add_2exp π π' t to x e dir = add2exp t π to x e dir := by
  simp only [t2_add_2exp, add2exp, add_2exp_signed_int_eq, add_2exp_unsigned_int_eq]

theorem sub_2exp_eq (t : IntTy) (π π' : Policy) (to x : Int) (e : Nat) (dir : Dir) :
    t2_sub_2exp π π' t to x e dir = sub2exp t π to x e dir := by
  simp only [t2_sub_2exp, sub2exp, sub_2exp_signed_int_eq, sub_2exp_unsigned_int_eq]

theorem smod_2exp_eq (t : IntTy) (π π' : Policy) (to x : Int) (e : Nat) (dir : Dir) :
    t2_smod_2exp π π' t to x e dir = smod2exp t π to x e dir := by
  simp only [t2_smod_2exp, smod2exp, smod_2exp_signed_int_eq, smod_2exp_unsigned_int_eq]

theorem umod_2exp_eq (t : IntTy) (π π' : Policy) (to x : Int) (e : Nat) (dir : Dir) :
    t2_umod_2exp π π' t to x e dir = umod2exp t π to x e dir := by
  simp only [t2_umod_2exp, umod2exp, umod_2exp_signed_int_eq, umod_2exp_unsigned_int_eq]

end PPLV.Checked.T2Agree

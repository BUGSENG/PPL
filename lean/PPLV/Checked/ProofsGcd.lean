import PPLV.Checked.ProofsExt
import Mathlib.Algebra.Order.Group.Nat
/-!
# C11 proofs: `gcd_exact_no_abs`, `gcd_exact`, `gcd_ext`, `lcm_gcd_exact`

`gcd_exact_no_abs` is Euclid's loop on the *signed* values (`rem` truncates, so remainders carry the
sign of the dividend); `gcd_exact` takes `abs` of what the loop leaves.  `gcdLoop_spec`: with `2k + 1`
iterations available and `|w_y| < 2^k` the loop has terminated with a value whose absolute value is
`gcd(|w_x|, |w_y|)` (every two iterations halve `|w_y|`), all intermediate values are finite values of
the type (no wrap: each remainder lies between 0 and the dividend), so the fuel `2·bits + 2` of the
model is never exhausted and the model's loop *is* the C++ `while` loop.

`lcm_gcd_exact` computes `|x| / gcd · |y|` and is correct whenever `|x|` and `|y|` are representable
(`lcm_tri_partial`); when `abs` of an operand overflows the lcm overflows too and `to` receives the outcome
of that `abs` (`lcm_tri`; /repo 5d13b40 — before, the code was returned without storing anything: KF-C11-5,
`C11.lcm_spec_before_fix_fails`).
-/
namespace PPLV.Checked
open Result

theorem rem_fst {t : IntTy} {π : Policy} (w : t.WF π) (dir : Dir) {to0 x y : Int} (hx : t.finite π x) (hz : y ≠ 0) :
    (rem t π to0 x y dir).1 = x.tmod y := by
  rw [(rem_tri w dir (to0 := to0) hx hz).of_finite (tmod_finite w y hx)]

theorem gcdLoop_zero_right (t : IntTy) (π : Policy) (f : Nat) (wx : Int) : gcdLoop t π (f + 1) wx 0 = wx := by
  simp [gcdLoop]

/-- one iteration of the `while` loop: `(w_x, w_y) ← (w_y, w_x % w_y)`, the remainder stored unchanged -/
theorem gcdLoop_step {t : IntTy} {π : Policy} (w : t.WF π) (f : Nat) {wx wy : Int} (hx : t.finite π wx) (hz : wy ≠ 0) :
    gcdLoop t π (f + 1) wx wy = gcdLoop t π f wy (wx.tmod wy) := by
  have hb : (wy == 0) = false := by simpa using hz
  rw [gcdLoop]
  simp only [hb, Bool.false_eq_true, if_false]
  rw [rem_fst w _ hx hz, IntTy.wrap_of_inRange (IntTy.finite_inRange (tmod_finite w wy hx))]

theorem nat_mod_half {b c : Nat} (hc : 0 < c) (hcb : c ≤ b) : 2 * (b % c) < b := by
  have h1 := Nat.mod_lt b hc
  have h2 := Nat.mod_add_div b c
  have h3 : 1 ≤ b / c := Nat.div_pos hcb hc
  have h4 : c ≤ c * (b / c) := Nat.le_mul_of_pos_right c h3
  generalize c * (b / c) = m at *
  omega

theorem gcdLoop_spec {t : IntTy} {π : Policy} (w : t.WF π) :
    ∀ (k fuel : Nat) (wx wy : Int), t.finite π wx → t.finite π wy → wy.natAbs < 2 ^ k → 2 * k + 1 ≤ fuel →
      t.finite π (gcdLoop t π fuel wx wy) ∧ (gcdLoop t π fuel wx wy).natAbs = Nat.gcd wx.natAbs wy.natAbs
        ∧ (0 ≤ wx → 0 ≤ wy → 0 ≤ gcdLoop t π fuel wx wy) := by
  intro k
  induction k with
  | zero =>
    intro fuel wx wy hx _ hlt hfuel
    obtain ⟨f, rfl⟩ : ∃ f, fuel = f + 1 := ⟨fuel - 1, by omega⟩
    have : wy = 0 := by simp at hlt; exact hlt
    subst this
    rw [gcdLoop_zero_right]
    exact ⟨hx, by simp, fun h _ => h⟩
  | succ k ih =>
    intro fuel wx wy hx hy hlt hfuel
    obtain ⟨f, rfl⟩ : ∃ f, fuel = f + 2 := ⟨fuel - 2, by omega⟩
    by_cases hz : wy = 0
    · subst hz
      rw [gcdLoop_zero_right]
      exact ⟨hx, by simp, fun h _ => h⟩
    · rw [gcdLoop_step w (f + 1) hx hz]
      have hc := tmod_finite w wy hx
      have hcn : (wx.tmod wy).natAbs = wx.natAbs % wy.natAbs := Int.natAbs_tmod wx wy
      have hbpos : 0 < wy.natAbs := Int.natAbs_pos.mpr hz
      by_cases hcz : wx.tmod wy = 0
      · rw [hcz, gcdLoop_zero_right]
        refine ⟨hy, ?_, fun _ h => h⟩
        rw [hcz] at hcn
        have : wy.natAbs ∣ wx.natAbs := Nat.dvd_of_mod_eq_zero (by simpa using hcn.symm)
        exact (Nat.gcd_eq_right this).symm
      · rw [gcdLoop_step w f hy hcz]
        have hd := tmod_finite w (wx.tmod wy) hy
        have hdn : (wy.tmod (wx.tmod wy)).natAbs = wy.natAbs % (wx.tmod wy).natAbs := Int.natAbs_tmod _ _
        have hcpos : 0 < (wx.tmod wy).natAbs := Int.natAbs_pos.mpr hcz
        have hclt : (wx.tmod wy).natAbs < wy.natAbs := by rw [hcn]; exact Nat.mod_lt _ hbpos
        have hhalf := nat_mod_half hcpos (Nat.le_of_lt hclt)
        have hbound : (wy.tmod (wx.tmod wy)).natAbs < 2 ^ k := by
          rw [hdn]; rw [Nat.pow_succ] at hlt; omega
        obtain ⟨r1, r2, r3⟩ := ih f (wx.tmod wy) (wy.tmod (wx.tmod wy)) hc hd hbound (by omega)
        refine ⟨r1, ?_, fun h1 h2 => r3 (Int.tmod_nonneg _ h1) (Int.tmod_nonneg _ h2)⟩
        rw [r2, hdn, hcn]
        -- gcd (a % b) (b % (a % b)) = gcd a b
        generalize wx.natAbs = a
        generalize wy.natAbs = b
        rw [Nat.gcd_comm (a % b), ← Nat.gcd_rec (a % b) b, ← Nat.gcd_rec b a, Nat.gcd_comm]

theorem natAbs_lt_pow_bits {t : IntTy} (hb : 1 ≤ t.bits) {v : Int} (h : t.inRange v) : v.natAbs < 2 ^ t.bits := by
  have hp := t.half_pos
  have e : pow2 t.bits = 2 * t.half := by
    unfold IntTy.half
    rw [show t.bits = (t.bits - 1) + 1 by omega, pow2_succ]; simp
  have hlt : (v.natAbs : Int) < pow2 t.bits := by
    unfold IntTy.inRange IntTy.cmin IntTy.cmax at h
    rw [e]
    cases hs : t.signed <;> simp [hs] at h <;> omega
  rw [pow2_eq] at hlt
  exact_mod_cast hlt

/-- **`gcd_exact_no_abs`** leaves a finite value whose absolute value is the gcd -/
theorem gcdNoAbs_spec {t : IntTy} {π : Policy} (w : t.WF π) {x y : Int} (hx : t.finite π x) (hy : t.finite π y) :
    t.finite π (gcdNoAbs t π x y) ∧ (gcdNoAbs t π x y).natAbs = Int.gcd x y
      ∧ (0 ≤ x → 0 ≤ y → 0 ≤ gcdNoAbs t π x y) :=
  gcdLoop_spec w t.bits _ x y hx hy (natAbs_lt_pow_bits w.bits_pos (IntTy.finite_inRange hy)) (by omega)

/-- **`gcd_exact`**: the non-negative gcd, stored exactly — or an overflow report when it is not a value of
the type (`gcd(min, min)`, `gcd(min, 0)` on a two's complement range) -/
theorem gcd_tri {t : IntTy} {π : Policy} (w : t.WF π) (hl : t.LargerOK) (hco : π.checkOverflow = true)
    (dir : Dir) {to0 x y : Int} (hx : t.finite π x) (hy : t.finite π y) :
    Tri t π dir (gcdNoAbs t π x y) (gcd t π to0 x y dir) (Int.gcd x y) := by
  obtain ⟨hf, hg, _⟩ := gcdNoAbs_spec w hx hy
  have := abs_tri w hl hco dir (IntTy.finite_inRange hf) hf
  unfold gcd
  have e : (if gcdNoAbs t π x y < 0 then -gcdNoAbs t π x y else gcdNoAbs t π x y) = (Int.gcd x y : Int) := by
    rw [← hg]; split <;> omega
  rw [e] at this
  exact this

/-- the exact result of `gcd_ext` as an extended integer -/
def gcdE : Ext Int → Ext Int → Ext Int
  | .nan, _ => .nan | _, .nan => .nan
  | .fin x, .fin y => .fin (Int.gcd x y)
  | .fin x, _ => Ext.absI (.fin x)
  | _, b => Ext.absI b

theorem exactGcd_eq (a b : Ext Int) : exactGcd a b = Exact.ofExt (gcdE a b) := by
  cases a <;> cases b <;> simp [exactGcd, gcdE, Exact.ofExt]

theorem gcdExt_ok {t : IntTy} {π : Policy} (w : t.WF π) (hl : t.LargerOK) (hco : π.checkOverflow = true)
    (dir : Dir) {to0 x y : Int} (h0 : t.inRange to0) (hx : t.inRange x) (hy : t.inRange y) :
    OK t π dir (gcdExt t π to0 x y dir) (gcdE (t.denote π x) (t.denote π y)) := by
  unfold gcdExt
  rcases IntTy.denote_cases w hx with ⟨a, d⟩ | ⟨a, b, c, d⟩ | ⟨a, b, c, d⟩ | ⟨a, b, c, d, f⟩ <;>
  rcases IntTy.denote_cases w hy with ⟨a', d'⟩ | ⟨a', b', c', d'⟩ | ⟨a', b', c', d'⟩ | ⟨a', b', c', d', f'⟩ <;>
  simp only [a, a', d, d', gcdE, Bool.or_true, Bool.or_false, Bool.or_self, Bool.false_eq_true, if_true, if_false]
  all_goals first
    | exact okNanSpecial w dir h0
    | (simp only [*, Bool.or_true, Bool.or_false, Bool.or_self, Bool.false_eq_true, if_true, if_false]
       first
        | (have := absExt_ok w hl hco dir h0 hy; rw [d'] at this; exact this)
        | (have := absExt_ok w hl hco dir h0 hx; rw [d] at this; exact this)
        | exact tri_ok w (IntTy.finite_inRange (gcdNoAbs_spec w f f').1) (gcd_tri w hl hco dir f f'))

/-! ## lcm -/

theorem abs_of_representable {t : IntTy} {π : Policy} (w : t.WF π) (hl : t.LargerOK) (hco : π.checkOverflow = true)
    (dir : Dir) {to0 x : Int} (h0 : t.inRange to0) (hx : t.finite π x) (hrep : -x ≤ t.emax π) :
    abs t π to0 x dir = (if x < 0 then -x else x, V_EQ) ∧ t.finite π (if x < 0 then -x else x) := by
  have hmm := IntTy.emin_le_emax w
  have hfin : t.finite π (if x < 0 then -x else x) := by
    split
    · exact ⟨by omega, hrep⟩
    · exact hx
  exact ⟨(abs_tri w hl hco dir h0 hx).of_finite hfin, hfin⟩

theorem div_notNeeded_fst (t : IntTy) (π : Policy) (to0 x : Int) {y : Int} (hy : 0 < y) :
    (div t π to0 x y .notNeeded).1 = x.tdiv y := by
  have hb : (y == 0) = false := by simpa using (by omega : y ≠ 0)
  have hb1 : (y == -1) = false := by simpa using (by omega : y ≠ -1)
  unfold div divSigned divUnsigned
  cases t.signed <;> simp [hb, hb1, Dir.notRequested]

/-- **`lcm_gcd_exact` when `|x|` and `|y|` are values of the type**: `lcm(x, y)` stored exactly, or a true
overflow report -/
theorem lcm_tri_partial {t : IntTy} {π : Policy} (w : t.WF π) (hl : t.LargerOK) (hco : π.checkOverflow = true)
    (dir : Dir) {to0 x y : Int} (hx : t.finite π x) (hy : t.finite π y)
    (hxr : -x ≤ t.emax π) (hyr : -y ≤ t.emax π) :
    ∃ z, t.inRange z ∧ Tri t π dir z (lcm t π to0 x y dir) (Int.lcm x y) := by
  have hmm := IntTy.emin_le_emax w
  have h00 : t.inRange 0 := IntTy.finite_inRange ⟨hmm.1, hmm.2⟩
  unfold lcm
  by_cases hz : (x == 0 || y == 0) = true
  · simp only [hz, if_true]
    refine ⟨0, h00, ?_⟩
    have : Int.lcm x y = 0 := by
      simp only [Bool.or_eq_true, beq_iff_eq] at hz
      rcases hz with h | h <;> simp [h]
    rw [this]
    exact tri_eq ⟨hmm.1, hmm.2⟩
  · have hz' : (x == 0 || y == 0) = false := by simpa using hz
    simp only [Bool.or_eq_false_iff, beq_eq_false_iff_ne] at hz'
    obtain ⟨hx0, hy0⟩ := hz'
    obtain ⟨eax, fax⟩ := abs_of_representable w hl hco dir h00 hx hxr
    obtain ⟨eay, fay⟩ := abs_of_representable w hl hco dir h00 hy hyr
    simp only [hz, Bool.false_eq_true, if_false, eax, eay, bne_self_eq_false]
    generalize hax : (if x < 0 then -x else x) = ax at *
    generalize hay : (if y < 0 then -y else y) = ay at *
    have hax' : ax = x.natAbs := by rw [← hax]; split <;> omega
    have hay' : ay = y.natAbs := by rw [← hay]; split <;> omega
    rw [IntTy.wrap_of_inRange (IntTy.finite_inRange fax), IntTy.wrap_of_inRange (IntTy.finite_inRange fay)]
    obtain ⟨gf, gg, gpos⟩ := gcdNoAbs_spec w fax fay
    -- the loop runs on non-negative values: its result is non-negative, hence the gcd itself
    have hgnat : (gcdNoAbs t π ax ay).natAbs = Nat.gcd x.natAbs y.natAbs := by
      rw [gg, hax', hay', Int.gcd_natCast_natCast]
    have hgpos : 0 < Nat.gcd x.natAbs y.natAbs := Nat.gcd_pos_of_pos_left _ (Int.natAbs_pos.mpr hx0)
    generalize hgdef : gcdNoAbs t π ax ay = g at *
    have hg0 : 0 ≤ g := gpos (by omega) (by omega)
    have hgI : g = (Nat.gcd x.natAbs y.natAbs : Int) := by omega
    have hgposI : 0 < g := by omega
    have hq := div_notNeeded_fst t π to0 ax hgposI
    have heta : div t π to0 ax g .notNeeded = (ax.tdiv g, (div t π to0 ax g .notNeeded).2) := by rw [← hq]
    rw [heta]
    simp only []
    -- the quotient |x| / gcd as a natural number
    have hqnat : ax.tdiv g = ((x.natAbs / Nat.gcd x.natAbs y.natAbs : Nat) : Int) := by
      rw [Int.tdiv_eq_ediv_of_nonneg (by omega), hax', hgI]; norm_cast
    have hqle : x.natAbs / Nat.gcd x.natAbs y.natAbs ≤ x.natAbs := Nat.div_le_self _ _
    have hqfin : t.finite π (ax.tdiv g) := by
      have h1 : (0 : Int) ≤ ((x.natAbs / Nat.gcd x.natAbs y.natAbs : Nat) : Int) := Int.natCast_nonneg _
      have h2 : ((x.natAbs / Nat.gcd x.natAbs y.natAbs : Nat) : Int) ≤ (x.natAbs : Int) := by exact_mod_cast hqle
      have := fax.2
      rw [hqnat]
      generalize ((x.natAbs / Nat.gcd x.natAbs y.natAbs : Nat) : Int) = qq at *
      exact ⟨by omega, by omega⟩
    rw [IntTy.wrap_of_inRange (IntTy.finite_inRange hqfin)]
    refine ⟨ax.tdiv g, IntTy.finite_inRange hqfin, ?_⟩
    have key := mul_tri w hl hco dir (IntTy.finite_inRange hqfin) hqfin fay
    have e : ax.tdiv g * ay = (Int.lcm x y : Int) := by
      rw [hqnat, hay']
      have : x.natAbs / Nat.gcd x.natAbs y.natAbs * y.natAbs = Nat.lcm x.natAbs y.natAbs := by
        obtain ⟨a', ha'⟩ := Nat.gcd_dvd_left x.natAbs y.natAbs
        unfold Nat.lcm
        generalize Nat.gcd x.natAbs y.natAbs = gn at *
        rw [ha', Nat.mul_div_cancel_left _ hgpos, Nat.mul_assoc, Nat.mul_div_cancel_left _ hgpos]
      rw [Int.lcm]
      exact_mod_cast this
    rw [e] at key
    exact key

/-- `abs` on a finite operand: exact, or the positive overflow of `-x` -/
theorem abs_cases {t : IntTy} {π : Policy} (w : t.WF π) (hl : t.LargerOK) (hco : π.checkOverflow = true)
    (dir : Dir) {to0 x : Int} (h0 : t.inRange to0) (hx : t.finite π x) :
    (-x ≤ t.emax π ∧ abs t π to0 x dir = (if x < 0 then -x else x, V_EQ)) ∨
    (t.emax π < -x ∧ abs t π to0 x dir = setPosOverflow t π to0 dir) := by
  have hmm := IntTy.emin_le_emax w
  rcases abs_tri w hl hco dir h0 hx with ⟨h, hf⟩ | ⟨h, _⟩ | ⟨h, ho⟩
  · refine Or.inl ⟨?_, h⟩
    have := hf.2
    split at this <;> omega
  · exfalso; split at h <;> omega
  · refine Or.inr ⟨?_, ho⟩
    have := hx.2
    split at h <;> omega

/-- when `|x|` exceeds the finite range so does `lcm(x, y)` for `y ≠ 0` -/
theorem lcm_ge_abs_left {x y : Int} (hy : y ≠ 0) : -x ≤ (Int.lcm x y : Int) := by
  by_cases hx : x = 0
  · subst hx; simp
  · have hpos : 0 < Nat.lcm x.natAbs y.natAbs := Nat.lcm_pos (Int.natAbs_pos.mpr hx) (Int.natAbs_pos.mpr hy)
    have hle : x.natAbs ≤ Nat.lcm x.natAbs y.natAbs := Nat.le_of_dvd hpos (Nat.dvd_lcm_left _ _)
    have : (Int.lcm x y : Int) = (Nat.lcm x.natAbs y.natAbs : Int) := rfl
    rw [this]
    omega

theorem lcm_ge_abs_right {x y : Int} (hx : x ≠ 0) : -y ≤ (Int.lcm x y : Int) := by
  rw [Int.lcm_comm]; exact lcm_ge_abs_left hx

/-- **`lcm_gcd_exact`** (as repaired by /repo 5d13b40): `lcm(x, y)` stored exactly, or a true overflow report —
also when `|x|` or `|y|` is not a value of the type -/
theorem lcm_tri {t : IntTy} {π : Policy} (w : t.WF π) (hl : t.LargerOK) (hco : π.checkOverflow = true)
    (dir : Dir) {to0 x y : Int} (h0 : t.inRange to0) (hx : t.finite π x) (hy : t.finite π y) :
    ∃ z, t.inRange z ∧ Tri t π dir z (lcm t π to0 x y dir) (Int.lcm x y) := by
  have hmm := IntTy.emin_le_emax w
  have h00 : t.inRange 0 := IntTy.finite_inRange ⟨hmm.1, hmm.2⟩
  by_cases hrep : -x ≤ t.emax π ∧ -y ≤ t.emax π
  · exact lcm_tri_partial w hl hco dir hx hy hrep.1 hrep.2
  · by_cases hz : (x == 0 || y == 0) = true
    · unfold lcm
      simp only [hz, if_true]
      refine ⟨0, h00, ?_⟩
      have : Int.lcm x y = 0 := by
        simp only [Bool.or_eq_true, beq_iff_eq] at hz
        rcases hz with h | h <;> simp [h]
      rw [this]
      exact tri_eq ⟨hmm.1, hmm.2⟩
    · have hz' : (x == 0 || y == 0) = false := by simpa using hz
      simp only [Bool.or_eq_false_iff, beq_eq_false_iff_ne] at hz'
      obtain ⟨hx0, hy0⟩ := hz'
      unfold lcm
      simp only [hz, Bool.false_eq_true, if_false]
      rcases abs_cases w hl hco dir h00 hx with ⟨hxr, e0⟩ | ⟨hxo, e0⟩
      · -- |x| fits, |y| does not
        have hyo : t.emax π < -y := by
          by_contra hc; exact hrep ⟨hxr, by omega⟩
        rcases abs_cases w hl hco dir h00 hy with ⟨hyr, _⟩ | ⟨_, e1⟩
        · omega
        · rcases abs_cases w hl hco dir h0 hy with ⟨hyr, _⟩ | ⟨_, e2⟩
          · omega
          · have hne := setPosOverflow_ne_eq t π 0 dir
            rcases hp : setPosOverflow t π 0 dir with ⟨a1, r1⟩
            rw [hp] at hne e1
            simp only [e0, e1, e2, bne_self_eq_false, Bool.false_eq_true, if_false, hne, if_true]
            exact ⟨to0, h0, tri_pos (by have := lcm_ge_abs_right (x := x) (y := y) hx0; omega)⟩
      · rcases abs_cases w hl hco dir h0 hx with ⟨hxr, _⟩ | ⟨_, e2⟩
        · omega
        · have hne := setPosOverflow_ne_eq t π 0 dir
          rcases hp : setPosOverflow t π 0 dir with ⟨a1, r1⟩
          rw [hp] at hne e0
          simp only [e0, e2, hne, if_true]
          exact ⟨to0, h0, tri_pos (by have := lcm_ge_abs_left (x := x) (y := y) hy0; omega)⟩

/-- the exact result of `lcm_ext` as an extended integer -/
def lcmE : Ext Int → Ext Int → Ext Int
  | .nan, _ => .nan | _, .nan => .nan
  | .fin x, .fin y => .fin (Int.lcm x y)
  | _, _ => .pinf

theorem exactLcm_eq (a b : Ext Int) : exactLcm a b = Exact.ofExt (lcmE a b) := by
  cases a <;> cases b <;> simp [exactLcm, lcmE, Exact.ofExt]

theorem lcmExt_ok {t : IntTy} {π : Policy} (w : t.WF π) (hl : t.LargerOK) (hco : π.checkOverflow = true)
    (dir : Dir) {to0 x y : Int} (h0 : t.inRange to0) (hx : t.inRange x) (hy : t.inRange y) :
    OK t π dir (lcmExt t π to0 x y dir) (lcmE (t.denote π x) (t.denote π y)) := by
  unfold lcmExt
  rcases IntTy.denote_cases w hx with ⟨a, d⟩ | ⟨a, b, c, d⟩ | ⟨a, b, c, d⟩ | ⟨a, b, c, d, f⟩ <;>
  rcases IntTy.denote_cases w hy with ⟨a', d'⟩ | ⟨a', b', c', d'⟩ | ⟨a', b', c', d'⟩ | ⟨a', b', c', d', f'⟩ <;>
  simp only [a, a', d, d', lcmE, Bool.or_true, Bool.or_false, Bool.or_self, Bool.false_eq_true, if_true, if_false]
  all_goals first
    | exact okNanSpecial w dir h0
    | (simp only [*, Bool.or_true, Bool.or_false, Bool.or_self, Bool.false_eq_true, if_true, if_false]
       first
        | exact okPinf w dir h0
        | (obtain ⟨z, hz, htri⟩ := lcm_tri w hl hco dir h0 f f'
           exact tri_ok w hz htri))

end PPLV.Checked

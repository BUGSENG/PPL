import PPLV.Checked.Outcome
import PPLV.Checked.Proofs3
/-!
# C11 proofs: fused multiply-add and multiply-subtract

After a positive overflow of the product `sub_mul_int` claims a negative overflow when `to < 0`, and
for `to = 0` only if the finite range is symmetric (`min + max ≥ 0`); on the asymmetric two's
complement range `0 - (max + 1) = min` is representable and the answer is "unknown"
(/repo 295149f; before: `to ≤ 0`, `C11.subMul_holds_before_fix_fails`).
-/
namespace PPLV.Checked
open Result

theorem IntTy.wrap_of_inRange {t : IntTy} {v : Int} (h : t.inRange v) : t.wrap v = v := by
  have hp := t.half_pos
  unfold IntTy.inRange IntTy.cmin IntTy.cmax at h
  unfold IntTy.wrap
  cases hs : t.signed <;> simp [hs] at h ⊢
  · exact Int.emod_eq_of_lt (by omega) (by omega)
  · rw [Int.emod_eq_of_lt (by omega) (by omega)]; omega

/-- a NaN-class outcome produced by `assign_nan` -/
theorem ok_assignNan {t : IntTy} {π : Policy} (w : t.WF π) (dir : Dir) {to0 : Int} (h0 : t.inRange to0)
    {r : Result} (hr : r.cls = .nan) {exact : Ext Int} (hx : K4.nanReasonHolds r.reason exact) :
    OK t π dir (assignNan t π to0 r) exact := by
  unfold assignNan assignSpecial
  refine ⟨?_, ?_, ?_, ?_, ?_⟩
  · simp [K4.holds, hr, hx]
  · simp [K4.directed, hr]
  · simp [K4.overflowHolds, hr]
  · simp only []
    split
    · rename_i hn; exact (IntTy.isNan_nanV w hn).2
    · exact h0
  · intro _ hn
    simp [hn]
    exact (IntTy.isNan_nanV w hn).1

theorem resultOverflow_setNeg (t : IntTy) (π : Policy) (to0 : Int) (dir : Dir) :
    (setNegOverflow t π to0 dir).2.resultOverflow = -1 := by
  unfold setNegOverflow
  split
  · rfl
  · split <;> rfl

theorem resultOverflow_setPos (t : IntTy) (π : Policy) (to0 : Int) (dir : Dir) :
    (setPosOverflow t π to0 dir).2.resultOverflow = 1 := by
  unfold setPosOverflow
  split
  · rfl
  · split <;> rfl

theorem setNegOverflow_ne_eq (t : IntTy) (π : Policy) (to0 : Int) (dir : Dir) :
    ((setNegOverflow t π to0 dir).2 != V_EQ) = true := by
  unfold setNegOverflow; split
  · rfl
  · split <;> rfl

theorem setPosOverflow_ne_eq (t : IntTy) (π : Policy) (to0 : Int) (dir : Dir) :
    ((setPosOverflow t π to0 dir).2 != V_EQ) = true := by
  unfold setPosOverflow; split
  · rfl
  · split <;> rfl

/-- `-min ≤ max` needs a NaN pattern or an unsigned type -/
theorem IntTy.neg_emin_le_emax {t : IntTy} {π : Policy} (w : t.WF π) (h : π.hasNan = true ∨ t.signed = false) :
    -(t.emin π) ≤ t.emax π := by
  cases hs : t.signed
  · have := IntTy.emin_le_emax w
    obtain ⟨-, -, e, -⟩ := t.layout_unsigned π hs
    omega
  · have := b2i_true (h.resolve_right (by rw [hs]; decide))
    obtain ⟨-, -, e1, e2, -⟩ := t.layout_signed π hs
    omega

/-- a finite bound above the exact result, reported with `V_LT` under ROUND_UP -/
theorem ok_bound_lt {t : IntTy} {π : Policy} (w : t.WF π) {dir : Dir} {s e : Int} (hf : t.finite π s)
    (h : e < s) (hup : dir.roundUp = true) : OK t π dir (s, V_LT) (.fin e) :=
  (okc_normal (c := id) w hf rfl rfl rfl (Or.inl ⟨rfl, h⟩) (fun _ => Int.le_of_lt h)
    (fun hd => by rw [(Dir.up_of_roundUp hup).1] at hd; cases hd)).toOK

/-- a finite bound below the exact result, reported with `V_GT` under ROUND_DOWN -/
theorem ok_bound_gt {t : IntTy} {π : Policy} (w : t.WF π) {dir : Dir} {s e : Int} (hf : t.finite π s)
    (h : s < e) (hdn : dir.roundDown = true) : OK t π dir (s, V_GT) (.fin e) :=
  (okc_normal (c := id) w hf rfl rfl rfl (Or.inr (Or.inr ⟨rfl, h⟩))
    (fun hu => by rw [(Dir.down_of_roundDown hdn).1] at hu; cases hu) (fun _ => Int.le_of_lt h)).toOK

theorem addMul_ok {t : IntTy} {π : Policy} (w : t.WF π) (hl : t.LargerOK)
    (hco : π.checkOverflow = true) (dir : Dir) {to0 x y : Int} (h0 : t.finite π to0)
    (hx : t.finite π x) (hy : t.finite π y) :
    OK t π dir (addMul t π to0 x y dir) (.fin (to0 + x * y)) := by
  have hr0 := IntTy.finite_inRange h0
  obtain ⟨hmin, hmax⟩ := IntTy.emin_le_emax w
  have hz : t.inRange 0 := IntTy.finite_inRange (π := π) ⟨hmin, hmax⟩
  unfold addMul
  rcases mul_tri w hl hco dir hz hx hy with ⟨e, hf⟩ | ⟨he, e⟩ | ⟨he, e⟩
  · rw [e]
    simp only [show (V_EQ).resultOverflow = 0 from rfl, beq_self_eq_true, if_true]
    rw [IntTy.wrap_of_inRange (IntTy.finite_inRange hf)]
    exact tri_ok w hr0 (add_tri w hl hco dir hr0 h0 (IntTy.finite_inRange hf))
  · rw [e]
    simp only [resultOverflow_setNeg, show ((-1 : Int) == 0) = false from rfl,
      show ((-1 : Int) == -1) = true from rfl, if_true, Bool.false_eq_true, if_false]
    split
    · exact tri_ok w hr0 (tri_neg (by omega))
    · split
      · rename_i hto hup
        exact ok_bound_lt w ⟨by omega, by have := h0.2; omega⟩ (by omega) hup
      · exact ok_assignNan w dir hr0 rfl (Or.inl rfl)
  · rw [e]
    simp only [resultOverflow_setPos, show ((1 : Int) == 0) = false from rfl,
      show ((1 : Int) == -1) = false from rfl, Bool.false_eq_true, if_false]
    split
    · exact tri_ok w hr0 (tri_pos (by omega))
    · split
      · rename_i hto hdn
        exact ok_bound_gt w ⟨by have := h0.1; omega, by omega⟩ (by omega) hdn
      · exact ok_assignNan w dir hr0 rfl (Or.inr (Or.inl rfl))

/-- **`sub_mul_int`** (as repaired by /repo 295149f) -/
theorem subMul_ok {t : IntTy} {π : Policy} (w : t.WF π) (hl : t.LargerOK)
    (hco : π.checkOverflow = true) (dir : Dir) {to0 x y : Int} (h0 : t.finite π to0)
    (hx : t.finite π x) (hy : t.finite π y) :
    OK t π dir (subMul t π to0 x y dir) (.fin (to0 - x * y)) := by
  have hr0 := IntTy.finite_inRange h0
  obtain ⟨hmin, hmax⟩ := IntTy.emin_le_emax w
  have hz : t.inRange 0 := IntTy.finite_inRange (π := π) ⟨hmin, hmax⟩
  have hge : t.signed = true → t.emax π ≤ -(t.emin π) := fun hs => (t.neg_emin_near_emax π hs).1
  have hle : -(t.emin π) ≤ t.emax π + 1 ∨ t.signed = false := by
    cases hs : t.signed
    · exact Or.inr rfl
    · exact Or.inl (t.neg_emin_near_emax π hs).2
  have hun : t.signed = false → 0 ≤ x * y ∧ t.emin π = 0 := fun hs =>
    ⟨Int.mul_nonneg (by have := (IntTy.finite_bounds hx).2 hs; omega) (by have := (IntTy.finite_bounds hy).2 hs; omega),
     by simp [IntTy.emin, IntTy.cmin, hs]⟩
  unfold subMul
  rcases mul_tri w hl hco dir hz hx hy with ⟨e, hf⟩ | ⟨he, e⟩ | ⟨he, e⟩
  · rw [e]
    simp only [show (V_EQ).resultOverflow = 0 from rfl, beq_self_eq_true, if_true]
    rw [IntTy.wrap_of_inRange (IntTy.finite_inRange hf)]
    exact tri_ok w hr0 (sub_tri w hl hco dir hr0 h0 (IntTy.finite_inRange hf))
  · rw [e]
    simp only [resultOverflow_setNeg, show ((-1 : Int) == 0) = false from rfl,
      show ((-1 : Int) == -1) = true from rfl, if_true, Bool.false_eq_true, if_false]
    split
    · apply tri_ok w hr0 (tri_pos _)
      cases hs : t.signed
      · have := hun hs; omega
      · have := hge hs; omega
    · split
      · rename_i hto hdn
        have h01 := h0.1; have h02 := h0.2
        refine ok_bound_gt w ⟨by omega, ?_⟩ (by omega) hdn
        rcases hle with h | h
        · omega
        · have := hun h; omega
      · exact ok_assignNan w dir hr0 rfl (Or.inl rfl)
  · rw [e]
    simp only [resultOverflow_setPos, show ((1 : Int) == 0) = false from rfl,
      show ((1 : Int) == -1) = false from rfl, Bool.false_eq_true, if_false]
    split
    · rename_i hc
      apply tri_ok w hr0 (tri_neg _)
      simp only [Bool.or_eq_true, decide_eq_true_eq, Bool.and_eq_true, beq_iff_eq] at hc
      have h01 := h0.1
      rcases hc with hc | ⟨hc1, hc2⟩
      · rcases hle with h | h
        · omega
        · have := hun h; omega
      · omega
    · split
      · rename_i hc hup
        simp only [Bool.and_eq_true, decide_eq_true_eq] at hup
        simp only [Bool.or_eq_true, decide_eq_true_eq, Bool.and_eq_true, beq_iff_eq, not_or] at hc
        have h02 := h0.2
        have hsg : t.signed = true := by
          cases hs : t.signed
          · have := (hun hs).2; omega
          · rfl
        have := hge hsg
        exact ok_bound_lt w ⟨by omega, by omega⟩ (by omega) hup.1
      · exact ok_assignNan w dir hr0 rfl (Or.inr (Or.inl rfl))

end PPLV.Checked

import PPLV.Checked.ProofsDiv2exp
/-!
# C11 proofs: the extended layer (`checked_ext_inlines.hh`) — what `*_assign_r` run

Operands are arbitrary bit patterns of the type; under the policy each denotes NaN, an infinity or
a finite number (`IntTy.denote_cases`).  Special operands end in `assign_special_int`
(`ok_special`) or `assign_nan`; finite ones reach the native primitive.
-/
namespace PPLV.Checked
open Result

/-- what a class denotes -/
def Ext.ofCls : Cls → Ext Int | .nan => .nan | .minf => .minf | .pinf => .pinf | .normal => .nan

theorem IntTy.denote_cases {t : IntTy} {π : Policy} (w : t.WF π) {x : Int} (hr : t.inRange x) :
    (t.isNan π x = true ∧ t.denote π x = .nan) ∨
    (t.isNan π x = false ∧ t.isMinf π x = true ∧ t.isPinf π x = false ∧ t.denote π x = .minf) ∨
    (t.isNan π x = false ∧ t.isMinf π x = false ∧ t.isPinf π x = true ∧ t.denote π x = .pinf) ∨
    (t.isNan π x = false ∧ t.isMinf π x = false ∧ t.isPinf π x = false ∧ t.denote π x = .fin x ∧ t.finite π x) := by
  cases h1 : t.isNan π x
  · cases h2 : t.isMinf π x
    · cases h3 : t.isPinf π x
      · exact Or.inr (Or.inr (Or.inr ⟨rfl, rfl, rfl, by simp only [IntTy.denote, h1, h2, h3, Bool.false_eq_true, if_false],
          IntTy.finite_of_not_special hr h1 h2 h3⟩))
      · exact Or.inr (Or.inr (Or.inl ⟨rfl, rfl, rfl, by simp only [IntTy.denote, h1, h2, h3, Bool.false_eq_true, if_false, if_true]⟩))
    · refine Or.inr (Or.inl ⟨rfl, rfl, ?_, by simp only [IntTy.denote, h1, h2, Bool.false_eq_true, if_false, if_true]⟩)
      -- the two infinities are different bit patterns
      have hi : π.hasInfinity = true ∧ x = t.minusInf := by simpa [IntTy.isMinf] using h2
      have h4 := t.half_ge4 (w.room (Or.inr hi.1))
      rw [IntTy.isPinf, hi.2, Bool.and_eq_false_imp, beq_eq_false_iff_ne]
      intro _
      cases hs : t.signed
      · obtain ⟨-, -, -, -, -, v2, v3⟩ := t.layout_unsigned π hs; omega
      · obtain ⟨-, -, -, -, -, v2, v3⟩ := t.layout_signed π hs; omega
  · exact Or.inl ⟨rfl, by simp only [IntTy.denote, h1, if_true]⟩

/-- `assign_special_int` for the class `c` stores / reports the special value `c` -/
theorem ok_special {t : IntTy} {π : Policy} (w : t.WF π) (dir : Dir) {to0 : Int} (h0 : t.inRange to0)
    (c : Cls) (hc : c ≠ .normal) (dir' : Dir) (hd : c = .nan ∨ dir' = dir) :
    OK t π dir (assignSpecial t π to0 c dir') (Ext.ofCls c) := by
  cases c
  case normal => exact absurd rfl hc
  case minf =>
    have hd : dir' = dir := by rcases hd with h | h; cases h; exact h
    subst hd
    unfold assignSpecial
    simp only [Ext.ofCls]
    split
    · rename_i hi
      obtain ⟨hden, hr⟩ := IntTy.denote_minusInf w hi
      refine ⟨?_, ?_, ?_, hr, ?_⟩
      · simp [K4.holds, V_EQ_MINUS_INFINITY, hden, K4.relHolds, Rel.EQ, Ext.eqv]
      · simp [K4.directed, V_EQ_MINUS_INFINITY, hden, Ext.le, Ext.eqv]
      · simp [K4.overflowHolds, V_EQ_MINUS_INFINITY, Rel.EQ, Rel.GT]
      · simp [V_EQ_MINUS_INFINITY]
    · split
      · rename_i hup
        have hup' : dir' = Dir.up := by simpa [Dir.roundUp] using hup
        have hden := IntTy.denote_finite w (IntTy.finite_emin w)
        refine ⟨?_, ?_, ?_, IntTy.finite_inRange (IntTy.finite_emin w), ?_⟩
        · simp [K4.holds, V_LT_INF, hden, K4.relHolds, Rel.LT, Ext.lt]
        · simp [K4.directed, V_LT_INF, hden, Ext.le, Ext.lt, hup']
        · simp [K4.overflowHolds, V_LT_INF, Rel.LT, Rel.GT, Ext.lt]
        · simp [V_LT_INF]
      · refine ⟨?_, ?_, ?_, h0, ?_⟩
        · simp [K4.holds, V_EQ_MINUS_INFINITY, orUnrep, K4.relHolds, Rel.EQ, Ext.eqv]
        · simp [K4.directed, V_EQ_MINUS_INFINITY, orUnrep]
        · simp [K4.overflowHolds, V_EQ_MINUS_INFINITY, orUnrep, Rel.EQ, Rel.GT]
        · simp [V_EQ_MINUS_INFINITY, orUnrep]
  case pinf =>
    have hd : dir' = dir := by rcases hd with h | h; cases h; exact h
    subst hd
    unfold assignSpecial
    simp only [Ext.ofCls]
    split
    · rename_i hi
      obtain ⟨hden, hr⟩ := IntTy.denote_plusInf w hi
      refine ⟨?_, ?_, ?_, hr, ?_⟩
      · simp [K4.holds, V_EQ_PLUS_INFINITY, hden, K4.relHolds, Rel.EQ, Ext.eqv]
      · simp [K4.directed, V_EQ_PLUS_INFINITY, hden, Ext.le, Ext.eqv]
      · simp [K4.overflowHolds, V_EQ_PLUS_INFINITY, Rel.EQ, Rel.LT]
      · simp [V_EQ_PLUS_INFINITY]
    · split
      · rename_i hdn
        have hdn' : dir' = Dir.down := by simpa [Dir.roundDown] using hdn
        have hden := IntTy.denote_finite w (IntTy.finite_emax w)
        refine ⟨?_, ?_, ?_, IntTy.finite_inRange (IntTy.finite_emax w), ?_⟩
        · simp [K4.holds, V_GT_SUP, hden, K4.relHolds, Rel.GT, Ext.lt]
        · simp [K4.directed, V_GT_SUP, hden, Ext.le, Ext.lt, hdn']
        · simp [K4.overflowHolds, V_GT_SUP, Rel.LT, Rel.GT, Ext.lt]
        · simp [V_GT_SUP]
      · refine ⟨?_, ?_, ?_, h0, ?_⟩
        · simp [K4.holds, V_EQ_PLUS_INFINITY, orUnrep, K4.relHolds, Rel.EQ, Ext.eqv]
        · simp [K4.directed, V_EQ_PLUS_INFINITY, orUnrep]
        · simp [K4.overflowHolds, V_EQ_PLUS_INFINITY, orUnrep, Rel.EQ, Rel.LT]
        · simp [V_EQ_PLUS_INFINITY, orUnrep]
  case nan =>
    unfold assignSpecial
    simp only [Ext.ofCls]
    split
    · rename_i hn
      obtain ⟨hnan, hr⟩ := IntTy.isNan_nanV w hn
      refine ⟨?_, ?_, ?_, hr, ?_⟩
      · simp [K4.holds, V_NAN, K4.nanReasonHolds]
      · simp [K4.directed, V_NAN]
      · simp [K4.overflowHolds, V_NAN]
      · intro _ _; exact hnan
    · rename_i hn
      refine ⟨?_, ?_, ?_, h0, ?_⟩
      · simp [K4.holds, V_NAN, orUnrep, K4.nanReasonHolds]
      · simp [K4.directed, V_NAN, orUnrep]
      · simp [K4.overflowHolds, V_NAN, orUnrep]
      · intro _ h; exact absurd h hn


/-- simplification set for the Boolean tests of the extended layer -/
macro "ext_simp" : tactic => `(tactic|
  simp only [*, Bool.or_false, Bool.false_or, Bool.or_true, Bool.true_or, Bool.and_true, Bool.and_false,
    Bool.true_and, Bool.false_and, Bool.false_eq_true, if_true, if_false, Bool.or_self, Bool.and_self,
    Ext.negI, Ext.absI, Ext.addI, Ext.subI, Ext.mulI, Ext.sgnI, Ext.ofCls])

theorem okNanSpecial {t : IntTy} {π : Policy} (w : t.WF π) (dir : Dir) {to0 : Int} (h0 : t.inRange to0) :
    OK t π dir (assignSpecial t π to0 .nan .ignore) .nan :=
  ok_special w dir h0 .nan (by decide) .ignore (Or.inl rfl)

theorem okMinf {t : IntTy} {π : Policy} (w : t.WF π) (dir : Dir) {to0 : Int} (h0 : t.inRange to0) :
    OK t π dir (assignSpecial t π to0 .minf dir) .minf :=
  ok_special w dir h0 .minf (by decide) dir (Or.inr rfl)

theorem okPinf {t : IntTy} {π : Policy} (w : t.WF π) (dir : Dir) {to0 : Int} (h0 : t.inRange to0) :
    OK t π dir (assignSpecial t π to0 .pinf dir) .pinf :=
  ok_special w dir h0 .pinf (by decide) dir (Or.inr rfl)

theorem okNanReason {t : IntTy} {π : Policy} (w : t.WF π) (dir : Dir) {to0 : Int} (h0 : t.inRange to0)
    {r : Result} (hr : r.cls = .nan) : OK t π dir (assignNan t π to0 r) .nan :=
  ok_assignNan w dir h0 hr (Or.inr (Or.inr rfl))

theorem negExt_ok {t : IntTy} {π : Policy} (w : t.WF π) (hl : t.LargerOK) (hco : π.checkOverflow = true)
    (dir : Dir) {to0 x : Int} (h0 : t.inRange to0) (hx : t.inRange x) :
    OK t π dir (negExt t π to0 x dir) (Ext.negI (t.denote π x)) := by
  unfold negExt
  rcases IntTy.denote_cases w hx with ⟨a, d⟩ | ⟨a, b, c, d⟩ | ⟨a, b, c, d⟩ | ⟨a, b, c, d, f⟩ <;> ext_simp
  · exact okNanSpecial w dir h0
  · exact okPinf w dir h0
  · exact okMinf w dir h0
  · exact tri_ok w h0 (neg_tri w hl hco dir h0 f)

theorem absExt_ok {t : IntTy} {π : Policy} (w : t.WF π) (hl : t.LargerOK) (hco : π.checkOverflow = true)
    (dir : Dir) {to0 x : Int} (h0 : t.inRange to0) (hx : t.inRange x) :
    OK t π dir (absExt t π to0 x dir) (Ext.absI (t.denote π x)) := by
  unfold absExt
  rcases IntTy.denote_cases w hx with ⟨a, d⟩ | ⟨a, b, c, d⟩ | ⟨a, b, c, d⟩ | ⟨a, b, c, d, f⟩ <;> ext_simp
  · exact okNanSpecial w dir h0
  · exact okPinf w dir h0
  · exact okPinf w dir h0
  · exact tri_ok w h0 (abs_tri w hl hco dir h0 f)

theorem assignExt_ok {t f : IntTy} {π πf : Policy} (w : t.WF π) (wf : f.WF πf) (hco : π.checkOverflow = true)
    (hg : t.GapOK f) (dir : Dir) {to0 x : Int} (h0 : t.inRange to0) (hx : f.inRange x) :
    OK t π dir (assignExt t π f πf to0 x dir) (f.denote πf x) := by
  unfold assignExt extUnary
  rcases IntTy.denote_cases wf hx with ⟨a, d⟩ | ⟨a, b, c, d⟩ | ⟨a, b, c, d⟩ | ⟨a, b, c, d, g⟩ <;> ext_simp
  · exact okNanSpecial w dir h0
  · exact okMinf w dir h0
  · exact okPinf w dir h0
  · exact tri_ok w h0 (assignInt_tri w wf hco hg dir h0 g)

theorem addExt_ok {t : IntTy} {π : Policy} (w : t.WF π) (hl : t.LargerOK) (hco : π.checkOverflow = true)
    (dir : Dir) {to0 x y : Int} (h0 : t.inRange to0) (hx : t.inRange x) (hy : t.inRange y)
    (hpre : π.checkInfAddInf = true ∨
      ¬ ((t.denote π x = .minf ∧ t.denote π y = .pinf) ∨ (t.denote π x = .pinf ∧ t.denote π y = .minf))) :
    OK t π dir (addExt t π to0 x y dir) (Ext.addI (t.denote π x) (t.denote π y)) := by
  unfold addExt
  rcases IntTy.denote_cases w hx with ⟨a, d⟩ | ⟨a, b, c, d⟩ | ⟨a, b, c, d⟩ | ⟨a, b, c, d, f⟩ <;>
  rcases IntTy.denote_cases w hy with ⟨a', d'⟩ | ⟨a', b', c', d'⟩ | ⟨a', b', c', d'⟩ | ⟨a', b', c', d', f'⟩ <;>
  (try rw [d, d'] at hpre) <;> ext_simp
  all_goals first
    | exact okNanSpecial w dir h0
    | exact okMinf w dir h0
    | exact okPinf w dir h0
    | exact tri_ok w h0 (add_tri w hl hco dir h0 f (IntTy.finite_inRange f'))
    | skip
  all_goals
    rcases hpre with h | h
    · rw [if_pos h]; exact okNanReason w dir h0 (r := V_INF_ADD_INF) rfl
    · exact absurd (by first | exact Or.inl ⟨rfl, rfl⟩ | exact Or.inr ⟨rfl, rfl⟩) h


theorem subExt_ok {t : IntTy} {π : Policy} (w : t.WF π) (hl : t.LargerOK) (hco : π.checkOverflow = true)
    (dir : Dir) {to0 x y : Int} (h0 : t.inRange to0) (hx : t.inRange x) (hy : t.inRange y)
    (hpre : π.checkInfSubInf = true ∨
      ¬ ((t.denote π x = .minf ∧ t.denote π y = .minf) ∨ (t.denote π x = .pinf ∧ t.denote π y = .pinf))) :
    OK t π dir (subExt t π to0 x y dir) (Ext.subI (t.denote π x) (t.denote π y)) := by
  unfold subExt
  rcases IntTy.denote_cases w hx with ⟨a, d⟩ | ⟨a, b, c, d⟩ | ⟨a, b, c, d⟩ | ⟨a, b, c, d, f⟩ <;>
  rcases IntTy.denote_cases w hy with ⟨a', d'⟩ | ⟨a', b', c', d'⟩ | ⟨a', b', c', d'⟩ | ⟨a', b', c', d', f'⟩ <;>
  (try rw [d, d'] at hpre) <;> ext_simp
  all_goals first
    | exact okNanSpecial w dir h0
    | exact okMinf w dir h0
    | exact okPinf w dir h0
    | exact (by simpa [Int.sub_eq_add_neg] using tri_ok w h0 (sub_tri w hl hco dir h0 f (IntTy.finite_inRange f')))
    | skip
  all_goals
    rcases hpre with h | h
    · rw [if_pos h]; exact okNanReason w dir h0 (r := V_INF_SUB_INF) rfl
    · exact absurd (by first | exact Or.inl ⟨rfl, rfl⟩ | exact Or.inr ⟨rfl, rfl⟩) h

/-- the three signs of a native value: what the tests of the code evaluate to, `sgn_generic`, and the sign of
the number it denotes -/
theorem sgnNative_cases (v : Int) :
    (v < 0 ∧ ¬ v > 0 ∧ (v == 0) = false ∧ sgnNative v = Rel.LT ∧ Ext.sgnI (.fin v) = -1) ∨
    (v = 0 ∧ sgnNative v = Rel.EQ ∧ Ext.sgnI (.fin v) = 0) ∨
    (v > 0 ∧ ¬ v < 0 ∧ (v == 0) = false ∧ sgnNative v = Rel.GT ∧ Ext.sgnI (.fin v) = 1) := by
  unfold sgnNative Ext.sgnI
  rcases Int.lt_trichotomy v 0 with h | h | h
  · have h1 : ¬ v > 0 := by omega
    have h2 : (v == 0) = false := by simpa using (by omega : v ≠ 0)
    exact Or.inl ⟨h, h1, h2, by simp only [h1, h2, if_false, Bool.false_eq_true], by simp only [h, if_true]⟩
  · subst h; exact Or.inr (Or.inl ⟨rfl, rfl, rfl⟩)
  · have h1 : ¬ v < 0 := by omega
    have h2 : (v == 0) = false := by simpa using (by omega : v ≠ 0)
    exact Or.inr (Or.inr ⟨h, h1, h2, by simp only [h, if_true], by simp only [h, h1, if_false, if_true]⟩)

theorem mulInfClass_spec {t : IntTy} {π : Policy} (w : t.WF π) {x y : Int} (hx : t.inRange x) (hy : t.inRange y)
    (nx : t.isNan π x = false) (ny : t.isNan π y = false) :
    (mulInfClass t π x y = none ∧ t.finite π x ∧ t.finite π y ∧ t.denote π x = .fin x ∧ t.denote π y = .fin y) ∨
    (∃ c, c ≠ Cls.normal ∧ mulInfClass t π x y = some c ∧ Ext.mulI (t.denote π x) (t.denote π y) = Ext.ofCls c) := by
  unfold mulInfClass sgnExt
  rcases IntTy.denote_cases w hx with ⟨a, -⟩ | ⟨-, b, c, d⟩ | ⟨-, b, c, d⟩ | ⟨-, b, c, d, f⟩
  · rw [a] at nx; cases nx
  all_goals
    rcases IntTy.denote_cases w hy with ⟨a', -⟩ | ⟨-, b', c', d'⟩ | ⟨-, b', c', d'⟩ | ⟨-, b', c', d', f'⟩
    · rw [a'] at ny; cases ny
  all_goals simp only [b, c, d, ny, b', c', d', if_true, if_false, Bool.false_eq_true]
  -- an infinity times an infinity: closed terms
  any_goals exact Or.inr ⟨_, by decide, rfl, rfl⟩
  -- an infinity times a finite value: by its sign
  · right
    rcases sgnNative_cases y with ⟨-, -, -, s1, s2⟩ | ⟨-, s1, s2⟩ | ⟨-, -, -, s1, s2⟩ <;> simp only [s1, Ext.mulI, s2] <;>
      exact ⟨_, by decide, rfl, rfl⟩
  · right
    rcases sgnNative_cases y with ⟨-, -, -, s1, s2⟩ | ⟨-, s1, s2⟩ | ⟨-, -, -, s1, s2⟩ <;> simp only [s1, Ext.mulI, s2] <;>
      exact ⟨_, by decide, rfl, rfl⟩
  · right
    rcases sgnNative_cases x with ⟨-, -, -, s1, s2⟩ | ⟨-, s1, s2⟩ | ⟨-, -, -, s1, s2⟩ <;> simp only [s1, Ext.mulI, s2] <;>
      exact ⟨_, by decide, rfl, rfl⟩
  · right
    rcases sgnNative_cases x with ⟨-, -, -, s1, s2⟩ | ⟨-, s1, s2⟩ | ⟨-, -, -, s1, s2⟩ <;> simp only [s1, Ext.mulI, s2] <;>
      exact ⟨_, by decide, rfl, rfl⟩
  · exact Or.inl ⟨trivial, f, f', trivial, trivial⟩

theorem Ext.addI_nan_right (a : Ext Int) : Ext.addI a .nan = .nan := by cases a <;> rfl
theorem Ext.mulI_nan_left (a : Ext Int) : Ext.mulI .nan a = .nan := by cases a <;> rfl
theorem Ext.mulI_nan_right (a : Ext Int) : Ext.mulI a .nan = .nan := by cases a <;> rfl
theorem IntTy.denote_of_isNan {t : IntTy} {π : Policy} {x : Int} (h : t.isNan π x = true) : t.denote π x = .nan := by
  simp [IntTy.denote, h]

theorem mulExt_ok {t : IntTy} {π : Policy} (w : t.WF π) (hl : t.LargerOK) (hco : π.checkOverflow = true)
    (dir : Dir) {to0 x y : Int} (h0 : t.inRange to0) (hx : t.inRange x) (hy : t.inRange y) :
    OK t π dir (mulExt t π to0 x y dir) (Ext.mulI (t.denote π x) (t.denote π y)) := by
  unfold mulExt
  by_cases hn : (t.isNan π x || t.isNan π y) = true
  · rw [if_pos hn]
    have : Ext.mulI (t.denote π x) (t.denote π y) = .nan := by
      rcases Bool.or_eq_true _ _ ▸ hn with h | h
      · rw [IntTy.denote_of_isNan h, Ext.mulI_nan_left]
      · rw [IntTy.denote_of_isNan h, Ext.mulI_nan_right]
    rw [this]
    exact okNanSpecial w dir h0
  · rw [if_neg hn]
    obtain ⟨nx, ny⟩ := Bool.or_eq_false_iff.mp (Bool.not_eq_true _ ▸ hn)
    rcases mulInfClass_spec w hx hy nx ny with ⟨e, fx, fy, dx, dy⟩ | ⟨c, hc, e, hm⟩
    · rw [e, dx, dy]; exact tri_ok w h0 (mul_tri w hl hco dir h0 fx fy)
    · rw [e, hm]
      cases c
      · exact absurd rfl hc
      · exact okMinf w dir h0
      · exact okPinf w dir h0
      · exact okNanReason w dir h0 rfl

theorem addMulExt_ok {t : IntTy} {π : Policy} (w : t.WF π) (hl : t.LargerOK) (hco : π.checkOverflow = true)
    (dir : Dir) {to0 x y : Int} (h0 : t.inRange to0) (hx : t.inRange x) (hy : t.inRange y)
    (hpre : π.checkInfAddInf = true ∨
      ¬ ((t.denote π to0 = .minf ∧ Ext.mulI (t.denote π x) (t.denote π y) = .pinf) ∨
         (t.denote π to0 = .pinf ∧ Ext.mulI (t.denote π x) (t.denote π y) = .minf))) :
    OK t π dir (addMulExt t π to0 x y dir) (Ext.addI (t.denote π to0) (Ext.mulI (t.denote π x) (t.denote π y))) := by
  unfold addMulExt
  by_cases hn : (t.isNan π to0 || t.isNan π x || t.isNan π y) = true
  · simp only [hn, if_true]
    have : Ext.addI (t.denote π to0) (Ext.mulI (t.denote π x) (t.denote π y)) = .nan := by
      simp only [Bool.or_eq_true] at hn
      rcases hn with (h | h) | h
      · rw [IntTy.denote_of_isNan h]; rfl
      · rw [IntTy.denote_of_isNan h, Ext.mulI_nan_left, Ext.addI_nan_right]
      · rw [IntTy.denote_of_isNan h, Ext.mulI_nan_right, Ext.addI_nan_right]
    rw [this]
    exact okNanSpecial w dir h0
  · have hn' : (t.isNan π to0 || t.isNan π x || t.isNan π y) = false := by simpa using hn
    simp only [hn', Bool.false_eq_true, if_false]
    simp only [Bool.or_eq_false_iff] at hn'
    obtain ⟨⟨nz, nx⟩, ny⟩ := hn'
    rcases mulInfClass_spec w hx hy nx ny with ⟨e, fx, fy, dx, dy⟩ | ⟨c, hc, e, hm⟩
    · rw [e, dx, dy]
      simp only [Ext.mulI]
      rcases IntTy.denote_cases w h0 with ⟨a, d⟩ | ⟨a, b, c, d⟩ | ⟨a, b, c, d⟩ | ⟨a, b, c, d, f⟩
      · rw [a] at nz; cases nz
      · simp only [b, if_true, d, Ext.addI]; exact okMinf w dir h0
      · simp only [b, c, Bool.false_eq_true, if_false, if_true, d, Ext.addI]; exact okPinf w dir h0
      · simp only [b, c, Bool.false_eq_true, if_false, d, Ext.addI]
        exact addMul_ok w hl hco dir f fx fy
    · rw [e, hm]
      rw [hm] at hpre
      cases c
      case normal => exact absurd rfl hc
      case minf =>
        simp only [Ext.ofCls] at hpre ⊢
        rcases IntTy.denote_cases w h0 with ⟨a, d⟩ | ⟨a, b, c, d⟩ | ⟨a, b, c, d⟩ | ⟨a, b, c, d, f⟩
        · rw [a] at nz; cases nz
        · simp only [c, Bool.and_false, Bool.false_eq_true, if_false, d, Ext.addI]; exact okMinf w dir h0
        · rw [d] at hpre
          simp only [c, Bool.and_true, d, Ext.addI]
          rcases hpre with h | h
          · rw [if_pos h]; exact okNanReason w dir h0 rfl
          · exact absurd (by simp) h
        · simp only [c, Bool.and_false, Bool.false_eq_true, if_false, d, Ext.addI]; exact okMinf w dir h0
      case pinf =>
        simp only [Ext.ofCls] at hpre ⊢
        rcases IntTy.denote_cases w h0 with ⟨a, d⟩ | ⟨a, b, c, d⟩ | ⟨a, b, c, d⟩ | ⟨a, b, c, d, f⟩
        · rw [a] at nz; cases nz
        · rw [d] at hpre
          simp only [b, Bool.and_true, d, Ext.addI]
          rcases hpre with h | h
          · rw [if_pos h]; exact okNanReason w dir h0 rfl
          · exact absurd (by simp) h
        · simp only [b, Bool.and_false, Bool.false_eq_true, if_false, d, Ext.addI]; exact okPinf w dir h0
        · simp only [b, Bool.and_false, Bool.false_eq_true, if_false, d, Ext.addI]; exact okPinf w dir h0
      case nan =>
        simp only [Ext.ofCls]
        rw [Ext.addI_nan_right]
        exact okNanReason w dir h0 rfl

theorem subMulExt_ok {t : IntTy} {π : Policy} (w : t.WF π) (hl : t.LargerOK) (hco : π.checkOverflow = true)
    (dir : Dir) {to0 x y : Int} (h0 : t.inRange to0) (hx : t.inRange x) (hy : t.inRange y)
    (hpre : π.checkInfSubInf = true ∨
      ¬ ((t.denote π to0 = .minf ∧ Ext.mulI (t.denote π x) (t.denote π y) = .minf) ∨
         (t.denote π to0 = .pinf ∧ Ext.mulI (t.denote π x) (t.denote π y) = .pinf))) :
    OK t π dir (subMulExt t π to0 x y dir) (Ext.subI (t.denote π to0) (Ext.mulI (t.denote π x) (t.denote π y))) := by
  unfold Ext.subI
  unfold subMulExt
  by_cases hn : (t.isNan π to0 || t.isNan π x || t.isNan π y) = true
  · simp only [hn, if_true]
    have : Ext.addI (t.denote π to0) (Ext.negI (Ext.mulI (t.denote π x) (t.denote π y))) = .nan := by
      simp only [Bool.or_eq_true] at hn
      rcases hn with (h | h) | h
      · rw [IntTy.denote_of_isNan h]; rfl
      · rw [IntTy.denote_of_isNan h, Ext.mulI_nan_left]; exact Ext.addI_nan_right _
      · rw [IntTy.denote_of_isNan h, Ext.mulI_nan_right]; exact Ext.addI_nan_right _
    rw [this]
    exact okNanSpecial w dir h0
  · have hn' : (t.isNan π to0 || t.isNan π x || t.isNan π y) = false := by simpa using hn
    simp only [hn', Bool.false_eq_true, if_false]
    simp only [Bool.or_eq_false_iff] at hn'
    obtain ⟨⟨nz, nx⟩, ny⟩ := hn'
    rcases mulInfClass_spec w hx hy nx ny with ⟨e, fx, fy, dx, dy⟩ | ⟨c, hc, e, hm⟩
    · rw [e, dx, dy]
      simp only [Ext.mulI, Ext.negI]
      rcases IntTy.denote_cases w h0 with ⟨a, d⟩ | ⟨a, b, c, d⟩ | ⟨a, b, c, d⟩ | ⟨a, b, c, d, f⟩
      · rw [a] at nz; cases nz
      · simp only [b, if_true, d, Ext.addI]; exact okMinf w dir h0
      · simp only [b, c, Bool.false_eq_true, if_false, if_true, d, Ext.addI]; exact okPinf w dir h0
      · simp only [b, c, Bool.false_eq_true, if_false, d, Ext.addI]
        have := subMul_ok w hl hco dir f fx fy
        simpa [Int.sub_eq_add_neg] using this
    · rw [e, hm]
      rw [hm] at hpre
      cases c
      case normal => exact absurd rfl hc
      case minf =>
        simp only [Ext.ofCls, Ext.negI] at hpre ⊢
        rcases IntTy.denote_cases w h0 with ⟨a, d⟩ | ⟨a, b, c, d⟩ | ⟨a, b, c, d⟩ | ⟨a, b, c, d, f⟩
        · rw [a] at nz; cases nz
        · rw [d] at hpre
          simp only [b, Bool.and_true, d, Ext.addI]
          rcases hpre with h | h
          · rw [if_pos h]; exact okNanReason w dir h0 rfl
          · exact absurd (by simp) h
        · simp only [b, Bool.and_false, Bool.false_eq_true, if_false, d, Ext.addI]; exact okPinf w dir h0
        · simp only [b, Bool.and_false, Bool.false_eq_true, if_false, d, Ext.addI]; exact okPinf w dir h0
      case pinf =>
        simp only [Ext.ofCls, Ext.negI] at hpre ⊢
        rcases IntTy.denote_cases w h0 with ⟨a, d⟩ | ⟨a, b, c, d⟩ | ⟨a, b, c, d⟩ | ⟨a, b, c, d, f⟩
        · rw [a] at nz; cases nz
        · simp only [c, Bool.and_false, Bool.false_eq_true, if_false, d, Ext.addI]; exact okMinf w dir h0
        · rw [d] at hpre
          simp only [c, Bool.and_true, d, Ext.addI]
          rcases hpre with h | h
          · rw [if_pos h]; exact okNanReason w dir h0 rfl
          · exact absurd (by simp) h
        · simp only [c, Bool.and_false, Bool.false_eq_true, if_false, d, Ext.addI]; exact okMinf w dir h0
      case nan =>
        simp only [Ext.ofCls, Ext.negI]
        rw [Ext.addI_nan_right]
        exact okNanReason w dir h0 rfl

end PPLV.Checked

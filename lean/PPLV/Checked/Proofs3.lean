import PPLV.Checked.Proofs2
import Mathlib.Tactic.Ring
import Mathlib.Algebra.Order.Ring.Abs
/-!
# C11 proofs: multiplication (division-based overflow tests and the `Larger<T>` path)
-/
namespace PPLV.Checked
open Result

/-! ### the division tests of `mul_*_int` against the product

`m` is `max ≥ 0` or `min ≤ 0`; each test `x ≶ m / y` (truncating) says on which side of `m` the product
`x * y` lies.  All four come from `a ≤ m / y ↔ a * y ≤ m` for `0 ≤ m`, `0 < y` by changing signs. -/

theorem tdiv_lt_pos_pos {m x y : Int} (hm : 0 ≤ m) (hy : 0 < y) : m.tdiv y < x ↔ m < x * y := by
  rw [Int.tdiv_eq_ediv_of_nonneg hm]
  exact lt_iff_lt_of_le_iff_le (Int.le_ediv_iff_mul_le hy)

theorem lt_tdiv_pos_neg {m x y : Int} (hm : 0 ≤ m) (hy : y < 0) : x < m.tdiv y ↔ m < x * y := by
  have := @tdiv_lt_pos_pos m (-x) (-y) hm (by omega)
  rw [Int.tdiv_neg, Int.neg_mul_neg] at this
  omega

theorem lt_tdiv_neg_pos {m x y : Int} (hm : m ≤ 0) (hy : 0 < y) : x < m.tdiv y ↔ x * y < m := by
  have := @tdiv_lt_pos_pos (-m) (-x) y (by omega) hy
  rw [Int.neg_tdiv, Int.neg_mul] at this
  omega

theorem tdiv_lt_neg_neg {m x y : Int} (hm : m ≤ 0) (hy : y < 0) : m.tdiv y < x ↔ x * y < m := by
  have := @tdiv_lt_pos_pos (-m) x (-y) (by omega) (by omega)
  rw [Int.neg_tdiv, Int.tdiv_neg, Int.neg_neg, Int.mul_neg] at this
  omega

/-- a test `c` that says exactly when a non-negative product exceeds `max` -/
theorem tri_mul_pos {t : IntTy} {π : Policy} (w : t.WF π) {dir : Dir} {to0 p : Int} {c : Prop} [Decidable c]
    (hp : 0 ≤ p) (hc : c ↔ t.emax π < p) :
    Tri t π dir to0 (if c then setPosOverflow t π to0 dir else (p, V_EQ)) p := by
  by_cases h : c
  · rw [if_pos h]; exact tri_pos (hc.mp h)
  · rw [if_neg h]; exact tri_eq ⟨by have := (IntTy.emin_le_emax w).1; omega, Int.not_lt.mp (mt hc.mpr h)⟩

/-- a test `c` that says exactly when a non-positive product is below `min` -/
theorem tri_mul_neg {t : IntTy} {π : Policy} (w : t.WF π) {dir : Dir} {to0 p : Int} {c : Prop} [Decidable c]
    (hp : p ≤ 0) (hc : c ↔ p < t.emin π) :
    Tri t π dir to0 (if c then setNegOverflow t π to0 dir else (p, V_EQ)) p := by
  by_cases h : c
  · rw [if_pos h]; exact tri_neg (hc.mp h)
  · rw [if_neg h]; exact tri_eq ⟨Int.not_lt.mp (mt hc.mpr h), by have := (IntTy.emin_le_emax w).2; omega⟩

/-! ## mul -/

theorem mulLarger_tri {t : IntTy} {π : Policy} (w : t.WF π) (hl : t.LargerW) (hco : π.checkOverflow = true)
    (dir : Dir) {to0 x y : Int} (h0 : t.inRange to0) (hx : t.finite π x) (hy : t.finite π y) :
    Tri t π dir to0 (mulLarger t π to0 x y dir) (x * y) := by
  unfold mulLarger
  apply assignInt_tri w (larger_wf hl _ π) hco (larger_gap hl _) dir h0
  obtain ⟨bx1, bx2⟩ := IntTy.finite_bounds hx
  obtain ⟨by1, by2⟩ := IntTy.finite_bounds hy
  have hp := t.half_pos
  cases hs : t.signed
  · apply larger_finite_unsigned hl
    obtain ⟨h1, h2, -⟩ := larger_half hl false
    have ⟨a1, a2⟩ := bx2 hs; have ⟨c1, c2⟩ := by2 hs
    -- `x * y ≤ (2H - 1)² = 4H² - 4H + 1` and `4H² ≤ 2L`; for `H = 1` the slack comes from `4 ≤ L`
    have hub : x * y ≤ (2 * t.half - 1) * (2 * t.half - 1) := Int.mul_le_mul a2 c2 c1 (by omega)
    have e : (2 * t.half - 1) * (2 * t.half - 1) = 4 * (t.half * t.half) - 4 * t.half + 1 := by ring
    have hone : t.half = 1 → t.half * t.half = 1 := fun h => by rw [h]; rfl
    exact ⟨Int.mul_nonneg a1 c1, by omega⟩
  · apply larger_finite_signed hl
    obtain ⟨h1, h2, -⟩ := larger_half hl true
    -- `|x * y| ≤ H² ≤ L / 2 ≤ L - 2`
    have := abs_le.mp (abs_mul x y ▸ mul_le_mul (abs_le.mpr (show -t.half ≤ x ∧ x ≤ t.half by have := bx1 hs; omega))
      (abs_le.mpr (show -t.half ≤ y ∧ y ≤ t.half by have := by1 hs; omega)) (abs_nonneg y) (by omega))
    omega

theorem mulSigned_tri {t : IntTy} {π : Policy} (w : t.WF π) (hs : t.signed = true) (hl : t.LargerOK)
    (hco : π.checkOverflow = true) (dir : Dir) {to0 x y : Int} (h0 : t.inRange to0)
    (hx : t.finite π x) (hy : t.finite π y) :
    Tri t π dir to0 (mulSigned t π to0 x y dir) (x * y) := by
  obtain ⟨hmin, hmax⟩ := IntTy.emin_le_emax w
  unfold mulSigned
  simp only [hco, Bool.true_and, Bool.not_true, Bool.false_eq_true, if_false, beq_iff_eq]
  by_cases hu : t.useMul = true
  · rw [if_pos hu]; exact mulLarger_tri w (hl.of_mul hu) hco dir h0 hx hy
  rw [if_neg hu]
  by_cases hy0 : y = 0
  · rw [if_pos hy0, hy0, Int.mul_zero]; exact tri_eq ⟨hmin, hmax⟩
  rw [if_neg hy0]
  by_cases hy1 : y = -1
  · rw [if_pos hy1, hy1, Int.mul_neg, Int.mul_one]; exact negSigned_tri w hs hl hco dir h0 hx
  rw [if_neg hy1]
  by_cases hx0 : x ≥ 0 <;> by_cases hyp : y > 0 <;> by_cases hyn : y < 0 <;>
    simp only [hx0, hyp, hyn, if_true, if_false] <;> first | omega | skip
  · exact tri_mul_pos w (Int.mul_nonneg hx0 (by omega)) (tdiv_lt_pos_pos hmax hyp)
  · exact tri_mul_neg w (Int.mul_nonpos_of_nonneg_of_nonpos hx0 (by omega)) (tdiv_lt_neg_neg hmin hyn)
  · exact tri_mul_neg w (Int.mul_nonpos_of_nonpos_of_nonneg (by omega) (by omega)) (lt_tdiv_neg_pos hmin hyp)
  · exact tri_mul_pos w (Int.mul_nonneg_of_nonpos_of_nonpos (by omega) (by omega)) (lt_tdiv_pos_neg hmax hyn)

theorem mulUnsigned_tri {t : IntTy} {π : Policy} (w : t.WF π) (hs : t.signed = false) (hl : t.LargerOK)
    (hco : π.checkOverflow = true) (dir : Dir) {to0 x y : Int} (h0 : t.inRange to0)
    (hx : t.finite π x) (hy : t.finite π y) :
    Tri t π dir to0 (mulUnsigned t π to0 x y dir) (x * y) := by
  obtain ⟨hmin, hmax⟩ := IntTy.emin_le_emax w
  obtain ⟨e, -⟩ := t.layout_unsigned π hs |>.2.2
  have hx0 := hx.1; have hy0 := hy.1
  unfold mulUnsigned
  simp only [hco, Bool.true_and, Bool.not_true, Bool.false_eq_true, if_false, beq_iff_eq]
  by_cases hu : t.useMul = true
  · rw [if_pos hu]; exact mulLarger_tri w (hl.of_mul hu) hco dir h0 hx hy
  rw [if_neg hu]
  by_cases hz : y = 0
  · rw [if_pos hz, hz, Int.mul_zero]; exact tri_eq ⟨hmin, hmax⟩
  rw [if_neg hz]
  exact tri_mul_pos w (Int.mul_nonneg (by omega) (by omega)) (tdiv_lt_pos_pos hmax (by omega))

theorem mul_tri {t : IntTy} {π : Policy} (w : t.WF π) (hl : t.LargerOK)
    (hco : π.checkOverflow = true) (dir : Dir) {to0 x y : Int} (h0 : t.inRange to0)
    (hx : t.finite π x) (hy : t.finite π y) :
    Tri t π dir to0 (mul t π to0 x y dir) (x * y) := by
  unfold mul
  cases hs : t.signed
  · simpa using mulUnsigned_tri w hs hl hco dir h0 hx hy
  · simpa using mulSigned_tri w hs hl hco dir h0 hx hy

end PPLV.Checked

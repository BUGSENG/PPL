import PPLV.Checked.ProofsSpec
import PPLV.Checked.FloatJudge
/-!
# C11 proofs: the float judge decides the property clauses

`judgeFloat` brings the stored value `sn / sd` and the exact result `n / d` to the denominator of the
stored value and calls `K4.holdsFB` / `K4.directedB` on `sn` and `(n · sd) / d`.  These Booleans are the
propositions `K4.holdsF` / `K4.directed` about the unscaled rationals.
-/
namespace PPLV.Checked
open Result

def QV.toQ : QV → Ext Rat
  | .nan => .nan | .minf => .minf | .pinf => .pinf | .fin n d => .fin ((n : Rat) / (d : Rat))

def QV.WF : QV → Prop | .fin _ d => 0 < d | _ => True

/-- the integer view of a stored value and its denominator, as in `judgeFloat` -/
def QV.split : QV → Ext Int × Int
  | .nan => (.nan, 1) | .minf => (.minf, 1) | .pinf => (.pinf, 1) | .fin n d => (.fin n, d)

theorem holdsFB_iff {e : Exact} (he : e.Rational) (r : Result) (stored : Ext Int) :
    K4.holdsFB r stored e = true ↔ K4.holdsF r (stored.map (Int.cast : Int → Rat)) e.toQ := by
  unfold K4.holdsFB K4.holdsF
  cases hc : r.cls <;> simp only []
  · rw [Bool.and_eq_true, Bool.and_eq_true, relHoldsB_iff he]
    constructor
    · rintro ⟨⟨h1, h2⟩, h3⟩
      refine ⟨by simpa using h1, ?_, h3⟩
      cases stored <;> simp [Ext.map, Ext.isNan] at h2 ⊢
    · rintro ⟨h1, h2, h3⟩
      refine ⟨⟨by simpa using h1, ?_⟩, h3⟩
      cases stored <;> simp [Ext.map, Ext.isNan] at h2 ⊢
  · exact holdsB_iff he r stored
  · exact holdsB_iff he r stored
  · exact holdsB_iff he r stored

/-! ### scaling by the positive denominator of the stored value preserves every comparison -/

section scale
variable {n d sn sd : Int}

/-- the exact result scaled by the stored denominator, as `judgeFloat` forms it -/
theorem scale_cast : ((n * sd : Int) : Rat) / d = (n : Rat) / d * sd := by
  push_cast; exact mul_div_right_comm _ _ _

theorem scale_lt (hsd : 0 < sd) : ((n : Rat) / d < (sn : Rat) / sd) ↔ (((n * sd : Int) : Rat) / d < (sn : Rat)) := by
  rw [scale_cast, lt_div_iff₀ (by exact_mod_cast hsd)]

theorem scale_gt (hsd : 0 < sd) : ((sn : Rat) / sd < (n : Rat) / d) ↔ ((sn : Rat) < ((n * sd : Int) : Rat) / d) := by
  rw [scale_cast, div_lt_iff₀ (by exact_mod_cast hsd)]

theorem scale_eq (hsd : 0 < sd) : ((n : Rat) / d = (sn : Rat) / sd) ↔ (((n * sd : Int) : Rat) / d = (sn : Rat)) := by
  rw [scale_cast, eq_div_iff (by exact_mod_cast (ne_of_gt hsd))]

theorem relHolds_scale (hsd : 0 < sd) (rel : Rel) :
    K4.relHolds rel (Ext.fin ((n : Rat) / d)) (Ext.fin ((sn : Rat) / sd)) ↔
    K4.relHolds rel (Ext.fin (((n * sd : Int) : Rat) / d)) (Ext.fin (sn : Rat)) := by
  unfold K4.relHolds
  simp only [Ext.lt, Ext.eqv, scale_lt hsd, scale_gt hsd, scale_eq hsd]
  simp

theorem holdsF_scale (hsd : 0 < sd) (r : Result) :
    K4.holdsF r (Ext.fin ((sn : Rat) / sd)) (Ext.fin ((n : Rat) / d)) ↔
    K4.holdsF r (Ext.fin (sn : Rat)) (Ext.fin (((n * sd : Int) : Rat) / d)) := by
  unfold K4.holdsF K4.holds K4.nanReasonHolds
  cases hc : r.cls <;> simp only []
  · rw [relHolds_scale hsd]; simp
  · simp [K4.relHolds, Ext.lt, Ext.eqv]
  · simp [K4.relHolds, Ext.lt, Ext.eqv]
  · simp

theorem directed_scale (hsd : 0 < sd) (dir : Dir) (r : Result) :
    K4.directed dir r (Ext.fin ((sn : Rat) / sd)) (Ext.fin ((n : Rat) / d)) ↔
    K4.directed dir r (Ext.fin (sn : Rat)) (Ext.fin (((n * sd : Int) : Rat) / d)) := by
  unfold K4.directed Ext.le
  simp only [Ext.lt, Ext.eqv, scale_lt hsd, scale_gt hsd, scale_eq hsd]
  have e : ((sn : Rat) / sd = (n : Rat) / d) ↔ ((sn : Rat) = ((n * sd : Int) : Rat) / d) := by
    rw [eq_comm, scale_eq hsd, eq_comm]
  rw [e]

end scale

/-- **The float judge is sound and complete** for every exact result that is an extended rational:
what `judgeFloat` computes (`holdsFB` / `directedB` on the stored numerator and the exact result
scaled by the stored denominator) is `K4.holdsF` / `K4.directed` on the stored rational and the exact
rational.  (Square roots are compared through squares: no lemma.) -/
theorem float_judge_sound (stored ex : QV) (hs : stored.WF) (he : ex.WF) (r : Result) (dir : Dir) :
    (K4.holdsFB r stored.split.1 ((QX.val ex).scaled stored.split.2) = true ↔ K4.holdsF r stored.toQ ex.toQ) ∧
    (K4.directedB dir r stored.split.1 ((QX.val ex).scaled stored.split.2) = true ↔
      K4.directed dir r stored.toQ ex.toQ) := by
  -- the scaled exact value is rational
  have hrat : ∀ sd : Int, 0 < sd → ((QX.val ex).scaled sd).Rational := by
    intro sd _
    cases ex <;> simp [QX.scaled, Exact.Rational]
    exact he
  have hpos : 0 < stored.split.2 := by
    cases stored
    case fin => exact hs
    all_goals decide
  have h1 := holdsFB_iff (hrat _ hpos) r stored.split.1
  have h2 := directedB_iff (hrat _ hpos) dir r stored.split.1
  cases stored with
  | fin sn sd =>
    have hsd : 0 < sd := hs
    cases ex with
    | fin n d =>
      simp only [QV.split, QX.scaled, Exact.toQ, Ext.map, QV.toQ] at h1 h2 ⊢
      exact ⟨h1.trans (holdsF_scale hsd r).symm, h2.trans (directed_scale hsd dir r).symm⟩
    | nan | minf | pinf =>
      simp only [QV.split, QX.scaled, Exact.toQ, Ext.map, QV.toQ] at h1 h2 ⊢
      refine ⟨h1.trans ?_, h2.trans ?_⟩
      · unfold K4.holdsF K4.holds K4.nanReasonHolds K4.relHolds
        cases r.cls <;> simp [Ext.lt, Ext.eqv]
      · unfold K4.directed Ext.le; simp [Ext.lt, Ext.eqv]
  | nan | minf | pinf =>
    cases ex <;> simp only [QV.split, QX.scaled, Exact.toQ, Ext.map, QV.toQ, Int.mul_one] at h1 h2 ⊢ <;> exact ⟨h1, h2⟩

end PPLV.Checked

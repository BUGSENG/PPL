import PPLV.Checked.ProofsAssign
/-!
# C11 proofs: neg, add, sub, abs — direct paths and `Larger<T>` paths
-/
namespace PPLV.Checked
open Result

/-- the `int_fast` type used by `Larger<T>` is at least twice as wide (and has 3 bits) -/
structure IntTy.LargerW (t : IntTy) : Prop where
  twice : 2 * t.bits ≤ t.lbits
  three : 3 ≤ t.lbits

/-- `LargerW` whenever `Larger<T>` routes some operation through it -/
structure IntTy.LargerOK (t : IntTy) : Prop where
  ok : (t.useNeg = true ∨ t.useAdd = true ∨ t.useSub = true ∨ t.useMul = true) → t.LargerW

theorem IntTy.LargerOK.of_neg {t : IntTy} (h : t.LargerOK) (u : t.useNeg = true) : t.LargerW := h.ok (Or.inl u)
theorem IntTy.LargerOK.of_add {t : IntTy} (h : t.LargerOK) (u : t.useAdd = true) : t.LargerW := h.ok (Or.inr (Or.inl u))
theorem IntTy.LargerOK.of_sub {t : IntTy} (h : t.LargerOK) (u : t.useSub = true) : t.LargerW :=
  h.ok (Or.inr (Or.inr (Or.inl u)))
theorem IntTy.LargerOK.of_mul {t : IntTy} (h : t.LargerOK) (u : t.useMul = true) : t.LargerW :=
  h.ok (Or.inr (Or.inr (Or.inr u)))

theorem larger_wf {t : IntTy} (h : t.LargerW) (sg : Bool) (π : Policy) : (t.larger sg).WF π :=
  ⟨by have := h.three; simp [IntTy.larger]; omega, fun _ => by have := h.three; simp [IntTy.larger]; omega⟩

theorem larger_gap {t : IntTy} (h : t.LargerW) (sg : Bool) : t.GapOK (t.larger sg) := by
  have := h.twice
  left; simp [IntTy.larger]; omega

theorem larger_half {t : IntTy} (h : t.LargerW) (sg : Bool) :
    2 * (t.half * t.half) ≤ (t.larger sg).half ∧ 4 ≤ (t.larger sg).half
      ∧ 2 * t.half + 2 ≤ (t.larger sg).half := by
  have h2 := h.twice; have h3 := h.three
  have hp := t.half_pos
  show 2 * (t.half * t.half) ≤ pow2 (t.lbits - 1) ∧ 4 ≤ pow2 (t.lbits - 1) ∧ 2 * t.half + 2 ≤ pow2 (t.lbits - 1)
  have m1 : pow2 ((t.bits - 1) + (t.bits - 1) + 1) ≤ pow2 (t.lbits - 1) := pow2_le_pow2 (by omega)
  have m2 : pow2 2 ≤ pow2 (t.lbits - 1) := pow2_le_pow2 (by omega)
  rw [pow2_succ, pow2_add] at m1
  refine ⟨m1, m2, ?_⟩
  rcases Nat.lt_or_ge t.bits 2 with h1 | h1
  · have : t.half = pow2 0 := by unfold IntTy.half; congr 1; omega
    rw [this]; exact m2
  · have m3 : pow2 ((t.bits - 1) + 1 + 1) ≤ pow2 (t.lbits - 1) := pow2_le_pow2 (by omega)
    rw [pow2_succ, pow2_succ] at m3
    unfold IntTy.half at hp ⊢
    omega

/-- a value that is small relative to the larger type is one of its finite values -/
theorem larger_finite_signed {t : IntTy} {π : Policy} (h : t.LargerW) {v : Int}
    (hv : -(t.larger true).half + 2 ≤ v ∧ v ≤ (t.larger true).half - 2) : (t.larger true).finite π v := by
  obtain ⟨-, e1, e2, -⟩ := (IntTy.erange_half (larger_wf h true π)).1 rfl
  exact ⟨by omega, by omega⟩

theorem larger_finite_unsigned {t : IntTy} {π : Policy} (h : t.LargerW) {v : Int}
    (hv : 0 ≤ v ∧ v ≤ 2 * (t.larger false).half - 4) : (t.larger false).finite π v := by
  obtain ⟨e0, e1, -⟩ := (IntTy.erange_half (larger_wf h false π)).2 rfl
  exact ⟨by omega, by omega⟩

/-- bounds of a finite operand in terms of `half` -/
theorem IntTy.finite_bounds {t : IntTy} {π : Policy} {v : Int} (h : t.finite π v) :
    (t.signed = true → -t.half ≤ v ∧ v ≤ t.half - 1) ∧ (t.signed = false → 0 ≤ v ∧ v ≤ 2 * t.half - 1) := by
  have := IntTy.finite_inRange h
  unfold IntTy.inRange IntTy.cmin IntTy.cmax at this
  constructor <;> intro hs <;> simp [hs] at this <;> omega

theorem IntTy.inRange_bounds {t : IntTy} {v : Int} (h : t.inRange v) :
    (t.signed = true → -t.half ≤ v ∧ v ≤ t.half - 1) ∧ (t.signed = false → 0 ≤ v ∧ v ≤ 2 * t.half - 1) := by
  unfold IntTy.inRange IntTy.cmin IntTy.cmax at h
  constructor <;> intro hs <;> simp [hs] at h <;> omega

/-! ## neg -/

theorem negLarger_tri {t : IntTy} {π : Policy} (w : t.WF π) (hl : t.LargerW) (hco : π.checkOverflow = true)
    (dir : Dir) {to0 x : Int} (h0 : t.inRange to0) (hx : t.finite π x) :
    Tri t π dir to0 (negLarger t π to0 x dir) (-x) := by
  unfold negLarger
  apply assignInt_tri w (larger_wf hl true π) hco (larger_gap hl true) dir h0
  apply larger_finite_signed hl
  obtain ⟨_, _, h3⟩ := larger_half hl true
  obtain ⟨b1, b2⟩ := IntTy.finite_bounds hx
  have hp := t.half_pos
  cases hs : t.signed
  · have := b2 hs; omega
  · have := b1 hs; omega

theorem negSigned_tri {t : IntTy} {π : Policy} (w : t.WF π) (hs : t.signed = true) (hl : t.LargerOK)
    (hco : π.checkOverflow = true) (dir : Dir) {to0 x : Int} (h0 : t.inRange to0) (hx : t.finite π x) :
    Tri t π dir to0 (negSigned t π to0 x dir) (-x) := by
  unfold negSigned
  simp only [hco, Bool.true_and, decide_eq_true_eq]
  split
  · rename_i hu; exact negLarger_tri w (hl.of_neg hu) hco dir h0 hx
  · split
    · exact tri_pos (by omega)
    · have := (t.neg_emin_near_emax π hs).1
      exact tri_eq ⟨by have := hx.2; omega, by omega⟩

theorem negUnsigned_tri {t : IntTy} {π : Policy} (w : t.WF π) (hs : t.signed = false) (hl : t.LargerOK)
    (hco : π.checkOverflow = true) (dir : Dir) {to0 x : Int} (h0 : t.inRange to0) (hx : t.finite π x) :
    Tri t π dir to0 (negUnsigned t π to0 x dir) (-x) := by
  unfold negUnsigned
  simp only [hco, Bool.true_and]
  split
  · rename_i hu; exact negLarger_tri w (hl.of_neg hu) hco dir h0 hx
  · split
    · rename_i hne
      apply tri_neg
      have h1 := hx.1
      have hne' : x ≠ 0 := by simpa using hne
      unfold IntTy.emin IntTy.cmin at *
      simp [hs] at *
      omega
    · rename_i hne
      have hz : x = 0 := by simpa using hne
      subst hz
      exact tri_eq hx

theorem neg_tri {t : IntTy} {π : Policy} (w : t.WF π) (hl : t.LargerOK)
    (hco : π.checkOverflow = true) (dir : Dir) {to0 x : Int} (h0 : t.inRange to0) (hx : t.finite π x) :
    Tri t π dir to0 (neg t π to0 x dir) (-x) := by
  unfold neg
  cases hs : t.signed
  · simpa using negUnsigned_tri w hs hl hco dir h0 hx
  · simpa using negSigned_tri w hs hl hco dir h0 hx

/-! ## add -/

theorem addLarger_tri {t : IntTy} {π : Policy} (w : t.WF π) (hl : t.LargerW) (hco : π.checkOverflow = true)
    (dir : Dir) {to0 x y : Int} (h0 : t.inRange to0) (hx : t.finite π x) (hy : t.inRange y) :
    Tri t π dir to0 (addLarger t π to0 x y dir) (x + y) := by
  unfold addLarger
  apply assignInt_tri w (larger_wf hl _ π) hco (larger_gap hl _) dir h0
  obtain ⟨bx1, bx2⟩ := IntTy.finite_bounds hx
  obtain ⟨by1, by2⟩ := IntTy.inRange_bounds hy
  have hp := t.half_pos
  cases hs : t.signed
  · apply larger_finite_unsigned hl
    obtain ⟨_, _, h3⟩ := larger_half hl false
    have := bx2 hs; have := by2 hs; omega
  · apply larger_finite_signed hl
    obtain ⟨_, _, h3⟩ := larger_half hl true
    have := bx1 hs; have := by1 hs; omega

theorem addSigned_tri {t : IntTy} {π : Policy} (w : t.WF π) (hl : t.LargerOK)
    (hco : π.checkOverflow = true) (dir : Dir) {to0 x y : Int} (h0 : t.inRange to0)
    (hx : t.finite π x) (hy : t.inRange y) :
    Tri t π dir to0 (addSigned t π to0 x y dir) (x + y) := by
  unfold addSigned
  simp only [hco, Bool.true_and, Bool.and_eq_true, decide_eq_true_eq, Bool.not_eq_true', decide_eq_false_iff_not]
  split
  · rename_i hu; exact addLarger_tri w (hl.of_add hu) hco dir h0 hx hy
  · split
    · exact tri_pos (by omega)
    · split
      · exact tri_neg (by omega)
      · apply tri_eq
        obtain ⟨h1, h2⟩ := hx
        obtain ⟨h3, h4⟩ := hy
        constructor <;> omega

theorem addUnsigned_tri {t : IntTy} {π : Policy} (w : t.WF π) (hs : t.signed = false) (hl : t.LargerOK)
    (hco : π.checkOverflow = true) (dir : Dir) {to0 x y : Int} (h0 : t.inRange to0)
    (hx : t.finite π x) (hy : t.inRange y) :
    Tri t π dir to0 (addUnsigned t π to0 x y dir) (x + y) := by
  unfold addUnsigned
  simp only [hco, Bool.true_and, decide_eq_true_eq]
  split
  · rename_i hu; exact addLarger_tri w (hl.of_add hu) hco dir h0 hx hy
  · split
    · exact tri_pos (by omega)
    · apply tri_eq
      obtain ⟨h1, h2⟩ := hx
      obtain ⟨h3, h4⟩ := hy
      have e : t.emin π = 0 := by simp [IntTy.emin, IntTy.cmin, hs]
      have c0 : t.cmin = 0 := by simp [IntTy.cmin, hs]
      constructor <;> omega

theorem add_tri {t : IntTy} {π : Policy} (w : t.WF π) (hl : t.LargerOK)
    (hco : π.checkOverflow = true) (dir : Dir) {to0 x y : Int} (h0 : t.inRange to0)
    (hx : t.finite π x) (hy : t.inRange y) :
    Tri t π dir to0 (add t π to0 x y dir) (x + y) := by
  unfold add
  cases hs : t.signed
  · simpa using addUnsigned_tri w hs hl hco dir h0 hx hy
  · simpa using addSigned_tri w hl hco dir h0 hx hy

/-! ## sub -/

theorem subLarger_tri {t : IntTy} {π : Policy} (w : t.WF π) (hl : t.LargerW) (hco : π.checkOverflow = true)
    (dir : Dir) {to0 x y : Int} (h0 : t.inRange to0) (hx : t.finite π x) (hy : t.inRange y) :
    Tri t π dir to0 (subLarger t π to0 x y dir) (x - y) := by
  unfold subLarger
  apply assignInt_tri w (larger_wf hl _ π) hco (larger_gap hl _) dir h0
  obtain ⟨bx1, bx2⟩ := IntTy.finite_bounds hx
  obtain ⟨by1, by2⟩ := IntTy.inRange_bounds hy
  have hp := t.half_pos
  apply larger_finite_signed hl
  obtain ⟨_, _, h3⟩ := larger_half hl true
  cases hs : t.signed
  · have := bx2 hs; have := by2 hs; omega
  · have := bx1 hs; have := by1 hs; omega

theorem subSigned_tri {t : IntTy} {π : Policy} (w : t.WF π) (hl : t.LargerOK)
    (hco : π.checkOverflow = true) (dir : Dir) {to0 x y : Int} (h0 : t.inRange to0)
    (hx : t.finite π x) (hy : t.inRange y) :
    Tri t π dir to0 (subSigned t π to0 x y dir) (x - y) := by
  unfold subSigned
  simp only [hco, Bool.true_and, Bool.and_eq_true, decide_eq_true_eq, Bool.not_eq_true', decide_eq_false_iff_not]
  split
  · rename_i hu; exact subLarger_tri w (hl.of_sub hu) hco dir h0 hx hy
  · split
    · exact tri_neg (by omega)
    · split
      · exact tri_pos (by omega)
      · apply tri_eq
        obtain ⟨h1, h2⟩ := hx
        obtain ⟨h3, h4⟩ := hy
        constructor <;> omega

theorem subUnsigned_tri {t : IntTy} {π : Policy} (w : t.WF π) (hs : t.signed = false) (hl : t.LargerOK)
    (hco : π.checkOverflow = true) (dir : Dir) {to0 x y : Int} (h0 : t.inRange to0)
    (hx : t.finite π x) (hy : t.inRange y) :
    Tri t π dir to0 (subUnsigned t π to0 x y dir) (x - y) := by
  unfold subUnsigned
  simp only [hco, Bool.true_and, decide_eq_true_eq]
  split
  · rename_i hu; exact subLarger_tri w (hl.of_sub hu) hco dir h0 hx hy
  · split
    · exact tri_neg (by omega)
    · apply tri_eq
      obtain ⟨h1, h2⟩ := hx
      obtain ⟨h3, h4⟩ := hy
      have e : t.emin π = 0 := by simp [IntTy.emin, IntTy.cmin, hs]
      have c0 : t.cmin = 0 := by simp [IntTy.cmin, hs]
      constructor <;> omega

theorem sub_tri {t : IntTy} {π : Policy} (w : t.WF π) (hl : t.LargerOK)
    (hco : π.checkOverflow = true) (dir : Dir) {to0 x y : Int} (h0 : t.inRange to0)
    (hx : t.finite π x) (hy : t.inRange y) :
    Tri t π dir to0 (sub t π to0 x y dir) (x - y) := by
  unfold sub
  cases hs : t.signed
  · simpa using subUnsigned_tri w hs hl hco dir h0 hx hy
  · simpa using subSigned_tri w hl hco dir h0 hx hy

/-! ## abs -/

theorem abs_tri {t : IntTy} {π : Policy} (w : t.WF π) (hl : t.LargerOK)
    (hco : π.checkOverflow = true) (dir : Dir) {to0 x : Int} (h0 : t.inRange to0) (hx : t.finite π x) :
    Tri t π dir to0 (abs t π to0 x dir) (if x < 0 then -x else x) := by
  unfold abs
  have same : t.GapOK t := Or.inl (Nat.le_refl _)
  cases hs : t.signed
  · have hx0 : ¬ x < 0 := by
      have := hx.1; unfold IntTy.emin IntTy.cmin at this; simp [hs] at this; omega
    simp only [hx0, if_false]
    have := assignInt_tri w w hco same dir h0 hx
    unfold assignInt at this
    simpa [hs] using this
  · simp only [if_true]
    split
    · exact neg_tri w hl hco dir h0 hx
    · exact assignInt_tri w w hco same dir h0 hx

end PPLV.Checked

import PPLV.Checked.T2Agree
import PPLV.Checked.ProofsLayout
import Mathlib.Tactic.Linarith
import Mathlib.Tactic.Ring
/-!
# C11 / T2 — the two functions with two's complement bit tricks

`div_2exp_signed_int` and `mul_2exp_signed_int` copy a negative operand into the unsigned type of
the same width and use `~`, `-`, `<<`, `>>`, `&` on it.  The generated definitions compute modulo
`2^bits` (`T2.toU`, `T2.toS`, `T2.notU`, `T2.notS`, `T2.andHigh`); the hand-written model states
the arithmetic meaning (`-((-x) / 2^e)`, `x < -2^(bits-1-e)`, `x * 2^e`).  Equal for every signed
type and every operand that is a value of the type.
-/
namespace PPLV.Checked.T2Agree
open PPLV.Gen.T2 PPLV.Checked PPLV.Checked.Result

theorem emod_shift {a B : Int} (k : Int) (h0 : 0 ≤ a + k * B) (h1 : a + k * B < B) : a % B = a + k * B := by
  rw [← Int.add_mul_emod_self_right a k B]
  exact Int.emod_eq_of_lt h0 h1

theorem signed_range {t : IntTy} (hs : t.signed = true) {x : Int} (hx : t.inRange x) : -t.half ≤ x ∧ x ≤ t.half - 1 := by
  simpa [IntTy.inRange, IntTy.cmin, IntTy.cmax, hs] using hx

theorem toU_neg (t : IntTy) {x : Int} (h0 : -t.half ≤ x) (h1 : x < 0) : T2.toU t x = x + 2 * t.half := by
  have hh := t.half_pos
  unfold T2.toU T2.ubound
  have := emod_shift (a := x) (B := 2 * t.half) 1 (by omega) (by omega)
  omega

theorem toU_neg_toU (t : IntTy) {x : Int} (h0 : -t.half ≤ x) (h1 : x < 0) : T2.toU t (-(T2.toU t x)) = -x := by
  have hh := t.half_pos
  rw [toU_neg t h0 h1]
  unfold T2.toU T2.ubound
  have := emod_shift (a := -(x + 2 * t.half)) (B := 2 * t.half) 1 (by omega) (by omega)
  omega

/-- `~Type(~-(q))` for an unsigned `q ≤ 2^(bits-1)` is `-q` -/
theorem neg_trick (t : IntTy) {q : Int} (h0 : 0 ≤ q) (h1 : q ≤ t.half) :
    T2.notS (T2.toS t (T2.notU t (T2.toU t (-q)))) = -q := by
  have hh := t.half_pos
  unfold T2.notS T2.toS T2.notU T2.toU T2.umax T2.ubound
  by_cases hq : q = 0
  · subst hq
    have e1 : (-0 : Int) % (2 * t.half) = 0 := by simp
    rw [e1]
    have := emod_shift (a := 2 * t.half - 1 - 0 + t.half) (B := 2 * t.half) (-1) (by omega) (by omega)
    omega
  · have e1 := emod_shift (a := -q) (B := 2 * t.half) 1 (by omega) (by omega)
    rw [e1]
    have := emod_shift (a := 2 * t.half - 1 - (-q + 1 * (2 * t.half)) + t.half) (B := 2 * t.half) 0 (by omega) (by omega)
    omega


theorem div_2exp_signed_int_eq (t : IntTy) (π π' : Policy) (to0 x : Int) (e : Nat) (dir : Dir)
    (hs : t.signed = true) (hx : t.inRange x) :
    t2_div_2exp_signed_int π π' t to0 x e dir = div2expSigned t π to0 x e dir := by
  obtain ⟨x0, x1⟩ := signed_range hs hx
  have hh := t.half_pos
  simp only [t2_div_2exp_signed_int, div2expSigned, round_lt_int_no_overflow_eq, round_gt_int_no_overflow_eq,
    T2.andLow, decide_eq_true_eq]
  by_cases hneg : x < 0
  · simp only [hneg, if_true]
    by_cases he : e ≥ t.bits
    · simp only [he, if_true]
    · simp only [he, if_false]
      rw [toU_neg_toU t x0 hneg]
      have hq0 : 0 ≤ (-x) / pow2 e := Int.ediv_nonneg (by omega) (by have := pow2_pos e; omega)
      have hq1 : (-x) / pow2 e ≤ t.half := by
        have : (-x) / pow2 e ≤ -x := Int.ediv_le_self _ (by omega)
        omega
      rw [neg_trick t hq0 hq1]
      all_goals t2_split
  · simp only [hneg, if_false]
    all_goals t2_split


theorem half_split (t : IntTy) {k e : Nat} (h : k + e = t.bits - 1) : pow2 k * pow2 e = t.half := by
  unfold IntTy.half; rw [← h, pow2_add]

/-- `UType(-1) << k` is `2^bits - 2^k` -/
theorem mask_val (t : IntTy) {P : Int} (hP : 1 ≤ P) (hle : P ≤ t.half) : T2.toU t (T2.umax t * P) = 2 * t.half - P := by
  have hh := t.half_pos
  unfold T2.toU T2.umax T2.ubound
  have key : (2 * t.half - 1) * P + (-(P - 1)) * (2 * t.half) = 2 * t.half - P := by ring
  rw [emod_shift (-(P - 1)) (by rw [key]; omega) (by rw [key]; omega), key]

/-- `(ux & mask) != mask` for `mask = UType(-1) << k`: some bit from `k` up of `ux = x + 2^bits` is clear -/
theorem high_test (t : IntTy) {x P E : Int} (k : Nat) (hk : pow2 k = P) (_hE : 1 ≤ E) (hPE : P * E = t.half)
    (_x0 : -t.half ≤ x) (x1 : x < 0) :
    T2.andHigh (x + 2 * t.half) k ≠ 2 * t.half - P ↔ x < -P := by
  have hP : 1 ≤ P := hk ▸ pow2_pos k
  unfold T2.andHigh
  rw [hk]
  have hd := Int.mul_ediv_add_emod (x + 2 * t.half) P
  have hr0 := Int.emod_nonneg (x + 2 * t.half) (show P ≠ 0 by omega)
  have hr1 := Int.emod_lt_of_pos (x + 2 * t.half) (show 0 < P by omega)
  generalize (x + 2 * t.half) / P = q at hd
  generalize (x + 2 * t.half) % P = r at hd hr0 hr1
  have e2 : 2 * t.half - P = P * (2 * E - 1) := by rw [← hPE]; ring
  constructor
  · intro hne
    by_contra hge
    apply hne
    have h1 : P * (2 * E - 2) < P * q := by
      have : P * (2 * E - 2) = 2 * t.half - 2 * P := by rw [← hPE]; ring
      omega
    have h2 : P * q < P * (2 * E) := by
      have : P * (2 * E) = 2 * t.half := by rw [← hPE]; ring
      omega
    have q1 := Int.lt_of_mul_lt_mul_left h1 (by omega)
    have q2 := Int.lt_of_mul_lt_mul_left h2 (by omega)
    have : q = 2 * E - 1 := by omega
    rw [e2, ← this]; omega
  · intro hlt heq
    have h1 : P * q < P * (2 * E - 1) := by rw [← e2]; omega
    have q1 := Int.lt_of_mul_lt_mul_left h1 (by omega)
    have : P * q = P * (2 * E - 1) := by rw [← e2]; omega
    have := Int.eq_of_mul_eq_mul_left (show P ≠ 0 by omega) this
    omega

/-- `ux <<= exp; ~(Type(~ux))` for `ux = x + 2^bits`, `-2^k ≤ x < 0`, `k + exp = bits - 1`: the product `x * 2^exp` -/
theorem shl_trick (t : IntTy) {x P E : Int} (hE : 1 ≤ E) (hPE : P * E = t.half) (x0 : -P ≤ x) (x1 : x < 0) :
    T2.notS (T2.toS t (T2.notU t (T2.toU t ((x + 2 * t.half) * E)))) = x * E := by
  have hh := t.half_pos
  have b1 : -t.half ≤ x * E := by
    have := Int.mul_le_mul_of_nonneg_right x0 (show 0 ≤ E by omega)
    have e : -P * E = -t.half := by rw [← hPE]; ring
    omega
  have b2 : x * E ≤ -1 := by
    have := Int.mul_le_mul_of_nonneg_right (show x ≤ -1 by omega) (show 0 ≤ E by omega)
    omega
  unfold T2.notS T2.toS T2.notU T2.toU T2.umax T2.ubound
  have key : (x + 2 * t.half) * E + (-(E - 1)) * (2 * t.half) = x * E + 2 * t.half := by ring
  have e1 : (x + 2 * t.half) * E % (2 * t.half) = x * E + 2 * t.half := by
    rw [emod_shift (a := (x + 2 * t.half) * E) (B := 2 * t.half) (-(E - 1)) (by rw [key]; omega) (by rw [key]; omega), key]
  rw [e1]
  have := emod_shift (a := 2 * t.half - 1 - (x * E + 2 * t.half) + t.half) (B := 2 * t.half) 0 (by omega) (by omega)
  omega

theorem mul_2exp_signed_int_eq (t : IntTy) (π π' : Policy) (to0 x : Int) (e : Nat) (dir : Dir)
    (hs : t.signed = true) (hx : t.inRange x) :
    t2_mul_2exp_signed_int π π' t to0 x e dir = mul2expSigned t π to0 x e dir := by
  obtain ⟨x0, x1⟩ := signed_range hs hx
  have hh := t.half_pos
  simp only [t2_mul_2exp_signed_int, mul2expSigned, set_neg_overflow_int_eq, set_pos_overflow_int_eq, decide_eq_true_eq]
  by_cases hneg : x < 0
  · simp only [hneg, if_true]
    cases hco : π.checkOverflow
    · simp
    · simp only [Bool.not_true, Bool.false_eq_true, if_false]
      by_cases he : e ≥ t.bits
      · simp only [he, if_true]
      · simp only [he, if_false]
        have hk : t.bits - e - 1 + e = t.bits - 1 := by omega
        have hk' : t.bits - 1 - e = t.bits - e - 1 := by omega
        rw [hk']
        generalize hkk : t.bits - e - 1 = k at hk
        have hPE := half_split t hk
        have hP := pow2_pos k
        have hE := pow2_pos e
        have hPle : pow2 k ≤ t.half := by
          rw [← hPE]
          have := Int.mul_le_mul_of_nonneg_left hE (show 0 ≤ pow2 k by omega)
          omega
        rw [mask_val t hP hPle, toU_neg t x0 hneg]
        by_cases hlt : x < -pow2 k
        · have := (high_test t k rfl hE hPE x0 hneg).mpr hlt
          simp [hlt, this]
        · have := (high_test t k rfl hE hPE x0 hneg).not.mpr hlt
          simp only [ne_eq, Decidable.not_not] at this
          simp only [hlt, if_false, this, bne_self_eq_false, Bool.false_eq_true]
          rw [shl_trick t hE hPE (by omega) hneg]
  · simp only [hneg, if_false]

theorem div_2exp_eq (t : IntTy) (π π' : Policy) (to0 x : Int) (e : Nat) (dir : Dir) (hx : t.inRange x) :
    t2_div_2exp π π' t to0 x e dir = div2exp t π to0 x e dir := by
  cases hs : t.signed
  · simp only [t2_div_2exp, div2exp, hs, div_2exp_unsigned_int_eq]; rfl
  · simp only [t2_div_2exp, div2exp, hs, if_true, div_2exp_signed_int_eq t π π' to0 x e dir hs hx]

theorem mul_2exp_eq (t : IntTy) (π π' : Policy) (to0 x : Int) (e : Nat) (dir : Dir) (hx : t.inRange x) :
    t2_mul_2exp π π' t to0 x e dir = mul2exp t π to0 x e dir := by
  cases hs : t.signed
  · simp only [t2_mul_2exp, mul2exp, hs, mul_2exp_unsigned_int_eq]; rfl
  · simp only [t2_mul_2exp, mul2exp, hs, if_true, mul_2exp_signed_int_eq t π π' to0 x e dir hs hx]

end PPLV.Checked.T2Agree

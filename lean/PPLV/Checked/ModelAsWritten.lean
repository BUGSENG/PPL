import PPLV.Checked.Spec
/-!
# C11 — the five primitives as they were written BEFORE the repairs (historical, no Mathlib)

/repo commits 5157d9d (div_signed_int), 295149f (sub_mul_int), f54ddd9 (umod_2exp_signed_int),
1ff2aae (isqrt_rem), 5d13b40 (lcm_gcd_exact) repaired KF-C11-1 … KF-C11-5; `Model.lean` is the repaired code.  The old
bodies are kept here for two purposes only:
* the historical witnesses `C11.*_before_fix_fails` (what was wrong, machine-checked);
* regression identification: the harness measures on each witness whether the tree it was compiled
  against still carries the repair (`cfg fix <name> <0|1>`); if it does not, the driver compares the
  library with the as-written variant (`IntOp.runM`), so that the only mismatches reported are the
  property clauses the old code violates — with the witness — and not a flood of model differences.
-/
namespace PPLV.Checked
open Result

/-- which repairs the tree carries (all `true` = the code of `Model.lean`) -/
structure Fixes where
  div : Bool := true        -- KF-C11-1 div_signed_int
  subMul : Bool := true     -- KF-C11-2 sub_mul_int
  umod : Bool := true       -- KF-C11-3 umod_2exp_signed_int
  isqrt : Bool := true      -- KF-C11-4 isqrt_rem
  lcm : Bool := true        -- KF-C11-5 lcm_gcd_exact
deriving Repr, DecidableEq, Inhabited

/-- `div_signed_int` before 5157d9d: the fix-up keyed on the sign of `x % y` alone -/
def divSignedAsWritten (t : IntTy) (π : Policy) (to0 x y : Int) (dir : Dir) : Int × Result :=
  if π.checkDivZero && y == 0 then assignNan t π to0 V_DIV_ZERO
  else if π.checkOverflow && y == -1 then negSigned t π to0 x dir
  else
    let to := x.tdiv y
    if dir.notRequested then (to, V_LGE)
    else if y == -1 then (to, V_EQ)
    else
      let m := x.tmod y
      if m < 0 then roundLtNoOverflow to dir
      else if m > 0 then roundGtNoOverflow to dir
      else (to, V_EQ)

def divAsWritten (t : IntTy) (π : Policy) (to0 x y : Int) (dir : Dir) : Int × Result :=
  if t.signed then divSignedAsWritten t π to0 x y dir else divUnsigned t π to0 x y dir

/-- `sub_mul_int` before 295149f: `to <= 0` after a positive overflow of the product -/
def subMulAsWritten (t : IntTy) (π : Policy) (to0 x y : Int) (dir : Dir) : Int × Result :=
  let zr := mul t π 0 x y dir
  let ov := zr.2.resultOverflow
  if ov == 0 then sub t π to0 to0 (t.wrap zr.1) dir
  else if ov == -1 then
    if to0 ≥ 0 then setPosOverflow t π to0 dir else assignNan t π to0 V_UNKNOWN_NEG_OVERFLOW
  else
    if to0 ≤ 0 then setNegOverflow t π to0 dir else assignNan t π to0 V_UNKNOWN_POS_OVERFLOW

/-- `umod_2exp_signed_int` before f54ddd9: no test against `max` -/
def umod2expSignedAsWritten (t : IntTy) (π : Policy) (to0 x : Int) (e : Nat) (dir : Dir) : Int × Result :=
  if e ≥ t.bits then
    if x < 0 then setPosOverflow t π to0 dir else (x, V_EQ)
  else (x % pow2 e, V_EQ)

def umod2expAsWritten (t : IntTy) (π : Policy) (to0 x : Int) (e : Nat) (dir : Dir) : Int × Result :=
  if t.signed then umod2expSignedAsWritten t π to0 x e dir else umod2expUnsigned t π to0 x e dir

/-- `isqrt_rem` before 1ff2aae: `q = s + t; q >>= 1` (exceeds a signed type for operands `≥ 2^(bits-2)`) -/
def isqrtLoopAsWritten (ty : IntTy) : Nat → Int → Int → Int → Int × Int
  | 0, q, r, _ => (q, r)
  | fuel + 1, q, r, tt =>
    if tt == 0 then (q, r)
    else
      let s := ty.wrap (q + tt)
      if s ≤ r then isqrtLoopAsWritten ty fuel (ty.wrap (s + tt) / 2) (ty.wrap (r - s)) (tt / 4)
      else isqrtLoopAsWritten ty fuel (q / 2) r (tt / 4)

def sqrtAsWritten (t : IntTy) (π : Policy) (to0 x : Int) (dir : Dir) : Int × Result :=
  if t.signed && π.checkSqrtNeg && x < 0 then assignNan t π to0 V_SQRT_NEG
  else
    let qr := isqrtLoopAsWritten t t.bits 0 x (pow2 (t.bits - 2))
    if dir.notRequested then (qr.1, V_GE)
    else if qr.2 == 0 then (qr.1, V_EQ)
    else roundGt t π qr.1 dir

/-- the bit pattern is one of the special values of the policy -/
def IntTy.special (t : IntTy) (π : Policy) (v : Int) : Bool := t.isNan π v || t.isMinf π v || t.isPinf π v

/-- `lcm_gcd_exact` before 5d13b40: the code of an intermediate `abs` is returned, `to` is left alone -/
def lcmAsWritten (t : IntTy) (π : Policy) (to0 x y : Int) (dir : Dir) : Int × Result :=
  if x == 0 || y == 0 then (0, V_EQ)
  else
    let (ax, r1) := abs t π 0 x dir
    if r1 != V_EQ then (to0, r1)
    else
      let (ay, r2) := abs t π 0 y dir
      if r2 != V_EQ then (to0, r2)
      else
        let ax := t.wrap ax
        let ay := t.wrap ay
        let g := gcdNoAbs t π ax ay
        let (q, _) := div t π to0 ax g .notNeeded
        mul t π (t.wrap q) (t.wrap q) ay dir

/-- what the MEASURED tree runs: `IntOp.run` (the repaired code), except that an operation whose
repair was measured absent runs its as-written primitive (the extended layer reaches the native
primitive exactly when no operand is a special value) -/
def IntOp.runM (fx : Fixes) (t : IntTy) (π : Policy) (op : IntOp) (dir : Dir) (a : Operands) : Int × Result :=
  match op with
  | .div =>
    if !fx.div && !(t.special π a.x || t.special π a.y) then divAsWritten t π a.to0 a.x a.y dir
    else IntOp.run t π op dir a
  | .subMul =>
    if !fx.subMul && !(t.special π a.to0 || t.special π a.x || t.special π a.y) then subMulAsWritten t π a.to0 a.x a.y dir
    else IntOp.run t π op dir a
  | .umod2exp =>
    if !fx.umod && !(t.special π a.x) then umod2expAsWritten t π a.to0 a.x a.e dir
    else IntOp.run t π op dir a
  | .sqrt =>
    if !fx.isqrt && !(t.special π a.x) then sqrtAsWritten t π a.to0 a.x dir
    else IntOp.run t π op dir a
  | .lcm =>
    if !fx.lcm && !(t.special π a.x || t.special π a.y) then lcmAsWritten t π a.to0 a.x a.y dir
    else IntOp.run t π op dir a
  | _ => IntOp.run t π op dir a

/-- on a tree that carries all repairs the driver compares with the model of `Model.lean` -/
theorem IntOp.runM_repaired (t : IntTy) (π : Policy) (op : IntOp) (dir : Dir) (a : Operands) :
    IntOp.runM {} t π op dir a = IntOp.run t π op dir a := by
  cases op <;> rfl

end PPLV.Checked

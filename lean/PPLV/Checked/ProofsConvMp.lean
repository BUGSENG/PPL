import PPLV.Checked.ConvMp
import PPLV.Checked.ProofsConv
/-!
# C11 proofs: conversions into `mpz_class` / `mpq_class`

For every kernel of `ConvMp.lean`: the relation the result code states between the exact value and the
stored number is true, and a directed rounding is honoured (`K4.holds`, `K4.directed` over `ℚ`).
-/
namespace PPLV.Checked
open Result

/-- a QV as an extended rational -/
def QV.toExtQ : QV → Ext Rat
  | .nan => .nan | .minf => .minf | .pinf => .pinf | .fin n d => .fin ((n : Rat) / (d : Rat))

/-- an integer stored with a normal-class code whose relation and direction claims are true -/
theorem mp_normal {dir : Dir} {s : Int} {r : Result} (hc : r.cls = .normal) (hu : r.unrep = false) {q : Rat}
    (hrel : (r.rel.lt = true ∧ q < s) ∨ (r.rel.eq = true ∧ q = s) ∨ (r.rel.gt = true ∧ (s : Rat) < q))
    (hup : dir = Dir.up → q ≤ s) (hdn : dir = Dir.down → (s : Rat) ≤ q) :
    K4.holds r (.fin (s : Rat)) (.fin q) ∧ K4.directed dir r (.fin (s : Rat)) (.fin q) :=
  K4.normal_holds_directed hc hu hrel hup hdn

/-- floor and ceiling of `n / d` as integer inequalities -/
theorem floor_facts (n : Int) {d : Int} (hd : 0 < d) : n / d * d ≤ n ∧ n < (n / d + 1) * d :=
  ⟨Int.ediv_mul_le n (ne_of_gt hd), Int.lt_ediv_add_one_mul_self n hd⟩

theorem ceil_facts (n : Int) {d : Int} (hd : 0 < d) : n ≤ -((-n) / d) * d ∧ (-((-n) / d) - 1) * d < n := by
  obtain ⟨h1, h2⟩ := floor_facts (-n) hd
  constructor <;> nlinarith

theorem q_le_int {x y s : Int} (hy : 0 < y) : ((x : Rat) / y ≤ s) ↔ x ≤ s * y := by
  rw [← not_lt, ← not_lt, int_lt_div hy]

theorem int_le_q {x y s : Int} (hy : 0 < y) : ((s : Rat) ≤ (x : Rat) / y) ↔ s * y ≤ x := by
  rw [← not_lt, ← not_lt, div_lt_int hy]

/-- **`assign_mpz_mpq`**: every direction (also `ROUND_STRICT_RELATION`): the code's relation between
`n / d` and the stored integer is true and the direction is honoured.  (`ROUND_NOT_NEEDED` stores the
numerator and returns `V_LGE`, which states nothing.) -/
theorem assignMpzMpq_ok (n : Int) {d : Int} (hd : 0 < d) (dir : Dir) (strict : Bool) :
    K4.holds (Mp.assignMpzMpq n d dir strict).2 (.fin ((Mp.assignMpzMpq n d dir strict).1 : Rat)) (.fin ((n : Rat) / d)) ∧
    K4.directed dir (Mp.assignMpzMpq n d dir strict).2 (.fin ((Mp.assignMpzMpq n d dir strict).1 : Rat)) (.fin ((n : Rat) / d)) := by
  obtain ⟨f1, f2⟩ := floor_facts n hd
  obtain ⟨c1, c2⟩ := ceil_facts n hd
  have hmod := Int.mul_ediv_add_emod n d
  have hm0 := Int.emod_nonneg n (ne_of_gt hd)
  cases dir
  case down =>
    simp only [Mp.assignMpzMpq]
    have hle : ((n / d : Int) : Rat) ≤ (n : Rat) / d := (int_le_q hd).mpr f1
    cases strict <;> simp only [Bool.false_eq_true, if_false, if_true]
    · refine mp_normal rfl rfl ?_ (fun h => by cases h) (fun _ => hle)
      rcases lt_or_eq_of_le hle with h | h
      · exact Or.inr (Or.inr ⟨rfl, h⟩)
      · exact Or.inr (Or.inl ⟨rfl, h.symm⟩)
    · split
      · rename_i h0
        have h0' : n % d = 0 := by simpa using h0
        have : n = n / d * d := by rw [h0'] at hmod; linarith [Int.mul_comm d (n / d)]
        have he : (n : Rat) / d = ((n / d : Int) : Rat) := (div_eq_int hd).mpr this
        exact mp_normal rfl rfl (Or.inr (Or.inl ⟨rfl, he⟩)) (fun _ => le_of_eq he) (fun _ => le_of_eq he.symm)
      · rename_i h0
        have h0' : n % d ≠ 0 := by simpa using h0
        have : n / d * d < n := by
          have : 0 < n % d := by omega
          linarith [Int.mul_comm d (n / d)]
        have hlt : ((n / d : Int) : Rat) < (n : Rat) / d := (int_lt_div hd).mpr this
        exact mp_normal rfl rfl (Or.inr (Or.inr ⟨rfl, hlt⟩)) (fun h => by cases h) (fun _ => le_of_lt hlt)
  case up =>
    simp only [Mp.assignMpzMpq]
    have hle : (n : Rat) / d ≤ ((-((-n) / d) : Int) : Rat) := (q_le_int hd).mpr c1
    cases strict <;> simp only [Bool.false_eq_true, if_false, if_true]
    · refine mp_normal rfl rfl ?_ (fun _ => hle) (fun h => by cases h)
      rcases lt_or_eq_of_le hle with h | h
      · exact Or.inl ⟨rfl, h⟩
      · exact Or.inr (Or.inl ⟨rfl, h⟩)
    · have hmod' := Int.mul_ediv_add_emod (-n) d
      have hm0' := Int.emod_nonneg (-n) (ne_of_gt hd)
      split
      · rename_i h0
        have h0' : n % d = 0 := by simpa using h0
        have hdv : d ∣ -n := (Int.dvd_neg).mpr (Int.dvd_of_emod_eq_zero h0')
        have hz : (-n) % d = 0 := Int.emod_eq_zero_of_dvd hdv
        have : n = -((-n) / d) * d := by rw [hz] at hmod'; linarith [Int.mul_comm d ((-n) / d)]
        have he : (n : Rat) / d = ((-((-n) / d) : Int) : Rat) := (div_eq_int hd).mpr this
        exact mp_normal rfl rfl (Or.inr (Or.inl ⟨rfl, he⟩)) (fun _ => le_of_eq he) (fun _ => le_of_eq he.symm)
      · rename_i h0
        have h0' : n % d ≠ 0 := by simpa using h0
        have hnz : (-n) % d ≠ 0 := by
          intro hz
          have hdv : d ∣ n := (Int.dvd_neg).mp (Int.dvd_of_emod_eq_zero hz)
          exact h0' (Int.emod_eq_zero_of_dvd hdv)
        have : n < -((-n) / d) * d := by
          have : 0 < (-n) % d := by omega
          linarith [Int.mul_comm d ((-n) / d)]
        have hlt : (n : Rat) / d < ((-((-n) / d) : Int) : Rat) := (div_lt_int hd).mpr this
        exact mp_normal rfl rfl (Or.inl ⟨rfl, hlt⟩) (fun _ => le_of_lt hlt) (fun h => by cases h)
  case ignore =>
    simp only [Mp.assignMpzMpq]
    exact mp_normal rfl rfl (rel_lge _ _) (fun h => by cases h) (fun h => by cases h)
  case notNeeded =>
    simp only [Mp.assignMpzMpq]
    exact mp_normal rfl rfl (rel_lge _ _) (fun h => by cases h) (fun h => by cases h)

/-- the special values: `assign_special_mpz/mpq` states the class of the operand -/
theorem mp_assignSpecial_ok (π : Policy) (to0 : QV) (c : Cls) (hc : c ≠ .normal) (dir : Dir) :
    K4.holds (Mp.assignSpecial π to0 c).2 (Mp.assignSpecial π to0 c).1.toExtQ (Ext.ofCls c |>.map Int.cast) ∧
    K4.directed dir (Mp.assignSpecial π to0 c).2 (Mp.assignSpecial π to0 c).1.toExtQ (Ext.ofCls c |>.map Int.cast) := by
  cases c
  · exact absurd rfl hc
  · cases hi : π.hasInfinity <;>
      simp [Mp.assignSpecial, hi, K4.holds, K4.directed, V_EQ_MINUS_INFINITY, orUnrep, K4.relHolds, Rel.EQ, Ext.eqv,
        Ext.ofCls, Ext.map, QV.toExtQ, Ext.le]
  · cases hi : π.hasInfinity <;>
      simp [Mp.assignSpecial, hi, K4.holds, K4.directed, V_EQ_PLUS_INFINITY, orUnrep, K4.relHolds, Rel.EQ, Ext.eqv,
        Ext.ofCls, Ext.map, QV.toExtQ, Ext.le]
  · simp [Mp.assignSpecial, K4.holds, K4.directed, V_NAN, K4.nanReasonHolds, Ext.ofCls, Ext.map]

theorem mp_assignSpecialQ_ok (π : Policy) (to0 : QV) (c : Cls) (hc : c ≠ .normal) (dir : Dir) :
    K4.holds (Mp.assignSpecialQ π to0 c).2 (Mp.assignSpecialQ π to0 c).1.toExtQ (Ext.ofCls c |>.map Int.cast) ∧
    K4.directed dir (Mp.assignSpecialQ π to0 c).2 (Mp.assignSpecialQ π to0 c).1.toExtQ (Ext.ofCls c |>.map Int.cast) := by
  cases c
  · exact absurd rfl hc
  · exact mp_assignSpecial_ok π to0 .minf (by decide) dir
  · exact mp_assignSpecial_ok π to0 .pinf (by decide) dir
  · cases hn : π.hasNan <;>
      simp [Mp.assignSpecialQ, hn, K4.holds, K4.directed, V_NAN, orUnrep, K4.nanReasonHolds, Ext.ofCls, Ext.map]

/-- **`assign_mpz_float`** (finite operand `n / d`, FPU rounding upward as the library maintains it):
relation true, direction honoured -/
theorem assignMpzFloat_ok (π : Policy) (to0 : QV) (n : Int) {d : Int} (hd : 0 < d) (dir : Dir) :
    K4.holds (Mp.assignMpzFloat π to0 .up (.fin n d) dir).2 (Mp.assignMpzFloat π to0 .up (.fin n d) dir).1.toExtQ (.fin ((n : Rat) / d)) ∧
    K4.directed dir (Mp.assignMpzFloat π to0 .up (.fin n d) dir).2 (Mp.assignMpzFloat π to0 .up (.fin n d) dir).1.toExtQ (.fin ((n : Rat) / d)) := by
  have cast1 : ∀ s : Int, ((s : Rat) / ((1 : Int) : Rat)) = (s : Rat) := by intro s; simp
  obtain ⟨c1, c2⟩ := ceil_facts n hd
  simp only [Mp.assignMpzFloat, Mp.rint]
  split
  · rename_i hnr
    simp only [QV.toExtQ, Int.cast_one, div_one]
    exact mp_normal rfl rfl (rel_lge _ _) (fun h => by rw [h] at hnr; simp [Dir.notRequested] at hnr)
      (fun h => by rw [h] at hnr; simp [Dir.notRequested] at hnr)
  · by_cases heq : (n == -((-n) / d) * d) = true
    · simp only [heq, if_true]
      have heq' : n = -((-n) / d) * d := by simpa using heq
      simp only [QV.toExtQ, Int.cast_one, div_one]
      have he : (n : Rat) / d = ((-((-n) / d) : Int) : Rat) := (div_eq_int hd).mpr heq'
      exact mp_normal rfl rfl (Or.inr (Or.inl ⟨rfl, he⟩)) (fun _ => le_of_eq he) (fun _ => le_of_eq he.symm)
    · simp only [heq]
      have hne : n ≠ -((-n) / d) * d := by simpa using heq
      have hlt' : n < -((-n) / d) * d := by omega
      have hlt : (n : Rat) / d < ((-((-n) / d) : Int) : Rat) := (div_lt_int hd).mpr hlt'
      by_cases hdn : dir.roundDown = true
      · have hdn' : dir = Dir.down := by simpa [Dir.roundDown] using hdn
        have e : Mp.roundLtMpz (-((-n) / d)) dir = (-((-n) / d) - 1, V_GT) := by simp [Mp.roundLtMpz, hdn]
        rw [e]
        have hgt : ((-((-n) / d) - 1 : Int) : Rat) < (n : Rat) / d := (int_lt_div hd).mpr c2
        have := mp_normal (dir := dir) (s := -((-n) / d) - 1) (r := V_GT) rfl rfl (Or.inr (Or.inr ⟨rfl, hgt⟩))
          (fun h => by rw [hdn'] at h; cases h) (fun _ => le_of_lt hgt)
        simpa [QV.toExtQ] using this
      · have e : Mp.roundLtMpz (-((-n) / d)) dir = (-((-n) / d), V_LT) := by simp [Mp.roundLtMpz, hdn]
        rw [e]
        have := mp_normal (dir := dir) (s := -((-n) / d)) (r := V_LT) rfl rfl (Or.inl ⟨rfl, hlt⟩)
          (fun _ => le_of_lt hlt) (fun h => by simp [Dir.roundDown, h] at hdn)
        simpa [QV.toExtQ] using this

/-- **`assign_mpz_signed_int` / `assign_mpz_unsigned_int`**: exact for every value of the source type —
including the minimum of a `long long`, whose negation wraps to itself and is read back as `2^(bits-1)` -/
theorem assignMpzInt_exact (f : IntTy) {v : Int} (h : f.inRange v) : Mp.assignMpzInt f v = (v, V_EQ) := by
  have hp := f.half_pos
  unfold Mp.assignMpzInt
  split
  · rfl
  · rename_i hneg
    have hsg : f.signed = true := by
      cases hs : f.signed
      · unfold IntTy.inRange IntTy.cmin at h; simp [hs] at h; omega
      · rfl
    unfold IntTy.inRange IntTy.cmin IntTy.cmax at h
    simp only [hsg, if_true] at h
    have key : f.wrap (-v) % (2 * f.half) = -v := by
      unfold IntTy.wrap
      simp only [hsg, if_true]
      by_cases hmin : v = -f.half
      · subst hmin
        have e1 : (- -f.half + f.half) % (2 * f.half) = 0 := by
          rw [show - -f.half + f.half = 2 * f.half by ring]; exact Int.emod_self
        rw [e1]
        have : (0 - f.half) % (2 * f.half) = f.half := by
          rw [show (0 - f.half) = f.half + (-1) * (2 * f.half) by ring, Int.add_mul_emod_self_right]
          exact Int.emod_eq_of_lt (by omega) (by omega)
        rw [this]; ring
      · have e1 : (-v + f.half) % (2 * f.half) = -v + f.half := Int.emod_eq_of_lt (by omega) (by omega)
        rw [e1, show -v + f.half - f.half = -v by ring]
        exact Int.emod_eq_of_lt (by omega) (by omega)
    rw [key]; simp

/-- `assign_mpq_float` on a finite operand is exact -/
theorem assignMpqFloat_exact (π : Policy) (to0 : QV) (n d : Int) :
    Mp.assignMpqFloat π to0 (.fin n d) = (.fin n d, V_EQ) := rfl

end PPLV.Checked

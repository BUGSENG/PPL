import PPLV.Checked.ProofsAddMul
import Mathlib.Tactic.Linarith
import Mathlib.Tactic.Ring
import Mathlib.Algebra.Order.Field.Basic
/-!
# C11 proofs: division (exact result a rational number)

`OKQ` is `OK` with the exact result in `Ext ℚ` (stored integers are cast); its endings are those of
`Outcome.lean`.  Truncating division leaves the stored quotient within one unit of the exact one, above it
iff remainder and divisor have opposite signs (`tdiv_round`): this is the test by which `div_signed_int`
picks `round_lt_int_no_overflow` or `round_gt_int_no_overflow` (/repo 5157d9d; the sign of the remainder
alone, as written before, is wrong for a negative divisor: `C11.div_holds_before_fix_fails`), and what
`div_unsigned_int`, `div_2exp_*` and `assign_int_mpq` rely on for a positive divisor.
-/
namespace PPLV.Checked
open Result

/-- the clauses of C11 for an outcome whose exact result is rational -/
structure OKQ (t : IntTy) (π : Policy) (dir : Dir) (out : Int × Result) (exact : Ext Rat) : Prop where
  holds : K4.holds out.2 ((t.denote π out.1).map (Int.cast : Int → Rat)) exact
  directed : K4.directed dir out.2 ((t.denote π out.1).map (Int.cast : Int → Rat)) exact
  overflow : K4.overflowHolds out.2 ((t.emin π : Int) : Rat) ((t.emax π : Int) : Rat) exact
  no_wrap : t.inRange out.1
  nan_stored : out.2.cls = .nan → π.hasNan = true → t.isNan π out.1 = true

theorem OKc.toQ {t : IntTy} {π : Policy} {dir : Dir} {out : Int × Result} {e : Ext Rat}
    (h : OKc (Int.cast : Int → Rat) t π dir out e) : OKQ t π dir out e := ⟨h.1, h.2, h.3, h.4, h.5⟩

/-- an integer-valued outcome is an outcome over `ℚ` -/
theorem ok_toQ {t : IntTy} {π : Policy} {dir : Dir} {out : Int × Result} {e : Ext Int}
    (h : OK t π dir out e) : OKQ t π dir out (e.map Int.cast) := (h.toC Int.cast_strictMono).toQ

/-! The endings of `Outcome.lean` for a rational exact result. -/

theorem okq_exact {t : IntTy} {π : Policy} (w : t.WF π) {dir : Dir} {s : Int} (hf : t.finite π s) {q : Rat}
    (h : q = s) : OKQ t π dir (s, V_EQ) (.fin q) := (okc_exact w hf h).toQ

theorem okq_unrequested {t : IntTy} {π : Policy} (w : t.WF π) {dir : Dir} (hnr : dir.notRequested = true)
    {s : Int} (hf : t.finite π s) {r : Result} (hc : r.cls = .normal) (hu : r.unrep = false)
    (ho : r.overflow = false) {q : Rat}
    (hrel : (r.rel.lt = true ∧ q < s) ∨ (r.rel.eq = true ∧ q = s) ∨ (r.rel.gt = true ∧ (s : Rat) < q)) :
    OKQ t π dir (s, r) (.fin q) := (okc_unrequested w hnr hf hc hu ho hrel).toQ

theorem okq_lge {t : IntTy} {π : Policy} (w : t.WF π) {dir : Dir} (hnr : dir.notRequested = true)
    {s : Int} (hf : t.finite π s) (q : Rat) : OKQ t π dir (s, V_LGE) (.fin q) := (okc_lge w hnr hf q).toQ

theorem okq_negOverflow {t : IntTy} {π : Policy} (w : t.WF π) (dir : Dir) {to0 : Int} (h0 : t.inRange to0) {q : Rat}
    (he : q < ((t.emin π : Int) : Rat)) : OKQ t π dir (setNegOverflow t π to0 dir) (.fin q) :=
  (okc_negOverflow w dir h0 he).toQ

theorem okq_posOverflow {t : IntTy} {π : Policy} (w : t.WF π) (dir : Dir) {to0 : Int} (h0 : t.inRange to0) {q : Rat}
    (he : ((t.emax π : Int) : Rat) < q) : OKQ t π dir (setPosOverflow t π to0 dir) (.fin q) :=
  (okc_posOverflow w dir h0 he).toQ

theorem roundGtNo_okq {t : IntTy} {π : Policy} (w : t.WF π) (dir : Dir) {s : Int} (hf : t.finite π s)
    (hf1 : dir.roundUp = true → s + 1 ≤ t.emax π) {q : Rat}
    (hgt : (s : Rat) < q) (hlt : q < ((s + 1 : Int) : Rat)) :
    OKQ t π dir (roundGtNoOverflow s dir) (.fin q) := (roundGtNo_okc w dir hf hf1 hgt hlt).toQ

theorem roundLtNo_okq {t : IntTy} {π : Policy} (w : t.WF π) (dir : Dir) {s : Int} (hf : t.finite π s)
    (hf1 : dir.roundDown = true → t.emin π ≤ s - 1) {q : Rat}
    (hgt : ((s - 1 : Int) : Rat) < q) (hlt : q < (s : Rat)) :
    OKQ t π dir (roundLtNoOverflow s dir) (.fin q) := (roundLtNo_okc w dir hf hf1 hgt hlt).toQ

theorem roundGt_okq {t : IntTy} {π : Policy} (w : t.WF π) (dir : Dir) {s : Int} (hf : t.finite π s) {q : Rat}
    (hgt : (s : Rat) < q) (hlt : q < ((s + 1 : Int) : Rat)) :
    OKQ t π dir (roundGt t π s dir) (.fin q) := (roundGt_okc w dir hf hgt hlt).toQ

theorem roundLt_okq {t : IntTy} {π : Policy} (w : t.WF π) (dir : Dir) {s : Int} (hf : t.finite π s) {q : Rat}
    (hlt : q < (s : Rat)) (hgt : ((s - 1 : Int) : Rat) < q) :
    OKQ t π dir (roundLt t π s dir) (.fin q) := (roundLt_okc w dir hf hlt hgt).toQ

/-! ### the exact quotient against an integer -/

theorem div_lt_int {x y s : Int} (hy : 0 < y) : ((x : Rat) / y < s) ↔ x < s * y := by
  have hy' : (0 : Rat) < y := by exact_mod_cast hy
  rw [div_lt_iff₀ hy']
  exact_mod_cast Iff.rfl

theorem int_lt_div {x y s : Int} (hy : 0 < y) : ((s : Rat) < (x : Rat) / y) ↔ s * y < x := by
  have hy' : (0 : Rat) < y := by exact_mod_cast hy
  rw [lt_div_iff₀ hy']
  exact_mod_cast Iff.rfl

theorem div_lt_int_neg {x y s : Int} (hy : y < 0) : ((x : Rat) / y < s) ↔ s * y < x := by
  have hy' : (y : Rat) < 0 := by exact_mod_cast hy
  rw [div_lt_iff_of_neg hy']
  exact_mod_cast Iff.rfl

theorem int_lt_div_neg {x y s : Int} (hy : y < 0) : ((s : Rat) < (x : Rat) / y) ↔ x < s * y := by
  have hy' : (y : Rat) < 0 := by exact_mod_cast hy
  rw [lt_div_iff_of_neg hy']
  exact_mod_cast Iff.rfl

theorem div_eq_int' {x y s : Int} (hy : y ≠ 0) : ((x : Rat) / y = s) ↔ x = s * y := by
  have hy' : (y : Rat) ≠ 0 := by exact_mod_cast hy
  rw [div_eq_iff hy']
  exact_mod_cast Iff.rfl

theorem div_eq_int {x y s : Int} (hy : 0 < y) : ((x : Rat) / y = s) ↔ x = s * y := div_eq_int' (ne_of_gt hy)

/-! ### truncating division -/

/-- the remainder has the sign of the dividend and is smaller than the divisor in absolute value -/
theorem tdiv_tmod_facts (x y : Int) (hy : y ≠ 0) :
    y * x.tdiv y + x.tmod y = x ∧ (0 ≤ x → 0 ≤ x.tmod y) ∧ (x ≤ 0 → x.tmod y ≤ 0) ∧
      (x.tmod y).natAbs < y.natAbs := by
  refine ⟨Int.mul_tdiv_add_tmod x y, Int.tmod_nonneg y, fun hx => ?_, ?_⟩
  · have := Int.tmod_nonneg y (show 0 ≤ -x by omega)
    rw [Int.neg_tmod] at this; omega
  · rw [Int.natAbs_tmod]; exact Nat.mod_lt _ (by omega)

/-- truncating division for a positive divisor: quotient and remainder facts for `omega` -/
theorem tdiv_tmod_pos (x : Int) {y : Int} (hy : 0 < y) :
    y * x.tdiv y + x.tmod y = x ∧ (0 ≤ x → 0 ≤ x.tmod y ∧ x.tmod y < y ∧ 0 ≤ x.tdiv y)
      ∧ (x < 0 → -y < x.tmod y ∧ x.tmod y ≤ 0 ∧ x.tdiv y ≤ 0) := by
  obtain ⟨e, p, n, lt⟩ := tdiv_tmod_facts x y (by omega)
  have hq := Int.natAbs_tdiv x y
  refine ⟨e, fun hx => ⟨p hx, by omega, ?_⟩, fun hx => ⟨by omega, n (by omega), ?_⟩⟩
  · rw [Int.tdiv_eq_ediv_of_nonneg hx]; exact Int.ediv_nonneg hx (by omega)
  · have := Int.ediv_nonneg (show 0 ≤ -x by omega) (show 0 ≤ y by omega)
    rw [← Int.tdiv_eq_ediv_of_nonneg (by omega), Int.neg_tdiv] at this; omega

/-- the side of the exact quotient on which truncation leaves `x.tdiv y`, as `div_signed_int` tells it:
above iff remainder and divisor have opposite signs; and the exact quotient is within one unit -/
theorem tdiv_round (x : Int) {y : Int} (hy : y ≠ 0) (hm : x.tmod y ≠ 0) :
    ((decide (x.tmod y < 0) != decide (y < 0)) = true →
      ((x.tdiv y - 1 : Int) : Rat) < (x : Rat) / y ∧ (x : Rat) / y < (x.tdiv y : Int)) ∧
    ((decide (x.tmod y < 0) != decide (y < 0)) = false →
      ((x.tdiv y : Int) : Rat) < (x : Rat) / y ∧ (x : Rat) / y < ((x.tdiv y + 1 : Int) : Rat)) := by
  obtain ⟨e, -, -, lt⟩ := tdiv_tmod_facts x y hy
  generalize x.tdiv y = q at *
  generalize x.tmod y = m at *
  have e0 : q * y = y * q := Int.mul_comm _ _
  have e1 : (q - 1) * y = y * q - y := by rw [Int.sub_mul, e0, Int.one_mul]
  have e2 : (q + 1) * y = y * q + y := by rw [Int.add_mul, e0, Int.one_mul]
  rcases Int.lt_or_gt_of_ne hy with hyn | hyp
  · have dy : decide (y < 0) = true := decide_eq_true hyn
    rw [dy]
    refine ⟨fun c => ?_, fun c => ?_⟩
    · have : ¬ m < 0 := by simpa using c
      exact ⟨(int_lt_div_neg hyn).mpr (by omega), (div_lt_int_neg hyn).mpr (by omega)⟩
    · have : m < 0 := by simpa using c
      exact ⟨(int_lt_div_neg hyn).mpr (by omega), (div_lt_int_neg hyn).mpr (by omega)⟩
  · have dy : decide (y < 0) = false := decide_eq_false (by omega)
    rw [dy]
    refine ⟨fun c => ?_, fun c => ?_⟩
    · have : m < 0 := by simpa using c
      exact ⟨(int_lt_div hyp).mpr (by omega), (div_lt_int hyp).mpr (by omega)⟩
    · have : ¬ m < 0 := by simpa using c
      exact ⟨(int_lt_div hyp).mpr (by omega), (div_lt_int hyp).mpr (by omega)⟩

theorem tdiv_exact (x : Int) {y : Int} (hy : y ≠ 0) (hm : x.tmod y = 0) : (x : Rat) / y = (x.tdiv y : Int) := by
  have e := Int.mul_tdiv_add_tmod x y
  rw [hm, Int.add_zero, Int.mul_comm] at e
  exact (div_eq_int' hy).mpr e.symm

/-- truncation moves the quotient by less than one -/
theorem tdiv_within_one (x : Int) {y : Int} (hy : y ≠ 0) :
    ((x.tdiv y - 1 : Int) : Rat) < (x : Rat) / y ∧ (x : Rat) / y < ((x.tdiv y + 1 : Int) : Rat) := by
  have lo : ((x.tdiv y - 1 : Int) : Rat) < (x.tdiv y : Int) := Int.cast_lt.mpr (by omega)
  have hi : ((x.tdiv y : Int) : Rat) < ((x.tdiv y + 1 : Int) : Rat) := Int.cast_lt.mpr (by omega)
  by_cases hm : x.tmod y = 0
  · rw [tdiv_exact x hy hm]; exact ⟨lo, hi⟩
  · obtain ⟨a, b⟩ := tdiv_round x hy hm
    cases c : decide (x.tmod y < 0) != decide (y < 0)
    · exact ⟨lo.trans (b c).1, (b c).2⟩
    · exact ⟨(a c).1, (a c).2.trans hi⟩

/-- dividing by at least two in absolute value halves the absolute value -/
theorem two_natAbs_tdiv_le (x : Int) {y : Int} (hy : 2 ≤ y.natAbs) : 2 * (x.tdiv y).natAbs ≤ x.natAbs := by
  rw [Int.natAbs_tdiv, Nat.mul_comm]
  exact Nat.le_trans (Nat.mul_le_mul_left _ hy) (Nat.div_mul_le_self _ _)

/-- the truncated quotient of two finite values is finite, except `min / -1` -/
theorem tdiv_finite {t : IntTy} {π : Policy} (w : t.WF π) {x y : Int} (hx : t.finite π x) (hyf : t.finite π y)
    (hy0 : y ≠ 0) (hy1 : y ≠ -1) : t.finite π (x.tdiv y) ∧ (2 ≤ y ∨ y ≤ -2 →
      (0 ≤ x → -x ≤ 2 * x.tdiv y ∧ 2 * x.tdiv y ≤ x) ∧ (x < 0 → x ≤ 2 * x.tdiv y ∧ 2 * x.tdiv y ≤ -x)) := by
  obtain ⟨hmin, hmax⟩ := IntTy.emin_le_emax w
  obtain ⟨h1, h2⟩ := hx
  obtain ⟨y1, y2⟩ := hyf
  have big : 2 ≤ y ∨ y ≤ -2 → 2 * (x.tdiv y).natAbs ≤ x.natAbs := fun h => two_natAbs_tdiv_le x (by omega)
  rcases (by omega : y = 1 ∨ 2 ≤ y ∨ y ≤ -2) with rfl | hy
  · rw [Int.tdiv_one]; exact ⟨⟨h1, h2⟩, fun h => by omega⟩
  · have := big hy
    refine ⟨?_, fun _ => by omega⟩
    -- `|q| ≤ |x| / 2`, and a range that holds a `y` with `|y| ≥ 2` reaches that far on both sides
    cases hs : t.signed
    · obtain ⟨-, -, e, -⟩ := t.layout_unsigned π hs
      have := Int.tdiv_nonneg (show 0 ≤ x by omega) (show 0 ≤ y by omega)
      exact ⟨by omega, by omega⟩
    · obtain ⟨s1, s2⟩ := t.neg_emin_near_emax π hs
      exact ⟨by omega, by omega⟩

theorem okq_divZero {t : IntTy} {π : Policy} (w : t.WF π) (dir : Dir) {to0 : Int} (h0 : t.inRange to0) :
    OKQ t π dir (assignNan t π to0 V_DIV_ZERO) .nan :=
  ok_toQ (e := .nan) (ok_assignNan w dir h0 rfl (Or.inr (Or.inr rfl)))

/-- exact result of a division of finite values -/
def divExactQ (x y : Int) : Ext Rat := if y = 0 then .nan else .fin ((x : Rat) / (y : Rat))

/-- an inexact truncated quotient: the divisor is at least two in absolute value, hence `2|q| < |x|` -/
theorem two_tdiv_lt_of_tmod_ne {x y : Int} (hy : y ≠ 0) (hm : x.tmod y ≠ 0) :
    2 ≤ y.natAbs ∧ 2 * (x.tdiv y).natAbs + 1 ≤ x.natAbs := by
  have hy2 : 2 ≤ y.natAbs := by
    by_contra h
    rcases (by omega : y = 1 ∨ y = -1) with rfl | rfl
    · exact hm (Int.tmod_one x)
    · exact hm (by rw [Int.tmod_neg, Int.tmod_one])
  have e : x.natAbs = y.natAbs * (x.tdiv y).natAbs + (x.tmod y).natAbs := by
    rw [Int.natAbs_tdiv, Int.natAbs_tmod]; exact (Nat.div_add_mod _ _).symm
  have := Nat.mul_le_mul_right (x.tdiv y).natAbs hy2
  exact ⟨hy2, by omega⟩

/-- **the endings of a truncating division of a non-negative by a positive number**, as `div_unsigned_int`
and `div_2exp_*` reach them: not requested, exact, one step up -/
theorem tdiv_nonneg_okq {t : IntTy} {π : Policy} (w : t.WF π) (dir : Dir) {x d : Int} (hd : 0 < d) (hx0 : 0 ≤ x)
    (hx : t.finite π x) :
    t.finite π (x.tdiv d) ∧
    (dir.notRequested = true → OKQ t π dir (x.tdiv d, V_GE) (.fin ((x : Rat) / (d : Rat)))) ∧
    (x.tmod d = 0 → OKQ t π dir (x.tdiv d, V_EQ) (.fin ((x : Rat) / (d : Rat)))) ∧
    (x.tmod d ≠ 0 → ((x.tdiv d : Int) : Rat) < (x : Rat) / d ∧ (x : Rat) / d < ((x.tdiv d + 1 : Int) : Rat) ∧
      OKQ t π dir (roundGtNoOverflow (x.tdiv d) dir) (.fin ((x : Rat) / (d : Rat)))) := by
  have hz : d ≠ 0 := by omega
  have hm0 := (tdiv_tmod_facts x d hz).2.1 hx0
  have hq0 := Int.tdiv_nonneg hx0 (Int.le_of_lt hd)
  have hqx : x.tdiv d ≤ x := Int.tdiv_le_self d hx0
  have hf : t.finite π (x.tdiv d) := ⟨by have := (IntTy.emin_le_emax w).1; omega, by have := hx.2; omega⟩
  have c : (decide (x.tmod d < 0) != decide (d < 0)) = false := by
    rw [decide_eq_false (by omega), decide_eq_false (by omega)]; rfl
  refine ⟨hf, fun hnr => ?_, fun hm => okq_exact w hf (tdiv_exact x hz hm), fun hm => ?_⟩
  · by_cases hm : x.tmod d = 0
    · exact okq_unrequested w hnr hf rfl rfl rfl (Or.inr (Or.inl ⟨rfl, tdiv_exact x hz hm⟩))
    · exact okq_unrequested w hnr hf rfl rfl rfl (Or.inr (Or.inr ⟨rfl, ((tdiv_round x hz hm).2 c).1⟩))
  · obtain ⟨hgt, hlt⟩ := (tdiv_round x hz hm).2 c
    have h2 := (two_tdiv_lt_of_tmod_ne hz hm).2
    exact ⟨hgt, hlt, roundGtNo_okq w dir hf (fun _ => by have := hx.2; omega) hgt hlt⟩

/-- the endings of a truncating division of a negative by a positive number: not requested, exact, one step down -/
theorem tdiv_neg_okq {t : IntTy} {π : Policy} (w : t.WF π) (dir : Dir) {x d : Int} (hd : 0 < d) (hx0 : x < 0)
    (hx : t.finite π x) :
    t.finite π (x.tdiv d) ∧
    (dir.notRequested = true → OKQ t π dir (x.tdiv d, V_LE) (.fin ((x : Rat) / (d : Rat)))) ∧
    (x.tmod d = 0 → OKQ t π dir (x.tdiv d, V_EQ) (.fin ((x : Rat) / (d : Rat)))) ∧
    (x.tmod d ≠ 0 → OKQ t π dir (roundLtNoOverflow (x.tdiv d) dir) (.fin ((x : Rat) / (d : Rat)))) := by
  have hz : d ≠ 0 := by omega
  have hm0 := (tdiv_tmod_facts x d hz).2.2.1 (Int.le_of_lt hx0)
  have hq0 : (-x).tdiv d = -(x.tdiv d) := Int.neg_tdiv x d
  have hq1 := Int.tdiv_nonneg (show 0 ≤ -x by omega) (Int.le_of_lt hd)
  have hqx : (-x).tdiv d ≤ -x := Int.tdiv_le_self d (by omega)
  have hf : t.finite π (x.tdiv d) := ⟨by have := hx.1; omega, by have := (IntTy.emin_le_emax w).2; omega⟩
  refine ⟨hf, fun hnr => ?_, fun hm => okq_exact w hf (tdiv_exact x hz hm), fun hm => ?_⟩
  · by_cases hm : x.tmod d = 0
    · exact okq_unrequested w hnr hf rfl rfl rfl (Or.inr (Or.inl ⟨rfl, tdiv_exact x hz hm⟩))
    · have c : (decide (x.tmod d < 0) != decide (d < 0)) = true := by
        rw [decide_eq_true (by omega), decide_eq_false (by omega)]; rfl
      exact okq_unrequested w hnr hf rfl rfl rfl (Or.inl ⟨rfl, ((tdiv_round x hz hm).1 c).2⟩)
  · have c : (decide (x.tmod d < 0) != decide (d < 0)) = true := by
      rw [decide_eq_true (by omega), decide_eq_false (by omega)]; rfl
    obtain ⟨hgt, hlt⟩ := (tdiv_round x hz hm).1 c
    have h2 := (two_tdiv_lt_of_tmod_ne hz hm).2
    exact roundLtNo_okq w dir hf (fun _ => by have := hx.1; omega) hgt hlt

theorem divUnsigned_okq {t : IntTy} {π : Policy} (w : t.WF π) (hs : t.signed = false)
    (dir : Dir) {to0 x y : Int} (h0 : t.inRange to0) (hx : t.finite π x) (hy : t.finite π y)
    (hdz : π.checkDivZero = true ∨ y ≠ 0) :
    OKQ t π dir (divUnsigned t π to0 x y dir) (divExactQ x y) := by
  obtain ⟨-, -, e0, -⟩ := t.layout_unsigned π hs
  unfold divUnsigned divExactQ
  by_cases hz : y = 0
  · have hc : π.checkDivZero = true := hdz.resolve_right (not_not.mpr hz)
    simp only [hz, hc, beq_self_eq_true, Bool.and_self, if_true]
    exact okq_divZero w dir h0
  have hb : (y == 0) = false := by simpa using hz
  simp only [hb, Bool.and_false, Bool.false_eq_true, if_false, hz]
  obtain ⟨hfq, L1, L2, L3⟩ := tdiv_nonneg_okq w dir (show 0 < y by have := hy.1; omega)
    (show 0 ≤ x by have := hx.1; omega) hx
  by_cases hnr : dir.notRequested = true
  · rw [if_pos hnr]; exact L1 hnr
  rw [if_neg hnr]
  by_cases hm : x.tmod y = 0
  · rw [if_pos (by simpa using hm)]; exact L2 hm
  · rw [if_neg (by simpa using hm)]
    exact roundGt_okq w dir hfq (L3 hm).1 (L3 hm).2.1

/-- **`div_signed_int`** (as repaired by /repo 5157d9d): every divisor, every direction -/
theorem divSigned_okq {t : IntTy} {π : Policy} (w : t.WF π) (hs : t.signed = true) (hl : t.LargerOK)
    (hco : π.checkOverflow = true)
    (dir : Dir) {to0 x y : Int} (h0 : t.inRange to0) (hx : t.finite π x) (hy : t.finite π y)
    (hdz : π.checkDivZero = true ∨ y ≠ 0) :
    OKQ t π dir (divSigned t π to0 x y dir) (divExactQ x y) := by
  unfold divSigned divExactQ
  by_cases hz : y = 0
  · have hc : π.checkDivZero = true := hdz.resolve_right (not_not.mpr hz)
    simp only [hz, hc, beq_self_eq_true, Bool.and_self, if_true]
    exact okq_divZero w dir h0
  have hb : (y == 0) = false := by simpa using hz
  simp only [hb, Bool.and_false, Bool.false_eq_true, if_false, hz, hco, Bool.true_and]
  by_cases hm1 : y = -1
  · subst hm1
    simp only [beq_self_eq_true, if_true]
    have := ok_toQ (tri_ok w h0 (negSigned_tri w hs hl hco dir h0 hx))
    have e : (Ext.fin (-x)).map (Int.cast : Int → Rat) = Ext.fin ((x : Rat) / ((-1 : Int) : Rat)) := by
      simp only [Ext.map]; congr 1; push_cast; rw [div_neg, div_one]
    rw [e] at this
    exact this
  have hb1 : (y == -1) = false := by simpa using hm1
  simp only [hb1, Bool.false_eq_true, if_false]
  have hfq := (tdiv_finite w hx hy hz hm1).1
  by_cases hnr : dir.notRequested = true
  · rw [if_pos hnr]
    exact okq_lge w hnr hfq _
  rw [if_neg hnr]
  by_cases hm : x.tmod y = 0
  · rw [if_pos (by simpa using hm)]; exact okq_exact w hfq (tdiv_exact x hz hm)
  rw [if_neg (by simpa using hm)]
  -- `2|q| < |x|` keeps `q ± 1` inside a range that holds `x` and a `y` with `|y| ≥ 2`
  obtain ⟨hy2, h2⟩ := two_tdiv_lt_of_tmod_ne hz hm
  obtain ⟨s1, s2⟩ := t.neg_emin_near_emax π hs
  obtain ⟨x1, x2⟩ := hx
  obtain ⟨y1, y2⟩ := hy
  by_cases c : (decide (x.tmod y < 0) != decide (y < 0)) = true
  · rw [if_pos c]
    obtain ⟨hgt, hlt⟩ := (tdiv_round x hz hm).1 c
    exact roundLtNo_okq w dir hfq (fun _ => by omega) hgt hlt
  · rw [if_neg c]
    obtain ⟨hgt, hlt⟩ := (tdiv_round x hz hm).2 (by simpa using c)
    exact roundGtNo_okq w dir hfq (fun _ => by omega) hgt hlt

end PPLV.Checked

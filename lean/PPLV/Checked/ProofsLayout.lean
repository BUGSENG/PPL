import PPLV.Checked.Spec
/-!
# C11 proofs: the layout of a type under a policy and the three ways an integer operation can end

`OK t π dir out exact` bundles the clauses of C11 for one outcome `out = (stored, code)`:
the code's relation holds, directed rounding is honoured, an overflow claim is true, the stored
value is a bit pattern of the type (no wrap), and a NaN is stored for a NaN-class code whenever
the policy has one.  `Tri` names the three ways an exact integer operation ends: an exactly
representable result stored with `V_EQ`, `set_neg_overflow_int`, `set_pos_overflow_int` (that each satisfies
`OK` is `tri_ok` in `Outcome.lean`).
-/
namespace PPLV.Checked
open Result

theorem pow2_succ (n : Nat) : pow2 (n + 1) = 2 * pow2 n := by
  rw [pow2_eq, pow2_eq, Int.pow_succ, Int.mul_comm]

theorem pow2_pos (n : Nat) : 1 ≤ pow2 n := by
  induction n with
  | zero => decide
  | succ n ih => rw [pow2_succ]; omega

theorem pow2_add (m n : Nat) : pow2 (m + n) = pow2 m * pow2 n := by
  rw [pow2_eq, pow2_eq, pow2_eq, Int.pow_add]

theorem pow2_le_pow2 {m n : Nat} (h : m ≤ n) : pow2 m ≤ pow2 n := by
  obtain ⟨k, rfl⟩ := Nat.exists_eq_add_of_le h
  rw [pow2_add]
  have h1 := pow2_pos m
  have h2 := pow2_pos k
  have : pow2 m * 1 ≤ pow2 m * pow2 k := Int.mul_le_mul_of_nonneg_left h2 (by omega)
  omega

theorem pow2_dvd_pow2 {m n : Nat} (h : m ≤ n) : pow2 m ∣ pow2 n := by
  obtain ⟨k, rfl⟩ := Nat.exists_eq_add_of_le h
  rw [pow2_add]; exact Int.dvd_mul_right _ _

theorem pow2_lt_pow2 {m n : Nat} (h : m < n) : pow2 m < pow2 n := by
  have h1 : pow2 (m + 1) ≤ pow2 n := pow2_le_pow2 h
  rw [pow2_succ] at h1
  have := pow2_pos m
  omega

/-- well-formed combination of a type and a policy: at least one bit; at least three when the
policy reserves bit patterns for special values (so that `min ≤ 0 ≤ max` stay finite values). -/
structure IntTy.WF (t : IntTy) (π : Policy) : Prop where
  bits_pos : 1 ≤ t.bits
  room : (π.hasNan = true ∨ π.hasInfinity = true) → 3 ≤ t.bits

theorem IntTy.half_pos (t : IntTy) : 1 ≤ t.half := pow2_pos _

theorem IntTy.half_ge4 (t : IntTy) (h : 3 ≤ t.bits) : 4 ≤ t.half := by
  unfold IntTy.half
  obtain ⟨k, hk⟩ : ∃ k, t.bits - 1 = k + 2 := ⟨t.bits - 3, by omega⟩
  rw [hk, pow2_succ, pow2_succ]
  have := pow2_pos k
  omega

theorem pow2_ge_two_half {t : IntTy} (hb : 1 ≤ t.bits) {e : Nat} (he : e ≥ t.bits) : 2 * t.half ≤ pow2 e := by
  unfold IntTy.half
  have : pow2 ((t.bits - 1) + 1) ≤ pow2 e := pow2_le_pow2 (by omega)
  rw [pow2_succ] at this
  exact this

theorem pow2_le_half {t : IntTy} {e : Nat} (he : e < t.bits) : pow2 e ≤ t.half := by
  unfold IntTy.half
  exact pow2_le_pow2 (by omega)

/-- all clauses for one outcome -/
structure OK (t : IntTy) (π : Policy) (dir : Dir) (out : Int × Result) (exact : Ext Int) : Prop where
  holds : K4.holds out.2 (t.denote π out.1) exact
  directed : K4.directed dir out.2 (t.denote π out.1) exact
  overflow : K4.overflowHolds out.2 (t.emin π) (t.emax π) exact
  no_wrap : t.inRange out.1
  nan_stored : out.2.cls = .nan → π.hasNan = true → t.isNan π out.1 = true

/-! ## the layout of a type under a policy

Every bound and every special bit pattern is `±half` shifted by the two flags `b2i π.hasInfinity`,
`b2i π.hasNan`.  With these equations in the context a layout argument is one `omega` over `t.half` and
the two flags; no enumeration of the policy is needed. -/

theorem b2i_range (b : Bool) : 0 ≤ b2i b ∧ b2i b ≤ 1 := by cases b <;> decide

theorem b2i_true {b : Bool} (h : b = true) : b2i b = 1 := by rw [h]; rfl

/-- a failed test `flag && v == special`, as a fact for `omega` -/
theorem ne_of_flag_and_beq {b : Bool} {v s : Int} (h : (b && v == s) = false) : b2i b = 1 → v ≠ s := by
  cases b
  · exact fun h => nomatch h
  · exact fun _ => beq_eq_false_iff_ne.mp h

theorem IntTy.layout_signed {t : IntTy} (π : Policy) (hs : t.signed = true) :
    t.cmin = -t.half ∧ t.cmax = t.half - 1 ∧ t.emin π = -t.half + b2i π.hasInfinity + b2i π.hasNan ∧
    t.emax π = t.half - 1 - b2i π.hasInfinity ∧ t.nanV π = -t.half + b2i π.hasInfinity ∧
    t.minusInf = -t.half ∧ t.plusInf = t.half - 1 := by
  simp only [IntTy.cmin, IntTy.cmax, IntTy.emin, IntTy.emax, IntTy.nanV, IntTy.minusInf, IntTy.plusInf, hs,
    if_true, true_and, and_true]
  omega

theorem IntTy.layout_unsigned {t : IntTy} (π : Policy) (hs : t.signed = false) :
    t.cmin = 0 ∧ t.cmax = 2 * t.half - 1 ∧ t.emin π = 0 ∧
    t.emax π = 2 * t.half - 1 - 2 * b2i π.hasInfinity - b2i π.hasNan ∧
    t.nanV π = 2 * t.half - 1 - 2 * b2i π.hasInfinity ∧ t.minusInf = 2 * t.half - 2 ∧
    t.plusInf = 2 * t.half - 1 := by
  simp only [IntTy.cmin, IntTy.cmax, IntTy.emin, IntTy.emax, IntTy.nanV, IntTy.minusInf, IntTy.plusInf, hs,
    Bool.false_eq_true, if_false, true_and, and_true]
  omega

/-- what well-formedness adds: four values below `half` whenever a flag is set -/
theorem IntTy.WF.flags {t : IntTy} {π : Policy} (w : t.WF π) :
    1 ≤ t.half ∧ 0 ≤ b2i π.hasNan ∧ b2i π.hasNan ≤ 1 ∧ 0 ≤ b2i π.hasInfinity ∧ b2i π.hasInfinity ≤ 1 ∧
    (1 ≤ b2i π.hasNan + b2i π.hasInfinity → 4 ≤ t.half) := by
  refine ⟨t.half_pos, (b2i_range _).1, (b2i_range _).2, (b2i_range _).1, (b2i_range _).2, fun h => ?_⟩
  refine t.half_ge4 (w.room ?_)
  revert h
  cases π.hasNan <;> cases π.hasInfinity <;> simp [b2i]

/-- bounds of the finite range in terms of `half` (for `omega`) -/
theorem IntTy.erange_half {t : IntTy} {π : Policy} (w : t.WF π) :
    (t.signed = true → -t.half ≤ t.emin π ∧ t.emin π ≤ -t.half + 2 ∧ t.half - 2 ≤ t.emax π ∧ t.emax π ≤ t.half - 1
        ∧ ((π.hasNan = true ∨ π.hasInfinity = true) → 4 ≤ t.half)) ∧
    (t.signed = false → t.emin π = 0 ∧ 2 * t.half - 4 ≤ t.emax π ∧ t.emax π ≤ 2 * t.half - 1
        ∧ (t.emax π < 2 * t.half - 1 → 4 ≤ t.half)) := by
  obtain ⟨hp, n0, n1, i0, i1, hr⟩ := w.flags
  refine ⟨fun hs => ?_, fun hs => ?_⟩
  · obtain ⟨-, -, e1, e2, -⟩ := t.layout_signed π hs
    exact ⟨by omega, by omega, by omega, by omega, fun h => t.half_ge4 (w.room h)⟩
  · obtain ⟨-, -, e1, e2, -⟩ := t.layout_unsigned π hs
    omega

/-- a signed finite range is symmetric up to one -/
theorem IntTy.neg_emin_near_emax {t : IntTy} (π : Policy) (hs : t.signed = true) :
    t.emax π ≤ -(t.emin π) ∧ -(t.emin π) ≤ t.emax π + 1 := by
  obtain ⟨n0, n1⟩ := b2i_range π.hasNan
  obtain ⟨-, -, e1, e2, -⟩ := t.layout_signed π hs
  omega

theorem IntTy.finite_inRange {t : IntTy} {π : Policy} {v : Int} (h : t.finite π v) : t.inRange v := by
  obtain ⟨n0, n1⟩ := b2i_range π.hasNan
  obtain ⟨i0, i1⟩ := b2i_range π.hasInfinity
  obtain ⟨h1, h2⟩ := h
  unfold IntTy.inRange
  cases hs : t.signed
  · obtain ⟨c1, c2, e1, e2, -⟩ := t.layout_unsigned π hs; omega
  · obtain ⟨c1, c2, e1, e2, -⟩ := t.layout_signed π hs; omega

theorem IntTy.finite_not_special {t : IntTy} {π : Policy} (w : t.WF π) {v : Int} (h : t.finite π v) :
    t.isNan π v = false ∧ t.isMinf π v = false ∧ t.isPinf π v = false := by
  obtain ⟨hp, n0, n1, i0, i1, hr⟩ := w.flags
  obtain ⟨h1, h2⟩ := h
  unfold IntTy.isNan IntTy.isMinf IntTy.isPinf
  simp only [Bool.and_eq_false_imp, beq_eq_false_iff_ne]
  cases hs : t.signed
  · obtain ⟨-, -, e1, e2, v1, v2, v3⟩ := t.layout_unsigned π hs
    exact ⟨fun hn => by have := b2i_true hn; omega, fun hi => by have := b2i_true hi; omega,
      fun hi => by have := b2i_true hi; omega⟩
  · obtain ⟨-, -, e1, e2, v1, v2, v3⟩ := t.layout_signed π hs
    exact ⟨fun hn => by have := b2i_true hn; omega, fun hi => by have := b2i_true hi; omega,
      fun hi => by have := b2i_true hi; omega⟩

/-- a bit pattern of the type that is none of the special encodings is a finite value -/
theorem IntTy.finite_of_not_special {t : IntTy} {π : Policy} {v : Int} (hr : t.inRange v)
    (h1 : t.isNan π v = false) (h2 : t.isMinf π v = false) (h3 : t.isPinf π v = false) : t.finite π v := by
  obtain ⟨n0, n1⟩ := b2i_range π.hasNan
  obtain ⟨i0, i1⟩ := b2i_range π.hasInfinity
  have h1 := ne_of_flag_and_beq h1
  have h2 := ne_of_flag_and_beq h2
  have h3 := ne_of_flag_and_beq h3
  obtain ⟨r1, r2⟩ := hr
  -- each bound only meets the special patterns on its side
  cases hs : t.signed
  · obtain ⟨c1, c2, e1, e2, v1, v2, v3⟩ := t.layout_unsigned π hs
    exact ⟨by omega, by omega⟩
  · obtain ⟨c1, c2, e1, e2, v1, v2, v3⟩ := t.layout_signed π hs
    exact ⟨by clear h3 e2 v3 c2 r2; omega, by clear h1 h2 e1 v1 v2 c1 r1; omega⟩

theorem IntTy.denote_finite {t : IntTy} {π : Policy} (w : t.WF π) {v : Int} (h : t.finite π v) :
    t.denote π v = .fin v := by
  obtain ⟨a, b, c⟩ := IntTy.finite_not_special w h
  simp only [IntTy.denote, a, b, c, Bool.false_eq_true, if_false]

theorem IntTy.emin_le_emax {t : IntTy} {π : Policy} (w : t.WF π) : t.emin π ≤ 0 ∧ 0 ≤ t.emax π := by
  obtain ⟨hp, n0, n1, i0, i1, hr⟩ := w.flags
  cases hs : t.signed
  · obtain ⟨-, -, e1, e2, -⟩ := t.layout_unsigned π hs; omega
  · obtain ⟨-, -, e1, e2, -⟩ := t.layout_signed π hs; omega

theorem IntTy.finite_emin {t : IntTy} {π : Policy} (w : t.WF π) : t.finite π (t.emin π) := by
  have := IntTy.emin_le_emax w
  exact ⟨Int.le_refl _, by omega⟩

theorem IntTy.finite_emax {t : IntTy} {π : Policy} (w : t.WF π) : t.finite π (t.emax π) := by
  have := IntTy.emin_le_emax w
  exact ⟨by omega, Int.le_refl _⟩

theorem IntTy.denote_minusInf {t : IntTy} {π : Policy} (w : t.WF π) (hi : π.hasInfinity = true) :
    t.denote π t.minusInf = .minf ∧ t.inRange t.minusInf := by
  have h4 := t.half_ge4 (w.room (Or.inr hi))
  have hi1 := b2i_true hi
  have hn : t.isNan π t.minusInf = false := by
    unfold IntTy.isNan
    rw [Bool.and_eq_false_imp, beq_eq_false_iff_ne]
    intro _
    cases hs : t.signed
    · obtain ⟨-, -, -, -, v1, v2, -⟩ := t.layout_unsigned π hs; omega
    · obtain ⟨-, -, -, -, v1, v2, -⟩ := t.layout_signed π hs; omega
  refine ⟨by simp only [IntTy.denote, hn, IntTy.isMinf, hi, beq_self_eq_true, Bool.and_self, Bool.false_eq_true,
    if_false, if_true], ?_⟩
  unfold IntTy.inRange
  cases hs : t.signed
  · obtain ⟨c1, c2, -, -, -, v2, -⟩ := t.layout_unsigned π hs; omega
  · obtain ⟨c1, c2, -, -, -, v2, -⟩ := t.layout_signed π hs; omega

theorem IntTy.denote_plusInf {t : IntTy} {π : Policy} (w : t.WF π) (hi : π.hasInfinity = true) :
    t.denote π t.plusInf = .pinf ∧ t.inRange t.plusInf := by
  have h4 := t.half_ge4 (w.room (Or.inr hi))
  have hi1 := b2i_true hi
  have hn : t.isNan π t.plusInf = false ∧ t.isMinf π t.plusInf = false := by
    unfold IntTy.isNan IntTy.isMinf
    rw [Bool.and_eq_false_imp, Bool.and_eq_false_imp, beq_eq_false_iff_ne, beq_eq_false_iff_ne]
    cases hs : t.signed
    · obtain ⟨-, -, -, -, v1, v2, v3⟩ := t.layout_unsigned π hs
      exact ⟨fun _ => by omega, fun _ => by omega⟩
    · obtain ⟨-, -, -, -, v1, v2, v3⟩ := t.layout_signed π hs
      exact ⟨fun _ => by omega, fun _ => by omega⟩
  refine ⟨by simp only [IntTy.denote, hn.1, hn.2, IntTy.isPinf, hi, beq_self_eq_true, Bool.and_self,
    Bool.false_eq_true, if_false, if_true], ?_⟩
  unfold IntTy.inRange
  cases hs : t.signed
  · obtain ⟨c1, c2, -, -, -, -, v3⟩ := t.layout_unsigned π hs; omega
  · obtain ⟨c1, c2, -, -, -, -, v3⟩ := t.layout_signed π hs; omega

theorem IntTy.isNan_nanV {t : IntTy} {π : Policy} (w : t.WF π) (hn : π.hasNan = true) :
    t.isNan π (t.nanV π) = true ∧ t.inRange (t.nanV π) := by
  have h4 := t.half_ge4 (w.room (Or.inl hn))
  obtain ⟨i0, i1⟩ := b2i_range π.hasInfinity
  refine ⟨by simp only [IntTy.isNan, hn, beq_self_eq_true, Bool.and_self], ?_⟩
  unfold IntTy.inRange
  cases hs : t.signed
  · obtain ⟨c1, c2, -, -, v1, -⟩ := t.layout_unsigned π hs; omega
  · obtain ⟨c1, c2, -, -, v1, -⟩ := t.layout_signed π hs; omega

/-- **The three endings of an exact integer operation** whose mathematical result is `e`:
stored exactly with `V_EQ`, or `set_neg_overflow_int` because `e` is below the finite range, or
`set_pos_overflow_int` because it is above. -/
def Tri (t : IntTy) (π : Policy) (dir : Dir) (to0 : Int) (out : Int × Result) (e : Int) : Prop :=
  (out = (e, V_EQ) ∧ t.finite π e) ∨ (e < t.emin π ∧ out = setNegOverflow t π to0 dir)
    ∨ (t.emax π < e ∧ out = setPosOverflow t π to0 dir)

theorem tri_eq {t : IntTy} {π : Policy} {dir : Dir} {to0 v : Int} (h : t.finite π v) :
    Tri t π dir to0 (v, V_EQ) v := Or.inl ⟨rfl, h⟩
theorem tri_neg {t : IntTy} {π : Policy} {dir : Dir} {to0 e : Int} (h : e < t.emin π) :
    Tri t π dir to0 (setNegOverflow t π to0 dir) e := Or.inr (Or.inl ⟨h, rfl⟩)
theorem tri_pos {t : IntTy} {π : Policy} {dir : Dir} {to0 e : Int} (h : t.emax π < e) :
    Tri t π dir to0 (setPosOverflow t π to0 dir) e := Or.inr (Or.inr ⟨h, rfl⟩)

/-- an exact result that is a finite value of the type leaves only the first ending -/
theorem Tri.of_finite {t : IntTy} {π : Policy} {dir : Dir} {to0 : Int} {out : Int × Result} {e : Int}
    (h : Tri t π dir to0 out e) (hf : t.finite π e) : out = (e, V_EQ) := by
  rcases h with ⟨h, _⟩ | ⟨h, _⟩ | ⟨h, _⟩
  · exact h
  · exact absurd h (by have := hf.1; omega)
  · exact absurd h (by have := hf.2; omega)

end PPLV.Checked

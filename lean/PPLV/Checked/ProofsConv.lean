import PPLV.Checked.ProofsExt2
/-!
# C11 proofs: conversions from GMP integers and rationals (`assign_int_mpz`, `assign_int_mpq`)
-/
namespace PPLV.Checked
open Result

theorem assignMpz_tri {t : IntTy} {π : Policy} (hco : π.checkOverflow = true) (dir : Dir) (to0 v : Int) :
    Tri t π dir to0 (assignMpz t π to0 v dir) v := by
  unfold assignMpz
  simp only [hco, Bool.true_and, decide_eq_true_eq]
  split
  · exact tri_neg (by assumption)
  · split
    · exact tri_pos (by omega)
    · exact tri_eq ⟨by omega, by omega⟩

/-- `assign_int_mpq`: conversion of the canonical rational `n / d` -/
theorem assignMpq_okq {t : IntTy} {π : Policy} (w : t.WF π) (hco : π.checkOverflow = true) (dir : Dir)
    {to0 n d : Int} (h0 : t.inRange to0) (hd : 0 < d) :
    OKQ t π dir (assignMpq t π to0 n d dir) (.fin ((n : Rat) / (d : Rat))) := by
  have hz : d ≠ 0 := by omega
  obtain ⟨lo, hi⟩ := tdiv_within_one n hz
  unfold assignMpq
  rcases assignMpz_tri (t := t) (π := π) hco dir to0 (n.tdiv d) with ⟨eq, hf⟩ | ⟨he, eq⟩ | ⟨he, eq⟩
  · rw [eq]
    simp only [bne_self_eq_false, Bool.false_eq_true, if_false]
    by_cases hnr : dir.notRequested = true
    · rw [if_pos hnr]; exact okq_lge w hnr hf _
    rw [if_neg hnr]
    by_cases hm : n.tmod d = 0
    · rw [if_neg (by omega), if_neg (by omega)]; exact okq_exact w hf (tdiv_exact n hz hm)
    -- for a positive divisor the test of `tdiv_round` is the sign of the remainder
    obtain ⟨rl, rg⟩ := tdiv_round n hz hm
    rw [decide_eq_false (show ¬ d < 0 by omega), Bool.bne_false] at rl rg
    by_cases hneg : n.tmod d < 0
    · rw [if_pos hneg]
      obtain ⟨a, b⟩ := rl (decide_eq_true hneg)
      exact roundLt_okq w dir hf b a
    · rw [if_neg hneg, if_pos (by omega)]
      obtain ⟨a, b⟩ := rg (decide_eq_false hneg)
      exact roundGt_okq w dir hf a b
  · -- the truncated quotient is below the range: so is the exact value, less than one above it
    rw [eq]
    simp only [setNegOverflow_ne_eq, if_true]
    exact okq_negOverflow w dir h0 (lt_of_lt_of_le hi (Int.cast_le.mpr (by omega)))
  · rw [eq]
    simp only [setPosOverflow_ne_eq, if_true]
    exact okq_posOverflow w dir h0 (lt_of_le_of_lt (Int.cast_le.mpr (by omega)) lo)

end PPLV.Checked

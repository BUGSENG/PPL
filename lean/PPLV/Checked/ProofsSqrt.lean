import PPLV.Checked.ProofsConv
import Mathlib.Analysis.Real.Sqrt
/-!
# C11 proofs: integer square root (`isqrt_rem`, `sqrt_unsigned_int`, `sqrt_signed_int`, `sqrt_ext`)

`isqrt_rem` is the bitwise (digit-by-digit) square root: `t` runs over the powers of four from
`2^(bits-2)` down to 1; the accumulator `q` holds the root found so far, shifted.  Loop invariant at
level `n` (`t = 4^(n-1)`, or `t = 0` for `n = 0`), with `R` the root found so far:
`q = R·2^n`, `r = x - R²`, `0 ≤ r < 2q + 4^n`, and `q + 4^n ≤ 2^(N+n)` (`bits = 2N`) — the last one
keeps `s = q + t` inside a *signed* `Type` (what /repo 1ff2aae repaired for the accumulator `q`).
At `n = 0`: `q = R = ⌊√x⌋`, `r = x - q²`.

The exact result `√x` is irrational in general: the clauses are stated over `ℝ` (`OKR`, the same
record as `OKQ` with the stored integers cast to `ℝ`).
-/
namespace PPLV.Checked
open Result

/-- the clauses of C11 for an outcome whose exact result is a real number -/
structure OKR (t : IntTy) (π : Policy) (dir : Dir) (out : Int × Result) (exact : Ext ℝ) : Prop where
  holds : K4.holds out.2 ((t.denote π out.1).map (Int.cast : Int → ℝ)) exact
  directed : K4.directed dir out.2 ((t.denote π out.1).map (Int.cast : Int → ℝ)) exact
  overflow : K4.overflowHolds out.2 ((t.emin π : Int) : ℝ) ((t.emax π : Int) : ℝ) exact
  no_wrap : t.inRange out.1
  nan_stored : out.2.cls = .nan → π.hasNan = true → t.isNan π out.1 = true

theorem OKc.toR {t : IntTy} {π : Policy} {dir : Dir} {out : Int × Result} {e : Ext ℝ}
    (h : OKc (Int.cast : Int → ℝ) t π dir out e) : OKR t π dir out e := ⟨h.1, h.2, h.3, h.4, h.5⟩

/-- an integer-valued outcome is an outcome over `ℝ` -/
theorem ok_toR {t : IntTy} {π : Policy} {dir : Dir} {out : Int × Result} {e : Ext Int}
    (h : OK t π dir out e) : OKR t π dir out (e.map Int.cast) := (h.toC Int.cast_strictMono).toR


/-! ## the loop of `isqrt_rem` -/

/-- the value of `t` at level `n`: `0` after the last iteration, else `4^(n-1)` -/
def isqrtT : Nat → Int
  | 0 => 0
  | n + 1 => pow2 (2 * n)

theorem isqrtT_div4 (n : Nat) : isqrtT (n + 1) / 4 = isqrtT n := by
  cases n with
  | zero => decide
  | succ k =>
    show pow2 (2 * (k + 1)) / 4 = pow2 (2 * k)
    have : pow2 (2 * (k + 1)) = 4 * pow2 (2 * k) := by
      rw [show 2 * (k + 1) = (2 * k + 1) + 1 by omega, pow2_succ, pow2_succ]; omega
    rw [this]
    exact Int.mul_ediv_cancel_left _ (by decide)

/-- signed and unsigned `cmax` are at least `2·h² - 1` where `bits = 2N`, `h = 2^(N-1)` -/
theorem cmax_ge_of_even {t : IntTy} {N : Nat} (hN : 1 ≤ N) (hb : t.bits = 2 * N) :
    2 * (pow2 (N - 1) * pow2 (N - 1)) - 1 ≤ t.cmax ∧ t.cmin ≤ 0 := by
  have hh : t.half = 2 * (pow2 (N - 1) * pow2 (N - 1)) := by
    unfold IntTy.half
    rw [hb, show 2 * N - 1 = ((N - 1) + (N - 1)) + 1 by omega, pow2_succ, pow2_add]
  have hp := pow2_pos (N - 1)
  have hpp : 1 ≤ pow2 (N - 1) * pow2 (N - 1) := by nlinarith
  unfold IntTy.cmax IntTy.cmin
  rw [hh]
  cases t.signed <;> simp <;> omega

/-- **Loop invariant of `isqrt_rem`** at a level with `e = 2^n` (`h = 2^(N-1)`), see the header -/
structure IsqrtInv (x h e q r R : Int) : Prop where
  q_eq : q = R * e
  r_eq : r = x - R * R
  r_nonneg : 0 ≤ r
  r_lt : r < 2 * q + e * e
  R_nonneg : 0 ≤ R
  bound : q + e * e ≤ 2 * (h * e)

theorem IsqrtInv.r_le {x h e q r R : Int} (i : IsqrtInv x h e q r R) : r ≤ x := by
  have := Int.mul_nonneg i.R_nonneg i.R_nonneg
  have := i.r_eq
  omega

/-- one iteration, from level `2e` to level `e`: `s = q + e²` is a value of the type (at most `2h² - 1`),
and both branches re-establish the invariant -/
theorem IsqrtInv.step {x h e q r R : Int} (i : IsqrtInv x h (2 * e) q r R) (he : 1 ≤ e) (heh : 2 * e ≤ h ∨ e = h) :
    q / 2 = R * e ∧ 0 ≤ R * e ∧ q + e * e ≤ 2 * (h * h) - 1 ∧
    (q + e * e ≤ r → IsqrtInv x h e (R * e + e * e) (r - (q + e * e)) (R + e)) ∧
    (¬ q + e * e ≤ r → IsqrtInv x h e (R * e) r R) := by
  obtain ⟨hq, hr, h0, hlt, hR, hJ⟩ := i
  -- everything in the monomials `R * e`, `e * e`, `h * e`, `h * h`
  rw [show R * (2 * e) = 2 * (R * e) by ring] at hq
  rw [show 2 * e * (2 * e) = 4 * (e * e) by ring] at hlt hJ
  rw [show h * (2 * e) = 2 * (h * e) by ring] at hJ
  have hRe : 0 ≤ R * e := Int.mul_nonneg hR (by omega)
  have hee : 1 * 1 ≤ e * e := Int.mul_le_mul he he (by decide) (by omega)
  refine ⟨by rw [hq]; exact Int.mul_ediv_cancel_left _ (by decide), hRe, ?_, fun hs => ?_, fun hs => ?_⟩
  · rcases heh with h2 | rfl
    · have := Int.mul_le_mul_of_nonneg_left h2 (show 0 ≤ h by omega)
      rw [show h * (2 * e) = 2 * (h * e) by ring] at this
      omega
    · omega
  · exact ⟨by ring, by rw [hr, hq]; ring, by omega, by omega, by omega, by omega⟩
  · exact ⟨rfl, hr, h0, by omega, hR, by omega⟩

theorem isqrtLoop_spec (ty : IntTy) (N : Nat) (hN : 1 ≤ N) (hb : ty.bits = 2 * N) (x : Int) (hx : x ≤ ty.cmax) :
    ∀ (n fuel : Nat) (q r R : Int), n ≤ N → n ≤ fuel → IsqrtInv x (pow2 (N - 1)) (pow2 n) q r R →
      ∃ R', isqrtLoop ty fuel q r (isqrtT n) = (R', x - R' * R') ∧ 0 ≤ R' ∧ 0 ≤ x - R' * R' ∧ x - R' * R' < 2 * R' + 1 := by
  obtain ⟨hcmax, hcmin⟩ := cmax_ge_of_even hN hb
  intro n
  induction n with
  | zero =>
    intro fuel q r R _ _ i
    obtain ⟨hq, hr, h0, hlt, hR, -⟩ := i
    rw [show pow2 0 = 1 from rfl, Int.mul_one] at hq hlt
    subst hq hr
    refine ⟨q, ?_, hR, h0, by omega⟩
    cases fuel <;> simp [isqrtLoop, isqrtT]
  | succ n ih =>
    intro fuel q r R hnN hfuel i
    obtain ⟨f, rfl⟩ : ∃ f, fuel = f + 1 := ⟨fuel - 1, by omega⟩
    have he := pow2_pos n
    have heh : 2 * pow2 n ≤ pow2 (N - 1) ∨ pow2 n = pow2 (N - 1) := by
      rcases Nat.lt_or_ge (n + 1) N with h | h
      · left; rw [← pow2_succ]; exact pow2_le_pow2 (by omega)
      · right; congr 1; omega
    have htt : isqrtT (n + 1) = pow2 n * pow2 n := by
      show pow2 (2 * n) = _
      rw [show 2 * n = n + n by omega, pow2_add]
    have hrx := i.r_le
    have hr0 := i.r_nonneg
    rw [pow2_succ] at i
    obtain ⟨hq2, hRe, hs1, hset, hclr⟩ := i.step he heh
    generalize pow2 n = e at *
    have hee : 1 * 1 ≤ e * e := Int.mul_le_mul he he (by decide) (by omega)
    have hs_in : ty.inRange (q + e * e) := ⟨by omega, by omega⟩
    unfold isqrtLoop
    have htne : (isqrtT (n + 1) == 0) = false := by rw [htt]; simpa using (by omega : e * e ≠ 0)
    simp only [htne, Bool.false_eq_true, if_false]
    rw [isqrtT_div4, htt, IntTy.wrap_of_inRange hs_in]
    split
    · rename_i hle
      have hq_in : ty.inRange (q / 2 + e * e) := ⟨by omega, by omega⟩
      have hr_in : ty.inRange (r - (q + e * e)) := ⟨by omega, by omega⟩
      rw [IntTy.wrap_of_inRange hq_in, IntTy.wrap_of_inRange hr_in, hq2]
      exact ih f _ _ _ (by omega) (by omega) (hset hle)
    · rename_i hnle
      rw [hq2]
      exact ih f _ _ _ (by omega) (by omega) (hclr hnle)

/-- **`isqrt_rem(q, r, x)` computes `q = ⌊√x⌋`, `r = x - q²`** for every even width, signed or unsigned -/
theorem isqrtRem_spec (t : IntTy) (hev : 2 ∣ t.bits) (hb1 : 1 ≤ t.bits) {x : Int} (h0 : 0 ≤ x) (hx : x ≤ t.cmax) :
    ∃ q, isqrtRem t x = (q, x - q * q) ∧ 0 ≤ q ∧ q * q ≤ x ∧ x < (q + 1) * (q + 1) := by
  obtain ⟨N, hb⟩ := hev
  have hN : 1 ≤ N := by omega
  have hp := pow2_pos N
  have hxlt : x < pow2 N * pow2 N := by
    have : t.cmax ≤ pow2 N * pow2 N - 1 := by
      have hh : t.half = pow2 (N + N - 1) := by unfold IntTy.half; rw [hb]; congr 1; omega
      have h2 : pow2 N * pow2 N = 2 * t.half := by
        rw [hh, ← pow2_add, ← pow2_succ]; congr 1; omega
      have := t.half_pos
      unfold IntTy.cmax
      cases t.signed <;> simp <;> omega
    omega
  obtain ⟨R, h1, h2, h3, h4⟩ := isqrtLoop_spec t N hN hb x hx N t.bits 0 x 0 (Nat.le_refl _) (by omega)
    ⟨by ring, by ring, h0, by linarith, Int.le_refl _, by
      have : pow2 N = 2 * pow2 (N - 1) := by rw [← pow2_succ]; congr 1; omega
      rw [this]; exact le_of_eq (by ring)⟩
  refine ⟨R, ?_, h2, by omega, by rw [show (R + 1) * (R + 1) = R * R + 2 * R + 1 by ring]; omega⟩
  unfold isqrtRem
  have : isqrtT N = pow2 (t.bits - 2) := by
    obtain ⟨k, rfl⟩ : ∃ k, N = k + 1 := ⟨N - 1, by omega⟩
    show pow2 (2 * k) = _
    congr 1; omega
  rw [← this]
  exact h1

/-! ## `sqrt_unsigned_int`, `sqrt_signed_int`, `sqrt_ext` -/

/-- the exact square root of what the operand denotes -/
noncomputable def exactSqrtR : Ext Int → Ext ℝ
  | .nan => .nan | .minf => .nan | .pinf => .pinf
  | .fin x => if x < 0 then .nan else .fin (Real.sqrt x)

theorem sqrtUnsigned_okr {t : IntTy} {π : Policy} (w : t.WF π) (hev : 2 ∣ t.bits) (dir : Dir) {to0 x : Int}
    (hx0 : 0 ≤ x) (hx : t.finite π x) :
    OKR t π dir (sqrtUnsigned t π to0 x dir) (.fin (Real.sqrt x)) := by
  obtain ⟨q, hq, hq0, hle, hlt⟩ := isqrtRem_spec t hev w.bits_pos hx0 (IntTy.finite_inRange hx).2
  have hmm := IntTy.emin_le_emax w
  have hqx : q ≤ x := by nlinarith
  have hqf : t.finite π q := ⟨by linarith [hmm.1], by linarith [hx.2]⟩
  have hxr : (0 : ℝ) ≤ (x : ℝ) := by exact_mod_cast hx0
  have hqr : (0 : ℝ) ≤ (q : ℝ) := by exact_mod_cast hq0
  -- comparisons of √x with q and q + 1
  have hge : (q : ℝ) ≤ Real.sqrt x := by
    rw [Real.le_sqrt hqr hxr, sq]; exact_mod_cast hle
  have hlt1 : Real.sqrt x < ((q + 1 : Int) : ℝ) := by
    rw [Real.sqrt_lt' (by exact_mod_cast (by omega : (0 : Int) < q + 1)), sq]; exact_mod_cast hlt
  unfold sqrtUnsigned
  rw [hq]
  simp only []
  split
  · -- rounding not requested: V_GE
    rename_i hnr
    refine (okc_unrequested w hnr hqf rfl rfl rfl ?_).toR
    rcases lt_or_eq_of_le hge with h | h
    · exact Or.inr (Or.inr ⟨rfl, h⟩)
    · exact Or.inr (Or.inl ⟨rfl, h.symm⟩)
  · split
    · -- remainder 0: exact
      rename_i hr0
      have hxq : (x : ℝ) = (q : ℝ) * (q : ℝ) := by
        exact_mod_cast (show x = q * q by have : x - q * q = 0 := by simpa using hr0
                                          omega)
      exact (okc_exact w hqf (by rw [hxq]; exact Real.sqrt_mul_self hqr)).toR
    · rename_i hr0
      have hr0' : x - q * q ≠ 0 := by simpa using hr0
      have hgt : (q : ℝ) < Real.sqrt x := by
        rw [Real.lt_sqrt hqr, sq]; exact_mod_cast (show q * q < x by omega)
      exact (roundGt_okc w dir hqf hgt hlt1).toR

/-- **`sqrt_assign_r` on native integers**: relation, direction, overflow claim, no wrap, NaN stored — for
every even width, signedness, policy, direction and operand within the contract (a negative operand
is the caller's responsibility unless `check_sqrt_neg`). -/
theorem sqrtExt_okr {t : IntTy} {π : Policy} (w : t.WF π) (hev : 2 ∣ t.bits) (dir : Dir) {to0 x : Int}
    (h0 : t.inRange to0) (hx : t.inRange x)
    (hpre : π.checkSqrtNeg = true ∨ ∀ v, t.denote π x = .fin v → 0 ≤ v) :
    OKR t π dir (sqrtExt t π to0 x dir) (exactSqrtR (t.denote π x)) := by
  unfold sqrtExt
  rcases IntTy.denote_cases w hx with ⟨a, d⟩ | ⟨a, b, c, d⟩ | ⟨a, b, c, d⟩ | ⟨a, b, c, d, f⟩ <;>
    simp only [a, d, exactSqrtR, Bool.false_eq_true, if_true, if_false]
  · exact ok_toR (okNanSpecial w dir h0)
  · simp only [b, if_true]
    exact ok_toR (okNanReason w dir h0 rfl)
  · simp only [b, c, Bool.false_eq_true, if_true, if_false]
    exact ok_toR (okPinf w dir h0)
  · simp only [b, c, Bool.false_eq_true, if_false]
    unfold sqrt sqrtSigned
    by_cases hneg : x < 0
    · -- negative operand: only reachable with check_sqrt_neg (and a signed type)
      have hcs : π.checkSqrtNeg = true := by
        rcases hpre with h | h
        · exact h
        · have := h x d; omega
      have hsg : t.signed = true := by
        cases hs : t.signed
        · have := f.1; unfold IntTy.emin IntTy.cmin at this; simp [hs] at this; omega
        · rfl
      simp only [hsg, hcs, hneg, if_true, Bool.true_and, decide_true]
      exact ok_toR (okNanReason w dir h0 rfl)
    · have hx0 : 0 ≤ x := by omega
      simp only [hneg, if_false]
      have key := sqrtUnsigned_okr w hev dir (to0 := to0) hx0 f
      cases hs : t.signed <;> simp [key]

/-! ## the checker's comparison through squares -/

/-- the real number an `Exact` stands for (`sqrt n d` is the real `√(n/d)`) -/
noncomputable def Exact.toR : Exact → Ext ℝ
  | .nan => .nan | .minf => .minf | .pinf => .pinf
  | .frac n d => .fin ((n : ℝ) / (d : ℝ))
  | .sqrt n d => .fin (Real.sqrt ((n : ℝ) / (d : ℝ)))

theorem exactSqrt_toR (a : Ext Int) : (exactSqrt a).toR = exactSqrtR a := by
  cases a with
  | fin x =>
    simp only [exactSqrt, exactSqrtR]
    split <;> simp [Exact.toR]
  | _ => simp [exactSqrt, exactSqrtR, Exact.toR]

/-- the squares comparison of the checker (`Exact.cmpInt` on `sqrt n 1`) is the comparison of `√n` with the
integer: this is what `pplv_c11` evaluates on the library's output for `sqrt` -/
theorem cmpInt_sqrt_sound {n : Int} (hn : 0 ≤ n) (s : Int) :
    (Exact.sqrt n 1).cmpInt s = some (compare (Real.sqrt n) (s : ℝ)) := by
  have hnr : (0 : ℝ) ≤ (n : ℝ) := by exact_mod_cast hn
  unfold Exact.cmpInt
  by_cases hs : s < 0
  · simp only [hs, if_true]
    have : (s : ℝ) < Real.sqrt n := lt_of_lt_of_le (by exact_mod_cast hs) (Real.sqrt_nonneg _)
    rw [(compare_gt_iff_gt).mpr this]
  · simp only [hs, if_false, Int.mul_one]
    have hs0 : (0 : ℝ) ≤ (s : ℝ) := by exact_mod_cast (by omega : 0 ≤ s)
    congr 1
    rcases lt_trichotomy n (s * s) with h | h | h
    · have h' : Real.sqrt n < s := by
        rw [Real.sqrt_lt hnr hs0]
        have : ((n : Int) : ℝ) < ((s * s : Int) : ℝ) := by exact_mod_cast h
        push_cast at this; nlinarith
      rw [(compare_lt_iff_lt).mpr h, (compare_lt_iff_lt).mpr h']
    · have h' : Real.sqrt n = s := by
        have : (n : ℝ) = (s : ℝ) * (s : ℝ) := by exact_mod_cast h
        rw [this]; exact Real.sqrt_mul_self hs0
      rw [(compare_eq_iff_eq).mpr h, (compare_eq_iff_eq).mpr h']
    · have h' : (s : ℝ) < Real.sqrt n := by
        rw [Real.lt_sqrt hs0]
        have : ((s * s : Int) : ℝ) < ((n : Int) : ℝ) := by exact_mod_cast h
        push_cast at this; nlinarith
      rw [(compare_gt_iff_gt).mpr h, (compare_gt_iff_gt).mpr h']

end PPLV.Checked

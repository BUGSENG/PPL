import PPLV.Lattice.ProofsGridOpsAddDimsCon
import PPLV.Lattice.ProofsGridOpsLazy
import PPLV.Lattice.ProofsGridOpsUpdate
import PPLV.Lattice.ProofsGridOpsAddCongruence
import PPLV.Lattice.ProofsGridOpsAddDims

/-!
# The `Grid` object: `expand_space_dimension`
-/
namespace PPLV.Lattice.GO
open PPLV.Lattice PPLV.Lattice.Red

/-! ## `expand_space_dimension(var, m)` (Grid_chdims.cc:405), row and system level

Every non-tautological congruence of the embedded system whose coefficient of `var` is not zero is repeated with that
coefficient moved to each new dimension (`cn_moved`); the rows are collected by `insert_verbatim` into a fresh system.
-/

/-- a tautological congruence holds everywhere -/
theorem cn_isTautological_rsem (cg : CRow) (h : cg.isTautological = true) (x : Pt) : rsem cg x := by
  unfold CRow.isTautological at h
  rw [Bool.and_eq_true] at h
  have hz : ∀ i, 0 < i → Red.get cg.e i = 0 := by
    intro i hi
    by_cases hl : i < cg.e.length
    · have := h.2
      unfold allZ at this
      rw [List.all_eq_true] at this
      have := this i (by rw [List.mem_range']; exact ⟨i - 1, by omega, by omega⟩)
      simpa using this
    · exact get_of_length_le _ _ (by omega)
  unfold rsem
  rw [evalRow_const cg.e x hz]
  obtain ⟨t, ht⟩ := (cn_const_flag _ _).mp h.1
  exact ⟨t, by exact_mod_cast ht⟩

/-- the congruence with the coefficient of `v` moved to `dst` -/
def cn_moved (v dst : Nat) (cg : CRow) : CRow :=
  { cg with e := (cg.e.set (v + 1) 0).set (dst + 1) (Red.get cg.e (dst + 1) + Red.get cg.e (v + 1)) }

theorem cn_moved_length (v dst : Nat) (cg : CRow) : (cn_moved v dst cg).e.length = cg.e.length := by simp [cn_moved]

theorem cn_rsem_moved (v dst : Nat) (cg : CRow) (hv : v + 1 < cg.e.length) (hd : dst + 1 < cg.e.length) (hne : v ≠ dst)
    (y : Pt) : rsem (cn_moved v dst cg) y ↔ rsem cg (cn_upd y v (y dst)) := by
  have h1 := cn_evalRow_set cg.e y v 0 hv
  have hg : Red.get (cg.e.set (v + 1) 0) (dst + 1) = Red.get cg.e (dst + 1) := by
    rw [get_set, if_neg (by omega)]
  have h2 := cn_evalRow_set (cg.e.set (v + 1) 0) y dst (Red.get cg.e (dst + 1) + Red.get cg.e (v + 1)) (by simpa using hd)
  rw [hg, h1] at h2
  unfold rsem cn_moved
  simp only
  rw [h2, cn_evalRow_upd]
  have : evalRow cg.e y + ((0 : Int) - (Red.get cg.e (v + 1) : ℚ)) * y v +
      (((Red.get cg.e (dst + 1) + Red.get cg.e (v + 1) : Int) : ℚ) - (Red.get cg.e (dst + 1) : ℚ)) * y dst =
      evalRow cg.e y + (Red.get cg.e (v + 1) : ℚ) * (y dst - y v) := by push_cast; ring
  rw [this]

/-! ### the collected system -/

/-- the system `insert_verbatim` builds from rows of dimension `N`, starting from the empty system of dimension 0 -/
def cn_st (N : Nat) (acc : List CRow) : CSys := if acc = [] then { dim := 0, rows := [] } else { dim := N, rows := acc }

theorem cn_st_insert (N : Nat) (acc : List CRow) (cg : CRow) (hl : cg.e.length = N + 1) (hN : 0 < N) :
    (cn_st N acc).insertVerbatim cg = cn_st N (acc ++ [cg]) := by
  have hsd : cg.spaceDim = N := by unfold CRow.spaceDim; omega
  have hr : cn_st N (acc ++ [cg]) = ⟨N, acc ++ [cg]⟩ := by unfold cn_st; rw [if_neg (by simp)]
  rw [hr]
  by_cases ha : acc = []
  · subst ha
    have h0 : cn_st N [] = ⟨0, []⟩ := rfl
    rw [h0]
    unfold CSys.insertVerbatim
    rw [if_pos (show cg.spaceDim ≥ (⟨0, []⟩ : CSys).dim from Nat.zero_le _), hsd]
    unfold CSys.setSpaceDim
    rw [if_pos (show (⟨0, []⟩ : CSys).dim ≠ N from by show 0 ≠ N; omega)]
    rfl
  · have h0 : cn_st N acc = ⟨N, acc⟩ := by unfold cn_st; rw [if_neg ha]
    rw [h0]
    unfold CSys.insertVerbatim
    rw [if_pos (show cg.spaceDim ≥ (⟨N, acc⟩ : CSys).dim from by rw [hsd]), hsd,
      cn_CSys_setSpaceDim_same ⟨N, acc⟩]

theorem cn_st_foldl (N : Nat) (hN : 0 < N) (L : List CRow) : ∀ acc, (∀ r ∈ L, r.e.length = N + 1) →
    L.foldl CSys.insertVerbatim (cn_st N acc) = cn_st N (acc ++ L) := by
  induction L with
  | nil => intro acc _; simp
  | cons r L ih =>
    intro acc h
    rw [List.foldl_cons, cn_st_insert N acc r (h r (List.mem_cons_self ..)) hN,
      ih _ (fun r' hr' => h r' (List.mem_cons_of_mem _ hr'))]
    simp

/-- the rows `expand_space_dimension` adds for one congruence -/
def cn_expandRows (oldDim v m : Nat) (cg : CRow) : List CRow :=
  if Red.get cg.e (v + 1) = 0 then [] else (List.range' oldDim m).map (fun dst => cn_moved v dst cg)

/-- the new system of `expand_space_dimension` -/
def cn_expandCgs (oldDim v m : Nat) (con : List CRow) : CSys :=
  (con.filter fun cg => !cg.isTautological).foldl (fun (s : CSys) cg =>
      let coeff := Red.get cg.e (v + 1)
      if coeff = 0 then s
      else (List.range' oldDim m).foldl (fun (s : CSys) dst =>
        s.insertVerbatim { cg with e := (cg.e.set (v + 1) 0).set (dst + 1) (Red.get cg.e (dst + 1) + coeff) }) s)
      { dim := 0, rows := [] }

theorem cn_expandCgs_eq (N oldDim v m : Nat) (hN : 0 < N) (con : List CRow) (hw : ∀ r ∈ con, r.e.length = N + 1) :
    cn_expandCgs oldDim v m con =
      cn_st N ((con.filter fun cg => !cg.isTautological).flatMap (cn_expandRows oldDim v m)) := by
  unfold cn_expandCgs
  have hw' : ∀ r ∈ con.filter (fun cg => !cg.isTautological), r.e.length = N + 1 :=
    fun r hr => hw r (List.mem_of_mem_filter hr)
  generalize con.filter (fun cg => !cg.isTautological) = F at hw'
  have key : ∀ acc, F.foldl (fun (s : CSys) cg =>
      let coeff := Red.get cg.e (v + 1)
      if coeff = 0 then s
      else (List.range' oldDim m).foldl (fun (s : CSys) dst =>
        s.insertVerbatim { cg with e := (cg.e.set (v + 1) 0).set (dst + 1) (Red.get cg.e (dst + 1) + coeff) }) s)
      (cn_st N acc) = cn_st N (acc ++ F.flatMap (cn_expandRows oldDim v m)) := by
    induction F with
    | nil => intro acc; simp
    | cons cg F ih =>
      intro acc
      rw [List.foldl_cons, List.flatMap_cons]
      have hstep : (let coeff := Red.get cg.e (v + 1)
          if coeff = 0 then cn_st N acc
          else (List.range' oldDim m).foldl (fun (s : CSys) dst =>
            s.insertVerbatim { cg with e := (cg.e.set (v + 1) 0).set (dst + 1) (Red.get cg.e (dst + 1) + coeff) })
            (cn_st N acc)) = cn_st N (acc ++ cn_expandRows oldDim v m cg) := by
        unfold cn_expandRows
        by_cases hc : Red.get cg.e (v + 1) = 0
        · simp only [hc, if_true]; simp
        · simp only [if_neg hc]
          have := cn_st_foldl N hN ((List.range' oldDim m).map (fun dst => cn_moved v dst cg)) acc (fun r hr => by
            obtain ⟨d, _, rfl⟩ := List.mem_map.mp hr
            rw [cn_moved_length]; exact hw' cg (List.mem_cons_self ..))
          rw [List.foldl_map] at this
          exact this
      rw [hstep, ih (fun r hr => hw' r (List.mem_cons_of_mem _ hr)), List.append_assoc]
  have := key []
  simpa [cn_st] using this

/-! ## `expand_space_dimension(var, m)` (Grid_chdims.cc:405) against `g.sem`

The result is `cn_expandSet n v m g.sem`: the points of the `(n+m)`-space whose first `n` coordinates form a point of the
grid and do so again with coordinate `v` replaced by each of the new coordinates (K2: `expandCons`).
The first step is `add_space_dimensions_and_embed` (`addSpaceDimensionsAndEmbed_full`).
-/

/-- `expand_space_dimension`: the embedded grid, and again with coordinate `v` read from each new coordinate -/
def cn_expandSet (n v m : Nat) (S : Set Pt) : Set Pt :=
  {y | y ∈ cn_embedSet n m S ∧ ∀ j, j < m → cn_upd y v (y (n + j)) ∈ cn_embedSet n m S}

/-- the same set in the form "the first `n` coordinates": both `y` and `y[v := y_{n+j}]` restricted to the old space -/
theorem cn_expandSet_iff (n v m : Nat) (S : Set Pt) (hv : v < n) (y : Pt) :
    y ∈ cn_expandSet n v m S ↔ Supp (n + m) y ∧ cn_fst n y ∈ S ∧ ∀ j, j < m → cn_fst n (cn_upd y v (y (n + j))) ∈ S := by
  unfold cn_expandSet cn_embedSet
  simp only [Set.mem_ofPred_eq]
  constructor
  · rintro ⟨⟨h1, h2⟩, h3⟩; exact ⟨h1, h2, fun j hj => (h3 j hj).2⟩
  · rintro ⟨h1, h2, h3⟩; exact ⟨⟨h1, h2⟩, fun j hj => ⟨cn_upd_supp _ _ _ _ (by omega) h1, h3 j hj⟩⟩

theorem cn_expand_eq (g : Grid) (v m : Nat) (hv : v < g.spaceDim) (hm : 0 < m) :
    expandSpaceDimension g v m =
      addRecycledCongruences (congruences (addSpaceDimensionsAndEmbed g m))
        (cn_expandCgs g.spaceDim v m (congruences (addSpaceDimensionsAndEmbed g m)).con) := by
  unfold expandSpaceDimension
  rw [if_neg (by omega), if_neg (by omega)]
  rfl

theorem cn_expand_thrown (g : Grid) (v m : Nat) (h : g.spaceDim < v + 1) :
    (expandSpaceDimension g v m).thrown = true ∧ (expandSpaceDimension g v m).g = g := by
  unfold expandSpaceDimension; rw [if_pos (by omega)]; exact ⟨rfl, rfl⟩

theorem cn_expand_zero (g : Grid) (v : Nat) (h : v < g.spaceDim) :
    (expandSpaceDimension g v 0).thrown = false ∧ (expandSpaceDimension g v 0).g = g := by
  unfold expandSpaceDimension; rw [if_neg (by omega), if_pos rfl]; exact ⟨rfl, rfl⟩

/-- the semantic core: cutting the solutions of `con` by the moved rows -/
theorem cn_expand_sem (n v m : Nat) (hv : v < n) (con : List CRow) (hw : CWf (n + m) con) :
    consSet (n + m) con ∩
        cn_rowsSet ((con.filter fun cg => !cg.isTautological).flatMap (cn_expandRows n v m)) =
      {y | y ∈ consSet (n + m) con ∧ ∀ j, j < m → cn_upd y v (y (n + j)) ∈ consSet (n + m) con} := by
  ext y
  simp only [Set.mem_inter_iff, Set.mem_ofPred_eq, cn_rowsSet, cn_mem_consSet, cn_mem_set, List.mem_flatMap, List.mem_filter]
  constructor
  · rintro ⟨⟨hy, hall⟩, hins⟩
    refine ⟨⟨hy, hall⟩, fun j hj => ⟨cn_upd_supp _ _ _ _ (by omega) hy, fun cg hcg => ?_⟩⟩
    by_cases ht : cg.isTautological = true
    · exact cn_isTautological_rsem cg ht _
    · by_cases hc : Red.get cg.e (v + 1) = 0
      · have := hall cg hcg
        unfold rsem at this ⊢
        rw [cn_evalRow_upd, hc]; simpa using this
      · have hl := (hw cg hcg).1
        rw [← cn_rsem_moved v (n + j) cg (by omega) (by omega) (by omega) y]
        refine hins _ ⟨cg, ⟨hcg, by simpa using ht⟩, ?_⟩
        unfold cn_expandRows
        rw [if_neg hc]
        exact List.mem_map.mpr ⟨n + j, by rw [List.mem_range']; exact ⟨j, hj, by omega⟩, rfl⟩
  · rintro ⟨⟨hy, hall⟩, hupd⟩
    refine ⟨⟨hy, hall⟩, ?_⟩
    rintro r' ⟨cg, ⟨hcg, _⟩, hr'⟩
    unfold cn_expandRows at hr'
    by_cases hc : Red.get cg.e (v + 1) = 0
    · rw [if_pos hc] at hr'; cases hr'
    · rw [if_neg hc] at hr'
      obtain ⟨dst, hdst, rfl⟩ := List.mem_map.mp hr'
      rw [List.mem_range'] at hdst
      obtain ⟨j, hj, rfl⟩ := hdst
      have hl := (hw cg hcg).1
      rw [cn_rsem_moved v (n + 1 * j) cg (by omega) (by omega) (by omega) y]
      have := (hupd j hj).2 cg hcg
      rwa [show n + 1 * j = n + j by omega]

/-- Grid_chdims.cc:405 `expand_space_dimension(var, m)`, `m > 0`, `var` in the space -/
theorem cn_expandSpaceDimension_pos (g : Grid) (v m : Nat) (hI : GridInv g) (hv : v < g.spaceDim) (hm : 0 < m) :
    (expandSpaceDimension g v m).thrown = false ∧ GridInv (expandSpaceDimension g v m).g ∧
      (expandSpaceDimension g v m).g.spaceDim = g.spaceDim + m ∧
      (expandSpaceDimension g v m).g.sem = cn_expandSet g.spaceDim v m g.sem := by
  obtain ⟨hE1, hE2, hE3⟩ := addSpaceDimensionsAndEmbed_full g m hI
  obtain ⟨c1, c2, c3, c4, c5, _, _⟩ := congruences_spec _ hE1
  rw [cn_expand_eq g v m hv hm]
  generalize congruences (addSpaceDimensionsAndEmbed g m) = g1 at c1 c2 c3 c4 c5 ⊢
  have hd1 : g1.spaceDim = g.spaceDim + m := c3.trans hE3
  have hs1 : g1.sem = cn_embedSet g.spaceDim m g.sem := c2.trans hE2
  have hpos1 : 0 < g1.spaceDim := by omega
  -- the rows of `g1.con` have the size of the new space in either state
  have hcw : CWf (g.spaceDim + m) g1.con := by
    by_cases he : g1.st.empty = true
    · obtain ⟨_, _, _, _, hcon⟩ := c1.emp he
      rw [hcon, falseCSys_rows, hd1]
      intro r hr
      rw [List.mem_singleton] at hr; subst hr
      exact ⟨by simp, le_refl _⟩
    · have he' : g1.st.empty = false := by simpa using he
      have := (c1.cwf he' hpos1 (c5 (by rw [← c4]; exact he') (by rw [← c3]; exact hpos1))).2
      rwa [hd1] at this
  have hNpos : 0 < g.spaceDim + m := by omega
  have hnew := cn_expandCgs_eq (g.spaceDim + m) g.spaceDim v m hNpos g1.con (fun r hr => (hcw r hr).1)
  generalize hall : (g1.con.filter fun cg => !cg.isTautological).flatMap (cn_expandRows g.spaceDim v m) = allIns at hnew
  have hrows : (cn_st (g.spaceDim + m) allIns).rows = allIns := by
    unfold cn_st; split
    · rename_i h; rw [h]
    · rfl
  have hdim : (cn_st (g.spaceDim + m) allIns).dim ≤ g1.spaceDim := by
    unfold cn_st; split
    · exact Nat.zero_le _
    · rw [hd1]
  have hinsw : ∀ r ∈ allIns, r.e.length = g.spaceDim + m + 1 ∧ 0 ≤ r.m := by
    intro r hr
    rw [← hall] at hr
    obtain ⟨cg, hcg, hr'⟩ := List.mem_flatMap.mp hr
    have hcg' := hcw cg (List.mem_of_mem_filter hcg)
    unfold cn_expandRows at hr'
    split at hr'
    · cases hr'
    · obtain ⟨d, _, rfl⟩ := List.mem_map.mp hr'
      exact ⟨by rw [cn_moved_length]; exact hcg'.1, hcg'.2⟩
  have hwnew : CWf (cn_st (g.spaceDim + m) allIns).dim (cn_st (g.spaceDim + m) allIns).rows := by
    unfold cn_st; split
    · intro r hr; cases hr
    · exact hinsw
  rw [hnew]
  obtain ⟨a1, _, _, a4⟩ := cn_addRecycledCongruences g1 _ c1 hwnew
  have hnt : (addRecycledCongruences g1 (cn_st (g.spaceDim + m) allIns)).thrown = false := by
    by_contra h
    have := a1.mp (by simpa using h)
    omega
  obtain ⟨b1, b2, b3⟩ := a4 hnt
  refine ⟨hnt, b1, b3.trans hd1, ?_⟩
  rw [b2, hrows]
  by_cases he : g1.st.empty = true
  · have h0 : g1.sem = ∅ := sem_of_empty he
    rw [h0, Set.empty_inter]
    rw [h0] at hs1
    ext y
    simp only [Set.mem_empty_iff_false, false_iff]
    intro hy
    have := hy.1
    rw [← hs1] at this; exact this
  · have he' : g1.st.empty = false := by simpa using he
    have hcu : g1.st.cUp = true := c5 (by rw [← c4]; exact he') (by rw [← c3]; exact hpos1)
    have hsc : g1.sem = consSet (g.spaceDim + m) g1.con := by rw [sem_of_cUp c1 he' hpos1 hcu, hd1]
    have := cn_expand_sem g.spaceDim v m hv g1.con hcw
    rw [hall] at this
    rw [hsc, this]
    unfold cn_expandSet
    rw [← hs1, hsc]

theorem cn_expandSpaceDimension_con (g : Grid) (v m : Nat) (hI : GridInv g) (hv : v < g.spaceDim) (hm : 0 < m)
    (hg : g.st.gUp = false) :
    (expandSpaceDimension g v m).thrown = false ∧ GridInv (expandSpaceDimension g v m).g ∧
      (expandSpaceDimension g v m).g.spaceDim = g.spaceDim + m ∧
      (expandSpaceDimension g v m).g.sem = cn_expandSet g.spaceDim v m g.sem :=
  cn_expandSpaceDimension_pos g v m hI hv hm

/-- `{x ≡ 0 (mod 2)}` expanded by one dimension: `y₀ ≡ 0`, `y₁ ≡ 0 (mod 2)` -/
example : (expandSpaceDimension cn_exGrid 0 1).g.con = [{ e := [0, 1, 0], m := 2 }, { e := [0, 0, 1], m := 2 }] ∧
    (expandSpaceDimension cn_exGrid 1 1).thrown = true := by decide

/-! ## `expand_space_dimension(var, m)` on every invariant state -/

/-- Grid_chdims.cc:405 `expand_space_dimension(var, m)`: throws exactly when `var` is not a dimension of the grid (object
    unchanged); `m = 0` changes nothing; otherwise the grid becomes `cn_expandSet n var m g.sem` in dimension `n + m` -/
theorem cn_expandSpaceDimension (g : Grid) (v m : Nat) (hI : GridInv g) :
    ((expandSpaceDimension g v m).thrown = true ↔ g.spaceDim < v + 1) ∧
    ((expandSpaceDimension g v m).thrown = true → (expandSpaceDimension g v m).g = g) ∧
    (v < g.spaceDim → m = 0 → (expandSpaceDimension g v m).g = g) ∧
    (v < g.spaceDim → 0 < m → GridInv (expandSpaceDimension g v m).g ∧
      (expandSpaceDimension g v m).g.spaceDim = g.spaceDim + m ∧
      (expandSpaceDimension g v m).g.sem = cn_expandSet g.spaceDim v m g.sem) := by
  by_cases hv : g.spaceDim < v + 1
  · obtain ⟨a, b⟩ := cn_expand_thrown g v m hv
    exact ⟨⟨fun _ => hv, fun _ => a⟩, fun _ => b, (fun h => by omega), (fun h => by omega)⟩
  · have hv' : v < g.spaceDim := by omega
    by_cases hm : m = 0
    · subst hm
      obtain ⟨a, b⟩ := cn_expand_zero g v hv'
      exact ⟨⟨(fun h => by rw [a] at h; cases h), fun h => absurd h hv⟩, fun _ => b, fun _ _ => b, (fun _ h => by omega)⟩
    · obtain ⟨a, b, c, d⟩ := cn_expandSpaceDimension_pos g v m hI hv' (by omega)
      exact ⟨⟨(fun h => by rw [a] at h; cases h), fun h => absurd h hv⟩, (fun h => by rw [a] at h; cases h),
        fun _ h => absurd h hm, fun _ _ => ⟨b, c, d⟩⟩

end PPLV.Lattice.GO

import PPLV.Lattice.ProofsVec
import PPLV.Lattice.ProofsArith

/-!
# K2: `intersectCon` computes the intersection with a congruence; `consToGens`
-/
namespace PPLV.Lattice
open List

theorem cg_sem_iff (c : Cg) (x : Pt) : c.sem x ↔ Abs.SatCg (alphaOf c.a) c.b c.f x := Iff.rfl

/-! ### unimodular step -/

theorem combine_spec (a q1 q2 : Vec) (h1 : dot a q1 ≠ 0) (L : List Vec) :
    let uv := combine q1 q2 (dot a q1) (dot a q2)
    dot a uv.1 ≠ 0 ∧ dot a uv.2 = 0 ∧ ∀ v, GDir [q1, q2] L v ↔ GDir [uv.1, uv.2] L v := by
  intro uv
  obtain ⟨hu, hv, hdet⟩ := combineCoef_spec (dot a q1) (dot a q2) h1
  set k := combineCoef (dot a q1) (dot a q2) with hk
  have eu : uv.1.toFun = (k.1 : Rat) • q1.toFun + (k.2.1 : Rat) • q2.toFun := by
    simp [uv, combine, toFun_vadd, toFun_vsmul, ← hk]
  have ev : uv.2.toFun = (k.2.2.1 : Rat) • q1.toFun + (k.2.2.2 : Rat) • q2.toFun := by
    simp [uv, combine, toFun_vadd, toFun_vsmul, ← hk]
  refine ⟨?_, ?_, fun v => ?_⟩
  · rwa [dot_eq_dotF, eu, dotF_add, dotF_smul, dotF_smul, ← dot_eq_dotF, ← dot_eq_dotF]
  · rwa [dot_eq_dotF, ev, dotF_add, dotF_smul, dotF_smul, ← dot_eq_dotF, ← dot_eq_dotF]
  · unfold GDir
    simp only [List.map_cons, List.map_nil, eu, ev]
    exact Abs.Dir.pair_congr _ _ _ _ _ _ hdet v

/-! ### reduction of the parameters -/

theorem reduceParams_spec (a : Vec) (qs : List Vec) (L : List Vec) :
    (∀ v, GDir qs L v ↔ GDir ((reduceParams a qs).1.toList ++ (reduceParams a qs).2) L v) ∧
    (∀ q ∈ (reduceParams a qs).2, dot a q = 0) ∧
    (∀ q, (reduceParams a qs).1 = some q → dot a q ≠ 0) := by
  induction qs with
  | nil => simp [reduceParams]
  | cons q qs ih =>
    obtain ⟨ih1, ih2, ih3⟩ := ih
    have hcons : ∀ v, GDir (q :: qs) L v ↔
        GDir (q :: ((reduceParams a qs).1.toList ++ (reduceParams a qs).2)) L v :=
      GDir.append_congr (A := [q]) (fun _ => Iff.rfl) ih1
    by_cases hq : dot a q = 0
    · simp only [reduceParams, hq, if_true]
      exact ⟨fun v => (hcons v).trans (GDir.congr_mem (fun _ => List.perm_middle.symm.mem_iff) v),
        List.forall_mem_cons.mpr ⟨hq, ih2⟩, ih3⟩
    · cases hcar : (reduceParams a qs).1 with
      | none =>
        simp only [reduceParams, hq, if_false, hcar]
        rw [hcar] at hcons
        exact ⟨hcons, ih2, fun r hr => Option.some.inj hr ▸ hq⟩
      | some q1 =>
        simp only [reduceParams, hq, if_false, hcar]
        rw [hcar] at hcons
        obtain ⟨cu, cv, d⟩ := combine_spec a q1 q (ih3 q1 hcar) L
        refine ⟨fun v => ?_, List.forall_mem_cons.mpr ⟨cv, ih2⟩, fun r hr => Option.some.inj hr ▸ cu⟩
        -- `q :: q1 :: ker` and `[q1, q] ++ ker` have the same members
        exact ((hcons v).trans (GDir.congr_mem (fun _ => (List.Perm.swap q1 q _).mem_iff) v)).trans
          (GDir.append_congr (A := [q1, q]) d (fun _ => Iff.rfl) v)

/-! ### line case -/

theorem lineCase_spec (g : Gens) (c : Cg) (l0 : Vec) (hl0 : l0 ∈ g.lines) (hβ : dot c.a l0 ≠ 0) (x : Pt) :
    (lineCase g c l0 (dot c.a l0)).Mem x ↔ g.Mem x ∧ c.sem x := by
  have hβ' : alphaOf c.a l0.toFun ≠ 0 := by rw [alphaOf_toFun]; exact hβ
  rw [cg_sem_iff, mem_iff_abs g,
    ← Abs.lineCase_spec (alphaOf c.a) c.b c.f l0.toFun hβ' (toAbs g) (List.mem_map_of_mem hl0) x]
  -- the executable result and the abstract one differ by zero vectors only
  have hproj : ∀ v : Vec, (projLin c.a l0 (dot c.a l0) v).toFun = Abs.projLin (alphaOf c.a) l0.toFun v.toFun := by
    intro v
    simp [projLin, Abs.projLin, toFun_vsub, toFun_vsmul, ← dot_eq_dotF]
  rw [mem_iff_abs, Abs.mem_iff_dir, Abs.mem_iff_dir]
  have hpt : (toAbs (lineCase g c l0 (dot c.a l0))).pt = (Abs.lineCase (alphaOf c.a) c.b c.f l0.toFun (toAbs g)).pt := by
    simp [toAbs, lineCase, Abs.lineCase, Abs.projAff, toFun_vsub, toFun_vsmul, ← dot_eq_dotF]
  rw [hpt]
  have hd := gdir_dropZero (g.params.map (projLin c.a l0 (dot c.a l0)) ++ (if c.f = 0 then [] else [vsmul (c.f / dot c.a l0) l0]))
    (g.lines.map (projLin c.a l0 (dot c.a l0)))
  have e1 : (toAbs (lineCase g c l0 (dot c.a l0))).params = (dropZero (g.params.map (projLin c.a l0 (dot c.a l0)) ++ (if c.f = 0 then [] else [vsmul (c.f / dot c.a l0) l0]))).map Vec.toFun := rfl
  have e2 : (toAbs (lineCase g c l0 (dot c.a l0))).lines = (dropZero (g.lines.map (projLin c.a l0 (dot c.a l0)))).map Vec.toFun := rfl
  rw [e1, e2]
  have hd' := hd (x - (Abs.lineCase (alphaOf c.a) c.b c.f l0.toFun (toAbs g)).pt)
  unfold GDir at hd'
  rw [hd']
  have e3 : (g.params.map (projLin c.a l0 (dot c.a l0)) ++ (if c.f = 0 then [] else [vsmul (c.f / dot c.a l0) l0])).map Vec.toFun
      = (Abs.lineCase (alphaOf c.a) c.b c.f l0.toFun (toAbs g)).params := by
    simp only [Abs.lineCase, toAbs, List.map_append, List.map_map]
    congr 1
    · apply List.map_congr_left; intro v _; exact hproj v
    · split <;> simp [toFun_vsmul, ← dot_eq_dotF]
  have e4 : (g.lines.map (projLin c.a l0 (dot c.a l0))).map Vec.toFun
      = (Abs.lineCase (alphaOf c.a) c.b c.f l0.toFun (toAbs g)).lines := by
    simp only [Abs.lineCase, toAbs, List.map_map]
    apply List.map_congr_left; intro v _; exact hproj v
  rw [e3, e4]

/-! ### parameter case -/

theorem paramCase_spec (g : Gens) (c : Cg) (hlines : ∀ l ∈ g.lines, dot c.a l = 0) (x : Pt) :
    Gen.sem (paramCase g c) x ↔ g.Mem x ∧ c.sem x := by
  obtain ⟨r1, r2, r3⟩ := reduceParams_spec c.a g.params g.lines
  have hL : ∀ l ∈ g.lines.map Vec.toFun, alphaOf c.a l = 0 := by
    intro l hl; obtain ⟨w, hw, rfl⟩ := List.mem_map.mp hl; rw [alphaOf_toFun]; exact hlines w hw
  have hK : ∀ r ∈ (reduceParams c.a g.params).2.map Vec.toFun, alphaOf c.a r = 0 := by
    intro l hl; obtain ⟨w, hw, rfl⟩ := List.mem_map.mp hl; rw [alphaOf_toFun]; exact r2 w hw
  -- g with reduced parameters
  have hg' : g.Mem x ↔ Gens.Mem { g with params := (reduceParams c.a g.params).1.toList ++ (reduceParams c.a g.params).2 } x :=
    mem_congr_dir g { g with params := (reduceParams c.a g.params).1.toList ++ (reduceParams c.a g.params).2 } rfl r1 x
  unfold paramCase
  simp only
  cases hcar : (reduceParams c.a g.params).1 with
  | none =>
    have hsplit : reduceParams c.a g.params = (none, (reduceParams c.a g.params).2) := by
      rw [← hcar]
    rw [hsplit]
    simp only
    rw [hcar] at hg'
    simp only [Option.toList_none, List.nil_append] at hg'
    -- α is constant on the grid
    have hconst : ∀ y, Gens.Mem { g with params := (reduceParams c.a g.params).2 } y →
        dotF c.a y + c.b = dot c.a g.pt + c.b := by
      intro y hy
      rw [mem_iff_gdir] at hy
      have := Abs.alpha_dir_zero (alphaOf c.a) _ _ hL hK hy
      simp only [map_sub, alphaOf_apply] at this
      rw [dot_eq_dotF]; linarith
    by_cases hin : inModZ (dot c.a g.pt + c.b) c.f = true
    · simp only [hin, if_true, Gen.sem]
      rw [hg']
      constructor
      · intro h
        refine ⟨h, ?_⟩
        obtain ⟨t, ht⟩ := (inModZ_iff _ _).mp hin
        exact ⟨t, by rw [hconst x h]; exact ht⟩
      · exact fun h => h.1
    · simp only [hin, Gen.sem]
      constructor
      · exact False.elim
      · rintro ⟨h1, t, ht⟩
        apply hin
        rw [inModZ_iff]
        exact ⟨t, by rw [← hconst x (hg'.mp h1)]; exact ht⟩
  | some qs =>
    have hsplit : reduceParams c.a g.params = (some qs, (reduceParams c.a g.params).2) := by
      rw [← hcar]
    rw [hsplit]
    simp only
    rw [hcar] at hg'
    simp only [Option.toList_some, List.singleton_append] at hg'
    have hrs : dot c.a qs ≠ 0 := r3 qs hcar
    set ker := (reduceParams c.a g.params).2 with hker
    cases hsol : solveCg (dot c.a g.pt + c.b) (dot c.a qs) c.f with
    | none =>
      simp only [Gen.sem]
      constructor
      · exact False.elim
      · rintro ⟨h1, t, ht⟩
        have h1' := hg'.mp h1
        rw [mem_iff_gdir] at h1'
        obtain ⟨k, hk⟩ := Abs.alpha_dir_one (alphaOf c.a) qs.toFun (ker.map Vec.toFun) _ hL hK h1'
        simp only [map_sub, alphaOf_apply, ← dot_eq_dotF] at hk
        refine solveCg_none _ _ _ hsol k ⟨t, ?_⟩
        rw [← ht]; linarith
    | some km =>
      obtain ⟨k0, m⟩ := km
      obtain ⟨⟨T0, hT0⟩, ⟨T1, hT1⟩, hmin⟩ := solveCg_some _ _ _ hrs k0 m hsol
      simp only [Gen.sem]
      have key := Abs.reducedCase_spec (alphaOf c.a) c.b c.f g.pt.toFun qs.toFun (ker.map Vec.toFun)
        (g.lines.map Vec.toFun) k0 m hL hK
        ⟨T0, by simp only [map_add, map_smul, alphaOf_apply, smul_eq_mul, ← dot_eq_dotF]; rw [← hT0]; ring⟩
        ⟨T1, by simp only [alphaOf_apply, ← dot_eq_dotF]; exact hT1⟩
        (by intro k ⟨T, hT⟩; exact hmin k ⟨T, by simpa only [alphaOf_apply, ← dot_eq_dotF] using hT⟩) x
      rw [hg', cg_sem_iff, mem_iff_abs { g with params := qs :: ker }]
      have e0 : toAbs { g with params := qs :: ker } = ⟨g.pt.toFun, qs.toFun :: ker.map Vec.toFun, g.lines.map Vec.toFun⟩ := rfl
      rw [e0, ← key]
      rw [mem_iff_abs, Abs.mem_iff_dir, Abs.mem_iff_dir]
      simp only [toAbs, toFun_vaxpy]
      by_cases hm0 : m = 0
      · simp only [hm0, if_true, Int.cast_zero, zero_smul]
        exact ⟨Abs.Dir.mono_subset (fun _ => List.mem_cons_of_mem _) fun _ => id,
          Abs.Dir.mono_subset0 (fun _ hq => List.mem_cons.mp hq) fun _ => Or.inr⟩
      · simp only [hm0, if_false, List.map_cons, toFun_vsmul]

/-! ### the core theorem -/

theorem intersectCon_sem (G : GridGens) (c : Cg) (x : Pt) :
    Gen.sem (intersectCon G c) x ↔ Gen.sem G x ∧ c.sem x := by
  cases G with
  | empty => simp [intersectCon, Gen.sem]
  | gens g =>
    simp only [intersectCon]
    cases hf : g.lines.find? (fun l => dot c.a l != 0) with
    | some l0 =>
      have h2 := List.find?_some hf
      simp only [bne_iff_ne, ne_eq] at h2
      exact lineCase_spec g c l0 (List.mem_of_find?_eq_some hf) h2 x
    | none =>
      simp only
      refine paramCase_spec g c ?_ x
      intro l hl
      have := List.find?_eq_none.mp hf l hl
      simpa using this

theorem intersectCons_sem (G : GridGens) (cs : List Cg) (x : Pt) :
    Gen.sem (intersectCons G cs) x ↔ Gen.sem G x ∧ ∀ c ∈ cs, c.sem x := by
  induction cs generalizing G with
  | nil => simp [intersectCons]
  | cons c cs ih =>
    simp only [intersectCons, List.foldl_cons] at ih ⊢
    rw [ih, intersectCon_sem]
    simp only [List.mem_cons, forall_eq_or_imp]
    tauto

/-! ### the universe and `consToGens` -/

theorem univ_sem (n : Nat) (x : Pt) : Gen.sem (univ n) x ↔ Supp n x := by
  simp only [univ, Gen.sem]
  constructor
  · refine fun h => mem_supp _ n ?_ x h
    simp only [Gens.maxLen, List.length_nil, maxLenL, List.foldr_nil, Nat.max_le, Nat.zero_le, true_and]
    refine (maxLenL_le_iff _ n).mpr fun v hv => ?_
    obtain ⟨i, hi, rfl⟩ := List.mem_map.mp hv
    rw [length_unit]; exact List.mem_range.mp hi
  · intro h
    -- x = Σ_{i<n} x i • e_i, built by induction on a prefix
    have build : ∀ m, m ≤ n → Gens.Mem { pt := [], params := [], lines := (List.range n).map unit }
        (fun i => if i < m then x i else 0) := by
      intro m
      induction m with
      | zero =>
        intro _
        have : (fun i => if i < 0 then x i else 0) = Vec.toFun [] := by funext i; simp
        rw [this]; exact Gens.Mem.pt
      | succ m ih =>
        intro hm
        have h1 := ih (by omega)
        have : (fun i => if i < m + 1 then x i else 0) = Pt.axpy (fun i => if i < m then x i else 0) (x m) (unit m).toFun := by
          funext i
          simp only [Pt.axpy, toFun_unit]
          by_cases h1 : i < m
          · have : i ≠ m := by omega
            simp [h1, this, show i < m + 1 by omega]
          · by_cases h2 : i = m
            · simp [h2]
            · simp [h1, h2, show ¬ i < m + 1 by omega]
        rw [this]
        exact Gens.Mem.line (x m) (List.mem_map.mpr ⟨m, List.mem_range.mpr (by omega), rfl⟩) h1
    have := build n (le_refl n)
    have e : (fun i => if i < n then x i else 0) = x := by
      funext i
      by_cases hi : i < n
      · simp [hi]
      · simp [hi, h i (by omega)]
    rwa [e] at this

theorem consToGens_sem (n : Nat) (cs : List Cg) (x : Pt) :
    Gen.sem (consToGens n cs) x ↔ CgSys.sem n cs x := by
  simp only [consToGens, intersectCons_sem, univ_sem, CgSys.sem]

end PPLV.Lattice

import PPLV.Lattice.ProofsConvGCBase

/-!
# `Grid::conversion` (generators → congruences): the triangular source, the counting loop, the initial `dest`
-/
namespace PPLV.Lattice.Red

/-- entry `k` of source row `j` -/
def sEnt (source : List GRow) (j k : Nat) : Int := get (rowAt source j).e k

/-- what `upper_triangular(source, dim_kinds)` gives: one row per non-virtual dimension, in the order of the
    dimensions; positive diagonal, zeros before it -/
structure SrcOK (dims : Nat) (source : List GRow) (dk : List Nat) : Prop where
  len : source.length = nv dk dims
  diag : ∀ d, d < dims → nvB dk d = true → 0 < sEnt source (nv dk d) d
  zeros : ∀ d, d < dims → nvB dk d = true → ∀ k, k < d → sEnt source (nv dk d) k = 0

/-! ### `upper_triangular` -/

def utStep (sys : List GRow) (dk : List Nat) (st : Nat × Bool) (dim : Nat) : Nat × Bool :=
  if !st.2 then st
  else if kind dk dim = GEN_VIRTUAL then st
  else if st.1 = 0 then (0, false)
  else
    let gen := rowAt sys (st.1 - 1)
    if get gen.e dim ≤ 0 then (st.1 - 1, false)
    else if !allZeroes gen.e 0 dim then (st.1 - 1, false)
    else (st.1 - 1, true)

theorem gc_upperTriangular_eq (n : Nat) (sys : List GRow) (dk : List Nat) :
    upperTriangular n sys dk =
      (if sys.length > n + 1 then false
       else
        let r := (dimsDown (n + 1)).foldl (utStep sys dk) (sys.length, true)
        r.2 && r.1 == 0) := rfl

theorem upperTriangular_spec (n : Nat) (source : List GRow) (dk : List Nat) (h : upperTriangular n source dk = true) :
    SrcOK (n + 1) source dk := by
  rw [gc_upperTriangular_eq] at h
  split at h
  · exact absurd h (by simp)
  · have key := foldl_dimsDown_inv (utStep source dk)
      (fun d st => st.2 = true → (st.1 + nv dk (n + 1) = source.length + nv dk d) ∧
        ∀ d', d ≤ d' → d' < n + 1 → nvB dk d' = true →
          0 < sEnt source (source.length + nv dk d' - nv dk (n + 1)) d' ∧
          ∀ k, k < d' → sEnt source (source.length + nv dk d' - nv dk (n + 1)) k = 0)
      (n + 1) (source.length, true) ?_ ?_
    · simp only [Bool.and_eq_true, beq_iff_eq] at h
      obtain ⟨h1, h2⟩ := key h.1
      rw [h.2] at h1
      have hz : nv dk 0 = 0 := rfl
      rw [hz] at h1
      have hlen : source.length = nv dk (n + 1) := by omega
      refine ⟨hlen, ?_, ?_⟩
      · intro d hd hv
        have := (h2 d (Nat.zero_le _) hd hv).1
        rwa [show source.length + nv dk d - nv dk (n + 1) = nv dk d by omega] at this
      · intro d hd hv
        have := (h2 d (Nat.zero_le _) hd hv).2
        rwa [show source.length + nv dk d - nv dk (n + 1) = nv dk d by omega] at this
    · intro _
      exact ⟨rfl, fun d' h1 h2 => by omega⟩
    · intro d st hd ih
      unfold utStep
      by_cases hok : st.2 = true
      · obtain ⟨ih1, ih2⟩ := ih hok
        simp only [hok, Bool.not_true, Bool.false_eq_true, if_false]
        by_cases hk : kind dk d = GEN_VIRTUAL
        · simp only [hk, if_true]
          intro _
          have hv : nvB dk d = false := by simp [nvB, hk]
          refine ⟨ih1.trans (congrArg (source.length + ·) (cntBelow_succ_neg _ d hv)), ?_⟩
          intro d' h1 h2 h3
          by_cases hdd : d' = d
          · subst hdd; rw [hv] at h3; exact absurd h3 (by simp)
          · exact ih2 d' (by omega) h2 h3
        · have hv : nvB dk d = true := by simp [nvB, hk]
          have e : nv dk (d + 1) = nv dk d + 1 := cntBelow_succ_pos (nvB dk) d hv
          rw [e] at ih1
          simp only [hk, if_false]
          by_cases h0 : st.1 = 0
          · rw [if_pos h0]; exact fun hc => absurd hc Bool.false_ne_true
          · simp only [h0, if_false]
            by_cases hdiag : get (rowAt source (st.1 - 1)).e d ≤ 0
            · rw [if_pos hdiag]; exact fun hc => absurd hc Bool.false_ne_true
            · by_cases hz : allZeroes (rowAt source (st.1 - 1)).e 0 d = true
              · simp only [hdiag, if_false, hz, Bool.not_true, Bool.false_eq_true]
                intro _
                refine ⟨by omega, ?_⟩
                intro d' h1 h2 h3
                by_cases hdd : d' = d
                · subst hdd
                  have hidx : source.length + nv dk d' - nv dk (n + 1) = st.1 - 1 := by omega
                  rw [hidx]
                  refine ⟨by simp only [sEnt]; omega, ?_⟩
                  intro k hk'
                  exact (allZeroes_iff _ 0 d').mp hz k (Nat.zero_le _) hk'
                · exact ih2 d' (by omega) h2 h3
              · rw [if_neg hdiag, if_pos (by simpa using hz)]; exact fun hc => absurd hc Bool.false_ne_true
      · have : st.2 = false := by simpa using hok
        intro hc
        simp only [this, Bool.not_false, if_true] at hc
        exact absurd hc Bool.false_ne_true

/-! ### the counting loop -/

def gcCountStep (source : List GRow) (dk : List Nat) (st : Nat × Nat × Int) (dim : Nat) : Nat × Nat × Int :=
  if kind dk dim = GEN_VIRTUAL then (st.1, st.2.1 + 1, st.2.2)
  else
    let si := st.1 - 1
    if kind dk dim = PARAMETER then (si, st.2.1 + 1, lcmI st.2.2 (get (rowAt source si).e dim))
    else (si, st.2.1, st.2.2)

theorem gcCount_eq (source : List GRow) (dk : List Nat) (dims : Nat) :
    gcCount source dk dims = (dimsDown dims).foldl (gcCountStep source dk) (source.length, 0, 1) := rfl

theorem gcCount_spec (source : List GRow) (dk : List Nat) (dims : Nat) (hs : SrcOK dims source dk)
    (hk : ∀ d, d < dims → kind dk d ≤ 2) :
    (gcCount source dk dims).2.1 = nl dk dims ∧ 0 < (gcCount source dk dims).2.2 ∧
      ∀ d, d < dims → kind dk d = PARAMETER → sEnt source (nv dk d) d ∣ (gcCount source dk dims).2.2 := by
  rw [gcCount_eq]
  have key := foldl_dimsDown_inv (gcCountStep source dk)
    (fun d st => st.1 = nv dk d ∧ st.2.1 = nl dk dims - nl dk d ∧ 0 < st.2.2 ∧
      ∀ d', d ≤ d' → d' < dims → kind dk d' = PARAMETER → sEnt source (nv dk d') d' ∣ st.2.2)
    dims (source.length, 0, 1) ?_ ?_
  · obtain ⟨_, h2, h3, h4⟩ := key
    refine ⟨?_, h3, fun d hd hp => h4 d (Nat.zero_le _) hd hp⟩
    rw [h2]; simp [nl, cntBelow]
  · exact ⟨hs.len, by simp, by simp, fun d' h1 h2 => by omega⟩
  · rintro d st hd ⟨i1, i2, i3, i4⟩
    have hlater : ∀ d', d ≤ d' → d' < dims → kind dk d' = PARAMETER → kind dk d ≠ PARAMETER →
        sEnt source (nv dk d') d' ∣ st.2.2 := fun d' h1 h2 h3 hne =>
      i4 d' (Nat.lt_of_le_of_ne h1 fun e => hne (e ▸ h3)) h2 h3
    unfold gcCountStep
    rcases kind_cases dk dims hk d hd with ⟨h0, hv, hl⟩ | ⟨h0, hv, hl⟩ | ⟨h0, hv, hl⟩
    · -- PARAMETER
      have hsi : st.1 - 1 = nv dk d := by rw [i1.trans (cntBelow_succ_pos _ d hv)]; rfl
      simp only [h0, GEN_VIRTUAL, PARAMETER, if_true, if_false, OfNat.zero_ne_ofNat]
      rw [hsi]
      have hpos : 0 < get (rowAt source (nv dk d)).e d := hs.diag d hd hv
      refine ⟨rfl, by rw [i2]; exact (cntBelow_sub_pos _ hd hl).symm, ?_, ?_⟩
      · simp only [lcmI]
        exact_mod_cast Int.lcm_pos (ne_of_gt i3) (ne_of_gt hpos)
      · intro d' h1 h2 h3
        by_cases hdd : d' = d
        · subst hdd; exact Int.dvd_lcm_right _ _
        · exact Int.dvd_trans (i4 d' (by omega) h2 h3) (Int.dvd_lcm_left _ _)
    · -- LINE
      simp only [h0, GEN_VIRTUAL, PARAMETER, if_false, OfNat.one_ne_ofNat, one_ne_zero]
      exact ⟨by rw [i1.trans (cntBelow_succ_pos _ d hv)]; rfl,
        by rw [i2]; exact (cntBelow_sub_neg _ d dims hl).symm, i3,
        fun d' h1 h2 h3 => hlater d' h1 h2 h3 (by rw [h0]; decide)⟩
    · -- GEN_VIRTUAL
      simp only [h0, GEN_VIRTUAL, if_true]
      exact ⟨i1.trans (cntBelow_succ_neg _ d hv), by rw [i2]; exact (cntBelow_sub_pos _ hd hl).symm, i3,
        fun d' h1 h2 h3 => hlater d' h1 h2 h3 (by rw [h0]; decide)⟩

/-! ### the initial `dest` -/

def gcInitStep (source : List GRow) (dk : List Nat) (dims : Nat) (diagonalLcm : Int) (st : Nat × List CRow) (dim : Nat) :
    Nat × List CRow :=
  if kind dk dim = LINE then (st.1 - 1, st.2)
  else
    let le : Row := List.replicate dims 0
    if kind dk dim = GEN_VIRTUAL then (st.1, st.2 ++ [{ e := le.set dim 1, m := 0 }])
    else
      let si := st.1 - 1
      (si, st.2 ++ [{ e := le.set dim (diagonalLcm / get (rowAt source si).e dim), m := 1 }])

theorem gcInit_eq (source : List GRow) (dk : List Nat) (dims : Nat) (l : Int) :
    gcInit source dk dims l = ((dimsDown dims).foldl (gcInitStep source dk dims l) (source.length, [])).2 := rfl

/-- a row `v·e_q` with modulus `m` -/
def UnitRow (dims : Nat) (c : CRow) (q : Nat) (v m : Int) : Prop :=
  c.m = m ∧ c.e.length = dims ∧ ∀ k, get c.e k = if k = q then v else 0

theorem unitRow_mk (dims q : Nat) (hq : q < dims) (v m : Int) :
    UnitRow dims { e := (List.replicate dims (0 : Int)).set q v, m := m } q v m := by
  refine ⟨rfl, by simp, ?_⟩
  intro k
  rw [get_set, get_replicate_zero]
  by_cases h : k = q
  · simp [h, hq]
  · simp [h]

theorem gcInit_spec (source : List GRow) (dk : List Nat) (dims : Nat) (l : Int) (hs : SrcOK dims source dk)
    (hk : ∀ d, d < dims → kind dk d ≤ 2) :
    (gcInit source dk dims l).length = nl dk dims ∧
      ∀ q, q < dims → nlB dk q = true →
        (kind dk q = GEN_VIRTUAL → UnitRow dims (rowAt (gcInit source dk dims l) (pos dk dims q)) q 1 0) ∧
        (kind dk q = PARAMETER →
          UnitRow dims (rowAt (gcInit source dk dims l) (pos dk dims q)) q (l / sEnt source (nv dk q) q) 1) := by
  rw [gcInit_eq]
  have key := foldl_dimsDown_inv (gcInitStep source dk dims l)
    (fun d st => st.1 = nv dk d ∧ st.2.length = nl dk dims - nl dk d ∧
      ∀ q, d ≤ q → q < dims → nlB dk q = true →
        (kind dk q = GEN_VIRTUAL → UnitRow dims (rowAt st.2 (pos dk dims q)) q 1 0) ∧
        (kind dk q = PARAMETER → UnitRow dims (rowAt st.2 (pos dk dims q)) q (l / sEnt source (nv dk q) q) 1))
    dims (source.length, []) ?_ ?_
  · obtain ⟨_, h2, h3⟩ := key
    refine ⟨?_, fun q hq hl => h3 q (Nat.zero_le _) hq hl⟩
    rw [h2]; simp [nl, cntBelow]
  · exact ⟨hs.len, by simp, fun q h1 h2 => by omega⟩
  · rintro d st hd ⟨i1, i2, i3⟩
    have hlen : ∀ r : CRow, nlB dk d = true → (st.2 ++ [r]).length = nl dk dims - nl dk d := fun r hl => by
      rw [List.length_append, i2]; exact (cntBelow_sub_pos _ hd hl).symm
    unfold gcInitStep
    -- rows already there are kept
    have keep : ∀ (r : CRow) (q : Nat), d + 1 ≤ q → q < dims → nlB dk q = true →
        rowAt (st.2 ++ [r]) (pos dk dims q) = rowAt st.2 (pos dk dims q) := by
      intro r q h1 h2 h3
      rw [rowAt_append_one, if_pos]
      rw [i2]
      exact (pos_lt_iff dk dims q d h2 hd h3).mpr (by omega)
    have new : ∀ (r : CRow), rowAt (st.2 ++ [r]) (pos dk dims d) = r := by
      intro r
      rw [rowAt_append_one, i2]
      simp [pos]
    rcases kind_cases dk dims hk d hd with ⟨h0, hv, hl⟩ | ⟨h0, hv, hl⟩ | ⟨h0, hv, hl⟩
    · -- PARAMETER
      have hsi : st.1 - 1 = nv dk d := by rw [i1.trans (cntBelow_succ_pos _ d hv)]; rfl
      simp only [h0, GEN_VIRTUAL, LINE, if_false, OfNat.zero_ne_ofNat, zero_ne_one]
      rw [hsi]
      refine ⟨rfl, hlen _ hl, ?_⟩
      intro q h1 h2 h3
      by_cases hqd : q = d
      · subst hqd
        rw [new]
        exact ⟨fun hc => by rw [h0] at hc; exact absurd hc (by simp), fun _ => unitRow_mk dims q hd _ _⟩
      · rw [keep _ q (by omega) h2 h3]
        exact i3 q (by omega) h2 h3
    · -- LINE
      simp only [h0, LINE, if_true]
      refine ⟨by rw [i1.trans (cntBelow_succ_pos _ d hv)]; rfl,
        by rw [i2]; exact (cntBelow_sub_neg _ d dims hl).symm, ?_⟩
      intro q h1 h2 h3
      by_cases hqd : q = d
      · subst hqd; rw [hl] at h3; exact absurd h3 (by simp)
      · exact i3 q (by omega) h2 h3
    · -- GEN_VIRTUAL
      simp only [h0, GEN_VIRTUAL, LINE, if_true, if_false, OfNat.ofNat_ne_one]
      refine ⟨i1.trans (cntBelow_succ_neg _ d hv), hlen _ hl, ?_⟩
      intro q h1 h2 h3
      by_cases hqd : q = d
      · subst hqd
        rw [new]
        exact ⟨fun _ => unitRow_mk dims q hd _ _, fun hc => by rw [h0] at hc; exact absurd hc (by simp [PARAMETER])⟩
      · rw [keep _ q (by omega) h2 h3]
        exact i3 q (by omega) h2 h3

end PPLV.Lattice.Red

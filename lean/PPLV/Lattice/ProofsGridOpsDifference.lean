import PPLV.Lattice.ProofsGridOpsQuickFalse
import PPLV.Lattice.ProofsGridOpsConcatenate
import PPLV.Lattice.ProofsGridOpsConstruct
import PPLV.Lattice.ProofsGridOpsLazy
import Mathlib.Algebra.Group.Int.Even

/-!
# The `Grid` object: `difference_assign`
-/
namespace PPLV.Lattice.GO
open PPLV.Lattice PPLV.Lattice.Red

/-! ## Ingredients of `Grid::difference_assign`: every grid is closed under `a + k (b - c)`; tautological rows; the complement `2e ≡ m (mod 2m)` of a proper congruence inside `2e ≡ 0 (mod m)` -/

theorem gn_evalRow_affine (e : Row) (a b c : Pt) (k : ℚ) :
    evalRow e (a + k • (b - c)) = evalRow e a + k * (evalRow e b - evalRow e c) := by
  rw [evalRow_eq, evalRow_eq, evalRow_eq, evalRow_eq]
  have : b - c = b + (-1 : ℚ) • c := by module
  rw [this, dotF_add, dotF_smul, dotF_add, dotF_smul]; ring

theorem gn_closed_consSet (n : Nat) (cs : List CRow) : gn_Closed (consSet n cs) := by
  intro a ha b hb c hc k
  rw [cn_mem_consSet] at *
  refine ⟨fun i hi => by simp [ha.1 i hi, hb.1 i hi, hc.1 i hi], fun r hr => ?_⟩
  obtain ⟨ta, hta⟩ := (cn_mem_set r a).mp (ha.2 r hr)
  obtain ⟨tb, htb⟩ := (cn_mem_set r b).mp (hb.2 r hr)
  obtain ⟨tc, htc⟩ := (cn_mem_set r c).mp (hc.2 r hr)
  exact (cn_mem_set r _).mpr ⟨ta + k * (tb - tc), by rw [gn_evalRow_affine, hta, htb, htc]; push_cast; ring⟩

/-- the point set of every state that satisfies the invariant is closed under `a + k (b - c)` -/
theorem gn_closed_grid (g : Grid) (hI : GridInv g) : gn_Closed g.sem := by
  cases he : g.st.empty with
  | true => rw [sem_of_empty he]; intro a ha; exact absurd ha (Set.notMem_empty a)
  | false =>
    by_cases h0 : g.spaceDim = 0
    · rw [sem_of_zdim he h0]
      intro a ha b hb c hc k i hi
      have h1 : a i = 0 := ha i hi
      have h2 : b i = 0 := hb i hi
      have h3 : c i = 0 := hc i hi
      simp [h1, h2, h3]
    · have hn : 0 < g.spaceDim := by omega
      cases hg : g.st.gUp with
      | true => rw [(gn_sem_of_gUp hI hn he hg).2.2.2]; exact gn_closed_set _
      | false =>
        have hc : g.st.cUp = true := cUp_of_not_gUp hI he hn hg
        rw [(gn_sem_of_cUp hI hn he hc).2.2]; exact gn_closed_consSet _ _

/-- `is_tautological()`: every point satisfies the row -/
theorem gn_taut_mem (cg : CRow) (h : cg.isTautological = true) (x : Pt) : x ∈ CRow.set cg := by
  unfold CRow.isTautological at h
  rw [Bool.and_eq_true] at h
  obtain ⟨h1, h2⟩ := h
  have hz : ∀ i, 0 < i → get cg.e i = 0 := by
    intro i hi
    by_cases hl : i < cg.e.length
    · unfold allZ at h2
      rw [List.all_eq_true] at h2
      have := h2 i (by rw [List.mem_range']; exact ⟨i - 1, by omega, by omega⟩)
      simpa using this
    · exact get_of_length_le _ _ (by omega)
  rw [cn_mem_set]
  unfold rsem
  rw [evalRow_const cg.e x hz]
  by_cases hm : cg.m = 0
  · rw [if_pos hm] at h1
    have : get cg.e 0 = 0 := by simpa using h1
    exact ⟨0, by rw [this]; simp⟩
  · rw [if_neg hm] at h1
    have : Int.tmod (get cg.e 0) cg.m = 0 := by simpa using h1
    obtain ⟨t, ht⟩ := Int.dvd_of_tmod_eq_zero this
    exact ⟨t, by rw [ht]; push_cast; ring⟩

theorem gn_mem_twoCompl0 (cg : CRow) (x : Pt) :
    x ∈ CRow.set (twoCompl0 cg) ↔ ∃ t : Int, 2 * evalRow cg.e x = (t : ℚ) * (cg.m : ℚ) := by
  rw [cn_mem_set]
  unfold rsem twoCompl0
  have : evalRow (mulAll cg.e 2) x = (2 : Int) * evalRow cg.e x :=
    evalRow_smul _ _ 2 x (length_mulAll _ _) (fun i => by rw [get_mulAll]; ring)
  simp only [this]; push_cast; rfl

theorem gn_mem_twoCompl (cg : CRow) (he : cg.e ≠ []) (x : Pt) :
    x ∈ CRow.set (twoCompl cg) ↔ ∃ t : Int, 2 * evalRow cg.e x - (cg.m : ℚ) = (t : ℚ) * ((2 * cg.m : Int) : ℚ) := by
  rw [cn_mem_set]
  unfold rsem twoCompl
  have hne : mulAll cg.e 2 ≠ [] := by
    intro h
    have := congrArg List.length h
    rw [length_mulAll] at this
    exact he (List.length_eq_zero_iff.mp this)
  have h1 : evalRow (mulAll cg.e 2) x = (2 : Int) * evalRow cg.e x :=
    evalRow_smul _ _ 2 x (length_mulAll _ _) (fun i => by rw [get_mulAll]; ring)
  simp only [cn_evalRow_set0 _ _ x hne, h1, get_mulAll]
  constructor
  · rintro ⟨t, ht⟩; exact ⟨t, by rw [← ht]; push_cast; ring⟩
  · rintro ⟨t, ht⟩; exact ⟨t, by rw [← ht]; push_cast; ring⟩

/-- inside `2e ≡ 0 (mod m)` a point that violates `e ≡ 0 (mod m)` satisfies `2e ≡ m (mod 2m)` -/
theorem gn_twoCompl_of_violates (cg : CRow) (he : cg.e ≠ []) (x : Pt) (h0 : x ∈ CRow.set (twoCompl0 cg))
    (hv : x ∉ CRow.set cg) : x ∈ CRow.set (twoCompl cg) := by
  obtain ⟨t, ht⟩ := (gn_mem_twoCompl0 cg x).mp h0
  rw [gn_mem_twoCompl cg he]
  rcases Int.even_or_odd t with ⟨s, hs⟩ | ⟨s, hs⟩
  · exfalso
    apply hv
    rw [cn_mem_set]
    refine ⟨s, ?_⟩
    rw [hs] at ht; push_cast at ht; linarith
  · refine ⟨s, ?_⟩
    rw [hs] at ht; push_cast at ht ⊢; linarith

theorem gn_twoCompl_dims (cg : CRow) : (twoCompl0 cg).spaceDim = cg.spaceDim ∧ (twoCompl cg).spaceDim = cg.spaceDim ∧
    (twoCompl0 cg).m = cg.m ∧ (twoCompl cg).m = 2 * cg.m ∧ (cg.e ≠ [] → (twoCompl cg).e ≠ []) := by
  refine ⟨by simp [twoCompl0, CRow.spaceDim], by simp [twoCompl, CRow.spaceDim], rfl, rfl, fun he h => ?_⟩
  have := congrArg List.length h
  simp [twoCompl] at this
  exact he this

/-! ## The loop of `Grid::difference_assign` (Grid_public.cc:1694) -/

/-- what `relation_with(cg).implies(is_included())` says -/
theorem gn_relCg_included (x : Grid) (hI : GridInv x) (cg : CRow) (hd : cg.spaceDim ≤ x.spaceDim) (hm : 0 ≤ cg.m) :
    GridInv (relationWithCg x cg).1 ∧ (relationWithCg x cg).1.sem = x.sem ∧
    (relationWithCg x cg).1.spaceDim = x.spaceDim ∧
    (((relationWithCg x cg).2.getD {}).included = true ↔ x.sem ⊆ CRow.set cg) := by
  obtain ⟨a, b, c, rel, e, ok, _⟩ := gn_relationWithCg x hI cg hd hm
  refine ⟨a, b, c, ?_⟩
  rw [e]; exact ok.2.1

/-- **the loop of `difference_assign`**: the receiver keeps its points; if the loop runs to its end, the new grid lies
    inside the receiver, contains the old new grid and every point of the receiver that violates one of the
    congruences of the list -/
theorem gn_differenceLoop : ∀ (L : List CRow) (x ng : Grid), GridInv x → GridInv ng → ng.spaceDim = x.spaceDim →
    (∀ cg ∈ L, cg.spaceDim ≤ x.spaceDim ∧ 0 ≤ cg.m ∧ cg.e ≠ []) → ng.sem ⊆ x.sem →
    GridInv (differenceLoop x ng L).1 ∧ (differenceLoop x ng L).1.sem = x.sem ∧
    (differenceLoop x ng L).1.spaceDim = x.spaceDim ∧
    ∀ ng', (differenceLoop x ng L).2 = some ng' → GridInv ng' ∧ ng'.spaceDim = x.spaceDim ∧ ng'.sem ⊆ x.sem ∧
      ng.sem ⊆ ng'.sem ∧ ∀ p ∈ x.sem, (∃ cg ∈ L, p ∉ CRow.set cg) → p ∈ ng'.sem
  | [], x, ng, hIx, hIn, hd, _, hsub => by
    refine ⟨hIx, rfl, rfl, fun ng' h => ?_⟩
    have : ng = ng' := by simpa [differenceLoop] using h
    subst this
    exact ⟨hIn, hd, hsub, fun _ h => h, fun p _ ⟨cg, hc, _⟩ => by cases hc⟩
  | cg :: rest, x, ng, hIx, hIn, hd, hL, hsub => by
    obtain ⟨hcd, hcm, hce⟩ := hL cg (by simp)
    obtain ⟨a1, b1, c1, i1⟩ := gn_relCg_included x hIx cg hcd hcm
    have hrest : ∀ g' : Grid, g'.spaceDim = x.spaceDim →
        ∀ cg' ∈ rest, cg'.spaceDim ≤ g'.spaceDim ∧ 0 ≤ cg'.m ∧ cg'.e ≠ [] := by
      intro g' hg' cg' hc'
      rw [hg']; exact hL cg' (List.mem_cons_of_mem _ hc')
    rw [differenceLoop]
    simp only []
    by_cases hi : ((relationWithCg x cg).2.getD {}).included = true
    · rw [if_pos hi]
      obtain ⟨p1, p2, p3, p4⟩ := gn_differenceLoop rest (relationWithCg x cg).1 ng a1 hIn (by rw [hd, c1])
        (hrest _ c1) (by rw [b1]; exact hsub)
      refine ⟨p1, by rw [p2, b1], by rw [p3, c1], fun ng' h => ?_⟩
      obtain ⟨q1, q2, q3, q4, q5⟩ := p4 ng' h
      refine ⟨q1, by rw [q2, c1], by rw [← b1]; exact q3, q4, fun p hp ⟨cg', hc', hv⟩ => ?_⟩
      rcases List.mem_cons.mp hc' with rfl | hc'
      · exact absurd (i1.mp hi hp) hv
      · exact q5 p (by rw [b1]; exact hp) ⟨cg', hc', hv⟩
    · rw [if_neg hi]
      by_cases hpr : cg.isProperCongruence = true
      · rw [if_pos hpr]
        obtain ⟨d0, d1, d2, d3, d4⟩ := gn_twoCompl_dims cg
        obtain ⟨a2, b2, c2, i2⟩ := gn_relCg_included (relationWithCg x cg).1 a1 (twoCompl0 cg)
          (by rw [d0, c1]; exact hcd) (by rw [d2]; exact hcm)
        by_cases hi2 : ((relationWithCg (relationWithCg x cg).1 (twoCompl0 cg)).2.getD {}).included = true
        · rw [if_pos hi2]
          -- `x` is not empty: it is not included in `cg`
          have hxne : x.sem.Nonempty := by
            by_contra h
            rw [Set.not_nonempty_iff_eq_empty] at h
            exact hi (i1.mpr (by rw [h]; exact Set.empty_subset _))
          obtain ⟨k1, k2, k3, _⟩ := copyCtor_spec (relationWithCg (relationWithCg x cg).1 (twoCompl0 cg)).1 a2
          have hcne : (copyCtor (relationWithCg (relationWithCg x cg).1 (twoCompl0 cg)).1).st.empty = false :=
            not_marked_of_nonempty (by rw [k2, b2, b1]; exact hxne)
          obtain ⟨z1, z2, z3⟩ := cn_addCongruenceNoCheck _ (twoCompl cg) k1 hcne
            (by rw [d1, k3, c2, c1]; exact hcd) (by rw [d3]; omega) (d4 hce)
          rw [k2, b2, b1] at z2
          rw [k3, c2, c1] at z3
          obtain ⟨u1, _, _, u4, _, _, u7⟩ := gn_upperBoundAssign ng _ hIn z1 (by rw [hd, z3])
          have hub : (upperBoundAssign ng (addCongruenceNoCheck
              (copyCtor (relationWithCg (relationWithCg x cg).1 (twoCompl0 cg)).1) (twoCompl cg))).x.sem ⊆ x.sem :=
            u7.2.2 _ (gn_closed_grid x hIx) hsub (by rw [z2]; exact Set.inter_subset_left)
          obtain ⟨p1, p2, p3, p4⟩ := gn_differenceLoop rest (relationWithCg (relationWithCg x cg).1 (twoCompl0 cg)).1 _
            a2 u1 (by rw [u4, hd, c2, c1]) (hrest _ (by rw [c2, c1])) (by rw [b2, b1]; exact hub)
          refine ⟨p1, by rw [p2, b2, b1], by rw [p3, c2, c1], fun ng' h => ?_⟩
          obtain ⟨q1, q2, q3, q4, q5⟩ := p4 ng' h
          refine ⟨q1, by rw [q2, c2, c1], by rw [← b1, ← b2]; exact q3, fun p hp => q4 (u7.1 hp),
            fun p hp ⟨cg', hc', hv⟩ => ?_⟩
          rcases List.mem_cons.mp hc' with rfl | hc'
          · apply q4
            apply u7.2.1
            rw [z2]
            refine ⟨hp, gn_twoCompl_of_violates _ hce p ?_ hv⟩
            exact i2.mp hi2 (by rw [b1]; exact hp)
          · exact q5 p (by rw [b2, b1]; exact hp) ⟨cg', hc', hv⟩
        · rw [if_neg hi2]
          exact ⟨a2, by rw [b2, b1], by rw [c2, c1], fun ng' h => by cases h⟩
      · rw [if_neg hpr]
        exact ⟨a1, b1, c1, fun ng' h => by cases h⟩

/-! ## `Grid::difference_assign(y)` (Grid_public.cc:1668): soundness -/

theorem gn_isIncludedIn_snd_empty (x y : Grid) (hIy : GridInv y) (hey : y.st.empty = false) (hn : 0 < y.spaceDim) :
    (isIncludedIn x y).2.1.st.empty = false := by
  rw [gn_isIncludedIn_eq]
  cases (gn_incX x).2 with
  | false => exact hey
  | true => exact (gn_incY_spec y hIy hey hn).2.2.2.1

/-- `x.contains(y)` does not mark a receiver empty that was not -/
theorem gn_contains_fst_empty (x y : Grid) (hIx : GridInv x) (hex : x.st.empty = false) (hey : y.st.empty = false)
    (hd : x.spaceDim = y.spaceDim) : (contains x y).1.st.empty = false := by
  have hx : x.markedEmpty = false := hex
  have hy : y.markedEmpty = false := hey
  unfold contains
  rw [if_neg (not_not.mpr hd), hy, if_neg (by simp), hx, if_neg (by simp)]
  by_cases h0 : y.spaceDim = 0
  · rw [if_pos h0]; exact hex
  · rw [if_neg h0]
    by_cases hq : quickEquivalenceTest x y = TVB_TRUE
    · rw [if_pos hq]; exact hex
    · rw [if_neg hq]
      exact gn_isIncludedIn_snd_empty y x hIx hex (by omega)

/-- **`Grid::difference_assign(y)`** for grids of one dimension: nothing is thrown, both invariants and the dimensions are
    kept, `y` denotes what it denoted, and the result is sound in the sense of the reference: it contains the set
    difference and lies inside the receiver -/
theorem gn_differenceAssign (x y : Grid) (hIx : GridInv x) (hIy : GridInv y) (hd : x.spaceDim = y.spaceDim) :
    GridInv (differenceAssign x y).x ∧ GridInv (differenceAssign x y).y ∧ (differenceAssign x y).thrown = false ∧
    (differenceAssign x y).x.spaceDim = x.spaceDim ∧ (differenceAssign x y).y.spaceDim = y.spaceDim ∧
    (differenceAssign x y).y.sem = y.sem ∧ x.sem \ y.sem ⊆ (differenceAssign x y).x.sem ∧
    (differenceAssign x y).x.sem ⊆ x.sem := by
  unfold differenceAssign
  rw [if_neg (not_not.mpr hd)]
  by_cases hm : y.markedEmpty = true ∨ x.markedEmpty = true
  · rw [if_pos hm]
    exact ⟨hIx, hIy, rfl, rfl, rfl, rfl, Set.sdiff_subset, fun _ h => h⟩
  · rw [if_neg hm]
    have hy : y.st.empty = false := by
      cases h : y.st.empty with
      | false => rfl
      | true => exact absurd (Or.inl h) hm
    have hx : x.st.empty = false := by
      cases h : x.st.empty with
      | false => rfl
      | true => exact absurd (Or.inr h) hm
    by_cases h0 : x.spaceDim = 0
    · rw [if_pos h0]
      obtain ⟨s1, s2, s3⟩ := setEmpty_spec x
      refine ⟨s1, hIy, rfl, s3, rfl, rfl, ?_, by rw [s2]; exact Set.empty_subset _⟩
      show x.sem \ y.sem ⊆ (setEmpty x).sem
      rw [sem_of_zdim hx h0, sem_of_zdim (g := y) hy (by rw [← hd]; exact h0), Set.sdiff_self]
      exact Set.empty_subset _
    · rw [if_neg h0]
      have hn : 0 < x.spaceDim := by omega
      simp only []
      obtain ⟨c1, c2, c3, c4, c5, c6, b, cb, hb⟩ := gn_contains y x hIy hIx hd.symm
      by_cases hc : (contains y x).2.2 = some true
      · rw [if_pos hc]
        obtain ⟨s1, s2, s3⟩ := setEmpty_spec (contains y x).2.1
        have hsub : x.sem ⊆ y.sem := by
          rw [cb] at hc
          exact hb.mp (Option.some.inj hc)
        refine ⟨s1, c1, rfl, by rw [s3, c6], c5, c3, ?_, by rw [s2]; exact Set.empty_subset _⟩
        rw [Set.sdiff_eq_empty.mpr hsub]; exact Set.empty_subset _
      · rw [if_neg hc]
        have hye : (contains y x).1.st.empty = false := gn_contains_fst_empty y x hIy hy hx hd.symm
        have hny : 0 < (contains y x).1.spaceDim := by rw [c5, ← hd]; exact hn
        obtain ⟨g1, g2, g3, g4, g5, _, _⟩ := congruences_spec (contains y x).1 c1
        have hye2 : (congruences (contains y x).1).st.empty = false := by rw [g4]; exact hye
        obtain ⟨_, w, sy⟩ := gn_sem_of_cUp g1 (by rw [g3]; exact hny) hye2 (g5 hye hny)
        rw [g3, c5, ← hd] at w sy
        rw [g2, c3] at sy
        -- the list of the loop
        have hL : ∀ cg ∈ (congruences (contains y x).1).con.filter (fun cg => !cg.isTautological),
            cg.spaceDim ≤ (contains y x).2.1.spaceDim ∧ 0 ≤ cg.m ∧ cg.e ≠ [] := by
          intro cg hcg
          obtain ⟨l, m⟩ := w cg (List.mem_of_mem_filter hcg)
          refine ⟨by rw [c6]; unfold CRow.spaceDim; omega, m, fun h => ?_⟩
          rw [h] at l; simp at l
        have hng : GridInv (constructDeg (contains y x).2.1.spaceDim false) := constructDeg_inv _ _
        have hngs : (constructDeg (contains y x).2.1.spaceDim false).sem = ∅ := by
          rw [constructDeg_sem]; rfl
        obtain ⟨p1, p2, p3, p4⟩ := gn_differenceLoop _ (contains y x).2.1 _ c2 hng rfl hL
          (by rw [hngs]; exact Set.empty_subset _)
        cases hr : (differenceLoop (contains y x).2.1 (constructDeg (contains y x).2.1.spaceDim false)
            ((congruences (contains y x).1).con.filter fun cg => !cg.isTautological)).2 with
        | none =>
          exact ⟨p1, g1, rfl, by rw [p3, c6], by rw [g3, c5], by rw [g2, c3],
            by rw [p2, c4]; exact Set.sdiff_subset, by rw [p2, c4]⟩
        | some ng' =>
          obtain ⟨q1, q2, q3, _, q5⟩ := p4 ng' hr
          obtain ⟨t1, t2, t3⟩ := assign_spec (differenceLoop (contains y x).2.1
            (constructDeg (contains y x).2.1.spaceDim false)
            ((congruences (contains y x).1).con.filter fun cg => !cg.isTautological)).1 ng' q1
          refine ⟨t1, g1, rfl, by rw [t3, q2, c6], by rw [g3, c5], by rw [g2, c3], ?_, by rw [t2, ← c4]; exact q3⟩
          show x.sem \ y.sem ⊆ Grid.sem _
          rw [t2]
          rintro p ⟨hpx, hpy⟩
          refine q5 p (by rw [c4]; exact hpx) ?_
          rw [sy, cn_mem_consSet] at hpy
          have hsupp : Supp x.spaceDim p := cn_sem_subset_space x hIx hpx
          have : ∃ r ∈ (congruences (contains y x).1).con, p ∉ CRow.set r := by
            by_contra h
            apply hpy
            refine ⟨hsupp, fun r hr => ?_⟩
            by_contra h'
            exact h ⟨r, hr, h'⟩
          obtain ⟨r, hr, hv⟩ := this
          refine ⟨r, List.mem_filter.mpr ⟨hr, ?_⟩, hv⟩
          cases ht : r.isTautological with
          | false => rfl
          | true => exact absurd (gn_taut_mem r ht p) hv

/-- the hypotheses are satisfiable: the grids `{0}` and `{1/2}` of the line -/
example : ∃ x y : Grid, GridInv x ∧ GridInv y ∧ x.spaceDim = y.spaceDim :=
  ⟨{ spaceDim := 1, st := { gUp := true }, conDim := 1, con := [], genDim := 1, gen := [⟨false, [1, 0, 0]⟩], dk := [] },
   { spaceDim := 1, st := { gUp := true }, conDim := 1, con := [], genDim := 1, gen := [⟨false, [2, 1, 0]⟩], dk := [] },
   gn_inv_point1 1 0 (by decide),
   gn_inv_point1 2 1 (by decide), rfl⟩

end PPLV.Lattice.GO

import PPLV.Lattice.ProofsGridOpsLazy
import PPLV.Lattice.ProofsGridOpsAffinePreimage
import PPLV.Lattice.ProofsGridOpsGenSys
import PPLV.Lattice.ProofsGridOpsGenSet

/-!
# The `Grid` object: `affine_image`

`Grid_Generator_System::affine_image` maps every row, `remove_invalid_lines_and_parameters` drops what became the origin; with
the inverse map it is the generator side of `affine_preimage`.
-/
namespace PPLV.Lattice.GO
open PPLV.Lattice PPLV.Lattice.Red

/-! ## `Grid_Generator_System::affine_image` (Grid_Generator_System.cc:80)

Every row is multiplied by `den` (all entries: the common divisor becomes `den·D`) and entry `v + 1` is replaced by the
scalar product with `expr`.  In homogeneous coordinates this is ONE linear map `lzT` applied to the vector of every
row, so the homogeneous lattice of the result is the image of the lattice, and `lzT (D, D·x) = (den·D, den·D·F x)` with
`F x = x[v := (⟨e,x⟩ + e₀)/den]`.  The rows removed afterwards (`remove_invalid_lines_and_parameters`) have a zero vector.
-/

/-! ### the row map -/

/-- the row map of `Grid_Generator_System::affine_image` -/
def lz_aiRow (v : Nat) (e : LinExpr) (den : Int) (row : GRow) : GRow :=
  { row with e := (if den ≠ 1 then mulAll row.e den else row.e).set (v + 1) (sp e row.e) }

theorem lz_affineImage_eq (s : GSys) (v : Nat) (e : LinExpr) (den : Int) :
    s.affineImage v e den =
      if v + 1 ≥ e.spaceDim ∨ e.coeff v = 0 then
        ({ s with rows := s.rows.map (lz_aiRow v e den) } : GSys).removeInvalidLinesAndParameters
      else { s with rows := s.rows.map (lz_aiRow v e den) } := rfl

theorem lz_foldl_sum (m : Nat) (f : Nat → Int) :
    (((List.range m).map f).foldl (· + ·) 0 : Int) = ∑ i ∈ Finset.range m, f i := by
  induction m with
  | zero => simp
  | succ m ih => rw [List.range_succ, List.map_append, List.foldl_append, ih, Finset.sum_range_succ]; simp

theorem lz_sp_eq (x y : Row) : sp x y = ∑ i ∈ Finset.range x.length, get x i * get y i := by
  unfold sp; exact lz_foldl_sum _ _

theorem lz_aiRow_line (v : Nat) (e : LinExpr) (den : Int) (row : GRow) : (lz_aiRow v e den row).line = row.line := rfl

theorem lz_aiRow_length (v : Nat) (e : LinExpr) (den : Int) (row : GRow) :
    (lz_aiRow v e den row).e.length = row.e.length := by
  unfold lz_aiRow; split <;> simp

theorem lz_aiRow_get (v : Nat) (e : LinExpr) (den : Int) (row : GRow) (i : Nat) (hv : v + 1 < row.e.length) :
    get (lz_aiRow v e den row).e i = if i = v + 1 then sp e row.e else den * get row.e i := by
  unfold lz_aiRow
  by_cases hd : den = 1
  · subst hd
    simp only [ne_eq, not_true_eq_false, if_false, get_set]
    by_cases hi : i = v + 1
    · rw [if_pos ⟨hi, hv⟩, if_pos hi]
    · rw [if_neg (fun h => hi h.1), if_neg hi]; ring
  · simp only [ne_eq, hd, not_false_eq_true, if_true, get_set, length_mulAll, get_mulAll]
    by_cases hi : i = v + 1
    · rw [if_pos ⟨hi, hv⟩, if_pos hi]
    · rw [if_neg (fun h => hi h.1), if_neg hi]; ring

/-! ### the linear map on homogeneous vectors -/

/-- `w ↦ den·w` with coordinate `v + 1` replaced by `⟨e, w⟩` -/
noncomputable def lzT (v : Nat) (e : LinExpr) (den : Int) (w : Pt) : Pt :=
  fun i => if i = v + 1 then alphaOf (ratRow e) w else (den : ℚ) * w i

theorem lzT_add (v : Nat) (e : LinExpr) (den : Int) (a b : Pt) : lzT v e den (a + b) = lzT v e den a + lzT v e den b := by
  funext i
  simp only [lzT, Pi.add_apply]
  split
  · rw [map_add]
  · ring

theorem lzT_smul (v : Nat) (e : LinExpr) (den : Int) (c : ℚ) (a : Pt) : lzT v e den (c • a) = c • lzT v e den a := by
  funext i
  simp only [lzT, Pi.smul_apply, smul_eq_mul]
  split
  · rw [map_smul, smul_eq_mul]
  · ring

theorem lzT_zero (v : Nat) (e : LinExpr) (den : Int) : lzT v e den 0 = 0 := by
  have := lzT_smul v e den 0 0
  simpa using this

/-- the vector of the transformed row -/
theorem lz_hv_aiRow (n v : Nat) (e : LinExpr) (den : Int) (row : GRow) (hl : row.e.length = n + 2) (hvn : v < n)
    (he : e.length ≤ n + 1) : hv n (lz_aiRow v e den row) = lzT v e den (hv n row) := by
  funext i
  rw [hv_apply, lz_aiRow_get v e den row i (by omega)]
  unfold lzT
  by_cases hi : i = v + 1
  · subst hi
    rw [if_pos (by omega), if_pos rfl, if_pos rfl, alphaOf_apply, dotF_ratRow, lz_sp_eq]
    push_cast
    apply Finset.sum_congr rfl
    intro k hk
    have := Finset.mem_range.mp hk
    rw [hv_apply, if_pos (by omega)]
  · rw [if_neg hi, if_neg hi, hv_apply]
    by_cases hin : i ≤ n
    · rw [if_pos hin, if_pos hin]; push_cast; ring
    · rw [if_neg hin, if_neg hin]; ring

/-- the map on the points: `x[v := (⟨e,x⟩ + e₀)/den]` -/
noncomputable def lzF (v : Nat) (e : LinExpr) (den : Int) (x : Pt) : Pt := cn_upd x v (evalRow e x / (den : ℚ))

theorem lz_alphaOf_homog (e : Row) (D : ℚ) (x : Pt) : alphaOf (ratRow e) (homog D x) = D * evalRow e x := by
  cases e with
  | nil => simp [ratRow, evalRow]
  | cons a l => rw [alphaOf_homog (a :: l) (by simp) D x, evalRow_eq]

theorem lzT_homog (v : Nat) (e : LinExpr) (den : Int) (hden : den ≠ 0) (D : ℚ) (x : Pt) :
    lzT v e den (homog D x) = homog ((den : ℚ) * D) (lzF v e den x) := by
  have hd : (den : ℚ) ≠ 0 := by exact_mod_cast hden
  funext i
  cases i with
  | zero => simp [lzT, homog]
  | succ j =>
    unfold lzT lzF cn_upd
    by_cases hj : j = v
    · subst hj
      rw [if_pos rfl, lz_alphaOf_homog]
      simp only [homog, if_true]
      field_simp
    · rw [if_neg (by omega)]
      simp only [homog, if_neg hj]
      ring

/-! ### the image of the homogeneous lattice under a map applied to every row -/

theorem lz_hom_map_of (n : Nat) (T : Pt → Pt) (hadd : ∀ a b, T (a + b) = T a + T b) (hsmul : ∀ (c : ℚ) a, T (c • a) = c • T a)
    (rows : List GRow) (f : GRow → GRow) (hl : ∀ r ∈ rows, (f r).line = r.line)
    (hT : ∀ r ∈ rows, hv n (f r) = T (hv n r)) {w : Pt} (h : Hom n rows w) : Hom n (rows.map f) (T w) := by
  have hzero : T 0 = 0 := by have := hsmul 0 0; simpa using this
  unfold Hom GDir at h
  induction h with
  | zero => rw [hzero]; exact hom_zero _ _
  | @param w q j hq _ ih =>
    obtain ⟨u, hu, rfl⟩ := List.mem_map.mp hq
    obtain ⟨r, hr, rfl⟩ := List.mem_map.mp hu
    have hr' := List.mem_filter.mp hr
    have hrl : r.line = false := by simpa using hr'.2
    rw [hadd, hsmul]
    refine hom_add ih (hom_zsmul j ?_)
    have : T (GRow.hvec n r).toFun = hv n (f r) := (hT r hr'.1).symm
    rw [this]
    exact hom_of_mem_pc (List.mem_map_of_mem hr'.1) (by rw [hl r hr'.1]; exact hrl)
  | @line w l c hl' _ ih =>
    obtain ⟨u, hu, rfl⟩ := List.mem_map.mp hl'
    obtain ⟨r, hr, rfl⟩ := List.mem_map.mp hu
    have hr' := List.mem_filter.mp hr
    have hrl : r.line = true := by simpa using hr'.2
    rw [hadd, hsmul]
    refine hom_add ih ?_
    have : T (GRow.hvec n r).toFun = hv n (f r) := (hT r hr'.1).symm
    rw [this]
    exact hom_of_mem_line (List.mem_map_of_mem hr'.1) (by rw [hl r hr'.1]; exact hrl) c

theorem lz_hom_map_inv (n : Nat) (T : Pt → Pt) (hadd : ∀ a b, T (a + b) = T a + T b) (hsmul : ∀ (c : ℚ) a, T (c • a) = c • T a)
    (rows : List GRow) (f : GRow → GRow) (hl : ∀ r ∈ rows, (f r).line = r.line)
    (hT : ∀ r ∈ rows, hv n (f r) = T (hv n r)) {w' : Pt} (h : Hom n (rows.map f) w') :
    ∃ w, Hom n rows w ∧ T w = w' := by
  have hzero : T 0 = 0 := by have := hsmul 0 0; simpa using this
  unfold Hom GDir at h
  induction h with
  | zero => exact ⟨0, hom_zero _ _, hzero⟩
  | @param w q j hq _ ih =>
    obtain ⟨u, hu, rfl⟩ := List.mem_map.mp hq
    obtain ⟨r', hr', rfl⟩ := List.mem_map.mp hu
    have hr2 := List.mem_filter.mp hr'
    obtain ⟨r, hr, rfl⟩ := List.mem_map.mp hr2.1
    have hrl : r.line = false := by rw [← hl r hr]; simpa using hr2.2
    obtain ⟨w0, hw0, rfl⟩ := ih
    refine ⟨w0 + (j : ℚ) • hv n r, hom_add hw0 (hom_zsmul j (hom_of_mem_pc hr hrl)), ?_⟩
    rw [hadd, hsmul, ← hT r hr]; rfl
  | @line w l c hl' _ ih =>
    obtain ⟨u, hu, rfl⟩ := List.mem_map.mp hl'
    obtain ⟨r', hr', rfl⟩ := List.mem_map.mp hu
    have hr2 := List.mem_filter.mp hr'
    obtain ⟨r, hr, rfl⟩ := List.mem_map.mp hr2.1
    have hrl : r.line = true := by rw [← hl r hr]; simpa using hr2.2
    obtain ⟨w0, hw0, rfl⟩ := ih
    refine ⟨w0 + c • hv n r, hom_add hw0 (hom_of_mem_line hr hrl c), ?_⟩
    rw [hadd, hsmul, ← hT r hr]; rfl

/-! ### the mapped rows -/

theorem lz_aiRows_gwf {n : Nat} {rows : List GRow} (v : Nat) (e : LinExpr) (den : Int) (hw : GWf n rows) :
    GWf n (rows.map (lz_aiRow v e den)) := by
  intro r' hr'
  obtain ⟨r, hr, rfl⟩ := List.mem_map.mp hr'
  rw [lz_aiRow_length]; exact hw r hr

theorem lz_aiRows_gnorm {n : Nat} {D : Int} {rows : List GRow} (v : Nat) (e : LinExpr) (den : Int) (hden : 0 < den)
    (hvn : v < n) (hw : GWf n rows) (hN : GNorm n D rows) : GNorm n (den * D) (rows.map (lz_aiRow v e den)) := by
  have hg : ∀ r ∈ rows, ∀ i, i ≠ v + 1 → get (lz_aiRow v e den r).e i = den * get r.e i := by
    intro r hr i hi
    rw [lz_aiRow_get v e den r i (by rw [hw r hr]; omega), if_neg hi]
  refine ⟨Int.mul_pos hden hN.pos, ?_, ?_, ?_, ?_⟩
  · obtain ⟨r, hr, hl, h0⟩ := hN.pt
    exact ⟨_, List.mem_map_of_mem hr, hl, by rw [hg r hr 0 (by omega), h0]⟩
  · intro r' hr' hl
    obtain ⟨r, hr, rfl⟩ := List.mem_map.mp hr'
    rw [hg r hr 0 (by omega)]
    rcases hN.col0 r hr hl with h | h
    · left; rw [h]; ring
    · right; rw [h]
  · intro r' hr' hl h0
    obtain ⟨r, hr, rfl⟩ := List.mem_map.mp hr'
    rw [hg r hr 0 (by omega)] at h0
    have h00 : get r.e 0 = 0 := by
      rcases Int.mul_eq_zero.mp h0 with h | h
      · omega
      · exact h
    rw [hg r hr (n + 1) (by omega), hN.par r hr hl h00]
  · intro r' hr' hl
    obtain ⟨r, hr, rfl⟩ := List.mem_map.mp hr'
    rw [hg r hr 0 (by omega), hN.lin r hr hl]; ring

/-- **the mapped rows denote the image** -/
theorem lz_aiRows_gensSet {n : Nat} {D : Int} {rows : List GRow} (v : Nat) (e : LinExpr) (den : Int) (hden : 0 < den)
    (hvn : v < n) (he : e.spaceDim ≤ n) (hw : GWf n rows) (hN : GNorm n D rows) :
    gensSet n (rows.map (lz_aiRow v e den)) = lzF v e den '' gensSet n rows := by
  have hel : e.length ≤ n + 1 := by unfold LinExpr.spaceDim at he; omega
  have hN' := lz_aiRows_gnorm v e den hden hvn hw hN
  have hd0 : den ≠ 0 := by omega
  have hT : ∀ r ∈ rows, hv n (lz_aiRow v e den r) = lzT v e den (hv n r) :=
    fun r hr => lz_hv_aiRow n v e den r (hw r hr) hvn hel
  rw [gensSet_eq hN', gensSet_eq hN]
  ext y
  simp only [Set.mem_ofPred_eq, Set.mem_image]
  constructor
  · intro hy
    obtain ⟨w, hw1, hw2⟩ := lz_hom_map_inv n (lzT v e den) (lzT_add v e den) (lzT_smul v e den) rows _
      (fun r _ => lz_aiRow_line v e den r) hT hy
    -- `w = (D, D·x)`
    have hD : (D : ℚ) ≠ 0 := by exact_mod_cast (ne_of_gt hN.pos)
    have hdq : (den : ℚ) ≠ 0 := by exact_mod_cast hd0
    have hw0 : w 0 = (D : ℚ) := by
      have := congrFun hw2 0
      simp only [lzT, homog] at this
      rw [if_neg (by omega)] at this
      push_cast at this
      exact mul_left_cancel₀ hdq this
    have hwx : w = homog (D : ℚ) (fun i => w (i + 1) / (D : ℚ)) := by
      funext i
      cases i with
      | zero => exact hw0
      | succ i => simp only [homog]; field_simp
    refine ⟨fun i => w (i + 1) / (D : ℚ), by rw [← hwx]; exact hw1, ?_⟩
    have h3 : homog ((den : ℚ) * (D : ℚ)) (lzF v e den (fun i => w (i + 1) / (D : ℚ))) =
        homog (((den * D : Int) : ℚ)) y := by
      rw [← lzT_homog v e den hd0, ← hwx, hw2]
    funext i
    have := congrFun h3 (i + 1)
    simp only [homog] at this
    push_cast at this
    exact mul_left_cancel₀ (mul_ne_zero hdq hD) this
  · rintro ⟨x, hx, rfl⟩
    have := lz_hom_map_of n (lzT v e den) (lzT_add v e den) (lzT_smul v e den) rows _
      (fun r _ => lz_aiRow_line v e den r) hT hx
    rw [lzT_homog v e den hd0] at this
    push_cast
    exact this

/-! ## `remove_invalid_lines_and_parameters`, the whole `Grid_Generator_System::affine_image`, `genAffineImagePos`, the inverse map, `affine_preimage` unconditional -/

/-! ### `remove_invalid_lines_and_parameters` (Grid_Generator_System.cc:235) -/

/-- the rows it removes: inhomogeneous term 0 and all homogeneous terms 0 -/
def lz_bad (g : GRow) : Bool := g.isLineOrParameter && g.allHomZero

theorem lz_rowAt_take {rows : List GRow} {k j : Nat} (h : j < k) : rowAt (rows.take k) j = rowAt rows j := by
  simp [rowAt, h]

/-- swap-with-last removal: nothing new appears, every other row stays -/
theorem lz_removeInvalidAux_spec : ∀ (fuel i : Nat) (rows : List GRow),
    (∀ r, r ∈ removeInvalidAux fuel i rows → r ∈ rows) ∧
    (∀ r, r ∈ rows → lz_bad r = false → r ∈ removeInvalidAux fuel i rows)
  | 0, _, rows => ⟨fun _ h => h, fun _ h _ => h⟩
  | fuel + 1, i, rows => by
    unfold removeInvalidAux
    by_cases hi : i < rows.length
    · rw [if_pos hi]
      by_cases hb : ((rowAt rows i).isLineOrParameter && (rowAt rows i).allHomZero) = true
      · rw [if_pos hb]
        obtain ⟨ih1, ih2⟩ := lz_removeInvalidAux_spec fuel i ((rows.set i (rowAt rows (rows.length - 1))).take (rows.length - 1))
        have hlast : rowAt rows (rows.length - 1) ∈ rows := rowAt_mem rows _ (by omega)
        constructor
        · intro r hr
          have h1 := List.mem_of_mem_take (ih1 r hr)
          rcases List.mem_or_eq_of_mem_set h1 with h | h
          · exact h
          · rw [h]; exact hlast
        · intro r hr hgood
          apply ih2 r _ hgood
          obtain ⟨j, hj, rfl⟩ := (gc_mem_iff_rowAt _ _).mp hr
          have hji : j ≠ i := by
            intro h; subst h
            unfold lz_bad at hgood; rw [hb] at hgood; exact absurd hgood (by decide)
          by_cases hjl : j < rows.length - 1
          · have : rowAt ((rows.set i (rowAt rows (rows.length - 1))).take (rows.length - 1)) j = rowAt rows j := by
              rw [lz_rowAt_take hjl, rowAt_set, if_neg (fun h => hji h.1)]
            rw [← this]
            exact rowAt_mem _ _ (by simp; omega)
          · have hjeq : j = rows.length - 1 := by omega
            have hil : i < rows.length - 1 := by omega
            have : rowAt ((rows.set i (rowAt rows (rows.length - 1))).take (rows.length - 1)) i = rowAt rows j := by
              rw [lz_rowAt_take hil, rowAt_set, if_pos ⟨rfl, hi⟩, hjeq]
            rw [← this]
            exact rowAt_mem _ _ (by simp; omega)
      · rw [if_neg hb]
        exact lz_removeInvalidAux_spec fuel (i + 1) rows
    · rw [if_neg hi]; exact ⟨fun _ h => h, fun _ h _ => h⟩

/-- a removed row has the zero vector -/
theorem lz_bad_hv {n : Nat} {r : GRow} (hl : r.e.length = n + 2) (hb : lz_bad r = true) : hv n r = 0 := by
  unfold lz_bad at hb
  rw [Bool.and_eq_true] at hb
  obtain ⟨h0, hz⟩ := hb
  have h0' : get r.e 0 = 0 := by simpa [GRow.isLineOrParameter] using h0
  unfold GRow.allHomZero at hz
  rw [allZ_iff, hl] at hz
  apply hv_zero
  intro i hi
  cases i with
  | zero => exact h0'
  | succ i => exact hz (i + 1) (by omega) (by omega)

theorem lz_removeInvalid_hom {n : Nat} {rows : List GRow} (hw : GWf n rows) (w : Pt) :
    Hom n (removeInvalidAux rows.length 0 rows) w ↔ Hom n rows w := by
  obtain ⟨h1, h2⟩ := lz_removeInvalidAux_spec rows.length 0 rows
  constructor
  · intro h
    have := hom_le (n := n) (rows := removeInvalidAux rows.length 0 rows) (rows' := rows) 1
      (fun r hr hl => by rw [one_smul]; exact hom_of_mem_pc (h1 r hr) hl)
      (fun r hr hl c => hom_of_mem_line (h1 r hr) hl c) h
    simpa using this
  · intro h
    have key : ∀ r ∈ rows, r ∈ removeInvalidAux rows.length 0 rows ∨ hv n r = 0 := by
      intro r hr
      cases hb : lz_bad r
      · exact Or.inl (h2 r hr hb)
      · exact Or.inr (lz_bad_hv (hw r hr) hb)
    have := hom_le (n := n) (rows := rows) (rows' := removeInvalidAux rows.length 0 rows) 1
      (fun r hr hl => by
        rw [one_smul]
        rcases key r hr with h' | h'
        · exact hom_of_mem_pc h' hl
        · rw [h']; exact hom_zero _ _)
      (fun r hr hl c => by
        rcases key r hr with h' | h'
        · exact hom_of_mem_line h' hl c
        · rw [h']; simpa using hom_zero n _) h
    simpa using this

theorem lz_removeInvalid_facts {n : Nat} {D : Int} {rows : List GRow} (hw : GWf n rows) (hN : GNorm n D rows) :
    GWf n (removeInvalidAux rows.length 0 rows) ∧ GNorm n D (removeInvalidAux rows.length 0 rows) ∧
    gensSet n (removeInvalidAux rows.length 0 rows) = gensSet n rows := by
  obtain ⟨h1, h2⟩ := lz_removeInvalidAux_spec rows.length 0 rows
  have hN' : GNorm n D (removeInvalidAux rows.length 0 rows) := by
    refine ⟨hN.pos, ?_, fun r hr => hN.col0 r (h1 r hr), fun r hr => hN.par r (h1 r hr), fun r hr => hN.lin r (h1 r hr)⟩
    obtain ⟨r, hr, hl, h0⟩ := hN.pt
    refine ⟨r, h2 r hr ?_, hl, h0⟩
    have : get r.e 0 ≠ 0 := by rw [h0]; exact ne_of_gt hN.pos
    simp [lz_bad, GRow.isLineOrParameter, this]
  refine ⟨fun r hr => hw r (h1 r hr), hN', ?_⟩
  rw [gensSet_eq hN', gensSet_eq hN]
  ext x
  exact lz_removeInvalid_hom hw _

/-! ### the whole `affine_image` -/

/-- **`Grid_Generator_System::affine_image(v, expr, den)`**, `den > 0`: sizes kept, divisors normalised with `den·D`, the
    grid is the image under `x ↦ x[v := (⟨e,x⟩ + e₀)/den]` -/
theorem lz_GSys_affineImage (n v : Nat) (e : LinExpr) (den : Int) (rows : List GRow) (D : Int) (hden : 0 < den)
    (hvn : v < n) (he : e.spaceDim ≤ n) (hw : GWf n rows) (hN : GNorm n D rows) :
    (GSys.affineImage ⟨n, rows⟩ v e den).dim = n ∧ GWf n (GSys.affineImage ⟨n, rows⟩ v e den).rows ∧
    GNorm n (den * D) (GSys.affineImage ⟨n, rows⟩ v e den).rows ∧
    gensSet n (GSys.affineImage ⟨n, rows⟩ v e den).rows = lzF v e den '' gensSet n rows := by
  have a := lz_aiRows_gwf v e den hw
  have b := lz_aiRows_gnorm v e den hden hvn hw hN
  have c := lz_aiRows_gensSet v e den hden hvn he hw hN
  rw [lz_affineImage_eq]
  split
  · obtain ⟨a', b', c'⟩ := lz_removeInvalid_facts a b
    exact ⟨rfl, a', b', c'.trans c⟩
  · exact ⟨rfl, a, b, c⟩

/-- the same on the PPL reading `gn_set` -/
theorem lz_GSys_affineImage_gn (n v : Nat) (e : LinExpr) (den : Int) (rows : List GRow) (D : Int) (hden : 0 < den)
    (hvn : v < n) (he : e.spaceDim ≤ n) (hw : GWf n rows) (hN : GNorm n D rows) :
    gn_set (GSys.affineImage ⟨n, rows⟩ v e den).rows = lzF v e den '' gn_set rows := by
  obtain ⟨_, a, b, c⟩ := lz_GSys_affineImage n v e den rows D hden hvn he hw hN
  rw [← gn_bridge b a, ← gn_bridge hN hw]; exact c

theorem lzF_neg (v : Nat) (e : LinExpr) (den : Int) : lzF v (negExpr e) (-den) = lzF v e den := by
  funext x
  unfold lzF
  rw [cn_negExpr_eval]; push_cast; rw [neg_div_neg_eq]

/-- **`genAffineImagePos`** (either sign of the denominator) -/
theorem lz_genAffineImagePos (n v : Nat) (e : LinExpr) (den : Int) (rows : List GRow) (D : Int) (hden : den ≠ 0)
    (hvn : v < n) (he : e.spaceDim ≤ n) (hw : GWf n rows) (hN : GNorm n D rows) :
    (genAffineImagePos ⟨n, rows⟩ v e den).dim = n ∧ GWf n (genAffineImagePos ⟨n, rows⟩ v e den).rows ∧
    (∃ D', GNorm n D' (genAffineImagePos ⟨n, rows⟩ v e den).rows) ∧
    gensSet n (genAffineImagePos ⟨n, rows⟩ v e den).rows = lzF v e den '' gensSet n rows := by
  unfold genAffineImagePos
  split
  · rename_i h
    obtain ⟨a, b, c, d⟩ := lz_GSys_affineImage n v e den rows D h hvn he hw hN
    exact ⟨a, b, ⟨_, c⟩, d⟩
  · obtain ⟨a, b, c, d⟩ := lz_GSys_affineImage n v (negExpr e) (-den) rows D (by omega) hvn
      (by rw [cn_negExpr_spaceDim]; exact he) hw hN
    exact ⟨a, b, ⟨_, c⟩, by rw [d, lzF_neg]⟩

/-! ### the inverse map (Grid_public.cc:1998) -/

theorem lz_get_negExpr (e : LinExpr) (i : Nat) : get (negExpr e) i = - get e i := by
  unfold negExpr
  by_cases h : i < e.length
  · rw [cn_get_map _ _ (by simp)]
  · rw [get_of_length_le _ _ (by simp; omega), get_of_length_le _ _ (by omega)]; simp

/-- the value of the inverse expression -/
theorem lz_inverseOf_eval (e : LinExpr) (v : Nat) (den : Int) (hv1 : v + 1 ≤ e.spaceDim) (hev : e.coeff v ≠ 0) (x : Pt) :
    0 < (inverseOf e v den).2 ∧ (inverseOf e v den).1.spaceDim = e.spaceDim ∧
    evalRow (inverseOf e v den).1 x / ((inverseOf e v den).2 : ℚ) =
      (- evalRow e x + ((den : ℚ) + (e.coeff v : ℚ)) * x v) / (e.coeff v : ℚ) := by
  have hlen : v + 1 < e.length := by unfold LinExpr.spaceDim at hv1; omega
  have hq : (e.coeff v : ℚ) ≠ 0 := by exact_mod_cast hev
  unfold inverseOf
  by_cases hpos : e.coeff v > 0
  · simp only [hpos, if_true]
    refine ⟨trivial, by simp [setCoeff, LinExpr.spaceDim, negExpr], ?_⟩
    unfold setCoeff
    rw [cn_evalRow_set _ x v _ (by rw [cn_negExpr_length]; exact hlen), cn_negExpr_eval, lz_get_negExpr, ← cn_coeff_eq]
    push_cast; ring
  · simp only [hpos, if_false]
    have hneg : e.coeff v < 0 := by omega
    refine ⟨by omega, by simp [setCoeff, LinExpr.spaceDim], ?_⟩
    unfold setCoeff
    rw [cn_evalRow_set _ x v _ hlen, ← cn_coeff_eq]
    push_cast
    rw [div_eq_div_iff (by simpa using hq) hq]
    ring

/-- the two maps are inverse to each other -/
theorem lzF_inverse_left (e : LinExpr) (v : Nat) (den : Int) (hden : den ≠ 0) (hv1 : v + 1 ≤ e.spaceDim)
    (hev : e.coeff v ≠ 0) (x : Pt) :
    lzF v e den (lzF v (inverseOf e v den).1 (inverseOf e v den).2 x) = x := by
  have hq : (e.coeff v : ℚ) ≠ 0 := by exact_mod_cast hev
  have hd : (den : ℚ) ≠ 0 := by exact_mod_cast hden
  funext i
  unfold lzF
  rw [(lz_inverseOf_eval e v den hv1 hev x).2.2]
  unfold cn_upd
  by_cases hi : i = v
  · subst hi
    rw [if_pos rfl]
    have := cn_evalRow_upd e x i ((- evalRow e x + ((den : ℚ) + (e.coeff i : ℚ)) * x i) / (e.coeff i : ℚ))
    unfold cn_upd at this
    rw [this, ← cn_coeff_eq]
    field_simp
    ring
  · rw [if_neg hi, if_neg hi]

theorem lzF_inverse_right (e : LinExpr) (v : Nat) (den : Int) (hden : den ≠ 0) (hv1 : v + 1 ≤ e.spaceDim)
    (hev : e.coeff v ≠ 0) (x : Pt) :
    lzF v (inverseOf e v den).1 (inverseOf e v den).2 (lzF v e den x) = x := by
  have hq : (e.coeff v : ℚ) ≠ 0 := by exact_mod_cast hev
  have hd : (den : ℚ) ≠ 0 := by exact_mod_cast hden
  funext i
  have h1 : lzF v (inverseOf e v den).1 (inverseOf e v den).2 (lzF v e den x) =
      cn_upd (lzF v e den x) v ((- evalRow e (lzF v e den x) + ((den : ℚ) + (e.coeff v : ℚ)) * (lzF v e den x) v) / (e.coeff v : ℚ)) := by
    unfold lzF
    rw [(lz_inverseOf_eval e v den hv1 hev _).2.2]
  rw [h1]
  unfold cn_upd
  by_cases hi : i = v
  · subst hi
    rw [if_pos rfl]
    have h2 : lzF i e den x i = evalRow e x / (den : ℚ) := by unfold lzF cn_upd; rw [if_pos rfl]
    have h3 : evalRow e (lzF i e den x) = evalRow e x + (e.coeff i : ℚ) * (evalRow e x / (den : ℚ) - x i) := by
      unfold lzF; rw [cn_evalRow_upd, ← cn_coeff_eq]
    rw [h2, h3]
    field_simp
    ring
  · rw [if_neg hi]
    unfold lzF cn_upd
    rw [if_neg hi]

/-- the image under the inverse map is the preimage -/
theorem lz_image_inverse (n v : Nat) (e : LinExpr) (den : Int) (hden : den ≠ 0) (hvn : v < n) (hv1 : v + 1 ≤ e.spaceDim)
    (hev : e.coeff v ≠ 0) (S : Set Pt) (hS : ∀ x ∈ S, Supp n x) :
    lzF v (inverseOf e v den).1 (inverseOf e v den).2 '' S = cn_preSet n v e den S := by
  ext x
  simp only [Set.mem_image, cn_preSet, Set.mem_ofPred_eq]
  constructor
  · rintro ⟨y, hy, rfl⟩
    refine ⟨cn_upd_supp n v y _ hvn (hS y hy), ?_⟩
    have := lzF_inverse_left e v den hden hv1 hev y
    have h2 : cn_upd (lzF v (inverseOf e v den).1 (inverseOf e v den).2 y) v
        (evalRow e (lzF v (inverseOf e v den).1 (inverseOf e v den).2 y) / (den : ℚ)) = y := this
    rw [h2]; exact hy
  · rintro ⟨_, hx⟩
    exact ⟨_, hx, lzF_inverse_right e v den hden hv1 hev x⟩

/-- **the generator-side fact of `affine_preimage`** (`ProofsGridOpsAffinePreimage`) -/
theorem genAffineImageInv_spec : cn_GenAffineImageInvSpec := by
  intro n v e den rows _ hvn he hden hv1 hev hw hN
  obtain ⟨hp, hsd, _⟩ := lz_inverseOf_eval e v den hv1 hev 0
  obtain ⟨_, a, b, c⟩ := lz_GSys_affineImage n v (inverseOf e v den).1 (inverseOf e v den).2 rows _ hp hvn
    (by rw [hsd]; exact he) hw hN
  refine ⟨a, gnorm_firstPointDiv b, ?_⟩
  rw [c]
  exact lz_image_inverse n v e den hden hvn hv1 hev _ (fun x hx => gensSet_supp hN hx)

/-- **`affine_preimage(var, expr, denominator)`** (Grid_public.cc:2043) on a grid that is not marked empty, all paths,
    no hypothesis left -/
theorem affinePreimage_full (g : Grid) (v : Nat) (e : LinExpr) (den : Int) (hI : GridInv g) (hne : g.st.empty = false)
    (hden : den ≠ 0) (hed : e.spaceDim ≤ g.spaceDim) (hv : v + 1 ≤ g.spaceDim) :
    (affinePreimage g v e den).thrown = false ∧ GridInv (affinePreimage g v e den).g ∧
      (affinePreimage g v e den).g.sem = cn_preSet g.spaceDim v e den g.sem ∧
      (affinePreimage g v e den).g.spaceDim = g.spaceDim :=
  cn_affinePreimage_partial genAffineImageInv_spec g v e den hI hne hden hed hv

/-- point `1/2`, parameter `3/2` under `x := 2x + 1`: point `2`, parameter `3`, in the raw form the library leaves -/
example : (GSys.affineImage ⟨1, [⟨false, [2, 1, 0]⟩, ⟨false, [0, 3, 2]⟩]⟩ 0 [1, 2] 1).rows =
    [⟨false, [2, 4, 0]⟩, ⟨false, [0, 6, 2]⟩] := by decide

/-- `x := 5` (not invertible): the parameter becomes the zero row and is removed -/
example : (GSys.affineImage ⟨1, [⟨false, [2, 1, 0]⟩, ⟨false, [0, 3, 2]⟩]⟩ 0 [5, 0] 1).rows = [⟨false, [2, 10, 0]⟩] := by
  decide

/-! ## `Grid::affine_image(var, expr, denominator)` (Grid_public.cc:1951)

`thrown ↔ den = 0 ∨ dimension mismatch`; a marked-empty object is unchanged; otherwise the invariant holds and the grid is
the image under `lzF v e den : x ↦ x[v := (⟨e,x⟩ + e₀)/den]`.
-/

/-! ### the generator step: `affine_image` then `normalize_divisors` -/

theorem lz_genStep (n v : Nat) (e : LinExpr) (den : Int) (rows : List GRow) (D : Int) (hden : den ≠ 0)
    (hvn : v < n) (he : e.spaceDim ≤ n) (hw : GWf n rows) (hN : GNorm n D rows) :
    (normalizeDivisors1 (genAffineImagePos ⟨n, rows⟩ v e den)).dim = n ∧
    GWf n (normalizeDivisors1 (genAffineImagePos ⟨n, rows⟩ v e den)).rows ∧
    GNorm n (firstPointDiv (normalizeDivisors1 (genAffineImagePos ⟨n, rows⟩ v e den)).rows)
      (normalizeDivisors1 (genAffineImagePos ⟨n, rows⟩ v e den)).rows ∧
    gensSet n (normalizeDivisors1 (genAffineImagePos ⟨n, rows⟩ v e den)).rows = lzF v e den '' gensSet n rows := by
  obtain ⟨a, b, ⟨D', c⟩, d⟩ := lz_genAffineImagePos n v e den rows D hden hvn he hw hN
  generalize genAffineImagePos ⟨n, rows⟩ v e den = s at a b c d
  subst a
  obtain ⟨p, q, r, t⟩ := gn_normalizeDivisors1 (gn_wf_of_gnorm c b) (by omega)
  refine ⟨p, q, r, ?_⟩
  rw [gn_bridge r q, t, ← gn_bridge c b, d]

/-! ### the congruence step: the preimage under the inverse map is the image -/

theorem lz_preSet_inverse (n v : Nat) (e : LinExpr) (den : Int) (hden : den ≠ 0) (hvn : v < n) (hv1 : v + 1 ≤ e.spaceDim)
    (hev : e.coeff v ≠ 0) (S : Set Pt) (hS : ∀ x ∈ S, Supp n x) :
    cn_preSet n v (inverseOf e v den).1 (inverseOf e v den).2 S = lzF v e den '' S := by
  ext x
  simp only [Set.mem_image, cn_preSet, Set.mem_ofPred_eq]
  constructor
  · rintro ⟨_, hx⟩
    exact ⟨_, hx, lzF_inverse_left e v den hden hv1 hev x⟩
  · rintro ⟨y, hy, rfl⟩
    refine ⟨cn_upd_supp n v y _ hvn (hS y hy), ?_⟩
    have h2 : cn_upd (lzF v e den y) v
        (evalRow (inverseOf e v den).1 (lzF v e den y) / ((inverseOf e v den).2 : ℚ)) = y :=
      lzF_inverse_right e v den hden hv1 hev y
    rw [h2]; exact hy

theorem lz_conStep (n v : Nat) (e : LinExpr) (den : Int) (con : List CRow) (hden : den ≠ 0) (hvn : v < n)
    (he : e.spaceDim ≤ n) (hv1 : v + 1 ≤ e.spaceDim) (hev : e.coeff v ≠ 0) (hw : CWf n con) :
    CWf n (CSys.affinePreimage ⟨n, con⟩ v (inverseOf e v den).1 (inverseOf e v den).2).rows ∧
    consSet n (CSys.affinePreimage ⟨n, con⟩ v (inverseOf e v den).1 (inverseOf e v den).2).rows =
      lzF v e den '' consSet n con := by
  obtain ⟨hp, hsd, _⟩ := lz_inverseOf_eval e v den hv1 hev 0
  refine ⟨cn_CSys_affinePreimage_CWf ⟨n, con⟩ v _ _ hp hw, ?_⟩
  rw [cn_CSys_affinePreimage_consSet ⟨n, con⟩ v _ _ (by omega) hvn (by rw [hsd]; exact he) hw]
  exact lz_preSet_inverse n v e den hden hvn hv1 hev _ (fun x hx => ((cn_mem_consSet n con x).mp hx).1)

/-! ### the non-invertible path -/

/-- the receiver of the non-invertible path once the generators are up to date -/
def lz_aiBody (g1 : Grid) (v : Nat) (e : LinExpr) (den : Int) : Grid :=
  (((g1.withGs (genAffineImagePos g1.gs v e den)).clearCongruencesUpToDate).clearGeneratorsMinimized).withGs
    (normalizeDivisors1 (((g1.withGs (genAffineImagePos g1.gs v e den)).clearCongruencesUpToDate).clearGeneratorsMinimized).gs)

theorem lz_aiBody_spec (g1 : Grid) (v : Nat) (e : LinExpr) (den : Int) (hI : GridInv g1) (hne : g1.st.empty = false)
    (hg : g1.st.gUp = true) (hden : den ≠ 0) (hed : e.spaceDim ≤ g1.spaceDim) (hv : v + 1 ≤ g1.spaceDim) :
    GridInv (lz_aiBody g1 v e den) ∧ (lz_aiBody g1 v e den).sem = lzF v e den '' g1.sem ∧
      (lz_aiBody g1 v e den).spaceDim = g1.spaceDim := by
  have hpos : 0 < g1.spaceDim := by omega
  obtain ⟨hgd, hgw, hgn⟩ := hI.gwf hne hpos hg
  have hgs : g1.gs = ⟨g1.spaceDim, g1.gen⟩ := by show GSys.mk g1.genDim g1.gen = _; rw [hgd]
  obtain ⟨a, b, c, d⟩ := lz_genStep g1.spaceDim v e den g1.gen _ hden (by omega) hed hgw hgn
  rw [← hgs] at a b c d
  have hI' := inv_of_noMin (lz_aiBody g1 v e den)
    hpos hne rfl rfl (hI.hi0 hne) (Or.inr hg) (fun h => by cases h) (fun _ => ⟨a, b, c⟩) (fun h => by cases h)
  refine ⟨hI', ?_, rfl⟩
  rw [sem_of_gUp (g := lz_aiBody g1 v e den) hne hpos hg, sem_of_gUp hne hpos hg]
  exact d

/-! ### the invertible path -/

def lz_aiGen (g : Grid) (v : Nat) (e : LinExpr) (den : Int) : Grid :=
  (g.withGs (normalizeDivisors1 (genAffineImagePos g.gs v e den))).clearGeneratorsMinimized
def lz_aiCon (g : Grid) (v : Nat) (e : LinExpr) (den : Int) : Grid :=
  (g.withCs (g.cs.affinePreimage v (inverseOf e v den).1 (inverseOf e v den).2)).clearCongruencesMinimized

def lz_aiGenIf (g : Grid) (v : Nat) (e : LinExpr) (den : Int) : Grid :=
  if g.generatorsAreUpToDate then lz_aiGen g v e den else g
def lz_aiConIf (g1 : Grid) (v : Nat) (e : LinExpr) (den : Int) : Grid :=
  if g1.congruencesAreUpToDate then lz_aiCon g1 v e den else g1

theorem lz_aiGen_cUp (g : Grid) (v : Nat) (e : LinExpr) (den : Int) : (lz_aiGen g v e den).st.cUp = g.st.cUp := rfl

theorem lz_aiInv_eq (g : Grid) (v : Nat) (e : LinExpr) (den : Int) :
    lz_aiConIf (lz_aiGenIf g v e den) v e den =
      if g.st.gUp = true then (if g.st.cUp = true then lz_aiCon (lz_aiGen g v e den) v e den else lz_aiGen g v e den)
      else (if g.st.cUp = true then lz_aiCon g v e den else g) := by
  by_cases hg : g.st.gUp = true <;> by_cases hc : g.st.cUp = true <;>
    simp [lz_aiConIf, lz_aiGenIf, Grid.generatorsAreUpToDate, Grid.congruencesAreUpToDate, hg, hc, lz_aiGen_cUp]

theorem lz_affineImage_inv_eq (g : Grid) (v : Nat) (e : LinExpr) (den : Int) (hden : den ≠ 0)
    (hdim : ¬ (g.spaceDim < e.spaceDim ∨ g.spaceDim < v + 1)) (hne : g.st.empty = false)
    (hinv : v + 1 ≤ e.spaceDim ∧ e.coeff v ≠ 0) :
    affineImage g v e den = { g :=
      if g.st.gUp = true then (if g.st.cUp = true then lz_aiCon (lz_aiGen g v e den) v e den else lz_aiGen g v e den)
      else (if g.st.cUp = true then lz_aiCon g v e den else g) } := by
  have : affineImage g v e den = { g := lz_aiConIf (lz_aiGenIf g v e den) v e den } := by
    unfold affineImage
    rw [if_neg hden, if_neg hdim, if_neg (show ¬ (g.markedEmpty = true) by simpa [Grid.markedEmpty] using hne), if_pos hinv]
    rfl
  rw [this, lz_aiInv_eq]

theorem lz_affineImage_noninv_eq (g : Grid) (v : Nat) (e : LinExpr) (den : Int) (hden : den ≠ 0)
    (hdim : ¬ (g.spaceDim < e.spaceDim ∨ g.spaceDim < v + 1)) (hne : g.st.empty = false)
    (hinv : ¬ (v + 1 ≤ e.spaceDim ∧ e.coeff v ≠ 0)) :
    affineImage g v e den =
      if (!(if (!g.generatorsAreUpToDate) = true then (minimize g).1 else g).markedEmpty) = true then
        { g := lz_aiBody (if (!g.generatorsAreUpToDate) = true then (minimize g).1 else g) v e den }
      else { g := (if (!g.generatorsAreUpToDate) = true then (minimize g).1 else g) } := by
  unfold affineImage
  rw [if_neg hden, if_neg hdim, if_neg (show ¬ (g.markedEmpty = true) by simpa [Grid.markedEmpty] using hne),
    if_neg hinv]
  rfl

/-- **`affine_image(var, expr, denominator)`** on a grid that is not marked empty -/
theorem affineImage_full (g : Grid) (v : Nat) (e : LinExpr) (den : Int) (hI : GridInv g) (hne : g.st.empty = false)
    (hden : den ≠ 0) (hed : e.spaceDim ≤ g.spaceDim) (hv : v + 1 ≤ g.spaceDim) :
    (affineImage g v e den).thrown = false ∧ GridInv (affineImage g v e den).g ∧
      (affineImage g v e den).g.sem = lzF v e den '' g.sem ∧
      (affineImage g v e den).g.spaceDim = g.spaceDim := by
  have hpos : 0 < g.spaceDim := by omega
  have hdim : ¬ (g.spaceDim < e.spaceDim ∨ g.spaceDim < v + 1) := by omega
  by_cases hinv : v + 1 ≤ e.spaceDim ∧ e.coeff v ≠ 0
  · rw [lz_affineImage_inv_eq g v e den hden hdim hne hinv]
    refine ⟨rfl, ?_⟩
    -- the two steps
    have hG : g.st.gUp = true →
        (normalizeDivisors1 (genAffineImagePos g.gs v e den)).dim = g.spaceDim ∧
        GWf g.spaceDim (normalizeDivisors1 (genAffineImagePos g.gs v e den)).rows ∧
        GNorm g.spaceDim (firstPointDiv (normalizeDivisors1 (genAffineImagePos g.gs v e den)).rows)
          (normalizeDivisors1 (genAffineImagePos g.gs v e den)).rows ∧
        gensSet g.spaceDim (normalizeDivisors1 (genAffineImagePos g.gs v e den)).rows =
          lzF v e den '' gensSet g.spaceDim g.gen := by
      intro hg
      obtain ⟨hgd, hgw, hgn⟩ := hI.gwf hne hpos hg
      have hgs : g.gs = ⟨g.spaceDim, g.gen⟩ := by show GSys.mk g.genDim g.gen = _; rw [hgd]
      rw [hgs]
      exact lz_genStep g.spaceDim v e den g.gen _ hden (by omega) hed hgw hgn
    have hC : g.st.cUp = true →
        CWf g.spaceDim (g.cs.affinePreimage v (inverseOf e v den).1 (inverseOf e v den).2).rows ∧
        consSet g.spaceDim (g.cs.affinePreimage v (inverseOf e v den).1 (inverseOf e v den).2).rows =
          lzF v e den '' consSet g.spaceDim g.con := by
      intro hc
      obtain ⟨hcd, hcw⟩ := hI.cwf hne hpos hc
      have hcs : g.cs = ⟨g.spaceDim, g.con⟩ := by show CSys.mk g.conDim g.con = _; rw [hcd]
      rw [hcs]
      exact lz_conStep g.spaceDim v e den g.con hden (by omega) hed hinv.1 hinv.2 hcw
    have hcd : g.st.cUp = true → g.conDim = g.spaceDim := fun hc => (hI.cwf hne hpos hc).1
    by_cases hg : g.st.gUp = true <;> by_cases hc : g.st.cUp = true
    · rw [if_pos hg, if_pos hc]
      obtain ⟨g1, g2, g3, g4⟩ := hG hg
      obtain ⟨c2, c3⟩ := hC hc
      have hag : consSet g.spaceDim (g.cs.affinePreimage v (inverseOf e v den).1 (inverseOf e v den).2).rows =
          gensSet g.spaceDim (normalizeDivisors1 (genAffineImagePos g.gs v e den)).rows := by
        rw [c3, g4, hI.agree hne hpos hc hg]
      refine ⟨inv_of_noMin (lz_aiCon (lz_aiGen g v e den) v e den) hpos hne rfl rfl (hI.hi0 hne) (Or.inl hc)
        (fun _ => ⟨hcd hc, c2⟩) (fun _ => ⟨g1, g2, g3⟩) (fun _ _ => hag), ?_, rfl⟩
      rw [sem_of_gUp (g := lz_aiCon (lz_aiGen g v e den) v e den) hne hpos hg, sem_of_gUp hne hpos hg]
      exact g4
    · rw [if_pos hg, if_neg hc]
      obtain ⟨g1, g2, g3, g4⟩ := hG hg
      have hcm : g.st.cMin = false := by
        by_contra h; exact hc (hI.cminUp (by simpa using h))
      refine ⟨inv_of_noMin (lz_aiGen g v e den) hpos hne hcm rfl (hI.hi0 hne) (Or.inr hg) (fun h => absurd h hc)
        (fun _ => ⟨g1, g2, g3⟩) (fun h => absurd h hc), ?_, rfl⟩
      rw [sem_of_gUp (g := lz_aiGen g v e den) hne hpos hg, sem_of_gUp hne hpos hg]
      exact g4
    · rw [if_neg hg, if_pos hc]
      obtain ⟨c2, c3⟩ := hC hc
      have hgf : g.st.gUp = false := by simpa using hg
      have hgm : g.st.gMin = false := by
        by_contra h; exact hg (hI.gminUp (by simpa using h))
      have := inv_of_conOnly (lz_aiCon g v e den) hpos hne hc hgf rfl hgm (hI.hi0 hne) (hcd hc) c2
      refine ⟨this.1, ?_, rfl⟩
      rw [this.2, sem_of_cUp hI hne hpos hc]
      exact c3
    · exact absurd (hI.some hne hpos) (by simp [hc, hg])
  · -- the non-invertible path
    have hunf := lz_affineImage_noninv_eq g v e den hden hdim hne hinv
    rw [hunf]
    by_cases hg : g.st.gUp = true
    · have : (if (!g.generatorsAreUpToDate) = true then (minimize g).1 else g) = g := by
        simp [Grid.generatorsAreUpToDate, hg]
      rw [this, if_pos (show (!g.markedEmpty) = true by simpa [Grid.markedEmpty] using hne)]
      exact ⟨rfl, lz_aiBody_spec g v e den hI hne hg hden hed hv⟩
    · have : (if (!g.generatorsAreUpToDate) = true then (minimize g).1 else g) = (minimize g).1 := by
        simp [Grid.generatorsAreUpToDate, hg]
      rw [this]
      obtain ⟨m1, m2, m3, m4, m5, m6⟩ := minimize_spec g hI
      by_cases hb : (minimize g).2 = true
      · obtain ⟨n1, n2, _⟩ := m6 hb hpos
        rw [if_pos (show (!(minimize g).1.markedEmpty) = true by simpa [Grid.markedEmpty] using n1)]
        obtain ⟨b1, b2, b3⟩ := lz_aiBody_spec (minimize g).1 v e den m1 n1 (m1.gminUp n2) hden (by omega) (by omega)
        exact ⟨rfl, b1, by rw [b2, m2], b3.trans m3⟩
      · have hemp := m5 (by simpa using hb)
        rw [if_neg (show ¬ ((!(minimize g).1.markedEmpty) = true) by simp [Grid.markedEmpty, hemp])]
        refine ⟨rfl, m1, ?_, m3⟩
        have hge : g.sem = ∅ := by
          by_contra hne'
          exact hb (m4.mpr (Set.nonempty_iff_ne_empty.mpr hne'))
        rw [m2, hge, Set.image_empty]

theorem lz_R_ite (c : Prop) [Decidable c] (a b : Grid) :
    (if c then ({ g := a } : R) else { g := b }).thrown = false := by split <;> rfl

/-- throws exactly on a zero denominator or a dimension mismatch; a thrown or marked-empty object is unchanged -/
theorem affineImage_thrown (g : Grid) (v : Nat) (e : LinExpr) (den : Int) :
    ((affineImage g v e den).thrown = true ↔ (den = 0 ∨ g.spaceDim < e.spaceDim ∨ g.spaceDim < v + 1)) ∧
    ((affineImage g v e den).thrown = true → (affineImage g v e den).g = g) ∧
    (g.st.empty = true → (affineImage g v e den).g = g) := by
  unfold affineImage
  refine (Checks.reject (den = 0) fun _ => Checks.reject _ fun _ => Checks.body fun _ => ?_).congr (or_congr_right (or_iff_left id))
  split
  · rfl
  · exact lz_R_ite _ _ _

/-- `x ≡ 1 (mod 2)` (point 1, parameter 2; congruences up to date as well) under `x := 3x + 1` and under `x := 5` -/
example :
    let g : Grid := Grid.mk 1 { cUp := true, gUp := true } 1 [⟨[-1, 1], 2⟩] 1 [⟨false, [1, 1, 0]⟩, ⟨false, [0, 2, 1]⟩] []
    invB g = true ∧ (affineImage g 0 [1, 3] 1).g.gen = [⟨false, [1, 4, 0]⟩, ⟨false, [0, 6, 1]⟩] ∧
      invB (affineImage g 0 [1, 3] 1).g = true ∧
      (affineImage g 0 [5, 0] 1).g.gen = [⟨false, [1, 5, 0]⟩] ∧ invB (affineImage g 0 [5, 0] 1).g = true := by
  decide +kernel

end PPLV.Lattice.GO

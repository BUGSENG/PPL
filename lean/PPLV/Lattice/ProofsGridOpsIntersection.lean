import PPLV.Lattice.ProofsGridOpsAddCongruence
import PPLV.Lattice.ProofsGridOpsConstruct
import PPLV.Lattice.ProofsGridOpsLazy

/-!
# The `Grid` object: `intersection_assign`, `is_disjoint_from`
-/
namespace PPLV.Lattice.GO
open PPLV.Lattice PPLV.Lattice.Red

/-! ## `intersection_assign(y)` (Grid_public.cc:1549) -/

/-- the receiver of `intersection_assign` after the rows of `y` have been inserted -/
def cn_interBody (x1 y1 : Grid) : Grid :=
  ((x1.withCs (x1.cs.insertSys y1.cs)).clearGeneratorsUpToDate).clearCongruencesMinimized

theorem cn_interBody_spec (x1 y1 : Grid) (hx : GridInv x1) (hy : GridInv y1) (hd : x1.spaceDim = y1.spaceDim)
    (hpos : 0 < x1.spaceDim) (hex : x1.st.empty = false) (hey : y1.st.empty = false) (hcx : x1.st.cUp = true)
    (hcy : y1.st.cUp = true) :
    GridInv (cn_interBody x1 y1) ∧ (cn_interBody x1 y1).sem = x1.sem ∩ y1.sem ∧
      (cn_interBody x1 y1).spaceDim = x1.spaceDim := by
  have hposy : 0 < y1.spaceDim := by omega
  obtain ⟨hcdx, hwx⟩ := hx.cwf hex hpos hcx
  obtain ⟨hcdy, hwy⟩ := hy.cwf hey hposy hcy
  have hdc : y1.cs.dim ≤ x1.cs.dim := by show y1.conDim ≤ x1.conDim; omega
  have hwx' : CWf x1.cs.dim x1.cs.rows := by show CWf x1.conDim x1.con; rw [hcdx]; exact hwx
  have hdim := cn_insertSys_dim x1.cs y1.cs hdc
  have hcons := cn_insertSys_consSet x1.cs y1.cs hdc
  have hcwf := cn_insertSys_CWf x1.cs y1.cs hwx' hdc (fun r hr => (hwy r hr).2)
  have hcsd : x1.cs.dim = x1.spaceDim := hcdx
  rw [hcsd] at hcons hcwf hdim
  have := inv_of_conOnly (cn_interBody x1 y1) hpos hex hcx rfl rfl rfl (hx.hi0 hex) hdim hcwf
  refine ⟨this.1, ?_, rfl⟩
  rw [this.2]
  show consSet x1.spaceDim (x1.cs.insertSys y1.cs).rows = _
  rw [hcons, sem_of_cUp hx hex hpos hcx, sem_of_cUp hy hey hposy hcy, ← hd, cn_consSet_eq x1.spaceDim y1.con,
    ← Set.inter_assoc, Set.inter_eq_left.mpr (cn_consSet_subset_space x1.spaceDim x1.con)]
  rfl

/-- Grid_public.cc:1549 `intersection_assign(y)`: throws exactly on a dimension mismatch (objects unchanged); otherwise
    the receiver becomes the intersection, the argument keeps its grid (its congruences may have been brought up to
    date) -/
theorem cn_intersectionAssign (x y : Grid) (hx : GridInv x) (hy : GridInv y) :
    ((intersectionAssign x y).thrown = true ↔ x.spaceDim ≠ y.spaceDim) ∧
    ((intersectionAssign x y).thrown = true → (intersectionAssign x y).x = x ∧ (intersectionAssign x y).y = y) ∧
    ((intersectionAssign x y).thrown = false →
      GridInv (intersectionAssign x y).x ∧ GridInv (intersectionAssign x y).y ∧
      (intersectionAssign x y).x.sem = x.sem ∩ y.sem ∧ (intersectionAssign x y).y.sem = y.sem ∧
      (intersectionAssign x y).x.spaceDim = x.spaceDim ∧ (intersectionAssign x y).y.spaceDim = y.spaceDim) := by
  unfold intersectionAssign
  by_cases hd : x.spaceDim ≠ y.spaceDim
  · rw [if_pos hd]
    exact ⟨⟨fun _ => hd, fun _ => rfl⟩, fun _ => ⟨rfl, rfl⟩, (fun h => by cases h)⟩
  · rw [if_neg hd]
    have hdd : x.spaceDim = y.spaceDim := not_not.mp hd
    have hthr : ((false = true) ↔ x.spaceDim ≠ y.spaceDim) := ⟨(fun h => by cases h), fun h => absurd h hd⟩
    by_cases hex : x.st.empty = true
    · have : x.markedEmpty = true := hex
      rw [if_pos this]
      refine ⟨hthr, (fun h => by cases h), fun _ => ⟨hx, hy, ?_, rfl, rfl, rfl⟩⟩
      rw [sem_of_empty hex, Set.empty_inter]
    · have hnx : x.st.empty = false := by simpa using hex
      have : ¬ (x.markedEmpty = true) := hex
      rw [if_neg this]
      by_cases hey : y.st.empty = true
      · have : y.markedEmpty = true := hey
        rw [if_pos this]
        refine ⟨hthr, (fun h => by cases h), fun _ => ⟨setEmpty_inv x, hy, ?_, rfl, rfl, rfl⟩⟩
        rw [setEmpty_sem, sem_of_empty hey, Set.inter_empty]
      · have hny : y.st.empty = false := by simpa using hey
        have : ¬ (y.markedEmpty = true) := hey
        rw [if_neg this]
        by_cases h0 : x.spaceDim = 0
        · rw [if_pos h0]
          refine ⟨hthr, (fun h => by cases h), fun _ => ⟨hx, hy, ?_, rfl, rfl, rfl⟩⟩
          rw [sem_of_zdim hnx h0, sem_of_zdim hny (by omega), Set.inter_self]
        · rw [if_neg h0]
          have hposx : 0 < x.spaceDim := by omega
          have hposy : 0 < y.spaceDim := by omega
          obtain ⟨hI1, hs1, hd1, he1, hc1⟩ := cn_ensureCon x hx hnx hposx
          obtain ⟨hI2, hs2, hd2, he2, hc2⟩ := cn_ensureCon y hy hny hposy
          generalize (if !x.congruencesAreUpToDate then updateCongruences x else x) = x1 at hI1 hs1 hd1 he1 hc1 ⊢
          generalize (if !y.congruencesAreUpToDate then updateCongruences y else y) = y1 at hI2 hs2 hd2 he2 hc2 ⊢
          have hpos1 : 0 < x1.spaceDim := by omega
          have hpos2 : 0 < y1.spaceDim := by omega
          by_cases hnil : (!y1.con.isEmpty) = true
          · rw [if_pos hnil]
            obtain ⟨b1, b2, b3⟩ := cn_interBody_spec x1 y1 hI1 hI2 (by omega) hpos1 he1 he2 hc1 hc2
            exact ⟨hthr, (fun h => by cases h), fun _ => ⟨b1, hI2, by rw [← hs1, ← hs2]; exact b2, hs2, b3.trans hd1, hd2⟩⟩
          · rw [if_neg hnil]
            refine ⟨hthr, (fun h => by cases h), fun _ => ⟨hI1, hI2, ?_, hs2, hd1, hd2⟩⟩
            have hyn : y1.con = [] := by simpa using hnil
            have hys : y1.sem = spaceSet y1.spaceDim := by
              rw [sem_of_cUp hI2 he2 hpos2 hc2, hyn, cn_consSet_nil]
            rw [← hs2, hys, hs1, Set.inter_eq_left.mpr]
            rw [hd2, ← hdd]
            exact cn_sem_subset_space x hx

/-- `{x ≡ 0 (mod 3)}` in dimension 1 -/
def cn_exGrid3 : Grid :=
  { spaceDim := 1, st := { cUp := true }, conDim := 1, con := [{ e := [0, 1], m := 3 }], genDim := 1, gen := [], dk := [] }

theorem cn_exGrid3_inv : GridInv cn_exGrid3 :=
  (inv_of_conOnly cn_exGrid3 (by decide) rfl rfl rfl rfl rfl rfl rfl (by unfold CWf; decide)).1

example : GridInv cn_exGrid ∧ GridInv cn_exGrid3 ∧ (intersectionAssign cn_exGrid cn_exGrid3).thrown = false ∧
    (intersectionAssign cn_exGrid cn_exGrid3).x.con = [{ e := [0, 1], m := 2 }, { e := [0, 1], m := 3 }] :=
  ⟨cn_exGrid_inv, cn_exGrid3_inv, by decide, by decide⟩

/-! ## The copy constructor (as `is_disjoint_from` uses it), `is_disjoint_from(y)` (Grid_public.cc:2854) -/

/-- Grid_public.cc:2854 `is_disjoint_from(y)`: `none` (a throw) exactly on a dimension mismatch; the receiver is not
    touched, the argument keeps its grid; the answer tells whether the intersection is empty -/
theorem cn_isDisjointFrom (x y : Grid) (hx : GridInv x) (hy : GridInv y) :
    ((isDisjointFrom x y).2.2 = none ↔ x.spaceDim ≠ y.spaceDim) ∧
    ((isDisjointFrom x y).2.2 = none → (isDisjointFrom x y).2.1 = y) ∧
    (isDisjointFrom x y).1 = x ∧
    GridInv (isDisjointFrom x y).2.1 ∧ (isDisjointFrom x y).2.1.sem = y.sem ∧
    (isDisjointFrom x y).2.1.spaceDim = y.spaceDim ∧
    (∀ b, (isDisjointFrom x y).2.2 = some b → (b = true ↔ x.sem ∩ y.sem = ∅)) := by
  unfold isDisjointFrom
  by_cases hd : x.spaceDim ≠ y.spaceDim
  · rw [if_pos hd]
    exact ⟨⟨fun _ => hd, fun _ => rfl⟩, fun _ => rfl, rfl, hy, rfl, rfl, (fun b h => by cases h)⟩
  · rw [if_neg hd]
    have hdd : x.spaceDim = y.spaceDim := not_not.mp hd
    obtain ⟨c1, c2, c3, _⟩ := copyCtor_spec x hx
    obtain ⟨i1, _, i3⟩ := cn_intersectionAssign (copyCtor x) y c1 hy
    have hnt : (intersectionAssign (copyCtor x) y).thrown = false := by
      by_contra h
      exact (i1.mp (by simpa using h)) (by rw [c3]; exact hdd)
    obtain ⟨j1, j2, j3, j4, _, j6⟩ := i3 hnt
    obtain ⟨_, _, _, e4, _, _⟩ := isEmpty_spec _ j1
    refine ⟨⟨(fun h => by cases h), fun h => absurd h hd⟩, (fun h => by cases h), rfl, j2, j4, j6, fun b hb => ?_⟩
    have : b = (isEmpty (intersectionAssign (copyCtor x) y).x).2 := (Option.some.inj hb).symm
    rw [this, e4, j3, c2]

example : (isDisjointFrom cn_exGrid cn_exGrid3).2.2 = some false := by decide +kernel

end PPLV.Lattice.GO

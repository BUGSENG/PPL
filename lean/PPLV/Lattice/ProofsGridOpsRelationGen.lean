import PPLV.Lattice.ProofsGridOpsInclusion

/-!
# The `Grid` object: `relation_with(const Grid_Generator&)`
-/
namespace PPLV.Lattice.GO
open PPLV.Lattice PPLV.Lattice.Red

/-! ## One generator against a congruence system: `satisfies_all_congruences(g)` says that the solution set contains the point / absorbs the parameter / absorbs the line -/

theorem gn_alpha_shift (c : Row) (hc : 0 < c.length) (v : Pt) :
    alphaOf (ratRow c) (shift v) = dotF (ratRow c).tail v := by
  cases c with
  | nil => simp at hc
  | cons a c =>
    have : ratRow (a :: c) = (a : ℚ) :: ratRow c := rfl
    rw [alphaOf_apply, this, dotF_cons, List.tail_cons]
    have e : Pt.tail (shift v) = v := by funext i; rfl
    rw [e]; simp [shift]

theorem gn_toCg_sem_iff (c : CRow) (x : Pt) :
    c.toCg.sem x ↔ ∃ t : Int, dotF (ratRow c.e).tail x + (get c.e 0 : ℚ) = (t : ℚ) * (c.m : ℚ) := Iff.rfl

/-- a point row against one congruence row -/
theorem gn_cert_pt {n : Nat} (c : CRow) (hc : c.e.length = n + 1) (g : GRow) (hlen : g.e.length = n + 2)
    (hp : gn_isPt g = true) : CertPair n (get g.e 0) c g ↔ c.toCg.sem (gn_vecOf g) := by
  obtain ⟨hl, h0⟩ := (gn_isPt_iff g).mp hp
  have hDq : ((get g.e 0 : Int) : ℚ) ≠ 0 := by exact_mod_cast h0
  have key : ((dotRow c.e g.e n : Int) : ℚ) =
      ((get g.e 0 : Int) : ℚ) * (dotF (ratRow c.e).tail (gn_vecOf g) + (get c.e 0 : ℚ)) := by
    rw [← alphaOf_hvec n c.e hc, hvec_point n g (get g.e 0) h0 rfl, alphaOf_homog c.e (by omega), gn_vecOf_pt hlen hp]
  unfold CertPair
  rw [if_neg (by rw [hl]; simp), gn_toCg_sem_iff]
  constructor
  · rintro ⟨t, ht⟩
    refine ⟨t, ?_⟩
    have : ((dotRow c.e g.e n : Int) : ℚ) = ((get g.e 0 * c.m * t : Int) : ℚ) := by rw [ht]
    rw [key] at this
    push_cast at this
    have h2 : ((get g.e 0 : Int) : ℚ) * (dotF (ratRow c.e).tail (gn_vecOf g) + (get c.e 0 : ℚ))
        = ((get g.e 0 : Int) : ℚ) * ((t : ℚ) * (c.m : ℚ)) := by rw [this]; ring
    exact mul_left_cancel₀ hDq h2
  · rintro ⟨t, ht⟩
    refine ⟨t, ?_⟩
    have : ((dotRow c.e g.e n : Int) : ℚ) = ((get g.e 0 * c.m * t : Int) : ℚ) := by
      rw [key, ht]; push_cast; ring
    exact_mod_cast this

/-- a parameter row against one congruence row: the value of the homogeneous form on the vector is in `m ℤ` -/
theorem gn_cert_par {n : Nat} (c : CRow) (hc : c.e.length = n + 1) (g : GRow) (hlen : g.e.length = n + 2)
    (hp : gn_isPar g = true) (hd : g.divisor ≠ 0) :
    CertPair n g.divisor c g ↔ ∃ t : Int, dotF (ratRow c.e).tail (gn_vecOf g) = (t : ℚ) * (c.m : ℚ) := by
  obtain ⟨hl, h0⟩ := (gn_isPar_iff g).mp hp
  have hdv := divisor_param n g hlen h0
  have hDq : ((g.divisor : Int) : ℚ) ≠ 0 := by exact_mod_cast hd
  have key : ((dotRow c.e g.e n : Int) : ℚ) = ((g.divisor : Int) : ℚ) * dotF (ratRow c.e).tail (gn_vecOf g) := by
    rw [← alphaOf_hvec n c.e hc, hvec_dir n g ((g.divisor : Int) : ℚ) hDq h0, map_smul, smul_eq_mul,
      gn_alpha_shift c.e (by omega), gn_vecOf_par hlen hp, hdv]
  unfold CertPair
  rw [if_neg (by rw [hl]; simp)]
  constructor
  · rintro ⟨t, ht⟩
    refine ⟨t, ?_⟩
    have : ((dotRow c.e g.e n : Int) : ℚ) = ((g.divisor * c.m * t : Int) : ℚ) := by rw [ht]
    rw [key] at this
    push_cast at this
    have h2 : ((g.divisor : Int) : ℚ) * dotF (ratRow c.e).tail (gn_vecOf g)
        = ((g.divisor : Int) : ℚ) * ((t : ℚ) * (c.m : ℚ)) := by rw [this]; ring
    exact mul_left_cancel₀ hDq h2
  · rintro ⟨t, ht⟩
    refine ⟨t, ?_⟩
    have : ((dotRow c.e g.e n : Int) : ℚ) = ((g.divisor * c.m * t : Int) : ℚ) := by
      rw [key, ht]; push_cast; ring
    exact_mod_cast this

/-- a line row against one congruence row: the homogeneous form vanishes on the vector -/
theorem gn_cert_line {n : Nat} (D : Int) (c : CRow) (hc : c.e.length = n + 1) (g : GRow) (hlen : g.e.length = n + 2)
    (hl : g.line = true) (h0 : get g.e 0 = 0) :
    CertPair n D c g ↔ dotF (ratRow c.e).tail (gn_vecOf g) = 0 := by
  have key : ((dotRow c.e g.e n : Int) : ℚ) = dotF (ratRow c.e).tail (gn_vecOf g) := by
    have e := hvec_dir n g 1 one_ne_zero h0
    rw [one_smul] at e
    rw [← alphaOf_hvec n c.e hc, e, gn_alpha_shift c.e (by omega), gn_vecOf_line hlen hl]
  unfold CertPair
  rw [if_pos hl, ← key]
  exact ⟨fun h => by rw [h]; simp, fun h => by exact_mod_cast h⟩

/-! ### against the whole solution set -/

/-- a non-empty solution set absorbs the integer multiples of `v` iff every homogeneous form has a value in `m ℤ` on `v` -/
theorem gn_absorb_par_iff {n : Nat} {cs : List CRow} (hne : (consSet n cs).Nonempty) (v : Pt) (hv : Supp n v) :
    (∀ c ∈ cs, ∃ t : Int, dotF (ratRow c.e).tail v = (t : ℚ) * (c.m : ℚ)) ↔
    ∀ a ∈ consSet n cs, ∀ k : Int, a + (k : ℚ) • v ∈ consSet n cs := by
  constructor
  · intro h a ha k
    rw [cn_mem_consSet] at ha ⊢
    refine ⟨fun i hi => by simp [ha.1 i hi, hv i hi], fun c hc => ?_⟩
    obtain ⟨t0, ht0⟩ := (gn_toCg_sem_iff c a).mp (ha.2 c hc)
    obtain ⟨t, ht⟩ := h c hc
    refine (gn_toCg_sem_iff c _).mpr ⟨t0 + k * t, ?_⟩
    rw [dotF_add, dotF_smul, ht]; push_cast; linear_combination ht0
  · intro h c hc
    obtain ⟨a, ha⟩ := hne
    have h1 := h a ha 1
    rw [cn_mem_consSet] at ha h1
    obtain ⟨t0, ht0⟩ := (gn_toCg_sem_iff c a).mp (ha.2 c hc)
    obtain ⟨t1, ht1⟩ := (gn_toCg_sem_iff c _).mp (h1.2 c hc)
    refine ⟨t1 - t0, ?_⟩
    rw [dotF_add, dotF_smul] at ht1
    push_cast at ht1 ⊢
    linear_combination ht1 - ht0

/-- … the rational multiples iff every homogeneous form vanishes on `v` -/
theorem gn_absorb_line_iff {n : Nat} {cs : List CRow} (hne : (consSet n cs).Nonempty) (v : Pt) (hv : Supp n v) :
    (∀ c ∈ cs, dotF (ratRow c.e).tail v = 0) ↔ ∀ a ∈ consSet n cs, ∀ q : ℚ, a + q • v ∈ consSet n cs := by
  constructor
  · intro h a ha q
    rw [cn_mem_consSet] at ha ⊢
    refine ⟨fun i hi => by simp [ha.1 i hi, hv i hi], fun c hc => ?_⟩
    obtain ⟨t0, ht0⟩ := (gn_toCg_sem_iff c a).mp (ha.2 c hc)
    refine (gn_toCg_sem_iff c _).mpr ⟨t0, ?_⟩
    rw [dotF_add, dotF_smul, h c hc]; linear_combination ht0
  · intro h c hc
    obtain ⟨a, ha⟩ := hne
    refine half_trick _ (c.m : ℚ) fun q => ?_
    have h1 := h a ha q
    rw [cn_mem_consSet] at ha h1
    obtain ⟨t0, ht0⟩ := (gn_toCg_sem_iff c a).mp (ha.2 c hc)
    obtain ⟨t1, ht1⟩ := (gn_toCg_sem_iff c _).mp (h1.2 c hc)
    refine ⟨t1 - t0, ?_⟩
    rw [dotF_add, dotF_smul] at ht1
    push_cast
    linear_combination ht1 - ht0

/-! ## `Grid::relation_with(const Grid_Generator&)` (Grid_public.cc:578) -/

theorem gn_dotUpto_congr (c g g' : Row) : ∀ k : Nat, (∀ i, i < k → get g i = get g' i) → dotUpto c g k = dotUpto c g' k
  | 0, _ => rfl
  | k + 1, h => by
    simp only [dotUpto]
    rw [gn_dotUpto_congr c g g' k (fun i hi => h i (by omega)), h k (by omega)]

theorem gn_dotUpto_zero_tail (c g : Row) (m : Nat) : ∀ k : Nat, m ≤ k → (∀ i, m ≤ i → i < k → get g i = 0) →
    dotUpto c g k = dotUpto c g m
  | 0, hk, _ => by have : m = 0 := by omega
                   rw [this]
  | k + 1, hk, h => by
    rcases Nat.eq_or_lt_of_le hk with e | hlt
    · rw [e]
    · simp only [dotUpto]
      rw [gn_dotUpto_zero_tail c g m k (by omega) (fun i h1 h2 => h i h1 (by omega)), h k (by omega) (by omega)]
      simp

/-- `satisfies_all_congruences` does not see the padding of `set_space_dimension` -/
theorem gn_satisfiesAll_resize (s : CSys) {x : GRow} (hx : gn_RowOK x) {n : Nat} (hd : x.spaceDim ≤ n) :
    s.satisfiesAll (x.setSpaceDim n) = s.satisfiesAll x := by
  obtain ⟨r1, r2, r3, r4, _⟩ := gn_row_resized hx hd
  have hsp : ∀ cg : CRow,
      ((List.range ((x.setSpaceDim n).spaceDim + 1)).map fun i => get (x.setSpaceDim n).e i * get cg.e i).foldl (· + ·) 0
      = ((List.range (x.spaceDim + 1)).map fun i => get x.e i * get cg.e i).foldl (· + ·) 0 := by
    intro cg
    rw [gn_spg_eq, gn_spg_eq, gn_spaceDim_of_len r2]
    rcases Nat.eq_or_lt_of_le hd with e | hlt
    · rw [← e, gn_setSpaceDim_id (by rw [hx.len])]
    · have hg := gn_get_setSpaceDim_pad hx.len hlt
      rw [gn_dotUpto_zero_tail cg.e _ (x.spaceDim + 1) (n + 1) (by omega) (fun i h1 h2 => by
        rw [hg, if_neg (by omega), if_neg (by omega)])]
      exact gn_dotUpto_congr _ _ _ _ (fun i hi => by rw [hg, if_pos (by omega)])
  unfold CSys.satisfiesAll
  simp only [hsp, r1, r4]

/-- `subsumes`: the grid contains the point / absorbs the parameter / absorbs the line -/
def gn_Subsumes (S : Set Pt) (x : GRow) : Prop :=
  if x.line = true then S.Nonempty ∧ ∀ a ∈ S, ∀ q : ℚ, a + q • gn_vecOf x ∈ S
  else if get x.e 0 = 0 then S.Nonempty ∧ ∀ a ∈ S, ∀ k : Int, a + (k : ℚ) • gn_vecOf x ∈ S
  else gn_vecOf x ∈ S

/-- **`satisfies_all_congruences(g)` on a non-empty solution set decides `subsumes`** -/
theorem gn_satisfiesAll_subsumes {n : Nat} (s : CSys) (hc : CWf n s.rows) (hne : (consSet n s.rows).Nonempty)
    (x : GRow) (hx : gn_RowOK x) (hd : x.spaceDim ≤ n) :
    s.satisfiesAll x = true ↔ gn_Subsumes (consSet n s.rows) x := by
  obtain ⟨r1, r2, r3, r4, r5, r6, r7⟩ := gn_row_resized hx hd
  rw [← gn_satisfiesAll_resize s hx hd,
    gn_satisfiesAll_iff (n := n) (D := (x.setSpaceDim n).divisor) s _ r2 (fun _ => rfl)]
  have hsupp : Supp n (gn_vecOf x) := by rw [← r5]; exact gn_vecOf_supp r2
  unfold gn_Subsumes
  cases hl : x.line with
  | true =>
    rw [if_pos rfl]
    have hl' : (x.setSpaceDim n).line = true := by rw [r1]; exact hl
    have h0 : get (x.setSpaceDim n).e 0 = 0 := by rw [r3]; exact hx.lin hl
    rw [← gn_absorb_line_iff hne _ hsupp, ← r5]
    constructor
    · intro h
      exact ⟨hne, fun c hc' => (gn_cert_line _ c (hc c hc').1 _ r2 hl' h0).mp (h c hc')⟩
    · intro h c hc'
      exact (gn_cert_line _ c (hc c hc').1 _ r2 hl' h0).mpr (h.2 c hc')
  | false =>
    rw [if_neg (by simp)]
    have hl' : (x.setSpaceDim n).line = false := by rw [r1]; exact hl
    by_cases h0 : get x.e 0 = 0
    · rw [if_pos h0]
      have hp : gn_isPar (x.setSpaceDim n) = true := (gn_isPar_iff _).mpr ⟨hl', by rw [r3]; exact h0⟩
      have hdv : (x.setSpaceDim n).divisor ≠ 0 := by rw [r4]; exact ne_of_gt (hx.div hl)
      rw [← gn_absorb_par_iff hne _ hsupp, ← r5]
      constructor
      · intro h
        exact ⟨hne, fun c hc' => (gn_cert_par c (hc c hc').1 _ r2 hp hdv).mp (h c hc')⟩
      · intro h c hc'
        exact (gn_cert_par c (hc c hc').1 _ r2 hp hdv).mpr (h.2 c hc')
    · rw [if_neg h0]
      have h0' : get (x.setSpaceDim n).e 0 ≠ 0 := by rw [r3]; exact h0
      have hp : gn_isPt (x.setSpaceDim n) = true := (gn_isPt_iff _).mpr ⟨hl', h0'⟩
      rw [divisor_point _ h0', cn_mem_consSet, ← r5]
      constructor
      · intro h
        exact ⟨by rw [r5]; exact hsupp, fun c hc' => (gn_cert_pt c (hc c hc').1 _ r2 hp).mp (h c hc')⟩
      · intro h c hc'
        exact (gn_cert_pt c (hc c hc').1 _ r2 hp).mpr (h.2 c hc')

/-- **`Grid::relation_with(const Grid_Generator&)`** for a well-formed generator that fits the space: the invariant and the
    denotation are kept and the answer is `subsumes` -/
theorem gn_relationWithGen (g : Grid) (hI : GridInv g) (x : GRow) (hx : gn_RowOK x) (hd : x.spaceDim ≤ g.spaceDim) :
    GridInv (relationWithGen g x).1 ∧ (relationWithGen g x).1.sem = g.sem ∧
    (relationWithGen g x).1.spaceDim = g.spaceDim ∧
    ∃ b, (relationWithGen g x).2 = some b ∧ (b = true ↔ gn_Subsumes g.sem x) := by
  unfold relationWithGen
  rw [if_neg (by omega)]
  cases he : g.markedEmpty with
  | true =>
    rw [if_pos rfl]
    refine ⟨hI, rfl, rfl, false, rfl, ⟨fun h => (by cases h), fun h => ?_⟩⟩
    exfalso
    rw [sem_of_empty (g := g) he] at h
    unfold gn_Subsumes at h
    split_ifs at h
    · exact Set.not_nonempty_empty h.1
    · exact Set.not_nonempty_empty h.1
    · exact h
  | false =>
  rw [if_neg (by simp)]
  by_cases h0 : g.spaceDim = 0
  · rw [if_pos h0]
    refine ⟨hI, rfl, rfl, true, rfl, ⟨fun _ => ?_, fun _ => rfl⟩⟩
    have hv : gn_vecOf x = 0 := by
      funext i; unfold gn_vecOf; rw [if_neg (by omega)]; rfl
    have hz : (0 : Pt) ∈ {y : Pt | Supp 0 y} := fun _ _ => rfl
    rw [sem_of_zdim (g := g) he h0]
    unfold gn_Subsumes
    rw [hv]
    split_ifs
    · exact ⟨⟨0, hz⟩, fun a ha q => by simpa using ha⟩
    · exact ⟨⟨0, hz⟩, fun a ha k => by simpa using ha⟩
    · exact hz
  · rw [if_neg h0]
    simp only []
    have hn : 0 < g.spaceDim := by omega
    obtain ⟨a, b, c, d, e, f⟩ := isEmpty_spec g hI
    cases h2 : (isEmpty g).2 with
    | true =>
      rw [if_pos rfl]
      refine ⟨a, b, c, false, rfl, ⟨fun h => (by cases h), fun h => ?_⟩⟩
      exfalso
      rw [d.mp h2] at h
      unfold gn_Subsumes at h
      split_ifs at h
      · exact Set.not_nonempty_empty h.1
      · exact Set.not_nonempty_empty h.1
      · exact h
    | false =>
      rw [if_neg (by simp)]
      show GridInv (gn_incY (isEmpty g).1) ∧ (gn_incY (isEmpty g).1).sem = g.sem ∧
        (gn_incY (isEmpty g).1).spaceDim = g.spaceDim ∧
        ∃ b, some ((gn_incY (isEmpty g).1).cs.satisfiesAll x) = some b ∧ (b = true ↔ gn_Subsumes g.sem x)
      have he1 := f h2
      have hn1 : 0 < (isEmpty g).1.spaceDim := by rw [c]; exact hn
      obtain ⟨a', b', c', d', e'⟩ := gn_incY_spec (isEmpty g).1 a he1 hn1
      obtain ⟨_, q, s'⟩ := gn_sem_of_cUp a' (by rw [c']; exact hn1) d' e'
      refine ⟨a', by rw [← b]; exact b', by rw [← c]; exact c', _, rfl, ?_⟩
      have hsem : g.sem = consSet (gn_incY (isEmpty g).1).spaceDim (gn_incY (isEmpty g).1).con := by
        rw [← s', b', b]
      have hne : g.sem.Nonempty := by
        rw [Set.nonempty_iff_ne_empty]; intro h; rw [d.mpr h] at h2; cases h2
      rw [hsem] at hne ⊢
      exact gn_satisfiesAll_subsumes (gn_incY (isEmpty g).1).cs q hne x hx (by rw [c', c]; exact hd)

/-- the hypotheses are satisfiable: the grid `{0}` of the line and the point `1/2` -/
example : ∃ (g : Grid) (x : GRow), GridInv g ∧ gn_RowOK x ∧ x.spaceDim ≤ g.spaceDim :=
  ⟨{ spaceDim := 1, st := { gUp := true }, conDim := 1, con := [], genDim := 1, gen := [⟨false, [1, 0, 0]⟩], dk := [] },
   ⟨false, [2, 1, 0]⟩,
   gn_inv_point1 1 0 (by decide),
   ⟨rfl, fun _ => (by decide), fun h => (by cases h)⟩, by decide⟩

end PPLV.Lattice.GO

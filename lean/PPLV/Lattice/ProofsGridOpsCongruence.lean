import PPLV.Lattice.ProofsGridOpsState
import Mathlib.Tactic.Linarith
import Mathlib.Tactic.Ring

/-!
# The `Grid` object: `Congruence` and `Congruence_System` primitives

`set_space_dimension`, `normalize`, `strong_normalize`, `insert_verbatim`, `insert` against the point set of a row (`CRow.set`)
and of a system (`consSet`).
-/
namespace PPLV.Lattice.GO
open PPLV.Lattice PPLV.Lattice.Red

/-! ## What the row primitives do to the point set of a row

`CRow.set r = {x | rsem r x}`; the value `evalRow e x` only depends on the entries `get e i` (missing entries are zero),
so padding a row with zeros (`Congruence::set_space_dimension`) does not change it, truncating does not change it on
the points of the smaller space.
-/

theorem cn_mem_set (r : CRow) (x : Pt) : x ∈ CRow.set r ↔ rsem r x := toCg_sem_iff r x

/-! ### the value of a row depends on `get` only -/

theorem cn_dotF_zero (e : Row) (y : Pt) (h : ∀ i, ((get e i : Int) : ℚ) * y i = 0) : dotF (ratRow e) y = 0 := by
  induction e generalizing y with
  | nil => simp [ratRow]
  | cons c e ih =>
    have h0 := h 0
    simp only [get_cons_zero] at h0
    simp only [ratRow, List.map_cons, dotF_cons] at ih ⊢
    rw [ih y.tail (fun i => by have := h (i + 1); rw [get_cons_succ] at this; exact this), h0]; simp

theorem cn_dotF_ext (e' e : Row) (y : Pt) (h : ∀ i, ((get e' i : Int) : ℚ) * y i = ((get e i : Int) : ℚ) * y i) :
    dotF (ratRow e') y = dotF (ratRow e) y := by
  induction e' generalizing e y with
  | nil =>
    rw [cn_dotF_zero e y (fun i => by rw [← h i, get_of_length_le [] i (by simp)]; simp)]; simp [ratRow]
  | cons c e' ih =>
    cases e with
    | nil =>
      rw [cn_dotF_zero (c :: e') y (fun i => by rw [h i, get_of_length_le [] i (by simp)]; simp)]; simp [ratRow]
    | cons c1 e =>
      have h0 := h 0
      simp only [get_cons_zero] at h0
      have ht := ih e y.tail (fun i => by have := h (i + 1); rw [get_cons_succ] at this; exact this)
      simp only [ratRow, List.map_cons, dotF_cons] at ht ⊢
      rw [ht, h0]

/-- rows with the same entries (missing entries read as zero) have the same value -/
theorem cn_evalRow_ext (e' e : Row) (x : Pt) (h : ∀ i, get e' i = get e i) : evalRow e' x = evalRow e x :=
  cn_dotF_ext e' e _ (fun i => by rw [h i])

theorem cn_ext1_zero (n : Nat) (x : Pt) (h : Supp n x) (i : Nat) (hi : n + 1 ≤ i) : ext1 x i = 0 := by
  cases i with
  | zero => omega
  | succ i => exact h i (by omega)

/-- rows that agree on the entries `0..n` have the same value on the points of the `n`-space -/
theorem cn_evalRow_ext_supp (n : Nat) (e' e : Row) (x : Pt) (hx : Supp n x) (h : ∀ i, i < n + 1 → get e' i = get e i) :
    evalRow e' x = evalRow e x :=
  cn_dotF_ext e' e _ (fun i => by
    by_cases hi : i < n + 1
    · rw [h i hi]
    · rw [cn_ext1_zero n x hx i (by omega)]; simp)

/-! ### `resizeRow`, `Congruence::set_space_dimension` -/

theorem cn_setSpaceDim_length (r : CRow) (n : Nat) : (r.setSpaceDim n).e.length = n + 1 := length_resizeRow _ _
theorem cn_setSpaceDim_m (r : CRow) (n : Nat) : (r.setSpaceDim n).m = r.m := rfl

/-- padding with zeros keeps the value -/
theorem cn_evalRow_resize_pad (e : Row) (len : Nat) (h : e.length ≤ len) (x : Pt) :
    evalRow (resizeRow e len) x = evalRow e x :=
  cn_evalRow_ext _ _ x (fun i => by
    rw [get_resizeRow]
    by_cases hi : i < len
    · rw [if_pos hi]
    · rw [if_neg hi, get_of_length_le e i (by omega)])

/-- resizing to `n + 1` entries keeps the value on the points of the `n`-space -/
theorem cn_evalRow_resize_supp (e : Row) (n : Nat) (x : Pt) (hx : Supp n x) :
    evalRow (resizeRow e (n + 1)) x = evalRow e x :=
  cn_evalRow_ext_supp n _ _ x hx (fun i hi => by rw [get_resizeRow, if_pos hi])

/-- `Congruence::set_space_dimension(n)` that does not drop a coefficient keeps the point set (all of `Pt`: the value of
    a row does not see the missing coefficients) -/
theorem cn_setSpaceDim_set (r : CRow) (n : Nat) (h : r.e.length ≤ n + 1) : CRow.set (r.setSpaceDim n) = CRow.set r := by
  ext x
  rw [cn_mem_set, cn_mem_set]
  unfold rsem CRow.setSpaceDim
  simp only [cn_evalRow_resize_pad r.e (n + 1) h x]

/-- … and any `set_space_dimension(n)` keeps the points of the `n`-space -/
theorem cn_rsem_setSpaceDim_supp (r : CRow) (n : Nat) (x : Pt) (hx : Supp n x) : rsem (r.setSpaceDim n) x ↔ rsem r x := by
  unfold rsem CRow.setSpaceDim
  simp only [cn_evalRow_resize_supp r.e n x hx]

theorem cn_setSpaceDim_set_supp (r : CRow) (n : Nat) : CRow.set (r.setSpaceDim n) ∩ spaceSet n = CRow.set r ∩ spaceSet n := by
  ext x
  simp only [Set.mem_inter_iff, cn_mem_set, spaceSet, Set.mem_ofPred_eq]
  constructor
  · rintro ⟨h1, h2⟩; exact ⟨(cn_rsem_setSpaceDim_supp r n x h2).mp h1, h2⟩
  · rintro ⟨h1, h2⟩; exact ⟨(cn_rsem_setSpaceDim_supp r n x h2).mpr h1, h2⟩

example : CRow.set (({ e := [1, 2], m := 3 } : CRow).setSpaceDim 3) = CRow.set { e := [1, 2], m := 3 } :=
  cn_setSpaceDim_set _ 3 (by decide)

/-! ### systems -/

theorem cn_mem_consSet (n : Nat) (rows : List CRow) (x : Pt) : x ∈ consSet n rows ↔ Supp n x ∧ ∀ r ∈ rows, x ∈ CRow.set r := by
  unfold consSet
  simp only [Set.mem_ofPred_eq, cgsSem_iff, Sol_iff_mem, cn_mem_set]

theorem cn_consSet_nil (n : Nat) : consSet n [] = spaceSet n := by
  ext x; simp [cn_mem_consSet, spaceSet]

theorem cn_consSet_append (n : Nat) (a b : List CRow) : consSet n (a ++ b) = consSet n a ∩ consSet n b := by
  ext x
  simp only [cn_mem_consSet, Set.mem_inter_iff, List.mem_append]
  constructor
  · rintro ⟨h1, h2⟩; exact ⟨⟨h1, fun r hr => h2 r (Or.inl hr)⟩, h1, fun r hr => h2 r (Or.inr hr)⟩
  · rintro ⟨⟨h1, h2⟩, _, h3⟩; exact ⟨h1, fun r hr => hr.elim (h2 r) (h3 r)⟩

theorem cn_consSet_snoc (n : Nat) (a : List CRow) (r : CRow) : consSet n (a ++ [r]) = consSet n a ∩ CRow.set r := by
  ext x
  simp only [cn_mem_consSet, Set.mem_inter_iff, List.mem_append, List.mem_singleton]
  constructor
  · rintro ⟨h1, h2⟩; exact ⟨⟨h1, fun r hr => h2 r (Or.inl hr)⟩, h2 r (Or.inr rfl)⟩
  · rintro ⟨⟨h1, h2⟩, h3⟩; exact ⟨h1, fun r' hr => hr.elim (h2 r') (fun e => e ▸ h3)⟩

theorem cn_consSet_subset_space (n : Nat) (rows : List CRow) : consSet n rows ⊆ spaceSet n :=
  fun x hx => ((cn_mem_consSet n rows x).mp hx).1

/-- the rows of a system resized to the dimension of the space: same solutions -/
theorem cn_consSet_map_setSpaceDim (n : Nat) (rows : List CRow) :
    consSet n (rows.map (·.setSpaceDim n)) = consSet n rows := by
  ext x
  simp only [cn_mem_consSet, List.mem_map, forall_exists_index, and_imp, forall_apply_eq_imp_iff₂]
  constructor
  · rintro ⟨h1, h2⟩
    refine ⟨h1, fun r hr => ?_⟩
    have := (cn_setSpaceDim_set_supp r n).le ⟨h2 r hr, h1⟩
    exact this.1
  · rintro ⟨h1, h2⟩
    refine ⟨h1, fun r hr => ?_⟩
    have := (cn_setSpaceDim_set_supp r n).ge ⟨h2 r hr, h1⟩
    exact this.1

theorem cn_CWf_append (n : Nat) (a b : List CRow) (ha : CWf n a) (hb : CWf n b) : CWf n (a ++ b) := by
  intro r hr
  rcases List.mem_append.mp hr with h | h
  · exact ha r h
  · exact hb r h

theorem cn_CWf_map_setSpaceDim (n : Nat) (rows : List CRow) (h : ∀ r ∈ rows, 0 ≤ r.m) :
    CWf n (rows.map (·.setSpaceDim n)) := by
  intro r hr
  obtain ⟨r0, hr0, rfl⟩ := List.mem_map.mp hr
  exact ⟨cn_setSpaceDim_length r0 n, h r0 hr0⟩

/-! ## `Congruence::strong_normalize()` keeps the point set of a row

(Congruence.cc:62 `normalize`: sign normalisation negates the whole row, the inhomogeneous term is reduced modulo the
modulus; Congruence.cc:84 `strong_normalize`: row and modulus are divided by their common positive divisor)
-/

theorem cn_get_map (e : Row) (f : Int → Int) (hf : f 0 = 0) (i : Nat) : Red.get (e.map f) i = f (Red.get e i) := by
  unfold Red.get
  by_cases h : i < e.length
  · simp [List.getD_eq_getElem?_getD, h]
  · simp [List.getD_eq_getElem?_getD, h, hf]

/-! ### the gcd of a row -/

theorem cn_foldl_gcd_dvd (e : Row) (a : Int) :
    (e.foldl (fun g x => gcdI g x) a ∣ a) ∧ ∀ x ∈ e, e.foldl (fun g x => gcdI g x) a ∣ x := by
  induction e generalizing a with
  | nil => simp
  | cons c e ih =>
    simp only [List.foldl_cons]
    obtain ⟨h1, h2⟩ := ih (gcdI a c)
    have ha : gcdI a c ∣ a := by unfold gcdI; exact Int.gcd_dvd_left ..
    have hc : gcdI a c ∣ c := by unfold gcdI; exact Int.gcd_dvd_right ..
    refine ⟨h1.trans ha, ?_⟩
    intro x hx
    rcases List.mem_cons.mp hx with rfl | hx
    · exact h1.trans hc
    · exact h2 x hx

theorem cn_rowGcd_dvd (e : Row) (i : Nat) : rowGcd e ∣ Red.get e i := by
  by_cases h : i < e.length
  · have hm : Red.get e i ∈ e := by
      unfold Red.get; rw [List.getD_eq_getElem?_getD, List.getElem?_eq_getElem h]; exact List.getElem_mem h
    exact (cn_foldl_gcd_dvd e 0).2 _ hm
  · rw [get_of_length_le e i (by omega)]; exact dvd_zero _

/-! ### the three steps -/

theorem cn_evalRow_neg (e : Row) (x : Pt) : evalRow (e.map (fun z => -z)) x = - evalRow e x := by
  have := evalRow_smul (e.map (fun z => -z)) e (-1) x (by simp) (fun i => by rw [cn_get_map _ _ (by simp)]; ring)
  rw [this]; push_cast; ring

theorem cn_signNormalizeRow_length (e : Row) : (signNormalizeRow e).length = e.length := by
  unfold signNormalizeRow
  split
  · split <;> simp
  · rfl

/-- `sign_normalize()` keeps the point set -/
theorem cn_rsem_sign (e : Row) (m : Int) (x : Pt) : rsem { e := signNormalizeRow e, m := m } x ↔ rsem { e := e, m := m } x := by
  unfold signNormalizeRow
  split
  · split
    · unfold rsem
      simp only [cn_evalRow_neg]
      constructor
      · rintro ⟨t, ht⟩; exact ⟨-t, by push_cast; linarith⟩
      · rintro ⟨t, ht⟩; exact ⟨-t, by push_cast; linarith⟩
    · rfl
  · rfl

theorem cn_evalRow_set0 (e : Row) (c : Int) (x : Pt) (he : e ≠ []) :
    evalRow (e.set 0 c) x = evalRow e x + ((c : ℚ) - (Red.get e 0 : ℚ)) := by
  cases e with
  | nil => exact absurd rfl he
  | cons a l =>
    rw [evalRow_eq, evalRow_eq]
    simp only [List.set_cons_zero, ratRow, List.map_cons, List.tail_cons, get_cons_zero]
    ring

/-- replacing the inhomogeneous term by one in the same class modulo `m` keeps the point set -/
theorem cn_rsem_set0 (e : Row) (m c k : Int) (x : Pt) (hc : c = Red.get e 0 + k * m) :
    rsem { e := e.set 0 c, m := m } x ↔ rsem { e := e, m := m } x := by
  cases e with
  | nil => rfl
  | cons a l =>
    have hE := cn_evalRow_set0 (a :: l) c x (by simp)
    rw [hc] at hE
    subst hc
    unfold rsem
    constructor
    · rintro ⟨t, ht⟩; exact ⟨t - k, by rw [hE] at ht; push_cast at ht ⊢; linarith⟩
    · rintro ⟨t, ht⟩; exact ⟨t + k, by rw [hE]; push_cast at ht ⊢; linarith⟩

theorem cn_normalize_m (r : CRow) : r.normalize.m = r.m := by
  unfold CRow.normalize; simp only; split <;> rfl

theorem cn_normalize_length (r : CRow) : r.normalize.e.length = r.e.length := by
  unfold CRow.normalize; simp only
  split
  · exact cn_signNormalizeRow_length _
  · simp [cn_signNormalizeRow_length]

/-- `Congruence::normalize()` keeps the point set -/
theorem cn_rsem_normalize (r : CRow) (x : Pt) : rsem r.normalize x ↔ rsem r x := by
  have hs := cn_rsem_sign r.e r.m x
  unfold CRow.normalize; simp only
  split
  · exact hs
  · rename_i hm
    refine Iff.trans ?_ hs
    have hdiv : Int.tmod (Red.get (signNormalizeRow r.e) 0) r.m =
        Red.get (signNormalizeRow r.e) 0 + (-(Int.tdiv (Red.get (signNormalizeRow r.e) 0) r.m)) * r.m := by
      have := Int.tmod_add_mul_tdiv (Red.get (signNormalizeRow r.e) 0) r.m
      linarith
    split
    · exact cn_rsem_set0 _ r.m _ (-(Int.tdiv (Red.get (signNormalizeRow r.e) 0) r.m) + 1) x (by rw [hdiv]; ring)
    · exact cn_rsem_set0 _ r.m _ (-(Int.tdiv (Red.get (signNormalizeRow r.e) 0) r.m)) x hdiv

/-- dividing the row and the modulus by a common positive divisor keeps the point set -/
theorem cn_rsem_div (e : Row) (m g : Int) (hg : 0 < g) (hm : g ∣ m) (he : ∀ i, g ∣ Red.get e i) (x : Pt) :
    rsem { e := e.map (· / g), m := m / g } x ↔ rsem { e := e, m := m } x := by
  have hE : evalRow e x = (g : ℚ) * evalRow (e.map (· / g)) x :=
    evalRow_smul e (e.map (· / g)) g x (by simp) (fun i => by
      rw [cn_get_map _ _ (by simp)]; exact (Int.mul_ediv_cancel' (he i)).symm)
  have hM : (m : ℚ) = (g : ℚ) * ((m / g : Int) : ℚ) := by exact_mod_cast (Int.mul_ediv_cancel' hm).symm
  have hg0 : (g : ℚ) ≠ 0 := by exact_mod_cast hg.ne'
  unfold rsem
  simp only [hE]
  constructor
  · rintro ⟨t, ht⟩; exact ⟨t, by rw [ht, hM]; ring⟩
  · rintro ⟨t, ht⟩
    refine ⟨t, ?_⟩
    rw [hM] at ht
    have : (g : ℚ) * evalRow (e.map (· / g)) x = (g : ℚ) * ((t : ℚ) * ((m / g : Int) : ℚ)) := by rw [ht]; ring
    exact mul_left_cancel₀ hg0 this

/-- the divisor `strong_normalize` uses -/
def cn_sg (r : CRow) : Int :=
  if rowGcd r.normalize.e = 0 then r.normalize.m else gcdI r.normalize.m (rowGcd r.normalize.e)

theorem cn_strongNormalize_eq (r : CRow) :
    r.strongNormalize = if cn_sg r ≠ 0 ∧ cn_sg r ≠ 1 then
      { e := r.normalize.e.map (· / cn_sg r), m := r.normalize.m / cn_sg r } else r.normalize := rfl

theorem cn_sg_spec (r : CRow) (hm : 0 ≤ r.m) : 0 ≤ cn_sg r ∧ cn_sg r ∣ r.normalize.m ∧ ∀ i, cn_sg r ∣ Red.get r.normalize.e i := by
  have hm' : 0 ≤ r.normalize.m := by rw [cn_normalize_m]; exact hm
  unfold cn_sg
  by_cases h0 : rowGcd r.normalize.e = 0
  · rw [if_pos h0]
    refine ⟨hm', dvd_refl _, fun i => ?_⟩
    have := cn_rowGcd_dvd r.normalize.e i
    rw [h0] at this
    rw [zero_dvd_iff.mp this]; exact dvd_zero _
  · rw [if_neg h0]
    unfold gcdI
    exact ⟨Int.natCast_nonneg _, Int.gcd_dvd_left .., fun i => (Int.gcd_dvd_right ..).trans (cn_rowGcd_dvd _ i)⟩

theorem cn_strongNormalize_length (r : CRow) : r.strongNormalize.e.length = r.e.length := by
  rw [cn_strongNormalize_eq]
  split
  · simp [cn_normalize_length]
  · exact cn_normalize_length r

theorem cn_strongNormalize_spaceDim (r : CRow) : r.strongNormalize.spaceDim = r.spaceDim := by
  unfold CRow.spaceDim; rw [cn_strongNormalize_length]

theorem cn_strongNormalize_m_nonneg (r : CRow) (hm : 0 ≤ r.m) : 0 ≤ r.strongNormalize.m := by
  have hg := cn_sg_spec r hm
  have hm' : 0 ≤ r.normalize.m := by rw [cn_normalize_m]; exact hm
  rw [cn_strongNormalize_eq]
  split
  · exact Int.ediv_nonneg hm' hg.1
  · exact hm'

theorem cn_rsem_strongNormalize (r : CRow) (hm : 0 ≤ r.m) (x : Pt) : rsem r.strongNormalize x ↔ rsem r x := by
  have hg := cn_sg_spec r hm
  refine Iff.trans ?_ (cn_rsem_normalize r x)
  rw [cn_strongNormalize_eq]
  split
  · rename_i h
    exact cn_rsem_div _ _ _ (lt_of_le_of_ne hg.1 (Ne.symm h.1)) hg.2.1 hg.2.2 x
  · rfl

/-- `Congruence::strong_normalize()` keeps the point set of a row with a non-negative modulus -/
theorem cn_strongNormalize_set (r : CRow) (hm : 0 ≤ r.m) : CRow.set r.strongNormalize = CRow.set r := by
  ext x; rw [cn_mem_set, cn_mem_set]; exact cn_rsem_strongNormalize r hm x

example : CRow.set (({ e := [7, -2, 4], m := 6 } : CRow).strongNormalize) = CRow.set { e := [7, -2, 4], m := 6 } ∧
    ({ e := [7, -2, 4], m := 6 } : CRow).strongNormalize = { e := [5, 2, -4], m := 6 } :=
  ⟨cn_strongNormalize_set _ (by decide), by decide⟩

/-! ## `Congruence_System::insert`, `insert_verbatim`, `insert(system)`, `set_space_dimension` — the solutions of the resulting system -/

/-- the points at which every row of a list holds (no dimension attached) -/
def cn_rowsSet (rows : List CRow) : Set Pt := {x | ∀ r ∈ rows, x ∈ CRow.set r}

theorem cn_consSet_eq (n : Nat) (rows : List CRow) : consSet n rows = spaceSet n ∩ cn_rowsSet rows := by
  ext x; simp only [cn_mem_consSet, Set.mem_inter_iff, spaceSet, cn_rowsSet, Set.mem_ofPred_eq]

theorem cn_rowsSet_nil : cn_rowsSet [] = Set.univ := by
  ext x; simp [cn_rowsSet]

theorem cn_rowsSet_cons (r : CRow) (rows : List CRow) : cn_rowsSet (r :: rows) = CRow.set r ∩ cn_rowsSet rows := by
  ext x; simp [cn_rowsSet]

theorem cn_rowsSet_singleton (r : CRow) : cn_rowsSet [r] = CRow.set r := by
  ext x; simp [cn_rowsSet]

theorem cn_CSys_setSpaceDim_same (s : CSys) : s.setSpaceDim s.dim = s := by simp [CSys.setSpaceDim]

/-- `Congruence_System::set_space_dimension(n)`: same solutions in the `n`-space -/
theorem cn_CSys_setSpaceDim_consSet (s : CSys) (n : Nat) : consSet n (s.setSpaceDim n).rows = consSet n s.rows := by
  unfold CSys.setSpaceDim; split
  · exact cn_consSet_map_setSpaceDim n s.rows
  · rfl

theorem cn_CSys_setSpaceDim_CWf (s : CSys) (n : Nat) (hw : CWf s.dim s.rows) : CWf n (s.setSpaceDim n).rows := by
  unfold CSys.setSpaceDim; split
  · exact cn_CWf_map_setSpaceDim n s.rows (fun r hr => (hw r hr).2)
  · rename_i h; rw [← not_not.mp h]; exact hw

/-! ### `insert_verbatim` of a row that fits -/

theorem cn_insertVerbatim_rows (s : CSys) (cg : CRow) (hd : cg.spaceDim ≤ s.dim) :
    (s.insertVerbatim cg).dim = s.dim ∧
      (s.insertVerbatim cg).rows = s.rows ++ [if cg.spaceDim = s.dim then cg else cg.setSpaceDim s.dim] := by
  unfold CSys.insertVerbatim
  by_cases h : cg.spaceDim ≥ s.dim
  · have he : cg.spaceDim = s.dim := by omega
    rw [if_pos h, he, cn_CSys_setSpaceDim_same, if_pos rfl]; exact ⟨rfl, rfl⟩
  · rw [if_neg h, if_neg (by omega)]; exact ⟨rfl, rfl⟩

theorem cn_insertVerbatim_dim (s : CSys) (cg : CRow) (hd : cg.spaceDim ≤ s.dim) : (s.insertVerbatim cg).dim = s.dim :=
  (cn_insertVerbatim_rows s cg hd).1

theorem cn_insertVerbatim_consSet (s : CSys) (cg : CRow) (hd : cg.spaceDim ≤ s.dim) :
    consSet s.dim (s.insertVerbatim cg).rows = consSet s.dim s.rows ∩ CRow.set cg := by
  rw [(cn_insertVerbatim_rows s cg hd).2, cn_consSet_snoc]
  split
  · rfl
  · rw [cn_setSpaceDim_set cg s.dim (by unfold CRow.spaceDim at hd; omega)]

theorem cn_insertVerbatim_CWf (s : CSys) (cg : CRow) (hw : CWf s.dim s.rows) (hd : cg.spaceDim ≤ s.dim) (hm : 0 ≤ cg.m)
    (he : cg.e ≠ []) : CWf s.dim (s.insertVerbatim cg).rows := by
  rw [(cn_insertVerbatim_rows s cg hd).2]
  refine cn_CWf_append _ _ _ hw ?_
  intro r hr
  rw [List.mem_singleton] at hr
  subst hr
  split
  · rename_i h
    have : cg.e.length ≠ 0 := fun h0 => he (List.eq_nil_of_length_eq_zero h0)
    unfold CRow.spaceDim at h
    exact ⟨by omega, hm⟩
  · exact ⟨cn_setSpaceDim_length cg s.dim, hm⟩

/-! ### `insert(cg)` -/

theorem cn_insert_dim (s : CSys) (cg : CRow) (hd : cg.spaceDim ≤ s.dim) : (s.insert cg).dim = s.dim :=
  cn_insertVerbatim_dim s _ (by rw [cn_strongNormalize_spaceDim]; exact hd)

/-- `Congruence_System::insert(cg)`: the solutions are cut by the row -/
theorem cn_insert_consSet (s : CSys) (cg : CRow) (hd : cg.spaceDim ≤ s.dim) (hm : 0 ≤ cg.m) :
    consSet s.dim (s.insert cg).rows = consSet s.dim s.rows ∩ CRow.set cg := by
  unfold CSys.insert
  rw [cn_insertVerbatim_consSet s _ (by rw [cn_strongNormalize_spaceDim]; exact hd), cn_strongNormalize_set cg hm]

theorem cn_insert_CWf (s : CSys) (cg : CRow) (hw : CWf s.dim s.rows) (hd : cg.spaceDim ≤ s.dim) (hm : 0 ≤ cg.m)
    (he : cg.e ≠ []) : CWf s.dim (s.insert cg).rows :=
  cn_insertVerbatim_CWf s _ hw (by rw [cn_strongNormalize_spaceDim]; exact hd) (cn_strongNormalize_m_nonneg cg hm)
    (fun h => he (List.eq_nil_of_length_eq_zero (by rw [← cn_strongNormalize_length, h]; rfl)))

example : CWf 2 [{ e := [0, 1, 0], m := 2 }] ∧ (CRow.mk [3, 6] 9).spaceDim ≤ 2 ∧
    ((CSys.mk 2 [{ e := [0, 1, 0], m := 2 }]).insert { e := [3, 6], m := 9 }).rows =
      [{ e := [0, 1, 0], m := 2 }, { e := [1, 2, 0], m := 3 }] := by
  refine ⟨by unfold CWf; decide, by decide, by decide⟩

/-! ### `insert(system)` -/

theorem cn_insertSys_rows (s y : CSys) (hd : y.dim ≤ s.dim) :
    (s.insertSys y).dim = s.dim ∧ (s.insertSys y).rows = s.rows ++ y.rows.map (·.setSpaceDim s.dim) := by
  unfold CSys.insertSys
  simp only [if_neg (show ¬ s.dim < y.dim by omega)]
  trivial

theorem cn_insertSys_dim (s y : CSys) (hd : y.dim ≤ s.dim) : (s.insertSys y).dim = s.dim := (cn_insertSys_rows s y hd).1

/-- `Congruence_System::insert(y)` for `y` of a dimension not larger: the solutions are cut by every row of `y` -/
theorem cn_insertSys_consSet (s y : CSys) (hd : y.dim ≤ s.dim) :
    consSet s.dim (s.insertSys y).rows = consSet s.dim s.rows ∩ cn_rowsSet y.rows := by
  rw [(cn_insertSys_rows s y hd).2, cn_consSet_append, cn_consSet_map_setSpaceDim, cn_consSet_eq s.dim y.rows,
    ← Set.inter_assoc, Set.inter_eq_left.mpr (cn_consSet_subset_space s.dim s.rows)]

theorem cn_insertSys_CWf (s y : CSys) (hw : CWf s.dim s.rows) (hd : y.dim ≤ s.dim) (hy : ∀ r ∈ y.rows, 0 ≤ r.m) :
    CWf s.dim (s.insertSys y).rows := by
  rw [(cn_insertSys_rows s y hd).2]
  exact cn_CWf_append _ _ _ hw (cn_CWf_map_setSpaceDim _ _ hy)

example : CWf 2 [{ e := [0, 1, 0], m := 2 }] ∧
    ((CSys.mk 2 [{ e := [0, 1, 0], m := 2 }]).insertSys (CSys.mk 1 [{ e := [3, 6], m := 9 }])).rows =
      [{ e := [0, 1, 0], m := 2 }, { e := [3, 6, 0], m := 9 }] := by
  refine ⟨by unfold CWf; decide, by decide⟩

end PPLV.Lattice.GO

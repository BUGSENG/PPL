import PPLV.Lattice.ProofsGridOpsBounds
import PPLV.Lattice.ProofsGridOpsAddGenerator

/-!
# The `Grid` object: `is_discrete`
-/
namespace PPLV.Lattice.GO
open PPLV.Lattice PPLV.Lattice.Red

/-! ## `is_discrete()` (Grid_public.cc) against `g.sem` — the answer is "the grid contains no line" -/

/-- `S` contains a line: a point and a non-zero direction all of whose rational multiples stay in `S` -/
def cn_HasLine (S : Set Pt) : Prop := ∃ x ∈ S, ∃ v : Pt, v ≠ 0 ∧ ∀ c : ℚ, x + c • v ∈ S

theorem cn_up1_spec (g : Grid) (hI : GridInv g) (he : g.st.empty = false) (hpos : 0 < g.spaceDim) :
    GridInv (cn_up1 g).1 ∧ (cn_up1 g).1.sem = g.sem ∧ (cn_up1 g).1.spaceDim = g.spaceDim ∧
    ((cn_up1 g).2 = true ↔ g.sem.Nonempty) ∧ ((cn_up1 g).2 = false → (cn_up1 g).1.st.empty = true) ∧
    ((cn_up1 g).2 = true → (cn_up1 g).1.st.empty = false ∧ (cn_up1 g).1.st.gUp = true) := by
  by_cases hg : g.st.gUp = true
  · have : cn_up1 g = (g, true) := by simp [cn_up1, Grid.generatorsAreUpToDate, hg]
    rw [this]
    refine ⟨hI, rfl, rfl, ⟨fun _ => ?_, fun _ => rfl⟩, (fun h => by cases h), fun _ => ⟨he, hg⟩⟩
    obtain ⟨_, _, hgn, _⟩ := gn_sem_of_gUp hI hpos he hg
    rw [sem_of_gUp he hpos hg]
    exact gensSet_nonempty hgn
  · have hgf : g.st.gUp = false := by simpa using hg
    have : cn_up1 g = updateGenerators g := by simp [cn_up1, Grid.generatorsAreUpToDate, hg]
    rw [this]
    have hc : g.st.cUp = true := (hI.some he hpos).resolve_right hg
    obtain ⟨u1, u2, u3, u4, u5, u6⟩ := updateGenerators_spec' g hI he hpos hc hgf
    exact ⟨u1, u2, u3, u4, u6, fun h => ⟨(u5 h).1, (u5 h).2.1⟩⟩

theorem cn_isDiscrete_eq (g : Grid) : isDiscrete g =
    if g.spaceDim = 0 ∨ g.markedEmpty then (g, true)
    else if (cn_up1 g).2 = false then ((cn_up1 g).1, true)
    else ((cn_up1 g).1, (cn_up1 g).1.gen.reverse.all fun row => !(row.line && !row.allHomZero)) := by
  unfold isDiscrete
  split
  · rfl
  · show (if (!(cn_up1 g).2) = true then _ else _) = _
    cases (cn_up1 g).2 <;> rfl

/-- the vector of a row whose homogeneous terms are not all zero is not zero -/
theorem cn_vecOf_ne_zero {n : Nat} {r : GRow} (hlen : r.e.length = n + 2) (hd : cn_den r ≠ 0)
    (h : r.allHomZero = false) : gn_vecOf r ≠ 0 := by
  intro hv
  have : r.allHomZero = true := by
    unfold GRow.allHomZero allZ
    rw [List.all_eq_true]
    intro i hi
    rw [List.mem_range'] at hi
    obtain ⟨k, hk, rfl⟩ := hi
    have hk' : k < n := by omega
    have := congrFun hv k
    unfold gn_vecOf at this
    rw [gn_spaceDim_of_len hlen, if_pos hk'] at this
    have hd' : ((if r.line then 1 else (r.divisor : ℚ)) : ℚ) ≠ 0 := by
      unfold cn_den at hd
      split
      · exact one_ne_zero
      · rename_i hl; rw [if_neg hl] at hd; exact_mod_cast hd
    have h0 : ((Red.get r.e (k + 1) : Int) : ℚ) = 0 := by
      rcases div_eq_zero_iff.mp this with h | h
      · exact h
      · exact absurd h hd'
    have : Red.get r.e (1 + 1 * k) = 0 := by
      rw [show 1 + 1 * k = k + 1 by omega]; exact_mod_cast h0
    simpa using this
  rw [this] at h; cases h

/-- a generator system with normalised divisors: discrete iff every line row is the zero row -/
theorem cn_discrete_rows {n : Nat} {D : Int} {rows : List GRow} (hN : GNorm n D rows) (hw : GWf n rows) :
    (rows.reverse.all fun row => !(row.line && !row.allHomZero)) = true ↔ ¬ cn_HasLine (gn_set rows) := by
  rw [List.all_reverse, List.all_eq_true]
  have hDq : (D : ℚ) ≠ 0 := by exact_mod_cast (ne_of_gt hN.pos)
  constructor
  · intro h ⟨x, hx, v, hv, hline⟩
    have hzl : ∀ r ∈ rows, r.line = true → gn_vecOf r = 0 := by
      intro r hr hl
      have := h r hr
      rw [hl] at this
      exact gn_vecOf_allHomZero (by simpa using this)
    -- `D` times a direction is an integer vector
    have hint : ∀ w, gn_Dir rows w → ∀ i, ∃ k : Int, (D : ℚ) * w i = (k : ℚ) := by
      intro w hwd
      have hrow : ∀ r ∈ rows, r.line = false → ∀ i, ∃ k : Int, (D : ℚ) * gn_vecOf r i = (k : ℚ) := by
        intro r hr hl i
        have hdiv := cn_den_pos.gn_divisor_of_gnorm_aux hN hw hr hl
        unfold gn_vecOf
        rw [hl, hdiv]
        split
        · exact ⟨Red.get r.e (i + 1), by simp only [Bool.false_eq_true, if_false]; field_simp⟩
        · exact ⟨0, by simp⟩
      refine gn_dir_le (S := fun w => ∀ i, ∃ k : Int, (D : ℚ) * w i = (k : ℚ)) (fun i => ⟨0, by simp⟩) ?_ ?_ ?_ ?_ ?_ hwd
      · intro v1 v2 h1 h2 i
        obtain ⟨k1, e1⟩ := h1 i; obtain ⟨k2, e2⟩ := h2 i
        exact ⟨k1 + k2, by simp only [Pi.add_apply]; rw [mul_add, e1, e2]; push_cast; ring⟩
      · intro k v1 h1 i
        obtain ⟨k1, e1⟩ := h1 i
        exact ⟨k * k1, by simp only [Pi.smul_apply, smul_eq_mul]; rw [← mul_assoc, mul_comm (D : ℚ), mul_assoc, e1]; push_cast; ring⟩
      · intro r1 m1 p1 r2 m2 p2 i
        obtain ⟨k1, e1⟩ := hrow r1 m1 ((gn_isPt_iff r1).mp p1).1 i
        obtain ⟨k2, e2⟩ := hrow r2 m2 ((gn_isPt_iff r2).mp p2).1 i
        exact ⟨k1 - k2, by simp only [Pi.sub_apply]; rw [mul_sub, e1, e2]; push_cast; ring⟩
      · intro r m pr i; exact hrow r m ((gn_isPar_iff r).mp pr).1 i
      · intro r m hl c i; rw [hzl r m hl]; exact ⟨0, by simp⟩
    apply hv
    funext i
    by_contra hvi
    have hvi' : v i ≠ 0 := hvi
    have hdir : gn_Dir rows ((1 / (2 * ((D : ℚ) * v i))) • v) := by
      have := gn_mem_sub (hline (1 / (2 * ((D : ℚ) * v i)))) hx
      simpa using this
    obtain ⟨k, hk⟩ := hint _ hdir i
    simp only [Pi.smul_apply, smul_eq_mul] at hk
    have h2 : (1 : ℚ) = 2 * (k : ℚ) := by
      have hne : (D : ℚ) * v i ≠ 0 := mul_ne_zero hDq hvi'
      field_simp at hk; linarith
    have h3 : (1 : Int) = 2 * k := by exact_mod_cast h2
    omega
  · intro h r hr
    by_contra hc
    have hl : r.line = true ∧ r.allHomZero = false := by
      cases hl : r.line <;> cases ha : r.allHomZero <;> simp [hl, ha] at hc ⊢
    apply h
    obtain ⟨p, hp, hpl, hp0⟩ := hN.pt
    have hpp : gn_isPt p = true := (gn_isPt_iff p).mpr ⟨hpl, by rw [hp0]; exact ne_of_gt hN.pos⟩
    refine ⟨_, gn_mem_pt hp hpp, gn_vecOf r, ?_, fun c => gn_mem_line_step hr hl.1 (gn_mem_pt hp hpp) c⟩
    exact cn_vecOf_ne_zero (hw r hr) (by unfold cn_den; rw [hl.1]; exact one_ne_zero) hl.2

theorem cn_noLine_zdim : ¬ cn_HasLine (spaceSet 0) := by
  rintro ⟨x, hx, v, hv, h⟩
  have h1 : x = 0 := by funext i; exact hx i (Nat.zero_le _)
  have h2 : x + (1 : ℚ) • v = 0 := by funext i; exact h 1 i (Nat.zero_le _)
  rw [h1, one_smul, zero_add] at h2
  exact hv h2

/-- `is_discrete()`: the answer is "the grid contains no line"; the object keeps its grid -/
theorem cn_isDiscrete (g : Grid) (hI : GridInv g) :
    GridInv (isDiscrete g).1 ∧ (isDiscrete g).1.sem = g.sem ∧ (isDiscrete g).1.spaceDim = g.spaceDim ∧
    ((isDiscrete g).2 = true ↔ ¬ cn_HasLine g.sem) := by
  rw [cn_isDiscrete_eq]
  by_cases h0 : g.spaceDim = 0 ∨ g.markedEmpty = true
  · rw [if_pos h0]
    refine ⟨hI, rfl, rfl, ⟨fun _ => ?_, fun _ => rfl⟩⟩
    by_cases hemp : g.st.empty = true
    · rw [sem_of_empty hemp]; rintro ⟨x, hx, _⟩; exact absurd hx (Set.notMem_empty _)
    · rcases h0 with h0 | h0
      · rw [sem_of_zdim (by simpa using hemp) h0]; exact cn_noLine_zdim
      · exact absurd h0 hemp
  · rw [if_neg h0]
    have hne : g.st.empty = false := by
      by_contra h; exact h0 (Or.inr (show g.st.empty = true by simpa using h))
    have hpos : 0 < g.spaceDim := by
      by_contra h; exact h0 (Or.inl (by omega))
    obtain ⟨p1, p2, p3, p4, p5, p6⟩ := cn_up1_spec g hI hne hpos
    by_cases hb : (cn_up1 g).2 = false
    · rw [if_pos hb]
      refine ⟨p1, p2, p3, ⟨fun _ => ?_, fun _ => rfl⟩⟩
      rw [← p2, sem_of_empty (p5 hb)]; rintro ⟨x, hx, _⟩; exact absurd hx (Set.notMem_empty _)
    · rw [if_neg hb]
      obtain ⟨q1, q2⟩ := p6 (by simpa using hb)
      obtain ⟨_, w1, w2, w3⟩ := gn_sem_of_gUp p1 (by omega) q1 q2
      refine ⟨p1, p2, p3, ?_⟩
      rw [cn_discrete_rows w2 w1, ← w3, p2]

example : (isDiscrete cn_exGrid').2 = true := by decide +kernel

end PPLV.Lattice.GO

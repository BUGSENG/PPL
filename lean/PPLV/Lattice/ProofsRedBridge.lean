import PPLV.Lattice.ProofsConvGCCert
import Mathlib.Tactic.FieldSimp

/-!
# The homogeneous reading of a generator system agrees with the PPL reading (`gensOf`, K2's `Gen.sem`)

For a system normalised with divisor `D` (`GNorm`): `gensOf n rows = some G` and
`Gen.sem G x ↔ Hom n rows (homog D x)`.
-/
namespace PPLV.Lattice.Red
open PPLV.Lattice

/-- a generator system as `Grid` keeps it after `normalize_divisors`: every point has divisor `D`, every
    parameter has `D` in the parameter divisor column, lines have a zero inhomogeneous term -/
structure GNorm (n : Nat) (D : Int) (rows : List GRow) : Prop where
  pos : 0 < D
  pt : ∃ r ∈ rows, r.line = false ∧ get r.e 0 = D
  col0 : ∀ r ∈ rows, r.line = false → get r.e 0 = 0 ∨ get r.e 0 = D
  par : ∀ r ∈ rows, r.line = false → get r.e 0 = 0 → get r.e (n + 1) = D
  lin : ∀ r ∈ rows, r.line = true → get r.e 0 = 0

/-- a direction `y` of `ℚⁿ` as a homogeneous vector `(0, y)` -/
def shift (y : Pt) : Pt := fun i => match i with
  | 0 => 0
  | i + 1 => y i

/-- `(v₁/D, v₂/D, …)` -/
def tailD (D : ℚ) (v : Pt) : Pt := fun i => v (i + 1) / D

theorem coords_toFun (n : Nat) (r : GRow) (d : ℚ) (i : Nat) :
    (r.coords n d).toFun i = if i < n then (get r.e (i + 1) : ℚ) / d else 0 := by
  unfold GRow.coords ratRow Vec.toFun get
  by_cases h : i < n
  · simp only [h, if_true, List.getD_eq_getElem?_getD, List.getElem?_map, List.getElem?_take, List.getElem?_tail]
    cases r.e[i + 1]? <;> simp
  · simp [h]

theorem homog_add_shift (D : ℚ) (x y : Pt) (c : ℚ) : homog D (x + c • y) = homog D x + (c * D) • shift y := by
  funext i
  cases i with
  | zero => simp [homog, shift]
  | succ i => simp [homog, shift]; ring

theorem homog_sub (D : ℚ) (a b : Pt) : homog D a - homog D b = D • shift (a - b) := by
  funext i
  cases i with
  | zero => simp [homog, shift]
  | succ i => simp [homog, shift]; ring

/-- a row with inhomogeneous term `D`: its homogeneous vector is `(D, D·coords/D)` -/
theorem hvec_point (n : Nat) (r : GRow) (D : Int) (hD : D ≠ 0) (h0 : get r.e 0 = D) :
    (r.hvec n).toFun = homog (D : ℚ) (r.coords n (D : ℚ)).toFun := by
  have hD' : (D : ℚ) ≠ 0 := by exact_mod_cast hD
  funext i
  cases i with
  | zero => simp [hvec_toFun, homog, h0]
  | succ i =>
    simp only [hvec_toFun, homog, coords_toFun]
    by_cases h : i < n
    · have : i + 1 < n + 1 := by omega
      simp only [this, h, if_true]; field_simp
    · have : ¬ i + 1 < n + 1 := by omega
      simp [this, h]

/-- a row with inhomogeneous term `0`: its homogeneous vector is `(0, d·coords/d)` -/
theorem hvec_dir (n : Nat) (r : GRow) (d : ℚ) (hd : d ≠ 0) (h0 : get r.e 0 = 0) :
    (r.hvec n).toFun = d • shift (r.coords n d).toFun := by
  funext i
  cases i with
  | zero => simp [hvec_toFun, shift, h0]
  | succ i =>
    simp only [hvec_toFun, shift, coords_toFun, Pi.smul_apply, smul_eq_mul]
    by_cases h : i < n
    · have : i + 1 < n + 1 := by omega
      simp only [this, h, if_true]; field_simp
    · have : ¬ i + 1 < n + 1 := by omega
      simp [this, h]

theorem tailD_point (n : Nat) (r : GRow) (D : Int) :
    tailD (D : ℚ) (r.hvec n).toFun = (r.coords n (D : ℚ)).toFun := by
  funext i
  simp only [tailD, hvec_toFun, coords_toFun]
  by_cases h : i < n
  · have : i + 1 < n + 1 := by omega
    simp [this, h]
  · have : ¬ i + 1 < n + 1 := by omega
    simp [this, h]

theorem tailD_add (D : ℚ) (v w : Pt) (c : ℚ) : tailD D (v + c • w) = tailD D v + c • tailD D w := by
  funext i; simp [tailD]; ring

theorem tailD_homog (D : ℚ) (hD : D ≠ 0) (x : Pt) : tailD D (homog D x) = x := by
  funext i; simp [tailD, homog]; field_simp

/-- the membership facts of the three filters of `gensOf` -/
theorem gensOf_eq (n : Nat) (D : Int) (rows : List GRow) (h : GNorm n D rows) :
    ∃ p ps, rows.filter (fun r => !r.line && get r.e 0 != 0) = p :: ps ∧
      gensOf n rows = some (.gens
        { pt := p.coords n (get p.e 0 : Rat),
          params := ps.map (fun r => vsub (r.coords n (get r.e 0 : Rat)) (p.coords n (get p.e 0 : Rat)))
                    ++ (rows.filter (fun r => !r.line && get r.e 0 == 0)).map (fun r => r.coords n (get r.e (n + 1) : Rat)),
          lines := (rows.filter (fun r => r.line)).map (fun r => r.coords n 1) }) := by
  have hDne : D ≠ 0 := by have := h.pos; omega
  have hq : (rows.filter (fun r => !r.line && get r.e 0 == 0)).any (fun r => get r.e (n + 1) == 0) = false := by
    rw [List.any_eq_false]
    intro r hr
    rw [List.mem_filter] at hr
    obtain ⟨hr, hc⟩ := hr
    simp only [Bool.and_eq_true, Bool.not_eq_true', beq_iff_eq] at hc
    have := h.par r hr hc.1 hc.2
    simp [this, hDne]
  obtain ⟨r0, hr0, hl0, he0⟩ := h.pt
  have hmem : r0 ∈ rows.filter (fun r => !r.line && get r.e 0 != 0) := by
    rw [List.mem_filter]; refine ⟨hr0, ?_⟩; simp [hl0, he0, hDne]
  cases hpts : rows.filter (fun r => !r.line && get r.e 0 != 0) with
  | nil => rw [hpts] at hmem; simp at hmem
  | cons p ps =>
    refine ⟨p, ps, rfl, ?_⟩
    unfold gensOf
    simp only [hq, hpts]
    rfl

/-- **the two readings agree** on a normalised system -/
theorem gensOf_gnorm (n : Nat) (D : Int) (rows : List GRow) (h : GNorm n D rows) :
    ∃ G, gensOf n rows = some G ∧ ∀ x, Gen.sem G x ↔ Hom n rows (homog (D : ℚ) x) := by
  obtain ⟨p, ps, hpts, hG⟩ := gensOf_eq n D rows h
  refine ⟨_, hG, ?_⟩
  have hDne : D ≠ 0 := by have := h.pos; omega
  have hDq : (D : ℚ) ≠ 0 := by exact_mod_cast hDne
  -- facts about the filters
  have hpt_mem : ∀ r, r ∈ p :: ps → r ∈ rows ∧ r.line = false ∧ get r.e 0 = D := by
    intro r hr
    rw [← hpts, List.mem_filter] at hr
    obtain ⟨hr, hc⟩ := hr
    simp only [Bool.and_eq_true, Bool.not_eq_true', bne_iff_ne, ne_eq] at hc
    refine ⟨hr, hc.1, ?_⟩
    rcases h.col0 r hr hc.1 with h0 | h0
    · exact absurd h0 hc.2
    · exact h0
  have hq_mem : ∀ r, r ∈ rows.filter (fun r => !r.line && get r.e 0 == 0) →
      r ∈ rows ∧ r.line = false ∧ get r.e 0 = 0 ∧ get r.e (n + 1) = D := by
    intro r hr
    rw [List.mem_filter] at hr
    obtain ⟨hr, hc⟩ := hr
    simp only [Bool.and_eq_true, Bool.not_eq_true', beq_iff_eq] at hc
    exact ⟨hr, hc.1, hc.2, h.par r hr hc.1 hc.2⟩
  have hl_mem : ∀ r, r ∈ rows.filter (fun r => r.line) → r ∈ rows ∧ r.line = true ∧ get r.e 0 = 0 := by
    intro r hr
    rw [List.mem_filter] at hr
    exact ⟨hr.1, hr.2, h.lin r hr.1 hr.2⟩
  have hp := hpt_mem p (by simp)
  have pc_mem : ∀ r, r ∈ rows → r.line = false → (r.hvec n).toFun ∈ (pcVecs n rows).map Vec.toFun := by
    intro r hr hl
    simp only [pcVecs, List.map_map, List.mem_map, List.mem_filter]
    exact ⟨r, ⟨hr, by simp [hl]⟩, rfl⟩
  have ln_mem : ∀ r, r ∈ rows → r.line = true → (r.hvec n).toFun ∈ (lineVecs n rows).map Vec.toFun := by
    intro r hr hl
    simp only [lineVecs, List.map_map, List.mem_map, List.mem_filter]
    exact ⟨r, ⟨hr, hl⟩, rfl⟩
  set pv : Vec := p.coords n (get p.e 0 : Rat) with hpv
  have hpvD : pv = p.coords n (D : ℚ) := by rw [hpv, hp.2.2]
  intro x
  show Gens.Mem _ x ↔ _
  constructor
  · -- every member of the PPL reading is in the homogeneous lattice
    intro hx
    induction hx with
    | pt =>
      show Hom n rows (homog (D : ℚ) pv.toFun)
      rw [hpvD, ← hvec_point n p D hDne hp.2.2]
      exact Abs.Dir.of_param (pc_mem p hp.1 hp.2.1)
    | @param y q k hq _ ih =>
      rw [axpy_eq, homog_add_shift]
      refine Abs.Dir.add ih ?_
      have hdir : Hom n rows ((D : ℚ) • shift q.toFun) := by
        simp only [List.mem_append, List.mem_map] at hq
        rcases hq with ⟨r, hr, rfl⟩ | ⟨r, hr, rfl⟩
        · have hr' := hpt_mem r (List.mem_cons_of_mem _ hr)
          rw [toFun_vsub, hr'.2.2, hpvD, ← homog_sub, ← hvec_point n r D hDne hr'.2.2,
            ← hvec_point n p D hDne hp.2.2]
          exact Abs.Dir.sub (Abs.Dir.of_param (pc_mem r hr'.1 hr'.2.1)) (Abs.Dir.of_param (pc_mem p hp.1 hp.2.1))
        · have hr' := hq_mem r hr
          rw [hr'.2.2.2, ← hvec_dir n r (D : ℚ) hDq hr'.2.2.1]
          exact Abs.Dir.of_param (pc_mem r hr'.1 hr'.2.1)
      have e : ((k : ℚ) * (D : ℚ)) • shift q.toFun = (k : ℚ) • ((D : ℚ) • shift q.toFun) := by
        rw [smul_smul]
      rw [e]
      exact Abs.Dir.zsmul k hdir
    | @line y l c hl _ ih =>
      rw [axpy_eq, homog_add_shift]
      refine Abs.Dir.add ih ?_
      simp only [List.mem_map] at hl
      obtain ⟨r, hr, rfl⟩ := hl
      have hr' := hl_mem r hr
      have := hvec_dir n r 1 one_ne_zero hr'.2.2
      rw [one_smul] at this
      have e : (r.coords n 1).toFun = (r.coords n (1 : ℚ)).toFun := rfl
      rw [e, ← this]
      exact Abs.Dir.of_line _ (ln_mem r hr'.1 hr'.2.1)
  · -- conversely
    intro hx
    have key : ∀ v, Abs.Dir ((pcVecs n rows).map Vec.toFun) ((lineVecs n rows).map Vec.toFun) v →
        ∃ m : ℤ, v 0 = (m : ℚ) * (D : ℚ) ∧
          GDir (ps.map (fun r => vsub (r.coords n (get r.e 0 : Rat)) pv)
                ++ (rows.filter (fun r => !r.line && get r.e 0 == 0)).map (fun r => r.coords n (get r.e (n + 1) : Rat)))
              ((rows.filter (fun r => r.line)).map (fun r => r.coords n 1))
              (tailD (D : ℚ) v - (m : ℚ) • pv.toFun) := by
      intro v hv
      induction hv with
      | zero =>
        refine ⟨0, by simp, ?_⟩
        have : tailD (D : ℚ) 0 - ((0 : ℤ) : ℚ) • pv.toFun = 0 := by funext i; simp [tailD]
        rw [this]; exact Abs.Dir.zero
      | @param w q k hq _ ih =>
        obtain ⟨m, hm0, hm⟩ := ih
        simp only [pcVecs, List.map_map, List.mem_map, List.mem_filter, Function.comp] at hq
        obtain ⟨r, ⟨hr, hl⟩, rfl⟩ := hq
        have hl' : r.line = false := by simpa using hl
        rcases h.col0 r hr hl' with h0 | h0
        · -- a parameter row
          refine ⟨m, by simp [hm0, hvec_toFun, h0], ?_⟩
          have hrq : r ∈ rows.filter (fun r => !r.line && get r.e 0 == 0) := by
            rw [List.mem_filter]; exact ⟨hr, by simp [hl', h0]⟩
          have e : tailD (D : ℚ) (w + (k : ℚ) • (r.hvec n).toFun) - (m : ℚ) • pv.toFun
              = (tailD (D : ℚ) w - (m : ℚ) • pv.toFun) + (k : ℚ) • (r.coords n (get r.e (n + 1) : Rat)).toFun := by
            rw [tailD_add, tailD_point n r D, (hq_mem r hrq).2.2.2]; module
          rw [e]
          refine Abs.Dir.param k ?_ hm
          exact List.mem_map_of_mem (List.mem_append_right _ (List.mem_map_of_mem hrq))
        · -- a point row
          refine ⟨m + k, by simp [hm0, hvec_toFun, h0]; ring, ?_⟩
          have hrp : r ∈ p :: ps := by
            rw [← hpts, List.mem_filter]; exact ⟨hr, by simp [hl', h0, hDne]⟩
          rcases List.mem_cons.mp hrp with rfl | hrps
          · have e : tailD (D : ℚ) (w + (k : ℚ) • (r.hvec n).toFun) - ((m + k : ℤ) : ℚ) • pv.toFun
                = tailD (D : ℚ) w - (m : ℚ) • pv.toFun := by
              rw [tailD_add, tailD_point n r D, ← hpvD]; push_cast; module
            rw [e]; exact hm
          · have e : tailD (D : ℚ) (w + (k : ℚ) • (r.hvec n).toFun) - ((m + k : ℤ) : ℚ) • pv.toFun
                = (tailD (D : ℚ) w - (m : ℚ) • pv.toFun)
                  + (k : ℚ) • (vsub (r.coords n (get r.e 0 : Rat)) pv).toFun := by
              rw [tailD_add, tailD_point n r D, toFun_vsub, h0]; push_cast; module
            rw [e]
            refine Abs.Dir.param k ?_ hm
            exact List.mem_map_of_mem (List.mem_append_left _ (List.mem_map_of_mem hrps))
      | @line w l c hl _ ih =>
        obtain ⟨m, hm0, hm⟩ := ih
        simp only [lineVecs, List.map_map, List.mem_map, List.mem_filter, Function.comp] at hl
        obtain ⟨r, ⟨hr, hl'⟩, rfl⟩ := hl
        have h0 := h.lin r hr hl'
        refine ⟨m, by simp [hm0, hvec_toFun, h0], ?_⟩
        have hrl : r ∈ rows.filter (fun r => r.line) := by rw [List.mem_filter]; exact ⟨hr, hl'⟩
        have e : tailD (D : ℚ) (w + c • (r.hvec n).toFun) - (m : ℚ) • pv.toFun
            = (tailD (D : ℚ) w - (m : ℚ) • pv.toFun) + (c / (D : ℚ)) • (r.coords n 1).toFun := by
          rw [tailD_add, tailD_point n r D]
          have : (r.coords n (D : ℚ)).toFun = (1 / (D : ℚ)) • (r.coords n 1).toFun := by
            funext i; simp only [coords_toFun, Pi.smul_apply, smul_eq_mul]
            by_cases hi : i < n
            · simp [hi]; field_simp
            · simp [hi]
          rw [this]; module
        rw [e]
        exact Abs.Dir.line _ (List.mem_map_of_mem (List.mem_map_of_mem hrl)) hm
    obtain ⟨m, hm0, hm⟩ := key _ hx
    have hm1 : m = 1 := by
      have : (D : ℚ) = (m : ℚ) * (D : ℚ) := by simpa [homog] using hm0
      have : (m : ℚ) = 1 := by
        have h2 : ((m : ℚ) - 1) * (D : ℚ) = 0 := by linarith
        rcases mul_eq_zero.mp h2 with h3 | h3
        · linarith
        · exact absurd h3 hDq
      exact_mod_cast this
    rw [hm1, tailD_homog _ hDq] at hm
    rw [mem_iff_gdir]
    simpa using hm

end PPLV.Lattice.Red

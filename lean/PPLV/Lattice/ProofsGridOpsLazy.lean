import PPLV.Lattice.ProofsGridOpsDimKinds

/-!
# The `Grid` object: the lazy machinery

`is_empty()`, `minimize()`, `congruences()`, `grid_generators()` and their minimized variants.  Where `simplify` overwrites the
shared `dim_kinds` while the other description is minimized, the duality of `ProofsGridOpsDimKinds` is what keeps the invariant.
-/
namespace PPLV.Lattice.GO
open PPLV.Lattice PPLV.Lattice.Red

/-! ## `is_empty()`, `minimize()`, `generators_are_up_to_date() || update_generators()` -/

/-- `generators_are_up_to_date() || update_generators()` -/
theorem ensureGenerators_spec : EnsureGeneratorsSpec := by
  intro g hI he hpos
  show GridInv (ensureGenerators g).1 ∧ _
  cases hg : g.st.gUp
  · have hU : ensureGenerators g = updateGenerators g := by
      simp [ensureGenerators, Grid.generatorsAreUpToDate, hg]
    have hc : g.st.cUp = true := cUp_of_not_gUp hI he hpos hg
    obtain ⟨h1, h2, h3, h4, h5, h6⟩ := updateGenerators_spec g hI he hpos hc hg
    rw [hU]
    exact ⟨h1, h2, h3, h4, fun h => ⟨(h5 h).1, (h5 h).2.1⟩, h6⟩
  · have hU : ensureGenerators g = (g, true) := by
      simp [ensureGenerators, Grid.generatorsAreUpToDate, hg]
    rw [hU]
    exact ⟨hI, rfl, rfl, by simp [nonempty_of_gUp hI he hpos hg], fun _ => ⟨he, hg⟩, fun h => by simp at h⟩

/-- **`is_empty()`** (Grid_public.cc:781) -/
theorem isEmpty_spec : IsEmptySpec := by
  intro g hI
  show GridInv (isEmpty g).1 ∧ _
  cases he : g.st.empty
  swap
  · have hU : isEmpty g = (g, true) := by simp [isEmpty, Grid.markedEmpty, he]
    rw [hU]
    exact ⟨hI, rfl, rfl, by simp [sem_of_empty he], fun _ => he, fun h => by simp at h⟩
  have hret : (g.sem).Nonempty → isEmpty g = (g, false) →
      GridInv (isEmpty g).1 ∧ (isEmpty g).1.sem = g.sem ∧ (isEmpty g).1.spaceDim = g.spaceDim ∧
      ((isEmpty g).2 = true ↔ g.sem = ∅) ∧ ((isEmpty g).2 = true → (isEmpty g).1.st.empty = true) ∧
      ((isEmpty g).2 = false → (isEmpty g).1.st.empty = false) := by
    intro hne hU
    rw [hU]
    exact ⟨hI, rfl, rfl, by simp [Set.Nonempty.ne_empty hne], fun h => by simp at h, fun _ => he⟩
  by_cases h0 : g.spaceDim = 0
  · refine hret (nonempty_of_zdim he h0) ?_
    simp only [isEmpty, Grid.markedEmpty, he, h0]
    simp
  have hpos : 0 < g.spaceDim := by omega
  cases hg : g.st.gUp
  swap
  · refine hret (nonempty_of_gUp hI he hpos hg) ?_
    simp [isEmpty, Grid.markedEmpty, he, Grid.generatorsAreUpToDate, hg]
  have hc : g.st.cUp = true := cUp_of_not_gUp hI he hpos hg
  obtain ⟨hcd, hcwf⟩ := hI.cwf he hpos hc
  cases hcm : g.st.cMin
  swap
  · refine hret (lz_nonempty_of_cMin hI he hpos hcm hg) ?_
    simp [isEmpty, Grid.markedEmpty, he, Grid.generatorsAreUpToDate, hg, h0, Grid.congruencesAreMinimized, hcm]
  have hgm : g.st.gMin = false := by
    cases h : g.st.gMin
    · rfl
    · have := hI.gminUp h; rw [hg] at this; exact absurd this (by decide)
  have hU : isEmpty g = if (simplifyConSys g).2 = true then (setEmpty (simplifyConSys g).1, true)
      else ((simplifyConSys g).1.setCongruencesMinimized, false) := by
    simp [isEmpty, Grid.markedEmpty, he, Grid.generatorsAreUpToDate, hg, h0, Grid.congruencesAreMinimized, hcm]
  cases hf : (simplifyConSys g).2
  · obtain ⟨h1, h2, h3, h4, _⟩ := lz_simplifyConSys_post g hI he hpos hc hf
      (fun h => by rw [hgm] at h; exact absurd h (by decide))
    rw [hU, hf]
    exact ⟨h1, h2, h4, by simp [Set.Nonempty.ne_empty h3], fun h => by simp at h, fun _ => he⟩
  · have hemp := (lz_simplifyConSys_flag g hI he hpos hc).mp hf
    rw [hU, hf]
    exact ⟨setEmpty_inv _, by rw [if_pos rfl, setEmpty_sem, hemp], rfl, by simp [hemp], fun _ => rfl,
      fun h => by simp at h⟩

/-- **`minimize()`** (Grid_nonpublic.cc:546); the two cases where `simplify` runs on one description while the other
    one is flagged minimized use the duality `dkCompatG` / `dkCompatC` -/
theorem minimize_spec : MinimizeSpec := by
  intro g hI
  show GridInv (minimize g).1 ∧ _
  cases he : g.st.empty
  swap
  · have hU : minimize g = (g, false) := by simp [minimize, Grid.markedEmpty, he]
    rw [hU]
    exact ⟨hI, rfl, rfl, by simp [not_nonempty_of_empty he], fun _ => he, fun h => by simp at h⟩
  by_cases h0 : g.spaceDim = 0
  · have hU : minimize g = (g, true) := by simp [minimize, Grid.markedEmpty, he, h0]
    rw [hU]
    exact ⟨hI, rfl, rfl, by simp [nonempty_of_zdim he h0], fun h => by simp at h, fun _ h => by omega⟩
  have hpos : 0 < g.spaceDim := by omega
  cases hc : g.st.cUp
  · -- only the generators
    have hg : g.st.gUp = true := gUp_of_not_cUp hI he hpos hc
    have hcm : g.st.cMin = false := by
      cases h : g.st.cMin
      · rfl
      · have := hI.cminUp h; rw [hc] at this; exact absurd this (by decide)
    have hU : minimize g = (updateCongruences g, true) := by
      simp [minimize, Grid.markedEmpty, he, h0, Grid.congruencesAreMinimized, hcm, Grid.congruencesAreUpToDate, hc]
    obtain ⟨h1, h2, h3, h4, h5, h6, h7, h8⟩ := updateCongruences_spec g hI he hpos hg hc
    rw [hU]
    exact ⟨h1, h2, h3, by simp [nonempty_of_gUp hI he hpos hg], fun h => by simp at h, fun _ _ => ⟨h4, h6, h8⟩⟩
  cases hg : g.st.gUp
  · -- only the congruences
    have hgm : g.st.gMin = false := by
      cases h : g.st.gMin
      · rfl
      · have := hI.gminUp h; rw [hg] at this; exact absurd this (by decide)
    have hU : minimize g = updateGenerators g := by
      simp [minimize, Grid.markedEmpty, he, h0, Grid.generatorsAreMinimized, hgm, Grid.congruencesAreUpToDate, hc,
        Grid.generatorsAreUpToDate, hg]
    obtain ⟨h1, h2, h3, h4, h5, h6⟩ := updateGenerators_spec g hI he hpos hc hg
    rw [hU]
    exact ⟨h1, h2, h3, h4, h6, fun h _ => ⟨(h5 h).1, (h5 h).2.2.1, (h5 h).2.2.2.2⟩⟩
  -- both up to date
  have hne := nonempty_of_gUp hI he hpos hg
  obtain ⟨hcd, hcwf⟩ := hI.cwf he hpos hc
  obtain ⟨hgd, hgwf, hgn⟩ := hI.gwf he hpos hg
  have hag := hI.agree he hpos hc hg
  cases hcm : g.st.cMin
  swap
  · cases hgm : g.st.gMin
    swap
    · have hU : minimize g = (g, true) := by
        simp [minimize, Grid.markedEmpty, he, h0, Grid.generatorsAreMinimized, hgm, Grid.congruencesAreMinimized, hcm]
      rw [hU]
      exact ⟨hI, rfl, rfl, by simp [hne], fun h => by simp at h, fun _ _ => ⟨he, hgm, hcm⟩⟩
    · -- congruences minimized: `simplify(gen_sys, dim_kinds)`
      obtain ⟨hdk, hlt, hk0⟩ := hI.cmin he hpos hcm
      obtain ⟨k1, k2, k3, k4, k5, k6, k7, k8⟩ := lz_simplifyGen_post g hI he hpos hg
        (fun _ => dkCompatG g.spaceDim g.con g.dk g.gen g.dk _ hpos hcwf hdk hlt hk0 hgwf hgn hag)
      have hU : minimize g = ((simplifyGenSys g).setGeneratorsMinimized, true) := by
        simp [minimize, Grid.markedEmpty, he, h0, Grid.generatorsAreMinimized, hgm, Grid.congruencesAreMinimized, hcm,
          Grid.congruencesAreUpToDate, hc, Grid.generatorsAreUpToDate, hg]
      rw [hU]
      exact ⟨k1, k2, k3, by simp [hne], fun h => by simp at h, fun _ _ => ⟨k4, k6, by rw [k8, hcm]⟩⟩
  · -- congruences not minimized: `simplify(con_sys, dim_kinds)`, its flag is not looked at
    have hf : (simplifyConSys g).2 = false := by
      cases h : (simplifyConSys g).2
      · rfl
      · exact absurd ((lz_simplifyConSys_flag g hI he hpos hc).mp h) (Set.Nonempty.ne_empty hne)
    have hfc : (simplifyCgs g.spaceDim g.con g.dk).2.2 = false := by
      rw [lz_simplifyConSys_eq g hcd] at hf; exact hf
    have hst : (simplifyConSys g).1.st = g.st := rfl
    cases hgm : g.st.gMin
    · -- then `simplify(gen_sys, dim_kinds)`
      obtain ⟨j1, j2, _, e2, e1, e6, e4, e3, e5⟩ := lz_simplifyConSys_post g hI he hpos hc hf
        (fun h => by rw [hgm] at h; exact absurd h (by decide))
      generalize hg1 : (simplifyConSys g).1.setCongruencesMinimized = g1 at j1 j2 e1 e2 e3 e4 e5 e6
      rw [hg] at e3
      rw [hgm] at e5
      have hpos1 : 0 < g1.spaceDim := by omega
      obtain ⟨hdk, hlt, hk0⟩ := j1.cmin e1 hpos1 e4
      obtain ⟨_, hcwf1⟩ := j1.cwf e1 hpos1 (j1.cminUp e4)
      obtain ⟨_, hgwf1, hgn1⟩ := j1.gwf e1 hpos1 e3
      obtain ⟨k1, k2, k3, k4, k5, k6, k7, k8⟩ := lz_simplifyGen_post g1 j1 e1 hpos1 e3
        (fun _ => dkCompatG g1.spaceDim g1.con g1.dk g1.gen g1.dk _ hpos1 hcwf1 hdk hlt hk0 hgwf1 hgn1
          (j1.agree e1 hpos1 (j1.cminUp e4) e3))
      have hU : minimize g = ((simplifyGenSys g1).setGeneratorsMinimized, true) := by
        rw [← hg1]
        simp [minimize, Grid.markedEmpty, he, h0, Grid.generatorsAreMinimized, hgm, Grid.congruencesAreMinimized, hcm,
          Grid.congruencesAreUpToDate, hc, Grid.generatorsAreUpToDate, hg, Grid.setCongruencesMinimized, hst]
      rw [hU]
      exact ⟨k1, by rw [k2, j2], by rw [k3, e2], by simp [hne], fun h => by simp at h,
        fun _ _ => ⟨k4, k6, by rw [k8, e4]⟩⟩
    · -- generators minimized already
      obtain ⟨hdk, hut, hk0⟩ := hI.gmin he hpos hgm
      obtain ⟨j1, j2, _, e2, e1, e6, e4, e3, e5⟩ := lz_simplifyConSys_post g hI he hpos hc hf
        (fun _ => by
          rw [lz_simplifyConSys_eq g hcd]
          exact dkCompatC g.spaceDim g.con g.dk g.gen g.dk _ hpos hcwf hfc hgwf hgn hdk hut hk0 hag)
      have hU : minimize g = ((simplifyConSys g).1.setCongruencesMinimized, true) := by
        simp [minimize, Grid.markedEmpty, he, h0, Grid.generatorsAreMinimized, hgm, Grid.congruencesAreMinimized, hcm,
          Grid.congruencesAreUpToDate, hc, Grid.generatorsAreUpToDate, hg, Grid.setCongruencesMinimized, hst]
      rw [hU]
      exact ⟨j1, j2, e2, by simp [hne], fun h => by simp at h, fun _ _ => ⟨e1, by rw [e5, hgm], e4⟩⟩

/-- `minimize_spec` with named conclusions -/
theorem minimize_spec' (g : Grid) (hI : GridInv g) :
    GridInv (minimize g).1 ∧ (minimize g).1.sem = g.sem ∧ (minimize g).1.spaceDim = g.spaceDim ∧
    ((minimize g).2 = true ↔ (g.sem).Nonempty) ∧ ((minimize g).2 = false → (minimize g).1.st.empty = true) ∧
    ((minimize g).2 = true → 0 < g.spaceDim → (minimize g).1.st.empty = false ∧ (minimize g).1.st.gMin = true ∧
      (minimize g).1.st.cMin = true) := minimize_spec g hI

/-- `minimize()` on the states where only one description is up to date, or both are minimized already -/
theorem minimize_spec_oneSided (g : Grid) (hI : GridInv g)
    (h1 : ¬ (g.st.cUp = true ∧ g.st.gUp = true ∧ (g.st.cMin = false ∨ g.st.gMin = false))) :
    GridInv (minimize g).1 ∧ (minimize g).1.sem = g.sem ∧ (minimize g).1.spaceDim = g.spaceDim ∧
    ((minimize g).2 = true ↔ (g.sem).Nonempty) ∧ ((minimize g).2 = false → (minimize g).1.st.empty = true) ∧
    ((minimize g).2 = true → 0 < g.spaceDim → (minimize g).1.st.empty = false ∧ (minimize g).1.st.gMin = true ∧
      (minimize g).1.st.cMin = true) :=
  minimize_spec g hI

/-- `minimize()` on `x ≡ 1 (mod 2)` given by congruences only: the generators are computed -/
example :
    let g : Grid := Grid.mk 1 { cUp := true } 1 [⟨[-1, 1], 2⟩] 1 [] []
    invB g = true ∧ (minimize g).2 = true ∧ (minimize g).1.gen = [⟨false, [1, 1, 0]⟩, ⟨false, [0, 2, 1]⟩] := by
  decide +kernel

/-- `is_empty()` on `x = 0 ∧ x = 1` -/
example :
    let g : Grid := Grid.mk 1 { cUp := true } 1 [⟨[0, 1], 0⟩, ⟨[-1, 1], 0⟩] 1 [] []
    invB g = true ∧ (isEmpty g).2 = true ∧ (isEmpty g).1.st = Status.setEmpty := by decide +kernel

/-! ## `congruences()`, `minimized_congruences()`, `grid_generators()`, `minimized_grid_generators()` (Grid_public.cc:304-380) -/

/-! ### `congruences()` -/

/-- `congruences()`: invariant, grid and dimension kept; afterwards the congruences are up to date unless the object
    is marked empty or 0-dimensional; a state whose congruences are up to date is returned unchanged -/
theorem congruences_spec (g : Grid) (hI : GridInv g) :
    GridInv (congruences g) ∧ (congruences g).sem = g.sem ∧ (congruences g).spaceDim = g.spaceDim ∧
    (congruences g).st.empty = g.st.empty ∧
    (g.st.empty = false → 0 < g.spaceDim → (congruences g).st.cUp = true) ∧
    (g.st.cUp = true → congruences g = g) ∧ (g.st.cMin = true → (congruences g).st.cMin = true) := by
  cases he : g.st.empty
  swap
  · have hU : congruences g = g := by simp [congruences, Grid.markedEmpty, he]
    rw [hU]
    exact ⟨hI, rfl, rfl, he, fun h => by simp at h, fun _ => rfl, fun h => h⟩
  by_cases h0 : g.spaceDim = 0
  · have hU : congruences g = g := by simp [congruences, Grid.markedEmpty, he, h0]
    rw [hU]
    exact ⟨hI, rfl, rfl, he, fun _ h => by omega, fun _ => rfl, fun h => h⟩
  have hpos : 0 < g.spaceDim := by omega
  cases hc : g.st.cUp
  · have hU : congruences g = updateCongruences g := by
      simp [congruences, Grid.markedEmpty, he, h0, Grid.congruencesAreUpToDate, hc]
    obtain ⟨k1, k2, k3, k4, k5, k6, k7, k8⟩ :=
      updateCongruences_spec g hI he hpos (gUp_of_not_cUp hI he hpos hc) hc
    rw [hU]
    exact ⟨k1, k2, k3, k4, fun _ _ => k7, fun h => by simp at h, fun _ => k8⟩
  · have hU : congruences g = g := by
      simp [congruences, Grid.markedEmpty, he, h0, Grid.congruencesAreUpToDate, hc]
    rw [hU]
    exact ⟨hI, rfl, rfl, he, fun _ _ => hc, fun _ => rfl, fun h => h⟩

theorem congruences_lazy : LazyOK congruences := fun g hI =>
  ⟨(congruences_spec g hI).1, (congruences_spec g hI).2.1, (congruences_spec g hI).2.2.1⟩

/-! ### `grid_generators()` -/

/-- `grid_generators()`: afterwards marked empty, or 0-dimensional, or the generators are up to date -/
theorem gridGenerators_spec (g : Grid) (hI : GridInv g) :
    GridInv (gridGenerators g) ∧ (gridGenerators g).sem = g.sem ∧ (gridGenerators g).spaceDim = g.spaceDim ∧
    ((gridGenerators g).st.empty = true ↔ g.sem = ∅) ∧
    ((gridGenerators g).st.empty = false → 0 < g.spaceDim → (gridGenerators g).st.gUp = true) ∧
    (g.st.gUp = true → gridGenerators g = g) := by
  by_cases h0 : g.spaceDim = 0
  · have hU : gridGenerators g = g := by simp [gridGenerators, h0]
    rw [hU]
    refine ⟨hI, rfl, rfl, ?_, fun _ h => by omega, fun _ => rfl⟩
    cases he : g.st.empty
    · simp [Set.Nonempty.ne_empty (nonempty_of_zdim he h0)]
    · simp [sem_of_empty he]
  have hpos : 0 < g.spaceDim := by omega
  cases he : g.st.empty
  swap
  · have hU : gridGenerators g = g := by simp [gridGenerators, Grid.markedEmpty, he, h0]
    rw [hU]
    exact ⟨hI, rfl, rfl, by simp [he, sem_of_empty he], fun h => by rw [he] at h; exact absurd h (by decide),
      fun _ => rfl⟩
  cases hg : g.st.gUp
  · have hU : gridGenerators g = if (updateGenerators g).2 = true then (updateGenerators g).1
        else setEmpty (updateGenerators g).1 := by
      simp [gridGenerators, Grid.markedEmpty, he, h0, Grid.generatorsAreUpToDate, hg]
      cases (updateGenerators g).2 <;> simp
    obtain ⟨k1, k2, k3, k4, k5, k6⟩ := updateGenerators_spec g hI he hpos (cUp_of_not_gUp hI he hpos hg) hg
    cases hb : (updateGenerators g).2
    · have hemp : g.sem = ∅ := by
        by_contra hne
        have := k4.mpr (Set.nonempty_iff_ne_empty.mpr hne)
        rw [hb] at this; exact absurd this (by decide)
      rw [hU, hb]
      exact ⟨setEmpty_inv _, by rw [if_neg (by decide), setEmpty_sem, hemp], k3, by simp [hemp, lz_setEmpty_empty],
        fun h => by simp [setEmpty, Status.setEmpty] at h, fun h => by simp at h⟩
    · have hne : (g.sem).Nonempty := k4.mp hb
      rw [hU, hb]
      exact ⟨k1, k2, k3, by simp [(k5 hb).1, Set.Nonempty.ne_empty hne], fun _ _ => (k5 hb).2.1, fun h => by simp at h⟩
  · have hU : gridGenerators g = g := by
      simp [gridGenerators, Grid.markedEmpty, he, h0, Grid.generatorsAreUpToDate, hg]
    rw [hU]
    exact ⟨hI, rfl, rfl, by simp [he, Set.Nonempty.ne_empty (nonempty_of_gUp hI he hpos hg)], fun _ _ => hg,
      fun _ => rfl⟩

theorem gridGenerators_lazy : LazyOK gridGenerators := fun g hI =>
  ⟨(gridGenerators_spec g hI).1, (gridGenerators_spec g hI).2.1, (gridGenerators_spec g hI).2.2.1⟩

/-! ### `minimized_congruences()` -/

/-- **`minimized_congruences()`**: afterwards marked empty, or (dimension > 0) the congruences are minimized -/
theorem minimizedCongruences_spec (g : Grid) (hI : GridInv g) :
    GridInv (minimizedCongruences g) ∧ (minimizedCongruences g).sem = g.sem ∧
    (minimizedCongruences g).spaceDim = g.spaceDim ∧
    ((minimizedCongruences g).st.empty = false → 0 < g.spaceDim →
      (minimizedCongruences g).st.cUp = true ∧ (minimizedCongruences g).st.cMin = true) := by
  by_cases hcase : g.st.cUp = true ∧ g.st.cMin = false
  · obtain ⟨hc, hcm⟩ := hcase
    obtain ⟨he, hpos⟩ := pos_of_cUp hI hc
    obtain ⟨hcd, hcwf⟩ := hI.cwf he hpos hc
    have hU : minimizedCongruences g = congruences (if (simplifyConSys g).2 = true then setEmpty (simplifyConSys g).1
        else (simplifyConSys g).1.setCongruencesMinimized) := by
      simp [minimizedCongruences, Grid.congruencesAreUpToDate, hc, Grid.congruencesAreMinimized, hcm]
    cases hf : (simplifyConSys g).2
    · have hfc : (simplifyCgs g.spaceDim g.con g.dk).2.2 = false := by
        rw [lz_simplifyConSys_eq g hcd] at hf; exact hf
      obtain ⟨j1, j2, _, e2, e1, e6, e4, e3, e5⟩ := lz_simplifyConSys_post g hI he hpos hc hf
        (fun hgm => by
          have hg := hI.gminUp hgm
          obtain ⟨hgd, hgwf, hgn⟩ := hI.gwf he hpos hg
          obtain ⟨hdk, hut, hk0⟩ := hI.gmin he hpos hgm
          rw [lz_simplifyConSys_eq g hcd]
          exact dkCompatC g.spaceDim g.con g.dk g.gen g.dk _ hpos hcwf hfc hgwf hgn hdk hut hk0 (hI.agree he hpos hc hg))
      rw [hU, hf, if_neg (by decide), (congruences_spec _ j1).2.2.2.2.2.1 e6]
      exact ⟨j1, j2, e2, fun _ _ => ⟨e6, e4⟩⟩
    · have hemp := (lz_simplifyConSys_flag g hI he hpos hc).mp hf
      have hcg : ∀ x : Grid, congruences (setEmpty x) = setEmpty x := by
        intro x; simp [congruences, Grid.markedEmpty, setEmpty, Status.setEmpty]
      rw [hU, hf, if_pos rfl, hcg]
      exact ⟨setEmpty_inv _, by rw [setEmpty_sem, hemp], rfl, fun h => by simp [setEmpty, Status.setEmpty] at h⟩
  · have hU : minimizedCongruences g = congruences g := by
      have hb : (g.st.cUp && !g.st.cMin) = false := by
        cases hc : g.st.cUp <;> cases hcm : g.st.cMin <;> simp_all
      simp only [minimizedCongruences, Grid.congruencesAreUpToDate, Grid.congruencesAreMinimized, hb]
      simp
    obtain ⟨k1, k2, k3, k4, k5, k6, k7⟩ := congruences_spec g hI
    rw [hU]
    refine ⟨k1, k2, k3, fun h hpos => ?_⟩
    have he : g.st.empty = false := by rw [← k4]; exact h
    refine ⟨k5 he hpos, ?_⟩
    cases hc : g.st.cUp
    · -- computed by `update_congruences`
      have hU2 : congruences g = updateCongruences g := by
        have h0 : g.spaceDim ≠ 0 := by omega
        simp [congruences, Grid.markedEmpty, he, h0, Grid.congruencesAreUpToDate, hc]
      rw [hU2]
      exact (updateCongruences_spec g hI he hpos (gUp_of_not_cUp hI he hpos hc) hc).2.2.2.2.2.2.2
    · have hcm : g.st.cMin = true := by
        cases h' : g.st.cMin
        · exact absurd ⟨hc, h'⟩ hcase
        · rfl
      exact k7 hcm

theorem minimizedCongruences_lazy : LazyOK minimizedCongruences := fun g hI =>
  ⟨(minimizedCongruences_spec g hI).1, (minimizedCongruences_spec g hI).2.1, (minimizedCongruences_spec g hI).2.2.1⟩

/-- `minimized_congruences()` on the states whose generators are not flagged minimized -/
theorem minimizedCongruences_spec_noGMin (g : Grid) (hI : GridInv g) (hgm : g.st.gMin = false ∨ g.st.cMin = true ∨ g.st.cUp = false) :
    GridInv (minimizedCongruences g) ∧ (minimizedCongruences g).sem = g.sem ∧
    (minimizedCongruences g).spaceDim = g.spaceDim ∧
    ((minimizedCongruences g).st.empty = false → 0 < g.spaceDim →
      (minimizedCongruences g).st.cUp = true ∧ (minimizedCongruences g).st.cMin = true) :=
  minimizedCongruences_spec g hI

/-! ### `minimized_grid_generators()` -/

/-- **`minimized_grid_generators()`**: afterwards marked empty (exactly on the empty grid), or (dimension > 0) the
    generators are minimized -/
theorem minimizedGridGenerators_spec (g : Grid) (hI : GridInv g) :
    GridInv (minimizedGridGenerators g) ∧ (minimizedGridGenerators g).sem = g.sem ∧
    (minimizedGridGenerators g).spaceDim = g.spaceDim ∧
    ((minimizedGridGenerators g).st.empty = true ↔ g.sem = ∅) ∧
    ((minimizedGridGenerators g).st.empty = false → 0 < g.spaceDim →
      (minimizedGridGenerators g).st.gUp = true ∧ (minimizedGridGenerators g).st.gMin = true) := by
  by_cases h0 : g.spaceDim = 0
  · have hU : minimizedGridGenerators g = g := by simp [minimizedGridGenerators, h0]
    rw [hU]
    refine ⟨hI, rfl, rfl, ?_, fun _ h => by omega⟩
    cases he : g.st.empty
    · simp [Set.Nonempty.ne_empty (nonempty_of_zdim he h0)]
    · simp [sem_of_empty he]
  have hpos : 0 < g.spaceDim := by omega
  cases he : g.st.empty
  swap
  · have hU : minimizedGridGenerators g = g := by simp [minimizedGridGenerators, Grid.markedEmpty, he, h0]
    rw [hU]
    exact ⟨hI, rfl, rfl, by simp [he, sem_of_empty he], fun h => by rw [he] at h; exact absurd h (by decide)⟩
  cases hg : g.st.gUp
  · have hU : minimizedGridGenerators g = if (updateGenerators g).2 = true then (updateGenerators g).1
        else setEmpty (updateGenerators g).1 := by
      simp [minimizedGridGenerators, Grid.markedEmpty, he, h0, Grid.generatorsAreUpToDate, hg]
      cases (updateGenerators g).2 <;> simp
    obtain ⟨k1, k2, k3, k4, k5, k6⟩ := updateGenerators_spec g hI he hpos (cUp_of_not_gUp hI he hpos hg) hg
    cases hb : (updateGenerators g).2
    · have hemp : g.sem = ∅ := by
        by_contra hne
        have := k4.mpr (Set.nonempty_iff_ne_empty.mpr hne)
        rw [hb] at this; exact absurd this (by decide)
      rw [hU, hb]
      exact ⟨setEmpty_inv _, by rw [if_neg (by decide), setEmpty_sem, hemp], k3, by simp [hemp, lz_setEmpty_empty],
        fun h => by simp [setEmpty, Status.setEmpty] at h⟩
    · have hne : (g.sem).Nonempty := k4.mp hb
      rw [hU, hb]
      exact ⟨k1, k2, k3, by simp [(k5 hb).1, Set.Nonempty.ne_empty hne], fun _ _ => ⟨(k5 hb).2.1, (k5 hb).2.2.1⟩⟩
  · have hne := nonempty_of_gUp hI he hpos hg
    cases hgm : g.st.gMin
    · have hU : minimizedGridGenerators g = (simplifyGenSys g).setGeneratorsMinimized := by
        simp [minimizedGridGenerators, Grid.markedEmpty, he, h0, Grid.generatorsAreUpToDate, hg,
          Grid.generatorsAreMinimized, hgm]
      obtain ⟨k1, k2, k3, k4, k5, k6, k7, k8⟩ := lz_simplifyGen_post g hI he hpos hg (fun hcm => by
        have hc := hI.cminUp hcm
        obtain ⟨_, hcwf⟩ := hI.cwf he hpos hc
        obtain ⟨hdk, hlt, hk0⟩ := hI.cmin he hpos hcm
        obtain ⟨_, hgwf, hgn⟩ := hI.gwf he hpos hg
        exact dkCompatG g.spaceDim g.con g.dk g.gen g.dk _ hpos hcwf hdk hlt hk0 hgwf hgn (hI.agree he hpos hc hg))
      rw [hU]
      exact ⟨k1, k2, k3, by simp [k4, Set.Nonempty.ne_empty hne], fun _ _ => ⟨k5, k6⟩⟩
    · have hU : minimizedGridGenerators g = g := by
        simp [minimizedGridGenerators, Grid.markedEmpty, he, h0, Grid.generatorsAreUpToDate, hg,
          Grid.generatorsAreMinimized, hgm]
      rw [hU]
      exact ⟨hI, rfl, rfl, by simp [he, Set.Nonempty.ne_empty hne], fun _ _ => ⟨hg, hgm⟩⟩

theorem minimizedGridGenerators_lazy : LazyOK minimizedGridGenerators := fun g hI =>
  ⟨(minimizedGridGenerators_spec g hI).1, (minimizedGridGenerators_spec g hI).2.1, (minimizedGridGenerators_spec g hI).2.2.1⟩

/-- `grid_generators()` on `x ≡ 1 (mod 2)` given by congruences only -/
example :
    let g : Grid := Grid.mk 1 { cUp := true } 1 [⟨[-1, 1], 2⟩] 1 [] []
    invB g = true ∧ (gridGenerators g).gen = [⟨false, [1, 1, 0]⟩, ⟨false, [0, 2, 1]⟩] ∧
      (minimizedCongruences g).con = [⟨[1, 1], 2⟩, ⟨[2, 0], 2⟩] := by decide +kernel

/-- the shared `dim_kinds` in one sentence: whenever `simplify` recomputes `dim_kinds` from the generators of an
    invariant state, congruences that were triangular for the old `dim_kinds` are triangular for the new one -/
theorem simplifyGenSys_keeps_cmin (g : Grid) (hI : GridInv g) (he : g.st.empty = false) (hpos : 0 < g.spaceDim)
    (hg : g.st.gUp = true) (hcm : g.st.cMin = true) :
    lowerTriangular g.spaceDim g.con (simplifyGenSys g).dk = true := by
  have hc := hI.cminUp hcm
  obtain ⟨_, hcwf⟩ := hI.cwf he hpos hc
  obtain ⟨hdk, hlt, hk0⟩ := hI.cmin he hpos hcm
  obtain ⟨hgd, hgwf, hgn⟩ := hI.gwf he hpos hg
  have := dkCompatG g.spaceDim g.con g.dk g.gen g.dk _ hpos hcwf hdk hlt hk0 hgwf hgn (hI.agree he hpos hc hg)
  simpa [simplifyGenSys, hgd] using this

/-- both minimized on `x ≡ 1 (mod 2)` given by congruences and non-minimized generators: `minimize` runs `simplify` on
    both systems, the shared `dim_kinds` serves both -/
example :
    let g : Grid := Grid.mk 1 { cUp := true, gUp := true } 1 [⟨[-1, 1], 2⟩] 1
      [⟨false, [1, 1, 0]⟩, ⟨false, [0, 4, 1]⟩, ⟨false, [0, 6, 1]⟩] []
    invB g = true ∧ (minimize g).2 = true ∧ invB (minimize g).1 = true ∧
      (minimize g).1.gen = [⟨false, [1, 1, 0]⟩, ⟨false, [0, 2, 1]⟩] ∧ (minimize g).1.dk = [0, 0] := by decide +kernel

end PPLV.Lattice.GO

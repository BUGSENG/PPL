import PPLV.Lattice.Model
import Mathlib.Algebra.Order.Field.Rat
import Mathlib.Data.Rat.Lemmas
import Mathlib.Tactic.Linarith
import Mathlib.Tactic.Ring
import Mathlib.Tactic.FieldSimp
import Mathlib.Tactic.LinearCombination
import Mathlib.Tactic.Push

/-!
# K2: the integer arithmetic of the kernel (extended gcd, linear congruences over ℚ)
-/
namespace PPLV.Lattice

/-! ### extended gcd -/

theorem xgcd_dvd (a b : Int) :
    ((xgcd a b).1 * a + (xgcd a b).2 * b ∣ a) ∧ ((xgcd a b).1 * a + (xgcd a b).2 * b ∣ b) := by
  induction a, b using xgcd.induct with
  | case1 a =>
    rw [xgcd]
    simp only [dite_true, mul_zero, add_zero, dvd_zero, and_true]
    split
    · simp
    · simp
  | case2 a b hb ih =>
    rw [xgcd]
    simp only [hb, dite_false]
    have e : (xgcd b (a % b)).2 * a + ((xgcd b (a % b)).1 - a / b * (xgcd b (a % b)).2) * b
        = (xgcd b (a % b)).1 * b + (xgcd b (a % b)).2 * (a % b) := by
      rw [Int.emod_def]; ring
    rw [e]
    refine ⟨?_, ih.1⟩
    have h2 : a = b * (a / b) + a % b := (Int.mul_ediv_add_emod a b).symm
    have := Dvd.dvd.mul_right ih.1 (a / b)
    have h3 := Int.dvd_add this ih.2
    rw [← h2] at h3
    exact h3

/-- Bézout data in the shape the kernel uses it -/
theorem xgcd_cofactors (a b : Int) (ha : a ≠ 0) :
    let s := (xgcd a b).1
    let t := (xgcd a b).2
    let g := s * a + t * b
    g ≠ 0 ∧ a = (a / g) * g ∧ b = (b / g) * g ∧ s * (a / g) + t * (b / g) = 1 := by
  intro s t g
  obtain ⟨h1, h2⟩ := xgcd_dvd a b
  have hg : g ≠ 0 := by
    intro h0
    have : (0:Int) ∣ a := by rw [← h0]; exact h1
    exact ha (zero_dvd_iff.mp this)
  have ea : a = (a / g) * g := (Int.ediv_mul_cancel h1).symm
  have eb : b = (b / g) * g := (Int.ediv_mul_cancel h2).symm
  refine ⟨hg, ea, eb, ?_⟩
  have : (s * (a / g) + t * (b / g)) * g = 1 * g := by
    calc (s * (a / g) + t * (b / g)) * g = s * ((a / g) * g) + t * ((b / g) * g) := by ring
      _ = s * a + t * b := by rw [← ea, ← eb]
      _ = 1 * g := by ring
  exact mul_right_cancel₀ hg this

/-! ### `inModZ` -/

theorem inModZ_iff (r f : Rat) : inModZ r f = true ↔ ∃ t : Int, r = (t : Rat) * f := by
  unfold inModZ
  by_cases hf : f = 0
  · simp [hf]
  · simp only [hf, if_false, beq_iff_eq]
    constructor
    · intro h
      refine ⟨(r / f).num, ?_⟩
      have := Rat.coe_int_num_of_den_eq_one h
      rw [this]; field_simp
    · rintro ⟨t, rfl⟩
      have : (t : Rat) * f / f = (t : Rat) := by field_simp
      rw [this]; exact Rat.den_intCast t

/-! ### scaling rationals to a common denominator -/

theorem num_eq (x : Rat) : (x.num : Rat) = x * (x.den : Rat) := (Rat.mul_den_eq_num x).symm
theorem den_ne (x : Rat) : (x.den : Rat) ≠ 0 := by exact_mod_cast x.den_ne_zero

/-! ### the unimodular step -/

theorem combineCoef_spec (r1 r2 : Rat) (h1 : r1 ≠ 0) :
    let k := combineCoef r1 r2
    let s := k.1; let t := k.2.1; let c := k.2.2.1; let d := k.2.2.2
    ((s:Rat) * r1 + t * r2 ≠ 0) ∧ ((c:Rat) * r1 + d * r2 = 0) ∧
    ((d:Rat) * s - t * c = 1) := by
  intro k s t c d
  have hR1 : r1.num * (r2.den : Int) ≠ 0 := by
    have : r1.num ≠ 0 := by rwa [Ne, Rat.num_eq_zero]
    exact mul_ne_zero this (by exact_mod_cast r2.den_ne_zero)
  obtain ⟨hg, ea, eb, hbez⟩ := xgcd_cofactors (r1.num * r2.den) (r2.num * r1.den) hR1
  have D1 := den_ne r1
  have D2 := den_ne r2
  have hD : ((r1.den : Rat) * r2.den) ≠ 0 := mul_ne_zero D1 D2
  have q1 : ((r1.num * r2.den : Int) : Rat) = r1 * (r1.den * r2.den) := by
    push_cast; rw [num_eq r1]; ring
  have q2 : ((r2.num * r1.den : Int) : Rat) = r2 * (r1.den * r2.den) := by
    push_cast; rw [num_eq r2]; ring
  -- abstract the integers
  have hs : s = (xgcd (r1.num * r2.den) (r2.num * r1.den)).1 := rfl
  have ht : t = (xgcd (r1.num * r2.den) (r2.num * r1.den)).2 := rfl
  have hc : c = -((r2.num * r1.den) / (s * (r1.num * r2.den) + t * (r2.num * r1.den))) := rfl
  have hd : d = (r1.num * r2.den) / (s * (r1.num * r2.den) + t * (r2.num * r1.den)) := rfl
  rw [← hs, ← ht] at hg ea eb hbez
  generalize (r1.num * (r2.den : Int)) = R1 at *
  generalize (r2.num * (r1.den : Int)) = R2 at *
  generalize hgd : s * R1 + t * R2 = g at *
  generalize hA : R1 / g = A at *
  generalize hB : R2 / g = B at *
  rw [hc, hd]
  have eaQ : (R1 : Rat) = (A : Rat) * g := by exact_mod_cast ea
  have ebQ : (R2 : Rat) = (B : Rat) * g := by exact_mod_cast eb
  have hgQ : (g : Rat) ≠ 0 := by exact_mod_cast hg
  have hbezQ : (s : Rat) * A + t * B = 1 := by exact_mod_cast hbez
  have hgdQ : (s : Rat) * R1 + t * R2 = g := by exact_mod_cast hgd
  refine ⟨?_, ?_, ?_⟩
  · have : ((s:Rat) * r1 + t * r2) * ((r1.den : Rat) * r2.den) = (g : Rat) := by
      rw [← hgdQ, q1, q2]; ring
    intro h0
    rw [h0, zero_mul] at this
    exact hgQ this.symm
  · have : (((-B : Int):Rat) * r1 + (A:Rat) * r2) * (((r1.den : Rat) * r2.den) ) = 0 := by
      have e : (((-B : Int):Rat) * r1 + (A:Rat) * r2) * (((r1.den : Rat) * r2.den))
          = ((-B : Int):Rat) * R1 + A * R2 := by
        rw [q1, q2]; ring
      rw [e, eaQ, ebQ]; push_cast; ring
    rcases mul_eq_zero.mp this with h | h
    · exact h
    · exact absurd h hD
  · push_cast; linear_combination hbezQ

/-! ### solving `r0 + k rs ∈ f ℤ` -/

/-- the integers `solveCg` works with are the three rationals times the common denominator `D` -/
theorem solveCg_scale (r0 rs f : Rat) :
    ∃ D : Rat, D ≠ 0 ∧ ((r0.num * rs.den * f.den : Int) : Rat) = r0 * D ∧
      ((rs.num * r0.den * f.den : Int) : Rat) = rs * D ∧ ((f.num * r0.den * rs.den : Int) : Rat) = f * D :=
  ⟨r0.den * rs.den * f.den, mul_ne_zero (mul_ne_zero (den_ne r0) (den_ne rs)) (den_ne f),
    by push_cast; rw [num_eq r0]; ring, by push_cast; rw [num_eq rs]; ring, by push_cast; rw [num_eq f]; ring⟩

/-- a relation `a + k b = T c` with integer `k`, `T`, read on the scaled integers -/
theorem scaled_iff {a b c D : Rat} {A B C : Int} (hD : D ≠ 0) (hA : (A : Rat) = a * D) (hB : (B : Rat) = b * D)
    (hC : (C : Rat) = c * D) (k T : Int) : a + k * b = T * c ↔ A + k * B = T * C := by
  rw [← @Int.cast_inj Rat]
  push_cast
  rw [hA, hB, hC]
  exact ⟨fun h => by linear_combination D * h, fun h => mul_right_cancel₀ hD (by linear_combination h)⟩

theorem scaled_iff₀ {b c D : Rat} {B C : Int} (hD : D ≠ 0) (hB : (B : Rat) = b * D) (hC : (C : Rat) = c * D)
    (k T : Int) : (k : Rat) * b = T * c ↔ k * B = T * C := by
  have h := scaled_iff (a := 0) (A := 0) hD (by rw [Int.cast_zero, zero_mul]) hB hC k T
  rwa [zero_add, zero_add] at h

/-- the linear congruence `R0 + k R ≡ 0 (mod F)` over ℤ from Bézout data `g = s R + t F`, `R = A g`, `F = B g`:
    for `R0 = C g` the solutions are `k ≡ -C s (mod B)` -/
theorem bezout_solve {R F s t g A B : Int} (hg : g ≠ 0) (hgd : s * R + t * F = g) (hA : R = A * g) (hB : F = B * g)
    (hbez : s * A + t * B = 1) (C : Int) :
    C * g + (-C * s) * R = (C * t) * F ∧ B * R = A * F ∧ ∀ k T : Int, k * R = T * F → k = (s * T + k * t) * B := by
  refine ⟨by rw [← hgd]; ring, by rw [hA, hB]; ring, fun k T h => ?_⟩
  have h1 : k * A = T * B := by
    rw [hA, hB] at h
    exact mul_right_cancel₀ hg (by linear_combination h)
  linear_combination (-k) * hbez + s * h1

theorem solveCg_some (r0 rs f : Rat) (hrs : rs ≠ 0) (k0 m : Int) (h : solveCg r0 rs f = some (k0, m)) :
    (∃ T : Int, r0 + (k0:Rat) * rs = (T:Rat) * f) ∧ (∃ T : Int, (m:Rat) * rs = (T:Rat) * f) ∧
    (∀ k : Int, (∃ T : Int, (k:Rat) * rs = (T:Rat) * f) → ∃ j : Int, k = j * m) := by
  unfold solveCg at h
  simp only at h
  have hR : rs.num * (r0.den : Int) * (f.den : Int) ≠ 0 :=
    mul_ne_zero (mul_ne_zero (by rwa [Ne, Rat.num_eq_zero]) (by exact_mod_cast r0.den_ne_zero))
      (by exact_mod_cast f.den_ne_zero)
  obtain ⟨hg, ea, eb, hbez⟩ := xgcd_cofactors (rs.num * r0.den * f.den) (f.num * r0.den * rs.den) hR
  obtain ⟨D, hD, q0, q1, q2⟩ := solveCg_scale r0 rs f
  generalize (r0.num * (rs.den : Int) * (f.den : Int)) = R0 at *
  generalize (rs.num * (r0.den : Int) * (f.den : Int)) = R at *
  generalize (f.num * (r0.den : Int) * (rs.den : Int)) = F at *
  generalize (xgcd R F).1 = s at *
  generalize (xgcd R F).2 = t at *
  generalize hgd : s * R + t * F = g at *
  split at h
  · exact absurd h (by simp)
  · rename_i hmod
    simp only [bne_iff_ne, ne_eq, not_not] at hmod
    have e0 : (R0 / g) * g = R0 := Int.ediv_mul_cancel (Int.dvd_of_emod_eq_zero hmod)
    simp only [Option.some.injEq, Prod.mk.injEq] at h
    obtain ⟨rfl, rfl⟩ := h
    obtain ⟨b1, b2, b3⟩ := bezout_solve hg hgd ea eb hbez (R0 / g)
    rw [e0] at b1
    exact ⟨⟨_, (scaled_iff hD q0 q1 q2 _ _).mpr b1⟩, ⟨R / g, (scaled_iff₀ hD q1 q2 _ _).mpr b2⟩,
      fun k ⟨T, hT⟩ => ⟨s * T + k * t, b3 k T ((scaled_iff₀ hD q1 q2 k T).mp hT)⟩⟩

theorem solveCg_none (r0 rs f : Rat) (h : solveCg r0 rs f = none) (k : Int) :
    ¬ ∃ T : Int, r0 + (k:Rat) * rs = (T:Rat) * f := by
  unfold solveCg at h
  simp only at h
  obtain ⟨hg1, hg2⟩ := xgcd_dvd (rs.num * r0.den * f.den) (f.num * r0.den * rs.den)
  obtain ⟨D, hD, q0, q1, q2⟩ := solveCg_scale r0 rs f
  generalize (r0.num * (rs.den : Int) * (f.den : Int)) = R0 at *
  generalize (rs.num * (r0.den : Int) * (f.den : Int)) = R at *
  generalize (f.num * (r0.den : Int) * (rs.den : Int)) = F at *
  generalize (xgcd R F).1 * R + (xgcd R F).2 * F = g at *
  split at h
  · rename_i hmod
    simp only [bne_iff_ne, ne_eq] at hmod
    rintro ⟨T, hT⟩
    have e : R0 = T * F - k * R := by linear_combination (scaled_iff hD q0 q1 q2 k T).mp hT
    exact hmod (Int.emod_eq_zero_of_dvd (e ▸ Int.dvd_sub (Dvd.dvd.mul_left hg2 T) (Dvd.dvd.mul_left hg1 k)))
  · exact absurd h (by simp)

end PPLV.Lattice

import PPLV.Lattice.ProofsGridOpsRemoveDims
import PPLV.Lattice.ProofsGridOpsCongruence
import PPLV.Lattice.ProofsGridOpsAffinePreimage
import PPLV.Lattice.ProofsGridOpsBounds
import PPLV.Lattice.ProofsGridOpsConstruct
import PPLV.Lattice.ProofsGridOpsLazy

/-!
# The `Grid` object: `map_space_dimensions`

Dimension 0, empty codomain, the identity, permutations (the image under the coordinate permutation), non-permutations on an
empty grid.
-/
namespace PPLV.Lattice.GO
open PPLV.Lattice PPLV.Lattice.Red

/-! ## `map_space_dimensions(pfunc)` (Grid_templates.hh:119), the degenerate cases

`cn_pfMap pf n`: the coordinate map of the partial function (`y_k = x_j` where `pf j = k`, `0` when no `j < n` maps to `k`;
K2: `mapCoords`).  Cases here: dimension 0 (nothing happens), empty codomain (the empty grid of dimension 0 or the
0-dimensional universe), the identity permutation (nothing happens).
-/

/-- the coordinate map of a partial function on the first `n` coordinates -/
noncomputable def cn_pfMap (pf : PFunc) (n : Nat) : Pt →ₗ[ℚ] Pt :=
  coordMap (fun k => (List.range n).find? (fun j => pf.maps j = some k))

theorem cn_pfMap_apply (pf : PFunc) (n : Nat) (x : Pt) (k : Nat) :
    cn_pfMap pf n x k = match (List.range n).find? (fun j => pf.maps j = some k) with | some j => x j | none => 0 := rfl

theorem cn_mapSD_zdim (g : Grid) (pf : PFunc) (h0 : g.spaceDim = 0) : mapSpaceDimensions g pf = { g := g } := by
  unfold mapSpaceDimensions; rw [if_pos h0]

theorem cn_maps_none_of_empty (pf : PFunc) (h : pf.hasEmptyCodomain = true) (j : Nat) : pf.maps j = none := by
  unfold PFunc.hasEmptyCodomain at h
  rw [List.all_eq_true] at h
  unfold PFunc.maps
  by_cases hj : j < pf.length
  · have := h pf[j] (List.getElem_mem hj)
    rw [List.getD_eq_getElem?_getD, List.getElem?_eq_getElem hj]
    simpa using this
  · rw [List.getD_eq_getElem?_getD, List.getElem?_eq_none (by omega)]; rfl

theorem cn_pfMap_empty (pf : PFunc) (n : Nat) (h : pf.hasEmptyCodomain = true) (x : Pt) : cn_pfMap pf n x = 0 := by
  funext k
  rw [cn_pfMap_apply]
  have : (List.range n).find? (fun j => pf.maps j = some k) = none := by
    rw [List.find?_eq_none]; intro j _; simp [cn_maps_none_of_empty pf h j]
  rw [this]; rfl

unseal gn_ens in
/-- empty codomain: every dimension is dropped — the empty grid of dimension 0, or the 0-dimensional universe -/
theorem cn_mapSD_emptyCodomain (g : Grid) (pf : PFunc) (hI : GridInv g) (hpos : 0 < g.spaceDim)
    (h : pf.hasEmptyCodomain = true) :
    (mapSpaceDimensions g pf).thrown = false ∧ GridInv (mapSpaceDimensions g pf).g ∧
      (mapSpaceDimensions g pf).g.spaceDim = 0 ∧
      (mapSpaceDimensions g pf).g.sem = cn_pfMap pf g.spaceDim '' g.sem := by
  have heq : mapSpaceDimensions g pf =
      if (gn_ens g).2 = false then { g := setEmpty { (gn_ens g).1 with spaceDim := 0 } }
      else { g := setZeroDimUniv (gn_ens g).1 } := by
    unfold mapSpaceDimensions
    rw [if_neg (by omega), if_pos h]
    show (if (!(gn_ens g).2) = true then _ else _) = _
    cases (gn_ens g).2 <;> rfl
  rw [heq]
  by_cases h2 : (gn_ens g).2 = false
  · rw [if_pos h2]
    obtain ⟨_, _, _, _, hge⟩ := gn_ens_false g hI hpos h2
    exact ⟨rfl, setEmpty_inv _, rfl, by rw [setEmpty_sem, hge, Set.image_empty]⟩
  · rw [if_neg h2]
    have hne : g.sem.Nonempty := ((gn_ens_spec g hI hpos).2.2.2.1).mp (by simpa using h2)
    obtain ⟨a, b, c⟩ := setZeroDimUniv_spec (gn_ens g).1
    refine ⟨rfl, a, c, ?_⟩
    rw [b]
    ext y
    simp only [spaceSet, Set.mem_ofPred_eq, Set.mem_image]
    constructor
    · intro hy
      obtain ⟨x, hx⟩ := hne
      exact ⟨x, hx, by rw [cn_pfMap_empty pf _ h]; funext i; exact (hy i (Nat.zero_le _)).symm⟩
    · rintro ⟨x, _, rfl⟩; rw [cn_pfMap_empty pf _ h]; exact fun i _ => rfl

/-- the identity on the first `n` coordinates -/
theorem cn_pfMap_id (pf : PFunc) (n : Nat) (hid : ∀ j, j < n → pf.maps j = some j) (x : Pt) (hx : Supp n x) :
    cn_pfMap pf n x = x := by
  funext k
  rw [cn_pfMap_apply]
  by_cases hk : k < n
  · have : (List.range n).find? (fun j => pf.maps j = some k) = some k := by
      rw [List.find?_eq_some_iff_getElem]
      refine ⟨by simp [hid k hk], k, by simpa using hk, by simp, ?_⟩
      intro j hj
      have hjn : j < n := by omega
      simp only [List.getElem_range]
      rw [hid j hjn]; simp; omega
    rw [this]
  · have : (List.range n).find? (fun j => pf.maps j = some k) = none := by
      rw [List.find?_eq_none]; intro j hj
      rw [hid j (List.mem_range.mp hj)]; simp; exact fun h => hk (h ▸ List.mem_range.mp hj)
    rw [this]; exact (hx k (by omega)).symm

/-- a "permutation" that moves nothing: the object is not touched -/
theorem cn_mapSD_identity (g : Grid) (pf : PFunc) (hI : GridInv g) (hpos : 0 < g.spaceDim)
    (hne : pf.hasEmptyCodomain = false) (hdim : pf.maxInCodomain + 1 = g.spaceDim)
    (hid : ∀ j, j < g.spaceDim → pf.maps j = some j) :
    mapSpaceDimensions g pf = { g := g } ∧ cn_pfMap pf g.spaceDim '' g.sem = g.sem := by
  constructor
  · unfold mapSpaceDimensions
    rw [if_neg (by omega), if_neg (by rw [hne]; simp)]
    simp only [hdim, if_true]
    have : ((List.range g.spaceDim).any fun j => pf.maps j ≠ some j) = false := by
      rw [List.any_eq_false]; intro j hj
      simp [hid j (List.mem_range.mp hj)]
    simp only [this]
    rfl
  · ext y
    simp only [Set.mem_image]
    constructor
    · rintro ⟨x, hx, rfl⟩; rwa [cn_pfMap_id pf _ hid x (cn_sem_subset_space g hI hx)]
    · intro hy; exact ⟨y, hy, cn_pfMap_id pf _ hid y (cn_sem_subset_space g hI hy)⟩

example : (mapSpaceDimensions cn_exGrid [none]).g.spaceDim = 0 ∧ (mapSpaceDimensions cn_exGrid [some 0]).g = cn_exGrid := by
  decide +kernel

/-! ## `map_space_dimensions(pfunc)`, the permutation case on a grid described by its generators only (`permuteRow` on every generator row, lines sign-normalised again): the image under `cn_pfMap` -/

/-! ### `permuteRow` -/

theorem cn_permuteRow_length (pf : PFunc) (n : Nat) (e : Row) : (permuteRow pf n e).length = e.length := by
  simp [permuteRow, tab]

theorem cn_permuteRow_get0 (pf : PFunc) (n : Nat) (e : Row) : Red.get (permuteRow pf n e) 0 = Red.get e 0 := by
  unfold permuteRow
  rw [get_tab]
  split
  · rw [if_neg (by omega)]
  · rename_i h; exact (get_of_length_le e 0 (by omega)).symm

theorem cn_permuteRow_getLast (pf : PFunc) (n : Nat) (e : Row) (hl : e.length = n + 2) :
    Red.get (permuteRow pf n e) (n + 1) = Red.get e (n + 1) := by
  unfold permuteRow
  rw [get_tab, if_pos (by omega), if_neg (by omega)]

theorem cn_permuteRow_getMid (pf : PFunc) (n : Nat) (e : Row) (hl : e.length = n + 2) (k : Nat) (hk : k < n) :
    Red.get (permuteRow pf n e) (k + 1) =
      match (List.range n).find? (fun j => pf.maps j = some k) with | some j => Red.get e (j + 1) | none => 0 := by
  unfold permuteRow
  rw [get_tab, if_pos (by omega), if_pos (by omega)]
  rfl

/-- the generator row as the permutation case rewrites it -/
def cn_permGRow (pf : PFunc) (n : Nat) (r : GRow) : GRow :=
  { r with e := if r.line then signNormalizeRow (permuteRow pf n r.e) else permuteRow pf n r.e }

theorem cn_signNormalizeRow_cases (e : Row) : signNormalizeRow e = e ∨ signNormalizeRow e = e.map (fun x => -x) := by
  unfold signNormalizeRow
  split
  · split
    · exact Or.inr rfl
    · exact Or.inl rfl
  · exact Or.inl rfl

theorem cn_find_lt (pf : PFunc) (n k j : Nat) (h : (List.range n).find? (fun j => pf.maps j = some k) = some j) :
    j < n ∧ pf.maps j = some k :=
  ⟨List.mem_range.mp (List.mem_of_find?_eq_some h), by simpa using List.find?_some h⟩

/-- the system after the permutation of the coordinates -/
theorem cn_perm_rows (pf : PFunc) (n : Nat) (D : Int) (rows : List GRow) (hw : GWf n rows) (hN : GNorm n D rows)
    (hrange : ∀ j, j < n → ∀ k, pf.maps j = some k → k < n) :
    GWf n (rows.map (cn_permGRow pf n)) ∧ GNorm n D (rows.map (cn_permGRow pf n)) ∧
    gn_set (rows.map (cn_permGRow pf n)) = cn_pfMap pf n '' gn_set rows := by
  have hnl : ∀ r, r.line = false → (cn_permGRow pf n r).e = permuteRow pf n r.e := fun r hl => by
    unfold cn_permGRow; simp [hl]
  have hline : ∀ r, (cn_permGRow pf n r).line = r.line := fun r => rfl
  have hlen : ∀ r ∈ rows, (cn_permGRow pf n r).e.length = n + 2 := by
    intro r hr
    unfold cn_permGRow
    simp only
    split
    · rw [cn_signNormalizeRow_length, cn_permuteRow_length]; exact hw r hr
    · rw [cn_permuteRow_length]; exact hw r hr
  -- a line keeps a zero inhomogeneous term; its entries are kept up to one common sign
  have hlin : ∀ r ∈ rows, r.line = true → ∃ s : Int, (s = 1 ∨ s = -1) ∧
      ∀ i, Red.get (cn_permGRow pf n r).e i = s * Red.get (permuteRow pf n r.e) i := by
    intro r hr hl
    unfold cn_permGRow
    simp only [hl, if_true]
    rcases cn_signNormalizeRow_cases (permuteRow pf n r.e) with h | h
    · exact ⟨1, Or.inl rfl, fun i => by rw [h]; ring⟩
    · exact ⟨-1, Or.inr rfl, fun i => by rw [h, cn_get_map _ _ (by simp)]; ring⟩
  have h0 : ∀ r ∈ rows, (Red.get (cn_permGRow pf n r).e 0 = 0 ↔ Red.get r.e 0 = 0) ∧
      (r.line = false → Red.get (cn_permGRow pf n r).e 0 = Red.get r.e 0) := by
    intro r hr
    cases hl : r.line
    · rw [hnl r hl, cn_permuteRow_get0]; exact ⟨Iff.rfl, fun _ => rfl⟩
    · obtain ⟨s, hs, hg⟩ := hlin r hr hl
      rw [hg 0, cn_permuteRow_get0, hN.lin r hr hl]
      exact ⟨by simp, fun h => by cases h⟩
  have hpt : ∀ r ∈ rows, gn_isPt (cn_permGRow pf n r) = gn_isPt r := by
    intro r hr
    by_cases hz : Red.get r.e 0 = 0
    · simp [gn_isPt, hline, hz, (h0 r hr).1.mpr hz]
    · have hz' : Red.get (cn_permGRow pf n r).e 0 ≠ 0 := fun q => hz ((h0 r hr).1.mp q)
      have a1 : (Red.get r.e 0 != 0) = true := bne_iff_ne.mpr hz
      have a2 : (Red.get (cn_permGRow pf n r).e 0 != 0) = true := bne_iff_ne.mpr hz'
      simp only [gn_isPt, hline, a1, a2]
  have hpar : ∀ r ∈ rows, gn_isPar (cn_permGRow pf n r) = gn_isPar r := by
    intro r hr
    by_cases hz : Red.get r.e 0 = 0
    · simp [gn_isPar, hline, hz, (h0 r hr).1.mpr hz]
    · have hz' : Red.get (cn_permGRow pf n r).e 0 ≠ 0 := fun q => hz ((h0 r hr).1.mp q)
      have a1 : (Red.get r.e 0 == 0) = false := beq_eq_false_iff_ne.mpr hz
      have a2 : (Red.get (cn_permGRow pf n r).e 0 == 0) = false := beq_eq_false_iff_ne.mpr hz'
      simp only [gn_isPar, hline, a1, a2]
  -- the vector of a permuted row
  have hvraw : ∀ r ∈ rows, ∀ (e' : Row) (d : ℚ), e'.length = n + 2 →
      (∀ k, k < n → (Red.get e' (k + 1) : ℚ) = (match (List.range n).find? (fun j => pf.maps j = some k) with
        | some j => (Red.get r.e (j + 1) : ℚ) | none => 0)) →
      (fun k => if k < n then (Red.get e' (k + 1) : ℚ) / d else 0) =
        cn_pfMap pf n (fun j => if j < n then (Red.get r.e (j + 1) : ℚ) / d else 0) := by
    intro r _ e' d _ he'
    funext k
    rw [cn_pfMap_apply]
    by_cases hk : k < n
    · rw [if_pos hk, he' k hk]
      cases hf : (List.range n).find? (fun j => pf.maps j = some k) with
      | none => simp
      | some j => simp only; rw [if_pos (cn_find_lt pf n k j hf).1]
    · rw [if_neg hk]
      cases hf : (List.range n).find? (fun j => pf.maps j = some k) with
      | none => rfl
      | some j =>
        have := cn_find_lt pf n k j hf
        exact absurd (hrange j this.1 k this.2) hk
  have hgw : GWf n (rows.map (cn_permGRow pf n)) := by
    intro r' hr'
    obtain ⟨r, hr, rfl⟩ := List.mem_map.mp hr'
    exact hlen r hr
  refine ⟨hgw, ⟨hN.pos, ?_, ?_, ?_, ?_⟩, ?_⟩
  · obtain ⟨r, hr, hl, h⟩ := hN.pt
    exact ⟨_, List.mem_map_of_mem hr, hl, by rw [(h0 r hr).2 hl]; exact h⟩
  · intro r' hr' hl
    obtain ⟨r, hr, rfl⟩ := List.mem_map.mp hr'
    rw [(h0 r hr).2 hl]; exact hN.col0 r hr hl
  · intro r' hr' hl hz
    obtain ⟨r, hr, rfl⟩ := List.mem_map.mp hr'
    have hl' : r.line = false := hl
    rw [(h0 r hr).2 hl'] at hz
    rw [hnl r hl', cn_permuteRow_getLast pf n r.e (hw r hr)]; exact hN.par r hr hl' hz
  · intro r' hr' hl
    obtain ⟨r, hr, rfl⟩ := List.mem_map.mp hr'
    exact (h0 r hr).1.mpr (hN.lin r hr hl)
  · refine cn_gn_set_image rows (cn_permGRow pf n) (cn_pfMap pf n) hpt hpar (fun r _ => hline r) ?_ ?_
    · intro r hr hl
      have hdiv : (cn_permGRow pf n r).divisor = r.divisor := by
        by_cases hz : Red.get r.e 0 = 0
        · rw [divisor_param n _ (hlen r hr) ((h0 r hr).1.mpr hz), divisor_param n r (hw r hr) hz, hnl r hl,
            cn_permuteRow_getLast pf n r.e (hw r hr)]
        · rw [divisor_point _ (fun q => hz ((h0 r hr).1.mp q)), divisor_point r hz, (h0 r hr).2 hl]
      unfold gn_vecOf
      rw [gn_spaceDim_of_len (hlen r hr), gn_spaceDim_of_len (hw r hr), hline r, hl, hdiv]
      simp only [Bool.false_eq_true, if_false]
      refine hvraw r hr _ _ (hlen r hr) (fun k hk => ?_)
      rw [hnl r hl, cn_permuteRow_getMid pf n r.e (hw r hr) k hk]
      cases (List.range n).find? (fun j => pf.maps j = some k) <;> simp
    · intro r hr hl
      obtain ⟨s, hs, hg⟩ := hlin r hr hl
      refine ⟨(s : ℚ), by rcases hs with h | h <;> rw [h] <;> simp, ?_⟩
      have hraw := hvraw r hr (permuteRow pf n r.e) 1 (by rw [cn_permuteRow_length]; exact hw r hr) (fun k hk => by
        rw [cn_permuteRow_getMid pf n r.e (hw r hr) k hk]
        cases (List.range n).find? (fun j => pf.maps j = some k) <;> simp)
      unfold gn_vecOf
      rw [gn_spaceDim_of_len (hlen r hr), gn_spaceDim_of_len (hw r hr), hline r, hl]
      simp only [if_true]
      rw [← hraw]
      funext k
      simp only [Pi.smul_apply, smul_eq_mul]
      by_cases hk : k < n
      · rw [if_pos hk, if_pos hk, hg (k + 1)]; push_cast; ring
      · rw [if_neg hk, if_neg hk, mul_zero]

/-! ## `map_space_dimensions(pfunc)`, the permutation case on the object

The marked-empty object; the object described by its generators only; with up-to-date congruences the congruence rows
are permuted by `permuteRow` as well — that their solutions are the image is a re-indexing of the sum over a bijection,
which needs `pf` injective (`cn_perm_con`).
-/

/-- the two steps of the permutation case -/
def cn_permCon (g : Grid) (pf : PFunc) : Grid :=
  if g.congruencesAreUpToDate then
    ({ g with con := g.con.map fun (c : CRow) => ({ c with e := permuteRow pf g.spaceDim c.e } : CRow) }).clearCongruencesMinimized
  else g
def cn_permGen (g1 : Grid) (pf : PFunc) (n : Nat) : Grid :=
  if g1.generatorsAreUpToDate then ({ g1 with gen := g1.gen.map (cn_permGRow pf n) }).clearGeneratorsMinimized else g1

theorem cn_mapSD_perm_eq (g : Grid) (pf : PFunc) (hpos : 0 < g.spaceDim) (hne : pf.hasEmptyCodomain = false)
    (hdim : pf.maxInCodomain + 1 = g.spaceDim)
    (hmoved : ((List.range g.spaceDim).any fun j => pf.maps j ≠ some j) = true) :
    mapSpaceDimensions g pf = { g := cn_permGen (cn_permCon g pf) pf g.spaceDim } := by
  unfold mapSpaceDimensions
  rw [if_neg (by omega), if_neg (by rw [hne]; simp)]
  simp only [hdim, if_true, hmoved, Bool.not_true, Bool.false_eq_true, if_false]
  rfl

/-- the permutation case on a marked-empty object: nothing happens -/
theorem cn_mapSD_perm_empty (g : Grid) (pf : PFunc) (hI : GridInv g) (he : g.st.empty = true) (hpos : 0 < g.spaceDim)
    (hne : pf.hasEmptyCodomain = false) (hdim : pf.maxInCodomain + 1 = g.spaceDim)
    (hmoved : ((List.range g.spaceDim).any fun j => pf.maps j ≠ some j) = true) :
    mapSpaceDimensions g pf = { g := g } := by
  rw [cn_mapSD_perm_eq g pf hpos hne hdim hmoved]
  have hst := (hI.emp he).1
  have hc : g.st.cUp = false := by rw [hst]; rfl
  have hg : g.st.gUp = false := by rw [hst]; rfl
  unfold cn_permCon
  rw [if_neg (show ¬ (g.congruencesAreUpToDate = true) by simp [Grid.congruencesAreUpToDate, hc])]
  unfold cn_permGen
  rw [if_neg (show ¬ (g.generatorsAreUpToDate = true) by simp [Grid.generatorsAreUpToDate, hg])]

/-- the permutation case on a grid described by its generators only: the image under the coordinate map -/
theorem cn_mapSD_perm_gen (g : Grid) (pf : PFunc) (hI : GridInv g) (he : g.st.empty = false) (hpos : 0 < g.spaceDim)
    (hne : pf.hasEmptyCodomain = false) (hdim : pf.maxInCodomain + 1 = g.spaceDim)
    (hmoved : ((List.range g.spaceDim).any fun j => pf.maps j ≠ some j) = true)
    (hrange : ∀ j, j < g.spaceDim → ∀ k, pf.maps j = some k → k < g.spaceDim)
    (hc : g.st.cUp = false) (hg : g.st.gUp = true) :
    (mapSpaceDimensions g pf).thrown = false ∧ GridInv (mapSpaceDimensions g pf).g ∧
      (mapSpaceDimensions g pf).g.spaceDim = g.spaceDim ∧
      (mapSpaceDimensions g pf).g.sem = cn_pfMap pf g.spaceDim '' g.sem := by
  rw [cn_mapSD_perm_eq g pf hpos hne hdim hmoved]
  have e1 : cn_permCon g pf = g := by
    unfold cn_permCon
    rw [if_neg (show ¬ (g.congruencesAreUpToDate = true) by simp [Grid.congruencesAreUpToDate, hc])]
  have e2 : cn_permGen g pf g.spaceDim =
      ({ g with gen := g.gen.map (cn_permGRow pf g.spaceDim) }).clearGeneratorsMinimized := by
    unfold cn_permGen; rw [if_pos (show g.generatorsAreUpToDate = true from hg)]
  rw [e1, e2]
  obtain ⟨hgd, hw, hN, hs⟩ := gn_sem_of_gUp hI hpos he hg
  obtain ⟨r1, r2, r3⟩ := cn_perm_rows pf g.spaceDim _ g.gen hw hN hrange
  have hcm : g.st.cMin = false := by
    by_contra h
    have := hI.cminUp (by simpa using h)
    rw [hc] at this; cases this
  have := gn_inv_gens (g := ({ g with gen := g.gen.map (cn_permGRow pf g.spaceDim) }).clearGeneratorsMinimized)
    hpos he hc hg hcm rfl (hI.hi0 he) hgd r1 r2
  refine ⟨rfl, this.1, rfl, ?_⟩
  rw [this.2]
  show gn_set (g.gen.map (cn_permGRow pf g.spaceDim)) = _
  rw [r3, hs]

theorem cn_permGen_pos (g1 : Grid) (pf : PFunc) (n : Nat) (h : g1.st.gUp = true) :
    cn_permGen g1 pf n = ({ g1 with gen := g1.gen.map (cn_permGRow pf n) }).clearGeneratorsMinimized := by
  unfold cn_permGen; rw [if_pos (show g1.generatorsAreUpToDate = true from h)]
theorem cn_permGen_neg (g1 : Grid) (pf : PFunc) (n : Nat) (h : ¬ g1.st.gUp = true) : cn_permGen g1 pf n = g1 := by
  unfold cn_permGen; rw [if_neg (show ¬ (g1.generatorsAreUpToDate = true) from h)]

/-! ### the congruence rows (`permuteRow`) for a bijection `pf` of `{0..n-1}`: their solutions are the image -/

/-- `pf` is a bijection of `{0, …, n-1}` -/
structure cn_IsPerm (pf : PFunc) (n : Nat) : Prop where
  tot : ∀ j, j < n → ∃ k, pf.maps j = some k
  range : ∀ j, j < n → ∀ k, pf.maps j = some k → k < n
  inj : ∀ j1 j2 k, j1 < n → j2 < n → pf.maps j1 = some k → pf.maps j2 = some k → j1 = j2
  surj : ∀ k, k < n → ∃ j, j < n ∧ pf.maps j = some k

/-- the image of `j`, the preimage of `k` -/
def cn_fw (pf : PFunc) (j : Nat) : Nat := (pf.maps j).getD 0
def cn_bw (pf : PFunc) (n k : Nat) : Nat := ((List.range n).find? (fun j => pf.maps j = some k)).getD 0

theorem cn_bw_spec {pf : PFunc} {n : Nat} (h : cn_IsPerm pf n) (k : Nat) (hk : k < n) :
    (List.range n).find? (fun j => pf.maps j = some k) = some (cn_bw pf n k) ∧ cn_bw pf n k < n ∧
      pf.maps (cn_bw pf n k) = some k := by
  obtain ⟨j, hj, hjk⟩ := h.surj k hk
  cases hf : (List.range n).find? (fun j => pf.maps j = some k) with
  | none =>
    rw [List.find?_eq_none] at hf
    exact absurd hjk (by simpa using hf j (List.mem_range.mpr hj))
  | some j' =>
    have := cn_find_lt pf n k j' hf
    have e : cn_bw pf n k = j' := by unfold cn_bw; rw [hf]; rfl
    rw [e]; exact ⟨rfl, this⟩

theorem cn_fw_spec {pf : PFunc} {n : Nat} (h : cn_IsPerm pf n) (j : Nat) (hj : j < n) :
    pf.maps j = some (cn_fw pf j) ∧ cn_fw pf j < n := by
  obtain ⟨k, hk⟩ := h.tot j hj
  have e : cn_fw pf j = k := by unfold cn_fw; rw [hk]; rfl
  rw [e]; exact ⟨hk, h.range j hj k hk⟩

theorem cn_fw_bw {pf : PFunc} {n : Nat} (h : cn_IsPerm pf n) (k : Nat) (hk : k < n) : cn_fw pf (cn_bw pf n k) = k := by
  have := (cn_bw_spec h k hk).2.2
  unfold cn_fw; rw [this]; rfl

theorem cn_bw_fw {pf : PFunc} {n : Nat} (h : cn_IsPerm pf n) (j : Nat) (hj : j < n) : cn_bw pf n (cn_fw pf j) = j := by
  obtain ⟨h1, h2⟩ := cn_fw_spec h j hj
  obtain ⟨_, b2, b3⟩ := cn_bw_spec h _ h2
  exact h.inj _ _ _ b2 hj b3 h1

/-- the point read through `pf`: `x_j = y_{pf j}` -/
def cn_pull (pf : PFunc) (n : Nat) (y : Pt) : Pt := fun j => if j < n then y (cn_fw pf j) else 0

theorem cn_pfMap_pull {pf : PFunc} {n : Nat} (h : cn_IsPerm pf n) (y : Pt) (hy : Supp n y) :
    cn_pfMap pf n (cn_pull pf n y) = y := by
  funext k
  rw [cn_pfMap_apply]
  by_cases hk : k < n
  · obtain ⟨b1, b2, _⟩ := cn_bw_spec h k hk
    rw [b1]; simp only
    unfold cn_pull; rw [if_pos b2, cn_fw_bw h k hk]
  · have : (List.range n).find? (fun j => pf.maps j = some k) = none := by
      rw [List.find?_eq_none]; intro j hj
      have hj' := List.mem_range.mp hj
      intro hc
      exact hk (h.range j hj' k (by simpa using hc))
    rw [this]; exact (hy k (by omega)).symm

theorem cn_pull_pfMap {pf : PFunc} {n : Nat} (h : cn_IsPerm pf n) (x : Pt) (hx : Supp n x) :
    cn_pull pf n (cn_pfMap pf n x) = x := by
  funext j
  unfold cn_pull
  by_cases hj : j < n
  · rw [if_pos hj, cn_pfMap_apply]
    obtain ⟨_, h2⟩ := cn_fw_spec h j hj
    rw [(cn_bw_spec h _ h2).1]; simp only
    rw [cn_bw_fw h j hj]
  · rw [if_neg hj]; exact (hx j (by omega)).symm

theorem cn_pfMap_supp {pf : PFunc} {n : Nat} (h : cn_IsPerm pf n) (x : Pt) : Supp n (cn_pfMap pf n x) := by
  intro k hk
  rw [cn_pfMap_apply]
  have : (List.range n).find? (fun j => pf.maps j = some k) = none := by
    rw [List.find?_eq_none]; intro j hj hc
    have := h.range j (List.mem_range.mp hj) k (by simpa using hc)
    omega
  rw [this]

/-- the value of a permuted congruence row at `y` is the value of the row at the pulled-back point -/
theorem cn_evalRow_perm {pf : PFunc} {n : Nat} (h : cn_IsPerm pf n) (e : Row) (hl : e.length = n + 1) (y : Pt) :
    evalRow (permuteRow pf n e) y = evalRow e (cn_pull pf n y) := by
  rw [cn_evalRow_lam, cn_evalRow_lam, cn_permuteRow_get0, cn_lam_sum, cn_lam_sum, cn_permuteRow_length, hl]
  congr 1
  simp only [Nat.add_sub_cancel]
  refine Finset.sum_nbij' (cn_bw pf n) (cn_fw pf) ?_ ?_ ?_ ?_ ?_
  · intro k hk; exact Finset.mem_range.mpr (cn_bw_spec h k (Finset.mem_range.mp hk)).2.1
  · intro j hj; exact Finset.mem_range.mpr (cn_fw_spec h j (Finset.mem_range.mp hj)).2
  · intro k hk; exact cn_fw_bw h k (Finset.mem_range.mp hk)
  · intro j hj; exact cn_bw_fw h j (Finset.mem_range.mp hj)
  · intro k hk
    have hk' := Finset.mem_range.mp hk
    obtain ⟨b1, b2, _⟩ := cn_bw_spec h k hk'
    have hget : Red.get (permuteRow pf n e) (k + 1) = Red.get e (cn_bw pf n k + 1) := by
      unfold permuteRow
      rw [get_tab, if_pos (by omega), if_pos (by omega)]
      simp only [Nat.add_sub_cancel]
      rw [b1]
    rw [hget]
    unfold cn_pull
    rw [if_pos b2, cn_fw_bw h k hk']

/-- the congruence system after the permutation: well formed, and its solutions are the image -/
theorem cn_perm_con {pf : PFunc} {n : Nat} (h : cn_IsPerm pf n) (con : List CRow) (hw : CWf n con) :
    CWf n (con.map fun (c : CRow) => ({ c with e := permuteRow pf n c.e } : CRow)) ∧
    consSet n (con.map fun (c : CRow) => ({ c with e := permuteRow pf n c.e } : CRow)) = cn_pfMap pf n '' consSet n con := by
  constructor
  · intro r' hr'
    obtain ⟨c, hc, rfl⟩ := List.mem_map.mp hr'
    exact ⟨by show (permuteRow pf n c.e).length = _; rw [cn_permuteRow_length]; exact (hw c hc).1, (hw c hc).2⟩
  · have hrs : ∀ c ∈ con, ∀ y, rsem ({ c with e := permuteRow pf n c.e } : CRow) y ↔ rsem c (cn_pull pf n y) := by
      intro c hc y
      unfold rsem
      simp only
      rw [cn_evalRow_perm h c.e (hw c hc).1 y]
    ext y
    simp only [cn_mem_consSet, Set.mem_image, List.mem_map, forall_exists_index, and_imp, forall_apply_eq_imp_iff₂, cn_mem_set]
    constructor
    · rintro ⟨hy, hall⟩
      refine ⟨cn_pull pf n y, ⟨fun j hj => by unfold cn_pull; rw [if_neg (by omega)], fun c hc => ?_⟩, cn_pfMap_pull h y hy⟩
      exact (hrs c hc y).mp (hall c hc)
    · rintro ⟨x, ⟨hx, hall⟩, rfl⟩
      refine ⟨cn_pfMap_supp h x, fun c hc => ?_⟩
      rw [hrs c hc, cn_pull_pfMap h x hx]
      exact hall c hc

/-- the permutation case with up-to-date congruences -/
theorem cn_mapSD_perm_con (g : Grid) (pf : PFunc) (hI : GridInv g) (he : g.st.empty = false) (hpos : 0 < g.spaceDim)
    (hne : pf.hasEmptyCodomain = false) (hdim : pf.maxInCodomain + 1 = g.spaceDim)
    (hmoved : ((List.range g.spaceDim).any fun j => pf.maps j ≠ some j) = true) (hperm : cn_IsPerm pf g.spaceDim)
    (hc : g.st.cUp = true) :
    (mapSpaceDimensions g pf).thrown = false ∧ GridInv (mapSpaceDimensions g pf).g ∧
      (mapSpaceDimensions g pf).g.spaceDim = g.spaceDim ∧
      (mapSpaceDimensions g pf).g.sem = cn_pfMap pf g.spaceDim '' g.sem := by
  have hrange := hperm.range
  have hCon := cn_perm_con hperm g.con (hI.cwf he hpos hc).2
  rw [cn_mapSD_perm_eq g pf hpos hne hdim hmoved]
  obtain ⟨hcd, _⟩ := hI.cwf he hpos hc
  have e1 : cn_permCon g pf = ({ g with con := g.con.map fun (c : CRow) =>
      ({ c with e := permuteRow pf g.spaceDim c.e } : CRow) }).clearCongruencesMinimized := by
    unfold cn_permCon; rw [if_pos (show g.congruencesAreUpToDate = true from hc)]
  have hsem : g.sem = consSet g.spaceDim g.con := sem_of_cUp hI he hpos hc
  by_cases hg : g.st.gUp = true
  · obtain ⟨hgd, hw, hN, hs⟩ := gn_sem_of_gUp hI hpos he hg
    obtain ⟨r1, r2, r3⟩ := cn_perm_rows pf g.spaceDim _ g.gen hw hN hrange
    have hfp := firstPointDiv_of_gnorm r2
    have r2' : GNorm g.spaceDim (firstPointDiv (g.gen.map (cn_permGRow pf g.spaceDim))) (g.gen.map (cn_permGRow pf g.spaceDim)) := by
      rw [hfp]; exact r2
    rw [cn_permGen_pos (cn_permCon g pf) pf g.spaceDim (by rw [e1]; exact hg), e1]
    have hgs : gensSet g.spaceDim (g.gen.map (cn_permGRow pf g.spaceDim)) = cn_pfMap pf g.spaceDim '' g.sem := by
      rw [gn_bridge r2 r1, r3, hs]
    refine ⟨rfl, inv_of_noMin _ hpos he rfl rfl (hI.hi0 he) (Or.inl hc) (fun _ => ⟨hcd, hCon.1⟩)
      (fun _ => ⟨hgd, r1, r2'⟩) (fun _ _ => ?_), rfl, ?_⟩
    · show consSet g.spaceDim (g.con.map _) = gensSet g.spaceDim (g.gen.map (cn_permGRow pf g.spaceDim))
      rw [hCon.2, hgs, hsem]
    · exact (sem_of_gUp (g := ({ (({ g with con := g.con.map fun (c : CRow) =>
        ({ c with e := permuteRow pf g.spaceDim c.e } : CRow) } : Grid).clearCongruencesMinimized) with
        gen := g.gen.map (cn_permGRow pf g.spaceDim) } : Grid).clearGeneratorsMinimized) he hpos hg).trans hgs
  · have hgf : g.st.gUp = false := by simpa using hg
    have hgm : g.st.gMin = false := by
      by_contra h; exact hg (hI.gminUp (by simpa using h))
    rw [cn_permGen_neg (cn_permCon g pf) pf g.spaceDim (by rw [e1]; exact hg), e1]
    have := inv_of_conOnly (({ g with con := g.con.map fun (c : CRow) =>
      ({ c with e := permuteRow pf g.spaceDim c.e } : CRow) }).clearCongruencesMinimized) hpos he hc hgf rfl hgm
      (hI.hi0 he) hcd hCon.1
    refine ⟨rfl, this.1, rfl, ?_⟩
    rw [this.2]
    show consSet g.spaceDim (g.con.map _) = _
    rw [hCon.2, hsem]

/-- `map_space_dimensions` by a permutation `pf` that moves something, on a grid that is not marked empty: the image of
    the grid under the coordinate permutation, whatever is up to date -/
theorem cn_mapSD_perm (g : Grid) (pf : PFunc) (hI : GridInv g) (he : g.st.empty = false) (hpos : 0 < g.spaceDim)
    (hne : pf.hasEmptyCodomain = false) (hdim : pf.maxInCodomain + 1 = g.spaceDim)
    (hmoved : ((List.range g.spaceDim).any fun j => pf.maps j ≠ some j) = true) (hperm : cn_IsPerm pf g.spaceDim) :
    (mapSpaceDimensions g pf).thrown = false ∧ GridInv (mapSpaceDimensions g pf).g ∧
      (mapSpaceDimensions g pf).g.spaceDim = g.spaceDim ∧
      (mapSpaceDimensions g pf).g.sem = cn_pfMap pf g.spaceDim '' g.sem := by
  by_cases hc : g.st.cUp = true
  · exact cn_mapSD_perm_con g pf hI he hpos hne hdim hmoved hperm hc
  · exact cn_mapSD_perm_gen g pf hI he hpos hne hdim hmoved hperm.range (by simpa using hc)
      ((hI.some he hpos).resolve_left hc)

example : (mapSpaceDimensions (addSpaceDimensionsAndEmbed cn_exGrid 1) [some 1, some 0]).g.con = [{ e := [0, 0, 1], m := 2 }] := by
  decide

/-! ## `map_space_dimensions(pfunc)`, the non-permutation case on the EMPTY grid: the empty grid of the new dimension.  (The non-empty non-permutation case — the generator rows rebuilt by `mkLine`/`mkParameter`/`mkPoint` and `construct` — is not treated.) -/

theorem cn_mapSD_nonperm_empty (g : Grid) (pf : PFunc) (hI : GridInv g) (hpos : 0 < g.spaceDim)
    (hne : pf.hasEmptyCodomain = false) (hdim : pf.maxInCodomain + 1 ≠ g.spaceDim) (hemp : g.sem = ∅) :
    (mapSpaceDimensions g pf).thrown = false ∧ GridInv (mapSpaceDimensions g pf).g ∧
      (mapSpaceDimensions g pf).g.spaceDim = pf.maxInCodomain + 1 ∧
      (mapSpaceDimensions g pf).g.sem = cn_pfMap pf g.spaceDim '' g.sem := by
  obtain ⟨g1, _, _, g4, _, _⟩ := gridGenerators_spec g hI
  have hme : (gridGenerators g).st.empty = true := g4.mpr hemp
  have hgen : (gridGenerators g).gen = [] := (g1.emp hme).2.1
  have heq : mapSpaceDimensions g pf = { g := constructDeg (pf.maxInCodomain + 1) false } := by
    unfold mapSpaceDimensions
    rw [if_neg (by omega), if_neg (by rw [hne]; simp)]
    simp only [if_neg hdim, hgen, List.isEmpty_nil, if_true]
  rw [heq]
  exact ⟨rfl, constructDeg_empty_inv _, constructDeg_spaceDim _ _, by rw [constructDeg_empty_sem, hemp, Set.image_empty]⟩

end PPLV.Lattice.GO

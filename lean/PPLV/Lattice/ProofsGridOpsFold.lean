import PPLV.Lattice.ProofsGridOpsRemoveDims
import PPLV.Lattice.ProofsGridOpsAffineImage
import PPLV.Lattice.ProofsGridOpsLazy
import PPLV.Lattice.ProofsGridOpsJoin

/-!
# The `Grid` object: `fold_space_dimensions`
-/
namespace PPLV.Lattice.GO
open PPLV.Lattice PPLV.Lattice.Red

/-! ## `fold_space_dimensions(vars, dest)` (Grid_chdims.cc:457) against `g.sem`

The loop joins the current grid with its image under `x_dest := x_i` for every `i ∈ vars` (`cn_FoldChain`, each step a
least upper bound `gn_IsJoin`), then `remove_space_dimensions(vars)` selects the kept coordinates.
-/

/-- the sets the loop of `fold_space_dimensions` goes through: each step is the join with the image under `x_dest := x_i` -/
def cn_FoldChain (dest : Nat) : List Nat → Set Pt → Set Pt → Prop
  | [], S, T => T = S
  | i :: vs, S, T => ∃ S', gn_IsJoin S' S (lzF dest (varExpr i) 1 '' S) ∧ cn_FoldChain dest vs S' T

theorem cn_foldChain_empty (dest : Nat) : ∀ vs : List Nat, cn_FoldChain dest vs ∅ ∅
  | [] => rfl
  | i :: vs => ⟨∅, by rw [Set.image_empty]; exact gn_isJoin_self ∅, cn_foldChain_empty dest vs⟩

theorem cn_varExpr_spaceDim (i : Nat) : (varExpr i).spaceDim = i + 1 := by simp [varExpr, LinExpr.spaceDim]

/-- the body of the loop -/
def cn_foldStep (dest : Nat) (x : Grid) (i : Nat) : Grid :=
  (upperBoundAssign x (affineImage (copyCtor x) dest (varExpr i) 1).g).x

theorem cn_foldStep_spec (dest : Nat) (x : Grid) (i : Nat) (hx : GridInv x) (hne : x.sem.Nonempty)
    (hd : dest < x.spaceDim) (hi : i < x.spaceDim) :
    GridInv (cn_foldStep dest x i) ∧ (cn_foldStep dest x i).spaceDim = x.spaceDim ∧
      (cn_foldStep dest x i).sem.Nonempty ∧
      gn_IsJoin (cn_foldStep dest x i).sem x.sem (lzF dest (varExpr i) 1 '' x.sem) := by
  obtain ⟨c1, c2, c3, _⟩ := copyCtor_spec x hx
  have hce : (copyCtor x).st.empty = false := not_marked_of_nonempty (by rw [c2]; exact hne)
  obtain ⟨_, a2, a3, a4⟩ := affineImage_full (copyCtor x) dest (varExpr i) 1 c1 hce (by decide)
    (by rw [cn_varExpr_spaceDim, c3]; omega) (by rw [c3]; omega)
  obtain ⟨u1, _, _, u4, _, _, u7⟩ := gn_upperBoundAssign x
    (affineImage (copyCtor x) dest (varExpr i) 1).g hx a2 (by rw [a4, c3])
  rw [a3, c2] at u7
  obtain ⟨y, hy⟩ := hne
  exact ⟨u1, u4, ⟨y, u7.1 hy⟩, u7⟩

theorem cn_foldLoop_spec (dest : Nat) : ∀ (vars : List Nat) (x : Grid), GridInv x → x.sem.Nonempty →
    dest < x.spaceDim → (∀ i ∈ vars, i < x.spaceDim) →
    GridInv (vars.foldl (cn_foldStep dest) x) ∧ (vars.foldl (cn_foldStep dest) x).spaceDim = x.spaceDim ∧
      cn_FoldChain dest vars x.sem (vars.foldl (cn_foldStep dest) x).sem
  | [], x, hx, _, _, _ => ⟨hx, rfl, rfl⟩
  | i :: vs, x, hx, hne, hd, hv => by
    obtain ⟨s1, s2, s3, s4⟩ := cn_foldStep_spec dest x i hx hne hd (hv i (List.mem_cons_self ..))
    obtain ⟨r1, r2, r3⟩ := cn_foldLoop_spec dest vs (cn_foldStep dest x i) s1 s3 (by rw [s2]; exact hd)
      (fun j hj => by rw [s2]; exact hv j (List.mem_cons_of_mem _ hj))
    rw [List.foldl_cons]
    exact ⟨r1, r2.trans s2, ⟨_, s4, r3⟩⟩

theorem cn_fold_eq (g : Grid) (vars : List Nat) (dest : Nat) (hd : dest < g.spaceDim) (hne : vars.isEmpty = false)
    (hlt : ∀ v ∈ vars, v < g.spaceDim) (hnd : vars.contains dest = false) :
    foldSpaceDimensions g vars dest =
      removeSpaceDimensions (if !(gridGenerators g).markedEmpty then vars.foldl (cn_foldStep dest) (gridGenerators g)
        else gridGenerators g) vars := by
  have hmax := gn_foldl_max_le vars 0 (Nat.zero_le _) hlt
  unfold foldSpaceDimensions
  rw [if_neg (by omega), if_neg (by rw [hne]; simp), if_neg (by omega), if_neg (by rw [hnd]; simp)]
  rfl

/-- the throwing / trivial cases -/
theorem cn_fold_thrown (g : Grid) (vars : List Nat) (dest : Nat) :
    (g.spaceDim < dest + 1 → (foldSpaceDimensions g vars dest).thrown = true ∧ (foldSpaceDimensions g vars dest).g = g) ∧
    (dest < g.spaceDim → vars = [] → foldSpaceDimensions g vars dest = { g := g }) := by
  constructor
  · intro h; unfold foldSpaceDimensions; rw [if_pos (by omega)]; exact ⟨rfl, rfl⟩
  · intro h hv; unfold foldSpaceDimensions; rw [if_neg (by omega), hv]; rfl

/-- Grid_chdims.cc:457 `fold_space_dimensions(vars, dest)` for strictly increasing `vars` below the dimension, `dest`
    in the space and not among them: the coordinate selection of the iterated join -/
theorem cn_foldSpaceDimensions (g : Grid) (vars : List Nat) (dest : Nat) (hI : GridInv g) (hd : dest < g.spaceDim)
    (hne : vars ≠ []) (hinc : vars.Pairwise (· < ·)) (hlt : ∀ v ∈ vars, v < g.spaceDim) (hnd : dest ∉ vars) :
    (foldSpaceDimensions g vars dest).thrown = false ∧ GridInv (foldSpaceDimensions g vars dest).g ∧
      (foldSpaceDimensions g vars dest).g.spaceDim = g.spaceDim - vars.length ∧
      ∃ T, cn_FoldChain dest vars g.sem T ∧ (foldSpaceDimensions g vars dest).g.sem = cn_sel g.spaceDim vars '' T := by
  have hpos : 0 < g.spaceDim := by omega
  rw [cn_fold_eq g vars dest hd (by cases vars with | nil => exact absurd rfl hne | cons _ _ => rfl) hlt
    (by rw [Bool.eq_false_iff]; intro h; exact hnd (List.contains_iff_mem.mp h))]
  obtain ⟨g1, g2, g3, g4, _, _⟩ := gridGenerators_spec g hI
  by_cases hme : (gridGenerators g).st.empty = true
  · have : (!(gridGenerators g).markedEmpty) = false := by simp [Grid.markedEmpty, hme]
    rw [this, if_neg Bool.false_ne_true]
    obtain ⟨r1, r2, r3, r4⟩ := cn_removeSpaceDimensions (gridGenerators g) vars g1 hinc (by rw [g3]; exact hlt)
    have hse : g.sem = ∅ := g4.mp hme
    refine ⟨r1, r2, by rw [r3, g3], ∅, by rw [hse]; exact cn_foldChain_empty dest vars, ?_⟩
    rw [r4, g2, hse, Set.image_empty, Set.image_empty]
  · have hmf : (gridGenerators g).st.empty = false := by simpa using hme
    have : (!(gridGenerators g).markedEmpty) = true := by simp [Grid.markedEmpty, hmf]
    rw [this, if_pos rfl]
    have hnonempty : (gridGenerators g).sem.Nonempty := by
      rw [g2]; by_contra h
      exact hme (g4.mpr (Set.not_nonempty_iff_eq_empty.mp h))
    obtain ⟨l1, l2, l3⟩ := cn_foldLoop_spec dest vars (gridGenerators g) g1 hnonempty (by rw [g3]; exact hd)
      (by rw [g3]; exact hlt)
    obtain ⟨r1, r2, r3, r4⟩ := cn_removeSpaceDimensions _ vars l1 hinc (by rw [l2, g3]; exact hlt)
    rw [l2, g3] at r3 r4
    rw [g2] at l3
    exact ⟨r1, r2, r3, _, l3, r4⟩

end PPLV.Lattice.GO

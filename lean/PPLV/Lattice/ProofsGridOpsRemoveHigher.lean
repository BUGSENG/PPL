import PPLV.Lattice.ProofsGridOpsConcatenate
import PPLV.Lattice.ProofsGridOpsAddDimsCon

/-!
# The `Grid` object: `remove_higher_space_dimensions`
-/
namespace PPLV.Lattice.GO
open PPLV.Lattice PPLV.Lattice.Red

/-! ## `remove_higher_space_dimensions(new_dimension)` (Grid_chdims.cc:318)

The throw, the no-op, the grid found empty, the new dimension 0: from `IsEmptySpec`.  The congruence branch (the
minimized congruences are resized, the rows of the removed dimensions are dropped, `dim_kinds` is chopped) is
`cn_removeHigher_con_partial`: the projection property of the triangular form is the explicit hypothesis.
-/

/-- the projection of `S` onto the first `k` coordinates -/
def cn_projSet (k : Nat) (S : Set Pt) : Set Pt := {z | ∃ y ∈ S, z = cn_fst k y}

theorem cn_projSet_empty (k : Nat) : cn_projSet k ∅ = ∅ := by ext z; simp [cn_projSet]

theorem cn_projSet_zero (S : Set Pt) (hS : S.Nonempty) : cn_projSet 0 S = spaceSet 0 := by
  ext z
  simp only [cn_projSet, spaceSet, Set.mem_ofPred_eq]
  constructor
  · rintro ⟨y, _, rfl⟩; exact cn_fst_supp 0 y
  · intro hz
    obtain ⟨y, hy⟩ := hS
    refine ⟨y, hy, ?_⟩
    funext i
    rw [hz i (Nat.zero_le _)]; simp [cn_fst]

theorem cn_removeHigher_thrown (g : Grid) (newDim : Nat) :
    ((removeHigherSpaceDimensions g newDim).thrown = true ↔ g.spaceDim < newDim) ∧
    ((removeHigherSpaceDimensions g newDim).thrown = true → (removeHigherSpaceDimensions g newDim).g = g) ∧
    (newDim = g.spaceDim → (removeHigherSpaceDimensions g newDim).g = g) := by
  unfold removeHigherSpaceDimensions
  by_cases h1 : newDim > g.spaceDim
  · rw [if_pos h1]; exact ⟨⟨fun _ => h1, fun _ => rfl⟩, fun _ => rfl, fun _ => rfl⟩
  · rw [if_neg h1]
    by_cases h2 : newDim = g.spaceDim
    · rw [if_pos h2]; exact ⟨⟨(fun h => by cases h), fun h => absurd h h1⟩, fun _ => rfl, fun _ => rfl⟩
    · rw [if_neg h2]
      dsimp only
      -- every remaining branch returns a record with the default `thrown := false`
      have hnt : ∀ {r : R}, r.thrown = false → ¬ r.thrown = true := fun h h' => Bool.noConfusion (h.symm.trans h')
      refine ⟨⟨fun h => absurd h (hnt ?_), fun h => absurd h h1⟩, fun h => absurd h (hnt ?_), fun h => absurd h h2⟩ <;>
        simp only [apply_ite R.thrown, ite_self]

/-- the grid is found empty: the empty grid of the new dimension -/
theorem cn_removeHigher_empty (g : Grid) (newDim : Nat) (hI : GridInv g) (hlt : newDim < g.spaceDim)
    (hemp : g.sem = ∅) :
    GridInv (removeHigherSpaceDimensions g newDim).g ∧
      (removeHigherSpaceDimensions g newDim).g.sem = cn_projSet newDim g.sem ∧
      (removeHigherSpaceDimensions g newDim).g.spaceDim = newDim := by
  obtain ⟨_, _, _, e4, _, _⟩ := isEmpty_spec g hI
  unfold removeHigherSpaceDimensions
  rw [if_neg (by omega), if_neg (by omega)]
  dsimp only
  rw [if_pos (e4.mpr hemp)]
  exact ⟨setEmpty_inv _, by rw [setEmpty_sem, hemp, cn_projSet_empty], rfl⟩

/-- new dimension 0 of a non-empty grid: the 0-dimensional universe -/
theorem cn_removeHigher_zero (g : Grid) (hI : GridInv g) (hlt : 0 < g.spaceDim)
    (hne : g.sem.Nonempty) :
    GridInv (removeHigherSpaceDimensions g 0).g ∧
      (removeHigherSpaceDimensions g 0).g.sem = cn_projSet 0 g.sem ∧
      (removeHigherSpaceDimensions g 0).g.spaceDim = 0 := by
  obtain ⟨_, _, _, e4, _, _⟩ := isEmpty_spec g hI
  have hb : ¬ ((isEmpty g).2 = true) := fun h => Set.nonempty_iff_ne_empty.mp hne (e4.mp h)
  unfold removeHigherSpaceDimensions
  rw [if_neg (by omega), if_neg (by omega)]
  dsimp only
  rw [if_neg hb, if_pos rfl]
  obtain ⟨a, b, c⟩ := setZeroDimUniv_spec (isEmpty g).1
  exact ⟨a, by rw [b, cn_projSet_zero _ hne], c⟩

/-- the result of the congruence branch -/
def cn_removeHigherCon (g0 : Grid) (newDim : Nat) : Grid :=
  { spaceDim := newDim, st := { g0.st with gMin := false, gUp := false }, conDim := (g0.cs.setSpaceDim newDim).dim,
    con := ((g0.cs.setSpaceDim newDim).removeFirstRows (countRedundant g0.dk newDim g0.spaceDim CON_VIRTUAL)).rows,
    genDim := newDim + 2, gen := [], dk := g0.dk.take (newDim + 1) }

/-- the congruence branch (`0 < new_dimension < space_dim`, not empty, generators not up to date after `is_empty()`).
    Hypotheses NOT proved here: `hmin` — `is_empty()` left minimized congruences (true of the model: it returns early only
    with up-to-date generators or minimized congruences, but `IsEmptySpec` does not say so); `hProj` — dropping the rows
    of the removed dimensions of a triangular system projects its solutions, and the chopped `dim_kinds` describe the
    remaining rows. -/
theorem cn_removeHigher_con_partial (hIE : IsEmptySpec) (g : Grid) (newDim : Nat) (hI : GridInv g)
    (hpos : 0 < newDim) (hlt : newDim < g.spaceDim) (hne : g.sem.Nonempty) (hg : (isEmpty g).1.st.gUp = false)
    (hmin : (isEmpty g).1.st.cMin = true)
    (hProj : CWf newDim (cn_removeHigherCon (isEmpty g).1 newDim).con ∧
      consSet newDim (cn_removeHigherCon (isEmpty g).1 newDim).con =
        cn_projSet newDim (consSet (isEmpty g).1.spaceDim (isEmpty g).1.con) ∧
      (cn_removeHigherCon (isEmpty g).1 newDim).dk.length = newDim + 1 ∧
      lowerTriangular newDim (cn_removeHigherCon (isEmpty g).1 newDim).con (cn_removeHigherCon (isEmpty g).1 newDim).dk = true ∧
      kind (cn_removeHigherCon (isEmpty g).1 newDim).dk 0 = PROPER_CONGRUENCE ∧
      CgKindsOK newDim (cn_removeHigherCon (isEmpty g).1 newDim).con (cn_removeHigherCon (isEmpty g).1 newDim).dk) :
    (removeHigherSpaceDimensions g newDim).g = cn_removeHigherCon (isEmpty g).1 newDim ∧
    GridInv (removeHigherSpaceDimensions g newDim).g ∧
      (removeHigherSpaceDimensions g newDim).g.sem = cn_projSet newDim g.sem ∧
      (removeHigherSpaceDimensions g newDim).g.spaceDim = newDim := by
  obtain ⟨e1, e2, e3, e4, _, e6⟩ := hIE g hI
  have hb : ¬ ((isEmpty g).2 = true) := fun h => Set.nonempty_iff_ne_empty.mp hne (e4.mp h)
  have he0 : (isEmpty g).1.st.empty = false := e6 (by simpa using hb)
  have heq : (removeHigherSpaceDimensions g newDim).g = cn_removeHigherCon (isEmpty g).1 newDim := by
    unfold removeHigherSpaceDimensions
    rw [if_neg (by omega), if_neg (by omega)]
    dsimp only
    rw [if_neg hb, if_neg (by omega),
      if_neg (show ¬ ((isEmpty g).1.generatorsAreUpToDate = true) by simpa [Grid.generatorsAreUpToDate] using hg)]
    rfl
  rw [heq]
  obtain ⟨p1, p2, p3, p4, p5, p6⟩ := hProj
  have hpos0 : 0 < (isEmpty g).1.spaceDim := by omega
  have hc0 : (isEmpty g).1.st.cUp = true := e1.cminUp hmin
  have := inv_of_con (cn_removeHigherCon (isEmpty g).1 newDim) hpos he0 hc0 rfl rfl (e1.hi0 he0) (CSys_setSpaceDim_dim _ _) p1
    (fun _ => ⟨p3, p4, p5, p6⟩)
  refine ⟨rfl, this.1, ?_, rfl⟩
  rw [this.2]
  show consSet newDim (cn_removeHigherCon (isEmpty g).1 newDim).con = _
  rw [p2, ← sem_of_cUp e1 he0 hpos0 hc0, e2]

example : (removeHigherSpaceDimensions cn_exGrid 2).thrown = true ∧ (removeHigherSpaceDimensions cn_exGrid 1).g = cn_exGrid ∧
    (removeHigherSpaceDimensions cn_exGrid 0).g.spaceDim = 0 := by decide +kernel

end PPLV.Lattice.GO

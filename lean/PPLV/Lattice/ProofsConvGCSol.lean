import PPLV.Lattice.ProofsConvGCMain
import PPLV.Lattice.ProofsRedCgEval

/-!
# `Grid::conversion` (generators → congruences): the steps that keep the solution set

* `multiplyGridCg_sol`: `multiply_grid` (scaling by a positive factor) keeps the solution set of the system;
* `gcReduce_sol` / `gcReduce_sem`: the final `reduce_reduced` loop keeps the solution set (on final rows: the
  pivot is an equality or pivot and row are proper congruences of the common modulus).

(`rsem`, `Sol`, `evalRow` are those of `ProofsRedCgEval.lean`.)
-/
namespace PPLV.Lattice.Red
open PPLV.Lattice

theorem Sol_congr_rowwise (T T' : List CRow) (x : Pt) (hl : T'.length = T.length)
    (h : ∀ i, i < T.length → (rsem (rowAt T' i) x ↔ rsem (rowAt T i) x)) : Sol T' x ↔ Sol T x := by
  unfold Sol
  rw [hl]
  constructor
  · intro hs i hi; exact (h i hi).mp (hs i hi)
  · intro hs i hi; exact (h i hi).mpr (hs i hi)

theorem Scaled.rsem {c c' : CRow} {f : Int} (h : Scaled c c' f) (hf : f ≠ 0) (x : Pt) : rsem c' x ↔ rsem c x :=
  rsem_scaled c c' f x hf (evalRow_smul _ _ f x h.elen (fun i => by rw [h.get i]; ring)) h.m

/-- `multiply_grid` keeps the solution set -/
theorem multiplyGridCg_sol (mult : Int) (hm : 0 < mult) (T : List CRow) (r N : Nat) (hN : T.length ≤ N) (x : Pt) :
    Sol (multiplyGridCg mult T r N) x ↔ Sol T x := by
  obtain ⟨hl, g, _, hrows⟩ := multiplyGridCg_spec mult hm T r N hN
  refine Sol_congr_rowwise T _ x hl (fun i hi => ?_)
  obtain ⟨gi, hgi, _, _, hsc⟩ := hrows i hi
  exact hsc.rsem (by omega) x

theorem multiplyGridCg_sem (n : Nat) (mult : Int) (hm : 0 < mult) (T : List CRow) (r N : Nat) (hN : T.length ≤ N)
    (x : Pt) : cgsSem n (multiplyGridCg mult T r N) x ↔ cgsSem n T x := by
  rw [cgsSem_iff, cgsSem_iff, multiplyGridCg_sol mult hm T r N hN x]

section
variable (source : List GRow) (dk : List Nat) (dims : Nat)

/-- one row reduced by the pivot: the pivot row is kept, the solution set is kept -/
theorem rowReduce_sol (M L : Int) (P : Row) (dim : Nat) (hd : dim < dims) (hdl : nlB dk dim = true)
    (T : List CRow) (hT : FinalOK source dk dims M L T) (hP : (rowAt T (pos dk dims dim)).e = P)
    (q : Nat) (hq : q < dims) (hql : nlB dk q = true) (hdq : dim < q)
    (hpm : (rowAt T (pos dk dims dim)).m = 0 ∨ (rowAt T (pos dk dims dim)).m = (rowAt T (pos dk dims q)).m)
    (num : Int) (x : Pt) :
    rowAt (if num ≠ 0 then
        T.set (pos dk dims q) (HasExpr.setExpr (rowAt T (pos dk dims q))
          (linearCombine (HasExpr.expr (rowAt T (pos dk dims q))) P 1 (-num) 0 (dim + 1)))
       else T) (pos dk dims dim) = rowAt T (pos dk dims dim) ∧
    (Sol (if num ≠ 0 then
        T.set (pos dk dims q) (HasExpr.setExpr (rowAt T (pos dk dims q))
          (linearCombine (HasExpr.expr (rowAt T (pos dk dims q))) P 1 (-num) 0 (dim + 1)))
       else T) x ↔ Sol T x) := by
  by_cases hn : num ≠ 0
  · rw [if_pos hn, expr_crow, setExpr_crow]
    have hne : pos dk dims dim ≠ pos dk dims q := fun h => by
      have := pos_inj dk dims dim q hd hq hdl hql h; omega
    have Rq := hT.rows q hq hql
    have Rd := hT.rows dim hd hdl
    refine ⟨by rw [rowAt_set, if_neg (fun h => hne h.1)], ?_⟩
    refine Sol_set_iff T _ (pos dk dims dim) _ x (by rw [hT.len]; exact pos_lt dk dims dim hd hdl) hne (fun hp => ?_)
    refine rsem_add_mul (rowAt T (pos dk dims q)) (rowAt T (pos dk dims dim)) _ (-num) x ?_ rfl hpm hp
    have hPtri : ∀ k, dim < k → get P k = 0 := fun k hk => by rw [← hP]; exact Rd.tri k hk
    have := evalRow_lin (linearCombine (rowAt T (pos dk dims q)).e P 1 (-num) 0 (dim + 1)) (rowAt T (pos dk dims q)).e P
      1 (-num) x (by simp) (by rw [← hP, Rd.len, Rq.len]) (fun k => by
        rw [get_linearCombine]
        by_cases hc : k < (rowAt T (pos dk dims q)).e.length ∧ 0 ≤ k ∧ k < dim + 1
        · rw [if_pos hc]
        · rw [if_neg hc]
          by_cases hk : k < dim + 1
          · have h1 : (rowAt T (pos dk dims q)).e.length ≤ k := by omega
            rw [Rq.len] at h1
            omega
          · rw [hPtri k (by omega)]; ring)
    simp only []
    rw [this, hP]; push_cast; ring
  · rw [if_neg hn]; exact ⟨rfl, Iff.rfl⟩

/-- `num_rows_to_subtract` -/
def gcRRNum (rowDim pd half : Int) : Int :=
  let q := Int.tdiv rowDim pd
  let rem := Int.tmod rowDim pd
  if rem < 0 then (if rem ≤ -half then q - 1 else q)
  else if rem > 0 ∧ rem > half then q + 1 else q

/-- the treatment of row `ri` (of dimension `ki'`) in the loop of `reduce_reduced` -/
def gcRRStep (dk : List Nat) (P : Row) (pd half : Int) (dim : Nat) (rie : Bool) (rk : Nat) (T : List CRow)
    (ri ki' : Nat) : List CRow :=
  if (rie || (rk == PARAMETER && kind dk ki' == PARAMETER)) = true then
    (if gcRRNum (get (HasExpr.expr (rowAt T ri)) dim) pd half ≠ 0 then
      T.set ri (HasExpr.setExpr (rowAt T ri) (linearCombine (HasExpr.expr (rowAt T ri)) P 1
        (-(gcRRNum (get (HasExpr.expr (rowAt T ri)) dim) pd half)) 0 (dim + 1)))
     else T)
  else T

theorem gcRRLoop_succ (dk : List Nat) (P : Row) (pd half : Int) (dim : Nat) (rie : Bool) (rk : Nat) (T : List CRow)
    (ri ki : Nat) :
    reduceReducedLoop false dk P pd half dim 0 dim rie rk (ri + 1) ki T =
      reduceReducedLoop false dk P pd half dim 0 dim rie rk ri (skipUp dk ki)
        (gcRRStep dk P pd half dim rie rk T ri (skipUp dk ki)) := rfl

/-- the loop of `reduce_reduced` keeps the pivot row and the solution set -/
theorem reduceReducedLoop_sol (hdk : dk.length = dims) (M L : Int) (P : Row) (pd half : Int) (dim : Nat) (rie : Bool)
    (rk : Nat) (hd : dim < dims) (hdl : nlB dk dim = true)
    (hrie : rie = true → nvB dk dim = false) (hrk : (rk == PARAMETER) = true → nvB dk dim = true) (x : Pt) (pivot : CRow)
    (hpe : pivot.e = P) :
    ∀ (ri ki : Nat) (T : List CRow), ki < dims → nlB dk ki = true → dim ≤ ki → ri = pos dk dims ki →
      FinalOK source dk dims M L T → rowAt T (pos dk dims dim) = pivot →
      rowAt (reduceReducedLoop false dk P pd half dim 0 dim rie rk ri ki T) (pos dk dims dim) = pivot ∧
      (Sol (reduceReducedLoop false dk P pd half dim 0 dim rie rk ri ki T) x ↔ Sol T x)
  | 0, ki, T, _, _, _, _, _, hpv => by
    rw [reduceReducedLoop]; exact ⟨hpv, Iff.rfl⟩
  | ri + 1, ki, T, hki, hl, hdim, hri, hT, hpv => by
    rw [gcRRLoop_succ]
    obtain ⟨s1, s2, s3, s4⟩ := skipUp_spec dk dims hdk ki ri hki hri
    have Rd := hT.rows dim hd hdl
    have hPe : (rowAt T (pos dk dims dim)).e = P := by rw [hpv, hpe]
    have hPtri : ∀ k, dim < k → get P k = 0 := fun k hk => by rw [← hPe]; exact Rd.tri k hk
    have hPprod : ∀ p, p < dims → nvB dk p = true →
        (kind dk p = LINE → dotUpto P (rowAt source (nv dk p)).e dims = 0) ∧ L ∣ dotUpto P (rowAt source (nv dk p)).e dims :=
      fun p hp hpv' => by rw [← hPe]; exact ⟨(Rd.prod p hp hpv').1, (Rd.prod p hp hpv').2.2⟩
    have hP0 : rie = true → ∀ p, p < dims → nvB dk p = true → dotUpto P (rowAt source (nv dk p)).e dims = 0 :=
      fun h p hp hpv' => by rw [← hPe]; exact (Rd.prod p hp hpv').2.1 (hrie h)
    -- the state after this row
    have step : FinalOK source dk dims M L (gcRRStep dk P pd half dim rie rk T ri (skipUp dk ki)) ∧
        rowAt (gcRRStep dk P pd half dim rie rk T ri (skipUp dk ki)) (pos dk dims dim) = pivot ∧
        (Sol (gcRRStep dk P pd half dim rie rk T ri (skipUp dk ki)) x ↔ Sol T x) := by
      unfold gcRRStep
      subst s4
      by_cases hcond : (rie || (rk == PARAMETER && kind dk (skipUp dk ki) == PARAMETER)) = true
      · rw [if_pos hcond]
        have hzero : nvB dk (skipUp dk ki) = false → ∀ p, p < dims → nvB dk p = true →
            dotUpto P (rowAt source (nv dk p)).e dims = 0 := by
          intro hv
          rcases (Bool.or_eq_true _ _).mp hcond with h | h
          · exact hP0 h
          · exfalso
            simp only [Bool.and_eq_true, beq_iff_eq] at h
            simp [nvB, h.2, PARAMETER, GEN_VIRTUAL] at hv
        have hpm : (rowAt T (pos dk dims dim)).m = 0 ∨
            (rowAt T (pos dk dims dim)).m = (rowAt T (pos dk dims (skipUp dk ki))).m := by
          rcases (Bool.or_eq_true _ _).mp hcond with h | h
          · exact Or.inl (Rd.mv (hrie h))
          · simp only [Bool.and_eq_true] at h
            right
            rw [Rd.mp (hrk h.1), (hT.rows _ s2 s3).mp (by
              have h2 := h.2
              simp only [beq_iff_eq] at h2
              simp [nvB, h2, PARAMETER, GEN_VIRTUAL])]
        refine ⟨rowReduce_final source dk dims M L P dim hPtri hPprod T hT (skipUp dk ki) s2 s3 (by omega) hzero _, ?_⟩
        have := rowReduce_sol source dk dims M L P dim hd hdl T hT hPe (skipUp dk ki) s2 s3 (by omega) hpm
          (gcRRNum (get (HasExpr.expr (rowAt T (pos dk dims (skipUp dk ki)))) dim) pd half) x
        exact ⟨this.1.trans hpv, this.2⟩
      · rw [if_neg hcond]; exact ⟨hT, hpv, Iff.rfl⟩
    obtain ⟨st1, st2, st3⟩ := step
    obtain ⟨r1, r2⟩ := reduceReducedLoop_sol hdk M L P pd half dim rie rk hd hdl hrie hrk x pivot hpe ri (skipUp dk ki) _ s2 s3
      (by omega) s4 st1 st2
    exact ⟨r1, r2.trans st3⟩

end

/-- `reduce_reduced` (congruences) on final rows keeps the solution set -/
theorem gcReduceReduced_sol (source : List GRow) (dk : List Nat) (dims : Nat) (hdk : dk.length = dims) (M L : Int)
    (T : List CRow) (hT : FinalOK source dk dims M L T) (d : Nat) (hd : d < dims) (hl : nlB dk d = true) (x : Pt) :
    Sol (reduceReduced T d (pos dk dims d) 0 d dk false) x ↔ Sol T x := by
  unfold reduceReduced
  simp only [expr_crow]
  split
  · exact Iff.rfl
  · refine (reduceReducedLoop_sol source dk dims hdk M L _ _ _ d _ _ hd hl ?_ ?_ x (rowAt T (pos dk dims d)) rfl
      (pos dk dims d) d T hd hl (Nat.le_refl _) rfl hT rfl).2
    · intro hrie
      simp only [Bool.false_eq_true, if_false, beq_iff_eq] at hrie
      simp [nvB, hrie, EQUALITY, GEN_VIRTUAL]
    · intro hrk
      simp only [beq_iff_eq] at hrk
      simp [nvB, hrk, PARAMETER, GEN_VIRTUAL]

/-- the final loop keeps the solution set -/
theorem gcReduce_sol (source : List GRow) (dk : List Nat) (dims : Nat) (hdk : dk.length = dims) (M L : Int)
    (T : List CRow) (hT : FinalOK source dk dims M L T) (x : Pt) : Sol (gcReduce dk dims T) x ↔ Sol T x :=
  (gcReduce_induct source dk dims hdk M L (fun T' => Sol T' x ↔ Sol T x)
    (fun T' d hd hlb h2 h3 => (gcReduceReduced_sol source dk dims hdk M L T' h2 d hd hlb x).trans h3)
    T hT Iff.rfl).2

theorem gcReduce_sem (n : Nat) (source : List GRow) (dk : List Nat) (hdk : dk.length = n + 1) (M L : Int)
    (T : List CRow) (hT : FinalOK source dk (n + 1) M L T) (x : Pt) :
    cgsSem n (gcReduce dk (n + 1) T) x ↔ cgsSem n T x := by
  rw [cgsSem_iff, cgsSem_iff, gcReduce_sol source dk (n + 1) hdk M L T hT x]

end PPLV.Lattice.Red

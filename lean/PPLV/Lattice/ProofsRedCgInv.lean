import PPLV.Lattice.ProofsRedCgStep

/-!
# `Grid::simplify(Congruence_System&)`: the shape invariant and `reduce_reduced`

`KInv dk p k d nc`: the rows `0..k-1` are the pivot rows of the non-virtual dimensions among
`d..nc-1`, in descending order (`p i` = dimension of row `i`).  With it the walk `skipUp` of
`reduce_reduced` over `dim_kinds` finds the kind of each row, and `reduce_reduced` keeps the
solution set.
-/
namespace PPLV.Lattice.Red

/-- rows `< k` are the pivot rows of the non-virtual dimensions in `[d, nc)`, descending -/
structure KInv (dk : List Nat) (p : Nat → Nat) (k d nc : Nat) : Prop where
  rng : ∀ i, i < k → d ≤ p i ∧ p i < nc
  anti : ∀ i i', i < i' → i' < k → p i' < p i
  nv : ∀ j, d ≤ j → j < nc → (kind dk j ≠ CON_VIRTUAL ↔ ∃ i, i < k ∧ p i = j)

/-- the kind recorded in `dim_kinds` is the kind of the row -/
def KindOK (r : CRow) (kd : Nat) : Prop := (r.m = 0 ∧ kd = EQUALITY) ∨ (0 < r.m ∧ kd = PROPER_CONGRUENCE)

/-- `r` is the pivot row of column `c`: positive there, zero after it, kind recorded as `kd` -/
structure PivRow (r : CRow) (kd c : Nat) : Prop where
  kindok : KindOK r kd
  pos : 0 < get r.e c
  zero : ∀ j, c < j → get r.e j = 0

/-! ### `skipUp` -/

theorem skipUpAux_eq (dk : List Nat) (j : Nat) (hnv : kind dk j ≠ CON_VIRTUAL) :
    ∀ fuel k, k ≤ j → j - k < fuel → (∀ i, k ≤ i → i < j → kind dk i = CON_VIRTUAL) → skipUpAux dk fuel k = j := by
  intro fuel
  induction fuel with
  | zero => intro k h1 h2; omega
  | succ fuel ih =>
    intro k h1 h2 hv
    simp only [skipUpAux]
    by_cases e : k = j
    · subst e; rw [if_neg hnv]
    · rw [if_pos (hv k (le_refl _) (by omega))]
      exact ih (k + 1) (by omega) (by omega) (fun i hi1 hi2 => hv i (by omega) hi2)

theorem skipUp_eq (dk : List Nat) (k j : Nat) (hkj : k < j) (hj : j < dk.length) (hnv : kind dk j ≠ CON_VIRTUAL)
    (hv : ∀ i, k < i → i < j → kind dk i = CON_VIRTUAL) : skipUp dk k = j := by
  unfold skipUp
  exact skipUpAux_eq dk j hnv _ (k + 1) (by omega) (by omega) (fun i hi1 hi2 => hv i (by omega) hi2)

/-- the walk of `reduce_reduced` meets the dimensions of the rows `k-1, k-2, …` -/
theorem KInv.skip {dk : List Nat} {p : Nat → Nat} {k dim nc : Nat} (h : KInv dk p k (dim + 1) nc)
    (hdk : dk.length = nc) (ri : Nat) (hri : ri < k) :
    skipUp dk (if ri + 1 = k then dim else p (ri + 1)) = p ri := by
  have hr := h.rng ri hri
  apply skipUp_eq
  · split
    · omega
    · exact h.anti ri (ri + 1) (by omega) (by omega)
  · omega
  · exact (h.nv (p ri) hr.1 hr.2).mpr ⟨ri, hri, rfl⟩
  · intro j hj1 hj2
    by_contra hnv
    have hjd : dim + 1 ≤ j := by
      split at hj1
      · omega
      · have := (h.rng (ri + 1) (by omega)).1; omega
    obtain ⟨i, hi, hpi⟩ := (h.nv j hjd (by omega)).mp hnv
    rcases Nat.lt_trichotomy i ri with hlt | heq | hgt
    · have := h.anti i ri hlt hri; omega
    · subst heq; omega
    · split at hj1
      · omega
      · rcases Nat.lt_or_ge (ri + 1) i with h1 | h1
        · have := h.anti (ri + 1) i h1 hi; omega
        · have : i = ri + 1 := by omega
          subst this; omega

/-! ### `reduce_reduced` -/

/-- what `reduce_reduced` may do to a system: rows `≥ k` untouched, moduli, sizes and the columns
    after `dim` untouched, same solutions -/
structure RRel (k dim : Nat) (rows rows' : List CRow) : Prop where
  len : rows'.length = rows.length
  same : ∀ i, k ≤ i → rowAt rows' i = rowAt rows i
  row : ∀ i, (rowAt rows' i).m = (rowAt rows i).m ∧ (rowAt rows' i).e.length = (rowAt rows i).e.length ∧
    ∀ j, dim < j → get (rowAt rows' i).e j = get (rowAt rows i).e j
  sol : ∀ x, Sol rows' x ↔ Sol rows x

theorem RRel.refl (k dim : Nat) (rows : List CRow) : RRel k dim rows rows :=
  ⟨rfl, fun _ _ => rfl, fun _ => ⟨rfl, rfl, fun _ _ => rfl⟩, fun _ => Iff.rfl⟩

theorem RRel.trans {k dim : Nat} {a b c : List CRow} (h1 : RRel k dim a b) (h2 : RRel k dim b c) : RRel k dim a c :=
  ⟨h2.len.trans h1.len, fun i hi => (h2.same i hi).trans (h1.same i hi),
   fun i => ⟨(h2.row i).1.trans (h1.row i).1, (h2.row i).2.1.trans (h1.row i).2.1,
     fun j hj => ((h2.row i).2.2 j hj).trans ((h1.row i).2.2 j hj)⟩,
   fun x => (h2.sol x).trans (h1.sol x)⟩

/-- what the loop of `reduce_reduced` needs to know about the rows it still has to visit -/
structure RRHyp (n : Nat) (dk : List Nat) (p : Nat → Nat) (k : Nat) (M : Int) (pivot : CRow) (c : Nat)
    (rows : List CRow) : Prop where
  hk : k < rows.length
  piv : rowAt rows k = pivot
  rowsok : ∀ i, i < c → (rowAt rows i).e.length = n + 1 ∧ KindOK (rowAt rows i) (kind dk (p i)) ∧
    ((rowAt rows i).m = 0 ∨ (rowAt rows i).m = M)

theorem reduceReducedLoop_rel (n : Nat) (dk : List Nat) (p : Nat → Nat) (k dim : Nat) (M : Int) (pivot : CRow)
    (pivotDim half : Int)
    (hpl : pivot.e.length = n + 1) (hpk : KindOK pivot (kind dk dim)) (hpm : pivot.m = 0 ∨ pivot.m = M)
    (hpz : ∀ j, dim < j → get pivot.e j = 0)
    (hskip : ∀ ri, ri < k → skipUp dk (if ri + 1 = k then dim else p (ri + 1)) = p ri) :
    ∀ (c : Nat) (rows : List CRow), c ≤ k → RRHyp n dk p k M pivot c rows →
      RRel k dim rows (reduceReducedLoop false dk pivot.e pivotDim half dim 0 dim (kind dk dim == EQUALITY)
        (kind dk dim) c (if c = k then dim else p c) rows) := by
  intro c
  induction c with
  | zero => intro rows _ _; rw [reduceReducedLoop_zero]; exact RRel.refl _ _ _
  | succ c ih =>
    intro rows hck hyp
    obtain ⟨rows', hcase, heq⟩ := reduceReducedLoop_succ false dk pivot.e pivotDim half dim 0 dim
      (kind dk dim == EQUALITY) (kind dk dim) c (if c + 1 = k then dim else p (c + 1)) _ rows rfl
    rw [heq]
    simp only [Bool.false_eq_true, if_false] at hcase ⊢
    rw [hskip c (by omega)] at hcase ⊢
    have hweak : RRHyp n dk p k M pivot c rows := ⟨hyp.hk, hyp.piv, fun i hi => hyp.rowsok i (by omega)⟩
    have hrow := hyp.rowsok c (by omega)
    have hstep : RRel k dim rows rows' ∧ RRHyp n dk p k M pivot c rows' := by
      rcases hcase with rfl | ⟨hcond, q, rfl⟩
      · exact ⟨RRel.refl _ _ _, hweak⟩
      · change RRel k dim rows
            (rows.set c { rowAt rows c with e := linearCombine (rowAt rows c).e pivot.e 1 (-q) 0 (dim + 1) }) ∧
          RRHyp n dk p k M pivot c
            (rows.set c { rowAt rows c with e := linearCombine (rowAt rows c).e pivot.e 1 (-q) 0 (dim + 1) })
        have hclt : c < rows.length := by have := hyp.hk; omega
        have hent : ∀ j, get (linearCombine (rowAt rows c).e pivot.e 1 (-q) 0 (dim + 1)) j =
            1 * get (rowAt rows c).e j + (-q) * get pivot.e j :=
          get_linearCombine_full _ _ _ _ _ (by rw [hpl, hrow.1]) (fun i hi => hpz i (by omega)) (Or.inl rfl)
        -- the pivot is an equality or has the modulus of the row
        have hmods : pivot.m = 0 ∨ pivot.m = (rowAt rows c).m := by
          have h1 := hrow.2.1
          have h2 := hrow.2.2
          simp only [beq_iff_eq] at hcond
          simp only [KindOK, EQUALITY, PROPER_CONGRUENCE, PARAMETER] at hcond hpk h1
          rcases hcond with hc | ⟨hc1, hc2⟩
          · left; rcases hpk with hp | hp
            · exact hp.1
            · omega
          · rcases hpk with hp | hp
            · left; exact hp.1
            · right
              rcases h1 with h1 | h1
              · omega
              · rcases hpm with hpm | hpm
                · omega
                · rcases h2 with h2 | h2
                  · omega
                  · rw [hpm, h2]
        constructor
        · refine ⟨by simp, ?_, ?_, ?_⟩
          · intro i hi
            rw [rowAt_set, if_neg (by omega)]
          · intro i
            rw [rowAt_set]
            by_cases hi : i = c ∧ c < rows.length
            · rw [if_pos hi, hi.1]
              refine ⟨rfl, by simp, ?_⟩
              intro j hj
              show get (linearCombine _ _ _ _ _ _) j = _
              rw [get_linearCombine, if_neg (by omega)]
            · rw [if_neg hi]; exact ⟨rfl, rfl, fun _ _ => rfl⟩
          · intro x
            apply Sol_set_iff rows c k _ x hyp.hk (by omega)
            intro hp
            rw [hyp.piv] at hp
            refine rsem_add_mul (rowAt rows c) pivot
              ⟨linearCombine (rowAt rows c).e pivot.e 1 (-q) 0 (dim + 1), (rowAt rows c).m⟩ (-q) x ?_ rfl hmods hp
            have := evalRow_lin _ (rowAt rows c).e pivot.e 1 (-q) x (by simp) (by rw [hpl, hrow.1]) hent
            rw [this]; push_cast; ring
        · refine ⟨by simpa using hyp.hk, ?_, ?_⟩
          · rw [rowAt_set, if_neg (by omega)]; exact hyp.piv
          · intro i hi
            rw [rowAt_set, if_neg (by omega)]
            exact hyp.rowsok i (by omega)
    have := ih _ (by omega) hstep.2
    rw [if_neg (by omega : ¬ c = k)] at this
    exact hstep.1.trans this

/-- `reduce_reduced(rows, dim, k, 0, dim, dim_kinds, false)` under the shape invariant -/
theorem reduceReduced_rel (n : Nat) (dk : List Nat) (p : Nat → Nat) (k dim : Nat) (M : Int) (rows : List CRow)
    (hK : KInv dk p k (dim + 1) (n + 1)) (hdk : dk.length = n + 1) (hk : k < rows.length) (hwf : RWf n rows)
    (hkinds : ∀ i, i < k → KindOK (rowAt rows i) (kind dk (p i)))
    (hpk : KindOK (rowAt rows k) (kind dk dim)) (hpz : ∀ j, dim < j → get (rowAt rows k).e j = 0)
    (hmod : SameMod rows M) :
    RRel k dim rows (reduceReduced rows dim k 0 dim dk false) := by
  have hloop := reduceReducedLoop_rel n dk p k dim M (rowAt rows k) (get (rowAt rows k).e dim)
    (Int.tdiv (get (rowAt rows k).e dim + 1) 2) (hwf k hk).1 hpk (hmod.2 k hk) hpz
    (fun ri hri => hK.skip hdk ri hri) k rows (le_refl _)
    ⟨hk, rfl, fun i hi => ⟨(hwf i (by omega)).1, hkinds i hi, hmod.2 i (by omega)⟩⟩
  rw [if_pos rfl] at hloop
  unfold reduceReduced
  simp only [HasExpr.expr]
  split
  · exact RRel.refl _ _ _
  · exact hloop

end PPLV.Lattice.Red

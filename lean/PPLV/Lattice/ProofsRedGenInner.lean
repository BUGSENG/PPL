import PPLV.Lattice.ProofsRedGenStepPL

/-!
# The inner `while` loop of `Grid::simplify(Grid_Generator_System&)` (Grid_simplify.cc:294-326)
-/
namespace PPLV.Lattice.Red
open PPLV.Lattice

/-- invariant of the inner loop: rows `p+1 .. m-1` have been cleared in column `dim` -/
structure IInv (n p dim numRows m : Nat) (st : List GRow × Bool) : Prop where
  len : st.1.length = numRows
  wf : WfI n st.1
  zero : ZeroPre p dim st.1
  pivNZ : get (rowAt st.1 p).e dim ≠ 0
  flag : st.2 = (rowAt st.1 p).line
  done : ∀ i, p < i → i < m → get (rowAt st.1 i).e dim = 0

theorem inner_eq (dim p n : Nat) (rows : List GRow) (flag : Bool) (m : Nat) :
    simplifyGenInner dim p (n + 1) (rows, flag) m =
      if get (rowAt rows m).e dim = 0 then (rows, flag)
      else if (rowAt rows m).line = true then
        if flag = true then (rows.set m (reduceLineWithLine (rowAt rows m) (rowAt rows p) dim), flag)
        else (reduceParameterWithLine (swapRows rows m p) m p dim (n + 1 + 1), true)
      else if flag = true then (reduceParameterWithLine rows m p dim (n + 1 + 1), flag)
      else ((rows.set m (reducePcWithPc (rowAt rows m) (rowAt rows p) dim dim (n + 1)).1).set p
              (reducePcWithPc (rowAt rows m) (rowAt rows p) dim dim (n + 1)).2, flag) := rfl

theorem iinv_of_istep {n p dim numRows m D : Nat} {rows rows' : List GRow} {f f' : Bool}
    (h : IInv n p dim numRows m (rows, f)) (hpm : p < m) (hm : m < numRows)
    (hs : IStep n p dim m rows rows') (hf : f' = (rowAt rows' p).line) :
    IInv n p dim numRows (m + 1) (rows', f') ∧ PreRel p D rows rows' ∧ HomSim n rows rows' := by
  have hlen : rows.length = numRows := h.len
  refine ⟨⟨hs.len.trans hlen, hs.wf, hs.zero, hs.pivNZ, hf, ?_⟩, ?_, hs.hom⟩
  · intro i hpi hi
    by_cases e : i = m
    · rw [e]; exact hs.rowZ
    · have h1 := (hs.other i (by omega) e (by omega)).2 dim
      have h2 : get (rowAt rows i).e dim = 0 := h.done i hpi (by omega)
      show get (rowAt rows' i).e dim = 0
      rw [h2, Int.sign_zero] at h1
      exact Int.sign_eq_zero_iff_zero.mp h1
  · intro j hj
    have := hs.other j (by omega) (by omega) (by omega)
    exact ⟨this.1, fun c _ => this.2 c⟩

/-- one pass of the inner loop -/
theorem inner_step {n p dim numRows m D : Nat} {st : List GRow × Bool} (h : IInv n p dim numRows m st)
    (hpm : p < m) (hm : m < numRows) (hdim : dim ≤ n) :
    IInv n p dim numRows (m + 1) (simplifyGenInner dim p (n + 1) st m) ∧
      PreRel p D st.1 (simplifyGenInner dim p (n + 1) st m).1 ∧
      HomSim n st.1 (simplifyGenInner dim p (n + 1) st m).1 := by
  obtain ⟨rows, flag⟩ := st
  have hlen : rows.length = numRows := h.len
  have hwf : WfI n rows := h.wf
  have hz : ZeroPre p dim rows := h.zero
  have hpc : get (rowAt rows p).e dim ≠ 0 := h.pivNZ
  have hflag : flag = (rowAt rows p).line := h.flag
  have hri : m < rows.length := by omega
  have hp : p < rows.length := by omega
  have hne : m ≠ p := by omega
  have hpr : p ≤ m := by omega
  rw [inner_eq]
  by_cases h0 : get (rowAt rows m).e dim = 0
  · rw [if_pos h0]
    refine ⟨⟨hlen, hwf, hz, hpc, hflag, ?_⟩, PreRel.refl _ _ _, HomSim.refl _ _⟩
    intro i hpi hi
    by_cases e : i = m
    · rw [e]; exact h0
    · exact h.done i hpi (by omega)
  · rw [if_neg h0]
    by_cases hl : (rowAt rows m).line = true
    · rw [if_pos hl]
      by_cases hf : flag = true
      · rw [if_pos hf]
        have hl2 : (rowAt rows p).line = true := by rw [← hflag]; exact hf
        have hs := step_LL hri hp hne hpr hwf hz hdim hpc hl hl2
        refine iinv_of_istep h hpm hm hs ?_
        rw [rowAt_set, if_neg (fun e => hne e.1.symm)]; exact hflag
      · rw [if_neg hf]
        have hl2 : (rowAt rows p).line = false := by
          rw [← hflag]; cases flag
          · rfl
          · exact absurd rfl hf
        obtain ⟨s1, s2, s3, s4, s5, s6, s7⟩ := swap_spec (n := n) (dim := dim) hri hp hpr hwf hz
        have hri' : m < (swapRows rows m p).length := by rw [s1]; exact hri
        have hp' : p < (swapRows rows m p).length := by rw [s1]; exact hp
        obtain ⟨hs, hfl⟩ := step_PL hri' hp' hne hpr s2 s3 hdim (by rw [s6]; exact h0) (by rw [s5]; exact hl2)
          (by rw [s6]; exact hl)
        have hs' : IStep n p dim m rows (reduceParameterWithLine (swapRows rows m p) m p dim (n + 1 + 1)) :=
          { len := hs.len.trans s1
            wf := hs.wf
            zero := hs.zero
            other := by
              intro i hi h1 h2
              have := hs.other i (by rw [s1]; exact hi) h1 h2
              rw [s4 i h1 h2] at this
              exact this
            hom := (HomSim.of_iff s7).trans hs.hom
            pivNZ := hs.pivNZ
            rowZ := hs.rowZ }
        exact iinv_of_istep h hpm hm hs' hfl.symm
    · rw [if_neg hl]
      have hl1 : (rowAt rows m).line = false := by
        cases hh : (rowAt rows m).line
        · rfl
        · exact absurd hh hl
      by_cases hf : flag = true
      · rw [if_pos hf]
        have hl2 : (rowAt rows p).line = true := by rw [← hflag]; exact hf
        obtain ⟨hs, hfl⟩ := step_PL hri hp hne hpr hwf hz hdim hpc hl1 hl2
        exact iinv_of_istep h hpm hm hs (by rw [hfl]; exact hf)
      · rw [if_neg hf]
        have hl2 : (rowAt rows p).line = false := by
          rw [← hflag]; cases flag
          · rfl
          · exact absurd rfl hf
        obtain ⟨hs, hfl⟩ := step_PP hri hp hne hpr hwf hz hdim hpc hl1 hl2
        exact iinv_of_istep h hpm hm hs (by rw [hfl, hflag, hl2])

/-- the whole inner loop over the rows `m, …, m + len - 1` -/
theorem inner_fold {n p dim numRows D : Nat} (hdim : dim ≤ n) :
    ∀ (len m : Nat) (st : List GRow × Bool), IInv n p dim numRows m st → p < m → m + len ≤ numRows →
      IInv n p dim numRows (m + len) ((List.range' m len).foldl (simplifyGenInner dim p (n + 1)) st) ∧
      PreRel p D st.1 ((List.range' m len).foldl (simplifyGenInner dim p (n + 1)) st).1 ∧
      HomSim n st.1 ((List.range' m len).foldl (simplifyGenInner dim p (n + 1)) st).1 := by
  intro len
  induction len with
  | zero =>
    intro m st h _ _
    exact ⟨h, PreRel.refl _ _ _, HomSim.refl _ _⟩
  | succ len ih =>
    intro m st h hpm hml
    rw [List.range'_succ, List.foldl_cons]
    obtain ⟨h1, h2, h3⟩ := inner_step (D := D) h hpm (by omega) hdim
    obtain ⟨k1, k2, k3⟩ := ih (m + 1) _ h1 (by omega) (by omega)
    refine ⟨?_, h2.trans k2, h3.trans k3⟩
    have : m + (len + 1) = m + 1 + len := by omega
    rw [this]; exact k1

end PPLV.Lattice.Red

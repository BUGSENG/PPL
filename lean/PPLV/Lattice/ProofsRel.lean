import PPLV.Lattice.ProofsDims
import PPLV.Lattice.ProofsQueries

/-!
# K2: generalized affine image / preimage (`relCore`) compute the documented relation image
-/
namespace PPLV.Lattice
open List

/-! ### adding several lines -/

theorem addLines_sem (G : GridGens) (ls : List Vec) (w : Pt) :
    Gen.sem (addLines G ls) w ↔ ∃ u, Gen.sem G u ∧ GDir [] ls (w - u) := by
  induction ls generalizing G w with
  | nil =>
    simp only [addLines, List.foldl_nil, GDir, List.map_nil]
    constructor
    · intro h; exact ⟨w, h, by simpa using Abs.Dir.zero⟩
    · rintro ⟨u, hu, hd⟩
      have := dir_zero_lines [] (by simp) hd
      have : w = u := by rwa [sub_eq_zero] at this
      rwa [this]
  | cons l ls ih =>
    simp only [addLines, List.foldl_cons]
    have := ih (addLine G l) w
    simp only [addLines] at this
    rw [this]
    constructor
    · rintro ⟨u, hu, hd⟩
      rw [addLine_sem] at hu
      obtain ⟨x, c, hx, rfl⟩ := hu
      refine ⟨x, hx, ?_⟩
      have e : w - x = (w - (x + c • l.toFun)) + c • l.toFun := by module
      rw [e]
      exact Abs.Dir.add (Abs.Dir.mono_subset (by simp) (by intro z hz; simp only [List.map_cons, List.mem_cons]; exact Or.inr hz) hd)
        (Abs.Dir.of_line c (by simp))
    · rintro ⟨u, hu, hd⟩
      -- split the multiples of l
      have split : ∀ v, Abs.Dir [] (l.toFun :: ls.map Vec.toFun) v → ∃ c : Rat, Abs.Dir [] (ls.map Vec.toFun) (v - c • l.toFun) := by
        intro v hv
        induction hv with
        | zero => exact ⟨0, by simpa using Abs.Dir.zero⟩
        | param k hq _ _ => simp at hq
        | @line z m d hm _ ih2 =>
          obtain ⟨c, hc⟩ := ih2
          rcases List.mem_cons.mp hm with rfl | hm
          · exact ⟨c + d, by
              have : z + d • l.toFun - (c + d) • l.toFun = z - c • l.toFun := by module
              rw [this]; exact hc⟩
          · refine ⟨c, ?_⟩
            have : z + d • m - c • l.toFun = (z - c • l.toFun) + d • m := by module
            rw [this]; exact Abs.Dir.line d hm hc
      obtain ⟨c, hc⟩ := split _ hd
      refine ⟨u + c • l.toFun, (addLine_sem G l _).mpr ⟨u, c, hu, rfl⟩, ?_⟩
      have e : w - (u + c • l.toFun) = w - u - c • l.toFun := by module
      rw [e]; exact hc

/-- the span of unit vectors: supported on the index list -/
theorem dir_units_iff (S : List Nat) (δ : Pt) :
    GDir [] (S.map unit) δ ↔ ∀ j, j ∉ S → δ j = 0 := by
  constructor
  · intro h
    induction h with
    | zero => intro j _; rfl
    | param k hq _ _ => simp at hq
    | @line w l c hl _ ih =>
      intro j hj
      obtain ⟨v, hv, rfl⟩ := List.mem_map.mp hl
      obtain ⟨i, hi, rfl⟩ := List.mem_map.mp hv
      have : j ≠ i := fun e => hj (e ▸ hi)
      simp [ih j hj, toFun_unit, this]
  · intro h
    induction S generalizing δ with
    | nil =>
      have : δ = 0 := funext (fun j => h j (by simp))
      rw [this]; exact Abs.Dir.zero
    | cons i S ih =>
      by_cases hi : i ∈ S
      · exact Abs.Dir.mono_subset (by simp) (by intro z hz; simp only [List.map_cons, List.mem_cons]; exact Or.inr hz)
          (ih δ (fun j hj => h j (by simp only [List.mem_cons, not_or]; exact ⟨fun e => hj (e ▸ hi), hj⟩)))
      · have h1 := ih (Function.update δ i 0) (fun j hj => by
          by_cases e : j = i
          · subst e; simp
          · rw [Function.update_of_ne e]; exact h j (by simp only [List.mem_cons, not_or]; exact ⟨e, hj⟩))
        have e : δ = Function.update δ i 0 + (δ i) • (unit i).toFun := by
          funext j
          by_cases e : j = i
          · subst e; simp [toFun_unit]
          · simp [toFun_unit, e]
        rw [e]
        exact Abs.Dir.add (Abs.Dir.mono_subset (by simp) (by intro z hz; simp only [List.map_cons, List.mem_cons]; exact Or.inr hz) h1)
          (Abs.Dir.of_line _ (by simp))

/-! ### the first step: a new coordinate carrying `⟨α,x⟩ + a0` -/

/-- `x ↦ (x₀,…,x_{n-1}, α x, 0, …)` -/
def liftLin (n : Nat) (α : Pt →ₗ[ℚ] ℚ) : Pt →ₗ[ℚ] Pt where
  toFun x j := if j < n then x j else if j = n then α x else 0
  map_add' x y := by
    funext j; simp only [Pi.add_apply]
    by_cases h1 : j < n
    · simp [h1]
    · by_cases h2 : j = n <;> simp [h1, h2]
  map_smul' c x := by
    funext j; simp only [Pi.smul_apply, smul_eq_mul, RingHom.id_apply]
    by_cases h1 : j < n
    · simp [h1]
    · by_cases h2 : j = n <;> simp [h1, h2]

theorem lift_represents (n : Nat) (α : Vec) :
    Represents (fun x => setCoord (padTo n x) n (dot α x)) (liftLin n (alphaOf α)) := by
  intro v
  funext j
  rw [toFun_setCoord, toFun_padTo]
  simp only [liftLin, LinearMap.coe_mk, AddHom.coe_mk, Function.update_apply, alphaOf_apply, dot_eq_dotF]
  by_cases h2 : j = n
  · subst h2; simp
  · by_cases h1 : j < n <;> simp [h1, h2]

/-- the documented relation image, for an `n`-dimensional grid -/
def RelSpec (n : Nat) (G : GridGens) (α : Vec) (a0 : Rat) (S : List Nat) (c : Vec) (c0 : Rat) (f : Rat) (y : Pt) : Prop :=
  Supp n y ∧ ∃ v, Gen.sem G v ∧ (∀ j, j ∉ S → y j = v j) ∧ ∃ t : Int, dotF c y + c0 - (dotF α v + a0) = (t : Rat) * f

theorem relCore_sem (n : Nat) (G : GridGens) (α : Vec) (a0 : Rat) (S : List Nat) (c : Vec) (c0 f : Rat)
    (hG : ∀ x, Gen.sem G x → Supp n x) (hS : ∀ i ∈ S, i < n) (hc : c.length ≤ n) (y : Pt) :
    Gen.sem (relCore n G α a0 S c c0 f) y ↔ RelSpec n G α a0 S c c0 f y := by
  unfold relCore RelSpec
  simp only
  rw [mapCoord_sem _ _ (padTo_represents n)]
  have hG1 : ∀ u, Gen.sem (mapG (fun x => setCoord (padTo n x) n (dot α x)) (setCoord [] n a0) G) u ↔
      ∃ v, Gen.sem G v ∧ u = Function.update v n (dotF α v + a0) := by
    intro u
    rw [mapG_sem _ _ (lift_represents n α)]
    constructor
    · rintro ⟨v, hv, rfl⟩
      refine ⟨v, hv, ?_⟩
      have hs := hG v hv
      funext j
      simp only [Pi.add_apply, toFun_setCoord, liftLin, LinearMap.coe_mk, AddHom.coe_mk, Function.update_apply,
        alphaOf_apply, toFun_nil, Pi.zero_apply]
      by_cases h2 : j = n
      · subst h2; simp
      · by_cases h1 : j < n
        · simp [h1, h2]
        · simp [h1, h2, hs j (by omega)]
    · rintro ⟨v, hv, rfl⟩
      refine ⟨v, hv, ?_⟩
      have hs := hG v hv
      funext j
      simp only [Pi.add_apply, toFun_setCoord, liftLin, LinearMap.coe_mk, AddHom.coe_mk, Function.update_apply,
        alphaOf_apply, toFun_nil, Pi.zero_apply]
      by_cases h2 : j = n
      · subst h2; simp
      · by_cases h1 : j < n
        · simp [h1, h2]
        · simp [h1, h2, hs j (by omega)]
  have hcg : ∀ w : Pt, Cg.sem { a := vsub c (unit n), b := c0, f := f } w ↔
      ∃ t : Int, dotF c w - w n + c0 = (t : Rat) * f := by
    intro w; simp only [Cg.sem, dotF_vsub, dotF_unit]
  have htr : ∀ w : Pt, coordMap (fun j => if j < n then some j else none) w = fun j => if j < n then w j else 0 := by
    intro w; funext j; rw [coordMap_apply]; by_cases h : j < n <;> simp [h]
  constructor
  · rintro ⟨w, hw, rfl⟩
    rw [intersectCon_sem, addLines_sem, hcg] at hw
    obtain ⟨⟨u, hu, hd⟩, t, ht⟩ := hw
    obtain ⟨v, hv, rfl⟩ := (hG1 u).mp hu
    rw [dir_units_iff] at hd
    have hs := hG v hv
    rw [htr]
    refine ⟨fun i hi => by simp [show ¬ i < n by omega], v, hv, ?_, t, ?_⟩
    · intro j hj
      by_cases h1 : j < n
      · have := hd j hj
        simp only [Pi.sub_apply, Function.update_apply, show j ≠ n by omega, if_false] at this
        simp only [h1, if_true]; linarith
      · simp [h1, hs j (by omega)]
    · have e1 : dotF c (fun j => if j < n then w j else 0) = dotF c w :=
        dotF_agree c _ _ (fun i hi => by simp [show i < n by omega])
      have hn : n ∉ S := fun h => absurd (hS n h) (by omega)
      have e2 : w n = dotF α v + a0 := by
        have := hd n hn
        simp only [Pi.sub_apply, Function.update_self] at this
        linarith
      rw [e1, ← e2]; linarith
  · rintro ⟨hy, v, hv, hfix, t, ht⟩
    have hs := hG v hv
    refine ⟨fun j => if j = n then dotF α v + a0 else y j, ?_, ?_⟩
    · rw [intersectCon_sem, addLines_sem, hcg]
      refine ⟨⟨Function.update v n (dotF α v + a0), (hG1 _).mpr ⟨v, hv, rfl⟩, ?_⟩, t, ?_⟩
      · rw [dir_units_iff]
        intro j hj
        simp only [Pi.sub_apply, Function.update_apply]
        by_cases h2 : j = n
        · simp [h2]
        · simp only [h2, if_false]; rw [hfix j hj]; ring
      · have e1 : dotF c (fun j => if j = n then dotF α v + a0 else y j) = dotF c y :=
          dotF_agree c _ _ (fun i hi => by simp [show i ≠ n by omega])
        rw [e1]; simp only [if_true]; linarith
    · rw [htr]
      funext j
      by_cases h1 : j < n
      · simp [h1, show j ≠ n by omega]
      · simp [h1, hy j (by omega)]

theorem suppOf_lt (n : Nat) (lhs : Vec) : ∀ i ∈ suppOf n lhs, i < n := by
  intro i hi
  simp only [suppOf, List.mem_filter, List.mem_range] at hi
  exact hi.1

theorem not_mem_suppOf (n : Nat) (lhs : Vec) (hl : lhs.length ≤ n) (j : Nat) :
    j ∉ suppOf n lhs ↔ lhs.toFun j = 0 := by
  simp only [suppOf, List.mem_filter, List.mem_range, ne_eq, decide_eq_true_eq, not_and, not_not]
  constructor
  · intro h
    by_cases hj : j < n
    · exact h hj
    · exact toFun_of_length_le lhs j (by omega)
  · intro h _; exact h

/-- generalized affine image: `{ w | ∃ v ∈ G, lhs(w) + lb ≡_f rhs(v) + rb ∧ wᵢ = vᵢ where lhsᵢ = 0 }` -/
theorem relImage_sem (n : Nat) (G : GridGens) (lhs : Vec) (lb : Rat) (rhs : Vec) (rb f : Rat)
    (hG : ∀ x, Gen.sem G x → Supp n x) (hl : lhs.length ≤ n) (w : Pt) :
    Gen.sem (relImage n G lhs lb rhs rb f) w ↔
      Supp n w ∧ ∃ v, Gen.sem G v ∧ (∀ j, lhs.toFun j = 0 → w j = v j) ∧
        ∃ t : Int, dotF lhs w + lb - (dotF rhs v + rb) = (t : Rat) * f := by
  unfold relImage
  rw [relCore_sem n G rhs rb _ lhs lb f hG (suppOf_lt n lhs) hl]
  simp only [RelSpec, not_mem_suppOf n lhs hl]

/-- generalized affine preimage of the same relation -/
theorem relPreimage_sem (n : Nat) (G : GridGens) (lhs : Vec) (lb : Rat) (rhs : Vec) (rb f : Rat)
    (hG : ∀ x, Gen.sem G x → Supp n x) (hl : lhs.length ≤ n) (hr : rhs.length ≤ n) (v : Pt) :
    Gen.sem (relPreimage n G lhs lb rhs rb f) v ↔
      Supp n v ∧ ∃ w, Gen.sem G w ∧ (∀ j, lhs.toFun j = 0 → v j = w j) ∧
        ∃ t : Int, dotF rhs v + rb - (dotF lhs w + lb) = (t : Rat) * f := by
  unfold relPreimage
  rw [relCore_sem n G lhs lb _ rhs rb f hG (suppOf_lt n lhs) hr]
  simp only [RelSpec, not_mem_suppOf n lhs hl]

end PPLV.Lattice

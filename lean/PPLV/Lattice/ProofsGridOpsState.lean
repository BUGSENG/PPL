import PPLV.Lattice.ProofsGridOpsDefs
import PPLV.Lattice.ProofsRedGenBridge
import PPLV.Lattice.ProofsRedCgTail

/-!
# The `Grid` object: facts about the raw state used by every operation

`resizeRow`; `Grid.sem` per flag case; what `GridInv` says about the flags; `firstPointDiv` of a normalised system;
`GridInv` of a state of positive dimension from its field facts (`inv_of_pos`, and the shapes the operations leave as
its corollaries); transfer of the invariant to a state with the same status and the same up-to-date systems;
the inconsistent system, `set_empty`, `set_zero_dim_univ`.
-/
namespace PPLV.Lattice.GO
open PPLV.Lattice PPLV.Lattice.Red

/-! ### rows -/

theorem length_resizeRow (e : Row) (len : Nat) : (resizeRow e len).length = len := by simp [resizeRow]

theorem get_resizeRow (e : Row) (len i : Nat) : get (resizeRow e len) i = if i < len then get e i else 0 := by
  unfold resizeRow
  by_cases h : i < len
  · rw [if_pos h]; simp [Red.get, h]
  · rw [if_neg h]; exact get_of_length_le _ _ (by simp; omega)

theorem allZ_iff (e : Row) (s t : Nat) : allZ e s t = true ↔ ∀ i, s ≤ i → i < t → get e i = 0 := by
  unfold allZ
  simp only [List.all_eq_true, List.mem_range'_1, beq_iff_eq, and_imp]
  exact ⟨fun h i h1 h2 => h i h1 (by omega), fun h i h1 h2 => h i h1 (by omega)⟩

theorem mem_dimsDown {k d : Nat} : d ∈ dimsDown k ↔ d < k := by simp [dimsDown]

theorem CSys_setSpaceDim_dim (s : CSys) (n : Nat) : (s.setSpaceDim n).dim = n := by
  unfold CSys.setSpaceDim
  split
  · rfl
  · rename_i h; exact not_not.mp h

/-- if every rational multiple of `β` is an integer multiple of `m`, then `β = 0`: a congruence that holds along a whole
    rational line does not see its direction -/
theorem half_trick (β m : ℚ) (h : ∀ q : ℚ, ∃ t : Int, q * β = (t : ℚ) * m) : β = 0 := by
  by_contra hβ
  by_cases hm : m = 0
  · obtain ⟨t, ht⟩ := h 1
    rw [hm] at ht; simp at ht; exact hβ ht
  · obtain ⟨t, ht⟩ := h (m / (2 * β))
    have e : m / (2 * β) * β = m / 2 := by field_simp
    rw [e] at ht
    have h3 : m * (1 - 2 * (t : ℚ)) = 0 := by linear_combination 2 * ht
    rcases mul_eq_zero.mp h3 with q | q
    · exact hm q
    · have h2 : (2 : ℚ) * (t : ℚ) = 1 := by linarith
      have h4 : (2 : Int) * t = 1 := by exact_mod_cast h2
      omega

/-! ### argument checks of the mutators

The mutators start with a chain `if c₁ then reject else if c₂ then reject else … else if marked_empty() then unchanged else body`.
What such a chain says about "thrown" and "object unchanged" is assembled from one lemma per link. -/

/-- the three facts every `…_thrown` statement collects: when the call is rejected, that a rejected call changes nothing, and
    that a marked-empty receiver is not touched -/
def Checks (g : Grid) (r : R) (P : Prop) : Prop :=
  (r.thrown = true ↔ P) ∧ (r.thrown = true → r.g = g) ∧ (g.st.empty = true → r.g = g)

theorem Checks.congr {g : Grid} {r : R} {P Q : Prop} (h : Checks g r P) (hPQ : P ↔ Q) : Checks g r Q :=
  ⟨h.1.trans hPQ, h.2⟩

/-- a check that rejects the call when `c` holds -/
theorem Checks.reject {g : Grid} {rest : R} {P : Prop} (c : Prop) [Decidable c] (h : ¬ c → Checks g rest P) :
    Checks g (if c then { g := g, thrown := true } else rest) (c ∨ P) := by
  by_cases hc : c
  · rw [if_pos hc]; exact ⟨⟨fun _ => Or.inl hc, fun _ => rfl⟩, fun _ => rfl, fun _ => rfl⟩
  · rw [if_neg hc]; exact ⟨(h hc).1.trans ⟨Or.inr, fun h' => h'.resolve_left hc⟩, (h hc).2⟩

/-- the end of the chain: a marked-empty receiver is returned as it is, otherwise `body` runs and does not throw -/
theorem Checks.body {g : Grid} {body : R} (h : g.st.empty = false → body.thrown = false) :
    Checks g (if g.markedEmpty = true then { g := g } else body) False := by
  by_cases he : g.markedEmpty = true
  · rw [if_pos he]; exact ⟨⟨fun h' => Bool.noConfusion h', False.elim⟩, fun _ => rfl, fun _ => rfl⟩
  · rw [if_neg he]
    have hnt := h (Bool.eq_false_iff.mpr he)
    exact ⟨⟨fun h' => Bool.noConfusion (hnt.symm.trans h'), False.elim⟩, fun h' => Bool.noConfusion (hnt.symm.trans h'),
      fun h' => absurd h' he⟩

/-! ### `Grid.sem` per flag case -/

theorem sem_of_empty {g : Grid} (h : g.st.empty = true) : g.sem = ∅ := by
  unfold Grid.sem; simp [h]

theorem sem_of_zdim {g : Grid} (h : g.st.empty = false) (h0 : g.spaceDim = 0) : g.sem = spaceSet 0 := by
  unfold Grid.sem; simp [h, h0, spaceSet]

theorem sem_of_gUp {g : Grid} (h : g.st.empty = false) (h0 : 0 < g.spaceDim) (hg : g.st.gUp = true) :
    g.sem = gensSet g.spaceDim g.gen := by
  unfold Grid.sem
  have : g.spaceDim ≠ 0 := by omega
  simp [h, this, hg]

theorem sem_of_not_gUp {g : Grid} (h : g.st.empty = false) (h0 : 0 < g.spaceDim) (hg : g.st.gUp = false) :
    g.sem = consSet g.spaceDim g.con := by
  unfold Grid.sem
  have : g.spaceDim ≠ 0 := by omega
  simp [h, this, hg]

/-- with up-to-date congruences the denotation is their solution set, whatever the other flags say -/
theorem sem_of_cUp {g : Grid} (hI : GridInv g) (h : g.st.empty = false) (h0 : 0 < g.spaceDim)
    (hc : g.st.cUp = true) : g.sem = consSet g.spaceDim g.con := by
  cases hg : g.st.gUp
  · exact sem_of_not_gUp h h0 hg
  · rw [sem_of_gUp h h0 hg, hI.agree h h0 hc hg]

theorem not_marked_of_nonempty {g : Grid} (h : g.sem.Nonempty) : g.st.empty = false := by
  cases he : g.st.empty with
  | false => rfl
  | true => rw [sem_of_empty he] at h; exact absurd h Set.not_nonempty_empty

theorem not_nonempty_of_empty {g : Grid} (h : g.st.empty = true) : ¬ (g.sem).Nonempty := by
  rw [sem_of_empty h]; exact Set.not_nonempty_empty

theorem nonempty_of_zdim {g : Grid} (he : g.st.empty = false) (h0 : g.spaceDim = 0) : (g.sem).Nonempty := by
  rw [sem_of_zdim he h0]
  exact ⟨fun _ => 0, fun _ _ => rfl⟩

/-! ### what the invariant says about the flags -/

/-- a flag other than `EMPTY` is set: not marked empty, positive dimension -/
theorem pos_of_flag {g : Grid} (hI : GridInv g) (hf : g.st ≠ Status.setEmpty ∧ g.st ≠ Status.zeroDimUniv) :
    g.st.empty = false ∧ 0 < g.spaceDim := by
  cases he : g.st.empty
  · exact ⟨rfl, Nat.pos_of_ne_zero fun h0 => hf.2 (hI.zdim he h0).1⟩
  · exact absurd (hI.emp he).1 hf.1

theorem pos_of_cUp {g : Grid} (hI : GridInv g) (hc : g.st.cUp = true) : g.st.empty = false ∧ 0 < g.spaceDim := by
  refine pos_of_flag hI ⟨?_, ?_⟩ <;> intro h <;> rw [h] at hc <;> cases hc

theorem pos_of_gUp {g : Grid} (hI : GridInv g) (hg : g.st.gUp = true) : g.st.empty = false ∧ 0 < g.spaceDim := by
  refine pos_of_flag hI ⟨?_, ?_⟩ <;> intro h <;> rw [h] at hg <;> cases hg

theorem gUp_of_not_cUp {g : Grid} (hI : GridInv g) (he : g.st.empty = false) (hpos : 0 < g.spaceDim)
    (hc : g.st.cUp = false) : g.st.gUp = true :=
  (hI.some he hpos).resolve_left (Bool.eq_false_iff.mp hc)

theorem cUp_of_not_gUp {g : Grid} (hI : GridInv g) (he : g.st.empty = false) (hpos : 0 < g.spaceDim)
    (hg : g.st.gUp = false) : g.st.cUp = true :=
  (hI.some he hpos).resolve_right (Bool.eq_false_iff.mp hg)

/-! ### the divisor of the first point of a normalised system -/

theorem firstPointDiv_of_gnorm {n : Nat} {D : Int} {rows : List GRow} (h : GNorm n D rows) :
    firstPointDiv rows = D := by
  unfold firstPointDiv
  cases hf : rows.find? (fun r => !r.line && get r.e 0 != 0) with
  | none =>
    obtain ⟨r, hr, hl, h0⟩ := h.pt
    have h1 := List.find?_eq_none.mp hf r hr
    have hp := h.pos
    simp [hl, h0] at h1
    omega
  | some p =>
    have hp := List.mem_of_find?_eq_some hf
    have hpp := List.find?_some hf
    simp only [Bool.and_eq_true, Bool.not_eq_eq_eq_not, Bool.not_true, bne_iff_ne, ne_eq] at hpp
    rcases h.col0 p hp hpp.1 with h0 | h0
    · exact absurd h0 hpp.2
    · exact h0

theorem gensSet_eq {n : Nat} {D : Int} {rows : List GRow} (h : GNorm n D rows) :
    gensSet n rows = {x | Hom n rows (homog ((D : Int) : ℚ) x)} := by
  unfold gensSet; rw [firstPointDiv_of_gnorm h]

theorem gnorm_firstPointDiv {n : Nat} {D : Int} {rows : List GRow} (h : GNorm n D rows) :
    GNorm n (firstPointDiv rows) rows := by
  rw [firstPointDiv_of_gnorm h]; exact h

/-- a normalised system denotes a non-empty set: its point -/
theorem gensSet_nonempty {n : Nat} {D : Int} {rows : List GRow} (h : GNorm n D rows) :
    (gensSet n rows).Nonempty := by
  obtain ⟨r, hr, hl, h0⟩ := h.pt
  refine ⟨(r.coords n (D : ℚ)).toFun, ?_⟩
  rw [gensSet_eq h]
  show Hom n rows _
  rw [← hv_point (ne_of_gt h.pos) h0]
  exact hom_of_mem_pc hr hl

/-- a state of positive dimension whose generators are up to date is not empty -/
theorem nonempty_of_gUp {g : Grid} (hI : GridInv g) (he : g.st.empty = false) (hpos : 0 < g.spaceDim)
    (hg : g.st.gUp = true) : (g.sem).Nonempty := by
  rw [sem_of_gUp he hpos hg]
  exact gensSet_nonempty (hI.gwf he hpos hg).2.2

theorem hom_supp {n : Nat} {rows : List GRow} {v : Pt} (h : Hom n rows v) (i : Nat) (hi : n < i) : v i = 0 := by
  have hvec : ∀ r : GRow, (r.hvec n).toFun i = 0 := fun r =>
    toFun_of_length_le _ _ (by unfold GRow.hvec ratRow; simp; omega)
  unfold Hom GDir at h
  induction h with
  | zero => rfl
  | param k hq _ ih =>
    obtain ⟨q0, hq0, rfl⟩ := List.mem_map.mp hq
    unfold pcVecs at hq0
    obtain ⟨r, _, rfl⟩ := List.mem_map.mp hq0
    simp [ih, hvec r]
  | line c hl _ ih =>
    obtain ⟨l0, hl0, rfl⟩ := List.mem_map.mp hl
    unfold lineVecs at hl0
    obtain ⟨r, _, rfl⟩ := List.mem_map.mp hl0
    simp [ih, hvec r]

/-- the grid of a normalised system lives in the `n`-space -/
theorem gensSet_supp {n : Nat} {D : Int} {rows : List GRow} (hN : GNorm n D rows) {x : Pt} (hx : x ∈ gensSet n rows) :
    Supp n x := by
  rw [gensSet_eq hN] at hx
  have hD : (D : ℚ) ≠ 0 := by exact_mod_cast (ne_of_gt hN.pos)
  intro i hi
  have := hom_supp (show Hom n rows _ from hx) (i + 1) (by omega)
  simp only [homog] at this
  exact (mul_eq_zero.mp this).resolve_left hD

/-! ### `GridInv` of a state of positive dimension that is not marked empty -/

theorem inv_of_pos (r : Grid) (he : r.st.empty = false) (hpos : 0 < r.spaceDim) (hhi : r.st.hi = 0)
    (hsome : r.st.cUp = true ∨ r.st.gUp = true)
    (hcm : r.st.cMin = true → r.st.cUp = true) (hgm : r.st.gMin = true → r.st.gUp = true)
    (hcwf : r.st.cUp = true → r.conDim = r.spaceDim ∧ CWf r.spaceDim r.con)
    (hgwf : r.st.gUp = true → r.genDim = r.spaceDim ∧ GWf r.spaceDim r.gen ∧
      GNorm r.spaceDim (firstPointDiv r.gen) r.gen)
    (hag : r.st.cUp = true → r.st.gUp = true → consSet r.spaceDim r.con = gensSet r.spaceDim r.gen)
    (hcmin : r.st.cMin = true → r.dk.length = r.spaceDim + 1 ∧ lowerTriangular r.spaceDim r.con r.dk = true ∧
      kind r.dk 0 = PROPER_CONGRUENCE)
    (hcc : r.st.cMin = true → r.st.gUp = false → CgKindsOK r.spaceDim r.con r.dk)
    (hgmin : r.st.gMin = true → r.dk.length = r.spaceDim + 1 ∧ upperTriangular r.spaceDim r.gen r.dk = true ∧
      kind r.dk 0 = PARAMETER)
    (hgc : r.st.gMin = true → r.st.cUp = false → ConvG r.spaceDim r.gen r.dk) : GridInv r where
  emp := fun h => by rw [he] at h; exact absurd h (by decide)
  zdim := fun _ h => by omega
  hi0 := fun _ => hhi
  some := fun _ _ => hsome
  cminUp := hcm
  gminUp := hgm
  cwf := fun _ _ => hcwf
  gwf := fun _ _ => hgwf
  agree := fun _ _ => hag
  cmin := fun _ _ => hcmin
  cminConv := fun _ _ => hcc
  gmin := fun _ _ => hgmin
  gminConv := fun _ _ => hgc

/-- both descriptions up to date and minimized -/
theorem inv_of_both (r : Grid) (he : r.st.empty = false) (hpos : 0 < r.spaceDim) (hhi : r.st.hi = 0)
    (hc : r.st.cUp = true) (hg : r.st.gUp = true)
    (hcd : r.conDim = r.spaceDim) (hcwf : CWf r.spaceDim r.con)
    (hgd : r.genDim = r.spaceDim) (hgwf : GWf r.spaceDim r.gen) {D : Int} (hgn : GNorm r.spaceDim D r.gen)
    (hag : consSet r.spaceDim r.con = gensSet r.spaceDim r.gen)
    (hdk : r.dk.length = r.spaceDim + 1) (hlt : lowerTriangular r.spaceDim r.con r.dk = true)
    (hut : upperTriangular r.spaceDim r.gen r.dk = true) (hk0 : kind r.dk 0 = 0) : GridInv r :=
  inv_of_pos r he hpos hhi (Or.inl hc) (fun _ => hc) (fun _ => hg) (fun _ => ⟨hcd, hcwf⟩)
    (fun _ => ⟨hgd, hgwf, gnorm_firstPointDiv hgn⟩) (fun _ _ => hag) (fun _ => ⟨hdk, hlt, hk0⟩)
    (fun _ h => by rw [hg] at h; exact absurd h (by decide)) (fun _ => ⟨hdk, hut, hk0⟩)
    (fun _ h => by rw [hc] at h; exact absurd h (by decide))

/-- only the congruences are up to date -/
theorem inv_of_con (r : Grid) (hpos : 0 < r.spaceDim) (he : r.st.empty = false) (hc : r.st.cUp = true)
    (hg : r.st.gUp = false) (hgm : r.st.gMin = false) (hhi : r.st.hi = 0)
    (hcd : r.conDim = r.spaceDim) (hw : CWf r.spaceDim r.con)
    (hcmin : r.st.cMin = true → r.dk.length = r.spaceDim + 1 ∧ lowerTriangular r.spaceDim r.con r.dk = true ∧
      kind r.dk 0 = PROPER_CONGRUENCE ∧ CgKindsOK r.spaceDim r.con r.dk) :
    GridInv r ∧ r.sem = consSet r.spaceDim r.con :=
  have hg' := Bool.eq_false_iff.mp hg
  have hgm' := Bool.eq_false_iff.mp hgm
  ⟨inv_of_pos r he hpos hhi (Or.inl hc) (fun _ => hc) (fun h => absurd h hgm') (fun _ => ⟨hcd, hw⟩)
    (fun h => absurd h hg') (fun _ h => absurd h hg') (fun h => ⟨(hcmin h).1, (hcmin h).2.1, (hcmin h).2.2.1⟩)
    (fun h _ => (hcmin h).2.2.2) (fun h => absurd h hgm') (fun h => absurd h hgm'), sem_of_not_gUp he hpos hg⟩

/-- the state the congruence-side mutators leave: only the congruences are up to date, not minimized -/
theorem inv_of_conOnly (r : Grid) (hpos : 0 < r.spaceDim) (he : r.st.empty = false) (hc : r.st.cUp = true)
    (hg : r.st.gUp = false) (hcm : r.st.cMin = false) (hgm : r.st.gMin = false) (hhi : r.st.hi = 0)
    (hcd : r.conDim = r.spaceDim) (hw : CWf r.spaceDim r.con) : GridInv r ∧ r.sem = consSet r.spaceDim r.con :=
  inv_of_con r hpos he hc hg hgm hhi hcd hw (fun h => absurd h (Bool.eq_false_iff.mp hcm))

/-- only the generators are up to date -/
theorem inv_of_gen {g : Grid} (hpos : 0 < g.spaceDim) (he : g.st.empty = false) (hc : g.st.cUp = false)
    (hg : g.st.gUp = true) (hcm : g.st.cMin = false) (hhi : g.st.hi = 0)
    (hgd : g.genDim = g.spaceDim) (hw : GWf g.spaceDim g.gen) {D : Int} (hN : GNorm g.spaceDim D g.gen)
    (hgmin : g.st.gMin = true → g.dk.length = g.spaceDim + 1 ∧ upperTriangular g.spaceDim g.gen g.dk = true ∧
      kind g.dk 0 = PARAMETER ∧ ConvG g.spaceDim g.gen g.dk) :
    GridInv g ∧ g.sem = gensSet g.spaceDim g.gen :=
  have hc' := Bool.eq_false_iff.mp hc
  have hcm' := Bool.eq_false_iff.mp hcm
  ⟨inv_of_pos g he hpos hhi (Or.inr hg) (fun h => absurd h hcm') (fun _ => hg) (fun h => absurd h hc')
    (fun _ => ⟨hgd, hw, gnorm_firstPointDiv hN⟩) (fun h => absurd h hc') (fun h => absurd h hcm')
    (fun h => absurd h hcm') (fun h => ⟨(hgmin h).1, (hgmin h).2.1, (hgmin h).2.2.1⟩) (fun h _ => (hgmin h).2.2.2),
   sem_of_gUp he hpos hg⟩

/-- a state without minimized descriptions -/
theorem inv_of_noMin (r : Grid) (hpos : 0 < r.spaceDim) (he : r.st.empty = false) (hcm : r.st.cMin = false)
    (hgm : r.st.gMin = false) (hhi : r.st.hi = 0) (hsome : r.st.cUp = true ∨ r.st.gUp = true)
    (hcwf : r.st.cUp = true → r.conDim = r.spaceDim ∧ CWf r.spaceDim r.con)
    (hgwf : r.st.gUp = true → r.genDim = r.spaceDim ∧ GWf r.spaceDim r.gen ∧ GNorm r.spaceDim (firstPointDiv r.gen) r.gen)
    (hag : r.st.cUp = true → r.st.gUp = true → consSet r.spaceDim r.con = gensSet r.spaceDim r.gen) : GridInv r :=
  have hcm' := Bool.eq_false_iff.mp hcm
  have hgm' := Bool.eq_false_iff.mp hgm
  inv_of_pos r he hpos hhi hsome (fun h => absurd h hcm') (fun h => absurd h hgm') hcwf hgwf hag
    (fun h => absurd h hcm') (fun h => absurd h hcm') (fun h => absurd h hgm') (fun h => absurd h hgm')

/-- a state with the status, dimension and `dim_kinds` of `y` and the up-to-date systems of `y` -/
theorem inv_transfer (r y : Grid) (hy : GridInv y) (hne : y.st.empty = false) (hpos : 0 < y.spaceDim)
    (hd : r.spaceDim = y.spaceDim) (hst : r.st = y.st) (hdk : r.dk = y.dk)
    (hc : y.st.cUp = true → r.con = y.con ∧ r.conDim = y.conDim)
    (hg : y.st.gUp = true → r.gen = y.gen ∧ r.genDim = y.genDim) :
    GridInv r ∧ r.sem = y.sem ∧ r.spaceDim = y.spaceDim := by
  have he' : r.st.empty = false := by rw [hst]; exact hne
  have hpos' : 0 < r.spaceDim := by omega
  refine ⟨?_, ?_, hd⟩
  · refine inv_of_pos r he' hpos' ?_ ?_ ?_ ?_ (fun h => ?_) (fun h => ?_) (fun h1 h2 => ?_)
      (fun h => ?_) (fun h1 h2 => ?_) (fun h => ?_) (fun h1 h2 => ?_)
    all_goals rw [hst] at *
    · exact hy.hi0 hne
    · exact hy.some hne hpos
    · exact hy.cminUp
    · exact hy.gminUp
    · rw [(hc h).1, (hc h).2, hd]; exact hy.cwf hne hpos h
    · rw [(hg h).1, (hg h).2, hd]; exact hy.gwf hne hpos h
    · rw [(hc h1).1, (hg h2).1, hd]; exact hy.agree hne hpos h1 h2
    · rw [(hc (hy.cminUp h)).1, hdk, hd]; exact hy.cmin hne hpos h
    · rw [(hc (hy.cminUp h1)).1, hdk, hd]; exact hy.cminConv hne hpos h1 h2
    · rw [(hg (hy.gminUp h)).1, hdk, hd]; exact hy.gmin hne hpos h
    · rw [(hg (hy.gminUp h1)).1, hdk, hd]; exact hy.gminConv hne hpos h1 h2
  · cases hgu : y.st.gUp
    · rw [sem_of_not_gUp he' hpos' (by rw [hst]; exact hgu), sem_of_not_gUp hne hpos hgu,
        (hc (cUp_of_not_gUp hy hne hpos hgu)).1, hd]
    · rw [sem_of_gUp he' hpos' (by rw [hst]; exact hgu), sem_of_gUp hne hpos hgu, (hg hgu).1, hd]

/-! ### the inconsistent system, `set_empty`, `set_zero_dim_univ` -/

theorem single_zeroDimFalse : CSys.single zeroDimFalse = { dim := 0, rows := [{ e := [1], m := 0 }] } := by
  decide

theorem falseCSys_dim (n : Nat) : (falseCSys n).dim = n := CSys_setSpaceDim_dim _ n

theorem resizeRow_one (n : Nat) : resizeRow [1] (n + 1) = 1 :: List.replicate n 0 := by
  unfold resizeRow
  apply List.ext_getElem
  · simp
  · intro i h1 h2
    simp only [List.getElem_map, List.getElem_range]
    cases i with
    | zero => rfl
    | succ i =>
      simp only [List.getElem_cons_succ, List.getElem_replicate]
      unfold Red.get; simp

theorem falseCSys_rows (n : Nat) : (falseCSys n).rows = [{ e := 1 :: List.replicate n 0, m := 0 }] := by
  unfold falseCSys
  rw [single_zeroDimFalse]
  unfold CSys.setSpaceDim
  split
  · simp [CRow.setSpaceDim, resizeRow_one]
  · rename_i h
    have : n = 0 := (not_not.mp h).symm
    subst this; rfl

/-- `1 = 0` has no solution -/
theorem lz_falseCSys_sem (n : Nat) : consSet n (falseCSys n).rows = ∅ := by
  ext x
  simp only [consSet, Set.mem_ofPred_eq, Set.mem_empty_iff_false, iff_false]
  rw [cgsSem_iff, falseCSys_rows]
  rintro ⟨_, hs⟩
  obtain ⟨t, ht⟩ := hs 0 (by simp)
  have hc : evalRow (1 :: List.replicate n 0) x = ((get (1 :: List.replicate n 0) 0 : Int) : ℚ) := by
    refine evalRow_const _ x (fun i hi => ?_)
    cases i with
    | zero => omega
    | succ i => rw [get_cons_succ, get_replicate_zero]
  change evalRow (1 :: List.replicate n 0) x = (t : ℚ) * ((0 : Int) : ℚ) at ht
  rw [hc] at ht
  simp [get_cons_zero] at ht

theorem setEmpty_inv (g : Grid) : GridInv (setEmpty g) where
  emp := fun _ => ⟨rfl, rfl, rfl, falseCSys_dim _, rfl⟩
  zdim := fun h => by simp [setEmpty, Status.setEmpty] at h
  hi0 := fun h => by simp [setEmpty, Status.setEmpty] at h
  some := fun h => by simp [setEmpty, Status.setEmpty] at h
  cminUp := fun h => by simp [setEmpty, Status.setEmpty] at h
  gminUp := fun h => by simp [setEmpty, Status.setEmpty] at h
  cwf := fun h => by simp [setEmpty, Status.setEmpty] at h
  gwf := fun h => by simp [setEmpty, Status.setEmpty] at h
  agree := fun h => by simp [setEmpty, Status.setEmpty] at h
  cmin := fun h => by simp [setEmpty, Status.setEmpty] at h
  cminConv := fun h => by simp [setEmpty, Status.setEmpty] at h
  gmin := fun h => by simp [setEmpty, Status.setEmpty] at h
  gminConv := fun h => by simp [setEmpty, Status.setEmpty] at h

theorem setEmpty_sem (g : Grid) : (setEmpty g).sem = ∅ := sem_of_empty rfl

theorem setEmpty_spec (g : Grid) : GridInv (setEmpty g) ∧ (setEmpty g).sem = ∅ ∧ (setEmpty g).spaceDim = g.spaceDim :=
  ⟨setEmpty_inv g, setEmpty_sem g, rfl⟩
theorem lz_setEmpty_spaceDim (g : Grid) : (setEmpty g).spaceDim = g.spaceDim := rfl
theorem lz_setEmpty_empty (g : Grid) : (setEmpty g).st.empty = true := rfl

theorem setZeroDimUniv_inv (g : Grid) : GridInv (setZeroDimUniv g) where
  emp := fun h => by simp [setZeroDimUniv, Status.zeroDimUniv] at h
  zdim := fun _ _ => ⟨rfl, rfl, rfl, rfl, rfl⟩
  hi0 := fun _ => rfl
  some := fun _ h => by simp [setZeroDimUniv] at h
  cminUp := fun h => by simp [setZeroDimUniv, Status.zeroDimUniv] at h
  gminUp := fun h => by simp [setZeroDimUniv, Status.zeroDimUniv] at h
  cwf := fun _ h => by simp [setZeroDimUniv] at h
  gwf := fun _ h => by simp [setZeroDimUniv] at h
  agree := fun _ h => by simp [setZeroDimUniv] at h
  cmin := fun _ h => by simp [setZeroDimUniv] at h
  cminConv := fun _ h => by simp [setZeroDimUniv] at h
  gmin := fun _ h => by simp [setZeroDimUniv] at h
  gminConv := fun _ h => by simp [setZeroDimUniv] at h

theorem setZeroDimUniv_sem (g : Grid) : (setZeroDimUniv g).sem = spaceSet 0 := sem_of_zdim rfl rfl

theorem setZeroDimUniv_spec (g : Grid) :
    GridInv (setZeroDimUniv g) ∧ (setZeroDimUniv g).sem = spaceSet 0 ∧ (setZeroDimUniv g).spaceDim = 0 :=
  ⟨setZeroDimUniv_inv g, setZeroDimUniv_sem g, rfl⟩
theorem lz_setZeroDimUniv_spaceDim (g : Grid) : (setZeroDimUniv g).spaceDim = 0 := rfl

/-- an invariant state that is marked empty is `setEmpty` of itself -/
theorem lz_eq_setEmpty_of_empty {g : Grid} (hI : GridInv g) (he : g.st.empty = true) : setEmpty g = g := by
  obtain ⟨h1, h2, h3, h4, h5⟩ := hI.emp he
  cases g
  simp only [setEmpty] at *
  subst h1 h2 h3 h5
  simp [falseCSys_dim, h4]

example : GridInv (setEmpty (blank 2)) ∧ (setEmpty (blank 2)).con = [{ e := [1, 0, 0], m := 0 }] :=
  ⟨setEmpty_inv _, by decide⟩

end PPLV.Lattice.GO

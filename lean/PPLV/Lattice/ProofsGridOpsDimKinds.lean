import PPLV.Lattice.ProofsGridOpsUpdate
import PPLV.Lattice.ProofsConvCGBase
import PPLV.Lattice.ProofsConvGCTri
import PPLV.Lattice.ProofsGridOpsConstruct
import Mathlib.Algebra.BigOperators.Fin
import Mathlib.Tactic.FieldSimp
import Mathlib.Algebra.BigOperators.Intervals

/-!
# The `Grid` object: the shared `dim_kinds`

`simplify` of one description while the other one stays, and the duality behind it: the two triangular forms of one grid have
dual `dim_kinds` (`dkCompatG`, `dkCompatC`) — a line of the generators sits where the congruences have no row, a parameter where
they have a proper congruence, no generator where they have an equality.
-/
namespace PPLV.Lattice.GO
open PPLV.Lattice PPLV.Lattice.Red

/-! ## `simplify` of one description while the other one stays

`dim_kinds` is SHARED by the two descriptions.  When one of them is flagged minimized and `simplify` runs on the other
one, `dim_kinds` is overwritten with the kinds computed from the other description, and the class keeps relying on it
for the first one.  This is sound because the kinds of the two (dual) triangular forms of one grid coincide; that
duality fact is isolated in `DkCompatG` / `DkCompatC` below.
-/

/-- **duality of the triangular forms, generator side computed**: a congruence system in lower triangular form for
    some `dim_kinds` is also in lower triangular form for the `dim_kinds` that `simplify` computes from generators of
    the same grid (mathematical content: `d` is a `CON_VIRTUAL` dimension of the triangular congruence system iff the
    line space of the grid has a vector whose first non-zero coordinate is `d` iff `d` is a `LINE` dimension of the
    triangular generator system). -/
def DkCompatG : Prop :=
  ∀ (n : Nat) (con : List CRow) (dkc : List Nat) (gen : List GRow) (dk0 : List Nat) (D : Int),
    0 < n → CWf n con → dkc.length = n + 1 → lowerTriangular n con dkc = true → kind dkc 0 = PROPER_CONGRUENCE →
    GWf n gen → GNorm n D gen → consSet n con = gensSet n gen →
    lowerTriangular n con (simplifyGens n gen dk0).2 = true

/-- **duality of the triangular forms, congruence side computed**: a generator system in upper triangular form for
    some `dim_kinds` is also in upper triangular form for the `dim_kinds` that `simplify` computes from congruences of
    the same grid (`d` is a `GEN_VIRTUAL` dimension iff no vector of the homogeneous lattice has its first non-zero
    coordinate at `d` iff `d` is an `EQUALITY` dimension of the triangular congruence system). -/
def DkCompatC : Prop :=
  ∀ (n : Nat) (con : List CRow) (dk0 : List Nat) (gen : List GRow) (dkg : List Nat) (D : Int),
    0 < n → CWf n con → (simplifyCgs n con dk0).2.2 = false →
    GWf n gen → GNorm n D gen → dkg.length = n + 1 → upperTriangular n gen dkg = true → kind dkg 0 = PARAMETER →
    consSet n con = gensSet n gen →
    upperTriangular n gen (simplifyCgs n con dk0).2.1 = true

/-- `simplify(con_sys, dim_kinds)` answered "consistent", then `set_congruences_minimized()`; when the generators
    are flagged minimized they have to be triangular for the new `dim_kinds` -/
theorem lz_simplifyCon_post (g : Grid) (hI : GridInv g) (he : g.st.empty = false) (hpos : 0 < g.spaceDim)
    (hc : g.st.cUp = true) (hf : (simplifyCgs g.spaceDim g.con g.dk).2.2 = false)
    (hut : g.st.gMin = true → upperTriangular g.spaceDim g.gen (simplifyCgs g.spaceDim g.con g.dk).2.1 = true) :
    let r := ({ g with con := (simplifyCgs g.spaceDim g.con g.dk).1,
                       dk := (simplifyCgs g.spaceDim g.con g.dk).2.1 } : Grid).setCongruencesMinimized
    GridInv r ∧ r.sem = g.sem ∧ (g.sem).Nonempty := by
  intro r
  obtain ⟨hcd, hcwf⟩ := hI.cwf he hpos hc
  have hfin := simplifyCgs_triangular g.spaceDim g.con g.dk hcwf hf
  obtain ⟨hkm, hk0, hdk, hlt⟩ := final_cgKindsOK _ _ _ hfin
  have hpres := (simplifyCgs_preserves g.spaceDim g.con g.dk hcwf).1 hf
  have hcs : consSet g.spaceDim (simplifyCgs g.spaceDim g.con g.dk).1 = consSet g.spaceDim g.con := by
    ext x; exact hpres x
  have hne : (consSet g.spaceDim g.con).Nonempty := by
    rw [← hcs]
    obtain ⟨_, hn, _, hag⟩ := lz_conversionCgs_facts g.spaceDim _ _ (cgc_final_cwf hfin) hlt hdk hk0 hkm
    rw [hag]; exact gensSet_nonempty hn
  have hIr : GridInv r := by
    refine inv_of_pos r he hpos (hI.hi0 he) (Or.inl rfl) (fun _ => rfl) (fun h => hI.gminUp h)
      (fun _ => ⟨hcd, cgc_final_cwf hfin⟩) (fun h => hI.gwf he hpos h) (fun _ h => ?_) (fun _ => ⟨hdk, hlt, hk0⟩)
      (fun _ _ => hkm) (fun h => ⟨hdk, hut h, hk0⟩) (fun _ h => by simp [r, Grid.setCongruencesMinimized] at h)
    show consSet g.spaceDim (simplifyCgs g.spaceDim g.con g.dk).1 = gensSet g.spaceDim g.gen
    rw [hcs]; exact hI.agree he hpos hc h
  refine ⟨hIr, ?_, ?_⟩
  · rw [sem_of_cUp hIr he hpos rfl, sem_of_cUp hI he hpos hc]; exact hcs
  · rw [sem_of_cUp hI he hpos hc]; exact hne

/-- the flag of `simplify(con_sys, dim_kinds)` is exact -/
theorem lz_simplifyCon_flag (g : Grid) (hI : GridInv g) (he : g.st.empty = false) (hpos : 0 < g.spaceDim)
    (hc : g.st.cUp = true) : (simplifyCgs g.spaceDim g.con g.dk).2.2 = true ↔ g.sem = ∅ := by
  obtain ⟨_, hcwf⟩ := hI.cwf he hpos hc
  rw [simplifyCgs_flag_iff g.spaceDim g.con g.dk hcwf, sem_of_cUp hI he hpos hc]
  constructor
  · intro h; ext x; simp only [consSet, Set.mem_ofPred_eq, Set.mem_empty_iff_false, iff_false]; exact h x
  · intro h x hx
    have : x ∈ consSet g.spaceDim g.con := hx
    rw [h] at this; exact this

/-- `simplify(gen_sys, dim_kinds)`, then `set_generators_minimized()`; when the congruences are flagged minimized
    they have to be triangular for the new `dim_kinds` -/
theorem lz_simplifyGen_post (g : Grid) (hI : GridInv g) (he : g.st.empty = false) (hpos : 0 < g.spaceDim)
    (hg : g.st.gUp = true)
    (hlt : g.st.cMin = true → lowerTriangular g.spaceDim g.con (simplifyGens g.spaceDim g.gen g.dk).2 = true) :
    let r := (simplifyGenSys g).setGeneratorsMinimized
    GridInv r ∧ r.sem = g.sem ∧ r.spaceDim = g.spaceDim ∧ r.st.empty = false ∧ r.st.gUp = true ∧ r.st.gMin = true ∧
      r.st.cUp = g.st.cUp ∧ r.st.cMin = g.st.cMin := by
  intro r
  obtain ⟨hgd, hgwf, hgn⟩ := hI.gwf he hpos hg
  obtain ⟨hs, ⟨D', hN'⟩, hw', hut, hdk, hk0, hcv⟩ := lz_simplifyGens_facts g.dk hgwf hgn
  have hr : r = ({ g with gen := (simplifyGens g.spaceDim g.gen g.dk).1,
                          dk := (simplifyGens g.spaceDim g.gen g.dk).2 } : Grid).setGeneratorsMinimized := by
    simp only [r, simplifyGenSys, hgd]
  have hIr : GridInv r := by
    rw [hr]
    refine inv_of_pos _ he hpos (hI.hi0 he) (Or.inr rfl) (fun h => hI.cminUp h) (fun _ => rfl)
      (fun h => hI.cwf he hpos h) (fun _ => ⟨hgd, hw', gnorm_firstPointDiv hN'⟩) (fun h _ => ?_)
      (fun h => ⟨hdk, hlt h, hk0⟩) (fun _ h => by simp [Grid.setGeneratorsMinimized] at h)
      (fun _ => ⟨hdk, hut, hk0⟩) (fun _ _ => hcv)
    show consSet g.spaceDim g.con = gensSet g.spaceDim (simplifyGens g.spaceDim g.gen g.dk).1
    rw [hs]; exact hI.agree he hpos h hg
  refine ⟨hIr, ?_, ?_, ?_, ?_, ?_, ?_, ?_⟩
  · rw [sem_of_gUp (g := r) (by rw [hr]; exact he) (by rw [hr]; exact hpos) (by rw [hr]; rfl), sem_of_gUp he hpos hg, hr]
    exact hs
  all_goals rw [hr]
  · rfl
  · exact he
  · rfl
  · rfl
  · rfl
  · rfl

/-- minimized congruences that are the only description: the grid is not empty -/
theorem lz_nonempty_of_cMin {g : Grid} (hI : GridInv g) (he : g.st.empty = false) (hpos : 0 < g.spaceDim)
    (hcm : g.st.cMin = true) (hg : g.st.gUp = false) : (g.sem).Nonempty := by
  have hc := hI.cminUp hcm
  obtain ⟨_, hcwf⟩ := hI.cwf he hpos hc
  obtain ⟨hdk, hlt, hk0⟩ := hI.cmin he hpos hcm
  obtain ⟨_, hn, _, hag⟩ := lz_conversionCgs_facts g.spaceDim _ _ hcwf hlt hdk hk0 (hI.cminConv he hpos hcm hg)
  rw [sem_of_not_gUp he hpos hg, hag]
  exact gensSet_nonempty hn

/-! ### the same on the model's own terms `simplifyConSys g` -/

theorem lz_simplifyConSys_eq (g : Grid) (hcd : g.conDim = g.spaceDim) :
    simplifyConSys g = (({ g with con := (simplifyCgs g.spaceDim g.con g.dk).1, dk := (simplifyCgs g.spaceDim g.con g.dk).2.1 } : Grid), (simplifyCgs g.spaceDim g.con g.dk).2.2) := by
  simp only [simplifyConSys, hcd]

theorem lz_simplifyConSys_flag (g : Grid) (hI : GridInv g) (he : g.st.empty = false) (hpos : 0 < g.spaceDim)
    (hc : g.st.cUp = true) : (simplifyConSys g).2 = true ↔ g.sem = ∅ := by
  rw [lz_simplifyConSys_eq g (hI.cwf he hpos hc).1]
  exact lz_simplifyCon_flag g hI he hpos hc

theorem lz_simplifyConSys_post (g : Grid) (hI : GridInv g) (he : g.st.empty = false) (hpos : 0 < g.spaceDim)
    (hc : g.st.cUp = true) (hf : (simplifyConSys g).2 = false)
    (hut : g.st.gMin = true → upperTriangular g.spaceDim g.gen (simplifyConSys g).1.dk = true) :
    let r := (simplifyConSys g).1.setCongruencesMinimized
    GridInv r ∧ r.sem = g.sem ∧ (g.sem).Nonempty ∧ r.spaceDim = g.spaceDim ∧ r.st.empty = false ∧
      r.st.cUp = true ∧ r.st.cMin = true ∧ r.st.gUp = g.st.gUp ∧ r.st.gMin = g.st.gMin := by
  intro r
  have hr : r = ({ g with con := (simplifyCgs g.spaceDim g.con g.dk).1, dk := (simplifyCgs g.spaceDim g.con g.dk).2.1 } : Grid).setCongruencesMinimized := by
    simp only [r, lz_simplifyConSys_eq g (hI.cwf he hpos hc).1]
  rw [lz_simplifyConSys_eq g (hI.cwf he hpos hc).1] at hf hut
  obtain ⟨h1, h2, h3⟩ := lz_simplifyCon_post g hI he hpos hc hf hut
  rw [hr]
  exact ⟨h1, h2, h3, rfl, he, rfl, rfl, rfl, rfl⟩

/-! ## Tools for the duality of the two triangular forms

* `lzV`: back substitution along a triangular family of linear forms — a vector whose first non-zero coordinate is a
  given non-pivot dimension `d` and on which every form of the family vanishes;
* `lz_sep`: a congruence that holds on a whole rational line `x₀ + a·w` has `⟨c, w⟩ = 0`;
* `lower_triangular` / `upper_triangular` read `dim_kinds` only through the tests `= CON_VIRTUAL` / `= GEN_VIRTUAL`.
-/

/-! ### back substitution -/

/-- `V k = 0` for `k < d`, `V d = 1`, and for a pivot `k > d` the value that makes `∑_{j ≤ k} r k j · V j = 0` -/
noncomputable def lzV (r : ℕ → ℕ → ℚ) (P : ℕ → Bool) (d : ℕ) : ℕ → ℚ
  | k => if k < d then 0 else if k = d then 1 else
      if P k then -(∑ j : Fin k, r k j.val * lzV r P d j.val) / r k k else 0
termination_by k => k
decreasing_by exact j.isLt

theorem lzV_lt (r : ℕ → ℕ → ℚ) (P : ℕ → Bool) (d k : ℕ) (h : k < d) : lzV r P d k = 0 := by
  rw [lzV, if_pos h]

theorem lzV_self (r : ℕ → ℕ → ℚ) (P : ℕ → Bool) (d : ℕ) : lzV r P d d = 1 := by
  rw [lzV, if_neg (Nat.lt_irrefl d), if_pos rfl]

theorem lzV_sum (r : ℕ → ℕ → ℚ) (P : ℕ → Bool) (d q : ℕ) (hq : d < q) (hP : P q = true) (hr : r q q ≠ 0) :
    ∑ j ∈ Finset.range (q + 1), r q j * lzV r P d j = 0 := by
  rw [Finset.sum_range_succ]
  conv_lhs => rw [lzV]
  rw [if_neg (by omega), if_neg (by omega), if_pos hP, Fin.sum_univ_eq_sum_range (fun j => r q j * lzV r P d j) q]
  field_simp
  ring

theorem lzV_sum_lt (r : ℕ → ℕ → ℚ) (P : ℕ → Bool) (d q : ℕ) (hq : q < d) :
    ∑ j ∈ Finset.range (q + 1), r q j * lzV r P d j = 0 := by
  apply Finset.sum_eq_zero
  intro j hj
  rw [lzV_lt r P d j (by have := Finset.mem_range.mp hj; omega), mul_zero]

/-! ### a congruence on a rational line -/

theorem lz_ext1_line (x0 W : Pt) (hW0 : W 0 = 0) (a : ℚ) :
    ext1 (fun i => x0 i + a * W (i + 1)) = ext1 x0 + a • W := by
  funext i
  cases i with
  | zero => simp [ext1, hW0]
  | succ i => simp [ext1]

theorem lz_evalRow_line (e : Row) (x0 W : Pt) (hW0 : W 0 = 0) (a : ℚ) :
    evalRow e (fun i => x0 i + a * W (i + 1)) = evalRow e x0 + a * alphaOf (ratRow e) W := by
  unfold evalRow
  rw [lz_ext1_line x0 W hW0 a, dotF_add, dotF_smul, alphaOf_apply]

/-- a congruence (or an equality) satisfied at `x₀ + a·w` for EVERY rational `a` does not see the direction `w` -/
theorem lz_sep (c : CRow) (x0 W : Pt) (hW0 : W 0 = 0)
    (h : ∀ a : ℚ, rsem c (fun i => x0 i + a * W (i + 1))) : alphaOf (ratRow c.e) W = 0 := by
  obtain ⟨t0, ht0⟩ := h 0
  rw [lz_evalRow_line c.e x0 W hW0 0, zero_mul, add_zero] at ht0
  refine half_trick _ (c.m : ℚ) fun a => ?_
  obtain ⟨t1, ht1⟩ := h a
  rw [lz_evalRow_line c.e x0 W hW0, ht0] at ht1
  exact ⟨t1 - t0, by push_cast; linarith only [ht1]⟩

/-- the same with integer steps only, for an equality -/
theorem lz_sep_eq (c : CRow) (hm : c.m = 0) (x0 W : Pt) (hW0 : W 0 = 0)
    (h0 : rsem c x0) (h1 : rsem c (fun i => x0 i + 1 * W (i + 1))) : alphaOf (ratRow c.e) W = 0 := by
  obtain ⟨t0, ht0⟩ := h0
  obtain ⟨t1, ht1⟩ := h1
  rw [lz_evalRow_line c.e x0 W hW0, ht0, hm] at ht1
  simpa using ht1

/-! ### the triangularity tests read `dim_kinds` through one comparison -/

theorem lz_lowerTriangular_congr (n : Nat) (con : List CRow) (dk dk' : List Nat)
    (h : ∀ d, d < n + 1 → (kind dk d = CON_VIRTUAL ↔ kind dk' d = CON_VIRTUAL)) :
    lowerTriangular n con dk = lowerTriangular n con dk' := by
  rw [gc_lowerTriangular_eq, gc_lowerTriangular_eq]
  have e : (dimsDown (n + 1)).foldl (gcLtStep n con dk) (0, true) =
      (dimsDown (n + 1)).foldl (gcLtStep n con dk') (0, true) := by
    apply List.foldl_ext
    intro st d hd
    have hd' := mem_dimsDown.mp hd
    unfold gcLtStep
    by_cases hk : kind dk d = CON_VIRTUAL
    · rw [if_pos hk, if_pos ((h d hd').mp hk)]
    · rw [if_neg hk, if_neg (fun hh => hk ((h d hd').mpr hh))]
  rw [e]

theorem lz_upperTriangular_congr (n : Nat) (gen : List GRow) (dk dk' : List Nat)
    (h : ∀ d, d < n + 1 → (kind dk d = GEN_VIRTUAL ↔ kind dk' d = GEN_VIRTUAL)) :
    upperTriangular n gen dk = upperTriangular n gen dk' := by
  rw [gc_upperTriangular_eq, gc_upperTriangular_eq]
  have e : (dimsDown (n + 1)).foldl (utStep gen dk) (gen.length, true) =
      (dimsDown (n + 1)).foldl (utStep gen dk') (gen.length, true) := by
    apply List.foldl_ext
    intro st d hd
    have hd' := mem_dimsDown.mp hd
    unfold utStep
    by_cases hk : kind dk d = GEN_VIRTUAL
    · rw [if_pos hk, if_pos ((h d hd').mp hk)]
    · rw [if_neg hk, if_neg (fun hh => hk ((h d hd').mpr hh))]
  rw [e]

/-! ## `DkCompatG`

A congruence system in lower triangular form and a generator system in upper triangular form (with the agreement of
kinds and line flags that `simplify` establishes) of ONE grid have the same `LINE = CON_VIRTUAL` dimensions: `d` is one
iff the line space of the grid has a vector whose first non-zero coordinate is `d`.
-/

theorem lz_homog_line (D : ℚ) (x0 W : Pt) (hW0 : W 0 = 0) (a : ℚ) :
    homog D (fun i => x0 i + a * W (i + 1)) = homog D x0 + (a * D) • W := by
  funext i
  cases i with
  | zero => simp [homog, hW0]
  | succ i => simp [homog]; ring

/-- the pivot value of a linear form that vanishes after column `d` on a vector that vanishes before column `d` -/
theorem lz_alpha_pivot (c : Row) (W : Pt) (d n : Nat) (hl : c.length = n + 1) (hd : d < n + 1)
    (hc : ∀ k, d < k → k < n + 1 → get c k = 0) (hW : ∀ k, k < d → W k = 0) :
    alphaOf (ratRow c) W = (get c d : ℚ) * W d := by
  refine alphaOf_single c W d (by omega) (fun k hk => ?_) hW
  by_cases h : k < n + 1
  · exact hc k hk h
  · exact get_of_length_le c k (by omega)

/-- `⟨c, W⟩` as a sum over the pivot prefix when `c` vanishes after column `q` -/
theorem lz_alpha_prefix (c : Row) (W : Pt) (q n : Nat) (hl : c.length = n + 1) (hq : q < n + 1)
    (hc : ∀ k, q < k → k < n + 1 → get c k = 0) :
    alphaOf (ratRow c) W = ∑ k ∈ Finset.range (q + 1), (get c k : ℚ) * W k := by
  rw [alphaOf_apply, dotF_ratRow, hl]
  symm
  apply Finset.sum_subset
  · intro k hk
    have := Finset.mem_range.mp hk
    exact Finset.mem_range.mpr (by omega)
  · intro k hk hnk
    have h1 := Finset.mem_range.mp hk
    have h2 : ¬ k < q + 1 := fun h => hnk (Finset.mem_range.mpr h)
    rw [hc k (by omega) h1]; simp

/-- the heart: the `CON_VIRTUAL` dimensions of the congruences are the `LINE` dimensions of the generators -/
theorem lz_line_kinds (n : Nat) (con : List CRow) (dkc : List Nat) (gen : List GRow) (dkg : List Nat) (D : Int)
    (hcwf : CWf n con) (hlt : lowerTriangular n con dkc = true) (hk0c : kind dkc 0 = PROPER_CONGRUENCE)
    (hgwf : GWf n gen) (hN : GNorm n D gen) (hut : upperTriangular n gen dkg = true) (hdkg : dkg.length = n + 1)
    (hk0g : kind dkg 0 = PARAMETER) (hcv : ConvG n gen dkg) (hag : consSet n con = gensSet n gen) :
    ∀ d, d < n + 1 → (kind dkc d = CON_VIRTUAL ↔ kind dkg d = LINE) := by
  intro d hd
  obtain ⟨hk, hla, hpa⟩ := hcv
  have hc := lowerTriangular_spec n con dkc hlt
  have hs := upperTriangular_spec n gen dkg hut
  have hD : (D : ℚ) ≠ 0 := by exact_mod_cast (ne_of_gt hN.pos)
  -- a point of the grid
  obtain ⟨x0, hx0⟩ := gensSet_nonempty hN
  have hx0c : x0 ∈ consSet n con := by rw [hag]; exact hx0
  rw [gensSet_eq hN] at hx0
  have hx0h : Hom n gen (homog (D : ℚ) x0) := hx0
  obtain ⟨hsupp0, hsol0⟩ := (cgsSem_iff n con x0).mp hx0c
  -- membership of the points of a line through `x0`
  have hmem : ∀ (W : Pt), W 0 = 0 → (∀ a : ℚ, Hom n gen (a • W)) → ∀ a : ℚ,
      (fun i => x0 i + a * W (i + 1)) ∈ consSet n con := by
    intro W hW0 hW a
    rw [hag, gensSet_eq hN]
    show Hom n gen _
    rw [lz_homog_line (D : ℚ) x0 W hW0 a]
    exact hom_add hx0h (hW _)
  by_cases hd0 : d = 0
  · subst hd0
    rw [hk0c, hk0g]
    constructor <;> intro h <;> exact absurd h (by decide)
  constructor
  · -- a non-pivot dimension of the congruences: back substitution gives a line direction
    intro hcv
    by_contra hnl
    have hnlg : nlB dkg d = true := (nlB_iff dkg d).mpr hnl
    have hnlc : nlB dkc d = false := by
      cases h : nlB dkc d
      · rfl
      · exact absurd hcv ((nlB_iff dkc d).mp h)
    -- the congruences computed from the generators
    have hlt' := conversionGensToCgs_triangular n gen dkg hut hdkg hk0g hk
    have hc' := lowerTriangular_spec n _ dkg hlt'
    have hcwf' := lz_conversionGens_cwf n gen dkg hut hdkg hk0g hk
    have hag' : consSet n (conversionGensToCgs n gen dkg) = consSet n con := by
      rw [hag, gensSet_eq hN]
      ext x
      simp only [consSet, Set.mem_ofPred_eq]
      rw [conversionGensToCgs_exact _ _ _ hgwf hut hdkg hk0g hk hla hpa x, lz_row0_div hN hut hdkg hk0g hk hla]
    -- the direction
    let r : ℕ → ℕ → ℚ := fun q k => ((get (rowAt con (pos dkc (n + 1) q)).e k : Int) : ℚ)
    let P : ℕ → Bool := fun q => nlB dkc q && decide (q < n + 1)
    let W : Pt := fun k => if k ≤ n then lzV r P d k else 0
    have hW0 : W 0 = 0 := by
      show (if 0 ≤ n then lzV r P d 0 else 0) = 0
      rw [if_pos (Nat.zero_le n), lzV_lt r P d 0 (by omega)]
    have hWlt : ∀ k, k < d → W k = 0 := by
      intro k hk'
      show (if k ≤ n then lzV r P d k else 0) = 0
      split
      · exact lzV_lt r P d k hk'
      · rfl
    have hWd : W d = 1 := by
      show (if d ≤ n then lzV r P d d else 0) = 1
      rw [if_pos (by omega), lzV_self]
    -- every congruence vanishes on it
    have hzero : ∀ i, i < con.length → alphaOf (ratRow (rowAt con i).e) W = 0 := by
      intro i hi
      rw [hc.len] at hi
      obtain ⟨q, hq, hql, rfl⟩ := pos_surj dkc (n + 1) i hi
      have hlen : (rowAt con (pos dkc (n + 1) q)).e.length = n + 1 :=
        (hcwf _ (rowAt_mem con _ (by rw [hc.len]; exact hi))).1
      rw [lz_alpha_prefix _ W q n hlen hq (fun k h1 h2 => hc.zeros q hq hql k h1 h2)]
      have e : ∑ k ∈ Finset.range (q + 1), ((get (rowAt con (pos dkc (n + 1) q)).e k : Int) : ℚ) * W k =
          ∑ k ∈ Finset.range (q + 1), r q k * lzV r P d k := by
        apply Finset.sum_congr rfl
        intro k hk'
        have : k ≤ n := by have := Finset.mem_range.mp hk'; omega
        show _ * (if k ≤ n then lzV r P d k else 0) = _
        rw [if_pos this]
      rw [e]
      rcases Nat.lt_trichotomy q d with h | h | h
      · exact lzV_sum_lt r P d q h
      · subst h; rw [hnlc] at hql; exact absurd hql (by decide)
      · refine lzV_sum r P d q h (by simp only [P, hql, Bool.true_and, decide_eq_true_eq]; exact hq) ?_
        have := hc.diag q hq hql
        simp only [cEnt] at this
        show ((get (rowAt con (pos dkc (n + 1) q)).e q : Int) : ℚ) ≠ 0
        exact_mod_cast (ne_of_gt this)
    -- so the whole line through `x0` is in the grid
    have hline : ∀ a : ℚ, (fun i => x0 i + a * W (i + 1)) ∈ consSet n con := by
      intro a
      show cgsSem n con _
      rw [cgsSem_iff]
      refine ⟨fun i hi => ?_, fun i hi => ?_⟩
      · have : ¬ i + 1 ≤ n := by omega
        show x0 i + a * (if i + 1 ≤ n then lzV r P d (i + 1) else 0) = 0
        rw [hsupp0 i hi, if_neg this]; ring
      · obtain ⟨t, ht⟩ := hsol0 i hi
        refine ⟨t, ?_⟩
        rw [lz_evalRow_line _ x0 W hW0 a, hzero i hi, ht]; ring
    -- but the pivot row of dimension `d` of the computed congruences sees it
    have hposlt : pos dkg (n + 1) d < (conversionGensToCgs n gen dkg).length := by
      rw [hc'.len]; exact pos_lt dkg (n + 1) d hd hnlg
    have hlen' := (hcwf' _ (rowAt_mem _ _ hposlt)).1
    have hsep := lz_sep (rowAt (conversionGensToCgs n gen dkg) (pos dkg (n + 1) d)) x0 W hW0 (fun a => by
      have := hline a
      rw [← hag'] at this
      exact ((cgsSem_iff n _ _).mp this).2 _ hposlt)
    rw [lz_alpha_pivot _ W d n hlen' hd (fun k h1 h2 => hc'.zeros d hd hnlg k h1 h2) hWlt, hWd, mul_one] at hsep
    have hdiag := hc'.diag d hd hnlg
    simp only [cEnt] at hdiag
    have : (get (rowAt (conversionGensToCgs n gen dkg) (pos dkg (n + 1) d)).e d : Int) = 0 := by exact_mod_cast hsep
    omega
  · -- a line of the generators is not seen by any congruence
    intro hline
    by_contra hncv
    have hnlc : nlB dkc d = true := (nlB_iff dkc d).mpr hncv
    have hnvg : nvB dkg d = true := by rw [nvB_iff, hline]; decide
    have hilt : nv dkg d < gen.length := by rw [hs.len]; exact cntBelow_lt (nvB dkg) hd hnvg
    have hℓmem := rowAt_mem gen _ hilt
    have hdiagg := hs.diag d hd hnvg
    have hzerog := hs.zeros d hd hnvg
    simp only [sEnt] at hdiagg hzerog
    have hℓline : (rowAt gen (nv dkg d)).line = true := by
      cases hl : (rowAt gen (nv dkg d)).line
      · have := hpa _ hℓmem hl d hd hzerog (by omega)
        rw [hline] at this; exact absurd this (by decide)
      · rfl
    let W : Pt := hv n (rowAt gen (nv dkg d))
    have hW0 : W 0 = 0 := by
      show hv n _ 0 = 0
      rw [hv_apply, if_pos (Nat.zero_le n), hzerog 0 (by omega)]; simp
    have hWlt : ∀ k, k < d → W k = 0 := by
      intro k hk'
      show hv n _ k = 0
      rw [hv_apply]
      split
      · rw [hzerog k hk']; simp
      · rfl
    have hWd : W d = ((get (rowAt gen (nv dkg d)).e d : Int) : ℚ) := by
      show hv n _ d = _
      rw [hv_apply, if_pos (by omega)]
    have hposlt : pos dkc (n + 1) d < con.length := by rw [hc.len]; exact pos_lt dkc (n + 1) d hd hnlc
    have hlen := (hcwf _ (rowAt_mem _ _ hposlt)).1
    have hsep := lz_sep (rowAt con (pos dkc (n + 1) d)) x0 W hW0 (fun a => by
      have := hmem W hW0 (fun b => hom_of_mem_line hℓmem hℓline b) a
      exact ((cgsSem_iff n _ _).mp this).2 _ hposlt)
    rw [lz_alpha_pivot _ W d n hlen hd (fun k h1 h2 => hc.zeros d hd hnlc k h1 h2) hWlt, hWd] at hsep
    have hdiag := hc.diag d hd hnlc
    simp only [cEnt] at hdiag
    have h1 : (get (rowAt con (pos dkc (n + 1) d)).e d : Int) * get (rowAt gen (nv dkg d)).e d = 0 := by
      exact_mod_cast hsep
    rcases Int.mul_eq_zero.mp h1 with h | h <;> omega

/-- **`DkCompatG`** -/
theorem dkCompatG : DkCompatG := by
  intro n con dkc gen dk0 D hn hcwf _ hlt hk0 hgwf hN hag
  obtain ⟨hs, ⟨D', hN'⟩, hw', hut, hdk, hk0g, hcv⟩ := lz_simplifyGens_facts dk0 hgwf hN
  have key := lz_line_kinds n con dkc _ _ D' hcwf hlt hk0 hw' hN' hut hdk hk0g hcv (by rw [hs]; exact hag)
  rw [← lz_lowerTriangular_congr n con dkc _ (fun d hd => key d hd)]
  exact hlt

/-! ## `DkCompatC`

A generator system in upper triangular form and the minimized congruence system of ONE grid have the same
`GEN_VIRTUAL = EQUALITY` dimensions: `d` is one iff no vector of the homogeneous lattice has its first non-zero
coordinate at `d`.
-/

theorem lz_dotF_sum (a : Vec) (v : Pt) : dotF a v = ∑ k ∈ Finset.range a.length, a.getD k 0 * v k := by
  induction a generalizing v with
  | nil => simp
  | cons c a ih =>
    rw [dotF_cons, ih, List.length_cons, Finset.sum_range_succ']
    simp only [List.getD_cons_succ, List.getD_cons_zero]
    rw [add_comm]; rfl

/-- the linear form with coefficients `C 0, …, C n` -/
noncomputable def lzForm (n : Nat) (C : ℕ → ℚ) : Pt →ₗ[ℚ] ℚ := alphaOf ((List.range (n + 1)).map C)

theorem lzForm_apply (n : Nat) (C : ℕ → ℚ) (v : Pt) : lzForm n C v = ∑ k ∈ Finset.range (n + 1), C k * v k := by
  unfold lzForm
  rw [alphaOf_apply, lz_dotF_sum]
  simp only [List.length_map, List.length_range]
  apply Finset.sum_congr rfl
  intro k hk
  have := Finset.mem_range.mp hk
  simp [List.getD_eq_getElem?_getD, this]

/-- a linear form that vanishes on the vector of every row vanishes on the homogeneous lattice -/
theorem lz_form_hom {n : Nat} {rows : List GRow} (α : Pt →ₗ[ℚ] ℚ) (h : ∀ r ∈ rows, α (hv n r) = 0) {v : Pt}
    (hv' : Hom n rows v) : α v = 0 := by
  unfold Hom GDir at hv'
  refine Abs.alpha_dir_zero α _ _ (fun l hl => ?_) (fun q hq => ?_) hv'
  · obtain ⟨u, hu, rfl⟩ := List.mem_map.mp hl
    obtain ⟨r, hr, rfl⟩ := List.mem_map.mp hu
    exact h r (List.mem_filter.mp hr).1
  · obtain ⟨u, hu, rfl⟩ := List.mem_map.mp hq
    obtain ⟨r, hr, rfl⟩ := List.mem_map.mp hu
    exact h r (List.mem_filter.mp hr).1

/-- back substitution along the upper triangular generator rows: a linear form with `C d = 1`, `C k = 0` for
    `k > d`, that vanishes on every row, when `d` is a `GEN_VIRTUAL` dimension -/
theorem lz_dual_form (n : Nat) (gen : List GRow) (dkg : List Nat) (hut : upperTriangular n gen dkg = true)
    (d : Nat) (hd : d < n + 1) (hvirt : nvB dkg d = false) :
    ∃ C : ℕ → ℚ, C d = 1 ∧ (∀ k, d < k → C k = 0) ∧ ∀ g ∈ gen, lzForm n C (hv n g) = 0 := by
  have hs := upperTriangular_spec n gen dkg hut
  let r : ℕ → ℕ → ℚ := fun q' k' => if k' ≤ d then ((get (rowAt gen (nv dkg (d - q'))).e (d - k') : Int) : ℚ) else 0
  let P : ℕ → Bool := fun q' => nvB dkg (d - q') && decide (q' ≤ d)
  let C : ℕ → ℚ := fun k => if k ≤ d then lzV r P 0 (d - k) else 0
  have hCd : C d = 1 := by
    show (if d ≤ d then lzV r P 0 (d - d) else 0) = 1
    rw [if_pos (le_refl d), Nat.sub_self, lzV_self]
  have hCgt : ∀ k, d < k → C k = 0 := by
    intro k hk
    show (if k ≤ d then lzV r P 0 (d - k) else 0) = 0
    rw [if_neg (by omega)]
  refine ⟨C, hCd, hCgt, fun g hg => ?_⟩
  obtain ⟨i, hi, rfl⟩ := (gc_mem_iff_rowAt _ _).mp hg
  rw [hs.len] at hi
  obtain ⟨q, hq, hqv, rfl⟩ := cntBelow_surj (nvB dkg) (n + 1) i hi
  have hdiag := hs.diag q hq hqv
  have hzeros := hs.zeros q hq hqv
  simp only [sEnt] at hdiag hzeros
  change lzForm n C (hv n (rowAt gen (nv dkg q))) = 0
  rw [lzForm_apply]
  -- only the columns `q ≤ k ≤ d` contribute
  have hterm : ∀ k, k < n + 1 → (k < q ∨ d < k) → C k * hv n (rowAt gen (nv dkg q)) k = 0 := by
    intro k hk h
    rcases h with h | h
    · rw [hv_apply, if_pos (by omega), hzeros k h]; simp
    · rw [hCgt k h]; simp
  rcases Nat.lt_trichotomy q d with hqd | hqd | hqd
  · -- reflect the index: `k = d - j`
    have e1 : ∑ k ∈ Finset.range (n + 1), C k * hv n (rowAt gen (nv dkg q)) k =
        ∑ k ∈ Finset.range (d + 1), C k * hv n (rowAt gen (nv dkg q)) k := by
      symm
      apply Finset.sum_subset
      · intro k hk
        have := Finset.mem_range.mp hk
        exact Finset.mem_range.mpr (by omega)
      · intro k hk hnk
        have h1 := Finset.mem_range.mp hk
        have h2 : ¬ k < d + 1 := fun h => hnk (Finset.mem_range.mpr h)
        exact hterm k h1 (Or.inr (by omega))
    rw [e1, ← Finset.sum_range_reflect]
    have e2a : ∑ j ∈ Finset.range (d + 1), C (d + 1 - 1 - j) * hv n (rowAt gen (nv dkg q)) (d + 1 - 1 - j) =
        ∑ j ∈ Finset.range (d - q + 1), C (d + 1 - 1 - j) * hv n (rowAt gen (nv dkg q)) (d + 1 - 1 - j) := by
      symm
      apply Finset.sum_subset
      · intro k hk
        have := Finset.mem_range.mp hk
        exact Finset.mem_range.mpr (by omega)
      · intro j hj hnj
        have h1 := Finset.mem_range.mp hj
        have h2 : ¬ j < d - q + 1 := fun h => hnj (Finset.mem_range.mpr h)
        have : d + 1 - 1 - j < q := by omega
        exact hterm _ (by omega) (Or.inl this)
    have e2b : ∑ j ∈ Finset.range (d - q + 1), C (d + 1 - 1 - j) * hv n (rowAt gen (nv dkg q)) (d + 1 - 1 - j) =
        ∑ j ∈ Finset.range (d - q + 1), r (d - q) j * lzV r P 0 j := by
      apply Finset.sum_congr rfl
      intro j hj
      have h1 := Finset.mem_range.mp hj
      have hjd : j ≤ d := by omega
      have e3 : d + 1 - 1 - j = d - j := by omega
      have e4 : d - (d - q) = q := by omega
      have e5 : d - (d - j) = j := by omega
      show (if d + 1 - 1 - j ≤ d then lzV r P 0 (d - (d + 1 - 1 - j)) else 0) * _ =
        (if j ≤ d then ((get (rowAt gen (nv dkg (d - (d - q)))).e (d - j) : Int) : ℚ) else 0) * _
      rw [e3, if_pos (by omega), e5, hv_apply, if_pos (by omega), if_pos hjd, e4]; ring
    rw [e2a, e2b]
    refine lzV_sum r P 0 (d - q) (by omega) ?_ ?_
    · have e4 : d - (d - q) = q := by omega
      show (nvB dkg (d - (d - q)) && decide (d - q ≤ d)) = true
      rw [e4, hqv]; simp
    · have e4 : d - (d - q) = q := by omega
      show (if d - q ≤ d then ((get (rowAt gen (nv dkg (d - (d - q)))).e (d - (d - q)) : Int) : ℚ) else 0) ≠ 0
      rw [if_pos (by omega), e4]
      exact_mod_cast (ne_of_gt hdiag)
  · subst hqd; rw [hvirt] at hqv; exact absurd hqv (by decide)
  · apply Finset.sum_eq_zero
    intro k hk
    have h1 := Finset.mem_range.mp hk
    by_cases h : k < q
    · exact hterm k h1 (Or.inl h)
    · exact hterm k h1 (Or.inr (by omega))

/-- the heart: the `GEN_VIRTUAL` dimensions of the generators are the `EQUALITY` dimensions of the congruences -/
theorem lz_virtual_kinds (n : Nat) (con : List CRow) (dkc : List Nat) (gen : List GRow) (dkg : List Nat) (D : Int)
    (hcwf : CWf n con) (hlt : lowerTriangular n con dkc = true) (hdkc : dkc.length = n + 1)
    (hk0c : kind dkc 0 = PROPER_CONGRUENCE) (hkm : CgKindsOK n con dkc)
    (hN : GNorm n D gen) (hut : upperTriangular n gen dkg = true)
    (hk0g : kind dkg 0 = PARAMETER) (hag : consSet n con = gensSet n gen) :
    ∀ d, d < n + 1 → (kind dkg d = GEN_VIRTUAL ↔ kind dkc d = GEN_VIRTUAL) := by
  intro d hd
  have hc := lowerTriangular_spec n con dkc hlt
  have hs := upperTriangular_spec n gen dkg hut
  obtain ⟨x0, hx0⟩ := gensSet_nonempty hN
  have hx0c : x0 ∈ consSet n con := by rw [hag]; exact hx0
  rw [gensSet_eq hN] at hx0
  have hx0h : Hom n gen (homog (D : ℚ) x0) := hx0
  by_cases hd0 : d = 0
  · subst hd0
    rw [hk0c, hk0g]
    constructor <;> intro h <;> exact absurd h (by decide)
  constructor
  · -- no generator pivot at `d`: a linear form separates
    intro hvirt
    by_contra hne
    have hvg : nvB dkg d = false := by
      cases h : nvB dkg d
      · rfl
      · exact absurd hvirt ((nvB_iff dkg d).mp h)
    have hvc : nvB dkc d = true := (nvB_iff dkc d).mpr hne
    -- the generators computed from the congruences
    obtain ⟨hw2, hN2, hut2, hag2⟩ := lz_conversionCgs_facts n con dkc hcwf hlt hdkc hk0c hkm
    have hs2 := upperTriangular_spec n _ dkc hut2
    have hilt : nv dkc d < (conversionCgsToGens n con dkc).length := by
      rw [hs2.len]; exact cntBelow_lt (nvB dkc) hd hvc
    have hdiag2 := hs2.diag d hd hvc
    have hzeros2 := hs2.zeros d hd hvc
    simp only [sEnt] at hdiag2 hzeros2
    let U : Pt := hv n (rowAt (conversionCgsToGens n con dkc) (nv dkc d))
    have hU0 : U 0 = 0 := by
      show hv n _ 0 = 0
      rw [hv_apply, if_pos (Nat.zero_le n), hzeros2 0 (by omega)]; simp
    -- the point `x0 + U'` is in the grid
    have hx0g2 : x0 ∈ gensSet n (conversionCgsToGens n con dkc) := by rw [← hag2]; exact hx0c
    rw [gensSet_eq hN2] at hx0g2
    have hx1 : (fun i => x0 i + 1 * U (i + 1)) ∈ gensSet n gen := by
      rw [← hag, hag2, gensSet_eq hN2]
      show Hom n _ _
      rw [lz_homog_line _ x0 U hU0 1, one_mul]
      exact hom_add hx0g2 (hom_int hilt _)
    rw [gensSet_eq hN] at hx1
    have hx1h : Hom n gen (homog (D : ℚ) (fun i => x0 i + 1 * U (i + 1))) := hx1
    rw [lz_homog_line _ x0 U hU0 1, one_mul] at hx1h
    have hDU : Hom n gen ((D : ℚ) • U) := by
      have := hom_sub hx1h hx0h
      simpa using this
    -- the separating form
    obtain ⟨C, hCd, hCgt, hCz⟩ := lz_dual_form n gen dkg hut d hd hvg
    have h0 := lz_form_hom (lzForm n C) hCz hDU
    rw [map_smul, lzForm_apply, Finset.sum_eq_single d] at h0
    · have hUd : U d = ((get (rowAt (conversionCgsToGens n con dkc) (nv dkc d)).e d : Int) : ℚ) := by
        show hv n _ d = _
        rw [hv_apply, if_pos (by omega)]
      rw [hCd, hUd, one_mul, smul_eq_mul] at h0
      have hD : (D : ℚ) ≠ 0 := by exact_mod_cast (ne_of_gt hN.pos)
      have : ((get (rowAt (conversionCgsToGens n con dkc) (nv dkc d)).e d : Int) : ℚ) = 0 := by
        rcases mul_eq_zero.mp h0 with h | h
        · exact absurd h hD
        · exact h
      have : (get (rowAt (conversionCgsToGens n con dkc) (nv dkc d)).e d : Int) = 0 := by exact_mod_cast this
      omega
    · intro k _ hkd
      rcases Nat.lt_or_gt_of_ne hkd with h | h
      · have : U k = 0 := by
          show hv n _ k = 0
          rw [hv_apply]
          split
          · rw [hzeros2 k h]; simp
          · rfl
        rw [this]; ring
      · rw [hCgt k h]; ring
    · intro h; exact absurd (Finset.mem_range.mpr hd) h
  · -- an equality with pivot `d` is violated by a generator with pivot `d`
    intro heq
    by_contra hne
    have hvg : nvB dkg d = true := (nvB_iff dkg d).mpr hne
    have hnlc : nlB dkc d = true := by rw [nlB_iff, heq]; decide
    obtain ⟨M, hM, _⟩ := hkm
    have hm0 : (rowAt con (pos dkc (n + 1) d)).m = 0 := by
      rcases hM d hd with h | ⟨_, h⟩ | ⟨h, _⟩
      · rw [heq] at h; exact absurd h (by decide)
      · exact h
      · rw [heq] at h; exact absurd h (by decide)
    have hilt : nv dkg d < gen.length := by rw [hs.len]; exact cntBelow_lt (nvB dkg) hd hvg
    have hdiagg := hs.diag d hd hvg
    have hzerog := hs.zeros d hd hvg
    simp only [sEnt] at hdiagg hzerog
    let W : Pt := hv n (rowAt gen (nv dkg d))
    have hW0 : W 0 = 0 := by
      show hv n _ 0 = 0
      rw [hv_apply, if_pos (Nat.zero_le n), hzerog 0 (by omega)]; simp
    have hWlt : ∀ k, k < d → W k = 0 := by
      intro k hk'
      show hv n _ k = 0
      rw [hv_apply]
      split
      · rw [hzerog k hk']; simp
      · rfl
    have hWd : W d = ((get (rowAt gen (nv dkg d)).e d : Int) : ℚ) := by
      show hv n _ d = _
      rw [hv_apply, if_pos (by omega)]
    have hposlt : pos dkc (n + 1) d < con.length := by rw [hc.len]; exact pos_lt dkc (n + 1) d hd hnlc
    have hlen := (hcwf _ (rowAt_mem _ _ hposlt)).1
    have hx1 : (fun i => x0 i + 1 * W (i + 1)) ∈ consSet n con := by
      rw [hag, gensSet_eq hN]
      show Hom n gen _
      rw [lz_homog_line _ x0 W hW0 1, one_mul]
      exact hom_add hx0h (hom_int hilt _)
    have hsep := lz_sep_eq (rowAt con (pos dkc (n + 1) d)) hm0 x0 W hW0
      (((cgsSem_iff n _ _).mp hx0c).2 _ hposlt) (((cgsSem_iff n _ _).mp hx1).2 _ hposlt)
    rw [lz_alpha_pivot _ W d n hlen hd (fun k h1 h2 => hc.zeros d hd hnlc k h1 h2) hWlt, hWd] at hsep
    have hdiag := hc.diag d hd hnlc
    simp only [cEnt] at hdiag
    have h1 : (get (rowAt con (pos dkc (n + 1) d)).e d : Int) * get (rowAt gen (nv dkg d)).e d = 0 := by
      exact_mod_cast hsep
    rcases Int.mul_eq_zero.mp h1 with h | h <;> omega

/-- **`DkCompatC`** -/
theorem dkCompatC : DkCompatC := by
  intro n con dk0 gen dkg D hn hcwf hf hgwf hN _ hut hk0g hag
  have hfin := simplifyCgs_triangular n con dk0 hcwf hf
  obtain ⟨hkm, hk0, hdk, hlt⟩ := final_cgKindsOK _ _ _ hfin
  have hpres := (simplifyCgs_preserves n con dk0 hcwf).1 hf
  have hcs : consSet n (simplifyCgs n con dk0).1 = consSet n con := by
    ext x; exact hpres x
  have key := lz_virtual_kinds n _ _ gen dkg D (cgc_final_cwf hfin) hlt hdk hk0 hkm hN hut hk0g (by rw [hcs]; exact hag)
  rw [← lz_upperTriangular_congr n gen dkg _ (fun d hd => key d hd)]
  exact hut

end PPLV.Lattice.GO

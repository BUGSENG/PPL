import PPLV.Lattice.ProofsQueries

/-!
# K2: `difference` — contains the set difference and is contained in the first argument
-/
namespace PPLV.Lattice
open List

theorem difference_sound (G H D : GridGens) (h : difference G H = some D) :
    (∀ x, Gen.sem G x → ¬ Gen.sem H x → Gen.sem D x) ∧ (∀ x, Gen.sem D x → Gen.sem G x) := by
  unfold difference at h
  by_cases hsub : subsetB G H = true
  · simp only [hsub, if_true, Option.some.injEq] at h
    subst h
    refine ⟨fun x hx hnx => absurd ((subsetB_iff G H).mp hsub x hx) hnx, fun x hx => absurd hx (by simp [Gen.sem])⟩
  · simp only [hsub, Bool.false_eq_true, if_false] at h
    cases hI : inter G H with
    | none => simp [hI] at h
    | some I =>
      have hIsem := inter_sem G H I hI
      cases I with
      | empty =>
        simp only [hI, Option.some.injEq] at h
        subst h
        exact ⟨fun x hx _ => hx, fun x hx => hx⟩
      | gens i =>
        simp only [hI] at h
        cases G with
        | empty =>
          simp only [Option.some.injEq] at h; subst h
          exact ⟨fun x hx _ => hx, fun x hx => hx⟩
        | gens g =>
          simp only at h
          cases hfind : (g.pt :: (g.params.map (vadd g.pt) ++ g.lines.map (vadd g.pt))).find? (fun p => !memB (.gens i) p) with
          | none =>
            simp only [hfind, Option.some.injEq] at h; subst h
            exact ⟨fun x hx _ => hx, fun x hx => hx⟩
          | some p =>
            simp only [hfind] at h
            split at h
            · rename_i htest
              simp only [Option.some.injEq] at h
              subst h
              simp only [Bool.and_eq_true] at htest
              obtain ⟨heq, h2d⟩ := htest
              have heq' := (equivB_iff _ _).mp heq
              rw [memB_iff] at h2d
              constructor
              · intro x hx hnH
                have hxJ := (heq' x).mpr hx
                simp only [join, Gen.sem] at hxJ
                rw [mem_iff_gdir] at hxJ
                simp only [GDir, List.map_cons, List.map_append, toFun_vsub] at hxJ
                obtain ⟨k, hk⟩ := Abs.Dir.split_head hxJ
                have hk' : GDir i.params i.lines (x - i.pt.toFun - (k:Rat) • (p.toFun - i.pt.toFun)) :=
                  Abs.Dir.mono_subset (fun z hz => (List.mem_append.mp hz).elim id id)
                    (fun z hz => (List.mem_append.mp hz).elim id id) hk
                -- 2 d is a direction of I
                have h2 : GDir i.params i.lines ((2:Rat) • (p.toFun - i.pt.toFun)) := by
                  simp only [Gen.sem] at h2d
                  rw [mem_iff_gdir] at h2d
                  simp only [toFun_vadd, toFun_vsmul, toFun_vsub] at h2d
                  rwa [add_sub_cancel_left] at h2d
                rcases Int.even_or_odd' k with ⟨j, hj | hj⟩
                · -- even: x ∈ I ⊆ H
                  exfalso; apply hnH
                  have : Gen.sem (.gens i) x := by
                    simp only [Gen.sem]; rw [mem_iff_gdir]
                    have e : x - i.pt.toFun = (x - i.pt.toFun - (k:Rat) • (p.toFun - i.pt.toFun)) + (j:Rat) • ((2:Rat) • (p.toFun - i.pt.toFun)) := by
                      rw [hj]; push_cast; module
                    rw [e]; exact Abs.Dir.add hk' (Abs.Dir.zsmul j h2)
                  exact ((hIsem x).mp this).2
                · -- odd: x ∈ p + Λ_I
                  simp only [Gen.sem]; rw [mem_iff_gdir]
                  show GDir i.params i.lines (x - p.toFun)
                  have e : x - p.toFun = (x - i.pt.toFun - (k:Rat) • (p.toFun - i.pt.toFun)) + (j:Rat) • ((2:Rat) • (p.toFun - i.pt.toFun)) := by
                    rw [hj]; push_cast; module
                  rw [e]; exact Abs.Dir.add hk' (Abs.Dir.zsmul j h2)
              · intro x hx
                apply (heq' x).mp
                exact join_right _ _ x hx
            · simp only [Option.some.injEq] at h; subst h
              exact ⟨fun x hx _ => hx, fun x hx => hx⟩

end PPLV.Lattice

import PPLV.Lattice.ProofsGridOpsGenSet

/-!
# The `Grid` object: `Grid_Generator_System` primitives

`Grid_Generator::set_space_dimension`, `insert`, what appending a line, a parameter or a point does to `gn_set`, and the state in
which only the generators are up to date.
-/
namespace PPLV.Lattice.GO
open PPLV.Lattice PPLV.Lattice.Red

/-! ## The primitives of `Grid_Generator` / `Grid_Generator_System`: `set_space_dimension`, `Linear_System::insert`, `insert(gs)`, `grid_line(Variable(v))` -/

/-- `set_space_dimension(n)` of a row that already has dimension `n` -/
theorem gn_setSpaceDim_id {r : GRow} {n : Nat} (h : r.e.length = n + 2) : r.setSpaceDim n = r := by
  have hs : r.spaceDim = n := gn_spaceDim_of_len h
  unfold GRow.setSpaceDim
  simp only [hs, gt_iff_lt, lt_irrefl, if_false]
  have : resizeRow ((r.e.set (n + 1) (get r.e (n + 1))).set (n + 1) (get r.e (n + 1))) (n + 2) = r.e := by
    apply row_ext
    · rw [length_resizeRow, h]
    · intro i hi
      rw [length_resizeRow] at hi
      rw [get_resizeRow, if_pos hi, get_set, get_set]
      by_cases e : i = n + 1
      · subst e; simp [h]
      · simp [e]
  rw [this]

/-- `set_space_dimension(n)` pads a shorter row: the divisor column moves to the end -/
theorem gn_get_setSpaceDim_pad {r : GRow} {m n : Nat} (h : r.e.length = m + 2) (hmn : m < n) (i : Nat) :
    get (r.setSpaceDim n).e i = if i ≤ m then get r.e i else if i = n + 1 then get r.e (m + 1) else 0 := by
  have hs : r.spaceDim = m := gn_spaceDim_of_len h
  unfold GRow.setSpaceDim
  simp only [hs, gt_iff_lt, hmn, if_true]
  rw [get_set, get_set, List.length_set, length_resizeRow, get_resizeRow, get_resizeRow, get_resizeRow]
  have z : get r.e (n + 1) = 0 := get_of_length_le _ _ (by omega)
  split_ifs <;>
    first
    | rfl
    | (exfalso; omega)
    | exact z
    | exact get_of_length_le _ _ (by omega)

theorem gn_length_setSpaceDim_pad {r : GRow} {m n : Nat} (h : r.e.length = m + 2) (hmn : m < n) :
    (r.setSpaceDim n).e.length = n + 2 := by
  have hs : r.spaceDim = m := gn_spaceDim_of_len h
  unfold GRow.setSpaceDim
  simp only [hs, gt_iff_lt, hmn, if_true, List.length_set, length_resizeRow]

theorem gn_line_setSpaceDim (r : GRow) (n : Nat) : (r.setSpaceDim n).line = r.line := by
  by_cases h : n > r.spaceDim <;> simp [GRow.setSpaceDim, h]

/-- what `set_space_dimension(n)` keeps of a row of dimension `m ≤ n` -/
theorem gn_setSpaceDim_sem {r : GRow} {m n : Nat} (h : r.e.length = m + 2) (hmn : m ≤ n) :
    (r.setSpaceDim n).line = r.line ∧ (r.setSpaceDim n).e.length = n + 2 ∧
    get (r.setSpaceDim n).e 0 = get r.e 0 ∧ (r.setSpaceDim n).divisor = r.divisor ∧
    gn_vecOf (r.setSpaceDim n) = gn_vecOf r := by
  rcases Nat.eq_or_lt_of_le hmn with e | hlt
  · subst e
    rw [gn_setSpaceDim_id h]
    exact ⟨rfl, h, rfl, rfl, rfl⟩
  · have hg := gn_get_setSpaceDim_pad h hlt
    have hl := gn_length_setSpaceDim_pad h hlt
    have h0 : get (r.setSpaceDim n).e 0 = get r.e 0 := by rw [hg]; simp
    have hd : (r.setSpaceDim n).divisor = r.divisor := by
      unfold GRow.divisor GRow.isLineOrParameter
      rw [h0, hl, h]
      split
      · rw [hg, if_neg (by omega), if_pos (by omega)]; rfl
      · rfl
    refine ⟨gn_line_setSpaceDim r n, hl, h0, hd, ?_⟩
    funext i
    unfold gn_vecOf
    rw [gn_spaceDim_of_len hl, gn_spaceDim_of_len h, gn_line_setSpaceDim, hd, hg]
    by_cases hi : i < m
    · have : i + 1 ≤ m := by omega
      have hin : i < n := by omega
      rw [if_pos hin, if_pos this, if_pos hi]
    · have a1 : ¬ (i + 1 ≤ m) := by omega
      by_cases hin : i < n
      · have a2 : ¬ (i + 1 = n + 1) := by omega
        rw [if_pos hin, if_neg a1, if_neg a2, if_neg hi]; simp
      · rw [if_neg hin, if_neg hi]

/-! ### `Linear_System::insert`, `insert(gs)` -/

theorem gn_sysInsert (s : GSys) (g : GRow) (h : g.spaceDim ≤ s.dim) :
    s.sysInsert g = { s with rows := s.rows ++ [g.setSpaceDim s.dim] } := by
  unfold GSys.sysInsert
  rw [if_neg (by omega)]

theorem gn_foldl_sysInsert : ∀ (l : List GRow) (s : GSys), (∀ g ∈ l, g.e.length = s.dim + 2) →
    l.foldl GSys.sysInsert s = { s with rows := s.rows ++ l }
  | [], s, _ => by simp
  | g :: l, s, h => by
    have hg := h g (by simp)
    rw [List.foldl_cons, gn_sysInsert s g (by rw [gn_spaceDim_of_len hg]), gn_setSpaceDim_id hg,
      gn_foldl_sysInsert l { s with rows := s.rows ++ [g] } (fun g' hg' => h g' (List.mem_cons_of_mem _ hg'))]
    simp

/-- `insert(gs, Recycle_Input)` of a system of the same dimension appends the rows -/
theorem gn_insertSys (s gs : GSys) (hd : gs.dim = s.dim) (hw : GWf s.dim gs.rows) :
    s.insertSys gs = { s with rows := s.rows ++ gs.rows } := by
  unfold GSys.insertSys
  have hlt : ¬ s.dim < gs.dim := by omega
  simp only [hlt, if_false]
  have e : (gs.setSpaceDim s.dim).rows = gs.rows := by
    unfold GSys.setSpaceDim
    show gs.rows.map (·.setSpaceDim s.dim) = gs.rows
    conv_rhs => rw [← List.map_id gs.rows]
    apply List.map_congr_left
    intro r hr
    exact gn_setSpaceDim_id (hw r hr)
  rw [e]
  exact gn_foldl_sysInsert gs.rows s hw

/-! ### `grid_line(Variable(v))` -/

theorem gn_gridLineVar_len (v : Nat) : (gridLineVar v).e.length = (v + 1) + 2 := by simp [gridLineVar]

theorem gn_gridLineVar_get (v i : Nat) : get (gridLineVar v).e i = if i = v + 1 then 1 else 0 := by
  unfold gridLineVar
  show get ((List.replicate (v + 3) 0).set (v + 1) 1) i = _
  rw [get_set]
  by_cases h : i = v + 1
  · subst h; simp
  · simp only [h, false_and, if_false]
    unfold Red.get
    rw [List.getD_eq_getElem?_getD]
    by_cases hi : i < v + 3
    · simp [hi]
    · simp [hi]

theorem gn_gridLineVar_vecOf (v : Nat) : gn_vecOf (gridLineVar v) = (unit v).toFun := by
  funext i
  unfold gn_vecOf
  rw [gn_spaceDim_of_len (gn_gridLineVar_len v), gn_gridLineVar_get, toFun_unit]
  have hl : (gridLineVar v).line = true := rfl
  by_cases h : i = v
  · subst h; simp [hl]
  · simp [hl, h]

example : (GSys.mk 2 [⟨false, [1, 0, 0, 0]⟩]).sysInsert (gridLineVar 0) =
    GSys.mk 2 [⟨false, [1, 0, 0, 0]⟩, ⟨true, [0, 1, 0, 0]⟩] := by decide

/-! ## One more row (`gn_set_append_*`), appended normalised systems, and the state whose only description is an up-to-date generator system (`gn_inv_gens`) -/

theorem gn_mem_append_left {rows rows' : List GRow} {x : Pt} (h : gn_Mem rows x) : gn_Mem (rows ++ rows') x :=
  gn_mem_mono (fun _ hr => List.mem_append_left _ hr) h
theorem gn_mem_append_right {rows rows' : List GRow} {x : Pt} (h : gn_Mem rows' x) : gn_Mem (rows ++ rows') x :=
  gn_mem_mono (fun _ hr => List.mem_append_right _ hr) h

/-! ### one more row -/

/-- a line is added: `{x + c • l}` -/
theorem gn_set_append_line (rows : List GRow) (l : GRow) (hl : l.line = true) :
    gn_set (rows ++ [l]) = {y | ∃ x ∈ gn_set rows, ∃ c : ℚ, y = x + c • gn_vecOf l} := by
  apply Set.Subset.antisymm
  · refine gn_mem_least ?_ ?_ ?_ ?_
    · rintro _ ⟨x1, h1, c1, rfl⟩ _ ⟨x2, h2, c2, rfl⟩ _ ⟨x3, h3, c3, rfl⟩ k
      exact ⟨_, gn_mem_affine k h1 h2 h3, c1 + k * (c2 - c3), by module⟩
    · intro r hr p
      rcases List.mem_append.mp hr with hr | hr
      · exact ⟨_, gn_mem_pt hr p, 0, by simp⟩
      · rw [List.mem_singleton.mp hr] at p; simp [gn_isPt, hl] at p
    · intro r hr p _ ⟨x, hx, c, e⟩ k
      rcases List.mem_append.mp hr with hr | hr
      · exact ⟨_, gn_mem_par_step hr p hx k, c, by rw [e]; module⟩
      · rw [List.mem_singleton.mp hr] at p; simp [gn_isPar, hl] at p
    · intro r hr p _ ⟨x, hx, c, e⟩ c'
      rcases List.mem_append.mp hr with hr | hr
      · exact ⟨_, gn_mem_line_step hr p hx c', c, by rw [e]; module⟩
      · rw [List.mem_singleton.mp hr]; exact ⟨x, hx, c + c', by rw [e]; module⟩
  · rintro _ ⟨x, hx, c, rfl⟩
    exact gn_mem_line_step (List.mem_append_right _ (List.mem_singleton.mpr rfl)) hl (gn_mem_append_left hx) c

/-- a parameter is added: `{x + k • q}` -/
theorem gn_set_append_par (rows : List GRow) (q : GRow) (hq : gn_isPar q = true) :
    gn_set (rows ++ [q]) = {y | ∃ x ∈ gn_set rows, ∃ k : Int, y = x + (k : ℚ) • gn_vecOf q} := by
  obtain ⟨hql, hq0⟩ := (gn_isPar_iff q).mp hq
  apply Set.Subset.antisymm
  · refine gn_mem_least ?_ ?_ ?_ ?_
    · rintro _ ⟨x1, h1, c1, rfl⟩ _ ⟨x2, h2, c2, rfl⟩ _ ⟨x3, h3, c3, rfl⟩ k
      exact ⟨_, gn_mem_affine k h1 h2 h3, c1 + k * (c2 - c3), by push_cast; module⟩
    · intro r hr p
      rcases List.mem_append.mp hr with hr | hr
      · exact ⟨_, gn_mem_pt hr p, 0, by simp⟩
      · rw [List.mem_singleton.mp hr] at p; simp [gn_isPt, hq0] at p
    · intro r hr p _ ⟨x, hx, c, e⟩ k
      rcases List.mem_append.mp hr with hr | hr
      · exact ⟨_, gn_mem_par_step hr p hx k, c, by rw [e]; module⟩
      · rw [List.mem_singleton.mp hr]; exact ⟨x, hx, c + k, by rw [e]; push_cast; module⟩
    · intro r hr p _ ⟨x, hx, c, e⟩ c'
      rcases List.mem_append.mp hr with hr | hr
      · exact ⟨_, gn_mem_line_step hr p hx c', c, by rw [e]; module⟩
      · rw [List.mem_singleton.mp hr] at p; rw [hql] at p; cases p
  · rintro _ ⟨x, hx, k, rfl⟩
    exact gn_mem_par_step (List.mem_append_right _ (List.mem_singleton.mpr rfl)) hq (gn_mem_append_left hx) k

/-- a point is added to a non-empty grid: `{a + k • (p - a₀)}` for any `a₀` of the grid -/
theorem gn_set_append_pt (rows : List GRow) (p : GRow) (hp : gn_isPt p = true) {a0 : Pt} (ha0 : a0 ∈ gn_set rows) :
    gn_set (rows ++ [p]) = {y | ∃ a ∈ gn_set rows, ∃ k : Int, y = a + (k : ℚ) • (gn_vecOf p - a0)} := by
  obtain ⟨hpl, hp0⟩ := (gn_isPt_iff p).mp hp
  apply Set.Subset.antisymm
  · refine gn_mem_least ?_ ?_ ?_ ?_
    · rintro _ ⟨x1, h1, c1, rfl⟩ _ ⟨x2, h2, c2, rfl⟩ _ ⟨x3, h3, c3, rfl⟩ k
      exact ⟨_, gn_mem_affine k h1 h2 h3, c1 + k * (c2 - c3), by push_cast; module⟩
    · intro r hr pr
      rcases List.mem_append.mp hr with hr | hr
      · exact ⟨_, gn_mem_pt hr pr, 0, by simp⟩
      · rw [List.mem_singleton.mp hr]; exact ⟨a0, ha0, 1, by simp⟩
    · intro r hr pr _ ⟨x, hx, c, e⟩ k
      rcases List.mem_append.mp hr with hr | hr
      · exact ⟨_, gn_mem_par_step hr pr hx k, c, by rw [e]; module⟩
      · rw [List.mem_singleton.mp hr] at pr; simp [gn_isPar, hp0] at pr
    · intro r hr pr _ ⟨x, hx, c, e⟩ c'
      rcases List.mem_append.mp hr with hr | hr
      · exact ⟨_, gn_mem_line_step hr pr hx c', c, by rw [e]; module⟩
      · rw [List.mem_singleton.mp hr] at pr; rw [hpl] at pr; cases pr
  · rintro _ ⟨a, ha, k, rfl⟩
    exact gn_mem_affine k (gn_mem_append_left ha)
      (gn_mem_pt (List.mem_append_right _ (List.mem_singleton.mpr rfl)) hp) (gn_mem_append_left ha0)

/-- a single point -/
theorem gn_set_single_pt (p : GRow) (hp : gn_isPt p = true) : gn_set [p] = {gn_vecOf p} := by
  apply Set.Subset.antisymm
  · refine gn_mem_least ?_ ?_ ?_ ?_
    · rintro _ h1 _ h2 _ h3 k
      rw [Set.mem_singleton_iff] at *
      subst h1 h2 h3; simp
    · intro r hr _; rw [List.mem_singleton.mp hr]; rfl
    · intro r hr pr; rw [List.mem_singleton.mp hr] at pr
      simp [gn_isPar, ((gn_isPt_iff p).mp hp).2, ((gn_isPt_iff p).mp hp).1] at pr
    · intro r hr pr; rw [List.mem_singleton.mp hr, ((gn_isPt_iff p).mp hp).1] at pr; cases pr
  · intro x hx
    rw [Set.mem_singleton_iff.mp hx]
    exact gn_mem_pt (List.mem_singleton.mpr rfl) hp

/-! ### normalised systems: one more row, two systems appended -/

theorem gn_gnorm_append {n : Nat} {D : Int} {rows rows' : List GRow} (h : GNorm n D rows)
    (hc : ∀ r ∈ rows', r.line = false → get r.e 0 = 0 ∨ get r.e 0 = D)
    (hp : ∀ r ∈ rows', r.line = false → get r.e 0 = 0 → get r.e (n + 1) = D)
    (hl : ∀ r ∈ rows', r.line = true → get r.e 0 = 0) : GNorm n D (rows ++ rows') := by
  refine ⟨h.pos, ?_, ?_, ?_, ?_⟩
  · obtain ⟨r, hr, a, b⟩ := h.pt; exact ⟨r, List.mem_append_left _ hr, a, b⟩
  · intro r hr; rcases List.mem_append.mp hr with hr | hr
    · exact h.col0 r hr
    · exact hc r hr
  · intro r hr; rcases List.mem_append.mp hr with hr | hr
    · exact h.par r hr
    · exact hp r hr
  · intro r hr; rcases List.mem_append.mp hr with hr | hr
    · exact h.lin r hr
    · exact hl r hr

theorem gn_gnorm_append_gnorm {n : Nat} {D : Int} {rows rows' : List GRow} (h : GNorm n D rows) (h' : GNorm n D rows') :
    GNorm n D (rows ++ rows') := gn_gnorm_append h h'.col0 h'.par h'.lin

theorem gn_gwf_append {n : Nat} {rows rows' : List GRow} (h : GWf n rows) (h' : GWf n rows') : GWf n (rows ++ rows') := by
  intro r hr; rcases List.mem_append.mp hr with hr | hr
  · exact h r hr
  · exact h' r hr

/-! ### the state that is described by its generators only -/

/-- a non-empty state of positive dimension whose generator system is up to date, well formed and normalised, and
    whose congruences are out of date, satisfies the class invariant and denotes the grid generated by the rows -/
theorem gn_inv_gens {g : Grid} (hn : 0 < g.spaceDim) (he : g.st.empty = false) (hcu : g.st.cUp = false)
    (hgu : g.st.gUp = true) (hcm : g.st.cMin = false) (hgm : g.st.gMin = false) (hhi : g.st.hi = 0)
    (hgd : g.genDim = g.spaceDim) (hw : GWf g.spaceDim g.gen) {D : Int} (hN : GNorm g.spaceDim D g.gen) :
    GridInv g ∧ g.sem = gn_set g.gen := by
  obtain ⟨a, b⟩ := inv_of_gen hn he hcu hgu hcm hhi hgd hw hN (fun h => absurd h (Bool.eq_false_iff.mp hgm))
  exact ⟨a, b.trans (gn_bridge hN hw)⟩

/-- the same for a state whose dimension is known as `n` -/
theorem gn_inv_gens_at {g : Grid} {n : Nat} (hsd : g.spaceDim = n) (hn : 0 < n) (he : g.st.empty = false)
    (hcu : g.st.cUp = false) (hgu : g.st.gUp = true) (hcm : g.st.cMin = false) (hgm : g.st.gMin = false) (hhi : g.st.hi = 0)
    (hgd : g.genDim = n) (hw : GWf n g.gen) {D : Int} (hN : GNorm n D g.gen) : GridInv g ∧ g.sem = gn_set g.gen := by
  subst hsd; exact gn_inv_gens hn he hcu hgu hcm hgm hhi hgd hw hN

/-- the one-point grid `{a/d}` of the line, held by its generators only: the witness of the satisfiability examples -/
theorem gn_inv_point1 (d a : Int) (hd : 0 < d) :
    GridInv { spaceDim := 1, st := { gUp := true }, conDim := 1, con := [], genDim := 1, gen := [⟨false, [d, a, 0]⟩], dk := [] } := by
  refine (gn_inv_gens (D := d) Nat.one_pos rfl rfl rfl rfl rfl rfl rfl ?_ ⟨hd, ⟨_, List.mem_singleton.mpr rfl, rfl, rfl⟩, ?_, ?_, ?_⟩).1
  all_goals intro r hr; rw [List.mem_singleton.mp hr]
  · rfl
  · exact fun _ => Or.inr rfl
  · intro _ h0; exact absurd h0 (ne_of_gt hd)
  · intro h; cases h

/-- the generators of a state that keeps them up to date -/
theorem gn_sem_of_gUp {g : Grid} (hI : GridInv g) (hn : 0 < g.spaceDim) (he : g.st.empty = false) (hgu : g.st.gUp = true) :
    g.genDim = g.spaceDim ∧ GWf g.spaceDim g.gen ∧ GNorm g.spaceDim (firstPointDiv g.gen) g.gen ∧
      g.sem = gn_set g.gen := by
  obtain ⟨a, b, c⟩ := hI.gwf he hn hgu
  refine ⟨a, b, c, ?_⟩
  have hne : g.spaceDim ≠ 0 := by omega
  unfold Grid.sem
  rw [he, if_neg (by simp), if_neg hne, hgu, if_pos rfl]
  exact gn_bridge c b

end PPLV.Lattice.GO

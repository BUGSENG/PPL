import PPLV.Lattice.ProofsGridOpsCongruence
import PPLV.Lattice.ProofsGridOpsUpdate

/-!
# The `Grid` object: adding congruences and constraints

`add_congruence(s)`, `add_recycled_congruences`, `add_constraint(s)`, `refine_with_constraint(s)`: all go through
`add_congruence_no_check` (Grid_nonpublic.cc:688), which leaves only the congruences up to date.
-/
namespace PPLV.Lattice.GO
open PPLV.Lattice PPLV.Lattice.Red

/-! ## `set_empty`, the state "only the congruences are up to date", `add_congruence_no_check` (Grid_nonpublic.cc:688) -/

/-! ### `set_empty()` -/

theorem cn_setEmpty_spaceDim (g : Grid) : (setEmpty g).spaceDim = g.spaceDim := rfl
/-! ### what a state denotes -/

/-- the points of a grid lie in its space -/
theorem cn_sem_subset_space (g : Grid) (hI : GridInv g) : g.sem ⊆ spaceSet g.spaceDim := by
  by_cases he : g.st.empty = true
  · rw [sem_of_empty he]; exact Set.empty_subset _
  · have he : g.st.empty = false := by simpa using he
    by_cases h0 : g.spaceDim = 0
    · rw [sem_of_zdim he h0, h0]
    · have hpos : 0 < g.spaceDim := by omega
      by_cases hc : g.st.cUp = true
      · rw [sem_of_cUp hI he hpos hc]; exact cn_consSet_subset_space _ _
      · have hg : g.st.gUp = true := (hI.some he hpos).resolve_left hc
        rw [sem_of_gUp he hpos hg]
        exact fun x hx => gensSet_supp (hI.gwf he hpos hg).2.2 hx

/-- `if (!congruences_are_up_to_date()) update_congruences()` -/
theorem cn_ensureCon (g : Grid) (hI : GridInv g) (he : g.st.empty = false)
    (hpos : 0 < g.spaceDim) :
    let g1 := if !g.congruencesAreUpToDate then updateCongruences g else g
    GridInv g1 ∧ g1.sem = g.sem ∧ g1.spaceDim = g.spaceDim ∧ g1.st.empty = false ∧ g1.st.cUp = true := by
  intro g1
  by_cases hc : g.st.cUp = true
  · have : g1 = g := by simp [g1, Grid.congruencesAreUpToDate, hc]
    rw [this]; exact ⟨hI, rfl, rfl, he, hc⟩
  · have hg : g.st.gUp = true := (hI.some he hpos).resolve_left hc
    have : g1 = updateCongruences g := by simp [g1, Grid.congruencesAreUpToDate, hc]
    rw [this]
    obtain ⟨h1, h2, h3, h4, _, _, h7, _⟩ := updateCongruences_spec g hI he hpos hg (by simpa using hc)
    exact ⟨h1, h2, h3, h4, h7⟩

/-! ### rows of dimension 0 -/

theorem cn_row_dim0 (cg : CRow) (hd : cg.spaceDim ≤ 0) (he : cg.e ≠ []) : cg.e = [Red.get cg.e 0] := by
  unfold CRow.spaceDim at hd
  cases h : cg.e with
  | nil => exact absurd h he
  | cons a l =>
    rw [h] at hd
    have : l = [] := List.eq_nil_of_length_eq_zero (by simpa using hd)
    rw [this]; rfl

theorem cn_tmod_eq_zero_iff (c m : Int) : Int.tmod c m = 0 ↔ ∃ t : Int, c = t * m := by
  constructor
  · intro h
    have := Int.tmod_add_mul_tdiv c m
    exact ⟨Int.tdiv c m, by rw [h] at this; linarith [mul_comm m (Int.tdiv c m)]⟩
  · rintro ⟨t, rfl⟩; exact Int.mul_tmod_left t m

/-- a constant row `c ≡ 0 (mod m)` holds everywhere or nowhere -/
theorem cn_rsem_const (c m : Int) (x : Pt) : rsem { e := [c], m := m } x ↔ ∃ t : Int, c = t * m := by
  unfold rsem
  rw [evalRow_const [c] x (fun i hi => get_of_length_le _ _ (by simp only [List.length_singleton]; omega))]
  simp only [get_cons_zero]
  constructor
  · rintro ⟨t, ht⟩; exact ⟨t, by exact_mod_cast ht⟩
  · rintro ⟨t, ht⟩; exact ⟨t, by exact_mod_cast ht⟩

theorem cn_const_flag (c m : Int) : (if m = 0 then c == 0 else Int.tmod c m == 0) = true ↔ ∃ t : Int, c = t * m := by
  by_cases hm : m = 0
  · subst hm; simp
  · rw [if_neg hm, beq_iff_eq, cn_tmod_eq_zero_iff]

/-- a row of dimension 0 is tautological (`is_tautological`) iff it holds, and then it holds everywhere -/
theorem cn_isTautological_dim0 (cg : CRow) (hd : cg.spaceDim ≤ 0) (he : cg.e ≠ []) :
    (cg.isTautological = true ↔ CRow.set cg = Set.univ) ∧ (cg.isTautological = false ↔ CRow.set cg = ∅) ∧
      (cg.isInconsistent = !cg.isTautological) := by
  have hrow := cn_row_dim0 cg hd he
  have hall : allZ cg.e 1 cg.e.length = true := by rw [hrow]; simp [allZ]
  have hset : ∀ x, x ∈ CRow.set cg ↔ ∃ t : Int, Red.get cg.e 0 = t * cg.m := by
    intro x
    rw [cn_mem_set]
    have : cg = { e := [Red.get cg.e 0], m := cg.m } := by cases cg; simp only at hrow ⊢; rw [← hrow]
    rw [this]; exact cn_rsem_const _ _ x
  have hflag := cn_const_flag (Red.get cg.e 0) cg.m
  have htaut : cg.isTautological = true ↔ ∃ t : Int, Red.get cg.e 0 = t * cg.m := by
    unfold CRow.isTautological; rw [hall, Bool.and_true]; exact hflag
  refine ⟨?_, ?_, ?_⟩
  · rw [htaut]
    constructor
    · intro h; ext x; simp [hset x, h]
    · intro h; have : (fun _ => (0 : ℚ)) ∈ CRow.set cg := by rw [h]; trivial
      exact (hset _).mp this
  · rw [← Bool.not_eq_true, htaut]
    constructor
    · intro h; ext x; simp [hset x, h]
    · intro h hex
      have : (fun _ => (0 : ℚ)) ∈ CRow.set cg := (hset _).mpr hex
      rw [h] at this; exact this
  · unfold CRow.isInconsistent CRow.isTautological
    rw [hall, Bool.and_true, Bool.and_true]
    by_cases hm : cg.m = 0
    · simp [hm, bne]
    · simp [hm, bne]

/-! ### `add_congruence_no_check(cg)` -/

/-- Grid_nonpublic.cc:688 `add_congruence_no_check(cg)` on a grid that is not marked empty: the grid is cut by the
    congruence (dimension 0: `is_inconsistent` decides; otherwise `update_congruences` if needed, `insert`, and only
    the congruences stay up to date) -/
theorem cn_addCongruenceNoCheck (g : Grid) (cg : CRow) (hI : GridInv g)
    (hne : g.st.empty = false) (hd : cg.spaceDim ≤ g.spaceDim) (hm : 0 ≤ cg.m) (he : cg.e ≠ []) :
    GridInv (addCongruenceNoCheck g cg) ∧ (addCongruenceNoCheck g cg).sem = g.sem ∩ CRow.set cg ∧
      (addCongruenceNoCheck g cg).spaceDim = g.spaceDim := by
  unfold addCongruenceNoCheck
  by_cases h0 : g.spaceDim = 0
  · rw [if_pos h0]
    obtain ⟨ht, hf, hinc⟩ := cn_isTautological_dim0 cg (by omega) he
    by_cases htaut : cg.isTautological = true
    · have : (if (cg.isInconsistent) = true then setEmpty g else g) = g := by rw [hinc, htaut]; rfl
      rw [this]
      exact ⟨hI, by rw [ht.mp htaut, Set.inter_univ], rfl⟩
    · have htf : cg.isTautological = false := by simpa using htaut
      have : (if (cg.isInconsistent) = true then setEmpty g else g) = setEmpty g := by rw [hinc, htf]; rfl
      rw [this]
      exact ⟨setEmpty_inv g, by rw [setEmpty_sem, hf.mp htf, Set.inter_empty], rfl⟩
  · rw [if_neg h0]
    have hpos : 0 < g.spaceDim := by omega
    obtain ⟨hI1, hs1, hd1, he1, hc1⟩ := cn_ensureCon g hI hne hpos
    generalize (if !g.congruencesAreUpToDate then updateCongruences g else g) = g1 at hI1 hs1 hd1 he1 hc1 ⊢
    have hpos1 : 0 < g1.spaceDim := by omega
    obtain ⟨hcd1, hw1⟩ := hI1.cwf he1 hpos1 hc1
    have hdc : cg.spaceDim ≤ g1.cs.dim := by show cg.spaceDim ≤ g1.conDim; omega
    have hw1' : CWf g1.cs.dim g1.cs.rows := by show CWf g1.conDim g1.con; rw [hcd1]; exact hw1
    have hdim := cn_insert_dim g1.cs cg hdc
    have hcons := cn_insert_consSet g1.cs cg hdc hm
    have hcwf := cn_insert_CWf g1.cs cg hw1' hdc hm he
    have hcsd : g1.cs.dim = g1.spaceDim := hcd1
    rw [hcsd] at hcons hcwf hdim
    have := inv_of_conOnly
      ((((g1.withCs (g1.cs.insert cg)).clearCongruencesMinimized).setCongruencesUpToDate).clearGeneratorsUpToDate)
      hpos1 he1 rfl rfl rfl rfl (hI1.hi0 he1) hdim hcwf
    refine ⟨this.1, ?_, hd1⟩
    rw [this.2]
    show consSet g1.spaceDim (g1.cs.insert cg).rows = _
    rw [hcons, ← hs1, sem_of_cUp hI1 he1 hpos1 hc1]; rfl

/-- a small state with up-to-date congruences only: `x ≡ 0 (mod 2)` in dimension 1 -/
def cn_exGrid : Grid :=
  { spaceDim := 1, st := { cUp := true }, conDim := 1, con := [{ e := [0, 1], m := 2 }], genDim := 1, gen := [], dk := [] }

theorem cn_exGrid_inv : GridInv cn_exGrid :=
  (inv_of_conOnly cn_exGrid (by decide) rfl rfl rfl rfl rfl rfl rfl (by unfold CWf; decide)).1

example : GridInv cn_exGrid ∧ cn_exGrid.st.empty = false ∧ (CRow.mk [1, 3] 6).spaceDim ≤ cn_exGrid.spaceDim ∧
    (addCongruenceNoCheck cn_exGrid ⟨[1, 3], 6⟩).con = [{ e := [0, 1], m := 2 }, { e := [1, 3], m := 6 }] :=
  ⟨cn_exGrid_inv, rfl, by decide, by decide⟩

/-! ## `add_congruence` (= `refine_with_congruence`), `add_recycled_congruences`, `add_congruences` (= `refine_with_congruences`) -/

/-- Grid_inlines.hh `add_congruence(cg)` / `refine_with_congruence(cg)`: throws exactly on a dimension mismatch (object
    unchanged); otherwise the grid is cut by the congruence; a marked-empty receiver is not touched -/
theorem cn_addCongruence (g : Grid) (cg : CRow) (hI : GridInv g) (hm : 0 ≤ cg.m)
    (he : cg.e ≠ []) :
    ((addCongruence g cg).thrown = true ↔ g.spaceDim < cg.spaceDim) ∧
    ((addCongruence g cg).thrown = true → (addCongruence g cg).g = g) ∧
    (g.st.empty = true → (addCongruence g cg).g = g) ∧
    ((addCongruence g cg).thrown = false →
      GridInv (addCongruence g cg).g ∧ (addCongruence g cg).g.sem = g.sem ∩ CRow.set cg ∧
        (addCongruence g cg).g.spaceDim = g.spaceDim) := by
  unfold addCongruence
  by_cases hd : g.spaceDim < cg.spaceDim
  · rw [if_pos hd]
    exact ⟨⟨fun _ => hd, fun _ => rfl⟩, fun _ => rfl, fun _ => rfl, (fun h => by cases h)⟩
  · rw [if_neg hd]
    by_cases hemp : g.st.empty = true
    · have : (!g.markedEmpty) = false := by simp [Grid.markedEmpty, hemp]
      rw [this, if_neg Bool.false_ne_true]
      refine ⟨⟨(fun h => by cases h), fun h => absurd h hd⟩, fun _ => rfl, fun _ => rfl, fun _ => ⟨hI, ?_, rfl⟩⟩
      rw [sem_of_empty hemp, Set.empty_inter]
    · have hne : g.st.empty = false := by simpa using hemp
      have : (!g.markedEmpty) = true := by simp [Grid.markedEmpty, hne]
      rw [this, if_pos rfl]
      exact ⟨⟨(fun h => by cases h), fun h => absurd h hd⟩, (fun h => by cases h), fun h => absurd h hemp,
        fun _ => cn_addCongruenceNoCheck g cg hI hne (by omega) hm he⟩

example : (addCongruence cn_exGrid ⟨[1, 3], 6⟩).thrown = false ∧ (addCongruence cn_exGrid ⟨[1, 3, 1], 6⟩).thrown = true := by
  decide

/-! ### systems of dimension 0 -/

theorem cn_rowsSet_dim0 (rows : List CRow) (hw : CWf 0 rows) :
    (rows.any (fun r => !r.isTautological) = true → cn_rowsSet rows = ∅) ∧
    (rows.any (fun r => !r.isTautological) = false → cn_rowsSet rows = Set.univ) := by
  have hrow : ∀ r ∈ rows, r.spaceDim ≤ 0 ∧ r.e ≠ [] := fun r hr => by
    have := (hw r hr).1
    exact ⟨by unfold CRow.spaceDim; omega, fun h => by rw [h] at this; simp at this⟩
  constructor
  · intro h
    obtain ⟨r, hr, hnt⟩ := List.any_eq_true.mp h
    have hf := (cn_isTautological_dim0 r (hrow r hr).1 (hrow r hr).2).2.1.mp (by simpa using hnt)
    ext x
    simp only [cn_rowsSet, Set.mem_ofPred_eq, Set.mem_empty_iff_false, iff_false]
    intro hall
    have := hall r hr
    rw [hf] at this; exact this
  · intro h
    ext x
    simp only [cn_rowsSet, Set.mem_ofPred_eq, Set.mem_univ, iff_true]
    intro r hr
    have hnt : r.isTautological = true := by
      by_contra hc
      have : rows.any (fun r => !r.isTautological) = true := List.any_eq_true.mpr ⟨r, hr, by simpa using hc⟩
      rw [h] at this; cases this
    rw [(cn_isTautological_dim0 r (hrow r hr).1 (hrow r hr).2).1.mp hnt]; trivial

/-! ### `add_recycled_congruences(cgs)` -/

/-- the body of `add_recycled_congruences` in dimension `> 0` on a grid that is not marked empty -/
def cn_recycledBody (g1 : Grid) (cgs : CSys) : Grid :=
  ((g1.withCs (g1.cs.insertSys cgs)).clearCongruencesMinimized).clearGeneratorsUpToDate

theorem cn_addRecycled_body (g : Grid) (cgs : CSys) (hI : GridInv g)
    (hne : g.st.empty = false) (hpos : 0 < g.spaceDim) (hd : cgs.dim ≤ g.spaceDim) (hm : ∀ r ∈ cgs.rows, 0 ≤ r.m) :
    GridInv (cn_recycledBody (if !g.congruencesAreUpToDate then updateCongruences g else g) cgs) ∧
    (cn_recycledBody (if !g.congruencesAreUpToDate then updateCongruences g else g) cgs).sem = g.sem ∩ cn_rowsSet cgs.rows ∧
    (cn_recycledBody (if !g.congruencesAreUpToDate then updateCongruences g else g) cgs).spaceDim = g.spaceDim := by
  obtain ⟨hI1, hs1, hd1, he1, hc1⟩ := cn_ensureCon g hI hne hpos
  generalize (if !g.congruencesAreUpToDate then updateCongruences g else g) = g1 at hI1 hs1 hd1 he1 hc1 ⊢
  have hpos1 : 0 < g1.spaceDim := by omega
  obtain ⟨hcd1, hw1⟩ := hI1.cwf he1 hpos1 hc1
  have hdc : cgs.dim ≤ g1.cs.dim := by show cgs.dim ≤ g1.conDim; omega
  have hw1' : CWf g1.cs.dim g1.cs.rows := by show CWf g1.conDim g1.con; rw [hcd1]; exact hw1
  have hdim := cn_insertSys_dim g1.cs cgs hdc
  have hcons := cn_insertSys_consSet g1.cs cgs hdc
  have hcwf := cn_insertSys_CWf g1.cs cgs hw1' hdc hm
  have hcsd : g1.cs.dim = g1.spaceDim := hcd1
  rw [hcsd] at hcons hcwf hdim
  have := inv_of_conOnly (cn_recycledBody g1 cgs) hpos1 he1 hc1 rfl rfl rfl (hI1.hi0 he1) hdim hcwf
  refine ⟨this.1, ?_, hd1⟩
  rw [this.2]
  show consSet g1.spaceDim (g1.cs.insertSys cgs).rows = _
  rw [hcons, ← hs1, sem_of_cUp hI1 he1 hpos1 hc1]; rfl

/-- Grid_public.cc:1349 `add_recycled_congruences(cgs)`: throws exactly on a dimension mismatch (object unchanged);
    otherwise the grid is cut by every row of `cgs` -/
theorem cn_addRecycledCongruences (g : Grid) (cgs : CSys) (hI : GridInv g)
    (hw : CWf cgs.dim cgs.rows) :
    ((addRecycledCongruences g cgs).thrown = true ↔ g.spaceDim < cgs.dim) ∧
    ((addRecycledCongruences g cgs).thrown = true → (addRecycledCongruences g cgs).g = g) ∧
    (g.st.empty = true → (addRecycledCongruences g cgs).g = g) ∧
    ((addRecycledCongruences g cgs).thrown = false →
      GridInv (addRecycledCongruences g cgs).g ∧
        (addRecycledCongruences g cgs).g.sem = g.sem ∩ cn_rowsSet cgs.rows ∧
        (addRecycledCongruences g cgs).g.spaceDim = g.spaceDim) := by
  unfold addRecycledCongruences
  by_cases hd : g.spaceDim < cgs.dim
  · rw [if_pos hd]
    exact ⟨⟨fun _ => hd, fun _ => rfl⟩, fun _ => rfl, fun _ => rfl, (fun h => by cases h)⟩
  · rw [if_neg hd]
    have hthr : ∀ p : Prop, ((false = true) ↔ g.spaceDim < cgs.dim) ∧ ((false = true) → p) :=
      fun p => ⟨⟨(fun h => by cases h), fun h => absurd h hd⟩, (fun h => by cases h)⟩
    by_cases hnil : cgs.rows.isEmpty = true
    · rw [if_pos hnil]
      refine ⟨(hthr True).1, fun _ => rfl, fun _ => rfl, fun _ => ⟨hI, ?_, rfl⟩⟩
      rw [List.isEmpty_iff.mp hnil, cn_rowsSet_nil, Set.inter_univ]
    · rw [if_neg hnil]
      by_cases hemp : g.st.empty = true
      · have : g.markedEmpty = true := hemp
        rw [if_pos this]
        refine ⟨(hthr True).1, fun _ => rfl, fun _ => rfl, fun _ => ⟨hI, ?_, rfl⟩⟩
        rw [sem_of_empty hemp, Set.empty_inter]
      · have hne : g.st.empty = false := by simpa using hemp
        have : ¬ (g.markedEmpty = true) := hemp
        rw [if_neg this]
        by_cases h0 : g.spaceDim = 0
        · rw [if_pos h0]
          have hcd : cgs.dim = 0 := by omega
          rw [hcd] at hw
          obtain ⟨hany, hnone⟩ := cn_rowsSet_dim0 cgs.rows hw
          refine ⟨(hthr True).1, (fun h => by cases h), fun h => absurd h hemp, fun _ => ?_⟩
          by_cases ha : cgs.rows.any (fun r => !r.isTautological) = true
          · rw [if_pos ha]
            exact ⟨setEmpty_inv g, by rw [setEmpty_sem, hany ha, Set.inter_empty], rfl⟩
          · rw [if_neg ha]
            exact ⟨hI, by rw [hnone (by simpa using ha), Set.inter_univ], rfl⟩
        · rw [if_neg h0]
          exact ⟨(hthr True).1, (fun h => by cases h), fun h => absurd h hemp,
            fun _ => cn_addRecycled_body g cgs hI hne (by omega) (by omega) (fun r hr => (hw r hr).2)⟩

/-- Grid_inlines.hh `add_congruences(cgs)` / `refine_with_congruences(cgs)` -/
theorem cn_addCongruences (g : Grid) (cgs : CSys) (hI : GridInv g)
    (hw : CWf cgs.dim cgs.rows) :
    ((addCongruences g cgs).thrown = true ↔ g.spaceDim < cgs.dim) ∧
    ((addCongruences g cgs).thrown = true → (addCongruences g cgs).g = g) ∧
    (g.st.empty = true → (addCongruences g cgs).g = g) ∧
    ((addCongruences g cgs).thrown = false →
      GridInv (addCongruences g cgs).g ∧ (addCongruences g cgs).g.sem = g.sem ∩ cn_rowsSet cgs.rows ∧
        (addCongruences g cgs).g.spaceDim = g.spaceDim) := by
  unfold addCongruences
  by_cases hd : g.spaceDim < cgs.dim
  · rw [if_pos hd]
    exact ⟨⟨fun _ => hd, fun _ => rfl⟩, fun _ => rfl, fun _ => rfl, (fun h => by cases h)⟩
  · rw [if_neg hd]
    by_cases hemp : g.st.empty = true
    · have : (!g.markedEmpty) = false := by simp [Grid.markedEmpty, hemp]
      rw [this, if_neg Bool.false_ne_true]
      refine ⟨⟨(fun h => by cases h), fun h => absurd h hd⟩, fun _ => rfl, fun _ => rfl, fun _ => ⟨hI, ?_, rfl⟩⟩
      rw [sem_of_empty hemp, Set.empty_inter]
    · have hne : g.st.empty = false := by simpa using hemp
      have : (!g.markedEmpty) = true := by simp [Grid.markedEmpty, hne]
      rw [this, if_pos rfl]
      exact cn_addRecycledCongruences g cgs hI hw

example : CWf 1 [{ e := [1, 3], m := 6 }, { e := [0, 1], m := 0 }] ∧
    (addCongruences cn_exGrid ⟨1, [{ e := [1, 3], m := 6 }, { e := [0, 1], m := 0 }]⟩).g.con =
      [{ e := [0, 1], m := 2 }, { e := [1, 3], m := 6 }, { e := [0, 1], m := 0 }] :=
  ⟨by unfold CWf; decide, by decide⟩

/-! ## A `Constraint` argument — `add_constraint_no_check`, `add_constraint`, `refine_no_check`, `refine_with_constraint`

An equality goes through `add_congruence_no_check`.  Of an inequality the grid only uses the two flags the library
computes (`is_inconsistent()`, `is_tautological()`); the statements take their truthfulness as hypotheses
(`cn_ConOK`): `inconsistent` ⇒ no point satisfies the constraint, `tautological` ⇒ every point of the grid does.
-/

/-- the points that satisfy a constraint: `⟨e,x⟩ + b = 0`, `≥ 0` or `> 0` -/
def cn_conSet (c : Con) : Set Pt :=
  {x | if c.kind = 0 then evalRow c.e x = 0 else if c.kind = 2 then 0 < evalRow c.e x else 0 ≤ evalRow c.e x}

/-- what the statements need of a constraint argument: it fits the space, its flags are truthful (on `S`) -/
def cn_ConOK (n : Nat) (S : Set Pt) (c : Con) : Prop :=
  c.spaceDim ≤ n ∧ c.e ≠ [] ∧ (c.inconsistent = true → cn_conSet c = ∅) ∧ (c.tautological = true → S ⊆ cn_conSet c)

theorem cn_ConOK_mono (n : Nat) (S S' : Set Pt) (c : Con) (h : S' ⊆ S) (hc : cn_ConOK n S c) : cn_ConOK n S' c :=
  ⟨hc.1, hc.2.1, hc.2.2.1, fun ht => h.trans (hc.2.2.2 ht)⟩

/-- an inequality that is neither inconsistent nor tautological: `add_constraint` throws, `refine_with_constraint`
    ignores it -/
def cn_hardIneq (c : Con) : Bool := !c.isEquality && !c.inconsistent && !c.tautological

theorem cn_toCg_set (c : Con) (h : c.isEquality = true) : CRow.set c.toCg = cn_conSet c := by
  have hk : c.kind = 0 := by simpa [Con.isEquality] using h
  ext x
  rw [cn_mem_set]
  unfold rsem Con.toCg cn_conSet
  simp only [Set.mem_ofPred_eq, if_pos hk, Int.cast_zero, mul_zero, exists_const]

/-- Grid_nonpublic.cc:716 `add_constraint_no_check(c)` on a grid that is not marked empty -/
theorem cn_addConstraintNoCheck (g : Grid) (c : Con) (hI : GridInv g)
    (hne : g.st.empty = false) (hc : cn_ConOK g.spaceDim g.sem c) :
    ((addConstraintNoCheck g c).thrown = true ↔ cn_hardIneq c = true) ∧
    ((addConstraintNoCheck g c).thrown = true → (addConstraintNoCheck g c).g = g) ∧
    GridInv (addConstraintNoCheck g c).g ∧ (addConstraintNoCheck g c).g.spaceDim = g.spaceDim ∧
    ((addConstraintNoCheck g c).thrown = false → (addConstraintNoCheck g c).g.sem = g.sem ∩ cn_conSet c) := by
  obtain ⟨hd, he, hinc, htaut⟩ := hc
  unfold addConstraintNoCheck cn_hardIneq
  by_cases heq : c.isEquality = true
  · have hb : (!c.isEquality) = false := by rw [heq]; rfl
    rw [if_neg (by rw [hb]; exact Bool.false_ne_true)]
    have := cn_addCongruenceNoCheck g c.toCg hI hne hd (le_refl _) he
    rw [cn_toCg_set c heq] at this
    exact ⟨⟨(fun h => by cases h), (fun h => by rw [hb] at h; simp at h)⟩, (fun h => by cases h), this.1, this.2.2,
      fun _ => this.2.1⟩
  · have heq' : c.isEquality = false := by simpa using heq
    rw [heq']
    simp only [Bool.not_false, if_true, Bool.true_and]
    by_cases hi : c.inconsistent = true
    · rw [if_pos hi, hi]
      refine ⟨⟨(fun h => by cases h), (fun h => by simp at h)⟩, (fun h => by cases h), setEmpty_inv g, rfl, fun _ => ?_⟩
      rw [setEmpty_sem, hinc hi, Set.inter_empty]
    · have hi' : c.inconsistent = false := by simpa using hi
      rw [if_neg hi, hi']
      by_cases ht : c.tautological = true
      · rw [if_pos ht, ht]
        refine ⟨⟨(fun h => by cases h), (fun h => by simp at h)⟩, (fun h => by cases h), hI, rfl, fun _ => ?_⟩
        rw [Set.inter_eq_left.mpr (htaut ht)]
      · have ht' : c.tautological = false := by simpa using ht
        rw [if_neg ht, ht']
        exact ⟨⟨fun _ => rfl, fun _ => rfl⟩, fun _ => rfl, hI, rfl, (fun h => by cases h)⟩

theorem cn_hardIneq_eq (c : Con) : cn_hardIneq c = c.isHardInequality := rfl

/-- Grid_inlines.hh `add_constraint(c)` (after 680f35a): throws on a dimension mismatch and on a non-trivial inequality,
    whether or not the receiver is marked empty; the object is then unchanged -/
theorem cn_addConstraint (g : Grid) (c : Con) (hI : GridInv g)
    (hc : c.spaceDim ≤ g.spaceDim → cn_ConOK g.spaceDim g.sem c) :
    ((addConstraint g c).thrown = true ↔ (g.spaceDim < c.spaceDim ∨ cn_hardIneq c = true)) ∧
    ((addConstraint g c).thrown = true → (addConstraint g c).g = g) ∧
    (g.st.empty = true → (addConstraint g c).g = g) ∧
    GridInv (addConstraint g c).g ∧ (addConstraint g c).g.spaceDim = g.spaceDim ∧
    ((addConstraint g c).thrown = false → (addConstraint g c).g.sem = g.sem ∩ cn_conSet c) := by
  unfold addConstraint
  by_cases hd : g.spaceDim < c.spaceDim
  · rw [if_pos hd]
    exact ⟨⟨fun _ => Or.inl hd, fun _ => rfl⟩, fun _ => rfl, fun _ => rfl, hI, rfl, (fun h => by cases h)⟩
  · rw [if_neg hd]
    by_cases hemp : g.st.empty = true
    · have : (!g.markedEmpty) = false := by simp [Grid.markedEmpty, hemp]
      rw [this, if_neg Bool.false_ne_true]
      by_cases hh : c.isHardInequality = true
      · rw [if_pos hh]
        exact ⟨⟨fun _ => Or.inr hh, fun _ => rfl⟩, fun _ => rfl, fun _ => rfl, hI, rfl, (fun h => by cases h)⟩
      · rw [if_neg hh]
        refine ⟨⟨(fun h => by cases h), ?_⟩, fun _ => rfl, fun _ => rfl, hI, rfl, fun _ => ?_⟩
        · rintro (h | h)
          · exact absurd h hd
          · exact absurd h hh
        · rw [sem_of_empty hemp, Set.empty_inter]
    · have hne : g.st.empty = false := by simpa using hemp
      have : (!g.markedEmpty) = true := by simp [Grid.markedEmpty, hne]
      rw [this, if_pos rfl]
      obtain ⟨h1, h2, h3, h4, h5⟩ := cn_addConstraintNoCheck g c hI hne (hc (by omega))
      refine ⟨⟨fun h => Or.inr (h1.mp h), ?_⟩, h2, fun h => absurd h hemp, h3, h4, h5⟩
      rintro (h | h)
      · exact absurd h hd
      · exact h1.mpr h

/-- the constraints `refine_with_constraint` takes into account -/
def cn_eff (c : Con) : Bool := c.isEquality || c.inconsistent

/-- Grid_nonpublic.cc:739 `refine_no_check(c)` on a grid that is not marked empty: an equality or an inconsistent
    inequality cuts the grid, any other inequality is ignored -/
theorem cn_refineNoCheck (g : Grid) (c : Con) (hI : GridInv g)
    (hne : g.st.empty = false) (hc : cn_ConOK g.spaceDim g.sem c) :
    GridInv (refineNoCheck g c) ∧ (refineNoCheck g c).spaceDim = g.spaceDim ∧
    (cn_eff c = true → (refineNoCheck g c).sem = g.sem ∩ cn_conSet c) ∧
    (cn_eff c = false → refineNoCheck g c = g) ∧
    (c.tautological = true → (refineNoCheck g c).sem = g.sem ∩ cn_conSet c) := by
  obtain ⟨hd, he, hinc, htaut⟩ := hc
  unfold refineNoCheck cn_eff
  by_cases heq : c.isEquality = true
  · rw [if_pos heq, heq]
    have := cn_addCongruenceNoCheck g c.toCg hI hne hd (le_refl _) he
    rw [cn_toCg_set c heq] at this
    exact ⟨this.1, this.2.2, fun _ => this.2.1, (fun h => by simp at h), fun _ => this.2.1⟩
  · have heq' : c.isEquality = false := by simpa using heq
    rw [if_neg heq, heq']
    by_cases hi : c.inconsistent = true
    · rw [if_pos hi, hi]
      have hs : (setEmpty g).sem = g.sem ∩ cn_conSet c := by rw [setEmpty_sem, hinc hi, Set.inter_empty]
      exact ⟨setEmpty_inv g, rfl, fun _ => hs, (fun h => by simp at h), fun _ => hs⟩
    · have hi' : c.inconsistent = false := by simpa using hi
      rw [if_neg hi, hi']
      exact ⟨hI, rfl, (fun h => by simp at h), fun _ => rfl,
        fun ht => by rw [Set.inter_eq_left.mpr (htaut ht)]⟩

/-- Grid_public.cc:1467 `refine_with_constraint(c)`: throws exactly on a dimension mismatch -/
theorem cn_refineWithConstraint (g : Grid) (c : Con) (hI : GridInv g)
    (hc : c.spaceDim ≤ g.spaceDim → cn_ConOK g.spaceDim g.sem c) :
    ((refineWithConstraint g c).thrown = true ↔ g.spaceDim < c.spaceDim) ∧
    ((refineWithConstraint g c).thrown = true → (refineWithConstraint g c).g = g) ∧
    (g.st.empty = true → (refineWithConstraint g c).g = g) ∧
    GridInv (refineWithConstraint g c).g ∧ (refineWithConstraint g c).g.spaceDim = g.spaceDim ∧
    ((refineWithConstraint g c).thrown = false → cn_eff c = true ∨ c.tautological = true →
      (refineWithConstraint g c).g.sem = g.sem ∩ cn_conSet c) ∧
    (cn_eff c = false → (refineWithConstraint g c).g = g) := by
  unfold refineWithConstraint
  by_cases hd : g.spaceDim < c.spaceDim
  · rw [if_pos hd]
    exact ⟨⟨fun _ => hd, fun _ => rfl⟩, fun _ => rfl, fun _ => rfl, hI, rfl, (fun h => by cases h), fun _ => rfl⟩
  · rw [if_neg hd]
    by_cases hemp : g.st.empty = true
    · have : g.markedEmpty = true := hemp
      rw [if_pos this]
      refine ⟨⟨(fun h => by cases h), fun h => absurd h hd⟩, fun _ => rfl, fun _ => rfl, hI, rfl, fun _ _ => ?_,
        fun _ => rfl⟩
      rw [sem_of_empty hemp, Set.empty_inter]
    · have hne : g.st.empty = false := by simpa using hemp
      have : ¬ (g.markedEmpty = true) := hemp
      rw [if_neg this]
      obtain ⟨h1, h2, h3, h4, h5⟩ := cn_refineNoCheck g c hI hne (hc (by omega))
      exact ⟨⟨(fun h => by cases h), fun h => absurd h hd⟩, (fun h => by cases h), fun h => absurd h hemp, h1, h2,
        fun _ h => h.elim h3 h5, h4⟩

/-- `x = 1` added to `x ≡ 0 (mod 2)`: not thrown; `x ≥ 0` with truthful flags: thrown -/
example : cn_ConOK 1 cn_exGrid.sem ⟨0, false, false, [-1, 1]⟩ ∧ cn_ConOK 1 cn_exGrid.sem ⟨1, false, false, [0, 1]⟩ ∧
    (addConstraint cn_exGrid ⟨0, false, false, [-1, 1]⟩).thrown = false ∧
    (addConstraint cn_exGrid ⟨1, false, false, [0, 1]⟩).thrown = true ∧
    (refineWithConstraint cn_exGrid ⟨1, false, false, [0, 1]⟩).thrown = false := by
  refine ⟨⟨by decide, by decide, (fun h => by cases h), (fun h => by cases h)⟩,
    ⟨by decide, by decide, (fun h => by cases h), (fun h => by cases h)⟩, by decide, by decide, by decide⟩

/-! ## `add_constraints(cs)`, `refine_with_constraints(cs)` — the loops -/

/-- the points that satisfy every constraint of a list -/
def cn_consSetL (cs : List Con) : Set Pt := {x | ∀ c ∈ cs, x ∈ cn_conSet c}

theorem cn_consSetL_nil : cn_consSetL [] = Set.univ := by ext x; simp [cn_consSetL]
theorem cn_consSetL_cons (c : Con) (cs : List Con) : cn_consSetL (c :: cs) = cn_conSet c ∩ cn_consSetL cs := by
  ext x; simp [cn_consSetL]

theorem cn_addConstraintsLoop_cons (g : Grid) (c : Con) (cs : List Con) :
    addConstraintsLoop g (c :: cs) =
      if (addConstraintNoCheck g c).thrown = true then addConstraintNoCheck g c
      else if (addConstraintNoCheck g c).g.markedEmpty = true then addConstraintNoCheck g c
      else addConstraintsLoop (addConstraintNoCheck g c).g cs := rfl

/-- the loop of `add_constraints` on a grid that is not marked empty: without a throw the grid is cut by every
    constraint (the loop stops early on a grid that became empty); a throw happens at the first non-trivial inequality
    `c`, and the object has then been cut by the constraints before `c`.  Since 7218b6b `add_constraints` validates the
    whole system before it enters the loop, so the throwing branch is not reached from it. -/
theorem cn_addConstraintsLoop (cs : List Con) :
    ∀ g : Grid, GridInv g → g.st.empty = false → (∀ c ∈ cs, cn_ConOK g.spaceDim g.sem c) →
    GridInv (addConstraintsLoop g cs).g ∧ (addConstraintsLoop g cs).g.spaceDim = g.spaceDim ∧
    ((addConstraintsLoop g cs).thrown = false → (addConstraintsLoop g cs).g.sem = g.sem ∩ cn_consSetL cs) ∧
    ((addConstraintsLoop g cs).thrown = true → ∃ pre c post, cs = pre ++ c :: post ∧ cn_hardIneq c = true ∧
        (addConstraintsLoop g cs).g.sem = g.sem ∩ cn_consSetL pre) ∧
    ((∀ c ∈ cs, cn_hardIneq c = false) → (addConstraintsLoop g cs).thrown = false) := by
  induction cs with
  | nil =>
    intro g hI _ _
    exact ⟨hI, rfl, fun _ => by rw [cn_consSetL_nil, Set.inter_univ]; rfl, (fun h => by cases h), fun _ => rfl⟩
  | cons c cs ih =>
    intro g hI hne hok
    obtain ⟨h1, h2, h3, h4, h5⟩ := cn_addConstraintNoCheck g c hI hne (hok c (List.mem_cons_self ..))
    rw [cn_addConstraintsLoop_cons]
    by_cases hthr : (addConstraintNoCheck g c).thrown = true
    · rw [if_pos hthr]
      refine ⟨h3, h4, (fun h => by rw [hthr] at h; cases h), fun _ => ⟨[], c, cs, rfl, h1.mp hthr, ?_⟩, fun hall => ?_⟩
      · rw [h2 hthr, cn_consSetL_nil, Set.inter_univ]
      · have := hall c (List.mem_cons_self ..)
        rw [h1.mp hthr] at this; cases this
    · have hnt : (addConstraintNoCheck g c).thrown = false := by simpa using hthr
      have hsem := h5 hnt
      rw [if_neg hthr]
      by_cases hme : (addConstraintNoCheck g c).g.markedEmpty = true
      · rw [if_pos hme]
        refine ⟨h3, h4, fun _ => ?_, (fun h => by rw [hnt] at h; cases h), fun _ => hnt⟩
        have he0 : (addConstraintNoCheck g c).g.sem = ∅ := sem_of_empty hme
        rw [he0, cn_consSetL_cons, ← Set.inter_assoc, ← hsem, he0, Set.empty_inter]
      · rw [if_neg hme]
        have hne1 : (addConstraintNoCheck g c).g.st.empty = false := by simpa [Grid.markedEmpty] using hme
        have hsub : (addConstraintNoCheck g c).g.sem ⊆ g.sem := by rw [hsem]; exact Set.inter_subset_left
        obtain ⟨i1, i2, i3, i4, i5⟩ := ih (addConstraintNoCheck g c).g h3 hne1 (fun c' hc' => by
          rw [h4]; exact cn_ConOK_mono _ _ _ _ hsub (hok c' (List.mem_cons_of_mem _ hc')))
        refine ⟨i1, i2.trans h4, fun h => ?_, fun h => ?_, fun hall => i5 (fun c' hc' => hall c' (List.mem_cons_of_mem _ hc'))⟩
        · rw [i3 h, hsem, cn_consSetL_cons, Set.inter_assoc]
        · obtain ⟨pre, c', post, hcs, hh, hs⟩ := i4 h
          exact ⟨c :: pre, c', post, by rw [hcs]; rfl, hh, by rw [hs, hsem, cn_consSetL_cons, Set.inter_assoc]⟩

/-- `add_constraint_no_check` throws exactly on a non-trivial inequality (control flow only) -/
theorem cn_noCheck_thrown_iff (g : Grid) (c : Con) : (addConstraintNoCheck g c).thrown = true ↔ cn_hardIneq c = true := by
  unfold addConstraintNoCheck cn_hardIneq
  cases c.isEquality <;> cases c.inconsistent <;> cases c.tautological <;> simp

theorem cn_loop_not_thrown (cs : List Con) (h : ∀ c ∈ cs, cn_hardIneq c = false) :
    ∀ g : Grid, (addConstraintsLoop g cs).thrown = false := by
  induction cs with
  | nil => intro g; rfl
  | cons c cs ih =>
    intro g
    rw [cn_addConstraintsLoop_cons]
    have hnt : ¬ (addConstraintNoCheck g c).thrown = true := fun ht => by
      have := (cn_noCheck_thrown_iff g c).mp ht
      rw [h c (List.mem_cons_self ..)] at this; cases this
    rw [if_neg hnt]
    split
    · simpa using hnt
    · exact ih (fun c' hc' => h c' (List.mem_cons_of_mem _ hc')) _

theorem cn_any_hard_iff (cs : List Con) : cs.any Con.isHardInequality = true ↔ ∃ c ∈ cs, cn_hardIneq c = true := by
  rw [List.any_eq_true]; rfl

/-- Grid_public.cc:1272 `add_constraints(cs)` (after 7218b6b): a rejected call leaves the object unchanged — a fact about
    the control flow only -/
theorem cn_addConstraints_rejected_unchanged (g : Grid) (csDim : Nat) (cs : List Con)
    (h : (addConstraints g csDim cs).thrown = true) : (addConstraints g csDim cs).g = g := by
  unfold addConstraints at h ⊢
  by_cases hd : g.spaceDim < csDim
  · rw [if_pos hd]
  · rw [if_neg hd] at h ⊢
    by_cases hh : cs.any Con.isHardInequality = true
    · rw [if_pos hh]
    · rw [if_neg hh] at h ⊢
      by_cases hm : g.markedEmpty = true
      · rw [if_pos hm]
      · rw [if_neg hm] at h
        have hall : ∀ c ∈ cs, cn_hardIneq c = false := fun c hc => by
          by_contra hc'
          exact hh ((cn_any_hard_iff cs).mpr ⟨c, hc, by simpa using hc'⟩)
        rw [cn_loop_not_thrown cs hall g] at h; cases h

/-- Grid_public.cc:1272 `add_constraints(cs)` (after 7218b6b): throws exactly on a dimension mismatch or when the system
    holds a non-trivial inequality, and then the object is unchanged; otherwise the grid is cut by every constraint -/
theorem cn_addConstraints (g : Grid) (csDim : Nat) (cs : List Con) (hI : GridInv g)
    (hok : csDim ≤ g.spaceDim → ∀ c ∈ cs, cn_ConOK g.spaceDim g.sem c) :
    ((addConstraints g csDim cs).thrown = true ↔ (g.spaceDim < csDim ∨ ∃ c ∈ cs, cn_hardIneq c = true)) ∧
    ((addConstraints g csDim cs).thrown = true → (addConstraints g csDim cs).g = g) ∧
    (g.st.empty = true → (addConstraints g csDim cs).g = g) ∧
    GridInv (addConstraints g csDim cs).g ∧ (addConstraints g csDim cs).g.spaceDim = g.spaceDim ∧
    ((addConstraints g csDim cs).thrown = false → (addConstraints g csDim cs).g.sem = g.sem ∩ cn_consSetL cs) := by
  refine ⟨?_, cn_addConstraints_rejected_unchanged g csDim cs, ?_⟩
  · unfold addConstraints
    by_cases hd : g.spaceDim < csDim
    · rw [if_pos hd]; exact ⟨fun _ => Or.inl hd, fun _ => rfl⟩
    · rw [if_neg hd]
      by_cases hh : cs.any Con.isHardInequality = true
      · rw [if_pos hh]; exact ⟨fun _ => Or.inr ((cn_any_hard_iff cs).mp hh), fun _ => rfl⟩
      · rw [if_neg hh]
        have hall : ∀ c ∈ cs, cn_hardIneq c = false := fun c hc => by
          by_contra hc'
          exact hh ((cn_any_hard_iff cs).mpr ⟨c, hc, by simpa using hc'⟩)
        have hnot : ¬ (g.spaceDim < csDim ∨ ∃ c ∈ cs, cn_hardIneq c = true) := by
          rintro (h | ⟨c, hc, h⟩)
          · exact hd h
          · rw [hall c hc] at h; cases h
        by_cases hm : g.markedEmpty = true
        · rw [if_pos hm]; exact ⟨(fun h => by cases h), fun h => absurd h hnot⟩
        · rw [if_neg hm, cn_loop_not_thrown cs hall g]; exact ⟨(fun h => by cases h), fun h => absurd h hnot⟩
  · unfold addConstraints
    by_cases hd : g.spaceDim < csDim
    · rw [if_pos hd]; exact ⟨fun _ => rfl, hI, rfl, (fun h => by cases h)⟩
    · rw [if_neg hd]
      by_cases hh : cs.any Con.isHardInequality = true
      · rw [if_pos hh]; exact ⟨fun _ => rfl, hI, rfl, (fun h => by cases h)⟩
      · rw [if_neg hh]
        by_cases hemp : g.st.empty = true
        · rw [if_pos (show g.markedEmpty = true from hemp)]
          refine ⟨fun _ => rfl, hI, rfl, fun _ => ?_⟩
          rw [sem_of_empty hemp, Set.empty_inter]
        · have hne : g.st.empty = false := by simpa using hemp
          rw [if_neg (show ¬ (g.markedEmpty = true) from hemp)]
          obtain ⟨h1, h2, h3, _, _⟩ := cn_addConstraintsLoop cs g hI hne (hok (by omega))
          exact ⟨fun h => absurd h hemp, h1, h2, h3⟩

/-! ### `refine_with_constraints` -/

theorem cn_refineLoop_cons (g : Grid) (c : Con) (cs : List Con) :
    refineWithConstraintsLoop g (c :: cs) =
      if g.markedEmpty = true then g else refineWithConstraintsLoop (refineNoCheck g c) cs := rfl

/-- the loop of `refine_with_constraints`: the grid is cut by the equalities and the inconsistent inequalities, the
    other inequalities are ignored -/
theorem cn_refineLoop (cs : List Con) :
    ∀ g : Grid, GridInv g → (∀ c ∈ cs, cn_ConOK g.spaceDim g.sem c) →
    GridInv (refineWithConstraintsLoop g cs) ∧ (refineWithConstraintsLoop g cs).spaceDim = g.spaceDim ∧
    (refineWithConstraintsLoop g cs).sem = g.sem ∩ cn_consSetL (cs.filter cn_eff) := by
  induction cs with
  | nil =>
    intro g hI _
    exact ⟨hI, rfl, by rw [List.filter_nil, cn_consSetL_nil, Set.inter_univ]; rfl⟩
  | cons c cs ih =>
    intro g hI hok
    rw [cn_refineLoop_cons]
    by_cases hemp : g.st.empty = true
    · have : g.markedEmpty = true := hemp
      rw [if_pos this]
      exact ⟨hI, rfl, by rw [sem_of_empty hemp, Set.empty_inter]⟩
    · have hne : g.st.empty = false := by simpa using hemp
      have : ¬ (g.markedEmpty = true) := hemp
      rw [if_neg this]
      obtain ⟨h1, h2, h3, h4, _⟩ := cn_refineNoCheck g c hI hne (hok c (List.mem_cons_self ..))
      have hsub : (refineNoCheck g c).sem ⊆ g.sem := by
        by_cases he : cn_eff c = true
        · rw [h3 he]; exact Set.inter_subset_left
        · rw [h4 (by simpa using he)]
      obtain ⟨i1, i2, i3⟩ := ih (refineNoCheck g c) h1 (fun c' hc' => by
        rw [h2]; exact cn_ConOK_mono _ _ _ _ hsub (hok c' (List.mem_cons_of_mem _ hc')))
      refine ⟨i1, i2.trans h2, ?_⟩
      rw [i3]
      by_cases he : cn_eff c = true
      · rw [List.filter_cons_of_pos he, cn_consSetL_cons, h3 he, Set.inter_assoc]
      · rw [List.filter_cons_of_neg he, h4 (by simpa using he)]

/-- constraints whose set contains `S` can be dropped from an intersection with `S` -/
theorem cn_consSetL_filter (S : Set Pt) (cs : List Con) (p : Con → Bool)
    (h : ∀ c ∈ cs, p c = false → S ⊆ cn_conSet c) : S ∩ cn_consSetL (cs.filter p) = S ∩ cn_consSetL cs := by
  ext x
  simp only [Set.mem_inter_iff, cn_consSetL, Set.mem_ofPred_eq, List.mem_filter, and_imp]
  constructor
  · rintro ⟨hx, hall⟩
    refine ⟨hx, fun c hc => ?_⟩
    by_cases hp : p c = true
    · exact hall c hc hp
    · exact h c hc (by simpa using hp) hx
  · rintro ⟨hx, hall⟩; exact ⟨hx, fun c hc _ => hall c hc⟩

/-- Grid_public.cc:1479 `refine_with_constraints(cs)`: throws exactly on a dimension mismatch; the grid is cut by the
    equalities and the inconsistent inequalities — by all of `cs` when every other inequality is tautological -/
theorem cn_refineWithConstraints (g : Grid) (csDim : Nat) (cs : List Con) (hI : GridInv g)
    (hok : csDim ≤ g.spaceDim → ∀ c ∈ cs, cn_ConOK g.spaceDim g.sem c) :
    ((refineWithConstraints g csDim cs).thrown = true ↔ g.spaceDim < csDim) ∧
    ((refineWithConstraints g csDim cs).thrown = true → (refineWithConstraints g csDim cs).g = g) ∧
    GridInv (refineWithConstraints g csDim cs).g ∧ (refineWithConstraints g csDim cs).g.spaceDim = g.spaceDim ∧
    ((refineWithConstraints g csDim cs).thrown = false →
      (refineWithConstraints g csDim cs).g.sem = g.sem ∩ cn_consSetL (cs.filter cn_eff) ∧
      ((∀ c ∈ cs, cn_eff c = false → c.tautological = true) →
        (refineWithConstraints g csDim cs).g.sem = g.sem ∩ cn_consSetL cs)) := by
  unfold refineWithConstraints
  by_cases hd : g.spaceDim < csDim
  · rw [if_pos hd]
    exact ⟨⟨fun _ => hd, fun _ => rfl⟩, fun _ => rfl, hI, rfl, (fun h => by cases h)⟩
  · rw [if_neg hd]
    have hok' := hok (by omega)
    obtain ⟨h1, h2, h3⟩ := cn_refineLoop cs g hI hok'
    refine ⟨⟨(fun h => by cases h), fun h => absurd h hd⟩, (fun h => by cases h), h1, h2, fun _ => ⟨h3, fun ht => ?_⟩⟩
    rw [h3]
    exact cn_consSetL_filter g.sem cs cn_eff (fun c hc he => (hok' c hc).2.2.2 (ht c hc he))

example : (addConstraints cn_exGrid 1 [⟨0, false, false, [-2, 1]⟩, ⟨1, false, true, [1]⟩]).thrown = false ∧
    (addConstraints cn_exGrid 1 [⟨1, false, false, [0, 1]⟩, ⟨0, false, false, [-1, 1]⟩]).thrown = true ∧
    (refineWithConstraints cn_exGrid 1 [⟨1, false, false, [0, 1]⟩, ⟨0, false, false, [-2, 1]⟩]).g.con =
      [{ e := [0, 1], m := 2 }, { e := [-2, 1], m := 0 }] := by decide

end PPLV.Lattice.GO

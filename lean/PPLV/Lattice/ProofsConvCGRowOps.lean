import PPLV.Lattice.ProofsConvCGBase

/-!
# `Grid::conversion` (congruences → generators): what the two inner loops of one `dim` do to the rows

* `cgDivPhase_spec`: the loop of `multiply_grid` + exact division of column `dim` (Grid_conversion.cc:439-452);
* `cgColPhase_spec`: the loop over `dim_fol` subtracting multiples of column `dim` (Grid_conversion.cc:463-490).
-/
namespace PPLV.Lattice.Red

/-- entry `k` of generator row `i` -/
def gEnt (T : List GRow) (i k : Nat) : Int := get (rowAt T i).e k

/-! ### the column phase -/

def gSubOp (s : Int) (dim f : Nat) (g : GRow) : GRow := { g with e := g.e.set f (get g.e f - s * get g.e dim) }

theorem cgSubRow_eq (s : Int) (dim f : Nat) : cgSubRow s dim f = fun d i => d.set i (gSubOp s dim f (rowAt d i)) := rfl

def cgColStep (source : List CRow) (dk : List Nat) (dim destIndex : Nat) (s : Nat × List GRow) (dimFol : Nat) :
    Nat × List GRow :=
  if kind dk dimFol ≠ CON_VIRTUAL then
    let tsi := s.1 - 1
    let sourceDim := get (rowAt source tsi).e dim
    (tsi, (dimsDown destIndex).foldl (cgSubRow sourceDim dim dimFol) s.2)
  else s

/-- the rows after the column phase -/
structure GColSpec (source : List CRow) (dk : List Nat) (dims dim K : Nat) (T T2 : List GRow) : Prop where
  len : T2.length = T.length
  line : ∀ i, i < T.length → (rowAt T2 i).line = (rowAt T i).line
  elen : ∀ i, i < T.length → (rowAt T2 i).e.length = (rowAt T i).e.length
  ent : ∀ i, i < T.length → ∀ k, gEnt T2 i k =
    if i < K ∧ dim < k ∧ k < dims ∧ nlB dk k = true then gEnt T i k - cEnt source (pos dk dims k) dim * gEnt T i dim
    else gEnt T i k

theorem cgColPhase_spec (source : List CRow) (dk : List Nat) (dims dim K : Nat) (T : List GRow) (hd : dim < dims)
    (hrows : ∀ i, i < T.length → (rowAt T i).e.length = dims + 1) :
    GColSpec source dk dims dim K T
      ((List.range' (dim + 1) (dims - (dim + 1))).foldl (cgColStep source dk dim K) (nl dk dims - nl dk (dim + 1), T)).2 := by
  have key := foldl_range'_inv (cgColStep source dk dim K)
    (fun f s => s.1 = nl dk dims - nl dk f ∧ s.2.length = T.length ∧
      (∀ i, i < T.length → (rowAt s.2 i).line = (rowAt T i).line) ∧
      (∀ i, i < T.length → (rowAt s.2 i).e.length = (rowAt T i).e.length) ∧
      ∀ i, i < T.length → ∀ k, gEnt s.2 i k =
        if i < K ∧ dim < k ∧ k < f ∧ nlB dk k = true then gEnt T i k - cEnt source (pos dk dims k) dim * gEnt T i dim
        else gEnt T i k) (dims - (dim + 1)) (dim + 1) (nl dk dims - nl dk (dim + 1), T) ?_ ?_
  · rw [show dim + 1 + (dims - (dim + 1)) = dims by omega] at key
    obtain ⟨_, h2, h3, h4, h5⟩ := key
    exact ⟨h2, h3, h4, h5⟩
  · refine ⟨rfl, rfl, fun _ _ => rfl, fun _ _ => rfl, fun i _ k => ?_⟩
    rw [if_neg (by omega)]
  · rintro f s hf1 hf2 ⟨h1, h2, h3, h4, h5⟩
    have hfd : f < dims := by omega
    unfold cgColStep
    by_cases hv : kind dk f = CON_VIRTUAL
    · have hvb : nlB dk f = false := by simp [nlB, hv, CON_VIRTUAL, LINE]
      simp only [hv, ne_eq, not_true_eq_false, if_false]
      refine ⟨h1.trans (cntBelow_sub_neg _ f dims hvb), h2, h3, h4, fun i hi k => ?_⟩
      rw [h5 i hi k]
      by_cases hkp : k = f
      · subst hkp; simp [hvb]
      · by_cases hc : i < K ∧ dim < k ∧ k < f ∧ nlB dk k = true
        · rw [if_pos hc, if_pos ⟨hc.1, hc.2.1, by omega, hc.2.2.2⟩]
        · rw [if_neg hc, if_neg (fun h => hc ⟨h.1, h.2.1, by omega, h.2.2.2⟩)]
    · have hvb : nlB dk f = true := by simpa [nlB, CON_VIRTUAL, LINE] using hv
      have hsi : s.1 - 1 = pos dk dims f := Nat.sub_eq_of_eq_add (h1.trans (cntBelow_sub_pos _ hfd hvb))
      simp only [hv, ne_eq, not_false_eq_true, if_true]
      rw [hsi, cgSubRow_eq]
      obtain ⟨f1, f2⟩ := foldl_rowop (gSubOp (get (rowAt source (pos dk dims f)).e dim) dim f) K s.2
      refine ⟨rfl, by rw [f1, h2], fun i hi => ?_, fun i hi => ?_, fun i hi k => ?_⟩
      · rw [f2 i]; split
        · exact h3 i hi
        · exact h3 i hi
      · rw [f2 i]; split
        · simp only [gSubOp, List.length_set]; exact h4 i hi
        · exact h4 i hi
      · simp only [gEnt]
        rw [f2 i]
        have hlen : f < (rowAt s.2 i).e.length := by rw [h4 i hi, hrows i hi]; omega
        by_cases hiK : i < K
        · rw [if_pos ⟨hiK, by omega⟩]
          simp only [gSubOp]
          rw [get_set]
          by_cases hkp : k = f
          · subst hkp
            rw [if_pos ⟨rfl, hlen⟩, if_pos ⟨hiK, by omega, by omega, hvb⟩]
            have a1 := h5 i hi k
            have a2 := h5 i hi dim
            rw [if_neg (by omega)] at a1 a2
            simp only [gEnt] at a1 a2
            rw [a1, a2]; rfl
          · rw [if_neg (by omega)]
            have a1 := h5 i hi k
            simp only [gEnt] at a1
            rw [a1]
            by_cases hc : i < K ∧ dim < k ∧ k < f ∧ nlB dk k = true
            · rw [if_pos hc, if_pos ⟨hc.1, hc.2.1, by omega, hc.2.2.2⟩]
            · rw [if_neg hc, if_neg (fun h => hc ⟨h.1, h.2.1, by omega, h.2.2.2⟩)]
        · rw [if_neg (by omega)]
          have a1 := h5 i hi k
          simp only [gEnt] at a1
          rw [a1, if_neg (by omega), if_neg (by omega)]

/-! ### `multiply_grid` -/

/-- `g'` is `g` scaled by `f` -/
structure GScaled (g g' : GRow) (f : Int) : Prop where
  line : g'.line = g.line
  elen : g'.e.length = g.e.length
  get : ∀ k, get g'.e k = get g.e k * f

theorem GScaled.refl (g : GRow) : GScaled g g 1 := ⟨rfl, rfl, fun k => by simp⟩
theorem GScaled.mulAll (g : GRow) (f : Int) : GScaled g { g with e := mulAll g.e f } f :=
  ⟨rfl, by simp, fun k => get_mulAll g.e f k⟩

theorem multiplyGridGen_spec (mult : Int) (hm : 0 < mult) (T : List GRow) (r N : Nat) (hN : T.length ≤ N) :
    (multiplyGridGen mult T r N).length = T.length ∧
    ∃ g : Int, 0 < g ∧ ∀ i, i < T.length → ∃ gi : Int, 0 < gi ∧ ((rowAt T i).line = false → gi = g) ∧
      (i = r → gi = mult) ∧ GScaled (rowAt T i) (rowAt (multiplyGridGen mult T r N) i) gi := by
  unfold multiplyGridGen
  by_cases h1 : mult = 1
  · rw [if_pos h1]
    exact ⟨rfl, 1, by omega, fun i _ => ⟨1, by omega, fun _ => rfl, fun _ => h1.symm, GScaled.refl _⟩⟩
  · simp only [h1, if_false]
    by_cases hp : (rowAt T r).isLine = true
    · simp only [hp, if_true]
      refine ⟨by simp, 1, by omega, fun i hi => ?_⟩
      rw [rowAt_set]
      by_cases hir : i = r
      · subst hir
        rw [if_pos ⟨rfl, hi⟩]
        refine ⟨mult, hm, fun h => ?_, fun _ => rfl, GScaled.mulAll _ _⟩
        simp only [GRow.isLine] at hp
        rw [hp] at h; exact absurd h (by simp)
      · rw [if_neg (fun h => hir h.1)]
        exact ⟨1, by omega, fun _ => rfl, fun h => absurd h hir, GScaled.refl _⟩
    · simp only [hp, Bool.false_eq_true, if_false]
      refine ⟨by simp, mult, hm, fun i hi => ?_⟩
      rw [rowAt_mapIdx T _ i hi]
      by_cases hpi : (rowAt T i).line = false
      · have : (rowAt T i).isParameterOrPoint = true := by simp [GRow.isParameterOrPoint, hpi]
        rw [if_pos ⟨by omega, this⟩]
        exact ⟨mult, hm, fun _ => rfl, fun _ => rfl, GScaled.mulAll _ _⟩
      · have : ¬ (rowAt T i).isParameterOrPoint = true := by
          simp only [GRow.isParameterOrPoint]; simpa using hpi
        rw [if_neg (fun h => this h.2)]
        refine ⟨1, by omega, fun h => absurd h hpi, fun h => ?_, GScaled.refl _⟩
        subst h
        simp only [GRow.isLine] at hp
        exact absurd (by simpa using hp) hpi

/-! ### the division phase -/

/-- rows `lo ≤ i < K` have been treated -/
structure GDivSpec (a : Int) (e lo K : Nat) (T T1 : List GRow) : Prop where
  len : T1.length = T.length
  ex : ∃ f : Int, 0 < f ∧ ∀ i, i < T.length → ∃ fi : Int, 0 < fi ∧ ((rowAt T i).line = false → fi = f) ∧
    (rowAt T1 i).line = (rowAt T i).line ∧ (rowAt T1 i).e.length = (rowAt T i).e.length ∧
    (∀ k, (k ≠ e ∨ ¬(lo ≤ i ∧ i < K)) → gEnt T1 i k = gEnt T i k * fi) ∧
    (lo ≤ i → i < K → gEnt T1 i e * a = gEnt T i e * fi)

theorem cgDivPhase_spec (a : Int) (ha : 0 < a) (e K N : Nat) (T : List GRow) (hN : T.length = N) :
    GDivSpec a e 0 K T ((dimsDown K).foldl (cgDivideRow a e N) T) := by
  refine foldl_dimsDown_inv (cgDivideRow a e N) (fun lo cur => GDivSpec a e lo K T cur) K T ?_ ?_
  · refine ⟨rfl, 1, by omega, fun i _ => ⟨1, by omega, fun _ => rfl, rfl, rfl, fun k _ => by simp, fun h1 h2 => by omega⟩⟩
  · rintro r cur hr ⟨hl, f, hf, hrow⟩
    unfold cgDivideRow
    obtain ⟨hmpos, hexact⟩ := exact_mul (get (rowAt cur r).e e) a ha
    obtain ⟨ml, g, hg, hmul⟩ := multiplyGridGen_spec _ hmpos cur r N (by omega)
    refine ⟨by simp [ml, hl], f * g, Int.mul_pos hf hg, fun i hi => ?_⟩
    obtain ⟨fi, hfi, c1, c2, c3, c4, c5⟩ := hrow i hi
    obtain ⟨gi, hgi, d1, d2, d3⟩ := hmul i (by omega)
    refine ⟨fi * gi, Int.mul_pos hfi hgi, fun hp => ?_, ?_, ?_, ?_, ?_⟩
    · have hpc : (rowAt cur i).line = false := by rw [c2]; exact hp
      rw [c1 hp, d1 hpc]
    · rw [rowAt_set]
      by_cases hir : i = r
      · subst hir
        rw [if_pos ⟨rfl, by rw [ml]; omega⟩]
        simp only []
        rw [d3.line, c2]
      · rw [if_neg (fun h => hir h.1), d3.line, c2]
    · rw [rowAt_set]
      by_cases hir : i = r
      · subst hir
        rw [if_pos ⟨rfl, by rw [ml]; omega⟩]
        simp only [length_exactDivAssign]
        rw [d3.elen, c3]
      · rw [if_neg (fun h => hir h.1), d3.elen, c3]
    · intro k hk
      simp only [gEnt]
      rw [rowAt_set]
      by_cases hir : i = r
      · subst hir
        rw [if_pos ⟨rfl, by rw [ml]; omega⟩]
        simp only []
        rw [get_exactDivAssign]
        have hke : k ≠ e := by
          rcases hk with h | h
          · exact h
          · exact absurd ⟨Nat.le_refl _, hr⟩ h
        rw [if_neg (by omega), d3.get k]
        have := c4 k (Or.inl hke)
        simp only [gEnt] at this
        rw [this]; ring
      · rw [if_neg (fun h => hir h.1), d3.get k]
        have := c4 k (by
          rcases hk with h | h
          · exact Or.inl h
          · exact Or.inr (by omega))
        simp only [gEnt] at this
        rw [this]; ring
    · intro h1 h2
      simp only [gEnt]
      rw [rowAt_set]
      by_cases hir : i = r
      · subst hir
        rw [if_pos ⟨rfl, by rw [ml]; omega⟩]
        simp only []
        rw [get_exactDivAssign, if_pos ⟨Nat.le_refl _, by omega⟩, d3.get e, d2 rfl, hexact]
        have := c4 e (Or.inr (by omega))
        simp only [gEnt] at this
        rw [this]; ring
      · rw [if_neg (fun h => hir h.1), d3.get e]
        have := c5 (by omega) h2
        simp only [gEnt] at this
        calc get (rowAt cur i).e e * gi * a = (get (rowAt cur i).e e * a) * gi := by ring
          _ = (get (rowAt T i).e e * fi) * gi := by rw [this]
          _ = get (rowAt T i).e e * (fi * gi) := by ring

end PPLV.Lattice.Red

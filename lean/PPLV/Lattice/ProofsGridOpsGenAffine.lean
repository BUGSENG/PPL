import PPLV.Lattice.ProofsGridOpsAffineImage
import PPLV.Lattice.ProofsGridOpsAddGenerator
import PPLV.Lattice.ProofsGridOpsAddCongruence

/-!
# The `Grid` object: `generalized_affine_image/preimage(var, …)`, `bounded_affine_image/preimage`
-/
namespace PPLV.Lattice.GO
open PPLV.Lattice PPLV.Lattice.Red

/-! ## `generalized_affine_image(var, relsym, expr, denominator, modulus)` (Grid_public.cc:2127)

* `relsym = EQUAL`: the affine image; for `modulus ≠ 0` the parameter `|modulus|·e_var` is inserted afterwards;
* the other relation symbols (except `NOT_EQUAL`, which throws), `modulus = 0`: the line of `var` is added.
-/

/-! ### `if (!generators_are_up_to_date()) minimize()` -/

/-- the object after "make the generators available" -/
def lz_minGen (g : Grid) : Grid := if !g.generatorsAreUpToDate then (minimize g).1 else g

theorem lz_minGen_spec (g : Grid) (hI : GridInv g) (hpos : 0 < g.spaceDim) :
    GridInv (lz_minGen g) ∧ (lz_minGen g).sem = g.sem ∧ (lz_minGen g).spaceDim = g.spaceDim ∧
    ((lz_minGen g).st.empty = true ↔ g.sem = ∅) ∧
    ((lz_minGen g).st.empty = false → (lz_minGen g).st.gUp = true ∧ (g.sem).Nonempty) := by
  unfold lz_minGen
  by_cases hg : g.st.gUp = true
  · have : (if (!g.generatorsAreUpToDate) = true then (minimize g).1 else g) = g := by
      simp [Grid.generatorsAreUpToDate, hg]
    rw [this]
    obtain ⟨he, _⟩ := pos_of_gUp hI hg
    have hne := nonempty_of_gUp hI he hpos hg
    exact ⟨hI, rfl, rfl, by simp [he, Set.Nonempty.ne_empty hne], fun _ => ⟨hg, hne⟩⟩
  · have : (if (!g.generatorsAreUpToDate) = true then (minimize g).1 else g) = (minimize g).1 := by
      simp [Grid.generatorsAreUpToDate, hg]
    rw [this]
    obtain ⟨m1, m2, m3, m4, m5, m6⟩ := minimize_spec g hI
    refine ⟨m1, m2, m3, ⟨fun h => by rw [← m2]; exact sem_of_empty h, fun h => ?_⟩, fun h => ?_⟩
    · apply m5
      cases hb : (minimize g).2
      · rfl
      · have := m4.mp hb; rw [h] at this; exact absurd this Set.not_nonempty_empty
    · have hb : (minimize g).2 = true := by
        cases hb : (minimize g).2
        · have := m5 hb; rw [h] at this; cases this
        · rfl
      exact ⟨m1.gminUp (m6 hb hpos).2.1, m4.mp hb⟩

/-! ### the rows that are added -/

theorem lz_gridLineVar_ok (v : Nat) : gn_RowOK (gridLineVar v) :=
  ⟨by rw [gn_gridLineVar_len]; simp [GRow.spaceDim, gridLineVar], (fun h => by cases h),
    (fun _ => by rw [gn_gridLineVar_get]; simp)⟩

theorem lz_parameterVar_get (v : Nat) (m : Int) (i : Nat) :
    get (parameterVar v m).e i = if i = v + 2 then 1 else if i = v + 1 then m else 0 := by
  unfold parameterVar
  simp only [get_set, List.length_set, List.length_replicate, get_replicate_zero]
  by_cases h2 : i = v + 2
  · rw [if_pos ⟨h2, by omega⟩, if_pos h2]
  · rw [if_neg (fun h => h2 h.1), if_neg h2]
    by_cases h1 : i = v + 1
    · rw [if_pos ⟨h1, by omega⟩, if_pos h1]
    · rw [if_neg (fun h => h1 h.1), if_neg h1]

theorem lz_parameterVar_len (v : Nat) (m : Int) : (parameterVar v m).e.length = (v + 1) + 2 := by simp [parameterVar]

theorem lz_parameterVar_divisor (v : Nat) (m : Int) : (parameterVar v m).divisor = 1 := by
  rw [divisor_param (v + 1) _ (lz_parameterVar_len v m) (by rw [lz_parameterVar_get]; simp), lz_parameterVar_get]
  simp

theorem lz_parameterVar_ok (v : Nat) (m : Int) : gn_RowOK (parameterVar v m) :=
  ⟨by rw [lz_parameterVar_len]; simp [GRow.spaceDim, parameterVar], (fun _ => by rw [lz_parameterVar_divisor]; decide),
    (fun h => by cases h)⟩

theorem lz_parameterVar_isPar (v : Nat) (m : Int) : gn_isPar (parameterVar v m) = true := by
  rw [gn_isPar_iff]; exact ⟨rfl, by rw [lz_parameterVar_get]; simp⟩

/-- the parameter `m·e_v` -/
theorem lz_parameterVar_vecOf (v : Nat) (m : Int) :
    gn_vecOf (parameterVar v m) = fun i => if i = v then (m : ℚ) else 0 := by
  funext i
  unfold gn_vecOf
  rw [gn_spaceDim_of_len (lz_parameterVar_len v m), lz_parameterVar_divisor, lz_parameterVar_get]
  have hl : (parameterVar v m).line = false := rfl
  by_cases hi : i = v
  · subst hi; simp [hl]
  · by_cases h2 : i < v + 1
    · simp [hl, hi, h2]; omega
    · simp [h2, hi]

theorem lz_absI_pos (z : Int) (h : z ≠ 0) : 0 < absI z := by unfold absI; split <;> omega

/-! ### the non-`EQUAL` relation symbols: the line of `var` is added -/

theorem relsymLine_spec (g : Grid) (v : Nat) (hI : GridInv g) (hv : v + 1 ≤ g.spaceDim) :
    (relsymLine g v).thrown = false ∧ GridInv (relsymLine g v).g ∧ (relsymLine g v).g.spaceDim = g.spaceDim ∧
    (relsymLine g v).g.sem = {y | ∃ a ∈ g.sem, ∃ c : ℚ, y = a + c • (unit v).toFun} := by
  have hpos : 0 < g.spaceDim := by omega
  obtain ⟨m1, m2, m3, m4, m5⟩ := lz_minGen_spec g hI hpos
  have hunf : relsymLine g v = if (lz_minGen g).markedEmpty = true then { g := lz_minGen g }
      else addGridGenerator (lz_minGen g) (gridLineVar v) := rfl
  rw [hunf]
  by_cases he : (lz_minGen g).st.empty = true
  · rw [if_pos (show (lz_minGen g).markedEmpty = true from he)]
    have hge := m4.mp he
    refine ⟨rfl, m1, m3, ?_⟩
    rw [m2, hge]
    ext y; simp
  · rw [if_neg (show ¬ ((lz_minGen g).markedEmpty = true) from he)]
    have he' : (lz_minGen g).st.empty = false := by simpa using he
    obtain ⟨_, hne⟩ := m5 he'
    have hsd : (gridLineVar v).spaceDim ≤ (lz_minGen g).spaceDim := by
      rw [gn_spaceDim_of_len (gn_gridLineVar_len v), m3]; exact hv
    obtain ⟨a, b, c, _, e⟩ := gn_addGridGenerator (lz_minGen g) m1 (gridLineVar v)
      (lz_gridLineVar_ok v) hsd (by rw [m3]; exact hpos)
    have hnt : (addGridGenerator (lz_minGen g) (gridLineVar v)).thrown = false := by
      cases ht : (addGridGenerator (lz_minGen g) (gridLineVar v)).thrown
      · rfl
      · have := (c.mp ht).1
        rw [m2] at this; rw [this] at hne; exact absurd hne Set.not_nonempty_empty
    refine ⟨hnt, a, b.trans m3, ?_⟩
    rw [(e hnt).1 rfl, m2, gn_gridLineVar_vecOf]

/-! ### the parameter `|modulus|·e_var` is inserted -/

/-- the state after the insertion -/
def lz_addPar (g1 : Grid) (v : Nat) (m : Int) : Grid :=
  ((g1.withGs (normalizeDivisors1 (g1.gs.insert (parameterVar v m)))).clearGeneratorsMinimized).clearCongruencesUpToDate

theorem lz_addPar_spec (g1 : Grid) (v : Nat) (m : Int) (hI : GridInv g1) (hne : g1.st.empty = false)
    (hg : g1.st.gUp = true) (hv : v + 1 ≤ g1.spaceDim) :
    GridInv (lz_addPar g1 v m) ∧ (lz_addPar g1 v m).spaceDim = g1.spaceDim ∧
    (lz_addPar g1 v m).sem = {y | ∃ a ∈ g1.sem, ∃ k : Int, y = a + (k : ℚ) • gn_vecOf (parameterVar v m)} := by
  have hpos : 0 < g1.spaceDim := by omega
  obtain ⟨hgd, hgw, hgn, hsem⟩ := gn_sem_of_gUp hI hpos hne hg
  have hgs : g1.gs = ⟨g1.spaceDim, g1.gen⟩ := by show GSys.mk g1.genDim g1.gen = _; rw [hgd]
  have hsd : (parameterVar v m).spaceDim ≤ g1.spaceDim := by
    rw [gn_spaceDim_of_len (lz_parameterVar_len v m)]; exact hv
  obtain ⟨rows2, D', e1, a1, b1, c1⟩ := gn_add_rows hpos hgw hgn (parameterVar v m) (lz_parameterVar_ok v m) hsd
  have hpp : (parameterVar v m).isParameterOrPoint = true := rfl
  rw [hpp, if_pos rfl] at e1
  obtain ⟨_, _, _, _, r5, _, r7⟩ := gn_row_resized (lz_parameterVar_ok v m) hsd
  have hbody : lz_addPar g1 v m = ((g1.withGs ⟨g1.spaceDim, rows2⟩).clearGeneratorsMinimized).clearCongruencesUpToDate := by
    unfold lz_addPar; rw [hgs, e1]
  rw [hbody]
  have hI' := inv_of_noMin (((g1.withGs ⟨g1.spaceDim, rows2⟩).clearGeneratorsMinimized).clearCongruencesUpToDate)
    hpos hne rfl rfl (hI.hi0 hne) (Or.inr hg) (fun h => by cases h) (fun _ => ⟨rfl, a1, gnorm_firstPointDiv b1⟩)
    (fun h => by cases h)
  refine ⟨hI', rfl, ?_⟩
  rw [sem_of_gUp (g := ((g1.withGs ⟨g1.spaceDim, rows2⟩).clearGeneratorsMinimized).clearCongruencesUpToDate) hne hpos hg]
  show gensSet g1.spaceDim rows2 = _
  rw [gn_bridge b1 a1, c1, gn_set_append_par _ _ (by rw [r7]; exact lz_parameterVar_isPar v m), r5, hsem]

/-! ### `generalized_affine_image`, one variable -/

/-- **`relsym = EQUAL`** on a grid that is not marked empty: nothing is thrown; the affine image, and for a non-zero
    modulus its sum with the integer multiples of `|modulus|·e_var` -/
theorem generalizedAffineImageVar_equal (g : Grid) (v : Nat) (e : LinExpr) (den modulus : Int) (hI : GridInv g)
    (hne : g.st.empty = false) (hden : den ≠ 0) (hed : e.spaceDim ≤ g.spaceDim) (hv : v + 1 ≤ g.spaceDim) :
    (generalizedAffineImageVar g v EQUAL e den modulus).thrown = false ∧
    GridInv (generalizedAffineImageVar g v EQUAL e den modulus).g ∧
    (generalizedAffineImageVar g v EQUAL e den modulus).g.spaceDim = g.spaceDim ∧
    (modulus = 0 → (generalizedAffineImageVar g v EQUAL e den modulus).g.sem = lzF v e den '' g.sem) ∧
    (modulus ≠ 0 → (generalizedAffineImageVar g v EQUAL e den modulus).g.sem =
      {y | ∃ a ∈ lzF v e den '' g.sem, ∃ k : Int, y = a + (k : ℚ) • (fun i => if i = v then ((absI modulus : Int) : ℚ) else 0)}) := by
  have hpos : 0 < g.spaceDim := by omega
  obtain ⟨a1, a2, a3, a4⟩ := affineImage_full g v e den hI hne hden hed hv
  have hunf : generalizedAffineImageVar g v EQUAL e den modulus =
      if modulus = 0 then affineImage g v e den
      else if (lz_minGen (affineImage g v e den).g).markedEmpty = true then { g := lz_minGen (affineImage g v e den).g }
      else { g := lz_addPar (lz_minGen (affineImage g v e den).g) v (absI modulus) } := by
    unfold generalizedAffineImageVar
    rw [if_neg hden, if_neg (show ¬ (g.spaceDim < e.spaceDim ∨ g.spaceDim < v + 1) by omega),
      if_neg (show ¬ (EQUAL = NOT_EQUAL) by decide),
      if_neg (show ¬ (EQUAL ≠ EQUAL ∧ modulus ≠ 0) from fun h => h.1 rfl),
      if_neg (show ¬ (g.markedEmpty = true) by simpa [Grid.markedEmpty] using hne),
      if_neg (show ¬ (EQUAL ≠ EQUAL) by simp)]
    simp only [a1, Bool.false_eq_true, if_false]
    rfl
  rw [hunf]
  by_cases hm : modulus = 0
  · rw [if_pos hm]
    exact ⟨a1, a2, a4, fun _ => a3, fun h => absurd hm h⟩
  · rw [if_neg hm]
    obtain ⟨m1, m2, m3, m4, m5⟩ := lz_minGen_spec (affineImage g v e den).g a2 (by rw [a4]; exact hpos)
    by_cases he : (lz_minGen (affineImage g v e den).g).st.empty = true
    · rw [if_pos (show (lz_minGen (affineImage g v e den).g).markedEmpty = true from he)]
      refine ⟨rfl, m1, m3.trans a4, fun h => absurd h hm, fun _ => ?_⟩
      have hge := m4.mp he
      rw [a3] at hge
      rw [m2, a3, hge]
      ext y; simp
    · rw [if_neg (show ¬ ((lz_minGen (affineImage g v e den).g).markedEmpty = true) from he)]
      have he' : (lz_minGen (affineImage g v e den).g).st.empty = false := by simpa using he
      obtain ⟨b1, b2, b3⟩ := lz_addPar_spec (lz_minGen (affineImage g v e den).g) v (absI modulus) m1 he' (m5 he').1
        (by rw [m3, a4]; exact hv)
      refine ⟨rfl, b1, b2.trans (m3.trans a4), fun h => absurd h hm, fun _ => ?_⟩
      rw [b3, m2, a3, lz_parameterVar_vecOf]

/-- **the other relation symbols** (`<`, `≤`, `≥`, `>`) with `modulus = 0` on a grid that is not marked empty: the line
    of `var` is added -/
theorem generalizedAffineImageVar_relsym (g : Grid) (v : Nat) (relsym : Nat) (e : LinExpr) (den : Int) (hI : GridInv g)
    (hne : g.st.empty = false) (hden : den ≠ 0) (hed : e.spaceDim ≤ g.spaceDim) (hv : v + 1 ≤ g.spaceDim)
    (hr1 : relsym ≠ NOT_EQUAL) (hr2 : relsym ≠ EQUAL) :
    (generalizedAffineImageVar g v relsym e den 0).thrown = false ∧
    GridInv (generalizedAffineImageVar g v relsym e den 0).g ∧
    (generalizedAffineImageVar g v relsym e den 0).g.spaceDim = g.spaceDim ∧
    (generalizedAffineImageVar g v relsym e den 0).g.sem = {y | ∃ a ∈ g.sem, ∃ c : ℚ, y = a + c • (unit v).toFun} := by
  have hunf : generalizedAffineImageVar g v relsym e den 0 = relsymLine g v := by
    unfold generalizedAffineImageVar
    rw [if_neg hden, if_neg (show ¬ (g.spaceDim < e.spaceDim ∨ g.spaceDim < v + 1) by omega), if_neg hr1,
      if_neg (show ¬ (relsym ≠ EQUAL ∧ (0 : Int) ≠ 0) from fun h => h.2 rfl),
      if_neg (show ¬ (g.markedEmpty = true) by simpa [Grid.markedEmpty] using hne), if_pos hr2]
  rw [hunf]
  exact relsymLine_spec g v hI hv

/-- the throws of `generalized_affine_image` (argument checks first, a13dde6): for every invariant receiver, marked empty
    or not, `std::invalid_argument` exactly on a zero denominator, a dimension mismatch, `NOT_EQUAL`, or a non-zero
    modulus with a relation symbol other than `EQUAL`; the object is then unchanged; a marked-empty receiver is unchanged -/
theorem generalizedAffineImageVar_thrown (g : Grid) (hI : GridInv g) (v : Nat) (relsym : Nat) (e : LinExpr)
    (den modulus : Int) :
    ((generalizedAffineImageVar g v relsym e den modulus).thrown = true ↔
      (den = 0 ∨ g.spaceDim < e.spaceDim ∨ g.spaceDim < v + 1 ∨ relsym = NOT_EQUAL ∨ (relsym ≠ EQUAL ∧ modulus ≠ 0))) ∧
    ((generalizedAffineImageVar g v relsym e den modulus).thrown = true →
      (generalizedAffineImageVar g v relsym e den modulus).g = g) ∧
    (g.st.empty = true → (generalizedAffineImageVar g v relsym e den modulus).g = g) := by
  have hnt (hne : g.st.empty = false) (hd : den ≠ 0) (hdim : ¬ (g.spaceDim < e.spaceDim ∨ g.spaceDim < v + 1))
      (hr1 : relsym ≠ NOT_EQUAL) (hr3 : ¬ (relsym ≠ EQUAL ∧ modulus ≠ 0)) :
      (generalizedAffineImageVar g v relsym e den modulus).thrown = false := by
    by_cases hr2 : relsym = EQUAL
    · subst hr2
      exact (generalizedAffineImageVar_equal g v e den modulus hI hne hd (by omega) (by omega)).1
    · have hm : modulus = 0 := by
        by_contra hm; exact hr3 ⟨hr2, hm⟩
      subst hm
      exact (generalizedAffineImageVar_relsym g v relsym e den hI hne hd (by omega) (by omega) hr1 hr2).1
  unfold generalizedAffineImageVar at hnt ⊢
  refine (Checks.reject (den = 0) fun hd => Checks.reject _ fun hdim => Checks.reject _ fun hr1 => Checks.reject _ fun hr3 =>
    Checks.body fun hne => ?_).congr (by simp only [or_iff_left not_false, or_assoc])
  have := hnt hne hd hdim hr1 hr3
  rwa [if_neg hd, if_neg hdim, if_neg hr1, if_neg hr3, if_neg (by simpa [Grid.markedEmpty] using hne)] at this

/-- `x ≡ 1 (mod 2)` (point 1, parameter 2) under `x' = 3x + 1 (mod 4)`: point 4, parameters 6 and 4 — i.e. `4 + 2ℤ` -/
example :
    let g : Grid := Grid.mk 1 { gUp := true } 1 [] 1 [⟨false, [1, 1, 0]⟩, ⟨false, [0, 2, 1]⟩] []
    invB g = true ∧ (generalizedAffineImageVar g 0 EQUAL [1, 3] 1 4).g.gen =
      [⟨false, [1, 4, 0]⟩, ⟨false, [0, 6, 1]⟩, ⟨false, [0, 4, 1]⟩] ∧
    invB (generalizedAffineImageVar g 0 EQUAL [1, 3] 1 4).g = true := by decide +kernel

/-! ## `bounded_affine_image/preimage` (Grid_public.cc:2617, :2663), `generalized_affine_preimage(var, relsym, expr, denominator, modulus)` (Grid_public.cc:2225) -/

/-! ### `bounded_affine_image`, `bounded_affine_preimage`: the line of `var` is added -/

theorem boundedAffineImage_thrown (g : Grid) (v : Nat) (lb ub : LinExpr) (den : Int) (hI : GridInv g) :
    ((boundedAffineImage g v lb ub den).thrown = true ↔
      (den = 0 ∨ g.spaceDim < v + 1 ∨ g.spaceDim < lb.spaceDim ∨ g.spaceDim < ub.spaceDim)) ∧
    ((boundedAffineImage g v lb ub den).thrown = true → (boundedAffineImage g v lb ub den).g = g) ∧
    (g.st.empty = true → (boundedAffineImage g v lb ub den).g = g) := by
  unfold boundedAffineImage
  refine (Checks.reject (den = 0) fun hd => Checks.reject _ fun hdim => Checks.body fun hne => ?_).congr (or_congr_right (or_iff_left id))
  exact (generalizedAffineImageVar_relsym g v 1 ub den hI hne hd (by omega) (by omega) (by decide) (by decide)).1

/-- **`bounded_affine_image(var, lb, ub, d)`** on a grid that is not marked empty: the line of `var` is added -/
theorem boundedAffineImage_spec (g : Grid) (v : Nat) (lb ub : LinExpr) (den : Int) (hI : GridInv g)
    (hne : g.st.empty = false) (hden : den ≠ 0) (hv : v + 1 ≤ g.spaceDim) (hlb : lb.spaceDim ≤ g.spaceDim)
    (hub : ub.spaceDim ≤ g.spaceDim) :
    (boundedAffineImage g v lb ub den).thrown = false ∧ GridInv (boundedAffineImage g v lb ub den).g ∧
    (boundedAffineImage g v lb ub den).g.spaceDim = g.spaceDim ∧
    (boundedAffineImage g v lb ub den).g.sem = {y | ∃ a ∈ g.sem, ∃ c : ℚ, y = a + c • (unit v).toFun} := by
  have hU : boundedAffineImage g v lb ub den = generalizedAffineImageVar g v 1 ub den 0 := by
    unfold boundedAffineImage
    rw [if_neg hden, if_neg (show ¬ (g.spaceDim < v + 1 ∨ g.spaceDim < lb.spaceDim ∨ g.spaceDim < ub.spaceDim) by omega),
      if_neg (show ¬ (g.markedEmpty = true) by simpa [Grid.markedEmpty] using hne)]
  rw [hU]
  exact generalizedAffineImageVar_relsym g v 1 ub den hI hne hden hub hv (by decide) (by decide)

theorem lz_gapv_relsym (g : Grid) (v : Nat) (relsym : Nat) (e : LinExpr) (den : Int) (hden : den ≠ 0)
    (hdim : ¬ (g.spaceDim < e.spaceDim ∨ g.spaceDim < v + 1)) (hr1 : relsym ≠ NOT_EQUAL) (hr2 : relsym ≠ EQUAL) :
    generalizedAffinePreimageVar g v relsym e den 0 = relsymLine g v := by
  unfold generalizedAffinePreimageVar
  rw [if_neg hden, if_neg hdim, if_neg hr1, if_pos hr2, if_neg (show ¬ ((0 : Int) ≠ 0) by simp)]

/-- **`bounded_affine_preimage(var, lb, ub, d)`** on a grid that is not marked empty: the line of `var` is added -/
theorem boundedAffinePreimage_spec (g : Grid) (v : Nat) (lb ub : LinExpr) (den : Int) (hI : GridInv g)
    (hne : g.st.empty = false) (hden : den ≠ 0) (hv : v + 1 ≤ g.spaceDim) (hlb : lb.spaceDim ≤ g.spaceDim)
    (hub : ub.spaceDim ≤ g.spaceDim) :
    (boundedAffinePreimage g v lb ub den).thrown = false ∧ GridInv (boundedAffinePreimage g v lb ub den).g ∧
    (boundedAffinePreimage g v lb ub den).g.spaceDim = g.spaceDim ∧
    (boundedAffinePreimage g v lb ub den).g.sem = {y | ∃ a ∈ g.sem, ∃ c : ℚ, y = a + c • (unit v).toFun} := by
  have hU : boundedAffinePreimage g v lb ub den = relsymLine g v := by
    unfold boundedAffinePreimage
    rw [if_neg hden, if_neg (show ¬ (g.spaceDim < v + 1 ∨ g.spaceDim < lb.spaceDim ∨ g.spaceDim < ub.spaceDim) by omega),
      if_neg (show ¬ (g.markedEmpty = true) by simpa [Grid.markedEmpty] using hne)]
    exact lz_gapv_relsym g v 1 ub den hden (by omega) (by decide) (by decide)
  rw [hU]
  exact relsymLine_spec g v hI hv

theorem boundedAffinePreimage_thrown (g : Grid) (v : Nat) (lb ub : LinExpr) (den : Int) (hI : GridInv g) :
    ((boundedAffinePreimage g v lb ub den).thrown = true ↔
      (den = 0 ∨ g.spaceDim < v + 1 ∨ g.spaceDim < lb.spaceDim ∨ g.spaceDim < ub.spaceDim)) ∧
    ((boundedAffinePreimage g v lb ub den).thrown = true → (boundedAffinePreimage g v lb ub den).g = g) ∧
    (g.st.empty = true → (boundedAffinePreimage g v lb ub den).g = g) := by
  unfold boundedAffinePreimage
  refine (Checks.reject (den = 0) fun hd => Checks.reject _ fun hdim => Checks.body fun _ => ?_).congr (or_congr_right (or_iff_left id))
  rw [lz_gapv_relsym g v 1 ub den hd (by omega) (by decide) (by decide)]
  exact (relsymLine_spec g v hI (by omega)).1

/-! ### `generalized_affine_preimage`, one variable -/

/-- relation symbols other than `=`, `≠` with `modulus = 0`, every invariant receiver: the line of `var` is added -/
theorem generalizedAffinePreimageVar_relsym (g : Grid) (v : Nat) (relsym : Nat) (e : LinExpr) (den : Int) (hI : GridInv g)
    (hden : den ≠ 0) (hed : e.spaceDim ≤ g.spaceDim) (hv : v + 1 ≤ g.spaceDim)
    (hr1 : relsym ≠ NOT_EQUAL) (hr2 : relsym ≠ EQUAL) :
    (generalizedAffinePreimageVar g v relsym e den 0).thrown = false ∧
    GridInv (generalizedAffinePreimageVar g v relsym e den 0).g ∧
    (generalizedAffinePreimageVar g v relsym e den 0).g.spaceDim = g.spaceDim ∧
    (generalizedAffinePreimageVar g v relsym e den 0).g.sem = {y | ∃ a ∈ g.sem, ∃ c : ℚ, y = a + c • (unit v).toFun} := by
  rw [lz_gapv_relsym g v relsym e den hden (by omega) hr1 hr2]
  exact relsymLine_spec g v hI hv

theorem lz_gapv_equal_eq (g : Grid) (v : Nat) (e : LinExpr) (den modulus : Int) (hden : den ≠ 0)
    (hdim : ¬ (g.spaceDim < e.spaceDim ∨ g.spaceDim < v + 1)) (hne : g.st.empty = false) :
    generalizedAffinePreimageVar g v EQUAL e den modulus =
      if modulus = 0 then affinePreimage g v e den
      else if v + 1 ≤ e.spaceDim ∧ e.coeff v ≠ 0 then
        generalizedAffineImageVar g v EQUAL (setCoeff e v (e.coeff v - (den + e.coeff v))) (-e.coeff v) (absI modulus)
      else if (isEmpty (addCongruenceNoCheck g (preimageCg v e den modulus))).2 = true then
        { g := (isEmpty (addCongruenceNoCheck g (preimageCg v e den modulus))).1 }
      else addGridGenerator (isEmpty (addCongruenceNoCheck g (preimageCg v e den modulus))).1 (gridLineVar v) := by
  unfold generalizedAffinePreimageVar
  rw [if_neg hden, if_neg hdim, if_neg (show ¬ (EQUAL = NOT_EQUAL) by decide), if_neg (show ¬ (EQUAL ≠ EQUAL) by simp),
    if_neg (show ¬ (g.markedEmpty = true) by simpa [Grid.markedEmpty] using hne)]

/-- `relsym = EQUAL`, `modulus = 0`: the affine preimage -/
theorem generalizedAffinePreimageVar_equal_mod0 (g : Grid) (v : Nat) (e : LinExpr) (den : Int) (hI : GridInv g)
    (hne : g.st.empty = false) (hden : den ≠ 0) (hed : e.spaceDim ≤ g.spaceDim) (hv : v + 1 ≤ g.spaceDim) :
    (generalizedAffinePreimageVar g v EQUAL e den 0).thrown = false ∧
    GridInv (generalizedAffinePreimageVar g v EQUAL e den 0).g ∧
    (generalizedAffinePreimageVar g v EQUAL e den 0).g.sem = cn_preSet g.spaceDim v e den g.sem ∧
    (generalizedAffinePreimageVar g v EQUAL e den 0).g.spaceDim = g.spaceDim := by
  rw [lz_gapv_equal_eq g v e den 0 hden (by omega) hne, if_pos rfl]
  exact affinePreimage_full g v e den hI hne hden hed hv

theorem lz_absI_absI (z : Int) : absI (absI z) = absI z := by
  unfold absI; split_ifs <;> omega

/-- `relsym = EQUAL`, `modulus ≠ 0`, `expr` mentions `var` (Grid_public.cc:2293): WHAT THE CODE COMPUTES — the
    generalized affine IMAGE under `var' = (expr − (den + e_v)·var) / (−e_v)` with modulus `|modulus|`.  (This is the path
    of the open finding KF-C05-10: the set below is not the documented preimage relation in general.) -/
theorem generalizedAffinePreimageVar_equal_inv (g : Grid) (v : Nat) (e : LinExpr) (den modulus : Int) (hI : GridInv g)
    (hne : g.st.empty = false) (hden : den ≠ 0) (hed : e.spaceDim ≤ g.spaceDim) (hv : v + 1 ≤ g.spaceDim)
    (hm : modulus ≠ 0) (hinv : v + 1 ≤ e.spaceDim ∧ e.coeff v ≠ 0) :
    (generalizedAffinePreimageVar g v EQUAL e den modulus).thrown = false ∧
    GridInv (generalizedAffinePreimageVar g v EQUAL e den modulus).g ∧
    (generalizedAffinePreimageVar g v EQUAL e den modulus).g.spaceDim = g.spaceDim ∧
    (generalizedAffinePreimageVar g v EQUAL e den modulus).g.sem =
      {y | ∃ a ∈ lzF v (setCoeff e v (e.coeff v - (den + e.coeff v))) (-e.coeff v) '' g.sem, ∃ k : Int,
        y = a + (k : ℚ) • (fun i => if i = v then ((absI modulus : Int) : ℚ) else 0)} := by
  rw [lz_gapv_equal_eq g v e den modulus hden (by omega) hne, if_neg hm, if_pos hinv]
  have hsd : (setCoeff e v (e.coeff v - (den + e.coeff v))).spaceDim = e.spaceDim := by
    simp [setCoeff, LinExpr.spaceDim]
  have hm' : absI modulus ≠ 0 := ne_of_gt (lz_absI_pos modulus hm)
  obtain ⟨a, b, c, _, d⟩ := generalizedAffineImageVar_equal g v (setCoeff e v (e.coeff v - (den + e.coeff v)))
    (-e.coeff v) (absI modulus) hI hne (by have := hinv.2; omega) (by rw [hsd]; exact hed) hv
  refine ⟨a, b, c, ?_⟩
  rw [d hm', lz_absI_absI]

theorem lz_preimageCg_facts (v : Nat) (e : LinExpr) (den modulus : Int) (n : Nat) (hed : e.spaceDim ≤ n) (hv : v + 1 ≤ n) :
    (preimageCg v e den modulus).spaceDim ≤ n ∧ 0 ≤ (preimageCg v e den modulus).m ∧ (preimageCg v e den modulus).e ≠ [] := by
  have hlen : (preimageCg v e den modulus).e.length = max (v + 2) e.length := by simp [preimageCg]
  refine ⟨?_, ?_, ?_⟩
  · unfold CRow.spaceDim; rw [hlen]; unfold LinExpr.spaceDim at hed; omega
  · show 0 ≤ absI den * absI modulus
    apply Int.mul_nonneg <;> (unfold absI; split <;> omega)
  · intro h; rw [h] at hlen; simp at hlen; omega

/-- `relsym = EQUAL`, `modulus ≠ 0`, `expr` does not mention `var` (Grid_public.cc:2309): the congruence
    `den·var ≡ expr (mod |den|·|modulus|)` is added, then the line of `var` -/
theorem generalizedAffinePreimageVar_equal_noninv (g : Grid) (v : Nat) (e : LinExpr) (den modulus : Int) (hI : GridInv g)
    (hne : g.st.empty = false) (hden : den ≠ 0) (hed : e.spaceDim ≤ g.spaceDim) (hv : v + 1 ≤ g.spaceDim)
    (hm : modulus ≠ 0) (hninv : ¬ (v + 1 ≤ e.spaceDim ∧ e.coeff v ≠ 0)) :
    (generalizedAffinePreimageVar g v EQUAL e den modulus).thrown = false ∧
    GridInv (generalizedAffinePreimageVar g v EQUAL e den modulus).g ∧
    (generalizedAffinePreimageVar g v EQUAL e den modulus).g.spaceDim = g.spaceDim ∧
    (generalizedAffinePreimageVar g v EQUAL e den modulus).g.sem =
      {y | ∃ a ∈ g.sem ∩ CRow.set (preimageCg v e den modulus), ∃ c : ℚ, y = a + c • (unit v).toFun} := by
  rw [lz_gapv_equal_eq g v e den modulus hden (by omega) hne, if_neg hm, if_neg hninv]
  have hpos : 0 < g.spaceDim := by omega
  obtain ⟨p1, p2, p3⟩ := lz_preimageCg_facts v e den modulus g.spaceDim hed hv
  obtain ⟨c1, c2, c3⟩ := cn_addCongruenceNoCheck g (preimageCg v e den modulus) hI hne p1 p2 p3
  obtain ⟨i1, i2, i3, i4, i5, i6⟩ := isEmpty_spec (addCongruenceNoCheck g (preimageCg v e den modulus)) c1
  by_cases hb : (isEmpty (addCongruenceNoCheck g (preimageCg v e den modulus))).2 = true
  · rw [if_pos hb]
    have hemp := i4.mp hb
    refine ⟨rfl, i1, i3.trans c3, ?_⟩
    rw [i2, hemp, ← c2, hemp]
    ext y; simp
  · rw [if_neg hb]
    have hne' : (addCongruenceNoCheck g (preimageCg v e den modulus)).sem ≠ ∅ := fun h => hb (i4.mpr h)
    have hsd : (gridLineVar v).spaceDim ≤ (isEmpty (addCongruenceNoCheck g (preimageCg v e den modulus))).1.spaceDim := by
      rw [gn_spaceDim_of_len (gn_gridLineVar_len v), i3, c3]; exact hv
    obtain ⟨a, b, c, _, d⟩ := gn_addGridGenerator _ i1 (gridLineVar v) (lz_gridLineVar_ok v) hsd
      (by rw [i3, c3]; exact hpos)
    have hnt : (addGridGenerator (isEmpty (addCongruenceNoCheck g (preimageCg v e den modulus))).1 (gridLineVar v)).thrown
        = false := by
      cases ht : (addGridGenerator (isEmpty (addCongruenceNoCheck g (preimageCg v e den modulus))).1 (gridLineVar v)).thrown
      · rfl
      · have := (c.mp ht).1
        rw [i2] at this; exact absurd this hne'
    refine ⟨hnt, a, b.trans (i3.trans c3), ?_⟩
    rw [(d hnt).1 rfl, i2, c2, gn_gridLineVar_vecOf]

/-- the exits of `generalized_affine_preimage` -/
theorem generalizedAffinePreimageVar_thrown (g : Grid) (hI : GridInv g) (v : Nat) (relsym : Nat) (e : LinExpr)
    (den modulus : Int) :
    ((generalizedAffinePreimageVar g v relsym e den modulus).thrown = true ↔
      (den = 0 ∨ g.spaceDim < e.spaceDim ∨ g.spaceDim < v + 1 ∨ relsym = NOT_EQUAL ∨ (relsym ≠ EQUAL ∧ modulus ≠ 0))) ∧
    ((generalizedAffinePreimageVar g v relsym e den modulus).thrown = true →
      (generalizedAffinePreimageVar g v relsym e den modulus).g = g) ∧
    (g.st.empty = true → relsym = EQUAL → (generalizedAffinePreimageVar g v relsym e den modulus).g = g) := by
  by_cases hd : den = 0
  · have : generalizedAffinePreimageVar g v relsym e den modulus = { g := g, thrown := true } := by
      unfold generalizedAffinePreimageVar; rw [if_pos hd]
    rw [this]; exact ⟨⟨fun _ => Or.inl hd, fun _ => rfl⟩, fun _ => rfl, fun _ _ => rfl⟩
  by_cases hdim : g.spaceDim < e.spaceDim ∨ g.spaceDim < v + 1
  · have : generalizedAffinePreimageVar g v relsym e den modulus = { g := g, thrown := true } := by
      unfold generalizedAffinePreimageVar; rw [if_neg hd, if_pos hdim]
    rw [this]
    exact ⟨⟨fun _ => by rcases hdim with h | h <;> simp [h], fun _ => rfl⟩, fun _ => rfl, fun _ _ => rfl⟩
  by_cases hr1 : relsym = NOT_EQUAL
  · have : generalizedAffinePreimageVar g v relsym e den modulus = { g := g, thrown := true } := by
      unfold generalizedAffinePreimageVar; rw [if_neg hd, if_neg hdim, if_pos hr1]
    rw [this]; exact ⟨⟨fun _ => by simp [hr1], fun _ => rfl⟩, fun _ => rfl, fun _ _ => rfl⟩
  by_cases hr3 : relsym ≠ EQUAL ∧ modulus ≠ 0
  · have : generalizedAffinePreimageVar g v relsym e den modulus = { g := g, thrown := true } := by
      unfold generalizedAffinePreimageVar; rw [if_neg hd, if_neg hdim, if_neg hr1, if_pos hr3.1, if_pos hr3.2]
    rw [this]; exact ⟨⟨fun _ => by simp [hr3], fun _ => rfl⟩, fun _ => rfl, fun _ _ => rfl⟩
  have hno : ¬ (den = 0 ∨ g.spaceDim < e.spaceDim ∨ g.spaceDim < v + 1 ∨ relsym = NOT_EQUAL ∨
      (relsym ≠ EQUAL ∧ modulus ≠ 0)) := by
    rintro (h | h | h | h | h)
    · exact hd h
    · exact hdim (Or.inl h)
    · exact hdim (Or.inr h)
    · exact hr1 h
    · exact hr3 h
  by_cases hr2 : relsym = EQUAL
  · subst hr2
    by_cases hemp : g.st.empty = true
    · have : generalizedAffinePreimageVar g v EQUAL e den modulus = { g := g } := by
        unfold generalizedAffinePreimageVar
        rw [if_neg hd, if_neg hdim, if_neg hr1, if_neg (show ¬ (EQUAL ≠ EQUAL) by simp),
          if_pos (show g.markedEmpty = true from hemp)]
      rw [this]; exact ⟨⟨(fun h => by cases h), fun h => absurd h hno⟩, fun _ => rfl, fun _ _ => rfl⟩
    have hne : g.st.empty = false := by simpa using hemp
    have hnt : (generalizedAffinePreimageVar g v EQUAL e den modulus).thrown = false := by
      by_cases hm : modulus = 0
      · subst hm
        exact (generalizedAffinePreimageVar_equal_mod0 g v e den hI hne hd (by omega) (by omega)).1
      · by_cases hinv : v + 1 ≤ e.spaceDim ∧ e.coeff v ≠ 0
        · exact (generalizedAffinePreimageVar_equal_inv g v e den modulus hI hne hd (by omega) (by omega) hm hinv).1
        · exact (generalizedAffinePreimageVar_equal_noninv g v e den modulus hI hne hd (by omega) (by omega) hm hinv).1
    exact ⟨⟨(fun h => by rw [hnt] at h; cases h), fun h => absurd h hno⟩, (fun h => by rw [hnt] at h; cases h),
      fun h => absurd h hemp⟩
  · have hm : modulus = 0 := by
      by_contra hm; exact hr3 ⟨hr2, hm⟩
    subst hm
    have hnt := (generalizedAffinePreimageVar_relsym g v relsym e den hI hd (by omega) (by omega) hr1 hr2).1
    exact ⟨⟨(fun h => by rw [hnt] at h; cases h), fun h => absurd h hno⟩, (fun h => by rw [hnt] at h; cases h),
      fun _ h => absurd h hr2⟩

/-- KF-C05-10 on its witness: the grid `{0}` in dimension 1 and `A' ≡ 2A (mod 1)`.  The code answers point `0`,
    parameter `1`, i.e. `ℤ`; the documented preimage relation gives `(1/2)ℤ` -/
example :
    let g : Grid := Grid.mk 1 { gUp := true } 1 [] 1 [⟨false, [1, 0, 0]⟩] []
    invB g = true ∧ (generalizedAffinePreimageVar g 0 EQUAL [0, 2] 1 1).g.gen = [⟨false, [2, 0, 0]⟩, ⟨false, [0, 2, 2]⟩] := by
  decide +kernel

end PPLV.Lattice.GO

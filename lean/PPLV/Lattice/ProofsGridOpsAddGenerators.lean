import PPLV.Lattice.ProofsGridOpsDifference

/-!
# The `Grid` object: `add_recycled_grid_generators`
-/
namespace PPLV.Lattice.GO
open PPLV.Lattice PPLV.Lattice.Red

/-! ## Ingredients of `add_recycled_grid_generators`: rows that keep kind and vector (`gn_Twin`), `scale_to_divisor` row by row, `normalize_divisors` on a system that need not have a point -/

/-- same kind, same rational vector -/
def gn_Twin (r' r : GRow) : Prop :=
  r'.line = r.line ∧ gn_isPt r' = gn_isPt r ∧ gn_isPar r' = gn_isPar r ∧ gn_vecOf r' = gn_vecOf r

theorem gn_Twin.refl (r : GRow) : gn_Twin r r := ⟨rfl, rfl, rfl, rfl⟩
theorem gn_Twin.trans {a b c : GRow} (h1 : gn_Twin a b) (h2 : gn_Twin b c) : gn_Twin a c :=
  ⟨h1.1.trans h2.1, h1.2.1.trans h2.2.1, h1.2.2.1.trans h2.2.2.1, h1.2.2.2.trans h2.2.2.2⟩

/-- the rows of `A` may be replaced by any system of the same grid, the rows of `B` by twins -/
theorem gn_set_append_congr {A A' B : List GRow} (f : GRow → GRow) (hA : gn_set A = gn_set A')
    (hpA : ∃ r ∈ A, gn_isPt r = true) (hpA' : ∃ r ∈ A', gn_isPt r = true) (hf : ∀ r ∈ B, gn_Twin (f r) r) :
    gn_set (A ++ B.map f) = gn_set (A' ++ B) := by
  apply Set.Subset.antisymm
  · have hsub : gn_set A ⊆ gn_set (A' ++ B) := by rw [hA]; exact fun _ h => gn_mem_append_left h
    obtain ⟨pa, la⟩ := gn_absorb (gn_closed_set (A' ++ B)) hsub hpA
    refine gn_mem_least (gn_closed_set _) ?_ ?_ ?_
    · intro r hr p
      rcases List.mem_append.mp hr with hr | hr
      · exact hsub (gn_mem_pt hr p)
      · obtain ⟨r0, hr0, rfl⟩ := List.mem_map.mp hr
        obtain ⟨_, b, _, d⟩ := hf r0 hr0
        rw [d]; exact gn_mem_pt (List.mem_append_right _ hr0) (by rw [← b]; exact p)
    · intro r hr p
      rcases List.mem_append.mp hr with hr | hr
      · exact pa r hr p
      · obtain ⟨r0, hr0, rfl⟩ := List.mem_map.mp hr
        obtain ⟨_, _, c, d⟩ := hf r0 hr0
        intro a ha k
        rw [d]; exact gn_mem_par_step (List.mem_append_right _ hr0) (by rw [← c]; exact p) ha k
    · intro r hr p
      rcases List.mem_append.mp hr with hr | hr
      · exact la r hr p
      · obtain ⟨r0, hr0, rfl⟩ := List.mem_map.mp hr
        obtain ⟨a', _, _, d⟩ := hf r0 hr0
        intro a ha c
        rw [d]; exact gn_mem_line_step (List.mem_append_right _ hr0) (by rw [← a']; exact p) ha c
  · have hsub : gn_set A' ⊆ gn_set (A ++ B.map f) := by rw [← hA]; exact fun _ h => gn_mem_append_left h
    obtain ⟨pa, la⟩ := gn_absorb (gn_closed_set (A ++ B.map f)) hsub hpA'
    refine gn_mem_least (gn_closed_set _) ?_ ?_ ?_
    · intro r hr p
      rcases List.mem_append.mp hr with hr | hr
      · exact hsub (gn_mem_pt hr p)
      · obtain ⟨_, b, _, d⟩ := hf r hr
        rw [← d]
        exact gn_mem_pt (List.mem_append_right _ (List.mem_map_of_mem hr)) (by rw [b]; exact p)
    · intro r hr p
      rcases List.mem_append.mp hr with hr | hr
      · exact pa r hr p
      · obtain ⟨_, _, c, d⟩ := hf r hr
        intro a ha k
        rw [← d]
        exact gn_mem_par_step (List.mem_append_right _ (List.mem_map_of_mem hr)) (by rw [c]; exact p) ha k
    · intro r hr p
      rcases List.mem_append.mp hr with hr | hr
      · exact la r hr p
      · obtain ⟨a', _, _, d⟩ := hf r hr
        intro a ha c
        rw [← d]
        exact gn_mem_line_step (List.mem_append_right _ (List.mem_map_of_mem hr)) (by rw [a']; exact p) ha c

/-- a row as the library builds it, of dimension `n` -/
def gn_RowN (n : Nat) (r : GRow) : Prop :=
  r.e.length = n + 2 ∧ (r.line = false → 0 < r.divisor) ∧ (r.line = true → get r.e 0 = 0)

/-- what a row of a system normalised to the divisor `d` looks like -/
def gn_RowD (n : Nat) (d : Int) (r : GRow) : Prop :=
  r.e.length = n + 2 ∧ (r.line = false → get r.e 0 = 0 ∨ get r.e 0 = d) ∧
  (r.line = false → get r.e 0 = 0 → get r.e (n + 1) = d) ∧ (r.line = true → get r.e 0 = 0)

theorem gn_scaleRow {n : Nat} {r : GRow} {d : Int} (h : gn_RowN n r) (hd : 0 < d) (hdv : r.line = false → r.divisor ∣ d) :
    gn_Twin (r.scaleToDivisor d) r ∧ gn_RowD n d (r.scaleToDivisor d) := by
  obtain ⟨hlen, hpos, hlin⟩ := h
  cases hl : r.line with
  | true =>
    have e : r.scaleToDivisor d = r := by simp [GRow.scaleToDivisor, GRow.isLine, hl]
    rw [e]
    exact ⟨gn_Twin.refl r, hlen, fun h => (by rw [hl] at h; cases h), fun h => (by rw [hl] at h; cases h), fun _ => hlin hl⟩
  | false =>
    obtain ⟨s1, s2, s3, s4, s5⟩ := scaleToDivisor_spec n r d hlen hl (hpos hl) (hdv hl) hd
    have hk := gn_kind_congr (x := r) (y := r.scaleToDivisor d) (by rw [s1, hl]) s3
    refine ⟨⟨by rw [s1, hl], hk.1, hk.2, ?_⟩, s2, fun _ => ?_, fun _ hz => ?_, fun h => (by rw [s1] at h; cases h)⟩
    · rw [gn_vecOf_nonline s2 s1, gn_vecOf_nonline hlen hl, s5]
    · by_cases hz : get (r.scaleToDivisor d).e 0 = 0
      · exact Or.inl hz
      · right; rw [← divisor_point _ hz]; exact s4
    · rw [← divisor_param n _ s2 hz]; exact s4

/-- `normalize_divisors(sys, divisor)` on rows that need not contain a point: a row-wise map to the new divisor -/
theorem gn_normalizeDivisors0 {n : Nat} {rows : List GRow} (h : ∀ r ∈ rows, gn_RowN n r) (hn : 0 < n) (d : Int)
    (hd : 0 < d) :
    ∃ f : GRow → GRow, (normalizeDivisors n rows d).1 = rows.map f ∧ 0 < (normalizeDivisors n rows d).2 ∧
      d ∣ (normalizeDivisors n rows d).2 ∧
      ∀ r ∈ rows, gn_Twin (f r) r ∧ gn_RowD n (normalizeDivisors n rows d).2 (f r) := by
  unfold normalizeDivisors
  rw [if_pos ⟨hn, hd⟩]
  by_cases hall : rows.all (·.isLine) = true
  · rw [if_pos hall]
    refine ⟨id, by simp, hd, dvd_refl d, fun r hr => ⟨gn_Twin.refl r, ?_⟩⟩
    have hl : r.line = true := by
      have := List.all_eq_true.mp hall r hr
      simpa [GRow.isLine] using this
    exact ⟨(h r hr).1, fun h' => (by change r.line = false at h'; rw [hl] at h'; cases h'),
      fun h' => (by change r.line = false at h'; rw [hl] at h'; cases h'), fun _ => (h r hr).2.2 hl⟩
  · rw [if_neg hall]
    have hpos : ∀ r ∈ rows.dropWhile (·.isLine), r.line = false → 0 < r.divisor :=
      fun r hr hl => (h r (List.dropWhile_subset _ hr)).2.1 hl
    obtain ⟨h1, h2, h3⟩ := lcmFold_spec (rows.dropWhile (·.isLine)) hpos d hd
    refine ⟨fun r => r.scaleToDivisor
      ((rows.dropWhile (·.isLine)).foldl (fun d g => if g.isParameterOrPoint then lcmI d g.divisor else d) d),
      rfl, h1, h2, fun r hr => ?_⟩
    exact gn_scaleRow (h r hr) h1
      (fun hl => h3 r (mem_dropWhile_of_not _ rows r hr (by simpa [GRow.isLine] using hl)) hl)

/-! ## `add_recycled_grid_generators`: the generator system of the result -/

/-- a generator system argument as the library builds it -/
def gn_GsOK (gs : GSys) : Prop := ∀ r ∈ gs.rows, gn_RowN gs.dim r

theorem gn_resize_row {m n : Nat} {r : GRow} (h : gn_RowN m r) (hmn : m ≤ n) :
    gn_Twin (r.setSpaceDim n) r ∧ gn_RowN n (r.setSpaceDim n) := by
  obtain ⟨a, b, c, d, e⟩ := gn_setSpaceDim_sem h.1 hmn
  have hk := gn_kind_congr (x := r) (y := r.setSpaceDim n) a (by rw [c])
  exact ⟨⟨a, hk.1, hk.2, e⟩, b, fun hl => by rw [d]; exact h.2.1 (by rw [← a]; exact hl),
    fun hl => by rw [c]; exact h.2.2 (by rw [← a]; exact hl)⟩

/-- `S` is the least closed set that contains `X`, the points of `Y`, and absorbs the parameters and lines of `Y` -/
def gn_IsAddGens (S X : Set Pt) (Y : List GRow) : Prop :=
  gn_Closed S ∧ X ⊆ S ∧ (∀ r ∈ Y, gn_isPt r = true → gn_vecOf r ∈ S) ∧
  (∀ r ∈ Y, gn_isPar r = true → ∀ a ∈ S, ∀ k : Int, a + (k : ℚ) • gn_vecOf r ∈ S) ∧
  (∀ r ∈ Y, r.line = true → ∀ a ∈ S, ∀ q : ℚ, a + q • gn_vecOf r ∈ S) ∧
  ∀ K : Set Pt, gn_Closed K → X ⊆ K → (∀ r ∈ Y, gn_isPt r = true → gn_vecOf r ∈ K) →
    (∀ r ∈ Y, gn_isPar r = true → ∀ a ∈ K, ∀ k : Int, a + (k : ℚ) • gn_vecOf r ∈ K) →
    (∀ r ∈ Y, r.line = true → ∀ a ∈ K, ∀ q : ℚ, a + q • gn_vecOf r ∈ K) → S ⊆ K

theorem gn_isAddGens_append {X Y : List GRow} (hX : ∃ r ∈ X, gn_isPt r = true) :
    gn_IsAddGens (gn_set (X ++ Y)) (gn_set X) Y := by
  refine ⟨gn_closed_set _, fun _ h => gn_mem_append_left h,
    fun r hr p => gn_mem_pt (List.mem_append_right _ hr) p,
    fun r hr p a ha k => gn_mem_par_step (List.mem_append_right _ hr) p ha k,
    fun r hr p a ha q => gn_mem_line_step (List.mem_append_right _ hr) p ha q, ?_⟩
  intro K hK h1 h2 h3 h4
  obtain ⟨px, lx⟩ := gn_absorb hK h1 hX
  refine gn_mem_least hK ?_ ?_ ?_
  · intro r hr p
    rcases List.mem_append.mp hr with hr | hr
    · exact h1 (gn_mem_pt hr p)
    · exact h2 r hr p
  · intro r hr p
    rcases List.mem_append.mp hr with hr | hr
    · exact px r hr p
    · exact h3 r hr p
  · intro r hr p
    rcases List.mem_append.mp hr with hr | hr
    · exact lx r hr p
    · exact h4 r hr p

/-- the generator system after `gs.set_space_dimension`, `normalize_divisors(gs, gen_sys)` and `gen_sys.insert(gs)` -/
theorem gn_recycled_rows {n : Nat} (hn : 0 < n) {X : List GRow} {D : Int} (hw : GWf n X) (hN : GNorm n D X) (gs : GSys)
    (hgs : gn_GsOK gs) (hd : gs.dim ≤ n) :
    ∃ rows D', (normalizeDivisors2 (gs.setSpaceDim n) (GSys.mk n X)).2.insertSys
        (normalizeDivisors2 (gs.setSpaceDim n) (GSys.mk n X)).1 = GSys.mk n rows ∧
      GWf n rows ∧ GNorm n D' rows ∧ gn_set rows = gn_set (X ++ gs.rows) := by
  have hres : ∀ r ∈ gs.rows, gn_Twin (r.setSpaceDim n) r ∧ gn_RowN n (r.setSpaceDim n) :=
    fun r hr => gn_resize_row (hgs r hr) hd
  have hrowN : ∀ r' ∈ (gs.setSpaceDim n).rows, gn_RowN n r' := by
    intro r' hr'
    obtain ⟨r, hr, rfl⟩ := List.mem_map.mp hr'
    exact (hres r hr).2
  obtain ⟨fp, hfp, hdiv⟩ := gn_find_firstPoint hN
  obtain ⟨f, e1, hpos, hdvd, hf⟩ := gn_normalizeDivisors0 hrowN hn D hN.pos
  have hwf := gn_wf_of_gnorm hN hw
  -- the rows of `gs` after both maps
  have hY : ∀ r ∈ gs.rows, gn_Twin (f (r.setSpaceDim n)) r ∧
      gn_RowD n (normalizeDivisors n (gs.setSpaceDim n).rows D).2 (f (r.setSpaceDim n)) := by
    intro r hr
    have := hf (r.setSpaceDim n) (List.mem_map_of_mem hr)
    exact ⟨this.1.trans (hres r hr).1, this.2⟩
  have hmap : (gs.setSpaceDim n).rows.map f = gs.rows.map (fun r => f (r.setSpaceDim n)) := by
    show (gs.rows.map (·.setSpaceDim n)).map f = _
    rw [List.map_map]; rfl
  have hwY : GWf n (gs.rows.map (fun r => f (r.setSpaceDim n))) := by
    intro r' hr'
    obtain ⟨r, hr, rfl⟩ := List.mem_map.mp hr'
    exact (hY r hr).2.1
  have hgn : ∀ {X' : List GRow}, GNorm n (normalizeDivisors n (gs.setSpaceDim n).rows D).2 X' →
      GNorm n (normalizeDivisors n (gs.setSpaceDim n).rows D).2 (X' ++ gs.rows.map (fun r => f (r.setSpaceDim n))) := by
    intro X' hX'
    refine gn_gnorm_append hX' ?_ ?_ ?_
    · intro r' hr'; obtain ⟨r, hr, rfl⟩ := List.mem_map.mp hr'; exact (hY r hr).2.2.1
    · intro r' hr'; obtain ⟨r, hr, rfl⟩ := List.mem_map.mp hr'; exact (hY r hr).2.2.2.1
    · intro r' hr'; obtain ⟨r, hr, rfl⟩ := List.mem_map.mp hr'; exact (hY r hr).2.2.2.2
  unfold normalizeDivisors2
  rw [hfp]
  simp only [hdiv]
  have hdim : (gs.setSpaceDim n).dim = n := rfl
  rw [hdim]
  by_cases hne : (normalizeDivisors n (gs.setSpaceDim n).rows D).2 = D
  · rw [if_neg (by simpa using hne)]
    simp only []
    rw [e1, hmap, gn_insertSys (GSys.mk n X) (GSys.mk n (gs.rows.map (fun r => f (r.setSpaceDim n)))) rfl hwY]
    refine ⟨_, _, rfl, gn_gwf_append hw hwY, hgn (by rw [hne]; exact hN), ?_⟩
    exact gn_set_append_congr (A := X) (A' := X) _ rfl hwf.pt hwf.pt (fun r hr => (hY r hr).1)
  · rw [if_pos hne]
    simp only []
    have hFP : normalizeDivisorsFP (GSys.mk n X) (normalizeDivisors n (gs.setSpaceDim n).rows D).2 D =
        GSys.mk n (X.map (·.scaleToDivisor (normalizeDivisors n (gs.setSpaceDim n).rows D).2)) := by
      unfold normalizeDivisorsFP
      rw [if_pos ⟨hn, hpos⟩, gn_lcm_of_dvd hpos hdvd]
    have hdv : ∀ r ∈ X, r.line = false → r.divisor ∣ (normalizeDivisors n (gs.setSpaceDim n).rows D).2 := by
      intro r hr hl; rw [gn_divisor_of_gnorm hN hw hr hl]; exact hdvd
    obtain ⟨a', b', c'⟩ := gn_scaleAll hwf _ hpos hdv
    rw [hFP, e1, hmap, gn_insertSys
      (GSys.mk n (X.map (·.scaleToDivisor (normalizeDivisors n (gs.setSpaceDim n).rows D).2)))
      (GSys.mk n (gs.rows.map (fun r => f (r.setSpaceDim n)))) rfl hwY]
    refine ⟨_, _, rfl, gn_gwf_append a' hwY, hgn b', ?_⟩
    exact gn_set_append_congr _ c' (gn_wf_of_gnorm b' a').pt hwf.pt (fun r hr => (hY r hr).1)

/-! ## `Grid::add_recycled_grid_generators(gs)` (Grid_public.cc:1394, repaired code) -/

theorem gn_hasPoints_iff (gs : GSys) (hgs : gn_GsOK gs) : gs.hasPoints = true ↔ ∃ p ∈ gs.rows, gn_isPt p = true := by
  unfold GSys.hasPoints
  rw [List.any_eq_true]
  constructor
  · rintro ⟨p, hp, h⟩
    have h0 : get p.e 0 ≠ 0 := by simpa [GRow.isLineOrParameter] using h
    have hl : p.line = false := by
      cases hl : p.line with
      | false => rfl
      | true => exact absurd ((hgs p hp).2.2 hl) h0
    exact ⟨p, hp, (gn_isPt_iff p).mpr ⟨hl, h0⟩⟩
  · rintro ⟨p, hp, h⟩
    exact ⟨p, hp, by simpa [GRow.isLineOrParameter] using ((gn_isPt_iff p).mp h).2⟩

unseal gn_ens in
theorem gn_addRecycled_eq (g : Grid) (gs : GSys) (hd : gs.dim ≤ g.spaceDim) (hn : 0 < g.spaceDim) (hne : gs.rows ≠ []) :
    addRecycledGridGenerators g gs =
      if (gn_ens g).2 = true then
        { g := (((gn_ens g).1.withGs ((normalizeDivisors2 (gs.setSpaceDim (gn_ens g).1.spaceDim) (gn_ens g).1.gs).2.insertSys
            (normalizeDivisors2 (gs.setSpaceDim (gn_ens g).1.spaceDim) (gn_ens g).1.gs).1)).clearCongruencesUpToDate
            ).clearGeneratorsMinimized }
      else if gs.hasPoints = false then { g := (gn_ens g).1, thrown := true }
      else { g := (((gn_ens g).1.withGs (normalizeDivisors1 (gs.setSpaceDim (gn_ens g).1.spaceDim))).setGeneratorsUpToDate
            ).clearEmpty } := by
  unfold addRecycledGridGenerators
  have he : gs.rows.isEmpty = false := by
    cases h : gs.rows with
    | nil => exact absurd h hne
    | cons a l => rfl
  rw [if_neg (by omega), he, if_neg (by simp), if_neg (by omega)]
  show (if (gn_ens g).2 = true then _ else _) = _
  cases (gn_ens g).2 <;> cases gs.hasPoints <;> rfl

/-- **`Grid::add_recycled_grid_generators(gs)`** in positive dimension for a non-empty well-formed system that fits the
    space: refused exactly when the receiver is empty and `gs` has no point (the object stays empty); on an empty receiver
    the grid generated by `gs`; on a non-empty receiver the least grid containing the receiver and the points of `gs` and
    absorbing its parameters and lines -/
theorem gn_addRecycledGridGenerators (g : Grid) (hI : GridInv g) (gs : GSys) (hgs : gn_GsOK gs) (hd : gs.dim ≤ g.spaceDim)
    (hn : 0 < g.spaceDim) (hne : gs.rows ≠ []) :
    GridInv (addRecycledGridGenerators g gs).g ∧ (addRecycledGridGenerators g gs).g.spaceDim = g.spaceDim ∧
    ((addRecycledGridGenerators g gs).thrown = true ↔ g.sem = ∅ ∧ ¬ ∃ p ∈ gs.rows, gn_isPt p = true) ∧
    ((addRecycledGridGenerators g gs).thrown = true → (addRecycledGridGenerators g gs).g.sem = ∅) ∧
    ((addRecycledGridGenerators g gs).thrown = false →
      (g.sem = ∅ → (addRecycledGridGenerators g gs).g.sem = gn_set gs.rows) ∧
      (g.sem.Nonempty → gn_IsAddGens (addRecycledGridGenerators g gs).g.sem g.sem gs.rows)) := by
  rw [gn_addRecycled_eq g gs hd hn hne]
  obtain ⟨_, _, _, hnonempty, _, _⟩ := gn_ens_spec g hI hn
  cases h2 : (gn_ens g).2 with
  | true =>
    rw [if_pos rfl]
    obtain ⟨a, b, c, d, e, f, hw, hN, hs⟩ := gn_ens_true g hI hn h2
    have hgne : g.sem ≠ ∅ := Set.nonempty_iff_ne_empty.mp (hnonempty.mp h2)
    have hgs' : (gn_ens g).1.gs = GSys.mk g.spaceDim (gn_ens g).1.gen := by
      show GSys.mk (gn_ens g).1.genDim (gn_ens g).1.gen = _
      rw [f]
    obtain ⟨rows, D', e1, a1, b1, c1⟩ := gn_recycled_rows hn hw hN gs hgs hd
    rw [b, hgs', e1]
    have key := gn_inv_gens_at
      (g := ((((gn_ens g).1.withGs (GSys.mk g.spaceDim rows)).clearCongruencesUpToDate).clearGeneratorsMinimized))
      b hn c rfl d rfl rfl e rfl a1 (D := D') b1
    refine ⟨key.1, b, ⟨fun h => (by cases h), fun h => absurd h.1 hgne⟩, fun h => (by cases h), fun _ =>
      ⟨fun h => absurd h hgne, fun _ => ?_⟩⟩
    show gn_IsAddGens (Grid.sem _) g.sem gs.rows
    rw [key.2]
    show gn_IsAddGens (gn_set rows) g.sem gs.rows
    rw [c1, ← hs]
    exact gn_isAddGens_append (gn_wf_of_gnorm hN hw).pt
  | false =>
    rw [if_neg (by simp)]
    obtain ⟨a, b, c, d, hge⟩ := gn_ens_false g hI hn h2
    obtain ⟨c1, c2, c3, _, _⟩ := a.emp c
    cases hp : gs.hasPoints with
    | false =>
      rw [if_pos rfl]
      have hnp : ¬ ∃ p ∈ gs.rows, gn_isPt p = true := by
        intro h; rw [(gn_hasPoints_iff gs hgs).mpr h] at hp; cases hp
      exact ⟨a, b, ⟨fun _ => ⟨hge, hnp⟩, fun _ => rfl⟩, fun _ => d, fun h => (by cases h)⟩
    | true =>
      rw [if_neg (by simp)]
      obtain ⟨p, hp', pp⟩ := (gn_hasPoints_iff gs hgs).mp hp
      have hres : ∀ r ∈ gs.rows, gn_Twin (r.setSpaceDim g.spaceDim) r ∧ gn_RowN g.spaceDim (r.setSpaceDim g.spaceDim) :=
        fun r hr => gn_resize_row (hgs r hr) hd
      have hwf' : gn_WF (gs.setSpaceDim g.spaceDim).dim (gs.setSpaceDim g.spaceDim).rows := by
        refine ⟨?_, ?_, ?_⟩
        · intro r' hr'
          obtain ⟨r, hr, rfl⟩ := List.mem_map.mp hr'
          exact ⟨(hres r hr).2.1, (hres r hr).2.2.1⟩
        · intro r' hr'
          obtain ⟨r, hr, rfl⟩ := List.mem_map.mp hr'
          exact (hres r hr).2.2.2
        · exact ⟨_, List.mem_map_of_mem hp', by rw [(hres p hp').1.2.1]; exact pp⟩
      obtain ⟨n1, n2, n3, n4⟩ := gn_normalizeDivisors1 hwf' (show 0 < g.spaceDim from hn)
      have hset : gn_set (gs.setSpaceDim g.spaceDim).rows = gn_set gs.rows := by
        apply Set.Subset.antisymm
        · refine gn_set_sub_of_twins fun r' hr' => ?_
          obtain ⟨r, hr, rfl⟩ := List.mem_map.mp hr'
          obtain ⟨t1, t2, t3, t4⟩ := (hres r hr).1
          exact ⟨r, hr, t1.symm, t2.symm, t3.symm, t4.symm⟩
        · refine gn_set_sub_of_twins fun r hr => ?_
          exact ⟨_, List.mem_map_of_mem hr, (hres r hr).1⟩
      rw [b]
      have hhi : (gn_ens g).1.st.hi = 0 := by rw [c1]; rfl
      have key := gn_inv_gens
        (g := ((((gn_ens g).1.withGs (normalizeDivisors1 (gs.setSpaceDim g.spaceDim))).setGeneratorsUpToDate).clearEmpty))
        (by show 0 < (gn_ens g).1.spaceDim; rw [b]; exact hn) rfl
        (by show (gn_ens g).1.st.cUp = false; rw [c1]; rfl) rfl
        (by show (gn_ens g).1.st.cMin = false; rw [c1]; rfl)
        (by show (gn_ens g).1.st.gMin = false; rw [c1]; rfl) hhi
        (by show (normalizeDivisors1 (gs.setSpaceDim g.spaceDim)).dim = (gn_ens g).1.spaceDim; rw [n1, b]; rfl)
        (by show GWf (gn_ens g).1.spaceDim _; rw [b]; exact n2)
        (D := firstPointDiv (normalizeDivisors1 (gs.setSpaceDim g.spaceDim)).rows)
        (by show GNorm (gn_ens g).1.spaceDim _ _; rw [b]; exact n3)
      refine ⟨key.1, b, ⟨fun h => (by cases h), fun h => absurd ⟨p, hp', pp⟩ h.2⟩, fun h => (by cases h), fun _ =>
        ⟨fun _ => ?_, fun h => absurd hge (Set.nonempty_iff_ne_empty.mp h)⟩⟩
      show Grid.sem _ = _
      rw [key.2]
      show gn_set (normalizeDivisors1 (gs.setSpaceDim g.spaceDim)).rows = _
      rw [n4, hset]

/-- **dimension 0** (`gs` not empty): the result is the 0-dimensional universe; nothing is thrown -/
theorem gn_addRecycledGridGenerators_dim0 (g : Grid) (hI : GridInv g) (gs : GSys) (hd : gs.dim ≤ g.spaceDim)
    (h0 : g.spaceDim = 0) (hne : gs.rows ≠ []) :
    GridInv (addRecycledGridGenerators g gs).g ∧ (addRecycledGridGenerators g gs).thrown = false ∧
    (addRecycledGridGenerators g gs).g.sem = {y | Supp 0 y} := by
  unfold addRecycledGridGenerators
  have he : gs.rows.isEmpty = false := by
    cases h : gs.rows with
    | nil => exact absurd h hne
    | cons a l => rfl
  rw [if_neg (by omega), he, if_neg (by simp), if_pos h0]
  cases hm : g.markedEmpty with
  | true => rw [if_pos rfl]; exact ⟨setZeroDimUniv_inv g, rfl, setZeroDimUniv_sem g⟩
  | false => rw [if_neg (by simp)]; exact ⟨hI, rfl, sem_of_zdim hm h0⟩

/-- an empty `gs` changes nothing -/
theorem gn_addRecycledGridGenerators_nil (g : Grid) (gs : GSys) (hd : gs.dim ≤ g.spaceDim) (hnil : gs.rows = []) :
    addRecycledGridGenerators g gs = { g := g } := by
  unfold addRecycledGridGenerators
  rw [if_neg (by omega), hnil]; rfl

/-- the hypothesis on `gs` is satisfiable: the point `1/2` and the parameter `1/3` of the line -/
example : gn_GsOK (GSys.mk 1 [⟨false, [2, 1, 0]⟩, ⟨false, [0, 1, 3]⟩]) := by
  intro r hr
  simp only [List.mem_cons, List.not_mem_nil, or_false] at hr
  rcases hr with rfl | rfl
  · exact ⟨rfl, fun _ => by decide, fun h => by cases h⟩
  · exact ⟨rfl, fun _ => by decide, fun h => by cases h⟩

end PPLV.Lattice.GO

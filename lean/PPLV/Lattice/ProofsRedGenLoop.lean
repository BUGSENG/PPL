import PPLV.Lattice.ProofsRedGenDim

/-!
# `Grid::simplify(Grid_Generator_System&, Dimension_Kinds&)` keeps the lattice and produces the triangular form

Main results: `simplifyGens_preserves`, `simplifyGens_tri` (Prop-level triangular form), `simplifyGens_wf`.
-/
namespace PPLV.Lattice.Red
open PPLV.Lattice

/-- same line flags, sizes and entries in the columns `0..n` (only the parameter divisor column may differ) -/
structure SDRel (n : Nat) (rows rows' : List GRow) : Prop where
  len : rows'.length = rows.length
  row : ∀ i, i < rows.length → (rowAt rows' i).line = (rowAt rows i).line ∧
    (rowAt rows' i).e.length = (rowAt rows i).e.length ∧ ∀ c, c ≤ n → get (rowAt rows' i).e c = get (rowAt rows i).e c

theorem SDRel.refl (n : Nat) (rows : List GRow) : SDRel n rows rows :=
  ⟨rfl, fun _ _ => ⟨rfl, rfl, fun _ _ => rfl⟩⟩

theorem SDRel.trans {n : Nat} {r1 r2 r3 : List GRow} (h1 : SDRel n r1 r2) (h2 : SDRel n r2 r3) : SDRel n r1 r3 :=
  ⟨h2.len.trans h1.len, fun i hi =>
    have a := h1.row i hi
    have b := h2.row i (by rw [h1.len]; exact hi)
    ⟨b.1.trans a.1, b.2.1.trans a.2.1, fun c hc => (b.2.2 c hc).trans (a.2.2 c hc)⟩⟩

theorem SDRel.hom {n : Nat} {rows rows' : List GRow} (h : SDRel n rows rows') (v : Pt) :
    Hom n rows v ↔ Hom n rows' v :=
  hom_iff_of_hv h.len (fun i hi => ⟨(h.row i hi).1, hv_congr (h.row i hi).2.2⟩) v

theorem SDRel.wf {n : Nat} {rows rows' : List GRow} (h : SDRel n rows rows') (hwf : WfI n rows) : WfI n rows' := by
  intro i hi
  rw [h.len] at hi
  rw [(h.row i hi).2.1]; exact hwf i hi

theorem SDRel.tri {n : Nat} {rows rows' : List GRow} {dk : List Nat} (h : SDRel n rows rows') {d p : Nat}
    (hd : d ≤ n + 1) (hp : p ≤ rows.length) (ht : Tri dk rows d p) : Tri dk rows' d p :=
  Tri_congr d p (fun j hj => ⟨(h.row j (by omega)).1, fun c hc => by rw [(h.row j (by omega)).2.2 c (by omega)]⟩) ht

/-- `set_divisor` on a row whose inhomogeneous term is zero touches only the parameter divisor column -/
theorem setDivisor_spec {n : Nat} (r : GRow) (d : Int) (hlen : r.e.length = n + 2) (h0 : get r.e 0 = 0) :
    (r.setDivisor d).line = r.line ∧ (r.setDivisor d).e.length = r.e.length ∧
      ∀ c, c ≤ n → get (r.setDivisor d).e c = get r.e c := by
  have e : r.setDivisor d = { r with e := r.e.set (r.e.length - 1) d } := by
    unfold GRow.setDivisor GRow.isLineOrParameter
    rw [h0]; rfl
  rw [e]
  refine ⟨rfl, by simp, fun c hc => ?_⟩
  show get (r.e.set (r.e.length - 1) d) c = get r.e c
  rw [get_set, if_neg (fun h => by omega)]

theorem setDivisors_zero (dk : List Nat) (sd : Int) (i : Nat) (rows : List GRow) :
    setDivisors dk sd 0 i rows = rows := rfl

theorem setDivisors_succ (dk : List Nat) (sd : Int) (dim i : Nat) (rows : List GRow) :
    setDivisors dk sd (dim + 1) i rows =
      if kind dk (dim + 1) = PARAMETER then
        setDivisors dk sd dim (i - 1) (rows.set i ((rowAt rows i).setDivisor sd))
      else if kind dk (dim + 1) = LINE then setDivisors dk sd dim (i - 1) rows
      else setDivisors dk sd dim i rows := rfl

theorem setDivisors_nil (dk : List Nat) (sd : Int) : ∀ (dim i : Nat), setDivisors dk sd dim i [] = [] := by
  intro dim
  induction dim with
  | zero => intro i; rfl
  | succ d ih =>
    intro i
    rw [setDivisors_succ]
    split
    · rw [List.set_nil]; exact ih _
    · split
      · exact ih _
      · exact ih _

/-- the last loop: only parameter divisors of parameter rows are written -/
theorem setDivisors_spec {n : Nat} {dk : List Nat} (sd : Int) : ∀ (dim i : Nat) (rows : List GRow) (p : Nat),
    dim ≤ n → WfI n rows → Tri dk rows (dim + 1) p → i = p - 1 → p ≤ rows.length →
    SDRel n rows (setDivisors dk sd dim i rows) := by
  intro dim
  induction dim with
  | zero => intro i rows p _ _ _ _ _; rw [setDivisors_zero]; exact SDRel.refl _ _
  | succ d ih =>
    intro i rows p hd hwf htri hi hp
    rw [setDivisors_succ]
    by_cases hv : kind dk (d + 1) = GEN_VIRTUAL
    · rw [if_neg (by rw [hv]; decide), if_neg (by rw [hv]; decide)]
      exact ih i rows p (by omega) hwf ((Tri_virt hv).mp htri) hi hp
    · obtain ⟨hp0, hrow, ht⟩ := (Tri_real hv).mp htri
      by_cases hpar : kind dk (d + 1) = PARAMETER
      · rw [if_pos hpar]
        have hil : i < rows.length := by omega
        have h0 : get (rowAt rows i).e 0 = 0 := by rw [hi]; exact hrow.2.2 0 (by omega)
        obtain ⟨s1, s2, s3⟩ := setDivisor_spec (n := n) (rowAt rows i) sd (hwf i hil) h0
        have step : SDRel n rows (rows.set i ((rowAt rows i).setDivisor sd)) := by
          refine ⟨by simp, fun j hj => ?_⟩
          rw [rowAt_set]; split
          · rename_i h; rw [h.1]; exact ⟨s1, s2, s3⟩
          · exact ⟨rfl, rfl, fun _ _ => rfl⟩
        have hrec := ih (i - 1) (rows.set i ((rowAt rows i).setDivisor sd)) (p - 1) (by omega) (step.wf hwf)
          (step.tri (by omega) (by omega) ht) (by omega) (by rw [step.len]; omega)
        exact step.trans hrec
      · have hline : kind dk (d + 1) = LINE := by
          have := hrow.1
          cases hh : (rowAt rows (p - 1)).line
          · rw [hh] at this; exact absurd this hpar
          · rw [hh] at this; exact this
        rw [if_neg hpar, if_pos hline]
        exact ih (i - 1) rows (p - 1) (by omega) hwf ht (by omega) (by omega)

theorem setDivisor_last {n : Nat} (r : GRow) (d : Int) (hlen : r.e.length = n + 2) (h0 : get r.e 0 = 0) :
    get (r.setDivisor d).e (n + 1) = d := by
  have e : r.setDivisor d = { r with e := r.e.set (r.e.length - 1) d } := by
    unfold GRow.setDivisor GRow.isLineOrParameter
    rw [h0]; rfl
  rw [e]
  show get (r.e.set (r.e.length - 1) d) (n + 1) = d
  rw [get_set, if_pos ⟨by omega, by omega⟩]

/-- the last loop: rows from `p` on are not touched; every parameter row (inhomogeneous term 0) gets the
    parameter divisor `sd` -/
theorem setDivisors_par {n : Nat} {dk : List Nat} (sd : Int) : ∀ (dim i : Nat) (rows : List GRow) (p : Nat),
    dim ≤ n → WfI n rows → Tri dk rows (dim + 1) p → i = p - 1 → p ≤ rows.length →
    (∀ j, p ≤ j → rowAt (setDivisors dk sd dim i rows) j = rowAt rows j) ∧
    (∀ j, j < p → (rowAt rows j).line = false → get (rowAt rows j).e 0 = 0 →
      get (rowAt (setDivisors dk sd dim i rows) j).e (n + 1) = sd) := by
  intro dim
  induction dim with
  | zero =>
    intro i rows p _ _ htri _ _
    rw [setDivisors_zero]
    refine ⟨fun _ _ => rfl, fun j hj _ h0 => ?_⟩
    by_cases hv : kind dk 0 = GEN_VIRTUAL
    · have : p = 0 := (Tri_virt hv).mp htri
      omega
    · obtain ⟨hp0, hrow, ht⟩ := (Tri_real hv).mp htri
      have hp1 : p - 1 = 0 := ht
      have hj0 : j = 0 := by omega
      subst hj0
      have := hrow.2.1
      rw [hp1, h0] at this
      exact absurd this (by decide)
  | succ d ih =>
    intro i rows p hd hwf htri hi hp
    rw [setDivisors_succ]
    by_cases hv : kind dk (d + 1) = GEN_VIRTUAL
    · rw [if_neg (by rw [hv]; decide), if_neg (by rw [hv]; decide)]
      exact ih i rows p (by omega) hwf ((Tri_virt hv).mp htri) hi hp
    · obtain ⟨hp0, hrow, ht⟩ := (Tri_real hv).mp htri
      by_cases hpar : kind dk (d + 1) = PARAMETER
      · rw [if_pos hpar]
        have hil : i < rows.length := by omega
        have h0 : get (rowAt rows i).e 0 = 0 := by rw [hi]; exact hrow.2.2 0 (by omega)
        obtain ⟨s1, s2, s3⟩ := setDivisor_spec (n := n) (rowAt rows i) sd (hwf i hil) h0
        have step : SDRel n rows (rows.set i ((rowAt rows i).setDivisor sd)) := by
          refine ⟨by simp, fun j hj => ?_⟩
          rw [rowAt_set]; split
          · rename_i h; rw [h.1]; exact ⟨s1, s2, s3⟩
          · exact ⟨rfl, rfl, fun _ _ => rfl⟩
        obtain ⟨fr, pa⟩ := ih (i - 1) (rows.set i ((rowAt rows i).setDivisor sd)) (p - 1) (by omega) (step.wf hwf)
          (step.tri (by omega) (by omega) ht) (by omega) (by rw [step.len]; omega)
        constructor
        · intro j hj
          rw [fr j (by omega), rowAt_set, if_neg (fun h => by omega)]
        · intro j hj hl hj0
          by_cases e : j = i
          · rw [fr j (by omega), rowAt_set, if_pos ⟨e, hil⟩]
            exact setDivisor_last _ _ (hwf i hil) h0
          · have hsame : rowAt (rows.set i ((rowAt rows i).setDivisor sd)) j = rowAt rows j := by
              rw [rowAt_set, if_neg (fun h => e h.1)]
            exact pa j (by omega) (by rw [hsame]; exact hl) (by rw [hsame]; exact hj0)
      · have hline : kind dk (d + 1) = LINE := by
          have := hrow.1
          cases hh : (rowAt rows (p - 1)).line
          · rw [hh] at this; exact absurd this hpar
          · rw [hh] at this; exact this
        rw [if_neg hpar, if_pos hline]
        obtain ⟨fr, pa⟩ := ih (i - 1) rows (p - 1) (by omega) hwf ht (by omega) (by omega)
        constructor
        · intro j hj; exact fr j (by omega)
        · intro j hj hl hj0
          by_cases e : j = p - 1
          · have := hrow.1
            rw [hline, ← e, hl] at this
            exact absurd this (by decide)
          · exact pa j (by omega) hl hj0

/-- clipping and the divisor loop, for a state that satisfies the invariant after the last dimension -/
theorem final_spec {n numRows : Nat} {st : GSt} (h : OInv n numRows (n + 1) st) (rows1 : List GRow)
    (hrows1 : rows1 = if numRows > st.pivotIndex then st.rows.take st.pivotIndex else st.rows) (sd : Int) :
    (∀ v, Hom n st.rows v ↔ Hom n (setDivisors st.dk sd n (rows1.length - 1) rows1) v) ∧
      Tri st.dk (setDivisors st.dk sd n (rows1.length - 1) rows1) (n + 1)
        (setDivisors st.dk sd n (rows1.length - 1) rows1).length ∧
      WfI n (setDivisors st.dk sd n (rows1.length - 1) rows1) ∧
      (∀ j, j < (setDivisors st.dk sd n (rows1.length - 1) rows1).length →
        (rowAt (setDivisors st.dk sd n (rows1.length - 1) rows1) j).line = false →
        get (rowAt (setDivisors st.dk sd n (rows1.length - 1) rows1) j).e 0 = 0 →
        get (rowAt (setDivisors st.dk sd n (rows1.length - 1) rows1) j).e (n + 1) = sd) ∧
      (0 < rows1.length →
        get (rowAt (setDivisors st.dk sd n (rows1.length - 1) rows1) 0).e 0 = get (rowAt rows1 0).e 0) := by
  have hlen := h.len
  have hple := h.ple
  have hclip : rows1.length = st.pivotIndex ∧ (∀ i, i < st.pivotIndex → rowAt rows1 i = rowAt st.rows i) ∧
      ∀ v, Hom n st.rows v ↔ Hom n rows1 v := by
    by_cases hc : numRows > st.pivotIndex
    · rw [hrows1, if_pos hc]
      refine ⟨by simp; omega, fun i hi => rowAt_take _ _ _ hi, hom_iff_take _ (fun i hpi hi => ?_)⟩
      exact hv_zero fun c hc' => h.zero i hpi hi c (by omega)
    · rw [hrows1, if_neg hc]
      exact ⟨by omega, fun _ _ => rfl, fun _ => Iff.rfl⟩
  obtain ⟨c1, c2, c3⟩ := hclip
  have wf1 : WfI n rows1 := by
    intro i hi
    rw [c1] at hi
    rw [c2 i hi]; exact h.wf i (by omega)
  have tri1 : Tri st.dk rows1 (n + 1) st.pivotIndex :=
    Tri_congr _ _ (fun j hj => by rw [c2 j hj]; exact ⟨rfl, fun _ _ => rfl⟩) h.tri
  have hsd := setDivisors_spec (dk := st.dk) sd n (rows1.length - 1) rows1 st.pivotIndex (Nat.le_refl _) wf1 tri1
    (by rw [c1]) (by omega)
  have hl : (setDivisors st.dk sd n (rows1.length - 1) rows1).length = st.pivotIndex := hsd.len.trans c1
  obtain ⟨_, pa⟩ := setDivisors_par (dk := st.dk) sd n (rows1.length - 1) rows1 st.pivotIndex (Nat.le_refl _) wf1 tri1
    (by rw [c1]) (by omega)
  refine ⟨fun v => (c3 v).trans (hsd.hom v), ?_, hsd.wf wf1, ?_, ?_⟩
  · rw [hl]
    exact hsd.tri (Nat.le_refl _) (by omega) tri1
  · intro j hj hline h0
    rw [hl] at hj
    have r := hsd.row j (by omega)
    exact pa j hj (by rw [← r.1]; exact hline) (by rw [← r.2.2 0 (by omega)]; exact h0)
  · intro h0
    exact (hsd.row 0 h0).2.2 0 (by omega)

theorem simplifyGens_eq (n : Nat) (rows : List GRow) (dk : List Nat) :
    simplifyGens n rows dk =
      (setDivisors
        ((List.range (n + 1)).foldl (simplifyGenDim (n + 1) rows.length)
          { rows := rows, dk := if dk.length ≠ n + 1 then resizeKinds dk (n + 1) else dk, pivotIndex := 0 }).dk
        (get (rowAt (if rows.length > ((List.range (n + 1)).foldl (simplifyGenDim (n + 1) rows.length)
              { rows := rows, dk := if dk.length ≠ n + 1 then resizeKinds dk (n + 1) else dk, pivotIndex := 0 }).pivotIndex
            then ((List.range (n + 1)).foldl (simplifyGenDim (n + 1) rows.length)
              { rows := rows, dk := if dk.length ≠ n + 1 then resizeKinds dk (n + 1) else dk, pivotIndex := 0 }).rows.take
                ((List.range (n + 1)).foldl (simplifyGenDim (n + 1) rows.length)
              { rows := rows, dk := if dk.length ≠ n + 1 then resizeKinds dk (n + 1) else dk, pivotIndex := 0 }).pivotIndex
            else ((List.range (n + 1)).foldl (simplifyGenDim (n + 1) rows.length)
              { rows := rows, dk := if dk.length ≠ n + 1 then resizeKinds dk (n + 1) else dk, pivotIndex := 0 }).rows) 0).e 0)
        n
        ((if rows.length > ((List.range (n + 1)).foldl (simplifyGenDim (n + 1) rows.length)
              { rows := rows, dk := if dk.length ≠ n + 1 then resizeKinds dk (n + 1) else dk, pivotIndex := 0 }).pivotIndex
            then ((List.range (n + 1)).foldl (simplifyGenDim (n + 1) rows.length)
              { rows := rows, dk := if dk.length ≠ n + 1 then resizeKinds dk (n + 1) else dk, pivotIndex := 0 }).rows.take
                ((List.range (n + 1)).foldl (simplifyGenDim (n + 1) rows.length)
              { rows := rows, dk := if dk.length ≠ n + 1 then resizeKinds dk (n + 1) else dk, pivotIndex := 0 }).pivotIndex
            else ((List.range (n + 1)).foldl (simplifyGenDim (n + 1) rows.length)
              { rows := rows, dk := if dk.length ≠ n + 1 then resizeKinds dk (n + 1) else dk, pivotIndex := 0 }).rows).length - 1)
        (if rows.length > ((List.range (n + 1)).foldl (simplifyGenDim (n + 1) rows.length)
              { rows := rows, dk := if dk.length ≠ n + 1 then resizeKinds dk (n + 1) else dk, pivotIndex := 0 }).pivotIndex
            then ((List.range (n + 1)).foldl (simplifyGenDim (n + 1) rows.length)
              { rows := rows, dk := if dk.length ≠ n + 1 then resizeKinds dk (n + 1) else dk, pivotIndex := 0 }).rows.take
                ((List.range (n + 1)).foldl (simplifyGenDim (n + 1) rows.length)
              { rows := rows, dk := if dk.length ≠ n + 1 then resizeKinds dk (n + 1) else dk, pivotIndex := 0 }).pivotIndex
            else ((List.range (n + 1)).foldl (simplifyGenDim (n + 1) rows.length)
              { rows := rows, dk := if dk.length ≠ n + 1 then resizeKinds dk (n + 1) else dk, pivotIndex := 0 }).rows),
       ((List.range (n + 1)).foldl (simplifyGenDim (n + 1) rows.length)
          { rows := rows, dk := if dk.length ≠ n + 1 then resizeKinds dk (n + 1) else dk, pivotIndex := 0 }).dk) := rfl

theorem length_resizeKinds (dk : List Nat) (m : Nat) : (resizeKinds dk m).length = m := by
  simp [resizeKinds]; omega

/-- everything at once -/
theorem simplifyGens_spec (n : Nat) (rows : List GRow) (dk : List Nat) (hwf : GWf n rows) :
    HomSim n rows (simplifyGens n rows dk).1 ∧
      Tri (simplifyGens n rows dk).2 (simplifyGens n rows dk).1 (n + 1) (simplifyGens n rows dk).1.length ∧
      WfI n (simplifyGens n rows dk).1 ∧
      (∀ j, j < (simplifyGens n rows dk).1.length → (rowAt (simplifyGens n rows dk).1 j).line = false →
        get (rowAt (simplifyGens n rows dk).1 j).e 0 = 0 →
        get (rowAt (simplifyGens n rows dk).1 j).e (n + 1) = get (rowAt (simplifyGens n rows dk).1 0).e 0) := by
  have hdk0 : (if dk.length ≠ n + 1 then resizeKinds dk (n + 1) else dk).length = n + 1 := by
    split
    · exact length_resizeKinds _ _
    · rename_i h; exact not_not.mp h
  have h0 : OInv n rows.length 0
      { rows := rows, dk := if dk.length ≠ n + 1 then resizeKinds dk (n + 1) else dk, pivotIndex := 0 } :=
    ⟨rfl, wfI_of_gwf hwf, Nat.zero_le _, fun _ _ _ c hc => absurd hc (Nat.not_lt_zero c), rfl, hdk0⟩
  obtain ⟨hO, hH⟩ := outer_fold (n + 1) 0 _ h0 (by omega)
  rw [← List.range_eq_range'] at hO hH
  rw [Nat.zero_add] at hO
  rw [simplifyGens_eq]
  generalize (List.range (n + 1)).foldl (simplifyGenDim (n + 1) rows.length)
    { rows := rows, dk := if dk.length ≠ n + 1 then resizeKinds dk (n + 1) else dk, pivotIndex := 0 } = st at hO hH
  obtain ⟨f1, f2, f3, f4, f5⟩ := final_spec hO _ rfl
    (get (rowAt (if rows.length > st.pivotIndex then st.rows.take st.pivotIndex else st.rows) 0).e 0)
  refine ⟨hH.trans (HomSim.of_iff f1), f2, f3, fun j hj hl h0 => ?_⟩
  have hlen0 : 0 < (if rows.length > st.pivotIndex then st.rows.take st.pivotIndex else st.rows).length := by
    by_contra hc
    have h00 : (if rows.length > st.pivotIndex then st.rows.take st.pivotIndex else st.rows).length = 0 := by omega
    have e : (if rows.length > st.pivotIndex then st.rows.take st.pivotIndex else st.rows) = [] :=
      List.length_eq_zero_iff.mp h00
    rw [e] at hj
    have : setDivisors st.dk (get (rowAt ([] : List GRow) 0).e 0) n (([] : List GRow).length - 1) [] = [] :=
      setDivisors_nil _ _ _ _
    rw [this] at hj
    exact absurd hj (Nat.not_lt_zero j)
  rw [f5 hlen0]
  exact f4 j hj hl h0

/-- **`Grid::simplify` keeps the lattice** (up to the positive integer by which `reduce_parameter_with_line`
    scaled the parameter and point rows).  No hypothesis beyond the row sizes is needed (`rows = []` included). -/
theorem simplifyGens_preserves (n : Nat) (rows : List GRow) (dk : List Nat) (hwf : GWf n rows) :
    ∃ k : Int, 0 < k ∧ ∀ v, Hom n rows v ↔ Hom n (simplifyGens n rows dk).1 ((k : Rat) • v) :=
  (simplifyGens_spec n rows dk hwf).1

/-- **the result is in triangular form** (Prop level): the rows are, in order, the pivot rows of the
    non-virtual dimensions; each has a positive diagonal entry, zeros before it, and its kind agrees with its
    line flag -/
theorem simplifyGens_tri (n : Nat) (rows : List GRow) (dk : List Nat) (hwf : GWf n rows) :
    Tri (simplifyGens n rows dk).2 (simplifyGens n rows dk).1 (n + 1) (simplifyGens n rows dk).1.length :=
  (simplifyGens_spec n rows dk hwf).2.1

/-- the rows keep their sizes -/
theorem simplifyGens_wf (n : Nat) (rows : List GRow) (dk : List Nat) (hwf : GWf n rows) :
    GWf n (simplifyGens n rows dk).1 :=
  gwf_of_wfI (simplifyGens_spec n rows dk hwf).2.2.1

/-- the last loop gives every parameter row (not a line, inhomogeneous term 0) the system divisor, i.e. the
    inhomogeneous term of row 0, as its parameter divisor -/
theorem simplifyGens_divisors (n : Nat) (rows : List GRow) (dk : List Nat) (hwf : GWf n rows) :
    ∀ j, j < (simplifyGens n rows dk).1.length → (rowAt (simplifyGens n rows dk).1 j).line = false →
      get (rowAt (simplifyGens n rows dk).1 j).e 0 = 0 →
      get (rowAt (simplifyGens n rows dk).1 j).e (n + 1) = get (rowAt (simplifyGens n rows dk).1 0).e 0 :=
  (simplifyGens_spec n rows dk hwf).2.2.2

/-- clipping zero rows keeps the lattice -/
theorem take_homSim (n : Nat) (rows : List GRow) (p : Nat)
    (hz : ∀ i, p ≤ i → i < rows.length → ∀ c, c ≤ n → get (rowAt rows i).e c = 0) : HomSim n rows (rows.take p) :=
  HomSim.of_iff (hom_iff_take p fun i hpi hi => hv_zero (hz i hpi hi))

/-- the divisor loop keeps the lattice (it writes only the parameter divisor column) -/
theorem setDivisors_homSim {n : Nat} {dk : List Nat} (sd : Int) (rows : List GRow) (hwf : WfI n rows)
    (htri : Tri dk rows (n + 1) rows.length) : HomSim n rows (setDivisors dk sd n (rows.length - 1) rows) :=
  HomSim.of_iff (setDivisors_spec sd n (rows.length - 1) rows rows.length (Nat.le_refl _) hwf htri rfl
    (Nat.le_refl _)).hom

end PPLV.Lattice.Red

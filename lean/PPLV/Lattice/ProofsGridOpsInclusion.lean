import PPLV.Lattice.ProofsGridOpsJoin
import PPLV.Lattice.ProofsConvGCCert
import PPLV.Lattice.ProofsGridOpsCongruence
import PPLV.Lattice.ProofsGridOpsLazy

/-!
# The `Grid` object: inclusion and equality tests

`is_included_in(y)` (Grid_nonpublic.cc:246): every generator of `x` satisfies every congruence of `y`; `quick_equivalence_test`
(Grid_nonpublic.cc:181): the answer `TVB_TRUE` is sound; `contains(y)` (Grid_public.cc:2830) and `operator==`.
-/
namespace PPLV.Lattice.GO
open PPLV.Lattice PPLV.Lattice.Red

/-! ## `Congruence_System::satisfies_all_congruences(g)` on the rows of a normalised generator system decides the inclusion of the generated grid in the solutions of the congruences -/

/-- the scalar product of `satisfies_all_congruences` is `dotUpto` -/
theorem gn_spg_eq (c g : Row) : ∀ m : Nat,
    ((List.range m).map fun i => get g i * get c i).foldl (· + ·) 0 = dotUpto c g m
  | 0 => rfl
  | k + 1 => by
    rw [List.range_succ, List.map_append, List.foldl_append, gn_spg_eq c g k]
    simp only [List.map_cons, List.map_nil, List.foldl_cons, List.foldl_nil, dotUpto]
    ring

/-- `satisfies_all_congruences(g)` is the certificate condition of every congruence row against `g` -/
theorem gn_satisfiesAll_iff {n : Nat} {D : Int} (s : CSys) (g : GRow) (hlen : g.e.length = n + 2)
    (hdiv : g.line = false → g.divisor = D) :
    s.satisfiesAll g = true ↔ ∀ c ∈ s.rows, CertPair n D c g := by
  have hsp : ∀ cg : CRow, ((List.range (g.spaceDim + 1)).map fun i => get g.e i * get cg.e i).foldl (· + ·) 0
      = dotRow cg.e g.e n := by
    intro cg; rw [gn_spg_eq, gn_spaceDim_of_len hlen]; rfl
  unfold CSys.satisfiesAll CertPair
  simp only [hsp]
  cases hl : g.line with
  | true => simp
  | false =>
    simp only [Bool.false_eq_true, if_false, List.all_eq_true, hdiv hl]
    constructor
    · intro h c hc
      have := h c hc
      by_cases hm : c.isEquality = true
      · have hm' : c.m = 0 := by simpa [CRow.isEquality] using hm
        rw [if_pos hm] at this
        rw [hm', mul_zero]
        exact ⟨0, by simpa using this⟩
      · rw [if_neg hm] at this
        rw [mul_comm]
        exact Int.dvd_of_tmod_eq_zero (by simpa using this)
    · intro h c hc
      have := h c hc
      by_cases hm : c.isEquality = true
      · have hm' : c.m = 0 := by simpa [CRow.isEquality] using hm
        rw [if_pos hm]
        rw [hm', mul_zero] at this
        simpa using zero_dvd_iff.mp this
      · rw [if_neg hm]
        rw [mul_comm] at this
        simpa using Int.tmod_eq_zero_of_dvd this

/-- the divisor of a parameter or point of a normalised system -/
theorem gn_divisor_of_gnorm {n : Nat} {D : Int} {rows : List GRow} (hN : GNorm n D rows) (hw : GWf n rows) {g : GRow}
    (hg : g ∈ rows) (hl : g.line = false) : g.divisor = D := by
  rcases hN.col0 g hg hl with h0 | h0
  · rw [divisor_param n g (hw g hg) h0, hN.par g hg hl h0]
  · have : get g.e 0 ≠ 0 := by rw [h0]; exact ne_of_gt hN.pos
    rw [divisor_point g this, h0]

/-- soundness: all rows pass → the generated grid lies in the solutions -/
theorem gn_check_sound {n : Nat} {D : Int} {rows : List GRow} (hN : GNorm n D rows) (hw : GWf n rows) {cs : List CRow}
    (hc : CWf n cs) (h : ∀ g ∈ rows, ∀ c ∈ cs, CertPair n D c g) : gn_set rows ⊆ consSet n cs := by
  intro x hx
  exact cert_sound_prop n rows cs D (ne_of_gt hN.pos) (fun c hc' => (hc c hc').1) (fun c hc' g hg => h g hg c hc') x
    (gn_hom_of_mem hN hw hx)

theorem gn_alpha_homog_of_sem (c : CRow) {n : Nat} (hc : c.e.length = n + 1) (D : ℚ) {x : Pt} (hx : c.toCg.sem x) :
    ∃ t : Int, alphaOf (ratRow c.e) (homog D x) = D * ((t : ℚ) * (c.m : ℚ)) := by
  obtain ⟨t, ht⟩ := hx
  refine ⟨t, ?_⟩
  rw [alphaOf_homog c.e (by omega)]
  simp only [CRow.toCg] at ht
  rw [ht]

/-- completeness: the generated grid lies in the solutions of `c` → every row passes -/
theorem gn_check_complete {n : Nat} {D : Int} {rows : List GRow} (hN : GNorm n D rows) (hw : GWf n rows) (c : CRow)
    (hc : c.e.length = n + 1) (hsub : ∀ x, gn_Mem rows x → c.toCg.sem x) : ∀ g ∈ rows, CertPair n D c g := by
  have hDne : D ≠ 0 := ne_of_gt hN.pos
  have hDq : (D : ℚ) ≠ 0 := by exact_mod_cast hDne
  obtain ⟨a0, ha0⟩ := gn_mem_nonempty (gn_wf_of_gnorm hN hw).pt
  obtain ⟨t0, ht0⟩ := gn_alpha_homog_of_sem c hc (D : ℚ) (hsub a0 ha0)
  -- a direction `v` with `a0 + v` in the grid
  have hdir : ∀ v : Pt, gn_Mem rows (a0 + v) →
      ∃ t : Int, alphaOf (ratRow c.e) ((D : ℚ) • shift v) = (D : ℚ) * ((t : ℚ) * (c.m : ℚ)) := by
    intro v hv
    obtain ⟨t1, ht1⟩ := gn_alpha_homog_of_sem c hc (D : ℚ) (hsub _ hv)
    refine ⟨t1 - t0, ?_⟩
    have e : (D : ℚ) • shift v = homog (D : ℚ) (a0 + v) - homog (D : ℚ) a0 := by
      rw [homog_sub]; congr 2; module
    rw [e, map_sub, ht1, ht0]; push_cast; ring
  intro g hg
  have hlen := hw g hg
  unfold CertPair
  cases hl : g.line with
  | false =>
    rw [if_neg (by simp)]
    by_cases h0 : get g.e 0 = 0
    · -- a parameter
      have hp : gn_isPar g = true := (gn_isPar_iff g).mpr ⟨hl, h0⟩
      have hm : gn_Mem rows (a0 + gn_vecOf g) := by
        have := gn_mem_par_step hg hp ha0 1; simpa using this
      obtain ⟨t, ht⟩ := hdir _ hm
      rw [gn_vecOf_par hlen hp, hN.par g hg hl h0, ← hvec_dir n g (D : ℚ) hDq h0, alphaOf_hvec n c.e hc] at ht
      exact ⟨t, by exact_mod_cast (by rw [ht]; push_cast; ring : ((dotRow c.e g.e n : Int) : ℚ) = ((D * c.m * t : Int) : ℚ))⟩
    · -- a point
      have hp : gn_isPt g = true := (gn_isPt_iff g).mpr ⟨hl, h0⟩
      have e0 : get g.e 0 = D := by
        rcases hN.col0 g hg hl with q | q
        · exact absurd q h0
        · exact q
      obtain ⟨t, ht⟩ := gn_alpha_homog_of_sem c hc (D : ℚ) (hsub _ (gn_mem_pt hg hp))
      rw [gn_vecOf_pt hlen hp, e0, ← hvec_point n g D hDne e0, alphaOf_hvec n c.e hc] at ht
      exact ⟨t, by exact_mod_cast (by rw [ht]; push_cast; ring : ((dotRow c.e g.e n : Int) : ℚ) = ((D * c.m * t : Int) : ℚ))⟩
  | true =>
    rw [if_pos rfl]
    have z1 := hN.lin g hg hl
    have e := hvec_dir n g 1 one_ne_zero z1
    rw [one_smul, ← gn_vecOf_line hlen hl] at e
    have hβ : alphaOf (ratRow c.e) (shift (gn_vecOf g)) = ((dotRow c.e g.e n : Int) : ℚ) := by
      rw [← e, alphaOf_hvec n c.e hc]
    have hz : ((dotRow c.e g.e n : Int) : ℚ) = 0 := by
      refine half_trick _ (c.m : ℚ) fun c' => ?_
      obtain ⟨t, ht⟩ := hdir (c' • gn_vecOf g) (gn_mem_line_step hg hl ha0 c')
      rw [gn_shift_smul, smul_smul, map_smul, hβ, smul_eq_mul, mul_assoc] at ht
      exact ⟨t, mul_left_cancel₀ hDq ht⟩
    exact_mod_cast hz

/-- **the inclusion test**: the rows of a normalised generator system all satisfy the congruences exactly when the
    generated grid is included in the solutions -/
theorem gn_check_iff {n : Nat} {D : Int} {rows : List GRow} (hN : GNorm n D rows) (hw : GWf n rows) (s : CSys)
    (hc : CWf n s.rows) :
    (rows.all fun g => s.satisfiesAll g) = true ↔ gn_set rows ⊆ consSet n s.rows := by
  rw [List.all_eq_true]
  constructor
  · intro h
    refine gn_check_sound hN hw hc ?_
    intro g hg
    exact (gn_satisfiesAll_iff s g (hw g hg) (gn_divisor_of_gnorm hN hw hg)).mp (h g hg)
  · intro h g hg
    refine (gn_satisfiesAll_iff s g (hw g hg) (gn_divisor_of_gnorm hN hw hg)).mpr ?_
    intro c hc'
    refine gn_check_complete hN hw c (hc c hc').1 ?_ g hg
    intro x hx
    have := (h hx).2 c.toCg (List.mem_map_of_mem hc')
    exact this

/-- the hypotheses are satisfiable: the grid `{1/2 + 3k/2}` and the congruence `2x - 1 ≡ 0 (mod 3)`; the test says yes -/
example : GNorm 1 2 [⟨false, [2, 1, 0]⟩, ⟨false, [0, 3, 2]⟩] ∧ GWf 1 [⟨false, [2, 1, 0]⟩, ⟨false, [0, 3, 2]⟩] ∧
    CWf 1 [⟨[-1, 2], 3⟩] ∧
    ([⟨false, [2, 1, 0]⟩, ⟨false, [0, 3, 2]⟩].all fun g => (CSys.mk 1 [⟨[-1, 2], 3⟩]).satisfiesAll g) = true := by
  refine ⟨⟨by decide, ⟨_, List.mem_cons_self, rfl, rfl⟩, by decide, by decide, by decide⟩, ?_, ?_, by decide⟩
  · intro r hr
    simp only [List.mem_cons, List.not_mem_nil, or_false] at hr
    rcases hr with rfl | rfl <;> rfl
  · intro r hr
    rw [List.mem_singleton.mp hr]; exact ⟨rfl, by decide⟩

/-! ## `Grid::is_included_in(y)` (Grid_nonpublic.cc:246) answers `x ⊆ y` -/

/-- a state with up-to-date congruences denotes their solutions -/
theorem gn_sem_of_cUp {g : Grid} (hI : GridInv g) (hn : 0 < g.spaceDim) (he : g.st.empty = false) (hc : g.st.cUp = true) :
    g.conDim = g.spaceDim ∧ CWf g.spaceDim g.con ∧ g.sem = consSet g.spaceDim g.con := by
  obtain ⟨a, b⟩ := hI.cwf he hn hc
  refine ⟨a, b, ?_⟩
  exact sem_of_cUp hI he hn hc

/-- `if (!x.generators_are_up_to_date() && !x.update_generators())` -/
def gn_incX (x : Grid) : Grid × Bool := if !x.generatorsAreUpToDate then updateGenerators x else (x, true)
/-- `if (!y.congruences_are_up_to_date()) y.update_congruences()` -/
def gn_incY (y : Grid) : Grid := if !y.congruencesAreUpToDate then updateCongruences y else y

theorem gn_incX_spec (x : Grid) (hI : GridInv x) (he : x.st.empty = false)
    (hn : 0 < x.spaceDim) :
    GridInv (gn_incX x).1 ∧ (gn_incX x).1.sem = x.sem ∧ (gn_incX x).1.spaceDim = x.spaceDim ∧
    ((gn_incX x).2 = true → (gn_incX x).1.st.empty = false ∧ (gn_incX x).1.st.gUp = true) ∧
    ((gn_incX x).2 = false → x.sem = ∅) := by
  unfold gn_incX
  cases hg : x.generatorsAreUpToDate with
  | true =>
    rw [if_neg (by simp)]
    exact ⟨hI, rfl, rfl, fun _ => ⟨he, hg⟩, fun h => by cases h⟩
  | false =>
    rw [if_pos (by simp)]
    have hg' : x.st.gUp = false := hg
    have hc : x.st.cUp = true := cUp_of_not_gUp hI he hn hg'
    obtain ⟨a, b, c, d, e, _⟩ := updateGenerators_spec x hI he hn hc hg'
    refine ⟨a, b, c, fun h => ⟨(e h).1, (e h).2.1⟩, fun h => ?_⟩
    rw [← Set.not_nonempty_iff_eq_empty, ← d, h]; simp

theorem gn_incY_spec (y : Grid) (hI : GridInv y) (he : y.st.empty = false)
    (hn : 0 < y.spaceDim) :
    GridInv (gn_incY y) ∧ (gn_incY y).sem = y.sem ∧ (gn_incY y).spaceDim = y.spaceDim ∧
    (gn_incY y).st.empty = false ∧ (gn_incY y).st.cUp = true := by
  unfold gn_incY
  cases hc : y.congruencesAreUpToDate with
  | true =>
    rw [if_neg (by simp)]
    exact ⟨hI, rfl, rfl, he, hc⟩
  | false =>
    rw [if_pos (by simp)]
    have hc' : y.st.cUp = false := hc
    have hg : y.st.gUp = true := gUp_of_not_cUp hI he hn hc'
    obtain ⟨a, b, c, d, _, _, e, _⟩ := updateCongruences_spec y hI he hn hg hc'
    exact ⟨a, b, c, d, e⟩

theorem gn_isIncludedIn_eq (x y : Grid) : isIncludedIn x y =
    if (gn_incX x).2 = false then ((gn_incX x).1, y, true)
    else ((gn_incX x).1, gn_incY y, (gn_incX x).1.gen.reverse.all fun gi => (gn_incY y).cs.satisfiesAll gi) := by
  unfold isIncludedIn
  show (if (!(gn_incX x).2) = true then _ else _) = _
  cases (gn_incX x).2 <;> rfl

/-- **`Grid::is_included_in(y)`** on two grids of one positive dimension that are not marked empty: the invariants and
    the denotations are kept (the lazy state may change) and the answer is `x ⊆ y` -/
theorem gn_isIncludedIn (x y : Grid) (hIx : GridInv x)
    (hIy : GridInv y) (hex : x.st.empty = false) (hey : y.st.empty = false) (hn : 0 < x.spaceDim)
    (hd : x.spaceDim = y.spaceDim) :
    GridInv (isIncludedIn x y).1 ∧ GridInv (isIncludedIn x y).2.1 ∧ (isIncludedIn x y).1.sem = x.sem ∧
    (isIncludedIn x y).2.1.sem = y.sem ∧ (isIncludedIn x y).1.spaceDim = x.spaceDim ∧
    (isIncludedIn x y).2.1.spaceDim = y.spaceDim ∧ ((isIncludedIn x y).2.2 = true ↔ x.sem ⊆ y.sem) := by
  obtain ⟨a, b, c, d, e⟩ := gn_incX_spec x hIx hex hn
  rw [gn_isIncludedIn_eq]
  cases h2 : (gn_incX x).2 with
  | false =>
    rw [if_pos rfl]
    refine ⟨a, hIy, b, rfl, c, rfl, ⟨fun _ => ?_, fun _ => rfl⟩⟩
    rw [e h2]; exact Set.empty_subset _
  | true =>
    rw [if_neg (by simp)]
    have hny : 0 < y.spaceDim := by omega
    obtain ⟨a', b', c', d', e'⟩ := gn_incY_spec y hIy hey hny
    refine ⟨a, a', b, b', c, c', ?_⟩
    obtain ⟨g1, g2⟩ := d h2
    obtain ⟨_, q, r, s⟩ := gn_sem_of_gUp a (by rw [c]; exact hn) g1 g2
    obtain ⟨_, q', s'⟩ := gn_sem_of_cUp a' (by rw [c']; exact hny) d' e'
    show ((gn_incX x).1.gen.reverse.all fun gi => (gn_incY y).cs.satisfiesAll gi) = true ↔ _
    rw [List.all_reverse, ← b, ← b', s, s']
    have hdim : (gn_incY y).spaceDim = (gn_incX x).1.spaceDim := by rw [c', c, hd]
    rw [hdim] at q' ⊢
    exact gn_check_iff r q (gn_incY y).cs q'

/-- what `contains` needs of `Grid::quick_equivalence_test` (Grid_nonpublic.cc:181): the answer `TVB_TRUE` is right
    (`gn_quickTrueSound` below) -/
def gn_QuickTrueSound : Prop :=
  ∀ x y : Grid, GridInv x → GridInv y → x.st.empty = false → y.st.empty = false → 0 < x.spaceDim →
    x.spaceDim = y.spaceDim → quickEquivalenceTest x y = TVB_TRUE → x.sem = y.sem

/-! ## `Grid_Generator::is_equivalent_to` rows denote the same generator; systems that are `operator==` generate the same grid -/

/-- `normalize()` divides by a non-zero integer -/
theorem gn_normalizeRow_factor (e : Row) : ∃ g : Int, g ≠ 0 ∧ ∀ i, get e i = g * get (normalizeRow e) i := by
  unfold normalizeRow
  by_cases h : rowGcd e = 0 ∨ rowGcd e = 1
  · simp only [h, if_true]; exact ⟨1, one_ne_zero, fun i => by simp⟩
  · simp only [h, if_false]
    rw [not_or] at h
    refine ⟨rowGcd e, h.1, fun i => ?_⟩
    rw [cn_get_map _ _ (by simp)]
    exact (Int.mul_ediv_cancel' (cn_rowGcd_dvd e i)).symm

/-- kinds from the line flag and the inhomogeneous term -/
theorem gn_kind_congr {x y : GRow} (hl : y.line = x.line) (h0 : get y.e 0 = 0 ↔ get x.e 0 = 0) :
    gn_isPt y = gn_isPt x ∧ gn_isPar y = gn_isPar x := by
  by_cases hz : get x.e 0 = 0
  · simp [gn_isPt, gn_isPar, hl, hz, h0.mpr hz]
  · have hz' : get y.e 0 ≠ 0 := fun q => hz (h0.mp q)
    have a1 : (get x.e 0 != 0) = true := bne_iff_ne.mpr hz
    have a2 : (get y.e 0 != 0) = true := bne_iff_ne.mpr hz'
    have a3 : (get x.e 0 == 0) = false := beq_eq_false_iff_ne.mpr hz
    have a4 : (get y.e 0 == 0) = false := beq_eq_false_iff_ne.mpr hz'
    simp only [gn_isPt, gn_isPar, hl, a1, a2, a3, a4, and_self]

/-- two parameters or points that `is_equivalent_to` each other have the same kind and the same rational vector -/
theorem gn_equiv_rows {n : Nat} {x y : GRow} (hx : x.e.length = n + 2) (hy : y.e.length = n + 2) (hlx : x.line = false)
    (h : x.isEquivalentTo y = true) :
    y.line = false ∧ (get y.e 0 = 0 ↔ get x.e 0 = 0) ∧ gn_vecOf y = gn_vecOf x := by
  unfold GRow.isEquivalentTo at h
  simp only [Bool.and_eq_true, beq_iff_eq] at h
  obtain ⟨⟨⟨_, hl⟩, hp⟩, hN⟩ := h
  have hly : y.line = false := by rw [← hl]; exact hlx
  refine ⟨hly, ?_, ?_⟩
  · have e1 : x.isParameter = true ↔ get x.e 0 = 0 := by simp [GRow.isParameter, hlx]
    have e2 : y.isParameter = true ↔ get y.e 0 = 0 := by simp [GRow.isParameter, hly]
    rw [← e1, ← e2, hp]
  · rw [gn_vecOf_nonline hy hly, gn_vecOf_nonline hx hlx]
    funext i
    rw [coords_toFun, coords_toFun]
    by_cases hi : i < n
    · rw [if_pos hi, if_pos hi]
      cases hpx : x.isParameter with
      | true =>
        have hpy : y.isParameter = true := by rw [← hp]; exact hpx
        rw [hpx, hpy] at hN
        simp only [if_true] at hN
        obtain ⟨gx, hgx, fx⟩ := gn_normalizeRow_factor x.e
        obtain ⟨gy, hgy, fy⟩ := gn_normalizeRow_factor y.e
        rw [← hN] at fy
        have hgxq : (gx : ℚ) ≠ 0 := by exact_mod_cast hgx
        have hgyq : (gy : ℚ) ≠ 0 := by exact_mod_cast hgy
        have zx : get x.e 0 = 0 := by simpa [GRow.isParameter, hlx] using hpx
        have zy : get y.e 0 = 0 := by simpa [GRow.isParameter, hly] using hpy
        rw [divisor_param n x hx zx, divisor_param n y hy zy, fx (i + 1), fx (n + 1), fy (i + 1), fy (n + 1)]
        push_cast
        rw [mul_div_mul_left _ _ hgyq, mul_div_mul_left _ _ hgxq]
      | false =>
        have hpy : y.isParameter = false := by rw [← hp]; exact hpx
        rw [hpx, hpy] at hN
        simp only [Bool.false_eq_true, if_false] at hN
        obtain ⟨gx, hgx, fx⟩ := gn_normalizeRow_factor (x.e.set (x.e.length - 1) 0)
        obtain ⟨gy, hgy, fy⟩ := gn_normalizeRow_factor (y.e.set (y.e.length - 1) 0)
        rw [← hN] at fy
        have hgxq : (gx : ℚ) ≠ 0 := by exact_mod_cast hgx
        have hgyq : (gy : ℚ) ≠ 0 := by exact_mod_cast hgy
        have zx : get x.e 0 ≠ 0 := by simpa [GRow.isParameter, hlx] using hpx
        have zy : get y.e 0 ≠ 0 := by simpa [GRow.isParameter, hly] using hpy
        rw [divisor_point x zx, divisor_point y zy]
        have ax : ∀ j, j ≤ n → get x.e j = gx * get (normalizeRow (x.e.set (x.e.length - 1) 0)) j := by
          intro j hj; rw [← fx j, get_set, if_neg (by omega)]
        have ay : ∀ j, j ≤ n → get y.e j = gy * get (normalizeRow (x.e.set (x.e.length - 1) 0)) j := by
          intro j hj; rw [← fy j, get_set, if_neg (by omega)]
        rw [ax (i + 1) (by omega), ax 0 (by omega), ay (i + 1) (by omega), ay 0 (by omega)]
        push_cast
        rw [mul_div_mul_left _ _ hgyq, mul_div_mul_left _ _ hgxq]
    · rw [if_neg hi, if_neg hi]

/-! ### lists compared pairwise -/

theorem gn_zip_mem_left {α β : Type} : ∀ (X : List α) (Y : List β), X.length = Y.length → ∀ a ∈ X,
    ∃ b ∈ Y, (a, b) ∈ X.zip Y
  | [], _, _, _, h => by cases h
  | a :: X, [], hl, _, _ => by simp at hl
  | a :: X, b :: Y, hl, c, hc => by
    rcases List.mem_cons.mp hc with rfl | hc
    · exact ⟨b, by simp, by simp⟩
    · obtain ⟨d, hd, hz⟩ := gn_zip_mem_left X Y (by simpa using hl) c hc
      exact ⟨d, List.mem_cons_of_mem _ hd, by simp [hz]⟩

theorem gn_zip_mem_right {α β : Type} : ∀ (X : List α) (Y : List β), X.length = Y.length → ∀ b ∈ Y,
    ∃ a ∈ X, (a, b) ∈ X.zip Y
  | _, [], _, _, h => by cases h
  | [], b :: Y, hl, _, _ => by simp at hl
  | a :: X, b :: Y, hl, c, hc => by
    rcases List.mem_cons.mp hc with rfl | hc
    · exact ⟨a, by simp, by simp⟩
    · obtain ⟨d, hd, hz⟩ := gn_zip_mem_right X Y (by simpa using hl) c hc
      exact ⟨d, List.mem_cons_of_mem _ hd, by simp [hz]⟩

/-- every row of `X` has a twin (same kind, same vector) in `Y`: the grid of `X` is inside the grid of `Y` -/
theorem gn_set_sub_of_twins {X Y : List GRow}
    (h : ∀ r ∈ X, ∃ r' ∈ Y, r'.line = r.line ∧ gn_isPt r' = gn_isPt r ∧ gn_isPar r' = gn_isPar r ∧
      gn_vecOf r' = gn_vecOf r) : gn_set X ⊆ gn_set Y := by
  refine gn_mem_least (gn_closed_set Y) ?_ ?_ ?_
  · intro r hr p
    obtain ⟨r', hr', _, b, _, d⟩ := h r hr
    rw [← d]; exact gn_mem_pt hr' (by rw [b]; exact p)
  · intro r hr p a ha k
    obtain ⟨r', hr', _, _, c, d⟩ := h r hr
    rw [← d]; exact gn_mem_par_step hr' (by rw [c]; exact p) ha k
  · intro r hr p a ha c
    obtain ⟨r', hr', a', _, _, d⟩ := h r hr
    rw [← d]; exact gn_mem_line_step hr' (by rw [a']; exact p) ha c

/-- **`Grid_Generator_System::operator==` on two normalised systems without lines: the same grid** -/
theorem gn_gsysEq_set {n : Nat} {X Y : List GRow} (hwX : GWf n X) (hwY : GWf n Y) (hnl : ∀ r ∈ X, r.line = false) (h : gsysEq (GSys.mk n X) (GSys.mk n Y) = true) :
    gn_set X = gn_set Y := by
  unfold gsysEq at h
  simp only [Bool.and_eq_true, beq_iff_eq, List.all_eq_true] at h
  obtain ⟨⟨_, hlen⟩, hall⟩ := h
  have key : ∀ x ∈ X, ∀ y ∈ Y, (x, y) ∈ X.zip Y →
      y.line = x.line ∧ gn_isPt y = gn_isPt x ∧ gn_isPar y = gn_isPar x ∧ gn_vecOf y = gn_vecOf x := by
    intro x hx y hy hz
    have hlx := hnl x hx
    have heq := hall (x, y) hz
    obtain ⟨a, b, c⟩ := gn_equiv_rows (hwX x hx) (hwY y hy) hlx heq
    have hk := gn_kind_congr (x := x) (y := y) (by rw [a, hlx]) b
    exact ⟨by rw [a, hlx], hk.1, hk.2, c⟩
  apply Set.Subset.antisymm
  · refine gn_set_sub_of_twins fun x hx => ?_
    obtain ⟨y, hy, hz⟩ := gn_zip_mem_left X Y hlen x hx
    exact ⟨y, hy, key x hx y hy hz⟩
  · refine gn_set_sub_of_twins fun y hy => ?_
    obtain ⟨x, hx, hz⟩ := gn_zip_mem_right X Y hlen y hy
    obtain ⟨a, b, c, d⟩ := key x hx y hy hz
    exact ⟨x, hx, a.symm, b.symm, c.symm, d.symm⟩

/-- the hypotheses are satisfiable: `{1/2 + k}` written with divisors 2 and 4 -/
example : gsysEq (GSys.mk 1 [⟨false, [2, 1, 0]⟩, ⟨false, [0, 2, 2]⟩]) (GSys.mk 1 [⟨false, [4, 2, 0]⟩, ⟨false, [0, 4, 4]⟩]) = true := by
  decide

/-! ## The answer `TVB_TRUE` of `Grid::quick_equivalence_test` is right (`gn_quickTrueSound`); `Grid::contains(y)` (Grid_public.cc:2830) -/

/-- `Congruence_System::operator==`: the same solutions -/
theorem gn_csysEq_set {n : Nat} {X Y : List CRow} (hX : CWf n X) (hY : CWf n Y) (h : csysEq X Y = true) :
    consSet n X = consSet n Y := by
  unfold csysEq at h
  simp only [Bool.and_eq_true, beq_iff_eq, List.all_eq_true] at h
  obtain ⟨hlen, hall⟩ := h
  have key : ∀ x ∈ X, ∀ y ∈ Y, (x, y) ∈ X.zip Y → CRow.set x = CRow.set y := by
    intro x hx y hy hz
    have := hall (x, y) hz
    unfold cgEq at this
    simp only [Bool.and_eq_true, beq_iff_eq] at this
    have e : x.strongNormalize = y.strongNormalize := by
      obtain ⟨_, e1, e2⟩ := this
      cases hxs : x.strongNormalize
      cases hys : y.strongNormalize
      rw [hxs, hys] at e1 e2
      simp only at e1 e2
      rw [e1, e2]
    rw [← cn_strongNormalize_set x (hX x hx).2, ← cn_strongNormalize_set y (hY y hy).2, e]
  ext p
  rw [cn_mem_consSet, cn_mem_consSet]
  constructor
  · rintro ⟨hs, hr⟩
    refine ⟨hs, fun y hy => ?_⟩
    obtain ⟨x, hx, hz⟩ := gn_zip_mem_right X Y hlen y hy
    rw [← key x hx y hy hz]; exact hr x hx
  · rintro ⟨hs, hr⟩
    refine ⟨hs, fun x hx => ?_⟩
    obtain ⟨y, hy, hz⟩ := gn_zip_mem_left X Y hlen x hx
    rw [key x hx y hy hz]; exact hr y hy

/-- the two ways `quick_equivalence_test` (Grid_nonpublic.cc:181) answers `TVB_TRUE` -/
theorem quickEquivalenceTest_true {x y : Grid} (h : quickEquivalenceTest x y = TVB_TRUE) :
    ((x.generatorsAreMinimized && y.generatorsAreMinimized) = true ∧ x.gs.numLines = 0 ∧ gsysEq x.gs y.gs = true) ∨
    (((x.congruencesAreMinimized && y.congruencesAreMinimized) && x.cs.numEqualities == 0) = true ∧
      csysEq x.con y.con = true) := by
  have hF : TVB_FALSE ≠ TVB_TRUE := by decide
  have skip : ∀ {c : Prop} [Decidable c] {b : Nat}, (if c then TVB_FALSE else b) = TVB_TRUE → b = TVB_TRUE :=
    fun h => ((ite_eq_iff.mp h).resolve_left fun e => hF e.2).2
  have ans : ∀ {c : Bool}, (if c = true then TVB_TRUE else TVB_FALSE) = TVB_TRUE → c = true :=
    fun h => ((ite_eq_iff.mp h).resolve_right fun e => hF e.2).1
  unfold quickEquivalenceTest at h
  rcases ite_eq_iff.mp (skip (skip (skip (skip h)))) with ⟨hg, h⟩ | ⟨-, h⟩
  · exact Or.inl ⟨hg.1, hg.2, ans h⟩
  rcases ite_eq_iff.mp h with ⟨hc, h⟩ | ⟨-, h⟩
  · exact Or.inr ⟨hc, ans h⟩
  · exact absurd h (by decide)

/-- **`quick_equivalence_test` answers `TVB_TRUE` only for equal grids** -/
theorem gn_quickTrueSound : gn_QuickTrueSound := by
  intro x y hIx hIy hex hey hn hd hq
  have hny : 0 < y.spaceDim := by omega
  rcases quickEquivalenceTest_true hq with ⟨hb, hl0, heq⟩ | ⟨hb, heq⟩
  · -- both generator systems minimized, no lines, `operator==`
    rw [Bool.and_eq_true] at hb
    obtain ⟨gx, wx, _, sx⟩ := gn_sem_of_gUp hIx hn hex (hIx.gminUp hb.1)
    obtain ⟨gy, wy, _, sy⟩ := gn_sem_of_gUp hIy hny hey (hIy.gminUp hb.2)
    rw [sx, sy]
    rw [← hd] at wy
    have hnl : ∀ r ∈ x.gen, r.line = false := fun r hr =>
      Bool.eq_false_iff.mpr fun hl =>
        List.ne_nil_of_mem (List.mem_filter.mpr ⟨hr, hl⟩) (List.length_eq_zero_iff.mp hl0)
    refine gn_gsysEq_set wx wy hnl ?_
    have e1 : x.gs = GSys.mk x.spaceDim x.gen := by show GSys.mk x.genDim x.gen = _; rw [gx]
    have e2 : y.gs = GSys.mk x.spaceDim y.gen := by show GSys.mk y.genDim y.gen = _; rw [gy, hd]
    rw [← e1, ← e2]; exact heq
  · -- both congruence systems minimized, no equalities, `operator==`
    rw [Bool.and_eq_true, Bool.and_eq_true] at hb
    obtain ⟨_, wx, sx⟩ := gn_sem_of_cUp hIx hn hex (hIx.cminUp hb.1.1)
    obtain ⟨_, wy, sy⟩ := gn_sem_of_cUp hIy hny hey (hIy.cminUp hb.1.2)
    rw [sx, sy, ← hd]
    rw [← hd] at wy
    exact gn_csysEq_set wx wy heq

/-- **`Grid::contains(y)`** for grids of one dimension: invariants and denotations are kept and the answer is `y ⊆ x` -/
theorem gn_contains (x y : Grid) (hIx : GridInv x) (hIy : GridInv y) (hd : x.spaceDim = y.spaceDim) :
    GridInv (contains x y).1 ∧ GridInv (contains x y).2.1 ∧ (contains x y).1.sem = x.sem ∧
    (contains x y).2.1.sem = y.sem ∧ (contains x y).1.spaceDim = x.spaceDim ∧ (contains x y).2.1.spaceDim = y.spaceDim ∧
    ∃ b, (contains x y).2.2 = some b ∧ (b = true ↔ y.sem ⊆ x.sem) := by
  unfold contains
  rw [if_neg (not_not.mpr hd)]
  cases hy : y.markedEmpty with
  | true =>
    rw [if_pos rfl]
    exact ⟨hIx, hIy, rfl, rfl, rfl, rfl, true, rfl,
      ⟨fun _ => by rw [sem_of_empty (g := y) hy]; exact Set.empty_subset _, fun _ => rfl⟩⟩
  | false =>
  rw [if_neg (by simp)]
  cases hx : x.markedEmpty with
  | true =>
    rw [if_pos rfl]
    obtain ⟨a, b, c, d, _, _⟩ := isEmpty_spec y hIy
    refine ⟨hIx, a, rfl, b, rfl, c, _, rfl, ?_⟩
    rw [sem_of_empty (g := x) hx, Set.subset_empty_iff]
    exact d
  | false =>
  rw [if_neg (by simp)]
  by_cases h0 : y.spaceDim = 0
  · rw [if_pos h0]
    refine ⟨hIx, hIy, rfl, rfl, rfl, rfl, true, rfl, ⟨fun _ => ?_, fun _ => rfl⟩⟩
    rw [sem_of_zdim (g := y) hy h0, sem_of_zdim (g := x) hx (by rw [hd]; exact h0)]
  · rw [if_neg h0]
    have hn : 0 < x.spaceDim := by omega
    by_cases hq : quickEquivalenceTest x y = TVB_TRUE
    · rw [if_pos hq]
      refine ⟨hIx, hIy, rfl, rfl, rfl, rfl, true, rfl, ⟨fun _ => ?_, fun _ => rfl⟩⟩
      rw [gn_quickTrueSound x y hIx hIy hx hy hn hd hq]
    · rw [if_neg hq]
      obtain ⟨a, b, c, d, e, f, g⟩ := gn_isIncludedIn y x hIy hIx hy hx (by omega) hd.symm
      exact ⟨b, a, d, c, f, e, _, rfl, g⟩

/-! ## `operator==(x, y)` (Grid_public.cc:2797), modulo the answer `TVB_FALSE` of `quick_equivalence_test` -/

/-- the answer `TVB_FALSE` of `Grid::quick_equivalence_test` (Grid_nonpublic.cc:181) is right for ALL pairs of states that
    satisfy `GridInv`.  This is FALSE (`gn_quickFalseSound_fails` in `ProofsGridOpsQuickFalse`): `GridInv` records that a
    minimized system is triangular, not that its off-diagonal entries are reduced, so two different triangular generator
    systems of `ℤ²` both pass; the library only ever builds the reduced one.  `gn_equals_partial` therefore takes
    the rightness of the answer for the two operands at hand as its hypothesis.  Each of the six sources of `TVB_FALSE`
    is an instance of the uniqueness of the (reduced) minimized forms: equal grids have minimized congruence systems
    with the same number of rows and of equalities, minimized generator systems with the same number of rows and of
    lines, and, without lines (resp. equalities), `operator==` minimized generator (resp. congruence) systems. -/
def gn_QuickFalseSound : Prop :=
  ∀ x y : Grid, GridInv x → GridInv y → x.st.empty = false → y.st.empty = false → 0 < x.spaceDim →
    x.spaceDim = y.spaceDim → quickEquivalenceTest x y = TVB_FALSE → x.sem ≠ y.sem

theorem gn_incX_false (x : Grid) (hI : GridInv x) (he : x.st.empty = false) (hn : 0 < x.spaceDim)
    (h2 : (gn_incX x).2 = false) : (gn_incX x).1.st.empty = true := by
  unfold gn_incX at h2 ⊢
  cases hg : x.generatorsAreUpToDate with
  | true => rw [hg] at h2; simp at h2
  | false =>
    rw [hg] at h2
    rw [if_pos (by simp)] at h2 ⊢
    have hg' : x.st.gUp = false := hg
    have hc : x.st.cUp = true := cUp_of_not_gUp hI he hn hg'
    exact (updateGenerators_spec x hI he hn hc hg').2.2.2.2.2 h2

/-- the lazy states after `is_included_in` -/
theorem gn_isIncludedIn_states (x y : Grid) (hIx : GridInv x) (hIy : GridInv y) (hex : x.st.empty = false)
    (hey : y.st.empty = false) (hn : 0 < x.spaceDim) (hd : x.spaceDim = y.spaceDim) :
    ((isIncludedIn x y).1.st.empty = true → x.sem = ∅) ∧
    ((isIncludedIn x y).1.st.empty = false → (isIncludedIn x y).2.1.st.empty = false) := by
  obtain ⟨a, b, c, d, e⟩ := gn_incX_spec x hIx hex hn
  rw [gn_isIncludedIn_eq]
  cases h2 : (gn_incX x).2 with
  | false =>
    rw [if_pos rfl]
    refine ⟨fun _ => e h2, fun h => ?_⟩
    have := gn_incX_false x hIx hex hn h2
    rw [this] at h; cases h
  | true =>
    rw [if_neg (by simp)]
    refine ⟨fun h => ?_, fun _ => ?_⟩
    · rw [(d h2).1] at h; cases h
    · exact (gn_incY_spec y hIy hey (by omega)).2.2.2.1

/-- **`operator==(x, y)`** for grids of one dimension: invariants and denotations are kept and the answer is
    `x.sem = y.sem`.  `_partial`: `hF` (the answer `TVB_FALSE` of `quick_equivalence_test` on these two operands is right)
    is assumed; everything else (the emptiness tests, the answer `TVB_TRUE`, the two inclusion tests) is proved. -/
theorem gn_equals_partial (x y : Grid) (hIx : GridInv x) (hIy : GridInv y) (hd : x.spaceDim = y.spaceDim)
    (hF : quickEquivalenceTest x y = TVB_FALSE → x.sem ≠ y.sem) :
    GridInv (equals x y).1 ∧ GridInv (equals x y).2.1 ∧ (equals x y).1.sem = x.sem ∧ (equals x y).2.1.sem = y.sem ∧
    (equals x y).1.spaceDim = x.spaceDim ∧ (equals x y).2.1.spaceDim = y.spaceDim ∧
    ((equals x y).2.2 = true ↔ x.sem = y.sem) := by
  unfold equals
  rw [if_neg (not_not.mpr hd)]
  cases hx : x.markedEmpty with
  | true =>
    rw [if_pos rfl]
    obtain ⟨a, b, c, d, _, _⟩ := isEmpty_spec y hIy
    refine ⟨hIx, a, rfl, b, rfl, c, ?_⟩
    rw [sem_of_empty (g := x) hx]
    exact d.trans eq_comm
  | false =>
  rw [if_neg (by simp)]
  cases hy : y.markedEmpty with
  | true =>
    rw [if_pos rfl]
    obtain ⟨a, b, c, d, _, _⟩ := isEmpty_spec x hIx
    refine ⟨a, hIy, b, rfl, c, rfl, ?_⟩
    rw [sem_of_empty (g := y) hy]
    exact d
  | false =>
  rw [if_neg (by simp)]
  by_cases h0 : x.spaceDim = 0
  · rw [if_pos h0]
    refine ⟨hIx, hIy, rfl, rfl, rfl, rfl, ⟨fun _ => ?_, fun _ => rfl⟩⟩
    rw [sem_of_zdim (g := x) hx h0, sem_of_zdim (g := y) hy (by rw [← hd]; exact h0)]
  · rw [if_neg h0]
    have hn : 0 < x.spaceDim := by omega
    simp only []
    by_cases hq : quickEquivalenceTest x y = TVB_TRUE
    · rw [if_pos hq]
      exact ⟨hIx, hIy, rfl, rfl, rfl, rfl, ⟨fun _ => gn_quickTrueSound x y hIx hIy hx hy hn hd hq, fun _ => rfl⟩⟩
    · rw [if_neg hq]
      by_cases hq2 : quickEquivalenceTest x y = TVB_FALSE
      · rw [if_pos hq2]
        refine ⟨hIx, hIy, rfl, rfl, rfl, rfl, ⟨fun h => (by cases h), fun h => absurd h (hF hq2)⟩⟩
      · rw [if_neg hq2]
        obtain ⟨a, b, c, d, e, f, g⟩ := gn_isIncludedIn x y hIx hIy hx hy hn hd
        obtain ⟨s1, s2⟩ := gn_isIncludedIn_states x y hIx hIy hx hy hn hd
        cases hinc : (isIncludedIn x y).2.2 with
        | false =>
          rw [if_neg (by simp)]
          refine ⟨a, b, c, d, e, f, ⟨fun h => (by cases h), fun h => ?_⟩⟩
          have : x.sem ⊆ y.sem := by rw [h]
          rw [g.mpr this] at hinc; cases hinc
        | true =>
          rw [if_pos rfl]
          have hsub := g.mp hinc
          cases hm : (isIncludedIn x y).1.markedEmpty with
          | true =>
            rw [if_pos rfl]
            obtain ⟨a', b', c', d', _, _⟩ := isEmpty_spec _ b
            refine ⟨a, a', c, by rw [b', d], e, by rw [c', f], ?_⟩
            rw [s1 hm]
            rw [d] at d'
            exact d'.trans eq_comm
          | false =>
            rw [if_neg (by simp)]
            obtain ⟨a', b', c', d', e', f', g'⟩ := gn_isIncludedIn _ _ b a (s2 hm) hm (by rw [f, ← hd]; exact hn)
              (by rw [f, e, hd])
            refine ⟨b', a', by rw [d', c], by rw [c', d], by rw [f', e], by rw [e', f], ?_⟩
            rw [g', d, c]
            exact ⟨fun h => Set.Subset.antisymm hsub h, fun h => by rw [h]⟩

end PPLV.Lattice.GO

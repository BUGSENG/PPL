import PPLV.Lattice.ProofsGridOpsState
import PPLV.Lattice.ProofsOps
import PPLV.Lattice.ProofsRedNorm
import PPLV.Lattice.ProofsRedGenBase
import Mathlib.Tactic.Module

/-!
# The `Grid` object: the point set of a generator system

`gn_set rows`, the PPL reading: a point plus integer combinations of point differences and parameters plus rational combinations of
lines, each row read with its own divisor.  It agrees with `gensSet` on normalised systems (`gn_bridge`), is kept by
`normalize_divisors`, and does not depend on the common divisor (`gn_scale_homSim`).
-/
namespace PPLV.Lattice.GO
open PPLV.Lattice PPLV.Lattice.Red

/-! ## The PPL reading of a raw generator system as a point set (`gn_set`)

`gn_vecOf r` is the rational vector of a raw generator row (coordinates divided by the divisor; by 1 for a line).
`gn_set rows` is the set the library documents for a generator system: some point plus integer combinations of
differences of points and of parameters plus rational combinations of lines.  It does not depend on the divisors being
normalised nor on the order of the rows; `gn_bridge` shows that it is `gensSet n rows` for the systems
`Grid` keeps (`GNorm`).  Here: the closure properties and the universal property (`gn_mem_least`).
-/

/-- the rational vector of a generator row: coordinates divided by the divisor (by 1 for a line) -/
def gn_vecOf (r : GRow) : Pt := fun i =>
  if i < r.spaceDim then ((get r.e (i + 1) : Int) : ℚ) / (if r.line then 1 else (r.divisor : ℚ)) else 0

def gn_isPt (r : GRow) : Bool := !r.line && get r.e 0 != 0
def gn_isPar (r : GRow) : Bool := !r.line && get r.e 0 == 0

def gn_pts (rows : List GRow) : List Pt := (rows.filter gn_isPt).map gn_vecOf
/-- the integer directions: differences of points, parameters -/
def gn_P (rows : List GRow) : List Pt :=
  (gn_pts rows).flatMap (fun a => (gn_pts rows).map (fun b => a - b)) ++ (rows.filter gn_isPar).map gn_vecOf
def gn_L (rows : List GRow) : List Pt := (rows.filter (fun r => r.line)).map gn_vecOf
def gn_Dir (rows : List GRow) (v : Pt) : Prop := Abs.Dir (gn_P rows) (gn_L rows) v
def gn_Mem (rows : List GRow) (x : Pt) : Prop := ∃ r ∈ rows, gn_isPt r = true ∧ gn_Dir rows (x - gn_vecOf r)
/-- the grid generated by a raw generator system (PPL reading) -/
def gn_set (rows : List GRow) : Set Pt := {x | gn_Mem rows x}

theorem gn_mem_P {rows : List GRow} {q : Pt} : q ∈ gn_P rows ↔
    (∃ r1 ∈ rows, gn_isPt r1 = true ∧ ∃ r2 ∈ rows, gn_isPt r2 = true ∧ q = gn_vecOf r1 - gn_vecOf r2) ∨
    (∃ r ∈ rows, gn_isPar r = true ∧ q = gn_vecOf r) := by
  simp only [gn_P, gn_pts, List.mem_append, List.mem_flatMap, List.mem_map, List.mem_filter]
  constructor
  · rintro (⟨a, ⟨r1, ⟨h1, p1⟩, rfl⟩, b, ⟨r2, ⟨h2, p2⟩, rfl⟩, rfl⟩ | ⟨r, ⟨h, p⟩, rfl⟩)
    · exact Or.inl ⟨r1, h1, p1, r2, h2, p2, rfl⟩
    · exact Or.inr ⟨r, h, p, rfl⟩
  · rintro (⟨r1, h1, p1, r2, h2, p2, rfl⟩ | ⟨r, h, p, rfl⟩)
    · exact Or.inl ⟨_, ⟨r1, ⟨h1, p1⟩, rfl⟩, _, ⟨r2, ⟨h2, p2⟩, rfl⟩, rfl⟩
    · exact Or.inr ⟨r, ⟨h, p⟩, rfl⟩

theorem gn_mem_L {rows : List GRow} {l : Pt} : l ∈ gn_L rows ↔ ∃ r ∈ rows, r.line = true ∧ l = gn_vecOf r := by
  simp only [gn_L, List.mem_map, List.mem_filter]
  constructor
  · rintro ⟨r, ⟨h, p⟩, rfl⟩; exact ⟨r, h, p, rfl⟩
  · rintro ⟨r, h, p, rfl⟩; exact ⟨r, ⟨h, p⟩, rfl⟩

/-! ### the direction group -/

theorem gn_dir_zero (rows : List GRow) : gn_Dir rows 0 := Abs.Dir.zero
theorem gn_dir_add {rows : List GRow} {v w : Pt} (h1 : gn_Dir rows v) (h2 : gn_Dir rows w) : gn_Dir rows (v + w) :=
  Abs.Dir.add h1 h2
theorem gn_dir_sub {rows : List GRow} {v w : Pt} (h1 : gn_Dir rows v) (h2 : gn_Dir rows w) : gn_Dir rows (v - w) :=
  Abs.Dir.sub h1 h2
theorem gn_dir_neg {rows : List GRow} {v : Pt} (h1 : gn_Dir rows v) : gn_Dir rows (-v) := Abs.Dir.neg h1
theorem gn_dir_zsmul {rows : List GRow} {v : Pt} (k : Int) (h1 : gn_Dir rows v) : gn_Dir rows ((k : ℚ) • v) :=
  Abs.Dir.zsmul k h1

theorem gn_dir_ptdiff {rows : List GRow} {r1 r2 : GRow} (h1 : r1 ∈ rows) (p1 : gn_isPt r1 = true) (h2 : r2 ∈ rows)
    (p2 : gn_isPt r2 = true) : gn_Dir rows (gn_vecOf r1 - gn_vecOf r2) :=
  Abs.Dir.of_param (gn_mem_P.mpr (Or.inl ⟨r1, h1, p1, r2, h2, p2, rfl⟩))

theorem gn_dir_par {rows : List GRow} {r : GRow} (h : r ∈ rows) (p : gn_isPar r = true) : gn_Dir rows (gn_vecOf r) :=
  Abs.Dir.of_param (gn_mem_P.mpr (Or.inr ⟨r, h, p, rfl⟩))

theorem gn_dir_line {rows : List GRow} {r : GRow} (h : r ∈ rows) (p : r.line = true) (c : ℚ) :
    gn_Dir rows (c • gn_vecOf r) :=
  Abs.Dir.of_line c (gn_mem_L.mpr ⟨r, h, p, rfl⟩)

/-- the universal property of the direction group -/
theorem gn_dir_le {rows : List GRow} {S : Pt → Prop} (h0 : S 0) (hadd : ∀ v w, S v → S w → S (v + w))
    (hz : ∀ (k : Int) v, S v → S ((k : ℚ) • v))
    (hpt : ∀ r1 ∈ rows, gn_isPt r1 = true → ∀ r2 ∈ rows, gn_isPt r2 = true → S (gn_vecOf r1 - gn_vecOf r2))
    (hpar : ∀ r ∈ rows, gn_isPar r = true → S (gn_vecOf r))
    (hl : ∀ r ∈ rows, r.line = true → ∀ c : ℚ, S (c • gn_vecOf r)) {v : Pt} (h : gn_Dir rows v) : S v := by
  unfold gn_Dir at h
  induction h with
  | zero => exact h0
  | @param w q k hq _ ih =>
    refine hadd _ _ ih (hz k _ ?_)
    rcases gn_mem_P.mp hq with ⟨r1, h1, p1, r2, h2, p2, rfl⟩ | ⟨r, h, p, rfl⟩
    · exact hpt r1 h1 p1 r2 h2 p2
    · exact hpar r h p
  | @line w l c hl' _ ih =>
    obtain ⟨r, h, p, rfl⟩ := gn_mem_L.mp hl'
    exact hadd _ _ ih (hl r h p c)

theorem gn_dir_mono {rows rows' : List GRow} (hsub : ∀ r ∈ rows, r ∈ rows') {v : Pt} (h : gn_Dir rows v) :
    gn_Dir rows' v :=
  gn_dir_le (S := gn_Dir rows') (gn_dir_zero _) (fun _ _ => gn_dir_add) (fun k _ => gn_dir_zsmul k)
    (fun r1 h1 p1 r2 h2 p2 => gn_dir_ptdiff (hsub r1 h1) p1 (hsub r2 h2) p2)
    (fun r h p => gn_dir_par (hsub r h) p) (fun r h p c => gn_dir_line (hsub r h) p c) h

/-! ### members -/

theorem gn_mem_pt {rows : List GRow} {r : GRow} (h : r ∈ rows) (p : gn_isPt r = true) : gn_Mem rows (gn_vecOf r) :=
  ⟨r, h, p, by simpa using gn_dir_zero rows⟩

theorem gn_mem_add_dir {rows : List GRow} {x v : Pt} (hx : gn_Mem rows x) (hv : gn_Dir rows v) : gn_Mem rows (x + v) := by
  obtain ⟨r, h, p, hd⟩ := hx
  refine ⟨r, h, p, ?_⟩
  have : x + v - gn_vecOf r = (x - gn_vecOf r) + v := by module
  rw [this]; exact gn_dir_add hd hv

theorem gn_mem_sub {rows : List GRow} {x y : Pt} (hx : gn_Mem rows x) (hy : gn_Mem rows y) : gn_Dir rows (x - y) := by
  obtain ⟨r1, h1, p1, d1⟩ := hx
  obtain ⟨r2, h2, p2, d2⟩ := hy
  have : x - y = (x - gn_vecOf r1) - (y - gn_vecOf r2) + (gn_vecOf r1 - gn_vecOf r2) := by module
  rw [this]; exact gn_dir_add (gn_dir_sub d1 d2) (gn_dir_ptdiff h1 p1 h2 p2)

/-- membership relative to any member -/
theorem gn_mem_iff {rows : List GRow} {a : Pt} (ha : gn_Mem rows a) (x : Pt) : gn_Mem rows x ↔ gn_Dir rows (x - a) := by
  constructor
  · intro hx; exact gn_mem_sub hx ha
  · intro hd
    have := gn_mem_add_dir ha hd
    have e : a + (x - a) = x := by module
    rwa [e] at this

/-- a generated grid is closed under `x + k (y - z)` -/
theorem gn_mem_affine {rows : List GRow} {x y z : Pt} (k : Int) (hx : gn_Mem rows x) (hy : gn_Mem rows y)
    (hz : gn_Mem rows z) : gn_Mem rows (x + (k : ℚ) • (y - z)) :=
  gn_mem_add_dir hx (gn_dir_zsmul k (gn_mem_sub hy hz))

theorem gn_mem_mono {rows rows' : List GRow} (hsub : ∀ r ∈ rows, r ∈ rows') {x : Pt} (h : gn_Mem rows x) :
    gn_Mem rows' x := by
  obtain ⟨r, hr, p, d⟩ := h
  exact ⟨r, hsub r hr, p, gn_dir_mono hsub d⟩

theorem gn_mem_nonempty {rows : List GRow} (h : ∃ r ∈ rows, gn_isPt r = true) : ∃ a, gn_Mem rows a := by
  obtain ⟨r, hr, p⟩ := h; exact ⟨_, gn_mem_pt hr p⟩

theorem gn_mem_has_pt {rows : List GRow} {x : Pt} (h : gn_Mem rows x) : ∃ r ∈ rows, gn_isPt r = true := by
  obtain ⟨r, hr, p, _⟩ := h; exact ⟨r, hr, p⟩

/-- sets closed under `a + k (b - c)`; every `Gen.sem K` is one -/
def gn_Closed (K : Set Pt) : Prop := ∀ a ∈ K, ∀ b ∈ K, ∀ c ∈ K, ∀ k : Int, a + (k : ℚ) • (b - c) ∈ K

theorem gn_closed_sem (K : GridGens) : gn_Closed {p | Gen.sem K p} :=
  fun _ ha _ hb _ hc k => sem_affine K k ha hb hc

theorem gn_closed_set (rows : List GRow) : gn_Closed (gn_set rows) :=
  fun _ ha _ hb _ hc k => gn_mem_affine k ha hb hc

/-- **the universal property**: a closed set that contains the points and absorbs the parameters and lines contains
    the generated grid -/
theorem gn_mem_least {rows : List GRow} {K : Set Pt} (hK : gn_Closed K)
    (hpt : ∀ r ∈ rows, gn_isPt r = true → gn_vecOf r ∈ K)
    (hpar : ∀ r ∈ rows, gn_isPar r = true → ∀ a ∈ K, ∀ k : Int, a + (k : ℚ) • gn_vecOf r ∈ K)
    (hl : ∀ r ∈ rows, r.line = true → ∀ a ∈ K, ∀ c : ℚ, a + c • gn_vecOf r ∈ K) :
    gn_set rows ⊆ K := by
  intro x hx
  obtain ⟨r, hr, p, d⟩ := hx
  have key : ∀ v, gn_Dir rows v → ∀ a ∈ K, a + v ∈ K := by
    intro v hv
    refine gn_dir_le (S := fun v => ∀ a ∈ K, a + v ∈ K) ?_ ?_ ?_ ?_ ?_ ?_ hv
    · intro a ha; simpa using ha
    · intro v w hv hw a ha
      have : a + (v + w) = (a + v) + w := by module
      rw [this]; exact hw _ (hv a ha)
    · intro k v hv a ha
      -- `a + k v = a + k ((a + v) - a)`
      have := hK a ha (a + v) (hv a ha) a ha k
      have e : a + (k : ℚ) • (a + v - a) = a + (k : ℚ) • v := by module
      rwa [e] at this
    · intro r1 h1 p1 r2 h2 p2 a ha
      have := hK a ha _ (hpt r1 h1 p1) _ (hpt r2 h2 p2) 1
      simpa using this
    · intro r h p a ha
      have := hpar r h p a ha 1
      simpa using this
    · intro r h p c a ha
      exact hl r h p a ha c
  have := key _ d _ (hpt r hr p)
  have e : gn_vecOf r + (x - gn_vecOf r) = x := by module
  rwa [e] at this

/-- the parameters and lines of a system act on its grid -/
theorem gn_mem_par_step {rows : List GRow} {r : GRow} (h : r ∈ rows) (p : gn_isPar r = true) {x : Pt}
    (hx : gn_Mem rows x) (k : Int) : gn_Mem rows (x + (k : ℚ) • gn_vecOf r) :=
  gn_mem_add_dir hx (gn_dir_zsmul k (gn_dir_par h p))

theorem gn_mem_line_step {rows : List GRow} {r : GRow} (h : r ∈ rows) (p : r.line = true) {x : Pt}
    (hx : gn_Mem rows x) (c : ℚ) : gn_Mem rows (x + c • gn_vecOf r) :=
  gn_mem_add_dir hx (gn_dir_line h p c)

/-! ## `gensSet` (homogeneous lattice read at the divisor of the first point) is the PPL reading `gn_set` for the systems `Grid` keeps; `Hom` of an appended system -/

theorem gn_spaceDim_of_len {r : GRow} {n : Nat} (h : r.e.length = n + 2) : r.spaceDim = n := by
  simp [GRow.spaceDim, h]

theorem gn_isPt_iff (r : GRow) : gn_isPt r = true ↔ r.line = false ∧ get r.e 0 ≠ 0 := by
  simp [gn_isPt]
theorem gn_isPar_iff (r : GRow) : gn_isPar r = true ↔ r.line = false ∧ get r.e 0 = 0 := by
  simp [gn_isPar]

theorem gn_vecOf_pt {n : Nat} {r : GRow} (hlen : r.e.length = n + 2) (p : gn_isPt r = true) :
    gn_vecOf r = (r.coords n (get r.e 0 : ℚ)).toFun := by
  obtain ⟨hl, h0⟩ := (gn_isPt_iff r).mp p
  funext i
  rw [coords_toFun]
  simp [gn_vecOf, gn_spaceDim_of_len hlen, hl, divisor_point r h0]

theorem gn_vecOf_par {n : Nat} {r : GRow} (hlen : r.e.length = n + 2) (p : gn_isPar r = true) :
    gn_vecOf r = (r.coords n (get r.e (n + 1) : ℚ)).toFun := by
  obtain ⟨hl, h0⟩ := (gn_isPar_iff r).mp p
  funext i
  rw [coords_toFun]
  simp [gn_vecOf, gn_spaceDim_of_len hlen, hl, divisor_param n r hlen h0]

theorem gn_vecOf_line {n : Nat} {r : GRow} (hlen : r.e.length = n + 2) (hl : r.line = true) :
    gn_vecOf r = (r.coords n 1).toFun := by
  funext i
  rw [coords_toFun]
  simp [gn_vecOf, gn_spaceDim_of_len hlen, hl]

/-- a generated grid lives in the space of the rows -/
theorem gn_vecOf_supp {n : Nat} {r : GRow} (hlen : r.e.length = n + 2) : Supp n (gn_vecOf r) := by
  intro i hi
  simp [gn_vecOf, gn_spaceDim_of_len hlen]; omega

/-! ### `shift` is linear -/

theorem gn_shift_zero : shift 0 = 0 := by
  funext i; cases i <;> simp [shift]
theorem gn_shift_add (v w : Pt) : shift (v + w) = shift v + shift w := by
  funext i; cases i <;> simp [shift]
theorem gn_shift_smul (c : ℚ) (v : Pt) : shift (c • v) = c • shift v := by
  funext i; cases i <;> simp [shift]

/-! ### the bridge -/

theorem gn_hom_of_dir {n : Nat} {D : Int} {rows : List GRow} (h : GNorm n D rows) (hw : GWf n rows) {v : Pt}
    (hv : gn_Dir rows v) : Hom n rows ((D : ℚ) • shift v) := by
  have hDne : D ≠ 0 := ne_of_gt h.pos
  have hDq : (D : ℚ) ≠ 0 := by exact_mod_cast hDne
  refine gn_dir_le (S := fun v => Hom n rows ((D : ℚ) • shift v)) ?_ ?_ ?_ ?_ ?_ ?_ hv
  · show Hom n rows ((D : ℚ) • shift 0)
    rw [gn_shift_zero, smul_zero]; exact hom_zero _ _
  · intro v w h1 h2
    show Hom n rows ((D : ℚ) • shift (v + w))
    rw [gn_shift_add, smul_add]; exact hom_add h1 h2
  · intro k v h1
    show Hom n rows ((D : ℚ) • shift ((k : ℚ) • v))
    rw [gn_shift_smul, smul_comm]; exact hom_zsmul k h1
  · intro r1 h1 p1 r2 h2 p2
    show Hom n rows ((D : ℚ) • shift (gn_vecOf r1 - gn_vecOf r2))
    obtain ⟨l1, z1⟩ := (gn_isPt_iff r1).mp p1
    obtain ⟨l2, z2⟩ := (gn_isPt_iff r2).mp p2
    have e1 : get r1.e 0 = D := by rcases h.col0 r1 h1 l1 with q | q; exact absurd q z1; exact q
    have e2 : get r2.e 0 = D := by rcases h.col0 r2 h2 l2 with q | q; exact absurd q z2; exact q
    rw [← homog_sub, gn_vecOf_pt (hw r1 h1) p1, gn_vecOf_pt (hw r2 h2) p2, e1, e2,
      ← hvec_point n r1 D hDne e1, ← hvec_point n r2 D hDne e2]
    exact hom_sub (hom_of_mem_pc h1 l1) (hom_of_mem_pc h2 l2)
  · intro r hr p
    show Hom n rows ((D : ℚ) • shift (gn_vecOf r))
    obtain ⟨l1, z1⟩ := (gn_isPar_iff r).mp p
    rw [gn_vecOf_par (hw r hr) p, h.par r hr l1 z1, ← hvec_dir n r (D : ℚ) hDq z1]
    exact hom_of_mem_pc hr l1
  · intro r hr hl c
    show Hom n rows ((D : ℚ) • shift (c • gn_vecOf r))
    have z1 := h.lin r hr hl
    have e := hvec_dir n r 1 one_ne_zero z1
    rw [one_smul] at e
    rw [gn_shift_smul, smul_smul, gn_vecOf_line (hw r hr) hl, ← e]
    exact hom_of_mem_line hr hl _

theorem gn_hom_of_mem {n : Nat} {D : Int} {rows : List GRow} (h : GNorm n D rows) (hw : GWf n rows) {x : Pt}
    (hx : gn_Mem rows x) : Hom n rows (homog (D : ℚ) x) := by
  have hDne : D ≠ 0 := ne_of_gt h.pos
  obtain ⟨r, hr, p, d⟩ := hx
  obtain ⟨l1, z1⟩ := (gn_isPt_iff r).mp p
  have e1 : get r.e 0 = D := by rcases h.col0 r hr l1 with q | q; exact absurd q z1; exact q
  have e : x = gn_vecOf r + (1 : ℚ) • (x - gn_vecOf r) := by module
  rw [e, homog_add_shift, one_mul]
  refine hom_add ?_ (gn_hom_of_dir h hw d)
  rw [gn_vecOf_pt (hw r hr) p, e1, ← hvec_point n r D hDne e1]
  exact hom_of_mem_pc hr l1

theorem gn_mem_of_hom {n : Nat} {D : Int} {rows : List GRow} (h : GNorm n D rows) (hw : GWf n rows) {x : Pt}
    (hx : Hom n rows (homog (D : ℚ) x)) : gn_Mem rows x := by
  obtain ⟨p, ps, hpts, hG⟩ := gensOf_eq n D rows h
  obtain ⟨G, hG', hsem⟩ := gensOf_gnorm n D rows h
  rw [hG] at hG'
  cases hG'
  have hx' := (hsem x).mpr hx
  clear hx
  have hpt_mem : ∀ r, r ∈ p :: ps → r ∈ rows ∧ gn_isPt r = true := by
    intro r hr
    rw [← hpts, List.mem_filter] at hr
    exact ⟨hr.1, hr.2⟩
  have hq_mem : ∀ r, r ∈ rows.filter (fun r => !r.line && get r.e 0 == 0) → r ∈ rows ∧ gn_isPar r = true := by
    intro r hr
    rw [List.mem_filter] at hr
    exact ⟨hr.1, hr.2⟩
  have hp := hpt_mem p (by simp)
  change Gens.Mem _ x at hx'
  induction hx' with
  | pt =>
    show gn_Mem rows (p.coords n (get p.e 0 : ℚ)).toFun
    rw [← gn_vecOf_pt (hw p hp.1) hp.2]; exact gn_mem_pt hp.1 hp.2
  | @param y q k hq _ ih =>
    rw [axpy_eq]
    refine gn_mem_add_dir ih (gn_dir_zsmul k ?_)
    simp only [List.mem_append, List.mem_map] at hq
    rcases hq with ⟨r, hr, rfl⟩ | ⟨r, hr, rfl⟩
    · have hr' := hpt_mem r (List.mem_cons_of_mem _ hr)
      rw [toFun_vsub, ← gn_vecOf_pt (hw r hr'.1) hr'.2, ← gn_vecOf_pt (hw p hp.1) hp.2]
      exact gn_dir_ptdiff hr'.1 hr'.2 hp.1 hp.2
    · have hr' := hq_mem r hr
      rw [← gn_vecOf_par (hw r hr'.1) hr'.2]
      exact gn_dir_par hr'.1 hr'.2
  | @line y l c hl _ ih =>
    rw [axpy_eq]
    refine gn_mem_add_dir ih ?_
    obtain ⟨r, hr, rfl⟩ := List.mem_map.mp hl
    rw [List.mem_filter] at hr
    have e : (r.coords n 1).toFun = (r.coords n (1 : ℚ)).toFun := rfl
    rw [e, ← gn_vecOf_line (hw r hr.1) hr.2]
    exact gn_dir_line hr.1 hr.2 c

/-- **the bridge**: for a well-formed system with normalised divisors the denotation used by `Grid.sem` is the PPL
    reading of the rows -/
theorem gn_bridge {n : Nat} {D : Int} {rows : List GRow} (h : GNorm n D rows) (hw : GWf n rows) :
    gensSet n rows = gn_set rows := by
  ext x
  show Hom n rows (homog ((firstPointDiv rows : Int) : ℚ) x) ↔ gn_Mem rows x
  rw [firstPointDiv_of_gnorm h]
  exact ⟨gn_mem_of_hom h hw, gn_hom_of_mem h hw⟩

example : GNorm 1 2 [⟨false, [2, 1, 0]⟩, ⟨false, [0, 3, 2]⟩, ⟨true, [0, 1, 0]⟩] ∧
    GWf 1 [⟨false, [2, 1, 0]⟩, ⟨false, [0, 3, 2]⟩, ⟨true, [0, 1, 0]⟩] := by
  refine ⟨⟨by decide, ⟨_, List.mem_cons_self, rfl, rfl⟩, by decide, by decide, by decide⟩, ?_⟩
  intro r hr
  simp only [List.mem_cons, List.not_mem_nil, or_false] at hr
  rcases hr with rfl | rfl | rfl <;> rfl

/-- members of a generated grid of well-formed rows are points of the space -/
theorem gn_mem_supp {n : Nat} {rows : List GRow} (hw : GWf n rows) {x : Pt} (hx : gn_Mem rows x) : Supp n x := by
  obtain ⟨r, hr, _, d⟩ := hx
  have key : Supp n (x - gn_vecOf r) := by
    refine gn_dir_le (S := fun v => Supp n v) ?_ ?_ ?_ ?_ ?_ ?_ d
    · intro i _; rfl
    · intro v w h1 h2 i hi; simp [h1 i hi, h2 i hi]
    · intro k v h1 i hi; simp [h1 i hi]
    · intro r1 h1 _ r2 h2 _ i hi
      simp [gn_vecOf_supp (hw r1 h1) i hi, gn_vecOf_supp (hw r2 h2) i hi]
    · intro r1 h1 _; exact gn_vecOf_supp (hw r1 h1)
    · intro r1 h1 _ c i hi; simp [gn_vecOf_supp (hw r1 h1) i hi]
  intro i hi
  have := key i hi
  have h2 := gn_vecOf_supp (hw r hr) i hi
  simp only [Pi.sub_apply, h2, sub_zero] at this
  exact this

/-! ### `Hom` of an appended system (item `gn_hom_append`) -/

theorem gn_hom_append (n : Nat) (rows rows' : List GRow) (v : Pt) :
    Hom n (rows ++ rows') v ↔ ∃ u w, Hom n rows u ∧ Hom n rows' w ∧ v = u + w := by
  constructor
  · intro h
    unfold Hom GDir at h
    induction h with
    | zero => exact ⟨0, 0, hom_zero _ _, hom_zero _ _, by simp⟩
    | @param y q k hq _ ih =>
      obtain ⟨u, w, hu, hw, rfl⟩ := ih
      simp only [pcVecs, List.filter_append, List.map_append, List.mem_append] at hq
      rcases hq with hq | hq
      · exact ⟨u + (k : ℚ) • q, w, Abs.Dir.param k hq hu, hw, by module⟩
      · exact ⟨u, w + (k : ℚ) • q, hu, Abs.Dir.param k hq hw, by module⟩
    | @line y l c hl _ ih =>
      obtain ⟨u, w, hu, hw, rfl⟩ := ih
      simp only [lineVecs, List.filter_append, List.map_append, List.mem_append] at hl
      rcases hl with hl | hl
      · exact ⟨u + c • l, w, Abs.Dir.line c hl hu, hw, by module⟩
      · exact ⟨u, w + c • l, hu, Abs.Dir.line c hl hw, by module⟩
  · rintro ⟨u, w, hu, hw, rfl⟩
    refine hom_add ?_ ?_
    · refine hom_le_idx1 (fun i hi => ?_) hu
      have hm : rowAt rows i ∈ rows ++ rows' := List.mem_append_left _ (rowAt_mem rows i hi)
      exact ⟨fun hl => hom_of_mem_pc hm hl, fun hl c => hom_of_mem_line hm hl c⟩
    · refine hom_le_idx1 (fun i hi => ?_) hw
      have hm : rowAt rows' i ∈ rows ++ rows' := List.mem_append_right _ (rowAt_mem rows' i hi)
      exact ⟨fun hl => hom_of_mem_pc hm hl, fun hl c => hom_of_mem_line hm hl c⟩

/-! ## `normalize_divisors` (all three overloads) on raw systems: the result has normalised divisors (`GNorm`) and generates the same grid (`gn_set`) -/

/-- generator rows as `Grid` accepts them before the divisors are normalised: right sizes, positive divisors, lines
    with a zero inhomogeneous term, at least one point -/
structure gn_WF (n : Nat) (rows : List GRow) : Prop where
  shape : GShape n rows
  lin : ∀ r ∈ rows, r.line = true → get r.e 0 = 0
  pt : ∃ r ∈ rows, gn_isPt r = true

theorem gn_wf_of_gnorm {n : Nat} {D : Int} {rows : List GRow} (h : GNorm n D rows) (hw : GWf n rows) : gn_WF n rows := by
  refine ⟨fun r hr => ⟨hw r hr, fun hl => ?_⟩, h.lin, ?_⟩
  · rcases h.col0 r hr hl with h0 | h0
    · rw [divisor_param n r (hw r hr) h0, h.par r hr hl h0]; exact h.pos
    · have : get r.e 0 ≠ 0 := by rw [h0]; exact ne_of_gt h.pos
      rw [divisor_point r this, h0]; exact h.pos
  · obtain ⟨r, hr, hl, h0⟩ := h.pt
    exact ⟨r, hr, (gn_isPt_iff r).mpr ⟨hl, by rw [h0]; exact ne_of_gt h.pos⟩⟩

theorem gn_wf_gwf {n : Nat} {rows : List GRow} (h : gn_WF n rows) : GWf n rows := fun r hr => (h.shape r hr).1

theorem gn_vecOf_nonline {n : Nat} {r : GRow} (hlen : r.e.length = n + 2) (hl : r.line = false) :
    gn_vecOf r = (r.coords n (r.divisor : ℚ)).toFun := by
  funext i
  rw [coords_toFun]
  simp [gn_vecOf, gn_spaceDim_of_len hlen, hl]

/-! ### a row-wise map that keeps kinds and vectors keeps the grid -/

theorem gn_filter_map_congr (rows : List GRow) (f : GRow → GRow) (p : GRow → Bool)
    (hp : ∀ r ∈ rows, p (f r) = p r) (hv : ∀ r ∈ rows, gn_vecOf (f r) = gn_vecOf r) :
    ((rows.map f).filter p).map gn_vecOf = (rows.filter p).map gn_vecOf := by
  rw [List.filter_map, List.map_map]
  have : rows.filter (p ∘ f) = rows.filter p := List.filter_congr (fun r hr => hp r hr)
  rw [this]
  apply List.map_congr_left
  intro r hr
  exact hv r (List.mem_of_mem_filter hr)

theorem gn_set_map (rows : List GRow) (f : GRow → GRow) (hline : ∀ r ∈ rows, (f r).line = r.line)
    (h0 : ∀ r ∈ rows, (get (f r).e 0 = 0 ↔ get r.e 0 = 0)) (hv : ∀ r ∈ rows, gn_vecOf (f r) = gn_vecOf r) :
    gn_set (rows.map f) = gn_set rows := by
  have hpt : ∀ r ∈ rows, gn_isPt (f r) = gn_isPt r := by
    intro r hr
    have := h0 r hr
    by_cases hz : get r.e 0 = 0
    · simp [gn_isPt, hline r hr, hz, this.mpr hz]
    · have hz' : get (f r).e 0 ≠ 0 := fun q => hz (this.mp q)
      have a1 : (get r.e 0 != 0) = true := bne_iff_ne.mpr hz
      have a2 : (get (f r).e 0 != 0) = true := bne_iff_ne.mpr hz'
      simp only [gn_isPt, hline r hr, a1, a2]
  have hpar : ∀ r ∈ rows, gn_isPar (f r) = gn_isPar r := by
    intro r hr
    have := h0 r hr
    by_cases hz : get r.e 0 = 0
    · simp [gn_isPar, hline r hr, hz, this.mpr hz]
    · have hz' : get (f r).e 0 ≠ 0 := fun q => hz (this.mp q)
      have a1 : (get r.e 0 == 0) = false := beq_eq_false_iff_ne.mpr hz
      have a2 : (get (f r).e 0 == 0) = false := beq_eq_false_iff_ne.mpr hz'
      simp only [gn_isPar, hline r hr, a1, a2]
  have e1 : gn_pts (rows.map f) = gn_pts rows := gn_filter_map_congr rows f gn_isPt hpt hv
  have e2 : gn_P (rows.map f) = gn_P rows := by
    unfold gn_P; rw [e1, gn_filter_map_congr rows f gn_isPar hpar hv]
  have e3 : gn_L (rows.map f) = gn_L rows := gn_filter_map_congr rows f (fun r => r.line) hline hv
  ext x
  show gn_Mem (rows.map f) x ↔ gn_Mem rows x
  unfold gn_Mem gn_Dir
  rw [e2, e3]
  constructor
  · rintro ⟨r', hr', p, d⟩
    obtain ⟨r, hr, rfl⟩ := List.mem_map.mp hr'
    exact ⟨r, hr, by rw [← hpt r hr]; exact p, by rw [← hv r hr]; exact d⟩
  · rintro ⟨r, hr, p, d⟩
    exact ⟨f r, List.mem_map_of_mem hr, by rw [hpt r hr]; exact p, by rw [hv r hr]; exact d⟩

/-! ### `scale_to_divisor` on every row -/

theorem gn_scaleAll {n : Nat} {rows : List GRow} (h : gn_WF n rows) (d : Int) (hd : 0 < d)
    (hdv : ∀ r ∈ rows, r.line = false → r.divisor ∣ d) :
    GWf n (rows.map (·.scaleToDivisor d)) ∧ GNorm n d (rows.map (·.scaleToDivisor d)) ∧
      gn_set (rows.map (·.scaleToDivisor d)) = gn_set rows := by
  have spec : ∀ r ∈ rows, r.line = false → _ := fun r hr hl =>
    scaleToDivisor_spec n r d (h.shape r hr).1 hl ((h.shape r hr).2 hl) (hdv r hr hl) hd
  have hlineS : ∀ r : GRow, r.line = true → r.scaleToDivisor d = r := by
    intro r hl; simp [GRow.scaleToDivisor, GRow.isLine, hl]
  have hline : ∀ r ∈ rows, (r.scaleToDivisor d).line = r.line := by
    intro r hr
    cases hl : r.line with
    | true => rw [hlineS r hl]; exact hl
    | false => exact (spec r hr hl).1
  have hlen : ∀ r ∈ rows, (r.scaleToDivisor d).e.length = n + 2 := by
    intro r hr
    cases hl : r.line with
    | true => rw [hlineS r hl]; exact (h.shape r hr).1
    | false => exact (spec r hr hl).2.1
  have h0 : ∀ r ∈ rows, (get (r.scaleToDivisor d).e 0 = 0 ↔ get r.e 0 = 0) := by
    intro r hr
    cases hl : r.line with
    | true => rw [hlineS r hl]
    | false => exact (spec r hr hl).2.2.1
  refine ⟨?_, ?_, ?_⟩
  · intro r' hr'
    obtain ⟨r, hr, rfl⟩ := List.mem_map.mp hr'
    exact hlen r hr
  · refine ⟨hd, ?_, ?_, ?_, ?_⟩
    · obtain ⟨r, hr, p⟩ := h.pt
      obtain ⟨hl, hz⟩ := (gn_isPt_iff r).mp p
      refine ⟨_, List.mem_map_of_mem hr, (spec r hr hl).1, ?_⟩
      have hz' : get (r.scaleToDivisor d).e 0 ≠ 0 := fun q => hz ((h0 r hr).mp q)
      rw [← divisor_point _ hz']; exact (spec r hr hl).2.2.2.1
    · intro r' hr' hl'
      obtain ⟨r, hr, rfl⟩ := List.mem_map.mp hr'
      have hl : r.line = false := by rw [← hline r hr]; exact hl'
      by_cases hz : get (r.scaleToDivisor d).e 0 = 0
      · exact Or.inl hz
      · right; rw [← divisor_point _ hz]; exact (spec r hr hl).2.2.2.1
    · intro r' hr' hl' hz
      obtain ⟨r, hr, rfl⟩ := List.mem_map.mp hr'
      have hl : r.line = false := by rw [← hline r hr]; exact hl'
      rw [← divisor_param n _ (hlen r hr) hz]; exact (spec r hr hl).2.2.2.1
    · intro r' hr' hl'
      obtain ⟨r, hr, rfl⟩ := List.mem_map.mp hr'
      have hl : r.line = true := by rw [← hline r hr]; exact hl'
      rw [hlineS r hl]; exact h.lin r hr hl
  · refine gn_set_map rows _ hline h0 ?_
    intro r hr
    cases hl : r.line with
    | true => rw [hlineS r hl]
    | false =>
      rw [gn_vecOf_nonline (hlen r hr) (spec r hr hl).1, gn_vecOf_nonline (h.shape r hr).1 hl,
        (spec r hr hl).2.2.2.2]

/-! ### `normalize_divisors(sys, divisor)` -/

theorem gn_normalizeDivisors {n : Nat} {rows : List GRow} (h : gn_WF n rows) (hn : 0 < n) (d : Int) (hd : 0 < d) :
    GWf n (normalizeDivisors n rows d).1 ∧ GNorm n (normalizeDivisors n rows d).2 (normalizeDivisors n rows d).1 ∧
      gn_set (normalizeDivisors n rows d).1 = gn_set rows ∧ d ∣ (normalizeDivisors n rows d).2 ∧
      (normalizeDivisors n rows d).1.length = rows.length := by
  have hnl : rows.all (·.isLine) = false := by
    obtain ⟨r, hr, p⟩ := h.pt
    rw [List.all_eq_false]
    exact ⟨r, hr, by simp [GRow.isLine, ((gn_isPt_iff r).mp p).1]⟩
  have hpos : ∀ r ∈ rows.dropWhile (·.isLine), r.line = false → 0 < r.divisor :=
    fun r hr hl => (h.shape r (List.dropWhile_subset _ hr)).2 hl
  obtain ⟨h1, h2, h3⟩ := lcmFold_spec (rows.dropWhile (·.isLine)) hpos d hd
  have hdv : ∀ r ∈ rows, r.line = false → r.divisor ∣
      (rows.dropWhile (·.isLine)).foldl (fun d g => if g.isParameterOrPoint then lcmI d g.divisor else d) d := by
    intro r hr hl
    exact h3 r (mem_dropWhile_of_not _ rows r hr (by simpa [GRow.isLine] using hl)) hl
  have e : normalizeDivisors n rows d =
      (rows.map (·.scaleToDivisor
        ((rows.dropWhile (·.isLine)).foldl (fun d g => if g.isParameterOrPoint then lcmI d g.divisor else d) d)),
       (rows.dropWhile (·.isLine)).foldl (fun d g => if g.isParameterOrPoint then lcmI d g.divisor else d) d) := by
    unfold normalizeDivisors
    rw [if_pos ⟨hn, hd⟩, hnl]
    rfl
  rw [e]
  obtain ⟨a, b, c⟩ := gn_scaleAll h _ h1 hdv
  exact ⟨a, b, c, h2, by simp⟩

/-- `normalize_divisors(sys)` (divisor 1) -/
theorem gn_normalizeDivisors1 {s : GSys} (h : gn_WF s.dim s.rows) (hn : 0 < s.dim) :
    (normalizeDivisors1 s).dim = s.dim ∧ GWf s.dim (normalizeDivisors1 s).rows ∧
      GNorm s.dim (firstPointDiv (normalizeDivisors1 s).rows) (normalizeDivisors1 s).rows ∧
      gn_set (normalizeDivisors1 s).rows = gn_set s.rows := by
  obtain ⟨a, b, c, _, _⟩ := gn_normalizeDivisors h hn 1 (by decide)
  refine ⟨rfl, a, ?_, c⟩
  show GNorm s.dim (firstPointDiv (normalizeDivisors s.dim s.rows 1).1) (normalizeDivisors s.dim s.rows 1).1
  rw [firstPointDiv_of_gnorm b]; exact b

example : gn_WF 1 [⟨false, [2, 1, 0]⟩, ⟨false, [0, 1, 3]⟩] := by
  refine ⟨?_, ?_, ⟨_, List.mem_cons_self, rfl⟩⟩
  · intro r hr
    simp only [List.mem_cons, List.not_mem_nil, or_false] at hr
    rcases hr with rfl | rfl <;> exact ⟨rfl, fun _ => by decide⟩
  · intro r hr
    simp only [List.mem_cons, List.not_mem_nil, or_false] at hr
    rcases hr with rfl | rfl <;> intro h <;> cases h

theorem gn_lcm_of_dvd {m D : Int} (hm : 0 < m) (hD : D ∣ m) : lcmI m D = m := by
  obtain ⟨c, rfl⟩ : ∃ c : ℕ, m = c := ⟨m.toNat, (Int.toNat_of_nonneg (le_of_lt hm)).symm⟩
  unfold lcmI
  apply Int.dvd_antisymm (by positivity) (le_of_lt hm)
  · exact Int.natCast_dvd_natCast.mpr (Int.lcm_dvd (dvd_refl _) hD)
  · exact Int.dvd_lcm_left _ D

/-- the first row with a non-zero inhomogeneous term of a normalised system is a point with the common divisor -/
theorem gn_find_firstPoint {n : Nat} {D : Int} {rows : List GRow} (h : GNorm n D rows) :
    ∃ fp, rows.find? (fun g => !g.isLineOrParameter) = some fp ∧ fp.divisor = D := by
  cases hf : rows.find? (fun g => !g.isLineOrParameter) with
  | none =>
    obtain ⟨r, hr, hl, h0⟩ := h.pt
    have := List.find?_eq_none.mp hf r hr
    have hD : D ≠ 0 := ne_of_gt h.pos
    simp [GRow.isLineOrParameter, h0, hD] at this
  | some fp =>
    refine ⟨fp, rfl, ?_⟩
    have hp := List.find?_some hf
    have hm := List.mem_of_find?_eq_some hf
    have hz : get fp.e 0 ≠ 0 := by simpa [GRow.isLineOrParameter] using hp
    have hl : fp.line = false := by
      cases hl : fp.line with
      | true => exact absurd (h.lin fp hm hl) hz
      | false => rfl
    rw [divisor_point fp hz]
    rcases h.col0 fp hm hl with q | q
    · exact absurd q hz
    · exact q

/-- `normalize_divisors(sys, gen_sys)`: both systems come out with one common divisor and denote what they denoted -/
theorem gn_normalizeDivisors2 {n : Nat} {sys genSys : GSys} (hn : 0 < n) (hs : sys.dim = n) (hg : genSys.dim = n)
    (h1 : gn_WF n sys.rows) {D : Int} (h2 : GNorm n D genSys.rows) (hw2 : GWf n genSys.rows) :
    ∃ D' : Int, (normalizeDivisors2 sys genSys).1.dim = n ∧ (normalizeDivisors2 sys genSys).2.dim = n ∧
      GWf n (normalizeDivisors2 sys genSys).1.rows ∧ GNorm n D' (normalizeDivisors2 sys genSys).1.rows ∧
      GWf n (normalizeDivisors2 sys genSys).2.rows ∧ GNorm n D' (normalizeDivisors2 sys genSys).2.rows ∧
      gn_set (normalizeDivisors2 sys genSys).1.rows = gn_set sys.rows ∧
      gn_set (normalizeDivisors2 sys genSys).2.rows = gn_set genSys.rows := by
  obtain ⟨fp, hfp, hdiv⟩ := gn_find_firstPoint h2
  subst hs
  obtain ⟨a, b, c, d, _⟩ := gn_normalizeDivisors h1 hn D h2.pos
  unfold normalizeDivisors2
  rw [hfp]
  simp only [hdiv]
  by_cases hne : (normalizeDivisors sys.dim sys.rows D).2 = D
  · rw [if_neg (by simpa using hne)]
    have b' := b
    rw [hne] at b'
    exact ⟨D, rfl, hg, a, b', hw2, h2, c, rfl⟩
  · rw [if_pos hne]
    have hpos : 0 < (normalizeDivisors sys.dim sys.rows D).2 := b.pos
    have hFP : normalizeDivisorsFP genSys (normalizeDivisors sys.dim sys.rows D).2 D =
        { genSys with rows := genSys.rows.map (·.scaleToDivisor (normalizeDivisors sys.dim sys.rows D).2) } := by
      unfold normalizeDivisorsFP
      rw [if_pos ⟨by rw [hg]; exact hn, hpos⟩, gn_lcm_of_dvd hpos d]
    rw [hFP]
    have hwf2 := gn_wf_of_gnorm h2 hw2
    have hdv : ∀ r ∈ genSys.rows, r.line = false → r.divisor ∣ (normalizeDivisors sys.dim sys.rows D).2 := by
      intro r hr hl
      have : r.divisor = D := by
        rcases h2.col0 r hr hl with h0 | h0
        · rw [divisor_param sys.dim r (hw2 r hr) h0, h2.par r hr hl h0]
        · have : get r.e 0 ≠ 0 := by rw [h0]; exact ne_of_gt h2.pos
          rw [divisor_point r this, h0]
      rw [this]; exact d
    obtain ⟨a', b', c'⟩ := gn_scaleAll hwf2 _ hpos hdv
    exact ⟨_, rfl, hg, a, b, a', b', c, c'⟩

/-! ## Scaling the divisors of a normalised system at the level of the homogeneous lattice (`gn_scale`): `Hom rows v ↔ Hom rows' (k • v)` -/

/-- the homogeneous vector of a parameter or point of a normalised system after `scale_to_divisor(k·D)` -/
theorem gn_hv_scale {n : Nat} {D : Int} {rows : List GRow} (hN : GNorm n D rows) (hw : GWf n rows) (k : Int) (hk : 0 < k)
    {r : GRow} (hr : r ∈ rows) (hl : r.line = false) :
    hv n (r.scaleToDivisor (k * D)) = (k : ℚ) • hv n r := by
  have hwf := gn_wf_of_gnorm hN hw
  have hdiv : r.divisor = D := by
    rcases hN.col0 r hr hl with h0 | h0
    · rw [divisor_param n r (hw r hr) h0, hN.par r hr hl h0]
    · have : get r.e 0 ≠ 0 := by rw [h0]; exact ne_of_gt hN.pos
      rw [divisor_point r this, h0]
  have hd : 0 < k * D := Int.mul_pos hk hN.pos
  obtain ⟨s1, s2, s3, s4, s5⟩ := scaleToDivisor_spec n r (k * D) (hw r hr) hl ((hwf.shape r hr).2 hl)
    (by rw [hdiv]; exact Dvd.intro_left k rfl) hd
  have hDq : (D : ℚ) ≠ 0 := by exact_mod_cast ne_of_gt hN.pos
  have hkq : (k : ℚ) ≠ 0 := by exact_mod_cast ne_of_gt hk
  funext i
  simp only [Pi.smul_apply, smul_eq_mul, hv_apply]
  by_cases hi : i ≤ n
  · rw [if_pos hi, if_pos hi]
    cases i with
    | zero =>
      by_cases h0 : get r.e 0 = 0
      · rw [h0, s3.mpr h0]; simp
      · have h0' : get (r.scaleToDivisor (k * D)).e 0 ≠ 0 := fun q => h0 (s3.mp q)
        rw [← divisor_point _ h0', s4, ← divisor_point r h0, hdiv]; push_cast; ring
    | succ j =>
      have hj : j < n := by omega
      have e := congrFun (congrArg Vec.toFun s5) j
      rw [coords_toFun, coords_toFun, if_pos hj, if_pos hj, s4, hdiv] at e
      push_cast at e
      field_simp at e
      linarith
  · rw [if_neg hi, if_neg hi]; ring

/-- **`gn_scale`**: scaling every parameter and point of a normalised system to the divisor `k·D` scales the homogeneous
    lattice by `k` -/
theorem gn_scale {n : Nat} {D : Int} {rows : List GRow} (hN : GNorm n D rows) (hw : GWf n rows) (k : Int) (hk : 0 < k)
    (v : Pt) : Hom n rows v ↔ Hom n (rows.map (·.scaleToDivisor (k * D))) ((k : ℚ) • v) := by
  have hkq : (k : ℚ) ≠ 0 := by exact_mod_cast ne_of_gt hk
  have hlineS : ∀ r : GRow, r.line = true → r.scaleToDivisor (k * D) = r := by
    intro r hl; simp [GRow.scaleToDivisor, GRow.isLine, hl]
  have hlineF : ∀ r ∈ rows, r.line = false → (r.scaleToDivisor (k * D)).line = false := by
    intro r hr hl
    have hwf := gn_wf_of_gnorm hN hw
    have hdiv := (hwf.shape r hr).2 hl
    have hdv : r.divisor ∣ k * D := by
      have : r.divisor = D := by
        rcases hN.col0 r hr hl with h0 | h0
        · rw [divisor_param n r (hw r hr) h0, hN.par r hr hl h0]
        · have : get r.e 0 ≠ 0 := by rw [h0]; exact ne_of_gt hN.pos
          rw [divisor_point r this, h0]
      rw [this]; exact Dvd.intro_left k rfl
    exact (scaleToDivisor_spec n r (k * D) (hw r hr) hl hdiv hdv (Int.mul_pos hk hN.pos)).1
  constructor
  · refine hom_le (k : ℚ) ?_ ?_
    · intro r hr hl
      rw [← gn_hv_scale hN hw k hk hr hl]
      exact hom_of_mem_pc (List.mem_map_of_mem hr) (hlineF r hr hl)
    · intro r hr hl c
      have : r ∈ rows.map (·.scaleToDivisor (k * D)) := by
        have := List.mem_map_of_mem (f := (·.scaleToDivisor (k * D))) hr
        rwa [hlineS r hl] at this
      exact hom_of_mem_line this hl c
  · intro h
    have key := hom_le (n := n) (rows := rows.map (·.scaleToDivisor (k * D))) (rows' := rows) (1 / (k : ℚ)) ?_ ?_ h
    · have e : (1 / (k : ℚ)) • ((k : ℚ) • v) = v := by
        rw [smul_smul]; field_simp; simp
      rwa [e] at key
    · intro r' hr' hl'
      obtain ⟨r, hr, rfl⟩ := List.mem_map.mp hr'
      cases hl : r.line with
      | true => rw [hlineS r hl] at hl'; rw [hl] at hl'; cases hl'
      | false =>
        rw [gn_hv_scale hN hw k hk hr hl, smul_smul]
        have : 1 / (k : ℚ) * (k : ℚ) = 1 := by field_simp
        rw [this, one_smul]
        exact hom_of_mem_pc hr hl
    · intro r' hr' hl' c
      obtain ⟨r, hr, rfl⟩ := List.mem_map.mp hr'
      cases hl : r.line with
      | true => rw [hlineS r hl]; exact hom_of_mem_line hr hl c
      | false => rw [hlineF r hr hl] at hl'; cases hl'

/-- in the form of `HomSim` -/
theorem gn_scale_homSim {n : Nat} {D : Int} {rows : List GRow} (hN : GNorm n D rows) (hw : GWf n rows) (k : Int)
    (hk : 0 < k) : HomSim n rows (rows.map (·.scaleToDivisor (k * D))) := ⟨k, hk, gn_scale hN hw k hk⟩

end PPLV.Lattice.GO

import PPLV.Lattice.RedSem
import PPLV.Lattice.ProofsArith
import Mathlib.Tactic.Linarith
import Mathlib.Tactic.Ring
import Mathlib.Tactic.SplitIfs

/-!
# Row primitives of the `Grid::simplify` / `Grid::conversion` model: entry-wise characterisations
-/
namespace PPLV.Lattice.Red

theorem get_of_length_le (r : Row) (i : Nat) (h : r.length ≤ i) : get r i = 0 := by
  simp [get, List.getElem?_eq_none h]

@[simp] theorem length_tab (r : Row) (f : Nat → Int) : (tab r f).length = r.length := by simp [tab]

theorem get_tab (r : Row) (f : Nat → Int) (i : Nat) : get (tab r f) i = if i < r.length then f i else 0 := by
  unfold get tab
  by_cases h : i < r.length
  · simp [h]
  · simp [h]

@[simp] theorem length_linearCombine (x y : Row) (c1 c2 : Int) (s e : Nat) :
    (linearCombine x y c1 c2 s e).length = x.length := by simp [linearCombine]
@[simp] theorem length_negate (x : Row) (s e : Nat) : (negate x s e).length = x.length := by simp [negate]
@[simp] theorem length_mulAssign (x : Row) (c : Int) (s e : Nat) : (mulAssign x c s e).length = x.length := by
  simp [mulAssign]
@[simp] theorem length_exactDivAssign (x : Row) (c : Int) (s e : Nat) : (exactDivAssign x c s e).length = x.length := by
  simp [exactDivAssign]
@[simp] theorem length_mulAll (x : Row) (c : Int) : (mulAll x c).length = x.length := by simp [mulAll]
@[simp] theorem length_subExpr (x y : Row) : (subExpr x y).length = x.length := by simp [subExpr]
@[simp] theorem length_subMulAssign (x : Row) (c : Int) (y : Row) : (subMulAssign x c y).length = x.length := by
  simp [subMulAssign]

theorem get_linearCombine (x y : Row) (c1 c2 : Int) (s e i : Nat) :
    get (linearCombine x y c1 c2 s e) i =
      if i < x.length ∧ s ≤ i ∧ i < e then c1 * get x i + c2 * get y i else get x i := by
  rw [linearCombine, get_tab]
  by_cases h : i < x.length
  · by_cases h2 : s ≤ i ∧ i < e <;> simp [h, h2]
  · simp [h, get_of_length_le x i (by omega)]

theorem get_negate (x : Row) (s e i : Nat) :
    get (negate x s e) i = if s ≤ i ∧ i < e then - get x i else get x i := by
  rw [negate, get_tab]
  by_cases h : i < x.length
  · simp [h]
  · simp [h, get_of_length_le x i (by omega)]

theorem get_mulAssign (x : Row) (c : Int) (s e i : Nat) :
    get (mulAssign x c s e) i = if s ≤ i ∧ i < e then get x i * c else get x i := by
  rw [mulAssign, get_tab]
  by_cases h : i < x.length
  · simp [h]
  · simp [h, get_of_length_le x i (by omega)]

theorem get_exactDivAssign (x : Row) (c : Int) (s e i : Nat) :
    get (exactDivAssign x c s e) i = if s ≤ i ∧ i < e then get x i / c else get x i := by
  rw [exactDivAssign, get_tab]
  by_cases h : i < x.length
  · simp [h]
  · simp [h, get_of_length_le x i (by omega)]

theorem get_mulAll (x : Row) (c : Int) (i : Nat) : get (mulAll x c) i = get x i * c := by
  rw [mulAll, get_tab]
  by_cases h : i < x.length
  · simp [h]
  · simp [h, get_of_length_le x i (by omega)]

theorem get_subExpr (x y : Row) (i : Nat) :
    get (subExpr x y) i = if i < x.length then get x i - get y i else 0 := by
  rw [subExpr, get_tab]

theorem get_subMulAssign (x : Row) (c : Int) (y : Row) (i : Nat) :
    get (subMulAssign x c y) i = if i < x.length then get x i - c * get y i else 0 := by
  rw [subMulAssign, get_tab]

theorem get_set (x : Row) (j : Nat) (v : Int) (i : Nat) :
    get (x.set j v) i = if i = j ∧ j < x.length then v else get x i := by
  unfold get
  by_cases h : i = j
  · subst h
    by_cases h2 : i < x.length
    · simp [h2]
    · simp [h2]
  · have : j ≠ i := fun e => h e.symm
    simp [h, List.getElem?_set_ne this]

theorem get_replicate_zero (m k : Nat) : get (List.replicate m (0 : Int)) k = 0 := by
  unfold get
  by_cases h : k < m
  · simp [h]
  · simp [h]

/-- two rows of the same size with the same entries are equal -/
theorem row_ext (x y : Row) (hl : x.length = y.length) (h : ∀ i, i < x.length → get x i = get y i) : x = y := by
  apply List.ext_getElem hl
  intro i h1 h2
  have := h i h1
  simpa [get, h1, h2] using this

/-! ### rows of a system -/

theorem rowAt_eq_getElem {R : Type} [Inhabited R] (rows : List R) (i : Nat) (h : i < rows.length) :
    rowAt rows i = rows[i] := by simp [rowAt, h]

theorem rowAt_mem {R : Type} [Inhabited R] (rows : List R) (i : Nat) (h : i < rows.length) : rowAt rows i ∈ rows := by
  rw [rowAt_eq_getElem rows i h]; exact List.getElem_mem h

theorem rowAt_set {R : Type} [Inhabited R] (rows : List R) (j : Nat) (r : R) (i : Nat) :
    rowAt (rows.set j r) i = if i = j ∧ j < rows.length then r else rowAt rows i := by
  unfold rowAt
  by_cases h : i = j
  · subst h
    by_cases h2 : i < rows.length
    · simp [h2]
    · simp [h2]
  · have : j ≠ i := fun e => h e.symm
    simp [h, List.getElem?_set_ne this]

theorem rowAt_set_ne {R : Type} [Inhabited R] (rows : List R) {i j : Nat} (r : R) (h : i ≠ j) :
    rowAt (rows.set j r) i = rowAt rows i := by rw [rowAt_set, if_neg fun e => h e.1]

theorem rowAt_set_self {R : Type} [Inhabited R] (rows : List R) {j : Nat} (r : R) (h : j < rows.length) :
    rowAt (rows.set j r) j = r := by rw [rowAt_set, if_pos ⟨rfl, h⟩]

theorem rowAt_map {R : Type} [Inhabited R] (rows : List R) (f : R → R) (i : Nat) (hi : i < rows.length) :
    rowAt (rows.map f) i = f (rowAt rows i) := by
  simp [rowAt, hi]

theorem rowAt_take {R : Type} [Inhabited R] (rows : List R) (k i : Nat) (hi : i < k) :
    rowAt (rows.take k) i = rowAt rows i := by
  simp [rowAt, hi]

theorem rowAt_append_one {R : Type} [Inhabited R] (l : List R) (r : R) (i : Nat) :
    rowAt (l ++ [r]) i = if i < l.length then rowAt l i else if i = l.length then r else default := by
  unfold rowAt
  by_cases h : i < l.length
  · simp [h, List.getElem?_append_left h]
  · by_cases h2 : i = l.length
    · subst h2; simp
    · have : (l ++ [r]).length ≤ i := by simp; omega
      simp [h, h2, List.getElem?_eq_none this]

theorem rowAt_append_left {R : Type} [Inhabited R] (rows : List R) (r : R) (i : Nat) (hi : i < rows.length) :
    rowAt (rows ++ [r]) i = rowAt rows i := by rw [rowAt_append_one, if_pos hi]

theorem rowAt_append_last {R : Type} [Inhabited R] (rows : List R) (r : R) :
    rowAt (rows ++ [r]) rows.length = r := by
  rw [rowAt_append_one, if_neg (Nat.lt_irrefl _), if_pos rfl]

@[simp] theorem length_swapRows {R : Type} [Inhabited R] (rows : List R) (i j : Nat) :
    (swapRows rows i j).length = rows.length := by simp [swapRows]

theorem rowAt_swapRows {R : Type} [Inhabited R] (rows : List R) (i j k : Nat) (hi : i < rows.length) (hj : j < rows.length) :
    rowAt (swapRows rows i j) k = if k = j then rowAt rows i else if k = i then rowAt rows j else rowAt rows k := by
  unfold swapRows
  rw [rowAt_set, rowAt_set]
  by_cases h1 : k = j
  · simp [h1, hj]
  · by_cases h2 : k = i
    · subst h2; simp [h1, hi]
    · simp [h1, h2]

/-- a swap permutes the rows: membership is unchanged -/
theorem mem_swapRows {R : Type} [Inhabited R] (rows : List R) (i j : Nat) (hi : i < rows.length) (hj : j < rows.length) (r : R) :
    r ∈ swapRows rows i j ↔ r ∈ rows := by
  constructor
  · intro h
    obtain ⟨k, hk, rfl⟩ := List.getElem_of_mem h
    rw [length_swapRows] at hk
    have := rowAt_swapRows rows i j k hi hj
    rw [rowAt_eq_getElem _ _ (by simpa using hk)] at this
    rw [this]
    split
    · exact rowAt_mem rows i hi
    · split
      · exact rowAt_mem rows j hj
      · exact rowAt_mem rows k hk
  · intro h
    obtain ⟨k, hk, rfl⟩ := List.getElem_of_mem h
    -- the row at position k moves to position σ k
    let k' := if k = i then j else if k = j then i else k
    have hk' : k' < rows.length := by
      simp only [k']; split
      · exact hj
      · split
        · exact hi
        · exact hk
    have e : rowAt (swapRows rows i j) k' = rows[k] := by
      rw [rowAt_swapRows rows i j k' hi hj, ← rowAt_eq_getElem rows k hk]
      simp only [k']
      by_cases h1 : k = i
      · subst h1
        by_cases h2 : j = k
        · subst h2; simp
        · simp
      · by_cases h2 : k = j
        · subst h2
          have h3 : ¬ i = k := fun e => h1 e.symm
          simp [h1, h3]
        · simp [h1, h2]
    rw [← e]
    exact rowAt_mem _ _ (by simpa using hk')

/-! ### `dim_kinds` -/

theorem kind_set (dk : List Nat) (j v i : Nat) :
    kind (dk.set j v) i = if i = j ∧ j < dk.length then v else kind dk i := by
  unfold kind
  by_cases h : i = j
  · subst h
    by_cases h2 : i < dk.length
    · simp [h2]
    · simp [h2]
  · have : j ≠ i := fun e => h e.symm
    simp [h, List.getElem?_set_ne this]

/-! ### loops as folds over index ranges -/

/-- invariant principle for `for (i = s; i < s + len; ++i)` -/
theorem foldl_range'_inv {σ : Type} (f : σ → Nat → σ) (P : Nat → σ → Prop) :
    ∀ (len s : Nat) (st : σ), P s st → (∀ i st, s ≤ i → i < s + len → P i st → P (i + 1) (f st i)) →
      P (s + len) ((List.range' s len).foldl f st) := by
  intro len
  induction len with
  | zero => intro s st h _; simpa using h
  | succ len ih =>
    intro s st h hstep
    rw [List.range'_succ, List.foldl_cons]
    have := ih (s + 1) (f st s) (hstep s st (le_refl _) (by omega) h)
      (fun i st hi1 hi2 hP => hstep i st (by omega) (by omega) hP)
    rwa [show s + 1 + len = s + (len + 1) by omega] at this

theorem foldl_range_inv {σ : Type} (f : σ → Nat → σ) (I : Nat → σ → Prop) (m : Nat) (s : σ) (h0 : I 0 s)
    (hstep : ∀ d s, d < m → I d s → I (d + 1) (f s d)) : I m ((List.range m).foldl f s) := by
  have := foldl_range'_inv f I m 0 s h0 fun i st _ hi => hstep i st (by omega)
  rwa [Nat.zero_add, ← List.range_eq_range'] at this

/-- `findNonZero` from `i` with exactly the fuel to reach `numRows`: the first row from `i` on that is non-zero in
    column `dim`, or `numRows` -/
theorem findNonZero_spec {R : Type} [HasExpr R] [Inhabited R] (rows : List R) (dim numRows : Nat) (fuel i : Nat)
    (h : i + fuel = numRows) :
    i ≤ findNonZero rows dim numRows fuel i ∧ findNonZero rows dim numRows fuel i ≤ numRows ∧
      (∀ j, i ≤ j → j < findNonZero rows dim numRows fuel i → get (HasExpr.expr (rowAt rows j)) dim = 0) ∧
      (findNonZero rows dim numRows fuel i < numRows →
        get (HasExpr.expr (rowAt rows (findNonZero rows dim numRows fuel i))) dim ≠ 0) := by
  induction fuel generalizing i with
  | zero =>
    simp only [findNonZero]
    exact ⟨le_refl _, by omega, fun j h1 h2 => by omega, fun h1 => by omega⟩
  | succ fuel ih =>
    simp only [findNonZero]
    by_cases hc : i < numRows ∧ get (HasExpr.expr (rowAt rows i)) dim = 0
    · rw [if_pos hc]
      obtain ⟨h1, h2, h3, h4⟩ := ih (i + 1) (by omega)
      refine ⟨by omega, h2, fun j hj1 hj2 => ?_, h4⟩
      by_cases e : j = i
      · rw [e]; exact hc.2
      · exact h3 j (by omega) hj2
    · rw [if_neg hc]
      exact ⟨le_refl _, by omega, fun j h1 h2 => by omega, fun hlt he => hc ⟨hlt, he⟩⟩

/-! ### the loop of `reduce_reduced` -/

theorem reduceReducedLoop_zero {R : Type} [HasExpr R] [Inhabited R] (generators : Bool) (dk : List Nat) (pivotE : Row)
    (pivotDim half : Int) (dim s e : Nat) (rle : Bool) (rk ki : Nat) (rows : List R) :
    reduceReducedLoop generators dk pivotE pivotDim half dim s e rle rk 0 ki rows = rows := rfl

/-- one turn of the loop for row `ri`: the rows are left alone, or — only when the row is a line/equality or
    both the row and the entry of `dim_kinds` reached by the skip are parameters/proper congruences —
    row `ri` becomes `row - q·pivot` on the columns `[s, e]` -/
theorem reduceReducedLoop_succ {R : Type} [HasExpr R] [Inhabited R] (generators : Bool) (dk : List Nat) (pivotE : Row)
    (pivotDim half : Int) (dim s e : Nat) (rle : Bool) (rk ri ki ki' : Nat) (rows : List R)
    (hki : ki' = if generators then skipDown dk ki else skipUp dk ki) :
    ∃ rows' : List R,
      (rows' = rows ∨ ((rle = true ∨ (rk = PARAMETER ∧ kind dk ki' = PARAMETER)) ∧
          ∃ q : Int, rows' = rows.set ri (HasExpr.setExpr (rowAt rows ri)
            (linearCombine (HasExpr.expr (rowAt rows ri)) pivotE 1 (-q) s (e + 1))))) ∧
      reduceReducedLoop generators dk pivotE pivotDim half dim s e rle rk (ri + 1) ki rows
        = reduceReducedLoop generators dk pivotE pivotDim half dim s e rle rk ri ki' rows' := by
  subst hki
  refine ⟨_, ?_, rfl⟩
  have aux : ∀ q : Int,
      (if q ≠ 0 then rows.set ri (HasExpr.setExpr (rowAt rows ri)
          (linearCombine (HasExpr.expr (rowAt rows ri)) pivotE 1 (-q) s (e + 1))) else rows) = rows ∨
      ∃ q' : Int, (if q ≠ 0 then rows.set ri (HasExpr.setExpr (rowAt rows ri)
          (linearCombine (HasExpr.expr (rowAt rows ri)) pivotE 1 (-q) s (e + 1))) else rows) =
        rows.set ri (HasExpr.setExpr (rowAt rows ri)
          (linearCombine (HasExpr.expr (rowAt rows ri)) pivotE 1 (-q') s (e + 1))) := fun q => by
    by_cases h : q ≠ 0
    · exact Or.inr ⟨q, if_pos h⟩
    · exact Or.inl (if_neg h)
  by_cases h1 : (rle || rk == PARAMETER &&
      kind dk (if generators then skipDown dk ki else skipUp dk ki) == PARAMETER) = true
  · rw [if_pos h1]
    exact (aux _).imp id fun h =>
      ⟨by simpa [Bool.or_eq_true, Bool.and_eq_true, beq_iff_eq] using h1, h⟩
  · rw [if_neg h1]; exact Or.inl rfl

/-! ### the reduced ratio of two entries -/

theorem red_cols (pc rc : Int) (hpc : pc ≠ 0) :
    ∃ P R : Int, pc / gcdI pc rc = P ∧ rc / gcdI pc rc = R ∧ P ≠ 0 ∧ P * rc - R * pc = 0 ∧
      pc = gcdI pc rc * P ∧ rc = gcdI pc rc * R ∧ gcdI pc rc ≠ 0 := by
  have hg : (Int.gcd pc rc : Int) ≠ 0 := by
    have := Int.gcd_pos_of_ne_zero_left rc hpc
    omega
  obtain ⟨P, hP⟩ := Int.gcd_dvd_left pc rc
  obtain ⟨R, hR⟩ := Int.gcd_dvd_right pc rc
  refine ⟨P, R, Int.ediv_eq_of_eq_mul_right hg hP, Int.ediv_eq_of_eq_mul_right hg hR, ?_, ?_, hP, hR, hg⟩
  · intro h; apply hpc; rw [hP, h, mul_zero]
  · calc P * rc - R * pc = P * ((Int.gcd pc rc : Int) * R) - R * ((Int.gcd pc rc : Int) * P) := by
          rw [← hR, ← hP]
      _ = 0 := by ring

/-- the multiplier `a / gcd(x, a)` that `Grid::conversion` passes to `multiply_grid` before dividing column `dim` by
    `source_dim = a` is positive and makes the entry `x` a multiple of `a`: the `exact_div_assign` that follows is exact -/
theorem exact_mul (x a : Int) (ha : 0 < a) :
    0 < a / gcdI x a ∧ (x * (a / gcdI x a)) / a * a = x * (a / gcdI x a) := by
  have hg : 0 < gcdI x a := by
    simp only [gcdI]; exact_mod_cast Int.gcd_pos_of_ne_zero_right x (by omega)
  obtain ⟨x', hx⟩ := Int.gcd_dvd_left x a
  obtain ⟨a', ha'⟩ := Int.gcd_dvd_right x a
  have hq : a / gcdI x a = a' := by
    simp only [gcdI]
    exact Int.ediv_eq_of_eq_mul_right (by simp only [gcdI] at hg; omega) ha'
  rw [hq]
  have ha'pos : 0 < a' := by
    simp only [gcdI] at hg
    by_contra hc
    have : a' ≤ 0 := by omega
    have := Int.mul_nonpos_of_nonneg_of_nonpos (Int.le_of_lt hg) this
    omega
  refine ⟨ha'pos, ?_⟩
  apply Int.ediv_mul_cancel
  refine ⟨x', ?_⟩
  have e1 : x * a' = ((Int.gcd x a : Int) * x') * a' := by rw [← hx]
  have e2 : a * x' = ((Int.gcd x a : Int) * a') * x' := by rw [← ha']
  rw [e1, e2]; ring

/-! ### `gcdext` -/

/-- every `s ≡ s1·sgn(g0) (mod |b|/g)` completes to a Bézout pair (`g0 = s1 a + t1 b` divides `a` and `b`) -/
theorem bezout_norm (a b s1 t1 : Int) (hd1 : (s1 * a + t1 * b) ∣ a) (hd2 : (s1 * a + t1 * b) ∣ b)
    (s k : Int) (hs : s = s1 * (s1 * a + t1 * b).sign - k * ((b.natAbs : Int) / (Int.gcd a b : Int))) :
    s * a + (((Int.gcd a b : Int) - s * a) / b) * b = (Int.gcd a b : Int) := by
  obtain ⟨g0, hg0⟩ : ∃ g0, g0 = s1 * a + t1 * b := ⟨_, rfl⟩
  rw [← hg0] at hd1 hd2 hs
  obtain ⟨g, hg⟩ : ∃ g : Int, g = (Int.gcd a b : Int) := ⟨_, rfl⟩
  rw [← hg] at hs ⊢
  have h1 : g0 ∣ g := by
    rw [hg, Int.gcd_eq_gcd_ab]
    exact Int.dvd_add (Dvd.dvd.mul_right hd1 _) (Dvd.dvd.mul_right hd2 _)
  have h2 : g ∣ g0 := by
    rw [hg, hg0]
    exact Int.dvd_add (Dvd.dvd.mul_left (Int.gcd_dvd_left a b) _) (Dvd.dvd.mul_left (Int.gcd_dvd_right a b) _)
  have hgnn : 0 ≤ g := by rw [hg]; exact Int.natCast_nonneg _
  have hsign : g0.sign * g0 = g := by
    rw [Int.sign_mul_self_eq_natAbs]
    have := Int.natAbs_dvd_natAbs.mpr h1
    have h3 := Int.natAbs_dvd_natAbs.mpr h2
    have e := Nat.dvd_antisymm this h3
    rw [e]; exact Int.natAbs_of_nonneg hgnn
  set m : Int := (b.natAbs : Int) / g with hm
  have hbm : (b.natAbs : Int) = m * g := by
    rw [hm]; exact (Int.ediv_mul_cancel (by
      rw [hg]; exact Int.natCast_dvd_natCast.mpr (Int.gcd_dvd_natAbs_right a b))).symm
  obtain ⟨a', ha'⟩ : g ∣ a := by rw [hg]; exact Int.gcd_dvd_left a b
  have e0 : (s1 * g0.sign) * a + (t1 * g0.sign) * b = g := by
    have : (s1 * g0.sign) * a + (t1 * g0.sign) * b = g0.sign * (s1 * a + t1 * b) := by ring
    rw [this, ← hg0, hsign]
  have hdiv : b ∣ g - s * a := by
    have e1 : g - s * a = (t1 * g0.sign) * b + k * a' * (m * g) := by
      rw [hs]; nth_rewrite 1 [← e0]; rw [ha']; ring
    rw [e1, ← hbm]
    exact Int.dvd_add (Dvd.intro_left _ rfl) (Dvd.dvd.mul_left (Int.dvd_natAbs.mpr (dvd_refl b)) _)
  rw [Int.ediv_mul_cancel hdiv]; ring

/-- the Bézout identity of the model of `mpz_gcdext` -/
theorem gcdext_spec (a b : Int) :
    (gcdext a b).1 = (Int.gcd a b : Int) ∧ (gcdext a b).2.1 * a + (gcdext a b).2.2 * b = (Int.gcd a b : Int) := by
  obtain ⟨hd1, hd2⟩ := xgcd_dvd a b
  refine ⟨rfl, ?_⟩
  have key : ∀ s : Int, (∃ k : Int, s = (xgcd a b).1 * ((xgcd a b).1 * a + (xgcd a b).2 * b).sign
        - k * ((b.natAbs : Int) / (Int.gcd a b : Int))) →
      s * a + (((Int.gcd a b : Int) - s * a) / b) * b = (Int.gcd a b : Int) := by
    rintro s ⟨k, hk⟩
    exact bezout_norm a b _ _ hd1 hd2 s k hk
  have ite_key : ∀ (P : Prop) [Decidable P] (x y : Int) (f : Int → Prop), f x → f y → f (if P then x else y) := by
    intro P _ x y f hx hy; split <;> assumption
  exact ite_key _ _ _ (fun s => s * a + (((Int.gcd a b : Int) - s * a) / b) * b = (Int.gcd a b : Int))
    (key _ ⟨(xgcd a b).1 * ((xgcd a b).1 * a + (xgcd a b).2 * b).sign / ((b.natAbs : Int) / (Int.gcd a b : Int)) + 1,
      by simp only [gcdI]; rw [Int.emod_def]; ring⟩)
    (key _ ⟨(xgcd a b).1 * ((xgcd a b).1 * a + (xgcd a b).2 * b).sign / ((b.natAbs : Int) / (Int.gcd a b : Int)),
      by simp only [gcdI]; rw [Int.emod_def]; ring⟩)

end PPLV.Lattice.Red

import PPLV.Lattice.ProofsCore

/-!
# K2: the deciders `memB`, `subsetB`, `equivB`, `satCgB` are sound and complete
-/
namespace PPLV.Lattice
open List

theorem isEmpty_false_iff (K : GridGens) : K.isEmpty = false ↔ ∃ x, Gen.sem K x := by
  cases K with
  | empty => simp [GridGens.isEmpty, Gen.sem]
  | gens g => simp only [GridGens.isEmpty, Gen.sem, true_iff]; exact ⟨_, Gens.Mem.pt⟩

theorem eqCg_sem (i : Nat) (r : Rat) (x : Pt) : Cg.sem { a := unit i, b := -r, f := 0 } x ↔ x i = r := by
  simp only [Cg.sem, dotF_unit, mul_zero]
  constructor
  · rintro ⟨_, h⟩; linarith
  · intro h; exact ⟨0, by rw [h]; ring⟩

theorem eqCgs_sem (n : Nat) (v : Vec) (x : Pt) :
    (∀ c ∈ eqCgs n v, c.sem x) ↔ ∀ i < n, x i = v.toFun i := by
  simp only [eqCgs, List.mem_map, List.mem_range, forall_exists_index, and_imp]
  constructor
  · intro h i hi
    have := h _ i hi rfl
    rwa [eqCg_sem] at this
  · rintro h c i hi rfl
    rw [eqCg_sem]; exact h i hi

theorem sem_supp (G : GridGens) (n : Nat) (hn : G.maxLen ≤ n) (x : Pt) (h : Gen.sem G x) : Supp n x := by
  cases G with
  | empty => exact absurd h (by simp [Gen.sem])
  | gens g => exact mem_supp g n hn x h

/-- `memB` decides membership -/
theorem memB_iff (G : GridGens) (v : Vec) : memB G v = true ↔ Gen.sem G v.toFun := by
  unfold memB
  rw [Bool.not_eq_true', isEmpty_false_iff]
  constructor
  · rintro ⟨x, hx⟩
    rw [intersectCons_sem, eqCgs_sem] at hx
    obtain ⟨h1, h2⟩ := hx
    have hs := sem_supp G (max v.length G.maxLen) (le_max_right _ _) x h1
    have : x = v.toFun := by
      funext i
      by_cases hi : i < max v.length G.maxLen
      · exact h2 i hi
      · rw [hs i (by omega), toFun_of_length_le v i (by omega)]
    rwa [this] at h1
  · intro h
    exact ⟨v.toFun, by rw [intersectCons_sem, eqCgs_sem]; exact ⟨h, fun _ _ => rfl⟩⟩

/-! ### a finitely generated subgroup of ℚⁿ has no divisible element; the line theorem -/

theorem dir_denominator (P : List Pt) (i : Nat) :
    ∃ D : Nat, 0 < D ∧ ∀ v, Abs.Dir P [] v → ∃ z : Int, (D : Rat) * v i = z := by
  have hq : ∀ q ∈ P, ∃ z : Int, (((P.map (fun q => (q i).den)).prod : Nat) : Rat) * q i = z := by
    intro q hq
    have hd : (q i).den ∣ (P.map (fun q => (q i).den)).prod :=
      List.dvd_prod (List.mem_map.mpr ⟨q, hq, rfl⟩)
    obtain ⟨e, he⟩ := hd
    refine ⟨e * (q i).num, ?_⟩
    rw [he]; push_cast
    rw [num_eq (q i)]; ring
  refine ⟨(P.map (fun q => (q i).den)).prod, ?_, ?_⟩
  · apply Nat.pos_of_ne_zero
    intro h0
    rw [List.prod_eq_zero_iff] at h0
    obtain ⟨q, _, hq0⟩ := List.mem_map.mp h0
    exact (q i).den_ne_zero hq0
  · intro v hv
    induction hv with
    | zero => exact ⟨0, by simp⟩
    | @param w q k hq' _ ih =>
      obtain ⟨z, hz⟩ := ih
      obtain ⟨y, hy⟩ := hq q hq'
      refine ⟨z + k * y, ?_⟩
      simp only [Pi.add_apply, Pi.smul_apply, smul_eq_mul]
      have e : ((z + k * y : Int) : Rat) = z + k * y := by push_cast; ring
      rw [e, ← hz, ← hy]; ring
    | line c hl _ _ => simp at hl

theorem no_divisible (P : List Pt) (l : Pt) (h : ∀ c : Rat, Abs.Dir P [] (c • l)) : l = 0 := by
  funext i
  by_contra hne
  have hne : l i ≠ 0 := hne
  obtain ⟨D, hD, hDz⟩ := dir_denominator P i
  obtain ⟨z, hz⟩ := hDz _ (h (1 / (2 * D * l i)))
  have hDq : (D : Rat) ≠ 0 := by exact_mod_cast (Nat.pos_iff_ne_zero.mp hD)
  simp only [Pi.smul_apply, smul_eq_mul] at hz
  have : (2 : Rat) * z = 1 := by
    rw [← hz]; field_simp
  have h2 : (2 : Int) * z = 1 := by exact_mod_cast this
  omega

theorem dir_lines_smul (L : List Pt) (c : Rat) {v : Pt} (h : Abs.Dir [] L v) : Abs.Dir [] L (c • v) := by
  induction h with
  | zero => simpa using Abs.Dir.zero
  | param k hq _ _ => simp at hq
  | @line w l d hl _ ih =>
    have : c • (w + d • l) = c • w + (c * d) • l := by module
    rw [this]; exact Abs.Dir.line _ hl ih

/-- if a whole rational line of directions lies in the lattice, it lies in the span of the lines -/
theorem line_theorem (n : Nat) : ∀ (L P : List Pt) (l : Pt), L.length = n →
    (∀ c : Rat, Abs.Dir P L (c • l)) → Abs.Dir [] L l := by
  induction n with
  | zero =>
    intro L P l hL h
    have : L = [] := List.length_eq_zero_iff.mp hL
    subst this
    rw [no_divisible P l h]; exact Abs.Dir.zero
  | succ n ih =>
    intro L P l hL h
    match L, hL with
    | l0 :: L', hL =>
      have hL' : L'.length = n := by simpa using hL
      by_cases h0 : l0 = 0
      · have h' : ∀ c : Rat, Abs.Dir P L' (c • l) := fun c =>
          Abs.Dir.mono_subset0 (fun q hq => Or.inr hq)
            (fun z hz => by rcases List.mem_cons.mp hz with rfl | hz; exact Or.inl h0; exact Or.inr hz) (h c)
        exact Abs.Dir.mono_subset (fun _ h => h) (fun z hz => List.mem_cons_of_mem _ hz) (ih L' P l hL' h')
      · -- a coordinate where l0 does not vanish
        have : ∃ i, l0 i ≠ 0 := by
          by_contra hcon
          simp only [not_exists, not_not] at hcon
          exact h0 (funext hcon)
        obtain ⟨i, hi⟩ := this
        have hβ : alphaOf (unit i) l0 ≠ 0 := by simpa [dotF_unit] using hi
        -- the projection along l0
        set π : Pt → Pt := Abs.projLin (alphaOf (unit i)) l0 with hπ
        have π_add : ∀ x y, π (x + y) = π x + π y := by
          intro x y; simp only [hπ, Abs.projLin, map_add, add_div]; module
        have π_smul : ∀ (c : Rat) x, π (c • x) = c • π x := by
          intro c x; simp only [hπ, Abs.projLin, map_smul, smul_eq_mul, mul_div_assoc]; module
        have π_l0 : π l0 = 0 := by
          simp only [hπ, Abs.projLin, div_self hβ]; module
        have hproj : ∀ w, Abs.Dir P (l0 :: L') w → Abs.Dir (P.map π) (L'.map π) (π w) := by
          intro w hw
          induction hw with
          | zero =>
            have : π 0 = 0 := by have := π_smul 0 0; simpa using this
            rw [this]; exact Abs.Dir.zero
          | @param w q k hq _ ihw =>
            rw [π_add, π_smul]; exact Abs.Dir.param k (List.mem_map_of_mem hq) ihw
          | @line w z c hz _ ihw =>
            rw [π_add, π_smul]
            rcases List.mem_cons.mp hz with rfl | hz
            · rw [π_l0]; simpa using ihw
            · exact Abs.Dir.line c (List.mem_map_of_mem hz) ihw
        have h' : ∀ c : Rat, Abs.Dir (P.map π) (L'.map π) (c • π l) := by
          intro c; rw [← π_smul]; exact hproj _ (h c)
        have h2 := ih (L'.map π) (P.map π) (π l) (by simpa using hL') h'
        -- un-project
        have h3 : Abs.Dir [] (l0 :: L') (π l) := by
          refine Abs.Dir.mono (by simp) ?_ h2
          intro z hz c
          obtain ⟨w, hw, rfl⟩ := List.mem_map.mp hz
          have : c • π w = (0 + c • w) + (-(c * (alphaOf (unit i) w / alphaOf (unit i) l0))) • l0 := by
            simp only [hπ, Abs.projLin]; module
          rw [this]
          exact Abs.Dir.line _ (by simp) (Abs.Dir.line c (List.mem_cons_of_mem _ hw) Abs.Dir.zero)
        have : l = π l + (alphaOf (unit i) l / alphaOf (unit i) l0) • l0 := by
          simp only [hπ, Abs.projLin]; module
        rw [this]
        exact Abs.Dir.line _ (by simp) h3

/-! ### inclusion and equivalence -/

theorem inSpanB_iff (ls : List Vec) (l : Vec) : inSpanB ls l = true ↔ GDir [] ls l.toFun := by
  unfold inSpanB
  rw [memB_iff]
  simp only [Gen.sem]
  rw [mem_iff_gdir]
  simp

theorem gens_affine (h : Gens) {x y z : Pt} (k : Int) (hx : h.Mem x) (hy : h.Mem y) (hz : h.Mem z) :
    h.Mem (x + (k : Rat) • (y - z)) := by
  rw [mem_iff_abs] at *
  exact Abs.mem_affine _ k hx hy hz

/-- `subsetB` decides inclusion of the point sets -/
theorem subsetB_iff (G H : GridGens) : subsetB G H = true ↔ ∀ x, Gen.sem G x → Gen.sem H x := by
  cases G with
  | empty => simp [subsetB, Gen.sem]
  | gens g =>
    cases H with
    | empty =>
      simp only [subsetB, Gen.sem, false_iff, Bool.false_eq_true]
      intro h; exact h _ Gens.Mem.pt
    | gens h =>
      simp only [subsetB, Bool.and_eq_true, List.all_eq_true, memB_iff, inSpanB_iff, Gen.sem]
      constructor
      · rintro ⟨⟨h1, h2⟩, h3⟩ x hx
        induction hx with
        | pt => exact h1
        | @param y q k hq _ ih =>
          have := gens_affine h k ih (h2 q hq) h1
          rw [toFun_vadd] at this
          rw [axpy_eq]
          have e : y + (k:Rat) • q.toFun = y + (k:Rat) • (g.pt.toFun + q.toFun - g.pt.toFun) := by module
          rw [e]; exact this
        | @line y l c hl _ ih =>
          rw [axpy_eq, mem_iff_gdir] at *
          have hl' := dir_lines_smul _ c (h3 l hl)
          have : y + c • l.toFun - h.pt.toFun = (y - h.pt.toFun) + c • l.toFun := by module
          rw [this]
          exact Abs.Dir.add ih (Abs.Dir.mono_subset (by simp) (fun _ h => h) hl')
      · intro hsub
        refine ⟨⟨hsub _ Gens.Mem.pt, ?_⟩, ?_⟩
        · intro q hq
          have := Gens.Mem.param (g := g) 1 hq Gens.Mem.pt
          rw [axpy_eq] at this
          have := hsub _ this
          rw [toFun_vadd]; simpa using this
        · intro l hl
          have hpt := hsub _ Gens.Mem.pt
          rw [mem_iff_gdir] at hpt
          have hc : ∀ c : Rat, Abs.Dir (h.params.map Vec.toFun) (h.lines.map Vec.toFun) (c • l.toFun) := by
            intro c
            have := Gens.Mem.line (g := g) c hl Gens.Mem.pt
            rw [axpy_eq] at this
            have := hsub _ this
            rw [mem_iff_gdir] at this
            have e : c • l.toFun = (g.pt.toFun + c • l.toFun - h.pt.toFun) - (g.pt.toFun - h.pt.toFun) := by module
            rw [e]; exact Abs.Dir.sub this hpt
          exact line_theorem _ _ _ _ rfl hc

theorem equivB_iff (G H : GridGens) : equivB G H = true ↔ ∀ x, Gen.sem G x ↔ Gen.sem H x := by
  simp only [equivB, Bool.and_eq_true, subsetB_iff]
  constructor
  · rintro ⟨h1, h2⟩ x; exact ⟨h1 x, h2 x⟩
  · intro h; exact ⟨fun x => (h x).mp, fun x => (h x).mpr⟩

/-- `satCgB` decides whether every point of the grid satisfies the congruence -/
theorem satCgB_iff (G : GridGens) (c : Cg) : satCgB G c = true ↔ ∀ x, Gen.sem G x → c.sem x := by
  cases G with
  | empty => simp [satCgB, Gen.sem]
  | gens g =>
    simp only [satCgB, Bool.and_eq_true, List.all_eq_true, inModZ_iff, beq_iff_eq, Gen.sem]
    constructor
    · rintro ⟨⟨⟨t0, h0⟩, h2⟩, h3⟩ x hx
      induction hx with
      | pt => exact ⟨t0, by rw [← dot_eq_dotF]; exact h0⟩
      | @param y q k hq _ ih =>
        obtain ⟨t, ht⟩ := ih
        obtain ⟨s, hs⟩ := h2 q hq
        refine ⟨t + k * s, ?_⟩
        rw [axpy_eq, dotF_add, dotF_smul, ← dot_eq_dotF, hs]
        push_cast; linarith
      | @line y l d hl _ ih =>
        obtain ⟨t, ht⟩ := ih
        refine ⟨t, ?_⟩
        rw [axpy_eq, dotF_add, dotF_smul, ← dot_eq_dotF, h3 l hl]
        linarith
    · intro hall
      obtain ⟨t0, h0⟩ := hall _ Gens.Mem.pt
      rw [← dot_eq_dotF] at h0
      refine ⟨⟨⟨t0, h0⟩, ?_⟩, ?_⟩
      · intro q hq
        have := Gens.Mem.param (g := g) 1 hq Gens.Mem.pt
        obtain ⟨t, ht⟩ := hall _ this
        rw [axpy_eq, dotF_add, dotF_smul, ← dot_eq_dotF, ← dot_eq_dotF] at ht
        refine ⟨t - t0, ?_⟩
        push_cast; push_cast at ht; linarith
      · intro l hl
        by_contra hβ
        have hline : ∀ d : Rat, ∃ t : Int, dot c.a g.pt + d * dot c.a l + c.b = (t : Rat) * c.f := by
          intro d
          have := Gens.Mem.line (g := g) d hl Gens.Mem.pt
          obtain ⟨t, ht⟩ := hall _ this
          rw [axpy_eq, dotF_add, dotF_smul, ← dot_eq_dotF, ← dot_eq_dotF] at ht
          exact ⟨t, ht⟩
        by_cases hf : c.f = 0
        · obtain ⟨t1, h1⟩ := hline 1
          rw [hf] at h0 h1
          apply hβ; linarith
        · obtain ⟨t1, h1⟩ := hline (c.f / (2 * dot c.a l))
          have e : c.f / (2 * dot c.a l) * dot c.a l = c.f / 2 := by field_simp
          rw [e] at h1
          have : (2 : Rat) * (t1 - t0) * c.f = 1 * c.f := by linarith
          have h2 : (2 : Rat) * (t1 - t0) = 1 := mul_right_cancel₀ hf this
          have h3 : (2 : Int) * (t1 - t0) = 1 := by exact_mod_cast h2
          omega

end PPLV.Lattice

import PPLV.Lattice.ProofsGridOpsUnconstrain
import PPLV.Lattice.ProofsDims
import PPLV.Lattice.ProofsGridOpsConcatenate
import PPLV.Lattice.ProofsGridOpsLazy

/-!
# The `Grid` object: `remove_space_dimensions`

The columns are erased from the generators: the image under the coordinate selection.
-/
namespace PPLV.Lattice.GO
open PPLV.Lattice PPLV.Lattice.Red

/-! ## A row-wise map of a generator system that acts on the vectors as a linear map yields the image of the grid; `Grid_Generator_System::remove_space_dimensions(vars)` erases columns = the coordinate selection `coordMap (fun j => keep[j]?)` (K2's `selectCoords keep`) -/

/-! ### images -/

/-- a row-wise map of a generator system that acts on the vectors of points and parameters as the linear map `π`, and on
    the vector of a line as `π` up to a non-zero factor, yields the image of the grid -/
theorem cn_gn_set_image (rows : List GRow) (f : GRow → GRow) (π : Pt →ₗ[ℚ] Pt)
    (hpt : ∀ r ∈ rows, gn_isPt (f r) = gn_isPt r) (hpar : ∀ r ∈ rows, gn_isPar (f r) = gn_isPar r)
    (hline : ∀ r ∈ rows, (f r).line = r.line)
    (hv : ∀ r ∈ rows, r.line = false → gn_vecOf (f r) = π (gn_vecOf r))
    (hvl : ∀ r ∈ rows, r.line = true → ∃ s : ℚ, s ≠ 0 ∧ gn_vecOf (f r) = s • π (gn_vecOf r)) :
    gn_set (rows.map f) = π '' gn_set rows := by
  have hvp : ∀ r ∈ rows, gn_isPt r = true → gn_vecOf (f r) = π (gn_vecOf r) :=
    fun r hr p => hv r hr ((gn_isPt_iff r).mp p).1
  have fwd : ∀ w, gn_Dir (rows.map f) w → ∃ v, gn_Dir rows v ∧ w = π v := by
    intro w hw
    refine gn_dir_le (S := fun w => ∃ v, gn_Dir rows v ∧ w = π v) ⟨0, gn_dir_zero _, by simp⟩ ?_ ?_ ?_ ?_ ?_ hw
    · rintro _ _ ⟨v1, h1, rfl⟩ ⟨v2, h2, rfl⟩; exact ⟨v1 + v2, gn_dir_add h1 h2, by simp⟩
    · rintro k _ ⟨v, h, rfl⟩; exact ⟨(k : ℚ) • v, gn_dir_zsmul k h, by simp⟩
    · intro r1' h1 p1 r2' h2 p2
      obtain ⟨r1, m1, rfl⟩ := List.mem_map.mp h1
      obtain ⟨r2, m2, rfl⟩ := List.mem_map.mp h2
      rw [hpt r1 m1] at p1; rw [hpt r2 m2] at p2
      exact ⟨_, gn_dir_ptdiff m1 p1 m2 p2, by rw [hvp r1 m1 p1, hvp r2 m2 p2]; simp⟩
    · intro r' h p
      obtain ⟨r, m, rfl⟩ := List.mem_map.mp h
      rw [hpar r m] at p
      exact ⟨_, gn_dir_par m p, hv r m ((gn_isPar_iff r).mp p).1⟩
    · intro r' h p c
      obtain ⟨r, m, rfl⟩ := List.mem_map.mp h
      rw [hline r m] at p
      obtain ⟨s, _, hs⟩ := hvl r m p
      exact ⟨_, gn_dir_line m p (c * s), by rw [hs, map_smul, smul_smul]⟩
  have bwd : ∀ v, gn_Dir rows v → gn_Dir (rows.map f) (π v) := by
    intro v hv'
    refine gn_dir_le (S := fun v => gn_Dir (rows.map f) (π v)) (by simpa using gn_dir_zero _) ?_ ?_ ?_ ?_ ?_ hv'
    · intro v w h1 h2; simpa using gn_dir_add h1 h2
    · intro k v h; simpa using gn_dir_zsmul k h
    · intro r1 m1 p1 r2 m2 p2
      have := gn_dir_ptdiff (List.mem_map_of_mem m1) (by rw [hpt r1 m1]; exact p1) (List.mem_map_of_mem m2)
        (by rw [hpt r2 m2]; exact p2) (rows := rows.map f) (r1 := f r1) (r2 := f r2)
      rw [hvp r1 m1 p1, hvp r2 m2 p2] at this; simpa using this
    · intro r m p
      have := gn_dir_par (List.mem_map_of_mem m) (by rw [hpar r m]; exact p) (rows := rows.map f) (r := f r)
      rwa [hv r m ((gn_isPar_iff r).mp p).1] at this
    · intro r m p c
      obtain ⟨s, hs0, hs⟩ := hvl r m p
      have := gn_dir_line (List.mem_map_of_mem m) (by rw [hline r m]; exact p) (c / s) (rows := rows.map f) (r := f r)
      rw [hs, smul_smul, div_mul_cancel₀ c hs0] at this
      simpa using this
  ext y
  simp only [gn_set, Set.mem_image, Set.mem_ofPred_eq]
  constructor
  · rintro ⟨r', h, p, d⟩
    obtain ⟨r, m, rfl⟩ := List.mem_map.mp h
    rw [hpt r m] at p
    obtain ⟨v, dv, e⟩ := fwd _ d
    refine ⟨gn_vecOf r + v, gn_mem_add_dir (gn_mem_pt m p) dv, ?_⟩
    rw [map_add, ← hvp r m p, ← e]; module
  · rintro ⟨x, ⟨r, m, p, d⟩, rfl⟩
    refine ⟨f r, List.mem_map_of_mem m, by rw [hpt r m]; exact p, ?_⟩
    have := bwd _ d
    rwa [map_sub, ← hvp r m p] at this

/-! ### the kept coordinates -/

/-- the coordinates that survive `remove_space_dimensions(vars)`, in order -/
def cn_keep (n : Nat) (vars : List Nat) : List Nat := (List.range n).filter fun k => !vars.contains k

/-- the coordinate selection (K2's `selectCoords (cn_keep n vars)`) -/
noncomputable def cn_sel (n : Nat) (vars : List Nat) : Pt →ₗ[ℚ] Pt := coordMap (fun j => (cn_keep n vars)[j]?)

theorem cn_keep_lt (n : Nat) (vars : List Nat) (k : Nat) (h : k ∈ cn_keep n vars) : k < n := by
  unfold cn_keep at h; exact List.mem_range.mp (List.mem_of_mem_filter h)

theorem cn_keep_length (n : Nat) (vars : List Nat) (hnd : vars.Nodup) (hlt : ∀ v ∈ vars, v < n) :
    (cn_keep n vars).length = n - vars.length := by
  have h1 := List.length_eq_length_filter_add (l := List.range n) (fun k => vars.contains k)
  have h2 : ((List.range n).filter fun k => vars.contains k).length = vars.length := by
    apply List.Perm.length_eq
    rw [List.perm_ext_iff_of_nodup (List.Nodup.filter _ List.nodup_range) hnd]
    intro a
    simp only [List.mem_filter, List.mem_range, List.contains_iff_mem]
    exact ⟨fun h => h.2, fun h => ⟨hlt a h, h⟩⟩
  rw [List.length_range, h2] at h1
  unfold cn_keep
  omega

theorem cn_keep_nil (n : Nat) : cn_keep n [] = List.range n := by
  unfold cn_keep; simp

theorem cn_sel_nil (n : Nat) (x : Pt) (hx : Supp n x) : cn_sel n [] x = x := by
  funext j
  unfold cn_sel
  rw [coordMap_apply, cn_keep_nil]
  by_cases hj : j < n
  · simp [hj]
  · simp [hj, hx j (by omega)]

theorem cn_sel_supp (n : Nat) (vars : List Nat) (x : Pt) : Supp (cn_keep n vars).length (cn_sel n vars x) := by
  intro j hj
  unfold cn_sel
  rw [coordMap_apply, List.getElem?_eq_none hj]

/-! ### `Grid_Generator_System::remove_space_dimensions` on one row -/

/-- the row with the columns of `vars` erased -/
def cn_rmRow (vars : List Nat) (g : GRow) : GRow :=
  { g with e := ((List.range g.e.length).filter fun i => !(i ≥ 1 ∧ vars.contains (i - 1))).map (Red.get g.e) }

theorem cn_GSys_remove_eq (s : GSys) (vars : List Nat) :
    s.removeSpaceDimensions vars = { dim := s.dim - vars.length, rows := s.rows.map (cn_rmRow vars) } := rfl

theorem cn_rmRow_e (vars : List Nat) (g : GRow) (n : Nat) (hlen : g.e.length = n + 2) (hlt : ∀ v ∈ vars, v < n) :
    (cn_rmRow vars g).e = Red.get g.e 0 :: ((cn_keep n vars).map (fun k => Red.get g.e (k + 1)) ++ [Red.get g.e (n + 1)]) := by
  unfold cn_rmRow cn_keep
  simp only [hlen]
  have hn : n ∉ vars := fun h => absurd (hlt n h) (by omega)
  rw [show n + 2 = (n + 1) + 1 by omega, List.range_succ_eq_map, List.filter_cons_of_pos (by simp), List.map_cons,
    List.filter_map, List.map_map, List.range_succ, List.filter_append, List.map_append]
  congr 1
  congr 1
  · rw [List.map_filter_eq_foldr, List.map_filter_eq_foldr]
    congr 1
    funext k acc
    simp [Function.comp]
  · simp [Function.comp, hn]

theorem cn_rmRow_length (vars : List Nat) (g : GRow) (n : Nat) (hlen : g.e.length = n + 2) (hlt : ∀ v ∈ vars, v < n) :
    (cn_rmRow vars g).e.length = (cn_keep n vars).length + 2 := by
  rw [cn_rmRow_e vars g n hlen hlt]; simp

theorem cn_rmRow_get0 (vars : List Nat) (g : GRow) (n : Nat) (hlen : g.e.length = n + 2) (hlt : ∀ v ∈ vars, v < n) :
    Red.get (cn_rmRow vars g).e 0 = Red.get g.e 0 := by
  rw [cn_rmRow_e vars g n hlen hlt]; rfl

theorem cn_rmRow_getMid (vars : List Nat) (g : GRow) (n : Nat) (hlen : g.e.length = n + 2) (hlt : ∀ v ∈ vars, v < n)
    (j : Nat) (hj : j < (cn_keep n vars).length) :
    Red.get (cn_rmRow vars g).e (j + 1) = Red.get g.e ((cn_keep n vars)[j] + 1) := by
  rw [cn_rmRow_e vars g n hlen hlt, get_cons_succ]
  unfold Red.get
  rw [List.getD_eq_getElem?_getD, List.getElem?_append_left (by simpa using hj), List.getElem?_map,
    List.getElem?_eq_getElem hj]
  rfl

theorem cn_rmRow_getLast (vars : List Nat) (g : GRow) (n : Nat) (hlen : g.e.length = n + 2) (hlt : ∀ v ∈ vars, v < n) :
    Red.get (cn_rmRow vars g).e ((cn_keep n vars).length + 1) = Red.get g.e (n + 1) := by
  rw [cn_rmRow_e vars g n hlen hlt, get_cons_succ]
  unfold Red.get
  rw [List.getD_eq_getElem?_getD, List.getElem?_append_right (by simp)]
  simp

theorem cn_rmRow_divisor (vars : List Nat) (g : GRow) (n : Nat) (hlen : g.e.length = n + 2) (hlt : ∀ v ∈ vars, v < n) :
    (cn_rmRow vars g).divisor = g.divisor := by
  have hl' := cn_rmRow_length vars g n hlen hlt
  have h0 := cn_rmRow_get0 vars g n hlen hlt
  by_cases hz : Red.get g.e 0 = 0
  · rw [divisor_param _ _ hl' (by rw [h0]; exact hz), divisor_param n g hlen hz, cn_rmRow_getLast vars g n hlen hlt]
  · rw [divisor_point _ (by rw [h0]; exact hz), divisor_point g hz, h0]

/-- on the vectors, erasing the columns is the coordinate selection -/
theorem cn_rmRow_vecOf (vars : List Nat) (g : GRow) (n : Nat) (hlen : g.e.length = n + 2) (hlt : ∀ v ∈ vars, v < n) :
    gn_vecOf (cn_rmRow vars g) = cn_sel n vars (gn_vecOf g) := by
  have hl' := cn_rmRow_length vars g n hlen hlt
  funext j
  unfold cn_sel
  rw [coordMap_apply]
  unfold gn_vecOf
  rw [gn_spaceDim_of_len hl', gn_spaceDim_of_len hlen, cn_rmRow_divisor vars g n hlen hlt]
  have hline : (cn_rmRow vars g).line = g.line := rfl
  rw [hline]
  by_cases hj : j < (cn_keep n vars).length
  · rw [if_pos hj, List.getElem?_eq_getElem hj]
    simp only
    rw [if_pos (cn_keep_lt n vars _ (List.getElem_mem hj)), cn_rmRow_getMid vars g n hlen hlt j hj]
  · rw [if_neg hj, List.getElem?_eq_none (by omega)]

/-- the system after `remove_space_dimensions(vars)`: shape, normalised divisors, the selected grid -/
theorem cn_rm_rows (n : Nat) (D : Int) (rows : List GRow) (vars : List Nat) (hw : GWf n rows) (hN : GNorm n D rows)
    (hlt : ∀ v ∈ vars, v < n) :
    GWf (cn_keep n vars).length (rows.map (cn_rmRow vars)) ∧ GNorm (cn_keep n vars).length D (rows.map (cn_rmRow vars)) ∧
    gn_set (rows.map (cn_rmRow vars)) = cn_sel n vars '' gn_set rows := by
  have h0 : ∀ r ∈ rows, Red.get (cn_rmRow vars r).e 0 = Red.get r.e 0 := fun r hr => cn_rmRow_get0 vars r n (hw r hr) hlt
  refine ⟨?_, ?_, ?_⟩
  · intro r' hr'
    obtain ⟨r, hr, rfl⟩ := List.mem_map.mp hr'
    exact cn_rmRow_length vars r n (hw r hr) hlt
  · refine ⟨hN.pos, ?_, ?_, ?_, ?_⟩
    · obtain ⟨r, hr, hl, h⟩ := hN.pt
      exact ⟨_, List.mem_map_of_mem hr, hl, by rw [h0 r hr]; exact h⟩
    · intro r' hr' hl
      obtain ⟨r, hr, rfl⟩ := List.mem_map.mp hr'
      rw [h0 r hr]; exact hN.col0 r hr hl
    · intro r' hr' hl hz
      obtain ⟨r, hr, rfl⟩ := List.mem_map.mp hr'
      rw [h0 r hr] at hz
      rw [cn_rmRow_getLast vars r n (hw r hr) hlt]; exact hN.par r hr hl hz
    · intro r' hr' hl
      obtain ⟨r, hr, rfl⟩ := List.mem_map.mp hr'
      rw [h0 r hr]; exact hN.lin r hr hl
  · refine cn_gn_set_image rows (cn_rmRow vars) (cn_sel n vars) ?_ ?_ (fun _ _ => rfl)
      (fun r hr _ => cn_rmRow_vecOf vars r n (hw r hr) hlt)
      (fun r hr _ => ⟨1, one_ne_zero, by rw [one_smul]; exact cn_rmRow_vecOf vars r n (hw r hr) hlt⟩)
    · intro r hr
      have hl : (cn_rmRow vars r).line = r.line := rfl
      unfold gn_isPt; rw [h0 r hr, hl]
    · intro r hr
      have hl : (cn_rmRow vars r).line = r.line := rfl
      unfold gn_isPar; rw [h0 r hr, hl]

example : (GSys.mk 3 [⟨false, [2, 1, 3, 5, 0]⟩, ⟨true, [0, 0, 1, 0, 0]⟩]).removeSpaceDimensions [1] =
    GSys.mk 2 [⟨false, [2, 1, 5, 0]⟩, ⟨true, [0, 0, 0, 0]⟩] ∧ cn_keep 3 [1] = [0, 2] := by decide

/-! ## `remove_space_dimensions(vars)` (Grid_chdims.cc:273) — the image of the grid under the coordinate selection `cn_sel n vars` (K2: `mapG (selectCoords (cn_keep n vars)) [] G`), in every case: no variable, empty grid (marked or found empty by `update_generators`), every dimension removed, the general case -/

theorem cn_sel_image_zero (n : Nat) (vars : List Nat) (S : Set Pt) (hS : S.Nonempty) (hk : (cn_keep n vars).length = 0) :
    cn_sel n vars '' S = spaceSet 0 := by
  ext y
  simp only [Set.mem_image, spaceSet, Set.mem_ofPred_eq]
  constructor
  · rintro ⟨x, _, rfl⟩
    have := cn_sel_supp n vars x
    rwa [hk] at this
  · intro hy
    obtain ⟨x, hx⟩ := hS
    refine ⟨x, hx, ?_⟩
    funext j
    have := cn_sel_supp n vars x j (by omega)
    rw [this, hy j (Nat.zero_le _)]

/-- the general case: the receiver after the columns have been erased -/
def cn_rmBody (g1 : Grid) (vars : List Nat) (newDim : Nat) : Grid :=
  { ((g1.withGs (g1.gs.removeSpaceDimensions vars)).clearCongruencesUpToDate).clearGeneratorsMinimized with spaceDim := newDim }

unseal gn_ens in
theorem cn_removeSpaceDimensions_eq (g : Grid) (vars : List Nat) (hne : vars.isEmpty = false)
    (hlt : ∀ v ∈ vars, v < g.spaceDim) :
    removeSpaceDimensions g vars =
      if (gn_ens g).2 = false then { g := setEmpty { (gn_ens g).1 with spaceDim := g.spaceDim - vars.length } }
      else if g.spaceDim - vars.length = 0 then { g := setZeroDimUniv (gn_ens g).1 }
      else { g := cn_rmBody (gn_ens g).1 vars (g.spaceDim - vars.length) } := by
  have hmax := gn_foldl_max_le vars 0 (Nat.zero_le _) hlt
  unfold removeSpaceDimensions
  rw [if_neg (by rw [hne]; simp), if_neg (by omega)]
  show (if (!(gn_ens g).2) = true then _ else _) = _
  cases (gn_ens g).2 <;> rfl

/-- Grid_chdims.cc:273 `remove_space_dimensions(vars)` for strictly increasing `vars` below the dimension: never throws;
    the result is the image of the grid under the selection of the kept coordinates, in the space of dimension
    `space_dim - |vars|` -/
theorem cn_removeSpaceDimensions (g : Grid) (vars : List Nat) (hI : GridInv g) (hinc : vars.Pairwise (· < ·))
    (hlt : ∀ v ∈ vars, v < g.spaceDim) :
    (removeSpaceDimensions g vars).thrown = false ∧ GridInv (removeSpaceDimensions g vars).g ∧
      (removeSpaceDimensions g vars).g.spaceDim = g.spaceDim - vars.length ∧
      (removeSpaceDimensions g vars).g.sem = cn_sel g.spaceDim vars '' g.sem := by
  have hnd : vars.Nodup := hinc.imp (fun h => Nat.ne_of_lt h)
  have hklen := cn_keep_length g.spaceDim vars hnd hlt
  cases hv : vars with
  | nil =>
    have : removeSpaceDimensions g [] = { g := g } := by unfold removeSpaceDimensions; rfl
    rw [this]
    refine ⟨rfl, hI, rfl, ?_⟩
    ext y
    simp only [Set.mem_image]
    constructor
    · intro hy; exact ⟨y, hy, cn_sel_nil _ y (cn_sem_subset_space g hI hy)⟩
    · rintro ⟨x, hx, rfl⟩; rwa [cn_sel_nil _ x (cn_sem_subset_space g hI hx)]
  | cons v0 vs =>
    rw [← hv]
    have hne : vars.isEmpty = false := by rw [hv]; rfl
    have hpos : 0 < g.spaceDim := by have := hlt v0 (by rw [hv]; simp); omega
    rw [cn_removeSpaceDimensions_eq g vars hne hlt]
    by_cases h2 : (gn_ens g).2 = false
    · rw [if_pos h2]
      obtain ⟨_, _, _, _, hge⟩ := gn_ens_false g hI hpos h2
      exact ⟨rfl, setEmpty_inv _, rfl, by rw [setEmpty_sem, hge, Set.image_empty]⟩
    · rw [if_neg h2]
      have h2t : (gn_ens g).2 = true := by simpa using h2
      obtain ⟨e0, e1, e2, e3, e4, e5, e6, e7, e8⟩ := gn_ens_true g hI hpos h2t
      have hnonempty : g.sem.Nonempty := ((gn_ens_spec g hI hpos).2.2.2.1).mp h2t
      by_cases hz : g.spaceDim - vars.length = 0
      · rw [if_pos hz]
        obtain ⟨a, b, c⟩ := setZeroDimUniv_spec (gn_ens g).1
        exact ⟨rfl, a, by rw [c, hz], by rw [b, cn_sel_image_zero _ _ _ hnonempty (by rw [hklen]; exact hz)]⟩
      · rw [if_neg hz]
        obtain ⟨r1, r2, r3⟩ := cn_rm_rows g.spaceDim _ (gn_ens g).1.gen vars e6 e7 hlt
        rw [hklen] at r1 r2
        have hgd : (cn_rmBody (gn_ens g).1 vars (g.spaceDim - vars.length)).genDim = g.spaceDim - vars.length := by
          show (gn_ens g).1.genDim - vars.length = _; rw [e5]
        have := gn_inv_gens (g := cn_rmBody (gn_ens g).1 vars (g.spaceDim - vars.length)) (by show 0 < g.spaceDim - vars.length; omega)
          e2 rfl e3 rfl rfl e4 hgd r1 r2
        refine ⟨rfl, this.1, rfl, ?_⟩
        rw [this.2]
        show gn_set ((gn_ens g).1.gen.map (cn_rmRow vars)) = _
        rw [r3, e8]

example : (removeSpaceDimensions cn_exGrid [0]).g.spaceDim = 0 ∧ (removeSpaceDimensions cn_exGrid [0]).thrown = false := by
  decide +kernel

end PPLV.Lattice.GO

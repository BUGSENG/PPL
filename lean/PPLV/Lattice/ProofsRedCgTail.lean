import PPLV.Lattice.ProofsRedCgDim

/-!
# `Grid::simplify(Congruence_System&)`: the end of the function (Grid_simplify.cc:579-608)

The last row becomes the integrality congruence `m ≡ 0 (mod m)` (appended, or the inhomogeneous
term of the row of column 0 is replaced), then `reduce_reduced` is run for column 0.
-/
namespace PPLV.Lattice.Red

/-- the result: all rows are pivot rows (`Inv` with every row and every dimension processed), the last one is
    the integrality congruence and `dim_kinds[0] = PROPER_CONGRUENCE` -/
def Final (n : Nat) (rows : List CRow) (dk : List Nat) : Prop :=
  ∃ (p : Nat → Nat) (mm : Int), Inv n rows dk p rows.length 0 ∧ 0 < mm ∧
    rowAt rows (rows.length - 1) = integralityRow n mm ∧ kind dk 0 = PROPER_CONGRUENCE

/-! ### small facts -/

theorem get_integralityRow (n : Nat) (mm : Int) (j : Nat) :
    get (integralityRow n mm).e j = if j = 0 then mm else 0 := by
  unfold integralityRow
  cases j with
  | zero => simp [get_cons_zero]
  | succ j => simp only [get_cons_succ, get_replicate_zero]; simp

theorem length_integralityRow (n : Nat) (mm : Int) : (integralityRow n mm).e.length = n + 1 := by
  simp [integralityRow]

theorem rsem_integralityRow (n : Nat) (mm : Int) (x : Pt) : rsem (integralityRow n mm) x := by
  refine ⟨1, ?_⟩
  rw [evalRow_const _ x (fun i hi => by rw [get_integralityRow, if_neg (by omega)]), get_integralityRow, if_pos rfl]
  show (mm : ℚ) = (1 : Int) * (mm : ℚ)
  push_cast; ring

theorem pivRow_integralityRow (n : Nat) (mm : Int) (kd : Nat) (hmm : 0 < mm) (hk : kd = PROPER_CONGRUENCE) :
    PivRow (integralityRow n mm) kd 0 :=
  ⟨Or.inr ⟨hmm, hk⟩, by rw [get_integralityRow, if_pos rfl]; exact hmm,
   fun j hj => by rw [get_integralityRow, if_neg (by omega)]⟩

/-! ### `KInv`: forgetting the last row / dimension 0 -/

theorem KInv.drop {dk : List Nat} {p : Nat → Nat} {k d nc : Nat} (h : KInv dk p k d nc)
    (hno : ∀ i, i < k → p i ≠ d) : KInv dk p k (d + 1) nc :=
  ⟨fun i hi => ⟨by have := (h.rng i hi).1; have := hno i hi; omega, (h.rng i hi).2⟩, h.anti,
   fun j h1 h2 => h.nv j (by omega) h2⟩

/-- the last row is the row of dimension 0 when `dim_kinds[0]` is not virtual -/
theorem KInv.last0 {dk : List Nat} {p : Nat → Nat} {k nc : Nat} (h : KInv dk p k 0 nc) (hnc : 0 < nc)
    (hnv : kind dk 0 ≠ CON_VIRTUAL) : 0 < k ∧ p (k - 1) = 0 := by
  obtain ⟨i, hi, hpi⟩ := (h.nv 0 (le_refl _) hnc).mp hnv
  refine ⟨by omega, ?_⟩
  by_cases e : i = k - 1
  · rw [← e]; exact hpi
  · have := h.anti i (k - 1) (by omega) (by omega); omega

theorem KInv.pop {dk : List Nat} {p : Nat → Nat} {k nc : Nat} (h : KInv dk p k 0 nc) (hk : 0 < k)
    (hp : p (k - 1) = 0) : KInv dk p (k - 1) 1 nc := by
  refine ⟨?_, fun i i' h1 h2 => h.anti i i' h1 (by omega), ?_⟩
  · intro i hi
    have := h.anti i (k - 1) hi (by omega)
    exact ⟨by omega, (h.rng i (by omega)).2⟩
  · intro j h1 h2
    rw [h.nv j (by omega) h2]
    constructor
    · rintro ⟨i, hi, hpi⟩
      by_cases e : i = k - 1
      · rw [e, hp] at hpi; omega
      · exact ⟨i, by omega, hpi⟩
    · rintro ⟨i, hi, hpi⟩; exact ⟨i, by omega, hpi⟩

theorem KInv.push' {dk : List Nat} {p : Nat → Nat} {k dim nc : Nat} (h : KInv dk p k (dim + 1) nc)
    (hdim : dim < nc) (hdkl : dim < dk.length) (hv : kind dk dim ≠ CON_VIRTUAL) :
    KInv dk (pPush p k dim) (k + 1) dim nc := by
  apply (h.push hdim hdkl (kind dk dim) hv).congr_dk
  intro j _
  rw [kind_set]
  split
  · next hc => rw [hc.1]
  · rfl

/-! ### the last step: `reduce_reduced` for column 0 -/

/-- the system after the last row has been made the integrality congruence -/
structure PostForm (n : Nat) (rowsT : List CRow) (dkT : List Nat) (p : Nat → Nat) (mm : Int) : Prop where
  wf : RWf n rowsT
  dklen : dkT.length = n + 1
  mod : ∃ M, SameMod rowsT M
  pos : 0 < rowsT.length
  piv : ∀ i, i < rowsT.length - 1 → PivRow (rowAt rowsT i) (kind dkT (p i)) (p i)
  kinv : KInv dkT p (rowsT.length - 1) 1 (n + 1)
  last : rowAt rowsT (rowsT.length - 1) = integralityRow n mm
  mmpos : 0 < mm
  k0 : kind dkT 0 = PROPER_CONGRUENCE

theorem tail_finish {n : Nat} {rowsT : List CRow} {dkT : List Nat} {p : Nat → Nat} {mm : Int}
    (h : PostForm n rowsT dkT p mm) :
    Final n (reduceReduced rowsT 0 (rowsT.length - 1) 0 0 dkT false) dkT ∧
      ∀ x, Sol (reduceReduced rowsT 0 (rowsT.length - 1) 0 0 dkT false) x ↔ Sol rowsT x := by
  obtain ⟨M, hM⟩ := h.mod
  have hpos := h.pos
  have hpk : KindOK (rowAt rowsT (rowsT.length - 1)) (kind dkT 0) := by
    rw [h.last, h.k0]; exact Or.inr ⟨h.mmpos, rfl⟩
  have hpz : ∀ j, 0 < j → get (rowAt rowsT (rowsT.length - 1)).e j = 0 := by
    intro j hj; rw [h.last, get_integralityRow, if_neg (by omega)]
  have hrr := reduceReduced_rel n dkT p (rowsT.length - 1) 0 M rowsT h.kinv h.dklen (by omega) h.wf
    (fun i hi => (h.piv i hi).kindok) hpk hpz hM
  obtain ⟨rows', hrows'⟩ : ∃ rows', rows' = reduceReduced rowsT 0 (rowsT.length - 1) 0 0 dkT false := ⟨_, rfl⟩
  rw [← hrows'] at hrr ⊢
  have hlast' : rowAt rows' (rows'.length - 1) = integralityRow n mm := by
    rw [hrr.len, hrr.same _ (le_refl _)]; exact h.last
  refine ⟨⟨pPush p (rowsT.length - 1) 0, mm, ⟨?_, h.dklen, ⟨M, hM.1, ?_⟩, le_refl _, ?_, ?_, ?_⟩, h.mmpos, hlast', h.k0⟩,
    hrr.sol⟩
  · intro i hi
    rw [(hrr.row i).1, (hrr.row i).2.1]; exact h.wf i (by rw [← hrr.len]; exact hi)
  · intro i hi
    rw [(hrr.row i).1]; exact hM.2 i (by rw [← hrr.len]; exact hi)
  · intro i hi
    rw [hrr.len] at hi
    by_cases e : i = rowsT.length - 1
    · rw [e, pPush_self, hrr.same _ (le_refl _), h.last]
      exact pivRow_integralityRow n mm _ h.mmpos h.k0
    · rw [pPush_ne _ _ _ _ e]
      have hp := h.piv i (by omega)
      have hpd := (h.kinv.rng i (by omega)).1
      refine ⟨?_, ?_, ?_⟩
      · have := hp.kindok
        unfold KindOK at this ⊢
        rw [(hrr.row i).1]; exact this
      · rw [(hrr.row i).2.2 _ (by omega)]; exact hp.pos
      · intro j hj; rw [(hrr.row i).2.2 j (by omega)]; exact hp.zero j hj
  · intro i hi1 hi2; omega
  · have : rows'.length = rowsT.length - 1 + 1 := by rw [hrr.len]; omega
    rw [this]
    apply h.kinv.push' (by omega) (by rw [h.dklen]; omega)
    rw [h.k0]; simp [PROPER_CONGRUENCE, CON_VIRTUAL]

/-! ### forming the last row -/

/-- the first statement of the tail -/
def tailForm (n : Nat) (rows : List CRow) (dk : List Nat) : List CRow × List Nat :=
  if kind dk 0 = CON_VIRTUAL then
    (rows ++ [integralityRow n (lastModulus rows)], dk.set 0 PROPER_CONGRUENCE)
  else
    (rows.set (rows.length - 1)
      { rowAt rows (rows.length - 1) with e := (rowAt rows (rows.length - 1)).e.set 0 (rowAt rows (rows.length - 1)).m },
     dk)

theorem simplifyCgsTail_eq (n : Nat) (rows : List CRow) (dk : List Nat) :
    simplifyCgsTail n rows dk =
      (reduceReduced (tailForm n rows dk).1 0 ((tailForm n rows dk).1.length - 1) 0 0 (tailForm n rows dk).2 false,
       (tailForm n rows dk).2, false) := rfl

theorem lastModulus_spec (rows : List CRow) (M : Int) (h : SameMod rows M) :
    0 < lastModulus rows ∧ ∃ M', 0 < M' ∧ lastModulus rows = M' ∧
      ∀ i, i < rows.length → (rowAt rows i).m = 0 ∨ (rowAt rows i).m = M' := by
  unfold lastModulus
  cases hf : rows.reverse.find? (fun r => decide (r.m > 0)) with
  | none =>
    simp only []
    refine ⟨by norm_num, 1, by norm_num, rfl, ?_⟩
    intro i hi
    left
    have h1 := List.find?_eq_none.mp hf (rowAt rows i) (by simpa using rowAt_mem rows i hi)
    rcases h.2 i hi with h0 | h0
    · exact h0
    · have : ¬ (rowAt rows i).m > 0 := by simpa using h1
      have := h.1; omega
  | some r =>
    simp only []
    have hp : r.m > 0 := by simpa using List.find?_some hf
    have hmem : r ∈ rows := by simpa using List.mem_of_find?_eq_some hf
    obtain ⟨i, hi, rfl⟩ := List.getElem_of_mem hmem
    have hM : rows[i].m = M := by
      have := h.2 i hi
      rw [rowAt_eq_getElem _ _ hi] at this
      rcases this with h0 | h0
      · omega
      · exact h0
    exact ⟨hp, M, h.1, hM, h.2⟩

/-- `dim_kinds[0] = CON_VIRTUAL`: the integrality congruence is appended -/
theorem tail_cv {n : Nat} {rows : List CRow} {dk : List Nat} {p : Nat → Nat}
    (h : Inv n rows dk p rows.length 0) (hcv : kind dk 0 = CON_VIRTUAL) :
    PostForm n (tailForm n rows dk).1 (tailForm n rows dk).2 p (lastModulus rows) ∧
      ∀ x, Sol (tailForm n rows dk).1 x ↔ Sol rows x := by
  obtain ⟨M, hM⟩ := h.mod
  obtain ⟨hlm, M', hM'1, hM'2, hM'3⟩ := lastModulus_spec rows M hM
  unfold tailForm
  rw [if_pos hcv]
  simp only []
  have hlen : (rows ++ [integralityRow n (lastModulus rows)]).length - 1 = rows.length := by simp
  have hno : ∀ i, i < rows.length → p i ≠ 0 := by
    intro i hi e
    have := (h.kinv.nv 0 (le_refl _) (by omega)).mpr ⟨i, hi, e⟩
    exact this hcv
  refine ⟨⟨?_, by simpa using h.dklen, ⟨M', hM'1, ?_⟩, by simp, ?_, ?_, ?_, hlm, ?_⟩, fun x => Sol_append rows _ x (rsem_integralityRow n _ x)⟩
  · intro i hi
    by_cases e : i < rows.length
    · rw [rowAt_append_left _ _ _ e]; exact h.wf i e
    · have : i = rows.length := by simp at hi; omega
      rw [this, rowAt_append_last]
      exact ⟨length_integralityRow n _, by show 0 ≤ lastModulus rows; omega⟩
  · intro i hi
    by_cases e : i < rows.length
    · rw [rowAt_append_left _ _ _ e]; exact hM'3 i e
    · have : i = rows.length := by simp at hi; omega
      rw [this, rowAt_append_last]
      right; exact hM'2
  · intro i hi
    rw [hlen] at hi
    rw [rowAt_append_left _ _ _ hi, kind_set, if_neg (by have := hno i hi; omega)]
    exact h.piv i hi
  · rw [hlen]
    apply (h.kinv.drop hno).congr_dk
    intro j hj
    rw [kind_set, if_neg (by omega)]
  · rw [hlen, rowAt_append_last]
  · rw [kind_set, if_pos ⟨rfl, by rw [h.dklen]; omega⟩]

/-- `dim_kinds[0] = PROPER_CONGRUENCE`: the inhomogeneous term of the last row becomes its modulus -/
theorem tail_pc {n : Nat} {rows : List CRow} {dk : List Nat} {p : Nat → Nat}
    (hwf : RWf n rows) (hdk : dk.length = n + 1) (hmod : ∃ M, SameMod rows M) (hpos : 0 < rows.length)
    (hpiv : ∀ i, i < rows.length - 1 → PivRow (rowAt rows i) (kind dk (p i)) (p i))
    (hK : KInv dk p (rows.length - 1) 1 (n + 1)) (hk0 : kind dk 0 = PROPER_CONGRUENCE)
    (hlm : 0 < (rowAt rows (rows.length - 1)).m)
    (hlz : ∀ j, 0 < j → get (rowAt rows (rows.length - 1)).e j = 0)
    (hsat : ∀ x, rsem (rowAt rows (rows.length - 1)) x) :
    PostForm n (tailForm n rows dk).1 (tailForm n rows dk).2 p (rowAt rows (rows.length - 1)).m ∧
      ∀ x, Sol (tailForm n rows dk).1 x ↔ Sol rows x := by
  unfold tailForm
  rw [if_neg (by rw [hk0]; simp [PROPER_CONGRUENCE, CON_VIRTUAL])]
  simp only []
  have hL : rows.length - 1 < rows.length := by omega
  have hnew : ({ rowAt rows (rows.length - 1) with
      e := (rowAt rows (rows.length - 1)).e.set 0 (rowAt rows (rows.length - 1)).m } : CRow) =
      integralityRow n (rowAt rows (rows.length - 1)).m := by
    have hl := (hwf _ hL).1
    have : (rowAt rows (rows.length - 1)).e.set 0 (rowAt rows (rows.length - 1)).m =
        (integralityRow n (rowAt rows (rows.length - 1)).m).e := by
      apply row_ext
      · rw [List.length_set, hl, length_integralityRow]
      · intro i hi
        rw [get_set, get_integralityRow]
        by_cases e : i = 0
        · rw [if_pos ⟨e, by omega⟩, if_pos e]
        · rw [if_neg (by tauto), if_neg e]; exact hlz i (by omega)
    show CRow.mk _ _ = _
    rw [this]; rfl
  rw [hnew]
  have hrow : ∀ i, rowAt (rows.set (rows.length - 1) (integralityRow n (rowAt rows (rows.length - 1)).m)) i =
      if i = rows.length - 1 then integralityRow n (rowAt rows (rows.length - 1)).m else rowAt rows i := by
    intro i
    rw [rowAt_set]
    by_cases e : i = rows.length - 1
    · rw [if_pos ⟨e, hL⟩, if_pos e]
    · rw [if_neg (by tauto), if_neg e]
  obtain ⟨M, hM⟩ := hmod
  refine ⟨⟨?_, hdk, ⟨M, hM.1, ?_⟩, by simpa using hpos, ?_, by simpa using hK, ?_, hlm, hk0⟩, ?_⟩
  · intro i hi
    rw [List.length_set] at hi
    rw [hrow i]
    split
    · exact ⟨length_integralityRow n _, by show 0 ≤ (rowAt rows (rows.length - 1)).m; omega⟩
    · exact hwf i hi
  · intro i hi
    rw [List.length_set] at hi
    rw [hrow i]
    split
    · exact hM.2 _ hL
    · exact hM.2 i hi
  · intro i hi
    rw [List.length_set] at hi
    rw [hrow i, if_neg (by omega)]; exact hpiv i hi
  · rw [List.length_set, hrow, if_pos rfl]
  · intro x
    apply Sol_set_self_iff
    exact ⟨fun _ => hsat x, fun _ => rsem_integralityRow n _ x⟩

/-- the tail for a system in which every row is a pivot row and the row of column 0 (if any) is a true
    proper congruence -/
theorem simplifyCgsTail_spec {n : Nat} {rows : List CRow} {dk : List Nat} {p : Nat → Nat}
    (h : Inv n rows dk p rows.length 0)
    (h0 : kind dk 0 ≠ CON_VIRTUAL → kind dk 0 = PROPER_CONGRUENCE ∧ ∀ x, rsem (rowAt rows (rows.length - 1)) x) :
    Final n (simplifyCgsTail n rows dk).1 (simplifyCgsTail n rows dk).2.1 ∧ (simplifyCgsTail n rows dk).2.2 = false ∧
      ∀ x, Sol (simplifyCgsTail n rows dk).1 x ↔ Sol rows x := by
  rw [simplifyCgsTail_eq]
  simp only []
  by_cases hcv : kind dk 0 = CON_VIRTUAL
  · obtain ⟨hP, hS⟩ := tail_cv h hcv
    obtain ⟨hF, hS2⟩ := tail_finish hP
    exact ⟨hF, trivial, fun x => (hS2 x).trans (hS x)⟩
  · obtain ⟨hk0, hsat⟩ := h0 hcv
    obtain ⟨hkpos, hp0⟩ := h.kinv.last0 (by omega) hcv
    have hlastp := h.piv (rows.length - 1) (by omega)
    rw [hp0] at hlastp
    have hlm : 0 < (rowAt rows (rows.length - 1)).m := by
      rcases hlastp.kindok with ⟨_, h2⟩ | ⟨h1, _⟩
      · rw [hk0] at h2; simp [PROPER_CONGRUENCE, EQUALITY] at h2
      · exact h1
    obtain ⟨hP, hS⟩ := tail_pc (p := p) h.wf h.dklen h.mod hkpos (fun i hi => h.piv i (by omega))
      (h.kinv.pop hkpos hp0) hk0 hlm hlastp.zero hsat
    obtain ⟨hF, hS2⟩ := tail_finish hP
    exact ⟨hF, trivial, fun x => (hS2 x).trans (hS x)⟩

end PPLV.Lattice.Red

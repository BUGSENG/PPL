import PPLV.Lattice.ProofsConvGCBase

/-!
# `Grid::conversion` (congruences → generators): folds, the triangular source, the counting loop, the initial `dest`

The mirror image of `ProofsConvGCBase/Init.lean`.  The enumerators of `Dimension_Kind` coincide
(`PROPER_CONGRUENCE = PARAMETER = 0`, `CON_VIRTUAL = LINE = 1`, `EQUALITY = GEN_VIRTUAL = 2`), so the counters of
`ProofsConvGCBase.lean` are reused with the roles exchanged:

* `nlB dk d` (`kind ≠ 1`): dimension `d` has a *source* (congruence) row, at index `pos dk dims d`
  (the source rows are ordered from the last column down);
* `nvB dk d` (`kind ≠ 2`): dimension `d` has a *dest* (generator) row, at index `nv dk d`.
-/
namespace PPLV.Lattice.Red

/-! ### counters -/

theorem cg_nv_lt_iff (dk : List Nat) (q e : Nat) (hq : nvB dk q = true) : nv dk q < nv dk e ↔ q < e := by
  constructor
  · intro h
    by_contra hc
    have := cntBelow_mono (nvB dk) (show e ≤ q by omega)
    simp only [nv] at *; omega
  · intro h
    exact cntBelow_lt (nvB dk) h hq

theorem cg_nv_inj (dk : List Nat) (q q' : Nat) (hq : nvB dk q = true) (hq' : nvB dk q' = true) (h : nv dk q = nv dk q') :
    q = q' := cntBelow_inj (nvB dk) hq hq' h

/-! ### the triangular source -/

/-- entry `k` of source row `j` -/
def cEnt (source : List CRow) (j k : Nat) : Int := get (rowAt source j).e k

/-- what `lower_triangular(source, dim_kinds)` gives: one row per non-virtual dimension, from the last column down;
    positive diagonal, zeros after it -/
structure CSrcOK (dims : Nat) (source : List CRow) (dk : List Nat) : Prop where
  len : source.length = nl dk dims
  diag : ∀ d, d < dims → nlB dk d = true → 0 < cEnt source (pos dk dims d) d
  zeros : ∀ d, d < dims → nlB dk d = true → ∀ k, d < k → k < dims → cEnt source (pos dk dims d) k = 0

def cgLtStep (n : Nat) (sys : List CRow) (dk : List Nat) (st : Nat × Bool) (dim : Nat) : Nat × Bool :=
  if !st.2 then st
  else if kind dk dim = CON_VIRTUAL then st
  else
    let cg := rowAt sys st.1
    if get cg.e dim ≤ 0 then (st.1 + 1, false)
    else if !allZeroes cg.e (dim + 1) (n + 1) then (st.1 + 1, false)
    else (st.1 + 1, true)

theorem cgLowerTriangular_eq (n : Nat) (sys : List CRow) (dk : List Nat) :
    lowerTriangular n sys dk =
      (if sys.length > n + 1 then false
       else
        let r := (dimsDown (n + 1)).foldl (cgLtStep n sys dk) (0, true)
        r.2 && r.1 == sys.length) := rfl

theorem lowerTriangular_spec (n : Nat) (source : List CRow) (dk : List Nat) (h : lowerTriangular n source dk = true) :
    CSrcOK (n + 1) source dk := by
  rw [cgLowerTriangular_eq] at h
  split at h
  · exact absurd h (by simp)
  · have key := foldl_dimsDown_inv (cgLtStep n source dk)
      (fun d st => st.2 = true → (st.1 = nl dk (n + 1) - nl dk d) ∧
        ∀ d', d ≤ d' → d' < n + 1 → nlB dk d' = true →
          0 < cEnt source (pos dk (n + 1) d') d' ∧
          ∀ k, d' < k → k < n + 1 → cEnt source (pos dk (n + 1) d') k = 0)
      (n + 1) (0, true) ?_ ?_
    · simp only [Bool.and_eq_true, beq_iff_eq] at h
      obtain ⟨h1, h2⟩ := key h.1
      rw [h.2] at h1
      have hz : nl dk 0 = 0 := rfl
      rw [hz] at h1
      exact ⟨by omega, fun d hd hv => (h2 d (Nat.zero_le _) hd hv).1, fun d hd hv => (h2 d (Nat.zero_le _) hd hv).2⟩
    · intro _
      exact ⟨by simp, fun d' h1 h2 => by omega⟩
    · intro d st hd ih
      unfold cgLtStep
      by_cases hok : st.2 = true
      · obtain ⟨ih1, ih2⟩ := ih hok
        simp only [hok, Bool.not_true, Bool.false_eq_true, if_false]
        by_cases hk : kind dk d = CON_VIRTUAL
        · simp only [hk, if_true]
          intro _
          have hv : nlB dk d = false := by simp [nlB, hk, CON_VIRTUAL, LINE]
          refine ⟨ih1.trans (cntBelow_sub_neg _ d (n + 1) hv).symm, ?_⟩
          intro d' h1 h2 h3
          by_cases hdd : d' = d
          · subst hdd; rw [hv] at h3; exact absurd h3 (by simp)
          · exact ih2 d' (by omega) h2 h3
        · have hv : nlB dk d = true := by simpa [nlB, CON_VIRTUAL, LINE] using hk
          simp only [hk, if_false]
          by_cases hdiag : get (rowAt source st.1).e d ≤ 0
          · rw [if_pos hdiag]; exact fun hc => absurd hc Bool.false_ne_true
          · by_cases hz : allZeroes (rowAt source st.1).e (d + 1) (n + 1) = true
            · simp only [hdiag, if_false, hz, Bool.not_true, Bool.false_eq_true]
              intro _
              refine ⟨by rw [ih1]; exact (cntBelow_sub_pos _ hd hv).symm, ?_⟩
              intro d' h1 h2 h3
              by_cases hdd : d' = d
              · subst hdd
                have hidx : pos dk (n + 1) d' = st.1 := ih1.symm
                rw [hidx]
                refine ⟨by simp only [cEnt]; omega, ?_⟩
                intro k hk1 hk2
                exact (allZeroes_iff _ (d' + 1) (n + 1)).mp hz k (by omega) hk2
              · exact ih2 d' (by omega) h2 h3
            · rw [if_neg hdiag, if_pos (by simpa using hz)]; exact fun hc => absurd hc Bool.false_ne_true
      · have : st.2 = false := by simpa using hok
        intro hc
        simp only [this, Bool.not_false, if_true] at hc
        exact absurd hc Bool.false_ne_true

/-! ### the counting loop -/

def cgCountStep (source : List CRow) (dk : List Nat) (st : Nat × Nat × Int) (dim : Nat) : Nat × Nat × Int :=
  if kind dk dim = CON_VIRTUAL then (st.1, st.2.1 + 1, st.2.2)
  else if kind dk dim = PROPER_CONGRUENCE then
    (st.1 + 1, st.2.1 + 1, lcmI st.2.2 (get (rowAt source st.1).e dim))
  else (st.1 + 1, st.2.1, st.2.2)

theorem cgCount_eq (source : List CRow) (dk : List Nat) (dims : Nat) :
    cgCount source dk dims = (dimsDown dims).foldl (cgCountStep source dk) (0, 0, 1) := rfl

theorem cgCount_spec (source : List CRow) (dk : List Nat) (dims : Nat) (hs : CSrcOK dims source dk)
    (hk : ∀ d, d < dims → kind dk d ≤ 2) :
    (cgCount source dk dims).1 = nl dk dims ∧ (cgCount source dk dims).2.1 = nv dk dims ∧
      0 < (cgCount source dk dims).2.2 ∧
      ∀ d, d < dims → kind dk d = PROPER_CONGRUENCE → cEnt source (pos dk dims d) d ∣ (cgCount source dk dims).2.2 := by
  rw [cgCount_eq]
  have key := foldl_dimsDown_inv (cgCountStep source dk)
    (fun d st => st.1 = nl dk dims - nl dk d ∧ st.2.1 = nv dk dims - nv dk d ∧ 0 < st.2.2 ∧
      ∀ d', d ≤ d' → d' < dims → kind dk d' = PROPER_CONGRUENCE → cEnt source (pos dk dims d') d' ∣ st.2.2)
    dims (0, 0, 1) ?_ ?_
  · obtain ⟨h1, h2, h3, h4⟩ := key
    refine ⟨?_, ?_, h3, fun d hd hp => h4 d (Nat.zero_le _) hd hp⟩
    · rw [h1]; simp [nl, cntBelow]
    · rw [h2]; simp [nv, cntBelow]
  · exact ⟨by simp, by simp, by simp, fun d' h1 h2 => by omega⟩
  · rintro d st hd ⟨i1, i2, i3, i4⟩
    have hlater : ∀ d', d ≤ d' → d' < dims → kind dk d' = PROPER_CONGRUENCE → kind dk d ≠ PROPER_CONGRUENCE →
        cEnt source (pos dk dims d') d' ∣ st.2.2 := fun d' h1 h2 h3 hne =>
      i4 d' (Nat.lt_of_le_of_ne h1 fun e => hne (e ▸ h3)) h2 h3
    unfold cgCountStep
    rcases kind_cases dk dims hk d hd with ⟨h0, hv, hl⟩ | ⟨h0, hv, hl⟩ | ⟨h0, hv, hl⟩
    · -- PROPER_CONGRUENCE
      have hsi : st.1 = pos dk dims d := i1
      simp only [h0, CON_VIRTUAL, PROPER_CONGRUENCE, if_true, if_false, zero_ne_one]
      have hpos : 0 < get (rowAt source (pos dk dims d)).e d := hs.diag d hd hl
      rw [hsi]
      refine ⟨(cntBelow_sub_pos _ hd hl).symm, by rw [i2]; exact (cntBelow_sub_pos _ hd hv).symm, ?_, ?_⟩
      · simp only [lcmI]
        exact_mod_cast Int.lcm_pos (ne_of_gt i3) (ne_of_gt hpos)
      · intro d' h1 h2 h3
        by_cases hdd : d' = d
        · subst hdd; exact Int.dvd_lcm_right _ _
        · exact Int.dvd_trans (i4 d' (by omega) h2 h3) (Int.dvd_lcm_left _ _)
    · -- CON_VIRTUAL
      simp only [h0, CON_VIRTUAL, if_true]
      exact ⟨by rw [i1]; exact (cntBelow_sub_neg _ d dims hl).symm,
        by rw [i2]; exact (cntBelow_sub_pos _ hd hv).symm, i3,
        fun d' h1 h2 h3 => hlater d' h1 h2 h3 (by rw [h0]; decide)⟩
    · -- EQUALITY
      simp only [h0, CON_VIRTUAL, PROPER_CONGRUENCE, if_false, OfNat.ofNat_ne_one, OfNat.ofNat_ne_zero]
      exact ⟨by rw [i1]; exact (cntBelow_sub_pos _ hd hl).symm,
        by rw [i2]; exact (cntBelow_sub_neg _ d dims hv).symm, i3,
        fun d' h1 h2 h3 => hlater d' h1 h2 h3 (by rw [h0]; decide)⟩

/-! ### the initial `dest` -/

def cgInitStep (source : List CRow) (dk : List Nat) (dims : Nat) (diagonalLcm : Int) (st : Nat × List GRow) (dim : Nat) :
    Nat × List GRow :=
  if kind dk dim = EQUALITY then (st.1 - 1, st.2)
  else
    let z : Row := List.replicate (dims + 1) 0
    if kind dk dim = CON_VIRTUAL then (st.1, st.2 ++ [{ line := true, e := (z.set 0 0).set dim 1 }])
    else
      let si := st.1 - 1
      (si, st.2 ++ [{ line := false, e := (z.set 0 0).set dim (diagonalLcm / get (rowAt source si).e dim) }])

theorem cgInit_eq (source : List CRow) (dk : List Nat) (dims N : Nat) (l : Int) :
    cgInit source dk dims N l = ((List.range dims).foldl (cgInitStep source dk dims l) (N, [])).2 := rfl

/-- a generator row `v·e_q` -/
def GUnitRow (dims : Nat) (g : GRow) (q : Nat) (v : Int) (ln : Bool) : Prop :=
  g.line = ln ∧ g.e.length = dims + 1 ∧ ∀ k, get g.e k = if k = q then v else 0

theorem gUnitRow_mk (dims q : Nat) (hq : q < dims) (v : Int) (ln : Bool) :
    GUnitRow dims { line := ln, e := ((List.replicate (dims + 1) (0 : Int)).set 0 0).set q v } q v ln := by
  refine ⟨rfl, by simp, ?_⟩
  intro k
  rw [get_set, get_set, get_replicate_zero]
  by_cases h : k = q
  · simp [h]; omega
  · simp [h]

theorem cgInit_spec (source : List CRow) (dk : List Nat) (dims : Nat) (l : Int)
    (hk : ∀ d, d < dims → kind dk d ≤ 2) :
    (cgInit source dk dims (nl dk dims) l).length = nv dk dims ∧
      ∀ q, q < dims → nvB dk q = true →
        (kind dk q = CON_VIRTUAL → GUnitRow dims (rowAt (cgInit source dk dims (nl dk dims) l) (nv dk q)) q 1 true) ∧
        (kind dk q = PROPER_CONGRUENCE →
          GUnitRow dims (rowAt (cgInit source dk dims (nl dk dims) l) (nv dk q)) q
            (l / cEnt source (pos dk dims q) q) false) := by
  rw [cgInit_eq]
  have key := foldl_range_inv (cgInitStep source dk dims l)
    (fun d st => st.1 = nl dk dims - nl dk d ∧ st.2.length = nv dk d ∧
      ∀ q, q < d → nvB dk q = true →
        (kind dk q = CON_VIRTUAL → GUnitRow dims (rowAt st.2 (nv dk q)) q 1 true) ∧
        (kind dk q = PROPER_CONGRUENCE → GUnitRow dims (rowAt st.2 (nv dk q)) q (l / cEnt source (pos dk dims q) q) false))
    dims (nl dk dims, []) ?_ ?_
  · exact ⟨key.2.1, key.2.2⟩
  · exact ⟨by simp [nl, cntBelow], by simp [nv, cntBelow], fun q h1 => by omega⟩
  · rintro d st hd ⟨i1, i2, i3⟩
    have hlen : ∀ r : GRow, nvB dk d = true → (st.2 ++ [r]).length = nv dk (d + 1) := fun r hv => by
      rw [List.length_append, i2]; exact (cntBelow_succ_pos _ d hv).symm
    have hdec : nlB dk d = true → st.1 - 1 = pos dk dims d := fun hl =>
      Nat.sub_eq_of_eq_add (i1.trans (cntBelow_sub_pos _ hd hl))
    unfold cgInitStep
    have keep : ∀ (r : GRow) (q : Nat), q < d → nvB dk q = true →
        rowAt (st.2 ++ [r]) (nv dk q) = rowAt st.2 (nv dk q) := by
      intro r q h1 h3
      rw [rowAt_append_one, if_pos]
      rw [i2]
      exact (cg_nv_lt_iff dk q d h3).mpr h1
    have new : ∀ (r : GRow), rowAt (st.2 ++ [r]) (nv dk d) = r := by
      intro r
      rw [rowAt_append_one, i2]
      simp
    rcases kind_cases dk dims hk d hd with ⟨h0, hv, hl⟩ | ⟨h0, hv, hl⟩ | ⟨h0, hv, hl⟩
    · -- PROPER_CONGRUENCE
      simp only [h0, EQUALITY, CON_VIRTUAL, if_false, OfNat.zero_ne_ofNat, zero_ne_one]
      rw [hdec hl]
      refine ⟨rfl, hlen _ hv, ?_⟩
      intro q h1 h3
      by_cases hqd : q = d
      · subst hqd
        rw [new]
        exact ⟨fun hc => by rw [h0] at hc; exact absurd hc (by simp),
          fun _ => gUnitRow_mk dims q hd _ _⟩
      · rw [keep _ q (by omega) h3]
        exact i3 q (by omega) h3
    · -- CON_VIRTUAL
      simp only [h0, EQUALITY, CON_VIRTUAL, if_true, if_false, OfNat.one_ne_ofNat]
      refine ⟨i1.trans (cntBelow_sub_neg _ d dims hl), hlen _ hv, ?_⟩
      intro q h1 h3
      by_cases hqd : q = d
      · subst hqd
        rw [new]
        exact ⟨fun _ => gUnitRow_mk dims q hd _ _,
          fun hc => by rw [h0] at hc; exact absurd hc (by simp [PROPER_CONGRUENCE])⟩
      · rw [keep _ q (by omega) h3]
        exact i3 q (by omega) h3
    · -- EQUALITY
      simp only [h0, EQUALITY, if_true]
      refine ⟨hdec hl, i2.trans (cntBelow_succ_neg _ d hv).symm, ?_⟩
      intro q h1 h3
      by_cases hqd : q = d
      · subst hqd; rw [hv] at h3; exact absurd h3 (by simp)
      · exact i3 q (by omega) h3

end PPLV.Lattice.Red

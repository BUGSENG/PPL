import PPLV.Lattice.ProofsConvCGLoop

/-!
# `Grid::conversion` (congruences → generators): the final `reduce_reduced` loop keeps the final rows

`reduce_reduced` (generators) subtracts multiples of the pivot row (the row of `dim`) from the rows before it, in
the columns `dim .. dims-1` (the pivot vanishes before `dim`).  With a line pivot every row may be reduced (the
products of a line with the source rows vanish), with a parameter pivot only the parameter rows are: the products stay
in `L·ℤ`, the products with the equalities stay `0`, the products of the lines stay `0`, the rows stay triangular and
the inhomogeneous term of the point is not touched.
-/
namespace PPLV.Lattice.Red

theorem cg_expr_grow (g : GRow) : HasExpr.expr g = g.e := rfl
theorem cg_setExpr_grow (g : GRow) (e : Row) : HasExpr.setExpr g e = { g with e := e } := rfl

section
variable (source : List CRow) (dk : List Nat) (dims : Nat)

/-- `skipDown` finds the dimension of the previous dest row -/
theorem cg_skipDown_spec : ∀ ki, 0 < nv dk ki →
    skipDown dk ki < ki ∧ nvB dk (skipDown dk ki) = true ∧ nv dk (skipDown dk ki) + 1 = nv dk ki
  | 0, h => by simp [nv, cntBelow] at h
  | k + 1, h => by
    unfold skipDown
    by_cases hv : kind dk k = GEN_VIRTUAL
    · have hvb : nvB dk k = false := by simp [nvB, hv]
      have e1 := cntBelow_succ_neg (nvB dk) k hvb
      rw [if_pos hv]
      obtain ⟨a1, a2, a3⟩ := cg_skipDown_spec k (by simp only [nv] at *; omega)
      exact ⟨by omega, a2, by simp only [nv] at *; omega⟩
    · have hvb : nvB dk k = true := by simp [nvB, hv]
      have e1 := cntBelow_succ_pos (nvB dk) k hvb
      rw [if_neg hv]
      exact ⟨by omega, hvb, by simp only [nv] at *; omega⟩

theorem GFinalOK_set (L D0 : Int) (T : List GRow) (hT : GFinalOK source dk dims L D0 T) (q0 : Nat) (hq0 : q0 < dims)
    (hl0 : nvB dk q0 = true) (g' : GRow) (hg' : GFinRow source dk dims L D0 q0 g') :
    GFinalOK source dk dims L D0 (T.set (nv dk q0) g') := by
  refine ⟨by simp [hT.len], fun q hq hql => ?_⟩
  rw [rowAt_set]
  by_cases h : nv dk q = nv dk q0
  · have := cg_nv_inj dk q q0 hql hl0 h
    subst this
    rw [if_pos ⟨rfl, by rw [hT.len]; exact (cg_nv_lt_iff dk q dims hql).mpr hq⟩]
    exact hg'
  · rw [if_neg (fun hc => h hc.1)]
    exact hT.rows q hq hql

/-- one row reduced by the pivot `P` (the row of `dim`) -/
theorem cg_rowReduce_final (L D0 : Int) (P : Row) (dim : Nat) (hdim : dim < dims)
    (hPtri : ∀ k, k < dim → get P k = 0)
    (hPprod : ∀ p, p < dims → nlB dk p = true →
      (kind dk p = EQUALITY → dotUpto P (rowAt source (pos dk dims p)).e dims = 0) ∧
        L ∣ dotUpto P (rowAt source (pos dk dims p)).e dims)
    (T : List GRow) (hT : GFinalOK source dk dims L D0 T) (q : Nat) (hq : q < dims) (hql : nvB dk q = true)
    (hdq : q < dim)
    (hzero : nlB dk q = false → ∀ p, p < dims → nlB dk p = true → dotUpto P (rowAt source (pos dk dims p)).e dims = 0)
    (num : Int) :
    GFinalOK source dk dims L D0
      (if num ≠ 0 then
        T.set (nv dk q) (HasExpr.setExpr (rowAt T (nv dk q))
          (linearCombine (HasExpr.expr (rowAt T (nv dk q))) P 1 (-num) dim (dims - 1 + 1)))
       else T) := by
  by_cases hn : num ≠ 0
  · rw [if_pos hn, cg_expr_grow, cg_setExpr_grow]
    apply GFinalOK_set source dk dims L D0 T hT _ hq hql
    have R := hT.rows _ hq hql
    have hget : ∀ k, k < dims → get (linearCombine (rowAt T (nv dk q)).e P 1 (-num) dim (dims - 1 + 1)) k =
        get (rowAt T (nv dk q)).e k - num * get P k := by
      intro k hk
      rw [get_linearCombine]
      by_cases hc : dim ≤ k
      · rw [if_pos ⟨by rw [R.len]; omega, hc, by omega⟩]; ring
      · rw [if_neg (fun h => hc h.2.1), hPtri k (by omega)]; ring
    refine ⟨by simp [R.len], R.lnv, R.lnp, fun k hk => ?_, ?_, fun h0 => ?_, fun p hp hpv => ?_⟩
    · simp only []
      rw [hget k (by omega), R.tri k hk, hPtri k (by omega)]; ring
    · simp only []
      rw [hget q hq, hPtri q hdq]
      have := R.diag
      omega
    · simp only []
      rw [hget 0 (by omega), hPtri 0 (by omega), R.c0 h0]; ring
    · simp only []
      rw [dotUpto_sub _ _ P _ num dims (fun k hk => hget k hk)]
      obtain ⟨r1, r2, r3⟩ := R.prod p hp hpv
      obtain ⟨p1, p2⟩ := hPprod p hp hpv
      refine ⟨fun heq => by rw [r1 heq, p1 heq]; ring, fun hv => ?_, ?_⟩
      · rw [r2 hv, hzero hv p hp hpv]; ring
      · exact Int.dvd_sub r3 (Dvd.dvd.mul_left p2 _)
  · rw [if_neg hn]; exact hT

/-- the loop of `reduce_reduced` (generators) keeps the final rows -/
theorem cg_reduceReducedLoop_final (L D0 : Int) (P : Row) (pd half : Int) (dim : Nat) (hdim : dim < dims) (rl : Bool)
    (rk : Nat)
    (hPtri : ∀ k, k < dim → get P k = 0)
    (hPprod : ∀ p, p < dims → nlB dk p = true →
      (kind dk p = EQUALITY → dotUpto P (rowAt source (pos dk dims p)).e dims = 0) ∧
        L ∣ dotUpto P (rowAt source (pos dk dims p)).e dims)
    (hP0 : rl = true → ∀ p, p < dims → nlB dk p = true → dotUpto P (rowAt source (pos dk dims p)).e dims = 0) :
    ∀ (ri ki : Nat) (T : List GRow), ki ≤ dim → ri = nv dk ki →
      GFinalOK source dk dims L D0 T →
      GFinalOK source dk dims L D0 (reduceReducedLoop true dk P pd half dim dim (dims - 1) rl rk ri ki T)
  | 0, ki, T, _, _, hT => by simpa [reduceReducedLoop] using hT
  | ri + 1, ki, T, hki, hri, hT => by
    rw [reduceReducedLoop]
    simp only [if_true]
    obtain ⟨s1, s2, s3⟩ := cg_skipDown_spec dk ki (by omega)
    have s4 : ri = nv dk (skipDown dk ki) := by omega
    refine cg_reduceReducedLoop_final L D0 P pd half dim hdim rl rk hPtri hPprod hP0 ri (skipDown dk ki) _ (by omega) s4 ?_
    subst s4
    by_cases hcond : (rl || (rk == PARAMETER && kind dk (skipDown dk ki) == PARAMETER)) = true
    · rw [if_pos hcond]
      refine cg_rowReduce_final source dk dims L D0 P dim hdim hPtri hPprod T hT (skipDown dk ki) (by omega) s2 (by omega) ?_ _
      intro hv
      rcases (Bool.or_eq_true _ _).mp hcond with h | h
      · exact hP0 h
      · exfalso
        simp only [Bool.and_eq_true, beq_iff_eq] at h
        simp [nlB, h.2, PARAMETER, LINE] at hv
    · rw [if_neg hcond]; exact hT

theorem cg_reduceReduced_final (L D0 : Int) (T : List GRow) (hT : GFinalOK source dk dims L D0 T) (d : Nat) (hd : d < dims)
    (hl : nvB dk d = true) :
    GFinalOK source dk dims L D0 (reduceReduced T d (nv dk d) d (dims - 1) dk) := by
  unfold reduceReduced
  simp only [cg_expr_grow]
  split
  · exact hT
  · have R := hT.rows d hd hl
    refine cg_reduceReducedLoop_final source dk dims L D0 _ _ _ d hd _ _ R.tri
      (fun p hp hpv => ⟨(R.prod p hp hpv).1, (R.prod p hp hpv).2.2⟩) ?_ (nv dk d) d T (Nat.le_refl _) rfl hT
    intro hrl p hp hpv
    apply (R.prod p hp hpv).2.1
    simp only [if_true, beq_iff_eq] at hrl
    simp [nlB, hrl]

def cgReduceStep (dk : List Nat) (dims : Nat) (st : Nat × List GRow) (dim : Nat) : Nat × List GRow :=
  if kind dk dim ≠ GEN_VIRTUAL then (st.1 + 1, reduceReduced st.2 dim st.1 dim (dims - 1) dk) else st

theorem cgReduce_eq (dest : List GRow) :
    cgReduce dk dims dest = ((List.range dims).foldl (cgReduceStep dk dims) (0, dest)).2 := rfl

/-- what every `reduce_reduced` call of the final loop preserves, the whole loop preserves -/
theorem cgReduce_induct (L D0 : Int) (Q : List GRow → Prop)
    (hstep : ∀ T d, d < dims → nvB dk d = true → GFinalOK source dk dims L D0 T → Q T →
      Q (reduceReduced T d (nv dk d) d (dims - 1) dk))
    (T : List GRow) (hT : GFinalOK source dk dims L D0 T) (hQ : Q T) :
    GFinalOK source dk dims L D0 (cgReduce dk dims T) ∧ Q (cgReduce dk dims T) := by
  rw [cgReduce_eq]
  refine (foldl_range_inv (cgReduceStep dk dims)
    (fun d st => st.1 = nv dk d ∧ GFinalOK source dk dims L D0 st.2 ∧ Q st.2) dims (0, T) ⟨rfl, hT, hQ⟩ ?_).2
  rintro d st hd ⟨h1, h2, h3⟩
  unfold cgReduceStep
  by_cases hl : kind dk d = GEN_VIRTUAL
  · have hlb : nvB dk d = false := by simp [nvB, hl]
    simp only [hl, ne_eq, not_true_eq_false, if_false]
    exact ⟨h1.trans (cntBelow_succ_neg _ d hlb).symm, h2, h3⟩
  · have hlb : nvB dk d = true := by simp [nvB, hl]
    simp only [hl, ne_eq, not_false_eq_true, if_true]
    rw [h1]
    exact ⟨(cntBelow_succ_pos _ d hlb).symm, cg_reduceReduced_final source dk dims L D0 st.2 h2 d hd hlb,
      hstep st.2 d hd hlb h2 h3⟩

theorem cgReduce_final (L D0 : Int) (T : List GRow) (hT : GFinalOK source dk dims L D0 T) :
    GFinalOK source dk dims L D0 (cgReduce dk dims T) :=
  (cgReduce_induct source dk dims L D0 (fun _ => True) (fun _ _ _ _ _ _ => trivial) T hT trivial).1

end

end PPLV.Lattice.Red

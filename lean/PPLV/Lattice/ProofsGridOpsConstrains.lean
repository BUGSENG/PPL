import PPLV.Lattice.ProofsGridOpsBounds
import PPLV.Lattice.ProofsGridOpsAffinePreimage
import PPLV.Lattice.ProofsGridOpsAddCongruence

/-!
# The `Grid` object: `constrains`
-/
namespace PPLV.Lattice.GO
open PPLV.Lattice PPLV.Lattice.Red

/-! ## `constrains(var)` (Grid_public.cc:937) against `g.sem`

The answer is `false` iff the grid is not empty and coordinate `var` of any of its points can be replaced by any rational
(`cn_Unconstrained`).  The syntactic check ("some congruence mentions `var`") is right on ANY up-to-date congruence system of
a non-empty grid, minimized or not: a row that mentions `var` cannot hold along the whole line.  The branch
"minimized generators with `space_dim` lines" answers `false`: such a grid is the whole space (`cn_lines_full_sem`).
-/

/-- `S` is not empty and invariant under any change of coordinate `v` -/
def cn_Unconstrained (v : Nat) (S : Set Pt) : Prop := S.Nonempty ∧ ∀ x ∈ S, ∀ t : ℚ, cn_upd x v t ∈ S

/-- the syntactic check on a non-empty solution set -/
theorem cn_syntactic (n v : Nat) (hv : v < n) (rows : List CRow) (hne : (consSet n rows).Nonempty) :
    (rows.reverse.any fun cg => Red.get cg.e (v + 1) ≠ 0) = false ↔ cn_Unconstrained v (consSet n rows) := by
  rw [List.any_reverse, List.any_eq_false]
  constructor
  · intro h
    refine ⟨hne, fun x hx t => ?_⟩
    rw [cn_mem_consSet] at hx ⊢
    refine ⟨cn_upd_supp n v x t hv hx.1, fun r hr => ?_⟩
    have h0 : Red.get r.e (v + 1) = 0 := by simpa using h r hr
    have := hx.2 r hr
    rw [cn_mem_set] at this ⊢
    unfold rsem at this ⊢
    rw [cn_evalRow_upd, h0]; simpa using this
  · rintro ⟨_, hinv⟩ r hr
    by_contra hc
    have ha : Red.get r.e (v + 1) ≠ 0 := by simpa using hc
    have haq : (Red.get r.e (v + 1) : ℚ) ≠ 0 := by exact_mod_cast ha
    obtain ⟨x, hx⟩ := hne
    have h1 := ((cn_mem_consSet n rows x).mp hx).2 r hr
    rw [cn_mem_set] at h1
    obtain ⟨k, hk⟩ := h1
    refine haq (half_trick _ (r.m : ℚ) fun q => ?_)
    have h2 := ((cn_mem_consSet n rows _).mp (hinv x hx (x v + q))).2 r hr
    rw [cn_mem_set] at h2
    obtain ⟨k', hk'⟩ := h2
    rw [cn_evalRow_upd, hk, add_sub_cancel_left] at hk'
    exact ⟨k' - k, by push_cast; linarith only [hk']⟩

/-- the syntactic check on an object with up-to-date congruences and a non-empty grid -/
theorem cn_syntacticCheck (g1 : Grid) (v : Nat) (hI : GridInv g1) (he : g1.st.empty = false) (hv : v < g1.spaceDim)
    (hc : g1.st.cUp = true) (hne : g1.sem.Nonempty) :
    syntacticCheck g1 v = false ↔ cn_Unconstrained v g1.sem := by
  have hs := sem_of_cUp hI he (by omega) hc
  rw [hs] at hne ⊢
  exact cn_syntactic g1.spaceDim v hv g1.con hne

theorem cn_unconstrained_empty (v : Nat) : ¬ cn_Unconstrained v ∅ := fun h => Set.not_nonempty_empty h.1

theorem cn_unconstrained_space (n v : Nat) (hv : v < n) : cn_Unconstrained v (spaceSet n) :=
  ⟨⟨0, fun _ _ => rfl⟩, fun x hx t => cn_upd_supp n v x t hv hx⟩

/-- a line row along `e_v` makes `v` unconstrained -/
theorem cn_line_unconstrained {n : Nat} {D : Int} {rows : List GRow} (hN : GNorm n D rows) (hw : GWf n rows) (v : Nat)
    (hv : v < n) (gi : GRow) (hgi : gi ∈ rows) (hl : gi.line = true) (ha : Red.get gi.e (v + 1) ≠ 0)
    (h1 : allZ gi.e 1 (v + 1) = true) (h2 : allZ gi.e (v + 2) (n + 1) = true) : cn_Unconstrained v (gn_set rows) := by
  obtain ⟨p, hp, hpl, hp0⟩ := hN.pt
  have hpp : gn_isPt p = true := (gn_isPt_iff p).mpr ⟨hpl, by rw [hp0]; exact ne_of_gt hN.pos⟩
  refine ⟨⟨_, gn_mem_pt hp hpp⟩, fun x hx t => ?_⟩
  have haq : (Red.get gi.e (v + 1) : ℚ) ≠ 0 := by exact_mod_cast ha
  have := gn_mem_line_step hgi hl hx ((t - x v) / (Red.get gi.e (v + 1) : ℚ))
  have heq : cn_upd x v t = x + ((t - x v) / (Red.get gi.e (v + 1) : ℚ)) • gn_vecOf gi := by
    funext k
    simp only [cn_upd, Pi.add_apply, Pi.smul_apply, smul_eq_mul]
    unfold gn_vecOf
    rw [gn_spaceDim_of_len (hw gi hgi), hl]
    simp only [if_true, div_one]
    by_cases hk : k = v
    · subst hk; rw [if_pos rfl, if_pos hv]; field_simp; ring
    · rw [if_neg hk]
      by_cases hkn : k < n
      · rw [if_pos hkn]
        have : Red.get gi.e (k + 1) = 0 := by
          by_cases hlt : k < v
          · exact (allZ_iff _ _ _).mp h1 (k + 1) (by omega) (by omega)
          · exact (allZ_iff _ _ _).mp h2 (k + 1) (by omega) (by omega)
        rw [this]; simp
      · rw [if_neg hkn]; simp
  rw [heq]; exact this

/-! ## Minimized generators with as many lines as dimensions generate the whole space -/

theorem cn_cntBelow_le (P : Nat → Bool) (m : Nat) : cntBelow P m ≤ m := by
  induction m with
  | zero => exact Nat.le_refl _
  | succ m ih => simp only [cntBelow]; split <;> omega

theorem cn_cntBelow_full (P : Nat → Bool) (m : Nat) (h : cntBelow P m = m) : ∀ d, d < m → P d = true ∧ cntBelow P d = d := by
  induction m with
  | zero => intro d hd; omega
  | succ m ih =>
    intro d hd
    simp only [cntBelow] at h
    have hle := cn_cntBelow_le P m
    have hm : cntBelow P m = m ∧ P m = true := by
      by_cases hp : P m = true
      · rw [if_pos hp] at h; exact ⟨by omega, hp⟩
      · rw [if_neg hp] at h; omega
    by_cases hdm : d = m
    · subst hdm; exact ⟨hm.2, hm.1⟩
    · exact ih hm.1 d (by omega)

/-- an upper triangular system of `n` lines (and the point) generates the whole `n`-space -/
theorem cn_full_lines {n : Nat} {D : Int} {gen : List GRow} {dk : List Nat} (hw : GWf n gen) (hN : GNorm n D gen)
    (hut : upperTriangular n gen dk = true) (h0 : kind dk 0 = PARAMETER)
    (hnl : (gen.filter (·.line)).length = n) : gn_set gen = spaceSet n := by
  have hs := upperTriangular_spec n gen dk hut
  obtain ⟨p, rest, hg, hp, hpD, hrest⟩ := cn_min_shape hN hut h0
  have hlen := hs.len
  have hle := cn_cntBelow_le (nvB dk) (n + 1)
  have hfl : (rest.filter (·.line)).length = n := by
    rw [hg, List.filter_cons_of_neg (by simp [hp])] at hnl; exact hnl
  have hfle := List.length_filter_le (·.line) rest
  have hrl : rest.length = n := by
    rw [hg] at hlen; simp only [List.length_cons] at hlen; unfold nv at hlen; omega
  have hall : ∀ r ∈ rest, r.line = true := by
    have : (rest.filter (·.line)).length = rest.length := by rw [hfl, hrl]
    exact (List.length_filter_eq_length_iff.mp this)
  have hfull := cn_cntBelow_full (nvB dk) (n + 1) (by
    rw [hg] at hlen; simp only [List.length_cons] at hlen; unfold nv at hlen; omega)
  -- the line of dimension `d`
  have hrow : ∀ d, 1 ≤ d → d ≤ n → rowAt gen d ∈ rest := by
    intro d h1 h2
    have : rowAt gen d = rowAt rest (d - 1) := by
      rw [hg]; unfold rowAt
      rw [show d = (d - 1) + 1 by omega, List.getD_cons_succ]; simp
    rw [this]; exact rowAt_mem rest (d - 1) (by omega)
  have hlead : ∀ d, 1 ≤ d → d ≤ n → (∀ k, k + 1 < d → gn_vecOf (rowAt gen d) k = 0) ∧ gn_vecOf (rowAt gen d) (d - 1) ≠ 0 := by
    intro d h1 h2
    have hmem := hrow d h1 h2
    have hgm : rowAt gen d ∈ gen := by have := List.mem_cons_of_mem p hmem; rwa [← hg] at this
    obtain ⟨hv, hc⟩ := hfull d (by omega)
    have hdiag := hs.diag d (by omega) hv
    have hzero := hs.zeros d (by omega) hv
    unfold nv at hdiag hzero
    rw [hc] at hdiag hzero
    unfold sEnt at hdiag hzero
    have hline := hall _ hmem
    constructor
    · intro k hk
      unfold gn_vecOf
      rw [gn_spaceDim_of_len (hw _ hgm), hline]
      split
      · rw [hzero (k + 1) (by omega)]; simp
      · rfl
    · unfold gn_vecOf
      rw [gn_spaceDim_of_len (hw _ hgm), hline, if_pos (by omega), show d - 1 + 1 = d by omega]
      simp only [if_true, div_one]
      have : Red.get (rowAt gen d).e d ≠ 0 := by omega
      exact_mod_cast this
  -- every vector supported on the coordinates `[j, n)` is a direction
  have hC : ∀ t j, n - j = t → j ≤ n → ∀ w : Pt, Supp n w → (∀ k, k < j → w k = 0) → gn_Dir gen w := by
    intro t
    induction t with
    | zero =>
      intro j hj hjn w hw1 hw2
      have : w = 0 := by
        funext k
        by_cases hk : k < n
        · exact hw2 k (by omega)
        · exact hw1 k (by omega)
      rw [this]; exact gn_dir_zero _
    | succ t ih =>
      intro j hj hjn w hw1 hw2
      obtain ⟨hz, ha⟩ := hlead (j + 1) (by omega) (by omega)
      have hmem := hrow (j + 1) (by omega) (by omega)
      have hgm : rowAt gen (j + 1) ∈ gen := by have := List.mem_cons_of_mem p hmem; rwa [← hg] at this
      simp only [Nat.add_sub_cancel] at ha
      have hd := ih (j + 1) (by omega) (by omega)
        (w - (w j / gn_vecOf (rowAt gen (j + 1)) j) • gn_vecOf (rowAt gen (j + 1)))
        (fun k hk => by
          simp only [Pi.sub_apply, Pi.smul_apply, smul_eq_mul]
          rw [hw1 k hk, gn_vecOf_supp (hw _ hgm) k hk]; simp)
        (fun k hk => by
          simp only [Pi.sub_apply, Pi.smul_apply, smul_eq_mul]
          by_cases hkj : k = j
          · subst hkj; field_simp; ring
          · rw [hw2 k (by omega), hz k (by omega)]; simp)
      have := gn_dir_add hd (gn_dir_line hgm (hall _ hmem) (w j / gn_vecOf (rowAt gen (j + 1)) j))
      simpa using this
  have hpm : p ∈ gen := by rw [hg]; exact List.mem_cons_self ..
  have hpp : gn_isPt p = true := (gn_isPt_iff p).mpr ⟨hp, by rw [hpD]; exact ne_of_gt hN.pos⟩
  ext x
  constructor
  · intro hx; exact gn_mem_supp hw hx
  · intro hx
    refine ⟨p, hpm, hpp, hC n 0 (by omega) (Nat.zero_le _) _ (fun k hk => ?_) (fun k hk => by omega)⟩
    simp only [Pi.sub_apply]
    rw [hx k hk, gn_vecOf_supp (hw p hpm) k hk]; simp

theorem cn_lines_full_sem {g : Grid} (hI : GridInv g) (he : g.st.empty = false) (hg : g.st.gUp = true)
    (hm : g.st.gMin = true) (hl : g.gs.numLines = g.spaceDim) : g.sem = spaceSet g.spaceDim := by
  by_cases hpos : 0 < g.spaceDim
  · obtain ⟨_, hgw, hgn, hgs⟩ := gn_sem_of_gUp hI hpos he hg
    obtain ⟨_, hut, hk0⟩ := hI.gmin he hpos hm
    rw [hgs]
    exact cn_full_lines hgw hgn hut hk0 hl
  · have h0 : g.spaceDim = 0 := by omega
    rw [sem_of_zdim he h0, h0]

/-- Grid_public.cc:937 `constrains(var)`: `none` exactly on a dimension mismatch; the answer is `false` iff the grid is
    not empty and coordinate `var` is free; the object keeps its grid -/
theorem cn_constrains (g : Grid) (v : Nat) (hI : GridInv g) :
    ((constrains g v).2 = none ↔ g.spaceDim < v + 1) ∧ GridInv (constrains g v).1 ∧ (constrains g v).1.sem = g.sem ∧
    (constrains g v).1.spaceDim = g.spaceDim ∧
    (∀ b, (constrains g v).2 = some b → (b = false ↔ cn_Unconstrained v g.sem)) := by
  unfold constrains
  by_cases hd : g.spaceDim < v + 1
  · rw [if_pos hd]; exact ⟨⟨fun _ => hd, fun _ => rfl⟩, hI, rfl, rfl, (fun b h => by cases h)⟩
  · rw [if_neg hd]
    have hnone : ∀ (G : Grid) (o : Bool), ((G, some o).2 = none ↔ g.spaceDim < v + 1) :=
      fun G o => ⟨(fun h => by cases h), fun h => absurd h hd⟩
    have hv : v < g.spaceDim := by omega
    by_cases hemp : g.st.empty = true
    · rw [if_pos (show g.markedEmpty = true from hemp)]
      refine ⟨⟨(fun h => by cases h), fun h => absurd h hd⟩, hI, rfl, rfl, fun b hb => ?_⟩
      have : b = true := (Option.some.inj hb).symm
      rw [this, sem_of_empty hemp]
      exact ⟨(fun h => by cases h), fun h => absurd h (cn_unconstrained_empty v)⟩
    · have he : g.st.empty = false := by simpa using hemp
      rw [if_neg (show ¬ (g.markedEmpty = true) from hemp)]
      have hpos : 0 < g.spaceDim := by omega
      by_cases hg : g.st.gUp = true
      · rw [if_pos (show g.generatorsAreUpToDate = true from hg)]
        obtain ⟨_, hgw, hgn, hgs⟩ := gn_sem_of_gUp hI hpos he hg
        have hnonempty : g.sem.Nonempty := by
          rw [sem_of_gUp he hpos hg]; exact gensSet_nonempty hgn
        by_cases hc : g.st.cUp = true
        · rw [if_pos (show g.congruencesAreUpToDate = true from hc)]
          refine ⟨⟨(fun h => by cases h), fun h => absurd h hd⟩, hI, rfl, rfl, fun b hb => ?_⟩
          have : b = syntacticCheck g v := (Option.some.inj hb).symm
          rw [this]; exact cn_syntacticCheck g v hI he hv hc hnonempty
        · have hcf : g.st.cUp = false := by simpa using hc
          rw [if_neg (show ¬ (g.congruencesAreUpToDate = true) from hc)]
          by_cases hl : g.generatorsAreMinimized = true ∧ g.gs.numLines = g.spaceDim
          · rw [if_pos hl]
            refine ⟨⟨(fun h => by cases h), fun h => absurd h hd⟩, hI, rfl, rfl, fun b hb => ?_⟩
            have : b = false := (Option.some.inj hb).symm
            rw [this, cn_lines_full_sem hI he hg hl.1 hl.2]
            exact ⟨fun _ => cn_unconstrained_space _ v hv, fun _ => rfl⟩
          · rw [if_neg hl]
            by_cases hany : (g.gen.reverse.any fun gi => gi.line && Red.get gi.e (v + 1) ≠ 0 && allZ gi.e 1 (v + 1)
                && allZ gi.e (v + 2) (g.spaceDim + 1)) = true
            · rw [if_pos hany]
              refine ⟨⟨(fun h => by cases h), fun h => absurd h hd⟩, hI, rfl, rfl, fun b hb => ?_⟩
              have : b = false := (Option.some.inj hb).symm
              rw [this]
              refine ⟨fun _ => ?_, fun _ => rfl⟩
              rw [List.any_reverse, List.any_eq_true] at hany
              obtain ⟨gi, hgi, hcond⟩ := hany
              simp only [Bool.and_eq_true, decide_eq_true_eq] at hcond
              rw [hgs]
              exact cn_line_unconstrained hgn hgw v hv gi hgi hcond.1.1.1 hcond.1.1.2 hcond.1.2 hcond.2
            · rw [if_neg hany]
              obtain ⟨u1, u2, u3, u4, _, _, u7, _⟩ := updateCongruences_spec' g hI he hpos hg hcf
              refine ⟨⟨(fun h => by cases h), fun h => absurd h hd⟩, u1, u2, u3, fun b hb => ?_⟩
              have : b = syntacticCheck (updateCongruences g) v := (Option.some.inj hb).symm
              rw [this, ← u2]
              exact cn_syntacticCheck _ v u1 u4 (by omega) u7 (by rw [u2]; exact hnonempty)
      · rw [if_neg (show ¬ (g.generatorsAreUpToDate = true) from hg)]
        obtain ⟨m1, m2, m3, m4, m5, m6⟩ := minimize_spec' g hI
        by_cases hb2 : (minimize g).2 = true
        · have : (!(minimize g).2) = false := by rw [hb2]; rfl
          simp only [this, Bool.false_eq_true, if_false]
          obtain ⟨a, _, c⟩ := m6 hb2 hpos
          refine ⟨⟨(fun h => by cases h), fun h => absurd h hd⟩, m1, m2, m3, fun b hb => ?_⟩
          have : b = syntacticCheck (minimize g).1 v := (Option.some.inj hb).symm
          rw [this, ← m2]
          exact cn_syntacticCheck _ v m1 a (by omega) (m1.cminUp c) (by rw [m2]; exact m4.mp hb2)
        · have hbf : (minimize g).2 = false := by simpa using hb2
          have : (!(minimize g).2) = true := by rw [hbf]; rfl
          simp only [this, if_true]
          refine ⟨⟨(fun h => by cases h), fun h => absurd h hd⟩, m1, m2, m3, fun b hb => ?_⟩
          have : b = true := (Option.some.inj hb).symm
          rw [this, ← m2, sem_of_empty (m5 hbf)]
          exact ⟨(fun h => by cases h), fun h => absurd h (cn_unconstrained_empty v)⟩

example : (constrains cn_exGrid' 0).2 = some true ∧ (constrains cn_exGrid' 1).2 = none := by decide +kernel

end PPLV.Lattice.GO

import PPLV.Lattice.ProofsConvGCStep

/-!
# `Grid::conversion` (generators → congruences): the main loop, `set_modulus`, the final products
-/
namespace PPLV.Lattice.Red

section
variable (source : List GRow) (dk : List Nat) (dims : Nat)

structure GInv (d : Nat) (st : GCSt) : Prop where
  si : st.sourceIndex = nv dk d
  di : st.destIndex = nl dk dims - nl dk d
  len : st.dest.length = nl dk dims
  rows : ∃ L : Int, 0 < L ∧ ∀ q, q < dims → nlB dk q = true →
    RowInv source dk dims d L q (rowAt st.dest (pos dk dims q))

def gcDimA (N : Nat) (st : GCSt) (dim : Nat) : List CRow × Nat :=
  if kind dk dim ≠ GEN_VIRTUAL then
    ((dimsDown st.destIndex).foldl (gcDivideRow (get (rowAt source (st.sourceIndex - 1)).e dim) dim N) st.dest,
      st.sourceIndex - 1)
  else (st.dest, st.sourceIndex)

def gcDimK (st : GCSt) (dim : Nat) : Nat := if kind dk dim ≠ LINE then st.destIndex + 1 else st.destIndex

theorem gcDim_eq (N : Nat) (st : GCSt) (dim : Nat) :
    gcDim source dk N st dim =
      { dest := ((dimsDown dim).foldl (gcColStep source dk dim (gcDimK dk st dim))
          ((gcDimA source dk N st dim).2, (gcDimA source dk N st dim).1)).2,
        sourceIndex := (gcDimA source dk N st dim).2,
        destIndex := gcDimK dk st dim } := rfl

theorem gcDimA_spec (hs : SrcOK dims source dk) (e : Nat) (he : e < dims) (st : GCSt)
    (h : GInv source dk dims (e + 1) st) :
    (gcDimA source dk (nl dk dims) st e).2 = nv dk e ∧
      PhaseA dk e st.destIndex (sEnt source (nv dk e) e) st.dest (gcDimA source dk (nl dk dims) st e).1 := by
  obtain ⟨hsi, hdi, hlen, _⟩ := h
  unfold gcDimA
  by_cases hv : kind dk e = GEN_VIRTUAL
  · have hvb : nvB dk e = false := by simp [nvB, hv]
    simp only [hv, ne_eq, not_true_eq_false, if_false]
    refine ⟨hsi.trans (cntBelow_succ_neg _ e hvb), rfl, 1, by omega, fun i _ => ?_⟩
    refine ⟨1, by omega, fun _ => rfl, by simp, rfl, fun k _ => by simp, fun _ hc => ?_, fun _ => by simp⟩
    rw [hvb] at hc; exact absurd hc (by simp)
  · have hvb : nvB dk e = true := by simp [nvB, hv]
    have hsi' : st.sourceIndex - 1 = nv dk e := by rw [hsi.trans (cntBelow_succ_pos _ e hvb)]; rfl
    simp only [hv, ne_eq, not_false_eq_true, if_true]
    rw [hsi']
    refine ⟨rfl, ?_⟩
    have ha := hs.diag e he hvb
    obtain ⟨d1, f, hf, d2⟩ := divPhase_spec (sEnt source (nv dk e) e) ha e st.destIndex (nl dk dims) st.dest hlen
    refine ⟨d1, f, hf, fun i hi => ?_⟩
    obtain ⟨fi, hfi, c1, c2, c3, c4, c5⟩ := d2 i hi
    refine ⟨fi, hfi, c1, c2, c3, fun k hk => c4 k (Or.inl hk), fun h1 _ => c5 (Nat.zero_le _) h1, fun hc => ?_⟩
    exact c4 e (Or.inr (fun h => hc ⟨h.2, hvb⟩))

theorem gcDimK_spec (e : Nat) (he : e < dims) (st : GCSt) (hdi : st.destIndex = nl dk dims - nl dk (e + 1)) :
    gcDimK dk st e = nl dk dims - nl dk e := by
  unfold gcDimK
  by_cases hl : kind dk e = LINE
  · have hlb : nlB dk e = false := by simp [nlB, hl]
    simp only [hl, ne_eq, not_true_eq_false, if_false]
    exact hdi.trans (cntBelow_sub_neg _ e dims hlb).symm
  · have hlb : nlB dk e = true := by simp [nlB, hl]
    simp only [hl, ne_eq, not_false_eq_true, if_true]
    rw [hdi]; exact (cntBelow_sub_pos _ he hlb).symm

/-- one turn of the conversion loop keeps the invariant -/
theorem gcDim_inv (hs : SrcOK dims source dk) (e : Nat) (he : e < dims) (st : GCSt)
    (h : GInv source dk dims (e + 1) st) : GInv source dk dims e (gcDim source dk (nl dk dims) st e) := by
  obtain ⟨hA2, hA⟩ := gcDimA_spec source dk dims hs e he st h
  obtain ⟨hsi, hdi, hlen, L, hL, hrows⟩ := h
  have hK' := gcDimK_spec dk dims e he st hdi
  have hrowlen : ∀ i, i < st.dest.length → (rowAt st.dest i).e.length = dims := by
    intro i hi
    obtain ⟨q, hq, hql, rfl⟩ := pos_surj dk dims i (by omega)
    exact (hrows q hq hql).len
  have hrowlen1 : ∀ i, i < (gcDimA source dk (nl dk dims) st e).1.length →
      (rowAt (gcDimA source dk (nl dk dims) st e).1 i).e.length = dims := by
    intro i hi
    rw [hA.len] at hi
    obtain ⟨f, _, hf⟩ := hA.ex
    obtain ⟨fi, _, _, _, c3, _⟩ := hf i hi
    rw [c3]; exact hrowlen i hi
  rw [gcDim_eq, hA2]
  obtain ⟨hc1, hC⟩ := colPhase_spec source dk dims e (gcDimK dk st e) (gcDimA source dk (nl dk dims) st e).1 he hrowlen1
  refine ⟨rfl, hK', ?_, ?_⟩
  · exact hC.len.trans (hA.len.trans hlen)
  · exact step_rows source dk dims hs e he st.dest _ _ st.destIndex (gcDimK dk st e) hdi hK' hlen L hL hrows hA hC

end

/-! ### the whole loop -/

/-- the state after the conversion loop -/
def gcLoop (n : Nat) (source : List GRow) (dk : List Nat) : GCSt :=
  (dimsDown (n + 1)).foldl (gcDim source dk (gcCount source dk (n + 1)).2.1)
    { dest := gcInit source dk (n + 1) (gcCount source dk (n + 1)).2.2, sourceIndex := source.length, destIndex := 0 }

theorem conversionGensToCgs_eq (n : Nat) (source : List GRow) (dk : List Nat) :
    conversionGensToCgs n source dk =
      gcReduce dk (n + 1) (gcSetModulus (gcLoop n source dk).dest (gcCount source dk (n + 1)).2.1) := rfl

theorem nlB_nvB_param (dk : List Nat) (dims : Nat) (hk : ∀ d, d < dims → kind dk d ≤ 2) (q : Nat) (hq : q < dims)
    (hl : nlB dk q = true) : (nvB dk q = true ↔ kind dk q = PARAMETER) ∧ (nvB dk q = false ↔ kind dk q = GEN_VIRTUAL) := by
  have h2 := hk q hq
  have hne : kind dk q ≠ 1 := by simpa [nlB, LINE] using hl
  constructor
  · simp only [nvB, GEN_VIRTUAL, PARAMETER, bne_iff_ne, ne_eq]; omega
  · simp only [nvB, GEN_VIRTUAL, bne_eq_false_iff_eq]

theorem gcLoop_inv (n : Nat) (source : List GRow) (dk : List Nat) (hs : SrcOK (n + 1) source dk)
    (hk : ∀ d, d < n + 1 → kind dk d ≤ 2) : GInv source dk (n + 1) 0 (gcLoop n source dk) := by
  obtain ⟨c1, c2, c3⟩ := gcCount_spec source dk (n + 1) hs hk
  obtain ⟨i1, i2⟩ := gcInit_spec source dk (n + 1) (gcCount source dk (n + 1)).2.2 hs hk
  unfold gcLoop
  rw [c1]
  refine foldl_dimsDown_inv (gcDim source dk (nl dk (n + 1))) (fun d st => GInv source dk (n + 1) d st) (n + 1) _ ?_ ?_
  · refine ⟨hs.len, by simp, i1, (gcCount source dk (n + 1)).2.2, c2, fun q hq hql => ?_⟩
    obtain ⟨k1, k2⟩ := nlB_nvB_param dk (n + 1) hk q hq hql
    obtain ⟨u1, u2⟩ := i2 q hq hql
    by_cases hv : nvB dk q = true
    · obtain ⟨m1, m2, m3⟩ := u2 (k1.mp hv)
      have hdiv := c3 q hq (k1.mp hv)
      have hSpos := hs.diag q hq hv
      have hquot : 0 < (gcCount source dk (n + 1)).2.2 / sEnt source (nv dk q) q := by
        have e := Int.ediv_mul_cancel hdiv
        by_contra hc
        have h1 : (gcCount source dk (n + 1)).2.2 / sEnt source (nv dk q) q ≤ 0 := by omega
        have := Int.mul_nonpos_of_nonpos_of_nonneg h1 (Int.le_of_lt hSpos)
        omega
      refine ⟨m2, fun h => by rw [hv] at h; exact absurd h (by simp), fun _ => by rw [m1]; decide, fun k hk' => ?_, ?_, ?_⟩
      · rw [m3 k, if_neg (by omega)]
      · rw [m3 q, if_pos rfl]; exact hquot
      · refine ⟨(gcCount source dk (n + 1)).2.2, c2, fun _ => rfl, fun h => by omega, fun _ => ⟨fun k hk' => ?_, fun _ => ?_, fun h => ?_⟩⟩
        · rw [m3 k, if_neg hk']
        · rw [m3 q, if_pos rfl]
          exact Int.ediv_mul_cancel (c3 q hq (k1.mp hv))
        · rw [hv] at h; exact absurd h (by simp)
    · have hv' : nvB dk q = false := by simpa using hv
      obtain ⟨m1, m2, m3⟩ := u1 (k2.mp hv')
      refine ⟨m2, fun _ => m1, fun h => absurd h hv, fun k hk' => ?_, ?_, ?_⟩
      · rw [m3 k, if_neg (by omega)]
      · rw [m3 q, if_pos rfl]; decide
      · refine ⟨1, by omega, fun h => absurd h hv, fun h => by omega, fun _ => ⟨fun k hk' => ?_, fun h => absurd h hv, fun _ => ?_⟩⟩
        · rw [m3 k, if_neg hk']
        · rw [m3 q, if_pos rfl]
  · intro d st hd h
    exact gcDim_inv source dk (n + 1) hs d hd st h

/-! ### the final rows -/

/-- a row before the final reduction: `M` the common modulus, `L` the common diagonal product -/
structure DiagRow (source : List GRow) (dk : List Nat) (dims : Nat) (M L : Int) (q : Nat) (c : CRow) : Prop where
  len : c.e.length = dims
  mv : nvB dk q = false → c.m = 0
  mp : nvB dk q = true → c.m = M
  tri : ∀ k, q < k → get c.e k = 0
  diag : 0 < get c.e q
  prod : ∀ p, p < dims → nvB dk p = true →
    dotUpto c.e (rowAt source (nv dk p)).e dims = if p = q then L else 0

structure DiagOK (source : List GRow) (dk : List Nat) (dims : Nat) (M L : Int) (T : List CRow) : Prop where
  len : T.length = nl dk dims
  rows : ∀ q, q < dims → nlB dk q = true → DiagRow source dk dims M L q (rowAt T (pos dk dims q))

/-- a row of the result: `M` the common modulus, `L` the common product -/
structure FinRow (source : List GRow) (dk : List Nat) (dims : Nat) (M L : Int) (q : Nat) (c : CRow) : Prop where
  len : c.e.length = dims
  mv : nvB dk q = false → c.m = 0
  mp : nvB dk q = true → c.m = M
  tri : ∀ k, q < k → get c.e k = 0
  diag : 0 < get c.e q
  prod : ∀ p, p < dims → nvB dk p = true →
    (kind dk p = LINE → dotUpto c.e (rowAt source (nv dk p)).e dims = 0) ∧
    (nvB dk q = false → dotUpto c.e (rowAt source (nv dk p)).e dims = 0) ∧
    L ∣ dotUpto c.e (rowAt source (nv dk p)).e dims

structure FinalOK (source : List GRow) (dk : List Nat) (dims : Nat) (M L : Int) (T : List CRow) : Prop where
  len : T.length = nl dk dims
  rows : ∀ q, q < dims → nlB dk q = true → FinRow source dk dims M L q (rowAt T (pos dk dims q))

theorem DiagRow.fin {source : List GRow} {dk : List Nat} {dims : Nat} {M L : Int} {q : Nat} {c : CRow}
    (hql : nlB dk q = true) (R : DiagRow source dk dims M L q c) : FinRow source dk dims M L q c := by
  refine ⟨R.len, R.mv, R.mp, R.tri, R.diag, fun p hp hpv => ?_⟩
  rw [R.prod p hp hpv]
  refine ⟨fun hline => ?_, fun hqv => ?_, ?_⟩
  · rw [if_neg]
    intro hpq; subst hpq
    simp [nlB, hline] at hql
  · rw [if_neg]
    intro hpq; subst hpq
    rw [hpv] at hqv; exact absurd hqv (by simp)
  · by_cases hpq : p = q
    · rw [if_pos hpq]
    · rw [if_neg hpq]; exact Int.dvd_zero _

theorem DiagOK.fin {source : List GRow} {dk : List Nat} {dims : Nat} {M L : Int} {T : List CRow}
    (h : DiagOK source dk dims M L T) : FinalOK source dk dims M L T :=
  ⟨h.len, fun q hq hql => (h.rows q hq hql).fin hql⟩

/-- after `set_modulus`: the matrix of products is `L` times the identity, `M·D = L` with `D = source[0][0]` -/
theorem gcSetModulus_diag (n : Nat) (source : List GRow) (dk : List Nat) (hs : SrcOK (n + 1) source dk)
    (hk : ∀ d, d < n + 1 → kind dk d ≤ 2) (h0 : kind dk 0 = PARAMETER) :
    ∃ M L : Int, 0 < M ∧ M * sEnt source 0 0 = L ∧
      DiagOK source dk (n + 1) M L (gcSetModulus (gcLoop n source dk).dest (gcCount source dk (n + 1)).2.1) := by
  obtain ⟨c1, _, _⟩ := gcCount_spec source dk (n + 1) hs hk
  obtain ⟨_, _, hlen, L, hL, hrows⟩ := gcLoop_inv n source dk hs hk
  rw [c1]
  have hl0 : nlB dk 0 = true := by simp [nlB, h0, PARAMETER, LINE]
  have hv0 : nvB dk 0 = true := by simp [nvB, h0, PARAMETER, GEN_VIRTUAL]
  have hpos0 : pos dk (n + 1) 0 = nl dk (n + 1) - 1 := by
    have := cntBelow_succ_pos (nlB dk) 0 hl0
    simp only [pos, nl] at *
    rw [this]; simp [cntBelow]
  -- the last row
  have R0 := hrows 0 (by omega) hl0
  obtain ⟨lam, hlam, hlamL, hQ, _⟩ := R0.ex
  have hprod := hQ (Nat.le_refl _) 0 (by omega) hv0
  have hD := hs.diag 0 (by omega) hv0
  have hnv0 : nv dk 0 = 0 := rfl
  rw [hnv0] at hD
  have hM : get (rowAt (gcLoop n source dk).dest (nl dk (n + 1) - 1)).e 0 * sEnt source 0 0 = L := by
    rw [← hpos0, ← hlamL hv0]
    simp only [Qd, if_true, Nat.lt_irrefl, if_false] at hprod
    have z := dotUpto_zero_from (rowAt (gcLoop n source dk).dest (pos dk (n + 1) 0)).e (rowAt source (nv dk 0)).e 1 (n + 1)
      (fun k hk' _ => R0.tri k (by omega)) (by omega)
    rw [z] at hprod
    simp only [dotUpto, hnv0] at hprod
    simp only [sEnt]
    linear_combination hprod
  have hMpos : 0 < get (rowAt (gcLoop n source dk).dest (nl dk (n + 1) - 1)).e 0 := by
    rw [← hpos0]; exact R0.diag
  refine ⟨_, L, hMpos, hM, ?_, fun q hq hql => ?_⟩
  · simp [gcSetModulus, hlen]
  · have R := hrows q hq hql
    have hi : pos dk (n + 1) q < (gcLoop n source dk).dest.length := by rw [hlen]; exact pos_lt dk (n + 1) q hq hql
    unfold gcSetModulus
    rw [gc_rowAt_map _ _ _ hi]
    obtain ⟨lam', hlam', hlamL', hQ', _⟩ := R.ex
    have hprods : ∀ p, p < n + 1 → nvB dk p = true →
        dotUpto (rowAt (gcLoop n source dk).dest (pos dk (n + 1) q)).e (rowAt source (nv dk p)).e (n + 1) =
          if p = q then L else 0 := by
      intro p hp hpv
      have := hQ' (Nat.zero_le _) p hp hpv
      unfold Qd at this
      rw [if_neg (Nat.not_lt_zero _)] at this
      have z : dotUpto (rowAt (gcLoop n source dk).dest (pos dk (n + 1) q)).e (rowAt source (nv dk p)).e 0 = 0 := rfl
      by_cases hpq : p = q
      · subst hpq
        rw [if_pos rfl] at this ⊢
        rw [← hlamL' hpv]
        linear_combination this + z
      · rw [if_neg hpq] at this ⊢
        linear_combination this + z
    have hfin : ∀ m' : Int, (nvB dk q = false → m' = 0) → (nvB dk q = true → m' = get (rowAt (gcLoop n source dk).dest (nl dk (n + 1) - 1)).e 0) →
        DiagRow source dk (n + 1) (get (rowAt (gcLoop n source dk).dest (nl dk (n + 1) - 1)).e 0) L q
          { (rowAt (gcLoop n source dk).dest (pos dk (n + 1) q)) with m := m' } := by
      intro m' hm1 hm2
      exact ⟨R.len, hm1, hm2, R.tri, R.diag, hprods⟩
    by_cases hv : nvB dk q = true
    · have : (rowAt (gcLoop n source dk).dest (pos dk (n + 1) q)).isProperCongruence = true := by
        simp [CRow.isProperCongruence, R.mp hv]
      simp only [this, if_true]
      exact hfin _ (fun h => by rw [hv] at h; exact absurd h (by simp)) (fun _ => rfl)
    · have hv' : nvB dk q = false := by simpa using hv
      have : (rowAt (gcLoop n source dk).dest (pos dk (n + 1) q)).isProperCongruence = false := by
        simp [CRow.isProperCongruence, R.mv hv']
      simp only [this, Bool.false_eq_true, if_false]
      have := hfin (rowAt (gcLoop n source dk).dest (pos dk (n + 1) q)).m (fun _ => R.mv hv') (fun h => absurd h hv)
      exact this

theorem gcSetModulus_final (n : Nat) (source : List GRow) (dk : List Nat) (hs : SrcOK (n + 1) source dk)
    (hk : ∀ d, d < n + 1 → kind dk d ≤ 2) (h0 : kind dk 0 = PARAMETER) :
    ∃ M L : Int, 0 < M ∧ M * sEnt source 0 0 = L ∧
      FinalOK source dk (n + 1) M L (gcSetModulus (gcLoop n source dk).dest (gcCount source dk (n + 1)).2.1) := by
  obtain ⟨M, L, h1, h2, h3⟩ := gcSetModulus_diag n source dk hs hk h0
  exact ⟨M, L, h1, h2, h3.fin⟩

end PPLV.Lattice.Red

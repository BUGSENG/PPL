import PPLV.Lattice.ProofsRedGenStep

/-!
# Triangular form (`Tri`), the sign normalisation of the pivot, and `reduce_reduced` on generators
-/
namespace PPLV.Lattice.Red
open PPLV.Lattice

/-- row `q` is the pivot row of dimension `d`: its kind agrees with its line flag, the diagonal entry is
    positive, the entries before it vanish -/
def TriRow (dk : List Nat) (rows : List GRow) (d q : Nat) : Prop :=
  kind dk d = (if (rowAt rows q).line then LINE else PARAMETER) ∧ 0 < get (rowAt rows q).e d ∧
    ∀ c, c < d → get (rowAt rows q).e c = 0

/-- rows `0..p-1` are the pivot rows, in order, of the non-virtual dimensions among `0..d-1` -/
def Tri (dk : List Nat) (rows : List GRow) : Nat → Nat → Prop
  | 0, p => p = 0
  | d + 1, p =>
    if kind dk d = GEN_VIRTUAL then Tri dk rows d p
    else 0 < p ∧ TriRow dk rows d (p - 1) ∧ Tri dk rows d (p - 1)

theorem Tri_virt {dk : List Nat} {rows : List GRow} {d p : Nat} (h : kind dk d = GEN_VIRTUAL) :
    Tri dk rows (d + 1) p ↔ Tri dk rows d p := by
  simp only [Tri, if_pos h]

theorem Tri_real {dk : List Nat} {rows : List GRow} {d p : Nat} (h : kind dk d ≠ GEN_VIRTUAL) :
    Tri dk rows (d + 1) p ↔ (0 < p ∧ TriRow dk rows d (p - 1) ∧ Tri dk rows d (p - 1)) := by
  simp only [Tri, if_neg h]

theorem Tri_le {dk : List Nat} {rows : List GRow} : ∀ d p, Tri dk rows d p → p ≤ d := by
  intro d
  induction d with
  | zero => intro p h; have : p = 0 := h; omega
  | succ d ih =>
    intro p h
    by_cases hv : kind dk d = GEN_VIRTUAL
    · have := ih p ((Tri_virt hv).mp h); omega
    · obtain ⟨_, _, ht⟩ := (Tri_real hv).mp h
      have := ih _ ht; omega

theorem Tri_congr {dk : List Nat} {rows rows' : List GRow} : ∀ d p,
    (∀ j, j < p → (rowAt rows' j).line = (rowAt rows j).line ∧
      ∀ c, c < d → (get (rowAt rows' j).e c).sign = (get (rowAt rows j).e c).sign) →
    Tri dk rows d p → Tri dk rows' d p := by
  intro d
  induction d with
  | zero => intro p _ h; exact h
  | succ d ih =>
    intro p hrel h
    by_cases hv : kind dk d = GEN_VIRTUAL
    · rw [Tri_virt hv] at h ⊢
      exact ih p (fun j hj => ⟨(hrel j hj).1, fun c hc => (hrel j hj).2 c (by omega)⟩) h
    · rw [Tri_real hv] at h ⊢
      obtain ⟨hp, ⟨k1, k2, k3⟩, ht⟩ := h
      have hr := hrel (p - 1) (by omega)
      refine ⟨hp, ⟨by rw [hr.1]; exact k1, ?_, ?_⟩,
        ih (p - 1) (fun j hj => ⟨(hrel j (by omega)).1, fun c hc => (hrel j (by omega)).2 c (by omega)⟩) ht⟩
      · have := hr.2 d (by omega)
        rw [Int.sign_eq_one_of_pos k2] at this
        exact Int.sign_eq_one_iff_pos.mp this
      · intro c hc
        have := hr.2 c (by omega)
        rw [k3 c hc, Int.sign_zero] at this
        exact Int.sign_eq_zero_iff_zero.mp this

theorem Tri_dk {dk dk' : List Nat} {rows : List GRow} : ∀ d p,
    (∀ i, i < d → kind dk' i = kind dk i) → Tri dk rows d p → Tri dk' rows d p := by
  intro d
  induction d with
  | zero => intro p _ h; exact h
  | succ d ih =>
    intro p hk h
    have e := hk d (by omega)
    by_cases hv : kind dk d = GEN_VIRTUAL
    · rw [Tri_virt hv] at h
      rw [Tri_virt (by rw [e]; exact hv)]
      exact ih p (fun i hi => hk i (by omega)) h
    · rw [Tri_real hv] at h
      rw [Tri_real (by rw [e]; exact hv)]
      obtain ⟨hp, hrow, ht⟩ := h
      refine ⟨hp, ?_, ih _ (fun i hi => hk i (by omega)) ht⟩
      unfold TriRow at hrow ⊢
      rw [e]; exact hrow

/-- the walk `--kinds_index; while (kinds[kinds_index] == GEN_VIRTUAL) --kinds_index;` finds the dimension of
    the last pivot row -/
theorem skipDown_spec {dk : List Nat} {rows : List GRow} : ∀ ki m, Tri dk rows ki (m + 1) →
    skipDown dk ki < ki ∧ TriRow dk rows (skipDown dk ki) m ∧ Tri dk rows (skipDown dk ki) m := by
  intro ki
  induction ki with
  | zero => intro m h; exact absurd h (Nat.succ_ne_zero m)
  | succ k ih =>
    intro m h
    by_cases hv : kind dk k = GEN_VIRTUAL
    · have e : skipDown dk (k + 1) = skipDown dk k := by simp only [skipDown, if_pos hv]
      rw [e]
      obtain ⟨h1, h2, h3⟩ := ih m ((Tri_virt hv).mp h)
      exact ⟨by omega, h2, h3⟩
    · have e : skipDown dk (k + 1) = k := by simp only [skipDown, if_neg hv]
      rw [e]
      obtain ⟨_, hr, ht⟩ := (Tri_real hv).mp h
      exact ⟨by omega, by simpa using hr, by simpa using ht⟩

/-! ### what `reduce_reduced` guarantees -/

structure GRRel (n p dim : Nat) (rows rows' : List GRow) : Prop where
  len : rows'.length = rows.length
  wf : WfI n rows'
  ge : ∀ i, p ≤ i → rowAt rows' i = rowAt rows i
  lt : ∀ j, j < p → (rowAt rows' j).line = (rowAt rows j).line ∧
    ∀ c, c < dim → get (rowAt rows' j).e c = get (rowAt rows j).e c
  hom : ∀ v, Hom n rows v ↔ Hom n rows' v

theorem GRRel.refl {n p dim : Nat} {rows : List GRow} (hwf : WfI n rows) : GRRel n p dim rows rows :=
  ⟨rfl, hwf, fun _ _ => rfl, fun _ _ => ⟨rfl, fun _ _ => rfl⟩, fun _ => Iff.rfl⟩

theorem GRRel.trans {n p dim : Nat} {r1 r2 r3 : List GRow} (h1 : GRRel n p dim r1 r2) (h2 : GRRel n p dim r2 r3) :
    GRRel n p dim r1 r3 :=
  ⟨h2.len.trans h1.len, h2.wf, fun i hi => (h2.ge i hi).trans (h1.ge i hi),
    fun j hj => ⟨(h2.lt j hj).1.trans (h1.lt j hj).1, fun c hc => ((h2.lt j hj).2 c hc).trans ((h1.lt j hj).2 c hc)⟩,
    fun v => (h1.hom v).trans (h2.hom v)⟩

theorem rrLoop_spec {n p dim : Nat} {dk : List Nat} {pivotE : Row} (pivotDim half : Int) (isL : Bool)
    (rowKind : Nat) (_hdim : dim ≤ n) :
    ∀ (m ki : Nat) (rows : List GRow), m ≤ p → ki ≤ dim → p < rows.length → WfI n rows →
      (rowAt rows p).e = pivotE → (isL = true → (rowAt rows p).line = true) →
      (∀ c, c < dim → get pivotE c = 0) → Tri dk rows ki m →
      GRRel n p dim rows (reduceReducedLoop true dk pivotE pivotDim half dim dim n isL rowKind m ki rows) := by
  intro m
  induction m with
  | zero => intro ki rows _ _ _ hwf _ _ _ _; rw [reduceReducedLoop_zero]; exact GRRel.refl hwf
  | succ m ih =>
    intro ki rows hmp hki hp hwf hpe hisL hzp htri
    obtain ⟨rows', hcase, heq⟩ :=
      reduceReducedLoop_succ true dk pivotE pivotDim half dim dim n isL rowKind m ki (skipDown dk ki) rows rfl
    rw [heq]
    obtain ⟨hlt, hrow, ht⟩ := skipDown_spec ki m htri
    have hm : m < rows.length := by omega
    have hmp' : m ≠ p := by omega
    have step : GRRel n p dim rows rows' := by
      rcases hcase with rfl | ⟨hc, q, rfl⟩
      · exact GRRel.refl hwf
      · generalize hR' : HasExpr.setExpr (rowAt rows m)
          (linearCombine (HasExpr.expr (rowAt rows m)) pivotE 1 (-q) dim (n + 1)) = R'
        have hR'l : R'.line = (rowAt rows m).line := by rw [← hR']; rfl
        have hR'e : R'.e = linearCombine (rowAt rows m).e pivotE 1 (-q) dim (n + 1) := by rw [← hR']; rfl
        refine ⟨by simp, ?_, ?_, ?_, ?_⟩
        · intro i hi; rw [rowAt_set]; split
          · rw [hR'e, length_linearCombine]; exact hwf m hm
          · exact hwf i (by simpa using hi)
        · intro i hi; rw [rowAt_set, if_neg (fun h => by omega)]
        · intro j _; rw [rowAt_set]; split
          · rename_i h
            rw [h.1]
            exact ⟨hR'l, fun c hc => by rw [hR'e]; exact get_lc_pre _ _ _ _ _ hc⟩
          · exact ⟨rfl, fun _ _ => rfl⟩
        · refine hom_iff_comb m p 1 (-q) (by simp) hm hp hmp' ?_ ?_ ?_ ?_ (fun _ => rfl)
          · intro i hi; rw [rowAt_set, if_neg (fun h => hi h.1)]
          · rw [rowAt_set, if_pos ⟨rfl, hm⟩]; exact hR'l
          · rw [rowAt_set, if_pos ⟨rfl, hm⟩]
            refine hv_comb 1 (-q) fun c hc => ?_
            rw [hR'e, get_lc_one (-q) (hwf m hm) hzp c hc, hpe]; ring
          · intro hl
            refine ⟨?_, by decide⟩
            rcases hc with hc | ⟨_, hc⟩
            · exact hisL hc
            · have h1 := hrow.1
              rw [hl, hc] at h1
              exact absurd h1 (by decide)
    have hrec := ih (skipDown dk ki) rows' (by omega) (by omega) (by rw [step.len]; exact hp) step.wf
      (by rw [step.ge p (Nat.le_refl _)]; exact hpe)
      (by intro h; rw [step.ge p (Nat.le_refl _)]; exact hisL h) hzp
      (Tri_congr _ _ (fun j hj => ⟨(step.lt j (by omega)).1,
        fun c hc => by rw [(step.lt j (by omega)).2 c (by omega)]⟩) ht)
    exact step.trans hrec

/-- `reduce_reduced<Grid_Generator_System>(rows, dim, p, dim, n, dk)`: rows `j < p` get a multiple of the
    pivot row subtracted on `[dim, n+1)`; legitimate because `dk` records the line flags of the rows -/
theorem reduceReduced_spec {n p dim : Nat} {dk : List Nat} {rows : List GRow} (hdim : dim ≤ n)
    (hp : p < rows.length) (hwf : WfI n rows) (hzp : ∀ c, c < dim → get (rowAt rows p).e c = 0)
    (hk : kind dk dim = LINE → (rowAt rows p).line = true) (htri : Tri dk rows dim p) :
    GRRel n p dim rows (reduceReduced rows dim p dim n dk true) := by
  unfold reduceReduced
  simp only []
  split
  · exact GRRel.refl hwf
  · refine rrLoop_spec _ _ _ _ hdim p dim rows (Nat.le_refl _) (Nat.le_refl _) hp hwf rfl ?_ hzp htri
    intro h
    apply hk
    simpa using h

/-- `reduce_reduced` keeps the lattice -/
theorem reduceReduced_homSim {n p dim : Nat} {dk : List Nat} {rows : List GRow} (hdim : dim ≤ n)
    (hp : p < rows.length) (hwf : WfI n rows) (hzp : ∀ c, c < dim → get (rowAt rows p).e c = 0)
    (hk : kind dk dim = LINE → (rowAt rows p).line = true) (htri : Tri dk rows dim p) :
    HomSim n rows (reduceReduced rows dim p dim n dk true) :=
  HomSim.of_iff (reduceReduced_spec hdim hp hwf hzp hk htri).hom

/-! ### the sign normalisation of the pivot row -/

/-- `if (pivot.expr.get(dim) < 0) pivot.expr.negate(dim, num_columns);` -/
def negPivotG (rows : List GRow) (p dim n : Nat) : List GRow :=
  if get (rowAt rows p).e dim < 0 then
    rows.set p { rowAt rows p with e := negate (rowAt rows p).e dim (n + 1) }
  else rows

theorem negPivotG_spec {n p dim : Nat} {rows : List GRow} (hdim : dim ≤ n) (hp : p < rows.length)
    (hwf : WfI n rows) (hz : ZeroPre p dim rows) (hpc : get (rowAt rows p).e dim ≠ 0) :
    (negPivotG rows p dim n).length = rows.length ∧ WfI n (negPivotG rows p dim n) ∧
      ZeroPre p dim (negPivotG rows p dim n) ∧ (∀ i, i ≠ p → rowAt (negPivotG rows p dim n) i = rowAt rows i) ∧
      (rowAt (negPivotG rows p dim n) p).line = (rowAt rows p).line ∧
      0 < get (rowAt (negPivotG rows p dim n) p).e dim ∧ ∀ v, Hom n rows v ↔ Hom n (negPivotG rows p dim n) v := by
  unfold negPivotG
  split
  · rename_i hneg
    have hzp := hz p (Nat.le_refl _) hp
    generalize hR' : ({ rowAt rows p with e := negate (rowAt rows p).e dim (n + 1) } : GRow) = R'
    have hR'l : R'.line = (rowAt rows p).line := by rw [← hR']
    have hR'e : R'.e = negate (rowAt rows p).e dim (n + 1) := by rw [← hR']
    have hent : ∀ c, c ≤ n → get R'.e c = (-1) * get (rowAt rows p).e c := by
      intro c hc
      rw [hR'e, get_negate]
      by_cases h : dim ≤ c
      · rw [if_pos ⟨h, by omega⟩]; ring
      · rw [if_neg (fun h' => h h'.1), hzp c (by omega)]; simp
    have hvR : hv n R' = ((-1 : Int) : Rat) • hv n (rowAt rows p) := hv_smul (-1) hent
    have hrp : rowAt (rows.set p R') p = R' := by rw [rowAt_set, if_pos ⟨rfl, hp⟩]
    have hlen : (rows.set p R').length = rows.length := by simp
    refine ⟨hlen, ?_, ?_, ?_, ?_, ?_, ?_⟩
    · intro i hi; rw [rowAt_set]; split
      · rw [hR'e, length_negate]; exact hwf p hp
      · exact hwf i (by simpa using hi)
    · intro i hpi hi c hc; rw [rowAt_set]; split
      · rw [hent c (by omega), hzp c hc]; simp
      · exact hz i hpi (by simpa using hi) c hc
    · intro i hi; rw [rowAt_set, if_neg (fun h => hi h.1)]
    · rw [hrp]; exact hR'l
    · rw [hrp, hent dim hdim]; omega
    · refine hom_iff_one_row p hlen ?_ (by rw [hrp]; exact hR'l) (fun hl => ?_) (fun hl => ?_)
      · intro i hi; rw [rowAt_set, if_neg (fun h => hi h.1)]
      · constructor
        · intro c
          have e : c • hv n (rowAt rows p) = (-c) • hv n (rowAt (rows.set p R') p) := by
            rw [hrp, hvR]; push_cast; module
          rw [e]
          exact hom_line (by omega) (by rw [hrp, hR'l]; exact hl) _
        · intro c
          have e : c • hv n (rowAt (rows.set p R') p) = (-c) • hv n (rowAt rows p) := by
            rw [hrp, hvR]; push_cast; module
          rw [e]
          exact hom_line hp hl _
      · constructor
        · have e : hv n (rowAt rows p) = -hv n (rowAt (rows.set p R') p) := by
            rw [hrp, hvR]; push_cast; module
          rw [e]
          exact hom_neg (hom_pc (by omega) (by rw [hrp, hR'l]; exact hl))
        · have e : hv n (rowAt (rows.set p R') p) = -hv n (rowAt rows p) := by
            rw [hrp, hvR]; push_cast; module
          rw [e]
          exact hom_neg (hom_pc hp hl)
  · rename_i hneg
    exact ⟨rfl, hwf, hz, fun _ _ => rfl, rfl, by omega, fun _ => Iff.rfl⟩

/-- negating the pivot row on `[dim, n+1)` keeps the lattice -/
theorem negPivot_homSim {n p dim : Nat} {rows : List GRow} (hdim : dim ≤ n) (hp : p < rows.length)
    (hwf : WfI n rows) (hz : ZeroPre p dim rows) (hpc : get (rowAt rows p).e dim ≠ 0) :
    HomSim n rows (negPivotG rows p dim n) :=
  HomSim.of_iff (negPivotG_spec hdim hp hwf hz hpc).2.2.2.2.2.2

end PPLV.Lattice.Red

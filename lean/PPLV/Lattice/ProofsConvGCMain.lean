import PPLV.Lattice.ProofsConvGCRed
import PPLV.Lattice.ProofsConvGCCert

/-!
# `Grid::conversion(Grid_Generator_System&, Congruence_System&, Dimension_Kinds&)` is sound

Every point of the grid generated by the (upper triangular) source satisfies the congruence system the
conversion produces: `conversionGensToCgs_sound`.  The proof goes through the matrix of products
`dest[i]·source[j]` (`ProofsConvGCStep.lean`, `ProofsConvGCLoop.lean`, `ProofsConvGCRed.lean`) and the
certificate theorem `cert_sound_prop` (`ProofsConvGCCert.lean`).
-/
namespace PPLV.Lattice.Red
open PPLV.Lattice

/-! ### the last loop -/

def gcReduceStep (dk : List Nat) (st : Nat × List CRow) (dim : Nat) : Nat × List CRow :=
  if kind dk dim ≠ CON_VIRTUAL then (st.1 + 1, reduceReduced st.2 dim st.1 0 dim dk false) else st

theorem gcReduce_eq (dk : List Nat) (dims : Nat) (dest : List CRow) :
    gcReduce dk dims dest = ((dimsDown dims).foldl (gcReduceStep dk) (0, dest)).2 := rfl

theorem reduceReduced_final (source : List GRow) (dk : List Nat) (dims : Nat) (hdk : dk.length = dims) (M L : Int)
    (T : List CRow) (hT : FinalOK source dk dims M L T) (d : Nat) (hd : d < dims) (hl : nlB dk d = true) :
    FinalOK source dk dims M L (reduceReduced T d (pos dk dims d) 0 d dk false) := by
  unfold reduceReduced
  simp only [expr_crow]
  split
  · exact hT
  · have R := hT.rows d hd hl
    refine reduceReducedLoop_final source dk dims hdk M L _ _ _ d _ _ R.tri
      (fun p hp hpv => ⟨(R.prod p hp hpv).1, (R.prod p hp hpv).2.2⟩) ?_ (pos dk dims d) d T hd hl (Nat.le_refl _) rfl hT
    intro hrie p hp hpv
    apply (R.prod p hp hpv).2.1
    simp only [Bool.false_eq_true, if_false, beq_iff_eq] at hrie
    simp [nvB, hrie, EQUALITY, GEN_VIRTUAL]

/-- what every `reduce_reduced` call of the final loop preserves, the whole loop preserves -/
theorem gcReduce_induct (source : List GRow) (dk : List Nat) (dims : Nat) (hdk : dk.length = dims) (M L : Int)
    (Q : List CRow → Prop)
    (hstep : ∀ T d, d < dims → nlB dk d = true → FinalOK source dk dims M L T → Q T →
      Q (reduceReduced T d (pos dk dims d) 0 d dk false))
    (T : List CRow) (hT : FinalOK source dk dims M L T) (hQ : Q T) :
    FinalOK source dk dims M L (gcReduce dk dims T) ∧ Q (gcReduce dk dims T) := by
  rw [gcReduce_eq]
  refine (foldl_dimsDown_inv (gcReduceStep dk)
    (fun d st => st.1 = nl dk dims - nl dk d ∧ FinalOK source dk dims M L st.2 ∧ Q st.2) dims (0, T)
    ⟨by simp, hT, hQ⟩ ?_).2
  rintro d st hd ⟨h1, h2, h3⟩
  unfold gcReduceStep
  by_cases hl : kind dk d = CON_VIRTUAL
  · have hlb : nlB dk d = false := by simp [nlB, hl, CON_VIRTUAL, LINE]
    simp only [hl, ne_eq, not_true_eq_false, if_false]
    exact ⟨h1.trans (cntBelow_sub_neg _ d dims hlb).symm, h2, h3⟩
  · have hlb : nlB dk d = true := by simpa [nlB, CON_VIRTUAL, LINE] using hl
    simp only [hl, ne_eq, not_false_eq_true, if_true]
    have : st.1 = pos dk dims d := by rw [h1]; rfl
    rw [this]
    exact ⟨(cntBelow_sub_pos _ hd hlb).symm, reduceReduced_final source dk dims hdk M L st.2 h2 d hd hlb,
      hstep st.2 d hd hlb h2 h3⟩

theorem gcReduce_final (source : List GRow) (dk : List Nat) (dims : Nat) (hdk : dk.length = dims) (M L : Int)
    (T : List CRow) (hT : FinalOK source dk dims M L T) : FinalOK source dk dims M L (gcReduce dk dims T) :=
  (gcReduce_induct source dk dims hdk M L (fun _ => True) (fun _ _ _ _ _ _ => trivial) T hT trivial).1

/-! ### the products of the result -/

/-- the kinds agree with the line flags: the first non-zero column of a line row is a `LINE` dimension -/
def LinesAgree (n : Nat) (source : List GRow) (dk : List Nat) : Prop :=
  ∀ g ∈ source, g.line = true → ∀ d, d < n + 1 → (∀ k, k < d → get g.e k = 0) → get g.e d ≠ 0 → kind dk d = LINE

/-- the kinds are values of `enum Dimension_Kind` -/
def KindsOK (n : Nat) (dk : List Nat) : Prop := ∀ d, d < n + 1 → kind dk d ≤ 2

/-- **The certificate holds for the result of the conversion**: positive divisor, rows of the right size, every
    dest row against every source row (`CertPair`: product `0` with the lines, in `D·m·ℤ` with the others). -/
theorem conversionGensToCgs_certP (n : Nat) (source : List GRow) (dk : List Nat)
    (hut : upperTriangular n source dk = true) (hdk : dk.length = n + 1) (h0 : kind dk 0 = PARAMETER)
    (hk : KindsOK n dk) (hla : LinesAgree n source dk) :
    0 < get (rowAt source 0).e 0 ∧ (∀ c ∈ conversionGensToCgs n source dk, c.e.length = n + 1) ∧
      ∀ c ∈ conversionGensToCgs n source dk, ∀ g ∈ source, CertPair n (get (rowAt source 0).e 0) c g := by
  have hs := upperTriangular_spec n source dk hut
  obtain ⟨M, L, hM, hML, hfin0⟩ := gcSetModulus_final n source dk hs hk h0
  have hfin := gcReduce_final source dk (n + 1) hdk M L _ hfin0
  rw [← conversionGensToCgs_eq] at hfin
  have hv0 : nvB dk 0 = true := by simp [nvB, h0, PARAMETER, GEN_VIRTUAL]
  have hD := hs.diag 0 (by omega) hv0
  have hnv0 : nv dk 0 = 0 := rfl
  rw [hnv0] at hD
  -- every dest row is the row of a non-line dimension
  have hrow : ∀ c ∈ conversionGensToCgs n source dk, ∃ q, q < n + 1 ∧ nlB dk q = true ∧ FinRow source dk (n + 1) M L q c := by
    intro c hc
    obtain ⟨i, hi, rfl⟩ := (gc_mem_iff_rowAt _ _).mp hc
    rw [hfin.len] at hi
    obtain ⟨q, hq, hql, rfl⟩ := pos_surj dk (n + 1) i hi
    exact ⟨q, hq, hql, hfin.rows q hq hql⟩
  refine ⟨hD, fun c hc => ?_, fun c hc g hg => ?_⟩
  · obtain ⟨q, _, _, R⟩ := hrow c hc
    exact R.len
  · obtain ⟨q, hq, hql, R⟩ := hrow c hc
    obtain ⟨j, hj, rfl⟩ := (gc_mem_iff_rowAt _ _).mp hg
    rw [hs.len] at hj
    obtain ⟨p, hp, hpv, rfl⟩ := cntBelow_surj (nvB dk) (n + 1) j hj
    obtain ⟨r1, r2, r3⟩ := R.prod p hp hpv
    unfold CertPair
    by_cases hline : (rowAt source (cntBelow (nvB dk) p)).line = true
    · rw [if_pos hline]
      apply r1
      apply hla _ hg hline p hp (fun k hk' => hs.zeros p hp hpv k hk')
      have := hs.diag p hp hpv
      simp only [sEnt, nv] at this
      omega
    · rw [if_neg hline]
      by_cases hv : nvB dk q = true
      · rw [R.mp hv]
        have : get (rowAt source 0).e 0 * M = L := by rw [← hML]; simp only [sEnt]; ring
        rw [this]; exact r3
      · have hv' : nvB dk q = false := by simpa using hv
        have : dotRow c.e (rowAt source (cntBelow (nvB dk) p)).e n = 0 := r2 hv'
        rw [this]; exact Int.dvd_zero _

/-- **Soundness of the conversion generators → congruences**: every point of the grid generated by the source
    satisfies the congruence system produced (`D = source[0][0]` the divisor of the source). -/
theorem conversionGensToCgs_sound (n : Nat) (source : List GRow) (dk : List Nat) (_hw : GWf n source)
    (hut : upperTriangular n source dk = true) (hdk : dk.length = n + 1) (h0 : kind dk 0 = PARAMETER)
    (hk : KindsOK n dk) (hla : LinesAgree n source dk) (x : Pt)
    (hx : Hom n source (homog ((get (rowAt source 0).e 0 : Int) : ℚ) x)) :
    cgsSem n (conversionGensToCgs n source dk) x := by
  obtain ⟨hD, hlen, hp⟩ := conversionGensToCgs_certP n source dk hut hdk h0 hk hla
  exact cert_sound_prop n source _ _ (by omega) hlen hp x hx

/-- the hypotheses are satisfiable (and the result is what the library computes): the grid `{1/2 + 3k/2}` of ℚ¹,
    point `(2;1)`, parameter `(0;3|2)`; the result is `2x - 1 ≡ 0 (mod 3)`, `3 ≡ 0 (mod 3)` -/
example :
    let source : List GRow := [{ line := false, e := [2, 1, 0] }, { line := false, e := [0, 3, 2] }]
    let dk : List Nat := [PARAMETER, PARAMETER]
    GWf 1 source ∧ upperTriangular 1 source dk = true ∧ dk.length = 1 + 1 ∧ kind dk 0 = PARAMETER ∧
      KindsOK 1 dk ∧ LinesAgree 1 source dk ∧
      conversionGensToCgs 1 source dk = [{ e := [-1, 2], m := 3 }, { e := [3, 0], m := 3 }] := by
  refine ⟨?_, by decide, rfl, rfl, ?_, ?_, by decide⟩
  · intro r hr; simp at hr; rcases hr with rfl | rfl <;> rfl
  · intro d hd
    have : d = 0 ∨ d = 1 := by omega
    rcases this with rfl | rfl <;> decide
  · intro g hg hl
    simp at hg
    rcases hg with rfl | rfl <;> simp at hl

/-- a second instance with a line and a virtual dimension (ℚ², `n = 2`): point `(1;0,0)`, line along `x₁`
    (kinds: PARAMETER, LINE, GEN_VIRTUAL); the result is the equality `x₂ = 0` and the integrality row -/
example :
    let source : List GRow := [{ line := false, e := [1, 0, 0, 0] }, { line := true, e := [0, 1, 0, 0] }]
    let dk : List Nat := [PARAMETER, LINE, GEN_VIRTUAL]
    upperTriangular 2 source dk = true ∧ LinesAgree 2 source dk ∧
      conversionGensToCgs 2 source dk = [{ e := [0, 0, 1], m := 0 }, { e := [1, 0, 0], m := 1 }] := by
  refine ⟨by decide, ?_, by decide⟩
  intro g hg hl
  simp at hg
  rcases hg with rfl | rfl
  · simp at hl
  · intro d hd hz hnz
    have : d = 0 ∨ d = 1 ∨ d = 2 := by omega
    rcases this with rfl | rfl | rfl
    · simp [get] at hnz
    · rfl
    · have := hz 1 (by omega); simp [get] at this

end PPLV.Lattice.Red

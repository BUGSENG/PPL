import PPLV.Lattice.ProofsDims

/-!
# K2: `concat` is the product of the two grids
-/
namespace PPLV.Lattice
open List

/-- `z ↦ (0,…,0, z₀, z₁, …)` (`n` zeros) -/
def shiftLin (n : Nat) : Pt →ₗ[ℚ] Pt where
  toFun z j := if j < n then 0 else z (j - n)
  map_add' x y := by funext j; by_cases h : j < n <;> simp [h]
  map_smul' c x := by funext j; by_cases h : j < n <;> simp [h]

theorem shiftLin_apply (n : Nat) (z : Pt) (j : Nat) : shiftLin n z j = if j < n then 0 else z (j - n) := rfl

theorem toFun_replicate_append (n : Nat) (v : Vec) : Vec.toFun (List.replicate n (0:Rat) ++ v) = shiftLin n v.toFun := by
  funext j
  rw [shiftLin_apply]
  simp only [Vec.toFun, List.getD_eq_getElem?_getD]
  by_cases h : j < n
  · simp [h, List.getElem?_append_left (by simpa using h : j < (List.replicate n (0:Rat)).length)]
  · simp only [h, if_false]
    rw [List.getElem?_append_right (by simp only [List.length_replicate]; omega)]
    simp

theorem toFun_append_of_length (u v : Vec) (n : Nat) (hu : u.length = n) : Vec.toFun (u ++ v) = fun j => if j < n then u.toFun j else v.toFun (j - n) := by
  funext j
  simp only [Vec.toFun, List.getD_eq_getElem?_getD]
  by_cases h : j < n
  · simp [h, List.getElem?_append_left (by omega : j < u.length)]
  · simp only [h, if_false]
    rw [List.getElem?_append_right (by omega), hu]

theorem length_padTo (n : Nat) (v : Vec) : (padTo n v).length = n := by simp [padTo, vecOfFn]

theorem dir_image (φ : Pt →ₗ[ℚ] Pt) (P L : List Pt) {v : Pt} (h : Abs.Dir P L v) : Abs.Dir (P.map φ) (L.map φ) (φ v) := by
  induction h with
  | zero => simpa using Abs.Dir.zero
  | param k hq _ ih => rw [map_add, map_smul]; exact Abs.Dir.param k (List.mem_map_of_mem hq) ih
  | line c hl _ ih => rw [map_add, map_smul]; exact Abs.Dir.line c (List.mem_map_of_mem hl) ih

/-- the product of two grids, the first of dimension `n` -/
theorem concat_sem (n : Nat) (G H : GridGens) (hG : ∀ x, Gen.sem G x → Supp n x) (y : Pt) :
    Gen.sem (concat n G H) y ↔ ∃ x z, Gen.sem G x ∧ Gen.sem H z ∧ y = x + shiftLin n z := by
  cases G with
  | empty => simp [concat, Gen.sem]
  | gens g =>
    cases H with
    | empty => simp [concat, Gen.sem]
    | gens h =>
      simp only [concat, Gen.sem]
      have hpt : Vec.toFun (padTo n g.pt ++ h.pt) = g.pt.toFun + shiftLin n h.pt.toFun := by
        rw [toFun_append_of_length _ _ n (length_padTo n g.pt), toFun_padTo]
        have hs := hG _ (Gens.Mem.pt (g := g))
        funext j
        simp only [Pi.add_apply, shiftLin_apply]
        by_cases hj : j < n
        · simp [hj]
        · simp [hj, hs j (by omega)]
      have hsh : ∀ X : List Vec, (X.map (fun v => List.replicate n (0:Rat) ++ v)).map Vec.toFun = (X.map Vec.toFun).map (shiftLin n) := by
        intro X; simp only [List.map_map]; apply List.map_congr_left; intro v _; exact toFun_replicate_append n v
      constructor
      · intro hy
        rw [mem_iff_gdir] at hy
        simp only [GDir, List.map_append, hsh, hpt] at hy
        -- decompose the direction
        have split : ∀ v, Abs.Dir (g.params.map Vec.toFun ++ (h.params.map Vec.toFun).map (shiftLin n))
            (g.lines.map Vec.toFun ++ (h.lines.map Vec.toFun).map (shiftLin n)) v →
            ∃ a b, GDir g.params g.lines a ∧ GDir h.params h.lines b ∧ v = a + shiftLin n b := by
          intro v hv
          induction hv with
          | zero => exact ⟨0, 0, Abs.Dir.zero, Abs.Dir.zero, by simp⟩
          | @param w q k hq _ ih =>
            obtain ⟨a, b, ha, hb, rfl⟩ := ih
            rcases List.mem_append.mp hq with hq | hq
            · exact ⟨a + (k:Rat) • q, b, Abs.Dir.param k hq ha, hb, by module⟩
            · obtain ⟨q0, hq0, rfl⟩ := List.mem_map.mp hq
              exact ⟨a, b + (k:Rat) • q0, ha, Abs.Dir.param k hq0 hb, by rw [map_add, map_smul]; module⟩
          | @line w l c hl _ ih =>
            obtain ⟨a, b, ha, hb, rfl⟩ := ih
            rcases List.mem_append.mp hl with hl | hl
            · exact ⟨a + c • l, b, Abs.Dir.line c hl ha, hb, by module⟩
            · obtain ⟨l0, hl0, rfl⟩ := List.mem_map.mp hl
              exact ⟨a, b + c • l0, ha, Abs.Dir.line c hl0 hb, by rw [map_add, map_smul]; module⟩
        obtain ⟨a, b, ha, hb, hab⟩ := split _ hy
        refine ⟨g.pt.toFun + a, h.pt.toFun + b, ?_, ?_, ?_⟩
        · rw [mem_iff_gdir]; simpa using ha
        · rw [mem_iff_gdir]; simpa using hb
        · rw [map_add]
          have : y = (g.pt.toFun + shiftLin n h.pt.toFun) + (y - (g.pt.toFun + shiftLin n h.pt.toFun)) := by module
          rw [this, hab]; module
      · rintro ⟨x, z, hx, hz, rfl⟩
        rw [mem_iff_gdir] at hx hz ⊢
        simp only [GDir, List.map_append, hsh, hpt]
        have e : x + shiftLin n z - (g.pt.toFun + shiftLin n h.pt.toFun) = (x - g.pt.toFun) + shiftLin n (z - h.pt.toFun) := by
          rw [map_sub]; module
        rw [e]
        refine Abs.Dir.add (Abs.Dir.mono_subset ?_ ?_ hx) (Abs.Dir.mono_subset ?_ ?_ (dir_image (shiftLin n) _ _ hz))
        · intro q hq; exact List.mem_append_left _ hq
        · intro q hq; exact List.mem_append_left _ hq
        · intro q hq; exact List.mem_append_right _ hq
        · intro q hq; exact List.mem_append_right _ hq

end PPLV.Lattice

import PPLV.Lattice.ProofsGridOpsUnconstrain

/-!
# The `Grid` object: `add_grid_generator`
-/
namespace PPLV.Lattice.GO
open PPLV.Lattice PPLV.Lattice.Red

/-! ## `Grid::add_grid_generator(g)` (Grid_public.cc:1301): preliminaries and the case of an empty receiver -/

/-- a generator row as the library builds it: divisor column present, positive divisor, lines (and parameters) with a
    zero inhomogeneous term -/
structure gn_RowOK (x : GRow) : Prop where
  len : x.e.length = x.spaceDim + 2
  div : x.line = false → 0 < x.divisor
  lin : x.line = true → get x.e 0 = 0

/-- `Grid_Generator_System::insert(g)` into a system that is wide enough -/
theorem gn_insert (s : GSys) (x : GRow) (hd : x.spaceDim ≤ s.dim) :
    s.insert x = if (x.isParameter && x.allHomZero) = true then s
      else { s with rows := s.rows ++ [x.setSpaceDim s.dim] } := by
  unfold GSys.insert
  split
  · rw [if_neg (by omega)]
  · exact gn_sysInsert s x hd

/-- the origin as a parameter has the zero vector -/
theorem gn_vecOf_allHomZero {x : GRow} (h : x.allHomZero = true) : gn_vecOf x = 0 := by
  funext i
  unfold gn_vecOf
  split
  · rename_i hi
    have : get x.e (i + 1) = 0 := by
      unfold GRow.allHomZero allZ at h
      rw [List.all_eq_true] at h
      have := h (i + 1) (by
        rw [List.mem_range']
        refine ⟨i, ?_, by omega⟩
        unfold GRow.spaceDim at hi; omega)
      simpa using this
    rw [this]; simp
  · rfl

unseal gn_ens in
theorem gn_addGridGenerator_eq (g : Grid) (x : GRow) (hd : x.spaceDim ≤ g.spaceDim) (hn : 0 < g.spaceDim) :
    addGridGenerator g x =
      if (gn_ens g).2 = false then
        if x.isLineOrParameter = true then { g := (gn_ens g).1, thrown := true }
        else { g := (((((gn_ens g).1.withGs ((gn_ens g).1.gs.insert x)).clearEmpty).clearCongruencesUpToDate
                ).clearGeneratorsMinimized).setGeneratorsUpToDate }
      else { g := ((((gn_ens g).1.withGs (if x.isParameterOrPoint = true then normalizeDivisors1 ((gn_ens g).1.gs.insert x)
                else (gn_ens g).1.gs.insert x)).clearCongruencesUpToDate).clearGeneratorsMinimized).setGeneratorsUpToDate } := by
  unfold addGridGenerator
  rw [if_neg (by omega), if_neg (by omega)]
  show (if (!(gn_ens g).2) = true then _ else _) = _
  cases (gn_ens g).2 <;> rfl

/-- the resized row -/
theorem gn_row_resized {x : GRow} (hx : gn_RowOK x) {n : Nat} (hd : x.spaceDim ≤ n) :
    (x.setSpaceDim n).line = x.line ∧ (x.setSpaceDim n).e.length = n + 2 ∧
    get (x.setSpaceDim n).e 0 = get x.e 0 ∧ (x.setSpaceDim n).divisor = x.divisor ∧
    gn_vecOf (x.setSpaceDim n) = gn_vecOf x ∧ gn_isPt (x.setSpaceDim n) = gn_isPt x ∧
    gn_isPar (x.setSpaceDim n) = gn_isPar x := by
  obtain ⟨a, b, c, d, e⟩ := gn_setSpaceDim_sem hx.len hd
  exact ⟨a, b, c, d, e, by simp [gn_isPt, a, c], by simp [gn_isPar, a, c]⟩

/-- a single point row is a normalised system -/
theorem gn_gnorm_single {n : Nat} {p : GRow} (hl : p.line = false) (h0 : 0 < get p.e 0) : GNorm n (get p.e 0) [p] := by
  refine ⟨h0, ⟨p, List.mem_singleton.mpr rfl, hl, rfl⟩, ?_, ?_, ?_⟩
  · intro r hr _; rw [List.mem_singleton.mp hr]; exact Or.inr rfl
  · intro r hr _ hz; rw [List.mem_singleton.mp hr] at hz; omega
  · intro r hr h; rw [List.mem_singleton.mp hr, hl] at h; cases h

/-- **`add_grid_generator` on an empty receiver** (positive dimension): a line or parameter is refused
    (`std::invalid_argument`, the object stays empty); a point `p` gives `{p}` -/
theorem gn_addGridGenerator_empty (g : Grid) (hI : GridInv g) (x : GRow) (hx : gn_RowOK x)
    (hd : x.spaceDim ≤ g.spaceDim) (hn : 0 < g.spaceDim) (h2 : (gn_ens g).2 = false) :
    GridInv (addGridGenerator g x).g ∧ (addGridGenerator g x).g.spaceDim = g.spaceDim ∧
    ((addGridGenerator g x).thrown = true ↔ gn_isPt x = false) ∧
    ((addGridGenerator g x).thrown = true → (addGridGenerator g x).g.sem = ∅) ∧
    ((addGridGenerator g x).thrown = false → (addGridGenerator g x).g.sem = {gn_vecOf x}) := by
  obtain ⟨a, b, c, d, _⟩ := gn_ens_false g hI hn h2
  obtain ⟨c1, c2, c3, c4, c5⟩ := a.emp c
  rw [gn_addGridGenerator_eq g x hd hn, if_pos h2]
  cases hlp : x.isLineOrParameter with
  | true =>
    have h0 : get x.e 0 = 0 := by simpa [GRow.isLineOrParameter] using hlp
    rw [if_pos rfl]
    refine ⟨a, b, ⟨fun _ => by simp [gn_isPt, h0], fun _ => rfl⟩, fun _ => d, fun h => by cases h⟩
  | false =>
    have h0 : get x.e 0 ≠ 0 := by simpa [GRow.isLineOrParameter] using hlp
    have hl : x.line = false := by
      cases hl : x.line with
      | true => exact absurd (hx.lin hl) h0
      | false => rfl
    have hp : gn_isPt x = true := (gn_isPt_iff x).mpr ⟨hl, h0⟩
    rw [if_neg (by simp)]
    obtain ⟨r1, r2, r3, r4, r5, r6, _⟩ := gn_row_resized hx hd
    have hins : (gn_ens g).1.gs.insert x = GSys.mk g.spaceDim [x.setSpaceDim g.spaceDim] := by
      rw [gn_insert _ _ (by show x.spaceDim ≤ (gn_ens g).1.genDim; rw [c3, b]; exact hd),
        if_neg (by simp [GRow.isParameter, h0])]
      show GSys.mk (gn_ens g).1.genDim ((gn_ens g).1.gen ++ [x.setSpaceDim (gn_ens g).1.genDim]) = _
      rw [c2, c3, b]; rfl
    rw [hins]
    have hdiv : 0 < get (x.setSpaceDim g.spaceDim).e 0 := by
      rw [r3, ← divisor_point x h0]; exact hx.div hl
    have hhi : (gn_ens g).1.st.hi = 0 := by rw [c1]; rfl
    have key := gn_inv_gens_at
      (g := ((((((gn_ens g).1.withGs (GSys.mk g.spaceDim [x.setSpaceDim g.spaceDim])).clearEmpty).clearCongruencesUpToDate
                ).clearGeneratorsMinimized).setGeneratorsUpToDate))
      b hn rfl rfl rfl rfl rfl hhi rfl (fun r hr => by rw [List.mem_singleton.mp hr]; exact r2)
      (D := get (x.setSpaceDim g.spaceDim).e 0) (gn_gnorm_single (by rw [r1]; exact hl) hdiv)
    refine ⟨key.1, b, ⟨fun h => (by cases h), fun h => (by rw [hp] at h; cases h)⟩, fun h => (by cases h), fun _ => ?_⟩
    rw [key.2]
    show gn_set [x.setSpaceDim g.spaceDim] = _
    rw [gn_set_single_pt _ (by rw [r6]; exact hp), r5]

/-- the hypotheses on the row are satisfiable: the point `1/2` of the line -/
example : gn_RowOK ⟨false, [2, 1, 0]⟩ := ⟨rfl, fun _ => by decide, fun h => by cases h⟩

/-! ## `Grid::add_grid_generator(g)`: non-empty receiver, the combined statement, dimension 0 -/

/-- the generator system after `insert(g)` and `normalize_divisors` -/
theorem gn_add_rows {n : Nat} {D : Int} {rows : List GRow} (hn : 0 < n) (hw : GWf n rows) (hN : GNorm n D rows)
    (x : GRow) (hx : gn_RowOK x) (hd : x.spaceDim ≤ n) :
    ∃ rows2 D', (if x.isParameterOrPoint = true then normalizeDivisors1 ((GSys.mk n rows).insert x)
        else (GSys.mk n rows).insert x) = GSys.mk n rows2 ∧
      GWf n rows2 ∧ GNorm n D' rows2 ∧ gn_set rows2 = gn_set (rows ++ [x.setSpaceDim n]) := by
  obtain ⟨r1, r2, r3, r4, r5, r6, r7⟩ := gn_row_resized hx hd
  rw [gn_insert _ _ hd]
  cases hl : x.line with
  | true =>
    have e1 : x.isParameterOrPoint = false := by simp [GRow.isParameterOrPoint, hl]
    have e2 : (x.isParameter && x.allHomZero) = false := by simp [GRow.isParameter, hl]
    rw [e1, e2, if_neg (by simp), if_neg (by simp)]
    refine ⟨_, D, rfl, gn_gwf_append hw (fun r hr => by rw [List.mem_singleton.mp hr]; exact r2), ?_, rfl⟩
    refine gn_gnorm_append hN ?_ ?_ ?_
    · intro r hr h; rw [List.mem_singleton.mp hr, r1, hl] at h; cases h
    · intro r hr h; rw [List.mem_singleton.mp hr, r1, hl] at h; cases h
    · intro r hr _; rw [List.mem_singleton.mp hr, r3]; exact hx.lin hl
  | false =>
    have e1 : x.isParameterOrPoint = true := by simp [GRow.isParameterOrPoint, hl]
    rw [e1, if_pos rfl]
    have hwf := gn_wf_of_gnorm hN hw
    cases hz : (x.isParameter && x.allHomZero) with
    | true =>
      rw [if_pos rfl]
      obtain ⟨a, b, c, d⟩ := gn_normalizeDivisors1 (s := GSys.mk n rows) hwf hn
      refine ⟨_, _, rfl, b, c, d.trans ?_⟩
      show gn_set rows = _
      symm
      have hz' := Bool.and_eq_true_iff.mp hz
      have hpar : gn_isPar (x.setSpaceDim n) = true := by
        rw [r7]; simpa [gn_isPar, GRow.isParameter] using hz'.1
      rw [gn_set_append_par _ _ hpar, r5, gn_vecOf_allHomZero hz'.2]
      ext y
      constructor
      · rintro ⟨a', ha, k, rfl⟩; simpa using ha
      · intro hy; exact ⟨y, hy, 0, by simp⟩
    | false =>
      rw [if_neg (by simp)]
      have hwf' : gn_WF n (rows ++ [x.setSpaceDim n]) := by
        refine ⟨?_, ?_, ?_⟩
        · intro r hr
          rcases List.mem_append.mp hr with hr | hr
          · exact hwf.shape r hr
          · rw [List.mem_singleton.mp hr]
            exact ⟨r2, fun _ => by rw [r4]; exact hx.div hl⟩
        · intro r hr h
          rcases List.mem_append.mp hr with hr | hr
          · exact hwf.lin r hr h
          · rw [List.mem_singleton.mp hr, r1, hl] at h; cases h
        · obtain ⟨r, hr, p⟩ := hwf.pt
          exact ⟨r, List.mem_append_left _ hr, p⟩
      obtain ⟨a, b, c, d⟩ := gn_normalizeDivisors1 (s := GSys.mk n (rows ++ [x.setSpaceDim n])) hwf' hn
      exact ⟨_, _, rfl, b, c, d⟩

/-- **`add_grid_generator` on a non-empty receiver** (positive dimension): nothing is thrown; a line adds its rational
    multiples, a parameter its integer multiples, a point `p` the integer multiples of `p - a₀` for any `a₀` of the grid -/
theorem gn_addGridGenerator_nonempty (g : Grid) (hI : GridInv g) (x : GRow) (hx : gn_RowOK x)
    (hd : x.spaceDim ≤ g.spaceDim) (hn : 0 < g.spaceDim) (h2 : (gn_ens g).2 = true) :
    GridInv (addGridGenerator g x).g ∧ (addGridGenerator g x).g.spaceDim = g.spaceDim ∧
    (addGridGenerator g x).thrown = false ∧
    (x.line = true → (addGridGenerator g x).g.sem = {y | ∃ a ∈ g.sem, ∃ c : ℚ, y = a + c • gn_vecOf x}) ∧
    (gn_isPar x = true → (addGridGenerator g x).g.sem = {y | ∃ a ∈ g.sem, ∃ k : Int, y = a + (k : ℚ) • gn_vecOf x}) ∧
    (gn_isPt x = true → ∀ a0 ∈ g.sem,
      (addGridGenerator g x).g.sem = {y | ∃ a ∈ g.sem, ∃ k : Int, y = a + (k : ℚ) • (gn_vecOf x - a0)}) := by
  obtain ⟨a, b, c, d, e, f, hw, hN, hs⟩ := gn_ens_true g hI hn h2
  obtain ⟨r1, r2, r3, r4, r5, r6, r7⟩ := gn_row_resized hx hd
  rw [gn_addGridGenerator_eq g x hd hn, if_neg (by rw [h2]; simp)]
  have hgs : (gn_ens g).1.gs = GSys.mk g.spaceDim (gn_ens g).1.gen := by
    show GSys.mk (gn_ens g).1.genDim (gn_ens g).1.gen = _
    rw [f]
  obtain ⟨rows2, D', e1, a1, b1, c1⟩ := gn_add_rows hn hw hN x hx hd
  rw [hgs, e1]
  have key := gn_inv_gens_at
    (g := (((((gn_ens g).1.withGs (GSys.mk g.spaceDim rows2)).clearCongruencesUpToDate).clearGeneratorsMinimized
            ).setGeneratorsUpToDate))
      b hn c rfl rfl rfl rfl e rfl a1 (D := D') b1
  have hsem : (((((gn_ens g).1.withGs (GSys.mk g.spaceDim rows2)).clearCongruencesUpToDate).clearGeneratorsMinimized
            ).setGeneratorsUpToDate).sem = gn_set ((gn_ens g).1.gen ++ [x.setSpaceDim g.spaceDim]) := by
    rw [key.2]; exact c1
  refine ⟨key.1, b, rfl, ?_, ?_, ?_⟩
  · intro hl
    show Grid.sem _ = _
    rw [hsem, gn_set_append_line _ _ (by rw [r1]; exact hl), r5, hs]
  · intro hp
    show Grid.sem _ = _
    rw [hsem, gn_set_append_par _ _ (by rw [r7]; exact hp), r5, hs]
  · intro hp a0 ha0
    show Grid.sem _ = _
    rw [hsem, gn_set_append_pt _ _ (by rw [r6]; exact hp) (a0 := a0) (by rw [hs]; exact ha0), r5, hs]

/-- **`Grid::add_grid_generator(g)`** in positive dimension, for a well-formed row that fits the space: the invariant is
    kept; `std::invalid_argument` exactly when the receiver is empty and the row is not a point (then the object stays
    empty); otherwise the grid described in the C++ documentation -/
theorem gn_addGridGenerator (g : Grid) (hI : GridInv g) (x : GRow) (hx : gn_RowOK x)
    (hd : x.spaceDim ≤ g.spaceDim) (hn : 0 < g.spaceDim) :
    GridInv (addGridGenerator g x).g ∧ (addGridGenerator g x).g.spaceDim = g.spaceDim ∧
    ((addGridGenerator g x).thrown = true ↔ g.sem = ∅ ∧ gn_isPt x = false) ∧
    ((addGridGenerator g x).thrown = true → (addGridGenerator g x).g.sem = ∅) ∧
    ((addGridGenerator g x).thrown = false →
      (x.line = true → (addGridGenerator g x).g.sem = {y | ∃ a ∈ g.sem, ∃ c : ℚ, y = a + c • gn_vecOf x}) ∧
      (gn_isPar x = true → (addGridGenerator g x).g.sem = {y | ∃ a ∈ g.sem, ∃ k : Int, y = a + (k : ℚ) • gn_vecOf x}) ∧
      (gn_isPt x = true → g.sem = ∅ → (addGridGenerator g x).g.sem = {gn_vecOf x}) ∧
      (gn_isPt x = true → ∀ a0 ∈ g.sem,
        (addGridGenerator g x).g.sem = {y | ∃ a ∈ g.sem, ∃ k : Int, y = a + (k : ℚ) • (gn_vecOf x - a0)})) := by
  obtain ⟨_, _, _, hne, _, _⟩ := gn_ens_spec g hI hn
  cases h2 : (gn_ens g).2 with
  | false =>
    obtain ⟨a, b, c, d, e⟩ := gn_addGridGenerator_empty g hI x hx hd hn h2
    obtain ⟨_, _, _, _, hg⟩ := gn_ens_false g hI hn h2
    refine ⟨a, b, ⟨fun h => ⟨hg, c.mp h⟩, fun h => c.mpr h.2⟩, d, fun h => ⟨?_, ?_, fun _ _ => e h, ?_⟩⟩
    · intro hl
      have : gn_isPt x = false := by simp [gn_isPt, hl]
      rw [c.mpr this] at h; cases h
    · intro hp
      have : gn_isPt x = false := by
        have := (gn_isPar_iff x).mp hp
        simp [gn_isPt, this.2]
      rw [c.mpr this] at h; cases h
    · intro _ a0 ha0; rw [hg] at ha0; exact absurd ha0 (Set.notMem_empty a0)
  | true =>
    obtain ⟨a, b, c, d, e, f⟩ := gn_addGridGenerator_nonempty g hI x hx hd hn h2
    have hg : g.sem ≠ ∅ := Set.nonempty_iff_ne_empty.mp (hne.mp h2)
    refine ⟨a, b, ⟨fun h => (by rw [c] at h; cases h), fun h => absurd h.1 hg⟩, fun h => (by rw [c] at h; cases h),
      fun _ => ⟨d, e, fun _ h => absurd h hg, f⟩⟩

/-- the hypotheses are satisfiable: the grid `{0}` of the line and the point `1/2` -/
example : ∃ (g : Grid) (x : GRow), GridInv g ∧ gn_RowOK x ∧ x.spaceDim ≤ g.spaceDim ∧ 0 < g.spaceDim :=
  ⟨{ spaceDim := 1, st := { gUp := true }, conDim := 1, con := [], genDim := 1, gen := [⟨false, [1, 0, 0]⟩], dk := [] },
   ⟨false, [2, 1, 0]⟩,
   gn_inv_point1 1 0 (by decide),
   ⟨rfl, fun _ => (by decide), fun h => (by cases h)⟩, by decide, by decide⟩

/-! ### dimension 0 -/

/-- **`add_grid_generator` in dimension 0**: refused exactly for a parameter on the empty grid; otherwise the result is the
    0-dimensional universe -/
theorem gn_addGridGenerator_dim0 (g : Grid) (hI : GridInv g) (x : GRow) (h0 : g.spaceDim = 0) (hd : x.spaceDim ≤ g.spaceDim) :
    GridInv (addGridGenerator g x).g ∧
    ((addGridGenerator g x).thrown = true ↔ g.sem = ∅ ∧ x.isParameter = true) ∧
    ((addGridGenerator g x).thrown = true → (addGridGenerator g x).g.sem = ∅) ∧
    ((addGridGenerator g x).thrown = false → (addGridGenerator g x).g.sem = {y | Supp 0 y}) := by
  have hsem : g.st.empty = false → g.sem = {y | Supp 0 y} := by
    intro he; unfold Grid.sem; rw [he, if_neg (by simp), if_pos h0]
  have hne : ({y | Supp 0 y} : Set Pt) ≠ ∅ := by
    intro h
    have : (0 : Pt) ∈ ({y | Supp 0 y} : Set Pt) := fun _ _ => rfl
    rw [h] at this; exact this
  unfold addGridGenerator
  rw [if_neg (by omega), if_pos h0]
  cases he : g.markedEmpty with
  | true =>
    have he' : g.st.empty = true := he
    rw [if_pos rfl]
    cases hp : x.isParameter with
    | true =>
      rw [if_pos rfl]
      exact ⟨hI, ⟨fun _ => ⟨sem_of_empty he', rfl⟩, fun _ => rfl⟩, fun _ => sem_of_empty he', fun h => by cases h⟩
    | false =>
      rw [if_neg (by simp)]
      refine ⟨setZeroDimUniv_inv g, ⟨fun h => (by cases h), fun h => (by cases h.2)⟩, fun h => (by cases h), fun _ => ?_⟩
      show (setZeroDimUniv g).sem = _
      unfold Grid.sem
      rw [if_neg (by simp [setZeroDimUniv, Status.zeroDimUniv]), if_pos (show (setZeroDimUniv g).spaceDim = 0 from rfl)]
  | false =>
    have he' : g.st.empty = false := he
    rw [if_neg (by simp)]
    refine ⟨hI, ⟨fun h => (by cases h), fun h => ?_⟩, fun h => (by cases h), fun _ => hsem he'⟩
    rw [hsem he'] at h; exact absurd h.1 hne

end PPLV.Lattice.GO

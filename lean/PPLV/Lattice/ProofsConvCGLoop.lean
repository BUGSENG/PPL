import PPLV.Lattice.ProofsConvCGStep

/-!
# `Grid::conversion` (congruences → generators): the main loop and the matrix of products it leaves
-/
namespace PPLV.Lattice.Red

section
variable (source : List CRow) (dk : List Nat) (dims : Nat)

structure CGInv (d : Nat) (st : CGSt) : Prop where
  si : st.sourceIndex = nl dk dims - nl dk d
  di : st.destIndex = nv dk d
  len : st.dest.length = nv dk dims
  rows : ∃ L : Int, 0 < L ∧ ∀ q, q < dims → nvB dk q = true →
    GRowInv source dk dims d L q (rowAt st.dest (nv dk q))

def cgDimA (N : Nat) (st : CGSt) (dim : Nat) : List GRow × Nat :=
  if kind dk dim ≠ CON_VIRTUAL then
    ((dimsDown st.destIndex).foldl (cgDivideRow (get (rowAt source (st.sourceIndex - 1)).e dim) dim N) st.dest,
      st.sourceIndex - 1)
  else (st.dest, st.sourceIndex)

def cgDimK (st : CGSt) (dim : Nat) : Nat := if kind dk dim ≠ EQUALITY then st.destIndex + 1 else st.destIndex

theorem cgDim_eq (N : Nat) (st : CGSt) (dim : Nat) :
    cgDim source dk dims N st dim =
      { dest := ((List.range' (dim + 1) (dims - (dim + 1))).foldl (cgColStep source dk dim (cgDimK dk st dim))
          ((cgDimA source dk N st dim).2, (cgDimA source dk N st dim).1)).2,
        sourceIndex := (cgDimA source dk N st dim).2,
        destIndex := cgDimK dk st dim } := rfl

theorem cgDimA_spec (hs : CSrcOK dims source dk) (e : Nat) (he : e < dims) (st : CGSt)
    (h : CGInv source dk dims e st) :
    (cgDimA source dk (nv dk dims) st e).2 = nl dk dims - nl dk (e + 1) ∧
      GPhaseA dk e st.destIndex (cEnt source (pos dk dims e) e) st.dest (cgDimA source dk (nv dk dims) st e).1 := by
  obtain ⟨hsi, hdi, hlen, _⟩ := h
  unfold cgDimA
  by_cases hv : kind dk e = CON_VIRTUAL
  · have hvb : nlB dk e = false := by simp [nlB, hv, CON_VIRTUAL, LINE]
    simp only [hv, ne_eq, not_true_eq_false, if_false]
    refine ⟨hsi.trans (cntBelow_sub_neg _ e dims hvb), rfl, 1, by omega, fun i _ => ?_⟩
    refine ⟨1, by omega, fun _ => rfl, rfl, rfl, fun k _ => by simp, fun _ hc => ?_, fun _ => by simp⟩
    rw [hvb] at hc; exact absurd hc (by simp)
  · have hvb : nlB dk e = true := by simpa [nlB, CON_VIRTUAL, LINE] using hv
    have hsi' : st.sourceIndex - 1 = pos dk dims e := Nat.sub_eq_of_eq_add (hsi.trans (cntBelow_sub_pos _ he hvb))
    simp only [hv, ne_eq, not_false_eq_true, if_true]
    rw [hsi']
    refine ⟨rfl, ?_⟩
    have ha := hs.diag e he hvb
    obtain ⟨d1, f, hf, d2⟩ := cgDivPhase_spec (cEnt source (pos dk dims e) e) ha e st.destIndex (nv dk dims) st.dest hlen
    refine ⟨d1, f, hf, fun i hi => ?_⟩
    obtain ⟨fi, hfi, c1, c2, c3, c4, c5⟩ := d2 i hi
    refine ⟨fi, hfi, c1, c2, c3, fun k hk => c4 k (Or.inl hk), fun h1 _ => c5 (Nat.zero_le _) h1, fun hc => ?_⟩
    exact c4 e (Or.inr (fun h => hc ⟨h.2, hvb⟩))

theorem cgDimK_spec (e : Nat) (st : CGSt) (hdi : st.destIndex = nv dk e) :
    cgDimK dk st e = nv dk (e + 1) := by
  unfold cgDimK
  by_cases hl : kind dk e = EQUALITY
  · have hlb : nvB dk e = false := by simp [nvB, hl, EQUALITY, GEN_VIRTUAL]
    simp only [hl, ne_eq, not_true_eq_false, if_false]
    exact hdi.trans (cntBelow_succ_neg _ e hlb).symm
  · have hlb : nvB dk e = true := by simpa [nvB, EQUALITY, GEN_VIRTUAL] using hl
    simp only [hl, ne_eq, not_false_eq_true, if_true]
    rw [hdi]; exact (cntBelow_succ_pos _ e hlb).symm

/-- one turn of the conversion loop keeps the invariant -/
theorem cgDim_inv (hs : CSrcOK dims source dk) (e : Nat) (he : e < dims) (st : CGSt)
    (h : CGInv source dk dims e st) : CGInv source dk dims (e + 1) (cgDim source dk dims (nv dk dims) st e) := by
  obtain ⟨hA2, hA⟩ := cgDimA_spec source dk dims hs e he st h
  obtain ⟨hsi, hdi, hlen, L, hL, hrows⟩ := h
  have hK' := cgDimK_spec dk e st hdi
  have hrowlen : ∀ i, i < st.dest.length → (rowAt st.dest i).e.length = dims + 1 := by
    intro i hi
    obtain ⟨q, hq, hql, rfl⟩ := cntBelow_surj (nvB dk) dims i (by simp only [nv] at hlen; omega)
    exact (hrows q hq hql).len
  have hrowlen1 : ∀ i, i < (cgDimA source dk (nv dk dims) st e).1.length →
      (rowAt (cgDimA source dk (nv dk dims) st e).1 i).e.length = dims + 1 := by
    intro i hi
    rw [hA.len] at hi
    obtain ⟨f, _, hf⟩ := hA.ex
    obtain ⟨fi, _, _, _, c3, _⟩ := hf i hi
    rw [c3]; exact hrowlen i hi
  rw [cgDim_eq, hA2]
  have hC := cgColPhase_spec source dk dims e (cgDimK dk st e) (cgDimA source dk (nv dk dims) st e).1 he hrowlen1
  refine ⟨rfl, hK', ?_, ?_⟩
  · exact hC.len.trans (hA.len.trans hlen)
  · exact cgStep_rows source dk dims hs e he st.dest _ _ st.destIndex (cgDimK dk st e) hdi hK' hlen L hL hrows hA hC

end

/-! ### the whole loop -/

/-- the state after the conversion loop -/
def cgLoop (n : Nat) (source : List CRow) (dk : List Nat) : CGSt :=
  (List.range (n + 1)).foldl (cgDim source dk (n + 1) (cgCount source dk (n + 1)).2.1)
    { dest := cgInit source dk (n + 1) (cgCount source dk (n + 1)).1 (cgCount source dk (n + 1)).2.2,
      sourceIndex := (cgCount source dk (n + 1)).1, destIndex := 0 }

/-- the rows before the parameter divisors are written -/
def cgPreDiv (n : Nat) (source : List CRow) (dk : List Nat) : List GRow := cgReduce dk (n + 1) (cgLoop n source dk).dest

theorem conversionCgsToGens_eq (n : Nat) (source : List CRow) (dk : List Nat) :
    conversionCgsToGens n source dk =
      setDivisors dk (get (rowAt (cgPreDiv n source dk) 0).e 0) n ((cgPreDiv n source dk).length - 1)
        (cgPreDiv n source dk) := rfl

theorem cg_nvB_nlB_proper (dk : List Nat) (dims : Nat) (hk : ∀ d, d < dims → kind dk d ≤ 2) (q : Nat) (hq : q < dims)
    (hl : nvB dk q = true) :
    (nlB dk q = true ↔ kind dk q = PROPER_CONGRUENCE) ∧ (nlB dk q = false ↔ kind dk q = CON_VIRTUAL) := by
  have h2 := hk q hq
  have hne : kind dk q ≠ 2 := by simpa [nvB, GEN_VIRTUAL] using hl
  constructor
  · simp only [nlB, LINE, PROPER_CONGRUENCE, bne_iff_ne, ne_eq]; omega
  · simp only [nlB, LINE, CON_VIRTUAL, bne_eq_false_iff_eq]

theorem cgLoop_inv (n : Nat) (source : List CRow) (dk : List Nat) (hs : CSrcOK (n + 1) source dk)
    (hk : ∀ d, d < n + 1 → kind dk d ≤ 2) : CGInv source dk (n + 1) (n + 1) (cgLoop n source dk) := by
  obtain ⟨c0, c1, c2, c3⟩ := cgCount_spec source dk (n + 1) hs hk
  obtain ⟨i1, i2⟩ := cgInit_spec source dk (n + 1) (cgCount source dk (n + 1)).2.2 hk
  unfold cgLoop
  rw [c1, c0]
  refine foldl_range_inv (cgDim source dk (n + 1) (nv dk (n + 1))) (fun d st => CGInv source dk (n + 1) d st) (n + 1) _ ?_ ?_
  · refine ⟨by simp [nl, cntBelow], rfl, i1, (cgCount source dk (n + 1)).2.2, c2, fun q hq hql => ?_⟩
    obtain ⟨k1, k2⟩ := cg_nvB_nlB_proper dk (n + 1) hk q hq hql
    obtain ⟨u1, u2⟩ := i2 q hq hql
    by_cases hv : nlB dk q = true
    · obtain ⟨m1, m2, m3⟩ := u2 (k1.mp hv)
      have hdiv := c3 q hq (k1.mp hv)
      have hSpos := hs.diag q hq hv
      have hquot : 0 < (cgCount source dk (n + 1)).2.2 / cEnt source (pos dk (n + 1) q) q := by
        have e := Int.ediv_mul_cancel hdiv
        by_contra hc
        have h1 : (cgCount source dk (n + 1)).2.2 / cEnt source (pos dk (n + 1) q) q ≤ 0 := by omega
        have := Int.mul_nonpos_of_nonpos_of_nonneg h1 (Int.le_of_lt hSpos)
        omega
      refine ⟨m2, fun h => by rw [hv] at h; exact absurd h (by simp), fun _ => m1, fun k hk' => ?_, ?_, ?_⟩
      · rw [m3 k, if_neg (by omega)]
      · rw [m3 q, if_pos rfl]; exact hquot
      · refine ⟨(cgCount source dk (n + 1)).2.2, c2, fun _ => rfl, fun h => by omega, fun _ => ⟨fun k hk' => ?_, fun _ => ?_, fun h => ?_⟩⟩
        · rw [m3 k, if_neg hk']
        · rw [m3 q, if_pos rfl]
          exact Int.ediv_mul_cancel (c3 q hq (k1.mp hv))
        · rw [hv] at h; exact absurd h (by simp)
    · have hv' : nlB dk q = false := by simpa using hv
      obtain ⟨m1, m2, m3⟩ := u1 (k2.mp hv')
      refine ⟨m2, fun _ => m1, fun h => absurd h hv, fun k hk' => ?_, ?_, ?_⟩
      · rw [m3 k, if_neg (by omega)]
      · rw [m3 q, if_pos rfl]; decide
      · refine ⟨1, by omega, fun h => absurd h hv, fun h => by omega, fun _ => ⟨fun k hk' => ?_, fun h => absurd h hv, fun _ => ?_⟩⟩
        · rw [m3 k, if_neg hk']
        · rw [m3 q, if_pos rfl]
  · intro d st hd h
    exact cgDim_inv source dk (n + 1) hs d hd st h

/-! ### the final rows -/

/-- a generator row of the result: `L` the common diagonal product, `D0` the inhomogeneous term of the point.
    `prod`: the products `g·source[pos p]` with the rows of the source. -/
structure GFinRow (source : List CRow) (dk : List Nat) (dims : Nat) (L D0 : Int) (q : Nat) (g : GRow) : Prop where
  len : g.e.length = dims + 1
  lnv : nlB dk q = false → g.line = true
  lnp : nlB dk q = true → g.line = false
  tri : ∀ k, k < q → get g.e k = 0
  diag : 0 < get g.e q
  c0 : q = 0 → get g.e 0 = D0
  prod : ∀ p, p < dims → nlB dk p = true →
    (kind dk p = EQUALITY → dotUpto g.e (rowAt source (pos dk dims p)).e dims = 0) ∧
    (nlB dk q = false → dotUpto g.e (rowAt source (pos dk dims p)).e dims = 0) ∧
    L ∣ dotUpto g.e (rowAt source (pos dk dims p)).e dims

structure GFinalOK (source : List CRow) (dk : List Nat) (dims : Nat) (L D0 : Int) (T : List GRow) : Prop where
  len : T.length = nv dk dims
  rows : ∀ q, q < dims → nvB dk q = true → GFinRow source dk dims L D0 q (rowAt T (nv dk q))

/-- after the conversion loop the matrix of products is `L` times the identity; `L = D0 · source[last][0]` with
    `D0 = dest[0][0]` -/
theorem cgLoop_diagFinal (n : Nat) (source : List CRow) (dk : List Nat) (hs : CSrcOK (n + 1) source dk)
    (hk : ∀ d, d < n + 1 → kind dk d ≤ 2) (h0 : kind dk 0 = PROPER_CONGRUENCE) :
    ∃ L D0 : Int, 0 < D0 ∧ D0 * cEnt source (pos dk (n + 1) 0) 0 = L ∧
      GFinalOK source dk (n + 1) L D0 (cgLoop n source dk).dest ∧ 0 < L ∧
      ∀ q, q < n + 1 → nvB dk q = true → ∀ p, p < n + 1 → nlB dk p = true →
        dotUpto (rowAt (cgLoop n source dk).dest (nv dk q)).e (rowAt source (pos dk (n + 1) p)).e (n + 1) =
          if p = q then L else 0 := by
  obtain ⟨_, _, hlen, L, hL, hrows⟩ := cgLoop_inv n source dk hs hk
  have hl0 : nlB dk 0 = true := by simp [nlB, h0, PROPER_CONGRUENCE, LINE]
  have hv0 : nvB dk 0 = true := by simp [nvB, h0, PROPER_CONGRUENCE, GEN_VIRTUAL]
  have hnv0 : nv dk 0 = 0 := rfl
  -- the products of the rows
  have hprods : ∀ q, q < n + 1 → nvB dk q = true → ∀ p, p < n + 1 → nlB dk p = true →
      dotUpto (rowAt (cgLoop n source dk).dest (nv dk q)).e (rowAt source (pos dk (n + 1) p)).e (n + 1) =
        if p = q then L else 0 := by
    intro q hq hql p hp hpv
    obtain ⟨lam, _, hlamL, hQ, _⟩ := (hrows q hq hql).ex
    have := hQ hq p hp hpv
    unfold Qu at this
    rw [if_neg (by omega)] at this
    by_cases hpq : p = q
    · subst hpq
      rw [if_pos rfl] at this ⊢
      rw [← hlamL hpv]
      linear_combination this
    · rw [if_neg hpq] at this ⊢
      linear_combination this
  have R0 := hrows 0 (by omega) hv0
  refine ⟨L, get (rowAt (cgLoop n source dk).dest (nv dk 0)).e 0, R0.diag, ?_, ⟨hlen, fun q hq hql => ?_⟩, hL, hprods⟩
  · have hp := hprods 0 (by omega) hv0 0 (by omega) hl0
    rw [if_pos rfl] at hp
    rw [← hp, cg_dotUpto_comm]
    -- the source row of column 0 vanishes after column 0
    have hz : ∀ m, m ≤ n → dotUpto (rowAt source (pos dk (n + 1) 0)).e (rowAt (cgLoop n source dk).dest (nv dk 0)).e (m + 1) =
        get (rowAt source (pos dk (n + 1) 0)).e 0 * get (rowAt (cgLoop n source dk).dest (nv dk 0)).e 0 := by
      intro m
      induction m with
      | zero => intro _; simp [dotUpto]
      | succ m ih =>
        intro hm
        rw [dotUpto_succ, ih (by omega)]
        have := hs.zeros 0 (by omega) hl0 (m + 1) (by omega) (by omega)
        simp only [cEnt] at this
        rw [this]; ring
    rw [hz n (Nat.le_refl _)]
    simp only [cEnt]; ring
  · have R := hrows q hq hql
    refine ⟨R.len, R.lnv, R.lnp, R.tri, R.diag, fun h => by subst h; rfl, fun p hp hpv => ?_⟩
    rw [hprods q hq hql p hp hpv]
    refine ⟨fun heq => ?_, fun hqv => ?_, ?_⟩
    · rw [if_neg]
      intro hpq; subst hpq
      simp [nvB, heq, EQUALITY, GEN_VIRTUAL] at hql
    · rw [if_neg]
      intro hpq; subst hpq
      rw [hpv] at hqv; exact absurd hqv (by simp)
    · by_cases hpq : p = q
      · rw [if_pos hpq]
      · rw [if_neg hpq]; exact Int.dvd_zero _

theorem cgLoop_final (n : Nat) (source : List CRow) (dk : List Nat) (hs : CSrcOK (n + 1) source dk)
    (hk : ∀ d, d < n + 1 → kind dk d ≤ 2) (h0 : kind dk 0 = PROPER_CONGRUENCE) :
    ∃ L D0 : Int, 0 < D0 ∧ D0 * cEnt source (pos dk (n + 1) 0) 0 = L ∧
      GFinalOK source dk (n + 1) L D0 (cgLoop n source dk).dest := by
  obtain ⟨L, D0, h1, h2, h3, _⟩ := cgLoop_diagFinal n source dk hs hk h0
  exact ⟨L, D0, h1, h2, h3⟩

end PPLV.Lattice.Red

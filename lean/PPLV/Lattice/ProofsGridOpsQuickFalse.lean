import PPLV.Lattice.ProofsGridOpsRelationCon

/-!
# The `Grid` object: the answer `TVB_FALSE` of `quick_equivalence_test`

It is not sound under `GridInv` alone: two invariant states with minimized generators that denote `ℤ²` and differ syntactically.
-/
namespace PPLV.Lattice.GO
open PPLV.Lattice PPLV.Lattice.Red

/-! ## `GridInv` does not make the answer `TVB_FALSE` of `quick_equivalence_test` right: two triangular generator systems of `ℤ²`

`GridInv` says that a system flagged minimized is triangular (`upper_triangular`), which leaves the entries after the
pivots free; `Grid::simplify` also reduces them, and `quick_equivalence_test` relies on that.  The second state below
is not one the library builds.
-/

/-- a state that is described by minimized generators only -/
theorem gn_inv_gens_min {g : Grid} (hn : 0 < g.spaceDim) (he : g.st.empty = false) (hcu : g.st.cUp = false)
    (hgu : g.st.gUp = true) (hcm : g.st.cMin = false) (hhi : g.st.hi = 0)
    (hgd : g.genDim = g.spaceDim) (hw : GWf g.spaceDim g.gen) {D : Int} (hN : GNorm g.spaceDim D g.gen)
    (hdk : g.dk.length = g.spaceDim + 1) (hut : upperTriangular g.spaceDim g.gen g.dk = true)
    (hk0 : kind g.dk 0 = PARAMETER) (hconv : ConvG g.spaceDim g.gen g.dk) :
    GridInv g ∧ g.sem = gn_set g.gen := by
  obtain ⟨a, b⟩ := inv_of_gen hn he hcu hgu hcm hhi hgd hw hN (fun _ => ⟨hdk, hut, hk0, hconv⟩)
  exact ⟨a, b.trans (gn_bridge hN hw)⟩

theorem gn_vecOf_par2 (a b : Int) : gn_vecOf ⟨false, [0, a, b, 1]⟩ = fun i => if i = 0 then (a : ℚ) else if i = 1 then (b : ℚ) else 0 := by
  funext i
  rcases i with _ | _ | i
  · simp [gn_vecOf, GRow.spaceDim, GRow.divisor, GRow.isLineOrParameter, Red.get]
  · simp [gn_vecOf, GRow.spaceDim, GRow.divisor, GRow.isLineOrParameter, Red.get]
  · simp [gn_vecOf, GRow.spaceDim]

def gn_cexX : Grid := Grid.mk 2 { gUp := true, gMin := true } 2 [] 2
  [⟨false, [1, 0, 0, 0]⟩, ⟨false, [0, 1, 0, 1]⟩, ⟨false, [0, 0, 1, 1]⟩] [0, 0, 0]
def gn_cexY : Grid := Grid.mk 2 { gUp := true, gMin := true } 2 [] 2
  [⟨false, [1, 0, 0, 0]⟩, ⟨false, [0, 1, 1, 1]⟩, ⟨false, [0, 0, 1, 1]⟩] [0, 0, 0]

theorem gn_cex_inv (rows : List GRow) (hrows : rows = gn_cexX.gen ∨ rows = gn_cexY.gen) :
    GridInv (Grid.mk 2 { gUp := true, gMin := true } 2 [] 2 rows [0, 0, 0]) ∧
    (Grid.mk 2 { gUp := true, gMin := true } 2 [] 2 rows [0, 0, 0]).sem = gn_set rows := by
  refine gn_inv_gens_min (D := 1) (show 0 < 2 by decide) rfl rfl rfl rfl rfl rfl ?_ ?_ rfl ?_ rfl ⟨?_, ?_, ?_⟩
  · rcases hrows with rfl | rfl <;>
    · intro r hr
      simp only [gn_cexX, gn_cexY, List.mem_cons, List.not_mem_nil, or_false] at hr
      rcases hr with rfl | rfl | rfl <;> rfl
  · rcases hrows with rfl | rfl <;>
    exact ⟨by decide, ⟨_, List.mem_cons_self, rfl, rfl⟩, by decide, by decide, by decide⟩
  · rcases hrows with rfl | rfl <;> decide
  · intro d hd
    have hd' : d < 3 := hd
    have : d = 0 ∨ d = 1 ∨ d = 2 := by omega
    rcases this with rfl | rfl | rfl <;> (show kind [0, 0, 0] _ ≤ 2; decide)
  · rcases hrows with rfl | rfl <;>
    · intro r hr hl
      simp only [gn_cexX, gn_cexY, List.mem_cons, List.not_mem_nil, or_false] at hr
      rcases hr with rfl | rfl | rfl <;> cases hl
  · intro r _ _ d hd _ _
    have hd' : d < 3 := hd
    have : d = 0 ∨ d = 1 ∨ d = 2 := by omega
    rcases this with rfl | rfl | rfl <;> (show kind [0, 0, 0] _ = PARAMETER; rfl)

theorem gn_cex_sem : gn_set gn_cexX.gen = gn_set gn_cexY.gen := by
  have eA : gn_vecOf ⟨false, [0, 1, 0, 1]⟩ = gn_vecOf ⟨false, [0, 1, 1, 1]⟩ - gn_vecOf ⟨false, [0, 0, 1, 1]⟩ := by
    rw [gn_vecOf_par2, gn_vecOf_par2, gn_vecOf_par2]
    funext i
    rcases i with _ | _ | i <;> simp
  have eA' : gn_vecOf ⟨false, [0, 1, 1, 1]⟩ = gn_vecOf ⟨false, [0, 1, 0, 1]⟩ + gn_vecOf ⟨false, [0, 0, 1, 1]⟩ := by
    rw [eA]; module
  apply Set.Subset.antisymm
  · refine gn_mem_least (gn_closed_set _) ?_ ?_ ?_
    · intro r hr p
      simp only [gn_cexX, List.mem_cons, List.not_mem_nil, or_false] at hr
      rcases hr with rfl | rfl | rfl
      · exact gn_mem_pt (by simp [gn_cexY]) rfl
      · cases p
      · cases p
    · intro r hr p a ha k
      simp only [gn_cexX, List.mem_cons, List.not_mem_nil, or_false] at hr
      rcases hr with rfl | rfl | rfl
      · cases p
      · have h1 := gn_mem_par_step (rows := gn_cexY.gen) (r := ⟨false, [0, 1, 1, 1]⟩) (by simp [gn_cexY]) rfl ha k
        have h2 := gn_mem_par_step (rows := gn_cexY.gen) (r := ⟨false, [0, 0, 1, 1]⟩) (by simp [gn_cexY]) rfl h1 (-k)
        have e : a + (k : ℚ) • gn_vecOf ⟨false, [0, 1, 0, 1]⟩ =
            a + (k : ℚ) • gn_vecOf ⟨false, [0, 1, 1, 1]⟩ + ((-k : Int) : ℚ) • gn_vecOf ⟨false, [0, 0, 1, 1]⟩ := by
          rw [eA]; push_cast; module
        rw [e]; exact h2
      · exact gn_mem_par_step (rows := gn_cexY.gen) (by simp [gn_cexY]) rfl ha k
    · intro r hr p
      simp only [gn_cexX, List.mem_cons, List.not_mem_nil, or_false] at hr
      rcases hr with rfl | rfl | rfl <;> cases p
  · refine gn_mem_least (gn_closed_set _) ?_ ?_ ?_
    · intro r hr p
      simp only [gn_cexY, List.mem_cons, List.not_mem_nil, or_false] at hr
      rcases hr with rfl | rfl | rfl
      · exact gn_mem_pt (by simp [gn_cexX]) rfl
      · cases p
      · cases p
    · intro r hr p a ha k
      simp only [gn_cexY, List.mem_cons, List.not_mem_nil, or_false] at hr
      rcases hr with rfl | rfl | rfl
      · cases p
      · have h1 := gn_mem_par_step (rows := gn_cexX.gen) (r := ⟨false, [0, 1, 0, 1]⟩) (by simp [gn_cexX]) rfl ha k
        have h2 := gn_mem_par_step (rows := gn_cexX.gen) (r := ⟨false, [0, 0, 1, 1]⟩) (by simp [gn_cexX]) rfl h1 k
        have e : a + (k : ℚ) • gn_vecOf ⟨false, [0, 1, 1, 1]⟩ =
            a + (k : ℚ) • gn_vecOf ⟨false, [0, 1, 0, 1]⟩ + (k : ℚ) • gn_vecOf ⟨false, [0, 0, 1, 1]⟩ := by
          rw [eA']; module
        rw [e]; exact h2
      · exact gn_mem_par_step (rows := gn_cexX.gen) (by simp [gn_cexX]) rfl ha k
    · intro r hr p
      simp only [gn_cexY, List.mem_cons, List.not_mem_nil, or_false] at hr
      rcases hr with rfl | rfl | rfl <;> cases p

/-- **`gn_QuickFalseSound` is false**: both states satisfy `GridInv`, denote `ℤ²`, and `quick_equivalence_test` answers
    `TVB_FALSE` (so `operator==` answers `false`) -/
theorem gn_quickFalseSound_fails : ¬ gn_QuickFalseSound := by
  intro h
  obtain ⟨ix, sx⟩ := gn_cex_inv gn_cexX.gen (Or.inl rfl)
  obtain ⟨iy, sy⟩ := gn_cex_inv gn_cexY.gen (Or.inr rfl)
  have := h gn_cexX gn_cexY ix iy rfl rfl (by decide) rfl (by decide)
  apply this
  show Grid.sem gn_cexX = Grid.sem gn_cexY
  rw [show gn_cexX.sem = gn_set gn_cexX.gen from sx, show gn_cexY.sem = gn_set gn_cexY.gen from sy]
  exact gn_cex_sem

end PPLV.Lattice.GO

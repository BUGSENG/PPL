import PPLV.Lattice.ProofsGridOpsAddGenerators
import PPLV.Lattice.ProofsConvCGBase

/-!
# The `Grid` object: `is_universe`
-/
namespace PPLV.Lattice.GO
open PPLV.Lattice PPLV.Lattice.Red

/-! ## Ingredients of `Grid::is_universe`: the unit vectors span the space; the rows `grid_line(Variable(i))`, `grid_point(0)` in dimension `n`; the coefficient of a row as its value on a unit vector -/

/-- a set that contains the origin and absorbs the rational multiples of the unit vectors contains the space -/
theorem gn_space_of_units {n : Nat} {S : Set Pt} (h0 : (0 : Pt) ∈ S)
    (h : ∀ i, i < n → ∀ a ∈ S, ∀ q : ℚ, a + q • (unit i).toFun ∈ S) : {x | Supp n x} ⊆ S := by
  intro x hx
  have key : ∀ k, k ≤ n → (fun j => if j < k then x j else 0) ∈ S := by
    intro k
    induction k with
    | zero =>
      intro _
      have e : (fun j => if j < 0 then x j else 0) = (0 : Pt) := by funext j; simp
      rw [e]; exact h0
    | succ k ih =>
      intro hk
      have := h k (by omega) _ (ih (by omega)) (x k)
      have e : (fun j => if j < k then x j else 0) + x k • (unit k).toFun = fun j => if j < k + 1 then x j else 0 := by
        funext j
        simp only [Pi.add_apply, Pi.smul_apply, smul_eq_mul, toFun_unit]
        by_cases h1 : j < k
        · have : j ≠ k := by omega
          have h2 : j < k + 1 := by omega
          simp [h1, this, h2]
        · by_cases h2 : j = k
          · subst h2; simp
          · have h3 : ¬ j < k + 1 := by omega
            simp [h1, h2, h3]
      rwa [e] at this
  have := key n (le_refl n)
  have e : (fun j => if j < n then x j else 0) = x := by
    funext j
    by_cases h1 : j < n
    · simp [h1]
    · simp [h1, hx j (by omega)]
  rwa [e] at this

theorem gn_space_closed_units (n i : Nat) (hi : i < n) (a : Pt) (ha : Supp n a) (q : ℚ) : Supp n (a + q • (unit i).toFun) := by
  intro j hj
  have : j ≠ i := by omega
  simp [ha j hj, toFun_unit, this]

/-! ### the rows of the test -/

theorem gn_lineOfDim_get (n i j : Nat) (hi : i < n) : get (lineOfDim n i).e j = if j = i + 1 then 1 else 0 := by
  unfold lineOfDim
  show get ((List.replicate (n + 2) 0).set (i + 1) 1) j = _
  rw [get_set]
  by_cases h : j = i + 1
  · subst h; simp; omega
  · simp only [h, false_and, if_false]
    unfold Red.get
    rw [List.getD_eq_getElem?_getD]
    by_cases hj : j < n + 2 <;> simp [hj]

theorem gn_lineOfDim_ok (n i : Nat) (hi : i < n) : gn_RowOK (lineOfDim n i) ∧ (lineOfDim n i).spaceDim = n ∧
    (lineOfDim n i).line = true ∧ gn_vecOf (lineOfDim n i) = (unit i).toFun := by
  have hlen : (lineOfDim n i).e.length = n + 2 := by simp [lineOfDim]
  have hsd : (lineOfDim n i).spaceDim = n := gn_spaceDim_of_len hlen
  refine ⟨⟨by rw [hsd, hlen], fun h => (by cases h), fun _ => (by rw [gn_lineOfDim_get n i 0 hi]; simp)⟩, hsd, rfl, ?_⟩
  funext j
  unfold gn_vecOf
  rw [hsd, gn_lineOfDim_get n i _ hi, toFun_unit]
  have hl : (lineOfDim n i).line = true := rfl
  by_cases h : j = i
  · subst h; simp [hl, hi]
  · by_cases hj : j < n <;> simp [hl, h, hj]

theorem gn_originOfDim_ok (n : Nat) : gn_RowOK (originOfDim n) ∧ (originOfDim n).spaceDim = n ∧
    (originOfDim n).line = false ∧ get (originOfDim n).e 0 = 1 ∧ gn_vecOf (originOfDim n) = 0 := by
  have hlen : (originOfDim n).e.length = n + 2 := by simp [originOfDim]
  have hsd : (originOfDim n).spaceDim = n := gn_spaceDim_of_len hlen
  have hg : ∀ j, get (originOfDim n).e (j + 1) = 0 := by
    intro j
    show get (1 :: List.replicate (n + 1) 0) (j + 1) = 0
    unfold Red.get
    rw [List.getD_eq_getElem?_getD]
    by_cases hj : j < n + 1 <;> simp [hj]
  have h0 : get (originOfDim n).e 0 = 1 := rfl
  refine ⟨⟨by rw [hsd, hlen], fun _ => ?_, fun h => (by cases h)⟩, hsd, rfl, h0, ?_⟩
  · rw [divisor_point _ (by rw [h0]; decide), h0]; decide
  · funext j
    unfold gn_vecOf
    rw [hg j]; simp

/-! ## `Grid::is_universe()` (Grid_public.cc:808) -/

theorem gn_space_nonempty (n : Nat) : ({x | Supp n x} : Set Pt).Nonempty := ⟨0, fun _ _ => rfl⟩

/-- the test on congruences that are up to date but not minimized: the lines `grid_line(Variable(i))` and the origin
    satisfy all the congruences iff these describe the whole space -/
theorem gn_univ_test {n : Nat} (s : CSys) (hc : CWf n s.rows) :
    (((List.range n).reverse.all fun i => s.satisfiesAll (lineOfDim n i)) && s.satisfiesAll (originOfDim n)) = true ↔
      consSet n s.rows = {x | Supp n x} := by
  obtain ⟨o1, o2, o3, o4, o5⟩ := gn_originOfDim_ok n
  have olen : (originOfDim n).e.length = n + 2 := by rw [o1.len, o2]
  have opt : gn_isPt (originOfDim n) = true := (gn_isPt_iff _).mpr ⟨o3, by rw [o4]; decide⟩
  rw [Bool.and_eq_true, List.all_reverse, List.all_eq_true]
  constructor
  · rintro ⟨hl, ho⟩
    have h0 : (0 : Pt) ∈ consSet n s.rows := by
      rw [cn_mem_consSet]
      refine ⟨fun _ _ => rfl, fun c hc' => ?_⟩
      have := (gn_satisfiesAll_iff (n := n) (D := (originOfDim n).divisor) s _ olen (fun _ => rfl)).mp ho c hc'
      rw [divisor_point _ (by rw [o4]; decide)] at this
      have := (gn_cert_pt c (hc c hc').1 _ olen opt).mp this
      rw [o5] at this; exact this
    have hne : (consSet n s.rows).Nonempty := ⟨0, h0⟩
    apply Set.Subset.antisymm (cn_consSet_subset_space n s.rows)
    refine gn_space_of_units h0 (fun i hi a ha q => ?_)
    obtain ⟨l1, l2, l3, l4⟩ := gn_lineOfDim_ok n i hi
    have := (gn_satisfiesAll_subsumes s hc hne _ l1 (by rw [l2])).mp (hl i (List.mem_range.mpr hi))
    unfold gn_Subsumes at this
    rw [if_pos l3, l4] at this
    exact this.2 a ha q
  · intro hU
    have hne : (consSet n s.rows).Nonempty := by rw [hU]; exact gn_space_nonempty n
    constructor
    · intro i hi
      have hi' : i < n := List.mem_range.mp hi
      obtain ⟨l1, l2, l3, l4⟩ := gn_lineOfDim_ok n i hi'
      refine (gn_satisfiesAll_subsumes s hc hne _ l1 (by rw [l2])).mpr ?_
      unfold gn_Subsumes
      rw [if_pos l3, l4, hU]
      exact ⟨gn_space_nonempty n, fun a ha q => gn_space_closed_units n i hi' a ha q⟩
    · refine (gn_satisfiesAll_subsumes s hc hne _ o1 (by rw [o2])).mpr ?_
      unfold gn_Subsumes
      rw [if_neg (by rw [o3]; simp), if_neg (by rw [o4]; decide), o5, hU]
      exact fun _ _ => rfl

/-- one tautological row describes the whole space -/
theorem gn_univ_of_taut {n : Nat} {cs : List CRow} (h : (cs.length == 1 && (rowAt cs 0).isTautological) = true) :
    consSet n cs = {x | Supp n x} := by
  rw [Bool.and_eq_true, beq_iff_eq] at h
  obtain ⟨r, hr⟩ := List.length_eq_one_iff.mp h.1
  rw [hr] at h ⊢
  ext x
  rw [cn_mem_consSet]
  constructor
  · exact fun hx => hx.1
  · intro hx
    refine ⟨hx, fun r' hr' => ?_⟩
    rw [List.mem_singleton.mp hr']
    exact gn_taut_mem r h.2 x

/-! ## A minimized congruence system of the whole space is one tautological row; `Grid::is_universe()` -/

theorem gn_dotF_zero (l : Vec) : dotF l (fun _ => (0 : ℚ)) = 0 := by
  have : (fun _ => (0 : ℚ)) = (0 : ℚ) • (fun _ : Nat => (0 : ℚ)) := by funext j; simp
  rw [this, dotF_smul]; simp

theorem gn_dotF_delta : ∀ (l : Vec) (i : Nat), dotF l (fun j => if j = i then (1 : ℚ) else 0) = l.getD i 0
  | [], i => by simp
  | a :: l, 0 => by
    rw [dotF_cons]
    have : Pt.tail (fun j => if j = 0 then (1 : ℚ) else 0) = fun _ => (0 : ℚ) := by funext j; simp [Pt.tail]
    rw [this, gn_dotF_zero]; simp
  | a :: l, i + 1 => by
    rw [dotF_cons]
    have : Pt.tail (fun j => if j = i + 1 then (1 : ℚ) else 0) = fun j => if j = i then (1 : ℚ) else 0 := by
      funext j; simp [Pt.tail]
    rw [this, gn_dotF_delta l i]; simp

/-- the value of the homogeneous part of a row on a unit vector is its coefficient -/
theorem gn_dotF_unit (e : Row) (i : Nat) : dotF (ratRow e).tail (unit i).toFun = (get e (i + 1) : ℚ) := by
  have hu : (unit i).toFun = fun j => if j = i then (1 : ℚ) else 0 := by funext j; exact toFun_unit i j
  rw [hu, gn_dotF_delta]
  cases e with
  | nil => simp [ratRow, Red.get]
  | cons a l =>
    show (l.map (fun z : Int => (z : ℚ))).getD i 0 = ((l.getD i 0 : Int) : ℚ)
    rw [List.getD_eq_getElem?_getD, List.getD_eq_getElem?_getD, List.getElem?_map]
    cases l[i]? <;> simp

theorem gn_cntBelow_one (P : Nat → Bool) : ∀ k : Nat, (∀ d, 1 ≤ d → d < k + 1 → P d = false) →
    cntBelow P (k + 1) = if P 0 = true then 1 else 0
  | 0, _ => by simp [cntBelow]
  | k + 1, h => by
    rw [cntBelow, gn_cntBelow_one P k (fun d h1 h2 => h d h1 (by omega)), h (k + 1) (by omega) (by omega)]
    simp

/-- **a minimized congruence system of the whole space is one tautological row** -/
theorem gn_univ_min (g : Grid) (hI : GridInv g) (he : g.st.empty = false) (hn : 0 < g.spaceDim) (hm : g.st.cMin = true)
    (hU : g.sem = {x | Supp g.spaceDim x}) : (g.con.length == 1 && (rowAt g.con 0).isTautological) = true := by
  obtain ⟨_, w, s⟩ := gn_sem_of_cUp hI hn he (hI.cminUp hm)
  rw [s] at hU
  obtain ⟨hdk, hlt, hk0⟩ := hI.cmin he hn hm
  have hsrc := lowerTriangular_spec g.spaceDim g.con g.dk hlt
  have hne : (consSet g.spaceDim g.con).Nonempty := by rw [hU]; exact gn_space_nonempty _
  -- every coefficient of every row vanishes
  have hcoef : ∀ c ∈ g.con, ∀ d, 1 ≤ d → d ≤ g.spaceDim → get c.e d = 0 := by
    intro c hc d h1 h2
    have habs : ∀ a ∈ consSet g.spaceDim g.con, ∀ q : ℚ, a + q • (unit (d - 1)).toFun ∈ consSet g.spaceDim g.con := by
      intro a ha q
      rw [hU] at ha ⊢
      exact gn_space_closed_units _ _ (by omega) a ha q
    have hsupp : Supp g.spaceDim (unit (d - 1)).toFun := by
      intro j hj
      rw [toFun_unit, if_neg (by omega)]
    have := (gn_absorb_line_iff hne _ hsupp).mpr habs c hc
    rw [gn_dotF_unit] at this
    have e : d - 1 + 1 = d := by omega
    rw [e] at this
    exact_mod_cast this
  -- no dimension but 0 carries a row
  have hnl : ∀ d, 1 ≤ d → d < g.spaceDim + 1 → nlB g.dk d = false := by
    intro d h1 h2
    by_contra h
    have h' : nlB g.dk d = true := by simpa using h
    have hpos := pos_lt g.dk (g.spaceDim + 1) d h2 h'
    rw [← hsrc.len] at hpos
    have := hsrc.diag d h2 h'
    unfold cEnt at this
    rw [hcoef _ (rowAt_mem g.con _ hpos) d h1 (by omega)] at this
    exact absurd this (lt_irrefl 0)
  have hnl0 : nlB g.dk 0 = true := by
    unfold nlB; rw [hk0]; decide
  have hlen : g.con.length = 1 := by
    rw [hsrc.len]
    show cntBelow (nlB g.dk) (g.spaceDim + 1) = 1
    rw [gn_cntBelow_one _ _ hnl, hnl0]; rfl
  have hrow : rowAt g.con 0 ∈ g.con := rowAt_mem g.con 0 (by omega)
  rw [Bool.and_eq_true, beq_iff_eq]
  refine ⟨hlen, ?_⟩
  have hrlen := (w _ hrow).1
  have hz : allZ (rowAt g.con 0).e 1 (rowAt g.con 0).e.length = true := by
    unfold allZ
    rw [List.all_eq_true]
    intro i hi
    rw [List.mem_range'] at hi
    obtain ⟨j, hj, rfl⟩ := hi
    have := hcoef _ hrow (1 + 1 * j) (by omega) (by omega)
    simpa using this
  have h0mem : (0 : Pt) ∈ CRow.set (rowAt g.con 0) := by
    have : (0 : Pt) ∈ consSet g.spaceDim g.con := by rw [hU]; exact fun _ _ => rfl
    exact ((cn_mem_consSet _ _ _).mp this).2 _ hrow
  obtain ⟨t, ht⟩ := (cn_mem_set _ _).mp h0mem
  rw [evalRow_const _ _ (fun i hi => by
    by_cases hl : i < (rowAt g.con 0).e.length
    · exact hcoef _ hrow i hi (by omega)
    · exact get_of_length_le _ _ (by omega))] at ht
  unfold CRow.isTautological
  rw [hz, Bool.and_true]
  by_cases hm0 : (rowAt g.con 0).m = 0
  · rw [if_pos hm0]
    rw [hm0] at ht
    have : get (rowAt g.con 0).e 0 = 0 := by
      have : ((get (rowAt g.con 0).e 0 : Int) : ℚ) = 0 := by rw [ht]; simp
      exact_mod_cast this
    simp [this]
  · rw [if_neg hm0]
    have : (rowAt g.con 0).m ∣ get (rowAt g.con 0).e 0 := ⟨t, by rw [mul_comm]; exact_mod_cast ht⟩
    simp [Int.tmod_eq_zero_of_dvd this]

/-- **`Grid::is_universe()`**: the invariant and the denotation are kept and the answer says whether the grid is the whole
    space -/
theorem gn_isUniverse (g : Grid) (hI : GridInv g) :
    GridInv (isUniverse g).1 ∧ (isUniverse g).1.sem = g.sem ∧ (isUniverse g).1.spaceDim = g.spaceDim ∧
    ((isUniverse g).2 = true ↔ g.sem = {x | Supp g.spaceDim x}) := by
  have hminIff : ∀ g : Grid, GridInv g → g.st.empty = false → 0 < g.spaceDim → g.st.cMin = true →
      ((g.con.length == 1 && (rowAt g.con 0).isTautological) = true ↔ g.sem = {x | Supp g.spaceDim x}) := by
    intro g hI he hn hm
    obtain ⟨_, _, s⟩ := gn_sem_of_cUp hI hn he (hI.cminUp hm)
    exact ⟨fun h => by rw [s]; exact gn_univ_of_taut h, gn_univ_min g hI he hn hm⟩
  unfold isUniverse
  cases he : g.markedEmpty with
  | true =>
    rw [if_pos rfl]
    refine ⟨hI, rfl, rfl, ⟨fun h => (by cases h), fun h => ?_⟩⟩
    rw [sem_of_empty (g := g) he] at h
    exact absurd h.symm (Set.nonempty_iff_ne_empty.mp (gn_space_nonempty _))
  | false =>
  have he' : g.st.empty = false := he
  rw [if_neg (by simp)]
  by_cases h0 : g.spaceDim = 0
  · rw [if_pos h0]
    exact ⟨hI, rfl, rfl, ⟨fun _ => by rw [sem_of_zdim he' h0, h0]; rfl, fun _ => rfl⟩⟩
  · rw [if_neg h0]
    have hn : 0 < g.spaceDim := by omega
    by_cases hcm : g.congruencesAreUpToDate = true ∧ g.congruencesAreMinimized = true
    · rw [if_pos hcm]
      exact ⟨hI, rfl, rfl, hminIff g hI he' hn hcm.2⟩
    · rw [if_neg hcm]
      cases hcu : g.congruencesAreUpToDate with
      | false =>
        rw [if_pos (by simp)]
        have hc' : g.st.cUp = false := hcu
        have hg : g.st.gUp = true := gUp_of_not_cUp hI he' hn hc'
        obtain ⟨a, b, c, d, _, _, _, f⟩ := updateCongruences_spec g hI he' hn hg hc'
        refine ⟨a, b, c, ?_⟩
        have := hminIff (updateCongruences g) a d (by rw [c]; exact hn) f
        rw [b, c] at this
        exact this
      | true =>
        rw [if_neg (by simp)]
        have hc' : g.st.cUp = true := hcu
        obtain ⟨_, w, s⟩ := gn_sem_of_cUp hI hn he' hc'
        refine ⟨hI, rfl, rfl, ?_⟩
        rw [s]
        exact gn_univ_test g.cs w

end PPLV.Lattice.GO

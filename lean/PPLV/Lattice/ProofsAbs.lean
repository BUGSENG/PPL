import Mathlib.Algebra.Module.LinearMap.Defs
import Mathlib.Algebra.Module.Rat
import Mathlib.Tactic.Linarith
import Mathlib.Tactic.Ring
import Mathlib.Tactic.FieldSimp
import Mathlib.Tactic.Module
import Mathlib.Data.Rat.Cast.Defs

/-!
# K2, abstract part: grids in generator form over an arbitrary ℚ-module

Membership is inductive (`Mem`); `Dir` is the set of directions (differences of members).
Everything is reduced to directions (`mem_iff_dir`); the three structural theorems (`lineCase_spec`,
the pair step `Dir.pair_congr`, `reducedCase_spec`) are independent of any coordinate representation.
-/
namespace PPLV.Lattice.Abs
variable {V : Type} [AddCommGroup V] [Module ℚ V]

structure Grid (V : Type) where
  pt : V
  params : List V
  lines : List V

inductive Mem (G : Grid V) : V → Prop
  | pt : Mem G G.pt
  | param {x q : V} (k : ℤ) : q ∈ G.params → Mem G x → Mem G (x + (k : ℚ) • q)
  | line {x l : V} (c : ℚ) : l ∈ G.lines → Mem G x → Mem G (x + c • l)

/-- congruence `α x + b ≡ 0 (mod f)` (`f = 0`: equality) -/
def SatCg (α : V →ₗ[ℚ] ℚ) (b f : ℚ) (x : V) : Prop := ∃ t : ℤ, α x + b = t * f

/-- directions of a grid with parameters `P` and lines `L` -/
inductive Dir (P L : List V) : V → Prop
  | zero : Dir P L 0
  | param {v q : V} (k : ℤ) : q ∈ P → Dir P L v → Dir P L (v + (k : ℚ) • q)
  | line {v l : V} (c : ℚ) : l ∈ L → Dir P L v → Dir P L (v + c • l)

namespace Dir
variable {P L P' L' : List V}

theorem add {v w : V} (hv : Dir P L v) (hw : Dir P L w) : Dir P L (v + w) := by
  induction hw with
  | zero => rwa [add_zero]
  | param k hq _ ih => rw [← add_assoc]; exact Dir.param k hq ih
  | line c hl _ ih => rw [← add_assoc]; exact Dir.line c hl ih

theorem zsmul {v : V} (j : ℤ) (hv : Dir P L v) : Dir P L ((j:ℚ) • v) := by
  induction hv with
  | zero => rw [smul_zero]; exact Dir.zero
  | param k hq _ ih => rw [smul_add, smul_smul, ← Int.cast_mul]; exact Dir.param _ hq ih
  | line c hl _ ih => rw [smul_add, smul_smul]; exact Dir.line _ hl ih

theorem neg {v : V} (hv : Dir P L v) : Dir P L (-v) := by
  have := zsmul (-1) hv
  simpa using this

theorem sub {v w : V} (hv : Dir P L v) (hw : Dir P L w) : Dir P L (v - w) := by
  rw [sub_eq_add_neg]; exact add hv (neg hw)

theorem of_param {q : V} (hq : q ∈ P) : Dir P L q := by
  have := Dir.param (L := L) 1 hq Dir.zero
  simpa using this

theorem of_line {l : V} (c : ℚ) (hl : l ∈ L) : Dir P L (c • l) := by
  have := Dir.line (P := P) c hl Dir.zero
  simpa using this

/-- if every generator of `(P, L)` is a direction of `(P', L')`, so is every direction -/
theorem mono (hp : ∀ q ∈ P, Dir P' L' q) (hl : ∀ l ∈ L, ∀ c : ℚ, Dir P' L' (c • l))
    {v : V} (hv : Dir P L v) : Dir P' L' v := by
  induction hv with
  | zero => exact Dir.zero
  | param k hq _ ih => exact add ih (zsmul k (hp _ hq))
  | line c hl' _ ih => exact add ih (hl _ hl' c)

theorem mono_subset (hp : ∀ q ∈ P, q ∈ P') (hl : ∀ l ∈ L, l ∈ L') {v : V} (hv : Dir P L v) :
    Dir P' L' v :=
  mono (fun q hq => of_param (hp q hq)) (fun l h c => of_line c (hl l h)) hv

/-- zero vectors may be dropped -/
theorem mono_subset0 (hp : ∀ q ∈ P, q = 0 ∨ q ∈ P') (hl : ∀ l ∈ L, l = 0 ∨ l ∈ L') {v : V}
    (hv : Dir P L v) : Dir P' L' v := by
  refine mono ?_ ?_ hv
  · intro q hq; rcases hp q hq with h | h
    · rw [h]; exact Dir.zero
    · exact of_param h
  · intro l hl' c; rcases hl l hl' with h | h
    · rw [h]; simpa using Dir.zero
    · exact of_line c h

/-- parameter lists that generate each other have the same directions -/
theorem congr (h : ∀ q ∈ P, Dir P' L q) (h' : ∀ q ∈ P', Dir P L q) (v : V) :
    Dir P L v ↔ Dir P' L v :=
  ⟨mono h fun _ hl c => of_line c hl, mono h' fun _ hl c => of_line c hl⟩

theorem congr_mem (h : ∀ q, q ∈ P ↔ q ∈ P') (v : V) : Dir P L v ↔ Dir P' L v :=
  congr (fun q hq => of_param ((h q).mp hq)) (fun q hq => of_param ((h q).mpr hq)) v

theorem append_le {A B R R' : List V} (h : ∀ v, Dir A L v → Dir B L v)
    (h' : ∀ v, Dir R L v → Dir R' L v) {v : V} (hv : Dir (A ++ R) L v) : Dir (B ++ R') L v := by
  refine mono (fun q hq => ?_) (fun _ hl c => of_line c hl) hv
  rcases List.mem_append.mp hq with hq | hq
  · exact mono_subset (fun _ => List.mem_append_left _) (fun _ => id) (h q (of_param hq))
  · exact mono_subset (fun _ => List.mem_append_right _) (fun _ => id) (h' q (of_param hq))

/-- the directions of `A ++ R` depend on the directions of `A` and of `R` only -/
theorem append_congr {A B R R' : List V} (h : ∀ v, Dir A L v ↔ Dir B L v)
    (h' : ∀ v, Dir R L v ↔ Dir R' L v) (v : V) : Dir (A ++ R) L v ↔ Dir (B ++ R') L v :=
  ⟨append_le (fun v => (h v).mp) fun v => (h' v).mp, append_le (fun v => (h v).mpr) fun v => (h' v).mpr⟩

/-- integer combinations of two parameters are directions -/
theorem comb {q₁ q₂ : V} (h₁ : q₁ ∈ P) (h₂ : q₂ ∈ P) (x y : ℤ) :
    Dir P L ((x:ℚ) • q₁ + (y:ℚ) • q₂) :=
  add (zsmul x (of_param h₁)) (zsmul y (of_param h₂))

/-- a unimodular integer change of two parameters -/
theorem pair_congr (q₁ q₂ : V) (s t c d : ℤ) (hdet : (d:ℚ) * s - t * c = 1) (v : V) :
    Dir [q₁, q₂] L v ↔ Dir [(s:ℚ) • q₁ + (t:ℚ) • q₂, (c:ℚ) • q₁ + (d:ℚ) • q₂] L v := by
  have pair : ∀ {p : V → Prop} {a b : V}, p a → p b → ∀ x ∈ [a, b], p x := fun ha hb x hx => by
    rcases List.mem_pair.mp hx with rfl | rfl <;> assumption
  refine congr (pair ?_ ?_)
    (pair (comb (.head _) (.tail _ (.head _)) s t) (comb (.head _) (.tail _ (.head _)) c d)) v
  · -- `q₁ = d u - t v`
    have e : q₁ = (d:ℚ) • ((s:ℚ) • q₁ + (t:ℚ) • q₂) + ((-t : ℤ):ℚ) • ((c:ℚ) • q₁ + (d:ℚ) • q₂) := by
      conv_lhs => rw [← one_smul ℚ q₁, ← hdet]
      push_cast; module
    exact Eq.mpr (congrArg (Dir _ L) e) (comb (.head _) (.tail _ (.head _)) d (-t))
  · -- `q₂ = -c u + s v`
    have e : q₂ = ((-c : ℤ):ℚ) • ((s:ℚ) • q₁ + (t:ℚ) • q₂) + (s:ℚ) • ((c:ℚ) • q₁ + (d:ℚ) • q₂) := by
      conv_lhs => rw [← one_smul ℚ q₂, ← hdet]
      push_cast; module
    exact Eq.mpr (congrArg (Dir _ L) e) (comb (.head _) (.tail _ (.head _)) (-c) s)

end Dir

/-- a member moved along a direction is a member -/
theorem mem_add_dir {G : Grid V} {y v : V} (hy : Mem G y) (hv : Dir G.params G.lines v) :
    Mem G (y + v) := by
  induction hv with
  | zero => rwa [add_zero]
  | param k hq _ ih => rw [← add_assoc]; exact Mem.param k hq ih
  | line c hl _ ih => rw [← add_assoc]; exact Mem.line c hl ih

theorem mem_iff_dir (G : Grid V) (x : V) : Mem G x ↔ Dir G.params G.lines (x - G.pt) := by
  constructor
  · intro h
    induction h with
    | pt => rw [sub_self]; exact Dir.zero
    | param k hq _ ih => rw [add_sub_right_comm]; exact Dir.param k hq ih
    | line c hl _ ih => rw [add_sub_right_comm]; exact Dir.line c hl ih
  · intro h
    rw [← add_sub_cancel G.pt x]; exact mem_add_dir Mem.pt h

/-- a grid is closed under `x + k (y - z)` for members `x y z`, `k ∈ ℤ` -/
theorem mem_affine (G : Grid V) {x y z : V} (k : ℤ) (hx : Mem G x) (hy : Mem G y) (hz : Mem G z) :
    Mem G (x + (k:ℚ) • (y - z)) := by
  rw [mem_iff_dir] at hy hz
  rw [← sub_sub_sub_cancel_right y z G.pt]
  exact mem_add_dir hx (Dir.zsmul k (Dir.sub hy hz))

/-- same point, direction sets included -/
theorem mem_of_dir_sub (G₁ G₂ : Grid V) (hpt : Mem G₂ G₁.pt)
    (h : ∀ v, Dir G₁.params G₁.lines v → Dir G₂.params G₂.lines v) (x : V) (hx : Mem G₁ x) :
    Mem G₂ x := by
  rw [← add_sub_cancel G₁.pt x]
  exact mem_add_dir hpt (h _ ((mem_iff_dir G₁ x).mp hx))

/-- the image of a direction under an additive, homogeneous map is a direction of the images -/
theorem Dir.map {P L : List V} (φ : V → V) (hadd : ∀ x y, φ (x + y) = φ x + φ y)
    (hsmul : ∀ (c : ℚ) x, φ (c • x) = c • φ x) {v : V} (h : Dir P L v) :
    Dir (P.map φ) (L.map φ) (φ v) := by
  induction h with
  | zero => rw [← zero_smul ℚ (0 : V), hsmul, zero_smul]; exact Dir.zero
  | param k hq _ ih => rw [hadd, hsmul]; exact Dir.param k (List.mem_map_of_mem hq) ih
  | line c hl _ ih => rw [hadd, hsmul]; exact Dir.line c (List.mem_map_of_mem hl) ih

/-- splitting off the multiples of the first parameter -/
theorem Dir.split_head {q : V} {P L : List V} {v : V} (h : Dir (q :: P) L v) :
    ∃ k : ℤ, Dir P L (v - (k:ℚ) • q) := by
  induction h with
  | zero => exact ⟨0, by rw [Int.cast_zero, zero_smul, sub_zero]; exact Dir.zero⟩
  | @param w r j hr _ ih =>
    obtain ⟨k, hk⟩ := ih
    rcases List.mem_cons.mp hr with rfl | hr
    · exact ⟨k + j, by rwa [Int.cast_add, add_smul, add_sub_add_right_eq_sub]⟩
    · exact ⟨k, by rw [add_sub_right_comm]; exact Dir.param j hr hk⟩
  | line c hl _ ih =>
    obtain ⟨k, hk⟩ := ih
    exact ⟨k, by rw [add_sub_right_comm]; exact Dir.line c hl hk⟩

/-! ### values of a linear form on a grid -/
variable (α : V →ₗ[ℚ] ℚ)

/-- a linear form that vanishes on the lines and maps the parameters into `f ℤ` maps every
    direction into `f ℤ` -/
theorem alpha_dir_int (f : ℚ) (P L : List V) (hL : ∀ l ∈ L, α l = 0)
    (hP : ∀ q ∈ P, ∃ t : ℤ, α q = t * f) {v : V} (h : Dir P L v) : ∃ t : ℤ, α v = t * f := by
  induction h with
  | zero => exact ⟨0, by rw [map_zero, Int.cast_zero, zero_mul]⟩
  | param k hq _ ih =>
    obtain ⟨j, hj⟩ := ih
    obtain ⟨t, ht⟩ := hP _ hq
    exact ⟨j + k * t, by rw [map_add, map_smul, hj, ht, smul_eq_mul]; push_cast; ring⟩
  | line c hl _ ih =>
    obtain ⟨j, hj⟩ := ih
    exact ⟨j, by rw [map_add, map_smul, hj, hL _ hl, smul_zero, add_zero]⟩

theorem alpha_dir_one (qs : V) (rest L : List V) (hL : ∀ l ∈ L, α l = 0) (hrest : ∀ r ∈ rest, α r = 0)
    {v : V} (h : Dir (qs :: rest) L v) : ∃ k : ℤ, α v = k * α qs :=
  alpha_dir_int α (α qs) _ L hL (List.forall_mem_cons.mpr
    ⟨⟨1, by rw [Int.cast_one, one_mul]⟩, fun r hr => ⟨0, by rw [hrest r hr, Int.cast_zero, zero_mul]⟩⟩) h

theorem alpha_dir_zero (P L : List V) (hL : ∀ l ∈ L, α l = 0) (hP : ∀ r ∈ P, α r = 0)
    {v : V} (h : Dir P L v) : α v = 0 := by
  obtain ⟨t, ht⟩ := alpha_dir_int α 0 P L hL (fun r hr => ⟨0, by rw [hP r hr, mul_zero]⟩) h
  rw [ht, mul_zero]

/-! ### line case -/
variable (b f : ℚ) (l0 : V)

/-- projection along l0 onto the hyperplane α + b = 0 -/
noncomputable def projAff (x : V) : V := x - ((α x + b) / α l0) • l0
/-- projection of a direction along l0 onto ker α -/
noncomputable def projLin (g : V) : V := g - (α g / α l0) • l0

noncomputable def lineCase (G : Grid V) : Grid V :=
  { pt := projAff α b l0 G.pt
    params := G.params.map (projLin α l0) ++ (if f = 0 then [] else [(f / α l0) • l0])
    lines := G.lines.map (projLin α l0) }

theorem alpha_projLin (hβ : α l0 ≠ 0) (g : V) : α (projLin α l0 g) = 0 := by
  rw [projLin, map_sub, map_smul, smul_eq_mul, div_mul_cancel₀ _ hβ, sub_self]

theorem alpha_projAff (hβ : α l0 ≠ 0) (x : V) : α (projAff α b l0 x) + b = 0 := by
  rw [projAff, map_sub, map_smul, smul_eq_mul, div_mul_cancel₀ _ hβ]; ring

theorem projLin_add (x y : V) : projLin α l0 (x + y) = projLin α l0 x + projLin α l0 y := by
  simp only [projLin, map_add, add_div, add_smul, add_sub_add_comm]

theorem projLin_smul (c : ℚ) (x : V) : projLin α l0 (c • x) = c • projLin α l0 x := by
  simp only [projLin, map_smul, smul_eq_mul, mul_div_assoc, mul_smul, smul_sub]

theorem projAff_sub (x y : V) : projAff α b l0 x - projAff α b l0 y = projLin α l0 (x - y) := by
  simp only [projAff, projLin, map_sub]
  rw [sub_sub_sub_comm, ← sub_smul, ← sub_div, add_sub_add_right_eq_sub]

theorem lineCase_sub (G : Grid V) (hl0 : l0 ∈ G.lines) (x : V)
    (h : Mem (lineCase α b f l0 G) x) : Mem G x := by
  refine mem_of_dir_sub _ G ?_ (fun v => Dir.mono ?_ ?_) x h
  · change Mem G (G.pt - _ • l0)
    rw [sub_eq_add_neg]; exact mem_add_dir Mem.pt (Dir.neg (Dir.of_line _ hl0))
  · intro q hq
    rcases List.mem_append.mp hq with hq | hq
    · obtain ⟨g, hg, rfl⟩ := List.mem_map.mp hq
      exact Dir.sub (Dir.of_param hg) (Dir.of_line _ hl0)
    · split at hq
      · exact absurd hq List.not_mem_nil
      · rw [List.mem_singleton.mp hq]; exact Dir.of_line _ hl0
  · intro l hl c
    obtain ⟨g, hg, rfl⟩ := List.mem_map.mp hl
    rw [projLin, smul_sub, smul_smul]
    exact Dir.sub (Dir.of_line c hg) (Dir.of_line _ hl0)

theorem lineCase_sat (hβ : α l0 ≠ 0) (G : Grid V) (x : V)
    (h : Mem (lineCase α b f l0 G) x) : SatCg α b f x := by
  have hL : ∀ l ∈ (lineCase α b f l0 G).lines, α l = 0 := by
    intro l hl
    obtain ⟨g, _, rfl⟩ := List.mem_map.mp hl
    exact alpha_projLin α l0 hβ g
  have hP : ∀ q ∈ (lineCase α b f l0 G).params, ∃ t : ℤ, α q = t * f := by
    intro q hq
    rcases List.mem_append.mp hq with hq | hq
    · obtain ⟨g, _, rfl⟩ := List.mem_map.mp hq
      exact ⟨0, by rw [alpha_projLin α l0 hβ g, Int.cast_zero, zero_mul]⟩
    · split at hq
      · exact absurd hq List.not_mem_nil
      · rw [List.mem_singleton.mp hq]
        exact ⟨1, by rw [map_smul, smul_eq_mul, div_mul_cancel₀ _ hβ, Int.cast_one, one_mul]⟩
  obtain ⟨t, ht⟩ := alpha_dir_int α f _ _ hL hP ((mem_iff_dir _ x).mp h)
  have := alpha_projAff α b l0 hβ G.pt
  rw [map_sub] at ht
  change α x - α (projAff α b l0 G.pt) = _ at ht
  exact ⟨t, by linarith⟩

theorem proj_mem (G : Grid V) (x : V) (h : Mem G x) :
    Mem (lineCase α b f l0 G) (projAff α b l0 x) := by
  rw [mem_iff_dir] at h ⊢
  change Dir _ _ (projAff α b l0 x - projAff α b l0 G.pt)
  rw [projAff_sub]
  exact Dir.mono_subset (fun _ => List.mem_append_left _) (fun _ => id)
    (Dir.map _ (projLin_add α l0) (projLin_smul α l0) h)

/-- K2, line case: the new grid is exactly the old grid intersected with the congruence. -/
theorem lineCase_spec (hβ : α l0 ≠ 0) (G : Grid V) (hl0 : l0 ∈ G.lines) (x : V) :
    Mem (lineCase α b f l0 G) x ↔ Mem G x ∧ SatCg α b f x := by
  constructor
  · intro h; exact ⟨lineCase_sub α b f l0 G hl0 x h, lineCase_sat α b f l0 hβ G x h⟩
  · rintro ⟨hx, t, ht⟩
    have hp := proj_mem α b f l0 G x hx
    by_cases hf : f = 0
    · have : projAff α b l0 x = x := by rw [projAff, ht, hf, mul_zero, zero_div, zero_smul, sub_zero]
      rwa [this] at hp
    · -- `x = π x + t • (f / β) • l0`
      have hx' : x = projAff α b l0 x + (t:ℚ) • ((f / α l0) • l0) := by
        rw [projAff, ht, smul_smul, mul_div_assoc, sub_add_cancel]
      rw [hx']
      exact Mem.param t (List.mem_append_right _ (by rw [if_neg hf]; exact List.mem_singleton_self _)) hp

/-! ### reduced case: exactly one parameter `qs` outside `ker α` -/

theorem reducedCase_spec (p qs : V) (rest lines : List V) (k0 m : ℤ)
    (hlines : ∀ l ∈ lines, α l = 0) (hrest : ∀ r ∈ rest, α r = 0)
    (hk0 : SatCg α b f (p + (k0:ℚ) • qs))
    (hm : ∃ t : ℤ, (m:ℚ) * α qs = t * f)
    (hmin : ∀ k : ℤ, (∃ t : ℤ, (k:ℚ) * α qs = t * f) → ∃ j : ℤ, k = j * m)
    (x : V) :
    Mem ⟨p + (k0:ℚ) • qs, ((m:ℚ) • qs) :: rest, lines⟩ x ↔
      Mem ⟨p, qs :: rest, lines⟩ x ∧ SatCg α b f x := by
  obtain ⟨t0, ht0⟩ := hk0
  constructor
  · intro h
    constructor
    · refine mem_of_dir_sub ⟨p + (k0:ℚ) • qs, ((m:ℚ) • qs) :: rest, lines⟩ ⟨p, qs :: rest, lines⟩ (Mem.param k0 List.mem_cons_self Mem.pt)
        (fun v => Dir.mono (fun q hq => ?_) fun l hl c => Dir.of_line c hl) x h
      rcases List.mem_cons.mp hq with rfl | hq
      · exact Dir.zsmul m (Dir.of_param List.mem_cons_self)
      · exact Dir.of_param (List.mem_cons_of_mem _ hq)
    · obtain ⟨t, ht⟩ := alpha_dir_int α f _ _ hlines (List.forall_mem_cons.mpr
        ⟨by rwa [map_smul], fun r hr => ⟨0, by rw [hrest r hr, Int.cast_zero, zero_mul]⟩⟩)
        ((mem_iff_dir _ x).mp h)
      rw [map_sub] at ht
      change α x - α (p + (k0:ℚ) • qs) = _ at ht
      exact ⟨t + t0, by push_cast; linarith⟩
  · rintro ⟨hx, t, ht⟩
    -- `x - p = k • qs + w` with `w` a direction of `rest`, on which `α` vanishes
    obtain ⟨k, hw⟩ := Dir.split_head ((mem_iff_dir _ x).mp hx)
    change Dir rest lines (x - p - (k:ℚ) • qs) at hw
    have hαw := alpha_dir_zero α rest lines hlines hrest hw
    simp only [map_sub, map_add, map_smul, smul_eq_mul] at hαw ht0
    obtain ⟨j, hj⟩ := hmin (k - k0) ⟨t - t0, by push_cast; linarith⟩
    have hk : (k:ℚ) = k0 + j * m := by rw [← Int.cast_mul, ← hj]; push_cast; ring
    rw [mem_iff_dir]
    have hx' : x - (p + (k0:ℚ) • qs) = (j:ℚ) • ((m:ℚ) • qs) + (x - p - (k:ℚ) • qs) := by
      rw [hk]; module
    change Dir _ _ (x - (p + (k0:ℚ) • qs))
    rw [hx']
    exact (Dir.add (Dir.zsmul j (Dir.of_param List.mem_cons_self))
      (Dir.mono_subset (fun _ => List.mem_cons_of_mem _) (fun _ => id) hw))

end PPLV.Lattice.Abs

import PPLV.Lattice.ProofsRedBridge

/-!
# `Grid::normalize_divisors`: the PPL reading (`gensOf`) of the system is literally unchanged
-/
namespace PPLV.Lattice.Red
open PPLV.Lattice

/-- generator rows as `Grid` holds them: `n + 2` entries, parameters and points have a positive divisor -/
def GShape (n : Nat) (rows : List GRow) : Prop :=
  ∀ r ∈ rows, r.e.length = n + 2 ∧ (r.line = false → 0 < r.divisor)

/-- the rows of a list vector are determined by `toFun` and the length -/
theorem coords_ext (n : Nat) (r r' : GRow) (d d' : ℚ)
    (h : ∀ i, i < n → (get r'.e (i + 1) : ℚ) / d' = (get r.e (i + 1) : ℚ) / d)
    (hl : r'.e.length = r.e.length) : r'.coords n d' = r.coords n d := by
  apply List.ext_getElem
  · simp [GRow.coords, ratRow, hl]
  · intro i h1 h2
    have hi : i < n := by
      simp only [GRow.coords, List.length_map, List.length_take] at h1; omega
    have e1 := coords_toFun n r' d' i
    have e2 := coords_toFun n r d i
    simp only [Vec.toFun, hi, if_true] at e1 e2
    simp only [List.getD_eq_getElem?_getD, List.getElem?_eq_getElem h1, Option.getD_some] at e1
    simp only [List.getD_eq_getElem?_getD, List.getElem?_eq_getElem h2, Option.getD_some] at e2
    rw [e1, e2]; exact h i hi

/-- `scale_to_divisor(d)` on a parameter or point that keeps its divisor in column `c` (the last column of a
    parameter, column 0 of a point): column `c` becomes `d`, the coordinates are multiplied by `f = d / divisor()` -/
theorem scaleToDivisor_get (n : Nat) (r : GRow) (d f : Int) (c : Nat) (hlen : r.e.length = n + 2)
    (hl : r.line = false) (hset : r.setDivisor d = { r with e := r.e.set c d }) (hc : c = 0 ∨ c = n + 1)
    (hfac : d / r.divisor = f) (hf : 0 < f) :
    (r.scaleToDivisor d).line = false ∧ (r.scaleToDivisor d).e.length = n + 2 ∧
    ∀ i, get (r.scaleToDivisor d).e i =
      if i = c then d else if 1 ≤ i ∧ i < n + 1 then get r.e i * f else get r.e i := by
  have hline : r.isLine = false := hl
  unfold GRow.scaleToDivisor
  rw [hline, if_neg Bool.false_ne_true, hfac, hset]
  by_cases hf1 : f > 1
  · rw [if_pos hf1]
    refine ⟨hl, by rw [length_mulAssign, List.length_set, hlen], fun i => ?_⟩
    rw [get_mulAssign, get_set, List.length_set, hlen]
    by_cases h1 : i = c
    · rw [if_neg (show ¬ (1 ≤ i ∧ i < n + 2 - 1) by omega), if_pos ⟨h1, by omega⟩, if_pos h1]
    · rw [if_neg (show ¬ (i = c ∧ c < n + 2) from fun e => h1 e.1), if_neg h1]; rfl
  · rw [if_neg hf1]
    refine ⟨hl, by rw [List.length_set, hlen], fun i => ?_⟩
    rw [get_set, hlen, show f = 1 by omega, mul_one, ite_self]
    by_cases h1 : i = c
    · rw [if_pos ⟨h1, by omega⟩, if_pos h1]
    · rw [if_neg (show ¬ (i = c ∧ c < n + 2) from fun e => h1 e.1), if_neg h1]

/-- one row of `scale_to_divisor(d)` (Grid_Generator.cc:304), `divisor() ∣ d` -/
theorem scaleToDivisor_spec (n : Nat) (r : GRow) (d : Int) (hlen : r.e.length = n + 2) (hl : r.line = false)
    (hdiv : 0 < r.divisor) (hdvd : r.divisor ∣ d) (hd : 0 < d) :
    (r.scaleToDivisor d).line = false ∧ (r.scaleToDivisor d).e.length = n + 2 ∧
    (get (r.scaleToDivisor d).e 0 = 0 ↔ get r.e 0 = 0) ∧
    (r.scaleToDivisor d).divisor = d ∧
    (r.scaleToDivisor d).coords n ((r.scaleToDivisor d).divisor : ℚ) = r.coords n (r.divisor : ℚ) := by
  obtain ⟨f, hf⟩ := hdvd
  have hfpos : 0 < f := (mul_pos_iff_of_pos_left hdiv).mp (hf ▸ hd)
  have hfac : d / r.divisor = f := by rw [hf]; exact Int.mul_ediv_cancel_left f (ne_of_gt hdiv)
  -- the coordinates are those of `r` times `f`, the divisor is `divisor() * f`
  have hcoords : ∀ (r' : GRow), r'.e.length = n + 2 → (∀ i, i < n → get r'.e (i + 1) = get r.e (i + 1) * f) →
      r'.coords n (d : ℚ) = r.coords n (r.divisor : ℚ) := fun r' hlen' h => by
    refine coords_ext n r r' _ _ (fun i hi => ?_) (by rw [hlen', hlen])
    have hdq : (r.divisor : ℚ) ≠ 0 := Int.cast_ne_zero.mpr (ne_of_gt hdiv)
    have hfq : (f : ℚ) ≠ 0 := Int.cast_ne_zero.mpr (ne_of_gt hfpos)
    rw [h i hi, hf, Int.cast_mul, Int.cast_mul, mul_div_mul_right _ _ hfq]
  have hmid : ∀ i, i < n → ¬ i + 1 = 0 ∧ ¬ i + 1 = n + 1 ∧ (1 ≤ i + 1 ∧ i + 1 < n + 1) := fun i hi => by omega
  by_cases hp : r.isLineOrParameter = true
  · -- a parameter: the divisor is the last column
    have he0 : get r.e 0 = 0 := by simpa [GRow.isLineOrParameter] using hp
    obtain ⟨hl', hlen', key⟩ := scaleToDivisor_get n r d f (n + 1) hlen hl
      (by simp [GRow.setDivisor, hp, hlen]) (Or.inr rfl) hfac hfpos
    have h0' : get (r.scaleToDivisor d).e 0 = 0 := by
      rw [key, if_neg (by omega), if_neg (by omega), he0]
    have hdiv' : (r.scaleToDivisor d).divisor = d := by
      simp only [GRow.divisor, GRow.isLineOrParameter, h0', beq_self_eq_true, if_true, hlen']
      rw [show n + 2 - 1 = n + 1 by omega, key, if_pos rfl]
    refine ⟨hl', hlen', by rw [h0', he0], hdiv', ?_⟩
    rw [hdiv']
    exact hcoords _ hlen' fun i hi => by rw [key, if_neg (hmid i hi).2.1, if_pos (hmid i hi).2.2]
  · -- a point: the divisor is the inhomogeneous term
    have hp' : r.isLineOrParameter = false := by simpa using hp
    have he0 : get r.e 0 ≠ 0 := by simpa [GRow.isLineOrParameter] using hp
    obtain ⟨hl', hlen', key⟩ := scaleToDivisor_get n r d f 0 hlen hl
      (by simp [GRow.setDivisor, hp']) (Or.inl rfl) hfac hfpos
    have h0' : get (r.scaleToDivisor d).e 0 = d := by rw [key, if_pos rfl]
    have hdiv' : (r.scaleToDivisor d).divisor = d := by
      simp [GRow.divisor, GRow.isLineOrParameter, h0', ne_of_gt hd]
    refine ⟨hl', hlen', by rw [h0']; exact iff_of_false (ne_of_gt hd) he0, hdiv', ?_⟩
    rw [hdiv']
    exact hcoords _ hlen' fun i hi => by rw [key, if_neg (hmid i hi).1, if_pos (hmid i hi).2.2]

/-- `gensOf` in terms of `divisor` -/
theorem divisor_point (r : GRow) (h : get r.e 0 ≠ 0) : r.divisor = get r.e 0 := by
  simp [GRow.divisor, GRow.isLineOrParameter, h]
theorem divisor_param (n : Nat) (r : GRow) (hlen : r.e.length = n + 2) (h : get r.e 0 = 0) : r.divisor = get r.e (n + 1) := by
  simp [GRow.divisor, GRow.isLineOrParameter, h, hlen]

/-- a row-wise map that keeps kinds and divided coordinates keeps the PPL reading -/
theorem gensOf_map (n : Nat) (rows : List GRow) (f : GRow → GRow)
    (hlen : ∀ r ∈ rows, r.e.length = n + 2 ∧ (f r).e.length = n + 2)
    (hline : ∀ r ∈ rows, (f r).line = r.line)
    (h0 : ∀ r ∈ rows, (get (f r).e 0 = 0 ↔ get r.e 0 = 0))
    (hz : ∀ r ∈ rows, ((f r).divisor = 0 ↔ r.divisor = 0))
    (hc : ∀ r ∈ rows, r.line = false → (f r).coords n ((f r).divisor : ℚ) = r.coords n (r.divisor : ℚ))
    (hl : ∀ r ∈ rows, r.line = true → (f r).coords n 1 = r.coords n 1) :
    gensOf n (rows.map f) = gensOf n rows := by
  unfold gensOf
  simp only [List.filter_map]
  have e1 : rows.filter ((fun r => !r.line && get r.e 0 != 0) ∘ f) = rows.filter (fun r => !r.line && get r.e 0 != 0) := by
    apply List.filter_congr
    intro r hr
    simp only [Function.comp, hline r hr]
    have hb : (get (f r).e 0 != 0) = (get r.e 0 != 0) := by
      rw [Bool.eq_iff_iff]; simp only [bne_iff_ne, ne_eq]; exact not_congr (h0 r hr)
    rw [hb]
  have e2 : rows.filter ((fun r => !r.line && get r.e 0 == 0) ∘ f) = rows.filter (fun r => !r.line && get r.e 0 == 0) := by
    apply List.filter_congr
    intro r hr
    simp only [Function.comp, hline r hr]
    have hb : (get (f r).e 0 == 0) = (get r.e 0 == 0) := by
      rw [Bool.eq_iff_iff]; simp only [beq_iff_eq]; exact h0 r hr
    rw [hb]
  have e3 : rows.filter ((fun r => r.line) ∘ f) = rows.filter (fun r => r.line) := by
    apply List.filter_congr
    intro r hr
    show (f r).line = r.line
    exact hline r hr
  rw [e1, e2, e3]
  -- membership facts
  have mq : ∀ r ∈ rows.filter (fun r => !r.line && get r.e 0 == 0), r ∈ rows ∧ r.line = false ∧ get r.e 0 = 0 := by
    intro r hr
    rw [List.mem_filter] at hr
    simp only [Bool.and_eq_true, Bool.not_eq_true', beq_iff_eq] at hr
    exact ⟨hr.1, hr.2.1, hr.2.2⟩
  have mp : ∀ r ∈ rows.filter (fun r => !r.line && get r.e 0 != 0), r ∈ rows ∧ r.line = false ∧ get r.e 0 ≠ 0 := by
    intro r hr
    rw [List.mem_filter] at hr
    simp only [Bool.and_eq_true, Bool.not_eq_true', bne_iff_ne, ne_eq] at hr
    exact ⟨hr.1, hr.2.1, hr.2.2⟩
  have ml : ∀ r ∈ rows.filter (fun r => r.line), r ∈ rows ∧ r.line = true := by
    intro r hr
    rw [List.mem_filter] at hr
    exact hr
  have eany : ((rows.filter (fun r => !r.line && get r.e 0 == 0)).map f).any (fun r => get r.e (n + 1) == 0)
      = (rows.filter (fun r => !r.line && get r.e 0 == 0)).any (fun r => get r.e (n + 1) == 0) := by
    rw [List.any_map]
    have anyc : ∀ (l : List GRow) (g1 g2 : GRow → Bool), (∀ r ∈ l, g1 r = g2 r) → l.any g1 = l.any g2 := by
      intro l g1 g2
      induction l with
      | nil => simp
      | cons a l ih =>
        intro h
        simp only [List.any_cons]
        rw [h a (by simp), ih (fun r hr => h r (List.mem_cons_of_mem _ hr))]
    apply anyc
    intro r hr
    obtain ⟨hr1, _, hr3⟩ := mq r hr
    have hfr0 : get (f r).e 0 = 0 := (h0 r hr1).mpr hr3
    have d1 := divisor_param n r (hlen r hr1).1 hr3
    have d2 := divisor_param n (f r) (hlen r hr1).2 hfr0
    have := hz r hr1
    rw [d1, d2] at this
    simp only [Function.comp]
    by_cases h : get r.e (n + 1) = 0
    · simp [h, this.mpr h]
    · have h' : ¬ get (f r).e (n + 1) = 0 := fun x => h (this.mp x)
      simp [h, h']
  rw [eany]
  split
  · rfl
  · cases hpts : rows.filter (fun r => !r.line && get r.e 0 != 0) with
    | nil => rfl
    | cons p ps =>
      simp only [List.map_cons]
      have hpm : ∀ r, r ∈ p :: ps → (f r).coords n (get (f r).e 0 : Rat) = r.coords n (get r.e 0 : Rat) := by
        intro r hr
        rw [← hpts] at hr
        obtain ⟨hr1, hr2, hr3⟩ := mp r hr
        have hfr0 : get (f r).e 0 ≠ 0 := fun x => hr3 ((h0 r hr1).mp x)
        have := hc r hr1 hr2
        rwa [divisor_point r hr3, divisor_point (f r) hfr0] at this
      have hp := hpm p (by simp)
      congr 3
      · rw [List.map_map, hp]
        congr 1
        · apply List.map_congr_left
          intro r hr
          simp only [Function.comp]
          rw [hpm r (List.mem_cons_of_mem _ hr)]
        · rw [List.map_map]
          apply List.map_congr_left
          intro r hr
          obtain ⟨hr1, hr2, hr3⟩ := mq r hr
          have hfr0 : get (f r).e 0 = 0 := (h0 r hr1).mpr hr3
          have := hc r hr1 hr2
          simp only [Function.comp]
          rwa [divisor_param n r (hlen r hr1).1 hr3, divisor_param n (f r) (hlen r hr1).2 hfr0] at this
      · rw [List.map_map]
        apply List.map_congr_left
        intro r hr
        obtain ⟨hr1, hr2⟩ := ml r hr
        simp only [Function.comp]
        exact hl r hr1 hr2

/-- the fold of `lcm_assign` over the divisors: positive, and a multiple of every divisor -/
theorem lcmFold_spec (rows : List GRow) (hpos : ∀ r ∈ rows, r.line = false → 0 < r.divisor) :
    ∀ d : Int, 0 < d →
      let d' := rows.foldl (fun d g => if g.isParameterOrPoint then lcmI d g.divisor else d) d
      0 < d' ∧ d ∣ d' ∧ ∀ r ∈ rows, r.line = false → r.divisor ∣ d' := by
  induction rows with
  | nil => intro d hd; exact ⟨hd, dvd_refl d, by simp⟩
  | cons g rows ih =>
    intro d hd
    simp only [List.foldl_cons]
    by_cases hg : g.isParameterOrPoint = true
    · have hgl : g.line = false := by simpa [GRow.isParameterOrPoint] using hg
      have hgd := hpos g (by simp) hgl
      have hl : 0 < lcmI d g.divisor := by
        have : Int.lcm d g.divisor ≠ 0 := by
          intro h; rw [Int.lcm_eq_zero_iff] at h; omega
        simp only [lcmI]; omega
      obtain ⟨h1, h2, h3⟩ := ih (fun r hr => hpos r (List.mem_cons_of_mem _ hr)) _ hl
      simp only [hg, if_true]
      refine ⟨h1, dvd_trans (Int.dvd_lcm_left d g.divisor) h2, ?_⟩
      intro r hr hrl
      rcases List.mem_cons.mp hr with rfl | hr
      · exact dvd_trans (Int.dvd_lcm_right d r.divisor) h2
      · exact h3 r hr hrl
    · obtain ⟨h1, h2, h3⟩ := ih (fun r hr => hpos r (List.mem_cons_of_mem _ hr)) d hd
      simp only [hg]
      refine ⟨h1, h2, ?_⟩
      intro r hr hrl
      rcases List.mem_cons.mp hr with rfl | hr
      · simp [GRow.isParameterOrPoint, hrl] at hg
      · exact h3 r hr hrl

theorem mem_dropWhile_of_not {α : Type} (p : α → Bool) : ∀ (l : List α) (a : α), a ∈ l → p a = false → a ∈ l.dropWhile p
  | [], _, h, _ => by simp at h
  | b :: l, a, h, hp => by
    rw [List.dropWhile_cons]
    split
    · rcases List.mem_cons.mp h with rfl | h
      · simp_all
      · exact mem_dropWhile_of_not p l a h hp
    · exact h

/-- **`Grid::normalize_divisors` keeps the PPL reading of the generator system** (and every parameter / point
    gets the common divisor `d'`, a positive multiple of the given one) -/
theorem normalizeDivisors_gensOf (n : Nat) (rows : List GRow) (d : Int) (hs : GShape n rows) :
    gensOf n (normalizeDivisors n rows d).1 = gensOf n rows := by
  unfold normalizeDivisors
  split
  · rename_i hnd
    split
    · rfl
    · -- the new divisor
      have hpos : ∀ r ∈ rows.dropWhile (·.isLine), r.line = false → 0 < r.divisor :=
        fun r hr hl => (hs r (List.dropWhile_subset _ hr)).2 hl
      obtain ⟨h1, _, h3⟩ := lcmFold_spec (rows.dropWhile (·.isLine)) hpos d hnd.2
      set d' := (rows.dropWhile (·.isLine)).foldl (fun d g => if g.isParameterOrPoint then lcmI d g.divisor else d) d
      have hdv : ∀ r ∈ rows, r.line = false → r.divisor ∣ d' := by
        intro r hr hl
        exact h3 r (mem_dropWhile_of_not _ rows r hr (by simpa [GRow.isLine] using hl)) hl
      have spec : ∀ r ∈ rows, r.line = false → _ := fun r hr hl =>
        scaleToDivisor_spec n r d' (hs r hr).1 hl ((hs r hr).2 hl) (hdv r hr hl) h1
      have hlineS : ∀ r : GRow, r.line = true → r.scaleToDivisor d' = r := by
        intro r hl; simp [GRow.scaleToDivisor, GRow.isLine, hl]
      show gensOf n (rows.map (·.scaleToDivisor d')) = gensOf n rows
      apply gensOf_map
      · intro r hr
        refine ⟨(hs r hr).1, ?_⟩
        cases hl : r.line with
        | true => rw [hlineS r hl]; exact (hs r hr).1
        | false => exact (spec r hr hl).2.1
      · intro r hr
        cases hl : r.line with
        | true => rw [hlineS r hl]; exact hl
        | false => exact (spec r hr hl).1
      · intro r hr
        cases hl : r.line with
        | true => rw [hlineS r hl]
        | false => exact (spec r hr hl).2.2.1
      · intro r hr
        cases hl : r.line with
        | true => rw [hlineS r hl]
        | false =>
          have := (spec r hr hl).2.2.2.1
          have hp := (hs r hr).2 hl
          rw [this]; constructor <;> intro h <;> omega
      · intro r hr hl; exact (spec r hr hl).2.2.2.2
      · intro r hr hl; rw [hlineS r hl]
  · rfl

end PPLV.Lattice.Red

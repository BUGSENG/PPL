import PPLV.Lattice.ProofsGridOpsCongruence
import PPLV.Lattice.ProofsGridOpsLazy
import PPLV.Lattice.ProofsGridOpsAddCongruence

/-!
# The `Grid` object: `affine_preimage`, congruence side

`Congruence::affine_preimage` substitutes the map into a row.  The generator side of the invertible path is
`Grid_Generator_System::affine_image` with the inverse map (`ProofsGridOpsAffineImage`).
-/
namespace PPLV.Lattice.GO
open PPLV.Lattice PPLV.Lattice.Red

/-! ## `Congruence::affine_preimage` (Congruence.cc:115), `Congruence_System::affine_preimage` (Congruence_System.cc:330), `conAffinePreimagePos`

The transformed row holds at `x` iff the row holds at `x` with coordinate `v` replaced by `(⟨e,x⟩ + e₀)/den`.
-/

/-- `x` with coordinate `v` replaced by `q` -/
def cn_upd (x : Pt) (v : Nat) (q : ℚ) : Pt := fun i => if i = v then q else x i

theorem cn_upd_supp (n v : Nat) (x : Pt) (q : ℚ) (hv : v < n) (hx : Supp n x) : Supp n (cn_upd x v q) := by
  intro i hi; unfold cn_upd; rw [if_neg (by omega)]; exact hx i hi

/-- the preimage of `S` under `x_v := (⟨e,x⟩ + e₀)/den`, in the `n`-space -/
def cn_preSet (n v : Nat) (e : LinExpr) (den : Int) (S : Set Pt) : Set Pt :=
  {x | Supp n x ∧ cn_upd x v (evalRow e x / (den : ℚ)) ∈ S}

/-! ### the value of a row at an updated point, of a row with one entry replaced -/

theorem cn_dotF_upd (a : Row) (y : Pt) (k : Nat) (w : ℚ) :
    dotF (ratRow a) (fun i => if i = k then w else y i) = dotF (ratRow a) y + (Red.get a k : ℚ) * (w - y k) := by
  induction a generalizing y k with
  | nil => simp [ratRow, Red.get]
  | cons c a ih =>
    simp only [ratRow, List.map_cons, dotF_cons] at ih ⊢
    cases k with
    | zero =>
      have : Pt.tail (fun i => if i = 0 then w else y i) = y.tail := by funext i; simp [Pt.tail]
      rw [this, get_cons_zero]; simp; ring
    | succ k =>
      have : Pt.tail (fun i => if i = k + 1 then w else y i) = fun i => if i = k then w else y.tail i := by
        funext i; simp [Pt.tail]
      rw [this, ih y.tail k, get_cons_succ]; simp [Pt.tail]; ring

theorem cn_ext1_upd (x : Pt) (v : Nat) (q : ℚ) : ext1 (cn_upd x v q) = fun i => if i = v + 1 then q else ext1 x i := by
  funext i
  cases i with
  | zero => simp [ext1]
  | succ i => simp [ext1, cn_upd]

theorem cn_evalRow_upd (e : Row) (x : Pt) (v : Nat) (q : ℚ) :
    evalRow e (cn_upd x v q) = evalRow e x + (Red.get e (v + 1) : ℚ) * (q - x v) := by
  unfold evalRow; rw [cn_ext1_upd, cn_dotF_upd]; rfl

theorem cn_dotF_set (a : Row) (y : Pt) (k : Nat) (w : Int) (hk : k < a.length) :
    dotF (ratRow (a.set k w)) y = dotF (ratRow a) y + ((w : ℚ) - (Red.get a k : ℚ)) * y k := by
  induction a generalizing y k with
  | nil => simp at hk
  | cons c a ih =>
    cases k with
    | zero => simp only [List.set_cons_zero, ratRow, List.map_cons, dotF_cons, get_cons_zero]; ring
    | succ k =>
      simp only [List.set_cons_succ, ratRow, List.map_cons, dotF_cons, get_cons_succ] at ih ⊢
      rw [ih y.tail k (by simpa using hk)]; simp [Pt.tail]; ring

theorem cn_evalRow_set (e : Row) (x : Pt) (v : Nat) (w : Int) (hk : v + 1 < e.length) :
    evalRow (e.set (v + 1) w) x = evalRow e x + ((w : ℚ) - (Red.get e (v + 1) : ℚ)) * x v := by
  unfold evalRow; rw [cn_dotF_set _ _ _ _ hk]; rfl

/-! ### `Congruence::affine_preimage` -/

theorem cn_scale_get (r : CRow) (f : Int) (i : Nat) : Red.get (r.scale f).e i = Red.get r.e i * f := by
  unfold CRow.scale; split
  · rename_i h; rw [h, mul_one]
  · exact get_mulAll _ _ _

theorem cn_scale_length (r : CRow) (f : Int) : (r.scale f).e.length = r.e.length := by
  unfold CRow.scale; split
  · rfl
  · simp [mulAll, tab]

theorem cn_scale_m (r : CRow) (f : Int) : (r.scale f).m = r.m * f := by
  unfold CRow.scale; split
  · rename_i h; rw [h, mul_one]
  · rfl

theorem cn_coeff_eq (e : LinExpr) (v : Nat) : e.coeff v = Red.get e (v + 1) := by
  unfold LinExpr.coeff; split
  · rfl
  · exact (get_of_length_le e _ (by omega)).symm

/-- the two branches of `Congruence::affine_preimage` store the same row -/
theorem cn_affinePreimage_eq (r : CRow) (v : Nat) (e : LinExpr) (den : Int) (hc : Red.get r.e (v + 1) ≠ 0) :
    r.affinePreimage v e den =
      { e := (tab (r.scale den).e fun i => if i < e.length then Red.get (r.scale den).e i + Red.get r.e (v + 1) * Red.get e i
                else Red.get (r.scale den).e i).set (v + 1) (Red.get r.e (v + 1) * Red.get e (v + 1)),
        m := r.m * den } := by
  unfold CRow.affinePreimage
  simp only [if_neg hc, cn_coeff_eq]
  split
  · rename_i h
    have h0 : Red.get e (v + 1) = 0 := by
      rcases h with h | h
      · exact get_of_length_le e _ (by unfold LinExpr.spaceDim at h; omega)
      · exact h
    rw [h0, mul_zero, cn_scale_m]
  · rw [cn_scale_m]

theorem cn_affinePreimage_length (r : CRow) (v : Nat) (e : LinExpr) (den : Int) :
    (r.affinePreimage v e den).e.length = r.e.length := by
  by_cases hc : Red.get r.e (v + 1) = 0
  · unfold CRow.affinePreimage; simp only [if_pos hc]
  · rw [cn_affinePreimage_eq r v e den hc]; simp [tab, cn_scale_length]

theorem cn_affinePreimage_m_nonneg (r : CRow) (v : Nat) (e : LinExpr) (den : Int) (hd : 0 < den) (hm : 0 ≤ r.m) :
    0 ≤ (r.affinePreimage v e den).m := by
  by_cases hc : Red.get r.e (v + 1) = 0
  · unfold CRow.affinePreimage; simp only [if_pos hc]; exact hm
  · rw [cn_affinePreimage_eq r v e den hc]; exact Int.mul_nonneg hm hd.le

/-- the value of the transformed row: `den` times the value of the row at the updated point -/
theorem cn_affinePreimage_eval (r : CRow) (v : Nat) (e : LinExpr) (den : Int) (hd : den ≠ 0) (hl : e.length ≤ r.e.length)
    (hc : Red.get r.e (v + 1) ≠ 0) (x : Pt) :
    evalRow (r.affinePreimage v e den).e x = (den : ℚ) * evalRow r.e (cn_upd x v (evalRow e x / (den : ℚ))) := by
  have hvl : v + 1 < r.e.length := by
    by_contra h; exact hc (get_of_length_le _ _ (by omega))
  have hd' : (den : ℚ) ≠ 0 := by exact_mod_cast hd
  rw [cn_affinePreimage_eq r v e den hc]
  simp only
  set e1 := tab (r.scale den).e fun i => if i < e.length then Red.get (r.scale den).e i + Red.get r.e (v + 1) * Red.get e i
                else Red.get (r.scale den).e i with he1
  have hl1 : e1.length = r.e.length := by simp [he1, tab, cn_scale_length]
  have hget : ∀ i, Red.get e1 i = den * Red.get r.e i + Red.get r.e (v + 1) * Red.get (resizeRow e r.e.length) i := by
    intro i
    rw [he1, get_tab, cn_scale_length, get_resizeRow]
    by_cases hi : i < r.e.length
    · rw [if_pos hi, if_pos hi, cn_scale_get]
      by_cases hie : i < e.length
      · rw [if_pos hie]; ring
      · rw [if_neg hie, get_of_length_le e i (by omega)]; ring
    · rw [if_neg hi, if_neg hi, get_of_length_le r.e i (by omega)]; ring
  have hE1 : evalRow e1 x = (den : ℚ) * evalRow r.e x + (Red.get r.e (v + 1) : ℚ) * evalRow e x := by
    rw [evalRow_lin e1 r.e (resizeRow e r.e.length) den (Red.get r.e (v + 1)) x hl1 (length_resizeRow _ _) hget,
      cn_evalRow_resize_pad e r.e.length hl x]
  rw [cn_evalRow_set e1 x v _ (by omega), hE1, hget (v + 1), get_resizeRow, if_pos hvl, cn_evalRow_upd]
  push_cast
  field_simp
  ring

/-- `Congruence::affine_preimage(v, e, den)`: the row holds at `x` iff the original holds at the updated point -/
theorem cn_rsem_affinePreimage (r : CRow) (v : Nat) (e : LinExpr) (den : Int) (hd : den ≠ 0) (hl : e.length ≤ r.e.length)
    (x : Pt) : rsem (r.affinePreimage v e den) x ↔ rsem r (cn_upd x v (evalRow e x / (den : ℚ))) := by
  by_cases hc : Red.get r.e (v + 1) = 0
  · have : r.affinePreimage v e den = r := by unfold CRow.affinePreimage; simp only [if_pos hc]
    rw [this]; unfold rsem
    rw [cn_evalRow_upd, hc]; simp
  · have hd' : (den : ℚ) ≠ 0 := by exact_mod_cast hd
    have hm : (r.affinePreimage v e den).m = r.m * den := by rw [cn_affinePreimage_eq r v e den hc]
    unfold rsem
    rw [cn_affinePreimage_eval r v e den hd hl hc x, hm]
    constructor
    · rintro ⟨t, ht⟩
      refine ⟨t, ?_⟩
      have : (den : ℚ) * evalRow r.e (cn_upd x v (evalRow e x / (den : ℚ))) = (den : ℚ) * ((t : ℚ) * (r.m : ℚ)) := by
        rw [ht]; push_cast; ring
      exact mul_left_cancel₀ hd' this
    · rintro ⟨t, ht⟩; exact ⟨t, by rw [ht]; push_cast; ring⟩

theorem cn_affinePreimage_set (r : CRow) (v : Nat) (e : LinExpr) (den : Int) (hd : den ≠ 0) (hl : e.length ≤ r.e.length) :
    CRow.set (r.affinePreimage v e den) = {x | cn_upd x v (evalRow e x / (den : ℚ)) ∈ CRow.set r} := by
  ext x; simp only [cn_mem_set, Set.mem_ofPred_eq]; exact cn_rsem_affinePreimage r v e den hd hl x

example : ({ e := [1, 2, 3], m := 5 } : CRow).affinePreimage 0 [4, 0, 1] 2 = { e := [10, 0, 8], m := 10 } ∧
    ({ e := [1, 2, 3], m := 5 } : CRow).affinePreimage 0 [4, 3, 1] 2 = { e := [10, 6, 8], m := 10 } := by decide

/-! ### systems -/

theorem cn_CSys_affinePreimage_dim (s : CSys) (v : Nat) (e : LinExpr) (den : Int) : (s.affinePreimage v e den).dim = s.dim := rfl

theorem cn_CSys_affinePreimage_CWf (s : CSys) (v : Nat) (e : LinExpr) (den : Int) (hd : 0 < den) (hw : CWf s.dim s.rows) :
    CWf s.dim (s.affinePreimage v e den).rows := by
  intro r' hr'
  obtain ⟨r, hr, rfl⟩ := List.mem_map.mp hr'
  exact ⟨by rw [cn_affinePreimage_length]; exact (hw r hr).1, cn_affinePreimage_m_nonneg r v e den hd (hw r hr).2⟩

/-- `Congruence_System::affine_preimage(v, e, den)`: the solutions are the preimage -/
theorem cn_CSys_affinePreimage_consSet (s : CSys) (v : Nat) (e : LinExpr) (den : Int) (hd : den ≠ 0) (hv : v < s.dim)
    (he : e.spaceDim ≤ s.dim) (hw : CWf s.dim s.rows) :
    consSet s.dim (s.affinePreimage v e den).rows = cn_preSet s.dim v e den (consSet s.dim s.rows) := by
  ext x
  simp only [cn_mem_consSet, cn_preSet, Set.mem_ofPred_eq, CSys.affinePreimage, List.mem_map, forall_exists_index, and_imp,
    forall_apply_eq_imp_iff₂, cn_mem_set]
  have hl : ∀ r ∈ s.rows, e.length ≤ r.e.length := fun r hr => by
    rw [(hw r hr).1]; unfold LinExpr.spaceDim at he; omega
  constructor
  · rintro ⟨hx, hall⟩
    exact ⟨hx, cn_upd_supp _ _ _ _ hv hx, fun r hr => (cn_rsem_affinePreimage r v e den hd (hl r hr) x).mp (hall r hr)⟩
  · rintro ⟨hx, _, hall⟩
    exact ⟨hx, fun r hr => (cn_rsem_affinePreimage r v e den hd (hl r hr) x).mpr (hall r hr)⟩

/-! ### `conAffinePreimagePos` -/

theorem cn_negExpr_length (e : LinExpr) : (negExpr e).length = e.length := by simp [negExpr]
theorem cn_negExpr_spaceDim (e : LinExpr) : (negExpr e).spaceDim = e.spaceDim := by
  unfold LinExpr.spaceDim; rw [cn_negExpr_length]
theorem cn_negExpr_eval (e : LinExpr) (x : Pt) : evalRow (negExpr e) x = - evalRow e x := cn_evalRow_neg e x

theorem cn_preSet_neg (n v : Nat) (e : LinExpr) (den : Int) (S : Set Pt) :
    cn_preSet n v (negExpr e) (-den) S = cn_preSet n v e den S := by
  unfold cn_preSet; simp only [cn_negExpr_eval]; push_cast; simp only [neg_div_neg_eq]

theorem cn_conAffinePreimagePos_dim (s : CSys) (v : Nat) (e : LinExpr) (den : Int) :
    (conAffinePreimagePos s v e den).dim = s.dim := by unfold conAffinePreimagePos; split <;> rfl

theorem cn_conAffinePreimagePos_CWf (s : CSys) (v : Nat) (e : LinExpr) (den : Int) (hd : den ≠ 0) (hw : CWf s.dim s.rows) :
    CWf s.dim (conAffinePreimagePos s v e den).rows := by
  unfold conAffinePreimagePos; split
  · rename_i h; exact cn_CSys_affinePreimage_CWf s v e den h hw
  · exact cn_CSys_affinePreimage_CWf s v _ (-den) (by omega) hw

/-- `con_sys.affine_preimage(var, ±expr, ±denominator)`: the solutions are the preimage, for either sign of `den` -/
theorem cn_conAffinePreimagePos_consSet (s : CSys) (v : Nat) (e : LinExpr) (den : Int) (hd : den ≠ 0) (hv : v < s.dim)
    (he : e.spaceDim ≤ s.dim) (hw : CWf s.dim s.rows) :
    consSet s.dim (conAffinePreimagePos s v e den).rows = cn_preSet s.dim v e den (consSet s.dim s.rows) := by
  unfold conAffinePreimagePos; split
  · exact cn_CSys_affinePreimage_consSet s v e den hd hv he hw
  · rw [cn_CSys_affinePreimage_consSet s v (negExpr e) (-den) (by omega) hv (by rw [cn_negExpr_spaceDim]; exact he) hw,
      cn_preSet_neg]

example : (conAffinePreimagePos ⟨2, [{ e := [1, 2, 3], m := 5 }]⟩ 0 [4, 3, 1] (-2)).rows = [{ e := [-6, -6, 4], m := 10 }] := by
  decide

/-! ## `affine_preimage(var, expr, denominator)` (Grid_public.cc:2043)

* throws / marked empty: hypothesis-free;
* the non-invertible path (`minimize` if the congruences are not up to date, then the congruences only): from `MinimizeSpec`;
* the invertible path: the congruence side is `conAffinePreimagePos`; when the generators are up to date they are
  transformed by `Grid_Generator_System::affine_image` with the inverse map — the one generator-side fact needed is the
  explicit hypothesis `cn_GenAffineImageInvAt` (so `cn_affinePreimage_inv_partial`); without up-to-date generators the
  statement is hypothesis-free (`cn_affinePreimage_inv_con`).
-/

theorem cn_preSet_empty (n v : Nat) (e : LinExpr) (den : Int) : cn_preSet n v e den ∅ = ∅ := by
  ext x; simp [cn_preSet]

theorem cn_preSet_subset_space (n v : Nat) (e : LinExpr) (den : Int) (S : Set Pt) : cn_preSet n v e den S ⊆ spaceSet n :=
  fun _ hx => hx.1

/-! ### throws, marked empty -/

theorem cn_affinePreimage_thrown (g : Grid) (v : Nat) (e : LinExpr) (den : Int) :
    ((affinePreimage g v e den).thrown = true ↔ (den = 0 ∨ g.spaceDim < e.spaceDim ∨ g.spaceDim < v + 1)) ∧
    ((affinePreimage g v e den).thrown = true → (affinePreimage g v e den).g = g) ∧
    (g.st.empty = true → (affinePreimage g v e den).g = g) := by
  unfold affinePreimage
  refine (Checks.reject (den = 0) fun _ => Checks.reject _ fun _ => Checks.body fun _ => ?_).congr (or_congr_right (or_iff_left id))
  split <;> rfl

/-! ### the non-invertible path -/

/-- the receiver of the non-invertible path after `minimize` -/
def cn_apBody (g1 : Grid) (v : Nat) (e : LinExpr) (den : Int) : Grid :=
  ((g1.withCs (conAffinePreimagePos g1.cs v e den)).clearGeneratorsUpToDate).clearCongruencesMinimized

theorem cn_apBody_spec (g1 : Grid) (v : Nat) (e : LinExpr) (den : Int) (hI : GridInv g1) (hne : g1.st.empty = false)
    (hc : g1.st.cUp = true) (hden : den ≠ 0) (hed : e.spaceDim ≤ g1.spaceDim) (hv : v + 1 ≤ g1.spaceDim) :
    GridInv (cn_apBody g1 v e den) ∧ (cn_apBody g1 v e den).sem = cn_preSet g1.spaceDim v e den g1.sem ∧
      (cn_apBody g1 v e den).spaceDim = g1.spaceDim := by
  have hpos : 0 < g1.spaceDim := by omega
  obtain ⟨hcd, hw⟩ := hI.cwf hne hpos hc
  have hcsd : g1.cs.dim = g1.spaceDim := hcd
  have hw' : CWf g1.cs.dim g1.cs.rows := by rw [hcsd]; exact hw
  have hdim := cn_conAffinePreimagePos_dim g1.cs v e den
  have hcwf := cn_conAffinePreimagePos_CWf g1.cs v e den hden hw'
  have hcons := cn_conAffinePreimagePos_consSet g1.cs v e den hden (by omega) (by omega) hw'
  rw [hcsd] at hdim hcwf hcons
  have := inv_of_conOnly (cn_apBody g1 v e den) hpos hne hc rfl rfl rfl (hI.hi0 hne) hdim hcwf
  refine ⟨this.1, ?_, rfl⟩
  rw [this.2]
  show consSet g1.spaceDim (conAffinePreimagePos g1.cs v e den).rows = _
  rw [hcons, sem_of_cUp hI hne hpos hc]; rfl

/-- the system `1 = 0` is not changed by `affine_preimage` -/
theorem cn_falseCSys_affinePreimage (n v : Nat) (e : LinExpr) (den : Int) :
    (conAffinePreimagePos ⟨n, (falseCSys n).rows⟩ v e den) = ⟨n, (falseCSys n).rows⟩ := by
  have hrow : ∀ (e' : LinExpr) (d' : Int),
      (CRow.mk (1 :: List.replicate n 0) 0).affinePreimage v e' d' = CRow.mk (1 :: List.replicate n 0) 0 := by
    intro e' d'
    unfold CRow.affinePreimage
    have : Red.get (1 :: List.replicate n 0) (v + 1) = 0 := by rw [get_cons_succ, get_replicate_zero]
    simp only [if_pos this]
  unfold conAffinePreimagePos CSys.affinePreimage
  rw [falseCSys_rows]
  split <;> simp [hrow]

/-- on a marked-empty object the non-invertible path changes nothing -/
theorem cn_apBody_empty (g1 : Grid) (v : Nat) (e : LinExpr) (den : Int) (hI : GridInv g1) (he : g1.st.empty = true) :
    cn_apBody g1 v e den = g1 := by
  obtain ⟨hst, _, _, hcd, hcon⟩ := hI.emp he
  have hcs : g1.cs = ⟨g1.spaceDim, (falseCSys g1.spaceDim).rows⟩ := by
    show CSys.mk g1.conDim g1.con = _; rw [hcd, hcon]
  unfold cn_apBody
  rw [hcs, cn_falseCSys_affinePreimage, ← hcs]
  obtain ⟨sd, st, cd, con, gd, gen, dk⟩ := g1
  simp only at hst
  subst hst
  rfl

/-- Grid_public.cc:2043, the non-invertible path (`expr` does not mention `var`): the preimage; `minimize` may find the
    grid empty, the object is then the marked-empty one `minimize` left -/
theorem cn_affinePreimage_noninv (g : Grid) (v : Nat) (e : LinExpr) (den : Int) (hI : GridInv g)
    (hne : g.st.empty = false) (hden : den ≠ 0) (hed : e.spaceDim ≤ g.spaceDim) (hv : v + 1 ≤ g.spaceDim)
    (hninv : ¬ (v + 1 ≤ e.spaceDim ∧ e.coeff v ≠ 0)) :
    (affinePreimage g v e den).thrown = false ∧ GridInv (affinePreimage g v e den).g ∧
      (affinePreimage g v e den).g.sem = cn_preSet g.spaceDim v e den g.sem ∧
      (affinePreimage g v e den).g.spaceDim = g.spaceDim := by
  unfold affinePreimage
  rw [if_neg hden, if_neg (show ¬ (g.spaceDim < e.spaceDim ∨ g.spaceDim < v + 1) by omega),
    if_neg (show ¬ (g.markedEmpty = true) by simpa [Grid.markedEmpty] using hne), if_neg hninv]
  show _ ∧ GridInv (cn_apBody _ v e den) ∧ (cn_apBody _ v e den).sem = _ ∧ (cn_apBody _ v e den).spaceDim = _
  by_cases hc : g.st.cUp = true
  · have : (if (!g.congruencesAreUpToDate) = true then (minimize g).1 else g) = g := by
      simp [Grid.congruencesAreUpToDate, hc]
    rw [this]
    exact ⟨rfl, cn_apBody_spec g v e den hI hne hc hden hed hv⟩
  · have : (if (!g.congruencesAreUpToDate) = true then (minimize g).1 else g) = (minimize g).1 := by
      simp [Grid.congruencesAreUpToDate, hc]
    rw [this]
    obtain ⟨m1, m2, m3, m4, m5, m6⟩ := minimize_spec g hI
    by_cases hb : (minimize g).2 = true
    · obtain ⟨n1, _, n3⟩ := m6 hb (by omega)
      obtain ⟨b1, b2, b3⟩ := cn_apBody_spec (minimize g).1 v e den m1 n1 (m1.cminUp n3) hden (by omega) (by omega)
      exact ⟨rfl, b1, by rw [b2, m2, m3], b3.trans m3⟩
    · have hemp := m5 (by simpa using hb)
      rw [cn_apBody_empty _ v e den m1 hemp]
      refine ⟨rfl, m1, ?_, m3⟩
      have hge : g.sem = ∅ := by
        by_contra hne'
        exact hb (m4.mpr (Set.nonempty_iff_ne_empty.mpr hne'))
      rw [m2, hge, cn_preSet_empty]

/-! ### the invertible path -/

/-- what the invertible path needs of the generator side: `gen_sys.affine_image(var, inverse, inverse_denominator)` keeps
    the shape and yields the preimage.  Proved as `genAffineImageInv_spec` in `ProofsGridOpsAffineImage`. -/
def cn_GenAffineImageInvAt (n v : Nat) (e : LinExpr) (den : Int) (rows : List GRow) : Prop :=
  GWf n (GSys.affineImage ⟨n, rows⟩ v (inverseOf e v den).1 (inverseOf e v den).2).rows ∧
  GNorm n (firstPointDiv (GSys.affineImage ⟨n, rows⟩ v (inverseOf e v den).1 (inverseOf e v den).2).rows)
    (GSys.affineImage ⟨n, rows⟩ v (inverseOf e v den).1 (inverseOf e v den).2).rows ∧
  gensSet n (GSys.affineImage ⟨n, rows⟩ v (inverseOf e v den).1 (inverseOf e v den).2).rows =
    cn_preSet n v e den (gensSet n rows)

/-- … for every well-formed generator system and invertible map -/
def cn_GenAffineImageInvSpec : Prop :=
  ∀ (n v : Nat) (e : LinExpr) (den : Int) (rows : List GRow), 0 < n → v < n → e.spaceDim ≤ n → den ≠ 0 →
    v + 1 ≤ e.spaceDim → e.coeff v ≠ 0 → GWf n rows → GNorm n (firstPointDiv rows) rows →
    cn_GenAffineImageInvAt n v e den rows

theorem cn_GSys_affineImage_dim (s : GSys) (v : Nat) (e : LinExpr) (den : Int) : (s.affineImage v e den).dim = s.dim := by
  unfold GSys.affineImage; simp only; split <;> rfl

/-- the two steps of the invertible path -/
def cn_apInvCon (g : Grid) (v : Nat) (e : LinExpr) (den : Int) : Grid :=
  if g.congruencesAreUpToDate then (g.withCs (conAffinePreimagePos g.cs v e den)).clearCongruencesMinimized else g
def cn_apInvGen (g1 : Grid) (v : Nat) (e : LinExpr) (den : Int) : Grid :=
  if g1.generatorsAreUpToDate then
    (g1.withGs (g1.gs.affineImage v (inverseOf e v den).1 (inverseOf e v den).2)).clearGeneratorsMinimized
  else g1

/-- the results of the invertible path by what is up to date -/
def cn_apCon (g : Grid) (v : Nat) (e : LinExpr) (den : Int) : Grid :=
  (g.withCs (conAffinePreimagePos g.cs v e den)).clearCongruencesMinimized
def cn_apGen (g : Grid) (v : Nat) (e : LinExpr) (den : Int) : Grid :=
  (g.withGs (g.gs.affineImage v (inverseOf e v den).1 (inverseOf e v den).2)).clearGeneratorsMinimized
def cn_apBoth (g : Grid) (v : Nat) (e : LinExpr) (den : Int) : Grid :=
  ((cn_apCon g v e den).withGs (g.gs.affineImage v (inverseOf e v den).1 (inverseOf e v den).2)).clearGeneratorsMinimized

theorem cn_apInv_eq (g : Grid) (v : Nat) (e : LinExpr) (den : Int) :
    cn_apInvGen (cn_apInvCon g v e den) v e den =
      if g.st.cUp = true then (if g.st.gUp = true then cn_apBoth g v e den else cn_apCon g v e den)
      else (if g.st.gUp = true then cn_apGen g v e den else g) := by
  unfold cn_apInvGen cn_apInvCon Grid.congruencesAreUpToDate
  by_cases hc : g.st.cUp = true <;> by_cases hg : g.st.gUp = true
  · rw [if_pos hc, if_pos hc, if_pos hg]; exact (if_pos hg).trans rfl
  · rw [if_pos hc, if_pos hc, if_neg hg]; exact (if_neg hg).trans rfl
  · rw [if_neg hc, if_neg hc, if_pos hg, if_pos (show g.generatorsAreUpToDate = true from hg)]; rfl
  · rw [if_neg hc, if_neg hc, if_neg hg, if_neg (show ¬ (g.generatorsAreUpToDate = true) from hg)]

/-- Grid_public.cc:2043, the invertible path; `hGen` is only used when the generators are up to date -/
theorem cn_affinePreimage_inv_partial (g : Grid) (v : Nat) (e : LinExpr) (den : Int) (hI : GridInv g)
    (hne : g.st.empty = false) (hden : den ≠ 0) (hed : e.spaceDim ≤ g.spaceDim) (hv : v + 1 ≤ g.spaceDim)
    (hinv : v + 1 ≤ e.spaceDim ∧ e.coeff v ≠ 0)
    (hGen : g.st.gUp = true → cn_GenAffineImageInvAt g.spaceDim v e den g.gen) :
    (affinePreimage g v e den).thrown = false ∧ GridInv (affinePreimage g v e den).g ∧
      (affinePreimage g v e den).g.sem = cn_preSet g.spaceDim v e den g.sem ∧
      (affinePreimage g v e den).g.spaceDim = g.spaceDim := by
  have hunf : affinePreimage g v e den = { g := cn_apInvGen (cn_apInvCon g v e den) v e den } := by
    unfold affinePreimage
    rw [if_neg hden, if_neg (show ¬ (g.spaceDim < e.spaceDim ∨ g.spaceDim < v + 1) by omega),
      if_neg (show ¬ (g.markedEmpty = true) by simpa [Grid.markedEmpty] using hne), if_pos hinv]
    rfl
  rw [hunf, cn_apInv_eq]
  have hpos : 0 < g.spaceDim := by omega
  refine ⟨rfl, ?_⟩
  show GridInv (if g.st.cUp = true then _ else _) ∧ (if g.st.cUp = true then _ else _ : Grid).sem = _ ∧
    (if g.st.cUp = true then _ else _ : Grid).spaceDim = _
  -- the congruence side
  have hC : g.st.cUp = true → (conAffinePreimagePos g.cs v e den).dim = g.spaceDim ∧
      CWf g.spaceDim (conAffinePreimagePos g.cs v e den).rows ∧
      consSet g.spaceDim (conAffinePreimagePos g.cs v e den).rows = cn_preSet g.spaceDim v e den (consSet g.spaceDim g.con) := by
    intro hc
    obtain ⟨hcd, hw⟩ := hI.cwf hne hpos hc
    have hcsd : g.cs.dim = g.spaceDim := hcd
    have hw' : CWf g.cs.dim g.cs.rows := by rw [hcsd]; exact hw
    have h1 := cn_conAffinePreimagePos_dim g.cs v e den
    have h2 := cn_conAffinePreimagePos_CWf g.cs v e den hden hw'
    have h3 := cn_conAffinePreimagePos_consSet g.cs v e den hden (by omega) (by omega) hw'
    rw [hcsd] at h1 h2 h3
    exact ⟨h1, h2, h3⟩
  -- the generator side
  have hG : g.st.gUp = true → (g.gs.affineImage v (inverseOf e v den).1 (inverseOf e v den).2).dim = g.spaceDim ∧
      GWf g.spaceDim (g.gs.affineImage v (inverseOf e v den).1 (inverseOf e v den).2).rows ∧
      GNorm g.spaceDim (firstPointDiv (g.gs.affineImage v (inverseOf e v den).1 (inverseOf e v den).2).rows)
        (g.gs.affineImage v (inverseOf e v den).1 (inverseOf e v den).2).rows ∧
      gensSet g.spaceDim (g.gs.affineImage v (inverseOf e v den).1 (inverseOf e v den).2).rows =
        cn_preSet g.spaceDim v e den (gensSet g.spaceDim g.gen) := by
    intro hg
    obtain ⟨hgd, _, _⟩ := hI.gwf hne hpos hg
    have hgs : (⟨g.spaceDim, g.gen⟩ : GSys) = g.gs := by show _ = GSys.mk g.genDim g.gen; rw [hgd]
    have hh := hGen hg
    unfold cn_GenAffineImageInvAt at hh
    rw [hgs] at hh
    exact ⟨by rw [cn_GSys_affineImage_dim]; exact hgd, hh⟩
  by_cases hc : g.st.cUp = true <;> by_cases hg : g.st.gUp = true
  · -- both up to date
    rw [if_pos hc, if_pos hg]
    obtain ⟨c1, c2, c3⟩ := hC hc
    obtain ⟨g1, g2, g3, g4⟩ := hG hg
    have hag : consSet g.spaceDim (conAffinePreimagePos g.cs v e den).rows =
        gensSet g.spaceDim (g.gs.affineImage v (inverseOf e v den).1 (inverseOf e v den).2).rows := by
      rw [c3, g4, hI.agree hne hpos hc hg]
    refine ⟨inv_of_noMin (cn_apBoth g v e den) hpos hne rfl rfl (hI.hi0 hne) (Or.inl hc) (fun _ => ⟨c1, c2⟩)
      (fun _ => ⟨g1, g2, g3⟩) (fun _ _ => hag), ?_, rfl⟩
    rw [sem_of_gUp (g := cn_apBoth g v e den) hne hpos hg, sem_of_gUp hne hpos hg]
    exact g4
  · -- congruences only
    rw [if_pos hc, if_neg hg]
    obtain ⟨c1, c2, c3⟩ := hC hc
    have hgf : g.st.gUp = false := by simpa using hg
    have hgm : g.st.gMin = false := by
      by_contra h; exact hg (hI.gminUp (by simpa using h))
    have := inv_of_conOnly (cn_apCon g v e den) hpos hne hc hgf rfl hgm (hI.hi0 hne) c1 c2
    refine ⟨this.1, ?_, rfl⟩
    rw [this.2, sem_of_cUp hI hne hpos hc]
    exact c3
  · -- generators only
    rw [if_neg hc, if_pos hg]
    obtain ⟨g1, g2, g3, g4⟩ := hG hg
    have hcm : g.st.cMin = false := by
      by_contra h; exact hc (hI.cminUp (by simpa using h))
    refine ⟨inv_of_noMin (cn_apGen g v e den) hpos hne hcm rfl (hI.hi0 hne) (Or.inr hg) (fun h => absurd h hc)
      (fun _ => ⟨g1, g2, g3⟩) (fun h => absurd h hc), ?_, rfl⟩
    rw [sem_of_gUp (g := cn_apGen g v e den) hne hpos hg, sem_of_gUp hne hpos hg]
    exact g4
  · exact absurd (hI.some hne hpos) (by simp [hc, hg])

/-- Grid_public.cc:2043, the invertible path when only the congruences are up to date: hypothesis-free -/
theorem cn_affinePreimage_inv_con (g : Grid) (v : Nat) (e : LinExpr) (den : Int) (hI : GridInv g)
    (hne : g.st.empty = false) (hden : den ≠ 0) (hed : e.spaceDim ≤ g.spaceDim) (hv : v + 1 ≤ g.spaceDim)
    (hinv : v + 1 ≤ e.spaceDim ∧ e.coeff v ≠ 0) (hg : g.st.gUp = false) :
    (affinePreimage g v e den).thrown = false ∧ GridInv (affinePreimage g v e den).g ∧
      (affinePreimage g v e den).g.sem = cn_preSet g.spaceDim v e den g.sem ∧
      (affinePreimage g v e den).g.spaceDim = g.spaceDim :=
  cn_affinePreimage_inv_partial g v e den hI hne hden hed hv hinv (fun h => by rw [hg] at h; cases h)

/-- `affine_preimage` on a grid that is not marked empty, all paths; generator-side fact: `cn_GenAffineImageInvSpec` -/
theorem cn_affinePreimage_partial (hGen : cn_GenAffineImageInvSpec) (g : Grid) (v : Nat)
    (e : LinExpr) (den : Int) (hI : GridInv g) (hne : g.st.empty = false) (hden : den ≠ 0)
    (hed : e.spaceDim ≤ g.spaceDim) (hv : v + 1 ≤ g.spaceDim) :
    (affinePreimage g v e den).thrown = false ∧ GridInv (affinePreimage g v e den).g ∧
      (affinePreimage g v e den).g.sem = cn_preSet g.spaceDim v e den g.sem ∧
      (affinePreimage g v e den).g.spaceDim = g.spaceDim := by
  by_cases hinv : v + 1 ≤ e.spaceDim ∧ e.coeff v ≠ 0
  · refine cn_affinePreimage_inv_partial g v e den hI hne hden hed hv hinv (fun hg => ?_)
    have hpos : 0 < g.spaceDim := by omega
    obtain ⟨_, hgw, hgn⟩ := hI.gwf hne hpos hg
    exact hGen g.spaceDim v e den g.gen hpos (by omega) hed hden hinv.1 hinv.2 hgw hgn
  · exact cn_affinePreimage_noninv g v e den hI hne hden hed hv hinv

/-- `x ≡ 0 (mod 2)` in dimension 1 under `x := 3x + 1` (invertible) and `x := 1` (not invertible; `cUp` holds) -/
example : (affinePreimage cn_exGrid 0 [1, 3] 1).g.con = [{ e := [1, 3], m := 2 }] ∧
    (affinePreimage cn_exGrid 0 [1, 0] 1).g.con = [{ e := [1, 0], m := 2 }] ∧
    (affinePreimage cn_exGrid 0 [1, 3] 0).thrown = true := by decide

end PPLV.Lattice.GO

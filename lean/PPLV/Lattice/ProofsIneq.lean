import PPLV.Lattice.ProofsFreq
import PPLV.Lattice.ProofsQueries

/-!
# K2: relation of a grid with an inequality `⟨e,x⟩ + b ≥ 0` / `> 0`
-/
namespace PPLV.Lattice
open List

/-- a class `r0 + r ℤ`, `r ≠ 0`, has a positive member -/
theorem exists_int_pos (r0 r : Rat) (hr : r ≠ 0) : ∃ k : Int, 0 < r0 + k * r := by
  have pos : ∀ s : Rat, 0 < s → ∃ k : Int, 0 < r0 + k * s := fun s hs => by
    refine ⟨ratFloor (-r0 / s) + 1, ?_⟩
    have := (ratFloor_spec (-r0 / s)).2
    rw [div_lt_iff₀ hs] at this
    push_cast; linarith
  rcases lt_or_gt_of_ne hr with h | h
  · obtain ⟨k, hk⟩ := pos (-r) (neg_pos.mpr h)
    exact ⟨-k, by push_cast; linarith⟩
  · exact pos r h

/-- a non-constant expression takes values of both signs on a grid -/
theorem both_signs (g : Gens) (e : Vec) (b : Rat) (h : boundsExpr (.gens g) e = false) :
    (∃ x, g.Mem x ∧ 0 < dotF e x + b) ∧ (∃ x, g.Mem x ∧ dotF e x + b < 0) := by
  simp only [boundsExpr, Bool.and_eq_false_iff, List.all_eq_false, beq_iff_eq] at h
  have val : ∀ (c : Rat) (q : Vec), dotF e (g.pt.toFun.axpy c q.toFun) + b
      = dotF e g.pt.toFun + b + c * dot e q := fun c q => by
    rw [axpy_eq, dotF_add, dotF_smul, ← dot_eq_dotF e q]; ring
  generalize dotF e g.pt.toFun + b = r0 at val
  rcases h with ⟨q, hq, hne⟩ | ⟨l, hl, hne⟩
  · -- a parameter with non-zero product `r`: the values `r0 + k r`
    obtain ⟨k, hk⟩ := exists_int_pos r0 _ hne
    obtain ⟨k', hk'⟩ := exists_int_pos (-r0) _ (neg_ne_zero.mpr hne)
    exact ⟨⟨_, Gens.Mem.param k hq Gens.Mem.pt, by rw [val]; exact hk⟩,
      ⟨_, Gens.Mem.param k' hq Gens.Mem.pt, by rw [val]; linarith⟩⟩
  · -- a line with non-zero product `r`: the values `r0 + c r`, here `1` and `-1`
    exact ⟨⟨_, Gens.Mem.line ((1 - r0) / dot e l) hl Gens.Mem.pt, by
        rw [val, div_mul_cancel₀ _ hne]; linarith⟩,
      ⟨_, Gens.Mem.line ((-1 - r0) / dot e l) hl Gens.Mem.pt, by
        rw [val, div_mul_cancel₀ _ hne]; linarith⟩⟩

/-- relation with `⟨e,x⟩ + b ≥ 0` (`strict`: `> 0`) on a non-empty grid -/
theorem relIneq_spec (G : GridGens) (e : Vec) (b : Rat) (strict : Bool) (hne : ∃ x, Gen.sem G x) :
    let sat : Pt → Prop := fun x => if strict then 0 < dotF e x + b else 0 ≤ dotF e x + b
    ((relIneq G e b strict).1 = true ↔ ∀ x, Gen.sem G x → ¬ sat x) ∧
    ((relIneq G e b strict).2.1 = true ↔ (∃ x, Gen.sem G x ∧ sat x) ∧ (∃ x, Gen.sem G x ∧ ¬ sat x)) ∧
    ((relIneq G e b strict).2.2.1 = true ↔ ∀ x, Gen.sem G x → sat x) ∧
    ((relIneq G e b strict).2.2.2 = true ↔ (∀ x, Gen.sem G x → dotF e x + b = 0) ∧ strict = false) := by
  intro sat
  cases G with
  | empty => obtain ⟨x, hx⟩ := hne; exact absurd hx (by simp [Gen.sem])
  | gens g =>
    simp only [Gen.sem]
    by_cases hb : boundsExpr (.gens g) e = true
    · -- constant value r0
      have hconst : ∀ x, g.Mem x → dotF e x + b = dot e g.pt + b := by
        intro x hx
        rw [(boundsExpr_iff _ e).mp hb x _ hx Gens.Mem.pt, dot_eq_dotF]
      have hpt : dotF e g.pt.toFun + b = dot e g.pt + b := by rw [dot_eq_dotF]
      rcases lt_trichotomy (dot e g.pt + b) 0 with hlt | heq | hgt
      · have e1 : relIneq (.gens g) e b strict = (true, false, false, false) := by
          simp [relIneq, hb, ne_of_lt hlt, not_lt.mpr (le_of_lt hlt)]
        rw [e1]
        have hns : ∀ x, g.Mem x → ¬ sat x := by
          intro x hx; simp only [sat]; rw [hconst x hx]
          cases strict <;> simp <;> linarith
        refine ⟨by simpa using hns, ?_, ?_, ?_⟩
        · simp only [Bool.false_eq_true, false_iff]; rintro ⟨⟨x, hx, hs⟩, _⟩; exact hns x hx hs
        · simp only [Bool.false_eq_true, false_iff]; intro h; exact hns _ Gens.Mem.pt (h _ Gens.Mem.pt)
        · simp only [Bool.false_eq_true, false_iff]; rintro ⟨h, _⟩
          have := h _ Gens.Mem.pt; rw [hpt] at this; linarith
      · cases strict with
        | true =>
          have e1 : relIneq (.gens g) e b true = (true, false, false, false) := by simp [relIneq, hb, heq]
          rw [e1]
          have hns : ∀ x, g.Mem x → ¬ sat x := by
            intro x hx; simp only [sat, if_true]; rw [hconst x hx, heq]; simp
          refine ⟨by simpa using hns, ?_, ?_, ?_⟩
          · simp only [Bool.false_eq_true, false_iff]; rintro ⟨⟨x, hx, hs⟩, _⟩; exact hns x hx hs
          · simp only [Bool.false_eq_true, false_iff]; intro h; exact hns _ Gens.Mem.pt (h _ Gens.Mem.pt)
          · simp
        | false =>
          have e1 : relIneq (.gens g) e b false = (false, false, true, true) := by simp [relIneq, hb, heq]
          rw [e1]
          have hs : ∀ x, g.Mem x → sat x := by
            intro x hx; simp only [sat, Bool.false_eq_true, if_false]; rw [hconst x hx, heq]
          refine ⟨?_, ?_, by simpa using hs, ?_⟩
          · simp only [Bool.false_eq_true, false_iff]; intro h; exact h _ Gens.Mem.pt (hs _ Gens.Mem.pt)
          · simp only [Bool.false_eq_true, false_iff]; rintro ⟨_, ⟨x, hx, hn⟩⟩; exact hn (hs x hx)
          · simp only [true_iff, and_true]; intro x hx; rw [hconst x hx, heq]
      · have e1 : relIneq (.gens g) e b strict = (false, false, true, false) := by
          simp [relIneq, hb, ne_of_gt hgt, hgt]
        rw [e1]
        have hs : ∀ x, g.Mem x → sat x := by
          intro x hx; simp only [sat]; rw [hconst x hx]
          cases strict <;> simp <;> linarith
        refine ⟨?_, ?_, by simpa using hs, ?_⟩
        · simp only [Bool.false_eq_true, false_iff]; intro h; exact h _ Gens.Mem.pt (hs _ Gens.Mem.pt)
        · simp only [Bool.false_eq_true, false_iff]; rintro ⟨_, ⟨x, hx, hn⟩⟩; exact hn (hs x hx)
        · simp only [Bool.false_eq_true, false_iff]; rintro ⟨h, _⟩
          have := h _ Gens.Mem.pt; rw [hpt] at this; linarith
    · have hb' : boundsExpr (.gens g) e = false := by simpa using hb
      have e1 : relIneq (.gens g) e b strict = (false, true, false, false) := by simp [relIneq, hb']
      rw [e1]
      obtain ⟨⟨xp, hxp, hp⟩, ⟨xn, hxn, hn⟩⟩ := both_signs g e b hb'
      have sp : sat xp := by simp only [sat]; cases strict <;> simp <;> linarith
      have sn : ¬ sat xn := by simp only [sat]; cases strict <;> simp <;> linarith
      refine ⟨?_, ?_, ?_, ?_⟩
      · simp only [Bool.false_eq_true, false_iff]; intro h; exact h xp hxp sp
      · simp only [true_iff]; exact ⟨⟨xp, hxp, sp⟩, ⟨xn, hxn, sn⟩⟩
      · simp only [Bool.false_eq_true, false_iff]; intro h; exact sn (h xn hxn)
      · simp only [Bool.false_eq_true, false_iff]; rintro ⟨h, _⟩; have := h xp hxp; linarith

end PPLV.Lattice

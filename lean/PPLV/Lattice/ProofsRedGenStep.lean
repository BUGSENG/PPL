import PPLV.Lattice.ProofsRedGenBase

/-!
# `Grid::simplify(Grid_Generator_System&)`: every elementary step keeps the lattice (up to a positive scale)

`HomSim n rows rows'` unfolds to `∃ k : ℤ, 0 < k ∧ ∀ v, Hom n rows v ↔ Hom n rows' ((k:ℚ) • v)`.
`IStep` bundles what one pass of the inner loop guarantees (sizes, the zero prefix of the rows from the pivot
on, line flags and signs of the other rows, the lattice).
-/
namespace PPLV.Lattice.Red
open PPLV.Lattice

/-- rows have `n + 2` entries (index form of `GWf`) -/
def WfI (n : Nat) (rows : List GRow) : Prop := ∀ i, i < rows.length → (rowAt rows i).e.length = n + 2

/-- the rows from index `p` on vanish in the columns before `dim` -/
def ZeroPre (p dim : Nat) (rows : List GRow) : Prop :=
  ∀ i, p ≤ i → i < rows.length → ∀ c, c < dim → get (rowAt rows i).e c = 0

/-- rows before index `p` keep their line flag and the signs of their entries in the columns before `D` -/
def PreRel (p D : Nat) (rows rows' : List GRow) : Prop :=
  ∀ j, j < p → (rowAt rows' j).line = (rowAt rows j).line ∧
    ∀ c, c < D → (get (rowAt rows' j).e c).sign = (get (rowAt rows j).e c).sign

theorem PreRel.refl (p D : Nat) (rows : List GRow) : PreRel p D rows rows := fun _ _ => ⟨rfl, fun _ _ => rfl⟩

theorem PreRel.trans {p D : Nat} {r1 r2 r3 : List GRow} (h1 : PreRel p D r1 r2) (h2 : PreRel p D r2 r3) :
    PreRel p D r1 r3 := fun j hj =>
  ⟨(h2 j hj).1.trans (h1 j hj).1, fun c hc => ((h2 j hj).2 c hc).trans ((h1 j hj).2 c hc)⟩

theorem wfI_of_gwf {n : Nat} {rows : List GRow} (h : GWf n rows) : WfI n rows :=
  fun i hi => h _ (rowAt_mem rows i hi)

theorem gwf_of_wfI {n : Nat} {rows : List GRow} (h : WfI n rows) : GWf n rows := by
  intro r hr
  obtain ⟨i, hi, rfl⟩ := (mem_iff_rowAt rows r).mp hr
  exact h i hi

theorem rowAt_set2 (rows : List GRow) (ri p : Nat) (A B : GRow) (hp : p < rows.length) (i : Nat) :
    rowAt ((rows.set ri A).set p B) i = if i = p then B else if i = ri ∧ ri < rows.length then A else rowAt rows i := by
  rw [rowAt_set, rowAt_set]
  by_cases h : i = p
  · simp [h, hp]
  · simp [h]

/-! ### entries of `linear_combine` on the range `[s, n+1)` -/

theorem get_lc_zero {x y : Row} {n s : Nat} (c1 c2 : Int) (hx : x.length = n + 2)
    (hzx : ∀ c, c < s → get x c = 0) (hzy : ∀ c, c < s → get y c = 0) (c : Nat) (hc : c ≤ n) :
    get (linearCombine x y c1 c2 s (n + 1)) c = c1 * get x c + c2 * get y c := by
  rw [get_linearCombine]
  by_cases h : s ≤ c
  · rw [if_pos ⟨by omega, h, by omega⟩]
  · rw [if_neg (fun h' => h h'.2.1), hzx c (by omega), hzy c (by omega)]; simp

theorem get_lc_one {x y : Row} {n s : Nat} (c2 : Int) (hx : x.length = n + 2)
    (hzy : ∀ c, c < s → get y c = 0) (c : Nat) (hc : c ≤ n) :
    get (linearCombine x y 1 c2 s (n + 1)) c = get x c + c2 * get y c := by
  rw [get_linearCombine]
  by_cases h : s ≤ c
  · rw [if_pos ⟨by omega, h, by omega⟩]; ring
  · rw [if_neg (fun h' => h h'.2.1), hzy c (by omega)]; simp

theorem get_lc_pre {x y : Row} (c1 c2 : Int) (s e c : Nat) (hc : c < s) :
    get (linearCombine x y c1 c2 s e) c = get x c := by
  rw [get_linearCombine, if_neg (fun h' => by omega)]

theorem get_lc_post {x y : Row} (c1 c2 : Int) (s e c : Nat) (hc : e ≤ c) :
    get (linearCombine x y c1 c2 s e) c = get x c := by
  rw [get_linearCombine, if_neg (fun h' => by omega)]

/-! ### one row replaced by a combination with the pivot row -/

/-- row `j` becomes `a·row_j + b·row_p`: allowed when `row_j` is a line, the pivot is a line and `a ≠ 0`;
    or `row_j` is a parameter/point and `a = 1` -/
theorem hom_iff_comb {n : Nat} {rows rows' : List GRow} (j p : Nat) (a b : Int)
    (hlen : rows'.length = rows.length) (hj : j < rows.length) (hp : p < rows.length) (hjp : j ≠ p)
    (hsame : ∀ i, i ≠ j → rowAt rows' i = rowAt rows i) (hline : (rowAt rows' j).line = (rowAt rows j).line)
    (hcomb : hv n (rowAt rows' j) = (a : Rat) • hv n (rowAt rows j) + (b : Rat) • hv n (rowAt rows p))
    (hLg : (rowAt rows j).line = true → (rowAt rows p).line = true ∧ a ≠ 0)
    (hPg : (rowAt rows j).line = false → a = 1) (v : Pt) : Hom n rows v ↔ Hom n rows' v := by
  have hp' : p < rows'.length := by omega
  have hj' : j < rows'.length := by omega
  have hpe : rowAt rows' p = rowAt rows p := hsame p (fun e => hjp e.symm)
  refine hom_iff_one_row j hlen hsame hline (fun hl => ?_) (fun hl => ?_) v
  · obtain ⟨hpl, ha⟩ := hLg hl
    have ha' : (a : Rat) ≠ 0 := by exact_mod_cast ha
    constructor
    · intro c
      have e : c • hv n (rowAt rows j)
          = (c / a) • hv n (rowAt rows' j) + (-(c * b / a)) • hv n (rowAt rows' p) := by
        rw [hcomb, hpe]; funext x
        simp only [Pi.add_apply, Pi.smul_apply, smul_eq_mul]; field_simp; ring
      rw [e]
      exact hom_add (hom_line hj' (by rw [hline]; exact hl) _) (hom_line hp' (by rw [hpe]; exact hpl) _)
    · intro c
      have e : c • hv n (rowAt rows' j) = (c * a) • hv n (rowAt rows j) + (c * b) • hv n (rowAt rows p) := by
        rw [hcomb]; module
      rw [e]
      exact hom_add (hom_line hj hl _) (hom_line hp hpl _)
  · have ha := hPg hl
    subst ha
    constructor
    · have e : hv n (rowAt rows j) = hv n (rowAt rows' j) + ((-b : Int) : Rat) • hv n (rowAt rows' p) := by
        rw [hcomb, hpe]; push_cast; module
      rw [e]
      exact hom_add (hom_pc hj' (by rw [hline]; exact hl)) (hom_int hp' _)
    · rw [hcomb]
      have e : ((1 : Int) : Rat) • hv n (rowAt rows j) = hv n (rowAt rows j) := by simp
      rw [e]
      exact hom_add (hom_pc hj hl) (hom_int hp _)

/-! ### what one pass of the inner loop guarantees -/

structure IStep (n p dim ri : Nat) (rows rows' : List GRow) : Prop where
  len : rows'.length = rows.length
  wf : WfI n rows'
  zero : ZeroPre p dim rows'
  other : ∀ i, i < rows.length → i ≠ ri → i ≠ p → (rowAt rows' i).line = (rowAt rows i).line ∧
    ∀ c, (get (rowAt rows' i).e c).sign = (get (rowAt rows i).e c).sign
  hom : HomSim n rows rows'
  pivNZ : get (rowAt rows' p).e dim ≠ 0
  rowZ : get (rowAt rows' ri).e dim = 0

/-- only row `ri` is replaced -/
theorem istep_set_one {n p dim ri : Nat} {rows : List GRow} (R' : GRow) (hri : ri < rows.length) (hne : ri ≠ p)
    (hwf : WfI n rows) (hz : ZeroPre p dim rows) (hlen : R'.e.length = n + 2)
    (hzero : ∀ c, c < dim → get R'.e c = 0) (hR0 : get R'.e dim = 0) (hpc : get (rowAt rows p).e dim ≠ 0)
    (hhom : HomSim n rows (rows.set ri R')) : IStep n p dim ri rows (rows.set ri R') where
  len := by simp
  wf := by
    intro i hi; rw [rowAt_set]; split
    · exact hlen
    · exact hwf i (by simpa using hi)
  zero := by
    intro i hpi hi c hc; rw [rowAt_set]; split
    · exact hzero c hc
    · exact hz i hpi (by simpa using hi) c hc
  other := by
    intro i _ h1 _
    rw [rowAt_set, if_neg (fun h => h1 h.1)]
    exact ⟨rfl, fun _ => rfl⟩
  hom := hhom
  pivNZ := by rw [rowAt_set, if_neg (fun h => hne h.1.symm)]; exact hpc
  rowZ := by rw [rowAt_set, if_pos ⟨rfl, hri⟩]; exact hR0

/-! ### `swap` -/

theorem swap_spec {n p dim ri : Nat} {rows : List GRow} (hri : ri < rows.length) (hp : p < rows.length) (hpr : p ≤ ri)
    (hwf : WfI n rows) (hz : ZeroPre p dim rows) :
    (swapRows rows ri p).length = rows.length ∧ WfI n (swapRows rows ri p) ∧ ZeroPre p dim (swapRows rows ri p) ∧
      (∀ i, i ≠ ri → i ≠ p → rowAt (swapRows rows ri p) i = rowAt rows i) ∧
      rowAt (swapRows rows ri p) ri = rowAt rows p ∧ rowAt (swapRows rows ri p) p = rowAt rows ri ∧
      ∀ v, Hom n rows v ↔ Hom n (swapRows rows ri p) v := by
  have hrow := rowAt_swapRows rows ri p
  refine ⟨length_swapRows _ _ _, ?_, ?_, ?_, ?_, ?_, ?_⟩
  · intro i hi
    rw [hrow i hri hp]
    rw [length_swapRows] at hi
    split
    · exact hwf ri hri
    · split
      · exact hwf p hp
      · exact hwf i hi
  · intro i hpi hi c hc
    rw [hrow i hri hp]
    rw [length_swapRows] at hi
    split
    · exact hz ri hpr hri c hc
    · split
      · exact hz p (Nat.le_refl _) hp c hc
      · exact hz i hpi hi c hc
  · intro i h1 h2; rw [hrow i hri hp, if_neg h2, if_neg h1]
  · rw [hrow ri hri hp]
    by_cases h : ri = p
    · rw [if_pos h, h]
    · rw [if_neg h, if_pos rfl]
  · rw [hrow p hri hp, if_pos rfl]
  · exact hom_iff_perm (fun r => mem_swapRows rows ri p hri hp r)

/-- the swap step of `Grid::simplify` keeps the lattice -/
theorem swapRows_homSim (n : Nat) (rows : List GRow) (i j : Nat) (hi : i < rows.length) (hj : j < rows.length) :
    HomSim n rows (swapRows rows i j) :=
  HomSim.of_iff (hom_iff_perm (fun r => mem_swapRows rows i j hi hj r))

/-! ### `reduce_line_with_line` -/

theorem step_LL {n p dim ri : Nat} {rows : List GRow} (hri : ri < rows.length) (hp : p < rows.length) (hne : ri ≠ p)
    (hpr : p ≤ ri) (hwf : WfI n rows) (hz : ZeroPre p dim rows) (hdim : dim ≤ n)
    (hpc : get (rowAt rows p).e dim ≠ 0) (hl1 : (rowAt rows ri).line = true) (hl2 : (rowAt rows p).line = true) :
    IStep n p dim ri rows (rows.set ri (reduceLineWithLine (rowAt rows ri) (rowAt rows p) dim)) := by
  obtain ⟨P, R, hP, hR, hP0, hPR, -, -, -⟩ := red_cols (get (rowAt rows p).e dim) (get (rowAt rows ri).e dim) hpc
  have hzr := hz ri hpr hri
  have hzp := hz p (Nat.le_refl _) hp
  have hRe : (reduceLineWithLine (rowAt rows ri) (rowAt rows p) dim).e
      = linearCombine (rowAt rows ri).e (rowAt rows p).e P (-R) dim (n + 1) := by
    show linearCombine _ _ _ _ _ _ = _
    rw [hP, hR, hwf p hp]; rfl
  have hent : ∀ c, c ≤ n → get (reduceLineWithLine (rowAt rows ri) (rowAt rows p) dim).e c
      = P * get (rowAt rows ri).e c + (-R) * get (rowAt rows p).e c := by
    intro c hc; rw [hRe]; exact get_lc_zero P (-R) (hwf ri hri) hzr hzp c hc
  refine istep_set_one _ hri hne hwf hz ?_ ?_ ?_ hpc (HomSim.of_iff ?_)
  · rw [hRe, length_linearCombine]; exact hwf ri hri
  · intro c hc; rw [hent c (by omega), hzr c hc, hzp c hc]; simp
  · rw [hent dim hdim]; linear_combination hPR
  · refine hom_iff_comb ri p P (-R) (by simp) hri hp hne ?_ ?_ ?_ (fun _ => ⟨hl2, hP0⟩)
      (fun h => by rw [hl1] at h; cases h)
    · intro i hi; rw [rowAt_set_ne _ _ hi]
    · rw [rowAt_set, if_pos ⟨rfl, hri⟩]; rfl
    · rw [rowAt_set, if_pos ⟨rfl, hri⟩]; exact hv_comb P (-R) hent

/-- `reduce_line_with_line` on two line rows that vanish before `dim` keeps the lattice -/
theorem reduceLineWithLine_homSim {n p dim ri : Nat} {rows : List GRow} (hri : ri < rows.length) (hp : p < rows.length)
    (hne : ri ≠ p) (hpr : p ≤ ri) (hwf : WfI n rows) (hz : ZeroPre p dim rows) (hdim : dim ≤ n)
    (hpc : get (rowAt rows p).e dim ≠ 0) (hl1 : (rowAt rows ri).line = true) (hl2 : (rowAt rows p).line = true) :
    HomSim n rows (rows.set ri (reduceLineWithLine (rowAt rows ri) (rowAt rows p) dim)) :=
  (step_LL hri hp hne hpr hwf hz hdim hpc hl1 hl2).hom

/-! ### `reduce_pc_with_pc` -/

theorem step_PP {n p dim ri : Nat} {rows : List GRow} (hri : ri < rows.length) (hp : p < rows.length) (hne : ri ≠ p)
    (hpr : p ≤ ri) (hwf : WfI n rows) (hz : ZeroPre p dim rows) (hdim : dim ≤ n)
    (hpc : get (rowAt rows p).e dim ≠ 0)
    (hl1 : (rowAt rows ri).line = false) (hl2 : (rowAt rows p).line = false) :
    IStep n p dim ri rows
      ((rows.set ri (reducePcWithPc (rowAt rows ri) (rowAt rows p) dim dim (n + 1)).1).set p
        (reducePcWithPc (rowAt rows ri) (rowAt rows p) dim dim (n + 1)).2) ∧
    (rowAt ((rows.set ri (reducePcWithPc (rowAt rows ri) (rowAt rows p) dim dim (n + 1)).1).set p
        (reducePcWithPc (rowAt rows ri) (rowAt rows p) dim dim (n + 1)).2) p).line = false := by
  obtain ⟨P, R, hP, hR, hP0, hPR, hpcg, hrcg, hg0⟩ :=
    red_cols (get (rowAt rows p).e dim) (get (rowAt rows ri).e dim) hpc
  obtain ⟨-, hbez⟩ := gcdext_spec (get (rowAt rows p).e dim) (get (rowAt rows ri).e dim)
  generalize hs : (gcdext (get (rowAt rows p).e dim) (get (rowAt rows ri).e dim)).2.1 = s at hbez
  generalize ht : (gcdext (get (rowAt rows p).e dim) (get (rowAt rows ri).e dim)).2.2 = t at hbez
  have hzr := hz ri hpr hri
  have hzp := hz p (Nat.le_refl _) hp
  -- the determinant
  have hdet : s * P + t * R = 1 := by
    have h1 : gcdI (get (rowAt rows p).e dim) (get (rowAt rows ri).e dim) * (s * P + t * R)
        = gcdI (get (rowAt rows p).e dim) (get (rowAt rows ri).e dim) * 1 := by
      have : (Int.gcd (get (rowAt rows p).e dim) (get (rowAt rows ri).e dim) : Int)
          = gcdI (get (rowAt rows p).e dim) (get (rowAt rows ri).e dim) := rfl
      rw [this] at hbez
      calc gcdI (get (rowAt rows p).e dim) (get (rowAt rows ri).e dim) * (s * P + t * R)
          = s * (gcdI (get (rowAt rows p).e dim) (get (rowAt rows ri).e dim) * P)
            + t * (gcdI (get (rowAt rows p).e dim) (get (rowAt rows ri).e dim) * R) := by ring
        _ = gcdI (get (rowAt rows p).e dim) (get (rowAt rows ri).e dim) * 1 := by
            rw [← hpcg, ← hrcg, hbez, mul_one]
    exact Int.eq_of_mul_eq_mul_left hg0 h1
  set A := (reducePcWithPc (rowAt rows ri) (rowAt rows p) dim dim (n + 1)).1 with hA
  set B := (reducePcWithPc (rowAt rows ri) (rowAt rows p) dim dim (n + 1)).2 with hB
  have hAl : A.line = (rowAt rows ri).line := rfl
  have hBl : B.line = (rowAt rows p).line := rfl
  have hAe : A.e = linearCombine (rowAt rows ri).e (rowAt rows p).e P (-R) dim (n + 1) := by
    show linearCombine _ _ _ _ _ _ = _
    have : (gcdext (get (rowAt rows p).e dim) (get (rowAt rows ri).e dim)).1
        = gcdI (get (rowAt rows p).e dim) (get (rowAt rows ri).e dim) := rfl
    show linearCombine (rowAt rows ri).e (rowAt rows p).e
      (get (rowAt rows p).e dim / (gcdext (get (rowAt rows p).e dim) (get (rowAt rows ri).e dim)).1)
      (-(get (rowAt rows ri).e dim / (gcdext (get (rowAt rows p).e dim) (get (rowAt rows ri).e dim)).1)) dim (n + 1) = _
    rw [this, hP, hR]
  have hBe : B.e = linearCombine (rowAt rows p).e (rowAt rows ri).e s t dim (n + 1) := by
    show linearCombine (rowAt rows p).e (rowAt rows ri).e
      (gcdext (get (rowAt rows p).e dim) (get (rowAt rows ri).e dim)).2.1
      (gcdext (get (rowAt rows p).e dim) (get (rowAt rows ri).e dim)).2.2 dim (n + 1) = _
    rw [hs, ht]
  have hAent : ∀ c, c ≤ n → get A.e c = P * get (rowAt rows ri).e c + (-R) * get (rowAt rows p).e c := by
    intro c hc; rw [hAe]; exact get_lc_zero P (-R) (hwf ri hri) hzr hzp c hc
  have hBent : ∀ c, c ≤ n → get B.e c = s * get (rowAt rows p).e c + t * get (rowAt rows ri).e c := by
    intro c hc; rw [hBe]; exact get_lc_zero s t (hwf p hp) hzp hzr c hc
  have hrow : ∀ i, rowAt ((rows.set ri A).set p B) i = if i = p then B else if i = ri ∧ ri < rows.length then A else rowAt rows i :=
    rowAt_set2 rows ri p A B hp
  have hrp : rowAt ((rows.set ri A).set p B) p = B := by rw [hrow, if_pos rfl]
  have hrr : rowAt ((rows.set ri A).set p B) ri = A := by rw [hrow, if_neg hne, if_pos ⟨rfl, hri⟩]
  have hro : ∀ i, i ≠ ri → i ≠ p → rowAt ((rows.set ri A).set p B) i = rowAt rows i := by
    intro i h1 h2; rw [hrow, if_neg h2, if_neg (fun h => h1 h.1)]
  refine ⟨⟨by simp, ?_, ?_, ?_, HomSim.of_iff ?_, ?_, ?_⟩, ?_⟩
  · intro i hi
    rw [hrow]; split
    · rw [hBe, length_linearCombine]; exact hwf p hp
    · split
      · rw [hAe, length_linearCombine]; exact hwf ri hri
      · exact hwf i (by simpa using hi)
  · intro i hpi hi c hc
    rw [hrow]; split
    · rw [hBent c (by omega), hzr c hc, hzp c hc]; simp
    · split
      · rw [hAent c (by omega), hzr c hc, hzp c hc]; simp
      · exact hz i hpi (by simpa using hi) c hc
  · intro i _ h1 h2; rw [hro i h1 h2]; exact ⟨rfl, fun _ => rfl⟩
  · -- the lattice: a unimodular change of the pair
    have hvA := hv_comb (n := n) (r := A) (r1 := rowAt rows ri) (r2 := rowAt rows p) P (-R) hAent
    have hvB := hv_comb (n := n) (r := B) (r1 := rowAt rows p) (r2 := rowAt rows ri) s t hBent
    have hvp : hv n (rowAt rows p) = (P : Rat) • hv n B + ((-t : Int) : Rat) • hv n A := by
      refine hv_comb P (-t) fun c hc => ?_
      rw [hAent c hc, hBent c hc]; linear_combination (-(get (rowAt rows p).e c)) * hdet
    have hvr : hv n (rowAt rows ri) = (R : Rat) • hv n B + (s : Rat) • hv n A := by
      refine hv_comb R s fun c hc => ?_
      rw [hAent c hc, hBent c hc]; linear_combination (-(get (rowAt rows ri).e c)) * hdet
    have hlen' : ((rows.set ri A).set p B).length = rows.length := by simp
    have hp' : p < ((rows.set ri A).set p B).length := by omega
    have hri' : ri < ((rows.set ri A).set p B).length := by omega
    refine hom_iff_two_rows ri p hlen' hro hl1 hl2 (by rw [hrr, hAl]; exact hl1) (by rw [hrp, hBl]; exact hl2)
      ?_ ?_ ?_ ?_
    · rw [hvr]
      have h1 : Hom n ((rows.set ri A).set p B) ((R : Rat) • hv n (rowAt ((rows.set ri A).set p B) p)) := hom_int hp' R
      have h2 : Hom n ((rows.set ri A).set p B) ((s : Rat) • hv n (rowAt ((rows.set ri A).set p B) ri)) := hom_int hri' s
      rw [hrp] at h1; rw [hrr] at h2
      exact hom_add h1 h2
    · rw [hvp]
      have h1 : Hom n ((rows.set ri A).set p B) ((P : Rat) • hv n (rowAt ((rows.set ri A).set p B) p)) := hom_int hp' P
      have h2 : Hom n ((rows.set ri A).set p B) (((-t : Int) : Rat) • hv n (rowAt ((rows.set ri A).set p B) ri)) :=
        hom_int hri' (-t)
      rw [hrp] at h1; rw [hrr] at h2
      exact hom_add h1 h2
    · rw [hrr, hvA]; exact hom_add (hom_int hri P) (hom_int hp (-R))
    · rw [hrp, hvB]; exact hom_add (hom_int hp s) (hom_int hri t)
  · rw [hrp, hBent dim hdim]
    have : (Int.gcd (get (rowAt rows p).e dim) (get (rowAt rows ri).e dim) : Int)
        = gcdI (get (rowAt rows p).e dim) (get (rowAt rows ri).e dim) := rfl
    rw [hbez, this]; exact hg0
  · rw [hrr, hAent dim hdim]; linear_combination hPR
  · rw [hrp, hBl]; exact hl2

/-- `reduce_pc_with_pc` on two parameter/point rows that vanish before `dim` keeps the lattice -/
theorem reducePcWithPc_homSim {n p dim ri : Nat} {rows : List GRow} (hri : ri < rows.length) (hp : p < rows.length)
    (hne : ri ≠ p) (hpr : p ≤ ri) (hwf : WfI n rows) (hz : ZeroPre p dim rows) (hdim : dim ≤ n)
    (hpc : get (rowAt rows p).e dim ≠ 0)
    (hl1 : (rowAt rows ri).line = false) (hl2 : (rowAt rows p).line = false) :
    HomSim n rows
      ((rows.set ri (reducePcWithPc (rowAt rows ri) (rowAt rows p) dim dim (n + 1)).1).set p
        (reducePcWithPc (rowAt rows ri) (rowAt rows p) dim dim (n + 1)).2) :=
  (step_PP hri hp hne hpr hwf hz hdim hpc hl1 hl2).1.hom

end PPLV.Lattice.Red

import PPLV.Lattice.ProofsGridOpsCongruence
import PPLV.Lattice.ProofsGridOpsIntersection

/-!
# The `Grid` object: `concatenate_assign`

`Congruence_System::concatenate` yields the product of the two solution sets.
-/
namespace PPLV.Lattice.GO
open PPLV.Lattice PPLV.Lattice.Red

/-! ## `Congruence_System::concatenate(y)` (Congruence_System.cc:492) — the solutions of the concatenation are the product of the solutions -/

/-- the first `n` coordinates of a point -/
def cn_fst (n : Nat) (z : Pt) : Pt := fun i => if i < n then z i else 0
/-- the coordinates from `n` on -/
def cn_snd (n : Nat) (z : Pt) : Pt := fun i => z (n + i)

/-- the product of a set of the `n`-space and a set of the `m`-space, in the `(n+m)`-space -/
def cn_prodSet (n m : Nat) (A B : Set Pt) : Set Pt := {z | Supp (n + m) z ∧ cn_fst n z ∈ A ∧ cn_snd n z ∈ B}

theorem cn_fst_supp (n : Nat) (z : Pt) : Supp n (cn_fst n z) := fun i hi => by simp [cn_fst]; omega
theorem cn_snd_supp (n m : Nat) (z : Pt) (h : Supp (n + m) z) : Supp m (cn_snd n z) := fun i hi => h _ (by omega)

theorem cn_fst_of_supp (n : Nat) (z : Pt) (h : Supp n z) : cn_fst n z = z := by
  funext i; unfold cn_fst; split
  · rfl
  · exact (h i (by omega)).symm

theorem cn_snd_zero (z : Pt) : cn_snd 0 z = z := by funext i; simp [cn_snd]

/-! ### rows -/

/-- the value of a row only reads the coordinates the row has coefficients for -/
theorem cn_evalRow_agree (e : Row) (x y : Pt) (h : ∀ i, i + 1 < e.length → x i = y i) : evalRow e x = evalRow e y := by
  unfold evalRow
  apply dotF_agree
  intro i hi
  cases i with
  | zero => rfl
  | succ i => exact h i (by simpa [ratRow] using hi)

theorem cn_dotF_shift (n : Nat) (e : Row) (y : Pt) :
    dotF (ratRow (List.replicate n 0 ++ e)) y = dotF (ratRow e) (fun i => y (n + i)) := by
  induction n generalizing y with
  | zero => simp
  | succ n ih =>
    have : List.replicate (n + 1) (0 : Int) ++ e = 0 :: (List.replicate n 0 ++ e) := rfl
    rw [this]
    simp only [ratRow, List.map_cons, dotF_cons] at ih ⊢
    rw [ih y.tail]
    have : (fun i => y.tail (n + i)) = fun i => y (n + 1 + i) := by
      funext i; show y (n + i + 1) = _; congr 1; omega
    rw [this]; simp

/-- the row of `y` as `concatenate` stores it -/
def cn_shiftRow (oldDim yDim : Nat) (r : CRow) : CRow :=
  { r with e := Red.get r.e 0 :: (List.replicate oldDim 0 ++ (resizeRow r.e (yDim + 1)).drop 1) }

theorem cn_shiftRow_length (n m : Nat) (r : CRow) : (cn_shiftRow n m r).e.length = n + m + 1 := by
  simp [cn_shiftRow, length_resizeRow]

theorem cn_evalRow_shift (n m : Nat) (r : CRow) (hl : r.e.length ≤ m + 1) (z : Pt) :
    evalRow (cn_shiftRow n m r).e z = evalRow r.e (cn_snd n z) := by
  rw [← cn_evalRow_resize_pad r.e (m + 1) hl (cn_snd n z)]
  rw [evalRow_eq, evalRow_eq]
  have h0 : Red.get (resizeRow r.e (m + 1)) 0 = Red.get r.e 0 := by rw [get_resizeRow, if_pos (by omega)]
  have ht : (ratRow (resizeRow r.e (m + 1))).tail = ratRow ((resizeRow r.e (m + 1)).drop 1) := by
    unfold ratRow; rw [List.drop_one, List.map_tail]
  rw [h0, ht]
  simp only [cn_shiftRow, ratRow, List.map_cons, List.tail_cons, get_cons_zero]
  have := cn_dotF_shift n ((resizeRow r.e (m + 1)).drop 1) z
  simp only [ratRow] at this
  rw [this]; rfl

theorem cn_rsem_shift (n m : Nat) (r : CRow) (hl : r.e.length ≤ m + 1) (z : Pt) :
    rsem (cn_shiftRow n m r) z ↔ rsem r (cn_snd n z) := by
  unfold rsem; rw [cn_evalRow_shift n m r hl z]; rfl

theorem cn_rsem_pad_fst (n k : Nat) (r : CRow) (hl : r.e.length ≤ n + 1) (hk : n ≤ k) (z : Pt) :
    rsem (r.setSpaceDim k) z ↔ rsem r (cn_fst n z) := by
  unfold rsem CRow.setSpaceDim
  simp only [cn_evalRow_resize_pad r.e (k + 1) (by omega) z]
  rw [cn_evalRow_agree r.e z (cn_fst n z) (fun i hi => by simp [cn_fst]; intro h; omega)]

/-! ### systems -/

theorem cn_concatenate_eq (s y : CSys) (hm : 0 < y.dim) :
    (s.concatenate y).dim = s.dim + y.dim ∧
    (s.concatenate y).rows = s.rows.map (·.setSpaceDim (s.dim + y.dim)) ++ y.rows.map (cn_shiftRow s.dim y.dim) := by
  unfold CSys.concatenate CSys.setSpaceDim
  simp only [if_pos (show s.dim ≠ s.dim + y.dim by omega)]
  trivial

/-- `concatenate(y)`: the solutions are the product -/
theorem cn_concatenate_consSet (s y : CSys) (hm : 0 < y.dim) (hs : CWf s.dim s.rows) (hy : CWf y.dim y.rows) :
    consSet (s.dim + y.dim) (s.concatenate y).rows = cn_prodSet s.dim y.dim (consSet s.dim s.rows) (consSet y.dim y.rows) := by
  rw [(cn_concatenate_eq s y hm).2]
  ext z
  simp only [cn_mem_consSet, cn_prodSet, Set.mem_ofPred_eq, List.mem_append, List.mem_map, cn_mem_set]
  constructor
  · rintro ⟨hz, hall⟩
    refine ⟨hz, ⟨cn_fst_supp _ _, fun r hr => ?_⟩, ⟨cn_snd_supp _ _ _ hz, fun r hr => ?_⟩⟩
    · exact (cn_rsem_pad_fst s.dim _ r (hs r hr).1.le (by omega) z).mp (hall _ (Or.inl ⟨r, hr, rfl⟩))
    · exact (cn_rsem_shift s.dim y.dim r (hy r hr).1.le z).mp (hall _ (Or.inr ⟨r, hr, rfl⟩))
  · rintro ⟨hz, ⟨_, h1⟩, ⟨_, h2⟩⟩
    refine ⟨hz, fun r' hr' => ?_⟩
    rcases hr' with ⟨r, hr, rfl⟩ | ⟨r, hr, rfl⟩
    · exact (cn_rsem_pad_fst s.dim _ r (hs r hr).1.le (by omega) z).mpr (h1 r hr)
    · exact (cn_rsem_shift s.dim y.dim r (hy r hr).1.le z).mpr (h2 r hr)

theorem cn_concatenate_CWf (s y : CSys) (hm : 0 < y.dim) (hs : CWf s.dim s.rows) (hy : CWf y.dim y.rows) :
    CWf (s.dim + y.dim) (s.concatenate y).rows := by
  rw [(cn_concatenate_eq s y hm).2]
  refine cn_CWf_append _ _ _ (cn_CWf_map_setSpaceDim _ _ (fun r hr => (hs r hr).2)) ?_
  intro r' hr'
  obtain ⟨r, hr, rfl⟩ := List.mem_map.mp hr'
  exact ⟨cn_shiftRow_length _ _ r, (hy r hr).2⟩

example : ((CSys.mk 1 [{ e := [0, 1], m := 2 }]).concatenate (CSys.mk 1 [{ e := [1, 3], m := 6 }])).rows =
    [{ e := [0, 1, 0], m := 2 }, { e := [1, 0, 3], m := 6 }] := by decide

/-! ## `operator=` (as `concatenate_assign` uses it), `concatenate_assign(y)` (Grid_chdims.cc:225) -/

/-! ### products with an empty or a 0-dimensional factor -/

theorem cn_prodSet_empty_left (n m : Nat) (B : Set Pt) : cn_prodSet n m ∅ B = ∅ := by
  ext z; simp [cn_prodSet]
theorem cn_prodSet_empty_right (n m : Nat) (A : Set Pt) : cn_prodSet n m A ∅ = ∅ := by
  ext z; simp [cn_prodSet]

theorem cn_prodSet_zero_right (n : Nat) (A : Set Pt) (hA : A ⊆ spaceSet n) : cn_prodSet n 0 A (spaceSet 0) = A := by
  ext z
  simp only [cn_prodSet, Set.mem_ofPred_eq, spaceSet, Nat.add_zero]
  constructor
  · rintro ⟨hz, h1, _⟩; rwa [cn_fst_of_supp n z hz] at h1
  · intro h
    have hz : Supp n z := hA h
    exact ⟨hz, by rwa [cn_fst_of_supp n z hz], cn_snd_supp n 0 z hz⟩

theorem cn_prodSet_zero_left (m : Nat) (B : Set Pt) (hB : B ⊆ spaceSet m) : cn_prodSet 0 m (spaceSet 0) B = B := by
  ext z
  simp only [cn_prodSet, Set.mem_ofPred_eq, spaceSet, Nat.zero_add, cn_snd_zero]
  constructor
  · rintro ⟨_, _, h⟩; exact h
  · intro h; exact ⟨hB h, cn_fst_supp 0 z, h⟩

/-! ### `concatenate_assign(y)` -/

/-- the receiver of `concatenate_assign` in the general case -/
def cn_concatBody (x1 y1 : Grid) (added : Nat) : Grid :=
  (({ x1.withCs (x1.cs.concatenate y1.cs) with spaceDim := x1.spaceDim + added } : Grid).clearCongruencesMinimized).clearGeneratorsUpToDate

theorem cn_concatBody_spec (x1 y1 : Grid) (hx : GridInv x1) (hy : GridInv y1)
    (hposx : 0 < x1.spaceDim) (hposy : 0 < y1.spaceDim) (hex : x1.st.empty = false) (hey : y1.st.empty = false)
    (hcx : x1.st.cUp = true) (hcy : y1.st.cUp = true) :
    GridInv (cn_concatBody x1 y1 y1.spaceDim) ∧
      (cn_concatBody x1 y1 y1.spaceDim).sem = cn_prodSet x1.spaceDim y1.spaceDim x1.sem y1.sem ∧
      (cn_concatBody x1 y1 y1.spaceDim).spaceDim = x1.spaceDim + y1.spaceDim := by
  obtain ⟨hcdx, hwx⟩ := hx.cwf hex hposx hcx
  obtain ⟨hcdy, hwy⟩ := hy.cwf hey hposy hcy
  have hwx' : CWf x1.cs.dim x1.cs.rows := by show CWf x1.conDim x1.con; rw [hcdx]; exact hwx
  have hwy' : CWf y1.cs.dim y1.cs.rows := by show CWf y1.conDim y1.con; rw [hcdy]; exact hwy
  have hm : 0 < y1.cs.dim := by show 0 < y1.conDim; omega
  have hdim := (cn_concatenate_eq x1.cs y1.cs hm).1
  have hcons := cn_concatenate_consSet x1.cs y1.cs hm hwx' hwy'
  have hcwf := cn_concatenate_CWf x1.cs y1.cs hm hwx' hwy'
  have hxd : x1.cs.dim = x1.spaceDim := hcdx
  have hyd : y1.cs.dim = y1.spaceDim := hcdy
  rw [hxd, hyd] at hdim hcons hcwf
  have := inv_of_conOnly (cn_concatBody x1 y1 y1.spaceDim) (show 0 < x1.spaceDim + y1.spaceDim by omega)
    hex hcx rfl rfl rfl (hx.hi0 hex) hdim hcwf
  refine ⟨this.1, ?_, rfl⟩
  rw [this.2]
  show consSet (x1.spaceDim + y1.spaceDim) (x1.cs.concatenate y1.cs).rows = _
  rw [hcons, sem_of_cUp hx hex hposx hcx, sem_of_cUp hy hey hposy hcy]; rfl

/-- Grid_chdims.cc:225 `concatenate_assign(y)`: the receiver becomes the product `x × y` in the space of dimension
    `x.space_dimension() + y.space_dimension()`; the argument keeps its grid -/
theorem cn_concatenateAssign (x y : Grid) (hx : GridInv x) (hy : GridInv y) :
    (concatenateAssign x y).thrown = false ∧ GridInv (concatenateAssign x y).x ∧ GridInv (concatenateAssign x y).y ∧
    (concatenateAssign x y).x.spaceDim = x.spaceDim + y.spaceDim ∧
    (concatenateAssign x y).x.sem = cn_prodSet x.spaceDim y.spaceDim x.sem y.sem ∧
    (concatenateAssign x y).y.sem = y.sem ∧ (concatenateAssign x y).y.spaceDim = y.spaceDim := by
  unfold concatenateAssign
  by_cases hemp : x.markedEmpty = true ∨ y.markedEmpty = true
  · rw [if_pos hemp]
    refine ⟨rfl, setEmpty_inv _, hy, rfl, ?_, rfl, rfl⟩
    rw [setEmpty_sem]
    rcases hemp with h | h
    · rw [sem_of_empty h, cn_prodSet_empty_left]
    · rw [sem_of_empty h, cn_prodSet_empty_right]
  · rw [if_neg hemp]
    have hnx : x.st.empty = false := by
      by_contra h; exact hemp (Or.inl (show x.st.empty = true by simpa using h))
    have hny : y.st.empty = false := by
      by_contra h; exact hemp (Or.inr (show y.st.empty = true by simpa using h))
    by_cases hy0 : y.spaceDim = 0
    · rw [if_pos hy0]
      refine ⟨rfl, hx, hy, by rw [hy0]; rfl, ?_, rfl, rfl⟩
      rw [hy0, sem_of_zdim hny hy0, cn_prodSet_zero_right _ _ (cn_sem_subset_space x hx)]
    · rw [if_neg hy0]
      have hposy : 0 < y.spaceDim := by omega
      by_cases hx0 : x.spaceDim = 0
      · rw [if_pos hx0]
        obtain ⟨a, b, c⟩ := assign_spec x y hy
        refine ⟨rfl, a, hy, by rw [c, hx0, Nat.zero_add], ?_, rfl, rfl⟩
        rw [b, hx0, sem_of_zdim hnx hx0, cn_prodSet_zero_left _ _ (cn_sem_subset_space y hy)]
      · rw [if_neg hx0]
        have hposx : 0 < x.spaceDim := by omega
        have hcong : congruences y = if !y.congruencesAreUpToDate then updateCongruences y else y := by
          unfold congruences
          rw [if_neg (show ¬ (y.markedEmpty = true) by simpa [Grid.markedEmpty] using hny), if_neg hy0]
        rw [hcong]
        obtain ⟨hI1, hs1, hd1, he1, hc1⟩ := cn_ensureCon x hx hnx hposx
        obtain ⟨hI2, hs2, hd2, he2, hc2⟩ := cn_ensureCon y hy hny hposy
        generalize (if !x.congruencesAreUpToDate then updateCongruences x else x) = x1 at hI1 hs1 hd1 he1 hc1 ⊢
        generalize (if !y.congruencesAreUpToDate then updateCongruences y else y) = y1 at hI2 hs2 hd2 he2 hc2 ⊢
        obtain ⟨b1, b2, b3⟩ := cn_concatBody_spec x1 y1 hI1 hI2 (by omega) (by omega) he1 he2 hc1 hc2
        rw [hd2] at b1 b2 b3
        rw [hs1, hs2, hd1] at b2
        rw [hd1] at b3
        exact ⟨rfl, b1, hI2, b3, b2, hs2, hd2⟩

example : (concatenateAssign cn_exGrid cn_exGrid3).x.con = [{ e := [0, 1, 0], m := 2 }, { e := [0, 0, 1], m := 3 }] ∧
    (concatenateAssign cn_exGrid cn_exGrid3).x.spaceDim = 2 := by decide

end PPLV.Lattice.GO

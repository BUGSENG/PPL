import PPLV.Lattice.ProofsOps

/-!
# K2: dimension-changing operators are images under coordinate maps
-/
namespace PPLV.Lattice
open List

/-- the linear map `x ↦ (j ↦ x (f j))`, `0` where `f j = none` -/
def coordMap (f : Nat → Option Nat) : Pt →ₗ[ℚ] Pt where
  toFun x j := match f j with | some i => x i | none => 0
  map_add' x y := by
    funext j; simp only [Pi.add_apply]; cases f j <;> simp
  map_smul' c x := by
    funext j; simp only [Pi.smul_apply, smul_eq_mul, RingHom.id_apply]; cases f j <;> simp

theorem coordMap_apply (f : Nat → Option Nat) (x : Pt) (j : Nat) :
    coordMap f x j = match f j with | some i => x i | none => 0 := rfl

/-- `remove_space_dimensions`, `remove_higher_space_dimensions`: keep the listed coordinates -/
theorem selectCoords_represents (keep : List Nat) :
    Represents (selectCoords keep) (coordMap (fun j => keep[j]?)) := by
  intro v
  funext j
  rw [coordMap_apply]
  simp only [selectCoords, Vec.toFun, List.getD_eq_getElem?_getD, List.getElem?_map]
  cases h : keep[j]? with
  | none => simp
  | some i => simp

/-- `map_space_dimensions` with the partial injection `pf` (`pf[i] = some j`: `i ↦ j`) into `m` dimensions -/
theorem mapCoords_represents (m : Nat) (pf : List (Option Nat)) :
    Represents (mapCoords m pf) (coordMap (fun j => if j < m then pf.idxOf? (some j) else none)) := by
  intro v
  funext j
  rw [coordMap_apply]
  simp only [mapCoords, toFun_vecOfFn]
  by_cases hj : j < m
  · simp only [hj, if_true]
    cases pf.idxOf? (some j) <;> rfl
  · simp [hj]

/-- `padTo n`: truncation to the first `n` coordinates -/
theorem padTo_represents (n : Nat) : Represents (padTo n) (coordMap (fun j => if j < n then some j else none)) := by
  intro v
  funext j
  rw [coordMap_apply, toFun_padTo]
  by_cases hj : j < n <;> simp [hj]

/-- image of a grid under a coordinate map -/
theorem mapCoord_sem (M : Vec → Vec) (f : Nat → Option Nat) (hM : Represents M (coordMap f)) (G : GridGens) (y : Pt) :
    Gen.sem (mapG M [] G) y ↔ ∃ x, Gen.sem G x ∧ y = coordMap f x := by
  rw [mapG_sem M _ hM]
  simp

/-! ### adding dimensions -/

theorem addLines_sem_mono (G : GridGens) (ls : List Vec) (x : Pt) (h : Gen.sem G x) : Gen.sem (addLines G ls) x := by
  induction ls generalizing G with
  | nil => exact h
  | cons l ls ih =>
    simp only [addLines, List.foldl_cons]
    apply ih
    rw [addLine_sem]
    exact ⟨x, 0, h, by simp⟩

/-- `add_space_dimensions_and_embed`: the points whose first `n` coordinates form a point of `G`
    (for a grid `G` of dimension `n`) -/
theorem embed_sem (n m : Nat) (G : GridGens) (hG : ∀ x, Gen.sem G x → Supp n x) (y : Pt) :
    Gen.sem (addLines G ((List.range m).map (fun j => unit (n + j)))) y ↔
      Supp (n + m) y ∧ Gen.sem G (fun j => if j < n then y j else 0) := by
  induction m generalizing y with
  | zero =>
    simp only [List.range_zero, List.map_nil, addLines, List.foldl_nil, Nat.add_zero]
    constructor
    · intro h
      have hs := hG y h
      refine ⟨hs, ?_⟩
      have : (fun j => if j < n then y j else 0) = y := by
        funext j; by_cases hj : j < n
        · simp [hj]
        · simp [hj, hs j (by omega)]
      rwa [this]
    · rintro ⟨hs, h⟩
      have : (fun j => if j < n then y j else 0) = y := by
        funext j; by_cases hj : j < n
        · simp [hj]
        · simp [hj, hs j (by omega)]
      rwa [this] at h
  | succ m ih =>
    rw [List.range_succ, List.map_append, addLines, List.foldl_append]
    simp only [List.map_cons, List.map_nil, List.foldl_cons, List.foldl_nil]
    rw [addLine_sem]
    constructor
    · rintro ⟨x, c, hx, rfl⟩
      have hx' : Gen.sem (addLines G ((List.range m).map (fun j => unit (n + j)))) x := hx
      obtain ⟨hs, hg⟩ := (ih x).mp hx'
      constructor
      · intro i hi
        simp only [Pi.add_apply, Pi.smul_apply, smul_eq_mul, toFun_unit]
        rw [hs i (by omega)]
        have : i ≠ n + m := by omega
        simp [this]
      · have : (fun j => if j < n then (x + c • (unit (n + m)).toFun) j else 0) = (fun j => if j < n then x j else 0) := by
          funext j
          by_cases hj : j < n
          · have : j ≠ n + m := by omega
            simp [hj, toFun_unit, this]
          · simp [hj]
        rw [this]; exact hg
    · rintro ⟨hs, hg⟩
      refine ⟨Function.update y (n + m) 0, y (n + m), ?_, ?_⟩
      · show Gen.sem (addLines G ((List.range m).map (fun j => unit (n + j)))) _
        rw [ih]
        constructor
        · intro i hi
          by_cases h : i = n + m
          · subst h; simp
          · rw [Function.update_of_ne h]; exact hs i (by omega)
        · have : (fun j => if j < n then Function.update y (n + m) 0 j else 0) = (fun j => if j < n then y j else 0) := by
            funext j
            by_cases hj : j < n
            · have : j ≠ n + m := by omega
              simp [hj, Function.update_of_ne this]
            · simp [hj]
          rw [this]; exact hg
      · funext j
        by_cases h : j = n + m
        · subst h; simp [toFun_unit]
        · simp [toFun_unit, h]

end PPLV.Lattice

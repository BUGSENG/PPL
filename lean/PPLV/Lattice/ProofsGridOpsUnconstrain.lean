import PPLV.Lattice.ProofsGridOpsGenSys
import PPLV.Lattice.ProofsGridOpsLazy

/-!
# The `Grid` object: `unconstrain`

Also `generators_are_up_to_date() || update_generators()` as the generator-side mutators use it (`gn_ens`).
-/
namespace PPLV.Lattice.GO
open PPLV.Lattice PPLV.Lattice.Red

/-! ## `Grid::unconstrain(var)`, `Grid::unconstrain(vars)` (Grid_public.cc:1492, :1514) -/

/-- `marked_empty() || !(generators_are_up_to_date() || update_generators())` as the generator-side mutators start:
    the state afterwards and "the grid is not empty" -/
def gn_ens (g : Grid) : Grid × Bool := if g.markedEmpty then (g, false) else ensureGenerators g

theorem gn_ens_spec (g : Grid) (hI : GridInv g) (hn : 0 < g.spaceDim) :
    GridInv (gn_ens g).1 ∧ (gn_ens g).1.sem = g.sem ∧ (gn_ens g).1.spaceDim = g.spaceDim ∧
    ((gn_ens g).2 = true ↔ (g.sem).Nonempty) ∧
    ((gn_ens g).2 = true → (gn_ens g).1.st.empty = false ∧ (gn_ens g).1.st.gUp = true) ∧
    ((gn_ens g).2 = false → (gn_ens g).1.st.empty = true) := by
  unfold gn_ens
  cases he : g.markedEmpty with
  | true =>
    have he' : g.st.empty = true := he
    rw [if_pos rfl]
    refine ⟨hI, rfl, rfl, ?_, ?_, fun _ => he'⟩
    · rw [sem_of_empty he']; simp
    · intro h; cases h
  | false =>
    have he' : g.st.empty = false := he
    rw [if_neg (by simp)]
    exact ensureGenerators_spec g hI he' hn

/-- the non-empty outcome of `gn_ens`: an up-to-date, well-formed, normalised generator system for the same grid -/
theorem gn_ens_true (g : Grid) (hI : GridInv g) (hn : 0 < g.spaceDim)
    (h2 : (gn_ens g).2 = true) :
    GridInv (gn_ens g).1 ∧ (gn_ens g).1.spaceDim = g.spaceDim ∧ (gn_ens g).1.st.empty = false ∧
    (gn_ens g).1.st.gUp = true ∧ (gn_ens g).1.st.hi = 0 ∧ (gn_ens g).1.genDim = g.spaceDim ∧
    GWf g.spaceDim (gn_ens g).1.gen ∧ GNorm g.spaceDim (firstPointDiv (gn_ens g).1.gen) (gn_ens g).1.gen ∧
    gn_set (gn_ens g).1.gen = g.sem := by
  obtain ⟨a, b, c, _, e, _⟩ := gn_ens_spec g hI hn
  obtain ⟨e1, e2⟩ := e h2
  obtain ⟨p, q, r, s⟩ := gn_sem_of_gUp a (by rw [c]; exact hn) e1 e2
  rw [c] at p q r
  exact ⟨a, c, e1, e2, a.hi0 e1, p, q, r, by rw [← s, b]⟩

/-- the empty outcome -/
theorem gn_ens_false (g : Grid) (hI : GridInv g) (hn : 0 < g.spaceDim)
    (h2 : (gn_ens g).2 = false) :
    GridInv (gn_ens g).1 ∧ (gn_ens g).1.spaceDim = g.spaceDim ∧ (gn_ens g).1.st.empty = true ∧
      (gn_ens g).1.sem = ∅ ∧ g.sem = ∅ := by
  obtain ⟨a, b, c, d, _, f⟩ := gn_ens_spec g hI hn
  have hg : g.sem = ∅ := by
    rw [← Set.not_nonempty_iff_eq_empty, ← d, h2]; simp
  exact ⟨a, c, f h2, by rw [b, hg], hg⟩

/- From here on `gn_ens g` is only used through the three lemmas above; left reducible, the unifier unfolds it (and with it
   `update_generators`) whenever it compares a field of a state built from `(gn_ens g).1`. -/
attribute [irreducible] gn_ens

/-! ### `unconstrain(var)` -/

unseal gn_ens in
theorem gn_unconstrainVar_eq (g : Grid) (v : Nat) (hv : v < g.spaceDim) : unconstrainVar g v =
    if (gn_ens g).2 = false then { g := (gn_ens g).1 }
    else { g := (((gn_ens g).1.withGs ((gn_ens g).1.gs.sysInsert (gridLineVar v))).clearCongruencesUpToDate).clearGeneratorsMinimized } := by
  unfold unconstrainVar
  rw [if_neg (by omega)]
  show (if (!(gn_ens g).2) = true then _ else _) = _
  cases (gn_ens g).2 <;> rfl

/-- the line `grid_line(Variable(v))` resized to dimension `n` -/
theorem gn_lineVar_sem {v n : Nat} (hv : v < n) :
    ((gridLineVar v).setSpaceDim n).line = true ∧ ((gridLineVar v).setSpaceDim n).e.length = n + 2 ∧
      get ((gridLineVar v).setSpaceDim n).e 0 = 0 ∧ gn_vecOf ((gridLineVar v).setSpaceDim n) = (unit v).toFun := by
  obtain ⟨a, b, c, _, d⟩ := gn_setSpaceDim_sem (gn_gridLineVar_len v) (show v + 1 ≤ n by omega)
  refine ⟨by rw [a]; rfl, b, by rw [c, gn_gridLineVar_get]; simp, by rw [d, gn_gridLineVar_vecOf]⟩

/-- **`Grid::unconstrain(var)`**: the invariant is kept, nothing is thrown, the result is the cylinder over the grid in
    direction `var`; an empty grid stays empty (`g.sem = ∅` makes the right-hand side empty) -/
theorem gn_unconstrainVar (g : Grid) (hI : GridInv g) (v : Nat) (hv : v < g.spaceDim) :
    GridInv (unconstrainVar g v).g ∧ (unconstrainVar g v).thrown = false ∧
    (unconstrainVar g v).g.spaceDim = g.spaceDim ∧
    (unconstrainVar g v).g.sem = {y | ∃ x ∈ g.sem, ∃ c : ℚ, y = x + c • (unit v).toFun} := by
  have hn : 0 < g.spaceDim := by omega
  rw [gn_unconstrainVar_eq g v hv]
  cases h2 : (gn_ens g).2 with
  | false =>
    obtain ⟨a, b, _, d, e⟩ := gn_ens_false g hI hn h2
    rw [if_pos rfl]
    refine ⟨a, rfl, b, ?_⟩
    show (gn_ens g).1.sem = _
    rw [d, e]; ext y; simp
  | true =>
    obtain ⟨a, b, c, d, e, f, hw, hN, hs⟩ := gn_ens_true g hI hn h2
    rw [if_neg (by simp)]
    have hins : (gn_ens g).1.gs.sysInsert (gridLineVar v) =
        { dim := (gn_ens g).1.genDim, rows := (gn_ens g).1.gen ++ [(gridLineVar v).setSpaceDim g.spaceDim] } := by
      rw [gn_sysInsert _ _ (by
        show (gridLineVar v).spaceDim ≤ (gn_ens g).1.genDim
        rw [f, gn_spaceDim_of_len (gn_gridLineVar_len v)]; omega)]
      show GSys.mk (gn_ens g).1.genDim ((gn_ens g).1.gen ++ [(gridLineVar v).setSpaceDim (gn_ens g).1.genDim]) = _
      rw [f]
    rw [hins]
    obtain ⟨l1, l2, l3, l4⟩ := gn_lineVar_sem hv
    have hN' : GNorm g.spaceDim (firstPointDiv (gn_ens g).1.gen)
        ((gn_ens g).1.gen ++ [(gridLineVar v).setSpaceDim g.spaceDim]) := by
      refine gn_gnorm_append hN ?_ ?_ ?_
      · intro r hr hl; rw [List.mem_singleton.mp hr, l1] at hl; cases hl
      · intro r hr hl; rw [List.mem_singleton.mp hr, l1] at hl; cases hl
      · intro r hr _; rw [List.mem_singleton.mp hr]; exact l3
    have hw' : GWf g.spaceDim ((gn_ens g).1.gen ++ [(gridLineVar v).setSpaceDim g.spaceDim]) :=
      gn_gwf_append hw (fun r hr => by rw [List.mem_singleton.mp hr]; exact l2)
    have key := gn_inv_gens_at
      (g := ((((gn_ens g).1.withGs
          { dim := (gn_ens g).1.genDim, rows := (gn_ens g).1.gen ++ [(gridLineVar v).setSpaceDim g.spaceDim] }
          ).clearCongruencesUpToDate).clearGeneratorsMinimized))
      b hn c rfl d rfl rfl e f hw' (D := firstPointDiv (gn_ens g).1.gen) hN'
    refine ⟨key.1, rfl, b, ?_⟩
    rw [key.2]
    show gn_set ((gn_ens g).1.gen ++ [(gridLineVar v).setSpaceDim g.spaceDim]) = _
    rw [gn_set_append_line _ _ l1, l4, hs]

/-- the hypotheses are satisfiable: a one-dimensional grid held by its generators (the point 0), `v = 0` -/
example : GridInv
    { spaceDim := 1, st := { gUp := true }, conDim := 1, con := [], genDim := 1, gen := [⟨false, [1, 0, 0]⟩], dk := [] } ∧
    (0 : Nat) < 1 :=
  ⟨gn_inv_point1 1 0 (by decide), by decide⟩

/-! ### `unconstrain(vars)` -/

/-- the cylinder over `S` in the directions `vars` (one variable after the other) -/
def gn_cyl (S : Set Pt) (vars : List Nat) : Set Pt :=
  vars.foldl (fun S v => {y | ∃ x ∈ S, ∃ c : ℚ, y = x + c • (unit v).toFun}) S

theorem gn_cyl_empty : ∀ vars : List Nat, gn_cyl ∅ vars = ∅
  | [] => rfl
  | v :: vs => by
    show gn_cyl {y | ∃ x ∈ (∅ : Set Pt), ∃ c : ℚ, y = x + c • (unit v).toFun} vs = ∅
    have : {y | ∃ x ∈ (∅ : Set Pt), ∃ c : ℚ, y = x + c • (unit v).toFun} = (∅ : Set Pt) := by ext y; simp
    rw [this]; exact gn_cyl_empty vs

theorem gn_foldl_max_le {n : Nat} : ∀ (vars : List Nat) (m : Nat), m ≤ n → (∀ v ∈ vars, v < n) →
    vars.foldl (fun m v => max m (v + 1)) m ≤ n
  | [], m, hm, _ => hm
  | v :: vs, m, hm, h => by
    rw [List.foldl_cons]
    refine gn_foldl_max_le vs _ ?_ (fun w hw => h w (List.mem_cons_of_mem _ hw))
    have := h v (by simp); omega

theorem gn_foldl_lineVars {n : Nat} {D : Int} : ∀ (vars : List Nat) (rows : List GRow), (∀ v ∈ vars, v < n) →
    GWf n rows → GNorm n D rows →
    ∃ rows', vars.foldl (fun s v => s.sysInsert (gridLineVar v)) (GSys.mk n rows) = GSys.mk n rows' ∧
      GWf n rows' ∧ GNorm n D rows' ∧ gn_set rows' = gn_cyl (gn_set rows) vars
  | [], rows, _, hw, hN => ⟨rows, rfl, hw, hN, rfl⟩
  | v :: vs, rows, h, hw, hN => by
    have hv := h v (by simp)
    obtain ⟨l1, l2, l3, l4⟩ := gn_lineVar_sem hv
    have hN' : GNorm n D (rows ++ [(gridLineVar v).setSpaceDim n]) := by
      refine gn_gnorm_append hN ?_ ?_ ?_
      · intro r hr hl; rw [List.mem_singleton.mp hr, l1] at hl; cases hl
      · intro r hr hl; rw [List.mem_singleton.mp hr, l1] at hl; cases hl
      · intro r hr _; rw [List.mem_singleton.mp hr]; exact l3
    have hw' : GWf n (rows ++ [(gridLineVar v).setSpaceDim n]) :=
      gn_gwf_append hw (fun r hr => by rw [List.mem_singleton.mp hr]; exact l2)
    obtain ⟨rows', e, a, b, c⟩ := gn_foldl_lineVars vs _ (fun w hw => h w (List.mem_cons_of_mem _ hw)) hw' hN'
    refine ⟨rows', ?_, a, b, ?_⟩
    · rw [List.foldl_cons, gn_sysInsert _ _ (by
        show (gridLineVar v).spaceDim ≤ n
        rw [gn_spaceDim_of_len (gn_gridLineVar_len v)]; omega)]
      exact e
    · rw [c, gn_set_append_line _ _ l1, l4]; rfl

unseal gn_ens in
theorem gn_unconstrainSet_eq (g : Grid) (v0 : Nat) (vs : List Nat) (hv : ∀ v ∈ v0 :: vs, v < g.spaceDim) :
    unconstrainSet g (v0 :: vs) =
      if (gn_ens g).2 = false then { g := (gn_ens g).1 }
      else { g := (((gn_ens g).1.withGs ((v0 :: vs).foldl (fun s v => s.sysInsert (gridLineVar v))
              (gn_ens g).1.gs)).clearGeneratorsMinimized).clearCongruencesUpToDate } := by
  unfold unconstrainSet
  rw [if_neg (by simp), if_neg (by have := gn_foldl_max_le (v0 :: vs) 0 (Nat.zero_le _) hv; omega)]
  show (if (!(gn_ens g).2) = true then _ else _) = _
  cases (gn_ens g).2 <;> rfl

/-- **`Grid::unconstrain(vars)`** for variables of the space: the cylinder over the grid in the directions `vars` -/
theorem gn_unconstrainSet (g : Grid) (hI : GridInv g) (vars : List Nat)
    (hv : ∀ v ∈ vars, v < g.spaceDim) :
    GridInv (unconstrainSet g vars).g ∧ (unconstrainSet g vars).thrown = false ∧
    (unconstrainSet g vars).g.spaceDim = g.spaceDim ∧ (unconstrainSet g vars).g.sem = gn_cyl g.sem vars := by
  cases vars with
  | nil => exact ⟨hI, rfl, rfl, rfl⟩
  | cons v0 vs =>
  have hn : 0 < g.spaceDim := by have := hv v0 (by simp); omega
  rw [gn_unconstrainSet_eq g v0 vs hv]
  cases h2 : (gn_ens g).2 with
  | false =>
    obtain ⟨a, b, _, d, e'⟩ := gn_ens_false g hI hn h2
    rw [if_pos rfl]
    refine ⟨a, rfl, b, ?_⟩
    show (gn_ens g).1.sem = _
    rw [d, e', gn_cyl_empty]
  | true =>
    obtain ⟨a, b, c, d, e', f, hw, hN, hs⟩ := gn_ens_true g hI hn h2
    rw [if_neg (by simp)]
    obtain ⟨rows', e1, a1, b1, c1⟩ := gn_foldl_lineVars (v0 :: vs) _ hv hw hN
    have hgs : (gn_ens g).1.gs = GSys.mk g.spaceDim (gn_ens g).1.gen := by
      show GSys.mk (gn_ens g).1.genDim (gn_ens g).1.gen = _
      rw [f]
    rw [hgs, e1]
    have key := gn_inv_gens_at
      (g := ((((gn_ens g).1.withGs (GSys.mk g.spaceDim rows')).clearGeneratorsMinimized).clearCongruencesUpToDate))
      b hn c rfl d rfl rfl e' rfl a1 (D := firstPointDiv (gn_ens g).1.gen) b1
    refine ⟨key.1, rfl, b, ?_⟩
    rw [key.2]
    show gn_set rows' = _
    rw [c1, hs]

end PPLV.Lattice.GO

import PPLV.Lattice.ProofsRedGenInner
import PPLV.Lattice.ProofsRedGenRR

/-!
# The body of `for (dim = 0; dim < num_columns; ++dim)` of `Grid::simplify(Grid_Generator_System&)`
and the loop itself: the invariant `OInv`.
-/
namespace PPLV.Lattice.Red
open PPLV.Lattice

/-- the loop invariant before dimension `dim` -/
structure OInv (n numRows dim : Nat) (st : GSt) : Prop where
  len : st.rows.length = numRows
  wf : WfI n st.rows
  ple : st.pivotIndex ≤ numRows
  zero : ZeroPre st.pivotIndex dim st.rows
  tri : Tri st.dk st.rows dim st.pivotIndex
  dkl : st.dk.length = n + 1

/-- the non-virtual branch, with the intermediate values named -/
theorem dimBody_spec {n numRows dim ri p : Nat} {rows : List GRow} {dk : List Nat}
    (h : OInv n numRows dim { rows := rows, dk := dk, pivotIndex := p }) (hdim : dim ≤ n)
    (hpri : p ≤ ri) (hri : ri < numRows)
    (hzc : ∀ j, p ≤ j → j < ri → get (rowAt rows j).e dim = 0) (hnz : get (rowAt rows ri).e dim ≠ 0)
    (rows0 : List GRow) (r : List GRow × Bool)
    (hrows0 : rows0 = if ri ≠ p then swapRows rows ri p else rows)
    (hr : r = (List.range' (ri + 1) (numRows - 1 - ri)).foldl (simplifyGenInner dim p (n + 1))
      (rows0, (rowAt rows0 p).isLine)) :
    OInv n numRows (dim + 1)
      { rows := reduceReduced (negPivotG r.1 p dim n) dim p dim n (dk.set dim (if r.2 then LINE else PARAMETER)) true,
        dk := dk.set dim (if r.2 then LINE else PARAMETER), pivotIndex := p + 1 } ∧
    HomSim n rows
      (reduceReduced (negPivotG r.1 p dim n) dim p dim n (dk.set dim (if r.2 then LINE else PARAMETER)) true) := by
  have hlen : rows.length = numRows := h.len
  have hwf : WfI n rows := h.wf
  have hz : ZeroPre p dim rows := h.zero
  have htri : Tri dk rows dim p := h.tri
  have hdkl : dk.length = n + 1 := h.dkl
  have hril : ri < rows.length := by omega
  have hpl : p < rows.length := by omega
  -- step A: the swap
  have hA : rows0.length = numRows ∧ WfI n rows0 ∧ ZeroPre p dim rows0 ∧ get (rowAt rows0 p).e dim ≠ 0 ∧
      (∀ i, p < i → i < ri + 1 → get (rowAt rows0 i).e dim = 0) ∧ PreRel p dim rows rows0 ∧
      HomSim n rows rows0 := by
    by_cases e : ri = p
    · have : rows0 = rows := by rw [hrows0, if_neg (fun h => h e)]
      rw [this]
      refine ⟨hlen, hwf, hz, by rw [← e]; exact hnz, fun i h1 h2 => by omega, PreRel.refl _ _ _, HomSim.refl _ _⟩
    · have : rows0 = swapRows rows ri p := by rw [hrows0, if_pos e]
      rw [this]
      obtain ⟨s1, s2, s3, s4, s5, s6, s7⟩ := swap_spec (n := n) (dim := dim) hril hpl hpri hwf hz
      refine ⟨s1.trans hlen, s2, s3, by rw [s6]; exact hnz, ?_, ?_, HomSim.of_iff s7⟩
      · intro i h1 h2
        by_cases e2 : i = ri
        · rw [e2, s5]; exact hzc p (Nat.le_refl _) (by omega)
        · rw [s4 i e2 (by omega)]; exact hzc i (by omega) (by omega)
      · intro j hj
        rw [s4 j (by omega) (by omega)]
        exact ⟨rfl, fun _ _ => rfl⟩
  obtain ⟨a1, a2, a3, a4, a5, a6, a7⟩ := hA
  -- step B: the inner loop
  have hB0 : IInv n p dim numRows (ri + 1) (rows0, (rowAt rows0 p).isLine) := ⟨a1, a2, a3, a4, rfl, a5⟩
  obtain ⟨b1, b2, b3⟩ := inner_fold (D := dim) hdim (numRows - 1 - ri) (ri + 1) _ hB0 (by omega) (by omega)
  rw [← hr] at b1 b2 b3
  have hm : ri + 1 + (numRows - 1 - ri) = numRows := by omega
  rw [hm] at b1
  have b2' : PreRel p dim rows0 r.1 := b2
  have b3' : HomSim n rows0 r.1 := b3
  have c_len : r.1.length = numRows := b1.len
  have hp1 : p < r.1.length := by omega
  -- step C: the sign of the pivot
  obtain ⟨c1, c2, c3, c4, c5, c6, c7⟩ := negPivotG_spec hdim hp1 b1.wf b1.zero b1.pivNZ
  -- the kinds
  have hkd : kind (dk.set dim (if r.2 then LINE else PARAMETER)) dim = if r.2 then LINE else PARAMETER := by
    rw [kind_set, if_pos ⟨rfl, by omega⟩]
  have hklt : ∀ i, i < dim → kind (dk.set dim (if r.2 then LINE else PARAMETER)) i = kind dk i := by
    intro i hi; rw [kind_set, if_neg (fun h => by omega)]
  have hflag : r.2 = (rowAt r.1 p).line := b1.flag
  have hp2 : p < (negPivotG r.1 p dim n).length := by omega
  have htri2 : Tri (dk.set dim (if r.2 then LINE else PARAMETER)) (negPivotG r.1 p dim n) dim p := by
    refine Tri_dk _ _ hklt (Tri_congr _ _ (fun j hj => ?_) htri)
    rw [c4 j (by omega)]
    exact ⟨((b2' j hj).1).trans (a6 j hj).1, fun c hc => ((b2' j hj).2 c hc).trans ((a6 j hj).2 c hc)⟩
  -- step D: reduce_reduced
  have hD := reduceReduced_spec (dk := dk.set dim (if r.2 then LINE else PARAMETER)) hdim hp2 c2
    (c3 p (Nat.le_refl _) hp2)
    (by
      intro hk
      rw [hkd] at hk
      rw [c5, ← hflag]
      cases hh : r.2
      · rw [hh] at hk; exact absurd hk (by decide)
      · rfl) htri2
  refine ⟨⟨(hD.len.trans c1).trans c_len, hD.wf, by show p + 1 ≤ numRows; omega, ?_, ?_, ?_⟩, ?_⟩
  · -- the zero prefix for `dim + 1`
    intro i hpi hi c hc
    have hi' : i < numRows := by
      have : (reduceReduced (negPivotG r.1 p dim n) dim p dim n (dk.set dim (if r.2 then LINE else PARAMETER)) true).length
          = numRows := (hD.len.trans c1).trans c_len
      rw [← this]; exact hi
    have hpi' : p + 1 ≤ i := hpi
    dsimp only
    rw [hD.ge i (by omega), c4 i (by omega)]
    by_cases e : c = dim
    · rw [e]; exact b1.done i (by omega) hi'
    · exact b1.zero i (by omega) (by omega) c (by omega)
  · -- the triangular form
    show Tri _ _ (dim + 1) (p + 1)
    rw [Tri_real (by rw [hkd]; cases r.2 <;> decide)]
    refine ⟨by omega, ?_, ?_⟩
    · show TriRow _ _ dim p
      refine ⟨?_, ?_, ?_⟩
      · rw [hkd, hD.ge p (Nat.le_refl _), c5, ← hflag]
      · rw [hD.ge p (Nat.le_refl _)]; exact c6
      · intro c hc; rw [hD.ge p (Nat.le_refl _)]; exact c3 p (Nat.le_refl _) hp2 c hc
    · show Tri _ _ dim p
      refine Tri_congr _ _ (fun j hj => ⟨(hD.lt j hj).1, fun c hc => by rw [(hD.lt j hj).2 c hc]⟩) htri2
  · show (dk.set dim _).length = n + 1
    simp [hdkl]
  · exact ((a7.trans b3').trans (HomSim.of_iff c7)).trans (HomSim.of_iff hD.hom)

/-- one dimension -/
theorem dim_step {n numRows dim : Nat} {st : GSt} (h : OInv n numRows dim st) (hdim : dim ≤ n) :
    OInv n numRows (dim + 1) (simplifyGenDim (n + 1) numRows st dim) ∧
      HomSim n st.rows (simplifyGenDim (n + 1) numRows st dim).rows := by
  obtain ⟨rows, dk, p⟩ := st
  have hple : p ≤ numRows := h.ple
  obtain ⟨f1, f2, f3, f4⟩ := findNonZero_spec rows dim numRows (numRows - p) p (by omega)
  by_cases hv : findNonZero rows dim numRows (numRows - p) p = numRows
  · have e : simplifyGenDim (n + 1) numRows { rows := rows, dk := dk, pivotIndex := p } dim
        = { rows := rows, dk := dk.set dim GEN_VIRTUAL, pivotIndex := p } := by
      show (if findNonZero rows dim numRows (numRows - p) p = numRows then _ else _) = _
      rw [if_pos hv]
    rw [e]
    have hdkl : dk.length = n + 1 := h.dkl
    refine ⟨⟨h.len, h.wf, h.ple, ?_, ?_, by show (dk.set dim _).length = n + 1; simp [hdkl]⟩, HomSim.refl _ _⟩
    · intro i hpi hi c hc
      have hi2 : i < rows.length := hi
      have hpi2 : p ≤ i := hpi
      have hlen2 : rows.length = numRows := h.len
      have hi' : i < numRows := by omega
      by_cases e' : c = dim
      · rw [e']; exact f3 i hpi2 (by rw [hv]; exact hi')
      · exact h.zero i hpi2 hi2 c (by omega)
    · show Tri (dk.set dim GEN_VIRTUAL) rows (dim + 1) p
      rw [Tri_virt (by rw [kind_set, if_pos ⟨rfl, by omega⟩])]
      exact Tri_dk _ _ (fun i hi => by rw [kind_set, if_neg (fun h => by omega)]) h.tri
  · have hlt : findNonZero rows dim numRows (numRows - p) p < numRows := by omega
    unfold simplifyGenDim
    simp only []
    rw [if_neg hv]
    generalize findNonZero rows dim numRows (numRows - p) p = ri at f1 f3 f4 hlt ⊢
    exact dimBody_spec h hdim f1 hlt f3 (f4 hlt) _ _ rfl rfl

/-- the loop over the dimensions `d, …, d + len - 1` -/
theorem outer_fold {n numRows : Nat} : ∀ (len d : Nat) (st : GSt), OInv n numRows d st → d + len ≤ n + 1 →
    OInv n numRows (d + len) ((List.range' d len).foldl (simplifyGenDim (n + 1) numRows) st) ∧
    HomSim n st.rows ((List.range' d len).foldl (simplifyGenDim (n + 1) numRows) st).rows := by
  intro len
  induction len with
  | zero => intro d st h _; exact ⟨h, HomSim.refl _ _⟩
  | succ len ih =>
    intro d st h hd
    rw [List.range'_succ, List.foldl_cons]
    obtain ⟨h1, h2⟩ := dim_step h (by omega)
    obtain ⟨k1, k2⟩ := ih (d + 1) _ h1 (by omega)
    have : d + (len + 1) = d + 1 + len := by omega
    rw [this]
    exact ⟨k1, h2.trans k2⟩

end PPLV.Lattice.Red

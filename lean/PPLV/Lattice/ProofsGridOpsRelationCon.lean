import PPLV.Lattice.ProofsGridOpsRelationCg
import PPLV.Lattice.ProofsGridOpsAddCongruence
import Mathlib.Algebra.Order.Archimedean.Basic

/-!
# The `Grid` object: `relation_with(const Constraint&)`
-/
namespace PPLV.Lattice.GO
open PPLV.Lattice PPLV.Lattice.Red

/-! ## `Grid::relation_with(const Constraint&)` (Grid_public.cc:654, repaired code): the loop on a generator system with exactly one point (no row is rewritten) -/

theorem gn_sgnI_zero (z : Int) : sgnI z = 0 ↔ z = 0 := by
  unfold sgnI
  constructor
  · intro h; split_ifs at h <;> omega
  · intro h; subst h; rfl
theorem gn_sgnI_pos (z : Int) : sgnI z > 0 ↔ z > 0 := by
  unfold sgnI
  constructor
  · intro h; split_ifs at h <;> omega
  · intro h; rw [if_neg (by omega), if_neg (by omega)]; omega

/-- the rows after the point (or before it): no row is a point -/
theorem gn_relConLoop_nopt (c : Con) : ∀ (gs : List GRow) (st : RelConSt) (done : List GRow),
    (∀ g ∈ gs, g.isPoint = false) →
    relConLoop true c st done gs =
      if (gs.all fun g => sp c.e g.e == 0) = true then .inl (st, done ++ gs) else .inr (done ++ gs)
  | [], st, done, _ => by simp [relConLoop]
  | g :: gs, st, done, h => by
    have hg : g.isPoint = false := h g (by simp)
    unfold relConLoop
    rw [if_neg (by rw [hg]; simp)]
    simp only [hg, Bool.false_eq_true, if_false]
    by_cases hz : sp c.e g.e = 0
    · rw [if_neg (by rw [hz]; simp [sgnI]),
        gn_relConLoop_nopt c gs st (done ++ [g]) (fun g' hg' => h g' (List.mem_cons_of_mem _ hg'))]
      simp [hz]
    · rw [if_pos (by rw [Ne, gn_sgnI_zero]; exact hz)]
      simp [hz]

/-- the state after the first point -/
def gn_conSt (c : Con) (p : GRow) : RelConSt :=
  if sgnI (sp c.e p.e) = 0 then { pointSaturates := !c.isStrict, firstPoint := some p }
  else if sgnI (sp c.e p.e) > 0 then { pointIsIncluded := !c.isEquality, firstPoint := some p }
  else { firstPoint := some p }

/-- the loop on `A ++ p :: B`, `p` the only point -/
theorem gn_relConLoop_onept (c : Con) (p : GRow) (hp : p.isPoint = true) (B : List GRow)
    (hB : ∀ g ∈ B, g.isPoint = false) : ∀ (A done : List GRow), (∀ g ∈ A, g.isPoint = false) →
    relConLoop true c {} done (A ++ p :: B) =
      if ((A ++ B).all fun g => sp c.e g.e == 0) = true then .inl (gn_conSt c p, done ++ (A ++ p :: B))
      else .inr (done ++ (A ++ p :: B))
  | [], done, _ => by
    rw [List.nil_append, List.nil_append]
    unfold relConLoop
    rw [if_pos ⟨hp, rfl⟩]
    simp only [if_true]
    have e : (if sgnI (sp c.e p.e) = 0 then
          ({ ({} : RelConSt) with pointSaturates := !c.isStrict, firstPoint := some p } : RelConSt)
        else if sgnI (sp c.e p.e) > 0 then { ({} : RelConSt) with pointIsIncluded := !c.isEquality, firstPoint := some p }
        else { ({} : RelConSt) with firstPoint := some p }) = gn_conSt c p := rfl
    rw [e, gn_relConLoop_nopt c B _ _ hB]
    simp
  | g :: A, done, h => by
    have hg : g.isPoint = false := h g (by simp)
    rw [List.cons_append]
    unfold relConLoop
    rw [if_neg (by rw [hg]; simp)]
    simp only [hg, Bool.false_eq_true, if_false]
    by_cases hz : sp c.e g.e = 0
    · rw [if_neg (by rw [hz]; simp [sgnI]),
        gn_relConLoop_onept c p hp B hB A (done ++ [g]) (fun g' hg' => h g' (List.mem_cons_of_mem _ hg'))]
      simp [hz]
    · rw [if_pos (by rw [Ne, gn_sgnI_zero]; exact hz)]
      simp [hz]

/-- a list with exactly one element satisfying `q` -/
theorem gn_split_one {α : Type} (q : α → Bool) : ∀ l : List α, (l.filter q).length = 1 →
    ∃ A p B, l = A ++ p :: B ∧ q p = true ∧ (∀ a ∈ A, q a = false) ∧ (∀ b ∈ B, q b = false)
  | [], h => by simp at h
  | a :: l, h => by
    cases ha : q a with
    | true =>
      rw [List.filter_cons_of_pos ha] at h
      have hl : (l.filter q).length = 0 := by simpa using h
      have hnil : l.filter q = [] := List.length_eq_zero_iff.mp hl
      refine ⟨[], a, l, rfl, ha, fun _ h' => (by cases h'), fun b hb => ?_⟩
      cases hb' : q b with
      | false => rfl
      | true =>
        have : b ∈ l.filter q := List.mem_filter.mpr ⟨hb, hb'⟩
        rw [hnil] at this; cases this
    | false =>
      rw [List.filter_cons_of_neg (by rw [ha]; simp)] at h
      obtain ⟨A, p, B, e, hp, hA, hB⟩ := gn_split_one q l h
      refine ⟨a :: A, p, B, by rw [e]; rfl, hp, fun x hx => ?_, hB⟩
      rcases List.mem_cons.mp hx with rfl | hx
      · exact ha
      · exact hA x hx

/-- **the loop of `relation_with(const Constraint&)` on a system with exactly one point**: the rows are not touched; the
    answer is "strictly intersects" when some other row has a non-zero product, else the state fixed by the point -/
theorem gn_relConLoop_one (c : Con) (rows : List GRow) (h1 : (rows.filter gn_isPt).length = 1) :
    ∃ p ∈ rows, gn_isPt p = true ∧ (∀ r ∈ rows, gn_isPt r = true → r = p) ∧
      relConLoop true c {} [] rows =
        if (∀ r ∈ rows, gn_isPt r = false → sp c.e r.e = 0) then .inl (gn_conSt c p, rows) else .inr rows := by
  obtain ⟨A, p, B, e, hp, hA, hB⟩ := gn_split_one gn_isPt rows h1
  have hmem : ∀ r, r ∈ rows ↔ r ∈ A ∨ r = p ∨ r ∈ B := by
    intro r; rw [e]; simp
  refine ⟨p, (hmem p).mpr (Or.inr (Or.inl rfl)), hp, ?_, ?_⟩
  · intro r hr pr
    rcases (hmem r).mp hr with h | h | h
    · rw [hA r h] at pr; cases pr
    · exact h
    · rw [hB r h] at pr; cases pr
  · rw [e, gn_relConLoop_onept c p hp B hB A [] hA, List.nil_append, ← e]
    have hiff : ((A ++ B).all fun g => sp c.e g.e == 0) = true ↔ ∀ r ∈ rows, gn_isPt r = false → sp c.e r.e = 0 := by
      rw [List.all_eq_true]
      constructor
      · intro h r hr pr
        rcases (hmem r).mp hr with h' | h' | h'
        · simpa using h r (List.mem_append_left _ h')
        · rw [h', hp] at pr; cases pr
        · simpa using h r (List.mem_append_right _ h')
      · intro h r hr
        rcases List.mem_append.mp hr with h' | h'
        · simpa using h r ((hmem r).mpr (Or.inl h')) (hA r h')
        · simpa using h r ((hmem r).mpr (Or.inr (Or.inr h'))) (hB r h')
    by_cases hz : ∀ r ∈ rows, gn_isPt r = false → sp c.e r.e = 0
    · rw [if_pos (hiff.mpr hz), if_pos hz]
    · rw [if_neg (fun h => hz (hiff.mp h)), if_neg hz]

/-! ## `relation_with(const Constraint&)` for an inequality: the answers on a normalised generator system with exactly one point -/

/-- the congruence row that carries the expression of a constraint, resized to the space -/
def gn_conRow (c : Con) (n : Nat) : CRow := (CRow.mk c.e 0).setSpaceDim n

theorem gn_conRow_len (c : Con) (n : Nat) : (gn_conRow c n).e.length = n + 1 := length_resizeRow _ _

theorem gn_conVal {n : Nat} (D : Int) (c : Con) {x : Pt} (hx : Supp n x) :
    gn_cgVal D (gn_conRow c n) x = (D : ℚ) * evalRow c.e x := by
  unfold gn_cgVal
  rw [alphaOf_homog _ (by rw [gn_conRow_len]; omega), ← evalRow_eq]
  show (D : ℚ) * evalRow (resizeRow c.e (n + 1)) x = _
  rw [cn_evalRow_resize_supp c.e n x hx]

theorem gn_mem_conSet_ineq (c : Con) (hk : c.isEquality = false) (x : Pt) :
    x ∈ cn_conSet c ↔ if c.isStrict = true then 0 < evalRow c.e x else 0 ≤ evalRow c.e x := by
  have hk0 : c.kind ≠ 0 := by simpa [Con.isEquality] using hk
  show (if c.kind = 0 then _ else if c.kind = 2 then _ else _) ↔ _
  rw [if_neg hk0]
  by_cases h2 : c.kind = 2
  · have : c.isStrict = true := by simp [Con.isStrict, h2]
    rw [if_pos h2, if_pos this]
  · have : c.isStrict = false := by simp [Con.isStrict, h2]
    rw [if_neg h2, if_neg (by rw [this]; simp)]

section rows
variable {n : Nat} {D : Int} {rows : List GRow} (hN : GNorm n D rows) (hw : GWf n rows) (c : Con)
  (hd : c.e.length ≤ n + 1)
include hN hw hd

omit hN hw in
theorem gn_con_sp (r : GRow) : sp c.e r.e = dotRow (gn_conRow c n).e r.e n :=
  gn_sp_eq_dotRow (CRow.mk c.e 0) n hd r

/-- some row that is not a point has a non-zero product: the expression is unbounded on the grid in both directions -/
theorem gn_con_unbounded {r : GRow} (hr : r ∈ rows) (hnp : gn_isPt r = false) (h0 : sp c.e r.e ≠ 0) :
    (∃ x ∈ gn_set rows, 1 ≤ evalRow c.e x) ∧ (∃ y ∈ gn_set rows, evalRow c.e y ≤ -1) := by
  have hDpos : (0 : ℚ) < (D : ℚ) := by exact_mod_cast hN.pos
  have hDq : (D : ℚ) ≠ 0 := ne_of_gt hDpos
  obtain ⟨a, ha⟩ := gn_mem_nonempty (gn_wf_of_gnorm hN hw).pt
  have hs0 : dotRow (gn_conRow c n).e r.e n ≠ 0 := by rw [← gn_con_sp c hd]; exact h0
  have hval : ∀ x ∈ gn_set rows, gn_cgVal D (gn_conRow c n) x = (D : ℚ) * evalRow c.e x :=
    fun x hx => gn_conVal D c (gn_mem_supp hw hx)
  -- it suffices to reach values `≥ D` and `≤ -D`
  suffices h : (∃ x ∈ gn_set rows, (D : ℚ) ≤ gn_cgVal D (gn_conRow c n) x) ∧
      (∃ y ∈ gn_set rows, gn_cgVal D (gn_conRow c n) y ≤ -(D : ℚ)) by
    obtain ⟨⟨x, hx, h1⟩, ⟨y, hy, h2⟩⟩ := h
    rw [hval x hx] at h1; rw [hval y hy] at h2
    refine ⟨⟨x, hx, ?_⟩, ⟨y, hy, ?_⟩⟩
    · by_contra hc
      have := mul_lt_mul_of_pos_left (lt_of_not_ge hc) hDpos
      linarith only [h1, this]
    · by_contra hc
      have := mul_lt_mul_of_pos_left (lt_of_not_ge hc) hDpos
      linarith only [h2, this]
  cases hl : r.line with
  | true =>
    obtain ⟨x, hx, ex⟩ := (gn_mkRelCtx hN hw (gn_conRow c n) (gn_conRow_len c n)).line_any r hr hl hs0 a ha (D : ℚ)
    obtain ⟨y, hy, ey⟩ := (gn_mkRelCtx hN hw (gn_conRow c n) (gn_conRow_len c n)).line_any r hr hl hs0 a ha (-(D : ℚ))
    exact ⟨⟨x, hx, le_of_eq ex.symm⟩, ⟨y, hy, le_of_eq ey⟩⟩
  | false =>
    have hpar : gn_isPar r = true := by
      have : get r.e 0 = 0 := by
        by_contra hz
        have := (gn_isPt_iff r).mpr ⟨hl, hz⟩
        rw [hnp] at this; cases this
      exact (gn_isPar_iff r).mpr ⟨hl, this⟩
    obtain ⟨m, hm⟩ := exists_nat_gt (|gn_cgVal D (gn_conRow c n) a| + (D : ℚ))
    have hsq : (1 : ℚ) ≤ ((dotRow (gn_conRow c n).e r.e n : Int) : ℚ) * ((dotRow (gn_conRow c n).e r.e n : Int) : ℚ) := by
      have : (1 : Int) ≤ dotRow (gn_conRow c n).e r.e n * dotRow (gn_conRow c n).e r.e n := by
        have := mul_self_pos.mpr hs0
        omega
      exact_mod_cast this
    have hm0 : (0 : ℚ) ≤ (m : ℚ) := Nat.cast_nonneg m
    have habs1 := le_abs_self (gn_cgVal D (gn_conRow c n) a)
    have habs2 := neg_abs_le (gn_cgVal D (gn_conRow c n) a)
    obtain ⟨x, hx, ex⟩ := (gn_mkRelCtx hN hw (gn_conRow c n) (gn_conRow_len c n)).par_step r hr hpar a ha
      (dotRow (gn_conRow c n).e r.e n * (m : Int))
    obtain ⟨y, hy, ey⟩ := (gn_mkRelCtx hN hw (gn_conRow c n) (gn_conRow_len c n)).par_step r hr hpar a ha
      (-(dotRow (gn_conRow c n).e r.e n * (m : Int)))
    have key : (m : ℚ) ≤ ((dotRow (gn_conRow c n).e r.e n : Int) : ℚ) * (m : ℚ) *
        ((dotRow (gn_conRow c n).e r.e n : Int) : ℚ) := by
      have := mul_le_mul_of_nonneg_left hsq hm0
      linarith only [this]
    refine ⟨⟨x, hx, ?_⟩, ⟨y, hy, ?_⟩⟩
    · show (D : ℚ) ≤ gn_cgVal D (gn_conRow c n) x
      change gn_cgVal D (gn_conRow c n) x = gn_cgVal D (gn_conRow c n) a +
        ((dotRow (gn_conRow c n).e r.e n * (m : Int) : Int) : ℚ) * ((dotRow (gn_conRow c n).e r.e n : Int) : ℚ) at ex
      rw [ex]; push_cast
      linarith only [key, hm, habs2]
    · show gn_cgVal D (gn_conRow c n) y ≤ -(D : ℚ)
      change gn_cgVal D (gn_conRow c n) y = gn_cgVal D (gn_conRow c n) a +
        ((-(dotRow (gn_conRow c n).e r.e n * (m : Int)) : Int) : ℚ) * ((dotRow (gn_conRow c n).e r.e n : Int) : ℚ) at ey
      rw [ey]; push_cast
      linarith only [key, hm, habs1]

/-- every row that is not a point has product 0 and there is one point `p`: the expression is constant on the grid -/
theorem gn_con_const {p : GRow} (hp : p ∈ rows) (pp : gn_isPt p = true) (huniq : ∀ r ∈ rows, gn_isPt r = true → r = p)
    (hz : ∀ r ∈ rows, gn_isPt r = false → sp c.e r.e = 0) :
    ∀ x ∈ gn_set rows, (D : ℚ) * evalRow c.e x = ((sp c.e p.e : Int) : ℚ) := by
  intro x hx
  have hz' : ∀ r ∈ rows, gn_isPt r = false → dotRow (gn_conRow c n).e r.e n = 0 := fun r hr h => by
    rw [← gn_con_sp c hd]; exact hz r hr h
  obtain ⟨t, ht⟩ := (gn_mkRelCtx hN hw (gn_conRow c n) (gn_conRow_len c n)).ind 0 p hp pp
    (fun l hl h => hz' l hl (by simp [gn_isPt, h]))
    (fun q hq h => by
      have := hz' q hq (by have := (gn_isPar_iff q).mp h; simp [gn_isPt, this.2])
      show (0 : Int) ∣ dotRow (gn_conRow c n).e q.e n
      rw [this])
    (fun r hr h => by rw [huniq r hr h]; simp) x hx
  rw [← gn_conVal D c (gn_mem_supp hw hx), gn_con_sp c hd]
  change gn_cgVal D (gn_conRow c n) x = _ at ht
  rw [ht]; simp; rfl

end rows

/-! ## `Grid::relation_with(const Constraint&)` (repaired code) for an inequality on a grid whose generator system has exactly one point; for an equality through `relation_with(const Congruence&)` -/

/-- the decisions after the loop (Grid_public.cc:768) -/
def gn_conAnswer (st : RelConSt) : Rel :=
  if st.pointSaturates = true then { included := true, saturates := true }
  else if st.pointIsIncluded = true then { included := true } else { disjoint := true }

/-- what the answer says about the grid `S` and an inequality `c` -/
def gn_ConRelOK (rel : Rel) (S : Set Pt) (c : Con) : Prop :=
  gn_RelOK rel S (cn_conSet c) ∧ (rel.saturates = true → ∀ x ∈ S, evalRow c.e x = 0) ∧
  (c.isStrict = false → S.Nonempty → (∀ x ∈ S, evalRow c.e x = 0) → rel.saturates = true)

theorem gn_relCon_rows {n : Nat} {D : Int} {rows : List GRow} (hN : GNorm n D rows) (hw : GWf n rows) (c : Con)
    (hd : c.e.length ≤ n + 1) (hk : c.isEquality = false) (h1 : (rows.filter gn_isPt).length = 1) :
    ∃ rel, (relConLoop true c {} [] rows = .inr rows ∧ rel = Rel.si ∨
        ∃ st, relConLoop true c {} [] rows = .inl (st, rows) ∧ rel = gn_conAnswer st) ∧
      gn_ConRelOK rel (gn_set rows) c := by
  have hDpos : (0 : ℚ) < (D : ℚ) := by exact_mod_cast hN.pos
  obtain ⟨a0, ha0⟩ := gn_mem_nonempty (gn_wf_of_gnorm hN hw).pt
  have hne : (gn_set rows).Nonempty := ⟨a0, ha0⟩
  obtain ⟨p, hp, pp, huniq, eloop⟩ := gn_relConLoop_one c rows h1
  by_cases hz : ∀ r ∈ rows, gn_isPt r = false → sp c.e r.e = 0
  · rw [if_pos hz] at eloop
    have hconst := gn_con_const hN hw c hd hp pp huniq hz
    refine ⟨gn_conAnswer (gn_conSt c p), Or.inr ⟨_, eloop, rfl⟩, ?_⟩
    -- the sign of the expression on the grid is the sign of the product with the point
    have hsign : ∀ x ∈ gn_set rows, (0 < evalRow c.e x ↔ 0 < sp c.e p.e) ∧ (evalRow c.e x = 0 ↔ sp c.e p.e = 0) := by
      intro x hx
      have h := hconst x hx
      constructor
      · constructor
        · intro h'
          have : (0 : ℚ) < ((sp c.e p.e : Int) : ℚ) := by rw [← h]; exact mul_pos hDpos h'
          exact_mod_cast this
        · intro h'
          have h2 : (0 : ℚ) < ((sp c.e p.e : Int) : ℚ) := by exact_mod_cast h'
          rw [← h] at h2
          exact (mul_pos_iff_of_pos_left hDpos).mp h2
      · constructor
        · intro h'
          rw [h', mul_zero] at h
          exact_mod_cast h.symm
        · intro h'
          rw [h'] at h
          simp only [Int.cast_zero, mul_eq_zero] at h
          rcases h with h | h
          · exact absurd h (ne_of_gt hDpos)
          · exact h
    unfold gn_conSt
    by_cases hs0 : sp c.e p.e = 0
    · have e0 : ∀ x ∈ gn_set rows, evalRow c.e x = 0 := fun x hx => (hsign x hx).2.mpr hs0
      rw [if_pos ((gn_sgnI_zero _).mpr hs0)]
      cases hst : c.isStrict with
      | true =>
        have hdisj : gn_set rows ∩ cn_conSet c = ∅ := by
          ext x
          constructor
          · rintro ⟨hx, hc⟩
            rw [gn_mem_conSet_ineq c hk, if_pos hst, e0 x hx] at hc
            exact absurd hc (lt_irrefl 0)
          · intro h; cases h
        exact ⟨gn_relOK_disj hne hdisj, fun h => (by cases h), fun h => (by rw [hst] at h; cases h)⟩
      | false =>
        have hincl : gn_set rows ⊆ cn_conSet c := by
          intro x hx
          rw [gn_mem_conSet_ineq c hk, if_neg (by rw [hst]; simp), e0 x hx]
        exact ⟨gn_relOK_incl hne hincl true, fun _ => e0, fun _ _ _ => rfl⟩
    · rw [if_neg (by rw [gn_sgnI_zero]; exact hs0)]
      have hne0 : ∀ x ∈ gn_set rows, evalRow c.e x ≠ 0 := fun x hx h => hs0 ((hsign x hx).2.mp h)
      by_cases hsp : sp c.e p.e > 0
      · rw [if_pos ((gn_sgnI_pos _).mpr hsp)]
        have hincl : gn_set rows ⊆ cn_conSet c := by
          intro x hx
          have hpos := (hsign x hx).1.mpr hsp
          rw [gn_mem_conSet_ineq c hk]
          split_ifs
          · exact hpos
          · exact le_of_lt hpos
        have : (gn_conAnswer { pointIsIncluded := !c.isEquality, firstPoint := some p }) = { included := true } := by
          simp [gn_conAnswer, hk]
        rw [this]
        exact ⟨gn_relOK_incl hne hincl false, fun h => (by cases h), fun _ _ h => absurd (h a0 ha0) (hne0 a0 ha0)⟩
      · rw [if_neg (by rw [gn_sgnI_pos]; exact hsp)]
        have hdisj : gn_set rows ∩ cn_conSet c = ∅ := by
          ext x
          constructor
          · rintro ⟨hx, hc⟩
            exfalso
            rw [gn_mem_conSet_ineq c hk] at hc
            have hnpos : ¬ 0 < evalRow c.e x := fun h => hsp ((hsign x hx).1.mp h)
            split_ifs at hc
            · exact hnpos hc
            · exact hnpos (lt_of_le_of_ne hc (Ne.symm (hne0 x hx)))
          · intro h; cases h
        exact ⟨gn_relOK_disj hne hdisj, fun h => (by cases h), fun _ _ h => absurd (h a0 ha0) (hne0 a0 ha0)⟩
  · rw [if_neg hz] at eloop
    refine ⟨Rel.si, Or.inl ⟨eloop, rfl⟩, ?_⟩
    have : ∃ r ∈ rows, gn_isPt r = false ∧ sp c.e r.e ≠ 0 := by
      by_contra h
      apply hz
      intro r hr hnp
      by_contra h0
      exact h ⟨r, hr, hnp, h0⟩
    obtain ⟨r, hr, hnp, h0⟩ := this
    obtain ⟨⟨x, hx, h1x⟩, ⟨y, hy, h1y⟩⟩ := gn_con_unbounded hN hw c hd hr hnp h0
    have hin : (gn_set rows ∩ cn_conSet c).Nonempty := by
      refine ⟨x, hx, ?_⟩
      rw [gn_mem_conSet_ineq c hk]
      split_ifs <;> linarith
    have hout : ¬ gn_set rows ⊆ cn_conSet c := by
      intro hs
      have := hs hy
      rw [gn_mem_conSet_ineq c hk] at this
      split_ifs at this <;> linarith
    exact ⟨gn_relOK_si hin hout, fun h => (by cases h), fun _ _ h => by have := h x hx; linarith⟩

/-! ## `Grid::relation_with(const Constraint&)` (Grid_public.cc:654, repaired code), the object

For an inequality the theorem assumes that the generator system the loop runs over has exactly one point row: with
further points the code rewrites them into parameters in place (`pointToParameter`), which is the open finding
KF-C05-16.  An equality goes through `relation_with(const Congruence&)`.
-/

theorem gn_conRelOK_all3 (c : Con) : gn_ConRelOK Rel.all3 ∅ c :=
  ⟨gn_relOK_all3 _, fun _ x hx => absurd hx (Set.notMem_empty x), fun _ h => absurd h Set.not_nonempty_empty⟩

/-- an equality is handed to `relation_with(const Congruence&)` -/
theorem gn_relationWithCon_eq (g : Grid) (c : Con) (hd : c.spaceDim ≤ g.spaceDim) (hk : c.isEquality = true) :
    relationWithCon g c = relationWithCg g c.toCg := by
  unfold relationWithCon relationWithConV
  rw [if_neg (by omega), if_pos hk]

/-- **`relation_with(const Constraint&)` for an equality** -/
theorem gn_relationWithCon_equality (g : Grid) (hI : GridInv g) (c : Con) (hd : c.spaceDim ≤ g.spaceDim)
    (hk : c.isEquality = true) :
    GridInv (relationWithCon g c).1 ∧ (relationWithCon g c).1.sem = g.sem ∧
    (relationWithCon g c).1.spaceDim = g.spaceDim ∧
    ∃ rel, (relationWithCon g c).2 = some rel ∧ gn_RelOK rel g.sem (cn_conSet c) ∧
      (0 < g.spaceDim → g.sem.Nonempty → (rel.saturates = true ↔ rel.included = true)) := by
  rw [gn_relationWithCon_eq g c hd hk, ← cn_toCg_set c hk]
  obtain ⟨a, b, d, rel, e, ok, sat⟩ := gn_relationWithCg g hI c.toCg hd (le_refl _)
  refine ⟨a, b, d, rel, e, ok, fun h1 h2 => ?_⟩
  rw [sat h1 h2]
  exact ⟨fun h => h.1, fun h => ⟨h, rfl⟩⟩

/-- **`relation_with(const Constraint&)` for an inequality** in positive dimension, on a grid not marked empty whose
    generator system (after `update_generators()` if it was out of date) has exactly one point row: the invariant and
    the denotation are kept; `is_disjoint` ↔ no point of the grid satisfies the inequality, `is_included` ↔ all do,
    `strictly_intersects` ↔ neither; `saturates` only if the expression vanishes on the grid, and always then for a
    non-strict inequality on a non-empty grid -/
theorem gn_relationWithCon_ineq (g : Grid) (hI : GridInv g) (c : Con) (hd : c.spaceDim ≤ g.spaceDim)
    (hk : c.isEquality = false) (hn : 0 < g.spaceDim) (he : g.st.empty = false)
    (hone : (gn_incX g).2 = true → ((gn_incX g).1.gen.filter gn_isPt).length = 1) :
    GridInv (relationWithCon g c).1 ∧ (relationWithCon g c).1.sem = g.sem ∧
    (relationWithCon g c).1.spaceDim = g.spaceDim ∧
    ∃ rel, (relationWithCon g c).2 = some rel ∧ gn_ConRelOK rel g.sem c := by
  have hlen : c.e.length ≤ g.spaceDim + 1 := by unfold Con.spaceDim at hd; omega
  have hme : g.markedEmpty = false := he
  unfold relationWithCon relationWithConV
  rw [if_neg (by omega), if_neg (by rw [hk]; simp), hme, if_neg (by simp), if_neg (by omega)]
  simp only [show (if (!g.generatorsAreUpToDate) = true then updateGenerators g else (g, true)) = gn_incX g from rfl]
  obtain ⟨a, b, d, e, f⟩ := gn_incX_spec g hI he hn
  cases h2 : (gn_incX g).2 with
  | false =>
    simp only [Bool.not_false, if_true]
    refine ⟨a, b, d, Rel.all3, rfl, ?_⟩
    rw [f h2]; exact gn_conRelOK_all3 c
  | true =>
    simp only [Bool.not_true, Bool.false_eq_true, if_false]
    obtain ⟨g1, g2⟩ := e h2
    obtain ⟨_, q, r, s⟩ := gn_sem_of_gUp a (by rw [d]; exact hn) g1 g2
    rw [d] at q r
    obtain ⟨rel, hloop, ok⟩ := gn_relCon_rows r q c hlen hk (hone h2)
    rw [← b, s]
    rcases hloop with ⟨el, erel⟩ | ⟨st, el, erel⟩
    · rw [el]
      exact ⟨a, s, d, Rel.si, rfl, by rw [← erel]; exact ok⟩
    · rw [el]
      simp only []
      unfold gn_conAnswer at erel
      by_cases hs : st.pointSaturates = true
      · rw [if_pos hs] at erel ⊢
        exact ⟨a, s, d, _, rfl, by rw [← erel]; exact ok⟩
      · rw [if_neg hs] at erel ⊢
        by_cases hi : st.pointIsIncluded = true
        · rw [if_pos hi] at erel ⊢
          exact ⟨a, s, d, _, rfl, by rw [← erel]; exact ok⟩
        · rw [if_neg hi] at erel ⊢
          exact ⟨a, s, d, _, rfl, by rw [← erel]; exact ok⟩

/-- the same for a grid whose generators are up to date: the hypothesis is about `g.gen` itself -/
theorem gn_relationWithCon_ineq_gUp (g : Grid) (hI : GridInv g) (c : Con) (hd : c.spaceDim ≤ g.spaceDim)
    (hk : c.isEquality = false) (hn : 0 < g.spaceDim) (he : g.st.empty = false) (hg : g.st.gUp = true)
    (hone : (g.gen.filter gn_isPt).length = 1) :
    (relationWithCon g c).1 = g ∧ ∃ rel, (relationWithCon g c).2 = some rel ∧ gn_ConRelOK rel g.sem c := by
  have hX : gn_incX g = (g, true) := by
    unfold gn_incX
    have : g.generatorsAreUpToDate = true := hg
    rw [this]; rfl
  obtain ⟨_, _, _, rel, e, ok⟩ := gn_relationWithCon_ineq g hI c hd hk hn he (fun _ => by rw [hX]; exact hone)
  refine ⟨?_, rel, e, ok⟩
  have hlen : c.e.length ≤ g.spaceDim + 1 := by unfold Con.spaceDim at hd; omega
  have hme : g.markedEmpty = false := he
  obtain ⟨_, q, r, _⟩ := gn_sem_of_gUp hI hn he hg
  obtain ⟨rel', hloop, _⟩ := gn_relCon_rows r q c hlen hk hone
  unfold relationWithCon relationWithConV
  rw [if_neg (by omega), if_neg (by rw [hk]; simp), hme, if_neg (by simp), if_neg (by omega)]
  simp only [show (if (!g.generatorsAreUpToDate) = true then updateGenerators g else (g, true)) = gn_incX g from rfl, hX]
  rcases hloop with ⟨el, _⟩ | ⟨st, el, _⟩
  · simp [el]
  · simp only [Bool.not_true, Bool.false_eq_true, if_false, el]
    split_ifs <;> rfl

/-- the hypotheses are satisfiable: the grid `{0}` of the line (one point row) and `x ≥ 1` -/
example : ∃ (g : Grid) (c : Con), GridInv g ∧ c.spaceDim ≤ g.spaceDim ∧ c.isEquality = false ∧ 0 < g.spaceDim ∧
    g.st.empty = false ∧ g.st.gUp = true ∧ (g.gen.filter gn_isPt).length = 1 :=
  ⟨{ spaceDim := 1, st := { gUp := true }, conDim := 1, con := [], genDim := 1, gen := [⟨false, [1, 0, 0]⟩], dk := [] },
   { kind := 1, inconsistent := false, tautological := false, e := [-1, 1] },
   gn_inv_point1 1 0 (by decide),
   by decide, by decide, by decide, rfl, rfl, by decide⟩

end PPLV.Lattice.GO

import PPLV.Lattice.ProofsGridOpsState
import PPLV.Lattice.ProofsRedCgStepSol
import PPLV.Lattice.ProofsGridOpsGenSys
import PPLV.Lattice.ProofsConvCGTri
import PPLV.Lattice.ProofsConvGCTri

/-!
# The `Grid` object: constructors

Copy constructor and `operator=` (Grid_public.cc:38, :255), `construct(n, kind)`, `construct(cgs)`, `construct(ggs)`
(Grid_nonpublic.cc:51-179).  The universe of positive dimension is the origin followed by the unit lines, in triangular form on
both sides.
-/
namespace PPLV.Lattice.GO
open PPLV.Lattice PPLV.Lattice.Red

/-! ## The constructors, the copy constructor, `operator=` (Grid_nonpublic.cc:51-179, Grid_public.cc:38, :255) -/

/-! ### copying the up-to-date descriptions of an invariant state -/

/-! ### the copy constructor -/

theorem copyCtor_spec (y : Grid) (hI : GridInv y) :
    GridInv (copyCtor y) ∧ (copyCtor y).sem = y.sem ∧ (copyCtor y).spaceDim = y.spaceDim ∧ (copyCtor y).st = y.st := by
  cases he : y.st.empty
  swap
  · have hU : copyCtor y = setEmpty { spaceDim := y.spaceDim, st := y.st, conDim := 0, con := [], genDim := 0, gen := [], dk := y.dk } := by
      simp [copyCtor, Grid.markedEmpty, he]
    rw [hU]
    exact ⟨setEmpty_inv _, by rw [setEmpty_sem, sem_of_empty he], rfl, ((hI.emp he).1).symm⟩
  by_cases h0 : y.spaceDim = 0
  · have hU : copyCtor y = y := by
      simp [copyCtor, Grid.markedEmpty, he, h0]
      cases y; simp_all
    rw [hU]
    exact ⟨hI, rfl, rfl, rfl⟩
  have hpos : 0 < y.spaceDim := by omega
  have hf : (copyCtor y).st = y.st ∧ (copyCtor y).spaceDim = y.spaceDim ∧ (copyCtor y).dk = y.dk ∧
      (y.st.cUp = true → (copyCtor y).con = y.con ∧ (copyCtor y).conDim = y.conDim) ∧
      (y.st.gUp = true → (copyCtor y).gen = y.gen ∧ (copyCtor y).genDim = y.genDim) := by
    cases hc : y.st.cUp <;> cases hg : y.st.gUp <;>
      simp [copyCtor, Grid.markedEmpty, he, h0, Grid.congruencesAreUpToDate, Grid.generatorsAreUpToDate, hc, hg]
  obtain ⟨f1, f2, f3, f4, f5⟩ := hf
  obtain ⟨k1, k2, _⟩ := inv_transfer _ y hI he hpos f2 f1 f3 f4 f5
  exact ⟨k1, k2, f2, f1⟩

theorem copyCtor_inv (y : Grid) (hI : GridInv y) : GridInv (copyCtor y) := (copyCtor_spec y hI).1
theorem copyCtor_sem (y : Grid) (hI : GridInv y) : (copyCtor y).sem = y.sem := (copyCtor_spec y hI).2.1

/-! ### `operator=` (the target `x` is arbitrary) -/

theorem assign_spec (x y : Grid) (hI : GridInv y) :
    GridInv (assign x y) ∧ (assign x y).sem = y.sem ∧ (assign x y).spaceDim = y.spaceDim := by
  cases he : y.st.empty
  swap
  · have hU : assign x y = setEmpty { x with spaceDim := y.spaceDim, dk := y.dk } := by
      simp [assign, Grid.markedEmpty, he]
    rw [hU]
    exact ⟨setEmpty_inv _, by rw [setEmpty_sem, sem_of_empty he], rfl⟩
  by_cases h0 : y.spaceDim = 0
  · have hU : assign x y = setZeroDimUniv { x with spaceDim := y.spaceDim, dk := y.dk } := by
      simp [assign, Grid.markedEmpty, he, h0]
    rw [hU]
    exact ⟨setZeroDimUniv_inv _, by rw [setZeroDimUniv_sem, sem_of_zdim he h0], h0.symm⟩
  have hpos : 0 < y.spaceDim := by omega
  have hf : (assign x y).st = y.st ∧ (assign x y).spaceDim = y.spaceDim ∧ (assign x y).dk = y.dk ∧
      (y.st.cUp = true → (assign x y).con = y.con ∧ (assign x y).conDim = y.conDim) ∧
      (y.st.gUp = true → (assign x y).gen = y.gen ∧ (assign x y).genDim = y.genDim) := by
    cases hc : y.st.cUp <;> cases hg : y.st.gUp <;>
      simp [assign, Grid.markedEmpty, he, h0, Grid.congruencesAreUpToDate, Grid.generatorsAreUpToDate, hc, hg]
  obtain ⟨f1, f2, f3, f4, f5⟩ := hf
  exact inv_transfer _ y hI he hpos f2 f1 f3 f4 f5

theorem assign_inv (x y : Grid) (hI : GridInv y) : GridInv (assign x y) := (assign_spec x y hI).1
theorem assign_sem (x y : Grid) (hI : GridInv y) : (assign x y).sem = y.sem := (assign_spec x y hI).2.1

/-! ### `construct(num_dimensions, EMPTY)` and the 0-dimensional universe -/

theorem lz_constructDeg_empty (n : Nat) : constructDeg n false = setEmpty (blank n) := rfl

theorem lz_constructDeg_zdim : constructDeg 0 true = setZeroDimUniv (blank 0) := rfl

theorem constructDeg_empty_inv (n : Nat) : GridInv (constructDeg n false) := setEmpty_inv _
theorem constructDeg_empty_sem (n : Nat) : (constructDeg n false).sem = ∅ := setEmpty_sem _
theorem constructDeg_zdim_inv : GridInv (constructDeg 0 true) := setZeroDimUniv_inv _
theorem constructDeg_zdim_sem : (constructDeg 0 true).sem = {x | Supp 0 x} := setZeroDimUniv_sem _
theorem constructDeg_spaceDim (n : Nat) (u : Bool) : (constructDeg n u).spaceDim = n := by
  unfold constructDeg
  cases u
  · rfl
  · by_cases h : n = 0
    · subst h; rfl
    · simp [h, blank, Grid.setCongruencesMinimized, Grid.setGeneratorsMinimized]

/-! ### `construct(Congruence_System&)` -/

theorem lz_normalizeModuli_cwf {n : Nat} {rows : List CRow} (h : CWf n rows) : CWf n (normalizeModuli rows) := by
  have h2 := (normalizeModuli_spec n rows (RWf_of_CWf n rows h)).2.1
  intro r hr
  obtain ⟨i, hi, rfl⟩ := (gc_mem_iff_rowAt _ _).mp hr
  exact h2 i hi

theorem lz_normalizeModuli_consSet {n : Nat} {rows : List CRow} (h : CWf n rows) :
    consSet n (normalizeModuli rows) = consSet n rows := by
  ext x
  simp only [consSet, Set.mem_ofPred_eq]
  rw [cgsSem_iff, cgsSem_iff, normalizeModuli_sol n rows h x]

/-- positive dimension: the congruences (with normalised moduli) are the only description -/
theorem constructCgs_pos (cgs : CSys) (hw : CWf cgs.dim cgs.rows) (hpos : 0 < cgs.dim) :
    GridInv (constructCgs cgs) ∧ (constructCgs cgs).sem = consSet cgs.dim cgs.rows ∧
    (constructCgs cgs).spaceDim = cgs.dim ∧ (constructCgs cgs).st = { cUp := true } := by
  have hU : constructCgs cgs =
      ({ ({ blank cgs.dim with conDim := cgs.dim } : Grid) with conDim := cgs.dim, con := normalizeModuli cgs.rows }).setCongruencesUpToDate := by
    simp [constructCgs, hpos, CSys.normalizeModuli]
  rw [hU]
  have hI : GridInv (({ ({ blank cgs.dim with conDim := cgs.dim } : Grid) with conDim := cgs.dim, con := normalizeModuli cgs.rows }).setCongruencesUpToDate) := by
    refine inv_of_pos _ rfl hpos rfl (Or.inl rfl) (fun h => by simp [Grid.setCongruencesUpToDate, blank] at h)
      (fun h => by simp [Grid.setCongruencesUpToDate, blank] at h) (fun _ => ⟨rfl, lz_normalizeModuli_cwf hw⟩)
      (fun h => by simp [Grid.setCongruencesUpToDate, blank] at h)
      (fun _ h => by simp [Grid.setCongruencesUpToDate, blank] at h)
      (fun h => by simp [Grid.setCongruencesUpToDate, blank] at h)
      (fun h => by simp [Grid.setCongruencesUpToDate, blank] at h)
      (fun h => by simp [Grid.setCongruencesUpToDate, blank] at h)
      (fun h => by simp [Grid.setCongruencesUpToDate, blank] at h)
  refine ⟨hI, ?_, rfl, rfl⟩
  rw [sem_of_not_gUp (g := _) rfl hpos rfl]
  exact lz_normalizeModuli_consSet hw

/-- dimension 0: marked empty exactly when some congruence is inconsistent, else the 0-dimensional universe -/
theorem constructCgs_zdim (cgs : CSys) (h0 : cgs.dim = 0) :
    GridInv (constructCgs cgs) ∧ (constructCgs cgs).spaceDim = 0 ∧
    (cgs.rows.any (·.isInconsistent) = true → (constructCgs cgs).sem = ∅) ∧
    (cgs.rows.any (·.isInconsistent) = false → (constructCgs cgs).sem = {x | Supp 0 x}) := by
  cases ha : cgs.rows.any (·.isInconsistent)
  · have hU : constructCgs cgs = setZeroDimUniv ({ blank cgs.dim with conDim := cgs.dim } : Grid) := by
      simp only [constructCgs, h0, ha]; simp
    rw [hU]
    exact ⟨setZeroDimUniv_inv _, rfl, fun h => by simp at h, fun _ => setZeroDimUniv_sem _⟩
  · have hU : constructCgs cgs = setEmpty (blank 0) := by
      simp only [constructCgs, h0, ha]
      rw [if_neg (Nat.lt_irrefl 0)]
      rfl
    rw [hU]
    exact ⟨setEmpty_inv _, rfl, fun _ => setEmpty_sem _, fun h => by simp at h⟩

theorem constructCgs_inv (cgs : CSys) (hw : CWf cgs.dim cgs.rows) : GridInv (constructCgs cgs) := by
  by_cases h0 : cgs.dim = 0
  · exact (constructCgs_zdim cgs h0).1
  · exact (constructCgs_pos cgs hw (by omega)).1

/-- `x ≡ 0 (mod 2)`, `y ≡ 0 (mod 3)`: the moduli become 6 -/
example : CWf 2 [⟨[0, 1, 0], 2⟩, ⟨[0, 0, 1], 3⟩] ∧
    (constructCgs ⟨2, [⟨[0, 1, 0], 2⟩, ⟨[0, 0, 1], 3⟩]⟩).con = [⟨[0, 3, 0], 6⟩, ⟨[0, 0, 2], 6⟩] := by
  refine ⟨?_, by decide +kernel⟩
  intro r hr
  simp only [List.mem_cons, List.not_mem_nil, or_false] at hr
  rcases hr with rfl | rfl <;> exact ⟨rfl, by decide⟩

/-! ### `construct(Grid_Generator_System&)` -/

/-- `none` (`throw_invalid_generators`) exactly when there are rows but no point -/
theorem constructGgs_none_iff (ggs : GSys) :
    constructGgs ggs = none ↔ (ggs.rows ≠ [] ∧ ggs.hasPoints = false) := by
  unfold constructGgs
  cases hr : ggs.rows with
  | nil => simp
  | cons a l =>
    cases hp : ggs.hasPoints
    · simp
    · simp only [List.isEmpty_cons, Bool.false_eq_true, if_false, Bool.not_true]
      by_cases h0 : ggs.dim = 0 <;> simp [h0]

/-- no rows: the empty grid -/
theorem constructGgs_nil (ggs : GSys) (h : ggs.rows = []) :
    ∃ r, constructGgs ggs = some r ∧ GridInv r ∧ r.sem = ∅ ∧ r.spaceDim = ggs.dim := by
  have hcs : (CSys.mk ggs.dim []).insert zeroDimFalse = falseCSys ggs.dim := by
    unfold falseCSys
    rw [single_zeroDimFalse]
    simp only [CSys.insert, CSys.insertVerbatim, CSys.setSpaceDim, CRow.spaceDim]
    have e : zeroDimFalse.strongNormalize = ⟨[1], 0⟩ := by decide
    rw [e]
    by_cases h0 : ggs.dim = 0
    · simp [h0]
    · have : ¬ ([1] : Row).length - 1 ≥ ggs.dim := by simp; omega
      simp [h0, Ne.symm h0]
  refine ⟨setEmpty (blank ggs.dim), ?_, setEmpty_inv _, setEmpty_sem _, rfl⟩
  simp only [constructGgs, h, List.isEmpty_nil, if_true, hcs]
  rfl

/-- dimension 0 with a point: the 0-dimensional universe -/
theorem constructGgs_zdim (ggs : GSys) (hr : ggs.rows ≠ []) (hp : ggs.hasPoints = true) (h0 : ggs.dim = 0) :
    ∃ r, constructGgs ggs = some r ∧ GridInv r ∧ r.sem = {x | Supp 0 x} ∧ r.spaceDim = 0 := by
  refine ⟨setZeroDimUniv ({ blank ggs.dim with conDim := ggs.dim } : Grid), ?_, setZeroDimUniv_inv _,
    setZeroDimUniv_sem _, rfl⟩
  cases hrows : ggs.rows with
  | nil => exact absurd hrows hr
  | cons a l => simp [constructGgs, hrows, hp, h0]

/-- positive dimension with a point: the generators with normalised divisors are the only description.  The facts
    about `normalize_divisors(sys)` (`gn_normalizeDivisors1` in `ProofsGridOpsGenSet`: for a well-formed system with a point
    the output is `GWf` and `GNorm`) are taken as the hypothesis `hnd`. -/
theorem constructGgs_pos (ggs : GSys) (hr : ggs.rows ≠ []) (hp : ggs.hasPoints = true) (hpos : 0 < ggs.dim)
    (hnd : GWf ggs.dim (normalizeDivisors1 ggs).rows ∧
      GNorm ggs.dim (firstPointDiv (normalizeDivisors1 ggs).rows) (normalizeDivisors1 ggs).rows) :
    ∃ r, constructGgs ggs = some r ∧ GridInv r ∧ r.sem = gensSet ggs.dim (normalizeDivisors1 ggs).rows ∧
      r.spaceDim = ggs.dim ∧ r.st = { gUp := true } := by
  have h0 : ggs.dim ≠ 0 := by omega
  refine ⟨(({ ({ blank ggs.dim with conDim := ggs.dim } : Grid) with
      genDim := (normalizeDivisors1 ggs).dim, gen := (normalizeDivisors1 ggs).rows }).setGeneratorsUpToDate), ?_, ?_, ?_, rfl, rfl⟩
  · cases hrows : ggs.rows with
    | nil => exact absurd hrows hr
    | cons a l => simp [constructGgs, hrows, hp, h0]
  · refine inv_of_pos _ rfl hpos rfl (Or.inr rfl) (fun h => by simp [Grid.setGeneratorsUpToDate, blank] at h)
      (fun h => by simp [Grid.setGeneratorsUpToDate, blank] at h)
      (fun h => by simp [Grid.setGeneratorsUpToDate, blank] at h) (fun _ => ⟨rfl, hnd.1, hnd.2⟩)
      (fun h => by simp [Grid.setGeneratorsUpToDate, blank] at h)
      (fun h => by simp [Grid.setGeneratorsUpToDate, blank] at h)
      (fun h => by simp [Grid.setGeneratorsUpToDate, blank] at h)
      (fun h => by simp [Grid.setGeneratorsUpToDate, blank] at h)
      (fun h => by simp [Grid.setGeneratorsUpToDate, blank] at h)
  · exact sem_of_gUp (g := _) rfl hpos rfl

/-- points `1/2` and `1/3`: the common divisor becomes 6 -/
example : (constructGgs ⟨1, [⟨false, [2, 1, 0]⟩, ⟨false, [3, 1, 0]⟩]⟩).map (·.gen)
    = some [⟨false, [6, 3, 0]⟩, ⟨false, [6, 2, 0]⟩] := by decide +kernel

/-! ## `construct(num_dimensions, UNIVERSE)` in positive dimension (Grid_nonpublic.cc:51)

The generator system built by `insert(grid_point())`, `insert(grid_line(Variable(d)))` is the origin followed by the
`n` unit lines; with `dim_kinds = [PROPER_CONGRUENCE, CON_VIRTUAL, …]` and the single congruence `1 ≡ 0 (mod 1)` both
descriptions are in triangular form and denote the whole space.
-/

/-- the row `q` of the universe generator system: the point for `q = 0`, the line of variable `q - 1` else -/
def lz_UnitRow (n q : Nat) (r : GRow) : Prop :=
  r.line = decide (q ≠ 0) ∧ r.e.length = n + 2 ∧ ∀ i, get r.e i = if i = q then 1 else 0

theorem lz_get_gridPoint0 (i : Nat) : get gridPoint0.e i = if i = 0 then 1 else 0 := by
  match i with
  | 0 => rfl
  | 1 => rfl
  | i + 2 => simp [gridPoint0, Red.get]

theorem lz_get_gridLineVar (d i : Nat) : get (gridLineVar d).e i = if i = d + 1 then 1 else 0 := by
  unfold gridLineVar
  simp only [get_set, List.length_replicate, get_replicate_zero]
  by_cases h : i = d + 1
  · rw [if_pos ⟨h, by omega⟩, if_pos h]
  · rw [if_neg (fun hh => h hh.1), if_neg h]

/-- a unit row keeps its entries under `set_space_dimension(n)` to a dimension that is not smaller -/
theorem lz_unit_setSpaceDim {r : GRow} {m n q : Nat} (hl : r.e.length = m + 2) (hmn : m ≤ n) (hq : q ≤ m)
    (hr : ∀ i, get r.e i = if i = q then 1 else 0) :
    (r.setSpaceDim n).e.length = n + 2 ∧ ∀ i, get (r.setSpaceDim n).e i = if i = q then 1 else 0 := by
  rcases Nat.eq_or_lt_of_le hmn with e | hlt
  · subst e; rw [gn_setSpaceDim_id hl]; exact ⟨hl, hr⟩
  · refine ⟨gn_length_setSpaceDim_pad hl hlt, fun i => ?_⟩
    rw [gn_get_setSpaceDim_pad hl hlt, hr, hr]
    by_cases hi : i ≤ m
    · rw [if_pos hi]
    · rw [if_neg hi, if_neg (by omega : ¬ m + 1 = q), ite_self, if_neg (by omega)]

theorem lz_point_unit (n : Nat) : lz_UnitRow n 0 (gridPoint0.setSpaceDim n) :=
  ⟨gn_line_setSpaceDim _ _, lz_unit_setSpaceDim (m := 0) rfl (Nat.zero_le n) (Nat.le_refl 0) lz_get_gridPoint0⟩

theorem lz_line_unit (n d : Nat) (hd : d < n) : lz_UnitRow n (d + 1) ((gridLineVar d).setSpaceDim n) :=
  ⟨gn_line_setSpaceDim _ _,
   lz_unit_setSpaceDim (m := d + 1) (by simp [gridLineVar]) hd (Nat.le_refl _) (lz_get_gridLineVar d)⟩

/-- the generator system of the universe -/
def lz_univRows (n : Nat) : List GRow :=
  gridPoint0.setSpaceDim n :: (List.range n).map fun d => (gridLineVar d).setSpaceDim n

theorem lz_univ_fold (n : Nat) (_hn : 0 < n) : ∀ k, k ≤ n →
    (List.range k).foldl (fun s d => s.insert (gridLineVar d)) ((GSys.mk n []).insert gridPoint0) =
      ⟨n, gridPoint0.setSpaceDim n :: (List.range k).map fun d => (gridLineVar d).setSpaceDim n⟩ := by
  intro k
  induction k with
  | zero =>
    intro _
    have h1 : gridPoint0.isParameter = false := rfl
    have h2 : gridPoint0.spaceDim = 0 := rfl
    simp [GSys.insert, GSys.sysInsert, h1, h2]
  | succ k ih =>
    intro hk
    rw [List.range_succ, List.foldl_append, ih (by omega)]
    have h1 : (gridLineVar k).isParameter = false := by simp [GRow.isParameter, gridLineVar]
    have h2 : (gridLineVar k).spaceDim = k + 1 := by simp [GRow.spaceDim, gridLineVar]
    have h3 : ¬ n < k + 1 := by omega
    simp [GSys.insert, GSys.sysInsert, h1, h2, h3]

/-- the state `Grid(n, UNIVERSE)` builds -/
def lz_univGrid (n : Nat) : Grid :=
  Grid.mk n { cUp := true, cMin := true, gUp := true, gMin := true } n [{ e := 1 :: List.replicate n 0, m := 1 }] n
    (lz_univRows n) (PROPER_CONGRUENCE :: List.replicate n CON_VIRTUAL)

theorem lz_constructDeg_univ (n : Nat) (hn : 0 < n) : constructDeg n true = lz_univGrid n := by
  have h0 : n ≠ 0 := by omega
  simp only [constructDeg, Bool.not_true, Bool.false_eq_true, if_false, h0, lz_univ_fold n hn n (le_refl n)]
  rfl

theorem lz_univRows_length (n : Nat) : (lz_univRows n).length = n + 1 := by simp [lz_univRows]

theorem lz_univRows_unit (n q : Nat) (hq : q < n + 1) : lz_UnitRow n q (rowAt (lz_univRows n) q) := by
  cases q with
  | zero => exact lz_point_unit n
  | succ d =>
    have hd : d < n := by omega
    have : rowAt (lz_univRows n) (d + 1) = (gridLineVar d).setSpaceDim n := by
      simp [rowAt, lz_univRows, hd]
    rw [this]; exact lz_line_unit n d hd

theorem lz_univRows_mem (n : Nat) (r : GRow) (hr : r ∈ lz_univRows n) : ∃ q, q < n + 1 ∧ lz_UnitRow n q r := by
  obtain ⟨i, hi, rfl⟩ := (gc_mem_iff_rowAt _ _).mp hr
  rw [lz_univRows_length] at hi
  exact ⟨i, hi, lz_univRows_unit n i hi⟩

theorem lz_univ_kind (n d : Nat) : kind (PROPER_CONGRUENCE :: List.replicate n CON_VIRTUAL) d =
    if d = 0 then 0 else if d < n + 1 then 1 else 0 := by
  cases d with
  | zero => rfl
  | succ d =>
    simp only [kind, List.getD_cons_succ, Nat.succ_ne_zero, if_false]
    by_cases h : d < n
    · simp [h, CON_VIRTUAL]
    · simp [h]

theorem lz_univ_gwf (n : Nat) : GWf n (lz_univRows n) := by
  intro r hr
  obtain ⟨q, _, hu⟩ := lz_univRows_mem n r hr
  exact hu.2.1

theorem lz_univ_gnorm (n : Nat) : GNorm n 1 (lz_univRows n) where
  pos := by decide
  pt := ⟨_, List.mem_cons_self, (lz_point_unit n).1, by rw [(lz_point_unit n).2.2]; rfl⟩
  col0 := by
    intro r hr _
    obtain ⟨q, _, hu⟩ := lz_univRows_mem n r hr
    rw [hu.2.2]; by_cases h : 0 = q <;> simp [h]
  par := by
    intro r hr hl h0
    obtain ⟨q, _, hu⟩ := lz_univRows_mem n r hr
    have hq : q = 0 := by
      have := hu.1; rw [hl] at this; simpa using this
    subst hq
    rw [hu.2.2] at h0; simp at h0
  lin := by
    intro r hr hl
    obtain ⟨q, _, hu⟩ := lz_univRows_mem n r hr
    have hq : q ≠ 0 := by
      have := hu.1; rw [hl] at this; simpa using this
    rw [hu.2.2, if_neg (Ne.symm hq)]

theorem lz_univ_nv (n : Nat) : ∀ q, q ≤ n + 1 → nv (PROPER_CONGRUENCE :: List.replicate n CON_VIRTUAL) q = q := by
  intro q
  induction q with
  | zero => intro _; rfl
  | succ q ih =>
    intro hq
    have hb : nvB (PROPER_CONGRUENCE :: List.replicate n CON_VIRTUAL) q = true := by
      rw [nvB_iff, lz_univ_kind]
      split_ifs <;> decide
    show cntBelow _ (q + 1) = q + 1
    rw [cntBelow_succ_pos _ _ hb]
    have := ih (by omega)
    simp only [nv] at this
    omega

theorem lz_univ_upperTriangular (n : Nat) :
    upperTriangular n (lz_univRows n) (PROPER_CONGRUENCE :: List.replicate n CON_VIRTUAL) = true := by
  refine cg_upperTriangular_of_rows n _ _ ?_ (fun q hq _ => ?_)
  · rw [lz_univRows_length, lz_univ_nv n (n + 1) (le_refl _)]
  · rw [lz_univ_nv n q (by omega)]
    have hu := lz_univRows_unit n q hq
    refine ⟨by rw [hu.2.2, if_pos rfl]; decide, fun k hk => ?_⟩
    rw [hu.2.2, if_neg (by omega)]

theorem lz_univ_lowerTriangular (n : Nat) :
    lowerTriangular n [{ e := 1 :: List.replicate n 0, m := 1 }] (PROPER_CONGRUENCE :: List.replicate n CON_VIRTUAL) = true := by
  rw [gc_lowerTriangular_eq]
  have hle : ¬ ([{ e := 1 :: List.replicate n 0, m := 1 }] : List CRow).length > n + 1 := by simp
  rw [if_neg hle]
  have key := foldl_dimsDown_inv (gcLtStep n [{ e := 1 :: List.replicate n 0, m := 1 }] (PROPER_CONGRUENCE :: List.replicate n CON_VIRTUAL))
    (fun d st => st = if d = 0 then (1, true) else (0, true)) (n + 1) (0, true) (by simp) ?_
  · simp only [if_true] at key
    simp [key]
  · intro d st hd hst
    rw [if_neg (by omega)] at hst
    subst hst
    unfold gcLtStep
    rw [lz_univ_kind]
    by_cases h0 : d = 0
    · subst h0
      have ha : allZeroes (1 :: List.replicate n 0) (0 + 1) (n + 1) = true := by
        rw [allZeroes_iff]
        intro i h1 _
        cases i with
        | zero => omega
        | succ i => rw [get_cons_succ, get_replicate_zero]
      simp [CON_VIRTUAL, rowAt, get_cons_zero, ha]
    · simp [h0, CON_VIRTUAL]; omega

/-- the universe congruence system has every point of the space as a solution -/
theorem lz_univ_consSet (n : Nat) : consSet n [{ e := 1 :: List.replicate n 0, m := 1 }] = {x | Supp n x} := by
  ext x
  simp only [consSet, Set.mem_ofPred_eq]
  rw [cgsSem_iff]
  refine ⟨fun h => h.1, fun h => ⟨h, fun i hi => ?_⟩⟩
  have hi0 : i = 0 := by simpa using hi
  subst hi0
  refine ⟨1, ?_⟩
  have hc : evalRow (1 :: List.replicate n 0) x = ((get (1 :: List.replicate n 0) 0 : Int) : ℚ) := by
    refine evalRow_const _ x (fun i hi => ?_)
    cases i with
    | zero => omega
    | succ i => rw [get_cons_succ, get_replicate_zero]
  show evalRow (1 :: List.replicate n 0) x = ((1 : Int) : ℚ) * ((1 : Int) : ℚ)
  rw [hc, get_cons_zero]; norm_num

/-- every vector that vanishes at `0` and beyond `k ≤ n` is a combination of the unit lines -/
theorem lz_univ_hom_lines (n : Nat) : ∀ k, k ≤ n → ∀ v : Pt, v 0 = 0 → (∀ i, k < i → v i = 0) →
    Hom n (lz_univRows n) v := by
  intro k
  induction k with
  | zero =>
    intro _ v h0 hz
    have : v = 0 := by
      funext i
      cases i with
      | zero => exact h0
      | succ i => exact hz _ (by omega)
    rw [this]; exact hom_zero _ _
  | succ k ih =>
    intro hk v h0 hz
    have hu := lz_univRows_unit n (k + 1) (by omega)
    have hline : (rowAt (lz_univRows n) (k + 1)).line = true := by rw [hu.1]; simp
    have hmem := hom_line (n := n) (rows := lz_univRows n) (i := k + 1) (by rw [lz_univRows_length]; omega) hline (v (k + 1))
    have hrest := ih (by omega) (fun i => if i = k + 1 then 0 else v i) (by simp [h0]) (fun i hi => by
      by_cases h : i = k + 1
      · simp [h]
      · simp only [h, if_false]; exact hz i (by omega))
    have hsum : v = (fun i => if i = k + 1 then 0 else v i) + v (k + 1) • hv n (rowAt (lz_univRows n) (k + 1)) := by
      funext i
      simp only [Pi.add_apply, Pi.smul_apply, smul_eq_mul, hv_apply, hu.2.2]
      by_cases h : i = k + 1
      · subst h
        have : k + 1 ≤ n := hk
        simp [this]
      · simp [h]
    rw [hsum]; exact hom_add hrest hmem

theorem lz_univ_gensSet (n : Nat) : gensSet n (lz_univRows n) = {x | Supp n x} := by
  rw [gensSet_eq (lz_univ_gnorm n)]
  ext x
  simp only [Set.mem_ofPred_eq]
  constructor
  · intro h i hi
    have := hom_supp h (i + 1) (by omega)
    simpa [homog] using this
  · intro hx
    have hu := lz_univRows_unit n 0 (by omega)
    have hpt : (rowAt (lz_univRows n) 0).line = false := by rw [hu.1]; simp
    have h1 := hom_pc (n := n) (rows := lz_univRows n) (i := 0) (by rw [lz_univRows_length]; omega) hpt
    have h2 := lz_univ_hom_lines n n (le_refl n) (homog ((1 : Int) : ℚ) x - hv n (rowAt (lz_univRows n) 0))
      (by simp [homog, hv_apply, hu.2.2])
      (fun i hi => by
        cases i with
        | zero => omega
        | succ i =>
          have : ¬ i + 1 ≤ n := by omega
          simp [homog, hv_apply, this, hx i (by omega)])
    have := hom_add h1 h2
    simpa using this

/-- **`Grid(n, UNIVERSE)`**, `n > 0`: the invariant holds, the grid is the whole space, every flag is set -/
theorem constructDeg_univ_spec (n : Nat) (hn : 0 < n) :
    GridInv (constructDeg n true) ∧ (constructDeg n true).sem = {x | Supp n x} ∧
    (constructDeg n true).st = { cUp := true, cMin := true, gUp := true, gMin := true } := by
  rw [lz_constructDeg_univ n hn]
  have hI : GridInv (lz_univGrid n) := by
    refine inv_of_both _ rfl hn rfl rfl rfl rfl ?_ rfl (lz_univ_gwf n) (lz_univ_gnorm n) ?_
      (by simp [lz_univGrid]) (lz_univ_lowerTriangular n) (lz_univ_upperTriangular n) rfl
    · intro r hr
      have hr' : r = { e := 1 :: List.replicate n 0, m := 1 } := by simpa [lz_univGrid] using hr
      subst hr'
      exact ⟨by simp [lz_univGrid], by show (0 : Int) ≤ 1; decide⟩
    · show consSet n [{ e := 1 :: List.replicate n 0, m := 1 }] = gensSet n (lz_univRows n)
      rw [lz_univ_consSet, lz_univ_gensSet n]
  refine ⟨hI, ?_, rfl⟩
  rw [sem_of_gUp (g := _) rfl hn rfl]
  exact lz_univ_gensSet n

theorem constructDeg_inv (n : Nat) (u : Bool) : GridInv (constructDeg n u) := by
  cases u
  · exact constructDeg_empty_inv n
  · by_cases h : n = 0
    · subst h; exact constructDeg_zdim_inv
    · exact (constructDeg_univ_spec n (by omega)).1

theorem constructDeg_sem (n : Nat) (u : Bool) :
    (constructDeg n u).sem = if u then {x | Supp n x} else ∅ := by
  cases u
  · exact constructDeg_empty_sem n
  · by_cases h : n = 0
    · subst h; exact constructDeg_zdim_sem
    · exact (constructDeg_univ_spec n (by omega)).2.1

example : (constructDeg 2 true).gen = [⟨false, [1, 0, 0, 0]⟩, ⟨true, [0, 1, 0, 0]⟩, ⟨true, [0, 0, 1, 0]⟩] ∧
    invB (constructDeg 2 true) = true := by decide +kernel

end PPLV.Lattice.GO

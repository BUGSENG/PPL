import PPLV.Lattice.ProofsGridOpsRelationGen
import Mathlib.Data.Int.GCD

/-!
# The `Grid` object: `relation_with(const Congruence&)`

The gcd bookkeeping of the loop over the generators (Grid_public.cc:390), as an invariant relating the running values to the
values of the congruence on the grid generated so far.
-/
namespace PPLV.Lattice.GO
open PPLV.Lattice PPLV.Lattice.Red

/-! ## `Grid::relation_with(const Congruence&)`: the abstract setting of the loop

The loop over the generators only sees the integers `spf g` (the scalar product of the congruence with the generator) and
the modulus `M` (`modulus × divisor`).  `gn_RelCtx` collects what the grid `S` and the value function `val`
(`D ×` the value of the congruence's expression) have to do with these integers; `R s` says that from every point of the
grid one reaches a point whose value differs by any multiple of `s`, modulo `M`.
-/

structure gn_RelCtx where
  S : Set Pt
  val : Pt → ℚ
  M : Int
  rows : List GRow
  spf : GRow → Int
  pt_mem : ∀ p ∈ rows, gn_isPt p = true → gn_vecOf p ∈ S ∧ val (gn_vecOf p) = (spf p : ℚ)
  par_step : ∀ q ∈ rows, gn_isPar q = true → ∀ a ∈ S, ∀ k : Int, ∃ a' ∈ S, val a' = val a + (k : ℚ) * (spf q : ℚ)
  pt_step : ∀ p ∈ rows, gn_isPt p = true → ∀ p' ∈ rows, gn_isPt p' = true → ∀ a ∈ S, ∀ k : Int,
    ∃ a' ∈ S, val a' = val a + (k : ℚ) * ((spf p : ℚ) - (spf p' : ℚ))
  line_any : ∀ l ∈ rows, l.line = true → spf l ≠ 0 → ∀ a ∈ S, ∀ w : ℚ, ∃ a' ∈ S, val a' = w
  /-- the values on the grid, when the lines are neutral and the other rows agree with the point `p0` modulo `d` -/
  ind : ∀ (d : Int) (p0 : GRow), p0 ∈ rows → gn_isPt p0 = true → (∀ l ∈ rows, l.line = true → spf l = 0) →
    (∀ q ∈ rows, gn_isPar q = true → d ∣ spf q) → (∀ p ∈ rows, gn_isPt p = true → d ∣ spf p - spf p0) →
    ∀ x ∈ S, ∃ t : Int, val x = (spf p0 : ℚ) + (t : ℚ) * (d : ℚ)

namespace gn_RelCtx
variable (C : gn_RelCtx)

/-- from every point one reaches the values shifted by multiples of `s`, modulo `M` -/
def R (s : Int) : Prop := ∀ a ∈ C.S, ∀ k : Int, ∃ a' ∈ C.S, ∃ t : Int, C.val a' = C.val a + (k : ℚ) * (s : ℚ) + (t : ℚ) * (C.M : ℚ)
/-- some point of the grid satisfies the congruence -/
def In : Prop := ∃ x ∈ C.S, ∃ t : Int, C.val x = (t : ℚ) * (C.M : ℚ)
/-- some point of the grid does not -/
def Out : Prop := ∃ y ∈ C.S, ¬ ∃ t : Int, C.val y = (t : ℚ) * (C.M : ℚ)

theorem R_M : C.R C.M := fun a ha k => ⟨a, ha, -k, by push_cast; ring⟩

theorem R_add {s1 s2 : Int} (h1 : C.R s1) (h2 : C.R s2) : C.R (s1 + s2) := by
  intro a ha k
  obtain ⟨a1, ha1, t1, e1⟩ := h1 a ha k
  obtain ⟨a2, ha2, t2, e2⟩ := h2 a1 ha1 k
  exact ⟨a2, ha2, t1 + t2, by rw [e2, e1]; push_cast; ring⟩

theorem R_mul {s : Int} (j : Int) (h : C.R s) : C.R (s * j) := by
  intro a ha k
  obtain ⟨a1, ha1, t1, e1⟩ := h a ha (k * j)
  exact ⟨a1, ha1, t1, by rw [e1]; push_cast; ring⟩

theorem R_of_dvd {d s : Int} (h : C.R d) (hd : d ∣ s) : C.R s := by
  obtain ⟨j, rfl⟩ := hd; exact C.R_mul j h

theorem R_sub {s1 s2 : Int} (h1 : C.R s1) (h2 : C.R s2) : C.R (s1 - s2) := by
  have := C.R_add h1 (C.R_mul (-1) h2)
  have e : s1 + s2 * -1 = s1 - s2 := by ring
  rwa [e] at this

theorem R_gcd {a b : Int} (ha : C.R a) (hb : C.R b) : C.R (gcdI a b) := by
  unfold gcdI
  rw [Int.gcd_eq_gcd_ab]
  exact C.R_add (C.R_mul _ ha) (C.R_mul _ hb)

theorem R_of_par {q : GRow} (hq : q ∈ C.rows) (hp : gn_isPar q = true) : C.R (C.spf q) := by
  intro a ha k
  obtain ⟨a', ha', e⟩ := C.par_step q hq hp a ha k
  exact ⟨a', ha', 0, by rw [e]; push_cast; ring⟩

theorem R_of_pts {p p' : GRow} (hp : p ∈ C.rows) (h1 : gn_isPt p = true) (hp' : p' ∈ C.rows) (h2 : gn_isPt p' = true) :
    C.R (C.spf p - C.spf p') := by
  intro a ha k
  obtain ⟨a', ha', e⟩ := C.pt_step p hp h1 p' hp' h2 a ha k
  exact ⟨a', ha', 0, by rw [e]; push_cast; ring⟩

theorem cast_dvd_iff (s : Int) : (∃ t : Int, (s : ℚ) = (t : ℚ) * (C.M : ℚ)) ↔ C.M ∣ s := by
  constructor
  · rintro ⟨t, ht⟩; exact ⟨t, by rw [mul_comm]; exact_mod_cast ht⟩
  · rintro ⟨t, rfl⟩; exact ⟨t, by push_cast; ring⟩

/-- a point whose product is a multiple of a reachable `d` -/
theorem in_of_R {d : Int} (h : C.R d) {p : GRow} (hp : p ∈ C.rows) (h1 : gn_isPt p = true) (hd : d ∣ C.spf p) : C.In := by
  obtain ⟨j, hj⟩ := hd
  obtain ⟨hm, hv⟩ := C.pt_mem p hp h1
  obtain ⟨a', ha', t, e⟩ := h _ hm (-j)
  exact ⟨a', ha', t, by rw [e, hv, hj]; push_cast; ring⟩

theorem in_of_pt {p : GRow} (hp : p ∈ C.rows) (h1 : gn_isPt p = true) (hd : C.M ∣ C.spf p) : C.In :=
  C.in_of_R C.R_M hp h1 hd

theorem out_of_pt {p : GRow} (hp : p ∈ C.rows) (h1 : gn_isPt p = true) (hd : ¬ C.M ∣ C.spf p) : C.Out := by
  obtain ⟨hm, hv⟩ := C.pt_mem p hp h1
  refine ⟨_, hm, fun h => hd ?_⟩
  rw [hv] at h
  exact (C.cast_dvd_iff _).mp h

theorem out_of_in_par (h : C.In) {q : GRow} (hq : q ∈ C.rows) (hp : gn_isPar q = true) (hd : ¬ C.M ∣ C.spf q) : C.Out := by
  obtain ⟨x, hx, t, ht⟩ := h
  obtain ⟨a', ha', e⟩ := C.par_step q hq hp x hx 1
  refine ⟨a', ha', fun h' => hd ?_⟩
  obtain ⟨t', ht'⟩ := h'
  refine (C.cast_dvd_iff _).mp ⟨t' - t, ?_⟩
  rw [e, ht] at ht'
  push_cast at ht' ⊢
  linear_combination ht'

theorem in_out_of_line (hne : C.S.Nonempty) {l : GRow} (hl : l ∈ C.rows) (h1 : l.line = true) (h0 : C.spf l ≠ 0) :
    C.In ∧ C.Out := by
  obtain ⟨a, ha⟩ := hne
  constructor
  · obtain ⟨a', ha', e⟩ := C.line_any l hl h1 h0 a ha 0
    exact ⟨a', ha', 0, by rw [e]; simp⟩
  · by_cases hM : C.M = 0
    · obtain ⟨a', ha', e⟩ := C.line_any l hl h1 h0 a ha 1
      refine ⟨a', ha', ?_⟩
      rintro ⟨t, ht⟩
      rw [e, hM] at ht; simp at ht
    · obtain ⟨a', ha', e⟩ := C.line_any l hl h1 h0 a ha ((C.M : ℚ) / 2)
      refine ⟨a', ha', ?_⟩
      rintro ⟨t, ht⟩
      rw [e] at ht
      have hMq : (C.M : ℚ) ≠ 0 := by exact_mod_cast hM
      have h3 : (C.M : ℚ) * (1 - 2 * (t : ℚ)) = 0 := by linear_combination 2 * ht
      rcases mul_eq_zero.mp h3 with q | q
      · exact hMq q
      · have h2 : (2 : ℚ) * (t : ℚ) = 1 := by linarith
        have h4 : (2 : Int) * t = 1 := by exact_mod_cast h2
        omega

end gn_RelCtx

/-! ### the reduction `sp %= div` of a proper congruence -/

def gn_red (proper : Bool) (s d : Int) : Int := if proper = true then Int.tmod s d else s

theorem gn_red_dvd_sub (pr : Bool) (s d : Int) : d ∣ s - gn_red pr s d := by
  unfold gn_red
  cases pr with
  | false => simp
  | true =>
    rw [if_pos rfl]
    exact ⟨s.tdiv d, by rw [Int.tmod_def]; ring⟩

theorem gn_red_zero {pr : Bool} {s d : Int} (h : gn_red pr s d = 0) : d ∣ s := by
  have := gn_red_dvd_sub pr s d
  rw [h, sub_zero] at this; exact this

theorem gn_red_ne {pr : Bool} {s d M : Int} (h : gn_red pr s d ≠ 0) (hd : d ∣ M) (hpr : pr = false → M = 0) : ¬ M ∣ s := by
  intro hM
  apply h
  unfold gn_red
  cases pr with
  | false =>
    rw [hpr rfl] at hM
    simpa using zero_dvd_iff.mp hM
  | true =>
    rw [if_pos rfl]
    exact Int.tmod_eq_zero_of_dvd (dvd_trans hd hM)

theorem gn_red_red (pr : Bool) (s d : Int) (h : Int.tmod (gn_red pr s d) d = 0) : d ∣ s := by
  have h1 := Int.dvd_of_tmod_eq_zero h
  have h2 := gn_red_dvd_sub pr s d
  have := dvd_add h2 h1
  simpa using this

/-! ## `relation_with(const Congruence&)`: the loop invariant; the body of the loop on a line and on a parameter -/

/-- the invariant of the loop of Grid_public.cc:390 after the rows `pre`: `div` divides `M`, is reachable, divides the
    products of the parameters seen; the lines seen have product 0; and one of three situations: no point seen yet /
    every row seen satisfies the congruence / the first point `p0` fails, `pointSp ≡ spf p0 (mod div)`, `div ∤ pointSp`,
    all points seen are congruent to `p0` modulo `div` -/
structure gn_RInv (C : gn_RelCtx) (st : RelSt) (pre : List GRow) : Prop where
  dvdM : st.div ∣ C.M
  reach : C.R st.div
  lines : ∀ r ∈ pre, r.line = true → C.spf r = 0
  pars : ∀ r ∈ pre, gn_isPar r = true → st.div ∣ C.spf r
  kind :
    (st.pointSp = 0 ∧ st.knownToIntersect = false ∧ (∀ r ∈ pre, gn_isPt r = false) ∧
       (st.parameterFails = false → st.div = C.M) ∧
       (st.parameterFails = true → ∃ q ∈ pre, gn_isPar q = true ∧ ¬ C.M ∣ C.spf q)) ∨
    (st.pointSp = 0 ∧ st.knownToIntersect = true ∧ st.parameterFails = false ∧ st.div = C.M ∧
       (∃ p ∈ pre, gn_isPt p = true) ∧ ∀ r ∈ pre, gn_isPt r = true → C.M ∣ C.spf r) ∨
    (st.pointSp ≠ 0 ∧ st.knownToIntersect = false ∧ ∃ p0 ∈ pre, gn_isPt p0 = true ∧
       st.div ∣ C.spf p0 - st.pointSp ∧ ¬ st.div ∣ st.pointSp ∧
       ∀ r ∈ pre, gn_isPt r = true → st.div ∣ C.spf r - C.spf p0)

/-- what one pass through the body must establish -/
def gn_StepOK (C : gn_RelCtx) (pre : List GRow) (r : GRow) : RelSt ⊕ Rel → Prop
  | .inl st' => gn_RInv C st' (pre ++ [r])
  | .inr rel => rel = Rel.si ∧ C.In ∧ C.Out

theorem gn_forall_snoc {α : Type} {P : α → Prop} {pre : List α} {r : α} (h : ∀ x ∈ pre, P x) (hr : P r) :
    ∀ x ∈ pre ++ [r], P x := by
  intro x hx
  rcases List.mem_append.mp hx with hx | hx
  · exact h x hx
  · rw [List.mem_singleton.mp hx]; exact hr

theorem gn_exists_snoc {α : Type} {P : α → Prop} {pre : List α} (r : α) (h : ∃ x ∈ pre, P x) :
    ∃ x ∈ pre ++ [r], P x := by
  obtain ⟨x, hx, p⟩ := h; exact ⟨x, List.mem_append_left _ hx, p⟩

/-- a row that is not a point and keeps the state -/
theorem gn_rinv_snoc_same {C : gn_RelCtx} {st : RelSt} {pre : List GRow} {r : GRow} (hI : gn_RInv C st pre)
    (hnp : gn_isPt r = false) (hl : r.line = true → C.spf r = 0) (hp : gn_isPar r = true → st.div ∣ C.spf r) :
    gn_RInv C st (pre ++ [r]) := by
  refine ⟨hI.dvdM, hI.reach, gn_forall_snoc hI.lines hl, gn_forall_snoc hI.pars hp, ?_⟩
  rcases hI.kind with ⟨a, b, c, d, e⟩ | ⟨a, b, c, d, e, f⟩ | ⟨a, b, p0, hp0, c, d, e, f⟩
  · exact Or.inl ⟨a, b, gn_forall_snoc c hnp, d, fun h => gn_exists_snoc r (e h)⟩
  · exact Or.inr (Or.inl ⟨a, b, c, d, gn_exists_snoc r e, gn_forall_snoc f (fun h => by rw [hnp] at h; cases h)⟩)
  · exact Or.inr (Or.inr ⟨a, b, p0, List.mem_append_left _ hp0, c, d, e,
      gn_forall_snoc f (fun h => by rw [hnp] at h; cases h)⟩)

/-! ### the body on a line -/

theorem gn_relCgStep_line (cg : CRow) (st : RelSt) (r : GRow) (hl : r.line = true) :
    relCgStep cg st r = if sp cg.e r.e = 0 then .inl st else .inr Rel.si := by
  unfold relCgStep
  simp only [hl, if_true]

theorem gn_step_line (C : gn_RelCtx) (hne : C.S.Nonempty) (cg : CRow) (st : RelSt) (pre : List GRow) (r : GRow)
    (hr : r ∈ C.rows) (hsp : sp cg.e r.e = C.spf r) (hl : r.line = true) (hI : gn_RInv C st pre) :
    gn_StepOK C pre r (relCgStep cg st r) := by
  rw [gn_relCgStep_line cg st r hl, hsp]
  by_cases h0 : C.spf r = 0
  · rw [if_pos h0]
    exact gn_rinv_snoc_same hI (by simp [gn_isPt, hl]) (fun _ => h0) (fun h => by simp [gn_isPar, hl] at h)
  · rw [if_neg h0]
    exact ⟨rfl, C.in_out_of_line hne hr hl h0⟩

/-! ### the body on a parameter -/

theorem gn_relCgStep_par (cg : CRow) (st : RelSt) (r : GRow) (hl : r.line = false) (hp : r.isPoint = false) :
    relCgStep cg st r =
      if gn_red cg.isProperCongruence (sp cg.e r.e) st.div = 0 then .inl st
      else if st.knownToIntersect = true then .inr Rel.si
      else if st.pointSp ≠ 0 ∧
          Int.tmod st.pointSp (gcdI st.div (gn_red cg.isProperCongruence (sp cg.e r.e) st.div)) = 0 then .inr Rel.si
      else .inl { st with parameterFails := true,
                          div := gcdI st.div (gn_red cg.isProperCongruence (sp cg.e r.e) st.div) } := by
  unfold relCgStep gn_red
  simp only [hl, hp, Bool.false_eq_true, if_false]

/-- the first failing point of the `K2` situation is outside the congruence -/
theorem gn_out_of_p0 (C : gn_RelCtx) {st : RelSt} (hd : st.div ∣ C.M) {p0 : GRow} (hp0 : p0 ∈ C.rows)
    (h1 : gn_isPt p0 = true) (c : st.div ∣ C.spf p0 - st.pointSp) (d : ¬ st.div ∣ st.pointSp) : C.Out := by
  refine C.out_of_pt hp0 h1 fun hM => d ?_
  have := dvd_sub (dvd_trans hd hM) c
  simpa using this

theorem gn_step_par (C : gn_RelCtx) (cg : CRow) (hpr : cg.isProperCongruence = false → C.M = 0) (st : RelSt)
    (pre : List GRow) (hpre : ∀ r' ∈ pre, r' ∈ C.rows) (r : GRow) (hr : r ∈ C.rows) (hsp : sp cg.e r.e = C.spf r)
    (hl : r.line = false) (hp : r.isPoint = false) (hI : gn_RInv C st pre) :
    gn_StepOK C pre r (relCgStep cg st r) := by
  have hpar : gn_isPar r = true := by
    have : get r.e 0 = 0 := by simpa [GRow.isPoint, hl] using hp
    exact (gn_isPar_iff r).mpr ⟨hl, this⟩
  have hnp : gn_isPt r = false := hp
  rw [gn_relCgStep_par cg st r hl hp, hsp]
  have hsub := gn_red_dvd_sub cg.isProperCongruence (C.spf r) st.div
  by_cases h1 : gn_red cg.isProperCongruence (C.spf r) st.div = 0
  · rw [if_pos h1]
    exact gn_rinv_snoc_same hI hnp (fun h => by rw [hl] at h; cases h) (fun _ => gn_red_zero h1)
  · rw [if_neg h1]
    have hnM : ¬ C.M ∣ C.spf r := gn_red_ne h1 hI.dvdM hpr
    generalize hs1 : gn_red cg.isProperCongruence (C.spf r) st.div = s1 at h1 hsub ⊢
    have hRs1 : C.R s1 := by
      have := C.R_sub (C.R_of_par hr hpar) (C.R_of_dvd hI.reach hsub)
      simpa using this
    have hRd : C.R (gcdI st.div s1) := C.R_gcd hI.reach hRs1
    have hd1 : (gcdI st.div s1) ∣ st.div := Int.gcd_dvd_left _ _
    have hd2 : (gcdI st.div s1) ∣ s1 := Int.gcd_dvd_right _ _
    have hd3 : (gcdI st.div s1) ∣ C.spf r := by
      have := dvd_add (dvd_trans hd1 hsub) hd2
      simpa using this
    by_cases hk : st.knownToIntersect = true
    · rw [if_pos hk]
      rcases hI.kind with ⟨_, b, _⟩ | ⟨_, _, _, _, ⟨p, hp', pp⟩, f⟩ | ⟨_, b, _⟩
      · rw [hk] at b; cases b
      · have hin := C.in_of_pt (hpre p hp') pp (f p hp' pp)
        exact ⟨rfl, hin, C.out_of_in_par hin hr hpar hnM⟩
      · rw [hk] at b; cases b
    · rw [if_neg hk]
      by_cases hc : st.pointSp ≠ 0 ∧ Int.tmod st.pointSp (gcdI st.div s1) = 0
      · rw [if_pos hc]
        rcases hI.kind with ⟨a, _⟩ | ⟨a, _⟩ | ⟨_, _, p0, hp0, pp, c, d, _⟩
        · exact absurd a hc.1
        · exact absurd a hc.1
        · have hdp : gcdI st.div s1 ∣ C.spf p0 := by
            have := dvd_add (dvd_trans hd1 c) (Int.dvd_of_tmod_eq_zero hc.2)
            simpa using this
          exact ⟨rfl, C.in_of_R hRd (hpre p0 hp0) pp hdp, gn_out_of_p0 C hI.dvdM (hpre p0 hp0) pp c d⟩
      · rw [if_neg hc]
        show gn_RInv C _ (pre ++ [r])
        refine ⟨dvd_trans hd1 hI.dvdM, hRd, gn_forall_snoc hI.lines (fun h => by rw [hl] at h; cases h),
          gn_forall_snoc (fun q hq pq => dvd_trans hd1 (hI.pars q hq pq)) (fun _ => hd3), ?_⟩
        rcases hI.kind with ⟨a, b, c, _, _⟩ | ⟨_, b, _⟩ | ⟨a, b, p0, hp0, pp, c, d, f⟩
        · exact Or.inl ⟨a, b, gn_forall_snoc c hnp, fun h => (by cases h),
            fun _ => ⟨r, List.mem_append_right _ (List.mem_singleton.mpr rfl), hpar, hnM⟩⟩
        · exact absurd b hk
        · refine Or.inr (Or.inr ⟨a, b, p0, List.mem_append_left _ hp0, pp, dvd_trans hd1 c, ?_, ?_⟩)
          · intro hdv
            exact hc ⟨a, Int.tmod_eq_zero_of_dvd hdv⟩
          · exact gn_forall_snoc (fun q hq pq => dvd_trans hd1 (f q hq pq)) (fun h => by rw [hnp] at h; cases h)

/-! ## `relation_with(const Congruence&)`: the body of the loop on a point, the loop -/

theorem gn_relCgStep_pt (cg : CRow) (st : RelSt) (r : GRow) (hl : r.line = false) (hp : r.isPoint = true) :
    relCgStep cg st r =
      if gn_red cg.isProperCongruence (sp cg.e r.e) st.div = 0 then
        if st.pointSp = 0 then
          if st.parameterFails = true then .inr Rel.si else .inl { st with knownToIntersect := true }
        else .inr Rel.si
      else if st.pointSp = 0 then
        if st.knownToIntersect = true then .inr Rel.si
        else if st.div ≠ 0 ∧ Int.tmod (gn_red cg.isProperCongruence (sp cg.e r.e) st.div) st.div = 0 then .inr Rel.si
        else .inl { st with pointSp := gn_red cg.isProperCongruence (sp cg.e r.e) st.div }
      else
        if gn_red cg.isProperCongruence (sp cg.e r.e) st.div - st.pointSp ≠ 0 then
          if Int.tmod st.pointSp (gcdI st.div (gn_red cg.isProperCongruence (sp cg.e r.e) st.div - st.pointSp)) = 0 then
            .inr Rel.si
          else .inl { st with div := gcdI st.div (gn_red cg.isProperCongruence (sp cg.e r.e) st.div - st.pointSp) }
        else .inl st := by
  unfold relCgStep gn_red
  simp only [hl, hp, Bool.false_eq_true, if_false, if_true]

theorem gn_step_pt (C : gn_RelCtx) (cg : CRow) (hpr : cg.isProperCongruence = false → C.M = 0) (st : RelSt)
    (pre : List GRow) (hpre : ∀ r' ∈ pre, r' ∈ C.rows) (r : GRow) (hr : r ∈ C.rows) (hsp : sp cg.e r.e = C.spf r)
    (hl : r.line = false) (hp : r.isPoint = true) (hI : gn_RInv C st pre) :
    gn_StepOK C pre r (relCgStep cg st r) := by
  have hpt : gn_isPt r = true := hp
  have hnpar : gn_isPar r = false := by
    have := (gn_isPt_iff r).mp hpt
    simp [gn_isPar, this.2]
  have hmemr : r ∈ pre ++ [r] := List.mem_append_right _ (List.mem_singleton.mpr rfl)
  have hlines : ∀ r' ∈ pre ++ [r], r'.line = true → C.spf r' = 0 :=
    gn_forall_snoc hI.lines (fun h => by rw [hl] at h; cases h)
  rw [gn_relCgStep_pt cg st r hl hp, hsp]
  have hsub := gn_red_dvd_sub cg.isProperCongruence (C.spf r) st.div
  by_cases h1 : gn_red cg.isProperCongruence (C.spf r) st.div = 0
  · -- the point satisfies the congruence modulo `div`
    rw [if_pos h1]
    have hdv : st.div ∣ C.spf r := gn_red_zero h1
    by_cases h2 : st.pointSp = 0
    · rw [if_pos h2]
      by_cases h3 : st.parameterFails = true
      · rw [if_pos h3]
        rcases hI.kind with ⟨_, _, _, _, e⟩ | ⟨_, _, c, _⟩ | ⟨a, _⟩
        · obtain ⟨q, hq, pq, nq⟩ := e h3
          have hin := C.in_of_R hI.reach hr hpt hdv
          exact ⟨rfl, hin, C.out_of_in_par hin (hpre q hq) pq nq⟩
        · rw [h3] at c; cases c
        · exact absurd h2 a
      · rw [if_neg h3]
        have h3' : st.parameterFails = false := by simpa using h3
        show gn_RInv C _ (pre ++ [r])
        refine ⟨hI.dvdM, hI.reach, hlines,
          gn_forall_snoc hI.pars (fun h => by rw [hnpar] at h; cases h), ?_⟩
        rcases hI.kind with ⟨a, _, c, d, _⟩ | ⟨a, _, c, d, e, f⟩ | ⟨a, _⟩
        · refine Or.inr (Or.inl ⟨a, rfl, h3', d h3', ⟨r, hmemr, hpt⟩, ?_⟩)
          refine gn_forall_snoc (fun q hq pq => ?_) (fun _ => by rw [← d h3']; exact hdv)
          rw [c q hq] at pq; cases pq
        · refine Or.inr (Or.inl ⟨a, rfl, c, d, gn_exists_snoc r e, ?_⟩)
          exact gn_forall_snoc f (fun _ => by rw [← d]; exact hdv)
        · exact absurd h2 a
    · rw [if_neg h2]
      rcases hI.kind with ⟨a, _⟩ | ⟨a, _⟩ | ⟨_, _, p0, hp0, pp, c, d, _⟩
      · exact absurd a h2
      · exact absurd a h2
      · exact ⟨rfl, C.in_of_R hI.reach hr hpt hdv, gn_out_of_p0 C hI.dvdM (hpre p0 hp0) pp c d⟩
  · rw [if_neg h1]
    have hnM : ¬ C.M ∣ C.spf r := gn_red_ne h1 hI.dvdM hpr
    have hrr : ∀ h : Int.tmod (gn_red cg.isProperCongruence (C.spf r) st.div) st.div = 0, st.div ∣ C.spf r :=
      gn_red_red _ _ _
    generalize hs1 : gn_red cg.isProperCongruence (C.spf r) st.div = s1 at h1 hsub hrr ⊢
    by_cases h2 : st.pointSp = 0
    · rw [if_pos h2]
      by_cases hk : st.knownToIntersect = true
      · rw [if_pos hk]
        rcases hI.kind with ⟨_, b, _⟩ | ⟨_, _, _, _, ⟨p, hp', pp⟩, f⟩ | ⟨a, _⟩
        · rw [hk] at b; cases b
        · exact ⟨rfl, C.in_of_pt (hpre p hp') pp (f p hp' pp), C.out_of_pt hr hpt hnM⟩
        · exact absurd h2 a
      · rw [if_neg hk]
        by_cases hc : st.div ≠ 0 ∧ Int.tmod s1 st.div = 0
        · rw [if_pos hc]
          exact ⟨rfl, C.in_of_R hI.reach hr hpt (hrr hc.2), C.out_of_pt hr hpt hnM⟩
        · rw [if_neg hc]
          show gn_RInv C _ (pre ++ [r])
          refine ⟨hI.dvdM, hI.reach, hlines,
            gn_forall_snoc hI.pars (fun h => by rw [hnpar] at h; cases h), ?_⟩
          rcases hI.kind with ⟨_, b, c, _, _⟩ | ⟨_, b, _⟩ | ⟨a, _⟩
          · refine Or.inr (Or.inr ⟨h1, b, r, hmemr, hpt, hsub, ?_, ?_⟩)
            · intro hdv
              by_cases hz : st.div = 0
              · rw [hz] at hdv; exact h1 (zero_dvd_iff.mp hdv)
              · exact hc ⟨hz, Int.tmod_eq_zero_of_dvd hdv⟩
            · refine gn_forall_snoc (fun q hq pq => ?_) (fun _ => by simp)
              rw [c q hq] at pq; cases pq
          · exact absurd b hk
          · exact absurd h2 a
    · rw [if_neg h2]
      rcases hI.kind with ⟨a, _⟩ | ⟨a, _⟩ | ⟨_, b, p0, hp0, pp, c, d, f⟩
      · exact absurd a h2
      · exact absurd a h2
      · -- `spf r - spf p0 = (s1 - pointSp) + (spf r - s1) - (spf p0 - pointSp)`
        have hdecomp : C.spf r - C.spf p0 = (s1 - st.pointSp) + (C.spf r - s1) - (C.spf p0 - st.pointSp) := by ring
        by_cases h3 : s1 - st.pointSp ≠ 0
        · rw [if_pos h3]
          have hd1 : gcdI st.div (s1 - st.pointSp) ∣ st.div := Int.gcd_dvd_left _ _
          have hd2 : gcdI st.div (s1 - st.pointSp) ∣ s1 - st.pointSp := Int.gcd_dvd_right _ _
          have hRsp2 : C.R (s1 - st.pointSp) := by
            have e : s1 - st.pointSp = (C.spf r - C.spf p0) - (C.spf r - s1) + (C.spf p0 - st.pointSp) := by ring
            rw [e]
            exact C.R_add (C.R_sub (C.R_of_pts hr hpt (hpre p0 hp0) pp) (C.R_of_dvd hI.reach hsub))
              (C.R_of_dvd hI.reach c)
          have hRd : C.R (gcdI st.div (s1 - st.pointSp)) := C.R_gcd hI.reach hRsp2
          have hdr : gcdI st.div (s1 - st.pointSp) ∣ C.spf r - C.spf p0 := by
            rw [hdecomp]
            exact dvd_sub (dvd_add hd2 (dvd_trans hd1 hsub)) (dvd_trans hd1 c)
          by_cases h4 : Int.tmod st.pointSp (gcdI st.div (s1 - st.pointSp)) = 0
          · rw [if_pos h4]
            have hdp : gcdI st.div (s1 - st.pointSp) ∣ C.spf p0 := by
              have := dvd_add (dvd_trans hd1 c) (Int.dvd_of_tmod_eq_zero h4)
              simpa using this
            exact ⟨rfl, C.in_of_R hRd (hpre p0 hp0) pp hdp, gn_out_of_p0 C hI.dvdM (hpre p0 hp0) pp c d⟩
          · rw [if_neg h4]
            show gn_RInv C _ (pre ++ [r])
            refine ⟨dvd_trans hd1 hI.dvdM, hRd, hlines,
              gn_forall_snoc (fun q hq pq => dvd_trans hd1 (hI.pars q hq pq)) (fun h => by rw [hnpar] at h; cases h), ?_⟩
            refine Or.inr (Or.inr ⟨h2, b, p0, List.mem_append_left _ hp0, pp, dvd_trans hd1 c, ?_, ?_⟩)
            · intro hdv; exact h4 (Int.tmod_eq_zero_of_dvd hdv)
            · exact gn_forall_snoc (fun q hq pq => dvd_trans hd1 (f q hq pq)) (fun _ => hdr)
        · rw [if_neg h3]
          have h3' : s1 - st.pointSp = 0 := by simpa using h3
          show gn_RInv C _ (pre ++ [r])
          refine ⟨hI.dvdM, hI.reach, hlines,
            gn_forall_snoc hI.pars (fun h => by rw [hnpar] at h; cases h), ?_⟩
          refine Or.inr (Or.inr ⟨h2, b, p0, List.mem_append_left _ hp0, pp, c, d, ?_⟩)
          refine gn_forall_snoc f (fun _ => ?_)
          rw [hdecomp, h3', zero_add]
          exact dvd_sub hsub c

/-- **one pass through the body of the loop keeps the invariant or rightly answers "strictly intersects"** -/
theorem gn_step (C : gn_RelCtx) (hne : C.S.Nonempty) (cg : CRow) (hpr : cg.isProperCongruence = false → C.M = 0)
    (st : RelSt) (pre : List GRow) (hpre : ∀ r' ∈ pre, r' ∈ C.rows) (r : GRow) (hr : r ∈ C.rows)
    (hsp : sp cg.e r.e = C.spf r) (hI : gn_RInv C st pre) : gn_StepOK C pre r (relCgStep cg st r) := by
  cases hl : r.line with
  | true => exact gn_step_line C hne cg st pre r hr hsp hl hI
  | false =>
    cases hp : r.isPoint with
    | true => exact gn_step_pt C cg hpr st pre hpre r hr hsp hl hp hI
    | false => exact gn_step_par C cg hpr st pre hpre r hr hsp hl hp hI

/-- the loop: either the invariant for all rows, or a right "strictly intersects" -/
theorem gn_loop (C : gn_RelCtx) (hne : C.S.Nonempty) (cg : CRow) (hpr : cg.isProperCongruence = false → C.M = 0)
    (hsp : ∀ r ∈ C.rows, sp cg.e r.e = C.spf r) :
    ∀ (suf pre : List GRow) (st : RelSt), pre ++ suf = C.rows → gn_RInv C st pre →
      match relCgLoop cg st suf with
      | .inl st' => gn_RInv C st' C.rows
      | .inr rel => rel = Rel.si ∧ C.In ∧ C.Out
  | [], pre, st, he, hI => by
    rw [List.append_nil] at he
    show gn_RInv C st C.rows
    rw [← he]; exact hI
  | r :: suf, pre, st, he, hI => by
    have hr : r ∈ C.rows := by rw [← he]; simp
    have hpre : ∀ r' ∈ pre, r' ∈ C.rows := fun r' h => by rw [← he]; exact List.mem_append_left _ h
    have hs := gn_step C hne cg hpr st pre hpre r hr (hsp r hr) hI
    unfold relCgLoop
    cases hstep : relCgStep cg st r with
    | inl st' =>
      rw [hstep] at hs
      exact gn_loop C hne cg hpr hsp suf (pre ++ [r]) st' (by rw [← he]; simp) hs
    | inr rel =>
      rw [hstep] at hs
      exact hs

/-! ## `relation_with(const Congruence&)`: the decisions after the loop; the concrete setting (a normalised generator system, a congruence row of the right size) -/

/-! ### after the loop -/

theorem gn_final_included (C : gn_RelCtx) {st : RelSt} (hI : gn_RInv C st C.rows) (hpt : ∃ p ∈ C.rows, gn_isPt p = true)
    (h0 : st.pointSp = 0) : ∀ x ∈ C.S, ∃ t : Int, C.val x = (t : ℚ) * (C.M : ℚ) := by
  obtain ⟨p, hp, pp⟩ := hpt
  rcases hI.kind with ⟨_, _, c, _⟩ | ⟨_, _, _, d, _, f⟩ | ⟨a, _⟩
  · rw [c p hp] at pp; cases pp
  · intro x hx
    obtain ⟨j, hj⟩ := f p hp pp
    obtain ⟨t, ht⟩ := C.ind C.M p hp pp hI.lines (fun q hq pq => by rw [← d]; exact hI.pars q hq pq)
      (fun r hr pr => dvd_sub (f r hr pr) (f p hp pp)) x hx
    exact ⟨j + t, by rw [ht, hj]; push_cast; ring⟩
  · exact absurd h0 a

theorem gn_final_disjoint (C : gn_RelCtx) {st : RelSt} (hI : gn_RInv C st C.rows) (h0 : st.pointSp ≠ 0) :
    ∀ x ∈ C.S, ¬ ∃ t : Int, C.val x = (t : ℚ) * (C.M : ℚ) := by
  rcases hI.kind with ⟨a, _⟩ | ⟨a, _⟩ | ⟨_, _, p0, hp0, pp, c, d, f⟩
  · exact absurd a h0
  · exact absurd a h0
  · intro x hx ⟨t', ht'⟩
    obtain ⟨t, ht⟩ := C.ind st.div p0 hp0 pp hI.lines hI.pars f x hx
    obtain ⟨j, hj⟩ := hI.dvdM
    apply d
    have h1 : st.div ∣ C.spf p0 := by
      refine ⟨t' * j - t, ?_⟩
      have : ((C.spf p0 : Int) : ℚ) = ((st.div * (t' * j - t) : Int) : ℚ) := by
        rw [ht'] at ht
        rw [hj] at ht
        push_cast at ht ⊢
        linear_combination -ht
      exact_mod_cast this
    have := dvd_sub h1 c
    simpa using this

/-! ### the value function of a congruence row on the homogeneous coordinates -/

/-- `D ×` the value of the expression of `c` at `x` -/
def gn_cgVal (D : Int) (c : CRow) (x : Pt) : ℚ := alphaOf (ratRow c.e) (homog (D : ℚ) x)

theorem gn_cgVal_affine (D : Int) (c : CRow) (a b b' : Pt) (k : ℚ) :
    gn_cgVal D c (a + k • (b - b')) = gn_cgVal D c a + k * (gn_cgVal D c b - gn_cgVal D c b') := by
  unfold gn_cgVal
  have e : (k * (D : ℚ)) • shift (b - b') = k • (homog (D : ℚ) b - homog (D : ℚ) b') := by
    rw [homog_sub, smul_smul]
  rw [homog_add_shift, e, map_add, map_smul, map_sub, smul_eq_mul]

theorem gn_cgVal_dir (D : Int) (c : CRow) (a v : Pt) (q : ℚ) :
    gn_cgVal D c (a + q • v) = gn_cgVal D c a + q * ((D : ℚ) * alphaOf (ratRow c.e) (shift v)) := by
  unfold gn_cgVal
  rw [homog_add_shift, map_add, map_smul, smul_eq_mul]; ring

theorem gn_cgVal_sem {n : Nat} (D : Int) (hD : D ≠ 0) (c : CRow) (hc : c.e.length = n + 1) (x : Pt) :
    c.toCg.sem x ↔ ∃ t : Int, gn_cgVal D c x = (t : ℚ) * ((c.m * D : Int) : ℚ) := by
  have hDq : (D : ℚ) ≠ 0 := by exact_mod_cast hD
  unfold gn_cgVal
  rw [alphaOf_homog c.e (by omega), gn_toCg_sem_iff]
  constructor
  · rintro ⟨t, ht⟩; exact ⟨t, by rw [ht]; push_cast; ring⟩
  · rintro ⟨t, ht⟩
    refine ⟨t, mul_left_cancel₀ hDq ?_⟩
    rw [ht]; push_cast; ring

section ctx
variable {n : Nat} {D : Int} {rows : List GRow} (hN : GNorm n D rows) (hw : GWf n rows) (c : CRow)
  (hc : c.e.length = n + 1)
include hN hw hc

theorem gn_cgVal_pt {p : GRow} (hp : p ∈ rows) (pp : gn_isPt p = true) :
    gn_cgVal D c (gn_vecOf p) = ((dotRow c.e p.e n : Int) : ℚ) := by
  obtain ⟨hl, h0⟩ := (gn_isPt_iff p).mp pp
  have e0 : get p.e 0 = D := by
    rcases hN.col0 p hp hl with q | q
    · exact absurd q h0
    · exact q
  unfold gn_cgVal
  rw [gn_vecOf_pt (hw p hp) pp, e0, ← hvec_point n p D (ne_of_gt hN.pos) e0, alphaOf_hvec n c.e hc]

theorem gn_cgVal_par {q : GRow} (hq : q ∈ rows) (pq : gn_isPar q = true) :
    (D : ℚ) * alphaOf (ratRow c.e) (shift (gn_vecOf q)) = ((dotRow c.e q.e n : Int) : ℚ) := by
  obtain ⟨hl, h0⟩ := (gn_isPar_iff q).mp pq
  have hDq : (D : ℚ) ≠ 0 := by exact_mod_cast ne_of_gt hN.pos
  rw [← alphaOf_hvec n c.e hc, hvec_dir n q (D : ℚ) hDq h0, map_smul, smul_eq_mul, gn_vecOf_par (hw q hq) pq,
    hN.par q hq hl h0]

theorem gn_cgVal_line {l : GRow} (hl' : l ∈ rows) (hl : l.line = true) :
    alphaOf (ratRow c.e) (shift (gn_vecOf l)) = ((dotRow c.e l.e n : Int) : ℚ) := by
  have e := hvec_dir n l 1 one_ne_zero (hN.lin l hl' hl)
  rw [one_smul] at e
  rw [← alphaOf_hvec n c.e hc, e, gn_vecOf_line (hw l hl') hl]

/-- the setting of the loop for a normalised generator system and a congruence row of the right size -/
def gn_mkRelCtx : gn_RelCtx where
  S := gn_set rows
  val := gn_cgVal D c
  M := c.m * D
  rows := rows
  spf := fun r => dotRow c.e r.e n
  pt_mem := fun p hp pp => ⟨gn_mem_pt hp pp, gn_cgVal_pt hN hw c hc hp pp⟩
  par_step := fun q hq pq a ha k =>
    ⟨_, gn_mem_par_step hq pq ha k, by rw [gn_cgVal_dir, gn_cgVal_par hN hw c hc hq pq]⟩
  pt_step := fun p hp pp p' hp' pp' a ha k =>
    ⟨_, gn_mem_affine k ha (gn_mem_pt hp pp) (gn_mem_pt hp' pp'), by
      rw [gn_cgVal_affine, gn_cgVal_pt hN hw c hc hp pp, gn_cgVal_pt hN hw c hc hp' pp']⟩
  line_any := fun l hl' hl h0 a ha w => by
    have hDq : (D : ℚ) ≠ 0 := by exact_mod_cast ne_of_gt hN.pos
    have h0q : ((dotRow c.e l.e n : Int) : ℚ) ≠ 0 := by exact_mod_cast h0
    refine ⟨_, gn_mem_line_step hl' hl ha ((w - gn_cgVal D c a) / ((D : ℚ) * ((dotRow c.e l.e n : Int) : ℚ))), ?_⟩
    rw [gn_cgVal_dir, gn_cgVal_line hN hw c hc hl' hl]
    field_simp
    ring
  ind := fun d p0 hp0 pp0 hlines hpars hpts => by
    have key : gn_set rows ⊆ {x | ∃ t : Int, gn_cgVal D c x = ((dotRow c.e p0.e n : Int) : ℚ) + (t : ℚ) * (d : ℚ)} := by
      refine gn_mem_least ?_ ?_ ?_ ?_
      · rintro a ⟨ta, ha⟩ b ⟨tb, hb⟩ b' ⟨tb', hb'⟩ k
        exact ⟨ta + k * (tb - tb'), by rw [gn_cgVal_affine, ha, hb, hb']; push_cast; ring⟩
      · intro p hp pp
        obtain ⟨j, hj⟩ := hpts p hp pp
        refine ⟨j, ?_⟩
        rw [gn_cgVal_pt hN hw c hc hp pp]
        have : ((dotRow c.e p.e n : Int) : ℚ) - ((dotRow c.e p0.e n : Int) : ℚ) = ((d * j : Int) : ℚ) := by
          rw [← hj]; push_cast; ring
        push_cast at this
        linear_combination this
      · rintro q hq pq a ⟨ta, ha⟩ k
        obtain ⟨j, hj⟩ := hpars q hq pq
        refine ⟨ta + k * j, ?_⟩
        rw [gn_cgVal_dir, gn_cgVal_par hN hw c hc hq pq, ha, hj]; push_cast; ring
      · rintro l hl' hl a ⟨ta, ha⟩ q
        refine ⟨ta, ?_⟩
        rw [gn_cgVal_dir, gn_cgVal_line hN hw c hc hl' hl, hlines l hl' hl, ha]; simp
    exact fun x hx => key hx

end ctx

/-! ## `Grid::relation_with(const Congruence&)` (Grid_public.cc:390) in positive dimension: the four answers against `g.sem` and `CRow.set cg` -/

/-! ### the scalar product of the loop is `dotRow` of the resized congruence row -/

theorem gn_dotUpto_comm (a b : Row) : ∀ k : Nat, dotUpto a b k = dotUpto b a k
  | 0 => rfl
  | k + 1 => by simp only [dotUpto]; rw [gn_dotUpto_comm a b k, mul_comm]

theorem gn_sp_eq_dotRow (cg : CRow) (n : Nat) (hd : cg.e.length ≤ n + 1) (r : GRow) :
    sp cg.e r.e = dotRow (cg.setSpaceDim n).e r.e n := by
  have e1 : sp cg.e r.e = dotUpto r.e cg.e cg.e.length := gn_spg_eq r.e cg.e cg.e.length
  have e2 : dotUpto r.e cg.e (n + 1) = dotUpto r.e cg.e cg.e.length :=
    gn_dotUpto_zero_tail r.e cg.e cg.e.length (n + 1) hd (fun i h1 _ => get_of_length_le _ _ h1)
  have e3 : dotUpto r.e cg.e (n + 1) = dotUpto r.e (cg.setSpaceDim n).e (n + 1) :=
    gn_dotUpto_congr _ _ _ _ (fun i hi => by
      show get cg.e i = get (resizeRow cg.e (n + 1)) i
      rw [get_resizeRow, if_pos hi])
  rw [e1, ← e2, e3, gn_dotUpto_comm]; rfl

theorem gn_set_resized (cg : CRow) (n : Nat) {x : Pt} (hx : Supp n x) :
    x ∈ CRow.set cg ↔ (cg.setSpaceDim n).toCg.sem x := by
  rw [cn_mem_set, ← cn_rsem_setSpaceDim_supp cg n x hx, ← cn_mem_set]; rfl

theorem gn_find_isPoint {n : Nat} {D : Int} {rows : List GRow} (h : GNorm n D rows) :
    ∃ fp, rows.find? (·.isPoint) = some fp ∧ fp.divisor = D := by
  cases hf : rows.find? (·.isPoint) with
  | none =>
    obtain ⟨r, hr, hl, h0⟩ := h.pt
    have := List.find?_eq_none.mp hf r hr
    have hD : D ≠ 0 := ne_of_gt h.pos
    simp [GRow.isPoint, hl, h0, hD] at this
  | some fp =>
    refine ⟨fp, rfl, ?_⟩
    have hp := List.find?_some hf
    have hm := List.mem_of_find?_eq_some hf
    have hp' : fp.line = false ∧ get fp.e 0 ≠ 0 := by simpa [GRow.isPoint] using hp
    rw [divisor_point fp hp'.2]
    rcases h.col0 fp hm hp'.1 with q | q
    · exact absurd q hp'.2
    · exact q

/-! ### the meaning of the four flags -/

/-- `Poly_Con_Relation` of a grid `S` with the solution set `C` of a congruence -/
def gn_RelOK (rel : Rel) (S C : Set Pt) : Prop :=
  (rel.disjoint = true ↔ S ∩ C = ∅) ∧ (rel.included = true ↔ S ⊆ C) ∧
  (rel.strictlyIntersects = true ↔ ((S ∩ C).Nonempty ∧ ¬ S ⊆ C)) ∧ (rel.saturates = true → rel.included = true)

theorem gn_relOK_all3 (C : Set Pt) : gn_RelOK Rel.all3 ∅ C := by
  refine ⟨⟨fun _ => Set.empty_inter _, fun _ => rfl⟩, ⟨fun _ => Set.empty_subset _, fun _ => rfl⟩, ⟨fun h => (by cases h), ?_⟩,
    fun _ => rfl⟩
  rintro ⟨h, _⟩; rw [Set.empty_inter] at h; exact absurd h Set.not_nonempty_empty

theorem gn_relOK_si {S C : Set Pt} (hin : (S ∩ C).Nonempty) (hout : ¬ S ⊆ C) : gn_RelOK Rel.si S C :=
  ⟨⟨fun h => (by cases h), fun h => absurd h (Set.nonempty_iff_ne_empty.mp hin)⟩,
   ⟨fun h => (by cases h), fun h => absurd h hout⟩, ⟨fun _ => ⟨hin, hout⟩, fun _ => rfl⟩, fun h => (by cases h)⟩

theorem gn_relOK_incl {S C : Set Pt} (hne : S.Nonempty) (h : S ⊆ C) (b : Bool) :
    gn_RelOK { included := true, saturates := b } S C := by
  have hin : (S ∩ C).Nonempty := by obtain ⟨x, hx⟩ := hne; exact ⟨x, hx, h hx⟩
  exact ⟨⟨fun h' => (by cases h'), fun h' => absurd h' (Set.nonempty_iff_ne_empty.mp hin)⟩, ⟨fun _ => h, fun _ => rfl⟩,
    ⟨fun h' => (by cases h'), fun h' => absurd h h'.2⟩, fun _ => rfl⟩

theorem gn_relOK_disj {S C : Set Pt} (hne : S.Nonempty) (h : S ∩ C = ∅) : gn_RelOK { disjoint := true } S C := by
  have hout : ¬ S ⊆ C := by
    intro hs
    obtain ⟨x, hx⟩ := hne
    have : x ∈ S ∩ C := ⟨hx, hs hx⟩
    rw [h] at this; exact this
  exact ⟨⟨fun _ => h, fun _ => rfl⟩, ⟨fun h' => (by cases h'), fun h' => absurd h' hout⟩,
    ⟨fun h' => (by cases h'), fun h' => absurd h'.1 (by rw [h]; exact Set.not_nonempty_empty)⟩, fun h' => (by cases h')⟩

/-! ### the loop on a normalised system -/

/-- **the answer of the loop and of the decisions after it** for a well-formed normalised generator system and a
    congruence of the space with a non-negative modulus -/
theorem gn_relCg_rows {n : Nat} {D : Int} {rows : List GRow} (hN : GNorm n D rows) (hw : GWf n rows) (cg : CRow)
    (hd : cg.e.length ≤ n + 1) (hm : 0 ≤ cg.m) :
    ∃ rel, (match relCgLoop cg { div := cg.m * D } rows with
      | .inr rel => rel
      | .inl st =>
        if st.pointSp = 0 then
          (if cg.isEquality = true then { included := true, saturates := true } else { included := true })
        else { disjoint := true }) = rel ∧ gn_RelOK rel (gn_set rows) (CRow.set cg) ∧
      (rel.saturates = true ↔ rel.included = true ∧ cg.isEquality = true) := by
  have hclen : (cg.setSpaceDim n).e.length = n + 1 := length_resizeRow _ _
  have hDne : D ≠ 0 := ne_of_gt hN.pos
  have hwf := gn_wf_of_gnorm hN hw
  obtain ⟨a0, ha0⟩ := gn_mem_nonempty hwf.pt
  have hne : (gn_set rows).Nonempty := ⟨a0, ha0⟩
  -- the abstract setting
  have hmem : ∀ x ∈ gn_set rows, (x ∈ CRow.set cg ↔
      ∃ t : Int, gn_cgVal D (cg.setSpaceDim n) x = (t : ℚ) * ((cg.m * D : Int) : ℚ)) := by
    intro x hx
    rw [gn_set_resized cg n (gn_mem_supp hw hx), gn_cgVal_sem D hDne _ hclen]; rfl
  have hpr : cg.isProperCongruence = false → (gn_mkRelCtx hN hw (cg.setSpaceDim n) hclen).M = 0 := by
    intro h
    have : cg.m = 0 := by
      have : ¬ cg.m > 0 := by simpa [CRow.isProperCongruence] using h
      omega
    show cg.m * D = 0
    rw [this, zero_mul]
  have hsp : ∀ r ∈ (gn_mkRelCtx hN hw (cg.setSpaceDim n) hclen).rows,
      sp cg.e r.e = (gn_mkRelCtx hN hw (cg.setSpaceDim n) hclen).spf r := fun r _ => gn_sp_eq_dotRow cg n hd r
  have hI0 : gn_RInv (gn_mkRelCtx hN hw (cg.setSpaceDim n) hclen) { div := cg.m * D } [] := by
    refine ⟨dvd_refl _, (gn_mkRelCtx hN hw (cg.setSpaceDim n) hclen).R_M, ?_, ?_, ?_⟩
    · intro r hr; cases hr
    · intro r hr; cases hr
    · exact Or.inl ⟨rfl, rfl, fun r hr => (by cases hr), fun _ => rfl, fun h => (by cases h)⟩
  have hloop := gn_loop (gn_mkRelCtx hN hw (cg.setSpaceDim n) hclen) hne cg hpr hsp rows [] { div := cg.m * D }
    (List.nil_append _) hI0
  have hInS : (gn_mkRelCtx hN hw (cg.setSpaceDim n) hclen).In → (gn_set rows ∩ CRow.set cg).Nonempty := by
    rintro ⟨x, hx, t, ht⟩
    exact ⟨x, hx, (hmem x hx).mpr ⟨t, ht⟩⟩
  have hOutS : (gn_mkRelCtx hN hw (cg.setSpaceDim n) hclen).Out → ¬ gn_set rows ⊆ CRow.set cg := by
    rintro ⟨y, hy, hny⟩ hs
    exact hny ((hmem y hy).mp (hs hy))
  cases hres : relCgLoop cg { div := cg.m * D } rows with
  | inr rel =>
    rw [hres] at hloop
    obtain ⟨e, hin, hout⟩ := hloop
    refine ⟨rel, rfl, ?_, ?_⟩
    · rw [e]; exact gn_relOK_si (hInS hin) (hOutS hout)
    · rw [e]; exact ⟨fun h => (by cases h), fun h => (by cases h.1)⟩
  | inl st =>
    rw [hres] at hloop
    by_cases h0 : st.pointSp = 0
    · have hincl : gn_set rows ⊆ CRow.set cg := by
        intro x hx
        exact (hmem x hx).mpr (gn_final_included _ hloop hwf.pt h0 x hx)
      simp only [h0, if_true]
      cases heq : cg.isEquality with
      | true =>
        refine ⟨_, rfl, ?_, ⟨fun _ => ⟨rfl, rfl⟩, fun _ => rfl⟩⟩
        simp only [if_true]
        exact gn_relOK_incl hne hincl true
      | false =>
        refine ⟨_, rfl, ?_, ⟨fun h => ?_, fun h => (by cases h.2)⟩⟩
        · simp only [Bool.false_eq_true, if_false]
          exact gn_relOK_incl hne hincl false
        · simp only [Bool.false_eq_true, if_false] at h
    · have hdisj : gn_set rows ∩ CRow.set cg = ∅ := by
        ext x
        constructor
        · rintro ⟨hx, hc⟩
          exact absurd ((hmem x hx).mp hc) (gn_final_disjoint _ hloop h0 x hx)
        · intro h; cases h
      simp only [h0, if_false]
      exact ⟨_, rfl, gn_relOK_disj hne hdisj, ⟨fun h => (by cases h), fun h => (by cases h.1)⟩⟩

/-! ## `Grid::relation_with(const Congruence&)` (Grid_public.cc:390), the object -/

/-- a congruence without variables on a point of the 0-dimensional space -/
theorem gn_set_dim0 (cg : CRow) (hl : cg.e.length ≤ 1) (x : Pt) : x ∈ CRow.set cg ↔ cg.m ∣ get cg.e 0 := by
  show cg.toCg.sem x ↔ _
  rw [gn_toCg_sem_iff]
  have ht : (ratRow cg.e).tail = [] := by
    cases h : cg.e with
    | nil => rfl
    | cons a l =>
      rw [h] at hl
      have : l = [] := by
        cases l with
        | nil => rfl
        | cons b l' => simp at hl
      rw [this]; rfl
  rw [ht, dotF_nil, zero_add]
  constructor
  · rintro ⟨t, h⟩; exact ⟨t, by rw [mul_comm]; exact_mod_cast h⟩
  · rintro ⟨t, h⟩; exact ⟨t, by rw [h]; push_cast; ring⟩

theorem gn_isInconsistent_dim0 (cg : CRow) (hl : cg.e.length ≤ 1) : cg.isInconsistent = true ↔ ¬ cg.m ∣ get cg.e 0 := by
  have hz : allZ cg.e 1 cg.e.length = true := by
    unfold allZ
    have : cg.e.length - 1 = 0 := by omega
    rw [this]; rfl
  unfold CRow.isInconsistent
  rw [hz, Bool.and_true]
  by_cases hm : cg.m = 0
  · rw [if_pos hm, hm]; simp [zero_dvd_iff]
  · rw [if_neg hm]
    simp only [bne_iff_ne, ne_eq]
    exact ⟨fun h hd => h (Int.tmod_eq_zero_of_dvd hd), fun h ht => h (Int.dvd_of_tmod_eq_zero ht)⟩

/-- **`Grid::relation_with(const Congruence&)`** for a congruence of the space with a non-negative modulus: the invariant
    and the denotation are kept; `is_disjoint` ↔ empty intersection, `is_included` ↔ inclusion, `strictly_intersects` ↔
    neither, `saturates` only with `is_included`, and on a non-empty grid of positive dimension exactly for an included
    equality -/
theorem gn_relationWithCg (g : Grid) (hI : GridInv g) (cg : CRow) (hd : cg.spaceDim ≤ g.spaceDim) (hm : 0 ≤ cg.m) :
    GridInv (relationWithCg g cg).1 ∧ (relationWithCg g cg).1.sem = g.sem ∧
    (relationWithCg g cg).1.spaceDim = g.spaceDim ∧
    ∃ rel, (relationWithCg g cg).2 = some rel ∧ gn_RelOK rel g.sem (CRow.set cg) ∧
      (0 < g.spaceDim → g.sem.Nonempty → (rel.saturates = true ↔ rel.included = true ∧ cg.isEquality = true)) := by
  have hlen : cg.e.length ≤ g.spaceDim + 1 := by unfold CRow.spaceDim at hd; omega
  unfold relationWithCg
  rw [if_neg (by omega)]
  cases he : g.markedEmpty with
  | true =>
    rw [if_pos rfl]
    refine ⟨hI, rfl, rfl, Rel.all3, rfl, ?_, fun _ h => ?_⟩
    · rw [sem_of_empty (g := g) he]; exact gn_relOK_all3 _
    · rw [sem_of_empty (g := g) he] at h; exact absurd h Set.not_nonempty_empty
  | false =>
  rw [if_neg (by simp)]
  by_cases h0 : g.spaceDim = 0
  · have hl1 : cg.e.length ≤ 1 := by omega
    have hS := sem_of_zdim (g := g) he h0
    have hne : g.sem.Nonempty := by rw [hS]; exact ⟨0, fun _ _ => rfl⟩
    by_cases hinc : cg.isInconsistent = true
    · rw [if_pos ⟨h0, hinc⟩]
      refine ⟨hI, rfl, rfl, _, rfl, ?_, fun h => by omega⟩
      refine gn_relOK_disj hne ?_
      ext x
      constructor
      · rintro ⟨_, hc⟩
        exact absurd ((gn_set_dim0 cg hl1 x).mp hc) ((gn_isInconsistent_dim0 cg hl1).mp hinc)
      · intro h; cases h
    · rw [if_neg (fun h => hinc h.2)]
      have hdv : cg.m ∣ get cg.e 0 := by
        by_contra h; exact hinc ((gn_isInconsistent_dim0 cg hl1).mpr h)
      have hcond : cg.isEquality = true ∨ Int.tmod (get cg.e 0) cg.m = 0 := Or.inr (Int.tmod_eq_zero_of_dvd hdv)
      rw [if_pos ⟨h0, hcond⟩]
      refine ⟨hI, rfl, rfl, _, rfl, ?_, fun h => by omega⟩
      exact gn_relOK_incl hne (fun x _ => (gn_set_dim0 cg hl1 x).mpr hdv) true
  · have hn : 0 < g.spaceDim := by omega
    rw [if_neg (fun h => h0 h.1), if_neg (fun h => h0 h.1)]
    simp only [show (if (!g.generatorsAreUpToDate) = true then updateGenerators g else (g, true)) = gn_incX g from rfl]
    obtain ⟨a, b, c, d, e⟩ := gn_incX_spec g hI he hn
    cases h2 : (gn_incX g).2 with
    | false =>
      simp only [Bool.not_false, if_true]
      refine ⟨a, b, c, Rel.all3, rfl, ?_, fun _ h => ?_⟩
      · rw [e h2]; exact gn_relOK_all3 _
      · rw [e h2] at h; exact absurd h Set.not_nonempty_empty
    | true =>
      simp only [Bool.not_true, Bool.false_eq_true, if_false]
      obtain ⟨g1, g2⟩ := d h2
      obtain ⟨_, q, r, s⟩ := gn_sem_of_gUp a (by rw [c]; exact hn) g1 g2
      rw [c] at q r
      obtain ⟨fp, hfp, hdiv⟩ := gn_find_isPoint r
      obtain ⟨rel, erel, ok, sat⟩ := gn_relCg_rows r q cg hlen hm
      rw [hfp]
      simp only [hdiv]
      rw [← b, s]
      cases hres : relCgLoop cg { div := cg.m * firstPointDiv (gn_incX g).1.gen } (gn_incX g).1.gen with
      | inr rel' =>
        rw [hres] at erel
        simp only at erel
        exact ⟨a, s, c, rel', rfl, by rw [erel]; exact ok, fun _ _ => by rw [erel]; exact sat⟩
      | inl st =>
        rw [hres] at erel
        simp only at erel
        by_cases hp0 : st.pointSp = 0
        · simp only [hp0, if_true] at erel ⊢
          exact ⟨a, s, c, _, rfl, by rw [erel]; exact ok, fun _ _ => by rw [erel]; exact sat⟩
        · simp only [hp0, if_false] at erel ⊢
          exact ⟨a, s, c, _, rfl, by rw [erel]; exact ok, fun _ _ => by rw [erel]; exact sat⟩

/-- the hypotheses are satisfiable: the grid `{0}` of the line and `x ≡ 1 (mod 2)` -/
example : ∃ (g : Grid) (cg : CRow), GridInv g ∧ cg.spaceDim ≤ g.spaceDim ∧ 0 ≤ cg.m :=
  ⟨{ spaceDim := 1, st := { gUp := true }, conDim := 1, con := [], genDim := 1, gen := [⟨false, [1, 0, 0]⟩], dk := [] },
   ⟨[-1, 1], 2⟩,
   gn_inv_point1 1 0 (by decide),
   by decide, by decide⟩

end PPLV.Lattice.GO

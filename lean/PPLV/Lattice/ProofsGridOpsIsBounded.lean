import PPLV.Lattice.ProofsGridOpsIsUniverse

/-!
# The `Grid` object: `is_bounded`
-/
namespace PPLV.Lattice.GO
open PPLV.Lattice PPLV.Lattice.Red

/-! ## Ingredients of `Grid::is_bounded()`: the loop, rows with the zero vector, points with the same vector are `is_equivalent_to` each other -/

theorem gn_isEquivalentTo_refl (x : GRow) : x.isEquivalentTo x = true := by
  simp [GRow.isEquivalentTo]

/-- the test of one row against the reference point -/
def gn_bRow (p r : GRow) : Bool := if r.isLineOrParameter then r.allHomZero else r.isEquivalentTo p

theorem gn_isBoundedLoop_some (p : GRow) : ∀ L : List GRow,
    isBoundedLoop (some p) L = true ↔ ∀ r ∈ L, gn_bRow p r = true
  | [] => by simp [isBoundedLoop]
  | g :: L => by
    unfold isBoundedLoop
    simp only [List.mem_cons, forall_eq_or_imp]
    rw [← gn_isBoundedLoop_some p L]
    unfold gn_bRow
    cases h1 : g.isLineOrParameter with
    | true =>
      cases h2 : g.allHomZero <;> simp
    | false =>
      cases h2 : g.isEquivalentTo p <;> simp

theorem gn_isBoundedLoop_none : ∀ L : List GRow,
    isBoundedLoop none L = true ↔
      (∀ r ∈ L, r.isLineOrParameter = true → r.allHomZero = true) ∧
      ∀ p, L.find? (fun r => !r.isLineOrParameter) = some p → ∀ r ∈ L, gn_bRow p r = true
  | [] => by simp [isBoundedLoop]
  | g :: L => by
    unfold isBoundedLoop
    cases h1 : g.isLineOrParameter with
    | true =>
      simp only [if_true, List.mem_cons, forall_eq_or_imp, h1, List.find?_cons, Bool.not_true]
      cases h2 : g.allHomZero with
      | false => simp
      | true =>
        simp only [if_true, forall_true_left, true_and]
        rw [gn_isBoundedLoop_none L]
        constructor
        · rintro ⟨a, b⟩
          exact ⟨a, fun p hp => ⟨by simp [gn_bRow, h1, h2], b p hp⟩⟩
        · rintro ⟨a, b⟩
          exact ⟨a, fun p hp => (b p hp).2⟩
    | false =>
      simp only [Bool.false_eq_true, if_false, List.mem_cons, forall_eq_or_imp, h1, List.find?_cons, Bool.not_false,
        false_imp_iff, true_and]
      rw [gn_isBoundedLoop_some g L]
      constructor
      · intro h
        refine ⟨fun r hr hl => ?_, fun p hp => ?_⟩
        · have := h r hr; simpa [gn_bRow, hl] using this
        · have : g = p := by simpa using hp
          subst this
          exact ⟨by simp [gn_bRow, h1, gn_isEquivalentTo_refl], h⟩
      · rintro ⟨_, b⟩
        exact (b g (by simp)).2

/-- a row whose vector vanishes has all homogeneous terms zero -/
theorem gn_allHomZero_of_vecOf {n : Nat} {r : GRow} (hlen : r.e.length = n + 2) (hd : r.line = false → r.divisor ≠ 0)
    (hv : gn_vecOf r = 0) : r.allHomZero = true := by
  unfold GRow.allHomZero allZ
  rw [List.all_eq_true]
  intro i hi
  rw [List.mem_range'] at hi
  obtain ⟨j, hj, rfl⟩ := hi
  rw [hlen] at hj
  have := congrFun hv j
  unfold gn_vecOf at this
  rw [gn_spaceDim_of_len hlen, if_pos (by omega)] at this
  have hne : (if r.line = true then (1 : ℚ) else (r.divisor : ℚ)) ≠ 0 := by
    cases hl : r.line with
    | true => simp
    | false => simp; exact hd hl
  have h0 : ((get r.e (j + 1) : Int) : ℚ) = 0 := by
    rcases div_eq_zero_iff.mp this with h | h
    · exact h
    · exact absurd h hne
  have : get r.e (j + 1) = 0 := by exact_mod_cast h0
  have e : 1 + 1 * j = j + 1 := by omega
  rw [e]; simpa using this

/-- two points of a normalised system with the same vector are `is_equivalent_to` each other -/
theorem gn_equiv_of_vecOf {n : Nat} {D : Int} (hD : D ≠ 0) {x y : GRow} (hx : x.e.length = n + 2) (hy : y.e.length = n + 2)
    (lx : x.line = false) (ly : y.line = false) (ex : get x.e 0 = D) (ey : get y.e 0 = D)
    (hv : gn_vecOf x = gn_vecOf y) : x.isEquivalentTo y = true := by
  have px : x.isParameter = false := by simp [GRow.isParameter, lx, ex, hD]
  have py : y.isParameter = false := by simp [GRow.isParameter, ly, ey, hD]
  have hDq : (D : ℚ) ≠ 0 := by exact_mod_cast hD
  have hrow : x.e.set (x.e.length - 1) 0 = y.e.set (y.e.length - 1) 0 := by
    apply row_ext
    · simp [hx, hy]
    · intro i hi
      rw [get_set, get_set, hx, hy]
      by_cases h1 : i = n + 2 - 1
      · simp [h1]
      · rw [if_neg (fun h => h1 h.1), if_neg (fun h => h1 h.1)]
        cases i with
        | zero => rw [ex, ey]
        | succ j =>
          have hj : j < n := by
            simp only [List.length_set, hx] at hi; omega
          have := congrFun hv j
          unfold gn_vecOf at this
          rw [gn_spaceDim_of_len hx, gn_spaceDim_of_len hy, if_pos hj, if_pos hj, lx, ly,
            divisor_point x (by rw [ex]; exact hD), divisor_point y (by rw [ey]; exact hD), ex, ey] at this
          simp only [Bool.false_eq_true, if_false] at this
          have h2 : ((get x.e (j + 1) : Int) : ℚ) = ((get y.e (j + 1) : Int) : ℚ) := by
            field_simp at this; exact this
          exact_mod_cast h2
  unfold GRow.isEquivalentTo
  simp only [px, py, lx, ly, Bool.false_eq_true, if_false, hrow, beq_self_eq_true, Bool.and_true,
    beq_iff_eq]
  rw [gn_spaceDim_of_len hx, gn_spaceDim_of_len hy]

/-! ## `Grid::is_bounded()` (Grid_public.cc:848): the answer says whether the grid has at most one point -/

theorem gn_lop_iff {n : Nat} {D : Int} {rows : List GRow} (hN : GNorm n D rows) {r : GRow} (hr : r ∈ rows) :
    (r.isLineOrParameter = false ↔ gn_isPt r = true) ∧ (r.isLineOrParameter = true ↔ get r.e 0 = 0) := by
  have h2 : r.isLineOrParameter = true ↔ get r.e 0 = 0 := by simp [GRow.isLineOrParameter]
  refine ⟨?_, h2⟩
  constructor
  · intro h
    have h0 : get r.e 0 ≠ 0 := by simpa [GRow.isLineOrParameter] using h
    have hl : r.line = false := by
      cases hl : r.line with
      | false => rfl
      | true => exact absurd (hN.lin r hr hl) h0
    exact (gn_isPt_iff r).mpr ⟨hl, h0⟩
  · intro h
    simpa [GRow.isLineOrParameter] using ((gn_isPt_iff r).mp h).2

/-- **the loop of `is_bounded()` on a normalised generator system** -/
theorem gn_bounded_rows {n : Nat} {D : Int} {rows : List GRow} (hN : GNorm n D rows) (hw : GWf n rows) :
    isBoundedLoop none rows.reverse = true ↔ (gn_set rows).Subsingleton := by
  have hDne : D ≠ 0 := ne_of_gt hN.pos
  have hwf := gn_wf_of_gnorm hN hw
  -- the reference point of the loop
  obtain ⟨p, hfind⟩ : ∃ p, rows.reverse.find? (fun r => !r.isLineOrParameter) = some p := by
    cases hf : rows.reverse.find? (fun r => !r.isLineOrParameter) with
    | some p => exact ⟨p, rfl⟩
    | none =>
      obtain ⟨r, hr, hl, h0⟩ := hN.pt
      have := List.find?_eq_none.mp hf r (List.mem_reverse.mpr hr)
      simp [GRow.isLineOrParameter, h0, hDne] at this
  have hp : p ∈ rows := List.mem_reverse.mp (List.mem_of_find?_eq_some hfind)
  have hplop : p.isLineOrParameter = false := by simpa using List.find?_some hfind
  have ppt : gn_isPt p = true := (gn_lop_iff hN hp).1.mp hplop
  obtain ⟨pl, p0⟩ := (gn_isPt_iff p).mp ppt
  have pD : get p.e 0 = D := by
    rcases hN.col0 p hp pl with q | q
    · exact absurd q p0
    · exact q
  rw [gn_isBoundedLoop_none, hfind]
  constructor
  · rintro ⟨hH, hE⟩
    have hE' := hE p rfl
    have hsub : gn_set rows ⊆ {gn_vecOf p} := by
      have hzero : ∀ r ∈ rows, get r.e 0 = 0 → gn_vecOf r = 0 := fun r hr h0 =>
        gn_vecOf_allHomZero (hH r (List.mem_reverse.mpr hr) ((gn_lop_iff hN hr).2.mpr h0))
      refine gn_mem_least ?_ ?_ ?_ ?_
      · rintro _ h1 _ h2 _ h3 k
        rw [Set.mem_singleton_iff] at *
        subst h1 h2 h3; simp
      · intro r hr pr
        have hb := hE' r (List.mem_reverse.mpr hr)
        unfold gn_bRow at hb
        rw [(gn_lop_iff hN hr).1.mpr pr] at hb
        simp only [Bool.false_eq_true, if_false] at hb
        obtain ⟨_, _, hv⟩ := gn_equiv_rows (hw r hr) (hw p hp) ((gn_isPt_iff r).mp pr).1 hb
        rw [Set.mem_singleton_iff, hv]
      · intro r hr pr a ha k
        rw [hzero r hr ((gn_isPar_iff r).mp pr).2]; simpa using ha
      · intro r hr hl a ha q
        rw [hzero r hr (hN.lin r hr hl)]; simpa using ha
    exact Set.subsingleton_singleton.anti hsub
  · intro hS
    obtain ⟨a0, ha0⟩ := gn_mem_nonempty hwf.pt
    have hH : ∀ r ∈ rows.reverse, r.isLineOrParameter = true → r.allHomZero = true := by
      intro r hr hlop
      have hr' := List.mem_reverse.mp hr
      have h0 := (gn_lop_iff hN hr').2.mp hlop
      have hv : gn_vecOf r = 0 := by
        have hmem : a0 + gn_vecOf r ∈ gn_set rows := by
          show gn_Mem rows (a0 + gn_vecOf r)
          cases hl : r.line with
          | true => have := gn_mem_line_step hr' hl ha0 1; simpa using this
          | false =>
            have := gn_mem_par_step hr' ((gn_isPar_iff r).mpr ⟨hl, h0⟩) ha0 1; simpa using this
        have := hS hmem ha0
        have e : gn_vecOf r = (a0 + gn_vecOf r) - a0 := by module
        rw [e, this]; simp
      exact gn_allHomZero_of_vecOf (hw r hr') (fun hl => by rw [gn_divisor_of_gnorm hN hw hr' hl]; exact hDne) hv
    refine ⟨hH, fun p' hp' r hr => ?_⟩
    have : p = p' := by simpa using hp'
    subst this
    have hr' := List.mem_reverse.mp hr
    unfold gn_bRow
    cases hlop : r.isLineOrParameter with
    | true => simp only [if_true]; exact hH r hr hlop
    | false =>
      simp only [Bool.false_eq_true, if_false]
      have rpt := (gn_lop_iff hN hr').1.mp hlop
      obtain ⟨rl, r0⟩ := (gn_isPt_iff r).mp rpt
      have rD : get r.e 0 = D := by
        rcases hN.col0 r hr' rl with q | q
        · exact absurd q r0
        · exact q
      exact gn_equiv_of_vecOf hDne (hw r hr') (hw p hp) rl pl rD pD (hS (gn_mem_pt hr' rpt) (gn_mem_pt hp ppt))

/-- **`Grid::is_bounded()`**: the invariant and the denotation are kept and the answer says whether the grid has at most
    one point -/
theorem gn_isBounded (g : Grid) (hI : GridInv g) :
    GridInv (isBounded g).1 ∧ (isBounded g).1.sem = g.sem ∧ (isBounded g).1.spaceDim = g.spaceDim ∧
    ((isBounded g).2 = true ↔ g.sem.Subsingleton) := by
  unfold isBounded
  by_cases h0 : g.spaceDim = 0 ∨ g.markedEmpty = true
  · rw [if_pos h0]
    refine ⟨hI, rfl, rfl, ⟨fun _ => ?_, fun _ => rfl⟩⟩
    cases he : g.st.empty with
    | true => rw [sem_of_empty he]; exact Set.subsingleton_empty
    | false =>
      rcases h0 with h0 | h0
      · rw [sem_of_zdim he h0]
        intro x hx y hy
        funext i
        rw [hx i (Nat.zero_le i), hy i (Nat.zero_le i)]
      · rw [show g.st.empty = true from h0] at he; cases he
  · rw [if_neg h0]
    have hn : 0 < g.spaceDim := by
      by_contra h; exact h0 (Or.inl (by omega))
    have he : g.st.empty = false := by
      cases he : g.st.empty with
      | false => rfl
      | true => exact absurd (Or.inr he) h0
    simp only [show (if (!g.generatorsAreUpToDate) = true then updateGenerators g else (g, true)) = gn_incX g from rfl]
    obtain ⟨a, b, c, d, e⟩ := gn_incX_spec g hI he hn
    cases h2 : (gn_incX g).2 with
    | false =>
      simp only [Bool.not_false, if_true]
      exact ⟨a, b, c, ⟨fun _ => by rw [e h2]; exact Set.subsingleton_empty, fun _ => trivial⟩⟩
    | true =>
      simp only [Bool.not_true, Bool.false_eq_true, if_false]
      obtain ⟨g1, g2⟩ := d h2
      obtain ⟨_, w, N, s⟩ := gn_sem_of_gUp a (by rw [c]; exact hn) g1 g2
      by_cases hlen : (gn_incX g).1.gen.length > 1
      · rw [if_pos hlen]
        refine ⟨a, b, c, ?_⟩
        rw [← b, s]
        exact gn_bounded_rows N w
      · rw [if_neg hlen]
        refine ⟨a, b, c, ⟨fun _ => ?_, fun _ => rfl⟩⟩
        rw [← b, s]
        obtain ⟨p, hp, pp⟩ := (gn_wf_of_gnorm N w).pt
        have hrows : (gn_incX g).1.gen = [p] := by
          cases hg : (gn_incX g).1.gen with
          | nil => rw [hg] at hp; cases hp
          | cons x l =>
            rw [hg] at hlen hp
            have : l = [] := by
              cases l with
              | nil => rfl
              | cons y l' => simp at hlen
            subst this
            rw [List.mem_singleton.mp hp]
        rw [hrows, gn_set_single_pt p pp]
        exact Set.subsingleton_singleton

end PPLV.Lattice.GO

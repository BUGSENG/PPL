import PPLV.Lattice.ProofsConvGCInit

/-!
# `Grid::conversion` (generators → congruences): what the two inner loops of one `dim` do to the rows

* `divPhase_spec`: the loop of `multiply_grid` + exact division of column `dim` (Grid_conversion.cc:255-266);
* `colPhase_spec`: the loop over `dim_prec` subtracting multiples of column `dim` (Grid_conversion.cc:279-301).
-/
namespace PPLV.Lattice.Red

/-- entry `k` of row `i` -/
def ent (T : List CRow) (i k : Nat) : Int := get (rowAt T i).e k

/-! ### the column phase -/

def subOp (s : Int) (dim p : Nat) (c : CRow) : CRow := { c with e := c.e.set p (get c.e p - s * get c.e dim) }

theorem gcSubRow_eq (s : Int) (dim p : Nat) : gcSubRow s dim p = fun d i => d.set i (subOp s dim p (rowAt d i)) := rfl

def gcColStep (source : List GRow) (dk : List Nat) (dim destIndex : Nat) (s : Nat × List CRow) (dimPrec : Nat) :
    Nat × List CRow :=
  if kind dk dimPrec ≠ GEN_VIRTUAL then
    let tsi := s.1 - 1
    let sourceDim := get (rowAt source tsi).e dim
    (tsi, (dimsDown destIndex).foldl (gcSubRow sourceDim dim dimPrec) s.2)
  else s

/-- the rows after the column phase -/
structure ColSpec (source : List GRow) (dk : List Nat) (dim K : Nat) (T T2 : List CRow) : Prop where
  len : T2.length = T.length
  m : ∀ i, i < T.length → (rowAt T2 i).m = (rowAt T i).m
  elen : ∀ i, i < T.length → (rowAt T2 i).e.length = (rowAt T i).e.length
  ent : ∀ i, i < T.length → ∀ k, ent T2 i k =
    if i < K ∧ k < dim ∧ nvB dk k = true then ent T i k - sEnt source (nv dk k) dim * ent T i dim else ent T i k

theorem colPhase_spec (source : List GRow) (dk : List Nat) (dims dim K : Nat) (T : List CRow) (hd : dim < dims)
    (hrows : ∀ i, i < T.length → (rowAt T i).e.length = dims) :
    ((dimsDown dim).foldl (gcColStep source dk dim K) (nv dk dim, T)).1 = nv dk 0 ∧
    ColSpec source dk dim K T ((dimsDown dim).foldl (gcColStep source dk dim K) (nv dk dim, T)).2 := by
  have key := foldl_dimsDown_inv (gcColStep source dk dim K)
    (fun p s => s.1 = nv dk p ∧ s.2.length = T.length ∧
      (∀ i, i < T.length → (rowAt s.2 i).m = (rowAt T i).m) ∧
      (∀ i, i < T.length → (rowAt s.2 i).e.length = (rowAt T i).e.length) ∧
      ∀ i, i < T.length → ∀ k, ent s.2 i k =
        if i < K ∧ p ≤ k ∧ k < dim ∧ nvB dk k = true then ent T i k - sEnt source (nv dk k) dim * ent T i dim
        else ent T i k) dim (nv dk dim, T) ?_ ?_
  · obtain ⟨h1, h2, h3, h4, h5⟩ := key
    refine ⟨h1, h2, h3, h4, fun i hi k => ?_⟩
    rw [h5 i hi k]; simp
  · refine ⟨rfl, rfl, fun _ _ => rfl, fun _ _ => rfl, fun i _ k => ?_⟩
    rw [if_neg (by omega)]
  · rintro p s hp ⟨h1, h2, h3, h4, h5⟩
    unfold gcColStep
    by_cases hv : kind dk p = GEN_VIRTUAL
    · have hvb : nvB dk p = false := by simp [nvB, hv]
      simp only [hv, ne_eq, not_true_eq_false, if_false]
      refine ⟨h1.trans (cntBelow_succ_neg _ p hvb), h2, h3, h4, fun i hi k => ?_⟩
      rw [h5 i hi k]
      by_cases hkp : k = p
      · subst hkp; simp [hvb]
      · by_cases hc : i < K ∧ p + 1 ≤ k ∧ k < dim ∧ nvB dk k = true
        · rw [if_pos hc, if_pos ⟨hc.1, by omega, hc.2.2.1, hc.2.2.2⟩]
        · rw [if_neg hc, if_neg (fun h => hc ⟨h.1, by omega, h.2.2.1, h.2.2.2⟩)]
    · have hvb : nvB dk p = true := by simp [nvB, hv]
      have hsi : s.1 - 1 = nv dk p := by rw [h1.trans (cntBelow_succ_pos _ p hvb)]; rfl
      simp only [hv, ne_eq, not_false_eq_true, if_true]
      rw [hsi, gcSubRow_eq]
      obtain ⟨f1, f2⟩ := foldl_rowop (subOp (get (rowAt source (nv dk p)).e dim) dim p) K s.2
      refine ⟨rfl, by rw [f1, h2], fun i hi => ?_, fun i hi => ?_, fun i hi k => ?_⟩
      · rw [f2 i]; split
        · exact h3 i hi
        · exact h3 i hi
      · rw [f2 i]; split
        · simp only [subOp, List.length_set]; exact h4 i hi
        · exact h4 i hi
      · simp only [ent]
        rw [f2 i]
        have hlen : p < (rowAt s.2 i).e.length := by rw [h4 i hi, hrows i hi]; omega
        by_cases hiK : i < K
        · rw [if_pos ⟨hiK, by omega⟩]
          simp only [subOp]
          rw [get_set]
          by_cases hkp : k = p
          · subst hkp
            rw [if_pos ⟨rfl, hlen⟩, if_pos ⟨hiK, Nat.le_refl _, hp, hvb⟩]
            have a1 := h5 i hi k
            have a2 := h5 i hi dim
            rw [if_neg (by omega)] at a1 a2
            simp only [ent] at a1 a2
            rw [a1, a2]; rfl
          · rw [if_neg (by omega)]
            have a1 := h5 i hi k
            simp only [ent] at a1
            rw [a1]
            by_cases hc : i < K ∧ p + 1 ≤ k ∧ k < dim ∧ nvB dk k = true
            · rw [if_pos hc, if_pos ⟨hc.1, by omega, hc.2.2.1, hc.2.2.2⟩]
            · rw [if_neg hc, if_neg (fun h => hc ⟨h.1, by omega, h.2.2.1, h.2.2.2⟩)]
        · rw [if_neg (by omega)]
          have a1 := h5 i hi k
          simp only [ent] at a1
          rw [a1, if_neg (by omega), if_neg (by omega)]

/-! ### `multiply_grid` -/

/-- `c'` is `c` scaled by `f` -/
structure Scaled (c c' : CRow) (f : Int) : Prop where
  m : c'.m = c.m * f
  elen : c'.e.length = c.e.length
  get : ∀ k, get c'.e k = get c.e k * f

theorem Scaled.refl (c : CRow) : Scaled c c 1 := ⟨by simp, rfl, fun k => by simp⟩
theorem Scaled.scale (c : CRow) (f : Int) : Scaled c (c.scale f) f := ⟨scale_m c f, scale_length c f, scale_get c f⟩

theorem multiplyGridCg_spec (mult : Int) (hm : 0 < mult) (T : List CRow) (r N : Nat) (hN : T.length ≤ N) :
    (multiplyGridCg mult T r N).length = T.length ∧
    ∃ g : Int, 0 < g ∧ ∀ i, i < T.length → ∃ gi : Int, 0 < gi ∧ (0 < (rowAt T i).m → gi = g) ∧ (i = r → gi = mult) ∧
      Scaled (rowAt T i) (rowAt (multiplyGridCg mult T r N) i) gi := by
  unfold multiplyGridCg
  by_cases h1 : mult = 1
  · rw [if_pos h1]
    exact ⟨rfl, 1, by omega, fun i _ => ⟨1, by omega, fun _ => rfl, fun _ => h1.symm, Scaled.refl _⟩⟩
  · simp only [h1, if_false]
    by_cases hp : (rowAt T r).isProperCongruence = true
    · simp only [hp, if_true]
      refine ⟨by simp, mult, hm, fun i hi => ?_⟩
      rw [rowAt_mapIdx T _ i hi]
      by_cases hpi : (rowAt T i).isProperCongruence = true
      · rw [if_pos ⟨by omega, hpi⟩]
        exact ⟨mult, hm, fun _ => rfl, fun _ => rfl, Scaled.scale _ _⟩
      · rw [if_neg (fun h => hpi h.2)]
        refine ⟨1, by omega, fun h => ?_, fun h => ?_, Scaled.refl _⟩
        · exact absurd (by simpa [CRow.isProperCongruence] using h) hpi
        · subst h; exact absurd hp hpi
    · simp only [hp, Bool.false_eq_true, if_false]
      refine ⟨by simp, 1, by omega, fun i hi => ?_⟩
      rw [rowAt_set]
      by_cases hir : i = r
      · subst hir
        rw [if_pos ⟨rfl, hi⟩]
        refine ⟨mult, hm, fun h => ?_, fun _ => rfl, Scaled.scale _ _⟩
        exact absurd (by simpa [CRow.isProperCongruence] using h) hp
      · rw [if_neg (fun h => hir h.1)]
        exact ⟨1, by omega, fun _ => rfl, fun h => absurd h hir, Scaled.refl _⟩

/-! ### the division phase -/

/-- rows `lo ≤ i < K` have been treated -/
structure DivSpec (a : Int) (e lo K : Nat) (T T1 : List CRow) : Prop where
  len : T1.length = T.length
  ex : ∃ f : Int, 0 < f ∧ ∀ i, i < T.length → ∃ fi : Int, 0 < fi ∧ (0 < (rowAt T i).m → fi = f) ∧
    (rowAt T1 i).m = (rowAt T i).m * fi ∧ (rowAt T1 i).e.length = (rowAt T i).e.length ∧
    (∀ k, (k ≠ e ∨ ¬(lo ≤ i ∧ i < K)) → ent T1 i k = ent T i k * fi) ∧
    (lo ≤ i → i < K → ent T1 i e * a = ent T i e * fi)

theorem divPhase_spec (a : Int) (ha : 0 < a) (e K N : Nat) (T : List CRow) (hN : T.length = N) :
    DivSpec a e 0 K T ((dimsDown K).foldl (gcDivideRow a e N) T) := by
  refine foldl_dimsDown_inv (gcDivideRow a e N) (fun lo cur => DivSpec a e lo K T cur) K T ?_ ?_
  · refine ⟨rfl, 1, by omega, fun i _ => ⟨1, by omega, fun _ => rfl, by simp, rfl, fun k _ => by simp, fun h1 h2 => by omega⟩⟩
  · rintro r cur hr ⟨hl, f, hf, hrow⟩
    unfold gcDivideRow
    obtain ⟨hmpos, hexact⟩ := exact_mul (get (rowAt cur r).e e) a ha
    obtain ⟨ml, g, hg, hmul⟩ := multiplyGridCg_spec _ hmpos cur r N (by omega)
    refine ⟨by simp [ml, hl], f * g, Int.mul_pos hf hg, fun i hi => ?_⟩
    obtain ⟨fi, hfi, c1, c2, c3, c4, c5⟩ := hrow i hi
    obtain ⟨gi, hgi, d1, d2, d3⟩ := hmul i (by omega)
    refine ⟨fi * gi, Int.mul_pos hfi hgi, fun hp => ?_, ?_, ?_, ?_, ?_⟩
    · have hpc : 0 < (rowAt cur i).m := by rw [c2]; exact Int.mul_pos hp hfi
      rw [c1 hp, d1 hpc]
    · rw [rowAt_set]
      by_cases hir : i = r
      · subst hir
        rw [if_pos ⟨rfl, by rw [ml]; omega⟩]
        simp only []
        rw [d3.m, c2]; ring
      · rw [if_neg (fun h => hir h.1), d3.m, c2]; ring
    · rw [rowAt_set]
      by_cases hir : i = r
      · subst hir
        rw [if_pos ⟨rfl, by rw [ml]; omega⟩]
        simp only [length_exactDivAssign]
        rw [d3.elen, c3]
      · rw [if_neg (fun h => hir h.1), d3.elen, c3]
    · intro k hk
      simp only [ent]
      rw [rowAt_set]
      by_cases hir : i = r
      · subst hir
        rw [if_pos ⟨rfl, by rw [ml]; omega⟩]
        simp only []
        rw [get_exactDivAssign]
        have hke : k ≠ e := by
          rcases hk with h | h
          · exact h
          · exact absurd ⟨Nat.le_refl _, hr⟩ h
        rw [if_neg (by omega), d3.get k]
        have := c4 k (Or.inl hke)
        simp only [ent] at this
        rw [this]; ring
      · rw [if_neg (fun h => hir h.1), d3.get k]
        have := c4 k (by
          rcases hk with h | h
          · exact Or.inl h
          · exact Or.inr (by omega))
        simp only [ent] at this
        rw [this]; ring
    · intro h1 h2
      simp only [ent]
      rw [rowAt_set]
      by_cases hir : i = r
      · subst hir
        rw [if_pos ⟨rfl, by rw [ml]; omega⟩]
        simp only []
        rw [get_exactDivAssign, if_pos ⟨Nat.le_refl _, by omega⟩, d3.get e, d2 rfl, hexact]
        have := c4 e (Or.inr (by omega))
        simp only [ent] at this
        rw [this]; ring
      · rw [if_neg (fun h => hir h.1), d3.get e]
        have := c5 (by omega) h2
        simp only [ent] at this
        calc get (rowAt cur i).e e * gi * a = (get (rowAt cur i).e e * a) * gi := by ring
          _ = (get (rowAt T i).e e * fi) * gi := by rw [this]
          _ = get (rowAt T i).e e * (fi * gi) := by ring

end PPLV.Lattice.Red

import PPLV.Lattice.Model
import PPLV.Lattice.ProofsAbs
import Mathlib.Algebra.Module.Pi
import Mathlib.Algebra.Order.Field.Rat
import Mathlib.Data.Rat.Lemmas

/-!
# K2: list vectors as valuations; bridge from the executable model to the abstract theory
-/
namespace PPLV.Lattice
open List

/-! ### `toFun` -/

@[simp] theorem toFun_nil : Vec.toFun [] = 0 := by funext i; simp [Vec.toFun]
@[simp] theorem toFun_cons_zero (a : Rat) (v : Vec) : Vec.toFun (a :: v) 0 = a := rfl
@[simp] theorem toFun_cons_succ (a : Rat) (v : Vec) (i : Nat) : Vec.toFun (a :: v) (i+1) = v.toFun i := rfl
@[simp] theorem toFun_cons_tail (a : Rat) (v : Vec) : (Vec.toFun (a :: v)).tail = v.toFun := rfl

theorem toFun_apply (v : Vec) (i : Nat) : v.toFun i = v.getD i 0 := rfl

theorem toFun_of_length_le (v : Vec) (i : Nat) (h : v.length ≤ i) : v.toFun i = 0 := by
  simp [Vec.toFun, List.getElem?_eq_none h]

theorem toFun_vadd (u v : Vec) : (vadd u v).toFun = u.toFun + v.toFun := by
  induction u generalizing v with
  | nil => simp [vadd]
  | cons a u ih =>
    cases v with
    | nil => simp [vadd]
    | cons b v =>
      funext i
      cases i with
      | zero => simp [vadd]
      | succ i => simp [vadd, ih v]

theorem toFun_vsmul (c : Rat) (v : Vec) : (vsmul c v).toFun = c • v.toFun := by
  induction v with
  | nil => simp [vsmul]
  | cons a v ih =>
    funext i
    cases i with
    | zero => simp [vsmul]
    | succ i =>
      have := congrFun ih i
      simp only [vsmul] at this
      simp [vsmul, this]

theorem toFun_vsub (u v : Vec) : (vsub u v).toFun = u.toFun - v.toFun := by
  simp [vsub, toFun_vadd, toFun_vsmul, sub_eq_add_neg]

theorem toFun_vaxpy (x : Vec) (c : Rat) (q : Vec) : (vaxpy x c q).toFun = x.toFun + c • q.toFun := by
  simp [vaxpy, toFun_vadd, toFun_vsmul]

theorem axpy_eq (x : Pt) (c : Rat) (q : Pt) : x.axpy c q = x + c • q := by
  funext i; simp [Pt.axpy]

theorem isZero_iff (v : Vec) : v.isZero = true ↔ v.toFun = 0 := by
  induction v with
  | nil => simp [Vec.isZero]
  | cons a v ih =>
    simp only [Vec.isZero, List.all_cons, Bool.and_eq_true, beq_iff_eq] at ih ⊢
    rw [ih]
    constructor
    · rintro ⟨h1, h2⟩; funext i
      cases i with
      | zero => simpa using h1
      | succ i => simpa using congrFun h2 i
    · intro h
      refine ⟨by simpa using congrFun h 0, ?_⟩
      funext i; simpa using congrFun h (i+1)

theorem length_vadd (u v : Vec) : (vadd u v).length = max u.length v.length := by
  induction u generalizing v with
  | nil => simp [vadd]
  | cons a u ih =>
    cases v with
    | nil => simp [vadd]
    | cons b v => simp [vadd, ih v]

@[simp] theorem length_vsmul (c : Rat) (v : Vec) : (vsmul c v).length = v.length := by simp [vsmul]

theorem length_vsub (u v : Vec) : (vsub u v).length = max u.length v.length := by
  simp [vsub, length_vadd]

theorem length_vaxpy (x : Vec) (c : Rat) (q : Vec) : (vaxpy x c q).length = max x.length q.length := by
  simp [vaxpy, length_vadd]

/-! ### `dot`, `dotF` -/

@[simp] theorem dotF_nil (x : Pt) : dotF [] x = 0 := rfl
@[simp] theorem dotF_cons (a : Rat) (as : Vec) (x : Pt) : dotF (a :: as) x = a * x 0 + dotF as x.tail := rfl

theorem tail_add (x y : Pt) : Pt.tail (x + y) = Pt.tail x + Pt.tail y := rfl
theorem tail_smul (c : Rat) (x : Pt) : Pt.tail (c • x) = c • Pt.tail x := rfl

theorem dotF_add (a : Vec) (x y : Pt) : dotF a (x + y) = dotF a x + dotF a y := by
  induction a generalizing x y with
  | nil => simp
  | cons c a ih => simp only [dotF_cons, tail_add, ih, Pi.add_apply]; ring

theorem dotF_smul (a : Vec) (c : Rat) (x : Pt) : dotF a (c • x) = c * dotF a x := by
  induction a generalizing x with
  | nil => simp
  | cons d a ih => simp only [dotF_cons, tail_smul, ih, Pi.smul_apply, smul_eq_mul]; ring

theorem dot_eq_dotF (a v : Vec) : dot a v = dotF a v.toFun := by
  induction a generalizing v with
  | nil => cases v <;> simp [dot]
  | cons c a ih =>
    cases v with
    | nil =>
      simp only [dot, toFun_nil, dotF_cons, Pi.zero_apply, mul_zero, zero_add]
      have : Pt.tail (0 : Pt) = (0 : Pt) := rfl
      rw [this]
      have h0 : (0 : Pt) = (0 : Rat) • (0 : Pt) := by simp
      rw [h0, dotF_smul]; simp
    | cons b v => simp [dot, ih v]

/-- the linear form `x ↦ Σ aᵢ xᵢ` -/
def alphaOf (a : Vec) : Pt →ₗ[ℚ] ℚ where
  toFun := dotF a
  map_add' := dotF_add a
  map_smul' := by intro c x; simp [dotF_smul]

@[simp] theorem alphaOf_apply (a : Vec) (x : Pt) : alphaOf a x = dotF a x := rfl
theorem alphaOf_toFun (a v : Vec) : alphaOf a v.toFun = dot a v := (dot_eq_dotF a v).symm

theorem dotF_agree (a : Vec) (x y : Pt) (h : ∀ i < a.length, x i = y i) : dotF a x = dotF a y := by
  induction a generalizing x y with
  | nil => rfl
  | cons c a ih =>
    simp only [dotF_cons]
    rw [h 0 (by simp), ih x.tail y.tail (fun i hi => h (i+1) (by simpa using hi))]

theorem dotF_unit (i : Nat) (x : Pt) : dotF (unit i) x = x i := by
  induction i generalizing x with
  | zero => simp [unit]
  | succ i ih =>
    have : unit (i+1) = 0 :: unit i := by simp [unit, List.replicate_succ]
    rw [this, dotF_cons, ih]; simp [Pt.tail]

theorem toFun_unit (i j : Nat) : (unit i).toFun j = if j = i then 1 else 0 := by
  induction i generalizing j with
  | zero =>
    cases j with
    | zero => simp [unit]
    | succ j => simp [unit, Vec.toFun]
  | succ i ih =>
    have : unit (i+1) = 0 :: unit i := by simp [unit, List.replicate_succ]
    rw [this]
    cases j with
    | zero => simp
    | succ j => simp [ih]

@[simp] theorem length_unit (i : Nat) : (unit i).length = i + 1 := by simp [unit]

/-! ### bridge to the abstract grids -/

def toAbs (g : Gens) : Abs.Grid Pt :=
  { pt := g.pt.toFun, params := g.params.map Vec.toFun, lines := g.lines.map Vec.toFun }

theorem mem_iff_abs (g : Gens) (x : Pt) : g.Mem x ↔ Abs.Mem (toAbs g) x := by
  constructor
  · intro h
    induction h with
    | pt => exact Abs.Mem.pt
    | param k hq _ ih =>
      rw [axpy_eq]; exact Abs.Mem.param k (List.mem_map_of_mem hq) ih
    | line c hl _ ih =>
      rw [axpy_eq]; exact Abs.Mem.line c (List.mem_map_of_mem hl) ih
  · intro h
    induction h with
    | pt => exact Gens.Mem.pt
    | param k hq _ ih =>
      obtain ⟨q, hq', rfl⟩ := List.mem_map.mp hq
      rw [← axpy_eq]; exact Gens.Mem.param k hq' ih
    | line c hl _ ih =>
      obtain ⟨l, hl', rfl⟩ := List.mem_map.mp hl
      rw [← axpy_eq]; exact Gens.Mem.line c hl' ih

/-- directions of a concrete generator system -/
def GDir (P L : List Vec) (v : Pt) : Prop := Abs.Dir (P.map Vec.toFun) (L.map Vec.toFun) v

theorem mem_iff_gdir (g : Gens) (x : Pt) : g.Mem x ↔ GDir g.params g.lines (x - g.pt.toFun) := by
  rw [mem_iff_abs, Abs.mem_iff_dir]; rfl

/-- membership only depends on the point and the set of directions -/
theorem mem_congr_dir (g h : Gens) (hpt : g.pt.toFun = h.pt.toFun)
    (hd : ∀ v, GDir g.params g.lines v ↔ GDir h.params h.lines v) (x : Pt) : g.Mem x ↔ h.Mem x := by
  rw [mem_iff_gdir, mem_iff_gdir, hpt, hd]

namespace GDir
variable {A B R R' L : List Vec}

theorem append_congr (h : ∀ v, GDir A L v ↔ GDir B L v) (h' : ∀ v, GDir R L v ↔ GDir R' L v)
    (v : Pt) : GDir (A ++ R) L v ↔ GDir (B ++ R') L v := by
  unfold GDir; rw [List.map_append, List.map_append]; exact Abs.Dir.append_congr h h' v

theorem congr_mem (h : ∀ q, q ∈ A ↔ q ∈ B) (v : Pt) : GDir A L v ↔ GDir B L v :=
  Abs.Dir.congr_mem (fun q => by simp only [List.mem_map, h]) v

end GDir

theorem gdir_dropZero (P L : List Vec) (v : Pt) :
    GDir (dropZero P) (dropZero L) v ↔ GDir P L v := by
  constructor
  · intro h
    refine Abs.Dir.mono_subset ?_ ?_ h
    · intro q hq
      obtain ⟨w, hw, rfl⟩ := List.mem_map.mp hq
      exact List.mem_map_of_mem (List.mem_filter.mp hw).1
    · intro q hq
      obtain ⟨w, hw, rfl⟩ := List.mem_map.mp hq
      exact List.mem_map_of_mem (List.mem_filter.mp hw).1
  · intro h
    have key : ∀ (X : List Vec) (q : Pt), q ∈ X.map Vec.toFun → q = 0 ∨ q ∈ (dropZero X).map Vec.toFun := by
      intro X q hq
      obtain ⟨w, hw, rfl⟩ := List.mem_map.mp hq
      by_cases hz : w.isZero = true
      · left; exact (isZero_iff w).mp hz
      · right; exact List.mem_map_of_mem (List.mem_filter.mpr ⟨hw, by simp [hz]⟩)
    exact Abs.Dir.mono_subset0 (key P) (key L) h

theorem maxLenL_le_iff (X : List Vec) (n : Nat) : maxLenL X ≤ n ↔ ∀ v ∈ X, v.length ≤ n := by
  induction X with
  | nil => simp [maxLenL]
  | cons a X ih =>
    simp only [maxLenL, List.foldr_cons, List.forall_mem_cons, Nat.max_le] at ih ⊢
    rw [ih]

/-- support: all members vanish beyond the longest generator -/
theorem mem_supp (g : Gens) (n : Nat) (hn : g.maxLen ≤ n) (x : Pt) (h : g.Mem x) : Supp n x := by
  simp only [Gens.maxLen, Nat.max_le, maxLenL_le_iff] at hn
  induction h with
  | pt => intro i hi; exact toFun_of_length_le _ _ (by omega)
  | @param y q k hq _ ih =>
    intro i hi
    have := hn.2.1 q hq
    simp [Pt.axpy, ih i hi, toFun_of_length_le q i (by omega)]
  | @line y l c hl _ ih =>
    intro i hi
    have := hn.2.2 l hl
    simp [Pt.axpy, ih i hi, toFun_of_length_le l i (by omega)]

end PPLV.Lattice

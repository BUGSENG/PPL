import PPLV.Lattice.ProofsRedCgEval

/-!
# `Grid::simplify(Congruence_System&)`: the single steps keep the solution set

Entry-wise descriptions of `reduce_equality_with_equality`, `reduce_congruence_with_equality`,
`reduce_pc_with_pc`, `negate`, `Congruence::scale`, `normalize_moduli`, and what they do to `Sol`.
-/
namespace PPLV.Lattice.Red

/-! ### small facts -/

/-- a combination on the columns `[0, e)` is the combination of the whole rows when the rows vanish from `e` on -/
theorem get_linearCombine_full (x y : Row) (c1 c2 : Int) (e : Nat) (hl : y.length = x.length)
    (hy : ∀ i, e ≤ i → get y i = 0) (hx : c1 = 1 ∨ ∀ i, e ≤ i → get x i = 0) (i : Nat) :
    get (linearCombine x y c1 c2 0 e) i = c1 * get x i + c2 * get y i := by
  rw [get_linearCombine]
  by_cases h : i < x.length ∧ 0 ≤ i ∧ i < e
  · rw [if_pos h]
  · rw [if_neg h]
    by_cases h1 : i < x.length
    · have h2 : e ≤ i := by
        by_contra hc; exact h ⟨h1, Nat.zero_le _, by omega⟩
      rw [hy i h2]
      rcases hx with hx | hx
      · rw [hx]; ring
      · rw [hx i h2]; ring
    · rw [get_of_length_le x i (by omega), get_of_length_le y i (by omega)]; ring

theorem get_negate_full (x : Row) (e : Nat) (hx : ∀ i, e ≤ i → get x i = 0) (i : Nat) :
    get (negate x 0 e) i = -1 * get x i := by
  rw [get_negate]
  by_cases h : 0 ≤ i ∧ i < e
  · rw [if_pos h]; ring
  · rw [if_neg h, hx i (by omega)]; ring

/-- exact divisions by the gcd -/
theorem gcd_div_cancel (a b : Int) (ha : a ≠ 0) :
    (a / gcdI a b) * b - (b / gcdI a b) * a = 0 ∧ a / gcdI a b ≠ 0 := by
  obtain ⟨P, R, hP, hR, hP0, h, -⟩ := red_cols a b ha
  rw [hP, hR]; exact ⟨h, hP0⟩

/-- Bézout coefficients and cofactors: determinant 1 -/
theorem gcd_bezout_det (a b s t : Int) (ha : a ≠ 0) (h : s * a + t * b = (Int.gcd a b : Int)) :
    s * (a / gcdI a b) + t * (b / gcdI a b) = 1 := by
  obtain ⟨P, R, hP, hR, -, -, ea, eb, hg⟩ := red_cols a b ha
  rw [hP, hR]
  refine mul_left_cancel₀ hg ?_
  change s * a + t * b = gcdI a b at h
  rw [mul_one]
  calc gcdI a b * (s * P + t * R) = s * (gcdI a b * P) + t * (gcdI a b * R) := by ring
    _ = gcdI a b := by rw [← ea, ← eb, h]

/-! ### `Sol` under a change of several rows -/

theorem Sol_congr_rows (sys sys' : List CRow) (x : Pt) (hlen : sys'.length = sys.length) (pi : Nat)
    (hpi : pi < sys.length) (hsame : rowAt sys' pi = rowAt sys pi)
    (h : ∀ i, i < sys.length → rsem (rowAt sys pi) x → (rsem (rowAt sys' i) x ↔ rsem (rowAt sys i) x)) :
    Sol sys' x ↔ Sol sys x := by
  unfold Sol
  rw [hlen]
  constructor
  · intro hs i hi
    have hp := hs pi hpi
    rw [hsame] at hp
    exact (h i hi hp).mp (hs i hi)
  · intro hs i hi
    exact (h i hi (hs pi hpi)).mpr (hs i hi)

theorem Sol_congr_all (sys sys' : List CRow) (x : Pt) (hlen : sys'.length = sys.length)
    (h : ∀ i, i < sys.length → (rsem (rowAt sys' i) x ↔ rsem (rowAt sys i) x)) :
    Sol sys' x ↔ Sol sys x := by
  unfold Sol
  rw [hlen]
  constructor
  · intro hs i hi; exact (h i hi).mp (hs i hi)
  · intro hs i hi; exact (h i hi).mpr (hs i hi)

/-! ### scaling -/

/-- `r'` is `r` multiplied by `f` (entries and modulus) -/
def ScaledBy (r' r : CRow) (f : Int) : Prop :=
  r'.m = r.m * f ∧ r'.e.length = r.e.length ∧ ∀ j, get r'.e j = f * get r.e j

theorem scaledBy_one (r : CRow) : ScaledBy r r 1 := ⟨by ring, rfl, fun j => by ring⟩

theorem scale_spec (r : CRow) (f : Int) : ScaledBy (r.scale f) r f := by
  unfold CRow.scale
  split
  · next h => rw [h]; exact scaledBy_one r
  · exact ⟨rfl, by simp, fun j => by rw [get_mulAll]; ring⟩

theorem ScaledBy.rsem {r' r : CRow} {f : Int} (h : ScaledBy r' r f) (hf : f ≠ 0) (x : Pt) : rsem r' x ↔ rsem r x :=
  rsem_scaled r r' f x hf (evalRow_smul _ _ f x h.2.1 h.2.2) h.1

/-! ### `normalize_moduli` -/

/-- the lcm computed by `normalize_moduli` -/
def lcmModuli (rows : List CRow) : Int :=
  rows.foldr (fun r l => if r.m > 0 then (if l = 0 then r.m else lcmI l r.m) else l) 0

theorem lcmModuli_spec (rows : List CRow) :
    0 ≤ lcmModuli rows ∧ ∀ r ∈ rows, 0 < r.m → 0 < lcmModuli rows ∧ r.m ∣ lcmModuli rows := by
  induction rows with
  | nil => simp [lcmModuli]
  | cons r rs ih =>
    obtain ⟨ih1, ih2⟩ := ih
    have e : lcmModuli (r :: rs) =
        if r.m > 0 then (if lcmModuli rs = 0 then r.m else lcmI (lcmModuli rs) r.m) else lcmModuli rs := rfl
    rw [e]
    by_cases hr : r.m > 0
    · rw [if_pos hr]
      by_cases hl : lcmModuli rs = 0
      · rw [if_pos hl]
        refine ⟨by omega, ?_⟩
        intro r' hr' hpos
        rcases List.mem_cons.mp hr' with rfl | hmem
        · exact ⟨hr, dvd_refl _⟩
        · have := (ih2 r' hmem hpos).1; omega
      · rw [if_neg hl]
        have hne : lcmI (lcmModuli rs) r.m ≠ 0 := by
          unfold lcmI
          intro h
          have h' : Int.lcm (lcmModuli rs) r.m = 0 := by exact_mod_cast h
          rcases Int.lcm_eq_zero_iff.mp h' with h1 | h1
          · exact hl h1
          · omega
        have hnn : 0 ≤ lcmI (lcmModuli rs) r.m := by unfold lcmI; exact Int.natCast_nonneg _
        refine ⟨hnn, ?_⟩
        intro r' hr' hpos
        refine ⟨by omega, ?_⟩
        rcases List.mem_cons.mp hr' with rfl | hmem
        · exact Int.dvd_lcm_right _ _
        · exact dvd_trans (ih2 r' hmem hpos).2 (Int.dvd_lcm_left _ _)
    · rw [if_neg hr]
      refine ⟨ih1, ?_⟩
      intro r' hr' hpos
      rcases List.mem_cons.mp hr' with rfl | hmem
      · exact absurd hpos hr
      · exact ih2 r' hmem hpos

/-- `normalize_moduli` keeps the solution set; afterwards all proper congruences have one modulus -/
theorem normalizeModuli_spec (n : Nat) (rows : List CRow) (hwf : RWf n rows) :
    (normalizeModuli rows).length = rows.length ∧ RWf n (normalizeModuli rows) ∧
      (∃ M, SameMod (normalizeModuli rows) M) ∧ ∀ x, Sol (normalizeModuli rows) x ↔ Sol rows x := by
  obtain ⟨hL0, hL⟩ := lcmModuli_spec rows
  have e : normalizeModuli rows =
      if lcmModuli rows = 0 then rows
      else rows.map fun r => if r.m ≤ 0 ∨ r.m = lcmModuli rows then r else r.scale (lcmModuli rows / r.m) := rfl
  rw [e]
  by_cases h0 : lcmModuli rows = 0
  · rw [if_pos h0]
    refine ⟨rfl, hwf, ⟨1, by norm_num, ?_⟩, fun x => Iff.rfl⟩
    intro i hi
    left
    have h1 := (hwf i hi).2
    by_contra hne
    have := (hL _ (rowAt_mem rows i hi) (by omega)).1
    omega
  · rw [if_neg h0]
    have hLpos : 0 < lcmModuli rows := by omega
    -- what happens to one row of the system
    have key : ∀ i, i < rows.length →
        ∃ f : Int, 0 < f ∧ ScaledBy (rowAt (rows.map fun r => if r.m ≤ 0 ∨ r.m = lcmModuli rows then r
          else r.scale (lcmModuli rows / r.m)) i) (rowAt rows i) f ∧
          ((rowAt rows i).m = 0 ∨ (rowAt rows i).m * f = lcmModuli rows) := by
      intro i hi
      rw [rowAt_map _ _ _ hi]
      have hm := (hwf i hi).2
      by_cases hc : (rowAt rows i).m ≤ 0 ∨ (rowAt rows i).m = lcmModuli rows
      · rw [if_pos hc]
        refine ⟨1, by norm_num, scaledBy_one _, ?_⟩
        rcases hc with hc | hc
        · left; omega
        · right; rw [hc]; ring
      · rw [if_neg hc]
        have hpos : 0 < (rowAt rows i).m := by
          by_contra hh; exact hc (Or.inl (by omega))
        have hdvd := (hL _ (rowAt_mem rows i hi) hpos).2
        refine ⟨lcmModuli rows / (rowAt rows i).m, Int.ediv_pos_of_pos_of_dvd hLpos hm hdvd, scale_spec _ _, ?_⟩
        right; exact Int.mul_ediv_cancel' hdvd
    refine ⟨by simp, ?_, ⟨lcmModuli rows, hLpos, ?_⟩, ?_⟩
    · intro i hi
      have hi' : i < rows.length := by simpa using hi
      obtain ⟨f, hf, hs, _⟩ := key i hi'
      have := hwf i hi'
      refine ⟨by rw [hs.2.1]; exact this.1, ?_⟩
      rw [hs.1]; exact Int.mul_nonneg this.2 (by omega)
    · intro i hi
      have hi' : i < rows.length := by simpa using hi
      obtain ⟨f, hf, hs, hm⟩ := key i hi'
      rw [hs.1]
      rcases hm with hm | hm
      · left; rw [hm]; ring
      · right; exact hm
    · intro x
      apply Sol_congr_all _ _ x (by simp)
      intro i hi
      obtain ⟨f, hf, hs, _⟩ := key i hi
      exact hs.rsem (by omega) x

/-! ### `reduce_equality_with_equality` -/

theorem reduceEqualityWithEquality_spec (row pivot : CRow) (dim : Nat)
    (hl : pivot.e.length = row.e.length)
    (hrz : ∀ j, dim < j → get row.e j = 0) (hpz : ∀ j, dim < j → get pivot.e j = 0)
    (hpc : get pivot.e dim ≠ 0) :
    let r' := reduceEqualityWithEquality row pivot dim
    r'.m = row.m ∧ r'.e.length = row.e.length ∧
      ∃ a b : Int, a ≠ 0 ∧ (∀ j, get r'.e j = a * get row.e j + b * get pivot.e j) ∧ get r'.e dim = 0 := by
  intro r'
  obtain ⟨hc1, hc2⟩ := gcd_div_cancel (get pivot.e dim) (get row.e dim) hpc
  have hent : ∀ j, get r'.e j = (get pivot.e dim / gcdI (get pivot.e dim) (get row.e dim)) * get row.e j
      + (-(get row.e dim / gcdI (get pivot.e dim) (get row.e dim))) * get pivot.e j := by
    intro j
    exact get_linearCombine_full row.e pivot.e _ _ (dim + 1) hl (fun i hi => hpz i (by omega))
      (Or.inr (fun i hi => hrz i (by omega))) j
  refine ⟨rfl, by simp [r', reduceEqualityWithEquality], _, _, hc2, hent, ?_⟩
  rw [hent dim]; linear_combination hc1

/-! ### `reduce_pc_with_pc` -/

theorem reducePcWithPc_spec (row pivot : CRow) (dim : Nat)
    (hl : pivot.e.length = row.e.length)
    (hrz : ∀ j, dim < j → get row.e j = 0) (hpz : ∀ j, dim < j → get pivot.e j = 0)
    (hpc : get pivot.e dim ≠ 0) :
    let rp := reducePcWithPc row pivot dim 0 (dim + 1)
    rp.1.m = row.m ∧ rp.2.m = pivot.m ∧ rp.1.e.length = row.e.length ∧ rp.2.e.length = pivot.e.length ∧
      ∃ s t c d : Int, s * d - t * c = 1 ∧
        (∀ j, get rp.2.e j = s * get pivot.e j + t * get row.e j) ∧
        (∀ j, get rp.1.e j = c * get pivot.e j + d * get row.e j) ∧
        get rp.1.e dim = 0 ∧ get rp.2.e dim ≠ 0 := by
  intro rp
  obtain ⟨hg1, hg2⟩ := gcdext_spec (get pivot.e dim) (get row.e dim)
  obtain ⟨hc1, hc2⟩ := gcd_div_cancel (get pivot.e dim) (get row.e dim) hpc
  have hdet := gcd_bezout_det (get pivot.e dim) (get row.e dim) _ _ hpc hg2
  have hgg : (gcdext (get pivot.e dim) (get row.e dim)).1 = gcdI (get pivot.e dim) (get row.e dim) := rfl
  have hp : ∀ j, get rp.2.e j = (gcdext (get pivot.e dim) (get row.e dim)).2.1 * get pivot.e j
      + (gcdext (get pivot.e dim) (get row.e dim)).2.2 * get row.e j := by
    intro j
    exact get_linearCombine_full pivot.e row.e _ _ (dim + 1) hl.symm (fun i hi => hrz i (by omega))
      (Or.inr (fun i hi => hpz i (by omega))) j
  have hr : ∀ j, get rp.1.e j = (get pivot.e dim / gcdI (get pivot.e dim) (get row.e dim)) * get row.e j
      + (-(get row.e dim / gcdI (get pivot.e dim) (get row.e dim))) * get pivot.e j := by
    intro j
    exact get_linearCombine_full row.e pivot.e _ _ (dim + 1) hl (fun i hi => hpz i (by omega))
      (Or.inr (fun i hi => hrz i (by omega))) j
  refine ⟨rfl, rfl, by simp [rp, reducePcWithPc, HasExpr.expr, HasExpr.setExpr],
    by simp [rp, reducePcWithPc, HasExpr.expr, HasExpr.setExpr], _, _,
    -(get row.e dim / gcdI (get pivot.e dim) (get row.e dim)),
    get pivot.e dim / gcdI (get pivot.e dim) (get row.e dim), ?_, hp, ?_, ?_, ?_⟩
  · linear_combination hdet
  · intro j; rw [hr j]; ring
  · rw [hr dim]; linear_combination hc1
  · rw [hp dim, hg2]
    intro h
    have : Int.gcd (get pivot.e dim) (get row.e dim) = 0 := by exact_mod_cast h
    exact hpc (Int.gcd_eq_zero_iff.mp this).1

/-! ### `reduce_congruence_with_equality` -/

theorem reduceCongruenceWithEquality_spec (n : Nat) (sys : List CRow) (ri pi dim : Nat)
    (hwf : RWf n sys) (hri : ri < sys.length) (hpi : pi < sys.length) (hrm : 0 < (rowAt sys ri).m)
    (hpc : get (rowAt sys pi).e dim ≠ 0) :
    let sys' := reduceCongruenceWithEquality sys ri pi dim
    sys'.length = sys.length ∧
    ∃ f c : Int, 0 < f ∧ f * get (rowAt sys ri).e dim - c * get (rowAt sys pi).e dim = 0 ∧
      (∀ i, i < sys.length → i ≠ ri →
        (0 < (rowAt sys i).m → ScaledBy (rowAt sys' i) (rowAt sys i) f) ∧
        (¬ 0 < (rowAt sys i).m → rowAt sys' i = rowAt sys i)) ∧
      (rowAt sys' ri).m = (rowAt sys ri).m * f ∧ (rowAt sys' ri).e.length = n + 1 ∧
      ∀ j, get (rowAt sys' ri).e j = f * get (rowAt sys ri).e j - c * get (rowAt sys pi).e j := by
  intro sys'
  have hlr := (hwf ri hri).1
  have hlp := (hwf pi hpi).1
  by_cases heq : get (rowAt sys ri).e dim = get (rowAt sys pi).e dim
  · have e : sys' = sys.set ri { rowAt sys ri with e := subExpr (rowAt sys ri).e (rowAt sys pi).e } := by
      simp only [sys', reduceCongruenceWithEquality]; rw [if_pos heq]
    rw [e]
    refine ⟨by simp, 1, 1, by norm_num, by rw [heq]; ring, ?_, ?_, ?_, ?_⟩
    · intro i hi hir
      rw [rowAt_set_ne _ _ hir]
      exact ⟨fun _ => scaledBy_one _, fun _ => rfl⟩
    · rw [rowAt_set_self _ _ hri]; ring
    · rw [rowAt_set_self _ _ hri]; simpa using hlr
    · intro j
      rw [rowAt_set_self _ _ hri]
      show get (subExpr (rowAt sys ri).e (rowAt sys pi).e) j = _
      rw [get_subExpr]
      by_cases hj : j < (rowAt sys ri).e.length
      · rw [if_pos hj]; ring
      · rw [if_neg hj, get_of_length_le _ j (by omega), get_of_length_le _ j (by omega)]; ring
  · obtain ⟨hc1, hc2⟩ := gcd_div_cancel (get (rowAt sys pi).e dim) (get (rowAt sys ri).e dim) hpc
    obtain ⟨f0, hf0⟩ : ∃ f0 : Int, f0 = get (rowAt sys pi).e dim / gcdI (get (rowAt sys pi).e dim) (get (rowAt sys ri).e dim) :=
      ⟨_, rfl⟩
    obtain ⟨c0, hc0⟩ : ∃ c0 : Int, c0 = get (rowAt sys ri).e dim / gcdI (get (rowAt sys pi).e dim) (get (rowAt sys ri).e dim) :=
      ⟨_, rfl⟩
    rw [← hf0, ← hc0] at hc1
    rw [← hf0] at hc2
    obtain ⟨f, hf⟩ : ∃ f : Int, f = if f0 < 0 then -f0 else f0 := ⟨_, rfl⟩
    obtain ⟨c, hc⟩ : ∃ c : Int, c = if f0 < 0 then -c0 else c0 := ⟨_, rfl⟩
    have hfpos : 0 < f := by rw [hf]; split <;> omega
    have hfc : f * get (rowAt sys ri).e dim - c * get (rowAt sys pi).e dim = 0 := by
      rw [hf, hc]; split
      · linear_combination -hc1
      · linear_combination hc1
    have e : sys' = (sys.map fun (cg : CRow) => if cg.isProperCongruence then cg.scale f else cg).set ri
        { rowAt (sys.map fun (cg : CRow) => if cg.isProperCongruence then cg.scale f else cg) ri with
          e := subMulAssign (rowAt (sys.map fun (cg : CRow) => if cg.isProperCongruence then cg.scale f else cg) ri).e c
            (rowAt sys pi).e } := by
      simp only [sys', reduceCongruenceWithEquality]; rw [if_neg heq, ← hf0, ← hc0, ← hf, ← hc]
    have hrow1 : rowAt (sys.map fun (cg : CRow) => if cg.isProperCongruence then cg.scale f else cg) ri = (rowAt sys ri).scale f := by
      rw [rowAt_map _ _ _ hri]
      simp [CRow.isProperCongruence, hrm]
    rw [e]
    refine ⟨by simp, f, c, hfpos, hfc, ?_, ?_, ?_, ?_⟩
    · intro i hi hir
      rw [rowAt_set_ne _ _ hir, rowAt_map _ _ _ hi]
      constructor
      · intro hm
        simp only [CRow.isProperCongruence, gt_iff_lt, decide_eq_true_eq, hm, if_true]
        exact scale_spec _ _
      · intro hm
        simp only [CRow.isProperCongruence, gt_iff_lt, decide_eq_true_eq, hm, if_false]
    · rw [rowAt_set_self _ _ (by simpa using hri), hrow1]
      exact (scale_spec _ _).1
    · rw [rowAt_set_self _ _ (by simpa using hri), hrow1]
      show (subMulAssign _ _ _).length = _
      rw [length_subMulAssign, (scale_spec _ _).2.1]; exact hlr
    · intro j
      rw [rowAt_set_self _ _ (by simpa using hri), hrow1]
      show get (subMulAssign _ _ _) j = _
      rw [get_subMulAssign, (scale_spec _ _).2.1, (scale_spec _ _).2.2]
      by_cases hj : j < (rowAt sys ri).e.length
      · rw [if_pos hj]
      · rw [if_neg hj, get_of_length_le _ j (by omega), get_of_length_le _ j (by omega)]; ring

/-- `reduce_congruence_with_equality` keeps the solution set -/
theorem reduceCongruenceWithEquality_sol (n : Nat) (sys : List CRow) (ri pi dim : Nat)
    (hwf : RWf n sys) (hri : ri < sys.length) (hpi : pi < sys.length) (hne : pi ≠ ri)
    (hpm : (rowAt sys pi).m = 0) (hrm : 0 < (rowAt sys ri).m)
    (hpc : get (rowAt sys pi).e dim ≠ 0) (x : Pt) :
    Sol (reduceCongruenceWithEquality sys ri pi dim) x ↔ Sol sys x := by
  obtain ⟨hlen, f, c, hf, _, hoth, hm, hl, hent⟩ :=
    reduceCongruenceWithEquality_spec n sys ri pi dim hwf hri hpi hrm hpc
  have hsame : rowAt (reduceCongruenceWithEquality sys ri pi dim) pi = rowAt sys pi :=
    (hoth pi hpi hne).2 (by omega)
  apply Sol_congr_rows _ _ x hlen pi hpi hsame
  intro i hi hp
  by_cases hir : i = ri
  · subst hir
    obtain ⟨u, hu⟩ := hp
    rw [hpm] at hu
    have hp0 : evalRow (rowAt sys pi).e x = 0 := by rw [hu]; simp
    have hev := evalRow_lin _ (rowAt sys i).e (rowAt sys pi).e f (-c) x (by rw [hl, (hwf i hi).1])
      (by rw [(hwf i hi).1, (hwf pi hpi).1]) (fun j => by rw [hent j]; ring)
    rw [hp0] at hev
    exact rsem_scaled _ _ f x (by omega) (by rw [hev]; ring) hm
  · by_cases hmi : 0 < (rowAt sys i).m
    · exact ((hoth i hi hir).1 hmi).rsem (by omega) x
    · rw [(hoth i hi hir).2 hmi]

end PPLV.Lattice.Red

import PPLV.Lattice.ProofsConvCGRed
import PPLV.Lattice.ProofsRedGenBase

/-!
# `Grid::conversion` (congruences → generators): the final `reduce_reduced` loop keeps the lattice `Hom`

A parameter row is only reduced by a parameter or a line pivot, a line row only by a line pivot: the system after
`cgReduce` generates the same homogeneous lattice.
-/
namespace PPLV.Lattice.Red
open PPLV.Lattice

/-- row `i` gets `num` times row `j` subtracted (homogeneous columns); legitimate when `j` is a line or `i` is not -/
theorem cg_rowSub_hom (n : Nat) (T : List GRow) (i j : Nat) (hi : i < T.length) (hj : j < T.length) (hij : i ≠ j)
    (num : Int) (r' : GRow) (hline : r'.line = (rowAt T i).line)
    (hget : ∀ k, k ≤ n → get r'.e k = get (rowAt T i).e k - num * get (rowAt T j).e k)
    (hlegit : (rowAt T j).line = true ∨ (rowAt T i).line = false) (v : Pt) :
    Hom n T v ↔ Hom n (T.set i r') v := by
  have hvv : hv n r' = ((1 : Int) : ℚ) • hv n (rowAt T i) + ((-num : Int) : ℚ) • hv n (rowAt T j) :=
    hv_comb 1 (-num) (fun k hk => by rw [hget k hk]; ring)
  have hvv' : hv n (rowAt T i) = ((1 : Int) : ℚ) • hv n r' + ((num : Int) : ℚ) • hv n (rowAt T j) := by
    rw [hvv]; push_cast; module
  have hri : rowAt (T.set i r') i = r' := by rw [rowAt_set, if_pos ⟨rfl, hi⟩]
  have hrj : rowAt (T.set i r') j = rowAt T j := by rw [rowAt_set, if_neg (fun h => hij h.1.symm)]
  have hlen : (T.set i r').length = T.length := by simp
  refine hom_iff_one_row i hlen (fun k hk => by rw [rowAt_set, if_neg (fun h => hk h.1)]) (by rw [hri]; exact hline)
    (fun hl => ?_) (fun hl => ?_) v
  · have hjl : (rowAt T j).line = true := by
      rcases hlegit with h | h
      · exact h
      · rw [hl] at h; exact absurd h (by simp)
    refine ⟨fun c => ?_, fun c => ?_⟩
    · rw [hvv', smul_add, smul_smul, smul_smul]
      refine hom_add ?_ ?_
      · have := hom_line (n := n) (rows := T.set i r') (i := i) (by omega) (by rw [hri, hline]; exact hl) (c * ((1 : Int) : ℚ))
        rwa [hri] at this
      · have := hom_line (n := n) (rows := T.set i r') (i := j) (by omega) (by rw [hrj]; exact hjl) (c * ((num : Int) : ℚ))
        rwa [hrj] at this
    · rw [hri, hvv, smul_add, smul_smul, smul_smul]
      exact hom_add (hom_line hi hl _) (hom_line hj hjl _)
  · refine ⟨?_, ?_⟩
    · rw [hvv']
      refine hom_add ?_ ?_
      · have := hom_int (n := n) (rows := T.set i r') (i := i) (by omega) 1
        rwa [hri] at this
      · have := hom_int (n := n) (rows := T.set i r') (i := j) (by omega) num
        rwa [hrj] at this
    · rw [hri, hvv]
      exact hom_add (hom_int hi 1) (hom_int hj (-num))

section
variable (n : Nat) (source : List CRow) (dk : List Nat) (dims : Nat)

/-- one step of the loop: the final form, the pivot row and the lattice are kept -/
theorem cg_rowReduce_all (hdims : dims = n + 1) (L D0 : Int) (dim : Nat) (hdim : dim < dims) (hdv : nvB dk dim = true)
    (T : List GRow) (hT : GFinalOK source dk dims L D0 T) (q : Nat) (hq : q < dims) (hql : nvB dk q = true)
    (hdq : q < dim) (hlegit : nlB dk dim = false ∨ nlB dk q = true) (num : Int) (P : Row)
    (hP : (rowAt T (nv dk dim)).e = P) :
    GFinalOK source dk dims L D0
      (if num ≠ 0 then
        T.set (nv dk q) (HasExpr.setExpr (rowAt T (nv dk q))
          (linearCombine (HasExpr.expr (rowAt T (nv dk q))) P 1 (-num) dim (dims - 1 + 1)))
       else T) ∧
    (rowAt (if num ≠ 0 then
        T.set (nv dk q) (HasExpr.setExpr (rowAt T (nv dk q))
          (linearCombine (HasExpr.expr (rowAt T (nv dk q))) P 1 (-num) dim (dims - 1 + 1)))
       else T) (nv dk dim)).e = P ∧
    ∀ v, Hom n T v ↔ Hom n
      (if num ≠ 0 then
        T.set (nv dk q) (HasExpr.setExpr (rowAt T (nv dk q))
          (linearCombine (HasExpr.expr (rowAt T (nv dk q))) P 1 (-num) dim (dims - 1 + 1)))
       else T) v := by
  have RP := hT.rows dim hdim hdv
  have R := hT.rows q hq hql
  have hne : nv dk q ≠ nv dk dim := by
    have := (cg_nv_lt_iff dk q dim hql).mpr hdq; omega
  refine ⟨?_, ?_, ?_⟩
  · subst hP
    refine cg_rowReduce_final source dk dims L D0 _ dim hdim RP.tri
      (fun p hp hpv => ⟨(RP.prod p hp hpv).1, (RP.prod p hp hpv).2.2⟩) T hT q hq hql hdq ?_ num
    intro hv p hp hpv
    rcases hlegit with h | h
    · exact (RP.prod p hp hpv).2.1 h
    · rw [h] at hv; exact absurd hv (by simp)
  · split
    · rw [rowAt_set, if_neg (fun h => hne h.1.symm)]; exact hP
    · exact hP
  · intro v
    split
    · rw [cg_expr_grow, cg_setExpr_grow]
      subst hP
      refine cg_rowSub_hom n T (nv dk q) (nv dk dim) (by rw [hT.len]; exact (cg_nv_lt_iff dk q dims hql).mpr hq)
        (by rw [hT.len]; exact (cg_nv_lt_iff dk dim dims hdv).mpr hdim) hne num
        { line := (rowAt T (nv dk q)).line,
          e := linearCombine (rowAt T (nv dk q)).e (rowAt T (nv dk dim)).e 1 (-num) dim (dims - 1 + 1) }
        rfl (fun k hk => ?_) ?_ v
      · simp only []
        rw [get_linearCombine]
        by_cases hc : dim ≤ k
        · rw [if_pos ⟨by rw [R.len]; omega, hc, by omega⟩]; ring
        · rw [if_neg (fun h => hc h.2.1), RP.tri k (by omega)]; ring
      · rcases hlegit with h | h
        · exact Or.inl (RP.lnv h)
        · exact Or.inr (R.lnp h)
    · exact Iff.rfl

/-- the loop of `reduce_reduced` (generators) keeps the lattice -/
theorem cg_reduceReducedLoop_hom (hdims : dims = n + 1) (L D0 : Int) (P : Row) (pd half : Int) (dim : Nat)
    (hdim : dim < dims) (hdv : nvB dk dim = true) (rl : Bool) (rk : Nat) (hrl : rl = true → nlB dk dim = false) :
    ∀ (ri ki : Nat) (T : List GRow), ki ≤ dim → ri = nv dk ki →
      GFinalOK source dk dims L D0 T → (rowAt T (nv dk dim)).e = P →
      ∀ v, Hom n T v ↔ Hom n (reduceReducedLoop true dk P pd half dim dim (dims - 1) rl rk ri ki T) v
  | 0, ki, T, _, _, _, _ => by intro v; simp [reduceReducedLoop]
  | ri + 1, ki, T, hki, hri, hT, hP => by
    rw [reduceReducedLoop]
    simp only [if_true]
    obtain ⟨s1, s2, s3⟩ := cg_skipDown_spec dk ki (by omega)
    have s4 : ri = nv dk (skipDown dk ki) := by omega
    have key : ∀ T1, (GFinalOK source dk dims L D0 T1 ∧ (rowAt T1 (nv dk dim)).e = P ∧ ∀ v, Hom n T v ↔ Hom n T1 v) →
        ∀ v, Hom n T v ↔ Hom n (reduceReducedLoop true dk P pd half dim dim (dims - 1) rl rk ri (skipDown dk ki) T1) v :=
      fun T1 h v => (h.2.2 v).trans
        (cg_reduceReducedLoop_hom hdims L D0 P pd half dim hdim hdv rl rk hrl ri (skipDown dk ki) T1 (by omega) s4 h.1 h.2.1 v)
    apply key
    subst s4
    by_cases hcond : (rl || (rk == PARAMETER && kind dk (skipDown dk ki) == PARAMETER)) = true
    · rw [if_pos hcond]
      refine cg_rowReduce_all n source dk dims hdims L D0 dim hdim hdv T hT (skipDown dk ki) (by omega) s2 (by omega) ?_ _ P hP
      rcases (Bool.or_eq_true _ _).mp hcond with h | h
      · exact Or.inl (hrl h)
      · right
        simp only [Bool.and_eq_true, beq_iff_eq] at h
        simp [nlB, h.2, PARAMETER, LINE]
    · rw [if_neg hcond]; exact ⟨hT, hP, fun v => Iff.rfl⟩

theorem cg_reduceReduced_hom (hdims : dims = n + 1) (L D0 : Int) (T : List GRow) (hT : GFinalOK source dk dims L D0 T)
    (d : Nat) (hd : d < dims) (hl : nvB dk d = true) (v : Pt) :
    Hom n T v ↔ Hom n (reduceReduced T d (nv dk d) d (dims - 1) dk) v := by
  unfold reduceReduced
  simp only [cg_expr_grow]
  split
  · exact Iff.rfl
  · refine cg_reduceReducedLoop_hom n source dk dims hdims L D0 _ _ _ d hd hl _ _ ?_ (nv dk d) d T (Nat.le_refl _) rfl hT rfl v
    intro hrl
    simp only [if_true, beq_iff_eq] at hrl
    simp [nlB, hrl]

/-- **`cgReduce` keeps the lattice** -/
theorem cgReduce_hom (hdims : dims = n + 1) (L D0 : Int) (T : List GRow) (hT : GFinalOK source dk dims L D0 T) (v : Pt) :
    Hom n T v ↔ Hom n (cgReduce dk dims T) v :=
  (cgReduce_induct source dk dims L D0 (fun T' => ∀ v, Hom n T v ↔ Hom n T' v)
    (fun T' d hd hlb h2 h3 w => (h3 w).trans (cg_reduceReduced_hom n source dk dims hdims L D0 T' h2 d hd hlb w))
    T hT fun _ => Iff.rfl).2 v

end

end PPLV.Lattice.Red

import PPLV.Lattice.ModelOps
import PPLV.Lattice.ProofsDecide

/-!
# K2: specifications of the reference operations (join, images, preimages, …)
-/
namespace PPLV.Lattice
open List

/-! ### adding generators -/

theorem addLine_sem (G : GridGens) (l : Vec) (y : Pt) :
    Gen.sem (addLine G l) y ↔ ∃ x c, Gen.sem G x ∧ y = x + (c : Rat) • l.toFun := by
  cases G with
  | empty => simp [addLine, Gen.sem]
  | gens g =>
    simp only [addLine, Gen.sem]
    constructor
    · intro h
      induction h with
      | pt => exact ⟨_, 0, Gens.Mem.pt, by simp⟩
      | @param z q k hq _ ih =>
        obtain ⟨x, c, hx, rfl⟩ := ih
        refine ⟨x.axpy k q.toFun, c, Gens.Mem.param k hq hx, ?_⟩
        simp only [axpy_eq]; module
      | @line z m d hm _ ih =>
        obtain ⟨x, c, hx, rfl⟩ := ih
        rcases List.mem_cons.mp hm with rfl | hm
        · exact ⟨x, c + d, hx, by simp only [axpy_eq]; module⟩
        · refine ⟨x.axpy d m.toFun, c, Gens.Mem.line d hm hx, ?_⟩
          simp only [axpy_eq]; module
    · rintro ⟨x, c, hx, rfl⟩
      have h1 : Gens.Mem { g with lines := l :: g.lines } x := by
        induction hx with
        | pt => exact Gens.Mem.pt
        | param k hq _ ih => exact Gens.Mem.param k hq ih
        | line d hm _ ih => exact Gens.Mem.line d (List.mem_cons_of_mem _ hm) ih
      have := Gens.Mem.line (g := { g with lines := l :: g.lines }) c (List.mem_cons_self) h1
      rwa [axpy_eq] at this

theorem addParam_sem (G : GridGens) (q : Vec) (y : Pt) :
    Gen.sem (addParam G q) y ↔ ∃ x, ∃ k : Int, Gen.sem G x ∧ y = x + (k : Rat) • q.toFun := by
  cases G with
  | empty => simp [addParam, Gen.sem]
  | gens g =>
    simp only [addParam, Gen.sem]
    constructor
    · intro h
      induction h with
      | pt => exact ⟨_, 0, Gens.Mem.pt, by simp⟩
      | @param z r k hr _ ih =>
        obtain ⟨x, j, hx, rfl⟩ := ih
        rcases List.mem_cons.mp hr with rfl | hr
        · exact ⟨x, j + k, hx, by simp only [axpy_eq]; push_cast; module⟩
        · refine ⟨x.axpy k r.toFun, j, Gens.Mem.param k hr hx, ?_⟩
          simp only [axpy_eq]; module
      | @line z m d hm _ ih =>
        obtain ⟨x, j, hx, rfl⟩ := ih
        refine ⟨x.axpy d m.toFun, j, Gens.Mem.line d hm hx, ?_⟩
        simp only [axpy_eq]; module
    · rintro ⟨x, k, hx, rfl⟩
      have h1 : Gens.Mem { g with params := q :: g.params } x := by
        induction hx with
        | pt => exact Gens.Mem.pt
        | param k hq _ ih => exact Gens.Mem.param k (List.mem_cons_of_mem _ hq) ih
        | line d hm _ ih => exact Gens.Mem.line d hm ih
      have := Gens.Mem.param (g := { g with params := q :: g.params }) k (List.mem_cons_self) h1
      rwa [axpy_eq] at this

/-! ### join -/

theorem sem_affine (K : GridGens) {x y z : Pt} (k : Int) (hx : Gen.sem K x) (hy : Gen.sem K y) (hz : Gen.sem K z) :
    Gen.sem K (x + (k : Rat) • (y - z)) := by
  cases K with
  | empty => exact absurd hx (by simp [Gen.sem])
  | gens h => exact gens_affine h k hx hy hz

theorem join_left (G H : GridGens) (x : Pt) (h : Gen.sem G x) : Gen.sem (join G H) x := by
  cases G with
  | empty => exact absurd h (by simp [Gen.sem])
  | gens g =>
    cases H with
    | empty => simpa [join] using h
    | gens hh =>
      simp only [join, Gen.sem] at h ⊢
      induction h with
      | pt => exact Gens.Mem.pt
      | param k hq _ ih =>
        exact Gens.Mem.param k (List.mem_cons_of_mem _ (List.mem_append_left _ hq)) ih
      | line d hm _ ih => exact Gens.Mem.line d (List.mem_append_left _ hm) ih

theorem join_right (G H : GridGens) (x : Pt) (h : Gen.sem H x) : Gen.sem (join G H) x := by
  cases H with
  | empty => exact absurd h (by simp [Gen.sem])
  | gens hh =>
    cases G with
    | empty => simpa [join] using h
    | gens g =>
      simp only [join, Gen.sem] at h ⊢
      induction h with
      | pt =>
        have := Gens.Mem.param (g := ⟨g.pt, vsub hh.pt g.pt :: (g.params ++ hh.params), g.lines ++ hh.lines⟩) 1 (List.mem_cons_self) Gens.Mem.pt
        rw [axpy_eq, toFun_vsub] at this
        rwa [Int.cast_one, one_smul, add_sub_cancel] at this
      | param k hq _ ih =>
        exact Gens.Mem.param k (List.mem_cons_of_mem _ (List.mem_append_right _ hq)) ih
      | line d hm _ ih => exact Gens.Mem.line d (List.mem_append_right _ hm) ih

/-- the join is below every grid that contains both arguments -/
theorem join_least (G H K : GridGens) (hG : ∀ x, Gen.sem G x → Gen.sem K x) (hH : ∀ x, Gen.sem H x → Gen.sem K x)
    (x : Pt) (h : Gen.sem (join G H) x) : Gen.sem K x := by
  cases G with
  | empty => exact hH x (by simpa [join] using h)
  | gens g =>
    cases H with
    | empty => exact hG x (by simpa [join] using h)
    | gens hh =>
      simp only [join, Gen.sem] at h
      have hp : Gen.sem K g.pt.toFun := hG _ Gens.Mem.pt
      have hp' : Gen.sem K hh.pt.toFun := hH _ Gens.Mem.pt
      induction h with
      | pt => exact hp
      | @param z q k hq _ ih =>
        rw [axpy_eq]
        simp only [List.mem_cons, List.mem_append] at hq
        rcases hq with rfl | hq | hq
        · have := sem_affine K k ih hp' hp
          rwa [toFun_vsub]
        · have hq' : Gen.sem K (g.pt.toFun + ((1:Int):Rat) • q.toFun) := by
            apply hG; rw [← axpy_eq]; exact Gens.Mem.param 1 hq Gens.Mem.pt
          have := sem_affine K k ih hq' hp
          have e : z + (k:Rat) • (g.pt.toFun + ((1:Int):Rat) • q.toFun - g.pt.toFun) = z + (k:Rat) • q.toFun := by
            push_cast; module
          rwa [e] at this
        · have hq' : Gen.sem K (hh.pt.toFun + ((1:Int):Rat) • q.toFun) := by
            apply hH; rw [← axpy_eq]; exact Gens.Mem.param 1 hq Gens.Mem.pt
          have := sem_affine K k ih hq' hp'
          have e : z + (k:Rat) • (hh.pt.toFun + ((1:Int):Rat) • q.toFun - hh.pt.toFun) = z + (k:Rat) • q.toFun := by
            push_cast; module
          rwa [e] at this
      | @line z l d hl _ ih =>
        rw [axpy_eq]
        simp only [List.mem_append] at hl
        rcases hl with hl | hl
        · have hl' : Gen.sem K (g.pt.toFun + d • l.toFun) := by
            apply hG; rw [← axpy_eq]; exact Gens.Mem.line d hl Gens.Mem.pt
          have := sem_affine K 1 ih hl' hp
          have e : z + ((1:Int):Rat) • (g.pt.toFun + d • l.toFun - g.pt.toFun) = z + d • l.toFun := by
            push_cast; module
          rwa [e] at this
        · have hl' : Gen.sem K (hh.pt.toFun + d • l.toFun) := by
            apply hH; rw [← axpy_eq]; exact Gens.Mem.line d hl Gens.Mem.pt
          have := sem_affine K 1 ih hl' hp'
          have e : z + ((1:Int):Rat) • (hh.pt.toFun + d • l.toFun - hh.pt.toFun) = z + d • l.toFun := by
            push_cast; module
          rwa [e] at this

/-- adding a point is the join with that point -/
theorem addPoint_eq_join (G : GridGens) (p : Vec) (x : Pt) :
    Gen.sem (addPoint G p) x ↔ Gen.sem (join G (.gens { pt := p, params := [], lines := [] })) x := by
  cases G with
  | empty => simp [addPoint, join]
  | gens g => simp [addPoint, join]

/-! ### images under affine maps -/

/-- `M` acts on list vectors as the linear map `φ` on valuations -/
def Represents (M : Vec → Vec) (φ : Pt →ₗ[ℚ] Pt) : Prop := ∀ v : Vec, (M v).toFun = φ v.toFun

theorem mapG_sem (M : Vec → Vec) (φ : Pt →ₗ[ℚ] Pt) (hM : Represents M φ) (t : Vec) (G : GridGens) (y : Pt) :
    Gen.sem (mapG M t G) y ↔ ∃ x, Gen.sem G x ∧ y = φ x + t.toFun := by
  cases G with
  | empty => simp [mapG, Gen.sem]
  | gens g =>
    simp only [mapG, Gen.sem]
    constructor
    · intro h
      induction h with
      | pt => exact ⟨_, Gens.Mem.pt, by simp [toFun_vadd, hM g.pt]⟩
      | @param z q k hq _ ih =>
        obtain ⟨x, hx, rfl⟩ := ih
        obtain ⟨q0, hq0, rfl⟩ := List.mem_map.mp hq
        refine ⟨x.axpy k q0.toFun, Gens.Mem.param k hq0 hx, ?_⟩
        simp only [axpy_eq, hM q0, map_add, map_smul]; module
      | @line z l d hl _ ih =>
        obtain ⟨x, hx, rfl⟩ := ih
        obtain ⟨l0, hl0, rfl⟩ := List.mem_map.mp hl
        refine ⟨x.axpy d l0.toFun, Gens.Mem.line d hl0 hx, ?_⟩
        simp only [axpy_eq, hM l0, map_add, map_smul]; module
    · rintro ⟨x, hx, rfl⟩
      induction hx with
      | pt =>
        have := Gens.Mem.pt (g := { pt := vadd (M g.pt) t, params := g.params.map M, lines := g.lines.map M })
        simpa [toFun_vadd, hM g.pt] using this
      | @param z q k hq _ ih =>
        have := Gens.Mem.param (g := { pt := vadd (M g.pt) t, params := g.params.map M, lines := g.lines.map M })
          k (List.mem_map_of_mem hq) ih
        rw [axpy_eq, hM q] at this
        have e : φ (z.axpy k q.toFun) + t.toFun = φ z + t.toFun + (k:Rat) • φ q.toFun := by
          simp only [axpy_eq, map_add, map_smul]; module
        rwa [e]
      | @line z l d hl _ ih =>
        have := Gens.Mem.line (g := { pt := vadd (M g.pt) t, params := g.params.map M, lines := g.lines.map M })
          d (List.mem_map_of_mem hl) ih
        rw [axpy_eq, hM l] at this
        have e : φ (z.axpy d l.toFun) + t.toFun = φ z + t.toFun + d • φ l.toFun := by
          simp only [axpy_eq, map_add, map_smul]; module
        rwa [e]

/-! ### `setCoord` and the single-update affine map -/

theorem getD_vecOfFn (n : Nat) (f : Nat → Rat) (j : Nat) : (vecOfFn n f).getD j 0 = if j < n then f j else 0 := by
  unfold vecOfFn
  by_cases h : j < n
  · simp [h, List.getD_eq_getElem?_getD]
  · simp [h, List.getD_eq_getElem?_getD]

theorem toFun_vecOfFn (n : Nat) (f : Nat → Rat) : (vecOfFn n f).toFun = fun j => if j < n then f j else 0 := by
  funext j; exact getD_vecOfFn n f j

theorem toFun_setCoord (v : Vec) (i : Nat) (r : Rat) : (setCoord v i r).toFun = Function.update v.toFun i r := by
  funext j
  simp only [setCoord, toFun_vecOfFn, Function.update_apply]
  by_cases hj : j = i
  · subst hj; simp
  · simp only [hj, if_false]
    by_cases h : j < max v.length (i + 1)
    · simp [h]; rfl
    · simp only [h, if_false]
      exact (toFun_of_length_le v j (by omega)).symm

theorem toFun_padTo (n : Nat) (v : Vec) : (padTo n v).toFun = fun j => if j < n then v.toFun j else 0 := by
  simp only [padTo, toFun_vecOfFn]; rfl

/-- `x ↦ x[v := α x]` for a linear form `α` -/
def updLin (v : Nat) (α : Pt →ₗ[ℚ] ℚ) : Pt →ₗ[ℚ] Pt where
  toFun x := Function.update x v (α x)
  map_add' x y := by
    funext j
    by_cases h : j = v
    · subst h; simp
    · simp [Function.update_of_ne h]
  map_smul' c x := by
    funext j
    by_cases h : j = v
    · subst h; simp
    · simp [Function.update_of_ne h]

theorem updLin_apply (v : Nat) (α : Pt →ₗ[ℚ] ℚ) (x : Pt) : updLin v α x = Function.update x v (α x) := rfl

/-- the documented single-update affine map `x ↦ x[v := (⟨e,x⟩ + b)/d]` -/
def affMap (v : Nat) (e : Vec) (b d : Rat) (x : Pt) : Pt := Function.update x v ((dotF e x + b) / d)

theorem affineImage_sem (G : GridGens) (v : Nat) (e : Vec) (b d : Rat) (y : Pt) :
    Gen.sem (affineImage G v e b d) y ↔ ∃ x, Gen.sem G x ∧ y = affMap v e b d x := by
  unfold affineImage
  have hM : Represents (fun x => setCoord x v (dot e x / d)) (updLin v ((1 / d) • alphaOf e)) := by
    intro x
    rw [toFun_setCoord, updLin_apply]
    simp [dot_eq_dotF, div_eq_inv_mul]
  rw [mapG_sem _ _ hM]
  constructor
  · rintro ⟨x, hx, rfl⟩
    refine ⟨x, hx, ?_⟩
    rw [toFun_setCoord, updLin_apply]
    funext j
    by_cases h : j = v
    · subst h; simp [affMap]; ring
    · simp [affMap, Function.update_of_ne h]
  · rintro ⟨x, hx, rfl⟩
    refine ⟨x, hx, ?_⟩
    rw [toFun_setCoord, updLin_apply]
    funext j
    by_cases h : j = v
    · subst h; simp [affMap]; ring
    · simp [affMap, Function.update_of_ne h]

theorem dotF_update (a : Vec) (x : Pt) (i : Nat) (r : Rat) :
    dotF a (Function.update x i r) = dotF a x + a.toFun i * (r - x i) := by
  induction a generalizing x i with
  | nil => simp
  | cons c a ih =>
    cases i with
    | zero =>
      have : Pt.tail (Function.update x 0 r) = Pt.tail x := by
        funext j; simp [Pt.tail]
      simp only [dotF_cons, this, Function.update_self, toFun_cons_zero]; ring
    | succ i =>
      have : Pt.tail (Function.update x (i+1) r) = Function.update (Pt.tail x) i r := by
        funext j
        simp only [Pt.tail, Function.update_apply]
        by_cases h : j = i
        · simp [h]
        · simp [h]
      simp only [dotF_cons, this, ih, toFun_cons_succ]
      have : Function.update x (i+1) r 0 = x 0 := by simp
      rw [this]; simp [Pt.tail]; ring

theorem dotF_vadd (a b : Vec) (x : Pt) : dotF (vadd a b) x = dotF a x + dotF b x := by
  induction a generalizing b x with
  | nil => simp [vadd]
  | cons c a ih =>
    cases b with
    | nil => simp [vadd]
    | cons d b => simp only [vadd, dotF_cons, ih]; ring

theorem dotF_vsmul (c : Rat) (b : Vec) (x : Pt) : dotF (vsmul c b) x = c * dotF b x := by
  induction b generalizing x with
  | nil => simp [vsmul]
  | cons d b ih =>
    have := ih x.tail
    simp only [vsmul] at this
    simp only [vsmul, List.map_cons, dotF_cons, this]; ring

theorem dotF_vsub (a b : Vec) (x : Pt) : dotF (vsub a b) x = dotF a x - dotF b x := by
  rw [vsub, dotF_vadd, dotF_vsmul]; ring

theorem affMap_apply_self (v : Nat) (e : Vec) (b d : Rat) (x : Pt) : affMap v e b d x v = (dotF e x + b) / d := by
  simp [affMap]

theorem affMap_apply_ne (v : Nat) (e : Vec) (b d : Rat) (x : Pt) (j : Nat) (h : j ≠ v) : affMap v e b d x j = x j := by
  simp [affMap, Function.update_of_ne h]

/-- `affinePreimage` is the preimage under the documented map (for `d ≠ 0`) -/
theorem affinePreimage_sem (G : GridGens) (v : Nat) (e : Vec) (b d : Rat) (hd : d ≠ 0) (y : Pt) :
    Gen.sem (affinePreimage G v e b d) y ↔ Gen.sem G (affMap v e b d y) := by
  unfold affinePreimage
  have hevd : e.getD v 0 = e.toFun v := rfl
  by_cases hev : e.getD v 0 = 0
  · -- non-invertible: the new value of x_v does not depend on the old one
    simp only [hev, ne_eq, not_true_eq_false, if_false]
    rw [addLine_sem]
    have hev' : e.toFun v = 0 := hev
    have hfree : ∀ (z : Pt) (r : Rat), dotF e (Function.update z v r) = dotF e z := by
      intro z r; rw [dotF_update, hev']; ring
    constructor
    · rintro ⟨z, c, hz, rfl⟩
      rw [intersectCon_sem] at hz
      obtain ⟨hz1, t, ht⟩ := hz
      simp only [mul_zero, dotF_vsub, dotF_vsmul, dotF_unit] at ht
      have hzv : z v = (dotF e z + b) / d := by field_simp; linarith
      have : affMap v e b d (z + c • (unit v).toFun) = z := by
        funext j
        by_cases hj : j = v
        · subst hj
          rw [affMap_apply_self]
          have : z + c • (unit j).toFun = Function.update z j (z j + c) := by
            funext i
            by_cases hi : i = j
            · subst hi; simp [toFun_unit]
            · simp [toFun_unit, hi]
          rw [this, hfree, hzv]
        · rw [affMap_apply_ne _ _ _ _ _ _ hj]; simp [toFun_unit, hj]
      rw [this]; exact hz1
    · intro h
      refine ⟨affMap v e b d y, y v - (dotF e y + b) / d, ?_, ?_⟩
      · rw [intersectCon_sem]
        refine ⟨h, 0, ?_⟩
        simp only [mul_zero, dotF_vsub, dotF_vsmul, dotF_unit, affMap_apply_self]
        simp only [affMap, hfree]
        field_simp; ring
      · funext j
        by_cases hj : j = v
        · subst hj; simp [affMap_apply_self, toFun_unit]
        · simp [affMap_apply_ne _ _ _ _ _ _ hj, toFun_unit, hj]
  · -- invertible
    simp only [ne_eq, hev, not_false_eq_true, if_true]
    rw [affineImage_sem]
    rw [hevd] at hev ⊢
    set ev := e.toFun v with hevdef
    have hinv : ∀ x : Pt, dotF (vsub (vsmul d (unit v)) (vsub e (vsmul ev (unit v)))) x = d * x v - dotF e x + ev * x v := by
      intro x; simp only [dotF_vsub, dotF_vsmul, dotF_unit]; ring
    constructor
    · rintro ⟨x, hx, rfl⟩
      have : affMap v e b d (affMap v (vsub (vsmul d (unit v)) (vsub e (vsmul ev (unit v)))) (-b) ev x) = x := by
        funext j
        by_cases hj : j = v
        · subst hj
          rw [affMap_apply_self]
          conv_lhs => rw [affMap, dotF_update, hinv]
          field_simp; ring
        · rw [affMap_apply_ne _ _ _ _ _ _ hj, affMap_apply_ne _ _ _ _ _ _ hj]
      rw [this]; exact hx
    · intro h
      refine ⟨affMap v e b d y, h, ?_⟩
      funext j
      by_cases hj : j = v
      · subst hj
        rw [affMap_apply_self, hinv, affMap_apply_self]
        conv_rhs => rw [affMap, dotF_update]
        field_simp; ring
      · rw [affMap_apply_ne _ _ _ _ _ _ hj, affMap_apply_ne _ _ _ _ _ _ hj]

end PPLV.Lattice

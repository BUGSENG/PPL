import PPLV.Lattice.ProofsGridOpsAddGenerator
import PPLV.Lattice.ProofsGridOpsConstruct

/-!
# The `Grid` object: `upper_bound_assign`, `time_elapse_assign`

The result is the least set closed under `a + k (b - c)` that contains the union, resp. all `p + μ q`.
-/
namespace PPLV.Lattice.GO
open PPLV.Lattice PPLV.Lattice.Red

/-! ## The join of two generated grids -/

/-! ### the join of two generated grids -/

/-- `S` is the least closed set (`gn_Closed`: closed under `a + k (b - c)`, as every grid is) containing `X` and `Y` -/
def gn_IsJoin (S X Y : Set Pt) : Prop :=
  X ⊆ S ∧ Y ⊆ S ∧ ∀ K : Set Pt, gn_Closed K → X ⊆ K → Y ⊆ K → S ⊆ K

/-- in terms of K2's generator form -/
theorem gn_IsJoin.least {S X Y : Set Pt} (h : gn_IsJoin S X Y) (K : GridGens) (hX : X ⊆ {p | Gen.sem K p})
    (hY : Y ⊆ {p | Gen.sem K p}) : S ⊆ {p | Gen.sem K p} := h.2.2 _ (gn_closed_sem K) hX hY

/-- a closed set containing a generated grid absorbs its parameters and lines -/
theorem gn_absorb {rows : List GRow} {K : Set Pt} (hK : gn_Closed K) (hsub : gn_set rows ⊆ K)
    (hpt : ∃ r ∈ rows, gn_isPt r = true) :
    (∀ r ∈ rows, gn_isPar r = true → ∀ a ∈ K, ∀ k : Int, a + (k : ℚ) • gn_vecOf r ∈ K) ∧
    (∀ r ∈ rows, r.line = true → ∀ a ∈ K, ∀ c : ℚ, a + c • gn_vecOf r ∈ K) := by
  obtain ⟨a0, ha0⟩ := gn_mem_nonempty hpt
  constructor
  · intro r hr p a ha k
    have := hK a ha _ (hsub (gn_mem_par_step hr p ha0 1)) _ (hsub ha0) k
    have e : a + (k : ℚ) • (a0 + ((1 : Int) : ℚ) • gn_vecOf r - a0) = a + (k : ℚ) • gn_vecOf r := by
      push_cast; module
    rwa [e] at this
  · intro r hr p a ha c
    have := hK a ha _ (hsub (gn_mem_line_step hr p ha0 c)) _ (hsub ha0) 1
    have e : a + ((1 : Int) : ℚ) • (a0 + c • gn_vecOf r - a0) = a + c • gn_vecOf r := by
      push_cast; module
    rwa [e] at this

/-- **the rows of two systems together generate the join of the two grids** -/
theorem gn_set_append_join {X Y : List GRow} (hX : ∃ r ∈ X, gn_isPt r = true) (hY : ∃ r ∈ Y, gn_isPt r = true) :
    gn_IsJoin (gn_set (X ++ Y)) (gn_set X) (gn_set Y) := by
  refine ⟨fun _ h => gn_mem_append_left h, fun _ h => gn_mem_append_right h, ?_⟩
  intro K hK h1 h2
  obtain ⟨px, lx⟩ := gn_absorb hK h1 hX
  obtain ⟨py, ly⟩ := gn_absorb hK h2 hY
  refine gn_mem_least hK ?_ ?_ ?_
  · intro r hr p
    rcases List.mem_append.mp hr with hr | hr
    · exact h1 (gn_mem_pt hr p)
    · exact h2 (gn_mem_pt hr p)
  · intro r hr p
    rcases List.mem_append.mp hr with hr | hr
    · exact px r hr p
    · exact py r hr p
  · intro r hr p
    rcases List.mem_append.mp hr with hr | hr
    · exact lx r hr p
    · exact ly r hr p

theorem gn_isJoin_empty_right (X : Set Pt) : gn_IsJoin X X ∅ :=
  ⟨fun _ h => h, fun _ h => absurd h (Set.notMem_empty _), fun _ _ h _ => h⟩
theorem gn_isJoin_empty_left (Y : Set Pt) : gn_IsJoin Y ∅ Y :=
  ⟨fun _ h => absurd h (Set.notMem_empty _), fun _ h => h, fun _ _ _ h => h⟩
theorem gn_isJoin_self (X : Set Pt) : gn_IsJoin X X X := ⟨fun _ h => h, fun _ h => h, fun _ _ h _ => h⟩

/-! ## `Grid::upper_bound_assign(y)` (Grid_public.cc:1590): the join -/

theorem gn_ens_of_not_marked {x : Grid} (h : x.markedEmpty = false) : ensureGenerators x = gn_ens x := by
  unfold gn_ens; rw [h, if_neg (by simp)]

theorem gn_upperBoundAssign_eq (x y : Grid) (hd : x.spaceDim = y.spaceDim) (hx : x.markedEmpty = false)
    (hy : y.markedEmpty = false) (hn : 0 < x.spaceDim) :
    upperBoundAssign x y =
      if (gn_ens x).2 = false then { x := assign (gn_ens x).1 y, y := y }
      else if (gn_ens y).2 = false then { x := (gn_ens x).1, y := (gn_ens y).1 }
      else { x := (((gn_ens x).1.withGs ((normalizeDivisors2 (gn_ens x).1.gs (gn_ens y).1.gs).1.insertSys
                    (normalizeDivisors2 (gn_ens x).1.gs (gn_ens y).1.gs).2)).clearCongruencesUpToDate
                  ).clearGeneratorsMinimized,
             y := (gn_ens y).1 } := by
  unfold upperBoundAssign
  rw [if_neg (not_not.mpr hd), hy, if_neg (by simp), hx, if_neg (by simp), if_neg (by omega),
    gn_ens_of_not_marked hx, gn_ens_of_not_marked hy]
  cases h1 : (gn_ens x).2 <;> cases h2 : (gn_ens y).2 <;> simp [h1, h2]

/-- the generator systems of two non-empty grids of one dimension after `normalize_divisors(x.gen_sys, gs)` and
    `x.gen_sys.insert(gs)` -/
theorem gn_join_rows {n : Nat} (hn : 0 < n) {X Y : List GRow} {DX DY : Int} (hwX : GWf n X) (hNX : GNorm n DX X)
    (hwY : GWf n Y) (hNY : GNorm n DY Y) :
    ∃ rows D', (normalizeDivisors2 (GSys.mk n X) (GSys.mk n Y)).1.insertSys (normalizeDivisors2 (GSys.mk n X) (GSys.mk n Y)).2
        = GSys.mk n rows ∧ GWf n rows ∧ GNorm n D' rows ∧ gn_IsJoin (gn_set rows) (gn_set X) (gn_set Y) := by
  obtain ⟨D', d1, d2, w1, n1, w2, n2, s1, s2⟩ :=
    gn_normalizeDivisors2 (sys := GSys.mk n X) (genSys := GSys.mk n Y) hn rfl rfl (gn_wf_of_gnorm hNX hwX) hNY hwY
  rw [gn_insertSys _ _ (by rw [d1, d2]) (by rw [d1]; exact w2)]
  refine ⟨_, D', ?_, gn_gwf_append w1 w2, gn_gnorm_append_gnorm n1 n2, ?_⟩
  · exact congrArg (fun d => GSys.mk d _) d1
  · have hj := gn_set_append_join (X := (normalizeDivisors2 (GSys.mk n X) (GSys.mk n Y)).1.rows)
      (Y := (normalizeDivisors2 (GSys.mk n X) (GSys.mk n Y)).2.rows)
      (gn_wf_of_gnorm n1 w1).pt (gn_wf_of_gnorm n2 w2).pt
    rw [s1, s2] at hj
    exact hj

/-- **`Grid::upper_bound_assign(y)`** for grids of one dimension: both invariants are kept, nothing is thrown, `y` denotes
    what it denoted, and the receiver becomes the join: it contains both grids and is contained in every closed set
    (in particular every grid `Gen.sem K`, see `gn_IsJoin.least`) that contains both -/
theorem gn_upperBoundAssign (x y : Grid) (hIx : GridInv x) (hIy : GridInv y)
    (hd : x.spaceDim = y.spaceDim) :
    GridInv (upperBoundAssign x y).x ∧ GridInv (upperBoundAssign x y).y ∧ (upperBoundAssign x y).thrown = false ∧
    (upperBoundAssign x y).x.spaceDim = x.spaceDim ∧ (upperBoundAssign x y).y.spaceDim = y.spaceDim ∧
    (upperBoundAssign x y).y.sem = y.sem ∧ gn_IsJoin (upperBoundAssign x y).x.sem x.sem y.sem := by
  cases hy : y.markedEmpty with
  | true =>
    have e : upperBoundAssign x y = { x := x, y := y } := by
      unfold upperBoundAssign; rw [if_neg (not_not.mpr hd), hy, if_pos rfl]
    rw [e, sem_of_empty (g := y) hy]
    exact ⟨hIx, hIy, rfl, rfl, rfl, rfl, gn_isJoin_empty_right _⟩
  | false =>
  cases hx : x.markedEmpty with
  | true =>
    have e : upperBoundAssign x y = { x := assign x y, y := y } := by
      unfold upperBoundAssign; rw [if_neg (not_not.mpr hd), hy, if_neg (by simp), hx, if_pos rfl]
    obtain ⟨a, b, c⟩ := assign_spec x y hIy
    rw [e, sem_of_empty (g := x) hx]
    refine ⟨a, hIy, rfl, by rw [hd]; exact c, rfl, rfl, ?_⟩
    show gn_IsJoin (assign x y).sem ∅ y.sem
    rw [b]; exact gn_isJoin_empty_left _
  | false =>
  by_cases h0 : x.spaceDim = 0
  · have e : upperBoundAssign x y = { x := x, y := y } := by
      unfold upperBoundAssign; rw [if_neg (not_not.mpr hd), hy, if_neg (by simp), hx, if_neg (by simp), if_pos h0]
    rw [e]
    refine ⟨hIx, hIy, rfl, rfl, rfl, rfl, ?_⟩
    show gn_IsJoin x.sem x.sem y.sem
    rw [sem_of_zdim (g := y) hy (by rw [← hd]; exact h0), sem_of_zdim (g := x) hx h0]
    exact gn_isJoin_self _
  · have hn : 0 < x.spaceDim := by omega
    have hny : 0 < y.spaceDim := by omega
    rw [gn_upperBoundAssign_eq x y hd hx hy hn]
    cases h1 : (gn_ens x).2 with
    | false =>
      obtain ⟨_, _, _, _, ex⟩ := gn_ens_false x hIx hn h1
      obtain ⟨a, b, c⟩ := assign_spec (gn_ens x).1 y hIy
      rw [if_pos rfl, ex]
      refine ⟨a, hIy, rfl, by rw [hd]; exact c, rfl, rfl, ?_⟩
      show gn_IsJoin (assign (gn_ens x).1 y).sem ∅ y.sem
      rw [b]; exact gn_isJoin_empty_left _
    | true =>
      rw [if_neg (by simp)]
      obtain ⟨ax, bx, cx, dx, ex, fx, wx, nx, sx⟩ := gn_ens_true x hIx hn h1
      cases h2 : (gn_ens y).2 with
      | false =>
        obtain ⟨ay, by', _, dy, ey⟩ := gn_ens_false y hIy hny h2
        obtain ⟨_, sx', _⟩ := gn_ens_spec x hIx hn
        rw [if_pos rfl]
        refine ⟨ax, ay, rfl, bx, by', by rw [ey]; exact dy, ?_⟩
        show gn_IsJoin (gn_ens x).1.sem x.sem y.sem
        rw [sx', ey]; exact gn_isJoin_empty_right _
      | true =>
        rw [if_neg (by simp)]
        obtain ⟨ay, by', cy, dy, ey, fy, wy, ny, sy⟩ := gn_ens_true y hIy hny h2
        obtain ⟨_, sy', _⟩ := gn_ens_spec y hIy hny
        have hgx : (gn_ens x).1.gs = GSys.mk x.spaceDim (gn_ens x).1.gen := by
          show GSys.mk (gn_ens x).1.genDim (gn_ens x).1.gen = _
          rw [fx]
        have hgy : (gn_ens y).1.gs = GSys.mk x.spaceDim (gn_ens y).1.gen := by
          show GSys.mk (gn_ens y).1.genDim (gn_ens y).1.gen = _
          rw [fy, hd]
        rw [← hd] at wy ny
        obtain ⟨rows, D', e1, a1, b1, c1⟩ := gn_join_rows hn wx nx wy ny
        rw [hgx, hgy, e1]
        have key := gn_inv_gens_at
          (g := ((((gn_ens x).1.withGs (GSys.mk x.spaceDim rows)).clearCongruencesUpToDate).clearGeneratorsMinimized))
          bx hn cx rfl dx rfl rfl ex rfl a1 (D := D') b1
        refine ⟨key.1, ay, rfl, bx, by', sy', ?_⟩
        show gn_IsJoin (Grid.sem _) x.sem y.sem
        rw [key.2, ← sx, ← sy]
        exact c1

/-- the same, against K2's generator forms: the result is the least grid containing both -/
theorem gn_upperBoundAssign_least (x y : Grid) (hIx : GridInv x) (hIy : GridInv y)
    (hd : x.spaceDim = y.spaceDim) :
    x.sem ⊆ (upperBoundAssign x y).x.sem ∧ y.sem ⊆ (upperBoundAssign x y).x.sem ∧
    ∀ K : GridGens, x.sem ⊆ {p | Gen.sem K p} → y.sem ⊆ {p | Gen.sem K p} →
      (upperBoundAssign x y).x.sem ⊆ {p | Gen.sem K p} := by
  obtain ⟨_, _, _, _, _, _, h⟩ := gn_upperBoundAssign x y hIx hIy hd
  exact ⟨h.1, h.2.1, fun K => h.least K⟩

/-- the hypotheses are satisfiable: the grids `{0}` and `{1/2}` of the line -/
example : ∃ x y : Grid, GridInv x ∧ GridInv y ∧ x.spaceDim = y.spaceDim ∧ 0 < x.spaceDim :=
  ⟨{ spaceDim := 1, st := { gUp := true }, conDim := 1, con := [], genDim := 1, gen := [⟨false, [1, 0, 0]⟩], dk := [] },
   { spaceDim := 1, st := { gUp := true }, conDim := 1, con := [], genDim := 1, gen := [⟨false, [2, 1, 0]⟩], dk := [] },
   gn_inv_point1 1 0 (by decide),
   gn_inv_point1 2 1 (by decide),
   rfl, by decide⟩

/-! ## `set_empty()`, points turned into parameters, the time-elapse of two generated grids -/

/-! ### `set_empty()` -/

/-! ### `set_is_parameter()` on the points of a normalised system -/

/-- the row map of `time_elapse_assign` -/
def gn_toPar (r : GRow) : GRow := if r.isPoint then r.setIsParameter else r

theorem gn_toPar_spec {n : Nat} {D : Int} {rows : List GRow} (hN : GNorm n D rows) (hw : GWf n rows) {r : GRow}
    (hr : r ∈ rows) :
    (gn_toPar r).line = r.line ∧ (gn_toPar r).e.length = n + 2 ∧ get (gn_toPar r).e 0 = 0 ∧
    (r.line = false → get (gn_toPar r).e (n + 1) = D) ∧ gn_vecOf (gn_toPar r) = gn_vecOf r := by
  have hlen := hw r hr
  unfold gn_toPar
  cases hp : r.isPoint with
  | false =>
    rw [if_neg (by simp)]
    cases hl : r.line with
    | true => exact ⟨rfl, hlen, hN.lin r hr hl, fun h => (by cases h), rfl⟩
    | false =>
      have h0 : get r.e 0 = 0 := by simpa [GRow.isPoint, hl] using hp
      exact ⟨rfl, hlen, h0, fun _ => hN.par r hr hl h0, rfl⟩
  | true =>
    rw [if_pos rfl]
    have hp' : r.line = false ∧ get r.e 0 ≠ 0 := by simpa [GRow.isPoint] using hp
    have h0 : get r.e 0 = D := by
      rcases hN.col0 r hr hp'.1 with q | q
      · exact absurd q hp'.2
      · exact q
    have e : r.setIsParameter = { r with e := (r.e.set (n + 1) (get r.e 0)).set 0 0 } := by
      unfold GRow.setIsParameter
      rw [if_neg (by rw [hp'.1]; simp), if_pos hp'.2, hlen]; rfl
    have hg : ∀ i, get r.setIsParameter.e i = if i = 0 then 0 else if i = n + 1 then get r.e 0 else get r.e i := by
      intro i
      rw [e]
      show get ((r.e.set (n + 1) (get r.e 0)).set 0 0) i = _
      rw [get_set, get_set, List.length_set, hlen]
      by_cases h1 : i = 0
      · simp [h1]
      · by_cases h2 : i = n + 1
        · simp [h2]
        · simp [h1, h2]
    have hl' : r.setIsParameter.line = false := by rw [e]; exact hp'.1
    have hlen' : r.setIsParameter.e.length = n + 2 := by rw [e]; simp [hlen]
    have hz : get r.setIsParameter.e 0 = 0 := by rw [hg]; simp
    refine ⟨by rw [hl', hp'.1], hlen', hz, fun _ => by rw [hg, if_neg (by omega), if_pos rfl]; exact h0, ?_⟩
    funext i
    unfold gn_vecOf
    rw [gn_spaceDim_of_len hlen', gn_spaceDim_of_len hlen, hl', hp'.1,
      divisor_param n _ hlen' hz, divisor_point r hp'.2]
    by_cases hi : i < n
    · rw [if_pos hi, if_pos hi, hg (n + 1), hg (i + 1)]
      have a3 : ¬ (i = n) := by omega
      simp [a3]
    · rw [if_neg hi, if_neg hi]

/-! ### the time-elapse of two generated grids -/

/-- `S` is the least closed set containing all `p + μ q`, `p ∈ X`, `q ∈ Y`, `μ ∈ ℤ` -/
def gn_IsTE (S X Y : Set Pt) : Prop :=
  (∀ p ∈ X, ∀ q ∈ Y, ∀ μ : Int, p + (μ : ℚ) • q ∈ S) ∧
  ∀ K : Set Pt, gn_Closed K → (∀ p ∈ X, ∀ q ∈ Y, ∀ μ : Int, p + (μ : ℚ) • q ∈ K) → S ⊆ K

theorem gn_IsTE.least {S X Y : Set Pt} (h : gn_IsTE S X Y) (K : GridGens)
    (hK : ∀ p ∈ X, ∀ q ∈ Y, ∀ μ : Int, Gen.sem K (p + (μ : ℚ) • q)) : S ⊆ {p | Gen.sem K p} :=
  h.2 _ (gn_closed_sem K) hK

theorem gn_isTE_empty_left (Y : Set Pt) : gn_IsTE ∅ ∅ Y :=
  ⟨fun _ h => absurd h (Set.notMem_empty _), fun _ _ _ => Set.empty_subset _⟩
theorem gn_isTE_empty_right (X : Set Pt) : gn_IsTE ∅ X ∅ :=
  ⟨fun _ _ _ h => absurd h (Set.notMem_empty _), fun _ _ _ => Set.empty_subset _⟩

/-- **the rows of `X` together with the rows of `Y`, points read as parameters, generate the time-elapse** -/
theorem gn_set_te {X Y : List GRow} (f : GRow → GRow) (hX : ∃ r ∈ X, gn_isPt r = true)
    (hY : ∃ r ∈ Y, gn_isPt r = true) (hline : ∀ r ∈ Y, (f r).line = r.line)
    (hvec : ∀ r ∈ Y, gn_vecOf (f r) = gn_vecOf r) (hpar : ∀ r ∈ Y, r.line = false → gn_isPar (f r) = true) :
    gn_IsTE (gn_set (X ++ Y.map f)) (gn_set X) (gn_set Y) := by
  have hfm : ∀ r ∈ Y, f r ∈ X ++ Y.map f := fun r hr => List.mem_append_right _ (List.mem_map_of_mem hr)
  have hparDir : ∀ r ∈ Y, r.line = false → gn_Dir (X ++ Y.map f) (gn_vecOf r) := by
    intro r hr hl; rw [← hvec r hr]; exact gn_dir_par (hfm r hr) (hpar r hr hl)
  constructor
  · intro p hp q hq μ
    obtain ⟨b, hb, pb, wb⟩ := hq
    have hdirY : gn_Dir (X ++ Y.map f) (q - gn_vecOf b) := by
      refine gn_dir_le (S := gn_Dir (X ++ Y.map f)) (gn_dir_zero _) (fun _ _ => gn_dir_add)
        (fun k _ => gn_dir_zsmul k) ?_ ?_ ?_ wb
      · intro r1 h1 p1 r2 h2 p2
        exact gn_dir_sub (hparDir r1 h1 ((gn_isPt_iff r1).mp p1).1) (hparDir r2 h2 ((gn_isPt_iff r2).mp p2).1)
      · intro r h1 p1; exact hparDir r h1 ((gn_isPar_iff r).mp p1).1
      · intro r h1 p1 c; rw [← hvec r h1]; exact gn_dir_line (hfm r h1) (by rw [hline r h1]; exact p1) c
    have : gn_Dir (X ++ Y.map f) ((μ : ℚ) • q) := by
      have e : q = gn_vecOf b + (q - gn_vecOf b) := by module
      rw [e]
      exact gn_dir_zsmul μ (gn_dir_add (hparDir b hb ((gn_isPt_iff b).mp pb).1) hdirY)
    exact gn_mem_add_dir (gn_mem_append_left hp) this
  · intro K hK hall
    obtain ⟨a0, ha0⟩ := gn_mem_nonempty hX
    obtain ⟨b0, hb0⟩ := gn_mem_nonempty hY
    have hXK : gn_set X ⊆ K := by
      intro p hp
      have := hall p hp b0 hb0 0
      simpa using this
    obtain ⟨px, lx⟩ := gn_absorb hK hXK hX
    -- a direction `v` with `b + v ∈ Y` for some `b ∈ Y` is absorbed by `K`
    have habs : ∀ b ∈ gn_set Y, ∀ v : Pt, b + v ∈ gn_set Y → ∀ a ∈ K, ∀ k : Int, a + (k : ℚ) • v ∈ K := by
      intro b hb v hbv a ha k
      have := hK a ha _ (hall a0 ha0 (b + v) hbv 1) _ (hall a0 ha0 b hb 1) k
      have e : a + (k : ℚ) • (a0 + ((1 : Int) : ℚ) • (b + v) - (a0 + ((1 : Int) : ℚ) • b)) = a + (k : ℚ) • v := by
        push_cast; module
      rwa [e] at this
    refine gn_mem_least hK ?_ ?_ ?_
    · intro r hr p
      rcases List.mem_append.mp hr with hr | hr
      · exact hXK (gn_mem_pt hr p)
      · obtain ⟨r0, hr0, rfl⟩ := List.mem_map.mp hr
        exfalso
        cases hl : r0.line with
        | true => have := hline r0 hr0; rw [hl] at this; simp [gn_isPt, this] at p
        | false =>
          have := (gn_isPar_iff _).mp (hpar r0 hr0 hl)
          simp [gn_isPt, this.2] at p
    · intro r hr p
      rcases List.mem_append.mp hr with hr | hr
      · exact px r hr p
      · obtain ⟨r0, hr0, rfl⟩ := List.mem_map.mp hr
        have hl0 : r0.line = false := by rw [← hline r0 hr0]; exact ((gn_isPar_iff _).mp p).1
        rw [hvec r0 hr0]
        by_cases h0 : get r0.e 0 = 0
        · exact habs b0 hb0 _ (by
            have := gn_mem_par_step hr0 ((gn_isPar_iff r0).mpr ⟨hl0, h0⟩) hb0 1
            show gn_Mem Y (b0 + gn_vecOf r0)
            simpa using this)
        · intro a ha k
          have hp0 := gn_mem_pt hr0 ((gn_isPt_iff r0).mpr ⟨hl0, h0⟩)
          have := hK a ha _ (hall a0 ha0 _ hp0 1) _ (hall a0 ha0 _ hp0 0) k
          have e : a + (k : ℚ) • (a0 + ((1 : Int) : ℚ) • gn_vecOf r0 - (a0 + ((0 : Int) : ℚ) • gn_vecOf r0))
              = a + (k : ℚ) • gn_vecOf r0 := by push_cast; module
          rwa [e] at this
    · intro r hr p
      rcases List.mem_append.mp hr with hr | hr
      · exact lx r hr p
      · obtain ⟨r0, hr0, rfl⟩ := List.mem_map.mp hr
        have hl0 : r0.line = true := by rw [← hline r0 hr0]; exact p
        rw [hvec r0 hr0]
        intro a ha c
        have := habs b0 hb0 (c • gn_vecOf r0) (gn_mem_line_step hr0 hl0 hb0 c) a ha 1
        simpa using this

/-! ## `Grid::time_elapse_assign(y)` (Grid_public.cc:2708) -/

theorem gn_timeElapseAssign_eq (x y : Grid) (hd : x.spaceDim = y.spaceDim) (hx : x.markedEmpty = false)
    (hy : y.markedEmpty = false) (hn : 0 < x.spaceDim) :
    timeElapseAssign x y =
      if (gn_ens x).2 = false then { x := setEmpty (gn_ens x).1, y := y }
      else if (gn_ens y).2 = false then { x := setEmpty (gn_ens x).1, y := (gn_ens y).1 }
      else if ((normalizeDivisors2 (gn_ens y).1.gs (gn_ens x).1.gs).1.rows.map gn_toPar).isEmpty = true then
        { x := (gn_ens x).1.withGs (normalizeDivisors2 (gn_ens y).1.gs (gn_ens x).1.gs).2, y := (gn_ens y).1 }
      else { x := (((gn_ens x).1.withGs ((normalizeDivisors2 (gn_ens y).1.gs (gn_ens x).1.gs).2.insertSys
                    { (normalizeDivisors2 (gn_ens y).1.gs (gn_ens x).1.gs).1 with
                      rows := (normalizeDivisors2 (gn_ens y).1.gs (gn_ens x).1.gs).1.rows.map gn_toPar })
                    ).clearCongruencesUpToDate).clearGeneratorsMinimized,
             y := (gn_ens y).1 } := by
  unfold timeElapseAssign
  rw [if_neg (not_not.mpr hd), if_neg (by omega), hx, if_neg (by simp), hy, if_neg (by simp),
    gn_ens_of_not_marked hx, gn_ens_of_not_marked hy]
  cases h1 : (gn_ens x).2 <;> cases h2 : (gn_ens y).2
  · simp [h1]
  · simp [h1]
  · simp [h1, h2]
  · simp [h1, h2]; rfl

/-- the generator system of the receiver after `normalize_divisors(gs, gen_sys)`, `set_is_parameter` on the points of `gs`
    and `gen_sys.insert(gs)` -/
theorem gn_te_rows {n : Nat} (hn : 0 < n) {X Y : List GRow} {DX DY : Int} (hwX : GWf n X) (hNX : GNorm n DX X)
    (hwY : GWf n Y) (hNY : GNorm n DY Y) :
    ((normalizeDivisors2 (GSys.mk n Y) (GSys.mk n X)).1.rows.map gn_toPar).isEmpty = false ∧
    ∃ rows D', (normalizeDivisors2 (GSys.mk n Y) (GSys.mk n X)).2.insertSys
        { (normalizeDivisors2 (GSys.mk n Y) (GSys.mk n X)).1 with
          rows := (normalizeDivisors2 (GSys.mk n Y) (GSys.mk n X)).1.rows.map gn_toPar } = GSys.mk n rows ∧
      GWf n rows ∧ GNorm n D' rows ∧ gn_IsTE (gn_set rows) (gn_set X) (gn_set Y) := by
  obtain ⟨D', d1, d2, w1, n1, w2, n2, s1, s2⟩ :=
    gn_normalizeDivisors2 (sys := GSys.mk n Y) (genSys := GSys.mk n X) hn rfl rfl (gn_wf_of_gnorm hNY hwY) hNX hwX
  have spec := fun r hr => gn_toPar_spec n1 w1 (r := r) hr
  have wpar : GWf n ((normalizeDivisors2 (GSys.mk n Y) (GSys.mk n X)).1.rows.map gn_toPar) := by
    intro r' hr'
    obtain ⟨r, hr, rfl⟩ := List.mem_map.mp hr'
    exact (spec r hr).2.1
  constructor
  · obtain ⟨r, hr, _⟩ := (gn_wf_of_gnorm n1 w1).pt
    cases hm : (normalizeDivisors2 (GSys.mk n Y) (GSys.mk n X)).1.rows with
    | nil => rw [hm] at hr; cases hr
    | cons a l => rfl
  · rw [gn_insertSys _ _ (by rw [d2]; exact d1) (by rw [d2]; exact wpar)]
    refine ⟨_, D', congrArg (fun d => GSys.mk d _) d2, gn_gwf_append w2 wpar, ?_, ?_⟩
    · refine gn_gnorm_append n2 ?_ ?_ ?_
      · intro r' hr' _
        obtain ⟨r, hr, rfl⟩ := List.mem_map.mp hr'
        exact Or.inl (spec r hr).2.2.1
      · intro r' hr' hl _
        obtain ⟨r, hr, rfl⟩ := List.mem_map.mp hr'
        exact (spec r hr).2.2.2.1 (by rw [← (spec r hr).1]; exact hl)
      · intro r' hr' _
        obtain ⟨r, hr, rfl⟩ := List.mem_map.mp hr'
        exact (spec r hr).2.2.1
    · have hj := gn_set_te (X := (normalizeDivisors2 (GSys.mk n Y) (GSys.mk n X)).2.rows)
        (Y := (normalizeDivisors2 (GSys.mk n Y) (GSys.mk n X)).1.rows) gn_toPar
        (gn_wf_of_gnorm n2 w2).pt (gn_wf_of_gnorm n1 w1).pt (fun r hr => (spec r hr).1)
        (fun r hr => (spec r hr).2.2.2.2)
        (fun r hr hl => (gn_isPar_iff _).mpr ⟨by rw [(spec r hr).1]; exact hl, (spec r hr).2.2.1⟩)
      rw [s1, s2] at hj
      exact hj

theorem gn_isTE_dim0 : gn_IsTE {y : Pt | Supp 0 y} {y | Supp 0 y} {y | Supp 0 y} := by
  constructor
  · intro p hp q hq μ i hi
    have h1 : p i = 0 := hp i hi
    have h2 : q i = 0 := hq i hi
    simp [h1, h2]
  · intro K _ hall p hp
    have := hall p hp p hp 0
    simpa using this

/-- **`Grid::time_elapse_assign(y)`** for grids of one dimension: both invariants are kept, nothing is thrown, `y` denotes
    what it denoted, the receiver becomes the least grid containing every `p + μ q` (`p` in the receiver, `q ∈ y`,
    `μ ∈ ℤ`); it is empty when one of the two is -/
theorem gn_timeElapseAssign (x y : Grid) (hIx : GridInv x) (hIy : GridInv y)
    (hd : x.spaceDim = y.spaceDim) :
    GridInv (timeElapseAssign x y).x ∧ GridInv (timeElapseAssign x y).y ∧ (timeElapseAssign x y).thrown = false ∧
    (timeElapseAssign x y).x.spaceDim = x.spaceDim ∧ (timeElapseAssign x y).y.spaceDim = y.spaceDim ∧
    (timeElapseAssign x y).y.sem = y.sem ∧ gn_IsTE (timeElapseAssign x y).x.sem x.sem y.sem := by
  obtain ⟨se1, se2, se3⟩ := setEmpty_spec x
  by_cases h0 : x.spaceDim = 0
  · cases hy : y.markedEmpty with
    | true =>
      have e : timeElapseAssign x y = { x := setEmpty x, y := y } := by
        unfold timeElapseAssign; rw [if_neg (not_not.mpr hd), if_pos h0, hy, if_pos rfl]
      rw [e, sem_of_empty (g := y) hy]
      refine ⟨se1, hIy, rfl, se3, rfl, rfl, ?_⟩
      show gn_IsTE (setEmpty x).sem x.sem ∅
      rw [se2]; exact gn_isTE_empty_right _
    | false =>
      have e : timeElapseAssign x y = { x := x, y := y } := by
        unfold timeElapseAssign; rw [if_neg (not_not.mpr hd), if_pos h0, hy, if_neg (by simp)]
      rw [e]
      refine ⟨hIx, hIy, rfl, rfl, rfl, rfl, ?_⟩
      show gn_IsTE x.sem x.sem y.sem
      cases hx : x.st.empty with
      | true => rw [sem_of_empty hx]; exact gn_isTE_empty_left _
      | false =>
        rw [sem_of_zdim hx h0, sem_of_zdim (g := y) hy (by rw [← hd]; exact h0)]
        exact gn_isTE_dim0
  · have hn : 0 < x.spaceDim := by omega
    have hny : 0 < y.spaceDim := by omega
    cases hx : x.markedEmpty with
    | true =>
      have e : timeElapseAssign x y = { x := x, y := y } := by
        unfold timeElapseAssign; rw [if_neg (not_not.mpr hd), if_neg h0, hx, if_pos rfl]
      rw [e]
      refine ⟨hIx, hIy, rfl, rfl, rfl, rfl, ?_⟩
      show gn_IsTE x.sem x.sem y.sem
      rw [sem_of_empty (g := x) hx]; exact gn_isTE_empty_left _
    | false =>
    cases hy : y.markedEmpty with
    | true =>
      have e : timeElapseAssign x y = { x := setEmpty x, y := y } := by
        unfold timeElapseAssign; rw [if_neg (not_not.mpr hd), if_neg h0, hx, if_neg (by simp), hy, if_pos rfl]
      rw [e, sem_of_empty (g := y) hy]
      refine ⟨se1, hIy, rfl, se3, rfl, rfl, ?_⟩
      show gn_IsTE (setEmpty x).sem x.sem ∅
      rw [se2]; exact gn_isTE_empty_right _
    | false =>
    rw [gn_timeElapseAssign_eq x y hd hx hy hn]
    obtain ⟨t1, t2, t3⟩ := setEmpty_spec (gn_ens x).1
    obtain ⟨_, sx', bx', _⟩ := gn_ens_spec x hIx hn
    cases h1 : (gn_ens x).2 with
    | false =>
      obtain ⟨_, _, _, _, ex⟩ := gn_ens_false x hIx hn h1
      rw [if_pos rfl, ex]
      refine ⟨t1, hIy, rfl, by rw [← bx']; exact t3, rfl, rfl, ?_⟩
      show gn_IsTE (setEmpty (gn_ens x).1).sem ∅ y.sem
      rw [t2]; exact gn_isTE_empty_left _
    | true =>
      rw [if_neg (by simp)]
      obtain ⟨ax, bx, cx, dx, ex, fx, wx, nx, sx⟩ := gn_ens_true x hIx hn h1
      cases h2 : (gn_ens y).2 with
      | false =>
        obtain ⟨ay, by', _, dy, ey⟩ := gn_ens_false y hIy hny h2
        rw [if_pos rfl]
        refine ⟨t1, ay, rfl, by rw [← bx']; exact t3, by', by rw [ey]; exact dy, ?_⟩
        show gn_IsTE (setEmpty (gn_ens x).1).sem x.sem y.sem
        rw [t2, ey]; exact gn_isTE_empty_right _
      | true =>
        rw [if_neg (by simp)]
        obtain ⟨ay, by', cy, dy, ey, fy, wy, ny, sy⟩ := gn_ens_true y hIy hny h2
        obtain ⟨_, sy', _⟩ := gn_ens_spec y hIy hny
        have hgx : (gn_ens x).1.gs = GSys.mk x.spaceDim (gn_ens x).1.gen := by
          show GSys.mk (gn_ens x).1.genDim (gn_ens x).1.gen = _
          rw [fx]
        have hgy : (gn_ens y).1.gs = GSys.mk x.spaceDim (gn_ens y).1.gen := by
          show GSys.mk (gn_ens y).1.genDim (gn_ens y).1.gen = _
          rw [fy, hd]
        rw [← hd] at wy ny
        obtain ⟨hne, rows, D', e1, a1, b1, c1⟩ := gn_te_rows hn wx nx wy ny
        rw [hgx, hgy, hne, if_neg (by simp), e1]
        have key := gn_inv_gens_at
          (g := ((((gn_ens x).1.withGs (GSys.mk x.spaceDim rows)).clearCongruencesUpToDate).clearGeneratorsMinimized))
          bx hn cx rfl dx rfl rfl ex rfl a1 (D := D') b1
        refine ⟨key.1, ay, rfl, bx, by', sy', ?_⟩
        show gn_IsTE (Grid.sem _) x.sem y.sem
        rw [key.2, ← sx, ← sy]
        exact c1

/-- the same, against K2's generator forms -/
theorem gn_timeElapseAssign_least (x y : Grid) (hIx : GridInv x) (hIy : GridInv y)
    (hd : x.spaceDim = y.spaceDim) :
    (∀ p ∈ x.sem, ∀ q ∈ y.sem, ∀ μ : Int, p + (μ : ℚ) • q ∈ (timeElapseAssign x y).x.sem) ∧
    ∀ K : GridGens, (∀ p ∈ x.sem, ∀ q ∈ y.sem, ∀ μ : Int, Gen.sem K (p + (μ : ℚ) • q)) →
      (timeElapseAssign x y).x.sem ⊆ {p | Gen.sem K p} := by
  obtain ⟨_, _, _, _, _, _, h⟩ := gn_timeElapseAssign x y hIx hIy hd
  exact ⟨h.1, fun K => h.least K⟩

end PPLV.Lattice.GO

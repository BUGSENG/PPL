import PPLV.Lattice.ProofsRedCgInv

/-!
# `Grid::simplify(Congruence_System&)`: the inner `while` loop (Grid_simplify.cc:438-467)

`InnerInv`: rows `< k` are finished pivot rows, rows `≥ k` vanish after column `dim`, row `k` (the
pivot) is non-zero in column `dim`, rows strictly between `k` and `ri` are already zero in column `dim`.
-/
namespace PPLV.Lattice.Red

structure InnerInv (n : Nat) (dk : List Nat) (p : Nat → Nat) (k dim : Nat) (rows : List CRow) (ri : Nat)
    (b : Bool) : Prop where
  wf : RWf n rows
  mod : ∃ M, SameMod rows M
  klt : k < rows.length
  piv : ∀ i, i < k → PivRow (rowAt rows i) (kind dk (p i)) (p i)
  rest : ∀ i, k ≤ i → i < rows.length → ∀ j, dim < j → get (rowAt rows i).e j = 0
  pivnz : get (rowAt rows k).e dim ≠ 0
  pivkind : b = (rowAt rows k).isEquality
  done : ∀ i, k < i → i < ri → get (rowAt rows i).e dim = 0

theorem PivRow.scaled {r r' : CRow} {kd c : Nat} {f : Int} (h : PivRow r kd c) (hs : ScaledBy r' r f) (hf : 0 < f) :
    PivRow r' kd c := by
  refine ⟨?_, ?_, ?_⟩
  · rcases h.kindok with ⟨h1, h2⟩ | ⟨h1, h2⟩
    · left; exact ⟨by rw [hs.1, h1]; ring, h2⟩
    · right; exact ⟨by rw [hs.1]; exact Int.mul_pos h1 hf, h2⟩
  · rw [hs.2.2]; exact Int.mul_pos hf h.pos
  · intro j hj; rw [hs.2.2, h.zero j hj]; ring

theorem isEquality_iff (r : CRow) : r.isEquality = true ↔ r.m = 0 := by
  simp [CRow.isEquality]

/-- rows `ri` and `k` are replaced, moduli unchanged -/
theorem InnerInv.replace2 {n : Nat} {dk : List Nat} {p : Nat → Nat} {k dim : Nat} {rows : List CRow} {ri : Nat} {b : Bool}
    (h : InnerInv n dk p k dim rows ri b) (hri1 : k < ri) (hri2 : ri < rows.length) (rows' : List CRow)
    (hlen : rows'.length = rows.length)
    (hoth : ∀ i, i ≠ ri → i ≠ k → rowAt rows' i = rowAt rows i)
    (hr : (rowAt rows' ri).m = (rowAt rows ri).m ∧ (rowAt rows' ri).e.length = n + 1 ∧
      (∀ j, dim < j → get (rowAt rows' ri).e j = 0) ∧ get (rowAt rows' ri).e dim = 0)
    (hp : (rowAt rows' k).m = (rowAt rows k).m ∧ (rowAt rows' k).e.length = n + 1 ∧
      (∀ j, dim < j → get (rowAt rows' k).e j = 0) ∧ get (rowAt rows' k).e dim ≠ 0) :
    InnerInv n dk p k dim rows' (ri + 1) b := by
  have hm : ∀ i, (rowAt rows' i).m = (rowAt rows i).m := by
    intro i
    by_cases e1 : i = ri
    · rw [e1]; exact hr.1
    · by_cases e2 : i = k
      · rw [e2]; exact hp.1
      · rw [hoth i e1 e2]
  refine ⟨?_, ?_, by omega, ?_, ?_, hp.2.2.2, ?_, ?_⟩
  · intro i hi
    rw [hlen] at hi
    rw [hm i]
    refine ⟨?_, (h.wf i hi).2⟩
    by_cases e1 : i = ri
    · rw [e1]; exact hr.2.1
    · by_cases e2 : i = k
      · rw [e2]; exact hp.2.1
      · rw [hoth i e1 e2]; exact (h.wf i hi).1
  · obtain ⟨M, hM1, hM2⟩ := h.mod
    refine ⟨M, hM1, ?_⟩
    intro i hi
    rw [hlen] at hi
    rw [hm i]; exact hM2 i hi
  · intro i hi
    rw [hoth i (by omega) (by omega)]; exact h.piv i hi
  · intro i hi1 hi2 j hj
    rw [hlen] at hi2
    by_cases e1 : i = ri
    · rw [e1]; exact hr.2.2.1 j hj
    · by_cases e2 : i = k
      · rw [e2]; exact hp.2.2.1 j hj
      · rw [hoth i e1 e2]; exact h.rest i hi1 hi2 j hj
  · rw [h.pivkind]; simp only [CRow.isEquality, hm k]
  · intro i hi1 hi2
    by_cases e1 : i = ri
    · rw [e1]; exact hr.2.2.2
    · rw [hoth i e1 (by omega)]; exact h.done i hi1 (by omega)

/-- row `ri` has a zero in column `dim`: nothing to do -/
theorem InnerInv.skip {n : Nat} {dk : List Nat} {p : Nat → Nat} {k dim : Nat} {rows : List CRow} {ri : Nat} {b : Bool}
    (h : InnerInv n dk p k dim rows ri b) (hz : get (rowAt rows ri).e dim = 0) :
    InnerInv n dk p k dim rows (ri + 1) b := by
  refine ⟨h.wf, h.mod, h.klt, h.piv, h.rest, h.pivnz, h.pivkind, ?_⟩
  intro i hi1 hi2
  by_cases e : i = ri
  · rw [e]; exact hz
  · exact h.done i hi1 (by omega)

/-- `swap(row, pivot)` when the row is non-zero in column `dim` -/
theorem InnerInv.swap {n : Nat} {dk : List Nat} {p : Nat → Nat} {k dim : Nat} {rows : List CRow} {ri : Nat} {b : Bool}
    (h : InnerInv n dk p k dim rows ri b) (hri1 : k < ri) (hri2 : ri < rows.length)
    (hnz : get (rowAt rows ri).e dim ≠ 0) :
    InnerInv n dk p k dim (swapRows rows ri k) ri (rowAt rows ri).isEquality := by
  have hk := h.klt
  have hrow : ∀ i, rowAt (swapRows rows ri k) i =
      if i = k then rowAt rows ri else if i = ri then rowAt rows k else rowAt rows i :=
    fun i => rowAt_swapRows rows ri k i hri2 hk
  -- every row of the new system is a row of the old one with index on the same side of `k`
  have hsrc : ∀ i, i < rows.length → ∃ i', i' < rows.length ∧ rowAt (swapRows rows ri k) i = rowAt rows i' ∧
      (k ≤ i → k ≤ i') ∧ (i < k → i' = i) := by
    intro i hi
    rw [hrow i]
    by_cases e1 : i = k
    · rw [if_pos e1]; exact ⟨ri, hri2, rfl, fun _ => by omega, fun _ => by omega⟩
    · rw [if_neg e1]
      by_cases e2 : i = ri
      · rw [if_pos e2]; exact ⟨k, hk, rfl, fun _ => by omega, fun _ => by omega⟩
      · rw [if_neg e2]; exact ⟨i, hi, rfl, fun h => h, fun _ => rfl⟩
  refine ⟨?_, ?_, by simpa using hk, ?_, ?_, ?_, ?_, ?_⟩
  · intro i hi
    rw [length_swapRows] at hi
    obtain ⟨i', hi', e, _, _⟩ := hsrc i hi
    rw [e]; exact h.wf i' hi'
  · obtain ⟨M, hM1, hM2⟩ := h.mod
    refine ⟨M, hM1, ?_⟩
    intro i hi
    rw [length_swapRows] at hi
    obtain ⟨i', hi', e, _, _⟩ := hsrc i hi
    rw [e]; exact hM2 i' hi'
  · intro i hi
    rw [hrow i, if_neg (by omega), if_neg (by omega)]; exact h.piv i hi
  · intro i hi1 hi2 j hj
    rw [length_swapRows] at hi2
    obtain ⟨i', hi', e, h1, _⟩ := hsrc i hi2
    rw [e]; exact h.rest i' (h1 hi1) hi' j hj
  · rw [hrow k, if_pos rfl]; exact hnz
  · rw [hrow k, if_pos rfl]
  · intro i hi1 hi2
    rw [hrow i, if_neg (by omega), if_neg (by omega)]; exact h.done i hi1 hi2

/-- `reduce_congruence_with_equality(row, pivot, dim, sys)` on a proper congruence `row = sys[ri]` -/
theorem InnerInv.rcwe {n : Nat} {dk : List Nat} {p : Nat → Nat} {k dim : Nat} {rows : List CRow} {ri : Nat}
    (h : InnerInv n dk p k dim rows ri true) (hri1 : k < ri) (hri2 : ri < rows.length)
    (hrm : 0 < (rowAt rows ri).m) :
    InnerInv n dk p k dim (reduceCongruenceWithEquality rows ri k dim) (ri + 1) true ∧
      (reduceCongruenceWithEquality rows ri k dim).length = rows.length ∧
      ∀ x, Sol (reduceCongruenceWithEquality rows ri k dim) x ↔ Sol rows x := by
  have hk := h.klt
  have hpm : (rowAt rows k).m = 0 := (isEquality_iff _).mp h.pivkind.symm
  obtain ⟨hlen, f, c, hf, hfc, hoth, hm, hl, hent⟩ :=
    reduceCongruenceWithEquality_spec n rows ri k dim h.wf hri2 hk hrm h.pivnz
  refine ⟨?_, hlen, fun x => reduceCongruenceWithEquality_sol n rows ri k dim h.wf hri2 hk (by omega) hpm hrm h.pivnz x⟩
  -- every other row is the old row times a positive factor
  have hsc : ∀ i, i < rows.length → i ≠ ri →
      ∃ g : Int, 0 < g ∧ ScaledBy (rowAt (reduceCongruenceWithEquality rows ri k dim) i) (rowAt rows i) g ∧
        ((rowAt rows i).m = 0 ∨ g = f) := by
    intro i hi hir
    by_cases hmi : 0 < (rowAt rows i).m
    · exact ⟨f, hf, (hoth i hi hir).1 hmi, Or.inr rfl⟩
    · rw [(hoth i hi hir).2 hmi]
      exact ⟨1, by norm_num, scaledBy_one _, Or.inl (by have := (h.wf i hi).2; omega)⟩
  have hsame : rowAt (reduceCongruenceWithEquality rows ri k dim) k = rowAt rows k :=
    (hoth k hk (by omega)).2 (by omega)
  refine ⟨?_, ?_, by omega, ?_, ?_, ?_, ?_, ?_⟩
  · intro i hi
    rw [hlen] at hi
    by_cases e : i = ri
    · rw [e, hl, hm]; exact ⟨rfl, Int.mul_nonneg (by omega) (by omega)⟩
    · obtain ⟨g, hg, hs, _⟩ := hsc i hi e
      rw [hs.2.1, hs.1]
      exact ⟨(h.wf i hi).1, Int.mul_nonneg (h.wf i hi).2 (by omega)⟩
  · obtain ⟨M, hM1, hM2⟩ := h.mod
    refine ⟨M * f, Int.mul_pos hM1 hf, ?_⟩
    intro i hi
    rw [hlen] at hi
    by_cases e : i = ri
    · rw [e, hm]
      rcases hM2 ri hri2 with h0 | h0
      · omega
      · right; rw [h0]
    · obtain ⟨g, hg, hs, hgf⟩ := hsc i hi e
      rw [hs.1]
      rcases hM2 i hi with h0 | h0
      · left; rw [h0]; ring
      · rcases hgf with h1 | h1
        · left; rw [h1]; ring
        · right; rw [h0, h1]
  · intro i hi
    obtain ⟨g, hg, hs, _⟩ := hsc i (by omega) (by omega)
    exact (h.piv i hi).scaled hs hg
  · intro i hi1 hi2 j hj
    rw [hlen] at hi2
    by_cases e : i = ri
    · rw [e, hent j, h.rest ri (by omega) hri2 j hj, h.rest k (le_refl _) hk j hj]; ring
    · obtain ⟨g, hg, hs, _⟩ := hsc i hi2 e
      rw [hs.2.2 j, h.rest i hi1 hi2 j hj]; ring
  · rw [hsame]; exact h.pivnz
  · rw [hsame]; exact h.pivkind
  · intro i hi1 hi2
    by_cases e : i = ri
    · rw [e, hent dim]; exact hfc
    · obtain ⟨g, hg, hs, _⟩ := hsc i (by omega) e
      rw [hs.2.2 dim, h.done i hi1 (by omega)]; ring

/-- one pass of the inner loop -/
theorem simplifyCgInner_inv {n : Nat} {dk : List Nat} {p : Nat → Nat} {k dim : Nat} {rows : List CRow} {ri : Nat} {b : Bool}
    (h : InnerInv n dk p k dim rows ri b) (hri1 : k < ri) (hri2 : ri < rows.length) :
    InnerInv n dk p k dim (simplifyCgInner dim k (rows, b) ri).1 (ri + 1) (simplifyCgInner dim k (rows, b) ri).2 ∧
      (simplifyCgInner dim k (rows, b) ri).1.length = rows.length ∧
      ∀ x, Sol (simplifyCgInner dim k (rows, b) ri).1 x ↔ Sol rows x := by
  have hk := h.klt
  have hwr := h.wf ri hri2
  have hwk := h.wf k hk
  unfold simplifyCgInner
  simp only []
  by_cases hz : get (rowAt rows ri).e dim = 0
  · rw [if_pos hz]; exact ⟨h.skip hz, rfl, fun x => Iff.rfl⟩
  · rw [if_neg hz]
    by_cases hre : (rowAt rows ri).isEquality = true
    · rw [if_pos hre]
      have hrm0 : (rowAt rows ri).m = 0 := (isEquality_iff _).mp hre
      by_cases hb : b = true
      · -- two equalities
        rw [if_pos hb]
        have hpm0 : (rowAt rows k).m = 0 := (isEquality_iff _).mp (by rw [← h.pivkind]; exact hb)
        obtain ⟨hm, hl, a, c, ha, hent, hd⟩ := reduceEqualityWithEquality_spec (rowAt rows ri) (rowAt rows k) dim
          (by rw [hwr.1, hwk.1]) (h.rest ri (by omega) hri2) (h.rest k (le_refl _) hk) h.pivnz
        refine ⟨?_, by simp, ?_⟩
        · apply h.replace2 hri1 hri2 _ (by simp)
          · intro i h1 h2; rw [rowAt_set_ne _ _ h1]
          · rw [rowAt_set, if_pos ⟨rfl, hri2⟩]
            refine ⟨hm, by rw [hl]; exact hwr.1, ?_, hd⟩
            intro j hj
            rw [hent j, h.rest ri (by omega) hri2 j hj, h.rest k (le_refl _) hk j hj]; ring
          · rw [rowAt_set, if_neg (by omega)]
            exact ⟨rfl, hwk.1, h.rest k (le_refl _) hk, h.pivnz⟩
        · intro x
          apply Sol_set_iff rows ri k _ x hk (by omega)
          intro hp
          exact rsem_eq_comb (rowAt rows ri) (rowAt rows k) _ a c x ha
            (evalRow_lin _ _ _ a c x hl (by rw [hwr.1, hwk.1]) hent) (by rw [hm]; exact hrm0) hrm0 hpm0 hp
      · -- the row is an equality, the pivot is not: swap, then reduce the old pivot
        rw [if_neg hb]
        have hsw := h.swap hri1 hri2 hz
        rw [hre] at hsw
        have hkm : 0 < (rowAt rows k).m := by
          have h1 : ¬ (rowAt rows k).m = 0 := fun e => hb (by rw [h.pivkind]; exact (isEquality_iff _).mpr e)
          have := hwk.2; omega
        have hrs : rowAt (swapRows rows ri k) ri = rowAt rows k := by
          rw [rowAt_swapRows rows ri k ri hri2 hk, if_neg (by omega), if_pos rfl]
        obtain ⟨h1, h2, h3⟩ := hsw.rcwe hri1 (by simpa using hri2) (by rw [hrs]; exact hkm)
        refine ⟨h1, by rw [h2]; simp, ?_⟩
        intro x
        rw [h3 x]; exact Sol_swapRows rows ri k hri2 hk x
    · rw [if_neg hre]
      have hrm : 0 < (rowAt rows ri).m := by
        have h1 : ¬ (rowAt rows ri).m = 0 := fun e => hre ((isEquality_iff _).mpr e)
        have := hwr.2; omega
      by_cases hb : b = true
      · rw [if_pos hb]
        subst hb
        exact h.rcwe hri1 hri2 hrm
      · -- two proper congruences
        rw [if_neg hb]
        have hkm : 0 < (rowAt rows k).m := by
          have h1 : ¬ (rowAt rows k).m = 0 := fun e => hb (by rw [h.pivkind]; exact (isEquality_iff _).mpr e)
          have := hwk.2; omega
        obtain ⟨hm1, hm2, hl1, hl2, s, t, c, d, hdet, hpe, hre', hd1, hd2⟩ :=
          reducePcWithPc_spec (rowAt rows ri) (rowAt rows k) dim
            (by rw [hwr.1, hwk.1]) (h.rest ri (by omega) hri2) (h.rest k (le_refl _) hk) h.pivnz
        refine ⟨?_, by simp, ?_⟩
        · apply h.replace2 hri1 hri2 _ (by simp)
          · intro i h1 h2; rw [rowAt_set_ne _ _ h2, rowAt_set_ne _ _ h1]
          · rw [rowAt_set, if_neg (by omega), rowAt_set, if_pos ⟨rfl, hri2⟩]
            refine ⟨hm1, by rw [hl1]; exact hwr.1, ?_, hd1⟩
            intro j hj
            rw [hre' j, h.rest ri (by omega) hri2 j hj, h.rest k (le_refl _) hk j hj]; ring
          · rw [rowAt_set, if_pos ⟨rfl, by simpa using hk⟩]
            refine ⟨hm2, by rw [hl2]; exact hwk.1, ?_, hd2⟩
            intro j hj
            rw [hpe j, h.rest ri (by omega) hri2 j hj, h.rest k (le_refl _) hk j hj]; ring
        · intro x
          apply Sol_set2_iff rows ri k _ _ x hri2 hk (by omega)
          obtain ⟨M, hM1, hM2⟩ := h.mod
          have e1 : (rowAt rows ri).m = M := by rcases hM2 ri hri2 with h0 | h0 <;> omega
          have e2 : (rowAt rows k).m = M := by rcases hM2 k hk with h0 | h0 <;> omega
          exact rsem_unimodular (rowAt rows ri) (rowAt rows k) _ _ s t c d x hdet
            (evalRow_lin _ _ _ s t x hl2 (by rw [hwr.1, hwk.1]) hpe)
            (evalRow_lin _ _ _ c d x (by rw [hl1, hwr.1, hwk.1]) (by rw [hwr.1, hwk.1]) hre')
            hm1 (by rw [hm2, e1, e2]) (by rw [e1, e2])

/-! ### the fold -/

/-- the whole inner loop, started after the swap of the first non-zero row into the pivot position -/
theorem simplifyCgInner_fold {n : Nat} {dk : List Nat} {p : Nat → Nat} {k dim : Nat} {rows : List CRow} {r0 : Nat} {b : Bool}
    (h : InnerInv n dk p k dim rows (r0 + 1) b) (hr1 : k ≤ r0) (hr2 : r0 < rows.length) :
    let r := (List.range' (r0 + 1) (rows.length - 1 - r0)).foldl (simplifyCgInner dim k) (rows, b)
    InnerInv n dk p k dim r.1 rows.length r.2 ∧ r.1.length = rows.length ∧ ∀ x, Sol r.1 x ↔ Sol rows x := by
  intro r
  have := foldl_range'_inv (simplifyCgInner dim k)
    (fun i (st : List CRow × Bool) => InnerInv n dk p k dim st.1 i st.2 ∧ st.1.length = rows.length ∧
      ∀ x, Sol st.1 x ↔ Sol rows x)
    (rows.length - 1 - r0) (r0 + 1) (rows, b) ⟨h, rfl, fun x => Iff.rfl⟩
    (by
      intro i st hi1 hi2 ⟨hI, hL, hS⟩
      obtain ⟨h1, h2, h3⟩ := simplifyCgInner_inv (b := st.2) (rows := st.1) hI (by omega) (by rw [hL]; omega)
      exact ⟨h1, by rw [h2, hL], fun x => (h3 x).trans (hS x)⟩)
  rwa [show r0 + 1 + (rows.length - 1 - r0) = rows.length by omega] at this

end PPLV.Lattice.Red

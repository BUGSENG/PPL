import PPLV.Lattice.ProofsConvGCDef
import PPLV.Lattice.ProofsRedRow
import Mathlib.Tactic.LinearCombination

/-!
# `Grid::conversion` (generators → congruences): folds, counters, partial products

* `foldl_dimsDown_inv`: the invariant principle of the loops `for (dim = dims; dim-- > 0; )`, and `foldl_rowop`,
  the loop applying one row operation to the rows `K-1, …, 0`;
* `cntBelow P d`: number of indices `< d` with `P`; `nv` counts the non-virtual dimensions (index of
  the source row of a dimension), `nl` the non-line dimensions (`pos`: index of the dest row);
* `dotUpto` under row operations.
-/
namespace PPLV.Lattice.Red

theorem gc_dimsDown_succ (m : Nat) : dimsDown (m + 1) = m :: dimsDown m := by
  simp [dimsDown, List.range_succ]

theorem foldl_dimsDown_inv {σ : Type} (f : σ → Nat → σ) (I : Nat → σ → Prop) :
    ∀ (m : Nat) (s : σ), I m s → (∀ d s, d < m → I (d + 1) s → I d (f s d)) → I 0 ((dimsDown m).foldl f s)
  | 0, s, h0, _ => by simpa [dimsDown] using h0
  | m + 1, s, h0, hstep => by
    rw [gc_dimsDown_succ, List.foldl_cons]
    exact foldl_dimsDown_inv f I m (f s m) (hstep m s (by omega) h0) (fun d s hd h => hstep d s (by omega) h)

/-- a generic row operation applied to the rows `K-1, …, 0` -/
theorem foldl_rowop {R : Type} [Inhabited R] (op : R → R) (K : Nat) (T : List R) :
    ((dimsDown K).foldl (fun d i => d.set i (op (rowAt d i))) T).length = T.length ∧
    ∀ i, rowAt ((dimsDown K).foldl (fun d i => d.set i (op (rowAt d i))) T) i =
      if i < K ∧ i < T.length then op (rowAt T i) else rowAt T i := by
  have key := foldl_dimsDown_inv (fun (d : List R) i => d.set i (op (rowAt d i)))
    (fun r cur => cur.length = T.length ∧
      ∀ i, rowAt cur i = if r ≤ i ∧ i < K ∧ i < T.length then op (rowAt T i) else rowAt T i) K T ?_ ?_
  · refine ⟨key.1, fun i => ?_⟩
    rw [key.2 i]; simp
  · refine ⟨rfl, fun i => ?_⟩
    rw [if_neg (by omega)]
  · rintro r cur hr ⟨h1, h2⟩
    refine ⟨by simp [h1], fun i => ?_⟩
    rw [rowAt_set, h1]
    by_cases hi : i = r
    · subst hi
      by_cases hl : i < T.length
      · rw [if_pos ⟨rfl, hl⟩, if_pos ⟨Nat.le_refl _, hr, hl⟩, h2 i, if_neg (by omega)]
      · rw [if_neg (by omega), if_neg (by omega), h2 i, if_neg (by omega)]
    · rw [if_neg (by omega), h2 i]
      by_cases hc : r + 1 ≤ i ∧ i < K ∧ i < T.length
      · rw [if_pos hc, if_pos ⟨by omega, hc.2.1, hc.2.2⟩]
      · rw [if_neg hc, if_neg (by omega)]

/-! ### counters -/

def cntBelow (P : Nat → Bool) : Nat → Nat
  | 0 => 0
  | d + 1 => cntBelow P d + (if P d then 1 else 0)

theorem cntBelow_succ_pos (P : Nat → Bool) (d : Nat) (h : P d = true) : cntBelow P (d + 1) = cntBelow P d + 1 := by
  simp [cntBelow, h]
theorem cntBelow_succ_neg (P : Nat → Bool) (d : Nat) (h : P d = false) : cntBelow P (d + 1) = cntBelow P d := by
  simp [cntBelow, h]

theorem cntBelow_mono (P : Nat → Bool) {a b : Nat} (h : a ≤ b) : cntBelow P a ≤ cntBelow P b := by
  induction b with
  | zero => have : a = 0 := by omega
            subst this; exact Nat.le_refl _
  | succ b ih =>
    rcases Nat.lt_or_ge b a with h1 | h1
    · have : a = b + 1 := by omega
      subst this; exact Nat.le_refl _
    · have := ih h1
      simp only [cntBelow]; omega

/-- counting down from `D`: the step over an index `d < D` with `P d` -/
theorem cntBelow_sub_pos (P : Nat → Bool) {d D : Nat} (hd : d < D) (h : P d = true) :
    cntBelow P D - cntBelow P d = cntBelow P D - cntBelow P (d + 1) + 1 := by
  have := cntBelow_mono P (show d + 1 ≤ D from hd)
  rw [cntBelow_succ_pos P d h] at this ⊢; omega

theorem cntBelow_sub_neg (P : Nat → Bool) (d D : Nat) (h : P d = false) :
    cntBelow P D - cntBelow P d = cntBelow P D - cntBelow P (d + 1) := by
  rw [cntBelow_succ_neg P d h]

theorem cntBelow_lt (P : Nat → Bool) {q m : Nat} (hq : q < m) (hP : P q = true) : cntBelow P q < cntBelow P m := by
  have := cntBelow_mono P (show q + 1 ≤ m from hq)
  rw [cntBelow_succ_pos P q hP] at this; omega

theorem cntBelow_surj (P : Nat → Bool) (m j : Nat) (h : j < cntBelow P m) : ∃ q, q < m ∧ P q = true ∧ cntBelow P q = j := by
  induction m with
  | zero => simp [cntBelow] at h
  | succ m ih =>
    by_cases hj : j < cntBelow P m
    · obtain ⟨q, hq, h1, h2⟩ := ih hj
      exact ⟨q, by omega, h1, h2⟩
    · by_cases hP : P m = true
      · rw [cntBelow_succ_pos P m hP] at h
        exact ⟨m, by omega, hP, by omega⟩
      · rw [cntBelow_succ_neg P m (by simpa using hP)] at h; omega

theorem cntBelow_inj (P : Nat → Bool) {q q' : Nat} (hq : P q = true) (hq' : P q' = true)
    (h : cntBelow P q = cntBelow P q') : q = q' := by
  rcases Nat.lt_trichotomy q q' with h1 | h1 | h1
  · have := cntBelow_lt P h1 hq; omega
  · exact h1
  · have := cntBelow_lt P h1 hq'; omega

/-- non-virtual dimension (there is a source row) -/
def nvB (dk : List Nat) (d : Nat) : Bool := kind dk d != GEN_VIRTUAL
/-- non-line dimension (there is a dest row) -/
def nlB (dk : List Nat) (d : Nat) : Bool := kind dk d != LINE
/-- index of the source row of a non-virtual dimension -/
def nv (dk : List Nat) : Nat → Nat := cntBelow (nvB dk)
def nl (dk : List Nat) : Nat → Nat := cntBelow (nlB dk)
/-- index of the dest row of the non-line dimension `q` (`dims` columns) -/
def pos (dk : List Nat) (dims q : Nat) : Nat := nl dk dims - nl dk (q + 1)

theorem nvB_iff (dk : List Nat) (d : Nat) : nvB dk d = true ↔ kind dk d ≠ GEN_VIRTUAL := by simp [nvB]
theorem nlB_iff (dk : List Nat) (d : Nat) : nlB dk d = true ↔ kind dk d ≠ LINE := by simp [nlB]

/-- the three dimension kinds with what they mean for the two counters -/
theorem kind_cases (dk : List Nat) (dims : Nat) (hk : ∀ d, d < dims → kind dk d ≤ 2) (d : Nat) (hd : d < dims) :
    (kind dk d = 0 ∧ nvB dk d = true ∧ nlB dk d = true) ∨ (kind dk d = 1 ∧ nvB dk d = true ∧ nlB dk d = false) ∨
      (kind dk d = 2 ∧ nvB dk d = false ∧ nlB dk d = true) := by
  have := hk d hd
  simp only [nvB, nlB, GEN_VIRTUAL, LINE, bne_iff_ne, ne_eq, bne_eq_false_iff_eq]
  omega

theorem pos_lt (dk : List Nat) (dims q : Nat) (hq : q < dims) (h : nlB dk q = true) : pos dk dims q < nl dk dims := by
  have := cntBelow_mono (nlB dk) (show q + 1 ≤ dims from hq)
  have h2 := cntBelow_succ_pos (nlB dk) q h
  simp only [pos, nl] at *; omega

theorem pos_inj (dk : List Nat) (dims q q' : Nat) (hq : q < dims) (hq' : q' < dims) (h : nlB dk q = true)
    (h' : nlB dk q' = true) (e : pos dk dims q = pos dk dims q') : q = q' := by
  have a1 := cntBelow_mono (nlB dk) (show q + 1 ≤ dims from hq)
  have a2 := cntBelow_mono (nlB dk) (show q' + 1 ≤ dims from hq')
  have b1 := cntBelow_succ_pos (nlB dk) q h
  have b2 := cntBelow_succ_pos (nlB dk) q' h'
  apply cntBelow_inj (nlB dk) h h'
  simp only [pos, nl] at *; omega

theorem pos_surj (dk : List Nat) (dims i : Nat) (hi : i < nl dk dims) :
    ∃ q, q < dims ∧ nlB dk q = true ∧ pos dk dims q = i := by
  obtain ⟨q, hq, h1, h2⟩ := cntBelow_surj (nlB dk) dims (nl dk dims - 1 - i) (by simp only [nl] at *; omega)
  refine ⟨q, hq, h1, ?_⟩
  have a1 := cntBelow_mono (nlB dk) (show q + 1 ≤ dims from hq)
  have b1 := cntBelow_succ_pos (nlB dk) q h1
  simp only [pos, nl] at *; omega

/-- rows before `cnt(e+1)` are the rows of the dimensions above `e` -/
theorem pos_lt_iff (dk : List Nat) (dims q e : Nat) (hq : q < dims) (he : e < dims) (h : nlB dk q = true) :
    pos dk dims q < nl dk dims - nl dk (e + 1) ↔ e < q := by
  have a1 := cntBelow_mono (nlB dk) (show q + 1 ≤ dims from hq)
  have a2 := cntBelow_mono (nlB dk) (show e + 1 ≤ dims from he)
  have b1 := cntBelow_succ_pos (nlB dk) q h
  constructor
  · intro hlt
    by_contra hc
    have := cntBelow_mono (nlB dk) (show q + 1 ≤ e + 1 by omega)
    simp only [pos, nl] at *; omega
  · intro hlt
    have := cntBelow_mono (nlB dk) (show e + 1 ≤ q by omega)
    simp only [pos, nl] at *; omega

/-! ### partial products under row operations -/

theorem dotUpto_lin_from (c c' p g : Row) (x y : Int) (d : Nat) :
    ∀ m, (∀ k, d ≤ k → k < m → get c' k = x * get c k + y * get p k) → d ≤ m →
      dotUpto c' g m - dotUpto c' g d = x * (dotUpto c g m - dotUpto c g d) + y * (dotUpto p g m - dotUpto p g d) := by
  intro m
  induction m with
  | zero => intro _ hd; have : d = 0 := by omega
            subst this; ring
  | succ m ih =>
    intro h hd
    rcases Nat.lt_or_ge m d with h1 | h1
    · have : d = m + 1 := by omega
      subst this; ring
    · have := ih (fun k h1 h2 => h k h1 (by omega)) h1
      simp only [dotUpto]
      rw [h m h1 (by omega)]
      linear_combination this

theorem dotUpto_scale_from (c c' g : Row) (f : Int) (d m : Nat)
    (h : ∀ k, d ≤ k → k < m → get c' k = get c k * f) (hd : d ≤ m) :
    dotUpto c' g m - dotUpto c' g d = (dotUpto c g m - dotUpto c g d) * f := by
  have := dotUpto_lin_from c c' c g f 0 d m (fun k h1 h2 => by rw [h k h1 h2]; ring) hd
  linear_combination this

theorem dotUpto_congr_from (c c' g : Row) (d m : Nat)
    (h : ∀ k, d ≤ k → k < m → get c' k = get c k) (hd : d ≤ m) :
    dotUpto c' g m - dotUpto c' g d = dotUpto c g m - dotUpto c g d := by
  have := dotUpto_scale_from c c' g 1 d m (fun k h1 h2 => by rw [h k h1 h2]; ring) hd
  linear_combination this

theorem dotUpto_zero_from (c g : Row) (d m : Nat) (h : ∀ k, d ≤ k → k < m → get c k = 0) (hd : d ≤ m) :
    dotUpto c g m = dotUpto c g d := by
  have := dotUpto_lin_from c c c g 0 0 d m (fun k h1 h2 => by rw [h k h1 h2]; ring) hd
  linear_combination this

theorem dotUpto_sub (c c' p g : Row) (q : Int) (m : Nat) (h : ∀ k, k < m → get c' k = get c k - q * get p k) :
    dotUpto c' g m = dotUpto c g m - q * dotUpto p g m := by
  have := dotUpto_lin_from c c' p g 1 (-q) 0 m (fun k _ h2 => by rw [h k h2]; ring) (Nat.zero_le _)
  simp only [dotUpto] at this
  linear_combination this

/-- zeros of the right factor -/
theorem dotUpto_zero_right (c g : Row) (m : Nat) (h : ∀ k, k < m → get g k = 0) : dotUpto c g m = 0 := by
  induction m with
  | zero => rfl
  | succ m ih => simp only [dotUpto]; rw [ih (fun k hk => h k (by omega)), h m (by omega)]; ring

theorem dotUpto_succ (c g : Row) (m : Nat) : dotUpto c g (m + 1) = dotUpto c g m + get c m * get g m := rfl

/-! ### rows of lists -/

theorem rowAt_mapIdx {R : Type} [Inhabited R] (l : List R) (f : Nat → R → R) (i : Nat) (h : i < l.length) :
    rowAt (l.mapIdx f) i = f i (rowAt l i) := by
  simp [rowAt, h]

theorem gc_rowAt_map {R : Type} [Inhabited R] (l : List R) (f : R → R) (i : Nat) (h : i < l.length) :
    rowAt (l.map f) i = f (rowAt l i) := by
  simp [rowAt, h]

theorem rowAt_of_length_le {R : Type} [Inhabited R] (l : List R) (i : Nat) (h : l.length ≤ i) : rowAt l i = default := by
  simp [rowAt, List.getElem?_eq_none h]

theorem gc_mem_iff_rowAt {R : Type} [Inhabited R] (l : List R) (r : R) : r ∈ l ↔ ∃ i, i < l.length ∧ rowAt l i = r := by
  constructor
  · intro h
    obtain ⟨i, hi, rfl⟩ := List.getElem_of_mem h
    exact ⟨i, hi, rowAt_eq_getElem l i hi⟩
  · rintro ⟨i, hi, rfl⟩
    exact rowAt_mem l i hi

/-! ### `Congruence::scale` -/

theorem scale_m (r : CRow) (f : Int) : (r.scale f).m = r.m * f := by
  unfold CRow.scale; split
  · subst_vars; simp
  · rfl

theorem scale_length (r : CRow) (f : Int) : (r.scale f).e.length = r.e.length := by
  unfold CRow.scale; split <;> simp

theorem scale_get (r : CRow) (f : Int) (k : Nat) : get (r.scale f).e k = get r.e k * f := by
  unfold CRow.scale; split
  · subst_vars; simp
  · simp [get_mulAll]

theorem allZeroes_iff (x : Row) (s e : Nat) : allZeroes x s e = true ↔ ∀ i, s ≤ i → i < e → get x i = 0 := by
  simp only [allZeroes, List.all_eq_true, List.mem_range, Bool.or_eq_true, Bool.not_eq_true', decide_eq_false_iff_not,
    beq_iff_eq]
  constructor
  · intro h i h1 h2
    by_cases hl : i < x.length
    · rcases h i hl with h3 | h3
      · exact absurd ⟨h1, h2⟩ h3
      · exact h3
    · exact get_of_length_le x i (by omega)
  · intro h i _
    by_cases h3 : s ≤ i ∧ i < e
    · exact Or.inr (h i h3.1 h3.2)
    · exact Or.inl h3

end PPLV.Lattice.Red

import PPLV.Lattice.ProofsConvCGMain

/-!
# The result of `Grid::conversion` (congruences → generators) is upper triangular
(`PPL_ASSERT(upper_triangular(dest, dim_kinds))`, Grid_conversion.cc:494, and after the final reduction)
-/
namespace PPLV.Lattice.Red

def cgUtStep (sys : List GRow) (dk : List Nat) (st : Nat × Bool) (dim : Nat) : Nat × Bool :=
  if !st.2 then st
  else if kind dk dim = GEN_VIRTUAL then st
  else if st.1 = 0 then (0, false)
  else
    let gen := rowAt sys (st.1 - 1)
    if get gen.e dim ≤ 0 then (st.1 - 1, false)
    else if !allZeroes gen.e 0 dim then (st.1 - 1, false)
    else (st.1 - 1, true)

theorem cgUpperTriangular_eq (n : Nat) (sys : List GRow) (dk : List Nat) :
    upperTriangular n sys dk =
      (if sys.length > n + 1 then false
       else
        let r := (dimsDown (n + 1)).foldl (cgUtStep sys dk) (sys.length, true)
        r.2 && r.1 == 0) := rfl

theorem cg_cntBelow_le (P : Nat → Bool) (d : Nat) : cntBelow P d ≤ d := by
  induction d with
  | zero => simp [cntBelow]
  | succ d ih => simp only [cntBelow]; split <;> omega

/-- rows with positive diagonal and zeros before it, one per non-virtual dimension, are upper triangular -/
theorem cg_upperTriangular_of_rows (n : Nat) (dk : List Nat) (T : List GRow) (hlen : T.length = nv dk (n + 1))
    (hrows : ∀ q, q < n + 1 → nvB dk q = true →
      0 < get (rowAt T (nv dk q)).e q ∧ ∀ k, k < q → get (rowAt T (nv dk q)).e k = 0) :
    upperTriangular n T dk = true := by
  rw [cgUpperTriangular_eq]
  have hle : ¬ T.length > n + 1 := by
    rw [hlen]; have := cg_cntBelow_le (nvB dk) (n + 1); simp only [nv]; omega
  rw [if_neg hle]
  have key := foldl_dimsDown_inv (cgUtStep T dk)
    (fun d st => st.2 = true ∧ st.1 = nv dk d) (n + 1) (T.length, true) ⟨rfl, hlen⟩ ?_
  · obtain ⟨k1, k2⟩ := key
    simp only [k1, k2, Bool.true_and, beq_iff_eq]
    rfl
  · rintro d st hd ⟨h1, h2⟩
    unfold cgUtStep
    simp only [h1, Bool.not_true, Bool.false_eq_true, if_false]
    by_cases hl : kind dk d = GEN_VIRTUAL
    · have hlb : nvB dk d = false := by simp [nvB, hl]
      rw [if_pos hl]
      exact ⟨h1, h2.trans (cntBelow_succ_neg _ d hlb)⟩
    · have hlb : nvB dk d = true := by simp [nvB, hl]
      have e1 : st.1 = nv dk d + 1 := h2.trans (cntBelow_succ_pos _ d hlb)
      rw [if_neg hl]
      have hne : ¬ st.1 = 0 := by rw [e1]; exact Nat.succ_ne_zero _
      have hpos : st.1 - 1 = nv dk d := by rw [e1]; rfl
      obtain ⟨r1, r2⟩ := hrows d hd hlb
      rw [← hpos] at r1 r2
      have hdiag : ¬ get (rowAt T (st.1 - 1)).e d ≤ 0 := by omega
      have hz : allZeroes (rowAt T (st.1 - 1)).e 0 d = true :=
        (allZeroes_iff _ _ _).mpr (fun i _ h => r2 i h)
      simp only [hne, hdiag, if_false, hz, Bool.not_true, Bool.false_eq_true]
      exact ⟨trivial, hpos⟩

/-- **The result of the conversion is in upper triangular form** w.r.t. the same `dim_kinds`. -/
theorem conversionCgsToGens_triangular (n : Nat) (source : List CRow) (dk : List Nat)
    (hlt : lowerTriangular n source dk = true) (h0 : kind dk 0 = PROPER_CONGRUENCE)
    (hk : ∀ d, d < n + 1 → kind dk d ≤ 2) :
    upperTriangular n (conversionCgsToGens n source dk) dk = true := by
  obtain ⟨L, D0, _, _, hfin⟩ := cgPreDiv_final n source dk hlt h0 hk
  have hsame := conversionCgsToGens_same n source dk L D0 hfin
  refine cg_upperTriangular_of_rows n dk _ (hsame.len.trans hfin.len) (fun q hq hql => ?_)
  have R := hfin.rows q hq hql
  obtain ⟨_, _, hget⟩ := hsame.row (nv dk q)
  exact ⟨by rw [hget q (by omega)]; exact R.diag, fun k hk' => by rw [hget k (by omega)]; exact R.tri k hk'⟩

/-- also before the final reduction and the last loop (the assertion at Grid_conversion.cc:494) -/
theorem cgLoop_triangular (n : Nat) (source : List CRow) (dk : List Nat)
    (hlt : lowerTriangular n source dk = true) (h0 : kind dk 0 = PROPER_CONGRUENCE)
    (hk : ∀ d, d < n + 1 → kind dk d ≤ 2) :
    upperTriangular n (cgLoop n source dk).dest dk = true := by
  obtain ⟨L, D0, _, _, hfin⟩ := cgLoop_final n source dk (lowerTriangular_spec n source dk hlt) hk h0
  exact cg_upperTriangular_of_rows n dk _ hfin.len (fun q hq hql => ⟨(hfin.rows q hq hql).diag, (hfin.rows q hq hql).tri⟩)

/-- satisfiable hypotheses -/
example :
    let source : List CRow := [{ e := [-1, 2], m := 3 }, { e := [3, 0], m := 3 }]
    let dk : List Nat := [PROPER_CONGRUENCE, PROPER_CONGRUENCE]
    lowerTriangular 1 source dk = true ∧ kind dk 0 = PROPER_CONGRUENCE ∧ (∀ d, d < 1 + 1 → kind dk d ≤ 2) ∧
      upperTriangular 1 (conversionCgsToGens 1 source dk) dk = true := by
  refine ⟨by decide, rfl, ?_, by decide⟩
  intro d hd
  have : d = 0 ∨ d = 1 := by omega
  rcases this with rfl | rfl <;> decide

end PPLV.Lattice.Red

import PPLV.Lattice.ProofsRedGenStep

/-!
# `reduce_parameter_with_line`: both branches keep the lattice up to the positive scale `reduced_pivot_col`
-/
namespace PPLV.Lattice.Red
open PPLV.Lattice

/-- what the scaling loop of `reduce_parameter_with_line` does to one row -/
def scaleRow (k : Int) (m : Nat) (gen : GRow) : GRow :=
  if gen.isParameterOrPoint then { gen with e := mulAssign gen.e k 0 m } else gen

theorem scaleRow_line (k : Int) (m : Nat) (gen : GRow) : (scaleRow k m gen).line = gen.line := by
  unfold scaleRow; split <;> rfl

theorem scaleRow_len (k : Int) (m : Nat) (gen : GRow) : (scaleRow k m gen).e.length = gen.e.length := by
  unfold scaleRow; split <;> simp

theorem scaleRow_get (k : Int) (m : Nat) (gen : GRow) (c : Nat) :
    get (scaleRow k m gen).e c = if gen.line = false ∧ c < m then get gen.e c * k else get gen.e c := by
  unfold scaleRow GRow.isParameterOrPoint
  cases h : gen.line <;> simp [get_mulAssign]

/-- `reduced_pivot_col` after the sign normalisation -/
def plK (pc rc : Int) : Int := if pc / gcdI pc rc < 0 then -(pc / gcdI pc rc) else pc / gcdI pc rc
/-- `reduced_row_col` after the sign normalisation -/
def plC (pc rc : Int) : Int := if pc / gcdI pc rc < 0 then -(rc / gcdI pc rc) else rc / gcdI pc rc

theorem plK_pos (pc rc : Int) (hpc : pc ≠ 0) : 0 < plK pc rc := by
  obtain ⟨P, R, hP, hR, hP0, -, -, -, -⟩ := red_cols pc rc hpc
  unfold plK; rw [hP]; split <;> omega

theorem plK_plC (pc rc : Int) (hpc : pc ≠ 0) : rc * plK pc rc + (-(plC pc rc)) * pc = 0 := by
  obtain ⟨P, R, hP, hR, hP0, hPR, -, -, -⟩ := red_cols pc rc hpc
  unfold plK plC; rw [hP, hR]; split <;> linarith

theorem rPL_eq (rows : List GRow) (ri p dim n : Nat) :
    reduceParameterWithLine rows ri p dim (n + 1 + 1) =
      if get (rowAt rows ri).e dim = get (rowAt rows p).e dim then
        rows.set ri { rowAt rows ri with e := linearCombine (rowAt rows ri).e (rowAt rows p).e 1 (-1) 0 (n + 1) }
      else
        (rows.map (scaleRow (plK (get (rowAt rows p).e dim) (get (rowAt rows ri).e dim)) (n + 1))).set ri
          { rowAt (rows.map (scaleRow (plK (get (rowAt rows p).e dim) (get (rowAt rows ri).e dim)) (n + 1))) ri with
            e := linearCombine
              (rowAt (rows.map (scaleRow (plK (get (rowAt rows p).e dim) (get (rowAt rows ri).e dim)) (n + 1))) ri).e
              (rowAt rows p).e 1 (-(plC (get (rowAt rows p).e dim) (get (rowAt rows ri).e dim))) dim (n + 1) } := rfl

/-- the general branch, for any positive multiplier `k` and any `cc` that cancel column `dim` -/
theorem step_PL_gen {n p dim ri : Nat} {rows : List GRow} (k cc : Int) (hk : 0 < k)
    (hri : ri < rows.length) (hp : p < rows.length) (hne : ri ≠ p) (hpr : p ≤ ri)
    (hwf : WfI n rows) (hz : ZeroPre p dim rows) (hdim : dim ≤ n)
    (hpc : get (rowAt rows p).e dim ≠ 0) (hl1 : (rowAt rows ri).line = false) (hl2 : (rowAt rows p).line = true)
    (hkc : get (rowAt rows ri).e dim * k + (-cc) * get (rowAt rows p).e dim = 0) :
    IStep n p dim ri rows ((rows.map (scaleRow k (n + 1))).set ri
      { rowAt (rows.map (scaleRow k (n + 1))) ri with
        e := linearCombine (rowAt (rows.map (scaleRow k (n + 1))) ri).e (rowAt rows p).e 1 (-cc) dim (n + 1) }) ∧
    (rowAt ((rows.map (scaleRow k (n + 1))).set ri
      { rowAt (rows.map (scaleRow k (n + 1))) ri with
        e := linearCombine (rowAt (rows.map (scaleRow k (n + 1))) ri).e (rowAt rows p).e 1 (-cc) dim (n + 1) }) p).line
      = true := by
  have hzr := hz ri hpr hri
  have hzp := hz p (Nat.le_refl _) hp
  have h1 : rowAt (rows.map (scaleRow k (n + 1))) ri = scaleRow k (n + 1) (rowAt rows ri) := rowAt_map _ _ _ hri
  rw [h1]
  generalize hR' : ({ scaleRow k (n + 1) (rowAt rows ri) with
      e := linearCombine (scaleRow k (n + 1) (rowAt rows ri)).e (rowAt rows p).e 1 (-cc) dim (n + 1) } : GRow) = R'
  have hR'l : R'.line = (rowAt rows ri).line := by rw [← hR']; exact scaleRow_line _ _ _
  have hR'e : R'.e = linearCombine (scaleRow k (n + 1) (rowAt rows ri)).e (rowAt rows p).e 1 (-cc) dim (n + 1) := by
    rw [← hR']
  have hslen : (scaleRow k (n + 1) (rowAt rows ri)).e.length = n + 2 := by rw [scaleRow_len]; exact hwf ri hri
  have hR'ent : ∀ c, c ≤ n → get R'.e c = get (rowAt rows ri).e c * k + (-cc) * get (rowAt rows p).e c := by
    intro c hc
    rw [hR'e, get_lc_one (-cc) hslen hzp c hc, scaleRow_get, if_pos ⟨hl1, by omega⟩]
  have hrow : ∀ i, i < rows.length → rowAt ((rows.map (scaleRow k (n + 1))).set ri R') i
      = if i = ri then R' else scaleRow k (n + 1) (rowAt rows i) := by
    intro i hi
    rw [rowAt_set]
    by_cases h : i = ri
    · rw [if_pos ⟨h, by simpa using hri⟩, if_pos h]
    · rw [if_neg (fun h' => h h'.1), if_neg h, rowAt_map _ _ _ hi]
  have hlen : ((rows.map (scaleRow k (n + 1))).set ri R').length = rows.length := by simp
  have hsk : k.sign = 1 := Int.sign_eq_one_of_pos hk
  refine ⟨⟨hlen, ?_, ?_, ?_, ⟨k, hk, ?_⟩, ?_, ?_⟩, ?_⟩
  · intro i hi
    rw [hlen] at hi
    rw [hrow i hi]; split
    · rw [hR'e, length_linearCombine]; exact hslen
    · rw [scaleRow_len]; exact hwf i hi
  · intro i hpi hi c hc
    rw [hlen] at hi
    rw [hrow i hi]; split
    · rw [hR'ent c (by omega), hzr c hc, hzp c hc]; simp
    · rw [scaleRow_get]; split
      · rw [hz i hpi hi c hc]; simp
      · exact hz i hpi hi c hc
  · intro i hi h1' _
    rw [hrow i hi, if_neg h1']
    refine ⟨scaleRow_line _ _ _, fun c => ?_⟩
    rw [scaleRow_get]; split
    · rw [Int.sign_mul, hsk, mul_one]
    · rfl
  · refine hom_iff_scale ri p k hk (-cc) hlen hri hp hl2 hl1 ?_ ?_ ?_ ?_
    · intro i hi
      rw [hrow i hi]; split
      · rename_i h; rw [h]; exact hR'l
      · exact scaleRow_line _ _ _
    · intro i hi hl
      have hne' : i ≠ ri := fun h => by rw [h, hl1] at hl; cases hl
      rw [hrow i hi, if_neg hne']
      refine hv_congr fun c _ => ?_
      rw [scaleRow_get, if_neg (fun h => by rw [hl] at h; cases h.1)]
    · intro i hi hne' hl
      rw [hrow i hi, if_neg hne']
      refine hv_smul k fun c hc => ?_
      rw [scaleRow_get, if_pos ⟨hl, by omega⟩]; ring
    · rw [hrow ri hri, if_pos rfl]
      refine hv_comb k (-cc) fun c hc => ?_
      rw [hR'ent c hc]; ring
  · rw [hrow p hp, if_neg (fun h => hne h.symm), scaleRow_get, if_neg (fun h => by rw [hl2] at h; cases h.1)]
    exact hpc
  · rw [hrow ri hri, if_pos rfl, hR'ent dim hdim]; exact hkc
  · rw [hrow p hp, if_neg (fun h => hne h.symm), scaleRow_line]; exact hl2

/-- `reduce_parameter_with_line(row = rows[ri], pivot = rows[p], dim, rows, n + 2)`, `row` a parameter/point,
    `pivot` a line, the pivot zero before `dim` -/
theorem step_PL {n p dim ri : Nat} {rows : List GRow}
    (hri : ri < rows.length) (hp : p < rows.length) (hne : ri ≠ p) (hpr : p ≤ ri)
    (hwf : WfI n rows) (hz : ZeroPre p dim rows) (hdim : dim ≤ n)
    (hpc : get (rowAt rows p).e dim ≠ 0) (hl1 : (rowAt rows ri).line = false) (hl2 : (rowAt rows p).line = true) :
    IStep n p dim ri rows (reduceParameterWithLine rows ri p dim (n + 1 + 1)) ∧
    (rowAt (reduceParameterWithLine rows ri p dim (n + 1 + 1)) p).line = true := by
  rw [rPL_eq]
  split
  · rename_i heq
    have hzr := hz ri hpr hri
    have hzp := hz p (Nat.le_refl _) hp
    generalize hR' : ({ rowAt rows ri with
      e := linearCombine (rowAt rows ri).e (rowAt rows p).e 1 (-1) 0 (n + 1) } : GRow) = R'
    have hR'l : R'.line = (rowAt rows ri).line := by rw [← hR']
    have hR'e : R'.e = linearCombine (rowAt rows ri).e (rowAt rows p).e 1 (-1) 0 (n + 1) := by rw [← hR']
    have hent : ∀ c, c ≤ n → get R'.e c = get (rowAt rows ri).e c + (-1) * get (rowAt rows p).e c := by
      intro c hc
      rw [hR'e]
      exact get_lc_one (-1) (hwf ri hri) (fun c hc => absurd hc (Nat.not_lt_zero c)) c hc
    refine ⟨istep_set_one R' hri hne hwf hz ?_ ?_ ?_ hpc (HomSim.of_iff ?_), ?_⟩
    · rw [hR'e, length_linearCombine]; exact hwf ri hri
    · intro c hc; rw [hent c (by omega), hzr c hc, hzp c hc]; simp
    · rw [hent dim hdim, heq]; ring
    · refine hom_iff_comb ri p 1 (-1) (by simp) hri hp hne ?_ ?_ ?_
        (fun h => by rw [hl1] at h; cases h) (fun _ => rfl)
      · intro i hi; rw [rowAt_set, if_neg (fun h => hi h.1)]
      · rw [rowAt_set, if_pos ⟨rfl, hri⟩]; exact hR'l
      · rw [rowAt_set, if_pos ⟨rfl, hri⟩]
        refine hv_comb 1 (-1) fun c hc => ?_
        rw [hent c hc]; ring
    · rw [rowAt_set, if_neg (fun h => hne h.1.symm)]; exact hl2
  · exact step_PL_gen _ _ (plK_pos _ _ hpc) hri hp hne hpr hwf hz hdim hpc hl1 hl2 (plK_plC _ _ hpc)

/-- `reduce_parameter_with_line` keeps the lattice up to a positive integer scale -/
theorem reduceParameterWithLine_homSim {n p dim ri : Nat} {rows : List GRow}
    (hri : ri < rows.length) (hp : p < rows.length) (hne : ri ≠ p) (hpr : p ≤ ri)
    (hwf : WfI n rows) (hz : ZeroPre p dim rows) (hdim : dim ≤ n)
    (hpc : get (rowAt rows p).e dim ≠ 0) (hl1 : (rowAt rows ri).line = false) (hl2 : (rowAt rows p).line = true) :
    HomSim n rows (reduceParameterWithLine rows ri p dim (n + 1 + 1)) :=
  (step_PL hri hp hne hpr hwf hz hdim hpc hl1 hl2).1.hom

end PPLV.Lattice.Red

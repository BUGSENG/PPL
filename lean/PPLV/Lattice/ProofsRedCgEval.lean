import PPLV.Lattice.ProofsRedRow
import PPLV.Lattice.ProofsVec
import Mathlib.Tactic.Ring
import Mathlib.Tactic.Linarith
import Mathlib.Tactic.NormNum

/-!
# `Grid::simplify(Congruence_System&)`: the value of a row, the solution set of a system

`evalRow e x = e[0] + Σ e[i+1]·xᵢ`; a row `(e, m)` holds at `x` iff `evalRow e x ∈ m ℤ` (`rsem`);
`Sol rows x`: every row holds.  Every row operation of the model is handled entry-wise through
`evalRow_lin`.
-/
namespace PPLV.Lattice.Red

/-- `(1, x₀, x₁, …)` -/
def ext1 (x : Pt) : Pt := fun i => match i with
  | 0 => 1
  | i + 1 => x i

theorem ext1_tail (x : Pt) : (ext1 x).tail = x := rfl

/-- value of the affine form of a row: `e[0] + Σ e[i+1]·xᵢ` -/
def evalRow (e : Row) (x : Pt) : ℚ := dotF (ratRow e) (ext1 x)

theorem get_cons_zero (a : Int) (l : Row) : get (a :: l) 0 = a := rfl
theorem get_cons_succ (a : Int) (l : Row) (i : Nat) : get (a :: l) (i + 1) = get l i := rfl

theorem evalRow_eq (e : Row) (x : Pt) : evalRow e x = dotF (ratRow e).tail x + (get e 0 : ℚ) := by
  cases e with
  | nil => simp [evalRow, ratRow, get]
  | cons a l =>
    simp only [evalRow, ratRow, List.map_cons, dotF_cons, List.tail_cons, get_cons_zero, ext1_tail]
    simp [ext1]; ring

theorem dotF_ratRow_lin (e' e p : Row) (a b : Int) (y : Pt) (hl1 : e'.length = e.length) (hl2 : p.length = e.length)
    (h : ∀ i, get e' i = a * get e i + b * get p i) :
    dotF (ratRow e') y = a * dotF (ratRow e) y + b * dotF (ratRow p) y := by
  induction e' generalizing e p y with
  | nil =>
    have he : e = [] := by cases e <;> simp_all
    have hp : p = [] := by cases p <;> simp_all
    subst he; subst hp; simp [ratRow]
  | cons c e' ih =>
    cases e with
    | nil => simp at hl1
    | cons c1 e =>
      cases p with
      | nil => simp at hl2
      | cons c2 p =>
        have h0 := h 0
        simp only [get_cons_zero] at h0
        have ht := ih e p y.tail (by simpa using hl1) (by simpa using hl2) (fun i => by
          have := h (i + 1); simpa only [get_cons_succ] using this)
        simp only [ratRow, List.map_cons, dotF_cons] at ht ⊢
        rw [ht, h0]; push_cast; ring

/-- a row whose entries are `a·e + b·p` entry-wise has the value `a·eval e + b·eval p` -/
theorem evalRow_lin (e' e p : Row) (a b : Int) (x : Pt) (hl1 : e'.length = e.length) (hl2 : p.length = e.length)
    (h : ∀ i, get e' i = a * get e i + b * get p i) :
    evalRow e' x = a * evalRow e x + b * evalRow p x :=
  dotF_ratRow_lin e' e p a b _ hl1 hl2 h

theorem evalRow_smul (e' e : Row) (a : Int) (x : Pt) (hl1 : e'.length = e.length)
    (h : ∀ i, get e' i = a * get e i) : evalRow e' x = a * evalRow e x := by
  have := evalRow_lin e' e e a 0 x hl1 rfl (fun i => by rw [h i]; ring)
  rw [this]; push_cast; ring

theorem dotF_ratRow_zero (e : Row) (y : Pt) (h : ∀ i, get e i = 0) : dotF (ratRow e) y = 0 := by
  induction e generalizing y with
  | nil => simp [ratRow]
  | cons c e ih =>
    have h0 := h 0
    simp only [get_cons_zero] at h0
    simp only [ratRow, List.map_cons, dotF_cons] at ih ⊢
    rw [ih y.tail (fun i => by have := h (i + 1); simpa only [get_cons_succ] using this), h0]; simp

/-- a row that is zero outside column 0 has the constant value `e[0]` -/
theorem evalRow_const (e : Row) (x : Pt) (h : ∀ i, 0 < i → get e i = 0) : evalRow e x = (get e 0 : ℚ) := by
  rw [evalRow_eq]
  cases e with
  | nil => simp [ratRow]
  | cons c e =>
    have := dotF_ratRow_zero e x (fun i => by have := h (i + 1) (by omega); simpa only [get_cons_succ] using this)
    simp only [ratRow, List.map_cons, List.tail_cons] at this ⊢
    rw [this]; simp

/-! ### rows and systems -/

/-- the row `(e, m)` holds at `x`: `evalRow e x ∈ m ℤ` -/
def rsem (r : CRow) (x : Pt) : Prop := ∃ t : Int, evalRow r.e x = (t : ℚ) * (r.m : ℚ)

theorem toCg_sem_iff (r : CRow) (x : Pt) : (r.toCg).sem x ↔ rsem r x := by
  unfold Cg.sem rsem CRow.toCg
  simp only [evalRow_eq]

/-- every row of the system holds at `x` -/
def Sol (rows : List CRow) (x : Pt) : Prop := ∀ i, i < rows.length → rsem (rowAt rows i) x

theorem Sol_iff_mem (rows : List CRow) (x : Pt) : Sol rows x ↔ ∀ r ∈ rows, rsem r x := by
  constructor
  · intro h r hr
    obtain ⟨i, hi, rfl⟩ := List.getElem_of_mem hr
    have := h i hi
    rwa [rowAt_eq_getElem _ _ hi] at this
  · intro h i hi
    exact h _ (rowAt_mem rows i hi)

theorem Sol_iff_toCg (rows : List CRow) (x : Pt) : Sol rows x ↔ ∀ r ∈ rows, (r.toCg).sem x := by
  rw [Sol_iff_mem]
  constructor
  · intro h r hr; exact (toCg_sem_iff r x).mpr (h r hr)
  · intro h r hr; exact (toCg_sem_iff r x).mp (h r hr)

theorem cgsSem_iff (n : Nat) (rows : List CRow) (x : Pt) : cgsSem n rows x ↔ Supp n x ∧ Sol rows x := by
  unfold cgsSem CgSys.sem cgsOf
  rw [Sol_iff_toCg]
  simp only [List.mem_map, forall_exists_index, and_imp, forall_apply_eq_imp_iff₂]

/-- index-wise well-formedness (same as `CWf`) -/
def RWf (n : Nat) (rows : List CRow) : Prop :=
  ∀ i, i < rows.length → (rowAt rows i).e.length = n + 1 ∧ 0 ≤ (rowAt rows i).m

theorem RWf_of_CWf (n : Nat) (rows : List CRow) (h : CWf n rows) : RWf n rows :=
  fun i hi => h _ (rowAt_mem rows i hi)

/-- all proper congruences have the modulus `M` -/
def SameMod (rows : List CRow) (M : Int) : Prop :=
  0 < M ∧ ∀ i, i < rows.length → (rowAt rows i).m = 0 ∨ (rowAt rows i).m = M

/-! ### generic ways to change a system -/

/-- one row is replaced by a row that is equivalent to it wherever the other rows hold -/
theorem Sol_set_of_others (rows : List CRow) (ri : Nat) (r' : CRow) (x : Pt)
    (h : (∀ i, i < rows.length → i ≠ ri → rsem (rowAt rows i) x) →
      (rsem r' x ↔ rsem (rowAt rows ri) x)) :
    Sol (rows.set ri r') x ↔ Sol rows x := by
  unfold Sol
  rw [List.length_set]
  constructor
  · intro hs i hi
    have ho : ∀ i, i < rows.length → i ≠ ri → rsem (rowAt rows i) x := fun i hi e => by
      have := hs i hi; rwa [rowAt_set_ne _ _ e] at this
    by_cases e : i = ri
    · have := hs i hi
      rw [e, rowAt_set_self _ _ (e ▸ hi)] at this
      rw [e]; exact (h ho).mp this
    · exact ho i hi e
  · intro hs i hi
    by_cases e : i = ri
    · rw [e, rowAt_set_self _ _ (e ▸ hi)]; exact (h fun i hi _ => hs i hi).mpr (hs ri (e ▸ hi))
    · rw [rowAt_set_ne _ _ e]; exact hs i hi

/-- one row is replaced by a row that is equivalent to it wherever another (unchanged) row holds -/
theorem Sol_set_iff (rows : List CRow) (ri pi : Nat) (r' : CRow) (x : Pt)
    (hpi : pi < rows.length) (hne : pi ≠ ri)
    (h : rsem (rowAt rows pi) x → (rsem r' x ↔ rsem (rowAt rows ri) x)) :
    Sol (rows.set ri r') x ↔ Sol rows x :=
  Sol_set_of_others rows ri r' x fun ho => h (ho pi hpi hne)

/-- one row is replaced by an equivalent one -/
theorem Sol_set_self_iff (rows : List CRow) (ri : Nat) (r' : CRow) (x : Pt)
    (h : rsem r' x ↔ rsem (rowAt rows ri) x) :
    Sol (rows.set ri r') x ↔ Sol rows x :=
  Sol_set_of_others rows ri r' x fun _ => h

/-- two rows are replaced by an equivalent pair -/
theorem Sol_set2_iff (rows : List CRow) (ri pi : Nat) (r' p' : CRow) (x : Pt)
    (hri : ri < rows.length) (hpi : pi < rows.length) (hne : pi ≠ ri)
    (h : (rsem r' x ∧ rsem p' x) ↔ (rsem (rowAt rows ri) x ∧ rsem (rowAt rows pi) x)) :
    Sol ((rows.set ri r').set pi p') x ↔ Sol rows x := by
  unfold Sol
  rw [List.length_set, List.length_set]
  have er : rowAt ((rows.set ri r').set pi p') ri = r' := by
    rw [rowAt_set_ne _ _ hne.symm, rowAt_set_self _ _ hri]
  have ep : rowAt ((rows.set ri r').set pi p') pi = p' :=
    rowAt_set_self _ _ (by rwa [List.length_set])
  have eo : ∀ i, i ≠ ri → i ≠ pi → rowAt ((rows.set ri r').set pi p') i = rowAt rows i :=
    fun i e1 e2 => by rw [rowAt_set_ne _ _ e2, rowAt_set_ne _ _ e1]
  constructor
  · intro hs i hi
    have h3 := h.mp ⟨er ▸ hs ri hri, ep ▸ hs pi hpi⟩
    by_cases e : i = ri
    · rw [e]; exact h3.1
    · by_cases e2 : i = pi
      · rw [e2]; exact h3.2
      · exact eo i e e2 ▸ hs i hi
  · intro hs i hi
    have h3 := h.mpr ⟨hs ri hri, hs pi hpi⟩
    by_cases e : i = ri
    · rw [e, er]; exact h3.1
    · by_cases e2 : i = pi
      · rw [e2, ep]; exact h3.2
      · rw [eo i e e2]; exact hs i hi

/-- every row is replaced by an equivalent one -/
theorem Sol_map_iff (rows : List CRow) (f : CRow → CRow) (x : Pt) (h : ∀ r, rsem (f r) x ↔ rsem r x) :
    Sol (rows.map f) x ↔ Sol rows x := by
  unfold Sol
  simp only [List.length_map]
  constructor
  · intro hs i hi
    have := hs i hi
    rw [rowAt_map _ _ _ hi] at this; exact (h _).mp this
  · intro hs i hi
    rw [rowAt_map _ _ _ hi]; exact (h _).mpr (hs i hi)

theorem Sol_swapRows (rows : List CRow) (i j : Nat) (hi : i < rows.length) (hj : j < rows.length) (x : Pt) :
    Sol (swapRows rows i j) x ↔ Sol rows x := by
  rw [Sol_iff_mem, Sol_iff_mem]
  constructor
  · intro h r hr; exact h r ((mem_swapRows rows i j hi hj r).mpr hr)
  · intro h r hr; exact h r ((mem_swapRows rows i j hi hj r).mp hr)

/-- a row whose entries are all zero holds everywhere -/
theorem rsem_zero_row (r : CRow) (x : Pt) (h : ∀ j, get r.e j = 0) : rsem r x := by
  refine ⟨0, ?_⟩
  have := dotF_ratRow_zero r.e (ext1 x) h
  simp [evalRow, this]

/-- dropping rows that are zero everywhere -/
theorem Sol_take (rows : List CRow) (k : Nat) (x : Pt)
    (hz : ∀ i, k ≤ i → i < rows.length → ∀ j, get (rowAt rows i).e j = 0) :
    Sol (rows.take k) x ↔ Sol rows x := by
  unfold Sol
  simp only [List.length_take]
  constructor
  · intro hs i hi
    by_cases e : i < k
    · have := hs i (by omega)
      rwa [rowAt_take _ _ _ e] at this
    · exact rsem_zero_row _ _ (hz i (by omega) hi)
  · intro hs i hi
    rw [rowAt_take _ _ _ (by omega)]; exact hs i (by omega)

/-- appending a row that holds everywhere -/
theorem Sol_append (rows : List CRow) (r : CRow) (x : Pt) (hr : rsem r x) :
    Sol (rows ++ [r]) x ↔ Sol rows x := by
  unfold Sol
  simp only [List.length_append, List.length_singleton]
  constructor
  · intro hs i hi
    have := hs i (by omega)
    rwa [rowAt_append_left _ _ _ hi] at this
  · intro hs i hi
    by_cases e : i < rows.length
    · rw [rowAt_append_left _ _ _ e]; exact hs i e
    · have : i = rows.length := by omega
      subst this; rw [rowAt_append_last]; exact hr

/-! ### row-level equivalences -/

/-- `k·expr ≡ 0 (mod k·m)` iff `expr ≡ 0 (mod m)` for `k ≠ 0` -/
theorem rsem_scaled (r r' : CRow) (f : Int) (x : Pt) (hf : f ≠ 0)
    (he : evalRow r'.e x = f * evalRow r.e x) (hm : r'.m = r.m * f) : rsem r' x ↔ rsem r x := by
  have hf' : (f : ℚ) ≠ 0 := by exact_mod_cast hf
  unfold rsem
  rw [he, hm]
  constructor
  · rintro ⟨t, ht⟩
    refine ⟨t, ?_⟩
    have : (f : ℚ) * evalRow r.e x = f * (t * r.m) := by rw [ht]; push_cast; ring
    exact mul_left_cancel₀ hf' this
  · rintro ⟨t, ht⟩
    exact ⟨t, by rw [ht]; push_cast; ring⟩

theorem rsem_scale (r : CRow) (f : Int) (x : Pt) (hf : f ≠ 0) : rsem (r.scale f) x ↔ rsem r x := by
  unfold CRow.scale
  split
  · rfl
  · exact rsem_scaled r _ f x hf (evalRow_smul _ _ f x (by simp) (fun i => by rw [get_mulAll]; ring)) rfl

/-- `row + c·pivot` where the pivot is an equality or has the modulus of the row -/
theorem rsem_add_mul (row pivot r' : CRow) (c : Int) (x : Pt)
    (he : evalRow r'.e x = evalRow row.e x + c * evalRow pivot.e x) (hm : r'.m = row.m)
    (hpm : pivot.m = 0 ∨ pivot.m = row.m) (hp : rsem pivot x) : rsem r' x ↔ rsem row x := by
  obtain ⟨u, hu⟩ := hp
  have hu' : ∃ u' : Int, evalRow pivot.e x = (u' : ℚ) * (row.m : ℚ) := by
    rcases hpm with h0 | h1
    · exact ⟨0, by rw [hu, h0]; simp⟩
    · exact ⟨u, by rw [hu, h1]⟩
  obtain ⟨u', hu'⟩ := hu'
  unfold rsem
  rw [he, hm, hu']
  constructor
  · rintro ⟨t, ht⟩
    exact ⟨t - c * u', by push_cast; linarith⟩
  · rintro ⟨t, ht⟩
    exact ⟨t + c * u', by push_cast; linarith⟩

/-- `a·row + b·pivot` (`a ≠ 0`) on two equalities -/
theorem rsem_eq_comb (row pivot r' : CRow) (a b : Int) (x : Pt) (ha : a ≠ 0)
    (he : evalRow r'.e x = a * evalRow row.e x + b * evalRow pivot.e x) (hm : r'.m = 0) (hrm : row.m = 0)
    (hpm : pivot.m = 0) (hp : rsem pivot x) : rsem r' x ↔ rsem row x := by
  have ha' : (a : ℚ) ≠ 0 := by exact_mod_cast ha
  obtain ⟨u, hu⟩ := hp
  rw [hpm] at hu
  have hp0 : evalRow pivot.e x = 0 := by rw [hu]; simp
  unfold rsem
  rw [he, hm, hrm, hp0]
  constructor
  · rintro ⟨t, ht⟩
    refine ⟨0, ?_⟩
    have : (a : ℚ) * evalRow row.e x = 0 := by simpa using ht
    rcases mul_eq_zero.mp this with h | h
    · exact absurd h ha'
    · rw [h]; simp
  · rintro ⟨t, ht⟩
    refine ⟨0, ?_⟩
    have : evalRow row.e x = 0 := by simpa using ht
    rw [this]; simp

/-- the unimodular step on two rows with the same modulus -/
theorem rsem_unimodular (row pivot r' p' : CRow) (s t c d : Int) (x : Pt)
    (hdet : s * d - t * c = 1)
    (hp' : evalRow p'.e x = s * evalRow pivot.e x + t * evalRow row.e x)
    (hr' : evalRow r'.e x = c * evalRow pivot.e x + d * evalRow row.e x)
    (hm1 : r'.m = row.m) (hm2 : p'.m = row.m) (hm3 : pivot.m = row.m) :
    (rsem r' x ∧ rsem p' x) ↔ (rsem row x ∧ rsem pivot x) := by
  have hdet' : (s : ℚ) * d - t * c = 1 := by exact_mod_cast hdet
  unfold rsem
  rw [hp', hr', hm1, hm2, hm3]
  constructor
  · rintro ⟨⟨u, hu⟩, ⟨v, hv⟩⟩
    constructor
    · refine ⟨s * u - c * v, ?_⟩
      have : evalRow row.e x = s * (c * evalRow pivot.e x + d * evalRow row.e x)
          - c * (s * evalRow pivot.e x + t * evalRow row.e x) := by
        calc evalRow row.e x = 1 * evalRow row.e x := by ring
          _ = ((s : ℚ) * d - t * c) * evalRow row.e x := by rw [hdet']
          _ = _ := by ring
      rw [this, hu, hv]; push_cast; ring
    · refine ⟨d * v - t * u, ?_⟩
      have : evalRow pivot.e x = d * (s * evalRow pivot.e x + t * evalRow row.e x)
          - t * (c * evalRow pivot.e x + d * evalRow row.e x) := by
        calc evalRow pivot.e x = 1 * evalRow pivot.e x := by ring
          _ = ((s : ℚ) * d - t * c) * evalRow pivot.e x := by rw [hdet']
          _ = _ := by ring
      rw [this, hu, hv]; push_cast; ring
  · rintro ⟨⟨u, hu⟩, ⟨v, hv⟩⟩
    exact ⟨⟨c * v + d * u, by rw [hu, hv]; push_cast; ring⟩, ⟨s * v + t * u, by rw [hu, hv]; push_cast; ring⟩⟩

/-- negating a row -/
theorem rsem_neg (r r' : CRow) (x : Pt) (he : evalRow r'.e x = - evalRow r.e x) (hm : r'.m = r.m) :
    rsem r' x ↔ rsem r x := by
  unfold rsem
  rw [he, hm]
  constructor
  · rintro ⟨t, ht⟩; exact ⟨-t, by push_cast; linarith⟩
  · rintro ⟨t, ht⟩; exact ⟨-t, by push_cast; linarith⟩

end PPLV.Lattice.Red

import PPLV.Lattice.ProofsGridOpsAddDims
import PPLV.Lattice.ProofsGridOpsAddGenerators

/-!
# The `Grid` object: `generalized_affine_image/preimage(lhs, relsym, rhs, modulus)`
-/
namespace PPLV.Lattice.GO
open PPLV.Lattice PPLV.Lattice.Red

/-! ## `generalized_affine_image(lhs, relsym, rhs, modulus)` and `generalized_affine_preimage(lhs, relsym, rhs, modulus)` (Grid_public.cc:2334, :2478): the exits, the relation symbols other than `=` (the lines of the variables of `lhs` are added), the constant `lhs` (one congruence is added) -/

/-- `S + ℚ·e_v` -/
def lz_addLine (S : Set Pt) (v : Nat) : Set Pt := {y | ∃ a ∈ S, ∃ c : ℚ, y = a + c • (unit v).toFun}

theorem lz_addLine_nonempty {S : Set Pt} (h : S.Nonempty) (v : Nat) : (lz_addLine S v).Nonempty := by
  obtain ⟨a, ha⟩ := h
  exact ⟨a, a, ha, 0, by simp⟩

theorem lz_addLine_empty (v : Nat) : lz_addLine ∅ v = ∅ := by ext y; simp [lz_addLine]

theorem lz_foldl_addLine_empty (vs : List Nat) : vs.foldl lz_addLine ∅ = ∅ := by
  induction vs with
  | nil => rfl
  | cons v vs ih => rw [List.foldl_cons, lz_addLine_empty, ih]

/-- the loop `for each variable of lhs: add_grid_generator(grid_line(var))` -/
theorem lz_foldLines_spec (n : Nat) (hn : 0 < n) : ∀ (vs : List Nat) (r0 : R), (∀ v ∈ vs, v + 1 ≤ n) →
    r0.thrown = false → GridInv r0.g → r0.g.spaceDim = n → (r0.g.sem).Nonempty →
    (vs.foldl (fun (r : R) v => if r.thrown then r else addGridGenerator r.g (gridLineVar v)) r0).thrown = false ∧
    GridInv (vs.foldl (fun (r : R) v => if r.thrown then r else addGridGenerator r.g (gridLineVar v)) r0).g ∧
    (vs.foldl (fun (r : R) v => if r.thrown then r else addGridGenerator r.g (gridLineVar v)) r0).g.spaceDim = n ∧
    (vs.foldl (fun (r : R) v => if r.thrown then r else addGridGenerator r.g (gridLineVar v)) r0).g.sem =
      vs.foldl lz_addLine r0.g.sem
  | [], r0, _, h1, h2, h3, _ => ⟨h1, h2, h3, rfl⟩
  | v :: vs, r0, hv, h1, h2, h3, h4 => by
    rw [List.foldl_cons, List.foldl_cons]
    have hstep : (if r0.thrown = true then r0 else addGridGenerator r0.g (gridLineVar v)) =
        addGridGenerator r0.g (gridLineVar v) := by rw [h1]; rfl
    rw [hstep]
    have hsd : (gridLineVar v).spaceDim ≤ r0.g.spaceDim := by
      rw [gn_spaceDim_of_len (gn_gridLineVar_len v), h3]; exact hv v (by simp)
    obtain ⟨a, b, c, _, e⟩ := gn_addGridGenerator r0.g h2 (gridLineVar v) (lz_gridLineVar_ok v) hsd
      (by rw [h3]; exact hn)
    have hnt : (addGridGenerator r0.g (gridLineVar v)).thrown = false := by
      cases ht : (addGridGenerator r0.g (gridLineVar v)).thrown
      · rfl
      · have := (c.mp ht).1; rw [this] at h4; exact absurd h4 Set.not_nonempty_empty
    have hsem : (addGridGenerator r0.g (gridLineVar v)).g.sem = lz_addLine r0.g.sem v := by
      rw [(e hnt).1 rfl, gn_gridLineVar_vecOf]; rfl
    have := lz_foldLines_spec n hn vs (addGridGenerator r0.g (gridLineVar v)) (fun w hw => hv w (by simp [hw])) hnt a
      (b.trans h3) (by rw [hsem]; exact lz_addLine_nonempty h4 v)
    rw [hsem] at this
    exact this

theorem lz_mem_varsOf {e : LinExpr} {v : Nat} (h : v ∈ varsOf e) : v + 1 ≤ e.spaceDim := by
  unfold varsOf at h
  have := (List.mem_filter.mp h).1
  rw [List.mem_range] at this
  unfold LinExpr.spaceDim; omega

/-- the branch of the relation symbols other than `=` (shared by image and preimage) -/
def lz_lrLines (g : Grid) (lhs : LinExpr) : R :=
  if (lz_minGen g).markedEmpty = true then { g := lz_minGen g }
  else (varsOf lhs).foldl (fun (r : R) v => if r.thrown then r else addGridGenerator r.g (gridLineVar v)) { g := lz_minGen g }

theorem lz_lrLines_spec (g : Grid) (lhs : LinExpr) (hI : GridInv g) (hl : lhs.spaceDim ≤ g.spaceDim) :
    (lz_lrLines g lhs).thrown = false ∧ GridInv (lz_lrLines g lhs).g ∧ (lz_lrLines g lhs).g.spaceDim = g.spaceDim ∧
    (lz_lrLines g lhs).g.sem = (varsOf lhs).foldl lz_addLine g.sem := by
  unfold lz_lrLines
  by_cases hvs : varsOf lhs = []
  · -- no variable: nothing but the `minimize`
    have hg1 : GridInv (lz_minGen g) ∧ (lz_minGen g).sem = g.sem ∧ (lz_minGen g).spaceDim = g.spaceDim := by
      unfold lz_minGen
      split
      · obtain ⟨m1, m2, m3, _⟩ := minimize_spec g hI; exact ⟨m1, m2, m3⟩
      · exact ⟨hI, rfl, rfl⟩
    rw [hvs]
    split
    · exact ⟨rfl, hg1.1, hg1.2.2, by rw [List.foldl_nil]; exact hg1.2.1⟩
    · exact ⟨rfl, hg1.1, hg1.2.2, by rw [List.foldl_nil]; exact hg1.2.1⟩
  · obtain ⟨v, hv⟩ := List.exists_mem_of_ne_nil _ hvs
    have hpos : 0 < g.spaceDim := by have := lz_mem_varsOf hv; omega
    obtain ⟨m1, m2, m3, m4, m5⟩ := lz_minGen_spec g hI hpos
    by_cases he : (lz_minGen g).st.empty = true
    · rw [if_pos (show (lz_minGen g).markedEmpty = true from he)]
      refine ⟨rfl, m1, m3, ?_⟩
      rw [m2, m4.mp he, lz_foldl_addLine_empty]
    · rw [if_neg (show ¬ ((lz_minGen g).markedEmpty = true) from he)]
      have he' : (lz_minGen g).st.empty = false := by simpa using he
      obtain ⟨a, b, c, d⟩ := lz_foldLines_spec g.spaceDim hpos (varsOf lhs) { g := lz_minGen g }
        (fun w hw => by have := lz_mem_varsOf hw; omega) rfl m1 m3 (by rw [m2]; exact (m5 he').2)
      exact ⟨a, b, c, by rw [d, m2]⟩

/-! ### `(lhs %= rhs) / m` -/

theorem lz_cgCreate_facts (lhs rhs : LinExpr) (m : Int) (n : Nat) (h1 : lhs.spaceDim ≤ n) (h2 : rhs.spaceDim ≤ n)
    (hl : lhs ≠ []) :
    (cgCreate lhs rhs m).spaceDim ≤ n ∧ 0 ≤ (cgCreate lhs rhs m).m ∧ (cgCreate lhs rhs m).e ≠ [] := by
  have hlen : (cgCreate lhs rhs m).e.length = max lhs.length rhs.length := by
    simp [cgCreate, resizeRow]
  have hl0 : 0 < lhs.length := List.length_pos_of_ne_nil hl
  refine ⟨?_, ?_, ?_⟩
  · unfold CRow.spaceDim; rw [hlen]; unfold LinExpr.spaceDim at h1 h2; omega
  · show 0 ≤ absI m; unfold absI; split <;> omega
  · intro h; rw [h] at hlen; simp at hlen; omega

/-! ### the two functions -/

theorem lz_gaiLR_relsym_eq (g : Grid) (lhs : LinExpr) (relsym : Nat) (rhs : LinExpr)
    (hdim : ¬ (g.spaceDim < lhs.spaceDim ∨ g.spaceDim < rhs.spaceDim)) (hne : g.st.empty = false)
    (hr1 : relsym ≠ NOT_EQUAL) (hr2 : relsym ≠ EQUAL) :
    generalizedAffineImageLR g lhs relsym rhs 0 = lz_lrLines g lhs ∧
    generalizedAffinePreimageLR g lhs relsym rhs 0 = lz_lrLines g lhs := by
  constructor
  · unfold generalizedAffineImageLR
    rw [if_neg hdim, if_neg hr1, if_neg (show ¬ (relsym ≠ EQUAL ∧ (0 : Int) ≠ 0) from fun h => h.2 rfl),
      if_neg (show ¬ (g.markedEmpty = true) by simpa [Grid.markedEmpty] using hne), if_pos hr2]
    rfl
  · unfold generalizedAffinePreimageLR
    rw [if_neg hdim, if_neg hr1, if_neg (show ¬ (relsym ≠ EQUAL ∧ (0 : Int) ≠ 0) from fun h => h.2 rfl),
      if_neg (show ¬ (g.markedEmpty = true) by simpa [Grid.markedEmpty] using hne), if_pos hr2]
    rfl

/-- **relation symbols `<`, `≤`, `≥`, `>`** (`modulus = 0`), image and preimage alike: the lines of the variables of `lhs`
    are added -/
theorem generalizedAffineImageLR_relsym (g : Grid) (lhs : LinExpr) (relsym : Nat) (rhs : LinExpr) (hI : GridInv g)
    (hne : g.st.empty = false) (h1 : lhs.spaceDim ≤ g.spaceDim) (h2 : rhs.spaceDim ≤ g.spaceDim)
    (hr1 : relsym ≠ NOT_EQUAL) (hr2 : relsym ≠ EQUAL) :
    (generalizedAffineImageLR g lhs relsym rhs 0).thrown = false ∧
    GridInv (generalizedAffineImageLR g lhs relsym rhs 0).g ∧
    (generalizedAffineImageLR g lhs relsym rhs 0).g.spaceDim = g.spaceDim ∧
    (generalizedAffineImageLR g lhs relsym rhs 0).g.sem = (varsOf lhs).foldl lz_addLine g.sem := by
  rw [(lz_gaiLR_relsym_eq g lhs relsym rhs (by omega) hne hr1 hr2).1]
  exact lz_lrLines_spec g lhs hI h1

theorem generalizedAffinePreimageLR_relsym (g : Grid) (lhs : LinExpr) (relsym : Nat) (rhs : LinExpr) (hI : GridInv g)
    (hne : g.st.empty = false) (h1 : lhs.spaceDim ≤ g.spaceDim) (h2 : rhs.spaceDim ≤ g.spaceDim)
    (hr1 : relsym ≠ NOT_EQUAL) (hr2 : relsym ≠ EQUAL) :
    (generalizedAffinePreimageLR g lhs relsym rhs 0).thrown = false ∧
    GridInv (generalizedAffinePreimageLR g lhs relsym rhs 0).g ∧
    (generalizedAffinePreimageLR g lhs relsym rhs 0).g.spaceDim = g.spaceDim ∧
    (generalizedAffinePreimageLR g lhs relsym rhs 0).g.sem = (varsOf lhs).foldl lz_addLine g.sem := by
  rw [(lz_gaiLR_relsym_eq g lhs relsym rhs (by omega) hne hr1 hr2).2]
  exact lz_lrLines_spec g lhs hI h1

/-- **`relsym = EQUAL`, constant `lhs`** (`lhs.last_nonzero() = 0`), image and preimage alike: the congruence
    `lhs ≡ rhs (mod |modulus|)` is added -/
theorem generalizedAffineLR_const (g : Grid) (lhs rhs : LinExpr) (modulus : Int) (hI : GridInv g)
    (hne : g.st.empty = false) (h1 : lhs.spaceDim ≤ g.spaceDim) (h2 : rhs.spaceDim ≤ g.spaceDim) (hl : lhs ≠ [])
    (h0 : lastNonzero lhs = 0) :
    generalizedAffineImageLR g lhs EQUAL rhs modulus = { g := addCongruenceNoCheck g (cgCreate lhs rhs (absI modulus)) } ∧
    generalizedAffinePreimageLR g lhs EQUAL rhs modulus = { g := addCongruenceNoCheck g (cgCreate lhs rhs (absI modulus)) } ∧
    GridInv (addCongruenceNoCheck g (cgCreate lhs rhs (absI modulus))) ∧
    (addCongruenceNoCheck g (cgCreate lhs rhs (absI modulus))).sem = g.sem ∩ CRow.set (cgCreate lhs rhs (absI modulus)) ∧
    (addCongruenceNoCheck g (cgCreate lhs rhs (absI modulus))).spaceDim = g.spaceDim := by
  obtain ⟨p1, p2, p3⟩ := lz_cgCreate_facts lhs rhs (absI modulus) g.spaceDim h1 h2 hl
  obtain ⟨c1, c2, c3⟩ := cn_addCongruenceNoCheck g _ hI hne p1 p2 p3
  refine ⟨?_, ?_, c1, c2, c3⟩
  · unfold generalizedAffineImageLR
    rw [if_neg (show ¬ (g.spaceDim < lhs.spaceDim ∨ g.spaceDim < rhs.spaceDim) by omega),
      if_neg (show ¬ (EQUAL = NOT_EQUAL) by decide), if_neg (show ¬ (EQUAL ≠ EQUAL ∧ modulus ≠ 0) from fun h => h.1 rfl),
      if_neg (show ¬ (g.markedEmpty = true) by simpa [Grid.markedEmpty] using hne),
      if_neg (show ¬ (EQUAL ≠ EQUAL) by simp)]
    simp only [h0, if_true]
  · unfold generalizedAffinePreimageLR
    rw [if_neg (show ¬ (g.spaceDim < lhs.spaceDim ∨ g.spaceDim < rhs.spaceDim) by omega),
      if_neg (show ¬ (EQUAL = NOT_EQUAL) by decide), if_neg (show ¬ (EQUAL ≠ EQUAL ∧ modulus ≠ 0) from fun h => h.1 rfl),
      if_neg (show ¬ (g.markedEmpty = true) by simpa [Grid.markedEmpty] using hne),
      if_neg (show ¬ (EQUAL ≠ EQUAL) by simp)]
    simp only [h0, if_true]

/-- the argument checks (before the test for the marked-empty grid, a13dde6) and the marked-empty receiver, image and
    preimage alike -/
theorem generalizedAffineLR_exits (g : Grid) (lhs : LinExpr) (relsym : Nat) (rhs : LinExpr) (modulus : Int) :
    ((g.spaceDim < lhs.spaceDim ∨ g.spaceDim < rhs.spaceDim ∨ relsym = NOT_EQUAL ∨ (relsym ≠ EQUAL ∧ modulus ≠ 0)) →
      generalizedAffineImageLR g lhs relsym rhs modulus = { g := g, thrown := true } ∧
      generalizedAffinePreimageLR g lhs relsym rhs modulus = { g := g, thrown := true }) ∧
    (¬ (g.spaceDim < lhs.spaceDim ∨ g.spaceDim < rhs.spaceDim ∨ relsym = NOT_EQUAL ∨ (relsym ≠ EQUAL ∧ modulus ≠ 0)) →
      g.st.empty = true →
      generalizedAffineImageLR g lhs relsym rhs modulus = { g := g } ∧
      generalizedAffinePreimageLR g lhs relsym rhs modulus = { g := g }) := by
  constructor
  · intro h
    by_cases hdim : g.spaceDim < lhs.spaceDim ∨ g.spaceDim < rhs.spaceDim
    · constructor
      · unfold generalizedAffineImageLR; rw [if_pos hdim]
      · unfold generalizedAffinePreimageLR; rw [if_pos hdim]
    by_cases hr1 : relsym = NOT_EQUAL
    · constructor
      · unfold generalizedAffineImageLR; rw [if_neg hdim, if_pos hr1]
      · unfold generalizedAffinePreimageLR; rw [if_neg hdim, if_pos hr1]
    have hr3 : relsym ≠ EQUAL ∧ modulus ≠ 0 := by
      rcases h with h | h | h | h
      · exact absurd (Or.inl h) hdim
      · exact absurd (Or.inr h) hdim
      · exact absurd h hr1
      · exact h
    constructor
    · unfold generalizedAffineImageLR; rw [if_neg hdim, if_neg hr1, if_pos hr3]
    · unfold generalizedAffinePreimageLR; rw [if_neg hdim, if_neg hr1, if_pos hr3]
  · intro h he
    have hdim : ¬ (g.spaceDim < lhs.spaceDim ∨ g.spaceDim < rhs.spaceDim) := fun h' =>
      h (h'.elim Or.inl (fun x => Or.inr (Or.inl x)))
    have hr1 : ¬ relsym = NOT_EQUAL := fun h' => h (Or.inr (Or.inr (Or.inl h')))
    have hr3 : ¬ (relsym ≠ EQUAL ∧ modulus ≠ 0) := fun h' => h (Or.inr (Or.inr (Or.inr h')))
    constructor
    · unfold generalizedAffineImageLR
      rw [if_neg hdim, if_neg hr1, if_neg hr3, if_pos (show g.markedEmpty = true from he)]
    · unfold generalizedAffinePreimageLR
      rw [if_neg hdim, if_neg hr1, if_neg hr3, if_pos (show g.markedEmpty = true from he)]

/-- `x ≡ 1 (mod 2)` in dimension 2 (point `(1,0)`, parameter `(2,0)`, line `y`), `x ≤ …`: the line of `x` is added -/
example :
    let g : Grid := Grid.mk 2 { gUp := true } 2 [] 2 [⟨false, [1, 1, 0, 0]⟩, ⟨false, [0, 2, 0, 1]⟩, ⟨true, [0, 0, 1, 0]⟩] []
    invB g = true ∧ (generalizedAffineImageLR g [0, 1] 1 [0, 0, 1] 0).thrown = false ∧
      invB (generalizedAffineImageLR g [0, 1] 1 [0, 0, 1] 0).g = true := by decide +kernel

/-! ## The (lhs, rhs) forms with `relsym = EQUAL` when no variable of `lhs` occurs in `rhs` (Grid_public.cc:2456, :2597): the lines of the variables of `lhs` (`new_lines`) and the congruence `lhs ≡ rhs` -/

/-! ### `new_lines`: the system of the lines of the variables of `lhs` -/

theorem lz_insert_line (s : GSys) (v : Nat) :
    s.insert (gridLineVar v) =
      if s.dim < v + 1 then ⟨v + 1, s.rows.map (·.setSpaceDim (v + 1)) ++ [gridLineVar v]⟩
      else ⟨s.dim, s.rows ++ [(gridLineVar v).setSpaceDim s.dim]⟩ := by
  have h1 : (gridLineVar v).isParameter = false := by simp [GRow.isParameter, gridLineVar]
  have h2 : (gridLineVar v).spaceDim = v + 1 := gn_spaceDim_of_len (gn_gridLineVar_len v)
  unfold GSys.insert GSys.sysInsert
  rw [h1, h2]
  simp only [Bool.false_and, Bool.false_eq_true, if_false]
  split <;> rfl

theorem lz_gridLineVar_rowN (v : Nat) : gn_RowN (v + 1) (gridLineVar v) :=
  ⟨gn_gridLineVar_len v, (fun h => by cases h), (fun _ => by rw [gn_gridLineVar_get]; simp)⟩

/-- the invariant of the fold that builds `new_lines` -/
structure lz_LinesOK (n : Nat) (s : GSys) (ws : List Nat) : Prop where
  dim : s.dim ≤ n
  rows : ∀ r ∈ s.rows, gn_RowN s.dim r ∧ r.line = true
  vec : ∀ r ∈ s.rows, ∃ w ∈ ws, gn_vecOf r = (unit w).toFun
  all : ∀ w ∈ ws, ∃ r ∈ s.rows, gn_vecOf r = (unit w).toFun

theorem lz_LinesOK_step {n : Nat} {s : GSys} {ws : List Nat} (h : lz_LinesOK n s ws) (v : Nat) (hv : v + 1 ≤ n) :
    lz_LinesOK n (s.insert (gridLineVar v)) (ws ++ [v]) := by
  rw [lz_insert_line]
  by_cases hlt : s.dim < v + 1
  · rw [if_pos hlt]
    have hres : ∀ r ∈ s.rows, _ := fun r hr => gn_resize_row (h.rows r hr).1 (show s.dim ≤ v + 1 by omega)
    refine ⟨hv, fun r' hr' => ?_, fun r' hr' => ?_, fun w hw => ?_⟩
    · rcases List.mem_append.mp hr' with hm | hm
      · obtain ⟨r, hr, rfl⟩ := List.mem_map.mp hm
        exact ⟨(hres r hr).2, by rw [(hres r hr).1.1]; exact (h.rows r hr).2⟩
      · rw [List.mem_singleton.mp hm]; exact ⟨lz_gridLineVar_rowN v, rfl⟩
    · rcases List.mem_append.mp hr' with hm | hm
      · obtain ⟨r, hr, rfl⟩ := List.mem_map.mp hm
        obtain ⟨w, hw, e⟩ := h.vec r hr
        exact ⟨w, List.mem_append_left _ hw, by rw [(hres r hr).1.2.2.2, e]⟩
      · rw [List.mem_singleton.mp hm]
        exact ⟨v, by simp, gn_gridLineVar_vecOf v⟩
    · rcases List.mem_append.mp hw with hm | hm
      · obtain ⟨r, hr, e⟩ := h.all w hm
        exact ⟨_, List.mem_append_left _ (List.mem_map_of_mem hr), by rw [(hres r hr).1.2.2.2, e]⟩
      · rw [List.mem_singleton.mp hm]
        exact ⟨gridLineVar v, by simp, gn_gridLineVar_vecOf v⟩
  · rw [if_neg hlt]
    have hres := gn_resize_row (lz_gridLineVar_rowN v) (show v + 1 ≤ s.dim by omega)
    refine ⟨h.dim, fun r' hr' => ?_, fun r' hr' => ?_, fun w hw => ?_⟩
    · rcases List.mem_append.mp hr' with hm | hm
      · exact h.rows r' hm
      · rw [List.mem_singleton.mp hm]; exact ⟨hres.2, by rw [hres.1.1]; rfl⟩
    · rcases List.mem_append.mp hr' with hm | hm
      · obtain ⟨w, hw, e⟩ := h.vec r' hm
        exact ⟨w, List.mem_append_left _ hw, e⟩
      · rw [List.mem_singleton.mp hm]
        exact ⟨v, by simp, by rw [hres.1.2.2.2, gn_gridLineVar_vecOf]⟩
    · rcases List.mem_append.mp hw with hm | hm
      · obtain ⟨r, hr, e⟩ := h.all w hm
        exact ⟨r, List.mem_append_left _ hr, e⟩
      · rw [List.mem_singleton.mp hm]
        exact ⟨(gridLineVar v).setSpaceDim s.dim, by simp, by rw [hres.1.2.2.2, gn_gridLineVar_vecOf]⟩

theorem lz_LinesOK_fold {n : Nat} : ∀ (vs : List Nat) (s : GSys) (ws : List Nat), lz_LinesOK n s ws →
    (∀ v ∈ vs, v + 1 ≤ n) → lz_LinesOK n (vs.foldl (fun s v => s.insert (gridLineVar v)) s) (ws ++ vs)
  | [], s, ws, h, _ => by simpa using h
  | v :: vs, s, ws, h, hv => by
    rw [List.foldl_cons]
    have := lz_LinesOK_fold vs _ _ (lz_LinesOK_step h v (hv v (by simp))) (fun w hw => hv w (by simp [hw]))
    rwa [List.append_assoc] at this

/-- **`new_lines(lhs)`**: rows of one size, all lines, one for each variable of `lhs` and no other -/
theorem lz_newLines_spec (lhs : LinExpr) (n : Nat) (hl : lhs.spaceDim ≤ n) : lz_LinesOK n (newLines lhs) (varsOf lhs) := by
  have h0 : lz_LinesOK n ⟨0, []⟩ [] :=
    ⟨Nat.zero_le n, (fun r hr => by cases hr), (fun r hr => by cases hr), (fun w hw => by cases hw)⟩
  have := lz_LinesOK_fold (varsOf lhs) ⟨0, []⟩ [] h0 (fun v hv => by have := lz_mem_varsOf hv; omega)
  simpa [newLines] using this

theorem lz_newLines_gsOK (lhs : LinExpr) (n : Nat) (hl : lhs.spaceDim ≤ n) : gn_GsOK (newLines lhs) :=
  fun r hr => ((lz_newLines_spec lhs n hl).rows r hr).1

/-- adding the rows of `new_lines(lhs)` to a non-empty grid: the least closed set that contains it and absorbs the lines
    of the variables of `lhs` -/
def lz_AddVarLines (S X : Set Pt) (lhs : LinExpr) : Prop := gn_IsAddGens S X (newLines lhs).rows

/-! ### the branch "no variable of `lhs` occurs in `rhs`" -/

theorem lz_addLinesStep (g : Grid) (lhs : LinExpr) (hI : GridInv g) (hl : lhs.spaceDim ≤ g.spaceDim)
    (hvs : varsOf lhs ≠ []) (hne : (g.sem).Nonempty) :
    (addRecycledGridGenerators g (newLines lhs)).thrown = false ∧
    GridInv (addRecycledGridGenerators g (newLines lhs)).g ∧
    (addRecycledGridGenerators g (newLines lhs)).g.spaceDim = g.spaceDim ∧
    lz_AddVarLines (addRecycledGridGenerators g (newLines lhs)).g.sem g.sem lhs ∧
    (addRecycledGridGenerators g (newLines lhs)).g.st.empty = false := by
  have hsp := lz_newLines_spec lhs g.spaceDim hl
  obtain ⟨v, hv⟩ := List.exists_mem_of_ne_nil _ hvs
  have hpos : 0 < g.spaceDim := by have := lz_mem_varsOf hv; omega
  have hrows : (newLines lhs).rows ≠ [] := by
    obtain ⟨r, hr, _⟩ := hsp.all v hv
    exact List.ne_nil_of_mem hr
  obtain ⟨a, b, c, _, e⟩ := gn_addRecycledGridGenerators g hI (newLines lhs) (lz_newLines_gsOK lhs _ hl) hsp.dim hpos hrows
  have hnt : (addRecycledGridGenerators g (newLines lhs)).thrown = false := by
    cases ht : (addRecycledGridGenerators g (newLines lhs)).thrown
    · rfl
    · have := (c.mp ht).1; rw [this] at hne; exact absurd hne Set.not_nonempty_empty
  have hS := (e hnt).2 hne
  refine ⟨hnt, a, b, hS, ?_⟩
  cases hem : (addRecycledGridGenerators g (newLines lhs)).g.st.empty
  · rfl
  · have h1 := sem_of_empty hem
    obtain ⟨x, hx⟩ := hne
    have := hS.2.1 hx
    rw [h1] at this; exact absurd this (Set.notMem_empty x)

/-- **image, `relsym = EQUAL`, no common variable** (Grid_public.cc:2456): the lines of the variables of `lhs` are added,
    then the congruence `lhs ≡ rhs (mod |modulus|)` -/
theorem generalizedAffineImageLR_nocommon (g : Grid) (lhs rhs : LinExpr) (modulus : Int) (hI : GridInv g)
    (hne : g.st.empty = false) (h1 : lhs.spaceDim ≤ g.spaceDim) (h2 : rhs.spaceDim ≤ g.spaceDim)
    (h0 : lastNonzero lhs ≠ 0) (hvs : varsOf lhs ≠ [])
    (hnc : haveCommonVariable lhs rhs (min (lastNonzero lhs) rhs.spaceDim) = false) :
    (generalizedAffineImageLR g lhs EQUAL rhs modulus).thrown = false ∧
    GridInv (generalizedAffineImageLR g lhs EQUAL rhs modulus).g ∧
    (generalizedAffineImageLR g lhs EQUAL rhs modulus).g.spaceDim = g.spaceDim ∧
    (g.sem = ∅ → (generalizedAffineImageLR g lhs EQUAL rhs modulus).g.sem = ∅) ∧
    ((g.sem).Nonempty → ∃ S, lz_AddVarLines S g.sem lhs ∧
      (generalizedAffineImageLR g lhs EQUAL rhs modulus).g.sem = S ∩ CRow.set (cgCreate lhs rhs (absI modulus))) := by
  have hl : lhs ≠ [] := by
    intro h; rw [h] at hvs; exact hvs rfl
  have hunf : generalizedAffineImageLR g lhs EQUAL rhs modulus =
      if (isEmpty g).2 = true then { g := (isEmpty g).1 }
      else if (addRecycledGridGenerators (isEmpty g).1 (newLines lhs)).thrown = true then
        addRecycledGridGenerators (isEmpty g).1 (newLines lhs)
      else { g := addCongruenceNoCheck (addRecycledGridGenerators (isEmpty g).1 (newLines lhs)).g
                    (cgCreate lhs rhs (absI modulus)) } := by
    unfold generalizedAffineImageLR
    rw [if_neg (show ¬ (g.spaceDim < lhs.spaceDim ∨ g.spaceDim < rhs.spaceDim) by omega),
      if_neg (show ¬ (EQUAL = NOT_EQUAL) by decide), if_neg (show ¬ (EQUAL ≠ EQUAL ∧ modulus ≠ 0) from fun h => h.1 rfl),
      if_neg (show ¬ (g.markedEmpty = true) by simpa [Grid.markedEmpty] using hne),
      if_neg (show ¬ (EQUAL ≠ EQUAL) by simp)]
    simp only [h0, if_false, hnc, Bool.false_eq_true]
  rw [hunf]
  obtain ⟨i1, i2, i3, i4, i5, i6⟩ := isEmpty_spec g hI
  by_cases hb : (isEmpty g).2 = true
  · rw [if_pos hb]
    have hemp := i4.mp hb
    refine ⟨rfl, i1, i3, fun _ => by rw [i2, hemp], fun h => ?_⟩
    rw [hemp] at h; exact absurd h Set.not_nonempty_empty
  · rw [if_neg hb]
    have hnemp : (g.sem).Nonempty := Set.nonempty_iff_ne_empty.mpr (fun h => hb (i4.mpr h))
    obtain ⟨a, b, c, d, e⟩ := lz_addLinesStep (isEmpty g).1 lhs i1 (by rw [i3]; exact h1) hvs (by rw [i2]; exact hnemp)
    rw [if_neg (by rw [a]; simp)]
    obtain ⟨p1, p2, p3⟩ := lz_cgCreate_facts lhs rhs (absI modulus)
      (addRecycledGridGenerators (isEmpty g).1 (newLines lhs)).g.spaceDim (by rw [c, i3]; exact h1) (by rw [c, i3]; exact h2) hl
    obtain ⟨c1, c2, c3⟩ := cn_addCongruenceNoCheck _ _ b e p1 p2 p3
    refine ⟨rfl, c1, c3.trans (c.trans i3), fun h => ?_, fun _ => ⟨_, ?_, c2⟩⟩
    · rw [h] at hnemp; exact absurd hnemp Set.not_nonempty_empty
    · rw [i2] at d; exact d

/-- **preimage, `relsym = EQUAL`, no common variable** (Grid_public.cc:2597): the congruence `lhs ≡ rhs (mod |modulus|)` is
    added, then the lines of the variables of `lhs` -/
theorem generalizedAffinePreimageLR_nocommon (g : Grid) (lhs rhs : LinExpr) (modulus : Int) (hI : GridInv g)
    (hne : g.st.empty = false) (h1 : lhs.spaceDim ≤ g.spaceDim) (h2 : rhs.spaceDim ≤ g.spaceDim)
    (h0 : lastNonzero lhs ≠ 0) (hvs : varsOf lhs ≠ [])
    (hnc : haveCommonVariable lhs rhs (min (lastNonzero lhs) rhs.spaceDim) = false) :
    (generalizedAffinePreimageLR g lhs EQUAL rhs modulus).thrown = false ∧
    GridInv (generalizedAffinePreimageLR g lhs EQUAL rhs modulus).g ∧
    (generalizedAffinePreimageLR g lhs EQUAL rhs modulus).g.spaceDim = g.spaceDim ∧
    (g.sem ∩ CRow.set (cgCreate lhs rhs (absI modulus)) = ∅ →
      (generalizedAffinePreimageLR g lhs EQUAL rhs modulus).g.sem = ∅) ∧
    ((g.sem ∩ CRow.set (cgCreate lhs rhs (absI modulus))).Nonempty →
      lz_AddVarLines (generalizedAffinePreimageLR g lhs EQUAL rhs modulus).g.sem
        (g.sem ∩ CRow.set (cgCreate lhs rhs (absI modulus))) lhs) := by
  have hl : lhs ≠ [] := by
    intro h; rw [h] at hvs; exact hvs rfl
  have hunf : generalizedAffinePreimageLR g lhs EQUAL rhs modulus =
      if (isEmpty (addCongruenceNoCheck g (cgCreate lhs rhs (absI modulus)))).2 = true then
        { g := (isEmpty (addCongruenceNoCheck g (cgCreate lhs rhs (absI modulus)))).1 }
      else addRecycledGridGenerators (isEmpty (addCongruenceNoCheck g (cgCreate lhs rhs (absI modulus)))).1 (newLines lhs) := by
    unfold generalizedAffinePreimageLR
    rw [if_neg (show ¬ (g.spaceDim < lhs.spaceDim ∨ g.spaceDim < rhs.spaceDim) by omega),
      if_neg (show ¬ (EQUAL = NOT_EQUAL) by decide), if_neg (show ¬ (EQUAL ≠ EQUAL ∧ modulus ≠ 0) from fun h => h.1 rfl),
      if_neg (show ¬ (g.markedEmpty = true) by simpa [Grid.markedEmpty] using hne),
      if_neg (show ¬ (EQUAL ≠ EQUAL) by simp)]
    simp only [h0, if_false, hnc, Bool.false_eq_true]
  rw [hunf]
  obtain ⟨p1, p2, p3⟩ := lz_cgCreate_facts lhs rhs (absI modulus) g.spaceDim h1 h2 hl
  obtain ⟨c1, c2, c3⟩ := cn_addCongruenceNoCheck g _ hI hne p1 p2 p3
  obtain ⟨i1, i2, i3, i4, i5, i6⟩ := isEmpty_spec _ c1
  by_cases hb : (isEmpty (addCongruenceNoCheck g (cgCreate lhs rhs (absI modulus)))).2 = true
  · rw [if_pos hb]
    have hemp := i4.mp hb
    refine ⟨rfl, i1, i3.trans c3, fun _ => by rw [i2, hemp], fun h => ?_⟩
    rw [← c2, hemp] at h; exact absurd h Set.not_nonempty_empty
  · rw [if_neg hb]
    have hnemp : ((addCongruenceNoCheck g (cgCreate lhs rhs (absI modulus))).sem).Nonempty :=
      Set.nonempty_iff_ne_empty.mpr (fun h => hb (i4.mpr h))
    obtain ⟨a, b, c, d, _⟩ := lz_addLinesStep _ lhs i1 (by rw [i3, c3]; exact h1) hvs (by rw [i2]; exact hnemp)
    refine ⟨a, b, c.trans (i3.trans c3), fun h => ?_, fun _ => ?_⟩
    · rw [c2, h] at hnemp; exact absurd hnemp Set.not_nonempty_empty
    · rw [i2, c2] at d; exact d

end PPLV.Lattice.GO

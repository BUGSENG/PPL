import PPLV.Lattice.ProofsGridOpsBounds

/-!
# The `Grid` object: `frequency`
-/
namespace PPLV.Lattice.GO
open PPLV.Lattice PPLV.Lattice.Red

/-! ## The loop of `frequency_no_check` (Grid_nonpublic.cc:331) on a system "one point, then parameters and lines" with common divisor `D`: `none` iff a line moves the expression; otherwise the result `f` is non-negative, `D·λ` of every direction of the grid is a multiple of `f`, and `f = D·λ(w)` for some direction `w` -/

theorem cn_freqLoop_none_iff (e : LinExpr) (L : List GRow) : ∀ f : Int,
    freqLoop e f L = none ↔ ∃ r ∈ L, r.line = true ∧ spHom e r.e ≠ 0 := by
  induction L with
  | nil => intro f; simp [freqLoop]
  | cons r L ih =>
    intro f
    unfold freqLoop
    by_cases hl : r.line = true
    · by_cases hs : spHom e r.e ≠ 0
      · simp only [hl, if_true, if_pos hs]
        exact ⟨fun _ => ⟨r, List.mem_cons_self .., hl, hs⟩, fun _ => trivial⟩
      · simp only [hl, if_true, if_neg hs]
        rw [ih f]
        constructor
        · rintro ⟨r', h1, h2, h3⟩; exact ⟨r', List.mem_cons_of_mem _ h1, h2, h3⟩
        · rintro ⟨r', h1, h2, h3⟩
          rcases List.mem_cons.mp h1 with h | h
          · subst h; exact absurd h3 hs
          · exact ⟨r', h, h2, h3⟩
    · simp only [hl, Bool.false_eq_true, if_false]
      rw [ih]
      constructor
      · rintro ⟨r', h1, h2, h3⟩; exact ⟨r', List.mem_cons_of_mem _ h1, h2, h3⟩
      · rintro ⟨r', h1, h2, h3⟩
        rcases List.mem_cons.mp h1 with h | h
        · subst h; exact absurd h2 hl
        · exact ⟨r', h, h2, h3⟩

/-- the invariant of the loop: `P f` — `f` is `D·λ` of a direction of the grid -/
theorem cn_freqLoop_some (e : LinExpr) (rows : List GRow) (D : Int)
    (hs : ∀ r ∈ rows, gn_isPar r = true → ((spHom e r.e : Int) : ℚ) = (D : ℚ) * cn_lam e (gn_vecOf r))
    (L : List GRow) : ∀ f f' : Int, freqLoop e f L = some f' → 0 ≤ f → (∀ r ∈ L, r ∈ rows ∧ Red.get r.e 0 = 0) →
      (∃ w, gn_Dir rows w ∧ (D : ℚ) * cn_lam e w = (f : ℚ)) →
      0 ≤ f' ∧ f' ∣ f ∧ (∀ r ∈ L, r.line = false → f' ∣ spHom e r.e) ∧ (∀ r ∈ L, r.line = true → spHom e r.e = 0) ∧
        (∃ w, gn_Dir rows w ∧ (D : ℚ) * cn_lam e w = (f' : ℚ)) := by
  induction L with
  | nil =>
    intro f f' h hf _ hP
    have : f = f' := by simpa [freqLoop] using h
    subst this
    exact ⟨hf, dvd_refl _, (fun r hr => by cases hr), (fun r hr => by cases hr), hP⟩
  | cons r L ih =>
    intro f f' h hf hL hP
    have hrL := hL r (List.mem_cons_self ..)
    have hL' : ∀ r' ∈ L, r' ∈ rows ∧ Red.get r'.e 0 = 0 := fun r' hr' => hL r' (List.mem_cons_of_mem _ hr')
    unfold freqLoop at h
    by_cases hl : r.line = true
    · simp only [hl, if_true] at h
      by_cases hsr : spHom e r.e ≠ 0
      · rw [if_pos hsr] at h; cases h
      · rw [if_neg hsr] at h
        obtain ⟨a1, a2, a3, a4, a5⟩ := ih f f' h hf hL' hP
        refine ⟨a1, a2, ?_, ?_, a5⟩
        · intro r' hr' hl'
          rcases List.mem_cons.mp hr' with hh | hh
          · subst hh; rw [hl] at hl'; cases hl'
          · exact a3 r' hh hl'
        · intro r' hr' hl'
          rcases List.mem_cons.mp hr' with hh | hh
          · subst hh; exact not_not.mp hsr
          · exact a4 r' hh hl'
    · have hlf : r.line = false := by simpa using hl
      simp only [hlf, Bool.false_eq_true, if_false] at h
      have hpar : gn_isPar r = true := (gn_isPar_iff r).mpr ⟨hlf, hrL.2⟩
      by_cases hsr : spHom e r.e ≠ 0
      · rw [if_pos hsr] at h
        -- Bézout: the new `f` is again `D·λ` of a direction
        obtain ⟨w, hw, hwf⟩ := hP
        have hbez := Int.gcd_eq_gcd_ab f (spHom e r.e)
        have hP' : ∃ w', gn_Dir rows w' ∧ (D : ℚ) * cn_lam e w' = ((gcdI f (spHom e r.e) : Int) : ℚ) := by
          refine ⟨((Int.gcdA f (spHom e r.e) : Int) : ℚ) • w + ((Int.gcdB f (spHom e r.e) : Int) : ℚ) • gn_vecOf r,
            gn_dir_add (gn_dir_zsmul _ hw) (gn_dir_zsmul _ (gn_dir_par hrL.1 hpar)), ?_⟩
          rw [cn_lam_add, cn_lam_smul, cn_lam_smul]
          have h1 := hs r hrL.1 hpar
          unfold gcdI
          rw [hbez]
          push_cast
          rw [← hwf, h1]; ring
        obtain ⟨a1, a2, a3, a4, a5⟩ := ih _ f' h (by unfold gcdI; exact Int.natCast_nonneg _) hL' hP'
        have hd1 : gcdI f (spHom e r.e) ∣ f := by unfold gcdI; exact Int.gcd_dvd_left ..
        have hd2 : gcdI f (spHom e r.e) ∣ spHom e r.e := by unfold gcdI; exact Int.gcd_dvd_right ..
        refine ⟨a1, a2.trans hd1, ?_, ?_, a5⟩
        · intro r' hr' hl'
          rcases List.mem_cons.mp hr' with hh | hh
          · subst hh; exact a2.trans hd2
          · exact a3 r' hh hl'
        · intro r' hr' hl'
          rcases List.mem_cons.mp hr' with hh | hh
          · subst hh; rw [hlf] at hl'; cases hl'
          · exact a4 r' hh hl'
      · rw [if_neg hsr] at h
        obtain ⟨a1, a2, a3, a4, a5⟩ := ih f f' h hf hL' hP
        refine ⟨a1, a2, ?_, ?_, a5⟩
        · intro r' hr' hl'
          rcases List.mem_cons.mp hr' with hh | hh
          · subst hh; rw [not_not.mp hsr]; exact dvd_zero _
          · exact a3 r' hh hl'
        · intro r' hr' hl'
          rcases List.mem_cons.mp hr' with hh | hh
          · subst hh; rw [hlf] at hl'; cases hl'
          · exact a4 r' hh hl'

/-- the value `frequency_no_check` chooses: congruent to `v` modulo `f`, of least magnitude -/
def cn_leastVal (v f : Int) : Int :=
  if 2 * Int.tmod v f > f then Int.tmod v f - f else if -(2 * Int.tmod v f) > f then Int.tmod v f + f else Int.tmod v f

theorem cn_leastVal_spec (v f : Int) (hf : 0 < f) :
    (∃ j : Int, cn_leastVal v f = v - j * f) ∧ 2 * cn_leastVal v f ≤ f ∧ -f ≤ 2 * cn_leastVal v f := by
  have h1 := Int.tmod_lt_of_pos v hf
  have h2 := Int.lt_tmod_of_pos v hf
  have h3 := Int.tmod_add_mul_tdiv v f
  unfold cn_leastVal
  split
  · exact ⟨⟨Int.tdiv v f + 1, by linarith⟩, by omega, by omega⟩
  · split
    · exact ⟨⟨Int.tdiv v f - 1, by linarith⟩, by omega, by omega⟩
    · exact ⟨⟨Int.tdiv v f, by linarith⟩, by omega, by omega⟩

/-! ## `frequency_no_check` (Grid_nonpublic.cc:331) on a minimized generator system, against the grid

`ok = false` iff a line of the grid moves the expression (`cn_LineMoves`).  Otherwise (`cn_FreqOK`): `fn/fd ≥ 0` is
reduced and generates the group of the differences of the values of the expression on the grid; `vn/vd` is reduced, is
a value of the expression on the grid, and (when the frequency is not 0) `|2·val| ≤ freq`.
-/

/-- some line of `S` (a direction along which `S` is invariant under every rational multiple) moves the expression -/
def cn_LineMoves (e : LinExpr) (S : Set Pt) : Prop :=
  ∃ x ∈ S, ∃ v : Pt, (∀ c : ℚ, x + c • v ∈ S) ∧ cn_lam e v ≠ 0

/-- what `frequency` promises of its numbers on the point set `S` -/
structure cn_FreqOK (e : LinExpr) (S : Set Pt) (fr : Freq) : Prop where
  fnn : 0 ≤ fr.fn
  fdp : 0 < fr.fd
  fred : Int.gcd fr.fn fr.fd = 1
  vdp : 0 < fr.vd
  vred : Int.gcd fr.vn fr.vd = 1
  /-- the value is attained -/
  val : ∃ x ∈ S, evalRow e x = (fr.vn : ℚ) / (fr.vd : ℚ)
  /-- every difference of values is a multiple of the frequency -/
  mult : ∀ x ∈ S, ∀ y ∈ S, ∃ k : Int, evalRow e x - evalRow e y = (k : ℚ) * ((fr.fn : ℚ) / (fr.fd : ℚ))
  /-- the frequency is a difference of values -/
  gen : ∃ x ∈ S, ∃ y ∈ S, evalRow e x - evalRow e y = (fr.fn : ℚ) / (fr.fd : ℚ)
  /-- the value has the least magnitude -/
  least : fr.fn ≠ 0 → 2 * ((fr.vn : ℚ) / (fr.vd : ℚ)) ≤ (fr.fn : ℚ) / (fr.fd : ℚ) ∧
    -((fr.fn : ℚ) / (fr.fd : ℚ)) ≤ 2 * ((fr.vn : ℚ) / (fr.vd : ℚ))

theorem cn_fnc_eq (g1 : Grid) (e : LinExpr) : frequencyNoCheck g1 e =
    if boundsNoCheck g1 e then
      { ok := true, fn := 0, fd := 1,
        vn := (spHom e (rowAt g1.gen 0).e + Red.get e 0 * (rowAt g1.gen 0).divisor) /
          gcdI (spHom e (rowAt g1.gen 0).e + Red.get e 0 * (rowAt g1.gen 0).divisor) (rowAt g1.gen 0).divisor,
        vd := (rowAt g1.gen 0).divisor /
          gcdI (spHom e (rowAt g1.gen 0).e + Red.get e 0 * (rowAt g1.gen 0).divisor) (rowAt g1.gen 0).divisor }
    else
      match freqLoop e 0 (g1.gen.drop 1) with
      | none => { ok := false }
      | some f =>
        { ok := true, fn := f / gcdI f (rowAt g1.gen 0).divisor, fd := (rowAt g1.gen 0).divisor / gcdI f (rowAt g1.gen 0).divisor,
          vn := cn_leastVal (spHom e (rowAt g1.gen 0).e + Red.get e 0 * (rowAt g1.gen 0).divisor) f /
            gcdI (cn_leastVal (spHom e (rowAt g1.gen 0).e + Red.get e 0 * (rowAt g1.gen 0).divisor) f) (rowAt g1.gen 0).divisor,
          vd := (rowAt g1.gen 0).divisor /
            gcdI (cn_leastVal (spHom e (rowAt g1.gen 0).e + Red.get e 0 * (rowAt g1.gen 0).divisor) f) (rowAt g1.gen 0).divisor } := by
  unfold frequencyNoCheck
  split
  · rfl
  · cases freqLoop e 0 (g1.gen.drop 1) <;> rfl

theorem cn_div_pos (a b : ℚ) (D : ℚ) (hD : 0 < D) (h : a ≤ b) : a / D ≤ b / D := div_le_div_of_nonneg_right h hD.le

/-- `frequency_no_check` on a minimized generator system -/
theorem cn_frequencyNoCheck (g1 : Grid) (e : LinExpr) {D : Int} {dk : List Nat} (hw : GWf g1.spaceDim g1.gen)
    (hN : GNorm g1.spaceDim D g1.gen) (hut : upperTriangular g1.spaceDim g1.gen dk = true) (h0 : kind dk 0 = PARAMETER)
    (he : e.spaceDim ≤ g1.spaceDim) :
    ((frequencyNoCheck g1 e).ok = false ↔ cn_LineMoves e (gn_set g1.gen)) ∧
    ((frequencyNoCheck g1 e).ok = true → cn_FreqOK e (gn_set g1.gen) (frequencyNoCheck g1 e)) := by
  have hbc := cn_boundsNoCheck_const g1 e hw hN hut h0 he
  have hbi := cn_boundsNoCheck_iff g1 e
  obtain ⟨p, rest, hg, hp, hpD, hrest⟩ := cn_min_shape hN hut h0
  have hel : e.length ≤ g1.spaceDim + 1 := by unfold LinExpr.spaceDim at he; omega
  have hrow : rowAt g1.gen 0 = p := by rw [hg]; rfl
  have hdrop : g1.gen.drop 1 = rest := by rw [hg]; rfl
  have hpm : p ∈ g1.gen := by rw [hg]; exact List.mem_cons_self ..
  have hrm : ∀ r ∈ rest, r ∈ g1.gen := fun r hr => by rw [hg]; exact List.mem_cons_of_mem _ hr
  have hDpos := hN.pos
  have hDq : (0 : ℚ) < (D : ℚ) := by exact_mod_cast hDpos
  have hDne : (D : ℚ) ≠ 0 := ne_of_gt hDq
  obtain ⟨hpdiv, hpval⟩ := cn_point_value e p _ _ (hw p hpm) hel hp hpD hDpos
  have hppt : gn_isPt p = true := (gn_isPt_iff p).mpr ⟨hp, by rw [hpD]; exact ne_of_gt hDpos⟩
  have hpS : gn_Mem g1.gen (gn_vecOf p) := gn_mem_pt hpm hppt
  -- the products of the rows
  have hspar : ∀ r ∈ g1.gen, gn_isPar r = true → ((spHom e r.e : Int) : ℚ) = (D : ℚ) * cn_lam e (gn_vecOf r) := by
    intro r hr hpar
    have hl := ((gn_isPar_iff r).mp hpar).1
    have hden : cn_den r = D := by
      unfold cn_den; rw [hl]; exact cn_den_pos.gn_divisor_of_gnorm_aux hN hw hr hl
    have := cn_spHom_vecOf e r _ (hw r hr) hel (by rw [hden]; exact ne_of_gt hDpos)
    rwa [hden] at this
  have hsline : ∀ r ∈ g1.gen, r.line = true → ((spHom e r.e : Int) : ℚ) = cn_lam e (gn_vecOf r) := by
    intro r hr hl
    have hden : cn_den r = 1 := by unfold cn_den; rw [hl]; rfl
    have := cn_spHom_vecOf e r _ (hw r hr) hel (by rw [hden]; decide)
    rw [hden] at this; simpa using this
  rw [cn_fnc_eq, hrow, hdrop, hpdiv]
  by_cases hb : boundsNoCheck g1 e = true
  · -- the expression is constant
    rw [if_pos hb]
    have hc := hbc.mp hb
    obtain ⟨r1, r2, r3⟩ := cn_reduce (spHom e p.e + Red.get e 0 * D) D hDpos
    refine ⟨⟨(fun h => by cases h), ?_⟩, fun _ => ?_⟩
    · rintro ⟨x, hx, v, hv, hlv⟩
      have h1 := hc _ (hv 1) _ hx
      rw [one_smul, cn_evalRow_lam, cn_evalRow_lam, cn_lam_add] at h1
      exact absurd (by linarith only [h1]) hlv
    · refine ⟨le_refl _, (by show (0 : Int) < 1; decide), (by show Int.gcd 0 1 = 1; decide), r1, r2, ⟨_, hpS, by rw [hpval]; exact r3.symm⟩, ?_, ?_, (fun h => absurd rfl h)⟩
      · intro x hx y hy; exact ⟨0, by rw [hc x hx y hy]; simp⟩
      · exact ⟨_, hpS, _, hpS, by simp⟩
  · rw [if_neg hb]
    cases hfl : freqLoop e 0 rest with
    | none =>
      dsimp only
      refine ⟨⟨fun _ => ?_, fun _ => rfl⟩, (fun h => by cases h)⟩
      obtain ⟨r, hr, hl, hs⟩ := (cn_freqLoop_none_iff e rest 0).mp hfl
      refine ⟨_, hpS, gn_vecOf r, fun c => gn_mem_line_step (hrm r hr) hl hpS c, ?_⟩
      intro h
      have := hsline r (hrm r hr) hl
      rw [h] at this
      exact hs (by exact_mod_cast this)
    | some f =>
      dsimp only
      obtain ⟨f1, _, f3, f4, ⟨w, hwd, hwf⟩⟩ := cn_freqLoop_some e g1.gen D hspar rest 0 f hfl (le_refl _)
        (fun r hr => ⟨hrm r hr, hrest r hr⟩) ⟨0, gn_dir_zero _, by rw [cn_lam_zero]; simp⟩
      -- the frequency is positive
      have hfpos : 0 < f := by
        have hnb : ¬ ∀ r ∈ g1.gen, Red.get r.e 0 = 0 → spHom e r.e = 0 := fun h => hb (hbi.mpr h)
        push Not at hnb
        obtain ⟨r, hr, hr0, hrs⟩ := hnb
        have hrr : r ∈ rest := by
          rw [hg] at hr
          rcases List.mem_cons.mp hr with h | h
          · subst h; rw [hpD] at hr0; exact absurd hr0 (ne_of_gt hDpos)
          · exact h
        by_cases hl : r.line = true
        · exact absurd (f4 r hrr hl) hrs
        · have hd := f3 r hrr (by simpa using hl)
          have : f ≠ 0 := fun h => by rw [h] at hd; exact hrs (zero_dvd_iff.mp hd)
          omega
      have hfq : (0 : ℚ) < (f : ℚ) := by exact_mod_cast hfpos
      -- every direction has a product in `f ℤ`
      have hK : ∀ v, gn_Dir g1.gen v → ∃ k : Int, (D : ℚ) * cn_lam e v = (k : ℚ) * (f : ℚ) := by
        intro v hv
        refine gn_dir_le (S := fun v => ∃ k : Int, (D : ℚ) * cn_lam e v = (k : ℚ) * (f : ℚ)) ⟨0, by rw [cn_lam_zero]; simp⟩
          ?_ ?_ ?_ ?_ ?_ hv
        · rintro v1 v2 ⟨k1, h1⟩ ⟨k2, h2⟩; exact ⟨k1 + k2, by rw [cn_lam_add, mul_add, h1, h2]; push_cast; ring⟩
        · rintro k v1 ⟨k1, h1⟩; exact ⟨k * k1, by rw [cn_lam_smul]; push_cast; rw [← mul_assoc, mul_comm (D : ℚ), mul_assoc, h1]; ring⟩
        · intro r1 m1 p1 r2 m2 p2
          have honly : ∀ r ∈ g1.gen, gn_isPt r = true → r = p := by
            intro r hr hrp
            rw [hg] at hr
            rcases List.mem_cons.mp hr with h | h
            · exact h
            · exact absurd (hrest r h) ((gn_isPt_iff r).mp hrp).2
          rw [honly r1 m1 p1, honly r2 m2 p2, sub_self, cn_lam_zero]; exact ⟨0, by simp⟩
        · intro r m pr
          have hrr : r ∈ rest := by
            rw [hg] at m
            rcases List.mem_cons.mp m with h | h
            · subst h; rw [((gn_isPar_iff _).mp pr).2] at hpD; exact absurd hpD.symm (ne_of_gt hDpos)
            · exact h
          obtain ⟨k, hk⟩ := f3 r hrr ((gn_isPar_iff r).mp pr).1
          exact ⟨k, by rw [← hspar r m pr, hk]; push_cast; ring⟩
        · intro r m hl c
          have hrr : r ∈ rest := by
            rw [hg] at m
            rcases List.mem_cons.mp m with h | h
            · subst h; rw [hp] at hl; cases hl
            · exact h
          have := hsline r m hl
          rw [f4 r hrr hl] at this
          exact ⟨0, by rw [cn_lam_smul, ← this]; simp⟩
      obtain ⟨q1, q2, q3⟩ := cn_reduce f D hDpos
      obtain ⟨⟨j, hj⟩, l1, l2⟩ := cn_leastVal_spec (spHom e p.e + Red.get e 0 * D) f hfpos
      obtain ⟨s1, s2, s3⟩ := cn_reduce (cn_leastVal (spHom e p.e + Red.get e 0 * D) f) D hDpos
      refine ⟨⟨(fun h => by cases h), ?_⟩, fun _ => ?_⟩
      · -- no line moves the expression
        rintro ⟨x, hx, v, hv, hlv⟩
        have ht : (D : ℚ) * cn_lam e v ≠ 0 := mul_ne_zero hDne hlv
        have hdir : gn_Dir g1.gen (((f : ℚ) / (2 * ((D : ℚ) * cn_lam e v))) • v) := by
          have := gn_mem_sub (hv ((f : ℚ) / (2 * ((D : ℚ) * cn_lam e v)))) hx
          simpa using this
        obtain ⟨k, hk⟩ := hK _ hdir
        rw [cn_lam_smul] at hk
        have h2 : (f : ℚ) / 2 = (k : ℚ) * (f : ℚ) := by
          rw [← hk]; field_simp
        have h3 : (1 : ℚ) = 2 * (k : ℚ) := by
          have hf0 : (f : ℚ) ≠ 0 := ne_of_gt hfq
          field_simp at h2; linarith only [h2]
        have h4 : (1 : Int) = 2 * k := by exact_mod_cast h3
        omega
      · refine ⟨Int.ediv_nonneg f1 (by unfold gcdI; exact Int.natCast_nonneg _), q1, q2, s1, s2, ?_, ?_, ?_, fun _ => ?_⟩
        · -- the value is attained at `p - j·w`
          refine ⟨gn_vecOf p + ((-j : Int) : ℚ) • w, gn_mem_add_dir hpS (gn_dir_zsmul (-j) hwd), ?_⟩
          show evalRow e _ = ((cn_leastVal (spHom e p.e + Red.get e 0 * D) f /
            gcdI (cn_leastVal (spHom e p.e + Red.get e 0 * D) f) D : Int) : ℚ) /
            ((D / gcdI (cn_leastVal (spHom e p.e + Red.get e 0 * D) f) D : Int) : ℚ)
          rw [s3, hj, cn_evalRow_lam, cn_lam_add, cn_lam_smul]
          have hpv : cn_lam e (gn_vecOf p) = ((spHom e p.e + Red.get e 0 * D : Int) : ℚ) / (D : ℚ) - (Red.get e 0 : ℚ) := by
            rw [cn_evalRow_lam] at hpval; linarith only [hpval]
          have hwl : cn_lam e w = (f : ℚ) / (D : ℚ) := by field_simp; linarith only [hwf]
          rw [hpv, hwl]
          push_cast; field_simp; ring
        · intro x hx y hy
          obtain ⟨k, hk⟩ := hK _ (gn_mem_sub hx hy)
          refine ⟨k, ?_⟩
          rw [q3, cn_evalRow_lam, cn_evalRow_lam]
          rw [cn_lam_sub] at hk
          field_simp; linarith only [hk]
        · refine ⟨gn_vecOf p + w, ?_, _, hpS, ?_⟩
          · have := gn_mem_add_dir hpS hwd; exact this
          · rw [q3, cn_evalRow_lam, cn_evalRow_lam, cn_lam_add]; field_simp; linarith only [hwf]
        · rw [q3, s3]
          have a1 : (2 * cn_leastVal (spHom e p.e + Red.get e 0 * D) f : ℚ) ≤ (f : ℚ) := by exact_mod_cast l1
          have a2 : -(f : ℚ) ≤ (2 * cn_leastVal (spHom e p.e + Red.get e 0 * D) f : ℚ) := by exact_mod_cast l2
          constructor
          · have := cn_div_pos _ _ _ hDq a1; rw [mul_div_assoc] at this; exact this
          · have := cn_div_pos _ _ _ hDq a2; rw [mul_div_assoc, neg_div] at this; exact this

/-! ## `frequency(expr, …)` (Grid_public.cc:2767) against `g.sem`

`none` exactly on a dimension mismatch; `ok = false` iff the grid is empty or a line of the grid moves the expression;
otherwise the numbers satisfy `cn_FreqOK` (frequency: reduced non-negative generator of the differences of the values;
value: reduced, attained, of least magnitude).
-/

/-- `if (!generators_are_minimized()) minimize()` on any object of positive dimension -/
theorem cn_min2_spec' (g : Grid) (hI : GridInv g) (hpos : 0 < g.spaceDim) :
    GridInv (cn_min2 g).1 ∧ (cn_min2 g).1.sem = g.sem ∧ (cn_min2 g).1.spaceDim = g.spaceDim ∧
      ((cn_min2 g).2 = true ↔ g.sem.Nonempty) ∧ ((cn_min2 g).2 = false → (cn_min2 g).1.st.empty = true) ∧
      ((cn_min2 g).2 = true → (cn_min2 g).1.st.empty = false ∧ (cn_min2 g).1.st.gUp = true ∧
        (cn_min2 g).1.st.gMin = true) := by
  by_cases hm : g.st.gMin = true
  · have he : g.st.empty = false := by
      by_contra h
      have := (hI.emp (by simpa using h)).1
      rw [this] at hm; cases hm
    exact cn_min2_spec g hI he hpos (hI.gminUp hm)
  · have : cn_min2 g = minimize g := by simp [cn_min2, Grid.generatorsAreMinimized, hm]
    rw [this]
    obtain ⟨m1, m2, m3, m4, m5, m6⟩ := minimize_spec' g hI
    refine ⟨m1, m2, m3, m4, m5, fun h => ?_⟩
    obtain ⟨a, b, _⟩ := m6 h hpos
    exact ⟨a, m1.gminUp b, b⟩

theorem cn_frequency_eq (g : Grid) (e : LinExpr) : frequency g e =
    if g.spaceDim < e.spaceDim then (g, none)
    else if g.spaceDim = 0 then
      (if (isEmpty g).2 then ((isEmpty g).1, some { ok := false })
       else ((isEmpty g).1, some { ok := true, fn := 0, fd := 1, vn := Red.get e 0, vd := 1 }))
    else if (cn_min2 g).2 = false then ((cn_min2 g).1, some { ok := false })
    else ((cn_min2 g).1, some (frequencyNoCheck (cn_min2 g).1 e)) := by
  unfold frequency
  split
  · rfl
  · split
    · rfl
    · show (if (!(cn_min2 g).2) = true then _ else _) = _
      cases (cn_min2 g).2 <;> rfl

theorem cn_zero_of_supp0 (x : Pt) (hx : Supp 0 x) : x = 0 := by funext i; exact hx i (Nat.zero_le _)

/-- Grid_public.cc:2767 `frequency(expr, freq_n, freq_d, val_n, val_d)` -/
theorem cn_frequency (g : Grid) (e : LinExpr) (hI : GridInv g) :
    ((frequency g e).2 = none ↔ g.spaceDim < e.spaceDim) ∧ GridInv (frequency g e).1 ∧ (frequency g e).1.sem = g.sem ∧
    (frequency g e).1.spaceDim = g.spaceDim ∧
    (∀ fr, (frequency g e).2 = some fr →
      (fr.ok = false ↔ g.sem = ∅ ∨ cn_LineMoves e g.sem) ∧ (fr.ok = true → cn_FreqOK e g.sem fr)) := by
  rw [cn_frequency_eq]
  by_cases hd : g.spaceDim < e.spaceDim
  · rw [if_pos hd]; exact ⟨⟨fun _ => hd, fun _ => rfl⟩, hI, rfl, rfl, (fun fr h => by cases h)⟩
  · rw [if_neg hd]
    have hnone : ∀ (G : Grid) (o : Freq), ((G, some o).2 = none ↔ g.spaceDim < e.spaceDim) :=
      fun G o => ⟨(fun h => by cases h), fun h => absurd h hd⟩
    by_cases h0 : g.spaceDim = 0
    · rw [if_pos h0]
      obtain ⟨e1, e2, e3, e4, e5, e6⟩ := isEmpty_spec g hI
      by_cases hb : (isEmpty g).2 = true
      · rw [if_pos hb]
        refine ⟨hnone _ _, e1, e2, e3, fun fr hfr => ?_⟩
        have : fr = { ok := false } := (Option.some.inj hfr).symm
        rw [this]
        exact ⟨⟨fun _ => Or.inl (e4.mp hb), fun _ => rfl⟩, (fun h => by cases h)⟩
      · rw [if_neg hb]
        have hne : (isEmpty g).1.st.empty = false := e6 (by simpa using hb)
        have hs : g.sem = spaceSet 0 := by rw [← e2]; exact sem_of_zdim hne (by rw [e3]; exact h0)
        have hz : (0 : Pt) ∈ g.sem := by rw [hs]; exact fun i _ => rfl
        refine ⟨hnone _ _, e1, e2, e3, fun fr hfr => ?_⟩
        have : fr = { ok := true, fn := 0, fd := 1, vn := Red.get e 0, vd := 1 } := (Option.some.inj hfr).symm
        rw [this]
        refine ⟨⟨(fun h => by cases h), ?_⟩, fun _ => ?_⟩
        · rintro (h | ⟨x, hx, v, hv, hlv⟩)
          · rw [h] at hz; exact absurd hz (Set.notMem_empty _)
          · rw [hs] at hx hv
            have hx0 := cn_zero_of_supp0 x hx
            have := cn_zero_of_supp0 _ (hv 1)
            rw [hx0, one_smul, zero_add] at this
            rw [this, cn_lam_zero] at hlv; exact absurd rfl hlv
        · have hev : ∀ x ∈ g.sem, evalRow e x = (Red.get e 0 : ℚ) := fun x hx => by
            rw [hs] at hx; exact cn_eval_zdim e x hx
          refine ⟨le_refl _, (by show (0 : Int) < 1; decide), (by show Int.gcd 0 1 = 1; decide),
            (by show (0 : Int) < 1; decide), (by show Int.gcd _ 1 = 1; simp), ⟨0, hz, by rw [hev 0 hz]; simp⟩, ?_, ?_,
            (fun h => absurd rfl h)⟩
          · intro x hx y hy; exact ⟨0, by rw [hev x hx, hev y hy]; simp⟩
          · exact ⟨0, hz, 0, hz, by simp⟩
    · rw [if_neg h0]
      have hpos : 0 < g.spaceDim := by omega
      obtain ⟨p1, p2, p3, p4, p5, p6⟩ := cn_min2_spec' g hI hpos
      by_cases hb : (cn_min2 g).2 = false
      · rw [if_pos hb]
        refine ⟨hnone _ _, p1, p2, p3, fun fr hfr => ?_⟩
        have : fr = { ok := false } := (Option.some.inj hfr).symm
        rw [this]
        have hse : g.sem = ∅ := by rw [← p2]; exact sem_of_empty (p5 hb)
        exact ⟨⟨fun _ => Or.inl hse, fun _ => rfl⟩, (fun h => by cases h)⟩
      · rw [if_neg hb]
        have hbt : (cn_min2 g).2 = true := by simpa using hb
        obtain ⟨q1, q2, q3⟩ := p6 hbt
        obtain ⟨w1, w2, w3, w4, w5⟩ := cn_prep_gens _ p1 q1 (by omega) q2 q3
        obtain ⟨f1, f2⟩ := cn_frequencyNoCheck (cn_min2 g).1 e w1 w2 w4 w5 (by omega)
        have hsem : gn_set (cn_min2 g).1.gen = g.sem := by rw [← w3, p2]
        rw [hsem] at f1 f2
        refine ⟨hnone _ _, p1, p2, p3, fun fr hfr => ?_⟩
        have : fr = frequencyNoCheck (cn_min2 g).1 e := (Option.some.inj hfr).symm
        rw [this]
        refine ⟨⟨fun h => Or.inr (f1.mp h), ?_⟩, f2⟩
        rintro (h | h)
        · exact absurd h (Set.nonempty_iff_ne_empty.mp (p4.mp hbt))
        · exact f1.mpr h

/-- on `{x ≡ 0 (mod 2)}`: the expression `x + 3` has frequency `2` and value `1`; `3x + 1` has frequency `6`, value `1` -/
example : (frequency cn_exGrid' [3, 1]).2 = some { ok := true, fn := 2, fd := 1, vn := 1, vd := 1 } ∧
    (frequency cn_exGrid' [1, 3]).2 = some { ok := true, fn := 6, fd := 1, vn := 1, vd := 1 } := by decide +kernel

end PPLV.Lattice.GO

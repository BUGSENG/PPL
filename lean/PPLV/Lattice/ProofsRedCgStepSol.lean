import PPLV.Lattice.ProofsRedCgTail

/-!
# `Grid::simplify(Congruence_System&)`: every step keeps the solution set (summary)

`Sol rows x ↔ ∀ r ∈ rows, (r.toCg).sem x` (`Sol_iff_toCg`).  Each statement below says that one operation of
the function does not change `{x | Sol rows x}`, under the facts the loop invariant provides at that point.
(`reduce_congruence_with_equality`: `reduceCongruenceWithEquality_sol` in `ProofsRedCgStep.lean`.)
-/
namespace PPLV.Lattice.Red

/-- `normalize_moduli` -/
theorem normalizeModuli_sol (n : Nat) (rows : List CRow) (hwf : CWf n rows) (x : Pt) :
    Sol (normalizeModuli rows) x ↔ Sol rows x :=
  (normalizeModuli_spec n rows (RWf_of_CWf n rows hwf)).2.2.2 x

/-- after `normalize_moduli` all proper congruences have one modulus -/
theorem normalizeModuli_sameMod (n : Nat) (rows : List CRow) (hwf : CWf n rows) :
    ∃ M : Int, 0 < M ∧ ∀ r ∈ normalizeModuli rows, r.m = 0 ∨ r.m = M := by
  obtain ⟨M, hM1, hM2⟩ := (normalizeModuli_spec n rows (RWf_of_CWf n rows hwf)).2.2.1
  refine ⟨M, hM1, ?_⟩
  intro r hr
  obtain ⟨i, hi, rfl⟩ := List.getElem_of_mem hr
  have := hM2 i hi
  rwa [rowAt_eq_getElem _ _ hi] at this

/-- `swap(rows[i], rows[j])` -/
theorem swapRows_sol (rows : List CRow) (i j : Nat) (hi : i < rows.length) (hj : j < rows.length) (x : Pt) :
    Sol (swapRows rows i j) x ↔ Sol rows x := Sol_swapRows rows i j hi hj x

/-- `reduce_equality_with_equality(rows[ri], rows[pi], dim)` on two equalities that vanish after column `dim` -/
theorem reduceEqualityWithEquality_sol (rows : List CRow) (ri pi dim : Nat)
    (hpi : pi < rows.length) (hne : pi ≠ ri)
    (hl : (rowAt rows pi).e.length = (rowAt rows ri).e.length)
    (hrm : (rowAt rows ri).m = 0) (hpm : (rowAt rows pi).m = 0)
    (hrz : ∀ j, dim < j → get (rowAt rows ri).e j = 0) (hpz : ∀ j, dim < j → get (rowAt rows pi).e j = 0)
    (hpc : get (rowAt rows pi).e dim ≠ 0) (x : Pt) :
    Sol (rows.set ri (reduceEqualityWithEquality (rowAt rows ri) (rowAt rows pi) dim)) x ↔ Sol rows x := by
  obtain ⟨hm, hl', a, c, ha, hent, _⟩ :=
    reduceEqualityWithEquality_spec (rowAt rows ri) (rowAt rows pi) dim hl hrz hpz hpc
  apply Sol_set_iff rows ri pi _ x hpi hne
  intro hp
  exact rsem_eq_comb (rowAt rows ri) (rowAt rows pi) _ a c x ha
    (evalRow_lin _ _ _ a c x hl' hl hent) (by rw [hm]; exact hrm) hrm hpm hp

/-- `reduce_pc_with_pc(rows[ri], rows[pi], dim, 0, dim + 1)` on two proper congruences with the same modulus
    that vanish after column `dim` -/
theorem reducePcWithPc_sol (rows : List CRow) (ri pi dim : Nat)
    (hri : ri < rows.length) (hpi : pi < rows.length) (hne : pi ≠ ri)
    (hl : (rowAt rows pi).e.length = (rowAt rows ri).e.length)
    (hmm : (rowAt rows pi).m = (rowAt rows ri).m)
    (hrz : ∀ j, dim < j → get (rowAt rows ri).e j = 0) (hpz : ∀ j, dim < j → get (rowAt rows pi).e j = 0)
    (hpc : get (rowAt rows pi).e dim ≠ 0) (x : Pt) :
    Sol ((rows.set ri (reducePcWithPc (rowAt rows ri) (rowAt rows pi) dim 0 (dim + 1)).1).set pi
      (reducePcWithPc (rowAt rows ri) (rowAt rows pi) dim 0 (dim + 1)).2) x ↔ Sol rows x := by
  obtain ⟨hm1, hm2, hl1, hl2, s, t, c, d, hdet, hpe, hre, _, _⟩ :=
    reducePcWithPc_spec (rowAt rows ri) (rowAt rows pi) dim hl hrz hpz hpc
  apply Sol_set2_iff rows ri pi _ _ x hri hpi hne
  exact rsem_unimodular (rowAt rows ri) (rowAt rows pi) _ _ s t c d x hdet
    (evalRow_lin _ _ _ s t x hl2 hl.symm hpe)
    (evalRow_lin _ _ _ c d x (by rw [hl1, hl]) hl.symm hre)
    hm1 (by rw [hm2, hmm]) hmm

/-- `pivot.expr.negate(0, dim + 1)` on a row that vanishes after column `dim` -/
theorem negPivot_sol (n : Nat) (rows : List CRow) (k dim : Nat) (hk : k < rows.length)
    (hl : (rowAt rows k).e.length = n + 1) (hz : ∀ j, dim < j → get (rowAt rows k).e j = 0)
    (hnz : get (rowAt rows k).e dim ≠ 0) (x : Pt) :
    Sol (negPivot rows k dim) x ↔ Sol rows x :=
  (negPivot_spec n rows k dim hk hl hz hnz).2.2.2.2.2.2 x

/-- `reduce_reduced(rows, dim, k, 0, dim, dim_kinds, false)`: legitimate because `dim_kinds` records the kinds
    of the rows `0..k-1` in order (`KInv`, `KindOK`) and the proper congruences have one modulus -/
theorem reduceReduced_sol (n : Nat) (dk : List Nat) (p : Nat → Nat) (k dim : Nat) (M : Int) (rows : List CRow)
    (hK : KInv dk p k (dim + 1) (n + 1)) (hdk : dk.length = n + 1) (hk : k < rows.length) (hwf : RWf n rows)
    (hkinds : ∀ i, i < k → KindOK (rowAt rows i) (kind dk (p i)))
    (hpk : KindOK (rowAt rows k) (kind dk dim)) (hpz : ∀ j, dim < j → get (rowAt rows k).e j = 0)
    (hmod : SameMod rows M) (x : Pt) :
    Sol (reduceReduced rows dim k 0 dim dk false) x ↔ Sol rows x :=
  (reduceReduced_rel n dk p k dim M rows hK hdk hk hwf hkinds hpk hpz hmod).sol x

/-- `cgs.remove_trailing_rows(num_rows - pivot_index)`: the dropped rows are zero -/
theorem dropZeroRows_sol (rows : List CRow) (k : Nat) (x : Pt)
    (hz : ∀ i, k ≤ i → i < rows.length → ∀ j, get (rowAt rows i).e j = 0) :
    Sol (rows.take k) x ↔ Sol rows x := Sol_take rows k x hz

/-- the tail (integrality congruence, `reduce_reduced` for column 0) -/
theorem simplifyCgsTail_sol {n : Nat} {rows : List CRow} {dk : List Nat} {p : Nat → Nat}
    (h : Inv n rows dk p rows.length 0)
    (h0 : kind dk 0 ≠ CON_VIRTUAL → kind dk 0 = PROPER_CONGRUENCE ∧ ∀ x, rsem (rowAt rows (rows.length - 1)) x)
    (x : Pt) : Sol (simplifyCgsTail n rows dk).1 x ↔ Sol rows x :=
  (simplifyCgsTail_spec h h0).2.2 x

end PPLV.Lattice.Red

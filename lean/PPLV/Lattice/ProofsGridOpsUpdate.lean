import PPLV.Lattice.ProofsGridOpsState
import PPLV.Lattice.ProofsRedCgLoop
import PPLV.Lattice.ProofsRedCgTri
import PPLV.Lattice.ProofsRedCgComplete
import PPLV.Lattice.ProofsRedCgConv
import PPLV.Lattice.ProofsConvCGComplete
import PPLV.Lattice.ProofsConvCGTri
import PPLV.Lattice.ProofsConvCGFinal
import PPLV.Lattice.ProofsRedGenConv

/-!
# The `Grid` object: `update_generators()`, `update_congruences()`

Grid_nonpublic.cc:493, :520.  The `simplify` / `conversion` steps are discharged by the theorems of `ProofsRed*` / `ProofsConv*`; the results are
`UpdateGeneratorsSpec` and `UpdateCongruencesSpec`.
-/
namespace PPLV.Lattice.GO
open PPLV.Lattice PPLV.Lattice.Red

/-! ## `update_generators()` (Grid_nonpublic.cc:520)

The generators are out of date (every call site of the library and of the model tests this; with generators up to
date and congruences flagged minimized the statement is false, see the counterexample in the report).
-/

/-- the conversion of a lower-triangular congruence system: everything `GridInv` wants of the pair -/
theorem lz_conversionCgs_facts (n : Nat) (con : List CRow) (dk : List Nat) (hc : CWf n con)
    (hlt : lowerTriangular n con dk = true) (hdk : dk.length = n + 1) (h0 : kind dk 0 = PROPER_CONGRUENCE)
    (hkm : CgKindsOK n con dk) :
    GWf n (conversionCgsToGens n con dk) ∧
    GNorm n (get (rowAt (conversionCgsToGens n con dk) 0).e 0) (conversionCgsToGens n con dk) ∧
    upperTriangular n (conversionCgsToGens n con dk) dk = true ∧
    consSet n con = gensSet n (conversionCgsToGens n con dk) := by
  obtain ⟨hw, hx⟩ := conversionCgsToGens_correct n con dk hc hlt hdk h0 hkm
  have hn := cgc_gnorm n con dk hlt h0 hkm
  refine ⟨hw, hn, conversionCgsToGens_triangular n con dk hlt h0 hkm.kinds, ?_⟩
  rw [gensSet_eq hn]
  ext x
  exact (hx x).symm

/-- the state `update_generators` leaves when the grid is not empty -/
theorem lz_updateGenerators_post (g : Grid) (con : List CRow) (dk : List Nat) (he : g.st.empty = false)
    (hpos : 0 < g.spaceDim) (hhi : g.st.hi = 0) (hcd : g.conDim = g.spaceDim) (hc : CWf g.spaceDim con)
    (hlt : lowerTriangular g.spaceDim con dk = true) (hdk : dk.length = g.spaceDim + 1)
    (h0 : kind dk 0 = PROPER_CONGRUENCE) (hkm : CgKindsOK g.spaceDim con dk) :
    let g1 : Grid := { g with con := con, dk := dk }
    let r := (({ g1 with genDim := g1.conDim, gen := conversionCgsToGens g1.conDim g1.con g1.dk
                }).setCongruencesMinimized).setGeneratorsMinimized
    GridInv r ∧ r.sem = consSet g.spaceDim con ∧ (consSet g.spaceDim con).Nonempty := by
  intro g1 r
  obtain ⟨hw, hn, hut, hag⟩ := lz_conversionCgs_facts g.spaceDim con dk hc hlt hdk h0 hkm
  have hI : GridInv r := by
    refine inv_of_both r he hpos hhi rfl rfl hcd hc hcd ?_ (D := get (rowAt (conversionCgsToGens g.spaceDim con dk) 0).e 0)
      ?_ ?_ hdk hlt ?_ h0
    · show GWf g.spaceDim (conversionCgsToGens g.conDim con dk); rw [hcd]; exact hw
    · show GNorm g.spaceDim _ (conversionCgsToGens g.conDim con dk); rw [hcd]; exact hn
    · show consSet g.spaceDim con = gensSet g.spaceDim (conversionCgsToGens g.conDim con dk); rw [hcd]; exact hag
    · show upperTriangular g.spaceDim (conversionCgsToGens g.conDim con dk) dk = true; rw [hcd]; exact hut
  refine ⟨hI, ?_, ?_⟩
  · rw [sem_of_cUp hI he hpos rfl]; rfl
  · rw [hag]; exact gensSet_nonempty hn

/-- **`update_generators()`** under its precondition (congruences up to date, generators not) -/
theorem updateGenerators_spec' (g : Grid) (hI : GridInv g) (he : g.st.empty = false) (hpos : 0 < g.spaceDim)
    (hc : g.st.cUp = true) (hg : g.st.gUp = false) :
    GridInv (updateGenerators g).1 ∧ (updateGenerators g).1.sem = g.sem ∧
    (updateGenerators g).1.spaceDim = g.spaceDim ∧ ((updateGenerators g).2 = true ↔ (g.sem).Nonempty) ∧
    ((updateGenerators g).2 = true → (updateGenerators g).1.st.empty = false ∧ (updateGenerators g).1.st.gUp = true ∧
      (updateGenerators g).1.st.gMin = true ∧ (updateGenerators g).1.st.cUp = true ∧
      (updateGenerators g).1.st.cMin = true) ∧
    ((updateGenerators g).2 = false → (updateGenerators g).1.st.empty = true) := by
  obtain ⟨hcd, hcwf⟩ := hI.cwf he hpos hc
  have hsem : g.sem = consSet g.spaceDim g.con := sem_of_not_gUp he hpos hg
  have hhi := hI.hi0 he
  cases hcm : g.st.cMin
  · -- `simplify(con_sys, dim_kinds)` first
    cases hf : (simplifyCgs g.conDim g.con g.dk).2.2
    · -- consistent
      have hf' : (simplifyCgs g.spaceDim g.con g.dk).2.2 = false := by rw [← hcd]; exact hf
      have hfin := simplifyCgs_triangular g.spaceDim g.con g.dk hcwf hf'
      obtain ⟨hkm, hk0, hdk, hlt⟩ := final_cgKindsOK _ _ _ hfin
      have hpres := (simplifyCgs_preserves g.spaceDim g.con g.dk hcwf).1 hf'
      obtain ⟨h1, h2, h3⟩ := lz_updateGenerators_post g _ _ he hpos hhi hcd (cgc_final_cwf hfin) hlt hdk hk0 hkm
      have hcs : consSet g.spaceDim (simplifyCgs g.spaceDim g.con g.dk).1 = consSet g.spaceDim g.con := by
        ext x; exact hpres x
      have hU : updateGenerators g =
          ((({ ({ g with con := (simplifyCgs g.spaceDim g.con g.dk).1, dk := (simplifyCgs g.spaceDim g.con g.dk).2.1 } : Grid) with
              genDim := g.conDim,
              gen := conversionCgsToGens g.conDim (simplifyCgs g.spaceDim g.con g.dk).1
                (simplifyCgs g.spaceDim g.con g.dk).2.1 }).setCongruencesMinimized).setGeneratorsMinimized, true) := by
        simp only [updateGenerators, Grid.congruencesAreMinimized, hcm, simplifyConSys, hf]
        simp [hcd]
      rw [hU]
      refine ⟨h1, ?_, rfl, ?_, fun _ => ⟨he, rfl, rfl, rfl, rfl⟩, fun h => by simp at h⟩
      · rw [h2, hcs, hsem]
      · rw [hsem, ← hcs]; simp [h3]
    · -- inconsistent
      have hf' : (simplifyCgs g.spaceDim g.con g.dk).2.2 = true := by rw [← hcd]; exact hf
      have hno := (simplifyCgs_preserves g.spaceDim g.con g.dk hcwf).2 hf'
      have hemp : g.sem = ∅ := by
        rw [hsem]; ext x; simp only [consSet, Set.mem_ofPred_eq, Set.mem_empty_iff_false, iff_false]; exact hno x
      have hU : updateGenerators g = (setEmpty (simplifyConSys g).1, false) := by
        simp only [updateGenerators, Grid.congruencesAreMinimized, hcm, simplifyConSys, hf]
        simp
      rw [hU]
      refine ⟨setEmpty_inv _, ?_, rfl, ?_, fun h => by simp at h, fun _ => rfl⟩
      · rw [setEmpty_sem, hemp]
      · rw [hemp]; simp
  · -- already minimized: conversion only
    obtain ⟨hdk, hlt, hk0⟩ := hI.cmin he hpos hcm
    have hkm := hI.cminConv he hpos hcm hg
    obtain ⟨h1, h2, h3⟩ := lz_updateGenerators_post g g.con g.dk he hpos hhi hcd hcwf hlt hdk hk0 hkm
    have hU : updateGenerators g =
        ((({ ({ g with con := g.con, dk := g.dk } : Grid) with
            genDim := g.conDim, gen := conversionCgsToGens g.conDim g.con g.dk }).setCongruencesMinimized).setGeneratorsMinimized,
          true) := by
      simp only [updateGenerators, Grid.congruencesAreMinimized, hcm]
      simp
    rw [hU]
    refine ⟨h1, ?_, rfl, ?_, fun _ => ⟨he, rfl, rfl, rfl, rfl⟩, fun h => by simp at h⟩
    · rw [h2, hsem]
    · rw [hsem]; simp [h3]

theorem updateGenerators_spec : UpdateGeneratorsSpec := fun g hI he hpos hc hg =>
  updateGenerators_spec' g hI he hpos hc hg

/-- the hypotheses are satisfiable: `x ≡ 1 (mod 2)` given by congruences only; the point `1`, the parameter `2` -/
example :
    let g : Grid := Grid.mk 1 { cUp := true } 1 [⟨[-1, 1], 2⟩] 1 [] []
    invB g = true ∧ (updateGenerators g).1.gen = [⟨false, [1, 1, 0]⟩, ⟨false, [0, 2, 1]⟩] ∧
      (updateGenerators g).2 = true := by decide +kernel

/-- the counterexample to the statement without "generators out of date": `2ℤ` with congruences
    `x ≡ 0 (mod 2)`, `1 ≡ 0 (mod 1)` flagged minimized (lower triangular, but the moduli differ), generators up to
    date; the conversion runs without `simplify` and answers `ℤ` -/
example :
    let g : Grid := Grid.mk 1 { cUp := true, cMin := true, gUp := true } 1 [⟨[0, 1], 2⟩, ⟨[1, 0], 1⟩] 1
      [⟨false, [1, 0, 0]⟩, ⟨false, [0, 2, 1]⟩] [0, 0]
    invB g = true ∧ (updateGenerators g).1.gen = [⟨false, [1, 0, 0]⟩, ⟨false, [0, 1, 1]⟩] := by decide +kernel

/-! ## `update_congruences()` (Grid_nonpublic.cc:493)

The congruences are out of date (every call site tests this; with congruences up to date and generators flagged
minimized the statement is false, see the counterexample at the end).
-/

theorem lz_normalised_of_gnorm {n : Nat} {D : Int} {rows : List GRow} (h : GNorm n D rows) : Normalised n D rows :=
  ⟨h.pos, h.col0, h.pt, h.par, h.lin⟩

theorem lz_gnorm_of_normalised {n : Nat} {D : Int} {rows : List GRow} (h : Normalised n D rows) : GNorm n D rows :=
  ⟨h.Dpos, h.pt, h.pc, h.par, h.ln⟩

theorem lz_homog_mul (k D : Int) (x : Pt) : homog ((k * D : Int) : ℚ) x = (k : ℚ) • homog (D : ℚ) x := by
  funext i
  cases i with
  | zero => simp [homog]
  | succ i => simp [homog]; ring

/-- `simplify(gen_sys, dim_kinds)` on a normalised system: the grid is kept, the output is normalised, triangular
    and carries what the conversion needs -/
theorem lz_simplifyGens_facts {n : Nat} {D : Int} {rows : List GRow} (dk : List Nat) (hwf : GWf n rows)
    (hN : GNorm n D rows) :
    gensSet n (simplifyGens n rows dk).1 = gensSet n rows ∧
    (∃ D', GNorm n D' (simplifyGens n rows dk).1) ∧ GWf n (simplifyGens n rows dk).1 ∧
    upperTriangular n (simplifyGens n rows dk).1 (simplifyGens n rows dk).2 = true ∧
    (simplifyGens n rows dk).2.length = n + 1 ∧ kind (simplifyGens n rows dk).2 0 = PARAMETER ∧
    ConvG n (simplifyGens n rows dk).1 (simplifyGens n rows dk).2 := by
  obtain ⟨k, hk, hN', hH⟩ := simplifyGens_normalised dk hwf (lz_normalised_of_gnorm hN)
  have hN'' := lz_gnorm_of_normalised hN'
  refine ⟨?_, ⟨_, hN''⟩, simplifyGens_wf n rows dk hwf, simplifyGens_triangular n rows dk hwf,
    simplifyGens_dk_length n rows dk hwf, (simplifyGens_kind0 dk hwf (lz_normalised_of_gnorm hN)).1,
    tri_agree (simplifyGens_tri n rows dk hwf)⟩
  rw [gensSet_eq hN'', gensSet_eq hN]
  ext x
  simp only [Set.mem_ofPred_eq]
  rw [lz_homog_mul, hH]

/-- row 0 of an upper-triangular normalised system is the point: its inhomogeneous term is the divisor -/
theorem lz_row0_div {n : Nat} {D : Int} {gen : List GRow} {dk : List Nat} (hN : GNorm n D gen)
    (hut : upperTriangular n gen dk = true) (hdk : dk.length = n + 1) (h0 : kind dk 0 = PARAMETER)
    (hk : KindsOK n dk) (hla : LinesAgree n gen dk) : get (rowAt gen 0).e 0 = D := by
  have hp := (conversionGensToCgs_certP n gen dk hut hdk h0 hk hla).1
  obtain ⟨r, hr, _, _⟩ := hN.pt
  have hlen : 0 < gen.length := List.length_pos_of_mem hr
  have hm := rowAt_mem gen 0 hlen
  cases hl : (rowAt gen 0).line
  · rcases hN.col0 _ hm hl with h | h
    · omega
    · exact h
  · have := hN.lin _ hm hl; omega

/-- the rows `Grid::conversion` produces from generators have the right size and non-negative moduli -/
theorem lz_conversionGens_cwf (n : Nat) (source : List GRow) (dk : List Nat)
    (hut : upperTriangular n source dk = true) (hdk : dk.length = n + 1) (h0 : kind dk 0 = PARAMETER)
    (hk : KindsOK n dk) : CWf n (conversionGensToCgs n source dk) := by
  have hs := upperTriangular_spec n source dk hut
  obtain ⟨M, L, hM, _, hfin0⟩ := gcSetModulus_final n source dk hs hk h0
  have hfin := gcReduce_final source dk (n + 1) hdk M L _ hfin0
  rw [← conversionGensToCgs_eq] at hfin
  intro c hc
  obtain ⟨i, hi, rfl⟩ := (gc_mem_iff_rowAt _ _).mp hc
  rw [hfin.len] at hi
  obtain ⟨q, hq, hql, rfl⟩ := pos_surj dk (n + 1) i hi
  have R := hfin.rows q hq hql
  refine ⟨R.len, ?_⟩
  cases hv : nvB dk q
  · rw [R.mv hv]
  · rw [R.mp hv]; omega

/-- the state `update_congruences` leaves -/
theorem lz_updateCongruences_post (g : Grid) (gen : List GRow) (dk : List Nat) (he : g.st.empty = false)
    (hpos : 0 < g.spaceDim) (hhi : g.st.hi = 0) (hgd : g.genDim = g.spaceDim) (hw : GWf g.spaceDim gen)
    {D : Int} (hN : GNorm g.spaceDim D gen)
    (hut : upperTriangular g.spaceDim gen dk = true) (hdk : dk.length = g.spaceDim + 1)
    (h0 : kind dk 0 = PARAMETER) (hcv : ConvG g.spaceDim gen dk) :
    let g1 : Grid := { g with gen := gen, dk := dk }
    let r := (({ g1 with conDim := g1.genDim, con := conversionGensToCgs g1.genDim g1.gen g1.dk
                }).setCongruencesMinimized).setGeneratorsMinimized
    GridInv r ∧ r.sem = gensSet g.spaceDim gen := by
  intro g1 r
  obtain ⟨hk, hla, hpa⟩ := hcv
  have hI : GridInv r := by
    refine inv_of_both r he hpos hhi rfl rfl hgd ?_ hgd hw hN ?_ hdk ?_ hut h0
    · show CWf g.spaceDim (conversionGensToCgs g.genDim gen dk); rw [hgd]
      exact lz_conversionGens_cwf _ _ _ hut hdk h0 hk
    · show consSet g.spaceDim (conversionGensToCgs g.genDim gen dk) = gensSet g.spaceDim gen
      rw [hgd, gensSet_eq hN]
      ext x
      simp only [consSet, Set.mem_ofPred_eq]
      rw [conversionGensToCgs_exact _ _ _ hw hut hdk h0 hk hla hpa x, lz_row0_div hN hut hdk h0 hk hla]
    · show lowerTriangular g.spaceDim (conversionGensToCgs g.genDim gen dk) dk = true; rw [hgd]
      exact conversionGensToCgs_triangular _ _ _ hut hdk h0 hk
  exact ⟨hI, sem_of_gUp he hpos rfl⟩

/-- **`update_congruences()`** under its precondition (generators up to date, congruences not) -/
theorem updateCongruences_spec' (g : Grid) (hI : GridInv g) (he : g.st.empty = false) (hpos : 0 < g.spaceDim)
    (hg : g.st.gUp = true) (hc : g.st.cUp = false) :
    GridInv (updateCongruences g) ∧ (updateCongruences g).sem = g.sem ∧
    (updateCongruences g).spaceDim = g.spaceDim ∧ (updateCongruences g).st.empty = false ∧
    (updateCongruences g).st.gUp = true ∧ (updateCongruences g).st.gMin = true ∧
    (updateCongruences g).st.cUp = true ∧ (updateCongruences g).st.cMin = true := by
  obtain ⟨hgd, hgwf, hgn⟩ := hI.gwf he hpos hg
  have hsem : g.sem = gensSet g.spaceDim g.gen := sem_of_gUp he hpos hg
  have hhi := hI.hi0 he
  cases hgm : g.st.gMin
  · -- `simplify(gen_sys, dim_kinds)` first
    obtain ⟨hs, ⟨D', hN'⟩, hw', hut, hdk, hk0, hcv⟩ := lz_simplifyGens_facts g.dk hgwf hgn
    obtain ⟨h1, h2⟩ := lz_updateCongruences_post g _ _ he hpos hhi hgd hw' hN' hut hdk hk0 hcv
    have hU : updateCongruences g =
        (({ ({ g with gen := (simplifyGens g.spaceDim g.gen g.dk).1, dk := (simplifyGens g.spaceDim g.gen g.dk).2 } : Grid) with
            conDim := g.genDim,
            con := conversionGensToCgs g.genDim (simplifyGens g.spaceDim g.gen g.dk).1
              (simplifyGens g.spaceDim g.gen g.dk).2 }).setCongruencesMinimized).setGeneratorsMinimized := by
      simp only [updateCongruences, Grid.generatorsAreMinimized, hgm, simplifyGenSys]
      simp [hgd]
    rw [hU]
    refine ⟨h1, ?_, rfl, he, rfl, rfl, rfl, rfl⟩
    rw [h2, hs, hsem]
  · -- already minimized: conversion only
    obtain ⟨hdk, hut, hk0⟩ := hI.gmin he hpos hgm
    have hcv := hI.gminConv he hpos hgm hc
    obtain ⟨h1, h2⟩ := lz_updateCongruences_post g g.gen g.dk he hpos hhi hgd hgwf hgn hut hdk hk0 hcv
    have hU : updateCongruences g =
        (({ ({ g with gen := g.gen, dk := g.dk } : Grid) with
            conDim := g.genDim, con := conversionGensToCgs g.genDim g.gen g.dk }).setCongruencesMinimized).setGeneratorsMinimized := by
      simp only [updateCongruences, Grid.generatorsAreMinimized, hgm]
      simp
    rw [hU]
    refine ⟨h1, ?_, rfl, he, rfl, rfl, rfl, rfl⟩
    rw [h2, hsem]

theorem updateCongruences_spec : UpdateCongruencesSpec := fun g hI he hpos hg hc =>
  updateCongruences_spec' g hI he hpos hg hc

/-- the counterexample to the statement without "congruences out of date": the whole line (point `0`, line `x`)
    flagged minimized with `dim_kinds = [PARAMETER, PARAMETER]` (`upper_triangular` does not look at the line flags),
    congruences `1 ≡ 0 (mod 1)` up to date; the conversion treats the line as a parameter and answers `ℤ` -/
example :
    let g : Grid := Grid.mk 1 { cUp := true, gUp := true, gMin := true } 1 [⟨[1, 0], 1⟩] 1
      [⟨false, [1, 0, 0]⟩, ⟨true, [0, 1, 0]⟩] [0, 0]
    invB g = true ∧ (updateCongruences g).con = [⟨[0, 1], 1⟩, ⟨[1, 0], 1⟩] := by decide +kernel

/-- the hypotheses are satisfiable: the point `1/2` and the parameter `3/2`, generators only -/
example :
    let g : Grid := Grid.mk 1 { gUp := true } 1 [] 1 [⟨false, [2, 1, 0]⟩, ⟨false, [0, 3, 2]⟩] []
    invB g = true ∧ (updateCongruences g).con = [⟨[-1, 2], 3⟩, ⟨[3, 0], 3⟩] := by decide +kernel

end PPLV.Lattice.GO

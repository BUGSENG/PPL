import PPLV.Lattice.ProofsConvGCMain

/-!
# The result of `Grid::conversion` (generators → congruences) is lower triangular
(`PPL_ASSERT(lower_triangular(dest, dim_kinds))`, Grid_conversion.cc:313, and after the final reduction)
-/
namespace PPLV.Lattice.Red

def gcLtStep (n : Nat) (sys : List CRow) (dk : List Nat) (st : Nat × Bool) (dim : Nat) : Nat × Bool :=
  if !st.2 then st
  else if kind dk dim = CON_VIRTUAL then st
  else
    let cg := rowAt sys st.1
    if get cg.e dim ≤ 0 then (st.1 + 1, false)
    else if !allZeroes cg.e (dim + 1) (n + 1) then (st.1 + 1, false)
    else (st.1 + 1, true)

theorem gc_lowerTriangular_eq (n : Nat) (sys : List CRow) (dk : List Nat) :
    lowerTriangular n sys dk =
      (if sys.length > n + 1 then false
       else
        let r := (dimsDown (n + 1)).foldl (gcLtStep n sys dk) (0, true)
        r.2 && r.1 == sys.length) := rfl

theorem cntBelow_le (P : Nat → Bool) (d : Nat) : cntBelow P d ≤ d := by
  induction d with
  | zero => simp [cntBelow]
  | succ d ih => simp only [cntBelow]; split <;> omega

/-- final rows are lower triangular -/
theorem lowerTriangular_of_final (n : Nat) (source : List GRow) (dk : List Nat) (M L : Int) (T : List CRow)
    (hT : FinalOK source dk (n + 1) M L T) : lowerTriangular n T dk = true := by
  rw [gc_lowerTriangular_eq]
  have hle : ¬ T.length > n + 1 := by
    rw [hT.len]; have := cntBelow_le (nlB dk) (n + 1); simp only [nl]; omega
  rw [if_neg hle]
  have key := foldl_dimsDown_inv (gcLtStep n T dk)
    (fun d st => st.2 = true ∧ st.1 = nl dk (n + 1) - nl dk d) (n + 1) (0, true) ⟨rfl, by simp⟩ ?_
  · obtain ⟨k1, k2⟩ := key
    simp only [k1, k2, hT.len, Bool.true_and, beq_iff_eq]
    simp [nl, cntBelow]
  · rintro d st hd ⟨h1, h2⟩
    unfold gcLtStep
    simp only [h1, Bool.not_true, Bool.false_eq_true, if_false]
    by_cases hl : kind dk d = CON_VIRTUAL
    · have hlb : nlB dk d = false := by simp [nlB, hl, CON_VIRTUAL, LINE]
      rw [if_pos hl]
      exact ⟨h1, h2.trans (cntBelow_sub_neg _ d (n + 1) hlb).symm⟩
    · have hlb : nlB dk d = true := by simpa [nlB, CON_VIRTUAL, LINE] using hl
      rw [if_neg hl]
      have hpos : st.1 = pos dk (n + 1) d := by rw [h2]; rfl
      have R := hT.rows d hd hlb
      rw [← hpos] at R
      have hdiag : ¬ get (rowAt T st.1).e d ≤ 0 := by have := R.diag; omega
      have hz : allZeroes (rowAt T st.1).e (d + 1) (n + 1) = true :=
        (allZeroes_iff _ _ _).mpr (fun i h1 _ => R.tri i (by omega))
      simp only [hdiag, if_false, hz, Bool.not_true, Bool.false_eq_true]
      exact ⟨trivial, by rw [h2]; exact (cntBelow_sub_pos _ hd hlb).symm⟩

/-- **The result of the conversion is in lower triangular form** w.r.t. the same `dim_kinds`. -/
theorem conversionGensToCgs_triangular (n : Nat) (source : List GRow) (dk : List Nat)
    (hut : upperTriangular n source dk = true) (hdk : dk.length = n + 1) (h0 : kind dk 0 = PARAMETER)
    (hk : KindsOK n dk) : lowerTriangular n (conversionGensToCgs n source dk) dk = true := by
  have hs := upperTriangular_spec n source dk hut
  obtain ⟨M, L, _, _, hfin0⟩ := gcSetModulus_final n source dk hs hk h0
  have hfin := gcReduce_final source dk (n + 1) hdk M L _ hfin0
  rw [← conversionGensToCgs_eq] at hfin
  exact lowerTriangular_of_final n source dk M L _ hfin

/-- also before the final reduction (the assertion at Grid_conversion.cc:313) -/
theorem gcSetModulus_triangular (n : Nat) (source : List GRow) (dk : List Nat)
    (hut : upperTriangular n source dk = true) (h0 : kind dk 0 = PARAMETER) (hk : KindsOK n dk) :
    lowerTriangular n (gcSetModulus (gcLoop n source dk).dest (gcCount source dk (n + 1)).2.1) dk = true := by
  have hs := upperTriangular_spec n source dk hut
  obtain ⟨M, L, _, _, hfin0⟩ := gcSetModulus_final n source dk hs hk h0
  exact lowerTriangular_of_final n source dk M L _ hfin0

/-- satisfiable hypotheses -/
example :
    let source : List GRow := [{ line := false, e := [2, 1, 0] }, { line := false, e := [0, 3, 2] }]
    let dk : List Nat := [PARAMETER, PARAMETER]
    upperTriangular 1 source dk = true ∧ dk.length = 1 + 1 ∧ kind dk 0 = PARAMETER ∧ KindsOK 1 dk ∧
      lowerTriangular 1 (conversionGensToCgs 1 source dk) dk = true := by
  refine ⟨by decide, rfl, rfl, ?_, by decide⟩
  intro d hd
  have : d = 0 ∨ d = 1 := by omega
  rcases this with rfl | rfl <;> decide

end PPLV.Lattice.Red

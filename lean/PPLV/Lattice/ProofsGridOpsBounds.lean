import PPLV.Lattice.ProofsGridOpsUnconstrain
import PPLV.Lattice.ProofsGridOpsUpdate
import PPLV.Lattice.ProofsGridOpsLazy
import Mathlib.Algebra.BigOperators.Group.Finset.Basic
import Mathlib.Algebra.BigOperators.Ring.Finset

/-!
# The `Grid` object: `bounds`, `max_min`

The scalar products of the expression with the rows of a minimized generator system (Grid_nonpublic.cc:288, :423) decide whether
it is constant on the grid.
-/
namespace PPLV.Lattice.GO
open PPLV.Lattice PPLV.Lattice.Red

/-! ## Linear expressions on generator systems — `Scalar_Products::homogeneous_assign` (`spHom`) is the divisor times the homogeneous part of the expression at the vector of the row; a minimized generator system is one point followed by parameters and lines; `bounds_no_check` (Grid_nonpublic.cc:309) decides whether the expression is constant on the grid -/

/-- the homogeneous part of a linear expression as a functional -/
def cn_lam (e : LinExpr) (v : Pt) : ℚ := dotF (ratRow e).tail v

theorem cn_evalRow_lam (e : LinExpr) (x : Pt) : evalRow e x = cn_lam e x + (Red.get e 0 : ℚ) := evalRow_eq e x

theorem cn_lam_add (e : LinExpr) (v w : Pt) : cn_lam e (v + w) = cn_lam e v + cn_lam e w := dotF_add _ _ _
theorem cn_lam_smul (e : LinExpr) (c : ℚ) (v : Pt) : cn_lam e (c • v) = c * cn_lam e v := dotF_smul _ _ _
theorem cn_lam_zero (e : LinExpr) : cn_lam e 0 = 0 := by
  have := cn_lam_smul e 0 0; simpa using this
theorem cn_lam_sub (e : LinExpr) (v w : Pt) : cn_lam e (v - w) = cn_lam e v - cn_lam e w := by
  have h1 : v - w = v + (-1 : ℚ) • w := by module
  rw [h1, cn_lam_add, cn_lam_smul]; ring

theorem cn_ratRow_tail (e : Row) : (ratRow e).tail = ratRow e.tail := by
  unfold ratRow; rw [List.map_tail]

theorem cn_get_tail (e : Row) (k : Nat) : Red.get e.tail k = Red.get e (k + 1) := by
  cases e with
  | nil => simp [Red.get]
  | cons a t => rfl

theorem cn_lam_sum (e : LinExpr) (v : Pt) :
    cn_lam e v = ∑ k ∈ Finset.range (e.length - 1), (Red.get e (k + 1) : ℚ) * v k := by
  unfold cn_lam
  rw [cn_ratRow_tail, dotF_ratRow, List.length_tail]
  exact Finset.sum_congr rfl (fun k _ => by rw [cn_get_tail])

theorem cn_foldl_add_eq (l : List Int) (a : Int) : l.foldl (· + ·) a = a + l.sum := by
  induction l generalizing a with
  | nil => simp
  | cons b l ih => rw [List.foldl_cons, ih, List.sum_cons]; ring

theorem cn_spHom_cast (e y : Row) :
    ((spHom e y : Int) : ℚ) = ∑ k ∈ Finset.range (e.length - 1), (Red.get e (k + 1) : ℚ) * (Red.get y (k + 1) : ℚ) := by
  unfold spHom
  rw [cn_foldl_add_eq, zero_add, List.range'_eq_map_range, List.map_map]
  generalize e.length - 1 = m
  induction m with
  | zero => simp
  | succ m ih =>
    rw [List.range_succ, List.map_append, List.sum_append, Finset.sum_range_succ]
    push_cast at ih ⊢
    rw [ih]
    simp [Function.comp, Nat.add_comm]

/-- the denominator `gn_vecOf` divides by -/
def cn_den (r : GRow) : Int := if r.line then 1 else r.divisor

/-- `spHom e r.e = cn_den r · λ_e(vector of r)` -/
theorem cn_spHom_vecOf (e : LinExpr) (r : GRow) (n : Nat) (hlen : r.e.length = n + 2) (he : e.length ≤ n + 1)
    (hd : cn_den r ≠ 0) : ((spHom e r.e : Int) : ℚ) = (cn_den r : ℚ) * cn_lam e (gn_vecOf r) := by
  rw [cn_spHom_cast, cn_lam_sum, Finset.mul_sum]
  apply Finset.sum_congr rfl
  intro k hk
  have hk' : k < n := by have := Finset.mem_range.mp hk; omega
  have hd' : (cn_den r : ℚ) ≠ 0 := by exact_mod_cast hd
  unfold gn_vecOf
  rw [gn_spaceDim_of_len hlen, if_pos hk']
  unfold cn_den at hd' ⊢
  split
  · simp
  · rename_i hl
    have hd2 : (r.divisor : ℚ) ≠ 0 := by simpa [hl] using hd'
    field_simp

/-! ### a minimized generator system: one point, then parameters and lines -/

theorem cn_min_shape {n : Nat} {D : Int} {gen : List GRow} {dk : List Nat} (hN : GNorm n D gen)
    (hut : upperTriangular n gen dk = true) (h0 : kind dk 0 = PARAMETER) :
    ∃ p rest, gen = p :: rest ∧ p.line = false ∧ Red.get p.e 0 = D ∧ ∀ r ∈ rest, Red.get r.e 0 = 0 := by
  have hs := upperTriangular_spec n gen dk hut
  have hnv0 : nvB dk 0 = true := by rw [nvB_iff, h0]; decide
  have hz : nv dk 0 = 0 := rfl
  have hd0 := hs.diag 0 (by omega) hnv0
  rw [hz] at hd0
  obtain ⟨r0, hr0, _, _⟩ := hN.pt
  cases hg : gen with
  | nil => rw [hg] at hr0; cases hr0
  | cons p rest =>
    have hp : rowAt gen 0 = p := by rw [hg]; rfl
    have hpm : p ∈ gen := by rw [hg]; exact List.mem_cons_self ..
    unfold sEnt at hd0
    rw [hp] at hd0
    have hpl : p.line = false := by
      by_contra h
      have := hN.lin p hpm (by simpa using h)
      omega
    refine ⟨p, rest, rfl, hpl, ?_, ?_⟩
    · rcases hN.col0 p hpm hpl with h | h
      · omega
      · exact h
    · intro r hr
      obtain ⟨i, hi, hri⟩ := List.getElem_of_mem hr
      have hlen : i + 1 < gen.length := by rw [hg]; simpa using hi
      have hrow : rowAt gen (i + 1) = r := by
        rw [rowAt_eq_getElem _ _ hlen]; simp only [hg, List.getElem_cons_succ]; exact hri
      have hl := hs.len
      obtain ⟨q, hq, hqv, hqi⟩ := cntBelow_surj (nvB dk) (n + 1) (i + 1) (by unfold nv at hl; omega)
      have hq0 : q ≠ 0 := by
        intro h; subst h; simp [cntBelow] at hqi
      have := hs.zeros q hq hqv 0 (by omega)
      unfold sEnt nv at this
      rw [hqi, hrow] at this
      exact this

/-! ### `bounds_no_check` -/

theorem cn_boundsNoCheck_iff (g : Grid) (e : LinExpr) :
    boundsNoCheck g e = true ↔ ∀ r ∈ g.gen, Red.get r.e 0 = 0 → spHom e r.e = 0 := by
  unfold boundsNoCheck
  rw [List.all_reverse, List.all_eq_true]
  constructor
  · intro h r hr h0
    have := h r hr
    simp only [GRow.isLineOrParameter, h0, beq_self_eq_true, Bool.true_and, Bool.not_eq_true', decide_eq_false_iff_not,
      ne_eq, not_not] at this
    exact this
  · intro h r hr
    by_cases h0 : Red.get r.e 0 = 0
    · simp [GRow.isLineOrParameter, h0, h r hr h0]
    · simp [GRow.isLineOrParameter, h0]

/-- the expression is constant on `S` -/
def cn_Const (e : LinExpr) (S : Set Pt) : Prop := ∀ x ∈ S, ∀ y ∈ S, evalRow e x = evalRow e y

theorem cn_den_pos {n : Nat} {D : Int} {rows : List GRow} (hN : GNorm n D rows) (hw : GWf n rows) (r : GRow) (hr : r ∈ rows) :
    0 < cn_den r := by
  unfold cn_den
  by_cases hl : r.line = true
  · rw [if_pos hl]; decide
  · rw [if_neg hl]
    rw [gn_divisor_of_gnorm_aux hN hw hr (by simpa using hl)]; exact hN.pos
where
  gn_divisor_of_gnorm_aux {n : Nat} {D : Int} {rows : List GRow} (hN : GNorm n D rows) (hw : GWf n rows) {r : GRow}
      (hr : r ∈ rows) (hl : r.line = false) : r.divisor = D := by
    rcases hN.col0 r hr hl with h | h
    · rw [divisor_param n r (hw r hr) h]; exact hN.par r hr hl h
    · rw [divisor_point r (by rw [h]; exact ne_of_gt hN.pos)]; exact h

/-- on a system "one point, then parameters and lines": the expression is constant on the grid iff it vanishes on every
    parameter and line -/
theorem cn_const_iff {n : Nat} {D : Int} {p : GRow} {rest : List GRow} (e : LinExpr) (hN : GNorm n D (p :: rest))
    (hw : GWf n (p :: rest)) (hp : p.line = false) (hpD : Red.get p.e 0 = D) (hrest : ∀ r ∈ rest, Red.get r.e 0 = 0) :
    cn_Const e (gn_set (p :: rest)) ↔ ∀ r ∈ rest, cn_lam e (gn_vecOf r) = 0 := by
  have hpt : gn_isPt p = true := (gn_isPt_iff p).mpr ⟨hp, by rw [hpD]; exact ne_of_gt hN.pos⟩
  have hpm : gn_Mem (p :: rest) (gn_vecOf p) := gn_mem_pt (List.mem_cons_self ..) hpt
  have honly : ∀ r ∈ p :: rest, gn_isPt r = true → r = p := by
    intro r hr hrp
    rcases List.mem_cons.mp hr with h | h
    · exact h
    · exact absurd (hrest r h) ((gn_isPt_iff r).mp hrp).2
  constructor
  · intro hc r hr
    have hrm : r ∈ p :: rest := List.mem_cons_of_mem _ hr
    have hx : gn_Mem (p :: rest) (gn_vecOf p + gn_vecOf r) := by
      by_cases hl : r.line = true
      · have := gn_dir_line hrm hl 1; rw [one_smul] at this; exact gn_mem_add_dir hpm this
      · exact gn_mem_add_dir hpm (gn_dir_par hrm ((gn_isPar_iff r).mpr ⟨by simpa using hl, hrest r hr⟩))
    have := hc _ hx _ hpm
    rw [cn_evalRow_lam, cn_evalRow_lam, cn_lam_add] at this
    linarith
  · intro h x hx y hy
    have hdir : ∀ v, gn_Dir (p :: rest) v → cn_lam e v = 0 := by
      intro v hv
      refine gn_dir_le (S := fun v => cn_lam e v = 0) (cn_lam_zero e) ?_ ?_ ?_ ?_ ?_ hv
      · intro v w h1 h2; rw [cn_lam_add, h1, h2, add_zero]
      · intro k v h1; rw [cn_lam_smul, h1, mul_zero]
      · intro r1 m1 p1 r2 m2 p2; rw [honly r1 m1 p1, honly r2 m2 p2, sub_self, cn_lam_zero]
      · intro r m pr
        rcases List.mem_cons.mp m with hh | hh
        · subst hh; rw [(gn_isPar_iff _).mp pr |>.2] at hpD; exact absurd hpD.symm (ne_of_gt hN.pos)
        · exact h r hh
      · intro r m hl c
        rcases List.mem_cons.mp m with hh | hh
        · subst hh; rw [hp] at hl; cases hl
        · rw [cn_lam_smul, h r hh, mul_zero]
    have := hdir _ (gn_mem_sub hx hy)
    rw [cn_lam_sub] at this
    rw [cn_evalRow_lam, cn_evalRow_lam]; linarith

/-- `bounds_no_check` on a minimized generator system decides constancy -/
theorem cn_boundsNoCheck_const (g : Grid) (e : LinExpr) {D : Int} {dk : List Nat} (hw : GWf g.spaceDim g.gen)
    (hN : GNorm g.spaceDim D g.gen) (hut : upperTriangular g.spaceDim g.gen dk = true) (h0 : kind dk 0 = PARAMETER)
    (he : e.spaceDim ≤ g.spaceDim) : boundsNoCheck g e = true ↔ cn_Const e (gn_set g.gen) := by
  obtain ⟨p, rest, hg, hp, hpD, hrest⟩ := cn_min_shape hN hut h0
  rw [cn_boundsNoCheck_iff, hg]
  rw [hg] at hw hN
  rw [cn_const_iff e hN hw hp hpD hrest]
  have hel : e.length ≤ g.spaceDim + 1 := by unfold LinExpr.spaceDim at he; omega
  have key : ∀ r ∈ p :: rest, (spHom e r.e = 0 ↔ cn_lam e (gn_vecOf r) = 0) := by
    intro r hr
    have hd := cn_den_pos hN hw r hr
    have := cn_spHom_vecOf e r g.spaceDim (hw r hr) hel (ne_of_gt hd)
    constructor
    · intro hs
      rw [hs] at this
      have hd' : (cn_den r : ℚ) ≠ 0 := by exact_mod_cast (ne_of_gt hd)
      exact (mul_eq_zero.mp this.symm).resolve_left hd'
    · intro hl
      rw [hl, mul_zero] at this
      exact_mod_cast this
  constructor
  · intro h r hr
    exact (key r (List.mem_cons_of_mem _ hr)).mp (h r (List.mem_cons_of_mem _ hr) (hrest r hr))
  · intro h r hr h0'
    rcases List.mem_cons.mp hr with hh | hh
    · subst hh; rw [hpD] at h0'; exact absurd h0' (ne_of_gt hN.pos)
    · exact (key r hr).mpr (h r hh)

/-! ## `bounds` (Grid_nonpublic.cc:288) and `max_min` (Grid_nonpublic.cc:423) against `g.sem`

`bounds`: the answer is "the expression is constant on the grid".  `max_min`: `ok` iff the grid is not empty and the
expression is constant on it; then `num/den` is that value, `den > 0`, reduced, and it is attained (`included`).
-/

/-- `if (!generators_are_up_to_date()) update_generators()` and `if (!generators_are_minimized()) minimize()` -/
def cn_up1 (g : Grid) : Grid × Bool := if !g.generatorsAreUpToDate then updateGenerators g else (g, true)
def cn_min2 (g1 : Grid) : Grid × Bool := if !g1.generatorsAreMinimized then minimize g1 else (g1, true)

/-- what `bounds` (and `max_min`) do before they look at the generators: generators up to date, then minimized; the
    flag: the grid is not empty -/
def cn_prep (g : Grid) : Grid × Bool :=
  if !(cn_up1 g).2 then ((cn_up1 g).1, false) else cn_min2 (cn_up1 g).1

theorem cn_min2_spec (g1 : Grid) (h1 : GridInv g1) (e1 : g1.st.empty = false) (p1 : 0 < g1.spaceDim)
    (u1 : g1.st.gUp = true) :
    GridInv (cn_min2 g1).1 ∧ (cn_min2 g1).1.sem = g1.sem ∧ (cn_min2 g1).1.spaceDim = g1.spaceDim ∧
      ((cn_min2 g1).2 = true ↔ g1.sem.Nonempty) ∧ ((cn_min2 g1).2 = false → (cn_min2 g1).1.st.empty = true) ∧
      ((cn_min2 g1).2 = true → (cn_min2 g1).1.st.empty = false ∧ (cn_min2 g1).1.st.gUp = true ∧
        (cn_min2 g1).1.st.gMin = true) := by
  by_cases hm : g1.st.gMin = true
  · have : cn_min2 g1 = (g1, true) := by simp [cn_min2, Grid.generatorsAreMinimized, hm]
    rw [this]
    refine ⟨h1, rfl, rfl, ⟨fun _ => ?_, fun _ => rfl⟩, (fun h => by cases h), fun _ => ⟨e1, u1, hm⟩⟩
    obtain ⟨_, _, hgn, _⟩ := gn_sem_of_gUp h1 p1 e1 u1
    rw [sem_of_gUp e1 p1 u1]
    exact gensSet_nonempty hgn
  · have : cn_min2 g1 = minimize g1 := by simp [cn_min2, Grid.generatorsAreMinimized, hm]
    rw [this]
    obtain ⟨m1, m2, m3, m4, m5, m6⟩ := minimize_spec' g1 h1
    refine ⟨m1, m2, m3, m4, m5, fun h => ?_⟩
    obtain ⟨a, b, _⟩ := m6 h p1
    exact ⟨a, m1.gminUp b, b⟩

theorem cn_prep_spec (g : Grid) (hI : GridInv g) (he : g.st.empty = false) (hpos : 0 < g.spaceDim) :
    GridInv (cn_prep g).1 ∧ (cn_prep g).1.sem = g.sem ∧ (cn_prep g).1.spaceDim = g.spaceDim ∧
    ((cn_prep g).2 = true ↔ g.sem.Nonempty) ∧ ((cn_prep g).2 = false → (cn_prep g).1.st.empty = true) ∧
    ((cn_prep g).2 = true → (cn_prep g).1.st.empty = false ∧ (cn_prep g).1.st.gUp = true ∧ (cn_prep g).1.st.gMin = true) := by
  unfold cn_prep
  by_cases hg : g.st.gUp = true
  · have : cn_up1 g = (g, true) := by simp [cn_up1, Grid.generatorsAreUpToDate, hg]
    rw [this, if_neg (by simp)]
    exact cn_min2_spec g hI he hpos hg
  · have hgf : g.st.gUp = false := by simpa using hg
    have : cn_up1 g = updateGenerators g := by simp [cn_up1, Grid.generatorsAreUpToDate, hg]
    rw [this]
    have hc : g.st.cUp = true := (hI.some he hpos).resolve_right hg
    obtain ⟨u1, u2, u3, u4, u5, u6⟩ := updateGenerators_spec' g hI he hpos hc hgf
    by_cases hb : (updateGenerators g).2 = true
    · rw [if_neg (by rw [hb]; simp)]
      obtain ⟨a, b, _⟩ := u5 hb
      obtain ⟨s1, s2, s3, s4, s5, s6⟩ := cn_min2_spec _ u1 a (by omega) b
      exact ⟨s1, s2.trans u2, s3.trans u3, by rw [s4, u2], s5, s6⟩
    · have hbf : (updateGenerators g).2 = false := by simpa using hb
      rw [if_pos (by rw [hbf]; rfl)]
      refine ⟨u1, u2, u3, ⟨(fun h => by cases h), fun h => ?_⟩, fun _ => u6 hbf, (fun h => by cases h)⟩
      exact absurd (u4.mpr h) hb

/-- the generators of a prepared, non-empty grid -/
theorem cn_prep_gens (g1 : Grid) (h1 : GridInv g1) (e1 : g1.st.empty = false) (p1 : 0 < g1.spaceDim)
    (u1 : g1.st.gUp = true) (m1 : g1.st.gMin = true) :
    GWf g1.spaceDim g1.gen ∧ GNorm g1.spaceDim (firstPointDiv g1.gen) g1.gen ∧ g1.sem = gn_set g1.gen ∧
    upperTriangular g1.spaceDim g1.gen g1.dk = true ∧ kind g1.dk 0 = PARAMETER := by
  obtain ⟨_, a, b, c⟩ := gn_sem_of_gUp h1 p1 e1 u1
  obtain ⟨_, d, f⟩ := h1.gmin e1 p1 m1
  exact ⟨a, b, c, d, f⟩

theorem cn_bounds_eq (g : Grid) (e : LinExpr) : bounds g e =
    if g.spaceDim < e.spaceDim then (g, none)
    else if g.spaceDim = 0 ∨ g.markedEmpty then (g, some true)
    else if (cn_prep g).2 = false then ((cn_prep g).1, some true)
    else ((cn_prep g).1, some (boundsNoCheck (cn_prep g).1 e)) := by
  unfold bounds cn_prep
  split
  · rfl
  · split
    · rfl
    · show (if (!(cn_up1 g).2) = true then ((cn_up1 g).1, some true)
        else if (!(cn_min2 (cn_up1 g).1).2) = true then ((cn_min2 (cn_up1 g).1).1, some true)
        else ((cn_min2 (cn_up1 g).1).1, some (boundsNoCheck (cn_min2 (cn_up1 g).1).1 e))) = _
      cases h1 : (cn_up1 g).2
      · rfl
      · simp only [Bool.not_true, Bool.false_eq_true, if_false]
        cases h2 : (cn_min2 (cn_up1 g).1).2 <;> simp

theorem cn_const_empty (e : LinExpr) : cn_Const e ∅ := fun _ h => absurd h (Set.notMem_empty _)

theorem cn_eval_zdim (e : LinExpr) (x : Pt) (hx : Supp 0 x) : evalRow e x = (Red.get e 0 : ℚ) := by
  have : x = 0 := by funext i; exact hx i (Nat.zero_le _)
  rw [this, cn_evalRow_lam, cn_lam_zero, zero_add]

theorem cn_const_zdim (e : LinExpr) : cn_Const e (spaceSet 0) := fun x hx y hy => by
  rw [cn_eval_zdim e x hx, cn_eval_zdim e y hy]

/-- Grid_nonpublic.cc:288 `bounds(expr)`: `none` exactly on a dimension mismatch; otherwise the answer is "the expression
    is constant on the grid" (in particular `true` on the empty grid); the object keeps its grid -/
theorem cn_bounds (g : Grid) (e : LinExpr) (hI : GridInv g) :
    ((bounds g e).2 = none ↔ g.spaceDim < e.spaceDim) ∧ GridInv (bounds g e).1 ∧ (bounds g e).1.sem = g.sem ∧
    (bounds g e).1.spaceDim = g.spaceDim ∧ (∀ b, (bounds g e).2 = some b → (b = true ↔ cn_Const e g.sem)) := by
  rw [cn_bounds_eq]
  by_cases hd : g.spaceDim < e.spaceDim
  · rw [if_pos hd]; exact ⟨⟨fun _ => hd, fun _ => rfl⟩, hI, rfl, rfl, (fun b h => by cases h)⟩
  · rw [if_neg hd]
    by_cases h0 : g.spaceDim = 0 ∨ g.markedEmpty = true
    · rw [if_pos h0]
      refine ⟨⟨(fun h => by cases h), fun h => absurd h hd⟩, hI, rfl, rfl, fun b hb => ?_⟩
      have hbt : b = true := (Option.some.inj hb).symm
      refine ⟨fun _ => ?_, fun _ => hbt⟩
      by_cases hemp : g.st.empty = true
      · rw [sem_of_empty hemp]; exact cn_const_empty e
      · rcases h0 with h0 | h0
        · rw [sem_of_zdim (by simpa using hemp) h0]; exact cn_const_zdim e
        · exact absurd h0 hemp
    · rw [if_neg h0]
      have hne : g.st.empty = false := by
        by_contra h; exact h0 (Or.inr (show g.st.empty = true by simpa using h))
      have hpos : 0 < g.spaceDim := by
        by_contra h; exact h0 (Or.inl (by omega))
      obtain ⟨p1, p2, p3, p4, p5, p6⟩ := cn_prep_spec g hI hne hpos
      by_cases hb : (cn_prep g).2 = false
      · rw [if_pos hb]
        refine ⟨⟨(fun h => by cases h), fun h => absurd h hd⟩, p1, p2, p3, fun b hb' => ?_⟩
        have hbt : b = true := (Option.some.inj hb').symm
        refine ⟨fun _ => ?_, fun _ => hbt⟩
        rw [← p2, sem_of_empty (p5 hb)]; exact cn_const_empty e
      · rw [if_neg hb]
        have hbt : (cn_prep g).2 = true := by simpa using hb
        obtain ⟨q1, q2, q3⟩ := p6 hbt
        obtain ⟨w1, w2, w3, w4, w5⟩ := cn_prep_gens _ p1 q1 (by omega) q2 q3
        refine ⟨⟨(fun h => by cases h), fun h => absurd h hd⟩, p1, p2, p3, fun b hb' => ?_⟩
        have hbe : b = boundsNoCheck (cn_prep g).1 e := (Option.some.inj hb').symm
        rw [hbe, cn_boundsNoCheck_const _ e w1 w2 w4 w5 (by omega), ← w3, p2]

/-- `x ≡ 0 (mod 2)` in dimension 1, congruences only -/
def cn_exGrid' : Grid :=
  { spaceDim := 1, st := { cUp := true }, conDim := 1, con := [{ e := [0, 1], m := 2 }], genDim := 1, gen := [], dk := [] }

/-! ### `max_min` -/

theorem cn_maxMin_eq (g : Grid) (e : LinExpr) : maxMin g e =
    match (bounds g e).2 with
    | none => ((bounds g e).1, none)
    | some false => ((bounds g e).1, some { ok := false })
    | some true =>
      if (bounds g e).1.markedEmpty then ((bounds g e).1, some { ok := false })
      else if (bounds g e).1.spaceDim = 0 then
        ((bounds g e).1, some { ok := true, num := Red.get e 0, den := 1, included := true })
      else
        let g2 := if !(bounds g e).1.generatorsAreMinimized then (simplifyGenSys (bounds g e).1).setGeneratorsMinimized
          else (bounds g e).1
        (g2, some { ok := true,
                    num := (spHom e (rowAt g2.gen 0).e + Red.get e 0 * (rowAt g2.gen 0).divisor) /
                      gcdI (spHom e (rowAt g2.gen 0).e + Red.get e 0 * (rowAt g2.gen 0).divisor) (rowAt g2.gen 0).divisor,
                    den := (rowAt g2.gen 0).divisor /
                      gcdI (spHom e (rowAt g2.gen 0).e + Red.get e 0 * (rowAt g2.gen 0).divisor) (rowAt g2.gen 0).divisor,
                    included := true }) := by
  unfold maxMin
  rcases hb : bounds g e with ⟨g1, _ | _ | _⟩ <;> rfl

/-- the value of the expression at the point of a minimized system, as the fraction `max_min` reduces -/
theorem cn_point_value (e : LinExpr) (p : GRow) (n : Nat) (D : Int) (hlen : p.e.length = n + 2) (he : e.length ≤ n + 1)
    (hl : p.line = false) (hpD : Red.get p.e 0 = D) (hD : 0 < D) :
    p.divisor = D ∧
    evalRow e (gn_vecOf p) = ((spHom e p.e + Red.get e 0 * D : Int) : ℚ) / (D : ℚ) := by
  have hdiv : p.divisor = D := by rw [divisor_point p (by rw [hpD]; exact ne_of_gt hD)]; exact hpD
  refine ⟨hdiv, ?_⟩
  have hden : cn_den p = D := by unfold cn_den; rw [hl]; exact hdiv
  have := cn_spHom_vecOf e p n hlen he (by rw [hden]; exact ne_of_gt hD)
  rw [hden] at this
  have hD' : (D : ℚ) ≠ 0 := by exact_mod_cast (ne_of_gt hD)
  rw [cn_evalRow_lam]
  push_cast
  rw [this]
  field_simp

/-- a fraction reduced by the gcd -/
theorem cn_reduce (a b : Int) (hb : 0 < b) :
    0 < b / gcdI a b ∧ Int.gcd (a / gcdI a b) (b / gcdI a b) = 1 ∧
    ((a / gcdI a b : Int) : ℚ) / ((b / gcdI a b : Int) : ℚ) = (a : ℚ) / (b : ℚ) := by
  have hg : 0 < Int.gcd a b := Int.gcd_pos_of_ne_zero_right a (ne_of_gt hb)
  have hgi : (0 : Int) < gcdI a b := by unfold gcdI; exact_mod_cast hg
  have hda : gcdI a b ∣ a := by unfold gcdI; exact Int.gcd_dvd_left ..
  have hdb : gcdI a b ∣ b := by unfold gcdI; exact Int.gcd_dvd_right ..
  refine ⟨?_, ?_, ?_⟩
  · exact Int.ediv_pos_of_pos_of_dvd hb hgi.le hdb
  · unfold gcdI; exact Int.gcd_div_gcd_div_gcd hg
  · generalize gcdI a b = G at hgi hda hdb
    obtain ⟨a', ha⟩ := hda
    obtain ⟨b', hb'⟩ := hdb
    have hg' : (G : ℚ) ≠ 0 := by exact_mod_cast (ne_of_gt hgi)
    have e1 : a / G = a' := by rw [ha]; exact Int.mul_ediv_cancel_left _ (ne_of_gt hgi)
    have e2 : b / G = b' := by rw [hb']; exact Int.mul_ediv_cancel_left _ (ne_of_gt hgi)
    have hb'0 : (b' : ℚ) ≠ 0 := by
      intro h
      have : b' = 0 := by exact_mod_cast h
      rw [this, mul_zero] at hb'; omega
    rw [e1, e2, ha, hb']
    push_cast
    field_simp

/-- Grid_nonpublic.cc:423 `max_min(expr, …)`: `none` exactly on a dimension mismatch; `ok` iff the grid is not empty and
    the expression is constant on it; then `num/den` is the value, `den > 0`, the fraction is reduced, `included` -/
theorem cn_maxMin (g : Grid) (e : LinExpr) (hI : GridInv g) :
    ((maxMin g e).2 = none ↔ g.spaceDim < e.spaceDim) ∧ GridInv (maxMin g e).1 ∧ (maxMin g e).1.sem = g.sem ∧
    (maxMin g e).1.spaceDim = g.spaceDim ∧
    (∀ mm, (maxMin g e).2 = some mm →
      (mm.ok = true ↔ g.sem.Nonempty ∧ cn_Const e g.sem) ∧
      (mm.ok = true → 0 < mm.den ∧ Int.gcd mm.num mm.den = 1 ∧ mm.included = true ∧
        ∀ x ∈ g.sem, evalRow e x = (mm.num : ℚ) / (mm.den : ℚ))) := by
  obtain ⟨b1, b2, b3, b4, b5⟩ := cn_bounds g e hI
  rw [cn_maxMin_eq]
  rcases hb : (bounds g e).2 with _ | _ | _
  · dsimp only
    exact ⟨⟨fun _ => b1.mp hb, fun _ => rfl⟩, b2, b3, b4, (fun mm h => by cases h)⟩
  · dsimp only
    have hnc : ¬ cn_Const e g.sem := fun hc => by
      have := (b5 false hb).mpr hc; cases this
    refine ⟨⟨(fun h => by cases h), fun h => by rw [b1.mpr h] at hb; cases hb⟩, b2, b3, b4, fun mm hmm => ?_⟩
    have : mm = { ok := false } := (Option.some.inj hmm).symm
    rw [this]
    exact ⟨⟨(fun h => by cases h), fun h => absurd h.2 hnc⟩, (fun h => by cases h)⟩
  · dsimp only
    have hc : cn_Const e g.sem := (b5 true hb).mp rfl
    have hnone : ¬ g.spaceDim < e.spaceDim := fun h => by rw [b1.mpr h] at hb; cases hb
    by_cases hemp : (bounds g e).1.st.empty = true
    · rw [if_pos (show (bounds g e).1.markedEmpty = true from hemp)]
      refine ⟨⟨(fun h => by cases h), fun h => absurd h hnone⟩, b2, b3, b4, fun mm hmm => ?_⟩
      have : mm = { ok := false } := (Option.some.inj hmm).symm
      rw [this]
      have hse : g.sem = ∅ := by rw [← b3]; exact sem_of_empty hemp
      exact ⟨⟨(fun h => by cases h), fun h => by rw [hse] at h; exact absurd h.1 Set.not_nonempty_empty⟩,
        (fun h => by cases h)⟩
    · have hne : (bounds g e).1.st.empty = false := by simpa using hemp
      rw [if_neg (show ¬ ((bounds g e).1.markedEmpty = true) from hemp)]
      by_cases h0 : (bounds g e).1.spaceDim = 0
      · rw [if_pos h0]
        refine ⟨⟨(fun h => by cases h), fun h => absurd h hnone⟩, b2, b3, b4, fun mm hmm => ?_⟩
        have : mm = { ok := true, num := Red.get e 0, den := 1, included := true } := (Option.some.inj hmm).symm
        rw [this]
        have hs : g.sem = spaceSet 0 := by rw [← b3]; exact sem_of_zdim hne h0
        refine ⟨⟨fun _ => ⟨?_, hc⟩, fun _ => rfl⟩, fun _ => ⟨by show (0 : Int) < 1; decide, by show Int.gcd _ 1 = 1; simp, rfl, fun x hx => ?_⟩⟩
        · rw [hs]; exact ⟨0, fun i _ => rfl⟩
        · rw [hs] at hx; rw [cn_eval_zdim e x hx]; simp
      · rw [if_neg h0]
        have hpos : 0 < (bounds g e).1.spaceDim := by omega
        -- the generators are minimized after `bounds`
        have hmin : (bounds g e).1.st.gUp = true ∧ (bounds g e).1.st.gMin = true := by
          have hbe := cn_bounds_eq g e
          rw [if_neg hnone] at hbe
          have h0' : ¬ (g.spaceDim = 0 ∨ g.markedEmpty = true) := by
            rintro (h | h)
            · rw [b4] at h0; exact h0 h
            · have : (bounds g e).1 = g := by rw [hbe, if_pos (Or.inr h)]
              rw [this] at hemp; exact hemp h
          rw [if_neg h0'] at hbe
          have hge : g.st.empty = false := by
            by_contra h; exact h0' (Or.inr (show g.st.empty = true by simpa using h))
          obtain ⟨_, _, _, _, p5, p6⟩ := cn_prep_spec g hI hge (by omega)
          by_cases hp : (cn_prep g).2 = false
          · rw [if_pos hp] at hbe
            have : (bounds g e).1 = (cn_prep g).1 := by rw [hbe]
            rw [this] at hemp; exact absurd (p5 hp) hemp
          · rw [if_neg hp] at hbe
            have : (bounds g e).1 = (cn_prep g).1 := by rw [hbe]
            rw [this]; exact (p6 (by simpa using hp)).2
        have hg2 : (if (!(bounds g e).1.generatorsAreMinimized) = true then
            (simplifyGenSys (bounds g e).1).setGeneratorsMinimized else (bounds g e).1) = (bounds g e).1 := by
          simp [Grid.generatorsAreMinimized, hmin.2]
        simp only [hg2]
        obtain ⟨w1, w2, w3, w4, w5⟩ := cn_prep_gens _ b2 hne hpos hmin.1 hmin.2
        obtain ⟨p, rest, hgen, hpl, hpD, _⟩ := cn_min_shape w2 w4 w5
        have hrow : rowAt (bounds g e).1.gen 0 = p := by rw [hgen]; rfl
        have hpm : p ∈ (bounds g e).1.gen := by rw [hgen]; exact List.mem_cons_self ..
        have hel : e.length ≤ (bounds g e).1.spaceDim + 1 := by
          unfold LinExpr.spaceDim at hnone; rw [b4]; omega
        obtain ⟨v1, v2⟩ := cn_point_value e p _ _ (w1 p hpm) hel hpl hpD w2.pos
        obtain ⟨r1, r2, r3⟩ := cn_reduce (spHom e p.e + Red.get e 0 * firstPointDiv (bounds g e).1.gen)
          (firstPointDiv (bounds g e).1.gen) w2.pos
        have hpmem : gn_vecOf p ∈ g.sem := by
          rw [← b3, w3]
          exact gn_mem_pt hpm ((gn_isPt_iff p).mpr ⟨hpl, by rw [hpD]; exact ne_of_gt w2.pos⟩)
        refine ⟨⟨(fun h => by cases h), fun h => absurd h hnone⟩, b2, b3, b4, fun mm hmm => ?_⟩
        have hmm' := (Option.some.inj hmm).symm
        rw [hrow, v1] at hmm'
        rw [hmm']
        refine ⟨⟨fun _ => ⟨⟨_, hpmem⟩, hc⟩, fun _ => rfl⟩, fun _ => ⟨r1, r2, rfl, fun x hx => ?_⟩⟩
        rw [hc x hx _ hpmem, v2]
        exact r3.symm

/-- on `{x ≡ 0 (mod 2)}`: the constant `3` is bounded with value `3/1`, the expression `x` is not bounded -/
example : (maxMin cn_exGrid' [3]).2 = some { ok := true, num := 3, den := 1, included := true } ∧
    (maxMin cn_exGrid' [0, 1]).2 = some { ok := false } ∧ (bounds cn_exGrid' [0, 1, 1]).2 = none := by decide +kernel

end PPLV.Lattice.GO

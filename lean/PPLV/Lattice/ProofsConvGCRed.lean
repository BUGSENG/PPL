import PPLV.Lattice.ProofsConvGCLoop

/-!
# `Grid::conversion` (generators → congruences): the final `reduce_reduced` loop keeps the final rows

`reduce_reduced` subtracts multiples of the pivot row (the row of `dim`) from the rows above it; with an
equality pivot every row may be reduced (the products of the pivot with the source rows vanish), with a
proper pivot only the proper rows are (same modulus): the products stay in `L·ℤ`, the products with the
lines stay `0`, the rows stay triangular.
-/
namespace PPLV.Lattice.Red

theorem expr_crow (c : CRow) : HasExpr.expr c = c.e := rfl
theorem setExpr_crow (c : CRow) (e : Row) : HasExpr.setExpr c e = { c with e := e } := rfl

section
variable (source : List GRow) (dk : List Nat) (dims : Nat)

/-- `skipUp` finds the dimension of the previous dest row -/
theorem skipUpAux_spec : ∀ (fuel k : Nat), k + fuel = dims → 0 < nl dk dims - nl dk k →
    k ≤ skipUpAux dk fuel k ∧ skipUpAux dk fuel k < dims ∧ nlB dk (skipUpAux dk fuel k) = true ∧
      nl dk (skipUpAux dk fuel k) = nl dk k
  | 0, k, h1, h2 => by
    have : k = dims := by omega
    subst this; omega
  | fuel + 1, k, h1, h2 => by
    unfold skipUpAux
    by_cases hl : kind dk k = CON_VIRTUAL
    · have hlb : nlB dk k = false := by simp [nlB, hl, CON_VIRTUAL, LINE]
      have e1 := cntBelow_succ_neg (nlB dk) k hlb
      rw [if_pos hl]
      obtain ⟨a1, a2, a3, a4⟩ := skipUpAux_spec fuel (k + 1) (by omega) (by simp only [nl] at *; omega)
      exact ⟨by omega, a2, a3, by simp only [nl] at *; omega⟩
    · rw [if_neg hl]
      exact ⟨Nat.le_refl _, by omega, by simpa [nlB, CON_VIRTUAL, LINE] using hl, rfl⟩

theorem skipUp_spec (hdk : dk.length = dims) (ki ri : Nat) (hki : ki < dims)
    (hri : ri + 1 = pos dk dims ki) :
    ki < skipUp dk ki ∧ skipUp dk ki < dims ∧ nlB dk (skipUp dk ki) = true ∧ ri = pos dk dims (skipUp dk ki) := by
  unfold skipUp
  rw [hdk]
  obtain ⟨a1, a2, a3, a4⟩ := skipUpAux_spec dk dims (dims - (ki + 1)) (ki + 1) (by omega) (by simp only [pos] at hri; omega)
  refine ⟨by omega, a2, a3, ?_⟩
  have e1 := cntBelow_succ_pos (nlB dk) _ a3
  have m1 := cntBelow_mono (nlB dk) (show skipUpAux dk (dims - (ki + 1)) (ki + 1) + 1 ≤ dims from a2)
  simp only [pos, nl] at *; omega

theorem FinalOK_set (M L : Int) (T : List CRow) (hT : FinalOK source dk dims M L T) (q0 : Nat) (hq0 : q0 < dims)
    (hl0 : nlB dk q0 = true) (c' : CRow) (hc' : FinRow source dk dims M L q0 c') :
    FinalOK source dk dims M L (T.set (pos dk dims q0) c') := by
  refine ⟨by simp [hT.len], fun q hq hql => ?_⟩
  rw [rowAt_set]
  by_cases h : pos dk dims q = pos dk dims q0
  · have := pos_inj dk dims q q0 hq hq0 hql hl0 h
    subst this
    rw [if_pos ⟨rfl, by rw [hT.len]; exact pos_lt dk dims q hq hql⟩]
    exact hc'
  · rw [if_neg (fun hc => h hc.1)]
    exact hT.rows q hq hql

/-- one row reduced by the pivot `P` (the row of `dim`) -/
theorem rowReduce_final (M L : Int) (P : Row) (dim : Nat)
    (hPtri : ∀ k, dim < k → get P k = 0)
    (hPprod : ∀ p, p < dims → nvB dk p = true →
      (kind dk p = LINE → dotUpto P (rowAt source (nv dk p)).e dims = 0) ∧ L ∣ dotUpto P (rowAt source (nv dk p)).e dims)
    (T : List CRow) (hT : FinalOK source dk dims M L T) (q : Nat) (hq : q < dims) (hql : nlB dk q = true) (hdq : dim < q)
    (hzero : nvB dk q = false → ∀ p, p < dims → nvB dk p = true → dotUpto P (rowAt source (nv dk p)).e dims = 0)
    (num : Int) :
    FinalOK source dk dims M L
      (if num ≠ 0 then
        T.set (pos dk dims q) (HasExpr.setExpr (rowAt T (pos dk dims q))
          (linearCombine (HasExpr.expr (rowAt T (pos dk dims q))) P 1 (-num) 0 (dim + 1)))
       else T) := by
  by_cases hn : num ≠ 0
  · rw [if_pos hn, expr_crow, setExpr_crow]
    apply FinalOK_set source dk dims M L T hT _ hq hql
    have R := hT.rows _ hq hql
    have hget : ∀ k, get (linearCombine (rowAt T (pos dk dims q)).e P 1 (-num) 0 (dim + 1)) k =
        get (rowAt T (pos dk dims q)).e k - num * get P k := by
      intro k
      rw [get_linearCombine]
      by_cases hc : k < (rowAt T (pos dk dims q)).e.length ∧ 0 ≤ k ∧ k < dim + 1
      · rw [if_pos hc]; ring
      · rw [if_neg hc]
        by_cases hk : k < dim + 1
        · have h1 : (rowAt T (pos dk dims q)).e.length ≤ k := by omega
          rw [R.len] at h1
          omega
        · rw [hPtri k (by omega)]; ring
    refine ⟨by simp [R.len], R.mv, R.mp, fun k hk => ?_, ?_, fun p hp hpv => ?_⟩
    · simp only []
      rw [hget k, R.tri k hk, hPtri k (by omega)]; ring
    · simp only []
      rw [hget q, hPtri q hdq]
      have := R.diag
      omega
    · simp only []
      rw [dotUpto_sub _ _ P _ num dims (fun k _ => hget k)]
      obtain ⟨r1, r2, r3⟩ := R.prod p hp hpv
      obtain ⟨p1, p2⟩ := hPprod p hp hpv
      refine ⟨fun hline => by rw [r1 hline, p1 hline]; ring, fun hv => ?_, ?_⟩
      · rw [r2 hv, hzero hv p hp hpv]; ring
      · exact Int.dvd_sub r3 (Dvd.dvd.mul_left p2 _)
  · rw [if_neg hn]; exact hT

/-- the loop of `reduce_reduced` (congruences) keeps the final rows -/
theorem reduceReducedLoop_final (hdk : dk.length = dims) (M L : Int) (P : Row) (pd half : Int) (dim : Nat) (rie : Bool)
    (rk : Nat)
    (hPtri : ∀ k, dim < k → get P k = 0)
    (hPprod : ∀ p, p < dims → nvB dk p = true →
      (kind dk p = LINE → dotUpto P (rowAt source (nv dk p)).e dims = 0) ∧ L ∣ dotUpto P (rowAt source (nv dk p)).e dims)
    (hP0 : rie = true → ∀ p, p < dims → nvB dk p = true → dotUpto P (rowAt source (nv dk p)).e dims = 0) :
    ∀ (ri ki : Nat) (T : List CRow), ki < dims → nlB dk ki = true → dim ≤ ki → ri = pos dk dims ki →
      FinalOK source dk dims M L T →
      FinalOK source dk dims M L (reduceReducedLoop false dk P pd half dim 0 dim rie rk ri ki T)
  | 0, ki, T, _, _, _, _, hT => by simpa [reduceReducedLoop] using hT
  | ri + 1, ki, T, hki, hl, hdim, hri, hT => by
    rw [reduceReducedLoop]
    simp only [Bool.false_eq_true, if_false]
    obtain ⟨s1, s2, s3, s4⟩ := skipUp_spec dk dims hdk ki ri hki hri
    refine reduceReducedLoop_final hdk M L P pd half dim rie rk hPtri hPprod hP0 ri (skipUp dk ki) _ s2 s3 (by omega) s4 ?_
    subst s4
    by_cases hcond : (rie || (rk == PARAMETER && kind dk (skipUp dk ki) == PARAMETER)) = true
    · rw [if_pos hcond]
      refine rowReduce_final source dk dims M L P dim hPtri hPprod T hT (skipUp dk ki) s2 s3 (by omega) ?_ _
      intro hv
      rcases (Bool.or_eq_true _ _).mp hcond with h | h
      · exact hP0 h
      · exfalso
        simp only [Bool.and_eq_true, beq_iff_eq] at h
        simp [nvB, h.2, PARAMETER, GEN_VIRTUAL] at hv
    · rw [if_neg hcond]; exact hT

end

end PPLV.Lattice.Red

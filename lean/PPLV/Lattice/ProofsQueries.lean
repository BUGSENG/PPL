import PPLV.Lattice.ProofsOps

/-!
# K2: specifications of the queries and of the certifying operations
-/
namespace PPLV.Lattice
open List

/-! ### relation with a congruence -/

theorem relCg_spec (G : GridGens) (c : Cg) (hne : ∃ x, Gen.sem G x) :
    ((relCg G c).1 = true ↔ ∀ x, Gen.sem G x → ¬ c.sem x) ∧
    ((relCg G c).2.1 = true ↔ (∃ x, Gen.sem G x ∧ c.sem x) ∧ (∃ x, Gen.sem G x ∧ ¬ c.sem x)) ∧
    ((relCg G c).2.2.1 = true ↔ ∀ x, Gen.sem G x → c.sem x) ∧
    ((relCg G c).2.2.2 = true ↔ (∀ x, Gen.sem G x → c.sem x) ∧ c.f = 0) := by
  cases G with
  | empty => obtain ⟨x, hx⟩ := hne; exact absurd hx (by simp [Gen.sem])
  | gens g =>
    have hsat := satCgB_iff (.gens g) c
    have hint : (intersectCon (.gens g) c).isEmpty = true ↔ ∀ x, Gen.sem (.gens g) x → ¬ c.sem x := by
      rw [← Bool.not_eq_false, isEmpty_false_iff]
      constructor
      · intro h x hx hc; exact h ⟨x, (intersectCon_sem _ _ _).mpr ⟨hx, hc⟩⟩
      · rintro h ⟨x, hx⟩
        rw [intersectCon_sem] at hx; exact h x hx.1 hx.2
    obtain ⟨x0, hx0⟩ := hne
    by_cases h1 : satCgB (.gens g) c = true
    · have hall := hsat.mp h1
      have e : relCg (.gens g) c = (false, false, true, c.f == 0) := by simp [relCg, h1]
      rw [e]
      refine ⟨?_, ?_, ?_, ?_⟩
      · simp only [Bool.false_eq_true, false_iff]
        intro h; exact h x0 hx0 (hall x0 hx0)
      · simp only [Bool.false_eq_true, false_iff]
        rintro ⟨_, ⟨x, hx, hnc⟩⟩; exact hnc (hall x hx)
      · simp only [true_iff]; exact hall
      · simp only [beq_iff_eq]
        constructor
        · intro h; exact ⟨hall, h⟩
        · intro h; exact h.2
    · have hnall : ¬ ∀ x, Gen.sem (.gens g) x → c.sem x := fun h => h1 (hsat.mpr h)
      by_cases h2 : (intersectCon (.gens g) c).isEmpty = true
      · have hdis := hint.mp h2
        have e : relCg (.gens g) c = (true, false, false, false) := by simp [relCg, h1, h2]
        rw [e]
        refine ⟨?_, ?_, ?_, ?_⟩
        · simp only [true_iff]; exact hdis
        · simp only [Bool.false_eq_true, false_iff]
          rintro ⟨⟨x, hx, hc⟩, _⟩; exact hdis x hx hc
        · simp only [Bool.false_eq_true, false_iff]; exact hnall
        · simp only [Bool.false_eq_true, false_iff]; intro h; exact hnall h.1
      · have hndis : ¬ ∀ x, Gen.sem (.gens g) x → ¬ c.sem x := fun h => h2 (hint.mpr h)
        have e : relCg (.gens g) c = (false, true, false, false) := by simp [relCg, h1, h2]
        rw [e]
        refine ⟨?_, ?_, ?_, ?_⟩
        · simp only [Bool.false_eq_true, false_iff]; exact hndis
        · simp only [true_iff]
          constructor
          · by_contra hcon
            apply hndis; intro x hx hc; exact hcon ⟨x, hx, hc⟩
          · by_contra hcon
            apply hnall; intro x hx
            by_contra hnc; exact hcon ⟨x, hx, hnc⟩
        · simp only [Bool.false_eq_true, false_iff]; exact hnall
        · simp only [Bool.false_eq_true, false_iff]; intro h; exact hnall h.1

/-! ### universe, integer points -/

theorem isUniverse_iff (n : Nat) (G : GridGens) : isUniverse n G = true ↔ ∀ x, Gen.sem G x ↔ Supp n x := by
  unfold isUniverse
  rw [equivB_iff]
  constructor
  · intro h x; rw [h x, univ_sem]
  · intro h x; rw [h x, univ_sem]

theorem intCg_sem (i : Nat) (x : Pt) : Cg.sem { a := unit i, b := 0, f := 1 } x ↔ ∃ t : Int, x i = t := by
  simp [Cg.sem, dotF_unit]

theorem containsIntegerPoint_iff (n : Nat) (G : GridGens) :
    containsIntegerPoint n G = true ↔ ∃ x, Gen.sem G x ∧ ∀ i < n, ∃ t : Int, x i = t := by
  unfold containsIntegerPoint
  rw [Bool.not_eq_true', isEmpty_false_iff]
  constructor
  · rintro ⟨x, hx⟩
    rw [intersectCons_sem] at hx
    refine ⟨x, hx.1, fun i hi => ?_⟩
    have := hx.2 _ (List.mem_map.mpr ⟨i, List.mem_range.mpr hi, rfl⟩)
    exact (intCg_sem i x).mp this
  · rintro ⟨x, hx, hint⟩
    refine ⟨x, ?_⟩
    rw [intersectCons_sem]
    refine ⟨hx, ?_⟩
    intro c hc
    obtain ⟨i, hi, rfl⟩ := List.mem_map.mp hc
    exact (intCg_sem i x).mpr (hint i (List.mem_range.mp hi))

/-! ### lines of a grid: `constrains`, `relGen`, discreteness -/

/-- `l` is a line of the non-empty grid `g` iff it lies in the span of the generating lines -/
theorem line_iff (g : Gens) (l : Vec) :
    inSpanB g.lines l = true ↔ ∀ x (c : Rat), g.Mem x → g.Mem (x + c • l.toFun) := by
  rw [inSpanB_iff]
  constructor
  · intro h x c hx
    rw [mem_iff_gdir] at *
    have : x + c • l.toFun - g.pt.toFun = (x - g.pt.toFun) + c • l.toFun := by module
    rw [this]
    exact Abs.Dir.add hx (Abs.Dir.mono_subset (by simp) (fun _ h => h) (dir_lines_smul _ c h))
  · intro h
    have hc : ∀ c : Rat, Abs.Dir (g.params.map Vec.toFun) (g.lines.map Vec.toFun) (c • l.toFun) := by
      intro c
      have := h _ c Gens.Mem.pt
      rw [mem_iff_gdir] at this
      have e : g.pt.toFun + c • l.toFun - g.pt.toFun = c • l.toFun := by module
      rwa [e] at this
    exact line_theorem _ _ _ _ rfl hc

theorem constrains_iff (G : GridGens) (v : Nat) :
    constrains G v = false ↔ (∃ x, Gen.sem G x) ∧ ∀ x (c : Rat), Gen.sem G x → Gen.sem G (x + c • (unit v).toFun) := by
  cases G with
  | empty => simp [constrains, Gen.sem]
  | gens g =>
    simp only [constrains, Bool.not_eq_false', Gen.sem]
    rw [line_iff]
    constructor
    · intro h; exact ⟨⟨_, Gens.Mem.pt⟩, h⟩
    · intro h; exact h.2

/-- `subsumes` for points, parameters and lines -/
theorem relGen_point (G : GridGens) (v : Vec) : relGen G 2 v = true ↔ Gen.sem G v.toFun := by
  cases G with
  | empty => simp [relGen, Gen.sem]
  | gens g => simp [relGen, memB_iff]

theorem relGen_param (G : GridGens) (q : Vec) :
    relGen G 1 q = true ↔ (∃ x, Gen.sem G x) ∧ ∀ x (k : Int), Gen.sem G x → Gen.sem G (x + (k : Rat) • q.toFun) := by
  cases G with
  | empty => simp [relGen, Gen.sem]
  | gens g =>
    have e : relGen (.gens g) 1 q = memB (.gens g) (vadd g.pt q) := by simp [relGen]
    rw [e, memB_iff]
    simp only [Gen.sem, toFun_vadd]
    constructor
    · intro h
      refine ⟨⟨_, Gens.Mem.pt⟩, fun x k hx => ?_⟩
      have := gens_affine g k hx h Gens.Mem.pt
      have e : x + (k:Rat) • (g.pt.toFun + q.toFun - g.pt.toFun) = x + (k:Rat) • q.toFun := by module
      rwa [e] at this
    · intro h
      have := h.2 _ 1 Gens.Mem.pt
      simpa using this

theorem relGen_line (G : GridGens) (l : Vec) :
    relGen G 0 l = true ↔ (∃ x, Gen.sem G x) ∧ ∀ x (c : Rat), Gen.sem G x → Gen.sem G (x + c • l.toFun) := by
  cases G with
  | empty => simp [relGen, Gen.sem]
  | gens g =>
    have e : relGen (.gens g) 0 l = inSpanB g.lines l := by simp [relGen]
    rw [e]
    simp only [Gen.sem]
    rw [line_iff]
    constructor
    · intro h; exact ⟨⟨_, Gens.Mem.pt⟩, h⟩
    · intro h; exact h.2

theorem dir_zero_lines (L : List Pt) (hL : ∀ l ∈ L, l = 0) {v : Pt} (h : Abs.Dir [] L v) : v = 0 := by
  induction h with
  | zero => rfl
  | param k hq _ _ => simp at hq
  | line c hl _ ih => rw [ih, hL _ hl]; simp

/-- discrete: the grid contains no rational line -/
theorem isDiscrete_iff (G : GridGens) :
    isDiscrete G = true ↔ ¬ ∃ (x d : Pt), d ≠ 0 ∧ ∀ c : Rat, Gen.sem G (x + c • d) := by
  cases G with
  | empty => simp [isDiscrete, Gen.sem]
  | gens g =>
    simp only [isDiscrete, List.all_eq_true, isZero_iff, Gen.sem]
    constructor
    · rintro hz ⟨x, d, hd, hall⟩
      apply hd
      have hc : ∀ c : Rat, Abs.Dir (g.params.map Vec.toFun) (g.lines.map Vec.toFun) (c • d) := by
        intro c
        have h1 := hall c
        have h0 := hall 0
        rw [mem_iff_gdir] at h1 h0
        have e : c • d = (x + c • d - g.pt.toFun) - (x + (0:Rat) • d - g.pt.toFun) := by module
        rw [e]; exact Abs.Dir.sub h1 h0
      have := line_theorem _ _ _ _ rfl hc
      exact dir_zero_lines _ (by
        intro l hl; obtain ⟨w, hw, rfl⟩ := List.mem_map.mp hl; exact hz w hw) this
    · intro h l hl
      by_contra hne
      apply h
      refine ⟨g.pt.toFun, l.toFun, hne, fun c => ?_⟩
      rw [← axpy_eq]; exact Gens.Mem.line c hl Gens.Mem.pt

/-- bounded: at most one point -/
theorem isBounded_iff (G : GridGens) : isBounded G = true ↔ ∀ x y, Gen.sem G x → Gen.sem G y → x = y := by
  cases G with
  | empty => simp [isBounded, Gen.sem]
  | gens g =>
    simp only [isBounded, Bool.and_eq_true, List.all_eq_true, isZero_iff, Gen.sem]
    constructor
    · rintro ⟨hl, hq⟩
      have key : ∀ x, g.Mem x → x = g.pt.toFun := by
        intro x hx
        induction hx with
        | pt => rfl
        | param k hq' _ ih => rw [axpy_eq, ih, hq _ hq']; simp
        | line c hl' _ ih => rw [axpy_eq, ih, hl _ hl']; simp
      intro x y hx hy; rw [key x hx, key y hy]
    · intro h
      constructor
      · intro l hl
        have := h _ _ (Gens.Mem.line 1 hl Gens.Mem.pt) Gens.Mem.pt
        rw [axpy_eq] at this
        have e : l.toFun = (g.pt.toFun + (1:Rat) • l.toFun) - g.pt.toFun := by module
        rw [e, this]; simp
      · intro q hq
        have := h _ _ (Gens.Mem.param 1 hq Gens.Mem.pt) Gens.Mem.pt
        rw [axpy_eq] at this
        have e : q.toFun = (g.pt.toFun + ((1:Int):Rat) • q.toFun) - g.pt.toFun := by push_cast; module
        rw [e, this]; simp

/-- the expression is constant on the grid -/
theorem boundsExpr_iff (G : GridGens) (e : Vec) :
    boundsExpr G e = true ↔ ∀ x y, Gen.sem G x → Gen.sem G y → dotF e x = dotF e y := by
  cases G with
  | empty => simp [boundsExpr, Gen.sem]
  | gens g =>
    simp only [boundsExpr, Bool.and_eq_true, List.all_eq_true, beq_iff_eq, Gen.sem]
    constructor
    · rintro ⟨hq, hl⟩
      have key : ∀ x, g.Mem x → dotF e x = dotF e g.pt.toFun := by
        intro x hx
        induction hx with
        | pt => rfl
        | param k hq' _ ih => rw [axpy_eq, dotF_add, dotF_smul, ← dot_eq_dotF e _, hq _ hq', ih]; simp
        | line c hl' _ ih => rw [axpy_eq, dotF_add, dotF_smul, ← dot_eq_dotF e _, hl _ hl', ih]; simp
      intro x y hx hy; rw [key x hx, key y hy]
    · intro h
      constructor
      · intro q hq
        have := h _ _ (Gens.Mem.param 1 hq Gens.Mem.pt) Gens.Mem.pt
        rw [axpy_eq, dotF_add, dotF_smul, ← dot_eq_dotF e q] at this
        push_cast at this; linarith
      · intro l hl
        have := h _ _ (Gens.Mem.line 1 hl Gens.Mem.pt) Gens.Mem.pt
        rw [axpy_eq, dotF_add, dotF_smul, ← dot_eq_dotF e l] at this
        linarith

/-! ### certified congruence form, intersection, compression -/

theorem certCons_sem (n : Nat) (G : GridGens) (C : List Cg) (h : certCons n G = some C) (x : Pt) :
    Gen.sem G x ↔ CgSys.sem n C x := by
  unfold certCons at h
  simp only at h
  split at h
  · rename_i heq
    simp only [Option.some.injEq] at h
    subst h
    rw [← (equivB_iff _ _).mp heq x, consToGens_sem]
  · exact absurd h (by simp)

/-- a successful certified intersection is the intersection -/
theorem inter_sem (G H K : GridGens) (h : inter G H = some K) (x : Pt) :
    Gen.sem K x ↔ Gen.sem G x ∧ Gen.sem H x := by
  unfold inter at h
  cases hc : certCons (max G.maxLen H.maxLen) H with
  | none => simp [hc] at h
  | some C =>
    simp only [hc, Option.map_some, Option.some.injEq] at h
    subst h
    rw [intersectCons_sem, certCons_sem _ _ _ hc x]
    simp only [CgSys.sem]
    constructor
    · rintro ⟨h1, h2⟩
      exact ⟨h1, sem_supp G _ (le_max_left _ _) x h1, h2⟩
    · rintro ⟨h1, _, h2⟩; exact ⟨h1, h2⟩

theorem compress_sem (n : Nat) (G : GridGens) (x : Pt) : Gen.sem (compress n G) x ↔ Gen.sem G x := by
  unfold compress
  split
  · simp only
    split
    · rename_i heq; exact (equivB_iff _ _).mp heq x
    · rfl
  · rfl

/-! ### time-elapse -/

theorem timeElapse_contains (G H : GridGens) (p q : Pt) (μ : Int) (hp : Gen.sem G p) (hq : Gen.sem H q) :
    Gen.sem (timeElapse G H) (p + (μ : Rat) • q) := by
  cases G with
  | empty => exact absurd hp (by simp [Gen.sem])
  | gens g =>
    cases H with
    | empty => exact absurd hq (by simp [Gen.sem])
    | gens h =>
      simp only [timeElapse, Gen.sem] at *
      rw [mem_iff_gdir] at *
      simp only [GDir, List.map_cons, List.map_append] at *
      have e : p + (μ:Rat) • q - g.pt.toFun = (p - g.pt.toFun) + ((μ:Rat) • h.pt.toFun + (μ:Rat) • (q - h.pt.toFun)) := by
        module
      rw [e]
      refine Abs.Dir.add (Abs.Dir.mono_subset ?_ ?_ hp) (Abs.Dir.add ?_ (Abs.Dir.zsmul μ (Abs.Dir.mono_subset ?_ ?_ hq)))
      · exact fun z hz => List.mem_cons_of_mem _ (List.mem_append_left _ hz)
      · exact fun z hz => List.mem_append_left _ hz
      · exact Abs.Dir.zsmul μ (Abs.Dir.of_param List.mem_cons_self)
      · exact fun z hz => List.mem_cons_of_mem _ (List.mem_append_right _ hz)
      · exact fun z hz => List.mem_append_right _ hz

/-- `timeElapse G H` is below every grid containing all `p + μ q` -/
theorem timeElapse_least (G H K : GridGens)
    (hK : ∀ p q (μ : Int), Gen.sem G p → Gen.sem H q → Gen.sem K (p + (μ : Rat) • q))
    (x : Pt) (hx : Gen.sem (timeElapse G H) x) : Gen.sem K x := by
  cases G with
  | empty => exact absurd hx (by simp [timeElapse, Gen.sem])
  | gens g =>
    cases H with
    | empty => exact absurd hx (by simp [timeElapse, Gen.sem])
    | gens h =>
      simp only [timeElapse, Gen.sem] at hx
      have hgK : ∀ p, g.Mem p → Gen.sem K p := by
        intro p hp
        have := hK p _ 0 hp (Gens.Mem.pt (g := h))
        simpa using this
      have base : Gen.sem K g.pt.toFun := hgK _ Gens.Mem.pt
      -- directions available in K, as differences of members
      have hdir : ∀ (y : Pt) (q : Pt), Gen.sem K y → h.Mem q → ∀ k : Int, Gen.sem K (y + (k:Rat) • q) := by
        intro y q hy hq k
        have h1 := hK g.pt.toFun q 1 Gens.Mem.pt hq
        have := sem_affine K k hy h1 base
        have e : y + (k:Rat) • (g.pt.toFun + ((1:Int):Rat) • q - g.pt.toFun) = y + (k:Rat) • q := by
          push_cast; module
        rwa [e] at this
      induction hx with
      | pt => exact base
      | @param z q k hq _ ih =>
        rw [axpy_eq]
        simp only [List.mem_cons, List.mem_append] at hq
        rcases hq with rfl | hq | hq
        · exact hdir z _ ih Gens.Mem.pt k
        · have h1 := hgK _ (Gens.Mem.param 1 hq Gens.Mem.pt)
          rw [axpy_eq] at h1
          have := sem_affine K k ih h1 base
          have e : z + (k:Rat) • (g.pt.toFun + ((1:Int):Rat) • q.toFun - g.pt.toFun) = z + (k:Rat) • q.toFun := by
            push_cast; module
          rwa [e] at this
        · -- q is a parameter of h: (pt_h + q) - pt_h
          have h1 := hdir z _ ih (Gens.Mem.param 1 hq Gens.Mem.pt) k
          have h2 := hdir _ _ h1 (Gens.Mem.pt (g := h)) (-k)
          rw [axpy_eq] at h2
          have e : z + (k:Rat) • (h.pt.toFun + ((1:Int):Rat) • q.toFun) + ((-k : Int):Rat) • h.pt.toFun = z + (k:Rat) • q.toFun := by
            push_cast; module
          rw [axpy_eq] at h1
          rwa [e] at h2
      | @line z l d hl _ ih =>
        rw [axpy_eq]
        simp only [List.mem_append] at hl
        rcases hl with hl | hl
        · have h1 := hgK _ (Gens.Mem.line d hl Gens.Mem.pt)
          rw [axpy_eq] at h1
          have := sem_affine K 1 ih h1 base
          have e : z + ((1:Int):Rat) • (g.pt.toFun + d • l.toFun - g.pt.toFun) = z + d • l.toFun := by
            push_cast; module
          rwa [e] at this
        · have h1 := hdir z _ ih (Gens.Mem.line d hl Gens.Mem.pt) 1
          have h2 := hdir _ _ h1 (Gens.Mem.pt (g := h)) (-1)
          rw [axpy_eq] at h1 h2
          have e : z + ((1:Int):Rat) • (h.pt.toFun + d • l.toFun) + ((-1 : Int):Rat) • h.pt.toFun = z + d • l.toFun := by
            push_cast; module
          rwa [e] at h2

end PPLV.Lattice

import PPLV.Lattice.ProofsGridOpsConcatenate
import PPLV.Lattice.ProofsGridOpsAffinePreimage
import PPLV.Lattice.ProofsGridOpsConstruct

/-!
# The `Grid` object: adding space dimensions, congruence side

`add_space_dimensions_and_embed` pads the rows, `add_space_dimensions_and_project` puts unit equalities in front
(`add_unit_rows_and_space_dimensions`); both keep the triangular form recorded by `dim_kinds` when the new kinds are
`CON_VIRTUAL`, resp. `EQUALITY`.
-/
namespace PPLV.Lattice.GO
open PPLV.Lattice PPLV.Lattice.Red

/-! ## The congruence systems of `add_space_dimensions_and_embed/project` (`Congruence_System::set_space_dimension` to a larger dimension, `add_unit_rows_and_space_dimensions`, Congruence_System.cc:465) -/

/-- `S` of the `n`-space embedded in the `(n+m)`-space: the new coordinates are free -/
def cn_embedSet (n m : Nat) (S : Set Pt) : Set Pt := {y | Supp (n + m) y ∧ cn_fst n y ∈ S}

theorem cn_embedSet_empty (n m : Nat) : cn_embedSet n m ∅ = ∅ := by ext y; simp [cn_embedSet]

theorem cn_embedSet_space (m : Nat) : cn_embedSet 0 m (spaceSet 0) = spaceSet m := by
  ext y
  simp only [cn_embedSet, spaceSet, Set.mem_ofPred_eq, Nat.zero_add]
  exact ⟨fun h => h.1, fun h => ⟨h, cn_fst_supp 0 y⟩⟩

/-- the rows padded to a larger dimension: the embedding -/
theorem cn_pad_consSet (n m : Nat) (rows : List CRow) (hw : CWf n rows) :
    consSet (n + m) (rows.map (·.setSpaceDim (n + m))) = cn_embedSet n m (consSet n rows) := by
  ext y
  simp only [cn_mem_consSet, cn_embedSet, Set.mem_ofPred_eq, List.mem_map, forall_exists_index, and_imp,
    forall_apply_eq_imp_iff₂, cn_mem_set]
  constructor
  · rintro ⟨hy, hall⟩
    exact ⟨hy, cn_fst_supp n y, fun r hr => (cn_rsem_pad_fst n (n + m) r (hw r hr).1.le (by omega) y).mp (hall r hr)⟩
  · rintro ⟨hy, _, hall⟩
    exact ⟨hy, fun r hr => (cn_rsem_pad_fst n (n + m) r (hw r hr).1.le (by omega) y).mpr (hall r hr)⟩

theorem cn_CSys_setSpaceDim_rows (s : CSys) (k : Nat) (hk : s.dim ≠ k) :
    (s.setSpaceDim k).rows = s.rows.map (·.setSpaceDim k) := by
  unfold CSys.setSpaceDim; rw [if_pos hk]

/-- `con_sys.set_space_dimension(n + m)`: the embedding -/
theorem cn_CSys_embed_consSet (s : CSys) (m : Nat) (hm : 0 < m) (hw : CWf s.dim s.rows) :
    consSet (s.dim + m) (s.setSpaceDim (s.dim + m)).rows = cn_embedSet s.dim m (consSet s.dim s.rows) := by
  rw [cn_CSys_setSpaceDim_rows s _ (by omega), cn_pad_consSet s.dim m s.rows hw]

/-! ### `add_unit_rows_and_space_dimensions` -/

/-- the equality `x_j = 0` as `add_unit_rows_and_space_dimensions` writes it -/
def cn_unitRow (dim j : Nat) : CRow := { e := (List.replicate (dim + 1) 0).set (j + 1) 1, m := 0 }

theorem cn_unitRow_rsem (dim j : Nat) (hj : j < dim) (y : Pt) : rsem (cn_unitRow dim j) y ↔ y j = 0 := by
  unfold rsem cn_unitRow
  simp only
  rw [cn_evalRow_set _ y j 1 (by simp; omega)]
  have hz : evalRow (List.replicate (dim + 1) 0) y = 0 := by
    unfold evalRow; exact dotF_ratRow_zero _ _ (fun i => by
      unfold Red.get; simp [List.getD_eq_getElem?_getD, List.getElem?_replicate]; split <;> rfl)
  have hg : Red.get (List.replicate (dim + 1) (0 : Int)) (j + 1) = 0 := by
    unfold Red.get; simp [List.getD_eq_getElem?_getD, List.getElem?_replicate]; split <;> rfl
  rw [hz, hg]
  simp

theorem cn_addUnitRows_eq (s : CSys) (m : Nat) (hm : 0 < m) :
    (s.addUnitRowsAndSpaceDimensions m).dim = s.dim + m ∧
    (s.addUnitRowsAndSpaceDimensions m).rows =
      (List.range m).map (fun row => cn_unitRow (s.dim + m) (s.dim + m - row - 1)) ++
        s.rows.map (·.setSpaceDim (s.dim + m)) := by
  unfold CSys.addUnitRowsAndSpaceDimensions
  simp only [CSys_setSpaceDim_dim, cn_CSys_setSpaceDim_rows s _ (show s.dim ≠ s.dim + m by omega)]
  trivial

theorem cn_addUnitRows_CWf (s : CSys) (m : Nat) (hm : 0 < m) (hw : CWf s.dim s.rows) :
    CWf (s.dim + m) (s.addUnitRowsAndSpaceDimensions m).rows := by
  rw [(cn_addUnitRows_eq s m hm).2]
  refine cn_CWf_append _ _ _ ?_ (cn_CWf_map_setSpaceDim _ _ (fun r hr => (hw r hr).2))
  intro r hr
  obtain ⟨row, _, rfl⟩ := List.mem_map.mp hr
  exact ⟨by simp [cn_unitRow], le_refl _⟩

/-- `add_unit_rows_and_space_dimensions(m)`: the same points (the new coordinates are zero) -/
theorem cn_addUnitRows_consSet (s : CSys) (m : Nat) (hm : 0 < m) (hw : CWf s.dim s.rows) :
    consSet (s.dim + m) (s.addUnitRowsAndSpaceDimensions m).rows = consSet s.dim s.rows := by
  rw [(cn_addUnitRows_eq s m hm).2]
  ext y
  simp only [cn_mem_consSet, List.mem_append, List.mem_map, List.mem_range, cn_mem_set]
  constructor
  · rintro ⟨hy, hall⟩
    have hsupp : Supp s.dim y := by
      intro i hi
      by_cases hi2 : s.dim + m ≤ i
      · exact hy i hi2
      · have := hall (cn_unitRow (s.dim + m) (s.dim + m - (s.dim + m - i - 1) - 1))
          (Or.inl ⟨s.dim + m - i - 1, by omega, rfl⟩)
        rw [cn_unitRow_rsem _ _ (by omega)] at this
        have he : s.dim + m - (s.dim + m - i - 1) - 1 = i := by omega
        rw [he] at this; exact this
    refine ⟨hsupp, fun r hr => ?_⟩
    have := hall (r.setSpaceDim (s.dim + m)) (Or.inr ⟨r, hr, rfl⟩)
    rw [cn_rsem_pad_fst s.dim _ r (hw r hr).1.le (by omega) y, cn_fst_of_supp s.dim y hsupp] at this
    exact this
  · rintro ⟨hy, hall⟩
    refine ⟨fun i hi => hy i (by omega), fun r' hr' => ?_⟩
    rcases hr' with ⟨row, hrow, rfl⟩ | ⟨r, hr, rfl⟩
    · rw [cn_unitRow_rsem _ _ (by omega)]; exact hy _ (by omega)
    · rw [cn_rsem_pad_fst s.dim _ r (hw r hr).1.le (by omega) y, cn_fst_of_supp s.dim y hy]; exact hall r hr

example : ((CSys.mk 1 [{ e := [0, 1], m := 2 }]).addUnitRowsAndSpaceDimensions 2).rows =
    [{ e := [0, 0, 0, 1], m := 0 }, { e := [0, 0, 1, 0], m := 0 }, { e := [0, 1, 0, 0], m := 2 }] := by decide

/-! ### `std::vector::resize(n, val)` on `dim_kinds` -/

theorem cn_resizeKindsWith_length (dk : List Nat) (k val : Nat) : (resizeKindsWith dk k val).length = k := by
  unfold resizeKindsWith; simp; omega

theorem cn_resizeKindsWith_kind (dk : List Nat) (k val i : Nat) (hi : i < dk.length) (hk : dk.length ≤ k) :
    kind (resizeKindsWith dk k val) i = kind dk i := by
  unfold resizeKindsWith kind
  rw [List.take_of_length_le hk, List.getD_eq_getElem?_getD, List.getD_eq_getElem?_getD, List.getElem?_append_left hi]

theorem cn_resizeKindsWith_kind_new (dk : List Nat) (k val i : Nat) (hi : dk.length ≤ i) (hk : i < k) :
    kind (resizeKindsWith dk k val) i = val := by
  unfold resizeKindsWith kind
  rw [List.take_of_length_le (by omega), List.getD_eq_getElem?_getD, List.getElem?_append_right hi,
    List.getElem?_replicate, if_pos (by omega)]
  rfl

/-- counting the dimensions whose kind is not `c` below `k` in the resized vector: the old count, plus every new position
    when the new kind is not `c` -/
theorem cn_cntBelow_resize (c : Nat) (dk : List Nat) (n m val : Nat) (hdk : dk.length = n + 1) :
    ∀ k, k ≤ n + m + 1 → cntBelow (fun d => kind (resizeKindsWith dk (n + m + 1) val) d != c) k =
      cntBelow (fun d => kind dk d != c) (min k (n + 1)) + (if val != c then k - (n + 1) else 0)
  | 0, _ => by simp [cntBelow]
  | k + 1, hk => by
    show cntBelow _ k + (if (kind (resizeKindsWith dk (n + m + 1) val) k != c) = true then 1 else 0) = _
    rw [cn_cntBelow_resize c dk n m val hdk k (by omega)]
    by_cases hkn : k < n + 1
    · rw [cn_resizeKindsWith_kind dk _ _ k (by omega) (by omega), show min (k + 1) (n + 1) = k + 1 by omega,
        show min k (n + 1) = k by omega, show k - (n + 1) = 0 by omega, show k + 1 - (n + 1) = 0 by omega, ite_self]
      rfl
    · rw [cn_resizeKindsWith_kind_new dk _ _ k (by omega) (by omega), show min (k + 1) (n + 1) = n + 1 by omega,
        show min k (n + 1) = n + 1 by omega]
      split <;> omega

theorem nl_resize (dk : List Nat) (n m val k : Nat) (hdk : dk.length = n + 1) (hk : k ≤ n + m + 1) :
    nl (resizeKindsWith dk (n + m + 1) val) k = nl dk (min k (n + 1)) + (if val != LINE then k - (n + 1) else 0) :=
  cn_cntBelow_resize LINE dk n m val hdk k hk

theorem nv_resize (dk : List Nat) (n m val k : Nat) (hdk : dk.length = n + 1) (hk : k ≤ n + m + 1) :
    nv (resizeKindsWith dk (n + m + 1) val) k = nv dk (min k (n + 1)) + (if val != GEN_VIRTUAL then k - (n + 1) else 0) :=
  cn_cntBelow_resize GEN_VIRTUAL dk n m val hdk k hk

/-- A grid of positive dimension `n` carried to dimension `n + m` with its status: the up-to-date systems become `con`,
    `gen`, and `dim_kinds` becomes `dk`, the old one resized with kind `k` whenever a description is minimized.  The
    invariant then asks only for the facts about the new rows.  Both add-dimensions operations, in each of their flag
    cases, are instances. -/
theorem inv_grow {g : Grid} (hI : GridInv g) (he : g.st.empty = false) (hpos : 0 < g.spaceDim) (m k cd gd : Nat)
    (con : List CRow) (gen : List GRow) (dk : List Nat)
    (hdk : g.st.cMin = true ∨ g.st.gMin = true → dk = resizeKindsWith g.dk (g.spaceDim + m + 1) k)
    (hcwf : g.st.cUp = true → cd = g.spaceDim + m ∧ CWf (g.spaceDim + m) con)
    (hgwf : g.st.gUp = true → gd = g.spaceDim + m ∧ GWf (g.spaceDim + m) gen ∧
      GNorm (g.spaceDim + m) (firstPointDiv gen) gen)
    (hag : g.st.cUp = true → g.st.gUp = true → consSet (g.spaceDim + m) con = gensSet (g.spaceDim + m) gen)
    (hlt : g.st.cMin = true → lowerTriangular (g.spaceDim + m) con (resizeKindsWith g.dk (g.spaceDim + m + 1) k) = true)
    (hcc : g.st.cMin = true → g.st.gUp = false →
      CgKindsOK (g.spaceDim + m) con (resizeKindsWith g.dk (g.spaceDim + m + 1) k))
    (hut : g.st.gMin = true → upperTriangular (g.spaceDim + m) gen (resizeKindsWith g.dk (g.spaceDim + m + 1) k) = true)
    (hgc : g.st.gMin = true → g.st.cUp = false →
      ConvG (g.spaceDim + m) gen (resizeKindsWith g.dk (g.spaceDim + m + 1) k)) :
    GridInv ⟨g.spaceDim + m, g.st, cd, con, gd, gen, dk⟩ := by
  -- the length of the resized vector and its entry 0, which is an old one
  have hk : ∀ K, g.st.cMin = true ∨ g.st.gMin = true → g.dk.length = g.spaceDim + 1 → kind g.dk 0 = K →
      dk.length = g.spaceDim + m + 1 ∧ kind dk 0 = K := fun K h hl h0 => by
    rw [hdk h, cn_resizeKindsWith_kind _ _ _ _ (by omega) (by omega)]
    exact ⟨cn_resizeKindsWith_length _ _ _, h0⟩
  refine inv_of_pos _ he (Nat.add_pos_left hpos m) (hI.hi0 he) (hI.some he hpos) hI.cminUp hI.gminUp hcwf hgwf hag
    (fun h => ?_) (fun h h' => ?_) (fun h => ?_) (fun h h' => ?_)
  · obtain ⟨hl, _, h0⟩ := hI.cmin he hpos h
    obtain ⟨a, b⟩ := hk _ (Or.inl h) hl h0
    refine ⟨a, ?_, b⟩
    show lowerTriangular _ con dk = true
    rw [hdk (Or.inl h)]; exact hlt h
  · show CgKindsOK _ con dk
    rw [hdk (Or.inl h)]; exact hcc h h'
  · obtain ⟨hl, _, h0⟩ := hI.gmin he hpos h
    obtain ⟨a, b⟩ := hk _ (Or.inr h) hl h0
    refine ⟨a, ?_, b⟩
    show upperTriangular _ gen dk = true
    rw [hdk (Or.inr h)]; exact hut h
  · show ConvG _ gen dk
    rw [hdk (Or.inr h)]; exact hgc h h'

/-! ## `add_space_dimensions_and_embed(m)` (Grid_chdims.cc:77), `add_space_dimensions_and_project(m)` (Grid_chdims.cc:154)

Cases: `m = 0`; marked empty; dimension 0 (the universe constructor, `constructUniv_spec`); only the
congruences up to date; the cases with up-to-date generators are in `ProofsGridOpsAddDims`.  Each case of positive dimension is an instance of
`inv_grow`: what remains per case is the shape of the new rows and, for minimized descriptions, their triangular form
with the resized `dim_kinds` (second half of this file).  In the model a point is a valuation
that is zero outside the space, so "the new coordinates are 0" (project) is the SAME point set in a larger space.
-/

/-- `Grid(m, UNIVERSE)` for `m > 0` -/
theorem constructUniv_spec (m : Nat) (hm : 0 < m) :
    GridInv (constructDeg m true) ∧ (constructDeg m true).sem = spaceSet m ∧ (constructDeg m true).spaceDim = m :=
  ⟨(constructDeg_univ_spec m hm).1, (constructDeg_univ_spec m hm).2.1, constructDeg_spaceDim m true⟩

theorem cn_embedSet_zero (n : Nat) (S : Set Pt) (hS : S ⊆ spaceSet n) : cn_embedSet n 0 S = S := by
  ext y
  simp only [cn_embedSet, Set.mem_ofPred_eq, Nat.add_zero]
  constructor
  · rintro ⟨hy, h⟩; rwa [cn_fst_of_supp n y hy] at h
  · intro h; have hy : Supp n y := hS h; exact ⟨hy, by rwa [cn_fst_of_supp n y hy]⟩

/-- up-to-date congruences as a `CSys` -/
theorem cn_cs_wf {g : Grid} (hI : GridInv g) (he : g.st.empty = false) (hpos : 0 < g.spaceDim) (hc : g.st.cUp = true) :
    g.cs.dim = g.spaceDim ∧ CWf g.cs.dim g.cs.rows :=
  have h := hI.cwf he hpos hc
  ⟨h.1, by rw [show g.cs.dim = g.spaceDim from h.1]; exact h.2⟩

/-- the congruence system embed leaves -/
theorem cn_embed_cs {g : Grid} (hI : GridInv g) (he : g.st.empty = false) (hpos : 0 < g.spaceDim) (hc : g.st.cUp = true)
    (m : Nat) (hm : 0 < m) :
    (g.cs.setSpaceDim (g.spaceDim + m)).rows = g.con.map (·.setSpaceDim (g.spaceDim + m)) ∧
    CWf (g.spaceDim + m) (g.cs.setSpaceDim (g.spaceDim + m)).rows ∧
    consSet (g.spaceDim + m) (g.cs.setSpaceDim (g.spaceDim + m)).rows = cn_embedSet g.spaceDim m g.sem := by
  obtain ⟨hcd, hw⟩ := cn_cs_wf hI he hpos hc
  have := cn_CSys_embed_consSet g.cs m hm hw
  rw [hcd] at this
  exact ⟨cn_CSys_setSpaceDim_rows g.cs _ (by rw [hcd]; omega), cn_CSys_setSpaceDim_CWf g.cs _ hw,
    by rw [this, sem_of_cUp hI he hpos hc]; rfl⟩

/-- the congruence system project leaves -/
theorem cn_project_cs {g : Grid} (hI : GridInv g) (he : g.st.empty = false) (hpos : 0 < g.spaceDim) (hc : g.st.cUp = true)
    (m : Nat) (hm : 0 < m) :
    (g.cs.addUnitRowsAndSpaceDimensions m).dim = g.spaceDim + m ∧
    CWf (g.spaceDim + m) (g.cs.addUnitRowsAndSpaceDimensions m).rows ∧
    consSet (g.spaceDim + m) (g.cs.addUnitRowsAndSpaceDimensions m).rows = g.sem := by
  obtain ⟨hcd, hw⟩ := cn_cs_wf hI he hpos hc
  have h1 := cn_addUnitRows_CWf g.cs m hm hw
  have h2 := cn_addUnitRows_consSet g.cs m hm hw
  rw [hcd] at h1 h2
  exact ⟨by rw [(cn_addUnitRows_eq g.cs m hm).1, hcd], h1, by rw [h2, sem_of_cUp hI he hpos hc]; rfl⟩

/-- only the congruences up to date: `inv_grow` without its generator side; `S` is what the new rows describe -/
theorem cn_inv_grow_con {g : Grid} (hI : GridInv g) (he : g.st.empty = false) (hpos : 0 < g.spaceDim)
    (hg : g.st.gUp = false) (m k cd : Nat) (con : List CRow) (dk : List Nat) (S : Set Pt)
    (hdk : g.st.cMin = true → dk = resizeKindsWith g.dk (g.spaceDim + m + 1) k)
    (hcd : cd = g.spaceDim + m) (hw : CWf (g.spaceDim + m) con) (hS : consSet (g.spaceDim + m) con = S)
    (hTri : g.st.cMin = true →
      lowerTriangular (g.spaceDim + m) con (resizeKindsWith g.dk (g.spaceDim + m + 1) k) = true ∧
      CgKindsOK (g.spaceDim + m) con (resizeKindsWith g.dk (g.spaceDim + m + 1) k)) :
    GridInv ⟨g.spaceDim + m, g.st, cd, con, g.genDim, g.gen, dk⟩ ∧
      Grid.sem ⟨g.spaceDim + m, g.st, cd, con, g.genDim, g.gen, dk⟩ = S ∧
      Grid.spaceDim ⟨g.spaceDim + m, g.st, cd, con, g.genDim, g.gen, dk⟩ = g.spaceDim + m :=
  have hg' := Bool.eq_false_iff.mp hg
  have hgm : ¬ g.st.gMin = true := fun h => hg' (hI.gminUp h)
  ⟨inv_grow hI he hpos m k cd _ con _ dk (fun h => hdk (h.resolve_right hgm)) (fun _ => ⟨hcd, hw⟩)
    (fun h => absurd h hg') (fun _ h => absurd h hg') (fun h => (hTri h).1) (fun h _ => (hTri h).2)
    (fun h => absurd h hgm) (fun h => absurd h hgm),
   (sem_of_not_gUp (g := ⟨g.spaceDim + m, g.st, cd, con, g.genDim, g.gen, dk⟩) he (Nat.add_pos_left hpos m) hg).trans hS, rfl⟩

/-- only the generators up to date: `inv_grow` without its congruence side -/
theorem cn_inv_grow_gen {g : Grid} (hI : GridInv g) (he : g.st.empty = false) (hpos : 0 < g.spaceDim)
    (hc : g.st.cUp = false) (m k gd : Nat) (gen : List GRow) (dk : List Nat) (S : Set Pt)
    (hdk : g.st.gMin = true → dk = resizeKindsWith g.dk (g.spaceDim + m + 1) k)
    (hgd : gd = g.spaceDim + m) (hw : GWf (g.spaceDim + m) gen) {D : Int} (hN : GNorm (g.spaceDim + m) D gen)
    (hS : gensSet (g.spaceDim + m) gen = S)
    (hTri : g.st.gMin = true →
      upperTriangular (g.spaceDim + m) gen (resizeKindsWith g.dk (g.spaceDim + m + 1) k) = true ∧
      ConvG (g.spaceDim + m) gen (resizeKindsWith g.dk (g.spaceDim + m + 1) k)) :
    GridInv ⟨g.spaceDim + m, g.st, g.conDim, g.con, gd, gen, dk⟩ ∧
      Grid.sem ⟨g.spaceDim + m, g.st, g.conDim, g.con, gd, gen, dk⟩ = S ∧
      Grid.spaceDim ⟨g.spaceDim + m, g.st, g.conDim, g.con, gd, gen, dk⟩ = g.spaceDim + m :=
  have hc' := Bool.eq_false_iff.mp hc
  have hcm : ¬ g.st.cMin = true := fun h => hc' (hI.cminUp h)
  ⟨inv_grow hI he hpos m k _ gd _ gen dk (fun h => hdk (h.resolve_left hcm)) (fun h => absurd h hc')
    (fun _ => ⟨hgd, hw, gnorm_firstPointDiv hN⟩) (fun h => absurd h hc') (fun h => absurd h hcm)
    (fun h => absurd h hcm) (fun h => (hTri h).1) (fun h _ => (hTri h).2),
   (sem_of_gUp (g := ⟨g.spaceDim + m, g.st, g.conDim, g.con, gd, gen, dk⟩) he (Nat.add_pos_left hpos m)
      (gUp_of_not_cUp (g := g) hI he hpos hc)).trans hS, rfl⟩

/-- both descriptions up to date: the new systems describe the same set `S` -/
theorem inv_grow_both {g : Grid} (hI : GridInv g) (he : g.st.empty = false) (hpos : 0 < g.spaceDim)
    (hc : g.st.cUp = true) (hg : g.st.gUp = true) (m k cd gd : Nat) (con : List CRow) (gen : List GRow)
    (dk : List Nat) (S : Set Pt)
    (hdk : g.st.cMin = true ∨ g.st.gMin = true → dk = resizeKindsWith g.dk (g.spaceDim + m + 1) k)
    (hcd : cd = g.spaceDim + m) (hcw : CWf (g.spaceDim + m) con)
    (hgd : gd = g.spaceDim + m) (hgw : GWf (g.spaceDim + m) gen) {D : Int} (hN : GNorm (g.spaceDim + m) D gen)
    (hSc : consSet (g.spaceDim + m) con = S) (hSg : gensSet (g.spaceDim + m) gen = S)
    (hlt : g.st.cMin = true → lowerTriangular (g.spaceDim + m) con (resizeKindsWith g.dk (g.spaceDim + m + 1) k) = true)
    (hut : g.st.gMin = true → upperTriangular (g.spaceDim + m) gen (resizeKindsWith g.dk (g.spaceDim + m + 1) k) = true) :
    GridInv ⟨g.spaceDim + m, g.st, cd, con, gd, gen, dk⟩ ∧
      Grid.sem ⟨g.spaceDim + m, g.st, cd, con, gd, gen, dk⟩ = S ∧
      Grid.spaceDim ⟨g.spaceDim + m, g.st, cd, con, gd, gen, dk⟩ = g.spaceDim + m :=
  ⟨inv_grow hI he hpos m k cd gd con gen dk hdk (fun _ => ⟨hcd, hcw⟩) (fun _ => ⟨hgd, hgw, gnorm_firstPointDiv hN⟩)
    (fun _ _ => hSc.trans hSg.symm) hlt (fun _ h => absurd hg (Bool.eq_false_iff.mp h)) hut
    (fun _ h => absurd hc (Bool.eq_false_iff.mp h)),
   (sem_of_gUp (g := ⟨g.spaceDim + m, g.st, cd, con, gd, gen, dk⟩) he (Nat.add_pos_left hpos m) hg).trans hSg, rfl⟩

/-! ### embed -/

theorem cn_embed_zero (g : Grid) (hI : GridInv g) :
    addSpaceDimensionsAndEmbed g 0 = g ∧ cn_embedSet g.spaceDim 0 g.sem = g.sem :=
  ⟨by unfold addSpaceDimensionsAndEmbed; rw [if_pos rfl], cn_embedSet_zero _ _ (cn_sem_subset_space g hI)⟩

theorem cn_embed_empty (g : Grid) (m : Nat) (hm : 0 < m) (he : g.st.empty = true) :
    GridInv (addSpaceDimensionsAndEmbed g m) ∧
      (addSpaceDimensionsAndEmbed g m).sem = cn_embedSet g.spaceDim m g.sem ∧
      (addSpaceDimensionsAndEmbed g m).spaceDim = g.spaceDim + m := by
  unfold addSpaceDimensionsAndEmbed
  rw [if_neg (by omega), if_pos (show g.markedEmpty = true from he)]
  exact ⟨setEmpty_inv _, by rw [setEmpty_sem, sem_of_empty he, cn_embedSet_empty], rfl⟩

theorem cn_embed_zdim (g : Grid) (m : Nat) (hm : 0 < m) (he : g.st.empty = false)
    (h0 : g.spaceDim = 0) :
    GridInv (addSpaceDimensionsAndEmbed g m) ∧
      (addSpaceDimensionsAndEmbed g m).sem = cn_embedSet g.spaceDim m g.sem ∧
      (addSpaceDimensionsAndEmbed g m).spaceDim = g.spaceDim + m := by
  unfold addSpaceDimensionsAndEmbed
  rw [if_neg (by omega), if_neg (show ¬ (g.markedEmpty = true) by simpa [Grid.markedEmpty] using he), if_pos h0]
  obtain ⟨a, b, c⟩ := constructUniv_spec m hm
  exact ⟨a, by rw [b, sem_of_zdim he h0, h0, cn_embedSet_space], by rw [c, h0, Nat.zero_add]⟩

/-- the result of `add_space_dimensions_and_embed` when only the congruences are up to date -/
def cn_embedCon (g : Grid) (m : Nat) : Grid :=
  { spaceDim := g.spaceDim + m, st := g.st, conDim := (g.cs.setSpaceDim (g.conDim + m)).dim,
    con := (g.cs.setSpaceDim (g.conDim + m)).rows, genDim := g.genDim, gen := g.gen,
    dk := if g.congruencesAreMinimized then resizeKindsWith g.dk ((g.cs.setSpaceDim (g.conDim + m)).dim + 1) CON_VIRTUAL
          else g.dk }

theorem cn_embed_eq_con (g : Grid) (m : Nat) (hm : 0 < m) (he : g.st.empty = false) (hpos : 0 < g.spaceDim)
    (hc : g.st.cUp = true) (hg : g.st.gUp = false) : addSpaceDimensionsAndEmbed g m = cn_embedCon g m := by
  unfold addSpaceDimensionsAndEmbed
  rw [if_neg (by omega), if_neg (show ¬ (g.markedEmpty = true) by simpa [Grid.markedEmpty] using he),
    if_neg (by omega)]
  dsimp only
  rw [if_pos (show g.congruencesAreUpToDate = true from hc),
    if_neg (show ¬ (g.generatorsAreUpToDate = true) by simpa [Grid.generatorsAreUpToDate] using hg)]
  rfl

example : (addSpaceDimensionsAndEmbed cn_exGrid 2).con = [{ e := [0, 1, 0, 0], m := 2 }] ∧
    (addSpaceDimensionsAndEmbed cn_exGrid 2).spaceDim = 3 := by decide

/-! ### project -/

theorem cn_project_zero (g : Grid) : addSpaceDimensionsAndProject g 0 = g := by
  unfold addSpaceDimensionsAndProject; rw [if_pos rfl]

theorem cn_project_empty (g : Grid) (m : Nat) (hm : 0 < m) (he : g.st.empty = true) :
    GridInv (addSpaceDimensionsAndProject g m) ∧ (addSpaceDimensionsAndProject g m).sem = g.sem ∧
      (addSpaceDimensionsAndProject g m).spaceDim = g.spaceDim + m := by
  unfold addSpaceDimensionsAndProject
  rw [if_neg (by omega), if_pos (show g.markedEmpty = true from he)]
  exact ⟨setEmpty_inv _, by rw [setEmpty_sem, sem_of_empty he], rfl⟩

/-- project in dimension 0, what the MODEL (and the library, KF-C05-9) does: the universe of dimension `m` -/
theorem cn_project_zdim (g : Grid) (m : Nat) (hm : 0 < m) (he : g.st.empty = false)
    (h0 : g.spaceDim = 0) :
    GridInv (addSpaceDimensionsAndProject g m) ∧ (addSpaceDimensionsAndProject g m).sem = spaceSet m ∧
      (addSpaceDimensionsAndProject g m).spaceDim = g.spaceDim + m := by
  unfold addSpaceDimensionsAndProject
  rw [if_neg (by omega), if_neg (show ¬ (g.markedEmpty = true) by simpa [Grid.markedEmpty] using he), if_pos h0]
  obtain ⟨a, b, c⟩ := constructUniv_spec m hm
  exact ⟨a, b, by rw [c, h0, Nat.zero_add]⟩

/-- … which is NOT the documented result (the origin only): the point `(1, 0, …)` belongs to it -/
theorem cn_project_zero_dim_fails (g : Grid) (m : Nat) (hm : 0 < m) (he : g.st.empty = false)
    (h0 : g.spaceDim = 0) : (addSpaceDimensionsAndProject g m).sem ≠ g.sem := by
  rw [(cn_project_zdim g m hm he h0).2.1, sem_of_zdim he h0]
  intro h
  have h1 : (fun i => if i = 0 then (1 : ℚ) else 0) ∈ spaceSet m := by
    intro i hi; simp; omega
  rw [h] at h1
  have := h1 0 (le_refl _)
  simp at this

/-- the result of `add_space_dimensions_and_project` when only the congruences are up to date -/
def cn_projectCon (g : Grid) (m : Nat) : Grid :=
  { spaceDim := g.spaceDim + m, st := g.st, conDim := (g.cs.addUnitRowsAndSpaceDimensions m).dim,
    con := (g.cs.addUnitRowsAndSpaceDimensions m).rows, genDim := g.genDim, gen := g.gen,
    dk := if g.congruencesAreMinimized then
            resizeKindsWith g.dk ((g.cs.addUnitRowsAndSpaceDimensions m).dim + 1) EQUALITY else g.dk }

theorem cn_project_eq_con (g : Grid) (m : Nat) (hm : 0 < m) (he : g.st.empty = false) (hpos : 0 < g.spaceDim)
    (hc : g.st.cUp = true) (hg : g.st.gUp = false) : addSpaceDimensionsAndProject g m = cn_projectCon g m := by
  unfold addSpaceDimensionsAndProject
  rw [if_neg (by omega), if_neg (show ¬ (g.markedEmpty = true) by simpa [Grid.markedEmpty] using he),
    if_neg (by omega)]
  dsimp only
  rw [if_pos (show g.congruencesAreUpToDate = true from hc),
    if_neg (show ¬ (g.generatorsAreUpToDate = true) by simpa [Grid.generatorsAreUpToDate] using hg)]
  rfl

example : (addSpaceDimensionsAndProject cn_exGrid 1).con = [{ e := [0, 0, 1], m := 0 }, { e := [0, 1, 0], m := 2 }] := by
  decide

/-! ## `add_space_dimensions_and_embed` with MINIMIZED congruences — the padded rows are in the triangular form of `dim_kinds` resized with `CON_VIRTUAL` -/

theorem cn_foldl_ext {α β : Type} (f g : α → β → α) (l : List β) (a : α) (h : ∀ a, ∀ b ∈ l, f a b = g a b) :
    l.foldl f a = l.foldl g a := by
  induction l generalizing a with
  | nil => rfl
  | cons b l ih =>
    simp only [List.foldl_cons]
    rw [h a b (List.mem_cons_self ..)]
    exact ih _ (fun a b' hb' => h a b' (List.mem_cons_of_mem _ hb'))

/-- the step of `lower_triangular` -/
def cn_ltStep (numColumns : Nat) (sys : List CRow) (dk : List Nat) (st : Nat × Bool) (dim : Nat) : Nat × Bool :=
  if !st.2 then st
  else if kind dk dim = CON_VIRTUAL then st
  else
    let cg := rowAt sys st.1
    if Red.get cg.e dim ≤ 0 then (st.1 + 1, false)
    else if !allZeroes cg.e (dim + 1) numColumns then (st.1 + 1, false)
    else (st.1 + 1, true)

theorem cn_lowerTriangular_eq (n : Nat) (sys : List CRow) (dk : List Nat) :
    lowerTriangular n sys dk =
      if sys.length > n + 1 then false
      else ((dimsDown (n + 1)).foldl (cn_ltStep (n + 1) sys dk) (0, true)).2 &&
        ((dimsDown (n + 1)).foldl (cn_ltStep (n + 1) sys dk) (0, true)).1 == sys.length := rfl

theorem cn_allZeroes_iff (x : Row) (s t : Nat) :
    allZeroes x s t = true ↔ ∀ i, i < x.length → s ≤ i → i < t → Red.get x i = 0 := by
  unfold allZeroes
  simp only [List.all_eq_true, List.mem_range, Bool.or_eq_true, Bool.not_eq_true', decide_eq_false_iff_not, beq_iff_eq]
  constructor
  · intro h i hi hs ht
    rcases h i hi with h' | h'
    · exact absurd ⟨hs, ht⟩ h'
    · exact h'
  · intro h i hi
    by_cases hc : s ≤ i ∧ i < t
    · exact Or.inr (h i hi hc.1 hc.2)
    · exact Or.inl hc

/-- padding a row with zeros does not change the "all zeroes to the right" test -/
theorem cn_allZeroes_pad (e : Row) (n m d : Nat) (hl : e.length = n + 1) :
    allZeroes (resizeRow e (n + m + 1)) (d + 1) (n + m + 1) = allZeroes e (d + 1) (n + 1) := by
  rw [Bool.eq_iff_iff, cn_allZeroes_iff, cn_allZeroes_iff, length_resizeRow]
  constructor
  · intro h i hi hs _
    have := h i (by omega) hs (by omega)
    rwa [get_resizeRow, if_pos (by omega)] at this
  · intro h i hi hs _
    rw [get_resizeRow, if_pos hi]
    by_cases hin : i < n + 1
    · exact h i (by omega) hs hin
    · exact get_of_length_le e i (by omega)

theorem cn_rowAt_map_pad (rows : List CRow) (k i : Nat) :
    (i < rows.length ∧ rowAt (rows.map (·.setSpaceDim k)) i = (rowAt rows i).setSpaceDim k) ∨
    (rows.length ≤ i ∧ rowAt (rows.map (·.setSpaceDim k)) i = default ∧ rowAt rows i = default) := by
  by_cases hi : i < rows.length
  · exact Or.inl ⟨hi, rowAt_map rows _ i hi⟩
  · refine Or.inr ⟨by omega, ?_, ?_⟩
    · unfold rowAt; rw [List.getD_eq_getElem?_getD, List.getElem?_eq_none (by simp; omega)]; rfl
    · unfold rowAt; rw [List.getD_eq_getElem?_getD, List.getElem?_eq_none (by omega)]; rfl

/-- padding keeps the modulus of every row and the inhomogeneous term -/
theorem cn_rowAt_map_pad_m (rows : List CRow) (k i : Nat) :
    (rowAt (rows.map (fun r : CRow => r.setSpaceDim k)) i).m = (rowAt rows i).m := by
  rcases cn_rowAt_map_pad rows k i with ⟨_, h⟩ | ⟨_, h1, h2⟩
  · rw [h]; rfl
  · rw [h1, h2]

theorem cn_rowAt_map_pad_get0 (rows : List CRow) (k i : Nat) :
    Red.get (rowAt (rows.map (fun r : CRow => r.setSpaceDim k)) i).e 0 = Red.get (rowAt rows i).e 0 := by
  rcases cn_rowAt_map_pad rows k i with ⟨_, h⟩ | ⟨_, h1, h2⟩
  · rw [h]
    show Red.get (resizeRow _ _) 0 = _
    rw [get_resizeRow, if_pos (by omega)]
  · rw [h1, h2]

/-- on the old dimensions the step on the padded system is the step on the original one, whatever the new kind -/
theorem cn_ltStep_pad (n m val : Nat) (rows : List CRow) (dk : List Nat) (hw : CWf n rows) (hdk : dk.length = n + 1)
    (st : Nat × Bool) (d : Nat) (hd : d < n + 1) :
    cn_ltStep (n + m + 1) (rows.map (·.setSpaceDim (n + m))) (resizeKindsWith dk (n + m + 1) val) st d =
      cn_ltStep (n + 1) rows dk st d := by
  unfold cn_ltStep
  rw [cn_resizeKindsWith_kind dk _ _ d (by omega) (by omega)]
  rcases cn_rowAt_map_pad rows (n + m) st.1 with ⟨hi, h⟩ | ⟨_, h1, h2⟩
  · rw [h]
    have hl := (hw _ (rowAt_mem rows st.1 hi)).1
    have hget : Red.get ((rowAt rows st.1).setSpaceDim (n + m)).e d = Red.get (rowAt rows st.1).e d := by
      show Red.get (resizeRow _ _) d = _
      rw [get_resizeRow, if_pos (by omega)]
    have hall : allZeroes ((rowAt rows st.1).setSpaceDim (n + m)).e (d + 1) (n + m + 1) =
        allZeroes (rowAt rows st.1).e (d + 1) (n + 1) := cn_allZeroes_pad _ n m d hl
    simp only [hget, hall]
  · rw [h1, h2]
    have : Red.get (default : CRow).e d ≤ 0 := by
      show Red.get [] d ≤ 0; rw [get_of_length_le [] d (by simp)]
    simp only [if_pos this]

/-- on a new dimension (`CON_VIRTUAL`) the step does nothing -/
theorem cn_ltStep_virtual (nc : Nat) (sys : List CRow) (dk : List Nat) (st : Nat × Bool) (d : Nat)
    (h : kind dk d = CON_VIRTUAL) : cn_ltStep nc sys dk st d = st := by
  unfold cn_ltStep; split
  · rfl
  · rfl

theorem cn_lt_fold_pad (n : Nat) (rows : List CRow) (dk : List Nat) (hw : CWf n rows) (hdk : dk.length = n + 1) (m : Nat) :
    (dimsDown (n + m + 1)).foldl (cn_ltStep (n + m + 1) (rows.map (·.setSpaceDim (n + m)))
        (resizeKindsWith dk (n + m + 1) CON_VIRTUAL)) (0, true) =
      (dimsDown (n + 1)).foldl (cn_ltStep (n + 1) rows dk) (0, true) := by
  have key : ∀ j, j ≤ m → (dimsDown (n + 1 + j)).foldl (cn_ltStep (n + m + 1) (rows.map (·.setSpaceDim (n + m)))
        (resizeKindsWith dk (n + m + 1) CON_VIRTUAL)) (0, true) =
      (dimsDown (n + 1)).foldl (cn_ltStep (n + 1) rows dk) (0, true) := by
    intro j
    induction j with
    | zero =>
      intro _
      exact cn_foldl_ext _ _ _ _ (fun a b hb => cn_ltStep_pad n m CON_VIRTUAL rows dk hw hdk a b ((mem_dimsDown).mp hb))
    | succ j ih =>
      intro hj
      have : n + 1 + (j + 1) = (n + 1 + j) + 1 := by omega
      rw [this, gc_dimsDown_succ, List.foldl_cons,
        cn_ltStep_virtual _ _ _ _ _ (cn_resizeKindsWith_kind_new dk _ _ _ (by omega) (by omega))]
      exact ih (by omega)
  have := key m (le_refl _)
  rwa [show n + 1 + m = n + m + 1 by omega] at this

/-- `lower_triangular` of the padded system with the resized `dim_kinds` -/
theorem cn_lowerTriangular_pad (n m : Nat) (rows : List CRow) (dk : List Nat) (hw : CWf n rows) (hdk : dk.length = n + 1)
    (h : lowerTriangular n rows dk = true) :
    lowerTriangular (n + m) (rows.map (·.setSpaceDim (n + m))) (resizeKindsWith dk (n + m + 1) CON_VIRTUAL) = true := by
  rw [cn_lowerTriangular_eq] at h ⊢
  have hlen : ¬ rows.length > n + 1 := by
    intro hc; rw [if_pos hc] at h; cases h
  rw [if_neg hlen] at h
  rw [if_neg (by simp; omega), cn_lt_fold_pad n rows dk hw hdk m, List.length_map]
  exact h

/-! ### `CgKindsOK` -/

theorem cn_nl_pad (dk : List Nat) (n m k : Nat) (hdk : dk.length = n + 1) (hk : k ≤ n + m + 1) :
    nl (resizeKindsWith dk (n + m + 1) CON_VIRTUAL) k = nl dk (min k (n + 1)) :=
  nl_resize dk n m CON_VIRTUAL k hdk hk

theorem cn_pos_pad (dk : List Nat) (n m d : Nat) (hdk : dk.length = n + 1) (hd : d < n + 1) :
    pos (resizeKindsWith dk (n + m + 1) CON_VIRTUAL) (n + m + 1) d = pos dk (n + 1) d := by
  unfold pos
  rw [cn_nl_pad dk n m _ hdk (le_refl _), cn_nl_pad dk n m _ hdk (by omega),
    show min (n + m + 1) (n + 1) = n + 1 by omega, show min (d + 1) (n + 1) = d + 1 by omega]

theorem cn_CgKindsOK_pad (n m : Nat) (rows : List CRow) (dk : List Nat) (hdk : dk.length = n + 1)
    (h : CgKindsOK n rows dk) :
    CgKindsOK (n + m) (rows.map (·.setSpaceDim (n + m))) (resizeKindsWith dk (n + m + 1) CON_VIRTUAL) := by
  obtain ⟨M, h1, h2⟩ := h
  refine ⟨M, fun d hd => ?_, ?_⟩
  · by_cases hdn : d < n + 1
    · rw [cn_resizeKindsWith_kind dk _ _ d (by omega) (by omega), cn_pos_pad dk n m d hdk hdn, cn_rowAt_map_pad_m]
      exact h1 d hdn
    · exact Or.inl (cn_resizeKindsWith_kind_new dk _ _ d (by omega) (by omega))
  · rw [List.length_map, cn_rowAt_map_pad_get0]; exact h2

/-- embed with only the (possibly minimized) congruences up to date -/
theorem cn_embed_con_full (g : Grid) (m : Nat) (hI : GridInv g) (hm : 0 < m) (he : g.st.empty = false)
    (hpos : 0 < g.spaceDim) (hc : g.st.cUp = true) (hg : g.st.gUp = false) :
    GridInv (addSpaceDimensionsAndEmbed g m) ∧
      (addSpaceDimensionsAndEmbed g m).sem = cn_embedSet g.spaceDim m g.sem ∧
      (addSpaceDimensionsAndEmbed g m).spaceDim = g.spaceDim + m := by
  rw [cn_embed_eq_con g m hm he hpos hc hg]
  unfold cn_embedCon
  obtain ⟨hcd, hw⟩ := hI.cwf he hpos hc
  rw [show g.conDim = g.spaceDim from hcd]
  obtain ⟨hrows, hcwf, hcons⟩ := cn_embed_cs hI he hpos hc m hm
  refine cn_inv_grow_con hI he hpos hg m CON_VIRTUAL _ _ _ _
    (fun hcm => by rw [if_pos (show g.congruencesAreMinimized = true from hcm), CSys_setSpaceDim_dim])
    (CSys_setSpaceDim_dim _ _) hcwf hcons (fun hcm => ?_)
  obtain ⟨hlen, htri, _⟩ := hI.cmin he hpos hcm
  rw [hrows]
  exact ⟨cn_lowerTriangular_pad g.spaceDim m g.con g.dk hw hlen htri,
    cn_CgKindsOK_pad g.spaceDim m g.con g.dk hlen (hI.cminConv he hpos hcm hg)⟩

theorem cn_embed_con (g : Grid) (m : Nat) (hI : GridInv g) (hm : 0 < m) (he : g.st.empty = false)
    (hpos : 0 < g.spaceDim) (hc : g.st.cUp = true) (hg : g.st.gUp = false) (hcm : g.st.cMin = false) :
    GridInv (addSpaceDimensionsAndEmbed g m) ∧
      (addSpaceDimensionsAndEmbed g m).sem = cn_embedSet g.spaceDim m g.sem ∧
      (addSpaceDimensionsAndEmbed g m).spaceDim = g.spaceDim + m :=
  cn_embed_con_full g m hI hm he hpos hc hg

/-! ## `add_space_dimensions_and_project` with MINIMIZED congruences — the system with the unit equalities in front is lower triangular for `dim_kinds` resized with `EQUALITY`, and carries `CgKindsOK` -/

/-- the rows `add_unit_rows_and_space_dimensions` writes -/
def cn_projRows (n m : Nat) (rows : List CRow) : List CRow :=
  (List.range m).map (fun row => cn_unitRow (n + m) (n + m - row - 1)) ++ rows.map (·.setSpaceDim (n + m))

theorem cn_projRows_length (n m : Nat) (rows : List CRow) : (cn_projRows n m rows).length = m + rows.length := by
  simp [cn_projRows]

theorem cn_projRows_unit (n m : Nat) (rows : List CRow) (i : Nat) (hi : i < m) :
    rowAt (cn_projRows n m rows) i = cn_unitRow (n + m) (n + m - i - 1) := by
  unfold rowAt cn_projRows
  rw [List.getD_eq_getElem?_getD, List.getElem?_append_left (by simpa using hi), List.getElem?_map,
    List.getElem?_range hi]
  rfl

theorem cn_projRows_old (n m : Nat) (rows : List CRow) (i : Nat) :
    rowAt (cn_projRows n m rows) (i + m) = rowAt (rows.map (·.setSpaceDim (n + m))) i := by
  unfold rowAt cn_projRows
  rw [List.getD_eq_getElem?_getD, List.getD_eq_getElem?_getD, List.getElem?_append_right (by simp)]
  simp

theorem cn_unitRow_get (dim j i : Nat) (hj : j < dim) : Red.get (cn_unitRow dim j).e i = if i = j + 1 then 1 else 0 := by
  unfold cn_unitRow
  simp only
  rw [get_set]
  by_cases h : i = j + 1
  · rw [if_pos ⟨h, by simp; omega⟩, if_pos h]
  · rw [if_neg (fun hc => h hc.1), if_neg h]
    unfold Red.get
    simp [List.getD_eq_getElem?_getD, List.getElem?_replicate]
    split <;> rfl

/-- the step on the system with `m` rows in front is the step on the rest, the row counter shifted by `m` -/
theorem cn_ltStep_shift (n m nc : Nat) (rows : List CRow) (dk' : List Nat) (a : Nat) (b : Bool) (d : Nat) :
    cn_ltStep nc (cn_projRows n m rows) dk' (a + m, b) d =
      ((cn_ltStep nc (rows.map (·.setSpaceDim (n + m))) dk' (a, b) d).1 + m,
        (cn_ltStep nc (rows.map (·.setSpaceDim (n + m))) dk' (a, b) d).2) := by
  unfold cn_ltStep
  simp only [cn_projRows_old]
  split
  · rfl
  · split
    · rfl
    · split
      · simp only; congr 1; omega
      · split
        · simp only; congr 1; omega
        · simp only; congr 1; omega

theorem cn_lt_fold_shift (n m nc : Nat) (rows : List CRow) (dk' : List Nat) (L : List Nat) : ∀ (a : Nat) (b : Bool),
    L.foldl (cn_ltStep nc (cn_projRows n m rows) dk') (a + m, b) =
      ((L.foldl (cn_ltStep nc (rows.map (·.setSpaceDim (n + m))) dk') (a, b)).1 + m,
        (L.foldl (cn_ltStep nc (rows.map (·.setSpaceDim (n + m))) dk') (a, b)).2) := by
  induction L with
  | nil => intro a b; rfl
  | cons d L ih =>
    intro a b
    rw [List.foldl_cons, List.foldl_cons, cn_ltStep_shift]
    exact ih _ _

/-- the step on a new dimension: the unit row of that dimension is accepted -/
theorem cn_ltStep_unit (n m : Nat) (rows : List CRow) (dk : List Nat) (hdk : dk.length = n + 1) (i : Nat) (hi : i < m) :
    cn_ltStep (n + m + 1) (cn_projRows n m rows) (resizeKindsWith dk (n + m + 1) EQUALITY) (i, true) (n + m - i) =
      (i + 1, true) := by
  unfold cn_ltStep
  have hk : kind (resizeKindsWith dk (n + m + 1) EQUALITY) (n + m - i) = EQUALITY :=
    cn_resizeKindsWith_kind_new dk _ _ _ (by omega) (by omega)
  have hne : ¬ (EQUALITY = CON_VIRTUAL) := by decide
  simp only [Bool.not_true, Bool.false_eq_true, if_false, hk, if_neg hne, cn_projRows_unit n m rows i hi]
  have hg : Red.get (cn_unitRow (n + m) (n + m - i - 1)).e (n + m - i) = 1 := by
    rw [cn_unitRow_get _ _ _ (by omega), if_pos (by omega)]
  have hz : allZeroes (cn_unitRow (n + m) (n + m - i - 1)).e (n + m - i + 1) (n + m + 1) = true := by
    rw [cn_allZeroes_iff]
    intro k _ h1 _
    rw [cn_unitRow_get _ _ _ (by omega), if_neg (by omega)]
  rw [hg, hz]
  simp

theorem cn_lowerTriangular_proj (n m : Nat) (rows : List CRow) (dk : List Nat) (hw : CWf n rows) (hdk : dk.length = n + 1)
    (h : lowerTriangular n rows dk = true) :
    lowerTriangular (n + m) (cn_projRows n m rows) (resizeKindsWith dk (n + m + 1) EQUALITY) = true := by
  rw [cn_lowerTriangular_eq] at h ⊢
  have hlen : ¬ rows.length > n + 1 := by
    intro hc; rw [if_pos hc] at h; cases h
  rw [if_neg hlen] at h
  rw [if_neg (by rw [cn_projRows_length]; omega)]
  -- phase 1: the new dimensions
  have key : ∀ j, j ≤ m → (dimsDown (n + 1 + j)).foldl (cn_ltStep (n + m + 1) (cn_projRows n m rows)
        (resizeKindsWith dk (n + m + 1) EQUALITY)) (m - j, true) =
      (dimsDown (n + 1)).foldl (cn_ltStep (n + m + 1) (cn_projRows n m rows)
        (resizeKindsWith dk (n + m + 1) EQUALITY)) (m, true) := by
    intro j
    induction j with
    | zero => intro _; rfl
    | succ j ih =>
      intro hj
      have e1 : n + 1 + (j + 1) = (n + 1 + j) + 1 := by omega
      have e2 : n + 1 + j = n + m - (m - (j + 1)) := by omega
      rw [e1, gc_dimsDown_succ, List.foldl_cons, e2, cn_ltStep_unit n m rows dk hdk (m - (j + 1)) (by omega), ← e2,
        show m - (j + 1) + 1 = m - j by omega]
      exact ih (by omega)
  have k1 := key m (le_refl _)
  rw [show n + 1 + m = n + m + 1 by omega, Nat.sub_self] at k1
  rw [k1]
  -- phase 2: the old dimensions, shifted
  have k2 := cn_lt_fold_shift n m (n + m + 1) rows (resizeKindsWith dk (n + m + 1) EQUALITY) (dimsDown (n + 1)) 0 true
  rw [Nat.zero_add] at k2
  rw [k2]
  have k3 : (dimsDown (n + 1)).foldl (cn_ltStep (n + m + 1) (rows.map (·.setSpaceDim (n + m)))
      (resizeKindsWith dk (n + m + 1) EQUALITY)) (0, true) =
      (dimsDown (n + 1)).foldl (cn_ltStep (n + 1) rows dk) (0, true) :=
    cn_foldl_ext _ _ _ _ (fun a b hb => cn_ltStep_pad n m EQUALITY rows dk hw hdk a b ((mem_dimsDown).mp hb))
  rw [k3, cn_projRows_length]
  simp only [Bool.and_eq_true, beq_iff_eq] at h ⊢
  exact ⟨h.1, by omega⟩

/-! ### `CgKindsOK` -/

theorem cn_nl_proj (dk : List Nat) (n m k : Nat) (hdk : dk.length = n + 1) (hk : k ≤ n + m + 1) :
    nl (resizeKindsWith dk (n + m + 1) EQUALITY) k = nl dk (min k (n + 1)) + (k - (n + 1)) :=
  nl_resize dk n m EQUALITY k hdk hk

theorem cn_CgKindsOK_proj (n m : Nat) (rows : List CRow) (dk : List Nat) (hdk : dk.length = n + 1) (hm : 0 < m)
    (h : CgKindsOK n rows dk) :
    CgKindsOK (n + m) (cn_projRows n m rows) (resizeKindsWith dk (n + m + 1) EQUALITY) := by
  obtain ⟨M, h1, h2⟩ := h
  have hnlmono : ∀ d, d < n + 1 → nl dk (d + 1) ≤ nl dk (n + 1) := fun d hd => cntBelow_mono _ (by omega)
  refine ⟨M, fun d hd => ?_, ?_⟩
  · by_cases hdn : d < n + 1
    · have hpos : pos (resizeKindsWith dk (n + m + 1) EQUALITY) (n + m + 1) d = pos dk (n + 1) d + m := by
        unfold pos
        rw [cn_nl_proj dk n m _ hdk (le_refl _), cn_nl_proj dk n m _ hdk (by omega),
          show min (n + m + 1) (n + 1) = n + 1 by omega, show min (d + 1) (n + 1) = d + 1 by omega]
        have := hnlmono d hdn
        omega
      rw [cn_resizeKindsWith_kind dk _ _ d (by omega) (by omega), hpos, cn_projRows_old, cn_rowAt_map_pad_m]
      exact h1 d hdn
    · have hpos : pos (resizeKindsWith dk (n + m + 1) EQUALITY) (n + m + 1) d = n + m - d := by
        unfold pos
        rw [cn_nl_proj dk n m _ hdk (le_refl _), cn_nl_proj dk n m _ hdk (by omega),
          show min (n + m + 1) (n + 1) = n + 1 by omega, show min (d + 1) (n + 1) = n + 1 by omega]
        omega
      refine Or.inr (Or.inl ⟨cn_resizeKindsWith_kind_new dk _ _ d (by omega) (by omega), ?_⟩)
      rw [hpos, cn_projRows_unit n m rows _ (by omega)]; rfl
  · rw [cn_projRows_length]
    by_cases hr : rows.length = 0
    · have hnil : rows = [] := List.eq_nil_of_length_eq_zero hr
      rw [hr, Nat.add_zero, cn_projRows_unit n m rows (m - 1) (by omega), cn_unitRow_get _ _ _ (by omega),
        if_neg (by omega)]
      rw [hnil] at h2
      exact h2
    · rw [show m + rows.length - 1 = (rows.length - 1) + m by omega, cn_projRows_old, cn_rowAt_map_pad_get0]
      exact h2

/-- the rows of `add_unit_rows_and_space_dimensions` are `cn_projRows` -/
theorem cn_addUnitRows_projRows (s : CSys) (m : Nat) (hm : 0 < m) :
    (s.addUnitRowsAndSpaceDimensions m).rows = cn_projRows s.dim m s.rows := (cn_addUnitRows_eq s m hm).2

/-- the system project leaves is in the triangular form of the resized `dim_kinds` -/
theorem cn_project_tri (g : Grid) (m : Nat) (hI : GridInv g) (hm : 0 < m) (he : g.st.empty = false) (hpos : 0 < g.spaceDim)
    (hcm : g.st.cMin = true) :
    lowerTriangular (g.spaceDim + m) (g.cs.addUnitRowsAndSpaceDimensions m).rows
        (resizeKindsWith g.dk (g.spaceDim + m + 1) EQUALITY) = true ∧
    (g.st.gUp = false → CgKindsOK (g.spaceDim + m) (g.cs.addUnitRowsAndSpaceDimensions m).rows
        (resizeKindsWith g.dk (g.spaceDim + m + 1) EQUALITY)) := by
  have hc := hI.cminUp hcm
  obtain ⟨hcd, hw⟩ := hI.cwf he hpos hc
  obtain ⟨hlen, htri, _⟩ := hI.cmin he hpos hcm
  have hcsd : g.cs.dim = g.spaceDim := hcd
  have hrows : (g.cs.addUnitRowsAndSpaceDimensions m).rows = cn_projRows g.spaceDim m g.con := by
    rw [cn_addUnitRows_projRows g.cs m hm, hcsd]; rfl
  rw [hrows]
  exact ⟨cn_lowerTriangular_proj g.spaceDim m g.con g.dk hw hlen htri,
    fun hg => cn_CgKindsOK_proj g.spaceDim m g.con g.dk hlen hm (hI.cminConv he hpos hcm hg)⟩

/-- project with only the (possibly minimized) congruences up to date: the same points in the larger space -/
theorem cn_project_con_full (g : Grid) (m : Nat) (hI : GridInv g) (hm : 0 < m) (he : g.st.empty = false)
    (hpos : 0 < g.spaceDim) (hc : g.st.cUp = true) (hg : g.st.gUp = false) :
    GridInv (addSpaceDimensionsAndProject g m) ∧ (addSpaceDimensionsAndProject g m).sem = g.sem ∧
      (addSpaceDimensionsAndProject g m).spaceDim = g.spaceDim + m := by
  rw [cn_project_eq_con g m hm he hpos hc hg]
  obtain ⟨hdim, hcwf, hcons⟩ := cn_project_cs hI he hpos hc m hm
  exact cn_inv_grow_con hI he hpos hg m EQUALITY _ _ _ _
    (fun hcm => by rw [if_pos (show g.congruencesAreMinimized = true from hcm), hdim]) hdim hcwf hcons
    (fun hcm => ⟨(cn_project_tri g m hI hm he hpos hcm).1, (cn_project_tri g m hI hm he hpos hcm).2 hg⟩)

theorem cn_project_con (g : Grid) (m : Nat) (hI : GridInv g) (hm : 0 < m) (he : g.st.empty = false)
    (hpos : 0 < g.spaceDim) (hc : g.st.cUp = true) (hg : g.st.gUp = false) (hcm : g.st.cMin = false) :
    GridInv (addSpaceDimensionsAndProject g m) ∧ (addSpaceDimensionsAndProject g m).sem = g.sem ∧
      (addSpaceDimensionsAndProject g m).spaceDim = g.spaceDim + m :=
  cn_project_con_full g m hI hm he hpos hc hg

end PPLV.Lattice.GO

import PPLV.Lattice.ProofsRedGenTri
import PPLV.Lattice.ProofsRedGenBridge

/-!
# End to end: `Grid::simplify` of a normalised generator system denotes the same grid (PPL reading `gensOf`)

A system normalised with divisor `D` is turned into a system normalised with divisor `k·D` (`k` the scale of
`simplifyGens_preserves`), so that `gensOf` of the output has the same points as `gensOf` of the input.
-/
namespace PPLV.Lattice.Red
open PPLV.Lattice

/-- the inhomogeneous coordinate of the lattice elements is a multiple of `D` -/
theorem hom_coord0 {n : Nat} {rows : List GRow} (D : Int)
    (hpc : ∀ r ∈ rows, r.line = false → ∃ m : Int, get r.e 0 = m * D)
    (hln : ∀ r ∈ rows, r.line = true → get r.e 0 = 0) {w : Pt} (h : Hom n rows w) :
    ∃ m : Int, w 0 = (m : Rat) * D := by
  unfold Hom GDir at h
  induction h with
  | zero => exact ⟨0, by simp⟩
  | @param w q j hq _ ih =>
    obtain ⟨u0, hu0, rfl⟩ := List.mem_map.mp hq
    obtain ⟨r, hr, rfl⟩ := List.mem_map.mp hu0
    have hr' := List.mem_filter.mp hr
    obtain ⟨m, hm⟩ := ih
    obtain ⟨m1, hm1⟩ := hpc r hr'.1 (by simpa using hr'.2)
    refine ⟨m + j * m1, ?_⟩
    have e : (GRow.hvec n r).toFun 0 = ((get r.e 0 : Int) : Rat) := by
      have := hv_apply n r 0
      rw [if_pos (Nat.zero_le n)] at this
      exact this
    simp only [Pi.add_apply, Pi.smul_apply, smul_eq_mul, e, hm, hm1]
    push_cast; ring
  | @line w l c hl _ ih =>
    obtain ⟨u0, hu0, rfl⟩ := List.mem_map.mp hl
    obtain ⟨r, hr, rfl⟩ := List.mem_map.mp hu0
    have hr' := List.mem_filter.mp hr
    obtain ⟨m, hm⟩ := ih
    refine ⟨m, ?_⟩
    have e : (GRow.hvec n r).toFun 0 = ((get r.e 0 : Int) : Rat) := by
      have := hv_apply n r 0
      rw [if_pos (Nat.zero_le n)] at this
      exact this
    simp only [Pi.add_apply, Pi.smul_apply, smul_eq_mul, e, hm, hln r hr'.1 (by simpa using hr'.2)]
    push_cast; ring

theorem hv_zero_coord (n : Nat) (r : GRow) : hv n r 0 = ((get r.e 0 : Int) : Rat) := by
  rw [hv_apply, if_pos (Nat.zero_le n)]

/-- column 0 of a triangular system: only the pivot row of dimension 0 may be non-zero there -/
theorem Tri_col0 {dk : List Nat} {rows : List GRow} : ∀ d p, Tri dk rows d p → ∀ j, j < p →
    (1 ≤ j ∨ kind dk 0 = GEN_VIRTUAL) → get (rowAt rows j).e 0 = 0 := by
  intro d
  induction d with
  | zero => intro p h j hj _; have : p = 0 := h; omega
  | succ d ih =>
    intro p h j hj hc
    by_cases hv : kind dk d = GEN_VIRTUAL
    · exact ih p ((Tri_virt hv).mp h) j hj hc
    · obtain ⟨hp0, hrow, ht⟩ := (Tri_real hv).mp h
      by_cases e : j = p - 1
      · cases d with
        | zero =>
          have hp1 : p - 1 = 0 := ht
          rcases hc with hc | hc
          · omega
          · exact absurd hc hv
        | succ d' => rw [e]; exact hrow.2.2 0 (by omega)
      · exact ih (p - 1) ht j (by omega) hc

theorem Tri_row0 {dk : List Nat} {rows : List GRow} : ∀ d p, Tri dk rows d p → 1 ≤ d →
    kind dk 0 ≠ GEN_VIRTUAL → 1 ≤ p ∧ TriRow dk rows 0 0 := by
  intro d
  induction d with
  | zero => intro p _ h1 _; omega
  | succ d ih =>
    intro p h _ hk
    by_cases hd : d = 0
    · subst hd
      obtain ⟨hp0, hrow, ht⟩ := (Tri_real hk).mp h
      have hp1 : p - 1 = 0 := ht
      rw [hp1] at hrow
      exact ⟨hp0, hrow⟩
    · by_cases hv : kind dk d = GEN_VIRTUAL
      · exact ih p ((Tri_virt hv).mp h) (by omega) hk
      · obtain ⟨hp0, _, ht⟩ := (Tri_real hv).mp h
        obtain ⟨h1, h2⟩ := ih (p - 1) ht (by omega) hk
        exact ⟨by omega, h2⟩

/-- **the output of `Grid::simplify` on a system normalised with divisor `D` is normalised with divisor `k·D`**,
    `k` being the scale by which the lattice was multiplied -/
theorem simplifyGens_normalised {n : Nat} {D : Int} {rows : List GRow} (dk : List Nat) (hwf : GWf n rows)
    (hN : Normalised n D rows) :
    ∃ k : Int, 0 < k ∧ Normalised n (k * D) (simplifyGens n rows dk).1 ∧
      ∀ v, Hom n rows v ↔ Hom n (simplifyGens n rows dk).1 ((k : Rat) • v) := by
  obtain ⟨⟨k, hk, hiff⟩, htri, hwfo, hdiv⟩ := simplifyGens_spec n rows dk hwf
  generalize (simplifyGens n rows dk).1 = out at *
  generalize (simplifyGens n rows dk).2 = dk' at *
  obtain ⟨r0, hr0, hr0l, hr0D⟩ := hN.pt
  have hD : 0 < D := hN.Dpos
  have hkQ : (k : Rat) ≠ 0 := by exact_mod_cast (ne_of_gt hk)
  have hDQ : (D : Rat) ≠ 0 := by exact_mod_cast (ne_of_gt hD)
  have c0rows : ∀ w, Hom n rows w → ∃ m : Int, w 0 = (m : Rat) * D :=
    fun w hw => hom_coord0 D (fun r hr hl => (hN.pc r hr hl).elim (fun h => ⟨0, by rw [h]; ring⟩)
      (fun h => ⟨1, by rw [h]; ring⟩)) hN.ln hw
  have hpt : Hom n out ((k : Rat) • hv n r0) := (hiff _).mp (hom_of_mem_pc hr0 hr0l)
  -- dimension 0 is not virtual
  have hk0 : kind dk' 0 ≠ GEN_VIRTUAL := by
    intro hv
    have hz : ∀ r ∈ out, get r.e 0 = 0 := by
      intro r hr
      obtain ⟨j, hj, rfl⟩ := (mem_iff_rowAt out r).mp hr
      exact Tri_col0 _ _ htri j hj (Or.inr hv)
    obtain ⟨m, hm⟩ := hom_coord0 (n := n) (rows := out) 0 (fun r hr _ => ⟨0, by rw [hz r hr]; ring⟩)
      (fun r hr _ => hz r hr) hpt
    simp only [Pi.smul_apply, smul_eq_mul, hv_zero_coord, hr0D, Int.cast_zero, mul_zero] at hm
    rcases mul_eq_zero.mp hm with h1 | h1
    · exact hkQ h1
    · exact hDQ h1
  obtain ⟨hlen1, hrow0⟩ := Tri_row0 _ _ htri (by omega) hk0
  have hlen1' : 0 < out.length := hlen1
  have hD'pos : 0 < get (rowAt out 0).e 0 := hrow0.2.1
  have hD'Q : ((get (rowAt out 0).e 0 : Int) : Rat) ≠ 0 := by exact_mod_cast (ne_of_gt hD'pos)
  have hcol0 : ∀ j, j < out.length → 1 ≤ j → get (rowAt out j).e 0 = 0 :=
    fun j hj h1 => Tri_col0 _ _ htri j hj (Or.inl h1)
  -- row 0 is not a line
  have hl0 : (rowAt out 0).line = false := by
    cases hh : (rowAt out 0).line
    · rfl
    · exfalso
      have hw : Hom n out ((k : Rat) • (((D : Rat) / (2 * (k : Rat) * (get (rowAt out 0).e 0 : Int))) • hv n (rowAt out 0))) := by
        rw [smul_smul]; exact hom_line hlen1' hh _
      obtain ⟨m, hm⟩ := c0rows _ ((hiff _).mpr hw)
      simp only [Pi.smul_apply, smul_eq_mul, hv_zero_coord] at hm
      have h2 : (2 : Rat) * k * m = 1 := by
        field_simp at hm
        linarith
      have h3 : (2 : Int) * k * m = 1 := by exact_mod_cast h2
      have h4 : (2 : Int) * (k * m) = 1 := by rw [← h3]; ring
      generalize k * m = t at h4
      omega
  have c0out : ∀ w, Hom n out w → ∃ m : Int, w 0 = (m : Rat) * (get (rowAt out 0).e 0 : Int) := by
    intro w hw
    refine hom_coord0 (get (rowAt out 0).e 0) ?_ ?_ hw
    · intro r hr _
      obtain ⟨j, hj, rfl⟩ := (mem_iff_rowAt out r).mp hr
      by_cases e : j = 0
      · rw [e]; exact ⟨1, by ring⟩
      · exact ⟨0, by rw [hcol0 j hj (by omega)]; ring⟩
    · intro r hr hl
      obtain ⟨j, hj, rfl⟩ := (mem_iff_rowAt out r).mp hr
      by_cases e : j = 0
      · rw [e, hl0] at hl; cases hl
      · exact hcol0 j hj (by omega)
  -- the divisor of the output is `k * D`
  have hD'eq : get (rowAt out 0).e 0 = k * D := by
    obtain ⟨m1, hm1⟩ := c0out _ hpt
    have hrow0hom : Hom n out (hv n (rowAt out 0)) := hom_pc hlen1' hl0
    have hback : Hom n rows ((1 / (k : Rat)) • hv n (rowAt out 0)) := by
      refine (hiff _).mpr ?_
      rw [smul_smul]
      have : (k : Rat) * (1 / k) = 1 := by field_simp
      rw [this, one_smul]; exact hrow0hom
    obtain ⟨m2, hm2⟩ := c0rows _ hback
    simp only [Pi.smul_apply, smul_eq_mul, hv_zero_coord, hr0D] at hm1 hm2
    have e1 : k * D = m1 * get (rowAt out 0).e 0 := by exact_mod_cast hm1
    have e2 : get (rowAt out 0).e 0 = m2 * D * k := by
      have : ((get (rowAt out 0).e 0 : Int) : Rat) = m2 * D * k := by
        field_simp at hm2; linarith
      exact_mod_cast this
    -- two positive integers dividing each other
    exact Int.dvd_antisymm hD'pos.le (Int.mul_pos hk hD).le ⟨m1, by rw [e1]; ring⟩
      ⟨m2, by rw [e2]; ring⟩
  refine ⟨k, hk, ⟨Int.mul_pos hk hD, ?_, ?_, ?_, ?_⟩, hiff⟩
  · intro r hr _
    obtain ⟨j, hj, rfl⟩ := (mem_iff_rowAt out r).mp hr
    by_cases e : j = 0
    · right; rw [e]; exact hD'eq
    · left; exact hcol0 j hj (by omega)
  · exact ⟨rowAt out 0, rowAt_mem out 0 hlen1', hl0, hD'eq⟩
  · intro r hr hl h0
    obtain ⟨j, hj, rfl⟩ := (mem_iff_rowAt out r).mp hr
    rw [hdiv j hj hl h0]; exact hD'eq
  · intro r hr hl
    obtain ⟨j, hj, rfl⟩ := (mem_iff_rowAt out r).mp hr
    by_cases e : j = 0
    · rw [e, hl0] at hl; cases hl
    · exact hcol0 j hj (by omega)

/-- **end to end**: the PPL reading of `Grid::simplify`'s output has the same points as the PPL reading of
    its input (input normalised with a positive divisor `D`, as every `Grid_Generator_System` of a grid is) -/
theorem simplifyGens_gensOf {n : Nat} {D : Int} {rows : List GRow} (dk : List Nat) (hwf : GWf n rows)
    (hN : Normalised n D rows) :
    ∃ g g' : Gens, gensOf n rows = some (.gens g) ∧ gensOf n (simplifyGens n rows dk).1 = some (.gens g') ∧
      ∀ x, Gen.sem (.gens g') x ↔ Gen.sem (.gens g) x := by
  obtain ⟨k, hk, hN', hiff⟩ := simplifyGens_normalised dk hwf hN
  obtain ⟨g, hg, hs⟩ := gensOf_sem hN
  obtain ⟨g', hg', hs'⟩ := gensOf_sem hN'
  refine ⟨g, g', hg, hg', fun x => ?_⟩
  rw [hs' x, hs x, hiff]
  have e : homog ((k * D : Int) : Rat) x = (k : Rat) • homog (D : Rat) x := by
    funext i
    cases i with
    | zero => simp [homog]
    | succ i => simp [homog]; ring
  rw [e]

/-! ### concrete instance: `exGRows` (point `(1/2,0)`, line `(1,1)`, parameter `(3/2,0)`, divisor 2) -/

theorem exRows_norm : Normalised 2 2 exGRows where
  Dpos := by decide
  pc := by decide
  pt := by decide
  par := by decide
  ln := by decide

example : ∃ g : Gens, gensOf 2 exGRows = some (.gens g) ∧
    ∀ x, Gen.sem (.gens g) x ↔ Hom 2 exGRows (homog ((2 : Int) : Rat) x) := gensOf_sem exRows_norm

example : ∃ g g' : Gens, gensOf 2 exGRows = some (.gens g) ∧
    gensOf 2 (simplifyGens 2 exGRows []).1 = some (.gens g') ∧
    ∀ x, Gen.sem (.gens g') x ↔ Gen.sem (.gens g) x := simplifyGens_gensOf [] exRows_wf exRows_norm

end PPLV.Lattice.Red

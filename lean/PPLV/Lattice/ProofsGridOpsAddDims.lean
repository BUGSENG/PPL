import PPLV.Lattice.ProofsGridOpsGenAffine
import PPLV.Lattice.ProofsGridOpsAddDimsCon
import PPLV.Lattice.ProofsGridOpsGenSet

/-!
# The `Grid` object: adding space dimensions, generator side and every state

`add_universe_rows_and_columns` appends the new lines (embed), resp. the rows are only resized (project).
-/
namespace PPLV.Lattice.GO
open PPLV.Lattice PPLV.Lattice.Red

/-! ## `Grid_Generator_System::set_space_dimension`, `add_universe_rows_and_columns` (Grid_Generator_System.cc:199): the generator systems of embed and project -/

/-! ### the rows resized to a larger dimension -/

theorem lz_resize_facts {n : Nat} {D : Int} {rows : List GRow} (k : Nat) (hnk : n ≤ k) (hw : GWf n rows)
    (hN : GNorm n D rows) :
    GWf k (rows.map (·.setSpaceDim k)) ∧ GNorm k D (rows.map (·.setSpaceDim k)) ∧
    gn_set (rows.map (·.setSpaceDim k)) = gn_set rows := by
  have hs : ∀ r ∈ rows, _ := fun r hr => gn_setSpaceDim_sem (hw r hr) hnk
  refine ⟨?_, ⟨hN.pos, ?_, ?_, ?_, ?_⟩, ?_⟩
  · intro r' hr'
    obtain ⟨r, hr, rfl⟩ := List.mem_map.mp hr'
    exact (hs r hr).2.1
  · obtain ⟨r, hr, hl, h0⟩ := hN.pt
    exact ⟨_, List.mem_map_of_mem hr, by rw [(hs r hr).1]; exact hl, by rw [(hs r hr).2.2.1]; exact h0⟩
  · intro r' hr' hl
    obtain ⟨r, hr, rfl⟩ := List.mem_map.mp hr'
    rw [(hs r hr).2.2.1]
    exact hN.col0 r hr (by rw [← (hs r hr).1]; exact hl)
  · intro r' hr' hl h0
    obtain ⟨r, hr, rfl⟩ := List.mem_map.mp hr'
    have hl' : r.line = false := by rw [← (hs r hr).1]; exact hl
    have h0' : get r.e 0 = 0 := by rw [← (hs r hr).2.2.1]; exact h0
    rw [← divisor_param k _ (hs r hr).2.1 h0, (hs r hr).2.2.2.1, divisor_param n r (hw r hr) h0']
    exact hN.par r hr hl' h0'
  · intro r' hr' hl
    obtain ⟨r, hr, rfl⟩ := List.mem_map.mp hr'
    rw [(hs r hr).2.2.1]
    exact hN.lin r hr (by rw [← (hs r hr).1]; exact hl)
  · refine gn_set_map rows _ (fun r hr => (hs r hr).1) (fun r hr => by rw [(hs r hr).2.2.1]) (fun r hr => (hs r hr).2.2.2.2)

/-! ### project: `set_space_dimension` then `normalize_divisors` -/

/-- the generator system project leaves -/
theorem lz_project_gen {n : Nat} {D : Int} {rows : List GRow} (m : Nat) (hn : 0 < n) (hw : GWf n rows)
    (hN : GNorm n D rows) :
    (normalizeDivisors1 ((GSys.mk n rows).setSpaceDim (n + m))).dim = n + m ∧
    GWf (n + m) (normalizeDivisors1 ((GSys.mk n rows).setSpaceDim (n + m))).rows ∧
    GNorm (n + m) (firstPointDiv (normalizeDivisors1 ((GSys.mk n rows).setSpaceDim (n + m))).rows)
      (normalizeDivisors1 ((GSys.mk n rows).setSpaceDim (n + m))).rows ∧
    gensSet (n + m) (normalizeDivisors1 ((GSys.mk n rows).setSpaceDim (n + m))).rows = gensSet n rows := by
  obtain ⟨a, b, c⟩ := lz_resize_facts (n + m) (by omega) hw hN
  have hS : (GSys.mk n rows).setSpaceDim (n + m) = ⟨n + m, rows.map (·.setSpaceDim (n + m))⟩ := rfl
  rw [hS]
  obtain ⟨p, q, r, t⟩ := gn_normalizeDivisors1 (s := ⟨n + m, rows.map (·.setSpaceDim (n + m))⟩)
    (gn_wf_of_gnorm b a) (by show 0 < n + m; omega)
  refine ⟨p, q, r, ?_⟩
  rw [gn_bridge r q, t, c, ← gn_bridge hN hw]

/-! ### embed: `add_universe_rows_and_columns` -/

/-- the line of the new dimension `n + i` in a system of dimension `n + m` -/
def lz_newLine (n m i : Nat) : GRow := { line := true, e := (List.replicate (n + m + 2) 0).set (n + i + 1) 1 }

theorem lz_newLine_get (n m i j : Nat) (hi : i < m) : get (lz_newLine n m i).e j = if j = n + i + 1 then 1 else 0 := by
  unfold lz_newLine
  show get ((List.replicate (n + m + 2) 0).set (n + i + 1) 1) j = _
  rw [get_set, List.length_replicate, get_replicate_zero]
  by_cases h : j = n + i + 1
  · rw [if_pos ⟨h, by omega⟩, if_pos h]
  · rw [if_neg (fun hh => h hh.1), if_neg h]

theorem lz_newLine_len (n m i : Nat) : (lz_newLine n m i).e.length = n + m + 2 := by simp [lz_newLine]

theorem lz_newLine_vecOf (n m i : Nat) (hi : i < m) : gn_vecOf (lz_newLine n m i) = (unit (n + i)).toFun := by
  funext j
  unfold gn_vecOf
  rw [gn_spaceDim_of_len (lz_newLine_len n m i), lz_newLine_get n m i _ hi, toFun_unit]
  have hl : (lz_newLine n m i).line = true := rfl
  by_cases hj : j = n + i
  · subst hj; simp [hl]; omega
  · have : ¬ (j + 1 = n + i + 1) := by omega
    simp [hl, hj]

theorem lz_addUniverse_eq (n m : Nat) (rows : List GRow) :
    (GSys.mk n rows).addUniverseRowsAndColumns m =
      ⟨n + m, rows.map (·.setSpaceDim (n + m)) ++ (List.range m).map (lz_newLine n m)⟩ := rfl

/-- the grid generated by the resized rows and the first `k` new lines -/
theorem lz_embed_lines (n m : Nat) (rows' : List GRow) (S : Set Pt) (hS : ∀ x ∈ S, Supp n x) (h0 : gn_set rows' = S) :
    ∀ k, k ≤ m → gn_set (rows' ++ (List.range k).map (lz_newLine n m)) = cn_embedSet n k S := by
  intro k
  induction k with
  | zero =>
    intro _
    rw [List.range_zero, List.map_nil, List.append_nil, h0]
    ext y
    simp only [cn_embedSet, Set.mem_ofPred_eq, Nat.add_zero]
    constructor
    · intro hy
      have : cn_fst n y = y := by
        funext i; unfold cn_fst; split
        · rfl
        · exact (hS y hy i (by omega)).symm
      exact ⟨hS y hy, by rw [this]; exact hy⟩
    · rintro ⟨h1, h2⟩
      have : cn_fst n y = y := by
        funext i; unfold cn_fst; split
        · rfl
        · exact (h1 i (by omega)).symm
      rw [this] at h2; exact h2
  | succ k ih =>
    intro hk
    rw [List.range_succ, List.map_append, ← List.append_assoc, List.map_singleton,
      gn_set_append_line _ _ (show (lz_newLine n m k).line = true from rfl), ih (by omega),
      lz_newLine_vecOf n m k (by omega)]
    ext y
    simp only [cn_embedSet, Set.mem_ofPred_eq]
    constructor
    · rintro ⟨x, ⟨hx1, hx2⟩, c, rfl⟩
      refine ⟨fun i hi => ?_, ?_⟩
      · simp only [Pi.add_apply, Pi.smul_apply, smul_eq_mul, toFun_unit]
        rw [hx1 i (by omega), if_neg (by omega)]; ring
      · have : cn_fst n (x + c • (unit (n + k)).toFun) = cn_fst n x := by
          funext i
          unfold cn_fst
          split
          · simp only [Pi.add_apply, Pi.smul_apply, smul_eq_mul, toFun_unit]
            rw [if_neg (by omega)]; ring
          · rfl
        rw [this]; exact hx2
    · rintro ⟨h1, h2⟩
      refine ⟨fun i => if i = n + k then 0 else y i, ⟨fun i hi => ?_, ?_⟩, y (n + k), ?_⟩
      · by_cases h : i = n + k
        · simp [h]
        · simp only [h, if_false]; exact h1 i (by omega)
      · have : cn_fst n (fun i => if i = n + k then 0 else y i) = cn_fst n y := by
          funext i
          unfold cn_fst
          split
          · show (if i = n + k then 0 else y i) = y i
            rw [if_neg (by omega)]
          · rfl
        rw [this]; exact h2
      · funext i
        simp only [Pi.add_apply, Pi.smul_apply, smul_eq_mul, toFun_unit]
        by_cases h : i = n + k
        · simp [h]
        · simp [h]

/-- the generator system embed leaves -/
theorem lz_embed_gen {n : Nat} {D : Int} {rows : List GRow} (m : Nat) (hw : GWf n rows) (hN : GNorm n D rows) :
    ((GSys.mk n rows).addUniverseRowsAndColumns m).dim = n + m ∧
    GWf (n + m) ((GSys.mk n rows).addUniverseRowsAndColumns m).rows ∧
    GNorm (n + m) D ((GSys.mk n rows).addUniverseRowsAndColumns m).rows ∧
    gensSet (n + m) ((GSys.mk n rows).addUniverseRowsAndColumns m).rows = cn_embedSet n m (gensSet n rows) := by
  obtain ⟨a, b, c⟩ := lz_resize_facts (n + m) (by omega) hw hN
  rw [lz_addUniverse_eq]
  have hlmem : ∀ r ∈ (List.range m).map (lz_newLine n m), ∃ i, i < m ∧ r = lz_newLine n m i := by
    intro r hr
    obtain ⟨i, hi, rfl⟩ := List.mem_map.mp hr
    exact ⟨i, List.mem_range.mp hi, rfl⟩
  have hgw : GWf (n + m) (rows.map (·.setSpaceDim (n + m)) ++ (List.range m).map (lz_newLine n m)) := by
    refine gn_gwf_append a (fun r hr => ?_)
    obtain ⟨i, _, rfl⟩ := hlmem r hr
    exact lz_newLine_len n m i
  have hgn : GNorm (n + m) D (rows.map (·.setSpaceDim (n + m)) ++ (List.range m).map (lz_newLine n m)) := by
    refine gn_gnorm_append b (fun r hr hl => ?_) (fun r hr hl => ?_) (fun r hr _ => ?_)
    · obtain ⟨i, _, rfl⟩ := hlmem r hr; cases hl
    · obtain ⟨i, _, rfl⟩ := hlmem r hr; cases hl
    · obtain ⟨i, hi, rfl⟩ := hlmem r hr
      rw [lz_newLine_get n m i 0 hi, if_neg (by omega)]
  refine ⟨rfl, hgw, hgn, ?_⟩
  rw [gn_bridge hgn hgw]
  refine lz_embed_lines n m _ _ (fun x hx => gensSet_supp hN hx) ?_ m (le_refl m)
  rw [c, gn_bridge hN hw]

/-! ## The triangular form after `add_universe_rows_and_columns`; `add_space_dimensions_and_embed` on every state with up-to-date generators -/

theorem lz_rowAt_append_left {R : Type} [Inhabited R] (a b : List R) (i : Nat) (h : i < a.length) :
    rowAt (a ++ b) i = rowAt a i := by
  simp [rowAt, List.getElem?_append_left h]

theorem lz_rowAt_append_right {R : Type} [Inhabited R] (a b : List R) (i : Nat) :
    rowAt (a ++ b) (a.length + i) = rowAt b i := by
  simp [rowAt, List.getElem?_append_right]

/-- the rows of `add_universe_rows_and_columns` -/
def lz_embedRows (n m : Nat) (rows : List GRow) : List GRow :=
  rows.map (·.setSpaceDim (n + m)) ++ (List.range m).map (lz_newLine n m)

section
variable (n m : Nat) (dk : List Nat) (hdk : dk.length = n + 1)
include hdk

theorem lz_kind_old (val d : Nat) (hd : d < n + 1) : kind (resizeKindsWith dk (n + m + 1) val) d = kind dk d :=
  cn_resizeKindsWith_kind dk _ val d (by omega) (by omega)

theorem lz_kind_new (val d : Nat) (hd1 : n + 1 ≤ d) (hd2 : d < n + m + 1) : kind (resizeKindsWith dk (n + m + 1) val) d = val :=
  cn_resizeKindsWith_kind_new dk _ val d (by omega) hd2

theorem lz_nv_old (val k : Nat) (hk : k ≤ n + 1) : nv (resizeKindsWith dk (n + m + 1) val) k = nv dk k := by
  rw [nv_resize dk n m val k hdk (by omega), Nat.min_eq_left hk, Nat.sub_eq_zero_of_le hk, ite_self]
  rfl

theorem lz_nv_new (i : Nat) (hi : i ≤ m) : nv (resizeKindsWith dk (n + m + 1) LINE) (n + 1 + i) = nv dk (n + 1) + i := by
  rw [nv_resize dk n m LINE _ hdk (by omega), Nat.min_eq_right (by omega)]
  show _ + (n + 1 + i - (n + 1)) = _
  omega

end

/-- **the triangular form after the embedding**: the new dimensions are `LINE` dimensions -/
theorem lz_upperTriangular_embed (n m : Nat) (rows : List GRow) (dk : List Nat) (hw : GWf n rows) (hdk : dk.length = n + 1)
    (hm : 0 < m) (h : upperTriangular n rows dk = true) :
    upperTriangular (n + m) (lz_embedRows n m rows) (resizeKindsWith dk (n + m + 1) LINE) = true := by
  have hs := upperTriangular_spec n rows dk h
  refine cg_upperTriangular_of_rows (n + m) _ _ ?_ (fun q hq hqv => ?_)
  · have h2 : nv (resizeKindsWith dk (n + m + 1) LINE) (n + m + 1) = nv dk (n + 1) + m := by
      have := lz_nv_new n m dk hdk m (le_refl m)
      rwa [show n + 1 + m = n + m + 1 by omega] at this
    rw [h2, ← hs.len]
    simp [lz_embedRows]
  · by_cases hqo : q < n + 1
    · have hqv' : nvB dk q = true := by
        unfold nvB at hqv ⊢; rwa [lz_kind_old n m dk hdk LINE q hqo] at hqv
      rw [lz_nv_old n m dk hdk LINE q (by omega)]
      have hidx : nv dk q < rows.length := by rw [hs.len]; exact cntBelow_lt (nvB dk) hqo hqv'
      have hrow : rowAt (lz_embedRows n m rows) (nv dk q) = (rowAt rows (nv dk q)).setSpaceDim (n + m) := by
        unfold lz_embedRows
        rw [lz_rowAt_append_left _ _ _ (by simpa using hidx), gc_rowAt_map _ _ _ hidx]
      have hlen := hw _ (rowAt_mem rows _ hidx)
      have hd := hs.diag q hqo hqv'
      have hz := hs.zeros q hqo hqv'
      simp only [sEnt] at hd hz
      rw [hrow]
      refine ⟨?_, fun k hk => ?_⟩
      · rw [gn_get_setSpaceDim_pad hlen (by omega), if_pos (by omega)]; exact hd
      · rw [gn_get_setSpaceDim_pad hlen (by omega), if_pos (by omega)]; exact hz k hk
    · obtain ⟨i, rfl⟩ : ∃ i, q = n + 1 + i := ⟨q - (n + 1), by omega⟩
      have him : i < m := by omega
      rw [lz_nv_new n m dk hdk i (by omega), ← hs.len]
      have hrow : rowAt (lz_embedRows n m rows) (rows.length + i) = lz_newLine n m i := by
        unfold lz_embedRows
        have := lz_rowAt_append_right (rows.map (·.setSpaceDim (n + m))) ((List.range m).map (lz_newLine n m)) i
        rw [List.length_map] at this
        rw [this]
        simp [rowAt, him]
      rw [hrow]
      refine ⟨?_, fun k hk => ?_⟩
      · rw [lz_newLine_get n m i _ him, if_pos (by omega)]; decide
      · rw [lz_newLine_get n m i _ him, if_neg (by omega)]

/-- `ConvG` survives the passage to `m` more dimensions of kind `val` when every row of the new system with first
    non-zero column `d` either stems from an old row with the same line flag and the same first non-zero column, or is
    a line, `d` is a new dimension and `val` is `LINE` -/
theorem lz_convG_resize {n : Nat} (m val : Nat) {rows rows' : List GRow} (dk : List Nat) (hdk : dk.length = n + 1)
    (hcv : ConvG n rows dk) (hval : val = LINE ∨ val = GEN_VIRTUAL)
    (hold : ∀ g ∈ rows', ∀ d, d < n + m + 1 → (∀ k, k < d → get g.e k = 0) → get g.e d ≠ 0 →
      (∃ r ∈ rows, r.line = g.line ∧ d < n + 1 ∧ (∀ k, k < d → get r.e k = 0) ∧ get r.e d ≠ 0) ∨
      (g.line = true ∧ n + 1 ≤ d ∧ val = LINE)) :
    ConvG (n + m) rows' (resizeKindsWith dk (n + m + 1) val) := by
  obtain ⟨hk, hla, hpa⟩ := hcv
  refine ⟨fun d hd => ?_, fun g hg hl d hd hz hnz => ?_, fun g hg hl d hd hz hnz => ?_⟩
  · by_cases h : d < n + 1
    · rw [lz_kind_old n m dk hdk val d h]; exact hk d h
    · rw [lz_kind_new n m dk hdk val d (by omega) hd]
      rcases hval with rfl | rfl <;> decide
  · rcases hold g hg d hd hz hnz with ⟨r, hr, h0, h1, h2, h3⟩ | ⟨_, h1, rfl⟩
    · rw [lz_kind_old n m dk hdk val d h1]
      exact hla r hr (by rw [h0]; exact hl) d h1 h2 h3
    · exact lz_kind_new n m dk hdk LINE d h1 hd
  · rcases hold g hg d hd hz hnz with ⟨r, hr, h0, h1, h2, h3⟩ | ⟨h0, _, _⟩
    · rw [lz_kind_old n m dk hdk val d h1]
      exact hpa r hr (by rw [h0]; exact hl) d h1 h2 h3
    · rw [h0] at hl; cases hl

/-- the agreement of kinds and line flags after the embedding -/
theorem lz_convG_embed (n m : Nat) (rows : List GRow) (dk : List Nat) (hw : GWf n rows) (hdk : dk.length = n + 1)
    (hm : 0 < m) (hcv : ConvG n rows dk) : ConvG (n + m) (lz_embedRows n m rows) (resizeKindsWith dk (n + m + 1) LINE) := by
  refine lz_convG_resize m LINE dk hdk hcv (Or.inl rfl) (fun g hg d hd hz hnz => ?_)
  rcases List.mem_append.mp hg with h | h
  · -- the first non-zero column of a padded row is an old column
    obtain ⟨r, hr, rfl⟩ := List.mem_map.mp h
    have hlen := hw r hr
    have hd' : d < n + 1 := by
      by_contra hc
      rw [gn_get_setSpaceDim_pad hlen (by omega), if_neg (by omega), if_neg (by omega)] at hnz
      exact hnz rfl
    refine Or.inl ⟨r, hr, (gn_line_setSpaceDim r (n + m)).symm, hd', fun k hk' => ?_, ?_⟩
    · have := hz k hk'
      rwa [gn_get_setSpaceDim_pad hlen (by omega), if_pos (by omega)] at this
    · rwa [gn_get_setSpaceDim_pad hlen (by omega), if_pos (by omega)] at hnz
  · obtain ⟨i, hi, rfl⟩ := List.mem_map.mp h
    refine Or.inr ⟨rfl, ?_, rfl⟩
    by_contra hc
    rw [lz_newLine_get n m i d (List.mem_range.mp hi), if_neg (by omega)] at hnz
    exact hnz rfl

/-! ## `add_space_dimensions_and_embed` (Grid_chdims.cc:77) with up-to-date generators -/

theorem lz_gs_embedRows (g : Grid) (m : Nat) (hgd : g.genDim = g.spaceDim) :
    g.gs.addUniverseRowsAndColumns m = ⟨g.spaceDim + m, lz_embedRows g.spaceDim m g.gen⟩ := by
  have hgs : g.gs = ⟨g.spaceDim, g.gen⟩ := by show GSys.mk g.genDim g.gen = _; rw [hgd]
  rw [hgs, lz_addUniverse_eq]; rfl

def cn_embedBoth (g : Grid) (m : Nat) : Grid :=
  { spaceDim := g.spaceDim + m, st := g.st, conDim := (g.cs.setSpaceDim (g.spaceDim + m)).dim,
    con := (g.cs.setSpaceDim (g.spaceDim + m)).rows, genDim := (g.gs.addUniverseRowsAndColumns m).dim,
    gen := (g.gs.addUniverseRowsAndColumns m).rows,
    dk := if g.congruencesAreMinimized ∨ g.generatorsAreMinimized then
            resizeKindsWith g.dk (g.conDim + 1 + m) CON_VIRTUAL else g.dk }

theorem cn_embed_eq_both (g : Grid) (m : Nat) (hm : 0 < m) (he : g.st.empty = false) (hpos : 0 < g.spaceDim)
    (hc : g.st.cUp = true) (hg : g.st.gUp = true) : addSpaceDimensionsAndEmbed g m = cn_embedBoth g m := by
  unfold addSpaceDimensionsAndEmbed
  rw [if_neg (by omega), if_neg (show ¬ (g.markedEmpty = true) by simpa [Grid.markedEmpty] using he),
    if_neg (by omega)]
  dsimp only
  rw [if_pos (show g.congruencesAreUpToDate = true from hc), if_pos (show g.generatorsAreUpToDate = true from hg)]
  rfl

/-- **embed, both descriptions up to date** -/
theorem embed_both_full (g : Grid) (m : Nat) (hI : GridInv g) (hm : 0 < m) (he : g.st.empty = false)
    (hpos : 0 < g.spaceDim) (hc : g.st.cUp = true) (hg : g.st.gUp = true) :
    GridInv (addSpaceDimensionsAndEmbed g m) ∧
      (addSpaceDimensionsAndEmbed g m).sem = cn_embedSet g.spaceDim m g.sem ∧
      (addSpaceDimensionsAndEmbed g m).spaceDim = g.spaceDim + m := by
  obtain ⟨hgd, hgw, hgn⟩ := hI.gwf he hpos hg
  obtain ⟨hcd, hcw⟩ := hI.cwf he hpos hc
  obtain ⟨hrows, hcwf, hcons⟩ := cn_embed_cs hI he hpos hc m hm
  obtain ⟨_, a, b, c⟩ := lz_embed_gen m hgw hgn
  rw [lz_addUniverse_eq] at a b c
  rw [cn_embed_eq_both g m hm he hpos hc hg]
  unfold cn_embedBoth
  rw [lz_gs_embedRows g m hgd, show g.conDim = g.spaceDim from hcd]
  exact inv_grow_both hI he hpos hc hg m CON_VIRTUAL _ _ _ _ _ _
    (fun h => by
      rw [if_pos (show g.congruencesAreMinimized = true ∨ g.generatorsAreMinimized = true from h), Nat.add_right_comm])
    (CSys_setSpaceDim_dim _ _) hcwf rfl a b hcons (c.trans (by rw [sem_of_gUp he hpos hg]))
    (fun hcm => by
      rw [hrows]
      exact cn_lowerTriangular_pad g.spaceDim m g.con g.dk hcw (hI.cmin he hpos hcm).1 (hI.cmin he hpos hcm).2.1)
    (fun hgm => lz_upperTriangular_embed g.spaceDim m g.gen g.dk hgw (hI.gmin he hpos hgm).1 hm (hI.gmin he hpos hgm).2.1)

/-- the result of embed when only the generators are up to date -/
def lz_embedGen (g : Grid) (m : Nat) : Grid :=
  { ({ g.withGs (g.gs.addUniverseRowsAndColumns m) with
        dk := if g.generatorsAreMinimized then resizeKindsWith g.dk ((g.gs.addUniverseRowsAndColumns m).dim + 1) LINE else g.dk } : Grid)
    with spaceDim := g.spaceDim + m }

theorem lz_embed_eq_gen (g : Grid) (m : Nat) (hm : 0 < m) (he : g.st.empty = false) (hpos : 0 < g.spaceDim)
    (hc : g.st.cUp = false) : addSpaceDimensionsAndEmbed g m = lz_embedGen g m := by
  unfold addSpaceDimensionsAndEmbed
  rw [if_neg (by omega), if_neg (show ¬ (g.markedEmpty = true) by simpa [Grid.markedEmpty] using he),
    if_neg (by omega)]
  dsimp only
  rw [if_neg (show ¬ (g.congruencesAreUpToDate = true) by simpa [Grid.congruencesAreUpToDate] using hc)]
  rfl

/-- **embed, generators only** (minimized or not) -/
theorem embed_gen_full (g : Grid) (m : Nat) (hI : GridInv g) (hm : 0 < m) (he : g.st.empty = false)
    (hpos : 0 < g.spaceDim) (hc : g.st.cUp = false) :
    GridInv (addSpaceDimensionsAndEmbed g m) ∧
      (addSpaceDimensionsAndEmbed g m).sem = cn_embedSet g.spaceDim m g.sem ∧
      (addSpaceDimensionsAndEmbed g m).spaceDim = g.spaceDim + m := by
  have hg := gUp_of_not_cUp hI he hpos hc
  obtain ⟨hgd, hgw, hgn⟩ := hI.gwf he hpos hg
  obtain ⟨_, a, b, c⟩ := lz_embed_gen m hgw hgn
  rw [lz_addUniverse_eq] at a b c
  rw [lz_embed_eq_gen g m hm he hpos hc]
  unfold lz_embedGen
  rw [lz_gs_embedRows g m hgd]
  exact cn_inv_grow_gen hI he hpos hc m LINE _ _ _ _
    (fun hgm => by rw [if_pos (show g.generatorsAreMinimized = true from hgm)]) rfl a b
    (c.trans (by rw [sem_of_gUp he hpos hg]))
    (fun hgm =>
      ⟨lz_upperTriangular_embed g.spaceDim m g.gen g.dk hgw (hI.gmin he hpos hgm).1 hm (hI.gmin he hpos hgm).2.1,
       lz_convG_embed g.spaceDim m g.gen g.dk hgw (hI.gmin he hpos hgm).1 hm (hI.gminConv he hpos hgm hc)⟩)

/-- **`add_space_dimensions_and_embed(m)`**, `m > 0`, positive dimension, not marked empty: every state -/
theorem embed_pos_full (g : Grid) (m : Nat) (hI : GridInv g) (hm : 0 < m) (he : g.st.empty = false)
    (hpos : 0 < g.spaceDim) :
    GridInv (addSpaceDimensionsAndEmbed g m) ∧
      (addSpaceDimensionsAndEmbed g m).sem = cn_embedSet g.spaceDim m g.sem ∧
      (addSpaceDimensionsAndEmbed g m).spaceDim = g.spaceDim + m := by
  cases hc : g.st.cUp
  · exact embed_gen_full g m hI hm he hpos hc
  · cases hg : g.st.gUp
    · exact cn_embed_con_full g m hI hm he hpos hc hg
    · exact embed_both_full g m hI hm he hpos hc hg

/-- point `1/2`, parameter `3/2` (minimized generators only) embedded into dimension 2 -/
example :
    let g : Grid := Grid.mk 1 { gUp := true, gMin := true } 1 [] 1 [⟨false, [2, 1, 0]⟩, ⟨false, [0, 3, 2]⟩] [0, 0]
    invB g = true ∧ (addSpaceDimensionsAndEmbed g 1).gen = [⟨false, [2, 1, 0, 0]⟩, ⟨false, [0, 3, 0, 2]⟩, ⟨true, [0, 0, 1, 0]⟩] ∧
      (addSpaceDimensionsAndEmbed g 1).dk = [0, 0, 1] ∧ invB (addSpaceDimensionsAndEmbed g 1) = true := by decide +kernel

/-! ## The generator side of `add_space_dimensions_and_project` (Grid_chdims.cc:154): `set_space_dimension`, `normalize_divisors`, the triangular form with the new dimensions `GEN_VIRTUAL` -/

/-- `normalize_divisors(sys)` on a system whose divisors are normalised already: every parameter/point is scaled to a
    positive multiple `c·D` of the common divisor -/
theorem lz_normDiv_rows {k : Nat} {D : Int} {rows : List GRow} (hk : 0 < k) (hw : GWf k rows) (hN : GNorm k D rows) :
    ∃ c : Int, 0 < c ∧ (normalizeDivisors1 ⟨k, rows⟩).rows = rows.map (·.scaleToDivisor (c * D)) := by
  have hwf := gn_wf_of_gnorm hN hw
  have hnl : rows.all (·.isLine) = false := by
    obtain ⟨r, hr, hl, _⟩ := hN.pt
    rw [List.all_eq_false]
    exact ⟨r, hr, by simp [GRow.isLine, hl]⟩
  have hpos : ∀ r ∈ rows.dropWhile (·.isLine), r.line = false → 0 < r.divisor :=
    fun r hr hl => (hwf.shape r (List.dropWhile_subset _ hr)).2 hl
  obtain ⟨h1, _, h3⟩ := lcmFold_spec (rows.dropWhile (·.isLine)) hpos 1 (by decide)
  obtain ⟨p, hp, hpl, hp0⟩ := hN.pt
  have hdivp : p.divisor = D := by rw [divisor_point p (by rw [hp0]; exact ne_of_gt hN.pos), hp0]
  have hDX := h3 p (mem_dropWhile_of_not _ rows p hp (by simpa [GRow.isLine] using hpl)) hpl
  rw [hdivp] at hDX
  obtain ⟨c, hc⟩ := hDX
  have hcpos : 0 < c := by
    by_contra h
    have : c ≤ 0 := by omega
    have := Int.mul_nonpos_of_nonneg_of_nonpos (le_of_lt hN.pos) this
    rw [hc] at h1; omega
  refine ⟨c, hcpos, ?_⟩
  have e : normalizeDivisors k rows 1 =
      (rows.map (·.scaleToDivisor
        ((rows.dropWhile (·.isLine)).foldl (fun d g => if g.isParameterOrPoint then lcmI d g.divisor else d) 1)),
       (rows.dropWhile (·.isLine)).foldl (fun d g => if g.isParameterOrPoint then lcmI d g.divisor else d) 1) := by
    unfold normalizeDivisors
    rw [if_pos ⟨hk, by decide⟩, hnl]
    rfl
  show (normalizeDivisors k rows 1).1 = _
  rw [e]
  show rows.map _ = _
  rw [hc, mul_comm]

/-- the entries of a scaled row -/
theorem lz_scale_get {k : Nat} {D : Int} {rows : List GRow} (hN : GNorm k D rows) (hw : GWf k rows) (c : Int)
    (hc : 0 < c) {r : GRow} (hr : r ∈ rows) :
    (r.scaleToDivisor (c * D)).line = r.line ∧
    ∃ c' : Int, 0 < c' ∧ ∀ j, j ≤ k → get (r.scaleToDivisor (c * D)).e j = c' * get r.e j := by
  cases hl : r.line
  · have hwf := gn_wf_of_gnorm hN hw
    have hdiv : r.divisor = D := by
      rcases hN.col0 r hr hl with h0 | h0
      · rw [divisor_param k r (hw r hr) h0, hN.par r hr hl h0]
      · have : get r.e 0 ≠ 0 := by rw [h0]; exact ne_of_gt hN.pos
        rw [divisor_point r this, h0]
    obtain ⟨s1, _⟩ := scaleToDivisor_spec k r (c * D) (hw r hr) hl ((hwf.shape r hr).2 hl)
      (by rw [hdiv]; exact Dvd.intro_left c rfl) (Int.mul_pos hc hN.pos)
    refine ⟨s1, c, hc, fun j hj => ?_⟩
    have := congrFun (gn_hv_scale hN hw c hc hr hl) j
    simp only [Pi.smul_apply, smul_eq_mul, hv_apply, if_pos hj] at this
    exact_mod_cast this
  · have : r.scaleToDivisor (c * D) = r := by simp [GRow.scaleToDivisor, GRow.isLine, hl]
    rw [this]
    exact ⟨hl, 1, by decide, fun j _ => by ring⟩

/-- the rows of the projection -/
def lz_projRows (n m : Nat) (rows : List GRow) : List GRow :=
  (normalizeDivisors1 ⟨n + m, rows.map (·.setSpaceDim (n + m))⟩).rows

/-- every row of the projection is a positive multiple (columns `0..n+m`) of the padded row of the same index -/
theorem lz_projRows_spec {n : Nat} {D : Int} {rows : List GRow} (m : Nat) (hn : 0 < n) (hm : 0 < m) (hw : GWf n rows)
    (hN : GNorm n D rows) :
    (lz_projRows n m rows).length = rows.length ∧
    ∀ i, i < rows.length → (rowAt (lz_projRows n m rows) i).line = (rowAt rows i).line ∧
      ∃ c' : Int, 0 < c' ∧ ∀ j, j ≤ n + m →
        get (rowAt (lz_projRows n m rows) i).e j = c' * (if j ≤ n then get (rowAt rows i).e j else 0) := by
  obtain ⟨a, b, _⟩ := lz_resize_facts (n + m) (by omega) hw hN
  obtain ⟨c, hc, hrows⟩ := lz_normDiv_rows (by omega) a b
  unfold lz_projRows
  rw [hrows]
  refine ⟨by simp, fun i hi => ?_⟩
  have hi' : i < (rows.map (·.setSpaceDim (n + m))).length := by simpa using hi
  rw [gc_rowAt_map _ _ _ hi', gc_rowAt_map _ _ _ hi]
  have hmem : (rowAt rows i).setSpaceDim (n + m) ∈ rows.map (·.setSpaceDim (n + m)) :=
    List.mem_map_of_mem (rowAt_mem rows i hi)
  obtain ⟨s1, c', hc', hg⟩ := lz_scale_get b a c hc hmem
  refine ⟨by rw [s1, gn_line_setSpaceDim], c', hc', fun j hj => ?_⟩
  rw [hg j hj, gn_get_setSpaceDim_pad (hw _ (rowAt_mem rows i hi)) (by omega)]
  by_cases h : j ≤ n
  · rw [if_pos h, if_pos h]
  · rw [if_neg h, if_neg h, if_neg (by omega)]

theorem lz_nv_virtual (n m : Nat) (dk : List Nat) (hdk : dk.length = n + 1) (i : Nat) (hi : i ≤ m) :
    nv (resizeKindsWith dk (n + m + 1) GEN_VIRTUAL) (n + 1 + i) = nv dk (n + 1) := by
  rw [nv_resize dk n m GEN_VIRTUAL _ hdk (by omega), Nat.min_eq_right (by omega)]
  rfl

/-- **the triangular form after the projection**: the new dimensions are `GEN_VIRTUAL` dimensions -/
theorem lz_upperTriangular_project {n : Nat} {D : Int} {rows : List GRow} (m : Nat) (dk : List Nat) (hn : 0 < n)
    (hm : 0 < m) (hw : GWf n rows) (hN : GNorm n D rows) (hdk : dk.length = n + 1)
    (h : upperTriangular n rows dk = true) :
    upperTriangular (n + m) (lz_projRows n m rows) (resizeKindsWith dk (n + m + 1) GEN_VIRTUAL) = true := by
  have hs := upperTriangular_spec n rows dk h
  obtain ⟨hlen, hrow⟩ := lz_projRows_spec m hn hm hw hN
  refine cg_upperTriangular_of_rows (n + m) _ _ ?_ (fun q hq hqv => ?_)
  · have h2 : nv (resizeKindsWith dk (n + m + 1) GEN_VIRTUAL) (n + m + 1) = nv dk (n + 1) := by
      have := lz_nv_virtual n m dk hdk m (le_refl m)
      rwa [show n + 1 + m = n + m + 1 by omega] at this
    rw [h2, hlen, hs.len]
  · have hqo : q < n + 1 := by
      by_contra hc
      unfold nvB at hqv
      rw [lz_kind_new n m dk hdk GEN_VIRTUAL q (by omega) hq] at hqv
      exact absurd hqv (by decide)
    have hqv' : nvB dk q = true := by
      unfold nvB at hqv ⊢; rwa [lz_kind_old n m dk hdk GEN_VIRTUAL q hqo] at hqv
    rw [lz_nv_old n m dk hdk GEN_VIRTUAL q (by omega)]
    have hidx : nv dk q < rows.length := by rw [hs.len]; exact cntBelow_lt (nvB dk) hqo hqv'
    obtain ⟨_, c', hc', hg⟩ := hrow _ hidx
    have hd := hs.diag q hqo hqv'
    have hz := hs.zeros q hqo hqv'
    simp only [sEnt] at hd hz
    refine ⟨?_, fun k hk => ?_⟩
    · rw [hg q (by omega), if_pos (by omega)]; exact Int.mul_pos hc' hd
    · rw [hg k (by omega), if_pos (by omega), hz k hk]; ring

/-- the agreement of kinds and line flags after the projection -/
theorem lz_convG_project {n : Nat} {D : Int} {rows : List GRow} (m : Nat) (dk : List Nat) (hn : 0 < n) (hm : 0 < m)
    (hw : GWf n rows) (hN : GNorm n D rows) (hdk : dk.length = n + 1) (hcv : ConvG n rows dk) :
    ConvG (n + m) (lz_projRows n m rows) (resizeKindsWith dk (n + m + 1) GEN_VIRTUAL) := by
  obtain ⟨hlen, hrow⟩ := lz_projRows_spec m hn hm hw hN
  -- a row of the projection with its first non-zero column `d`: the original row has the same, `d ≤ n`
  refine lz_convG_resize m GEN_VIRTUAL dk hdk hcv (Or.inr rfl) (fun g hg d hd hz hnz => Or.inl ?_)
  obtain ⟨i, hi, rfl⟩ := (gc_mem_iff_rowAt _ _).mp hg
  rw [hlen] at hi
  obtain ⟨hl, c', hc', hget⟩ := hrow i hi
  have hd' : d < n + 1 := by
    by_contra hc
    rw [hget d (by omega), if_neg (by omega)] at hnz
    exact hnz (by ring)
  refine ⟨rowAt rows i, rowAt_mem rows i hi, hl.symm, hd', fun k hk' => ?_, ?_⟩
  · have := hz k hk'
    rw [hget k (by omega), if_pos (by omega)] at this
    rcases Int.mul_eq_zero.mp this with h | h
    · omega
    · exact h
  · intro h0
    rw [hget d (by omega), if_pos (by omega), h0] at hnz
    exact hnz (by ring)

/-! ## `add_space_dimensions_and_project` (Grid_chdims.cc:154) with up-to-date generators -/

def cn_projectBoth (g : Grid) (m : Nat) : Grid :=
  { spaceDim := g.spaceDim + m, st := g.st, conDim := (g.cs.addUnitRowsAndSpaceDimensions m).dim,
    con := (g.cs.addUnitRowsAndSpaceDimensions m).rows,
    genDim := (normalizeDivisors1 (g.gs.setSpaceDim (g.spaceDim + m))).dim,
    gen := (normalizeDivisors1 (g.gs.setSpaceDim (g.spaceDim + m))).rows,
    dk := resizeKindsWith g.dk ((g.cs.addUnitRowsAndSpaceDimensions m).dim + 1) EQUALITY }

theorem cn_project_eq_both (g : Grid) (m : Nat) (hm : 0 < m) (he : g.st.empty = false) (hpos : 0 < g.spaceDim)
    (hc : g.st.cUp = true) (hg : g.st.gUp = true) : addSpaceDimensionsAndProject g m = cn_projectBoth g m := by
  unfold addSpaceDimensionsAndProject
  rw [if_neg (by omega), if_neg (show ¬ (g.markedEmpty = true) by simpa [Grid.markedEmpty] using he),
    if_neg (by omega)]
  dsimp only
  rw [if_pos (show g.congruencesAreUpToDate = true from hc), if_pos (show g.generatorsAreUpToDate = true from hg)]
  rfl

/-- **project, both descriptions up to date** -/
theorem project_both (g : Grid) (m : Nat) (hI : GridInv g) (hm : 0 < m) (he : g.st.empty = false)
    (hpos : 0 < g.spaceDim) (hc : g.st.cUp = true) (hg : g.st.gUp = true) :
    GridInv (addSpaceDimensionsAndProject g m) ∧ (addSpaceDimensionsAndProject g m).sem = g.sem ∧
      (addSpaceDimensionsAndProject g m).spaceDim = g.spaceDim + m := by
  obtain ⟨hgd, hgw, hgn⟩ := hI.gwf he hpos hg
  obtain ⟨d0, a, b, c⟩ := lz_project_gen m hpos hgw hgn
  obtain ⟨hdim, hcwf, hcons⟩ := cn_project_cs hI he hpos hc m hm
  rw [cn_project_eq_both g m hm he hpos hc hg]
  unfold cn_projectBoth
  exact inv_grow_both hI he hpos hc hg m EQUALITY _ _ _ _ _ _ (fun _ => by rw [hdim]) hdim hcwf d0 a b hcons
    (c.trans (sem_of_gUp he hpos hg).symm) (fun hcm => (cn_project_tri g m hI hm he hpos hcm).1)
    (fun hgm => lz_upperTriangular_project m g.dk hpos hm hgw hgn (hI.gmin he hpos hgm).1 (hI.gmin he hpos hgm).2.1)

theorem project_both_full (g : Grid) (m : Nat) (hI : GridInv g) (hm : 0 < m) (he : g.st.empty = false)
    (hpos : 0 < g.spaceDim) (hc : g.st.cUp = true) (hg : g.st.gUp = true) (hcm : g.st.cMin = false) :
    GridInv (addSpaceDimensionsAndProject g m) ∧ (addSpaceDimensionsAndProject g m).sem = g.sem ∧
      (addSpaceDimensionsAndProject g m).spaceDim = g.spaceDim + m :=
  project_both g m hI hm he hpos hc hg

/-- the result of project when only the generators are up to date -/
def lz_projectGen (g : Grid) (m : Nat) : Grid :=
  { ({ g.withGs (normalizeDivisors1 (g.gs.setSpaceDim (g.spaceDim + m))) with
        dk := if g.generatorsAreMinimized then
            resizeKindsWith g.dk ((normalizeDivisors1 (g.gs.setSpaceDim (g.spaceDim + m))).dim + 1) EQUALITY else g.dk } : Grid)
    with spaceDim := g.spaceDim + m }

theorem lz_project_eq_gen (g : Grid) (m : Nat) (hm : 0 < m) (he : g.st.empty = false) (hpos : 0 < g.spaceDim)
    (hc : g.st.cUp = false) : addSpaceDimensionsAndProject g m = lz_projectGen g m := by
  unfold addSpaceDimensionsAndProject
  rw [if_neg (by omega), if_neg (show ¬ (g.markedEmpty = true) by simpa [Grid.markedEmpty] using he),
    if_neg (by omega)]
  dsimp only
  rw [if_neg (show ¬ (g.congruencesAreUpToDate = true) by simpa [Grid.congruencesAreUpToDate] using hc)]
  rfl

/-- **project, generators only** (minimized or not) -/
theorem project_gen_full (g : Grid) (m : Nat) (hI : GridInv g) (hm : 0 < m) (he : g.st.empty = false)
    (hpos : 0 < g.spaceDim) (hc : g.st.cUp = false) :
    GridInv (addSpaceDimensionsAndProject g m) ∧ (addSpaceDimensionsAndProject g m).sem = g.sem ∧
      (addSpaceDimensionsAndProject g m).spaceDim = g.spaceDim + m := by
  have hg := gUp_of_not_cUp hI he hpos hc
  obtain ⟨hgd, hgw, hgn⟩ := hI.gwf he hpos hg
  obtain ⟨d0, a, b, c⟩ := lz_project_gen m hpos hgw hgn
  rw [lz_project_eq_gen g m hm he hpos hc]
  unfold lz_projectGen
  exact cn_inv_grow_gen hI he hpos hc m GEN_VIRTUAL _ _ _ _
    (fun hgm => by rw [if_pos (show g.generatorsAreMinimized = true from hgm)]; rfl) d0 a b
    (c.trans (sem_of_gUp he hpos hg).symm)
    (fun hgm =>
      ⟨lz_upperTriangular_project m g.dk hpos hm hgw hgn (hI.gmin he hpos hgm).1 (hI.gmin he hpos hgm).2.1,
       lz_convG_project m g.dk hpos hm hgw hgn (hI.gmin he hpos hgm).1 (hI.gminConv he hpos hgm hc)⟩)

/-- point `1/2`, parameter `3/2` (minimized generators only) projected into dimension 2 -/
example :
    let g : Grid := Grid.mk 1 { gUp := true, gMin := true } 1 [] 1 [⟨false, [2, 1, 0]⟩, ⟨false, [0, 3, 2]⟩] [0, 0]
    invB g = true ∧ (addSpaceDimensionsAndProject g 1).gen = [⟨false, [2, 1, 0, 0]⟩, ⟨false, [0, 3, 0, 2]⟩] ∧
      (addSpaceDimensionsAndProject g 1).dk = [0, 0, 2] ∧ invB (addSpaceDimensionsAndProject g 1) = true := by decide +kernel

/-! ## `add_space_dimensions_and_embed` / `…_and_project` on EVERY invariant state -/

/-- **`add_space_dimensions_and_embed(m)`**: every invariant state, every `m` -/
theorem addSpaceDimensionsAndEmbed_full (g : Grid) (m : Nat) (hI : GridInv g) :
    GridInv (addSpaceDimensionsAndEmbed g m) ∧
      (addSpaceDimensionsAndEmbed g m).sem = cn_embedSet g.spaceDim m g.sem ∧
      (addSpaceDimensionsAndEmbed g m).spaceDim = g.spaceDim + m := by
  by_cases hm : m = 0
  · subst hm
    obtain ⟨a, b⟩ := cn_embed_zero g hI
    rw [a, b]; exact ⟨hI, rfl, rfl⟩
  have hm' : 0 < m := by omega
  cases he : g.st.empty
  · by_cases h0 : g.spaceDim = 0
    · exact cn_embed_zdim g m hm' he h0
    · exact embed_pos_full g m hI hm' he (by omega)
  · exact cn_embed_empty g m hm' he

/-- **`add_space_dimensions_and_project(m)`**, `m > 0`, positive dimension, not marked empty: the same points in `m` more
    dimensions -/
theorem cn_addSpaceDimensionsAndProject_pos (g : Grid) (m : Nat) (hI : GridInv g) (hm : 0 < m) (he : g.st.empty = false)
    (hpos : 0 < g.spaceDim) :
    GridInv (addSpaceDimensionsAndProject g m) ∧ (addSpaceDimensionsAndProject g m).sem = g.sem ∧
      (addSpaceDimensionsAndProject g m).spaceDim = g.spaceDim + m := by
  cases hc : g.st.cUp
  · exact project_gen_full g m hI hm he hpos hc
  · cases hg : g.st.gUp
    · exact cn_project_con_full g m hI hm he hpos hc hg
    · exact project_both g m hI hm he hpos hc hg

theorem addSpaceDimensionsAndProject_noCMin (g : Grid) (m : Nat) (hI : GridInv g) (hm : 0 < m) (he : g.st.empty = false)
    (hpos : 0 < g.spaceDim) (hcm : g.st.cMin = false) :
    GridInv (addSpaceDimensionsAndProject g m) ∧ (addSpaceDimensionsAndProject g m).sem = g.sem ∧
      (addSpaceDimensionsAndProject g m).spaceDim = g.spaceDim + m :=
  cn_addSpaceDimensionsAndProject_pos g m hI hm he hpos

/-- `add_space_dimensions_and_project(m)` on every invariant state: invariant and dimension; the grid is kept, EXCEPT
    in dimension 0 with `m > 0` on the non-empty grid, where the model (and the library, KF-C05-9) yields the universe -/
theorem cn_addSpaceDimensionsAndProject_full (g : Grid) (m : Nat) (hI : GridInv g) :
    GridInv (addSpaceDimensionsAndProject g m) ∧ (addSpaceDimensionsAndProject g m).spaceDim = g.spaceDim + m ∧
    ((m = 0 ∨ g.st.empty = true ∨ 0 < g.spaceDim) → (addSpaceDimensionsAndProject g m).sem = g.sem) ∧
    (0 < m → g.st.empty = false → g.spaceDim = 0 → (addSpaceDimensionsAndProject g m).sem = spaceSet m) := by
  by_cases hm : m = 0
  · subst hm
    rw [cn_project_zero]
    exact ⟨hI, rfl, fun _ => rfl, fun h => by omega⟩
  · have hm' : 0 < m := by omega
    by_cases he : g.st.empty = true
    · obtain ⟨a, b, c⟩ := cn_project_empty g m hm' he
      exact ⟨a, c, fun _ => b, fun _ h => by rw [he] at h; cases h⟩
    · have he' : g.st.empty = false := by simpa using he
      by_cases h0 : g.spaceDim = 0
      · obtain ⟨a, b, c⟩ := cn_project_zdim g m hm' he' h0
        refine ⟨a, c, ?_, fun _ _ _ => b⟩
        rintro (h | h | h)
        · exact absurd h hm
        · exact absurd h he
        · omega
      · obtain ⟨a, b, c⟩ := cn_addSpaceDimensionsAndProject_pos g m hI hm' he' (by omega)
        exact ⟨a, c, fun _ => b, fun _ _ h => absurd h h0⟩

/-- **`add_space_dimensions_and_project(m)`** on every invariant state of positive dimension or marked empty (in dimension
    0 on a non-empty grid the library answers the universe, `cn_project_zdim` / KF-C05-9) -/
theorem addSpaceDimensionsAndProject_full (g : Grid) (m : Nat) (hI : GridInv g) (h0 : g.st.empty = true ∨ 0 < g.spaceDim) :
    GridInv (addSpaceDimensionsAndProject g m) ∧ (addSpaceDimensionsAndProject g m).sem = g.sem ∧
      (addSpaceDimensionsAndProject g m).spaceDim = g.spaceDim + m := by
  by_cases hm : m = 0
  · subst hm; rw [cn_project_zero]; exact ⟨hI, rfl, rfl⟩
  have hm' : 0 < m := by omega
  cases he : g.st.empty
  · rcases h0 with h | h
    · rw [he] at h; cases h
    · exact cn_addSpaceDimensionsAndProject_pos g m hI hm' he h
  · exact cn_project_empty g m hm' he

/-- `x ≡ 1 (mod 2)`, minimized congruences only, projected into dimension 2: the equality `y = 0` comes first -/
example :
    let g : Grid := Grid.mk 1 { cUp := true, cMin := true } 1 [⟨[1, 1], 2⟩, ⟨[2, 0], 2⟩] 1 [] [0, 0]
    invB g = true ∧ (addSpaceDimensionsAndProject g 1).con = [⟨[0, 0, 1], 0⟩, ⟨[1, 1, 0], 2⟩, ⟨[2, 0, 0], 2⟩] ∧
      (addSpaceDimensionsAndProject g 1).dk = [0, 0, 2] ∧ invB (addSpaceDimensionsAndProject g 1) = true := by decide +kernel

end PPLV.Lattice.GO

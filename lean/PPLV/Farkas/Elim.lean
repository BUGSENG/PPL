import PPLV.Farkas.Comb

/-!
# Farkas / Motzkin from the verified Fourier–Motzkin kernel: induction over K1's elimination

Every row that K1 ever derives from `cs` — by `elimAt` (plain cross-combination **and** the
equality-pinning fast path: both only produce `combine i l u` with `l.at i > 0 > u.at i`, or keep a
row with `at i = 0`), by `tidy0` (gcd normalisation = positive scaling; dropping trivially true rows
and duplicates) and by the certificate-based `pruneRows` (which only DROPS rows) — is a
non-negative combination of the rows of `cs` (`Comb`), and is independent of the variables
eliminated so far (`Indep`).  The one place where K1 *invents* a row (`tidy0` replaces a system
containing a trivially false row by `[falseRow]`) is exactly the place where a refutation has been
found: the invariant is "`cs` is refuted, or every current row is good".
-/
namespace PPLV.Farkas
open PPLV.Lin

/-- the rows of one elimination step -/
theorem mem_elimAt (i : Nat) (cs : List Con) (r : Con) (h : r ∈ elimAt i cs) :
    (r ∈ cs ∧ r.at i = 0) ∨
      ∃ l u, l ∈ cs ∧ u ∈ cs ∧ 0 < l.at i ∧ u.at i < 0 ∧ r = combine i l u := by
  unfold elimAt at h
  simp only at h
  split at h
  · rename_i l u heq
    obtain ⟨hl, hu, -, -, -⟩ := findEqPair_some _ _ _ _ _ heq
    simp only [List.mem_filter, decide_eq_true_eq] at hl hu
    simp only [List.mem_append, List.mem_map, List.mem_filter, decide_eq_true_eq] at h
    rcases h with (⟨hd, hz⟩ | ⟨p, ⟨hp, hpp⟩, rfl⟩) | ⟨q, ⟨hq, hqn⟩, rfl⟩
    · exact Or.inl ⟨hd, hz⟩
    · exact Or.inr ⟨p, u, hp, hu.1, hpp, hu.2, rfl⟩
    · exact Or.inr ⟨l, q, hl.1, hq, hl.2, hqn, rfl⟩
  · simp only [List.mem_append, List.mem_map, List.mem_filter, List.mem_flatMap,
      decide_eq_true_eq] at h
    rcases h with ⟨hd, hz⟩ | ⟨l, ⟨hl, hlp⟩, u, ⟨hu, hun⟩, rfl⟩
    · exact Or.inl ⟨hd, hz⟩
    · exact Or.inr ⟨l, u, hl, hu, hlp, hun, rfl⟩

/-- certified pruning only drops rows -/
theorem mem_pruneRows (n : Nat) (kept rest : List Con) (c : Con) (h : c ∈ pruneRows n kept rest) :
    c ∈ kept ∨ c ∈ rest := by
  induction rest generalizing kept with
  | nil => exact Or.inl (by simpa [pruneRows] using h)
  | cons d rest ih =>
    unfold pruneRows at h
    split at h
    · rcases ih kept h with h | h
      · exact Or.inl h
      · exact Or.inr (List.mem_cons_of_mem _ h)
    · rcases ih (kept ++ [d]) h with h | h
      · rcases List.mem_append.mp h with h | h
        · exact Or.inl h
        · exact Or.inr (by simp at h; simp [h])
      · exact Or.inr (List.mem_cons_of_mem _ h)

/-- a non-negative combination of the rows of `cs` is a constant that cannot be `≥ 0` / `> 0` -/
def Refuted (cs : List Con) : Prop :=
  ∃ r : Con, Comb cs r ∧ ∃ K : Rat, (∀ x, r.eval x = K) ∧ (K < 0 ∨ (K ≤ 0 ∧ r.strict = true))

/-- a derived row: combination of the original rows, independent of the eliminated variables -/
def Good (cs : List Con) (P : Nat → Prop) (r : Con) : Prop := Comb cs r ∧ ∀ i, P i → Indep i r

/-- the invariant of K1's elimination -/
def Inv (cs : List Con) (P : Nat → Prop) (ds : List Con) : Prop :=
  Refuted cs ∨ ∀ r ∈ ds, Good cs P r

theorem inv_mono (cs : List Con) (P Q : Nat → Prop) (ds : List Con) (hPQ : ∀ i, Q i → P i)
    (h : Inv cs P ds) : Inv cs Q ds := by
  rcases h with h | h
  · exact Or.inl h
  · exact Or.inr fun r hr => ⟨(h r hr).1, fun i hi => (h r hr).2 i (hPQ i hi)⟩

theorem inv_init (cs : List Con) : Inv cs (fun _ => False) cs :=
  Or.inr fun r hr => ⟨comb_mem cs r hr, fun _ hi => hi.elim⟩

/-- one Fourier–Motzkin step (both paths of `elimAt`) -/
theorem inv_elimAt (cs : List Con) (P : Nat → Prop) (ds : List Con) (i : Nat) (h : Inv cs P ds) :
    Inv cs (fun j => P j ∨ j = i) (elimAt i ds) := by
  rcases h with h | h
  · exact Or.inl h
  · refine Or.inr fun r hr => ?_
    rcases mem_elimAt i ds r hr with ⟨hd, hz⟩ | ⟨l, u, hl, hu, hlp, hun, rfl⟩
    · refine ⟨(h r hd).1, fun j hj => ?_⟩
      rcases hj with hj | rfl
      · exact (h r hd).2 j hj
      · exact indep_of_at_zero _ r hz
    · refine ⟨comb_combine cs i l u (h l hl).1 (h u hu).1 hlp hun, fun j hj => ?_⟩
      rcases hj with hj | rfl
      · exact indep_combine j i l u ((h l hl).2 j hj) ((h u hu).2 j hj)
      · exact indep_combine_self _ l u

/-- normalise / drop trivial rows / de-duplicate; a trivially false row is a refutation -/
theorem inv_tidy0 (cs : List Con) (P : Nat → Prop) (ds : List Con) (h : Inv cs P ds) :
    Inv cs P (tidy0 ds) := by
  rcases h with h | h
  · exact Or.inl h
  · unfold tidy0
    simp only
    split
    · rename_i hany
      simp only [List.any_eq_true, List.mem_map] at hany
      obtain ⟨c', ⟨c, hc, rfl⟩, hf⟩ := hany
      left
      obtain ⟨g, hg, he⟩ := eval_normalize c
      have hg' : (0 : Rat) < (g : Rat) := by exact_mod_cast hg
      unfold Con.trivFalse at hf
      simp only [Bool.and_eq_true, Bool.not_eq_true'] at hf
      refine ⟨c, (h c hc).1, (g : Rat) * (c.normalize.k : Rat), fun x => ?_, ?_⟩
      · rw [he x, eval_allZero _ hf.1]
      · have h2 := hf.2
        rw [normalize_strict] at h2
        cases hs : c.strict
        · simp only [hs, Bool.false_eq_true, if_false, decide_eq_false_iff_not, not_le] at h2
          left
          have : ((c.normalize.k : Int) : Rat) < 0 := by exact_mod_cast h2
          exact mul_neg_of_pos_of_neg hg' this
        · simp only [hs, if_true, decide_eq_false_iff_not, not_lt] at h2
          right
          have : ((c.normalize.k : Int) : Rat) ≤ 0 := by exact_mod_cast h2
          exact ⟨mul_nonpos_of_nonneg_of_nonpos (le_of_lt hg') this, rfl⟩
    · refine Or.inr fun r hr => ?_
      rw [mem_dedup] at hr
      simp only [List.mem_filter, List.mem_map] at hr
      obtain ⟨⟨d, hd, rfl⟩, -⟩ := hr
      exact ⟨comb_normalize cs d (h d hd).1, fun j hj => indep_normalize j d ((h d hd).2 j hj)⟩

theorem inv_subset (cs : List Con) (P : Nat → Prop) (ds es : List Con) (hsub : ∀ r ∈ es, r ∈ ds)
    (h : Inv cs P ds) : Inv cs P es := by
  rcases h with h | h
  · exact Or.inl h
  · exact Or.inr fun r hr => h r (hsub r hr)

/-- `tidy` = `tidy0` + certified pruning -/
theorem inv_tidy (cs : List Con) (P : Nat → Prop) (ds : List Con) (h : Inv cs P ds) :
    Inv cs P (tidy ds) := by
  unfold tidy
  simp only
  split
  · exact inv_tidy0 cs P ds h
  · refine inv_subset cs P (tidy0 ds) _ (fun r hr => ?_) (inv_tidy0 cs P ds h)
    rcases mem_pruneRows _ _ _ r hr with h | h
    · cases h
    · exact h

/-- iterated elimination -/
theorem inv_elimVars (cs : List Con) (js : List Nat) (P : Nat → Prop) (ds : List Con)
    (h : Inv cs P ds) : Inv cs (fun j => P j ∨ j ∈ js) (elimVars js ds) := by
  induction js generalizing P ds with
  | nil => exact inv_mono cs P _ ds (fun i hi => hi.elim id (fun h => by cases h)) h
  | cons i is ih =>
    simp only [elimVars]
    have h1 := inv_tidy cs _ _ (inv_elimAt cs P ds i h)
    refine inv_mono cs _ _ _ (fun j hj => ?_) (ih _ _ h1)
    rcases hj with hj | hj
    · exact Or.inl (Or.inl hj)
    · rcases List.mem_cons.mp hj with rfl | hj
      · exact Or.inl (Or.inr rfl)
      · exact Or.inr hj

/-! ### a good row of the fully eliminated system is a constant -/

/-- the first `k` coordinates set to `0` -/
def zeroTo (k : Nat) (x : Val) : Val := fun j => if j < k then 0 else x j

theorem zeroTo_zero (x : Val) : zeroTo 0 x = x := by
  funext j; simp [zeroTo]

theorem zeroTo_succ (k : Nat) (x : Val) : zeroTo (k + 1) x = (zeroTo k x).update k 0 := by
  funext j
  unfold zeroTo Val.update
  by_cases h1 : j = k
  · subst h1; simp
  · by_cases h2 : j < k
    · have : j < k + 1 := by omega
      simp [h1, h2, this]
    · have : ¬ j < k + 1 := by omega
      simp [h1, h2, this]

theorem eval_zeroTo (r : Con) (n : Nat) (hi : ∀ i < n, Indep i r) (x : Val) :
    ∀ k ≤ n, r.eval (zeroTo k x) = r.eval x := by
  intro k
  induction k with
  | zero => intro _; rw [zeroTo_zero]
  | succ k ih =>
    intro hk
    rw [zeroTo_succ, hi k (by omega), ih (by omega)]

theorem wev_agree (cs : List Con) (y : List Int) (x x' : Val) (h : ∀ c ∈ cs, c.eval x = c.eval x') :
    wev cs y x = wev cs y x' := by
  induction cs generalizing y with
  | nil => simp [wev]
  | cons c cs ih =>
    cases y with
    | nil => simp [wev]
    | cons a ys =>
      simp only [wev]
      rw [h c (by simp), ih ys (fun d hd => h d (by simp [hd]))]

theorem eval_const (n : Nat) (cs : List Con) (hwf : WF n cs) (r : Con) (hc : Comb cs r)
    (hi : ∀ i < n, Indep i r) (x : Val) : r.eval x = (r.k : Rat) := by
  obtain ⟨y, g, hg, -, -, he, -⟩ := hc
  have hg' : (g : Rat) ≠ 0 := by exact_mod_cast (ne_of_gt hg)
  have h1 : r.eval (zeroTo n x) = r.eval x := eval_zeroTo r n hi x n (le_refl _)
  have h2 : wev cs y (zeroTo n x) = wev cs y Val.zero := by
    apply wev_agree
    intro c hc
    unfold Con.eval
    rw [dot_agree c.coeffs (zeroTo n x) Val.zero]
    intro i hi
    have : i < n := lt_of_lt_of_le hi (hwf c hc)
    simp [zeroTo, this, Val.zero]
  have h3 : (g : Rat) * r.eval x = (g : Rat) * r.eval Val.zero := by
    rw [← h1, he, h2, ← he]
  rw [mul_left_cancel₀ hg' h3, eval_zero]

/-- **K1's complete Fourier–Motzkin procedure refutes an infeasible system by a combination.** -/
theorem refuted_of_infeasible (n : Nat) (cs : List Con) (hwf : WF n cs) (h : ¬ ∃ x, Sat cs x) :
    Refuted cs := by
  have hfm : ¬ feasibleFM n cs = true := fun hf => h ((feasibleFM_iff n cs hwf).mp hf)
  have hinv := inv_elimVars cs (List.range n) _ _ (inv_tidy cs _ _ (inv_init cs))
  rcases hinv with hr | hgood
  · exact hr
  · unfold feasibleFM constOK at hfm
    rw [List.all_eq_true] at hfm
    simp only [not_forall] at hfm
    obtain ⟨r, hr, hbad⟩ := hfm
    obtain ⟨hc, hind⟩ := hgood r hr
    have hconst : ∀ x, r.eval x = (r.k : Rat) :=
      eval_const n cs hwf r hc (fun i hi => hind i (Or.inr (List.mem_range.mpr hi)))
    refine ⟨r, hc, (r.k : Rat), hconst, ?_⟩
    cases hs : r.strict
    · rw [hs] at hbad
      have hb : ¬ (0 ≤ r.k) := by simpa using hbad
      left
      have : r.k < 0 := by omega
      exact_mod_cast this
    · rw [hs] at hbad
      have hb : ¬ (0 < r.k) := by simpa using hbad
      right
      have : r.k ≤ 0 := by omega
      exact ⟨by exact_mod_cast this, rfl⟩

end PPLV.Farkas

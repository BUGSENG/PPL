import PPLV.Farkas.Elim

/-!
# Farkas / Motzkin from the verified Fourier–Motzkin kernel: the two lemmas

* `farkas_infeasible` (Motzkin transposition): a system (strict rows allowed) over `n` variables
  without solution has multipliers accepted by K1's certificate checker `certInfeas` — the
  certificate search of `certify` is complete in principle.
* `farkas_implied` (affine Farkas): a non-strict row implied by a non-empty system of non-strict
  rows is, after scaling by a positive integer, a non-negative integer combination of the rows plus
  a non-negative constant.
Both are obtained constructively from K1's complete elimination (`refuted_of_infeasible`); no
appeal to convex separation.
-/
namespace PPLV.Farkas
open PPLV.Lin

/-- multipliers, in the vocabulary of `certInfeas` -/
theorem farkas_refutation (n : Nat) (cs : List Con) (hwf : WF n cs) (h : ¬ ∃ x, Sat cs x) :
    ∃ y : List Int, y.length = cs.length ∧ (∀ a ∈ y, 0 ≤ a) ∧
      ∃ K : Rat, (∀ x, wev cs y x = K) ∧ (K < 0 ∨ (K ≤ 0 ∧ 0 < strictWeight cs y)) := by
  obtain ⟨r, ⟨y, g, hg, hl, hy, he, hs⟩, K, hK, hsign⟩ := refuted_of_infeasible n cs hwf h
  have hg' : (0 : Rat) < (g : Rat) := by exact_mod_cast hg
  refine ⟨y, hl, hy, (g : Rat) * K, fun x => by rw [← he x, hK x], ?_⟩
  rcases hsign with hK0 | ⟨hK0, hst⟩
  · exact Or.inl (mul_neg_of_pos_of_neg hg' hK0)
  · exact Or.inr ⟨mul_nonpos_of_nonneg_of_nonpos (le_of_lt hg') hK0, hs hst⟩

/-- a linear form that vanishes everywhere has zero coefficients -/
theorem allZero_of_dot_zero (cf : List Int) (h : ∀ x, dot cf x = 0) : cf.all (· == 0) = true := by
  induction cf with
  | nil => rfl
  | cons a as ih =>
    have ha : a = 0 := by
      have := h (fun j => if j = 0 then 1 else 0)
      rw [dot_cons] at this
      have ht : Val.tail (fun j => if j = 0 then (1 : Rat) else 0) = Val.zero := by
        funext j; simp [Val.tail, Val.zero]
      rw [ht, dot_zero] at this
      simp only [if_true, mul_one, add_zero] at this
      exact_mod_cast this
    have hrest : ∀ x', dot as x' = 0 := by
      intro x'
      have := h (fun j => match j with | 0 => 0 | j + 1 => x' j)
      rw [dot_cons] at this
      have ht : Val.tail (fun j => match j with | 0 => (0 : Rat) | j + 1 => x' j) = x' := by
        funext j; rfl
      rw [ht] at this
      simpa using this
    simp [ha, ih hrest]

/-- **Motzkin transposition / Farkas, infeasibility**: no solution ⇒ a certificate exists that
    the (proved sound) checker `certInfeas` accepts. -/
theorem farkas_infeasible (n : Nat) (cs : List Con) (hwf : WF n cs) (h : ¬ ∃ x, Sat cs x) :
    ∃ y : List Int, certInfeas cs y = true := by
  obtain ⟨y, hl, hy, K, hK, hsign⟩ := farkas_refutation n cs hwf h
  refine ⟨y, ?_⟩
  have he := combineRows_eval cs y
  have hk : (((combineRows cs y).2 : Int) : Rat) = K := by
    have := he Val.zero
    rw [dot_zero, zero_add, hK] at this
    exact this
  have hz : (combineRows cs y).1.all (· == 0) = true := by
    apply allZero_of_dot_zero
    intro x
    have := he x
    rw [hK, hk] at this
    linarith
  unfold certInfeas
  simp only [Bool.and_eq_true, List.all_eq_true, decide_eq_true_eq, Bool.or_eq_true, beq_iff_eq]
  refine ⟨⟨hl, hy⟩, by simpa [List.all_eq_true] using hz, ?_⟩
  rcases hsign with hK0 | ⟨hK0, hsw⟩
  · left
    rw [← hk] at hK0
    exact_mod_cast hK0
  · right
    rw [← hk] at hK0
    exact ⟨by exact_mod_cast hK0, hsw⟩

/-- K1's emptiness in set form -/
theorem farkas_infeasible_sem (n : Nat) (cs : List Con) (hwf : WF n cs) (h : sem cs = ∅) :
    ∃ y : List Int, certInfeas cs y = true := by
  apply farkas_infeasible n cs hwf
  rintro ⟨x, hx⟩
  have : x ∈ sem cs := hx
  rw [h] at this
  exact this

/-- the certificate checker is sound **and** complete -/
theorem certInfeas_complete (n : Nat) (cs : List Con) (hwf : WF n cs) :
    (∃ y : List Int, certInfeas cs y = true) ↔ ¬ ∃ x, Sat cs x :=
  ⟨fun ⟨y, hy⟩ => certInfeas_sound cs y hy, farkas_infeasible n cs hwf⟩

/-- **affine Farkas lemma** (integer multipliers, scaled): if every point of the non-empty closed
    polyhedron `sem cs` satisfies the non-strict row `t`, then `y0 · t = Σ ys_i · cs_i + l0` as
    affine functions, with `y0 > 0`, `ys ≥ 0`, `l0 ≥ 0`. -/
theorem farkas_implied (n : Nat) (cs : List Con) (hwf : WF n cs) (hns : ∀ c ∈ cs, c.strict = false)
    (hne : ∃ x, Sat cs x) (t : Con) (ht : t.coeffs.length ≤ n) (hts : t.strict = false)
    (himp : ∀ x, Sat cs x → t.sat x) :
    ∃ (ys : List Int) (y0 : Int) (l0 : Rat), 0 < y0 ∧ ys.length = cs.length ∧ (∀ a ∈ ys, 0 ≤ a) ∧
      0 ≤ l0 ∧ ∀ x, (y0 : Rat) * t.eval x = wev cs ys x + l0 := by
  have hwf' : WF n (t.neg :: cs) := by
    intro d hd
    rcases List.mem_cons.mp hd with rfl | hd
    · rw [neg_length]; exact ht
    · exact hwf d hd
  have hinf : ¬ ∃ x, Sat (t.neg :: cs) x := by
    rintro ⟨x, hx⟩
    rw [Sat_cons] at hx
    exact (sat_neg_iff t x).mp hx.1 (himp x hx.2)
  obtain ⟨y, hl, hy, K, hK, hsign⟩ := farkas_refutation n _ hwf' hinf
  cases y with
  | nil => simp at hl
  | cons y0 ys =>
    have hl' : ys.length = cs.length := by simpa using hl
    have hy0 : 0 ≤ y0 := hy y0 (by simp)
    have hys : ∀ a ∈ ys, 0 ≤ a := fun a ha => hy a (by simp [ha])
    have hw : ∀ x, wev cs ys x - (y0 : Rat) * t.eval x = K := by
      intro x
      have := hK x
      simp only [wev, eval_neg] at this
      linarith
    have hsw : strictWeight (t.neg :: cs) (y0 :: ys) = y0 := by
      simp [strictWeight, Con.neg, hts, sw_nonstrict cs hns ys]
    obtain ⟨x0, hx0⟩ := hne
    have hK0 : K ≤ 0 := by
      rcases hsign with h | h
      · exact le_of_lt h
      · exact h.1
    have hpos : 0 < y0 := by
      rcases lt_or_eq_of_le hy0 with h | h
      · exact h
      · exfalso
        have hKneg : K < 0 := by
          rcases hsign with h' | h'
          · exact h'
          · rw [hsw] at h'; omega
        have h1 := hw x0
        rw [← h] at h1
        have h2 := (wev_nonneg cs ys x0 hx0 hys).1
        simp only [Int.cast_zero, zero_mul, sub_zero] at h1
        linarith
    refine ⟨ys, y0, -K, hpos, hl', hys, by linarith, fun x => ?_⟩
    have := hw x
    linarith

end PPLV.Farkas

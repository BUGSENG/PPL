import PPLV.Lin.Decide

/-!
# Farkas / Motzkin from the verified Fourier–Motzkin kernel: rows that are combinations

`Comb cs r`: a positive multiple of the row `r` is a non-negative **integer** combination of the
rows of `cs` (as affine functions), and if `r` is strict the combination puts positive weight on
a strict row of `cs`.  The multipliers are a list indexed like `cs` (`wev`, `strictWeight` of
`PPLV/Lin/CertProofs.lean`, `PPLV/Lin/Simplex.lean` — the very quantities `certInfeas` checks).
Rows are kept normalised by K1 (`Con.normalize` divides by the gcd), hence the positive scale
factor `g`; no rational arithmetic is needed.
-/
namespace PPLV.Farkas
open PPLV.Lin

/-- `a·y1 + b·y2`, pointwise -/
def lc (a b : Int) : List Int → List Int → List Int
  | p :: ps, q :: qs => (a * p + b * q) :: lc a b ps qs
  | _, _ => []

theorem length_lc (a b : Int) (y1 y2 : List Int) (h : y1.length = y2.length) :
    (lc a b y1 y2).length = y1.length := by
  induction y1 generalizing y2 with
  | nil => simp [lc]
  | cons p ps ih =>
    cases y2 with
    | nil => simp at h
    | cons q qs => simp only [lc, List.length_cons]; rw [ih qs (by simpa using h)]

theorem lc_nonneg (a b : Int) (ha : 0 ≤ a) (hb : 0 ≤ b) (y1 y2 : List Int)
    (h1 : ∀ p ∈ y1, 0 ≤ p) (h2 : ∀ q ∈ y2, 0 ≤ q) : ∀ p ∈ lc a b y1 y2, 0 ≤ p := by
  induction y1 generalizing y2 with
  | nil => intro p hp; simp [lc] at hp
  | cons p ps ih =>
    cases y2 with
    | nil => intro p hp; simp [lc] at hp
    | cons q qs =>
      intro z hz
      simp only [lc, List.mem_cons] at hz
      rcases hz with rfl | hz
      · have := h1 p (by simp); have := h2 q (by simp)
        exact add_nonneg (mul_nonneg ha ‹0 ≤ p›) (mul_nonneg hb ‹0 ≤ q›)
      · exact ih qs (fun p hp => h1 p (by simp [hp])) (fun q hq => h2 q (by simp [hq])) z hz

theorem wev_lc (cs : List Con) (a b : Int) (y1 y2 : List Int)
    (h1 : y1.length = cs.length) (h2 : y2.length = cs.length) (x : Val) :
    wev cs (lc a b y1 y2) x = (a : Rat) * wev cs y1 x + (b : Rat) * wev cs y2 x := by
  induction cs generalizing y1 y2 with
  | nil => simp [wev]
  | cons c cs ih =>
    cases y1 with
    | nil => simp at h1
    | cons p ps =>
      cases y2 with
      | nil => simp at h2
      | cons q qs =>
        simp only [lc, wev, ih ps qs (by simpa using h1) (by simpa using h2)]
        push_cast; ring

theorem sw_lc (cs : List Con) (a b : Int) (y1 y2 : List Int)
    (h1 : y1.length = cs.length) (h2 : y2.length = cs.length) :
    strictWeight cs (lc a b y1 y2) = a * strictWeight cs y1 + b * strictWeight cs y2 := by
  induction cs generalizing y1 y2 with
  | nil => simp [strictWeight]
  | cons c cs ih =>
    cases y1 with
    | nil => simp at h1
    | cons p ps =>
      cases y2 with
      | nil => simp at h2
      | cons q qs =>
        simp only [lc, strictWeight, ih ps qs (by simpa using h1) (by simpa using h2)]
        split <;> ring

theorem sw_nonneg (cs : List Con) (y : List Int) (hy : ∀ a ∈ y, 0 ≤ a) : 0 ≤ strictWeight cs y := by
  induction cs generalizing y with
  | nil => simp [strictWeight]
  | cons c cs ih =>
    cases y with
    | nil => simp [strictWeight]
    | cons a ys =>
      simp only [strictWeight]
      have h0 := hy a (by simp)
      have hr := ih ys (fun b hb => hy b (by simp [hb]))
      split <;> omega

theorem wev_replicate_zero (cs : List Con) (k : Nat) (x : Val) : wev cs (List.replicate k 0) x = 0 := by
  induction cs generalizing k with
  | nil => simp [wev]
  | cons c cs ih =>
    cases k with
    | zero => simp [wev]
    | succ k => simp [List.replicate_succ, wev, ih k]

theorem sw_replicate_zero (cs : List Con) (k : Nat) : strictWeight cs (List.replicate k 0) = 0 := by
  induction cs generalizing k with
  | nil => simp [strictWeight]
  | cons c cs ih =>
    cases k with
    | zero => simp [strictWeight]
    | succ k => simp [List.replicate_succ, strictWeight, ih k]

/-- a system without strict rows has strict weight `0` -/
theorem sw_nonstrict (cs : List Con) (hns : ∀ c ∈ cs, c.strict = false) (y : List Int) :
    strictWeight cs y = 0 := by
  induction cs generalizing y with
  | nil => simp [strictWeight]
  | cons c cs ih =>
    cases y with
    | nil => simp [strictWeight]
    | cons a ys =>
      simp only [strictWeight, hns c (by simp), Bool.false_eq_true, if_false, zero_add]
      exact ih (fun d hd => hns d (by simp [hd])) ys

/-- a positive multiple of `r` is a non-negative integer combination of the rows of `cs`, with
    positive weight on a strict row when `r` is strict -/
def Comb (cs : List Con) (r : Con) : Prop :=
  ∃ (y : List Int) (g : Int), 0 < g ∧ y.length = cs.length ∧ (∀ a ∈ y, 0 ≤ a) ∧
    (∀ x, (g : Rat) * r.eval x = wev cs y x) ∧ (r.strict = true → 0 < strictWeight cs y)

theorem comb_cons (d : Con) (ds : List Con) (r : Con) (h : Comb ds r) : Comb (d :: ds) r := by
  obtain ⟨y, g, hg, hl, hy, he, hs⟩ := h
  refine ⟨0 :: y, g, hg, by simp [hl], ?_, ?_, ?_⟩
  · intro a ha
    rcases List.mem_cons.mp ha with rfl | ha
    · exact le_refl _
    · exact hy a ha
  · intro x; simp [wev, he x]
  · intro hr; simpa [strictWeight] using hs hr

/-- every row of the system is a combination (unit multipliers) -/
theorem comb_mem (cs : List Con) (r : Con) (h : r ∈ cs) : Comb cs r := by
  induction cs with
  | nil => cases h
  | cons d ds ih =>
    by_cases hrd : r = d
    · subst hrd
      refine ⟨1 :: List.replicate ds.length 0, 1, one_pos, by simp, ?_, ?_, ?_⟩
      · intro a ha
        rcases List.mem_cons.mp ha with rfl | ha
        · exact zero_le_one
        · rw [List.eq_of_mem_replicate ha]
      · intro x; simp [wev, wev_replicate_zero]
      · intro hr; simp [strictWeight, hr, sw_replicate_zero]
    · rcases List.mem_cons.mp h with h | h
      · exact absurd h hrd
      · exact comb_cons d ds r (ih h)

/-- non-negative combination of two combinations -/
theorem comb_lin (cs : List Con) (l u r : Con) (hl : Comb cs l) (hu : Comb cs u)
    (G a b : Int) (hG : 0 < G) (ha : 0 ≤ a) (hb : 0 ≤ b)
    (he : ∀ x, (G : Rat) * r.eval x = (a : Rat) * l.eval x + (b : Rat) * u.eval x)
    (hs : r.strict = true → (l.strict = true ∧ 0 < a) ∨ (u.strict = true ∧ 0 < b)) : Comb cs r := by
  obtain ⟨yl, gl, hgl, hll, hyl, hel, hsl⟩ := hl
  obtain ⟨yu, gu, hgu, hlu, hyu, heu, hsu⟩ := hu
  have hagu : 0 ≤ a * gu := mul_nonneg ha (le_of_lt hgu)
  have hbgl : 0 ≤ b * gl := mul_nonneg hb (le_of_lt hgl)
  refine ⟨lc (a * gu) (b * gl) yl yu, G * gl * gu, mul_pos (mul_pos hG hgl) hgu, ?_, ?_, ?_, ?_⟩
  · rw [length_lc _ _ _ _ (hll.trans hlu.symm), hll]
  · exact lc_nonneg _ _ hagu hbgl yl yu hyl hyu
  · intro x
    rw [wev_lc cs _ _ yl yu hll hlu, ← hel x, ← heu x]
    have := he x
    push_cast
    calc (G : Rat) * gl * gu * r.eval x = gl * gu * ((G : Rat) * r.eval x) := by ring
      _ = gl * gu * ((a : Rat) * l.eval x + (b : Rat) * u.eval x) := by rw [this]
      _ = _ := by ring
  · intro hr
    rw [sw_lc cs _ _ yl yu hll hlu]
    have n1 := sw_nonneg cs yl hyl
    have n2 := sw_nonneg cs yu hyu
    rcases hs hr with ⟨hls, hapos⟩ | ⟨hus, hbpos⟩
    · have : 0 < a * gu * strictWeight cs yl := mul_pos (mul_pos hapos hgu) (hsl hls)
      have : 0 ≤ b * gl * strictWeight cs yu := mul_nonneg hbgl n2
      omega
    · have : 0 < b * gl * strictWeight cs yu := mul_pos (mul_pos hbpos hgl) (hsu hus)
      have : 0 ≤ a * gu * strictWeight cs yl := mul_nonneg hagu n1
      omega

/-- the Fourier–Motzkin combination of two combinations -/
theorem comb_combine (cs : List Con) (i : Nat) (l u : Con) (hl : Comb cs l) (hu : Comb cs u)
    (hlp : 0 < l.at i) (hun : u.at i < 0) : Comb cs (combine i l u) := by
  refine comb_lin cs l u _ hl hu 1 (-(u.at i)) (l.at i) one_pos (by omega) (by omega) ?_ ?_
  · intro x; rw [eval_combine]; simp
  · intro hr
    have : (l.strict || u.strict) = true := hr
    rcases Bool.or_eq_true_iff.mp this with h | h
    · exact Or.inl ⟨h, by omega⟩
    · exact Or.inr ⟨h, hlp⟩

theorem comb_normalize (cs : List Con) (c : Con) (h : Comb cs c) : Comb cs c.normalize := by
  obtain ⟨g, hg, he⟩ := eval_normalize c
  refine comb_lin cs c c _ h h g 1 0 hg zero_le_one (le_refl _) ?_ ?_
  · intro x; rw [he x]; simp
  · intro hr; rw [normalize_strict] at hr; exact Or.inl ⟨hr, one_pos⟩

/-! ### rows that do not depend on a variable -/

/-- the value of the row does not depend on variable `i` -/
def Indep (i : Nat) (r : Con) : Prop := ∀ x v, r.eval (x.update i v) = r.eval x

theorem indep_of_at_zero (i : Nat) (r : Con) (h : r.at i = 0) : Indep i r := by
  intro x v; rw [eval_update, h]; simp

theorem indep_combine_self (i : Nat) (l u : Con) : Indep i (combine i l u) := by
  intro x v
  rw [eval_combine, eval_combine, eval_update, eval_update]
  push_cast; ring

theorem indep_combine (i j : Nat) (l u : Con) (hl : Indep i l) (hu : Indep i u) :
    Indep i (combine j l u) := by
  intro x v
  rw [eval_combine, eval_combine, hl x v, hu x v]

theorem indep_normalize (i : Nat) (c : Con) (h : Indep i c) : Indep i c.normalize := by
  obtain ⟨g, hg, he⟩ := eval_normalize c
  intro x v
  have h1 := he (x.update i v)
  have h2 := he x
  rw [h x v, h2] at h1
  have hg' : (g : Rat) ≠ 0 := by exact_mod_cast (ne_of_gt hg)
  exact (mul_left_cancel₀ hg' h1).symm

end PPLV.Farkas

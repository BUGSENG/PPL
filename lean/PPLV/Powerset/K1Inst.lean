import PPLV.Powerset.ProofsReduce
import PPLV.Lin.Decide

/-!
# C09 — the interface `PolyDom` is inhabited by the verified K1 kernel

Elements are constraint lists (NNC polyhedra in any dimension); emptiness, inclusion and
disjointness are the K1 decision procedures (`feasible_iff`, `subsetB_iff`), meet and
`add_constraint` are concatenation, the upper bound is the (sound, coarse) universe,
`upper_bound_assign_if_exact` succeeds when one argument contains the other, and the
meet-preserving enlargement is the identity.  Hence every hypothesis field of K5 is satisfiable
together, and the code-shaped model can be *run* on concrete polyhedra inside the kernel.
-/
namespace PPLV.Powerset
open PPLV PPLV.Lin

instance (c : LCon) (p : Pt) : Decidable (c.sat p) := by
  unfold LCon.sat; cases c.rel <;> infer_instance

def lrows (c : LCon) : List Con :=
  match c.rel with
  | .eq => eqRows c.coeffs c.k
  | .ge => [geRow c.coeffs c.k]
  | .gt => [gtRow c.coeffs c.k]

def rowsOf (a : List LCon) : List Con := a.flatMap lrows
def dimOf (a : List LCon) : Nat := a.foldr (fun c m => max c.coeffs.length m) 0

theorem lrows_sat (c : LCon) (x : Pt) : Sat (lrows c) x ↔ c.sat x := by
  unfold lrows LCon.sat LCon.eval
  cases c.rel with
  | eq =>
    simp only [eqRows, Sat, List.mem_cons, List.not_mem_nil, or_false, forall_eq_or_imp, forall_eq,
      Con.sat, Con.eval, dot_map_neg', Bool.false_eq_true, if_false]
    push_cast
    constructor
    · rintro ⟨h1, h2⟩; linarith
    · intro h; constructor <;> linarith
  | ge => simp [Sat, geRow, Con.sat, Con.eval]
  | gt => simp [Sat, gtRow, Con.sat, Con.eval]

theorem rowsOf_sat (a : List LCon) (x : Pt) : Sat (rowsOf a) x ↔ ∀ c ∈ a, c.sat x := by
  induction a with
  | nil => simp [rowsOf, Sat]
  | cons c a ih =>
    have : rowsOf (c :: a) = lrows c ++ rowsOf a := by simp [rowsOf]
    rw [this, Sat_append, lrows_sat, ih]
    simp

theorem lrows_wf (c : LCon) (n : Nat) (h : c.coeffs.length ≤ n) : WF n (lrows c) := by
  unfold lrows
  intro r hr
  cases hc : c.rel <;> simp only [hc, eqRows, geRow, gtRow, List.mem_cons, List.not_mem_nil, or_false] at hr
  · rcases hr with rfl | rfl <;> simpa using h
  · subst hr; exact h
  · subst hr; exact h

theorem rowsOf_wf (a : List LCon) (n : Nat) (h : dimOf a ≤ n) : WF n (rowsOf a) := by
  induction a with
  | nil => intro r hr; simp [rowsOf] at hr
  | cons c a ih =>
    have h1 : c.coeffs.length ≤ n := by simp only [dimOf, List.foldr_cons] at h; omega
    have h2 : dimOf a ≤ n := by simp only [dimOf, List.foldr_cons] at h ⊢; omega
    have : rowsOf (c :: a) = lrows c ++ rowsOf a := by simp [rowsOf]
    rw [this]
    intro r hr
    rcases List.mem_append.mp hr with hr | hr
    · exact lrows_wf c n h1 r hr
    · exact ih h2 r hr

def kLeq (a b : List LCon) : Bool := subsetB (max (dimOf a) (dimOf b)) (rowsOf a) (rowsOf b)
def kEmpty (a : List LCon) : Bool := !feasible (dimOf a) (rowsOf a)
def kDisjoint (a b : List LCon) : Bool := !feasible (max (dimOf a) (dimOf b)) (rowsOf a ++ rowsOf b)

theorem kLeq_iff (a b : List LCon) :
    kLeq a b = true ↔ ∀ p : Pt, (∀ c ∈ a, c.sat p) → (∀ c ∈ b, c.sat p) := by
  unfold kLeq
  rw [subsetB_iff _ _ _ (rowsOf_wf a _ (Nat.le_max_left _ _)) (rowsOf_wf b _ (Nat.le_max_right _ _))]
  constructor
  · intro h p hp
    exact (rowsOf_sat b p).mp (h ((rowsOf_sat a p).mpr hp))
  · intro h p hp
    exact (rowsOf_sat b p).mpr (h p ((rowsOf_sat a p).mp hp))

theorem kLeq_of_subset {a b : List LCon} (h : b ⊆ a) : kLeq a b = true :=
  (kLeq_iff a b).mpr fun _ ha c hc => ha c (h hc)

theorem kEmpty_iff (a : List LCon) : kEmpty a = true ↔ ∀ p : Pt, ¬ ∀ c ∈ a, c.sat p := by
  unfold kEmpty
  rw [Bool.not_eq_true', ← Bool.not_eq_true, feasible_iff _ _ (rowsOf_wf a _ (Nat.le_refl _))]
  constructor
  · intro h p hp; exact h ⟨p, (rowsOf_sat a p).mpr hp⟩
  · rintro h ⟨p, hp⟩; exact h p ((rowsOf_sat a p).mp hp)

theorem kDisjoint_iff (a b : List LCon) :
    kDisjoint a b = true ↔ ∀ p : Pt, ¬ ((∀ c ∈ a, c.sat p) ∧ (∀ c ∈ b, c.sat p)) := by
  unfold kDisjoint
  have hwf : WF (max (dimOf a) (dimOf b)) (rowsOf a ++ rowsOf b) := by
    intro r hr
    rcases List.mem_append.mp hr with hr | hr
    · exact rowsOf_wf a _ (Nat.le_max_left _ _) r hr
    · exact rowsOf_wf b _ (Nat.le_max_right _ _) r hr
  rw [Bool.not_eq_true', ← Bool.not_eq_true, feasible_iff _ _ hwf]
  constructor
  · intro h p hp
    exact h ⟨p, (Sat_append _ _ p).mpr ⟨(rowsOf_sat a p).mpr hp.1, (rowsOf_sat b p).mpr hp.2⟩⟩
  · rintro h ⟨p, hp⟩
    rw [Sat_append] at hp
    exact h p ⟨(rowsOf_sat a p).mp hp.1, (rowsOf_sat b p).mp hp.2⟩

/-- NNC polyhedra as constraint lists, judged by K1 -/
def K1Poly : PolyDom where
  D := List LCon
  γ a p := ∀ c ∈ a, c.sat p
  leq := kLeq
  isBottom := kEmpty
  join _ _ := []
  meet a b := a ++ b
  eqv a b := kLeq a b && kLeq b a
  contains a b := kLeq b a
  disjoint := kDisjoint
  top := []
  cons a := a
  addCon a c := a ++ [c]
  ubIfExact a b := if kLeq b a then some a else if kLeq a b then some b else none
  simplify a y := (a, !kDisjoint a y)
  leq_sound a b h := (kLeq_iff a b).mp h
  isBottom_sound a h := (kEmpty_iff a).mp h
  join_sound := by intro a b p _ c hc; cases hc
  meet_sound := by
    intro a b p ha hb c hc
    rcases List.mem_append.mp hc with hc | hc
    · exact ha c hc
    · exact hb c hc
  eqv_sound := by
    intro a b h p
    rw [Bool.and_eq_true] at h
    exact ⟨(kLeq_iff a b).mp h.1 p, (kLeq_iff b a).mp h.2 p⟩
  meet_exact := by
    intro a b p
    simp only [List.mem_append]
    exact ⟨fun h => ⟨fun c hc => h c (Or.inl hc), fun c hc => h c (Or.inr hc)⟩,
      fun h c hc => hc.elim (h.1 c) (h.2 c)⟩
  isBottom_iff := kEmpty_iff
  leq_iff := kLeq_iff
  contains_iff a b := kLeq_iff b a
  disjoint_iff := kDisjoint_iff
  top_spec := by intro p c hc; cases hc
  cons_spec := by intro a p; rfl
  addCon_spec := by
    intro a c p
    simp only [List.mem_append, List.mem_singleton]
    exact ⟨fun h => ⟨fun e he => h e (Or.inl he), h c (Or.inr rfl)⟩,
      fun h e he => he.elim (h.1 e) (fun h' => h' ▸ h.2)⟩
  ubIfExact_spec := by
    intro a b r h p
    by_cases h1 : kLeq b a = true
    · simp only [h1, if_true, Option.some.injEq] at h
      subst h
      exact ⟨Or.inl, fun h => h.elim id ((kLeq_iff b a).mp h1 p)⟩
    · by_cases h2 : kLeq a b = true
      · simp only [h1, h2, if_true, if_false, Bool.false_eq_true, Option.some.injEq] at h
        subst h
        exact ⟨Or.inr, fun h => h.elim ((kLeq_iff a b).mp h2 p) id⟩
      · simp [h1, h2] at h
  simplify_meet := by intro a y p; rfl
  simplify_enl := by intro a y p h; exact h
  simplify_false := by
    intro a y h p
    simp only [Bool.not_eq_false'] at h
    exact (kDisjoint_iff a y).mp h p

instance : DecidableEq K1Poly.D := inferInstanceAs (DecidableEq (List LCon))

end PPLV.Powerset

/-! The point by which `PPLV/Props/C09.lean` shows that the answer `{B ≥ 2, 2A - B ≥ 0}` of the library's
base-level simplification of `x = {B ≥ 2}` is no enlargement, and that the meet of `x` with
`c₂ = {A + B = 2}` is lost with it. -/
namespace C09
open PPLV PPLV.Powerset

/-- `(A, B) = (0, 2)` lies in `x` and in `c₂` but violates `2A - B ≥ 0` -/
def pW : Pt := fun i => if i = 1 then 2 else 0

theorem xW_pW : ∀ c ∈ ([⟨[0, 1], -2, .ge⟩] : List LCon), c.sat pW := by decide +kernel
theorem c2W_pW : ∀ c ∈ ([⟨[1, 1], -2, .eq⟩] : List LCon), c.sat pW := by decide +kernel
theorem rW_pW : ¬ ∀ c ∈ ([⟨[0, 1], -2, .ge⟩, ⟨[2, -1], 0, .ge⟩] : List LCon), c.sat pW := by
  decide +kernel

end C09

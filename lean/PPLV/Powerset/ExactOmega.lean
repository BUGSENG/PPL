import PPLV.Powerset.ExactSpec
import Mathlib.Data.List.Basic

/-!
# C09 — sequence-level facts about `omega_reduce` and `check_omega_reduced`
(model `Exact`, raw `Ops`)
-/
namespace PPLV.Powerset.Exact
open PPLV

variable (o : Ops)

theorem Incomp.symm {o : Ops} {a b : o.D} (h : Incomp o a b) : Incomp o b a := ⟨h.2, h.1⟩

theorem OmegaReduced.sublist {o : Ops} {s t : List o.D} (h : OmegaReduced o t) (hs : s.Sublist t) :
    OmegaReduced o s :=
  ⟨fun a ha => h.1 a (hs.subset ha), List.Pairwise.sublist hs h.2⟩

theorem omegaReduced_nil : OmegaReduced o [] := ⟨by simp, List.Pairwise.nil⟩

/-! ## `scanY` -/

theorem scanY_sublist (xv : o.D) (l : List o.D) : (scanY o xv l).1.Sublist l := by
  induction l with
  | nil => simp [scanY]
  | cons y ys ih =>
    simp only [scanY]
    split
    · exact ih.cons _
    · split
      · exact List.Sublist.refl _
      · exact ih.cons_cons _

theorem scanY_false (xv : o.D) (l : List o.D) (h : (scanY o xv l).2 = false) :
    (scanY o xv l).1 = l.filter (fun y => !o.leq y xv) ∧
      ∀ y ∈ (scanY o xv l).1, o.leq xv y = false := by
  induction l with
  | nil => simp [scanY]
  | cons y ys ih =>
    simp only [scanY] at h ⊢
    by_cases h1 : o.leq y xv = true
    · simp only [h1, if_true] at h ⊢
      simpa [h1] using ih h
    · by_cases h2 : o.leq xv y = true
      · simp [h1, h2] at h
      · simp only [h1, h2] at h ⊢
        have := ih h
        simp only [Bool.not_eq_true] at h1 h2
        refine ⟨by simp [h1, this.1], ?_⟩
        intro z hz
        rcases List.mem_cons.1 hz with rfl | hz
        · exact h2
        · exact this.2 z hz

theorem scanY_true (xv : o.D) (l : List o.D) (h : (scanY o xv l).2 = true) :
    ∃ l1 y l2, l = l1 ++ y :: l2 ∧ o.leq y xv = false ∧ o.leq xv y = true ∧
      (∀ z ∈ l1, o.leq z xv = true ∨ o.leq xv z = false) ∧
      (scanY o xv l).1 = l1.filter (fun z => !o.leq z xv) ++ y :: l2 := by
  induction l with
  | nil => simp [scanY] at h
  | cons y ys ih =>
    simp only [scanY] at h ⊢
    by_cases h1 : o.leq y xv = true
    · simp only [h1, if_true] at h ⊢
      obtain ⟨l1, y', l2, e, a, b, c, d⟩ := ih h
      refine ⟨y :: l1, y', l2, by simp [e], a, b, ?_, by simp [h1, d]⟩
      intro z hz
      rcases List.mem_cons.1 hz with rfl | hz
      · exact Or.inl h1
      · exact c z hz
    · by_cases h2 : o.leq xv y = true
      · simp only [Bool.not_eq_true] at h1
        exact ⟨[], y, ys, by simp, h1, h2, by simp, by simp [h1, h2]⟩
      · simp only [h1, h2] at h ⊢
        obtain ⟨l1, y', l2, e, a, b, c, d⟩ := ih h
        simp only [Bool.not_eq_true] at h1 h2
        refine ⟨y :: l1, y', l2, by simp [e], a, b, ?_, by simp [h1, d]⟩
        intro z hz
        rcases List.mem_cons.1 hz with rfl | hz
        · exact Or.inr h2
        · exact c z hz

/-- the inner loop of `omega_reduce` -/
theorem scanY_spec (xv : o.D) (l : List o.D) :
    ((scanY o xv l).2 = false →
      (scanY o xv l).1 = l.filter (fun y => !o.leq y xv) ∧
        ∀ y ∈ (scanY o xv l).1, o.leq xv y = false) ∧
    ((scanY o xv l).2 = true →
      ∃ l1 y l2, l = l1 ++ y :: l2 ∧ o.leq y xv = false ∧ o.leq xv y = true ∧
        (∀ z ∈ l1, o.leq z xv = true ∨ o.leq xv z = false) ∧
        (scanY o xv l).1 = l1.filter (fun z => !o.leq z xv) ++ y :: l2) ∧
    (scanY o xv l).1.Sublist l :=
  ⟨scanY_false o xv l, scanY_true o xv l, scanY_sublist o xv l⟩

/-! ## sublist -/

@[simp] theorem hurryOr_false (pre rest k : List o.D) : hurryOr o false pre rest k = k := by
  unfold hurryOr; split <;> simp_all

theorem omegaLoop_succ_cons (fuel : Nat) (pre : List o.D) (xv : o.D) (post : List o.D) :
    omegaLoop o false (fuel+1) pre (xv :: post) =
      if (scanY o xv pre).2 then omegaLoop o false fuel (scanY o xv pre).1 post
      else if (scanY o xv post).2 then omegaLoop o false fuel (scanY o xv pre).1 (scanY o xv post).1
      else omegaLoop o false fuel ((scanY o xv pre).1 ++ [xv]) (scanY o xv post).1 := by
  simp [omegaLoop]

theorem omegaLoop_sublist (fuel : Nat) (pre rest : List o.D) :
    (omegaLoop o false fuel pre rest).Sublist (pre ++ rest) := by
  induction fuel generalizing pre rest with
  | zero => simp [omegaLoop]
  | succ fuel ih =>
    cases rest with
    | nil => simp [omegaLoop]
    | cons xv post =>
      rw [omegaLoop_succ_cons]
      have s1 := scanY_sublist o xv pre
      have s2 := scanY_sublist o xv post
      split
      · exact (ih _ _).trans (List.Sublist.append s1 (List.Sublist.cons _ (List.Sublist.refl _)))
      · split
        · exact (ih _ _).trans (List.Sublist.append s1 (List.Sublist.cons _ s2))
        · refine (ih _ _).trans ?_
          rw [List.append_assoc]
          exact List.Sublist.append s1 (List.Sublist.cons_cons _ s2)

theorem omegaReduce_of_not_reduced (x : PS o.D) (h : x.reduced = false) :
    omegaReduce o false x =
      ⟨omegaLoop o false (x.seq.filter (fun y => !o.isBottom y)).length []
        (x.seq.filter (fun y => !o.isBottom y)), true⟩ := by
  simp [omegaReduce, h]

theorem omegaReduce_of_reduced (ab : Bool) (x : PS o.D) (h : x.reduced = true) :
    omegaReduce o ab x = x := by
  simp [omegaReduce, h]

theorem omegaReduce_sublist (x : PS o.D) (h : x.reduced = false) :
    (omegaReduce o false x).seq.Sublist (x.seq.filter (fun y => !o.isBottom y)) := by
  rw [omegaReduce_of_not_reduced o x h]
  simpa using omegaLoop_sublist o _ [] (x.seq.filter (fun y => !o.isBottom y))

/-! ## antichain (no hypothesis on `leq`) -/

/-- the loop invariant: the visited-and-kept disjuncts are incomparable with every other
    disjunct still in the list -/
def LoopInv (pre rest : List o.D) : Prop :=
  pre.Pairwise (Incomp o) ∧ ∀ a ∈ pre, ∀ b ∈ rest, Incomp o a b

theorem omegaLoop_antichain_gen (fuel : Nat) (pre rest : List o.D) (hI : LoopInv o pre rest)
    (hf : rest.length ≤ fuel) : Antichain o (omegaLoop o false fuel pre rest) := by
  induction fuel generalizing pre rest with
  | zero =>
    have : rest = [] := List.length_eq_zero_iff.1 (Nat.le_zero.1 hf)
    subst this
    simpa [omegaLoop, Antichain] using hI.1
  | succ fuel ih =>
    cases rest with
    | nil => simpa [omegaLoop, Antichain] using hI.1
    | cons xv post =>
      rw [omegaLoop_succ_cons]
      have s1 := scanY_sublist o xv pre
      have s2 := scanY_sublist o xv post
      have hl : post.length ≤ fuel := by simpa using hf
      have hl2 : (scanY o xv post).1.length ≤ fuel := Nat.le_trans s2.length_le hl
      obtain ⟨hp, hpr⟩ := hI
      split
      · refine ih _ _ ⟨hp.sublist s1, ?_⟩ hl
        intro a ha b hb
        exact hpr a (s1.subset ha) b (List.mem_cons_of_mem _ hb)
      · split
        · refine ih _ _ ⟨hp.sublist s1, ?_⟩ hl2
          intro a ha b hb
          exact hpr a (s1.subset ha) b (List.mem_cons_of_mem _ (s2.subset hb))
        · rename_i h1 h2
          simp only [Bool.not_eq_true] at h1 h2
          obtain ⟨e1, f1⟩ := scanY_false o xv pre h1
          obtain ⟨e2, f2⟩ := scanY_false o xv post h2
          have g1 : ∀ a ∈ (scanY o xv pre).1, Incomp o a xv := by
            intro a ha
            refine ⟨?_, f1 a ha⟩
            rw [e1] at ha
            simpa using (List.mem_filter.1 ha).2
          have g2 : ∀ a ∈ (scanY o xv post).1, Incomp o xv a := by
            intro a ha
            refine ⟨f2 a ha, ?_⟩
            rw [e2] at ha
            simpa using (List.mem_filter.1 ha).2
          refine ih _ _ ⟨?_, ?_⟩ hl2
          · rw [List.pairwise_append]
            refine ⟨hp.sublist s1, by simp, ?_⟩
            intro a ha b hb
            rw [List.mem_singleton.1 hb]
            exact g1 a ha
          · intro a ha b hb
            rcases List.mem_append.1 ha with ha | ha
            · exact hpr a (s1.subset ha) b (List.mem_cons_of_mem _ (s2.subset hb))
            · rw [List.mem_singleton.1 ha]
              exact g2 b hb

theorem omegaLoop_antichain (fuel : Nat) (s : List o.D) (hf : s.length ≤ fuel) :
    Antichain o (omegaLoop o false fuel [] s) :=
  omegaLoop_antichain_gen o fuel [] s ⟨List.Pairwise.nil, by simp⟩ hf

theorem omegaReduce_omegaReduced (x : PS o.D) (h : x.reduced = false) :
    OmegaReduced o (omegaReduce o false x).seq := by
  refine ⟨?_, ?_⟩
  · intro a ha
    have := (omegaReduce_sublist o x h).subset ha
    simpa using (List.mem_filter.1 this).2
  · rw [omegaReduce_of_not_reduced o x h]
    exact omegaLoop_antichain o _ _ (Nat.le_refl _)

theorem omegaReduce_reduced (ab : Bool) (x : PS o.D) : (omegaReduce o ab x).reduced = true := by
  unfold omegaReduce
  split
  · assumption
  · rfl

theorem omegaReduce_inv (x : PS o.D) (h : Inv o x) : Inv o (omegaReduce o false x) := by
  cases hr : x.reduced with
  | true => rw [omegaReduce_of_reduced o false x hr]; exact h
  | false => exact fun _ => omegaReduce_omegaReduced o x hr

/-- with `Inv` of the input, the output of `omega_reduce` is omega-reduced (whatever the flag) -/
theorem omegaReduce_omegaReduced_of_inv (x : PS o.D) (h : Inv o x) :
    OmegaReduced o (omegaReduce o false x).seq :=
  omegaReduce_inv o x h (omegaReduce_reduced o false x)

/-! ## `check_omega_reduced` -/

theorem checkOmegaReducedGo_iff (pre post : List o.D) :
    checkOmegaReducedGo o pre post = true ↔
      (∀ a ∈ post, o.isBottom a = false) ∧ post.Pairwise (Incomp o) ∧
        ∀ a ∈ pre, ∀ b ∈ post, Incomp o a b := by
  induction post generalizing pre with
  | nil => simp [checkOmegaReducedGo]
  | cons xv post ih =>
    simp only [checkOmegaReducedGo]
    by_cases hb : o.isBottom xv = true
    · simp [hb]
    · simp only [Bool.not_eq_true] at hb
      simp only [hb, Bool.false_eq_true, ↓reduceIte]
      by_cases ha : (pre ++ post).any (fun yv => o.leq xv yv || o.leq yv xv) = true
      · simp only [ha, ↓reduceIte]
        constructor
        · intro h; cases h
        · rintro ⟨-, hp, hq⟩
          exfalso
          obtain ⟨y, hy, hy2⟩ := List.any_eq_true.1 ha
          rcases List.mem_append.1 hy with hy | hy
          · have := hq y hy xv (List.mem_cons_self ..)
            simp [this.1, this.2] at hy2
          · have := (List.pairwise_cons.1 hp).1 y hy
            simp [this.1, this.2] at hy2
      · have ha0 := ha
        simp only [Bool.not_eq_true] at ha0
        simp only [ha0, Bool.false_eq_true, ↓reduceIte]
        rw [ih]
        have ha' : ∀ y ∈ pre ++ post, Incomp o xv y := by
          intro y hy
          have : ¬ (o.leq xv y || o.leq y xv) = true := fun hh => ha (List.any_eq_true.2 ⟨y, hy, hh⟩)
          simp only [Bool.or_eq_true, not_or, Bool.not_eq_true] at this
          exact this
        constructor
        · rintro ⟨h1, h2, h3⟩
          refine ⟨?_, ?_, ?_⟩
          · intro a ha2
            rcases List.mem_cons.1 ha2 with rfl | ha2
            · exact hb
            · exact h1 a ha2
          · exact List.pairwise_cons.2 ⟨fun y hy => ha' y (List.mem_append_right _ hy), h2⟩
          · intro a ha2 b hb2
            rcases List.mem_cons.1 hb2 with rfl | hb2
            · exact (ha' a (List.mem_append_left _ ha2)).symm
            · exact h3 a (List.mem_append_left _ ha2) b hb2
        · rintro ⟨h1, h2, h3⟩
          refine ⟨fun a ha2 => h1 a (List.mem_cons_of_mem _ ha2), (List.pairwise_cons.1 h2).2, ?_⟩
          intro a ha2 b hb2
          rcases List.mem_append.1 ha2 with ha2 | ha2
          · exact h3 a ha2 b (List.mem_cons_of_mem _ hb2)
          · rw [List.mem_singleton.1 ha2]
            exact (List.pairwise_cons.1 h2).1 b hb2

/-- `check_omega_reduced()` decides `OmegaReduced` -/
theorem checkOmegaReduced_iff (s : List o.D) : checkOmegaReduced o s = true ↔ OmegaReduced o s := by
  unfold checkOmegaReduced
  rw [checkOmegaReducedGo_iff]
  simp [OmegaReduced, Antichain]

theorem isOmegaReduced_inv (x : PS o.D) (h : Inv o x) : Inv o (isOmegaReduced o x).1 := by
  unfold isOmegaReduced
  split
  · rename_i hc
    simp only [Bool.and_eq_true] at hc
    exact fun _ => (checkOmegaReduced_iff o x.seq).1 hc.2
  · exact h

theorem isOmegaReduced_true (x : PS o.D) (h : Inv o x) (ht : (isOmegaReduced o x).2 = true) :
    OmegaReduced o x.seq := by
  unfold isOmegaReduced at ht
  split at ht
  · rename_i hc
    simp only [Bool.and_eq_true] at hc
    exact (checkOmegaReduced_iff o x.seq).1 hc.2
  · exact h ht

/-- the sequence is never changed by `is_omega_reduced()` -/
theorem isOmegaReduced_seq (x : PS o.D) : (isOmegaReduced o x).1.seq = x.seq := by
  unfold isOmegaReduced; split <;> rfl

/-- converse: an omega-reduced sequence is reported as such -/
theorem isOmegaReduced_complete (x : PS o.D) (h : OmegaReduced o x.seq) :
    (isOmegaReduced o x).2 = true := by
  unfold isOmegaReduced
  cases hr : x.reduced <;> simp [(checkOmegaReduced_iff o x.seq).2 h]

end PPLV.Powerset.Exact

import PPLV.Powerset.Model

/-!
# C09 — the generic `Powerset<D>` algorithms respect the union (every `Dom`, every sequence)

Pointwise statements (`d.U s p` = "`p` lies in some disjunct of `s`"); `Props/C09.lean` restates
them with `Set`/`⋃`.
-/
namespace PPLV.Powerset
open PPLV

variable (d : Dom)

/-! ### the union of a sequence -/

@[simp] theorem U_nil (p : Pt) : d.U [] p ↔ False := by simp [Dom.U]
@[simp] theorem U_cons (x : d.D) (s : List d.D) (p : Pt) : d.U (x :: s) p ↔ (d.γ x p ∨ d.U s p) := by
  simp [Dom.U]
@[simp] theorem U_append (s t : List d.D) (p : Pt) : d.U (s ++ t) p ↔ (d.U s p ∨ d.U t p) := by
  simp only [Dom.U, List.mem_append]
  constructor
  · rintro ⟨x, hx | hx, h⟩
    · exact Or.inl ⟨x, hx, h⟩
    · exact Or.inr ⟨x, hx, h⟩
  · rintro (⟨x, hx, h⟩ | ⟨x, hx, h⟩)
    · exact ⟨x, Or.inl hx, h⟩
    · exact ⟨x, Or.inr hx, h⟩

theorem U_singleton (x : d.D) (p : Pt) : d.U [x] p ↔ d.γ x p := by simp

theorem U_filter_sub (f : d.D → Bool) (s : List d.D) (p : Pt) : d.U (s.filter f) p → d.U s p := by
  rintro ⟨x, hx, h⟩
  exact ⟨x, (List.mem_filter.mp hx).1, h⟩

/-- dropping bottoms does not change the union -/
theorem U_filter_nonbottom (s : List d.D) (p : Pt) :
    d.U (s.filter fun y => !d.isBottom y) p ↔ d.U s p := by
  constructor
  · exact U_filter_sub d _ s p
  · rintro ⟨x, hx, h⟩
    refine ⟨x, List.mem_filter.mpr ⟨hx, ?_⟩, h⟩
    cases hb : d.isBottom x with
    | false => rfl
    | true => exact absurd h (d.isBottom_sound x hb p)

/-! ### `collapse(sink)` -/

theorem foldl_join_ge (x : d.D) (post : List d.D) (p : Pt) :
    (d.γ x p ∨ d.U post p) → d.γ (post.foldl d.join x) p := by
  induction post generalizing x with
  | nil => simp
  | cons y ys ih =>
    intro h
    simp only [List.foldl_cons]
    apply ih
    rcases h with h | h
    · exact Or.inl (d.join_sound x y p (Or.inl h))
    · rcases (U_cons d y ys p).mp h with h | h
      · exact Or.inl (d.join_sound x y p (Or.inr h))
      · exact Or.inr h

/-- `collapse(sink)` only enlarges the union -/
theorem collapseAt_ge (pre : List d.D) (x : d.D) (post : List d.D) (p : Pt) :
    d.U (pre ++ x :: post) p → d.U (collapseAt d pre x post) p := by
  intro h
  unfold collapseAt
  simp only [U_append, U_cons, U_nil, or_false] at h ⊢
  rcases h with ⟨y, hy, h⟩ | h
  · cases hl : d.leq y (post.foldl d.join x) with
    | true => exact Or.inr (d.leq_sound _ _ hl p h)
    | false => exact Or.inl ⟨y, List.mem_filter.mpr ⟨hy, by simp [hl]⟩, h⟩
  · exact Or.inr (foldl_join_ge d x post p h)

/-- … and what it adds lies in the base-level upper bound of `x` and the later disjuncts -/
theorem collapseAt_le (pre : List d.D) (x : d.D) (post : List d.D) (p : Pt) :
    d.U (collapseAt d pre x post) p → (d.U pre p ∨ d.γ (post.foldl d.join x) p) := by
  unfold collapseAt
  simp only [U_append, U_cons, U_nil, or_false]
  rintro (h | h)
  · exact Or.inl (U_filter_sub d _ pre p h)
  · exact Or.inr h

/-! ### `omega_reduce()` -/

theorem scanY_U (xv : d.D) (ys : List d.D) (p : Pt) :
    (d.γ xv p ∨ d.U (scanY d xv ys).1 p) ↔ (d.γ xv p ∨ d.U ys p) := by
  induction ys with
  | nil => simp [scanY]
  | cons yv ys ih =>
    unfold scanY
    by_cases h1 : d.leq yv xv = true
    · simp only [h1, if_true, U_cons]
      rw [ih]
      constructor
      · rintro (h | h)
        · exact Or.inl h
        · exact Or.inr (Or.inr h)
      · rintro (h | h | h)
        · exact Or.inl h
        · exact Or.inl (d.leq_sound _ _ h1 p h)
        · exact Or.inr h
    · by_cases h2 : d.leq xv yv = true
      · simp [h1, h2]
      · simp only [h1, h2, if_false, U_cons, Bool.false_eq_true]
        rw [or_left_comm, ih, or_left_comm]

/-- when the scan reports `dropping_xi`, some surviving `yv` contains `xv` -/
theorem scanY_covered (xv : d.D) (ys : List d.D) (h : (scanY d xv ys).2 = true) (p : Pt) :
    d.γ xv p → d.U (scanY d xv ys).1 p := by
  induction ys with
  | nil => simp [scanY] at h
  | cons yv ys ih =>
    unfold scanY at h ⊢
    by_cases h1 : d.leq yv xv = true
    · simp only [h1, if_true] at h ⊢
      exact ih h
    · by_cases h2 : d.leq xv yv = true
      · simp only [h1, h2, if_true, if_false, Bool.false_eq_true, U_cons]
        intro hx
        exact Or.inl (d.leq_sound _ _ h2 p hx)
      · simp only [h1, h2, if_false, Bool.false_eq_true, U_cons] at h ⊢
        intro hx
        exact Or.inr (ih h hx)

theorem scanY_sublist (xv : d.D) (ys : List d.D) : (scanY d xv ys).1.Sublist ys := by
  induction ys with
  | nil => exact List.Sublist.refl _
  | cons yv ys ih =>
    unfold scanY
    split
    · exact ih.cons _
    · split
      · exact List.Sublist.refl _
      · exact ih.cons_cons _

theorem scanY_sub (xv : d.D) (ys : List d.D) (p : Pt) : d.U (scanY d xv ys).1 p → d.U ys p :=
  fun ⟨a, ha, hp⟩ => ⟨a, (scanY_sublist d xv ys).subset ha, hp⟩

theorem scanY_length (xv : d.D) (ys : List d.D) : (scanY d xv ys).1.length ≤ ys.length :=
  (scanY_sublist d xv ys).length_le

/-- one step of the outer loop keeps the union of `pre ++ xv :: post`; three cases -/
theorem omega_step_U (xv : d.D) (pre post : List d.D) (p : Pt) :
    let r1 := scanY d xv pre
    let r2 := scanY d xv post
    (r1.2 = true → (d.U (r1.1 ++ post) p ↔ d.U (pre ++ xv :: post) p)) ∧
    (r2.2 = true → (d.U (r1.1 ++ r2.1) p ↔ d.U (pre ++ xv :: post) p)) ∧
    (d.U ((r1.1 ++ [xv]) ++ r2.1) p ↔ d.U (pre ++ xv :: post) p) := by
  intro r1 r2
  have e1 := scanY_U d xv pre p
  have e2 := scanY_U d xv post p
  have s1 := scanY_sub d xv pre p
  have s2 := scanY_sub d xv post p
  refine ⟨fun hb => ?_, fun hb => ?_, ?_⟩
  · have c := scanY_covered d xv pre hb p
    simp only [U_append, U_cons]
    constructor
    · rintro (h | h)
      · exact Or.inl (s1 h)
      · exact Or.inr (Or.inr h)
    · rintro (h | h | h)
      · rcases e1.mpr (Or.inr h) with h | h
        · exact Or.inl (c h)
        · exact Or.inl h
      · exact Or.inl (c h)
      · exact Or.inr h
  · have c := scanY_covered d xv post hb p
    simp only [U_append, U_cons]
    constructor
    · rintro (h | h)
      · exact Or.inl (s1 h)
      · exact Or.inr (Or.inr (s2 h))
    · rintro (h | h | h)
      · rcases e1.mpr (Or.inr h) with h | h
        · exact Or.inr (c h)
        · exact Or.inl h
      · exact Or.inr (c h)
      · rcases e2.mpr (Or.inr h) with h | h
        · exact Or.inr (c h)
        · exact Or.inr h
  · simp only [U_append, U_cons, U_nil, or_false]
    constructor
    · rintro ((h | h) | h)
      · exact Or.inl (s1 h)
      · exact Or.inr (Or.inl h)
      · exact Or.inr (Or.inr (s2 h))
    · rintro (h | h | h)
      · rcases e1.mpr (Or.inr h) with h | h
        · exact Or.inl (Or.inr h)
        · exact Or.inl (Or.inl h)
      · exact Or.inl (Or.inr h)
      · rcases e2.mpr (Or.inr h) with h | h
        · exact Or.inl (Or.inr h)
        · exact Or.inr h

theorem hurryOr_false (pre rest k : List d.D) : hurryOr d false pre rest k = k := by
  unfold hurryOr; rfl

/-- without the hurry-up exit the outer loop keeps the union exactly -/
theorem omegaLoop_U (fuel : Nat) (pre rest : List d.D) (p : Pt) :
    d.U (omegaLoop d false fuel pre rest) p ↔ d.U (pre ++ rest) p := by
  induction fuel generalizing pre rest with
  | zero => simp [omegaLoop]
  | succ f ih =>
    cases rest with
    | nil => simp [omegaLoop]
    | cons xv post =>
      have st := omega_step_U d xv pre post p
      simp only [omegaLoop, hurryOr_false]
      by_cases hb1 : (scanY d xv pre).2 = true
      · simp only [hb1, if_true]
        rw [ih]; exact st.1 hb1
      · by_cases hb2 : (scanY d xv post).2 = true
        · simp only [hb1, hb2, if_true, if_false, Bool.false_eq_true]
          rw [ih]; exact st.2.1 hb2
        · simp only [hb1, hb2, if_false, Bool.false_eq_true]
          rw [ih]; exact st.2.2

theorem hurryOr_ge (abandon : Bool) (pre rest k : List d.D) (p : Pt)
    (hk : d.U (pre ++ rest) p → d.U k p) : d.U (pre ++ rest) p → d.U (hurryOr d abandon pre rest k) p := by
  unfold hurryOr
  cases abandon with
  | false => simpa using hk
  | true =>
    cases rest with
    | nil => simpa using hk
    | cons x post => exact collapseAt_ge d pre x post p

/-- with the hurry-up exit the union can only grow -/
theorem omegaLoop_ge (abandon : Bool) (fuel : Nat) (pre rest : List d.D) (p : Pt) :
    d.U (pre ++ rest) p → d.U (omegaLoop d abandon fuel pre rest) p := by
  induction fuel generalizing pre rest with
  | zero => simp [omegaLoop]
  | succ f ih =>
    cases rest with
    | nil => simp [omegaLoop]
    | cons xv post =>
      have st := omega_step_U d xv pre post p
      simp only [omegaLoop]
      intro h
      by_cases hb1 : (scanY d xv pre).2 = true
      · simp only [hb1, if_true]
        exact hurryOr_ge d abandon _ _ _ p (ih _ _) ((st.1 hb1).mpr h)
      · by_cases hb2 : (scanY d xv post).2 = true
        · simp only [hb1, hb2, if_true, if_false, Bool.false_eq_true]
          exact hurryOr_ge d abandon _ _ _ p (ih _ _) ((st.2.1 hb2).mpr h)
        · simp only [hb1, hb2, if_false, Bool.false_eq_true]
          exact hurryOr_ge d abandon _ _ _ p (ih _ _) (st.2.2.mpr h)

/-- **omega-reduction does not change the union** (no deadline pending) -/
theorem omegaReduce_U (x : PS d) (p : Pt) : d.U (omegaReduce d false x).seq p ↔ d.U x.seq p := by
  unfold omegaReduce
  by_cases h : x.reduced = true
  · simp [h]
  · simp only [h, if_false, Bool.false_eq_true]
    rw [omegaLoop_U, List.nil_append, U_filter_nonbottom]

/-- under a pending deadline (`abandon_expensive_computations`) it may only enlarge it -/
theorem omegaReduce_ge (abandon : Bool) (x : PS d) (p : Pt) :
    d.U x.seq p → d.U (omegaReduce d abandon x).seq p := by
  unfold omegaReduce
  by_cases h : x.reduced = true
  · simp [h]
  · simp only [h, if_false, Bool.false_eq_true]
    intro hx
    apply omegaLoop_ge
    rw [List.nil_append, U_filter_nonbottom]
    exact hx

/-- without the hurry-up exit the outer loop only erases -/
theorem omegaLoop_sublist (fuel : Nat) (pre rest : List d.D) :
    (omegaLoop d false fuel pre rest).Sublist (pre ++ rest) := by
  induction fuel generalizing pre rest with
  | zero => exact List.Sublist.refl _
  | succ f ih =>
    cases rest with
    | nil => simp [omegaLoop]
    | cons xv post =>
      have s1 := scanY_sublist d xv pre
      have s2 := scanY_sublist d xv post
      simp only [omegaLoop, hurryOr_false]
      split
      · exact (ih _ _).trans (List.Sublist.append s1 (List.Sublist.cons _ (List.Sublist.refl _)))
      · split
        · exact (ih _ _).trans (List.Sublist.append s1 (List.Sublist.cons _ s2))
        · refine (ih _ _).trans ?_
          rw [List.append_assoc]
          exact List.Sublist.append s1 (List.Sublist.cons_cons _ s2)

/-- the result never has more disjuncts -/
theorem omegaLoop_length (fuel : Nat) (pre rest : List d.D) :
    (omegaLoop d false fuel pre rest).length ≤ pre.length + rest.length := by
  have h := (omegaLoop_sublist d fuel pre rest).length_le
  rwa [List.length_append] at h

theorem omegaReduce_length (x : PS d) : (omegaReduce d false x).seq.length ≤ x.seq.length := by
  unfold omegaReduce
  by_cases h : x.reduced = true
  · simp [h]
  · simp only [h, if_false, Bool.false_eq_true]
    have := omegaLoop_length d (x.seq.filter fun y => !d.isBottom y).length [] (x.seq.filter fun y => !d.isBottom y)
    have h2 := List.length_filter_le (fun y => !d.isBottom y) x.seq
    simp only [List.length_nil] at this
    omega

/-! ### omega-reduction only erases -/

theorem scanY_mem (xv : d.D) (ys : List d.D) (a : d.D) : a ∈ (scanY d xv ys).1 → a ∈ ys :=
  fun h => (scanY_sublist d xv ys).subset h

theorem omegaLoop_mem (fuel : Nat) (pre rest : List d.D) (a : d.D) :
    a ∈ omegaLoop d false fuel pre rest → a ∈ pre ++ rest :=
  fun h => (omegaLoop_sublist d fuel pre rest).subset h

end PPLV.Powerset

import PPLV.Powerset.ExactMergeRound
import Mathlib.Data.List.Basic

/-!
# C09 — `pairwise_reduce()` (rounds, the `do … while` loop, preservation of
omega-reduction) and `BGP99_heuristics_assign` (model `Exact`)
-/
namespace PPLV.Powerset.Exact
open PPLV

section Pairwise3
variable (o : PolyOps)

theorem pr_split_one {α : Type} (s : List α) (i : Nat) (a : α) (h : s[i]? = some a) :
    ∃ l1 l2, s = l1 ++ a :: l2 ∧ l1.length = i := by
  induction s generalizing i with
  | nil => simp at h
  | cons x s ih =>
    cases i with
    | zero => simp at h; exact ⟨[], s, by simp [h], rfl⟩
    | succ n =>
      simp at h
      obtain ⟨l1, l2, h1, h2⟩ := ih n h
      exact ⟨x :: l1, l2, by simp [h1], by simp [h2]⟩

theorem pr_split_two {α : Type} (s : List α) (i j : Nat) (a b : α) (hij : i < j)
    (hi : s[i]? = some a) (hj : s[j]? = some b) :
    ∃ l1 l2 l3, s = l1 ++ a :: l2 ++ b :: l3 := by
  obtain ⟨l1, l2, h1, h2⟩ := pr_split_one s i a hi
  subst h1
  rw [List.getElem?_append_right (by omega)] at hj
  have : j - l1.length = (j - l1.length - 1) + 1 := by omega
  rw [this, List.getElem?_cons_succ] at hj
  obtain ⟨m1, m2, h3, _⟩ := pr_split_one l2 _ b hj
  exact ⟨l1, m1, m2, by rw [h3]; simp⟩

theorem pr_unm_map (s : List o.D) : pr_unm o (s.map fun x => (x, false)) = s := by
  induction s with
  | nil => simp [pr_unm]
  | cons a s ih => rw [List.map_cons, pr_unm_cons_false, ih]

/-- the first loop of a round run on the whole sequence -/
theorem pr_round_MR (s : List o.D) :
    pr_MR o (s.map fun x => (x, false)) [] [] 0
      (mergeRound o s.length (s.map fun x => (x, false)) [] [] 0) :=
  pr_mergeRound_MR o _ _ _ _ _ (by simp)

theorem pr_round_eq (s : List o.D) :
    pairwiseRound o s =
      (((mergeRound o s.length (s.map fun x => (x, false)) [] [] 0).1.foldl
          (fun (st : List o.D × List o.D) xi => addNB o.toOps xi st.1 st.2)
          ([], (mergeRound o s.length (s.map fun x => (x, false)) [] [] 0).2.1)).1 ++
       ((mergeRound o s.length (s.map fun x => (x, false)) [] [] 0).1.foldl
          (fun (st : List o.D × List o.D) xi => addNB o.toOps xi st.1 st.2)
          ([], (mergeRound o s.length (s.map fun x => (x, false)) [] [] 0).2.1)).2,
       (mergeRound o s.length (s.map fun x => (x, false)) [] [] 0).2.2) := rfl

/-- one round: `deleted` disjuncts disappear (at least) -/
theorem pairwiseRound_length (s : List o.D) :
    (pairwiseRound o s).1.length + (pairwiseRound o s).2 ≤ s.length := by
  rw [pr_round_eq]
  obtain ⟨_, ⟨l, h1, _, h3⟩, h4, _⟩ := pr_MR_count o (pr_round_MR o s)
  generalize mergeRound o s.length (s.map fun x => (x, false)) [] [] 0 = R at *
  have h5 := pr_foldAddNB_length o.toOps R.1 [] R.2.1
  rw [pr_unm_map] at h3
  simp only [List.length_append, List.length_nil, h1, List.nil_append] at *
  omega

/-- a round without merge leaves the sequence as it is (no comparison at all) -/
theorem pairwiseRound_zero (s : List o.D) (h : (pairwiseRound o s).2 = 0) :
    (pairwiseRound o s).1 = s := by
  rw [pr_round_eq] at h ⊢
  obtain ⟨_, ⟨l, h1, h2, h3⟩, _, h5⟩ := pr_MR_count o (pr_round_MR o s)
  generalize mergeRound o s.length (s.map fun x => (x, false)) [] [] 0 = R at *
  simp only at h
  rw [pr_unm_map] at h2 h3
  have hl : l = s := h2.eq_of_length (by omega)
  have hn : R.2.1 = [] := h5 h
  simp only [hn, pr_foldAddNB_nil, h1, hl, List.nil_append, List.append_nil]

/-- each new disjunct is the exact upper bound the base level returned for two disjuncts
    at different positions (in that order) -/
theorem pairwiseRound_mem (s : List o.D) :
    ∀ u ∈ (pairwiseRound o s).1, u ∈ s ∨
      ∃ l1 a l2 b l3, s = l1 ++ a :: l2 ++ b :: l3 ∧ o.ubIfExact a b = some u := by
  intro u hu
  rw [pr_round_eq] at hu
  obtain ⟨_, ⟨l, h1, h2, _⟩, _, _⟩ := pr_MR_count o (pr_round_MR o s)
  have hm := pr_MR_mem o (pr_round_MR o s)
  generalize mergeRound o s.length (s.map fun x => (x, false)) [] [] 0 = R at *
  rw [pr_unm_map] at h2
  rcases pr_foldAddNB_mem o.toOps R.1 [] R.2.1 u hu with h | h | h
  · simp at h
  · rcases hm u h with h | ⟨i, j, a, b, hij, hi, hj, hab⟩
    · simp at h
    · right
      simp only [List.getElem?_map, Option.map_eq_some_iff, Prod.mk.injEq, and_true] at hi hj
      obtain ⟨a', hi, rfl⟩ := hi
      obtain ⟨b', hj, rfl⟩ := hj
      obtain ⟨l1, l2, l3, hs⟩ := pr_split_two s i j _ _ hij hi hj
      exact ⟨l1, _, l2, _, l3, hs, hab⟩
  · left
    rw [h1, List.nil_append] at h
    exact h2.subset h

theorem pairwiseRound_spec (s : List o.D) :
    (pairwiseRound o s).1.length + (pairwiseRound o s).2 ≤ s.length ∧
    ((pairwiseRound o s).2 = 0 → (pairwiseRound o s).1 = s) ∧
    (∀ u ∈ (pairwiseRound o s).1, u ∈ s ∨
      ∃ l1 a l2 b l3, s = l1 ++ a :: l2 ++ b :: l3 ∧ o.ubIfExact a b = some u) :=
  ⟨pairwiseRound_length o s, pairwiseRound_zero o s, pairwiseRound_mem o s⟩

/-! ### the `do … while (deleted > 0)` loop -/

/-- the loop exits because `deleted = 0`, not because the fuel ran out: the result is a
    fixpoint of the round -/
theorem pairwiseLoop_fix (fuel : Nat) (s : List o.D) (hf : s.length < fuel) :
    ∃ t, (pairwiseRound o t).2 = 0 ∧ pairwiseLoop o fuel s = (pairwiseRound o t).1 ∧
      (pairwiseRound o t).1 = t := by
  induction fuel generalizing s with
  | zero => omega
  | succ f ih =>
    simp only [pairwiseLoop]
    by_cases h : (pairwiseRound o s).2 > 0
    · simp only [h, if_true]
      have := pairwiseRound_length o s
      exact ih _ (by omega)
    · simp only [h, if_false]
      have h0 : (pairwiseRound o s).2 = 0 := by omega
      exact ⟨s, h0, rfl, pairwiseRound_zero o s h0⟩

/-- more fuel changes nothing -/
theorem pairwiseLoop_fuel (f1 f2 : Nat) (s : List o.D) (h1 : s.length < f1) (h2 : s.length < f2) :
    pairwiseLoop o f1 s = pairwiseLoop o f2 s := by
  induction f1 generalizing f2 s with
  | zero => omega
  | succ f ih =>
    cases f2 with
    | zero => omega
    | succ g =>
      simp only [pairwiseLoop]
      by_cases h : (pairwiseRound o s).2 > 0
      · simp only [h, if_true]
        have := pairwiseRound_length o s
        exact ih _ _ (by omega) (by omega)
      · simp only [h, if_false]

theorem pairwiseLoop_terminates (fuel : Nat) (s : List o.D) (hf : s.length < fuel) :
    pairwiseLoop o fuel s = pairwiseLoop o (s.length + 1) s :=
  pairwiseLoop_fuel o _ _ s hf (by omega)

theorem pairwiseLoop_length (fuel : Nat) (s : List o.D) : (pairwiseLoop o fuel s).length ≤ s.length := by
  induction fuel generalizing s with
  | zero => simp [pairwiseLoop]
  | succ f ih =>
    simp only [pairwiseLoop]
    have := pairwiseRound_length o s
    split
    · exact Nat.le_trans (ih _) (by omega)
    · omega

theorem pairwiseReduce_spec (x : PS o.D) :
    (pairwiseReduce o false x).reduced = true ∧
    (pairwiseReduce o false x).seq.length ≤ (omegaReduce o.toOps false x).seq.length ∧
    ∃ t, (pairwiseRound o t).2 = 0 ∧ (pairwiseReduce o false x).seq = (pairwiseRound o t).1 ∧
      (pairwiseRound o t).1 = t :=
  ⟨omegaReduce_reduced o.toOps false x, pairwiseLoop_length o _ _,
    pairwiseLoop_fix o _ _ (by omega)⟩

/-! ### omega-reduction is preserved -/

theorem pairwiseRound_omegaReduced (s : List o.D)
    (hub : ∀ a b u, o.ubIfExact a b = some u → o.isBottom a = false → o.isBottom u = false)
    (hs : OmegaReduced o.toOps s) : OmegaReduced o.toOps (pairwiseRound o s).1 := by
  rw [pr_round_eq]
  obtain ⟨_, ⟨l, h1, h2, _⟩, _, _⟩ := pr_MR_count o (pr_round_MR o s)
  have hnx := pr_MR_omegaReduced o (pr_round_MR o s) hub (omegaReduced_nil o.toOps)
    (by intro e he
        simp only [List.mem_map] at he
        obtain ⟨a, ha, rfl⟩ := he
        exact hs.1 a ha)
  generalize mergeRound o s.length (s.map fun x => (x, false)) [] [] 0 = R at *
  rw [pr_unm_map] at h2
  rw [h1, List.nil_append] at *
  exact addFold_omegaReduced_gen o.toOps l [] R.2.1 (by simpa using hnx)
    (hs.sublist h2) (by simp)

theorem pairwiseLoop_omegaReduced (fuel : Nat) (s : List o.D)
    (hub : ∀ a b u, o.ubIfExact a b = some u → o.isBottom a = false → o.isBottom u = false)
    (hs : OmegaReduced o.toOps s) : OmegaReduced o.toOps (pairwiseLoop o fuel s) := by
  induction fuel generalizing s with
  | zero => simpa [pairwiseLoop] using hs
  | succ f ih =>
    simp only [pairwiseLoop]
    have := pairwiseRound_omegaReduced o s hub hs
    split
    · exact ih _ this
    · exact this

theorem pairwiseReduce_inv (abandon : Bool) (x : PS o.D)
    (hub : ∀ a b u, o.ubIfExact a b = some u → o.isBottom a = false → o.isBottom u = false)
    (hom : ∀ y : PS o.D, Inv o.toOps y → Inv o.toOps (omegaReduce o.toOps abandon y))
    (hx : Inv o.toOps x) : Inv o.toOps (pairwiseReduce o abandon x) := by
  intro _
  exact pairwiseLoop_omegaReduced o _ _ hub (hom x hx (omegaReduce_reduced o.toOps abandon x))

end Pairwise3

section BGP99
variable (o : PolyOps)

/-! ## `BGP99_heuristics_assign` -/

theorem pr_bgp99Inner_flag (w : o.D → o.D → o.D) (pi : o.D) (ys : List o.D) (st : List o.D × Bool) :
    (bgp99Inner o w pi ys st).2 = (st.2 || ys.any (o.contains pi)) := by
  induction ys generalizing st with
  | nil => simp [bgp99Inner]
  | cons pj ys ih =>
    simp only [bgp99Inner]
    split
    · rename_i h; rw [ih]; simp [h]
    · rename_i h; rw [ih]; simp [h]

theorem pr_bgp99Inner_mem (w : o.D → o.D → o.D) (pi : o.D) (ys : List o.D) (st : List o.D × Bool) :
    ∀ v ∈ (bgp99Inner o w pi ys st).1, v ∈ st.1 ∨
      ∃ pj ∈ ys, o.contains pi pj = true ∧ v = w pi pj := by
  induction ys generalizing st with
  | nil => intro v hv; exact Or.inl hv
  | cons pj ys ih =>
    intro v hv
    simp only [bgp99Inner] at hv
    split at hv
    · rename_i h
      rcases ih _ v hv with h1 | ⟨pj', h1, h2, h3⟩
      · rcases pr_addNBwhole_mem o.toOps _ _ v h1 with h1 | h1
        · exact Or.inr ⟨pj, by simp, h, h1⟩
        · exact Or.inl h1
      · exact Or.inr ⟨pj', by simp [h1], h2, h3⟩
    · rcases ih _ v hv with h1 | ⟨pj', h1, h2, h3⟩
      · exact Or.inl h1
      · exact Or.inr ⟨pj', by simp [h1], h2, h3⟩

theorem pr_bgp99Inner_omegaReduced (w : o.D → o.D → o.D) (pi : o.D) (ys : List o.D)
    (st : List o.D × Bool) (hw : ∀ b, o.isBottom (w pi b) = false)
    (h : OmegaReduced o.toOps st.1) : OmegaReduced o.toOps (bgp99Inner o w pi ys st).1 := by
  induction ys generalizing st with
  | nil => exact h
  | cons pj ys ih =>
    simp only [bgp99Inner]
    split
    · exact ih _ (addNBwhole_omegaReduced o.toOps _ _ h (hw pj))
    · exact ih _ h

/-- the unmarked disjuncts of `x`: those containing no disjunct of `y`, in order -/
theorem pr_bgp99First_un (w : o.D → o.D → o.D) (y xs nx un : List o.D) :
    (bgp99First o w y xs nx un).2 = un ++ xs.filter (fun pi => !y.any (o.contains pi)) := by
  induction xs generalizing nx un with
  | nil => simp [bgp99First]
  | cons pi xs ih =>
    simp only [bgp99First]
    rw [ih, pr_bgp99Inner_flag]
    by_cases h : y.any (o.contains pi) = true
    · simp [h]
    · simp [h]

theorem pr_bgp99First_mem (w : o.D → o.D → o.D) (y xs nx un : List o.D) :
    ∀ v ∈ (bgp99First o w y xs nx un).1, v ∈ nx ∨
      ∃ pi ∈ xs, ∃ pj ∈ y, o.contains pi pj = true ∧ v = w pi pj := by
  induction xs generalizing nx un with
  | nil => intro v hv; exact Or.inl hv
  | cons pi xs ih =>
    intro v hv
    simp only [bgp99First] at hv
    rcases ih _ _ v hv with h1 | ⟨pi', h1, h2⟩
    · rcases pr_bgp99Inner_mem o w pi y (nx, false) v h1 with h1 | h1
      · exact Or.inl h1
      · exact Or.inr ⟨pi, by simp, h1⟩
    · exact Or.inr ⟨pi', by simp [h1], h2⟩

theorem pr_bgp99First_omegaReduced (w : o.D → o.D → o.D) (y xs nx un : List o.D)
    (hw : ∀ a b, o.isBottom a = false → o.isBottom (w a b) = false)
    (hxs : ∀ a ∈ xs, o.isBottom a = false)
    (h : OmegaReduced o.toOps nx) : OmegaReduced o.toOps (bgp99First o w y xs nx un).1 := by
  induction xs generalizing nx un with
  | nil => exact h
  | cons pi xs ih =>
    simp only [bgp99First]
    exact ih _ _ (fun a ha => hxs a (List.mem_cons_of_mem _ ha))
      (pr_bgp99Inner_omegaReduced o w pi y (nx, false) (fun b => hw pi b (hxs pi (by simp))) h)

theorem bgp99HeuristicsAssign_shape (w : o.D → o.D → o.D) (x y : PS o.D) :
    (bgp99HeuristicsAssign o w x y).reduced = x.reduced ∧
    (∀ v ∈ (bgp99HeuristicsAssign o w x y).seq,
      (v ∈ x.seq ∧ y.seq.any (o.contains v) = false) ∨
      ∃ pi ∈ x.seq, ∃ pj ∈ y.seq, o.contains pi pj = true ∧ v = w pi pj) ∧
    (bgp99HeuristicsAssign o w x y).seq.length ≤
      (x.seq.filter (fun pi => !y.seq.any (o.contains pi))).length
        + (bgp99First o w y.seq x.seq [] []).1.length := by
  refine ⟨rfl, ?_, ?_⟩
  · intro v hv
    simp only [bgp99HeuristicsAssign] at hv
    rcases pr_foldAddNB_mem o.toOps _ [] _ v hv with h | h | h
    · simp at h
    · rcases pr_bgp99First_mem o w y.seq x.seq [] [] v h with h | h
      · simp at h
      · exact Or.inr h
    · rw [pr_bgp99First_un] at h
      simp only [List.nil_append, List.mem_filter, Bool.not_eq_true'] at h
      exact Or.inl h
  · simp only [bgp99HeuristicsAssign]
    have := pr_foldAddNB_length o.toOps (bgp99First o w y.seq x.seq [] []).2 []
      (bgp99First o w y.seq x.seq [] []).1
    rw [pr_bgp99First_un] at this
    rw [pr_bgp99First_un]
    simp only [List.length_append, List.length_nil, List.nil_append] at this ⊢
    omega

/-- when no disjunct of `x` contains a disjunct of `y` the sequence is unchanged -/
theorem bgp99HeuristicsAssign_none (w : o.D → o.D → o.D) (x y : PS o.D)
    (h : ∀ pi ∈ x.seq, y.seq.any (o.contains pi) = false) :
    (bgp99HeuristicsAssign o w x y).seq = x.seq := by
  have hm := pr_bgp99First_mem o w y.seq x.seq [] []
  have hnil : (bgp99First o w y.seq x.seq [] []).1 = [] := by
    apply List.eq_nil_iff_forall_not_mem.2
    intro v hv
    rcases hm v hv with h1 | ⟨pi, h1, pj, h2, h3, _⟩
    · simp at h1
    · have := h pi h1
      simp only [List.any_eq_false] at this
      exact this pj h2 h3
  simp only [bgp99HeuristicsAssign]
  rw [hnil, pr_bgp99First_un, pr_foldAddNB_nil]
  simp only [List.nil_append, List.append_nil, List.filter_eq_self, Bool.not_eq_true']
  exact h

theorem bgp99HeuristicsAssign_omegaReduced (w : o.D → o.D → o.D) (x y : PS o.D)
    (hw : ∀ a b, o.isBottom a = false → o.isBottom (w a b) = false)
    (hx : OmegaReduced o.toOps x.seq) :
    OmegaReduced o.toOps (bgp99HeuristicsAssign o w x y).seq := by
  simp only [bgp99HeuristicsAssign]
  have hnx := pr_bgp99First_omegaReduced o w y.seq x.seq [] [] hw hx.1 (omegaReduced_nil o.toOps)
  have hun : OmegaReduced o.toOps (bgp99First o w y.seq x.seq [] []).2 := by
    rw [pr_bgp99First_un, List.nil_append]
    exact hx.sublist List.filter_sublist
  exact addFold_omegaReduced_gen o.toOps _ [] _ (by simpa using hnx) hun (by simp)

theorem bgp99HeuristicsAssign_inv (w : o.D → o.D → o.D) (x y : PS o.D)
    (hw : ∀ a b, o.isBottom a = false → o.isBottom (w a b) = false)
    (hx : Inv o.toOps x) : Inv o.toOps (bgp99HeuristicsAssign o w x y) := by
  intro h
  exact bgp99HeuristicsAssign_omegaReduced o w x y hw (hx h)

end BGP99
end PPLV.Powerset.Exact

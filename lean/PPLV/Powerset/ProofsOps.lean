import PPLV.Powerset.ProofsUnion

/-!
# C09 — `collapse`, `add_…_preserve_reduction`, `least_upper_bound_assign`,
`pairwise_apply_assign`, `definitely_entails`, `operator==`, disjunct-wise transformers
-/
namespace PPLV.Powerset
open PPLV

variable (d : Dom)

/-! ### `collapse()` / `collapse(max_disjuncts)` -/

/-- the base-level upper bound of a non-empty sequence, folded in iteration order -/
def joinAll (x : d.D) (post : List d.D) : d.D := post.foldl d.join x

/-- `collapse()`: exactly one disjunct, namely the base-level upper bound of all of them -/
theorem collapse_seq (y : d.D) (ys : List d.D) (r : Bool) :
    (collapse d ⟨y :: ys, r⟩).seq = [joinAll d y ys] := by
  simp [collapse, collapseAt, joinAll]

theorem collapse_nil (r : Bool) : (collapse d ⟨[], r⟩).seq = [] := by simp [collapse]

theorem collapse_ge (x : PS d) (p : Pt) : d.U x.seq p → d.U (collapse d x).seq p := by
  cases x with
  | mk seq r =>
    cases seq with
    | nil => simp [collapse]
    | cons y ys =>
      intro h
      rw [collapse_seq]
      simp only [U_cons, U_nil, or_false]
      exact foldl_join_ge d y ys p ((U_cons d y ys p).mp h)

theorem take_append_drop_cons {α} (s : List α) (n : Nat) (y : α) (ys : List α) (h : s.drop n = y :: ys) :
    s = s.take n ++ y :: ys := by
  rw [← h, List.take_append_drop]

/-- `collapse(max)`: at most `max` disjuncts afterwards, union only enlarged -/
theorem collapseMax_length (maxD : Nat) (hm : 0 < maxD) (x : PS d) :
    (collapseMax d false maxD x).seq.length ≤ maxD := by
  unfold collapseMax
  by_cases h : (omegaReduce d false x).seq.length > maxD
  · simp only [h, if_true]
    cases hd : (omegaReduce d false x).seq.drop (maxD - 1) with
    | nil =>
      have : ((omegaReduce d false x).seq.drop (maxD - 1)).length = 0 := by rw [hd]; rfl
      rw [List.length_drop] at this
      omega
    | cons y ys =>
      simp only [collapseAt, List.length_append, List.length_cons, List.length_nil]
      have h1 := List.length_filter_le (fun z => !d.leq z (List.foldl d.join y ys)) ((omegaReduce d false x).seq.take (maxD - 1))
      have h2 : ((omegaReduce d false x).seq.take (maxD - 1)).length ≤ maxD - 1 := by
        rw [List.length_take]; omega
      omega
  · simp only [h, if_false]
    omega

theorem collapseMax_ge (abandon : Bool) (maxD : Nat) (x : PS d) (p : Pt) :
    d.U x.seq p → d.U (collapseMax d abandon maxD x).seq p := by
  intro hx
  have h1 := omegaReduce_ge d abandon x p hx
  unfold collapseMax
  by_cases h : (omegaReduce d abandon x).seq.length > maxD
  · simp only [h, if_true]
    cases hd : (omegaReduce d abandon x).seq.drop (maxD - 1) with
    | nil => exact h1
    | cons y ys =>
      simp only
      apply collapseAt_ge
      rw [← take_append_drop_cons _ _ _ _ hd]
      exact h1
  · simp only [h, if_false]
    exact h1

/-! ### `add_non_bottom_disjunct_preserve_reduction` -/

theorem addScan_U (x : d.D) (rng : List d.D) (p : Pt) :
    (d.γ x p ∨ d.U (addScan d x rng).1 p) ↔ (d.γ x p ∨ d.U rng p) := by
  induction rng with
  | nil => simp [addScan]
  | cons xv r ih =>
    unfold addScan
    by_cases h1 : d.leq x xv = true
    · simp [h1]
    · by_cases h2 : d.leq xv x = true
      · simp only [h1, h2, if_true, if_false, Bool.false_eq_true, U_cons]
        rw [ih]
        constructor
        · rintro (h | h)
          · exact Or.inl h
          · exact Or.inr (Or.inr h)
        · rintro (h | h | h)
          · exact Or.inl h
          · exact Or.inl (d.leq_sound _ _ h2 p h)
          · exact Or.inr h
      · simp only [h1, h2, if_false, Bool.false_eq_true, U_cons]
        rw [or_left_comm, ih, or_left_comm]

theorem addScan_absorbed (x : d.D) (rng : List d.D) (h : (addScan d x rng).2 = true) (p : Pt) :
    d.γ x p → d.U (addScan d x rng).1 p := by
  induction rng with
  | nil => simp [addScan] at h
  | cons xv r ih =>
    unfold addScan at h ⊢
    by_cases h1 : d.leq x xv = true
    · simp only [h1, if_true, U_cons]
      exact fun hx => Or.inl (d.leq_sound _ _ h1 p hx)
    · by_cases h2 : d.leq xv x = true
      · simp only [h1, h2, if_true, if_false, Bool.false_eq_true] at h ⊢
        exact ih h
      · simp only [h1, h2, if_false, Bool.false_eq_true, U_cons] at h ⊢
        exact fun hx => Or.inr (ih h hx)

/-- adding a disjunct "preserving reduction" adds exactly its points to the union -/
theorem addNB_U (x : d.D) (pre rng : List d.D) (p : Pt) :
    d.U ((addNB d x pre rng).1 ++ (addNB d x pre rng).2) p ↔ (d.U (pre ++ rng) p ∨ d.γ x p) := by
  have e := addScan_U d x rng p
  unfold addNB
  by_cases hb : (addScan d x rng).2 = true
  · have c := addScan_absorbed d x rng hb p
    simp only [hb, if_true, U_append]
    constructor
    · rintro (h | h)
      · exact Or.inl (Or.inl h)
      · rcases e.mp (Or.inr h) with h | h
        · exact Or.inr h
        · exact Or.inl (Or.inr h)
    · rintro ((h | h) | h)
      · exact Or.inl h
      · rcases e.mpr (Or.inr h) with h | h
        · exact Or.inr (c h)
        · exact Or.inr h
      · exact Or.inr (c h)
  · simp only [hb, if_false, Bool.false_eq_true]
    cases hr : (addScan d x rng).1 with
    | nil =>
      rw [hr] at e
      have e' : d.U rng p → d.γ x p := by
        intro h
        rcases e.mpr (Or.inr h) with h | h
        · exact h
        · exact absurd h (by simp)
      simp only [U_append, U_cons, U_nil, or_false]
      constructor
      · intro h; grind
      · intro h; grind
    | cons z zs =>
      rw [hr] at e
      simp only [U_append, U_cons, U_nil, or_false] at e ⊢
      constructor
      · intro h; have := e.mp; grind
      · intro h; have := e.mpr; grind

theorem addNBwhole_U (x : d.D) (s : List d.D) (p : Pt) :
    d.U (addNBwhole d x s) p ↔ (d.U s p ∨ d.γ x p) := by
  unfold addNBwhole
  rw [addNB_U]; simp

theorem addDisjunct_U (x : PS d) (y : d.D) (p : Pt) :
    d.U (addDisjunct d x y).seq p ↔ (d.U x.seq p ∨ d.γ y p) := by
  simp [addDisjunct]

/-! ### `least_upper_bound_assign` -/

theorem foldl_addNB_U (ys : List d.D) (pre rng : List d.D) (p : Pt) :
    let r := ys.foldl (fun (st : List d.D × List d.D) yi => addNB d yi st.1 st.2) (pre, rng)
    d.U (r.1 ++ r.2) p ↔ (d.U (pre ++ rng) p ∨ d.U ys p) := by
  induction ys generalizing pre rng with
  | nil => simp
  | cons y ys ih =>
    simp only [List.foldl_cons]
    have := ih (addNB d y pre rng).1 (addNB d y pre rng).2
    simp only at this
    rw [this, addNB_U, U_cons]
    simp only [or_comm, or_left_comm]

/-- **upper bound**: the union of the result is the union of the two unions -/
theorem lub_U (x y : PS d) (p : Pt) :
    d.U (lub d false x y).1.seq p ↔ (d.U x.seq p ∨ d.U y.seq p) := by
  unfold lub
  simp only
  have := foldl_addNB_U d (omegaReduce d false y).seq [] (omegaReduce d false x).seq p
  simp only at this
  rw [this, List.nil_append, omegaReduce_U, omegaReduce_U]

/-- the argument keeps its union (its mutable representation is omega-reduced) -/
theorem lub_arg_U (x y : PS d) (p : Pt) : d.U (lub d false x y).2.seq p ↔ d.U y.seq p := by
  unfold lub; simp only; rw [omegaReduce_U]

theorem lub_ge (abandon : Bool) (x y : PS d) (p : Pt) :
    (d.U x.seq p ∨ d.U y.seq p) → d.U (lub d abandon x y).1.seq p := by
  unfold lub
  simp only
  have := foldl_addNB_U d (omegaReduce d abandon y).seq [] (omegaReduce d abandon x).seq p
  simp only at this
  rw [this, List.nil_append]
  rintro (h | h)
  · exact Or.inl (omegaReduce_ge d abandon x p h)
  · exact Or.inr (omegaReduce_ge d abandon y p h)

/-! ### `pairwise_apply_assign` -/

theorem pairwise_raw_U (op : d.D → d.D → d.D) (xs ys : List d.D) (p : Pt) :
    d.U (xs.flatMap fun xi => (ys.map fun yi => op xi yi).filter fun z => !d.isBottom z) p ↔
      ∃ xi ∈ xs, ∃ yi ∈ ys, d.γ (op xi yi) p := by
  simp only [Dom.U, List.mem_flatMap, List.mem_filter, List.mem_map]
  constructor
  · rintro ⟨z, ⟨xi, hxi, ⟨yi, hyi, rfl⟩, _⟩, hz⟩
    exact ⟨xi, hxi, yi, hyi, hz⟩
  · rintro ⟨xi, hxi, yi, hyi, hz⟩
    refine ⟨op xi yi, ⟨xi, hxi, ⟨yi, hyi, rfl⟩, ?_⟩, hz⟩
    cases hb : d.isBottom (op xi yi) with
    | false => rfl
    | true => exact absurd hz (d.isBottom_sound _ hb p)

/-- `pairwise_apply_assign` with a binary operator that is exact for intersection:
    the union of the result is the intersection of the unions -/
theorem pairwiseApply_exact_U (op : d.D → d.D → d.D)
    (hop : ∀ a b p, d.γ (op a b) p ↔ (d.γ a p ∧ d.γ b p)) (x y : PS d) (p : Pt) :
    d.U (pairwiseApply d false op x y).1.seq p ↔ (d.U x.seq p ∧ d.U y.seq p) := by
  unfold pairwiseApply
  simp only
  rw [pairwise_raw_U, ← omegaReduce_U d x, ← omegaReduce_U d y]
  simp only [Dom.U, hop]
  constructor
  · rintro ⟨xi, hxi, yi, hyi, h1, h2⟩
    exact ⟨⟨xi, hxi, h1⟩, ⟨yi, hyi, h2⟩⟩
  · rintro ⟨⟨xi, hxi, h1⟩, ⟨yi, hyi, h2⟩⟩
    exact ⟨xi, hxi, yi, hyi, h1, h2⟩

/-- with a merely sound meet the result still contains the intersection of the unions -/
theorem meetAssign_ge (abandon : Bool) (x y : PS d) (p : Pt) :
    (d.U x.seq p ∧ d.U y.seq p) → d.U (meetAssign d abandon x y).1.seq p := by
  rintro ⟨hx, hy⟩
  unfold meetAssign pairwiseApply
  simp only
  rw [pairwise_raw_U]
  obtain ⟨xi, hxi, h1⟩ := omegaReduce_ge d abandon x p hx
  obtain ⟨yi, hyi, h2⟩ := omegaReduce_ge d abandon y p hy
  exact ⟨xi, hxi, yi, hyi, d.meet_sound _ _ p h1 h2⟩

/-! ### `definitely_entails`, `operator==` -/

theorem entails_inner (xi : d.D) (ys : List d.D) (h : definitelyEntails.inner d xi ys = true) :
    ∃ yi ∈ ys, d.leq xi yi = true := by
  induction ys with
  | nil => simp [definitelyEntails.inner] at h
  | cons y ys ih =>
    unfold definitelyEntails.inner at h
    by_cases h1 : d.leq xi y = true
    · exact ⟨y, List.mem_cons_self, h1⟩
    · simp only [h1, if_false, Bool.false_eq_true] at h
      obtain ⟨yi, hy, hl⟩ := ih h
      exact ⟨yi, List.mem_cons_of_mem _ hy, hl⟩

theorem entails_outer (xs ys : List d.D) (h : definitelyEntails.outer d ys xs = true) :
    ∀ xi ∈ xs, ∃ yi ∈ ys, d.leq xi yi = true := by
  induction xs with
  | nil => intro xi hxi; cases hxi
  | cons x xs ih =>
    unfold definitelyEntails.outer at h
    by_cases h1 : definitelyEntails.inner d x ys = true
    · simp only [h1, if_true] at h
      intro xi hxi
      rcases List.mem_cons.mp hxi with rfl | hxi
      · exact entails_inner d _ ys h1
      · exact ih h xi hxi
    · simp [h1] at h

/-- **entailment implies geometric containment** -/
theorem definitelyEntails_sound (xs ys : List d.D) (h : definitelyEntails d xs ys = true) (p : Pt) :
    d.U xs p → d.U ys p := by
  rintro ⟨xi, hxi, hp⟩
  obtain ⟨yi, hyi, hl⟩ := entails_outer d xs ys h xi hxi
  exact ⟨yi, hyi, d.leq_sound _ _ hl p hp⟩

theorem eraseFirst_spec (xi : d.D) (z z' : List d.D) (h : eraseFirst d xi z = some z') (p : Pt) :
    ∃ zi, d.eqv zi xi = true ∧ (d.U z p ↔ (d.γ zi p ∨ d.U z' p)) := by
  induction z generalizing z' with
  | nil => simp [eraseFirst] at h
  | cons a as ih =>
    unfold eraseFirst at h
    by_cases h1 : d.eqv a xi = true
    · simp only [h1, if_true, Option.some.injEq] at h
      subst h
      exact ⟨a, h1, by simp⟩
    · simp only [h1, if_false, Bool.false_eq_true, Option.map_eq_some_iff] at h
      obtain ⟨w, hw, rfl⟩ := h
      obtain ⟨zi, hz, he⟩ := ih w hw
      refine ⟨zi, hz, ?_⟩
      simp only [U_cons, he]
      simp only [or_assoc, or_comm, or_left_comm]

theorem eraseFirst_length (xi : d.D) (z z' : List d.D) (h : eraseFirst d xi z = some z') :
    z.length = z'.length + 1 := by
  induction z generalizing z' with
  | nil => simp [eraseFirst] at h
  | cons a as ih =>
    unfold eraseFirst at h
    by_cases h1 : d.eqv a xi = true
    · simp only [h1, if_true, Option.some.injEq] at h
      subst h; rfl
    · simp only [h1, if_false, Bool.false_eq_true, Option.map_eq_some_iff] at h
      obtain ⟨w, hw, rfl⟩ := h
      simp [ih w hw]

theorem eq_go_sound (xs z : List d.D) (hl : xs.length = z.length) (h : eq.go d xs z = true) (p : Pt) :
    d.U xs p ↔ d.U z p := by
  induction xs generalizing z with
  | nil =>
    cases z with
    | nil => simp
    | cons a as => simp at hl
  | cons x xs ih =>
    unfold eq.go at h
    cases he : eraseFirst d x z with
    | none => simp [he] at h
    | some z' =>
      simp only [he] at h
      obtain ⟨zi, hz, hu⟩ := eraseFirst_spec d x z z' he p
      have hlen := eraseFirst_length d x z z' he
      have := ih z' (by simp only [List.length_cons] at hl; omega) h
      rw [U_cons, hu, this, d.eqv_sound zi x hz p]

/-- `operator==` answers `true` only for powersets with the same union -/
theorem eq_sound (x y : PS d) (h : eq d false x y = true) (p : Pt) : d.U x.seq p ↔ d.U y.seq p := by
  unfold eq at h
  simp only at h
  by_cases hl : (omegaReduce d false x).seq.length = (omegaReduce d false y).seq.length
  · simp only [hl, bne_self_eq_false, if_false, Bool.false_eq_true] at h
    rw [← omegaReduce_U d x, ← omegaReduce_U d y]
    exact eq_go_sound d _ _ hl h p
  · have : ((omegaReduce d false x).seq.length != (omegaReduce d false y).seq.length) = true := by
      simpa using hl
    simp [this] at h

/-! ### disjunct-wise transformers -/

/-- a base-level operator that is the exact image under a relation `R` acts on the union as that
    image (`add_constraint`: `R p q := p = q ∧ c.sat p`; `affine_image`; dimension changes …) -/
theorem mapDisjuncts_exact (f : d.D → d.D) (R : Pt → Pt → Prop)
    (hf : ∀ a q, d.γ (f a) q ↔ ∃ p, d.γ a p ∧ R p q) (x : PS d) (q : Pt) :
    d.U (mapDisjuncts d f x).seq q ↔ ∃ p, d.U x.seq p ∧ R p q := by
  simp only [mapDisjuncts, Dom.U, List.mem_map]
  constructor
  · rintro ⟨_, ⟨a, ha, rfl⟩, h⟩
    obtain ⟨p, hp, hr⟩ := (hf a q).mp h
    exact ⟨p, ⟨a, ha, hp⟩, hr⟩
  · rintro ⟨p, ⟨a, ha, hp⟩, hr⟩
    exact ⟨f a, ⟨a, ha, rfl⟩, (hf a q).mpr ⟨p, hp, hr⟩⟩

/-- … and a merely sound one (boxes, BD shapes, octagons) contains the image of the union -/
theorem mapDisjuncts_sound (f : d.D → d.D) (R : Pt → Pt → Prop)
    (hf : ∀ a p q, d.γ a p → R p q → d.γ (f a) q) (x : PS d) (q : Pt) :
    (∃ p, d.U x.seq p ∧ R p q) → d.U (mapDisjuncts d f x).seq q := by
  simp only [mapDisjuncts, Dom.U, List.mem_map]
  rintro ⟨p, ⟨a, ha, hp⟩, hr⟩
  exact ⟨f a, ⟨a, ha, rfl⟩, hf a p q hp hr⟩

end PPLV.Powerset

import PPLV.Powerset.ExactFlags
import Mathlib.Data.List.Basic

/-!
# C09 — `Pointset_Powerset::pairwise_reduce()` (model `Exact`): the first loop

`markFirstExact` (inner loop), `mergeRound` (first loop of one round) as a relation `pr_MR` and its
counting / membership / omega-reduction facts.
-/
namespace PPLV.Powerset.Exact
open PPLV

section Pairwise
variable (o : PolyOps)

/-! ## `pairwise_reduce()` -/

/-- the inner loop finds the FIRST unmarked later disjunct whose upper bound with `pi` is
    exact, and marks it -/
theorem markFirstExact_spec (pi : o.D) (r : List (o.D × Bool)) (u : o.D) (r' : List (o.D × Bool)) :
    markFirstExact o pi r = some (u, r') ↔
      ∃ r1 pj r2, r = r1 ++ (pj, false) :: r2 ∧
        (∀ e ∈ r1, e.2 = true ∨ o.ubIfExact pi e.1 = none) ∧
        o.ubIfExact pi pj = some u ∧ r' = r1 ++ (pj, true) :: r2 := by
  constructor
  · intro h
    induction r generalizing r' with
    | nil => simp [markFirstExact] at h
    | cons e r ih =>
      obtain ⟨pj, b⟩ := e
      cases b with
      | true =>
        simp only [markFirstExact, Option.map_eq_some_iff] at h
        obtain ⟨⟨wu, wr⟩, hw, hwe⟩ := h
        simp only [Prod.mk.injEq] at hwe
        obtain ⟨rfl, rfl⟩ := hwe
        obtain ⟨r1, pj', r2, h1, h2, h3, h4⟩ := ih wr hw
        refine ⟨(pj, true) :: r1, pj', r2, by simp [h1], ?_, ?_, ?_⟩
        · intro e he
          rcases List.mem_cons.1 he with rfl | he
          · simp
          · exact h2 e he
        · exact h3
        · rw [h4]; simp
      | false =>
        simp only [markFirstExact] at h
        cases hub : o.ubIfExact pi pj with
        | some v =>
          simp only [hub, Option.some.injEq, Prod.mk.injEq] at h
          exact ⟨[], pj, r, by simp, by simp, by rw [hub, h.1], by simp [h.2]⟩
        | none =>
          simp only [hub, Option.map_eq_some_iff] at h
          obtain ⟨⟨wu, wr⟩, hw, hwe⟩ := h
          simp only [Prod.mk.injEq] at hwe
          obtain ⟨rfl, rfl⟩ := hwe
          obtain ⟨r1, pj', r2, h1, h2, h3, h4⟩ := ih wr hw
          refine ⟨(pj, false) :: r1, pj', r2, by simp [h1], ?_, ?_, ?_⟩
          · intro e he
            rcases List.mem_cons.1 he with rfl | he
            · simp [hub]
            · exact h2 e he
          · exact h3
          · rw [h4]; simp
  · rintro ⟨r1, pj, r2, rfl, h2, h3, rfl⟩
    induction r1 with
    | nil => simp [markFirstExact, h3]
    | cons e r1 ih =>
      obtain ⟨a, b⟩ := e
      have ih' := ih (fun e he => h2 e (List.mem_cons_of_mem _ he))
      cases b with
      | true => simp [markFirstExact, ih']
      | false =>
        have := h2 (a, false) (by simp)
        simp only [Bool.false_eq_true, false_or] at this
        simp [markFirstExact, this, ih']

theorem markFirstExact_none (pi : o.D) (r : List (o.D × Bool)) :
    markFirstExact o pi r = none ↔ ∀ e ∈ r, e.2 = true ∨ o.ubIfExact pi e.1 = none := by
  induction r with
  | nil => simp [markFirstExact]
  | cons e r ih =>
    obtain ⟨pj, b⟩ := e
    cases b with
    | true => simp [markFirstExact, ih]
    | false =>
      cases hub : o.ubIfExact pi pj with
      | some v => simp [markFirstExact, hub]
      | none => simp [markFirstExact, hub, ih]

/-- the unmarked disjuncts, in order -/
def pr_unm (xs : List (o.D × Bool)) : List o.D := (xs.filter (fun e => !e.2)).map (·.1)

/-- `v` is the exact upper bound the base level returned for two unmarked entries `a` (earlier)
    and `b` (later) of `xs` -/
def pr_MergedFrom (xs : List (o.D × Bool)) (v : o.D) : Prop :=
  ∃ (i j : Nat) (a b : o.D), i < j ∧ xs[i]? = some (a, false) ∧ xs[j]? = some (b, false) ∧ o.ubIfExact a b = some v

/-- the first loop of one round as a relation (one constructor per path through the loop body) -/
inductive pr_MR : List (o.D × Bool) → List o.D → List o.D → Nat → List o.D × List o.D × Nat → Prop
  | nil (un nx k) : pr_MR [] un nx k (un, nx, k)
  | skip (p r un nx k R) : pr_MR r un nx k R → pr_MR ((p, true) :: r) un nx k R
  | merge (pi r un nx k u r1 pj r2 R) : r = r1 ++ (pj, false) :: r2 →
      (∀ e ∈ r1, e.2 = true ∨ o.ubIfExact pi e.1 = none) → o.ubIfExact pi pj = some u →
      pr_MR (r1 ++ (pj, true) :: r2) un (addNBwhole o.toOps u nx) (k + 1) R →
      pr_MR ((pi, false) :: r) un nx k R
  | keep (pi r un nx k R) : (∀ e ∈ r, e.2 = true ∨ o.ubIfExact pi e.1 = none) →
      pr_MR r (un ++ [pi]) nx k R → pr_MR ((pi, false) :: r) un nx k R

theorem pr_mergeRound_MR (fuel : Nat) (xs : List (o.D × Bool)) (un nx : List o.D) (k : Nat)
    (hf : xs.length ≤ fuel) : pr_MR o xs un nx k (mergeRound o fuel xs un nx k) := by
  induction fuel generalizing xs un nx k with
  | zero =>
    have : xs = [] := List.length_eq_zero_iff.1 (by omega)
    subst this; simp [mergeRound]; exact pr_MR.nil _ _ _
  | succ f ih =>
    match xs with
    | [] => simp [mergeRound]; exact pr_MR.nil _ _ _
    | (p, true) :: r =>
      simp only [mergeRound]
      exact pr_MR.skip _ _ _ _ _ _ (ih _ _ _ _ (by simpa using hf))
    | (pi, false) :: r =>
      simp only [mergeRound]
      cases hm : markFirstExact o pi r with
      | none =>
        simp only
        exact pr_MR.keep _ _ _ _ _ _ ((markFirstExact_none o pi r).1 hm)
          (ih _ _ _ _ (by simpa using hf))
      | some w =>
        obtain ⟨u, r'⟩ := w
        simp only
        obtain ⟨r1, pj, r2, h1, h2, h3, h4⟩ := (markFirstExact_spec o pi r u r').1 hm
        subst h4
        refine pr_MR.merge _ _ _ _ _ u r1 pj r2 _ h1 h2 h3 (ih _ _ _ _ ?_)
        rw [h1] at hf; simpa using hf

theorem pr_unm_cons_true (p : o.D) (r : List (o.D × Bool)) : pr_unm o ((p, true) :: r) = pr_unm o r := by
  simp [pr_unm]

theorem pr_unm_cons_false (p : o.D) (r : List (o.D × Bool)) :
    pr_unm o ((p, false) :: r) = p :: pr_unm o r := by
  simp [pr_unm]

theorem pr_unm_append (r1 r2 : List (o.D × Bool)) : pr_unm o (r1 ++ r2) = pr_unm o r1 ++ pr_unm o r2 := by
  simp [pr_unm]

/-- counting facts of the first loop -/
theorem pr_MR_count {xs un nx k R} (h : pr_MR o xs un nx k R) :
    k ≤ R.2.2 ∧
    (∃ l, R.1 = un ++ l ∧ l.Sublist (pr_unm o xs) ∧
      l.length + 2 * (R.2.2 - k) = (pr_unm o xs).length) ∧
    R.2.1.length ≤ nx.length + (R.2.2 - k) ∧
    (R.2.2 = k → R.2.1 = nx) := by
  induction h with
  | nil un nx k => exact ⟨Nat.le_refl _, ⟨[], by simp, by simp [pr_unm], by simp [pr_unm]⟩, by simp, fun _ => rfl⟩
  | skip p r un nx k R _ ih => rw [pr_unm_cons_true]; exact ih
  | merge pi r un nx k u r1 pj r2 R h1 h2 h3 _ ih =>
    obtain ⟨ik, ⟨l, il1, il2, il3⟩, in1, _⟩ := ih
    have hlen := pr_addNBwhole_length o.toOps u nx
    subst h1
    rw [pr_unm_cons_false, pr_unm_append, pr_unm_cons_false]
    rw [pr_unm_append, pr_unm_cons_true] at il2 il3
    refine ⟨by omega, ⟨l, il1, ?_, ?_⟩, by omega, fun hk => by omega⟩
    · refine (il2.trans ?_).trans (List.sublist_cons_self _ _)
      exact List.Sublist.append (List.Sublist.refl _) (List.sublist_cons_self _ _)
    · simp only [List.length_append, List.length_cons] at il3 ⊢; omega
  | keep pi r un nx k R _ _ ih =>
    obtain ⟨ik, ⟨l, il1, il2, il3⟩, in1, in2⟩ := ih
    rw [pr_unm_cons_false]
    refine ⟨ik, ⟨pi :: l, by simp [il1], il2.cons_cons _, ?_⟩, in1, in2⟩
    simp only [List.length_cons]; omega

theorem pr_MergedFrom_cons (e : o.D × Bool) (r : List (o.D × Bool)) (v : o.D)
    (h : pr_MergedFrom o r v) : pr_MergedFrom o (e :: r) v := by
  obtain ⟨i, j, a, b, hij, hi, hj, hu⟩ := h
  exact ⟨i + 1, j + 1, a, b, by omega, by simpa using hi, by simpa using hj, hu⟩

theorem pr_getElem_unmark (r1 r2 : List (o.D × Bool)) (pj a : o.D) (i : Nat)
    (h : (r1 ++ (pj, true) :: r2)[i]? = some (a, false)) :
    (r1 ++ (pj, false) :: r2)[i]? = some (a, false) := by
  rw [List.getElem?_append] at h ⊢
  split
  · rename_i hlt; simpa [hlt] using h
  · rename_i hlt
    simp only [hlt, if_false] at h
    cases hd : i - r1.length with
    | zero => simp [hd] at h
    | succ n => simpa [hd] using h

/-- every element of `new_x` is the exact upper bound of two unmarked entries -/
theorem pr_MR_mem {xs un nx k R} (h : pr_MR o xs un nx k R) :
    ∀ v ∈ R.2.1, v ∈ nx ∨ pr_MergedFrom o xs v := by
  induction h with
  | nil un nx k => intro v hv; exact Or.inl hv
  | skip p r un nx k R _ ih =>
    intro v hv; exact (ih v hv).imp id (pr_MergedFrom_cons o _ _ _)
  | merge pi r un nx k u r1 pj r2 R h1 h2 h3 _ ih =>
    intro v hv
    subst h1
    rcases ih v hv with hv | hv
    · rcases pr_addNBwhole_mem o.toOps u nx v hv with rfl | hv
      · right
        exact ⟨0, r1.length + 1, pi, pj, by omega, by simp, by simp, h3⟩
      · exact Or.inl hv
    · right
      obtain ⟨i, j, a, b, hij, hi, hj, hu⟩ := hv
      exact pr_MergedFrom_cons o _ _ _
        ⟨i, j, a, b, hij, pr_getElem_unmark o _ _ _ _ _ hi, pr_getElem_unmark o _ _ _ _ _ hj, hu⟩
  | keep pi r un nx k R _ _ ih =>
    intro v hv; exact (ih v hv).imp id (pr_MergedFrom_cons o _ _ _)

/-- `new_x` stays omega-reduced (its elements enter through the one-argument
    `add_non_bottom_disjunct_preserve_reduction`) -/
theorem pr_MR_omegaReduced {xs un nx k R} (h : pr_MR o xs un nx k R)
    (hub : ∀ a b u, o.ubIfExact a b = some u → o.isBottom a = false → o.isBottom u = false)
    (hnx : OmegaReduced o.toOps nx) (hxs : ∀ e ∈ xs, o.isBottom e.1 = false) :
    OmegaReduced o.toOps R.2.1 := by
  induction h with
  | nil un nx k => exact hnx
  | skip p r un nx k R _ ih => exact ih hnx (fun e he => hxs e (List.mem_cons_of_mem _ he))
  | merge pi r un nx k u r1 pj r2 R h1 h2 h3 _ ih =>
    subst h1
    refine ih (addNBwhole_omegaReduced o.toOps u nx hnx (hub pi pj u h3 (hxs (pi, false) (by simp)))) ?_
    intro e he
    simp only [List.mem_append, List.mem_cons] at he
    rcases he with he | rfl | he
    · exact hxs e (by simp [he])
    · exact hxs (pj, false) (by simp)
    · exact hxs e (by simp [he])
  | keep pi r un nx k R _ _ ih => exact ih hnx (fun e he => hxs e (List.mem_cons_of_mem _ he))

/-- the facts of the first loop, on `mergeRound` itself (`fuel ≥ xs.length`) -/
theorem mergeRound_spec (fuel : Nat) (xs : List (o.D × Bool)) (un nx : List o.D) (k : Nat)
    (hf : xs.length ≤ fuel) :
    k ≤ (mergeRound o fuel xs un nx k).2.2 ∧
    (∃ l, (mergeRound o fuel xs un nx k).1 = un ++ l ∧
      l.Sublist ((xs.filter (fun e => !e.2)).map (·.1)) ∧
      l.length + 2 * ((mergeRound o fuel xs un nx k).2.2 - k)
        = ((xs.filter (fun e => !e.2)).map (·.1)).length) ∧
    (mergeRound o fuel xs un nx k).2.1.length ≤ nx.length + ((mergeRound o fuel xs un nx k).2.2 - k) ∧
    ((mergeRound o fuel xs un nx k).2.2 = k → (mergeRound o fuel xs un nx k).2.1 = nx) ∧
    (∀ v ∈ (mergeRound o fuel xs un nx k).2.1, v ∈ nx ∨
      ∃ (i j : Nat) (a b : o.D), i < j ∧ xs[i]? = some (a, false) ∧ xs[j]? = some (b, false) ∧
        o.ubIfExact a b = some v) := by
  have h := pr_mergeRound_MR o fuel xs un nx k hf
  obtain ⟨h1, h2, h3, h4⟩ := pr_MR_count o h
  exact ⟨h1, h2, h3, h4, pr_MR_mem o h⟩

theorem mergeRound_length (fuel : Nat) (xs : List (o.D × Bool)) (un nx : List o.D) (k : Nat)
    (hf : xs.length ≤ fuel) :
    (mergeRound o fuel xs un nx k).1.length + 2 * ((mergeRound o fuel xs un nx k).2.2 - k)
      = un.length + (xs.filter (fun e => !e.2)).length := by
  obtain ⟨_, ⟨l, h1, _, h3⟩, _⟩ := mergeRound_spec o fuel xs un nx k hf
  rw [h1]; simp only [List.length_append, List.length_map] at h3 ⊢; omega

end Pairwise
end PPLV.Powerset.Exact

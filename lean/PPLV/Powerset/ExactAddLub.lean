import PPLV.Powerset.ExactOmega

/-!
# C09 — `add_non_bottom_disjunct_preserve_reduction`, `least_upper_bound_assign`,
`collapse` at the sequence level (model `Exact`, raw `Ops`)
-/
namespace PPLV.Powerset.Exact
open PPLV

variable (o : Ops)

/-! ## `addScan` / `addNB` -/

theorem addScan_early (x : o.D) (l1 : List o.D) (xv : o.D) (l2 : List o.D)
    (hx : o.leq x xv = true) (h1 : ∀ z ∈ l1, o.leq x z = false) :
    addScan o x (l1 ++ xv :: l2) = (l1.filter (fun z => !o.leq z x) ++ xv :: l2, true) := by
  induction l1 with
  | nil => simp [addScan, hx]
  | cons z l1 ih =>
    have hz : o.leq x z = false := h1 z (List.mem_cons_self ..)
    have ih' := ih (fun w hw => h1 w (List.mem_cons_of_mem _ hw))
    simp only [List.cons_append, addScan, hz, Bool.false_eq_true, ↓reduceIte, ih']
    cases hzx : o.leq z x <;> simp [hzx]

theorem addScan_push (x : o.D) (rng : List o.D) (h : ∀ z ∈ rng, o.leq x z = false) :
    addScan o x rng = (rng.filter (fun z => !o.leq z x), false) := by
  induction rng with
  | nil => simp [addScan]
  | cons z l ih =>
    have hz : o.leq x z = false := h z (List.mem_cons_self ..)
    have ih' := ih (fun w hw => h w (List.mem_cons_of_mem _ hw))
    simp only [addScan, hz, Bool.false_eq_true, ↓reduceIte, ih']
    cases hzx : o.leq z x <;> simp [hzx]

/-- the first disjunct of the range that `x` entails, if any -/
theorem addScan_cases (x : o.D) (rng : List o.D) :
    (∃ l1 xv l2, rng = l1 ++ xv :: l2 ∧ o.leq x xv = true ∧ ∀ z ∈ l1, o.leq x z = false) ∨
      (∀ z ∈ rng, o.leq x z = false) := by
  induction rng with
  | nil => right; simp
  | cons z l ih =>
    cases hz : o.leq x z with
    | true => exact Or.inl ⟨[], z, l, by simp, hz, by simp⟩
    | false =>
      rcases ih with ⟨l1, xv, l2, e, a, b⟩ | h
      · refine Or.inl ⟨z :: l1, xv, l2, by simp [e], a, ?_⟩
        intro w hw
        rcases List.mem_cons.1 hw with rfl | hw
        · exact hz
        · exact b w hw
      · right
        intro w hw
        rcases List.mem_cons.1 hw with rfl | hw
        · exact hz
        · exact h w hw

/-- `d ⊑ xv`: immediate return, the disjuncts erased so far stay erased -/
theorem addNB_spec_early (x : o.D) (pre rng l1 : List o.D) (xv : o.D) (l2 : List o.D)
    (e : rng = l1 ++ xv :: l2) (hx : o.leq x xv = true) (h1 : ∀ z ∈ l1, o.leq x z = false) :
    addNB o x pre rng = (pre, l1.filter (fun z => !o.leq z x) ++ xv :: l2) := by
  subst e
  simp [addNB, addScan_early o x l1 xv l2 hx h1]

theorem addNB_push_eq (x : o.D) (pre rng : List o.D) (h : ∀ z ∈ rng, o.leq x z = false) :
    addNB o x pre rng =
      if rng.filter (fun z => !o.leq z x) = [] then (pre ++ [x], [])
      else (pre, rng.filter (fun z => !o.leq z x) ++ [x]) := by
  simp only [addNB, addScan_push o x rng h, Bool.false_eq_true, ↓reduceIte]
  cases hf : rng.filter (fun z => !o.leq z x) <;> simp

/-- `d` entails no disjunct of the range: the disjuncts that entail `d` are erased, `d` is
    pushed at the back; it lands outside the range iff the whole range was erased -/
theorem addNB_spec_push (x : o.D) (pre rng : List o.D) (h : ∀ z ∈ rng, o.leq x z = false) :
    (addNB o x pre rng).1 ++ (addNB o x pre rng).2 =
        pre ++ rng.filter (fun z => !o.leq z x) ++ [x] ∧
      ((addNB o x pre rng).2 = [] ↔ rng.filter (fun z => !o.leq z x) = []) ∧
      (addNB o x pre rng).1 =
        if rng.filter (fun z => !o.leq z x) = [] then pre ++ [x] else pre := by
  rw [addNB_push_eq o x pre rng h]
  by_cases hf : rng.filter (fun z => !o.leq z x) = []
  · simp [hf]
  · simp [hf]

theorem pr_addScan_sublist (x : o.D) (rng : List o.D) : (addScan o x rng).1.Sublist rng := by
  induction rng with
  | nil => simp [addScan]
  | cons xv r ih =>
    unfold addScan
    split
    · exact List.Sublist.refl _
    · split
      · exact ih.trans (List.sublist_cons_self _ _)
      · exact ih.cons_cons _

theorem pr_addNB_mem (x : o.D) (pre rng : List o.D) :
    (∀ p ∈ (addNB o x pre rng).1, p ∈ pre ∨ p = x) ∧
    (∀ p ∈ (addNB o x pre rng).2, p ∈ rng ∨ p = x) := by
  have hs := pr_addScan_sublist o x rng
  simp only [addNB]
  split
  · exact ⟨fun p hp => Or.inl hp, fun p hp => Or.inl (hs.subset hp)⟩
  · split
    · exact ⟨fun p hp => by simpa using hp, by simp⟩
    · rename_i h
      refine ⟨fun p hp => Or.inl hp, fun p hp => ?_⟩
      simp only [List.mem_append, List.mem_singleton] at hp
      rcases hp with hp | hp
      · exact Or.inl (hs.subset (h ▸ hp))
      · exact Or.inr hp

/-- the new `first` range is empty whenever the new disjunct went before it -/
theorem addNB_fst_ne (x : o.D) (pre rng : List o.D) (h : (addNB o x pre rng).1 ≠ pre) :
    (addNB o x pre rng).2 = [] ∧ (addNB o x pre rng).1 = pre ++ [x] := by
  unfold addNB at h ⊢
  simp only at h ⊢
  split
  · rename_i h1; simp [h1] at h
  · rename_i h1
    split
    · simp
    · rename_i h2; simp [h1, h2] at h

/-- the result is a sublist of `pre ++ rng ++ [x]` -/
theorem addNB_sublist (x : o.D) (pre rng : List o.D) :
    ((addNB o x pre rng).1 ++ (addNB o x pre rng).2).Sublist (pre ++ rng ++ [x]) := by
  rcases addScan_cases o x rng with ⟨l1, xv, l2, e, a, b⟩ | h
  · rw [addNB_spec_early o x pre rng l1 xv l2 e a b, e]
    simp only [List.append_assoc]
    refine List.Sublist.append (List.Sublist.refl _) ?_
    refine List.Sublist.append List.filter_sublist ?_
    simp
  · rw [(addNB_spec_push o x pre rng h).1]
    refine List.Sublist.append ?_ (List.Sublist.refl _)
    exact List.Sublist.append (List.Sublist.refl _) List.filter_sublist

theorem addNB_omegaReduced (x : o.D) (pre rng : List o.D) (hr : OmegaReduced o (pre ++ rng))
    (hb : o.isBottom x = false) (hp : ∀ p ∈ pre, Incomp o x p) :
    OmegaReduced o ((addNB o x pre rng).1 ++ (addNB o x pre rng).2) := by
  rcases addScan_cases o x rng with ⟨l1, xv, l2, e, a, b⟩ | h
  · rw [addNB_spec_early o x pre rng l1 xv l2 e a b]
    refine hr.sublist ?_
    subst e
    refine List.Sublist.append (List.Sublist.refl _) ?_
    exact List.Sublist.append List.filter_sublist (List.Sublist.refl _)
  · rw [(addNB_spec_push o x pre rng h).1]
    have hs : (pre ++ rng.filter (fun z => !o.leq z x)).Sublist (pre ++ rng) :=
      List.Sublist.append (List.Sublist.refl _) List.filter_sublist
    have h0 := hr.sublist hs
    refine ⟨?_, ?_⟩
    · intro a ha
      rcases List.mem_append.1 ha with ha | ha
      · exact h0.1 a ha
      · rw [List.mem_singleton.1 ha]; exact hb
    · unfold Antichain
      rw [List.pairwise_append]
      refine ⟨h0.2, by simp, ?_⟩
      intro a ha c hc
      rw [List.mem_singleton.1 hc]
      rcases List.mem_append.1 ha with ha | ha
      · exact (hp a ha).symm
      · have := List.mem_filter.1 ha
        exact ⟨by simpa using this.2, h a this.1⟩

theorem addNBwhole_omegaReduced (x : o.D) (s : List o.D) (hr : OmegaReduced o s)
    (hb : o.isBottom x = false) : OmegaReduced o (addNBwhole o x s) := by
  unfold addNBwhole
  exact addNB_omegaReduced o x [] s (by simpa using hr) hb (by simp)

/-- `addNBwhole` on a sequence none of whose disjuncts is entailed by `x` -/
theorem addNBwhole_push (x : o.D) (s : List o.D) (h : ∀ z ∈ s, o.leq x z = false) :
    addNBwhole o x s = s.filter (fun z => !o.leq z x) ++ [x] := by
  unfold addNBwhole
  simpa using (addNB_spec_push o x [] s h).1

/-! ## the fold of `least_upper_bound_assign` / `pairwise_reduce` / `BGP99` -/

/-- the fold `for (yi …) first = add_non_bottom_disjunct_preserve_reduction(*yi, first, end)` -/
def addFold (un : List o.D) (st : List o.D × List o.D) : List o.D × List o.D :=
  un.foldl (fun (st : List o.D × List o.D) yi => addNB o yi st.1 st.2) st

theorem addFold_omegaReduced_gen (un pre rng : List o.D) (hr : OmegaReduced o (pre ++ rng))
    (hu : OmegaReduced o un) (hp : ∀ p ∈ pre, ∀ y ∈ un, Incomp o y p) :
    OmegaReduced o ((addFold o un (pre, rng)).1 ++ (addFold o un (pre, rng)).2) := by
  induction un generalizing pre rng with
  | nil => simpa [addFold] using hr
  | cons y un ih =>
    have hstep : addFold o (y :: un) (pre, rng) = addFold o un (addNB o y pre rng) := by
      simp [addFold]
    rw [hstep]
    have hy : o.isBottom y = false := hu.1 y (List.mem_cons_self ..)
    have hu' : OmegaReduced o un := hu.sublist (List.sublist_cons_self _ _)
    have hpw := List.pairwise_cons.1 hu.2
    refine ih _ _ ?_ hu' ?_
    · exact addNB_omegaReduced o y pre rng hr hy (fun p hp' => hp p hp' y (List.mem_cons_self ..))
    · intro p hp' z hz
      rcases (pr_addNB_mem o y pre rng).1 p hp' with h | h
      · exact hp p h z (List.mem_cons_of_mem _ hz)
      · rw [h]; exact (hpw.1 z hz).symm

/-- adding an omega-reduced list `un` with the range form to an omega-reduced
    `nx`: the result is omega-reduced (used by `lub`, `pairwise_reduce`, `BGP99`) -/
theorem foldl_addNB_omegaReduced (nx un : List o.D) (hn : OmegaReduced o nx)
    (hu : OmegaReduced o un) :
    OmegaReduced o
      ((un.foldl (fun (st : List o.D × List o.D) yi => addNB o yi st.1 st.2) ([], nx)).1 ++
       (un.foldl (fun (st : List o.D × List o.D) yi => addNB o yi st.1 st.2) ([], nx)).2) :=
  addFold_omegaReduced_gen o un [] nx (by simpa using hn) hu (by simp)

/-- the shape invariant of the fold: once a disjunct went before `first`, the range is empty -/
theorem addFold_shape (un pre rng : List o.D) (h : pre ≠ [] → rng = []) :
    (addFold o un (pre, rng)).1 ≠ [] → (addFold o un (pre, rng)).2 = [] := by
  induction un generalizing pre rng with
  | nil => simpa [addFold] using h
  | cons y un ih =>
    have hstep : addFold o (y :: un) (pre, rng) = addFold o un (addNB o y pre rng) := by
      simp [addFold]
    rw [hstep]
    have key : (addNB o y pre rng).1 ≠ [] → (addNB o y pre rng).2 = [] := ?_
    · exact ih (addNB o y pre rng).1 (addNB o y pre rng).2 key
    intro hne
    by_cases hc : (addNB o y pre rng).1 = pre
    · rw [hc] at hne
      have hr := h hne
      subst hr
      have := addNB_push_eq o y pre [] (by simp)
      simp only [List.filter_nil, ↓reduceIte] at this
      rw [this]
    · exact (addNB_fst_ne o y pre rng hc).1

/-- every disjunct of the result comes from `pre`, `rng` or `un` -/
theorem addFold_subset (un pre rng : List o.D) :
    ∀ a ∈ (addFold o un (pre, rng)).1 ++ (addFold o un (pre, rng)).2,
      a ∈ pre ∨ a ∈ rng ∨ a ∈ un := by
  induction un generalizing pre rng with
  | nil => intro a ha; simpa [addFold] using ha
  | cons y un ih =>
    have hstep : addFold o (y :: un) (pre, rng) = addFold o un (addNB o y pre rng) := by
      simp [addFold]
    rw [hstep]
    intro a ha
    rcases ih _ _ a ha with h | h | h
    · have := (addNB_sublist o y pre rng).subset (List.mem_append_left _ h)
      simp only [List.mem_append, List.mem_singleton] at this
      rcases this with (h | h) | h
      · exact Or.inl h
      · exact Or.inr (Or.inl h)
      · exact Or.inr (Or.inr (by simp [h]))
    · have := (addNB_sublist o y pre rng).subset (List.mem_append_right _ h)
      simp only [List.mem_append, List.mem_singleton] at this
      rcases this with (h | h) | h
      · exact Or.inl h
      · exact Or.inr (Or.inl h)
      · exact Or.inr (Or.inr (by simp [h]))
    · exact Or.inr (Or.inr (List.mem_cons_of_mem _ h))

/-- `least_upper_bound_assign` keeps the class invariant of both operands, and its result
    is flagged reduced -/
theorem lub_inv (x y : PS o.D) (hx : Inv o x) (hy : Inv o y) :
    Inv o (lub o false x y).1 ∧ Inv o (lub o false x y).2 ∧ (lub o false x y).1.reduced = true := by
  have h1 := omegaReduce_omegaReduced_of_inv o x hx
  have h2 := omegaReduce_omegaReduced_of_inv o y hy
  refine ⟨?_, ?_, ?_⟩
  · intro _
    exact foldl_addNB_omegaReduced o _ _ h1 h2
  · exact omegaReduce_inv o y hy
  · exact omegaReduce_reduced o false x

/-- the sequence of the result of `lub` in terms of `addFold` -/
theorem lub_seq (x y : PS o.D) :
    (lub o false x y).1.seq =
      (addFold o (omegaReduce o false y).seq ([], (omegaReduce o false x).seq)).1 ++
      (addFold o (omegaReduce o false y).seq ([], (omegaReduce o false x).seq)).2 := rfl

/-! ## `collapse` -/

/-- `collapse()` -/
theorem collapse_exact_spec (y : o.D) (ys : List o.D) (r : Bool) :
    collapse o ⟨y :: ys, r⟩ = ⟨[ys.foldl o.join y], r⟩ := by
  simp [collapse, collapseAt]

theorem collapse_nil (r : Bool) : collapse o ⟨[], r⟩ = ⟨[], r⟩ := rfl

theorem collapseMax_small (maxD : Nat) (x : PS o.D)
    (h : (omegaReduce o false x).seq.length ≤ maxD) :
    collapseMax o false maxD x = omegaReduce o false x := by
  unfold collapseMax
  simp only
  rw [if_neg (Nat.not_lt.2 h)]

theorem collapseMax_big (maxD : Nat) (x : PS o.D) (y : o.D) (ys : List o.D)
    (h : maxD < (omegaReduce o false x).seq.length) (h0 : 0 < maxD)
    (hd : (omegaReduce o false x).seq.drop (maxD - 1) = y :: ys) :
    (collapseMax o false maxD x).seq =
        ((omegaReduce o false x).seq.take (maxD - 1)).filter
          (fun z => !o.leq z (ys.foldl o.join y)) ++ [ys.foldl o.join y] ∧
      (collapseMax o false maxD x).reduced = true ∧
      (collapseMax o false maxD x).seq.length ≤ maxD := by
  have e : collapseMax o false maxD x =
      { omegaReduce o false x with
        seq := collapseAt o ((omegaReduce o false x).seq.take (maxD - 1)) y ys } := by
    unfold collapseMax
    simp only
    rw [if_pos h, hd]
  rw [e]
  refine ⟨rfl, omegaReduce_reduced o false x, ?_⟩
  simp only [collapseAt, List.length_append, List.length_singleton]
  have h1 := List.length_filter_le (fun z => !o.leq z (ys.foldl o.join y))
    ((omegaReduce o false x).seq.take (maxD - 1))
  have h2 : ((omegaReduce o false x).seq.take (maxD - 1)).length ≤ maxD - 1 :=
    List.length_take_le _ _
  omega

/-- `collapse(max_disjuncts)` -/
theorem collapseMax_exact_spec (maxD : Nat) (x : PS o.D) :
    ((omegaReduce o false x).seq.length ≤ maxD →
      collapseMax o false maxD x = omegaReduce o false x) ∧
    (∀ y ys, maxD < (omegaReduce o false x).seq.length → 0 < maxD →
      (omegaReduce o false x).seq.drop (maxD - 1) = y :: ys →
      (collapseMax o false maxD x).seq =
          ((omegaReduce o false x).seq.take (maxD - 1)).filter
            (fun z => !o.leq z (ys.foldl o.join y)) ++ [ys.foldl o.join y] ∧
        (collapseMax o false maxD x).reduced = true ∧
        (collapseMax o false maxD x).seq.length ≤ maxD) :=
  ⟨collapseMax_small o maxD x, fun y ys h h0 hd => collapseMax_big o maxD x y ys h h0 hd⟩

/-- `collapse(0)` on a non-empty reduced sequence: `drop (0-1) = drop 0`, everything is joined
    into one disjunct (the C++ asserts `max_disjuncts > 0`) -/
theorem collapseMax_flag (maxD : Nat) (x : PS o.D) : (collapseMax o false maxD x).reduced = true := by
  unfold collapseMax
  simp only
  split
  · split
    · exact omegaReduce_reduced o false x
    · exact omegaReduce_reduced o false x
  · exact omegaReduce_reduced o false x

theorem foldl_join_ge (hp : IsPreorder o) (hj : ∀ a b, o.leq a (o.join a b) = true)
    (x : o.D) (post : List o.D) : o.leq x (post.foldl o.join x) = true := by
  induction post generalizing x with
  | nil => exact hp.refl x
  | cons p post ih => exact hp.trans _ _ _ (hj x p) (ih (o.join x p))

/-- `collapse(sink)` keeps omega-reduction, for a preorder whose `upper_bound_assign` is
    above its first argument and whose `is_bottom` is downward closed -/
theorem collapseAt_omegaReduced (hp : IsPreorder o) (hj : ∀ a b, o.leq a (o.join a b) = true)
    (hb : ∀ a b, o.leq a b = true → o.isBottom b = true → o.isBottom a = true)
    (pre : List o.D) (x : o.D) (post : List o.D) (h : OmegaReduced o (pre ++ x :: post)) :
    OmegaReduced o (collapseAt o pre x post) := by
  unfold collapseAt
  simp only
  have hx := foldl_join_ge o hp hj x post
  generalize post.foldl o.join x = dj at hx
  have hxb : o.isBottom x = false := h.1 x (by simp)
  have hpre : OmegaReduced o pre := h.sublist (List.sublist_append_left _ _)
  have hxp : ∀ a ∈ pre, Incomp o a x := by
    intro a ha
    have := List.pairwise_append.1 h.2
    exact this.2.2 a ha x (List.mem_cons_self ..)
  refine ⟨?_, ?_⟩
  · intro a ha
    rcases List.mem_append.1 ha with ha | ha
    · exact hpre.1 a (List.mem_filter.1 ha).1
    · rw [List.mem_singleton.1 ha]
      cases hd : o.isBottom dj with
      | false => rfl
      | true => rw [hb x dj hx hd] at hxb; cases hxb
  · unfold Antichain
    rw [List.pairwise_append]
    refine ⟨hpre.2.sublist List.filter_sublist, by simp, ?_⟩
    intro a ha c hc
    rw [List.mem_singleton.1 hc]
    have ha' := List.mem_filter.1 ha
    refine ⟨by simpa using ha'.2, ?_⟩
    cases hd : o.leq dj a with
    | false => rfl
    | true =>
      have := hp.trans _ _ _ hx hd
      rw [(hxp a ha'.1).2] at this
      cases this

theorem collapseMax_inv (hp : IsPreorder o) (hj : ∀ a b, o.leq a (o.join a b) = true)
    (hb : ∀ a b, o.leq a b = true → o.isBottom b = true → o.isBottom a = true)
    (maxD : Nat) (x : PS o.D) (hx : Inv o x) : Inv o (collapseMax o false maxD x) := by
  have h1 := omegaReduce_omegaReduced_of_inv o x hx
  intro _
  unfold collapseMax
  simp only
  split
  · split
    · exact h1
    · rename_i y ys hd
      refine collapseAt_omegaReduced o hp hj hb _ y ys ?_
      rw [← hd, List.take_append_drop]
      exact h1
  · exact h1

/-- when the input is not flagged, nothing is needed about it -/
theorem collapseMax_inv_of_not_reduced (hp : IsPreorder o)
    (hj : ∀ a b, o.leq a (o.join a b) = true)
    (hb : ∀ a b, o.leq a b = true → o.isBottom b = true → o.isBottom a = true)
    (maxD : Nat) (x : PS o.D) (hx : x.reduced = false) : Inv o (collapseMax o false maxD x) :=
  collapseMax_inv o hp hj hb maxD x (fun h => by rw [hx] at h; cases h)

theorem collapse_inv (hp : IsPreorder o) (hj : ∀ a b, o.leq a (o.join a b) = true)
    (hb : ∀ a b, o.leq a b = true → o.isBottom b = true → o.isBottom a = true)
    (x : PS o.D) (hx : Inv o x) : Inv o (collapse o x) := by
  unfold collapse
  split
  · exact hx
  · rename_i y ys hs
    intro hr
    have := hx hr
    rw [hs] at this
    exact collapseAt_omegaReduced o hp hj hb [] y ys (by simpa using this)

end PPLV.Powerset.Exact

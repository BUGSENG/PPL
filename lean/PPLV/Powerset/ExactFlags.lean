import PPLV.Powerset.ExactAddLub

/-!
# C09 — the order of the pieces and the `reduced` flag (model `Exact`)

`linear_partition` / `difference_assign` (order of the pieces), the soundness of every update of the
lazy `reduced` flag by the disjunct-wise transformers, `concatenate_assign`, `is_universe`, and
length / membership lemmas on `add_non_bottom_disjunct_preserve_reduction`.
Raw `Ops` / `PolyOps`: no semantic hypothesis unless stated.
-/
namespace PPLV.Powerset.Exact
open PPLV

section Partition
variable (o : PolyOps)

/-- piece `i` of the partition of `q` by the constraint list `cs'` -/
def pr_piece (cs' : List LCon) (q : o.D) (i : Nat) : Option o.D :=
  let n := o.addCon ((cs'.take i).foldl o.addCon q) (negCon (cs'.getD i default))
  if o.isBottom n then none else some n

theorem pr_linearPartitionAux_eq (c : LCon) (st : o.D × List o.D) :
    linearPartitionAux o c st =
      (o.addCon st.1 c,
        st.2 ++ (if o.isBottom (o.addCon st.1 (negCon c)) then [] else [o.addCon st.1 (negCon c)])) := by
  unfold linearPartitionAux negCon
  by_cases h : o.isBottom (o.addCon st.1 (if c.rel = LRel.gt then c.exprLe else c.exprLt)) = true
  · simp [h]
  · simp [h]

theorem pr_auxFold (cs' : List LCon) (st : o.D × List o.D) :
    cs'.foldl (fun st c => linearPartitionAux o c st) st =
      (cs'.foldl o.addCon st.1,
        st.2 ++ (List.range cs'.length).filterMap (pr_piece o cs' st.1)) := by
  induction cs' generalizing st with
  | nil => simp
  | cons c cs ih =>
    rw [List.foldl_cons, ih, pr_linearPartitionAux_eq]
    simp only [List.foldl_cons, List.length_cons, List.range_succ_eq_map, List.filterMap_cons,
      List.filterMap_map]
    have h0 : pr_piece o (c :: cs) st.1 0 =
        if o.isBottom (o.addCon st.1 (negCon c)) then none else some (o.addCon st.1 (negCon c)) := by
      simp [pr_piece]
    have hs : (pr_piece o (c :: cs) st.1 ∘ Nat.succ) = pr_piece o cs (o.addCon st.1 c) := by
      funext i; simp [pr_piece]
    rw [h0, hs]
    by_cases h : o.isBottom (o.addCon st.1 (negCon c)) = true
    · simp [h]
    · simp [h]

theorem pr_linearPartitionWith_split (cs : List LCon) (st : o.D × List o.D) :
    cs.foldl (fun st c =>
      if c.rel = .eq then linearPartitionAux o c.exprGe (linearPartitionAux o c.exprLe st)
      else linearPartitionAux o c st) st =
    (splitEqs cs).foldl (fun st c => linearPartitionAux o c st) st := by
  induction cs generalizing st with
  | nil => simp [splitEqs]
  | cons c cs ih =>
    have : splitEqs (c :: cs) = (if c.rel = .eq then [c.exprLe, c.exprGe] else [c]) ++ splitEqs cs := by
      simp [splitEqs]
    rw [this, List.foldl_cons, List.foldl_append, ih]
    by_cases h : c.rel = .eq
    · simp [h]
    · simp [h]

/-- generalised over the accumulator -/
theorem pr_linearPartitionWith_acc (cs : List LCon) (st : o.D × List o.D) :
    cs.foldl (fun st c =>
      if c.rel = .eq then linearPartitionAux o c.exprGe (linearPartitionAux o c.exprLe st)
      else linearPartitionAux o c st) st =
    ((splitEqs cs).foldl o.addCon st.1,
      st.2 ++ (List.range (splitEqs cs).length).filterMap (fun i =>
        let n := o.addCon (((splitEqs cs).take i).foldl o.addCon st.1)
          (negCon ((splitEqs cs).getD i default))
        if o.isBottom n then none else some n)) := by
  rw [pr_linearPartitionWith_split, pr_auxFold]; rfl

/-- **A/B 7** the pieces of `linear_partition` in order -/
theorem linearPartitionWith_order (cs : List LCon) (q : o.D) :
    (linearPartitionWith o cs q).1 = (splitEqs cs).foldl o.addCon q ∧
    (linearPartitionWith o cs q).2 =
      (List.range (splitEqs cs).length).filterMap (fun i =>
        let n := o.addCon (((splitEqs cs).take i).foldl o.addCon q)
          (negCon ((splitEqs cs).getD i default))
        if o.isBottom n then none else some n) := by
  unfold linearPartitionWith
  rw [pr_linearPartitionWith_acc]; simp

theorem linearPartition_order (p q : o.D) :
    (linearPartition o p q).1 = (splitEqs (o.cons p)).foldl o.addCon q ∧
    (linearPartition o p q).2 =
      (List.range (splitEqs (o.cons p)).length).filterMap (fun i =>
        let n := o.addCon (((splitEqs (o.cons p)).take i).foldl o.addCon q)
          (negCon ((splitEqs (o.cons p)).getD i default))
        if o.isBottom n then none else some n) :=
  linearPartitionWith_order o (o.cons p) q

theorem psDiff_order (x y : PS o.D) :
    (psDiff o false x y).1.seq =
      (omegaReduce o.toOps false y).seq.foldl
        (fun acc yi => acc.flatMap fun itr => (linearPartition o yi itr).2)
        (omegaReduce o.toOps false x).seq ∧
    (psDiff o false x y).1.reduced = false ∧
    (psDiff o false x y).2 = omegaReduce o.toOps false y := ⟨rfl, rfl, rfl⟩

end Partition

section OR
variable (o : Ops)

theorem pr_omegaReduced_singleton {a : o.D} (h : o.isBottom a = false) : OmegaReduced o [a] :=
  ⟨by simpa using h, List.pairwise_singleton _ _⟩

theorem pr_inv_of_omegaReduced_nil (b : Bool) : Inv o ⟨[], b⟩ := fun _ => omegaReduced_nil o

/-! ### `addScan` / `addNB` -/

theorem pr_addScan_length (x : o.D) (rng : List o.D) : (addScan o x rng).1.length ≤ rng.length :=
  (pr_addScan_sublist o x rng).length_le

/-- `addNB` never increases the total length by more than one -/
theorem pr_addNB_length (x : o.D) (pre rng : List o.D) :
    (addNB o x pre rng).1.length + (addNB o x pre rng).2.length ≤ pre.length + rng.length + 1 := by
  have hl := pr_addScan_length o x rng
  simp only [addNB]
  split
  · simp; omega
  · split
    · simp
    · rename_i h; simp only [List.length_append, List.length_cons, List.length_nil]
      have := congrArg List.length h; simp at this; omega

theorem pr_addNBwhole_length (x : o.D) (s : List o.D) :
    (addNBwhole o x s).length ≤ s.length + 1 := by
  have := pr_addNB_length o x [] s
  simpa [addNBwhole] using this

theorem pr_addNBwhole_mem (x : o.D) (s : List o.D) : ∀ p ∈ addNBwhole o x s, p = x ∨ p ∈ s := by
  intro p hp
  have := pr_addNB_mem o x [] s
  simp only [addNBwhole, List.mem_append] at hp
  rcases hp with hp | hp
  · rcases this.1 p hp with h | h
    · simp at h
    · exact Or.inl h
  · exact (this.2 p hp).symm

theorem pr_foldAddNB_length (un pre rng : List o.D) :
    (un.foldl (fun (st : List o.D × List o.D) xi => addNB o xi st.1 st.2) (pre, rng)).1.length +
    (un.foldl (fun (st : List o.D × List o.D) xi => addNB o xi st.1 st.2) (pre, rng)).2.length
      ≤ pre.length + rng.length + un.length := by
  induction un generalizing pre rng with
  | nil => simp
  | cons x un ih =>
    rw [List.foldl_cons]
    have h2 := pr_addNB_length o x pre rng
    generalize addNB o x pre rng = pr at h2 ⊢
    obtain ⟨p, r⟩ := pr
    have := ih p r
    simp only [List.length_cons] at *; omega

theorem pr_foldAddNB_mem (un pre rng : List o.D) :
    ∀ p ∈ (un.foldl (fun (st : List o.D × List o.D) xi => addNB o xi st.1 st.2) (pre, rng)).1 ++
      (un.foldl (fun (st : List o.D × List o.D) xi => addNB o xi st.1 st.2) (pre, rng)).2,
      p ∈ pre ∨ p ∈ rng ∨ p ∈ un := by
  induction un generalizing pre rng with
  | nil => intro p hp; simpa [or_assoc] using hp
  | cons x un ih =>
    intro p hp
    rw [List.foldl_cons] at hp
    have hm := pr_addNB_mem o x pre rng
    rcases ih _ _ p hp with h | h | h
    · rcases hm.1 p h with h | h
      · exact Or.inl h
      · right; right; simp [h]
    · rcases hm.2 p h with h | h
      · exact Or.inr (Or.inl h)
      · right; right; simp [h]
    · right; right; simp [h]

/-- with an empty range every disjunct is pushed back in order, without any comparison -/
theorem pr_foldAddNB_nil (un pre : List o.D) :
    un.foldl (fun (st : List o.D × List o.D) xi => addNB o xi st.1 st.2) (pre, []) = (pre ++ un, []) := by
  induction un generalizing pre with
  | nil => simp
  | cons x un ih =>
    have : addNB o x pre [] = (pre ++ [x], []) := by simp [addNB, addScan]
    rw [List.foldl_cons, this, ih]; simp

/-! ## the flags of the transformers -/

/-- a cleared flag promises nothing -/
theorem inv_mk_false (s : List o.D) : Inv o ⟨s, false⟩ := fun h => absurd h Bool.false_ne_true

theorem mapSetFlag_inv (f : o.D → o.D) (x : PS o.D) : Inv o (mapSetFlag o f x) := inv_mk_false o _

theorem mapLoopFlag_inv (f : o.D → o.D) (x : PS o.D) : Inv o (mapLoopFlag o f x) := by
  intro h
  cases hs : x.seq with
  | nil => simp [mapLoopFlag, hs]; exact omegaReduced_nil o
  | cons a l => simp [mapLoopFlag, hs] at h

theorem foldDims_inv (nonemptyVars : Bool) (f : o.D → o.D) (x : PS o.D)
    (hx : nonemptyVars = false → Inv o x) : Inv o (foldDims o nonemptyVars f x) := by
  unfold foldDims
  cases nonemptyVars with
  | true => exact inv_mk_false o _
  | false => simpa using hx rfl

theorem addDisjunct_inv (x : PS o.D) (y : o.D) : Inv o (addDisjunct o x y) := inv_mk_false o _

theorem pairwiseApply_inv (abandon : Bool) (op : o.D → o.D → o.D) (x y : PS o.D)
    (hom : ∀ y : PS o.D, Inv o y → Inv o (omegaReduce o abandon y)) (hy : Inv o y) :
    Inv o (pairwiseApply o abandon op x y).1 ∧ Inv o (pairwiseApply o abandon op x y).2 :=
  ⟨inv_mk_false o _, hom y hy⟩

theorem meetAssign_inv (abandon : Bool) (x y : PS o.D)
    (hom : ∀ y : PS o.D, Inv o y → Inv o (omegaReduce o abandon y)) (hy : Inv o y) :
    Inv o (meetAssign o abandon x y).1 ∧ Inv o (meetAssign o abandon x y).2 :=
  pairwiseApply_inv o abandon o.meet x y hom hy

/-- no hypothesis needed: either the reduced sequence is empty, or the flag is cleared -/
theorem mapSpaceDimensions_inv (abandon : Bool) (f : o.D → o.D) (x : PS o.D) :
    Inv o (mapSpaceDimensions o abandon f x) := by
  unfold mapSpaceDimensions
  by_cases h : (omegaReduce o abandon x).seq.isEmpty = true
  · simp only [h, if_true]
    intro _
    rw [List.isEmpty_iff.1 h]; exact omegaReduced_nil o
  · simp only [h]
    exact inv_mk_false o _

theorem mapKeepFlag_inv (f : o.D → o.D) (x : PS o.D)
    (hf : ∀ a b, o.leq (f a) (f b) = o.leq a b) (hb : ∀ a, o.isBottom (f a) = o.isBottom a)
    (hx : Inv o x) : Inv o (mapKeepFlag o f x) := by
  intro h
  have hr := hx h
  refine ⟨?_, ?_⟩
  · intro a ha
    simp only [mapKeepFlag, List.mem_map] at ha
    obtain ⟨b, hb', rfl⟩ := ha
    rw [hb]; exact hr.1 b hb'
  · simp only [mapKeepFlag, Antichain, List.pairwise_map]
    exact hr.2.imp (fun {a b} hab => ⟨by rw [hf]; exact hab.1, by rw [hf]; exact hab.2⟩)

/-- the product of two antichains of non-empty elements is an antichain: the flag `true` that
    `concatenate_assign` leaves is sound -/
theorem concatenateAssign_inv (conc : o.D → o.D → o.D) (x y : PS o.D)
    (hc : ∀ a a' b b', o.isBottom a = false → o.isBottom b = false →
      o.leq (conc a b) (conc a' b') = (o.leq a a' && o.leq b b'))
    (hcb : ∀ a b, o.isBottom a = false → o.isBottom b = false → o.isBottom (conc a b) = false)
    (hom : ∀ y : PS o.D, Inv o y → Inv o (omegaReduce o false y))
    (hx : Inv o x) (hy : Inv o y) :
    Inv o (concatenateAssign o conc x y).1 ∧ Inv o (concatenateAssign o conc x y).2 := by
  refine ⟨?_, hom y hy⟩
  intro _
  have h1 := hom x hx (omegaReduce_reduced o false x)
  have h2 := hom y hy (omegaReduce_reduced o false y)
  simp only [concatenateAssign]
  generalize (omegaReduce o false x).seq = s at h1
  generalize (omegaReduce o false y).seq = t at h2
  refine ⟨?_, ?_⟩
  · intro a ha
    simp only [List.mem_flatMap, List.mem_map] at ha
    obtain ⟨xi, hxi, yi, hyi, rfl⟩ := ha
    exact hcb _ _ (h1.1 xi hxi) (h2.1 yi hyi)
  · unfold Antichain
    rw [List.pairwise_flatMap]
    refine ⟨?_, ?_⟩
    · intro a ha
      rw [List.pairwise_map]
      refine (h2.2.imp_of_mem ?_)
      intro b b' hb hb' hbb
      refine ⟨?_, ?_⟩
      · rw [hc _ _ _ _ (h1.1 a ha) (h2.1 b hb), hbb.1]; simp
      · rw [hc _ _ _ _ (h1.1 a ha) (h2.1 b' hb'), hbb.2]; simp
    · refine (h1.2.imp_of_mem ?_)
      intro a a' ha ha' haa u hu v hv
      simp only [List.mem_map] at hu hv
      obtain ⟨b, hb, rfl⟩ := hu
      obtain ⟨b', hb', rfl⟩ := hv
      refine ⟨?_, ?_⟩
      · rw [hc _ _ _ _ (h1.1 a ha) (h2.1 b hb), haa.1]; simp
      · rw [hc _ _ _ _ (h1.1 a' ha') (h2.1 b' hb'), haa.2]; simp

end OR

section Poly
variable (o : PolyOps)

theorem psDiff_inv (abandon : Bool) (x y : PS o.D)
    (hom : ∀ y : PS o.D, Inv o.toOps y → Inv o.toOps (omegaReduce o.toOps abandon y))
    (hy : Inv o.toOps y) :
    Inv o.toOps (psDiff o abandon x y).1 ∧ Inv o.toOps (psDiff o abandon x y).2 :=
  ⟨inv_mk_false o.toOps _, hom y hy⟩

theorem psDiffVia_inv (back : o.D → o.D) (x y : PS o.D) (hy : Inv o.toOps y) :
    Inv o.toOps (psDiffVia o back x y).1 ∧ Inv o.toOps (psDiffVia o back x y).2 :=
  ⟨inv_mk_false o.toOps _, hy⟩

theorem simplifyCtx_inv (abandon : Bool) (x y : PS o.D)
    (hom : ∀ y : PS o.D, Inv o.toOps y → Inv o.toOps (omegaReduce o.toOps abandon y))
    (hx : Inv o.toOps x) (hy : Inv o.toOps y) :
    Inv o.toOps (simplifyCtx o abandon x y).1 ∧ Inv o.toOps (simplifyCtx o abandon x y).2.1 := by
  unfold simplifyCtx
  simp only
  split
  · exact ⟨hom x hx, hy⟩
  · split
    · exact ⟨hom y hy, hom y hy⟩
    · exact ⟨inv_mk_false o.toOps _, hom y hy⟩

theorem isUniverse_inv (x : PS o.D) (ht : o.isBottom o.top = false) (hx : Inv o.toOps x) :
    Inv o.toOps (isUniverse o x).2 := by
  unfold isUniverse
  simp only
  split
  · exact isOmegaReduced_inv o.toOps x hx
  · split
    · simp only
      split
      · intro _; exact pr_omegaReduced_singleton o.toOps ht
      · exact hx
    · exact hx

end Poly
end PPLV.Powerset.Exact

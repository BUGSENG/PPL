import PPLV.Powerset.ExactOmega

/-!
# C09 — **which disjuncts `omega_reduce` keeps**

For a preorder `definitely_entails`, `omegaLoop o false s.length [] s = omegaSpec o [] s`: the
survivors are exactly the maximal disjuncts, each class of mutually entailing disjuncts
represented by its FIRST occurrence, in the original order.

Proof route.  (1) By the loop invariant `LoopInv` (ExactOmega) every disjunct of `pre` is
incomparable with the disjunct being visited, so the scan of `pre` never does anything
(`scanY_of_incomp`).  (2) `omegaSpec pre l` only depends on `pre` through the predicate "entails an
earlier disjunct": `specP P l` generalises it over an arbitrary predicate `P`, and the loop is
shown equal to `pre ++ specP P rest` whenever `P` is false on the whole of `rest`
(`omegaLoop_eq_specP`), using three congruence lemmas on `specP` (`specP_congr`,
`specP_congr_upto`, `specP_filter_prefix`).
-/
namespace PPLV.Powerset.Exact
open PPLV

variable (o : Ops)

/-- `omegaSpec` with the list of earlier disjuncts abstracted into the predicate
    `P r` = "`r` entails an earlier disjunct" -/
def specP (P : o.D → Bool) : List o.D → List o.D
  | [] => []
  | x :: post =>
    (if !P x && post.all (fun y => !o.leq x y || o.leq y x) then [x] else [])
      ++ specP (fun r => P r || o.leq r x) post

theorem all_not_eq_not_any (x : o.D) (E : List o.D) :
    E.all (fun y => !o.leq x y) = !E.any (fun e => o.leq x e) := by
  induction E with
  | nil => rfl
  | cons e E ih => simp [ih]

theorem omegaSpec_eq_specP (E l : List o.D) :
    omegaSpec o E l = specP o (fun r => E.any (fun e => o.leq r e)) l := by
  induction l generalizing E with
  | nil => rfl
  | cons x post ih =>
    simp only [omegaSpec, specP]
    rw [ih (E ++ [x]), all_not_eq_not_any]
    congr 2
    funext r
    simp [List.any_append]

theorem specP_congr (P Q : o.D → Bool) (l : List o.D) (h : ∀ r ∈ l, P r = Q r) :
    specP o P l = specP o Q l := by
  induction l generalizing P Q with
  | nil => rfl
  | cons x post ih =>
    simp only [specP]
    rw [h x (List.mem_cons_self ..)]
    congr 1
    apply ih
    intro r hr
    rw [h r (List.mem_cons_of_mem _ hr)]

theorem specP_congr_upto (P Q : o.D → Bool) (l1 : List o.D) (y : o.D) (l2 : List o.D)
    (h1 : ∀ r ∈ l1, P r = Q r) (hy : P y = Q y)
    (h2 : ∀ r ∈ l2, (P r || o.leq r y) = (Q r || o.leq r y)) :
    specP o P (l1 ++ y :: l2) = specP o Q (l1 ++ y :: l2) := by
  induction l1 generalizing P Q with
  | nil =>
    simp only [List.nil_append, specP]
    rw [hy]
    congr 1
    exact specP_congr o _ _ l2 h2
  | cons x l1 ih =>
    simp only [List.cons_append, specP]
    rw [h1 x (List.mem_cons_self ..)]
    congr 1
    apply ih
    · intro r hr
      rw [h1 r (List.mem_cons_of_mem _ hr)]
    · rw [hy]
    · intro r hr
      have := h2 r hr
      rw [Bool.or_right_comm, this, Bool.or_right_comm]

theorem all_filter_irrel {α : Type} (f g : α → Bool) (l : List α)
    (h : ∀ y ∈ l, g y = false → f y = true) : (l.filter g).all f = l.all f := by
  induction l with
  | nil => rfl
  | cons a l ih =>
    have ih' := ih (fun y hy => h y (List.mem_cons_of_mem _ hy))
    cases hg : g a with
    | true => simp [hg, ih']
    | false =>
      have := h a (List.mem_cons_self ..) hg
      simp [hg, ih', this]

/-- erasing, from a prefix, disjuncts that entail `xv` does not change the specification when
    everything below `xv` already counts as "entails an earlier disjunct" -/
theorem specP_filter_prefix (hp : IsPreorder o) (xv : o.D) (P : o.D → Bool) (l1 m : List o.D)
    (hP : ∀ r, o.leq r xv = true → P r = true) :
    specP o P (l1 ++ m) = specP o P (l1.filter (fun z => !o.leq z xv) ++ m) := by
  induction l1 generalizing P with
  | nil => rfl
  | cons p ps ih =>
    cases hpx : o.leq p xv with
    | true =>
      have e : (p :: ps).filter (fun z => !o.leq z xv) = ps.filter (fun z => !o.leq z xv) := by
        simp [hpx]
      rw [e]
      simp only [List.cons_append, specP, hP p hpx]
      have hP' : ∀ r, o.leq r xv = true → (P r || o.leq r p) = true := by
        intro r hr; simp [hP r hr]
      simp only [Bool.not_true, Bool.false_and, Bool.false_eq_true, ↓reduceIte, List.nil_append]
      rw [ih _ hP']
      apply specP_congr
      intro r _
      cases hrp : o.leq r p with
      | false => simp
      | true => simp [hP r (hp.trans _ _ _ hrp hpx)]
    | false =>
      have e : (p :: ps).filter (fun z => !o.leq z xv) = p :: ps.filter (fun z => !o.leq z xv) := by
        simp [hpx]
      rw [e]
      simp only [List.cons_append, specP]
      have hP' : ∀ r, o.leq r xv = true → (P r || o.leq r p) = true := by
        intro r hr; simp [hP r hr]
      rw [ih _ hP']
      have hall : ((ps.filter (fun z => !o.leq z xv)).all fun y => !o.leq p y || o.leq y p) =
          ps.all fun y => !o.leq p y || o.leq y p := by
        apply all_filter_irrel
        intro y _ hy
        simp only [Bool.not_eq_false'] at hy
        cases hpy : o.leq p y with
        | false => simp
        | true =>
          have := hp.trans _ _ _ hpy hy
          rw [hpx] at this; cases this
      rw [List.all_append, List.all_append, hall]

theorem scanY_of_incomp (xv : o.D) (l : List o.D) (h : ∀ y ∈ l, Incomp o y xv) :
    scanY o xv l = (l, false) := by
  induction l with
  | nil => rfl
  | cons y ys ih =>
    have hy := h y (List.mem_cons_self ..)
    have ih' := ih (fun z hz => h z (List.mem_cons_of_mem _ hz))
    simp [scanY, hy.1, hy.2, ih']

/-- the loop, under its invariant, computes `pre ++ specP P rest` for any `P` false on `rest` -/
theorem omegaLoop_eq_specP (hp : IsPreorder o) (fuel : Nat) (P : o.D → Bool) (pre rest : List o.D)
    (hI : LoopInv o pre rest) (hP : ∀ r ∈ rest, P r = false) (hf : rest.length ≤ fuel) :
    omegaLoop o false fuel pre rest = pre ++ specP o P rest := by
  induction fuel generalizing P pre rest with
  | zero =>
    have : rest = [] := List.length_eq_zero_iff.1 (Nat.le_zero.1 hf)
    subst this
    simp [omegaLoop, specP]
  | succ fuel ih =>
    cases rest with
    | nil => simp [omegaLoop, specP]
    | cons xv post =>
      obtain ⟨hpw, hpr⟩ := hI
      have hpx : ∀ a ∈ pre, Incomp o a xv := fun a ha => hpr a ha xv (List.mem_cons_self ..)
      rw [omegaLoop_succ_cons, scanY_of_incomp o xv pre hpx]
      simp only [Bool.false_eq_true, ↓reduceIte]
      have s2 := scanY_sublist o xv post
      have hl : post.length ≤ fuel := by simpa using hf
      have hl2 : (scanY o xv post).1.length ≤ fuel := Nat.le_trans s2.length_le hl
      have hPx : P xv = false := hP xv (List.mem_cons_self ..)
      cases h2 : (scanY o xv post).2 with
      | true =>
        simp only [↓reduceIte]
        obtain ⟨l1, y, l2, e, hyx, hxy, -, e2⟩ := scanY_true o xv post h2
        have hI' : LoopInv o pre (scanY o xv post).1 :=
          ⟨hpw, fun a ha b hb => hpr a ha b (List.mem_cons_of_mem _ (s2.subset hb))⟩
        have hP' : ∀ r ∈ (scanY o xv post).1, P r = false :=
          fun r hr => hP r (List.mem_cons_of_mem _ (s2.subset hr))
        rw [ih P pre _ hI' hP' hl2]
        congr 1
        -- the visited disjunct fails the test (strictly below the later `y`)
        have hfail : post.all (fun y => !o.leq xv y || o.leq y xv) = false := by
          rw [List.all_eq_false]
          exact ⟨y, by simp [e], by simp [hxy, hyx]⟩
        simp only [specP, hfail, Bool.and_false, Bool.false_eq_true, ↓reduceIte, List.nil_append]
        rw [e2, e]
        have hQ : ∀ r, o.leq r xv = true → (P r || o.leq r xv) = true := by
          intro r hr; simp [hr]
        rw [specP_filter_prefix o hp xv _ l1 (y :: l2) hQ]
        apply specP_congr_upto
        · intro r hr
          have := (List.mem_filter.1 hr).2
          simp only [Bool.not_eq_eq_eq_not, Bool.not_true] at this
          simp [this]
        · simp [hyx]
        · intro r _
          cases hrx : o.leq r xv with
          | false => simp
          | true => simp [hp.trans _ _ _ hrx hxy]
      | false =>
        simp only [Bool.false_eq_true, ↓reduceIte]
        obtain ⟨e2, f2⟩ := scanY_false o xv post h2
        have g2 : ∀ a ∈ (scanY o xv post).1, Incomp o xv a := by
          intro a ha
          refine ⟨f2 a ha, ?_⟩
          rw [e2] at ha
          simpa using (List.mem_filter.1 ha).2
        have hI' : LoopInv o (pre ++ [xv]) (scanY o xv post).1 := by
          refine ⟨?_, ?_⟩
          · rw [List.pairwise_append]
            refine ⟨hpw, by simp, ?_⟩
            intro a ha b hb
            rw [List.mem_singleton.1 hb]
            exact hpx a ha
          · intro a ha b hb
            rcases List.mem_append.1 ha with ha | ha
            · exact hpr a ha b (List.mem_cons_of_mem _ (s2.subset hb))
            · rw [List.mem_singleton.1 ha]
              exact g2 b hb
        have hP' : ∀ r ∈ (scanY o xv post).1, (P r || o.leq r xv) = false := by
          intro r hr
          rw [hP r (List.mem_cons_of_mem _ (s2.subset hr)), (g2 r hr).2]
          rfl
        rw [ih (fun r => P r || o.leq r xv) (pre ++ [xv]) _ hI' hP' hl2]
        -- the visited disjunct passes the test
        have hpass : post.all (fun y => !o.leq xv y || o.leq y xv) = true := by
          rw [List.all_eq_true]
          intro y hy
          cases hyx : o.leq y xv with
          | true => simp
          | false =>
            have : y ∈ (scanY o xv post).1 := by
              rw [e2]; exact List.mem_filter.2 ⟨hy, by simp [hyx]⟩
            simp [f2 y this]
        simp only [specP, hPx, hpass, Bool.not_false, Bool.and_self, ↓reduceIte, List.append_assoc]
        congr 2
        rw [e2]
        have hQ : ∀ r, o.leq r xv = true → (P r || o.leq r xv) = true := by
          intro r hr; simp [hr]
        simpa using (specP_filter_prefix o hp xv _ post [] hQ).symm

/-- for a preorder, `omega_reduce` keeps exactly the maximal disjuncts, the first of each
    class of mutually entailing ones, in the original order -/
theorem omegaLoop_eq_omegaSpec (hp : IsPreorder o) (s : List o.D) :
    omegaLoop o false s.length [] s = omegaSpec o [] s := by
  rw [omegaSpec_eq_specP]
  have := omegaLoop_eq_specP o hp s.length (fun r => ([] : List o.D).any (fun e => o.leq r e)) [] s
    ⟨List.Pairwise.nil, by simp⟩ (by simp) (Nat.le_refl _)
  simpa using this

/-- more fuel changes nothing -/
theorem omegaLoop_eq_omegaSpec_fuel (hp : IsPreorder o) (fuel : Nat) (s : List o.D)
    (hf : s.length ≤ fuel) : omegaLoop o false fuel [] s = omegaSpec o [] s := by
  rw [omegaSpec_eq_specP]
  have := omegaLoop_eq_specP o hp fuel (fun r => ([] : List o.D).any (fun e => o.leq r e)) [] s
    ⟨List.Pairwise.nil, by simp⟩ (by simp) hf
  simpa using this

theorem omegaReduce_eq_omegaSpec (hp : IsPreorder o) (x : PS o.D) (h : x.reduced = false) :
    (omegaReduce o false x).seq = omegaSpec o [] (x.seq.filter (fun y => !o.isBottom y)) := by
  rw [omegaReduce_of_not_reduced o x h]
  exact omegaLoop_eq_omegaSpec o hp _

/-! ### what `omegaSpec` means -/

theorem specP_mem (P : o.D → Bool) (l : List o.D) (a : o.D)
    (h : a ∈ specP o P l) :
    a ∈ l ∧ P a = false ∧ ∀ b ∈ l, o.leq a b = true → o.leq b a = true := by
  induction l generalizing P with
  | nil => simp [specP] at h
  | cons x post ih =>
    simp only [specP, List.mem_append] at h
    rcases h with h | h
    · split at h
      · rename_i hc
        simp only [List.mem_singleton] at h
        subst h
        simp only [Bool.and_eq_true, Bool.not_eq_eq_eq_not, Bool.not_true, List.all_eq_true,
          Bool.or_eq_true] at hc
        refine ⟨List.mem_cons_self .., hc.1, ?_⟩
        intro b hb hab
        rcases List.mem_cons.1 hb with rfl | hb
        · exact hab
        · rcases hc.2 b hb with h' | h'
          · rw [hab] at h'; cases h'
          · exact h'
      · cases h
    · obtain ⟨h1, h2, h3⟩ := ih _ h
      simp only [Bool.or_eq_false_iff] at h2
      refine ⟨List.mem_cons_of_mem _ h1, h2.1, ?_⟩
      intro b hb hab
      rcases List.mem_cons.1 hb with rfl | hb
      · rw [h2.2] at hab; cases hab
      · exact h3 b hb hab

/-- every disjunct kept by the specification is a maximal disjunct of the sequence -/
theorem omegaSpec_mem_maximal (s : List o.D) (a : o.D)
    (h : a ∈ omegaSpec o [] s) : a ∈ s ∧ ∀ b ∈ s, o.leq a b = true → o.leq b a = true := by
  rw [omegaSpec_eq_specP] at h
  have := specP_mem o _ s a h
  exact ⟨this.1, this.2.2⟩

/-- two mutually entailing non-bottom disjuncts: the first one is kept -/
theorem omegaReduce_first_of_equals_two (hp : IsPreorder o) (a b : o.D)
    (hab : o.leq a b = true) (hba : o.leq b a = true)
    (ha : o.isBottom a = false) (hb : o.isBottom b = false) :
    (omegaReduce o false ⟨[a, b], false⟩).seq = [a] := by
  rw [omegaReduce_eq_omegaSpec o hp _ rfl]
  simp [omegaSpec, ha, hb, hab, hba]

/-- `[a, c, b]` with `a`, `b` mutually entailing and `c` incomparable to both: `b` is erased -/
theorem omegaReduce_first_of_equals_three (hp : IsPreorder o) (a b c : o.D)
    (hab : o.leq a b = true) (hba : o.leq b a = true)
    (hac : Incomp o a c) (hbc : Incomp o b c)
    (ha : o.isBottom a = false) (hb : o.isBottom b = false) (hc : o.isBottom c = false) :
    (omegaReduce o false ⟨[a, c, b], false⟩).seq = [a, c] := by
  rw [omegaReduce_eq_omegaSpec o hp _ rfl]
  simp [omegaSpec, ha, hb, hc, hab, hba, hac.1, hac.2, hbc.1, hbc.2]

end PPLV.Powerset.Exact

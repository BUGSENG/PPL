import PPLV.Powerset.ExactOmega
import PPLV.Powerset.ProofsReduce

/-!
# C09 — the raw-operation model `PPLV.Powerset.Exact.*` refines `PPLV.Powerset.*`

For a K5 domain `d : Dom` (resp. `d : PolyDom` and an arbitrary `isTop : d.D → Bool`) every function
of `Exact.lean` instantiated at `d.ops` (resp. `d.ops isTop`) computes what the function of the
same name of `Model.lean` computes (`*_refines`; powersets are compared through `toOld`, which
copies the two fields).  The second half transfers the union-level theorems of
`Proofs{Union,Ops,Partition,Reduce}.lean` to the functions of `Exact.lean` (`*'`) and proves the
union facts of those that `Model.lean` does not have (`mapSpaceDimensions`, `psDiffVia`,
`isUniverse`, `queryReduces`, `isOmegaReduced`).

The two files hold the same code, and the projections of `d.ops` reduce to the fields of `d`, so a
function that does not move a powerset through `toOld` is definitionally equal to its namesake.
`toOld` does not commute with a conditional by computation; the functions that start with
`omega_reduce` are rewritten with `omegaReduce_refines` first, and a conditional on the reduced
operand is split.
-/
namespace PPLV.Powerset.Exact
open PPLV

section Generic
variable (d : Dom)

theorem ops_D : d.ops.D = d.D := rfl
theorem ops_leq : d.ops.leq = d.leq := rfl
theorem ops_isBottom : d.ops.isBottom = d.isBottom := rfl
theorem ops_join : d.ops.join = d.join := rfl
theorem ops_meet : d.ops.meet = d.meet := rfl
theorem ops_eqv : d.ops.eqv = d.eqv := rfl

/-- a powerset of `Exact.lean` read as one of `Model.lean` (same fields) -/
def toOld (x : PS d.D) : Powerset.PS d := ⟨x.seq, x.reduced⟩

@[simp] theorem toOld_seq (x : PS d.D) : (toOld d x).seq = x.seq := rfl
@[simp] theorem toOld_reduced (x : PS d.D) : (toOld d x).reduced = x.reduced := rfl
@[simp] theorem toOld_mk (s : List d.D) (r : Bool) : toOld d ⟨s, r⟩ = ⟨s, r⟩ := rfl

theorem toOld_inj (x y : PS d.D) (h : toOld d x = toOld d y) : x = y :=
  congrArg (fun z : Powerset.PS d => (⟨z.seq, z.reduced⟩ : PS d.D)) h

section
-- Two different recursive functions applied to variables are only seen to be equal by comparing
-- their compiled recursions, and smart unfolding keeps a recursive call on a variable folded.
set_option smartUnfolding false

theorem collapseAt_refines (pre : List d.D) (x : d.D) (post : List d.D) :
    collapseAt d.ops pre x post = Powerset.collapseAt d pre x post := rfl

theorem scanY_refines (xv : d.D) (ys : List d.D) : scanY d.ops xv ys = Powerset.scanY d xv ys := rfl

theorem hurryOr_refines (abandon : Bool) (pre rest k : List d.D) :
    hurryOr d.ops abandon pre rest k = Powerset.hurryOr d abandon pre rest k := rfl

theorem omegaLoop_refines (abandon : Bool) (fuel : Nat) (pre rest : List d.D) :
    omegaLoop d.ops abandon fuel pre rest = Powerset.omegaLoop d abandon fuel pre rest := rfl

theorem omegaReduce_refines (abandon : Bool) (x : PS d.D) :
    toOld d (omegaReduce d.ops abandon x) = Powerset.omegaReduce d abandon (toOld d x) := by
  obtain ⟨s, _ | _⟩ := x
  · rfl
  · rfl

theorem omegaReduce_refines_seq (abandon : Bool) (x : PS d.D) :
    (omegaReduce d.ops abandon x).seq = (Powerset.omegaReduce d abandon (toOld d x)).seq :=
  congrArg Powerset.PS.seq (omegaReduce_refines d abandon x)

theorem omegaReduce_refines_reduced (abandon : Bool) (x : PS d.D) :
    (omegaReduce d.ops abandon x).reduced = (Powerset.omegaReduce d abandon (toOld d x)).reduced :=
  congrArg Powerset.PS.reduced (omegaReduce_refines d abandon x)

theorem collapse_refines (x : PS d.D) : toOld d (collapse d.ops x) = Powerset.collapse d (toOld d x) := by
  obtain ⟨_ | _, r⟩ := x
  · rfl
  · rfl

theorem collapseMax_refines (abandon : Bool) (maxD : Nat) (x : PS d.D) :
    toOld d (collapseMax d.ops abandon maxD x) = Powerset.collapseMax d abandon maxD (toOld d x) := by
  unfold collapseMax Powerset.collapseMax
  simp only [← omegaReduce_refines]
  obtain ⟨x1, hx1⟩ : ∃ x1 : PS d.D, omegaReduce d.ops abandon x = x1 := ⟨_, rfl⟩
  simp only [hx1, toOld_seq, ops_D]
  by_cases hc : x1.seq.length > maxD
  · rw [if_pos hc, if_pos hc]
    cases List.drop (maxD - 1) x1.seq
    · rfl
    · rfl
  · rw [if_neg hc, if_neg hc]

theorem addScan_refines (x : d.D) (rng : List d.D) : addScan d.ops x rng = Powerset.addScan d x rng := rfl

theorem addNB_refines (x : d.D) (pre rng : List d.D) :
    addNB d.ops x pre rng = Powerset.addNB d x pre rng := rfl

theorem addNBwhole_refines (x : d.D) (s : List d.D) :
    addNBwhole d.ops x s = Powerset.addNBwhole d x s := rfl

theorem addDisjunct_refines (x : PS d.D) (y : d.D) :
    toOld d (addDisjunct d.ops x y) = Powerset.addDisjunct d (toOld d x) y := rfl

theorem foldl_addNB_refines (ys pre rng : List d.D) :
    ys.foldl (fun (st : List d.ops.D × List d.ops.D) yi => addNB d.ops yi st.1 st.2) (pre, rng) =
      ys.foldl (fun (st : List d.D × List d.D) yi => Powerset.addNB d yi st.1 st.2) (pre, rng) := rfl

theorem lub_refines_fst (abandon : Bool) (x y : PS d.D) :
    toOld d (lub d.ops abandon x y).1 = (Powerset.lub d abandon (toOld d x) (toOld d y)).1 := by
  unfold Powerset.lub
  simp only [← omegaReduce_refines]
  rfl

theorem lub_refines_snd (abandon : Bool) (x y : PS d.D) :
    toOld d (lub d.ops abandon x y).2 = (Powerset.lub d abandon (toOld d x) (toOld d y)).2 :=
  omegaReduce_refines d abandon y

/-- both results of `least_upper_bound_assign`, sequence and flag -/
theorem lub_refines (abandon : Bool) (x y : PS d.D) :
    ((lub d.ops abandon x y).1.seq = (Powerset.lub d abandon (toOld d x) (toOld d y)).1.seq ∧
     (lub d.ops abandon x y).1.reduced = (Powerset.lub d abandon (toOld d x) (toOld d y)).1.reduced) ∧
    ((lub d.ops abandon x y).2.seq = (Powerset.lub d abandon (toOld d x) (toOld d y)).2.seq ∧
     (lub d.ops abandon x y).2.reduced = (Powerset.lub d abandon (toOld d x) (toOld d y)).2.reduced) :=
  ⟨⟨congrArg Powerset.PS.seq (lub_refines_fst d abandon x y),
    congrArg Powerset.PS.reduced (lub_refines_fst d abandon x y)⟩,
   ⟨congrArg Powerset.PS.seq (lub_refines_snd d abandon x y),
    congrArg Powerset.PS.reduced (lub_refines_snd d abandon x y)⟩⟩

theorem pairwiseApply_refines_fst (abandon : Bool) (op : d.D → d.D → d.D) (x y : PS d.D) :
    toOld d (pairwiseApply d.ops abandon op x y).1 =
      (Powerset.pairwiseApply d abandon op (toOld d x) (toOld d y)).1 := by
  unfold Powerset.pairwiseApply
  simp only [← omegaReduce_refines]
  rfl

theorem pairwiseApply_refines_snd (abandon : Bool) (op : d.D → d.D → d.D) (x y : PS d.D) :
    toOld d (pairwiseApply d.ops abandon op x y).2 =
      (Powerset.pairwiseApply d abandon op (toOld d x) (toOld d y)).2 :=
  omegaReduce_refines d abandon y

theorem pairwiseApply_refines (abandon : Bool) (op : d.D → d.D → d.D) (x y : PS d.D) :
    toOld d (pairwiseApply d.ops abandon op x y).1 =
        (Powerset.pairwiseApply d abandon op (toOld d x) (toOld d y)).1 ∧
    toOld d (pairwiseApply d.ops abandon op x y).2 =
        (Powerset.pairwiseApply d abandon op (toOld d x) (toOld d y)).2 :=
  ⟨pairwiseApply_refines_fst d abandon op x y, pairwiseApply_refines_snd d abandon op x y⟩

theorem meetAssign_refines (abandon : Bool) (x y : PS d.D) :
    toOld d (meetAssign d.ops abandon x y).1 = (Powerset.meetAssign d abandon (toOld d x) (toOld d y)).1 ∧
    toOld d (meetAssign d.ops abandon x y).2 = (Powerset.meetAssign d abandon (toOld d x) (toOld d y)).2 :=
  pairwiseApply_refines d abandon d.meet x y

theorem definitelyEntails_inner_refines (xi : d.D) (ys : List d.D) :
    definitelyEntails.inner d.ops xi ys = Powerset.definitelyEntails.inner d xi ys := rfl

theorem definitelyEntails_outer_refines (y xs : List d.D) :
    definitelyEntails.outer d.ops y xs = Powerset.definitelyEntails.outer d y xs := rfl

theorem definitelyEntails_refines (x y : List d.D) :
    definitelyEntails d.ops x y = Powerset.definitelyEntails d x y := rfl

theorem eraseFirst_refines (xi : d.D) (z : List d.D) :
    eraseFirst d.ops xi z = Powerset.eraseFirst d xi z := rfl

theorem eqGo_refines (xs z : List d.D) : eqGo d.ops xs z = Powerset.eq.go d xs z := rfl

/-- the answer of `operator==` is that of `Powerset.eq`; the two other components are the reduced
    operands -/
theorem eq_refines (abandon : Bool) (x y : PS d.D) :
    (eq d.ops abandon x y).1 = Powerset.eq d abandon (toOld d x) (toOld d y) := by
  unfold Powerset.eq
  simp only [← omegaReduce_refines]
  rfl

theorem eq_refines_snd (abandon : Bool) (x y : PS d.D) :
    (eq d.ops abandon x y).2 = (omegaReduce d.ops abandon x, omegaReduce d.ops abandon y) := rfl

theorem isBottom_refines (abandon : Bool) (x : PS d.D) :
    (isBottom d.ops abandon x).1 = Powerset.isBottom d abandon (toOld d x) :=
  congrArg List.isEmpty (omegaReduce_refines_seq d abandon x)

theorem isBottom_refines_snd (abandon : Bool) (x : PS d.D) :
    (isBottom d.ops abandon x).2 = omegaReduce d.ops abandon x := rfl

theorem mapSetFlag_refines (f : d.D → d.D) (x : PS d.D) :
    toOld d (mapSetFlag d.ops f x) = Powerset.mapDisjuncts d f (toOld d x) := rfl

theorem mapLoopFlag_seq (f : d.D → d.D) (x : PS d.D) :
    (mapLoopFlag d.ops f x).seq = (Powerset.mapDisjuncts d f (toOld d x)).seq := rfl

theorem mapKeepFlag_seq (f : d.D → d.D) (x : PS d.D) :
    (mapKeepFlag d.ops f x).seq = (Powerset.mapDisjuncts d f (toOld d x)).seq := rfl

end

/-! ### transfer: the union-level theorems of `Model.lean` hold for the functions of `Exact.lean` -/

theorem omegaReduce_U' (x : PS d.D) (p : Pt) : d.U (omegaReduce d.ops false x).seq p ↔ d.U x.seq p := by
  have h := Powerset.omegaReduce_U d (toOld d x) p
  rwa [← omegaReduce_refines_seq] at h

theorem omegaReduce_ge' (abandon : Bool) (x : PS d.D) (p : Pt) :
    d.U x.seq p → d.U (omegaReduce d.ops abandon x).seq p := by
  have h := Powerset.omegaReduce_ge d abandon (toOld d x) p
  rwa [← omegaReduce_refines_seq] at h

theorem omegaReduce_length' (x : PS d.D) : (omegaReduce d.ops false x).seq.length ≤ x.seq.length := by
  have h := Powerset.omegaReduce_length d (toOld d x)
  rwa [← omegaReduce_refines_seq] at h

theorem collapse_ge' (x : PS d.D) (p : Pt) : d.U x.seq p → d.U (collapse d.ops x).seq p := by
  have h := Powerset.collapse_ge d (toOld d x) p
  rwa [← collapse_refines] at h

theorem collapseMax_ge' (abandon : Bool) (maxD : Nat) (x : PS d.D) (p : Pt) :
    d.U x.seq p → d.U (collapseMax d.ops abandon maxD x).seq p := by
  have h := Powerset.collapseMax_ge d abandon maxD (toOld d x) p
  rwa [← collapseMax_refines] at h

theorem collapseMax_length' (maxD : Nat) (hm : 0 < maxD) (x : PS d.D) :
    (collapseMax d.ops false maxD x).seq.length ≤ maxD := by
  have h := Powerset.collapseMax_length d maxD hm (toOld d x)
  rwa [← collapseMax_refines] at h

theorem addNB_U' (x : d.D) (pre rng : List d.D) (p : Pt) :
    d.U ((addNB d.ops x pre rng).1 ++ (addNB d.ops x pre rng).2) p ↔ (d.U (pre ++ rng) p ∨ d.γ x p) := by
  rw [addNB_refines]
  exact Powerset.addNB_U d x pre rng p

theorem addNBwhole_U' (x : d.D) (s : List d.D) (p : Pt) :
    d.U (addNBwhole d.ops x s) p ↔ (d.U s p ∨ d.γ x p) := by
  rw [addNBwhole_refines]
  exact Powerset.addNBwhole_U d x s p

theorem addDisjunct_U' (x : PS d.D) (y : d.D) (p : Pt) :
    d.U (addDisjunct d.ops x y).seq p ↔ (d.U x.seq p ∨ d.γ y p) :=
  Powerset.addDisjunct_U d (toOld d x) y p

theorem lub_U' (x y : PS d.D) (p : Pt) :
    d.U (lub d.ops false x y).1.seq p ↔ (d.U x.seq p ∨ d.U y.seq p) := by
  have h := Powerset.lub_U d (toOld d x) (toOld d y) p
  rwa [← lub_refines_fst] at h

theorem lub_arg_U' (x y : PS d.D) (p : Pt) : d.U (lub d.ops false x y).2.seq p ↔ d.U y.seq p := by
  have h := Powerset.lub_arg_U d (toOld d x) (toOld d y) p
  rwa [← lub_refines_snd] at h

theorem lub_ge' (abandon : Bool) (x y : PS d.D) (p : Pt) :
    (d.U x.seq p ∨ d.U y.seq p) → d.U (lub d.ops abandon x y).1.seq p := by
  have h := Powerset.lub_ge d abandon (toOld d x) (toOld d y) p
  rwa [← lub_refines_fst] at h

theorem pairwiseApply_exact_U' (op : d.D → d.D → d.D)
    (hop : ∀ a b p, d.γ (op a b) p ↔ (d.γ a p ∧ d.γ b p)) (x y : PS d.D) (p : Pt) :
    d.U (pairwiseApply d.ops false op x y).1.seq p ↔ (d.U x.seq p ∧ d.U y.seq p) := by
  have h := Powerset.pairwiseApply_exact_U d op hop (toOld d x) (toOld d y) p
  rwa [← pairwiseApply_refines_fst] at h

theorem meetAssign_ge' (abandon : Bool) (x y : PS d.D) (p : Pt) :
    (d.U x.seq p ∧ d.U y.seq p) → d.U (meetAssign d.ops abandon x y).1.seq p := by
  have h := Powerset.meetAssign_ge d abandon (toOld d x) (toOld d y) p
  rwa [← (meetAssign_refines d abandon x y).1] at h

theorem definitelyEntails_sound' (xs ys : List d.D) (h : definitelyEntails d.ops xs ys = true) (p : Pt) :
    d.U xs p → d.U ys p := by
  rw [definitelyEntails_refines] at h
  exact Powerset.definitelyEntails_sound d xs ys h p

theorem eq_sound' (x y : PS d.D) (h : (eq d.ops false x y).1 = true) (p : Pt) :
    d.U x.seq p ↔ d.U y.seq p := by
  rw [eq_refines] at h
  exact Powerset.eq_sound d (toOld d x) (toOld d y) h p

/-- the three flag families have the sequence of `Powerset.mapDisjuncts`: its theorems apply -/
theorem mapSetFlag_exact (f : d.D → d.D) (R : Pt → Pt → Prop)
    (hf : ∀ a q, d.γ (f a) q ↔ ∃ p, d.γ a p ∧ R p q) (x : PS d.D) (q : Pt) :
    d.U (mapSetFlag d.ops f x).seq q ↔ ∃ p, d.U x.seq p ∧ R p q :=
  Powerset.mapDisjuncts_exact d f R hf (toOld d x) q

theorem mapLoopFlag_exact (f : d.D → d.D) (R : Pt → Pt → Prop)
    (hf : ∀ a q, d.γ (f a) q ↔ ∃ p, d.γ a p ∧ R p q) (x : PS d.D) (q : Pt) :
    d.U (mapLoopFlag d.ops f x).seq q ↔ ∃ p, d.U x.seq p ∧ R p q :=
  Powerset.mapDisjuncts_exact d f R hf (toOld d x) q

theorem mapKeepFlag_exact (f : d.D → d.D) (R : Pt → Pt → Prop)
    (hf : ∀ a q, d.γ (f a) q ↔ ∃ p, d.γ a p ∧ R p q) (x : PS d.D) (q : Pt) :
    d.U (mapKeepFlag d.ops f x).seq q ↔ ∃ p, d.U x.seq p ∧ R p q :=
  Powerset.mapDisjuncts_exact d f R hf (toOld d x) q

/-- `map_space_dimensions` (not in `Model.lean`) reduces first; on the empty sequence the early
    return and the image agree -/
theorem mapSpaceDimensions_seq (o : Ops) (abandon : Bool) (f : o.D → o.D) (x : PS o.D) :
    (mapSpaceDimensions o abandon f x).seq = (omegaReduce o abandon x).seq.map f := by
  simp only [mapSpaceDimensions]
  by_cases he : (omegaReduce o abandon x).seq.isEmpty = true
  · rw [if_pos he, List.isEmpty_iff.mp he]
    rfl
  · rw [if_neg he]

theorem mapSpaceDimensions_exact (f : d.D → d.D) (R : Pt → Pt → Prop)
    (hf : ∀ a q, d.γ (f a) q ↔ ∃ p, d.γ a p ∧ R p q) (x : PS d.D) (q : Pt) :
    d.U (mapSpaceDimensions d.ops false f x).seq q ↔ ∃ p, d.U x.seq p ∧ R p q := by
  rw [mapSpaceDimensions_seq d.ops false f x]
  exact (Powerset.mapDisjuncts_exact d f R hf (toOld d (omegaReduce d.ops false x)) q).trans
    (exists_congr fun p => and_congr_left' (omegaReduce_U' d x p))

theorem mapSpaceDimensions_sound (abandon : Bool) (f : d.D → d.D) (R : Pt → Pt → Prop)
    (hf : ∀ a p q, d.γ a p → R p q → d.γ (f a) q) (x : PS d.D) (q : Pt) :
    (∃ p, d.U x.seq p ∧ R p q) → d.U (mapSpaceDimensions d.ops abandon f x).seq q := by
  rintro ⟨p, hp, hr⟩
  rw [mapSpaceDimensions_seq d.ops abandon f x]
  exact Powerset.mapDisjuncts_sound d f R hf (toOld d (omegaReduce d.ops abandon x)) q
    ⟨p, omegaReduce_ge' d abandon x p hp, hr⟩

theorem queryReduces_U (x : PS d.D) (p : Pt) : d.U (queryReduces d.ops x).seq p ↔ d.U x.seq p :=
  omegaReduce_U' d x p

theorem isBottom_sound' (x : PS d.D) (h : (isBottom d.ops false x).1 = true) (p : Pt) : ¬ d.U x.seq p := by
  rw [← omegaReduce_U' d x p]
  have : (omegaReduce d.ops false x).seq = [] := List.isEmpty_iff.mp h
  rw [this]
  rintro ⟨a, ha, _⟩
  cases ha

end Generic

theorem isOmegaReduced_snd (o : Ops) (x : PS o.D) :
    (isOmegaReduced o x).2 = (isOmegaReduced o x).1.reduced := by
  unfold isOmegaReduced
  split <;> rfl

/-- `is_universe()` answers `true` only if some disjunct is flagged universe by the base level -/
theorem isUniverse_true_mem (o : PolyOps) (x : PS o.D) (h : (isUniverse o x).1 = true) :
    ∃ a ∈ x.seq, o.isTop a = true := by
  unfold isUniverse at h
  have hs := isOmegaReduced_seq o.toOps x
  simp only at h
  split at h
  · simp only at h
    rw [hs] at h
    split at h
    · rename_i a ha
      exact ⟨a, by rw [ha]; simp, h⟩
    · exact absurd h (by simp)
  · split at h
    · rename_i ha
      obtain ⟨a, ha, hb⟩ := List.any_eq_true.mp ha
      exact ⟨a, ha, hb⟩
    · exact absurd h (by simp)

/-- the representation `is_universe()` leaves: the same sequence, or the single universe when a
    disjunct is flagged universe -/
theorem isUniverse_snd_seq (o : PolyOps) (x : PS o.D) :
    (isUniverse o x).2.seq = x.seq ∨
      ((isUniverse o x).2.seq = [o.top] ∧ ∃ a ∈ x.seq, o.isTop a = true) := by
  unfold isUniverse
  have hs := isOmegaReduced_seq o.toOps x
  simp only
  split
  · exact Or.inl hs
  · split
    · rename_i ha
      split
      · obtain ⟨a, ha, hb⟩ := List.any_eq_true.mp ha
        exact Or.inr ⟨rfl, a, ha, hb⟩
      · exact Or.inl rfl
    · exact Or.inl rfl

section Poly
variable (d : PolyDom) (isTop : d.D → Bool)

theorem pops_toOps : (d.ops isTop).toOps = d.toDom.ops := rfl
theorem pops_contains : (d.ops isTop).contains = d.contains := rfl
theorem pops_disjoint : (d.ops isTop).disjoint = d.disjoint := rfl
theorem pops_top : (d.ops isTop).top = d.top := rfl
theorem pops_isTop : (d.ops isTop).isTop = isTop := rfl
theorem pops_cons : (d.ops isTop).cons = d.cons := rfl
theorem pops_addCon : (d.ops isTop).addCon = d.addCon := rfl
theorem pops_ubIfExact : (d.ops isTop).ubIfExact = d.ubIfExact := rfl
theorem pops_simplify : (d.ops isTop).simplify = d.simplify := rfl

section
set_option smartUnfolding false

theorem linearPartitionAux_refines (c : LCon) (st : d.D × List d.D) :
    linearPartitionAux (d.ops isTop) c st = Powerset.linearPartitionAux d c st := rfl

theorem linearPartition_refines (p q : d.D) :
    linearPartition (d.ops isTop) p q = Powerset.linearPartition d p q := rfl

theorem psDiff_refines (abandon : Bool) (x y : PS d.D) :
    toOld d.toDom (psDiff (d.ops isTop) abandon x y).1 =
      Powerset.psDiff d abandon (toOld d.toDom x) (toOld d.toDom y) := by
  unfold Powerset.psDiff
  simp only [← omegaReduce_refines]
  rfl

theorem psDiff_refines_snd (abandon : Bool) (x y : PS d.D) :
    (psDiff (d.ops isTop) abandon x y).2 = omegaReduce d.toDom.ops abandon y := rfl

theorem markFirstExact_refines (pi : d.D) (r : List (d.D × Bool)) :
    markFirstExact (d.ops isTop) pi r = Powerset.markFirstExact d pi r := rfl

theorem mergeRound_refines (f : Nat) (xs : List (d.D × Bool)) (un nx : List d.D) (k : Nat) :
    mergeRound (d.ops isTop) f xs un nx k = Powerset.mergeRound d f xs un nx k := rfl

theorem pairwiseRound_refines (s : List d.D) :
    pairwiseRound (d.ops isTop) s = Powerset.pairwiseRound d s := rfl

theorem pairwiseLoop_refines (f : Nat) (s : List d.D) :
    pairwiseLoop (d.ops isTop) f s = Powerset.pairwiseLoop d f s := rfl

theorem pairwiseReduce_refines (abandon : Bool) (x : PS d.D) :
    toOld d.toDom (pairwiseReduce (d.ops isTop) abandon x) =
      Powerset.pairwiseReduce d abandon (toOld d.toDom x) := by
  unfold Powerset.pairwiseReduce
  simp only [← omegaReduce_refines]
  rfl

theorem enlargeElementWith_refines (simp : d.D → d.D → d.D × Bool) (ctx : List d.D) (dest : d.D) :
    enlargeElementWith (d.ops isTop) simp ctx dest = Powerset.enlargeElementWith d simp ctx dest := rfl

theorem enlargeElement_refines (ctx : List d.D) (dest : d.D) :
    enlargeElement (d.ops isTop) ctx dest = Powerset.enlargeElement d ctx dest := rfl

theorem simplifyCtx_refines (abandon : Bool) (x y : PS d.D) :
    toOld d.toDom (simplifyCtx (d.ops isTop) abandon x y).1 =
        (Powerset.simplifyCtx d abandon (toOld d.toDom x) (toOld d.toDom y)).1 ∧
    toOld d.toDom (simplifyCtx (d.ops isTop) abandon x y).2.1 =
        (Powerset.simplifyCtx d abandon (toOld d.toDom x) (toOld d.toDom y)).2.1 ∧
    (simplifyCtx (d.ops isTop) abandon x y).2.2 =
        (Powerset.simplifyCtx d abandon (toOld d.toDom x) (toOld d.toDom y)).2.2 := by
  unfold simplifyCtx Powerset.simplifyCtx
  simp only [← omegaReduce_refines, pops_toOps, ops_D, ops_isBottom]
  obtain ⟨x1, hx1⟩ : ∃ x1 : PS d.D, omegaReduce d.toDom.ops abandon x = x1 := ⟨_, rfl⟩
  obtain ⟨y1, hy1⟩ : ∃ y1 : PS d.D, omegaReduce d.toDom.ops abandon y = y1 := ⟨_, rfl⟩
  simp only [hx1, hy1, toOld_seq]
  by_cases h1 : x1.seq.all d.isBottom = true
  · rw [if_pos h1, if_pos h1]
    exact ⟨rfl, rfl, rfl⟩
  · rw [if_neg h1, if_neg h1]
    by_cases h2 : y1.seq.all d.isBottom = true
    · rw [if_pos h2, if_pos h2]
      exact ⟨rfl, rfl, rfl⟩
    · rw [if_neg h2, if_neg h2]
      exact ⟨rfl, rfl, rfl⟩

end

/-! ### transfer (polyhedral level) -/

theorem linearPartition_spec' (p q : d.D) :
    Powerset.PartInv d q (d.γ p) (linearPartition (d.ops isTop) p q) := by
  rw [linearPartition_refines]
  exact Powerset.linearPartition_spec d p q

theorem linearPartition_diff' (p q : d.D) (x : Pt) :
    d.U (linearPartition (d.ops isTop) p q).2 x ↔ (d.γ q x ∧ ¬ d.γ p x) := by
  rw [linearPartition_refines]
  exact Powerset.linearPartition_diff d p q x

theorem psDiff_U' (x y : PS d.D) (p : Pt) :
    d.U (psDiff (d.ops isTop) false x y).1.seq p ↔ (d.U x.seq p ∧ ¬ d.U y.seq p) := by
  have h := Powerset.psDiff_U d (toOld d.toDom x) (toOld d.toDom y) p
  rwa [← psDiff_refines d isTop] at h

theorem psDiff_arg_U' (x y : PS d.D) (p : Pt) :
    d.U (psDiff (d.ops isTop) false x y).2.seq p ↔ d.U y.seq p :=
  omegaReduce_U' d.toDom y p

/-- the generic `difference_assign` through NNC copies: with a conversion back that only enlarges
    (`C_Polyhedron`: the topological closure) the result contains the exact difference -/
theorem psDiffVia_U (back : d.D → d.D) (hb : ∀ a p, d.γ a p → d.γ (back a) p) (x y : PS d.D) (p : Pt) :
    (d.U x.seq p ∧ ¬ d.U y.seq p) → d.U (psDiffVia (d.ops isTop) back x y).1.seq p := by
  intro h
  obtain ⟨a, ha, hp⟩ := (psDiff_U' d isTop x y p).mpr h
  exact ⟨back a, List.mem_map.mpr ⟨a, ha, rfl⟩, hb a p hp⟩

/-- … and it is the exact difference when the conversion back is exact -/
theorem psDiffVia_U_exact (back : d.D → d.D) (hb : ∀ a p, d.γ (back a) p ↔ d.γ a p) (x y : PS d.D) (p : Pt) :
    d.U (psDiffVia (d.ops isTop) back x y).1.seq p ↔ (d.U x.seq p ∧ ¬ d.U y.seq p) := by
  rw [← psDiff_U' d isTop x y p]
  constructor
  · rintro ⟨b, hb', hp⟩
    obtain ⟨a, ha, rfl⟩ := List.mem_map.mp hb'
    exact ⟨a, ha, (hb a p).mp hp⟩
  · rintro ⟨a, ha, hp⟩
    exact ⟨back a, List.mem_map.mpr ⟨a, ha, rfl⟩, (hb a p).mpr hp⟩

theorem psDiffVia_arg (back : d.D → d.D) (x y : PS d.D) : (psDiffVia (d.ops isTop) back x y).2 = y := rfl

/-- `is_universe()`: the answer `true` is right when the base-level `is_universe` is sound -/
theorem isUniverse_sound (hTop : ∀ a, isTop a = true → ∀ p, d.γ a p) (x : PS d.D)
    (h : (isUniverse (d.ops isTop) x).1 = true) (p : Pt) : d.U x.seq p := by
  obtain ⟨a, ha, hb⟩ := isUniverse_true_mem (d.ops isTop) x h
  exact ⟨a, ha, hTop a hb p⟩

/-- … and the representation it leaves has the same union -/
theorem isUniverse_U (hTop : ∀ a, isTop a = true → ∀ p, d.γ a p) (x : PS d.D) (p : Pt) :
    d.U (isUniverse (d.ops isTop) x).2.seq p ↔ d.U x.seq p := by
  rcases isUniverse_snd_seq (d.ops isTop) x with h | ⟨h, a, ha, hb⟩
  · rw [h]
  · rw [h]
    constructor
    · exact fun _ => ⟨a, ha, hTop a hb p⟩
    · exact fun _ => ⟨d.top, List.mem_singleton.mpr rfl, d.top_spec p⟩

theorem pairwiseReduce_U' (x : PS d.D) (p : Pt) :
    d.U (pairwiseReduce (d.ops isTop) false x).seq p ↔ d.U x.seq p := by
  have h := Powerset.pairwiseReduce_U d (toOld d.toDom x) p
  rwa [← pairwiseReduce_refines d isTop] at h

theorem simplifyCtx_meet' (x y : PS d.D) (p : Pt) :
    (d.U (simplifyCtx (d.ops isTop) false x y).1.seq p ∧ d.U y.seq p) ↔ (d.U x.seq p ∧ d.U y.seq p) := by
  have h := Powerset.simplifyCtx_meet d (toOld d.toDom x) (toOld d.toDom y) p
  rwa [← (simplifyCtx_refines d isTop false x y).1] at h

theorem simplifyCtx_false' (x y : PS d.D) (h : (simplifyCtx (d.ops isTop) false x y).2.2 = false) (p : Pt) :
    ¬ (d.U x.seq p ∧ d.U y.seq p) := by
  rw [(simplifyCtx_refines d isTop false x y).2.2] at h
  exact Powerset.simplifyCtx_false d (toOld d.toDom x) (toOld d.toDom y) h p

end Poly

end PPLV.Powerset.Exact

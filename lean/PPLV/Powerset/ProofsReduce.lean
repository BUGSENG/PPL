import PPLV.Powerset.ProofsCover

/-!
# C09 — `pairwise_reduce` keeps the union; `simplify_using_context_assign` keeps the meet with the
context and never adds disjuncts
-/
namespace PPLV.Powerset
open PPLV

variable (d : PolyDom)

/-! ### `pairwise_reduce` -/

/-- the unmarked disjuncts of a marked sequence -/
def unm (l : List (d.D × Bool)) : List d.D := (l.filter fun e => !e.2).map (·.1)

@[simp] theorem unm_nil : unm d [] = [] := rfl
@[simp] theorem unm_cons_true (x : d.D) (l : List (d.D × Bool)) : unm d ((x, true) :: l) = unm d l := by
  simp [unm]
@[simp] theorem unm_cons_false (x : d.D) (l : List (d.D × Bool)) : unm d ((x, false) :: l) = x :: unm d l := by
  simp [unm]

theorem unm_map_false (s : List d.D) : unm d (s.map fun x => (x, false)) = s := by
  induction s with
  | nil => rfl
  | cons x s ih => simp [ih]

theorem markFirstExact_U (pi : d.D) (r : List (d.D × Bool)) (u : d.D) (r' : List (d.D × Bool))
    (h : markFirstExact d pi r = some (u, r')) (p : Pt) :
    (d.γ u p ∨ d.U (unm d r') p) ↔ (d.γ pi p ∨ d.U (unm d r) p) := by
  induction r generalizing r' with
  | nil => simp [markFirstExact] at h
  | cons e r ih =>
    obtain ⟨pj, m⟩ := e
    cases m with
    | true =>
      simp only [markFirstExact, Option.map_eq_some_iff] at h
      obtain ⟨w, hw, heq⟩ := h
      obtain ⟨rfl, rfl⟩ := Prod.mk.inj heq
      simp only [unm_cons_true]
      exact ih w.2 hw
    | false =>
      simp only [markFirstExact] at h
      cases hub : d.ubIfExact pi pj with
      | some v =>
        simp only [hub, Option.some.injEq] at h
        obtain ⟨rfl, rfl⟩ := Prod.mk.inj h
        have := d.ubIfExact_spec pi pj v hub p
        simp only [unm_cons_true, unm_cons_false, U_cons, this]
        simp only [or_comm, or_left_comm]
      | none =>
        simp only [hub, Option.map_eq_some_iff] at h
        obtain ⟨w, hw, heq⟩ := h
        obtain ⟨rfl, rfl⟩ := Prod.mk.inj heq
        have := ih w.2 hw
        simp only [unm_cons_false, U_cons]
        rw [or_left_comm, this, or_left_comm]

theorem mergeRound_U (f : Nat) (xs : List (d.D × Bool)) (un nx : List d.D) (k : Nat) (p : Pt) :
    (d.U (mergeRound d f xs un nx k).1 p ∨ d.U (mergeRound d f xs un nx k).2.1 p) ↔
      (d.U un p ∨ d.U nx p ∨ d.U (unm d xs) p) := by
  induction f generalizing xs un nx k with
  | zero =>
    simp only [mergeRound, U_append]
    change (d.U un p ∨ d.U (unm d xs) p) ∨ d.U nx p ↔ _
    simp only [or_comm, or_left_comm]
  | succ f ih =>
    cases xs with
    | nil => simp [mergeRound]
    | cons e r =>
      obtain ⟨pi, m⟩ := e
      cases m with
      | true => simp only [mergeRound, unm_cons_true]; exact ih r un nx k
      | false =>
        simp only [mergeRound]
        cases hm : markFirstExact d pi r with
        | some w =>
          obtain ⟨u, r'⟩ := w
          simp only
          rw [ih, addNBwhole_U]
          have := markFirstExact_U d pi r u r' hm p
          simp only [unm_cons_false, U_cons]
          rw [or_assoc, this]
        | none =>
          simp only
          rw [ih]
          simp only [unm_cons_false, U_cons, U_append, U_nil, or_false]
          simp only [or_assoc, or_comm, or_left_comm]

theorem pairwiseRound_U (s : List d.D) (p : Pt) : d.U (pairwiseRound d s).1 p ↔ d.U s p := by
  unfold pairwiseRound
  simp only
  have h1 := foldl_addNB_U d.toDom (mergeRound d s.length (s.map fun x => (x, false)) [] [] 0).1 []
    (mergeRound d s.length (s.map fun x => (x, false)) [] [] 0).2.1 p
  simp only at h1
  rw [h1, List.nil_append]
  have h2 := mergeRound_U d s.length (s.map fun x => (x, false)) [] [] 0 p
  rw [unm_map_false] at h2
  simp only [U_nil, false_or] at h2
  rw [← h2]
  exact or_comm

theorem pairwiseLoop_U (f : Nat) (s : List d.D) (p : Pt) : d.U (pairwiseLoop d f s) p ↔ d.U s p := by
  induction f generalizing s with
  | zero => rfl
  | succ f ih =>
    simp only [pairwiseLoop]
    by_cases h : (pairwiseRound d s).2 > 0
    · simp only [h, if_true]; rw [ih, pairwiseRound_U]
    · simp only [h, if_false]; exact pairwiseRound_U d s p

/-- **`pairwise_reduce` does not change the union** -/
theorem pairwiseReduce_U (x : PS d.toDom) (p : Pt) :
    d.U (pairwiseReduce d false x).seq p ↔ d.U x.seq p := by
  unfold pairwiseReduce
  simp only
  rw [pairwiseLoop_U, omegaReduce_U]

/-! ### `simplify_using_context_assign` -/

/-- invariant of `intersection_preserving_enlarge_element` after the context disjuncts `done` -/
structure EnlInv (dest : d.D) (done : List d.D) (st : d.D × Bool) : Prop where
  enl : ∀ p, d.γ dest p → d.γ st.1 p
  meet : ∀ ci ∈ done, ∀ p, d.γ st.1 p → d.γ ci p → d.γ dest p
  empty : st.2 = false → ∀ ci ∈ done, ∀ p, ¬ (d.γ dest p ∧ d.γ ci p)

theorem enlarge_fold (dest : d.D) (ctx done : List d.D) (st : d.D × Bool) (h : EnlInv d dest done st) :
    EnlInv d dest (done ++ ctx)
      (ctx.foldl (fun (st : d.D × Bool) ci =>
        (d.meet st.1 (d.simplify dest (d.meet ci st.1)).1, st.2 || (d.simplify dest (d.meet ci st.1)).2)) st) := by
  induction ctx generalizing done st with
  | nil => simpa using h
  | cons ci ctx ih =>
    simp only [List.foldl_cons]
    have key : EnlInv d dest (done ++ [ci])
        (d.meet st.1 (d.simplify dest (d.meet ci st.1)).1, st.2 || (d.simplify dest (d.meet ci st.1)).2) := by
      refine ⟨?_, ?_, ?_⟩
      · intro p hp
        exact (d.meet_exact _ _ p).mpr ⟨h.enl p hp, d.simplify_enl dest _ p hp⟩
      · intro cj hcj p hp hc
        obtain ⟨hp1, hp2⟩ := (d.meet_exact _ _ p).mp hp
        rcases List.mem_append.mp hcj with hcj | hcj
        · exact h.meet cj hcj p hp1 hc
        · rw [List.mem_singleton] at hcj
          subst hcj
          have hctx : d.γ (d.meet cj st.1) p := (d.meet_exact _ _ p).mpr ⟨hc, hp1⟩
          exact ((d.simplify_meet dest _ p).mp ⟨hp2, hctx⟩).1
      · intro hb cj hcj p hp
        simp only [Bool.or_eq_false_iff] at hb
        rcases List.mem_append.mp hcj with hcj | hcj
        · exact h.empty hb.1 cj hcj p hp
        · rw [List.mem_singleton] at hcj
          subst hcj
          have hctx : d.γ (d.meet cj st.1) p := (d.meet_exact _ _ p).mpr ⟨hp.2, h.enl p hp.1⟩
          exact d.simplify_false dest _ hb.2 p ⟨hp.1, hctx⟩
    have := ih (done ++ [ci]) _ key
    simpa using this

theorem enlargeElement_spec (ctx : List d.D) (dest : d.D) :
    EnlInv d dest ctx (enlargeElement d ctx dest) := by
  have h0 : EnlInv d dest [] (d.top, false) := by
    refine ⟨fun p _ => d.top_spec p, ?_, ?_⟩
    · intro ci hci; simp at hci
    · intro _ ci hci; simp at hci
  have := enlarge_fold d dest ctx [] (d.top, false) h0
  simpa [enlargeElement, enlargeElementWith] using this

/-- the meet of the enlarged element with the whole context is the meet of the original one -/
theorem enlargeElement_meet (ctx : List d.D) (dest : d.D) (p : Pt) :
    (d.γ (enlargeElement d ctx dest).1 p ∧ d.U ctx p) ↔ (d.γ dest p ∧ d.U ctx p) := by
  have h := enlargeElement_spec d ctx dest
  constructor
  · rintro ⟨h1, ci, hci, h2⟩
    exact ⟨h.meet ci hci p h1 h2, ci, hci, h2⟩
  · rintro ⟨h1, h2⟩
    exact ⟨h.enl p h1, h2⟩

theorem enlargeElement_false (ctx : List d.D) (dest : d.D) (hb : (enlargeElement d ctx dest).2 = false)
    (p : Pt) : ¬ (d.γ dest p ∧ d.U ctx p) := by
  rintro ⟨h1, ci, hci, h2⟩
  exact (enlargeElement_spec d ctx dest).empty hb ci hci p ⟨h1, h2⟩

/-- generic step: a disjunct-wise meet-preserving map that drops only disjuncts whose meet with
    the context is empty preserves the meet of the unions -/
theorem filterMap_meet (f : d.D → d.D × Bool) (C : Pt → Prop)
    (hm : ∀ a p, (d.γ (f a).1 p ∧ C p) ↔ (d.γ a p ∧ C p))
    (hf : ∀ a, (f a).2 = false → ∀ p, ¬ (d.γ a p ∧ C p)) (xs : List d.D) (p : Pt) :
    (d.U (xs.filterMap fun xi => if (f xi).2 then some (f xi).1 else none) p ∧ C p) ↔ (d.U xs p ∧ C p) := by
  constructor
  · rintro ⟨⟨r, hr, hp⟩, hc⟩
    obtain ⟨a, ha, hfa⟩ := List.mem_filterMap.mp hr
    by_cases hb : (f a).2 = true
    · simp only [hb, if_true, Option.some.injEq] at hfa
      subst hfa
      exact ⟨⟨a, ha, ((hm a p).mp ⟨hp, hc⟩).1⟩, hc⟩
    · simp [hb] at hfa
  · rintro ⟨⟨a, ha, hp⟩, hc⟩
    cases hb : (f a).2 with
    | false => exact absurd ⟨hp, hc⟩ (hf a hb p)
    | true =>
      refine ⟨⟨(f a).1, List.mem_filterMap.mpr ⟨a, ha, by simp [hb]⟩, ((hm a p).mpr ⟨hp, hc⟩).1⟩, hc⟩

theorem all_isBottom_U (s : List d.D) (h : s.all d.isBottom = true) (p : Pt) : ¬ d.U s p := by
  rintro ⟨a, ha, hp⟩
  exact d.isBottom_sound a (List.all_eq_true.mp h a ha) p hp

/-- **`simplify_using_context_assign`: the meet with the context is preserved** -/
theorem simplifyCtx_meet (x y : PS d.toDom) (p : Pt) :
    (d.U (simplifyCtx d false x y).1.seq p ∧ d.U y.seq p) ↔ (d.U x.seq p ∧ d.U y.seq p) := by
  unfold simplifyCtx
  simp only
  by_cases hx : (omegaReduce d.toDom false x).seq.all d.isBottom = true
  · simp only [hx, if_true]
    rw [omegaReduce_U]
  · simp only [hx, if_false, Bool.false_eq_true]
    by_cases hy : (omegaReduce d.toDom false y).seq.all d.isBottom = true
    · simp only [hy, if_true]
      have := all_isBottom_U d _ hy p
      rw [omegaReduce_U] at this
      constructor
      · exact fun h => absurd h.2 this
      · exact fun h => absurd h.2 this
    · simp only [hy, if_false, Bool.false_eq_true]
      rw [← omegaReduce_U d.toDom y p, ← omegaReduce_U d.toDom x p]
      generalize (omegaReduce d.toDom false y).seq = ys
      generalize (omegaReduce d.toDom false x).seq = xs
      have general := filterMap_meet d (fun xi => enlargeElement d ys xi) (d.U ys)
          (fun a p => enlargeElement_meet d ys a p) (fun a hb p => enlargeElement_false d ys a hb p) xs p
      match ys with
      | [] => exact general
      | [yi] =>
        have := filterMap_meet d (fun xi => d.simplify xi yi) (d.γ yi)
          (fun a p => d.simplify_meet a yi p) (fun a hb p => d.simplify_false a yi hb p) xs p
        simpa using this
      | _ :: _ :: _ => exact general

theorem length_filterMap_le' {α β} (f : α → Option β) (l : List α) : (l.filterMap f).length ≤ l.length :=
  List.length_filterMap_le f l

/-- **… and the number of disjuncts is not increased** (`y` in a state satisfying the class
    invariant "flag set ⇒ no empty disjunct", which `OK()` checks) -/
theorem simplifyCtx_length (x y : PS d.toDom)
    (hy : y.reduced = true → ∀ a ∈ y.seq, d.isBottom a = false) :
    (simplifyCtx d false x y).1.seq.length ≤ x.seq.length := by
  have hx := omegaReduce_length d.toDom x
  unfold simplifyCtx
  simp only
  by_cases h1 : (omegaReduce d.toDom false x).seq.all d.isBottom = true
  · simp only [h1, if_true]; exact hx
  · simp only [h1, if_false, Bool.false_eq_true]
    by_cases h2 : (omegaReduce d.toDom false y).seq.all d.isBottom = true
    · simp only [h2, if_true]
      -- an omega-reduced sequence all of whose disjuncts are bottom is empty
      have : (omegaReduce d.toDom false y).seq = [] := by
        cases hl : (omegaReduce d.toDom false y).seq with
        | nil => rfl
        | cons a as =>
          exfalso
          have hab : d.isBottom a = true := by
            have := List.all_eq_true.mp h2 a (by rw [hl]; exact List.mem_cons_self)
            exact this
          have hmem : a ∈ (omegaReduce d.toDom false y).seq := by rw [hl]; exact List.mem_cons_self
          have : d.isBottom a = false := by
            unfold omegaReduce at hmem
            by_cases hr : y.reduced = true
            · simp only [hr, if_true] at hmem
              exact hy hr a hmem
            · simp only [hr, if_false, Bool.false_eq_true] at hmem
              have := omegaLoop_mem d.toDom _ [] _ a hmem
              simp only [List.nil_append, List.mem_filter, Bool.not_eq_true'] at this
              exact this.2
          rw [hab] at this; cases this
      rw [this]; exact Nat.zero_le _
    · simp only [h2, if_false, Bool.false_eq_true]
      split
      · exact Nat.le_trans (List.length_filterMap_le _ _) hx
      · exact Nat.le_trans (List.length_filterMap_le _ _) hx

/-- `false` is returned only when the meet is empty -/
theorem simplifyCtx_false (x y : PS d.toDom) (h : (simplifyCtx d false x y).2.2 = false) (p : Pt) :
    ¬ (d.U x.seq p ∧ d.U y.seq p) := by
  rw [← simplifyCtx_meet d x y p]
  revert h
  unfold simplifyCtx
  simp only
  by_cases hx : (omegaReduce d.toDom false x).seq.all d.isBottom = true
  · simp only [hx, if_true]
    intro _ h
    exact all_isBottom_U d _ hx p h.1
  · simp only [hx, if_false, Bool.false_eq_true]
    by_cases hy : (omegaReduce d.toDom false y).seq.all d.isBottom = true
    · simp only [hy, if_true]
      intro _ h
      exact all_isBottom_U d _ hy p h.1
    · simp only [hy, if_false, Bool.false_eq_true, Bool.not_eq_false']
      intro he h
      rw [List.isEmpty_iff] at he
      rw [he] at h
      simp at h

end PPLV.Powerset

import PPLV.COTree.RebSpec
import PPLV.COTree.ProofsDensity

/-!
# navigation lemmas for the `tree_iterator` model

A node is a pair `(i, o)` with `o = 2^h`, `i = o * (2*m + 1)`; its subtree occupies
the slots `i - (o-1) … i + (o-1)`.
-/
namespace PPLV.COTree

/-! ## `lowBit` -/

theorem two_pow_pos' (h : Nat) : 0 < 2 ^ h := Nat.pow_pos (by decide)

theorem lowBitAux_pow_mul : ∀ (h m f : Nat), 2 ^ h * (2 * m + 1) ≤ f →
    lowBitAux f (2 ^ h * (2 * m + 1)) = 2 ^ h
  | 0, m, f, hf => by
    simp only [Nat.pow_zero, Nat.one_mul] at hf ⊢
    cases f with
    | zero => omega
    | succ f =>
      have : (2 * m + 1) % 2 = 1 := by omega
      simp [lowBitAux, this]
  | h + 1, m, f, hf => by
    have e : 2 ^ (h + 1) * (2 * m + 1) = 2 * (2 ^ h * (2 * m + 1)) := by
      rw [Nat.pow_succ, Nat.mul_comm (2 ^ h) 2, Nat.mul_assoc]
    rw [e] at hf ⊢
    have ih := lowBitAux_pow_mul h m
    have hpos : 0 < 2 ^ h * (2 * m + 1) := Nat.mul_pos (two_pow_pos' h) (Nat.succ_pos _)
    generalize 2 ^ h * (2 * m + 1) = X at hf ih hpos ⊢
    cases f with
    | zero => omega
    | succ f =>
      have h1 : ¬ (2 * X) % 2 = 1 := by omega
      have h2 : 2 * X / 2 = X := by omega
      simp only [lowBitAux, h1, if_false, h2]
      rw [ih f (by omega), Nat.pow_succ]; omega

theorem lowBit_pow_mul (h m : Nat) : lowBit (2 ^ h * (2 * m + 1)) = 2 ^ h :=
  lowBitAux_pow_mul h m _ (Nat.le_refl _)

theorem ofIndex_pow_mul (h m : Nat) :
    TIt.ofIndex (2 ^ h * (2 * m + 1)) = ⟨2 ^ h * (2 * m + 1), 2 ^ h⟩ := by
  simp [TIt.ofIndex, lowBit_pow_mul]

/-! ## division facts for `i = o * (2*m + 1)` -/

theorem node_div_offset {o : Nat} (ho : 0 < o) (m : Nat) : o * (2 * m + 1) / o = 2 * m + 1 :=
  Nat.mul_div_cancel_left _ ho

theorem node_div_two_offset {o : Nat} (ho : 0 < o) (m : Nat) : o * (2 * m + 1) / (2 * o) = m := by
  have e : o * (2 * m + 1) = o + (2 * o) * m := by
    rw [Nat.mul_add, Nat.mul_one, Nat.mul_left_comm, Nat.mul_assoc]; omega
  rw [e, Nat.add_mul_div_left _ _ (by omega), Nat.div_eq_of_lt (by omega)]; omega

/-- the linear view: `i = 2 * (o*m) + o` -/
theorem node_lin (o m : Nat) : o * (2 * m + 1) = 2 * (o * m) + o := by
  rw [Nat.mul_add, Nat.mul_one, Nat.mul_left_comm]

/-- bit `o` of `i = o*(2m+1)` is set; clearing it leaves `2o * m` -/
theorem node_offset_bit {o : Nat} (ho : 0 < o) (m : Nat) : o * (2 * m + 1) / o % 2 = 1 := by
  rw [node_div_offset ho]; omega

theorem node_sub_offset (o m : Nat) : o * (2 * m + 1) - o = (o * 2) * m := by
  rw [node_lin, Nat.mul_assoc, Nat.mul_left_comm]; omega

/-- the slots `i - (o-1) … i + (o-1)` of `i = o*(2m+1)` are those strictly between the
    multiples `o*(2m)` and `o*(2m+2)` of `o` -/
theorem node_range_lo {o : Nat} (ho : 0 < o) (m : Nat) :
    o * (2 * m + 1) - (o - 1) = o * (2 * m) + 1 := by
  rw [Nat.mul_add, Nat.mul_one]; omega

theorem node_range_hi {o : Nat} (ho : 0 < o) (m : Nat) :
    o * (2 * m + 1) + (o - 1) + 1 = o * (2 * m + 2) := by
  rw [Nat.mul_add, Nat.mul_add, Nat.mul_one]; omega

/-! ## `getParent`, `getLeftChild`, `getRightChild` -/

theorem getParent_even {i o m : Nat} (ho : 0 < o) (hi : i = o * (2 * m + 1)) (hm : m % 2 = 0) :
    TIt.getParent ⟨i, o⟩ = ⟨i + o, 2 * o⟩ := by
  subst hi
  have c : o * (2 * m + 1) - o + o * 2 = o * (2 * m + 1) + o := by rw [node_lin]; omega
  have h1 := node_offset_bit ho m
  have h2 : ¬ (o * (2 * m + 1) - o) / (o * 2) % 2 = 1 := by
    rw [node_sub_offset, Nat.mul_div_cancel_left _ (by omega)]; omega
  simp only [TIt.getParent, h1, if_true, h2, if_false]
  rw [c, Nat.mul_comm o 2]

theorem getParent_odd {i o m : Nat} (ho : 0 < o) (hi : i = o * (2 * m + 1)) (hm : m % 2 = 1) :
    TIt.getParent ⟨i, o⟩ = ⟨i - o, 2 * o⟩ := by
  subst hi
  have h1 := node_offset_bit ho m
  have h2 : (o * (2 * m + 1) - o) / (o * 2) % 2 = 1 := by
    rw [node_sub_offset, Nat.mul_div_cancel_left _ (by omega)]; omega
  simp only [TIt.getParent, h1, if_true, h2]
  congr 1; omega

/-- the parent of `(o*(2m+1), o)` is `(2o*(2*(m/2)+1), 2o)` -/
theorem getParent_form {o : Nat} (ho : 0 < o) (m : Nat) :
    TIt.getParent ⟨o * (2 * m + 1), o⟩ = ⟨2 * o * (2 * (m / 2) + 1), 2 * o⟩ := by
  have key : 2 * o * (2 * (m / 2) + 1) = 2 * (o * (2 * (m / 2))) + 2 * o := by
    rw [Nat.mul_add, Nat.mul_one, Nat.mul_assoc]
  rcases Nat.mod_two_eq_zero_or_one m with hm | hm
  · rw [getParent_even ho rfl hm, key]
    have : 2 * (m / 2) = m := by omega
    rw [this, node_lin]; congr 1; omega
  · rw [getParent_odd ho rfl hm, key]
    have : m = 2 * (m / 2) + 1 := by omega
    have e2 : o * (2 * m + 1) = 2 * (o * (2 * (m / 2))) + 3 * o := by
      conv => lhs; rw [this]
      rw [node_lin, Nat.mul_add, Nat.mul_one]; omega
    rw [e2]; congr 1; omega

theorem getLeftChild_eq (i o : Nat) : TIt.getLeftChild ⟨i, o⟩ = ⟨i - o / 2, o / 2⟩ := rfl
theorem getRightChild_eq (i o : Nat) : TIt.getRightChild ⟨i, o⟩ = ⟨i + o / 2, o / 2⟩ := rfl

/-- left child of `(2o*(2m+1), 2o)` is `(o*(2*(2m)+1), o)` -/
theorem getLeftChild_form (o m : Nat) :
    TIt.getLeftChild ⟨2 * o * (2 * m + 1), 2 * o⟩ = ⟨o * (2 * (2 * m) + 1), o⟩ := by
  have h : 2 * o / 2 = o := by omega
  rw [getLeftChild_eq, h]
  congr 1
  rw [node_lin, node_lin, Nat.mul_assoc 2 o m, Nat.mul_left_comm o 2 m]; omega

/-- right child of `(2o*(2m+1), 2o)` is `(o*(2*(2m+1)+1), o)` -/
theorem getRightChild_form (o m : Nat) :
    TIt.getRightChild ⟨2 * o * (2 * m + 1), 2 * o⟩ = ⟨o * (2 * (2 * m + 1) + 1), o⟩ := by
  have h : 2 * o / 2 = o := by omega
  rw [getRightChild_eq, h]
  congr 1
  rw [node_lin, node_lin, Nat.mul_assoc 2 o m, Nat.mul_add o (2 * m) 1, Nat.mul_left_comm o 2 m]
  omega

theorem getParent_getLeftChild {o : Nat} (ho : 0 < o) (m : Nat) :
    TIt.getParent (TIt.getLeftChild ⟨2 * o * (2 * m + 1), 2 * o⟩) = ⟨2 * o * (2 * m + 1), 2 * o⟩ := by
  rw [getLeftChild_form, getParent_form ho]
  have : 2 * m / 2 = m := by omega
  rw [this]

theorem getParent_getRightChild {o : Nat} (ho : 0 < o) (m : Nat) :
    TIt.getParent (TIt.getRightChild ⟨2 * o * (2 * m + 1), 2 * o⟩) = ⟨2 * o * (2 * m + 1), 2 * o⟩ := by
  rw [getRightChild_form, getParent_form ho]
  have : (2 * m + 1) / 2 = m := by omega
  rw [this]

/-! ## nodes of a tree with `rs = 2^maxDepth - 1` slots -/

/-- every positive number is `2^h * (2*m + 1)` -/
theorem exists_pow_mul_odd : ∀ (f p : Nat), p ≤ f → 0 < p → ∃ h m, p = 2 ^ h * (2 * m + 1)
  | 0, p, hf, hp => by omega
  | f + 1, p, hf, hp => by
    rcases Nat.mod_two_eq_zero_or_one p with h0 | h1
    · obtain ⟨h, m, e⟩ := exists_pow_mul_odd f (p / 2) (by omega) (by omega)
      refine ⟨h + 1, m, ?_⟩
      rw [Nat.pow_succ', Nat.mul_assoc, ← e]; omega
    · exact ⟨0, p / 2, by simp; omega⟩

namespace Tree


theorem IsNode.congr {t t' : Tree} {i o : Nat} (h : t'.rs = t.rs) (hn : t.IsNode i o) :
    t'.IsNode i o := by
  obtain ⟨a, b, h1, h2, h3⟩ := hn
  exact ⟨a, b, h1, h2, by rw [h]; exact h3⟩

/-- the offset of a node is determined by its slot -/
theorem IsNode.offset_eq {t : Tree} {i o : Nat} (hn : t.IsNode i o) : o = lowBit i := by
  obtain ⟨h, m, h1, h2, _⟩ := hn
  rw [h2, h1, lowBit_pow_mul]

theorem IsNode.offset_unique {t : Tree} {i o o' : Nat} (hn : t.IsNode i o) (hn' : t.IsNode i o') :
    o = o' := by rw [hn.offset_eq, hn'.offset_eq]

/-- every slot `1 … rs` is a node -/
theorem ofIndex_node (t : Tree) {p : Nat} (h1 : 1 ≤ p) (h2 : p ≤ t.rs) :
    ∃ o, TIt.ofIndex p = ⟨p, o⟩ ∧ t.IsNode p o := by
  obtain ⟨h, m, e⟩ := exists_pow_mul_odd p p (Nat.le_refl _) h1
  refine ⟨2 ^ h, ?_, ⟨h, m, rfl, e, h2⟩⟩
  rw [e, ofIndex_pow_mul]

/-- nesting: a slot `p = 2^h' * (2m'+1)` inside the range of the node `c = 2^h * (2m+1)` has a
    smaller-or-equal offset, equal only when `p = c`, and its range is inside the range of `c` -/
theorem block_nest {h h' m m' : Nat}
    (h1 : 2 ^ h * (2 * m + 1) - (2 ^ h - 1) ≤ 2 ^ h' * (2 * m' + 1))
    (h2 : 2 ^ h' * (2 * m' + 1) ≤ 2 ^ h * (2 * m + 1) + (2 ^ h - 1)) :
    2 ^ h' ≤ 2 ^ h ∧
    2 ^ h * (2 * m + 1) - (2 ^ h - 1) ≤ 2 ^ h' * (2 * m' + 1) - (2 ^ h' - 1) ∧
    2 ^ h' * (2 * m' + 1) + (2 ^ h' - 1) ≤ 2 ^ h * (2 * m + 1) + (2 ^ h - 1) ∧
    (2 ^ h' = 2 ^ h → m' = m) := by
  have hp := two_pow_pos' h
  have hp' := two_pow_pos' h'
  -- `p` lies strictly between the multiples `2^h * (2m)` and `2^h * (2m+2)` of `2^h`
  rw [node_range_lo hp] at h1
  replace h2 := Nat.lt_add_one_of_le h2
  rw [node_range_hi hp] at h2
  rcases Nat.lt_or_ge h h' with hlt | hge
  · -- impossible: `2 * 2^h` divides `p`
    exfalso
    have e : 2 ^ h' = 2 ^ h * (2 * 2 ^ (h' - h - 1)) := by
      rw [← Nat.pow_succ', ← Nat.pow_add]; congr 1; omega
    rw [e, Nat.mul_assoc, Nat.mul_assoc] at h1 h2
    have b1 := Nat.lt_of_mul_lt_mul_left h1
    have b2 := Nat.lt_of_mul_lt_mul_left h2
    omega
  · -- `2^h = 2^h' * r`: cancel `2^h'`, so `r * (2m) < 2m' + 1 < r * (2m+2)`
    have e : 2 ^ h = 2 ^ h' * 2 ^ (h - h') := by
      rw [← Nat.pow_add]; congr 1; omega
    have hr := two_pow_pos' (h - h')
    generalize 2 ^ (h - h') = r at e hr
    rw [e, Nat.mul_assoc] at h1 h2
    have b1 := Nat.lt_of_mul_lt_mul_left h1
    have b2 := Nat.lt_of_mul_lt_mul_left h2
    refine ⟨?_, ?_, Nat.le_of_add_le_add_right (b := 1) ?_, ?_⟩
    · rw [e]; exact Nat.le_mul_of_pos_right _ hr
    · rw [node_range_lo hp, node_range_lo hp', e, Nat.mul_assoc]
      exact Nat.add_le_add_right (Nat.mul_le_mul_left _ (Nat.le_of_lt_succ b1)) 1
    · rw [node_range_hi hp, node_range_hi hp', e, Nat.mul_assoc]
      exact Nat.mul_le_mul_left _ b2
    · intro heq
      have hr1 : r = 1 := Nat.eq_of_mul_eq_mul_left hp' (by rw [Nat.mul_one, ← e]; exact heq.symm)
      subst hr1
      omega

/-- `block_nest` on nodes -/
theorem IsNode.nest {t : Tree} {c oc p op : Nat} (hc : t.IsNode c oc) (hp : t.IsNode p op)
    (h1 : c - (oc - 1) ≤ p) (h2 : p ≤ c + (oc - 1)) :
    op ≤ oc ∧ c - (oc - 1) ≤ p - (op - 1) ∧ p + (op - 1) ≤ c + (oc - 1) ∧ (p ≠ c → op < oc) := by
  obtain ⟨h, m, e1, e2, _⟩ := hc
  obtain ⟨h', m', e1', e2', _⟩ := hp
  subst e1 e1' e2 e2'
  obtain ⟨r1, r2, r3, r4⟩ := block_nest h1 h2
  refine ⟨r1, r2, r3, fun hne => ?_⟩
  rcases Nat.lt_or_ge (2 ^ h') (2 ^ h) with hl | hg
  · exact hl
  · exfalso
    have heq : 2 ^ h' = 2 ^ h := Nat.le_antisymm r1 hg
    have := r4 heq
    apply hne; rw [heq, this]

/-- pure arithmetic: `2^h * (2m+1)` is a slot of a tree with `2^D - 1` slots -/
theorem node_arith {D h m : Nat} (hi : 2 ^ h * (2 * m + 1) ≤ 2 ^ D - 1) :
    h < D ∧ m < 2 ^ (D - h - 1) ∧ 2 ^ D = 2 * (2 ^ h * 2 ^ (D - h - 1)) := by
  have hp := two_pow_pos' h
  have hD := two_pow_pos' D
  have h1 : 2 ^ h ≤ 2 ^ h * (2 * m + 1) := Nat.le_mul_of_pos_right _ (Nat.succ_pos _)
  have hlt : 2 ^ h < 2 ^ D := by omega
  have hhD : h < D := (Nat.pow_lt_pow_iff_right (by decide)).mp hlt
  have e : 2 ^ D = 2 ^ h * (2 * 2 ^ (D - h - 1)) := by
    rw [← Nat.pow_succ', ← Nat.pow_add]; congr 1; omega
  have h2 : 2 ^ h * (2 * m + 1) < 2 ^ h * (2 * 2 ^ (D - h - 1)) := by omega
  have h3 := Nat.lt_of_mul_lt_mul_left h2
  refine ⟨hhD, by omega, ?_⟩
  rw [e, Nat.mul_left_comm]

/-- the linear view of a node: with `a = o*m`, `b = o * 2^(maxDepth-h-1)`:
    `i = 2a + o`, `rs + 1 = 2b`, `a + o ≤ b` -/
theorem IsNode.lin {t : Tree} {i o : Nat} (hs : t.Shape) (hn : t.IsNode i o) :
    ∃ h m a b, o = 2 ^ h ∧ h < t.maxDepth ∧ i = o * (2 * m + 1) ∧ a = o * m ∧ i = 2 * a + o ∧
      b = o * 2 ^ (t.maxDepth - h - 1) ∧ t.rs + 1 = 2 * b ∧ a + o ≤ b ∧ 0 < o ∧
      m < 2 ^ (t.maxDepth - h - 1) := by
  obtain ⟨h, m, ho, hi, hle⟩ := hn
  obtain ⟨hrs, -⟩ := hs
  rw [hrs, hi, ho] at hle
  obtain ⟨h1, h2, h3⟩ := node_arith hle
  have hD := two_pow_pos' t.maxDepth
  refine ⟨h, m, o * m, o * 2 ^ (t.maxDepth - h - 1), ho, h1, hi, rfl, ?_, rfl, ?_, ?_, ?_, h2⟩
  · rw [hi, node_lin]
  · rw [hrs, ho, ← h3]; exact Nat.sub_add_cancel hD
  · have := Nat.mul_le_mul_left o (show m + 1 ≤ 2 ^ (t.maxDepth - h - 1) from h2)
    rw [Nat.mul_add, Nat.mul_one] at this; exact this
  · rw [ho]; exact two_pow_pos' h

/-- the slots of a subtree lie in `1 … rs` -/
theorem IsNode.bounds {t : Tree} {i o : Nat} (hs : t.Shape) (hn : t.IsNode i o) :
    0 < o ∧ o ≤ i ∧ 1 ≤ i - (o - 1) ∧ i + (o - 1) ≤ t.rs ∧ o ≤ t.rs / 2 + 1 := by
  obtain ⟨h, m, a, b, -, -, -, -, hi, -, hrs, hab, ho, -⟩ := hn.lin hs
  omega

theorem isRoot_iff (t : Tree) (i o : Nat) : t.isRoot ⟨i, o⟩ = true ↔ o = t.rs / 2 + 1 := by
  simp [isRoot]

theorem isRoot_false_iff (t : Tree) (i o : Nat) : t.isRoot ⟨i, o⟩ = false ↔ o ≠ t.rs / 2 + 1 := by
  simp [isRoot]

theorem IsNode.ne_root_iff {t : Tree} {i o : Nat} (hs : t.Shape) (hn : t.IsNode i o) :
    o ≠ t.rs / 2 + 1 ↔ o < t.rs / 2 + 1 := by
  have := hn.bounds hs; omega

/-- `rs / 2 + 1 = 2^(maxDepth - 1)` -/
theorem Shape.root_pow {t : Tree} (hs : t.Shape) : t.rs / 2 + 1 = 2 ^ (t.maxDepth - 1) := by
  obtain ⟨hrs, hD, -⟩ := hs
  have e : 2 ^ t.maxDepth = 2 * 2 ^ (t.maxDepth - 1) := by
    rw [← Nat.pow_succ']; congr 1; omega
  have := two_pow_pos' (t.maxDepth - 1)
  omega

theorem Shape.rs_odd {t : Tree} (hs : t.Shape) : t.rs = 2 * (t.rs / 2) + 1 ∧ 3 ≤ t.rs := by
  obtain ⟨hrs, hD, -⟩ := hs
  have e : 2 ^ t.maxDepth = 4 * 2 ^ (t.maxDepth - 2) := by
    rw [show (4 : Nat) = 2 ^ 2 from rfl, ← Nat.pow_add]; congr 1; omega
  have := two_pow_pos' (t.maxDepth - 2)
  omega

/-- the root `(rs/2+1, rs/2+1)` is a node -/
theorem IsNode.root {t : Tree} (hs : t.Shape) : t.IsNode (t.rs / 2 + 1) (t.rs / 2 + 1) := by
  refine ⟨t.maxDepth - 1, 0, hs.root_pow, by simp, ?_⟩
  have := hs.rs_odd; omega

theorem getRoot_isNode {t : Tree} (hs : t.Shape) : t.IsNode t.getRoot.i t.getRoot.offset :=
  IsNode.root hs

/-- a node whose subtree is everything is the root -/
theorem IsNode.eq_root {t : Tree} {i o : Nat} (hs : t.Shape) (hn : t.IsNode i o)
    (ho : o = t.rs / 2 + 1) : i = t.rs / 2 + 1 := by
  have := hn.bounds hs; have := hs.rs_odd; omega

/-- the parent of a non-root node is a node -/
theorem IsNode.parent {t : Tree} {i o : Nat} (hs : t.Shape) (hn : t.IsNode i o)
    (hr : o ≠ t.rs / 2 + 1) :
    t.IsNode (TIt.getParent ⟨i, o⟩).i (2 * o) ∧ (TIt.getParent ⟨i, o⟩).offset = 2 * o := by
  obtain ⟨h, m, a, b, ho, -, hi, -, -, hbdef, hrs, hab, hopos, hm⟩ := hn.lin hs
  -- not the root (`o ≠ b`), so `2^(D-h-1)` is even
  generalize t.maxDepth - h - 1 = k at hbdef hm
  cases k with
  | zero => rw [Nat.pow_zero, Nat.mul_one] at hbdef; omega
  | succ k =>
    rw [Nat.pow_succ'] at hbdef hm
    subst hi
    rw [getParent_form hopos]
    refine ⟨⟨h + 1, m / 2, by rw [ho, Nat.pow_succ'], rfl, ?_⟩, rfl⟩
    have hm2 : m / 2 + 1 ≤ 2 ^ k := by omega
    have h5 := Nat.mul_le_mul_left (2 * o) hm2
    have h6 : 2 * o * 2 ^ k = b := by
      rw [hbdef, Nat.mul_left_comm, Nat.mul_assoc]
    rw [h6] at h5
    rw [Nat.mul_add, Nat.mul_one] at h5 ⊢
    show 2 * o * (2 * (m / 2)) + 2 * o ≤ t.rs
    rw [Nat.mul_left_comm (2 * o) 2]
    omega

/-- the children of a non-leaf node are nodes -/
theorem IsNode.children {t : Tree} {i o : Nat} (hs : t.Shape) (hn : t.IsNode i o) (hl : o ≠ 1) :
    t.IsNode (i - o / 2) (o / 2) ∧ t.IsNode (i + o / 2) (o / 2) ∧ 2 * (o / 2) = o := by
  obtain ⟨hpos, -, -, hb, -⟩ := hn.bounds hs
  obtain ⟨h, m, ho, hi, hle⟩ := hn
  cases h with
  | zero => simp at ho; omega
  | succ h =>
    have e : o = 2 * 2 ^ h := by rw [ho, Nat.pow_succ']
    have e2 : o / 2 = 2 ^ h := by omega
    have e3 : o / 2 ≤ o - 1 := by omega
    have hl' := getLeftChild_form (2 ^ h) m
    have hr' := getRightChild_form (2 ^ h) m
    rw [← e, ← hi, getLeftChild_eq] at hl'
    rw [← e, ← hi, getRightChild_eq] at hr'
    injection hl' with hl1 hl2
    injection hr' with hr1 hr2
    refine ⟨⟨h, 2 * m, e2, by rw [hl1, e2], Nat.le_trans (Nat.sub_le _ _) hle⟩,
      ⟨h, 2 * m + 1, e2, by rw [hr1, e2], Nat.le_trans (Nat.add_le_add_left e3 i) hb⟩,
      by rw [e2, ← e]⟩

/-- `is_right_child()` of a non-root node `(o*(2m+1), o)`: `m` is odd -/
theorem isRightChild_iff {t : Tree} {i o m : Nat} (ho : 0 < o) (hi : i = o * (2 * m + 1))
    (hr : o ≠ t.rs / 2 + 1) : t.isRightChild ⟨i, o⟩ = true ↔ m % 2 = 1 := by
  have : t.isRoot ⟨i, o⟩ = false := (isRoot_false_iff t i o).mpr hr
  subst hi
  simp [isRightChild, this, node_div_two_offset ho]

theorem isRightChild_root {t : Tree} {i o : Nat} (hr : o = t.rs / 2 + 1) :
    t.isRightChild ⟨i, o⟩ = false := by
  have : t.isRoot ⟨i, o⟩ = true := (isRoot_iff t i o).mpr hr
  simp [isRightChild, this]

/-- one step of the walk from a LEFT child `(i, o)`: parent `(i+o, 2o)`, brother `(i+2o, o)` -/
theorem step_left {i o m : Nat} (ho : 0 < o) (hi : i = o * (2 * m + 1)) (hm : m % 2 = 0) :
    TIt.getParent ⟨i, o⟩ = ⟨i + o, 2 * o⟩ ∧
    (TIt.getParent ⟨i, o⟩).getRightChild = ⟨i + 2 * o, o⟩ ∧
    (TIt.getParent ⟨i, o⟩).getRightChild.getParent = ⟨i + o, 2 * o⟩ := by
  have h1 := getParent_even ho hi hm
  have h2 : (TIt.getParent ⟨i, o⟩).getRightChild = ⟨i + 2 * o, o⟩ := by
    rw [h1, getRightChild_eq, Nat.mul_div_cancel_left o (by decide), Nat.add_assoc, ← Nat.two_mul]
  have hm' : (m + 1) % 2 = 1 := by omega
  have hi' : i + 2 * o = o * (2 * (m + 1) + 1) := by
    rw [hi, node_lin, node_lin, Nat.mul_add o m 1]; omega
  refine ⟨h1, h2, ?_⟩
  rw [h2, getParent_odd ho hi' hm']; congr 1
  rw [Nat.two_mul, ← Nat.add_assoc, Nat.add_sub_cancel]

/-- one step of the walk from a RIGHT child `(i, o)`: parent `(i-o, 2o)`, brother `(i-2o, o)` -/
theorem step_right {i o m : Nat} (ho : 0 < o) (hi : i = o * (2 * m + 1)) (hm : m % 2 = 1) :
    TIt.getParent ⟨i, o⟩ = ⟨i - o, 2 * o⟩ ∧
    (TIt.getParent ⟨i, o⟩).getLeftChild = ⟨i - 2 * o, o⟩ ∧
    (TIt.getParent ⟨i, o⟩).getLeftChild.getParent = ⟨i - o, 2 * o⟩ ∧ 3 * o ≤ i := by
  have h1 := getParent_odd ho hi hm
  have h2 : (TIt.getParent ⟨i, o⟩).getLeftChild = ⟨i - 2 * o, o⟩ := by
    rw [h1, getLeftChild_eq, Nat.mul_div_cancel_left o (by decide), Nat.sub_sub, ← Nat.two_mul]
  -- `m = k + 1` with `k` even, so `i` is the brother slot `o * (2k+1)` plus `2o`
  obtain ⟨k, rfl⟩ := Nat.exists_eq_add_one_of_ne_zero (show m ≠ 0 by omega)
  have hk : k % 2 = 0 := by omega
  have hik : i = o * (2 * k + 1) + 2 * o := by
    rw [hi, node_lin, node_lin, Nat.mul_add o k 1]; omega
  have hi' : i - 2 * o = o * (2 * k + 1) := by rw [hik, Nat.add_sub_cancel]
  have hge : 3 * o ≤ i := by rw [hik, node_lin]; omega
  refine ⟨h1, h2, ?_, hge⟩
  rw [h2, getParent_even ho hi' hk]; congr 1; omega

/-- `depth()` of a node of height `h + 1` -/
theorem depth_node {t : Tree} {i o h : Nat} (hs : t.Shape) (ho : o = 2 ^ h) (hn : t.IsNode i o) :
    t.depth ⟨i, o⟩ = t.maxDepth - h ∧ h < t.maxDepth := by
  obtain ⟨h', m, a, b, ho', hh, _, _, _, hb, hrs, _, hopos, _⟩ := hn.lin hs
  have hh' : h' = h := by
    have e1 : 2 ^ h' = 2 ^ h := by rw [← ho, ← ho']
    have h1 := (Nat.pow_le_pow_iff_right (by decide : 1 < 2)).mp (Nat.le_of_eq e1)
    have h2 := (Nat.pow_le_pow_iff_right (by decide : 1 < 2)).mp (Nat.le_of_eq e1.symm)
    omega
  subst hh'
  refine ⟨?_, hh⟩
  have e : t.rs + 1 = o * 2 ^ (t.maxDepth - h') := by
    rw [hrs, hb, Nat.mul_left_comm, ← Nat.pow_succ']; congr 2; omega
  have hq : (t.rs + 1) / o = 2 ^ (t.maxDepth - h') := by
    rw [e, Nat.mul_div_cancel_left _ hopos]
  simp only [depth, hq]
  have sp := integerLog2_spec (2 ^ (t.maxDepth - h')) (2 ^ (t.maxDepth - h'))
    (two_pow_pos' _) (Nat.le_refl _)
  generalize integerLog2 (2 ^ (t.maxDepth - h')) (2 ^ (t.maxDepth - h')) = k at sp
  have h1 := (Nat.pow_le_pow_iff_right (by decide : 1 < 2)).mp sp.1
  have h2 := (Nat.pow_lt_pow_iff_right (by decide : 1 < 2)).mp sp.2
  omega

theorem depth_root {t : Tree} (hs : t.Shape) : t.depth t.getRoot = 1 := by
  have := (depth_node hs hs.root_pow (IsNode.root hs)).1
  have h2 := hs.2.1
  simp only [getRoot]; omega

/-! ## cells, `countRange`, `listRange` -/

theorem cell_eq (t : Tree) (p : Nat) : t.cell p = (t.cells[p]?).getD none := by
  simp [cell, Array.getD_eq_getD_getElem?]

theorem cell_setCell (t : Tree) (p q : Nat) (c : Cell) :
    (t.setCell p c).cell q = if p = q ∧ p < t.cells.size then c else t.cell q := by
  simp only [cell, setCell, Array.getD_eq_getD_getElem?, Array.getElem?_setIfInBounds]
  by_cases h : p = q
  · subst h
    by_cases h2 : p < t.cells.size <;> simp [h2]
  · simp [h]

@[simp] theorem setCell_rs (t : Tree) (p : Nat) (c : Cell) : (t.setCell p c).rs = t.rs := rfl
@[simp] theorem setCell_maxDepth (t : Tree) (p : Nat) (c : Cell) :
    (t.setCell p c).maxDepth = t.maxDepth := rfl
@[simp] theorem setCell_size (t : Tree) (p : Nat) (c : Cell) : (t.setCell p c).size = t.size := rfl
@[simp] theorem setCell_cells_size (t : Tree) (p : Nat) (c : Cell) :
    (t.setCell p c).cells.size = t.cells.size := by simp [setCell]

theorem cell_setCell_ne (t : Tree) (p q : Nat) (c : Cell) (h : p ≠ q) :
    (t.setCell p c).cell q = t.cell q := by
  rw [cell_setCell, if_neg (fun hh => h hh.1)]

theorem cell_setCell_self (t : Tree) (p : Nat) (c : Cell) (h : p < t.cells.size) :
    (t.setCell p c).cell p = c := by
  rw [cell_setCell, if_pos ⟨rfl, h⟩]

theorem range'_split (lo mid hi : Nat) (h1 : lo ≤ mid) (h2 : mid ≤ hi) :
    List.range' lo (hi - lo) = List.range' lo (mid - lo) ++ List.range' mid (hi - mid) := by
  have e : hi - lo = (mid - lo) + (hi - mid) := by omega
  rw [e, ← List.range'_append_1]; congr 2; omega

theorem countRange_split (t : Tree) (lo mid hi : Nat) (h1 : lo ≤ mid) (h2 : mid ≤ hi) :
    t.countRange lo hi = t.countRange lo mid + t.countRange mid hi := by
  simp only [countRange, range'_split lo mid hi h1 h2, List.filter_append, List.length_append]

theorem countRange_one (t : Tree) (p : Nat) :
    t.countRange p (p + 1) = if t.isUnused p then 0 else 1 := by
  have : p + 1 - p = 1 := by omega
  simp only [countRange, this]
  cases h : t.isUnused p <;> simp [List.range', h]

theorem listRange_empty (t : Tree) (lo hi : Nat) (h : hi ≤ lo) : t.listRange lo hi = [] := by
  have : hi - lo = 0 := by omega
  simp [listRange, this]

theorem countRange_empty (t : Tree) (lo hi : Nat) (h : hi ≤ lo) : t.countRange lo hi = 0 := by
  have : hi - lo = 0 := by omega
  simp [countRange, this]

theorem countRange_le (t : Tree) (lo hi : Nat) : t.countRange lo hi ≤ hi - lo := by
  simp only [countRange]
  exact Nat.le_trans (List.length_filter_le _ _) (by simp)

/-- split a range at a slot `p` -/
theorem countRange_split3 (t : Tree) (lo p hi : Nat) (h1 : lo ≤ p) (h2 : p < hi) :
    t.countRange lo hi =
      t.countRange lo p + (if t.isUnused p then 0 else 1) + t.countRange (p + 1) hi := by
  rw [countRange_split t lo p hi h1 (by omega), countRange_split t p (p + 1) hi (by omega) (by omega),
    countRange_one]; omega

theorem countRange_congr (t t' : Tree) (lo hi : Nat)
    (h : ∀ p, lo ≤ p → p < hi → t'.cell p = t.cell p) : t'.countRange lo hi = t.countRange lo hi := by
  simp only [countRange]
  congr 1
  apply List.filter_congr
  intro p hp
  rw [List.mem_range'_1] at hp
  simp only [isUnused, h p hp.1 (by omega)]

theorem listRange_split (t : Tree) (lo mid hi : Nat) (h1 : lo ≤ mid) (h2 : mid ≤ hi) :
    t.listRange lo hi = t.listRange lo mid ++ t.listRange mid hi := by
  simp only [listRange, range'_split lo mid hi h1 h2, List.filterMap_append]

theorem listRange_none (t : Tree) (lo hi : Nat) (h : ∀ p, lo ≤ p → p < hi → t.cell p = none) :
    t.listRange lo hi = [] := by
  simp only [listRange, List.filterMap_eq_nil_iff, List.mem_range'_1]
  intro p hp
  exact h p hp.1 (by omega)

theorem listRange_one (t : Tree) (p : Nat) : t.listRange p (p + 1) = (t.cell p).toList := by
  have : p + 1 - p = 1 := by omega
  simp only [listRange, this]
  cases h : t.cell p <;> simp [List.range', h]

/-- a range cut at one of its slots -/
theorem listRange_at (t : Tree) {lo i hi : Nat} (h1 : lo ≤ i) (h2 : i < hi) :
    t.listRange lo hi = t.listRange lo i ++ ((t.cell i).toList ++ t.listRange (i + 1) hi) := by
  rw [listRange_split t lo i hi h1 (Nat.le_of_lt h2),
    listRange_split t i (i + 1) hi (Nat.le_succ i) h2, listRange_one]

theorem listRange_node (t : Tree) {lo i hi : Nat} {kv : Nat × Int} (h1 : lo ≤ i) (h2 : i < hi)
    (hc : t.cell i = some kv) : t.listRange lo hi = t.listRange lo i ++ kv :: t.listRange (i + 1) hi := by
  rw [listRange_at t h1 h2, hc]
  rfl

/-- a range with at most one used slot -/
theorem listRange_single (t : Tree) (lo hi x : Nat) (h1 : lo ≤ x) (h2 : x < hi)
    (hn : ∀ p, lo ≤ p → p < hi → p ≠ x → t.cell p = none) :
    t.listRange lo hi = (t.cell x).toList := by
  rw [listRange_at t h1 h2, listRange_none t lo x (fun p a b => hn p a (by omega) (by omega)),
    listRange_none t (x + 1) hi (fun p a b => hn p (by omega) b (by omega)), List.append_nil]
  rfl

/-- the first used slot of a range is the head of its list -/
theorem listRange_head (t : Tree) (u hi : Nat) (kv : Nat × Int) (h : u < hi)
    (hu : t.cell u = some kv) : t.listRange u hi = kv :: t.listRange (u + 1) hi := by
  rw [listRange_split t u (u + 1) hi (by omega) (by omega), listRange_one, hu]
  rfl

theorem listRange_congr (t t' : Tree) (lo hi : Nat)
    (h : ∀ p, lo ≤ p → p < hi → t'.cell p = t.cell p) : t'.listRange lo hi = t.listRange lo hi := by
  simp only [listRange]
  have key : ∀ l : List Nat, (∀ p ∈ l, t'.cell p = t.cell p) →
      l.filterMap t'.cell = l.filterMap t.cell := by
    intro l
    induction l with
    | nil => intro _; rfl
    | cons p l ih =>
      intro hl
      simp only [List.filterMap_cons, hl p (List.mem_cons_self ..)]
      rw [ih (fun q hq => hl q (List.mem_cons_of_mem _ hq))]
  apply key
  intro p hp
  rw [List.mem_range'_1] at hp
  exact h p hp.1 (by omega)

theorem mem_listRange (t : Tree) (lo hi : Nat) (kv : Nat × Int) :
    kv ∈ t.listRange lo hi ↔ ∃ p, lo ≤ p ∧ p < hi ∧ t.cell p = some kv := by
  simp only [listRange, List.mem_filterMap, List.mem_range'_1]
  constructor
  · rintro ⟨p, ⟨h1, h2⟩, h3⟩; exact ⟨p, h1, by omega, h3⟩
  · rintro ⟨p, h1, h2, h3⟩; exact ⟨p, ⟨h1, by omega⟩, h3⟩

theorem length_listRange (t : Tree) (lo hi : Nat) : (t.listRange lo hi).length = t.countRange lo hi := by
  simp only [listRange, countRange]
  generalize List.range' lo (hi - lo) = l
  induction l with
  | nil => rfl
  | cons p l ih =>
    simp only [List.filterMap_cons, List.filter_cons, isUnused]
    cases h : t.cell p <;> simp [ih, isUnused]

/-! ## `FrameOn` -/

theorem frameOn_refl (t : Tree) (lo hi : Nat) : t.FrameOn t lo hi :=
  ⟨rfl, rfl, rfl, rfl, fun _ _ => rfl⟩

theorem frameOn_setCell (t : Tree) {lo p hi : Nat} (h1 : lo ≤ p) (h2 : p ≤ hi) (c : Cell) :
    t.FrameOn (t.setCell p c) lo hi :=
  ⟨rfl, rfl, rfl, setCell_cells_size t p c, fun q hq => cell_setCell_ne t p q c (by omega)⟩

theorem frameOn_trans {t t1 t2 : Tree} {lo hi lo1 hi1 lo2 hi2 : Nat} (h1 : t.FrameOn t1 lo1 hi1)
    (h2 : t1.FrameOn t2 lo2 hi2) (a1 : lo ≤ lo1) (a2 : lo ≤ lo2) (b1 : hi1 ≤ hi) (b2 : hi2 ≤ hi) :
    t.FrameOn t2 lo hi :=
  ⟨h2.1.trans h1.1, h2.2.1.trans h1.2.1, h2.2.2.1.trans h1.2.2.1, h2.2.2.2.1.trans h1.2.2.2.1,
    fun p hp => (h2.2.2.2.2 p (by omega)).trans (h1.2.2.2.2 p (by omega))⟩

/-- `count_used_in_subtree` counts the slots `i - (o-1) … i + (o-1)` -/
theorem countUsedInSubtree_eq (t : Tree) (i o : Nat) (ho : 0 < o) (hi : o ≤ i) :
    t.countUsedInSubtree ⟨i, o⟩ = t.countRange (i - (o - 1)) (i + o) := by
  simp only [countUsedInSubtree]; congr 1; omega

/-- the range of the parent `(i+o, 2o)` of a LEFT child `(i, o)`: the child's range, the parent
    slot `i+o`, the range of the brother `(i+2o, o)` -/
theorem countRange_parent_left (t : Tree) (i o : Nat) (ho : 0 < o) (hi : o ≤ i) :
    t.countRange (i + o - (2 * o - 1)) (i + o + 2 * o) =
      t.countRange (i - (o - 1)) (i + o) + (if t.isUnused (i + o) then 0 else 1)
        + t.countRange (i + 2 * o - (o - 1)) (i + 2 * o + o) := by
  rw [countRange_split3 t (i + o - (2 * o - 1)) (i + o) (i + o + 2 * o) (Nat.sub_le _ _)
    (Nat.lt_add_of_pos_right (Nat.mul_pos (by decide) ho))]
  have e1 : i + o - (2 * o - 1) = i - (o - 1) := by omega
  have e2 : i + o + 1 = i + 2 * o - (o - 1) := by omega
  rw [e1, e2, Nat.add_right_comm i o (2 * o)]

/-- the range of the parent `(i-o, 2o)` of a RIGHT child `(i, o)` (`3o ≤ i`): the range of the
    brother `(i-2o, o)`, the parent slot `i-o`, the child's range -/
theorem countRange_parent_right (t : Tree) (i o : Nat) (ho : 0 < o) (hi : 3 * o ≤ i) :
    t.countRange (i - o - (2 * o - 1)) (i - o + 2 * o) =
      t.countRange (i - 2 * o - (o - 1)) (i - 2 * o + o) + (if t.isUnused (i - o) then 0 else 1)
        + t.countRange (i - (o - 1)) (i + o) := by
  rw [countRange_split3 t (i - o - (2 * o - 1)) (i - o) (i - o + 2 * o) (Nat.sub_le _ _)
    (Nat.lt_add_of_pos_right (Nat.mul_pos (by decide) ho))]
  have e1 : i - o - (2 * o - 1) = i - 2 * o - (o - 1) := by
    rw [Nat.sub_sub, Nat.sub_sub]; congr 1; omega
  have e2 : i - o + 1 = i - (o - 1) := by omega
  have e3 : i - o + 2 * o = i + o := by omega
  have e4 : i - 2 * o + o = i - o := by omega
  rw [e1, e2, e3, e4]

/-- the parent of a node is `(i+o, 2o)` (left child) or `(i-o, 2o)` (right child, `3o ≤ i`) -/
theorem IsNode.parent_cases {t : Tree} {i o : Nat} (hs : t.Shape) (hn : t.IsNode i o) :
    (TIt.getParent ⟨i, o⟩ = ⟨i + o, 2 * o⟩ ∧ (o ≠ t.rs / 2 + 1 → t.isRightChild ⟨i, o⟩ = false)) ∨
    (TIt.getParent ⟨i, o⟩ = ⟨i - o, 2 * o⟩ ∧ 3 * o ≤ i ∧
      (o ≠ t.rs / 2 + 1 → t.isRightChild ⟨i, o⟩ = true)) := by
  obtain ⟨h, m, a, b, _, _, him, _, _, _, _, _, hopos, _⟩ := hn.lin hs
  rcases Nat.mod_two_eq_zero_or_one m with hm | hm
  · left
    refine ⟨(step_left hopos him hm).1, fun hne => ?_⟩
    cases hx : t.isRightChild ⟨i, o⟩ with
    | false => rfl
    | true => have := (isRightChild_iff hopos him hne).mp hx; omega
  · right
    have := step_right hopos him hm
    exact ⟨this.1, this.2.2.2, fun hne => (isRightChild_iff hopos him hne).mpr hm⟩

/-! ## `skipDown`, `skipUp` -/

theorem skipDown_le (t : Tree) : ∀ p, t.skipDown p ≤ p
  | 0 => by simp [skipDown]
  | p + 1 => by
    unfold skipDown
    by_cases h : t.isUnused (p + 1) = true
    · simp only [h, if_true]; have := skipDown_le t p; omega
    · simp [h]

theorem skipDown_between (t : Tree) : ∀ p q, t.skipDown p < q → q ≤ p → t.isUnused q = true
  | 0, q, h1, h2 => by omega
  | p + 1, q, h1, h2 => by
    unfold skipDown at h1
    by_cases h : t.isUnused (p + 1) = true
    · simp only [h, if_true] at h1
      by_cases hq : q = p + 1
      · rw [hq]; exact h
      · exact skipDown_between t p q h1 (by omega)
    · simp only [h] at h1
      simp at h1; omega

/-- a used slot `q ≤ p` stops the downward scan at or above `q`, on a used slot -/
theorem skipDown_ge (t : Tree) {p q : Nat} (hq : q ≤ p) (hu : t.isUnused q = false) :
    q ≤ t.skipDown p ∧ t.isUnused (t.skipDown p) = false := by
  induction p with
  | zero =>
    have : q = 0 := by omega
    subst this; simp [skipDown, hu]
  | succ p ih =>
    unfold skipDown
    by_cases h : t.isUnused (p + 1) = true
    · simp only [h, if_true]
      by_cases hq' : q = p + 1
      · rw [hq'] at hu; rw [hu] at h; cases h
      · exact ih (by omega)
    · simp only [h]
      simp only [Bool.not_eq_true] at h
      simp [h]; exact hq

theorem skipUpAux_spec (t : Tree) : ∀ f p,
    p ≤ t.skipUpAux f p ∧ t.skipUpAux f p ≤ p + f ∧
    (∀ q, p ≤ q → q < t.skipUpAux f p → t.isUnused q = true) ∧
    (t.skipUpAux f p < p + f → t.isUnused (t.skipUpAux f p) = false)
  | 0, p => by
    simp only [skipUpAux]
    exact ⟨Nat.le_refl _, by omega, fun q a b => by omega, fun h => by omega⟩
  | f + 1, p => by
    unfold skipUpAux
    by_cases h : t.isUnused p = true
    · simp only [h, if_true]
      obtain ⟨r1, r2, r3, r4⟩ := skipUpAux_spec t f (p + 1)
      refine ⟨by omega, by omega, ?_, fun hh => r4 (by omega)⟩
      intro q hq1 hq2
      by_cases hq : q = p
      · rw [hq]; exact h
      · exact r3 q (by omega) hq2
    · simp only [h]
      simp only [Bool.not_eq_true] at h
      simp [h]
      intro q a b; omega

/-- a used slot `q ≥ p`, `q ≤ rs`, stops the upward scan at or below `q`, on a used slot -/
theorem skipUp_le (t : Tree) {p q : Nat} (hq : p ≤ q) (hq2 : q ≤ t.rs) (hu : t.isUnused q = false) :
    p ≤ t.skipUp p ∧ t.skipUp p ≤ q ∧ t.isUnused (t.skipUp p) = false ∧
    ∀ x, p ≤ x → x < t.skipUp p → t.isUnused x = true := by
  unfold skipUp
  obtain ⟨r1, r2, r3, r4⟩ := skipUpAux_spec t (t.rs + 1 - p) p
  have hle : t.skipUpAux (t.rs + 1 - p) p ≤ q := by
    rcases Nat.lt_or_ge q (t.skipUpAux (t.rs + 1 - p) p) with hl | hg
    · have := r3 q hq hl
      rw [hu] at this; cases this
    · exact hg
  exact ⟨r1, hle, r4 (by omega), r3⟩

/-- the downward scan stops on the sentinel slot `0` or on a used slot -/
theorem skipDown_used (t : Tree) : ∀ p, t.skipDown p = 0 ∨ t.isUnused (t.skipDown p) = false
  | 0 => Or.inl rfl
  | p + 1 => by
    unfold skipDown
    by_cases h : t.isUnused (p + 1) = true
    · rw [if_pos h]; exact skipDown_used t p
    · rw [if_neg h]; exact Or.inr (by simpa using h)

/-- `while (indexes[p] == unused_index) ++p;` from `p ≤ rs + 1` -/
theorem skipUp_spec (t : Tree) (p : Nat) (hp : p ≤ t.rs + 1) :
    p ≤ t.skipUp p ∧ t.skipUp p ≤ t.rs + 1 ∧
    (∀ q, p ≤ q → q < t.skipUp p → t.isUnused q = true) ∧
    (t.skipUp p ≤ t.rs → t.isUnused (t.skipUp p) = false) := by
  unfold skipUp
  obtain ⟨r1, r2, r3, r4⟩ := skipUpAux_spec t (t.rs + 1 - p) p
  exact ⟨r1, by omega, r3, fun h => r4 (by omega)⟩

/-- with the marker `indexes[rs + 1]` in place the upward scan ends on a used slot -/
theorem skipUp_used (t : Tree) (p : Nat) (hp : p ≤ t.rs + 1) (hs : t.isUnused (t.rs + 1) = false) :
    t.isUnused (t.skipUp p) = false := by
  obtain ⟨_, h2, _, h4⟩ := skipUp_spec t p hp
  rcases Nat.lt_or_ge t.rs (t.skipUp p) with h | h
  · rw [show t.skipUp p = t.rs + 1 by omega]; exact hs
  · exact h4 h

/-- the subtree of the parent contains the subtree of the node -/
theorem IsNode.parent_contains {t : Tree} {i o : Nat} (hs : t.Shape) (hn : t.IsNode i o) :
    (TIt.getParent ⟨i, o⟩).i - (2 * o - 1) ≤ i - (o - 1) ∧
    i + (o - 1) ≤ (TIt.getParent ⟨i, o⟩).i + (2 * o - 1) := by
  obtain ⟨ho, hi, -⟩ := hn.bounds hs
  rcases hn.parent_cases hs with ⟨e, -⟩ | ⟨e, g, -⟩
  · rw [e]; show i + o - (2 * o - 1) ≤ i - (o - 1) ∧ i + (o - 1) ≤ i + o + (2 * o - 1); omega
  · rw [e]; show i - o - (2 * o - 1) ≤ i - (o - 1) ∧ i + (o - 1) ≤ i - o + (2 * o - 1); omega

end Tree

end PPLV.COTree

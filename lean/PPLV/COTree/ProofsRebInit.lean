import PPLV.COTree.ProofsRebNav

/-!
# `init` builds the empty tree
-/
namespace PPLV.COTree.FillB
open Tree

@[simp] theorem setCell_rs (t : Tree) (p : Nat) (c : Cell) : (t.setCell p c).rs = t.rs := rfl
@[simp] theorem setCell_size (t : Tree) (p : Nat) (c : Cell) : (t.setCell p c).size = t.size := rfl
@[simp] theorem setCell_maxDepth (t : Tree) (p : Nat) (c : Cell) :
    (t.setCell p c).maxDepth = t.maxDepth := rfl

theorem cell_setCell_self (t : Tree) (p : Nat) (c : Cell) (h : p < t.cells.size) :
    (t.setCell p c).cell p = c :=
  Tree.cell_setCell_self t p c h

/-! ## `countRange` -/

theorem countRange_split (t : Tree) (lo mid hi : Nat) (h1 : lo ≤ mid) (h2 : mid ≤ hi) :
    t.countRange lo hi = t.countRange lo mid + t.countRange mid hi :=
  Tree.countRange_split t lo mid hi h1 h2

theorem countRange_congr (t t' : Tree) (lo hi : Nat)
    (h : ∀ p, lo ≤ p → p < hi → t'.cell p = t.cell p) : t'.countRange lo hi = t.countRange lo hi :=
  Tree.countRange_congr t t' lo hi h

theorem countRange_le (t : Tree) (lo hi : Nat) : t.countRange lo hi ≤ hi - lo :=
  Tree.countRange_le t lo hi

/-! ## `init` -/

theorem init_pos (n : Nat) (hn : n ≠ 0) :
    (init n).rs = 2 ^ (integerLog2 n n + 1) - 1 ∧ (init n).maxDepth = integerLog2 n n + 1 ∧
    (init n).size = 0 ∧ (init n).cells.size = (init n).rs + 2 ∧
    (init n).cell 0 = sentinel ∧ (init n).cell ((init n).rs + 1) = sentinel ∧
    ∀ p, 1 ≤ p → p ≤ (init n).rs → (init n).cell p = none := by
  have e : init n = ⟨2 ^ (integerLog2 n n + 1) - 1, integerLog2 n n + 1, 0,
      ((Array.replicate (2 ^ (integerLog2 n n + 1) - 1 + 2) none).setIfInBounds 0
        sentinel).setIfInBounds (2 ^ (integerLog2 n n + 1) - 1 + 1) sentinel⟩ := by
    unfold init
    rw [if_neg hn]
  rw [e]
  dsimp only
  have hR : 1 ≤ 2 ^ (integerLog2 n n + 1) := Nat.one_le_two_pow
  generalize 2 ^ (integerLog2 n n + 1) = R at hR ⊢
  refine ⟨rfl, rfl, rfl, by simp, ?_, ?_, ?_⟩
  · rw [cell_eq]
    simp
  · rw [cell_eq]
    simp
  · intro p h1 h2
    rw [cell_eq]
    simp only [Array.getElem?_setIfInBounds]
    have a : ¬ (R - 1 + 1 = p) := by omega
    have b : ¬ (0 = p) := by omega
    simp only [a, b, if_false]
    rw [Array.getElem?_replicate]
    split <;> rfl

/-- `integer_log2(2^k - 1) = k - 1` -/
theorem integerLog2_pow_sub_one (k : Nat) (hk : 1 ≤ k) :
    integerLog2 (2 ^ k - 1) (2 ^ k - 1) + 1 = k := by
  have hp : 1 ≤ 2 ^ k - 1 := by
    have : 2 ^ 1 ≤ 2 ^ k := Nat.pow_le_pow_right (by omega) hk
    omega
  have hs := integerLog2_spec (2 ^ k - 1) (2 ^ k - 1) hp (Nat.le_refl _)
  generalize integerLog2 (2 ^ k - 1) (2 ^ k - 1) = m at hs
  have h1 : m < k := by
    rcases Nat.lt_or_ge m k with h | h
    · exact h
    · have : 2 ^ k ≤ 2 ^ m := Nat.pow_le_pow_right (by omega) h
      omega
  have h2 : k < m + 2 := by
    rcases Nat.lt_or_ge k (m + 2) with h | h
    · exact h
    · have : 2 ^ (m + 2) ≤ 2 ^ k := Nat.pow_le_pow_right (by omega) h
      have : 2 ^ (m + 2) = 2 * 2 ^ (m + 1) := by rw [Nat.pow_succ]; omega
      omega
  omega

/-- `init (2^k - 1)` is the empty tree with `2^k - 1` slots -/
theorem init_pow (k : Nat) (hk : 2 ≤ k) :
    (init (2 ^ k - 1)).Shape ∧ (init (2 ^ k - 1)).rs = 2 ^ k - 1 ∧
    (init (2 ^ k - 1)).maxDepth = k ∧ (init (2 ^ k - 1)).size = 0 ∧
    ∀ p, 1 ≤ p → p ≤ 2 ^ k - 1 → (init (2 ^ k - 1)).cell p = none := by
  have h4 : 2 ^ 2 ≤ 2 ^ k := Nat.pow_le_pow_right (by omega) hk
  have hn : 2 ^ k - 1 ≠ 0 := by omega
  obtain ⟨h1, h2, h3, h5, h6, h7, h8⟩ := init_pos (2 ^ k - 1) hn
  have hl := integerLog2_pow_sub_one k (by omega)
  rw [hl] at h1 h2
  refine ⟨⟨?_, ?_, h5, h6, h7⟩, h1, h2, h3, ?_⟩
  · rw [h1, h2]
  · omega
  · intro p hp1 hp2
    exact h8 p hp1 (by omega)

end PPLV.COTree.FillB

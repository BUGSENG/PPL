import PPLV.COTree.RebalanceHint
import PPLV.COTree.ProofsRebInsert
import PPLV.COTree.ProofsRebSinkBasic
import PPLV.COTree.ProofsRebBridge
import PPLV.COTree.ProofsBisect

/-!
# the hinted insertions: `bisect_near` on the real array and the choice of the node

`near_spec`: for a valid hint, `bisect_near` ends on a used slot holding `key` when `key` is stored,
otherwise on an in-order neighbour of `key` (`Brackets c1 c1 key`).
`hintNode_spec`: the node handed to `insert_precise` is a used neighbour of `key` that is a leaf or
whose child on the side of `key` is unused.
-/
namespace PPLV.COTree
open Tree

/-- the node `it` is a used in-order neighbour of the (not stored) `key`, a leaf or with a free
    child on the side of `key`: what `insertPrecise_spec` asks for -/
def NodeOK (t : Tree) (key : Nat) (it : TIt) : Prop :=
  t.IsNode it.i it.offset ∧ t.isUnused it.i = false ∧ t.keyAt it.i ≠ key ∧ t.Brackets it.i it.i key ∧
  (it.isLeaf = false →
    t.isUnused (if key < t.keyAt it.i then it.getLeftChild else it.getRightChild).i = true)

theorem nodeOK_left {t : Tree} {key c o : Nat} (hn : t.IsNode c o) (hu : t.isUnused c = false)
    (hk : key < t.keyAt c) (hbr : t.Brackets c c key)
    (hch : o ≠ 1 → t.isUnused (c - o / 2) = true) : NodeOK t key ⟨c, o⟩ := by
  refine ⟨hn, hu, by show t.keyAt c ≠ key; omega, hbr, fun hl => ?_⟩
  have ho1 : o ≠ 1 := by simpa [TIt.isLeaf] using hl
  show t.isUnused (if key < t.keyAt c then (⟨c, o⟩ : TIt).getLeftChild
    else (⟨c, o⟩ : TIt).getRightChild).i = true
  rw [if_pos hk]
  exact hch ho1

theorem nodeOK_right {t : Tree} {key c o : Nat} (hn : t.IsNode c o) (hu : t.isUnused c = false)
    (hk : t.keyAt c < key) (hbr : t.Brackets c c key)
    (hch : o ≠ 1 → t.isUnused (c + o / 2) = true) : NodeOK t key ⟨c, o⟩ := by
  refine ⟨hn, hu, by show t.keyAt c ≠ key; omega, hbr, fun hl => ?_⟩
  have ho1 : o ≠ 1 := by simpa [TIt.isLeaf] using hl
  show t.isUnused (if key < t.keyAt c then (⟨c, o⟩ : TIt).getLeftChild
    else (⟨c, o⟩ : TIt).getRightChild).i = true
  rw [if_neg (by omega)]
  exact hch ho1

/-- a used slot holds a key that is stored -/
theorem stored_of_used {t : Tree} {p : Nat} (h1 : 1 ≤ p) (h2 : p ≤ t.rs) (hu : t.isUnused p = false) :
    SMap.stored t.toList (t.keyAt p) = true :=
  (stored_iff t _).2 ⟨p, t.valAt p, h1, h2, cell_eq_of_used hu⟩

/-- **`bisect_near`** on the real `indexes[]` from a valid hint -/
theorem near_spec (t : Tree) (hsorted : SMap.Sorted t.toList) (h key : Nat)
    (hh1 : 1 ≤ h) (hh2 : h ≤ t.rs) (hhu : t.isUnused h = false) :
    1 ≤ t.toHoleArray.bisectNear h key ∧ t.toHoleArray.bisectNear h key ≤ t.rs ∧
    t.isUnused (t.toHoleArray.bisectNear h key) = false ∧
    (SMap.stored t.toList key = true → t.keyAt (t.toHoleArray.bisectNear h key) = key) ∧
    (SMap.stored t.toList key = false →
      t.keyAt (t.toHoleArray.bisectNear h key) ≠ key ∧
      t.Brackets (t.toHoleArray.bisectNear h key) (t.toHoleArray.bisectNear h key) key) := by
  obtain ⟨n1, n2, n3⟩ := HoleArray.bisectNear_spec t.toHoleArray (sortedUsed_of_sorted t hsorted)
    ((toHoleArray_used t h).mpr ⟨hh1, hh2, hhu⟩) key
  generalize t.toHoleArray.bisectNear h key = c at n1 n2 n3 ⊢
  obtain ⟨c1, c2, c3⟩ := (toHoleArray_used t c).mp n1
  have hkc := toHoleArray_key t c n1
  have hcs := sorted_cells hsorted
  have hcc := cell_eq_of_used c3
  refine ⟨c1, c2, c3, fun hst => ?_, fun hst => ?_⟩
  · rw [← hkc]; exact n2 ((has_iff_stored t key).mpr hst)
  · have hnh : ¬ t.toHoleArray.has key := by
      intro hc; rw [(has_iff_stored t key).mp hc] at hst; cases hst
    have hadj := n3 hnh
    -- a used slot never holds `key`
    have hne : ∀ p kv, 1 ≤ p → p ≤ t.rs → t.cell p = some kv → kv.1 ≠ key := by
      intro p kv p1 p2 hc he
      have : SMap.stored t.toList key = true :=
        (stored_iff t key).2 ⟨p, kv.2, p1, p2, by rw [hc, ← he]⟩
      rw [this] at hst; cases hst
    have hkq : ∀ p kv, 1 ≤ p → p ≤ t.rs → t.cell p = some kv →
        t.toHoleArray.used p ∧ t.toHoleArray.key p = kv.1 := by
      intro p kv p1 p2 hc
      have hu : t.isUnused p = false := (isUnused_false_iff t p).mpr ⟨kv, hc⟩
      have hup := (toHoleArray_used t p).mpr ⟨p1, p2, hu⟩
      exact ⟨hup, by rw [toHoleArray_key t p hup, keyAt_of_cell hc]⟩
    unfold HoleArray.adjacent at hadj
    rw [hkc] at hadj
    rcases hadj with ⟨a1, a2⟩ | ⟨a1, a2⟩
    · refine ⟨by omega, ?_, ?_⟩
      · intro p kv p1 p2 hc
        have := hcs p c kv _ p1 p2 c2 hc hcc
        simp only at this; omega
      · intro p kv p1 p2 hc
        have hlt := hcs c p _ kv c1 p1 p2 hcc hc
        simp only at hlt
        have hne' := hne p kv (by omega) p2 hc
        obtain ⟨q1, q2⟩ := hkq p kv (by omega) p2 hc
        rcases Nat.lt_or_ge key kv.1 with hl | hg
        · exact hl
        · have := a2 p q1 (by rw [q2]; omega)
          rw [q2] at this; omega
    · refine ⟨by omega, ?_, ?_⟩
      · intro p kv p1 p2 hc
        have hlt := hcs p c kv _ p1 p2 c2 hc hcc
        simp only at hlt
        have hne' := hne p kv p1 (by omega) hc
        obtain ⟨q1, q2⟩ := hkq p kv p1 (by omega) hc
        rcases Nat.lt_or_ge kv.1 key with hl | hg
        · exact hl
        · have := a2 p q1 (by rw [q2]; omega)
          rw [q2] at this; omega
      · intro p kv p1 p2 hc
        have := hcs c p _ kv c1 p1 p2 hcc hc
        simp only at this; omega

/-- Two used slots `a < b` with no used slot between them: the deeper of the two (the smaller
    offset; the offsets of in-order neighbours differ) has no used child on the side of the other. -/
theorem free_child_between {t : Tree} {a oa b ob : Nat} (hs : t.Shape) (na : t.IsNode a oa)
    (nb : t.IsNode b ob) (hab : a < b) (hbet : ∀ p, a < p → p < b → t.isUnused p = true) :
    (oa ≤ ob → oa ≠ 1 → t.isUnused (a + oa / 2) = true) ∧
    (ob ≤ oa → ob ≠ 1 → t.isUnused (b - ob / 2) = true) := by
  have hba := na.bounds hs
  have hbb := nb.bounds hs
  constructor
  · intro hle ho1
    obtain ⟨o', k1, k2, k3, -⟩ := na.kids hs ho1
    cases hx : t.isUnused (a + oa / 2) with
    | true => rfl
    | false =>
      have hge : b ≤ a + oa / 2 := by
        rcases Nat.lt_or_ge (a + oa / 2) b with hl | hg
        · rw [hbet _ (by omega) hl] at hx; cases hx
        · exact hg
      have := (na.nest nb (by omega) (by omega)).2.2.2 (by omega)
      omega
  · intro hle ho1
    obtain ⟨o', k1, k2, k3, -, k5, -⟩ := nb.kids hs ho1
    cases hx : t.isUnused (b - ob / 2) with
    | true => rfl
    | false =>
      have hge : b - ob / 2 ≤ a := by
        rcases Nat.lt_or_ge a (b - ob / 2) with hl | hg
        · rw [hbet _ hl (by omega)] at hx; cases hx
        · exact hg
      have := (nb.nest na (by omega) (by omega)).2.2.2 (by omega)
      omega

/-- **the choice of the node** handed to `insert_precise` -/
theorem hintNode_spec (t : Tree) (hs : t.Shape) (c1 key : Nat) (h1 : 1 ≤ c1) (h2 : c1 ≤ t.rs)
    (hu1 : t.isUnused c1 = false) (hk1 : t.keyAt c1 ≠ key) (hbr : t.Brackets c1 c1 key) :
    NodeOK t key (hintNode t c1 key) := by
  obtain ⟨o1, e1, n1⟩ := ofIndex_node t h1 h2
  have hcc1 := cell_eq_of_used hu1
  unfold hintNode
  simp only
  by_cases hlt : key < t.keyAt c1
  · -- `candidate2` is the previous used slot
    simp only [hlt, if_true]
    have s1 := skipDown_le t (c1 - 1)
    have s2 := skipDown_between t (c1 - 1)
    have s3 := skipDown_used t (c1 - 1)
    generalize t.skipDown (c1 - 1) = c2 at s1 s2 s3 ⊢
    by_cases hc2 : c2 = 0 ∨ c2 > t.rs
    · rw [if_pos hc2, e1]
      refine nodeOK_left n1 hu1 hlt hbr (fun ho1 => ?_)
      obtain ⟨o', k1, k2, k3, _, k5, _⟩ := n1.kids hs ho1
      exact s2 (c1 - o1 / 2) (by omega) (by omega)
    · rw [if_neg hc2]
      obtain ⟨hc21, hc22, hc2lt⟩ : 1 ≤ c2 ∧ c2 ≤ t.rs ∧ c2 < c1 := by omega
      have hu2 : t.isUnused c2 = false := s3.resolve_left (by omega)
      obtain ⟨o2, e2, n2⟩ := ofIndex_node t hc21 hc22
      have hcc2 := cell_eq_of_used hu2
      have hbet : ∀ p, c2 < p → p < c1 → t.isUnused p = true := fun p a b => s2 p a (by omega)
      have hfree := free_child_between hs n2 n1 hc2lt hbet
      rw [e1, e2]
      simp only
      by_cases ho : o1 < o2
      · rw [if_pos ho]
        exact nodeOK_left n1 hu1 hlt hbr (hfree.2 (Nat.le_of_lt ho))
      · rw [if_neg ho]
        refine nodeOK_right n2 hu2 (hbr.1 c2 _ hc21 hc2lt hcc2) ⟨fun p kv p1 p2 hc =>
          hbr.1 p kv p1 (by omega) hc, fun p kv p1 p2 hc => ?_⟩ (hfree.1 (by omega))
        rcases Nat.lt_trichotomy p c1 with hp | hp | hp
        · have := hbet p p1 hp
          rw [(isUnused_false_iff t p).mpr ⟨kv, hc⟩] at this; cases this
        · subst hp; rw [hcc1] at hc; cases hc; exact hlt
        · exact hbr.2 p kv hp p2 hc
  · -- `candidate2` is the next used slot
    have hgt : t.keyAt c1 < key := by omega
    simp only [hlt, if_false]
    obtain ⟨s1, s2, s3, s4⟩ := skipUp_spec t (c1 + 1) (by omega)
    generalize t.skipUp (c1 + 1) = c2 at s1 s2 s3 s4 ⊢
    by_cases hc2 : c2 = 0 ∨ c2 > t.rs
    · rw [if_pos hc2, e1]
      refine nodeOK_right n1 hu1 hgt hbr (fun ho1 => ?_)
      obtain ⟨o', k1, k2, k3, _, k5, _⟩ := n1.kids hs ho1
      have hb1 := n1.bounds hs
      exact s3 (c1 + o1 / 2) (by omega) (by omega)
    · rw [if_neg hc2]
      obtain ⟨hc21, hc22, hc2gt⟩ : 1 ≤ c2 ∧ c2 ≤ t.rs ∧ c1 < c2 := by omega
      have hu2 : t.isUnused c2 = false := s4 hc22
      obtain ⟨o2, e2, n2⟩ := ofIndex_node t hc21 hc22
      have hcc2 := cell_eq_of_used hu2
      have hbet : ∀ p, c1 < p → p < c2 → t.isUnused p = true := fun p a b => s3 p (by omega) b
      have hfree := free_child_between hs n1 n2 hc2gt hbet
      rw [e1, e2]
      simp only
      by_cases ho : o1 < o2
      · rw [if_pos ho]
        exact nodeOK_right n1 hu1 hgt hbr (hfree.1 (Nat.le_of_lt ho))
      · rw [if_neg ho]
        refine nodeOK_left n2 hu2 (hbr.2 c2 _ hc2gt hc22 hcc2) ⟨fun p kv p1 p2 hc => ?_,
          fun p kv p1 p2 hc => hbr.2 p kv (by omega) p2 hc⟩ (hfree.2 (by omega))
        rcases Nat.lt_trichotomy p c1 with hp | hp | hp
        · exact hbr.1 p kv p1 hp hc
        · subst hp; rw [hcc1] at hc; cases hc; exact hgt
        · have := hbet p hp p2
          rw [(isUnused_false_iff t p).mpr ⟨kv, hc⟩] at this; cases this

end PPLV.COTree

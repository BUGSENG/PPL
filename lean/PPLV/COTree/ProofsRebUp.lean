import PPLV.COTree.ProofsRebNav

/-!
# consequences of sortedness and of `UpClosed` on the in-order layout
-/
namespace PPLV.COTree
namespace Tree

/-! ## cells -/

theorem isUnused_true_iff (t : Tree) (p : Nat) : t.isUnused p = true ↔ t.cell p = none := by
  simp [isUnused]

theorem isUnused_false_iff (t : Tree) (p : Nat) : t.isUnused p = false ↔ ∃ kv, t.cell p = some kv := by
  cases h : t.cell p <;> simp [isUnused, h]

theorem keyAt_of_cell {t : Tree} {p : Nat} {kv : Nat × Int} (h : t.cell p = some kv) :
    t.keyAt p = kv.1 := by
  simp [keyAt, h]

theorem valAt_of_cell {t : Tree} {p : Nat} {kv : Nat × Int} (h : t.cell p = some kv) :
    t.valAt p = kv.2 := by
  simp [valAt, h]

theorem cell_eq_of_used {t : Tree} {p : Nat} (h : t.isUnused p = false) :
    t.cell p = some (t.keyAt p, t.valAt p) := by
  obtain ⟨kv, hkv⟩ := (isUnused_false_iff t p).mp h
  rw [keyAt_of_cell hkv, valAt_of_cell hkv, hkv]

/-- keys increase with the slot -/
def CellsSorted (t : Tree) : Prop :=
  ∀ p q kv kw, 1 ≤ p → p < q → q ≤ t.rs → t.cell p = some kv → t.cell q = some kw → kv.1 < kw.1

/-- the bridge from the in-order listing to the slots -/
theorem sorted_cells {t : Tree} (h : SMap.Sorted t.toList) : t.CellsSorted := by
  intro p q kv kw h1 h2 h3 hp hq
  have e : t.toList = t.listRange 1 q ++ t.listRange q (t.rs + 1) :=
    listRange_split t 1 q (t.rs + 1) (by omega) (by omega)
  unfold SMap.Sorted at h
  rw [e, List.pairwise_append] at h
  exact h.2.2 kv ((mem_listRange t 1 q kv).mpr ⟨p, h1, h2, hp⟩) kw
    ((mem_listRange t q (t.rs + 1) kw).mpr ⟨q, Nat.le_refl _, by omega, hq⟩)

/-! ## children of a non-leaf node -/

/-- a non-leaf node `(c, oc)`: `oc = 2 * o'`, the children `(c ∓ o', o')` are nodes whose parent
    is `(c, oc)` -/
theorem IsNode.kids {t : Tree} {c oc : Nat} (hs : t.Shape) (hn : t.IsNode c oc) (hl : oc ≠ 1) :
    ∃ o', oc = 2 * o' ∧ oc / 2 = o' ∧ 0 < o' ∧ o' < t.rs / 2 + 1 ∧ 2 * o' ≤ c ∧
      t.IsNode (c - o') o' ∧ t.IsNode (c + o') o' ∧
      TIt.getParent ⟨c - o', o'⟩ = ⟨c, oc⟩ ∧ TIt.getParent ⟨c + o', o'⟩ = ⟨c, oc⟩ ∧
      (∀ h, oc = 2 ^ (h + 1) → o' = 2 ^ h) := by
  have hb := hn.bounds hs
  obtain ⟨hk1, hk2, hk3⟩ := hn.children hs hl
  have hbl := hk1.bounds hs
  obtain ⟨h, m, ho, hi, _⟩ := hn
  refine ⟨oc / 2, by omega, rfl, hbl.1, by omega, by omega, hk1, hk2, ?_, ?_, ?_⟩
  · have := getParent_getLeftChild hbl.1 m
    rw [hk3, ← hi, getLeftChild_eq] at this
    exact this
  · have := getParent_getRightChild hbl.1 m
    rw [hk3, ← hi, getRightChild_eq] at this
    exact this
  · intro h' hh
    rw [hh, Nat.pow_succ']; omega

/-! ## `UpClosed` -/

/-- an unused node roots an empty subtree -/
theorem UpClosed.empty_subtree {t : Tree} (hs : t.Shape) (hup : t.UpClosed) :
    ∀ (h c oc : Nat), oc = 2 ^ h → t.IsNode c oc → t.isUnused c = true →
      ∀ p, c - (oc - 1) ≤ p → p ≤ c + (oc - 1) → t.cell p = none := by
  intro h
  induction h with
  | zero =>
    intro c oc ho _ hu p h1 h2
    simp only [Nat.pow_zero] at ho
    have : p = c := by omega
    rw [this]; exact (isUnused_true_iff t c).mp hu
  | succ h ih =>
    intro c oc ho hn hu p h1 h2
    have hpos := two_pow_pos' h
    have hl : oc ≠ 1 := by rw [ho, Nat.pow_succ']; omega
    obtain ⟨o', e1, _, hpos', hlt, hge, hkl, hkr, hpl, hpr, hpow⟩ := hn.kids hs hl
    have ho' := hpow h ho
    have hul : t.isUnused (c - o') = true := by
      cases hx : t.isUnused (c - o') with
      | true => rfl
      | false =>
        have := hup (c - o') o' hkl hx (by omega)
        rw [hpl] at this
        simp only at this
        rw [hu] at this; cases this
    have hur : t.isUnused (c + o') = true := by
      cases hx : t.isUnused (c + o') with
      | true => rfl
      | false =>
        have := hup (c + o') o' hkr hx (by omega)
        rw [hpr] at this
        simp only at this
        rw [hu] at this; cases this
    rcases Nat.lt_trichotomy p c with hlt' | heq | hgt
    · exact ih (c - o') o' ho' hkl hul p (by omega) (by omega)
    · rw [heq]; exact (isUnused_true_iff t c).mp hu
    · exact ih (c + o') o' ho' hkr hur p (by omega) (by omega)

theorem UpClosed.empty_subtree' {t : Tree} {c oc : Nat} (hs : t.Shape) (hup : t.UpClosed)
    (hn : t.IsNode c oc) (hu : t.isUnused c = true) :
    ∀ p, c - (oc - 1) ≤ p → p ≤ c + (oc - 1) → t.cell p = none := by
  obtain ⟨h, _, _, _, ho, _⟩ := hn.lin hs
  exact UpClosed.empty_subtree hs hup h c oc ho hn hu

/-- every node whose subtree contains a used slot is used -/
theorem UpClosed.used_of_mem {t : Tree} {j oj p : Nat} (hs : t.Shape) (hup : t.UpClosed)
    (hj : t.IsNode j oj) (h1 : j - (oj - 1) ≤ p) (h2 : p ≤ j + (oj - 1))
    (hp : t.isUnused p = false) : t.isUnused j = false := by
  cases hx : t.isUnused j with
  | false => rfl
  | true =>
    have := UpClosed.empty_subtree' hs hup hj hx p h1 h2
    rw [(isUnused_true_iff t p).mpr this] at hp; cases hp

/-- the ancestors of a used node are used -/
theorem UpClosed.ancestors_used {t : Tree} {i o j oj : Nat} (hs : t.Shape) (hup : t.UpClosed)
    (hn : t.IsNode i o) (hu : t.isUnused i = false) (hj : t.IsNode j oj)
    (h1 : j - (oj - 1) ≤ i - (o - 1)) (h2 : i + (o - 1) ≤ j + (oj - 1)) :
    t.isUnused j = false := by
  have hb := hn.bounds hs
  exact UpClosed.used_of_mem hs hup hj (by omega) (by omega) hu

end Tree

open Tree

/-- a non-empty up-closed tree has a used root -/
theorem root_used {t : Tree} (hs : t.Shape) (hup : t.UpClosed) (hc : 1 ≤ t.countRange 1 (t.rs + 1)) :
    t.isUnused (t.rs / 2 + 1) = false := by
  cases hx : t.isUnused (t.rs / 2 + 1) with
  | false => rfl
  | true =>
    have hodd := hs.rs_odd
    have hnone := UpClosed.empty_subtree' hs hup (IsNode.root hs) hx
    have : t.countRange 1 (t.rs + 1) = 0 := by
      rw [← length_listRange,
        listRange_none _ _ _ (fun p h1 h2 => hnone p (by omega) (by omega))]
      rfl
    omega

theorem brackets_root (t : Tree) (hs : t.Shape) (key : Nat) :
    t.Brackets (t.rs / 2 + 1 - (t.rs / 2 + 1 - 1)) (t.rs / 2 + 1 + (t.rs / 2 + 1 - 1)) key := by
  have hodd := hs.rs_odd
  constructor
  · intro p kv h1 h2; omega
  · intro p kv h1 h2; omega

end PPLV.COTree

import PPLV.COTree.ProofsRebNav
import Mathlib.Tactic.Ring

/-!
# a subtree by its first slot: frames, lists and the half/half layout

A subtree is described by its root `(i, o)`, `o = 2^h`, its first slot `lo` and `w = o - 1`
(`lo + w = i`): it occupies the slots `lo … i + w`; its children are `(il, q)` with `il + q = i`
and `(i + q, q)`, `o = 2 * q`.  Stated so, the index arithmetic of the loops that fill a subtree
(`fillLoop`, `redistLoop`) has no truncated subtraction.
-/
namespace PPLV.COTree
namespace Tree

/-- the children of the node `2q * (2m + 1)` are the nodes `q * (2(2m) + 1)` and `q * (2(2m+1) + 1)` -/
theorem node_children {q m i : Nat} (hi : i = 2 * q * (2 * m + 1)) :
    i = q * (2 * (2 * m) + 1) + q ∧ i + q = q * (2 * (2 * m + 1) + 1) := by
  subst hi
  constructor <;> ring

theorem parent_left {q m i il : Nat} (hq : 0 < q) (hi : i = 2 * q * (2 * m + 1)) (hil : il + q = i) :
    TIt.getParent ⟨il, q⟩ = ⟨i, 2 * q⟩ := by
  have h : il = q * (2 * (2 * m) + 1) := by have := (node_children hi).1; omega
  rw [getParent_even hq h (by omega), hil]

theorem parent_right {q m i : Nat} (hq : 0 < q) (hi : i = 2 * q * (2 * m + 1)) :
    TIt.getParent ⟨i + q, q⟩ = ⟨i, 2 * q⟩ := by
  rw [getParent_odd hq (node_children hi).2 (by omega), Nat.add_sub_cancel]

/-! ## `Balanced` -/

/-- a subtree with no used slot -/
theorem balanced_empty (t : Tree) {h w lo i : Nat} (hw : w + 1 = 2 ^ h) (hlo : lo + w = i)
    (hn : ∀ p, lo ≤ p → p ≤ i + w → t.cell p = none) : t.Balanced (h + 1) i 0 := by
  rw [Tree.Balanced, ← hw]
  exact Or.inl ⟨rfl, fun p h1 h2 => hn p (by omega) (by omega)⟩

/-- a used root over its two laid-out children; `nl`, `nr` are the two halves of the other
    `n - 1` elements, the left one the smaller -/
theorem balanced_node (t : Tree) {h q il i n nl nr : Nat} (hq : q = 2 ^ h) (hil : il + q = i)
    (hsum : nl + 1 + nr = n) (h1 : nl ≤ nr) (h2 : nr ≤ nl + 1)
    (hu : t.isUnused i = false) (hl : t.Balanced (h + 1) il nl)
    (hr : t.Balanced (h + 1) (i + q) nr) : t.Balanced (h + 1 + 1) i n := by
  rw [Tree.Balanced]
  have e : 2 ^ (h + 1) / 2 = q := by rw [hq, Nat.pow_succ]; omega
  rw [e, show i - q = il by omega, show (n + 1) / 2 - 1 = nl by omega, show n - (n + 1) / 2 = nr by omega]
  exact Or.inr ⟨by omega, hu, hl, hr⟩

/-- a subtree whose only used slot is its root -/
theorem balanced_one (t : Tree) {h w lo i : Nat} (hw : w + 1 = 2 ^ h) (hlo : lo + w = i)
    (hu : t.isUnused i = false)
    (hn : ∀ p, lo ≤ p → p ≤ i + w → p ≠ i → t.cell p = none) : t.Balanced (h + 1) i 1 := by
  cases h with
  | zero =>
    rw [Tree.Balanced]
    exact Or.inr ⟨by omega, hu, by rw [Tree.Balanced], by rw [Tree.Balanced]⟩
  | succ h =>
    have hp : 1 ≤ 2 ^ h := Nat.one_le_two_pow
    obtain ⟨wc, hwc⟩ : ∃ wc, wc + 1 = 2 ^ h := ⟨2 ^ h - 1, by omega⟩
    have e : w = wc + 2 ^ h := by rw [Nat.pow_succ] at hw; omega
    exact balanced_node t rfl (il := lo + wc) (by omega) rfl (Nat.le_refl 0) (Nat.le_succ 0) hu
      (balanced_empty t hwc rfl (fun p a b => hn p a (by omega) (by omega)))
      (balanced_empty t hwc (lo := i + 1) (by omega) (fun p a b => hn p (by omega) (by omega) (by omega)))

/-- `Balanced` reads only the slots of the subtree -/
theorem balanced_congr (t t' : Tree) : ∀ {h w lo j n : Nat}, w + 1 = 2 ^ h → lo + w = j →
    (∀ p, lo ≤ p → p ≤ j + w → t'.cell p = t.cell p) →
    t.Balanced (h + 1) j n → t'.Balanced (h + 1) j n
  | 0, w, lo, j, n, hw, hlo, hc, hb => by
    rw [Tree.Balanced] at hb ⊢
    rcases hb with ⟨h0, hnone⟩ | ⟨h0, hu, hl, hr⟩
    · exact Or.inl ⟨h0, fun p h1 h2 => by rw [hc p (by omega) (by omega)]; exact hnone p h1 h2⟩
    · refine Or.inr ⟨h0, ?_, ?_, ?_⟩
      · unfold Tree.isUnused at *
        rw [hc j (by omega) (by omega)]; exact hu
      · rw [Tree.Balanced] at hl ⊢; exact hl
      · rw [Tree.Balanced] at hr ⊢; exact hr
  | h + 1, w, lo, j, n, hw, hlo, hc, hb => by
    have hP : 1 ≤ 2 ^ h := Nat.one_le_two_pow
    obtain ⟨wc, hwc⟩ : ∃ wc, wc + 1 = 2 ^ h := ⟨2 ^ h - 1, by omega⟩
    have e : w = wc + 2 ^ h := by rw [Nat.pow_succ] at hw; omega
    rw [Tree.Balanced, ← hw] at hb
    rcases hb with ⟨h0, hnone⟩ | ⟨h0, hu, hl, hr⟩
    · subst h0
      exact balanced_empty t' hw hlo
        (fun p h1 h2 => by rw [hc p h1 h2]; exact hnone p (by omega) (by omega))
    · have e2 : (w + 1) / 2 = 2 ^ h := by omega
      rw [e2] at hl hr
      rw [show j - 2 ^ h = lo + wc by omega] at hl
      refine balanced_node t' rfl (il := lo + wc) (by omega) (by omega) (by omega) (by omega) ?_
        (balanced_congr t t' hwc rfl (fun p h1 h2 => hc p h1 (by omega)) hl)
        (balanced_congr t t' hwc (lo := j + 1) (by omega) (fun p h1 h2 => hc p (by omega) (by omega)) hr)
      unfold Tree.isUnused at *
      rw [hc j (by omega) (by omega)]; exact hu

/-- the half/half rule: `n ≥ 1` elements are a left part, the root and a right part that is larger by
    at most one; when `n` fits a subtree of radius `w = wc + q`, `wc + 1 = q`, each part fits a child -/
theorem half_split {n w wc q : Nat} (hn1 : 1 ≤ n) (hn : n ≤ 2 * w + 1) (hwc : wc + 1 = q)
    (hwq : w = wc + q) :
    ∃ nl nr, nl + 1 + nr = n ∧ nl ≤ nr ∧ nr ≤ nl + 1 ∧ nl ≤ 2 * wc + 1 ∧ nr ≤ 2 * wc + 1 :=
  ⟨(n + 1) / 2 - 1, n - (n + 1) / 2, by omega, by omega, by omega, by omega, by omega⟩

/-- a subtree written in three turns (left half, root, right half) is laid out half/half -/
theorem layout_node {t t1 t2 t3 : Tree} {h q wc w lo il i nl nr n : Nat} {ll lr : List (Nat × Int)}
    {kv : Nat × Int} (hq : q = 2 ^ h) (hwc : wc + 1 = q) (hwq : w = wc + q) (hlo : lo + w = i)
    (hil : il + q = i) (hsum : nl + 1 + nr = n) (hlr : nl ≤ nr) (hrl : nr ≤ nl + 1)
    (hfrl : t.FrameOn t1 lo (il + wc)) (hlistl : t1.listRange lo (il + wc + 1) = ll)
    (hball : t1.Balanced (h + 1) il nl)
    (hfr2 : t1.FrameOn t2 i i) (hself : t2.cell i = some kv)
    (hfrr : t2.FrameOn t3 (i + 1) (i + q + wc)) (hlistr : t3.listRange (i + 1) (i + q + wc + 1) = lr)
    (hbalr : t3.Balanced (h + 1) (i + q) nr) :
    t.FrameOn t3 lo (i + w) ∧ t3.listRange lo (i + w + 1) = ll ++ kv :: lr ∧
      t3.Balanced (h + 1 + 1) i n := by
  have h31 : ∀ p, p < i → t3.cell p = t1.cell p := fun p hp => by
    rw [hfrr.2.2.2.2 p (by omega), hfr2.2.2.2.2 p (by omega)]
  have h3i : t3.cell i = some kv := by rw [hfrr.2.2.2.2 i (by omega), hself]
  refine ⟨?_, ?_, ?_⟩
  · exact frameOn_trans (frameOn_trans hfrl hfr2 (Nat.le_refl lo) (by omega) (by omega) (Nat.le_refl i))
      hfrr (Nat.le_refl lo) (by omega) (by omega) (by omega)
  · rw [listRange_node t3 (lo := lo) (hi := i + w + 1) (by omega) (by omega) h3i,
      listRange_congr t1 t3 lo i (fun p _ b => h31 p b), show i + w + 1 = i + q + wc + 1 by omega,
      hlistr, show i = il + wc + 1 by omega, hlistl]
  · exact balanced_node t3 hq hil hsum hlr hrl (by unfold Tree.isUnused; rw [h3i]; rfl)
      (balanced_congr t1 t3 (lo := lo) (hwc.trans hq) (by omega) (fun p _ b => h31 p (by omega)) hball)
      hbalr

end Tree
end PPLV.COTree

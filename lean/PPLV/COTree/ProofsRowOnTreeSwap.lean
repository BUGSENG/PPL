import PPLV.COTree.ProofsRowOnTreeDelete

/-!
# `Sparse_Row::swap_coefficients(i, j)`

`swapCoefficients_ok_partial` has ONE extra hypothesis: `1 ≤ i ∧ 1 ≤ j`, or `InsertSlot0Spec`
(below): the iterator returned by `CO_Tree::insert(key)` points to a slot of
`1 … reserved_size`.  `InsertHinted0Spec` only says that the slot holds `(key, value)`, which for
`key = 0`, `value = 0` is also what the two sentinel slots hold; `swap_coefficients` writes through
that iterator (`swap(*itr_j, tmp)`).  For a key `≥ 1` the slot is a tree slot (`slot_valid`).
`ProofsRowOnTree.lean` proves `InsertSlot0Spec` and with it `swapCoefficients_ok` (no extra hypothesis).
-/
namespace PPLV.COTree
open PPLV.COTree.Tree

/-- the iterator returned by `CO_Tree::insert(key)` (no hint) on a valid tree is on a slot
    `1 … reserved_size`: the instance of `InsertSlotSpec` (`RebalanceHint.lean`) that
    `swap_coefficients` needs; proved in `ProofsRowOnTree.lean` (`RowT.insertSlot0Spec`) -/
def InsertSlot0Spec : Prop :=
  ∀ (t : Tree) (key : Nat) (t' : Tree) (it : TIt), (t = init 0 ∨ (t.Inv ∧ 1 ≤ t.size)) →
    insertHinted0 t none key = some (t', it) → 1 ≤ it.i ∧ it.i ≤ t'.rs

theorem insertSlot0Spec_of (h : InsertSlotSpec) : InsertSlot0Spec :=
  fun t key t' it hv hrun => h t none key 0 t' it hv (by intro p e; cases e) (Or.inl hrun)

namespace RowT

/-! ## list lemmas -/

theorem map_eq_set (k : Nat) (x : Int) : ∀ (m : SMap), SMap.Sorted m → (∃ v, (k, v) ∈ m) →
    m.map (fun kv => if kv.1 = k then (kv.1, x) else kv) = SMap.set m k x
  | [], _, ⟨v, h⟩ => by simp at h
  | (a, y) :: t, hs, ⟨v, h⟩ => by
    unfold SMap.set
    rcases List.mem_cons.1 h with e | e
    · cases e
      have h1 : ¬ k < k := Nat.lt_irrefl k
      simp only [List.map_cons, if_true, h1, if_false]
      congr 1
      calc List.map _ t = List.map id t := by
            apply List.map_congr_left
            intro p hp
            have := SMap.Sorted.head_lt hs p hp
            simp only at this
            have h2 : ¬ p.1 = k := by omega
            simp only [h2, if_false, id]
        _ = t := List.map_id _
    · have hlt := SMap.Sorted.head_lt hs (k, v) e
      simp only at hlt
      have h1 : ¬ k < a := by omega
      have h2 : ¬ k = a := by omega
      have h3 : ¬ a = k := by omega
      simp only [List.map_cons, h1, h2, h3, if_false]
      congr 1
      exact map_eq_set k x t (SMap.Sorted.tail hs) ⟨v, e⟩

theorem set_set (j : Nat) (u a : Int) : ∀ m : SMap,
    SMap.set (SMap.set m j u) j a = SMap.set m j a
  | [] => by simp [SMap.set]
  | (k, x) :: t => by
    by_cases h1 : j < k
    · simp [SMap.set, h1]
    · by_cases h2 : j = k
      · subst h2; simp [SMap.set]
      · simp [SMap.set, h1, h2, set_set j u a t]

theorem set_touch (m : SMap) (j : Nat) (a : Int) :
    SMap.set (SMap.touch m j) j a = SMap.set m j a := by
  unfold SMap.touch
  cases SMap.find? m j with
  | some v => rfl
  | none => exact set_set j 0 a m

/-! ## writing a value through an iterator -/

theorem putValue_ok (t : Tree) (q : Nat) (x : Int) (hinv : t.Inv) (q1 : 1 ≤ q) (q2 : q ≤ t.rs)
    (q3 : t.isUnused q = false) :
    (TRow.putValue t q x).Inv ∧ (TRow.putValue t q x).size = t.size ∧
    (TRow.putValue t q x).rs = t.rs ∧
    (TRow.putValue t q x).toList = SMap.set t.toList (t.keyAt q) x ∧
    (∀ p, (TRow.putValue t q x).isUnused p = t.isUnused p) ∧
    (∀ p, (TRow.putValue t q x).keyAt p = t.keyAt p) ∧
    (∀ p, p ≠ q → (TRow.putValue t q x).valAt p = t.valAt p) := by
  have hsh := hinv.shape
  have hsc := sorted_cells hinv.sorted
  have hcq := cell_eq_of_used q3
  have hqsz : q < t.cells.size := by rw [hsh.2.2.1]; omega
  have hcell : ∀ p, (TRow.putValue t q x).cell p = if p = q then some (t.keyAt q, x) else t.cell p := by
    intro p
    unfold TRow.putValue
    rw [Tree.cell_setCell]
    by_cases hp : p = q
    · rw [if_pos hp, if_pos ⟨hp.symm, hqsz⟩]
    · rw [if_neg hp, if_neg (fun h => hp h.1.symm)]
  have hmemq : (t.keyAt q, t.valAt q) ∈ t.toList :=
    (mem_listRange t 1 (t.rs + 1) _).2 ⟨q, q1, by omega, hcq⟩
  obtain ⟨hI, htl⟩ := inv_relabel t (TRow.putValue t q x)
    (fun kv => if kv.1 = t.keyAt q then (kv.1, x) else kv) hinv rfl rfl rfl
    (by unfold TRow.putValue; simp)
    (by
      intro p p1 p2
      rw [hcell p]
      by_cases hp : p = q
      · rw [if_pos hp, hp, hcq]; simp
      · rw [if_neg hp]
        cases hc : t.cell p with
        | none => rfl
        | some kv =>
          have hne : ¬ kv.1 = t.keyAt q := by
            rcases Nat.lt_or_gt_of_ne hp with h | h
            · have := hsc p q kv _ p1 h q2 hc hcq; simp only at this; omega
            · have := hsc q p _ kv q1 h p2 hcq hc; simp only at this; omega
          simp only [Option.map_some, hne, if_false])
    (by
      intro p hp
      rw [hcell p, if_neg (by omega)])
    (by
      rw [map_eq_set _ x _ hinv.sorted ⟨_, hmemq⟩]
      exact SMap.sorted_set _ _ _ hinv.sorted)
  refine ⟨hI, rfl, rfl, ?_, ?_, ?_, ?_⟩
  · rw [htl, map_eq_set _ x _ hinv.sorted ⟨_, hmemq⟩]
  · intro p
    unfold Tree.isUnused
    rw [hcell p]
    by_cases hp : p = q
    · rw [if_pos hp, hp, hcq]; rfl
    · rw [if_neg hp]
  · intro p
    unfold Tree.keyAt
    rw [hcell p]
    by_cases hp : p = q
    · rw [if_pos hp, hp, hcq]
    · rw [if_neg hp]
  · intro p hp
    unfold Tree.valAt
    rw [hcell p, if_neg hp]

/-- `CO_Tree::bisect(key)` on a non-empty valid tree -/
theorem bisect_slot (t : Tree) (hinv : t.Inv) (h1 : 1 ≤ t.size) (i : Nat) :
    1 ≤ t.toHoleArray.bisect i ∧ t.toHoleArray.bisect i ≤ t.rs ∧
    t.isUnused (t.toHoleArray.bisect i) = false ∧
    (SMap.stored t.toList i = true → t.keyAt (t.toHoleArray.bisect i) = i) ∧
    (SMap.stored t.toList i = false → t.keyAt (t.toHoleArray.bisect i) ≠ i) := by
  obtain ⟨p, hp, p1, p2, p3, hst, hnst⟩ := bisectNearIt_spec t hinv h1 none (validHint_none t) i
  have e : p = t.toHoleArray.bisect i := by
    unfold Tree.bisectNearIt Tree.bisectIt at hp
    rw [if_neg (by omega)] at hp
    exact (Option.some.inj hp).symm
  subst e
  refine ⟨p1, p2, p3, hst, fun h => ?_⟩
  rcases hnst h with ⟨a, _⟩ | ⟨a, _⟩ <;> omega


/-! ## `swap_coefficients` -/

theorem find?_of_used (t : Tree) (hinv : t.Inv) (p : Nat) (p1 : 1 ≤ p) (p2 : p ≤ t.rs)
    (p3 : t.isUnused p = false) : SMap.find? t.toList (t.keyAt p) = some (t.valAt p) :=
  find?_of_mem_sorted _ _ _ hinv.sorted
    ((mem_listRange t 1 (t.rs + 1) _).2 ⟨p, p1, by omega, cell_eq_of_used p3⟩)

/-- the branch "one of the two is stored": erase it, insert the other index, write the value -/
theorem moveCoefficient_ok (hh0 : InsertHinted0Spec) (r : TRow)
    (p j : Nat) (hslot : 1 ≤ j ∨ InsertSlot0Spec) (hv : r.Valid) (p1 : 1 ≤ p) (p2 : p ≤ r.tree.rs)
    (p3 : r.tree.isUnused p = false) (hj : j < r.size) :
    ∃ r', r.moveCoefficient p j = some r' ∧ r'.Valid ∧ r'.size = r.size ∧
      r'.tree.toList = SMap.set (SMap.erase r.tree.toList (r.tree.keyAt p)) j (r.tree.valAt p) := by
  obtain ⟨r1, s, hrun, hv1, htl1, -, -⟩ := resetAt_ok r p hv p1 p2 p3
  have hb := hv.2
  unfold TRow.resetAt at hrun
  cases hE : eraseAtIt r.tree (TIt.ofIndex p) with
  | none => rw [hE] at hrun; cases hrun
  | some q =>
    obtain ⟨t1, s1⟩ := q
    rw [hE] at hrun
    simp only [Option.map_some, Option.some.injEq, Prod.mk.injEq] at hrun
    obtain ⟨e1, -⟩ := hrun
    subst e1
    have htl1' : t1.toList = SMap.erase r.tree.toList (r.tree.keyAt p) := congrArg SRow.m htl1
    obtain ⟨r2, it, hrun2, hv2, htl2, hc2⟩ := insert0_ok hh0 ⟨r.size, t1⟩ j hv1 hj
    unfold TRow.insert0 at hrun2
    simp only at hrun2
    cases hI : insertHinted0 t1 none j with
    | none => rw [hI] at hrun2; cases hrun2
    | some q2 =>
      obtain ⟨t2, it2⟩ := q2
      rw [hI] at hrun2
      simp only [Option.map_some, Option.some.injEq, Prod.mk.injEq] at hrun2
      obtain ⟨e2, e3⟩ := hrun2
      subst e2 e3
      simp only at hc2 hv2
      have htl2' : t2.toList = SMap.touch t1.toList j := congrArg SRow.m htl2
      have hu2 : t2.isUnused it2.i = false := (isUnused_false_iff t2 it2.i).2 ⟨_, hc2⟩
      have hk2 : t2.keyAt it2.i = j := keyAt_of_cell hc2
      have hinv2 : t2.Inv ∧ 1 ≤ t2.size := by
        rcases hv2.1 with he | h
        · have he' : t2 = init 0 := he
          rw [he'] at hc2; cases hc2
        · exact h
      have hbounds : 1 ≤ it2.i ∧ it2.i ≤ t2.rs := by
        rcases hslot with h | h
        · have := slot_valid t2 (Or.inr hinv2.1) it2.i (by rw [hk2]; exact h)
          exact ⟨this.1, this.2.1⟩
        · exact h t1 j t2 it2 hv1.1 hI
      obtain ⟨s1', s2'⟩ := hbounds
      obtain ⟨hI3, hsz3, -, htl3, -, -, -⟩ := putValue_ok t2 it2.i (r.tree.valAt p) hinv2.1 s1' s2' hu2
      have hfin : (TRow.putValue t2 it2.i (r.tree.valAt p)).toList =
          SMap.set (SMap.erase r.tree.toList (r.tree.keyAt p)) j (r.tree.valAt p) := by
        rw [htl3, hk2, htl2', set_touch, htl1']
      refine ⟨⟨r.size, TRow.putValue t2 it2.i (r.tree.valAt p)⟩, ?_, ⟨?_, ?_⟩, rfl, hfin⟩
      · unfold TRow.moveCoefficient
        simp only [hE, hI]
      · exact Or.inr ⟨hI3, by rw [hsz3]; exact hinv2.2⟩
      · show SMap.Below (TRow.putValue t2 it2.i (r.tree.valAt p)).toList r.size
        rw [hfin]
        exact SMap.below_set _ (SMap.Below.filter _ hb) hj

/-- `Sparse_Row::swap_coefficients(i, j)` — with the extra hypothesis `1 ≤ i ∧ 1 ≤ j` or `InsertSlot0Spec` -/
theorem swapCoefficients_ok_partial (hh0 : InsertHinted0Spec) (r : TRow)
    (i j : Nat) (hslot : (1 ≤ i ∧ 1 ≤ j) ∨ InsertSlot0Spec) (hv : r.Valid) (hi : i < r.size) (hj : j < r.size) :
    ∃ r', r.swapCoefficients i j = some r' ∧ r'.Valid ∧
      r'.toSRow = RowOp.sparse r.toSRow (.swap i j) := by
  obtain ⟨hcase, hb⟩ := hv
  rcases hcase with he | ⟨hinv, h1⟩
  · refine ⟨r, ?_, ⟨Or.inl he, hb⟩, ?_⟩
    · unfold TRow.swapCoefficients
      rw [if_pos (by rw [he]; rfl)]
    · unfold TRow.toSRow RowOp.sparse
      simp only [he, init0_toList]
      rfl
  · have hv : r.Valid := ⟨Or.inr ⟨hinv, h1⟩, hb⟩
    obtain ⟨a1, a2, a3, a4, a5⟩ := bisect_slot r.tree hinv h1 i
    obtain ⟨b1, b2, b3, b4, b5⟩ := bisect_slot r.tree hinv h1 j
    unfold TRow.swapCoefficients
    rw [if_neg (by omega)]
    simp only
    generalize r.tree.toHoleArray.bisect i = pi at *
    generalize r.tree.toHoleArray.bisect j = pj at *
    have hfi := find?_of_used r.tree hinv pi a1 a2 a3
    have hfj := find?_of_used r.tree hinv pj b1 b2 b3
    cases si : SMap.stored r.tree.toList i <;> cases sj : SMap.stored r.tree.toList j
    · -- neither is stored
      rw [if_neg (a5 si), if_neg (b5 sj)]
      refine ⟨r, rfl, hv, ?_⟩
      unfold TRow.toSRow RowOp.sparse SMap.swap
      simp only [find?_none_of_not_stored _ _ si, find?_none_of_not_stored _ _ sj]
    · -- `j` is stored, `i` is not
      rw [if_neg (a5 si), if_pos (b4 sj)]
      obtain ⟨r', hrun, hv', hsz, htl⟩ := moveCoefficient_ok hh0 r pj i (hslot.imp (fun h => h.1) id) hv b1 b2 b3 hi
      refine ⟨r', hrun, hv', ?_⟩
      rw [b4 sj] at htl hfj
      unfold TRow.toSRow RowOp.sparse SMap.swap
      simp only [find?_none_of_not_stored _ _ si, hfj, hsz, htl]
    · -- `i` is stored, `j` is not
      rw [if_pos (a4 si), if_neg (b5 sj)]
      obtain ⟨r', hrun, hv', hsz, htl⟩ := moveCoefficient_ok hh0 r pi j (hslot.imp (fun h => h.2) id) hv a1 a2 a3 hj
      refine ⟨r', hrun, hv', ?_⟩
      rw [a4 si] at htl hfi
      unfold TRow.toSRow RowOp.sparse SMap.swap
      simp only [find?_none_of_not_stored _ _ sj, hfi, hsz, htl]
    · -- both are stored
      rw [if_pos (a4 si), if_pos (b4 sj)]
      rw [a4 si] at hfi
      rw [b4 sj] at hfj
      obtain ⟨hI1, hsz1, hrs1, htl1, hun1, hk1, -⟩ :=
        putValue_ok r.tree pi (r.tree.valAt pj) hinv a1 a2 a3
      obtain ⟨hI2, hsz2, -, htl2, -, -, -⟩ :=
        putValue_ok (TRow.putValue r.tree pi (r.tree.valAt pj)) pj (r.tree.valAt pi) hI1 b1
          (by rw [hrs1]; exact b2) (by rw [hun1]; exact b3)
      rw [hk1, b4 sj, htl1, a4 si] at htl2
      refine ⟨_, rfl, ⟨Or.inr ⟨hI2, by rw [hsz2, hsz1]; exact h1⟩, ?_⟩, ?_⟩
      · show SMap.Below (TRow.putValue (TRow.putValue r.tree pi (r.tree.valAt pj)) pj
          (r.tree.valAt pi)).toList r.size
        rw [htl2]
        exact SMap.below_set _ (SMap.below_set _ hb hi) hj
      · unfold TRow.toSRow RowOp.sparse SMap.swap
        simp only [hfi, hfj, htl2]

end RowT
end PPLV.COTree

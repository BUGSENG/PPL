import PPLV.COTree.ProofsRowOnTreeReset

/-!
# the key-shifting operations `add_zeroes_and_shift`, `delete_element_and_shift`
-/
namespace PPLV.COTree
open PPLV.COTree.Tree

namespace RowT

/-! ## relabelling the keys of a tree slot by slot -/

theorem listRange_map (t t' : Tree) (g : Nat × Int → Nat × Int) (lo hi : Nat)
    (h : ∀ q, lo ≤ q → q < hi → t'.cell q = (t.cell q).map g) :
    t'.listRange lo hi = (t.listRange lo hi).map g := by
  unfold Tree.listRange
  rw [List.map_filterMap]
  apply Bridge.filterMap_congr'
  intro q hq
  rw [List.mem_range'_1] at hq
  exact h q hq.1 (by omega)

/-- a tree whose slots `1 … rs` carry the pairs of `t` mapped by `g` (same used slots) -/
theorem inv_relabel (t t' : Tree) (g : Nat × Int → Nat × Int) (hinv : t.Inv)
    (hrs : t'.rs = t.rs) (hmd : t'.maxDepth = t.maxDepth) (hsz : t'.size = t.size)
    (hcs : t'.cells.size = t.cells.size)
    (hcell : ∀ q, 1 ≤ q → q ≤ t.rs → t'.cell q = (t.cell q).map g)
    (hout : ∀ q, (q = 0 ∨ t.rs < q) → t'.cell q = t.cell q)
    (hso : SMap.Sorted (t.toList.map g)) : t'.Inv ∧ t'.toList = t.toList.map g := by
  have htl : t'.toList = t.toList.map g := by
    unfold Tree.toList
    rw [hrs]
    exact listRange_map t t' g 1 (t.rs + 1) (fun q a b => hcell q a (by omega))
  have hun : ∀ p, t'.isUnused p = t.isUnused p := by
    intro p
    unfold Tree.isUnused
    by_cases hp : 1 ≤ p ∧ p ≤ t.rs
    · rw [hcell p hp.1 hp.2]; cases t.cell p <;> rfl
    · rw [hout p (by omega)]
  obtain ⟨hsh, hcnt, hsorted, hup, hden⟩ := hinv
  refine ⟨⟨?_, ?_, by rw [htl]; exact hso, UpClosed.congr hrs hun hup, by rw [hsz, hrs]; exact hden⟩, htl⟩
  · obtain ⟨a, b, c, d, e⟩ := hsh
    refine ⟨by rw [hrs, hmd]; exact a, by rw [hmd]; exact b, by rw [hcs, hrs]; exact c, ?_, ?_⟩
    · rw [hout 0 (Or.inl rfl)]; exact d
    · rw [hrs, hout (t.rs + 1) (Or.inr (by omega))]; exact e
  · rw [hrs, hsz, ← hcnt]
    exact countRange_congr_unused t t' 1 (t.rs + 1) (fun p _ _ => hun p)

/-! ## `increase_keys_from` -/

def bump (n : Nat) (c : Cell) : Cell := c.map (fun kv => (kv.1 + n, kv.2))

theorem skipDown_congr (t t' : Tree) (h : ∀ p, t'.isUnused p = t.isUnused p) :
    ∀ p, t'.skipDown p = t.skipDown p
  | 0 => rfl
  | p + 1 => by
    unfold Tree.skipDown
    rw [h (p + 1), skipDown_congr t t' h p]

/-- the loop of `increase_keys_from`: the used slots above `p` are already bumped -/
theorem incKeysLoop_ok (t0 : Tree) (key n : Nat) (hsh : t0.Shape) (hso : SMap.Sorted t0.toList) :
    ∀ (f p : Nat) (t : Tree), p + 1 ≤ f → p ≤ t0.rs → (p ≠ 0 → t0.isUnused p = false) →
    t.rs = t0.rs → t.maxDepth = t0.maxDepth → t.size = t0.size → t.cells.size = t0.cells.size →
    (∀ q, t.cell q = if p < q ∧ q ≤ t0.rs then bump n (t0.cell q) else t0.cell q) →
    (∀ q kv, p < q → q ≤ t0.rs → t0.cell q = some kv → key ≤ kv.1) →
    ∃ t', incKeysLoop key n f p t = some t' ∧
      t'.rs = t0.rs ∧ t'.maxDepth = t0.maxDepth ∧ t'.size = t0.size ∧
      t'.cells.size = t0.cells.size ∧
      (∀ q, 1 ≤ q → q ≤ t0.rs →
        t'.cell q = (t0.cell q).map (fun kv => (if key ≤ kv.1 then kv.1 + n else kv.1, kv.2))) ∧
      (∀ q, (q = 0 ∨ t0.rs < q) → t'.cell q = t0.cell q) := by
  have hsc := sorted_cells hso
  intro f
  induction f with
  | zero => intro p t h; omega
  | succ f ih =>
    intro p t hf hp hpu e1 e2 e3 e4 hcell hkeys
    unfold incKeysLoop
    have hkp : t.keyAt p = t0.keyAt p := by
      unfold Tree.keyAt; rw [hcell p, if_neg (by omega)]
    have hvp : t.valAt p = t0.valAt p := by
      unfold Tree.valAt; rw [hcell p, if_neg (by omega)]
    by_cases hc : p ≠ 0 ∧ t.keyAt p ≥ key
    · rw [if_pos hc]
      simp only
      obtain ⟨hp0, hkey⟩ := hc
      have hup := hpu hp0
      have hcp := cell_eq_of_used hup
      have hpsz : p < t.cells.size := by rw [e4, hsh.2.2.1]; omega
      -- the tree after `*p += n`
      have hcell' : ∀ q, (t.setCell p (some (t.keyAt p + n, t.valAt p))).cell q =
          if p - 1 < q ∧ q ≤ t0.rs then bump n (t0.cell q) else t0.cell q := by
        intro q
        rw [Tree.cell_setCell]
        by_cases hq : p = q
        · subst hq
          rw [if_pos ⟨rfl, hpsz⟩, if_pos ⟨by omega, hp⟩, hcp, hkp, hvp]; rfl
        · rw [if_neg (fun h => hq h.1), hcell q]
          by_cases h1 : p < q ∧ q ≤ t0.rs
          · rw [if_pos h1, if_pos ⟨by omega, h1.2⟩]
          · rw [if_neg h1, if_neg (by omega)]
      have hun : ∀ q, (t.setCell p (some (t.keyAt p + n, t.valAt p))).isUnused q = t0.isUnused q := by
        intro q
        unfold Tree.isUnused
        rw [hcell' q]
        split
        · unfold bump; cases t0.cell q <;> rfl
        · rfl
      rw [skipDown_congr t0 _ hun (p - 1)]
      have hle := Tree.skipDown_le t0 (p - 1)
      have hbetween := Tree.skipDown_between t0 (p - 1)
      have hused := (Tree.skipDown_used t0 (p - 1)).resolve_left
      generalize t0.skipDown (p - 1) = p' at hle hbetween hused ⊢
      apply ih p' (t.setCell p (some (t.keyAt p + n, t.valAt p))) (by omega) (by omega) hused e1 e2 e3 (by rw [Tree.setCell_cells_size]; exact e4)
      · intro q
        rw [hcell' q]
        by_cases h1 : p - 1 < q ∧ q ≤ t0.rs
        · rw [if_pos h1, if_pos ⟨by omega, h1.2⟩]
        · rw [if_neg h1]
          by_cases h2 : p' < q ∧ q ≤ t0.rs
          · rw [if_pos h2]
            have := hbetween q h2.1 (by omega)
            rw [(isUnused_true_iff t0 q).1 this]; rfl
          · rw [if_neg h2]
      · intro q kv a b c
        by_cases hqp : p < q
        · exact hkeys q kv hqp b c
        · by_cases hqp' : q = p
          · rw [hqp', hcp] at c; cases c
            rw [hkp] at hkey; exact hkey
          · have := hbetween q a (by omega)
            rw [(isUnused_true_iff t0 q).1 this] at c; cases c
    · rw [if_neg hc]
      refine ⟨t, rfl, e1, e2, e3, e4, ?_, ?_⟩
      · intro q q1 q2
        rw [hcell q]
        by_cases h1 : p < q ∧ q ≤ t0.rs
        · rw [if_pos h1]
          unfold bump
          cases hq : t0.cell q with
          | none => rfl
          | some kv =>
            have := hkeys q kv h1.1 h1.2 hq
            simp only [Option.map_some, this, if_true]
        · rw [if_neg h1]
          cases hq : t0.cell q with
          | none => rfl
          | some kv =>
            have hlt : ¬ key ≤ kv.1 := by
              have hp0 : p ≠ 0 := by omega
              have hup := hpu hp0
              have hcp := cell_eq_of_used hup
              have hk : ¬ t0.keyAt p ≥ key := by
                intro h; exact hc ⟨hp0, by rw [hkp]; exact h⟩
              by_cases hqp : q = p
              · rw [hqp, hcp] at hq; cases hq; simp only; omega
              · have := hsc q p kv _ q1 (by omega) hp hq hcp
                simp only at this; omega
            simp only [Option.map_some, hlt, if_false]
      · intro q hq
        rw [hcell q, if_neg (by omega)]

/-- `CO_Tree::increase_keys_from(key, n)` on a non-empty valid tree -/
theorem increaseKeysFrom_ok (t : Tree) (key n : Nat) (hinv : t.Inv) (h1 : 1 ≤ t.size) :
    ∃ t', increaseKeysFrom t key n = some t' ∧ t'.Inv ∧ t'.size = t.size ∧
      t'.toList = SMap.shiftUp t.toList key n := by
  unfold increaseKeysFrom
  rw [if_neg (by omega)]
  have hle := Tree.skipDown_le t t.rs
  obtain ⟨t', hrun, a, b, c, d, e, f⟩ := incKeysLoop_ok t key n hinv.shape hinv.sorted (t.rs + 1)
    (t.skipDown t.rs) t (by omega) hle (Tree.skipDown_used t t.rs).resolve_left rfl rfl rfl rfl
    (by
      intro q
      by_cases h : t.skipDown t.rs < q ∧ q ≤ t.rs
      · rw [if_pos h]
        have := Tree.skipDown_between t t.rs q h.1 h.2
        rw [(isUnused_true_iff t q).1 this]; rfl
      · rw [if_neg h])
    (by
      intro q kv a b c
      have := Tree.skipDown_between t t.rs q a b
      rw [(isUnused_true_iff t q).1 this] at c; cases c)
  obtain ⟨hI, htl⟩ := inv_relabel t t' _ hinv a b c d e f
    (SMap.sorted_shiftUp _ key n hinv.sorted)
  exact ⟨t', hrun, hI, c, htl⟩

/-- `Sparse_Row::add_zeroes_and_shift(n, i)` -/
theorem addZeroesAndShift_ok (r : TRow) (n i : Nat) (hv : r.Valid) :
    ∃ r', r.addZeroesAndShift n i = some r' ∧ r'.Valid ∧
      r'.toSRow = RowOp.sparse r.toSRow (.shiftUp n i) := by
  obtain ⟨hcase, hb⟩ := hv
  rcases hcase with he | ⟨hinv, h1⟩
  · refine ⟨⟨r.size + n, r.tree⟩, ?_, ⟨Or.inl he, ?_⟩, ?_⟩
    · unfold TRow.addZeroesAndShift increaseKeysFrom
      rw [he]; rfl
    · show SMap.Below r.tree.toList (r.size + n)
      rw [he]; intro p hp; cases hp
    · unfold TRow.toSRow RowOp.sparse
      simp only [he]; rfl
  · obtain ⟨t', hrun, hI, hsz, htl⟩ := increaseKeysFrom_ok r.tree i n hinv h1
    refine ⟨⟨r.size + n, t'⟩, ?_, ⟨Or.inr ⟨hI, by rw [hsz]; exact h1⟩, ?_⟩, ?_⟩
    · unfold TRow.addZeroesAndShift; rw [hrun]; rfl
    · show SMap.Below t'.toList (r.size + n)
      rw [htl]; exact SMap.below_shiftUp i n hb
    · unfold TRow.toSRow RowOp.sparse
      simp only [htl]

end RowT
end PPLV.COTree

import PPLV.COTree.ProofsRebEraseIter
import PPLV.COTree.ProofsRebRedist

/-!
# `CO_Tree::erase(key)` refines the ordered map (`EraseSpec`)
from the component statements `GoDownSpec`, `EraseSinkSpec`, `RebalanceEraseSpec`, `SmallerSpec`
(kept as hypotheses: this file depends on none of their proofs).
-/
namespace PPLV.COTree
open PPLV.COTree.Tree PPLV.COTree.EraTop

namespace EraTop

theorem shape_rs_cases (t : Tree) (hs : t.Shape) : t.rs = 3 ∨ t.rs = 7 ∨ 15 ≤ t.rs := by
  obtain ⟨hrs, hd, -, -, -⟩ := hs
  rw [hrs]
  generalize t.maxDepth = d at *
  by_cases h2 : d = 2
  · subst h2; left; rfl
  · by_cases h3 : d = 3
    · subst h3; right; left; rfl
    · right; right
      obtain ⟨k, rfl⟩ : ∃ k, d = k + 4 := ⟨d - 4, by omega⟩
      have : 2 ^ (k + 4) = 16 * 2 ^ k := by rw [Nat.pow_add]; omega
      have := Nat.two_pow_pos k
      omega

theorem singleton_of_mem (m : SMap) (p : Nat × Int) (hl : m.length = 1) (hp : p ∈ m) : m = [p] := by
  match m, hl, hp with
  | [a], _, hp => simp at hp; rw [hp]

/-- the key is stored: `eraseAt` -/
theorem eraseAt_spec (hg : GoDownSpec) (hsink : EraseSinkSpec) (hre : RebalanceEraseSpec)
    (hs : SmallerSpec) (t : Tree) (key i o : Nat) (v : Int) (inv : t.Inv) (h1 : 1 ≤ t.size)
    (hn : t.IsNode i o) (hci : t.cell i = some (key, v)) :
    ∃ t' r, eraseAt t ⟨i, o⟩ = some (t', r) ∧
      (if t'.size = 0 then t' = init 0 else t'.Inv) ∧
      t'.toList = SMap.erase t.toList key ∧ r = SMap.next t.toList key ∧
      (t'.size, t'.rs) = afterErase t.size t.rs := by
  obtain ⟨hsh, hcnt, hso, hup, hden⟩ := inv
  have hbi := hn.bounds hsh
  have hk : t.keyAt i = key := keyAt_of_cell hci
  have hu : t.isUnused i = false := (isUnused_false_iff t i).2 ⟨_, hci⟩
  have hmem : (key, v) ∈ t.toList :=
    (mem_listRange t 1 (t.rs + 1) _).2 ⟨i, by omega, by omega, hci⟩
  by_cases h1' : t.size = 1
  · refine ⟨init 0, none, ?_, ?_, ?_, ?_, ?_⟩
    · unfold eraseAt; rw [if_pos h1']
    · rfl
    · have hl : t.toList.length = 1 := by
        unfold Tree.toList; rw [Tree.length_listRange, hcnt, h1']
      rw [singleton_of_mem t.toList (key, v) hl hmem]
      simp [SMap.erase]
      rfl
    · have hl : t.toList.length = 1 := by
        unfold Tree.toList; rw [Tree.length_listRange, hcnt, h1']
      rw [singleton_of_mem t.toList (key, v) hl hmem]
      simp [SMap.next, SMap.lowerBound]
    · simp [afterErase, h1']
      exact ⟨rfl, rfl⟩
  · have hae : afterErase t.size t.rs =
        (t.size - 1, if eraseRebuilds t.size t.rs then t.rs / 2 else t.rs) := by
      unfold afterErase; rw [if_neg h1']; split <;> rfl
    have hden' := erase_density_ok t.size t.rs h1 hden
    rw [hae] at hden' ⊢
    simp only at hden'
    -- the tree and the node after the optional `rebuild_smaller_tree`
    have hpre : ∃ T i0 o0,
        (match (if eraseRebuilds t.size t.rs then rebuildSmallerTree t else some t) with
          | none => none
          | some t' => eraseTail t' (if eraseRebuilds t.size t.rs
              then t'.goDownSearchingKey (t.keyAt i) t'.getRoot else ⟨i, o⟩))
          = eraseTail T ⟨i0, o0⟩ ∧
        T.Shape ∧ SMap.Sorted T.toList ∧ T.UpClosed ∧ T.countRange 1 (T.rs + 1) = T.size ∧
        T.size = t.size ∧ T.toList = t.toList ∧
        T.rs = (if eraseRebuilds t.size t.rs then t.rs / 2 else t.rs) ∧
        T.IsNode i0 o0 ∧ T.isUnused i0 = false ∧ T.keyAt i0 = key ∧
        (T.rs = 3 ∨ (7 ≤ T.rs ∧ rebalanceCond T.maxDepth (T.size - 1) T.rs 0 = false)) := by
      by_cases hr : eraseRebuilds t.size t.rs = true
      · have h4 := erase_shrunk_rs t.size t.rs hr (by omega) hsh.rs_odd.2
        have hcases := shape_rs_cases t hsh
        obtain ⟨T, hT, sT, rsT, mdT, szT, tlT, cnT, balT⟩ :=
          hs t hsh (by omega) hcnt h1 (erase_shrunk_fits t.size t.rs hr (by omega))
        have upT : T.UpClosed := balancedUpClosedSpec T t.size sT balT
        have soT : SMap.Sorted T.toList := by rw [tlT]; exact hso
        have cT : T.countRange 1 (T.rs + 1) = T.size := by rw [cnT, szT]
        have hruT := root_used sT upT (by omega)
        obtain ⟨g1, g2, -, -, g5, -⟩ := hg T key (T.rs / 2 + 1) (T.rs / 2 + 1) sT soT upT
          (IsNode.root sT) hruT (brackets_root T sT key)
        have hgr : T.getRoot = ⟨T.rs / 2 + 1, T.rs / 2 + 1⟩ := rfl
        rw [← hgr] at g1 g2 g5
        have hk0 : T.keyAt (T.goDownSearchingKey key T.getRoot).i = key := by
          apply g5
          rw [← tlT] at hmem
          obtain ⟨p, a, b, c⟩ := (mem_listRange T 1 (T.rs + 1) _).1 hmem
          have := sT.rs_odd
          exact ⟨p, by omega, by omega, v, c⟩
        refine ⟨T, (T.goDownSearchingKey key T.getRoot).i,
          (T.goDownSearchingKey key T.getRoot).offset, ?_, sT, soT, upT, cT, szT, tlT,
          by rw [if_pos hr]; exact rsT, g1, g2, hk0, ?_⟩
        · simp only [hr, if_true, hT, hk]
        · rcases hcases with c3 | c7 | c15
          · omega
          · left; rw [rsT, c7]
          · right
            refine ⟨by rw [rsT]; omega, ?_⟩
            rw [szT, rsT]
            exact root_ok_erase_shrunk T.maxDepth t.size t.rs c15 (by omega) hden hr
      · have hr' : eraseRebuilds t.size t.rs = false := by simpa using hr
        refine ⟨t, i, o, ?_, hsh, hso, hup, hcnt, rfl, rfl, by rw [hr']; rfl, hn, hu, hk, ?_⟩
        · simp only [hr', Bool.false_eq_true, if_false]
        · rcases shape_rs_cases t hsh with c3 | c7 | c15
          · left; exact c3
          · right; exact ⟨by omega, root_ok_erase t.maxDepth t.size t.rs (by omega) (by omega) hden hr'⟩
          · right; exact ⟨by omega, root_ok_erase t.maxDepth t.size t.rs (by omega) (by omega) hden hr'⟩
    obtain ⟨T, i0, o0, heq, sT, soT, upT, cT, szT, tlT, rsT, n0, u0, k0, hroot⟩ := hpre
    obtain ⟨t', r, hrun, s', rs', sz', tl', up', cnt', hr⟩ :=
      tail_spec hg hsink hre T i0 o0 sT soT upT cT (by omega) n0 u0 hroot
    rw [k0, tlT] at tl' hr
    have hsz0 : t'.size ≠ 0 := by omega
    refine ⟨t', r, ?_, ?_, tl', hr, ?_⟩
    · exact (eraseAt_eq _ _ h1').trans (heq.trans hrun)
    · rw [if_neg hsz0]
      refine ⟨s', cnt', by rw [tl']; exact SMap.Sorted.filter _ hso, up', ?_⟩
      rw [sz', rs', szT, rsT]; exact hden'
    · rw [sz', rs', szT, rsT]

end EraTop

/-- **`CO_Tree::erase(key)`** refines the ordered map, given the component statements -/
theorem eraseSpec_of (hg : GoDownSpec) (hsink : EraseSinkSpec) (hre : RebalanceEraseSpec)
    (hs : SmallerSpec) : EraseSpec := by
  intro t key inv h1
  have hinv := inv
  obtain ⟨hsh, hcnt, hso, hup, hden⟩ := inv
  have hsz : t.size ≠ 0 := by omega
  have hru := root_used hsh hup (by omega)
  obtain ⟨g1, g2, -, -, g5, g6⟩ := hg t key (t.rs / 2 + 1) (t.rs / 2 + 1) hsh hso hup
    (IsNode.root hsh) hru (brackets_root t hsh key)
  have hgr : t.getRoot = ⟨t.rs / 2 + 1, t.rs / 2 + 1⟩ := rfl
  rw [← hgr] at g1 g2 g5 g6
  unfold erase
  rw [if_neg hsz]
  simp only
  generalize t.goDownSearchingKey key t.getRoot = it at g1 g2 g5 g6
  obtain ⟨i, o⟩ := it
  simp only at g1 g2 g5 g6
  have hb := g1.bounds hsh
  by_cases hk : t.keyAt i = key
  · rw [if_pos hk]
    have hci := cell_eq_of_used g2
    rw [hk] at hci
    have hmem : (key, t.valAt i) ∈ t.toList :=
      (mem_listRange t 1 (t.rs + 1) _).2 ⟨i, by omega, by omega, hci⟩
    rw [stored_of_mem t.toList key _ hmem]
    exact eraseAt_spec hg hsink hre hs t key i o _ hinv h1 g1 hci
  · rw [if_neg hk]
    have hnm : ∀ p ∈ t.toList, p.1 ≠ key := by
      intro p hp e
      obtain ⟨x, a, b, c⟩ := (mem_listRange t 1 (t.rs + 1) p).1 hp
      have := hsh.rs_odd
      apply hk
      apply g5
      refine ⟨x, by omega, by omega, p.2, ?_⟩
      rw [c, ← e]
    refine ⟨t, _, rfl, by rw [if_neg hsz]; exact hinv, (erase_of_not_mem key t.toList hnm).symm,
      next_of_brackets t key i hsh (by omega) (by omega) g2 hk (g6 hk).1, ?_⟩
    rw [stored_false_of_not_mem t.toList key hnm]
    rfl

end PPLV.COTree

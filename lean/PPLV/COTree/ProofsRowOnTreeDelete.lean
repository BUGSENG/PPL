import PPLV.COTree.ProofsRowOnTreeShift

/-!
# `delete_element_and_shift` (`CO_Tree::erase_element_and_shift_left`)
-/
namespace PPLV.COTree
open PPLV.COTree.Tree

namespace RowT

/-- a slot whose `keyAt` is non-zero is a used slot of `1 … rs` (unused slots and the two
    sentinels read as key `0`) -/
theorem slot_valid (t : Tree) (hv : t = init 0 ∨ t.Inv) (q : Nat) (hk : 1 ≤ t.keyAt q) :
    1 ≤ q ∧ q ≤ t.rs ∧ t.isUnused q = false := by
  have hcq : ∃ kv, t.cell q = some kv := by
    cases hc : t.cell q with
    | some kv => exact ⟨kv, rfl⟩
    | none =>
      have : t.keyAt q = 0 := by unfold Tree.keyAt; rw [hc]
      omega
  obtain ⟨kv, hkv⟩ := hcq
  rcases hv with he | hinv
  · rw [he] at hkv; cases hkv
  · have hsh := hinv.shape
    have hlt := Redist.lt_size_of_cell_some t q kv hkv
    rw [hsh.2.2.1] at hlt
    have hq0 : q ≠ 0 := by
      intro e
      have : t.keyAt 0 = 0 := by unfold Tree.keyAt; rw [hsh.2.2.2.1]; rfl
      rw [e] at hk; omega
    have hqN : q ≠ t.rs + 1 := by
      intro e
      have : t.keyAt (t.rs + 1) = 0 := by unfold Tree.keyAt; rw [hsh.2.2.2.2]; rfl
      rw [e] at hk; omega
    exact ⟨by omega, by omega, (isUnused_false_iff t q).2 ⟨kv, hkv⟩⟩

/-- `CO_Tree::erase(key)` with the returned iterator kept as a slot -/
theorem eraseIt_ok (t : Tree) (key : Nat) (hv : t = init 0 ∨ (t.Inv ∧ 1 ≤ t.size)) :
    ∃ t' s, eraseIt t key = some (t', s) ∧ (t' = init 0 ∨ (t'.Inv ∧ 1 ≤ t'.size)) ∧
      t'.toList = SMap.erase t.toList key ∧ s.map t'.keyAt = SMap.next t.toList key ∧
      ∀ q, s = some q → 1 ≤ q ∧ q ≤ t'.rs ∧ t'.isUnused q = false := by
  rcases hv with he | ⟨hinv, h1⟩
  · subst he
    exact ⟨init 0, none, rfl, Or.inl rfl, rfl, rfl, fun q hq => by cases hq⟩
  · obtain ⟨t', rk, h, hI, htl, hrk, -⟩ := eraseSpec t key hinv h1
    rw [eraseIt_key] at h
    cases hE : eraseIt t key with
    | none => rw [hE] at h; cases h
    | some q =>
      obtain ⟨t'', s⟩ := q
      rw [hE] at h
      simp only [Option.map_some, Option.some.injEq, Prod.mk.injEq] at h
      obtain ⟨e1, e2⟩ := h
      subst e1
      have hvalid : t'' = init 0 ∨ (t''.Inv ∧ 1 ≤ t''.size) := by
        by_cases h0 : t''.size = 0
        · rw [if_pos h0] at hI; exact Or.inl hI
        · rw [if_neg h0] at hI; exact Or.inr ⟨hI, Nat.pos_of_ne_zero h0⟩
      refine ⟨t'', s, rfl, hvalid, htl, by rw [← hrk]; exact e2, ?_⟩
      intro q hq
      subst hq
      simp only [Option.map_some] at e2
      rw [hrk] at e2
      have hge := lowerBound_ge _ _ _ e2.symm
      exact slot_valid t'' (hvalid.imp id (fun h => h.1)) q (by omega)

/-! ## the decrementing loop -/

def dec (c : Cell) : Cell := c.map (fun kv => (kv.1 - 1, kv.2))

theorem decKeysLoop_ok : ∀ (f p : Nat) (t : Tree), p + f ≤ t.cells.size →
    (decKeysLoop f p t).rs = t.rs ∧ (decKeysLoop f p t).maxDepth = t.maxDepth ∧
    (decKeysLoop f p t).size = t.size ∧ (decKeysLoop f p t).cells.size = t.cells.size ∧
    ∀ q, (decKeysLoop f p t).cell q = if p ≤ q ∧ q < p + f then dec (t.cell q) else t.cell q
  | 0, p, t, _ => by
    refine ⟨rfl, rfl, rfl, rfl, fun q => ?_⟩
    rw [if_neg (by omega)]; rfl
  | f + 1, p, t, h => by
    have hf : ∃ t1, decKeysLoop (f + 1) p t = decKeysLoop f (p + 1) t1 ∧
        t1.rs = t.rs ∧ t1.maxDepth = t.maxDepth ∧ t1.size = t.size ∧
        t1.cells.size = t.cells.size ∧
        ∀ q, t1.cell q = if q = p then dec (t.cell p) else t.cell q := by
      cases hc : t.cell p with
      | none =>
        refine ⟨t, by rw [decKeysLoop]; simp only [hc], rfl, rfl, rfl, rfl, fun q => ?_⟩
        by_cases hq : q = p
        · rw [if_pos hq, hq, hc]; rfl
        · rw [if_neg hq]
      | some kv =>
        obtain ⟨k, v⟩ := kv
        refine ⟨t.setCell p (some (k - 1, v)), by rw [decKeysLoop]; simp only [hc], rfl, rfl, rfl,
          by simp, fun q => ?_⟩
        rw [Tree.cell_setCell]
        by_cases hq : q = p
        · rw [if_pos hq, if_pos ⟨hq.symm, by omega⟩]; rfl
        · rw [if_neg hq, if_neg (fun h => hq h.1.symm)]
    obtain ⟨t1, hst, a, b, c, d, e⟩ := hf
    rw [hst]
    obtain ⟨a', b', c', d', e'⟩ := decKeysLoop_ok f (p + 1) t1 (by rw [d]; omega)
    refine ⟨by rw [a', a], by rw [b', b], by rw [c', c], by rw [d', d], fun q => ?_⟩
    rw [e' q, e q]
    by_cases hq : q = p
    · subst hq
      rw [if_neg (by omega), if_pos rfl, if_pos (by omega)]
    · rw [if_neg hq]
      by_cases h1 : p + 1 ≤ q ∧ q < p + 1 + f
      · rw [if_pos h1, if_pos (by omega)]
      · rw [if_neg h1, if_neg (by omega)]

/-- `CO_Tree::erase_element_and_shift_left(key)` -/
theorem eraseElementAndShiftLeft_ok (t : Tree) (key : Nat)
    (hv : t = init 0 ∨ (t.Inv ∧ 1 ≤ t.size)) :
    ∃ t', eraseElementAndShiftLeft t key = some t' ∧ (t' = init 0 ∨ (t'.Inv ∧ 1 ≤ t'.size)) ∧
      t'.toList = SMap.deleteShift t.toList key := by
  have hso : SMap.Sorted t.toList := by
    rcases hv with he | ⟨hinv, _⟩
    · rw [he]; exact SMap.sorted_nil
    · exact hinv.sorted
  obtain ⟨t', s, hrun, hv', htl, hs, hq⟩ := eraseIt_ok t key hv
  unfold eraseElementAndShiftLeft
  rw [hrun]
  unfold SMap.next at hs
  cases s with
  | none =>
    refine ⟨t', rfl, hv', ?_⟩
    have hall := lowerBound_none _ _ hs.symm
    unfold SMap.deleteShift
    rw [htl]
    symm
    calc List.map _ (SMap.erase t.toList key) = List.map id (SMap.erase t.toList key) := by
          apply List.map_congr_left
          intro p hp
          have := hall p (EraTop.mem_erase _ _ _ hp).1
          have h2 : ¬ key < p.1 := by omega
          simp only [h2, if_false, id]
      _ = _ := List.map_id _
  | some i =>
    obtain ⟨i1, i2, i3⟩ := hq i rfl
    simp only [Option.map_some] at hs
    have hinv' : t'.Inv ∧ 1 ≤ t'.size := by
      rcases hv' with he | h
      · rw [he] at i2; rw [init0_rs] at i2; omega
      · exact h
    have hsh' := hinv'.1.shape
    have hsc' := sorted_cells hinv'.1.sorted
    have hci := cell_eq_of_used i3
    have hge := lowerBound_ge _ _ _ hs.symm
    have hgap := lowerBound_gap _ _ _ hso hs.symm
    obtain ⟨a, b, c, d, e⟩ := decKeysLoop_ok (t'.rs + 1 - i) i t' (by rw [hsh'.2.2.1]; omega)
    have hA : ∀ q, 1 ≤ q → q ≤ t'.rs → (decKeysLoop (t'.rs + 1 - i) i t').cell q =
        (t'.cell q).map (fun p : Nat × Int => (if key < p.1 then p.1 - 1 else p.1, p.2)) := by
      intro q q1 q2
      rw [e q]
      by_cases hqi : i ≤ q ∧ q < i + (t'.rs + 1 - i)
      · rw [if_pos hqi]
        unfold dec
        cases hc : t'.cell q with
        | none => rfl
        | some kv =>
          have hlt : key < kv.1 := by
            by_cases hqe : q = i
            · rw [hqe, hci] at hc; cases hc; simp only; omega
            · have := hsc' i q _ kv i1 (by omega) q2 hci hc
              simp only at this; omega
          simp only [Option.map_some, hlt, if_true]
      · rw [if_neg hqi]
        cases hc : t'.cell q with
        | none => rfl
        | some kv =>
          have hlt : ¬ key < kv.1 := by
            have h1 := hsc' q i kv _ q1 (by omega) i2 hc hci
            simp only at h1
            have hmem : kv ∈ t'.toList := (mem_listRange t' 1 (t'.rs + 1) kv).2 ⟨q, q1, by omega, hc⟩
            rw [htl] at hmem
            have := hgap kv (EraTop.mem_erase _ _ _ hmem).1
            omega
          simp only [Option.map_some, hlt, if_false]
    have hB : ∀ q, (q = 0 ∨ t'.rs < q) → (decKeysLoop (t'.rs + 1 - i) i t').cell q = t'.cell q := by
      intro q hq
      rw [e q, if_neg (by omega)]
    have hC : SMap.Sorted (t'.toList.map (fun p : Nat × Int => (if key < p.1 then p.1 - 1 else p.1, p.2))) := by
      rw [htl]
      exact SMap.sorted_deleteShift t.toList key hso
    obtain ⟨hI, htl2⟩ := inv_relabel t' (decKeysLoop (t'.rs + 1 - i) i t')
      (fun p : Nat × Int => (if key < p.1 then p.1 - 1 else p.1, p.2)) hinv'.1 a b c d hA hB hC
    refine ⟨_, rfl, Or.inr ⟨hI, by rw [c]; exact hinv'.2⟩, ?_⟩
    rw [htl2, htl]; rfl

/-- `Sparse_Row::delete_element_and_shift(i)` -/
theorem deleteElementAndShift_ok (r : TRow) (i : Nat) (hv : r.Valid) (hi : i < r.size) :
    ∃ r', r.deleteElementAndShift i = some r' ∧ r'.Valid ∧
      r'.toSRow = RowOp.sparse r.toSRow (.deleteShift i) := by
  obtain ⟨hcase, hb⟩ := hv
  obtain ⟨t', hrun, hv', htl⟩ := eraseElementAndShiftLeft_ok r.tree i hcase
  refine ⟨⟨r.size - 1, t'⟩, ?_, ⟨hv', ?_⟩, ?_⟩
  · unfold TRow.deleteElementAndShift; rw [hrun]; rfl
  · show SMap.Below t'.toList (r.size - 1)
    rw [htl]; exact SMap.below_deleteShift i hb hi
  · unfold TRow.toSRow RowOp.sparse
    simp only [htl]

end RowT
end PPLV.COTree

import PPLV.COTree.ProofsRowOnTreeFind

/-!
# `Sparse_Row::reset(iterator)`, `Sparse_Row::reset_after(i)`
-/
namespace PPLV.COTree
open PPLV.COTree.Tree

namespace RowT

theorem nextKey_eq (t : Tree) (p : Nat) : nextKey t p = (t.nextIt p).map t.keyAt := by
  unfold nextKey Tree.nextIt
  simp only
  split <;> rfl

/-- `eraseAtIt` is `eraseAt` with the slot of the returned iterator kept -/
theorem eraseAtIt_key (t : Tree) (it : TIt) :
    eraseAt t it = (eraseAtIt t it).map (fun q => (q.1, q.2.map q.1.keyAt)) := by
  unfold eraseAt eraseAtIt
  split
  · rfl
  · simp only
    split
    next h => simp only [h, Option.map]
    next T h =>
      simp only [h]
      split
      next h2 => simp only [h2, Option.map]
      next t1 itr h2 =>
        simp only [h2]
        split
        next h3 => simp only [h3, Option.map]
        next t3 itr3 h3 =>
          simp only [h3, Option.map_some, nextKey_eq]
          rw [apply_ite (Option.map t3.keyAt)]
          rfl

theorem eraseIt_key (t : Tree) (key : Nat) :
    erase t key = (eraseIt t key).map (fun q => (q.1, q.2.map q.1.keyAt)) := by
  unfold erase eraseIt
  split
  · rfl
  · simp only
    split
    · exact eraseAtIt_key t _
    · simp only [Option.map_some, nextKey_eq]
      rw [apply_ite (Option.map t.keyAt)]
      rfl

/-! ## list lemmas -/

theorem lowerBound_ge : ∀ (m : SMap) (i k : Nat), SMap.lowerBound m i = some k → i ≤ k
  | [], _, _, h => by simp [SMap.lowerBound] at h
  | (a, x) :: t, i, k, h => by
    unfold SMap.lowerBound at h
    split at h
    · cases h; assumption
    · exact lowerBound_ge t i k h

theorem lowerBound_mem : ∀ (m : SMap) (i k : Nat), SMap.lowerBound m i = some k →
    ∃ v, (k, v) ∈ m
  | [], _, _, h => by simp [SMap.lowerBound] at h
  | (a, x) :: t, i, k, h => by
    unfold SMap.lowerBound at h
    split at h
    · cases h; exact ⟨x, by simp⟩
    · obtain ⟨v, hv⟩ := lowerBound_mem t i k h
      exact ⟨v, by simp [hv]⟩

theorem lowerBound_none : ∀ (m : SMap) (i : Nat), SMap.lowerBound m i = none → ∀ p ∈ m, p.1 < i
  | [], _, _ => by simp
  | (a, x) :: t, i, h => by
    unfold SMap.lowerBound at h
    split at h
    · cases h
    · intro p hp
      rcases List.mem_cons.1 hp with e | e
      · rw [e]; simp only; omega
      · exact lowerBound_none t i h p e

/-- in a sorted map no key lies between `i` and `lower_bound(i)` -/
theorem lowerBound_gap : ∀ (m : SMap) (i k : Nat), SMap.Sorted m → SMap.lowerBound m i = some k →
    ∀ p ∈ m, p.1 < i ∨ k ≤ p.1
  | [], _, _, _, h => by simp [SMap.lowerBound] at h
  | (a, x) :: t, i, k, hs, h => by
    unfold SMap.lowerBound at h
    intro p hp
    split at h
    · cases h
      rcases List.mem_cons.1 hp with e | e
      · rw [e]; right; exact Nat.le_refl _
      · have := SMap.Sorted.head_lt hs p e
        simp only at this; right; omega
    · rcases List.mem_cons.1 hp with e | e
      · rw [e]; left; simp only; omega
      · exact lowerBound_gap t i k (SMap.Sorted.tail hs) h p e

theorem lowerBound_congr : ∀ (m : SMap) (i j : Nat), i ≤ j → (∀ p ∈ m, p.1 < i ∨ j ≤ p.1) →
    SMap.lowerBound m i = SMap.lowerBound m j
  | [], _, _, _, _ => rfl
  | (a, x) :: t, i, j, hij, h => by
    have ha := h (a, x) (by simp)
    simp only at ha
    unfold SMap.lowerBound
    by_cases h1 : i ≤ a
    · have h2 : j ≤ a := by omega
      rw [if_pos h1, if_pos h2]
    · have h2 : ¬ j ≤ a := by omega
      rw [if_neg h1, if_neg h2]
      exact lowerBound_congr t i j hij (fun p hp => h p (by simp [hp]))

theorem resetFrom_erase (m : SMap) (i k : Nat) (h : i ≤ k) :
    SMap.resetFrom (SMap.erase m k) i = SMap.resetFrom m i := by
  unfold SMap.resetFrom SMap.erase
  rw [List.filter_filter]
  apply List.filter_congr
  intro p _
  by_cases hp : p.1 < i
  · have : p.1 ≠ k := by omega
    simp [hp, this]
  · simp [hp]

theorem resetFrom_self (m : SMap) (i : Nat) (h : ∀ p ∈ m, p.1 < i) : SMap.resetFrom m i = m := by
  unfold SMap.resetFrom
  rw [List.filter_eq_self]
  intro p hp; simp [h p hp]

theorem length_erase_lt (m : SMap) (k : Nat) (v : Int) (h : (k, v) ∈ m) :
    (SMap.erase m k).length < m.length := by
  unfold SMap.erase
  rw [List.length_filter_lt_length_iff_exists]
  exact ⟨(k, v), h, by simp⟩

/-! ## `reset(iterator)` -/

/-- `Sparse_Row::reset(iterator)` on an iterator at the used slot `p`: the element is erased, the
    returned iterator is on the next element -/
theorem resetAt_ok (r : TRow) (p : Nat) (hv : r.Valid) (p1 : 1 ≤ p) (p2 : p ≤ r.tree.rs)
    (p3 : r.tree.isUnused p = false) :
    ∃ r' s, r.resetAt p = some (r', s) ∧ r'.Valid ∧
      r'.toSRow = RowOp.sparse r.toSRow (.reset (r.tree.keyAt p)) ∧
      s.map r'.tree.keyAt = SMap.next r.tree.toList (r.tree.keyAt p) ∧
      ∀ q, s = some q → 1 ≤ q ∧ q ≤ r'.tree.rs ∧ r'.tree.isUnused q = false := by
  obtain ⟨hcase, hb⟩ := hv
  rcases hcase with he | ⟨hinv, h1⟩
  · rw [he, init0_rs] at p2; omega
  · obtain ⟨hsh, hcnt, hso, hup, hden⟩ := hinv
    have hinv : r.tree.Inv := ⟨hsh, hcnt, hso, hup, hden⟩
    generalize hk : r.tree.keyAt p = k at *
    have hcp := cell_eq_of_used p3
    rw [hk] at hcp
    -- the search from the root finds slot `p`
    have hru := root_used hsh hup (by omega)
    obtain ⟨g1, g2, -, -, g5, -⟩ := goDownSpec r.tree k (r.tree.rs / 2 + 1) (r.tree.rs / 2 + 1)
      hsh hso hup (IsNode.root hsh) hru (brackets_root r.tree hsh k)
    have hgr : r.tree.getRoot = ⟨r.tree.rs / 2 + 1, r.tree.rs / 2 + 1⟩ := rfl
    rw [← hgr] at g1 g2 g5
    have hrsodd := hsh.rs_odd
    have hkit := g5 ⟨p, by omega, by omega, _, hcp⟩
    have hbit := g1.bounds hsh
    have hsc := sorted_cells hso
    have hci := cell_eq_of_used g2
    have hip : (r.tree.goDownSearchingKey k r.tree.getRoot).i = p := by
      rcases Nat.lt_trichotomy (r.tree.goDownSearchingKey k r.tree.getRoot).i p with h | h | h
      · have := hsc _ p _ _ (by omega) h p2 hci hcp; simp only at this; omega
      · exact h
      · have := hsc p _ _ _ p1 h (by omega) hcp hci; simp only at this; omega
    have hit : r.tree.goDownSearchingKey k r.tree.getRoot = TIt.ofIndex p := by
      obtain ⟨h, m, ho, hi, -⟩ := g1
      have hlb : lowBit p = (r.tree.goDownSearchingKey k r.tree.getRoot).offset := by
        rw [← hip, hi, ho, lowBit_pow_mul]
      cases hgd : r.tree.goDownSearchingKey k r.tree.getRoot with
      | mk a b =>
        rw [hgd] at hip hlb
        simp only at hip hlb
        unfold TIt.ofIndex; rw [hip, hlb]
    have herase : erase r.tree k = eraseAt r.tree (TIt.ofIndex p) := by
      unfold erase
      rw [if_neg (by omega)]
      simp only
      rw [if_pos hkit, hit]
    obtain ⟨t', rk, h, hI, htl, hrk, -⟩ := eraseSpec r.tree k hinv h1
    rw [herase, eraseAtIt_key] at h
    cases hE : eraseAtIt r.tree (TIt.ofIndex p) with
    | none => rw [hE] at h; cases h
    | some q =>
      obtain ⟨t'', s⟩ := q
      rw [hE] at h
      simp only [Option.map_some, Option.some.injEq, Prod.mk.injEq] at h
      obtain ⟨e1, e2⟩ := h
      subst e1
      have hvalid : (t''.size = 0 → t'' = init 0) ∧ (t''.size ≠ 0 → t''.Inv) := by
        constructor
        · intro h0; rw [if_pos h0] at hI; exact hI
        · intro h0; rw [if_neg h0] at hI; exact hI
      refine ⟨⟨r.size, t''⟩, s, ?_, ⟨?_, ?_⟩, ?_, ?_, ?_⟩
      · unfold TRow.resetAt; rw [hE]; rfl
      · by_cases h0 : t''.size = 0
        · exact Or.inl (hvalid.1 h0)
        · exact Or.inr ⟨hvalid.2 h0, Nat.pos_of_ne_zero h0⟩
      · show SMap.Below t''.toList r.size
        rw [htl]; exact SMap.Below.filter _ hb
      · unfold TRow.toSRow RowOp.sparse
        simp only [htl]
      · rw [← hrk]; exact e2
      · intro q hq
        subst hq
        simp only [Option.map_some] at e2
        rw [hrk] at e2
        have hge := lowerBound_ge _ _ _ e2.symm
        show 1 ≤ q ∧ q ≤ t''.rs ∧ t''.isUnused q = false
        have hcq : ∃ kv, t''.cell q = some kv := by
          cases hc : t''.cell q with
          | some kv => exact ⟨kv, rfl⟩
          | none =>
            have : t''.keyAt q = 0 := by unfold Tree.keyAt; rw [hc]
            omega
        obtain ⟨kv, hkv⟩ := hcq
        have h0 : t''.size ≠ 0 := by
          intro h0
          rw [hvalid.1 h0] at hkv
          cases hkv
        have hsh' := (hvalid.2 h0).shape
        have hlt := Redist.lt_size_of_cell_some t'' q kv hkv
        rw [hsh'.2.2.1] at hlt
        have hq0 : q ≠ 0 := by
          intro e; rw [e] at hkv
          have : t''.keyAt 0 = 0 := by unfold Tree.keyAt; rw [hsh'.2.2.2.1]; rfl
          rw [e] at hge; omega
        have hqN : q ≠ t''.rs + 1 := by
          intro e
          have : t''.keyAt (t''.rs + 1) = 0 := by unfold Tree.keyAt; rw [hsh'.2.2.2.2]; rfl
          rw [e] at hge; omega
        exact ⟨by omega, by omega, (isUnused_false_iff t'' q).2 ⟨kv, hkv⟩⟩


/-! ## `reset_after` -/

theorem valid_length (r : TRow) (hv : r.Valid) : r.tree.toList.length = r.tree.size := by
  rcases hv.1 with he | ⟨hinv, _⟩
  · rw [he]; rfl
  · unfold Tree.toList; rw [Tree.length_listRange, hinv.count]

theorem valid_sorted (r : TRow) (hv : r.Valid) : SMap.Sorted r.tree.toList := by
  rcases hv.1 with he | ⟨hinv, _⟩
  · rw [he]; exact SMap.sorted_nil
  · exact hinv.sorted

/-- the loop `while (itr != itr_end) itr = reset(itr);` started on `lower_bound(i)` -/
theorem resetLoop_ok (i : Nat) : ∀ (f : Nat) (r : TRow) (s : Option Nat), r.Valid →
    s.map r.tree.keyAt = SMap.lowerBound r.tree.toList i →
    (∀ q, s = some q → 1 ≤ q ∧ q ≤ r.tree.rs ∧ r.tree.isUnused q = false) →
    r.tree.toList.length ≤ f →
    ∃ r', TRow.resetLoop f r s = some r' ∧ r'.Valid ∧ r'.size = r.size ∧
      r'.tree.toList = SMap.resetFrom r.tree.toList i := by
  intro f
  induction f with
  | zero =>
    intro r s hv hs hq hlen
    have hnil : r.tree.toList = [] := List.length_eq_zero_iff.1 (by omega)
    cases s with
    | none => exact ⟨r, rfl, hv, rfl, by rw [hnil]; rfl⟩
    | some q =>
      rw [hnil] at hs; simp [SMap.lowerBound] at hs
  | succ f ih =>
    intro r s hv hs hq hlen
    cases s with
    | none =>
      refine ⟨r, rfl, hv, rfl, ?_⟩
      rw [resetFrom_self _ _ (lowerBound_none _ _ hs.symm)]
    | some q =>
      obtain ⟨q1, q2, q3⟩ := hq q rfl
      simp only [Option.map_some] at hs
      have hge := lowerBound_ge _ _ _ hs.symm
      obtain ⟨v, hmem⟩ := lowerBound_mem _ _ _ hs.symm
      have hgap := lowerBound_gap _ _ _ (valid_sorted r hv) hs.symm
      obtain ⟨r', s', hrun, hv', htl', hs', hq'⟩ := resetAt_ok r q hv q1 q2 q3
      have htl'' : r'.tree.toList = SMap.erase r.tree.toList (r.tree.keyAt q) := by
        have := congrArg SRow.m htl'
        exact this
      have hsz' : r'.size = r.size := by
        have := congrArg SRow.size htl'
        exact this
      have hs2 : s'.map r'.tree.keyAt = SMap.lowerBound r'.tree.toList i := by
        rw [hs', htl'']
        unfold SMap.next
        rw [← EraTop.lowerBound_erase]
        apply (lowerBound_congr _ _ _ (by omega) ?_).symm
        intro p hp
        obtain ⟨hp1, hp2⟩ := EraTop.mem_erase _ _ _ hp
        rcases hgap p hp1 with h | h
        · left; exact h
        · right; omega
      have hlen2 : r'.tree.toList.length ≤ f := by
        rw [htl'']
        have := length_erase_lt _ _ _ hmem
        omega
      obtain ⟨r'', hrun2, hv'', hsz'', htl2⟩ := ih r' s' hv' hs2 hq' hlen2
      refine ⟨r'', ?_, hv'', by rw [hsz'', hsz'], ?_⟩
      · show (match r.resetAt q with
          | none => none
          | some (r', nx) => TRow.resetLoop f r' nx) = some r''
        rw [hrun]; exact hrun2
      · rw [htl2, htl'', resetFrom_erase _ _ _ hge]

/-- `Sparse_Row::reset_after(i)` -/
theorem resetAfter_ok (r : TRow) (i : Nat) (hv : r.Valid) :
    ∃ r', r.resetAfter i = some r' ∧ r'.Valid ∧
      r'.toSRow = RowOp.sparse r.toSRow (.resetFrom i) := by
  obtain ⟨h1, h2⟩ := lowerBound_ok r none i hv (validHint_none _)
  obtain ⟨r', hrun, hv', hsz, htl⟩ := resetLoop_ok i r.tree.size r (r.lowerBound none i) hv h1 h2
    (by rw [valid_length r hv])
  refine ⟨r', hrun, hv', ?_⟩
  unfold TRow.toSRow RowOp.sparse
  simp only [hsz, htl]

end RowT
end PPLV.COTree

import PPLV.COTree.ProofsRebCompactLoop1

/-!
# `CompactSpec`: correctness of `compact_elements_in_the_rightmost_end`

Assembly of `cmp_loop1` (the loop under `if (add_element)`) and `cmp_loop2` (the final `while`).
-/
namespace PPLV.COTree
open Tree

/-- the state `(t, skipDown t L, L)` the function starts its loops from -/
theorem cmp_init {t : Tree} {F L : Nat} :
    t.skipDown L ≤ L ∧ (∀ p, t.skipDown L < p → p ≤ L → t.cell p = none) ∧
    (t.skipDown L = 0 ∨ t.isUnused (t.skipDown L) = false) ∧
    t.listRange F (t.skipDown L + 1) = t.listRange F (L + 1) ∧
    t.countRange F (t.skipDown L + 1) = t.countRange F (L + 1) := by
  have hle := skipDown_le t L
  have hl : t.listRange F (t.skipDown L + 1) = t.listRange F (L + 1) :=
    (cmp_listRange_trim (by omega) (fun p h1 h2 => (isUnused_true_iff t p).mp (skipDown_between t L p (by omega) (by omega)))).symm
  refine ⟨hle, fun p a b => (isUnused_true_iff t p).mp (skipDown_between t L p a b), skipDown_used t L, hl, ?_⟩
  rw [← length_listRange, ← length_listRange, hl]

/-- **`compact_elements_in_the_rightmost_end`** (`CompactSpec` of `RebSpec.lean`) -/
theorem compactSpec : CompactSpec := by
  intro t F L n key value add hF hFL hL hsz hn hn1 hnroom hadd r
  obtain ⟨j1, j2, j3, j4, j5⟩ := cmp_init (t := t) (F := F) (L := L)
  cases add with
  | false =>
    have hr : r = compactLoop2 t n (t.skipDown L) L := by
      show compactElementsInTheRightmostEnd t L n key value false = _
      simp [compactElementsInTheRightmostEnd]
    have hcnt : t.countRange F (t.skipDown L + 1) = n := by
      rw [j5, hn]; simp
    obtain ⟨p1, p2, p3, p4, p5⟩ := cmp_loop2 F hF n t (t.skipDown L) L j1 hL hsz j2 j3 hcnt
    rw [← hr] at p1 p2 p3 p4 p5
    refine ⟨p1, p3, p4, Or.inl ⟨p2, ?_⟩⟩
    rw [p5, j4]; simp
  | true =>
    obtain ⟨hsorted, hne, hleft⟩ := hadd rfl
    have hr : r = compactLoop2 (compactLoop1 key value t n (t.skipDown L) L).1
        (compactLoop1 key value t n (t.skipDown L) L).2.1
        (compactLoop1 key value t n (t.skipDown L) L).2.2.1
        (compactLoop1 key value t n (t.skipDown L) L).2.2.2 := by
      show compactElementsInTheRightmostEnd t L n key value true = _
      simp [compactElementsInTheRightmostEnd]
    have hcnt : t.countRange F (t.skipDown L + 1) + 1 = n := by
      rw [j5, hn]; simp
    have hM : t.listRange F (t.skipDown L + 1) ++ t.listRange (L + 1) (L + 1) =
        t.listRange F (L + 1) := by
      rw [j4, listRange_empty t _ _ (Nat.le_refl _), List.append_nil]
    have h1 := cmp_loop1 F L key value (t.listRange F (L + 1)) hF hsorted hne n t (t.skipDown L) L
      j1 (Nat.le_refl _) hL hsz j2 j3 hcnt (by omega) (fun p h1 h2 => by omega) hM hleft
    generalize compactLoop1 key value t n (t.skipDown L) L = s at hr h1
    obtain ⟨t', n', last', fu'⟩ := s
    obtain ⟨q1, q2, q3, q4, q5, q6, q7, q8⟩ := h1
    dsimp only at q1 q2 q3 q4 q5 q6 q7 q8 hr
    obtain ⟨p1, p2, p3, p4, p5⟩ := cmp_loop2 F hF n' t' last' fu' q3
      (by rw [q1.1]; omega) (by rw [q1.2.2.2.1, q1.1]; exact hsz) q4 q5 q6
    rw [← hr] at p1 p2 p3 p4 p5
    have hlist : r.1.listRange (r.2 + 1) (L + 1) =
        t'.listRange F (last' + 1) ++ t'.listRange (fu' + 1) (L + 1) := by
      rw [listRange_split r.1 _ _ _ (by omega : r.2 + 1 ≤ fu' + 1) (by omega : fu' + 1 ≤ L + 1), p5]
      congr 1
      apply listRange_congr
      intro p h1 h2
      exact p1.2.2.2.2 p (Or.inr (by omega))
    refine ⟨frameOn_trans q1 p1 (Nat.le_refl _) (Nat.le_refl _) (Nat.le_refl _) q2, p3, ?_, ?_⟩
    · intro p h1 h2
      by_cases hp : p ≤ fu'
      · exact p4 p h1 hp
      · have := q7 p (by omega) h2
        unfold Tree.isUnused at this ⊢
        rw [p1.2.2.2.2 p (Or.inr (by omega))]
        exact this
    · rcases q8 with ⟨a, b⟩ | ⟨a, b⟩
      · left
        refine ⟨by omega, ?_⟩
        rw [hlist, b]; simp
      · right
        exact ⟨rfl, by omega, by rw [hlist, b]⟩

/-- corollary in the form `rebalance` uses it: `first_unused` lies in `[F - 1, L]`, and the flag
    `first_unused_index != last_index_in_subtree - subtree_size` that `rebalance` hands to
    `redistribute_elements_in_subtree` tells which of the two alternatives of `CompactSpec` holds -/
theorem compactSpec_pend (t : Tree) (F L n key : Nat) (value : Int) (add : Bool)
    (hF : 1 ≤ F) (hFL : F ≤ L) (hL : L ≤ t.rs) (hsz : t.cells.size = t.rs + 2)
    (hn : n = t.countRange F (L + 1) + (if add then 1 else 0)) (hn1 : 1 ≤ n) (hnroom : n ≤ L + 1 - F)
    (hadd : add = true → SMap.Sorted (t.listRange F (L + 1)) ∧
        (∀ q ∈ t.listRange F (L + 1), q.1 ≠ key) ∧
        ∀ p, 1 ≤ p → p < F → ∀ kv, t.cell p = some kv → kv.1 < key) :
    let r := compactElementsInTheRightmostEnd t L n key value add
    F ≤ r.2 + 1 ∧ r.2 ≤ L ∧
    ((r.2 != L - n) = false → r.2 + n = L ∧ r.1.listRange (r.2 + 1) (L + 1) =
        (if add then SMap.set (t.listRange F (L + 1)) key value else t.listRange F (L + 1))) ∧
    ((r.2 != L - n) = true → add = true ∧ r.2 + n = L + 1 ∧
        r.1.listRange (r.2 + 1) (L + 1) = t.listRange F (L + 1)) := by
  intro r
  obtain ⟨_, _, _, h⟩ := compactSpec t F L n key value add hF hFL hL hsz hn hn1 hnroom hadd
  change (r.2 + n = L ∧ _) ∨ (add = true ∧ r.2 + n = L + 1 ∧ _) at h
  rcases h with ⟨a, b⟩ | ⟨a, b, c⟩
  · refine ⟨by omega, by omega, fun _ => ⟨a, b⟩, fun hc => ?_⟩
    have : r.2 = L - n := by omega
    simp [this] at hc
  · refine ⟨by omega, by omega, fun hc => ?_, fun _ => ⟨a, b, c⟩⟩
    have : r.2 ≠ L - n := by omega
    simp [this] at hc

end PPLV.COTree

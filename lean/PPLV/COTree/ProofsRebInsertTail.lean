import PPLV.COTree.ProofsRebInsertParts

/-!
# `insert`: the tail of `insert_precise_aux` (non-leaf hint, leaf hint)
-/
namespace PPLV.COTree
open Tree

/-- what `insertTail` guarantees -/
def InsertTailPost (t : Tree) (key : Nat) (value : Int) (r : Option (Tree × TIt)) : Prop :=
  ∃ t' it', r = some (t', it') ∧ t'.Shape ∧
    t'.countRange 1 (t'.rs + 1) = t.countRange 1 (t.rs + 1) + 1 ∧
    t'.toList = SMap.set t.toList key value ∧ t'.UpClosed ∧
    t'.cell it'.i = some (key, value) ∧ t'.size = t.size + 1 ∧ t'.rs = t.rs ∧
    1 ≤ it'.i ∧ it'.i ≤ t'.rs

/-- non-leaf hint: the pair goes to the unused child on the side of the key -/
theorem insertTail_nonleaf (t : Tree) (key : Nat) (value : Int) (i o : Nat)
    (hs : t.Shape) (hup : t.UpClosed) (hn : t.IsNode i o) (hu : t.isUnused i = false)
    (hk : t.keyAt i ≠ key) (hbr : t.Brackets i i key) (hl : (⟨i, o⟩ : TIt).isLeaf = false)
    (hchild : t.isUnused (if key < t.keyAt i then (⟨i, o⟩ : TIt).getLeftChild
      else (⟨i, o⟩ : TIt).getRightChild).i = true) :
    InsertTailPost t key value (insertTail t key value ⟨i, o⟩) := by
  have ho1 : o ≠ 1 := by simpa [TIt.isLeaf] using hl
  obtain ⟨o', k1, k2, k3, k4, k5, k6, k7, k8, k9, _⟩ := hn.kids hs ho1
  obtain ⟨kv, hkv⟩ := (isUnused_false_iff t i).mp hu
  have hka := keyAt_of_cell hkv
  have hbi := hn.bounds hs
  by_cases hlt : key < t.keyAt i
  · simp only [hlt, if_true] at hchild
    have hchild' : t.isUnused (i - o') = true := by
      have : (TIt.getLeftChild ⟨i, o⟩).i = i - o' := by rw [getLeftChild_eq, k2]
      rw [this] at hchild; exact hchild
    have e : insertTail t key value ⟨i, o⟩ =
        some ({ t.setCell (i - o') (some (key, value)) with size := t.size + 1 }, ⟨i - o', o'⟩) := by
      simp [insertTail, hl, hlt, TIt.getLeftChild, k2]
    have hempty := UpClosed.empty_subtree' hs hup k6 hchild'
    have hbc := k6.bounds hs
    obtain ⟨a1, a2, a3, a4, a5⟩ := insert_at_unused t (i - o') key value (t.size + 1) hs hup
      (by omega) (by omega) hchild'
      (fun p kv' h1 h2 hc => hbr.1 p kv' h1 (by omega) hc)
      (fun p kv' h1 h2 hc => by
        by_cases hp : p < i
        · rw [hempty p (by omega) (by omega)] at hc; cases hc
        · by_cases hp2 : p = i
          · subst hp2; rw [hkv] at hc; cases hc; omega
          · exact hbr.2 p kv' (by omega) h2 hc)
      (fun oc hoc hroot => by
        have := k6.unique hoc
        subst this
        rw [k8]; exact hu)
    refine ⟨_, _, e, a1, a2, a3, a4, a5, rfl, rfl, ?_, ?_⟩
    · show 1 ≤ i - o'; omega
    · show i - o' ≤ t.rs; omega
  · simp only [hlt, if_false] at hchild
    have hgt : t.keyAt i < key := by omega
    have hchild' : t.isUnused (i + o') = true := by
      have : (TIt.getRightChild ⟨i, o⟩).i = i + o' := by rw [getRightChild_eq, k2]
      rw [this] at hchild; exact hchild
    have e : insertTail t key value ⟨i, o⟩ =
        some ({ t.setCell (i + o') (some (key, value)) with size := t.size + 1 }, ⟨i + o', o'⟩) := by
      simp [insertTail, hl, hlt, TIt.getRightChild, k2]
    have hempty := UpClosed.empty_subtree' hs hup k7 hchild'
    have hbc := k7.bounds hs
    obtain ⟨a1, a2, a3, a4, a5⟩ := insert_at_unused t (i + o') key value (t.size + 1) hs hup
      (by omega) (by omega) hchild'
      (fun p kv' h1 h2 hc => by
        by_cases hp : i < p
        · rw [hempty p (by omega) (by omega)] at hc; cases hc
        · by_cases hp2 : p = i
          · subst hp2; rw [hkv] at hc; cases hc; omega
          · exact hbr.1 p kv' h1 (by omega) hc)
      (fun p kv' h1 h2 hc => hbr.2 p kv' (by omega) h2 hc)
      (fun oc hoc hroot => by
        have := k7.unique hoc
        subst this
        rw [k9]; exact hu)
    refine ⟨_, _, e, a1, a2, a3, a4, a5, rfl, rfl, ?_, ?_⟩
    · show 1 ≤ i + o'; omega
    · show i + o' ≤ t.rs; omega

/-- leaf hint: `rebalance`, then the search restarts from the rebuilt subtree -/
theorem insertTail_leaf (hr : RedistSpec) (hg : GoDownSpec) (t : Tree) (key : Nat) (value : Int)
    (i o : Nat) (hs : t.Shape) (hsorted : SMap.Sorted t.toList) (hup : t.UpClosed)
    (hcnt : t.countRange 1 (t.rs + 1) = t.size)
    (hn : t.IsNode i o) (hu : t.isUnused i = false)
    (hk : t.keyAt i ≠ key) (hbr : t.Brackets i i key) (hl : (⟨i, o⟩ : TIt).isLeaf = true)
    (h7 : 7 ≤ t.rs) (hroot : rebalanceCond t.maxDepth (t.size + 1) t.rs 0 = false) :
    InsertTailPost t key value (insertTail t key value ⟨i, o⟩) := by
  have ho1 : o = 1 := by simpa [TIt.isLeaf] using hl
  subst ho1
  obtain ⟨t3, j, oj, r1, r2, r3, r4, r5, r6, r7, r8, r9, r10, r11, r12, r13, r14, ⟨p, p1, p2, p3⟩, _, _⟩ :=
    rebalanceInsertSpec_of hr { t with size := t.size + 1 } i key value hs h7 hsorted hup hn hu hk hbr
      (by show t.countRange 1 (t.rs + 1) + 1 = t.size + 1; omega) hroot
  have e : insertTail t key value ⟨i, 1⟩ = some (t3, t3.goDownSearchingKey key ⟨j, oj⟩) := by
    simp [insertTail, hl, r1]
  have hcs := sorted_cells r7
  have hbj := r10.bounds r2
  have hbr3 : t3.Brackets (j - (oj - 1)) (j + (oj - 1)) key := by
    constructor
    · intro q kv h1 h2 hc
      exact hcs q p kv (key, value) h1 (by omega) (by omega) hc p3
    · intro q kv h1 h2 hc
      exact hcs p q (key, value) kv (by omega) (by omega) h2 p3 hc
  obtain ⟨g1, g2, g3, g4, g5, _⟩ := hg t3 key j oj r2 r7 r8 r10 r14 hbr3
  have hkey := g5 ⟨p, p1, p2, value, p3⟩
  generalize t3.goDownSearchingKey key ⟨j, oj⟩ = it' at e g1 g2 g3 g4 hkey
  obtain ⟨kv', hkv'⟩ := (isUnused_false_iff t3 it'.i).mp g2
  have hbi' := g1.bounds r2
  rw [keyAt_of_cell hkv'] at hkey
  have hip : it'.i = p := by
    by_cases h1 : it'.i < p
    · have := hcs it'.i p kv' (key, value) (by omega) h1 (by omega) hkv' p3
      simp only at this; omega
    · by_cases h2 : p < it'.i
      · have := hcs p it'.i (key, value) kv' (by omega) h2 (by omega) p3 hkv'
        simp only at this; omega
      · omega
  refine ⟨t3, it', e, r2, ?_, r6, r8, by rw [hip]; exact p3, r5, r3, by omega, by omega⟩
  rw [r9]
  show t.size + 1 = t.countRange 1 (t.rs + 1) + 1
  omega

end PPLV.COTree

import PPLV.COTree.ProofsRebUp
import PPLV.COTree.ProofsMap

/-!
# basics for the `while (true)` of `erase(tree_iterator)`

Moving a pair over unused slots keeps the in-order listing; erasing one slot of a sorted tree.
-/
namespace PPLV.COTree

namespace Tree

/-! ## lists -/

theorem toList_eq (t : Tree) : t.toList = t.listRange 1 (t.rs + 1) := rfl

/-- two trees that read `t` with the pair of slot `b` at `b` resp. at `a`, the other of the two
    slots being free, list the same when every other slot of `lo … hi-1` is free -/
theorem hole_move_gen (t T1 T2 : Tree) (a b lo hi : Nat) (hrs1 : T1.rs = t.rs) (hrs2 : T2.rs = t.rs)
    (c1 : ∀ p, T1.cell p = if p = b then none else if p = a then t.cell b else t.cell p)
    (c2 : ∀ p, T2.cell p = if p = a then none else t.cell p)
    (hab : a ≠ b) (h1 : 1 ≤ lo) (h2 : lo ≤ a) (h3 : a < hi) (h4 : lo ≤ b) (h5 : b < hi)
    (h6 : hi ≤ t.rs + 1)
    (hbet : ∀ p, lo ≤ p → p < hi → p ≠ a → p ≠ b → t.cell p = none) :
    T1.toList = T2.toList := by
  rw [toList_eq, toList_eq, hrs1, hrs2,
    listRange_split T1 1 lo (t.rs + 1) h1 (by omega), listRange_split T1 lo hi (t.rs + 1) (by omega) h6,
    listRange_split T2 1 lo (t.rs + 1) h1 (by omega), listRange_split T2 lo hi (t.rs + 1) (by omega) h6]
  have e1 : T1.listRange 1 lo = T2.listRange 1 lo := by
    apply listRange_congr
    intro p hp1 hp2
    rw [c1, c2]
    have : p ≠ a := by omega
    have : p ≠ b := by omega
    simp [*]
  have e3 : T1.listRange hi (t.rs + 1) = T2.listRange hi (t.rs + 1) := by
    apply listRange_congr
    intro p hp1 hp2
    rw [c1, c2]
    have : p ≠ a := by omega
    have : p ≠ b := by omega
    simp [*]
  have e2 : T1.listRange lo hi = T2.listRange lo hi := by
    rw [listRange_single T1 lo hi a h2 h3, listRange_single T2 lo hi b h4 h5]
    · rw [c1, c2]; simp [hab, Ne.symm hab]
    · intro p hp1 hp2 hp3
      rw [c2]
      by_cases hpa : p = a
      · simp [hpa]
      · simp only [hpa, if_false]; exact hbet p hp1 hp2 hpa hp3
    · intro p hp1 hp2 hp3
      rw [c1]
      by_cases hpb : p = b
      · simp [hpb]
      · simp only [hpb, hp3, if_false]; exact hbet p hp1 hp2 hp3 hpb
  rw [e1, e2, e3]

/-- moving the pair of slot `b` to the free slot `a` over unused slots keeps the listing
    (both trees are read with their hole — `a` before, `b` after — cleared) -/
theorem hole_move (t : Tree) (a b : Nat) (x : Cell) (hsz : t.cells.size = t.rs + 2)
    (ha1 : 1 ≤ a) (ha2 : a ≤ t.rs) (hb1 : 1 ≤ b) (hb2 : b ≤ t.rs) (hab : a ≠ b)
    (hbet : ∀ p, (a < p ∧ p < b) ∨ (b < p ∧ p < a) → t.cell p = none) :
    (((t.setCell a (t.cell b)).setCell b x).setCell b none).toList = (t.setCell a none).toList := by
  have c1 : ∀ p, (((t.setCell a (t.cell b)).setCell b x).setCell b none).cell p =
      if p = b then none else if p = a then t.cell b else t.cell p := by
    intro p
    simp only [cell_setCell, setCell_cells_size]
    by_cases h1 : b = p
    · subst h1; simp [hsz]; omega
    · have h1' : ¬ p = b := fun h => h1 h.symm
      simp only [h1, h1', false_and, if_false]
      by_cases h2 : a = p
      · subst h2; simp [hsz]; omega
      · have h2' : ¬ p = a := fun h => h2 h.symm
        simp [h2, h2']
  have c2 : ∀ p, (t.setCell a none).cell p = if p = a then none else t.cell p := by
    intro p
    simp only [cell_setCell]
    by_cases h2 : a = p
    · subst h2; simp [hsz]; omega
    · have h2' : ¬ p = a := fun h => h2 h.symm
      simp [h2, h2']
  rcases Nat.lt_or_gt_of_ne hab with hlt | hgt
  · exact hole_move_gen t _ _ a b a (b + 1) rfl rfl c1 c2 hab ha1 (Nat.le_refl _) (by omega) (by omega)
      (by omega) (by omega) (fun p q1 q2 q3 q4 => hbet p (Or.inl ⟨by omega, by omega⟩))
  · exact hole_move_gen t _ _ a b b (a + 1) rfl rfl c1 c2 hab hb1 (by omega) (by omega) (Nat.le_refl _)
      (by omega) (by omega) (fun p q1 q2 q3 q4 => hbet p (Or.inr ⟨by omega, by omega⟩))

/-- clearing one used slot of a sorted tree erases its key from the listing -/
theorem toList_setCell_none {t : Tree} {i : Nat} (hsz : t.cells.size = t.rs + 2)
    (hso : SMap.Sorted t.toList) (h1 : 1 ≤ i) (h2 : i ≤ t.rs) (hu : t.isUnused i = false) :
    (t.setCell i none).toList = SMap.erase t.toList (t.keyAt i) := by
  have hcs := sorted_cells hso
  obtain ⟨kv, hkv⟩ := (isUnused_false_iff t i).mp hu
  have hk := keyAt_of_cell hkv
  have c2 : ∀ p, (t.setCell i none).cell p = if p = i then none else t.cell p := by
    intro p
    simp only [cell_setCell]
    by_cases h2 : i = p
    · subst h2; simp [hsz]; omega
    · have h2' : ¬ p = i := fun h => h2 h.symm
      simp [h2, h2']
  have eA : (t.setCell i none).listRange 1 i = t.listRange 1 i := by
    apply listRange_congr; intro p a b; rw [c2]; have : p ≠ i := by omega
    simp [this]
  have eB : (t.setCell i none).listRange (i + 1) (t.rs + 1) = t.listRange (i + 1) (t.rs + 1) := by
    apply listRange_congr; intro p a b; rw [c2]; have : p ≠ i := by omega
    simp [this]
  have eM : (t.setCell i none).listRange i (i + 1) = [] := by
    rw [listRange_one, c2]; simp
  have eM' : t.listRange i (i + 1) = [kv] := by
    rw [listRange_one, hkv]; rfl
  rw [toList_eq, toList_eq, setCell_rs,
    listRange_split _ 1 i (t.rs + 1) h1 (by omega), listRange_split _ i (i + 1) (t.rs + 1) (by omega) (by omega),
    listRange_split t 1 i (t.rs + 1) h1 (by omega), listRange_split t i (i + 1) (t.rs + 1) (by omega) (by omega),
    eA, eB, eM, eM']
  unfold SMap.erase
  rw [List.filter_append, List.filter_append]
  have fA : (t.listRange 1 i).filter (fun p => p.1 != t.keyAt i) = t.listRange 1 i := by
    rw [List.filter_eq_self]
    intro a ha
    obtain ⟨p, q1, q2, q3⟩ := (mem_listRange t 1 i a).mp ha
    have := hcs p i a kv q1 q2 h2 q3 hkv
    simp; omega
  have fB : (t.listRange (i + 1) (t.rs + 1)).filter (fun p => p.1 != t.keyAt i)
      = t.listRange (i + 1) (t.rs + 1) := by
    rw [List.filter_eq_self]
    intro a ha
    obtain ⟨p, q1, q2, q3⟩ := (mem_listRange t (i + 1) (t.rs + 1) a).mp ha
    have := hcs i p kv a h1 (by omega) (by omega) hkv q3
    simp; omega
  rw [fA, fB]
  simp [hk]

/-- `countRange` reads only which slots are used -/
theorem countRange_congr_unused (t t' : Tree) (lo hi : Nat)
    (h : ∀ p, lo ≤ p → p < hi → t'.isUnused p = t.isUnused p) :
    t'.countRange lo hi = t.countRange lo hi := by
  simp only [countRange]
  congr 1
  apply List.filter_congr
  intro p hp
  rw [List.mem_range'_1] at hp
  rw [h p hp.1 (by omega)]

theorem UpClosed.congr {t t' : Tree} (hrs : t'.rs = t.rs) (h : ∀ p, t'.isUnused p = t.isUnused p)
    (hup : t.UpClosed) : t'.UpClosed := by
  intro i o hn hu hne
  rw [h] at hu ⊢
  rw [hrs] at hne
  exact hup i o (IsNode.congr hrs.symm hn) hu hne

end Tree
end PPLV.COTree

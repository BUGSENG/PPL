import PPLV.COTree.ProofsRebFillLoop

/-!
# `CO_Tree(Iterator, n)` and `move_data_from` / `rebuild_smaller_tree`:
`bulkSpec : BulkSpec`, `smallerSpec : SmallerSpec`
-/
namespace PPLV.COTree.FillB
open Tree

theorem fillLoop_nil {σ : Type} (pop : σ → Option ((Nat × Int) × σ)) (f : Nat) (t : Tree) (r : TIt)
    (s : σ) : fillLoop pop f [] t r s = some (t, s) := by
  cases f <;> simp [fillLoop]

/-- the whole loop on the empty tree `init (2^k - 1)`: it terminates within the fuel `6n + 1` and
    builds the half/half layout of the delivered list -/
theorem fill_root {σ : Type} (pop : σ → Option ((Nat × Int) × σ)) (k n : Nat) (l : List (Nat × Int))
    (s s' : σ) (hk : 2 ≤ k) (hn1 : 1 ≤ n) (hn : n ≤ 2 ^ k - 1) (hlen : l.length = n)
    (hdel : Delivers pop s l s') :
    ∃ t1, fillLoop pop (6 * n + 1) [(n, 3)] (init (2 ^ k - 1)) (init (2 ^ k - 1)).getRoot s
        = some (t1, s') ∧
      ∀ t', t' = { t1 with size := n } →
        t'.Shape ∧ t'.rs = 2 ^ k - 1 ∧ t'.maxDepth = k ∧ t'.size = n ∧ t'.toList = l ∧
        t'.countRange 1 (t'.rs + 1) = n ∧ t'.Balanced t'.maxDepth (t'.rs / 2 + 1) n := by
  obtain ⟨hsh, hrs, hmd, hsz0, hnone⟩ := init_pow k hk
  obtain ⟨t0, ht0⟩ : ∃ t0, t0 = init (2 ^ k - 1) := ⟨_, rfl⟩
  rw [← ht0] at hsh hrs hmd hsz0 hnone ⊢
  obtain ⟨k1, rfl⟩ : ∃ k1, k = k1 + 1 := ⟨k - 1, by omega⟩
  have hopos : 2 ^ 1 ≤ 2 ^ k1 := Nat.pow_le_pow_right (by omega) (by omega)
  obtain ⟨w, hw⟩ : ∃ w, w + 1 = 2 ^ k1 := ⟨2 ^ k1 - 1, by omega⟩
  have hpow : 2 ^ (k1 + 1) = 2 * (w + 1) := by rw [Nat.pow_succ, hw]; omega
  have hroot : t0.getRoot = ⟨w + 1, w + 1⟩ := by
    unfold Tree.getRoot; rw [hrs]; congr 1 <;> omega
  obtain ⟨_, _, hcs, hc0, hcN⟩ := hsh
  obtain ⟨c, t1, hc, hrun, hfr, hlist, hbal⟩ :=
    fill_entry pop n k1 0 (w + 1) w 1 t0 t0.getRoot 3 l s s' (by omega) hw (by omega) (by omega)
      (by rw [hroot]; simp [mv]) (by omega) (by omega)
      (fun p h1 h2 => hnone p h1 (by omega)) hlen hdel
  have e : 6 * n + 1 = (6 * n + 1 - c) + c := by omega
  refine ⟨t1, by rw [e, hrun, fillLoop_nil], ?_⟩
  intro t' ht'
  obtain ⟨f1, f2, f3, f4, f5⟩ := hfr
  have hcell : ∀ p, t'.cell p = t1.cell p := fun p => by rw [ht']; rfl
  have hrs' : t'.rs = 2 ^ (k1 + 1) - 1 := by rw [ht']; exact f1.trans hrs
  have hmd' : t'.maxDepth = k1 + 1 := by rw [ht']; exact f2.trans hmd
  have hcs' : t'.cells.size = t'.rs + 2 := by rw [hrs', ht']; show t1.cells.size = _; omega
  have hl' : t'.listRange 1 (t'.rs + 1) = l := by
    rw [← hlist, hrs', show 2 ^ (k1 + 1) - 1 + 1 = w + 1 + w + 1 by omega]
    exact listRange_congr _ _ _ _ (fun p _ _ => hcell p)
  refine ⟨⟨by rw [hrs', hmd'], by omega, hcs', ?_, ?_⟩, hrs', hmd', by rw [ht'], hl', ?_, ?_⟩
  · rw [hcell, f5 0 (by omega)]; exact hc0
  · rw [hcell, hrs', f5 _ (by omega), ← hrs]; exact hcN
  · rw [← length_listRange, hl', hlen]
  · rw [hmd', hrs', show (2 ^ (k1 + 1) - 1) / 2 + 1 = w + 1 by omega]
    exact balanced_congr t1 t' hw (Nat.one_add w) (fun p _ _ => hcell p) hbal

/-! ## the bulk constructor -/

theorem bulkRs_pow (n : Nat) (hn : n ≠ 0) : ∃ k, 2 ≤ k ∧ bulkRs n = 2 ^ k - 1 := by
  have hs := integerLog2_spec n n (by omega) (Nat.le_refl _)
  unfold bulkRs
  simp only [hn, if_false]
  generalize integerLog2 n n = g at hs ⊢
  cases g with
  | zero =>
    have h1 : n = 1 := by simp at hs; omega
    subst h1
    exact ⟨2, by omega, by simp [isGreaterThanRatio, maxDensityPercent]⟩
  | succ g =>
    split
    · refine ⟨g + 1 + 1 + 1, by omega, ?_⟩
      have : 1 ≤ 2 ^ (g + 1 + 1) := Nat.one_le_two_pow
      rw [Nat.pow_succ 2 (g + 1 + 1)]
      omega
    · exact ⟨g + 1 + 1, by omega, rfl⟩

theorem delivers_popList : ∀ l : List (Nat × Int), Delivers popList l l []
  | [] => rfl
  | _ :: l => ⟨l, rfl, delivers_popList l⟩

/-! ## the source of `move_data_from` -/

/-- `Tree.skipUp_spec` in terms of cells, with the marker `indexes[rs + 1]` in place -/
theorem skipUp_spec (t : Tree) (p : Nat) (hp : p ≤ t.rs + 1) (hN : t.cell (t.rs + 1) ≠ none) :
    p ≤ t.skipUp p ∧ t.skipUp p ≤ t.rs + 1 ∧
    (∀ x, p ≤ x → x < t.skipUp p → t.cell x = none) ∧ t.cell (t.skipUp p) ≠ none := by
  obtain ⟨a, b, c, -⟩ := Tree.skipUp_spec t p hp
  have hs : t.isUnused (t.rs + 1) = false := by
    unfold Tree.isUnused; exact Option.isNone_eq_false_iff.mpr (Option.isSome_iff_ne_none.mpr hN)
  have d := Tree.skipUp_used t p hp hs
  refine ⟨a, b, fun x h1 h2 => Option.isNone_iff_eq_none.mp (c x h1 h2), fun h => ?_⟩
  unfold Tree.isUnused at d; rw [h] at d; cases d

/-- from a used slot `idx` on, `popTree` delivers the remaining elements of the source in slot order -/
theorem delivers_popTree : ∀ (d : Nat) (src : Tree) (idx : Nat), src.rs + 1 - idx = d →
    idx ≤ src.rs + 1 → src.cells.size = src.rs + 2 → src.cell (src.rs + 1) ≠ none →
    src.cell idx ≠ none →
    ∃ s', Delivers popTree (src, idx) (src.listRange idx (src.rs + 1)) s' := by
  intro d
  induction d using Nat.strongRecOn with
  | _ d ih =>
  intro src idx hd hidx hcs hN hused
  by_cases hend : idx = src.rs + 1
  · rw [listRange_empty _ _ _ (by omega)]
    exact ⟨_, rfl⟩
  · obtain ⟨kv, hkv⟩ : ∃ kv, src.cell idx = some kv := Option.ne_none_iff_exists'.mp hused
    obtain ⟨src', hsrc'⟩ : ∃ src', src' = src.setCell idx none := ⟨_, rfl⟩
    have hrs' : src'.rs = src.rs := by rw [hsrc']; rfl
    have hcs' : src'.cells.size = src'.rs + 2 := by rw [hrs', hsrc']; simp; exact hcs
    have hcell' : ∀ p, p ≠ idx → src'.cell p = src.cell p := by
      intro p hp; rw [hsrc', cell_setCell_ne _ _ _ _ (by omega)]
    have hN' : src'.cell (src'.rs + 1) ≠ none := by
      rw [hrs', hcell' _ (by omega)]; exact hN
    obtain ⟨a, b, c, e⟩ := skipUp_spec src' (idx + 1) (by omega) hN'
    obtain ⟨idx', hidx'⟩ : ∃ idx', idx' = src'.skipUp (idx + 1) := ⟨_, rfl⟩
    rw [← hidx'] at a b c e
    obtain ⟨s', hs'⟩ := ih (src'.rs + 1 - idx') (by omega) src' idx' rfl b hcs' hN' e
    have hlist : src.listRange idx (src.rs + 1) = kv :: src'.listRange idx' (src'.rs + 1) := by
      rw [listRange_split _ idx (idx + 1) _ (by omega) (by omega), listRange_one, hkv, hrs',
        ← listRange_congr src src' (idx + 1) _ (fun p h1 _ => hcell' p (by omega)),
        listRange_split src' (idx + 1) idx' _ a (by omega),
        listRange_none src' (idx + 1) idx' c]
      rfl
    rw [hlist]
    refine ⟨s', (src', idx'), ?_, hs'⟩
    unfold popTree
    simp only [hkv]
    rw [← hsrc', ← hidx']

end PPLV.COTree.FillB

namespace PPLV.COTree
open FillB Tree

theorem bulkSpec : BulkSpec := by
  intro l hl
  have hn : l.length ≠ 0 := by
    intro h; exact hl (List.length_eq_zero_iff.mp h)
  obtain ⟨k, hk, hrs⟩ := bulkRs_pow l.length hn
  have hfit := (bulk_density_ok l.length).2
  obtain ⟨t1, hrun, hpost⟩ := fill_root popList k l.length l l [] hk (by omega) (by omega) rfl
    (delivers_popList l)
  obtain ⟨h1, h2, h3, h4, h5, h6, h7⟩ := hpost _ rfl
  refine ⟨{ t1 with size := l.length }, ?_, h1, by rw [h2, hrs], h4, h5, h6, h7⟩
  unfold bulk
  simp only [hn, if_false]
  rw [hrs, hrun]

theorem smallerSpec : SmallerSpec := by
  intro t hsh h7 hcount h1 hfit
  obtain ⟨hrs, hmd, hcs, hc0, hcN⟩ := hsh
  obtain ⟨k1, hk1⟩ : ∃ k1, t.maxDepth = k1 + 1 := ⟨t.maxDepth - 1, by omega⟩
  have hpow : 2 ^ t.maxDepth = 2 * 2 ^ k1 := by rw [hk1, Nat.pow_succ]; omega
  have hk : 2 ≤ k1 := by
    rcases Nat.lt_or_ge k1 2 with h | h
    · have : 2 ^ k1 ≤ 2 ^ 1 := Nat.pow_le_pow_right (by omega) (by omega)
      omega
    · exact h
  have hhalf : t.rs / 2 = 2 ^ k1 - 1 := by
    have : 1 ≤ 2 ^ k1 := Nat.one_le_two_pow
    omega
  have hN : t.cell (t.rs + 1) ≠ none := by rw [hcN]; simp [sentinel]
  obtain ⟨a, b, c, e⟩ := skipUp_spec t 1 (by omega) hN
  obtain ⟨s', hdel⟩ := delivers_popTree _ t (t.skipUp 1) rfl b hcs hN e
  have hlist : t.listRange (t.skipUp 1) (t.rs + 1) = t.toList := by
    unfold Tree.toList
    rw [listRange_split t 1 (t.skipUp 1) _ a b, listRange_none t 1 _ c]
    rfl
  rw [hlist] at hdel
  have hlen : t.toList.length = t.size := by
    unfold Tree.toList
    rw [length_listRange, hcount]
  obtain ⟨t1, hrun, hpost⟩ := fill_root popTree k1 t.size t.toList (t, t.skipUp 1) s' hk h1
    (by omega) hlen hdel
  obtain ⟨p1, p2, p3, p4, p5, p6, p7⟩ := hpost _ rfl
  refine ⟨{ t1 with size := t.size }, ?_, p1, by rw [p2, hhalf], by rw [p3]; omega, p4, p5, p6, p7⟩
  unfold rebuildSmallerTree moveDataFrom
  have hs0 : t.size ≠ 0 := by omega
  rw [if_neg hs0, hhalf, hrun]

end PPLV.COTree

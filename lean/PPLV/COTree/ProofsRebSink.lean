import PPLV.COTree.ProofsRebSinkBasic

/-!
# the `while (true)` of `CO_Tree::erase(tree_iterator)`: the hole sinks

`eraseSinkSpec : EraseSinkSpec`.  The loop state is read "with the hole cleared":
`(t.setCell cur none).toList` never changes, and no step changes which slots are used.
-/
namespace PPLV.COTree

open Tree

/-- one iteration: the pair of slot `q` goes to the hole `c`, the travelling key to `q` -/
def sinkStep (t : Tree) (c q : Nat) : Tree :=
  (t.setCell c (t.cell q)).setCell q (some (t.keyAt c, t.valAt q))

theorem eraseSink_succ (t : Tree) (f : Nat) (itr : TIt) :
    eraseSink t (f + 1) itr =
      if itr.isLeaf then some (t, itr)
      else if !t.isUnused itr.getLeftChild.i then
        eraseSink (sinkStep t itr.i (t.followRightChildrenWithValue itr.getLeftChild).i) f
          (t.followRightChildrenWithValue itr.getLeftChild)
      else if !t.isUnused itr.getLeftChild.getParent.getRightChild.i then
        eraseSink (sinkStep t itr.i
            (t.followLeftChildrenWithValue itr.getLeftChild.getParent.getRightChild).i) f
          (t.followLeftChildrenWithValue itr.getLeftChild.getParent.getRightChild)
      else some (t, itr.getLeftChild.getParent.getRightChild.getParent) := rfl

/-- what the loop started on the hole `(c, oc)` of `t` guarantees about its result -/
structure SinkPost (t : Tree) (c oc : Nat) (t1 : Tree) (e oe : Nat) : Prop where
  node : t.IsNode e oe
  used : t.isUnused e = false
  lo : c - (oc - 1) ≤ e - (oe - 1)
  hi : e + (oe - 1) ≤ c + (oc - 1)
  lt : e ≠ c → oe < oc
  eq : e = c → oe = oc
  rs : t1.rs = t.rs
  maxDepth : t1.maxDepth = t.maxDepth
  size : t1.size = t.size
  csize : t1.cells.size = t.cells.size
  unused : ∀ p, t1.isUnused p = t.isUnused p
  frame : ∀ p, (p < c - (oc - 1) ∨ c + (oc - 1) < p) → t1.cell p = t.cell p
  list : (t1.setCell e none).toList = (t.setCell c none).toList
  empty : ∀ p, e - (oe - 1) ≤ p → p ≤ e + (oe - 1) → p ≠ e → t1.cell p = none

/-- `(q, oq)` is the used slot next to the hole `(c, oc)` inside the hole's subtree: a proper
    descendant, on one side of `c`, with no used slot between the two -/
structure Pull (t : Tree) (c oc q oq : Nat) : Prop where
  node : t.IsNode q oq
  used : t.isUnused q = false
  lo : c - (oc - 1) ≤ q - (oq - 1)
  hi : q + (oq - 1) ≤ c + (oc - 1)
  lt : oq < oc
  side : q + (oq - 1) < c ∨ c < q - (oq - 1)
  between : ∀ p, (c < p ∧ p < q) ∨ (q < p ∧ p < c) → t.cell p = none

theorem sinkStep_cell (t : Tree) {c q : Nat} (hsz : t.cells.size = t.rs + 2) (hc : c ≤ t.rs)
    (hq : q ≤ t.rs) (p : Nat) :
    (sinkStep t c q).cell p =
      if p = q then some (t.keyAt c, t.valAt q) else if p = c then t.cell q else t.cell p := by
  simp only [sinkStep, cell_setCell, setCell_cells_size]
  by_cases h1 : q = p
  · subst h1; simp [hsz]; omega
  · have h1' : ¬ p = q := fun h => h1 h.symm
    simp only [h1, h1', false_and, if_false]
    by_cases h2 : c = p
    · subst h2; simp [hsz]; omega
    · have h2' : ¬ p = c := fun h => h2 h.symm
      simp [h2, h2']

theorem sinkStep_isUnused (t : Tree) {c q : Nat} (hsz : t.cells.size = t.rs + 2) (hc : c ≤ t.rs)
    (hq : q ≤ t.rs) (huc : t.isUnused c = false) (huq : t.isUnused q = false) (p : Nat) :
    (sinkStep t c q).isUnused p = t.isUnused p := by
  obtain ⟨kq, hkq⟩ := (isUnused_false_iff t q).mp huq
  obtain ⟨kc, hkc⟩ := (isUnused_false_iff t c).mp huc
  simp only [isUnused, sinkStep_cell t hsz hc hq]
  by_cases h1 : p = q
  · subst h1; simp [hkq]
  · simp only [h1, if_false]
    by_cases h2 : p = c
    · subst h2; simp [hkq, hkc]
    · simp [h2]

theorem cell_setCell_none (t : Tree) {e : Nat} (he : e < t.cells.size) (p : Nat) :
    (t.setCell e none).cell p = if p = e then none else t.cell p := by
  simp only [cell_setCell]
  by_cases h : e = p
  · subst h; simp [he]
  · have h' : ¬ p = e := fun x => h x.symm
    simp [h, h']

/-- the slots of a `Pull` are inside `1 … rs` and differ -/
theorem Pull.slots {t : Tree} {c oc q oq : Nat} (hs : t.Shape) (hc : t.IsNode c oc)
    (hp : Pull t c oc q oq) : 1 ≤ c ∧ c ≤ t.rs ∧ 1 ≤ q ∧ q ≤ t.rs ∧ c ≠ q := by
  have hbc := hc.bounds hs
  have hbq := hp.node.bounds hs
  have := hp.side
  omega

/-- composing one pull with the rest of the loop -/
theorem sink_compose {t : Tree} {c oc q oq : Nat} {t1 : Tree} {e oe : Nat}
    (hs : t.Shape) (hc : t.IsNode c oc) (huc : t.isUnused c = false) (hp : Pull t c oc q oq)
    (hpost : SinkPost (sinkStep t c q) q oq t1 e oe) : SinkPost t c oc t1 e oe := by
  obtain ⟨hc1, hc2, hq1, hq2, hne⟩ := hp.slots hs hc
  have hsz := hs.2.2.1
  have hcell := sinkStep_cell t hsz hc2 hq2
  have hun := sinkStep_isUnused t hsz hc2 hq2 huc hp.used
  have hnode : t.IsNode e oe := IsNode.congr rfl hpost.node
  have hbq := hp.node.bounds hs
  have hbe := hnode.bounds hs
  have hoe : oe ≤ oq := by
    by_cases h : e = q
    · exact Nat.le_of_eq (hpost.eq h)
    · exact Nat.le_of_lt (hpost.lt h)
  have hlt := hp.lt
  -- the range of `e` is inside the range of `q`, which is inside the range of `c` and misses `c`
  have hr : c - (oc - 1) ≤ e - (oe - 1) ∧ e + (oe - 1) ≤ c + (oc - 1) ∧ e ≠ c := by
    have := hp.lo; have := hp.hi; have := hp.side; have := hpost.lo; have := hpost.hi
    omega
  refine ⟨hnode, (hun e).symm.trans hpost.used, hr.1, hr.2.1, fun _ => by omega,
    fun h => absurd h hr.2.2, hpost.rs, hpost.maxDepth, hpost.size, ?_, fun p => (hpost.unused p).trans (hun p),
    ?_, ?_, hpost.empty⟩
  · rw [hpost.csize]; simp [sinkStep]
  · intro p hp'
    have hpq : p < q - (oq - 1) ∨ q + (oq - 1) < p := by have := hp.lo; have := hp.hi; omega
    rw [hpost.frame p hpq, hcell, if_neg (by omega), if_neg (by omega)]
  · rw [hpost.list]
    exact hole_move t c q _ hsz hc1 hc2 hq1 hq2 hne hp.between

/-- the state after one pull satisfies the loop invariant again -/
theorem sinkStep_inv {t : Tree} {c oc q oq : Nat} (hs : t.Shape) (hup : t.UpClosed)
    (hc : t.IsNode c oc) (huc : t.isUnused c = false) (hp : Pull t c oc q oq) :
    (sinkStep t c q).Shape ∧ (sinkStep t c q).UpClosed ∧ (sinkStep t c q).IsNode q oq ∧
      (sinkStep t c q).isUnused q = false := by
  obtain ⟨hc1, hc2, hq1, hq2, hne⟩ := hp.slots hs hc
  obtain ⟨s1, s2, s3, s4, s5⟩ := hs
  have hcell := sinkStep_cell t s3 hc2 hq2
  have hun := sinkStep_isUnused t s3 hc2 hq2 huc hp.used
  refine ⟨⟨s1, s2, ?_, ?_, ?_⟩, UpClosed.congr (t := t) rfl hun hup, IsNode.congr (t := t) rfl hp.node,
    (hun q).trans hp.used⟩
  · simp [sinkStep, s3]
  · rw [hcell, if_neg (by omega), if_neg (by omega)]; exact s4
  · show (sinkStep t c q).cell (t.rs + 1) = _
    rw [hcell, if_neg (by omega), if_neg (by omega)]; exact s5

/-- stopping on the current node -/
theorem sink_stop {t : Tree} {c oc : Nat} (hc : t.IsNode c oc) (huc : t.isUnused c = false)
    (hem : ∀ p, c - (oc - 1) ≤ p → p ≤ c + (oc - 1) → p ≠ c → t.cell p = none) :
    SinkPost t c oc t c oc :=
  ⟨hc, huc, Nat.le_refl _, Nat.le_refl _, fun h => absurd rfl h, fun _ => rfl, rfl, rfl, rfl, rfl,
    fun _ => rfl, fun _ _ => rfl, rfl, hem⟩

/-- a used left child `(c - o', o')`: the scan down from `c - 1` stops on the in-order predecessor -/
theorem pull_pred {t : Tree} {c oc o' : Nat} (hs : t.Shape) (hc : t.IsNode c oc)
    (hkl : t.IsNode (c - o') o') (e1 : oc = 2 * o') (hpos : 0 < o') (hge : 2 * o' ≤ c)
    (hul : t.isUnused (c - o') = false) :
    ∃ q oq, t.skipDown (c - o' + (o' - 1)) = q ∧ TIt.ofIndex q = ⟨q, oq⟩ ∧ Pull t c oc q oq ∧
      oq ≤ o' := by
  have hbc := hc.bounds hs
  have hsd := skipDown_ge t (p := c - o' + (o' - 1)) (q := c - o') (by omega) hul
  have hsl := skipDown_le t (c - o' + (o' - 1))
  have hsb := skipDown_between t (c - o' + (o' - 1))
  generalize t.skipDown (c - o' + (o' - 1)) = q at hsd hsl hsb
  obtain ⟨oq, hoq, hq⟩ := ofIndex_node t (p := q) (by omega) (by omega)
  obtain ⟨n1, n2, n3, -⟩ := hkl.nest hq (by omega) (by omega)
  refine ⟨q, oq, rfl, hoq, ⟨hq, hsd.2, by omega, by omega, by omega, Or.inl (by omega), ?_⟩, n1⟩
  rintro p (hp | hp)
  · omega
  · exact (isUnused_true_iff t p).mp (hsb p hp.1 (by omega))

/-- a used right child `(c + o', o')`: the scan up from `c + 1` stops on the in-order successor -/
theorem pull_succ {t : Tree} {c oc o' : Nat} (hs : t.Shape) (hc : t.IsNode c oc)
    (hkr : t.IsNode (c + o') o') (e1 : oc = 2 * o') (hpos : 0 < o')
    (hur : t.isUnused (c + o') = false) :
    ∃ q oq, t.skipUp (c + o' - (o' - 1)) = q ∧ TIt.ofIndex q = ⟨q, oq⟩ ∧ Pull t c oc q oq ∧
      oq ≤ o' := by
  have hbc := hc.bounds hs
  have hbr := hkr.bounds hs
  obtain ⟨hs1, hs2, hs3, hs4⟩ :=
    skipUp_le t (p := c + o' - (o' - 1)) (q := c + o') (by omega) (by omega) hur
  generalize t.skipUp (c + o' - (o' - 1)) = q at hs1 hs2 hs3 hs4
  obtain ⟨oq, hoq, hq⟩ := ofIndex_node t (p := q) (by omega) (by omega)
  obtain ⟨n1, n2, n3, -⟩ := hkr.nest hq (by omega) (by omega)
  refine ⟨q, oq, rfl, hoq, ⟨hq, hs3, by omega, by omega, by omega, Or.inr (by omega), ?_⟩, n1⟩
  rintro p (hp | hp)
  · exact (isUnused_true_iff t p).mp (hs4 p (by omega) hp.2)
  · omega

/-- fuel: one unit per level, `oc < 2 ^ f` -/
theorem eraseSink_aux : ∀ (f : Nat) (t : Tree) (c oc : Nat), t.Shape → t.UpClosed →
    t.IsNode c oc → oc < 2 ^ f → t.isUnused c = false →
    ∃ t1 e oe, eraseSink t f ⟨c, oc⟩ = some (t1, ⟨e, oe⟩) ∧ SinkPost t c oc t1 e oe := by
  intro f
  induction f with
  | zero => intro t c oc hs _ hc hf; have := hc.bounds hs; omega
  | succ f ih =>
    intro t c oc hs hup hc hf huc
    rw [eraseSink_succ]
    dsimp only
    by_cases hleaf : oc = 1
    · subst hleaf
      simp only [TIt.isLeaf, beq_self_eq_true, if_true]
      exact ⟨t, c, 1, rfl, sink_stop hc huc (fun p a b d => by omega)⟩
    · have hl' : (TIt.isLeaf ⟨c, oc⟩) = false := by simp [TIt.isLeaf, hleaf]
      simp only [hl', Bool.false_eq_true, if_false]
      obtain ⟨o', e1, e2, hpos', -, hge, hkl, hkr, hpl, hpr, -⟩ := hc.kids hs hleaf
      have hf' : ∀ oq, oq ≤ o' → oq < 2 ^ f := fun oq h => by rw [Nat.pow_succ] at hf; omega
      -- one pull, then the rest of the loop from the pulled slot
      have hpull : ∀ q oq, Pull t c oc q oq → oq ≤ o' → ∃ t1 e oe,
          eraseSink (sinkStep t c q) f ⟨q, oq⟩ = some (t1, ⟨e, oe⟩) ∧ SinkPost t c oc t1 e oe := by
        intro q oq hp hle
        obtain ⟨i1, i2, i3, i4⟩ := sinkStep_inv hs hup hc huc hp
        obtain ⟨t1, e, oe, r1, r2⟩ := ih (sinkStep t c q) q oq i1 i2 i3 (hf' oq hle) i4
        exact ⟨t1, e, oe, r1, sink_compose hs hc huc hp r2⟩
      simp only [getLeftChild_eq, getRightChild_eq, e2, hpl]
      cases hul : t.isUnused (c - o') with
      | false =>
        simp only [Bool.not_false, if_true, followRightChildrenWithValue]
        obtain ⟨q, oq, hq, hoq, hp, hle⟩ := pull_pred hs hc hkl e1 hpos' hge hul
        rw [hq, hoq]
        exact hpull q oq hp hle
      | true =>
        simp only [Bool.not_true, Bool.false_eq_true, if_false]
        cases hur : t.isUnused (c + o') with
        | false =>
          simp only [Bool.not_false, if_true, followLeftChildrenWithValue]
          obtain ⟨q, oq, hq, hoq, hp, hle⟩ := pull_succ hs hc hkr e1 hpos' hur
          rw [hq, hoq]
          exact hpull q oq hp hle
        | true =>
          simp only [Bool.not_true, Bool.false_eq_true, if_false, hpr]
          have hel := UpClosed.empty_subtree' hs hup hkl hul
          have her := UpClosed.empty_subtree' hs hup hkr hur
          refine ⟨t, c, oc, rfl, sink_stop hc huc ?_⟩
          intro p a b d
          rcases Nat.lt_or_gt_of_ne d with hp | hp
          · exact hel p (by omega) (by omega)
          · exact her p (by omega) (by omega)

/-- **the `while (true)` of `erase(tree_iterator)`** (`EraseSinkSpec` of `RebSpec.lean`) -/
theorem eraseSinkSpec : EraseSinkSpec := by
  intro t i o hs hsorted hup hn hu
  have hbi := hn.bounds hs
  obtain ⟨hi1, hi2⟩ : 1 ≤ i ∧ i ≤ t.rs := by omega
  have hof : o < 2 ^ t.maxDepth := by have := hs.1; have := hs.rs_odd; omega
  obtain ⟨t1, e, oe, hrun, post⟩ := eraseSink_aux t.maxDepth t i o hs hup hn hof hu
  have hbe := post.node.bounds hs
  obtain ⟨he1, he2⟩ : 1 ≤ e ∧ e ≤ t.rs := by omega
  have hin : i - (o - 1) ≤ e ∧ e ≤ i + (o - 1) := by have := post.lo; have := post.hi; omega
  obtain ⟨s1, s2, s3, s4, s5⟩ := hs
  have hs : t.Shape := ⟨s1, s2, s3, s4, s5⟩
  have f1 := post.rs
  have u := post.unused
  have hnode1 : t1.IsNode e oe := IsNode.congr f1 post.node
  have he : e < t1.cells.size := by rw [post.csize, s3]; omega
  have hcell := cell_setCell_none t1 he
  have hunu : ∀ p, p ≠ e → (t1.setCell e none).isUnused p = t.isUnused p := by
    intro p hp
    rw [← u p]
    simp only [isUnused, hcell, hp, if_false]
  have hup1 : t1.UpClosed := UpClosed.congr f1 u hup
  have hs1 : t1.Shape := by
    refine ⟨by rw [f1, post.maxDepth]; exact s1, by rw [post.maxDepth]; exact s2,
      by rw [post.csize, f1]; exact s3, ?_, ?_⟩
    · rw [post.frame 0 (by omega)]; exact s4
    · rw [f1, post.frame (t.rs + 1) (by omega)]; exact s5
  have hnone : ∀ p, e - (oe - 1) ≤ p → p ≤ e + (oe - 1) → (t1.setCell e none).cell p = none := by
    intro p a b
    rw [hcell]
    by_cases hp : p = e
    · simp [hp]
    · simp only [hp, if_false]; exact post.empty p a b hp
  have hue : (t1.setCell e none).isUnused e = true := by
    simp only [isUnused, hcell, if_true, Option.isNone_none]
  have hlist := toList_setCell_none s3 hsorted hi1 hi2 hu
  refine ⟨t1, e, oe, hrun, hnode1, post.lo, post.hi, post.lt, post.eq, ?_⟩
  show (t1.setCell e none).Shape ∧ _
  refine ⟨?_, f1, post.maxDepth, post.size, post.list.trans hlist, ?_, ?_, hnone, ?_, ?_, ?_, ?_⟩
  · refine ⟨hs1.1, hs1.2.1, (setCell_cells_size t1 e none).trans hs1.2.2.1, ?_, ?_⟩
    · rw [hcell, if_neg (by omega)]; exact hs1.2.2.2.1
    · show (t1.setCell e none).cell (t1.rs + 1) = _
      rw [hcell, if_neg (by omega)]; exact hs1.2.2.2.2
  · rw [post.list, hlist]
    exact hsorted.filter _
  · -- `UpClosed` after the hole is freed: the children of `e` are unused
    intro x ox hx hux hne
    have hx1 : t1.IsNode x ox := IsNode.congr (t' := t1) rfl hx
    have hxe : x ≠ e := fun heq => by rw [heq, hue] at hux; cases hux
    have hux1 : t1.isUnused x = false := by rw [u, ← hunu x hxe]; exact hux
    have hpar := hup1 x ox hx1 hux1 hne
    have hpn := (hx1.parent hs1 hne).1
    by_cases hpe : (TIt.getParent ⟨x, ox⟩).i = e
    · -- then `x` is a child of `e`, inside the freed range
      exfalso
      rw [hpe] at hpn
      have hoe := hpn.offset_unique hnode1
      have hbx := hx1.bounds hs1
      have hxin : e - (oe - 1) ≤ x ∧ x ≤ e + (oe - 1) := by
        rcases hx1.parent_cases hs1 with ⟨hp1, _⟩ | ⟨hp1, _, _⟩
        · rw [hp1] at hpe; simp only at hpe; omega
        · rw [hp1] at hpe; simp only at hpe; omega
      rw [(isUnused_true_iff _ x).mpr (hnone x hxin.1 hxin.2)] at hux
      cases hux
    · show (t1.setCell e none).isUnused (TIt.getParent ⟨x, ox⟩).i = false
      rw [hunu _ hpe, ← u]; exact hpar
  · -- the proper ancestors of `(e, oe)` are used
    intro j oj hj a b _
    have hj1 : t1.IsNode j oj := IsNode.congr (t' := t1) rfl hj
    have := UpClosed.ancestors_used hs1 hup1 hnode1 ((u e).trans post.used) hj1 a b
    have hje : j ≠ e := fun heq => by
      rw [heq] at hj1
      have := hj1.offset_unique hnode1
      omega
    rw [hunu j hje, ← u]; exact this
  · intro p hp
    rw [hcell, if_neg (by omega)]
    exact post.frame p hp
  · show (t1.setCell e none).countRange 1 (t1.rs + 1) + 1 = t.countRange 1 (t.rs + 1)
    rw [f1, countRange_split3 _ 1 e (t.rs + 1) he1 (by omega),
      countRange_split3 t 1 e (t.rs + 1) he1 (by omega),
      countRange_congr_unused t (t1.setCell e none) 1 e (fun p a b => hunu p (by omega)),
      countRange_congr_unused t (t1.setCell e none) (e + 1) (t.rs + 1) (fun p a b => hunu p (by omega)),
      post.used, hue]
    simp
    omega
  · intro hei
    rw [hunu i (fun h => hei h.symm)]; exact hu

end PPLV.COTree

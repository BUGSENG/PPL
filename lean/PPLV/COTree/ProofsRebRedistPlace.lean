import PPLV.COTree.ProofsRebRedistBasic

/-!
# `redistribute_elements_in_subtree`: the state invariant and one placement
(`redistPlace`, the `top_n == 1` branch)
-/
namespace PPLV.COTree.Redist
open PPLV.COTree PPLV.COTree.Tree

/-- what the loop still has to place: the compacted block `[lastUsed, L]`, with the new pair
    merged at its sorted position while it is pending -/
def stream (key : Nat) (value : Int) (L : Nat) (s : RState) : List (Nat × Int) :=
  if s.addElement then SMap.set (s.t.listRange s.lastUsed (L + 1)) key value
  else s.t.listRange s.lastUsed (L + 1)

/-- number of elements still to place -/
def remaining (L : Nat) (s : RState) : Nat :=
  (L + 1 - s.lastUsed) + (if s.addElement then 1 else 0)

/-- invariant of the loop state; `L` = last slot of the subtree being redistributed -/
structure RInv (key : Nat) (L : Nat) (s : RState) : Prop where
  hsz : L < s.t.cells.size
  hu : s.lastUsed ≤ L + 1
  used : ∀ p, s.lastUsed ≤ p → p ≤ L → ∃ kv, s.t.cell p = some kv
  pend : s.addElement = true → L ≤ s.t.rs ∧ SMap.Sorted (s.t.listRange s.lastUsed (L + 1)) ∧
    (∀ q ∈ s.t.listRange s.lastUsed (L + 1), q.1 ≠ key) ∧
    ∀ p, L < p → p ≤ s.t.rs → ∀ kv, s.t.cell p = some kv → key < kv.1

/-- effect of processing a stack entry with `n` elements whose subtree occupies `[lo, hi]` -/
structure Step (key : Nat) (value : Int) (L lo hi n : Nat) (s s' : RState) : Prop where
  inv : RInv key L s'
  rs : s'.t.rs = s.t.rs
  maxDepth : s'.t.maxDepth = s.t.maxDepth
  size : s'.t.size = s.t.size
  csize : s'.t.cells.size = s.t.cells.size
  frame : ∀ p, (p < lo ∨ L < p) → s'.t.cell p = s.t.cell p
  rem : remaining L s' + n = remaining L s
  hole : ∀ p, hi < p → p < s'.lastUsed → s'.t.cell p = none
  strm : stream key value L s = s'.t.listRange lo (hi + 1) ++ stream key value L s'

theorem move_cell (t : Tree) (u i q : Nat) (hu : u < t.cells.size) (hi : i < t.cells.size) :
    (if u ≠ i then (t.setCell i (t.cell u)).setCell u none else t).cell q
      = if q = i then t.cell u else if q = u then none else t.cell q := by
  by_cases h : u = i
  · subst h
    by_cases h2 : q = u
    · subst h2; simp
    · simp [h2]
  · simp only [ne_eq, h, not_false_eq_true, if_true, cell_setCell, setCell_cells_size, hu, hi,
      and_true]
    by_cases h2 : q = i
    · subst h2
      simp [h]
    · by_cases h3 : q = u
      · subst h3; simp [h2]
      · have : ¬ i = q := fun e => h2 e.symm
        have : ¬ u = q := fun e => h3 e.symm
        simp [*]

theorem move_fields (t : Tree) (u i : Nat) :
    let t' := (if u ≠ i then (t.setCell i (t.cell u)).setCell u none else t)
    t'.rs = t.rs ∧ t'.maxDepth = t.maxDepth ∧ t'.size = t.size ∧ t'.cells.size = t.cells.size := by
  by_cases h : u = i <;> simp [h]

theorem redistPlace_key (key : Nat) (value : Int) (s : RState) (i : Nat)
    (ha : s.addElement = true)
    (ht : s.lastUsed > s.t.rs ∨ idxGt (s.t.cell s.lastUsed) key = true) :
    redistPlace key value s i = ⟨s.t.setCell i (some (key, value)), s.lastUsed, false⟩ := by
  unfold redistPlace
  have : (s.addElement && (decide (s.lastUsed > s.t.rs) || idxGt (s.t.cell s.lastUsed) key)) = true := by
    rcases ht with h | h <;> simp [ha, h]
  rw [if_pos this]

theorem redistPlace_move (key : Nat) (value : Int) (s : RState) (i : Nat)
    (ht : s.addElement = false ∨ (s.lastUsed ≤ s.t.rs ∧ idxGt (s.t.cell s.lastUsed) key = false)) :
    redistPlace key value s i =
      ⟨if s.lastUsed ≠ i then (s.t.setCell i (s.t.cell s.lastUsed)).setCell s.lastUsed none else s.t,
        s.lastUsed + 1, s.addElement⟩ := by
  unfold redistPlace
  have : ¬ (s.addElement && (decide (s.lastUsed > s.t.rs) || idxGt (s.t.cell s.lastUsed) key)) = true := by
    rcases ht with h | ⟨h1, h2⟩
    · simp [h]
    · have : ¬ s.lastUsed > s.t.rs := by omega
      simp [h2, this]
  rw [if_neg this]

theorem set_lt_head (k : Nat) (x : Int) (rest : List (Nat × Int)) (key : Nat) (value : Int)
    (h : key < k) : SMap.set ((k, x) :: rest) key value = (key, value) :: (k, x) :: rest := by
  simp [SMap.set, h]

theorem set_gt_head (k : Nat) (x : Int) (rest : List (Nat × Int)) (key : Nat) (value : Int)
    (h : k < key) : SMap.set ((k, x) :: rest) key value = (k, x) :: SMap.set rest key value := by
  have h1 : ¬ key < k := by omega
  have h2 : ¬ key = k := by omega
  simp [SMap.set, h1, h2]

/-- the new pair is written at `i` -/
theorem step_key (key : Nat) (value : Int) (L lo hi i : Nat) (t : Tree) (u : Nat)
    (inv : RInv key L ⟨t, u, true⟩) (hlo : lo ≤ i) (hhi : i ≤ hi) (hfit : hi + 1 ≤ u)
    (hole : ∀ p, lo ≤ p → p < u → t.cell p = none)
    (ht : u > t.rs ∨ idxGt (t.cell u) key = true) :
    let s' : RState := ⟨t.setCell i (some (key, value)), u, false⟩
    Step key value L lo hi 1 ⟨t, u, true⟩ s' ∧ s'.t.isUnused i = false ∧
      ∀ p, lo ≤ p → p ≤ hi → p ≠ i → s'.t.cell p = none := by
  obtain ⟨hsz, hu, used, pend⟩ := inv
  obtain ⟨hLrs, hsorted, hnk, hright⟩ := pend rfl
  simp only at hsz hu used hLrs hsorted hnk hright
  have hisz : i < t.cells.size := by omega
  have hci : (t.setCell i (some (key, value))).cell i = some (key, value) := by
    rw [cell_setCell]; simp [hisz]
  have hco : ∀ p, p ≠ i → (t.setCell i (some (key, value))).cell p = t.cell p := by
    intro p hp
    rw [cell_setCell]
    have : ¬ i = p := fun e => hp e.symm
    simp [this]
  have hblock : (t.setCell i (some (key, value))).listRange u (L + 1) = t.listRange u (L + 1) :=
    listRange_congr _ _ _ _ (fun p a _ => hco p (by omega))
  have hothers : ∀ p, lo ≤ p → p ≤ hi → p ≠ i → (t.setCell i (some (key, value))).cell p = none := by
    intro p a b c
    rw [hco p c]; exact hole p a (by omega)
  refine ⟨⟨⟨by simpa using hsz, hu, ?_, by intro h; cases h⟩, rfl, rfl, rfl, by simp, ?_, ?_, ?_, ?_⟩,
    ?_, hothers⟩
  · intro p a b
    show ∃ kv, (t.setCell i (some (key, value))).cell p = some kv
    have a' : u ≤ p := a
    rw [hco p (by omega)]; exact used p a b
  · intro p hp
    exact hco p (by omega)
  · simp [remaining]
  · intro p a b
    show (t.setCell i (some (key, value))).cell p = none
    have b' : p < u := b
    rw [hco p (by omega)]; exact hole p (by omega) b
  · show stream key value L ⟨t, u, true⟩ = (t.setCell i (some (key, value))).listRange lo (hi + 1) ++
      stream key value L ⟨t.setCell i (some (key, value)), u, false⟩
    rw [listRange_single _ lo (hi + 1) i (key, value) hlo (by omega) hci
      (fun p a b c => hothers p a (by omega) c)]
    simp only [stream, if_true, hblock, Bool.false_eq_true, if_false]
    by_cases huL : u = L + 1
    · subst huL
      rw [listRange_empty t _ _ (Nat.le_refl _)]
      rfl
    · obtain ⟨⟨k, x⟩, hk⟩ := used u (Nat.le_refl _) (by omega)
      rw [listRange_head t u (L + 1) (k, x) (by omega) hk]
      have : key < k := by
        rcases ht with h | h
        · omega
        · rw [hk] at h
          simpa [idxGt] using h
      rw [set_lt_head _ _ _ _ _ this]
      rfl
  · show (t.setCell i (some (key, value))).isUnused i = false
    unfold Tree.isUnused; rw [hci]; rfl

/-- the first element of the block is moved to `i` -/
theorem step_move (key : Nat) (value : Int) (L lo hi i : Nat) (t : Tree) (u : Nat) (add : Bool)
    (inv : RInv key L ⟨t, u, add⟩) (hlo : lo ≤ i) (hhi : i ≤ hi) (hfit : hi ≤ u) (hiu : i ≤ u)
    (hfit2 : add = true → hi + 1 ≤ u)
    (hole : ∀ p, lo ≤ p → p < u → t.cell p = none)
    (huL : u ≤ L) (hlt : add = true → ∀ k x, t.cell u = some (k, x) → k < key) :
    let s' : RState := ⟨if u ≠ i then (t.setCell i (t.cell u)).setCell u none else t, u + 1, add⟩
    Step key value L lo hi 1 ⟨t, u, add⟩ s' ∧ s'.t.isUnused i = false ∧
      ∀ p, lo ≤ p → p ≤ hi → p ≠ i → s'.t.cell p = none := by
  obtain ⟨hsz, hu, used, pend⟩ := inv
  simp only at hsz hu used pend
  have hisz : i < t.cells.size := by omega
  have husz : u < t.cells.size := by omega
  have hmc := fun q => move_cell t u i q husz hisz
  obtain ⟨f1, f2, f3, f4⟩ := move_fields t u i
  generalize (if u ≠ i then (t.setCell i (t.cell u)).setCell u none else t) = t' at hmc f1 f2 f3 f4
  obtain ⟨⟨k, x⟩, hk⟩ := used u (Nat.le_refl _) huL
  have hci : t'.cell i = some (k, x) := by rw [hmc]; simp [hk]
  have hcu : u ≠ i → t'.cell u = none := by
    intro h; rw [hmc]; simp [h]
  have hco : ∀ p, p ≠ i → p ≠ u → t'.cell p = t.cell p := by
    intro p a b; rw [hmc]; simp [a, b]
  have hblock : t'.listRange (u + 1) (L + 1) = t.listRange (u + 1) (L + 1) :=
    listRange_congr _ _ _ _ (fun p a _ => hco p (by omega) (by omega))
  have hhead : t.listRange u (L + 1) = (k, x) :: t.listRange (u + 1) (L + 1) :=
    listRange_head t u (L + 1) (k, x) (by omega) hk
  have hothers : ∀ p, lo ≤ p → p ≤ hi → p ≠ i → t'.cell p = none := by
    intro p a b c
    by_cases hpu : p = u
    · subst hpu; exact hcu (fun e => c e)
    · rw [hco p c hpu]; exact hole p a (by omega)
  refine ⟨⟨⟨by simpa [f4] using hsz, by simpa using huL, ?_, ?_⟩, f1, f2, f3, f4, ?_, ?_, ?_, ?_⟩,
    ?_, hothers⟩
  · intro p a b
    show ∃ kv, t'.cell p = some kv
    simp only at a
    rw [hco p (by omega) (by omega)]; exact used p (by omega) b
  · intro ha
    simp only at ha
    obtain ⟨hLrs, hsorted, hnk, hright⟩ := pend ha
    show L ≤ t'.rs ∧ SMap.Sorted (t'.listRange (u + 1) (L + 1)) ∧
      (∀ q ∈ t'.listRange (u + 1) (L + 1), q.1 ≠ key) ∧
      ∀ p, L < p → p ≤ t'.rs → ∀ kv, t'.cell p = some kv → key < kv.1
    rw [hblock, f1]
    rw [hhead] at hsorted hnk
    refine ⟨hLrs, SMap.Sorted.tail hsorted, fun q hq => hnk q (List.mem_cons_of_mem _ hq), ?_⟩
    intro p a b kv hkv
    rw [hco p (by omega) (by omega)] at hkv
    exact hright p a b kv hkv
  · intro p hp
    exact hco p (by omega) (by omega)
  · cases add <;> simp [remaining] <;> omega
  · intro p a b
    show t'.cell p = none
    simp only at b
    by_cases hpu : p = u
    · subst hpu; exact hcu (by omega)
    · rw [hco p (by omega) hpu]; exact hole p (by omega) (by omega)
  · show stream key value L ⟨t, u, add⟩ = t'.listRange lo (hi + 1) ++
      stream key value L ⟨t', u + 1, add⟩
    rw [listRange_single _ lo (hi + 1) i (k, x) hlo (by omega) hci
      (fun p a b c => hothers p a (by omega) c)]
    cases add with
    | false =>
      simp only [stream, Bool.false_eq_true, if_false, hblock, hhead]
      rfl
    | true =>
      simp only [stream, if_true, hblock, hhead]
      rw [set_gt_head _ _ _ _ _ (hlt rfl k x hk)]
      rfl
  · show t'.isUnused i = false
    unfold Tree.isUnused; rw [hci]; rfl

/-- **one placement** (`top_n == 1`): the head of the stream lands on slot `i` -/
theorem place_step (key : Nat) (value : Int) (L lo hi i : Nat) (s : RState)
    (inv : RInv key L s) (hlo : lo ≤ i) (hhi : i ≤ hi) (hr : 1 ≤ remaining L s)
    (hfit : hi + (remaining L s - 1) ≤ L)
    (hole : ∀ p, lo ≤ p → p < s.lastUsed → s.t.cell p = none) :
    Step key value L lo hi 1 s (redistPlace key value s i) ∧
      (redistPlace key value s i).t.isUnused i = false ∧
      ∀ p, lo ≤ p → p ≤ hi → p ≠ i → (redistPlace key value s i).t.cell p = none := by
  obtain ⟨t, u, add⟩ := s
  have hu := inv.hu
  simp only at hu hole
  cases add with
  | false =>
    simp only [remaining, Bool.false_eq_true, if_false] at hr hfit
    rw [redistPlace_move key value _ i (Or.inl rfl)]
    exact step_move key value L lo hi i t u false inv hlo hhi (by omega) (by omega)
      (by intro h; cases h) hole (by omega) (by intro h; cases h)
  | true =>
    simp only [remaining, if_true] at hr hfit
    obtain ⟨hLrs, hsorted, hnk, hright⟩ := inv.pend rfl
    simp only at hLrs hsorted hnk hright
    by_cases ht : u > t.rs ∨ idxGt (t.cell u) key = true
    · rw [redistPlace_key key value _ i rfl ht]
      exact step_key key value L lo hi i t u inv hlo hhi (by omega) hole ht
    · have h1 : u ≤ t.rs := by omega
      have h2 : idxGt (t.cell u) key = false := by
        cases h : idxGt (t.cell u) key
        · rfl
        · exact absurd (Or.inr h) ht
      rw [redistPlace_move key value _ i (Or.inr ⟨h1, h2⟩)]
      have hcu : ∃ k x, t.cell u = some (k, x) ∧ k ≤ key := by
        cases hc : t.cell u with
        | none => rw [hc] at h2; simp [idxGt] at h2
        | some kv =>
          obtain ⟨k, x⟩ := kv
          rw [hc] at h2
          exact ⟨k, x, rfl, by simpa [idxGt] using h2⟩
      obtain ⟨k, x, hk, hle⟩ := hcu
      have huL : u ≤ L := by
        by_cases h : u ≤ L
        · exact h
        · have := hright u (by omega) h1 (k, x) hk
          simp only at this; omega
      have hne : k ≠ key := by
        have := hnk (k, x) ((mem_listRange t u (L + 1) (k, x)).2 ⟨u, Nat.le_refl _, by omega, hk⟩)
        exact this
      exact step_move key value L lo hi i t u true inv hlo hhi (by omega) (by omega)
        (by intro _; omega) hole huL
        (by intro _ k' x' hk'; rw [hk] at hk'; cases hk'; omega)

end PPLV.COTree.Redist

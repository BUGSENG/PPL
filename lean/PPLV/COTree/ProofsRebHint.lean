import PPLV.COTree.ProofsRebHintNode
import PPLV.COTree.ProofsRebFinal

/-!
# the hinted insertions `CO_Tree::insert(iterator, key[, data])`

`insertHintedSpec : InsertHintedSpec`, `insertHinted0Spec : InsertHinted0Spec`.
-/
namespace PPLV.COTree
open _root_.PPLV.COTree.Tree

/-! ## the two outcomes after `bisect_near` -/

/-- `insert_precise` on a node that holds `key` -/
theorem insertPrecise_stored (t : Tree) (key : Nat) (value : Int) (c : Nat)
    (hinv : t.Inv) (hsize : 1 ≤ t.size) (h1 : 1 ≤ c) (h2 : c ≤ t.rs)
    (hu : t.isUnused c = false) (hk : t.keyAt c = key) :
    (t.setCell c (some (key, value))).Inv ∧
    (t.setCell c (some (key, value))).toList = SMap.set t.toList key value ∧
    (t.setCell c (some (key, value))).cell c = some (key, value) ∧
    ((t.setCell c (some (key, value))).size, (t.setCell c (some (key, value))).rs) =
      (if SMap.stored t.toList key then (t.size, t.rs) else afterInsert t.size t.rs) := by
  obtain ⟨o, e, n⟩ := ofIndex_node t h1 h2
  obtain ⟨t', it, r1, r2, r3, r4, r5⟩ :=
    insertPrecise_spec redistSpec biggerSpec goDownSpec t key value c o hinv hsize n hu
      (fun _ => hk) (fun hne => absurd hk hne)
  have e1 : insertPrecise t key value ⟨c, o⟩ = some (t.setCell c (some (key, value)), ⟨c, o⟩) := by
    simp [insertPrecise, hk]
  rw [e1] at r1
  injection r1 with r1
  injection r1 with ra rb
  subst ra rb
  exact ⟨r2, r3, r4, r5⟩

/-- `insert_precise` on the node chosen by `hintNode` when `key` is not stored -/
theorem insertPrecise_new (t : Tree) (key : Nat) (value : Int) (it : TIt)
    (hinv : t.Inv) (hsize : 1 ≤ t.size) (hnst : SMap.stored t.toList key = false)
    (hok : NodeOK t key it) :
    ∃ t' it', insertPrecise t key value it = some (t', it') ∧ t'.Inv ∧
      t'.toList = SMap.set t.toList key value ∧ t'.cell it'.i = some (key, value) ∧
      (t'.size, t'.rs) =
        (if SMap.stored t.toList key then (t.size, t.rs) else afterInsert t.size t.rs) := by
  obtain ⟨i, o⟩ := it
  obtain ⟨k1, k2, k3, k4, k5⟩ := hok
  refine insertPrecise_spec redistSpec biggerSpec goDownSpec t key value i o hinv hsize k1 k2
    (fun ⟨p, p1, p2, v, p3⟩ => ?_) (fun _ => ⟨k4, k5⟩)
  have : SMap.stored t.toList key = true := (stored_iff t key).2 ⟨p, v, p1, p2, p3⟩
  rw [this] at hnst; cases hnst

theorem insertHinted_empty (hint : Hint) (key : Nat) (value : Int) :
    insertHinted (init 0) hint key value = some (singletonTree key value, ⟨2, 2⟩) := by
  have h0 : init 0 = ⟨0, 0, 0, #[]⟩ := by decide
  have hb : rebuildBiggerTree ⟨0, 0, 0, #[]⟩ = init 3 := by simp [rebuildBiggerTree]
  simp [insertHinted, h0, insertInEmptyTree, hb, init3_eq, Tree.getRoot, Tree.setCell, singletonTree]

/-- **`CO_Tree::insert(iterator, key, data)`** (`InsertHintedSpec` of `RebalanceHint.lean`) -/
theorem insertHintedSpec : InsertHintedSpec := by
  refine ⟨fun hint key value =>
    ⟨_, _, insertHinted_empty hint key value, singletonTree_inv key value, rfl, rfl⟩, ?_⟩
  intro t hint key value hinv hsize hvalid
  have hne : t.size ≠ 0 := by omega
  cases hint with
  | none =>
    have e : insertHinted t none key value = insert t key value := by
      simp [insertHinted, hne]
    rw [e]
    exact insertSpec_nonempty redistSpec biggerSpec goDownSpec t key value hinv hsize
  | some h =>
    obtain ⟨hh1, hh2, hhu⟩ := hvalid h rfl
    obtain ⟨c1, c2, c3, c4, c5⟩ := near_spec t hinv.sorted h key hh1 hh2 hhu
    by_cases hk : key = t.keyAt (t.toHoleArray.bisectNear h key)
    · have e : insertHinted t (some h) key value =
          some (t.setCell (t.toHoleArray.bisectNear h key) (some (key, value)),
            TIt.ofIndex (t.toHoleArray.bisectNear h key)) := by
        simp only [insertHinted, hne, if_false]
        rw [if_pos hk]
      obtain ⟨a1, a2, a3, a4⟩ := insertPrecise_stored t key value _ hinv hsize c1 c2 c3 hk.symm
      exact ⟨_, _, e, a1, a2, a3, a4⟩
    · have e : insertHinted t (some h) key value =
          insertPrecise t key value (hintNode t (t.toHoleArray.bisectNear h key) key) := by
        simp only [insertHinted, hne, if_false]
        rw [if_neg hk]
      have hnst : SMap.stored t.toList key = false := by
        cases hx : SMap.stored t.toList key with
        | false => rfl
        | true => exact absurd (c4 hx).symm hk
      obtain ⟨d1, d2⟩ := c5 hnst
      rw [e]
      exact insertPrecise_new t key value _ hinv hsize hnst
        (hintNode_spec t hinv.shape _ key c1 c2 c3 d1 d2)

/-! ## `insert(itr, key)`: `SMap.touch` -/

theorem touch_of_stored {m : SMap} {k : Nat} (h : SMap.stored m k = true) : SMap.touch m k = m := by
  unfold SMap.stored at h
  unfold SMap.touch
  cases hf : SMap.find? m k with
  | none => rw [hf] at h; cases h
  | some v => rfl

theorem touch_of_not_stored {m : SMap} {k : Nat} (h : SMap.stored m k = false) :
    SMap.touch m k = SMap.set m k 0 ∧ SMap.get m k = 0 := by
  unfold SMap.stored at h
  unfold SMap.touch
  cases hf : SMap.find? m k with
  | none => exact ⟨rfl, SMap.find?_none_get m k hf⟩
  | some v => rw [hf] at h; cases h

/-- the key is on slot `c`: nothing to do -/
theorem touch_stored (t : Tree) (key c : Nat) (hinv : t.Inv) (h1 : 1 ≤ c) (h2 : c ≤ t.rs)
    (hu : t.isUnused c = false) (hk : t.keyAt c = key) :
    t.toList = SMap.touch t.toList key ∧ t.cell c = some (key, SMap.get t.toList key) ∧
    (t.size, t.rs) = (if SMap.stored t.toList key then (t.size, t.rs) else afterInsert t.size t.rs) := by
  have hcc := cell_eq_of_used hu
  rw [hk] at hcc
  have hst : SMap.stored t.toList key = true := (stored_iff t key).2 ⟨c, _, h1, h2, hcc⟩
  have hmem : (key, t.valAt c) ∈ t.toList := (mem_listRange t _ _ _).2 ⟨c, h1, by omega, hcc⟩
  refine ⟨(touch_of_stored hst).symm, ?_, by rw [hst]; rfl⟩
  rw [hcc, hinv.sorted.get_of_mem hmem]

/-- a new key gets the value `0` -/
theorem touch_new (t : Tree) (key : Nat) (it : TIt) (hinv : t.Inv) (hsize : 1 ≤ t.size)
    (hnst : SMap.stored t.toList key = false) (hok : NodeOK t key it) :
    ∃ t' it', insertPrecise t key 0 it = some (t', it') ∧ t'.Inv ∧
      t'.toList = SMap.touch t.toList key ∧ t'.cell it'.i = some (key, SMap.get t.toList key) ∧
      (t'.size, t'.rs) =
        (if SMap.stored t.toList key then (t.size, t.rs) else afterInsert t.size t.rs) := by
  obtain ⟨t', it', r1, r2, r3, r4, r5⟩ := insertPrecise_new t key 0 it hinv hsize hnst hok
  obtain ⟨e1, e2⟩ := touch_of_not_stored hnst
  exact ⟨t', it', r1, r2, by rw [r3, e1], by rw [r4, e2], r5⟩

/-- **`CO_Tree::insert(iterator, key)`** (`InsertHinted0Spec` of `RebalanceHint.lean`) -/
theorem insertHinted0Spec : InsertHinted0Spec := by
  intro t hint key hinv hsize hvalid
  have hne : t.size ≠ 0 := by omega
  have hs := hinv.shape
  cases hint with
  | none =>
    have hru := root_used hs hinv.upClosed (by have := hinv.count; omega)
    obtain ⟨g1, g2, g3, g4, g5, g6⟩ :=
      goDownSpec t key _ _ hs hinv.sorted hinv.upClosed (IsNode.root hs) hru (brackets_root t hs key)
    have eroot : (⟨t.rs / 2 + 1, t.rs / 2 + 1⟩ : TIt) = t.getRoot := rfl
    rw [eroot] at g1 g2 g3 g4 g5 g6
    have hodd := hs.rs_odd
    have hbi := g1.bounds hs
    by_cases hk : t.keyAt (t.goDownSearchingKey key t.getRoot).i = key
    · have e : insertHinted0 t none key = some (t, t.goDownSearchingKey key t.getRoot) := by
        simp only [insertHinted0, hne, if_false]
        rw [if_pos hk]
      obtain ⟨a1, a2, a3⟩ := touch_stored t key _ hinv (by omega) (by omega) g2 hk
      exact ⟨_, _, e, hinv, a1, a2, a3⟩
    · have e : insertHinted0 t none key =
          insertPrecise t key 0 (t.goDownSearchingKey key t.getRoot) := by
        simp only [insertHinted0, hne, if_false]
        rw [if_neg hk]
      have hnst : SMap.stored t.toList key = false := by
        cases hx : SMap.stored t.toList key with
        | false => rfl
        | true =>
          obtain ⟨p, v, p1, p2, p3⟩ := (stored_iff t key).1 hx
          exact absurd (g5 ⟨p, by omega, by omega, v, p3⟩) hk
      obtain ⟨g6a, g6b⟩ := g6 hk
      rw [e]
      exact touch_new t key _ hinv hsize hnst ⟨g1, g2, hk, g6a, g6b⟩
  | some h =>
    obtain ⟨hh1, hh2, hhu⟩ := hvalid h rfl
    obtain ⟨c1, c2, c3, c4, c5⟩ := near_spec t hinv.sorted h key hh1 hh2 hhu
    by_cases hk : key = t.keyAt (t.toHoleArray.bisectNear h key)
    · have e : insertHinted0 t (some h) key =
          some (t, TIt.ofIndex (t.toHoleArray.bisectNear h key)) := by
        simp only [insertHinted0, hne, if_false]
        rw [if_pos hk]
      obtain ⟨a1, a2, a3⟩ := touch_stored t key _ hinv c1 c2 c3 hk.symm
      exact ⟨_, _, e, hinv, a1, a2, a3⟩
    · have e : insertHinted0 t (some h) key =
          insertPrecise t key 0 (hintNode t (t.toHoleArray.bisectNear h key) key) := by
        simp only [insertHinted0, hne, if_false]
        rw [if_neg hk]
      have hnst : SMap.stored t.toList key = false := by
        cases hx : SMap.stored t.toList key with
        | false => rfl
        | true => exact absurd (c4 hx).symm hk
      obtain ⟨d1, d2⟩ := c5 hnst
      rw [e]
      exact touch_new t key _ hinv hsize hnst
        (hintNode_spec t hs _ key c1 c2 c3 d1 d2)

end PPLV.COTree

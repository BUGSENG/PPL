import PPLV.COTree.RowOnTree
import PPLV.COTree.ProofsRebFinal
import PPLV.COTree.ProofsRebBridge
import PPLV.COTree.ProofsBisect

/-!
# `Sparse_Row` on the tree: the insertions, `reset(i)`
-/
namespace PPLV.COTree
open PPLV.COTree.Tree

namespace RowT

theorem init0_toList : (init 0).toList = [] := rfl
theorem init0_size : (init 0).size = 0 := rfl
theorem init0_rs : (init 0).rs = 0 := rfl

theorem set_ne_nil : ∀ (m : SMap) (i : Nat) (v : Int), SMap.set m i v ≠ []
  | [], _, _ => by simp [SMap.set]
  | (k, x) :: t, i, v => by
    unfold SMap.set
    split
    · simp
    · split <;> simp

theorem touch_ne_nil (m : SMap) (i : Nat) : SMap.touch m i ≠ [] := by
  unfold SMap.touch
  cases h : SMap.find? m i with
  | some v =>
    intro e
    have e' : m = [] := e
    subst e'
    simp [SMap.find?] at h
  | none => exact set_ne_nil m i 0

/-- a tree with the invariant and a non-empty listing has `size_ ≥ 1` -/
theorem size_pos (t : Tree) (hi : t.Inv) (hne : t.toList ≠ []) : 1 ≤ t.size := by
  rw [← hi.count, ← Tree.length_listRange]
  cases h : t.listRange 1 (t.rs + 1) with
  | nil => exact absurd h hne
  | cons a l => simp

theorem valid_of_inv {n : Nat} {t : Tree} (hi : t.Inv) (hne : t.toList ≠ [])
    (hb : SMap.Below t.toList n) : TRow.Valid ⟨n, t⟩ :=
  ⟨Or.inr ⟨hi, size_pos t hi hne⟩, hb⟩

theorem insert_init0_hint (hint : Hint) (key : Nat) :
    insertHinted0 (init 0) hint key = PPLV.COTree.insert (init 0) key 0 := rfl

theorem validHint_none (t : Tree) : t.ValidHint none := by
  intro h e; cases e

/-- `Sparse_Row::insert(i, x)` -/
theorem insert_ok (r : TRow) (i : Nat) (x : Int) (hv : r.Valid) (hi : i < r.size) :
    ∃ r' it, r.insert i x = some (r', it) ∧ r'.Valid ∧
      r'.toSRow = RowOp.sparse r.toSRow (.set i x) ∧ r'.tree.cell it.i = some (i, x) := by
  obtain ⟨hcase, hb⟩ := hv
  rcases hcase with he | ⟨hinv, h1⟩
  · obtain ⟨t', it, h, hI, htl, hc, -, -⟩ := insertSpec.1 i x
    refine ⟨⟨r.size, t'⟩, it, ?_, ?_, ?_, hc⟩
    · unfold TRow.insert; rw [he, h]; rfl
    · apply valid_of_inv hI (by rw [htl]; simp)
      rw [htl]; intro p hp; simp at hp; rw [hp]; exact hi
    · unfold TRow.toSRow RowOp.sparse
      simp only [htl, he, init0_toList]
      rfl
  · obtain ⟨t', it, h, hI, htl, hc, -⟩ := insertSpec.2 r.tree i x hinv h1
    refine ⟨⟨r.size, t'⟩, it, ?_, ?_, ?_, hc⟩
    · unfold TRow.insert; rw [h]; rfl
    · apply valid_of_inv hI (by rw [htl]; exact set_ne_nil _ _ _)
      rw [htl]; exact SMap.below_set x hb hi
    · unfold TRow.toSRow RowOp.sparse
      simp only [htl]

/-- `Sparse_Row::insert(itr, i, x)`, any valid hint -/
theorem insertHint_ok (hh : InsertHintedSpec) (r : TRow) (hint : Hint) (i : Nat) (x : Int)
    (hv : r.Valid) (hhint : r.tree.ValidHint hint) (hi : i < r.size) :
    ∃ r' it, r.insertHint hint i x = some (r', it) ∧ r'.Valid ∧
      r'.toSRow = RowOp.sparse r.toSRow (.set i x) ∧ r'.tree.cell it.i = some (i, x) := by
  obtain ⟨hcase, hb⟩ := hv
  rcases hcase with he | ⟨hinv, h1⟩
  · obtain ⟨t', it, h, hI, htl, hc⟩ := hh.1 hint i x
    refine ⟨⟨r.size, t'⟩, it, ?_, ?_, ?_, hc⟩
    · unfold TRow.insertHint; rw [he, h]; rfl
    · apply valid_of_inv hI (by rw [htl]; simp)
      rw [htl]; intro p hp; simp at hp; rw [hp]; exact hi
    · unfold TRow.toSRow RowOp.sparse
      simp only [htl, he, init0_toList]
      rfl
  · obtain ⟨t', it, h, hI, htl, hc, -⟩ := hh.2 r.tree hint i x hinv h1 hhint
    refine ⟨⟨r.size, t'⟩, it, ?_, ?_, ?_, hc⟩
    · unfold TRow.insertHint; rw [h]; rfl
    · apply valid_of_inv hI (by rw [htl]; exact set_ne_nil _ _ _)
      rw [htl]; exact SMap.below_set x hb hi
    · unfold TRow.toSRow RowOp.sparse
      simp only [htl]

/-- `Sparse_Row::insert(itr, i)` (and `insert(i)` for `hint = none`), any valid hint -/
theorem insert0Hint_ok (hh0 : InsertHinted0Spec) (r : TRow) (hint : Hint) (i : Nat)
    (hv : r.Valid) (hhint : r.tree.ValidHint hint) (hi : i < r.size) :
    ∃ r' it, r.insert0Hint hint i = some (r', it) ∧ r'.Valid ∧
      r'.toSRow = RowOp.sparse r.toSRow (.touch i) ∧
      r'.tree.cell it.i = some (i, SMap.get r.tree.toList i) := by
  obtain ⟨hcase, hb⟩ := hv
  rcases hcase with he | ⟨hinv, h1⟩
  · obtain ⟨t', it, h, hI, htl, hc, -, -⟩ := insertSpec.1 i 0
    refine ⟨⟨r.size, t'⟩, it, ?_, ?_, ?_, ?_⟩
    · unfold TRow.insert0Hint; rw [he, insert_init0_hint, h]; rfl
    · apply valid_of_inv hI (by rw [htl]; simp)
      rw [htl]; intro p hp; simp at hp; rw [hp]; exact hi
    · unfold TRow.toSRow RowOp.sparse
      simp only [htl, he, init0_toList]
      rfl
    · rw [hc, he, init0_toList]; rfl
  · obtain ⟨t', it, h, hI, htl, hc, -⟩ := hh0 r.tree hint i hinv h1 hhint
    refine ⟨⟨r.size, t'⟩, it, ?_, ?_, ?_, hc⟩
    · unfold TRow.insert0Hint; rw [h]; rfl
    · apply valid_of_inv hI (by rw [htl]; exact touch_ne_nil _ _)
      rw [htl]; exact SMap.below_touch hb hi
    · unfold TRow.toSRow RowOp.sparse
      simp only [htl]

theorem insert0_ok (hh0 : InsertHinted0Spec) (r : TRow) (i : Nat) (hv : r.Valid) (hi : i < r.size) :
    ∃ r' it, r.insert0 i = some (r', it) ∧ r'.Valid ∧
      r'.toSRow = RowOp.sparse r.toSRow (.touch i) ∧
      r'.tree.cell it.i = some (i, SMap.get r.tree.toList i) :=
  insert0Hint_ok hh0 r none i hv (validHint_none _) hi

/-- `Sparse_Row::reset(i)` -/
theorem reset_ok (r : TRow) (i : Nat) (hv : r.Valid) :
    ∃ r', r.reset i = some r' ∧ r'.Valid ∧ r'.toSRow = RowOp.sparse r.toSRow (.reset i) := by
  obtain ⟨hcase, hb⟩ := hv
  rcases hcase with he | ⟨hinv, h1⟩
  · refine ⟨r, ?_, ⟨Or.inl he, hb⟩, ?_⟩
    · unfold TRow.reset; rw [he]
      cases r; subst he; rfl
    · unfold TRow.toSRow RowOp.sparse
      simp only [he, init0_toList]; rfl
  · obtain ⟨t', k, h, hI, htl, -, -⟩ := eraseSpec r.tree i hinv h1
    refine ⟨⟨r.size, t'⟩, ?_, ⟨?_, ?_⟩, ?_⟩
    · unfold TRow.reset; rw [h]; rfl
    · by_cases h0 : t'.size = 0
      · rw [if_pos h0] at hI; exact Or.inl hI
      · rw [if_neg h0] at hI; exact Or.inr ⟨hI, Nat.pos_of_ne_zero h0⟩
    · show SMap.Below t'.toList r.size
      rw [htl]; exact SMap.Below.filter _ hb
    · unfold TRow.toSRow RowOp.sparse
      simp only [htl]

end RowT
end PPLV.COTree

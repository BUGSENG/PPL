import PPLV.COTree.ProofsRowOnTreeInsert

/-!
# `Sparse_Row::find`, `Sparse_Row::lower_bound` (with or without hint)
-/
namespace PPLV.COTree
open PPLV.COTree.Tree

namespace RowT

theorem find?_of_mem_sorted : ∀ (m : SMap) (k : Nat) (v : Int), SMap.Sorted m → (k, v) ∈ m →
    SMap.find? m k = some v
  | [], _, _, _, h => by simp at h
  | (a, x) :: t, k, v, hs, h => by
    unfold SMap.find?
    rcases List.mem_cons.1 h with e | e
    · cases e; simp
    · have := SMap.Sorted.head_lt hs (k, v) e
      simp only at this
      have hne : ¬ a = k := by omega
      rw [if_neg hne]
      exact find?_of_mem_sorted t k v (SMap.Sorted.tail hs) e

theorem find?_none_of_not_stored (m : SMap) (k : Nat) (h : SMap.stored m k = false) :
    SMap.find? m k = none := by
  unfold SMap.stored at h
  cases hf : SMap.find? m k with
  | none => rfl
  | some v => rw [hf] at h; simp at h

/-- `lower_bound` read off the slots: `q` is the first used slot whose key is `≥ k` -/
theorem lowerBound_at (t : Tree) (k q : Nat) (h1 : 1 ≤ q) (h2 : q ≤ t.rs + 1)
    (hlt : ∀ x kv, 1 ≤ x → x < q → t.cell x = some kv → kv.1 < k)
    (hq : q ≤ t.rs → ∃ kv, t.cell q = some kv ∧ k ≤ kv.1) :
    SMap.lowerBound t.toList k = if q > t.rs then none else some (t.keyAt q) := by
  unfold Tree.toList
  rw [Tree.listRange_split t 1 q (t.rs + 1) h1 h2, EraTop.lowerBound_append_lt k _ _ ?_]
  · by_cases hqr : q > t.rs
    · rw [if_pos hqr]
      have : q = t.rs + 1 := by omega
      rw [this, Tree.listRange_empty t _ _ (Nat.le_refl _)]
      rfl
    · rw [if_neg hqr]
      obtain ⟨⟨kq, vq⟩, hc, hk⟩ := hq (by omega)
      rw [Tree.listRange_head t q (t.rs + 1) (kq, vq) (by omega) hc, keyAt_of_cell hc,
        EraTop.lowerBound_cons_ge _ _ _ _ hk]
  · intro p hp
    obtain ⟨x, x1, x2, hx⟩ := (mem_listRange t 1 q p).1 hp
    exact hlt x p x1 x2 hx

/-- `bisect` / `bisect_near` on a non-empty valid tree, in terms of the tree -/
theorem bisectNearIt_spec (t : Tree) (hinv : t.Inv) (h1 : 1 ≤ t.size) (hint : Hint)
    (hh : t.ValidHint hint) (i : Nat) :
    ∃ p, t.bisectNearIt hint i = some p ∧ 1 ≤ p ∧ p ≤ t.rs ∧ t.isUnused p = false ∧
      (SMap.stored t.toList i = true → t.keyAt p = i) ∧
      (SMap.stored t.toList i = false →
        (t.keyAt p < i ∧ ∀ q, 1 ≤ q → q ≤ t.rs → t.isUnused q = false → t.keyAt q < i →
            t.keyAt q ≤ t.keyAt p) ∨
        (i < t.keyAt p ∧ ∀ q, 1 ≤ q → q ≤ t.rs → t.isUnused q = false → i < t.keyAt q →
            t.keyAt p ≤ t.keyAt q)) := by
  have hs := sortedUsed_of_sorted t hinv.sorted
  have hpost : ∃ p, t.bisectNearIt hint i = some p ∧ HoleArray.NearPost t.toHoleArray i p := by
    cases hint with
    | none =>
      refine ⟨_, ?_, HoleArray.bisect_spec _ hs ?_ i⟩
      · unfold Tree.bisectNearIt Tree.bisectIt
        rw [if_neg (by omega)]
      · obtain ⟨p, kv, a, b, c⟩ := EraTop.exists_used_of_count t 1 (t.rs + 1)
          (by rw [hinv.count]; exact h1)
        exact ⟨p, (toHoleArray_used t p).2 ⟨a, by omega, (isUnused_false_iff t p).2 ⟨kv, c⟩⟩⟩
    | some h =>
      refine ⟨_, rfl, HoleArray.bisectNear_spec _ hs ?_ i⟩
      obtain ⟨a, b, c⟩ := hh h rfl
      exact (toHoleArray_used t h).2 ⟨a, b, c⟩
  obtain ⟨p, hp, hu, hhas, hadj⟩ := hpost
  obtain ⟨p1, p2, p3⟩ := (toHoleArray_used t p).1 hu
  have hkey := toHoleArray_key t p hu
  refine ⟨p, hp, p1, p2, p3, ?_, ?_⟩
  · intro hst
    rw [← hkey]; exact hhas ((has_iff_stored t i).2 hst)
  · intro hst
    have hno : ¬ t.toHoleArray.has i := by
      intro h; rw [(has_iff_stored t i).1 h] at hst; cases hst
    rcases hadj hno with ⟨a, b⟩ | ⟨a, b⟩
    · left
      rw [hkey] at a b
      refine ⟨a, fun q q1 q2 q3 q4 => ?_⟩
      have hq := (toHoleArray_used t q).2 ⟨q1, q2, q3⟩
      have := b q hq (by rw [toHoleArray_key t q hq]; exact q4)
      rw [toHoleArray_key t q hq] at this; exact this
    · right
      rw [hkey] at a b
      refine ⟨a, fun q q1 q2 q3 q4 => ?_⟩
      have hq := (toHoleArray_used t q).2 ⟨q1, q2, q3⟩
      have := b q hq (by rw [toHoleArray_key t q hq]; exact q4)
      rw [toHoleArray_key t q hq] at this; exact this

theorem validHint_init0 (hint : Hint) (h : (init 0).ValidHint hint) : hint = none := by
  cases hint with
  | none => rfl
  | some p =>
    obtain ⟨a, b, -⟩ := h p rfl
    rw [init0_rs] at b; omega

theorem stored_of_used (t : Tree) (p : Nat) (h1 : 1 ≤ p) (h2 : p ≤ t.rs)
    (hu : t.isUnused p = false) : SMap.stored t.toList (t.keyAt p) = true :=
  EraTop.stored_of_mem _ _ (t.valAt p)
    ((mem_listRange t 1 (t.rs + 1) _).2 ⟨p, h1, by omega, cell_eq_of_used hu⟩)

/-- `Sparse_Row::find(i)` / `find(hint, i)`: an iterator on the stored pair, or `end()` -/
theorem find_ok (r : TRow) (hint : Hint) (i : Nat) (hv : r.Valid) (hh : r.tree.ValidHint hint) :
    match r.find hint i with
    | some p => 1 ≤ p ∧ p ≤ r.tree.rs ∧
        ∃ v, r.tree.cell p = some (i, v) ∧ SMap.find? r.tree.toList i = some v
    | none => SMap.find? r.tree.toList i = none := by
  obtain ⟨hcase, -⟩ := hv
  rcases hcase with he | ⟨hinv, h1⟩
  · rw [he] at hh
    have := validHint_init0 hint hh
    subst this
    have : r.find none i = none := by
      unfold TRow.find Tree.bisectNearIt Tree.bisectIt
      rw [he]; rfl
    rw [this, he]; rfl
  · obtain ⟨p, hp, p1, p2, p3, hst, -⟩ := bisectNearIt_spec r.tree hinv h1 hint hh i
    have hf : r.find hint i = if r.tree.keyAt p = i then some p else none := by
      unfold TRow.find; rw [hp]
    rw [hf]
    by_cases hk : r.tree.keyAt p = i
    · rw [if_pos hk]
      have hc := cell_eq_of_used p3
      rw [hk] at hc
      refine ⟨p1, p2, _, hc, find?_of_mem_sorted _ _ _ hinv.sorted ?_⟩
      exact (mem_listRange r.tree 1 (r.tree.rs + 1) _).2 ⟨p, p1, by omega, hc⟩
    · rw [if_neg hk]
      apply find?_none_of_not_stored
      cases hs : SMap.stored r.tree.toList i with
      | false => rfl
      | true => exact absurd (hst hs) hk

/-- `Sparse_Row::lower_bound(i)` / `lower_bound(hint, i)`: the first stored index `≥ i` -/
theorem lowerBound_ok (r : TRow) (hint : Hint) (i : Nat) (hv : r.Valid)
    (hh : r.tree.ValidHint hint) :
    (r.lowerBound hint i).map r.tree.keyAt = SMap.lowerBound r.tree.toList i ∧
    ∀ p, r.lowerBound hint i = some p → 1 ≤ p ∧ p ≤ r.tree.rs ∧ r.tree.isUnused p = false := by
  obtain ⟨hcase, -⟩ := hv
  rcases hcase with he | ⟨hinv, h1⟩
  · rw [he] at hh
    have := validHint_init0 hint hh
    subst this
    have : r.lowerBound none i = none := by
      unfold TRow.lowerBound Tree.bisectNearIt Tree.bisectIt
      rw [he]; rfl
    rw [this, he]
    exact ⟨rfl, fun p hp => by cases hp⟩
  · obtain ⟨p, hp, p1, p2, p3, hst, hnst⟩ := bisectNearIt_spec r.tree hinv h1 hint hh i
    have hsc := sorted_cells hinv.sorted
    have hsh := hinv.shape
    have hcp := cell_eq_of_used p3
    unfold TRow.lowerBound
    rw [hp]
    simp only
    generalize r.tree = t at *
    by_cases hk : t.keyAt p < i
    · rw [if_pos hk]
      obtain ⟨a, b, d, -⟩ := Tree.skipUp_spec t (p + 1) (by omega)
      have c := Tree.skipUp_used t (p + 1) (by omega) (EraTop.sentinel_used t hsh)
      have hlb := lowerBound_at t i (t.skipUp (p + 1)) (by omega) b ?_ ?_
      · unfold Tree.nextIt
        simp only
        rw [hlb]
        constructor
        · split <;> rfl
        · intro q hq
          split at hq
          · cases hq
          · cases hq; exact ⟨by omega, by omega, c⟩
      · intro x kv x1 x2 hx
        by_cases hxp : x < p
        · have := hsc x p kv _ x1 hxp p2 hx hcp; simp only at this; omega
        · by_cases hxp' : x = p
          · rw [hxp', hcp] at hx; cases hx; exact hk
          · have := d x (by omega) x2
            rw [(isUnused_true_iff t x).1 this] at hx; cases hx
      · intro hq
        have hcq := cell_eq_of_used c
        refine ⟨_, hcq, ?_⟩
        simp only
        have hpq := hsc p _ _ _ p1 (by omega) hq hcp hcq
        simp only at hpq
        by_cases hlt : t.keyAt (t.skipUp (p + 1)) < i
        · exfalso
          cases hs : SMap.stored t.toList i with
          | true => have := hst hs; omega
          | false =>
            rcases hnst hs with ⟨_, b'⟩ | ⟨a', _⟩
            · have := b' _ (by omega) hq c hlt; omega
            · omega
        · omega
    · rw [if_neg hk]
      have hlb := lowerBound_at t i p p1 (by omega) ?_ (fun _ => ⟨_, hcp, by simp only; omega⟩)
      · rw [hlb, if_neg (by omega)]
        exact ⟨rfl, fun q hq => by cases hq; exact ⟨p1, p2, p3⟩⟩
      · intro x kv x1 x2 hx
        have hlt := hsc x p kv _ x1 x2 p2 hx hcp
        simp only at hlt
        have hux : t.isUnused x = false := (isUnused_false_iff t x).2 ⟨kv, hx⟩
        have hkx : t.keyAt x = kv.1 := keyAt_of_cell hx
        cases hs : SMap.stored t.toList i with
        | true => have := hst hs; omega
        | false =>
          rcases hnst hs with ⟨a', _⟩ | ⟨_, b'⟩
          · omega
          · by_cases hge : i ≤ kv.1
            · exfalso
              by_cases heq : kv.1 = i
              · have := stored_of_used t x x1 (by omega) hux
                rw [hkx, heq, hs] at this; cases this
              · have := b' x x1 (by omega) hux (by omega); omega
            · omega

end RowT
end PPLV.COTree

import PPLV.COTree.ProofsRebFrame
import PPLV.COTree.ProofsRebWalk

/-!
# the second half of `rebalance`: compaction then redistribution of a subtree

`rebalance_core`: on the subtree `(j, 2^h)` found by the `while`, `compact_elements_in_the_rightmost_end`
followed by `redistribute_elements_in_subtree` (hypothesis `RedistSpec`) rebuilds the subtree in the
half/half layout, with the new pair merged when `add`.  `rebalance_eq` puts the pieces of
`rebalance` together; `rebalance_spec` is the whole call from a node that fails its density test, and
`RebalanceInsertSpec` (a full leaf) and `RebalanceEraseSpec` (an emptied subtree) are its two instances,
under the hypothesis `RedistSpec` (proved in `ProofsRebRedist.lean`).
-/
namespace PPLV.COTree
open Tree

theorem rebalance_core (hr : RedistSpec) (t : Tree) (j h n key : Nat) (value : Int) (add : Bool)
    (hs : t.Shape) (hj : t.IsNode j (2 ^ h))
    (hn : n = t.countRange (j - (2 ^ h - 1)) (j + 2 ^ h) + (if add then 1 else 0))
    (hn1 : 1 ≤ n) (hn2 : n ≤ 2 * 2 ^ h - 1)
    (hadd : add = true →
      SMap.Sorted (t.listRange (j - (2 ^ h - 1)) (j + 2 ^ h)) ∧
      (∀ q ∈ t.listRange (j - (2 ^ h - 1)) (j + 2 ^ h), q.1 ≠ key) ∧
      (∀ p, 1 ≤ p → p < j - (2 ^ h - 1) → ∀ kv, t.cell p = some kv → kv.1 < key) ∧
      (∀ p, j + (2 ^ h - 1) < p → p ≤ t.rs → ∀ kv, t.cell p = some kv → key < kv.1)) :
    ∃ s, redistributeElementsInSubtree
          (compactElementsInTheRightmostEnd t (j + 2 ^ h - 1) n key value add).1 j n
          ((compactElementsInTheRightmostEnd t (j + 2 ^ h - 1) n key value add).2 + 1) key value
          ((compactElementsInTheRightmostEnd t (j + 2 ^ h - 1) n key value add).2
            != j + 2 ^ h - 1 - n) = some s ∧
      t.FrameOn s.t (j - (2 ^ h - 1)) (j + (2 ^ h - 1)) ∧
      s.t.listRange (j - (2 ^ h - 1)) (j + 2 ^ h) =
        (if add then SMap.set (t.listRange (j - (2 ^ h - 1)) (j + 2 ^ h)) key value
         else t.listRange (j - (2 ^ h - 1)) (j + 2 ^ h)) ∧
      s.t.Balanced (h + 1) j n := by
  have hb := hj.bounds hs
  have hsz : t.cells.size = t.rs + 2 := hs.2.2.1
  have eL : j + 2 ^ h - 1 = j + (2 ^ h - 1) := by omega
  have eL1 : j + 2 ^ h = j + (2 ^ h - 1) + 1 := by omega
  rw [eL]
  rw [eL1] at hn hadd ⊢
  have hadd' : add = true →
      SMap.Sorted (t.listRange (j - (2 ^ h - 1)) (j + (2 ^ h - 1) + 1)) ∧
      (∀ q ∈ t.listRange (j - (2 ^ h - 1)) (j + (2 ^ h - 1) + 1), q.1 ≠ key) ∧
      ∀ p, 1 ≤ p → p < j - (2 ^ h - 1) → ∀ kv, t.cell p = some kv → kv.1 < key :=
    fun ha => ⟨(hadd ha).1, (hadd ha).2.1, (hadd ha).2.2.1⟩
  obtain ⟨c1, c2, c3, _⟩ := compactSpec t (j - (2 ^ h - 1)) (j + (2 ^ h - 1)) n key value add
    hb.2.2.1 (by omega) hb.2.2.2.1 hsz hn hn1 (by omega) hadd'
  obtain ⟨d1, d2, d3, d4⟩ := compactSpec_pend t (j - (2 ^ h - 1)) (j + (2 ^ h - 1)) n key value add
    hb.2.2.1 (by omega) hb.2.2.2.1 hsz hn hn1 (by omega) hadd'
  generalize compactElementsInTheRightmostEnd t (j + (2 ^ h - 1)) n key value add = c
    at c1 c2 c3 d1 d2 d3 d4 ⊢
  obtain ⟨f1, f2, f3, f4, f5⟩ := c1
  have hjc : c.1.IsNode j (2 ^ h) := IsNode.congr f1 hj
  cases hp : (c.2 != j + (2 ^ h - 1) - n) with
  | false =>
    obtain ⟨e1, e2⟩ := d3 hp
    obtain ⟨s, r1, _, r3, r4, r5⟩ := hr c.1 j (2 ^ h) n (c.2 + 1) key value false hjc
      (by rw [f1]; exact hb.2.2.2.1) (by rw [f4, f1]; exact hsz) hn1 hn2
      (by simp; omega)
      (fun p h1 h2 => c2 p h1 (by omega))
      (fun p h1 h2 => c3 p (by omega) h2)
      (fun hc => by cases hc)
    refine ⟨s, r1, frameOn_trans ⟨f1, f2, f3, f4, f5⟩ r3 (Nat.le_refl _) (Nat.le_refl _) (Nat.le_refl _) (Nat.le_refl _), ?_,
      r5 h rfl⟩
    rw [← eL1] at e2 ⊢
    rw [r4]
    simpa using e2
  | true =>
    obtain ⟨ea, e1, e2⟩ := d4 hp
    subst ea
    obtain ⟨a1, a2, a3, a4⟩ := hadd rfl
    rw [← eL1] at e2 a1 a2 ⊢
    obtain ⟨s, r1, _, r3, r4, r5⟩ := hr c.1 j (2 ^ h) n (c.2 + 1) key value true hjc
      (by rw [f1]; exact hb.2.2.2.1) (by rw [f4, f1]; exact hsz) hn1 hn2
      (by simp; omega)
      (fun p h1 h2 => c2 p h1 (by omega))
      (fun p h1 h2 => c3 p (by omega) h2)
      (fun _ => ⟨by rw [e2]; exact a1, by rw [e2]; exact a2, by
        intro p h1 h2 kv hkv
        rw [f1] at h2
        rw [f5 p (Or.inr h1)] at hkv
        exact a4 p h1 h2 kv hkv⟩)
    refine ⟨s, r1, frameOn_trans ⟨f1, f2, f3, f4, f5⟩ r3 (Nat.le_refl _) (Nat.le_refl _) (Nat.le_refl _) (Nat.le_refl _), ?_,
      r5 h rfl⟩
    rw [r4, e2]

/-- `rebalance` on a tree with more than 3 slots, once its three pieces are known -/
theorem rebalance_eq {t : Tree} {itr : TIt} {key : Nat} {value : Int} {j oj n : Nat} {s : RState}
    (h3 : t.rs ≠ 3)
    (hloop : rebalanceLoop t (t.depth itr - 1) itr (if t.isUnused itr.i then 0 else 2)
      (2 ^ (t.maxDepth - (t.depth itr - 1)) - 1) = some (⟨j, oj⟩, n))
    (hred : redistributeElementsInSubtree
          (compactElementsInTheRightmostEnd t (j + oj - 1) n key value (!t.isUnused itr.i)).1 j n
          ((compactElementsInTheRightmostEnd t (j + oj - 1) n key value (!t.isUnused itr.i)).2 + 1)
          key value
          ((compactElementsInTheRightmostEnd t (j + oj - 1) n key value (!t.isUnused itr.i)).2
            != j + oj - 1 - n) = some s) :
    rebalance t itr key value = some (s.t, ⟨j, oj⟩) := by
  unfold rebalance
  simp only [h3, if_false, hloop, hred]

/-- `rebalance` started at a node `(i, o)` whose own density test fails, for an insertion (`add`;
    `key` belongs into the node's range and is not stored there) or for a deletion: the walk stops
    at a proper ancestor `(j, 2^h)`; only its subtree changes and is laid out half/half. -/
theorem rebalance_spec (hr : RedistSpec) {t : Tree} {i o key : Nat} {value : Int} (add : Bool)
    (hs : t.Shape) (h7 : 7 ≤ t.rs) (hup : t.UpClosed) (hni : t.IsNode i o)
    (hui : t.isUnused i = !add)
    (hc : t.countRange (i - (o - 1)) (i + o) + (if add then 1 else 0) =
      if t.isUnused i then 0 else 2)
    (hanc : ∀ j oj, t.IsNode j oj → j - (oj - 1) ≤ i - (o - 1) → i + (o - 1) ≤ j + (oj - 1) →
      o < oj → t.isUnused j = false)
    (hroot : rebalanceCond t.maxDepth (t.countRange 1 (t.rs + 1) + (if add then 1 else 0)) t.rs 0
      = false)
    (hcond : rebalanceCond t.maxDepth (if t.isUnused i then 0 else 2) (2 * o - 1)
      (t.depth ⟨i, o⟩ - 1) = true)
    (hadd : add = true → SMap.Sorted t.toList ∧ t.Brackets (i - (o - 1)) (i + (o - 1)) key ∧
      ∀ p kv, i - (o - 1) ≤ p → p ≤ i + (o - 1) → t.cell p = some kv → kv.1 ≠ key) :
    ∃ (s : RState) (j h : Nat), rebalance t ⟨i, o⟩ key value = some (s.t, ⟨j, 2 ^ h⟩) ∧ s.t.Shape ∧
      t.FrameOn s.t (j - (2 ^ h - 1)) (j + (2 ^ h - 1)) ∧ s.t.UpClosed ∧
      t.IsNode j (2 ^ h) ∧ o < 2 ^ h ∧ j - (2 ^ h - 1) ≤ i - (o - 1) ∧
      i + (o - 1) ≤ j + (2 ^ h - 1) ∧ s.t.isUnused j = false ∧
      s.t.toList = (if add then SMap.set t.toList key value else t.toList) ∧
      s.t.countRange 1 (s.t.rs + 1) = t.countRange 1 (t.rs + 1) + (if add then 1 else 0) ∧
      s.t.listRange (j - (2 ^ h - 1)) (j + 2 ^ h) =
        (if add then SMap.set (t.listRange (j - (2 ^ h - 1)) (j + 2 ^ h)) key value
         else t.listRange (j - (2 ^ h - 1)) (j + 2 ^ h)) ∧
      s.t.Balanced (h + 1) j
        (t.countRange (j - (2 ^ h - 1)) (j + 2 ^ h) + (if add then 1 else 0)) := by
  have hbi := hni.bounds hs
  obtain ⟨j, oj, n, w1, w2, w3, w4, w5, w6, w7, -, w9, w10⟩ :=
    walkSpecA t i o (if add then 1 else 0) hs hni (by cases add <;> decide) hanc hroot
  rw [hc] at w1 w9
  have hoj : o < oj := w9 hcond
  obtain ⟨h, m, ho, hjm, hjle⟩ := w2
  subst ho
  have hj : t.IsNode j (2 ^ h) := ⟨h, m, rfl, hjm, hjle⟩
  have hbj := hj.bounds hs
  have eL1 : j + (2 ^ h - 1) + 1 = j + 2 ^ h := by omega
  have hsplit := (toList_of_frame (frameOn_refl t _ _) hbj.2.2.1 (by omega) hbj.2.2.2.1).2
  rw [eL1] at hsplit
  -- when adding, the key is stored nowhere
  have hnokey : add = true → ∀ p kv, 1 ≤ p → p ≤ t.rs → t.cell p = some kv → kv.1 ≠ key := by
    intro ha p kv h1 h2 hc
    obtain ⟨-, hbr, hin⟩ := hadd ha
    rcases Nat.lt_or_ge p (i - (o - 1)) with hlt | hge
    · exact Nat.ne_of_lt (hbr.1 p kv h1 hlt hc)
    · rcases Nat.lt_or_ge (i + (o - 1)) p with hgt | hle
      · exact Nat.ne_of_gt (hbr.2 p kv hgt h2 hc)
      · exact hin p kv hge hle hc
  have hall : add = true → ∀ q ∈ t.toList, q.1 ≠ key := by
    intro ha q hq
    obtain ⟨p, p1, p2, p3⟩ := (mem_listRange t _ _ q).1 hq
    exact hnokey ha p q p1 (by omega) p3
  obtain ⟨s, k1, k2, k3, k4⟩ := rebalance_core hr t j h n key value add hs hj w5 w6 w7
    (fun ha => by
      obtain ⟨hsorted, hbr, -⟩ := hadd ha
      refine ⟨?_, ?_, fun p p1 p2 kv hc => hbr.1 p kv p1 (by omega) hc,
        fun p p1 p2 kv hc => hbr.2 p kv (by omega) p2 hc⟩
      · rw [hsplit] at hsorted
        exact (List.pairwise_append.1 (List.pairwise_append.1 hsorted).1).2.1
      · intro q hq
        obtain ⟨p, p1, p2, p3⟩ := (mem_listRange t _ _ q).1 hq
        exact hnokey ha p q (by omega) (by omega) p3)
  have hreb : rebalance t ⟨i, o⟩ key value = some (s.t, ⟨j, 2 ^ h⟩) := by
    apply rebalance_eq (n := n) (by omega)
    · show rebalanceLoop t (t.depth ⟨i, o⟩ - 1) ⟨i, o⟩ (if t.isUnused i then 0 else 2)
        (2 ^ (t.maxDepth - (t.depth ⟨i, o⟩ - 1)) - 1) = _
      rw [w10]
      exact w1
    · show redistributeElementsInSubtree
          (compactElementsInTheRightmostEnd t (j + 2 ^ h - 1) n key value (!t.isUnused i)).1 j n
          ((compactElementsInTheRightmostEnd t (j + 2 ^ h - 1) n key value (!t.isUnused i)).2 + 1)
          key value
          ((compactElementsInTheRightmostEnd t (j + 2 ^ h - 1) n key value (!t.isUnused i)).2
            != j + 2 ^ h - 1 - n) = some s
      rw [hui, Bool.not_not]
      exact k1
  have hsplit' := (toList_of_frame k2 hbj.2.2.1 (by omega) hbj.2.2.2.1).1
  rw [eL1] at hsplit'
  have hlist : s.t.toList = (if add then SMap.set t.toList key value else t.toList) := by
    rw [hsplit', hsplit, k3]
    cases add with
    | false => rfl
    | true =>
      obtain ⟨-, hbr, -⟩ := hadd rfl
      have hA : ∀ q ∈ t.listRange 1 (j - (2 ^ h - 1)), q.1 < key := by
        intro q hq
        obtain ⟨p, p1, p2, p3⟩ := (mem_listRange t _ _ q).1 hq
        exact hbr.1 p q p1 (by omega) p3
      have hC : ∀ q ∈ t.listRange (j + 2 ^ h) (t.rs + 1), key < q.1 := by
        intro q hq
        obtain ⟨p, p1, p2, p3⟩ := (mem_listRange t _ _ q).1 hq
        exact hbr.2 p q (by omega) (by omega) p3
      rw [List.append_assoc, List.append_assoc, SMap.set_append_left key value _ _ hA,
        SMap.set_append_right key value _ _ hC]
      rfl
  refine ⟨s, j, h, hreb, shape_of_frame hs k2 hbj.2.2.1 hbj.2.2.2.1, k2, ?_, hj, hoj, w3, w4,
    balanced_root_used k4 (by omega), hlist, ?_, k3, w5 ▸ k4⟩
  · refine upClosed_after hs hup hj k2 k4 (fun hne => ?_)
    have hpar := hj.parent hs hne
    have hpc := hj.parent_contains hs
    exact hanc _ _ hpar.1 (Nat.le_trans hpc.1 w3) (Nat.le_trans w4 hpc.2) (by omega)
  · rw [← length_listRange, ← length_listRange]
    show s.t.toList.length = t.toList.length + _
    rw [hlist]
    cases add with
    | false => rfl
    | true => exact SMap.length_set key value _ (hall rfl)

/-- a leaf holding one element plus the new one is always above the maximum density -/
theorem rebalanceCond_leaf (md d : Nat) (hd : d ≤ md - 1) : rebalanceCond md 2 1 d = true := by
  have h9 : d * (100 - maxDensityPercent) / (md - 1) ≤ 9 := by
    apply Nat.div_le_of_le_mul
    have := Nat.mul_le_mul_right 9 hd
    simp only [maxDensityPercent]; omega
  have : isGreaterThanRatio 2 1 (maxDensityPercent + d * (100 - maxDensityPercent) / (md - 1)) = true := by
    rw [isGreaterThanRatio_iff]
    generalize d * (100 - maxDensityPercent) / (md - 1) = x at h9
    simp only [maxDensityPercent]; omega
  simp [rebalanceCond, this]

theorem rebalanceInsertSpec_of (hr : RedistSpec) : RebalanceInsertSpec := by
  intro t i key value hs h7 hsorted hup hni hui hkey hbr hcnt hroot
  have hc1 : t.countRange i (i + 1) = 1 := by rw [countRange_one, hui]; rfl
  have hdep := depth_node hs (by simp : (1 : Nat) = 2 ^ 0) hni
  have hroot' : rebalanceCond t.maxDepth (t.countRange 1 (t.rs + 1) + 1) t.rs 0 = false := by
    rw [hcnt]; exact hroot
  obtain ⟨s, j, h, hreb, hs', ⟨f1, f2, f3, f4, f5⟩, hup', hj, hoj, w3, w4, hu', hlist, hcount,
      k3, k4⟩ :=
    rebalance_spec hr (key := key) (value := value) true hs h7 hup hni (by rw [hui]; rfl)
      (by rw [hui]; exact congrArg (· + 1) hc1)
      (fun j oj hj l1 l2 _ => UpClosed.ancestors_used hs hup hni hui hj l1 l2)
      hroot'
      (by rw [hui]; exact rebalanceCond_leaf t.maxDepth _ (by omega))
      (fun _ => ⟨hsorted, hbr, fun p kv h1 h2 hc => by
        have : p = i := by omega
        subst this
        rw [keyAt_of_cell hc] at hkey; exact hkey⟩)
  refine ⟨s.t, j, 2 ^ h, hreb, hs', f1, f2, f3, hlist, ?_, hup', hcount.trans hcnt, hj.congr f1,
    hoj, w3, w4, hu', ?_, f5, fun h' hh' => by cases (Nat.pow_right_inj (by decide)).mp hh'; exact k4⟩
  · rw [hlist]; exact SMap.sorted_set _ _ _ hsorted
  · have hm : (key, value) ∈ s.t.listRange (j - (2 ^ h - 1)) (j + 2 ^ h) := by
      rw [k3]; exact SMap.mem_set_self key value _
    obtain ⟨p, p1, p2, p3⟩ := (mem_listRange s.t _ _ _).1 hm
    exact ⟨p, p1, by omega, p3⟩

/-- an empty subtree is always below the minimum density of its depth -/
theorem rebalanceCond_empty (md res d : Nat) (hd : d ≤ md - 1) (hres : 1 ≤ res) :
    rebalanceCond md 0 res d = true := by
  have h37 : d * (minDensityPercent - minLeafDensityPercent) / (md - 1) ≤ 37 := by
    apply Nat.div_le_of_le_mul
    have := Nat.mul_le_mul_right 37 hd
    simp only [minDensityPercent, minLeafDensityPercent]; omega
  have : isLessThanRatio 0 res
      (minDensityPercent - d * (minDensityPercent - minLeafDensityPercent) / (md - 1)) = true := by
    rw [isLessThanRatio_iff]
    generalize d * (minDensityPercent - minLeafDensityPercent) / (md - 1) = y at h37
    simp only [minDensityPercent]
    have : 1 * res ≤ (38 - y) * res := Nat.mul_le_mul_right res (by omega)
    omega
  simp [rebalanceCond, this]

theorem rebalanceEraseSpec_of (hr : RedistSpec) : RebalanceEraseSpec := by
  intro t i o hs h7 hsorted hup hni hempty hanc hcnt hsize hroot
  have hbi := hni.bounds hs
  have hui : t.isUnused i = true :=
    (isUnused_true_iff t i).mpr (hempty i (by omega) (by omega))
  have hc0 : t.countRange (i - (o - 1)) (i + o) = 0 := by
    rw [← length_listRange, listRange_none _ _ _ (fun p h1 h2 => hempty p h1 (by omega))]
    rfl
  obtain ⟨hi, mi, hoi, _, _⟩ := hni
  have hni : t.IsNode i o := ⟨hi, mi, hoi, ‹_›, ‹_›⟩
  have hdep := depth_node hs hoi hni
  obtain ⟨s, j, h, hreb, hs', ⟨f1, f2, f3, f4, f5⟩, hup', hj, hoj, w3, w4, hu', hlist, hcount,
      -, k4⟩ :=
    rebalance_spec hr (key := 0) (value := 0) false hs h7 hup hni hui (by rw [hc0, hui]; rfl)
      hanc (by rw [hcnt]; exact hroot)
      (by rw [hui]; exact rebalanceCond_empty t.maxDepth _ _ (by omega) (by omega))
      (fun hc => by cases hc)
  exact ⟨s.t, j, 2 ^ h, hreb, hs', f1, f2, f3, hlist, hup', hcount.trans hcnt, hj.congr f1, hoj,
    w3, w4, hu', f5, fun h' hh' => by cases (Nat.pow_right_inj (by decide)).mp hh'; exact k4⟩

end PPLV.COTree

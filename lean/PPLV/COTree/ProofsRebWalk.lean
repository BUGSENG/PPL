import PPLV.COTree.ProofsRebNav

/-!
# the `while` of `CO_Tree::rebalance` stops at the latest at the root

`walkSpecA : WalkSpecA`.  Plain `WalkSpec` (without the hypothesis that the proper ancestors of
the start node are used) is false: `walkSpec_false`.
-/
namespace PPLV.COTree

open Tree

/-! ## unfolding the loop -/

theorem rebalanceLoop_zero (t : Tree) (itr : TIt) (s r : Nat) :
    rebalanceLoop t 0 itr s r =
      if rebalanceCond t.maxDepth s r 0 then none else some (itr, s) := rfl

theorem rebalanceLoop_succ_false (t : Tree) (d : Nat) (itr : TIt) (s r : Nat)
    (hc : rebalanceCond t.maxDepth s r (d + 1) = false) :
    rebalanceLoop t (d + 1) itr s r = some (itr, s) := by
  simp [rebalanceLoop, hc]

theorem rebalanceLoop_succ_true (t : Tree) (d : Nat) (itr : TIt) (s r : Nat)
    (hc : rebalanceCond t.maxDepth s r (d + 1) = true) :
    rebalanceLoop t (d + 1) itr s r =
      rebalanceLoop t d
        ((if t.isRightChild itr then itr.getParent.getLeftChild else itr.getParent.getRightChild).getParent)
        (s + t.countUsedInSubtree
              (if t.isRightChild itr then itr.getParent.getLeftChild else itr.getParent.getRightChild)
          + 1)
        (2 * r + 1) := by
  simp [rebalanceLoop, hc]

/-! ## the thresholds lie between 1 and 100 percent -/

/-- a subtree whose density is within the thresholds of its depth holds between 1 and
    `subtree_reserved_size` elements -/
theorem rebalanceCond_false_bounds (md n res d : Nat) (hd : d ≤ md - 1)
    (hres : 1 ≤ res) (hc : rebalanceCond md n res d = false) : 1 ≤ n ∧ n ≤ res := by
  have h9 : d * (100 - maxDensityPercent) / (md - 1) ≤ 9 := by
    apply Nat.div_le_of_le_mul
    have := Nat.mul_le_mul_right 9 hd
    simp only [maxDensityPercent]; omega
  have h37 : d * (minDensityPercent - minLeafDensityPercent) / (md - 1) ≤ 37 := by
    apply Nat.div_le_of_le_mul
    have := Nat.mul_le_mul_right 37 hd
    simp only [minDensityPercent, minLeafDensityPercent]; omega
  simp only [rebalanceCond, Bool.or_eq_false_iff] at hc
  obtain ⟨hc1, hc2⟩ := hc
  have hc1' : ¬ isGreaterThanRatio n res
      (maxDensityPercent + d * (100 - maxDensityPercent) / (md - 1)) = true := by simp [hc1]
  have hc2' : ¬ isLessThanRatio n res
      (minDensityPercent - d * (minDensityPercent - minLeafDensityPercent) / (md - 1)) = true := by
    simp [hc2]
  rw [isGreaterThanRatio_iff] at hc1'
  rw [isLessThanRatio_iff] at hc2'
  generalize d * (100 - maxDensityPercent) / (md - 1) = x at h9 hc1'
  generalize d * (minDensityPercent - minLeafDensityPercent) / (md - 1) = y at h37 hc2'
  simp only [maxDensityPercent, minDensityPercent] at hc1' hc2'
  have hA : (91 + x) * res ≤ 100 * res := Nat.mul_le_mul_right res (by omega)
  have hB : 1 * res ≤ (38 - y) * res := Nat.mul_le_mul_right res (by omega)
  omega

/-! ## one iteration, the loop invariant -/

/-- One iteration from a non-root node `(i, o)` with `n` = the count of its subtree + `extra`:
    the parent is a node `(j, 2o)` whose subtree contains that of `(i, o)`, and when the parent slot
    is used the loop continues there with the count of the parent's subtree + `extra` (own count +
    brother's count + 1 for the parent slot). -/
theorem walk_step {t : Tree} {i o : Nat} (hs : t.Shape) (hn : t.IsNode i o) (hne : o ≠ t.rs / 2 + 1)
    (d extra : Nat)
    (hc : rebalanceCond t.maxDepth (t.countRange (i - (o - 1)) (i + o) + extra) (2 * o - 1) (d + 1) = true) :
    ∃ j, t.IsNode j (2 * o) ∧ j - (2 * o - 1) ≤ i - (o - 1) ∧ i + (o - 1) ≤ j + (2 * o - 1) ∧
      (t.isUnused j = false →
        rebalanceLoop t (d + 1) ⟨i, o⟩ (t.countRange (i - (o - 1)) (i + o) + extra) (2 * o - 1) =
          rebalanceLoop t d ⟨j, 2 * o⟩ (t.countRange (j - (2 * o - 1)) (j + 2 * o) + extra)
            (2 * (2 * o) - 1)) := by
  have hb := hn.bounds hs
  obtain ⟨_, m, _, _, _, _, him, _, _, _, _, _, hopos, _⟩ := hn.lin hs
  have hpar := (hn.parent hs hne).1
  have eR : 2 * (2 * o - 1) + 1 = 2 * (2 * o) - 1 := by omega
  rw [rebalanceLoop_succ_true t d ⟨i, o⟩ _ _ hc, eR]
  rcases Nat.mod_two_eq_zero_or_one m with hm | hm
  · -- a left child: parent `(i + o, 2o)`, brother `(i + 2o, o)`
    have hrc : t.isRightChild ⟨i, o⟩ = false := by
      cases hx : t.isRightChild ⟨i, o⟩ with
      | false => rfl
      | true => have := (isRightChild_iff hopos him hne).mp hx; omega
    obtain ⟨s1, s2, s3⟩ := step_left hopos him hm
    rw [s1] at hpar
    rw [s2] at s3
    refine ⟨i + o, hpar, by omega, by omega, fun hused => ?_⟩
    simp only [hrc, Bool.false_eq_true, if_false, s2, s3]
    rw [countUsedInSubtree_eq t (i + 2 * o) o hopos (by omega), countRange_parent_left t i o hopos hb.2.1,
      hused]
    simp only [Bool.false_eq_true, if_false]
    congr 1; omega
  · -- a right child: parent `(i - o, 2o)`, brother `(i - 2o, o)`
    have hrc : t.isRightChild ⟨i, o⟩ = true := (isRightChild_iff hopos him hne).mpr hm
    obtain ⟨s1, s2, s3, hge⟩ := step_right hopos him hm
    rw [s1] at hpar
    rw [s2] at s3
    refine ⟨i - o, hpar, by omega, by omega, fun hused => ?_⟩
    simp only [hrc, if_true, s2, s3]
    rw [countUsedInSubtree_eq t (i - 2 * o) o hopos (by omega), countRange_parent_right t i o hopos hge,
      hused]
    simp only [Bool.false_eq_true, if_false]
    congr 1; omega

/-- the walk from the node `(i, o)`, `o = 2^h`, at depth-1 `d = maxDepth - h - 1` -/
theorem walk_aux (t : Tree) (extra : Nat) (hs : t.Shape)
    (hroot : rebalanceCond t.maxDepth (t.countRange 1 (t.rs + 1) + extra) t.rs 0 = false) :
    ∀ (d i o h : Nat), t.IsNode i o → o = 2 ^ h → d + h + 1 = t.maxDepth →
      (∀ j oj, t.IsNode j oj → j - (oj - 1) ≤ i - (o - 1) → i + (o - 1) ≤ j + (oj - 1) → o < oj →
          t.isUnused j = false) →
      ∃ j oj n, rebalanceLoop t d ⟨i, o⟩ (t.countRange (i - (o - 1)) (i + o) + extra) (2 * o - 1)
                  = some (⟨j, oj⟩, n) ∧
        t.IsNode j oj ∧ j - (oj - 1) ≤ i - (o - 1) ∧ i + (o - 1) ≤ j + (oj - 1) ∧
        n = t.countRange (j - (oj - 1)) (j + oj) + extra ∧
        rebalanceCond t.maxDepth n (2 * oj - 1) (t.depth ⟨j, oj⟩ - 1) = false ∧
        (rebalanceCond t.maxDepth (t.countRange (i - (o - 1)) (i + o) + extra) (2 * o - 1) d = true →
          o < oj) := by
  intro d
  induction d with
  | zero =>
    intro i o h hn ho hd _
    have hdep : t.depth ⟨i, o⟩ - 1 = 0 := by have := (depth_node hs ho hn).1; omega
    have ho' : o = t.rs / 2 + 1 := by
      rw [hs.root_pow, ho]; congr 1; omega
    have hi' := hn.eq_root hs ho'
    have hodd := hs.rs_odd
    have e1 : i - (o - 1) = 1 := by omega
    have e2 : i + o = t.rs + 1 := by omega
    have e3 : 2 * o - 1 = t.rs := by omega
    refine ⟨i, o, _, ?_, hn, Nat.le_refl _, Nat.le_refl _, rfl, ?_, ?_⟩
    · rw [rebalanceLoop_zero, e1, e2, e3, hroot]; rfl
    · rw [hdep, e1, e2, e3]; exact hroot
    · rw [e1, e2, e3, hroot]; intro hh; cases hh
  | succ d ih =>
    intro i o h hn ho hd hanc
    have hdep : t.depth ⟨i, o⟩ - 1 = d + 1 := by have := (depth_node hs ho hn).1; omega
    cases hc : rebalanceCond t.maxDepth (t.countRange (i - (o - 1)) (i + o) + extra) (2 * o - 1) (d + 1) with
    | false =>
      exact ⟨i, o, _, rebalanceLoop_succ_false t d ⟨i, o⟩ _ _ hc, hn, Nat.le_refl _, Nat.le_refl _,
        rfl, by rw [hdep]; exact hc, fun hh => Bool.noConfusion hh⟩
    | true =>
      -- not the root: continue at the parent `(j, 2o)`
      have hne : o ≠ t.rs / 2 + 1 := by
        intro heq
        rw [hs.root_pow, ho] at heq
        have h1 := (Nat.pow_le_pow_iff_right (by decide : 1 < 2)).mp (Nat.le_of_eq heq.symm)
        omega
      obtain ⟨j, hj, l1, l2, hrun⟩ := walk_step hs hn hne d extra hc
      have hopos := (hn.bounds hs).1
      have hused : t.isUnused j = false := hanc j (2 * o) hj l1 l2 (by omega)
      obtain ⟨j', oj, n, r1, r2, r3, r4, r5, r6, r7⟩ :=
        ih j (2 * o) (h + 1) hj (by rw [ho, Nat.pow_succ']) (by omega)
          (fun j' oj hj' a b c => hanc j' oj hj' (by omega) (by omega) (by omega))
      have hbj := r2.bounds hs
      have hbp := hj.bounds hs
      exact ⟨j', oj, n, (hrun hused).trans r1, r2, by omega, by omega, r5, r6, fun _ => by omega⟩

/-- **the `while` of `rebalance`** (`WalkSpecA` of `RebSpec.lean`) -/
theorem walkSpecA : WalkSpecA := by
  intro t i o extra hs hn _ hanc hroot
  obtain ⟨h, m, a, b, ho, hh, _, _, _, _, _, _, hopos, _⟩ := hn.lin hs
  have hdep := (depth_node hs ho hn).1
  have hd : t.depth ⟨i, o⟩ - 1 + h + 1 = t.maxDepth := by omega
  obtain ⟨j, oj, n, r1, r2, r3, r4, r5, r6, r7⟩ :=
    walk_aux t extra hs hroot (t.depth ⟨i, o⟩ - 1) i o h hn ho hd hanc
  obtain ⟨hj, mj, aj, bj, hoj, hhj, _, _, _, _, _, _, hojpos, _⟩ := r2.lin hs
  have hdepj := (depth_node hs hoj r2).1
  have hbnd := rebalanceCond_false_bounds t.maxDepth n (2 * oj - 1) (t.depth ⟨j, oj⟩ - 1)
    (by omega) (by omega) r6
  refine ⟨j, oj, n, r1, r2, r3, r4, r5, hbnd.1, hbnd.2, r6, r7, ?_⟩
  have : t.maxDepth - (t.depth ⟨i, o⟩ - 1) = h + 1 := by omega
  rw [this, Nat.pow_succ', ← ho]

/-! ## plain `WalkSpec` is false: an unused ancestor is counted by `++subtree_size` -/

/-- 7 slots; the root (slot 4) and slot 2 are unused, slots 1, 3, 5, 6, 7 are used -/
def walkCex : Tree :=
  ⟨7, 3, 5, #[sentinel, some (1, 0), none, some (3, 0), none, some (5, 0), some (6, 0), some (7, 0),
    sentinel]⟩

theorem walkCex_shape : walkCex.Shape := by
  refine ⟨by decide, by decide, by decide, by decide, by decide⟩

theorem walkCex_root_ok :
    rebalanceCond walkCex.maxDepth (walkCex.countRange 1 (walkCex.rs + 1) + 1) walkCex.rs 0 = false := by
  decide

/-- from the leaf `(1, 1)` with `extra = 1` the loop counts 2, 4, 8 and asks for the parent of
    the root although the whole tree (5 + 1 elements in 7 slots) is within the root thresholds -/
theorem walkCex_loop :
    rebalanceLoop walkCex (walkCex.depth ⟨1, 1⟩ - 1) ⟨1, 1⟩
      (walkCex.countRange (1 - (1 - 1)) (1 + 1) + 1) (2 * 1 - 1) = none := by
  decide

theorem walkSpec_false : ¬ WalkSpec := by
  intro hw
  obtain ⟨j, oj, n, h1, _⟩ :=
    hw walkCex 1 1 1 walkCex_shape ⟨0, 0, rfl, rfl, by decide⟩ (Nat.le_refl 1) walkCex_root_ok
  rw [walkCex_loop] at h1
  cases h1

end PPLV.COTree

import PPLV.COTree.ProofsRebUp
import PPLV.COTree.ProofsRebRedistBasic

/-!
# `erase`: list lemmas, `skipUp` / `nextKey`, nesting of subtrees
(private library of `ProofsRebErase*.lean`, namespace `PPLV.COTree.EraTop`)
-/
namespace PPLV.COTree.EraTop
open PPLV.COTree PPLV.COTree.Tree

/-! ## ordered-map lemmas -/

theorem lowerBound_append_lt (k : Nat) : ∀ (A B : SMap), (∀ p ∈ A, p.1 < k) →
    SMap.lowerBound (A ++ B) k = SMap.lowerBound B k
  | [], B, _ => rfl
  | (a, x) :: A, B, h => by
    have h1 : ¬ k ≤ a := by have := h (a, x) (by simp); simp only at this; omega
    simp only [List.cons_append, SMap.lowerBound, h1, if_false]
    exact lowerBound_append_lt k A B (fun p hp => h p (by simp [hp]))

theorem lowerBound_cons_ge (k a : Nat) (x : Int) (B : SMap) (h : k ≤ a) :
    SMap.lowerBound ((a, x) :: B) k = some a := by
  simp [SMap.lowerBound, h]

theorem lowerBound_erase (key : Nat) : ∀ m : SMap,
    SMap.lowerBound (SMap.erase m key) (key + 1) = SMap.lowerBound m (key + 1)
  | [] => rfl
  | (a, x) :: m => by
    have ih := lowerBound_erase key m
    unfold SMap.erase at ih ⊢
    by_cases ha : a = key
    · subst ha
      have : ¬ a + 1 ≤ a := by omega
      simp only [List.filter_cons, bne_self_eq_false, Bool.false_eq_true, if_false,
        SMap.lowerBound, this]
      exact ih
    · have h1 : (a != key) = true := by simp [ha]
      simp only [List.filter_cons, h1, if_true, SMap.lowerBound]
      by_cases h2 : key + 1 ≤ a
      · simp [h2]
      · simp only [h2, if_false]; exact ih

theorem erase_of_not_mem (key : Nat) (m : SMap) (h : ∀ p ∈ m, p.1 ≠ key) :
    SMap.erase m key = m := by
  unfold SMap.erase
  rw [List.filter_eq_self]
  intro p hp
  simp [h p hp]

theorem mem_erase (key : Nat) (m : SMap) (p : Nat × Int) (h : p ∈ SMap.erase m key) :
    p ∈ m ∧ p.1 ≠ key := by
  unfold SMap.erase at h
  rw [List.mem_filter] at h
  exact ⟨h.1, by simpa using h.2⟩

theorem stored_of_mem (m : SMap) (key : Nat) (v : Int) (h : (key, v) ∈ m) :
    SMap.stored m key = true := by
  unfold SMap.stored
  exact (SMap.find?_isSome_iff_mem m key).2 ⟨(key, v), h, rfl⟩

theorem stored_false_of_not_mem (m : SMap) (key : Nat) (h : ∀ p ∈ m, p.1 ≠ key) :
    SMap.stored m key = false := by
  cases hs : SMap.stored m key with
  | false => rfl
  | true =>
    unfold SMap.stored at hs
    obtain ⟨p, hp, e⟩ := (SMap.find?_isSome_iff_mem m key).1 hs
    exact absurd e (h p hp)

/-! ## `skipUp`, `nextKey` -/

theorem sentinel_used (t : Tree) (hs : t.Shape) : t.isUnused (t.rs + 1) = false := by
  unfold Tree.isUnused
  rw [hs.2.2.2.2]; rfl

/-- the key the `erase` functions return from a node `q` next to which `key` belongs -/
theorem next_of_brackets (t : Tree) (key q : Nat) (hs : t.Shape) (h1 : 1 ≤ q) (h2 : q ≤ t.rs)
    (hu : t.isUnused q = false) (hne : t.keyAt q ≠ key) (hb : t.Brackets q q key) :
    (if t.keyAt q < key then nextKey t q else some (t.keyAt q)) = SMap.next t.toList key := by
  obtain ⟨⟨kq, vq⟩, hq⟩ := (isUnused_false_iff t q).1 hu
  rw [keyAt_of_cell hq] at hne ⊢
  simp only at hne ⊢
  unfold SMap.next Tree.toList
  by_cases hlt : kq < key
  · rw [if_pos hlt]
    obtain ⟨a, b, d, -⟩ := skipUp_spec t (q + 1) (by omega)
    have c := skipUp_used t (q + 1) (by omega) (sentinel_used t hs)
    unfold nextKey
    simp only
    generalize t.skipUp (q + 1) = q' at a b c d ⊢
    rw [Tree.listRange_split t 1 q' (t.rs + 1) (by omega) b,
      lowerBound_append_lt (key + 1) _ _ ?_]
    · by_cases hq' : q' > t.rs
      · rw [if_pos hq']
        have : q' = t.rs + 1 := by omega
        rw [this, Tree.listRange_empty t _ _ (Nat.le_refl _)]
        rfl
      · rw [if_neg hq']
        obtain ⟨⟨k', v'⟩, hk'⟩ := (isUnused_false_iff t q').1 c
        rw [Tree.listRange_head t q' (t.rs + 1) (k', v') (by omega) hk', keyAt_of_cell hk']
        have := hb.2 q' (k', v') (by omega) (by omega) hk'
        simp only at this ⊢
        rw [lowerBound_cons_ge _ _ _ _ (by omega)]
    · intro p hp
      obtain ⟨x, x1, x2, hx⟩ := (mem_listRange t 1 q' p).1 hp
      by_cases hxq : x < q
      · have := hb.1 x p x1 hxq hx; omega
      · by_cases hxq' : x = q
        · rw [hxq', hq] at hx
          cases hx; simp only; omega
        · have := d x (by omega) x2
          rw [(isUnused_true_iff t x).1 this] at hx; cases hx
  · rw [if_neg hlt]
    rw [Tree.listRange_split t 1 q (t.rs + 1) (by omega) (by omega),
      lowerBound_append_lt (key + 1) _ _ ?_,
      Tree.listRange_head t q (t.rs + 1) (kq, vq) (by omega) hq,
      lowerBound_cons_ge _ _ _ _ (by omega)]
    intro p hp
    obtain ⟨x, x1, x2, hx⟩ := (mem_listRange t 1 q p).1 hp
    have := hb.1 x p x1 x2 hx; omega

/-! ## a range with a positive count has a used slot -/

theorem exists_used_of_count (t : Tree) (lo hi : Nat) (h : 1 ≤ t.countRange lo hi) :
    ∃ p kv, lo ≤ p ∧ p < hi ∧ t.cell p = some kv := by
  rw [← Tree.length_listRange] at h
  cases hl : t.listRange lo hi with
  | nil => rw [hl] at h; simp at h
  | cons kv l =>
    obtain ⟨p, a, b, c⟩ := (mem_listRange t lo hi kv).1 (by rw [hl]; simp)
    exact ⟨p, kv, a, b, c⟩

/-! ## subtrees are nested or disjoint -/

/-- two subtrees sharing a slot: the one of smaller height lies inside the other -/
theorem laminar (ha hb m n e : Nat) (hle : ha ≤ hb)
    (e1 : 2 ^ ha * (2 * m + 1) - (2 ^ ha - 1) ≤ e) (e2 : e ≤ 2 ^ ha * (2 * m + 1) + (2 ^ ha - 1))
    (e3 : 2 ^ hb * (2 * n + 1) - (2 ^ hb - 1) ≤ e) (e4 : e ≤ 2 ^ hb * (2 * n + 1) + (2 ^ hb - 1)) :
    2 ^ hb * (2 * n + 1) - (2 ^ hb - 1) ≤ 2 ^ ha * (2 * m + 1) - (2 ^ ha - 1) ∧
    2 ^ ha * (2 * m + 1) + (2 ^ ha - 1) ≤ 2 ^ hb * (2 * n + 1) + (2 ^ hb - 1) := by
  have hP := Nat.two_pow_pos ha
  have hQ := Nat.two_pow_pos hb
  have f : 2 ^ hb = 2 ^ ha * 2 ^ (hb - ha) := by
    rw [← Nat.pow_add]; congr 1; omega
  generalize 2 ^ (hb - ha) = c at f
  -- `e` lies strictly between `P * 2m` and `P * (2m+2)`, and between `P * (c * 2n)` and `P * (c * (2n+2))`
  replace e2 := Nat.lt_add_one_of_le e2
  replace e4 := Nat.lt_add_one_of_le e4
  rw [node_range_lo hP] at e1
  rw [node_range_hi hP] at e2
  rw [node_range_lo hQ, f, Nat.mul_assoc] at e3
  rw [node_range_hi hQ, f, Nat.mul_assoc] at e4
  have k1 : c * (2 * n) < 2 * m + 2 := Nat.lt_of_mul_lt_mul_left (a := 2 ^ ha) (by omega)
  have k2 : 2 * m < c * (2 * n + 2) := Nat.lt_of_mul_lt_mul_left (a := 2 ^ ha) (by omega)
  -- both bounds are even
  have ec : c * (2 * n) = 2 * (c * n) := Nat.mul_left_comm c 2 n
  have ec' : c * (2 * n + 2) = 2 * (c * n) + 2 * c := by rw [Nat.mul_add, ec, Nat.mul_comm c 2]
  refine ⟨?_, Nat.le_of_add_le_add_right (b := 1) ?_⟩
  · rw [node_range_lo hP, node_range_lo hQ, f, Nat.mul_assoc]
    exact Nat.add_le_add_right (Nat.mul_le_mul_left _ (by omega)) 1
  · rw [node_range_hi hP, node_range_hi hQ, f, Nat.mul_assoc]
    exact Nat.mul_le_mul_left _ (by omega)

theorem IsNode.laminar {t : Tree} {a oa b ob e : Nat} (hna : t.IsNode a oa) (hnb : t.IsNode b ob)
    (hle : oa ≤ ob) (e1 : a - (oa - 1) ≤ e) (e2 : e ≤ a + (oa - 1))
    (e3 : b - (ob - 1) ≤ e) (e4 : e ≤ b + (ob - 1)) :
    b - (ob - 1) ≤ a - (oa - 1) ∧ a + (oa - 1) ≤ b + (ob - 1) := by
  obtain ⟨ha, m, rfl, rfl, -⟩ := hna
  obtain ⟨hb, n, rfl, rfl, -⟩ := hnb
  exact EraTop.laminar ha hb m n e ((Nat.pow_le_pow_iff_right (by omega)).1 hle) e1 e2 e3 e4

/-- the root of a subtree does not lie in a subtree of smaller height -/
theorem IsNode.not_in_smaller {t : Tree} {a oa b ob : Nat} (hna : t.IsNode a oa)
    (hnb : t.IsNode b ob) (hlt : oa < ob) (e1 : a - (oa - 1) ≤ b) (e2 : b ≤ a + (oa - 1)) :
    False :=
  Nat.not_le_of_lt hlt (Tree.IsNode.nest hna hnb e1 e2).1

end PPLV.COTree.EraTop

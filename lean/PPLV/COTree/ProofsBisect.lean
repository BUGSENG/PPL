import PPLV.COTree.Model

/-! # `bisect_in` / `bisect_near`: termination and post-condition (core Lean only) -/
namespace PPLV.COTree.HoleArray

/-! ### the two skip loops -/

theorem cell_zero (a : HoleArray) : a.cell 0 = some 0 := by simp [cell]

theorem isHole_zero (a : HoleArray) : a.isHole 0 = false := by simp [isHole, cell]

theorem isHole_beyond (a : HoleArray) {p : Nat} (h : a.rs < p) : a.isHole p = false := by
  have hp : p ≠ 0 := by omega
  have : a.cells.size ≤ p - 1 := by unfold rs at h; omega
  simp [isHole, cell, hp, Array.getD, Nat.not_lt.mpr this]

theorem skipUpAux_ge (a : HoleArray) : ∀ f p, p ≤ a.skipUpAux f p
  | 0, p => by simp [skipUpAux]
  | f + 1, p => by
    unfold skipUpAux
    split
    · have := skipUpAux_ge a f (p + 1); omega
    · exact Nat.le_refl _

theorem skipUpAux_notHole (a : HoleArray) : ∀ f p, a.rs + 1 ≤ f + p → a.isHole (a.skipUpAux f p) = false
  | 0, p, h => by
    unfold skipUpAux
    exact a.isHole_beyond (by omega)
  | f + 1, p, h => by
    unfold skipUpAux
    split
    · exact skipUpAux_notHole a f (p + 1) (by omega)
    · rename_i hh; simpa using hh

theorem skipUpAux_holes (a : HoleArray) : ∀ f p q, p ≤ q → q < a.skipUpAux f p → a.isHole q = true
  | 0, p, q, h1, h2 => by simp [skipUpAux] at h2; omega
  | f + 1, p, q, h1, h2 => by
    unfold skipUpAux at h2
    split at h2
    · rename_i hh
      by_cases hq : q = p
      · subst hq; exact hh
      · exact skipUpAux_holes a f (p + 1) q (by omega) h2
    · omega

theorem skipUp_ge (a : HoleArray) (p : Nat) : p ≤ a.skipUp p := skipUpAux_ge a _ p

theorem skipUp_notHole (a : HoleArray) (p : Nat) : a.isHole (a.skipUp p) = false :=
  skipUpAux_notHole a _ p (by omega)

theorem skipUp_holes (a : HoleArray) {p q : Nat} (h1 : p ≤ q) (h2 : q < a.skipUp p) :
    a.isHole q = true := skipUpAux_holes a _ p q h1 h2

theorem skipUp_le (a : HoleArray) {p q : Nat} (h1 : p ≤ q) (h2 : a.isHole q = false) :
    a.skipUp p ≤ q := by
  apply Nat.le_of_not_lt
  intro h
  have := a.skipUp_holes h1 h
  simp [h2] at this

theorem skipDown_le (a : HoleArray) : ∀ p, a.skipDown p ≤ p
  | 0 => by simp [skipDown]
  | p + 1 => by
    unfold skipDown
    split
    · have := skipDown_le a p; omega
    · exact Nat.le_refl _

theorem skipDown_notHole (a : HoleArray) : ∀ p, a.isHole (a.skipDown p) = false
  | 0 => by simp [skipDown, isHole_zero]
  | p + 1 => by
    unfold skipDown
    split
    · exact skipDown_notHole a p
    · rename_i hh; simpa using hh

theorem skipDown_holes (a : HoleArray) : ∀ p q, a.skipDown p < q → q ≤ p → a.isHole q = true
  | 0, q, h1, h2 => by simp [skipDown] at h1; omega
  | p + 1, q, h1, h2 => by
    unfold skipDown at h1
    split at h1
    · rename_i hh
      by_cases hq : q = p + 1
      · subst hq; exact hh
      · exact skipDown_holes a p q h1 (by omega)
    · omega

theorem skipDown_ge (a : HoleArray) {p q : Nat} (h1 : q ≤ p) (h2 : a.isHole q = false) :
    q ≤ a.skipDown p := by
  apply Nat.le_of_not_lt
  intro h
  have := a.skipDown_holes p q h h1
  simp [h2] at this

/-! ### `bisect_in` -/

/-- loop invariant of `while (first < last)` for a search started on `[F0, L0]` -/
structure InInv (a : HoleArray) (k F0 L0 first last : Nat) : Prop where
  lastUsed : a.used last
  lastLo : F0 ≤ last
  lastHi : last ≤ L0
  firstOk : (a.used first ∧ F0 ≤ first ∧ first ≤ last) ∨ last < first
  below : ∀ q, a.used q → F0 ≤ q → q < first → a.key q < k
  above : ∀ q, a.used q → last < q → q ≤ L0 → k < a.key q

/-- post-condition of `bisect_in` on `[F0, L0]` -/
def InPost (a : HoleArray) (k F0 L0 p : Nat) : Prop :=
  a.used p ∧ F0 ≤ p ∧ p ≤ L0 ∧ (a.hasIn F0 L0 k → a.key p = k) ∧
    (¬ a.hasIn F0 L0 k → a.adjacentIn F0 L0 p k)

theorem inPost_of_exit (a : HoleArray) (hs : a.SortedUsed) {k F0 L0 first last : Nat}
    (inv : InInv a k F0 L0 first last) (hex : ¬ first < last) : InPost a k F0 L0 last := by
  obtain ⟨hlu, hlo, hhi, _, hbelow, habove⟩ := inv
  have hfl : last ≤ first := Nat.le_of_not_lt hex
  have hkey : ∀ q, a.used q → F0 ≤ q → q ≤ L0 → a.key q = k → q = last := by
    intro q hq h1 h2 h3
    rcases Nat.lt_trichotomy q last with h | h | h
    · have := hbelow q hq h1 (by omega); omega
    · exact h
    · have := habove q hq h h2; omega
  refine ⟨hlu, hlo, hhi, ?_, ?_⟩
  · rintro ⟨q, hq, h1, h2, h3⟩
    have := hkey q hq h1 h2 h3
    subst this; exact h3
  · intro hno
    have hne : a.key last ≠ k := fun h => hno ⟨last, hlu, hlo, hhi, h⟩
    rcases Nat.lt_or_gt_of_ne hne with h | h
    · left
      refine ⟨h, ?_⟩
      intro q hq h1 h2 h3
      rcases Nat.lt_trichotomy q last with h' | h' | h'
      · exact Nat.le_of_lt (hs q last hq hlu h')
      · subst h'; exact Nat.le_refl _
      · have := habove q hq h' h2; omega
    · right
      refine ⟨h, ?_⟩
      intro q hq h1 h2 h3
      rcases Nat.lt_trichotomy q last with h' | h' | h'
      · have := hbelow q hq h1 (by omega); omega
      · subst h'; exact Nat.le_refl _
      · exact Nat.le_of_lt (hs last q hlu hq h')

theorem bisectInAux_spec (a : HoleArray) (hs : a.SortedUsed) (k F0 L0 : Nat) :
    ∀ fuel first last, InInv a k F0 L0 first last → last + 1 - first ≤ fuel →
      InPost a k F0 L0 (a.bisectInAux k fuel first last)
  | 0, first, last, inv, hf => by
    unfold bisectInAux
    exact inPost_of_exit a hs inv (by omega)
  | fuel + 1, first, last, inv, hf => by
    unfold bisectInAux
    by_cases hlt : first < last
    · simp only [hlt, if_true]
      obtain ⟨hlu, hlo, hhi, hfo, hbelow, habove⟩ := inv
      have hfu : a.used first ∧ F0 ≤ first ∧ first ≤ last := by
        rcases hfo with h | h
        · exact h
        · omega
      obtain ⟨⟨hf1, hf2, hf3⟩, hfF, _⟩ := hfu
      obtain ⟨hl1, hl2, hl3⟩ := hlu
      -- half and new_half
      have hh1 : first ≤ (first + last) / 2 := by omega
      have hh2 : (first + last) / 2 < last := by omega
      have hn1 : (first + last) / 2 ≤ a.skipUp ((first + last) / 2) := a.skipUp_ge _
      have hn2 : a.skipUp ((first + last) / 2) ≤ last := a.skipUp_le (by omega) hl3
      have hnu : a.used (a.skipUp ((first + last) / 2)) :=
        ⟨by omega, by omega, a.skipUp_notHole _⟩
      by_cases hk : a.key (a.skipUp ((first + last) / 2)) = k
      · simp only [hk, if_true]
        refine ⟨hnu, by omega, by omega, fun _ => ?_, fun hno => ?_⟩
        · exact hk
        · exact absurd ⟨_, hnu, by omega, by omega, hk⟩ hno
      · simp only [hk, if_false]
        by_cases hgt : a.key (a.skipUp ((first + last) / 2)) > k
        · simp only [hgt, if_true]
          have hd1 : a.skipDown ((first + last) / 2) ≤ (first + last) / 2 := a.skipDown_le _
          have hd2 : first ≤ a.skipDown ((first + last) / 2) := a.skipDown_ge hh1 hf3
          apply bisectInAux_spec a hs k F0 L0 fuel first _ _ (by omega)
          refine ⟨⟨by omega, by omega, a.skipDown_notHole _⟩, by omega, by omega,
            Or.inl ⟨⟨hf1, hf2, hf3⟩, hfF, hd2⟩, hbelow, ?_⟩
          intro q hq h1 h2
          by_cases hqh : q ≤ (first + last) / 2
          · have := a.skipDown_holes _ q h1 hqh
            simp [hq.2.2] at this
          · rcases Nat.lt_trichotomy q (a.skipUp ((first + last) / 2)) with h' | h' | h'
            · have := a.skipUp_holes (p := (first + last) / 2) (q := q) (by omega) h'
              simp [hq.2.2] at this
            · subst h'; exact hgt
            · have := hs _ q hnu hq h'; omega
        · simp only [hgt, if_false]
          have hlt' : a.key (a.skipUp ((first + last) / 2)) < k := by omega
          have hu1 : a.skipUp ((first + last) / 2) + 1 ≤ a.skipUp (a.skipUp ((first + last) / 2) + 1) :=
            a.skipUp_ge _
          apply bisectInAux_spec a hs k F0 L0 fuel _ last _ (by omega)
          refine ⟨⟨hl1, hl2, hl3⟩, hlo, hhi, ?_, ?_, habove⟩
          · by_cases hc : a.skipUp (a.skipUp ((first + last) / 2) + 1) ≤ last
            · exact Or.inl ⟨⟨by omega, by omega, a.skipUp_notHole _⟩, by omega, hc⟩
            · exact Or.inr (by omega)
          · intro q hq h1 h2
            rcases Nat.lt_trichotomy q (a.skipUp ((first + last) / 2)) with h' | h' | h'
            · have := hs q _ hq hnu h'; omega
            · subst h'; exact hlt'
            · have := a.skipUp_holes (p := a.skipUp ((first + last) / 2) + 1) (q := q) (by omega) h2
              simp [hq.2.2] at this
    · simp only [hlt, if_false]
      exact inPost_of_exit a hs inv hlt

theorem bisectIn_spec (a : HoleArray) (hs : a.SortedUsed) {first last : Nat}
    (hf : a.used first) (hl : a.used last) (hle : first ≤ last) (k : Nat) :
    InPost a k first last (a.bisectIn first last k) := by
  unfold bisectIn
  apply bisectInAux_spec a hs k first last _ first last _ (Nat.le_refl _)
  exact ⟨hl, hle, Nat.le_refl _, Or.inl ⟨hf, Nat.le_refl _, hle⟩,
    fun q _ h1 h2 => by omega, fun q _ h1 h2 => by omega⟩


/-! ### `bisect_near` -/

/-- post-condition of `bisect_near` / `bisect`: the key's position, or a neighbour's -/
def NearPost (a : HoleArray) (k p : Nat) : Prop :=
  a.used p ∧ (a.has k → a.key p = k) ∧ (¬ a.has k → a.adjacent p k)

theorem sorted_le (a : HoleArray) (hs : a.SortedUsed) {p q : Nat} (hp : a.used p) (hq : a.used q)
    (h : p ≤ q) : a.key p ≤ a.key q := by
  rcases Nat.lt_or_eq_of_le h with h | h
  · exact Nat.le_of_lt (hs p q hp hq h)
  · subst h; exact Nat.le_refl _

theorem sorted_inj (a : HoleArray) (hs : a.SortedUsed) {p q : Nat} (hp : a.used p) (hq : a.used q)
    (h : a.key p = a.key q) : p = q := by
  rcases Nat.lt_trichotomy p q with h' | h' | h'
  · have := hs p q hp hq h'; omega
  · exact h'
  · have := hs q p hq hp h'; omega

theorem nearPost_of_key (a : HoleArray) {k p : Nat} (hp : a.used p)
    (hk : a.key p = k) : NearPost a k p :=
  ⟨hp, fun _ => hk, fun hno => absurd ⟨p, hp, hk⟩ hno⟩

/-- what the galloping phase must deliver -/
def GallopOK (a : HoleArray) (k : Nat) : Gallop → Prop
  | .ret p => NearPost a k p
  | .range h nh => a.used h ∧ a.used nh ∧ h < nh ∧ a.key h < k ∧ k < a.key nh

theorem gallopDown_spec (a : HoleArray) (hs : a.SortedUsed) (k : Nat) :
    ∀ fuel hint offset, a.used hint → k < a.key hint → 1 ≤ fuel → 1 ≤ offset →
      hint + 1 ≤ offset + fuel → GallopOK a k (a.gallopDown k fuel hint offset)
  | 0, _, _, _, _, h, _, _ => by omega
  | fuel + 1, hint, offset, hu, hk, _, ho, hfu => by
    unfold gallopDown
    obtain ⟨hu1, hu2, hu3⟩ := hu
    by_cases hc : hint ≤ offset
    · simp only [hc, if_true]
      have h1 : 1 ≤ a.skipUp 1 := a.skipUp_ge 1
      have h2 : a.skipUp 1 ≤ hint := a.skipUp_le hu1 hu3
      have hfu' : a.used (a.skipUp 1) := ⟨h1, by omega, a.skipUp_notHole _⟩
      have hfirst : ∀ q, a.used q → a.skipUp 1 ≤ q := by
        intro q hq
        apply Nat.le_of_not_lt
        intro h
        have := a.skipUp_holes (p := 1) (q := q) hq.1 h
        simp [hq.2.2] at this
      by_cases hge : a.key (a.skipUp 1) ≥ k
      · simp only [hge, if_true]
        refine ⟨hfu', ?_, ?_⟩
        · rintro ⟨q, hq, hqk⟩
          have hle := hfirst q hq
          rcases Nat.lt_or_eq_of_le hle with h | h
          · have := hs _ q hfu' hq h; omega
          · rw [h]; exact hqk
        · intro hno
          have hne : a.key (a.skipUp 1) ≠ k := fun h => hno ⟨_, hfu', h⟩
          right
          refine ⟨by omega, ?_⟩
          intro q hq _
          exact a.sorted_le hs hfu' hq (hfirst q hq)
      · simp only [hge, if_false]
        refine ⟨hfu', ⟨hu1, hu2, hu3⟩, ?_, by omega, hk⟩
        rcases Nat.lt_or_eq_of_le h2 with h | h
        · exact h
        · rw [h] at hge; omega
    · simp only [hc, if_false]
      have h1 : hint - offset ≤ a.skipUp (hint - offset) := a.skipUp_ge _
      have h2 : a.skipUp (hint - offset) ≤ hint := a.skipUp_le (by omega) hu3
      have hnu : a.used (a.skipUp (hint - offset)) := ⟨by omega, by omega, a.skipUp_notHole _⟩
      by_cases heq : a.key (a.skipUp (hint - offset)) = k
      · simp only [heq, if_true]
        exact a.nearPost_of_key hnu heq
      · simp only [heq, if_false]
        by_cases hlt : a.key (a.skipUp (hint - offset)) < k
        · simp only [hlt, if_true]
          refine ⟨hnu, ⟨hu1, hu2, hu3⟩, ?_, hlt, hk⟩
          rcases Nat.lt_or_eq_of_le h2 with h | h
          · exact h
          · rw [h] at hlt; omega
        · simp only [hlt, if_false]
          exact gallopDown_spec a hs k fuel _ (2 * offset) hnu (by omega) (by omega) (by omega)
            (by omega)

theorem gallopUp_spec (a : HoleArray) (hs : a.SortedUsed) (k : Nat) :
    ∀ fuel hint offset, a.used hint → a.key hint < k → 1 ≤ fuel → 1 ≤ offset →
      a.rs + 2 ≤ hint + offset + fuel → GallopOK a k (a.gallopUp k fuel hint offset)
  | 0, _, _, _, _, h, _, _ => by omega
  | fuel + 1, hint, offset, hu, hk, _, ho, hfu => by
    unfold gallopUp
    obtain ⟨hu1, hu2, hu3⟩ := hu
    by_cases hc : hint + offset > a.rs
    · simp only [hc, if_true]
      have h1 : a.skipDown a.rs ≤ a.rs := a.skipDown_le _
      have h2 : hint ≤ a.skipDown a.rs := a.skipDown_ge hu2 hu3
      have hlu : a.used (a.skipDown a.rs) := ⟨by omega, h1, a.skipDown_notHole _⟩
      have hlast : ∀ q, a.used q → q ≤ a.skipDown a.rs := by
        intro q hq
        apply Nat.le_of_not_lt
        intro h
        have := a.skipDown_holes a.rs q h hq.2.1
        simp [hq.2.2] at this
      by_cases hle : a.key (a.skipDown a.rs) ≤ k
      · simp only [hle, if_true]
        refine ⟨hlu, ?_, ?_⟩
        · rintro ⟨q, hq, hqk⟩
          have hle' := hlast q hq
          rcases Nat.lt_or_eq_of_le hle' with h | h
          · have := hs q _ hq hlu h; omega
          · rw [← h]; exact hqk
        · intro hno
          have hne : a.key (a.skipDown a.rs) ≠ k := fun h => hno ⟨_, hlu, h⟩
          left
          refine ⟨by omega, ?_⟩
          intro q hq _
          exact a.sorted_le hs hq hlu (hlast q hq)
      · simp only [hle, if_false]
        refine ⟨⟨hu1, hu2, hu3⟩, hlu, ?_, hk, by omega⟩
        rcases Nat.lt_or_eq_of_le h2 with h | h
        · exact h
        · rw [← h] at hle; omega
    · simp only [hc, if_false]
      have h1 : a.skipDown (hint + offset) ≤ hint + offset := a.skipDown_le _
      have h2 : hint ≤ a.skipDown (hint + offset) := a.skipDown_ge (by omega) hu3
      have hnu : a.used (a.skipDown (hint + offset)) := ⟨by omega, by omega, a.skipDown_notHole _⟩
      by_cases heq : a.key (a.skipDown (hint + offset)) = k
      · simp only [heq, if_true]
        exact a.nearPost_of_key hnu heq
      · simp only [heq, if_false]
        by_cases hgt : a.key (a.skipDown (hint + offset)) > k
        · simp only [hgt, if_true]
          refine ⟨⟨hu1, hu2, hu3⟩, hnu, ?_, hk, hgt⟩
          rcases Nat.lt_or_eq_of_le h2 with h | h
          · exact h
          · rw [← h] at hgt; omega
        · simp only [hgt, if_false]
          exact gallopUp_spec a hs k fuel _ (2 * offset) hnu (by omega) (by omega) (by omega)
            (by omega)

theorem bisectNearFinish_spec (a : HoleArray) (hs : a.SortedUsed) {k h nh : Nat}
    (hh : a.used h) (hnh : a.used nh) (hlt : h < nh) (hk1 : a.key h < k) (hk2 : k < a.key nh) :
    NearPost a k (a.bisectNearFinish k h nh) := by
  unfold bisectNearFinish
  have e1 : h + 1 ≤ a.skipUp (h + 1) := a.skipUp_ge _
  have e2 : a.skipUp (h + 1) ≤ nh := a.skipUp_le (by omega) hnh.2.2
  have hu' : a.used (a.skipUp (h + 1)) := ⟨by omega, by have := hnh.2.1; omega, a.skipUp_notHole _⟩
  -- a used cell is at most `h` or at least `skipUp (h+1)`
  have hgapL : ∀ q, a.used q → h < q → a.skipUp (h + 1) ≤ q := by
    intro q hq hq'
    apply Nat.le_of_not_lt
    intro hc
    have := a.skipUp_holes (p := h + 1) (q := q) (by omega) hc
    simp [hq.2.2] at this
  -- every cell holding `k` lies strictly between `h` and `nh`
  have hbetween : ∀ q, a.used q → a.key q = k → h < q ∧ q < nh := by
    intro q hq hqk
    constructor
    · apply Nat.lt_of_not_le
      intro hc
      have := a.sorted_le hs hq hh hc; omega
    · apply Nat.lt_of_not_le
      intro hc
      have := a.sorted_le hs hnh hq hc; omega
  by_cases heq : a.skipUp (h + 1) = nh
  · simp only [heq, if_true]
    have hno : ¬ a.has k := by
      rintro ⟨q, hq, hqk⟩
      have := hbetween q hq hqk
      have := hgapL q hq this.1
      omega
    refine ⟨hnh, fun hc => absurd hc hno, fun _ => Or.inr ⟨hk2, ?_⟩⟩
    intro q hq hqk
    by_cases hc : q ≤ h
    · have := a.sorted_le hs hq hh hc; omega
    · have := hgapL q hq (by omega)
      exact a.sorted_le hs hnh hq (by omega)
  · simp only [heq, if_false]
    have d1 : a.skipDown (nh - 1) ≤ nh - 1 := a.skipDown_le _
    have d2 : a.skipUp (h + 1) ≤ a.skipDown (nh - 1) := a.skipDown_ge (by omega) hu'.2.2
    have hd' : a.used (a.skipDown (nh - 1)) :=
      ⟨by have := hu'.1; omega, by have := hnh.2.1; omega, a.skipDown_notHole _⟩
    have hgapR : ∀ q, a.used q → q < nh → q ≤ a.skipDown (nh - 1) := by
      intro q hq hq'
      apply Nat.le_of_not_lt
      intro hc
      have := a.skipDown_holes (nh - 1) q hc (by omega)
      simp [hq.2.2] at this
    obtain ⟨pu, plo, phi, pkey, padj⟩ := a.bisectIn_spec hs hu' hd' d2 k
    have hhas : a.has k → a.hasIn (a.skipUp (h + 1)) (a.skipDown (nh - 1)) k := by
      rintro ⟨q, hq, hqk⟩
      have hb := hbetween q hq hqk
      exact ⟨q, hq, hgapL q hq hb.1, hgapR q hq hb.2, hqk⟩
    refine ⟨pu, fun hc => pkey (hhas hc), fun hno => ?_⟩
    have hno' : ¬ a.hasIn (a.skipUp (h + 1)) (a.skipDown (nh - 1)) k := by
      rintro ⟨q, hq, _, _, hqk⟩
      exact hno ⟨q, hq, hqk⟩
    have kL : a.key h < a.key (a.skipUp (h + 1)) := hs _ _ hh hu' (by omega)
    have kR : a.key (a.skipDown (nh - 1)) < a.key nh := hs _ _ hd' hnh (by omega)
    have kpL := a.sorted_le hs hu' pu plo
    have kpR := a.sorted_le hs pu hd' phi
    rcases padj hno' with ⟨h1, h2⟩ | ⟨h1, h2⟩
    · left
      refine ⟨h1, ?_⟩
      intro q hq hqk
      by_cases hc : q ≤ h
      · have := a.sorted_le hs hq hh hc; omega
      · have g1 := hgapL q hq (by omega)
        by_cases hc' : q < nh
        · exact h2 q hq g1 (hgapR q hq hc') hqk
        · have := a.sorted_le hs hnh hq (by omega); omega
    · right
      refine ⟨h1, ?_⟩
      intro q hq hqk
      by_cases hc : q ≤ h
      · have := a.sorted_le hs hq hh hc; omega
      · have g1 := hgapL q hq (by omega)
        by_cases hc' : q < nh
        · exact h2 q hq g1 (hgapR q hq hc') hqk
        · have := a.sorted_le hs hnh hq (by omega); omega

theorem bisectNear_spec (a : HoleArray) (hs : a.SortedUsed) {hint : Nat} (hv : a.used hint)
    (k : Nat) : NearPost a k (a.bisectNear hint k) := by
  unfold bisectNear
  by_cases heq : a.key hint = k
  · simp only [heq, if_true]
    exact a.nearPost_of_key hv heq
  · simp only [heq, if_false]
    have hg : GallopOK a k (if a.key hint > k then a.gallopDown k (hint + 1) hint 1
        else a.gallopUp k (a.rs + 2) hint 1) := by
      by_cases hgt : a.key hint > k
      · simp only [hgt, if_true]
        exact a.gallopDown_spec hs k _ _ _ hv hgt (by omega) (by omega) (by omega)
      · simp only [hgt, if_false]
        exact a.gallopUp_spec hs k _ _ _ hv (by omega) (by omega) (by omega) (by omega)
    generalize (if a.key hint > k then a.gallopDown k (hint + 1) hint 1
        else a.gallopUp k (a.rs + 2) hint 1) = g at hg
    cases g with
    | ret p => exact hg
    | range h nh =>
      obtain ⟨h1, h2, h3, h4, h5⟩ := hg
      exact a.bisectNearFinish_spec hs h1 h2 h3 h4 h5

theorem bisect_spec (a : HoleArray) (hs : a.SortedUsed) (hne : ∃ p, a.used p) (k : Nat) :
    NearPost a k (a.bisect k) := by
  obtain ⟨p0, hp0⟩ := hne
  unfold bisect
  have f1 : 1 ≤ a.skipUp 1 := a.skipUp_ge 1
  have f2 : a.skipUp 1 ≤ p0 := a.skipUp_le hp0.1 hp0.2.2
  have l1 : a.skipDown a.rs ≤ a.rs := a.skipDown_le _
  have l2 : p0 ≤ a.skipDown a.rs := a.skipDown_ge hp0.2.1 hp0.2.2
  have hf : a.used (a.skipUp 1) := ⟨f1, by have := hp0.2.1; omega, a.skipUp_notHole _⟩
  have hl : a.used (a.skipDown a.rs) := ⟨by have := hp0.1; omega, l1, a.skipDown_notHole _⟩
  have hfirst : ∀ q, a.used q → a.skipUp 1 ≤ q := by
    intro q hq
    apply Nat.le_of_not_lt
    intro h
    have := a.skipUp_holes (p := 1) (q := q) hq.1 h
    simp [hq.2.2] at this
  have hlast : ∀ q, a.used q → q ≤ a.skipDown a.rs := by
    intro q hq
    apply Nat.le_of_not_lt
    intro h
    have := a.skipDown_holes a.rs q h hq.2.1
    simp [hq.2.2] at this
  obtain ⟨pu, _, _, pkey, padj⟩ := a.bisectIn_spec hs hf hl (by omega) k
  refine ⟨pu, ?_, ?_⟩
  · rintro ⟨q, hq, hqk⟩
    exact pkey ⟨q, hq, hfirst q hq, hlast q hq, hqk⟩
  · intro hno
    have hno' : ¬ a.hasIn (a.skipUp 1) (a.skipDown a.rs) k := by
      rintro ⟨q, hq, _, _, hqk⟩
      exact hno ⟨q, hq, hqk⟩
    rcases padj hno' with ⟨h1, h2⟩ | ⟨h1, h2⟩
    · exact Or.inl ⟨h1, fun q hq hqk => h2 q hq (hfirst q hq) (hlast q hq) hqk⟩
    · exact Or.inr ⟨h1, fun q hq hqk => h2 q hq (hfirst q hq) (hlast q hq) hqk⟩

end PPLV.COTree.HoleArray

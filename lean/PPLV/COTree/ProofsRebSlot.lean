import PPLV.COTree.ProofsRebHint

/-!
# the iterator returned by the insertions is on a slot `1 … reserved_size`

`insertSlotSpec : InsertSlotSpec`.
-/
namespace PPLV.COTree
open _root_.PPLV.COTree.Tree

theorem some_pair_inj {α β : Type} {r : Option (α × β)} {a a' : α} {b b' : β}
    (h1 : r = some (a, b)) (h2 : r = some (a', b')) : a = a' ∧ b = b' := by
  rw [h1] at h2
  injection h2 with h2
  injection h2 with h3 h4
  exact ⟨h3, h4⟩

/-- `insert_precise` on the node chosen when `key` is not stored: the iterator is on a slot -/
theorem insertPrecise_new_slot (t : Tree) (key : Nat) (value : Int) (it : TIt)
    (hinv : t.Inv) (hsize : 1 ≤ t.size) (hnst : SMap.stored t.toList key = false)
    (hok : NodeOK t key it) :
    ∃ t' it', insertPrecise t key value it = some (t', it') ∧ 1 ≤ it'.i ∧ it'.i ≤ t'.rs := by
  obtain ⟨i, o⟩ := it
  obtain ⟨k1, k2, k3, k4, k5⟩ := hok
  obtain ⟨t', it', r1, _, r2⟩ :=
    insertPrecise_slot redistSpec biggerSpec goDownSpec t key value i o hinv hsize k1 k2
      (fun ⟨p, p1, p2, v, p3⟩ => by
        have : SMap.stored t.toList key = true := (stored_iff t key).2 ⟨p, v, p1, p2, p3⟩
        rw [this] at hnst; cases hnst)
      (fun _ => ⟨k4, k5⟩)
  exact ⟨t', it', r1, r2⟩

theorem insertHinted0_empty (hint : Hint) (key : Nat) :
    insertHinted0 (init 0) hint key = some (singletonTree key 0, ⟨2, 2⟩) := by
  have h0 : init 0 = ⟨0, 0, 0, #[]⟩ := by decide
  have hb : rebuildBiggerTree ⟨0, 0, 0, #[]⟩ = init 3 := by simp [rebuildBiggerTree]
  simp [insertHinted0, h0, insertInEmptyTree, hb, init3_eq, Tree.getRoot, Tree.setCell, singletonTree]

/-- the hinted insertions after `bisect_near`, both variants at once: `stored` is what the
    variant returns when `candidate1` holds `key` -/
theorem hinted_slot (t : Tree) (h key : Nat) (value : Int) (hinv : t.Inv) (hsize : 1 ≤ t.size)
    (hh1 : 1 ≤ h) (hh2 : h ≤ t.rs) (hhu : t.isUnused h = false) (ts : Tree) (hts : ts.rs = t.rs)
    (t' : Tree) (it : TIt)
    (hres : (if key = t.keyAt (t.toHoleArray.bisectNear h key)
              then some (ts, TIt.ofIndex (t.toHoleArray.bisectNear h key))
              else insertPrecise t key value (hintNode t (t.toHoleArray.bisectNear h key) key))
            = some (t', it)) :
    1 ≤ it.i ∧ it.i ≤ t'.rs := by
  obtain ⟨c1, c2, c3, c4, c5⟩ := near_spec t hinv.sorted h key hh1 hh2 hhu
  by_cases hk : key = t.keyAt (t.toHoleArray.bisectNear h key)
  · rw [if_pos hk] at hres
    injection hres with hres
    injection hres with ha hb
    subst ha hb
    rw [hts]
    exact ⟨c1, c2⟩
  · rw [if_neg hk] at hres
    have hnst : SMap.stored t.toList key = false := by
      cases hx : SMap.stored t.toList key with
      | false => rfl
      | true => exact absurd (c4 hx).symm hk
    obtain ⟨d1, d2⟩ := c5 hnst
    obtain ⟨t'', it'', r1, r2⟩ := insertPrecise_new_slot t key value _ hinv hsize hnst
      (hintNode_spec t hinv.shape _ key c1 c2 c3 d1 d2)
    obtain ⟨ea, eb⟩ := some_pair_inj r1 hres
    subst ea eb
    exact r2

/-- **the returned iterator is on a slot** (`InsertSlotSpec` of `RebalanceHint.lean`) -/
theorem insertSlotSpec : InsertSlotSpec := by
  intro t hint key value t' it hT hvalid hres
  rcases hT with rfl | ⟨hinv, hsize⟩
  · -- the empty tree: the root `⟨2, 2⟩` of a tree with 3 slots
    rcases hres with h | h | h
    · obtain ⟨ea, eb⟩ := some_pair_inj (insertHinted0_empty hint key) h
      subst ea eb; exact ⟨by decide, by show 2 ≤ 3; decide⟩
    · obtain ⟨ea, eb⟩ := some_pair_inj (insertHinted_empty hint key value) h
      subst ea eb; exact ⟨by decide, by show 2 ≤ 3; decide⟩
    · obtain ⟨ea, eb⟩ := some_pair_inj (insert_empty key value) h
      subst ea eb; exact ⟨by decide, by show 2 ≤ 3; decide⟩
  · have hne : t.size ≠ 0 := by omega
    have hs := hinv.shape
    have hinsert : ∀ t' it, insert t key value = some (t', it) → 1 ≤ it.i ∧ it.i ≤ t'.rs := by
      intro t' it h
      obtain ⟨t'', it'', r1, _, r2⟩ := insert_slot redistSpec biggerSpec goDownSpec t key value hinv hsize
      obtain ⟨ea, eb⟩ := some_pair_inj r1 h
      subst ea eb
      exact r2
    rcases hres with h | h | h
    · -- `insert(itr, key)`
      cases hint with
      | none =>
        have hru := root_used hs hinv.upClosed (by have := hinv.count; omega)
        obtain ⟨g1, g2, g3, g4, g5, g6⟩ :=
          goDownSpec t key _ _ hs hinv.sorted hinv.upClosed (IsNode.root hs) hru (brackets_root t hs key)
        have eroot : (⟨t.rs / 2 + 1, t.rs / 2 + 1⟩ : TIt) = t.getRoot := rfl
        rw [eroot] at g1 g2 g3 g4 g5 g6
        have hodd := hs.rs_odd
        have hbi := g1.bounds hs
        simp only [insertHinted0, hne, if_false] at h
        by_cases hk : t.keyAt (t.goDownSearchingKey key t.getRoot).i = key
        · rw [if_pos hk] at h
          injection h with h
          injection h with ha hb
          subst ha hb
          exact ⟨by omega, by omega⟩
        · rw [if_neg hk] at h
          have hnst : SMap.stored t.toList key = false := by
            cases hx : SMap.stored t.toList key with
            | false => rfl
            | true =>
              obtain ⟨p, v, p1, p2, p3⟩ := (stored_iff t key).1 hx
              exact absurd (g5 ⟨p, by omega, by omega, v, p3⟩) hk
          obtain ⟨g6a, g6b⟩ := g6 hk
          obtain ⟨t'', it'', r1, r2⟩ := insertPrecise_new_slot t key 0 _ hinv hsize hnst
            ⟨g1, g2, hk, g6a, g6b⟩
          obtain ⟨ea, eb⟩ := some_pair_inj r1 h
          subst ea eb
          exact r2
      | some hh =>
        obtain ⟨hh1, hh2, hhu⟩ := hvalid hh rfl
        simp only [insertHinted0, hne, if_false] at h
        exact hinted_slot t hh key 0 hinv hsize hh1 hh2 hhu t rfl t' it h
    · -- `insert(itr, key, data)`
      cases hint with
      | none =>
        have e : insertHinted t none key value = insert t key value := by
          simp [insertHinted, hne]
        rw [e] at h
        exact hinsert t' it h
      | some hh =>
        obtain ⟨hh1, hh2, hhu⟩ := hvalid hh rfl
        simp only [insertHinted, hne, if_false] at h
        exact hinted_slot t hh key value hinv hsize hh1 hh2 hhu
          (t.setCell (t.toHoleArray.bisectNear hh key) (some (key, value))) rfl t' it h
    · exact hinsert t' it h

end PPLV.COTree

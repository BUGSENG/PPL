import PPLV.COTree.ProofsRebInit
import PPLV.COTree.ProofsRebLayout

/-!
# the stack loop of `move_data_from` / `CO_Tree(Iterator, n)` (`fillLoop`)

One entry `(n, op)` (`op ∈ {1,2,3}`) fills the subtree it is aimed at with the next `n` source
elements in the half/half layout, within `6n + 1` steps, and leaves the iterator at the root of
that subtree (`fill_entry`).
-/
namespace PPLV.COTree.FillB

/-- popping `|l|` times from `s` yields the list `l` and ends in `s'` -/
def Delivers {σ : Type} (pop : σ → Option ((Nat × Int) × σ)) : σ → List (Nat × Int) → σ → Prop
  | s, [], s' => s = s'
  | s, kv :: l, s' => ∃ s1, pop s = some (kv, s1) ∧ Delivers pop s1 l s'

theorem delivers_append {σ : Type} (pop : σ → Option ((Nat × Int) × σ)) :
    ∀ (l1 l2 : List (Nat × Int)) (s s' : σ), Delivers pop s (l1 ++ l2) s' →
      ∃ s1, Delivers pop s l1 s1 ∧ Delivers pop s1 l2 s'
  | [], l2, s, s', h => ⟨s, rfl, h⟩
  | kv :: l1, l2, s, s', h => by
    obtain ⟨s1, h1, h2⟩ := h
    obtain ⟨s2, h3, h4⟩ := delivers_append pop l1 l2 s1 s' h2
    exact ⟨s2, ⟨s1, h1, h3⟩, h4⟩

/-- the first move of an entry: operation 1 / 2 = to the left / right child, 3 = stay -/
def mv (op : Nat) (root : TIt) : TIt :=
  if op = 1 then root.getLeftChild else if op = 2 then root.getRightChild else root

theorem mv_left {q i il : Nat} (hil : il + q = i) : mv 1 ⟨i, 2 * q⟩ = ⟨il, q⟩ := by
  have : 2 * q / 2 = q := by omega
  simp only [mv, TIt.getLeftChild, this, if_true]
  congr 1
  omega

theorem mv_right (q i : Nat) : mv 2 ⟨i, 2 * q⟩ = ⟨i + q, q⟩ := by
  have : 2 * q / 2 = q := by omega
  simp [mv, TIt.getRightChild, this]

section steps
variable {σ : Type} (pop : σ → Option ((Nat × Int) × σ))

theorem fill_step_parent (f n : Nat) (stk : List (Nat × Nat)) (t : Tree) (root : TIt) (s : σ) :
    fillLoop pop (f + 1) ((n, 0) :: stk) t root s = fillLoop pop f stk t root.getParent s := by
  simp [fillLoop]

theorem fill_step_zero (f op : Nat) (hop : 0 < op) (stk : List (Nat × Nat)) (t : Tree) (root : TIt)
    (s : σ) :
    fillLoop pop (f + 1) ((0, op) :: stk) t root s = fillLoop pop f stk t (mv op root) s := by
  simp [fillLoop, Nat.ne_of_gt hop, mv]

theorem fill_step_one (f op : Nat) (hop : 0 < op) (stk : List (Nat × Nat)) (t : Tree) (root : TIt)
    (s s1 : σ) (kv : Nat × Int) (hp : pop s = some (kv, s1)) :
    fillLoop pop (f + 1) ((1, op) :: stk) t root s =
      fillLoop pop f stk (t.setCell (mv op root).i (some kv)) (mv op root) s1 := by
  simp [fillLoop, Nat.ne_of_gt hop, mv, hp]

/-- `nl`, `nr` are the two halves of the other `n - 1` elements, the left one the smaller -/
theorem fill_step_expand (f n nl nr op : Nat) (hop : 0 < op) (hn : 2 ≤ n) (hsum : nl + 1 + nr = n)
    (h1 : nl ≤ nr) (h2 : nr ≤ nl + 1) (stk : List (Nat × Nat)) (t : Tree) (root : TIt) (s : σ) :
    fillLoop pop (f + 1) ((n, op) :: stk) t root s =
      fillLoop pop f ((nl, 1) :: (0, 0) :: (1, 3) :: (nr, 2) :: (n, 0) :: stk) t (mv op root) s := by
  have h0 : n ≠ 0 := by omega
  have h1 : n ≠ 1 := by omega
  have e1 : (n + 1) / 2 - 1 = nl := by omega
  have e2 : n - (n + 1) / 2 = nr := by omega
  simp [fillLoop, Nat.ne_of_gt hop, mv, h0, h1, e1, e2]

end steps

open Tree

/-- Processing the entry `(n, op)` (`op ≠ 0`) whose first move leads to the node `(i, w + 1)`,
    `w + 1 = 2^h`, first slot `lo`, with all slots of that subtree free and a source that delivers
    the `n` elements `l`: after `c ≤ 6n + 1` steps the entry — and for `n ≥ 2` everything it pushed,
    its own rewritten copy `(n, 0)` included — is gone from the stack, the iterator is at
    `(i, w + 1)`, the subtree lists `l` in the half/half layout and nothing else was written. -/
theorem fill_entry {σ : Type} (pop : σ → Option ((Nat × Int) × σ)) :
    ∀ (n h m i w lo : Nat) (t : Tree) (root : TIt) (op : Nat) (l : List (Nat × Int)) (s s' : σ),
      0 < op → w + 1 = 2 ^ h → i = (w + 1) * (2 * m + 1) → lo + w = i → mv op root = ⟨i, w + 1⟩ →
      n ≤ 2 * w + 1 → i + w < t.cells.size →
      (∀ p, lo ≤ p → p ≤ i + w → t.cell p = none) →
      l.length = n → Delivers pop s l s' →
      ∃ c t', c ≤ 6 * n + 1 ∧
        (∀ fuel stk, fillLoop pop (fuel + c) ((n, op) :: stk) t root s =
          fillLoop pop fuel stk t' ⟨i, w + 1⟩ s') ∧
        t.FrameOn t' lo (i + w) ∧ t'.listRange lo (i + w + 1) = l ∧ t'.Balanced (h + 1) i n := by
  intro n
  induction n using Nat.strongRecOn with
  | _ n ih =>
  intro h m i w lo t root op l s s' hop hw hi hlo hmv hn hsz hnone hlen hdel
  rcases Nat.lt_or_ge n 2 with hlt | hn2
  · rcases Nat.lt_or_ge n 1 with h0 | h1
    · obtain rfl : n = 0 := by omega
      obtain rfl : l = [] := List.length_eq_zero_iff.mp hlen
      obtain rfl : s = s' := hdel
      exact ⟨1, t, Nat.le_refl 1, fun fuel stk => by rw [fill_step_zero pop fuel op hop, hmv],
        ⟨rfl, rfl, rfl, rfl, fun _ _ => rfl⟩,
        listRange_none t _ _ (fun p a b => hnone p a (by omega)), balanced_empty t hw hlo hnone⟩
    · obtain rfl : n = 1 := by omega
      obtain ⟨kv, rfl⟩ : ∃ kv, l = [kv] := List.length_eq_one_iff.mp hlen
      obtain ⟨s1, hpop, rfl⟩ : ∃ s1, pop s = some (kv, s1) ∧ s1 = s' := hdel
      have hself : (t.setCell i (some kv)).cell i = some kv := cell_setCell_self t i _ (by omega)
      have hne : ∀ p, p ≠ i → (t.setCell i (some kv)).cell p = t.cell p :=
        fun p hp => cell_setCell_ne t i p _ (Ne.symm hp)
      refine ⟨1, t.setCell i (some kv), by omega,
        fun fuel stk => by rw [fill_step_one pop fuel op hop stk t root s s1 kv hpop, hmv],
        frameOn_setCell t (by omega) (by omega) _, ?_, ?_⟩
      · rw [listRange_node _ (by omega) (by omega) hself,
          listRange_none _ lo i (fun p a b => by rw [hne p (by omega)]; exact hnone p a (by omega)),
          listRange_none _ (i + 1) _ (fun p a b => by rw [hne p (by omega)]; exact hnone p (by omega) (by omega))]
        rfl
      · exact balanced_one _ hw hlo (by unfold Tree.isUnused; rw [hself]; rfl)
          (fun p a b hp => by rw [hne p hp]; exact hnone p a b)
  -- `n ≥ 2`: left subtree `(il, q)`, root, right subtree `(i + q, q)`; `wc = q - 1`
  cases h with
  | zero => rw [Nat.pow_zero] at hw; omega
  | succ h1 =>
  obtain ⟨q, hq⟩ : ∃ q, q = 2 ^ h1 := ⟨_, rfl⟩
  have hqpos : 1 ≤ q := hq ▸ Nat.one_le_two_pow
  obtain ⟨wc, hwc⟩ : ∃ wc, wc + 1 = q := ⟨q - 1, by omega⟩
  have hwq : w = wc + q := by rw [Nat.pow_succ, ← hq] at hw; omega
  have hoq : w + 1 = 2 * q := by omega
  rw [hoq] at hi hmv ⊢
  obtain ⟨il, hil⟩ : ∃ il, il + q = i := ⟨lo + wc, by omega⟩
  have hch := node_children hi
  obtain ⟨nl, nr, hsum, hlr, hrl, hfl, hfr⟩ := half_split (Nat.le_of_succ_le hn2) hn hwc hwq
  obtain ⟨ll, kv, lr, rfl, hlenl, hlenr⟩ :
      ∃ ll kv lr, l = ll ++ kv :: lr ∧ ll.length = nl ∧ lr.length = nr := by
    have hlt : nl < l.length := by omega
    refine ⟨l.take nl, l[nl], l.drop (nl + 1), ?_, ?_, ?_⟩
    · rw [List.getElem_cons_drop, List.take_append_drop]
    · rw [List.length_take]; omega
    · rw [List.length_drop]; omega
  obtain ⟨s1, hd1, s2, hpop, hd3⟩ := delivers_append pop ll (kv :: lr) s s' hdel
  -- left subtree
  obtain ⟨cl, t1, hcl, hrunl, hfrl, hlistl, hball⟩ :=
    ih nl (by omega) h1 (2 * m) il wc lo t ⟨i, 2 * q⟩ 1 ll s s1 (by omega) (hwc.trans hq)
      (by rw [hwc]; omega) (by omega) (by rw [hwc]; exact mv_left hil) hfl (by omega)
      (fun p a b => hnone p a (by omega)) hlenl hd1
  -- the root of the subtree
  obtain ⟨t2, ht2⟩ : ∃ t2, t2 = t1.setCell i (some kv) := ⟨_, rfl⟩
  have hfr2 : t1.FrameOn t2 i i := ht2 ▸ frameOn_setCell t1 (Nat.le_refl i) (Nat.le_refl i) _
  have hself : t2.cell i = some kv := ht2 ▸ cell_setCell_self t1 i _ (by have := hfrl.2.2.2.1; omega)
  -- right subtree
  obtain ⟨cr, t3, hcr, hrunr, hfrr, hlistr, hbalr⟩ :=
    ih nr (by omega) h1 (2 * m + 1) (i + q) wc (i + 1) t2 ⟨i, 2 * q⟩ 2 lr s2 s' (by omega)
      (hwc.trans hq) (by rw [hwc]; exact hch.2) (by omega) (by rw [hwc]; exact mv_right q i) hfr
      (by have := hfr2.2.2.2.1; have := hfrl.2.2.2.1; omega)
      (fun p a b => by
        rw [hfr2.2.2.2.2 p (by omega), hfrl.2.2.2.2 p (by omega)]; exact hnone p (by omega) (by omega))
      hlenr hd3
  rw [hwc] at hrunl hrunr
  obtain ⟨hfr, hlist, hbal⟩ := layout_node hq hwc hwq hlo hil hsum hlr hrl hfrl hlistl hball hfr2 hself
    hfrr hlistr hbalr
  refine ⟨1 + cl + 1 + 1 + cr + 1, t3, by omega, fun fuel stk => ?_, hfr, hlist, hbal⟩
  have e : fuel + (1 + cl + 1 + 1 + cr + 1) = (fuel + 1 + cr + 1 + 1 + cl) + 1 := by omega
  rw [e, fill_step_expand pop _ n nl nr op hop hn2 hsum hlr hrl, hmv, hrunl, fill_step_parent,
    parent_left hqpos hi hil, fill_step_one pop _ 3 (by omega) _ _ _ s1 s2 kv hpop]
  show fillLoop pop _ _ (t1.setCell i (some kv)) ⟨i, 2 * q⟩ s2 = _
  rw [← ht2, hrunr, fill_step_parent, parent_right hqpos hi]

end PPLV.COTree.FillB

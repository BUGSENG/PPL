import PPLV.COTree.ProofsRebInsertTail

/-!
# `CO_Tree::insert(key, data)` (`InsertSpec`)

Under the hypotheses `RedistSpec`, `BiggerSpec`, `GoDownSpec` (each proved in its own file).
-/
namespace PPLV.COTree
open Tree

/-! ## the empty tree -/

/-- the tree `insert_in_empty_tree` builds -/
def singletonTree (key : Nat) (value : Int) : Tree :=
  ⟨3, 2, 1, #[sentinel, none, some (key, value), none, sentinel]⟩

theorem init3_eq : init 3 = ⟨3, 2, 0, #[sentinel, none, none, none, sentinel]⟩ := by decide

theorem insert_empty (key : Nat) (value : Int) :
    insert (init 0) key value = some (singletonTree key value, ⟨2, 2⟩) := by
  have h0 : init 0 = ⟨0, 0, 0, #[]⟩ := by decide
  have hb : rebuildBiggerTree ⟨0, 0, 0, #[]⟩ = init 3 := by simp [rebuildBiggerTree]
  simp [insert, h0, insertInEmptyTree, hb, init3_eq, Tree.getRoot, Tree.setCell, singletonTree]

theorem singletonTree_shape (key : Nat) (value : Int) : (singletonTree key value).Shape :=
  ⟨rfl, Nat.le_refl 2, rfl, rfl, rfl⟩

theorem singletonTree_inv (key : Nat) (value : Int) : (singletonTree key value).Inv := by
  refine ⟨singletonTree_shape key value, rfl, ?_, ?_, ?_⟩
  · show SMap.Sorted [(key, value)]
    simp [SMap.Sorted]
  · intro i o hn hu hroot
    have ho := hn.offset_eq
    have hb := hn.bounds (singletonTree_shape key value)
    have hi : i ≤ 3 := by
      obtain ⟨h, m, _, _, hle⟩ := hn
      exact hle
    have hroot' : o ≠ 2 := by simpa [singletonTree] using hroot
    have hcases : i = 1 ∨ i = 2 ∨ i = 3 := by omega
    rcases hcases with rfl | rfl | rfl
    · simp [Tree.isUnused, Tree.cell, singletonTree] at hu
    · have : lowBit 2 = 2 := by decide
      omega
    · simp [Tree.isUnused, Tree.cell, singletonTree] at hu
  · show densityOK 1 3 = true
    decide

/-! ## a non-empty tree -/

theorem stored_iff (t : Tree) (key : Nat) :
    SMap.stored t.toList key = true ↔ ∃ p v, 1 ≤ p ∧ p ≤ t.rs ∧ t.cell p = some (key, v) := by
  unfold SMap.stored
  rw [SMap.find?_isSome_iff_mem]
  constructor
  · rintro ⟨q, hq, hk⟩
    obtain ⟨p, p1, p2, p3⟩ := (mem_listRange t _ _ q).1 hq
    refine ⟨p, q.2, p1, by omega, ?_⟩
    rw [p3, ← hk]
  · rintro ⟨p, v, p1, p2, p3⟩
    exact ⟨(key, v), (mem_listRange t _ _ _).2 ⟨p, p1, by omega, p3⟩, rfl⟩

/-- **`insert_precise(key, data, itr)`** from any used node `(i, o)` that holds `key` when `key` is
    stored and otherwise is the node next to which `key` belongs, with a free child (or a leaf)
    on the side of `key` -/
theorem insertPrecise_slot (hr : RedistSpec) (hb : BiggerSpec) (hg : GoDownSpec)
    (t : Tree) (key : Nat) (value : Int) (i o : Nat) (hinv : t.Inv) (hsize : 1 ≤ t.size)
    (g1 : t.IsNode i o) (g2 : t.isUnused i = false)
    (g5 : (∃ p, 1 ≤ p ∧ p ≤ t.rs ∧ ∃ v, t.cell p = some (key, v)) → t.keyAt i = key)
    (g6 : t.keyAt i ≠ key → t.Brackets i i key ∧
      ((⟨i, o⟩ : TIt).isLeaf = false →
        t.isUnused (if key < t.keyAt i then (⟨i, o⟩ : TIt).getLeftChild
          else (⟨i, o⟩ : TIt).getRightChild).i = true)) :
    ∃ t' it, insertPrecise t key value ⟨i, o⟩ = some (t', it) ∧ (t'.Inv ∧
      t'.toList = SMap.set t.toList key value ∧ t'.cell it.i = some (key, value) ∧
      (t'.size, t'.rs) =
        (if SMap.stored t.toList key then (t.size, t.rs) else afterInsert t.size t.rs)) ∧
      1 ≤ it.i ∧ it.i ≤ t'.rs := by
  obtain ⟨hs, hcnt, hsorted, hup, hdens⟩ := hinv
  have hne : t.size ≠ 0 := by omega
  have hodd := hs.rs_odd
  have hszle : t.size ≤ t.rs := by
    have := countRange_le t 1 (t.rs + 1); omega
  have hru := root_used hs hup (by omega)
  have hbi := g1.bounds hs
  obtain ⟨kv, hkv⟩ := (isUnused_false_iff t i).mp g2
  have hka := keyAt_of_cell hkv
  by_cases hk : t.keyAt i = key
  · -- the key is stored: its value is replaced
    have e1 : insertPrecise t key value ⟨i, o⟩ = some (t.setCell i (some (key, value)), ⟨i, o⟩) := by
      simp [insertPrecise, hk]
    have hkv' : t.cell i = some (key, kv.2) := by rw [hkv, ← hk, hka]
    obtain ⟨a1, a2, a3, a4⟩ := replace_at_used t i key kv.2 value hs hsorted (by omega) (by omega) hkv'
    have hst : SMap.stored t.toList key = true :=
      (stored_iff t key).2 ⟨i, kv.2, by omega, by omega, hkv'⟩
    refine ⟨_, _, e1, ⟨⟨a1, ?_, ?_, ?_, hdens⟩, a3, a4, by rw [hst]; rfl⟩, by show 1 ≤ i; omega,
      by show i ≤ t.rs; omega⟩
    · show (t.setCell i (some (key, value))).countRange 1 (t.rs + 1) = t.size
      rw [← hcnt]
      unfold Tree.countRange
      congr 1
      apply List.filter_congr
      intro p _
      rw [a2]
    · rw [a3]; exact SMap.sorted_set _ _ _ hsorted
    · intro a oa ha hu hroot
      rw [a2] at hu ⊢
      exact hup a oa ha hu hroot
  · -- a new key
    have hnst : SMap.stored t.toList key = false := by
      cases hx : SMap.stored t.toList key with
      | false => rfl
      | true =>
        obtain ⟨p, v, p1, p2, p3⟩ := (stored_iff t key).1 hx
        exact absurd (g5 ⟨p, p1, p2, v, p3⟩) hk
    obtain ⟨g6a, g6b⟩ := g6 hk
    have e1 : insertPrecise t key value ⟨i, o⟩ = insertPreciseAux t key value ⟨i, o⟩ := by
      simp [insertPrecise, hk]
    rw [e1, hnst]
    have hdens' := insert_density_ok t.size t.rs hszle (fun h => absurd h hne) hdens
    cases hgr : insertRebuilds t.size t.rs with
    | false =>
      rw [insertPreciseAux_not_grown hgr]
      have haft : afterInsert t.size t.rs = (t.size + 1, t.rs) := by
        simp [afterInsert, hne, hgr]
      rw [haft] at hdens' ⊢
      have hpost : InsertTailPost t key value (insertTail t key value ⟨i, o⟩) := by
        cases hl : (⟨i, o⟩ : TIt).isLeaf with
        | false => exact insertTail_nonleaf t key value i o hs hup g1 g2 hk g6a hl (g6b hl)
        | true =>
          have ho1 : o = 1 := by simpa [TIt.isLeaf] using hl
          have h7 : 7 ≤ t.rs := by
            rcases shape_rs_3_or_7 hs with h3 | h7
            · exfalso
              rw [insertRebuilds_false_iff] at hgr
              have hroot1 := (IsNode.root hs).offset_eq
              have hi1 := g1.offset_eq
              have hne' : i ≠ t.rs / 2 + 1 := by
                intro he
                rw [he] at hi1
                omega
              have h2 : 2 ≤ t.countRange 1 (t.rs + 1) := by
                by_cases hlt : i < t.rs / 2 + 1
                · exact count_two (by omega) hlt (by omega) g2 hru
                · exact count_two (by omega) (by omega : t.rs / 2 + 1 < i) (by omega) hru g2
              omega
            · exact h7
          exact insertTail_leaf hr hg t key value i o hs hsorted hup hcnt g1 g2 hk g6a hl h7
            (root_ok_insert t.maxDepth t.size t.rs h7 hdens hgr)
      obtain ⟨t', it', q1, q2, q3, q4, q5, q6, q7, q8, q9, q10⟩ := hpost
      refine ⟨t', it', q1, ⟨⟨q2, by rw [q3, q7, hcnt], ?_, q5, by rw [q7, q8]; exact hdens'⟩, q4, q6,
        by rw [q7, q8]; rfl⟩, q9, q10⟩
      rw [q4]; exact SMap.sorted_set _ _ _ hsorted
    | true =>
      rw [insertPreciseAux_grown hgr]
      have hrs0 : t.rs ≠ 0 := by omega
      have haft : afterInsert t.size t.rs = (t.size + 1, 2 * t.rs + 1) := by
        simp [afterInsert, hne, hgr, biggerRs, hrs0]
      rw [haft] at hdens' ⊢
      obtain ⟨b1, b2, b3, b4, _, _, b7, b8, b9⟩ := hb t hs
      have hup1 := b9 hup
      generalize rebuildBiggerTree t = t1 at b1 b2 b3 b4 b7 b8 hup1 ⊢
      have hsorted1 : SMap.Sorted t1.toList := by rw [b7]; exact hsorted
      have hcnt1 : t1.countRange 1 (t1.rs + 1) = t1.size := by rw [b8, b4]; exact hcnt
      have hru1 := root_used b1 hup1 (by omega)
      obtain ⟨f1, f2, _, _, f5, f6⟩ :=
        hg t1 key _ _ b1 hsorted1 hup1 (IsNode.root b1) hru1 (brackets_root t1 b1 key)
      have eroot1 : (⟨t1.rs / 2 + 1, t1.rs / 2 + 1⟩ : TIt) = t1.getRoot := rfl
      rw [eroot1] at f1 f2 f5 f6
      generalize t1.goDownSearchingKey key t1.getRoot = it1 at f1 f2 f5 f6 ⊢
      obtain ⟨i1, o1⟩ := it1
      simp only at f1 f2 f5 f6
      have hbi1 := f1.bounds b1
      obtain ⟨kv1, hkv1⟩ := (isUnused_false_iff t1 i1).mp f2
      have hk1 : t1.keyAt i1 ≠ key := by
        intro he
        have hst1 : SMap.stored t1.toList key = true :=
          (stored_iff t1 key).2 ⟨i1, kv1.2, by omega, by omega, by
            rw [hkv1, ← he, keyAt_of_cell hkv1]⟩
        rw [b7, hnst] at hst1
        cases hst1
      obtain ⟨f6a, f6b⟩ := f6 hk1
      have hpost : InsertTailPost t1 key value (insertTail t1 key value ⟨i1, o1⟩) := by
        cases hl : (⟨i1, o1⟩ : TIt).isLeaf with
        | false => exact insertTail_nonleaf t1 key value i1 o1 b1 hup1 f1 f2 hk1 f6a hl (f6b hl)
        | true =>
          exact insertTail_leaf hr hg t1 key value i1 o1 b1 hsorted1 hup1 hcnt1 f1 f2 hk1 f6a hl
            (by omega)
            (by rw [b4, b2]
                exact root_ok_insert_grown t1.maxDepth t.size t.rs hodd.2 hszle hgr)
      obtain ⟨t', it', q1, q2, q3, q4, q5, q6, q7, q8, q9, q10⟩ := hpost
      refine ⟨t', it', q1, ⟨⟨q2, by rw [q3, q7, hcnt1], ?_, q5, by rw [q7, q8, b4, b2]; exact hdens'⟩,
        by rw [q4, b7], q6, by rw [q7, q8, b4, b2]; rfl⟩, q9, q10⟩
      rw [q4]; exact SMap.sorted_set _ _ _ hsorted1

theorem insertPrecise_spec (hr : RedistSpec) (hb : BiggerSpec) (hg : GoDownSpec)
    (t : Tree) (key : Nat) (value : Int) (i o : Nat) (hinv : t.Inv) (hsize : 1 ≤ t.size)
    (g1 : t.IsNode i o) (g2 : t.isUnused i = false)
    (g5 : (∃ p, 1 ≤ p ∧ p ≤ t.rs ∧ ∃ v, t.cell p = some (key, v)) → t.keyAt i = key)
    (g6 : t.keyAt i ≠ key → t.Brackets i i key ∧
      ((⟨i, o⟩ : TIt).isLeaf = false →
        t.isUnused (if key < t.keyAt i then (⟨i, o⟩ : TIt).getLeftChild
          else (⟨i, o⟩ : TIt).getRightChild).i = true)) :
    ∃ t' it, insertPrecise t key value ⟨i, o⟩ = some (t', it) ∧ t'.Inv ∧
      t'.toList = SMap.set t.toList key value ∧ t'.cell it.i = some (key, value) ∧
      (t'.size, t'.rs) =
        (if SMap.stored t.toList key then (t.size, t.rs) else afterInsert t.size t.rs) := by
  obtain ⟨t', it, r1, r2, _⟩ := insertPrecise_slot hr hb hg t key value i o hinv hsize g1 g2 g5 g6
  exact ⟨t', it, r1, r2⟩

/-- `insert` on a non-empty tree, with the slot bound of the returned iterator -/
theorem insert_slot (hr : RedistSpec) (hb : BiggerSpec) (hg : GoDownSpec)
    (t : Tree) (key : Nat) (value : Int) (hinv : t.Inv) (hsize : 1 ≤ t.size) :
    ∃ t' it, insert t key value = some (t', it) ∧ (t'.Inv ∧
      t'.toList = SMap.set t.toList key value ∧ t'.cell it.i = some (key, value) ∧
      (t'.size, t'.rs) =
        (if SMap.stored t.toList key then (t.size, t.rs) else afterInsert t.size t.rs)) ∧
      1 ≤ it.i ∧ it.i ≤ t'.rs := by
  have hs := hinv.shape
  have hne : t.size ≠ 0 := by omega
  have hodd := hs.rs_odd
  have e0 : insert t key value = insertPrecise t key value (t.goDownSearchingKey key t.getRoot) := by
    simp [insert, hne]
  have hru := root_used hs hinv.upClosed (by have := hinv.count; omega)
  obtain ⟨g1, g2, g3, g4, g5, g6⟩ :=
    hg t key _ _ hs hinv.sorted hinv.upClosed (IsNode.root hs) hru (brackets_root t hs key)
  have eroot : (⟨t.rs / 2 + 1, t.rs / 2 + 1⟩ : TIt) = t.getRoot := rfl
  rw [eroot] at g1 g2 g3 g4 g5 g6
  rw [e0]
  generalize t.goDownSearchingKey key t.getRoot = it at g1 g2 g3 g4 g5 g6
  obtain ⟨i, o⟩ := it
  simp only at g1 g2 g3 g4 g5 g6
  exact insertPrecise_slot hr hb hg t key value i o hinv hsize g1 g2
    (fun ⟨p, p1, p2, v, p3⟩ => g5 ⟨p, by omega, by omega, v, p3⟩) g6

theorem insertSpec_nonempty (hr : RedistSpec) (hb : BiggerSpec) (hg : GoDownSpec)
    (t : Tree) (key : Nat) (value : Int) (hinv : t.Inv) (hsize : 1 ≤ t.size) :
    ∃ t' it, insert t key value = some (t', it) ∧ t'.Inv ∧
      t'.toList = SMap.set t.toList key value ∧ t'.cell it.i = some (key, value) ∧
      (t'.size, t'.rs) =
        (if SMap.stored t.toList key then (t.size, t.rs) else afterInsert t.size t.rs) := by
  obtain ⟨t', it, r1, r2, _⟩ := insert_slot hr hb hg t key value hinv hsize
  exact ⟨t', it, r1, r2⟩

/-- **`CO_Tree::insert(key, data)`** (`InsertSpec` of `RebSpec.lean`) -/
theorem insertSpec_of (hr : RedistSpec) (hb : BiggerSpec) (hg : GoDownSpec) : InsertSpec := by
  refine ⟨fun key value => ?_, insertSpec_nonempty hr hb hg⟩
  refine ⟨_, _, insert_empty key value, singletonTree_inv key value, rfl, rfl, rfl, rfl⟩

end PPLV.COTree

import PPLV.COTree.ProofsRebRedistPlace
import PPLV.COTree.ProofsRebLayout

/-!
# `redistribute_elements_in_subtree`: the stack loop
Processing the entry `(n, i)` costs at most `2n - 1` iterations and lays the first `n` elements
of the stream out half/half in the subtree of `i`.
-/
namespace PPLV.COTree.Redist
open PPLV.COTree PPLV.COTree.Tree

theorem Step.refl (key : Nat) (value : Int) (L lo hi : Nat) (s : RState) (inv : RInv key L s)
    (hole : ∀ p, lo ≤ p → p < s.lastUsed → s.t.cell p = none) (h1 : hi + 1 ≤ s.lastUsed)
    (hlh : lo ≤ hi + 1) : Step key value L lo hi 0 s s := by
  refine ⟨inv, rfl, rfl, rfl, rfl, fun _ _ => rfl, rfl, ?_, ?_⟩
  · intro p a b
    exact hole p (by omega) b
  · rw [listRange_none s.t lo (hi + 1) (fun p a b => hole p a (by omega))]
    rfl

theorem Step.comp {key : Nat} {value : Int} {L lo mid hi n1 n2 : Nat} {s s1 s2 : RState}
    (h12 : Step key value L lo mid n1 s s1) (h23 : Step key value L (mid + 1) hi n2 s1 s2)
    (hlm : lo ≤ mid + 1) (hmh : mid ≤ hi) : Step key value L lo hi (n1 + n2) s s2 := by
  refine ⟨h23.inv, h23.rs.trans h12.rs, h23.maxDepth.trans h12.maxDepth, h23.size.trans h12.size,
    h23.csize.trans h12.csize, ?_, ?_, h23.hole, ?_⟩
  · intro p hp
    rw [h23.frame p (by omega), h12.frame p hp]
  · have := h12.rem; have := h23.rem; omega
  · rw [h12.strm, h23.strm, listRange_split s2.t lo (mid + 1) (hi + 1) hlm (by omega),
      listRange_congr s1.t s2.t lo (mid + 1) (fun p _ b => h23.frame p (Or.inl b)),
      List.append_assoc]


theorem redistLoop_one (key : Nat) (value : Int) (fuel i : Nat) (stk : List (Nat × Nat))
    (s : RState) :
    redistLoop key value (fuel + 1) ((1, i) :: stk) s
      = redistLoop key value fuel stk (redistPlace key value s i) := by
  simp [redistLoop]

/-- `nl`, `nr` are the two halves of the other `n - 1` elements, the left one the smaller -/
theorem redistLoop_split (key : Nat) (value : Int) (fuel n nl nr i il a : Nat) (stk : List (Nat × Nat))
    (s : RState) (hn : 2 ≤ n) (hsum : nl + 1 + nr = n) (h1 : nl ≤ nr) (h2 : nr ≤ nl + 1)
    (ha : lowBit i / 2 = a) (hil : il + a = i) :
    redistLoop key value (fuel + 1) ((n, i) :: stk) s
      = redistLoop key value fuel
          (if nl ≠ 0 then (nl, il) :: (1, i) :: (nr, i + a) :: stk else (1, i) :: (nr, i + a) :: stk) s := by
  have hn1 : n ≠ 1 := by omega
  rw [redistLoop]
  simp only [hn1, if_false, ha, show (n + 1) / 2 - 1 = nl by omega, show n - (n + 1) / 2 = nr by omega,
    show i - a = il by omega]

theorem remaining_le (L : Nat) (s : RState) : L + 1 ≤ s.lastUsed + remaining L s := by
  unfold remaining; omega

/-- an entry `(1, i)` at a node `(i, w + 1)` of any height, first slot `lo` -/
theorem loop_one (key : Nat) (value : Int) (L h i w lo : Nat) (stk : List (Nat × Nat)) (s : RState)
    (hw : w + 1 = 2 ^ h) (hlo : lo + w = i) (inv : RInv key L s) (h3 : 1 ≤ remaining L s)
    (h4 : i + w + (remaining L s - 1) ≤ L)
    (h5 : ∀ p, lo ≤ p → p < s.lastUsed → s.t.cell p = none) :
    ∃ s' c, c + 1 ≤ 2 * 1 ∧
      (∀ fuel, redistLoop key value (fuel + c) ((1, i) :: stk) s = redistLoop key value fuel stk s') ∧
      Step key value L lo (i + w) 1 s s' ∧ s'.t.Balanced (h + 1) i 1 := by
  obtain ⟨st, hu, hn⟩ := place_step key value L lo (i + w) i s inv (by omega) (by omega) h3 h4 h5
  exact ⟨redistPlace key value s i, 1, by omega, fun fuel => redistLoop_one key value fuel i stk s,
    st, balanced_one _ hw hlo hu hn⟩

/-- **the stack loop on one entry** `(n, i)`, `i` a node with offset `w + 1 = 2^h` and first slot
    `lo`; `r` elements of the stream remain for the slots after the subtree -/
theorem loop_entry (key : Nat) (value : Int) (L : Nat) : ∀ (h m n r i w lo : Nat)
    (stk : List (Nat × Nat)) (s : RState), w + 1 = 2 ^ h → i = (w + 1) * (2 * m + 1) → lo + w = i →
    RInv key L s → 1 ≤ n → n ≤ 2 * w + 1 → n + r = remaining L s → i + w + r ≤ L →
    (∀ p, lo ≤ p → p < s.lastUsed → s.t.cell p = none) →
    ∃ s' c, c + 1 ≤ 2 * n ∧
      (∀ fuel, redistLoop key value (fuel + c) ((n, i) :: stk) s = redistLoop key value fuel stk s') ∧
      Step key value L lo (i + w) n s s' ∧ s'.t.Balanced (h + 1) i n := by
  intro h
  induction h with
  | zero =>
    intro m n r i w lo stk s hw hi hlo inv h1 h2 h3 h4 h5
    obtain rfl : n = 1 := by rw [Nat.pow_zero] at hw; omega
    exact loop_one key value L 0 i w lo stk s hw hlo inv (by omega) (by omega) h5
  | succ h ih =>
    intro m n r i w lo stk s hw hi hlo inv h1 h2 h3 h4 h5
    rcases Nat.lt_or_ge n 2 with hn1 | hn2
    · obtain rfl : n = 1 := by omega
      exact loop_one key value L (h + 1) i w lo stk s hw hlo inv (by omega) (by omega) h5
    -- `n ≥ 2`: left subtree `(il, q)`, root, right subtree `(i + q, q)`; `wc = q - 1`
    obtain ⟨q, hq⟩ : ∃ q, q = 2 ^ h := ⟨_, rfl⟩
    have hqpos : 1 ≤ q := hq ▸ Nat.one_le_two_pow
    obtain ⟨wc, hwc⟩ : ∃ wc, wc + 1 = q := ⟨q - 1, by omega⟩
    have hwq : w = wc + q := by rw [Nat.pow_succ, ← hq] at hw; omega
    have hwch : wc + 1 = 2 ^ h := hwc.trans hq
    have hsplit : lowBit i / 2 = q := by
      rw [hi, hw, lowBit_pow_mul, Nat.pow_succ, ← hq]; omega
    rw [show w + 1 = 2 * q by omega] at hi
    obtain ⟨il, hil⟩ : ∃ il, il + q = i := ⟨lo + wc, by omega⟩
    have hch := node_children hi
    obtain ⟨nl, nr, hsum, hlr, hrl, hfl, hfr⟩ := half_split h1 h2 hwc hwq
    replace hsplit := fun fuel =>
      redistLoop_split key value fuel n nl nr i il q stk s hn2 hsum hlr hrl hsplit hil
    have hlu := remaining_le L s
    -- the left subtree
    have hleft : ∃ s1 c1, c1 ≤ 2 * nl ∧
        (∀ fuel, redistLoop key value (fuel + c1 + 1) ((n, i) :: stk) s
          = redistLoop key value fuel ((1, i) :: (nr, i + q) :: stk) s1) ∧
        Step key value L lo (il + wc) nl s s1 ∧ s1.t.Balanced (h + 1) il nl := by
      by_cases hnl : nl = 0
      · subst hnl
        have hfree : ∀ p, lo ≤ p → p ≤ il + wc → s.t.cell p = none :=
          fun p a b => h5 p a (by omega)
        exact ⟨s, 0, Nat.le_refl 0, fun fuel => by rw [hsplit fuel, if_neg (fun hh => hh rfl)],
          Step.refl key value L lo (il + wc) s inv h5 (by omega) (by omega),
          balanced_empty s.t hwch (by omega) hfree⟩
      · obtain ⟨s1, c1, hc1, run1, st1, bal1⟩ := ih (2 * m) nl (1 + nr + r) il wc lo
          ((1, i) :: (nr, i + q) :: stk) s hwch (by rw [hwc]; have := hch.1; omega) (by omega) inv
          (by omega) hfl (by omega) (by omega) h5
        exact ⟨s1, c1, by omega, fun fuel => by rw [hsplit (fuel + c1), if_pos hnl, run1 fuel],
          st1, bal1⟩
    obtain ⟨s1, c1, hc1, run1, st1, bal1⟩ := hleft
    -- the root
    have hr1 := st1.rem
    obtain ⟨st2, hu2, -⟩ := place_step key value L i i i s1 st1.inv (Nat.le_refl _) (Nat.le_refl _)
      (by omega) (by omega) (fun p pa pb => st1.hole p (by omega) pb)
    have hr2 := st2.rem
    -- the right subtree
    obtain ⟨s3, c3, hc3, run3, st3, bal3⟩ := ih (2 * m + 1) nr r (i + q) wc (i + 1) stk
      (redistPlace key value s1 i) hwch (by rw [hwc]; exact hch.2) (by omega) st2.inv (by omega)
      hfr (by omega) (by omega) (fun p pa pb => st2.hole p (by omega) pb)
    refine ⟨s3, c3 + 1 + c1 + 1, by omega, fun fuel => ?_, ?_, ?_⟩
    · rw [show fuel + (c3 + 1 + c1 + 1) = (fuel + c3 + 1) + c1 + 1 by omega, run1, redistLoop_one, run3]
    · have st2' : Step key value L (il + wc + 1) i 1 s1 (redistPlace key value s1 i) := by
        rw [show il + wc + 1 = i by omega]; exact st2
      have c123 := Step.comp (Step.comp st1 st2' (by omega) (by omega)) st3 (by omega) (by omega)
      rwa [hsum, show i + q + wc = i + w by omega] at c123
    · refine balanced_node s3.t hq hil hsum hlr hrl ?_
        (balanced_congr s1.t s3.t hwch (lo := lo) (by omega) (fun p _ b => ?_) bal1) bal3
      · unfold Tree.isUnused at hu2 ⊢
        rw [st3.frame i (by omega)]; exact hu2
      · rw [st3.frame p (by omega), st2.frame p (by omega)]

end PPLV.COTree.Redist

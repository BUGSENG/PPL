import PPLV.COTree.ProofsRebUp

/-!
# `go_down_searching_key` is a correct BST descent on the in-order layout with holes

`goDownSpec : GoDownSpec`.
-/
namespace PPLV.COTree

open Tree

namespace Tree

/-! ## the bracket invariant beside a used slot `c` of a sorted tree -/

/-- a stored `key` smaller than the key of slot `c` lies left of `c` -/
theorem CellsSorted.left_of {t : Tree} (hso : t.CellsSorted) {c p key : Nat} {kc : Nat × Int} {v : Int}
    (hc1 : 1 ≤ c) (hp2 : p ≤ t.rs) (hkc : t.cell c = some kc) (hv : t.cell p = some (key, v))
    (hlt : key < kc.1) : p < c := by
  rcases Nat.lt_trichotomy p c with h | h | h
  · exact h
  · rw [h, hkc] at hv; cases hv; exact absurd hlt (Nat.lt_irrefl _)
  · have := hso c p kc (key, v) hc1 h hp2 hkc hv
    exact absurd (Nat.lt_trans hlt this) (Nat.lt_irrefl _)

/-- a stored `key` larger than the key of slot `c` lies right of `c` -/
theorem CellsSorted.right_of {t : Tree} (hso : t.CellsSorted) {c p key : Nat} {kc : Nat × Int} {v : Int}
    (hp1 : 1 ≤ p) (hc2 : c ≤ t.rs) (hkc : t.cell c = some kc) (hv : t.cell p = some (key, v))
    (hgt : kc.1 < key) : c < p := by
  rcases Nat.lt_trichotomy p c with h | h | h
  · have := hso p c (key, v) kc hp1 h hc2 hv hkc
    exact absurd (Nat.lt_trans hgt this) (Nat.lt_irrefl _)
  · rw [h, hkc] at hv; cases hv; exact absurd hgt (Nat.lt_irrefl _)
  · exact h

/-- `key` is smaller than the key of slot `c`: every used slot from `c` on holds a larger key -/
theorem Brackets.left {t : Tree} {key c lo hi hi' : Nat} {kc : Nat × Int} (hso : t.CellsSorted)
    (hc1 : 1 ≤ c) (hkc : t.cell c = some kc) (hlt : key < kc.1) (hbr : t.Brackets lo hi key)
    (h : c ≤ hi' + 1) : t.Brackets lo hi' key := by
  refine ⟨hbr.1, fun p kv h1 h2 hv => ?_⟩
  rcases Nat.lt_or_ge c p with hcp | hcp
  · exact Nat.lt_trans hlt (hso c p kc kv hc1 hcp h2 hkc hv)
  · obtain rfl : p = c := by omega
    rw [hkc] at hv; cases hv; exact hlt

/-- `key` is larger than the key of slot `c`: every used slot up to `c` holds a smaller key -/
theorem Brackets.right {t : Tree} {key c lo lo' hi : Nat} {kc : Nat × Int} (hso : t.CellsSorted)
    (hc2 : c ≤ t.rs) (hkc : t.cell c = some kc) (hgt : kc.1 < key) (hbr : t.Brackets lo hi key)
    (h : lo' ≤ c + 1) : t.Brackets lo' hi key := by
  refine ⟨fun p kv h1 h2 hv => ?_, hbr.2⟩
  rcases Nat.lt_or_ge p c with hcp | hcp
  · exact Nat.lt_trans (hso p c kv kc h1 hcp hc2 hv hkc) hgt
  · obtain rfl : p = c := by omega
    rw [hkc] at hv; cases hv; exact hgt

/-- free slots at both ends of the bracketed segment may be left out -/
theorem Brackets.shrink {t : Tree} {key lo hi lo' hi' : Nat} (hbr : t.Brackets lo hi key)
    (h1 : ∀ p, lo ≤ p → p < lo' → t.cell p = none) (h2 : ∀ p, hi' < p → p ≤ hi → t.cell p = none) :
    t.Brackets lo' hi' key := by
  refine ⟨fun p kv a b hv => ?_, fun p kv a b hv => ?_⟩
  · by_cases hp : p < lo
    · exact hbr.1 p kv a hp hv
    · rw [h1 p (by omega) b] at hv; cases hv
  · by_cases hp : hi < p
    · exact hbr.2 p kv hp b hv
    · rw [h2 p a (by omega)] at hv; cases hv

end Tree

/-- the conclusion of `GoDownSpec` relative to the node `(c, oc)` -/
def GoDownPost (t : Tree) (key c oc : Nat) (it : TIt) : Prop :=
  t.IsNode it.i it.offset ∧ t.isUnused it.i = false ∧
  c - (oc - 1) ≤ it.i - (it.offset - 1) ∧ it.i + (it.offset - 1) ≤ c + (oc - 1) ∧
  ((∃ p, c - (oc - 1) ≤ p ∧ p ≤ c + (oc - 1) ∧ ∃ v, t.cell p = some (key, v)) → t.keyAt it.i = key) ∧
  (t.keyAt it.i ≠ key →
      t.Brackets it.i it.i key ∧
      (it.isLeaf = false →
        t.isUnused (if key < t.keyAt it.i then it.getLeftChild else it.getRightChild).i = true))

theorem goDownAux_succ (t : Tree) (key f : Nat) (it : TIt) :
    t.goDownAux key (f + 1) it =
      if it.isLeaf then it
      else if key = t.keyAt it.i then it
      else if key < t.keyAt it.i then
        (if t.isUnused it.getLeftChild.i then it.getLeftChild.getParent
         else t.goDownAux key f it.getLeftChild)
      else
        (if t.isUnused it.getRightChild.i then it.getRightChild.getParent
         else t.goDownAux key f it.getRightChild) := rfl

/-- stopping on the current node -/
theorem goDown_stop {t : Tree} {key c oc : Nat} (hn : t.IsNode c oc) (hu : t.isUnused c = false)
    (h5 : (∃ p, c - (oc - 1) ≤ p ∧ p ≤ c + (oc - 1) ∧ ∃ v, t.cell p = some (key, v)) → t.keyAt c = key)
    (h6 : t.keyAt c ≠ key → t.Brackets c c key ∧
      (TIt.isLeaf ⟨c, oc⟩ = false →
        t.isUnused (if key < t.keyAt c then TIt.getLeftChild ⟨c, oc⟩ else TIt.getRightChild ⟨c, oc⟩).i
          = true)) : GoDownPost t key c oc ⟨c, oc⟩ :=
  ⟨hn, hu, Nat.le_refl _, Nat.le_refl _, h5, h6⟩

/-- stopping on a leaf -/
theorem goDown_leaf {t : Tree} {key c : Nat} (hn : t.IsNode c 1) (hu : t.isUnused c = false)
    (hbr : t.Brackets (c - (1 - 1)) (c + (1 - 1)) key) : GoDownPost t key c 1 ⟨c, 1⟩ := by
  refine goDown_stop hn hu ?_ (fun _ => ⟨hbr, fun hl => by simp [TIt.isLeaf] at hl⟩)
  rintro ⟨p, h1, h2, v, hv⟩
  obtain rfl : p = c := by omega
  exact keyAt_of_cell hv

/-- the result of the descent in a child's subtree is a result for the parent, when `key` can only
    be stored in that child's subtree -/
theorem GoDownPost.lift {t : Tree} {key c oc c' oc' : Nat} {it : TIt} (h : GoDownPost t key c' oc' it)
    (hlo : c - (oc - 1) ≤ c' - (oc' - 1)) (hhi : c' + (oc' - 1) ≤ c + (oc - 1))
    (hside : ∀ p v, c - (oc - 1) ≤ p → p ≤ c + (oc - 1) → t.cell p = some (key, v) →
      c' - (oc' - 1) ≤ p ∧ p ≤ c' + (oc' - 1)) : GoDownPost t key c oc it :=
  ⟨h.1, h.2.1, Nat.le_trans hlo h.2.2.1, Nat.le_trans h.2.2.2.1 hhi,
    fun ⟨p, h1, h2, v, hv⟩ => h.2.2.2.2.1 ⟨p, (hside p v h1 h2 hv).1, (hside p v h1 h2 hv).2, v, hv⟩,
    h.2.2.2.2.2⟩

/-- the subtree ranges of the children `(c ∓ o', o')` of `(c, 2 * o')` -/
theorem kid_ranges {c oc o' : Nat} (e1 : oc = 2 * o') (hpos : 0 < o') (hge : 2 * o' ≤ c) :
    c - o' - (o' - 1) = c - (oc - 1) ∧ c - o' + (o' - 1) + 1 = c ∧
    c + o' - (o' - 1) = c + 1 ∧ c + o' + (o' - 1) = c + (oc - 1) := by omega

/-- fuel: one unit per level below the start node, `oc ≤ 2 ^ f` -/
theorem goDown_aux (t : Tree) (key : Nat) (hs : t.Shape) (hso : t.CellsSorted) (hup : t.UpClosed) :
    ∀ (f c oc : Nat), t.IsNode c oc → oc ≤ 2 ^ f → t.isUnused c = false →
      t.Brackets (c - (oc - 1)) (c + (oc - 1)) key →
      GoDownPost t key c oc (t.goDownAux key f ⟨c, oc⟩) := by
  intro f
  induction f with
  | zero =>
    intro c oc hn hf hu hbr
    obtain rfl : oc = 1 := by have := (hn.bounds hs).1; omega
    exact goDown_leaf hn hu hbr
  | succ f ih =>
    intro c oc hn hf hu hbr
    rw [goDownAux_succ]
    dsimp only
    by_cases hleaf : oc = 1
    · subst hleaf
      simp only [TIt.isLeaf, beq_self_eq_true, if_true]
      exact goDown_leaf hn hu hbr
    have hl' : (TIt.isLeaf ⟨c, oc⟩) = false := by simp [TIt.isLeaf, hleaf]
    simp only [hl', Bool.false_eq_true, if_false]
    obtain ⟨hc1, hc2⟩ : 1 ≤ c ∧ c ≤ t.rs := by have := hn.bounds hs; omega
    obtain ⟨kc, hkc⟩ := (isUnused_false_iff t c).mp hu
    have hkey : t.keyAt c = kc.1 := keyAt_of_cell hkc
    obtain ⟨o', e1, e2, hpos', -, hge, hkl, hkr, hpl, hpr, -⟩ := hn.kids hs hleaf
    have hf' : o' ≤ 2 ^ f := by rw [Nat.pow_succ] at hf; omega
    obtain ⟨l1, l2, r1, r2⟩ := kid_ranges e1 hpos' hge
    have hrs : c + (oc - 1) ≤ t.rs := (hn.bounds hs).2.2.2.1
    have hlo1 : 1 ≤ c - (oc - 1) := (hn.bounds hs).2.2.1
    simp only [getLeftChild_eq, getRightChild_eq, e2]
    by_cases heq : key = t.keyAt c
    · simp only [heq, if_true]
      exact goDown_stop hn hu (fun _ => rfl) (fun hne => absurd rfl hne)
    simp only [heq, if_false]
    by_cases hlt : key < t.keyAt c
    · -- `key` belongs to the left of `c`
      simp only [hlt, if_true]
      rw [hkey] at hlt
      have hleft : ∀ p v, c - (oc - 1) ≤ p → p ≤ c + (oc - 1) → t.cell p = some (key, v) →
          c - o' - (o' - 1) ≤ p ∧ p ≤ c - o' + (o' - 1) := fun p v a b hv => by
        have := hso.left_of hc1 (Nat.le_trans b hrs) hkc hv hlt; omega
      cases hul : t.isUnused (c - o') with
      | true =>
        simp only [if_true, hpl]
        have hemp := UpClosed.empty_subtree' hs hup hkl hul
        refine goDown_stop hn hu ?_ (fun _ => ⟨?_, fun _ => ?_⟩)
        · rintro ⟨p, a, b, v, hv⟩
          rw [hemp p (hleft p v a b hv).1 (hleft p v a b hv).2] at hv; cases hv
        · exact (hbr.left hso hc1 hkc hlt (Nat.le_succ c)).shrink
            (fun p a b => hemp p (by omega) (by omega)) (fun p a b => by omega)
        · simp only [hkey, hlt, if_true, getLeftChild_eq, e2]; exact hul
      | false =>
        simp only [Bool.false_eq_true, if_false]
        refine (ih (c - o') o' hkl hf' hul ?_).lift (Nat.le_of_eq l1.symm) (by omega) hleft
        rw [l1]
        exact hbr.left hso hc1 hkc hlt (Nat.le_of_eq l2.symm)
    · -- `key` belongs to the right of `c`
      simp only [hlt, if_false]
      have hgt : kc.1 < key := by rw [hkey] at heq hlt; omega
      have hright : ∀ p v, c - (oc - 1) ≤ p → p ≤ c + (oc - 1) → t.cell p = some (key, v) →
          c + o' - (o' - 1) ≤ p ∧ p ≤ c + o' + (o' - 1) := fun p v a b hv => by
        have := hso.right_of (Nat.le_trans hlo1 a) hc2 hkc hv hgt; omega
      cases hur : t.isUnused (c + o') with
      | true =>
        simp only [if_true, hpr]
        have hemp := UpClosed.empty_subtree' hs hup hkr hur
        refine goDown_stop hn hu ?_ (fun _ => ⟨?_, fun _ => ?_⟩)
        · rintro ⟨p, a, b, v, hv⟩
          rw [hemp p (hright p v a b hv).1 (hright p v a b hv).2] at hv; cases hv
        · exact (hbr.right hso hc2 hkc hgt (Nat.le_succ c)).shrink
            (fun p a b => by omega) (fun p a b => hemp p (by omega) (by omega))
        · simp only [hlt, if_false, getRightChild_eq, e2]; exact hur
      | false =>
        simp only [Bool.false_eq_true, if_false]
        refine (ih (c + o') o' hkr hf' hur ?_).lift (by omega) (Nat.le_of_eq r2) hright
        rw [r1, r2]
        exact hbr.right hso hc2 hkc hgt (Nat.le_refl _)

/-- **`go_down_searching_key`** (`GoDownSpec` of `RebSpec.lean`) -/
theorem goDownSpec : GoDownSpec := by
  intro t key s so hs hsorted hup hn hu hbr
  have hf : so ≤ 2 ^ t.maxDepth := by have := hn.bounds hs; have := hs.1; omega
  exact goDown_aux t key hs (sorted_cells hsorted) hup t.maxDepth s so hn hf hu hbr

end PPLV.COTree

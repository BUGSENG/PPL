import PPLV.COTree.ProofsRebCompactLoop2

/-!
# `compact_elements_in_the_rightmost_end`: the loop under `if (add_element)`

`compactLoop1` keeps the listing `[F, last] ++ (fu, L]` equal to a fixed sorted list `M`
(keys `≠ key`), every key of the block `(fu, L]` is `> key`.  It stops either after writing the
new pair in front of the block — then the listing is `SMap.set M key value` — or, when the next
element sits directly in front of the block and has a smaller key, without writing it.
In both cases the state it returns satisfies the precondition of `cmp_loop2`.
-/
namespace PPLV.COTree
open Tree

/-- what `compactLoop1 key value t n last fu` returns (`M` = listing of `[F, last] ++ (fu, L]`) -/
def Loop1Post (F L key : Nat) (value : Int) (M : SMap) (t : Tree) (n fu : Nat)
    (r : Tree × Nat × Nat × Nat) : Prop :=
  t.FrameOn r.1 F fu ∧ r.2.2.2 ≤ fu ∧ r.2.2.1 ≤ r.2.2.2 ∧
  (∀ p, r.2.2.1 < p → p ≤ r.2.2.2 → r.1.cell p = none) ∧
  (r.2.2.1 = 0 ∨ r.1.isUnused r.2.2.1 = false) ∧
  r.1.countRange F (r.2.2.1 + 1) = r.2.1 ∧
  (∀ p, r.2.2.2 < p → p ≤ L → r.1.isUnused p = false) ∧
  ((r.2.2.2 + n = fu + r.2.1 ∧
      r.1.listRange F (r.2.2.1 + 1) ++ r.1.listRange (r.2.2.2 + 1) (L + 1) = SMap.set M key value) ∨
   (r.2.2.2 + n = fu + r.2.1 + 1 ∧
      r.1.listRange F (r.2.2.1 + 1) ++ r.1.listRange (r.2.2.2 + 1) (L + 1) = M))

theorem cmp_sorted_append_left {A B : SMap} (h : SMap.Sorted (A ++ B)) : SMap.Sorted A :=
  (List.pairwise_append.1 h).1

/-- every key of `[F, last]` is below `key` when the rightmost one is -/
theorem cmp_keys_lt {F : Nat} {t : Tree} {last key : Nat}
    (hs : SMap.Sorted (t.listRange F (last + 1)))
    (hlast : last = 0 ∨ t.isUnused last = false)
    (c1 : last = 0 ∨ key > t.keyAt last) (hF : 1 ≤ F) :
    ∀ q ∈ t.listRange F (last + 1), q.1 < key := by
  intro q hq
  by_cases hFl : F ≤ last
  · have h0 : last ≠ 0 := by omega
    have hk : key > t.keyAt last := by
      rcases c1 with h | h
      · exact absurd h h0
      · exact h
    have hu : t.isUnused last = false := by
      rcases hlast with h | h
      · exact absurd h h0
      · exact h
    obtain ⟨kv, hkv⟩ := (isUnused_false_iff t last).1 hu
    rw [keyAt_of_cell hkv] at hk
    rw [cmp_listRange_snoc hFl hkv] at hs hq
    rcases List.mem_append.1 hq with h | h
    · have := (List.pairwise_append.1 hs).2.2 q h kv (List.mem_singleton.2 rfl)
      omega
    · rw [List.mem_singleton.1 h]; exact hk
  · rw [listRange_empty t _ _ (by omega : last + 1 ≤ F)] at hq
    cases hq

theorem cmp_loop1 (F L key : Nat) (value : Int) (M : SMap) (hF : 1 ≤ F)
    (hsorted : SMap.Sorted M) (hne : ∀ q ∈ M, q.1 ≠ key) :
    ∀ (n : Nat) (t : Tree) (last fu : Nat),
    last ≤ fu → fu ≤ L → L ≤ t.rs → t.cells.size = t.rs + 2 →
    (∀ p, last < p → p ≤ fu → t.cell p = none) →
    (last = 0 ∨ t.isUnused last = false) →
    t.countRange F (last + 1) + 1 = n →
    F + n ≤ fu + 1 →
    (∀ p, fu < p → p ≤ L → ∃ kv, t.cell p = some kv ∧ key < kv.1) →
    t.listRange F (last + 1) ++ t.listRange (fu + 1) (L + 1) = M →
    (∀ p, 1 ≤ p → p < F → ∀ kv, t.cell p = some kv → kv.1 < key) →
    Loop1Post F L key value M t n fu (compactLoop1 key value t n last fu)
  | 0, t, last, fu, _, _, _, _, _, _, hcnt, _, _, _, _ => by omega
  | n + 1, t, last, fu, hlf, hfuL, hL, hsz, hnone, hlast, hcnt, hroom, hblock, hM, hleft => by
    have hblockB : ∀ q ∈ t.listRange (fu + 1) (L + 1), key < q.1 := by
      intro q hq
      obtain ⟨p, h1, h2, h3⟩ := (mem_listRange _ _ _ _).1 hq
      obtain ⟨kv, h4, h5⟩ := hblock p (by omega) (by omega)
      rw [h3] at h4
      cases h4
      exact h5
    by_cases c1 : last = 0 ∨ key > t.keyAt last
    · by_cases c2 : last = 0 ∨ last ≠ fu
      · -- the new pair is written at `fu`
        have e : compactLoop1 key value t (n + 1) last fu =
            (t.setCell fu (some (key, value)), n, last, fu - 1) := by
          simp only [compactLoop1]; rw [if_pos c1, if_pos c2]
        rw [e]
        obtain ⟨fu', rfl⟩ : ∃ f', fu = f' + 1 := ⟨fu - 1, by omega⟩
        have hlf' : last ≤ fu' := by
          rcases c2 with h | h
          · omega
          · omega
        have hcell : ∀ p, (t.setCell (fu' + 1) (some (key, value))).cell p =
            if fu' + 1 = p then some (key, value) else t.cell p := by
          intro p
          rw [cell_setCell]
          have : fu' + 1 < t.cells.size := by omega
          simp [this]
        have hA : (t.setCell (fu' + 1) (some (key, value))).listRange F (last + 1) =
            t.listRange F (last + 1) := by
          apply listRange_congr
          intro p h1 h2
          rw [hcell]
          have : ¬ fu' + 1 = p := by omega
          simp [this]
        have hB : (t.setCell (fu' + 1) (some (key, value))).listRange (fu' + 1) (L + 1) =
            (key, value) :: t.listRange (fu' + 1 + 1) (L + 1) := by
          rw [listRange_head _ _ _ (key, value) (by omega) (by rw [hcell]; simp)]
          congr 1
          apply listRange_congr
          intro p h1 h2
          rw [hcell]
          have : ¬ fu' + 1 = p := by omega
          simp [this]
        simp only [Nat.add_sub_cancel]
        unfold Loop1Post
        dsimp only
        refine ⟨⟨rfl, rfl, rfl, by simp, ?_⟩, Nat.le_succ _, hlf', ?_, ?_, ?_, ?_, Or.inl ⟨by omega, ?_⟩⟩
        · intro p hp
          rw [hcell]
          have : ¬ fu' + 1 = p := by omega
          simp [this]
        · intro p h1 h2
          show (t.setCell (fu' + 1) (some (key, value))).cell p = none
          rw [hcell]
          have : ¬ fu' + 1 = p := by omega
          simp only [this, if_false]
          exact hnone p h1 (by omega)
        · show last = 0 ∨ (t.setCell (fu' + 1) (some (key, value))).isUnused last = false
          rcases hlast with h | h
          · exact Or.inl h
          · right
            unfold Tree.isUnused at h ⊢
            rw [hcell]
            have : ¬ fu' + 1 = last := by omega
            simpa [this] using h
        · show (t.setCell (fu' + 1) (some (key, value))).countRange F (last + 1) = n
          rw [← length_listRange, hA, length_listRange]
          omega
        · intro p h1 h2
          have h1' : fu' < p := h1
          show (t.setCell (fu' + 1) (some (key, value))).isUnused p = false
          rw [isUnused_false_iff, hcell]
          by_cases hp : fu' + 1 = p
          · exact ⟨(key, value), by simp [hp]⟩
          · obtain ⟨kv, h3, _⟩ := hblock p (by omega) h2
            exact ⟨kv, by simp [hp, h3]⟩
        · show (t.setCell (fu' + 1) (some (key, value))).listRange F (last + 1) ++
            (t.setCell (fu' + 1) (some (key, value))).listRange (fu' + 1) (L + 1) = _
          rw [hA, hB, ← hM]
          refine (SMap.cmp_set_append_mid key value _ _ ?_ hblockB).symm
          have hsA : SMap.Sorted (t.listRange F (last + 1)) := by
            rw [← hM] at hsorted; exact cmp_sorted_append_left hsorted
          exact cmp_keys_lt hsA hlast c1 hF
      · -- `last = fu` and its key is smaller: nothing is written
        have e : compactLoop1 key value t (n + 1) last fu = (t, n, last, fu) := by
          simp only [compactLoop1]; rw [if_pos c1, if_neg c2]
        rw [e]
        refine ⟨frameOn_refl _ _ _, Nat.le_refl _, hlf, hnone, hlast, by
          show t.countRange F (last + 1) = n
          omega, ?_, Or.inr ⟨rfl, hM⟩⟩
        intro p h1 h2
        obtain ⟨kv, h3, _⟩ := hblock p h1 h2
        exact (isUnused_false_iff _ _).2 ⟨kv, h3⟩
    · -- one more element (its key is `> key`) joins the block
      have e : compactLoop1 key value t (n + 1) last fu =
          compactLoop1 key value (compactMove t last fu) n
            ((compactMove t last fu).skipDown (last - 1)) (fu - 1) := by
        simp only [compactLoop1]; rw [if_neg c1]
      rw [e]
      have h0 : last ≠ 0 := fun h => c1 (Or.inl h)
      have hk : ¬ key > t.keyAt last := fun h => c1 (Or.inr h)
      have hused : t.isUnused last = false := by
        rcases hlast with h | h
        · exact absurd h h0
        · exact h
      obtain ⟨kv, hkv⟩ := (isUnused_false_iff t last).1 hused
      rw [keyAt_of_cell hkv] at hk
      have hFl : F ≤ last := by
        refine Nat.le_of_not_lt fun hc => ?_
        have := hleft last (by omega) hc kv hkv
        omega
      obtain ⟨last', rfl⟩ : ∃ l', last = l' + 1 := ⟨last - 1, by omega⟩
      obtain ⟨fu', rfl⟩ : ∃ f', fu = f' + 1 := ⟨fu - 1, by omega⟩
      simp only [Nat.add_sub_cancel]
      obtain ⟨s1, s2, s3, s4, s5, s6, s7, s8⟩ :=
        cmp_step (F := F) hFl hlf (by omega) hsz hnone hkv
      have hsnoc := cmp_listRange_snoc (F := F) hFl hkv
      have hkvM : kv ∈ M := by
        rw [← hM, hsnoc]; simp
      have hkvkey : key < kv.1 := by
        have := hne kv hkvM
        omega
      have hB1 : (compactMove t (last' + 1) (fu' + 1)).listRange (fu' + 1) (L + 1) =
          kv :: t.listRange (fu' + 1 + 1) (L + 1) := by
        rw [listRange_head _ _ _ _ (by omega) s7]
        congr 1
        apply listRange_congr
        intro p h1 h2
        exact s8 p (by omega)
      have ih := cmp_loop1 F L key value M hF hsorted hne n _ _ fu' s2 (by omega)
        (by rw [cmp_compactMove_rs]; exact hL)
        (by rw [cmp_compactMove_cells_size, cmp_compactMove_rs]; exact hsz) s4 s5
        (by
          rw [← length_listRange, s6]
          rw [← length_listRange, hsnoc, List.length_append] at hcnt
          simpa using hcnt)
        (by omega)
        (by
          intro p h1 h2
          by_cases hp : p = fu' + 1
          · rw [hp]; exact ⟨kv, s7, hkvkey⟩
          · rw [s8 p (by omega)]; exact hblock p (by omega) h2)
        (by rw [s6, hB1, ← hM, hsnoc]; simp)
        (by
          intro p h1 h2 kv' h3
          rw [s1.2.2.2.2 p (Or.inl h2)] at h3
          exact hleft p h1 h2 kv' h3)
      generalize compactLoop1 key value (compactMove t (last' + 1) (fu' + 1)) n
        ((compactMove t (last' + 1) (fu' + 1)).skipDown last') fu' = r at ih
      obtain ⟨i1, i2, i3, i4, i5, i6, i7, i8⟩ := ih
      refine ⟨frameOn_trans s1 i1 (Nat.le_refl _) (Nat.le_refl _) (Nat.le_refl _) (Nat.le_succ _), by omega, i3, i4, i5, i6, i7, ?_⟩
      rcases i8 with ⟨a, b⟩ | ⟨a, b⟩
      · exact Or.inl ⟨by omega, b⟩
      · exact Or.inr ⟨by omega, b⟩

end PPLV.COTree

import PPLV.COTree.ProofsRebEraseBasic
import PPLV.COTree.ProofsRebRoot

/-!
# `erase(tree_iterator)` after the optional `rebuild_smaller_tree`
the hole sinks, `rebalance`, the search for the returned iterator
-/
namespace PPLV.COTree.EraTop
open PPLV.COTree PPLV.COTree.Tree

/-- the text of `eraseAt` after the optional `rebuild_smaller_tree` -/
def eraseTail (t : Tree) (itr : TIt) : Option (Tree × Option Nat) :=
  let deletedKey := t.keyAt itr.i
  let deletedNode := itr
  match eraseSink t t.maxDepth itr with
  | none => none
  | some (t, itr) =>
    let t := { t.setCell itr.i none with size := t.size - 1 }
    match rebalance t itr 0 0 with
    | none => none
    | some (t, itr) =>
      let itr := if itr.offset < deletedNode.offset then deletedNode else itr
      let itr := t.goDownSearchingKey deletedKey itr
      let res := if t.keyAt itr.i < deletedKey then nextKey t itr.i else some (t.keyAt itr.i)
      some (t, res)

theorem eraseAt_eq (t : Tree) (itr : TIt) (h1 : t.size ≠ 1) :
    eraseAt t itr =
      match (if eraseRebuilds t.size t.rs then rebuildSmallerTree t else some t) with
      | none => none
      | some t' => eraseTail t' (if eraseRebuilds t.size t.rs
          then t'.goDownSearchingKey (t.keyAt itr.i) t'.getRoot else itr) := by
  unfold eraseAt
  rw [if_neg h1]
  rfl


/-- what the search for the returned iterator needs from the tree `t'` that `rebalance` returns
    with the node `(j, oj)`; `(i, o)` is the node that held the erased key -/
def StartOK (t' : Tree) (key i o j oj : Nat) : Prop :=
  ∃ si so, (if oj < o then (⟨i, o⟩ : TIt) else ⟨j, oj⟩) = ⟨si, so⟩ ∧ t'.IsNode si so ∧
    t'.isUnused si = false ∧ t'.Brackets (si - (so - 1)) (si + (so - 1)) key

/-- the end of `eraseTail`: the search on the final tree returns the successor of `key` -/
theorem tail_finish (hg : GoDownSpec) (t' : Tree) (key i o j oj : Nat) (m : SMap)
    (hs : t'.Shape) (hup : t'.UpClosed) (hm : SMap.Sorted m) (htl : t'.toList = SMap.erase m key)
    (hst : StartOK t' key i o j oj) :
    (let itr := if oj < o then (⟨i, o⟩ : TIt) else ⟨j, oj⟩
     let itr := t'.goDownSearchingKey key itr
     if t'.keyAt itr.i < key then nextKey t' itr.i else some (t'.keyAt itr.i))
      = SMap.next m key := by
  obtain ⟨si, so, est, hn, hu, hb⟩ := hst
  have hso' : SMap.Sorted t'.toList := by
    rw [htl]; exact SMap.Sorted.filter _ hm
  obtain ⟨g1, g2, -, -, -, g6⟩ := hg t' key si so hs hso' hup hn hu hb
  simp only
  rw [est]
  generalize t'.goDownSearchingKey key ⟨si, so⟩ = it at g1 g2 g6
  have hb' := g1.bounds hs
  have hne : t'.keyAt it.i ≠ key := by
    have hc := cell_eq_of_used g2
    have hmem : (t'.keyAt it.i, t'.valAt it.i) ∈ t'.toList :=
      (mem_listRange t' 1 (t'.rs + 1) _).2 ⟨it.i, by omega, by omega, hc⟩
    rw [htl] at hmem
    exact (mem_erase key m _ hmem).2
  rw [next_of_brackets t' key it.i hs (by omega) (by omega) g2 hne (g6 hne).1, htl]
  unfold SMap.next
  exact lowerBound_erase key m

theorem tail_spec (hg : GoDownSpec) (hsink : EraseSinkSpec) (hre : RebalanceEraseSpec)
    (T : Tree) (i o : Nat) (hs : T.Shape) (hso : SMap.Sorted T.toList) (hup : T.UpClosed)
    (hc : T.countRange 1 (T.rs + 1) = T.size) (h2 : 2 ≤ T.size)
    (hn : T.IsNode i o) (hu : T.isUnused i = false)
    (hroot : T.rs = 3 ∨ (7 ≤ T.rs ∧ rebalanceCond T.maxDepth (T.size - 1) T.rs 0 = false)) :
    ∃ t' r, eraseTail T ⟨i, o⟩ = some (t', r) ∧ t'.Shape ∧ t'.rs = T.rs ∧ t'.size = T.size - 1 ∧
      t'.toList = SMap.erase T.toList (T.keyAt i) ∧ t'.UpClosed ∧
      t'.countRange 1 (t'.rs + 1) = t'.size ∧ r = SMap.next T.toList (T.keyAt i) := by
  obtain ⟨t1, e, oe, hsk, hne, r1, r2, hne1, hne2, hrest⟩ := hsink T i o hs hso hup hn hu
  dsimp only at hrest
  obtain ⟨s2, rs2, md2, sz2, tl2, so2, up2, emp2, anc2, fr2, cnt2, ui2⟩ := hrest
  have hbi := hn.bounds hs
  obtain ⟨⟨ki, vi⟩, hci⟩ := (isUnused_false_iff T i).1 hu
  have hkey : T.keyAt i = ki := keyAt_of_cell hci
  -- keys of `T` outside the subtree of `i`
  have hsc := sorted_cells hso
  have hTl : ∀ p kv, 1 ≤ p → p < i → T.cell p = some kv → kv.1 < ki :=
    fun p kv a b c => hsc p i kv (ki, vi) a b (by omega) c hci
  have hTr : ∀ p kv, i < p → p ≤ T.rs → T.cell p = some kv → ki < kv.1 :=
    fun p kv a b c => hsc i p (ki, vi) kv (by omega) a b hci c
  generalize hT3 : ({ t1.setCell e none with size := t1.size - 1 } : Tree) = T3
  have c0 : ∀ p, T3.cell p = (t1.setCell e none).cell p := by intro p; rw [← hT3]; rfl
  have q1 : T3.rs = T.rs := by rw [← hT3]; exact rs2
  have q2 : T3.maxDepth = T.maxDepth := by rw [← hT3]; exact md2
  have q3 : T3.size = T.size - 1 := by
    rw [← hT3]; show t1.size - 1 = T.size - 1
    have : t1.size = T.size := sz2
    rw [this]
  have q4 : T3.Shape := by rw [← hT3]; exact s2
  have q5 : T3.toList = SMap.erase T.toList (T.keyAt i) := by rw [← hT3]; exact tl2
  have q6 : SMap.Sorted T3.toList := by rw [← hT3]; exact so2
  have q7 : T3.UpClosed := by rw [← hT3]; exact up2
  have q8 : T3.countRange 1 (T3.rs + 1) = T3.size := by
    have : T3.countRange 1 (T3.rs + 1) + 1 = T.countRange 1 (T.rs + 1) := by
      rw [← hT3]; exact cnt2
    omega
  have q9 : T3.IsNode e oe := by rw [← hT3]; exact hne
  have hreb : ∃ t' j oj, rebalance T3 ⟨e, oe⟩ 0 0 = some (t', ⟨j, oj⟩) ∧ t'.Shape ∧ t'.rs = T.rs ∧
      t'.size = T.size - 1 ∧ t'.toList = T3.toList ∧ t'.UpClosed ∧
      t'.countRange 1 (t'.rs + 1) = t'.size ∧ StartOK t' ki i o j oj := by
    rcases hroot with h3 | ⟨h7, hrc⟩
    · refine ⟨T3, T3.rs / 2 + 1, T3.rs / 2 + 1, ?_, q4, q1, q3, rfl, q7, q8, ?_⟩
      · unfold rebalance
        rw [if_pos (by rw [q1]; exact h3)]
        rfl
      · refine ⟨T3.rs / 2 + 1, T3.rs / 2 + 1, ?_, IsNode.root q4, ?_, brackets_root T3 q4 ki⟩
        · rw [if_neg (by rw [q1]; omega)]
        · exact root_used q4 q7 (by omega)
    · obtain ⟨t', j, oj, hrb, s', rs', md', sz', tl', up', cnt', nj, hlt, c1, c2, uj, fr', -⟩ :=
        hre T3 e oe q4 (by omega) q6 q7 q9
          (by intro p a b; rw [c0]; exact emp2 p a b)
          (by
            intro j oj a b c d
            have : (t1.setCell e none).IsNode j oj := IsNode.congr (by rw [← hT3]) a
            have := anc2 j oj this b c d
            unfold Tree.isUnused at this ⊢
            rw [c0]; exact this)
          q8 (by omega) (by rw [q2, q3, q1]; exact hrc)
      refine ⟨t', j, oj, hrb, s', by omega, by omega, tl', up', by omega, ?_⟩
      have hni : t'.IsNode i o := IsNode.congr (by omega) hn
      have ee1 : e - (oe - 1) ≤ e := Nat.sub_le _ _
      have ee2 : e ≤ e + (oe - 1) := Nat.le_add_right _ _
      -- cells of `t'` outside the subtrees of `j` and of `i` are those of `T`
      have hcell : ∀ p, (p < j - (oj - 1) ∨ j + (oj - 1) < p) → (p < i - (o - 1) ∨ i + (o - 1) < p) →
          t'.cell p = T.cell p := by
        intro p a b
        rw [fr' p a, c0, fr2 p b]
      by_cases hjo : oj < o
      · obtain ⟨l1, l2⟩ := IsNode.laminar nj hni (by omega) (e := e) (by omega) (by omega)
          (by omega) (by omega)
        have hout : i < j - (oj - 1) ∨ j + (oj - 1) < i := by
          by_cases hx : j - (oj - 1) ≤ i ∧ i ≤ j + (oj - 1)
          · exact (IsNode.not_in_smaller nj hni hjo hx.1 hx.2).elim
          · omega
        refine ⟨i, o, by rw [if_pos hjo], hni, ?_, ?_, ?_⟩
        · have hei : e ≠ i := by
            intro h; have := hne2 h; omega
          have := ui2 hei
          unfold Tree.isUnused at this ⊢
          rw [fr' i hout, c0]; exact this
        · intro p kv a b c
          rw [hcell p (by omega) (by omega)] at c
          exact hTl p kv a (by omega) c
        · intro p kv a b c
          rw [hcell p (by omega) (by omega)] at c
          exact hTr p kv (by omega) (by omega) c
      · obtain ⟨l1, l2⟩ := IsNode.laminar hni nj (by omega) (e := e) (by omega) (by omega)
          (by omega) (by omega)
        refine ⟨j, oj, by rw [if_neg hjo], nj, uj, ?_, ?_⟩
        · intro p kv a b c
          rw [hcell p (by omega) (by omega)] at c
          exact hTl p kv a (by omega) c
        · intro p kv a b c
          rw [hcell p (by omega) (by omega)] at c
          exact hTr p kv (by omega) (by omega) c
  obtain ⟨t', j, oj, hrb, s', rs', sz', tl', up', cnt', hst⟩ := hreb
  refine ⟨t', ?r, ?h, s', rs', sz', by rw [tl', q5], up', cnt', ?g⟩
  case h =>
    unfold eraseTail
    simp only [hsk, hT3, hrb]
    rfl
  case g =>
    rw [hkey]
    exact tail_finish hg t' ki i o j oj T.toList s' up' hso (by rw [tl', q5, hkey]) hst

end PPLV.COTree.EraTop

import PPLV.COTree.ProofsRebRedistBasic
import Mathlib.Tactic.Ring
import Mathlib.Tactic.Linarith

/-!
# consequences of the half/half layout `Tree.Balanced`
up-closedness, element counts, sibling counts; nodes of a well-shaped tree lie inside the array.
-/
namespace PPLV.COTree.Redist
open PPLV.COTree PPLV.COTree.Tree

theorem node_children' (h m : Nat) :
    2 ^ h * (2 * (2 * m) + 1) = 2 ^ (h + 1) * (2 * m + 1) - 2 ^ h ∧
    2 ^ h * (2 * (2 * m + 1) + 1) = 2 ^ (h + 1) * (2 * m + 1) + 2 ^ h ∧
    2 * 2 ^ h ≤ 2 ^ (h + 1) * (2 * m + 1) := by
  have e : 2 ^ (h + 1) * (2 * m + 1) = 4 * (2 ^ h * m) + 2 * 2 ^ h := by ring
  have e1 : 2 ^ h * (2 * (2 * m) + 1) = 4 * (2 ^ h * m) + 2 ^ h := by ring
  have e2 : 2 ^ h * (2 * (2 * m + 1) + 1) = 4 * (2 ^ h * m) + 3 * 2 ^ h := by ring
  omega

/-- a `Balanced` subtree with no element is all free -/
theorem balanced_zero_none (t : Tree) (h i : Nat) (hb : t.Balanced (h + 1) i 0) :
    ∀ p, i - (2 ^ h - 1) ≤ p → p ≤ i + (2 ^ h - 1) → t.cell p = none := by
  unfold Tree.Balanced at hb
  rcases hb with ⟨-, hn⟩ | ⟨h0, -⟩
  · exact hn
  · exact absurd rfl h0

/-- inside a `Balanced` subtree rooted at the node `r = 2^h (2M+1)`, every used node other than
    the root has a used parent -/
theorem balanced_upClosed_aux (t : Tree) : ∀ (h M n : Nat),
    t.Balanced (h + 1) (2 ^ h * (2 * M + 1)) n →
    ∀ k m, k < h → 2 ^ h * (2 * M + 1) - (2 ^ h - 1) ≤ 2 ^ k * (2 * m + 1) →
      2 ^ k * (2 * m + 1) ≤ 2 ^ h * (2 * M + 1) + (2 ^ h - 1) →
      t.isUnused (2 ^ k * (2 * m + 1)) = false →
      t.isUnused (TIt.getParent ⟨2 ^ k * (2 * m + 1), 2 ^ k⟩).i = false := by
  intro h
  induction h with
  | zero => intro M n _ k m hk; omega
  | succ h ih =>
    intro M n hb k m hk hlo hhi hu
    obtain ⟨el, er, hia⟩ := node_children' h M
    have ea : 2 ^ (h + 1) = 2 * 2 ^ h := by rw [Nat.pow_succ]; omega
    have ea2 : 2 ^ (h + 1) / 2 = 2 ^ h := two_pow_succ_half h
    have hap : 1 ≤ 2 ^ h := Nat.one_le_two_pow
    unfold Tree.Balanced at hb
    rcases hb with ⟨-, hn⟩ | ⟨h0, hur, hbl, hbr⟩
    · have := hn _ hlo hhi
      unfold Tree.isUnused at hu
      rw [this] at hu
      simp at hu
    · rw [ea2] at hbl hbr
      by_cases hkh : k = h
      · subst hkh
        -- `i` is a child of the root
        have hpk : 0 < 2 ^ k := Nat.two_pow_pos k
        have er' : 2 ^ (k + 1) * (2 * M + 1) = 2 ^ k * (4 * M + 2) := by ring
        rw [er'] at hlo hhi hur
        have b1 : 2 ^ k * (4 * M) < 2 ^ k * (2 * m + 1) := by
          have : 2 ^ k * (4 * M + 2) = 2 ^ k * (4 * M) + 2 * 2 ^ k := by ring
          omega
        have b2 : 2 ^ k * (2 * m + 1) < 2 ^ k * (4 * M + 4) := by
          have : 2 ^ k * (4 * M + 4) = 2 ^ k * (4 * M + 2) + 2 * 2 ^ k := by ring
          omega
        have c1 := Nat.lt_of_mul_lt_mul_left b1
        have c2 := Nat.lt_of_mul_lt_mul_left b2
        have hm : m = 2 * M ∨ m = 2 * M + 1 := by omega
        rcases hm with rfl | rfl
        · rw [getParent_even hpk rfl (by omega)]
          have : 2 ^ k * (2 * (2 * M) + 1) + 2 ^ k = 2 ^ k * (4 * M + 2) := by ring
          rw [this]; exact hur
        · rw [getParent_odd hpk rfl (by omega)]
          have : 2 ^ k * (2 * (2 * M + 1) + 1) - 2 ^ k = 2 ^ k * (4 * M + 2) := by
            have : 2 ^ k * (2 * (2 * M + 1) + 1) = 2 ^ k * (4 * M + 2) + 2 ^ k := by ring
            omega
          rw [this]; exact hur
      · have hk' : k < h := by omega
        -- `i` is not the root
        have hne : 2 ^ k * (2 * m + 1) ≠ 2 ^ (h + 1) * (2 * M + 1) := by
          intro e
          obtain ⟨d, rfl⟩ : ∃ d, h = k + d := ⟨h - k, by omega⟩
          have e2 : 2 ^ (k + d + 1) * (2 * M + 1) = 2 ^ k * (2 * (2 ^ d * (2 * M + 1))) := by
            rw [Nat.pow_succ, Nat.pow_add]; ring
          rw [e2] at e
          have := Nat.eq_of_mul_eq_mul_left (Nat.two_pow_pos k) e
          omega
        by_cases hlt : 2 ^ k * (2 * m + 1) < 2 ^ (h + 1) * (2 * M + 1)
        · rw [← el] at hbl
          apply ih (2 * M) _ hbl k m hk' _ _ hu
          · rw [el]; omega
          · rw [el]; omega
        · rw [← er] at hbr
          apply ih (2 * M + 1) _ hbr k m hk' _ _ hu
          · rw [er]; omega
          · rw [er]; omega

theorem balancedUpClosed (t : Tree) (n : Nat) (hs : t.Shape)
    (hb : t.Balanced t.maxDepth (t.rs / 2 + 1) n) : t.UpClosed := by
  obtain ⟨hrs, hd, -, -, -⟩ := hs
  intro i o hn hu ho
  obtain ⟨k, m, rfl, rfl, hi⟩ := hn
  obtain ⟨d, hd'⟩ : ∃ d, t.maxDepth = d + 1 := ⟨t.maxDepth - 1, by omega⟩
  rw [hd'] at hb hrs
  have ea : 2 ^ (d + 1) = 2 * 2 ^ d := by rw [Nat.pow_succ]; omega
  have hpd : 1 ≤ 2 ^ d := Nat.one_le_two_pow
  have hroot : t.rs / 2 + 1 = 2 ^ d * (2 * 0 + 1) := by rw [hrs, ea]; omega
  rw [hroot] at hb ho
  have hpk : 0 < 2 ^ k := Nat.two_pow_pos k
  have h1 : 2 ^ k ≤ 2 ^ k * (2 * m + 1) := Nat.le_mul_of_pos_right _ (by omega)
  have hlt : 2 ^ k < 2 ^ (d + 1) := by omega
  have hkd : k < d + 1 := (Nat.pow_lt_pow_iff_right (by omega)).1 hlt
  have hkd' : k ≠ d := by
    intro e; subst e; simp at ho
  exact balanced_upClosed_aux t d 0 n hb k m (by omega) (by simp; omega) (by simp; omega) hu

/-- the ranges of the children `(i - a, a)`, `(i + a, a)` of the node `(i, 2a)` -/
theorem kid_ranges_arith {a i : Nat} (ha : 1 ≤ a) (hi : 2 * a ≤ i) :
    i - a - (a - 1) = i - (2 * a - 1) ∧ i - a + a = i ∧ i + a - (a - 1) = i + 1 ∧
      i + a + a = i + 2 * a := by
  omega

/-- a `Balanced (h+1) i n` subtree holds exactly `n` elements -/
theorem balanced_count (t : Tree) : ∀ (h i n : Nat), t.Balanced (h + 1) i n → 2 ^ h ≤ i →
    t.countRange (i - (2 ^ h - 1)) (i + 2 ^ h) = n := by
  intro h
  induction h with
  | zero =>
    intro i n hb _
    simp only [Nat.pow_zero, Nat.sub_self, Nat.sub_zero]
    rw [countRange_one]
    unfold Tree.Balanced at hb
    rcases hb with ⟨h0, hn⟩ | ⟨h0, hu, hl, hr⟩
    · have := hn i (by simp) (by simp)
      unfold Tree.isUnused; rw [this]; simp [h0]
    · simp only [Tree.Balanced] at hl hr
      rw [hu]; simp; omega
  | succ h ih =>
    intro i n hb hi
    have ea : 2 ^ (h + 1) = 2 * 2 ^ h := by rw [Nat.pow_succ]; omega
    have ea2 : 2 ^ (h + 1) / 2 = 2 ^ h := two_pow_succ_half h
    have hap : 1 ≤ 2 ^ h := Nat.one_le_two_pow
    unfold Tree.Balanced at hb
    rcases hb with ⟨h0, hn⟩ | ⟨h0, hu, hl, hr⟩
    · rw [h0]
      exact countRange_none t _ _ (fun p a b => hn p a (by omega))
    · rw [ea2] at hl hr
      have cl := ih _ _ hl (by omega)
      have cr := ih _ _ hr (by omega)
      rw [ea]
      generalize 2 ^ h = a at *
      obtain ⟨e1, e2, e3, e4⟩ := kid_ranges_arith hap (by omega : 2 * a ≤ i)
      rw [e1, e2] at cl
      rw [e3, e4] at cr
      rw [countRange_split t (i - (2 * a - 1)) i (i + 2 * a) (by omega) (by omega),
        countRange_split t i (i + 1) (i + 2 * a) (by omega) (by omega), cl, cr, countRange_one, hu]
      simp; omega

/-- the two child counts of the half/half rule differ by at most one and sum to `n - 1` -/
theorem half_half_arith (n : Nat) :
    ((n + 1) / 2 - 1) + (n - (n + 1) / 2) = n - 1 ∧
    (n + 1) / 2 - 1 ≤ n - (n + 1) / 2 ∧ n - (n + 1) / 2 ≤ ((n + 1) / 2 - 1) + 1 := by
  omega

/-- in a non-empty `Balanced (h+2) i n` subtree the two child subtrees hold `(n+1)/2 - 1` and
    `n - (n+1)/2` elements -/
theorem balanced_children_count (t : Tree) (h i n : Nat) (hb : t.Balanced (h + 2) i n)
    (hn : n ≠ 0) (hi : 2 ^ (h + 1) ≤ i) :
    t.countRange (i - (2 ^ (h + 1) - 1)) i = (n + 1) / 2 - 1 ∧
    t.countRange (i + 1) (i + 2 ^ (h + 1)) = n - (n + 1) / 2 := by
  have ea : 2 ^ (h + 1) = 2 * 2 ^ h := by rw [Nat.pow_succ]; omega
  have ea2 : 2 ^ (h + 1) / 2 = 2 ^ h := two_pow_succ_half h
  have hap : 1 ≤ 2 ^ h := Nat.one_le_two_pow
  unfold Tree.Balanced at hb
  rcases hb with ⟨h0, -⟩ | ⟨-, -, hl, hr⟩
  · exact absurd h0 hn
  · rw [ea2] at hl hr
    have cl := balanced_count t _ _ _ hl (by omega)
    have cr := balanced_count t _ _ _ hr (by omega)
    rw [ea]
    generalize 2 ^ h = a at *
    obtain ⟨e1, e2, e3, e4⟩ := kid_ranges_arith hap (by omega : 2 * a ≤ i)
    rw [e1, e2] at cl
    rw [e3, e4] at cr
    exact ⟨cl, cr⟩

end PPLV.COTree.Redist

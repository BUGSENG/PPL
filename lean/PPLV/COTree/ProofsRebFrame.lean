import PPLV.COTree.ProofsRebUp
import PPLV.COTree.ProofsRebCompact

/-!
# lemmas shared by the integration of `rebalance` (insertion and deletion)

`UpClosed` of a tree whose subtree `(j, 2^h)` was rebuilt in the half/half
layout, `Shape` / `toList` through a `FrameOn`, and `SMap.set` inside a concatenation.
-/
namespace PPLV.COTree
open Tree

namespace Tree

theorem IsNode.unique {t t' : Tree} {a o o' : Nat} (h : t.IsNode a o) (h' : t'.IsNode a o') :
    o = o' := by
  rw [h.offset_eq, h'.offset_eq]

theorem isUnused_congr {t t' : Tree} {p : Nat} (h : t'.cell p = t.cell p) :
    t'.isUnused p = t.isUnused p := by
  unfold Tree.isUnused; rw [h]

/-- in a half/half subtree every used slot other than the root has a used parent -/
theorem balanced_parent_used {t : Tree} (hs : t.Shape) : ∀ (h j n : Nat), t.IsNode j (2 ^ h) →
    t.Balanced (h + 1) j n → ∀ a oa, t.IsNode a oa → j - (2 ^ h - 1) ≤ a → a ≤ j + (2 ^ h - 1) →
      a ≠ j → t.isUnused a = false → t.isUnused (TIt.getParent ⟨a, oa⟩).i = false
  | 0, j, n, hj, hb, a, oa, ha, h1, h2, hne, hu => by
    simp only [Nat.pow_zero] at h1 h2
    omega
  | h + 1, j, n, hj, hb, a, oa, ha, h1, h2, hne, hu => by
    have hbd := hj.bounds hs
    have hP := two_pow_pos' h
    have e : 2 ^ (h + 1) = 2 * 2 ^ h := Nat.pow_succ'
    have hne1 : 2 ^ (h + 1) ≠ 1 := by omega
    obtain ⟨o', k1, k2, k3, _, k5, k6, k7, k8, k9, k10⟩ := hj.kids hs hne1
    have ho' : o' = 2 ^ h := k10 h rfl
    subst ho'
    rw [Tree.Balanced] at hb
    rcases hb with ⟨_, hnone⟩ | ⟨_, hused, hbl, hbr⟩
    · have := hnone a h1 h2
      rw [(isUnused_true_iff t a).mpr this] at hu
      cases hu
    · rw [k2] at hbl hbr
      by_cases hlt : a < j
      · by_cases hc : a = j - 2 ^ h
        · subst hc
          have := k6.unique ha
          subst this
          rw [k8]; exact hused
        · exact balanced_parent_used hs h (j - 2 ^ h) _ k6 hbl a oa ha (by omega) (by omega) hc hu
      · by_cases hc : a = j + 2 ^ h
        · subst hc
          have := k7.unique ha
          subst this
          rw [k9]; exact hused
        · exact balanced_parent_used hs h (j + 2 ^ h) _ k7 hbr a oa ha (by omega) (by omega) hc hu

/-- the root of a non-empty half/half subtree is used -/
theorem balanced_root_used {t : Tree} {h j n : Nat} (hb : t.Balanced (h + 1) j n) (hn : n ≠ 0) :
    t.isUnused j = false := by
  rw [Tree.Balanced] at hb
  rcases hb with ⟨h0, _⟩ | ⟨_, hu, _, _⟩
  · exact absurd h0 hn
  · exact hu

theorem shape_of_frame {t t' : Tree} {F L : Nat} (hs : t.Shape) (hf : t.FrameOn t' F L)
    (hF : 1 ≤ F) (hL : L ≤ t.rs) : t'.Shape := by
  obtain ⟨s1, s2, s3, s4, s5⟩ := hs
  obtain ⟨f1, f2, _, f4, f5⟩ := hf
  refine ⟨by rw [f1, f2]; exact s1, by rw [f2]; exact s2, by rw [f4, f1]; exact s3, ?_, ?_⟩
  · rw [f5 0 (Or.inl (by omega))]; exact s4
  · rw [f1, f5 (t.rs + 1) (Or.inr (by omega))]; exact s5

theorem toList_of_frame {t t' : Tree} {F L : Nat} (hf : t.FrameOn t' F L)
    (hF : 1 ≤ F) (hFL : F ≤ L + 1) (hL : L ≤ t.rs) :
    t'.toList = t.listRange 1 F ++ t'.listRange F (L + 1) ++ t.listRange (L + 1) (t.rs + 1) ∧
    t.toList = t.listRange 1 F ++ t.listRange F (L + 1) ++ t.listRange (L + 1) (t.rs + 1) := by
  obtain ⟨f1, _, _, _, f5⟩ := hf
  unfold Tree.toList
  rw [f1]
  constructor
  · rw [listRange_split t' 1 F (t.rs + 1) hF (by omega),
      listRange_split t' F (L + 1) (t.rs + 1) hFL (by omega),
      listRange_congr t t' 1 F (fun p _ h2 => f5 p (Or.inl h2)),
      listRange_congr t t' (L + 1) (t.rs + 1) (fun p h1 _ => f5 p (Or.inr (by omega))),
      List.append_assoc]
  · rw [listRange_split t 1 F (t.rs + 1) hF (by omega),
      listRange_split t F (L + 1) (t.rs + 1) hFL (by omega), List.append_assoc]

/-- `UpClosed` after the subtree `(j, 2^h)` was rebuilt half/half;
    the parent of `j` was used and is unchanged -/
theorem upClosed_after {t t' : Tree} {j h n : Nat} (hs : t.Shape) (hu : t.UpClosed)
    (hn : t.IsNode j (2 ^ h)) (hf : t.FrameOn t' (j - (2 ^ h - 1)) (j + (2 ^ h - 1)))
    (hb : t'.Balanced (h + 1) j n)
    (hanc : 2 ^ h ≠ t.rs / 2 + 1 → t.isUnused (TIt.getParent ⟨j, 2 ^ h⟩).i = false) :
    t'.UpClosed := by
  have hbd := hn.bounds hs
  have hs' : t'.Shape := shape_of_frame hs hf hbd.2.2.1 hbd.2.2.2.1
  obtain ⟨f1, _, _, _, f5⟩ := hf
  have hn' : t'.IsNode j (2 ^ h) := IsNode.congr f1 hn
  intro a oa ha hused hroot
  rw [f1] at hroot
  have ha0 : t.IsNode a oa := IsNode.congr f1.symm ha
  have hba := ha0.bounds hs
  by_cases hin : j - (2 ^ h - 1) ≤ a ∧ a ≤ j + (2 ^ h - 1)
  · by_cases haj : a = j
    · subst haj
      have := hn.unique ha0
      subst this
      have hpu := hanc hroot
      rcases hn.parent_cases hs with ⟨e, _⟩ | ⟨e, h3, _⟩
      · rw [e] at hpu ⊢
        rw [isUnused_congr (f5 _ (Or.inr (by show a + (2 ^ h - 1) < a + 2 ^ h; omega)))]
        exact hpu
      · rw [e] at hpu ⊢
        rw [isUnused_congr (f5 _ (Or.inl (by show a - 2 ^ h < a - (2 ^ h - 1); omega)))]
        exact hpu
    · exact balanced_parent_used hs' h j n hn' hb a oa ha hin.1 hin.2 haj hused
  · have hout : a < j - (2 ^ h - 1) ∨ j + (2 ^ h - 1) < a := by omega
    rw [isUnused_congr (f5 a hout)] at hused
    have hpu := hu a oa ha0 hused hroot
    have hpar := ha0.parent hs hroot
    have hpout : (TIt.getParent ⟨a, oa⟩).i < j - (2 ^ h - 1) ∨
        j + (2 ^ h - 1) < (TIt.getParent ⟨a, oa⟩).i := by
      refine Classical.byContradiction fun hc => ?_
      have hnest := (hn.nest hpar.1 (by omega) (by omega)).2
      rcases ha0.parent_cases hs with ⟨e, _⟩ | ⟨e, h3, _⟩
      · rw [e] at hnest
        have h1 : j - (2 ^ h - 1) ≤ a + oa - (2 * oa - 1) := hnest.1
        have h2 : a + oa + (2 * oa - 1) ≤ j + (2 ^ h - 1) := hnest.2.1
        omega
      · rw [e] at hnest
        have h1 : j - (2 ^ h - 1) ≤ a - oa - (2 * oa - 1) := hnest.1
        have h2 : a - oa + (2 * oa - 1) ≤ j + (2 ^ h - 1) := hnest.2.1
        omega
    rw [isUnused_congr (f5 _ hpout)]
    exact hpu

end Tree

/-! ## `SMap.set` inside a concatenation -/

theorem SMap.set_append_left (key : Nat) (value : Int) : ∀ (xs l : SMap),
    (∀ q ∈ xs, q.1 < key) → SMap.set (xs ++ l) key value = xs ++ SMap.set l key value
  | [], _, _ => rfl
  | (k, x) :: xs, l, h => by
    have hk : k < key := h (k, x) List.mem_cons_self
    have a : ¬ key < k := by omega
    have b : ¬ key = k := by omega
    have ih := SMap.set_append_left key value xs l (fun q hq => h q (List.mem_cons_of_mem _ hq))
    simp only [List.cons_append, SMap.set, a, b, if_false, ih]

theorem SMap.set_append_right (key : Nat) (value : Int) : ∀ (ys zs : SMap),
    (∀ q ∈ zs, key < q.1) → SMap.set (ys ++ zs) key value = SMap.set ys key value ++ zs
  | [], [], _ => rfl
  | [], (k, x) :: zs, h => by
    have : key < k := h (k, x) List.mem_cons_self
    simp [SMap.set, this]
  | (k, x) :: ys, zs, h => by
    have ih := SMap.set_append_right key value ys zs h
    simp only [List.cons_append, SMap.set]
    by_cases a : key < k
    · simp [a]
    · by_cases b : key = k
      · simp [b]
      · simp [a, b, ih]

theorem SMap.length_set (key : Nat) (value : Int) : ∀ (m : SMap), (∀ q ∈ m, q.1 ≠ key) →
    (SMap.set m key value).length = m.length + 1
  | [], _ => rfl
  | (k, x) :: m, h => by
    have hk : k ≠ key := h (k, x) List.mem_cons_self
    have ih := SMap.length_set key value m (fun q hq => h q (List.mem_cons_of_mem _ hq))
    simp only [SMap.set]
    by_cases a : key < k
    · simp [a]
    · have b : ¬ key = k := fun e => hk e.symm
      simp [a, b, ih]

theorem SMap.mem_set_self (key : Nat) (value : Int) : ∀ (m : SMap), (key, value) ∈ SMap.set m key value
  | [] => by simp [SMap.set]
  | (k, x) :: m => by
    have ih := SMap.mem_set_self key value m
    simp only [SMap.set]
    by_cases a : key < k
    · simp [a]
    · by_cases b : key = k
      · simp [b]
      · simp [a, b, ih]

end PPLV.COTree

import PPLV.COTree.ProofsRebInsert
import PPLV.COTree.ProofsRebCore
import PPLV.COTree.ProofsRebRedist
import PPLV.COTree.ProofsRebBigger
import PPLV.COTree.ProofsRebSearch
import PPLV.COTree.ProofsRebErase
import PPLV.COTree.ProofsRebSink
import PPLV.COTree.ProofsRebFill

/-!
# `rebalance` (insertion, deletion), `insert` and `erase`: the component statements put together
-/
namespace PPLV.COTree

theorem rebalanceInsertSpec : RebalanceInsertSpec := rebalanceInsertSpec_of redistSpec

theorem rebalanceEraseSpec : RebalanceEraseSpec := rebalanceEraseSpec_of redistSpec

theorem insertSpec : InsertSpec := insertSpec_of redistSpec biggerSpec goDownSpec

theorem eraseSpec : EraseSpec := eraseSpec_of goDownSpec eraseSinkSpec rebalanceEraseSpec smallerSpec

end PPLV.COTree

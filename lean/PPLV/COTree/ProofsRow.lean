import PPLV.COTree.ProofsMap

/-! # dense ≡ sparse for the row algorithms (core Lean only) -/
namespace PPLV.COTree
open SMap

/-! ### `toDenseN` -/

@[simp] theorem length_toDenseN (n : Nat) (m : SMap) : (toDenseN n m).length = n := by
  simp [toDenseN]

theorem getElem?_toDenseN (n : Nat) (m : SMap) (j : Nat) :
    (toDenseN n m)[j]? = if j < n then some (m.get j) else none := by
  unfold toDenseN
  rw [List.getElem?_map]
  by_cases h : j < n
  · rw [List.getElem?_range h]; simp [h]
  · rw [List.getElem?_eq_none (by simpa using h)]; simp [h]

theorem getD_toDenseN (n : Nat) (m : SMap) (j : Nat) :
    (toDenseN n m).getD j 0 = if j < n then m.get j else 0 := by
  rw [List.getD_eq_getElem?_getD, getElem?_toDenseN]
  grind

theorem getD_toDenseN_of_below {n : Nat} {m : SMap} (h : m.Below n) (j : Nat) :
    (toDenseN n m).getD j 0 = m.get j := by
  rw [getD_toDenseN]
  split
  · rfl
  · exact (get_eq_zero_of_below h (by omega)).symm

/-- a list is `toDenseN n m` iff it has length `n` and reads like `m` -/
theorem eq_toDenseN {d : List Int} {n : Nat} {m : SMap}
    (h : ∀ j, d[j]? = if j < n then some (m.get j) else none) : d = toDenseN n m := by
  apply List.ext_getElem?
  intro j
  rw [h, getElem?_toDenseN]

theorem toDenseN_congr {n : Nat} {m m' : SMap} (h : ∀ j, j < n → m.get j = m'.get j) :
    toDenseN n m = toDenseN n m' := by
  apply eq_toDenseN
  intro j
  rw [getElem?_toDenseN]
  grind

/-! ### point-wise operations -/

theorem dense_set (n : Nat) (m : SMap) (i : Nat) (v : Int) :
    toDenseN n (m.set i v) = Dense.set (toDenseN n m) i v := by
  symm; apply eq_toDenseN; intro j
  simp only [Dense.set, List.getElem?_set, length_toDenseN, getElem?_toDenseN, get_set]
  grind

theorem dense_touch (n : Nat) (m : SMap) (i : Nat) : toDenseN n (m.touch i) = toDenseN n m :=
  toDenseN_congr (fun j _ => get_touch m i j)

theorem dense_erase (n : Nat) (m : SMap) (i : Nat) :
    toDenseN n (m.erase i) = Dense.reset (toDenseN n m) i := by
  symm; apply eq_toDenseN; intro j
  simp only [Dense.reset, List.getElem?_set, length_toDenseN, getElem?_toDenseN, get_erase]
  grind

theorem dense_resetRange (n : Nat) (m : SMap) (lo hi : Nat) :
    toDenseN n (m.resetRange lo hi) = Dense.resetRange (toDenseN n m) lo hi := by
  symm; apply eq_toDenseN; intro j
  simp only [Dense.resetRange, List.getElem?_mapIdx, getElem?_toDenseN, get_resetRange]
  grind

theorem dense_resetFrom (n : Nat) (m : SMap) (i : Nat) :
    toDenseN n (m.resetFrom i) = Dense.resetFrom (toDenseN n m) i := by
  symm; apply eq_toDenseN; intro j
  simp only [Dense.resetFrom, Dense.resetRange, List.getElem?_mapIdx, getElem?_toDenseN,
    get_resetFrom, length_toDenseN]
  grind

theorem dense_swap {n : Nat} {m : SMap} (hb : m.Below n) (i j : Nat) (hi : i < n) (hj : j < n) :
    toDenseN n (m.swap i j) = Dense.swap (toDenseN n m) i j := by
  symm; apply eq_toDenseN; intro k
  simp only [Dense.swap, List.getElem?_set, List.length_set, length_toDenseN, getElem?_toDenseN,
    get_swap, getD_toDenseN_of_below hb]
  grind

theorem dense_addAt {n : Nat} {m : SMap} (hb : m.Below n) (i : Nat) (c : Int) :
    toDenseN n (m.addAt i c) = Dense.addAt (toDenseN n m) i c := by
  symm; apply eq_toDenseN; intro k
  simp only [Dense.addAt, List.getElem?_set, length_toDenseN, getElem?_toDenseN,
    get_addAt, getD_toDenseN_of_below hb]
  grind

theorem dense_mapValsIn (f : Int → Int) (hf : f 0 = 0) (n : Nat) (m : SMap) (lo hi : Nat) :
    toDenseN n (m.mapValsIn f lo hi) = Dense.mapIn f lo hi (toDenseN n m) := by
  symm; apply eq_toDenseN; intro j
  simp only [Dense.mapIn, List.getElem?_mapIdx, getElem?_toDenseN, get_mapValsIn f hf]
  grind

theorem dense_mapVals (f : Int → Int) (hf : f 0 = 0) (n : Nat) (m : SMap) :
    toDenseN n (m.mapVals f) = (toDenseN n m).map f := by
  symm; apply eq_toDenseN; intro j
  simp only [List.getElem?_map, getElem?_toDenseN, get_mapVals f hf]
  grind

theorem dense_shiftUp {n : Nat} {m : SMap} (i k : Nat) (hi : i ≤ n) :
    toDenseN (n + k) (m.shiftUp i k) = Dense.shiftUp (toDenseN n m) i k := by
  symm; apply eq_toDenseN; intro j
  simp only [Dense.shiftUp, List.getElem?_append, List.length_append, List.length_take,
    List.length_replicate, length_toDenseN, List.getElem?_take, List.getElem?_drop,
    List.getElem?_replicate, getElem?_toDenseN, get_shiftUp]
  have e : min i n = i := Nat.min_eq_left hi
  rw [e]
  by_cases h1 : j < i
  · grind
  · by_cases h2 : j < i + k
    · grind
    · have e2 : i + (j - (i + k)) = j - k := by omega
      rw [e2]
      grind

theorem dense_deleteShift {n : Nat} {m : SMap} (i : Nat) (hi : i < n) :
    toDenseN (n - 1) (m.deleteShift i) = Dense.deleteShift (toDenseN n m) i := by
  symm; apply eq_toDenseN; intro j
  simp only [Dense.deleteShift, List.getElem?_eraseIdx, getElem?_toDenseN, get_deleteShift]
  grind

theorem dense_resize {n : Nat} {m : SMap} (hb : m.Below n) (k : Nat) :
    toDenseN k (if k < n then m.resetFrom k else m) = Dense.resize (toDenseN n m) k := by
  symm; apply eq_toDenseN; intro j
  simp only [Dense.resize, List.getElem?_append, List.length_take, length_toDenseN,
    List.getElem?_take, List.getElem?_replicate, getElem?_toDenseN]
  by_cases hk : k < n
  · simp only [hk, if_true, get_resetFrom]
    grind
  · simp only [hk, if_false]
    by_cases hj : j < n
    · grind
    · have := get_eq_zero_of_below hb (i := j) (by omega)
      grind

end PPLV.COTree

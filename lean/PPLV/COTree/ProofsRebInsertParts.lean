import PPLV.COTree.ProofsRebCore
import PPLV.COTree.ProofsRebRoot

/-!
# `insert`: the pieces (one-slot updates, the tail of `insert_precise_aux`)
-/
namespace PPLV.COTree
open Tree

/-- the part of `insert_precise_aux` after the optional `rebuild_bigger_tree` -/
def insertTail (t : Tree) (key : Nat) (value : Int) (itr : TIt) : Option (Tree × TIt) :=
  if !itr.isLeaf then
    let itr := if key < t.keyAt itr.i then itr.getLeftChild else itr.getRightChild
    some ({ t.setCell itr.i (some (key, value)) with size := t.size + 1 }, itr)
  else
    let t := { t with size := t.size + 1 }
    match rebalance t itr key value with
    | none => none
    | some (t, itr) => some (t, t.goDownSearchingKey key itr)

theorem insertPreciseAux_not_grown {t : Tree} {key : Nat} {value : Int} {itr : TIt}
    (hg : insertRebuilds t.size t.rs = false) :
    insertPreciseAux t key value itr = insertTail t key value itr := by
  unfold insertRebuilds at hg
  unfold insertPreciseAux insertTail
  simp only [hg, Bool.false_eq_true, if_false]
  rfl

theorem insertPreciseAux_grown {t : Tree} {key : Nat} {value : Int} {itr : TIt}
    (hg : insertRebuilds t.size t.rs = true) :
    insertPreciseAux t key value itr =
      insertTail (rebuildBiggerTree t) key value
        ((rebuildBiggerTree t).goDownSearchingKey key (rebuildBiggerTree t).getRoot) := by
  unfold insertRebuilds at hg
  unfold insertPreciseAux insertTail
  simp only [hg, if_true]
  rfl

theorem shape_rs_3_or_7 {t : Tree} (hs : t.Shape) : t.rs = 3 ∨ 7 ≤ t.rs := by
  obtain ⟨hrs, hD, _, _, _⟩ := hs
  by_cases h2 : t.maxDepth = 2
  · left; rw [hrs, h2]
  · right
    have e : 2 ^ t.maxDepth = 8 * 2 ^ (t.maxDepth - 3) := by
      rw [show (8 : Nat) = 2 ^ 3 from rfl, ← Nat.pow_add]; congr 1; omega
    have := two_pow_pos' (t.maxDepth - 3)
    omega

/-- two distinct used slots count for two -/
theorem count_two {t : Tree} {lo hi a b : Nat} (ha1 : lo ≤ a) (hab : a < b) (hb2 : b < hi)
    (hua : t.isUnused a = false) (hub : t.isUnused b = false) : 2 ≤ t.countRange lo hi := by
  rw [countRange_split3 t lo a hi ha1 (by omega), hua,
    countRange_split3 t (a + 1) b hi (by omega) hb2, hub]
  simp only [Bool.false_eq_true, if_false]
  omega

/-! ## writing one slot -/

/-- the new pair goes to the unused slot `c` at its sorted position, the parent of `c` is used -/
theorem insert_at_unused (t : Tree) (c key : Nat) (value : Int) (k : Nat)
    (hs : t.Shape) (hup : t.UpClosed) (hc1 : 1 ≤ c) (hc2 : c ≤ t.rs) (hcu : t.isUnused c = true)
    (hlt : ∀ p kv, 1 ≤ p → p < c → t.cell p = some kv → kv.1 < key)
    (hgt : ∀ p kv, c < p → p ≤ t.rs → t.cell p = some kv → key < kv.1)
    (hpar : ∀ oc, t.IsNode c oc → oc ≠ t.rs / 2 + 1 →
      t.isUnused (TIt.getParent ⟨c, oc⟩).i = false) :
    ({ t.setCell c (some (key, value)) with size := k } : Tree).Shape ∧
    ({ t.setCell c (some (key, value)) with size := k } : Tree).countRange 1 (t.rs + 1) =
      t.countRange 1 (t.rs + 1) + 1 ∧
    ({ t.setCell c (some (key, value)) with size := k } : Tree).toList =
      SMap.set t.toList key value ∧
    ({ t.setCell c (some (key, value)) with size := k } : Tree).UpClosed ∧
    ({ t.setCell c (some (key, value)) with size := k } : Tree).cell c = some (key, value) := by
  have hsz : t.cells.size = t.rs + 2 := hs.2.2.1
  have hf := frameOn_setCell t (Nat.le_refl c) (Nat.le_refl c) (some (key, value))
  have hcell : ∀ q, (t.setCell c (some (key, value))).cell q =
      if c = q then some (key, value) else t.cell q := by
    intro q
    rw [cell_setCell]
    have : c < t.cells.size := by omega
    simp [this]
  have hs0 : (t.setCell c (some (key, value))).Shape := shape_of_frame hs hf hc1 hc2
  obtain ⟨l1, l2⟩ := toList_of_frame hf hc1 (by omega) hc2
  have hcc : (t.setCell c (some (key, value))).cell c = some (key, value) := by
    rw [hcell]; simp
  have hnone : t.cell c = none := (isUnused_true_iff t c).mp hcu
  rw [cmp_listRange_single_some hcc] at l1
  rw [listRange_none t c (c + 1)
    (fun p h1 h2 => by have : p = c := by omega
                       rw [this]; exact hnone)] at l2
  have hA : ∀ q ∈ t.listRange 1 c, q.1 < key := by
    intro q hq
    obtain ⟨p, p1, p2, p3⟩ := (mem_listRange t _ _ q).1 hq
    exact hlt p q p1 p2 p3
  have hC : ∀ q ∈ t.listRange (c + 1) (t.rs + 1), key < q.1 := by
    intro q hq
    obtain ⟨p, p1, p2, p3⟩ := (mem_listRange t _ _ q).1 hq
    exact hgt p q (by omega) (by omega) p3
  have hlist : (t.setCell c (some (key, value))).toList = SMap.set t.toList key value := by
    rw [l1, l2, List.append_nil, SMap.cmp_set_append_mid key value _ _ hA hC]
    simp
  refine ⟨hs0, ?_, hlist, ?_, hcc⟩
  · show (t.setCell c (some (key, value))).countRange 1 ((t.setCell c (some (key, value))).rs + 1) = _
    rw [← length_listRange, ← length_listRange]
    show (t.setCell c (some (key, value))).toList.length = t.toList.length + 1
    rw [l1, l2]
    simp
    omega
  · intro a oa ha hused hroot
    have ha0 : t.IsNode a oa := ha
    have hroot0 : oa ≠ t.rs / 2 + 1 := hroot
    have hused0 : (t.setCell c (some (key, value))).isUnused a = false := hused
    show (t.setCell c (some (key, value))).isUnused (TIt.getParent ⟨a, oa⟩).i = false
    have hmono : ∀ q, t.isUnused q = false → (t.setCell c (some (key, value))).isUnused q = false := by
      intro q hq
      unfold Tree.isUnused at hq ⊢
      rw [hcell]
      by_cases hcq : c = q
      · simp [hcq]
      · simpa [hcq] using hq
    apply hmono
    by_cases hac : a = c
    · subst hac
      exact hpar oa ha0 hroot0
    · have : t.isUnused a = false := by
        unfold Tree.isUnused at hused0 ⊢
        rw [hcell] at hused0
        have : ¬ c = a := fun e => hac e.symm
        simpa [this] using hused0
      exact hup a oa ha0 this hroot0

/-- the value of a stored key is replaced in place -/
theorem replace_at_used (t : Tree) (c key : Nat) (v value : Int)
    (hs : t.Shape) (hsorted : SMap.Sorted t.toList) (hc1 : 1 ≤ c) (hc2 : c ≤ t.rs)
    (hcc : t.cell c = some (key, v)) :
    (t.setCell c (some (key, value))).Shape ∧
    (∀ q, (t.setCell c (some (key, value))).isUnused q = t.isUnused q) ∧
    (t.setCell c (some (key, value))).toList = SMap.set t.toList key value ∧
    (t.setCell c (some (key, value))).cell c = some (key, value) := by
  have hsz : t.cells.size = t.rs + 2 := hs.2.2.1
  have hf := frameOn_setCell t (Nat.le_refl c) (Nat.le_refl c) (some (key, value))
  have hcell : ∀ q, (t.setCell c (some (key, value))).cell q =
      if c = q then some (key, value) else t.cell q := by
    intro q
    rw [cell_setCell]
    have : c < t.cells.size := by omega
    simp [this]
  have hs0 : (t.setCell c (some (key, value))).Shape := shape_of_frame hs hf hc1 hc2
  obtain ⟨l1, l2⟩ := toList_of_frame hf hc1 (by omega) hc2
  have hcc' : (t.setCell c (some (key, value))).cell c = some (key, value) := by
    rw [hcell]; simp
  rw [cmp_listRange_single_some hcc'] at l1
  rw [cmp_listRange_single_some hcc] at l2
  have hcs := sorted_cells hsorted
  have hA : ∀ q ∈ t.listRange 1 c, q.1 < key := by
    intro q hq
    obtain ⟨p, p1, p2, p3⟩ := (mem_listRange t _ _ q).1 hq
    exact hcs p c q (key, v) p1 p2 hc2 p3 hcc
  refine ⟨hs0, ?_, ?_, hcc'⟩
  · intro q
    unfold Tree.isUnused
    rw [hcell]
    by_cases hcq : c = q
    · subst hcq; simp [hcc]
    · simp [hcq]
  · rw [l1, l2, List.append_assoc, List.append_assoc, SMap.set_append_left key value _ _ hA]
    simp [SMap.set]

end PPLV.COTree

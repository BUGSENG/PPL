import PPLV.COTree.ProofsRebRedistLoop
import PPLV.COTree.ProofsRebBalanced

/-!
# `redistribute_elements_in_subtree` and the half/half layout: the results

* `redistSpec : RedistSpec` — correctness and termination (within the fuel `2 * subtree_size`) of
  `redistributeElementsInSubtree`; `Redist.redistSpec_core` is the same statement where the subtree has
  to lie inside the array only when the new pair is pending; `redistSpec_of_shape` derives the
  bound from `t.Shape`.
* `balancedUpClosedSpec : BalancedUpClosedSpec`.
* `Tree.Balanced.count`, `balanced_sibling_arith`, `balanced_sibling_diff`.

The proofs are in `ProofsRebRedistBasic/Place/Loop.lean` and `ProofsRebBalanced.lean` (namespace
`PPLV.COTree.Redist`); the top-level call is treated first, below.
-/
namespace PPLV.COTree.Redist
open PPLV.COTree PPLV.COTree.Tree

theorem lt_size_of_cell_some (t : Tree) (p : Nat) (kv : Nat × Int) (h : t.cell p = some kv) :
    p < t.cells.size := by
  rw [cell_eq] at h
  by_cases hp : p < t.cells.size
  · exact hp
  · rw [Array.getElem?_eq_none (by omega)] at h
    simp at h

theorem redistLoop_nil (key : Nat) (value : Int) (f : Nat) (s : RState) :
    redistLoop key value f [] s = some s := by
  cases f <;> rfl

/-- core statement: `RedistSpec` where the subtree is only required to lie inside the array
    when the new pair is pending -/
theorem redistSpec_core (t : Tree) (i o n u key : Nat) (value : Int) (pend : Bool)
    (hnode : t.IsNode i o) (hL : pend = true → i + (o - 1) ≤ t.rs)
    (hcs : t.cells.size = t.rs + 2) (h1 : 1 ≤ n) (h2 : n ≤ 2 * o - 1)
    (hun : u + n = i + (o - 1) + 1 + (if pend then 1 else 0))
    (hnone : ∀ p, i - (o - 1) ≤ p → p < u → t.cell p = none)
    (hused : ∀ p, u ≤ p → p ≤ i + (o - 1) → t.isUnused p = false)
    (hpend : pend = true → SMap.Sorted (t.listRange u (i + o)) ∧
        (∀ q ∈ t.listRange u (i + o), q.1 ≠ key) ∧
        ∀ p, i + (o - 1) < p → p ≤ t.rs → ∀ kv, t.cell p = some kv → key < kv.1) :
    ∃ s, redistributeElementsInSubtree t i n u key value pend = some s ∧ s.addElement = false ∧
      t.FrameOn s.t (i - (o - 1)) (i + (o - 1)) ∧
      s.t.listRange (i - (o - 1)) (i + o) =
        (if pend then SMap.set (t.listRange u (i + o)) key value else t.listRange u (i + o)) ∧
      ∀ h, o = 2 ^ h → s.t.Balanced (h + 1) i n := by
  obtain ⟨h, m, ho, hi, -⟩ := hnode
  have hop : 1 ≤ 2 ^ h := Nat.one_le_two_pow
  obtain ⟨w, rfl⟩ : ∃ w, o = w + 1 := ⟨o - 1, by omega⟩
  have hio : w + 1 ≤ i := by rw [hi]; exact Nat.le_mul_of_pos_right _ (by omega)
  obtain ⟨lo, hlo⟩ : ∃ lo, lo + w = i := ⟨i - w, by omega⟩
  simp only [Nat.add_sub_cancel, show i - w = lo by omega, show i + (w + 1) = i + w + 1 from rfl] at *
  generalize hLdef : i + w = L at *
  have huL : u ≤ L + 1 := by cases pend <;> simp at hun <;> omega
  have hrem : remaining L ⟨t, u, pend⟩ = n := by
    cases pend <;> simp [remaining] at hun ⊢ <;> omega
  have inv : RInv key L ⟨t, u, pend⟩ := by
    refine ⟨?_, huL, fun p a b => isUnused_false_some t p (hused p a b), ?_⟩
    · show L < t.cells.size
      cases pend with
      | true => have := hL rfl; omega
      | false =>
        simp at hun
        obtain ⟨kv, hkv⟩ := isUnused_false_some t L (hused L (by omega) (Nat.le_refl _))
        exact lt_size_of_cell_some t L kv hkv
    · intro hp
      have hp' : pend = true := hp
      obtain ⟨a, b, c⟩ := hpend hp'
      exact ⟨hL hp', a, b, c⟩
  obtain ⟨s', c, hc, run, st, bal⟩ := loop_entry key value L h m n 0 i w lo [] ⟨t, u, pend⟩ ho hi
    hlo inv h1 (by omega) hrem.symm (by omega) hnone
  rw [hLdef] at st
  have hr := st.rem
  rw [hrem] at hr
  have hu' := st.inv.hu
  have hadd : s'.addElement = false := by
    unfold remaining at hr
    cases h : s'.addElement
    · rfl
    · rw [h] at hr; simp at hr
  have hlu : s'.lastUsed = L + 1 := by
    unfold remaining at hr; rw [hadd] at hr; simp at hr; omega
  refine ⟨s', ?_, hadd, ⟨st.rs, st.maxDepth, st.size, st.csize, ?_⟩, ?_, ?_⟩
  · unfold redistributeElementsInSubtree
    have e : 2 * n = (2 * n - c) + c := by omega
    rw [e, run, redistLoop_nil]
  · intro p hp
    exact st.frame p hp
  · have hs := st.strm
    have e1 : stream key value L s' = [] := by
      unfold stream
      rw [hadd, hlu]
      simp only [Bool.false_eq_true, if_false]
      exact listRange_empty _ _ _ (Nat.le_refl _)
    rw [e1, List.append_nil] at hs
    rw [← hs]
    rfl
  · intro h' hh'
    obtain rfl : h = h' := (Nat.pow_right_inj (by omega)).1 (ho.symm.trans hh')
    exact bal

end PPLV.COTree.Redist

namespace PPLV.COTree
open PPLV.COTree.Tree

/-- a node of a well-shaped tree has its whole subtree inside the array -/
theorem isNode_hi_le_rs {t : Tree} {i o : Nat} (hs : t.Shape) (hn : t.IsNode i o) :
    i + (o - 1) ≤ t.rs :=
  (hn.bounds hs).2.2.2.1

/-- **`redistribute_elements_in_subtree`** is correct and terminates within `2 * subtree_size`
    iterations of its stack loop -/
theorem redistSpec : RedistSpec := by
  intro t i o n u key value pend hnode hL hcs h1 h2 hun hnone hused hpend
  exact Redist.redistSpec_core t i o n u key value pend hnode (fun _ => hL) hcs h1 h2 hun hnone hused hpend

/-- `RedistSpec` with `t.Shape` in place of the bound on the subtree -/
theorem redistSpec_of_shape (t : Tree) (i o n u key : Nat) (value : Int) (pend : Bool)
    (hs : t.Shape) (hnode : t.IsNode i o) (h1 : 1 ≤ n) (h2 : n ≤ 2 * o - 1)
    (hun : u + n = i + (o - 1) + 1 + (if pend then 1 else 0))
    (hnone : ∀ p, i - (o - 1) ≤ p → p < u → t.cell p = none)
    (hused : ∀ p, u ≤ p → p ≤ i + (o - 1) → t.isUnused p = false)
    (hpend : pend = true → SMap.Sorted (t.listRange u (i + o)) ∧
        (∀ q ∈ t.listRange u (i + o), q.1 ≠ key) ∧
        ∀ p, i + (o - 1) < p → p ≤ t.rs → ∀ kv, t.cell p = some kv → key < kv.1) :
    ∃ s, redistributeElementsInSubtree t i n u key value pend = some s ∧ s.addElement = false ∧
      t.FrameOn s.t (i - (o - 1)) (i + (o - 1)) ∧
      s.t.listRange (i - (o - 1)) (i + o) =
        (if pend then SMap.set (t.listRange u (i + o)) key value else t.listRange u (i + o)) ∧
      ∀ h, o = 2 ^ h → s.t.Balanced (h + 1) i n :=
  redistSpec t i o n u key value pend hnode (isNode_hi_le_rs hs hnode) hs.2.2.1 h1 h2 hun hnone
    hused hpend

/-- a whole tree in the half/half layout is up-closed -/
theorem balancedUpClosedSpec : BalancedUpClosedSpec :=
  fun t n hs hb => Redist.balancedUpClosed t n hs hb

/-- a `Balanced (h+1) i n` subtree (`i` a node with offset `2^h`; `2^h ≤ i` is all that is used)
    holds exactly `n` elements -/
theorem Tree.Balanced.count {t : Tree} {h i n : Nat} (hb : t.Balanced (h + 1) i n)
    (hi : 2 ^ h ≤ i) : t.countRange (i - (2 ^ h - 1)) (i + 2 ^ h) = n :=
  Redist.balanced_count t h i n hb hi

theorem Balanced.count {t : Tree} {h i n : Nat} (hb : t.Balanced (h + 1) i n)
    (hi : 2 ^ h ≤ i) : t.countRange (i - (2 ^ h - 1)) (i + 2 ^ h) = n :=
  Tree.Balanced.count hb hi

/-- the same for a node given by `IsNode` -/
theorem Tree.Balanced.count_of_isNode {t : Tree} {h i n : Nat} (hb : t.Balanced (h + 1) i n)
    (hn : t.IsNode i (2 ^ h)) : t.countRange (i - (2 ^ h - 1)) (i + 2 ^ h) = n := by
  obtain ⟨h', m, e, rfl, -⟩ := hn
  exact Redist.balanced_count t h _ n hb (Nat.le_mul_of_pos_right _ (by omega))

/-- the child counts `(n+1)/2 - 1` and `n - (n+1)/2` of the half/half rule sum to `n - 1` and
    differ by at most one (the right one is the larger) -/
theorem balanced_sibling_arith (n : Nat) :
    ((n + 1) / 2 - 1) + (n - (n + 1) / 2) = n - 1 ∧
    (n + 1) / 2 - 1 ≤ n - (n + 1) / 2 ∧ n - (n + 1) / 2 ≤ ((n + 1) / 2 - 1) + 1 :=
  Redist.half_half_arith n

/-- in a non-empty `Balanced (h+2) i n` subtree the element counts of the two child subtrees
    (slots `[i - (2^(h+1) - 1), i)` and `(i, i + 2^(h+1))`) are `(n+1)/2 - 1` and `n - (n+1)/2`:
    they differ by at most one and, with the root, add up to `n` -/
theorem balanced_sibling_diff {t : Tree} {h i n : Nat} (hb : t.Balanced (h + 2) i n) (hn : n ≠ 0)
    (hi : 2 ^ (h + 1) ≤ i) :
    t.countRange (i - (2 ^ (h + 1) - 1)) i = (n + 1) / 2 - 1 ∧
    t.countRange (i + 1) (i + 2 ^ (h + 1)) = n - (n + 1) / 2 ∧
    t.countRange (i - (2 ^ (h + 1) - 1)) i ≤ t.countRange (i + 1) (i + 2 ^ (h + 1)) ∧
    t.countRange (i + 1) (i + 2 ^ (h + 1)) ≤ t.countRange (i - (2 ^ (h + 1) - 1)) i + 1 ∧
    t.countRange (i - (2 ^ (h + 1) - 1)) i + 1 + t.countRange (i + 1) (i + 2 ^ (h + 1)) = n := by
  obtain ⟨cl, cr⟩ := Redist.balanced_children_count t h i n hb hn hi
  rw [cl, cr]
  refine ⟨rfl, rfl, ?_⟩
  omega

end PPLV.COTree

import PPLV.COTree.ProofsRebInit

/-!
# `rebuild_bigger_tree` (CO_Tree.cc:830-877): `biggerSpec : BiggerSpec`
-/
namespace PPLV.COTree.FillB
open Tree

theorem rebuildBiggerLoop_size (old : Tree) : ∀ (f i j : Nat) (nw : Array Cell),
    (rebuildBiggerLoop old f i j nw).size = nw.size
  | 0, _, _, _ => rfl
  | f + 1, i, j, nw => by
    unfold rebuildBiggerLoop
    simp only []
    rw [rebuildBiggerLoop_size old f]
    simp

/-- closed form of the array written by the copy loop -/
theorem rebuildBiggerLoop_get (old : Tree) : ∀ (f i j : Nat) (nw : Array Cell) (q : Nat),
    j + 2 * f ≤ nw.size →
    (rebuildBiggerLoop old f i j nw)[q]?.getD none =
      if j ≤ q ∧ q < j + 2 * f then (if (q - j) % 2 = 0 then old.cell (i + (q - j) / 2) else none)
      else nw[q]?.getD none
  | 0, i, j, nw, q, _ => by
    unfold rebuildBiggerLoop
    have : ¬ (j ≤ q ∧ q < j + 2 * 0) := by omega
    rw [if_neg this]
  | f + 1, i, j, nw, q, hsz => by
    unfold rebuildBiggerLoop
    simp only []
    rw [rebuildBiggerLoop_get old f (i + 1) (j + 1 + 1) _ q (by simp; omega)]
    simp only [Array.getElem?_setIfInBounds, Array.size_setIfInBounds]
    by_cases h1 : q = j
    · subst h1
      have a : ¬ (q + 1 + 1 ≤ q ∧ q < q + 1 + 1 + 2 * f) := by omega
      have b : (q ≤ q ∧ q < q + 2 * (f + 1)) := by omega
      have c : ¬ (q + 1 = q) := by omega
      have d : q < nw.size := by omega
      rw [if_neg a, if_pos b]
      simp [d]
    · by_cases h2 : q = j + 1
      · subst h2
        have a : ¬ (j + 1 + 1 ≤ j + 1 ∧ j + 1 < j + 1 + 1 + 2 * f) := by omega
        have b : (j ≤ j + 1 ∧ j + 1 < j + 2 * (f + 1)) := by omega
        have d : j + 1 < nw.size := by omega
        have e : (j + 1 - j) % 2 ≠ 0 := by omega
        rw [if_neg a, if_pos b, if_neg e]
        simp [d]
      · have c : ¬ (j + 1 = q) := by omega
        have c' : ¬ (j = q) := by omega
        simp only [c, c', if_false]
        by_cases h3 : j + 1 + 1 ≤ q ∧ q < j + 1 + 1 + 2 * f
        · have b : (j ≤ q ∧ q < j + 2 * (f + 1)) := by omega
          rw [if_pos h3, if_pos b]
          have e1 : (q - (j + 1 + 1)) % 2 = (q - j) % 2 := by omega
          have e2 : i + 1 + (q - (j + 1 + 1)) / 2 = i + (q - j) / 2 := by omega
          rw [e1, e2]
        · have b : ¬ (j ≤ q ∧ q < j + 2 * (f + 1)) := by omega
          rw [if_neg h3, if_neg b]

/-- closed form of the cells of the bigger tree -/
theorem rebuildBiggerTree_cell (t : Tree) (hrs : t.rs ≠ 0) (q : Nat) :
    (rebuildBiggerTree t).cell q =
      if q = 0 ∨ q = 2 * t.rs + 2 then sentinel
      else if q % 2 = 0 ∧ q ≤ 2 * t.rs then t.cell (q / 2) else none := by
  unfold rebuildBiggerTree
  rw [if_neg hrs]
  rw [cell_eq]
  simp only [Array.getElem?_setIfInBounds, Array.size_setIfInBounds, rebuildBiggerLoop_size,
    Array.size_replicate]
  by_cases h0 : q = 0
  · subst h0
    simp
  · by_cases h1 : q = 2 * t.rs + 2
    · subst h1
      have e : t.rs * 2 = 2 * t.rs := by omega
      simp [e]
    · have a : ¬ (t.rs * 2 + 1 + 1 = q) := by omega
      have b : ¬ (0 = q) := by omega
      have c : ¬ (q = 0 ∨ q = 2 * t.rs + 2) := by omega
      simp only [a, b, c, if_false]
      rw [rebuildBiggerLoop_get t t.rs 1 2 _ q (by simp; omega)]
      by_cases h2 : 2 ≤ q ∧ q < 2 + 2 * t.rs
      · rw [if_pos h2]
        by_cases h3 : q % 2 = 0
        · have d : (q - 2) % 2 = 0 := by omega
          have e : q % 2 = 0 ∧ q ≤ 2 * t.rs := by omega
          have g : 1 + (q - 2) / 2 = q / 2 := by omega
          rw [if_pos d, if_pos e, g]
        · have d : ¬ (q - 2) % 2 = 0 := by omega
          have e : ¬ (q % 2 = 0 ∧ q ≤ 2 * t.rs) := by omega
          rw [if_neg d, if_neg e]
      · rw [if_neg h2]
        have e : ¬ (q % 2 = 0 ∧ q ≤ 2 * t.rs) := by omega
        rw [if_neg e]
        simp only [Array.getElem?_setIfInBounds, Array.getElem?_replicate]
        split <;> split <;> simp

theorem rebuildBiggerTree_fields (t : Tree) (hrs : t.rs ≠ 0) :
    (rebuildBiggerTree t).rs = 2 * t.rs + 1 ∧ (rebuildBiggerTree t).maxDepth = t.maxDepth + 1 ∧
    (rebuildBiggerTree t).size = t.size ∧ (rebuildBiggerTree t).cells.size = 2 * t.rs + 3 := by
  unfold rebuildBiggerTree
  rw [if_neg hrs]
  refine ⟨by simp only []; omega, rfl, rfl, ?_⟩
  simp only [Array.size_setIfInBounds, rebuildBiggerLoop_size, Array.size_replicate]
  omega

/-- node `(i, o)` of the old tree is node `(2i, 2o)` of the new one, and so is its parent -/
theorem getParent_double (i o : Nat) :
    TIt.getParent ⟨2 * i, 2 * o⟩ =
      ⟨2 * (TIt.getParent ⟨i, o⟩).i, 2 * (TIt.getParent ⟨i, o⟩).offset⟩ := by
  unfold TIt.getParent
  simp only []
  have e1 : 2 * i / (2 * o) = i / o := Nat.mul_div_mul_left _ _ (by omega)
  rw [e1]
  have e2 : (if i / o % 2 = 1 then 2 * i - 2 * o else 2 * i) =
      2 * (if i / o % 2 = 1 then i - o else i) := by
    split <;> omega
  rw [e2]
  generalize (if i / o % 2 = 1 then i - o else i) = i1
  have e3 : 2 * i1 / (2 * o * 2) = i1 / (o * 2) := by
    rw [Nat.mul_assoc]
    exact Nat.mul_div_mul_left _ _ (by omega)
  rw [e3]
  by_cases h : i1 / (o * 2) % 2 = 1
  · simp only [h, if_true]
    congr 1
    omega
  · simp only [h, if_false]
    congr 1 <;> omega

theorem bigger_listRange (t : Tree) (hrs : t.rs ≠ 0) : ∀ b, b ≤ t.rs →
    (rebuildBiggerTree t).listRange 1 (2 * b + 2) = t.listRange 1 (b + 1)
  | 0, _ => by
    rw [listRange_one, rebuildBiggerTree_cell t hrs, listRange_empty t 1 1 (by omega)]
    have a : ¬ (1 = 0 ∨ 1 = 2 * t.rs + 2) := by omega
    have b : ¬ (1 % 2 = 0 ∧ 1 ≤ 2 * t.rs) := by omega
    rw [if_neg a, if_neg b]
    rfl
  | b + 1, hb => by
    rw [listRange_split _ 1 (2 * b + 2) (2 * (b + 1) + 2) (by omega) (by omega),
      listRange_split _ (2 * b + 2) (2 * b + 2 + 1) (2 * (b + 1) + 2) (by omega) (by omega),
      bigger_listRange t hrs b (by omega),
      listRange_split t 1 (b + 1) (b + 1 + 1) (by omega) (by omega)]
    have e : 2 * (b + 1) + 2 = 2 * b + 2 + 1 + 1 := by omega
    rw [e, listRange_one, listRange_one, listRange_one, rebuildBiggerTree_cell t hrs,
      rebuildBiggerTree_cell t hrs]
    have a1 : ¬ (2 * b + 2 = 0 ∨ 2 * b + 2 = 2 * t.rs + 2) := by omega
    have a2 : (2 * b + 2) % 2 = 0 ∧ 2 * b + 2 ≤ 2 * t.rs := by omega
    have a3 : ¬ (2 * b + 2 + 1 = 0 ∨ 2 * b + 2 + 1 = 2 * t.rs + 2) := by omega
    have a4 : ¬ ((2 * b + 2 + 1) % 2 = 0 ∧ 2 * b + 2 + 1 ≤ 2 * t.rs) := by omega
    have a5 : (2 * b + 2) / 2 = b + 1 := by omega
    rw [if_neg a1, if_pos a2, if_neg a3, if_neg a4, a5]
    simp

end PPLV.COTree.FillB

namespace PPLV.COTree
open Tree FillB

theorem biggerSpec : BiggerSpec := by
  intro t hsh
  obtain ⟨hrs, hmd, hcs, hc0, hcN⟩ := hsh
  have hpow : 2 ^ 2 ≤ 2 ^ t.maxDepth := Nat.pow_le_pow_right (by omega) hmd
  have hrs0 : t.rs ≠ 0 := by omega
  obtain ⟨f1, f2, f3, f4⟩ := rebuildBiggerTree_fields t hrs0
  have hcell := rebuildBiggerTree_cell t hrs0
  have hodd : t.rs % 2 = 1 := by
    have : 2 ^ t.maxDepth = 2 * 2 ^ (t.maxDepth - 1) := by
      rw [← Nat.pow_succ']; congr 1; omega
    omega
  have hlist : (rebuildBiggerTree t).toList = t.toList := by
    unfold toList
    rw [f1]
    have := bigger_listRange t hrs0 t.rs (Nat.le_refl _)
    rw [show 2 * t.rs + 1 + 1 = 2 * t.rs + 2 by omega]
    exact this
  refine ⟨⟨?_, ?_, ?_, ?_, ?_⟩, f1, f2, f3, ?_, ?_, hlist, ?_, ?_⟩
  · rw [f1, f2, Nat.pow_succ]; omega
  · omega
  · omega
  · rw [hcell]; simp
  · rw [hcell, f1]
    have : 2 * t.rs + 1 + 1 = 0 ∨ 2 * t.rs + 1 + 1 = 2 * t.rs + 2 := by omega
    rw [if_pos this]
  · intro p h1 h2
    rw [hcell]
    have a : ¬ (2 * p = 0 ∨ 2 * p = 2 * t.rs + 2) := by omega
    have b : (2 * p) % 2 = 0 ∧ 2 * p ≤ 2 * t.rs := by omega
    rw [if_neg a, if_pos b]
    congr 1
    omega
  · intro p h2
    rw [hcell]
    have a : ¬ (2 * p + 1 = 0 ∨ 2 * p + 1 = 2 * t.rs + 2) := by omega
    have b : ¬ ((2 * p + 1) % 2 = 0 ∧ 2 * p + 1 ≤ 2 * t.rs) := by omega
    rw [if_neg a, if_neg b]
  · rw [← length_listRange, ← length_listRange]
    have h := hlist
    unfold toList at h
    rw [h]
  · intro hup i o hnode hused hroot
    obtain ⟨h, m, ho, hi, hle⟩ := hnode
    rw [f1] at hle hroot
    cases h with
    | zero =>
      exfalso
      rw [Nat.pow_zero] at ho
      subst ho
      unfold isUnused at hused
      rw [hcell] at hused
      have a : ¬ (i = 0 ∨ i = 2 * t.rs + 2) := by omega
      have b : ¬ (i % 2 = 0 ∧ i ≤ 2 * t.rs) := by omega
      rw [if_neg a, if_neg b] at hused
      simp at hused
    | succ h' =>
      have hP : 1 ≤ 2 ^ h' := Nat.one_le_two_pow
      rw [Nat.pow_succ] at ho
      obtain ⟨i0, hi0def⟩ : ∃ i0, i0 = 2 ^ h' * (2 * m + 1) := ⟨_, rfl⟩
      have hi0 : 1 ≤ i0 := by
        rw [hi0def]; exact Nat.mul_pos (by omega) (by omega)
      have hi' : i = 2 * i0 := by
        rw [hi, ho, hi0def, Nat.mul_comm (2 ^ h') 2, Nat.mul_assoc]
      have ho' : o = 2 * 2 ^ h' := by omega
      have hn0 : t.IsNode i0 (2 ^ h') := ⟨h', m, rfl, hi0def, by omega⟩
      generalize 2 ^ h' = P at ho' hn0 hP
      subst ho' hi'
      have hu0 : t.isUnused i0 = false := by
        unfold isUnused at hused ⊢
        rw [hcell] at hused
        have a : ¬ (2 * i0 = 0 ∨ 2 * i0 = 2 * t.rs + 2) := by omega
        have b : (2 * i0) % 2 = 0 ∧ 2 * i0 ≤ 2 * t.rs := by omega
        rw [if_neg a, if_pos b] at hused
        have c : 2 * i0 / 2 = i0 := by omega
        rw [c] at hused
        exact hused
      have hr0 : P ≠ t.rs / 2 + 1 := by omega
      have hp := hup i0 P hn0 hu0 hr0
      rw [getParent_double]
      simp only []
      generalize (TIt.getParent ⟨i0, P⟩).i = p at hp
      unfold isUnused at hp ⊢
      rw [hcell]
      by_cases a : 2 * p = 0 ∨ 2 * p = 2 * t.rs + 2
      · rw [if_pos a]; rfl
      · rw [if_neg a]
        by_cases hb : 2 * p ≤ 2 * t.rs
        · have b : (2 * p) % 2 = 0 ∧ 2 * p ≤ 2 * t.rs := by omega
          have c : 2 * p / 2 = p := by omega
          rw [if_pos b, c]
          exact hp
        · exfalso
          rw [cell_eq, Array.getElem?_eq_none (by omega)] at hp
          simp at hp

end PPLV.COTree

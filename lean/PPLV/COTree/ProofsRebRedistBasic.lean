import PPLV.COTree.ProofsRebNav
import PPLV.COTree.ProofsMap

/-!
# basic lemmas for `ProofsRebRedist*.lean`
-/
namespace PPLV.COTree.Redist
open PPLV.COTree PPLV.COTree.Tree

@[simp] theorem setCell_rs (t : Tree) (p : Nat) (c : Cell) : (t.setCell p c).rs = t.rs := rfl
@[simp] theorem setCell_size (t : Tree) (p : Nat) (c : Cell) : (t.setCell p c).size = t.size := rfl
@[simp] theorem setCell_maxDepth (t : Tree) (p : Nat) (c : Cell) :
    (t.setCell p c).maxDepth = t.maxDepth := rfl

theorem isUnused_false_iff (t : Tree) (p : Nat) : t.isUnused p = false ↔ t.cell p ≠ none := by
  unfold Tree.isUnused
  cases t.cell p <;> simp

theorem isUnused_false_some (t : Tree) (p : Nat) (h : t.isUnused p = false) :
    ∃ kv, t.cell p = some kv := by
  unfold Tree.isUnused at h
  cases hc : t.cell p with
  | none => simp [hc] at h
  | some kv => exact ⟨kv, rfl⟩

/-! ## `listRange` -/

/-- a range whose only used slot is `i` -/
theorem listRange_single (t : Tree) (lo hi i : Nat) (kv : Nat × Int) (h1 : lo ≤ i) (h2 : i < hi)
    (hi' : t.cell i = some kv) (hn : ∀ p, lo ≤ p → p < hi → p ≠ i → t.cell p = none) :
    t.listRange lo hi = [kv] := by
  rw [Tree.listRange_single t lo hi i h1 h2 hn, hi']
  rfl

/-! ## `countRange` -/

theorem countRange_none (t : Tree) (lo hi : Nat)
    (h : ∀ p, lo ≤ p → p < hi → t.cell p = none) : t.countRange lo hi = 0 := by
  rw [← length_listRange, listRange_none t lo hi h]; rfl

/-! ## powers of two -/

theorem two_pow_succ_half (h : Nat) : 2 ^ (h + 1) / 2 = 2 ^ h := by
  rw [Nat.pow_succ]; omega

end PPLV.COTree.Redist

import PPLV.COTree.RebSpec
import PPLV.COTree.ProofsDensity

/-!
# the root is within its thresholds whenever `rebalance` is called

Pure arithmetic over `densityOK`, `insertRebuilds`, `eraseRebuilds`: the hypothesis
`rebalanceCond maxDepth (count + extra) rs 0 = false` of `WalkSpecA` holds in `insert_precise_aux`
(with or without `rebuild_bigger_tree`) and in `erase` (with or without `rebuild_smaller_tree`).
No Mathlib.
-/
namespace PPLV.COTree

/-- at the root (`itr_depth_minus_1 = 0`) the thresholds are `max_density_percent = 91` and
    `min_density_percent = 38`, whatever `max_depth` is -/
theorem rebalanceCond_zero (md n res : Nat) :
    rebalanceCond md n res 0 = false ↔ (¬ 91 * res < 100 * n ∧ ¬ 100 * n < 38 * res) := by
  simp [rebalanceCond, isGreaterThanRatio, isLessThanRatio, maxDensityPercent, minDensityPercent]

theorem insertRebuilds_false_iff (size rs : Nat) :
    insertRebuilds size rs = false ↔ ¬ 91 * rs < 100 * (size + 1) := by
  rw [← insertRebuilds_iff]; simp

theorem eraseRebuilds_false_iff (size rs : Nat) : eraseRebuilds size rs = false ↔
    ¬ (100 * (size - 1) < 38 * rs ∧ ¬ 91 * (rs / 2) < 100 * (size - 1)) := by
  rw [← eraseRebuilds_iff]; simp

/-- `insert_precise_aux` without `rebuild_bigger_tree`: `size_` was incremented before `rebalance` -/
theorem root_ok_insert (md size rs : Nat) (hrs : 7 ≤ rs) (hok : densityOK size rs = true)
    (hnr : insertRebuilds size rs = false) : rebalanceCond md (size + 1) rs 0 = false := by
  rw [densityOK_iff] at hok
  rw [insertRebuilds_false_iff] at hnr
  rw [rebalanceCond_zero]
  omega

/-- `insert_precise_aux` after `rebuild_bigger_tree` (`reserved_size` became `2*rs + 1`) -/
theorem root_ok_insert_grown (md size rs : Nat) (hrs : 3 ≤ rs) (hsz : size ≤ rs)
    (hr : insertRebuilds size rs = true) : rebalanceCond md (size + 1) (2 * rs + 1) 0 = false := by
  rw [insertRebuilds_iff] at hr
  rw [rebalanceCond_zero]
  omega

/-- `erase` without `rebuild_smaller_tree`: `size_` was decremented before `rebalance` -/
theorem root_ok_erase (md size rs : Nat) (hrs : 7 ≤ rs) (hsz : 2 ≤ size)
    (hok : densityOK size rs = true) (hnr : eraseRebuilds size rs = false) :
    rebalanceCond md (size - 1) rs 0 = false := by
  rw [densityOK_iff] at hok
  rw [eraseRebuilds_false_iff] at hnr
  rw [rebalanceCond_zero]
  omega

/-- `erase` after `rebuild_smaller_tree` (`reserved_size` became `rs / 2 ≥ 7`; when `rs / 2 = 3`
    `rebalance` returns at once) -/
theorem root_ok_erase_shrunk (md size rs : Nat) (hrs : 15 ≤ rs) (hsz : 2 ≤ size)
    (hok : densityOK size rs = true) (hr : eraseRebuilds size rs = true) :
    rebalanceCond md (size - 1) (rs / 2) 0 = false := by
  rw [densityOK_iff] at hok
  rw [eraseRebuilds_iff] at hr
  rw [rebalanceCond_zero]
  omega

/-- the elements fit in the smaller tree (hypothesis `size ≤ rs / 2` of `SmallerSpec`) -/
theorem erase_shrunk_fits (size rs : Nat) (hr : eraseRebuilds size rs = true) (hsz : 2 ≤ size) :
    size ≤ rs / 2 := by
  rw [eraseRebuilds_iff] at hr
  omega

/-- `rebuild_smaller_tree` is requested only on trees of at least 7 slots (`rs = 2^k - 1`) -/
theorem erase_shrunk_rs (size rs : Nat) (hr : eraseRebuilds size rs = true) (hsz : 2 ≤ size)
    (hrs : 3 ≤ rs) : 4 ≤ rs := by
  rw [eraseRebuilds_iff] at hr
  omega

end PPLV.COTree

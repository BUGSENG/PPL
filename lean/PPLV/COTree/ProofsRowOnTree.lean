import PPLV.COTree.ProofsRowOnTreeSwap
import PPLV.COTree.ProofsRebSlot
import PPLV.COTree.ProofsRebHint

/-!
# `Sparse_Row` on the tree refines the abstract sparse row: `SparseRowOnTreeSpec`

The operation-by-operation proofs are in `ProofsRowOnTreeInsert/Find/Reset/Shift/Delete/Swap.lean`
(namespace `PPLV.COTree.RowT`); they take the hinted insertions as hypotheses `InsertHintedSpec` /
`InsertHinted0Spec` (`RebalanceHint.lean`) and rest otherwise on `insertSpec`, `eraseSpec`,
`goDownSpec` and the `HoleArray.bisect*` theorems.
-/
namespace PPLV.COTree
open PPLV.COTree.Tree

namespace RowT

theorem insertSlot0Spec : InsertSlot0Spec := insertSlot0Spec_of insertSlotSpec

/-- `Sparse_Row::swap_coefficients(i, j)`, all indices -/
theorem swapCoefficients_ok (hh0 : InsertHinted0Spec) (r : TRow) (i j : Nat) (hv : r.Valid)
    (hi : i < r.size) (hj : j < r.size) :
    ∃ r', r.swapCoefficients i j = some r' ∧ r'.Valid ∧
      r'.toSRow = RowOp.sparse r.toSRow (.swap i j) :=
  swapCoefficients_ok_partial hh0 r i j (Or.inr insertSlot0Spec) hv hi hj

end RowT
end PPLV.COTree

namespace PPLV.COTree

theorem sparseRowOnTreeSpec_of (hh : InsertHintedSpec) (hh0 : InsertHinted0Spec) :
    SparseRowOnTreeSpec :=
  ⟨RowT.insert_ok,
   fun r hint i x hv hhint hi => RowT.insertHint_ok hh r hint i x hv hhint hi,
   fun r i hv hi => RowT.insert0_ok hh0 r i hv hi,
   fun r hint i hv hhint hi => RowT.insert0Hint_ok hh0 r hint i hv hhint hi,
   RowT.reset_ok,
   RowT.resetAt_ok,
   RowT.find_ok,
   RowT.lowerBound_ok,
   RowT.resetAfter_ok,
   RowT.addZeroesAndShift_ok,
   RowT.deleteElementAndShift_ok,
   fun r i j hv hi hj => RowT.swapCoefficients_ok hh0 r i j hv hi hj⟩

theorem sparseRowOnTreeSpec : SparseRowOnTreeSpec :=
  sparseRowOnTreeSpec_of insertHintedSpec insertHinted0Spec

end PPLV.COTree

import PPLV.COTree.ProofsRebCompactBasic

/-!
# `compact_elements_in_the_rightmost_end`: the final `while (subtree_size != 0)`

`compactLoop2` started with `last` on the rightmost used slot of `[F, last]` (or 0), the slots
`(last, fu]` free and exactly `n` used slots in `[F, last]`: the `n` elements end up contiguous
in `(fu - n, fu]`, in the same order; `[F, fu - n]` is free; nothing outside `[F, fu]` is written.
-/
namespace PPLV.COTree
open Tree

/-- what `compactLoop2 t n last fu` returns -/
def Loop2Post (F : Nat) (t : Tree) (last fu n : Nat) (r : Tree × Nat) : Prop :=
  t.FrameOn r.1 F fu ∧ r.2 + n = fu ∧
  (∀ p, F ≤ p → p ≤ r.2 → r.1.cell p = none) ∧
  (∀ p, r.2 < p → p ≤ fu → r.1.isUnused p = false) ∧
  r.1.listRange (r.2 + 1) (fu + 1) = t.listRange F (last + 1)

/-- the state after one `compactMove` + `skipDown`, common to both loops -/
theorem cmp_step {F : Nat} {t : Tree} {last fu : Nat} {kv : Nat × Int}
    (hFl : F ≤ last + 1) (hlf : last + 1 ≤ fu + 1) (hfu : fu + 1 ≤ t.rs) (hsz : t.cells.size = t.rs + 2)
    (hnone : ∀ p, last + 1 < p → p ≤ fu + 1 → t.cell p = none)
    (hkv : t.cell (last + 1) = some kv) :
    let t1 := compactMove t (last + 1) (fu + 1)
    let last1 := t1.skipDown last
    t.FrameOn t1 F (fu + 1) ∧ last1 ≤ fu ∧ last1 ≤ last ∧
    (∀ p, last1 < p → p ≤ fu → t1.cell p = none) ∧
    (last1 = 0 ∨ t1.isUnused last1 = false) ∧
    t1.listRange F (last1 + 1) = t.listRange F (last + 1) ∧
    t1.cell (fu + 1) = some kv ∧
    (∀ p, fu + 1 < p → t1.cell p = t.cell p) := by
  intro t1 last1
  have hl : last + 1 < t.cells.size := by omega
  have hf : fu + 1 < t.cells.size := by omega
  have hcell := cmp_compactMove_cell t hl hf
  have hle : last1 ≤ last := skipDown_le t1 last
  refine ⟨cmp_compactMove_frame t hl hf hFl hlf, by omega, hle, ?_, skipDown_used t1 last,
    ?_, ?_, ?_⟩
  · intro p h1 h2
    by_cases hp : p ≤ last
    · exact (isUnused_true_iff t1 p).mp (skipDown_between t1 last p h1 hp)
    · show (compactMove t (last + 1) (fu + 1)).cell p = none
      rw [hcell]
      have a : p ≠ fu + 1 := by omega
      simp only [a, if_false]
      by_cases b : p = last + 1
      · simp [b]
      · simp only [b, if_false]
        exact hnone p (by omega) (by omega)
  · rw [← cmp_listRange_trim (t := t1) (F := F) (a := last1 + 1) (b := last + 1) (by omega)
      (fun p h1 h2 => (isUnused_true_iff t1 p).mp (skipDown_between t1 last p (by omega) (by omega)))]
    apply listRange_congr
    intro p h1 h2
    show (compactMove t (last + 1) (fu + 1)).cell p = _
    rw [hcell]
    have a : p ≠ fu + 1 := by omega
    have b : p ≠ last + 1 := by omega
    simp [a, b]
  · show (compactMove t (last + 1) (fu + 1)).cell (fu + 1) = _
    rw [hcell]; simp [hkv]
  · intro p hp
    show (compactMove t (last + 1) (fu + 1)).cell p = _
    rw [hcell]
    have a : p ≠ fu + 1 := by omega
    have b : p ≠ last + 1 := by omega
    simp [a, b]

theorem cmp_loop2 (F : Nat) (hF : 1 ≤ F) : ∀ (n : Nat) (t : Tree) (last fu : Nat),
    last ≤ fu → fu ≤ t.rs → t.cells.size = t.rs + 2 →
    (∀ p, last < p → p ≤ fu → t.cell p = none) →
    (last = 0 ∨ t.isUnused last = false) →
    t.countRange F (last + 1) = n →
    Loop2Post F t last fu n (compactLoop2 t n last fu)
  | 0, t, last, fu, hlf, hfu, hsz, hnone, hlast, hcnt => by
    have hz := cmp_countRange_zero hcnt
    refine ⟨frameOn_refl t F fu, rfl, ?_, ?_, ?_⟩
    · intro p h1 h2
      show t.cell p = none
      have h2' : p ≤ fu := h2
      by_cases hp : p ≤ last
      · exact hz p h1 (by omega)
      · exact hnone p (by omega) h2'
    · intro p h1 h2
      have h1' : fu < p := h1
      omega
    · show t.listRange (fu + 1) (fu + 1) = _
      rw [listRange_empty t _ _ (Nat.le_refl _), listRange_none _ _ _ hz]
  | n + 1, t, last, fu, hlf, hfu, hsz, hnone, hlast, hcnt => by
    -- `last` is a used slot of the segment
    have hFl : F ≤ last := by
      refine Nat.le_of_not_lt fun hc => ?_
      rw [← length_listRange, listRange_empty t _ _ (by omega : last + 1 ≤ F)] at hcnt
      simp at hcnt
    have hused : t.isUnused last = false := by
      rcases hlast with h | h
      · omega
      · exact h
    obtain ⟨kv, hkv⟩ := (isUnused_false_iff t last).1 hused
    obtain ⟨last', rfl⟩ : ∃ l', last = l' + 1 := ⟨last - 1, by omega⟩
    obtain ⟨fu', rfl⟩ : ∃ f', fu = f' + 1 := ⟨fu - 1, by omega⟩
    obtain ⟨s1, s2, s3, s4, s5, s6, s7, s8⟩ :=
      cmp_step (F := F) hFl (by omega) hfu hsz hnone hkv
    have hsnoc := cmp_listRange_snoc (F := F) hFl hkv
    have hcnt1 : (compactMove t (last' + 1) (fu' + 1)).countRange F
        ((compactMove t (last' + 1) (fu' + 1)).skipDown last' + 1) = n := by
      rw [← length_listRange, s6]
      rw [← length_listRange, hsnoc, List.length_append] at hcnt
      simpa using hcnt
    have ih := cmp_loop2 F hF n _ _ fu' s2 (by rw [cmp_compactMove_rs]; omega)
      (by rw [cmp_compactMove_cells_size, cmp_compactMove_rs]; exact hsz) s4 s5 hcnt1
    show Loop2Post F t (last' + 1) (fu' + 1) (n + 1)
      (compactLoop2 (compactMove t (last' + 1) (fu' + 1)) n
        ((compactMove t (last' + 1) (fu' + 1)).skipDown (last' + 1 - 1)) (fu' + 1 - 1))
    simp only [Nat.add_sub_cancel]
    generalize compactLoop2 (compactMove t (last' + 1) (fu' + 1)) n
        ((compactMove t (last' + 1) (fu' + 1)).skipDown last') fu' = r at ih
    obtain ⟨i1, i2, i3, i4, i5⟩ := ih
    have hrfu : r.1.cell (fu' + 1) = some kv := by
      rw [i1.2.2.2.2 (fu' + 1) (Or.inr (Nat.lt_succ_self _))]; exact s7
    refine ⟨frameOn_trans s1 i1 (Nat.le_refl _) (Nat.le_refl _) (Nat.le_refl _) (Nat.le_succ _), by omega, i3, ?_, ?_⟩
    · intro p h1 h2
      by_cases hp : p = fu' + 1
      · rw [hp]; exact (isUnused_false_iff _ _).2 ⟨kv, hrfu⟩
      · exact i4 p h1 (by omega)
    · rw [cmp_listRange_snoc (by omega) hrfu, i5, s6, hsnoc]

end PPLV.COTree

import PPLV.Wrap.GridWrap
import PPLV.Wrap.ProofsArith
import Mathlib.Tactic.Linarith
import Mathlib.Tactic.Ring
import Mathlib.Data.Rat.Lemmas

/-!
# `Grid::wrap_assign` lemmas: integer arithmetic of the range, of the wrapped constant and of the
  pinned value; two facts on reduced fractions
-/
namespace PPLV.Wrap.GW
open PPLV.Wrap

/-! ### helpers -/

theorem wrapFrequency_eq (w : Nat) : wrapFrequency w = pow2 w := rfl

/-- the truncating remainder by a positive modulus: congruent, strictly between `-P` and `P` -/
theorem tmod_spec (a P : Int) (hP : 0 < P) :
    ∃ q : Int, a = Int.tmod a P + q * P ∧ -P < Int.tmod a P ∧ Int.tmod a P < P := by
  refine ⟨a.tdiv P, (Int.tmod_add_tdiv_mul a P).symm, ?_, Int.tmod_lt_of_pos a hP⟩
  have h := Int.tmod_lt_of_pos (-a) hP
  rw [Int.neg_tmod] at h
  omega

/-- two congruent values, `b` in the window `[m, m+f)`, `a` in `[m, M]` where the next value `b + f` is
    already above `M`: they are equal -/
theorem eq_of_window (f m M a b k : Int) (hf : 0 < f) (hab : a = b + k * f)
    (ha1 : m ≤ a) (ha2 : a ≤ M) (hb2 : b < m + f) (hc : b + f > M) : a = b := by
  rcases lt_trichotomy k 0 with hk | rfl | hk
  · have := Int.mul_le_mul_of_nonneg_right (show k ≤ -1 by omega) hf.le
    linarith
  · linarith
  · have := Int.mul_le_mul_of_nonneg_right (show 1 ≤ k by omega) hf.le
    linarith

theorem minValue_bounds (r : Repn) (w : Nat) : -pow2 w ≤ minValue r w ∧ minValue r w ≤ 0 := by
  have hP := pow2_pos w
  cases r with
  | unsigned => simp only [minValue]; omega
  | signed => simp only [minValue, half]; omega

/-- one correction step brings a value of `(-P, P)` into the window `[m, m + P)` when `-P ≤ m ≤ 0` -/
theorem correct_window (P m s : Int) (hm1 : -P ≤ m) (hm2 : m ≤ 0) (hlo : -P < s) (hhi : s < P) :
    m ≤ (if s < m then s + P else if s > m + P - 1 then s - P else s) ∧
    (if s < m then s + P else if s > m + P - 1 then s - P else s) < m + P ∧
    ∃ k : Int, (if s < m then s + P else if s > m + P - 1 then s - P else s) = s + k * P := by
  split_ifs with h1 h2
  · exact ⟨by omega, by omega, 1, by ring⟩
  · exact ⟨by omega, by omega, -1, by ring⟩
  · exact ⟨by omega, by omega, 0, by ring⟩

/-- the wrapped value is THE value of the window `[min, min + 2^w)` congruent to `z` modulo `2^w` -/
theorem wrapR_unique (r : Repn) (w : Nat) (z y k : Int) (h1 : minValue r w ≤ y)
    (h2 : y < minValue r w + pow2 w) (hy : y = z + k * pow2 w) : wrapR r w z = y := by
  have hP := pow2_pos w
  have hr := wrapR_inRange r w z
  have he := wrapR_eq_sub r w z
  unfold inRange maxValue at hr
  refine eq_of_window (pow2 w) (minValue r w) (minValue r w + pow2 w - 1) _ _
    (-quadrant r w z - k) hP ?_ hr.1 hr.2 h2 (by omega)
  rw [he, hy]; ring

/-- the range computed at Grid_public.cc:3034-3044 is the range of the specification (`w ≥ 1`: the enum
    `Bounded_Integer_Type_Width` has 8…128) -/
theorem rangeOf_eq (r : Repn) (w : Nat) (hw : 0 < w) : rangeOf r w = (minValue r w, maxValue r w) := by
  obtain ⟨k, rfl⟩ : ∃ k, w = k + 1 := ⟨w - 1, by omega⟩
  cases r with
  | unsigned => simp [rangeOf, minValue, maxValue, pow2]
  | signed =>
    have hh := half_eq (k + 1) (by omega)
    simp only [rangeOf, minValue, maxValue, hh, pow2, Nat.add_sub_cancel, Prod.mk.injEq, true_and]
    rw [pow_succ]; ring

/-- Grid_public.cc:3092-3100 `v_n %= wrap_frequency` (truncating) and one correction step give the wrapped value -/
theorem wrapConstant_eq (r : Repn) (w : Nat) (hw : 0 < w) (v : Int) :
    wrapConstant w (minValue r w) (maxValue r w) v = wrapR r w v := by
  have _ := hw  -- not needed: `-2^w ≤ min_value ≤ 0` holds for every width
  have hP := pow2_pos w
  obtain ⟨hm1, hm2⟩ := minValue_bounds r w
  obtain ⟨q, hq, hlo, hhi⟩ := tmod_spec v (pow2 w) hP
  obtain ⟨c1, c2, k, hk⟩ := correct_window (pow2 w) (minValue r w) (Int.tmod v (pow2 w)) hm1 hm2 hlo hhi
  have e : wrapConstant w (minValue r w) (maxValue r w) v
      = if Int.tmod v (pow2 w) < minValue r w then Int.tmod v (pow2 w) + pow2 w
        else if Int.tmod v (pow2 w) > minValue r w + pow2 w - 1 then Int.tmod v (pow2 w) - pow2 w
        else Int.tmod v (pow2 w) := rfl
  rw [e]
  exact (wrapR_unique r w v _ (k - q) c1 c2 (by linarith)).symm

/-- Grid_public.cc:3137-3142 -/
theorem leastNotBelow_spec (minV f v0 : Int) (hf : 0 < f) :
    minV ≤ leastNotBelow minV f v0 ∧ leastNotBelow minV f v0 < minV + f ∧
    ∃ t : Int, leastNotBelow minV f v0 = v0 + t * f := by
  obtain ⟨q, hq, hlo, hhi⟩ := tmod_spec (v0 - minV) f hf
  simp only [leastNotBelow]
  split_ifs with h1
  · exact ⟨by omega, by omega, 1 - q, by linarith⟩
  · exact ⟨by omega, by omega, -q, by linarith⟩

/-- frequency `2^w`, overflow wraps: every value `v0 + t·2^w` wraps to the pinned value -/
theorem pin_wraps (r : Repn) (w : Nat) (v0 z t : Int) (hz : z = v0 + t * wrapFrequency w) :
    wrapR r w z = leastNotBelow (minValue r w) (wrapFrequency w) v0 := by
  obtain ⟨h1, h2, s, hs⟩ := leastNotBelow_spec (minValue r w) (wrapFrequency w) v0 (pow2_pos w)
  rw [wrapFrequency_eq] at *
  refine wrapR_unique r w z _ (s - t) h1 h2 ?_
  rw [hs, hz]; ring

/-- overflow impossible: under the test of Grid_public.cc:3143 the pinned value is the only in-range value -/
theorem pin_impossible (r : Repn) (w : Nat) (f v0 z t : Int) (hf : 0 < f) (hz : z = v0 + t * f)
    (hr : inRange r w z)
    (hc : f = wrapFrequency w ∨ leastNotBelow (minValue r w) f v0 + f > maxValue r w) :
    z = leastNotBelow (minValue r w) f v0 := by
  obtain ⟨h1, h2, s, hs⟩ := leastNotBelow_spec (minValue r w) f v0 hf
  obtain ⟨hr1, hr2⟩ := hr
  refine eq_of_window f (minValue r w) (maxValue r w) z _ (t - s) hf ?_ hr1 hr2 h2 ?_
  · rw [hs, hz]; ring
  · rcases hc with hc | hc
    · rw [wrapFrequency_eq] at hc
      unfold maxValue
      omega
    · exact hc

/-- `Int.tmod f_d v_d ≠ 0` (Grid_public.cc:3110) is "`v_d` does not divide `f_d`" -/
theorem tmod_ne_zero_iff (a b : Int) : Int.tmod a b ≠ 0 ↔ ¬ b ∣ a := by
  rw [Int.dvd_iff_tmod_eq_zero]

/-- if `v + t·f` is an integer then the (reduced) denominator of `v` divides that of `f` -/
theorem den_dvd_of_value_int (v f : Rat) (t z : Int) (h : v + (t : Rat) * f = (z : Rat)) :
    (v.den : Int) ∣ (f.den : Int) := by
  have hv : v = (z : Rat) - (t : Rat) * f := by linarith
  have h1 := Rat.sub_den_dvd (z : Rat) ((t : Rat) * f)
  have h2 := Rat.mul_den_dvd (t : Rat) f
  rw [← hv] at h1
  simp only [Rat.den_intCast, one_mul] at h1 h2
  exact Int.natCast_dvd_natCast.mpr (h1.trans h2)

/-- if `t·f` is an integer then it is a multiple of the (reduced) numerator of `f` -/
theorem mul_int_of_int (f : Rat) (t m : Int) (h : (t : Rat) * f = (m : Rat)) :
    ∃ t' : Int, m = t' * f.num := by
  by_cases ht : t = 0
  · subst ht
    refine ⟨0, ?_⟩
    have : (m : Rat) = 0 := by rw [← h]; simp
    have : m = 0 := by exact_mod_cast this
    simp [this]
  · have htq : (t : Rat) ≠ 0 := by exact_mod_cast ht
    have hf : f = Rat.divInt m t := by
      rw [← Rat.intCast_div_eq_divInt]
      exact eq_div_of_mul_eq htq (by rw [mul_comm]; exact h)
    obtain ⟨c, hc⟩ : f.num ∣ m := by
      have := Rat.num_dvd m ht
      rwa [← hf] at this
    exact ⟨c, by rw [hc]; ring⟩

end PPLV.Wrap.GW

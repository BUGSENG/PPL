import PPLV.Wrap.ProofsMain

/-!
# C17 — a concrete instance of the abstract-domain interface: closed rational boxes

Used for the non-vacuity examples of `C17.wrap_sound…` (every hypothesis field of `Dom` is proved)
and for the concrete witness of `C17.wrap_sound_before_fix_fails`.  A box is `none` (empty) or a list of closed
intervals with optional bounds for the dimensions `0..n-1`; further dimensions are unconstrained.
-/
namespace PPLV.Wrap.BoxDom
open PPLV.Lin PPLV.Wrap

structure CI where
  lo : Option Rat
  hi : Option Rat
deriving DecidableEq, Repr, Inhabited

def CI.top : CI := ⟨none, none⟩

def leLo : Option Rat → Rat → Prop
  | none, _ => True
  | some l, q => l ≤ q
def leHi : Rat → Option Rat → Prop
  | _, none => True
  | q, some h => q ≤ h
instance (o : Option Rat) (q : Rat) : Decidable (leLo o q) := by cases o <;> unfold leLo <;> exact inferInstance
instance (q : Rat) (o : Option Rat) : Decidable (leHi q o) := by cases o <;> unfold leHi <;> exact inferInstance

def CI.mem (I : CI) (q : Rat) : Prop := leLo I.lo q ∧ leHi q I.hi
instance (I : CI) (q : Rat) : Decidable (I.mem q) := by unfold CI.mem; exact inferInstance

def memL : List CI → Pt → Prop
  | [], _ => True
  | I :: Is, v => I.mem (v 0) ∧ memL Is v.tail
instance memLDec : (L : List CI) → (v : Pt) → Decidable (memL L v)
  | [], _ => isTrue trivial
  | I :: Is, v => by
    unfold memL
    have := memLDec Is v.tail
    exact inferInstance

abbrev Bx := Option (List CI)

def gamma : Bx → Pt → Prop
  | none, _ => False
  | some L, v => memL L v
instance gammaDec (P : Bx) (v : Pt) : Decidable (gamma P v) := by
  cases P <;> unfold gamma <;> exact inferInstance

def modifyAt (L : List CI) (x : Nat) (f : CI → CI) : List CI :=
  match L, x with
  | [], _ => []
  | I :: Is, 0 => f I :: Is
  | I :: Is, x + 1 => I :: modifyAt Is x f

def maxLo (a : Option Rat) (b : Rat) : Option Rat :=
  match a with
  | none => some b
  | some l => some (if l ≤ b then b else l)
def minHi (a : Option Rat) (b : Rat) : Option Rat :=
  match a with
  | none => some b
  | some h => some (if b ≤ h then b else h)

/-- only the rows `x + k ≥ 0` and `-x + k ≥ 0` are used, the others are ignored -/
def refineL (L : List CI) (c : Con) : List CI :=
  let x := c.coeffs.length - 1
  if c.strict = false ∧ c.coeffs = unitRow x 1 then modifyAt L x (fun I => { I with lo := maxLo I.lo (-(c.k : Rat)) })
  else if c.strict = false ∧ c.coeffs = unitRow x (-1) then modifyAt L x (fun I => { I with hi := minHi I.hi (c.k : Rat) })
  else L

def refine (P : Bx) (c : Con) : Bx := P.map (fun L => refineL L c)

def hullLo : Option Rat → Option Rat → Option Rat
  | some a, some b => some (if a ≤ b then a else b)
  | _, _ => none
def hullHi : Option Rat → Option Rat → Option Rat
  | some a, some b => some (if a ≤ b then b else a)
  | _, _ => none
def hullCI (I J : CI) : CI := ⟨hullLo I.lo J.lo, hullHi I.hi J.hi⟩

def join : Bx → Bx → Bx
  | none, Q => Q
  | P, none => P
  | some L, some M => some (List.zipWith hullCI L M)

def shiftO (o : Option Rat) (s : Rat) : Option Rat := o.map (· - s)

theorem memL_modifyAt_update (L : List CI) : ∀ (x : Nat) (v : Pt) (f : CI → CI) (t : Rat), memL L v →
    (∀ I, I.mem (v x) → (f I).mem t) → memL (modifyAt L x f) (v.update x t) := by
  induction L with
  | nil => intro x v f t _ _; cases x <;> simp [modifyAt, memL]
  | cons I Is ih =>
    intro x v f t h hf
    cases x with
    | zero =>
      refine ⟨?_, ?_⟩
      · simp only [Val.update, ↓reduceIte]; exact hf I h.1
      · rw [update_tail_zero]; exact h.2
    | succ x =>
      refine ⟨?_, ?_⟩
      · simp only [Val.update]; rw [if_neg (by omega)]; exact h.1
      · rw [update_tail_succ]; exact ih x v.tail f t h.2 hf

theorem memL_modifyAt (L : List CI) (x : Nat) (v : Pt) (f : CI → CI) (h : memL L v)
    (hf : ∀ I, I.mem (v x) → (f I).mem (v x)) : memL (modifyAt L x f) v := by
  have := memL_modifyAt_update L x v f (v x) h hf
  rwa [update_self] at this

theorem memL_getD (L : List CI) : ∀ (x : Nat) (v : Pt), memL L v → (L.getD x CI.top).mem (v x) := by
  induction L with
  | nil => intro x v _; exact ⟨trivial, trivial⟩
  | cons I Is ih =>
    intro x v h
    cases x with
    | zero => exact h.1
    | succ x => simpa [Val.tail] using ih x v.tail h.2

theorem hullCI_left (I J : CI) (q : Rat) (h : I.mem q) : (hullCI I J).mem q := by
  constructor
  · show leLo (hullLo I.lo J.lo) _
    have := h.1
    cases hI : I.lo <;> cases hJ : J.lo <;> simp only [hullLo, leLo] <;> try trivial
    rw [hI] at this; simp only [leLo] at this
    split <;> linarith
  · show leHi _ (hullHi I.hi J.hi)
    have := h.2
    cases hI : I.hi <;> cases hJ : J.hi <;> simp only [hullHi, leHi] <;> try trivial
    rw [hI] at this; simp only [leHi] at this
    split <;> linarith

theorem hullCI_right (I J : CI) (q : Rat) (h : J.mem q) : (hullCI I J).mem q := by
  constructor
  · show leLo (hullLo I.lo J.lo) _
    have := h.1
    cases hI : I.lo <;> cases hJ : J.lo <;> simp only [hullLo, leLo] <;> try trivial
    rw [hJ] at this; simp only [leLo] at this
    split <;> linarith
  · show leHi _ (hullHi I.hi J.hi)
    have := h.2
    cases hI : I.hi <;> cases hJ : J.hi <;> simp only [hullHi, leHi] <;> try trivial
    rw [hJ] at this; simp only [leHi] at this
    split <;> linarith

theorem memL_zip_left (L : List CI) : ∀ (M : List CI) (v : Pt), memL L v → memL (List.zipWith hullCI L M) v := by
  induction L with
  | nil => intro M v _; simp [memL]
  | cons I Is ih =>
    intro M v h
    cases M with
    | nil => simp [memL]
    | cons J Js => exact ⟨hullCI_left I J _ h.1, ih Js v.tail h.2⟩

theorem memL_zip_right (L : List CI) : ∀ (M : List CI) (v : Pt), memL M v → memL (List.zipWith hullCI L M) v := by
  induction L with
  | nil => intro M v _; simp [memL]
  | cons I Is ih =>
    intro M v h
    cases M with
    | nil => simp [memL]
    | cons J Js => exact ⟨hullCI_right I J _ h.1, ih Js v.tail h.2⟩

theorem refine_mem (P : Bx) (c : Con) (v : Pt) (hv : gamma P v) (hc : c.sat v) : gamma (refine P c) v := by
  cases P with
  | none => exact hv
  | some L =>
    show memL (refineL L c) v
    have hv : memL L v := hv
    unfold refineL
    simp only []
    generalize c.coeffs.length - 1 = x
    split
    · rename_i hc1
      apply memL_modifyAt _ _ _ _ hv
      intro I hI
      have hsat : -(c.k : Rat) ≤ v x := by
        unfold Con.sat Con.eval at hc
        rw [hc1.1, hc1.2] at hc
        simp only [Bool.false_eq_true, ↓reduceIte, dot_unitRow] at hc
        push_cast at hc; linarith
      refine ⟨?_, hI.2⟩
      show leLo (maxLo I.lo _) _
      cases hlo : I.lo with
      | none => exact hsat
      | some l =>
        have h1 : l ≤ v x := by have := hI.1; rw [hlo] at this; exact this
        simp only [maxLo, leLo]; split <;> assumption
    · split
      · rename_i _ hc1
        apply memL_modifyAt _ _ _ _ hv
        intro I hI
        have hsat : v x ≤ (c.k : Rat) := by
          unfold Con.sat Con.eval at hc
          rw [hc1.1, hc1.2] at hc
          simp only [Bool.false_eq_true, ↓reduceIte, dot_unitRow] at hc
          push_cast at hc; linarith
        refine ⟨hI.1, ?_⟩
        show leHi _ (minHi I.hi _)
        cases hhi : I.hi with
        | none => exact hsat
        | some h =>
          have h1 : v x ≤ h := by have := hI.2; rw [hhi] at this; exact this
          simp only [minHi, leHi]; split <;> assumption
      · exact hv

@[reducible] def boxDom : Dom where
  D := Bx
  γ := gamma
  botLike := fun _ => none
  isEmpty := fun P => P.isNone
  refine := refine
  refineAll := fun P cs => cs.foldl refine P
  translate := fun P x s => P.map fun L => modifyAt L x fun I => ⟨shiftO I.lo s, shiftO I.hi s⟩
  join := join
  unconstrain := fun P x => P.map fun L => modifyAt L x fun _ => CI.top
  minimize := fun P x => match P with
    | none => none
    | some L => (L.getD x CI.top).lo
  maximize := fun P x => match P with
    | none => none
    | some L => (L.getD x CI.top).hi
  isEmpty_sound := by
    intro P h v hv
    cases P with
    | none => exact hv
    | some L => simp at h
  refine_sound := refine_mem
  refineAll_sound := by
    intro P cs v hv hcs
    induction cs generalizing P with
    | nil => exact hv
    | cons c cs ih =>
      simp only [List.foldl_cons]
      apply ih
      · exact refine_mem P c v hv (hcs c List.mem_cons_self)
      · intro c' hc'; exact hcs c' (List.mem_cons_of_mem _ hc')
  translate_sound := by
    intro P x s v hv
    cases P with
    | none => exact hv
    | some L =>
      apply memL_modifyAt_update L x v _ _ hv
      intro I hI
      constructor
      · show leLo (shiftO I.lo s) _
        cases hlo : I.lo with
        | none => trivial
        | some l =>
          have := hI.1; rw [hlo] at this
          simp only [shiftO, Option.map, leLo] at this ⊢; linarith
      · show leHi _ (shiftO I.hi s)
        cases hhi : I.hi with
        | none => trivial
        | some h =>
          have := hI.2; rw [hhi] at this
          simp only [shiftO, Option.map, leHi] at this ⊢; linarith
  join_left := by
    intro P Q v hv
    cases P with
    | none => exact absurd hv id
    | some L =>
      cases Q with
      | none => exact hv
      | some M => exact memL_zip_left L M v hv
  join_right := by
    intro P Q v hv
    cases Q with
    | none => exact absurd hv id
    | some M =>
      cases P with
      | none => exact hv
      | some L => exact memL_zip_right L M v hv
  unconstrain_sound := by
    intro P x v t hv
    cases P with
    | none => exact hv
    | some L =>
      apply memL_modifyAt_update L x v _ _ hv
      intro I _; exact ⟨trivial, trivial⟩
  minimize_sound := by
    intro P x l v h hv
    cases P with
    | none => exact absurd hv id
    | some L =>
      have := (memL_getD L x v hv).1
      simp only at h
      rw [h] at this; exact this
  maximize_sound := by
    intro P x u v h hv
    cases P with
    | none => exact absurd hv id
    | some L =>
      have := (memL_getD L x v hv).2
      simp only at h
      rw [h] at this; exact this

end PPLV.Wrap.BoxDom

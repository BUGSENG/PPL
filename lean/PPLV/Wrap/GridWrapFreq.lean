import PPLV.Wrap.GridWrap
import PPLV.Lattice.ProofsFreq
import PPLV.Lattice.ProofsQueries

/-!
# `Grid::wrap_assign` lemmas: what `frequency_no_check` (transliterated as `frequencyNoCheck`) returns
-/
namespace PPLV.Wrap.GW
open PPLV.Lattice

/-- `frequency_no_check` returned true with `f_n/f_d`, `v_n/v_d`: both are reduced fractions of rationals
    `f ≥ 0`, `v`, and every value of the expression on the grid is `v + t·f` for an integer `t`
    (K2: `boundsExpr_iff`, `freqOf_spec`, `value_form`) -/
theorem frequencyNoCheck_some {g : Gens} {e : Vec} {f_n f_d v_n v_d : Int}
    (h : frequencyNoCheck g e = some (f_n, f_d, v_n, v_d)) :
    ∃ f v : Rat, 0 ≤ f ∧ f_n = f.num ∧ f_d = (f.den : Int) ∧ v_n = v.num ∧ v_d = (v.den : Int) ∧
      ∀ x, g.Mem x → ∃ t : Int, dotF e x = v + (t : Rat) * f := by
  unfold frequencyNoCheck at h
  by_cases hb : boundsExpr (.gens g) e = true
  · simp only [hb, if_true, Option.some.injEq, Prod.mk.injEq] at h
    obtain ⟨rfl, rfl, rfl, rfl⟩ := h
    refine ⟨0, dot e g.pt, le_refl 0, rfl, rfl, rfl, rfl, ?_⟩
    intro x hx
    refine ⟨0, ?_⟩
    have := (boundsExpr_iff (.gens g) e).mp hb x g.pt.toFun hx Gens.Mem.pt
    rw [this, ← dot_eq_dotF]; simp
  · by_cases hany : g.lines.any (fun l => dot e l != 0) = true
    · simp [hb, hany] at h
    · simp only [hb, hany, if_false, Bool.false_eq_true, Option.some.injEq, Prod.mk.injEq] at h
      obtain ⟨rfl, rfl, rfl, rfl⟩ := h
      have hl : ∀ l ∈ g.lines, dot e l = 0 := by
        intro l hl
        by_contra hne
        exact hany (List.any_eq_true.mpr ⟨l, hl, by simpa using hne⟩)
      obtain ⟨hF0, hFq, _⟩ := freqOf_spec g e
      refine ⟨freqOf g e, _, hF0, rfl, rfl, rfl, rfl, ?_⟩
      intro x hx
      obtain ⟨t, ht⟩ := value_form g e 0 hl (freqOf g e) hFq x hx
      simp only [add_zero] at ht
      split
      · exact ⟨t + ratTrunc (dot e g.pt / freqOf g e) + 1, by rw [ht]; push_cast; ring⟩
      · split
        · exact ⟨t + ratTrunc (dot e g.pt / freqOf g e) - 1, by rw [ht]; push_cast; ring⟩
        · exact ⟨t + ratTrunc (dot e g.pt / freqOf g e), by rw [ht]; push_cast; ring⟩

end PPLV.Wrap.GW

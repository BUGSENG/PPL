import PPLV.Wrap.ProofsArith

/-! # C17 lemmas: `Interval::wrap_assign` over rational boundaries; the executable image test -/
namespace PPLV.Wrap
open PPLV.Lin

/-! ### the executable image test is the specification -/

theorem inRangeB_iff (r : Repn) (w : Nat) (z : Int) : inRangeB r w z = true ↔ inRange r w z := by
  simp [inRangeB, inRange]

theorem coordImageB_iff (cfg : WrapCfg) (z z' : Int) :
    coordImageB cfg z z' = true ↔ Spec.CoordImage cfg (z : Rat) (z' : Rat) := by
  unfold coordImageB Spec.CoordImage
  constructor
  · intro h
    refine ⟨z, rfl, ?_⟩
    cases ho : cfg.o <;> rw [ho] at h <;> simp only at h ⊢
    · have : z' = wrapR cfg.r cfg.w z := by simpa using h
      rw [this]
    · by_cases hr : inRangeB cfg.r cfg.w z = true
      · rw [if_pos hr] at h
        have : z' = z := by simpa using h
        exact Or.inl ⟨(inRangeB_iff _ _ _).mp hr, by rw [this]⟩
      · rw [if_neg hr] at h
        exact Or.inr ⟨fun h' => hr ((inRangeB_iff _ _ _).mpr h'), z', (inRangeB_iff _ _ _).mp h, rfl⟩
    · simp only [Bool.and_eq_true, beq_iff_eq] at h
      exact ⟨(inRangeB_iff _ _ _).mp h.1, by rw [h.2]⟩
  · rintro ⟨z1, hz, h⟩
    have : z1 = z := by exact_mod_cast hz.symm
    subst this
    cases ho : cfg.o <;> rw [ho] at h <;> simp only at h ⊢
    · have : z' = wrapR cfg.r cfg.w z1 := by exact_mod_cast h
      simp [this]
    · rcases h with ⟨hr, h⟩ | ⟨hn, z2, hr, h⟩
      · rw [if_pos ((inRangeB_iff _ _ _).mpr hr)]
        have : z' = z1 := by exact_mod_cast h
        simp [this]
      · rw [if_neg (fun h' => hn ((inRangeB_iff _ _ _).mp h'))]
        have : z' = z2 := by exact_mod_cast h
        rw [this]; exact (inRangeB_iff _ _ _).mpr hr
    · have : z' = z1 := by exact_mod_cast h.2
      simp [this, (inRangeB_iff _ _ _).mpr h.1]

/-! ### boundaries -/

theorem memLo_of_lt {l q : Rat} (op : Bool) (h : l < q) : Itv.memLo (some (l, op)) q := by
  cases op
  · exact h.le
  · exact h

theorem memLo_le {l q : Rat} {op : Bool} (h : Itv.memLo (some (l, op)) q) : l ≤ q := by
  cases op
  · exact h
  · exact le_of_lt h

theorem memHi_of_lt {u q : Rat} (op : Bool) (h : q < u) : Itv.memHi q (some (u, op)) := by
  cases op
  · exact h.le
  · exact h

theorem memHi_le {u q : Rat} {op : Bool} (h : Itv.memHi q (some (u, op))) : q ≤ u := by
  cases op
  · exact h
  · exact le_of_lt h

theorem not_mem_of_isEmpty (I : Itv) (q : Rat) (he : I.isEmpty = true) : ¬ I.mem q := by
  intro hm
  unfold Itv.isEmpty at he
  obtain ⟨h1, h2⟩ := hm
  cases hlo : I.lo with
  | none => rw [hlo] at he; simp at he
  | some a =>
    cases hhi : I.hi with
    | none => rw [hlo, hhi] at he; simp at he
    | some b =>
      obtain ⟨l, lo⟩ := a
      obtain ⟨u, uo⟩ := b
      rw [hlo, hhi] at he
      rw [hlo] at h1; rw [hhi] at h2
      simp only [Bool.or_eq_true, decide_eq_true_eq, Bool.and_eq_true] at he
      rcases he with he | ⟨rfl, rfl | rfl⟩
      · exact absurd (le_trans (memLo_le h1) (memHi_le h2)) (not_le_of_gt he)
      · exact absurd (lt_of_lt_of_le h1 (memHi_le h2)) (lt_irrefl _)
      · exact absurd (lt_of_le_of_lt (memLo_le h1) h2) (lt_irrefl _)

theorem memLo_maxLo (a b : Option (Rat × Bool)) (q : Rat) (ha : Itv.memLo a q) (hb : Itv.memLo b q) :
    Itv.memLo (Itv.maxLo a b) q := by
  rcases a with _ | ⟨a, ao⟩ <;> rcases b with _ | ⟨b, bo⟩ <;> try assumption
  simp only [Itv.maxLo]
  rcases lt_trichotomy a b with h | rfl | h
  · rw [if_pos h]; exact hb
  · rw [if_neg (lt_irrefl _), if_neg (lt_irrefl _)]; cases ao <;> assumption
  · rw [if_neg (not_lt_of_gt h), if_pos h]; exact ha

theorem memHi_minHi (a b : Option (Rat × Bool)) (q : Rat) (ha : Itv.memHi q a) (hb : Itv.memHi q b) :
    Itv.memHi q (Itv.minHi a b) := by
  rcases a with _ | ⟨a, ao⟩ <;> rcases b with _ | ⟨b, bo⟩ <;> try assumption
  simp only [Itv.minHi]
  rcases lt_trichotomy a b with h | rfl | h
  · rw [if_pos h]; exact ha
  · rw [if_neg (lt_irrefl _), if_neg (lt_irrefl _)]; cases ao <;> assumption
  · rw [if_neg (not_lt_of_gt h), if_pos h]; exact hb

theorem mem_inter (I J : Itv) (q : Rat) (hI : I.mem q) (hJ : J.mem q) : (I.inter J).mem q :=
  ⟨memLo_maxLo _ _ _ hI.1 hJ.1, memHi_minHi _ _ _ hI.2 hJ.2⟩

theorem memLo_minLo_left (a b : Option (Rat × Bool)) (q : Rat) (ha : Itv.memLo a q) :
    Itv.memLo (Itv.minLo a b) q := by
  rcases a with _ | ⟨a, ao⟩ <;> rcases b with _ | ⟨b, bo⟩ <;> try trivial
  simp only [Itv.minLo]
  rcases lt_trichotomy a b with h | rfl | h
  · rw [if_pos h]; exact ha
  · rw [if_neg (lt_irrefl _), if_neg (lt_irrefl _)]; cases ao
    · exact memLo_le ha
    · exact memLo_of_lt bo ha
  · rw [if_neg (not_lt_of_gt h), if_pos h]; exact memLo_of_lt bo (lt_of_lt_of_le h (memLo_le ha))

theorem memLo_minLo_right (a b : Option (Rat × Bool)) (q : Rat) (hb : Itv.memLo b q) :
    Itv.memLo (Itv.minLo a b) q := by
  rcases a with _ | ⟨a, ao⟩ <;> rcases b with _ | ⟨b, bo⟩ <;> try trivial
  simp only [Itv.minLo]
  rcases lt_trichotomy a b with h | rfl | h
  · rw [if_pos h]; exact memLo_of_lt ao (lt_of_lt_of_le h (memLo_le hb))
  · rw [if_neg (lt_irrefl _), if_neg (lt_irrefl _)]; cases bo
    · rw [Bool.and_false]; exact memLo_le hb
    · rw [Bool.and_true]; exact memLo_of_lt ao hb
  · rw [if_neg (not_lt_of_gt h), if_pos h]; exact hb

theorem memHi_maxHi_left (a b : Option (Rat × Bool)) (q : Rat) (ha : Itv.memHi q a) :
    Itv.memHi q (Itv.maxHi a b) := by
  rcases a with _ | ⟨a, ao⟩ <;> rcases b with _ | ⟨b, bo⟩ <;> try trivial
  simp only [Itv.maxHi]
  rcases lt_trichotomy a b with h | rfl | h
  · rw [if_pos h]; exact memHi_of_lt bo (lt_of_le_of_lt (memHi_le ha) h)
  · rw [if_neg (lt_irrefl _), if_neg (lt_irrefl _)]; cases ao
    · exact memHi_le ha
    · exact memHi_of_lt bo ha
  · rw [if_neg (not_lt_of_gt h), if_pos h]; exact ha

theorem memHi_maxHi_right (a b : Option (Rat × Bool)) (q : Rat) (hb : Itv.memHi q b) :
    Itv.memHi q (Itv.maxHi a b) := by
  rcases a with _ | ⟨a, ao⟩ <;> rcases b with _ | ⟨b, bo⟩ <;> try trivial
  simp only [Itv.maxHi]
  rcases lt_trichotomy a b with h | rfl | h
  · rw [if_pos h]; exact hb
  · rw [if_neg (lt_irrefl _), if_neg (lt_irrefl _)]; cases bo
    · rw [Bool.and_false]; exact memHi_le hb
    · rw [Bool.and_true]; exact memHi_of_lt ao hb
  · rw [if_neg (not_lt_of_gt h), if_pos h]; exact memHi_of_lt ao (lt_of_le_of_lt (memHi_le hb) h)

theorem mem_hull_left (I J : Itv) (q : Rat) (hI : I.mem q) : (I.hull J).mem q := by
  unfold Itv.hull
  split
  · rename_i he; exact absurd hI (not_mem_of_isEmpty I q he)
  · split
    · exact hI
    · exact ⟨memLo_minLo_left _ _ _ hI.1, memHi_maxHi_left _ _ _ hI.2⟩

theorem mem_hull_right (I J : Itv) (q : Rat) (hJ : J.mem q) : (I.hull J).mem q := by
  unfold Itv.hull
  split
  · exact hJ
  · split
    · rename_i he; exact absurd hJ (not_mem_of_isEmpty J q he)
    · exact ⟨memLo_minLo_right _ _ _ hJ.1, memHi_maxHi_right _ _ _ hJ.2⟩

/-! ### the modulus of a rational boundary -/

theorem modR_spec (r : Repn) (w : Nat) (x : Rat) :
    ∃ k : Int, modR r w x = x - (k : Rat) * ((pow2 w : Int) : Rat) ∧
      ((minValue r w : Int) : Rat) ≤ modR r w x ∧
      modR r w x < ((minValue r w : Int) : Rat) + ((pow2 w : Int) : Rat) := by
  have hp : (0 : Rat) < ((pow2 w : Int) : Rat) := by exact_mod_cast pow2_pos w
  unfold modR
  simp only []
  generalize ((pow2 w : Int) : Rat) = p at hp ⊢
  generalize ((minValue r w : Int) : Rat) = m
  refine ⟨((x - m) / p).floor, rfl, ?_, ?_⟩
  · have h1 : ((((x - m) / p).floor : Int) : Rat) ≤ (x - m) / p := Rat.floor_le _
    have h2 : ((((x - m) / p).floor : Int) : Rat) * p ≤ x - m := by
      rw [le_div_iff₀ hp] at h1; exact h1
    linarith
  · have h1 : (x - m) / p < ((((x - m) / p).floor : Int) : Rat) + 1 := by
      have := Rat.lt_floor_add_one ((x - m) / p)
      push_cast at this; exact this
    have h2 : x - m < (((((x - m) / p).floor : Int) : Rat) + 1) * p := by
      rw [div_lt_iff₀ hp] at h1; exact h1
    linarith

/-- an integer multiple of a positive `p` below `p` is at most `0` -/
theorem int_nonpos_of_mul_lt_self {a : Int} {p : Rat} (hp : 0 < p) (h : (a : Rat) * p < p) : a ≤ 0 := by
  by_contra hc
  have h1 : (1 : Rat) ≤ (a : Rat) := by exact_mod_cast (by omega : 1 ≤ a)
  have := mul_le_mul_of_nonneg_right h1 hp.le
  linarith

/-- the arithmetic core: boundaries `l ≤ z ≤ u` less than one period apart, each reduced into the
period `[m, m+p)` by an integer number of periods.  The numbers of periods satisfy `kl ≤ q ≤ ku ≤ kl + 1`
(`int_nonpos_of_mul_lt_self`, the only non-linear step); everything else is linear in the products `k * p`. -/
theorem wrap_core (p m l u l2 u2 wz zq : Rat) (kl ku q : Int) (hp : 0 < p)
    (hl2 : l2 = l - (kl : Rat) * p) (hl2a : m ≤ l2) (hl2b : l2 < m + p)
    (hu2 : u2 = u - (ku : Rat) * p) (hu2a : m ≤ u2) (hu2b : u2 < m + p)
    (hwz : wz = zq - (q : Rat) * p) (hwa : m ≤ wz) (hwb : wz < m + p)
    (hlz : l ≤ zq) (hzu : zq ≤ u) (hwidth : u - l < p) :
    (l2 ≤ u2 → l2 ≤ wz ∧ wz ≤ u2) ∧ (¬ l2 ≤ u2 → l2 ≤ wz ∨ wz ≤ u2) := by
  have h1 : kl ≤ q := by
    have : ((kl - q : Int) : Rat) * p < p := by push_cast; linarith
    have := int_nonpos_of_mul_lt_self hp this; omega
  have h2 : q ≤ ku := by
    have : ((q - ku : Int) : Rat) * p < p := by push_cast; linarith
    have := int_nonpos_of_mul_lt_self hp this; omega
  have h3 : ku ≤ kl + 1 := by
    have : ((ku - kl - 1 : Int) : Rat) * p < p := by push_cast; linarith
    have := int_nonpos_of_mul_lt_self hp this; omega
  obtain rfl | rfl : ku = kl ∨ ku = kl + 1 := by omega
  · obtain rfl : q = ku := by omega
    exact ⟨fun _ => ⟨by linarith, by linarith⟩, fun h => absurd (by linarith) h⟩
  · push_cast at hu2
    refine ⟨fun h => absurd hwidth (by linarith), fun _ => ?_⟩
    obtain rfl | rfl : q = kl ∨ q = kl + 1 := by omega
    · left; linarith
    · right; push_cast at hwz; linarith

/-- **soundness of `Interval::wrap_assign`**, for the comparison `u >= lower()` of the code
(`strictTest = false`), and for the comparison `u > lower()` when the width is not exactly `2^w` -/
theorem ivWrap_sound (strictTest : Bool) (I : Itv) (w : Nat) (r : Repn) (ref : Itv)
    (h : strictTest = false ∨
      ∀ l lo u uo, I.lo = some (l, lo) → I.hi = some (u, uo) → u - l ≠ ((2 : Int) ^ w : Int))
    (z : Int) (hz : I.mem (z : Rat)) (hr : ref.mem ((wrapR r w z : Int) : Rat)) :
    (ivWrap strictTest I w r ref).mem ((wrapR r w z : Int) : Rat) := by
  unfold ivWrap
  split
  · rename_i he; exact absurd hz (not_mem_of_isEmpty I _ he)
  · split
    · rename_i l lo u uo hlo hhi
      simp only []
      by_cases htest : (if strictTest = true then decide (l < u - ((pow2 w : Int) : Rat))
          else decide (l ≤ u - ((pow2 w : Int) : Rat))) = true
      · rw [if_pos htest]; exact hr
      · rw [if_neg htest]
        have hp : (0 : Rat) < ((pow2 w : Int) : Rat) := by exact_mod_cast pow2_pos w
        have hlz : l ≤ (z : Rat) := memLo_le (hlo ▸ hz.1)
        have hzu : (z : Rat) ≤ u := memHi_le (hhi ▸ hz.2)
        have hwidth : u - l < ((pow2 w : Int) : Rat) := by
          rcases h with h | h
          · subst h
            simp only [Bool.false_eq_true, ↓reduceIte, decide_eq_true_eq, not_le] at htest
            linarith
          · have hne := h l lo u uo hlo hhi
            have hne' : u - l ≠ ((pow2 w : Int) : Rat) := by
              intro he; apply hne; rw [he]; simp [pow2]
            cases strictTest
            · simp only [Bool.false_eq_true, ↓reduceIte, decide_eq_true_eq, not_le] at htest
              linarith
            · simp only [↓reduceIte, decide_eq_true_eq, not_lt] at htest
              exact lt_of_le_of_ne (by linarith) hne'
        obtain ⟨kl, hl2, hl2a, hl2b⟩ := modR_spec r w l
        obtain ⟨ku, hu2, hu2a, hu2b⟩ := modR_spec r w u
        have hwz : ((wrapR r w z : Int) : Rat)
            = (z : Rat) - ((quadrant r w z : Int) : Rat) * ((pow2 w : Int) : Rat) := by
          rw [wrapR_eq_sub]; push_cast; rfl
        have hwr := wrapR_inRange r w z
        have hwa : ((minValue r w : Int) : Rat) ≤ ((wrapR r w z : Int) : Rat) := by exact_mod_cast hwr.1
        have hwb : ((wrapR r w z : Int) : Rat) < ((minValue r w : Int) : Rat) + ((pow2 w : Int) : Rat) := by
          have h1 : wrapR r w z < minValue r w + pow2 w := by
            have := hwr.2; unfold maxValue at this; omega
          have : ((wrapR r w z : Int) : Rat) < ((minValue r w + pow2 w : Int) : Rat) := by exact_mod_cast h1
          push_cast at this; exact this
        obtain ⟨c1, c2⟩ := wrap_core _ _ l u _ _ _ _ kl ku _ hp hl2 hl2a hl2b hu2 hu2a hu2b hwz hwa hwb hlz hzu hwidth
        split
        · rename_i hle
          obtain ⟨a1, a2⟩ := c1 hle
          apply mem_inter _ _ _ _ hr
          constructor
          · show Itv.memLo (some (_, false)) _
            simpa [Itv.memLo] using a1
          · show Itv.memHi _ (some (_, false))
            simpa [Itv.memHi] using a2
        · rename_i hnle
          rcases c2 hnle with a1 | a2
          · apply mem_hull_left
            apply mem_inter _ _ _ _ hr
            constructor
            · show Itv.memLo (some (_, false)) _
              simpa [Itv.memLo] using a1
            · trivial
          · apply mem_hull_right
            apply mem_inter _ _ _ _ hr
            constructor
            · trivial
            · show Itv.memHi _ (some (_, false))
              simpa [Itv.memHi] using a2
    · exact hr

end PPLV.Wrap

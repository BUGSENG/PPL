import PPLV.Wrap.ProofsArith
import PPLV.Lin.Sup
import PPLV.Lin.CertProofs

/-! # C17 lemmas: the reference for `contains_integer_point()`, the tightening step of
`drop_some_non_integer_points` -/
namespace PPLV.Wrap
open PPLV.Lin

/-! ### integer bounds from K1 -/

/-- an integer value of `e·x` on the solutions is at most the floor of a finite supremum `p/q` -/
theorem le_floor_of_sup {n : Nat} {e : List Int} {cs : List Con} (hwf : WF n cs) (he : e.length ≤ n) {p q : Int}
    {att : Bool} (h : supB n e 0 cs = .val p q att) {x : Val} (hx : x ∈ sem cs) {z : Int}
    (hz : dot e x = (z : Rat)) : z ≤ p / q := by
  have s := supB_spec n e 0 cs hwf he
  rw [h] at s
  obtain ⟨hq, hub, _, _⟩ := s
  have u := hub x hx
  have hqr : (0 : Rat) < (q : Rat) := by exact_mod_cast hq
  rw [hz, Int.cast_zero, add_zero, le_div_iff₀ hqr] at u
  exact (Int.le_ediv_iff_mul_le hq).mpr (by exact_mod_cast u)

theorem intBound_spec (n : Nat) (cs : List Con) (i : Nat) (lo hi : Int) (hwf : WF n cs) (hi_lt : i < n)
    (h : intBound n cs i = some (lo, hi)) (x : Val) (hx : x ∈ sem cs) (z : Int) (hz : x i = (z : Rat)) :
    lo ≤ z ∧ z ≤ hi := by
  have hlen : ∀ a : Int, (unitRow i a).length ≤ n := fun a => by simp [unitRow]; omega
  unfold intBound at h
  generalize h1 : supB n (unitRow i 1) 0 cs = S1 at h
  generalize h2 : supB n (unitRow i (-1)) 0 cs = S2 at h
  split at h
  · simp only [Option.some.injEq, Prod.mk.injEq] at h
    obtain ⟨rfl, rfl⟩ := h
    have u1 := le_floor_of_sup hwf (hlen 1) h1 hx (z := z) (by rw [dot_unitRow, hz]; simp)
    have u2 := le_floor_of_sup hwf (hlen (-1)) h2 hx (z := -z) (by rw [dot_unitRow, hz]; simp)
    omega
  · cases h

/-! ### enumeration of a box -/

def InBox (z : Int) (b : Int × Int) : Prop := b.1 ≤ z ∧ z ≤ b.2

theorem mem_intRange (lo hi z : Int) (h1 : lo ≤ z) (h2 : z ≤ hi) : z ∈ intRange lo hi := by
  unfold intRange
  rw [List.mem_map]
  exact ⟨(z - lo).toNat, by rw [List.mem_range]; omega, by omega⟩

theorem mem_boxPoints (p : List Int) (box : List (Int × Int)) (h : List.Forall₂ InBox p box) :
    p ∈ boxPoints box := by
  induction h with
  | nil => simp [boxPoints]
  | @cons z b ps bs hab _ ih =>
    obtain ⟨lo, hi⟩ := b
    unfold boxPoints
    rw [List.mem_flatMap]
    exact ⟨z, mem_intRange lo hi z hab.1 hab.2, List.mem_map.mpr ⟨ps, ih, rfl⟩⟩

theorem forall₂_snoc {α β : Type} (R : α → β → Prop) (l1 : List α) (l2 : List β) (a : α) (b : β)
    (h : List.Forall₂ R l1 l2) (hab : R a b) : List.Forall₂ R (l1 ++ [a]) (l2 ++ [b]) := by
  induction h with
  | nil => exact List.Forall₂.cons hab List.Forall₂.nil
  | cons h1 _ ih => exact List.Forall₂.cons h1 ih

theorem allBounds_forall₂ (n : Nat) (cs : List Con) (hwf : WF n cs) (x : Val) (hx : x ∈ sem cs)
    (f : Nat → Int) (hf : ∀ i < n, x i = (f i : Rat)) :
    ∀ k, k ≤ n → ∀ box, allBounds n cs k = some box → List.Forall₂ InBox ((List.range k).map f) box := by
  intro k
  induction k with
  | zero =>
    intro _ box h
    simp only [allBounds, Option.some.injEq] at h
    subst h; simp
  | succ k ih =>
    intro hk box h
    unfold allBounds at h
    split at h
    · rename_i b lh hb hlh
      simp only [Option.some.injEq] at h
      subst h
      rw [List.range_succ, List.map_append]
      apply forall₂_snoc _ _ _ _ _ (ih (by omega) b hb)
      obtain ⟨lo, hi⟩ := lh
      exact intBound_spec n cs k lo hi hwf (by omega) hlh x hx (f k) (hf k (by omega))
    · cases h

/-! ### the reference -/

theorem ratPoint_one (p : List Int) (i : Nat) : ratPoint p 1 i = ((p.getD i 0 : Int) : Rat) := by
  simp [ratPoint]

theorem sat_of_agree (n : Nat) (c : Con) (hc : c.coeffs.length ≤ n) (x y : Val) (h : ∀ i < n, x i = y i) :
    c.sat x ↔ c.sat y := by
  have : dot c.coeffs x = dot c.coeffs y := dot_agree _ _ _ (fun i hi => h i (by omega))
  unfold Con.sat Con.eval; rw [this]

theorem containsIntegerPointRef_sound (cap n : Nat) (cs : List Con) (hwf : WF n cs) (b : Bool)
    (h : containsIntegerPointRef cap n cs = some b) :
    b = true ↔ ∃ x ∈ sem cs, ∀ i < n, isInt (x i) := by
  unfold containsIntegerPointRef at h
  split at h
  · -- infeasible
    rename_i hf
    simp only [Option.some.injEq] at h
    subst h
    constructor
    · intro h; cases h
    · rintro ⟨x, hx, _⟩
      have : feasible n cs = true := (feasible_iff n cs hwf).mpr ⟨x, hx⟩
      rw [this] at hf; simp at hf
  · split at h
    · cases h
    · rename_i box hbox
      split at h
      · simp only [Option.some.injEq] at h
        subst h
        rw [List.any_eq_true]
        constructor
        · rintro ⟨p, _, hp⟩
          rw [List.all_eq_true] at hp
          refine ⟨ratPoint p 1, ?_, ?_⟩
          · intro c hc
            exact (holdsAt_iff c p 1 (by decide)).mp (hp c hc)
          · intro i _; exact ⟨p.getD i 0, ratPoint_one p i⟩
        · rintro ⟨x, hx, hint⟩
          -- the integer coordinates of x
          have hf : ∀ i < n, x i = (((x i).floor : Int) : Rat) := by
            intro i hi
            obtain ⟨z, hz⟩ := hint i hi
            rw [hz]; simp
          let p := (List.range n).map fun i => (x i).floor
          refine ⟨p, ?_, ?_⟩
          · exact mem_boxPoints p box (allBounds_forall₂ n cs hwf x hx _ hf n (Nat.le_refl n) box hbox)
          · rw [List.all_eq_true]
            intro c hc
            rw [holdsAt_iff c p 1 (by decide)]
            rw [sat_of_agree n c (hwf c hc) (ratPoint p 1) x]
            · exact hx c hc
            · intro i hi
              rw [ratPoint_one]
              have : p.getD i 0 = (x i).floor := by
                simp [p, List.getD, hi]
              rw [this]; exact (hf i hi).symm
      · cases h

/-! ### one tightening step of `Polyhedron::drop_some_non_integer_points` -/

/-- a linear form with integer coefficients takes an integer value at a point that is integer on
the variables it mentions -/
theorem dot_isInt (e : List Int) (x : Val) (h : ∀ i, e.getD i 0 ≠ 0 → isInt (x i)) : isInt (dot e x) := by
  induction e generalizing x with
  | nil => exact ⟨0, by simp⟩
  | cons a as ih =>
    obtain ⟨t, ht⟩ := ih x.tail (fun i hi => h (i + 1) (by simpa using hi))
    by_cases ha : a = 0
    · exact ⟨t, by simp [ha, ht]⟩
    · obtain ⟨z, hz⟩ := h 0 (by simpa using ha)
      exact ⟨a * z + t, by simp [ht, hz]⟩

theorem isInt_ite {c : Prop} [Decidable c] {a b : Rat} (ha : isInt a) (hb : isInt b) :
    isInt (if c then a else b) := by
  split
  · exact ha
  · exact hb

theorem drop_tighten_sound (vars : Set Nat) (cs : List Con) (c : Con) (e : List Int) (g k : Int) (hg : 0 < g)
    (hc : c.coeffs = e.map (g * ·)) (hk : c.k = k) (hvars : ∀ i, e.getD i 0 ≠ 0 → i ∈ vars) :
    (sem ((⟨e, (if c.strict then k - 1 else k) / g, false⟩ : Con) :: cs) ⊆ sem (c :: cs)) ∧
    ∀ x ∈ sem (c :: cs), (∀ i ∈ vars, isInt (x i)) →
      x ∈ sem ((⟨e, (if c.strict then k - 1 else k) / g, false⟩ : Con) :: cs) := by
  have hgr : (0 : Rat) < (g : Rat) := by exact_mod_cast hg
  -- `k'`: the constant with the strictness folded in (on integers `g·t + k > 0` is `g·t + (k - 1) ≥ 0`)
  generalize hk' : (if c.strict then k - 1 else k) = k'
  constructor
  · intro x hx c' hc'
    rcases List.mem_cons.mp hc' with rfl | hc'
    · have h0 := hx _ List.mem_cons_self
      unfold Con.sat Con.eval at h0 ⊢
      simp only [Bool.false_eq_true, ↓reduceIte] at h0
      rw [hc, hk, dot_map_mul]
      have hfl : ((k' / g : Int) : Rat) * (g : Rat) ≤ (k' : Rat) := by
        exact_mod_cast Int.ediv_mul_le k' (Int.ne_of_gt hg)
      have hmain : 0 ≤ (g : Rat) * dot e x + (k' : Rat) := by
        have := mul_nonneg hgr.le h0
        linarith
      cases hs : c'.strict <;> rw [hs] at hk' <;> simp only [Bool.false_eq_true, ↓reduceIte] at hk' ⊢ <;>
        subst hk'
      · exact hmain
      · push_cast at hmain; linarith
    · exact hx c' (List.mem_cons_of_mem _ hc')
  · intro x hx hint c' hc'
    rcases List.mem_cons.mp hc' with rfl | hc'
    · have h0 := hx c List.mem_cons_self
      obtain ⟨t, ht⟩ := dot_isInt e x (fun i hi => hint i (hvars i hi))
      unfold Con.sat Con.eval at h0 ⊢
      simp only [Bool.false_eq_true, ↓reduceIte]
      rw [hc, hk, dot_map_mul, ht] at h0
      rw [ht]
      have hint' : 0 ≤ g * t + k' := by
        cases hs : c.strict <;> rw [hs] at h0 hk' <;> simp only [Bool.false_eq_true, ↓reduceIte] at h0 hk' <;>
          subst hk'
        · exact_mod_cast h0
        · have : 0 < g * t + k := by exact_mod_cast h0
          omega
      have := (Int.le_ediv_iff_mul_le hg).mpr (show (-t) * g ≤ k' by linarith)
      have : 0 ≤ t + k' / g := by omega
      exact_mod_cast this
    · exact hx c' (List.mem_cons_of_mem _ hc')

end PPLV.Wrap

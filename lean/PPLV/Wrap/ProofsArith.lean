import PPLV.Wrap.Model
import PPLV.Lin.Project

/-! # C17 lemmas: arithmetic of quadrants, range rows, coordinate images -/
namespace PPLV.Wrap
open PPLV.Lin

/-- case analysis on a conditional in the argument of a predicate, as a term -/
theorem ite_rule {α : Type} {P : α → Prop} (c : Prop) [Decidable c] {a b : α} (ha : c → P a) (hb : ¬ c → P b) :
    P (if c then a else b) := by
  split
  · exact ha ‹_›
  · exact hb ‹_›

theorem pow2_pos (w : Nat) : 0 < pow2 w := by unfold pow2; positivity

/-- for the widths the library accepts, `half w` is `2^(w-1)` -/
theorem half_eq (w : Nat) (hw : 0 < w) : half w = 2 ^ (w - 1) := by
  obtain ⟨k, rfl⟩ : ∃ k, w = k + 1 := ⟨w - 1, by omega⟩
  unfold half pow2
  simp [pow_succ]

/-- **key lemma**: the wrapped value is the value translated by its quadrant -/
theorem wrapR_eq_sub (r : Repn) (w : Nat) (z : Int) :
    wrapR r w z = z - quadrant r w z * pow2 w := by
  have h := Int.emod_add_mul_ediv (z - minValue r w) (pow2 w)
  unfold quadrant
  cases r with
  | unsigned =>
    simp only [wrapR, wrapU, minValue, Int.sub_zero] at *
    rw [Int.mul_comm] at h; omega
  | signed =>
    simp only [wrapR, wrapS, minValue] at *
    have e : z - -half w = z + half w := by omega
    rw [e] at h ⊢
    rw [Int.mul_comm] at h; omega

theorem wrapR_eq_min_add (r : Repn) (w : Nat) (z : Int) :
    wrapR r w z = minValue r w + (z - minValue r w) % pow2 w := by
  cases r with
  | unsigned => simp [wrapR, wrapU, minValue]
  | signed =>
    simp only [wrapR, wrapS, minValue]
    have e : z - -half w = z + half w := by omega
    rw [e]; omega

theorem wrapR_inRange (r : Repn) (w : Nat) (z : Int) : inRange r w (wrapR r w z) := by
  rw [wrapR_eq_min_add]
  have h1 := Int.emod_nonneg (z - minValue r w) (Int.ne_of_gt (pow2_pos w))
  have h2 := Int.emod_lt_of_pos (z - minValue r w) (pow2_pos w)
  unfold inRange maxValue
  omega

/-- `quadrant = ⌊(x − min)/2^w⌋ = 0` exactly for the values in range -/
theorem inRange_iff_quadrant (r : Repn) (w : Nat) (z : Int) :
    inRange r w z ↔ quadrant r w z = 0 := by
  unfold inRange maxValue quadrant
  constructor
  · intro h
    exact Int.ediv_eq_zero_of_lt (by omega) (by omega)
  · intro h
    have h0 := Int.emod_add_mul_ediv (z - minValue r w) (pow2 w)
    rw [h] at h0
    have h1 := Int.emod_nonneg (z - minValue r w) (Int.ne_of_gt (pow2_pos w))
    have h2 := Int.emod_lt_of_pos (z - minValue r w) (pow2_pos w)
    omega

theorem wrapR_of_inRange (r : Repn) (w : Nat) (z : Int) (h : inRange r w z) : wrapR r w z = z := by
  rw [wrapR_eq_sub, (inRange_iff_quadrant r w z).mp h]; simp

theorem quadrant_mono (r : Repn) (w : Nat) {a b : Int} (h : a ≤ b) : quadrant r w a ≤ quadrant r w b := by
  unfold quadrant
  exact Int.ediv_le_ediv (pow2_pos w) (by omega)

/-- the quadrants of the floors of rational bounds enclose the quadrant of an integer value -/
theorem quadrant_bounds (r : Repn) (w : Nat) (l u : Rat) (z : Int)
    (hl : l ≤ (z : Rat)) (hu : (z : Rat) ≤ u) :
    quadrant r w l.floor ≤ quadrant r w z ∧ quadrant r w z ≤ quadrant r w u.floor := by
  constructor
  · apply quadrant_mono
    have h1 : ((l.floor : Int) : Rat) ≤ (z : Rat) := le_trans (Rat.floor_le l) hl
    exact_mod_cast h1
  · apply quadrant_mono
    exact Rat.le_floor_iff.mpr hu

theorem mem_quadrants (first last q : Int) (h1 : first ≤ q) (h2 : q ≤ last) : q ∈ quadrants first last := by
  unfold quadrants
  rw [List.mem_map]
  refine ⟨(q - first).toNat, ?_, ?_⟩
  · rw [List.mem_range]; omega
  · omega

/-! ### range rows -/

theorem lowRow_sat (r : Repn) (w : Nat) (x : Nat) (v : Pt) :
    (lowRow r w x).sat v ↔ ((minValue r w : Int) : Rat) ≤ v x := by
  unfold lowRow geRow Con.sat Con.eval
  simp only [dot_unitRow]
  simp only [Bool.false_eq_true, ↓reduceIte]
  push_cast
  constructor <;> intro h <;> linarith

theorem highRow_sat (r : Repn) (w : Nat) (x : Nat) (v : Pt) :
    (highRow r w x).sat v ↔ v x ≤ ((maxValue r w : Int) : Rat) := by
  unfold highRow geRow Con.sat Con.eval
  simp only [dot_unitRow]
  simp only [Bool.false_eq_true, ↓reduceIte]
  push_cast
  constructor <;> intro h <;> linarith

/-- the coordinate is an in-range integer -/
def InRangeQ (r : Repn) (w : Nat) (a : Rat) : Prop := ∃ z : Int, a = (z : Rat) ∧ inRange r w z

theorem lowRow_of_inRange {r : Repn} {w : Nat} {x : Nat} {v : Pt} (h : InRangeQ r w (v x)) :
    (lowRow r w x).sat v := by
  obtain ⟨z, hz, h1, _⟩ := h
  rw [lowRow_sat, hz]; exact_mod_cast h1

theorem highRow_of_inRange {r : Repn} {w : Nat} {x : Nat} {v : Pt} (h : InRangeQ r w (v x)) :
    (highRow r w x).sat v := by
  obtain ⟨z, hz, _, h2⟩ := h
  rw [highRow_sat, hz]; exact_mod_cast h2

theorem rangeRows_sat {r : Repn} {w : Nat} {x : Nat} {v : Pt} (h : InRangeQ r w (v x)) :
    Sat (rangeRows r w x) v := by
  intro c hc
  simp only [rangeRows, List.mem_cons, List.mem_nil_iff, or_false] at hc
  rcases hc with rfl | rfl
  · exact lowRow_of_inRange h
  · exact highRow_of_inRange h

theorem Sat_append {cs ds : List Con} {v : Pt} (h1 : Sat cs v) (h2 : Sat ds v) : Sat (cs ++ ds) v := by
  intro c hc
  rcases List.mem_append.mp hc with h | h
  · exact h1 c h
  · exact h2 c h

theorem Sat_nil (v : Pt) : Sat [] v := by intro c hc; cases hc

/-! ### coordinate images -/

theorem coordImage_inRange {cfg : WrapCfg} {a a' : Rat} (h : Spec.CoordImage cfg a a') :
    InRangeQ cfg.r cfg.w a' := by
  obtain ⟨z, _, h⟩ := h
  cases ho : cfg.o <;> rw [ho] at h <;> simp only at h
  · exact ⟨_, h, wrapR_inRange _ _ _⟩
  · rcases h with ⟨hr, h⟩ | ⟨_, z', hr, h⟩
    · exact ⟨z, h, hr⟩
    · exact ⟨z', h, hr⟩
  · exact ⟨z, h.2, h.1⟩

/-- a coordinate that is in range is its own (only) image -/
theorem coordImage_of_inRange {cfg : WrapCfg} {z : Int} {a' : Rat}
    (h : Spec.CoordImage cfg (z : Rat) a') (hr : inRange cfg.r cfg.w z) : a' = (z : Rat) := by
  obtain ⟨z1, hz, h⟩ := h
  have : z1 = z := by exact_mod_cast hz.symm
  subst this
  cases ho : cfg.o <;> rw [ho] at h <;> simp only at h
  · rw [h, wrapR_of_inRange _ _ _ hr]
  · rcases h with ⟨_, h⟩ | ⟨hn, _⟩
    · exact h
    · exact absurd hr hn
  · exact h.2

theorem coordImage_wraps {cfg : WrapCfg} {z : Int} {a' : Rat} (ho : cfg.o = .wraps)
    (h : Spec.CoordImage cfg (z : Rat) a') : a' = ((wrapR cfg.r cfg.w z : Int) : Rat) := by
  obtain ⟨z1, hz, h⟩ := h
  have : z1 = z := by exact_mod_cast hz.symm
  subst this
  rw [ho] at h; exact h

theorem coordImage_impossible {cfg : WrapCfg} {a a' : Rat} (ho : cfg.o = .impossible)
    (h : Spec.CoordImage cfg a a') : a' = a := by
  obtain ⟨z1, hz, h⟩ := h
  rw [ho] at h; rw [hz]; exact h.2

end PPLV.Wrap

import PPLV.Wrap.ProofsArith

/-! # C17 lemmas: the variable sets, fold lemmas, the point followed through the loops -/
namespace PPLV.Wrap
open PPLV.Lin

/-! ### `Variables_Set` -/

theorem mem_insertVar (x y : Nat) (l : List Nat) : y ∈ insertVar x l ↔ y = x ∨ y ∈ l := by
  induction l with
  | nil => simp [insertVar]
  | cons a as ih =>
    unfold insertVar
    split
    · simp
    · split
      · rename_i h1 h2; subst h2; simp
      · simp only [List.mem_cons, ih]
        constructor
        · rintro (h | h | h) <;> simp [h]
        · rintro (h | h | h) <;> simp [h]

theorem mem_normVars (y : Nat) (l : List Nat) : y ∈ normVars l ↔ y ∈ l := by
  induction l with
  | nil => simp [normVars]
  | cons a as ih =>
    have : normVars (a :: as) = insertVar a (normVars as) := rfl
    rw [this, mem_insertVar, ih]; simp

theorem insertVar_sorted (x : Nat) (l : List Nat) (h : l.Pairwise (· < ·)) :
    (insertVar x l).Pairwise (· < ·) := by
  induction l with
  | nil => simp [insertVar]
  | cons a as ih =>
    unfold insertVar
    have ha := List.pairwise_cons.mp h
    split
    · rename_i hlt
      refine List.pairwise_cons.mpr ⟨?_, h⟩
      intro b hb
      rcases List.mem_cons.mp hb with rfl | hb
      · exact hlt
      · exact Nat.lt_trans hlt (ha.1 b hb)
    · split
      · exact h
      · rename_i h1 h2
        refine List.pairwise_cons.mpr ⟨?_, ih ha.2⟩
        intro b hb
        rcases (mem_insertVar x b as).mp hb with rfl | hb
        · omega
        · exact ha.1 b hb

theorem normVars_sorted (l : List Nat) : (normVars l).Pairwise (· < ·) := by
  induction l with
  | nil => simp [normVars]
  | cons a as ih => exact insertVar_sorted a _ ih

theorem normVars_nodup (l : List Nat) : (normVars l).Nodup := by
  have h := normVars_sorted l
  exact h.imp (fun hab => Nat.ne_of_lt hab)

/-! ### the point that is followed: `v` on the listed coordinates, the target `v'` elsewhere -/

def mix (v v' : Pt) (L : List Nat) : Pt := fun i => if i ∈ L then v i else v' i

theorem mix_nil (v v' : Pt) : mix v v' [] = v' := by funext i; simp [mix]

theorem mix_congr (v v' : Pt) {L M : List Nat} (h : ∀ i, i ∈ L ↔ i ∈ M) : mix v v' L = mix v v' M := by
  funext i; simp only [mix, h i]

/-- moving `x` from "still `v`" to "already `v'`" is an update at `x` -/
theorem mix_update (v v' : Pt) (x : Nat) (L M : List Nat)
    (h : ∀ i, i ∈ L ↔ (i = x ∨ i ∈ M)) (hx : x ∉ M) :
    (mix v v' L).update x (v' x) = mix v v' M := by
  funext i
  simp only [Val.update, mix]
  by_cases hi : i = x
  · subst hi; simp [hx]
  · simp only [hi, ↓reduceIte, h i, false_or]

theorem update_self (u : Pt) (x : Nat) : u.update x (u x) = u := by
  funext i; simp only [Val.update]; split
  · rename_i h; rw [h]
  · rfl

/-! ### fold lemmas -/

/-- a threaded accumulator that never loses a point and gains `pt` at some index -/
theorem foldl_acc_mem {D α : Type} (γ : D → Pt → Prop) (F : D → α → D) (qs : List α) (init : D) (pt : Pt)
    (mono : ∀ a q, γ a pt → γ (F a q) pt)
    (h : γ init pt ∨ ∃ q ∈ qs, ∀ a, γ (F a q) pt) :
    γ (qs.foldl F init) pt := by
  induction qs generalizing init with
  | nil =>
    rcases h with h | ⟨q, hq, _⟩
    · exact h
    · cases hq
  | cons a as ih =>
    simp only [List.foldl_cons]
    apply ih
    rcases h with h | ⟨q, hq, hb⟩
    · exact Or.inl (mono _ _ h)
    · rcases List.mem_cons.mp hq with rfl | hq
      · exact Or.inl (hb _)
      · exact Or.inr ⟨q, hq, hb⟩

/-- a hull accumulated with `join` contains every point of every joined element -/
theorem foldl_join_mem (d : Dom) {α : Type} (body : α → d.D) (qs : List α) (init : d.D) (pt : Pt)
    (h : d.γ init pt ∨ ∃ q ∈ qs, d.γ (body q) pt) :
    d.γ (qs.foldl (fun hull q => d.join hull (body q)) init) pt :=
  foldl_acc_mem d.γ _ qs init pt (fun _ _ h => d.join_left _ _ _ h)
    (h.imp_right fun ⟨q, hq, hb⟩ => ⟨q, hq, fun _ => d.join_right _ _ _ hb⟩)

theorem foldl_refine_mem (d : Dom) (used : Con → Bool) (cs : List Con) (p : d.D) (pt : Pt)
    (hp : d.γ p pt) (h : ∀ c ∈ cs, used c = true → c.sat pt) :
    d.γ (cs.foldl (fun p c => if used c then d.refine p c else p) p) pt := by
  induction cs generalizing p with
  | nil => exact hp
  | cons c cs ih =>
    simp only [List.foldl_cons]
    apply ih
    · split
      · rename_i hu
        exact d.refine_sound _ _ _ hp (h c (List.mem_cons_self) hu)
      · exact hp
    · intro c' hc'; exact h c' (List.mem_cons_of_mem _ hc')

theorem refineRange_mem (d : Dom) (cfg : WrapCfg) (p : d.D) (x : Nat) (pt : Pt)
    (hp : d.γ p pt) (hr : InRangeQ cfg.r cfg.w (pt x)) : d.γ (refineRange d cfg p x) pt := by
  unfold refineRange
  exact d.refine_sound _ _ _ (d.refine_sound _ _ _ hp (lowRow_of_inRange hr)) (highRow_of_inRange hr)

theorem foldl_refineRange_mem (d : Dom) (cfg : WrapCfg) (vars : List Nat) (p : d.D) (pt : Pt)
    (hp : d.γ p pt) (hr : ∀ x ∈ vars, InRangeQ cfg.r cfg.w (pt x)) :
    d.γ (vars.foldl (fun p x => refineRange d cfg p x) p) pt := by
  induction vars generalizing p with
  | nil => exact hp
  | cons x xs ih =>
    simp only [List.foldl_cons]
    apply ih
    · exact refineRange_mem d cfg p x pt hp (hr x List.mem_cons_self)
    · intro y hy; exact hr y (List.mem_cons_of_mem _ hy)

theorem foldl_unconstrain_mem (d : Dom) {α : Type} (f : α → Nat) (ts : List α) (p : d.D) (pt : Pt)
    (hp : d.γ p pt) : d.γ (ts.foldl (fun p t => d.unconstrain p (f t)) p) pt := by
  induction ts generalizing p with
  | nil => exact hp
  | cons t ts ih =>
    simp only [List.foldl_cons]
    apply ih
    have := d.unconstrain_sound p (f t) pt (pt (f t)) hp
    rwa [update_self] at this

theorem refineGuard_mem (d : Dom) (cfg : WrapCfg) (p : d.D) (pt : Pt)
    (hp : d.γ p pt) (hg : Spec.GuardOK cfg pt) : d.γ (refineGuard d cfg p) pt := by
  unfold refineGuard
  cases hc : cfg.guard with
  | none => exact hp
  | some cs => exact d.refineAll_sound _ _ _ hp (hg cs hc)

/-- translating by the quadrant of the value lands on the wrapped value -/
theorem shiftTo_mem (d : Dom) (cfg : WrapCfg) (p : d.D) (x : Nat) (u : Pt) (z : Int)
    (hp : d.γ p u) (hz : u x = (z : Rat)) :
    d.γ (shiftTo d cfg.w p x (quadrant cfg.r cfg.w z)) (u.update x ((wrapR cfg.r cfg.w z : Int) : Rat)) := by
  unfold shiftTo
  split
  · have := d.translate_sound p x (quadrant cfg.r cfg.w z * pow2 cfg.w) u hp
    rw [hz] at this
    have e : ((wrapR cfg.r cfg.w z : Int) : Rat) = (z : Rat) - ((quadrant cfg.r cfg.w z * pow2 cfg.w : Int) : Rat) := by
      rw [wrapR_eq_sub]; push_cast; ring
    rw [e]; exact this
  · rename_i hq
    have hq : quadrant cfg.r cfg.w z = 0 := by
      by_contra h; exact hq h
    have : wrapR cfg.r cfg.w z = z := by rw [wrapR_eq_sub, hq]; simp
    rw [this, ← hz, update_self]; exact hp

/-! ### constraints that do not mention the coordinates on which two points differ -/

theorem dot_eq_of_zero_coeff (as : List Int) (x y : Val)
    (h : ∀ i, as.getD i 0 ≠ 0 → x i = y i) : dot as x = dot as y := by
  induction as generalizing x y with
  | nil => simp
  | cons a as ih =>
    simp only [dot_cons]
    have h0 : (a : Rat) * x 0 = (a : Rat) * y 0 := by
      by_cases ha : a = 0
      · simp [ha]
      · rw [h 0 (by simpa using ha)]
    rw [h0, ih x.tail y.tail]
    intro i hi
    exact h (i + 1) (by simpa using hi)

theorem sat_of_allZeroOn (c : Con) (vars : List Nat) (x y : Val)
    (hz : Con.allZeroOn c vars = true) (h : ∀ i, i ∉ vars → x i = y i) : c.sat x ↔ c.sat y := by
  have : dot c.coeffs x = dot c.coeffs y := by
    apply dot_eq_of_zero_coeff
    intro i hi
    apply h
    intro hmem
    unfold Con.allZeroOn at hz
    rw [List.all_eq_true] at hz
    have := hz i hmem
    simp only [Con.at, beq_iff_eq] at this
    exact hi this
  unfold Con.sat Con.eval
  rw [this]

/-! ### `all_zeroes` as executed implies independence -/

theorem mem_takeWhile_sat (p : Int → Bool) : ∀ (l : List Int) (a : Int), a ∈ l.takeWhile p → p a = true
  | [], _, h => by simp at h
  | x :: xs, a, h => by
    simp only [List.takeWhile_cons] at h
    split at h
    · rcases List.mem_cons.mp h with rfl | h'
      · assumption
      · exact mem_takeWhile_sat p xs a h'
    · simp at h

theorem at_eq_zero_of_dim_le (c : Con) (i : Nat) (h : conDim c ≤ i) : c.at i = 0 := by
  unfold conDim at h
  unfold Con.at
  have hsplit : c.coeffs = (c.coeffs.reverse.dropWhile (· == 0)).reverse ++ (c.coeffs.reverse.takeWhile (· == 0)).reverse := by
    have := List.takeWhile_append_dropWhile (p := (· == 0)) (l := c.coeffs.reverse)
    have h2 := congrArg List.reverse this
    rw [List.reverse_append, List.reverse_reverse] at h2
    exact h2.symm
  rw [hsplit, List.getD_eq_getElem?_getD, List.getElem?_append_right (by simpa using h)]
  cases hget : ((c.coeffs.reverse.takeWhile (· == 0)).reverse)[i - (c.coeffs.reverse.dropWhile (· == 0)).reverse.length]? with
  | none => rfl
  | some a =>
    have hm : a ∈ (c.coeffs.reverse.takeWhile (· == 0)).reverse := List.mem_of_getElem? hget
    rw [List.mem_reverse] at hm
    have := mem_takeWhile_sat _ _ _ hm
    simpa using this

theorem dim_le_guardSpaceDim (cs : List Con) (c : Con) (hc : c ∈ cs) : conDim c ≤ guardSpaceDim cs := by
  unfold guardSpaceDim
  have key : ∀ (l : List Con) (m : Nat), m ≤ l.foldl (fun m c => max m (conDim c)) m ∧
      ∀ c ∈ l, conDim c ≤ l.foldl (fun m c => max m (conDim c)) m := by
    intro l
    induction l with
    | nil => intro m; exact ⟨Nat.le_refl _, fun c hc => by cases hc⟩
    | cons a as ih =>
      intro m
      simp only [List.foldl_cons]
      obtain ⟨h1, h2⟩ := ih (max m (conDim a))
      refine ⟨Nat.le_trans (Nat.le_max_left _ _) h1, ?_⟩
      intro c hc
      rcases List.mem_cons.mp hc with rfl | hc
      · exact Nat.le_trans (Nat.le_max_right _ _) h1
      · exact h2 c hc
  exact (key cs 0).2 c hc

theorem allZeroOn_of_asRead (cs : List Con) (eps : Bool) (c : Con) (hc : c ∈ cs) (vars : List Nat)
    (h : allZeroesAsRead (guardSpaceDim cs) eps c vars = true) : Con.allZeroOn c vars = true := by
  unfold allZeroesAsRead at h
  unfold Con.allZeroOn
  rw [List.all_eq_true] at h ⊢
  intro i hi
  have := h i hi
  by_cases hlt : i < guardSpaceDim cs
  · rw [if_pos hlt] at this; exact this
  · have : c.at i = 0 := at_eq_zero_of_dim_le c i (Nat.le_trans (dim_le_guardSpaceDim cs c hc) (by omega))
    simp [this]

end PPLV.Wrap

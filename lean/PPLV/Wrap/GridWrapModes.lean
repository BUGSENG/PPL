import PPLV.Wrap.GridWrapPrecision

/-!
# `Grid::wrap_assign` lemmas: the three overflow modes in the explicit form of the property statement,
  for every variant of the function (`Repairs`)
-/
namespace PPLV.Wrap.GW
open PPLV.Lattice PPLV.Wrap

/-- the point obtained from `p` (integer values `z i` on `vars`) by wrapping those coordinates -/
def wrappedPoint (cfg : WrapCfg) (p : Nat → Rat) (z : Nat → Int) : Nat → Rat :=
  fun i => if i ∈ cfg.vars then ((wrapR cfg.r cfg.w (z i) : Int) : Rat) else p i

theorem flawed_guard (cfg : WrapCfg) (g : Option (List PPLV.Lin.Con)) (G : GridGens) :
    flawed { cfg with guard := g } G = flawed cfg G := rfl

theorem wraps_V (fx : Repairs) (n : Nat) (cfg : WrapCfg) (hw : 0 < cfg.w) (ho : cfg.o = .wraps) (G : GridGens)
    (hnf : fx.kf12 = true ∨ flawed cfg G = false) (hlegal : Legal n cfg)
    (p : Nat → Rat) (hp : Gen.sem G p) (z : Nat → Int) (hint : ∀ i ∈ cfg.vars, p i = (z i : Rat)) :
    ∃ R, gridWrapAssignV fx n cfg G = .ok R ∧ Gen.sem R (wrappedPoint cfg p z) := by
  rw [← gridWrapAssignV_noguard fx n cfg G hlegal]
  apply gridWrapAssignV_sound fx n { cfg with guard := none } hw G hnf ⟨fun cs h => (by cases h), hlegal.2⟩ p _ hp
  refine ⟨?_, ?_, ?_⟩
  · intro i hi; simp only [wrappedPoint]; rw [if_neg hi]
  · intro i hi
    refine ⟨z i, hint i hi, ?_⟩
    simp only [ho, wrappedPoint]
    rw [if_pos hi]
  · intro cs h; cases h

theorem undefined_V (fx : Repairs) (n : Nat) (cfg : WrapCfg) (hw : 0 < cfg.w) (ho : cfg.o = .undefined) (G : GridGens)
    (hlegal : Legal n cfg)
    (p : Nat → Rat) (hp : Gen.sem G p) (z : Nat → Int) (hint : ∀ i ∈ cfg.vars, p i = (z i : Rat))
    (p' : Nat → Rat) (hoff : ∀ i, i ∉ cfg.vars → p' i = p i)
    (hon : ∀ i ∈ cfg.vars, (inRange cfg.r cfg.w (z i) ∧ p' i = (z i : Rat)) ∨
      (¬ inRange cfg.r cfg.w (z i) ∧ ∃ z' : Int, inRange cfg.r cfg.w z' ∧ p' i = (z' : Rat))) :
    ∃ R, gridWrapAssignV fx n cfg G = .ok R ∧ Gen.sem R p' := by
  rw [← gridWrapAssignV_noguard fx n cfg G hlegal]
  apply gridWrapAssignV_sound fx n { cfg with guard := none } hw G
    (Or.inr (flawed_of_not_wraps _ G (by simp [ho]))) ⟨fun cs h => (by cases h), hlegal.2⟩ p _ hp
  refine ⟨hoff, ?_, ?_⟩
  · intro i hi
    refine ⟨z i, hint i hi, ?_⟩
    simp only [ho]
    exact hon i hi
  · intro cs h; cases h

theorem impossible_V (fx : Repairs) (n : Nat) (cfg : WrapCfg) (hw : 0 < cfg.w) (ho : cfg.o = .impossible) (G : GridGens)
    (hlegal : Legal n cfg)
    (p : Nat → Rat) (hp : Gen.sem G p) (z : Nat → Int) (hint : ∀ i ∈ cfg.vars, p i = (z i : Rat))
    (hin : ∀ i ∈ cfg.vars, inRange cfg.r cfg.w (z i)) :
    ∃ R, gridWrapAssignV fx n cfg G = .ok R ∧ Gen.sem R p := by
  rw [← gridWrapAssignV_noguard fx n cfg G hlegal]
  apply gridWrapAssignV_sound fx n { cfg with guard := none } hw G
    (Or.inr (flawed_of_not_wraps _ G (by simp [ho]))) ⟨fun cs h => (by cases h), hlegal.2⟩ p _ hp
  refine ⟨fun _ _ => rfl, ?_, ?_⟩
  · intro i hi
    refine ⟨z i, hint i hi, ?_⟩
    simp only [ho]
    exact ⟨hin i hi, hint i hi⟩
  · intro cs h; cases h

/-- a legal call returns normally unless overflow wraps and the repair of KF-C17-13 is missing -/
theorem no_throw_V (fx : Repairs) (n : Nat) (cfg : WrapCfg) (G : GridGens) (h : fx.kf13 = true ∨ cfg.o ≠ .wraps)
    (hlegal : Legal n cfg) : ∃ R, gridWrapAssignV fx n cfg G = .ok R := by
  cases hout : gridWrapAssignV fx n cfg G with
  | ok R => exact ⟨R, rfl⟩
  | dimensionIncompatible =>
    exfalso
    rcases (gridWrapAssignV_dim fx n cfg G).mp hout with h | ⟨_, h⟩
    · rw [guardTooBig_of_legal hlegal] at h; cases h
    · have := hlegal.2; omega
  | invalidGenerator l =>
    exfalso
    obtain ⟨_, ho, hk⟩ := gridWrapAssignV_invalidGenerator fx n cfg G l hout
    rcases h with h | h
    · rw [h] at hk; cases hk
    · exact h ho

end PPLV.Wrap.GW

import PPLV.Wrap.ProofsInterval

/-! # C17 lemmas: `Box::wrap_assign` without guard, coordinate by coordinate -/
namespace PPLV.Wrap
open PPLV.Lin

theorem memLo_of_loLe (a b : Option (Rat × Bool)) (q : Rat) (h : Itv.loLe a b = true) (hb : Itv.memLo b q) :
    Itv.memLo a q := by
  rcases a with _ | ⟨a, ao⟩
  · trivial
  rcases b with _ | ⟨b, bo⟩
  · simp [Itv.loLe] at h
  simp only [Itv.loLe, Bool.or_eq_true, decide_eq_true_eq, Bool.and_eq_true, Bool.not_eq_true'] at h
  rcases h with h | ⟨rfl, rfl | rfl⟩
  · exact memLo_of_lt ao (lt_of_lt_of_le h (memLo_le hb))
  · exact memLo_le hb
  · exact memLo_of_lt ao hb

theorem memHi_of_hiGe (a b : Option (Rat × Bool)) (q : Rat) (h : Itv.hiGe a b = true) (hb : Itv.memHi q b) :
    Itv.memHi q a := by
  rcases a with _ | ⟨a, ao⟩
  · trivial
  rcases b with _ | ⟨b, bo⟩
  · simp [Itv.hiGe] at h
  simp only [Itv.hiGe, Bool.or_eq_true, decide_eq_true_eq, Bool.and_eq_true, Bool.not_eq_true'] at h
  rcases h with h | ⟨rfl, rfl | rfl⟩
  · exact memHi_of_lt ao (lt_of_le_of_lt (memHi_le hb) h)
  · exact memHi_le hb
  · exact memHi_of_lt ao hb

theorem mem_of_contains (J I : Itv) (q : Rat) (h : J.contains I = true) (hq : I.mem q) : J.mem q := by
  unfold Itv.contains at h
  simp only [Bool.or_eq_true, Bool.and_eq_true] at h
  rcases h with h | ⟨h1, h2⟩
  · exact absurd hq (not_mem_of_isEmpty I q h)
  · exact ⟨memLo_of_loLe _ _ _ h1 hq.1, memHi_of_hiGe _ _ _ h2 hq.2⟩

theorem rangeItv_mem {r : Repn} {w : Nat} {a : Rat} (h : InRangeQ r w a) : (rangeItv r w).mem a := by
  obtain ⟨z, rfl, h1, h2⟩ := h
  constructor
  · show Itv.memLo (some (_, false)) _
    simp only [Itv.memLo, Bool.false_eq_true, ↓reduceIte]; exact_mod_cast h1
  · show Itv.memHi _ (some (_, false))
    simp only [Itv.memHi, Bool.false_eq_true, ↓reduceIte]; exact_mod_cast h2

/-- an integer of the quadrant interval is in range (open-boundary types, or the repaired closed one) -/
theorem inRange_of_quadrant_mem (storeOpen kf10 : Bool) (hk : storeOpen = true ∨ kf10 = false)
    (r : Repn) (w : Nat) (z : Int)
    (h : (rationalQuadrant storeOpen kf10 r w).mem (z : Rat)) : inRange r w z := by
  unfold rationalQuadrant at h
  cases storeOpen
  · have hk' : kf10 = false := by rcases hk with h | h; cases h; exact h
    subst hk'
    simp only [Bool.false_eq_true, ↓reduceIte] at h
    obtain ⟨h1, h2⟩ := h
    simp only [Itv.memLo, Itv.memHi, Bool.false_eq_true, ↓reduceIte] at h1 h2
    exact ⟨by exact_mod_cast h1, by exact_mod_cast h2⟩
  · simp only [↓reduceIte] at h
    obtain ⟨h1, h2⟩ := h
    simp only [Itv.memLo, Itv.memHi, Bool.false_eq_true, ↓reduceIte] at h1 h2
    have a1 : minValue r w ≤ z := by exact_mod_cast h1
    have a2 : z < maxValue r w + 1 := by exact_mod_cast h2
    exact ⟨a1, by omega⟩

/-- **`Box::wrap_assign` (no guard) is sound** for the interval comparison of the code (or, before the fix
of defect 12, when no interval has width exactly `2^w`), and — for undefined overflow — when the interval
type stores open boundaries or the quadrant test is the repaired one -/
theorem boxWrap_sound (strictTest storeOpen kf10 : Bool) (cfg : WrapCfg) (B : List Itv) (v v' : Pt)
    (himg : Spec.WrapImage cfg v v')
    (h1 : strictTest = false ∨ ∀ I ∈ B, ∀ l lo u uo, I.lo = some (l, lo) → I.hi = some (u, uo) →
      u - l ≠ ((2 : Int) ^ cfg.w : Int))
    (h2 : cfg.o = .undefined → storeOpen = true ∨ kf10 = false)
    (hB : boxMem B v) : boxMem (boxWrap strictTest storeOpen kf10 cfg B) v' := by
  unfold boxMem boxWrap at *
  generalize 0 = i at hB ⊢
  induction B generalizing i with
  | nil => trivial
  | cons I Is ih =>
    obtain ⟨hI, hIs⟩ := hB
    refine ⟨?_, ih (by
      rcases h1 with h | h
      · exact Or.inl h
      · exact Or.inr (fun J hJ => h J (List.mem_cons_of_mem _ hJ))) (i + 1) hIs⟩
    simp only []
    split
    · rename_i hi
      have hc := himg.2.1 i hi
      obtain ⟨z, hz, hcz⟩ := hc
      have hc' : Spec.CoordImage cfg (z : Rat) (v' i) := by rw [← hz]; exact himg.2.1 i hi
      rw [hz] at hI
      cases ho : cfg.o with
      | wraps =>
        simp only []
        rw [coordImage_wraps ho hc']
        apply ivWrap_sound strictTest I cfg.w cfg.r _ _ z hI
        · exact rangeItv_mem ⟨_, rfl, wrapR_inRange _ _ _⟩
        · rcases h1 with h | h
          · exact Or.inl h
          · exact Or.inr (h I List.mem_cons_self)
      | undefined =>
        simp only []
        split
        · rename_i hcont
          have hr := inRange_of_quadrant_mem storeOpen kf10 (h2 ho) cfg.r cfg.w z (mem_of_contains _ _ _ hcont hI)
          rw [coordImage_of_inRange hc' hr]; exact hI
        · exact rangeItv_mem (coordImage_inRange hc')
      | impossible =>
        simp only []
        have hr := coordImage_inRange hc'
        have hsame := coordImage_impossible ho hc'
        rw [hsame] at hr ⊢
        exact mem_inter _ _ _ hI (rangeItv_mem hr)
    · rename_i hi
      rw [himg.1 i hi]; exact hI

end PPLV.Wrap

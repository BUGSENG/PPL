import PPLV.Wrap.GridWrapArith
import PPLV.Wrap.GridWrapFreq
import PPLV.Wrap.GridWrapOps

/-!
# `Grid::wrap_assign` lemmas: one iteration of each loop keeps every wrapped image

`u` is a point of the receiver whose coordinate `x` is still the (integer) value of `x` at some point of the copy
`gr`; `a'` is an admissible image of that value (`Spec.CoordImage`).  Then the loop body does not return, and the
new receiver contains `u` with `x` replaced by `a'`.
-/
namespace PPLV.Wrap.GW
open PPLV.Lattice PPLV.Wrap

theorem update_self_val (u : Nat → Rat) (x : Nat) (a : Rat) (h : a = u x) : Function.update u x a = u := by
  subst h; exact Function.update_eq_self x u

theorem rat_of_den_one (v : Rat) (h : (v.den : Int) = 1) : v = (v.num : Rat) := by
  have h1 : v.den = 1 := by exact_mod_cast h
  have := Rat.num_div_den v
  rw [h1] at this
  simpa using this.symm

theorem intCast_num_den (z : Int) : ((z : Rat)).num = z ∧ (((z : Rat)).den : Int) = 1 := by
  constructor
  · exact Rat.num_intCast z
  · simp

/-- adding the parameter `c·e_x` reaches every value `u x + k·c` -/
theorem param_step (fx : Repairs) {this : GridGens} {x : Nat} {c : Int} {u : Nat → Rat} (hu : Gen.sem this u) (a' : Rat) (k : Int)
    (ha : a' = u x + (k : Rat) * (c : Rat)) :
    ∃ t, addParamOrLeave fx this x c = .inl t ∧ Gen.sem t (Function.update u x a') := by
  unfold addParamOrLeave
  cases h : addGridGeneratorParam this x c with
  | ok t => exact ⟨t, rfl, by rw [ha]; exact addGridGeneratorParam_ok h hu k⟩
  | error l => exact absurd hu ((addGridGeneratorParam_error h).2 u)

/-- `OVERFLOW_WRAPS` / `OVERFLOW_IMPOSSIBLE`, one variable (Grid_public.cc:3057-3155) -/
theorem stepWI_sound (fx : Repairs) (cfg : WrapCfg) (_hw : 0 < cfg.w) (ho : cfg.o = .wraps ∨ cfg.o = .impossible)
    (gr : Gens) (x : Nat) (hnf : fx.kf12 = true ∨ flawedAt cfg.w cfg.o gr x = false) (this : GridGens)
    (u : Nat → Rat) (hu : Gen.sem this u) (hval : ∃ v0, gr.Mem v0 ∧ u x = v0 x) (a' : Rat)
    (himg : Spec.CoordImage cfg (u x) a') :
    ∃ t, stepWI fx cfg.w cfg.o (minValue cfg.r cfg.w) (maxValue cfg.r cfg.w) gr x this = .inl t ∧
      Gen.sem t (Function.update u x a') := by
  obtain ⟨z, hz, -⟩ := id himg
  rw [hz] at himg
  have hwf : wrapFrequency cfg.w = pow2 cfg.w := rfl
  -- the image when overflow wraps / is impossible
  have hW : cfg.o = .wraps → a' = u x + ((-(quadrant cfg.r cfg.w z) : Int) : Rat) * ((wrapFrequency cfg.w : Int) : Rat) := by
    intro h
    rw [coordImage_wraps h himg, wrapR_eq_sub, hz, hwf]; push_cast; ring
  have hI : cfg.o = .impossible → a' = u x ∧ inRange cfg.r cfg.w z := by
    intro h
    obtain ⟨z1, hz1, h1⟩ := id himg
    have : z1 = z := by exact_mod_cast hz1.symm
    subst this
    rw [h] at h1
    exact ⟨by rw [hz]; exact h1.2, h1.1⟩
  unfold stepWI
  simp only []
  cases hfreq : frequencyNoCheck gr (unit x) with
  | none =>
    simp only []
    rcases ho with ho | ho
    · rw [if_pos ho]
      exact param_step fx hu a' _ (hW ho)
    · rw [if_neg (by rw [ho]; decide)]
      exact ⟨this, rfl, by rw [update_self_val u x a' (hI ho).1]; exact hu⟩
  | some q =>
    obtain ⟨f_n, f_d, v_n, v_d⟩ := q
    simp only []
    obtain ⟨f, v, hf0, rfl, rfl, rfl, rfl, hvals⟩ := frequencyNoCheck_some hfreq
    obtain ⟨v0, hv0, hux⟩ := hval
    obtain ⟨t, ht⟩ := hvals v0 hv0
    rw [dotF_unit, ← hux, hz] at ht
    -- ht : z = v + t f
    by_cases hfn : f.num = 0
    · -- constant
      rw [if_pos hfn]
      have hf : f = 0 := Rat.num_eq_zero.mp hfn
      rw [hf, mul_zero, add_zero] at ht
      have hvn : v.num = z := by rw [← ht]; exact (intCast_num_den z).1
      have hvd : (v.den : Int) = 1 := by rw [← ht]; exact (intCast_num_den z).2
      rw [if_neg (by rw [hvd]; decide)]
      rw [hvn]
      by_cases hout : z > maxValue cfg.r cfg.w ∨ z < minValue cfg.r cfg.w
      · rw [if_pos hout]
        rcases ho with ho | ho
        · rw [if_neg (by rw [ho]; decide)]
          refine ⟨_, rfl, ?_⟩
          rw [wrapConstant_eq cfg.r cfg.w _hw z, coordImage_wraps ho himg]
          exact pin_mem _ hu
        · exfalso
          have := (hI ho).2
          unfold inRange at this; omega
      · rw [if_neg hout]
        refine ⟨this, rfl, ?_⟩
        have hr : inRange cfg.r cfg.w z := by unfold inRange; omega
        rw [update_self_val u x a' (by rw [coordImage_of_inRange himg hr, hz])]; exact hu
    · -- not a constant
      rw [if_neg hfn]
      have hdvd : (v.den : Int) ∣ (f.den : Int) := den_dvd_of_value_int v f t z ht.symm
      rw [if_neg (by rw [not_not]; by_contra hc; exact ((tmod_ne_zero_iff _ _).mp hc) hdvd)]
      -- the receiver after the integrality congruence
      have hu1 : Gen.sem (if (f.den : Int) ≠ 1 then addCongruenceInt this x else this) u := by
        split
        · exact addCongruenceInt_mem hu ⟨z, hz⟩
        · exact hu
      generalize (if (f.den : Int) ≠ 1 then addCongruenceInt this x else this) = this1 at hu1 ⊢
      by_cases hpar : cfg.o = .wraps ∧ (f.num ≠ wrapFrequency cfg.w ∨ (fx.kf12 = true ∧ (v.den : Int) ≠ 1))
      · rw [if_pos hpar]
        exact param_step fx hu1 a' _ (hW hpar.1)
      · rw [if_neg hpar]
        by_cases hvd : (v.den : Int) = 1
        · rw [if_pos hvd]
          -- the values are `v.num + t' f.num`
          have hv : v = (v.num : Rat) := rat_of_den_one v hvd
          have htf : (t : Rat) * f = ((z - v.num : Int) : Rat) := by
            push_cast; rw [ht]; rw [← hv]; ring
          obtain ⟨t', ht'⟩ := mul_int_of_int f t (z - v.num) htf
          have hzf : z = v.num + t' * f.num := by omega
          have hfpos : 0 < f.num := by
            have : 0 ≤ f.num := Rat.num_nonneg.mpr hf0
            omega
          by_cases hc : f.num = wrapFrequency cfg.w ∨
              leastNotBelow (minValue cfg.r cfg.w) f.num v.num + f.num > maxValue cfg.r cfg.w
          · rw [if_pos hc]
            refine ⟨_, rfl, ?_⟩
            have ha : a' = ((leastNotBelow (minValue cfg.r cfg.w) f.num v.num : Int) : Rat) := by
              rcases ho with ho | ho
              · have hfw : f.num = wrapFrequency cfg.w := by
                  by_contra hne; exact hpar ⟨ho, Or.inl hne⟩
                rw [coordImage_wraps ho himg, hfw]
                rw [hfw] at hzf
                rw [pin_wraps cfg.r cfg.w v.num z t' hzf]
              · obtain ⟨ha, hr⟩ := hI ho
                rw [ha, hz]
                exact_mod_cast pin_impossible cfg.r cfg.w f.num v.num z t' hfpos hzf hr hc
            rw [ha]
            exact pin_mem _ hu1
          · rw [if_neg hc]
            refine ⟨this1, rfl, ?_⟩
            rcases ho with ho | ho
            · exfalso
              apply hc; left
              by_contra hne; exact hpar ⟨ho, Or.inl hne⟩
            · rw [update_self_val u x a' (hI ho).1]; exact hu1
        · rw [if_neg hvd]
          refine ⟨this1, rfl, ?_⟩
          rcases ho with ho | ho
          · -- the branch of KF-C17-12: excluded by `hnf`
            exfalso
            have hfw : f.num = wrapFrequency cfg.w := by
              by_contra hne; exact hpar ⟨ho, Or.inl hne⟩
            have hnf : flawedAt cfg.w cfg.o gr x = false := by
              rcases hnf with h12 | h
              · exact absurd ⟨ho, Or.inr ⟨h12, hvd⟩⟩ hpar
              · exact h
            have htm : Int.tmod (f.den : Int) (v.den : Int) = 0 := by
              by_contra hc; exact ((tmod_ne_zero_iff _ _).mp hc) hdvd
            unfold flawedAt at hnf
            rw [hfreq] at hnf
            simp only [] at hnf
            rw [ho] at hnf
            simp [htm, hfw, hvd] at hnf
            exact hfn (by rw [hfw]; exact hnf)
          · rw [update_self_val u x a' (hI ho).1]; exact hu1

/-- `OVERFLOW_UNDEFINED`, one variable (Grid_public.cc:3169-3201) -/
theorem stepU_sound (cfg : WrapCfg) (ho : cfg.o = .undefined)
    (gr : Gens) (x : Nat) (this : GridGens)
    (u : Nat → Rat) (hu : Gen.sem this u) (hval : ∃ v0, gr.Mem v0 ∧ u x = v0 x) (a' : Rat)
    (himg : Spec.CoordImage cfg (u x) a') :
    ∃ t, stepU (minValue cfg.r cfg.w) (maxValue cfg.r cfg.w) gr x this = .inl t ∧
      Gen.sem t (Function.update u x a') := by
  obtain ⟨z, hz, h1⟩ := id himg
  rw [ho] at h1
  simp only [] at h1
  -- the image is an integer `za`, equal to `z` when `z` is in range
  obtain ⟨za, hza, hzr⟩ : ∃ za : Int, a' = (za : Rat) ∧ (inRange cfg.r cfg.w z → za = z) := by
    rcases h1 with ⟨hr, h⟩ | ⟨hn, z', _, h⟩
    · exact ⟨z, h, fun _ => rfl⟩
    · exact ⟨z', h, fun hr => absurd hr hn⟩
  have hpar : a' = u x + ((za - z : Int) : Rat) * ((1 : Int) : Rat) := by
    rw [hza, hz]; push_cast; ring
  unfold stepU
  simp only []
  by_cases hb : boundsExpr (.gens gr) (unit x) = true
  · rw [hb]
    simp only [Bool.not_true, Bool.false_eq_true, if_false]
    -- `x` is constant on `gr`: its value is that of the point
    obtain ⟨v0, hv0, hux⟩ := hval
    have hconst := (boundsExpr_iff (.gens gr) (unit x)).mp hb v0 gr.pt.toFun hv0 Gens.Mem.pt
    rw [dotF_unit, dotF_unit] at hconst
    have hpx : gr.pt.getD x 0 = (z : Rat) := by
      have : gr.pt.toFun x = gr.pt.getD x 0 := rfl
      rw [← this, ← hconst, ← hux, hz]
    rw [hpx]
    rw [if_neg (by rw [not_not]; simp)]
    by_cases hout : (z : Rat) > ((maxValue cfg.r cfg.w : Int) : Rat) ∨ (z : Rat) < ((minValue cfg.r cfg.w : Int) : Rat)
    · rw [if_pos hout]
      exact param_step beforeFix hu a' _ hpar
    · rw [if_neg hout]
      refine ⟨this, rfl, ?_⟩
      have hr : inRange cfg.r cfg.w z := by
        unfold inRange
        constructor
        · by_contra hc
          apply hout; right
          exact_mod_cast (by omega : z < minValue cfg.r cfg.w)
        · by_contra hc
          apply hout; left
          exact_mod_cast (by omega : z > maxValue cfg.r cfg.w)
      rw [update_self_val u x a' (by rw [hza, hzr hr, hz])]; exact hu
  · have hb' : boundsExpr (.gens gr) (unit x) = false := by
      cases h : boundsExpr (.gens gr) (unit x) with
      | true => exact absurd h hb
      | false => rfl
    rw [hb']
    simp only [Bool.not_false, if_true]
    by_cases hden : (gr.pt.getD x 0).den ≠ 1
    · rw [if_pos hden]
      refine ⟨_, rfl, ?_⟩
      rw [hza]
      exact freeInt_mem za hu
    · rw [if_neg hden]
      exact param_step beforeFix hu a' _ hpar

end PPLV.Wrap.GW

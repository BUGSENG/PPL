import PPLV.Wrap.GridWrap
import PPLV.Lattice.ProofsQueries
import Mathlib.Logic.Function.Basic

/-!
# `Grid::wrap_assign` lemmas: the member functions on point sets (K2: `addParam_sem`, `addLine_sem`,
  `intersectCon_sem`)
-/
namespace PPLV.Wrap.GW
open PPLV.Lattice PPLV.Wrap

/-! ### helpers -/

theorem toFun_vsmul_unit (c : Rat) (x j : Nat) :
    (vsmul c (unit x)).toFun j = if j = x then c else 0 := by
  rw [toFun_vsmul]
  simp only [Pi.smul_apply, smul_eq_mul, toFun_unit]
  split <;> simp

/-- moving the coordinate `x` of `u` by `d` is adding `d` times the unit vector -/
theorem update_eq_add_smul_unit (u : Nat → Rat) (x : Nat) (d : Rat) :
    Function.update u x (u x + d) = u + d • (unit x).toFun := by
  funext j
  simp only [Function.update_apply, Pi.add_apply, Pi.smul_apply, smul_eq_mul, toFun_unit]
  by_cases hj : j = x
  · subst hj; simp
  · simp [hj]

theorem update_eq_add_smul_unit' (u : Nat → Rat) (x : Nat) (v : Rat) :
    Function.update u x v = u + (v - u x) • (unit x).toFun := by
  rw [← update_eq_add_smul_unit]; congr 1; ring

/-- `add_grid_generator(parameter(c·x))` returned: the receiver is closed under moving `x` by multiples of `c` -/
theorem addGridGeneratorParam_ok {this t : GridGens} {x : Nat} {c : Int}
    (h : addGridGeneratorParam this x c = .ok t) {u : Nat → Rat} (hu : Gen.sem this u) (k : Int) :
    Gen.sem t (Function.update u x (u x + (k : Rat) * (c : Rat))) := by
  unfold addGridGeneratorParam at h
  split at h
  · cases h
  · injection h with h
    subst h
    rw [addParam_sem]
    refine ⟨u, k, hu, ?_⟩
    funext j
    simp only [Function.update_apply, Pi.add_apply, Pi.smul_apply, smul_eq_mul, toFun_vsmul_unit]
    by_cases hj : j = x
    · subst hj; simp
    · simp [hj]

/-- `add_grid_generator(parameter(…))` threw: the receiver was empty, and is left as it was -/
theorem addGridGeneratorParam_error {this l : GridGens} {x : Nat} {c : Int}
    (h : addGridGeneratorParam this x c = .error l) : l = this ∧ ∀ u, ¬ Gen.sem this u := by
  unfold addGridGeneratorParam at h
  split at h
  · rename_i he
    injection h with h
    subst h
    refine ⟨rfl, fun u hu => ?_⟩
    have := (isEmpty_false_iff this).mpr ⟨u, hu⟩
    rw [he] at this
    cases this
  · cases h

/-- `add_congruence(x %= 0)` keeps the points with an integer `x` -/
theorem addCongruenceInt_mem {this : GridGens} {x : Nat} {u : Nat → Rat} (hu : Gen.sem this u)
    (hi : isInt (u x)) : Gen.sem (addCongruenceInt this x) u := by
  unfold addCongruenceInt
  rw [intersectCon_sem, intCg_sem]
  obtain ⟨z, hz⟩ := hi
  exact ⟨hu, z, hz⟩

/-- `unconstrain(x); add_constraint(x == v)` -/
theorem pin_mem {this : GridGens} {x : Nat} {u : Nat → Rat} (v : Int) (hu : Gen.sem this u) :
    Gen.sem (addConstraintEq (unconstrain this x) x v) (Function.update u x (v : Rat)) := by
  unfold addConstraintEq unconstrain
  rw [intersectCon_sem, addLine_sem, eqCg_sem]
  exact ⟨⟨u, (v : Rat) - u x, hu, update_eq_add_smul_unit' u x v⟩, by simp⟩

/-- `unconstrain(x); add_congruence(x %= 0)` -/
theorem freeInt_mem {this : GridGens} {x : Nat} {u : Nat → Rat} (z : Int) (hu : Gen.sem this u) :
    Gen.sem (addCongruenceInt (unconstrain this x) x) (Function.update u x (z : Rat)) := by
  unfold addCongruenceInt unconstrain
  rw [intersectCon_sem, addLine_sem, intCg_sem]
  exact ⟨⟨u, (z : Rat) - u x, hu, update_eq_add_smul_unit' u x z⟩, z, by simp⟩

end PPLV.Wrap.GW

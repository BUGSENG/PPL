import PPLV.Wrap.GridWrapMain

/-!
# `Grid::wrap_assign` lemmas: which outcomes are possible

* a dimension exception is thrown exactly by the two checks at the top of the function;
* `add_grid_generator` throws only when overflow wraps and the receiver has become empty inside the loop (it is left
  empty); with `OVERFLOW_UNDEFINED` the receiver never becomes empty, with `OVERFLOW_IMPOSSIBLE` no generator is added.
-/
namespace PPLV.Wrap.GW
open PPLV.Lattice PPLV.Wrap

theorem addParamOrLeave_inr {fx : Repairs} {this : GridGens} {x : Nat} {c : Int} {out : Outcome}
    (h : addParamOrLeave fx this x c = .inr out) :
    (∃ R, out = .ok R ∧ R.isEmpty = true ∧ fx.kf13 = true) ∨ ∃ l, out = .invalidGenerator l ∧ l.isEmpty = true ∧ fx.kf13 = false := by
  unfold addParamOrLeave at h
  split at h
  · cases h
  · rename_i l hl
    have he : l.isEmpty = true := by
      unfold addGridGeneratorParam at hl
      split at hl
      · cases hl; assumption
      · cases hl
    cases hk : fx.kf13 with
    | true => rw [hk] at h; simp only [if_true] at h; cases h; exact Or.inl ⟨l, rfl, he, rfl⟩
    | false => rw [hk] at h; simp only [Bool.false_eq_true, if_false] at h; cases h; exact Or.inr ⟨l, rfl, he, rfl⟩

/-- the receiver of the later branches of `stepWI`: `this`, possibly with the integrality congruence on `x` -/
def MaybeInt (this : GridGens) (x : Nat) (this1 : GridGens) : Prop :=
  this1 = this ∨ this1 = addCongruenceInt this x

/-- **the shapes of the loop body**: whatever holds of the four kinds of result of `stepWI` — continue with the
receiver (possibly with `x` made integer), return the empty grid, add the parameter `2^w·x` (only when overflow
wraps), pin `x` to a value — holds of `stepWI`.  The lemmas about the body are instances of this. -/
theorem stepWI_cases (fx : Repairs) (w : Nat) (o : Ovf) (minV maxV : Int) (gr : Gens) (x : Nat) (this : GridGens)
    {P : GridGens ⊕ Outcome → Prop}
    (hcont : ∀ this1, MaybeInt this x this1 → P (.inl this1))
    (hempty : P (.inr (.ok .empty)))
    (hparam : o = .wraps → ∀ this1, MaybeInt this x this1 → P (addParamOrLeave fx this1 x (wrapFrequency w)))
    (hpin : ∀ this1 v, MaybeInt this x this1 → P (.inl (addConstraintEq (unconstrain this1 x) x v))) :
    P (stepWI fx w o minV maxV gr x this) := by
  unfold stepWI
  cases frequencyNoCheck gr (unit x) with
  | none => exact ite_rule _ (fun ho => hparam ho this (.inl rfl)) fun _ => hcont this (.inl rfl)
  | some q =>
    obtain ⟨f_n, f_d, v_n, v_d⟩ := q
    refine ite_rule _ (fun _ => ?_) fun _ => ?_
    · -- `x` is a constant in `gr`
      exact ite_rule _ (fun _ => hempty) fun _ => ite_rule _
        (fun _ => ite_rule _ (fun _ => hempty) fun _ => hpin this _ (.inl rfl)) fun _ => hcont this (.inl rfl)
    · refine ite_rule _ (fun _ => hempty) fun _ => ?_
      have h1 : MaybeInt this x (if f_d ≠ 1 then addCongruenceInt this x else this) :=
        ite_rule (P := MaybeInt this x) _ (fun _ => .inr rfl) fun _ => .inl rfl
      generalize (if f_d ≠ 1 then addCongruenceInt this x else this) = this1 at h1 ⊢
      exact ite_rule _ (fun h => hparam h.1 this1 h1) fun _ => ite_rule _
        (fun _ => ite_rule _ (fun _ => hpin this1 _ h1) fun _ => hcont this1 h1) fun _ => hcont this1 h1

/-- the outcomes with which the body of the first loop leaves the function -/
theorem stepWI_inr {fx : Repairs} {w : Nat} {o : Ovf} {minV maxV : Int} {gr : Gens} {x : Nat} {this : GridGens} {out : Outcome}
    (h : stepWI fx w o minV maxV gr x this = .inr out) :
    (∃ R, out = .ok R ∧ R.isEmpty = true) ∨ ∃ l, out = .invalidGenerator l ∧ l.isEmpty = true ∧ o = .wraps ∧ fx.kf13 = false := by
  revert h
  refine stepWI_cases fx w o minV maxV gr x this (P := fun s => s = .inr out → _)
    (fun _ _ h => by cases h) ?_ ?_ (fun _ _ _ h => by cases h)
  · intro h; cases h; exact Or.inl ⟨_, rfl, rfl⟩
  · intro ho this1 _ h
    rcases addParamOrLeave_inr h with ⟨R, hR, he, _⟩ | ⟨l, hl, he, hk⟩
    · exact Or.inl ⟨R, hR, he⟩
    · exact Or.inr ⟨l, hl, he, ho, hk⟩

theorem loopWI_outcome (fx : Repairs) (w : Nat) (o : Ovf) (minV maxV : Int) (gr : Gens)
    (xs : List Nat) (this : GridGens) (out : Outcome) (h : loopWI fx w o minV maxV gr xs this = out) :
    (∃ R, out = .ok R) ∨ ∃ l, out = .invalidGenerator l ∧ l.isEmpty = true ∧ o = .wraps ∧ fx.kf13 = false := by
  subst h
  rw [loopWI_eq_iterate]
  refine iterate_rule (I := fun _ _ => True) (Q := fun out => (∃ R, out = .ok R) ∨
      ∃ l, out = .invalidGenerator l ∧ l.isEmpty = true ∧ o = .wraps ∧ fx.kf13 = false)
    (fun y _ this _ => ⟨fun _ _ => trivial, fun out hs => ?_⟩) (fun R _ => Or.inl ⟨R, rfl⟩) xs this trivial
  rcases stepWI_inr hs with ⟨R, h, _⟩ | h
  · exact Or.inl ⟨_, h⟩
  · exact Or.inr h

/-- `OVERFLOW_UNDEFINED`: a non-empty receiver stays non-empty, so `add_grid_generator` never throws -/
theorem stepU_nonempty {minV maxV : Int} {gr : Gens} {x : Nat} {this : GridGens} (hne : ∃ u, Gen.sem this u) :
    (∃ t, stepU minV maxV gr x this = .inl t ∧ ∃ u, Gen.sem t u) ∨ stepU minV maxV gr x this = .inr (.ok .empty) := by
  obtain ⟨u, hu⟩ := hne
  have hpar : ∀ c : Int, ∃ t, addParamOrLeave beforeFix this x c = .inl t ∧ ∃ u, Gen.sem t u := by
    intro c
    obtain ⟨t, ht, hm⟩ := param_step beforeFix (c := c) hu (u x + ((0 : Int) : Rat) * (c : Rat)) 0 rfl
    exact ⟨t, ht, _, hm⟩
  unfold stepU
  simp only []
  split
  · split
    · exact Or.inl ⟨_, rfl, _, freeInt_mem 0 hu⟩
    · exact Or.inl (hpar 1)
  · split
    · exact Or.inr rfl
    · split
      · exact Or.inl (hpar 1)
      · exact Or.inl ⟨this, rfl, u, hu⟩

theorem loopU_outcome (minV maxV : Int) (gr : Gens) (xs : List Nat) (this : GridGens) (hne : ∃ u, Gen.sem this u) :
    ∃ R, loopU minV maxV gr xs this = .ok R := by
  rw [loopU_eq_iterate]
  refine iterate_rule (I := fun _ t => ∃ u, Gen.sem t u) (Q := fun out => ∃ R, out = .ok R)
    (fun y _ this hne => ?_) (fun R _ => ⟨R, rfl⟩) xs this hne
  rcases stepU_nonempty (minV := minV) (maxV := maxV) (gr := gr) (x := y) hne with ⟨t, ht, hne'⟩ | h
  · rw [ht]; exact ⟨fun _ e => Sum.inl.inj e ▸ hne', fun _ e => nomatch e⟩
  · rw [h]; exact ⟨fun _ e => (nomatch e), fun _ e => ⟨_, (Sum.inr.inj e).symm⟩⟩

/-- a dimension exception is thrown by, and only by, the two checks at the top of the function -/
theorem gridWrapAssignV_dim (fx : Repairs) (n : Nat) (cfg : WrapCfg) (G : GridGens) :
    gridWrapAssignV fx n cfg G = .dimensionIncompatible ↔
      guardTooBig n cfg.guard = true ∨ (cfg.vars.isEmpty = false ∧ n < varsSpaceDim cfg.vars) := by
  constructor
  · refine gridWrapAssignV_cases fx n cfg G (P := fun out => out = .dimensionIncompatible → _) (fun h _ => h)
      (fun _ _ => Outcome.noConfusion) fun _ _ _ =>
        ⟨fun _ => Outcome.noConfusion, fun gr _ => ⟨fun _ h => ?_, fun _ h => ?_⟩⟩
    · rcases loopWI_outcome _ _ _ _ _ _ _ _ _ h with ⟨R, hR⟩ | ⟨l, hl, _⟩
      · cases hR
      · cases hl
    · obtain ⟨R, hR⟩ := loopU_outcome (rangeOf cfg.r cfg.w).1 (rangeOf cfg.r cfg.w).2 gr (normVars cfg.vars)
        (.gens gr) ⟨_, Gens.Mem.pt⟩
      rw [hR] at h; cases h
  · unfold gridWrapAssignV
    rintro (h | ⟨h1, h2⟩)
    · rw [if_pos h]
    · by_cases hg : guardTooBig n cfg.guard = true
      · rw [if_pos hg]
      · rw [if_neg hg, if_neg (by simp [h1]), if_pos h2]

/-- `add_grid_generator` throws only when overflow wraps, and leaves the receiver empty -/
theorem gridWrapAssignV_invalidGenerator (fx : Repairs) (n : Nat) (cfg : WrapCfg) (G : GridGens) (l : GridGens)
    (h : gridWrapAssignV fx n cfg G = .invalidGenerator l) : l.isEmpty = true ∧ cfg.o = .wraps ∧ fx.kf13 = false := by
  revert h
  refine gridWrapAssignV_cases fx n cfg G (P := fun out => out = .invalidGenerator l → _)
    (fun _ => Outcome.noConfusion) (fun _ _ => Outcome.noConfusion) fun _ _ _ =>
      ⟨fun _ => Outcome.noConfusion, fun gr _ => ⟨fun _ h => ?_, fun _ h => ?_⟩⟩
  · rcases loopWI_outcome _ _ _ _ _ _ _ _ _ h with ⟨R, hR⟩ | ⟨l', hl, he, ho, hk⟩
    · cases hR
    · cases hl; exact ⟨he, ho, hk⟩
  · obtain ⟨R, hR⟩ := loopU_outcome (rangeOf cfg.r cfg.w).1 (rangeOf cfg.r cfg.w).2 gr (normVars cfg.vars)
      (.gens gr) ⟨_, Gens.Mem.pt⟩
    rw [hR] at h; cases h

theorem gridWrapAssign_dim (n : Nat) (cfg : WrapCfg) (G : GridGens) :
    gridWrapAssign n cfg G = .dimensionIncompatible ↔
      guardTooBig n cfg.guard = true ∨ (cfg.vars.isEmpty = false ∧ n < varsSpaceDim cfg.vars) :=
  gridWrapAssignV_dim repaired n cfg G

/-- with the repair of KF-C17-13 the function never leaves through `add_grid_generator` -/
theorem gridWrapAssign_not_invalidGenerator (n : Nat) (cfg : WrapCfg) (G : GridGens) (l : GridGens) :
    gridWrapAssign n cfg G ≠ .invalidGenerator l := by
  intro h
  have := (gridWrapAssignV_invalidGenerator repaired n cfg G l h).2.2
  cases this

theorem gridWrapAssignBeforeFix_invalidGenerator (n : Nat) (cfg : WrapCfg) (G : GridGens) (l : GridGens)
    (h : gridWrapAssignBeforeFix n cfg G = .invalidGenerator l) : l.isEmpty = true ∧ cfg.o = .wraps :=
  let r := gridWrapAssignV_invalidGenerator beforeFix n cfg G l h
  ⟨r.1, r.2.1⟩

/-- `*cs_p` is only dimension-checked: two guards that pass the check give the same outcome -/
theorem gridWrapAssignV_guard_unused (fx : Repairs) (n : Nat) (cfg : WrapCfg) (g : Option (List PPLV.Lin.Con)) (G : GridGens)
    (h1 : guardTooBig n cfg.guard = false) (h2 : guardTooBig n g = false) :
    gridWrapAssignV fx n { cfg with guard := g } G = gridWrapAssignV fx n cfg G := by
  unfold gridWrapAssignV
  simp only [h1, h2]

theorem gridWrapAssignV_noguard (fx : Repairs) (n : Nat) (cfg : WrapCfg) (G : GridGens) (hlegal : Legal n cfg) :
    gridWrapAssignV fx n { cfg with guard := none } G = gridWrapAssignV fx n cfg G :=
  gridWrapAssignV_guard_unused fx n cfg none G (guardTooBig_of_legal hlegal) rfl

end PPLV.Wrap.GW

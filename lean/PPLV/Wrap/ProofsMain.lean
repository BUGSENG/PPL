import PPLV.Wrap.ProofsStep

/-! # C17 lemmas: one loop iteration, `wrap_assign_ind`, `wrap_assign_col`, the theorem -/
namespace PPLV.Wrap
open PPLV.Lin

variable {d : Dom} {cfg : WrapCfg} {v v' : Pt}

/-! ### the ghost flag -/

theorem setFull_tripped (s : St d.D) (x : Nat) : (setFull d cfg s x).tripped = s.tripped := rfl

/-- `r` has the flag of `s`, or has it raised — which only the code before the repair does, in collective mode,
when overflow wraps -/
def FlagFrom (fix : Bool) (cfg : WrapCfg) {D : Type} (s r : St D) : Prop :=
  r.tripped = s.tripped ∨ (r.tripped = true ∧ fix = false ∧ cfg.individually = false ∧ cfg.o = .wraps)

theorem FlagFrom.same {fix : Bool} {D : Type} {s r : St D} (h : r.tripped = s.tripped) : FlagFrom fix cfg s r := .inl h

/-- the flag is raised in one place only: the last branch of `stepWrap` (reached only when overflow wraps) -/
theorem stepWrap_flag (fix : Bool) (ho : cfg.o = .wraps) (s : St d.D) (x : Nat) (fq lq : Int) :
    FlagFrom fix cfg s (stepWrap fix d cfg s x fq lq) := by
  unfold stepWrap
  simp only []
  exact ite_rule _ (fun _ => .same rfl) fun _ => ite_rule _ (fun _ => .same (cplxUpdate_tripped s _)) fun _ =>
    ite_rule _ (fun _ => .same (cplxUpdate_tripped s _)) fun hc => ite_rule _
      (fun _ => .same (cplxUpdate_tripped s _)) fun hf =>
        .inr ⟨rfl, Bool.eq_false_iff.mpr hf, Bool.eq_false_iff.mpr fun h => hc (.inl h), ho⟩

theorem step_flag (fix : Bool) (s : St d.D) (x : Nat) : FlagFrom fix cfg s (step fix d cfg s x) := by
  unfold step
  split
  · unfold stepQ
    refine ite_rule _ (fun _ => .same rfl) fun _ => ite_rule _ (fun _ => .same rfl) fun hi =>
      ite_rule _ (fun _ => .same rfl) fun hu => stepWrap_flag fix ?_ s x _ _
    cases hc : cfg.o
    · rfl
    · exact absurd (Or.inl hc) hu
    · exact absurd hc hi
  · exact .same rfl

theorem foldl_flag (fix : Bool) (l : List Nat) (s : St d.D) :
    FlagFrom fix cfg s (l.foldl (step fix d cfg) s) := by
  induction l generalizing s with
  | nil => exact .same rfl
  | cons x xs ih =>
    rcases ih (step fix d cfg s x) with h | h
    · exact (step_flag fix s x).imp (fun e => h.trans e) fun e => ⟨h.trans e.1, e.2⟩
    · exact .inr h

/-- the flag only ever goes up -/
theorem foldl_tripped_mono (fix : Bool) (l : List Nat) (s : St d.D)
    (h : s.tripped = true) : (l.foldl (step fix d cfg) s).tripped = true :=
  (foldl_flag fix l s).elim (fun e => e.trans h) fun e => e.1

/-- the flag of a run: up only before the repair, in collective mode, when overflow wraps -/
theorem wrapAssignG_flag (fix : Bool) (P : d.D) (h : (wrapAssignG fix d cfg P).2 = true) :
    fix = false ∧ cfg.individually = false ∧ cfg.o = .wraps := by
  unfold wrapAssignG at h
  simp only [] at h
  split at h
  · cases h
  · split at h
    · cases h
    · exact ((foldl_flag fix _ _).resolve_left fun e => by rw [e] at h; cases h).2

/-! ### one iteration preserves the invariant -/

/-- the state `r` after `done`: the invariant holds, unless the unrepaired branch was executed -/
def Next (d : Dom) (cfg : WrapCfg) (v v' : Pt) (done todo : List Nat) (r : St d.D) : Prop :=
  r.tripped = true ∨ InvS d cfg v v' r done todo

section
variable (himg : Spec.WrapImage cfg v v')
include himg

theorem stepWrap_next (fix : Bool) {s : St d.D} {done todo : List Nat} {x : Nat} {fq lq z : Int}
    (hnd : (done ++ x :: todo).Nodup) (hx : x ∈ cfg.vars) (hsub : ∀ i ∈ done, i ∈ cfg.vars)
    (ho : cfg.o = .wraps)
    (hz : v x = (z : Rat)) (h1 : fq ≤ quadrant cfg.r cfg.w z) (h2 : quadrant cfg.r cfg.w z ≤ lq)
    (inv : InvS d cfg v v' s done (x :: todo)) :
    Next d cfg v v' (done ++ [x]) todo (stepWrap fix d cfg s x fq lq) := by
  have inv1 := inv_cplxUpdate himg (lq - fq + 1).toNat hsub inv
  unfold stepWrap
  simp only []
  exact ite_rule _ (fun _ => .inr (inv_setFull himg hnd hx inv)) fun _ =>
    ite_rule _ (fun _ => .inr (inv_hull himg hnd hx ho hz h1 h2 inv1)) fun _ =>
      ite_rule _ (fun _ => .inr (inv_push hnd ho hz h1 h2 inv1)) fun _ =>
        ite_rule _ (fun _ => .inr (inv_setFull himg hnd hx inv1)) fun _ => .inl rfl

theorem stepQ_next (fix : Bool) {s : St d.D} {done todo : List Nat} {x : Nat} {fq lq z : Int}
    (hnd : (done ++ x :: todo).Nodup) (hx : x ∈ cfg.vars) (hsub : ∀ i ∈ done, i ∈ cfg.vars)
    (hz : v x = (z : Rat)) (h1 : fq ≤ quadrant cfg.r cfg.w z) (h2 : quadrant cfg.r cfg.w z ≤ lq)
    (inv : InvS d cfg v v' s done (x :: todo)) :
    Next d cfg v v' (done ++ [x]) todo (stepQ fix d cfg s x fq lq) := by
  have himx := himg.2.1 x hx
  rw [hz] at himx
  have hr := target_inRange himg hx
  unfold stepQ
  refine ite_rule _ (fun h0 => .inr ?_) fun _ => ite_rule _ (fun hi => .inr ?_) fun hi =>
    ite_rule _ (fun _ => .inr (inv_setFull himg hnd hx inv)) fun hu =>
      stepWrap_next himg fix hnd hx hsub ?_ hz h1 h2 inv
  · -- quadrant `0` only: `x` is in range and keeps its value
    have hq : quadrant cfg.r cfg.w z = 0 := by omega
    have hsame : v' x = v x := by
      rw [hz]; exact coordImage_of_inRange himx ((inRange_iff_quadrant cfg.r cfg.w z).mpr hq)
    simpa using inv_keep (extra := []) hsame (Sat_nil v') inv
  · have hsame : v' x = v x := by rw [hz]; exact coordImage_impossible hi himx
    have hrow : ∀ (c : Prop) [Decidable c] (r : Con), r.sat v' → Sat (if c then [r] else []) v' :=
      fun c _ r h => ite_rule (P := fun l => Sat l v') _
        (fun _ c' hc => by rw [List.mem_singleton.mp hc]; exact h) fun _ => Sat_nil _
    simpa [InvS, List.append_assoc] using inv_keep hsame
      (Sat_append (hrow _ _ (lowRow_of_inRange hr)) (hrow _ _ (highRow_of_inRange hr))) inv
  · cases hc : cfg.o
    · rfl
    · exact absurd (Or.inl hc) hu
    · exact absurd hc hi

theorem step_next (fix : Bool) {s : St d.D} {done todo : List Nat} {x : Nat}
    (hnd : (done ++ x :: todo).Nodup) (hx : x ∈ cfg.vars) (hsub : ∀ i ∈ done, i ∈ cfg.vars)
    (inv : InvS d cfg v v' s done (x :: todo)) :
    Next d cfg v v' (done ++ [x]) todo (step fix d cfg s x) := by
  obtain ⟨z, hz, hux⟩ := x_facts himg hx inv
  unfold step
  split
  · rename_i l u hmin hmax
    have hl := d.minimize_sound s.ps x l _ hmin inv.mem
    have hu := d.maximize_sound s.ps x u _ hmax inv.mem
    rw [hux] at hl hu
    obtain ⟨b1, b2⟩ := quadrant_bounds cfg.r cfg.w l u z hl hu
    exact stepQ_next himg fix hnd hx hsub hz b1 b2 inv
  · exact .inr (inv_setFull himg hnd hx inv)

theorem loop_next (fix : Bool) (todo : List Nat) : ∀ (s : St d.D) (done : List Nat),
    (done ++ todo).Nodup → (∀ i ∈ done ++ todo, i ∈ cfg.vars) →
    InvS d cfg v v' s done todo →
    Next d cfg v v' (done ++ todo) [] (todo.foldl (step fix d cfg) s) := by
  induction todo with
  | nil => intro s done _ _ inv; exact .inr (by simpa using inv)
  | cons x xs ih =>
    intro s done hnd hsub inv
    rcases step_next himg fix hnd (hsub x (by simp)) (fun i hi => hsub i (by simp [hi])) inv with ht | inv'
    · exact .inl (foldl_tripped_mono fix xs _ ht)
    · simpa using ih (step fix d cfg s x) (done ++ [x]) (by simpa using hnd)
        (by intro i hi; apply hsub; simpa using hi) inv'

/-! ### `wrap_assign_ind` -/

theorem wrapInd_mem (cs : List Con) (hcs : Sat cs v') (ho : cfg.o = .wraps) :
    ∀ (trs : List Tr) (ps : d.D) (vars : List Nat),
    vars = trs.map Tr.var → (trs.map Tr.var).Nodup →
    (∀ t ∈ trs, t.var ∈ cfg.vars ∧ ∃ z : Int, v t.var = (z : Rat) ∧
      t.first ≤ quadrant cfg.r cfg.w z ∧ quadrant cfg.r cfg.w z ≤ t.last) →
    d.γ ps (mix v v' (trs.map Tr.var)) →
    d.γ (wrapInd d cfg cs trs ps vars) v' := by
  intro trs
  induction trs with
  | nil => intro ps vars _ _ _ hm; simpa [wrapInd, mix_nil] using hm
  | cons t rest ih =>
    intro ps vars hvars hnd hq hm
    obtain ⟨htv, z, hz, h1, h2⟩ := hq t List.mem_cons_self
    have hnd' := List.nodup_cons.mp (by simpa using hnd : (t.var :: rest.map Tr.var).Nodup)
    have herase : vars.erase t.var = rest.map Tr.var := by
      rw [hvars]; simp
    unfold wrapInd
    simp only []
    rw [herase]
    apply ih _ _ rfl hnd'.2 (fun t' ht' => hq t' (List.mem_cons_of_mem _ ht'))
    apply foldl_join_mem
    refine Or.inr ⟨quadrant cfg.r cfg.w z, mem_quadrants _ _ _ h1 h2, ?_⟩
    have hv' : v' t.var = ((wrapR cfg.r cfg.w z : Int) : Rat) := by
      have := himg.2.1 t.var htv
      rw [hz] at this
      exact coordImage_wraps ho this
    have hux : mix v v' ((t :: rest).map Tr.var) t.var = (z : Rat) := by
      rw [mix_at_mem (by simp), hz]
    have hsh := shiftTo_mem d cfg ps t.var _ z hm hux
    rw [← hv', mix_update v v' t.var _ (rest.map Tr.var) (by intro i; simp) hnd'.1] at hsh
    have hrange : InRangeQ cfg.r cfg.w (mix v v' (rest.map Tr.var) t.var) := by
      have : mix v v' (rest.map Tr.var) t.var = v' t.var := by simp [mix, hnd'.1]
      rw [this]; exact target_inRange himg htv
    apply refineRange_mem _ _ _ _ _ _ hrange
    split
    · rename_i hemp
      have : rest.map Tr.var = [] := by simpa using hemp
      rw [this, mix_nil] at hsh ⊢
      exact d.refineAll_sound _ _ _ hsh hcs
    · apply foldl_refine_mem d _ cs _ _ hsh
      intro c hc hused
      rw [sat_of_allZeroOn c (rest.map Tr.var) _ v' (allZeroOn_of_asRead cs _ c hc _ hused)]
      · exact hcs c hc
      · intro i hi; simp [mix, hi]

/-! ### `wrap_assign_col` -/

omit himg in
theorem wrapCol_mono (vars : List Nat) (pt : Pt) : ∀ (trs : List Tr) (dest src : d.D),
    d.γ dest pt → d.γ (wrapCol d cfg vars trs dest src) pt := by
  intro trs
  induction trs with
  | nil => intro dest src h; exact d.join_left _ _ _ h
  | cons t rest ih =>
    intro dest src h
    unfold wrapCol
    apply foldl_acc_mem d.γ _ _ _ _ (fun a q ha => ih a _ ha) (Or.inl h)

theorem wrapCol_mem (vars : List Nat) (hvars : ∀ x ∈ vars, x ∈ cfg.vars) (ho : cfg.o = .wraps) :
    ∀ (trs : List Tr) (dest src : d.D),
    (trs.map Tr.var).Nodup →
    (∀ t ∈ trs, t.var ∈ cfg.vars ∧ ∃ z : Int, v t.var = (z : Rat) ∧
      t.first ≤ quadrant cfg.r cfg.w z ∧ quadrant cfg.r cfg.w z ≤ t.last) →
    d.γ src (mix v v' (trs.map Tr.var)) →
    d.γ (wrapCol d cfg vars trs dest src) v' := by
  intro trs
  induction trs with
  | nil =>
    intro dest src _ _ hm
    rw [List.map_nil, mix_nil] at hm
    unfold wrapCol
    apply d.join_right
    apply foldl_refineRange_mem d cfg vars _ v'
    · exact refineGuard_mem d cfg src v' hm himg.2.2
    · intro x hx; exact target_inRange himg (hvars x hx)
  | cons t rest ih =>
    intro dest src hnd hq hm
    obtain ⟨htv, z, hz, h1, h2⟩ := hq t List.mem_cons_self
    have hnd' := List.nodup_cons.mp (by simpa using hnd : (t.var :: rest.map Tr.var).Nodup)
    unfold wrapCol
    apply foldl_acc_mem d.γ _ _ _ _ (fun a q ha => wrapCol_mono vars v' rest a _ ha)
    refine Or.inr ⟨quadrant cfg.r cfg.w z, mem_quadrants _ _ _ h1 h2, fun a => ?_⟩
    apply ih a _ hnd'.2 (fun t' ht' => hq t' (List.mem_cons_of_mem _ ht'))
    have hv' : v' t.var = ((wrapR cfg.r cfg.w z : Int) : Rat) := by
      have := himg.2.1 t.var htv
      rw [hz] at this
      exact coordImage_wraps ho this
    have hux : mix v v' ((t :: rest).map Tr.var) t.var = (z : Rat) := by
      rw [mix_at_mem (by simp), hz]
    have hsh := shiftTo_mem d cfg src t.var _ z hm hux
    rw [← hv', mix_update v v' t.var _ (rest.map Tr.var) (by intro i; simp) hnd'.1] at hsh
    exact hsh

/-! ### the theorem -/

/-- **Soundness of the generic wrapping operator**, for every abstract domain, width, signedness,
overflow mode, guard, threshold, individual or collective wrapping — provided the unrepaired
branch is not executed (`fix = true`, or the ghost flag of the run is down). -/
theorem wrapAssignG_sound (fix : Bool) (P : d.D) (hv : d.γ P v)
    (htr : (wrapAssignG fix d cfg P).2 = false) : d.γ (wrapAssignG fix d cfg P).1 v' := by
  unfold wrapAssignG at htr ⊢
  simp only [] at htr ⊢
  split
  · -- no variable to wrap
    rename_i hemp
    have hnone : ∀ i, i ∉ cfg.vars := by
      intro i hi
      have := (mem_normVars i cfg.vars).mpr hi
      have hnil : normVars cfg.vars = [] := by simpa using hemp
      rw [hnil] at this; cases this
    have : v' = v := by funext i; exact himg.1 i (hnone i)
    rw [this] at himg ⊢
    exact refineGuard_mem d cfg P v hv himg.2.2
  · split
    · rename_i he; exact absurd hv (d.isEmpty_sound P he v)
    · rename_i hne hnE
      rw [if_neg hne, if_neg hnE] at htr
      simp only [] at htr
      have inv0 : InvS d cfg v v' (initSt d P) [] (normVars cfg.vars) := by
        refine ⟨?_, rfl, ?_, by simp [initSt], ?_, ?_, ?_⟩
        · have : mix v v' ((initSt d P).trs.map Tr.var ++ normVars cfg.vars) = v := by
            funext i
            simp only [initSt, List.map_nil, List.nil_append, mix]
            split
            · rfl
            · rename_i hi
              exact himg.1 i (fun h => hi ((mem_normVars i cfg.vars).mpr h))
          rw [this]; exact hv
        · intro t ht; simp [initSt] at ht
        · intro t ht; simp [initSt] at ht
        · intro h; simp [initSt] at h
        · exact Sat_nil v'
      have inv := (loop_next himg fix (normVars cfg.vars) (initSt d P) []
        (by simpa using normVars_nodup cfg.vars)
        (by intro i hi; exact (mem_normVars i cfg.vars).mp (by simpa using hi)) inv0).resolve_left
          (by rw [htr]; exact Bool.false_ne_true)
      generalize (normVars cfg.vars).foldl (step fix d cfg) (initSt d P) = s at inv htr
      have hq : ∀ t ∈ s.trs, t.var ∈ cfg.vars ∧ ∃ z : Int, v t.var = (z : Rat) ∧
          t.first ≤ quadrant cfg.r cfg.w z ∧ quadrant cfg.r cfg.w z ≤ t.last := by
        intro t ht
        refine ⟨?_, inv.trsQ t ht⟩
        have := inv.trsDone t ht
        exact (mem_normVars _ _).mp (by simpa using this)
      have hmem : d.γ s.ps (mix v v' (s.trs.map Tr.var)) := by simpa using inv.mem
      apply d.refineAll_sound _ _ _ _ inv.frbSat
      apply refineGuard_mem d cfg _ v' _ himg.2.2
      split
      · rename_i hte
        have : s.trs = [] := by simpa using hte
        rw [this, List.map_nil, mix_nil] at hmem
        exact hmem
      · rename_i hte
        have hne : s.trs ≠ [] := by simpa using hte
        have ho := inv.trsWraps hne
        split
        · apply wrapInd_mem himg _ _ ho s.trs s.ps s.dims inv.dims_eq inv.trsNodup hq hmem
          cases hg : cfg.guard with
          | none => exact Sat_nil v'
          | some cs => exact himg.2.2 cs hg
        · apply wrapCol_mem himg s.dims _ ho s.trs _ s.ps inv.trsNodup hq hmem
          intro x hx
          rw [inv.dims_eq] at hx
          obtain ⟨t, ht, rfl⟩ := List.mem_map.mp hx
          exact (hq t ht).1

end

end PPLV.Wrap

import PPLV.Wrap.ProofsLoop

/-! # C17 lemmas: the invariant of the main loop of `wrap_assign` -/
namespace PPLV.Wrap
open PPLV.Lin

variable (d : Dom) (cfg : WrapCfg) (v v' : Pt)

/-- The invariant after the variables `done` have been processed and before `todo`:
the point that is `v` on the pending (recorded, not yet translated) and on the unprocessed
coordinates and the target `v'` elsewhere belongs to the current element. -/
structure Inv (ps : d.D) (trs : List Tr) (dims : List Nat) (frb : List Con) (done todo : List Nat) : Prop where
  mem : d.γ ps (mix v v' (trs.map Tr.var ++ todo))
  dims_eq : dims = trs.map Tr.var
  trsDone : ∀ t ∈ trs, t.var ∈ done
  trsNodup : (trs.map Tr.var).Nodup
  trsQ : ∀ t ∈ trs, ∃ z : Int, v t.var = (z : Rat) ∧
    t.first ≤ quadrant cfg.r cfg.w z ∧ quadrant cfg.r cfg.w z ≤ t.last
  trsWraps : trs ≠ [] → cfg.o = .wraps
  frbSat : Sat frb v'

abbrev InvS (s : St d.D) (done todo : List Nat) : Prop := Inv d cfg v v' s.ps s.trs s.dims s.frb done todo

variable {d cfg v v'}

theorem mix_at_mem {L : List Nat} {i : Nat} (h : i ∈ L) : mix v v' L i = v i := by simp [mix, h]

/-- processing `x`: it is neither recorded nor still to come, and the followed point moves at `x` only,
from `v x` to `v' x` -/
theorem Inv.mix_step {ps : d.D} {trs : List Tr} {dims : List Nat} {frb : List Con} {done todo : List Nat} {x : Nat}
    (hnd : (done ++ x :: todo).Nodup) (inv : Inv d cfg v v' ps trs dims frb done (x :: todo)) :
    x ∉ trs.map Tr.var ++ todo ∧
      (mix v v' (trs.map Tr.var ++ x :: todo)).update x (v' x) = mix v v' (trs.map Tr.var ++ todo) := by
  have hxd : x ∉ done := fun h => (List.nodup_append.mp hnd).2.2 x h x List.mem_cons_self rfl
  have hxt : x ∉ todo := (List.nodup_cons.mp (List.nodup_append.mp hnd).2.1).1
  have hx : x ∉ trs.map Tr.var ++ todo := by
    intro h
    rcases List.mem_append.mp h with h | h
    · obtain ⟨t, ht, rfl⟩ := List.mem_map.mp h
      exact hxd (inv.trsDone t ht)
    · exact hxt h
  refine ⟨hx, mix_update v v' x _ _ (fun i => ?_) hx⟩
  simp only [List.mem_append, List.mem_cons]
  exact or_left_comm

section
variable (himg : Spec.WrapImage cfg v v')
include himg

theorem target_inRange {x : Nat} (hx : x ∈ cfg.vars) : InRangeQ cfg.r cfg.w (v' x) :=
  coordImage_inRange (himg.2.1 x hx)

/-- the variable `x` is given the full range (or is unconstrained and bounded later) -/
theorem inv_setFull {s : St d.D} {done todo : List Nat} {x : Nat}
    (hnd : (done ++ x :: todo).Nodup) (hx : x ∈ cfg.vars)
    (inv : InvS d cfg v v' s done (x :: todo)) :
    InvS d cfg v v' (setFull d cfg s x) (done ++ [x]) todo := by
  refine ⟨?_, inv.dims_eq, ?_, inv.trsNodup, inv.trsQ, inv.trsWraps, ?_⟩
  · have h := d.unconstrain_sound s.ps x _ (v' x) inv.mem
    rwa [(inv.mix_step hnd).2] at h
  · intro t ht; exact List.mem_append_left _ (inv.trsDone t ht)
  · exact Sat_append inv.frbSat (rangeRows_sat (target_inRange himg hx))

omit himg in
/-- the variable `x` keeps its value (`v' x = v x`), possibly with more full-range bounds -/
theorem inv_keep {ps : d.D} {trs : List Tr} {dims : List Nat} {frb extra : List Con}
    {done todo : List Nat} {x : Nat} (hsame : v' x = v x) (hextra : Sat extra v')
    (inv : Inv d cfg v v' ps trs dims frb done (x :: todo)) :
    Inv d cfg v v' ps trs dims (frb ++ extra) (done ++ [x]) todo := by
  refine ⟨?_, inv.dims_eq, ?_, inv.trsNodup, inv.trsQ, inv.trsWraps, Sat_append inv.frbSat hextra⟩
  · have : mix v v' (trs.map Tr.var ++ todo) = mix v v' (trs.map Tr.var ++ x :: todo) := by
      funext i
      simp only [mix, List.mem_append, List.mem_cons]
      by_cases hi : i = x
      · subst hi; simp [hsame]
      · simp [hi]
    rw [this]; exact inv.mem
  · intro t ht; exact List.mem_append_left _ (inv.trsDone t ht)

theorem inv_cplxUpdate {s : St d.D} {done todo : List Nat} (ext : Nat)
    (hsub : ∀ i ∈ done, i ∈ cfg.vars)
    (inv : InvS d cfg v v' s done todo) :
    InvS d cfg v v' (cplxUpdate d cfg s ext) done todo := by
  unfold cplxUpdate
  split
  · simp only []
    split
    · refine ⟨?_, inv.dims_eq, inv.trsDone, inv.trsNodup, inv.trsQ, inv.trsWraps, ?_⟩
      · exact foldl_unconstrain_mem d Tr.var s.trs s.ps _ inv.mem
      · apply Sat_append inv.frbSat
        intro c hc
        obtain ⟨t, ht, hc⟩ := List.mem_flatMap.mp hc
        exact rangeRows_sat (target_inRange himg (hsub _ (inv.trsDone t ht))) c hc
    · exact inv
  · exact inv

omit himg in
theorem cplxUpdate_tripped (s : St d.D) (ext : Nat) : (cplxUpdate d cfg s ext).tripped = s.tripped := by
  unfold cplxUpdate; split
  · simp only []; split <;> rfl
  · rfl

omit himg in
theorem cplxUpdate_trs (s : St d.D) (ext : Nat) : (cplxUpdate d cfg s ext).trs = s.trs := by
  unfold cplxUpdate; split
  · simp only []; split <;> rfl
  · rfl

/-- facts about the value of `x`, which is still unprocessed -/
theorem x_facts {ps : d.D} {trs : List Tr} {dims : List Nat} {frb : List Con}
    {done todo : List Nat} {x : Nat} (hx : x ∈ cfg.vars)
    (_inv : Inv d cfg v v' ps trs dims frb done (x :: todo)) :
    ∃ z : Int, v x = (z : Rat) ∧ mix v v' (trs.map Tr.var ++ x :: todo) x = (z : Rat) := by
  obtain ⟨z, hz, _⟩ := himg.2.1 x hx
  refine ⟨z, hz, ?_⟩
  rw [mix_at_mem (by simp), hz]

theorem inv_hull {s : St d.D} {done todo : List Nat} {x : Nat} {fq lq : Int} {z : Int}
    (hnd : (done ++ x :: todo).Nodup) (hx : x ∈ cfg.vars) (ho : cfg.o = .wraps)
    (hz : v x = (z : Rat)) (h1 : fq ≤ quadrant cfg.r cfg.w z) (h2 : quadrant cfg.r cfg.w z ≤ lq)
    (inv : InvS d cfg v v' s done (x :: todo)) :
    Inv d cfg v v' (hullLoop d cfg s.ps x fq lq) s.trs s.dims s.frb (done ++ [x]) todo := by
  obtain ⟨hxn, hupd⟩ := inv.mix_step hnd
  have hv' : v' x = ((wrapR cfg.r cfg.w z : Int) : Rat) := by
    have := himg.2.1 x hx
    rw [hz] at this
    exact coordImage_wraps ho this
  refine ⟨?_, inv.dims_eq, ?_, inv.trsNodup, inv.trsQ, inv.trsWraps, inv.frbSat⟩
  · unfold hullLoop
    apply foldl_join_mem
    refine Or.inr ⟨quadrant cfg.r cfg.w z, mem_quadrants _ _ _ h1 h2, ?_⟩
    have hux : mix v v' (s.trs.map Tr.var ++ x :: todo) x = (z : Rat) := by
      rw [mix_at_mem (by simp), hz]
    have hm := shiftTo_mem d cfg s.ps x _ z inv.mem hux
    rw [← hv', hupd] at hm
    apply refineRange_mem _ _ _ _ _ hm
    have : mix v v' (s.trs.map Tr.var ++ todo) x = v' x := by simp only [mix, if_neg hxn]
    rw [this]; exact target_inRange himg hx
  · intro t ht; exact List.mem_append_left _ (inv.trsDone t ht)

omit himg in
theorem inv_push {s : St d.D} {done todo : List Nat} {x : Nat} {fq lq : Int} {z : Int}
    (hnd : (done ++ x :: todo).Nodup) (ho : cfg.o = .wraps)
    (hz : v x = (z : Rat)) (h1 : fq ≤ quadrant cfg.r cfg.w z) (h2 : quadrant cfg.r cfg.w z ≤ lq)
    (inv : InvS d cfg v v' s done (x :: todo)) :
    Inv d cfg v v' s.ps (s.trs ++ [⟨x, fq, lq⟩]) (s.dims ++ [x]) s.frb (done ++ [x]) todo := by
  have hxd : x ∉ done := by
    intro h
    exact (List.nodup_append.mp hnd).2.2 x h x (List.mem_cons_self) rfl
  refine ⟨?_, ?_, ?_, ?_, ?_, fun _ => ho, inv.frbSat⟩
  · have : mix v v' ((s.trs ++ [(⟨x, fq, lq⟩ : Tr)]).map Tr.var ++ todo)
        = mix v v' (s.trs.map Tr.var ++ x :: todo) := by
      apply mix_congr; intro i; simp
    rw [this]; exact inv.mem
  · rw [inv.dims_eq]; simp
  · intro t ht
    rcases List.mem_append.mp ht with ht | ht
    · exact List.mem_append_left _ (inv.trsDone t ht)
    · simp only [List.mem_singleton] at ht; subst ht; simp
  · rw [List.map_append, List.nodup_append]
    refine ⟨inv.trsNodup, by simp, ?_⟩
    intro a ha b hb
    simp only [List.map_cons, List.map_nil, List.mem_singleton] at hb
    subst hb
    obtain ⟨t, ht, rfl⟩ := List.mem_map.mp ha
    intro h; exact hxd (h ▸ inv.trsDone t ht)
  · intro t ht
    rcases List.mem_append.mp ht with ht | ht
    · exact inv.trsQ t ht
    · simp only [List.mem_singleton] at ht; subst ht; exact ⟨z, hz, h1, h2⟩

end

end PPLV.Wrap

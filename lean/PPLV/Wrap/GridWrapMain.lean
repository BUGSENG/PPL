import PPLV.Wrap.GridWrapStep
import PPLV.Wrap.ProofsLoop

/-!
# `Grid::wrap_assign` lemmas: induction over the loop on `vars`, and the whole function

Invariant (`Inv D this`): for every point `v` of the copy `gr` and every `v'` that agrees with `v` outside the set
`D` of the variables already processed and is an admissible image of `v` on `D`, `v'` is in the receiver.
(The frequencies are read from `gr`, the updates go to the receiver: the invariant relates the two.)
-/
namespace PPLV.Wrap.GW
open PPLV.Lattice PPLV.Wrap

/-- `v'` is an image of `v` on the coordinates in `D` and equal to `v` elsewhere -/
def Img (cfg : WrapCfg) (D : Nat → Prop) (v v' : Nat → Rat) : Prop :=
  (∀ i, ¬ D i → v' i = v i) ∧ (∀ i, D i → Spec.CoordImage cfg (v i) (v' i))

def Inv (cfg : WrapCfg) (gr : Gens) (D : Nat → Prop) (this : GridGens) : Prop :=
  ∀ v v', gr.Mem v → Img cfg D v v' → Gen.sem this v'

theorem Img_congr {cfg : WrapCfg} {D E : Nat → Prop} (h : ∀ i, E i ↔ D i) {v v' : Nat → Rat}
    (hi : Img cfg E v v') : Img cfg D v v' :=
  ⟨fun i hn => hi.1 i (fun he => hn ((h i).mp he)), fun i hd => hi.2 i ((h i).mpr hd)⟩

/-- what the step lemmas (`stepWI_sound`, `stepU_sound`) say of a loop body at `x`: from a point `u` of the receiver
whose coordinate `x` is still that of a point of `gr`, the body continues and the new receiver has `u` with `x`
replaced by any admissible image -/
def StepKeeps (cfg : WrapCfg) (gr : Gens) (x : Nat) (step : GridGens → GridGens ⊕ Outcome) (this : GridGens) : Prop :=
  ∀ (u : Nat → Rat), Gen.sem this u → (∃ v0, gr.Mem v0 ∧ u x = v0 x) → ∀ a', Spec.CoordImage cfg (u x) a' →
    ∃ t, step this = .inl t ∧ Gen.sem t (Function.update u x a')

/-- the invariant after one more variable, from a step lemma -/
theorem Inv_step {cfg : WrapCfg} {gr : Gens} {D : Nat → Prop} {this t : GridGens} {x : Nat} (hx : ¬ D x)
    (step : GridGens → GridGens ⊕ Outcome)
    (hstep : StepKeeps cfg gr x step this)
    (ht : step this = .inl t) (hinv : Inv cfg gr D this) :
    Inv cfg gr (fun i => D i ∨ i = x) t := by
  intro w w' hw himg
  -- `w'` with the coordinate `x` reset to its value in `w`
  have hI : Img cfg D w (Function.update w' x (w x)) := by
    constructor
    · intro i hn
      by_cases hix : i = x
      · subst hix; simp
      · rw [Function.update_of_ne hix]; exact himg.1 i (fun h => h.elim hn hix)
    · intro i hd
      have hix : i ≠ x := fun h => hx (h ▸ hd)
      rw [Function.update_of_ne hix]; exact himg.2 i (Or.inl hd)
  have hu := hinv w _ hw hI
  have hux : Function.update w' x (w x) x = w x := by simp
  obtain ⟨t', ht', hmem⟩ := hstep _ hu ⟨w, hw, hux⟩ (w' x) (by rw [hux]; exact himg.2 x (Or.inr rfl))
  rw [ht] at ht'
  cases ht'
  simpa using hmem

/-- some image pair exists ⇒ the step continues -/
theorem step_continues {cfg : WrapCfg} {gr : Gens} {D : Nat → Prop} {this : GridGens} {x : Nat} (hx : ¬ D x)
    (step : GridGens → GridGens ⊕ Outcome)
    (hstep : StepKeeps cfg gr x step this)
    (hinv : Inv cfg gr D this) {E : Nat → Prop} (hE : ∀ i, D i ∨ i = x → E i)
    {v v' : Nat → Rat} (hv : gr.Mem v) (himg : Img cfg E v v') :
    ∃ t, step this = .inl t := by
  classical
  -- the image restricted to `D`
  let u : Nat → Rat := fun i => if D i then v' i else v i
  have hI : Img cfg D v u := by
    constructor
    · intro i hn; simp [u, hn]
    · intro i hd; simp only [u, if_pos hd]; exact himg.2 i (hE i (Or.inl hd))
  have hu := hinv v u hv hI
  have hux : u x = v x := by simp [u, hx]
  obtain ⟨t, ht, _⟩ := hstep u hu ⟨v, hv, hux⟩ (v' x) (by rw [hux]; exact himg.2 x (hE x (Or.inr rfl)))
  exact ⟨t, ht⟩

/-- the loop over `vars` with `step x` as its body: `loopWI` and `loopU` are this recursion -/
def iterate (step : Nat → GridGens → GridGens ⊕ Outcome) : List Nat → GridGens → Outcome
  | [], this => .ok this
  | x :: xs, this =>
    match step x this with
    | .inl t => iterate step xs t
    | .inr out => out

theorem loopWI_eq_iterate (fx : Repairs) (w : Nat) (o : Ovf) (minV maxV : Int) (gr : Gens) (xs : List Nat)
    (this : GridGens) : loopWI fx w o minV maxV gr xs this = iterate (stepWI fx w o minV maxV gr) xs this := by
  induction xs generalizing this with
  | nil => rfl
  | cons x xs ih => simp only [loopWI, iterate, ih]; rfl

theorem loopU_eq_iterate (minV maxV : Int) (gr : Gens) (xs : List Nat) (this : GridGens) :
    loopU minV maxV gr xs this = iterate (stepU minV maxV gr) xs this := by
  induction xs generalizing this with
  | nil => rfl
  | cons x xs ih => simp only [loopU, iterate, ih]; rfl

/-- the loop rule: an invariant `I` of (variables still to come, receiver) kept by every `continue`, and a
property `Q` of the outcome that holds at every `return` of the body and, given `I`, at the end -/
theorem iterate_rule {step : Nat → GridGens → GridGens ⊕ Outcome} {I : List Nat → GridGens → Prop}
    {Q : Outcome → Prop}
    (hstep : ∀ y ys this, I (y :: ys) this →
      (∀ t, step y this = .inl t → I ys t) ∧ ∀ out, step y this = .inr out → Q out)
    (hend : ∀ R, I [] R → Q (.ok R)) :
    ∀ xs this, I xs this → Q (iterate step xs this) := by
  intro xs
  induction xs with
  | nil => exact hend
  | cons x xs ih =>
    intro this hI
    unfold iterate
    cases hs : step x this with
    | inl t => exact ih t ((hstep x xs this hI).1 t hs)
    | inr out => exact (hstep x xs this hI).2 out hs

/-- a loop whose body keeps every wrapped image (the step lemmas `stepWI_sound`, `stepU_sound`) returns
normally with every wrapped image of the points of `gr` in the receiver -/
theorem iterate_sound {cfg : WrapCfg} {gr : Gens} {step : Nat → GridGens → GridGens ⊕ Outcome} {xs : List Nat}
    (hnd : xs.Nodup)
    (hstep : ∀ x ∈ xs, ∀ this, StepKeeps cfg gr x (step x) this)
    {E : Nat → Prop} (hE : ∀ i, E i ↔ i ∈ xs) {v v' : Nat → Rat} (hv : gr.Mem v) (himg : Img cfg E v v') :
    ∃ R, iterate step xs (.gens gr) = .ok R ∧ Gen.sem R v' := by
  -- `D`: the variables processed so far, `ys`: those still to come
  refine iterate_rule (step := step)
    (I := fun ys this => ∃ D : Nat → Prop, (∀ x ∈ ys, x ∈ xs ∧ ¬ D x) ∧ ys.Nodup ∧ (∀ i, E i ↔ D i ∨ i ∈ ys) ∧
      Inv cfg gr D this)
    (Q := fun out => ∃ R, out = .ok R ∧ Gen.sem R v') ?_ ?_ xs (.gens gr) ⟨fun _ => False, ?_, hnd, ?_, ?_⟩
  · rintro y ys this ⟨D, hD, hnd, hED, hinv⟩
    have hy := hD y List.mem_cons_self
    have hnd' := List.nodup_cons.mp hnd
    have hs := hstep y hy.1 this
    obtain ⟨t, ht⟩ := step_continues hy.2 (step y) hs hinv (E := E)
      (fun i h => (hED i).mpr (h.elim Or.inl fun h => Or.inr (h ▸ List.mem_cons_self))) hv himg
    refine ⟨fun t' ht' => ⟨fun i => D i ∨ i = y, ?_, hnd'.2, ?_, Inv_step hy.2 (step y) hs ht' hinv⟩,
      fun out ho => by rw [ht] at ho; cases ho⟩
    · exact fun x hx => ⟨(hD x (List.mem_cons_of_mem _ hx)).1,
        fun h => h.elim (hD x (List.mem_cons_of_mem _ hx)).2 fun h => hnd'.1 (h ▸ hx)⟩
    · intro i; rw [hED i, List.mem_cons, or_assoc]
  · rintro R ⟨D, _, _, hED, hinv⟩
    exact ⟨R, rfl, hinv v v' hv (Img_congr (fun i => by rw [hED i]; simp) himg)⟩
  · exact fun x hx => ⟨hx, fun h => h⟩
  · intro i; rw [hE i]; simp
  · intro w w' hwm hi
    have : w' = w := funext fun i => hi.1 i fun h => h
    rw [this]; exact hwm

/-- `flawed = false` says that no wrapped variable goes through the branch of KF-C17-12 -/
theorem flawedAt_of_flawed {cfg : WrapCfg} {gr : Gens} (h : flawed cfg (.gens gr) = false) :
    ∀ x ∈ normVars cfg.vars, flawedAt cfg.w cfg.o gr x = false := by
  intro x hx
  have hx' : x ∈ cfg.vars := (mem_normVars x cfg.vars).mp hx
  unfold flawed at h
  simp only [List.any_eq_false] at h
  have := h x hx'
  simpa using this

theorem flawed_of_not_wraps (cfg : WrapCfg) (G : GridGens) (ho : cfg.o ≠ .wraps) : flawed cfg G = false := by
  cases G with
  | empty => rfl
  | gens gr =>
    unfold flawed
    simp only [List.any_eq_false]
    intro x _
    unfold flawedAt
    split
    · simp
    · simp [ho]

/-- what is legal: the guard (if any) and `vars` fit the space dimension -/
def Legal (n : Nat) (cfg : WrapCfg) : Prop :=
  (∀ cs, cfg.guard = some cs → guardSpaceDim cs ≤ n) ∧ varsSpaceDim cfg.vars ≤ n

theorem guardTooBig_of_legal {n : Nat} {cfg : WrapCfg} (hlegal : Legal n cfg) : guardTooBig n cfg.guard = false := by
  unfold guardTooBig
  cases hg : cfg.guard with
  | none => rfl
  | some cs => have := hlegal.1 cs hg; simp only [decide_eq_false_iff_not]; omega

/-- **the paths through the function**: the two dimension checks, the no-op for no variable, the empty receiver, and
the two loops; a property of each holds of `gridWrapAssignV`.  The theorems about the whole function are instances. -/
theorem gridWrapAssignV_cases (fx : Repairs) (n : Nat) (cfg : WrapCfg) (G : GridGens) {P : Outcome → Prop}
    (hdim : guardTooBig n cfg.guard = true ∨ (cfg.vars.isEmpty = false ∧ n < varsSpaceDim cfg.vars) →
      P .dimensionIncompatible)
    (hnone : guardTooBig n cfg.guard = false → cfg.vars.isEmpty = true → P (.ok G))
    (hloop : guardTooBig n cfg.guard = false → cfg.vars.isEmpty = false → varsSpaceDim cfg.vars ≤ n →
      (G = .empty → P (.ok .empty)) ∧
      ∀ gr, G = .gens gr →
        (cfg.o = .impossible ∨ cfg.o = .wraps →
          P (loopWI fx cfg.w cfg.o (rangeOf cfg.r cfg.w).1 (rangeOf cfg.r cfg.w).2 gr (normVars cfg.vars) (.gens gr))) ∧
        (cfg.o = .undefined →
          P (loopU (rangeOf cfg.r cfg.w).1 (rangeOf cfg.r cfg.w).2 gr (normVars cfg.vars) (.gens gr)))) :
    P (gridWrapAssignV fx n cfg G) := by
  unfold gridWrapAssignV
  refine ite_rule _ (fun h => hdim (.inl h)) fun hg => ite_rule _ (hnone (Bool.eq_false_iff.mpr hg)) fun he =>
    ite_rule _ (fun h => hdim (.inr ⟨Bool.eq_false_iff.mpr he, h⟩)) fun hd => ?_
  obtain ⟨h0, h1⟩ := hloop (Bool.eq_false_iff.mpr hg) (Bool.eq_false_iff.mpr he) (Nat.le_of_not_lt hd)
  cases G with
  | empty => exact h0 rfl
  | gens gr =>
    refine ite_rule _ (h1 gr rfl).1 fun ho => (h1 gr rfl).2 ?_
    cases h : cfg.o with
    | wraps => exact absurd (Or.inr h) ho
    | undefined => rfl
    | impossible => exact absurd (Or.inl h) ho

/-- **the whole function**: every wrapped image of a point of the argument that is integer on `vars` is in the
receiver after a normal return; the function returns normally on a legal call when such an image exists
(provided no wrapped variable goes through the branch of KF-C17-12) -/
theorem gridWrapAssignV_sound (fx : Repairs) (n : Nat) (cfg : WrapCfg) (hw : 0 < cfg.w) (G : GridGens)
    (hnf : fx.kf12 = true ∨ flawed cfg G = false) (hlegal : Legal n cfg)
    (v v' : Nat → Rat) (hv : Gen.sem G v) (himg : Spec.WrapImage cfg v v') :
    ∃ R, gridWrapAssignV fx n cfg G = .ok R ∧ Gen.sem R v' := by
  refine gridWrapAssignV_cases fx n cfg G (P := fun out => ∃ R, out = .ok R ∧ Gen.sem R v') ?_ ?_ ?_
  · rintro (h | ⟨_, h⟩)
    · rw [guardTooBig_of_legal hlegal] at h; cases h
    · exact absurd hlegal.2 (Nat.not_le_of_lt h)
  · intro _ hemp
    have : v' = v := by
      funext i
      apply himg.1 i
      rw [List.isEmpty_iff.mp hemp]; simp
    exact ⟨G, rfl, this ▸ hv⟩
  · intro _ _ _
    refine ⟨fun h => absurd hv (by simp [h, Gen.sem]), fun gr hG => ?_⟩
    subst hG
    rw [rangeOf_eq cfg.r cfg.w hw]
    have hE : ∀ i, i ∈ cfg.vars ↔ i ∈ normVars cfg.vars := fun i => (mem_normVars i cfg.vars).symm
    have himg' : Img cfg (fun i => i ∈ cfg.vars) v v' := ⟨himg.1, himg.2.1⟩
    constructor
    · intro ho
      rw [loopWI_eq_iterate]
      exact iterate_sound (normVars_nodup _) (fun x hx this u hu hval a' ha =>
        stepWI_sound fx cfg hw (ho.elim Or.inr Or.inl) gr x
          (hnf.elim Or.inl fun h => Or.inr (flawedAt_of_flawed h x hx)) this u hu hval a' ha) hE hv himg'
    · intro hu
      rw [loopU_eq_iterate]
      exact iterate_sound (normVars_nodup _) (fun x _ this u hu' hval a' ha =>
        stepU_sound cfg hu gr x this u hu' hval a' ha) hE hv himg'

/-- the function with both repairs (3a4d83e, 4614ba1): no side condition on the argument -/
theorem gridWrapAssign_sound (n : Nat) (cfg : WrapCfg) (hw : 0 < cfg.w) (G : GridGens) (hlegal : Legal n cfg)
    (v v' : Nat → Rat) (hv : Gen.sem G v) (himg : Spec.WrapImage cfg v v') :
    ∃ R, gridWrapAssign n cfg G = .ok R ∧ Gen.sem R v' :=
  gridWrapAssignV_sound repaired n cfg hw G (Or.inl rfl) hlegal v v' hv himg

/-- the function before the repairs: every call outside the branch of KF-C17-12 -/
theorem gridWrapAssignBeforeFix_sound (n : Nat) (cfg : WrapCfg) (hw : 0 < cfg.w) (G : GridGens)
    (hnf : flawed cfg G = false) (hlegal : Legal n cfg)
    (v v' : Nat → Rat) (hv : Gen.sem G v) (himg : Spec.WrapImage cfg v v') :
    ∃ R, gridWrapAssignBeforeFix n cfg G = .ok R ∧ Gen.sem R v' :=
  gridWrapAssignV_sound beforeFix n cfg hw G (Or.inr hnf) hlegal v v' hv himg

end PPLV.Wrap.GW

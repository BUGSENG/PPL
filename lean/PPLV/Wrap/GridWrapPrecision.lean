import PPLV.Wrap.GridWrapOutcome

/-!
# `Grid::wrap_assign` lemmas: what the code guarantees about the range (`OVERFLOW_WRAPS`)

A grid cannot express the range `[min,max]`; the only variables whose values end up inside the range are those the
code pins: a wrapped variable that is an integer constant in the argument, or whose frequency is exactly `2^w` with
an integer representative.  For such a variable every point of the result has the in-range value, whatever the other
wrapped variables are (`Pin x c G`: every point of `G` has `x = c`).
-/
namespace PPLV.Wrap.GW
open PPLV.Lattice PPLV.Wrap

/-- every point of `G` has the value `c` at coordinate `x` -/
def Pin (x : Nat) (c : Rat) (G : GridGens) : Prop := ∀ u, Gen.sem G u → u x = c

theorem Pin_of_isEmpty {x : Nat} {c : Rat} {G : GridGens} (h : G.isEmpty = true) : Pin x c G := by
  intro u hu
  have : G.isEmpty = false := (isEmpty_false_iff G).mpr ⟨u, hu⟩
  rw [h] at this; cases this

theorem Pin_addCongruenceInt {x y : Nat} {c : Rat} {G : GridGens} (h : Pin x c G) : Pin x c (addCongruenceInt G y) := by
  intro u hu
  unfold addCongruenceInt at hu
  rw [intersectCon_sem] at hu
  exact h u hu.1

/-- `unconstrain(y); add_constraint(y == v)` does not move another coordinate -/
theorem Pin_pin_other {x y : Nat} (hxy : y ≠ x) {c : Rat} {G : GridGens} (v : Int) (h : Pin x c G) :
    Pin x c (addConstraintEq (unconstrain G y) y v) := by
  intro u hu
  unfold addConstraintEq unconstrain at hu
  rw [intersectCon_sem, addLine_sem] at hu
  obtain ⟨⟨u0, d, hu0, rfl⟩, _⟩ := hu
  simp only [Pi.add_apply, Pi.smul_apply, smul_eq_mul, toFun_unit]
  rw [if_neg (fun h => hxy h.symm), mul_zero, add_zero]
  exact h u0 hu0

/-- `unconstrain(x); add_constraint(x == v)` pins `x` -/
theorem Pin_pin_self {x : Nat} {G : GridGens} (v : Int) : Pin x (v : Rat) (addConstraintEq (unconstrain G x) x v) := by
  intro u hu
  unfold addConstraintEq at hu
  rw [intersectCon_sem, eqCg_sem] at hu
  exact hu.2

theorem Pin_addParamOrLeave {fx : Repairs} {x y : Nat} (hxy : y ≠ x) {c : Rat} {G t : GridGens} {k : Int}
    (hstep : addParamOrLeave fx G y k = .inl t) (h : Pin x c G) : Pin x c t := by
  unfold addParamOrLeave at hstep
  split at hstep
  · rename_i t' ht'
    cases hstep
    unfold addGridGeneratorParam at ht'
    split at ht'
    · cases ht'
    · cases ht'
      intro u hu
      rw [addParam_sem] at hu
      obtain ⟨u0, j, hu0, rfl⟩ := hu
      simp only [Pi.add_apply, Pi.smul_apply, smul_eq_mul, toFun_vsmul_unit]
      rw [if_neg (fun h => hxy h.symm), mul_zero, add_zero]
      exact h u0 hu0
  · cases hstep

/-- the body of the loop for another variable `y` keeps `x` pinned -/
theorem stepWI_Pin {fx : Repairs} {w : Nat} {o : Ovf} {minV maxV : Int} {gr : Gens} {x y : Nat} (hxy : y ≠ x)
    {c : Rat} {this t : GridGens} (hstep : stepWI fx w o minV maxV gr y this = .inl t) (h : Pin x c this) : Pin x c t := by
  have h1 : ∀ this1, MaybeInt this y this1 → Pin x c this1 := by
    rintro _ (rfl | rfl)
    · exact h
    · exact Pin_addCongruenceInt h
  revert hstep
  refine stepWI_cases fx w o minV maxV gr y this (P := fun s => s = .inl t → Pin x c t) ?_ (fun e => nomatch e) ?_ ?_
  · intro this1 hm e; exact Sum.inl.inj e ▸ h1 this1 hm
  · intro _ this1 hm e; exact Pin_addParamOrLeave hxy e (h1 this1 hm)
  · intro this1 v hm e; exact Sum.inl.inj e ▸ Pin_pin_other hxy v (h1 this1 hm)

/-- the loop over variables other than `x` keeps `x` pinned -/
theorem loopWI_Pin (fx : Repairs) (w : Nat) (o : Ovf) (minV maxV : Int) (gr : Gens) (x : Nat) (c : Rat)
    (xs : List Nat) (hx : x ∉ xs) (this R : GridGens) (h : Pin x c this)
    (hl : loopWI fx w o minV maxV gr xs this = .ok R) : Pin x c R := by
  revert hl
  rw [loopWI_eq_iterate]
  refine iterate_rule (I := fun ys t => x ∉ ys ∧ Pin x c t) (Q := fun out => out = .ok R → Pin x c R) ?_
    (fun R' hI e => by cases e; exact hI.2) xs this ⟨hx, h⟩
  rintro y ys this ⟨hx, h⟩
  refine ⟨fun t hs => ⟨fun hm => hx (List.mem_cons_of_mem _ hm), stepWI_Pin (fun e => hx (List.mem_cons.mpr (.inl e.symm))) hs h⟩,
    fun out hs e => ?_⟩
  subst e
  obtain ⟨R', hR', he⟩ | ⟨l, hl', _⟩ := stepWI_inr hs
  · cases hR'; exact Pin_of_isEmpty he
  · cases hl'

/-- the body of the loop at `x` itself: an integer constant, or frequency `2^w` with an integer representative,
    is pinned to an in-range value -/
theorem stepWI_pins {fx : Repairs} {r : Repn} {w : Nat} (hw : 0 < w) {gr : Gens} {x : Nat} {f_n f_d v_n : Int}
    (hfreq : frequencyNoCheck gr (unit x) = some (f_n, f_d, v_n, 1)) (he : f_n = 0 ∨ f_n = wrapFrequency w)
    {this t : GridGens} (hconst : f_n = 0 → Pin x (v_n : Rat) this)
    (hstep : stepWI fx w .wraps (minValue r w) (maxValue r w) gr x this = .inl t) :
    ∃ z : Int, inRange r w z ∧ Pin x (z : Rat) t := by
  unfold stepWI at hstep
  rw [hfreq] at hstep
  simp only [] at hstep
  have hwfpos : 0 < wrapFrequency w := pow2_pos w
  by_cases h0 : f_n = 0
  · rw [if_pos h0] at hstep
    rw [if_neg (by decide)] at hstep
    by_cases hout : v_n > maxValue r w ∨ v_n < minValue r w
    · rw [if_pos hout] at hstep
      rw [if_neg (by decide)] at hstep
      cases hstep
      refine ⟨wrapConstant w (minValue r w) (maxValue r w) v_n, ?_, Pin_pin_self _⟩
      rw [wrapConstant_eq r w hw]; exact wrapR_inRange r w v_n
    · rw [if_neg hout] at hstep
      cases hstep
      exact ⟨v_n, by unfold inRange; omega, hconst h0⟩
  · have hfw : f_n = wrapFrequency w := he.resolve_left h0
    rw [if_neg h0] at hstep
    rw [if_neg (by simp)] at hstep
    rw [if_neg (by intro hc; rcases hc.2 with h | h
                   · exact h hfw
                   · exact h.2 rfl)] at hstep
    rw [if_pos trivial] at hstep
    rw [if_pos (Or.inl hfw)] at hstep
    cases hstep
    refine ⟨leastNotBelow (minValue r w) f_n v_n, ?_, Pin_pin_self _⟩
    obtain ⟨h1, h2, _⟩ := leastNotBelow_spec (minValue r w) f_n v_n (by omega)
    unfold inRange maxValue
    have : pow2 w = wrapFrequency w := rfl
    omega

/-- the loop: once `x` has been processed it stays pinned -/
theorem loopWI_pins (fx : Repairs) (r : Repn) (w : Nat) (hw : 0 < w) (gr : Gens) (x : Nat) (f_n f_d v_n : Int)
    (hfreq : frequencyNoCheck gr (unit x) = some (f_n, f_d, v_n, 1)) (he : f_n = 0 ∨ f_n = wrapFrequency w) :
    ∀ (xs : List Nat), xs.Nodup → x ∈ xs → ∀ (this R : GridGens), (f_n = 0 → Pin x (v_n : Rat) this) →
      loopWI fx w .wraps (minValue r w) (maxValue r w) gr xs this = .ok R →
      R.isEmpty = true ∨ ∃ z : Int, inRange r w z ∧ Pin x (z : Rat) R := by
  intro xs
  induction xs with
  | nil => intro _ hx; cases hx
  | cons y ys ih =>
    intro hnd hx this R hconst hl
    have hnd' := List.nodup_cons.mp hnd
    unfold loopWI at hl
    cases hs : stepWI fx w .wraps (minValue r w) (maxValue r w) gr y this with
    | inr out =>
      rw [hs] at hl
      simp only [] at hl
      subst hl
      rcases stepWI_inr hs with ⟨R', hR', hemp⟩ | ⟨l, hl', _⟩
      · cases hR'; exact Or.inl hemp
      · cases hl'
    | inl t =>
      rw [hs] at hl
      simp only [] at hl
      by_cases hyx : y = x
      · subst hyx
        obtain ⟨z, hz, hp⟩ := stepWI_pins hw hfreq he hconst hs
        exact Or.inr ⟨z, hz, loopWI_Pin fx w .wraps _ _ gr y z ys hnd'.1 t R hp hl⟩
      · have hx' : x ∈ ys := by
          rcases List.mem_cons.mp hx with h | h
          · exact absurd h.symm hyx
          · exact h
        exact ih hnd'.2 hx' t R (fun h0 => stepWI_Pin hyx hs (hconst h0)) hl

/-- a constant of the argument pins the initial receiver -/
theorem Pin_of_constant {gr : Gens} {x : Nat} {f_d v_n : Int}
    (hfreq : frequencyNoCheck gr (unit x) = some (0, f_d, v_n, 1)) : Pin x (v_n : Rat) (.gens gr) := by
  obtain ⟨f, v, _, hfn, _, hvn, hvd, hvals⟩ := frequencyNoCheck_some hfreq
  intro u hu
  obtain ⟨t, ht⟩ := hvals u hu
  rw [dotF_unit] at ht
  have hf : f = 0 := Rat.num_eq_zero.mp hfn.symm
  rw [ht, hf, mul_zero, add_zero, rat_of_den_one v hvd.symm, hvn]

/-- **the whole function**, overflow wraps: a wrapped variable that is an integer constant of the argument, or has
frequency exactly `2^w` with an integer representative, has an in-range value at every point of the result -/
theorem gridWrapAssignV_in_range (fx : Repairs) (n : Nat) (cfg : WrapCfg) (hw : 0 < cfg.w) (ho : cfg.o = .wraps)
    (gr : Gens) (x : Nat) (hx : x ∈ cfg.vars) (f_n f_d v_n : Int)
    (hfreq : frequencyNoCheck gr (unit x) = some (f_n, f_d, v_n, 1)) (he : f_n = 0 ∨ f_n = wrapFrequency cfg.w)
    (R : GridGens) (hR : gridWrapAssignV fx n cfg (.gens gr) = .ok R) :
    ∀ u, Gen.sem R u → ∃ z : Int, u x = (z : Rat) ∧ inRange cfg.r cfg.w z := by
  revert hR
  refine gridWrapAssignV_cases fx n cfg (.gens gr) (P := fun out => out = .ok R → _)
    (fun _ => Outcome.noConfusion) (fun _ hemp => ?_) fun _ _ _ =>
      ⟨fun h => GridGens.noConfusion h, fun gr' hG => ⟨fun _ hR => ?_, fun hu => ?_⟩⟩
  · rw [List.isEmpty_iff.mp hemp] at hx; cases hx
  · cases hG
    rw [rangeOf_eq cfg.r cfg.w hw, ho] at hR
    have hconst : f_n = 0 → Pin x (v_n : Rat) (.gens gr) := by
      intro h0; subst h0; exact Pin_of_constant hfreq
    rcases loopWI_pins fx cfg.r cfg.w hw gr x f_n f_d v_n hfreq he (normVars cfg.vars) (normVars_nodup _)
      ((mem_normVars x cfg.vars).mpr hx) (.gens gr) R hconst hR with hemp | ⟨z, hz, hp⟩
    · intro u hu
      have : R.isEmpty = false := (isEmpty_false_iff R).mpr ⟨u, hu⟩
      rw [hemp] at this; cases this
    · exact fun u hu => ⟨z, hp u hu, hz⟩
  · rw [ho] at hu; cases hu

end PPLV.Wrap.GW

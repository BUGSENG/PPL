import PPLV.Lin.Decide

/-! # K1 theorems: existential projection onto the first `n` coordinates -/
namespace PPLV.Lin
open List

/-- keep the first `n` coordinates, zero elsewhere -/
def Val.mask (n : Nat) (w : Val) : Val := fun j => if j < n then w j else 0

theorem mask_zero (w : Val) : Val.mask 0 w = Val.zero := by
  funext j; simp [Val.mask, Val.zero]

theorem mask_succ_tail (n : Nat) (w : Val) : (Val.mask (n+1) w).tail = Val.mask n w.tail := by
  funext j; simp [Val.mask, Val.tail]

theorem dot_take (n : Nat) (as : List Int) (w : Val) :
    dot (as.take n) w = dot as (Val.mask n w) := by
  induction as generalizing n w with
  | nil => simp
  | cons a as ih =>
    cases n with
    | zero => rw [mask_zero, dot_zero]; simp
    | succ n =>
      simp only [List.take_succ_cons, dot_cons, ih, mask_succ_tail]
      simp [Val.mask]

theorem sat_truncate (n : Nat) (c : Con) (w : Val) :
    (c.truncate n).sat w ↔ c.sat (fun j => if j < n then w j else 0) := by
  unfold Con.sat Con.eval Con.truncate
  simp only
  rw [dot_take]; rfl

theorem dot_replicate_zero_append (k : Nat) (as : List Int) (w : Val) :
    dot (List.replicate k 0 ++ as) w = dot as (fun j => w (j + k)) := by
  induction k generalizing w with
  | zero => simp
  | succ k ih =>
    simp only [List.replicate_succ, List.cons_append, dot_cons, ih]
    simp only [Int.cast_zero, zero_mul, zero_add]
    congr 1

theorem sat_shift (k : Nat) (c : Con) (w : Val) : (c.shift k).sat w ↔ c.sat (fun j => w (j + k)) := by
  unfold Con.sat Con.eval Con.shift
  simp only
  rw [dot_replicate_zero_append]

theorem Sat_map_shift (k : Nat) (cs : List Con) (w : Val) :
    Sat (cs.map (Con.shift k)) w ↔ Sat cs (fun j => w (j + k)) :=
  (Sat_map _ cs w).trans (forall₂_congr fun c _ => sat_shift k c w)

theorem Sat_map_truncate (n : Nat) (R : List Con) (w : Val) :
    Sat (R.map (Con.truncate n)) w ↔ Sat R (Val.mask n w) :=
  (Sat_map _ R w).trans (forall₂_congr fun c _ => sat_truncate n c w)

/-- **Projection**: `projectTo n total cs` denotes the set of `w` whose first `n` coordinates
    extend to a solution of `cs` (rows over `total ≥ n` variables). -/
theorem projectTo_spec (n total : Nat) (cs : List Con) (hwf : WF total cs) (hn : n ≤ total) (w : Val) :
    Sat (projectTo n total cs) w ↔ ∃ w', (∀ j < n, w' j = w j) ∧ Sat cs w' := by
  unfold projectTo
  rw [Sat_map_truncate, ← elimVars_correct]
  constructor
  · rintro ⟨x', ha, hs⟩
    refine ⟨x', fun j hj => ?_, (tidy_correct cs x').mp hs⟩
    have := ha j (by simp [List.mem_range']; omega)
    simpa [Val.mask, hj] using this
  · rintro ⟨w', hag, hs⟩
    refine ⟨fun j => if j < total then w' j else 0, ?_, ?_⟩
    · intro j hj
      have hj' : j < n ∨ total ≤ j := by
        simp only [List.mem_range'_1, not_and, not_lt] at hj
        by_cases h : n ≤ j
        · right; have := hj h; omega
        · left; omega
      rcases hj' with h | h
      · have : j < total := by omega
        simp [Val.mask, h, this, hag j h]
      · have h1 : ¬ j < total := by omega
        have h2 : ¬ j < n := by omega
        simp [Val.mask, h1, h2]
    · rw [tidy_correct]
      intro c hc
      refine (sat_agree c _ w' ?_).mpr (hs c hc)
      intro i hi
      have : i < total := lt_of_lt_of_le hi (hwf c hc)
      simp [this]

theorem projectTo_wf (n total : Nat) (cs : List Con) : WF n (projectTo n total cs) := by
  intro c hc
  unfold projectTo at hc
  simp only [List.mem_map] at hc
  obtain ⟨d, -, rfl⟩ := hc
  simp [Con.truncate, List.length_take]

theorem feasible_projectTo (n total : Nat) (cs : List Con) :
    feasible n (projectTo n total cs) = feasibleFM n (projectTo n total cs) :=
  feasible_eq_feasibleFM _ _ ((wfB_iff _ _).mpr (projectTo_wf n total cs))

/-! ### more `dot` algebra -/

theorem dot_append (as bs : List Int) (w : Val) :
    dot (as ++ bs) w = dot as w + dot bs (fun j => w (j + as.length)) := by
  induction as generalizing w with
  | nil => simp
  | cons a as ih =>
    simp only [List.cons_append, dot_cons, ih, List.length_cons]
    have : (fun j => w.tail (j + as.length)) = (fun j => w (j + (as.length + 1))) := by
      funext j; simp [Val.tail, Nat.add_assoc]
    rw [this]; ring

theorem dot_replicate_zero (k : Nat) (w : Val) : dot (List.replicate k 0) w = 0 := by
  simpa using dot_replicate_zero_append k [] w

theorem dot_unitRow (i : Nat) (a : Int) (w : Val) : dot (unitRow i a) w = (a : Rat) * w i := by
  unfold unitRow
  rw [dot_replicate_zero_append]; simp

theorem dot_map_neg (as : List Int) (w : Val) : dot (as.map (- ·)) w = - dot as w := by
  induction as generalizing w with
  | nil => simp
  | cons a as ih => simp only [List.map_cons, dot_cons, ih]; push_cast; ring

theorem Sat_flatMap {α} (l : List α) (f : α → List Con) (w : Val) :
    Sat (l.flatMap f) w ↔ ∀ a ∈ l, Sat (f a) w := by
  unfold Sat
  simp only [List.mem_flatMap]
  exact ⟨fun h a ha c hc => h c ⟨a, ha, hc⟩, fun h c ⟨a, ha, hc⟩ => h a ha c hc⟩

theorem Sat_eqRows (cf : List Int) (k : Int) (w : Val) :
    Sat (eqRows cf k) w ↔ dot cf w + (k : Rat) = 0 := by
  unfold Sat eqRows
  constructor
  · intro h
    have h1 := h ⟨cf, k, false⟩ (by simp)
    have h2 := h ⟨cf.map (- ·), -k, false⟩ (by simp)
    simp only [Con.sat, Con.eval, dot_map_neg, Bool.false_eq_true, if_false] at h1 h2
    push_cast at h2
    linarith
  · intro h c hc
    simp only [List.mem_cons, List.not_mem_nil, or_false] at hc
    rcases hc with rfl | rfl
    · simp only [Con.sat, Con.eval, Bool.false_eq_true, if_false]; linarith
    · simp only [Con.sat, Con.eval, dot_map_neg, Bool.false_eq_true, if_false]
      push_cast; linarith

end PPLV.Lin

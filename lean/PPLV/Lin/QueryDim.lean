import PPLV.Lin.Decide
import PPLV.Lin.Ops

/-!
# K1 theorems: the affine-dimension oracle `RefPoly.affineDim`

`RefPoly.affineDim p` runs Gaussian elimination (`eqFree`) on the implicit equalities of `p`
and counts the non-pivot variables.  The specification `affineDim_spec` is two-sided: the set
contains `d + 1` affinely independent points (so its affine hull has dimension `≥ d`) and these
points affinely span the whole set (so its affine hull has dimension `≤ d`).

Plan of the proof: (1) every point of the set solves the implicit equalities `E`; (2) there is a
point `x*` of the set at which every row outside `E` is strictly positive; (3) the solution set
`L` of `E` has an affine basis of `eqFree + 1` points (`gauss`, by the recursion of `eqFree`);
(4) a homothety of small ratio centred at `x*` moves this basis into the set.
-/
namespace PPLV.Lin
open List

/-- `Σ_k lam_k · xs_k`, coordinatewise (the lists are read up to the length of the shorter) -/
def lcomb : List Rat → List Val → Val
  | l :: ls, x :: xs => fun i => l * x i + lcomb ls xs i
  | _, _ => fun _ => 0

namespace QDim

/-! ### `lcomb` -/

@[simp] theorem lcomb_cons (l : Rat) (ls : List Rat) (x : Val) (xs : List Val) (i : Nat) :
    lcomb (l :: ls) (x :: xs) i = l * x i + lcomb ls xs i := rfl

@[simp] theorem lcomb_nil_left (xs : List Val) (i : Nat) : lcomb [] xs i = 0 := rfl

@[simp] theorem lcomb_nil_right (ls : List Rat) (i : Nat) : lcomb ls [] i = 0 := by
  cases ls <;> rfl

theorem lcomb_map_eq (i : Nat) (f : Val → Val) (hf : ∀ x, f x i = x i) (lam : List Rat)
    (xs : List Val) : lcomb lam (xs.map f) i = lcomb lam xs i := by
  induction lam generalizing xs with
  | nil => simp
  | cons l ls ih =>
    cases xs with
    | nil => simp
    | cons x xs => simp [hf, ih]

theorem lcomb_map_zero (i : Nat) (f : Val → Val) (hf : ∀ x, f x i = 0) (lam : List Rat)
    (xs : List Val) : lcomb lam (xs.map f) i = 0 := by
  induction lam generalizing xs with
  | nil => simp
  | cons l ls ih =>
    cases xs with
    | nil => simp
    | cons x xs => simp [hf, ih]

theorem lcomb_map_affine (i : Nat) (a e : Rat) (f : Val → Val) (hf : ∀ x, f x i = a + e * x i)
    (lam : List Rat) (xs : List Val) (hl : lam.length = xs.length) :
    lcomb lam (xs.map f) i = a * lam.sum + e * lcomb lam xs i := by
  induction lam generalizing xs with
  | nil => simp
  | cons l ls ih =>
    cases xs with
    | nil => simp at hl
    | cons x xs =>
      have hl' : ls.length = xs.length := by simpa using hl
      simp only [List.map_cons, lcomb_cons, hf, ih xs hl', List.sum_cons]
      ring

/-! ### linearity of `dot` and of rows -/

theorem dot_lin2 (as : List Int) (a b : Rat) (u v y : Val)
    (h : ∀ i, y i = a * u i + b * v i) : dot as y = a * dot as u + b * dot as v := by
  induction as generalizing u v y with
  | nil => simp
  | cons c cs ih =>
    simp only [dot_cons]
    rw [h 0, ih u.tail v.tail y.tail (fun i => h (i+1))]
    ring

theorem eval_aff (c : Con) (a : Rat) (u v y : Val) (h : ∀ i, y i = a * u i + (1 - a) * v i) :
    c.eval y = a * c.eval u + (1 - a) * c.eval v := by
  unfold Con.eval
  rw [dot_lin2 c.coeffs a (1 - a) u v y h]; ring

theorem dot_lcomb_const (as : List Int) (r : Rat) (mu : List Rat) (xs : List Val)
    (hl : mu.length = xs.length) (hx : ∀ x ∈ xs, dot as x = r) :
    dot as (lcomb mu xs) = mu.sum * r := by
  induction mu generalizing xs with
  | nil =>
    have : lcomb [] xs = Val.zero := rfl
    rw [this, dot_zero]; simp
  | cons m ms ih =>
    cases xs with
    | nil => simp at hl
    | cons x xs =>
      have hl' : ms.length = xs.length := by simpa using hl
      rw [dot_lin2 as m 1 x (lcomb ms xs) (lcomb (m :: ms) (x :: xs)) (fun i => by simp),
        hx x (by simp), ih xs hl' (fun z hz => hx z (by simp [hz])), List.sum_cons]
      ring

theorem dot_agree_nz (as : List Int) (x y : Val) (h : ∀ i, as.getD i 0 ≠ 0 → x i = y i) :
    dot as x = dot as y := by
  induction as generalizing x y with
  | nil => rfl
  | cons a as ih =>
    simp only [dot_cons]
    rw [ih x.tail y.tail (fun i hi => h (i+1) (by simpa using hi))]
    by_cases ha : a = 0
    · subst ha; simp
    · rw [h 0 (by simpa using ha)]

/-! ### the elimination step on equalities -/

theorem getD_map_mul (a : Int) (l : List Int) (i : Nat) :
    (l.map (a * ·)).getD i 0 = a * l.getD i 0 := by
  induction l generalizing i with
  | nil => simp
  | cons b bs ih =>
    cases i with
    | zero => simp only [List.map_cons, List.getD_cons_zero]
    | succ i => simp only [List.map_cons, List.getD_cons_succ, ih]

theorem getD_lincomb (a b : Int) (xs ys : List Int) (i : Nat) :
    (lincomb a b xs ys).getD i 0 = a * xs.getD i 0 + b * ys.getD i 0 := by
  induction xs generalizing ys i with
  | nil =>
    have : lincomb a b [] ys = ys.map (b * ·) := by cases ys <;> rfl
    rw [this, getD_map_mul]; simp
  | cons x xs ih =>
    cases ys with
    | nil =>
      have : lincomb a b (x :: xs) [] = (x :: xs).map (a * ·) := rfl
      rw [this, getD_map_mul]; simp
    | cons y ys =>
      cases i with
      | zero => simp only [lincomb, List.getD_cons_zero]
      | succ i => simp only [lincomb, List.getD_cons_succ, ih]

theorem at_elimEq (j : Nat) (piv c : Con) (i : Nat) :
    (elimEq j piv c).at i = piv.at j * c.at i - c.at j * piv.at i := by
  unfold elimEq Con.at
  simp only [getD_lincomb]
  ring

theorem eval_elimEq (j : Nat) (piv c : Con) (x : Val) :
    (elimEq j piv c).eval x
      = ((piv.at j : Int) : Rat) * c.eval x - ((c.at j : Int) : Rat) * piv.eval x := by
  simp only [elimEq, Con.eval, dot_lincomb]; push_cast; ring

theorem eqFree_none {j : Nat} {js : List Nat} {E : List Con}
    (h : E.find? (fun c => c.at j != 0) = none) : eqFree (j :: js) E = 1 + eqFree js E := by
  simp [eqFree, h]

theorem eqFree_some {j : Nat} {js : List Nat} {E : List Con} {piv : Con}
    (h : E.find? (fun c => c.at j != 0) = some piv) :
    eqFree (j :: js) E = eqFree js (E.map (elimEq j piv)) := by
  simp [eqFree, h]

/-! ### affine bases -/

/-- `x` solves every row of `E` read as an equality -/
def Sol (E : List Con) (x : Val) : Prop := ∀ c ∈ E, c.eval x = 0

/-- `xs` is an affine basis of `S`, everything read on the coordinates `J` only -/
structure IsAffBasis (J : Nat → Prop) (S : Val → Prop) (xs : List Val) : Prop where
  mem : ∀ x ∈ xs, S x
  indep : ∀ lam : List Rat, lam.length = xs.length → lam.sum = 0 →
    (∀ i, J i → lcomb lam xs i = 0) → ∀ l ∈ lam, l = 0
  span : ∀ y, S y → ∃ mu : List Rat, mu.length = xs.length ∧ mu.sum = 1 ∧
    ∀ i, J i → y i = lcomb mu xs i

theorem sol_lcomb (E : List Con) (mu : List Rat) (xs : List Val) (hl : mu.length = xs.length)
    (hs : mu.sum = 1) (hx : ∀ x ∈ xs, Sol E x) : Sol E (lcomb mu xs) := by
  intro c hc
  unfold Con.eval
  rw [dot_lcomb_const c.coeffs (-(c.k : Rat)) mu xs hl, hs]
  · ring
  · intro x hxm
    have := hx x hxm c hc
    unfold Con.eval at this
    linarith

theorem sol_update (E : List Con) (j : Nat) (hcj : ∀ c ∈ E, c.at j = 0) (b : Val) (v : Rat)
    (hb : Sol E b) : Sol E (b.update j v) := by
  intro c hc
  rw [eval_update, hcj c hc, hb c hc]; simp

/-- **Gaussian elimination** (the recursion of `eqFree`): a solvable system whose rows mention
    only the variables `js` has an affine basis (on the coordinates `js`) of `eqFree js E + 1`
    solutions. -/
theorem gauss (js : List Nat) : ∀ E : List Con, js.Nodup →
    (∀ c ∈ E, ∀ i, i ∉ js → c.at i = 0) → (∃ x, Sol E x) →
    ∃ bs : List Val, bs.length = eqFree js E + 1 ∧ IsAffBasis (fun i => i ∈ js) (Sol E) bs := by
  induction js with
  | nil =>
    rintro E - - ⟨x, hx⟩
    refine ⟨[x], by simp [eqFree], ?_, ?_, ?_⟩
    · intro z hz
      rw [List.mem_singleton.mp hz]; exact hx
    · intro lam hl hs _ l hlm
      obtain ⟨l0, rfl⟩ := List.length_eq_one_iff.mp hl
      have h0 : l0 = 0 := by simpa using hs
      rw [List.mem_singleton.mp hlm, h0]
    · intro y _
      exact ⟨[1], by simp, by simp, fun i hi => by simp at hi⟩
  | cons j js ih =>
    rintro E hnd hz ⟨x, hx⟩
    have hjn : j ∉ js := (List.nodup_cons.mp hnd).1
    have hnd' : js.Nodup := (List.nodup_cons.mp hnd).2
    cases hfind : E.find? (fun c => c.at j != 0) with
    | none =>
      have hcj : ∀ c ∈ E, c.at j = 0 := by
        intro c hc
        have := List.find?_eq_none.mp hfind c hc
        simpa using this
      have hz' : ∀ c ∈ E, ∀ i, i ∉ js → c.at i = 0 := by
        intro c hc i hi
        by_cases hij : i = j
        · subst hij; exact hcj c hc
        · exact hz c hc i (by simp [hij, hi])
      obtain ⟨bs', hlen, hB⟩ := ih E hnd' hz' ⟨x, hx⟩
      cases bs' with
      | nil => simp at hlen
      | cons b0 rest =>
        have hrs_i : ∀ (v : Rat) (b : Val) (i : Nat), i ∈ js → (b.update j v) i = b i := by
          intro v b i hi
          have : i ≠ j := fun h => hjn (h ▸ hi)
          simp [Val.update, this]
        refine ⟨b0.update j 1 :: (b0 :: rest).map (fun b => b.update j 0), ?_, ?_, ?_, ?_⟩
        · rw [eqFree_none hfind]; simp at hlen ⊢; omega
        · intro z hzm
          rcases List.mem_cons.mp hzm with rfl | hzm
          · exact sol_update E j hcj b0 1 (hB.mem b0 (by simp))
          · obtain ⟨b, hb, rfl⟩ := List.mem_map.mp hzm
            exact sol_update E j hcj b 0 (hB.mem b hb)
        · intro lam hl hs h0
          cases lam with
          | nil => intro l hlm; cases hlm
          | cons l0 lam' =>
            have hl' : lam'.length = (b0 :: rest).length := by simpa using hl
            have hj := h0 j (by simp)
            rw [lcomb_cons, lcomb_map_zero j _ (fun b => by simp [Val.update])] at hj
            have hl0 : l0 = 0 := by simpa [Val.update] using hj
            have hs' : lam'.sum = 0 := by simpa [hl0] using hs
            have hrest := hB.indep lam' hl' hs' (fun i hi => by
              have := h0 i (List.mem_cons_of_mem _ hi)
              rw [lcomb_cons, lcomb_map_eq i _ (fun b => hrs_i 0 b i hi), hl0] at this
              simpa using this)
            intro l hlm
            rcases List.mem_cons.mp hlm with rfl | hlm
            · exact hl0
            · exact hrest l hlm
        · intro y hy
          obtain ⟨mu', hml, hms, hmu⟩ := hB.span y hy
          cases mu' with
          | nil => simp at hml
          | cons m0 mrest =>
            refine ⟨y j :: (m0 - y j) :: mrest, by simpa using hml, ?_, ?_⟩
            · simp only [List.sum_cons] at hms ⊢; linarith
            · intro i hi
              rcases List.mem_cons.mp hi with hij | hi
              · subst hij
                simp only [List.map_cons, lcomb_cons]
                rw [lcomb_map_zero i _ (fun b => by simp [Val.update])]
                simp [Val.update]
              · have := hmu i hi
                simp only [List.map_cons, lcomb_cons] at this ⊢
                rw [lcomb_map_eq i _ (fun b => hrs_i 0 b i hi), hrs_i 1 b0 i hi,
                  hrs_i 0 b0 i hi, this]
                ring
    | some piv =>
      have hpivE : piv ∈ E := List.mem_of_find?_eq_some hfind
      have hpivj : piv.at j ≠ 0 := by
        have := List.find?_some hfind
        simpa using this
      have hpq : ((piv.at j : Int) : Rat) ≠ 0 := by exact_mod_cast hpivj
      have hmemE' : ∀ c ∈ E, elimEq j piv c ∈ E.map (elimEq j piv) :=
        fun c hc => List.mem_map.mpr ⟨c, hc, rfl⟩
      have hz' : ∀ c ∈ E.map (elimEq j piv), ∀ i, i ∉ js → c.at i = 0 := by
        intro c' hc' i hi
        obtain ⟨c, hc, rfl⟩ := List.mem_map.mp hc'
        rw [at_elimEq]
        by_cases hij : i = j
        · subst hij; ring
        · have hi' : i ∉ j :: js := by simp [hij, hi]
          rw [hz c hc i hi', hz piv hpivE i hi']; ring
      have hsol' : ∀ y, Sol E y → Sol (E.map (elimEq j piv)) y := by
        intro y hy c' hc'
        obtain ⟨c, hc, rfl⟩ := List.mem_map.mp hc'
        rw [eval_elimEq, hy c hc, hy piv hpivE]; ring
      obtain ⟨bs', hlen, hB⟩ := ih _ hnd' hz' ⟨x, hsol' x hx⟩
      let lift : Val → Val := fun b => b.update j (b j - piv.eval b / ((piv.at j : Int) : Rat))
      have hlift_sol : ∀ b, Sol (E.map (elimEq j piv)) b → Sol E (lift b) := by
        intro b hb
        have hp : piv.eval (lift b) = 0 := by
          show piv.eval (b.update j _) = 0
          rw [eval_update]; field_simp; ring
        intro c hc
        have h1 : (elimEq j piv c).eval (lift b) = 0 := by
          show (elimEq j piv c).eval (b.update j _) = 0
          rw [eval_update, hz' _ (hmemE' c hc) j hjn, hb _ (hmemE' c hc)]; simp
        rw [eval_elimEq, hp] at h1
        simpa [hpq] using h1
      have hlift_i : ∀ b i, i ∈ js → lift b i = b i := by
        intro b i hi
        have : i ≠ j := fun h => hjn (h ▸ hi)
        simp [lift, Val.update, this]
      refine ⟨bs'.map lift, by rw [List.length_map, hlen, eqFree_some hfind], ?_, ?_, ?_⟩
      · intro z hzm
        obtain ⟨b, hb, rfl⟩ := List.mem_map.mp hzm
        exact hlift_sol b (hB.mem b hb)
      · intro lam hl hs h0
        rw [List.length_map] at hl
        apply hB.indep lam hl hs
        intro i hi
        have := h0 i (List.mem_cons_of_mem _ hi)
        rwa [lcomb_map_eq i lift (fun b => hlift_i b i hi)] at this
      · intro y hy
        obtain ⟨mu, hml, hms, hmu⟩ := hB.span y (hsol' y hy)
        refine ⟨mu, by rw [List.length_map]; exact hml, hms, ?_⟩
        have hzsol : Sol E (lcomb mu (bs'.map lift)) :=
          sol_lcomb E mu _ (by rw [List.length_map]; exact hml) hms (fun z hzm => by
            obtain ⟨b, hb, rfl⟩ := List.mem_map.mp hzm
            exact hlift_sol b (hB.mem b hb))
        have hag : ∀ i, i ∈ js → y i = lcomb mu (bs'.map lift) i := fun i hi => by
          rw [lcomb_map_eq i lift (fun b => hlift_i b i hi)]; exact hmu i hi
        intro i hi
        rcases List.mem_cons.mp hi with hij | hi
        · subst hij
          generalize hzdef : lcomb mu (bs'.map lift) = z at hzsol hag ⊢
          have e1 : piv.eval (z.update i (y i)) = piv.eval y := by
            unfold Con.eval
            congr 1
            apply dot_agree_nz
            intro k hk
            by_cases hki : k = i
            · subst hki; simp [Val.update]
            · by_cases hkjs : k ∈ js
              · simp only [Val.update, hki, if_false]; exact (hag k hkjs).symm
              · exact absurd (hz piv hpivE k (by simp [hki, hkjs])) hk
          rw [eval_update, hzsol piv hpivE, hy piv hpivE] at e1
          have : y i - z i = 0 := by simpa [hpq] using e1
          linarith
        · exact hag i hi


/-! ### the implicit equalities and a relative-interior point -/

/-- the row `-c ≥ 0` tested by `RefPoly.implicitEqs` -/
def opp (c : Con) : Con := { c with coeffs := c.coeffs.map (- ·), k := -c.k, strict := false }

theorem eval_opp (c : Con) (x : Val) : (opp c).eval x = - c.eval x := eval_neg c x

theorem sat_opp (c : Con) (x : Val) : (opp c).sat x ↔ c.eval x ≤ 0 := by
  have hs : (opp c).strict = false := rfl
  unfold Con.sat
  rw [hs, eval_opp]
  simp

theorem mem_implicitEqs (p : RefPoly) (c : Con) :
    c ∈ p.implicitEqs ↔ c ∈ p.cs ∧ c.strict = false ∧ implies p.n p.cs (opp c) = true := by
  unfold RefPoly.implicitEqs opp
  simp [List.mem_filter]

theorem sat_of_pos (c : Con) (x : Val) (h : 0 < c.eval x) : c.sat x := by
  unfold Con.sat
  split
  · exact h
  · exact le_of_lt h

/-- every point of the set solves the implicit equalities -/
theorem implicitEqs_sol (p : RefPoly) (hwf : WF p.n p.cs) (x : Val) (hx : Sat p.cs x) :
    Sol p.implicitEqs x := by
  intro c hc
  obtain ⟨hcs, hstr, himp⟩ := (mem_implicitEqs p c).mp hc
  have hlen : (opp c).coeffs.length ≤ p.n := by
    show (c.coeffs.map (- ·)).length ≤ p.n
    rw [List.length_map]; exact hwf c hcs
  have h1 := (sat_opp c x).mp ((implies_iff p.n p.cs (opp c) hwf hlen).mp himp x hx)
  have h2 := sat_nonneg c x (hx c hcs)
  linarith

/-- every other row is strictly positive somewhere on the set -/
theorem nonimplicit_witness (p : RefPoly) (hwf : WF p.n p.cs) (x0 : Val) (hx0 : Sat p.cs x0)
    (c : Con) (hc : c ∈ p.cs) (hn : c ∉ p.implicitEqs) : ∃ x, Sat p.cs x ∧ 0 < c.eval x := by
  cases hs : c.strict with
  | true =>
    refine ⟨x0, hx0, ?_⟩
    have := hx0 c hc
    unfold Con.sat at this
    simpa [hs] using this
  | false =>
    have hlen : (opp c).coeffs.length ≤ p.n := by
      show (c.coeffs.map (- ·)).length ≤ p.n
      rw [List.length_map]; exact hwf c hc
    have hni : ¬ (implies p.n p.cs (opp c) = true) := fun h =>
      hn ((mem_implicitEqs p c).mpr ⟨hc, hs, h⟩)
    rw [implies_iff p.n p.cs (opp c) hwf hlen] at hni
    by_contra hcon
    apply hni
    intro x hx
    rw [sat_opp]
    by_contra hlt
    exact hcon ⟨x, hx, not_le.mp hlt⟩

theorem eval_mid (c : Con) (u v : Val) :
    c.eval (fun i => (1/2 : Rat) * u i + (1 - 1/2) * v i)
      = (1/2 : Rat) * c.eval u + (1 - 1/2) * c.eval v :=
  eval_aff c (1/2) u v _ (fun _ => rfl)

theorem sat_mid (c : Con) (u v : Val) (hu : c.sat u) (hv : c.sat v) :
    c.sat (fun i => (1/2 : Rat) * u i + (1 - 1/2) * v i) := by
  unfold Con.sat at hu hv ⊢
  rw [eval_mid]
  split <;> simp_all <;> linarith

/-- a point of the set at which every row of `rows` having a strict witness is strict -/
theorem relint (cs : List Con) (P : Con → Prop) (x0 : Val) (h0 : Sat cs x0) :
    ∀ rows : List Con, (∀ c ∈ rows, c ∈ cs) →
      (∀ c ∈ rows, P c → ∃ x, Sat cs x ∧ 0 < c.eval x) →
      ∃ x, Sat cs x ∧ ∀ c ∈ rows, P c → 0 < c.eval x := by
  intro rows
  induction rows with
  | nil => intro _ _; exact ⟨x0, h0, fun c hc => by cases hc⟩
  | cons c rows ih =>
    intro hsub hw
    obtain ⟨x1, hs1, hp1⟩ := ih (fun d hd => hsub d (List.mem_cons_of_mem _ hd))
      (fun d hd => hw d (List.mem_cons_of_mem _ hd))
    by_cases hP : P c
    · obtain ⟨xc, hsc, hpc⟩ := hw c (by simp) hP
      refine ⟨fun i => (1/2 : Rat) * x1 i + (1 - 1/2) * xc i,
        fun d hd => sat_mid d x1 xc (hs1 d hd) (hsc d hd), ?_⟩
      intro d hd hPd
      rw [eval_mid]
      have hdcs : d ∈ cs := hsub d hd
      have g1 := sat_nonneg d x1 (hs1 d hdcs)
      have g2 := sat_nonneg d xc (hsc d hdcs)
      rcases List.mem_cons.mp hd with rfl | hd
      · linarith
      · have h1 := hp1 d hd hPd
        linarith
    · refine ⟨x1, hs1, ?_⟩
      intro d hd hPd
      rcases List.mem_cons.mp hd with rfl | hd
      · exact absurd hPd hP
      · exact hp1 d hd hPd

/-- one ratio works for finitely many strict inequalities -/
theorem exists_eps {α : Type} (f g : α → Rat) : ∀ l : List α, ∃ e0 : Rat, 0 < e0 ∧
    ∀ e, 0 < e → e ≤ e0 → ∀ a ∈ l, 0 < f a → 0 < f a + e * g a := by
  intro l
  induction l with
  | nil => exact ⟨1, by norm_num, fun e _ _ a ha => by cases ha⟩
  | cons a l ih =>
    obtain ⟨e1, he1, h1⟩ := ih
    by_cases hc : 0 < f a ∧ g a < 0
    · obtain ⟨hf, hg⟩ := hc
      have hq : 0 < f a / (2 * (-g a)) := div_pos hf (by linarith)
      refine ⟨min e1 (f a / (2 * (-g a))), lt_min he1 hq, ?_⟩
      intro e he hle b hb hfb
      rcases List.mem_cons.mp hb with rfl | hb
      · have h2 : e ≤ f b / (2 * (-g b)) := le_trans hle (min_le_right _ _)
        rw [le_div_iff₀ (by linarith)] at h2
        nlinarith
      · exact h1 e he (le_trans hle (min_le_left _ _)) b hb hfb
    · refine ⟨e1, he1, ?_⟩
      intro e he hle b hb hfb
      rcases List.mem_cons.mp hb with rfl | hb
      · have hg : 0 ≤ g b := by
          by_contra hn
          exact hc ⟨hfb, not_le.mp hn⟩
        have := mul_nonneg (le_of_lt he) hg
        linarith
      · exact h1 e he hle b hb hfb

end QDim

open QDim

theorem affineDim_empty (p : RefPoly) (hwf : WF p.n p.cs) (h : sem p.cs = ∅) :
    p.affineDim = 0 := by
  have : p.isEmpty = true := (isEmptyB_iff p.n p.cs hwf).mpr h
  simp [RefPoly.affineDim, this]

/-- **Specification of the affine-dimension oracle** (two-sided).  For a non-empty set
    `sem p.cs ⊆ ℚ^n` and `d := p.affineDim` there are `d + 1` points `xs` of the set which are
    (b) *affinely independent*: the only coefficients `lam` with `Σ lam_k = 0` and
    `Σ lam_k · xs_k = 0` (on the coordinates `< n`) are `lam = 0` — hence the affine hull of the
    set has dimension at least `d`; and (c) *affinely spanning*: every point `y` of the set is
    `Σ mu_k · xs_k` (on the coordinates `< n`) for some `mu` with `Σ mu_k = 1` — hence the set
    lies in the `d`-dimensional affine subspace through `xs`, and the affine hull has dimension
    at most `d`.  So `xs` is an affine basis of the affine hull of the set and `d` is exactly
    its dimension.  (`lcomb lam xs = Σ_k lam_k · xs_k`; coordinates `≥ n` are irrelevant since
    the rows only mention variables `< n`.) -/
theorem affineDim_spec (p : RefPoly) (hwf : WF p.n p.cs) (hne : (sem p.cs).Nonempty) :
    ∃ xs : List Val, xs.length = p.affineDim + 1 ∧
      (∀ x ∈ xs, x ∈ sem p.cs) ∧
      (∀ lam : List Rat, lam.length = xs.length → lam.sum = 0 →
        (∀ i < p.n, lcomb lam xs i = 0) → ∀ l ∈ lam, l = 0) ∧
      (∀ y ∈ sem p.cs, ∃ mu : List Rat, mu.length = xs.length ∧ mu.sum = 1 ∧
        ∀ i < p.n, y i = lcomb mu xs i) := by
  obtain ⟨x0, hx0⟩ := hne
  have hx0' : Sat p.cs x0 := hx0
  have hfeas : p.isEmpty = false := by
    have : feasible p.n p.cs = true := (feasible_iff p.n p.cs hwf).mpr ⟨x0, hx0'⟩
    simp [RefPoly.isEmpty, this]
  have hdim : p.affineDim = eqFree (List.range p.n) p.implicitEqs := by
    simp [RefPoly.affineDim, hfeas]
  -- the relative-interior point
  obtain ⟨xs_, hss, hpos⟩ := relint p.cs (fun c => c ∉ p.implicitEqs) x0 hx0' p.cs
    (fun c hc => hc) (fun c hc hn => nonimplicit_witness p hwf x0 hx0' c hc hn)
  have hsolstar : Sol p.implicitEqs xs_ := implicitEqs_sol p hwf xs_ hss
  -- the affine basis of the solution set of the implicit equalities
  have hz : ∀ c ∈ p.implicitEqs, ∀ i, i ∉ List.range p.n → c.at i = 0 := by
    intro c hc i hi
    have hcs := ((mem_implicitEqs p c).mp hc).1
    have hlen := hwf c hcs
    have hi' : p.n ≤ i := by simpa using hi
    unfold Con.at
    simp [List.getD_eq_getElem?_getD, List.getElem?_eq_none (le_trans hlen hi')]
  obtain ⟨bs, hlen, hB⟩ := gauss (List.range p.n) p.implicitEqs List.nodup_range hz
    ⟨x0, implicitEqs_sol p hwf x0 hx0'⟩
  -- the common ratio
  obtain ⟨e, he, heps⟩ := exists_eps (fun a : Con × Val => a.1.eval xs_)
    (fun a : Con × Val => a.1.eval a.2 - a.1.eval xs_)
    (p.cs.flatMap fun c => bs.map fun b => (c, b))
  have hene : e ≠ 0 := ne_of_gt he
  let h : Val → Val := fun b i => e * b i + (1 - e) * xs_ i
  have heval : ∀ (c : Con) (b : Val), c.eval (h b) = e * c.eval b + (1 - e) * c.eval xs_ :=
    fun c b => eval_aff c e b xs_ (h b) (fun _ => rfl)
  refine ⟨bs.map h, by rw [List.length_map, hlen, hdim], ?_, ?_, ?_⟩
  · intro x hx
    obtain ⟨b, hb, rfl⟩ := List.mem_map.mp hx
    intro c hc
    by_cases hcE : c ∈ p.implicitEqs
    · have hstr := ((mem_implicitEqs p c).mp hcE).2.1
      unfold Con.sat
      rw [hstr, heval, hB.mem b hb c hcE, hsolstar c hcE]
      simp
    · apply sat_of_pos
      have hmem : (c, b) ∈ p.cs.flatMap fun c => bs.map fun b => (c, b) :=
        List.mem_flatMap.mpr ⟨c, hc, List.mem_map.mpr ⟨b, hb, rfl⟩⟩
      have := heps e he (le_refl _) (c, b) hmem (hpos c hc hcE)
      rw [heval]
      simp only at this
      linarith
  · intro lam hl hs h0
    rw [List.length_map] at hl
    apply hB.indep lam hl hs
    intro i hi
    have hi' : i < p.n := List.mem_range.mp hi
    have := h0 i hi'
    rw [lcomb_map_affine i ((1 - e) * xs_ i) e h (fun b => by simp only [h]; ring) lam bs hl,
      hs] at this
    have h2 : e * lcomb lam bs i = 0 := by linarith
    rcases mul_eq_zero.mp h2 with h3 | h3
    · exact absurd h3 hene
    · exact h3
  · intro y hy
    have hysol : Sol p.implicitEqs y := implicitEqs_sol p hwf y hy
    let w : Val := fun i => (1 / e) * y i + (1 - 1 / e) * xs_ i
    have hw : Sol p.implicitEqs w := by
      intro c hc
      rw [eval_aff c (1 / e) y xs_ w (fun _ => rfl), hysol c hc, hsolstar c hc]; ring
    obtain ⟨mu, hml, hms, hmu⟩ := hB.span w hw
    refine ⟨mu, by rw [List.length_map]; exact hml, hms, ?_⟩
    intro i hi
    rw [lcomb_map_affine i ((1 - e) * xs_ i) e h (fun b => by simp only [h]; ring) mu bs hml,
      hms, ← hmu i (List.mem_range.mpr hi)]
    simp only [w]
    field_simp
    ring

/-- the implicit equalities through the elimination alone (`feasible_eq_feasibleFM`): the form to
    evaluate on closed terms -/
theorem implicitEqs_eq_FM (p : RefPoly) (h : wfB p.n p.cs = true) :
    p.implicitEqs = p.cs.filter fun c => !c.strict && !feasibleFM p.n ((opp c).neg :: p.cs) := by
  unfold RefPoly.implicitEqs
  refine List.filter_congr fun c hc => ?_
  rw [implies, feasible_eq_feasibleFM]; · rfl
  have hc' := List.all_eq_true.mp h c hc
  rw [wfB, List.all_cons, neg_length, List.length_map, hc']
  exact h

/-- sanity: the line `x₀ = 0` in the plane has dimension 1 -/
example : RefPoly.affineDim ⟨false, 2, [geRow [1,0] 0, geRow [-1,0] 0]⟩ = 1 := by
  simp (disch := decide) only [RefPoly.affineDim, RefPoly.isEmpty, implicitEqs_eq_FM,
    feasible_eq_feasibleFM]
  decide +kernel
/-- sanity: the open half-plane `x₀ > 0` has dimension 2, the point `(1, 2)` dimension 0 -/
example : RefPoly.affineDim ⟨true, 2, [gtRow [1,0] 0]⟩ = 2 := by
  simp (disch := decide) only [RefPoly.affineDim, RefPoly.isEmpty, implicitEqs_eq_FM,
    feasible_eq_feasibleFM]
  decide +kernel
example : RefPoly.affineDim
    ⟨false, 2, eqRows [1,0] (-1) ++ eqRows [0,1] (-2)⟩ = 0 := by
  simp (disch := decide) only [RefPoly.affineDim, RefPoly.isEmpty, implicitEqs_eq_FM,
    feasible_eq_feasibleFM]
  decide +kernel

end PPLV.Lin

import PPLV.Lin.OpsProofs
import PPLV.Lin.GenSem
import PPLV.Lin.GenSpecs
import PPLV.Lin.Sup

/-! # K1 theorems: every reference operator of `Ops.lean` is the documented relation

The constraint-side operators through `relImage_spec`, the dimension operators, `sup`/`inf` and
point membership.  The generator-side operators (poly-hull, `add_generators`, time-elapse) are in
`GenSpecs.lean`; the property statements themselves are in `PPLV/Props/C02.lean`. -/
namespace PPLV.Lin
open List

/-! ## relational operators -/

/-- value of a linear expression -/
def LinExpr.val (e : LinExpr) (x : Val) : Rat := dot e.coeffs x + (e.k : Rat)

/-- meaning of a relation symbol -/
def Rel.holds : Rel → Rat → Rat → Prop
  | .lt, a, b => a < b
  | .le, a, b => a ≤ b
  | .eq, a, b => a = b
  | .ge, a, b => b ≤ a
  | .gt, a, b => b < a

/-- the valuation `(w_0..w_{n-1}, x_0, x_1, …)` of the product space used by `relImage` -/
def glue (n : Nat) (w x : Val) : Val := fun j => if j < n then w j else x (j - n)

theorem glue_hi (n : Nat) (w x : Val) : (fun j => glue n w x (j + n)) = x := by
  funext j; simp [glue]

theorem glue_lo (n : Nat) (w x : Val) (j : Nat) (h : j < n) : glue n w x j = w j := by
  simp [glue, h]

/-- `relImage` with the witness split into image point and source point -/
theorem relImage_spec' (nOut : Nat) (p : RefPoly) (rel : List Con) (hrel : WF (nOut + p.n) rel)
    (hp : WF p.n p.cs) (w : Val) :
    Sat (relImage nOut p rel).cs w ↔ ∃ x, Sat p.cs x ∧ Sat rel (glue nOut w x) := by
  rw [relImage_spec nOut p rel hrel hp]
  constructor
  · rintro ⟨x', h0, hr, hx⟩
    refine ⟨fun j => x' (j + nOut), hx, ?_⟩
    have : glue nOut w (fun j => x' (j + nOut)) = x' := by
      funext j
      by_cases h : j < nOut
      · simp [glue, h, h0 j h]
      · simp only [glue, h, if_false]; congr 1; omega
    rwa [this]
  · rintro ⟨x, hx, hr⟩
    exact ⟨glue nOut w x, fun j hj => glue_lo nOut w x j hj, hr, by rw [glue_hi]; exact hx⟩

theorem WF_relRows (N : Nat) (r : Rel) (cf : List Int) (k : Int) (h : cf.length ≤ N) :
    WF N (relRows r cf k) := by
  cases r
  all_goals first
    | exact WF_eqRows N cf k h
    | (intro c hc
       simp only [relRows, geRow, gtRow, List.mem_cons, List.not_mem_nil, or_false] at hc
       subst hc; simpa using h)

theorem padTo_length (n : Nat) (l : List Int) : (padTo n l).length = n := by
  simp [padTo]; omega

theorem dot_padTo (n : Nat) (l : List Int) (w : Val) (h : l.length ≤ n) :
    dot (padTo n l) w = dot l w := by
  unfold padTo
  rw [List.take_of_length_le h, dot_append, dot_replicate_zero]; simp

theorem lowHigh_length (n : Nat) (low high : List Int) :
    (lowHigh n low high).length = n + high.length := by
  simp [lowHigh, padTo_length]

theorem dot_lowHigh_glue (n : Nat) (low high : List Int) (w x : Val) (h : low.length ≤ n) :
    dot (lowHigh n low high) (glue n w x) = dot low w + dot high x := by
  unfold lowHigh
  rw [dot_append, padTo_length, glue_hi, dot_padTo n low _ h]
  congr 1
  exact dot_agree low _ _ fun i hi => glue_lo n w x i (by omega)

theorem Sat_relRows (r : Rel) (cf : List Int) (k : Int) (y : Val) :
    Sat (relRows r cf k) y ↔ Rel.holds r (dot cf y + (k : Rat)) 0 := by
  cases r <;> simp only [relRows, Rel.holds, Sat_singleton, Sat_eqRows, geRow, gtRow, Con.sat,
    Con.eval, dot_map_neg, if_true, Bool.false_eq_true, if_false]
  all_goals (push_cast; constructor <;> intro h <;> linarith)

theorem Sat_eqRows_lowHigh (n : Nat) (low high : List Int) (k : Int) (w x : Val)
    (h : low.length ≤ n) :
    Sat (eqRows (lowHigh n low high) k) (glue n w x) ↔ dot low w + dot high x + (k : Rat) = 0 := by
  rw [Sat_eqRows, dot_lowHigh_glue n low high w x h]

theorem Sat_relRows_lowHigh (n : Nat) (r : Rel) (low high : List Int) (k : Int) (w x : Val)
    (h : low.length ≤ n) :
    Sat (relRows r (lowHigh n low high) k) (glue n w x) ↔
      Rel.holds r (dot low w + dot high x + (k : Rat)) 0 := by
  rw [Sat_relRows, dot_lowHigh_glue n low high w x h]

theorem unitRow_length (i : Nat) (a : Int) : (unitRow i a).length = i + 1 := by simp [unitRow]

theorem Sat_frameRows (n : Nat) (js : List Nat) (w x : Val) (h : ∀ j ∈ js, j < n) :
    Sat (frameRows n js) (glue n w x) ↔ ∀ j ∈ js, w j = x j := by
  unfold frameRows
  rw [Sat_flatMap]
  refine forall_congr' fun j => imp_congr_right fun hj => ?_
  rw [Sat_eqRows_lowHigh n _ _ _ w x (by rw [unitRow_length]; exact h j hj), dot_unitRow, dot_unitRow]
  push_cast
  constructor <;> intro h <;> linarith

theorem WF_frameRows (n m : Nat) (js : List Nat) (h : ∀ j ∈ js, j < m) :
    WF (n + m) (frameRows n js) := by
  intro c hc
  unfold frameRows at hc
  obtain ⟨j, hj, hc⟩ := List.mem_flatMap.mp hc
  refine WF_eqRows (n + m) _ 0 ?_ c hc
  rw [lowHigh_length, unitRow_length]; have := h j hj; omega

theorem mem_otherVars (n : Nat) (vs : List Nat) (j : Nat) : j ∈ otherVars n vs ↔ j < n ∧ j ∉ vs := by
  simp [otherVars, List.mem_filter]

/-- relational image whose relation is `main` plus "all variables outside `vs` unchanged" -/
theorem relImage_frame_spec (p : RefPoly) (main : List Con) (vs : List Nat) (hp : WF p.n p.cs)
    (hmain : WF (p.n + p.n) main) (w : Val) :
    Sat (relImage p.n p (main ++ frameRows p.n (otherVars p.n vs))).cs w ↔
      ∃ x, Sat p.cs x ∧ Sat main (glue p.n w x) ∧ ∀ j < p.n, j ∉ vs → w j = x j := by
  have hlt : ∀ j ∈ otherVars p.n vs, j < p.n := fun j hj => ((mem_otherVars _ _ _).mp hj).1
  rw [relImage_spec' p.n p _ (WF_append _ _ _ hmain (WF_frameRows p.n p.n _ hlt)) hp]
  refine exists_congr fun x => and_congr_right fun _ => ?_
  rw [Sat_append, Sat_frameRows p.n _ w x hlt]
  refine and_congr_right fun _ => ?_
  simp only [mem_otherVars]
  exact ⟨fun h j hj hv => h j ⟨hj, hv⟩, fun h j hj => h j hj.1 hj.2⟩

theorem not_mem_singleton_iff (j v : Nat) : j ∉ [v] ↔ j ≠ v := by simp

theorem Rel.holds_sub (r : Rel) (a b : Rat) : Rel.holds r (a - b) 0 ↔ Rel.holds r a b := by
  cases r <;> simp only [Rel.holds, sub_neg, sub_nonpos, sub_eq_zero, sub_nonneg, sub_pos]

theorem Rel.holds_mul_pos (r : Rel) (c x : Rat) (hc : 0 < c) :
    Rel.holds r (c * x) 0 ↔ Rel.holds r x 0 := by
  cases r <;> simp only [Rel.holds]
  · exact not_le.symm.trans ((not_congr (mul_nonneg_iff_of_pos_left hc)).trans not_le)
  · exact not_lt.symm.trans ((not_congr (mul_pos_iff_of_pos_left hc)).trans not_lt)
  · exact ⟨fun h => (mul_eq_zero.mp h).resolve_left hc.ne', fun h => by rw [h, mul_zero]⟩
  · exact mul_nonneg_iff_of_pos_left hc
  · exact mul_pos_iff_of_pos_left hc

theorem Rel.holds_flip_neg (r : Rel) (x : Rat) : Rel.holds r.flip (-x) 0 ↔ Rel.holds r x 0 := by
  cases r <;> simp only [Rel.flip, Rel.holds, neg_pos, neg_nonneg, neg_eq_zero, neg_nonpos,
    neg_lt_zero]

/-- dividing by `d ≠ 0` turns `d·a ⋈' b` into `a ⋈ b/d`, `⋈'` flipped when `d < 0`:
    `d·a − b = d·(a − b/d)`, and a factor keeps or flips the relation to `0` by its sign -/
theorem Rel.holds_div (r : Rel) (d : Int) (a b : Rat) (hd : d ≠ 0) :
    Rel.holds (if d < 0 then r.flip else r) ((d : Rat) * a - b) 0 ↔ Rel.holds r a (b / (d : Rat)) := by
  have hd' : (d : Rat) ≠ 0 := by exact_mod_cast hd
  have he : (d : Rat) * a - b = (d : Rat) * (a - b / d) := by rw [mul_sub, mul_div_cancel₀ b hd']
  rw [← Rel.holds_sub r a, he]
  rcases lt_or_gt_of_ne hd with hneg | hpos
  · have hr : (0 : Rat) < -(d : Rat) := by exact_mod_cast Int.neg_pos_of_neg hneg
    rw [if_pos hneg, ← neg_neg ((d : Rat) * _), ← neg_mul, Rel.holds_flip_neg,
      Rel.holds_mul_pos r _ _ hr]
  · have hr : (0 : Rat) < (d : Rat) := by exact_mod_cast hpos
    rw [if_neg (by omega), Rel.holds_mul_pos r _ _ hr]

/-! ### the operators -/

theorem sem_append (as bs : List Con) : sem (as ++ bs) = sem as ∩ sem bs := by
  ext x; exact Sat_append as bs x

/-- the row `a − e` of an operator, as it comes out of `Sat_relRows_lowHigh` (image: `a` first;
    preimage: `a` second) -/
theorem LinExpr.sub_val (e : LinExpr) (a : Rat) (x : Val) :
    a + -dot e.coeffs x + ((-e.k : Int) : Rat) = a - e.val x := by
  unfold LinExpr.val; push_cast; ring

theorem LinExpr.sub_val' (e : LinExpr) (a : Rat) (x : Val) :
    -dot e.coeffs x + a + ((-e.k : Int) : Rat) = a - e.val x := by
  unfold LinExpr.val; push_cast; ring

theorem affineImage_spec (p : RefPoly) (v : Nat) (e : LinExpr) (d : Int) (hp : WF p.n p.cs)
    (hv : v < p.n) (he : e.coeffs.length ≤ p.n) (w : Val) :
    Sat (p.affineImage v e d).cs w ↔
      ∃ x, Sat p.cs x ∧ (d : Rat) * w v = e.val x ∧ ∀ j < p.n, j ≠ v → w j = x j := by
  unfold RefPoly.affineImage
  rw [relImage_frame_spec p _ [v] hp (WF_eqRows _ _ _ (by rw [lowHigh_length]; simp; omega))]
  refine exists_congr fun x => and_congr_right fun _ =>
    and_congr ?_ (by simp only [not_mem_singleton_iff])
  rw [Sat_eqRows_lowHigh _ _ _ _ _ _ (by rw [unitRow_length]; omega), dot_unitRow, dot_map_neg,
    LinExpr.sub_val, sub_eq_zero]

theorem affinePreimage_spec (p : RefPoly) (v : Nat) (e : LinExpr) (d : Int) (hp : WF p.n p.cs)
    (hv : v < p.n) (he : e.coeffs.length ≤ p.n) (w : Val) :
    Sat (p.affinePreimage v e d).cs w ↔
      ∃ x', Sat p.cs x' ∧ (d : Rat) * x' v = e.val w ∧ ∀ j < p.n, j ≠ v → x' j = w j := by
  unfold RefPoly.affinePreimage
  rw [relImage_frame_spec p _ [v] hp
    (WF_eqRows _ _ _ (by rw [lowHigh_length, unitRow_length]; omega))]
  refine exists_congr fun x => and_congr_right fun _ =>
    and_congr ?_ (by simp only [not_mem_singleton_iff, eq_comm])
  rw [Sat_eqRows_lowHigh _ _ _ _ _ _ (by simpa using he), dot_unitRow, dot_map_neg,
    LinExpr.sub_val', sub_eq_zero]

theorem genAffineImage_spec (p : RefPoly) (v : Nat) (r : Rel) (e : LinExpr) (d : Int)
    (hp : WF p.n p.cs) (hv : v < p.n) (he : e.coeffs.length ≤ p.n) (hd : d ≠ 0) (w : Val) :
    Sat (p.genAffineImage v r e d).cs w ↔
      ∃ x, Sat p.cs x ∧ Rel.holds r (w v) (e.val x / (d : Rat)) ∧ ∀ j < p.n, j ≠ v → w j = x j := by
  unfold RefPoly.genAffineImage
  dsimp only
  rw [relImage_frame_spec p _ [v] hp (WF_relRows _ _ _ _ (by rw [lowHigh_length]; simp; omega))]
  refine exists_congr fun x => and_congr_right fun _ =>
    and_congr ?_ (by simp only [not_mem_singleton_iff])
  rw [Sat_relRows_lowHigh _ _ _ _ _ _ _ (by rw [unitRow_length]; omega), dot_unitRow, dot_map_neg,
    ← Rel.holds_div r d _ _ hd, LinExpr.sub_val]

theorem genAffinePreimage_spec (p : RefPoly) (v : Nat) (r : Rel) (e : LinExpr) (d : Int)
    (hp : WF p.n p.cs) (hv : v < p.n) (he : e.coeffs.length ≤ p.n) (hd : d ≠ 0) (w : Val) :
    Sat (p.genAffinePreimage v r e d).cs w ↔
      ∃ x', Sat p.cs x' ∧ Rel.holds r (x' v) (e.val w / (d : Rat)) ∧
        ∀ j < p.n, j ≠ v → x' j = w j := by
  unfold RefPoly.genAffinePreimage
  dsimp only
  rw [relImage_frame_spec p _ [v] hp
    (WF_relRows _ _ _ _ (by rw [lowHigh_length, unitRow_length]; omega))]
  refine exists_congr fun x => and_congr_right fun _ =>
    and_congr ?_ (by simp only [not_mem_singleton_iff, eq_comm])
  rw [Sat_relRows_lowHigh _ _ _ _ _ _ _ (by simpa using he), dot_unitRow, dot_map_neg,
    ← Rel.holds_div r d _ _ hd, LinExpr.sub_val']

theorem getD_of_le (l : List Int) (j : Nat) (h : l.length ≤ j) : l.getD j 0 = 0 := by
  simp [List.getD_eq_getElem?_getD, List.getElem?_eq_none h]

theorem not_mem_vars (e : LinExpr) (j : Nat) : j ∉ e.vars ↔ e.coeffs.getD j 0 = 0 := by
  unfold LinExpr.vars
  simp only [List.mem_filter, List.mem_range, bne_iff_ne, ne_eq, not_and, not_not]
  constructor
  · intro h
    by_cases hj : j < e.coeffs.length
    · exact h hj
    · exact getD_of_le _ _ (by omega)
  · intro h _; exact h

theorem genAffineImage2_spec (p : RefPoly) (lhs : LinExpr) (r : Rel) (rhs : LinExpr)
    (hp : WF p.n p.cs) (hl : lhs.coeffs.length ≤ p.n) (hr : rhs.coeffs.length ≤ p.n) (w : Val) :
    Sat (p.genAffineImage2 lhs r rhs).cs w ↔
      ∃ x, Sat p.cs x ∧ Rel.holds r (lhs.val w) (rhs.val x) ∧
        ∀ j < p.n, lhs.coeffs.getD j 0 = 0 → w j = x j := by
  unfold RefPoly.genAffineImage2
  rw [relImage_frame_spec p _ _ hp (WF_relRows _ _ _ _ (by rw [lowHigh_length]; simp; omega))]
  refine exists_congr fun x => and_congr_right fun _ =>
    and_congr ?_ (by simp only [not_mem_vars])
  have : dot lhs.coeffs w + -dot rhs.coeffs x + ((lhs.k - rhs.k : Int) : Rat)
      = lhs.val w - rhs.val x := by
    unfold LinExpr.val; push_cast; ring
  rw [Sat_relRows_lowHigh _ _ _ _ _ _ _ hl, dot_map_neg, this, Rel.holds_sub]

theorem genAffinePreimage2_spec (p : RefPoly) (lhs : LinExpr) (r : Rel) (rhs : LinExpr)
    (hp : WF p.n p.cs) (hl : lhs.coeffs.length ≤ p.n) (hr : rhs.coeffs.length ≤ p.n) (w : Val) :
    Sat (p.genAffinePreimage2 lhs r rhs).cs w ↔
      ∃ x', Sat p.cs x' ∧ Rel.holds r (lhs.val x') (rhs.val w) ∧
        ∀ j < p.n, lhs.coeffs.getD j 0 = 0 → x' j = w j := by
  unfold RefPoly.genAffinePreimage2
  rw [relImage_frame_spec p _ _ hp (WF_relRows _ _ _ _ (by rw [lowHigh_length]; omega))]
  refine exists_congr fun x => and_congr_right fun _ =>
    and_congr ?_ (by simp only [not_mem_vars, eq_comm])
  have : -dot rhs.coeffs w + dot lhs.coeffs x + ((lhs.k - rhs.k : Int) : Rat)
      = lhs.val x - rhs.val w := by
    unfold LinExpr.val; push_cast; ring
  rw [Sat_relRows_lowHigh _ _ _ _ _ _ _ (by simpa using hr), dot_map_neg, this, Rel.holds_sub]

theorem ite_le_ge (d : Int) : (if d < 0 then Rel.le else Rel.ge) = (if d < 0 then Rel.ge.flip else Rel.ge) := by
  split <;> rfl

theorem ite_ge_le (d : Int) : (if d < 0 then Rel.ge else Rel.le) = (if d < 0 then Rel.le.flip else Rel.le) := by
  split <;> rfl

theorem boundedAffineImage_spec (p : RefPoly) (v : Nat) (lb ub : LinExpr) (d : Int)
    (hp : WF p.n p.cs) (hv : v < p.n) (hl : lb.coeffs.length ≤ p.n) (hu : ub.coeffs.length ≤ p.n)
    (hd : d ≠ 0) (w : Val) :
    Sat (p.boundedAffineImage v lb ub d).cs w ↔
      ∃ x, Sat p.cs x ∧ (lb.val x / (d : Rat) ≤ w v ∧ w v ≤ ub.val x / (d : Rat)) ∧
        ∀ j < p.n, j ≠ v → w j = x j := by
  unfold RefPoly.boundedAffineImage
  dsimp only
  rw [relImage_frame_spec p _ [v] hp (WF_append _ _ _
    (WF_relRows _ _ _ _ (by rw [lowHigh_length]; simp; omega))
    (WF_relRows _ _ _ _ (by rw [lowHigh_length]; simp; omega)))]
  refine exists_congr fun x => and_congr_right fun _ =>
    and_congr ?_ (by simp only [not_mem_singleton_iff])
  have hlen : (unitRow v d).length ≤ p.n := by rw [unitRow_length]; omega
  rw [Sat_append, Sat_relRows_lowHigh _ _ _ _ _ _ _ hlen, Sat_relRows_lowHigh _ _ _ _ _ _ _ hlen,
    dot_unitRow, dot_map_neg, dot_map_neg, ite_le_ge, ite_ge_le]
  rw [LinExpr.sub_val, LinExpr.sub_val, Rel.holds_div _ d _ _ hd, Rel.holds_div _ d _ _ hd]
  exact Iff.rfl

theorem boundedAffinePreimage_spec (p : RefPoly) (v : Nat) (lb ub : LinExpr) (d : Int)
    (hp : WF p.n p.cs) (hv : v < p.n) (hl : lb.coeffs.length ≤ p.n) (hu : ub.coeffs.length ≤ p.n)
    (hd : d ≠ 0) (w : Val) :
    Sat (p.boundedAffinePreimage v lb ub d).cs w ↔
      ∃ x', Sat p.cs x' ∧ (lb.val w / (d : Rat) ≤ x' v ∧ x' v ≤ ub.val w / (d : Rat)) ∧
        ∀ j < p.n, j ≠ v → x' j = w j := by
  unfold RefPoly.boundedAffinePreimage
  dsimp only
  rw [relImage_frame_spec p _ [v] hp (WF_append _ _ _
    (WF_relRows _ _ _ _ (by rw [lowHigh_length, unitRow_length]; omega))
    (WF_relRows _ _ _ _ (by rw [lowHigh_length, unitRow_length]; omega)))]
  refine exists_congr fun x => and_congr_right fun _ =>
    and_congr ?_ (by simp only [not_mem_singleton_iff, eq_comm])
  rw [Sat_append, Sat_relRows_lowHigh _ _ _ _ _ _ _ (by simpa using hl),
    Sat_relRows_lowHigh _ _ _ _ _ _ _ (by simpa using hu),
    dot_unitRow, dot_map_neg, dot_map_neg, ite_le_ge, ite_ge_le]
  rw [LinExpr.sub_val', LinExpr.sub_val', Rel.holds_div _ d _ _ hd, Rel.holds_div _ d _ _ hd]
  exact Iff.rfl

theorem unconstrain_spec (p : RefPoly) (vs : List Nat) (hp : WF p.n p.cs) (w : Val) :
    Sat (p.unconstrain vs).cs w ↔ ∃ x, Sat p.cs x ∧ ∀ j < p.n, j ∉ vs → w j = x j := by
  have := relImage_frame_spec p [] vs hp (by intro c hc; cases hc) w
  rw [List.nil_append] at this
  unfold RefPoly.unconstrain
  rw [this]
  refine exists_congr fun x => and_congr_right fun _ => ?_
  exact ⟨fun h => h.2, fun h => ⟨fun c hc => (by cases hc), h⟩⟩

/-! ### dimensions -/

theorem addDimsProject_spec (p : RefPoly) (m : Nat) (w : Val) :
    Sat (p.addDimsProject m).cs w ↔ Sat p.cs w ∧ ∀ j, p.n ≤ j → j < p.n + m → w j = 0 := by
  unfold RefPoly.addDimsProject
  simp only [Sat_append, Sat_flatMap, Sat_eqRows, dot_unitRow, List.mem_range]
  refine and_congr_right fun _ => ?_
  constructor
  · intro h j h1 h2
    have := h (j - p.n) (by omega)
    rw [show p.n + (j - p.n) = j by omega] at this
    simpa using this
  · intro h j hj
    simpa using h (p.n + j) (by omega) (by omega)

theorem concat_spec (p q : RefPoly) (w : Val) :
    Sat (p.concat q).cs w ↔ Sat p.cs w ∧ Sat q.cs (fun j => w (j + p.n)) := by
  unfold RefPoly.concat
  simp only [Sat_append, Sat_map_shift]

theorem mapDims_spec (p : RefPoly) (nOut : Nat) (f : List (Nat × Nat)) (hp : WF p.n p.cs)
    (hf : ∀ jf ∈ f, jf.1 < p.n ∧ jf.2 < nOut) (w : Val) :
    Sat (p.mapDims nOut f).cs w ↔ ∃ x, Sat p.cs x ∧ ∀ jf ∈ f, w jf.2 = x jf.1 := by
  unfold RefPoly.mapDims
  have hwf : WF (nOut + p.n)
      (f.flatMap fun (j, fj) => eqRows (lowHigh nOut (unitRow fj 1) (unitRow j (-1))) 0) := by
    intro c hc
    obtain ⟨⟨j, fj⟩, hjf, hc⟩ := List.mem_flatMap.mp hc
    refine WF_eqRows _ _ 0 ?_ c hc
    rw [lowHigh_length, unitRow_length]; have := (hf _ hjf).1; simp only at this; omega
  rw [relImage_spec' nOut p _ hwf hp]
  refine exists_congr fun x => and_congr_right fun _ => ?_
  rw [Sat_flatMap]
  refine forall_congr' fun ⟨j, fj⟩ => imp_congr_right fun hjf => ?_
  have h2 := (hf _ hjf).2
  simp only at h2 ⊢
  rw [Sat_eqRows_lowHigh nOut _ _ _ w x (by rw [unitRow_length]; omega), dot_unitRow, dot_unitRow]
  push_cast
  constructor <;> intro h <;> linarith


theorem removeDims_spec (p : RefPoly) (vs : List Nat) (hp : WF p.n p.cs) (w : Val) :
    Sat (p.removeDims vs).cs w ↔
      ∃ x, Sat p.cs x ∧
        ∀ (idx : Nat) (h : idx < (otherVars p.n vs).length), w idx = x ((otherVars p.n vs)[idx]) := by
  unfold RefPoly.removeDims
  dsimp only
  have hid : ((otherVars p.n vs).zipIdx.map fun (j, idx) => (j, idx)) = (otherVars p.n vs).zipIdx := by
    rw [show (fun (x : Nat × Nat) => match x with | (j, idx) => (j, idx)) = id from
      funext fun ⟨_, _⟩ => rfl, List.map_id]
  rw [hid, mapDims_spec p _ _ hp]
  · refine exists_congr fun x => and_congr_right fun _ => ?_
    constructor
    · intro h idx hidx
      exact h ((otherVars p.n vs)[idx], idx) (List.mem_zipIdx_iff_getElem?.mpr (by simp [hidx]))
    · rintro h ⟨j, idx⟩ hm
      obtain ⟨hidx, hj⟩ := List.mem_zipIdx' hm
      show w idx = x j
      rw [hj]; exact h idx hidx
  · rintro ⟨j, idx⟩ hm
    obtain ⟨hidx, hj⟩ := List.mem_zipIdx' hm
    show j < p.n ∧ idx < _
    rw [hj]
    exact ⟨((mem_otherVars _ _ _).mp (List.getElem_mem hidx)).1, hidx⟩

/-! ### `expand_space_dimension` -/

theorem dot_set (l : List Int) (i : Nat) (b : Int) (w : Val) (h : i < l.length) :
    dot (l.set i b) w = dot l w + ((b : Rat) - ((l.getD i 0 : Int) : Rat)) * w i := by
  induction l generalizing i w with
  | nil => simp at h
  | cons a as ih =>
    cases i with
    | zero => simp only [List.set_cons_zero, dot_cons, List.getD_cons_zero]; ring
    | succ i =>
      simp only [List.set_cons_succ, dot_cons, List.getD_cons_succ]
      rw [ih i w.tail (by simpa using h)]
      simp only [Val.tail]; ring

theorem getD_padTo (n : Nat) (l : List Int) (v : Nat) (h : l.length ≤ n) :
    (padTo n l).getD v 0 = l.getD v 0 := by
  unfold padTo
  rw [List.take_of_length_le h]
  by_cases hv : v < l.length
  · simp [List.getD_eq_getElem?_getD, List.getElem?_append_left hv]
  · rw [getD_of_le l v (by omega)]
    simp only [List.getD_eq_getElem?_getD, List.getElem?_append_right (Nat.le_of_not_lt hv),
      List.getElem?_replicate]
    split <;> rfl

theorem eval_renameVar (c : Con) (total v i : Nat) (w : Val) (hc : c.coeffs.length ≤ total)
    (hv : v < total) (hi : i < total) :
    (c.renameVar total v i).eval w = c.eval (w.update v (w i)) := by
  rw [eval_update]
  unfold Con.renameVar Con.eval Con.at
  simp only
  rw [dot_set _ _ _ _ (by simp [padTo_length]; exact hi), dot_set _ _ _ _ (by rw [padTo_length]; exact hv),
    dot_padTo _ _ _ hc, getD_padTo _ _ _ hc]
  push_cast; ring

theorem sat_renameVar (c : Con) (total v i : Nat) (w : Val) (hc : c.coeffs.length ≤ total)
    (hv : v < total) (hi : i < total) :
    (c.renameVar total v i).sat w ↔ c.sat (w.update v (w i)) := by
  unfold Con.sat
  rw [eval_renameVar c total v i w hc hv hi]
  rfl

theorem expandDim_spec (p : RefPoly) (v m : Nat) (hp : WF p.n p.cs) (hv : v < p.n) (w : Val) :
    Sat (p.expandDim v m).cs w ↔
      Sat p.cs w ∧ ∀ i < m, Sat p.cs (w.update v (w (p.n + i))) := by
  unfold RefPoly.expandDim
  simp only [Sat_append, Sat_flatMap, List.mem_range]
  refine and_congr_right fun _ => forall_congr' fun i => imp_congr_right fun hi => ?_
  rw [Sat_map]
  refine forall₂_congr fun c hc => ?_
  exact sat_renameVar c (p.n + m) v (p.n + i) w (by have := hp c hc; omega) (by omega) (by omega)

/-! ## queries -/

theorem sup_spec (p : RefPoly) (e : LinExpr) (hp : WF p.n p.cs) (he : e.coeffs.length ≤ p.n) :
    match p.sup e with
    | .empty => sem p.cs = ∅
    | .unbounded => (∃ x, x ∈ sem p.cs) ∧ ∀ M : Rat, ∃ x ∈ sem p.cs, M < e.val x
    | .val a b att => 0 < b ∧ (∀ x ∈ sem p.cs, e.val x ≤ (a : Rat) / b) ∧
        (att = true → ∃ x ∈ sem p.cs, e.val x = (a : Rat) / b) ∧
        (att = false → (∀ x ∈ sem p.cs, e.val x < (a : Rat) / b) ∧
          ∀ ε : Rat, 0 < ε → ∃ x ∈ sem p.cs, (a : Rat) / b - ε < e.val x) :=
  supB_spec p.n e.coeffs e.k p.cs hp he

theorem inf_spec (p : RefPoly) (e : LinExpr) (hp : WF p.n p.cs) (he : e.coeffs.length ≤ p.n) :
    match p.inf e with
    | .empty => sem p.cs = ∅
    | .unbounded => (∃ x, x ∈ sem p.cs) ∧ ∀ M : Rat, ∃ x ∈ sem p.cs, e.val x < M
    | .val a b att => 0 < b ∧ (∀ x ∈ sem p.cs, (a : Rat) / b ≤ e.val x) ∧
        (att = true → ∃ x ∈ sem p.cs, e.val x = (a : Rat) / b) ∧
        (att = false → (∀ x ∈ sem p.cs, (a : Rat) / b < e.val x) ∧
          ∀ ε : Rat, 0 < ε → ∃ x ∈ sem p.cs, e.val x < (a : Rat) / b + ε) := by
  have h := supB_spec p.n (e.coeffs.map (- ·)) (-e.k) p.cs hp (by simpa using he)
  have hval : ∀ x, dot (e.coeffs.map (- ·)) x + ((-e.k : Int) : Rat) = - e.val x := by
    intro x; rw [dot_map_neg]; unfold LinExpr.val; push_cast; ring
  unfold RefPoly.inf
  cases hs : supB p.n (e.coeffs.map (- ·)) (-e.k) p.cs with
  | empty => rw [hs] at h; exact h
  | unbounded =>
    rw [hs] at h
    refine ⟨h.1, fun M => ?_⟩
    obtain ⟨x, hx, hlt⟩ := h.2 (-M)
    exact ⟨x, hx, by rw [hval] at hlt; exact neg_lt_neg_iff.mp hlt⟩
  | val a b att =>
    rw [hs] at h
    obtain ⟨hb, h1, h2, h3⟩ := h
    have hneg : ((-a : Int) : Rat) / (b : Rat) = -((a : Rat) / b) := by rw [Int.cast_neg, neg_div]
    show 0 < b ∧ (∀ x ∈ sem p.cs, ((-a : Int) : Rat) / b ≤ e.val x) ∧
        (att = true → ∃ x ∈ sem p.cs, e.val x = ((-a : Int) : Rat) / b) ∧
        (att = false → (∀ x ∈ sem p.cs, ((-a : Int) : Rat) / b < e.val x) ∧
          ∀ ε : Rat, 0 < ε → ∃ x ∈ sem p.cs, e.val x < ((-a : Int) : Rat) / b + ε)
    rw [hneg]
    simp only [hval] at h1 h2 h3
    refine ⟨hb, fun x hx => neg_le.mp (h1 x hx), fun ha => ?_, fun ha => ⟨fun x hx => ?_, fun ε hε => ?_⟩⟩
    · obtain ⟨x, hx, he⟩ := h2 ha; exact ⟨x, hx, neg_eq_iff_eq_neg.mp he⟩
    · exact neg_lt.mp ((h3 ha).1 x hx)
    · obtain ⟨x, hx, hlt⟩ := (h3 ha).2 ε hε; exact ⟨x, hx, by linarith⟩

/-- `sup`/`inf` through `supFM` (`supB_eq_supFM`): the forms to evaluate on closed terms -/
theorem RefPoly.sup_eq_supFM (p : RefPoly) (e : LinExpr) :
    p.sup e = supFM p.n e.coeffs e.k p.cs :=
  supB_eq_supFM ..

theorem RefPoly.inf_eq_supFM (p : RefPoly) (e : LinExpr) :
    p.inf e = match supFM p.n (e.coeffs.map (- ·)) (-e.k) p.cs with
      | .val a b att => .val (-a) b att
      | s => s := by
  rw [RefPoly.inf, supB_eq_supFM]; cases supFM p.n (e.coeffs.map (- ·)) (-e.k) p.cs <;> rfl

theorem hasPoint_iff (p : RefPoly) (num : List Int) (den : Int) (hd : 0 < den) :
    p.hasPoint num den = true ↔ ratPoint num den ∈ sem p.cs := by
  unfold RefPoly.hasPoint
  rw [List.all_eq_true]
  exact forall_congr' fun c => imp_congr_right fun _ => holdsAt_iff c num den hd

/-- the homogeneous closed system used by `isBounded` -/
theorem Sat_homRows (cs : List Con) (d : Val) :
    Sat ((relax cs).map fun c => { c with k := 0 }) d ↔ ∀ c ∈ cs, 0 ≤ dot c.coeffs d := by
  unfold relax
  rw [List.map_map, Sat_map]
  refine forall₂_congr fun c _ => ?_
  simp [Con.sat, Con.eval]

end PPLV.Lin

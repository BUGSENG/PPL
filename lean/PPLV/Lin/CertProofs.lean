import PPLV.Lin.Proofs
import PPLV.Lin.Simplex

/-! # K1 theorems: the certificate checkers are sound

`certFeas` accepts only genuine solutions, `certInfeas` only genuine Motzkin refutations; hence
whatever the (untrusted) simplex proposes, `certify` answers `some true` only for satisfiable
systems and `some false` only for unsatisfiable ones, and `pruneRows` preserves the solution set.
-/
namespace PPLV.Lin
open List

/-! ### negation of a row -/

theorem eval_neg (c : Con) (x : Val) : c.neg.eval x = - c.eval x := by
  unfold Con.eval Con.neg
  simp only
  have : c.coeffs.map (- ·) = c.coeffs.map ((-1 : Int) * ·) := by
    apply List.map_congr_left; intro a _; ring
  rw [this, dot_map_mul]; push_cast; ring

theorem sat_neg_iff (c : Con) (x : Val) : c.neg.sat x ↔ ¬ c.sat x := by
  unfold Con.sat
  rw [eval_neg]
  have hs : c.neg.strict = !c.strict := rfl
  rw [hs]
  cases c.strict <;> simp

theorem neg_length (c : Con) : c.neg.coeffs.length = c.coeffs.length := by
  simp [Con.neg]

theorem Sat_append (as bs : List Con) (w : Val) : Sat (as ++ bs) w ↔ Sat as w ∧ Sat bs w := by
  unfold Sat
  simp only [List.mem_append]
  exact ⟨fun h => ⟨fun c hc => h c (Or.inl hc), fun c hc => h c (Or.inr hc)⟩,
    fun h c hc => hc.elim (h.1 c) (h.2 c)⟩

theorem Sat_cons (c : Con) (cs : List Con) (w : Val) : Sat (c :: cs) w ↔ c.sat w ∧ Sat cs w := by
  unfold Sat
  simp only [List.mem_cons, forall_eq_or_imp]

theorem Sat_map (f : Con → Con) (cs : List Con) (w : Val) :
    Sat (cs.map f) w ↔ ∀ c ∈ cs, (f c).sat w := by
  unfold Sat
  simp only [List.mem_map, forall_exists_index, and_imp, forall_apply_eq_imp_iff₂]

theorem Sat_singleton (c : Con) (w : Val) : Sat [c] w ↔ c.sat w := by
  unfold Sat; simp

/-! ### a verified point -/

/-- `Σ_i a_i b_i` over the common prefix (what `zipWith`/`foldl` computes in `Con.holdsAt`) -/
def zsum : List Int → List Int → Int
  | a :: as, b :: bs => a * b + zsum as bs
  | _, _ => 0

theorem foldl_zipWith (as bs : List Int) (acc : Int) :
    (List.zipWith (· * ·) as bs).foldl (· + ·) acc = acc + zsum as bs := by
  induction as generalizing bs acc with
  | nil => simp [zsum]
  | cons a as ih =>
    cases bs with
    | nil => simp [zsum]
    | cons b bs => simp only [List.zipWith_cons_cons, List.foldl_cons, ih, zsum]; ring

/-- the rational point `num / den`; coordinates beyond `num.length` are `0` -/
def ratPoint (num : List Int) (den : Int) : Val := fun i => ((num.getD i 0 : Int) : Rat) / (den : Rat)

theorem ratPoint_nil (den : Int) : ratPoint [] den = Val.zero := by
  funext i; simp [ratPoint, Val.zero]

theorem ratPoint_tail (b : Int) (bs : List Int) (den : Int) :
    (ratPoint (b :: bs) den).tail = ratPoint bs den := by
  funext i; simp [ratPoint, Val.tail]

theorem den_mul_dot (as num : List Int) (den : Int) (hd : (den : Rat) ≠ 0) :
    (den : Rat) * dot as (ratPoint num den) = ((zsum as num : Int) : Rat) := by
  induction as generalizing num with
  | nil => simp [zsum]
  | cons a as ih =>
    cases num with
    | nil => rw [ratPoint_nil, dot_zero]; simp [zsum]
    | cons b bs =>
      simp only [dot_cons, ratPoint_tail, zsum, mul_add, ih bs]
      push_cast
      have : ratPoint (b :: bs) den 0 = (b : Rat) / (den : Rat) := by simp [ratPoint]
      rw [this]; field_simp

theorem holdsAt_iff (c : Con) (num : List Int) (den : Int) (hd : 0 < den) :
    c.holdsAt num den = true ↔ c.sat (ratPoint num den) := by
  have hd' : (0 : Rat) < (den : Rat) := by exact_mod_cast hd
  have key : (((zsum c.coeffs num + c.k * den : Int)) : Rat) = (den : Rat) * c.eval (ratPoint num den) := by
    unfold Con.eval
    rw [mul_add, den_mul_dot _ _ _ (ne_of_gt hd')]; push_cast; ring
  unfold Con.holdsAt Con.sat
  simp only [foldl_zipWith, zero_add]
  split
  · rw [decide_eq_true_eq]
    rw [← mul_pos_iff_of_pos_left hd', ← key]
    exact ⟨fun h => by exact_mod_cast h, fun h => by exact_mod_cast h⟩
  · rw [decide_eq_true_eq]
    rw [← mul_nonneg_iff_of_pos_left hd', ← key]
    exact ⟨fun h => by exact_mod_cast h, fun h => by exact_mod_cast h⟩

/-- **A point accepted by `certFeas` is a solution.** -/
theorem certFeas_point (cs : List Con) (num : List Int) (den : Int)
    (h : certFeas cs num den = true) : Sat cs (ratPoint num den) := by
  unfold certFeas at h
  simp only [Bool.and_eq_true, decide_eq_true_eq, List.all_eq_true] at h
  intro c hc
  exact (holdsAt_iff c num den h.1).mp (h.2 c hc)

theorem certFeas_sound (cs : List Con) (num : List Int) (den : Int)
    (h : certFeas cs num den = true) : ∃ x, Sat cs x :=
  ⟨_, certFeas_point cs num den h⟩

/-! ### verified Motzkin multipliers -/

/-- `Σ_i y_i · eval_i(x)` -/
def wev : List Con → List Int → Val → Rat
  | c :: cs, y :: ys, x => (y : Rat) * c.eval x + wev cs ys x
  | _, _, _ => 0

theorem combineRows_eval (cs : List Con) (y : List Int) (x : Val) :
    dot (combineRows cs y).1 x + (((combineRows cs y).2 : Int) : Rat) = wev cs y x := by
  induction cs generalizing y with
  | nil => simp [combineRows, wev]
  | cons c cs ih =>
    cases y with
    | nil => simp [combineRows, wev]
    | cons a ys =>
      simp only [combineRows, wev, dot_lincomb, ← ih ys, Con.eval]
      push_cast; ring

theorem sat_nonneg (c : Con) (x : Val) (h : c.sat x) : 0 ≤ c.eval x := by
  unfold Con.sat at h; split at h
  · exact le_of_lt h
  · exact h

theorem wev_nonneg (cs : List Con) (y : List Int) (x : Val) (hs : Sat cs x)
    (hy : ∀ a ∈ y, 0 ≤ a) :
    0 ≤ wev cs y x ∧ (0 < strictWeight cs y → 0 < wev cs y x) := by
  induction cs generalizing y with
  | nil => simp [wev, strictWeight]
  | cons c cs ih =>
    cases y with
    | nil => simp [wev, strictWeight]
    | cons a ys =>
      have hc : c.sat x := hs c (by simp)
      have hrest := ih ys (fun d hd => hs d (by simp [hd])) (fun b hb => hy b (by simp [hb]))
      have ha : (0 : Rat) ≤ (a : Rat) := by exact_mod_cast hy a (by simp)
      have hev : 0 ≤ c.eval x := sat_nonneg c x hc
      have hprod : 0 ≤ (a : Rat) * c.eval x := mul_nonneg ha hev
      simp only [wev, strictWeight]
      refine ⟨by linarith [hrest.1], fun hsw => ?_⟩
      by_cases hpos : 0 < strictWeight cs ys
      · linarith [hrest.2 hpos]
      · have hcs : c.strict = true ∧ 0 < a := by
          by_cases hst : c.strict = true
          · simp only [hst, if_true] at hsw; exact ⟨hst, by omega⟩
          · simp only [hst, Bool.false_eq_true, if_false] at hsw; omega
        have hev' : 0 < c.eval x := by
          unfold Con.sat at hc; simpa only [hcs.1, if_true] using hc
        have ha' : (0 : Rat) < (a : Rat) := by exact_mod_cast hcs.2
        have : 0 < (a : Rat) * c.eval x := mul_pos ha' hev'
        linarith [hrest.1]

/-- **Multipliers accepted by `certInfeas` refute the system.** -/
theorem certInfeas_sound (cs : List Con) (y : List Int) (h : certInfeas cs y = true) :
    ¬ ∃ x, Sat cs x := by
  rintro ⟨x, hs⟩
  unfold certInfeas at h
  simp only [Bool.and_eq_true, List.all_eq_true, decide_eq_true_eq, Bool.or_eq_true,
    beq_iff_eq] at h
  obtain ⟨⟨-, hy⟩, hz, hk⟩ := h
  have hw := wev_nonneg cs y x hs hy
  have he := combineRows_eval cs y x
  rw [dot_allZero _ (by simpa [List.all_eq_true] using hz), zero_add] at he
  rcases hk with hk | ⟨hk, hsw⟩
  · have : (((combineRows cs y).2 : Int) : Rat) < 0 := by exact_mod_cast hk
    linarith [hw.1]
  · have : (((combineRows cs y).2 : Int) : Rat) ≤ 0 := by exact_mod_cast hk
    linarith [hw.2 hsw]

/-! ### `certify` and `pruneRows` -/

/-- A verdict of `certify` is right.  The proof does not depend on the shape of the (untrusted)
    search inside `certify`: it splits every `if`/`match` and uses that each `some` leaf is guarded
    by a checker. -/
theorem certify_sound (n : Nat) (cs : List Con) (b : Bool) (h : certify n cs = some b) :
    b = true ↔ ∃ x, Sat cs x := by
  unfold certify at h
  simp only at h
  generalize Simplex.solve _ _ _ _ = out at h   -- keeps the terms that are split small
  repeat' split at h
  all_goals first
    | (cases h; done)
    | (cases h; exact iff_of_true rfl (certFeas_sound _ _ _ (by assumption)))
    | (cases h; exact iff_of_false Bool.false_ne_true (certInfeas_sound _ _ (by assumption)))
    | (cases h
       have hnil : cs = [] := List.eq_nil_of_length_eq_zero (by simpa using ‹(cs.length == 0) = true›)
       subst hnil
       exact iff_of_true rfl ⟨Val.zero, fun c hc => by cases hc⟩)

theorem pruneRows_correct (n : Nat) (kept rest : List Con) (x : Val) :
    Sat (pruneRows n kept rest) x ↔ Sat (kept ++ rest) x := by
  induction rest generalizing kept with
  | nil => simp [pruneRows]
  | cons c rest ih =>
    have hsplit : Sat (kept ++ c :: rest) x ↔ c.sat x ∧ Sat (kept ++ rest) x := by
      simp only [Sat_append, Sat_cons]; tauto
    unfold pruneRows
    split
    · rename_i hc
      rw [ih, hsplit]
      refine ⟨fun h => ⟨?_, h⟩, fun h => h.2⟩
      by_contra hn
      exact Bool.false_ne_true
        ((certify_sound _ _ _ hc).mpr ⟨x, (Sat_cons _ _ _).mpr ⟨(sat_neg_iff c x).mpr hn, h⟩⟩)
    · rw [ih, List.append_assoc, List.singleton_append]

end PPLV.Lin

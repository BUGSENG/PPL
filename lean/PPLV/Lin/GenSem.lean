import PPLV.Lin.Project

/-! # K1 theorems: the documented semantics of a generator system

`doc/definitions.dox`, "Combinations and Hulls" / "Generators Representation": for a generator
system `G = (L, R, P, C)`,  `gen(G) = linear.hull(L) + conic.hull(R) + NNC.hull(P, C)`, i.e. the
set of all `Σ λ_l·l + Σ ρ_r·r + Σ π_p·p + Σ γ_c·c` with `ρ, π, γ ≥ 0`, `Σπ + Σγ = 1` and
`π_p > 0` for some point `p`; line multipliers are free.  `GenSem` below is that definition
with one multiplier vector `lam` indexed by the position in the list; `gensToCons_spec` says
that the executable `gensToCons` (lift with multipliers, Fourier–Motzkin projection) denotes
exactly this set, `checkDD_iff` that `checkDD` decides equality with a constraint system.
-/
namespace PPLV.Lin
open List

/-! ### rows of the lifted system -/

theorem dot_coordRow (n i : Nat) (hi : i < n) (tl : List Int) (w : Val) :
    dot (unitRow i 1 ++ List.replicate (n - 1 - i) 0 ++ tl) w
      = w i + dot tl (fun j => w (j + n)) := by
  have hlen : (unitRow i 1 ++ List.replicate (n - 1 - i) 0).length = n := by
    simp [unitRow]; omega
  rw [dot_append, dot_append, dot_unitRow, dot_replicate_zero, hlen]
  simp

theorem sat_signRow (n j : Nat) (w : Val) :
    (geRow (List.replicate (n + j) 0 ++ [1]) 0).sat w ↔ 0 ≤ w (j + n) := by
  unfold Con.sat geRow Con.eval
  simp only [dot_replicate_zero_append, Bool.false_eq_true, if_false]
  simp [Nat.add_comm]

/-! ### weighted sums over a generator list -/

/-- `Σ_j lam_j · f(g_j)` over the list `gs = [g_0, g_1, …]` -/
def wsum (f : Gen → Rat) : List Gen → Val → Rat
  | [], _ => 0
  | g :: gs, lam => lam 0 * f g + wsum f gs lam.tail

theorem dot_map_gens (f : Gen → Int) (gs : List Gen) (mu : Val) :
    dot (gs.map f) mu = wsum (fun g => ((f g : Int) : Rat)) gs mu := by
  induction gs generalizing mu with
  | nil => rfl
  | cons g gs ih => simp only [List.map_cons, dot_cons, wsum, ih]; ring

theorem wsum_congr (f f' : Gen → Rat) (gs : List Gen) (lam lam' : Val)
    (h : ∀ j < gs.length, lam j * f (gs.getD j default) = lam' j * f' (gs.getD j default)) :
    wsum f gs lam = wsum f' gs lam' := by
  induction gs generalizing lam lam' with
  | nil => rfl
  | cons g gs ih =>
    rw [List.length_cons, Nat.forall_lt_succ_left] at h
    exact congrArg₂ (· + ·) h.1 (ih _ _ h.2)

theorem wsum_nonneg (f : Gen → Rat) (gs : List Gen) (lam : Val)
    (h : ∀ j < gs.length, 0 ≤ lam j * f (gs.getD j default)) : 0 ≤ wsum f gs lam := by
  induction gs generalizing lam with
  | nil => exact le_refl _
  | cons g gs ih =>
    rw [List.length_cons, Nat.forall_lt_succ_left] at h
    exact add_nonneg h.1 (ih _ h.2)

theorem wsum_pos_iff (f : Gen → Rat) (gs : List Gen) (lam : Val)
    (h : ∀ j < gs.length, 0 ≤ lam j * f (gs.getD j default)) :
    0 < wsum f gs lam ↔ ∃ j < gs.length, 0 < lam j * f (gs.getD j default) := by
  induction gs generalizing lam with
  | nil => exact ⟨fun h => absurd h (lt_irrefl _), fun ⟨j, hj, _⟩ => absurd hj (Nat.not_lt_zero j)⟩
  | cons g gs ih =>
    rw [List.length_cons, Nat.forall_lt_succ_left] at h
    rw [List.length_cons, Nat.exists_lt_succ_left]
    have h0 : 0 ≤ lam 0 * f g := h.1
    have hr := wsum_nonneg f gs lam.tail h.2
    refine Iff.trans ?_ (or_congr Iff.rfl (ih lam.tail h.2))
    show 0 < lam 0 * f g + wsum f gs lam.tail ↔ 0 < lam 0 * f g ∨ 0 < wsum f gs lam.tail
    constructor
    · intro hpos
      rcases h0.lt_or_eq with hp | he
      · exact Or.inl hp
      · rw [← he, zero_add] at hpos; exact Or.inr hpos
    · rintro (hp | hp)
      · exact add_pos_of_pos_of_nonneg hp hr
      · exact add_pos_of_nonneg_of_pos h0 hp
/-! ### the documented semantics -/

/-- coordinate `i` of the vector denoted by `g`: `coords[i] / divisor` (divisor 1 for lines, rays) -/
def Gen.coord (g : Gen) (i : Nat) : Rat := ((g.coords.getD i 0 : Int) : Rat) / (g.d : Rat)

/-- `linear.hull(L) + conic.hull(R) + NNC.hull(P, C)` in `ℚ^n` (as a cylinder in `ℕ → ℚ`:
    coordinates `≥ n` are unconstrained).  `lam j` is the multiplier of the `j`-th generator:
    free for lines, non-negative otherwise; the multipliers of points and closure points sum
    to one, and some point has a positive multiplier. -/
def GenSem (n : Nat) (gs : List Gen) : Set Val := {x | ∃ lam : Val,
  (∀ j < gs.length, (gs.getD j default).isLine = false → 0 ≤ lam j) ∧
  wsum (fun g => if g.isPtOrCp then 1 else 0) gs lam = 1 ∧
  (∃ j < gs.length, (gs.getD j default).isPt = true ∧ 0 < lam j) ∧
  ∀ i < n, x i = wsum (fun g => g.coord i) gs lam}

/-- the same set after the change of variable `mu_j = lam_j / d_j` (integral rows) -/
def LiftedSem (n : Nat) (gs : List Gen) : Set Val := {x | ∃ mu : Val,
  (∀ i < n, x i = wsum (fun g => ((g.coords.getD i 0 : Int) : Rat)) gs mu) ∧
  (∀ j < gs.length, (gs.getD j default).isLine = false → 0 ≤ mu j) ∧
  wsum (fun g => ((g.wt : Int) : Rat)) gs mu = 1 ∧
  0 < wsum (fun g => ((g.pwt : Int) : Rat)) gs mu}

theorem GenSem_nil (n : Nat) : GenSem n [] = ∅ := by
  ext x; simp [GenSem, wsum]

theorem GenSem_cylinder (n : Nat) (gs : List Gen) (x y : Val) (hy : y ∈ GenSem n gs)
    (h : ∀ i < n, y i = x i) : x ∈ GenSem n gs := by
  obtain ⟨lam, h1, h2, h3, h4⟩ := hy
  exact ⟨lam, h1, h2, h3, fun i hi => by rw [← h i hi]; exact h4 i hi⟩

/-! ### the lifted system denotes `LiftedSem` -/

theorem liftedGens_wf (n : Nat) (gs : List Gen) : WF (n + gs.length) (liftedGens n gs) := by
  intro c hc
  unfold liftedGens at hc
  simp only [List.mem_append, List.mem_flatMap, List.mem_range, List.mem_filterMap] at hc
  rcases hc with ((⟨i, hi, hc⟩ | ⟨j, hj, hc⟩) | hc) | hc
  · simp only [eqRows, List.mem_cons, List.not_mem_nil, or_false] at hc
    rcases hc with rfl | rfl <;> simp [unitRow] <;> omega
  · split at hc
    · cases hc
    · simp only [Option.some.injEq] at hc; subst hc; simp [geRow]; omega
  · simp only [eqRows, List.mem_cons, List.not_mem_nil, or_false] at hc
    rcases hc with rfl | rfl <;> simp
  · simp only [List.mem_cons, List.not_mem_nil, or_false] at hc
    subst hc; simp [gtRow]

theorem Sat_signRows (n : Nat) (gs : List Gen) (w : Val) :
    Sat ((List.range gs.length).filterMap fun j =>
      if (gs.getD j default).isLine then none
      else some (geRow (List.replicate (n + j) 0 ++ [1]) 0)) w ↔
    ∀ j < gs.length, (gs.getD j default).isLine = false → 0 ≤ w (j + n) := by
  unfold Sat
  simp only [List.mem_filterMap, List.mem_range]
  constructor
  · intro h j hj hl
    have hl' : ¬ (gs.getD j default).isLine = true := by rw [hl]; exact Bool.false_ne_true
    exact (sat_signRow n j w).mp (h _ ⟨j, hj, if_neg hl'⟩)
  · rintro h c ⟨j, hj, hc⟩
    by_cases hl : (gs.getD j default).isLine = true
    · rw [if_pos hl] at hc; cases hc
    · rw [if_neg hl] at hc
      cases hc
      exact (sat_signRow n j w).mpr (h j hj ((Bool.not_eq_true _).mp hl))

theorem liftedGens_sat (n : Nat) (gs : List Gen) (w : Val) :
    Sat (liftedGens n gs) w ↔
      (∀ i < n, w i = wsum (fun g => ((g.coords.getD i 0 : Int) : Rat)) gs (fun j => w (j + n))) ∧
      (∀ j < gs.length, (gs.getD j default).isLine = false → 0 ≤ w (j + n)) ∧
      wsum (fun g => ((g.wt : Int) : Rat)) gs (fun j => w (j + n)) = 1 ∧
      0 < wsum (fun g => ((g.pwt : Int) : Rat)) gs (fun j => w (j + n)) := by
  unfold liftedGens
  simp only [Sat_append, Sat_flatMap, Sat_signRows, Sat_eqRows, List.mem_range, and_assoc]
  refine and_congr ?_ (and_congr Iff.rfl (and_congr ?_ ?_))
  · refine forall_congr' fun i => imp_congr_right fun hi => ?_
    rw [dot_coordRow n i hi, dot_map_gens]
    have : wsum (fun g => (((-g.coords.getD i 0 : Int)) : Rat)) gs (fun j => w (j + n))
        = - wsum (fun g => ((g.coords.getD i 0 : Int) : Rat)) gs (fun j => w (j + n)) := by
      generalize (fun j => w (j + n)) = mu
      induction gs generalizing mu with
      | nil => simp [wsum]
      | cons g gs ih => simp only [wsum, ih]; push_cast; ring
    rw [this]
    constructor <;> intro h <;> push_cast at h ⊢ <;> linarith
  · rw [dot_replicate_zero_append, dot_map_gens]
    constructor <;> intro h <;> push_cast at h ⊢ <;> linarith
  · unfold Sat
    simp only [List.mem_cons, List.not_mem_nil, or_false, forall_eq]
    simp only [Con.sat, gtRow, Con.eval, if_true, dot_replicate_zero_append, dot_map_gens]
    simp

theorem sem_gensToCons_lifted (n : Nat) (gs : List Gen) :
    sem (gensToCons n gs) = LiftedSem n gs := by
  ext x
  show Sat (gensToCons n gs) x ↔ _
  unfold gensToCons
  rw [projectTo_spec n (n + gs.length) _ (liftedGens_wf n gs) (Nat.le_add_right _ _)]
  constructor
  · rintro ⟨w, hag, hs⟩
    obtain ⟨h1, h2, h3, h4⟩ := (liftedGens_sat n gs w).mp hs
    exact ⟨fun j => w (j + n), fun i hi => by rw [← hag i hi]; exact h1 i hi, h2, h3, h4⟩
  · rintro ⟨mu, h1, h2, h3, h4⟩
    let w : Val := fun j => if j < n then x j else mu (j - n)
    have hmu : (fun j => w (j + n)) = mu := by funext j; simp [w]
    have hw : ∀ j, w (j + n) = mu j := fun j => congrFun hmu j
    have hx : ∀ i < n, w i = x i := fun i hi => by simp [w, hi]
    refine ⟨w, hx, ?_⟩
    rw [liftedGens_sat, hmu]
    exact ⟨fun i hi => by rw [hx i hi]; exact h1 i hi,
      fun j hj hl => by rw [hw j]; exact h2 j hj hl, h3, h4⟩

/-! ### change of variable `lam_j = mu_j · d_j` -/

theorem Gen.wt_eq (g : Gen) :
    ((g.wt : Int) : Rat) = (g.d : Rat) * (if g.isPtOrCp then 1 else 0) := by
  unfold Gen.wt Gen.d; split <;> simp

theorem Gen.pwt_eq (g : Gen) :
    ((g.pwt : Int) : Rat) = (g.d : Rat) * (if g.isPt then 1 else 0) := by
  unfold Gen.pwt Gen.d Gen.isPtOrCp Gen.isPt
  cases g.kind <;> simp

theorem Gen.isPt_not_line (g : Gen) (h : g.isPt = true) : g.isLine = false := by
  unfold Gen.isPt at h; unfold Gen.isLine
  cases hk : g.kind <;> simp_all

theorem mem_getD (gs : List Gen) (j : Nat) (h : j < gs.length) : gs.getD j default ∈ gs := by
  have : gs.getD j default = gs[j] := by simp [List.getD_eq_getElem?_getD, h]
  rw [this]; exact List.getElem_mem h

theorem gensWF_d (n : Nat) (gs : List Gen) (hwf : gensWF n gs = true) (j : Nat) (hj : j < gs.length) :
    (0 : Rat) < ((gs.getD j default).d : Rat) := by
  unfold gensWF at hwf
  simp only [List.all_eq_true, Bool.and_eq_true, decide_eq_true_eq] at hwf
  exact_mod_cast (hwf _ (mem_getD gs j hj)).2

/-- "some point has a positive multiplier" as positivity of the point-weighted sum -/
theorem wsum_pt_pos_iff (gs : List Gen) (lam : Val)
    (h : ∀ j < gs.length, (gs.getD j default).isLine = false → 0 ≤ lam j) :
    0 < wsum (fun g => if g.isPt then 1 else 0) gs lam ↔
      ∃ j < gs.length, (gs.getD j default).isPt = true ∧ 0 < lam j := by
  have hn : ∀ j < gs.length,
      0 ≤ lam j * (if (gs.getD j default).isPt then (1 : Rat) else 0) := fun j hj => by
    split
    · rw [mul_one]; exact h j hj (Gen.isPt_not_line _ ‹_›)
    · rw [mul_zero]
  -- `f` is given explicitly: left to unification, `?f (gs.getD j default)` is very slow to solve
  rw [wsum_pos_iff (fun g => if g.isPt then 1 else 0) gs lam hn]
  refine exists_congr fun j => and_congr_right fun _ => ?_
  show 0 < lam j * (if (gs.getD j default).isPt then (1 : Rat) else 0) ↔ _
  cases (gs.getD j default).isPt <;> simp

theorem lifted_iff_gen (n : Nat) (gs : List Gen) (hwf : gensWF n gs = true) (x mu lam : Val)
    (hrel : ∀ j < gs.length, lam j = mu j * ((gs.getD j default).d : Rat)) :
    ((∀ i < n, x i = wsum (fun g => ((g.coords.getD i 0 : Int) : Rat)) gs mu) ∧
      (∀ j < gs.length, (gs.getD j default).isLine = false → 0 ≤ mu j) ∧
      wsum (fun g => ((g.wt : Int) : Rat)) gs mu = 1 ∧
      0 < wsum (fun g => ((g.pwt : Int) : Rat)) gs mu) ↔
    ((∀ j < gs.length, (gs.getD j default).isLine = false → 0 ≤ lam j) ∧
      wsum (fun g => if g.isPtOrCp then 1 else 0) gs lam = 1 ∧
      (∃ j < gs.length, (gs.getD j default).isPt = true ∧ 0 < lam j) ∧
      ∀ i < n, x i = wsum (fun g => g.coord i) gs lam) := by
  have hd := gensWF_d n gs hwf
  have e1 : ∀ i, wsum (fun g => ((g.coords.getD i 0 : Int) : Rat)) gs mu
      = wsum (fun g => g.coord i) gs lam := by
    intro i
    apply wsum_congr
    intro j hj
    have := hd j hj
    rw [hrel j hj]; unfold Gen.coord; field_simp
  have e2 : wsum (fun g => ((g.wt : Int) : Rat)) gs mu
      = wsum (fun g => if g.isPtOrCp then 1 else 0) gs lam := by
    apply wsum_congr
    intro j hj
    rw [hrel j hj, Gen.wt_eq]; ring
  have e3 : wsum (fun g => ((g.pwt : Int) : Rat)) gs mu
      = wsum (fun g => if g.isPt then 1 else 0) gs lam := by
    apply wsum_congr
    intro j hj
    rw [hrel j hj, Gen.pwt_eq]; ring
  have e4 : (∀ j < gs.length, (gs.getD j default).isLine = false → 0 ≤ mu j) ↔
      (∀ j < gs.length, (gs.getD j default).isLine = false → 0 ≤ lam j) := by
    refine forall_congr' fun j => imp_congr_right fun hj => imp_congr_right fun _ => ?_
    have := hd j hj
    rw [hrel j hj]
    exact (mul_nonneg_iff_of_pos_right this).symm
  simp only [e1, e2, e3, e4]
  constructor
  · rintro ⟨h1, h2, h3, h4⟩
    exact ⟨h2, h3, (wsum_pt_pos_iff gs lam h2).mp h4, h1⟩
  · rintro ⟨h2, h3, h4, h1⟩
    exact ⟨h1, h2, h3, (wsum_pt_pos_iff gs lam h2).mpr h4⟩

theorem liftedSem_eq_genSem (n : Nat) (gs : List Gen) (hwf : gensWF n gs = true) :
    LiftedSem n gs = GenSem n gs := by
  have hd := gensWF_d n gs hwf
  ext x
  constructor
  · rintro ⟨mu, h⟩
    exact ⟨fun j => mu j * ((gs.getD j default).d : Rat),
      (lifted_iff_gen n gs hwf x mu _ (fun j _ => rfl)).mp h⟩
  · rintro ⟨lam, h⟩
    refine ⟨fun j => lam j / ((gs.getD j default).d : Rat),
      (lifted_iff_gen n gs hwf x _ lam (fun j hj => ?_)).mpr h⟩
    have := hd j hj
    field_simp

/-! ### the specification theorems -/

/-- **Generators to constraints**: the executable conversion denotes the documented set. -/
theorem sem_gensToCons (n : Nat) (gs : List Gen) (hwf : gensWF n gs = true) :
    sem (gensToCons n gs) = GenSem n gs := by
  rw [sem_gensToCons_lifted, liftedSem_eq_genSem n gs hwf]

theorem gensToCons_spec (n : Nat) (gs : List Gen) (hwf : gensWF n gs = true) (x : Val) :
    Sat (gensToCons n gs) x ↔ ∃ y ∈ GenSem n gs, ∀ i < n, y i = x i := by
  have h : Sat (gensToCons n gs) x ↔ x ∈ GenSem n gs := by
    rw [← sem_gensToCons n gs hwf]; rfl
  rw [h]
  exact ⟨fun hx => ⟨x, hx, fun _ _ => rfl⟩, fun ⟨y, hy, hag⟩ => GenSem_cylinder n gs x y hy hag⟩

theorem gensToCons_wf (n : Nat) (gs : List Gen) : WF n (gensToCons n gs) :=
  projectTo_wf n _ _

/-- an empty generator list denotes the empty set -/
theorem sem_gensToCons_nil (n : Nat) : sem (gensToCons n []) = ∅ := by
  rw [sem_gensToCons n [] (by simp [gensWF]), GenSem_nil]

theorem checkDD_iff (n : Nat) (cs : List Con) (gs : List Gen) (h1 : WF n cs) (_h2 : gensWF n gs = true) :
    checkDD n cs gs = true ↔ sem cs = sem (gensToCons n gs) := by
  unfold checkDD
  exact equivB_iff n cs _ h1 (gensToCons_wf n gs)

/-- **Double description check**: `checkDD` decides whether the constraint system and the
    generator system denote the same point set. -/
theorem checkDD_iff_genSem (n : Nat) (cs : List Con) (gs : List Gen) (h1 : WF n cs)
    (h2 : gensWF n gs = true) :
    checkDD n cs gs = true ↔ sem cs = GenSem n gs := by
  rw [checkDD_iff n cs gs h1 h2, sem_gensToCons n gs h2]

/-- `sem cs` for `WF n cs` is a cylinder over the first `n` coordinates, like `GenSem n gs` -/
theorem sem_cylinder (n : Nat) (cs : List Con) (hwf : WF n cs) (x y : Val) (hy : y ∈ sem cs)
    (h : ∀ i < n, y i = x i) : x ∈ sem cs := by
  intro c hc
  refine (sat_agree c x y ?_).mpr (hy c hc)
  intro i hi
  exact (h i (lt_of_lt_of_le hi (hwf c hc))).symm

end PPLV.Lin

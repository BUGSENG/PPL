import PPLV.Lin.OpSpecs2

/-! # K1 theorems: `poly_difference_assign` and congruences (`Ops2.lean`)

The judge of `poly_difference_assign` (`diffJudge_sound`) and congruences as far as a
polyhedron represents them (`addCongs_spec`). -/

/-! ### `poly_difference_assign` -/
namespace PPLV.Lin.O2
open List

theorem relax_of_nonstrict (cs : List Con) (h : ∀ c ∈ cs, c.strict = false) : relax cs = cs := by
  unfold relax
  conv_rhs => rw [← List.map_id cs]
  apply List.map_congr_left
  intro c hc
  have := h c hc
  cases c
  simp only at this
  subst this
  rfl

/-- relaxing the strict piece `P ∩ row^strict` relaxes `P` and restores `row` -/
theorem relax_strict_piece (cs : List Con) (row : Con) (hr : row.strict = false) :
    relax (cs ++ [{ row with strict := true }]) = relax cs ++ [row] := by
  have h1 : relax (cs ++ [{ row with strict := true }])
      = relax cs ++ [{ row with strict := false }] := by
    unfold relax; rw [List.map_append]; rfl
  rw [h1]
  cases row
  simp only at hr
  subst hr
  rfl

theorem WF_relax (n : Nat) (cs : List Con) (h : WF n cs) : WF n (relax cs) := by
  intro d hd
  obtain ⟨c, hc, rfl⟩ := (O2.mem_relax cs d).mp hd
  exact h c hc

/-- for a set that is closed (`sem (relax P) ⊆ sem P`; strict rows may occur, redundantly), the
    closure of the strict piece `P ∩ row^strict` is `P ∩ row` -/
theorem sem_relax_strict_piece (cs : List Con) (row : Con) (hcl : sem (relax cs) ⊆ sem cs)
    (hr : row.strict = false) :
    sem (relax (cs ++ [{ row with strict := true }])) = sem (cs ++ [row]) := by
  rw [relax_strict_piece cs row hr, sem_append, sem_append,
    Set.Subset.antisymm hcl (sem_subset_relax cs)]

theorem WF_snoc (n : Nat) (cs : List Con) (c : Con) (h : WF n cs) (hc : c.coeffs.length ≤ n) :
    WF n (cs ++ [c]) :=
  WF_append n cs [c] h (fun d hd => by rw [List.mem_singleton.mp hd]; exact hc)

theorem mem_sem_snoc (cs : List Con) (c : Con) (x : Val) :
    x ∈ sem (cs ++ [c]) ↔ x ∈ sem cs ∧ c.sat x := by
  show Sat _ x ↔ _
  rw [Sat_append, Sat_singleton]; rfl

/-- coverage: a point of `P` outside `Q` lies in one of the half-spaces -/
theorem diff_cover (n : Nat) (pcs qcs : List Con) (pieces : List (Con × List Gen)) (hp : WF n pcs)
    (hq : WF n qcs) (hlen : ∀ pc ∈ pieces, pc.1.coeffs.length ≤ n)
    (H1 : subsetB n (pcs ++ pieces.map (fun pc => pc.1.neg)) qcs = true) (x : Val)
    (hx : x ∈ sem pcs) (hxq : x ∉ sem qcs) : ∃ pc ∈ pieces, x ∈ sem (pcs ++ [pc.1]) := by
  by_contra hno
  apply hxq
  have hwf : WF n (pcs ++ pieces.map (fun pc => pc.1.neg)) := by
    refine WF_append n _ _ hp ?_
    intro c hc
    obtain ⟨pc, hpc, rfl⟩ := List.mem_map.mp hc
    rw [neg_length]; exact hlen pc hpc
  apply (subsetB_iff n _ _ hwf hq).mp H1
  show Sat _ x
  rw [Sat_append]
  refine ⟨hx, ?_⟩
  intro c hc
  obtain ⟨pc, hpc, rfl⟩ := List.mem_map.mp hc
  rw [sat_neg_iff]
  intro hs
  exact hno ⟨pc, hpc, (mem_sem_snoc pcs pc.1 x).mpr ⟨hx, hs⟩⟩

/-- what the last two conjuncts of the judge give, whatever the topology -/
theorem diff_core (n : Nat) (pcs qcs r : List Con) (pieces : List (Con × List Gen))
    (hp : WF n pcs) (hq : WF n qcs) (hr : WF n r)
    (H1 : subsetB n (pcs ++ pieces.map (fun pc => pc.1.neg)) qcs = true)
    (H3 : ∀ pc ∈ pieces, pc.1.coeffs.length ≤ n ∧ gensWF n pc.2 = true ∧
      (∃ g ∈ pc.2, g.isPt = true) ∧ checkDD n (pcs ++ [pc.1]) pc.2 = true)
    (H4 : (if pieces.isEmpty = true then isEmptyB n r
      else equivB n r (gensToCons n (hullGens (pieces.map (fun pc => pc.2))))) = true) :
    sem pcs \ sem qcs ⊆ sem r ∧
    ∀ cs : List Con, WF n cs → (∀ pc ∈ pieces, sem (pcs ++ [pc.1]) ⊆ sem cs) → sem r ⊆ sem cs := by
  have hpiece : ∀ pc ∈ pieces, sem (pcs ++ [pc.1]) = GenSem n pc.2 := fun pc hpc =>
    (checkDD_iff_genSem n _ _ (WF_snoc n pcs pc.1 hp (H3 pc hpc).1) (H3 pc hpc).2.1).mp
      (H3 pc hpc).2.2.2
  have hcover := diff_cover n pcs qcs pieces hp hq (fun pc hpc => (H3 pc hpc).1) H1
  by_cases hemp : pieces = []
  · subst hemp
    simp only [List.isEmpty_nil, if_true] at H4
    have hre : sem r = ∅ := (isEmptyB_iff n r hr).mp H4
    refine ⟨?_, fun cs _ _ => by rw [hre]; exact Set.empty_subset _⟩
    rintro x ⟨hx, hxq⟩
    obtain ⟨pc, hpc, _⟩ := hcover x hx hxq
    cases hpc
  · have hne : pieces.isEmpty = false := by
      cases pieces with
      | nil => exact absurd rfl hemp
      | cons _ _ => rfl
    rw [hne] at H4
    simp only [Bool.false_eq_true, if_false] at H4
    set gss := pieces.map (fun pc => pc.2) with hgss
    have hgne : gss ≠ [] := by
      intro h; exact hemp (List.map_eq_nil_iff.mp h)
    have hall : ∀ gs ∈ gss, gensWF n gs = true ∧ ∃ g ∈ gs, g.isPt = true := by
      intro gs hgs
      obtain ⟨pc, hpc, rfl⟩ := List.mem_map.mp hgs
      exact ⟨(H3 pc hpc).2.1, (H3 pc hpc).2.2.1⟩
    obtain ⟨h1, h2, hwH⟩ := hullGens_least n gss hgne hall
    have hre : sem r = GenSem n (hullGens gss) := by
      rw [(equivB_iff n r _ hr (gensToCons_wf n _)).mp H4, sem_gensToCons n _ hwH]
    rw [hre]
    constructor
    · rintro x ⟨hx, hxq⟩
      obtain ⟨pc, hpc, hxp⟩ := hcover x hx hxq
      rw [hpiece pc hpc] at hxp
      exact h1 pc.2 (List.mem_map.mpr ⟨pc, hpc, rfl⟩) hxp
    · intro cs hcs hsub
      apply h2 cs hcs
      intro gs hgs
      obtain ⟨pc, hpc, rfl⟩ := List.mem_map.mp hgs
      rw [← hpiece pc hpc]
      exact hsub pc hpc

end PPLV.Lin.O2

namespace PPLV.Lin
open List

/-- soundness of the judge of `poly_difference_assign`.  NNC: `R` is the least
    polyhedron (closed or not) containing the set difference; C: the least closed one. -/
theorem diffJudge_sound (p q : RefPoly) (pieces : List (Con × List Gen)) (r : List Con)
    (hp : WF p.n p.cs) (hq : WF p.n q.cs) (hr : WF p.n r)
    (h : RefPoly.diffJudge p q pieces r = true) :
    sem p.cs \ sem q.cs ⊆ sem r ∧
    (p.nnc = true →
      ∀ cs : List Con, WF p.n cs → sem p.cs \ sem q.cs ⊆ sem cs → sem r ⊆ sem cs) ∧
    (p.nnc = false →
      ∀ cs : List Con, WF p.n cs → (∀ c ∈ cs, c.strict = false) →
        sem p.cs \ sem q.cs ⊆ sem cs → sem r ⊆ sem cs) := by
  unfold RefPoly.diffJudge at h
  simp only [Bool.and_eq_true, List.all_eq_true, decide_eq_true_eq, List.any_eq_true] at h
  obtain ⟨⟨⟨H1, H2⟩, H3⟩, H4⟩ := h
  have H3' : ∀ pc ∈ pieces, pc.1.coeffs.length ≤ p.n ∧ gensWF p.n pc.2 = true ∧
      (∃ g ∈ pc.2, g.isPt = true) ∧ checkDD p.n (p.cs ++ [pc.1]) pc.2 = true := fun pc hpc =>
    ⟨(H3 pc hpc).1.1.1, (H3 pc hpc).1.1.2, (H3 pc hpc).1.2, (H3 pc hpc).2⟩
  obtain ⟨hA, hB⟩ := O2.diff_core p.n p.cs q.cs r pieces hp hq hr H1 H3' H4
  refine ⟨hA, fun hnnc cs hcs hsub => hB cs hcs fun pc hpc => ?_,
    fun hnnc cs hcs hclosed hsub => hB cs hcs fun pc hpc => ?_⟩
  · -- NNC: the piece lies in `P ∖ Q`
    have hd := H2 pc hpc
    rw [if_pos hnnc] at hd
    have hdis := (disjointB_iff p.n _ _ (O2.WF_snoc p.n p.cs pc.1 hp (H3' pc hpc).1) hq).mp hd
    intro x hx
    refine hsub ⟨((O2.mem_sem_snoc p.cs pc.1 x).mp hx).1, fun hxq => ?_⟩
    have : x ∈ sem (p.cs ++ [pc.1]) ∩ sem q.cs := ⟨hx, hxq⟩
    rw [hdis] at this; exact this
  · -- C: the piece is the closure of the non-empty strict piece, which lies in `P ∖ Q`
    have hd := H2 pc hpc
    rw [if_neg (by rw [hnnc]; exact Bool.false_ne_true)] at hd
    simp only [Bool.and_eq_true, Bool.not_eq_true'] at hd
    obtain ⟨⟨⟨hrs, hpcl⟩, hfeas⟩, hdis⟩ := hd
    have hcl : sem (relax p.cs) ⊆ sem p.cs :=
      (subsetB_iff p.n _ _ (O2.WF_relax p.n p.cs hp) hp).mp hpcl
    have hwfs : WF p.n (p.cs ++ [{ pc.1 with strict := true }]) :=
      O2.WF_snoc p.n p.cs _ hp (H3' pc hpc).1
    have hdis' := (disjointB_iff p.n _ _ hwfs hq).mp hdis
    obtain ⟨x0, hx0⟩ := (feasible_iff p.n _ hwfs).mp hfeas
    have hsp : sem (p.cs ++ [{ pc.1 with strict := true }]) ⊆ sem cs := by
      intro x hx
      refine hsub ⟨((O2.mem_sem_snoc p.cs _ x).mp hx).1, fun hxq => ?_⟩
      have : x ∈ sem (p.cs ++ [{ pc.1 with strict := true }]) ∩ sem q.cs := ⟨hx, hxq⟩
      rw [hdis'] at this; exact this
    have := (closure_least _ ⟨x0, hx0⟩).2 cs hclosed hsp
    rwa [O2.sem_relax_strict_piece p.cs pc.1 hcl hrs] at this

/-! ### congruences -/

/-- meaning of a congruence `e ≡ 0 (mod m)`; `m = 0`: the equality `e = 0` -/
def Cong.holds (c : Cong) (x : Val) : Prop :=
  if c.m = 0 then c.e.val x = 0 else ∃ z : Int, c.e.val x = (c.m : Rat) * z

end PPLV.Lin

namespace PPLV.Lin.O2
open List

theorem Sat_congRows (cgs : List Cong) (x : Val) :
    Sat (congRows cgs) x ↔ ∀ c ∈ cgs,
      Sat (if c.isEq then eqRows c.e.coeffs c.e.k else if c.inconsistent then [falseRow] else []) x := by
  unfold congRows
  rw [Sat_flatMap]

theorem val_noVars (c : Cong) (h : c.noVars = true) (x : Val) : c.e.val x = (c.e.k : Rat) := by
  unfold LinExpr.val
  rw [dot_allZero _ h]; simp

/-- a proper congruence without variables holds iff `m ∣ k` -/
theorem holds_noVars (c : Cong) (hm : c.m ≠ 0) (h : c.noVars = true) (x : Val) :
    c.holds x ↔ c.e.k % c.m = 0 := by
  unfold Cong.holds
  rw [if_neg hm, val_noVars c h]
  constructor
  · rintro ⟨z, hz⟩
    have : c.e.k = c.m * z := by exact_mod_cast hz
    rw [this]; exact Int.mul_emod_right _ _
  · intro hmod
    obtain ⟨z, hz⟩ := Int.dvd_of_emod_eq_zero hmod
    exact ⟨z, by rw [hz]; push_cast; ring⟩

theorem isEq_iff (c : Cong) : c.isEq = true ↔ c.m = 0 := by
  unfold Cong.isEq; exact beq_iff_eq

/-- the rows of one congruence hold whenever the congruence holds -/
theorem rows_of_holds (c : Cong) (x : Val) (h : c.holds x) :
    Sat (if c.isEq then eqRows c.e.coeffs c.e.k else if c.inconsistent then [falseRow] else []) x := by
  by_cases he : c.isEq = true
  · rw [if_pos he, Sat_eqRows]
    have hm := (isEq_iff c).mp he
    unfold Cong.holds at h
    rw [if_pos hm] at h
    exact h
  · rw [if_neg he]
    have hm : c.m ≠ 0 := fun hm => he ((isEq_iff c).mpr hm)
    by_cases hi : c.inconsistent = true
    · exfalso
      unfold Cong.inconsistent at hi
      simp only [Bool.and_eq_true, bne_iff_ne, ne_eq] at hi
      exact hi.2 ((holds_noVars c hm hi.1.2 x).mp h)
    · rw [if_neg hi]
      intro d hd; cases hd

/-- conversely for a congruence that is an equality or has no variables -/
theorem holds_of_rows (c : Cong) (x : Val) (hnt : c.nonTrivialProper = false)
    (h : Sat (if c.isEq then eqRows c.e.coeffs c.e.k
      else if c.inconsistent then [falseRow] else []) x) : c.holds x := by
  by_cases he : c.isEq = true
  · rw [if_pos he, Sat_eqRows] at h
    have hm := (isEq_iff c).mp he
    unfold Cong.holds
    rw [if_pos hm]
    exact h
  · rw [if_neg he] at h
    have hm : c.m ≠ 0 := fun hm => he ((isEq_iff c).mpr hm)
    have hnv : c.noVars = true := by
      unfold Cong.nonTrivialProper at hnt
      cases hv : c.noVars
      · rw [hv] at hnt
        simp only [Bool.not_eq_true] at he
        rw [he] at hnt
        cases hnt
      · rfl
    by_cases hi : c.inconsistent = true
    · rw [if_pos hi] at h
      exact absurd (h falseRow (by simp)) (not_sat_falseRow x)
    · rw [holds_noVars c hm hnv x]
      unfold Cong.inconsistent at hi
      simp only [Bool.not_eq_true] at he
      rw [he, hnv] at hi
      simpa using hi

end PPLV.Lin.O2

namespace PPLV.Lin
open List

/-- `add_congruences` / the representable part of a congruence system.
    (i) a point of `P` satisfying every congruence stays; (ii) the result is a subset of `P`;
    (iii) when no congruence is proper and non-trivial, the result is exactly
    `P ∩ {x | every congruence holds}`. -/
theorem addCongs_spec (p : RefPoly) (cgs : List Cong) :
    (∀ x ∈ sem p.cs, (∀ c ∈ cgs, c.holds x) → x ∈ sem (p.addCongs cgs).cs) ∧
    sem (p.addCongs cgs).cs ⊆ sem p.cs ∧
    ((∀ c ∈ cgs, c.nonTrivialProper = false) →
      sem (p.addCongs cgs).cs = {x | x ∈ sem p.cs ∧ ∀ c ∈ cgs, c.holds x}) := by
  have hsem : sem (p.addCongs cgs).cs = sem p.cs ∩ sem (congRows cgs) := sem_append _ _
  rw [hsem]
  refine ⟨fun x hx hc => ⟨hx, ?_⟩, Set.inter_subset_left, fun hnt => ?_⟩
  · exact (O2.Sat_congRows cgs x).mpr fun c hcm => O2.rows_of_holds c x (hc c hcm)
  · ext x
    constructor
    · rintro ⟨hx, hrows⟩
      exact ⟨hx, fun c hcm =>
        O2.holds_of_rows c x (hnt c hcm) ((O2.Sat_congRows cgs x).mp hrows c hcm)⟩
    · rintro ⟨hx, hc⟩
      exact ⟨hx, (O2.Sat_congRows cgs x).mpr fun c hcm => O2.rows_of_holds c x (hc c hcm)⟩

end PPLV.Lin

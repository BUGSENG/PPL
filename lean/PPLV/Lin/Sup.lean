import PPLV.Lin.Project

/-! # K1 theorems: supremum of a linear expression over `sem cs` -/
namespace PPLV.Lin
open List

/-! ### the one-variable system describing the values of `e·x + k` -/

theorem supSystem_sat (e : List Int) (k : Int) (cs : List Con) (w : Val) :
    Sat (supSystem e k cs) w ↔ w 0 = dot e w.tail + (k : Rat) ∧ Sat cs w.tail := by
  unfold supSystem
  rw [Sat_append, Sat_eqRows, Sat_map_shift, dot_cons, dot_map_neg]
  refine and_congr ?_ Iff.rfl
  push_cast
  constructor <;> intro h <;> linarith

theorem supSystem_wf (n : Nat) (e : List Int) (k : Int) (cs : List Con) (hwf : WF n cs)
    (he : e.length ≤ n) : WF (n + 1) (supSystem e k cs) := by
  intro c hc
  unfold supSystem at hc
  simp only [List.mem_append, eqRows, List.mem_cons, List.not_mem_nil, or_false, List.mem_map] at hc
  rcases hc with (rfl | rfl) | ⟨d, hd, rfl⟩
  · simp; omega
  · simp; omega
  · have := hwf d hd
    simp [Con.shift]; omega

/-- the rows computed by `supB` describe exactly the values taken by `e·x + k` on `sem cs` -/
theorem supRows_sat (n : Nat) (e : List Int) (k : Int) (cs : List Con) (hwf : WF n cs)
    (he : e.length ≤ n) (w : Val) :
    Sat (projectTo 1 (n + 1) (supSystem e k cs)) w ↔ ∃ x ∈ sem cs, w 0 = dot e x + (k : Rat) := by
  rw [projectTo_spec 1 (n + 1) _ (supSystem_wf n e k cs hwf he) (by omega)]
  constructor
  · rintro ⟨w', h0, hs⟩
    obtain ⟨h1, h2⟩ := (supSystem_sat e k cs w').mp hs
    exact ⟨w'.tail, h2, by rw [← h0 0 (by omega)]; exact h1⟩
  · rintro ⟨x, hx, h0⟩
    let w' : Val := fun j => if j = 0 then w 0 else x (j - 1)
    have ht : w'.tail = x := by funext j; simp [w', Val.tail]
    refine ⟨w', fun j hj => by have : j = 0 := by omega
                               simp [w', this], ?_⟩
    rw [supSystem_sat, ht]
    exact ⟨by simpa [w'] using h0, hx⟩

/-! ### rows over one variable -/

theorem eval_oneVar (c : Con) (h : c.coeffs.length ≤ 1) (w : Val) :
    c.eval w = (c.at 0 : Rat) * w 0 + (c.k : Rat) := by
  unfold Con.eval Con.at
  rcases hc : c.coeffs with _ | ⟨a, _ | ⟨b, l⟩⟩
  · simp
  · simp
  · rw [hc] at h; simp at h

/-- the bound `k / (-a)` of an upper row `a t + k ≥ 0`, `a < 0` -/
noncomputable def ub (c : Con) : Rat := (c.k : Rat) / (-(c.at 0 : Rat))

theorem sat_upper (c : Con) (h : c.coeffs.length ≤ 1) (ha : c.at 0 < 0) (w : Val) :
    c.sat w ↔ (if c.strict then w 0 < ub c else w 0 ≤ ub c) := by
  have ha' : (0 : Rat) < -(c.at 0 : Rat) := by
    have : ((c.at 0 : Int) : Rat) < 0 := by exact_mod_cast ha
    linarith
  unfold Con.sat ub
  rw [eval_oneVar c h]
  split
  · rw [lt_div_iff₀ ha']; constructor <;> intro h <;> linarith
  · rw [le_div_iff₀ ha']; constructor <;> intro h <;> linarith

/-- moving up from a solution keeps every row that is not an upper bound -/
theorem sat_nonupper_mono (c : Con) (h : c.coeffs.length ≤ 1) (ha : 0 ≤ c.at 0) (w w' : Val)
    (hle : w 0 ≤ w' 0) (hs : c.sat w) : c.sat w' := by
  have ha' : (0 : Rat) ≤ (c.at 0 : Rat) := by exact_mod_cast ha
  unfold Con.sat at hs ⊢
  rw [eval_oneVar c h] at hs ⊢
  have : (c.at 0 : Rat) * w 0 ≤ (c.at 0 : Rat) * w' 0 := mul_le_mul_of_nonneg_left hle ha'
  split at hs <;> rename_i hst <;> simp only [hst, if_true, Bool.false_eq_true, if_false] <;> linarith

theorem Sat_up (rows : List Con) (h1 : WF 1 rows) (w w' : Val) (hs : Sat rows w) (hle : w 0 ≤ w' 0)
    (hub : ∀ c ∈ rows, c.at 0 < 0 → (if c.strict then w' 0 < ub c else w' 0 ≤ ub c)) :
    Sat rows w' := by
  intro c hc
  by_cases ha : c.at 0 < 0
  · exact (sat_upper c (h1 c hc) ha w').mpr (hub c hc ha)
  · exact sat_nonupper_mono c (h1 c hc) (not_lt.mp ha) w w' hle (hs c hc)

/-! ### `minUpper` -/

theorem minUpper_cons_nonneg (c : Con) (cs : List Con) (h : ¬ c.at 0 < 0) :
    minUpper (c :: cs) = minUpper cs := by
  simp [minUpper, h]

theorem minUpper_cons_none (c : Con) (cs : List Con) (h : c.at 0 < 0) (hr : minUpper cs = none) :
    minUpper (c :: cs) = some (c.k, -(c.at 0), c.strict) := by
  simp [minUpper, h, hr]

theorem minUpper_cons_some (c : Con) (cs : List Con) (p q : Int) (s : Bool) (h : c.at 0 < 0)
    (hr : minUpper cs = some (p, q, s)) :
    minUpper (c :: cs) =
      if c.k * q < p * (-(c.at 0)) then some (c.k, -(c.at 0), c.strict)
      else if c.k * q = p * (-(c.at 0)) then some (p, q, s || c.strict)
      else some (p, q, s) := by
  simp [minUpper, h, hr]

theorem minUpper_none (rows : List Con) (h : minUpper rows = none) : ∀ c ∈ rows, 0 ≤ c.at 0 := by
  induction rows with
  | nil => intro c hc; cases hc
  | cons c cs ih =>
    by_cases ha : c.at 0 < 0
    · cases hr : minUpper cs with
      | none => rw [minUpper_cons_none c cs ha hr] at h; cases h
      | some v =>
        obtain ⟨p, q, s⟩ := v
        rw [minUpper_cons_some c cs p q s ha hr] at h
        split at h
        · cases h
        · split at h <;> cases h
    · rw [minUpper_cons_nonneg c cs ha] at h
      intro d hd
      rcases List.mem_cons.mp hd with rfl | hd
      · exact not_lt.mp ha
      · exact ih h d hd

/-- what `minUpper` returns: the least upper-row bound, and whether a strict row attains it -/
structure MinSpec (rows : List Con) (p q : Int) (s : Bool) : Prop where
  qpos : 0 < q
  le : ∀ c ∈ rows, c.at 0 < 0 → (p : Rat) / (q : Rat) ≤ ub c
  att : ∃ c ∈ rows, c.at 0 < 0 ∧ ub c = (p : Rat) / (q : Rat)
  strict_iff : s = true ↔ ∃ c ∈ rows, c.at 0 < 0 ∧ ub c = (p : Rat) / (q : Rat) ∧ c.strict = true

theorem ub_eq (c : Con) : ub c = ((c.k : Int) : Rat) / ((-(c.at 0) : Int) : Rat) := by
  unfold ub; push_cast; rfl

theorem MinSpec_single (c : Con) (cs : List Con) (ha : c.at 0 < 0) (hcs : ∀ d ∈ cs, 0 ≤ d.at 0) :
    MinSpec (c :: cs) c.k (-(c.at 0)) c.strict := by
  have hnot : ∀ d ∈ cs, ¬ d.at 0 < 0 := fun d hd => not_lt.mpr (hcs d hd)
  refine ⟨by omega, ?_, ⟨c, by simp, ha, ub_eq c⟩, ?_⟩
  · intro d hd hda
    rcases List.mem_cons.mp hd with rfl | hd
    · rw [ub_eq]
    · exact absurd hda (hnot d hd)
  · constructor
    · intro hs; exact ⟨c, by simp, ha, ub_eq c, hs⟩
    · rintro ⟨d, hd, hda, -, hds⟩
      rcases List.mem_cons.mp hd with rfl | hd
      · exact hds
      · exact absurd hda (hnot d hd)

theorem MinSpec_lt (c : Con) (cs : List Con) (p q : Int) (s : Bool) (ha : c.at 0 < 0)
    (ih : MinSpec cs p q s) (hlt : ub c < (p : Rat) / (q : Rat)) :
    MinSpec (c :: cs) c.k (-(c.at 0)) c.strict := by
  refine ⟨by omega, ?_, ⟨c, by simp, ha, ub_eq c⟩, ?_⟩
  · intro d hd hda
    rw [← ub_eq]
    rcases List.mem_cons.mp hd with rfl | hd
    · exact le_refl _
    · exact le_of_lt (lt_of_lt_of_le hlt (ih.le d hd hda))
  · rw [← ub_eq]
    constructor
    · intro hs; exact ⟨c, by simp, ha, rfl, hs⟩
    · rintro ⟨d, hd, hda, hde, hds⟩
      rcases List.mem_cons.mp hd with rfl | hd
      · exact hds
      · have := ih.le d hd hda
        rw [hde] at this
        exact absurd hlt (not_lt.mpr this)

theorem MinSpec_eq (c : Con) (cs : List Con) (p q : Int) (s : Bool) (ha : c.at 0 < 0)
    (ih : MinSpec cs p q s) (heq : ub c = (p : Rat) / (q : Rat)) :
    MinSpec (c :: cs) p q (s || c.strict) := by
  refine ⟨ih.qpos, ?_, ⟨c, by simp, ha, heq⟩, ?_⟩
  · intro d hd hda
    rcases List.mem_cons.mp hd with rfl | hd
    · exact le_of_eq heq.symm
    · exact ih.le d hd hda
  · rw [Bool.or_eq_true, ih.strict_iff]
    constructor
    · rintro (⟨d, hd, h⟩ | hs)
      · exact ⟨d, List.mem_cons_of_mem _ hd, h⟩
      · exact ⟨c, by simp, ha, heq, hs⟩
    · rintro ⟨d, hd, hda, hde, hds⟩
      rcases List.mem_cons.mp hd with rfl | hd
      · exact Or.inr hds
      · exact Or.inl ⟨d, hd, hda, hde, hds⟩

theorem MinSpec_gt (c : Con) (cs : List Con) (p q : Int) (s : Bool)
    (ih : MinSpec cs p q s) (hgt : c.at 0 < 0 → (p : Rat) / (q : Rat) < ub c) :
    MinSpec (c :: cs) p q s := by
  obtain ⟨d0, hd0, h0⟩ := ih.att
  refine ⟨ih.qpos, ?_, ⟨d0, List.mem_cons_of_mem _ hd0, h0⟩, ?_⟩
  · intro d hd hda
    rcases List.mem_cons.mp hd with rfl | hd
    · exact le_of_lt (hgt hda)
    · exact ih.le d hd hda
  · rw [ih.strict_iff]
    constructor
    · rintro ⟨d, hd, h⟩; exact ⟨d, List.mem_cons_of_mem _ hd, h⟩
    · rintro ⟨d, hd, hda, hde, hds⟩
      rcases List.mem_cons.mp hd with rfl | hd
      · exact absurd hde (ne_of_gt (hgt hda))
      · exact ⟨d, hd, hda, hde, hds⟩

theorem ub_cmp (c : Con) (p q : Int) (ha : c.at 0 < 0) (hq : 0 < q) :
    (c.k * q < p * (-(c.at 0)) ↔ ub c < (p : Rat) / (q : Rat)) ∧
    (c.k * q = p * (-(c.at 0)) ↔ ub c = (p : Rat) / (q : Rat)) := by
  have ha' : (0 : Rat) < ((-(c.at 0) : Int) : Rat) := by exact_mod_cast (by omega : 0 < -(c.at 0))
  have hq' : (0 : Rat) < (q : Rat) := by exact_mod_cast hq
  rw [ub_eq, div_lt_div_iff₀ ha' hq', div_eq_div_iff (ne_of_gt ha') (ne_of_gt hq')]
  constructor
  · constructor <;> intro h <;> exact_mod_cast h
  · constructor <;> intro h <;> exact_mod_cast h

theorem minUpper_some (rows : List Con) (p q : Int) (s : Bool)
    (h : minUpper rows = some (p, q, s)) : MinSpec rows p q s := by
  induction rows generalizing p q s with
  | nil => cases h
  | cons c cs ih =>
    by_cases ha : c.at 0 < 0
    · cases hr : minUpper cs with
      | none =>
        rw [minUpper_cons_none c cs ha hr] at h
        cases h
        exact MinSpec_single c cs ha (minUpper_none cs hr)
      | some v =>
        obtain ⟨p', q', s'⟩ := v
        have ih' := ih p' q' s' hr
        obtain ⟨hc1, hc2⟩ := ub_cmp c p' q' ha ih'.qpos
        rw [minUpper_cons_some c cs p' q' s' ha hr] at h
        split at h
        · rename_i hlt
          cases h
          exact MinSpec_lt c cs p' q' s' ha ih' (hc1.mp hlt)
        · rename_i hnlt
          split at h
          · rename_i heq
            cases h
            exact MinSpec_eq c cs p q s' ha ih' (hc2.mp heq)
          · rename_i hne
            cases h
            refine MinSpec_gt c cs p q s ih' fun _ => ?_
            rcases lt_trichotomy (ub c) ((p : Rat) / (q : Rat)) with h1 | h1 | h1
            · exact absurd (hc1.mpr h1) hnlt
            · exact absurd (hc2.mpr h1) hne
            · exact h1
    · rw [minUpper_cons_nonneg c cs ha] at h
      exact MinSpec_gt c cs p q s (ih p q s h) fun h' => absurd h' ha

/-! ### the specification of `supB` -/

/-- `supB` with the certificate search of `feasible` left out (`feasible_projectTo`): the form
    to evaluate on closed terms -/
def supFM (n : Nat) (e : List Int) (k : Int) (cs : List Con) : Sup :=
  let rows := projectTo 1 (n + 1) (supSystem e k cs)
  if !feasibleFM 1 rows then .empty
  else match minUpper rows with
    | none => .unbounded
    | some (p, q, s) => .val p q (!s)

theorem supB_eq_supFM (n : Nat) (e : List Int) (k : Int) (cs : List Con) :
    supB n e k cs = supFM n e k cs := by
  rw [supB, feasible_projectTo]; rfl

theorem supB_cases (n : Nat) (e : List Int) (k : Int) (cs : List Con) :
    let rows := projectTo 1 (n + 1) (supSystem e k cs)
    (feasible 1 rows = false ∧ supB n e k cs = .empty) ∨
    (feasible 1 rows = true ∧ minUpper rows = none ∧ supB n e k cs = .unbounded) ∨
    (∃ p q s, feasible 1 rows = true ∧ minUpper rows = some (p, q, s) ∧
      supB n e k cs = .val p q (!s)) := by
  intro rows
  unfold supB
  cases hf : feasible 1 (projectTo 1 (n + 1) (supSystem e k cs))
  · left; simp [hf]
  · right
    cases hm : minUpper (projectTo 1 (n + 1) (supSystem e k cs)) with
    | none => left; simp [hf, hm]
    | some v => obtain ⟨p, q, s⟩ := v; right; exact ⟨p, q, s, by simp [hf, hm]⟩

/-- **Supremum**: `supB` classifies `sup {e·x + k | x ∈ sem cs}` — empty set, unbounded, or the
    exact rational value together with whether it is attained. -/
theorem supB_spec (n : Nat) (e : List Int) (k : Int) (cs : List Con) (hwf : WF n cs) (he : e.length ≤ n) :
    match supB n e k cs with
    | .empty => sem cs = ∅
    | .unbounded => (∃ x, x ∈ sem cs) ∧ ∀ M : Rat, ∃ x ∈ sem cs, M < dot e x + k
    | .val p q att => 0 < q ∧ (∀ x ∈ sem cs, dot e x + k ≤ (p:Rat)/q) ∧
        (att = true → ∃ x ∈ sem cs, dot e x + k = (p:Rat)/q) ∧
        (att = false → (∀ x ∈ sem cs, dot e x + k < (p:Rat)/q) ∧
          ∀ ε : Rat, 0 < ε → ∃ x ∈ sem cs, (p:Rat)/q - ε < dot e x + k) := by
  have hrows := supRows_sat n e k cs hwf he
  have h1 : WF 1 (projectTo 1 (n + 1) (supSystem e k cs)) := projectTo_wf _ _ _
  have hfeas := feasible_iff 1 _ h1
  -- every value of the objective is a solution of the rows
  have hval : ∀ x ∈ sem cs, Sat (projectTo 1 (n + 1) (supSystem e k cs)) (fun _ => dot e x + k) :=
    fun x hx => (hrows _).mpr ⟨x, hx, rfl⟩
  rcases supB_cases n e k cs with ⟨hf, hs⟩ | ⟨hf, hm, hs⟩ | ⟨p, q, s, hf, hm, hs⟩
  · rw [hs]
    show sem cs = ∅
    rw [Set.eq_empty_iff_forall_notMem]
    intro x hx
    have : feasible 1 (projectTo 1 (n + 1) (supSystem e k cs)) = true := hfeas.mpr ⟨_, hval x hx⟩
    rw [hf] at this; cases this
  · rw [hs]
    show (∃ x, x ∈ sem cs) ∧ ∀ M : Rat, ∃ x ∈ sem cs, M < dot e x + k
    obtain ⟨w0, hw0⟩ := hfeas.mp hf
    obtain ⟨x0, hx0, -⟩ := (hrows w0).mp hw0
    refine ⟨⟨x0, hx0⟩, fun M => ?_⟩
    have hnn := minUpper_none _ hm
    have := Sat_up _ h1 w0 (fun _ => max (w0 0) (M + 1)) hw0 (le_max_left _ _)
      (fun c hc ha => absurd ha (not_lt.mpr (hnn c hc)))
    obtain ⟨x, hx, hxe⟩ := (hrows _).mp this
    refine ⟨x, hx, ?_⟩
    have h2 : M + 1 ≤ max (w0 0) (M + 1) := le_max_right _ _
    linarith
  · rw [hs]
    have hspec := minUpper_some _ p q s hm
    obtain ⟨w0, hw0⟩ := hfeas.mp hf
    obtain ⟨cm, hcm, hcma, hcme⟩ := hspec.att
    -- every value is below the bound
    have hle : ∀ x ∈ sem cs, dot e x + k ≤ (p:Rat)/q := by
      intro x hx
      have := (sat_upper cm (h1 cm hcm) hcma _).mp (hval x hx cm hcm)
      rw [hcme] at this
      split at this
      · exact le_of_lt this
      · exact this
    have hw0le : w0 0 ≤ (p:Rat)/q := by
      obtain ⟨x, hx, hxe⟩ := (hrows w0).mp hw0
      rw [hxe]; exact hle x hx
    show 0 < q ∧ (∀ x ∈ sem cs, dot e x + k ≤ (p:Rat)/q) ∧
        ((!s) = true → ∃ x ∈ sem cs, dot e x + k = (p:Rat)/q) ∧
        ((!s) = false → (∀ x ∈ sem cs, dot e x + k < (p:Rat)/q) ∧
          ∀ ε : Rat, 0 < ε → ∃ x ∈ sem cs, (p:Rat)/q - ε < dot e x + k)
    refine ⟨hspec.qpos, hle, ?_, ?_⟩
    · intro hatt
      have hsf : ¬ s = true := by simpa using hatt
      have := Sat_up _ h1 w0 (fun _ => (p:Rat)/q) hw0 hw0le (fun c hc ha => by
        have hle' := hspec.le c hc ha
        by_cases hst : c.strict = true
        · simp only [hst, if_true]
          rcases lt_or_eq_of_le hle' with h | h
          · exact h
          · exact absurd (hspec.strict_iff.mpr ⟨c, hc, ha, h.symm, hst⟩) hsf
        · simp only [hst, Bool.false_eq_true, if_false]; exact hle')
      obtain ⟨x, hx, hxe⟩ := (hrows _).mp this
      exact ⟨x, hx, hxe.symm⟩
    · intro hatt
      have hst : s = true := by simpa using hatt
      obtain ⟨cst, hcst, hcsta, hcste, hcsts⟩ := hspec.strict_iff.mp hst
      have hlt : ∀ x ∈ sem cs, dot e x + k < (p:Rat)/q := by
        intro x hx
        have := (sat_upper cst (h1 cst hcst) hcsta _).mp (hval x hx cst hcst)
        rw [hcste] at this
        simpa only [hcsts, if_true] using this
      have hw0lt : w0 0 < (p:Rat)/q := by
        obtain ⟨x, hx, hxe⟩ := (hrows w0).mp hw0
        rw [hxe]; exact hlt x hx
      refine ⟨hlt, fun ε hε => ?_⟩
      have hmax : max (w0 0) ((p:Rat)/q - ε/2) < (p:Rat)/q := max_lt hw0lt (by linarith)
      have := Sat_up _ h1 w0 (fun _ => max (w0 0) ((p:Rat)/q - ε/2)) hw0 (le_max_left _ _)
        (fun c hc ha => by
          have hle' := hspec.le c hc ha
          have : max (w0 0) ((p:Rat)/q - ε/2) < ub c := lt_of_lt_of_le hmax hle'
          split
          · exact this
          · exact le_of_lt this)
      obtain ⟨x, hx, hxe⟩ := (hrows _).mp this
      refine ⟨x, hx, ?_⟩
      have h2 : (p:Rat)/q - ε/2 ≤ max (w0 0) ((p:Rat)/q - ε/2) := le_max_right _ _
      linarith

end PPLV.Lin

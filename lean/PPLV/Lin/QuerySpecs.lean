import PPLV.Lin.OpSpecs
import PPLV.Lin.Segment
import PPLV.Lin.Ops2

/-! # K1 theorems: the query oracles of `Ops.lean` / `Ops2.lean`

`is_bounded`, `constrains`, `relation_with(generator)`.  (`affine_dimension`: `QueryDim.lean`;
`relation_with(congruence)`: `QueryCong.lean`.) -/
namespace PPLV.Lin
open List

/-! ## `is_bounded` -/

theorem exists_uniform_bound (n : Nat) (P : Nat → Rat → Prop)
    (mono : ∀ i M M', P i M → M ≤ M' → P i M') (h : ∀ i < n, ∃ M, P i M) :
    ∃ M, ∀ i < n, P i M := by
  induction n with
  | zero => exact ⟨0, fun i hi => absurd hi (Nat.not_lt_zero i)⟩
  | succ n ih =>
    obtain ⟨M1, h1⟩ := ih fun i hi => h i (Nat.lt_succ_of_lt hi)
    obtain ⟨M2, h2⟩ := h n (Nat.lt_succ_self n)
    refine ⟨max M1 M2, fun i hi => ?_⟩
    rcases Nat.lt_succ_iff_lt_or_eq.mp hi with hlt | heq
    · exact mono i M1 _ (h1 i hlt) (le_max_left _ _)
    · subst heq; exact mono i M2 _ h2 (le_max_right _ _)

/-- on a non-empty set, `coordBounded i` says exactly that coordinate `i` is bounded -/
theorem coordBounded_iff (p : RefPoly) (hp : WF p.n p.cs) (i : Nat) (hi : i < p.n)
    (hne : ∃ x, x ∈ sem p.cs) :
    p.coordBounded i = true ↔ ∃ M : Rat, ∀ x ∈ sem p.cs, |x i| ≤ M := by
  have hlen : ∀ a : Int, (unitRow i a).length ≤ p.n := fun a => by rw [unitRow_length]; omega
  have h1 := supB_spec p.n (unitRow i 1) 0 p.cs hp (hlen 1)
  have h2 := supB_spec p.n (unitRow i (-1)) 0 p.cs hp (hlen (-1))
  obtain ⟨x0, hx0⟩ := hne
  have hnonempty : sem p.cs ≠ ∅ := fun h => by rw [h] at hx0; exact hx0
  unfold RefPoly.coordBounded
  rw [Bool.and_eq_true]
  constructor
  · rintro ⟨ha, hb⟩
    cases hs1 : supB p.n (unitRow i 1) 0 p.cs with
    | empty => rw [hs1] at h1; exact absurd h1 hnonempty
    | unbounded => rw [hs1] at ha; cases ha
    | val a b att =>
      cases hs2 : supB p.n (unitRow i (-1)) 0 p.cs with
      | empty => rw [hs2] at h2; exact absurd h2 hnonempty
      | unbounded => rw [hs2] at hb; cases hb
      | val c d att2 =>
        rw [hs1] at h1; rw [hs2] at h2
        obtain ⟨-, hup, -⟩ := h1
        obtain ⟨-, hlo, -⟩ := h2
        refine ⟨max ((a : Rat) / b) ((c : Rat) / d), fun x hx => ?_⟩
        have e1 := hup x hx
        have e2 := hlo x hx
        rw [dot_unitRow] at e1 e2
        push_cast at e1 e2
        rw [abs_le]
        constructor
        · have := le_max_right ((a : Rat) / b) ((c : Rat) / d); linarith
        · have := le_max_left ((a : Rat) / b) ((c : Rat) / d); linarith
  · rintro ⟨M, hM⟩
    constructor
    · cases hs1 : supB p.n (unitRow i 1) 0 p.cs with
      | unbounded =>
        rw [hs1] at h1
        obtain ⟨x, hx, hlt⟩ := h1.2 M
        rw [dot_unitRow] at hlt; push_cast at hlt
        have := (abs_le.mp (hM x hx)).2
        linarith
      | empty => rfl
      | val a b att => rfl
    · cases hs2 : supB p.n (unitRow i (-1)) 0 p.cs with
      | unbounded =>
        rw [hs2] at h2
        obtain ⟨x, hx, hlt⟩ := h2.2 M
        rw [dot_unitRow] at hlt; push_cast at hlt
        have := (abs_le.mp (hM x hx)).1
        linarith
      | empty => rfl
      | val a b att => rfl

/-- **`is_bounded()`**: the oracle answers `true` iff the set is empty or bounded (every
    coordinate `< n` stays within one common bound). -/
theorem isBounded_iff (p : RefPoly) (hp : WF p.n p.cs) :
    p.isBounded = true ↔ sem p.cs = ∅ ∨ ∃ M : Rat, ∀ x ∈ sem p.cs, ∀ i < p.n, |x i| ≤ M := by
  unfold RefPoly.isBounded
  rw [Bool.or_eq_true]
  have hE : p.isEmpty = true ↔ sem p.cs = ∅ := isEmptyB_iff p.n p.cs hp
  by_cases hempty : sem p.cs = ∅
  · exact ⟨fun _ => Or.inl hempty, fun _ => Or.inl (hE.mpr hempty)⟩
  · have hne : ∃ x, x ∈ sem p.cs := Set.nonempty_iff_ne_empty.mpr hempty
    simp only [List.all_eq_true, List.mem_range]
    constructor
    · rintro (h | h)
      · exact absurd (hE.mp h) hempty
      · right
        have := exists_uniform_bound p.n (fun i M => ∀ x ∈ sem p.cs, |x i| ≤ M)
          (fun i M M' hP hle x hx => le_trans (hP x hx) hle)
          (fun i hi => (coordBounded_iff p hp i hi hne).mp (h i hi))
        obtain ⟨M, hM⟩ := this
        exact ⟨M, fun x hx i hi => hM i hi x hx⟩
    · rintro (h | ⟨M, hM⟩)
      · exact absurd h hempty
      · right
        intro i hi
        exact (coordBounded_iff p hp i hi hne).mpr ⟨M, fun x hx => hM x hx i hi⟩

/-! ## `constrains` -/

theorem sem_subset_unconstrain (p : RefPoly) (vs : List Nat) (hp : WF p.n p.cs) :
    sem p.cs ⊆ sem (p.unconstrain vs).cs := fun x hx =>
  (unconstrain_spec p vs hp x).mpr ⟨x, hx, fun _ _ _ => rfl⟩

/-- **`constrains(v)`**: `true` iff the set is empty or cylindrification along `v` changes it. -/
theorem constrains_iff (p : RefPoly) (v : Nat) (hp : WF p.n p.cs) :
    p.constrains v = true ↔ sem p.cs = ∅ ∨ sem (p.unconstrain [v]).cs ≠ sem p.cs := by
  have hwfU : WF p.n (p.unconstrain [v]).cs := relImage_wf p.n p _
  unfold RefPoly.constrains
  rw [Bool.or_eq_true, Bool.not_eq_true', ← Bool.not_eq_true,
    subsetB_iff p.n (p.unconstrain [v]).cs p.cs hwfU hp]
  have hE : p.isEmpty = true ↔ sem p.cs = ∅ := isEmptyB_iff p.n p.cs hp
  rw [hE]
  refine or_congr Iff.rfl (not_congr ?_)
  exact ⟨fun h => Set.Subset.antisymm h (sem_subset_unconstrain p [v] hp), fun h => h ▸ subset_rfl⟩

/-- the same, pointwise: some point of the set leaves it when coordinate `v` is changed -/
theorem constrains_iff_update (p : RefPoly) (v : Nat) (hp : WF p.n p.cs) :
    p.constrains v = true ↔
      sem p.cs = ∅ ∨ ∃ x ∈ sem p.cs, ∃ t : Rat, x.update v t ∉ sem p.cs := by
  rw [constrains_iff p v hp]
  refine or_congr Iff.rfl ?_
  constructor
  · intro hne
    by_contra hall
    apply hne
    refine Set.Subset.antisymm (fun w hw => ?_) (sem_subset_unconstrain p [v] hp)
    obtain ⟨x, hx, hag⟩ := (unconstrain_spec p [v] hp w).mp hw
    by_contra hw'
    apply hall
    refine ⟨x, hx, w v, fun hmem => hw' ?_⟩
    refine sem_cylinder p.n p.cs hp w _ hmem fun i hi => ?_
    by_cases hiv : i = v
    · subst hiv; simp [Val.update]
    · simp only [Val.update, hiv, if_false]
      exact (hag i hi (by simpa using hiv)).symm
  · rintro ⟨x, hx, t, hout⟩ heq
    apply hout
    rw [← heq]
    refine (unconstrain_spec p [v] hp _).mpr ⟨x, hx, fun j _ hj => ?_⟩
    have : j ≠ v := by simpa using hj
    simp [Val.update, this]

/-! ## `relation_with(generator)` -/

/-- the direction denoted by a ray / line: integer coordinates, `0` beyond the list -/
def dirVec (dir : List Int) : Val := fun i => ((dir.getD i 0 : Int) : Rat)

/-- `x + t·dir` -/
def Val.move (x : Val) (t : Rat) (dir : List Int) : Val := fun i => x i + t * dirVec dir i

theorem ratPoint_one (dir : List Int) : ratPoint dir 1 = dirVec dir := by
  funext i; simp [ratPoint, dirVec]

theorem eval_move (c : Con) (x : Val) (t : Rat) (dir : List Int) :
    c.eval (x.move t dir) = c.eval x + t * dot c.coeffs (dirVec dir) := by
  have := eval_lin c c.coeffs.length (le_refl _) 1 t x (dirVec dir) (x.move t dir)
    (fun i _ => by simp [Val.move])
  rw [this]; ring

theorem hasRay_iff_dots (p : RefPoly) (dir : List Int) :
    p.hasRay dir = true ↔ ∀ c ∈ p.cs, 0 ≤ dot c.coeffs (dirVec dir) := by
  unfold RefPoly.hasRay relax
  rw [List.all_map, List.all_eq_true]
  refine forall_congr' fun c => imp_congr_right fun _ => ?_
  simp only [Function.comp]
  rw [holdsAt_iff _ dir 1 Int.one_pos, ratPoint_one]
  simp [Con.sat, Con.eval]

/-- **rays**: `hasRay dir` says that the non-empty set is closed under translation by every
    non-negative multiple of `dir` (strict rows included: the recession cone of a non-empty NNC
    polyhedron is that of its closure). -/
theorem hasRay_iff (p : RefPoly) (dir : List Int) (hne : ∃ x, x ∈ sem p.cs) :
    p.hasRay dir = true ↔ ∀ x ∈ sem p.cs, ∀ t : Rat, 0 ≤ t → x.move t dir ∈ sem p.cs := by
  rw [hasRay_iff_dots]
  constructor
  · intro h x hx t ht c hc
    have h1 := hx c hc
    have h2 : 0 ≤ t * dot c.coeffs (dirVec dir) := mul_nonneg ht (h c hc)
    unfold Con.sat at h1 ⊢
    rw [eval_move]
    split at h1 <;> rename_i hs <;> simp only [hs, if_true, Bool.false_eq_true, if_false] <;> linarith
  · intro h c hc
    obtain ⟨x0, hx0⟩ := hne
    refine ray_argument (c.eval x0) _ fun t ht => ?_
    have := sat_nonneg c _ (h x0 hx0 t ht c hc)
    rwa [eval_move] at this

theorem dirVec_neg (dir : List Int) (i : Nat) : dirVec (dir.map (- ·)) i = - dirVec dir i := by
  unfold dirVec
  by_cases h : i < dir.length
  · simp [List.getD_eq_getElem?_getD, h]
  · simp [List.getD_eq_getElem?_getD, List.getElem?_eq_none (Nat.le_of_not_lt h)]

theorem move_neg (x : Val) (t : Rat) (dir : List Int) :
    x.move t (dir.map (- ·)) = x.move (-t) dir := by
  funext i; simp only [Val.move, dirVec_neg]; ring

/-- **lines**: both directions belong to the recession cone iff the set is closed under every
    translation along `dir` -/
theorem hasLine_iff (p : RefPoly) (dir : List Int) (hne : ∃ x, x ∈ sem p.cs) :
    (p.hasRay dir && p.hasRay (dir.map (- ·))) = true ↔
      ∀ x ∈ sem p.cs, ∀ t : Rat, x.move t dir ∈ sem p.cs := by
  rw [Bool.and_eq_true, hasRay_iff p dir hne, hasRay_iff p _ hne]
  constructor
  · rintro ⟨h1, h2⟩ x hx t
    rcases le_total 0 t with ht | ht
    · exact h1 x hx t ht
    · have := h2 x hx (-t) (by linarith)
      rwa [move_neg, neg_neg] at this
  · intro h
    exact ⟨fun x hx t _ => h x hx t, fun x hx t _ => by rw [move_neg]; exact h x hx (-t)⟩

/-- **closure points**: `y` belongs to the closure `sem (relax cs)` of a non-empty set iff every
    half-open segment from a point of the set towards `y` stays inside the set -/
theorem mem_relax_iff_segment (cs : List Con) (y : Val) (hne : ∃ x, x ∈ sem cs) :
    y ∈ sem (relax cs) ↔
      ∀ x ∈ sem cs, ∀ s : Rat, 0 < s → s ≤ 1 → Val.seg s x y ∈ sem cs := by
  refine ⟨fun h x hx s hs hs1 => segment_mem cs x y hx h s hs hs1, fun h => ?_⟩
  obtain ⟨x0, hx0⟩ := hne
  refine (mem_relax_iff cs y).mpr fun c hc => le_of_segment _ (c.eval x0) 0 fun s hs hs1 => ?_
  rw [← eval_seg]
  exact sat_nonneg c _ (h x0 hx0 s hs hs1 c hc)

/-- **`relation_with(g)`**: the generator is subsumed iff the set is non-empty and: a point
    belongs to it; a closure point is the limit of a half-open segment inside it (i.e. belongs
    to its topological closure); a ray / line direction translates the set into itself. -/
theorem subsumes_spec (p : RefPoly) (g : Gen) (hp : WF p.n p.cs) (hd : 0 < g.div) :
    p.subsumes g = true ↔ (∃ x, x ∈ sem p.cs) ∧
      match g.kind with
      | .point => ratPoint g.coords g.div ∈ sem p.cs
      | .cpoint => ∀ x ∈ sem p.cs, ∀ s : Rat, 0 < s → s ≤ 1 →
          Val.seg s x (ratPoint g.coords g.div) ∈ sem p.cs
      | .ray => ∀ x ∈ sem p.cs, ∀ t : Rat, 0 ≤ t → x.move t g.coords ∈ sem p.cs
      | .line => ∀ x ∈ sem p.cs, ∀ t : Rat, x.move t g.coords ∈ sem p.cs := by
  unfold RefPoly.subsumes
  rw [Bool.and_eq_true, Bool.not_eq_true', ← Bool.not_eq_true]
  have hE : p.isEmpty = true ↔ sem p.cs = ∅ := isEmptyB_iff p.n p.cs hp
  have hne_iff : ¬ sem p.cs = ∅ ↔ ∃ x, x ∈ sem p.cs := Set.nonempty_iff_ne_empty.symm
  rw [hE, hne_iff]
  refine and_congr_right fun hne => ?_
  rcases hk : g.kind <;> simp only
  · exact hasLine_iff p g.coords hne
  · exact hasRay_iff p g.coords hne
  · exact hasPoint_iff p g.coords g.div hd
  · rw [hasPoint_iff _ g.coords g.div hd]
    exact mem_relax_iff_segment p.cs _ hne

end PPLV.Lin

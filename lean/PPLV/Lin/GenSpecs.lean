import PPLV.Lin.GenSem
import PPLV.Lin.Ops

/-! # K1 theorems: generator systems against constraint rows

`genSem_subset_row_iff`: a row holds on the whole generated set iff every generator "admits" it
(points satisfy it, closure points satisfy its non-strict version, rays have a non-negative and
lines a zero scalar product with it).  Together with `sem_gensToCons` (the generated set *is* a
polyhedron) this gives the least-upper-bound statements for poly-hull, `add_generators` and
time-elapse. -/
namespace PPLV.Lin
open List

/-- indicator of points and closure points / of points (the weights in `GenSem`) -/
abbrev pcf : Gen → Rat := fun g => if g.isPtOrCp then 1 else 0
abbrev ptf : Gen → Rat := fun g => if g.isPt then 1 else 0

/-! ### `wsum` is bilinear -/

theorem wsum_zero (f : Gen → Rat) (gs : List Gen) : wsum f gs (fun _ => 0) = 0 := by
  induction gs with
  | nil => rfl
  | cons g gs ih =>
    simp only [wsum, zero_mul, zero_add]
    exact ih

theorem wsum_fn_zero (gs : List Gen) (lam : Val) : wsum (fun _ => (0 : Rat)) gs lam = 0 := by
  induction gs generalizing lam with
  | nil => rfl
  | cons g gs ih => simp only [wsum, mul_zero, zero_add]; exact ih lam.tail

theorem wsum_lin (f : Gen → Rat) (gs : List Gen) (a : Rat) (l1 l2 : Val) :
    wsum f gs (fun j => a * l1 j + l2 j) = a * wsum f gs l1 + wsum f gs l2 := by
  induction gs generalizing l1 l2 with
  | nil => simp [wsum]
  | cons g gs ih =>
    simp only [wsum]
    have : Val.tail (fun j => a * l1 j + l2 j) = fun j => a * l1.tail j + l2.tail j := rfl
    rw [this, ih]; ring

theorem wsum_lin_fn (f1 f2 : Gen → Rat) (a : Rat) (gs : List Gen) (lam : Val) :
    wsum (fun g => a * f1 g + f2 g) gs lam = a * wsum f1 gs lam + wsum f2 gs lam := by
  induction gs generalizing lam with
  | nil => simp [wsum]
  | cons g gs ih => simp only [wsum, ih]; ring

/-- multiplier vector concentrated on index `j0` -/
def delta (j0 : Nat) (t : Rat) : Val := fun j => if j = j0 then t else 0

theorem wsum_delta (f : Gen → Rat) (gs : List Gen) (j0 : Nat) (t : Rat) (h : j0 < gs.length) :
    wsum f gs (delta j0 t) = t * f (gs.getD j0 default) := by
  induction gs generalizing j0 with
  | nil => simp at h
  | cons g gs ih =>
    cases j0 with
    | zero =>
      have : (delta 0 t).tail = fun _ => 0 := by funext j; simp [delta, Val.tail]
      simp only [wsum, this, wsum_zero, List.getD_cons_zero]
      simp [delta]
    | succ k =>
      have : (delta (k+1) t).tail = delta k t := by funext j; simp [delta, Val.tail]
      simp only [wsum, this, List.getD_cons_succ]
      rw [ih k (by simpa using h)]
      simp [delta]

theorem exists_index (gs : List Gen) (g : Gen) (h : g ∈ gs) :
    ∃ j, j < gs.length ∧ gs.getD j default = g := by
  obtain ⟨j, hj, rfl⟩ := List.mem_iff_getElem.mp h
  exact ⟨j, hj, by simp [List.getD_eq_getElem?_getD, hj]⟩

/-! ### membership in `GenSem` with the point condition as a sum -/

theorem mem_GenSem_iff (n : Nat) (gs : List Gen) (x : Val) :
    x ∈ GenSem n gs ↔ ∃ lam : Val,
      (∀ j < gs.length, (gs.getD j default).isLine = false → 0 ≤ lam j) ∧
      wsum pcf gs lam = 1 ∧ 0 < wsum ptf gs lam ∧
      ∀ i < n, x i = wsum (fun g => g.coord i) gs lam :=
  exists_congr fun lam => and_congr_right fun h1 => and_congr_right fun _ =>
    and_congr_left' (wsum_pt_pos_iff gs lam h1).symm

/-! ### kinds -/

theorem Gen.isPt_pc (g : Gen) (h : g.isPt = true) : g.isPtOrCp = true := by
  unfold Gen.isPt at h; unfold Gen.isPtOrCp; simp [h]

theorem Gen.pc_not_line (g : Gen) (h : g.isPtOrCp = true) : g.isLine = false := by
  unfold Gen.isPtOrCp at h; unfold Gen.isLine
  cases hk : g.kind <;> simp_all

/-- the vector denoted by a generator (`coords / divisor`; divisor 1 for rays and lines) -/
def Gen.vec (g : Gen) : Val := fun i => g.coord i

/-! ### closure properties of `GenSem` -/

/-- a point generator denotes a point of the set -/
theorem genSem_point (n : Nat) (gs : List Gen) (g : Gen) (hg : g ∈ gs) (hp : g.isPt = true)
    (x : Val) (hx : ∀ i < n, x i = g.vec i) : x ∈ GenSem n gs := by
  obtain ⟨j0, hj0, hj⟩ := exists_index gs g hg
  rw [mem_GenSem_iff]
  refine ⟨delta j0 1, ?_, ?_, ?_, ?_⟩
  · intro j _ _; unfold delta; split <;> norm_num
  · rw [wsum_delta _ _ _ _ hj0, hj]; simp [pcf, Gen.isPt_pc _ hp]
  · rw [wsum_delta _ _ _ _ hj0, hj]; simp [ptf, hp]
  · intro i hi; rw [wsum_delta _ _ _ _ hj0, hj, hx i hi]; simp [Gen.vec]

/-- `a·x + t·g` stays in the set when the convexity constraint is respected -/
theorem genSem_combine (n : Nat) (gs : List Gen) (g : Gen) (hg : g ∈ gs) (x : Val)
    (hx : x ∈ GenSem n gs) (a t : Rat) (ha : 0 < a) (ht : g.isLine = false → 0 ≤ t)
    (hpc : a + t * (if g.isPtOrCp then 1 else 0) = 1)
    (y : Val) (hy : ∀ i < n, y i = a * x i + t * g.vec i) : y ∈ GenSem n gs := by
  obtain ⟨j0, hj0, rfl⟩ := exists_index gs g hg
  rw [mem_GenSem_iff] at hx ⊢
  obtain ⟨lam, h1, h2, h3, h4⟩ := hx
  refine ⟨fun j => a * lam j + delta j0 t j, ?_, ?_, ?_, ?_⟩
  · intro j hj hl
    have := h1 j hj hl
    have hd : 0 ≤ delta j0 t j := by
      unfold delta; split
      · rename_i h; subst h; exact ht hl
      · exact le_refl _
    have := mul_nonneg (le_of_lt ha) this
    linarith
  · rw [wsum_lin, wsum_delta _ _ _ _ hj0, h2]; linarith
  · rw [wsum_lin, wsum_delta _ _ _ _ hj0]
    have : 0 ≤ t * (if (gs.getD j0 default).isPt then (1 : Rat) else 0) := by
      split
      · rename_i hp; rw [mul_one]; exact ht (Gen.isPt_not_line _ hp)
      · simp
    have := mul_pos ha h3
    linarith
  · intro i hi
    rw [wsum_lin, wsum_delta _ _ _ _ hj0, hy i hi, h4 i hi]; rfl

/-! ### linearity of rows -/

theorem dot_lin (as : List Int) (a b : Rat) (u v y : Val)
    (h : ∀ i < as.length, y i = a * u i + b * v i) : dot as y = a * dot as u + b * dot as v := by
  induction as generalizing u v y with
  | nil => simp
  | cons c cs ih =>
    simp only [dot_cons]
    rw [h 0 (by simp), ih u.tail v.tail y.tail (fun i hi => h (i+1) (by simp; omega))]
    ring

theorem dot_wsum (as : List Int) (gs : List Gen) (lam x : Val)
    (h : ∀ i < as.length, x i = wsum (fun g => g.coord i) gs lam) :
    dot as x = wsum (fun g => dot as g.vec) gs lam := by
  induction gs generalizing lam x with
  | nil =>
    simp only [wsum] at h ⊢
    rw [dot_agree as x Val.zero (fun i hi => h i hi), dot_zero]
  | cons g gs ih =>
    simp only [wsum] at h ⊢
    rw [← ih lam.tail (fun i => wsum (fun g => g.coord i) gs lam.tail) (fun _ _ => rfl)]
    rw [dot_lin as (lam 0) 1 g.vec (fun i => wsum (fun g => g.coord i) gs lam.tail) x
      (fun i hi => by rw [h i hi]; simp [Gen.vec])]
    ring

/-! ### a generator admits a row -/

/-- the row's homogeneous non-strict part -/
def Con.hom (c : Con) : Con := ⟨c.coeffs, 0, false⟩

/-- generator `g` is compatible with row `c` (what `relation_with(g)` calls "subsumes") -/
def rowAdmits (c : Con) (g : Gen) : Prop :=
  match g.kind with
  | .point => c.sat g.vec
  | .cpoint => 0 ≤ c.eval g.vec
  | .ray => 0 ≤ dot c.coeffs g.vec
  | .line => dot c.coeffs g.vec = 0

/-- contribution of generator `g` to the value of row `c` -/
noncomputable def rowVal (c : Con) (g : Gen) : Rat :=
  1 * dot c.coeffs g.vec + (c.k : Rat) * (if g.isPtOrCp then 1 else 0)

theorem admits_term (c : Con) (g : Gen) (hadm : rowAdmits c g) (l : Rat)
    (hl : g.isLine = false → 0 ≤ l) :
    0 ≤ l * rowVal c g ∧ (c.strict = true → g.isPt = true → 0 < l → 0 < l * rowVal c g) := by
  unfold rowAdmits at hadm
  unfold rowVal
  unfold Gen.isLine at hl
  unfold Gen.isPt Gen.isPtOrCp
  rcases hk : g.kind <;> simp only [hk] at hadm hl ⊢
  · -- line
    simp [hadm]
  · -- ray
    have := hl (by decide)
    simp only [show (GKind.ray == GKind.point || GKind.ray == GKind.cpoint) = false by decide,
      Bool.false_eq_true, if_false, mul_zero, add_zero, one_mul]
    exact ⟨mul_nonneg this hadm, fun _ h => by simp at h⟩
  · -- point
    have hl' := hl (by decide)
    simp only [show (GKind.point == GKind.point || GKind.point == GKind.cpoint) = true by decide,
      if_true, mul_one, one_mul]
    have he : dot c.coeffs g.vec + (c.k : Rat) = c.eval g.vec := rfl
    rw [he]
    refine ⟨mul_nonneg hl' (sat_nonneg c _ hadm), fun hs _ hpos => ?_⟩
    unfold Con.sat at hadm; rw [if_pos hs] at hadm
    exact mul_pos hpos hadm
  · -- closure point
    have hl' := hl (by decide)
    simp only [show (GKind.cpoint == GKind.point || GKind.cpoint == GKind.cpoint) = true by decide,
      if_true, mul_one, one_mul]
    have he : dot c.coeffs g.vec + (c.k : Rat) = c.eval g.vec := rfl
    rw [he]
    exact ⟨mul_nonneg hl' hadm, fun _ h => by simp at h⟩

theorem eval_genSem (n : Nat) (gs : List Gen) (c : Con) (hc : c.coeffs.length ≤ n) (lam x : Val)
    (h2 : wsum pcf gs lam = 1) (h4 : ∀ i < n, x i = wsum (fun g => g.coord i) gs lam) :
    c.eval x = wsum (rowVal c) gs lam := by
  unfold Con.eval
  have : rowVal c = fun g => 1 * (fun g => dot c.coeffs g.vec) g + (fun g => (c.k : Rat) * pcf g) g := rfl
  rw [this, wsum_lin_fn, dot_wsum c.coeffs gs lam x (fun i hi => h4 i (by omega))]
  have h0 := wsum_lin_fn pcf (fun _ => 0) (c.k : Rat) gs lam
  simp only [add_zero] at h0
  have hz := wsum_fn_zero gs lam
  rw [h0, h2, hz]; ring

/-- every generator admits the row ⇒ the row holds on the generated set -/
theorem genSem_row_of_admits (n : Nat) (gs : List Gen) (c : Con) (hc : c.coeffs.length ≤ n)
    (h : ∀ g ∈ gs, rowAdmits c g) : GenSem n gs ⊆ {x | c.sat x} := by
  rintro x ⟨lam, h1, h2, ⟨j0, hj0, hp0, hl0⟩, h4⟩
  have hterm : ∀ j < gs.length, 0 ≤ lam j * rowVal c (gs.getD j default) ∧
      (c.strict = true → (gs.getD j default).isPt = true → 0 < lam j →
        0 < lam j * rowVal c (gs.getD j default)) :=
    fun j hj => admits_term c _ (h _ (mem_getD gs j hj)) (lam j) (h1 j hj)
  show c.sat x
  unfold Con.sat
  rw [eval_genSem n gs c hc lam x h2 h4]
  split
  · rename_i hs
    exact (wsum_pos_iff _ gs lam (fun j hj => (hterm j hj).1)).mpr
      ⟨j0, hj0, (hterm j0 hj0).2 hs hp0 hl0⟩
  · exact wsum_nonneg _ gs lam (fun j hj => (hterm j hj).1)

theorem ray_argument (E D : Rat) (h : ∀ t : Rat, 0 ≤ t → 0 ≤ E + t * D) : 0 ≤ D := by
  by_contra hn
  have hD : D < 0 := not_le.mp hn
  have h0 := h 0 (le_refl _)
  have hE : 0 ≤ E := by simpa using h0
  have ht : 0 ≤ (E + 1) / (-D) := div_nonneg (by linarith) (by linarith)
  have := h _ ht
  have hcalc : (E + 1) / (-D) * D = -(E + 1) := by
    have : D ≠ 0 := ne_of_lt hD
    field_simp
  rw [hcalc] at this
  linarith

/-- an affine function of `s` that is `≥ c` on `(0, 1]` is `≥ c` at `0` -/
theorem le_of_segment (a b c : Rat) (h : ∀ s : Rat, 0 < s → s ≤ 1 → c ≤ s * b + (1 - s) * a) :
    c ≤ a := by
  refine not_lt.mp fun hlt => ?_
  have hb : c ≤ b := by have := h 1 one_pos (le_refl _); linarith
  have h2 : 0 < 2 * (b - a) := by linarith
  -- the point of the segment where the function takes the value `(a + c) / 2 < c`
  have := h ((c - a) / (2 * (b - a))) (div_pos (by linarith) h2)
    ((div_le_one h2).mpr (by linarith))
  have e : (c - a) / (2 * (b - a)) * b + (1 - (c - a) / (2 * (b - a))) * a = a + (c - a) / 2 := by
    have : b - a ≠ 0 := by linarith
    field_simp
    ring
  rw [e] at this
  linarith

theorem eval_lin (c : Con) (n : Nat) (hc : c.coeffs.length ≤ n) (a t : Rat) (x u y : Val)
    (hy : ∀ i < n, y i = a * x i + t * u i) :
    c.eval y = a * c.eval x + t * dot c.coeffs u + (1 - a) * (c.k : Rat) := by
  unfold Con.eval
  rw [dot_lin c.coeffs a t x u y (fun i hi => hy i (by omega))]; ring

/-- **Generators against a row**: on a non-empty generated set the row holds everywhere iff
    every generator admits it. -/
theorem genSem_subset_row_iff (n : Nat) (gs : List Gen) (hpt : ∃ g ∈ gs, g.isPt = true) (c : Con)
    (hc : c.coeffs.length ≤ n) :
    GenSem n gs ⊆ {x | c.sat x} ↔ ∀ g ∈ gs, rowAdmits c g := by
  refine ⟨fun hsub g hg => ?_, genSem_row_of_admits n gs c hc⟩
  obtain ⟨p0, hp0, hp0pt⟩ := hpt
  have hx0 : p0.vec ∈ GenSem n gs := genSem_point n gs p0 hp0 hp0pt _ (fun _ _ => rfl)
  have hE0 : 0 ≤ c.eval p0.vec := sat_nonneg c _ (hsub hx0)
  have hpcg : ∀ b : Bool, g.isPtOrCp = b → (if g.isPtOrCp then (1 : Rat) else 0) = if b then 1 else 0 :=
    fun b hb => by rw [hb]
  unfold rowAdmits
  rcases hk : g.kind <;> simp only
  · -- line
    have hline : g.isLine = true := by unfold Gen.isLine; rw [hk]; decide
    have hnpc : g.isPtOrCp = false := by unfold Gen.isPtOrCp; rw [hk]; decide
    have key : ∀ t : Rat, 0 ≤ c.eval p0.vec + t * dot c.coeffs g.vec := by
      intro t
      have hy : (fun i => 1 * p0.vec i + t * g.vec i) ∈ GenSem n gs :=
        genSem_combine n gs g hg _ hx0 1 t one_pos (fun h => by rw [hline] at h; cases h)
          (by rw [hnpc]; simp) _ (fun _ _ => rfl)
      have := sat_nonneg c _ (hsub hy)
      rw [eval_lin c n hc 1 t p0.vec g.vec _ (fun _ _ => rfl)] at this
      linarith
    have h1 := ray_argument _ _ (fun t _ => key t)
    have h2 := ray_argument (c.eval p0.vec) (-(dot c.coeffs g.vec)) (fun t _ => by
      have := key (-t); linarith)
    linarith
  · -- ray
    have hline : g.isLine = false := by unfold Gen.isLine; rw [hk]; decide
    have hnpc : g.isPtOrCp = false := by unfold Gen.isPtOrCp; rw [hk]; decide
    refine ray_argument (c.eval p0.vec) _ (fun t ht => ?_)
    have hy : (fun i => 1 * p0.vec i + t * g.vec i) ∈ GenSem n gs :=
      genSem_combine n gs g hg _ hx0 1 t one_pos (fun _ => ht)
        (by rw [hnpc]; simp) _ (fun _ _ => rfl)
    have := sat_nonneg c _ (hsub hy)
    rw [eval_lin c n hc 1 t p0.vec g.vec _ (fun _ _ => rfl)] at this
    linarith
  · -- point
    have hp : g.isPt = true := by unfold Gen.isPt; rw [hk]; decide
    exact hsub (genSem_point n gs g hg hp _ (fun _ _ => rfl))
  · -- closure point: approach it from the point `p0`
    have hpc : g.isPtOrCp = true := by unfold Gen.isPtOrCp; rw [hk]; decide
    refine le_of_segment _ (c.eval p0.vec) 0 fun s hs0 hs1 => ?_
    have hy : (fun i => s * p0.vec i + (1 - s) * g.vec i) ∈ GenSem n gs :=
      genSem_combine n gs g hg _ hx0 s (1 - s) hs0 (fun _ => sub_nonneg.mpr hs1)
        (by rw [hpc]; simp) _ (fun _ _ => rfl)
    have := sat_nonneg c _ (hsub hy)
    rw [eval_lin c n hc s (1 - s) p0.vec g.vec _ (fun _ _ => rfl)] at this
    show 0 ≤ s * c.eval p0.vec + (1 - s) * (dot c.coeffs g.vec + (c.k : Rat))
    linarith

/-! ### least upper bounds: poly-hull, `add_generators` -/

theorem subset_sem_iff (S : Set Val) (cs : List Con) :
    S ⊆ sem cs ↔ ∀ c ∈ cs, S ⊆ {x | c.sat x} :=
  ⟨fun h c hc _ hx => h hx c hc, fun h _ hx c hc => h c hc hx⟩

theorem gensWF_append (n : Nat) (g1 g2 : List Gen) (h1 : gensWF n g1 = true) (h2 : gensWF n g2 = true) :
    gensWF n (g1 ++ g2) = true := by
  unfold gensWF at *
  rw [List.all_append, h1, h2]; rfl

/-- a polyhedron contains the set generated by `g1 ++ g2` iff it contains the set generated by
    `g1` and each of its rows is admitted by every generator of `g2` -/
theorem addGens_subset_iff (n : Nat) (g1 g2 : List Gen) (hp1 : ∃ g ∈ g1, g.isPt = true)
    (cs : List Con) (hcs : WF n cs) :
    GenSem n (g1 ++ g2) ⊆ sem cs ↔
      GenSem n g1 ⊆ sem cs ∧ ∀ c ∈ cs, ∀ g ∈ g2, rowAdmits c g := by
  have hp12 : ∃ g ∈ g1 ++ g2, g.isPt = true := by
    obtain ⟨g, hg, hp⟩ := hp1; exact ⟨g, List.mem_append_left _ hg, hp⟩
  rw [subset_sem_iff, subset_sem_iff]
  constructor
  · intro h
    refine ⟨fun c hc => ?_, fun c hc g hg => ?_⟩
    · rw [genSem_subset_row_iff n g1 hp1 c (hcs c hc)]
      intro g hg
      exact (genSem_subset_row_iff n _ hp12 c (hcs c hc)).mp (h c hc) g (List.mem_append_left _ hg)
    · exact (genSem_subset_row_iff n _ hp12 c (hcs c hc)).mp (h c hc) g (List.mem_append_right _ hg)
  · rintro ⟨h1, h2⟩ c hc
    rw [genSem_subset_row_iff n _ hp12 c (hcs c hc)]
    intro g hg
    rcases List.mem_append.mp hg with hg | hg
    · exact (genSem_subset_row_iff n g1 hp1 c (hcs c hc)).mp (h1 c hc) g hg
    · exact h2 c hc g hg

theorem polyHull_subset_iff (n : Nat) (g1 g2 : List Gen) (hp1 : ∃ g ∈ g1, g.isPt = true)
    (hp2 : ∃ g ∈ g2, g.isPt = true) (cs : List Con) (hcs : WF n cs) :
    GenSem n (g1 ++ g2) ⊆ sem cs ↔ GenSem n g1 ∪ GenSem n g2 ⊆ sem cs := by
  rw [addGens_subset_iff n g1 g2 hp1 cs hcs, Set.union_subset_iff]
  refine and_congr_right fun _ => ?_
  rw [subset_sem_iff]
  exact forall_congr' fun c => imp_congr_right fun hc =>
    (genSem_subset_row_iff n g2 hp2 c (hcs c hc)).symm

theorem genSem_subset_append_left (n : Nat) (g1 g2 : List Gen) (hw : gensWF n (g1 ++ g2) = true)
    (hp1 : ∃ g ∈ g1, g.isPt = true) : GenSem n g1 ⊆ GenSem n (g1 ++ g2) := by
  have h := (addGens_subset_iff n g1 g2 hp1 (gensToCons n (g1 ++ g2)) (gensToCons_wf n _)).mp
    (by rw [sem_gensToCons n _ hw])
  rw [sem_gensToCons n _ hw] at h
  exact h.1

theorem genSem_subset_append_right (n : Nat) (g1 g2 : List Gen) (hw : gensWF n (g1 ++ g2) = true)
    (hp2 : ∃ g ∈ g2, g.isPt = true) : GenSem n g2 ⊆ GenSem n (g1 ++ g2) := by
  have hp12 : ∃ g ∈ g1 ++ g2, g.isPt = true := by
    obtain ⟨g, hg, hp⟩ := hp2; exact ⟨g, List.mem_append_right _ hg, hp⟩
  have hsem := sem_gensToCons n _ hw
  rw [← hsem, subset_sem_iff]
  intro c hc
  have hlen := gensToCons_wf n (g1 ++ g2) c hc
  rw [genSem_subset_row_iff n g2 hp2 c hlen]
  intro g hg
  refine (genSem_subset_row_iff n _ hp12 c hlen).mp ?_ g (List.mem_append_right _ hg)
  rw [← hsem]; exact fun x hx => hx c hc

/-! ### time elapse -/

/-- `{p + t·q | p ∈ P, q ∈ Q, t ≥ 0}` on the first `n` coordinates -/
def TESet (n : Nat) (gp gq : List Gen) : Set Val :=
  {y | ∃ p ∈ GenSem n gp, ∃ q ∈ GenSem n gq, ∃ t : Rat, 0 ≤ t ∧ ∀ i < n, y i = p i + t * q i}

theorem hom_sat (c : Con) (x : Val) : c.hom.sat x ↔ 0 ≤ dot c.coeffs x := by
  unfold Con.sat Con.hom Con.eval; simp

theorem TESet_row_iff (n : Nat) (gp gq : List Gen) (hpp : ∃ g ∈ gp, g.isPt = true)
    (hpq : ∃ g ∈ gq, g.isPt = true) (c : Con) (hc : c.coeffs.length ≤ n) :
    TESet n gp gq ⊆ {x | c.sat x} ↔
      (∀ g ∈ gp, rowAdmits c g) ∧ (∀ g ∈ gq, rowAdmits c.hom g) := by
  obtain ⟨p0, hp0, hp0pt⟩ := hpp
  obtain ⟨q0, hq0, hq0pt⟩ := hpq
  have hP0 : p0.vec ∈ GenSem n gp := genSem_point n gp p0 hp0 hp0pt _ (fun _ _ => rfl)
  have hQ0 : q0.vec ∈ GenSem n gq := genSem_point n gq q0 hq0 hq0pt _ (fun _ _ => rfl)
  have hch : c.hom.coeffs.length ≤ n := hc
  constructor
  · intro h
    constructor
    · rw [← genSem_subset_row_iff n gp ⟨p0, hp0, hp0pt⟩ c hc]
      intro p hp
      exact h ⟨p, hp, q0.vec, hQ0, 0, le_refl _, fun i _ => by simp⟩
    · rw [← genSem_subset_row_iff n gq ⟨q0, hq0, hq0pt⟩ c.hom hch]
      intro q hq
      show c.hom.sat q
      rw [hom_sat]
      refine ray_argument (c.eval p0.vec) _ (fun t ht => ?_)
      have hy : (fun i => 1 * p0.vec i + t * q i) ∈ TESet n gp gq :=
        ⟨p0.vec, hP0, q, hq, t, ht, fun i _ => by simp⟩
      have := sat_nonneg c _ (h hy)
      rw [eval_lin c n hc 1 t p0.vec q _ (fun _ _ => rfl)] at this
      linarith
  · rintro ⟨hA, hB⟩ y ⟨p, hp, q, hq, t, ht, hy⟩
    have h1 : c.sat p := genSem_row_of_admits n gp c hc hA hp
    have h2 : 0 ≤ dot c.coeffs q := (hom_sat c q).mp (genSem_row_of_admits n gq c.hom hch hB hq)
    have he := eval_lin c n hc 1 t p q y (fun i hi => by rw [hy i hi]; ring)
    have h3 : 0 ≤ t * dot c.coeffs q := mul_nonneg ht h2
    show c.sat y
    unfold Con.sat at h1 ⊢
    rw [he]
    split at h1 <;> rename_i hs <;> simp only [hs, if_true, Bool.false_eq_true, if_false] <;> linarith

theorem getD_allZero (l : List Int) (h : l.all (· == 0) = true) (i : Nat) : l.getD i 0 = 0 := by
  induction l generalizing i with
  | nil => rfl
  | cons a as ih =>
    simp only [List.all_cons, Bool.and_eq_true, beq_iff_eq] at h
    cases i with
    | zero => simpa using h.1
    | succ i => simpa using ih h.2 i

theorem ray_d (cs : List Int) : Gen.d ⟨.ray, cs, 1⟩ = 1 := rfl

/-- the generators that `timeElapseGens` derives from `gq` -/
def teDir (g : Gen) : Option Gen :=
  match g.kind with
  | .line => some g
  | .ray => some g
  | .point | .cpoint =>
    if g.coords.all (· == 0) then none else some { kind := .ray, coords := g.coords, div := 1 }

theorem timeElapseGens_eq (gp gq : List Gen) : timeElapseGens gp gq = gp ++ gq.filterMap teDir := rfl

theorem teDir_admits (c : Con) (g : Gen) (hd : 0 < g.d) :
    rowAdmits c.hom g ↔ ∀ g', teDir g = some g' → rowAdmits c g' := by
  have hd' : (0 : Rat) < (g.d : Rat) := by exact_mod_cast hd
  -- the direction of a point: coordinates without the divisor
  have hray : dot c.coeffs (Gen.vec { kind := .ray, coords := g.coords, div := 1 })
      = (g.d : Rat) * dot c.coeffs g.vec := by
    rw [dot_lin c.coeffs (g.d : Rat) 0 g.vec g.vec _ (fun i _ => ?_)]; ring
    show ((g.coords.getD i 0 : Int) : Rat) / ((Gen.d ⟨.ray, g.coords, 1⟩ : Int) : Rat)
      = (g.d : Rat) * (((g.coords.getD i 0 : Int) : Rat) / (g.d : Rat)) + 0 * _
    rw [ray_d]
    field_simp
    simp
  have hzero : g.coords.all (· == 0) = true → dot c.coeffs g.vec = 0 := by
    intro hz
    rw [dot_agree c.coeffs g.vec Val.zero (fun i _ => ?_), dot_zero]
    show ((g.coords.getD i 0 : Int) : Rat) / _ = 0
    rw [getD_allZero _ hz]; simp
  have hpc : (0 ≤ dot c.coeffs g.vec) ↔ ∀ g', (if g.coords.all (· == 0) then none
      else some ({ kind := .ray, coords := g.coords, div := 1 } : Gen)) = some g' → rowAdmits c g' := by
    by_cases hz : g.coords.all (· == 0) = true
    · rw [if_pos hz]
      exact ⟨fun _ g' h => (by cases h), fun _ => (by rw [hzero hz])⟩
    · rw [if_neg hz]
      constructor
      · intro h g' hg'
        cases hg'
        show 0 ≤ dot c.coeffs _
        rw [hray]; exact mul_nonneg (le_of_lt hd') h
      · intro h
        have := h _ rfl
        change 0 ≤ dot c.coeffs _ at this
        rw [hray] at this
        exact (mul_nonneg_iff_of_pos_left hd').mp this
  unfold teDir
  rcases hk : g.kind
  · simp only [rowAdmits, hk, Option.some.injEq, forall_eq']; rfl
  · simp only [rowAdmits, hk, Option.some.injEq, forall_eq']; rfl
  · rw [← hpc]; simp only [rowAdmits, hk]; exact hom_sat c g.vec
  · rw [← hpc]; simp only [rowAdmits, hk]
    show 0 ≤ dot c.coeffs g.vec + ((0 : Int) : Rat) ↔ _
    simp

theorem gensWF_mem (n : Nat) (gs : List Gen) (hw : gensWF n gs = true) (g : Gen) (hg : g ∈ gs) :
    g.coords.length ≤ n ∧ 0 < g.d := by
  unfold gensWF at hw
  simp only [List.all_eq_true, Bool.and_eq_true, decide_eq_true_eq] at hw
  exact hw g hg

theorem gensWF_timeElapse (n : Nat) (gp gq : List Gen) (hwp : gensWF n gp = true)
    (hwq : gensWF n gq = true) : gensWF n (timeElapseGens gp gq) = true := by
  rw [timeElapseGens_eq]
  apply gensWF_append n _ _ hwp
  unfold gensWF
  simp only [List.all_eq_true, Bool.and_eq_true, decide_eq_true_eq, List.mem_filterMap]
  rintro g' ⟨g, hg, hgg'⟩
  have := gensWF_mem n gq hwq g hg
  unfold teDir at hgg'
  rcases hk : g.kind <;> simp only [hk] at hgg'
  · cases hgg'; exact this
  · cases hgg'; exact this
  · split at hgg'
    · cases hgg'
    · cases hgg'; exact ⟨this.1, by rw [ray_d]; exact Int.one_pos⟩
  · split at hgg'
    · cases hgg'
    · cases hgg'; exact ⟨this.1, by rw [ray_d]; exact Int.one_pos⟩

/-- a polyhedron contains `{p + t·q}` iff it contains the set generated by `timeElapseGens` -/
theorem timeElapse_subset_iff (n : Nat) (gp gq : List Gen) (hwq : gensWF n gq = true)
    (hpp : ∃ g ∈ gp, g.isPt = true) (hpq : ∃ g ∈ gq, g.isPt = true) (cs : List Con) (hcs : WF n cs) :
    TESet n gp gq ⊆ sem cs ↔ GenSem n (timeElapseGens gp gq) ⊆ sem cs := by
  rw [timeElapseGens_eq, addGens_subset_iff n gp _ hpp cs hcs, subset_sem_iff, subset_sem_iff,
    ← forall_and]
  refine forall_congr' fun c => ?_
  rw [← imp_and]
  refine imp_congr_right fun hc => ?_
  rw [TESet_row_iff n gp gq hpp hpq c (hcs c hc), genSem_subset_row_iff n gp hpp c (hcs c hc)]
  refine and_congr_right fun _ => ?_
  simp only [List.mem_filterMap]
  constructor
  · rintro h g' ⟨g, hg, hgg'⟩
    exact (teDir_admits c g (gensWF_mem n gq hwq g hg).2).mp (h g hg) g' hgg'
  · intro h g hg
    exact (teDir_admits c g (gensWF_mem n gq hwq g hg).2).mpr fun g' hgg' => h g' ⟨g, hg, hgg'⟩

end PPLV.Lin

import PPLV.Lin.Ops
import PPLV.Lin.Project

/-! # K1 theorems: the generic pieces of the reference operations (`PPLV/Lin/Ops.lean`) -/
namespace PPLV.Lin
open List

/-- **Redundancy removal** keeps the solution set: a row is dropped only when the decided
    implication says the remaining rows entail it. -/
theorem dropRedundant_correct (n : Nat) (kept rest : List Con) (hwf : WF n (kept ++ rest)) (x : Val) :
    Sat (dropRedundant n kept rest) x ↔ Sat (kept ++ rest) x := by
  induction rest generalizing kept with
  | nil => simp [dropRedundant]
  | cons c rest ih =>
    have hsplit : Sat (kept ++ c :: rest) x ↔ c.sat x ∧ Sat (kept ++ rest) x := by
      simp only [Sat_append, Sat_cons]; tauto
    have hwf' : WF n (kept ++ rest) := by
      intro d hd
      apply hwf d
      rcases List.mem_append.mp hd with h | h
      · exact List.mem_append_left _ h
      · exact List.mem_append_right _ (List.mem_cons_of_mem _ h)
    have hc : c.coeffs.length ≤ n := hwf c (by simp)
    unfold dropRedundant
    split
    · rename_i himp
      rw [ih kept hwf', hsplit]
      exact ⟨fun h => ⟨(implies_iff n _ c hwf' hc).mp himp x h, h⟩, fun h => h.2⟩
    · have hwf'' : WF n ((kept ++ [c]) ++ rest) := by
        rw [List.append_assoc, List.singleton_append]; exact hwf
      rw [ih (kept ++ [c]) hwf'', List.append_assoc, List.singleton_append]

theorem relImage_wf (nOut : Nat) (p : RefPoly) (rel : List Con) :
    WF nOut (relImage nOut p rel).cs := projectTo_wf _ _ _

/-- **Relational image**: `relImage nOut p rel` denotes `{w | ∃ x ∈ p, rel(w, x)}`; in the witness
    `x'` the low `nOut` coordinates are the image point and the high ones the source point. -/
theorem relImage_spec (nOut : Nat) (p : RefPoly) (rel : List Con) (hrel : WF (nOut + p.n) rel)
    (hp : WF p.n p.cs) (w : Val) :
    Sat (relImage nOut p rel).cs w ↔
      ∃ x', (∀ j < nOut, x' j = w j) ∧ Sat rel x' ∧ Sat p.cs (fun j => x' (j + nOut)) := by
  have hwf : WF (nOut + p.n) (rel ++ p.cs.map (Con.shift nOut)) := by
    intro c hc
    rcases List.mem_append.mp hc with h | h
    · exact hrel c h
    · obtain ⟨d, hd, rfl⟩ := List.mem_map.mp h
      have := hp d hd
      simp [Con.shift]; omega
  show Sat (projectTo nOut (nOut + p.n) (rel ++ p.cs.map (Con.shift nOut))) w ↔ _
  rw [projectTo_spec nOut (nOut + p.n) _ hwf (Nat.le_add_right _ _)]
  simp only [Sat_append, Sat_map_shift]

end PPLV.Lin

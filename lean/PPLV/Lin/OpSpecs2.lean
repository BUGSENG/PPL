import PPLV.Lin.OpSpecs
import PPLV.Lin.Segment
import PPLV.Lin.Ops2

/-! # K1 theorems: the operators of `Ops2.lean`

Generator lists as sets (`genSem_congr_of_mem`, `dedupG`), the hull of a list of generated sets
(`hullGens_least`), topological closure (`closure_least`), the exact positive time-elapse
(`posTimeElapse_spec`), coordinate selection (`genSem_select`) and `fold_space_dimensions`
(`fold_least`).  The judge of `poly_difference_assign` and congruences: `OpSpecs2b.lean`.
Helper lemmas live in `PPLV.Lin.O2`. -/
namespace PPLV.Lin.O2
open List

/-! ### generator lists as sets -/

theorem no_point_empty (n : Nat) (gs : List Gen) (h : ¬ ∃ g ∈ gs, g.isPt = true) :
    GenSem n gs = ∅ := by
  rw [Set.eq_empty_iff_forall_notMem]
  rintro x ⟨lam, _, _, ⟨j, hj, hp, _⟩, _⟩
  exact h ⟨_, mem_getD gs j hj, hp⟩

/-- the generated set is monotone in the *set* of generators -/
theorem genSem_mono_of_mem (n : Nat) (g1 g2 : List Gen) (hsub : ∀ g ∈ g1, g ∈ g2)
    (hw2 : gensWF n g2 = true) : GenSem n g1 ⊆ GenSem n g2 := by
  by_cases hp1 : ∃ g ∈ g1, g.isPt = true
  · have hp2 : ∃ g ∈ g2, g.isPt = true := by
      obtain ⟨g, hg, hp⟩ := hp1; exact ⟨g, hsub g hg, hp⟩
    have hsem := sem_gensToCons n g2 hw2
    rw [← hsem, subset_sem_iff]
    intro c hc
    have hlen := gensToCons_wf n g2 c hc
    rw [genSem_subset_row_iff n g1 hp1 c hlen]
    intro g hg
    refine (genSem_subset_row_iff n g2 hp2 c hlen).mp ?_ g (hsub g hg)
    rw [← hsem]; exact fun x hx => hx c hc
  · rw [no_point_empty n g1 hp1]; exact Set.empty_subset _

theorem gensWF_of_mem (n : Nat) (g1 g2 : List Gen) (hsub : ∀ g ∈ g1, g ∈ g2)
    (hw2 : gensWF n g2 = true) : gensWF n g1 = true := by
  unfold gensWF
  simp only [List.all_eq_true, Bool.and_eq_true, decide_eq_true_eq]
  intro g hg
  exact gensWF_mem n g2 hw2 g (hsub g hg)

theorem gensWF_flatten (n : Nat) (gss : List (List Gen))
    (h : ∀ gs ∈ gss, gensWF n gs = true) : gensWF n gss.flatten = true := by
  unfold gensWF
  simp only [List.all_eq_true, Bool.and_eq_true, decide_eq_true_eq, List.mem_flatten]
  rintro g ⟨gs, hgs, hg⟩
  exact gensWF_mem n gs (h gs hgs) g hg

end PPLV.Lin.O2

namespace PPLV.Lin
open List

/-- two generator lists with the same elements generate the same set -/
theorem genSem_congr_of_mem (n : Nat) (g1 g2 : List Gen) (h : ∀ g, g ∈ g1 ↔ g ∈ g2)
    (hw1 : gensWF n g1 = true) (hw2 : gensWF n g2 = true) : GenSem n g1 = GenSem n g2 :=
  Set.Subset.antisymm (O2.genSem_mono_of_mem n g1 g2 (fun g hg => (h g).mp hg) hw2)
    (O2.genSem_mono_of_mem n g2 g1 (fun g hg => (h g).mpr hg) hw1)

theorem mem_dedupG (gs : List Gen) (g : Gen) : g ∈ dedupG gs ↔ g ∈ gs := by
  induction gs with
  | nil => simp [dedupG]
  | cons d ds ih =>
    simp only [dedupG]
    split
    · rename_i hc
      have hd : d ∈ dedupG ds := hc
      constructor
      · intro h; exact List.mem_cons_of_mem _ (ih.mp h)
      · intro h
        rcases List.mem_cons.mp h with rfl | h
        · exact hd
        · exact ih.mpr h
    · simp [ih]

theorem gensWF_dedupG (n : Nat) (gs : List Gen) (hw : gensWF n gs = true) :
    gensWF n (dedupG gs) = true :=
  O2.gensWF_of_mem n _ gs (fun g hg => (mem_dedupG gs g).mp hg) hw

theorem genSem_dedupG (n : Nat) (gs : List Gen) (hw : gensWF n gs = true) :
    GenSem n (dedupG gs) = GenSem n gs :=
  genSem_congr_of_mem n _ _ (mem_dedupG gs) (gensWF_dedupG n gs hw) hw

theorem mem_hullGens (gss : List (List Gen)) (g : Gen) :
    g ∈ hullGens gss ↔ ∃ gs ∈ gss, g ∈ gs := by
  unfold hullGens
  rw [mem_dedupG, List.mem_flatten]

theorem gensWF_hullGens (n : Nat) (gss : List (List Gen))
    (hw : ∀ gs ∈ gss, gensWF n gs = true) : gensWF n (hullGens gss) = true :=
  gensWF_dedupG n _ (O2.gensWF_flatten n gss hw)

theorem hullGens_hasPoint (gss : List (List Gen)) (hne : gss ≠ [])
    (hp : ∀ gs ∈ gss, ∃ g ∈ gs, g.isPt = true) : ∃ g ∈ hullGens gss, g.isPt = true := by
  obtain ⟨gs, hgs⟩ := List.exists_mem_of_ne_nil gss hne
  obtain ⟨g, hg, hpt⟩ := hp gs hgs
  exact ⟨g, (mem_hullGens gss g).mpr ⟨gs, hgs, hg⟩, hpt⟩

/-- a polyhedron contains the set generated by `hullGens gss` iff it contains every generated
    set of the list -/
theorem hullGens_subset_iff (n : Nat) (gss : List (List Gen)) (hne : gss ≠ [])
    (hp : ∀ gs ∈ gss, ∃ g ∈ gs, g.isPt = true) (cs : List Con) (hcs : WF n cs) :
    GenSem n (hullGens gss) ⊆ sem cs ↔ ∀ gs ∈ gss, GenSem n gs ⊆ sem cs := by
  have hpH := hullGens_hasPoint gss hne hp
  constructor
  · intro h gs hgs
    rw [subset_sem_iff] at h ⊢
    intro c hc
    rw [genSem_subset_row_iff n gs (hp gs hgs) c (hcs c hc)]
    intro g hg
    exact (genSem_subset_row_iff n _ hpH c (hcs c hc)).mp (h c hc) g
      ((mem_hullGens gss g).mpr ⟨gs, hgs, hg⟩)
  · intro h
    rw [subset_sem_iff]
    intro c hc
    rw [genSem_subset_row_iff n _ hpH c (hcs c hc)]
    intro g hg
    obtain ⟨gs, hgs, hg'⟩ := (mem_hullGens gss g).mp hg
    exact (genSem_subset_row_iff n gs (hp gs hgs) c (hcs c hc)).mp
      ((subset_sem_iff _ _).mp (h gs hgs) c hc) g hg'

/-- the set generated by `hullGens gss` is the least polyhedron (closed or NNC) that
    contains every generated set of the (non-empty) list `gss` -/
theorem hullGens_least (n : Nat) (gss : List (List Gen)) (hne : gss ≠ [])
    (h : ∀ gs ∈ gss, gensWF n gs = true ∧ ∃ g ∈ gs, g.isPt = true) :
    (∀ gs ∈ gss, GenSem n gs ⊆ GenSem n (hullGens gss)) ∧
    (∀ cs : List Con, WF n cs → (∀ gs ∈ gss, GenSem n gs ⊆ sem cs) →
      GenSem n (hullGens gss) ⊆ sem cs) ∧
    gensWF n (hullGens gss) = true := by
  have hw := gensWF_hullGens n gss (fun gs hgs => (h gs hgs).1)
  refine ⟨fun gs hgs => ?_, fun cs hcs hsub => ?_, hw⟩
  · exact O2.genSem_mono_of_mem n gs _ (fun g hg => (mem_hullGens gss g).mpr ⟨gs, hgs, hg⟩) hw
  · exact (hullGens_subset_iff n gss hne (fun gs hgs => (h gs hgs).2) cs hcs).mpr hsub

end PPLV.Lin

/-! ### topological closure -/
namespace PPLV.Lin
open List

/-- for a non-empty set, `relax` is the topological closure: it contains the set and is
    contained in every closed polyhedron (all rows non-strict) that contains the set -/
theorem closure_least (cs : List Con) (hne : ∃ x, x ∈ sem cs) :
    sem cs ⊆ sem (relax cs) ∧
    ∀ ds : List Con, (∀ c ∈ ds, c.strict = false) → sem cs ⊆ sem ds → sem (relax cs) ⊆ sem ds := by
  refine ⟨sem_subset_relax cs, fun ds hds hsub y hy d hd => ?_⟩
  obtain ⟨x0, hx0⟩ := hne
  show d.sat y
  unfold Con.sat
  rw [hds d hd, if_neg Bool.false_ne_true]
  refine le_of_segment _ (d.eval x0) 0 fun s h0 h1 => ?_
  rw [← eval_seg]
  exact sat_nonneg d _ (hsub (segment_mem cs x0 y hx0 hy s h0 h1) d hd)

/-- `RefPoly.closure`: the empty set stays as it is, a non-empty set is relaxed -/
theorem closure_cs (p : RefPoly) (hp : WF p.n p.cs) :
    (sem p.cs = ∅ → p.closure = p) ∧ ((∃ x, x ∈ sem p.cs) → p.closure.cs = relax p.cs) := by
  unfold RefPoly.closure RefPoly.isEmpty
  constructor
  · intro he
    have : feasible p.n p.cs ≠ true := by
      rw [Ne, feasible_iff p.n p.cs hp]
      rintro ⟨x, hx⟩
      have : x ∈ sem p.cs := hx
      rw [he] at this; exact this
    simp [this]
  · rintro ⟨x, hx⟩
    have : feasible p.n p.cs = true := (feasible_iff p.n p.cs hp).mpr ⟨x, hx⟩
    simp [this]

theorem closure_empty (p : RefPoly) (hp : WF p.n p.cs) (he : sem p.cs = ∅) :
    sem p.closure.cs = ∅ := by
  rw [(closure_cs p hp).1 he]; exact he

/-- `topological_closure_assign`: the closure of the empty set is empty; otherwise the result
    contains the set and is the least closed polyhedron doing so -/
theorem closure_spec (p : RefPoly) (hp : WF p.n p.cs) :
    (sem p.cs = ∅ → sem p.closure.cs = ∅) ∧
    sem p.cs ⊆ sem p.closure.cs ∧
    ∀ ds : List Con, (∀ c ∈ ds, c.strict = false) → sem p.cs ⊆ sem ds → sem p.closure.cs ⊆ sem ds := by
  refine ⟨closure_empty p hp, ?_⟩
  by_cases hne : ∃ x, x ∈ sem p.cs
  · rw [(closure_cs p hp).2 hne]
    exact closure_least p.cs hne
  · have he : sem p.cs = ∅ := Set.eq_empty_iff_forall_notMem.mpr fun x hx => hne ⟨x, hx⟩
    rw [(closure_cs p hp).1 he]
    exact ⟨subset_rfl, fun ds _ h => h⟩

end PPLV.Lin

/-! ### positive time-elapse -/
namespace PPLV.Lin.O2
open List

theorem homogenize_length (n : Nat) (c : Con) : (c.homogenize n).coeffs.length = 2 * n + 1 := by
  simp [Con.homogenize, padTo_length]; omega

/-- the homogenised row over `(y, p, λ)` evaluates to `λ · c(q)` when `y − p = λ·q` -/
theorem eval_homogenize (n : Nat) (c : Con) (hc : c.coeffs.length ≤ n) (w q : Val)
    (h : ∀ i < n, w i = w (i + n) + w (2 * n) * q i) :
    (c.homogenize n).eval w = w (2 * n) * c.eval q := by
  unfold Con.homogenize Con.eval
  simp only
  rw [dot_append, dot_append, dot_map_neg, dot_padTo n _ _ hc, List.length_append,
    List.length_map, padTo_length, dot_padTo n _ _ hc]
  have h1 : dot c.coeffs w = 1 * dot c.coeffs (fun j => w (j + n)) + w (2 * n) * dot c.coeffs q :=
    dot_lin c.coeffs 1 (w (2 * n)) (fun j => w (j + n)) q w
      (fun i hi => by rw [h i (by omega)]; ring)
  rw [h1]
  simp only [dot_cons, dot_nil, Nat.zero_add, ← two_mul]
  generalize dot c.coeffs (fun j => w (j + n)) = A
  generalize w (2 * n) = L
  push_cast
  ring

theorem sat_homogenize (n : Nat) (c : Con) (hc : c.coeffs.length ≤ n) (w q : Val)
    (hl : 0 < w (2 * n)) (h : ∀ i < n, w i = w (i + n) + w (2 * n) * q i) :
    (c.homogenize n).sat w ↔ c.sat q := by
  unfold Con.sat
  rw [eval_homogenize n c hc w q h]
  have hs : (c.homogenize n).strict = c.strict := rfl
  rw [hs]
  split
  · exact ⟨fun h => (mul_pos_iff_of_pos_left hl).mp h, fun h => mul_pos hl h⟩
  · exact ⟨fun h => (mul_nonneg_iff_of_pos_left hl).mp h, fun h => mul_nonneg (le_of_lt hl) h⟩

theorem posTimeElapseRows_wf (n : Nat) (pcs qcs : List Con) (hp : WF n pcs) :
    WF (2 * n + 1) (posTimeElapseRows n pcs qcs) := by
  intro c hc
  unfold posTimeElapseRows at hc
  simp only [List.mem_append, List.mem_map, List.mem_singleton] at hc
  rcases hc with (⟨d, hd, rfl⟩ | ⟨d, _, rfl⟩) | rfl
  · have := hp d hd
    simp [Con.shift]; omega
  · rw [homogenize_length]
  · simp [gtRow]

theorem sat_lamRow (n : Nat) (w : Val) :
    (gtRow (List.replicate (2 * n) 0 ++ [1]) 0).sat w ↔ 0 < w (2 * n) := by
  unfold Con.sat gtRow Con.eval
  simp only [dot_replicate_zero_append, if_true]
  simp

theorem Sat_posTimeElapseRows (n : Nat) (pcs qcs : List Con) (w : Val) :
    Sat (posTimeElapseRows n pcs qcs) w ↔
      Sat pcs (fun j => w (j + n)) ∧ (∀ c ∈ qcs, (c.homogenize n).sat w) ∧ 0 < w (2 * n) := by
  unfold posTimeElapseRows
  rw [Sat_append, Sat_append, Sat_map_shift, Sat_singleton, sat_lamRow, and_assoc]
  exact and_congr_right fun _ => and_congr_left fun _ => Sat_map _ qcs w

end PPLV.Lin.O2

namespace PPLV.Lin
open List

theorem posTimeElapseCons_wf (n : Nat) (pcs qcs : List Con) : WF n (posTimeElapseCons n pcs qcs) :=
  projectTo_wf _ _ _

/-- `posTimeElapseCons` denotes exactly `{p + λ·q | p ∈ P, q ∈ Q, λ > 0}` -/
theorem posTimeElapse_spec (n : Nat) (pcs qcs : List Con) (hp : WF n pcs) (hq : WF n qcs) (y : Val) :
    Sat (posTimeElapseCons n pcs qcs) y ↔
      ∃ p q : Val, ∃ lam : Rat, Sat pcs p ∧ Sat qcs q ∧ 0 < lam ∧ ∀ i < n, y i = p i + lam * q i := by
  unfold posTimeElapseCons
  rw [projectTo_spec n (2 * n + 1) _ (O2.posTimeElapseRows_wf n pcs qcs hp) (by omega)]
  constructor
  · rintro ⟨w, hag, hs⟩
    obtain ⟨h1, h2, h3⟩ := (O2.Sat_posTimeElapseRows n pcs qcs w).mp hs
    have hne : w (2 * n) ≠ 0 := ne_of_gt h3
    have hrel : ∀ i < n, w i = w (i + n) + w (2 * n) * ((w i - w (i + n)) / w (2 * n)) := by
      intro i _; field_simp; ring
    refine ⟨fun j => w (j + n), fun i => (w i - w (i + n)) / w (2 * n), w (2 * n), h1, ?_, h3, ?_⟩
    · intro c hc
      exact (O2.sat_homogenize n c (hq c hc) w _ h3 hrel).mp (h2 c hc)
    · intro i hi; rw [← hag i hi]; exact hrel i hi
  · rintro ⟨p, q, lam, h1, h2, h3, h4⟩
    let w : Val := fun j => if j < n then y j else if j < 2 * n then p (j - n) else lam
    have hw0 : ∀ j < n, w j = y j := fun j hj => by simp [w, hj]
    have hw1 : ∀ j < n, w (j + n) = p j := fun j hj => by
      have h1 : ¬ (j + n < n) := by omega
      have h2 : j + n < 2 * n := by omega
      simp [w, h1, h2]
    have hw2 : w (2 * n) = lam := by
      have h1 : ¬ (2 * n < n) := by omega
      simp [w, h1]
    refine ⟨w, hw0, (O2.Sat_posTimeElapseRows n pcs qcs w).mpr ⟨?_, ?_, ?_⟩⟩
    · intro c hc
      refine (sat_agree c _ p ?_).mpr (h1 c hc)
      intro i hi; exact hw1 i (lt_of_lt_of_le hi (hp c hc))
    · intro c hc
      refine (O2.sat_homogenize n c (hq c hc) w q (by rw [hw2]; exact h3) ?_).mpr (h2 c hc)
      intro i hi; rw [hw0 i hi, hw1 i hi, hw2]; exact h4 i hi
    · rw [hw2]; exact h3

/-- set form of `posTimeElapse_spec` -/
theorem sem_posTimeElapseCons (n : Nat) (pcs qcs : List Con) (hp : WF n pcs) (hq : WF n qcs) :
    sem (posTimeElapseCons n pcs qcs) =
      {y | ∃ p ∈ sem pcs, ∃ q ∈ sem qcs, ∃ lam : Rat, 0 < lam ∧ ∀ i < n, y i = p i + lam * q i} := by
  ext y
  show Sat _ y ↔ _
  rw [posTimeElapse_spec n pcs qcs hp hq]
  exact ⟨fun ⟨p, q, lam, h1, h2, h3, h4⟩ => ⟨p, h1, q, h2, lam, h3, h4⟩,
    fun ⟨p, h1, q, h2, lam, h3, h4⟩ => ⟨p, q, lam, h1, h2, h3, h4⟩⟩

end PPLV.Lin

/-! ### coordinate selection -/
namespace PPLV.Lin.O2
open List

theorem wsum_map (f : Gen → Rat) (h : Gen → Gen) (gs : List Gen) (lam : Val) :
    wsum f (gs.map h) lam = wsum (fun g => f (h g)) gs lam := by
  induction gs generalizing lam with
  | nil => rfl
  | cons g gs ih => simp only [List.map_cons, wsum, ih]

theorem getD_map (h : Gen → Gen) (gs : List Gen) (j : Nat) (hj : j < gs.length) :
    (gs.map h).getD j default = h (gs.getD j default) := by
  simp [List.getD_eq_getElem?_getD, hj]

/-- membership in the set generated by the images of the generators under a kind-preserving map -/
theorem mem_genSem_map (m : Nat) (gs : List Gen) (h : Gen → Gen) (hk : ∀ g, (h g).kind = g.kind)
    (x : Val) :
    x ∈ GenSem m (gs.map h) ↔ ∃ lam : Val,
      (∀ j < gs.length, (gs.getD j default).isLine = false → 0 ≤ lam j) ∧
      wsum pcf gs lam = 1 ∧ 0 < wsum ptf gs lam ∧
      ∀ i < m, x i = wsum (fun g => (h g).coord i) gs lam := by
  rw [mem_GenSem_iff]
  refine exists_congr fun lam => ?_
  have e1 : wsum pcf (gs.map h) lam = wsum pcf gs lam := by
    rw [wsum_map]; congr 1; funext g
    have : (h g).isPtOrCp = g.isPtOrCp := by simp only [Gen.isPtOrCp, hk]
    show (if (h g).isPtOrCp then (1 : Rat) else 0) = if g.isPtOrCp then 1 else 0
    rw [this]
  have e2 : wsum ptf (gs.map h) lam = wsum ptf gs lam := by
    rw [wsum_map]; congr 1; funext g
    have : (h g).isPt = g.isPt := by simp only [Gen.isPt, hk]
    show (if (h g).isPt then (1 : Rat) else 0) = if g.isPt then 1 else 0
    rw [this]
  have e3 : ∀ i, wsum (fun g => g.coord i) (gs.map h) lam = wsum (fun g => (h g).coord i) gs lam :=
    fun i => wsum_map _ h gs lam
  rw [e1, e2, List.length_map]
  simp only [e3]
  refine and_congr_left fun _ => ?_
  refine forall_congr' fun j => imp_congr_right fun hj => ?_
  rw [getD_map h gs j hj]
  have : (h (gs.getD j default)).isLine = (gs.getD j default).isLine := by
    simp only [Gen.isLine, hk]
  rw [this]

theorem select_kind (g : Gen) (sel : List Nat) : (g.select sel).kind = g.kind := rfl
theorem select_d (g : Gen) (sel : List Nat) : (g.select sel).d = g.d := rfl
theorem select_isPt (g : Gen) (sel : List Nat) : (g.select sel).isPt = g.isPt := rfl

theorem select_coord (g : Gen) (sel : List Nat) (i : Nat) (hi : i < sel.length) :
    (g.select sel).coord i = g.coord (sel.getD i 0) := by
  unfold Gen.coord
  rw [select_d]
  have : (g.select sel).coords.getD i 0 = g.coords.getD (sel.getD i 0) 0 := by
    simp [Gen.select, List.getD_eq_getElem?_getD, hi]
  rw [this]

theorem getD_mem_nat (sel : List Nat) (i : Nat) (hi : i < sel.length) : sel.getD i 0 ∈ sel := by
  have : sel.getD i 0 = sel[i] := by simp [List.getD_eq_getElem?_getD, hi]
  rw [this]; exact List.getElem_mem hi

theorem genSem_select_aux (n m : Nat) (gs : List Gen) (sel : List Nat) (hm : sel.length = m)
    (hsel : ∀ k ∈ sel, k < n) :
    GenSem m (gs.map (·.select sel)) =
      {y | ∃ x ∈ GenSem n gs, ∀ i < m, y i = x (sel.getD i 0)} := by
  subst hm
  ext y
  rw [mem_genSem_map _ gs _ (fun g => select_kind g sel)]
  simp only [Set.mem_ofPred_eq, mem_GenSem_iff]
  constructor
  · rintro ⟨lam, h1, h2, h3, h4⟩
    refine ⟨fun k => wsum (fun g => g.coord k) gs lam, ⟨lam, h1, h2, h3, fun _ _ => rfl⟩, ?_⟩
    intro i hi
    rw [h4 i hi]
    simp only [select_coord _ sel i hi]
  · rintro ⟨x, ⟨lam, h1, h2, h3, h4⟩, hy⟩
    refine ⟨lam, h1, h2, h3, fun i hi => ?_⟩
    rw [hy i hi, h4 _ (hsel _ (getD_mem_nat sel i hi))]
    simp only [select_coord _ sel i hi]

theorem gensWF_select_aux (n m : Nat) (gs : List Gen) (sel : List Nat) (hm : sel.length = m)
    (hw : gensWF n gs = true) : gensWF m (gs.map (·.select sel)) = true := by
  unfold gensWF
  simp only [List.all_eq_true, Bool.and_eq_true, decide_eq_true_eq, List.mem_map]
  rintro g' ⟨g, hg, rfl⟩
  refine ⟨?_, ?_⟩
  · simp [Gen.select, hm]
  · rw [select_d]; exact (gensWF_mem n gs hw g hg).2

theorem select_hasPoint (gs : List Gen) (sel : List Nat) (hp : ∃ g ∈ gs, g.isPt = true) :
    ∃ g ∈ gs.map (·.select sel), g.isPt = true := by
  obtain ⟨g, hg, hpt⟩ := hp
  exact ⟨g.select sel, List.mem_map.mpr ⟨g, hg, rfl⟩, hpt⟩

end PPLV.Lin.O2

namespace PPLV.Lin
open List

/-- selecting the coordinates `sel` of every generator generates the image of the set
    under `x ↦ (x_{sel 0}, x_{sel 1}, …)` (no well-formedness of `gs` is needed: the same
    multipliers work) -/
theorem genSem_select (n : Nat) (gs : List Gen) (sel : List Nat) (hsel : ∀ k ∈ sel, k < n) :
    GenSem sel.length (gs.map (·.select sel)) =
      {y | ∃ x ∈ GenSem n gs, ∀ (i : Nat) (h : i < sel.length), y i = x (sel[i])} := by
  rw [O2.genSem_select_aux n sel.length gs sel rfl hsel]
  ext y
  simp only [Set.mem_ofPred_eq]
  refine exists_congr fun x => and_congr_right fun _ => forall_congr' fun i =>
    forall_congr' fun hi => ?_
  have : sel.getD i 0 = sel[i] := by simp [List.getD_eq_getElem?_getD, hi]
  rw [this]

/-- the same with `List.getD` -/
theorem genSem_select_getD (n : Nat) (gs : List Gen) (sel : List Nat) (hsel : ∀ k ∈ sel, k < n) :
    GenSem sel.length (gs.map (·.select sel)) =
      {y | ∃ x ∈ GenSem n gs, ∀ i < sel.length, y i = x (sel.getD i 0)} :=
  O2.genSem_select_aux n sel.length gs sel rfl hsel

theorem gensWF_select (n : Nat) (gs : List Gen) (sel : List Nat) (hw : gensWF n gs = true) :
    gensWF sel.length (gs.map (·.select sel)) = true :=
  O2.gensWF_select_aux n sel.length gs sel rfl hw

theorem select_isPt (g : Gen) (sel : List Nat) : (g.select sel).isPt = g.isPt := rfl

theorem select_hasPoint (gs : List Gen) (sel : List Nat) (hp : ∃ g ∈ gs, g.isPt = true) :
    ∃ g ∈ gs.map (·.select sel), g.isPt = true := O2.select_hasPoint gs sel hp

end PPLV.Lin

/-! ### `fold_space_dimensions` -/
namespace PPLV.Lin.O2
open List

theorem foldSel_length (n : Nat) (vars : List Nat) (dest d : Nat) :
    (foldSel n vars dest d).length = (otherVars n vars).length := by
  simp [foldSel]

theorem foldSel_lt (n : Nat) (vars : List Nat) (dest d : Nat) (hd : d < n) :
    ∀ k ∈ foldSel n vars dest d, k < n := by
  intro k hk
  unfold foldSel at hk
  obtain ⟨k0, hk0, rfl⟩ := List.mem_map.mp hk
  split
  · exact hd
  · exact ((mem_otherVars n vars k0).mp hk0).1

theorem mem_foldGenss (n : Nat) (vars : List Nat) (dest : Nat) (gs gs' : List Gen) :
    gs' ∈ foldGenss n vars dest gs ↔
      ∃ d ∈ dest :: vars, gs' = gs.map (·.select (foldSel n vars dest d)) := by
  unfold foldGenss
  simp only [List.mem_map]
  exact ⟨fun ⟨d, hd, h⟩ => ⟨d, hd, h.symm⟩, fun ⟨d, hd, h⟩ => ⟨d, hd, h.symm⟩⟩

theorem foldGenss_ne_nil (n : Nat) (vars : List Nat) (dest : Nat) (gs : List Gen) :
    foldGenss n vars dest gs ≠ [] := by
  simp [foldGenss]

/-- the projection `Q_d` is the set generated by the `d`-th generator list -/
theorem genSem_foldSel (n : Nat) (vars : List Nat) (dest d : Nat) (gs : List Gen) (hd : d < n) :
    GenSem (otherVars n vars).length (gs.map (·.select (foldSel n vars dest d))) =
      {y | ∃ x ∈ GenSem n gs, ∀ i < (otherVars n vars).length,
        y i = x ((foldSel n vars dest d).getD i 0)} :=
  genSem_select_aux n _ gs _ (foldSel_length n vars dest d) (foldSel_lt n vars dest d hd)

end PPLV.Lin.O2

namespace PPLV.Lin
open List

theorem gensWF_foldGens (n : Nat) (vars : List Nat) (dest : Nat) (gs : List Gen)
    (hw : gensWF n gs = true) :
    gensWF (otherVars n vars).length (hullGens (foldGenss n vars dest gs)) = true := by
  apply gensWF_hullGens
  intro gs' hgs'
  obtain ⟨d, _, rfl⟩ := (O2.mem_foldGenss n vars dest gs gs').mp hgs'
  exact O2.gensWF_select_aux n _ gs _ (O2.foldSel_length n vars dest d) hw

theorem foldGens_hasPoint (n : Nat) (vars : List Nat) (dest : Nat) (gs : List Gen)
    (hpt : ∃ g ∈ gs, g.isPt = true) :
    ∃ g ∈ hullGens (foldGenss n vars dest gs), g.isPt = true := by
  apply hullGens_hasPoint _ (O2.foldGenss_ne_nil n vars dest gs)
  intro gs' hgs'
  obtain ⟨d, _, rfl⟩ := (O2.mem_foldGenss n vars dest gs gs').mp hgs'
  exact O2.select_hasPoint gs _ hpt

/-- `fold_space_dimensions(vars, dest)` — the set generated by `hullGens (foldGenss …)`
    is the least polyhedron (closed or NNC) containing every projection `Q_d`, `d ∈ dest :: vars`,
    where `Q_d` reads the kept coordinates of a point of the set, with `d` in the place of `dest`
    (`doc/definitions.dox`: `⊎_d Q_d`) -/
theorem fold_least (n : Nat) (vars : List Nat) (dest : Nat) (gs : List Gen)
    (hw : gensWF n gs = true) (hpt : ∃ g ∈ gs, g.isPt = true) (hdest : dest < n)
    (hvars : ∀ v ∈ vars, v < n) :
    (∀ d ∈ dest :: vars,
      {y | ∃ x ∈ GenSem n gs, ∀ i < (otherVars n vars).length,
          y i = x ((foldSel n vars dest d).getD i 0)}
        ⊆ GenSem (otherVars n vars).length (hullGens (foldGenss n vars dest gs))) ∧
    ∀ cs : List Con, WF (otherVars n vars).length cs →
      (∀ d ∈ dest :: vars,
        {y | ∃ x ∈ GenSem n gs, ∀ i < (otherVars n vars).length,
            y i = x ((foldSel n vars dest d).getD i 0)} ⊆ sem cs) →
      GenSem (otherVars n vars).length (hullGens (foldGenss n vars dest gs)) ⊆ sem cs := by
  have hlt : ∀ d ∈ dest :: vars, d < n := by
    intro d hd
    rcases List.mem_cons.mp hd with rfl | hd
    · exact hdest
    · exact hvars d hd
  have hall : ∀ gs' ∈ foldGenss n vars dest gs,
      gensWF (otherVars n vars).length gs' = true ∧ ∃ g ∈ gs', g.isPt = true := by
    intro gs' hgs'
    obtain ⟨d, _, rfl⟩ := (O2.mem_foldGenss n vars dest gs gs').mp hgs'
    exact ⟨O2.gensWF_select_aux n _ gs _ (O2.foldSel_length n vars dest d) hw,
      O2.select_hasPoint gs _ hpt⟩
  obtain ⟨h1, h2, _⟩ := hullGens_least (otherVars n vars).length (foldGenss n vars dest gs)
    (O2.foldGenss_ne_nil n vars dest gs) hall
  constructor
  · intro d hd
    rw [← O2.genSem_foldSel n vars dest d gs (hlt d hd)]
    exact h1 _ ((O2.mem_foldGenss n vars dest gs _).mpr ⟨d, hd, rfl⟩)
  · intro cs hcs hsub
    apply h2 cs hcs
    intro gs' hgs'
    obtain ⟨d, hd, rfl⟩ := (O2.mem_foldGenss n vars dest gs gs').mp hgs'
    rw [O2.genSem_foldSel n vars dest d gs (hlt d hd)]
    exact hsub d hd

/-- the reference result of `fold_space_dimensions` denotes the generated set of `fold_least` -/
theorem sem_foldGens (p : RefPoly) (vars : List Nat) (dest : Nat) (gs : List Gen)
    (hw : gensWF p.n gs = true) :
    sem (RefPoly.foldGens p vars dest gs).cs =
      GenSem (otherVars p.n vars).length (hullGens (foldGenss p.n vars dest gs)) ∧
    (RefPoly.foldGens p vars dest gs).n = (otherVars p.n vars).length ∧
    WF (otherVars p.n vars).length (RefPoly.foldGens p vars dest gs).cs :=
  ⟨sem_gensToCons _ _ (gensWF_foldGens p.n vars dest gs hw), rfl, gensToCons_wf _ _⟩

end PPLV.Lin

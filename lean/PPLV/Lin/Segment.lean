import PPLV.Lin.GenSpecs

/-! # Segments towards a point of the relaxation

`relax cs` makes every row non-strict.  The half-open segment from a point `y` of `sem (relax cs)`
to a point `x` of `sem cs` stays in `sem cs` (`segment_mem`), and an affine function that is
`≥ c` along it is `≥ c` at `y` (`le_of_segment` in `GenSpecs.lean`): together these say that,
for a non-empty set, `sem (relax cs)` is the topological closure.  Used for `closure`, for `relation_with` a closure
point and for the relaxation step of the termination analysis. -/
namespace PPLV.Lin
open List

/-- the point `s·x + (1−s)·y` of the segment from `y` to `x` -/
def Val.seg (s : Rat) (x y : Val) : Val := fun i => s * x i + (1 - s) * y i

theorem eval_seg (c : Con) (s : Rat) (x y : Val) :
    c.eval (Val.seg s x y) = s * c.eval x + (1 - s) * c.eval y := by
  rw [eval_lin c c.coeffs.length (le_refl _) s (1 - s) x y (Val.seg s x y) (fun i _ => rfl)]
  unfold Con.eval; ring

theorem O2.mem_relax (cs : List Con) (d : Con) :
    d ∈ relax cs ↔ ∃ c ∈ cs, d = { c with strict := false } := by
  unfold relax
  simp only [List.mem_map]
  exact ⟨fun ⟨c, hc, h⟩ => ⟨c, hc, h.symm⟩, fun ⟨c, hc, h⟩ => ⟨c, hc, h.symm⟩⟩

theorem mem_relax_iff (cs : List Con) (y : Val) : y ∈ sem (relax cs) ↔ ∀ c ∈ cs, 0 ≤ c.eval y := by
  refine (Sat_map _ cs y).trans (forall₂_congr fun c _ => ?_)
  simp [Con.sat, Con.eval]

theorem sem_subset_relax (cs : List Con) : sem cs ⊆ sem (relax cs) :=
  fun x hx => (mem_relax_iff cs x).mpr fun c hc => sat_nonneg c x (hx c hc)

/-- the half-open segment from a point of `relax` towards a point of the set stays in the set -/
theorem segment_mem (cs : List Con) (x y : Val) (hx : x ∈ sem cs) (hy : y ∈ sem (relax cs))
    (s : Rat) (hs0 : 0 < s) (hs1 : s ≤ 1) : Val.seg s x y ∈ sem cs := by
  intro c hc
  have h1 := hx c hc
  have h3 : 0 ≤ (1 - s) * c.eval y :=
    mul_nonneg (sub_nonneg.mpr hs1) ((mem_relax_iff cs y).mp hy c hc)
  unfold Con.sat at h1 ⊢
  rw [eval_seg]
  split at h1 <;> rename_i hst
  · rw [if_pos hst]; exact add_pos_of_pos_of_nonneg (mul_pos hs0 h1) h3
  · rw [if_neg hst]; exact add_nonneg (mul_nonneg hs0.le h1) h3

end PPLV.Lin

import PPLV.Lin.CertProofs
import PPLV.Lin.Model

/-! # K1 theorems: tidying, iterated elimination, the deciders -/
namespace PPLV.Lin
open List

/-! ### normalisation -/

theorem gcdList_dvd (as : List Int) : ∀ a ∈ as, ((gcdList as : Nat) : Int) ∣ a := by
  induction as with
  | nil => intro a ha; cases ha
  | cons b bs ih =>
    intro a ha
    rcases List.mem_cons.mp ha with rfl | ha
    · unfold gcdList
      exact Int.natCast_dvd.mpr (Nat.gcd_dvd_left _ _)
    · unfold gcdList
      exact dvd_trans (Int.natCast_dvd_natCast.mpr (Nat.gcd_dvd_right _ _)) (ih a ha)

theorem dot_map_div (g : Int) (as : List Int) (h : ∀ a ∈ as, g ∣ a) (x : Val) :
    (g : Rat) * dot (as.map (· / g)) x = dot as x := by
  induction as generalizing x with
  | nil => simp
  | cons a as ih =>
    have ha : g ∣ a := h a (by simp)
    have hrest : ∀ b ∈ as, g ∣ b := fun b hb => h b (by simp [hb])
    simp only [List.map_cons, dot_cons, mul_add, ih hrest]
    congr 1
    obtain ⟨q, rfl⟩ := ha
    by_cases hg : g = 0
    · subst hg; simp
    · rw [Int.mul_ediv_cancel_left _ hg]; push_cast; ring

theorem eval_normalize (c : Con) :
    ∃ g : Int, 0 < g ∧ ∀ x, c.eval x = (g : Rat) * c.normalize.eval x := by
  unfold Con.normalize
  simp only
  split
  · exact ⟨1, one_pos, fun x => by simp⟩
  · rename_i hg
    set g := Nat.gcd (gcdList c.coeffs) c.k.natAbs with hgdef
    have hgpos : 0 < g := by omega
    refine ⟨(g : Int), by exact_mod_cast hgpos, fun x => ?_⟩
    have hdc : ∀ a ∈ c.coeffs, (g : Int) ∣ a := fun a ha =>
      dvd_trans (Int.natCast_dvd_natCast.mpr (Nat.gcd_dvd_left _ _)) (gcdList_dvd _ a ha)
    have hdk : (g : Int) ∣ c.k := Int.natCast_dvd.mpr (Nat.gcd_dvd_right _ _)
    unfold Con.eval
    simp only
    rw [mul_add]
    have h1 := dot_map_div (g : Int) c.coeffs hdc x
    rw [h1]
    congr 1
    obtain ⟨q, hq⟩ := hdk
    have hgne : (g : Int) ≠ 0 := by exact_mod_cast (Nat.pos_iff_ne_zero.mp hgpos)
    rw [hq, Int.mul_ediv_cancel_left _ hgne]; push_cast; ring

theorem normalize_strict (c : Con) : c.normalize.strict = c.strict := by
  unfold Con.normalize; simp only; split <;> rfl

theorem sat_normalize (c : Con) (x : Val) : c.normalize.sat x ↔ c.sat x := by
  obtain ⟨g, hg, he⟩ := eval_normalize c
  have hg : (0 : Rat) < g := by exact_mod_cast hg
  unfold Con.sat
  rw [normalize_strict, he x]
  split
  · exact (mul_pos_iff_of_pos_left hg).symm
  · exact (mul_nonneg_iff_of_pos_left hg).symm

/-! ### trivial rows, dedup, tidy -/

theorem eval_allZero (c : Con) (h : c.allZero = true) (x : Val) : c.eval x = (c.k : Rat) := by
  unfold Con.allZero at h
  simp [Con.eval, dot_allZero _ h]

theorem sat_trivTrue (c : Con) (h : c.trivTrue = true) (x : Val) : c.sat x := by
  unfold Con.trivTrue at h
  simp only [Bool.and_eq_true] at h
  unfold Con.sat
  rw [eval_allZero c h.1]
  have h2 := h.2
  cases hs : c.strict <;> simp only [hs, if_true, Bool.false_eq_true, if_false, decide_eq_true_eq] at h2 ⊢ <;>
    exact_mod_cast h2

theorem not_sat_trivFalse (c : Con) (h : c.trivFalse = true) (x : Val) : ¬ c.sat x := by
  unfold Con.trivFalse at h
  simp only [Bool.and_eq_true, Bool.not_eq_true'] at h
  unfold Con.sat
  rw [eval_allZero c h.1]
  have h2 := h.2
  cases hs : c.strict <;> simp only [hs, if_true, Bool.false_eq_true, if_false, decide_eq_false_iff_not] at h2 ⊢ <;>
    exact_mod_cast h2

theorem mem_dedup (cs : List Con) (c : Con) : c ∈ dedup cs ↔ c ∈ cs := by
  induction cs with
  | nil => simp [dedup]
  | cons d ds ih =>
    simp only [dedup]
    split
    · rename_i hc
      have hd : d ∈ dedup ds := hc
      constructor
      · intro h; exact List.mem_cons_of_mem _ (ih.mp h)
      · intro h
        rcases List.mem_cons.mp h with rfl | h
        · exact hd
        · exact ih.mpr h
    · simp [ih]

theorem not_sat_falseRow (x : Val) : ¬ falseRow.sat x := by
  unfold Con.sat falseRow Con.eval; simp

theorem tidy0_correct (cs : List Con) (x : Val) : Sat (tidy0 cs) x ↔ Sat cs x := by
  unfold tidy0
  simp only
  split
  · rename_i h
    simp only [List.any_eq_true, List.mem_map] at h
    obtain ⟨c', ⟨c, hc, rfl⟩, hf⟩ := h
    constructor
    · intro h; exact absurd (h falseRow (by simp)) (not_sat_falseRow x)
    · intro h
      exact absurd ((sat_normalize c x).mpr (h c hc)) (not_sat_trivFalse _ hf x)
  · unfold Sat
    constructor
    · intro h c hc
      by_cases ht : c.normalize.trivTrue = true
      · exact (sat_normalize c x).mp (sat_trivTrue _ ht x)
      · apply (sat_normalize c x).mp
        apply h
        rw [mem_dedup]
        simp only [List.mem_filter, List.mem_map, Bool.not_eq_eq_eq_not,
          Bool.not_true]
        exact ⟨⟨c, hc, rfl⟩, by simpa using ht⟩
    · intro h c hc
      rw [mem_dedup] at hc
      simp only [List.mem_filter, List.mem_map] at hc
      obtain ⟨⟨d, hd, rfl⟩, -⟩ := hc
      exact (sat_normalize d x).mpr (h d hd)

/-- `tidy` = `tidy0` followed (for larger systems) by certified pruning -/
theorem tidy_correct (cs : List Con) (x : Val) : Sat (tidy cs) x ↔ Sat cs x := by
  unfold tidy
  simp only
  split
  · exact tidy0_correct cs x
  · rw [pruneRows_correct, List.nil_append]; exact tidy0_correct cs x

/-! ### iterated elimination -/

/-- `x'` agrees with `x` outside the listed variables -/
def AgreeOff (is : List Nat) (x x' : Val) : Prop := ∀ j, j ∉ is → x' j = x j

theorem elimVars_correct (is : List Nat) (cs : List Con) (x : Val) :
    (∃ x', AgreeOff is x x' ∧ Sat cs x') ↔ Sat (elimVars is cs) x := by
  induction is generalizing cs x with
  | nil =>
    simp only [elimVars]
    constructor
    · rintro ⟨x', ha, hs⟩
      have : x' = x := funext fun j => ha j (by simp)
      rwa [this] at hs
    · intro h; exact ⟨x, fun _ _ => rfl, h⟩
  | cons i is ih =>
    simp only [elimVars]
    rw [← ih]
    constructor
    · rintro ⟨x', ha, hs⟩
      refine ⟨x'.update i (x i), ?_, ?_⟩
      · intro j hj
        by_cases hji : j = i
        · subst hji; simp [Val.update]
        · simp only [Val.update, hji, if_false]
          exact ha j (by simp [hji, hj])
      · rw [tidy_correct, ← elimAt_correct]
        refine ⟨x' i, ?_⟩
        have : (x'.update i (x i)).update i (x' i) = x' := by
          funext j; by_cases hji : j = i <;> simp [Val.update, hji]
        rwa [this]
    · rintro ⟨x'', ha, hs⟩
      rw [tidy_correct, ← elimAt_correct] at hs
      obtain ⟨v, hv⟩ := hs
      refine ⟨x''.update i v, ?_, hv⟩
      intro j hj
      simp only [List.mem_cons, not_or] at hj
      simp only [Val.update, hj.1, if_false]
      exact ha j hj.2

theorem sat_agree (c : Con) (x y : Val) (h : ∀ i < c.coeffs.length, x i = y i) :
    c.sat x ↔ c.sat y := by
  unfold Con.sat Con.eval; rw [dot_agree _ x y h]

theorem constOK_iff (cs : List Con) : constOK cs = true ↔ Sat cs Val.zero := by
  unfold constOK Sat
  simp only [List.all_eq_true]
  constructor
  · intro h c hc
    have := h c hc
    unfold Con.sat; rw [eval_zero]
    split at this <;> rename_i hs <;> simp only [decide_eq_true_eq] at this <;> simp only [hs, if_true]
    · exact_mod_cast this
    · simp; exact_mod_cast this
  · intro h c hc
    have := h c hc
    unfold Con.sat at this; rw [eval_zero] at this
    split at this <;> rename_i hs <;> simp only [hs, if_true, decide_eq_true_eq]
    · exact_mod_cast this
    · simp; exact_mod_cast this

theorem feasibleFM_sound (n : Nat) (cs : List Con) (h : feasibleFM n cs = true) : ∃ x, Sat cs x := by
  unfold feasibleFM at h
  rw [constOK_iff, ← elimVars_correct] at h
  obtain ⟨x', -, hs⟩ := h
  exact ⟨x', (tidy_correct cs x').mp hs⟩

/-- complete Fourier–Motzkin decision, for rows over variables `< n` -/
theorem feasibleFM_iff (n : Nat) (cs : List Con) (hwf : WF n cs) :
    feasibleFM n cs = true ↔ ∃ x, Sat cs x := by
  refine ⟨feasibleFM_sound n cs, fun ⟨x, hs⟩ => ?_⟩
  unfold feasibleFM
  rw [constOK_iff, ← elimVars_correct]
  refine ⟨fun j => if j < n then x j else 0, ?_, ?_⟩
  · intro j hj
    have : ¬ j < n := by simpa using hj
    simp [this, Val.zero]
  · rw [tidy_correct]
    intro c hc
    have hlen := hwf c hc
    refine (sat_agree c _ x ?_).mpr (hs c hc)
    intro i hi
    have : i < n := by omega
    simp [this]

/-- a positive answer needs no well-formedness: both branches produce a solution -/
theorem feasible_sound (n : Nat) (cs : List Con) (h : feasible n cs = true) : ∃ x, Sat cs x := by
  unfold feasible at h
  cases hc : certify n cs with
  | none => rw [hc] at h; exact feasibleFM_sound n cs h
  | some b => rw [hc] at h; exact (certify_sound n cs b hc).mp h

/-- **Feasibility is decided**: for rows over variables `< n` (a verified certificate when the
    simplex produced one, complete Fourier–Motzkin elimination otherwise). -/
theorem feasible_iff (n : Nat) (cs : List Con) (hwf : WF n cs) :
    feasible n cs = true ↔ ∃ x, Sat cs x := by
  refine ⟨feasible_sound n cs, fun hx => ?_⟩
  unfold feasible
  cases hc : certify n cs with
  | none => exact (feasibleFM_iff n cs hwf).mpr hx
  | some b => exact (certify_sound n cs b hc).mpr hx

/-- Motzkin multipliers settle `feasible` without running it -/
theorem feasible_eq_false_of_certInfeas (n : Nat) (cs : List Con) (y : List Int)
    (h : certInfeas cs y = true) : feasible n cs = false :=
  Bool.eq_false_iff.mpr fun hf => certInfeas_sound cs y h (feasible_sound n cs hf)

theorem wfB_iff (n : Nat) (cs : List Con) : wfB n cs = true ↔ WF n cs := by
  simp [wfB, WF]

/-- On well-formed rows the certificate search never changes the answer.  For evaluating a
    decider on closed terms this skips the simplex run of `certify` on the whole system (`tidy`
    still calls it on systems of more than 6 rows); `wfB` makes the side condition decidable. -/
theorem feasible_eq_feasibleFM (n : Nat) (cs : List Con) (hwf : wfB n cs = true) :
    feasible n cs = feasibleFM n cs :=
  have h : WF n cs := (wfB_iff n cs).mp hwf
  Bool.eq_iff_iff.mpr ((feasible_iff n cs h).trans (feasibleFM_iff n cs h).symm)

/-! ### well-formedness of built rows -/

theorem WF_append_iff (N : Nat) (as bs : List Con) : WF N (as ++ bs) ↔ WF N as ∧ WF N bs := by
  unfold WF
  simp only [List.mem_append]
  exact ⟨fun h => ⟨fun c hc => h c (Or.inl hc), fun c hc => h c (Or.inr hc)⟩,
    fun h c hc => hc.elim (h.1 c) (h.2 c)⟩

theorem WF_append (N : Nat) (as bs : List Con) (h1 : WF N as) (h2 : WF N bs) : WF N (as ++ bs) :=
  (WF_append_iff N as bs).mpr ⟨h1, h2⟩

theorem WF_flatMap {α} (N : Nat) (l : List α) (f : α → List Con) (h : ∀ a ∈ l, WF N (f a)) :
    WF N (l.flatMap f) := by
  intro c hc
  obtain ⟨a, ha, hc⟩ := List.mem_flatMap.mp hc
  exact h a ha c hc

theorem WF_singleton (N : Nat) (c : Con) (h : c.coeffs.length ≤ N) : WF N [c] := by
  intro d hd
  simp only [List.mem_cons, List.not_mem_nil, or_false] at hd
  subst hd; exact h

theorem WF_eqRows (N : Nat) (cf : List Int) (k : Int) (h : cf.length ≤ N) : WF N (eqRows cf k) := by
  intro c hc
  simp only [eqRows, List.mem_cons, List.not_mem_nil, or_false] at hc
  rcases hc with rfl | rfl <;> simpa using h

/-! ### implication, inclusion, equality -/

theorem implies_iff (n : Nat) (cs : List Con) (c : Con) (hwf : WF n cs) (hc : c.coeffs.length ≤ n) :
    implies n cs c = true ↔ ∀ x, Sat cs x → c.sat x := by
  unfold implies
  have hwf' : WF n (c.neg :: cs) := by
    intro d hd
    rcases List.mem_cons.mp hd with rfl | hd
    · rw [neg_length]; exact hc
    · exact hwf d hd
  rw [Bool.not_eq_true', ← Bool.not_eq_true, feasible_iff n _ hwf']
  constructor
  · intro h x hs
    by_contra hn
    apply h
    refine ⟨x, ?_⟩
    intro d hd
    rcases List.mem_cons.mp hd with rfl | hd
    · exact (sat_neg_iff _ x).mpr hn
    · exact hs d hd
  · rintro h ⟨x, hs⟩
    have h1 : c.neg.sat x := hs _ (by simp)
    have h2 : Sat cs x := fun d hd => hs d (by simp [hd])
    exact (sat_neg_iff c x).mp h1 (h x h2)

theorem subsetB_eq_all_feasibleFM (n : Nat) (cs ds : List Con) (h1 : wfB n cs = true)
    (h2 : wfB n ds = true) : subsetB n cs ds = ds.all fun c => !feasibleFM n (c.neg :: cs) := by
  rw [Bool.eq_iff_iff, subsetB, List.all_eq_true, List.all_eq_true]
  refine forall₂_congr fun c hc => ?_
  rw [implies, feasible_eq_feasibleFM]
  rw [wfB, List.all_eq_true] at h2
  rw [wfB, List.all_cons, neg_length, h2 c hc]
  exact h1

/-- the point set of a system -/
def sem (cs : List Con) : Set Val := {x | Sat cs x}

theorem subsetB_iff (n : Nat) (cs ds : List Con) (h1 : WF n cs) (h2 : WF n ds) :
    subsetB n cs ds = true ↔ sem cs ⊆ sem ds := by
  unfold subsetB
  simp only [List.all_eq_true]
  constructor
  · intro h x hx d hd
    exact (implies_iff n cs d h1 (h2 d hd)).mp (h d hd) x hx
  · intro h d hd
    exact (implies_iff n cs d h1 (h2 d hd)).mpr fun x hx => h hx d hd

theorem equivB_iff (n : Nat) (cs ds : List Con) (h1 : WF n cs) (h2 : WF n ds) :
    equivB n cs ds = true ↔ sem cs = sem ds := by
  unfold equivB
  rw [Bool.and_eq_true, subsetB_iff n cs ds h1 h2, subsetB_iff n ds cs h2 h1]
  exact ⟨fun ⟨a, b⟩ => Set.Subset.antisymm a b, fun h => ⟨h ▸ subset_rfl, h ▸ subset_rfl⟩⟩

theorem isEmptyB_iff (n : Nat) (cs : List Con) (h : WF n cs) :
    isEmptyB n cs = true ↔ sem cs = ∅ := by
  unfold isEmptyB
  rw [Bool.not_eq_true', ← Bool.not_eq_true, feasible_iff n cs h, Set.eq_empty_iff_forall_notMem]
  simp [sem]

theorem disjointB_iff (n : Nat) (cs ds : List Con) (h1 : WF n cs) (h2 : WF n ds) :
    disjointB n cs ds = true ↔ sem cs ∩ sem ds = ∅ := by
  unfold disjointB
  rw [Bool.not_eq_true', ← Bool.not_eq_true, feasible_iff n _ (WF_append n cs ds h1 h2),
    Set.eq_empty_iff_forall_notMem]
  constructor
  · intro h x ⟨hx1, hx2⟩
    apply h
    exact ⟨x, fun c hc => by
      rcases List.mem_append.mp hc with h | h
      · exact hx1 c h
      · exact hx2 c h⟩
  · rintro h ⟨x, hs⟩
    exact h x ⟨fun c hc => hs c (by simp [hc]), fun c hc => hs c (by simp [hc])⟩

end PPLV.Lin

import PPLV.Lin.OpSpecs
import Mathlib.Data.Rat.Floor

/-! # K1: `RefPoly.relCongruence` is the relation with the proper congruence `e ≡ 0 (mod m)`

`sem cs` is convex, hence the values of a linear expression on it form an interval of `ℚ`
(`sem_convex`, `val_interval`).  `sup_spec` / `inf_spec` give the end points of that interval and
whether they belong to it; the rest is arithmetic about multiples of `m` in an interval. -/
namespace PPLV.Lin

/-! ## convexity -/

theorem val_mix (e : LinExpr) (s : Rat) (x y : Val) :
    e.val (fun i => s * x i + (1 - s) * y i) = s * e.val x + (1 - s) * e.val y := by
  unfold LinExpr.val
  rw [dot_lin e.coeffs s (1 - s) x y _ (fun i _ => rfl)]; ring

theorem eval_mix (c : Con) (s : Rat) (x y : Val) :
    c.eval (fun i => s * x i + (1 - s) * y i) = s * c.eval x + (1 - s) * c.eval y := by
  unfold Con.eval
  rw [dot_lin c.coeffs s (1 - s) x y _ (fun i _ => rfl)]; ring

/-- the point set of a constraint system is convex (strict rows included) -/
theorem sem_convex (cs : List Con) (x y : Val) (hx : x ∈ sem cs) (hy : y ∈ sem cs) (s : Rat)
    (h0 : 0 ≤ s) (h1 : s ≤ 1) : (fun i => s * x i + (1 - s) * y i) ∈ sem cs := by
  intro c hc
  have hx' := hx c hc
  have hy' := hy c hc
  unfold Con.sat at *
  rw [eval_mix]
  have h1' : 0 ≤ 1 - s := by linarith
  cases hstr : c.strict
  · simp only [hstr, Bool.false_eq_true, if_false] at hx' hy' ⊢
    have := mul_nonneg h0 hx'
    have := mul_nonneg h1' hy'
    linarith
  · simp only [hstr, if_true] at hx' hy' ⊢
    rcases eq_or_lt_of_le h0 with hs | hs
    · subst hs; simpa using hy'
    · have := mul_pos hs hx'
      have := mul_nonneg h1' hy'.le
      linarith

/-- the values of a linear expression on `sem cs` form an interval -/
theorem val_interval (cs : List Con) (e : LinExpr) (x1 x2 : Val) (h1 : x1 ∈ sem cs)
    (h2 : x2 ∈ sem cs) (v : Rat) (hl : e.val x1 ≤ v) (hu : v ≤ e.val x2) :
    ∃ x ∈ sem cs, e.val x = v := by
  rcases eq_or_lt_of_le (le_trans hl hu) with heq | hlt
  · exact ⟨x1, h1, le_antisymm hl (by rw [heq]; exact hu)⟩
  · have hpos : 0 < e.val x2 - e.val x1 := by linarith
    refine ⟨_, sem_convex cs x1 x2 h1 h2 ((e.val x2 - v) / (e.val x2 - e.val x1))
      (div_nonneg (by linarith) hpos.le) ((div_le_one hpos).mpr (by linarith)), ?_⟩
    rw [val_mix]
    field_simp
    ring

/-! ## the image of `sem cs` under `e.val` -/

/-- `v` is a value of `e` on `sem cs` -/
def Img (cs : List Con) (e : LinExpr) (v : Rat) : Prop := ∃ x ∈ sem cs, e.val x = v

theorem Img.conv {cs : List Con} {e : LinExpr} {v1 v2 v : Rat} (h1 : Img cs e v1)
    (h2 : Img cs e v2) (hl : v1 ≤ v) (hu : v ≤ v2) : Img cs e v := by
  obtain ⟨x1, hx1, rfl⟩ := h1
  obtain ⟨x2, hx2, rfl⟩ := h2
  exact val_interval cs e x1 x2 hx1 hx2 v hl hu

theorem disj_iff (cs : List Con) (e : LinExpr) (m : Int) :
    (∀ x ∈ sem cs, ¬ ∃ z : Int, e.val x = (m : Rat) * z) ↔ ¬ ∃ z : Int, Img cs e ((m : Rat) * z) := by
  constructor
  · rintro h ⟨z, x, hx, hv⟩; exact h x hx ⟨z, hv⟩
  · rintro h x hx ⟨z, hv⟩; exact h ⟨z, x, hx, hv⟩

theorem incl_iff (cs : List Con) (e : LinExpr) (m : Int) :
    (∀ x ∈ sem cs, ∃ z : Int, e.val x = (m : Rat) * z) ↔
      ∀ v, Img cs e v → ∃ z : Int, v = (m : Rat) * z := by
  constructor
  · rintro h v ⟨x, hx, rfl⟩; exact h x hx
  · intro h x hx; exact h _ ⟨x, hx, rfl⟩

/-! ## multiples of `m` in an interval -/

/-- a number strictly between two consecutive multiples of `m` is not a multiple -/
theorem not_mult_between (m : Int) (hm : 0 < m) (z : Int) (δ : Rat) (h0 : 0 < δ) (h1 : δ < m) :
    ¬ ∃ z' : Int, (m : Rat) * z + δ = (m : Rat) * z' := by
  rintro ⟨z', h⟩
  have hmq : (0 : Rat) < m := by exact_mod_cast hm
  rcases le_or_gt z' z with hle | hgt
  · have : (z' : Rat) ≤ z := by exact_mod_cast hle
    have := mul_le_mul_of_nonneg_left this hmq.le
    linarith
  · have : (z : Rat) + 1 ≤ z' := by exact_mod_cast hgt
    have := mul_le_mul_of_nonneg_left this hmq.le
    linarith

/-- a non-degenerate interval contains a non-multiple of `m` -/
theorem exists_nonmult {cs : List Con} {e : LinExpr} (m : Int) (hm : 0 < m) (v0 v1 : Rat)
    (h0 : Img cs e v0) (h1 : Img cs e v1) (hlt : v0 < v1) :
    ∃ v, Img cs e v ∧ ¬ ∃ z : Int, v = (m : Rat) * z := by
  by_cases hmul : ∃ z : Int, v0 = (m : Rat) * z
  · obtain ⟨z, hz⟩ := hmul
    have hmq : (0 : Rat) < m := by exact_mod_cast hm
    refine ⟨v0 + min ((m : Rat) / 2) (v1 - v0), h0.conv h1 ?_ ?_, ?_⟩
    · have : 0 < min ((m : Rat) / 2) (v1 - v0) := lt_min (by linarith) (by linarith)
      linarith
    · have := min_le_right ((m : Rat) / 2) (v1 - v0); linarith
    · rw [hz]
      exact not_mult_between m hm z _ (lt_min (by linarith) (by linarith))
        (lt_of_le_of_lt (min_le_left _ _) (by linarith))
  · exact ⟨v0, h0, hmul⟩

/-- an interval of length `≥ m` contains a multiple of `m` -/
theorem exists_mult {cs : List Con} {e : LinExpr} (m : Int) (hm : 0 < m) (v0 v1 : Rat)
    (h0 : Img cs e v0) (h1 : Img cs e v1) (hlong : v0 + m ≤ v1) :
    ∃ z : Int, Img cs e ((m : Rat) * z) := by
  have hmq : (0 : Rat) < m := by exact_mod_cast hm
  refine ⟨⌊v0 / m⌋ + 1, h0.conv h1 ?_ ?_⟩
  · have := Int.lt_floor_add_one (v0 / (m : Rat))
    rw [div_lt_iff₀ hmq] at this
    push_cast; linarith
  · have := Int.floor_le (v0 / (m : Rat))
    rw [le_div_iff₀ hmq] at this
    push_cast; linarith

/-! ## end points -/

/-- `hi` is the supremum of the image, `att` says whether it is a maximum (`sup_spec`) -/
structure UpB (cs : List Con) (e : LinExpr) (hi : Rat) (att : Bool) : Prop where
  le : ∀ v, Img cs e v → v ≤ hi
  att_t : att = true → Img cs e hi
  att_f : att = false → (∀ v, Img cs e v → v < hi) ∧ ∀ ε : Rat, 0 < ε → ∃ v, Img cs e v ∧ hi - ε < v

/-- `lo` is the infimum of the image, `att` says whether it is a minimum (`inf_spec`) -/
structure LoB (cs : List Con) (e : LinExpr) (lo : Rat) (att : Bool) : Prop where
  le : ∀ v, Img cs e v → lo ≤ v
  att_t : att = true → Img cs e lo
  att_f : att = false → (∀ v, Img cs e v → lo < v) ∧ ∀ ε : Rat, 0 < ε → ∃ v, Img cs e v ∧ v < lo + ε

theorem UpB.of_spec {cs : List Con} {e : LinExpr} {hi : Rat} {att : Bool}
    (h1 : ∀ x ∈ sem cs, e.val x ≤ hi) (h2 : att = true → ∃ x ∈ sem cs, e.val x = hi)
    (h3 : att = false → (∀ x ∈ sem cs, e.val x < hi) ∧
      ∀ ε : Rat, 0 < ε → ∃ x ∈ sem cs, hi - ε < e.val x) : UpB cs e hi att := by
  refine ⟨?_, h2, fun ha => ⟨?_, fun ε hε => ?_⟩⟩
  · rintro v ⟨x, hx, rfl⟩; exact h1 x hx
  · rintro v ⟨x, hx, rfl⟩; exact (h3 ha).1 x hx
  · obtain ⟨x, hx, h⟩ := (h3 ha).2 ε hε; exact ⟨_, ⟨x, hx, rfl⟩, h⟩

theorem LoB.of_spec {cs : List Con} {e : LinExpr} {lo : Rat} {att : Bool}
    (h1 : ∀ x ∈ sem cs, lo ≤ e.val x) (h2 : att = true → ∃ x ∈ sem cs, e.val x = lo)
    (h3 : att = false → (∀ x ∈ sem cs, lo < e.val x) ∧
      ∀ ε : Rat, 0 < ε → ∃ x ∈ sem cs, e.val x < lo + ε) : LoB cs e lo att := by
  refine ⟨?_, h2, fun ha => ⟨?_, fun ε hε => ?_⟩⟩
  · rintro v ⟨x, hx, rfl⟩; exact h1 x hx
  · rintro v ⟨x, hx, rfl⟩; exact (h3 ha).1 x hx
  · obtain ⟨x, hx, h⟩ := (h3 ha).2 ε hε; exact ⟨_, ⟨x, hx, rfl⟩, h⟩

theorem UpB.nonempty {cs : List Con} {e : LinExpr} {hi : Rat} {att : Bool} (h : UpB cs e hi att) :
    ∃ v, Img cs e v := by
  cases hatt : att
  · obtain ⟨v, hv, _⟩ := (h.att_f hatt).2 1 one_pos; exact ⟨v, hv⟩
  · exact ⟨hi, h.att_t hatt⟩

/-- a value above any `v < hi` -/
theorem UpB.above {cs : List Con} {e : LinExpr} {hi : Rat} {att : Bool} (h : UpB cs e hi att)
    (v : Rat) (hv : v < hi) : ∃ w, Img cs e w ∧ v < w := by
  cases hatt : att
  · obtain ⟨w, hw, hlt⟩ := (h.att_f hatt).2 (hi - v) (by linarith)
    exact ⟨w, hw, by linarith⟩
  · exact ⟨hi, h.att_t hatt, hv⟩

/-- a value below any `v > lo` -/
theorem LoB.below {cs : List Con} {e : LinExpr} {lo : Rat} {att : Bool} (h : LoB cs e lo att)
    (v : Rat) (hv : lo < v) : ∃ w, Img cs e w ∧ w < v := by
  cases hatt : att
  · obtain ⟨w, hw, hlt⟩ := (h.att_f hatt).2 (v - lo) (by linarith)
    exact ⟨w, hw, by linarith⟩
  · exact ⟨lo, h.att_t hatt, hv⟩

/-- **the image is the interval from `lo` to `hi`**, end points included as flagged -/
theorem img_char {cs : List Con} {e : LinExpr} {lo hi : Rat} {attL attU : Bool}
    (hL : LoB cs e lo attL) (hU : UpB cs e hi attU) (v : Rat) :
    Img cs e v ↔ (lo < v ∧ v < hi) ∨ (v = lo ∧ attL = true) ∨ (v = hi ∧ attU = true) := by
  constructor
  · intro hv
    rcases eq_or_lt_of_le (hL.le v hv) with h1 | h1
    · right; left
      refine ⟨h1.symm, ?_⟩
      cases hatt : attL
      · exact absurd ((hL.att_f hatt).1 v hv) (by rw [h1]; exact lt_irrefl _)
      · rfl
    · rcases eq_or_lt_of_le (hU.le v hv) with h2 | h2
      · right; right
        refine ⟨h2, ?_⟩
        cases hatt : attU
        · exact absurd ((hU.att_f hatt).1 v hv) (by rw [h2]; exact lt_irrefl _)
        · rfl
      · exact Or.inl ⟨h1, h2⟩
  · rintro (⟨h1, h2⟩ | ⟨rfl, h⟩ | ⟨rfl, h⟩)
    · obtain ⟨w1, hw1, hlt1⟩ := hL.below v h1
      obtain ⟨w2, hw2, hlt2⟩ := hU.above v h2
      exact hw1.conv hw2 hlt1.le hlt2.le
    · exact hL.att_t h
    · exact hU.att_t h

/-! ## integer arithmetic -/

theorem fdiv_bounds (c D : Int) (hD : 0 < D) :
    Int.fdiv c D * D ≤ c ∧ c < (Int.fdiv c D + 1) * D := by
  rw [Int.fdiv_eq_ediv_of_nonneg c hD.le]
  exact ⟨Int.ediv_mul_le c (by omega), Int.lt_ediv_add_one_mul_self c hD⟩

/-- `a/b` is a multiple of `m` iff `b*m ∣ a` -/
theorem mod_zero_iff (a b m : Int) (hb : 0 < b) :
    a % (b * m) = 0 ↔ ∃ z : Int, (a : Rat) / b = (m : Rat) * z := by
  have hbq : (b : Rat) ≠ 0 := by exact_mod_cast hb.ne'
  rw [← Int.dvd_iff_emod_eq_zero]
  constructor
  · rintro ⟨z, hz⟩
    refine ⟨z, ?_⟩
    rw [div_eq_iff hbq, hz]; push_cast; ring
  · rintro ⟨z, hz⟩
    refine ⟨z, ?_⟩
    rw [div_eq_iff hbq] at hz
    have : (a : Rat) = ((b * m * z : Int) : Rat) := by push_cast; rw [hz]; ring
    exact_mod_cast this

/-! ## the two bounded cases -/

/-- degenerate interval: `e` is constantly `hi` on a non-empty set -/
theorem cong_const {cs : List Con} {e : LinExpr} {lo hi : Rat} {attL attU : Bool}
    (hL : LoB cs e lo attL) (hU : UpB cs e hi attU) (heq : lo = hi) (m : Int) :
    ((¬ ∃ z : Int, Img cs e ((m : Rat) * z)) ↔ ¬ ∃ z : Int, hi = (m : Rat) * z) ∧
    ((∀ v, Img cs e v → ∃ z : Int, v = (m : Rat) * z) ↔ ∃ z : Int, hi = (m : Rat) * z) := by
  have hall : ∀ v, Img cs e v → v = hi := fun v hv =>
    le_antisymm (hU.le v hv) (heq ▸ hL.le v hv)
  have hhi : Img cs e hi := by
    obtain ⟨v, hv⟩ := hU.nonempty
    rw [← hall v hv]; exact hv
  refine ⟨not_congr ⟨?_, ?_⟩, ⟨fun h => h hi hhi, ?_⟩⟩
  · rintro ⟨z, hz⟩; exact ⟨z, (hall _ hz).symm⟩
  · rintro ⟨z, hz⟩; exact ⟨z, hz ▸ hhi⟩
  · rintro ⟨z, hz⟩ v hv; exact ⟨z, by rw [hall v hv, hz]⟩

/-- `m * t0` is the least multiple of `m` that can belong to the image; the image meets the
    multiples of `m` iff `m * t0` is below the upper end -/
theorem cong_inside {cs : List Con} {e : LinExpr} (m a b c d : Int) (attL attU : Bool)
    (hm : 0 < m) (hb : 0 < b) (hd : 0 < d) (hL : LoB cs e ((c : Rat) / d) attL)
    (hU : UpB cs e ((a : Rat) / b) attU) (t0 : Int)
    (ht0 : t0 = if Int.fdiv c (d * m) * (d * m) == c
      then (if attL then Int.fdiv c (d * m) else Int.fdiv c (d * m) + 1)
      else Int.fdiv c (d * m) + 1) :
    (if attU then decide (m * t0 * b ≤ a) else decide (m * t0 * b < a)) = true ↔
      ∃ z : Int, Img cs e ((m : Rat) * z) := by
  have hmq : (0 : Rat) < m := by exact_mod_cast hm
  have hbq : (0 : Rat) < b := by exact_mod_cast hb
  have hdq : (0 : Rat) < d := by exact_mod_cast hd
  obtain ⟨hq1, hq2⟩ := fdiv_bounds c (d * m) (Int.mul_pos hd hm)
  generalize Int.fdiv c (d * m) = q at *
  have hq2' : (c : Rat) / d < (m : Rat) * (q + 1) := by
    rw [div_lt_iff₀ hdq]
    have : (c : Rat) < (((q + 1) * (d * m) : Int) : Rat) := by exact_mod_cast hq2
    push_cast at this; linarith
  have key : (c : Rat) / d ≤ (m : Rat) * t0 ∧ (attL = false → (c : Rat) / d < (m : Rat) * t0) ∧
      ∀ z : Int, Img cs e ((m : Rat) * z) → t0 ≤ z := by
    have hsucc : ∀ z : Int, (m : Rat) * q < (m : Rat) * z → q + 1 ≤ z := by
      intro z hz
      have : (q : Rat) < z := lt_of_mul_lt_mul_left hz hmq.le
      have : q < z := by exact_mod_cast this
      omega
    by_cases hex : q * (d * m) = c
    · have hexq : (m : Rat) * q = (c : Rat) / d := by
        rw [eq_div_iff hdq.ne']
        have : ((q * (d * m) : Int) : Rat) = c := by exact_mod_cast hex
        push_cast at this; linarith
      cases hatt : attL
      · have : t0 = q + 1 := by rw [ht0]; simp [hex, hatt]
        subst this
        refine ⟨by push_cast; linarith, fun _ => by push_cast; linarith, fun z hz => hsucc z ?_⟩
        rw [hexq]; exact (hL.att_f hatt).1 _ hz
      · have : t0 = q := by rw [ht0]; simp [hex, hatt]
        subst this
        refine ⟨hexq.ge, fun h => by simp at h, fun z hz => ?_⟩
        have := hL.le _ hz
        rw [← hexq] at this
        have : (t0 : Rat) ≤ z := le_of_mul_le_mul_left this hmq
        exact_mod_cast this
    · have hlt : (m : Rat) * q < (c : Rat) / d := by
        rw [lt_div_iff₀ hdq]
        have : q * (d * m) < c := lt_of_le_of_ne hq1 hex
        have : ((q * (d * m) : Int) : Rat) < c := by exact_mod_cast this
        push_cast at this; linarith
      have : t0 = q + 1 := by rw [ht0]; simp [hex]
      subst this
      refine ⟨by push_cast; linarith, fun _ => by push_cast; linarith, fun z hz => hsucc z ?_⟩
      exact lt_of_lt_of_le hlt (hL.le _ hz)
  obtain ⟨k1, k2, k3⟩ := key
  have hle : m * t0 * b ≤ a ↔ (m : Rat) * t0 ≤ (a : Rat) / b := by
    rw [le_div_iff₀ hbq]
    constructor <;> intro h <;> exact_mod_cast h
  have hlt : m * t0 * b < a ↔ (m : Rat) * t0 < (a : Rat) / b := by
    rw [lt_div_iff₀ hbq]
    constructor <;> intro h <;> exact_mod_cast h
  have hlow : (c : Rat) / d < (m : Rat) * t0 ∨ ((m : Rat) * t0 = (c : Rat) / d ∧ attL = true) := by
    rcases eq_or_lt_of_le k1 with h1 | h1
    · right
      refine ⟨h1.symm, ?_⟩
      cases hattL : attL
      · exact absurd (k2 hattL) (by rw [h1]; exact lt_irrefl _)
      · rfl
    · exact Or.inl h1
  constructor
  · intro hin
    refine ⟨t0, (img_char hL hU _).mpr ?_⟩
    cases hattU : attU
    · rw [hattU] at hin
      simp only [Bool.false_eq_true, if_false, decide_eq_true_eq] at hin
      have h2 := hlt.mp hin
      rcases hlow with h1 | h1
      · exact Or.inl ⟨h1, h2⟩
      · exact Or.inr (Or.inl h1)
    · rw [hattU] at hin
      simp only [if_true, decide_eq_true_eq] at hin
      rcases hlow with h1 | h1
      · rcases eq_or_lt_of_le (hle.mp hin) with h2 | h2
        · exact Or.inr (Or.inr ⟨h2, rfl⟩)
        · exact Or.inl ⟨h1, h2⟩
      · exact Or.inr (Or.inl h1)
  · rintro ⟨z, hz⟩
    have h3 : (t0 : Rat) ≤ z := by exact_mod_cast k3 z hz
    have hmz : (m : Rat) * t0 ≤ (m : Rat) * z := mul_le_mul_of_nonneg_left h3 hmq.le
    cases hattU : attU
    · simp only [Bool.false_eq_true, if_false, decide_eq_true_eq]
      rw [hlt]; exact lt_of_le_of_lt hmz ((hU.att_f hattU).1 _ hz)
    · simp only [if_true, decide_eq_true_eq]
      rw [hle]; exact le_trans hmz (hU.le _ hz)

/-! ## the specification -/

theorem bnot_iff (X : Bool) (P : Prop) (h : X = true ↔ P) : (!X) = true ↔ ¬ P := by
  rw [← h]; cases X <;> simp

/-- **`relCongruence` is exact**: first component ⇔ no point of the polyhedron satisfies
    `e ≡ 0 (mod m)`, second component ⇔ every point does. -/
theorem relCongruence_spec (p : RefPoly) (e : LinExpr) (m : Int) (hp : WF p.n p.cs)
    (he : e.coeffs.length ≤ p.n) (hm : 0 < m) :
    ((p.relCongruence e m).1 = true ↔ ∀ x ∈ sem p.cs, ¬ ∃ z : Int, e.val x = (m : Rat) * z) ∧
    ((p.relCongruence e m).2 = true ↔ ∀ x ∈ sem p.cs, ∃ z : Int, e.val x = (m : Rat) * z) := by
  rw [disj_iff, incl_iff]
  have hmq : (0 : Rat) < m := by exact_mod_cast hm
  have hS := sup_spec p e hp he
  have hI := inf_spec p e hp he
  -- empty set: disjoint and included
  have hempty : sem p.cs = ∅ →
      ((True ↔ ¬ ∃ z : Int, Img p.cs e ((m : Rat) * z)) ∧
       (True ↔ ∀ v, Img p.cs e v → ∃ z : Int, v = (m : Rat) * z)) := by
    intro h
    have hno : ∀ v, ¬ Img p.cs e v := by
      rintro v ⟨x, hx, _⟩; rw [h] at hx; exact hx
    exact ⟨⟨fun _ ⟨z, hz⟩ => hno _ hz, fun _ => trivial⟩,
      ⟨fun _ v hv => absurd hv (hno v), fun _ => trivial⟩⟩
  -- long interval: neither
  have hlong : ∀ v0 v1, Img p.cs e v0 → Img p.cs e v1 → v0 + m ≤ v1 →
      ((false = true ↔ ¬ ∃ z : Int, Img p.cs e ((m : Rat) * z)) ∧
       (false = true ↔ ∀ v, Img p.cs e v → ∃ z : Int, v = (m : Rat) * z)) := by
    intro v0 v1 h0 h1 hl
    obtain ⟨w, hw, hnw⟩ := exists_nonmult m hm v0 v1 h0 h1 (by linarith)
    have hex := exists_mult m hm v0 v1 h0 h1 hl
    exact ⟨⟨fun h => by simp at h, fun h => absurd hex h⟩,
      ⟨fun h => by simp at h, fun h => absurd (h w hw) hnw⟩⟩
  cases hs : p.sup e with
  | empty =>
    simp only [hs] at hS
    simp only [RefPoly.relCongruence, hs]
    exact hempty hS
  | unbounded =>
    simp only [hs] at hS
    obtain ⟨⟨x0, hx0⟩, hub⟩ := hS
    obtain ⟨x1, hx1, hgt⟩ := hub (e.val x0 + m)
    cases hi : p.inf e with
    | empty =>
      simp only [hi] at hI
      simp only [RefPoly.relCongruence, hs, hi]
      exact hempty hI
    | unbounded =>
      simp only [RefPoly.relCongruence, hs, hi]
      exact hlong _ _ ⟨x0, hx0, rfl⟩ ⟨x1, hx1, rfl⟩ hgt.le
    | val c d attL =>
      simp only [RefPoly.relCongruence, hs, hi]
      exact hlong _ _ ⟨x0, hx0, rfl⟩ ⟨x1, hx1, rfl⟩ hgt.le
  | val a b attU =>
    simp only [hs] at hS
    obtain ⟨hb, hS1, hS2, hS3⟩ := hS
    have hU : UpB p.cs e ((a : Rat) / b) attU := UpB.of_spec hS1 hS2 hS3
    cases hi : p.inf e with
    | empty =>
      simp only [hi] at hI
      simp only [RefPoly.relCongruence, hs, hi]
      exact hempty hI
    | unbounded =>
      simp only [hi] at hI
      obtain ⟨⟨x0, hx0⟩, hlb⟩ := hI
      obtain ⟨x1, hx1, hlt⟩ := hlb (e.val x0 - m)
      simp only [RefPoly.relCongruence, hs, hi]
      exact hlong _ _ ⟨x1, hx1, rfl⟩ ⟨x0, hx0, rfl⟩ (by linarith)
    | val c d attL =>
      simp only [hi] at hI
      obtain ⟨hd, hI1, hI2, hI3⟩ := hI
      have hL : LoB p.cs e ((c : Rat) / d) attL := LoB.of_spec hI1 hI2 hI3
      have hbq : (b : Rat) ≠ 0 := by exact_mod_cast hb.ne'
      have hdq : (d : Rat) ≠ 0 := by exact_mod_cast hd.ne'
      have hdeg : a * d = c * b ↔ (c : Rat) / d = (a : Rat) / b := by
        rw [div_eq_div_iff hdq hbq]
        constructor
        · intro h; have : ((a * d : Int) : Rat) = ((c * b : Int) : Rat) := by rw [h]
          push_cast at this; linarith
        · intro h; have : ((a * d : Int) : Rat) = ((c * b : Int) : Rat) := by push_cast; linarith
          exact_mod_cast this
      simp only [RefPoly.relCongruence, hs, hi]
      by_cases hc : a * d = c * b
      · obtain ⟨h1, h2⟩ := cong_const hL hU (hdeg.mp hc) m
        rw [if_pos (by simpa using hc), h1, h2, ← mod_zero_iff a b m hb]
        exact ⟨bnot_iff _ _ decide_eq_true_iff, decide_eq_true_iff⟩
      · have hin := cong_inside m a b c d attL attU hm hb hd hL hU _ rfl
        have hltq : (c : Rat) / d < (a : Rat) / b := by
          obtain ⟨v, hv⟩ := hU.nonempty
          exact lt_of_le_of_ne (le_trans (hL.le v hv) (hU.le v hv)) (fun h => hc (hdeg.mpr h))
        have hmid : ∀ v, (c : Rat) / d < v → v < (a : Rat) / b → Img p.cs e v :=
          fun v h1 h2 => (img_char hL hU v).mpr (Or.inl ⟨h1, h2⟩)
        obtain ⟨w, hw, hnw⟩ := exists_nonmult m hm
          (((c : Rat) / d + (a : Rat) / b) / 2) (((c : Rat) / d + 3 * ((a : Rat) / b)) / 4)
          (hmid _ (by linarith) (by linarith)) (hmid _ (by linarith) (by linarith)) (by linarith)
        rw [if_neg (by simpa using hc)]
        exact ⟨bnot_iff _ _ hin, ⟨fun h => by simp at h, fun h => absurd (h w hw) hnw⟩⟩

/-! evaluations: `0 ≤ x ≤ 1`, `2x+1 ∈ [1,3]` meets `2ℤ` but is not inside; `0 < x < 1`, `2x ∈ (0,2)`
    misses `2ℤ`; `x = 1`, `2x = 2` is inside `2ℤ`. -/
example : RefPoly.relCongruence ⟨false, 1, [geRow [1] 0, geRow [-1] 1]⟩ ⟨[2], 1⟩ 2 = (false, false) := by
  rw [RefPoly.relCongruence, RefPoly.sup_eq_supFM, RefPoly.inf_eq_supFM]; decide +kernel
example : RefPoly.relCongruence ⟨true, 1, [gtRow [1] 0, gtRow [-1] 1]⟩ ⟨[2], 0⟩ 2 = (true, false) := by
  rw [RefPoly.relCongruence, RefPoly.sup_eq_supFM, RefPoly.inf_eq_supFM]; decide +kernel
example : RefPoly.relCongruence ⟨false, 1, [geRow [1] (-1), geRow [-1] 1]⟩ ⟨[2], 0⟩ 2 = (false, true) := by
  rw [RefPoly.relCongruence, RefPoly.sup_eq_supFM, RefPoly.inf_eq_supFM]; decide +kernel

/-- non-vacuity: the hypotheses hold on the first instance and the theorem decides the relation -/
example : ¬ ∀ x ∈ sem [geRow [1] 0, geRow [-1] 1],
    ¬ ∃ z : Int, (⟨[2], 1⟩ : LinExpr).val x = ((2 : Int) : Rat) * z := by
  have h := (relCongruence_spec ⟨false, 1, [geRow [1] 0, geRow [-1] 1]⟩ ⟨[2], 1⟩ 2
    (by intro c hc; simp [geRow] at hc; rcases hc with rfl | rfl <;> simp) (by simp) (by decide)).1
  rw [← h, RefPoly.relCongruence, RefPoly.sup_eq_supFM, RefPoly.inf_eq_supFM]; decide +kernel

end PPLV.Lin

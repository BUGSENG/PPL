import PPLV.Conv.ProofsCompleteAbs1
/-!
# the line case of conversion, and the classical Double Description lemma

* `line_step_complete`: a line `l₀` that does not saturate the new constraint is used as a pivot: every other
  generator is combined with it to land on the hyperplane, and `l₀` itself becomes a ray (inequality) or
  disappears (equality).
* `dd_step_all_pairs`, `dd_step_all_pairs_eq`: the Double Description lemma where *all* pairs of rays on
  opposite sides are combined; no hypothesis on `R` is needed.
-/
namespace PPLV.Conv.Abs

variable {V : Type*} [AddCommGroup V] [Module ℚ V]

/-! ### the line case -/

theorem line_step_decomp (L R L' R' : Set V) (c : V →ₗ[ℚ] ℚ) (l₀ : V)
    (hline : ∀ l ∈ L, l ≠ l₀ → ∃ l' ∈ L', ∃ s t : ℚ, s ≠ 0 ∧ l' = s • l + t • l₀ ∧ c l' = 0)
    (hray : ∀ r ∈ R, ∃ r' ∈ R', ∃ s t : ℚ, 0 < s ∧ r' = s • r + t • l₀ ∧ c r' = 0)
    {y : V} (h : Cone L R y) : ∃ (τ : ℚ) (z : V), Cone L' R' z ∧ c z = 0 ∧ y = z + τ • l₀ := by
  induction h with
  | zero => exact ⟨0, 0, Cone.zero, map_zero c, by rw [zero_smul, add_zero]⟩
  | @line l y t hl _ ih =>
    obtain ⟨τ, z, hz, hcz, e⟩ := ih
    by_cases hl0 : l = l₀
    · exact ⟨τ + t, z, hz, hcz, by rw [e, hl0]; module⟩
    · obtain ⟨l', hl', s, t', hs, hl'e, hcl'⟩ := hline l hl hl0
      have hμ : t / s * s = t := div_mul_cancel₀ _ hs
      generalize t / s = μ at hμ
      refine ⟨τ - μ * t', z + μ • l', Cone.line μ hl' hz, ?_, ?_⟩
      · rw [map_add, map_smul, hcz, hcl', smul_zero, add_zero]
      · rw [e, hl'e, ← hμ]; module
  | @ray r y t hr ht _ ih =>
    obtain ⟨τ, z, hz, hcz, e⟩ := ih
    obtain ⟨r', hr', s, t', hs, hr'e, hcr'⟩ := hray r hr
    have hμ : t / s * s = t := div_mul_cancel₀ _ hs.ne'
    have hμ0 : 0 ≤ t / s := div_nonneg ht hs.le
    generalize t / s = μ at hμ hμ0
    refine ⟨τ - μ * t', z + μ • r', Cone.ray μ hr' hμ0 hz, ?_, ?_⟩
    · rw [map_add, map_smul, hcz, hcr', smul_zero, add_zero]
    · rw [e, hr'e, ← hμ]; module

/-- the line case of conversion -/
theorem line_step_complete (U : Submodule ℚ V) (A : List (ACon V)) (L R L' R' : Set V) (c : ACon V)
    (l₀ : V) (hcomplete : ∀ x ∈ U, InP A x → Cone L R x) (hc : c.f l₀ ≠ 0)
    (hline : ∀ l ∈ L, l ≠ l₀ → ∃ l' ∈ L', ∃ s t : ℚ, s ≠ 0 ∧ l' = s • l + t • l₀ ∧ c.f l' = 0)
    (hray : ∀ r ∈ R, ∃ r' ∈ R', ∃ s t : ℚ, 0 < s ∧ r' = s • r + t • l₀ ∧ c.f r' = 0)
    (hpiv : c.eq = false → ∃ r₀ ∈ R', ∃ s : ℚ, r₀ = s • l₀ ∧ 0 < c.f r₀) :
    ∀ x ∈ U, InP A x → c.holds x → Cone L' R' x := by
  intro x hxU hxA hcx
  obtain ⟨τ, z, hz, hcz, e⟩ := line_step_decomp L R L' R' c.f l₀ hline hray (hcomplete x hxU hxA)
  have hval : c.f x = τ * c.f l₀ := by
    rw [e, map_add, map_smul, hcz, zero_add, smul_eq_mul]
  rw [ACon.holds_iff] at hcx
  cases he : c.eq
  · have h0 : 0 ≤ τ * c.f l₀ := hval ▸ hcx.2 he
    obtain ⟨r₀, hr₀, s₀, hr₀e, hcr₀⟩ := hpiv he
    rw [hr₀e, map_smul, smul_eq_mul] at hcr₀
    have hs₀ : s₀ ≠ 0 := by
      intro h; rw [h, zero_mul] at hcr₀; exact lt_irrefl _ hcr₀
    have hμ : τ / s₀ * s₀ = τ := div_mul_cancel₀ _ hs₀
    generalize τ / s₀ = μ at hμ
    have hμ0 : 0 ≤ μ := by
      by_contra hneg
      have h1 := mul_neg_of_neg_of_pos (not_le.1 hneg) hcr₀
      rw [← hμ] at h0
      linarith
    have e2 : x = z + μ • r₀ := by rw [e, hr₀e, ← hμ]; module
    rw [e2]
    exact Cone.ray μ hr₀ hμ0 hz
  · have h0 : τ * c.f l₀ = 0 := hval ▸ hcx.1 he
    have hτ : τ = 0 := (mul_eq_zero.1 h0).resolve_right hc
    rw [e, hτ, zero_smul, add_zero]
    exact hz

/-! ### all pairs -/

/-- the working generating set: the old rays strictly inside, and the new rays on the hyperplane. -/
def ddW (R R' : Set V) (c : V →ₗ[ℚ] ℚ) : Set V := {g | (g ∈ R ∧ 0 < c g) ∨ (g ∈ R' ∧ c g = 0)}

theorem mem_ddW {R R' : Set V} {c : V →ₗ[ℚ] ℚ} {g : V} :
    g ∈ ddW R R' c ↔ (g ∈ R ∧ 0 < c g) ∨ (g ∈ R' ∧ c g = 0) := Iff.rfl

theorem ddW_nonneg {L R R' : Set V} (c : V →ₗ[ℚ] ℚ) (hcL : ∀ l ∈ L, c l = 0) {u : V}
    (h : Cone L (ddW R R' c) u) : 0 ≤ c u := by
  induction h with
  | zero => exact (map_zero c).ge
  | @line l y t hl _ ih => rw [map_add, map_smul, hcL l hl, smul_zero, add_zero]; exact ih
  | @ray g y t hg ht _ ih =>
    rw [map_add, map_smul, smul_eq_mul]
    have h1 : 0 ≤ c g := by
      rcases mem_ddW.1 hg with ⟨_, h⟩ | ⟨_, h⟩
      · exact h.le
      · exact h.ge
    exact add_nonneg ih (mul_nonneg ht h1)

/-- a non-negative combination of a positive ray `g` and a negative ray `s` with non-negative value is a
non-negative combination of `g` and the hyperplane combination `p`. -/
theorem pair_split {L W : Set V} (c : V →ₗ[ℚ] ℚ) {g s p : V} {a b : ℚ} (hgW : g ∈ W) (hpW : p ∈ W)
    (hb : 0 < b) (hp : p = a • g + b • s) (hcp : c p = 0) (hcg : 0 < c g)
    {τ t : ℚ} (ht : 0 ≤ t) (h : 0 ≤ τ * c g + t * c s) : Cone L W (τ • g + t • s) := by
  have hμ : t / b * b = t := div_mul_cancel₀ _ hb.ne'
  have hμ0 : 0 ≤ t / b := div_nonneg ht hb.le
  generalize t / b = μ at hμ hμ0
  have hcp' : a * c g + b * c s = 0 := by
    rw [hp, map_add, map_smul, map_smul, smul_eq_mul, smul_eq_mul] at hcp; exact hcp
  have hρ : 0 ≤ τ - μ * a := by
    by_contra hneg
    have h2 := mul_neg_of_neg_of_pos (not_le.1 hneg) hcg
    have h1 : μ * (a * c g + b * c s) = 0 := by rw [hcp', mul_zero]
    rw [← hμ] at h
    linarith
  have e : τ • g + t • s = μ • p + (τ - μ * a) • g := by rw [hp, ← hμ]; module
  rw [e]
  exact Cone.ray _ hgW hρ (Cone.of_ray hpW μ hμ0)

/-- adding a negative ray to a point of the working cone, as long as the value stays `≥ 0`. -/
theorem ddW_add_neg {L R R' : Set V} (c : V →ₗ[ℚ] ℚ) (hcL : ∀ l ∈ L, c l = 0)
    (hnew : ∀ r ∈ R, ∀ s ∈ R, 0 < c r → c s < 0 →
      ∃ p ∈ R', ∃ a b : ℚ, 0 < a ∧ 0 < b ∧ p = a • r + b • s ∧ c p = 0)
    {s : V} (hs : s ∈ R) (hcs : c s < 0) {u : V} (hu : Cone L (ddW R R' c) u) :
    ∀ t : ℚ, 0 ≤ t → 0 ≤ c u + t * c s → Cone L (ddW R R' c) (u + t • s) := by
  induction hu with
  | zero =>
    intro t ht h
    rw [map_zero, zero_add] at h
    have h1 : t * c s ≤ 0 := mul_nonpos_of_nonneg_of_nonpos ht hcs.le
    have h2 : t * c s = 0 := le_antisymm h1 h
    have h3 : t = 0 := (mul_eq_zero.1 h2).resolve_right hcs.ne
    rw [h3, zero_smul, add_zero]
    exact Cone.zero
  | @line l y τ hl hy ih =>
    intro t ht h
    rw [map_add, map_smul, hcL l hl, smul_zero, add_zero] at h
    have h1 := Cone.line τ hl (ih t ht h)
    have e : y + τ • l + t • s = y + t • s + τ • l := by abel
    rw [e]
    exact h1
  | @ray g y τ hg hτ hy ih =>
    intro t ht h
    rw [map_add, map_smul, smul_eq_mul] at h
    have e : y + τ • g + t • s = y + t • s + τ • g := by abel
    by_cases h0 : 0 ≤ c y + t * c s
    · rw [e]
      exact Cone.ray τ hg hτ (ih t ht h0)
    · rcases mem_ddW.1 hg with ⟨hgR, hcg⟩ | ⟨hgR', hcg⟩
      · have hcy := ddW_nonneg c hcL hy
        have hneg : 0 < -c s := neg_pos.2 hcs
        have ht1 : c y / (-c s) * (-c s) = c y := div_mul_cancel₀ _ hneg.ne'
        have ht1' : 0 ≤ c y / (-c s) := div_nonneg hcy hneg.le
        generalize c y / (-c s) = t1 at ht1 ht1'
        have h1 : Cone L (ddW R R' c) (y + t1 • s) := ih t1 ht1' (by linarith)
        have ht2 : 0 ≤ t - t1 := by
          by_contra hlt
          have h3 : 0 < t1 - t := by linarith [not_le.1 hlt]
          have h4 := mul_pos h3 hneg
          have h5 := not_le.1 h0
          linarith
        obtain ⟨p, hpR', a, b, _, hb, hp, hcp⟩ := hnew g hgR s hs hcg hcs
        have hsplit : Cone L (ddW R R' c) (τ • g + (t - t1) • s) :=
          pair_split c (mem_ddW.2 (Or.inl ⟨hgR, hcg⟩)) (mem_ddW.2 (Or.inr ⟨hpR', hcp⟩)) hb hp hcp hcg
            ht2 (by linarith)
        have e2 : y + τ • g + t • s = (y + t1 • s) + (τ • g + (t - t1) • s) := by module
        rw [e2]
        exact Cone.add h1 hsplit
      · rw [hcg, mul_zero, add_zero] at h
        exact absurd h h0

/-- the core of the Double Description lemma: everything with value `≥ 0` lies in the working cone. -/
theorem dd_step_core (L R R' : Set V) (c : V →ₗ[ℚ] ℚ) (hcL : ∀ l ∈ L, c l = 0)
    (hkeep : ∀ r ∈ R, c r = 0 → r ∈ R')
    (hnew : ∀ r ∈ R, ∀ s ∈ R, 0 < c r → c s < 0 →
      ∃ p ∈ R', ∃ a b : ℚ, 0 < a ∧ 0 < b ∧ p = a • r + b • s ∧ c p = 0)
    {x : V} (h : Cone L R x) :
    ∀ u, Cone L (ddW R R' c) u → 0 ≤ c (u + x) → Cone L (ddW R R' c) (u + x) := by
  induction h with
  | zero => intro u hu _; rw [add_zero]; exact hu
  | @line l y t hl _ ih =>
    intro u hu h
    have e : u + (y + t • l) = (u + t • l) + y := by abel
    rw [e] at h ⊢
    exact ih _ (Cone.line t hl hu) h
  | @ray r y t hr ht _ ih =>
    intro u hu h
    rcases lt_or_ge (c r) 0 with hcr | hcr
    · have e : u + (y + t • r) = (u + y) + t • r := by abel
      rw [e] at h ⊢
      rw [map_add (f := c) (u + y), map_smul, smul_eq_mul] at h
      have h1 : t * c r ≤ 0 := mul_nonpos_of_nonneg_of_nonpos ht hcr.le
      exact ddW_add_neg c hcL hnew hr hcr (ih u hu (by linarith)) t ht h
    · have hrW : r ∈ ddW R R' c := by
        rcases hcr.eq_or_lt with h0 | hpos
        · exact mem_ddW.2 (Or.inr ⟨hkeep r hr h0.symm, h0.symm⟩)
        · exact mem_ddW.2 (Or.inl ⟨hr, hpos⟩)
      have e : u + (y + t • r) = (u + t • r) + y := by abel
      rw [e] at h ⊢
      exact ih _ (Cone.ray t hrW ht hu) h

/-- the classical Double Description lemma: ALL opposite-side pairs combined, no hypothesis on R -/
theorem dd_step_all_pairs (L R R' : Set V) (c : V →ₗ[ℚ] ℚ) (hcL : ∀ l ∈ L, c l = 0)
    (hkeep : ∀ r ∈ R, 0 ≤ c r → r ∈ R')
    (hnew : ∀ r ∈ R, ∀ s ∈ R, 0 < c r → c s < 0 →
      ∃ p ∈ R', ∃ a b : ℚ, 0 < a ∧ 0 < b ∧ p = a • r + b • s ∧ c p = 0) :
    ∀ x, Cone L R x → 0 ≤ c x → Cone L R' x := by
  intro x hx hcx
  have h := dd_step_core L R R' c hcL (fun r hr h0 => hkeep r hr h0.ge) hnew hx 0 Cone.zero
    (by rw [zero_add]; exact hcx)
  rw [zero_add] at h
  refine Cone.mono (fun _ h => h) ?_ h
  intro g hg
  rcases mem_ddW.1 hg with ⟨hgR, hpos⟩ | ⟨hgR', _⟩
  · exact hkeep g hgR hpos.le
  · exact hgR'

theorem dd_step_all_pairs_eq (L R R' : Set V) (c : V →ₗ[ℚ] ℚ) (hcL : ∀ l ∈ L, c l = 0)
    (hkeep : ∀ r ∈ R, c r = 0 → r ∈ R')
    (hnew : ∀ r ∈ R, ∀ s ∈ R, 0 < c r → c s < 0 →
      ∃ p ∈ R', ∃ a b : ℚ, 0 < a ∧ 0 < b ∧ p = a • r + b • s ∧ c p = 0) :
    ∀ x, Cone L R x → c x = 0 → Cone L R' x := by
  intro x hx hcx
  have h := dd_step_core L R R' c hcL hkeep hnew hx 0 Cone.zero (by rw [zero_add, hcx])
  rw [zero_add] at h
  have hnn : ∀ g ∈ ddW R R' c, 0 ≤ c g := by
    intro g hg
    rcases mem_ddW.1 hg with ⟨_, hpos⟩ | ⟨_, h0⟩
    · exact hpos.le
    · exact h0.ge
  have hface := Cone.face [(⟨false, c⟩ : ACon V)] (L := L) (R := ddW R R' c)
    (fun l hl a ha => by rw [List.mem_singleton.1 ha]; exact hcL l hl)
    (fun g hg a ha => by
      rw [List.mem_singleton.1 ha]; exact ACon.holds_of_nonneg rfl (hnn g hg)) h
  refine Cone.mono (fun _ h => h) ?_ hface
  intro g hg
  obtain ⟨hgW, hsat⟩ := hg
  have hcg : c g = 0 := hsat ⟨false, c⟩ List.mem_cons_self hcx
  rcases mem_ddW.1 hgW with ⟨_, hpos⟩ | ⟨hgR', _⟩
  · exact absurd hcg hpos.ne'
  · exact hgR'

end PPLV.Conv.Abs

import PPLV.Conv.ProofsCompleteAbs1
import Mathlib.Tactic.Linarith
import Mathlib.Tactic.Ring
import Mathlib.Tactic.Module
/-!
# the quick adjacency test of `conversion`, abstractly

In a minimal double description pair (`DDInv`):

* `extreme_ker` — algebraic extremality: a vector of the ambient space on which every saturator of a ray `r`
  vanishes is a multiple of `r` modulo the lines;
* `adjacent_ker` — the same for an adjacent pair: a vector killed by the common saturators of `r` and `s` is
  a combination of `r`, `s` and lines;
* `quick_adjacent_sound` — the quick adjacency test (`Polyhedron_conversion_templates.hh:808-813`): if the
  constraints not saturated by `s` are, but for exactly one, not saturated by `r` either, the pair passes
  the full combinatorial test `Adjacent`.

Elementary: no dimension theory.
-/
namespace PPLV.Conv.Abs

variable {V : Type*} [AddCommGroup V] [Module ℚ V]

/-- every constraint is non-negative on a ray. -/
theorem DDInv.ray_f_nonneg {U : Submodule ℚ V} {A : List (ACon V)} {L R : Set V} (inv : DDInv U A L R)
    {r : V} (hr : r ∈ R) (a : ACon V) (ha : a ∈ A) : 0 ≤ a.f r := by
  have h := inv.raySound r hr a ha
  rw [ACon.holds_iff] at h
  cases hb : a.eq
  · exact h.2 hb
  · exact (h.1 hb).ge

/-- the saturators of `r + s` are the common saturators. -/
theorem DDInv.sat_add_iff {U : Submodule ℚ V} {A : List (ACon V)} {L R : Set V} (inv : DDInv U A L R)
    {r s : V} (hr : r ∈ R) (hs : s ∈ R) (a : ACon V) (ha : a ∈ A) :
    a.f (r + s) = 0 ↔ a.f r = 0 ∧ a.f s = 0 := by
  have h1 := inv.ray_f_nonneg hr a ha
  have h2 := inv.ray_f_nonneg hs a ha
  rw [map_add]
  constructor
  · intro h; constructor <;> linarith
  · rintro ⟨e1, e2⟩; rw [e1, e2, add_zero]

theorem DDInv.inP_add {U : Submodule ℚ V} {A : List (ACon V)} {L R : Set V} (inv : DDInv U A L R)
    {r s : V} (hr : r ∈ R) (hs : s ∈ R) : InP A (r + s) := by
  intro a ha
  have h1 := inv.raySound r hr a ha
  have h2 := inv.raySound s hs a ha
  rw [ACon.holds_iff] at h1 h2 ⊢
  refine ⟨fun hb => ?_, fun hb => ?_⟩
  · rw [map_add, h1.1 hb, h2.1 hb, add_zero]
  · rw [map_add]; exact add_nonneg (h1.2 hb) (h2.2 hb)

theorem extreme_ker {U : Submodule ℚ V} {A : List (ACon V)} {L R : Set V} (inv : DDInv U A L R)
    (r : V) (hr : r ∈ R) (w : V) (hwU : w ∈ U)
    (hw : ∀ a ∈ A, a.f r = 0 → a.f w = 0) : ∃ β : ℚ, ∃ l, Cone L ∅ l ∧ w = β • r + l := by
  obtain ⟨ε, hε, hyP, _⟩ := exists_eps A r w (inv.raySound r hr) hw
  have hyU : r + ε • w ∈ U := U.add_mem (inv.rayU r hr) (U.smul_mem _ hwU)
  have hf := Cone.face A inv.lineSat inv.raySound (inv.complete _ hyU hyP)
  have hsub : {q | q ∈ R ∧ SatSub A (r + ε • w) q} ⊆ {r} := by
    rintro q ⟨hq, hsq⟩
    have : SatSub A r q := fun a ha h0 => hsq a ha (by simp [h0, hw a ha h0])
    exact (inv.antichain r hr q hq this).symm
  obtain ⟨β, _, l, hl, hy⟩ := Cone.single (Cone.mono (Set.Subset.refl L) hsub hf)
  refine ⟨ε⁻¹ * (β - 1), ε⁻¹ • l, Cone.lines_smul _ hl, ?_⟩
  have e1 : w = ε⁻¹ • ((r + ε • w) - r) := by
    rw [add_sub_cancel_left, smul_smul, inv_mul_cancel₀ hε.ne', one_smul]
  rw [e1, hy]
  module

theorem adjacent_ker {U : Submodule ℚ V} {A : List (ACon V)} {L R : Set V} (inv : DDInv U A L R)
    (r s : V) (hr : r ∈ R) (hs : s ∈ R) (hadj : Adjacent A R r s) (w : V) (hwU : w ∈ U)
    (hw : ∀ a ∈ A, a.f r = 0 → a.f s = 0 → a.f w = 0) :
    ∃ α β : ℚ, ∃ l, Cone L ∅ l ∧ w = α • r + β • s + l := by
  have hwx : ∀ a ∈ A, a.f (r + s) = 0 → a.f w = 0 := fun a ha h =>
    hw a ha ((inv.sat_add_iff hr hs a ha).1 h).1 ((inv.sat_add_iff hr hs a ha).1 h).2
  obtain ⟨ε, hε, hyP, _⟩ := exists_eps A (r + s) w (inv.inP_add hr hs) hwx
  have hyU : (r + s) + ε • w ∈ U :=
    U.add_mem (U.add_mem (inv.rayU r hr) (inv.rayU s hs)) (U.smul_mem _ hwU)
  have hf := Cone.face A inv.lineSat inv.raySound (inv.complete _ hyU hyP)
  have hsub : {q | q ∈ R ∧ SatSub A ((r + s) + ε • w) q} ⊆ {q | q = r ∨ q = s} := by
    rintro q ⟨hq, hsq⟩
    exact hadj q hq fun a ha h1 h2 => hsq a ha (by simp [h1, h2, hw a ha h1 h2])
  obtain ⟨α, β, _, _, l, hl, hy⟩ := Cone.pair (Cone.mono (Set.Subset.refl L) hsub hf)
  refine ⟨ε⁻¹ * (α - 1), ε⁻¹ * (β - 1), ε⁻¹ • l, Cone.lines_smul _ hl, ?_⟩
  have e1 : w = ε⁻¹ • (((r + s) + ε • w) - (r + s)) := by
    rw [add_sub_cancel_left, smul_smul, inv_mul_cancel₀ hε.ne', one_smul]
  rw [e1, hy]
  module

theorem quick_adjacent_sound {U : Submodule ℚ V} {A : List (ACon V)} {L R : Set V}
    (inv : DDInv U A L R) (r s : V) (hr : r ∈ R) (hs : s ∈ R) (e : ACon V) (he : e ∈ A)
    (her : e.f r = 0) (hes : e.f s ≠ 0) (hone : ∀ a ∈ A, a.f s ≠ 0 → a.f r ≠ 0 ∨ a = e) :
    Adjacent A R r s := by
  intro q hq hq0
  have hes_pos : 0 < e.f s := lt_of_le_of_ne (inv.ray_f_nonneg hs e he) (Ne.symm hes)
  have heq_nn : 0 ≤ e.f q := inv.ray_f_nonneg hq e he
  obtain ⟨α, hαdef⟩ : ∃ α : ℚ, α = e.f q / e.f s := ⟨_, rfl⟩
  have hα : 0 ≤ α := by rw [hαdef]; exact div_nonneg heq_nn hes_pos.le
  have hwU : q - α • s ∈ U := U.sub_mem (inv.rayU q hq) (U.smul_mem _ (inv.rayU s hs))
  have hw : ∀ a ∈ A, a.f r = 0 → a.f (q - α • s) = 0 := by
    intro a ha h0
    by_cases h1 : a.f s = 0
    · simp [hq0 a ha h0 h1, h1]
    · rcases hone a ha h1 with h | h
      · exact absurd h0 h
      · subst h
        rw [map_sub, map_smul, smul_eq_mul, hαdef, div_mul_cancel₀ _ hes, sub_self]
  obtain ⟨β, l, hl, hwl⟩ := extreme_ker inv r hr _ hwU hw
  have hfq : ∀ a ∈ A, a.f q = α * a.f s + β * a.f r := by
    intro a ha
    have h := congrArg a.f hwl
    simp only [map_sub, map_add, map_smul, smul_eq_mul, Cone.lines_eval a.f (fun l hl => inv.lineSat l hl a ha) hl] at h
    linarith
  rcases hα.eq_or_lt with h0 | hpos
  · left
    have : SatSub A r q := fun a ha h => by rw [hfq a ha, ← h0, h]; ring
    exact (inv.antichain r hr q hq this).symm
  · right
    by_cases hβ : 0 ≤ β
    · have : SatSub A q s := fun a ha h => by
        rw [hfq a ha] at h
        have h1 := inv.ray_f_nonneg hs a ha
        have h2 := mul_nonneg hβ (inv.ray_f_nonneg hr a ha)
        rcases h1.eq_or_lt with h3 | h3
        · exact h3.symm
        · have := mul_pos hpos h3
          linarith
      exact inv.antichain q hq s hs this
    · have : SatSub A s q := fun a ha h => by
        have h1 := inv.ray_f_nonneg hq a ha
        have h2 := inv.ray_f_nonneg hr a ha
        have h3 := hfq a ha
        rw [h, mul_zero, zero_add] at h3
        have : β * a.f r ≤ 0 := mul_nonpos_of_nonpos_of_nonneg (not_le.1 hβ).le h2
        linarith
      exact (inv.antichain s hs q hq this).symm
end PPLV.Conv.Abs

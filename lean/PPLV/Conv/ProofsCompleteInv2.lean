import PPLV.Conv.ProofsCompleteInv
import PPLV.Conv.ProofsCompleteBits
/-!
# the loop invariant of the model gives the abstract invariant `DDInv`
-/
namespace PPLV.Conv
open PPLV.Conv.Abs

theorem bit_true_iff {kept : List LRow} {rows : List DRow} (hsat : RowsSatCorrect kept rows) {d : DRow} (hd : d ∈ rows)
    (j : Nat) : bit d.sat j = true ↔ j < kept.length ∧ scalarProduct (kept.getD j default).v d.row.v ≠ 0 := by
  rw [hsat d hd j]; simp

theorem mem_gens_iff (st : CState) (r : LRow) : r ∈ st.gens ↔ ∃ d ∈ st.rows, d.row = r := by
  unfold CState.gens; rw [List.mem_map]

theorem mem_kept_conOf {kept : List LRow} {a : ACon FV} (ha : a ∈ kept.map conOf) : ∃ s ∈ kept, a = conOf s := by
  obtain ⟨s, hs, rfl⟩ := List.mem_map.mp ha
  exact ⟨s, hs, rfl⟩

/-- a ray row sits at an index at or after `nle`. -/
theorem ray_index {st : CState} (hl : ∀ m d, st.rows[m]? = some d → d.row.le = decide (m < st.nle))
    {d : DRow} (hd : d ∈ st.rows) (hle : d.row.le = false) : ∃ m, st.nle ≤ m ∧ st.rows[m]? = some d := by
  obtain ⟨m, hm⟩ := List.mem_iff_getElem?.mp hd
  refine ⟨m, ?_, hm⟩
  have := hl m d hm
  rw [hle] at this
  by_contra hc
  have : decide (m < st.nle) = true := by simp; omega
  simp_all

/-- the saturators of `d1` are saturators of `d2`: the saturation row of `d2` is inside that of `d1`. -/
theorem subset_of_satSub {kept : List LRow} {rows : List DRow} (hsat : RowsSatCorrect kept rows) {d1 d2 : DRow}
    (h1 : d1 ∈ rows) (h2 : d2 ∈ rows)
    (h : SatSub (kept.map conOf) (emb d1.row.v) (emb d2.row.v)) : subsetOrEqual d2.sat d1.sat = true := by
  rw [subsetOrEqual_iff]
  intro j hj
  obtain ⟨hjl, hne⟩ := (bit_true_iff hsat h2 j).mp hj
  rw [bit_true_iff hsat h1 j]
  refine ⟨hjl, ?_⟩
  intro hz
  apply hne
  have := h (conOf (kept.getD j default)) (List.mem_map.mpr ⟨_, getD_mem_of_lt kept j hjl, rfl⟩)
    (by rw [conOf_f_emb, hz]; simp)
  rw [conOf_f_emb] at this
  exact_mod_cast this

theorem satSub_of_subset {kept : List LRow} {rows : List DRow} (hsat : RowsSatCorrect kept rows) {d1 d2 : DRow}
    (h1 : d1 ∈ rows) (h2 : d2 ∈ rows) (h : subsetOrEqual d2.sat d1.sat = true) :
    SatSub (kept.map conOf) (emb d1.row.v) (emb d2.row.v) := by
  rw [subsetOrEqual_iff] at h
  intro a ha hz
  obtain ⟨s, hs, rfl⟩ := mem_kept_conOf ha
  rw [conOf_f_emb] at hz ⊢
  obtain ⟨j, hj⟩ := List.mem_iff_getElem?.mp hs
  have hjl : j < kept.length := by
    by_contra hc
    rw [List.getElem?_eq_none (by omega)] at hj; cases hj
  have hg : kept.getD j default = s := by rw [List.getD_eq_getElem?_getD, hj]; rfl
  by_contra hne
  have hb : bit d2.sat j = true := by
    rw [bit_true_iff hsat h2 j, hg]
    exact ⟨hjl, fun hc => hne (by rw [hc]; simp)⟩
  have := (bit_true_iff hsat h1 j).mp (h j hb)
  rw [hg] at this
  exact this.2 (by exact_mod_cast hz)

/-- **the invariant of the model is the abstract invariant.** -/
theorem toDDInv (ncols : Nat) (kept : List LRow) (st : CState)
    (hl : ∀ m d, st.rows[m]? = some d → d.row.le = decide (m < st.nle))
    (hP : ∀ d ∈ st.rows, ∀ s ∈ kept, satisfies s d.row) (hsat : RowsSatCorrect kept st.rows)
    (X : CExtra ncols kept st) :
    DDInv (ambient ncols) (kept.map conOf) (linesOf st.gens) (raysOf st.gens) where
  lineU := by
    rintro l ⟨r, hr, _, rfl⟩
    obtain ⟨d, hd, rfl⟩ := (mem_gens_iff st r).mp hr
    exact X.inU d hd
  rayU := by
    rintro l ⟨r, hr, _, rfl⟩
    obtain ⟨d, hd, rfl⟩ := (mem_gens_iff st r).mp hr
    exact X.inU d hd
  lineSat := by
    rintro l ⟨r, hr, hle, rfl⟩ a ha
    obtain ⟨d, hd, rfl⟩ := (mem_gens_iff st r).mp hr
    obtain ⟨s, hs, rfl⟩ := mem_kept_conOf ha
    exact (satisfies_abs s d.row (hP d hd s hs)).2 (Or.inr hle)
  raySound := by
    rintro l ⟨r, hr, _, rfl⟩ a ha
    obtain ⟨d, hd, rfl⟩ := (mem_gens_iff st r).mp hr
    obtain ⟨s, hs, rfl⟩ := mem_kept_conOf ha
    have := satisfies_abs s d.row (hP d hd s hs)
    unfold ACon.holds
    rw [conOf_eq]
    cases hsl : s.le
    · simp only [Bool.false_eq_true, if_false]; exact this.1
    · simp only [if_true]; exact this.2 (Or.inl hsl)
  complete := X.complete
  antichain := by
    rintro r ⟨r1, hr1, hle1, rfl⟩ r' ⟨r2, hr2, hle2, rfl⟩ hsub
    obtain ⟨d1, hd1, rfl⟩ := (mem_gens_iff st r1).mp hr1
    obtain ⟨d2, hd2, rfl⟩ := (mem_gens_iff st r2).mp hr2
    obtain ⟨l, hl1, hl2⟩ := ray_index hl hd1 hle1
    obtain ⟨m, hm1, hm2⟩ := ray_index hl hd2 hle2
    by_cases hlm : l = m
    · subst hlm
      rw [hl2] at hm2
      rw [Option.some.inj hm2]
    · have h1 := subset_of_satSub hsat hd1 hd2 hsub
      have h2 := X.antichain m l d2 d1 hm1 hl1 (fun h => hlm h.symm) hm2 hl2
      rw [h1] at h2; cases h2
  proper := by
    rintro r ⟨r1, hr1, hle1, rfl⟩
    obtain ⟨d, hd, rfl⟩ := (mem_gens_iff st r1).mp hr1
    obtain ⟨m, hm1, hm2⟩ := ray_index hl hd hle1
    obtain ⟨j, hj⟩ := (bitsEmpty_false_iff d.sat).mp (X.proper m d hm1 hm2)
    obtain ⟨hjl, hne⟩ := (bit_true_iff hsat hd j).mp hj
    refine ⟨conOf (kept.getD j default), List.mem_map.mpr ⟨_, getD_mem_of_lt kept j hjl, rfl⟩, ?_⟩
    rw [conOf_f_emb]
    exact_mod_cast hne

end PPLV.Conv

import PPLV.Conv.ProofsCompleteRay2
/-!
# `adjacent` never rejects an adjacent pair

The quick non-adjacency test (:755-799) compares the number of common saturators with
`num_columns - num_lines - 2`; an adjacent pair passes it by the dimension count
`Abs.quick_nonadjacent_sound` (with `Abs.pair_dim` to show the unsigned subtraction does not wrap).
-/
namespace PPLV.Conv
open PPLV.Conv.Abs

theorem mem_take_iff_getElem? {α} (l : List α) (b : Nat) (x : α) :
    x ∈ l.take b ↔ ∃ m, m < b ∧ l[m]? = some x := by
  have := mem_take_drop_iff_getElem? l 0 b x
  simp only [List.drop_zero, Nat.zero_le, true_and] at this
  exact this

/-- the lines of a state are its first `nle` rows. -/
theorem linesOf_eq_take (st : CState) (hl : ∀ m d, st.rows[m]? = some d → d.row.le = decide (m < st.nle)) :
    linesOf st.gens = {x | x ∈ (st.rows.take st.nle).map (fun d => emb d.row.v)} := by
  ext x
  simp only [linesOf, Set.mem_setOf_eq, List.mem_map]
  constructor
  · rintro ⟨r, hr, hle, rfl⟩
    obtain ⟨d, hd, rfl⟩ := (mem_gens_iff st r).mp hr
    obtain ⟨m, hm⟩ := List.mem_iff_getElem?.mp hd
    have := hl m d hm
    rw [hle] at this
    have hmn : m < st.nle := by simpa using this.symm
    exact ⟨d, (mem_take_iff_getElem? _ _ _).mpr ⟨m, hmn, hm⟩, rfl⟩
  · rintro ⟨d, hd, rfl⟩
    obtain ⟨m, hmn, hm⟩ := (mem_take_iff_getElem? _ _ _).mp hd
    refine ⟨d.row, (mem_gens_iff st d.row).mpr ⟨d, List.mem_of_getElem? hm, rfl⟩, ?_, rfl⟩
    rw [hl m d hm]; simpa using hmn

theorem raysOf_iff (st : CState) (hl : ∀ m d, st.rows[m]? = some d → d.row.le = decide (m < st.nle)) (x : FV) :
    x ∈ raysOf st.gens ↔ ∃ d ∈ st.rows.drop st.nle, x = emb d.row.v := by
  simp only [raysOf, Set.mem_setOf_eq]
  constructor
  · rintro ⟨r, hr, hle, rfl⟩
    obtain ⟨d, hd, rfl⟩ := (mem_gens_iff st r).mp hr
    obtain ⟨m, hm1, hm2⟩ := ray_index hl hd hle
    exact ⟨d, (mem_drop_iff_getElem? _ _ _).mpr ⟨m, hm1, hm2⟩, rfl⟩
  · rintro ⟨d, hd, rfl⟩
    obtain ⟨m, hm1, hm2⟩ := (mem_drop_iff_getElem? _ _ _).mp hd
    refine ⟨d.row, (mem_gens_iff st d.row).mpr ⟨d, List.mem_of_getElem? hm2, rfl⟩, ?_, rfl⟩
    rw [hl m d hm2]; simp; omega

namespace RayCtx
variable {ncols : Nat} {srcK : LRow} {kept : List LRow} {st : CState} {R : List DRow} {leb sup : Nat}

/-- the new constraint vanishes on the lines (`rayCase` is entered only when every line saturates it). -/
theorem lines_zero (C : RayCtx ncols srcK kept st R leb sup) : ∀ l ∈ linesOf st.gens, (conOf srcK).f l = 0 := by
  intro l hl
  rw [linesOf_eq_take st C.H.hl] at hl
  obtain ⟨d, hd, rfl⟩ := List.mem_map.mp hl
  rw [conOf_f_emb, ← C.H.hsp d (List.mem_of_mem_take hd), C.P.hz d hd]; simp

theorem sp_val (C : RayCtx ncols srcK kept st R leb sup) {d : DRow} (hd : d ∈ st.rows) :
    (conOf srcK).f (emb d.row.v) = (d.sp : ℚ) := by
  rw [conOf_f_emb, ← C.H.hsp d hd]

/-- the quick non-adjacency test passes for an abstractly adjacent pair on opposite sides. -/
theorem quick_nonadj_pass (C : RayCtx ncols srcK kept st R leb sup) [FiniteDimensional ℚ (ambient ncols)]
    (hfr : Module.finrank ℚ (ambient ncols) = ncols) (hsz : ncols < 2 ^ 64) (hkz : kept.length < 2 ^ 64)
    {i j : Nat} {di dj : DRow} (hi : st.nle ≤ i) (hj : st.nle ≤ j) (ei : R[i]? = some di) (ej : R[j]? = some dj)
    (hpos : 0 < di.sp) (hneg : dj.sp < 0)
    (hadj : Adjacent (kept.map conOf) (raysOf st.gens) (emb di.row.v) (emb dj.row.v)) :
    ¬ usub kept.length (countOnes (bor di.sat dj.sat)) < usub (usub ncols st.nle) 2 := by
  obtain ⟨mi, _, ri⟩ := C.ray hi ei
  obtain ⟨mj, _, rj⟩ := C.ray hj ej
  have hbits : ∀ k, bit (bor di.sat dj.sat) k = true → k < kept.length := by
    intro k hk
    rw [bit_bor] at hk
    rcases (Bool.or_eq_true _ _).mp hk with h | h
    · exact C.bit_lt mi k h
    · exact C.bit_lt mj k h
  have hones : countOnes (bor di.sat dj.sat) ≤ kept.length := by
    rw [countOnes_eq_countP _ _ hbits]
    have := List.countP_le_length (p := fun j => bit (bor di.sat dj.sat) j) (l := List.range kept.length)
    rwa [List.length_range] at this
  -- the common saturators, as a list
  let Zc : List (ACon FV) :=
    ((List.range kept.length).filter (fun k => !bit (bor di.sat dj.sat) k)).map (fun k => conOf (kept.getD k default))
  have hZlen : Zc.length = kept.length - countOnes (bor di.sat dj.sat) := by
    simp only [Zc, List.length_map]
    rw [← List.countP_eq_length_filter, countP_not_bit _ _ hbits]
  have hZc : ∀ a ∈ kept.map conOf, a.f (emb di.row.v) = 0 → a.f (emb dj.row.v) = 0 → a ∈ Zc := by
    intro a ha h1 h2
    obtain ⟨s, hs, rfl⟩ := mem_kept_conOf ha
    obtain ⟨k, hkl, rfl⟩ := kept_index hs
    rw [C.f_zero_iff mi k hkl] at h1
    rw [C.f_zero_iff mj k hkl] at h2
    simp only [Zc, List.mem_map, List.mem_filter, List.mem_range]
    exact ⟨k, ⟨hkl, by rw [bit_bor, h1, h2]; rfl⟩, rfl⟩
  have hLl : ((st.rows.take st.nle).map (fun d => emb d.row.v)).length = st.nle := by
    rw [List.length_map, List.length_take]; exact Nat.min_eq_left C.H.hn
  have h1 := quick_nonadjacent_sound C.inv _ (linesOf_eq_take st C.H.hl) _ _ ri rj hadj Zc hZc
  rw [hfr, hZlen, hLl] at h1
  have h2 := pair_dim C.inv st.nle C.X.rank _ _ ri rj (conOf srcK).f C.lines_zero
    (by rw [C.sp_val mi]; exact_mod_cast hpos) (by rw [C.sp_val mj]; exact_mod_cast hneg)
  rw [hfr] at h2
  rw [usub_eq _ _ hkz hones, usub_eq ncols st.nle hsz (by omega), usub_eq _ 2 (by omega) (by omega)]
  omega

/-- **an abstractly adjacent pair (one row in Q+, one in Q-) gets a positive verdict.** -/
theorem adjacent_of_abs (C : RayCtx ncols srcK kept st R leb sup) [FiniteDimensional ℚ (ambient ncols)]
    (hfr : Module.finrank ℚ (ambient ncols) = ncols) (hsz : ncols < 2 ^ 64) (hkz : kept.length < 2 ^ 64)
    {i j : Nat} {di dj : DRow} (hi : st.nle ≤ i) (hj : st.nle ≤ j) (ei : R[i]? = some di) (ej : R[j]? = some dj)
    (hpos : 0 < di.sp) (hneg : dj.sp < 0)
    (hadj : Adjacent (kept.map conOf) (raysOf st.gens) (emb di.row.v) (emb dj.row.v)) :
    adjacent ncols st.nle kept.length st.rows.length R i j = some (bor di.sat dj.sat) := by
  have gi : R.getD i default = di := getD_of_getElem? R i di default ei
  have gj : R.getD j default = dj := getD_of_getElem? R j dj default ej
  have hq := C.quick_nonadj_pass hfr hsz hkz hi hj ei ej hpos hneg hadj
  unfold adjacent
  simp only [gi, gj]
  rw [if_neg hq]
  split
  · rfl
  · split
    · rename_i hany
      exfalso
      rw [List.any_eq_true] at hany
      obtain ⟨l, hl, hcond⟩ := hany
      rw [List.mem_range'_1] at hl
      have hlR : l < R.length := by rw [C.P.hlen]; omega
      have el : R[l]? = some (R.getD l default) := getElem?_of_lt_getD R l default hlR
      simp only [Bool.and_eq_true, bne_iff_ne, ne_eq] at hcond
      have := C.no_third hi hj hl.1 hcond.1.1 hcond.1.2 ei ej el hadj
      rw [hcond.2] at this; cases this
    · rfl

end RayCtx
end PPLV.Conv

import PPLV.Conv.ProofsCompleteLine2
import PPLV.Conv.ProofsCompleteLine3
import PPLV.Conv.ProofsCompleteAbs3
/-!
# the line case of `conversion` maintains the completeness invariant `CExtra`
-/
namespace PPLV.Conv
open PPLV.Conv.Abs

/-- field `complete` of `CExtra` after the line case: the hypotheses of `Abs.line_step_complete` are
`lineCase_hline`, `lineCase_hray`, `lineCase_hpiv` (`ProofsCompleteLine2.lean`). -/
theorem lineCase_extra_complete (ncols : Nat) (srcK : LRow) (kept : List LRow)
    (st : CState) (inz : Nat) (H : StepHyp srcK st kept) (hinz : inz < st.nle)
    (hbefore : ∀ m d, m < inz → st.rows[m]? = some d → d.sp = 0)
    (hnz : ∃ r, st.rows[inz]? = some r ∧ r.sp ≠ 0) (X : CExtra ncols kept st) :
    ∀ y ∈ ambient ncols, InP ((kept ++ [srcK]).map conOf) y →
      Cone (linesOf (lineCase srcK kept.length st inz).gens) (raysOf (lineCase srcK kept.length st inz).gens) y := by
  obtain ⟨r, hr, hrnz⟩ := hnz
  intro y hy hin
  obtain ⟨h1, h2⟩ := (inP_append_singleton kept srcK y).mp hin
  refine line_step_complete (ambient ncols) (kept.map conOf) (linesOf st.gens) (raysOf st.gens) _ _ (conOf srcK)
    (emb r.row.v) X.complete ?_ (lineCase_hline srcK kept st inz H hinz hbefore r hr hrnz)
    (lineCase_hray srcK kept st inz H hinz hbefore r hr hrnz)
    (lineCase_hpiv srcK kept st inz H hinz r hr hrnz) y hy h1 h2
  rw [conOf_f_emb, ← H.hsp r (List.mem_of_getElem? hr)]
  exact_mod_cast hrnz

/-- **the line case maintains `CExtra`.** -/
theorem lineCase_extra (ncols : Nat) (srcK : LRow) (kept : List LRow) (st : CState) (inz : Nat)
    (H : StepHyp srcK st kept)
    (hinz : inz < st.nle) (hbefore : ∀ m d, m < inz → st.rows[m]? = some d → d.sp = 0)
    (hnz : ∃ r, st.rows[inz]? = some r ∧ r.sp ≠ 0) (hsat : RowsSatCorrect kept st.rows)
    (X : CExtra ncols kept st) : CExtra ncols (kept ++ [srcK]) (lineCase srcK kept.length st inz) where
  inU := lineCase_extra_inU ncols srcK kept st inz H hinz hnz X
  complete := lineCase_extra_complete ncols srcK kept st inz H hinz hbefore hnz X
  antichain := lineCase_extra_antichain ncols srcK kept st inz H hinz hsat X
  proper := lineCase_extra_proper ncols srcK kept st inz H hinz hsat X
  rank := lineCase_extra_rank ncols srcK kept st inz H hinz hbefore hnz X

end PPLV.Conv

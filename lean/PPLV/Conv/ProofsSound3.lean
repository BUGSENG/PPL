import PPLV.Conv.ProofsSound2
import PPLV.Conv.ProofsRay
/-!
# Soundness of `conversion`: the ray case, the step, the loop, the function
-/
namespace PPLV.Conv

theorem keepImage_row (setb : Bool) (newK : Nat) (d : DRow) : (keepImage setb newK d).row = d.row := by
  unfold keepImage; split <;> rfl

/-- a new ray satisfies whatever its two parents satisfy, and saturates the row being processed. -/
theorem newRay_good (srcK : LRow) (P : List LRow) (ri rj : DRow) (sat : BRow)
    (hi : 0 < ri.sp) (hj : rj.sp < 0) (hjl : rj.row.le = false)
    (hspi : ri.sp = scalarProduct srcK.v ri.row.v) (hspj : rj.sp = scalarProduct srcK.v rj.row.v)
    (hPi : ∀ s ∈ P, satisfies s ri.row) (hPj : ∀ s ∈ P, satisfies s rj.row) :
    (newRay ri rj sat).row.le = false ∧ ∀ s ∈ P ++ [srcK], satisfies s (newRay ri rj sat).row := by
  obtain ⟨g, a, b, hg, ha, hb, hab, hle, _, _, hs⟩ := sp_newRay ri rj sat hi hj hjl
  refine ⟨hle, ?_⟩
  intro s hsm
  rcases List.mem_append.mp hsm with hsP | hsK
  · have e := hs s.v
    have h1 := hPi s hsP
    have h2 := hPj s hsP
    by_cases hsl : s.le = true
    · apply satisfies_of_zero
      rw [satisfies_line_zero s ri.row h1 (Or.inl hsl), satisfies_line_zero s rj.row h2 (Or.inl hsl)] at e
      have : g * scalarProduct s.v (newRay ri rj sat).row.v = 0 := by linarith
      rcases Int.mul_eq_zero.mp this with h | h
      · omega
      · exact h
    · have hsl' : s.le = false := by simpa using hsl
      apply satisfies_ray s _ hsl' hle
      have n1 := satisfies_nonneg s ri.row h1
      have n2 := satisfies_nonneg s rj.row h2
      have : 0 ≤ a * scalarProduct s.v rj.row.v + b * scalarProduct s.v ri.row.v :=
        Int.add_nonneg (Int.mul_nonneg (le_of_lt ha) n2) (Int.mul_nonneg (le_of_lt hb) n1)
      by_contra hneg
      have h3 : scalarProduct s.v (newRay ri rj sat).row.v < 0 := by omega
      have : g * scalarProduct s.v (newRay ri rj sat).row.v < 0 := Int.mul_neg_of_pos_of_neg hg h3
      omega
  · have hsK' : s = srcK := by simpa using hsK
    subst hsK'
    apply satisfies_of_zero
    have e := hs s.v
    rw [← hspi, ← hspj, hab] at e
    rcases Int.mul_eq_zero.mp e.symm with h | h
    · omega
    · exact h

/-- **soundness of the ray case**. -/
theorem rayCase_sound (ncols : Nat) (srcK : LRow) (newK : Nat) (P : List LRow) (st : CState) (H : StepHyp srcK st P)
    (hz : ∀ d ∈ st.rows.take st.nle, d.sp = 0) :
    let st' := rayCase ncols srcK newK st
    (∀ d ∈ st'.rows, ∀ s ∈ P ++ [srcK], satisfies s d.row) ∧
    (∀ m d, st'.rows[m]? = some d → d.row.le = decide (m < st'.nle)) ∧ st'.nle ≤ st'.rows.length := by
  intro st'
  obtain ⟨hnle, _, _, tail, hrows, hmem, _⟩ := rayCase_rows ncols srcK newK st H.hn hz
  -- records of `drop nle` are old non-line records
  have hdrop : ∀ d ∈ st.rows.drop st.nle, d ∈ st.rows ∧ d.row.le = false := by
    intro d hd
    obtain ⟨m, hm, hdm⟩ := (mem_drop_iff_getElem? _ _ _).mp hd
    refine ⟨List.mem_of_getElem? hdm, ?_⟩
    rw [H.hl m d hdm]; simp; omega
  -- every record of the tail is good and is not a line
  have htail : ∀ d' ∈ tail, d'.row.le = false ∧ ∀ s ∈ P ++ [srcK], satisfies s d'.row := by
    intro d' hd'
    rcases hmem d' hd' with ⟨d, hd, hsurv, he⟩ | ⟨ri, hri, rj, hrj, hi, hj, he⟩
    · obtain ⟨hdm, hdl⟩ := hdrop d hd
      rw [he, keepImage_row]
      refine ⟨hdl, ?_⟩
      intro s hs
      rcases List.mem_append.mp hs with h | h
      · exact H.hP d hdm s h
      · have : s = srcK := by simpa using h
        subst this
        unfold survives at hsurv
        by_cases hk : s.le = true
        · simp only [hk, if_true] at hsurv
          apply satisfies_of_zero
          rw [← H.hsp d hdm]; exact hsurv
        · have hk' : s.le = false := by simpa using hk
          simp only [hk', Bool.false_eq_true, if_false] at hsurv
          apply satisfies_ray s d.row hk' hdl
          rw [← H.hsp d hdm]; exact hsurv
    · obtain ⟨him, _⟩ := hdrop ri hri
      obtain ⟨hjm, hjl⟩ := hdrop rj hrj
      rw [he]
      exact newRay_good srcK P ri rj _ hi hj hjl (H.hsp ri him) (H.hsp rj hjm) (H.hP ri him) (H.hP rj hjm)
  have hlenTake : (st.rows.take st.nle).length = st.nle := by
    rw [List.length_take]; exact Nat.min_eq_left H.hn
  refine ⟨?_, ?_, ?_⟩
  · intro d hd s hs
    rw [hrows] at hd
    rcases List.mem_append.mp hd with h | h
    · have hdm := List.mem_of_mem_take h
      rcases List.mem_append.mp hs with h2 | h2
      · exact H.hP d hdm s h2
      · have : s = srcK := by simpa using h2
        subst this
        apply satisfies_of_zero
        rw [← H.hsp d hdm]; exact hz d h
    · exact (htail d h).2 s hs
  · intro m d hm
    rw [hrows] at hm
    rw [hnle]
    by_cases hlt : m < st.nle
    · rw [List.getElem?_append_left (by rw [hlenTake]; exact hlt), List.getElem?_take] at hm
      simp only [hlt, if_true] at hm
      exact H.hl m d hm
    · rw [List.getElem?_append_right (by rw [hlenTake]; omega)] at hm
      have := (htail d (List.mem_of_getElem? hm)).1
      rw [this]; simp [hlt]
  · rw [hrows, hnle, List.length_append, hlenTake]; omega

/-- **one iteration of the main loop keeps the invariant of the C++ comments**: every generator
satisfies every constraint processed so far, and the first `num_lines_or_equalities` rows are the lines. -/
theorem conversionStep_sound (ncols : Nat) (srcK : LRow) (st : CState) (P : List LRow)
    (h : ∀ d ∈ st.rows, ∀ s ∈ P, satisfies s d.row)
    (hl : ∀ m d, st.rows[m]? = some d → d.row.le = decide (m < st.nle)) (hn : st.nle ≤ st.rows.length) :
    let st' := conversionStep ncols srcK st
    (∀ d ∈ st'.rows, ∀ s ∈ P ++ [srcK], satisfies s d.row) ∧
    (∀ m d, st'.rows[m]? = some d → d.row.le = decide (m < st'.nle)) ∧ st'.nle ≤ st'.rows.length := by
  have H := stepHyp_withSp srcK st P h hl hn
  rcases conversionStep_cases ncols srcK st hn with ⟨inz, hc, e, hbefore, hp⟩ | ⟨e, hz⟩
  · rw [e]; exact lineCase_sound srcK _ P _ inz H hc hbefore hp
  · rw [e]; exact rayCase_sound ncols srcK _ P _ H hz

/-- the main loop. -/
theorem conversionLoop_sound (ncols : Nat) (rest : List LRow) (st : CState) (P : List LRow)
    (h : ∀ d ∈ st.rows, ∀ s ∈ P, satisfies s d.row)
    (hl : ∀ m d, st.rows[m]? = some d → d.row.le = decide (m < st.nle)) (hn : st.nle ≤ st.rows.length) :
    let st' := conversionLoop ncols rest st
    (∀ d ∈ st'.rows, ∀ s ∈ P ++ rest, satisfies s d.row) ∧
    (∀ m d, st'.rows[m]? = some d → d.row.le = decide (m < st'.nle)) ∧ st'.nle ≤ st'.rows.length := by
  induction rest generalizing st P with
  | nil =>
    simp only [conversionLoop, List.append_nil]
    exact ⟨h, hl, hn⟩
  | cons s rest ih =>
    obtain ⟨h1, h2, h3⟩ := conversionStep_sound ncols s st P h hl hn
    have := ih { conversionStep ncols s st with k := st.k + 1 } (P ++ [s]) h1 h2 h3
    simp only [conversionLoop]
    rw [show P ++ s :: rest = (P ++ [s]) ++ rest by simp]
    exact this

theorem initRows_row (dest : List LRow) (sat : List BRow) (hlen : sat.length = dest.length) :
    (initRows dest sat).map (·.row) = dest := by
  induction dest generalizing sat with
  | nil => simp [initRows]
  | cons d ds ih =>
    cases sat with
    | nil => simp at hlen
    | cons s ss =>
      simp only [initRows, List.zipWith_cons_cons, List.map_cons]
      congr 1
      exact ih ss (by simpa using hlen)

/-- `conversion` in terms of the state `stF` its main loop ends in. -/
theorem conversion_eq (ncols : Nat) (source : List LRow) (start : Nat) (dest : List LRow) (sat : List BRow)
    (nle : Nat) (stF : CState)
    (h : conversionLoop ncols (source.drop start)
      { rows := initRows dest sat, nle := nle, k := start, redundant := [] } = stF) :
    conversion ncols source start dest sat nle =
      { source := removeRows source stF.redundant, dest := stF.rows.map (·.row),
        sat := stF.rows.map (fun d => d.sat.take (source.length - stF.redundant.length)), nle := stF.nle } := by
  subst h; rfl

/-- the state `conversion` starts from: its rows are those of `dest`, the lines first. -/
theorem initRows_layout (dest : List LRow) (sat : List BRow) (nle : Nat) (hlen : sat.length = dest.length)
    (hl : LinesFirst dest nle) (hn : nle ≤ dest.length) :
    (∀ d ∈ initRows dest sat, d.row ∈ dest) ∧
    (∀ m d, (initRows dest sat)[m]? = some d → d.row.le = decide (m < nle)) ∧
    nle ≤ (initRows dest sat).length := by
  have hrow := initRows_row dest sat hlen
  refine ⟨fun d hd => hrow ▸ List.mem_map_of_mem hd, (linesFirst_iff _ nle).mp (hrow.symm ▸ hl), ?_⟩
  rw [← List.length_map (f := (·.row)), hrow]
  exact hn

/-- **`conversion` is sound**: if the generators given satisfy the constraints already processed
(`source[0, start)`) and the first `nle` of them are the lines, then every generator returned satisfies
EVERY row of `source` (`≥ 0`; `= 0` for equalities and for lines), including the rows `conversion`
removes as redundant, and the first `num_lines_or_equalities` returned rows are exactly the lines. -/
theorem conversion_sound' (ncols : Nat) (source : List LRow) (start : Nat) (dest : List LRow) (sat : List BRow)
    (nle : Nat) (h0 : Sound (source.take start) dest) (hl : LinesFirst dest nle) (hn : nle ≤ dest.length)
    (hlen : sat.length = dest.length) :
    Sound source (conversion ncols source start dest sat nle).dest ∧
    LinesFirst (conversion ncols source start dest sat nle).dest (conversion ncols source start dest sat nle).nle := by
  obtain ⟨hmem, hl0, hn0⟩ := initRows_layout dest sat nle hlen hl hn
  obtain ⟨h1, h2, _⟩ := conversionLoop_sound ncols (source.drop start)
    { rows := initRows dest sat, nle := nle, k := start, redundant := [] } (source.take start)
    (fun d hd s hs => h0 d.row (hmem d hd) s hs) hl0 hn0
  rw [List.take_append_drop] at h1
  constructor
  · intro d hd s hs
    obtain ⟨d0, hd0, rfl⟩ := List.mem_map.mp hd
    exact h1 d0 hd0 s hs
  · exact (linesFirst_iff _ _).mpr h2

/-- the matrix `minimize` starts `conversion` from: `n` lines. -/
theorem linesFirst_identity' (n : Nat) : LinesFirst (identityLines n) n := by
  intro i hi
  have hi' : i < n := by simpa [identityLines] using hi
  simp [identityLines, hi']

end PPLV.Conv

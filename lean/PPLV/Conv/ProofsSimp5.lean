import PPLV.Conv.ProofsSimp4
/-!
# `simplify`: the row rewriting `combF` shared by `gauss` and `back_substitute`; `gauss` keeps the solution set
-/
namespace PPLV.Conv

/-- the first `nle` rows exist and are equalities. -/
def GInv (nle : Nat) (rows : List SRow) : Prop :=
  nle ≤ rows.length ∧ ∀ i, i < nle → (rows.getD i default).row.le = true

/-- the rewriting done by `gauss` / `back_substitute` on the rows selected by `P`. -/
def combF (P : Nat → SRow → Prop) [∀ k r, Decidable (P k r)] (piv : LRow) (j : Nat) (k : Nat) (r : SRow) : SRow :=
  if P k r then { r with row := rowLinearCombine r.row piv j } else r

theorem combF_le (P : Nat → SRow → Prop) [∀ k r, Decidable (P k r)] (piv : LRow) (j k : Nat) (r : SRow) :
    (combF P piv j k r).row.le = r.row.le := by
  unfold combF; split
  · exact rowLinearCombine_le _ _ _
  · rfl

theorem combF_of_not (P : Nat → SRow → Prop) [∀ k r, Decidable (P k r)] (piv : LRow) (j k : Nat) (r : SRow)
    (h : ¬ P k r) : combF P piv j k r = r := by
  unfold combF; rw [if_neg h]

theorem GInv_mapIdx (nle : Nat) (rows : List SRow) (P : Nat → SRow → Prop) [∀ k r, Decidable (P k r)]
    (piv : LRow) (j : Nat) (h : GInv nle rows) : GInv nle (rows.mapIdx (combF P piv j)) := by
  refine ⟨by rw [List.length_mapIdx]; exact h.1, fun i hi => ?_⟩
  rw [getD_mapIdx rows _ i (by have := h.1; omega), combF_le]
  exact h.2 i hi

/-- one direction: no hypothesis on the pivot but its sign for the inequalities. -/
theorem holdsIdx_mapIdx_of (rows : List SRow) (P : Nat → SRow → Prop) [∀ k r, Decidable (P k r)]
    (piv : LRow) (j : Nat) (x : Vec) (hpiv : scalarProduct piv.v x = 0)
    (hpos : ∀ m, m < rows.length → P m (rows.getD m default) → (rows.getD m default).row.le = false →
      0 ≤ piv.v.getD j 0)
    (h : HoldsIdx rows x) : HoldsIdx (rows.mapIdx (combF P piv j)) x := by
  intro m hm
  rw [List.length_mapIdx] at hm
  rw [getD_mapIdx rows _ m hm]
  unfold combF
  split
  · rename_i hP
    exact rowLinearCombine_holds_of _ piv j x hpiv (hpos m hm hP) (h m hm)
  · exact h m hm

theorem holdsIdx_mapIdx_iff (rows : List SRow) (P : Nat → SRow → Prop) [∀ k r, Decidable (P k r)]
    (piv : LRow) (j : Nat) (x : Vec)
    (hpiv : HoldsIdx rows x → scalarProduct piv.v x = 0)
    (hpiv' : HoldsIdx (rows.mapIdx (combF P piv j)) x → scalarProduct piv.v x = 0)
    (hnz : piv.v.getD j 0 ≠ 0)
    (hpos : ∀ m, m < rows.length → P m (rows.getD m default) → (rows.getD m default).row.le = false →
      0 < piv.v.getD j 0) :
    HoldsIdx (rows.mapIdx (combF P piv j)) x ↔ HoldsIdx rows x := by
  constructor
  · intro h m hm
    have h0 := hpiv' h
    have := h m (by rw [List.length_mapIdx]; exact hm)
    rw [getD_mapIdx rows _ m hm] at this
    unfold combF at this
    split at this
    · rename_i hP
      exact (rowLinearCombine_holds _ piv j x h0 hnz (hpos m hm hP)).1 this
    · exact this
  · intro h
    exact holdsIdx_mapIdx_of rows P piv j x (hpiv h) (fun m hm hP hf => le_of_lt (hpos m hm hP hf)) h

/-! ## `gauss` -/

/-- the rows after the swap of `gaussColumn`. -/
def gaussSwap (rows : List SRow) (i rank : Nat) : List SRow :=
  if i > rank then swapRowOnly rows i rank else rows

theorem gaussColumn_none (nle j : Nat) (rows : List SRow) (rank : Nat)
    (h : (List.range' rank (nle - rank)).find? (fun i => (rows.getD i default).row.v.getD j 0 != 0) = none) :
    gaussColumn nle j (rows, rank) = (rows, rank) := by
  unfold gaussColumn
  simp only [h]

theorem gaussColumn_some (nle j : Nat) (rows : List SRow) (rank i : Nat)
    (h : (List.range' rank (nle - rank)).find? (fun i => (rows.getD i default).row.v.getD j 0 != 0) = some i) :
    gaussColumn nle j (rows, rank) =
      ((gaussSwap rows i rank).mapIdx
        (combF (fun k r => i + 1 ≤ k ∧ k < nle ∧ r.row.v.getD j 0 ≠ 0)
          ((gaussSwap rows i rank).getD rank default).row j), rank + 1) := by
  unfold gaussColumn
  simp only [h]
  rfl

/-- what a phase of `gauss` keeps. -/
def GKeeps (nle : Nat) (rows out : List SRow) : Prop :=
  out.length = rows.length ∧ GInv nle out ∧ (∀ m, nle ≤ m → out.getD m default = rows.getD m default) ∧
  ∀ x, HoldsIdx out x ↔ HoldsIdx rows x

theorem GKeeps_refl (nle : Nat) (rows : List SRow) (h : GInv nle rows) : GKeeps nle rows rows :=
  ⟨rfl, h, fun _ _ => rfl, fun _ => Iff.rfl⟩

theorem GKeeps_trans (nle : Nat) (a b c : List SRow) (h1 : GKeeps nle a b) (h2 : GKeeps nle b c) :
    GKeeps nle a c :=
  ⟨h2.1.trans h1.1, h2.2.1, fun m hm => (h2.2.2.1 m hm).trans (h1.2.2.1 m hm),
    fun x => (h2.2.2.2 x).trans (h1.2.2.2 x)⟩

theorem gaussSwap_keeps (nle : Nat) (rows : List SRow) (i rank : Nat) (hI : GInv nle rows)
    (hr : rank ≤ i) (hi : i < nle) :
    GKeeps nle rows (gaussSwap rows i rank) ∧
      ((gaussSwap rows i rank).getD rank default).row = (rows.getD i default).row := by
  unfold gaussSwap
  have hil : i < rows.length := by have := hI.1; omega
  have hrl : rank < rows.length := by omega
  split
  · rename_i hgt
    refine ⟨⟨length_swapRowOnly _ _ _, ⟨by rw [length_swapRowOnly]; exact hI.1, fun m hm => ?_⟩,
      fun m hm => getD_swapRowOnly_of_ne rows i rank m hil hrl (by omega) (by omega),
      fun x => holdsIdx_swapRowOnly rows i rank hil hrl x⟩, ?_⟩
    · rw [getD_row_swapRowOnly rows i rank m hil hrl]
      split
      · exact hI.2 i hi
      · split
        · exact hI.2 rank (by omega)
        · exact hI.2 m hm
    · rw [getD_row_swapRowOnly rows i rank rank hil hrl]; simp
  · have e : i = rank := by omega
    subst e
    exact ⟨GKeeps_refl nle rows hI, rfl⟩

theorem gaussColumn_keeps (nle j : Nat) (rows : List SRow) (rank : Nat) (hI : GInv nle rows) :
    GKeeps nle rows (gaussColumn nle j (rows, rank)).1 := by
  cases hf : (List.range' rank (nle - rank)).find? (fun i => (rows.getD i default).row.v.getD j 0 != 0) with
  | none => rw [gaussColumn_none nle j rows rank hf]; exact GKeeps_refl nle rows hI
  | some i =>
    rw [gaussColumn_some nle j rows rank i hf]
    have hmem := List.mem_of_find?_eq_some hf
    have hp := List.find?_some hf
    rw [List.mem_range'_1] at hmem
    have hr : rank ≤ i := hmem.1
    have hi : i < nle := by omega
    obtain ⟨hk, hrow⟩ := gaussSwap_keeps nle rows i rank hI hr hi
    refine GKeeps_trans nle _ _ _ hk ?_
    generalize gaussSwap rows i rank = rows1 at hk hrow ⊢
    have hI1 : GInv nle rows1 := hk.2.1
    have hrl : rank < rows1.length := by have := hI1.1; omega
    have hnz : (rows1.getD rank default).row.v.getD j 0 ≠ 0 := by
      rw [hrow]; simpa using hp
    have hle : (rows1.getD rank default).row.le = true := hI1.2 rank (by omega)
    have hpivot : ∀ (l : List SRow) (x : Vec), rank < l.length →
        (l.getD rank default).row = (rows1.getD rank default).row → HoldsIdx l x →
        scalarProduct (rows1.getD rank default).row.v x = 0 := by
      intro l x hl he h
      have := h rank hl
      rw [he] at this
      unfold holds at this
      rw [if_pos hle] at this; exact this
    refine ⟨List.length_mapIdx, GInv_mapIdx nle rows1 _ _ j hI1, fun m hm => ?_, fun x => ?_⟩
    · by_cases hml : m < rows1.length
      · rw [getD_mapIdx rows1 _ m hml, combF_of_not]
        omega
      · simp [List.getD_eq_getElem?_getD, List.getElem?_mapIdx, List.getElem?_eq_none (Nat.le_of_not_lt hml)]
    · apply holdsIdx_mapIdx_iff rows1 _ _ j x (hpivot rows1 x hrl rfl) _ hnz
      · intro m hm hP hf
        rw [hI1.2 m hP.2.1] at hf; cases hf
      · apply hpivot _ x (by rw [List.length_mapIdx]; exact hrl)
        rw [getD_mapIdx rows1 _ rank hrl, combF_of_not]
        omega

theorem gauss_fold_keeps (nle : Nat) : ∀ (cols : List Nat) (rows : List SRow) (rank : Nat), GInv nle rows →
    GKeeps nle rows (cols.foldl (fun st j => gaussColumn nle j st) (rows, rank)).1
  | [], rows, rank, hI => GKeeps_refl nle rows hI
  | j :: cols, rows, rank, hI => by
    rw [List.foldl_cons]
    have h1 := gaussColumn_keeps nle j rows rank hI
    have h2 := gauss_fold_keeps nle cols (gaussColumn nle j (rows, rank)).1 (gaussColumn nle j (rows, rank)).2 h1.2.1
    exact GKeeps_trans nle _ _ _ h1 h2

/-- `gauss` keeps the solution set, the length, the kinds of the first `nle` rows, and the rows from `nle` on. -/
theorem gauss_keeps (ncols nle : Nat) (rows : List SRow)
    (hle : ∀ i, i < nle → (rows.getD i default).row.le = true) (hn : nle ≤ rows.length) :
    GKeeps nle rows (gauss ncols nle rows).1 :=
  gauss_fold_keeps nle _ rows 0 ⟨hn, hle⟩

theorem gauss_same_set (ncols nle : Nat) (rows : List SRow)
    (hle : ∀ i, i < nle → (rows.getD i default).row.le = true) (hn : nle ≤ rows.length) :
    ∀ x, holdsAll ((gauss ncols nle rows).1.map (·.row)) x ↔ holdsAll (rows.map (·.row)) x := by
  intro x
  rw [holdsAll_iff_idx, holdsAll_iff_idx]
  exact (gauss_keeps ncols nle rows hle hn).2.2.2 x

theorem gauss_length (ncols nle : Nat) (rows : List SRow)
    (hle : ∀ i, i < nle → (rows.getD i default).row.le = true) (hn : nle ≤ rows.length) :
    (gauss ncols nle rows).1.length = rows.length := (gauss_keeps ncols nle rows hle hn).1

theorem gauss_le (ncols nle : Nat) (rows : List SRow)
    (hle : ∀ i, i < nle → (rows.getD i default).row.le = true) (hn : nle ≤ rows.length) :
    ∀ i, i < nle → ((gauss ncols nle rows).1.getD i default).row.le = true :=
  (gauss_keeps ncols nle rows hle hn).2.1.2

theorem gauss_untouched (ncols nle : Nat) (rows : List SRow)
    (hle : ∀ i, i < nle → (rows.getD i default).row.le = true) (hn : nle ≤ rows.length) :
    ∀ m, nle ≤ m → (gauss ncols nle rows).1.getD m default = rows.getD m default :=
  (gauss_keeps ncols nle rows hle hn).2.2.1

end PPLV.Conv

import PPLV.Conv.ProofsCompleteK1a
import PPLV.Conv.ProofsCompleteK1b
/-!
# the K1 decider `checkDD` accepts what `conversion` returns

The obligation `dd` the native driver `pplv_conv` checks on every recorded call of the real code, PROVED for
the model: the homogeneous cone of the source rows (K1 constraints `coneCons source`) and the set generated
by the returned rows plus the origin (K1 generators `coneGens ncols dest`) are the same set of K1
(`conversion_sem_eq_genSem`), so the verified decider answers `true` (`conversion_checkDD`).
-/
namespace PPLV.Conv
open PPLV.Lin PPLV.Conv.Abs

/-- `⊇`, from soundness alone: whatever rows `gens` satisfy the rows `cons`, everything they generate
(with the origin) lies in the cone of `cons`. -/
theorem genSem_subset_sem (n : Nat) (cons gens : List LRow) (hc : ∀ s ∈ cons, s.v.length ≤ n)
    (hg : ∀ g ∈ gens, g.v.length ≤ n) (hs : Sound cons gens) :
    GenSem n (coneGens n gens) ⊆ sem (coneCons cons) := by
  intro x hx
  obtain ⟨q, hq, hcoord⟩ := (genSem_coneGens n gens x).mp hx
  have e := (valVec_eq_iff n gens hg x q).mp hcoord
  show Sat (coneCons cons) x
  rw [sat_coneCons n cons hc x, e]
  have hcone : Cone (linesOf gens) (raysOf gens)
      (∑ j ∈ Finset.range gens.length, q j • emb (gens.getD j default).v) := by
    apply cone_sum
    intro j hj
    have hj' := Finset.mem_range.mp hj
    rw [getD_eq_getElem gens default hj']
    cases hle : gens[j].le with
    | true => left; exact ⟨gens[j], List.getElem_mem hj', hle, rfl⟩
    | false => right; exact ⟨⟨gens[j], List.getElem_mem hj', hle, rfl⟩, hq j hj' hle⟩
  exact Cone.inP (cons.map conOf) hs.lines_zero hs.rays_inP hcone

/-- `⊆`, from completeness: every point of the cone of `cons` is generated. -/
theorem sem_subset_genSem (n : Nat) (cons kept gens : List LRow) (hc : ∀ s ∈ cons, s.v.length ≤ n)
    (hg : ∀ g ∈ gens, g.v.length ≤ n) (hsub : ∀ s ∈ kept, s ∈ cons)
    (hcomp : ∀ y ∈ ambient n, InP (kept.map conOf) y → Cone (linesOf gens) (raysOf gens) y) :
    sem (coneCons cons) ⊆ GenSem n (coneGens n gens) := by
  intro x hx
  have h1 : InP (cons.map conOf) (valVec n x) := (sat_coneCons n cons hc x).mp hx
  have h2 : InP (kept.map conOf) (valVec n x) := by
    intro a ha
    obtain ⟨s, hs, rfl⟩ := List.mem_map.mp ha
    exact h1 _ (List.mem_map_of_mem (hsub s hs))
  obtain ⟨q, hq, e⟩ := cone_coefs gens _ (hcomp _ (valVec_mem n x) h2)
  exact (genSem_coneGens n gens x).mpr ⟨q, hq, (valVec_eq_iff n gens hg x q).mpr e⟩

/-- **the two descriptions denote the same set of K1.** -/
theorem conversion_sem_eq_genSem (ncols : Nat) (source : List LRow) (hsz : ncols < 2 ^ 64) (hsrc : source.length < 2 ^ 64)
    (hlen : ∀ s ∈ source, s.v.length ≤ ncols) :
    sem (coneCons source) = GenSem ncols (coneGens ncols (conversion ncols source 0 (identityLines ncols)
        (List.replicate ncols (List.replicate source.length false)) ncols).dest) := by
  have hg := conversion_identity_length ncols source
  have D := conversion_identity_complete ncols source hsz hsrc
  obtain ⟨hs, _, hsub⟩ := conversion_identity_sound ncols source
  apply Set.Subset.antisymm
  · exact sem_subset_genSem ncols source _ _ hlen hg hsub D.complete
  · exact genSem_subset_sem ncols source _ hlen hg hs

/-- the two systems are well formed for K1. -/
theorem conversion_wf (ncols : Nat) (source : List LRow) (hlen : ∀ s ∈ source, s.v.length ≤ ncols) :
    WF ncols (coneCons source) ∧
    gensWF ncols (coneGens ncols (conversion ncols source 0 (identityLines ncols)
        (List.replicate ncols (List.replicate source.length false)) ncols).dest) = true :=
  ⟨wf_coneCons ncols source hlen, gensWF_coneGens ncols _ (conversion_identity_length ncols source)⟩

/-- **the K1 decider accepts the output of `conversion`**: the homogeneous cone of the source rows and the
cone generated by the returned rows, plus the origin, are the same set of K1. -/
theorem conversion_checkDD (ncols : Nat) (source : List LRow) (hsz : ncols < 2 ^ 64) (hsrc : source.length < 2 ^ 64)
    (hlen : ∀ s ∈ source, s.v.length ≤ ncols) :
    ddHolds ncols source (conversion ncols source 0 (identityLines ncols)
        (List.replicate ncols (List.replicate source.length false)) ncols).dest = true := by
  obtain ⟨h1, h2⟩ := conversion_wf ncols source hlen
  unfold ddHolds
  rw [checkDD_iff_genSem ncols _ _ h1 h2]
  exact conversion_sem_eq_genSem ncols source hsz hsrc hlen

end PPLV.Conv

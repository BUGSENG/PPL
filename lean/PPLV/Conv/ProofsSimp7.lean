import PPLV.Conv.ProofsSimp5
import Mathlib.Algebra.BigOperators.Group.List.Basic
/-!
# `simplify`: the detection of the implicit equalities `eqDetectLoop`
-/
namespace PPLV.Conv

theorem holdsAll_map_iff (rows : List SRow) (x : Vec) :
    holdsAll (rows.map (·.row)) x ↔ ∀ s ∈ rows, holds s.row x := by
  simp [holdsAll]

/-- a functional that vanishes on the generators vanishes on what they generate. -/
theorem generated_sp_zero (gens : List LRow) (x c : Vec) (hg : Generated gens x)
    (h : ∀ g ∈ gens, scalarProduct c g.v = 0) : scalarProduct c x = 0 := by
  obtain ⟨den, coef, hden, _, _, hsum⟩ := hg
  have e := hsum c
  have hz : ((List.range gens.length).map fun i => coef.getD i 0 * scalarProduct c (gens.getD i default).v).sum = 0 := by
    apply List.sum_eq_zero
    intro t ht
    rw [List.mem_map] at ht
    obtain ⟨i, hi, rfl⟩ := ht
    rw [List.mem_range] at hi
    have hm : gens.getD i default ∈ gens := by
      rw [List.mem_iff_getElem?]
      exact ⟨i, getElem?_of_lt_getD gens i default hi⟩
    rw [h _ hm, mul_zero]
  rw [hz] at e
  rcases mul_eq_zero.1 e with h1 | h1
  · omega
  · exact h1

/-- the row written at `Polyhedron_simplify_templates.hh:121-123`. -/
def eqRow (s : SRow) : SRow := { s with row := rowSignNormalize { s.row with le := true } }

theorem eqRow_sat (s : SRow) : (eqRow s).sat = s.sat := rfl
theorem eqRow_le (s : SRow) : (eqRow s).row.le = true := rfl

theorem eqRow_sp_iff (s : SRow) (x : Vec) :
    scalarProduct (eqRow s).row.v x = 0 ↔ scalarProduct s.row.v x = 0 := by
  have e : (eqRow s).row.v = signNormalize s.row.v := by simp [eqRow, rowSignNormalize]
  rw [e]
  obtain ⟨c, hc, hs⟩ := sp_signNormalize s.row.v
  rw [sp_comm, hs x, sp_comm x]
  rcases hc with hc | hc <;> subst hc <;> simp

theorem eqRow_holds_iff (s : SRow) (x : Vec) :
    holds (eqRow s).row x ↔ scalarProduct s.row.v x = 0 := by
  unfold holds
  rw [if_pos (eqRow_le s)]
  exact eqRow_sp_iff s x

/-- the rows with an empty saturation row are saturated by every generator. -/
def EmptySatSaturated (gens : List LRow) (rows : List SRow) : Prop :=
  ∀ r ∈ rows, bitsEmpty r.sat = true → ∀ g ∈ gens, scalarProduct r.row.v g.v = 0

/-- the rows after one detected equality. -/
def eqStepRows (rows : List SRow) (nle i : Nat) : List SRow :=
  if i != nle then swapAt (rows.set i (eqRow (rows.getD i default))) i nle
  else rows.set i (eqRow (rows.getD i default))

theorem eqDetectLoop_succ_pos (n : Nat) (rows : List SRow) (nle i : Nat)
    (h : bitsEmpty (rows.getD i default).sat = true) :
    eqDetectLoop (n + 1) rows nle i = eqDetectLoop n (eqStepRows rows nle i) (nle + 1) (i + 1) := by
  conv_lhs => unfold eqDetectLoop
  simp only [h, if_true]
  rfl

theorem eqDetectLoop_succ_neg (n : Nat) (rows : List SRow) (nle i : Nat)
    (h : ¬ bitsEmpty (rows.getD i default).sat = true) :
    eqDetectLoop (n + 1) rows nle i = eqDetectLoop n rows nle (i + 1) := by
  conv_lhs => unfold eqDetectLoop
  simp only [h, Bool.false_eq_true, if_false]

theorem mem_eqStepRows (rows : List SRow) (nle i : Nat) (s : SRow) :
    s ∈ eqStepRows rows nle i ↔ s ∈ rows.set i (eqRow (rows.getD i default)) := by
  unfold eqStepRows
  split
  · exact mem_swapAt _ _ _ _
  · exact Iff.rfl

/-- a new row is an old row or the equality made of row `i`. -/
theorem mem_set_eqRow (rows : List SRow) (i : Nat) (s : SRow)
    (h : s ∈ rows.set i (eqRow (rows.getD i default))) :
    s ∈ rows ∨ (i < rows.length ∧ s = eqRow (rows.getD i default)) := by
  by_cases hi : i < rows.length
  · rcases List.mem_or_eq_of_mem_set h with h1 | h1
    · exact Or.inl h1
    · exact Or.inr ⟨hi, h1⟩
  · rw [List.set_eq_of_length_le (Nat.le_of_not_lt hi)] at h
    exact Or.inl h

/-- an old row is still there or it was row `i` and its equality is there. -/
theorem mem_set_eqRow' (rows : List SRow) (i : Nat) (s : SRow) (h : s ∈ rows) :
    s ∈ rows.set i (eqRow (rows.getD i default)) ∨
      (s = rows.getD i default ∧ eqRow s ∈ rows.set i (eqRow (rows.getD i default))) := by
  obtain ⟨m, hm, rfl⟩ := List.mem_iff_getElem.1 h
  by_cases e : m = i
  · subst e
    right
    have e1 : rows.getD m default = rows[m] :=
      getD_of_getElem? rows m rows[m] default (List.getElem?_eq_getElem hm)
    refine ⟨e1.symm, ?_⟩
    rw [e1, List.mem_iff_getElem?]
    exact ⟨m, by rw [List.getElem?_set_self hm]⟩
  · left
    rw [List.mem_iff_getElem?]
    exact ⟨m, by rw [List.getElem?_set_ne (Ne.symm e), List.getElem?_eq_getElem hm]⟩

theorem eqStepRows_saturated (gens : List LRow) (rows : List SRow) (nle i : Nat)
    (hb : bitsEmpty (rows.getD i default).sat = true) (hH : EmptySatSaturated gens rows) :
    EmptySatSaturated gens (eqStepRows rows nle i) := by
  intro r hr hre g hg
  rw [mem_eqStepRows] at hr
  rcases mem_set_eqRow rows i r hr with h1 | ⟨hi, h1⟩
  · exact hH r h1 hre g hg
  · subst h1
    rw [eqRow_sp_iff]
    exact hH _ (getD_mem_of_lt rows i hi) hb g hg

theorem eqStepRows_sound (gens : List LRow) (rows : List SRow) (nle i : Nat)
    (hb : bitsEmpty (rows.getD i default).sat = true) (hH : EmptySatSaturated gens rows)
    (x : Vec) (hx : Generated gens x) (h : ∀ s ∈ rows, holds s.row x) :
    ∀ s ∈ eqStepRows rows nle i, holds s.row x := by
  intro s hs
  rw [mem_eqStepRows] at hs
  rcases mem_set_eqRow rows i s hs with h1 | ⟨hi, h1⟩
  · exact h s h1
  · subst h1
    rw [eqRow_holds_iff]
    exact generated_sp_zero gens x _ hx (hH _ (getD_mem_of_lt rows i hi) hb)

theorem eqStepRows_complete (rows : List SRow) (nle i : Nat) (x : Vec)
    (h : ∀ s ∈ eqStepRows rows nle i, holds s.row x) : ∀ s ∈ rows, holds s.row x := by
  intro s hs
  rcases mem_set_eqRow' rows i s hs with h1 | ⟨_, h1⟩
  · exact h s ((mem_eqStepRows rows nle i s).2 h1)
  · have := h _ ((mem_eqStepRows rows nle i _).2 h1)
    rw [eqRow_holds_iff] at this
    unfold holds
    split
    · exact this
    · rw [this]

/-- the implicit equalities: nothing generated by `gens` is lost, nothing is gained. -/
theorem eqDetectLoop_sets (gens : List LRow) : ∀ (n : Nat) (rows : List SRow) (nle i : Nat),
    EmptySatSaturated gens rows →
    EmptySatSaturated gens (eqDetectLoop n rows nle i).1 ∧
    (∀ x, Generated gens x → (∀ s ∈ rows, holds s.row x) → ∀ s ∈ (eqDetectLoop n rows nle i).1, holds s.row x) ∧
    (∀ x, (∀ s ∈ (eqDetectLoop n rows nle i).1, holds s.row x) → ∀ s ∈ rows, holds s.row x)
  | 0, rows, nle, i => fun hH => ⟨hH, fun _ _ h => h, fun _ h => h⟩
  | n + 1, rows, nle, i => fun hH => by
    by_cases hb : bitsEmpty (rows.getD i default).sat = true
    · rw [eqDetectLoop_succ_pos n rows nle i hb]
      obtain ⟨i1, i2, i3⟩ := eqDetectLoop_sets gens n (eqStepRows rows nle i) (nle + 1) (i + 1)
        (eqStepRows_saturated gens rows nle i hb hH)
      exact ⟨i1, fun x hx h => i2 x hx (eqStepRows_sound gens rows nle i hb hH x hx h),
        fun x h => eqStepRows_complete rows nle i x (i3 x h)⟩
    · rw [eqDetectLoop_succ_neg n rows nle i hb]
      exact eqDetectLoop_sets gens n rows nle (i + 1) hH

theorem eqDetectLoop_sound (gens : List LRow) (n : Nat) (rows : List SRow) (nle i : Nat)
    (hH : ∀ r ∈ rows, bitsEmpty r.sat = true → ∀ g ∈ gens, scalarProduct r.row.v g.v = 0) :
    ∀ x, Generated gens x → holdsAll (rows.map (·.row)) x →
      holdsAll ((eqDetectLoop n rows nle i).1.map (·.row)) x := by
  intro x hx
  rw [holdsAll_map_iff, holdsAll_map_iff]
  exact (eqDetectLoop_sets gens n rows nle i hH).2.1 x hx

theorem eqDetectLoop_complete (n : Nat) (rows : List SRow) (nle i : Nat) :
    ∀ x, holdsAll ((eqDetectLoop n rows nle i).1.map (·.row)) x → holdsAll (rows.map (·.row)) x := by
  intro x
  rw [holdsAll_map_iff, holdsAll_map_iff]
  exact (eqDetectLoop_sets [] n rows nle i (fun _ _ _ g hg => by cases hg)).2.2 x

/-! ## the layout after the detection -/

theorem countLeadingLe_spec : ∀ (l : List SRow),
    countLeadingLe l ≤ l.length ∧ ∀ i, i < countLeadingLe l → (l.getD i default).row.le = true
  | [] => ⟨Nat.le_refl _, fun i hi => by simp [countLeadingLe] at hi⟩
  | r :: rs => by
    obtain ⟨h1, h2⟩ := countLeadingLe_spec rs
    unfold countLeadingLe
    split
    · rename_i hr
      refine ⟨by simp; omega, fun i hi => ?_⟩
      cases i with
      | zero => simpa using hr
      | succ i => simpa using h2 i (by omega)
    · exact ⟨Nat.zero_le _, fun i hi => by omega⟩

theorem eqStepRows_GInv (rows : List SRow) (nle i : Nat) (hni : nle ≤ i) (hi : i < rows.length)
    (hI : GInv nle rows) : (eqStepRows rows nle i).length = rows.length ∧ GInv (nle + 1) (eqStepRows rows nle i) := by
  have hl : (rows.set i (eqRow (rows.getD i default))).length = rows.length := List.length_set
  unfold eqStepRows
  split
  · rename_i hne
    have hne' : i ≠ nle := by simpa using hne
    refine ⟨by rw [length_swapAt, hl], by rw [length_swapAt, hl]; omega, fun m hm => ?_⟩
    rw [getD_swapAt _ i nle m (by rw [hl]; exact hi) (by rw [hl]; omega)]
    split
    · rw [getD_of_getElem? _ i _ default (List.getElem?_set_self hi)]; rfl
    · have h1 : m ≠ i := by omega
      rw [if_neg h1]
      have := hI.2 m (by omega)
      rw [List.getD_eq_getElem?_getD, List.getElem?_set_ne (Ne.symm h1), ← List.getD_eq_getElem?_getD]
      exact this
  · rename_i he
    have he' : i = nle := by simpa using he
    refine ⟨hl, by rw [hl]; omega, fun m hm => ?_⟩
    by_cases h1 : m = i
    · subst h1
      rw [getD_of_getElem? _ m _ default (List.getElem?_set_self hi)]; rfl
    · have := hI.2 m (by omega)
      rw [List.getD_eq_getElem?_getD, List.getElem?_set_ne (Ne.symm h1), ← List.getD_eq_getElem?_getD]
      exact this

/-- after the detection the first `nle` rows are equalities. -/
theorem eqDetectLoop_GInv : ∀ (n : Nat) (rows : List SRow) (nle i : Nat),
    nle ≤ i → i + n ≤ rows.length → GInv nle rows →
    (eqDetectLoop n rows nle i).1.length = rows.length ∧
      GInv (eqDetectLoop n rows nle i).2 (eqDetectLoop n rows nle i).1
  | 0, rows, nle, i => fun _ _ hI => ⟨rfl, hI⟩
  | n + 1, rows, nle, i => fun hni hin hI => by
    by_cases hb : bitsEmpty (rows.getD i default).sat = true
    · rw [eqDetectLoop_succ_pos n rows nle i hb]
      obtain ⟨s1, s2⟩ := eqStepRows_GInv rows nle i hni (by omega) hI
      obtain ⟨r1, r2⟩ := eqDetectLoop_GInv n (eqStepRows rows nle i) (nle + 1) (i + 1) (by omega)
        (by rw [s1]; omega) s2
      exact ⟨r1.trans s1, r2⟩
    · rw [eqDetectLoop_succ_neg n rows nle i hb]
      exact eqDetectLoop_GInv n rows nle (i + 1) (by omega) (by omega) hI

end PPLV.Conv

import PPLV.Conv.ProofsRow
import PPLV.Conv.ProofsSimp1
/-!
# `simplify`: `rowLinearCombine` keeps the solution set; index form of `holdsAll`;
`swapRowOnly`; rows rewritten by `mapIdx`
-/
namespace PPLV.Conv

theorem rowLinearCombine_eq (r y : LRow) (j : Nat) :
    rowLinearCombine r y j = strongNormalize { r with v :=
      (linearCombine (normalize2 (r.v.getD j 0) (y.v.getD j 0)).2 (-(normalize2 (r.v.getD j 0) (y.v.getD j 0)).1)
        r.v y.v) } := rfl

theorem rowLinearCombine_le (r y : LRow) (j : Nat) : (rowLinearCombine r y j).le = r.le := rfl

/-- on the hyperplane of the pivot row `y` the combined row is `r` up to the factors `ny`, `g`. -/
theorem rowLinearCombine_sp (r y : LRow) (j : Nat) :
    ∃ g : Int, g ≠ 0 ∧ (r.le = false → 0 < g) ∧ ∀ x, scalarProduct y.v x = 0 →
      (normalize2 (r.v.getD j 0) (y.v.getD j 0)).2 * scalarProduct r.v x
        = g * scalarProduct (rowLinearCombine r y j).v x := by
  rw [rowLinearCombine_eq]
  generalize (normalize2 (r.v.getD j 0) (y.v.getD j 0)).2 = ny
  generalize (normalize2 (r.v.getD j 0) (y.v.getD j 0)).1 = nx
  have key : ∀ x, scalarProduct y.v x = 0 →
      scalarProduct x (linearCombine ny (-nx) r.v y.v) = ny * scalarProduct r.v x := by
    intro x hx
    rw [sp_linearCombine, sp_comm x y.v, hx, sp_comm x r.v]; ring
  by_cases hle : r.le = true
  · obtain ⟨g, hg, hs⟩ := sp_strongNormalize { r with v := linearCombine ny (-nx) r.v y.v }
    refine ⟨g, hg, (fun h => by rw [hle] at h; cases h), fun x hx => ?_⟩
    rw [sp_comm (strongNormalize _).v x, ← hs x]
    exact (key x hx).symm
  · have hf : r.le = false := by simpa using hle
    obtain ⟨g, hg, hs⟩ := sp_strongNormalize_ray { r with v := linearCombine ny (-nx) r.v y.v } hf
    refine ⟨g, ne_of_gt hg, fun _ => hg, fun x hx => ?_⟩
    rw [sp_comm (strongNormalize _).v x, ← hs x]
    exact (key x hx).symm

theorem normalize2_snd_nonneg (a b : Int) (h : 0 ≤ b) : 0 ≤ (normalize2 a b).2 := by
  simp only [normalize2]
  exact Int.ediv_nonneg h (Int.natCast_nonneg _)

theorem normalize2_snd_ne (a b : Int) (h : b ≠ 0) : (normalize2 a b).2 ≠ 0 := by
  obtain ⟨g, _, _, h2⟩ := normalize2_spec a b (Or.inr h)
  intro e; rw [e] at h2; simp at h2; exact h h2

theorem normalize2_snd_pos (a b : Int) (h : 0 < b) : 0 < (normalize2 a b).2 :=
  lt_of_le_of_ne (normalize2_snd_nonneg a b (le_of_lt h)) (Ne.symm (normalize2_snd_ne a b (ne_of_gt h)))

/-- the solution set is kept (one direction needs no pivot hypothesis). -/
theorem rowLinearCombine_holds_of (r y : LRow) (j : Nat) (x : Vec) (hy : scalarProduct y.v x = 0)
    (hpos : r.le = false → 0 ≤ y.v.getD j 0) (h : holds r x) : holds (rowLinearCombine r y j) x := by
  obtain ⟨g, hg, hgp, hs⟩ := rowLinearCombine_sp r y j
  have e := hs x hy
  unfold holds at h ⊢
  rw [rowLinearCombine_le]
  by_cases hle : r.le = true
  · simp only [hle, if_true] at h ⊢
    rw [h, mul_zero] at e
    rcases mul_eq_zero.1 e.symm with h1 | h1
    · exact absurd h1 hg
    · exact h1
  · have hf : r.le = false := by simpa using hle
    simp only [hf] at h ⊢
    have h1 : 0 ≤ g * scalarProduct (rowLinearCombine r y j).v x := by
      rw [← e]; exact mul_nonneg (normalize2_snd_nonneg _ _ (hpos hf)) h
    exact (mul_nonneg_iff_of_pos_left (hgp hf)).1 h1

/-- `y` an equality that holds at `x`, pivot `y_j ≠ 0` (positive if `r` is an inequality). -/
theorem rowLinearCombine_holds (r y : LRow) (j : Nat) (x : Vec) (hy : scalarProduct y.v x = 0)
    (hp : y.v.getD j 0 ≠ 0) (hpos : r.le = false → 0 < y.v.getD j 0) :
    holds (rowLinearCombine r y j) x ↔ holds r x := by
  refine ⟨fun h => ?_, rowLinearCombine_holds_of r y j x hy (fun hf => le_of_lt (hpos hf))⟩
  obtain ⟨g, hg, hgp, hs⟩ := rowLinearCombine_sp r y j
  have e := hs x hy
  unfold holds at h ⊢
  rw [rowLinearCombine_le] at h
  by_cases hle : r.le = true
  · simp only [hle, if_true] at h ⊢
    rw [h, mul_zero] at e
    rcases mul_eq_zero.1 e with h1 | h1
    · exact absurd h1 (normalize2_snd_ne _ _ hp)
    · exact h1
  · have hf : r.le = false := by simpa using hle
    simp only [hf] at h ⊢
    have h1 : 0 ≤ (normalize2 (r.v.getD j 0) (y.v.getD j 0)).2 * scalarProduct r.v x := by
      rw [e]; exact mul_nonneg (le_of_lt (hgp hf)) h
    exact (mul_nonneg_iff_of_pos_left (normalize2_snd_pos _ _ (hpos hf))).1 h1

/-! ## `holdsAll` by index -/

def HoldsIdx (rows : List SRow) (x : Vec) : Prop :=
  ∀ m, m < rows.length → holds (rows.getD m default).row x

theorem holdsAll_iff_idx (rows : List SRow) (x : Vec) :
    holdsAll (rows.map (·.row)) x ↔ HoldsIdx rows x := by
  unfold holdsAll HoldsIdx
  constructor
  · intro h m hm
    apply h
    rw [List.mem_map]
    refine ⟨rows.getD m default, ?_, rfl⟩
    rw [List.mem_iff_getElem?]
    exact ⟨m, getElem?_of_lt_getD rows m default hm⟩
  · intro h r hr
    rw [List.mem_map] at hr
    obtain ⟨s, hs, rfl⟩ := hr
    obtain ⟨m, hm, rfl⟩ := List.mem_iff_getElem.1 hs
    have := h m hm
    rw [getD_of_getElem? rows m rows[m] default (List.getElem?_eq_getElem hm)] at this
    exact this

/-! ## `swapRowOnly` -/

theorem length_swapRowOnly (l : List SRow) (i j : Nat) : (swapRowOnly l i j).length = l.length := by
  unfold swapRowOnly
  split <;> simp

theorem getElem?_swapRowOnly (l : List SRow) (i j m : Nat) (hi : i < l.length) (hj : j < l.length) :
    (swapRowOnly l i j)[m]? =
      if m = j then some { l[i] with sat := l[j].sat }
      else if m = i then some { l[j] with sat := l[i].sat } else l[m]? := by
  unfold swapRowOnly
  rw [List.getElem?_eq_getElem hi, List.getElem?_eq_getElem hj]
  simp only [List.getElem?_set, List.length_set]
  by_cases h1 : m = j
  · subst h1; simp [hj]
  · by_cases h2 : m = i
    · subst h2; simp [h1, hi, Ne.symm h1]
    · simp [h1, h2, Ne.symm h1, Ne.symm h2]

theorem getD_row_swapRowOnly (l : List SRow) (i j m : Nat) (hi : i < l.length) (hj : j < l.length) :
    ((swapRowOnly l i j).getD m default).row =
      if m = j then (l.getD i default).row else if m = i then (l.getD j default).row
      else (l.getD m default).row := by
  simp only [List.getD_eq_getElem?_getD, getElem?_swapRowOnly l i j m hi hj,
    List.getElem?_eq_getElem hi, List.getElem?_eq_getElem hj]
  split
  · rfl
  · split <;> rfl

theorem getD_swapRowOnly_of_ne (l : List SRow) (i j m : Nat) (hi : i < l.length) (hj : j < l.length)
    (h1 : m ≠ i) (h2 : m ≠ j) : (swapRowOnly l i j).getD m default = l.getD m default := by
  simp only [List.getD_eq_getElem?_getD, getElem?_swapRowOnly l i j m hi hj, h1, h2, if_false]

theorem holdsIdx_swapRowOnly (l : List SRow) (i j : Nat) (hi : i < l.length) (hj : j < l.length) (x : Vec) :
    HoldsIdx (swapRowOnly l i j) x ↔ HoldsIdx l x := by
  unfold HoldsIdx
  rw [length_swapRowOnly]
  constructor
  · intro h m hm
    by_cases h1 : m = i
    · subst h1
      have := h j hj
      rw [getD_row_swapRowOnly l m j j hi hj] at this
      simpa using this
    · by_cases h2 : m = j
      · subst h2
        have := h i hi
        rw [getD_row_swapRowOnly l i m i hi hj] at this
        by_cases e : i = m
        · subst e; simpa using this
        · simpa [e] using this
      · have := h m hm
        rw [getD_row_swapRowOnly l i j m hi hj] at this
        simpa [h1, h2] using this
  · intro h m hm
    rw [getD_row_swapRowOnly l i j m hi hj]
    split
    · exact h i hi
    · split
      · exact h j hj
      · exact h m hm

/-! ## `mapIdx` -/

theorem getD_mapIdx (l : List SRow) (f : Nat → SRow → SRow) (m : Nat) (hm : m < l.length) :
    (l.mapIdx f).getD m default = f m (l.getD m default) := by
  simp [List.getD_eq_getElem?_getD, List.getElem?_mapIdx, List.getElem?_eq_getElem hm]

theorem getD_map_row (F : List SRow) (k : Nat) (hk : k < F.length) :
    (F.map (·.row)).getD k default = (F.getD k default).row := by
  rw [List.getD_eq_getElem?_getD, List.getElem?_map, List.getElem?_eq_getElem hk,
    List.getD_eq_getElem?_getD, List.getElem?_eq_getElem hk]
  rfl

end PPLV.Conv

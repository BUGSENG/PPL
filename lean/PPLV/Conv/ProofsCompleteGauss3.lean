import PPLV.Conv.ProofsCompleteGauss2
/-!
# `back_substitute` meets no zero pivot row (`hpiv` of `simplify_drops_only_redundant_partial`)

`BSInv n rows piv`: row `p < n` is non-zero at `piv p`, and the rows `(p, n)` are zero at `piv p`.
The echelon form left by `gauss` has it for its first `rank` rows; `dropPhase`, the saturation rule and the
independence rule keep the first `rank` rows; a step of `back_substitute` keeps it (a row `i < k` that is
rewritten becomes `(ny • row_i − nx • row_k) / g` with `ny ≠ 0`, and `row_k` is zero at `piv i` and at the
`piv p`, `p < i`); a row with a non-zero coefficient has a non-zero coefficient at `lastNonzero`.
-/
namespace PPLV.Conv

theorem lastNonzero_append (w : Vec) (a : Int) :
    lastNonzero (w ++ [a]) = if a ≠ 0 then w.length else lastNonzero w := by
  unfold lastNonzero
  rw [List.zipIdx_append, List.foldl_append]
  by_cases h : a = 0 <;> simp [h]

theorem getD_ne_lt (v : Vec) (c : Nat) (h : v.getD c 0 ≠ 0) : c < v.length := by
  by_contra hc
  apply h
  rw [List.getD_eq_getElem?_getD, List.getElem?_eq_none (by omega)]; rfl

theorem getD_snoc_lt_int (w : Vec) (a : Int) (c : Nat) (h : c < w.length) :
    (w ++ [a]).getD c 0 = w.getD c 0 := by
  simp [List.getD_eq_getElem?_getD, List.getElem?_append_left h]

/-- `expr.last_nonzero()` of a non-zero row points at a non-zero coefficient. -/
theorem lastNonzero_ne (v : Vec) : (∃ c, v.getD c 0 ≠ 0) → v.getD (lastNonzero v) 0 ≠ 0 := by
  induction v using List.reverseRecOn with
  | nil => rintro ⟨c, hc⟩; simp at hc
  | append_singleton w a ih =>
    rintro ⟨c, hc⟩
    rw [lastNonzero_append]
    by_cases ha : a = 0
    · rw [if_neg (by simpa using ha)]
      have hcl : c < w.length := by
        by_contra hcl
        apply hc
        subst ha
        have h1 := getD_ne_lt _ c hc
        have : c = w.length := by simp at h1; omega
        subst this
        simp [List.getD_eq_getElem?_getD]
      rw [getD_snoc_lt_int w a c hcl] at hc
      have h1 := ih ⟨c, hc⟩
      rw [getD_snoc_lt_int w a _ (getD_ne_lt _ _ h1)]
      exact h1
    · rw [if_pos ha]
      simpa [List.getD_eq_getElem?_getD] using ha

/-- the pivots of the first `n` rows. -/
structure BSInv (n : Nat) (rows : List SRow) (piv : Nat → Nat) : Prop where
  nz : ∀ p, p < n → (rows.getD p default).row.v.getD (piv p) 0 ≠ 0
  zp : ∀ p m, p < m → m < n → (rows.getD m default).row.v.getD (piv p) 0 = 0

theorem backSubstituteStep_bsinv (nle : Nat) (rows : List SRow) (piv : Nat → Nat) (k : Nat)
    (hI : GInv nle rows) (hk : k < nle) (hB : BSInv nle rows piv) :
    (rows.getD k default).row.v.getD (lastNonzero (rows.getD k default).row.v) 0 ≠ 0 ∧
    BSInv nle (backSubstituteStep nle rows k) piv := by
  have hjk : (rows.getD k default).row.v.getD (bsCol rows k) 0 ≠ 0 :=
    lastNonzero_ne _ ⟨piv k, hB.nz k hk⟩
  refine ⟨hjk, ?_⟩
  have hnl : nle ≤ rows.length := hI.1
  have hlA : (bsA rows k).length = rows.length := by unfold bsA; exact List.length_mapIdx
  have hrow : ∀ m, m < nle → (backSubstituteStep nle rows k).getD m default = (bsA rows k).getD m default := by
    intro m hm
    rw [backSubstituteStep_eq]
    exact mapIdx_combF_of_not _ _ _ _ m (by omega) (fun h => by have := h.1; omega)
  constructor
  · intro p hp
    rw [hrow p hp]
    unfold bsA
    rw [getD_mapIdx rows _ p (by omega)]
    unfold combF
    split
    · rename_i hP
      obtain ⟨g, hg, e⟩ := rowLinearCombine_col (rows.getD p default).row (rows.getD k default).row
        (bsCol rows k) (piv p)
      rw [hB.zp p k hP.1 hk, mul_zero, sub_zero] at e
      have hny := normalize2_snd_ne ((rows.getD p default).row.v.getD (bsCol rows k) 0) _ hjk
      have h1 := mul_ne_zero hny (hB.nz p hp)
      rw [e] at h1
      exact right_ne_zero_of_mul h1
    · exact hB.nz p hp
  · intro p m hpm hm
    rw [hrow m hm]
    by_cases hmk : m < k
    · unfold bsA
      exact mapIdx_combF_col_zero rows _ _ _ m (piv p) (by omega) (hB.zp p m hpm hm)
        (hB.zp p k (by omega) hk)
    · unfold bsA
      rw [mapIdx_combF_of_not rows _ _ _ m (by omega) (fun h => hmk h.1)]
      exact hB.zp p m hpm hm

/-- **no zero pivot row** in any sequence of steps of `back_substitute` from a state with `BSInv`. -/
theorem backSub_pivots (nle : Nat) (piv : Nat → Nat) : ∀ (ks : List Nat) (rows : List SRow), GInv nle rows →
    (∀ k ∈ ks, k < nle) → BSInv nle rows piv → BackSubPivots nle ks rows
  | [], _, _, _, _ => trivial
  | k :: ks, rows, hI, hks, hB => by
    obtain ⟨h1, h2⟩ := backSubstituteStep_bsinv nle rows piv k hI (hks k List.mem_cons_self) hB
    exact ⟨h1, backSub_pivots nle piv ks _
      (backSubstituteStep_keeps nle rows k hI (hks k List.mem_cons_self)).2.1
      (fun k' hk' => hks k' (List.mem_cons_of_mem _ hk')) h2⟩

theorem getD_of_take_eq (a b : List SRow) (n p : Nat) (h : a.take n = b.take n) (hp : p < n) :
    a.getD p default = b.getD p default := by
  have e : a[p]? = b[p]? := by
    have := congrArg (fun l => l[p]?) h
    simp only [List.getElem?_take, hp, if_true] at this
    exact this
  rw [List.getD_eq_getElem?_getD, e, ← List.getD_eq_getElem?_getD]

/-- `dropPhase` keeps the rows before the new number of equalities. -/
theorem dropPhase_take (nle numRows : Nat) (rows : List SRow) (rank : Nat) (hI : GInv nle rows)
    (hlen : numRows = rows.length) :
    (dropPhase nle numRows rows rank).1.take (dropPhase nle numRows rows rank).2
      = rows.take (dropPhase nle numRows rows rank).2 := by
  unfold dropPhase
  split
  · obtain ⟨h1, _⟩ := dropRedundantEqLoop_spec (nle - rank) rows nle rank numRows rank (Nat.le_refl _) hlen
    show (List.take (numRows - (nle - rank)) _).take rank = _
    rw [List.take_take, (by have := hI.1; omega : min rank (numRows - (nle - rank)) = rank), h1]
  · rfl

/-- the list handed to `back_substitute`: its first `nle` rows are equalities, and they are the first rows
of the output of `gauss`. -/
theorem simpT_take (ncols numColsSat : Nat) (sys : List SRow) :
    GInv (simpP ncols sys).2 (simpT ncols numColsSat sys) ∧
    (simpT ncols numColsSat sys).take (simpP ncols sys).2 = (simpG ncols sys).1.take (simpP ncols sys).2 := by
  obtain ⟨el, eI⟩ := simpE_ginv sys
  have gK := gauss_keeps ncols (simpE sys).2 (simpE sys).1 eI.2 eI.1
  have hlen : sys.length = (simpG ncols sys).1.length := by
    show sys.length = (gauss ncols _ _).1.length
    rw [gK.1, el]
  have pI : GInv (simpP ncols sys).2 (simpP ncols sys).1 :=
    (dropPhase_spec (simpE sys).2 sys.length (simpG ncols sys).1 (simpG ncols sys).2 gK.2.1 hlen).1
  have pT : (simpP ncols sys).1.take (simpP ncols sys).2 = (simpG ncols sys).1.take (simpP ncols sys).2 :=
    dropPhase_take (simpE sys).2 sys.length (simpG ncols sys).1 (simpG ncols sys).2 gK.2.1 hlen
  have sT : (simpS ncols numColsSat sys).take (simpP ncols sys).2 = (simpP ncols sys).1.take (simpP ncols sys).2 :=
    satRuleLoop_take _ numColsSat _ (simpP ncols sys).1 (simpP ncols sys).2 (simpP ncols sys).2 (Nat.le_refl _)
  have tT : (simpT ncols numColsSat sys).take (simpP ncols sys).2
      = (simpS ncols numColsSat sys).take (simpP ncols sys).2 :=
    indepLoop_take (simpS ncols numColsSat sys).length (simpP ncols sys).2 (simpS ncols numColsSat sys)
      (Nat.le_refl _)
  exact ⟨GInv_of_take _ _ _ tT (GInv_of_take _ _ _ sT pI), tT.trans (sT.trans pT)⟩

/-- `back_substitute`, as `simplify` calls it, meets no zero pivot row (`hpiv` of the `_partial` statements). -/
theorem simplify_backSubPivots (ncols numColsSat : Nat) (sys : List SRow) :
    BackSubPivots (simpP ncols sys).2 (List.range (simpP ncols sys).2).reverse
      (simpT ncols numColsSat sys) := by
  obtain ⟨tI, tT⟩ := simpT_take ncols numColsSat sys
  obtain ⟨_, eI⟩ := simpE_ginv sys
  obtain ⟨piv, hE⟩ := gauss_echelon ncols (simpE sys).2 (simpE sys).1 eI
  have hn : (simpP ncols sys).2 = (gauss ncols (simpE sys).2 (simpE sys).1).2 := simpP_snd ncols sys
  have hrk := hE.rk
  apply backSub_pivots _ piv _ _ tI (range_reverse_lt _)
  constructor
  · intro p hp
    rw [getD_of_take_eq _ _ _ p tT hp]
    exact hE.nz p (by omega)
  · intro p m hpm hm
    rw [getD_of_take_eq _ _ _ m tT hm]
    exact hE.zp p m (by omega) hpm (by omega)

end PPLV.Conv

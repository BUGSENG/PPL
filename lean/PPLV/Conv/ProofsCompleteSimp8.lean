import PPLV.Conv.ProofsCompleteSimp7
import PPLV.Conv.ProofsCompleteSimp9
/-!
# `simplify` drops only redundant rows: the phases before `back_substitute`

`simpG`, `simpP`, `simpS`, `simpT` name the intermediate lists of `simplify` (after `gauss`, after the removal of
the redundant equalities, after the saturation rule, after the independence rule).  On records that are `RowOK`
against a complete generator system, every vector of length `≤ ncols` satisfying `simpT` satisfies the input
(`simpT_redundant`), given `hrank`: the returned number of equalities is `< ncols`, so that
`num_columns - num_equalities - 1` does not wrap.
-/
namespace PPLV.Conv
open PPLV.Conv.Abs

/-- after `gauss`. -/
def simpG (ncols : Nat) (sys : List SRow) : List SRow × Nat := gauss ncols (simpE sys).2 (simpE sys).1
/-- after the removal of the redundant equalities. -/
def simpP (ncols : Nat) (sys : List SRow) : List SRow × Nat :=
  dropPhase (simpE sys).2 sys.length (simpG ncols sys).1 (simpG ncols sys).2
/-- after the saturation rule. -/
def simpS (ncols numColsSat : Nat) (sys : List SRow) : List SRow :=
  satRuleLoop (simpP ncols sys).1.length numColsSat (usub (usub ncols (simpP ncols sys).2) 1)
    (simpP ncols sys).1 (simpP ncols sys).2
/-- after the independence rule (the list handed to `back_substitute`). -/
def simpT (ncols numColsSat : Nat) (sys : List SRow) : List SRow :=
  indepLoop (simpS ncols numColsSat sys).length (simpP ncols sys).2 (simpS ncols numColsSat sys)
    (simpP ncols sys).2

theorem simplify_eq' (ncols numColsSat : Nat) (sys : List SRow) :
    simplify ncols numColsSat sys =
      (backSubstitute (simpP ncols sys).2 (simpT ncols numColsSat sys), (simpP ncols sys).2) := rfl

theorem simplify_snd (ncols numColsSat : Nat) (sys : List SRow) :
    (simplify ncols numColsSat sys).2 = (simpP ncols sys).2 := by
  rw [simplify_eq']

theorem simpT_redundant (ncols numColsSat : Nat) (sys : List SRow) (gens : List LRow)
    (hncs : numColsSat = gens.length) (hOK : ∀ r ∈ sys, RowOK gens r)
    (hcomp : ∀ x : Vec, x.length ≤ ncols → holdsAll (sys.map (·.row)) x → Generated gens x)
    (hglen : ∀ g ∈ gens, g.v.length ≤ ncols) (hsz : ncols < 2 ^ 64)
    (hrank : (simplify ncols numColsSat sys).2 + 1 ≤ ncols) :
    GInv (simpP ncols sys).2 (simpT ncols numColsSat sys) ∧
    ∀ x : Vec, x.length ≤ ncols → holdsAll ((simpT ncols numColsSat sys).map (·.row)) x →
      holdsAll (sys.map (·.row)) x := by
  subst hncs
  have eInv := simpE_phaseInv ncols gens sys hOK hcomp
  have el := (simpE_facts gens sys hOK).1
  have gInv := gauss_phaseInv ncols gens (simpE sys).2 (simpE sys).1 eInv
  have gl : (simpG ncols sys).1.length = sys.length :=
    (gauss_length ncols _ _ eInv.ginv.2 eInv.ginv.1).trans el
  obtain ⟨pInv, pRed⟩ := dropPhase_phaseInv ncols gens (simpE sys).2 (simpG ncols sys).2
    (simpG ncols sys).1 gInv (gauss_zero_rows_sp ncols (simpE sys).2 (simpE sys).1 eInv.ginv)
  rw [gl] at pInv pRed
  change PhaseInv ncols gens (simpP ncols sys).2 (simpP ncols sys).1 at pInv
  change ∀ x : Vec, x.length ≤ ncols → holdsAll ((simpP ncols sys).1.map (·.row)) x → _ at pRed
  have hrank' : (simpP ncols sys).2 + 1 ≤ ncols := hrank
  obtain ⟨sInv, sRed⟩ := satRuleLoop_inv ncols gens (simpP ncols sys).2 hglen hrank' hsz
    (simpP ncols sys).1.length (simpP ncols sys).1 (simpP ncols sys).2 (Nat.le_refl _) pInv
  change PhaseInv ncols gens (simpP ncols sys).2 (simpS ncols gens.length sys) at sInv
  change ∀ x : Vec, x.length ≤ ncols → holdsAll ((simpS ncols gens.length sys).map (·.row)) x → _ at sRed
  have tRed := indepLoop_redundant ncols gens (simpP ncols sys).2 (simpS ncols gens.length sys)
    (simpS ncols gens.length sys).length hglen sInv (Nat.le_refl _)
  have tT := indepLoop_take (simpS ncols gens.length sys).length (simpP ncols sys).2
    (simpS ncols gens.length sys) (Nat.le_refl _)
  change ∀ x : Vec, x.length ≤ ncols → holdsAll ((simpT ncols gens.length sys).map (·.row)) x → _ at tRed
  change (simpT ncols gens.length sys).take _ = _ at tT
  refine ⟨GInv_of_take _ _ _ tT sInv.ginv, fun x hx h1 => ?_⟩
  have h2 := pRed x hx (sRed x hx (tRed x hx h1))
  have h3 := (gauss_same_set ncols _ _ eInv.ginv.2 eInv.ginv.1 x).1 h2
  exact eqDetectLoop_complete _ sys _ _ x h3

end PPLV.Conv

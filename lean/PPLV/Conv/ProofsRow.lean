import PPLV.Conv.Spec
import Mathlib.Tactic.Ring
import Mathlib.Tactic.Linarith
/-!
# Row algebra of the conversion model: scalar products, lengths and coefficients under `linear_combine`, negation, normalisation
-/
namespace PPLV.Conv

/-! ### indexing with a default, inside the list -/

theorem getD_eq_getElem {α} (l : List α) (d : α) {j : Nat} (h : j < l.length) : l.getD j d = l[j] :=
  (List.getElem_eq_getD d).symm

theorem getD_mem_of_lt {α} [Inhabited α] (l : List α) (j : Nat) (h : j < l.length) : l.getD j default ∈ l := by
  rw [getD_eq_getElem l default h]
  exact List.getElem_mem h

theorem sp_nil_left (x : Vec) : scalarProduct [] x = 0 := by
  cases x <;> rfl

theorem sp_nil_right (x : Vec) : scalarProduct x [] = 0 := by
  cases x <;> rfl

theorem sp_map_mul (c : Int) (s v : Vec) : scalarProduct s (v.map (c * ·)) = c * scalarProduct s v := by
  induction s generalizing v with
  | nil => simp [sp_nil_left]
  | cons a as ih =>
    cases v with
    | nil => simp [scalarProduct]
    | cons b bs => simp only [List.map_cons, scalarProduct, ih]; ring

theorem sp_linearCombine (c1 c2 : Int) (s x y : Vec) :
    scalarProduct s (linearCombine c1 c2 x y) = c1 * scalarProduct s x + c2 * scalarProduct s y := by
  induction x generalizing s y with
  | nil =>
    simp only [linearCombine, sp_nil_right, mul_zero, zero_add]
    exact sp_map_mul c2 s y
  | cons a as ih =>
    cases y with
    | nil =>
      simp only [linearCombine, sp_nil_right, mul_zero, add_zero]
      exact sp_map_mul c1 s (a :: as)
    | cons b bs =>
      cases s with
      | nil => simp [sp_nil_left]
      | cons t ts => simp only [linearCombine, scalarProduct, ih]; ring

theorem sp_neg (s v : Vec) : scalarProduct s (v.map (- ·)) = - scalarProduct s v := by
  have h := sp_map_mul (-1) s v
  have e : (v.map ((-1 : Int) * ·)) = v.map (- ·) := by
    apply List.map_congr_left; intro a _; ring
  rw [e] at h; rw [h]; ring

theorem sp_comm : ∀ (a b : Vec), scalarProduct a b = scalarProduct b a
  | [], b => by rw [sp_nil_left, sp_nil_right]
  | _ :: _, [] => by simp [scalarProduct]
  | a :: as, b :: bs => by simp only [scalarProduct, sp_comm as bs]; ring

theorem getD_map_neg (v : Vec) (j : Nat) : (v.map (- ·)).getD j 0 = - v.getD j 0 := by
  simp only [List.getD_eq_getElem?_getD, List.getElem?_map]
  cases v[j]? <;> simp

theorem length_linearCombine (a b : Int) : ∀ (x y : Vec), (linearCombine a b x y).length = max x.length y.length
  | [], ys => by simp [linearCombine]
  | x :: xs, [] => by simp [linearCombine]
  | x :: xs, y :: ys => by
    simp only [linearCombine, List.length_cons, length_linearCombine a b xs ys]
    omega

theorem getD_linearCombine (a b : Int) : ∀ (x y : Vec) (j : Nat),
    (linearCombine a b x y).getD j 0 = a * x.getD j 0 + b * y.getD j 0
  | [], ys, j => by
    simp only [linearCombine, List.getD_eq_getElem?_getD, List.getElem?_map, List.getElem?_nil]
    cases ys[j]? <;> simp
  | x :: xs, [], j => by
    simp only [linearCombine, List.getD_eq_getElem?_getD, List.getElem?_map, List.getElem?_nil]
    cases (x :: xs)[j]? <;> simp
  | x :: xs, y :: ys, 0 => by simp [linearCombine]
  | x :: xs, y :: ys, j + 1 => by
    simp only [linearCombine, List.getD_cons_succ]
    exact getD_linearCombine a b xs ys j

/-- every coefficient is a multiple of `gcdVec`. -/
theorem gcdVec_dvd (v : Vec) : ∀ a ∈ v, (gcdVec v : Int) ∣ a := by
  induction v with
  | nil => intro a h; cases h
  | cons b bs ih =>
    intro a h
    simp only [gcdVec]
    rcases List.mem_cons.mp h with h | h
    · subst h
      have : (Nat.gcd a.natAbs (gcdVec bs) : Int) ∣ (a.natAbs : Int) := Int.natCast_dvd_natCast.mpr (Nat.gcd_dvd_left _ _)
      exact Int.dvd_natAbs.mp this
    · have h1 := ih a h
      have : (Nat.gcd b.natAbs (gcdVec bs) : Int) ∣ (gcdVec bs : Int) := Int.natCast_dvd_natCast.mpr (Nat.gcd_dvd_right _ _)
      exact dvd_trans this h1

theorem sp_map_div (g : Int) (s v : Vec) (h : ∀ a ∈ v, g ∣ a) :
    scalarProduct s v = g * scalarProduct s (v.map (· / g)) := by
  induction s generalizing v with
  | nil => simp [sp_nil_left]
  | cons a as ih =>
    cases v with
    | nil => simp [scalarProduct]
    | cons b bs =>
      simp only [List.map_cons, scalarProduct]
      have hb : g ∣ b := h b (List.mem_cons_self ..)
      have ih' := ih bs (fun x hx => h x (List.mem_cons_of_mem _ hx))
      rw [ih']
      have hbb : b = g * (b / g) := (Int.mul_ediv_cancel' hb).symm
      have e : a * b = g * (a * (b / g)) := by
        calc a * b = a * (g * (b / g)) := by rw [← hbb]
          _ = g * (a * (b / g)) := by ring
      rw [e]; ring

theorem sp_normalize (v : Vec) : ∃ g : Int, 0 < g ∧ ∀ s, scalarProduct s v = g * scalarProduct s (normalize v) := by
  unfold normalize
  by_cases h : (gcdVec v == 0 || gcdVec v == 1) = true
  · refine ⟨1, by norm_num, fun s => ?_⟩
    simp only [h, if_true]; ring
  · refine ⟨(gcdVec v : Int), ?_, fun s => ?_⟩
    · have : gcdVec v ≠ 0 := by
        intro e; apply h; simp [e]
      exact_mod_cast Nat.pos_of_ne_zero this
    · simp only [h]
      exact sp_map_div _ s v (gcdVec_dvd v)

theorem sp_signNormalize (v : Vec) :
    ∃ e : Int, (e = 1 ∨ e = -1) ∧ ∀ s, scalarProduct s (signNormalize v) = e * scalarProduct s v := by
  unfold signNormalize
  by_cases h : firstNonzero (v.drop 1) < 0
  · exact ⟨-1, Or.inr rfl, fun s => by simp only [h, if_true]; rw [sp_neg]; ring⟩
  · exact ⟨1, Or.inl rfl, fun s => by simp only [h, if_false]; ring⟩

theorem strongNormalize_le (r : LRow) : (strongNormalize r).le = r.le := rfl

theorem sp_strongNormalize_ray (r : LRow) (h : r.le = false) :
    ∃ g : Int, 0 < g ∧ ∀ s, scalarProduct s r.v = g * scalarProduct s (strongNormalize r).v := by
  obtain ⟨g, hg, hs⟩ := sp_normalize r.v
  refine ⟨g, hg, fun s => ?_⟩
  simp only [strongNormalize, h]
  exact hs s

theorem sp_strongNormalize (r : LRow) :
    ∃ g : Int, g ≠ 0 ∧ ∀ s, scalarProduct s r.v = g * scalarProduct s (strongNormalize r).v := by
  obtain ⟨g, hg, hs⟩ := sp_normalize r.v
  by_cases hle : r.le = true
  · obtain ⟨e, he, hes⟩ := sp_signNormalize (normalize r.v)
    refine ⟨g * e, ?_, fun s => ?_⟩
    · rcases he with he | he <;> subst he <;> simp <;> omega
    · simp only [strongNormalize, hle, if_true]
      rw [hs s, hes s]
      rcases he with he | he <;> subst he <;> ring
  · have hf : r.le = false := by simpa using hle
    obtain ⟨g', hg', hs'⟩ := sp_strongNormalize_ray r hf
    exact ⟨g', ne_of_gt hg', hs'⟩

theorem normalize2_spec (x y : Int) (h : x ≠ 0 ∨ y ≠ 0) :
    ∃ g : Int, 0 < g ∧ x = g * (normalize2 x y).1 ∧ y = g * (normalize2 x y).2 := by
  refine ⟨(Int.gcd x y : Nat), ?_, ?_, ?_⟩
  · have : Int.gcd x y ≠ 0 := by
      intro e
      rw [Int.gcd_eq_zero_iff] at e
      rcases h with h | h
      · exact h e.1
      · exact h e.2
    exact_mod_cast Nat.pos_of_ne_zero this
  · simp only [normalize2]
    exact (Int.mul_ediv_cancel' (Int.gcd_dvd_left x y)).symm
  · simp only [normalize2]
    exact (Int.mul_ediv_cancel' (Int.gcd_dvd_right x y)).symm

/-- the record produced by `combineWithNle`: its row is, up to a non-zero factor `g` (positive for a
ray), `nO * d - nI * dnle` with `d.sp = c * nI`, `dnle.sp = c * nO`, `c > 0`. -/
theorem sp_combineWithNle (dnle d : DRow) (h : dnle.sp ≠ 0) :
    ∃ g c nI nO : Int, g ≠ 0 ∧ (d.row.le = false → 0 < g) ∧ 0 < c ∧ d.sp = c * nI ∧ dnle.sp = c * nO ∧
      (combineWithNle dnle d).sp = 0 ∧ (combineWithNle dnle d).sat = d.sat ∧
      (combineWithNle dnle d).row.le = d.row.le ∧
      ∀ s, nO * scalarProduct s d.row.v - nI * scalarProduct s dnle.row.v
            = g * scalarProduct s (combineWithNle dnle d).row.v := by
  obtain ⟨c, hc, h1, h2⟩ := normalize2_spec d.sp dnle.sp (Or.inr h)
  set nI := (normalize2 d.sp dnle.sp).1 with hnI
  set nO := (normalize2 d.sp dnle.sp).2 with hnO
  let r0 : LRow := { d.row with v := linearCombine nO (-nI) d.row.v dnle.row.v }
  have hcomb : combineWithNle dnle d = { d with row := strongNormalize r0, sp := 0 } := by
    simp only [combineWithNle, r0, hnI, hnO]
  have key : ∃ g : Int, g ≠ 0 ∧ (d.row.le = false → 0 < g) ∧
      ∀ s, scalarProduct s r0.v = g * scalarProduct s (strongNormalize r0).v := by
    by_cases hle : d.row.le = false
    · obtain ⟨g, hg, hs⟩ := sp_strongNormalize_ray r0 hle
      exact ⟨g, ne_of_gt hg, fun _ => hg, hs⟩
    · obtain ⟨g, hg, hs⟩ := sp_strongNormalize r0
      exact ⟨g, hg, fun h => absurd h hle, hs⟩
  obtain ⟨g, hg, hpos, hs⟩ := key
  refine ⟨g, c, nI, nO, hg, hpos, hc, h1, h2, ?_, ?_, ?_, ?_⟩
  · rw [hcomb]
  · rw [hcomb]
  · rw [hcomb]; rfl
  · intro s
    rw [hcomb]
    have := hs s
    simp only [r0] at this
    rw [sp_linearCombine] at this
    simp only [r0]
    linarith

/-- the new ray is a strictly positive combination of `rj` (in Q-) and `ri` (in Q+) that saturates the
constraint being processed. -/
theorem sp_newRay (ri rj : DRow) (sat : BRow) (hi : 0 < ri.sp) (hj : rj.sp < 0) (hl : rj.row.le = false) :
    ∃ g a b : Int, 0 < g ∧ 0 < a ∧ 0 < b ∧ a * rj.sp + b * ri.sp = 0 ∧ (newRay ri rj sat).row.le = false ∧
      (newRay ri rj sat).sp = 0 ∧ (newRay ri rj sat).sat = sat ∧
      ∀ s, a * scalarProduct s rj.row.v + b * scalarProduct s ri.row.v
            = g * scalarProduct s (newRay ri rj sat).row.v := by
  obtain ⟨c, hc, h1, h2⟩ := normalize2_spec ri.sp rj.sp (Or.inl (ne_of_gt hi))
  set nI := (normalize2 ri.sp rj.sp).1 with hnI
  set nO := (normalize2 ri.sp rj.sp).2 with hnO
  let r0 : LRow := { rj.row with v := linearCombine nI (-nO) rj.row.v ri.row.v }
  have hnew : newRay ri rj sat = { row := strongNormalize r0, sp := 0, sat := sat } := by
    simp only [newRay, r0, hnI, hnO]
  obtain ⟨g, hg, hs⟩ := sp_strongNormalize_ray r0 hl
  have hnIpos : 0 < nI := by
    by_contra hneg
    have : nI ≤ 0 := le_of_not_gt hneg
    nlinarith
  have hnOneg : nO < 0 := by
    by_contra hneg
    have : 0 ≤ nO := le_of_not_gt hneg
    nlinarith
  refine ⟨g, nI, -nO, hg, hnIpos, by linarith, ?_, ?_, ?_, ?_, ?_⟩
  · rw [h1, h2]; ring
  · rw [hnew]; exact hl
  · rw [hnew]
  · rw [hnew]
  · intro s
    rw [hnew]
    have := hs s
    simp only [r0] at this
    rw [sp_linearCombine] at this
    simp only [r0]
    linarith

end PPLV.Conv

import PPLV.Conv.ProofsCompleteFacetPoints1
import PPLV.Conv.ProofsCompleteFacetPointsR1
import PPLV.Conv.ProofsCompleteFacetPointsK1
import PPLV.Conv.ProofsCompleteGauss4
import PPLV.Conv.ProofsCompleteMinimal4
/-!
# `minimize`: every non-tautological inequality returned is saturated by a point returned
-/
namespace PPLV.Conv
open PPLV.Conv.Abs

/-- nothing is non-zero to the right of `lastNonzero`. -/
theorem lastNonzero_max (v : Vec) : ∀ j, lastNonzero v < j → v.getD j 0 = 0 := by
  induction v using List.reverseRecOn with
  | nil => intro j _; simp
  | append_singleton w a ih =>
    intro j hj
    rw [lastNonzero_append] at hj
    by_cases ha : a = 0
    · rw [if_neg (by simpa using ha)] at hj
      by_cases hjw : j < w.length
      · rw [List.getD_eq_getElem?_getD, List.getElem?_append_left hjw, ← List.getD_eq_getElem?_getD]
        exact ih j hj
      · by_cases hje : j = w.length
        · subst hje; simp [ha]
        · rw [List.getD_eq_getElem?_getD, List.getElem?_eq_none (by simp; omega)]; rfl
    · rw [if_pos ha] at hj
      rw [List.getD_eq_getElem?_getD, List.getElem?_eq_none (by simp; omega)]; rfl

/-- the list-level statement: `F` = the system `simplify` returns (first `n` rows equalities), `gens` the generators. -/
theorem facet_points_core2 (ncols : Nat) (gens : List LRow) (F : List SRow) (n : Nat)
    (hglen : ∀ g ∈ gens, g.v.length ≤ ncols)
    (hsF : ∀ m, m < F.length → ∀ g ∈ gens, satisfies (F.getD m default).row g)
    (heqF : ∀ m, m < n → (F.getD m default).row.le = true)
    (hexF : ∀ m, n ≤ m → m < F.length → (F.getD m default).row.le = false ∧
      bitsEmpty (F.getD m default).sat = false ∧ ExactBits gens (F.getD m default))
    (hred : ∀ p, p < n →
      (F.getD p default).row.v.getD (lastNonzero (F.getD p default).row.v) 0 ≠ 0 ∧
      ∀ m, m < F.length → (m < p ∨ n ≤ m) →
        (F.getD m default).row.v.getD (lastNonzero (F.getD p default).row.v) 0 = 0)
    (hlay : n ≤ F.length)
    (hlenF : ∀ s ∈ F, s.row.v.length ≤ ncols)
    (hcompl : ∀ x : Vec, x.length ≤ ncols → holdsAll (F.map (·.row)) x → Generated gens x)
    (hposF : ∀ x : Vec, x.length ≤ ncols → holdsAll (F.map (·.row)) x → 0 ≤ x.getD 0 0)
    (hpt : ∃ g ∈ gens, g.le = false ∧ 0 < g.v.getD 0 0)
    (hirr : ∀ i, n ≤ i → i < F.length → ∃ x : Vec, x.length ≤ ncols ∧
      (∀ k, k < F.length → k ≠ i → holds (F.getD k default).row x) ∧ ¬ holds (F.getD i default).row x) :
    ∀ c ∈ F.map (·.row), c.le = false → ¬ ((∀ j, 1 ≤ j → c.v.getD j 0 = 0) ∧ 0 ≤ c.v.getD 0 0) →
      ∃ g ∈ gens, g.le = false ∧ 0 < g.v.getD 0 0 ∧ scalarProduct c.v g.v = 0 := by
  have hlen : (F.map (·.row)).length = F.length := List.length_map _
  obtain ⟨gp, hgp, hgple, hgp0⟩ := hpt
  -- the pivot columns
  let J : Nat → Nat := fun p => lastNonzero (F.getD p default).row.v
  have hJ0 : ∀ p, p < n → J p ≠ 0 := by
    intro p hpn hJ
    have hpl : p < F.length := by omega
    obtain ⟨hnz, _⟩ := hred p hpn
    have hJ' : lastNonzero (F.getD p default).row.v = 0 := hJ
    rw [hJ'] at hnz
    have hz : scalarProduct (F.getD p default).row.v gp.v = 0 :=
      satisfies_line_zero _ gp (hsF p hpl gp hgp) (Or.inl (heqF p hpn))
    rw [sp_eq_sum ncols _ gp.v (hglen gp hgp), Finset.sum_eq_single 0] at hz
    · rcases Int.mul_eq_zero.mp hz with h | h
      · exact hnz h
      · omega
    · intro j _ hj
      rw [lastNonzero_max _ j (by rw [hJ']; omega)]; ring
    · intro h0
      exfalso; apply h0
      rw [Finset.mem_range]
      have h1 : 0 < gp.v.length := by
        by_contra hcz
        have hnil : gp.v = [] := List.length_eq_zero_iff.mp (by omega)
        rw [hnil] at hgp0
        simp at hgp0
      have := hglen gp hgp
      omega
  intro c hc hcle hnt
  obtain ⟨i, hi⟩ := List.mem_iff_getElem?.mp hc
  have hil : i < (F.map (·.row)).length := (List.getElem?_eq_some_iff.1 hi).1
  have hil' : i < F.length := by rwa [hlen] at hil
  have hci : (F.map (·.row)).getD i default = c := by rw [List.getD_eq_getElem?_getD, hi]; rfl
  have hni : n ≤ i := by
    by_contra hlt
    have := heqF i (by omega)
    rw [← getD_map_row F i hil', hci, hcle] at this
    cases this
  have key := facet_point_core ncols gens (F.map (·.row)) n J hglen
    (by
      intro rr hrr g hg
      obtain ⟨k, hk⟩ := List.mem_iff_getElem?.mp hrr
      have hkl : k < (F.map (·.row)).length := (List.getElem?_eq_some_iff.1 hk).1
      have hkl' : k < F.length := by rwa [hlen] at hkl
      have : (F.map (·.row)).getD k default = rr := by rw [List.getD_eq_getElem?_getD, hk]; rfl
      rw [← this, getD_map_row F k hkl']
      exact hsF k hkl' g hg)
    hcompl
    (by intro k hk; rw [getD_map_row F k (by omega)]; exact heqF k hk)
    (by intro k hk1 hk2; rw [hlen] at hk2; rw [getD_map_row F k hk2]; exact (hexF k hk1 hk2).1)
    (by
      intro k hk1 hk2
      rw [hlen] at hk2
      rw [getD_map_row F k hk2]
      obtain ⟨_, hbe, hex⟩ := hexF k hk1 hk2
      obtain ⟨j, hj⟩ := (bitsEmpty_false_iff _).mp hbe
      obtain ⟨hjl, hpos'⟩ := pos_of_bit hex (hsF k hk2) j hj
      exact ⟨_, List.getElem_mem hjl, hpos'⟩)
    hposF
    ⟨gp, hgp, hgple, hgp0⟩
    (by
      intro p hpn k hk1 hk2
      rw [hlen] at hk2
      rw [getD_map_row F k hk2]
      exact (hred p hpn).2 k hk2 (Or.inr hk1))
    hJ0
    (by
      intro d hdJ hdker
      refine reduced_kernel_zero ncols ((F.take n).map (·.row.v)) J ?_ ?_ ?_ d ?_ ?_
      · intro e he
        obtain ⟨s, hs', rfl⟩ := List.mem_map.mp he
        exact hlenF s (List.mem_of_mem_take hs')
      all_goals
        have hEl : ((F.take n).map (·.row.v)).length = n := by
          rw [List.length_map, List.length_take]; exact Nat.min_eq_left hlay
        have hEg : ∀ p, p < n → ((F.take n).map (·.row.v)).getD p [] = (F.getD p default).row.v := by
          intro p hpn
          have hpl : p < F.length := by omega
          rw [List.getD_eq_getElem?_getD, List.getElem?_map, List.getElem?_take, if_pos hpn,
            List.getElem?_eq_getElem hpl, List.getD_eq_getElem?_getD, List.getElem?_eq_getElem hpl]
          rfl
      · intro p hpE
        rw [hEl] at hpE
        rw [hEg p hpE]
        exact (hred p hpE).1
      · intro q p hqp hpE
        rw [hEl] at hpE
        rw [hEg q (by omega)]
        exact (hred p hpE).2 q (by omega) (Or.inl hqp)
      · intro p hpE
        rw [hEl] at hpE
        exact hdJ p hpE
      · intro x hx hE
        apply hdker x hx
        intro p hpn
        rw [getD_map_row F p (by omega), ← hEg p hpn]
        apply hE
        rw [List.getD_eq_getElem?_getD, List.getElem?_eq_getElem (by rw [hEl]; exact hpn)]
        exact List.getElem_mem _)
    i hni hil (by rw [getD_map_row F i hil']; exact hlenF _ (by rw [List.getD_eq_getElem?_getD, List.getElem?_eq_getElem hil']; exact List.getElem_mem _))
    (by
      obtain ⟨x, hx, h1, h2⟩ := hirr i hni hil'
      refine ⟨x, hx, fun k hk hki => ?_, by rwa [getD_map_row F i hil']⟩
      rw [hlen] at hk
      rw [getD_map_row F k hk]
      exact h1 k hk hki)
    (by rw [hci]; exact hnt)
  rw [hci] at key
  exact key

/-- **`minimize_facet_points`** — `minimize(true, cs, gs, sat)` on a closed polyhedron that is not empty,
whose constraints entail positivity (`x_0 ≥ 0`): every inequality it returns that is not a tautology
(not `c_0 ≥ 0` with all other coefficients zero) is saturated by a POINT it returns (a generator that is
not a line and has a positive divisor).  `hlenF`: the rows returned have at most `ncols` columns. -/
theorem minimize_facet_points (ncols : Nat) (source : List LRow) (sat0 : List BRow)
    (hsz : ncols < 2 ^ 64) (hsrc : source.length < 2 ^ 64)
    (hne : (minimize true false ncols source sat0).empty = false)
    (hpos : ∀ x : Vec, x.length ≤ ncols → holdsAll source x → 0 ≤ x.getD 0 0)
    (hlenF : ∀ s ∈ (minimize true false ncols source sat0).source, s.v.length ≤ ncols) :
    ∀ c ∈ (minimize true false ncols source sat0).source, c.le = false →
      ¬ ((∀ j, 1 ≤ j → c.v.getD j 0 = 0) ∧ 0 ≤ c.v.getD 0 0) →
      ∃ g ∈ (minimize true false ncols source sat0).dest, g.le = false ∧ 0 < g.v.getD 0 0 ∧
        scalarProduct c.v g.v = 0 := by
  have hp := minimize_hasPoint false ncols source sat0 hne
  obtain ⟨hs, hlf, hsub⟩ := conversion_identity_sound ncols source
  have hsatc := conversion_identity_sat ncols source
  have D := conversion_identity_complete ncols source hsz hsrc
  have hglen := conversion_identity_length ncols source
  generalize hr : conversion ncols source 0 (identityLines ncols)
    (List.replicate ncols (List.replicate source.length false)) ncols = r at hp hs hlf hsub hsatc D hglen
  have hsatT := satCorrect_transpose r.source r.dest r.sat hsatc
  have hsR : Sound r.source r.dest := fun d hd s hs' => hs d hd s (hsub s hs')
  have hdrop := simplify_redundant ncols r.dest.length r.source _ r.dest hsatT hsR D.generated rfl hglen hsz
    (simplify_rank_lt ncols _ _ _ _ hsatT hsR hglen (hasPoint_witness _ _ _ _ hp))
  have hF := simplify_result_facts ncols r.dest.length _ r.dest (zipSys_rowOK _ _ _ hsatT hsR) _ rfl
  have hirr := simplify_irredundant ncols r.dest.length r.source _ r.dest hsatT hsR hglen
  have hred := simplify_result_reduced ncols r.dest.length (zipSys r.source (transpose r.source.length r.sat))
  have hlay := (simplify_layout ncols r.dest.length (zipSys r.source (transpose r.source.length r.sat))).1
  generalize hS : simplify ncols r.dest.length (zipSys r.source (transpose r.source.length r.sat)) = S
    at hdrop hF hirr hred hlay
  rw [minimize_of_point true false ncols source sat0 r S hr hS hp] at hlenF ⊢
  have hpt : ∃ g ∈ r.dest, g.le = false ∧ 0 < g.v.getD 0 0 := by
    unfold hasPoint at hp
    obtain ⟨g, hg, hd⟩ := List.any_eq_true.mp hp
    exact ⟨g, ((hlf.mem_drop_iff g).mp hg).1, ((hlf.mem_drop_iff g).mp hg).2, by simpa using hd⟩
  exact facet_points_core2 ncols r.dest S.1 S.2 hglen hF.1 hF.2.1 hF.2.2.1 hred hlay
    (fun s hs' => hlenF s.row (List.mem_map.mpr ⟨s, hs', rfl⟩))
    (fun x hx h => D.generated x hx (hdrop x hx h))
    (fun x hx h => hpos x hx (holdsAll_of_generated hs x (D.generated x hx (hdrop x hx h))))
    hpt hirr

end PPLV.Conv

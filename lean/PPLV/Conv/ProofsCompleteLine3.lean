import PPLV.Conv.ProofsCompleteInv
import PPLV.Conv.ProofsCompleteBits
/-!
# the line case of `conversion`: the saturation rows of the result (`antichain`, `proper`)

The sat rows stay at their index; the old lines have empty sat rows, so for an inequality the new ray (index
`nle - 1`) owns exactly the new column; for an equality the new ray is removed by swap-with-last-and-pop.
-/
namespace PPLV.Conv
open PPLV.Conv.Abs

theorem lineCase_nle (srcK : LRow) (newK : Nat) (st : CState) (inz : Nat) :
    (lineCase srcK newK st inz).nle = st.nle - 1 := by
  rw [lineCase_eq]; split <;> rfl

/-- an old line has an empty saturation row. -/
theorem line_bits_false (srcK : LRow) (kept : List LRow) (st : CState) (H : StepHyp srcK st kept)
    (hsat : RowsSatCorrect kept st.rows) (m : Nat) (dm : DRow) (hdm : st.rows[m]? = some dm) (hm : m < st.nle) :
    ∀ j, bit dm.sat j = false :=
  bits_false_of_zero kept _ _ (hsat dm (List.mem_of_getElem? hdm)) (fun s hs =>
    satisfies_line_zero s dm.row (H.hP dm (List.mem_of_getElem? hdm) s hs) (Or.inr (by rw [H.hl m dm hdm]; simpa using hm)))

/-- no old record has the new column set. -/
theorem old_bit_new_false (kept : List LRow) (rows : List DRow) (hsat : RowsSatCorrect kept rows)
    (dm : DRow) (hdm : dm ∈ rows) : bit dm.sat kept.length = false := by
  rw [hsat dm hdm kept.length]; simp

/-- **the saturation row of every result record at or after the new `nle`**: the new ray (inequality, index
`nle - 1`, exactly the new column), or the saturation row of an old ray — a different one for a different
index. -/
theorem lineCase_sat_src (srcK : LRow) (kept : List LRow) (st : CState) (inz : Nat) (H : StepHyp srcK st kept)
    (hinz : inz < st.nle) (hsat : RowsSatCorrect kept st.rows)
    (m : Nat) (d : DRow) (hd : (lineCase srcK kept.length st inz).rows[m]? = some d) (hm : st.nle - 1 ≤ m) :
    (srcK.le = false ∧ m = st.nle - 1 ∧ ∀ j, bit d.sat j = decide (j = kept.length)) ∨
    (∃ m0 dm, st.nle ≤ m0 ∧ st.rows[m0]? = some dm ∧ d.sat = dm.sat ∧ (srcK.le = false → m0 = m) ∧
      (srcK.le = true → (m = m0 ∨ (m = st.nle - 1 ∧ m0 = st.rows.length - 1)) ∧ m < st.rows.length - 1)) := by
  have hn := H.hn
  have hlen := length_lineRows3 st inz
  have hi : st.nle - 1 < (lineRows3 st inz).length := by rw [hlen]; omega
  rw [lineCase_eq] at hd
  by_cases hk : srcK.le = true
  · simp only [hk, Bool.not_true, Bool.false_eq_true, if_false] at hd
    have hmlt : m < st.rows.length - 1 := by
      obtain ⟨hlt, _⟩ := List.getElem?_eq_some_iff.mp hd
      rw [List.length_dropLast, length_swapAt, hlen] at hlt
      exact hlt
    obtain ⟨m0, hm0, hx, hcase⟩ := getElem?_swap_dropLast _ _ m hi d hd
    rw [hlen] at hcase
    obtain ⟨dm, hdm, hsatm, _⟩ := lineRows3_sat st inz hinz hn m0 d hx
    right
    have hf : srcK.le = false → m0 = m := fun h => by rw [hk] at h; cases h
    refine ⟨m0, dm, ?_, hdm, hsatm, hf, fun _ => ⟨hcase, hmlt⟩⟩
    rcases hcase with h | ⟨h1, h2⟩ <;> omega
  · have hk' : srcK.le = false := by simpa using hk
    simp only [hk', Bool.not_false, if_true] at hd
    rw [List.getElem?_modify] at hd
    match hq : (lineRows3 st inz)[m]? with
    | none => rw [hq] at hd; simp at hd
    | some dd =>
      rw [hq] at hd
      simp only [Option.map_eq_map, Option.map_some, Option.some.injEq] at hd
      obtain ⟨dm, hdm, hsatm, _⟩ := lineRows3_sat st inz hinz hn m dd hq
      by_cases hmm : st.nle - 1 = m
      · left
        rw [if_pos hmm] at hd
        subst hd
        refine ⟨hk', hmm.symm, fun j => ?_⟩
        show bit (setBit dd.sat kept.length) j = _
        rw [bit_setBit, hsatm, line_bits_false srcK kept st H hsat m dm hdm (by omega)]
        simp
      · right
        rw [if_neg hmm] at hd
        subst hd
        exact ⟨m, dm, by omega, hdm, hsatm, fun _ => rfl, fun h => absurd h hk⟩

theorem lineCase_extra_proper (ncols : Nat) (srcK : LRow) (kept : List LRow) (st : CState) (inz : Nat)
    (H : StepHyp srcK st kept) (hinz : inz < st.nle) (hsat : RowsSatCorrect kept st.rows)
    (X : CExtra ncols kept st) :
    SatProper (lineCase srcK kept.length st inz).nle (lineCase srcK kept.length st inz).rows := by
  intro m d hm hd
  rw [lineCase_nle] at hm
  rcases lineCase_sat_src srcK kept st inz H hinz hsat m d hd hm with ⟨_, _, hb⟩ | ⟨m0, dm, hge, hdm, hs, _, _⟩
  · rw [bitsEmpty_false_iff]
    exact ⟨kept.length, by rw [hb]; simp⟩
  · rw [hs]; exact X.proper m0 dm hge hdm

theorem lineCase_extra_antichain (ncols : Nat) (srcK : LRow) (kept : List LRow) (st : CState) (inz : Nat)
    (H : StepHyp srcK st kept) (hinz : inz < st.nle) (hsat : RowsSatCorrect kept st.rows)
    (X : CExtra ncols kept st) :
    SatAntichain (lineCase srcK kept.length st inz).nle (lineCase srcK kept.length st inz).rows := by
  intro l m dl dm hl hm hne hdl hdm
  rw [lineCase_nle] at hl hm
  rw [Bool.eq_false_iff]
  intro hsub
  rw [subsetOrEqual_iff] at hsub
  rcases lineCase_sat_src srcK kept st inz H hinz hsat l dl hdl hl with
    ⟨_, hl1, hbl⟩ | ⟨l0, el, hgel, hel, hsl, hfl, htl⟩
  · rcases lineCase_sat_src srcK kept st inz H hinz hsat m dm hdm hm with
      ⟨_, hm1, _⟩ | ⟨m0, em, hgem, hem, hsm, _, _⟩
    · omega
    · -- the new ray owns the new column, the old ray does not
      have h1 : bit dl.sat kept.length = true := by rw [hbl]; simp
      have h2 := hsub _ h1
      rw [hsm, old_bit_new_false kept st.rows hsat em (List.mem_of_getElem? hem)] at h2
      cases h2
  · rcases lineCase_sat_src srcK kept st inz H hinz hsat m dm hdm hm with
      ⟨_, hm1, hbm⟩ | ⟨m0, em, hgem, hem, hsm, hfm, htm⟩
    · -- the old ray has some column, which is not the new one
      obtain ⟨j, hj⟩ := (bitsEmpty_false_iff _).mp (X.proper l0 el hgel hel)
      have hjne : j ≠ kept.length := by
        intro e
        rw [e, old_bit_new_false kept st.rows hsat el (List.mem_of_getElem? hel)] at hj
        cases hj
      have h2 := hsub j (by rw [hsl]; exact hj)
      rw [hbm] at h2
      simp only [decide_eq_true_eq] at h2
      exact hjne h2
    · have hne0 : l0 ≠ m0 := by
        cases hk : srcK.le with
        | false =>
          have := hfl hk; have := hfm hk; omega
        | true =>
          have := htl hk; have := htm hk; omega
      have := X.antichain l0 m0 el em hgel hgem hne0 hel hem
      rw [Bool.eq_false_iff] at this
      apply this
      rw [subsetOrEqual_iff]
      intro j hj
      have := hsub j (by rw [hsl]; exact hj)
      rw [hsm] at this
      exact this

end PPLV.Conv

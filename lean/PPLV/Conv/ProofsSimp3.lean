import PPLV.Conv.ProofsSimp2
/-!
# `simplify`: the independence rule loses nothing

Every row from `nle` on of the input is dominated (`subsetOrEqual y.sat x.sat`) by a row that is kept.
The model reads `rows.getD i default` in the inner loop; that `i` stays in range is part of the invariant
(`Proc`: the rows before the outer index have been compared with every other row and no saturation row
is a subset of theirs; hence the inner loop never removes an index below `i`).
-/
namespace PPLV.Conv

theorem getD_removeRowAt (l : List SRow) (i m : Nat) (hi : i < l.length) (hm : m < l.length - 1) :
    (removeRowAt l i).getD m default = if m = i then l.getD (l.length - 1) default else l.getD m default := by
  simp only [List.getD_eq_getElem?_getD, getElem?_removeRowAt l i m hi, hm, if_true]
  split <;> rfl

/-- where a row other than the removed one goes. -/
theorem removeRowAt_loc (l : List SRow) (a m : Nat) (ha : a < l.length) (hm : m < l.length) (hne : m ≠ a) :
    ∃ m', (m' = m ∨ m' = a) ∧ (removeRowAt l a)[m']? = l[m]? := by
  by_cases h : m < l.length - 1
  · exact ⟨m, Or.inl rfl, getElem?_removeRowAt_of_ne l a m ha h hne⟩
  · have e : m = l.length - 1 := by omega
    refine ⟨a, Or.inr rfl, ?_⟩
    rw [getElem?_removeRowAt l a a ha]
    have : a < l.length - 1 := by omega
    simp only [this, if_true]
    rw [e]

/-- removing a row that is dominated by another row from `nle` on loses nothing. -/
theorem dom_remove (nle : Nat) (rows : List SRow) (a b : Nat) (ha : nle ≤ a) (hb : nle ≤ b)
    (hal : a < rows.length) (hbl : b < rows.length) (hab : b ≠ a)
    (hs : subsetOrEqual (rows.getD b default).sat (rows.getD a default).sat = true) :
    ∀ x ∈ rows.drop nle, ∃ y ∈ (removeRowAt rows a).drop nle, subsetOrEqual y.sat x.sat = true := by
  intro x hx
  rw [mem_drop_iff_getElem?] at hx
  obtain ⟨m, hm, hxm⟩ := hx
  have hml : m < rows.length := (List.getElem?_eq_some_iff.1 hxm).1
  by_cases e : m = a
  · subst e
    obtain ⟨m', hm', hloc⟩ := removeRowAt_loc rows m b hal hbl hab
    refine ⟨rows.getD b default, ?_, ?_⟩
    · rw [mem_drop_iff_getElem?]
      refine ⟨m', by omega, ?_⟩
      rw [hloc]; exact getElem?_of_lt_getD rows b default hbl
    · rw [getD_of_getElem? rows m x default hxm] at hs; exact hs
  · obtain ⟨m', hm', hloc⟩ := removeRowAt_loc rows a m hal hml e
    refine ⟨x, ?_, subsetOrEqual_refl _⟩
    rw [mem_drop_iff_getElem?]
    exact ⟨m', by omega, by rw [hloc]; exact hxm⟩

/-- the rows in `[nle, i)` have been compared with every other row. -/
def Proc (nle : Nat) (rows : List SRow) (i : Nat) : Prop :=
  ∀ j k, nle ≤ j → j < i → nle ≤ k → k < rows.length → k ≠ j →
    subsetOrEqual (rows.getD k default).sat (rows.getD j default).sat = false

theorem Proc_remove (nle : Nat) (rows : List SRow) (i a : Nat) (hia : i ≤ a) (ha : a < rows.length)
    (h : Proc nle rows i) : Proc nle (removeRowAt rows a) i := by
  intro j k hj hji hk hkl hne
  rw [length_removeRowAt] at hkl
  rw [getD_removeRowAt rows a k ha hkl, getD_removeRowAt rows a j ha (by omega)]
  have hja : j ≠ a := by omega
  simp only [hja, if_false]
  split
  · exact h j (rows.length - 1) hj hji (by omega) (by omega) (by omega)
  · exact h j k hj hji hk (by omega) hne

/-! ## equations of the inner loop -/

theorem indepInner_ge (n : Nat) (rows : List SRow) (i j : Nat) (h : ¬ j < rows.length) :
    indepInner (n + 1) rows i j = (rows, false) := by
  simp [indepInner, h]

theorem indepInner_eq (n : Nat) (rows : List SRow) (i j : Nat) (h : j < rows.length) (e : i = j) :
    indepInner (n + 1) rows i j = indepInner n rows i (j + 1) := by
  simp [indepInner, h, e]

theorem indepInner_nsub (n : Nat) (rows : List SRow) (i j : Nat) (h : j < rows.length) (e : i ≠ j)
    (hs : subsetOrEqual (rows.getD j default).sat (rows.getD i default).sat = false) :
    indepInner (n + 1) rows i j = indepInner n rows i (j + 1) := by
  have e' : (i == j) = false := by simpa using e
  conv_lhs => unfold indepInner
  simp only [subsetOrEqualStrict, h, e', hs]
  simp

theorem indepInner_strict (n : Nat) (rows : List SRow) (i j : Nat) (h : j < rows.length) (e : i ≠ j)
    (hs : subsetOrEqual (rows.getD j default).sat (rows.getD i default).sat = true)
    (hs2 : subsetOrEqual (rows.getD i default).sat (rows.getD j default).sat = false) :
    indepInner (n + 1) rows i j = (rows, true) := by
  have e' : (i == j) = false := by simpa using e
  conv_lhs => unfold indepInner
  simp only [subsetOrEqualStrict, h, e', hs, hs2]
  simp

theorem indepInner_rm (n : Nat) (rows : List SRow) (i j : Nat) (h : j < rows.length) (e : i ≠ j)
    (hs : subsetOrEqual (rows.getD j default).sat (rows.getD i default).sat = true)
    (hs2 : subsetOrEqual (rows.getD i default).sat (rows.getD j default).sat = true) :
    indepInner (n + 1) rows i j = indepInner n (removeRowAt rows j) i j := by
  have e' : (i == j) = false := by simpa using e
  conv_lhs => unfold indepInner
  simp only [subsetOrEqualStrict, h, e', hs, hs2]
  simp

/-- what the inner loop establishes. -/
def InnerPost (nle : Nat) (rows : List SRow) (i : Nat) (out : List SRow × Bool) : Prop :=
  i < out.1.length ∧ out.1.length ≤ rows.length ∧ out.1.take (i + 1) = rows.take (i + 1) ∧ Proc nle out.1 i ∧
  (∀ x ∈ rows.drop nle, ∃ y ∈ out.1.drop nle, subsetOrEqual y.sat x.sat = true) ∧
  (out.2 = false → ∀ k, nle ≤ k → k < out.1.length → k ≠ i →
      subsetOrEqual (out.1.getD k default).sat (out.1.getD i default).sat = false) ∧
  (out.2 = true → ∃ k, nle ≤ k ∧ k < out.1.length ∧ k ≠ i ∧
      subsetOrEqual (out.1.getD k default).sat (out.1.getD i default).sat = true)

theorem dom_refl (nle : Nat) (rows : List SRow) :
    ∀ x ∈ rows.drop nle, ∃ y ∈ rows.drop nle, subsetOrEqual y.sat x.sat = true :=
  fun x hx => ⟨x, hx, subsetOrEqual_refl _⟩

theorem indepInner_spec (nle : Nat) : ∀ (fuel : Nat) (rows : List SRow) (i j : Nat),
    nle ≤ i → i < rows.length → nle ≤ j → rows.length - j ≤ fuel → Proc nle rows i →
    (∀ k, nle ≤ k → k < j → k ≠ i →
      subsetOrEqual (rows.getD k default).sat (rows.getD i default).sat = false) →
    InnerPost nle rows i (indepInner fuel rows i j)
  | 0, rows, i, j => fun hi hil hj hf hP hS => by
    simp only [indepInner]
    refine ⟨hil, Nat.le_refl _, rfl, hP, dom_refl nle rows, fun _ k hk hkl hne => ?_, fun h => by cases h⟩
    exact hS k hk (by have : k < rows.length := hkl; omega) hne
  | n + 1, rows, i, j => fun hi hil hj hf hP hS => by
    by_cases hjl : j < rows.length
    · by_cases e : i = j
      · rw [indepInner_eq n rows i j hjl e]
        exact indepInner_spec nle n rows i (j + 1) hi hil (by omega) (by omega) hP
          (fun k hk hkj hne => hS k hk (by omega) hne)
      · cases hs : subsetOrEqual (rows.getD j default).sat (rows.getD i default).sat with
        | false =>
          rw [indepInner_nsub n rows i j hjl e hs]
          refine indepInner_spec nle n rows i (j + 1) hi hil (by omega) (by omega) hP
            (fun k hk hkj hne => ?_)
          by_cases ekj : k = j
          · subst ekj; exact hs
          · exact hS k hk (by omega) hne
        | true =>
          cases hs2 : subsetOrEqual (rows.getD i default).sat (rows.getD j default).sat with
          | false =>
            rw [indepInner_strict n rows i j hjl e hs hs2]
            exact ⟨hil, Nat.le_refl _, rfl, hP, dom_refl nle rows, (fun h => by cases h),
              fun _ => ⟨j, hj, hjl, fun h => e h.symm, hs⟩⟩
          | true =>
            rw [indepInner_rm n rows i j hjl e hs hs2]
            have hij : i < j := by
              rcases Nat.lt_or_ge i j with h | h
              · exact h
              · exfalso
                have := hP j i hj (by omega) hi hil e
                rw [this] at hs2; cases hs2
            have ih := indepInner_spec nle n (removeRowAt rows j) i j hi
              (by rw [length_removeRowAt]; omega) hj (by rw [length_removeRowAt]; omega)
              (Proc_remove nle rows i j (by omega) hjl hP)
              (fun k hk hkj hne => by
                rw [getD_removeRowAt rows j k hjl (by omega), getD_removeRowAt rows j i hjl (by omega)]
                have h1 : k ≠ j := by omega
                have h2 : i ≠ j := by omega
                simp only [h1, h2, if_false]
                exact hS k hk hkj hne)
            obtain ⟨p1, p2, p3, p4, p5, p6, p7⟩ := ih
            refine ⟨p1, ?_, ?_, p4, ?_, p6, p7⟩
            · rw [length_removeRowAt] at p2; omega
            · rw [p3]; exact take_removeRowAt rows j (i + 1) hjl (by omega)
            · intro x hx
              obtain ⟨y, hy, hyx⟩ := dom_remove nle rows j i hj hi hjl hil e hs2 x hx
              obtain ⟨z, hz, hzy⟩ := p5 y hy
              exact ⟨z, hz, subsetOrEqual_trans _ _ _ hzy hyx⟩
    · rw [indepInner_ge n rows i j hjl]
      refine ⟨hil, Nat.le_refl _, rfl, hP, dom_refl nle rows, fun _ k hk hkl hne => ?_, fun h => by cases h⟩
      exact hS k hk (by have : k < rows.length := hkl; omega) hne

/-! ## the outer loop -/

theorem indepLoop_ge (n nle : Nat) (rows : List SRow) (i : Nat) (h : ¬ i < rows.length) :
    indepLoop (n + 1) nle rows i = rows := by
  simp [indepLoop, h]

theorem indepLoop_red (n nle : Nat) (rows : List SRow) (i : Nat) (h : i < rows.length)
    (hr : (indepInner (rows.length - nle + 1) rows i nle).2 = true) :
    indepLoop (n + 1) nle rows i
      = indepLoop n nle (removeRowAt (indepInner (rows.length - nle + 1) rows i nle).1 i) i := by
  simp [indepLoop, h, hr]

theorem indepLoop_nred (n nle : Nat) (rows : List SRow) (i : Nat) (h : i < rows.length)
    (hr : (indepInner (rows.length - nle + 1) rows i nle).2 = false) :
    indepLoop (n + 1) nle rows i
      = indepLoop n nle (indepInner (rows.length - nle + 1) rows i nle).1 (i + 1) := by
  simp [indepLoop, h, hr]

theorem indepLoop_spec (nle : Nat) : ∀ (fuel : Nat) (rows : List SRow) (i : Nat),
    nle ≤ i → rows.length - i ≤ fuel → Proc nle rows i →
    (indepLoop fuel nle rows i).take nle = rows.take nle ∧
    ∀ x ∈ rows.drop nle, ∃ y ∈ (indepLoop fuel nle rows i).drop nle, subsetOrEqual y.sat x.sat = true
  | 0, rows, i => fun _ _ _ => by
    unfold indepLoop
    exact ⟨rfl, dom_refl nle rows⟩
  | n + 1, rows, i => fun hi hf hP => by
    by_cases hil : i < rows.length
    · obtain ⟨p1, p2, p3, p4, p5, p6, p7⟩ :=
        indepInner_spec nle (rows.length - nle + 1) rows i nle hi hil (Nat.le_refl _) (by omega) hP
          (fun k hk hkn _ => by omega)
      have htk : (indepInner (rows.length - nle + 1) rows i nle).1.take nle = rows.take nle := by
        have := congrArg (List.take nle) p3
        rw [List.take_take, List.take_take] at this
        have e : min nle (i + 1) = nle := by omega
        rw [e] at this; exact this
      cases hr : (indepInner (rows.length - nle + 1) rows i nle).2 with
      | true =>
        rw [indepLoop_red n nle rows i hil hr]
        obtain ⟨k, hk, hkl, hne, hs⟩ := p7 hr
        obtain ⟨q1, q2⟩ := indepLoop_spec nle n
          (removeRowAt (indepInner (rows.length - nle + 1) rows i nle).1 i) i hi
          (by rw [length_removeRowAt]; omega) (Proc_remove nle _ i i (Nat.le_refl _) p1 p4)
        refine ⟨?_, fun x hx => ?_⟩
        · rw [q1, take_removeRowAt _ i nle p1 hi, htk]
        · obtain ⟨y, hy, hyx⟩ := p5 x hx
          obtain ⟨z, hz, hzy⟩ := dom_remove nle _ i k hi hk p1 hkl hne hs y hy
          obtain ⟨w, hw, hwz⟩ := q2 z hz
          exact ⟨w, hw, subsetOrEqual_trans _ _ _ hwz (subsetOrEqual_trans _ _ _ hzy hyx)⟩
      | false =>
        rw [indepLoop_nred n nle rows i hil hr]
        have hP' : Proc nle (indepInner (rows.length - nle + 1) rows i nle).1 (i + 1) := by
          intro j k hj hji hk hkl hne
          by_cases e : j = i
          · subst e; exact p6 hr k hk hkl hne
          · exact p4 j k hj (by omega) hk hkl hne
        obtain ⟨q1, q2⟩ := indepLoop_spec nle n _ (i + 1) (by omega) (by omega) hP'
        refine ⟨by rw [q1, htk], fun x hx => ?_⟩
        obtain ⟨y, hy, hyx⟩ := p5 x hx
        obtain ⟨w, hw, hwy⟩ := q2 y hy
        exact ⟨w, hw, subsetOrEqual_trans _ _ _ hwy hyx⟩
    · rw [indepLoop_ge n nle rows i hil]
      exact ⟨rfl, dom_refl nle rows⟩

/-- the independence rule leaves the first `nle` rows alone. -/
theorem indepLoop_take (fuel nle : Nat) (rows : List SRow) (hf : rows.length ≤ fuel) :
    (indepLoop fuel nle rows nle).take nle = rows.take nle :=
  (indepLoop_spec nle fuel rows nle (Nat.le_refl _) (by omega) (fun j k hj hji => by omega)).1

/-- whoever is removed by the independence rule is dominated by a row that is kept. -/
theorem indepLoop_dominated (fuel nle : Nat) (rows : List SRow) (hf : rows.length ≤ fuel) :
    ∀ x ∈ rows.drop nle, ∃ y ∈ (indepLoop fuel nle rows nle).drop nle, subsetOrEqual y.sat x.sat = true :=
  (indepLoop_spec nle fuel rows nle (Nat.le_refl _) (by omega) (fun j k hj hji => by omega)).2

end PPLV.Conv

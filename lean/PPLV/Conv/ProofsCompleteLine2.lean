import PPLV.Conv.ProofsCompleteLine1
import PPLV.Conv.ProofsCompleteEmb2
import PPLV.Conv.ProofsCompleteAbs5
/-!
# the line case of `conversion`: `inU`, `rank`, and the hypotheses of `Abs.line_step_complete`
-/
namespace PPLV.Conv
open PPLV.Conv.Abs

theorem mem_linesOf_gens {st : CState} {l : FV} (h : l ∈ linesOf st.gens) :
    ∃ (m : Nat) (d : DRow), st.rows[m]? = some d ∧ d.row.le = true ∧ l = emb d.row.v := by
  obtain ⟨r, hr, hle, rfl⟩ := h
  obtain ⟨d, hd, rfl⟩ := List.mem_map.mp hr
  obtain ⟨m, hm⟩ := List.mem_iff_getElem?.mp hd
  exact ⟨m, d, hm, hle, rfl⟩

theorem mem_raysOf_gens {st : CState} {l : FV} (h : l ∈ raysOf st.gens) :
    ∃ (m : Nat) (d : DRow), st.rows[m]? = some d ∧ d.row.le = false ∧ l = emb d.row.v := by
  obtain ⟨r, hr, hle, rfl⟩ := h
  obtain ⟨d, hd, rfl⟩ := List.mem_map.mp hr
  obtain ⟨m, hm⟩ := List.mem_iff_getElem?.mp hd
  exact ⟨m, d, hm, hle, rfl⟩

theorem linesOf_gens_of_mem {st : CState} {d : DRow} (hd : d ∈ st.rows) (hle : d.row.le = true) :
    emb d.row.v ∈ linesOf st.gens :=
  ⟨d.row, List.mem_map.mpr ⟨d, hd, rfl⟩, hle, rfl⟩

theorem raysOf_gens_of_mem {st : CState} {d : DRow} (hd : d ∈ st.rows) (hle : d.row.le = false) :
    emb d.row.v ∈ raysOf st.gens :=
  ⟨d.row, List.mem_map.mpr ⟨d, hd, rfl⟩, hle, rfl⟩

/-- hypothesis `hline` of `Abs.line_step_complete` (and, dropping the last component, of `line_step_rank`). -/
theorem lineCase_hline (srcK : LRow) (kept : List LRow) (st : CState) (inz : Nat) (H : StepHyp srcK st kept)
    (hinz : inz < st.nle) (hbefore : ∀ m d, m < inz → st.rows[m]? = some d → d.sp = 0)
    (r : DRow) (hr : st.rows[inz]? = some r) (hrnz : r.sp ≠ 0) :
    ∀ l ∈ linesOf st.gens, l ≠ emb r.row.v →
      ∃ l' ∈ linesOf (lineCase srcK kept.length st inz).gens, ∃ s t : ℚ, s ≠ 0 ∧
        l' = s • l + t • emb r.row.v ∧ (conOf srcK).f l' = 0 := by
  intro l hl hne
  obtain ⟨m0, d0, hd0, hle0, rfl⟩ := mem_linesOf_gens hl
  have hm0 : m0 ≠ inz := by
    intro e
    rw [e, hr] at hd0
    have := Option.some.inj hd0
    subst this
    exact hne rfl
  obtain ⟨d', hd', hle', hsp', s, t, hs, _, hemb⟩ :=
    lineCase_image srcK kept st inz H hinz hbefore r hr hrnz m0 d0 hm0 hd0
  refine ⟨emb d'.row.v, linesOf_gens_of_mem hd' (by rw [hle', hle0]), s, t, hs, hemb, ?_⟩
  rw [conOf_f_emb, hsp']; simp

/-- hypothesis `hray` of `Abs.line_step_complete`. -/
theorem lineCase_hray (srcK : LRow) (kept : List LRow) (st : CState) (inz : Nat) (H : StepHyp srcK st kept)
    (hinz : inz < st.nle) (hbefore : ∀ m d, m < inz → st.rows[m]? = some d → d.sp = 0)
    (r : DRow) (hr : st.rows[inz]? = some r) (hrnz : r.sp ≠ 0) :
    ∀ x ∈ raysOf st.gens,
      ∃ x' ∈ raysOf (lineCase srcK kept.length st inz).gens, ∃ s t : ℚ, 0 < s ∧
        x' = s • x + t • emb r.row.v ∧ (conOf srcK).f x' = 0 := by
  intro l hl
  obtain ⟨m0, d0, hd0, hle0, rfl⟩ := mem_raysOf_gens hl
  have hm0 : m0 ≠ inz := by
    intro e
    rw [e, hr] at hd0
    have := Option.some.inj hd0
    subst this
    have := H.hl inz r hr
    rw [hle0] at this
    simp [hinz] at this
  obtain ⟨d', hd', hle', hsp', s, t, _, hs, hemb⟩ :=
    lineCase_image srcK kept st inz H hinz hbefore r hr hrnz m0 d0 hm0 hd0
  refine ⟨emb d'.row.v, raysOf_gens_of_mem hd' (by rw [hle', hle0]), s, t, hs hle0, hemb, ?_⟩
  rw [conOf_f_emb, hsp']; simp

/-- hypothesis `hpiv` of `Abs.line_step_complete`. -/
theorem lineCase_hpiv (srcK : LRow) (kept : List LRow) (st : CState) (inz : Nat) (H : StepHyp srcK st kept)
    (hinz : inz < st.nle) (r : DRow) (hr : st.rows[inz]? = some r) (hrnz : r.sp ≠ 0) :
    (conOf srcK).eq = false →
      ∃ r₀ ∈ raysOf (lineCase srcK kept.length st inz).gens, ∃ s : ℚ, r₀ = s • emb r.row.v ∧
        0 < (conOf srcK).f r₀ := by
  intro hk
  rw [conOf_eq] at hk
  obtain ⟨pr, hpr, hle, ⟨e, he⟩, hpos⟩ := lineCase_pivot srcK kept st inz H hinz r hr hrnz hk
  refine ⟨emb pr.row.v, raysOf_gens_of_mem hpr hle, e, he, ?_⟩
  rw [conOf_f_emb]
  exact_mod_cast hpos

/-- field `inU` of `CExtra` after the line case. -/
theorem lineCase_extra_inU (ncols : Nat) (srcK : LRow) (kept : List LRow) (st : CState) (inz : Nat)
    (H : StepHyp srcK st kept) (hinz : inz < st.nle)
    (hnz : ∃ r, st.rows[inz]? = some r ∧ r.sp ≠ 0) (X : CExtra ncols kept st) :
    ∀ d ∈ (lineCase srcK kept.length st inz).rows, emb d.row.v ∈ ambient ncols := by
  obtain ⟨r, hr, hrnz⟩ := hnz
  have hrmem := List.mem_of_getElem? hr
  have hrle : r.row.le = true := by
    have := H.hl inz r hr
    simpa [hinz] using this
  obtain ⟨_, ppos, _, _⟩ := linePivot_facts srcK kept r (H.hsp r hrmem) hrnz hrle (H.hP r hrmem)
  obtain ⟨e, _, he⟩ := linePivot_emb r
  have hp : emb (linePivot r).row.v ∈ ambient ncols := by
    rw [he]; exact Submodule.smul_mem _ _ (X.inU r hrmem)
  intro d hd
  rcases lineCase_row_cases srcK kept.length st inz hinz H.hn r hr d hd with h | ⟨d0, hd0, h | h⟩
  · rw [h]; exact hp
  · rw [h]; exact X.inU d0 hd0
  · obtain ⟨_, s, t, _, _, hemb⟩ := combRow_emb (linePivot r) d0 ppos
    rw [h, hemb]
    exact Submodule.add_mem _ (Submodule.smul_mem _ _ (X.inU d0 hd0)) (Submodule.smul_mem _ _ hp)

/-- field `rank` of `CExtra` after the line case. -/
theorem lineCase_extra_rank (ncols : Nat) (srcK : LRow) (kept : List LRow) (st : CState) (inz : Nat)
    (H : StepHyp srcK st kept) (hinz : inz < st.nle)
    (hbefore : ∀ m d, m < inz → st.rows[m]? = some d → d.sp = 0)
    (hnz : ∃ r, st.rows[inz]? = some r ∧ r.sp ≠ 0) (X : CExtra ncols kept st) :
    (lineCase srcK kept.length st inz).nle ≤
      Module.finrank ℚ (Submodule.span ℚ (linesOf (lineCase srcK kept.length st inz).gens)) := by
  obtain ⟨r, hr, hrnz⟩ := hnz
  have hnle : (lineCase srcK kept.length st inz).nle = st.nle - 1 := by
    rw [lineCase_eq]; split <;> rfl
  rw [hnle]
  refine line_step_rank (linesOf st.gens) _ (linesOf_finite _) (emb r.row.v) st.nle X.rank ?_ (linesOf_finite _)
  intro l hl hne
  obtain ⟨l', hl', s, t, hs, he, _⟩ := lineCase_hline srcK kept st inz H hinz hbefore r hr hrnz l hl hne
  exact ⟨l', hl', s, t, hs, he⟩

end PPLV.Conv

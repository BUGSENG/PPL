import PPLV.Conv.ProofsCompleteSimp8
/-!
# no redundant inequality remains after `simplify`: the phases up to the independence rule

`MinInv gens nle rows` (`ProofsCompleteSimp4`) needs no completeness of `gens` (so neither `hcomp`, nor `hrank`, nor
`hsz` is needed here).  It is carried from the input of `simplify` to `simpT`, the list handed to `back_substitute`;
with `indepLoop_independent` this gives the facts (a), (b), (c) at `simpT`.
-/
namespace PPLV.Conv

/-- the saturation rule keeps `MinInv` (whatever the threshold). -/
theorem satRuleLoop_minInv (gens : List LRow) (nle : Nat) (rows : List SRow) (fuel a b : Nat)
    (hI : MinInv gens nle rows) : MinInv gens nle (satRuleLoop fuel a b rows nle) :=
  hI.of_sub (GInv_of_take nle _ rows (satRuleLoop_take fuel a b rows nle nle (Nat.le_refl _)) hI.ginv)
    (satRuleLoop_drop_mem fuel a b rows nle nle (Nat.le_refl _)) (satRuleLoop_mem fuel a b rows nle)

/-- the independence rule keeps `MinInv`. -/
theorem indepLoop_minInv (gens : List LRow) (nle : Nat) (rows : List SRow) (fuel : Nat)
    (hf : rows.length ≤ fuel) (hI : MinInv gens nle rows) : MinInv gens nle (indepLoop fuel nle rows nle) :=
  hI.of_sub (GInv_of_take nle _ rows (indepLoop_take fuel nle rows hf) hI.ginv)
    (indepLoop_drop_mem fuel nle rows nle nle (Nat.le_refl _) (Nat.le_refl _)) (indepLoop_mem fuel nle rows nle)

/-- **`MinInv` at the list handed to `back_substitute`.** -/
theorem simpT_minInv (ncols numColsSat : Nat) (sys : List SRow) (gens : List LRow)
    (hOK : ∀ r ∈ sys, RowOK gens r) :
    MinInv gens (simpP ncols sys).2 (simpT ncols numColsSat sys) := by
  have eInv := simpE_minInv gens sys hOK
  have el := (simpE_facts gens sys hOK).1
  have gInv := gauss_minInv ncols gens (simpE sys).2 (simpE sys).1 eInv
  have gl : (simpG ncols sys).1.length = sys.length :=
    (gauss_length ncols _ _ eInv.ginv.2 eInv.ginv.1).trans el
  have pInv := dropPhase_minInv gens (simpE sys).2 (simpG ncols sys).2 (simpG ncols sys).1 gInv
  rw [gl] at pInv
  change MinInv gens (simpP ncols sys).2 (simpP ncols sys).1 at pInv
  have sInv := satRuleLoop_minInv gens (simpP ncols sys).2 (simpP ncols sys).1 (simpP ncols sys).1.length
    numColsSat (usub (usub ncols (simpP ncols sys).2) 1) pInv
  change MinInv gens (simpP ncols sys).2 (simpS ncols numColsSat sys) at sInv
  exact indepLoop_minInv gens (simpP ncols sys).2 (simpS ncols numColsSat sys)
    (simpS ncols numColsSat sys).length (Nat.le_refl _) sInv

/-- (c) at `simpT`: no saturation row from the equalities on is a subset of (or equal to) another. -/
theorem simpT_independent (ncols numColsSat : Nat) (sys : List SRow) :
    ∀ i k, (simpP ncols sys).2 ≤ i → i < (simpT ncols numColsSat sys).length →
      (simpP ncols sys).2 ≤ k → k < (simpT ncols numColsSat sys).length → k ≠ i →
      subsetOrEqual ((simpT ncols numColsSat sys).getD k default).sat
        ((simpT ncols numColsSat sys).getD i default).sat = false :=
  indepLoop_independent (simpS ncols numColsSat sys).length (simpP ncols sys).2 (simpS ncols numColsSat sys)
    (Nat.le_refl _)

/-! ## the index form -/

theorem getD_mem_drop (rows : List SRow) (n m : Nat) (hn : n ≤ m) (hm : m < rows.length) :
    rows.getD m default ∈ rows.drop n :=
  (mem_drop_iff_getElem? _ _ _).2 ⟨m, hn, getElem?_of_lt_getD rows m default hm⟩

theorem MinInv.sound_idx {gens : List LRow} {nle : Nat} {rows : List SRow} (hI : MinInv gens nle rows) :
    ∀ m, m < rows.length → ∀ g ∈ gens, satisfies (rows.getD m default).row g :=
  fun m hm g hg => hI.sound g hg _ (List.mem_map.2 ⟨_, getD_mem_of_lt rows m hm, rfl⟩)

theorem MinInv.ineq_idx {gens : List LRow} {nle : Nat} {rows : List SRow} (hI : MinInv gens nle rows) :
    ∀ m, nle ≤ m → m < rows.length → (rows.getD m default).row.le = false ∧
      bitsEmpty (rows.getD m default).sat = false ∧ ExactBits gens (rows.getD m default) :=
  fun m hn hm => hI.ineq _ (getD_mem_drop rows nle m hn hm)

end PPLV.Conv

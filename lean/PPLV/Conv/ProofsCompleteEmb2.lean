import PPLV.Conv.ProofsCompleteEmb
import PPLV.Conv.ProofsCompleteAbs1
import Mathlib.Data.Set.Finite.List
import Mathlib.Data.Set.Finite.Basic
import Mathlib.LinearAlgebra.Dimension.Constructions
import Mathlib.LinearAlgebra.FiniteDimensional.Defs
import Mathlib.LinearAlgebra.LinearIndependent.Defs
import Mathlib.Algebra.BigOperators.Group.Finset.Basic
import Mathlib.Algebra.BigOperators.Pi
import Mathlib.Tactic.FieldSimp
/-!
# bridges between the model rows and the abstract setting

`Generated` of `Spec.lean` is membership in the abstract cone; the ambient space of `n` columns has dimension
`n` and is generated by the identity matrix of lines.
-/
namespace PPLV.Conv
open PPLV.Conv.Abs

theorem linesOf_finite (rows : List LRow) : (linesOf rows).Finite := by
  refine ((List.finite_toSet rows).image (fun r => emb r.v)).subset ?_
  rintro v ⟨r, hr, _, rfl⟩
  exact ⟨r, hr, rfl⟩

theorem raysOf_finite (rows : List LRow) : (raysOf rows).Finite := by
  refine ((List.finite_toSet rows).image (fun r => emb r.v)).subset ?_
  rintro v ⟨r, hr, _, rfl⟩
  exact ⟨r, hr, rfl⟩

/-! ## the identity matrix -/

/-- the `i`-th row of the identity matrix with `n` columns. -/
def unitV (n i : Nat) : Vec := (List.range n).map fun c => if c = i then 1 else 0

theorem identityLines_eq (n : Nat) :
    identityLines n = (List.range n).map fun i => ⟨true, unitV n i⟩ := rfl

theorem sp_eq_sum : ∀ (n : Nat) (c x : Vec), x.length ≤ n →
    scalarProduct c x = ∑ i ∈ Finset.range n, c.getD i 0 * x.getD i 0
  | 0, c, x, h => by
    have : x = [] := List.eq_nil_of_length_eq_zero (by omega)
    subst this; simp [sp_nil_right]
  | n + 1, c, x, h => by
    cases c with
    | nil => simp [sp_nil_left]
    | cons a as =>
      cases x with
      | nil => simp [sp_nil_right]
      | cons b bs =>
        show a * b + scalarProduct as bs = _
        rw [Finset.sum_range_succ', sp_eq_sum n as bs (by simpa using h)]
        simp [add_comm]

theorem unitV_length (n i : Nat) : (unitV n i).length = n := by simp [unitV]

theorem unitV_getD (n i k : Nat) : (unitV n i).getD k 0 = if k < n ∧ k = i then 1 else 0 := by
  by_cases hk : k < n <;> simp [unitV, List.getD_eq_getElem?_getD, hk]

theorem sp_unit (n i : Nat) (c : Vec) (hi : i < n) : scalarProduct c (unitV n i) = c.getD i 0 := by
  rw [sp_eq_sum n c (unitV n i) (by rw [unitV_length])]
  simp only [unitV_getD]
  rw [Finset.sum_eq_single i]
  · simp [hi]
  · intro b _ hb; simp [hb]
  · intro h; exact absurd (Finset.mem_range.mpr hi) h

theorem emb_decomp (n : Nat) (x : Vec) (h : x.length ≤ n) :
    emb x = ∑ i ∈ Finset.range n, ((x.getD i 0 : ℤ) : ℚ) • emb (unitV n i) := by
  funext c
  rw [Finset.sum_apply]
  simp only [Pi.smul_apply, emb, smul_eq_mul]
  rw [sp_eq_sum n c x h]
  push_cast
  apply Finset.sum_congr rfl
  intro i hi
  rw [sp_unit n i c (Finset.mem_range.mp hi)]; ring

/-- a finite sum of multiples of lines and non-negative multiples of rays is in the cone. -/
theorem cone_sum {ι : Type} (L R : Set FV) (s : Finset ι) (t : ι → ℚ) (v : ι → FV)
    (h : ∀ i ∈ s, v i ∈ L ∨ (v i ∈ R ∧ 0 ≤ t i)) : Cone L R (∑ i ∈ s, t i • v i) := by
  classical
  revert h
  refine Finset.induction_on s ?_ ?_
  · intro _; simp only [Finset.sum_empty]; exact Cone.zero
  · intro a s ha ih h
    rw [Finset.sum_insert ha]
    have h1 := ih (fun i hi => h i (Finset.mem_insert_of_mem hi))
    rcases h a (Finset.mem_insert_self a s) with hl | ⟨hr, ht⟩
    · rw [add_comm]; exact Cone.line _ hl h1
    · rw [add_comm]; exact Cone.ray _ hr ht h1

theorem unit_mem_linesOf (n i : Nat) (hi : i < n) : emb (unitV n i) ∈ linesOf (identityLines n) :=
  ⟨⟨true, unitV n i⟩, by rw [identityLines_eq]; exact List.mem_map.mpr ⟨i, List.mem_range.mpr hi, rfl⟩,
    rfl, rfl⟩

/-- the identity matrix of lines generates the ambient space. -/
theorem ambient_le_identity (n : Nat) :
    ∀ y ∈ ambient n, Cone (linesOf (identityLines n)) (raysOf (identityLines n)) y := by
  intro y hy
  have : Cone (linesOf (identityLines n)) ∅ y := by
    unfold ambient at hy
    induction hy using Submodule.span_induction with
    | mem y hy =>
      obtain ⟨x, hx, rfl⟩ := hy
      rw [emb_decomp n x hx]
      exact cone_sum _ _ _ _ _ (fun i hi => Or.inl (unit_mem_linesOf n i (Finset.mem_range.mp hi)))
    | zero => exact Cone.zero
    | add x y _ _ hx hy => exact Cone.add hx hy
    | smul t x _ hx => exact Cone.lines_smul t hx
  exact Cone.mono (fun _ h => h) (Set.empty_subset _) this

theorem unit_li (n : Nat) : LinearIndependent ℚ (fun i : Fin n => emb (unitV n i)) := by
  rw [linearIndependent_iff']
  intro s g hg j hj
  have h := congrFun hg (unitV n j)
  rw [Finset.sum_apply] at h
  simp only [Pi.smul_apply, emb, smul_eq_mul, Pi.zero_apply] at h
  rw [Finset.sum_eq_single j] at h
  · rw [sp_unit n j _ j.2, unitV_getD] at h
    simpa using h
  · intro b _ hb
    rw [sp_unit n b _ b.2, unitV_getD]
    have : (b : Nat) ≠ (j : Nat) := fun e => hb (Fin.ext e)
    simp [this]
  · intro h'; exact absurd hj h'

theorem linesOf_identity (n : Nat) :
    linesOf (identityLines n) = Set.range (fun i : Fin n => emb (unitV n i)) := by
  ext v
  constructor
  · rintro ⟨r, hr, _, rfl⟩
    rw [identityLines_eq] at hr
    obtain ⟨i, hi, rfl⟩ := List.mem_map.mp hr
    exact ⟨⟨i, List.mem_range.mp hi⟩, rfl⟩
  · rintro ⟨i, rfl⟩; exact unit_mem_linesOf n i i.2

theorem finrank_identity_eq (n : Nat) :
    Module.finrank ℚ (Submodule.span ℚ (linesOf (identityLines n))) = n := by
  rw [linesOf_identity, finrank_span_eq_card (unit_li n)]; simp

theorem finrank_identity (n : Nat) :
    n ≤ Module.finrank ℚ (Submodule.span ℚ (linesOf (identityLines n))) :=
  (finrank_identity_eq n).ge

theorem ambient_eq (n : Nat) :
    ambient n = Submodule.span ℚ (Set.range (fun i : Fin n => emb (unitV n i))) := by
  apply le_antisymm
  · unfold ambient
    rw [Submodule.span_le]
    rintro _ ⟨x, hx, rfl⟩
    rw [emb_decomp n x hx]
    apply Submodule.sum_mem
    intro i hi
    exact Submodule.smul_mem _ _ (Submodule.subset_span ⟨⟨i, Finset.mem_range.mp hi⟩, rfl⟩)
  · apply Submodule.span_mono
    rintro _ ⟨i, rfl⟩
    exact ⟨unitV n i, by simp [unitV_length], rfl⟩

instance ambient_finiteDimensional (n : Nat) : FiniteDimensional ℚ (ambient n) := by
  rw [ambient_eq]
  exact FiniteDimensional.span_of_finite ℚ (Set.finite_range _)

theorem finrank_ambient (n : Nat) : Module.finrank ℚ (ambient n) = n := by
  rw [ambient_eq, finrank_span_eq_card (unit_li n)]; simp

/-! ## `Generated` is membership in the cone -/

theorem list_sum_range {M : Type} [AddCommMonoid M] (f : Nat → M) (n : Nat) :
    ((List.range n).map f).sum = ∑ i ∈ Finset.range n, f i := by
  induction n with
  | zero => simp
  | succ n ih =>
    rw [List.range_succ, List.map_append, List.sum_append, ih, Finset.sum_range_succ]; simp

theorem cone_of_generated (gens : List LRow) (x : Vec) (h : Generated gens x) :
    Cone (linesOf gens) (raysOf gens) (emb x) := by
  obtain ⟨den, coef, hden, _, hpos, heq⟩ := h
  have hdq : (den : ℚ) ≠ 0 := by exact_mod_cast ne_of_gt hden
  have e : emb x = ∑ i ∈ Finset.range gens.length,
      (((coef.getD i 0 : ℤ) : ℚ) / (den : ℚ)) • emb (gens.getD i default).v := by
    funext c
    rw [Finset.sum_apply]
    simp only [Pi.smul_apply, emb, smul_eq_mul]
    have h1 := heq c
    rw [list_sum_range] at h1
    have h2 : (den : ℚ) * (scalarProduct c x : ℚ) = ∑ i ∈ Finset.range gens.length,
        ((coef.getD i 0 : ℤ) : ℚ) * (scalarProduct c (gens.getD i default).v : ℚ) := by
      exact_mod_cast h1
    have h3 : (scalarProduct c x : ℚ) = ((den : ℚ) * (scalarProduct c x : ℚ)) * (den : ℚ)⁻¹ := by
      field_simp
    rw [h3, h2, Finset.sum_mul]
    apply Finset.sum_congr rfl
    intro i _; ring
  rw [e]
  apply cone_sum
  intro i hi
  have hi' := Finset.mem_range.mp hi
  rw [getD_eq_getElem gens default hi']
  cases hle : gens[i].le with
  | true => left; exact ⟨gens[i], List.getElem_mem hi', hle, rfl⟩
  | false =>
    right
    refine ⟨⟨gens[i], List.getElem_mem hi', hle, rfl⟩, div_nonneg ?_ ?_⟩
    · exact_mod_cast hpos i hi' hle
    · exact_mod_cast le_of_lt hden

/-- rational coefficients, one per generator index, non-negative on the rays. -/
theorem cone_coefs (gens : List LRow) (y : FV) (h : Cone (linesOf gens) (raysOf gens) y) :
    ∃ q : Nat → ℚ, (∀ i (h : i < gens.length), gens[i].le = false → 0 ≤ q i) ∧
      y = ∑ i ∈ Finset.range gens.length, q i • emb (gens.getD i default).v := by
  induction h with
  | zero => exact ⟨fun _ => 0, fun _ _ _ => le_rfl, by simp⟩
  | @line l y t hl _ ih =>
    obtain ⟨q, hq, e⟩ := ih
    obtain ⟨r, hr, hle, rfl⟩ := hl
    obtain ⟨k, hk, rfl⟩ := List.getElem_of_mem hr
    refine ⟨fun i => q i + if i = k then t else 0, ?_, ?_⟩
    · intro i hi hf
      by_cases hik : i = k
      · subst hik; rw [hle] at hf; cases hf
      · simp only [hik, if_false, add_zero]; exact hq i hi hf
    · rw [e]
      simp only [add_smul, Finset.sum_add_distrib, ite_smul, zero_smul]
      rw [Finset.sum_ite_eq']
      simp [hk]
  | @ray l y t hl ht _ ih =>
    obtain ⟨q, hq, e⟩ := ih
    obtain ⟨r, hr, hle, rfl⟩ := hl
    obtain ⟨k, hk, rfl⟩ := List.getElem_of_mem hr
    refine ⟨fun i => q i + if i = k then t else 0, ?_, ?_⟩
    · intro i hi hf
      by_cases hik : i = k
      · simp only [hik, if_true]
        exact add_nonneg (hq k hk hle) ht
      · simp only [hik, if_false, add_zero]; exact hq i hi hf
    · rw [e]
      simp only [add_smul, Finset.sum_add_distrib, ite_smul, zero_smul]
      rw [Finset.sum_ite_eq']
      simp [hk]

theorem generated_of_cone (gens : List LRow) (x : Vec) (h : Cone (linesOf gens) (raysOf gens) (emb x)) :
    Generated gens x := by
  obtain ⟨q, hq, e⟩ := cone_coefs gens (emb x) h
  have hD : 0 < ∏ i ∈ Finset.range gens.length, (q i).den := Finset.prod_pos (fun i _ => (q i).den_pos)
  generalize hDdef : (∏ i ∈ Finset.range gens.length, (q i).den) = D at hD
  have hcf : ∀ i, i < gens.length →
      ((((q i).num * ((D / (q i).den : Nat) : Int) : ℤ)) : ℚ) = q i * D := by
    intro i hi
    have hdvd : (q i).den ∣ D := by
      rw [← hDdef]; exact Finset.dvd_prod_of_mem _ (Finset.mem_range.mpr hi)
    obtain ⟨k, hk⟩ := hdvd
    rw [hk, Nat.mul_div_cancel_left k (q i).den_pos]
    push_cast
    have h3 : q i * (q i).den = (q i).num := Rat.mul_den_eq_num (q i)
    rw [← h3]; ring
  have hgetD : ∀ i, i < gens.length →
      ((List.range gens.length).map fun i => (q i).num * ((D / (q i).den : Nat) : Int)).getD i 0
        = (q i).num * ((D / (q i).den : Nat) : Int) := by
    intro i hi
    simp [List.getD_eq_getElem?_getD, hi]
  refine ⟨(D : Int), (List.range gens.length).map fun i => (q i).num * ((D / (q i).den : Nat) : Int),
    by exact_mod_cast hD, by simp, ?_, ?_⟩
  · intro i hi hf
    rw [hgetD i hi]
    have h1 := hq i hi hf
    have h2 : (0 : ℚ) ≤ (((q i).num * ((D / (q i).den : Nat) : Int) : ℤ) : ℚ) := by
      rw [hcf i hi]
      exact mul_nonneg h1 (by exact_mod_cast hD.le)
    exact_mod_cast h2
  · intro c
    rw [list_sum_range]
    have e1 := congrFun e c
    rw [Finset.sum_apply] at e1
    simp only [Pi.smul_apply, emb, smul_eq_mul] at e1
    have h2 : (((D : ℤ)) : ℚ) * (scalarProduct c x : ℚ) = ∑ i ∈ Finset.range gens.length,
        (((((List.range gens.length).map fun i => (q i).num * ((D / (q i).den : Nat) : Int)).getD i 0 : ℤ)) : ℚ)
          * (scalarProduct c (gens.getD i default).v : ℚ) := by
      rw [e1, Finset.mul_sum]
      apply Finset.sum_congr rfl
      intro i hi
      rw [hgetD i (Finset.mem_range.mp hi), hcf i (Finset.mem_range.mp hi)]
      push_cast; ring
    exact_mod_cast h2

/-- what sound generators generate satisfies the rows. -/
theorem holdsAll_of_generated {rows gens : List LRow} (h : Sound rows gens) (x : Vec)
    (hx : Generated gens x) : holdsAll rows x :=
  (holdsAll_iff_abs rows x).mpr (Cone.inP _ h.lines_zero h.rays_inP (cone_of_generated gens x hx))

end PPLV.Conv

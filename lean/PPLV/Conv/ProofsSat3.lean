import PPLV.Conv.ProofsSat2
import PPLV.Conv.ProofsSound3
/-!
# The saturation matrix kept by `conversion` never goes stale: the loop and the function
-/
namespace PPLV.Conv

/-- the loop invariant; the columns of the saturation rows are the processed source rows that were
not found redundant. -/
structure SatInv (source : List LRow) (st : CState) : Prop where
  hk : st.k ≤ source.length
  hred : ∀ i ∈ st.redundant, i < st.k
  hlen : (removeRows (source.take st.k) st.redundant).length + st.redundant.length = st.k
  hs : ∀ d ∈ st.rows, ∀ s ∈ removeRows (source.take st.k) st.redundant, satisfies s d.row
  hl : ∀ m d, st.rows[m]? = some d → d.row.le = decide (m < st.nle)
  hn : st.nle ≤ st.rows.length
  hsat : RowsSatCorrect (removeRows (source.take st.k) st.redundant) st.rows

theorem satInv_step (ncols : Nat) (source : List LRow) (st : CState) (I : SatInv source st)
    (hlt : st.k < source.length) (st2 : CState)
    (h2 : st2 = { conversionStep ncols source[st.k] st with k := st.k + 1 }) : SatInv source st2 := by
  subst h2
  have hlenI := I.hlen
  have hkl : (removeRows (source.take st.k) st.redundant).length = st.k - st.redundant.length := by omega
  obtain ⟨s1, s2, s3⟩ := conversionStep_sound ncols source[st.k] st _ I.hs I.hl I.hn
  have hnotin : ¬ st.k ∈ st.redundant := fun hc => by have := I.hred _ hc; omega
  -- the kept source rows gain `source[k]`, or `k` is recorded as redundant
  rcases conversionStep_sat ncols source[st.k] st _ hkl I.hs I.hl I.hn I.hsat with ⟨r1, r2⟩ | ⟨r1, r2⟩
  · have hkept := removeRows_take_succ_keep source st.k st.redundant hlt hnotin
    refine ⟨Nat.succ_le_of_lt hlt, ?_, ?_, ?_, s2, s3, ?_⟩
    · dsimp only; rw [r1]
      intro i hi; have := I.hred i hi; omega
    · dsimp only; rw [r1, hkept, List.length_append, List.length_singleton]; omega
    · dsimp only; rw [r1, hkept]; exact s1
    · dsimp only; rw [r1, hkept]; exact r2
  · have hkept := removeRows_take_succ_drop source st.k st.redundant hlt
    refine ⟨Nat.succ_le_of_lt hlt, ?_, ?_, ?_, s2, s3, ?_⟩
    · dsimp only; rw [r1]
      intro i hi
      rcases List.mem_append.mp hi with h | h
      · have := I.hred i h; omega
      · rw [List.mem_singleton.mp h]; omega
    · dsimp only; rw [r1, hkept, List.length_append, List.length_singleton]; omega
    · dsimp only; rw [r1, hkept]
      exact fun d hd s hs => s1 d hd s (List.mem_append_left _ hs)
    · dsimp only; rw [r1, hkept]; exact r2

/-- the main loop over `source[st.k ..]`: a predicate that bounds `k` and survives one iteration holds at the
end, where `k = source.length`. -/
theorem conversionLoop_induction (ncols : Nat) (source : List LRow) (P : CState → Prop)
    (hk : ∀ st, P st → st.k ≤ source.length)
    (hstep : ∀ st, P st → (hlt : st.k < source.length) →
      P { conversionStep ncols source[st.k] st with k := st.k + 1 }) :
    ∀ (rest : List LRow) (st : CState), source.drop st.k = rest → P st →
      P (conversionLoop ncols rest st) ∧ (conversionLoop ncols rest st).k = source.length := by
  intro rest
  induction rest with
  | nil =>
    intro st hd I
    have := List.drop_eq_nil_iff.mp hd
    have := hk st I
    show P st ∧ st.k = source.length
    exact ⟨I, by omega⟩
  | cons s rest ih =>
    intro st hd I
    have hlt : st.k < source.length := by
      by_contra hc
      rw [List.drop_eq_nil_iff.mpr (by omega)] at hd
      cases hd
    rw [List.drop_eq_getElem_cons hlt] at hd
    rw [conversionLoop, ← (List.cons.inj hd).1]
    exact ih _ (List.cons.inj hd).2 (hstep st I hlt)

theorem conversionLoop_satInv (ncols : Nat) (source : List LRow) :
    ∀ (rest : List LRow) (st : CState), source.drop st.k = rest → SatInv source st →
      SatInv source (conversionLoop ncols rest st) ∧ (conversionLoop ncols rest st).k = source.length :=
  conversionLoop_induction ncols source (SatInv source) (fun _ I => I.hk)
    (fun st I hlt => satInv_step ncols source st I hlt _ rfl)

theorem mem_initRows (dest : List LRow) (sat : List BRow) (d : DRow) (hd : d ∈ initRows dest sat) :
    ∃ i, ∃ h : i < dest.length, d.row = dest[i] ∧ d.sat = sat.getD i [] := by
  unfold initRows at hd
  obtain ⟨i, hi, he⟩ := List.mem_iff_getElem.mp hd
  rw [List.length_zipWith] at hi
  rw [List.getElem_zipWith] at he
  have h2 : i < sat.length := by omega
  refine ⟨i, by omega, ?_, ?_⟩
  · rw [← he]
  · rw [← he, List.getD_eq_getElem?_getD, List.getElem?_eq_getElem h2]; rfl

/-- the invariant holds of the state `conversion` starts from. -/
theorem satInv_init (source : List LRow) (start : Nat) (dest : List LRow) (sat : List BRow) (nle : Nat)
    (hstart : start ≤ source.length) (h0 : Sound (source.take start) dest) (hl : LinesFirst dest nle)
    (hn : nle ≤ dest.length) (hsat0 : SatCorrect (source.take start) dest sat) :
    SatInv source { rows := initRows dest sat, nle := nle, k := start, redundant := [] } := by
  obtain ⟨hmem, hl0, hn0⟩ := initRows_layout dest sat nle hsat0.1 hl hn
  refine ⟨hstart, fun i hi => (nomatch hi), ?_, ?_, hl0, hn0, ?_⟩
  all_goals dsimp only; rw [removeRows_nil]
  · rw [List.length_take, List.length_nil]; omega
  · exact fun d hd s hs => h0 d.row (hmem d hd) s hs
  · intro d hd j
    obtain ⟨i, hi, e1, e2⟩ := mem_initRows dest sat d hd
    rw [e1, e2]
    exact hsat0.2 i hi j

/-- **the saturation matrix returned by `conversion` is the saturation relation** of the returned
generators (rows) and the returned source rows (columns: the source rows that were not removed as
redundant): bit `j` of row `i` is set iff `scalar_product(source'[j], dest'[i]) ≠ 0`, and no bit is
set beyond the last column. -/
theorem conversion_sat_correct (ncols : Nat) (source : List LRow) (start : Nat) (dest : List LRow) (sat : List BRow)
    (nle : Nat) (hstart : start ≤ source.length) (h0 : Sound (source.take start) dest) (hl : LinesFirst dest nle)
    (hn : nle ≤ dest.length) (hsat0 : SatCorrect (source.take start) dest sat) :
    let r := conversion ncols source start dest sat nle
    SatCorrect r.source r.dest r.sat := by
  intro r
  have I0 := satInv_init source start dest sat nle hstart h0 hl hn hsat0
  obtain ⟨I, hkend⟩ := conversionLoop_satInv ncols source (source.drop start) _ rfl I0
  generalize hF : conversionLoop ncols (source.drop start)
    { rows := initRows dest sat, nle := nle, k := start, redundant := [] } = stF at I hkend
  have hkeptF : removeRows (source.take stF.k) stF.redundant = removeRows source stF.redundant := by
    rw [hkend, List.take_length]
  have hlenF := I.hlen
  have hsatF := I.hsat
  rw [hkeptF] at hlenF hsatF
  rw [show r = _ from conversion_eq ncols source start dest sat nle stF hF]
  refine ⟨by simp, ?_⟩
  dsimp only
  intro i hi j
  have hi' : i < stF.rows.length := by simpa using hi
  have hcols : source.length - stF.redundant.length = (removeRows source stF.redundant).length := by omega
  have e1 : (stF.rows.map (fun d => d.sat.take (source.length - stF.redundant.length))).getD i []
      = stF.rows[i].sat.take (removeRows source stF.redundant).length := by
    rw [List.getD_eq_getElem?_getD, List.getElem?_map, List.getElem?_eq_getElem hi', hcols]; rfl
  rw [e1, bit_take, hsatF stF.rows[i] (List.getElem_mem hi') j, List.getElem_map]
  cases decide (j < (removeRows source stF.redundant).length) <;> rfl

end PPLV.Conv

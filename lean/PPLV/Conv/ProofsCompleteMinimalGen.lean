import PPLV.Conv.ProofsCompleteMain
/-!
# No redundant ray remains after `conversion`

The combinatorial minimality kept by the main loop (`DDComplete.antichain`, `.proper`) is semantic
minimality: no returned ray is a combination of the returned lines and the OTHER returned rays.
-/
namespace PPLV.Conv
open PPLV.Conv.Abs

/-- **no ray returned by `conversion` is generated by the lines and the other rays returned.** -/
theorem DDComplete.ray_irredundant {ncols : Nat} {r : ConvResult} (D : DDComplete ncols r)
    (hsound : Sound r.source r.dest) (i : Nat) (hi : i < r.dest.length) (hge : r.nle ≤ i)
    (hlf : LinesFirst r.dest r.nle) :
    ¬ Cone (linesOf r.dest) (raysOf (r.dest.eraseIdx i)) (emb r.dest[i].v) := by
  intro hc
  have hR : Sound r.source (r.dest.eraseIdx i) := fun g hg => hsound g (List.mem_of_mem_eraseIdx hg)
  have hf := Cone.face (r.source.map conOf) hsound.lines_zero hR.rays_inP hc
  have hempty : Cone (linesOf r.dest) ∅ (emb r.dest[i].v) := by
    refine Cone.mono (Set.Subset.refl _) ?_ hf
    rintro q ⟨⟨g, hg, hgle, rfl⟩, hsub⟩
    exfalso
    obtain ⟨j, hj, hji, rfl⟩ := (List.mem_eraseIdx_iff_getElem).mp hg
    have hgej : r.nle ≤ j := by
      have := hlf j hj
      rw [hgle] at this
      have h' : ¬ j < r.nle := of_decide_eq_false this.symm
      omega
    exact D.antichain i j hi hj hge hgej (fun h => hji h.symm) hsub
  obtain ⟨s, hs, hne⟩ := D.proper i hi hge
  have := Cone.lines_eval (conOf s).f
    (fun l hl => hsound.lines_zero l hl _ (List.mem_map.mpr ⟨s, hs, rfl⟩)) hempty
  rw [conOf_f_emb] at this
  exact hne (by exact_mod_cast this)

end PPLV.Conv

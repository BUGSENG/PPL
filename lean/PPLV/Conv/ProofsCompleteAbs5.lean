import PPLV.Conv.ProofsCompleteAbs4
import Mathlib.LinearAlgebra.FiniteDimensional.Lemmas
import Mathlib.LinearAlgebra.Dimension.Constructions
/-!
# the dimension counting of `conversion`, abstractly

* `finrank_le_of_ker_le_span` — pure linear algebra (rank–nullity): if the common kernel of `k` functionals
  inside `U` lies in the span of `m` vectors then `dim U ≤ k + m`;
* `cone_lines_iff_span` — `Cone L ∅` is the span of `L`;
* `quick_nonadjacent_sound` — the quick non-adjacency test (`Polyhedron_conversion_templates.hh:755-799`)
  never rejects an adjacent pair;
* `pair_dim`, `line_step_rank` — the rank bookkeeping of the ray and line cases.
-/
namespace PPLV.Conv.Abs
open Module Submodule

variable {V : Type*} [AddCommGroup V] [Module ℚ V]

/-- the span of a list of vectors has dimension at most its length. -/
theorem finrank_span_list_le (vs : List V) :
    finrank ℚ (Submodule.span ℚ {v | v ∈ vs}) ≤ vs.length := by
  classical
  have : {v | v ∈ vs} = ((vs.toFinset : Finset V) : Set V) := by ext; simp
  rw [this]
  exact (finrank_span_finset_le_card _).trans (List.toFinset_card_le _)

/-- if the common kernel (inside the finite-dimensional subspace `U`) of the functionals `fs` is contained
in the span of the vectors `vs`, then `dim U ≤ #fs + #vs` (rank–nullity). -/
theorem finrank_le_of_ker_le_span (U : Submodule ℚ V) [FiniteDimensional ℚ U]
    (fs : List (V →ₗ[ℚ] ℚ)) (vs : List V)
    (h : ∀ w ∈ U, (∀ f ∈ fs, f w = 0) → w ∈ Submodule.span ℚ {v | v ∈ vs}) :
    Module.finrank ℚ U ≤ fs.length + vs.length := by
  classical
  let F : U →ₗ[ℚ] (Fin fs.length → ℚ) := LinearMap.pi (fun i => (fs.get i).comp U.subtype)
  have hrn := LinearMap.finrank_range_add_finrank_ker F
  have h1 : finrank ℚ (LinearMap.range F) ≤ fs.length := by
    have := Submodule.finrank_le (LinearMap.range F)
    simpa using this
  have hspanfd : FiniteDimensional ℚ (Submodule.span ℚ {v | v ∈ vs}) :=
    FiniteDimensional.span_of_finite ℚ (List.finite_toSet vs)
  have h2 : finrank ℚ (LinearMap.ker F) ≤ vs.length := by
    have hle : Submodule.map U.subtype (LinearMap.ker F) ≤ Submodule.span ℚ {v | v ∈ vs} := by
      rintro _ ⟨w, hw, rfl⟩
      apply h w w.2
      intro f hf
      obtain ⟨i, rfl⟩ := List.mem_iff_get.1 hf
      have := congrFun (LinearMap.mem_ker.1 hw) i
      simpa [F] using this
    have := Submodule.finrank_mono hle
    rw [Submodule.finrank_map_subtype_eq] at this
    exact this.trans (finrank_span_list_le vs)
  omega

/-- `Cone L ∅ x` is membership in the span. -/
theorem cone_lines_iff_span (L : Set V) (x : V) : Cone L ∅ x ↔ x ∈ Submodule.span ℚ L := by
  constructor
  · intro h
    induction h with
    | zero => exact zero_mem _
    | line t hl _ ih => exact add_mem ih (smul_mem _ _ (subset_span hl))
    | ray t hr _ _ _ => exact absurd hr (Set.notMem_empty _)
  · intro h
    induction h using Submodule.span_induction with
    | mem x hx => simpa using Cone.line (R := ∅) 1 hx Cone.zero
    | zero => exact Cone.zero
    | add x y _ _ hx hy => exact Cone.add hx hy
    | smul t x _ hx => exact Cone.lines_smul t hx

/-- two rays on opposite sides of a hyperplane that contains the lines are independent modulo the lines. -/
theorem pair_dim {U : Submodule ℚ V} [FiniteDimensional ℚ U] {A : List (ACon V)} {L R : Set V}
    (inv : DDInv U A L R) (n : ℕ)
    (hn : n ≤ Module.finrank ℚ (Submodule.span ℚ L)) (r s : V) (hr : r ∈ R) (hs : s ∈ R)
    (c : V →ₗ[ℚ] ℚ) (hcL : ∀ l ∈ L, c l = 0)
    (hcr : 0 < c r) (hcs : c s < 0) : n + 2 ≤ Module.finrank ℚ U := by
  have hA0 : ∀ x ∈ Submodule.span ℚ L, ∀ a ∈ A, a.f x = 0 := by
    intro x hx a ha
    induction hx using Submodule.span_induction with
    | mem x h => exact inv.lineSat x h a ha
    | zero => simp
    | add x y _ _ hx hy => simp [hx, hy]
    | smul t x _ hx => simp [hx]
  have hc0 : ∀ x ∈ Submodule.span ℚ L, c x = 0 := by
    intro x hx
    induction hx using Submodule.span_induction with
    | mem x h => exact hcL x h
    | zero => simp
    | add x y _ _ hx hy => simp [hx, hy]
    | smul t x _ hx => simp [hx]
  have hrL : r ∉ Submodule.span ℚ L := fun h => by
    obtain ⟨a, ha, hne⟩ := inv.proper r hr
    exact hne (hA0 r h a ha)
  have hsn : s ∉ Submodule.span ℚ (insert r L) := by
    intro h
    obtain ⟨β, z, hz, hsz⟩ := Submodule.mem_span_insert.1 h
    have hβ : β < 0 := by
      have : c s = β * c r := by rw [hsz]; simp [hc0 z hz]
      rw [this] at hcs
      by_contra hb
      have : 0 ≤ β * c r := mul_nonneg (not_lt.1 hb) hcr.le
      linarith
    obtain ⟨a, ha, hne⟩ := inv.proper r hr
    have h1 := inv.raySound r hr a ha
    have h2 := inv.raySound s hs a ha
    rw [ACon.holds_iff] at h1 h2
    have hev : a.f s = β * a.f r := by rw [hsz]; simp [hA0 z hz a ha]
    cases hb : a.eq
    · have e1 := h1.2 hb
      have e2 := h2.2 hb
      rw [hev] at e2
      apply hne
      nlinarith
    · exact hne (h1.1 hb)
  have hU1 : Submodule.span ℚ (insert s (insert r L)) ≤ U := by
    apply Submodule.span_le.2
    intro x hx
    rcases hx with rfl | rfl | hx
    · exact inv.rayU _ hs
    · exact inv.rayU _ hr
    · exact inv.lineU _ hx
  have := Submodule.finiteDimensional_of_le hU1
  have hle2 : Submodule.span ℚ (insert r L) ≤ Submodule.span ℚ (insert s (insert r L)) :=
    Submodule.span_mono (Set.subset_insert _ _)
  have := Submodule.finiteDimensional_of_le hle2
  have hlt1 : Submodule.span ℚ L < Submodule.span ℚ (insert r L) :=
    SetLike.lt_iff_le_and_exists.2
      ⟨Submodule.span_mono (Set.subset_insert _ _), r, Submodule.subset_span (Set.mem_insert _ _), hrL⟩
  have hlt2 : Submodule.span ℚ (insert r L) < Submodule.span ℚ (insert s (insert r L)) :=
    SetLike.lt_iff_le_and_exists.2
      ⟨hle2, s, Submodule.subset_span (Set.mem_insert _ _), hsn⟩
  have f1 := Submodule.finrank_lt_finrank_of_lt hlt1
  have f2 := Submodule.finrank_lt_finrank_of_lt hlt2
  have f3 := Submodule.finrank_mono hU1
  omega

/-- the line case of `conversion` keeps the lines independent: each old line other than `l₀` is replaced by a
combination with `l₀`, so at most one dimension is lost. -/
theorem line_step_rank (L L' : Set V) (hfin : L.Finite) (l₀ : V) (n : ℕ)
    (hn : n ≤ Module.finrank ℚ (Submodule.span ℚ L))
    (hline : ∀ l ∈ L, l ≠ l₀ → ∃ l' ∈ L', ∃ s t : ℚ, s ≠ 0 ∧ l' = s • l + t • l₀)
    (hfin' : L'.Finite) : n - 1 ≤ Module.finrank ℚ (Submodule.span ℚ L') := by
  have _ := hfin
  have := FiniteDimensional.span_of_finite ℚ hfin'
  have : FiniteDimensional ℚ (Submodule.span ℚ (insert l₀ L')) :=
    FiniteDimensional.span_of_finite ℚ (hfin'.insert _)
  have hle : Submodule.span ℚ L ≤ Submodule.span ℚ (insert l₀ L') := by
    apply Submodule.span_le.2
    intro l hl
    by_cases h0 : l = l₀
    · subst h0; exact Submodule.subset_span (Set.mem_insert _ _)
    · obtain ⟨l', hl', s, t, hs, rfl⟩ := hline l hl h0
      have e : l = s⁻¹ • ((s • l + t • l₀) - t • l₀) := by
        simp [smul_smul, inv_mul_cancel₀ hs]
      rw [e]
      exact Submodule.smul_mem _ _ (Submodule.sub_mem _
        (Submodule.subset_span (Set.mem_insert_of_mem _ hl'))
        (Submodule.smul_mem _ _ (Submodule.subset_span (Set.mem_insert _ _))))
  have h1 := Submodule.finrank_mono hle
  have h2 : finrank ℚ (Submodule.span ℚ (insert l₀ L')) ≤ 1 + finrank ℚ (Submodule.span ℚ L') := by
    rw [Submodule.span_insert]
    refine (Submodule.finrank_add_le_finrank_add_finrank _ _).trans ?_
    have : finrank ℚ (Submodule.span ℚ ({l₀} : Set V)) ≤ 1 :=
      (finrank_span_le_card ({l₀} : Set V)).trans (by simp)
    omega
  omega

/-- the quick NON-adjacency test (`Polyhedron_conversion_templates.hh:755-799`) never rejects an adjacent
pair: an adjacent pair has at least `dim − #lines − 2` common saturators. -/
theorem quick_nonadjacent_sound {U : Submodule ℚ V} [FiniteDimensional ℚ U] {A : List (ACon V)}
    {L R : Set V} (inv : DDInv U A L R)
    (Ll : List V) (hL : L = {x | x ∈ Ll}) (r s : V) (hr : r ∈ R) (hs : s ∈ R)
    (hadj : Adjacent A R r s)
    (Zc : List (ACon V)) (hZc : ∀ a ∈ A, a.f r = 0 → a.f s = 0 → a ∈ Zc) :
    Module.finrank ℚ U ≤ Zc.length + Ll.length + 2 := by
  subst hL
  have key := finrank_le_of_ker_le_span U (Zc.map (·.f)) (r :: s :: Ll) ?_
  · simpa [add_assoc] using key
  · intro w hwU hw
    obtain ⟨α, β, l, hl, rfl⟩ := adjacent_ker inv r s hr hs hadj w hwU
      (fun a ha h1 h2 => hw a.f (List.mem_map.2 ⟨a, hZc a ha h1 h2, rfl⟩))
    have hl' := (cone_lines_iff_span _ l).1 hl
    have hmono : Submodule.span ℚ {x | x ∈ Ll} ≤ Submodule.span ℚ {v | v ∈ r :: s :: Ll} :=
      Submodule.span_mono (fun x hx => List.mem_cons_of_mem _ (List.mem_cons_of_mem _ hx))
    exact Submodule.add_mem _ (Submodule.add_mem _
      (Submodule.smul_mem _ _ (Submodule.subset_span (by simp)))
      (Submodule.smul_mem _ _ (Submodule.subset_span (by simp)))) (hmono hl')

end PPLV.Conv.Abs

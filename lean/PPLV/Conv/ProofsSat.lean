import PPLV.Conv.ProofsSound1
import PPLV.Conv.ProofsBits
import Mathlib.Tactic.Linarith
/-!
# The saturation matrix kept by `conversion` never goes stale: helpers and the line case
-/
namespace PPLV.Conv

/-- the bits `sat` are the saturation bits of `row` against the columns `kept`. -/
def BitsOK (kept : List LRow) (sat : BRow) (row : LRow) : Prop :=
  ∀ j, bit sat j = (decide (j < kept.length) && decide (scalarProduct (kept.getD j default).v row.v ≠ 0))

theorem rowsSatCorrect_iff (kept : List LRow) (rows : List DRow) :
    RowsSatCorrect kept rows ↔ ∀ d ∈ rows, BitsOK kept d.sat d.row := Iff.rfl

theorem BitsOK_of_zero (kept : List LRow) (sat : BRow) (row : LRow) (h : ∀ j, bit sat j = false)
    (hz : ∀ s ∈ kept, scalarProduct s.v row.v = 0) : BitsOK kept sat row := by
  intro j
  rw [h j]
  by_cases hj : j < kept.length
  · have := hz _ (getD_mem_of_lt kept j hj)
    rw [this]; simp
  · simp [hj]

theorem bits_false_of_zero (kept : List LRow) (sat : BRow) (row : LRow) (h : BitsOK kept sat row)
    (hz : ∀ s ∈ kept, scalarProduct s.v row.v = 0) : ∀ j, bit sat j = false := by
  intro j
  rw [h j]
  by_cases hj : j < kept.length
  · have := hz _ (getD_mem_of_lt kept j hj)
    rw [this]; simp
  · simp [hj]

theorem BitsOK_congr (kept : List LRow) (sat : BRow) (row row' : LRow) (h : BitsOK kept sat row)
    (hz : ∀ s ∈ kept, (scalarProduct s.v row'.v = 0 ↔ scalarProduct s.v row.v = 0)) : BitsOK kept sat row' := by
  intro j
  rw [h j]
  by_cases hj : j < kept.length
  · have := hz _ (getD_mem_of_lt kept j hj)
    simp only [hj, decide_true, Bool.true_and, ne_eq, decide_not]
    rw [decide_eq_decide.mpr this]
  · simp [hj]

theorem getD_append_lt (kept : List LRow) (x : LRow) (j : Nat) (h : j < kept.length) :
    (kept ++ [x]).getD j default = kept.getD j default := by
  simp [List.getD_eq_getElem?_getD, List.getElem?_append_left h]

theorem getD_append_eq (kept : List LRow) (x : LRow) : (kept ++ [x]).getD kept.length default = x := by
  simp [List.getD_eq_getElem?_getD]

/-- the new column is not set, rightly. -/
theorem extend_false (kept : List LRow) (srcK : LRow) (sat : BRow) (row : LRow) (h : BitsOK kept sat row)
    (hz : scalarProduct srcK.v row.v = 0) : BitsOK (kept ++ [srcK]) sat row := by
  intro j
  rw [h j]
  rcases Nat.lt_trichotomy j kept.length with hj | hj | hj
  · rw [getD_append_lt kept srcK j hj]
    have : j < (kept ++ [srcK]).length := by simp; omega
    rw [decide_eq_true hj, decide_eq_true this]
  · subst hj
    rw [getD_append_eq]
    simp [hz]
  · have : ¬ j < (kept ++ [srcK]).length := by simp; omega
    have h2 : ¬ j < kept.length := by omega
    rw [decide_eq_false h2, decide_eq_false this]; rfl

/-- the new column is set, rightly. -/
theorem extend_true (kept : List LRow) (srcK : LRow) (sat : BRow) (row : LRow) (h : BitsOK kept sat row)
    (hz : scalarProduct srcK.v row.v ≠ 0) : BitsOK (kept ++ [srcK]) (setBit sat kept.length) row := by
  intro j
  rw [bit_setBit, h j]
  rcases Nat.lt_trichotomy j kept.length with hj | hj | hj
  · rw [getD_append_lt kept srcK j hj]
    have : j < (kept ++ [srcK]).length := by simp; omega
    have h2 : j ≠ kept.length := by omega
    rw [decide_eq_false h2, decide_eq_true hj, decide_eq_true this]; rfl
  · subst hj
    rw [getD_append_eq]
    simp [hz]
  · have : ¬ j < (kept ++ [srcK]).length := by simp; omega
    have h2 : ¬ j < kept.length := by omega
    have h3 : j ≠ kept.length := by omega
    rw [decide_eq_false h3, decide_eq_false h2, decide_eq_false this]; rfl

/-! ## the combined record -/

theorem combRow_eqn (p d0 : DRow) (hppos : 0 < p.sp) :
    ∃ g c nI nO : Int, g ≠ 0 ∧ 0 < c ∧ 0 < nO ∧ d0.sp = c * nI ∧ p.sp = c * nO ∧
      ∀ s : Vec, nO * scalarProduct s d0.row.v - nI * scalarProduct s p.row.v
        = g * scalarProduct s (combRow p.row p.sp d0.row d0.sp).v := by
  obtain ⟨g, c, nI, nO, hg, hgpos, hc, h1, h2, _, _, hle, hs⟩ :=
    sp_combineWithNle { row := p.row, sp := p.sp, sat := [] } { row := d0.row, sp := d0.sp, sat := [] } (by simpa using ne_of_gt hppos)
  simp only at h1 h2
  have hnO : 0 < nO := by
    by_contra hneg
    have : nO ≤ 0 := by omega
    have : c * nO ≤ 0 := Int.mul_nonpos_of_nonneg_of_nonpos (le_of_lt hc) this
    omega
  exact ⟨g, c, nI, nO, hg, hc, hnO, h1, h2, hs⟩

theorem combRow_zero_iff (p d0 : DRow) (hppos : 0 < p.sp) (s : Vec) (hp : scalarProduct s p.row.v = 0) :
    scalarProduct s (combRow p.row p.sp d0.row d0.sp).v = 0 ↔ scalarProduct s d0.row.v = 0 := by
  obtain ⟨g, c, nI, nO, hg, hc, hnO, h1, h2, hs⟩ := combRow_eqn p d0 hppos
  have e := hs s
  rw [hp] at e
  constructor
  · intro h
    rw [h] at e
    have : nO * scalarProduct s d0.row.v = 0 := by linarith
    rcases Int.mul_eq_zero.mp this with h3 | h3
    · omega
    · exact h3
  · intro h
    rw [h] at e
    have : g * scalarProduct s (combRow p.row p.sp d0.row d0.sp).v = 0 := by linarith
    rcases Int.mul_eq_zero.mp this with h3 | h3
    · exact absurd h3 hg
    · exact h3

theorem combRow_srcK (srcK : LRow) (p d0 : DRow) (hppos : 0 < p.sp) (hpsp : p.sp = scalarProduct srcK.v p.row.v)
    (hsp0 : d0.sp = scalarProduct srcK.v d0.row.v) :
    scalarProduct srcK.v (combRow p.row p.sp d0.row d0.sp).v = 0 := by
  obtain ⟨g, c, nI, nO, hg, hc, hnO, h1, h2, hs⟩ := combRow_eqn p d0 hppos
  have e := hs srcK.v
  have e1 : scalarProduct srcK.v d0.row.v = c * nI := by rw [← hsp0]; exact h1
  have e2 : scalarProduct srcK.v p.row.v = c * nO := by rw [← hpsp]; exact h2
  rw [e1, e2] at e
  have : g * scalarProduct srcK.v (combRow p.row p.sp d0.row d0.sp).v = 0 := by
    have : nO * (c * nI) - nI * (c * nO) = 0 := by ring
    linarith
  rcases Int.mul_eq_zero.mp this with h | h
  · exact absurd h hg
  · exact h

/-! ## the saturation rows of `lineRows3` -/

/-- the rows of `lineCase` after :483-505 (set + swap). -/
def lineRowsB (st : CState) (inz : Nat) : List DRow :=
  let rows := st.rows.set inz (linePivot (st.rows.getD inz default))
  if inz != st.nle - 1 then swapRowSp rows inz (st.nle - 1) else rows

theorem lineRows3_eqB (st : CState) (inz : Nat) :
    lineRows3 st inz = (lineRowsB st inz).mapIdx fun i d =>
      if ((inz ≤ i ∧ i < st.nle - 1) ∨ st.nle - 1 + 1 ≤ i) ∧ d.sp ≠ 0
      then combineWithNle ((lineRowsB st inz).getD (st.nle - 1) default) d else d := rfl

theorem linePivot_sat (r : DRow) : (linePivot r).sat = r.sat := by
  unfold linePivot; split <;> rfl

theorem lineRowsB_sat (st : CState) (inz : Nat) (hinz : inz < st.nle) (hn : st.nle ≤ st.rows.length) (m : Nat) (b : DRow)
    (h : (lineRowsB st inz)[m]? = some b) :
    ∃ dm, st.rows[m]? = some dm ∧ b.sat = dm.sat ∧ (st.nle ≤ m → b = dm) := by
  have hi : inz < st.rows.length := by omega
  have hj : st.nle - 1 < st.rows.length := by omega
  have hgD : st.rows.getD inz default = st.rows[inz] := by
    rw [List.getD_eq_getElem?_getD, List.getElem?_eq_getElem hi]; rfl
  unfold lineRowsB at h
  simp only at h
  by_cases he : inz = st.nle - 1
  · simp only [he, bne_self_eq_false, Bool.false_eq_true, if_false] at h
    rw [List.getElem?_set] at h
    by_cases hm : st.nle - 1 = m
    · subst hm
      simp only [if_true, hj] at h
      have hb : b = linePivot (st.rows.getD (st.nle - 1) default) := by simpa using h.symm
      refine ⟨st.rows[st.nle - 1], List.getElem?_eq_getElem hj, ?_, fun hc => by omega⟩
      rw [hb, linePivot_sat, List.getD_eq_getElem?_getD, List.getElem?_eq_getElem hj]; rfl
    · simp only [hm, if_false] at h
      exact ⟨b, h, rfl, fun _ => rfl⟩
  · have hne : (inz != st.nle - 1) = true := by simpa using he
    simp only [hne, if_true] at h
    have hlen : (st.rows.set inz (linePivot (st.rows.getD inz default))).length = st.rows.length := by simp
    rw [getElem?_swapRowSp _ _ _ _ (by rw [hlen]; exact hi) (by rw [hlen]; exact hj)] at h
    by_cases hm : m = st.nle - 1
    · simp only [hm, if_true] at h
      have hb := (Option.some.inj h).symm
      refine ⟨st.rows[st.nle - 1], by rw [hm]; exact List.getElem?_eq_getElem hj, ?_, fun hc => by omega⟩
      subst hb
      simp [List.getElem_set_ne he]
    · simp only [hm, if_false] at h
      by_cases hm2 : m = inz
      · simp only [hm2, if_true] at h
        have hb := (Option.some.inj h).symm
        refine ⟨st.rows[inz], by rw [hm2]; exact List.getElem?_eq_getElem hi, ?_, fun hc => by omega⟩
        subst hb
        simp [linePivot_sat, hi]
      · simp only [hm2, if_false] at h
        rw [List.getElem?_set] at h
        simp only [Ne.symm hm2, if_false] at h
        exact ⟨b, h, rfl, fun _ => rfl⟩

theorem combineWithNle_sat (a d : DRow) : (combineWithNle a d).sat = d.sat := rfl

/-- companion of `lineRows3_index` for the saturation rows (they stay at their index), and the records
beyond the lines (index `≥ nle`), which stay where they are. -/
theorem lineRows3_sat (st : CState) (inz : Nat) (hinz : inz < st.nle) (hn : st.nle ≤ st.rows.length) (m : Nat) (d' : DRow)
    (h : (lineRows3 st inz)[m]? = some d') :
    let p := linePivot (st.rows.getD inz default)
    ∃ dm, st.rows[m]? = some dm ∧ d'.sat = dm.sat ∧
      (st.nle ≤ m → (dm.sp = 0 ∧ d'.row = dm.row) ∨ (dm.sp ≠ 0 ∧ d'.row = combRow p.row p.sp dm.row dm.sp)) := by
  intro p
  rw [lineRows3_eqB, List.getElem?_mapIdx] at h
  match hb : (lineRowsB st inz)[m]? with
  | none => rw [hb] at h; simp at h
  | some b =>
    rw [hb] at h
    simp only [Option.map_some, Option.some.injEq] at h
    obtain ⟨dm, h1, h2, h3⟩ := lineRowsB_sat st inz hinz hn m b hb
    refine ⟨dm, h1, ?_, ?_⟩
    · rw [← h, ← h2]; split
      · rfl
      · rfl
    · intro hm
      have hc1 : st.nle - 1 + 1 ≤ m := by omega
      have hbd := h3 hm
      subst hbd
      have hj : st.nle - 1 < st.rows.length := by omega
      have hlenB : (lineRowsB st inz).length = st.rows.length := by
        unfold lineRowsB; simp only
        split
        · rw [length_swapRowSp]; simp
        · simp
      obtain ⟨dn, hdn⟩ : ∃ dn, (lineRowsB st inz)[st.nle - 1]? = some dn := by
        rw [List.getElem?_eq_getElem (by rw [hlenB]; exact hj)]; exact ⟨_, rfl⟩
      have hpiv := lineRowsB_index st inz hinz hn (st.nle - 1) dn hdn
      have hdnrow : dn.row = p.row ∧ dn.sp = p.sp := by
        rcases hpiv with ⟨_, h1, h2⟩ | ⟨h1, _⟩
        · exact ⟨h1, h2⟩
        · exact absurd rfl h1
      have hgetD : (lineRowsB st inz).getD (st.nle - 1) default = dn := by
        rw [List.getD_eq_getElem?_getD, hdn]; rfl
      rw [hgetD] at h
      by_cases hz : b.sp = 0
      · left
        have hc : ¬ (((inz ≤ m ∧ m < st.nle - 1) ∨ st.nle - 1 + 1 ≤ m) ∧ b.sp ≠ 0) := fun hcc => hcc.2 hz
        rw [if_neg hc] at h
        exact ⟨hz, by rw [← h]⟩
      · right
        have hc : (((inz ≤ m ∧ m < st.nle - 1) ∨ st.nle - 1 + 1 ≤ m) ∧ b.sp ≠ 0) := ⟨Or.inr hc1, hz⟩
        rw [if_pos hc] at h
        refine ⟨hz, ?_⟩
        rw [← h, combineWithNle_row, hdnrow.1, hdnrow.2]

/-! ## the line case -/

theorem lineRows3_Q (srcK : LRow) (kept : List LRow) (st : CState) (inz : Nat) (H : StepHyp srcK st kept)
    (hinz : inz < st.nle) (hbefore : ∀ m d, m < inz → st.rows[m]? = some d → d.sp = 0)
    (hnz : ∃ r, st.rows[inz]? = some r ∧ r.sp ≠ 0) (hsat : RowsSatCorrect kept st.rows) :
    ∀ m d', (lineRows3 st inz)[m]? = some d' →
      BitsOK kept d'.sat d'.row ∧ (m ≠ st.nle - 1 → scalarProduct srcK.v d'.row.v = 0) ∧
      (m = st.nle - 1 → scalarProduct srcK.v d'.row.v ≠ 0) := by
  intro m d' hd'
  obtain ⟨r, hr, hrnz⟩ := hnz
  have hrD : st.rows.getD inz default = r := by
    rw [List.getD_eq_getElem?_getD, hr]; rfl
  have hrmem := List.mem_of_getElem? hr
  have hrle : r.row.le = true := by
    have := H.hl inz r hr
    simpa [hinz] using this
  obtain ⟨pl, ppos, psp, pP⟩ := linePivot_facts srcK kept r (H.hsp r hrmem) hrnz hrle (H.hP r hrmem)
  have hidx := lineRows3_index st inz hinz H.hn m d' hd'
  obtain ⟨dm, hdm, hsatm, htail⟩ := lineRows3_sat st inz hinz H.hn m d' hd'
  simp only [hrD] at hidx htail
  have hdmmem := List.mem_of_getElem? hdm
  have hdmOK : BitsOK kept dm.sat dm.row := hsat dm hdmmem
  have lineFalse : m < st.nle → ∀ j, bit d'.sat j = false := by
    intro hlt
    rw [hsatm]
    apply bits_false_of_zero kept _ _ hdmOK
    intro s hs
    exact satisfies_line_zero s dm.row (H.hP dm hdmmem s hs) (Or.inr (by rw [H.hl m dm hdm]; simpa using hlt))
  rcases hidx with ⟨hm, hrow, hsp⟩ | ⟨hm, m0, d0, hm0, hd0, hflag, hcases⟩
  · refine ⟨?_, fun h => absurd hm h, fun _ => ?_⟩
    · apply BitsOK_of_zero
      · exact lineFalse (by omega)
      · intro s hs; rw [hrow]; exact pP s hs
    · rw [hrow, ← psp]; omega
  · have hd0mem := List.mem_of_getElem? hd0
    have hrc : (d'.row = d0.row ∧ d0.sp = 0) ∨ d'.row = combRow (linePivot r).row (linePivot r).sp d0.row d0.sp := by
      rcases hcases with ⟨hz, hrow, _⟩ | ⟨_, _, hrow, _⟩ | ⟨hlt, hmm, hrow, _⟩
      · exact Or.inl ⟨hrow, hz⟩
      · exact Or.inr hrow
      · subst hmm; exact Or.inl ⟨hrow, hbefore m0 d0 hlt hd0⟩
    refine ⟨?_, fun _ => ?_, fun h => absurd h hm⟩
    · by_cases hlt : m < st.nle
      · have hm0lt : m0 < st.nle := by
          have : m < st.nle - 1 := by omega
          simpa [this] using hflag
        have hd0z : ∀ s ∈ kept, scalarProduct s.v d0.row.v = 0 := fun s hs =>
          satisfies_line_zero s d0.row (H.hP d0 hd0mem s hs) (Or.inr (by rw [H.hl m0 d0 hd0]; simpa using hm0lt))
        apply BitsOK_of_zero _ _ _ (lineFalse hlt)
        intro s hs
        rcases hrc with ⟨hrow, _⟩ | hrow
        · rw [hrow]; exact hd0z s hs
        · rw [hrow]; exact (combRow_zero_iff (linePivot r) d0 ppos s.v (pP s hs)).mpr (hd0z s hs)
      · rcases htail (by omega) with ⟨_, hrow⟩ | ⟨_, hrow⟩
        · rw [hsatm, hrow]; exact hdmOK
        · rw [hsatm, hrow]
          apply BitsOK_congr kept _ _ _ hdmOK
          intro s hs
          exact combRow_zero_iff (linePivot r) dm ppos s.v (pP s hs)
    · rcases hrc with ⟨hrow, hz⟩ | hrow
      · rw [hrow, ← H.hsp d0 hd0mem]; exact hz
      · rw [hrow]; exact combRow_srcK srcK (linePivot r) d0 ppos psp (H.hsp d0 hd0mem)

/-- **the line case keeps the saturation rows right**; `srcK` gets the column `kept.length`. -/
theorem lineCase_sat (srcK : LRow) (kept : List LRow) (st : CState) (inz : Nat) (H : StepHyp srcK st kept)
    (hinz : inz < st.nle) (hbefore : ∀ m d, m < inz → st.rows[m]? = some d → d.sp = 0)
    (hnz : ∃ r, st.rows[inz]? = some r ∧ r.sp ≠ 0) (hsat : RowsSatCorrect kept st.rows) :
    (lineCase srcK kept.length st inz).redundant = st.redundant ∧
    RowsSatCorrect (kept ++ [srcK]) (lineCase srcK kept.length st inz).rows := by
  have hQ := lineRows3_Q srcK kept st inz H hinz hbefore hnz hsat
  have hlen := length_lineRows3 st inz
  have hn := H.hn
  rw [lineCase_eq]
  by_cases hk : srcK.le = true
  · simp only [hk, Bool.not_true, Bool.false_eq_true, if_false]
    refine ⟨trivial, ?_⟩
    have hi : st.nle - 1 < (lineRows3 st inz).length := by rw [hlen]; omega
    intro d hd
    obtain ⟨m, hm⟩ := List.mem_iff_getElem?.mp hd
    obtain ⟨m0, hm0, hx, _⟩ := getElem?_swap_dropLast _ _ m hi d hm
    obtain ⟨q1, q2, _⟩ := hQ m0 d hx
    exact extend_false kept srcK _ _ q1 (q2 hm0)
  · have hk' : srcK.le = false := by simpa using hk
    simp only [hk', Bool.not_false, if_true]
    refine ⟨trivial, ?_⟩
    intro d hd
    obtain ⟨m, hm⟩ := List.mem_iff_getElem?.mp hd
    rw [List.getElem?_modify] at hm
    match hq : (lineRows3 st inz)[m]? with
    | none => rw [hq] at hm; simp at hm
    | some d0 =>
      rw [hq] at hm
      simp only [Option.map_eq_map, Option.map_some, Option.some.injEq] at hm
      obtain ⟨q1, q2, q3⟩ := hQ m d0 hq
      by_cases hmm : st.nle - 1 = m
      · rw [if_pos hmm] at hm
        subst hm
        exact extend_true kept srcK _ _ q1 (q3 hmm.symm)
      · rw [if_neg hmm] at hm
        subst hm
        exact extend_false kept srcK _ _ q1 (q2 (Ne.symm hmm))

end PPLV.Conv

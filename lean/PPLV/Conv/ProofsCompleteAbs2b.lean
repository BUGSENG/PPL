import PPLV.Conv.ProofsCompleteAbs2a
/-!
# the Double Description lemma, abstractly (the two-ray and three-ray arguments)

`FaceRay U A' R' x`: some ray of `R'` lies in the minimal face of `x`.  `pair_face`: the positive
combination of two rays on opposite sides of the new constraint has such a ray — either the combination
itself was created (adjacent pair), or a third ray witnesses non-adjacency and the argument recurses on a
point with strictly more saturated constraints (`third_ray`).
-/
namespace PPLV.Conv.Abs

variable {V : Type*} [AddCommGroup V] [Module ℚ V]

/-- a ray of the new system in the minimal face of `x`, not in the lineality space. -/
def FaceRay (U : Submodule ℚ V) (A' : List (ACon V)) (R' : Set V) (x : V) : Prop :=
  ∃ g ∈ R', g ∈ U ∧ InP A' g ∧ SatSub A' x g ∧ ∃ a ∈ A', a.f g ≠ 0

theorem FaceRay.of_satSub {U : Submodule ℚ V} {A' : List (ACon V)} {R' : Set V} {x p : V}
    (h : SatSub A' x p) (hp : FaceRay U A' R' p) : FaceRay U A' R' x := by
  obtain ⟨g, hg, hgU, hgP, hs, hne⟩ := hp
  exact ⟨g, hg, hgU, hgP, h.trans hs, hne⟩

/-- `p` combines `r` and `s`, `v` combines a third ray `q` with `s`, both on the hyperplane of `c`, and `q`
saturates whatever `r` and `s` both saturate: peel `v` off `p`; the rest either has more saturated
constraints (recursion) or is in the lineality space, which contradicts the antichain property. -/
theorem third_ray (U : Submodule ℚ V) (A : List (ACon V)) (L R R' : Set V) (c : ACon V)
    (inv : DDInv U A L R) {r s q p v : V} {α β γ δ : ℚ} (hr : r ∈ R) (hs : s ∈ R) (hq : q ∈ R)
    (hqr : q ≠ r) (hα : 0 < α) (hβ : 0 < β) (hγ : 0 < γ) (hδ : 0 < δ)
    (hp : p = α • r + β • s) (hv : v = γ • q + δ • s) (hcp : c.f p = 0) (hcv : c.f v = 0)
    (hsat : ∀ a ∈ A, a.f r = 0 → a.f s = 0 → a.f q = 0)
    (ih : ∀ u ∈ U, InP (c :: A) u → (∃ a ∈ c :: A, a.f u ≠ 0) →
      nsat (c :: A) u < nsat (c :: A) p → FaceRay U (c :: A) R' u) :
    FaceRay U (c :: A) R' p := by
  have hrP := inv.raySound r hr
  have hsP := inv.raySound s hs
  have hqP := inv.raySound q hq
  have hpU : p ∈ U := by
    rw [hp]; exact U.add_mem (U.smul_mem _ (inv.rayU r hr)) (U.smul_mem _ (inv.rayU s hs))
  have hvU : v ∈ U := by
    rw [hv]; exact U.add_mem (U.smul_mem _ (inv.rayU q hq)) (U.smul_mem _ (inv.rayU s hs))
  have hpP : InP (c :: A) p :=
    InP_cons.2 ⟨ACon.holds_of_zero hcp, by rw [hp]; exact comb_inP hrP hsP hα.le hβ.le⟩
  have hvP : InP (c :: A) v :=
    InP_cons.2 ⟨ACon.holds_of_zero hcv, by rw [hv]; exact comb_inP hqP hsP hγ.le hδ.le⟩
  have hpv : SatSub (c :: A) p v := by
    refine SatSub_cons.2 ⟨fun _ => hcv, fun a ha h0 => ?_⟩
    rw [hp] at h0
    obtain ⟨h1, h2⟩ := comb_zero hrP hsP hα hβ ha h0
    rw [hv, comb_eval, hsat a ha h1 h2, h2, mul_zero, mul_zero, add_zero]
  have hvne : ∃ a ∈ c :: A, a.f v ≠ 0 := by
    obtain ⟨a, ha, hne⟩ := inv.proper q hq
    refine ⟨a, List.mem_cons_of_mem _ ha, fun h0 => hne ?_⟩
    rw [hv] at h0
    exact (comb_zero hqP hsP hγ hδ ha h0).1
  obtain ⟨t, ht, huP, hpu, hstrict⟩ := peel (c :: A) p v hpP hvP hpv hvne
  have huU : p - t • v ∈ U := U.sub_mem hpU (U.smul_mem _ hvU)
  by_cases hu : ∃ a ∈ c :: A, a.f (p - t • v) ≠ 0
  · exact FaceRay.of_satSub hpu (ih _ huU huP hu (nsat_lt hpu hstrict))
  · exfalso
    have hall : ∀ a ∈ A, α * a.f r + β * a.f s = t * (γ * a.f q + δ * a.f s) := by
      intro a ha
      have h0 : a.f (p - t • v) = 0 := by
        by_contra hne
        exact hu ⟨a, List.mem_cons_of_mem _ ha, hne⟩
      rw [map_sub, map_smul, smul_eq_mul, hp, hv, comb_eval, comb_eval] at h0
      linarith
    rcases le_or_gt β (t * δ) with hc | hc
    · have htpos : 0 < t := by
        by_contra hle
        have h1 := mul_nonneg (neg_nonneg.2 (not_lt.1 hle)) hδ.le
        linarith
      have hsub : SatSub A r q := by
        intro a ha h0
        have e := hall a ha
        have h1 := (hsP a ha).nonneg
        have h2 := (hqP a ha).nonneg
        have h3 : 0 ≤ (t * δ - β) * a.f s := mul_nonneg (by linarith) h1
        have h4 : 0 ≤ t * γ * a.f q := mul_nonneg (mul_nonneg ht hγ.le) h2
        have h5 : t * γ * a.f q = 0 := by rw [h0] at e; linarith
        exact (mul_eq_zero.1 h5).resolve_left (mul_pos htpos hγ).ne'
      exact hqr (inv.antichain r hr q hq hsub).symm
    · have hsub : SatSub A q r := by
        intro a ha h0
        have e := hall a ha
        have h1 := (hsP a ha).nonneg
        have h2 := (hrP a ha).nonneg
        have h3 : 0 ≤ (β - t * δ) * a.f s := mul_nonneg (by linarith) h1
        have h4 : 0 ≤ α * a.f r := mul_nonneg hα.le h2
        have h5 : α * a.f r = 0 := by rw [h0] at e; linarith
        exact (mul_eq_zero.1 h5).resolve_left hα.ne'
      exact hqr (inv.antichain q hq r hr hsub)

/-- the canonical combination of two rays on opposite sides of `c` has a ray of the new system in its
minimal face, given the claim for every point with strictly more saturated constraints. -/
theorem pair_face (U : Submodule ℚ V) (A : List (ACon V)) (L R R' : Set V) (c : ACon V)
    (inv : DDInv U A L R) (hkeep : ∀ r ∈ R, c.holds r → r ∈ R')
    (hnew : ∀ r ∈ R, ∀ s ∈ R, 0 < c.f r → c.f s < 0 → Adjacent A R r s →
        ∃ p ∈ R', ∃ a b : ℚ, 0 < a ∧ 0 < b ∧ p = a • r + b • s ∧ c.f p = 0)
    {r s : V} (hr : r ∈ R) (hs : s ∈ R) (hcr : 0 < c.f r) (hcs : c.f s < 0)
    (ih : ∀ u ∈ U, InP (c :: A) u → (∃ a ∈ c :: A, a.f u ≠ 0) →
      nsat (c :: A) u < nsat (c :: A) ((-c.f s) • r + c.f r • s) → FaceRay U (c :: A) R' u) :
    FaceRay U (c :: A) R' ((-c.f s) • r + c.f r • s) := by
  have hrP := inv.raySound r hr
  have hsP := inv.raySound s hs
  have hα : 0 < -c.f s := neg_pos.2 hcs
  have hcp : c.f ((-c.f s) • r + c.f r • s) = 0 := by rw [comb_eval]; ring
  by_cases hadj : Adjacent A R r s
  · obtain ⟨p', hp'R, a', b', ha', hb', hp', hcp'⟩ := hnew r hr s hs hcr hcs hadj
    refine ⟨p', hp'R, ?_, ?_, ?_, ?_⟩
    · rw [hp']; exact U.add_mem (U.smul_mem _ (inv.rayU r hr)) (U.smul_mem _ (inv.rayU s hs))
    · exact InP_cons.2 ⟨ACon.holds_of_zero hcp', by rw [hp']; exact comb_inP hrP hsP ha'.le hb'.le⟩
    · refine SatSub_cons.2 ⟨fun _ => hcp', fun a ha h0 => ?_⟩
      obtain ⟨h1, h2⟩ := comb_zero hrP hsP hα hcr ha h0
      rw [hp', comb_eval, h1, h2, mul_zero, mul_zero, add_zero]
    · obtain ⟨a, ha, hne⟩ := inv.proper r hr
      refine ⟨a, List.mem_cons_of_mem _ ha, fun h0 => hne ?_⟩
      rw [hp'] at h0
      exact (comb_zero hrP hsP ha' hb' ha h0).1
  · have hex : ∃ q ∈ R, (∀ a ∈ A, a.f r = 0 → a.f s = 0 → a.f q = 0) ∧ q ≠ r ∧ q ≠ s := by
      by_contra hno
      apply hadj
      intro q hq hsat
      by_contra hne
      exact hno ⟨q, hq, hsat, fun e => hne (Or.inl e), fun e => hne (Or.inr e)⟩
    obtain ⟨q, hq, hsat, hqr, hqs⟩ := hex
    have hqP := inv.raySound q hq
    rcases lt_trichotomy (c.f q) 0 with hcq | hcq | hcq
    · refine third_ray U A L R R' c inv (r := s) (s := r) (q := q) (α := c.f r) (β := -c.f s)
        (γ := c.f r) (δ := -c.f q) (v := c.f r • q + (-c.f q) • r) hs hr hq hqs hcr hα hcr
        (neg_pos.2 hcq) (add_comm _ _) rfl hcp ?_ (fun a ha h1 h2 => hsat a ha h2 h1) ih
      rw [comb_eval]; ring
    · refine ⟨q, hkeep q hq (ACon.holds_of_zero hcq), inv.rayU q hq,
        InP_cons.2 ⟨ACon.holds_of_zero hcq, hqP⟩, ?_, ?_⟩
      · refine SatSub_cons.2 ⟨fun _ => hcq, fun a ha h0 => ?_⟩
        obtain ⟨h1, h2⟩ := comb_zero hrP hsP hα hcr ha h0
        exact hsat a ha h1 h2
      · obtain ⟨a, ha, hne⟩ := inv.proper q hq
        exact ⟨a, List.mem_cons_of_mem _ ha, hne⟩
    · refine third_ray U A L R R' c inv (r := r) (s := s) (q := q) (α := -c.f s) (β := c.f r)
        (γ := -c.f s) (δ := c.f q) (v := (-c.f s) • q + c.f q • s) hr hs hq hqr hα hcr hα hcq
        rfl rfl hcp ?_ hsat ih
      rw [comb_eval]; ring

end PPLV.Conv.Abs

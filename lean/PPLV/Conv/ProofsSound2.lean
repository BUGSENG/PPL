import PPLV.Conv.ProofsSound1
/-!
# Soundness of the line case of `conversion`: the step lemma
-/
namespace PPLV.Conv

/-- every record after the combination step: kind bit, processed rows, and the row being processed
(for the pivot only when it is an inequality). -/
theorem lineRows3_good (srcK : LRow) (P : List LRow) (st : CState) (inz : Nat) (H : StepHyp srcK st P)
    (hinz : inz < st.nle) (hbefore : ∀ m d, m < inz → st.rows[m]? = some d → d.sp = 0)
    (hnz : ∃ r, st.rows[inz]? = some r ∧ r.sp ≠ 0) :
    ∀ m d', (lineRows3 st inz)[m]? = some d' →
      d'.row.le = decide (m < st.nle - 1) ∧ (∀ s ∈ P, satisfies s d'.row) ∧
      ((m ≠ st.nle - 1 ∨ srcK.le = false) → satisfies srcK d'.row) := by
  intro m d' hd'
  obtain ⟨r, hr, hrnz⟩ := hnz
  have hrD : st.rows.getD inz default = r := by
    rw [List.getD_eq_getElem?_getD, hr]; rfl
  have hrmem := List.mem_of_getElem? hr
  have hrle : r.row.le = true := by
    have := H.hl inz r hr
    simpa [hinz] using this
  obtain ⟨pl, ppos, psp, pP⟩ := linePivot_facts srcK P r (H.hsp r hrmem) hrnz hrle (H.hP r hrmem)
  have hidx := lineRows3_index st inz hinz H.hn m d' hd'
  simp only [hrD] at hidx
  rcases hidx with ⟨hm, hrow, hsp⟩ | ⟨hm, m0, d0, hm0, hd0, hflag, hcases⟩
  · refine ⟨?_, ?_, ?_⟩
    · rw [hrow, pl, hm]; simp
    · intro s hs
      apply satisfies_of_zero
      rw [hrow]; exact pP s hs
    · intro hor
      rcases hor with h | h
      · exact absurd hm h
      · apply satisfies_ray srcK d'.row h (by rw [hrow]; exact pl)
        rw [hrow, ← psp]; omega
  · have hd0mem := List.mem_of_getElem? hd0
    have hd0le : d0.row.le = decide (m < st.nle - 1) := by rw [H.hl m0 d0 hd0, hflag]
    have zeroCase : d0.sp = 0 → d'.row = d0.row →
        d'.row.le = decide (m < st.nle - 1) ∧ (∀ s ∈ P, satisfies s d'.row) ∧
        ((m ≠ st.nle - 1 ∨ srcK.le = false) → satisfies srcK d'.row) := by
      intro hz hrow
      refine ⟨by rw [hrow, hd0le], ?_, ?_⟩
      · intro s hs; rw [hrow]; exact H.hP d0 hd0mem s hs
      · intro _
        apply satisfies_of_zero
        rw [hrow, ← H.hsp d0 hd0mem]; exact hz
    rcases hcases with ⟨hz, hrow, _⟩ | ⟨hnz0, _, hrow, _⟩ | ⟨hlt, hmm, hrow, _⟩
    · exact zeroCase hz hrow
    · obtain ⟨hle, hgood⟩ := combRow_good srcK P (linePivot r) d0 ppos psp pP (H.hsp d0 hd0mem) (H.hP d0 hd0mem)
      refine ⟨by rw [hrow, hle, hd0le], ?_, ?_⟩
      · intro s hs; rw [hrow]; exact hgood s (List.mem_append_left _ hs)
      · intro _; rw [hrow]; exact hgood srcK (List.mem_append_right _ (List.mem_singleton_self _))
    · subst hmm
      exact zeroCase (hbefore m0 d0 hlt hd0) hrow

/-- **soundness of the line case**. -/
theorem lineCase_sound (srcK : LRow) (newK : Nat) (P : List LRow) (st : CState) (inz : Nat) (H : StepHyp srcK st P)
    (hinz : inz < st.nle) (hbefore : ∀ m d, m < inz → st.rows[m]? = some d → d.sp = 0)
    (hnz : ∃ r, st.rows[inz]? = some r ∧ r.sp ≠ 0) :
    let st' := lineCase srcK newK st inz
    (∀ d ∈ st'.rows, ∀ s ∈ P ++ [srcK], satisfies s d.row) ∧
    (∀ m d, st'.rows[m]? = some d → d.row.le = decide (m < st'.nle)) ∧ st'.nle ≤ st'.rows.length := by
  intro st'
  have hgood := lineRows3_good srcK P st inz H hinz hbefore hnz
  have hlen := length_lineRows3 st inz
  have hn := H.hn
  by_cases hk : srcK.le = true
  · -- the equality is violated by the pivot: it is removed
    have e : st' = { st with rows := (swapAt (lineRows3 st inz) (st.nle - 1) ((lineRows3 st inz).length - 1)).dropLast,
                             nle := st.nle - 1 } := by
      show lineCase srcK newK st inz = _
      rw [lineCase_eq]; simp [hk]
    rw [e]
    have hi : st.nle - 1 < (lineRows3 st inz).length := by rw [hlen]; omega
    refine ⟨?_, ?_, ?_⟩
    · intro d hd s hs
      obtain ⟨m, hm⟩ := List.mem_iff_getElem?.mp hd
      obtain ⟨m0, hm0, hx, _⟩ := getElem?_swap_dropLast _ _ m hi d hm
      obtain ⟨_, hP, hK⟩ := hgood m0 d hx
      rcases List.mem_append.mp hs with h | h
      · exact hP s h
      · have : s = srcK := by simpa using h
        subst this; exact hK (Or.inl hm0)
    · intro m d hm
      obtain ⟨m0, hm0, hx, hcase⟩ := getElem?_swap_dropLast _ _ m hi d hm
      obtain ⟨hle, _, _⟩ := hgood m0 d hx
      rw [hle]
      have hm0lt : m0 < (lineRows3 st inz).length := by
        by_contra hc
        rw [List.getElem?_eq_none (by omega)] at hx; cases hx
      rcases hcase with h | ⟨h1, h2⟩
      · rw [h]
      · simp only [decide_eq_decide]; omega
    · simp only [List.length_dropLast, length_swapAt, hlen]; omega
  · have hk' : srcK.le = false := by simpa using hk
    have e : st' = { st with rows := (lineRows3 st inz).modify (st.nle - 1) (fun d => { d with sat := setBit d.sat newK }),
                             nle := st.nle - 1 } := by
      show lineCase srcK newK st inz = _
      rw [lineCase_eq]; simp [hk']
    rw [e]
    have hmod : ∀ (m : Nat) (d : DRow), ((lineRows3 st inz).modify (st.nle - 1) (fun d => { d with sat := setBit d.sat newK }))[m]? = some d →
        ∃ d0 : DRow, (lineRows3 st inz)[m]? = some d0 ∧ d.row = d0.row := by
      intro m d hm
      rw [List.getElem?_modify] at hm
      match hq : (lineRows3 st inz)[m]? with
      | none => rw [hq] at hm; simp at hm
      | some d0 =>
        rw [hq] at hm
        simp only [Option.map_eq_map, Option.map_some, Option.some.injEq] at hm
        refine ⟨d0, rfl, ?_⟩
        rw [← hm]; split <;> rfl
    refine ⟨?_, ?_, ?_⟩
    · intro d hd s hs
      obtain ⟨m, hm⟩ := List.mem_iff_getElem?.mp hd
      obtain ⟨d0, hx, hrow⟩ := hmod m d hm
      obtain ⟨_, hP, hK⟩ := hgood m d0 hx
      rw [hrow]
      rcases List.mem_append.mp hs with h | h
      · exact hP s h
      · have : s = srcK := by simpa using h
        subst this; exact hK (Or.inr hk')
    · intro m d hm
      obtain ⟨d0, hx, hrow⟩ := hmod m d hm
      obtain ⟨hle, _, _⟩ := hgood m d0 hx
      rw [hrow, hle]
    · simp only [List.length_modify, hlen]; omega

end PPLV.Conv

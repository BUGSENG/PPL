import PPLV.Conv.ProofsCompleteMinimal1
import PPLV.Conv.ProofsCompleteMinimal2
/-!
# no redundant inequality remains after `simplify`: `back_substitute`

`back_substitute` rewrites a row `r` as a non-zero multiple of `ny•r − nx•e`, `e` an equality (which every
generator saturates), `ny > 0` for the inequalities because the pivot row is negated when its pivot coefficient
is negative; it never touches the saturation rows.  So `BInv gens n` — the first `n` rows are equalities, every
generator satisfies every row, every row from `n` on is an inequality whose saturation row is exact — is kept,
GIVEN that no pivot row is the zero row (`BackSubPivots`).
-/
namespace PPLV.Conv

/-- a generator on the hyperplane of the pivot row still satisfies the combined row. -/
theorem rowLinearCombine_satisfies (r piv : LRow) (j : Nat) (g : LRow) (hp : scalarProduct piv.v g.v = 0)
    (hpos : r.le = false → 0 ≤ piv.v.getD j 0) (h : satisfies r g) :
    satisfies (rowLinearCombine r piv j) g := by
  obtain ⟨c, hc, hcp, hs⟩ := rowLinearCombine_sp r piv j
  have e := hs g.v hp
  unfold satisfies at h ⊢
  rw [rowLinearCombine_le]
  split at h
  · rename_i hor
    rw [if_pos hor]
    rw [h, mul_zero] at e
    rcases mul_eq_zero.1 e.symm with h1 | h1
    · exact absurd h1 hc
    · exact h1
  · rename_i hor
    rw [if_neg hor]
    have hf : r.le = false := by
      cases hr : r.le
      · rfl
      · rw [hr, Bool.true_or] at hor; exact absurd rfl hor
    have h1 : 0 ≤ c * scalarProduct (rowLinearCombine r piv j).v g.v := by
      rw [← e]; exact mul_nonneg (normalize2_snd_nonneg _ _ (hpos hf)) h
    exact (mul_nonneg_iff_of_pos_left (hcp hf)).1 h1

/-- with a non-zero pivot the combined row is saturated by the same generators of the pivot hyperplane. -/
theorem rowLinearCombine_sp_zero_iff (r piv : LRow) (j : Nat) (g : LRow) (hp : scalarProduct piv.v g.v = 0)
    (hnz : piv.v.getD j 0 ≠ 0) :
    scalarProduct (rowLinearCombine r piv j).v g.v = 0 ↔ scalarProduct r.v g.v = 0 := by
  obtain ⟨c, hc, _, hs⟩ := rowLinearCombine_sp r piv j
  have e := hs g.v hp
  constructor
  · intro h
    rw [h, mul_zero] at e
    rcases mul_eq_zero.1 e with h1 | h1
    · exact absurd h1 (normalize2_snd_ne _ _ hnz)
    · exact h1
  · intro h
    rw [h, mul_zero] at e
    rcases mul_eq_zero.1 e.symm with h1 | h1
    · exact absurd h1 hc
    · exact h1

theorem ExactBits_congr {gens : List LRow} {r r' : SRow} (hs : r'.sat = r.sat)
    (h : ∀ g ∈ gens, scalarProduct r'.row.v g.v = 0 ↔ scalarProduct r.row.v g.v = 0)
    (he : ExactBits gens r) : ExactBits gens r' := by
  intro j
  rw [hs, he j]
  by_cases hj : j < gens.length
  · rw [getD_eq_getElem gens default hj, sp_comm _ r.row.v, sp_comm _ r'.row.v]
    have := h gens[j] (List.getElem_mem hj)
    congr 1
    exact decide_eq_decide.2 (not_congr this.symm)
  · simp [hj]

/-- what `back_substitute` keeps, beside the saturation rows. -/
structure BInv (gens : List LRow) (n : Nat) (rows : List SRow) : Prop where
  ginv : GInv n rows
  sound : ∀ m, m < rows.length → ∀ g ∈ gens, satisfies (rows.getD m default).row g
  ineq : ∀ m, n ≤ m → m < rows.length →
    (rows.getD m default).row.le = false ∧ ExactBits gens (rows.getD m default)

theorem MinInv.binv {gens : List LRow} {n : Nat} {rows : List SRow} (hI : MinInv gens n rows) :
    BInv gens n rows :=
  ⟨hI.ginv, hI.sound_idx, fun m hn hm => ⟨(hI.ineq_idx m hn hm).1, (hI.ineq_idx m hn hm).2.2⟩⟩

theorem combF_sat (P : Nat → SRow → Prop) [∀ k r, Decidable (P k r)] (piv : LRow) (j k : Nat) (r : SRow) :
    (combF P piv j k r).sat = r.sat := by
  unfold combF; split <;> rfl

/-- one pass of `back_substitute`: the pivot row is saturated by every generator, and its pivot coefficient
is positive wherever an inequality is rewritten. -/
theorem mapIdx_combF_binv (gens : List LRow) (n : Nat) (rows : List SRow) (P : Nat → SRow → Prop)
    [∀ k r, Decidable (P k r)] (piv : LRow) (j : Nat) (hI : BInv gens n rows)
    (hpiv : ∀ g ∈ gens, scalarProduct piv.v g.v = 0)
    (hpos : ∀ m, m < rows.length → P m (rows.getD m default) → (rows.getD m default).row.le = false →
      0 < piv.v.getD j 0) :
    BInv gens n (rows.mapIdx (combF P piv j)) ∧
    ∀ m, m < rows.length → ((rows.mapIdx (combF P piv j)).getD m default).sat = (rows.getD m default).sat := by
  refine ⟨⟨GInv_mapIdx n rows P piv j hI.ginv, fun m hm g hg => ?_, fun m hn hm => ?_⟩, fun m hm => ?_⟩
  · rw [List.length_mapIdx] at hm
    rw [getD_mapIdx rows _ m hm]
    unfold combF
    split
    · rename_i hP
      exact rowLinearCombine_satisfies _ piv j g (hpiv g hg)
        (fun hf => le_of_lt (hpos m hm hP hf)) (hI.sound m hm g hg)
    · exact hI.sound m hm g hg
  · rw [List.length_mapIdx] at hm
    rw [getD_mapIdx rows _ m hm]
    obtain ⟨hle, hex⟩ := hI.ineq m hn hm
    refine ⟨by rw [combF_le]; exact hle, ?_⟩
    unfold combF
    split
    · rename_i hP
      have hp0 := hpos m hm hP hle
      exact ExactBits_congr (r := rows.getD m default) rfl
        (fun g hg => rowLinearCombine_sp_zero_iff _ piv j g (hpiv g hg) (ne_of_gt hp0)) hex
    · exact hex
  · rw [getD_mapIdx rows _ m hm, combF_sat]

/-- one `k` of `back_substitute`. -/
theorem backSubstituteStep_binv (gens : List LRow) (n : Nat) (rows : List SRow) (k : Nat)
    (hI : BInv gens n rows) (hk : k < n)
    (hnz : (rows.getD k default).row.v.getD (bsCol rows k) 0 ≠ 0) :
    BInv gens n (backSubstituteStep n rows k) ∧
    (backSubstituteStep n rows k).length = rows.length ∧
    ∀ m, m < rows.length → ((backSubstituteStep n rows k).getD m default).sat = (rows.getD m default).sat := by
  have hkl : k < rows.length := by have := hI.ginv.1; omega
  have hrowk : ∀ g ∈ gens, scalarProduct (rows.getD k default).row.v g.v = 0 :=
    fun g hg => satisfies_line_zero _ g (hI.sound k hkl g hg) (Or.inl (hI.ginv.2 k hk))
  obtain ⟨aI, aS⟩ := mapIdx_combF_binv gens n rows
    (fun i r => i < k ∧ r.row.v.getD (bsCol rows k) 0 ≠ 0) (rows.getD k default).row (bsCol rows k) hI hrowk
    (fun m _ hP hf => by rw [hI.ginv.2 m (by omega)] at hf; cases hf)
  change BInv gens n (bsA rows k) at aI
  change ∀ m, m < rows.length → ((bsA rows k).getD m default).sat = _ at aS
  have al : (bsA rows k).length = rows.length := by unfold bsA; exact List.length_mapIdx
  obtain ⟨bI, bS⟩ := mapIdx_combF_binv gens n (bsA rows k)
    (fun i r => n ≤ i ∧ r.row.v.getD (bsCol rows k) 0 ≠ 0) (bsPiv rows k) (bsCol rows k) aI
    (fun g hg => bsPiv_sp rows k g.v (hrowk g hg))
    (fun _ _ _ _ => lt_of_le_of_ne (bsPiv_nonneg rows k) (Ne.symm (bsPiv_ne rows k hnz)))
  rw [backSubstituteStep_eq]
  refine ⟨bI, by rw [List.length_mapIdx]; exact al, fun m hm => ?_⟩
  rw [bS m (by rw [al]; exact hm), aS m hm]

/-- the whole loop. -/
theorem backSub_fold_binv (gens : List LRow) (n : Nat) : ∀ (ks : List Nat) (rows : List SRow),
    BInv gens n rows → (∀ k ∈ ks, k < n) → BackSubPivots n ks rows →
    BInv gens n (ks.foldl (backSubstituteStep n) rows) ∧
    (ks.foldl (backSubstituteStep n) rows).length = rows.length ∧
    ∀ m, m < rows.length →
      ((ks.foldl (backSubstituteStep n) rows).getD m default).sat = (rows.getD m default).sat
  | [], rows, hI, _, _ => ⟨hI, rfl, fun _ _ => rfl⟩
  | k :: ks, rows, hI, hks, hp => by
    rw [List.foldl_cons]
    obtain ⟨s1, s2, s3⟩ := backSubstituteStep_binv gens n rows k hI (hks k List.mem_cons_self) hp.1
    obtain ⟨r1, r2, r3⟩ := backSub_fold_binv gens n ks (backSubstituteStep n rows k) s1
      (fun k' hk' => hks k' (List.mem_cons_of_mem _ hk')) hp.2
    exact ⟨r1, r2.trans s2, fun m hm => (r3 m (by rw [s2]; exact hm)).trans (s3 m hm)⟩

/-- **`back_substitute` keeps (a), (b) and the saturation rows**, when it meets no zero pivot row. -/
theorem backSubstitute_binv (gens : List LRow) (n : Nat) (rows : List SRow) (hI : BInv gens n rows)
    (hpiv : BackSubPivots n (List.range n).reverse rows) :
    BInv gens n (backSubstitute n rows) ∧ (backSubstitute n rows).length = rows.length ∧
    ∀ m, m < rows.length → ((backSubstitute n rows).getD m default).sat = (rows.getD m default).sat :=
  backSub_fold_binv gens n _ rows hI (range_reverse_lt n) hpiv

end PPLV.Conv

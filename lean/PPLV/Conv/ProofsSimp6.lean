import PPLV.Conv.ProofsSimp5
/-!
# `simplify`: `backSubstitute` keeps the solution set
-/
namespace PPLV.Conv

/-- the pivot column of step `k`. -/
def bsCol (rows : List SRow) (k : Nat) : Nat := lastNonzero (rows.getD k default).row.v

/-- the rows after the first pass of step `k` (the equalities above). -/
def bsA (rows : List SRow) (k : Nat) : List SRow :=
  rows.mapIdx (combF (fun i r => i < k ∧ r.row.v.getD (bsCol rows k) 0 ≠ 0) (rows.getD k default).row (bsCol rows k))

/-- the pivot row of the second pass: negated when its pivot coefficient is negative. -/
def bsPiv (rows : List SRow) (k : Nat) : LRow :=
  if (rows.getD k default).row.v.getD (bsCol rows k) 0 < 0 then
    { (rows.getD k default).row with v := (rows.getD k default).row.v.map (- ·) }
  else (rows.getD k default).row

theorem backSubstituteStep_eq (nle : Nat) (rows : List SRow) (k : Nat) :
    backSubstituteStep nle rows k =
      (bsA rows k).mapIdx (combF (fun i r => nle ≤ i ∧ r.row.v.getD (bsCol rows k) 0 ≠ 0) (bsPiv rows k) (bsCol rows k)) :=
  rfl

theorem bsPiv_nonneg (rows : List SRow) (k : Nat) : 0 ≤ (bsPiv rows k).v.getD (bsCol rows k) 0 := by
  unfold bsPiv
  split
  · rename_i h
    simp only [getD_map_neg]; omega
  · rename_i h; omega

theorem bsPiv_ne (rows : List SRow) (k : Nat) (h : (rows.getD k default).row.v.getD (bsCol rows k) 0 ≠ 0) :
    (bsPiv rows k).v.getD (bsCol rows k) 0 ≠ 0 := by
  unfold bsPiv
  split
  · simp only [getD_map_neg]; omega
  · exact h

theorem bsPiv_sp (rows : List SRow) (k : Nat) (x : Vec) (h : scalarProduct (rows.getD k default).row.v x = 0) :
    scalarProduct (bsPiv rows k).v x = 0 := by
  unfold bsPiv
  split
  · show scalarProduct ((rows.getD k default).row.v.map (- ·)) x = 0
    rw [sp_comm, sp_neg, sp_comm, h]; rfl
  · exact h

theorem holds_eq_sp (l : List SRow) (k : Nat) (x : Vec) (hk : k < l.length)
    (hle : (l.getD k default).row.le = true) (h : HoldsIdx l x) :
    scalarProduct (l.getD k default).row.v x = 0 := by
  have := h k hk
  unfold holds at this
  rw [if_pos hle] at this; exact this

theorem bsA_keeps (nle : Nat) (rows : List SRow) (k : Nat) (hI : GInv nle rows) (hk : k < nle) :
    (bsA rows k).length = rows.length ∧ GInv nle (bsA rows k) ∧
    (bsA rows k).getD k default = rows.getD k default ∧
    (∀ x, HoldsIdx rows x → HoldsIdx (bsA rows k) x) ∧
    ((rows.getD k default).row.v.getD (bsCol rows k) 0 ≠ 0 → ∀ x, HoldsIdx (bsA rows k) x ↔ HoldsIdx rows x) := by
  have hkl : k < rows.length := by have := hI.1; omega
  have hkk : (bsA rows k).getD k default = rows.getD k default := by
    unfold bsA
    rw [getD_mapIdx rows _ k hkl, combF_of_not]; omega
  have hvac : ∀ m, m < rows.length → (m < k ∧ (rows.getD m default).row.v.getD (bsCol rows k) 0 ≠ 0) →
      (rows.getD m default).row.le = false → False := by
    intro m _ hP hf
    rw [hI.2 m (by omega)] at hf; cases hf
  refine ⟨by unfold bsA; exact List.length_mapIdx, GInv_mapIdx nle rows _ _ _ hI, hkk, fun x h => ?_, fun hnz x => ?_⟩
  · unfold bsA
    exact holdsIdx_mapIdx_of rows _ _ _ x (holds_eq_sp rows k x hkl (hI.2 k hk) h)
      (fun m hm hP hf => (hvac m hm hP hf).elim) h
  · unfold bsA
    apply holdsIdx_mapIdx_iff rows _ _ _ x (holds_eq_sp rows k x hkl (hI.2 k hk)) _ hnz
      (fun m hm hP hf => (hvac m hm hP hf).elim)
    intro h
    have := holds_eq_sp (bsA rows k) k x (by unfold bsA; rw [List.length_mapIdx]; exact hkl)
      (by rw [hkk]; exact hI.2 k hk) h
    rw [hkk] at this; exact this

theorem backSubstituteStep_keeps (nle : Nat) (rows : List SRow) (k : Nat) (hI : GInv nle rows) (hk : k < nle) :
    (backSubstituteStep nle rows k).length = rows.length ∧ GInv nle (backSubstituteStep nle rows k) ∧
    (∀ x, HoldsIdx rows x → HoldsIdx (backSubstituteStep nle rows k) x) ∧
    ((rows.getD k default).row.v.getD (bsCol rows k) 0 ≠ 0 →
      ∀ x, HoldsIdx (backSubstituteStep nle rows k) x ↔ HoldsIdx rows x) := by
  obtain ⟨a1, a2, a3, a4, a5⟩ := bsA_keeps nle rows k hI hk
  rw [backSubstituteStep_eq]
  have hkl : k < (bsA rows k).length := by have := a2.1; omega
  have hle : ((bsA rows k).getD k default).row.le = true := a2.2 k hk
  have hpA : ∀ x, HoldsIdx (bsA rows k) x → scalarProduct (bsPiv rows k).v x = 0 := by
    intro x h
    have := holds_eq_sp (bsA rows k) k x hkl hle h
    rw [a3] at this
    exact bsPiv_sp rows k x this
  refine ⟨by rw [List.length_mapIdx]; exact a1, GInv_mapIdx nle _ _ _ _ a2, fun x h => ?_, fun hnz x => ?_⟩
  · exact holdsIdx_mapIdx_of _ _ _ _ x (hpA x (a4 x h)) (fun _ _ _ _ => bsPiv_nonneg rows k) (a4 x h)
  · refine Iff.trans ?_ (a5 hnz x)
    apply holdsIdx_mapIdx_iff _ _ _ _ x (hpA x) _ (bsPiv_ne rows k hnz)
      (fun _ _ _ _ => lt_of_le_of_ne (bsPiv_nonneg rows k) (Ne.symm (bsPiv_ne rows k hnz)))
    intro h
    have hkk : ((bsA rows k).mapIdx (combF (fun i r => nle ≤ i ∧ r.row.v.getD (bsCol rows k) 0 ≠ 0)
        (bsPiv rows k) (bsCol rows k))).getD k default = (bsA rows k).getD k default := by
      rw [getD_mapIdx _ _ k hkl, combF_of_not]; omega
    have := holds_eq_sp _ k x (by rw [List.length_mapIdx]; exact hkl) (by rw [hkk]; exact hle) h
    rw [hkk, a3] at this
    exact bsPiv_sp rows k x this

/-- every pivot coefficient used by `backSubstitute` (last non-zero coefficient of the current row `k`,
for the `k`s in the order of the loop) is non-zero, i.e. no pivot row is the zero row. -/
def BackSubPivots (nle : Nat) : List Nat → List SRow → Prop
  | [], _ => True
  | k :: ks, rows =>
    (rows.getD k default).row.v.getD (lastNonzero (rows.getD k default).row.v) 0 ≠ 0 ∧
      BackSubPivots nle ks (backSubstituteStep nle rows k)

theorem backSub_fold_keeps (nle : Nat) : ∀ (ks : List Nat) (rows : List SRow), GInv nle rows →
    (∀ k ∈ ks, k < nle) →
    (ks.foldl (backSubstituteStep nle) rows).length = rows.length ∧
    GInv nle (ks.foldl (backSubstituteStep nle) rows) ∧
    (∀ x, HoldsIdx rows x → HoldsIdx (ks.foldl (backSubstituteStep nle) rows) x) ∧
    (BackSubPivots nle ks rows → ∀ x, HoldsIdx (ks.foldl (backSubstituteStep nle) rows) x ↔ HoldsIdx rows x)
  | [], rows, hI, _ => ⟨rfl, hI, fun _ h => h, fun _ _ => Iff.rfl⟩
  | k :: ks, rows, hI, hks => by
    rw [List.foldl_cons]
    obtain ⟨s1, s2, s3, s4⟩ := backSubstituteStep_keeps nle rows k hI (hks k List.mem_cons_self)
    obtain ⟨r1, r2, r3, r4⟩ := backSub_fold_keeps nle ks (backSubstituteStep nle rows k) s2
      (fun k' hk' => hks k' (List.mem_cons_of_mem _ hk'))
    refine ⟨r1.trans s1, r2, fun x h => r3 x (s3 x h), fun hp x => ?_⟩
    exact (r4 hp.2 x).trans (s4 hp.1 x)

theorem range_reverse_lt (n : Nat) : ∀ k ∈ (List.range n).reverse, k < n := by
  intro k hk
  rw [List.mem_reverse, List.mem_range] at hk; exact hk

/-- `backSubstitute` never loses a solution (no hypothesis on the pivots). -/
theorem backSubstitute_sound (nle : Nat) (rows : List SRow)
    (hle : ∀ i, i < nle → (rows.getD i default).row.le = true) (hn : nle ≤ rows.length) :
    ∀ x, holdsAll (rows.map (·.row)) x → holdsAll ((backSubstitute nle rows).map (·.row)) x := by
  intro x
  rw [holdsAll_iff_idx, holdsAll_iff_idx]
  exact (backSub_fold_keeps nle _ rows ⟨hn, hle⟩ (range_reverse_lt nle)).2.2.1 x

/-- `backSubstitute` keeps the solution set when no pivot row is the zero row. -/
theorem backSubstitute_same_set (nle : Nat) (rows : List SRow)
    (hle : ∀ i, i < nle → (rows.getD i default).row.le = true) (hn : nle ≤ rows.length)
    (hnz : BackSubPivots nle (List.range nle).reverse rows) :
    ∀ x, holdsAll ((backSubstitute nle rows).map (·.row)) x ↔ holdsAll (rows.map (·.row)) x := by
  intro x
  rw [holdsAll_iff_idx, holdsAll_iff_idx]
  exact (backSub_fold_keeps nle _ rows ⟨hn, hle⟩ (range_reverse_lt nle)).2.2.2 hnz x

theorem backSubstitute_length (nle : Nat) (rows : List SRow)
    (hle : ∀ i, i < nle → (rows.getD i default).row.le = true) (hn : nle ≤ rows.length) :
    (backSubstitute nle rows).length = rows.length :=
  (backSub_fold_keeps nle _ rows ⟨hn, hle⟩ (range_reverse_lt nle)).1

theorem backSubstitute_le (nle : Nat) (rows : List SRow)
    (hle : ∀ i, i < nle → (rows.getD i default).row.le = true) (hn : nle ≤ rows.length) :
    ∀ i, i < nle → ((backSubstitute nle rows).getD i default).row.le = true :=
  (backSub_fold_keeps nle _ rows ⟨hn, hle⟩ (range_reverse_lt nle)).2.1.2

end PPLV.Conv

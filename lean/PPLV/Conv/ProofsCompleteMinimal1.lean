import PPLV.Conv.ProofsCompleteSimp3
/-!
# no redundant inequality remains after `simplify`: the argument on lists

`irredundant_of_independent`: a list of records `F` whose first `n` rows are equalities, every row
satisfied by every generator (a), every row from `n` on an inequality with a NON-EMPTY saturation row
that is EXACT against `gens` (b), and no saturation row from `n` on a subset of (or equal to) another (c):
for every `i ≥ n` some integer vector of length `≤ ncols` satisfies every row but `F[i]`.

The witness is explicit: `z` := the sum of the generators saturating `F[i]`, `g₀` a generator with
`⟨F[i], g₀⟩ > 0`, `N := 1 + Σ_m |⟨F[m], g₀⟩|`, `x := N•z − g₀`.
-/
namespace PPLV.Conv

/-- the sum of the rows of a generator list. -/
def vsumOf (gs : List LRow) : Vec := gs.foldr (fun g acc => linearCombine 1 1 g.v acc) []

theorem vsumOf_cons (g : LRow) (gs : List LRow) : vsumOf (g :: gs) = linearCombine 1 1 g.v (vsumOf gs) := rfl

theorem sp_vsumOf_cons (c : Vec) (g : LRow) (gs : List LRow) :
    scalarProduct c (vsumOf (g :: gs)) = scalarProduct c g.v + scalarProduct c (vsumOf gs) := by
  rw [vsumOf_cons, sp_linearCombine]; ring

theorem length_vsumOf (ncols : Nat) : ∀ (gs : List LRow), (∀ g ∈ gs, g.v.length ≤ ncols) →
    (vsumOf gs).length ≤ ncols
  | [], _ => Nat.zero_le _
  | g :: gs, h => by
    rw [vsumOf_cons, length_linearCombine]
    have h1 := h g List.mem_cons_self
    have h2 := length_vsumOf ncols gs (fun g' hg' => h g' (List.mem_cons_of_mem _ hg'))
    omega

theorem sp_vsumOf_zero (c : Vec) : ∀ (gs : List LRow), (∀ g ∈ gs, scalarProduct c g.v = 0) →
    scalarProduct c (vsumOf gs) = 0
  | [], _ => sp_nil_right c
  | g :: gs, h => by
    rw [sp_vsumOf_cons, h g List.mem_cons_self,
      sp_vsumOf_zero c gs (fun g' hg' => h g' (List.mem_cons_of_mem _ hg'))]
    rfl

theorem sp_vsumOf_nonneg (c : Vec) : ∀ (gs : List LRow), (∀ g ∈ gs, 0 ≤ scalarProduct c g.v) →
    0 ≤ scalarProduct c (vsumOf gs)
  | [], _ => by rw [show vsumOf [] = [] from rfl, sp_nil_right]
  | g :: gs, h => by
    rw [sp_vsumOf_cons]
    have h1 := h g List.mem_cons_self
    have h2 := sp_vsumOf_nonneg c gs (fun g' hg' => h g' (List.mem_cons_of_mem _ hg'))
    omega

/-- all terms `≥ 0`, one `≥ 1`. -/
theorem sp_vsumOf_pos (c : Vec) : ∀ (gs : List LRow), (∀ g ∈ gs, 0 ≤ scalarProduct c g.v) →
    (∃ g ∈ gs, 0 < scalarProduct c g.v) → 1 ≤ scalarProduct c (vsumOf gs)
  | [], _, h => by obtain ⟨g, hg, _⟩ := h; cases hg
  | g :: gs, h, hex => by
    rw [sp_vsumOf_cons]
    have h1 := h g List.mem_cons_self
    have hrest : ∀ g' ∈ gs, 0 ≤ scalarProduct c g'.v := fun g' hg' => h g' (List.mem_cons_of_mem _ hg')
    have h2 := sp_vsumOf_nonneg c gs hrest
    obtain ⟨g0, hg0, hpos⟩ := hex
    rcases List.mem_cons.1 hg0 with e | e
    · subst e; omega
    · have := sp_vsumOf_pos c gs hrest ⟨g0, e, hpos⟩
      omega

/-- `Σ_m |⟨F[m], y⟩|`. -/
def absSum (F : List SRow) (y : Vec) : Nat := (F.map fun s => (scalarProduct s.row.v y).natAbs).sum

theorem le_absSum (y : Vec) : ∀ (F : List SRow) (s : SRow), s ∈ F →
    (scalarProduct s.row.v y).natAbs ≤ absSum F y
  | [], _, h => by cases h
  | t :: F, s, h => by
    unfold absSum
    rw [List.map_cons, List.sum_cons]
    rcases List.mem_cons.1 h with e | e
    · subst e; omega
    · have := le_absSum y F s e
      unfold absSum at this
      omega

/-- a bit set in an exact saturation row of a row the generators satisfy: a generator on the positive side. -/
theorem pos_of_bit {gens : List LRow} {r : SRow} (hex : ExactBits gens r)
    (hs : ∀ g ∈ gens, satisfies r.row g) (j : Nat) (hb : bit r.sat j = true) :
    ∃ hj : j < gens.length, 0 < scalarProduct r.row.v gens[j].v := by
  have hj := hex.lt_of_bit j hb
  refine ⟨hj, ?_⟩
  have hne : scalarProduct r.row.v gens[j].v ≠ 0 := by
    intro h0
    rw [(hex.bit_iff j hj).2 h0] at hb; cases hb
  have := satisfies_nonneg r.row gens[j] (hs _ (List.getElem_mem hj))
  omega

/-- `sat[y] ⊄ sat[d]`: a bit of `y` that `d` does not have. -/
theorem bit_of_not_subset (y d : BRow) (h : subsetOrEqual y d = false) :
    ∃ j, bit y j = true ∧ bit d j = false := by
  by_contra hc
  have : subsetOrEqual y d = true := by
    rw [subsetOrEqual_iff]
    intro j hj
    cases hd : bit d j
    · exact absurd ⟨j, hj, hd⟩ hc
    · rfl
  rw [this] at h; cases h

/-- **irredundancy from independent, exact, non-empty saturation rows.** -/
theorem irredundant_of_independent (ncols : Nat) (gens : List LRow) (n : Nat) (F : List SRow)
    (hglen : ∀ g ∈ gens, g.v.length ≤ ncols)
    (hsound : ∀ m, m < F.length → ∀ g ∈ gens, satisfies (F.getD m default).row g)
    (heq : ∀ m, m < n → (F.getD m default).row.le = true)
    (hineq : ∀ m, n ≤ m → m < F.length → (F.getD m default).row.le = false ∧
      bitsEmpty (F.getD m default).sat = false ∧ ExactBits gens (F.getD m default))
    (hindep : ∀ i k, n ≤ i → i < F.length → n ≤ k → k < F.length → k ≠ i →
      subsetOrEqual (F.getD k default).sat (F.getD i default).sat = false) :
    ∀ i, n ≤ i → i < F.length → ∃ x : Vec, x.length ≤ ncols ∧
      (∀ m, m < F.length → m ≠ i → holds (F.getD m default).row x) ∧
      ¬ holds (F.getD i default).row x := by
  intro i hni hil
  obtain ⟨hdle, hdne, hdex⟩ := hineq i hni hil
  generalize hd : F.getD i default = d at hdle hdne hdex
  -- a generator strictly inside `d`
  obtain ⟨j0, hb0⟩ := (bitsEmpty_false_iff _).1 hdne
  obtain ⟨hj0, hpos0⟩ := pos_of_bit hdex (by rw [← hd]; exact hsound i hil) j0 hb0
  generalize hg0 : gens[j0] = g0 at hpos0
  have hg0m : g0 ∈ gens := by rw [← hg0]; exact List.getElem_mem hj0
  -- the generators saturating `d`
  let zs := gens.filter (fun g => decide (scalarProduct d.row.v g.v = 0))
  have hzs : ∀ g ∈ zs, g ∈ gens ∧ scalarProduct d.row.v g.v = 0 := by
    intro g hg
    obtain ⟨h1, h2⟩ := List.mem_filter.1 hg
    exact ⟨h1, by simpa using h2⟩
  let z := vsumOf zs
  let N : Int := 1 + (absSum F g0.v : Nat)
  refine ⟨linearCombine N (-1) z g0.v, ?_, fun m hml hmi => ?_, ?_⟩
  · rw [length_linearCombine]
    have h1 := length_vsumOf ncols zs (fun g hg => hglen g (hzs g hg).1)
    have h2 := hglen g0 hg0m
    show max (vsumOf zs).length g0.v.length ≤ ncols
    omega
  · unfold holds
    rw [sp_linearCombine]
    by_cases hmn : m < n
    · have hle := heq m hmn
      rw [if_pos hle]
      have hz : scalarProduct (F.getD m default).row.v z = 0 :=
        sp_vsumOf_zero _ zs (fun g hg => satisfies_line_zero _ g (hsound m hml g (hzs g hg).1) (Or.inl hle))
      rw [hz, satisfies_line_zero _ g0 (hsound m hml g0 hg0m) (Or.inl hle)]
      rfl
    · obtain ⟨hyle, _, hyex⟩ := hineq m (by omega) hml
      rw [hyle]
      simp only [Bool.false_eq_true, if_false]
      -- a generator saturating `d` and not `F[m]`
      have hsub := hindep i m hni hil (by omega) hml hmi
      rw [hd] at hsub
      obtain ⟨j, hby, hbd⟩ := bit_of_not_subset _ _ hsub
      obtain ⟨hj, hposy⟩ := pos_of_bit hyex (hsound m hml) j hby
      have hdz : scalarProduct d.row.v gens[j].v = 0 := (hdex.bit_iff j hj).1 hbd
      have hmem : gens[j] ∈ zs := List.mem_filter.2 ⟨List.getElem_mem hj, by simpa using hdz⟩
      have hz : 1 ≤ scalarProduct (F.getD m default).row.v z :=
        sp_vsumOf_pos _ zs (fun g hg => satisfies_nonneg _ g (hsound m hml g (hzs g hg).1))
          ⟨gens[j], hmem, hposy⟩
      have hab := le_absSum g0.v F (F.getD m default) (getD_mem_of_lt F m hml)
      have hN : (scalarProduct (F.getD m default).row.v g0.v) + 1 ≤ N := by
        show _ ≤ 1 + ((absSum F g0.v : Nat) : Int)
        omega
      have hN0 : 0 ≤ N := by
        show 0 ≤ 1 + ((absSum F g0.v : Nat) : Int)
        omega
      have hmul : N * 1 ≤ N * scalarProduct (F.getD m default).row.v z :=
        Int.mul_le_mul_of_nonneg_left hz hN0
      omega
  · unfold holds
    rw [sp_linearCombine, hdle]
    simp only [Bool.false_eq_true, if_false]
    have hz : scalarProduct d.row.v z = 0 := sp_vsumOf_zero _ zs (fun g hg => (hzs g hg).2)
    rw [hz]
    omega

end PPLV.Conv

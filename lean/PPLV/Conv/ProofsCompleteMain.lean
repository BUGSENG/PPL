import PPLV.Conv.ProofsCompleteLoop
/-!
# `conversion` returns a double description pair in minimal form
-/
namespace PPLV.Conv
open PPLV.Conv.Abs

/-- what is proved about the value `conversion` returns. -/
structure DDComplete (ncols : Nat) (r : ConvResult) : Prop where
  /-- every vector of the ambient space satisfying the returned source rows is generated by `dest`. -/
  complete : ∀ y ∈ ambient ncols, InP (r.source.map conOf) y → Cone (linesOf r.dest) (raysOf r.dest) y
  inU : ∀ g ∈ r.dest, emb g.v ∈ ambient ncols
  /-- no ray saturates every source row another ray saturates. -/
  antichain : ∀ i j (hi : i < r.dest.length) (hj : j < r.dest.length), r.nle ≤ i → r.nle ≤ j → i ≠ j →
    ¬ SatSub (r.source.map conOf) (emb r.dest[i].v) (emb r.dest[j].v)
  /-- no ray saturates every source row. -/
  proper : ∀ i (hi : i < r.dest.length), r.nle ≤ i → ∃ s ∈ r.source, scalarProduct s.v r.dest[i].v ≠ 0
  /-- the lines are linearly independent. -/
  rank : r.nle ≤ Module.finrank ℚ (Submodule.span ℚ (linesOf r.dest))

theorem mem_removeRows {α : Type} (l : List α) (idx : List Nat) (x : α) (h : x ∈ removeRows l idx) : x ∈ l := by
  unfold removeRows at h
  obtain ⟨p, hp, rfl⟩ := List.mem_map.mp h
  have := (List.mem_filter.mp hp).1
  obtain ⟨i, hi⟩ := List.mem_iff_getElem?.mp this
  rw [List.getElem?_zipIdx] at hi
  match hq : l[i]? with
  | none => rw [hq] at hi; simp at hi
  | some a =>
    rw [hq] at hi
    simp only [Option.map_some, Option.some.injEq] at hi
    rw [← hi]
    exact List.mem_of_getElem? hq

/-- **`conversion` is complete**, from a state that satisfies `CExtra`. -/
theorem conversion_complete' (ncols : Nat) (source : List LRow) (start : Nat) (dest : List LRow) (sat : List BRow)
    (nle : Nat) (hstart : start ≤ source.length) (h0 : Sound (source.take start) dest) (hl : LinesFirst dest nle)
    (hn : nle ≤ dest.length) (hsat0 : SatCorrect (source.take start) dest sat)
    (X0 : CExtra ncols (source.take start) { rows := initRows dest sat, nle := nle, k := start, redundant := [] })
    (hsz : ncols < 2 ^ 64) (hsrc : source.length < 2 ^ 64) :
    DDComplete ncols (conversion ncols source start dest sat nle) := by
  have C0 : CompInv ncols source { rows := initRows dest sat, nle := nle, k := start, redundant := [] } :=
    ⟨satInv_init source start dest sat nle hstart h0 hl hn hsat0, by dsimp only; rw [removeRows_nil]; exact X0⟩
  obtain ⟨I, hkend⟩ := conversionLoop_compInv ncols source hsz hsrc (source.drop start) _ rfl C0
  generalize hF : conversionLoop ncols (source.drop start)
    { rows := initRows dest sat, nle := nle, k := start, redundant := [] } = stF at I hkend
  have hkeptF : removeRows (source.take stF.k) stF.redundant = removeRows source stF.redundant := by
    rw [hkend, List.take_length]
  have X := I.extra
  have hsatF := I.sat.hsat
  rw [hkeptF] at X hsatF
  rw [conversion_eq ncols source start dest sat nle stF hF]
  refine ⟨X.complete, ?_, ?_, ?_, X.rank⟩
  · intro g hg
    obtain ⟨d, hd, rfl⟩ := List.mem_map.mp hg
    exact X.inU d hd
  · intro i j hi hj hi' hj' hne hsub
    dsimp only at hi hj hi' hj' hsub
    have hi2 : i < stF.rows.length := by simpa using hi
    have hj2 : j < stF.rows.length := by simpa using hj
    rw [List.getElem_map, List.getElem_map] at hsub
    have h1 := subset_of_satSub hsatF (List.getElem_mem hi2) (List.getElem_mem hj2) hsub
    have h2 := X.antichain j i stF.rows[j] stF.rows[i] hj' hi' (fun h => hne h.symm)
      (List.getElem?_eq_getElem hj2) (List.getElem?_eq_getElem hi2)
    rw [h1] at h2; cases h2
  · intro i hi hi'
    dsimp only at hi hi' ⊢
    have hi2 : i < stF.rows.length := by simpa using hi
    rw [List.getElem_map]
    obtain ⟨k, hk⟩ := (bitsEmpty_false_iff _).mp (X.proper i stF.rows[i] hi' (List.getElem?_eq_getElem hi2))
    obtain ⟨hkl, hne⟩ := (bit_true_iff hsatF (List.getElem_mem hi2) k).mp hk
    exact ⟨_, getD_mem_of_lt _ k hkl, hne⟩

/-- the start of `minimize`: the identity matrix of lines, no constraint processed. -/
theorem cextra_identity (ncols n : Nat) :
    CExtra ncols [] { rows := initRows (identityLines ncols) (List.replicate ncols (List.replicate n false)),
                      nle := ncols, k := 0, redundant := [] } := by
  have hlen : (List.replicate ncols (List.replicate n false)).length = (identityLines ncols).length := by
    simp [identityLines]
  have hrow := initRows_row (identityLines ncols) _ hlen
  have hlenR : (initRows (identityLines ncols) (List.replicate ncols (List.replicate n false))).length = ncols := by
    have := congrArg List.length hrow
    simpa [identityLines] using this
  refine ⟨?_, ?_, ?_, ?_, ?_⟩
  · intro d hd
    have : d.row ∈ identityLines ncols := by rw [← hrow]; exact List.mem_map_of_mem hd
    apply emb_mem_ambient
    unfold identityLines at this
    obtain ⟨i, _, hi⟩ := List.mem_map.mp this
    rw [← hi]; simp
  · intro y hy _
    show Cone (linesOf ((initRows _ _).map (·.row))) (raysOf ((initRows _ _).map (·.row))) y
    rw [hrow]
    exact ambient_le_identity ncols y hy
  · intro l m dl dm hl _ _ e1 _
    exfalso
    have := (List.getElem?_eq_some_iff.1 e1).1
    have hl' : ncols ≤ l := hl
    have : l < ncols := by rw [← hlenR]; exact this
    omega
  · intro m d hm e1
    exfalso
    have := (List.getElem?_eq_some_iff.1 e1).1
    have hm' : ncols ≤ m := hm
    have : m < ncols := by rw [← hlenR]; exact this
    omega
  · show ncols ≤ Module.finrank ℚ (Submodule.span ℚ (linesOf ((initRows _ _).map (·.row))))
    rw [hrow]
    exact finrank_identity ncols

theorem satCorrect_identity (ncols n : Nat) :
    SatCorrect [] (identityLines ncols) (List.replicate ncols (List.replicate n false)) := by
  refine ⟨by simp [identityLines], ?_⟩
  intro i hi j
  have hi' : i < ncols := by simpa [identityLines] using hi
  have : bit ((List.replicate ncols (List.replicate n false)).getD i []) j = false := by
    rw [List.getD_eq_getElem?_getD, List.getElem?_replicate, if_pos hi']
    show bit (List.replicate n false) j = false
    unfold bit
    rw [List.getD_eq_getElem?_getD, List.getElem?_replicate]
    split <;> rfl
  rw [this]; simp

theorem conversion_source_subset (ncols : Nat) (source : List LRow) (start : Nat) (dest : List LRow) (sat : List BRow)
    (nle : Nat) : ∀ s ∈ (conversion ncols source start dest sat nle).source, s ∈ source := by
  intro s hs
  exact mem_removeRows source _ s hs

/-- the conversion run by `minimize` (from the identity matrix of lines, nothing processed): its rows satisfy the
source rows, lines first; the source rows it returns are among those given. -/
theorem conversion_identity_sound (ncols : Nat) (source : List LRow) :
    Sound source (conversion ncols source 0 (identityLines ncols)
      (List.replicate ncols (List.replicate source.length false)) ncols).dest ∧
    LinesFirst (conversion ncols source 0 (identityLines ncols)
      (List.replicate ncols (List.replicate source.length false)) ncols).dest
      (conversion ncols source 0 (identityLines ncols)
      (List.replicate ncols (List.replicate source.length false)) ncols).nle ∧
    ∀ s ∈ (conversion ncols source 0 (identityLines ncols)
      (List.replicate ncols (List.replicate source.length false)) ncols).source, s ∈ source :=
  have h := conversion_sound' ncols source 0 (identityLines ncols) _ ncols
    (by intro d _ s hs; cases hs) (linesFirst_identity' ncols) (by simp [identityLines]) (by simp [identityLines])
  ⟨h.1, h.2, conversion_source_subset ncols source 0 _ _ ncols⟩

/-- its saturation matrix is exact. -/
theorem conversion_identity_sat (ncols : Nat) (source : List LRow) :
    SatCorrect (conversion ncols source 0 (identityLines ncols)
        (List.replicate ncols (List.replicate source.length false)) ncols).source
      (conversion ncols source 0 (identityLines ncols)
        (List.replicate ncols (List.replicate source.length false)) ncols).dest
      (conversion ncols source 0 (identityLines ncols)
        (List.replicate ncols (List.replicate source.length false)) ncols).sat :=
  conversion_sat_correct ncols source 0 (identityLines ncols) _ ncols (Nat.zero_le _)
    (by intro d _ s hs; cases hs) (linesFirst_identity' ncols) (by simp [identityLines])
    (satCorrect_identity ncols source.length)

/-- **the conversion run by `minimize`** returns a minimal double description pair of the cone of `source`. -/
theorem conversion_identity_complete (ncols : Nat) (source : List LRow) (hsz : ncols < 2 ^ 64) (hsrc : source.length < 2 ^ 64) :
    DDComplete ncols (conversion ncols source 0 (identityLines ncols)
      (List.replicate ncols (List.replicate source.length false)) ncols) := by
  apply conversion_complete' ncols source 0 (identityLines ncols) _ ncols (Nat.zero_le _)
  · intro d _ s hs; simp at hs
  · exact linesFirst_identity' ncols
  · simp [identityLines]
  · exact satCorrect_identity ncols source.length
  · exact cextra_identity ncols source.length
  · exact hsz
  · exact hsrc

/-- completeness on rows: what satisfies `source` is `Generated` by the returned rows. -/
theorem DDComplete.generated {ncols : Nat} {r : ConvResult} (D : DDComplete ncols r) (x : Vec) (hx : x.length ≤ ncols)
    (h : holdsAll r.source x) : Generated r.dest x :=
  generated_of_cone r.dest x (D.complete (emb x) (emb_mem_ambient ncols x hx) ((holdsAll_iff_abs r.source x).mp h))

end PPLV.Conv

import PPLV.Conv.ProofsSimp9
import PPLV.Conv.ProofsCompleteBits
/-!
# `simplify` drops only redundant rows: list facts

* `eqDetectLoop`: every row keeps an exact saturation row and stays satisfied by the generators
  (`RowOK`), and every row it leaves beyond the equalities has a non-empty saturation row.
-/
namespace PPLV.Conv

/-! ## exact saturation rows -/

/-- the saturation row of `r` is exact against `gens`: bit `j` set iff `gens[j]` does not saturate it. -/
def ExactBits (gens : List LRow) (r : SRow) : Prop :=
  ∀ j, bit r.sat j =
    (decide (j < gens.length) && decide (scalarProduct (gens.getD j default).v r.row.v ≠ 0))

/-- exact saturation row, and every generator satisfies the row. -/
def RowOK (gens : List LRow) (r : SRow) : Prop := ExactBits gens r ∧ ∀ g ∈ gens, satisfies r.row g

/-- bit `j` against the generator `gens[j]`. -/
theorem ExactBits.bit_iff {gens : List LRow} {r : SRow} (h : ExactBits gens r) (j : Nat)
    (hj : j < gens.length) : bit r.sat j = false ↔ scalarProduct r.row.v gens[j].v = 0 := by
  have := h j
  rw [getD_eq_getElem gens default hj, sp_comm] at this
  rw [this]
  simp [hj]

theorem ExactBits.lt_of_bit {gens : List LRow} {r : SRow} (h : ExactBits gens r) (j : Nat)
    (hb : bit r.sat j = true) : j < gens.length := by
  have := h j
  rw [hb] at this
  by_contra hc
  simp [hc] at this

/-- a row with an empty exact saturation row is saturated by every generator. -/
theorem ExactBits.saturated_of_empty {gens : List LRow} {r : SRow} (h : ExactBits gens r)
    (hb : bitsEmpty r.sat = true) : ∀ g ∈ gens, scalarProduct r.row.v g.v = 0 := by
  intro g hg
  obtain ⟨j, hj, rfl⟩ := List.mem_iff_getElem.1 hg
  exact (h.bit_iff j hj).1 ((bitsEmpty_iff _).1 hb j)

theorem RowOK_eqRow {gens : List LRow} {s : SRow} (h : RowOK gens s) (hb : bitsEmpty s.sat = true) :
    RowOK gens (eqRow s) := by
  have hz := h.1.saturated_of_empty hb
  have hz' : ∀ g ∈ gens, scalarProduct (eqRow s).row.v g.v = 0 :=
    fun g hg => (eqRow_sp_iff s g.v).2 (hz g hg)
  refine ⟨fun j => ?_, fun g hg => ?_⟩
  · rw [eqRow_sat, (bitsEmpty_iff _).1 hb j]
    by_cases hj : j < gens.length
    · have := hz' gens[j] (List.getElem_mem hj)
      rw [getD_eq_getElem gens default hj, sp_comm, this]
      simp
    · simp [hj]
  · unfold satisfies
    rw [eqRow_le, Bool.true_or, if_pos rfl]
    exact hz' g hg

/-- the detection of the implicit equalities keeps `RowOK`. -/
theorem eqDetectLoop_rowOK (gens : List LRow) : ∀ (n : Nat) (rows : List SRow) (nle i : Nat),
    (∀ r ∈ rows, RowOK gens r) → ∀ r ∈ (eqDetectLoop n rows nle i).1, RowOK gens r
  | 0, rows, nle, i => fun h => h
  | n + 1, rows, nle, i => fun h => by
    by_cases hb : bitsEmpty (rows.getD i default).sat = true
    · rw [eqDetectLoop_succ_pos n rows nle i hb]
      apply eqDetectLoop_rowOK gens n
      intro s hs
      rw [mem_eqStepRows] at hs
      rcases mem_set_eqRow rows i s hs with h1 | ⟨hi, h1⟩
      · exact h s h1
      · rw [h1]; exact RowOK_eqRow (h _ (getD_mem_of_lt rows i hi)) hb
    · rw [eqDetectLoop_succ_neg n rows nle i hb]
      exact eqDetectLoop_rowOK gens n rows nle (i + 1) h

/-- the rows at `[a, b)` have a non-empty saturation row. -/
def NonEmptyFrom (rows : List SRow) (a b : Nat) : Prop :=
  ∀ m, a ≤ m → m < b → bitsEmpty (rows.getD m default).sat = false

theorem length_eqStepRows (rows : List SRow) (nle i : Nat) : (eqStepRows rows nle i).length = rows.length := by
  unfold eqStepRows
  split
  · rw [length_swapAt, List.length_set]
  · rw [List.length_set]

theorem getD_set_ne (rows : List SRow) (i m : Nat) (s : SRow) (h : m ≠ i) :
    (rows.set i s).getD m default = rows.getD m default := by
  rw [List.getD_eq_getElem?_getD, List.getElem?_set_ne (Ne.symm h), ← List.getD_eq_getElem?_getD]

/-- after the detection every row beyond the equalities has a non-empty saturation row. -/
theorem eqDetectLoop_nonempty : ∀ (n : Nat) (rows : List SRow) (nle i : Nat),
    nle ≤ i → i + n = rows.length → NonEmptyFrom rows nle i →
    NonEmptyFrom (eqDetectLoop n rows nle i).1 (eqDetectLoop n rows nle i).2
      (eqDetectLoop n rows nle i).1.length
  | 0, rows, nle, i => fun _ hin h m h1 h2 => by
    have h2' : m < rows.length := h2
    exact h m h1 (by omega)
  | n + 1, rows, nle, i => fun hni hin h => by
    by_cases hb : bitsEmpty (rows.getD i default).sat = true
    · rw [eqDetectLoop_succ_pos n rows nle i hb]
      apply eqDetectLoop_nonempty n (eqStepRows rows nle i) (nle + 1) (i + 1) (by omega)
        (by rw [length_eqStepRows]; omega)
      intro m h1 h2
      have hl : (rows.set i (eqRow (rows.getD i default))).length = rows.length := List.length_set
      unfold eqStepRows
      split
      · rename_i hne
        have hne' : i ≠ nle := by simpa using hne
        rw [getD_swapAt _ i nle m (by rw [hl]; omega) (by rw [hl]; omega)]
        have hm1 : m ≠ nle := by omega
        rw [if_neg hm1]
        split
        · rw [getD_set_ne rows i nle _ (Ne.symm hne')]
          exact h nle (Nat.le_refl _) (by omega)
        · rename_i hmi
          rw [getD_set_ne rows i m _ hmi]
          exact h m (by omega) (by omega)
      · rename_i he
        have he' : i = nle := by simpa using he
        omega
    · rw [eqDetectLoop_succ_neg n rows nle i hb]
      apply eqDetectLoop_nonempty n rows nle (i + 1) (by omega) (by omega)
      intro m h1 h2
      by_cases e : m = i
      · rw [e]; simpa using hb
      · exact h m h1 (by omega)

end PPLV.Conv

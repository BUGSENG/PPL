import PPLV.Conv.ProofsCompleteRay6
import PPLV.Conv.ProofsCompleteLine5
import PPLV.Conv.ProofsCompleteEmb2
/-!
# the main loop of `conversion` keeps the double description pair complete and minimal
-/
namespace PPLV.Conv
open PPLV.Conv.Abs

theorem getElem?_map_sp (rows : List DRow) (f : DRow → Int) (m : Nat) (d : DRow)
    (h : (rows.map fun d => ({ d with sp := f d } : DRow))[m]? = some d) :
    ∃ d0, rows[m]? = some d0 ∧ d.row = d0.row ∧ d.sat = d0.sat := by
  rw [List.getElem?_map] at h
  match hq : rows[m]? with
  | none => rw [hq] at h; simp at h
  | some d0 =>
    rw [hq] at h
    simp only [Option.map_some, Option.some.injEq] at h
    exact ⟨d0, rfl, by rw [← h], by rw [← h]⟩

/-- `CExtra` does not look at the scalar products. -/
theorem CExtra.congr_sp {ncols : Nat} {kept : List LRow} {st : CState} (X : CExtra ncols kept st) (f : DRow → Int) :
    CExtra ncols kept { st with rows := st.rows.map fun d => { d with sp := f d } } := by
  have hg : ({ st with rows := st.rows.map fun d => ({ d with sp := f d } : DRow) } : CState).gens = st.gens := by
    unfold CState.gens
    simp only [List.map_map]
    rfl
  refine ⟨?_, ?_, ?_, ?_, ?_⟩
  · intro d hd
    obtain ⟨d0, h0, rfl⟩ := List.mem_map.mp hd
    exact X.inU d0 h0
  · rw [hg]; exact X.complete
  · intro l m dl dm hl hm hne e1 e2
    obtain ⟨a, ea, _, sa⟩ := getElem?_map_sp _ _ _ _ e1
    obtain ⟨b, eb, _, sb⟩ := getElem?_map_sp _ _ _ _ e2
    rw [sa, sb]
    exact X.antichain l m a b hl hm hne ea eb
  · intro m d hm e
    obtain ⟨a, ea, _, sa⟩ := getElem?_map_sp _ _ _ _ e
    rw [sa]
    exact X.proper m a hm ea
  · rw [hg]; exact X.rank

/-- **one iteration of the main loop keeps `CExtra`.** -/
theorem conversionStep_extra (ncols : Nat) (srcK : LRow) (st : CState) (kept : List LRow)
    (hk : kept.length = st.k - st.redundant.length)
    (hs : ∀ d ∈ st.rows, ∀ s ∈ kept, satisfies s d.row)
    (hl : ∀ m d, st.rows[m]? = some d → d.row.le = decide (m < st.nle)) (hn : st.nle ≤ st.rows.length)
    (hsat : RowsSatCorrect kept st.rows) (X : CExtra ncols kept st)
    (hsz : ncols < 2 ^ 64) (hkz : kept.length < 2 ^ 64) :
    let st' := conversionStep ncols srcK st
    (st'.redundant = st.redundant → CExtra ncols (kept ++ [srcK]) st') ∧
    (st'.redundant = st.redundant ++ [st.k] → CExtra ncols kept st') := by
  have H := stepHyp_withSp srcK st kept hs hl hn
  have hsat1 : RowsSatCorrect kept (withSp srcK st).rows := by
    intro d hd
    obtain ⟨d0, h0, rfl⟩ := mem_withSp hd
    exact hsat d0 h0
  have X1 : CExtra ncols kept (withSp srcK st) := X.congr_sp _
  rcases conversionStep_cases ncols srcK st hn with ⟨inz, hc, e, hb, hp⟩ | ⟨e, hz⟩
  · rw [e, ← hk]
    refine ⟨fun _ => lineCase_extra ncols srcK kept _ inz H hc hb hp hsat1 X1, fun hr => ?_⟩
    rw [(lineCase_sat srcK kept _ inz H hc hb hp hsat1).1] at hr
    exact absurd (congrArg List.length hr) (by simp [withSp])
  · rw [e, ← hk]
    exact rayCase_extra ncols srcK kept _ H hz hsat1 X1 (finrank_ambient ncols) hsz hkz

/-- the loop invariant: `SatInv` (`ProofsSat3.lean`) and the completeness / minimality part `CExtra`. -/
structure CompInv (ncols : Nat) (source : List LRow) (st : CState) : Prop where
  sat : SatInv source st
  extra : CExtra ncols (removeRows (source.take st.k) st.redundant) st

theorem compInv_step (ncols : Nat) (source : List LRow) (hsz : ncols < 2 ^ 64) (hsrc : source.length < 2 ^ 64)
    (st : CState) (I : CompInv ncols source st) (hlt : st.k < source.length) (st2 : CState)
    (h2 : st2 = { conversionStep ncols source[st.k] st with k := st.k + 1 }) : CompInv ncols source st2 := by
  subst h2
  refine ⟨satInv_step ncols source st I.sat hlt _ rfl, ?_⟩
  have hlenI := I.sat.hlen
  have hkl : (removeRows (source.take st.k) st.redundant).length = st.k - st.redundant.length := by omega
  have hnotin : ¬ st.k ∈ st.redundant := fun hc => by have := I.sat.hred _ hc; omega
  have hkz : (removeRows (source.take st.k) st.redundant).length < 2 ^ 64 := by omega
  obtain ⟨c1, c2⟩ := conversionStep_extra ncols source[st.k] st _ hkl I.sat.hs I.sat.hl I.sat.hn I.sat.hsat I.extra hsz hkz
  -- `CExtra` does not look at `k`
  have tr : ∀ kept', CExtra ncols kept' (conversionStep ncols source[st.k] st) →
      CExtra ncols kept' { conversionStep ncols source[st.k] st with k := st.k + 1 } :=
    fun _ Y => ⟨Y.inU, Y.complete, Y.antichain, Y.proper, Y.rank⟩
  show CExtra ncols (removeRows (source.take (st.k + 1)) (conversionStep ncols source[st.k] st).redundant) _
  rcases conversionStep_sat ncols source[st.k] st _ hkl I.sat.hs I.sat.hl I.sat.hn I.sat.hsat with ⟨r1, _⟩ | ⟨r1, _⟩
  · rw [r1, removeRows_take_succ_keep source st.k st.redundant hlt hnotin]
    exact tr _ (c1 r1)
  · rw [r1, removeRows_take_succ_drop source st.k st.redundant hlt]
    exact tr _ (c2 r1)

theorem conversionLoop_compInv (ncols : Nat) (source : List LRow) (hsz : ncols < 2 ^ 64) (hsrc : source.length < 2 ^ 64) :
    ∀ (rest : List LRow) (st : CState), source.drop st.k = rest → CompInv ncols source st →
      CompInv ncols source (conversionLoop ncols rest st) ∧ (conversionLoop ncols rest st).k = source.length :=
  conversionLoop_induction ncols source (CompInv ncols source) (fun _ I => I.sat.hk)
    (fun st I hlt => compInv_step ncols source hsz hsrc st I hlt _ rfl)

end PPLV.Conv

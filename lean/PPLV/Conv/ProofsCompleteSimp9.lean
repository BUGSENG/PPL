import PPLV.Conv.ProofsCompleteSimp3
import Mathlib.Tactic.LinearCombination
/-!
# `gauss` leaves zero rows in `[rank, nle)`

`Linear_System::gauss` (`Linear_System_templates.hh:568-626`) processes the columns from the last to the
first; after a column has been processed, every row in `[rank, nle)` has a zero there (`ZeroBelow`): either
no row of `[rank, nle)` had a non-zero coefficient, or the pivot row was moved to `rank` and the column was
eliminated from the rows after it (the rows between `rank` and the pivot had a zero already).  Hence the rows
`[rank, nle)` of the result vanish on every vector of length `≤ ncols`: `dropPhase` drops zero rows.
-/
namespace PPLV.Conv

/-- column `c` of the combined row. -/
theorem rowLinearCombine_col (r y : LRow) (j c : Nat) :
    ∃ g : Int, g ≠ 0 ∧
      (normalize2 (r.v.getD j 0) (y.v.getD j 0)).2 * r.v.getD c 0
        - (normalize2 (r.v.getD j 0) (y.v.getD j 0)).1 * y.v.getD c 0
        = g * (rowLinearCombine r y j).v.getD c 0 := by
  rw [rowLinearCombine_eq]
  generalize (normalize2 (r.v.getD j 0) (y.v.getD j 0)).2 = ny
  generalize (normalize2 (r.v.getD j 0) (y.v.getD j 0)).1 = nx
  obtain ⟨g, hg, hs⟩ := sp_strongNormalize { r with v := linearCombine ny (-nx) r.v y.v }
  refine ⟨g, hg, ?_⟩
  have := hs (colVec c)
  rw [sp_linearCombine, sp_colVec, sp_colVec, sp_colVec] at this
  rw [← this]; ring

theorem rowLinearCombine_col_zero (r y : LRow) (j c : Nat) (hr : r.v.getD c 0 = 0) (hy : y.v.getD c 0 = 0) :
    (rowLinearCombine r y j).v.getD c 0 = 0 := by
  obtain ⟨g, hg, e⟩ := rowLinearCombine_col r y j c
  rw [hr, hy, mul_zero, mul_zero, sub_zero] at e
  rcases mul_eq_zero.1 e.symm with h | h
  · exact absurd h hg
  · exact h

theorem rowLinearCombine_pivot_zero (r y : LRow) (j : Nat) (h : r.v.getD j 0 ≠ 0 ∨ y.v.getD j 0 ≠ 0) :
    (rowLinearCombine r y j).v.getD j 0 = 0 := by
  obtain ⟨g', _, h1, h2⟩ := normalize2_spec _ _ h
  obtain ⟨g, hg, e⟩ := rowLinearCombine_col r y j j
  generalize (normalize2 (r.v.getD j 0) (y.v.getD j 0)).2 = ny at h2 e
  generalize (normalize2 (r.v.getD j 0) (y.v.getD j 0)).1 = nx at h1 e
  have : g * (rowLinearCombine r y j).v.getD j 0 = 0 := by
    linear_combination (-1 : Int) * e + ny * h1 - nx * h2
  rcases mul_eq_zero.1 this with h | h
  · exact absurd h hg
  · exact h

/-- the rows `[rank, nle)` have a zero in every column already processed. -/
def ZeroBelow (nle : Nat) (done : Nat → Prop) (st : List SRow × Nat) : Prop :=
  ∀ m, st.2 ≤ m → m < nle → ∀ c, done c → (st.1.getD m default).row.v.getD c 0 = 0

theorem gaussSwap_row (rows : List SRow) (i rank m : Nat) (hr : rank ≤ i) (hil : i < rows.length) :
    ((gaussSwap rows i rank).getD m default).row =
      if m = rank then (rows.getD i default).row
      else if m = i then (rows.getD rank default).row else (rows.getD m default).row := by
  unfold gaussSwap
  split
  · exact getD_row_swapRowOnly rows i rank m hil (by omega)
  · have e : i = rank := by omega
    subst e
    by_cases hm : m = i
    · simp [hm]
    · simp [hm]

theorem length_gaussSwap (rows : List SRow) (i rank : Nat) : (gaussSwap rows i rank).length = rows.length := by
  unfold gaussSwap
  split
  · exact length_swapRowOnly _ _ _
  · rfl

theorem gaussColumn_zeroBelow (nle j : Nat) (done : Nat → Prop) (rows : List SRow) (rank : Nat)
    (hI : GInv nle rows) (hZ : ZeroBelow nle done (rows, rank)) :
    ZeroBelow nle (fun c => done c ∨ c = j) (gaussColumn nle j (rows, rank)) := by
  cases hf : (List.range' rank (nle - rank)).find? (fun i => (rows.getD i default).row.v.getD j 0 != 0) with
  | none =>
    rw [gaussColumn_none nle j rows rank hf]
    rw [List.find?_range'_eq_none] at hf
    intro m hm1 hm2 c hc
    have hm1' : rank ≤ m := hm1
    rcases hc with hc | hc
    · exact hZ m hm1 hm2 c hc
    · have := hf m hm1' (by omega)
      rw [hc]
      simpa using this
  | some i =>
    rw [gaussColumn_some nle j rows rank i hf]
    rw [List.find?_range'_eq_some] at hf
    obtain ⟨hp, hmem, hfirst⟩ := hf
    rw [List.mem_range'_1] at hmem
    have hp' : (rows.getD i default).row.v.getD j 0 ≠ 0 := by simpa using hp
    have hfirst' : ∀ m, rank ≤ m → m < i → (rows.getD m default).row.v.getD j 0 = 0 := by
      intro m h1 h2
      simpa using hfirst m h1 h2
    have hil : i < rows.length := by have := hI.1; omega
    intro m hm1 hm2 c hc
    have hm1' : rank + 1 ≤ m := hm1
    show (SRow.row (List.getD (List.mapIdx _ (gaussSwap rows i rank)) m default)).v.getD c 0 = 0
    rw [getD_mapIdx _ _ m (by rw [length_gaussSwap]; have := hI.1; omega)]
    have hpiv : ((gaussSwap rows i rank).getD rank default).row = (rows.getD i default).row := by
      rw [gaussSwap_row rows i rank rank hmem.1 hil, if_pos rfl]
    rw [hpiv]
    have hrow := gaussSwap_row rows i rank m hmem.1 hil
    rw [if_neg (by omega)] at hrow
    have hdone : ∀ c, done c → ((gaussSwap rows i rank).getD m default).row.v.getD c 0 = 0 := by
      intro c hc
      rw [hrow]
      split
      · exact hZ rank (Nat.le_refl _) (by omega) c hc
      · exact hZ m (by show rank ≤ m; omega) hm2 c hc
    have hpdone : ∀ c, done c → (rows.getD i default).row.v.getD c 0 = 0 :=
      fun c hc => hZ i hmem.1 (by omega) c hc
    unfold combF
    split
    · rcases hc with hc | hc
      · exact rowLinearCombine_col_zero _ _ j c (hdone c hc) (hpdone c hc)
      · rw [hc]; exact rowLinearCombine_pivot_zero _ _ j (Or.inr hp')
    · rename_i hP
      rcases hc with hc | hc
      · exact hdone c hc
      · rw [hc]
        by_cases hmi : i + 1 ≤ m
        · by_contra hne; exact hP ⟨hmi, hm2, hne⟩
        · rw [hrow]
          split
          · exact hfirst' rank (Nat.le_refl _) (by omega)
          · exact hfirst' m (by omega) (by omega)

theorem gauss_fold_zeroBelow (nle : Nat) : ∀ (cols : List Nat) (rows : List SRow) (rank : Nat)
    (done : Nat → Prop), GInv nle rows → ZeroBelow nle done (rows, rank) →
    ZeroBelow nle (fun c => done c ∨ c ∈ cols) (cols.foldl (fun st j => gaussColumn nle j st) (rows, rank))
  | [], rows, rank, done, _, hZ => by
    intro m h1 h2 c hc
    rcases hc with hc | hc
    · exact hZ m h1 h2 c hc
    · cases hc
  | j :: cols, rows, rank, done, hI, hZ => by
    rw [List.foldl_cons]
    have h1 := gaussColumn_zeroBelow nle j done rows rank hI hZ
    have hI1 := (gaussColumn_keeps nle j rows rank hI).2.1
    have h2 := gauss_fold_zeroBelow nle cols (gaussColumn nle j (rows, rank)).1
      (gaussColumn nle j (rows, rank)).2 _ hI1 h1
    intro m hm1 hm2 c hc
    apply h2 m hm1 hm2 c
    rcases hc with hc | hc
    · exact Or.inl (Or.inl hc)
    · rcases List.mem_cons.1 hc with e | hc'
      · exact Or.inl (Or.inr e)
      · exact Or.inr hc'

/-- **the rows `[rank, nle)` left by `gauss` are zero in the first `ncols` columns.** -/
theorem gauss_zero_rows (ncols nle : Nat) (rows : List SRow) (hI : GInv nle rows) :
    ∀ m, (gauss ncols nle rows).2 ≤ m → m < nle → ∀ c, c < ncols →
      ((gauss ncols nle rows).1.getD m default).row.v.getD c 0 = 0 := by
  intro m hm1 hm2 c hc
  have h := gauss_fold_zeroBelow nle (List.range ncols).reverse rows 0 (fun _ => False) hI
    (fun _ _ _ _ h => h.elim)
  exact h m hm1 hm2 c (Or.inr (by rw [List.mem_reverse, List.mem_range]; exact hc))

/-- a row that is zero in the first `n` columns vanishes on the vectors of length `≤ n`. -/
theorem sp_zero_of_prefix_zero : ∀ (x v : Vec) (n : Nat), x.length ≤ n → (∀ c, c < n → v.getD c 0 = 0) →
    scalarProduct v x = 0
  | [], v, _, _, _ => sp_nil_right v
  | b :: bs, [], _, _, _ => sp_nil_left _
  | b :: bs, a :: as, n, hx, hz => by
    have hn : 1 ≤ n := by simp at hx; omega
    have ha : a = 0 := by simpa using hz 0 (by omega)
    have ih := sp_zero_of_prefix_zero bs as (n - 1) (by simp at hx; omega) (fun c hc => by
      have := hz (c + 1) (by omega)
      simpa using this)
    show a * b + scalarProduct as bs = 0
    rw [ha, ih]; ring

theorem gauss_zero_rows_sp (ncols nle : Nat) (rows : List SRow) (hI : GInv nle rows) :
    ∀ m, (gauss ncols nle rows).2 ≤ m → m < nle → ∀ x : Vec, x.length ≤ ncols →
      scalarProduct ((gauss ncols nle rows).1.getD m default).row.v x = 0 :=
  fun m hm1 hm2 x hx =>
    sp_zero_of_prefix_zero x _ ncols hx (gauss_zero_rows ncols nle rows hI m hm1 hm2)

end PPLV.Conv

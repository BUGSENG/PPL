import PPLV.Conv.ProofsSimp8
/-!
# `simplify`: what the independence rule leaves is independent; layout of the result
-/
namespace PPLV.Conv

theorem Proc_mono (nle : Nat) (rows : List SRow) (i i' : Nat) (h : i' ≤ i) (hP : Proc nle rows i) :
    Proc nle rows i' :=
  fun j k hj hji hk hkl hne => hP j k hj (by omega) hk hkl hne

theorem indepLoop_proc (nle : Nat) : ∀ (fuel : Nat) (rows : List SRow) (i : Nat),
    nle ≤ i → rows.length - i ≤ fuel → Proc nle rows i →
    Proc nle (indepLoop fuel nle rows i) (indepLoop fuel nle rows i).length
  | 0, rows, i => fun _ hf hP => by
    unfold indepLoop
    exact Proc_mono nle rows i rows.length (by omega) hP
  | n + 1, rows, i => fun hi hf hP => by
    by_cases hil : i < rows.length
    · obtain ⟨p1, p2, p3, p4, p5, p6, p7⟩ :=
        indepInner_spec nle (rows.length - nle + 1) rows i nle hi hil (Nat.le_refl _) (by omega) hP
          (fun k hk hkn _ => by omega)
      cases hr : (indepInner (rows.length - nle + 1) rows i nle).2 with
      | true =>
        rw [indepLoop_red n nle rows i hil hr]
        exact indepLoop_proc nle n
          (removeRowAt (indepInner (rows.length - nle + 1) rows i nle).1 i) i hi
          (by rw [length_removeRowAt]; omega) (Proc_remove nle _ i i (Nat.le_refl _) p1 p4)
      | false =>
        rw [indepLoop_nred n nle rows i hil hr]
        have hP' : Proc nle (indepInner (rows.length - nle + 1) rows i nle).1 (i + 1) := by
          intro j k hj hji hk hkl hne
          by_cases e : j = i
          · subst e; exact p6 hr k hk hkl hne
          · exact p4 j k hj (by omega) hk hkl hne
        exact indepLoop_proc nle n _ (i + 1) (by omega) (by omega) hP'
    · rw [indepLoop_ge n nle rows i hil]
      exact Proc_mono nle rows i rows.length (by omega) hP

/-- after the independence rule no saturation row from `nle` on is a subset of (or equal to) another. -/
theorem indepLoop_independent (fuel nle : Nat) (rows : List SRow) (hf : rows.length ≤ fuel) :
    ∀ j k, nle ≤ j → j < (indepLoop fuel nle rows nle).length → nle ≤ k →
      k < (indepLoop fuel nle rows nle).length → k ≠ j →
      subsetOrEqual ((indepLoop fuel nle rows nle).getD k default).sat
        ((indepLoop fuel nle rows nle).getD j default).sat = false :=
  indepLoop_proc nle fuel rows nle (Nat.le_refl _) (by omega) (fun j k hj hji => by omega)

/-- the result of `simplify`: the returned rank is at most the number of rows and the rows before it
are equalities. -/
theorem simplify_layout (ncols numColsSat : Nat) (sys : List SRow) :
    (simplify ncols numColsSat sys).2 ≤ (simplify ncols numColsSat sys).1.length ∧
    ∀ i, i < (simplify ncols numColsSat sys).2 →
      ((simplify ncols numColsSat sys).1.getD i default).row.le = true := by
  rw [simplify_eq]
  dsimp only
  have hc := countLeadingLe_spec sys
  obtain ⟨el, eI⟩ := eqDetectLoop_GInv (sys.length - countLeadingLe sys) sys (countLeadingLe sys)
    (countLeadingLe sys) (Nat.le_refl _) (by omega) ⟨hc.1, hc.2⟩
  generalize eqDetectLoop (sys.length - countLeadingLe sys) sys (countLeadingLe sys) (countLeadingLe sys) = e
    at el eI ⊢
  have gK := gauss_keeps ncols e.2 e.1 eI.2 eI.1
  generalize gauss ncols e.2 e.1 = g at gK ⊢
  obtain ⟨pI, pM⟩ := dropPhase_spec e.2 sys.length g.1 g.2 gK.2.1 (by rw [gK.1, el])
  generalize dropPhase e.2 sys.length g.1 g.2 = p at pI pM ⊢
  have sT := satRuleLoop_take p.1.length numColsSat (usub (usub ncols p.2) 1) p.1 p.2 p.2 (Nat.le_refl _)
  generalize satRuleLoop p.1.length numColsSat (usub (usub ncols p.2) 1) p.1 p.2 = s at sT ⊢
  have tT := indepLoop_take s.length p.2 s (Nat.le_refl _)
  generalize indepLoop s.length p.2 s p.2 = t at tT ⊢
  have tI : GInv p.2 t := GInv_of_take p.2 t s tT (GInv_of_take p.2 s p.1 sT pI)
  exact ⟨by rw [backSubstitute_length p.2 t tI.2 tI.1]; exact tI.1, backSubstitute_le p.2 t tI.2 tI.1⟩

end PPLV.Conv

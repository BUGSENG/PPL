import PPLV.Conv.ProofsCompleteMain
/-!
# an "empty" report of `minimize` is right

`minimize(true, cs, gs, sat)` reports "empty" when no generator beyond the lines has a positive
divisor (C) / epsilon coefficient (NNC).  With completeness of `conversion`: if the constraints entail
that this coordinate is non-negative (the positivity constraint, present or implied), no vector
satisfying the constraints has it positive — the polyhedron has no point.
-/
namespace PPLV.Conv
open PPLV.Conv.Abs

/-- the functional "coordinate `k`". -/
def colVec (k : Nat) : Vec := List.replicate k 0 ++ [1]

theorem sp_colVec : ∀ (k : Nat) (x : Vec), scalarProduct (colVec k) x = x.getD k 0
  | 0, [] => by simp [colVec, scalarProduct]
  | 0, a :: xs => by simp [colVec, scalarProduct]
  | k + 1, [] => by simp [colVec, sp_nil_right]
  | k + 1, a :: xs => by
    have ih := sp_colVec k xs
    have e : colVec (k + 1) = 0 :: colVec k := by simp [colVec, List.replicate_succ]
    rw [e]
    simp only [scalarProduct, ih, zero_mul, zero_add, List.getD_cons_succ]

theorem emb_colVec (k : Nat) (x : Vec) : emb x (colVec k) = (x.getD k 0 : ℚ) := by
  unfold emb; rw [sp_colVec]

theorem emb_linearCombine (a b : Int) (x y : Vec) :
    emb (linearCombine a b x y) = (a : ℚ) • emb x + (b : ℚ) • emb y := by
  funext c
  simp only [emb, Pi.add_apply, Pi.smul_apply, smul_eq_mul, sp_linearCombine]
  push_cast; ring

/-- every vector of the ambient space is a positive fraction of an embedded row. -/
theorem ambient_scaled (n : Nat) (y : FV) (hy : y ∈ ambient n) :
    ∃ (x : Vec) (N : Int), x.length ≤ n ∧ 0 < N ∧ (N : ℚ) • y = emb x := by
  unfold ambient at hy
  induction hy using Submodule.span_induction with
  | mem y hy =>
    obtain ⟨x, hx, rfl⟩ := hy
    exact ⟨x, 1, hx, by norm_num, by simp⟩
  | zero =>
    refine ⟨[], 1, by simp, by norm_num, ?_⟩
    funext c; simp [emb, sp_nil_right]
  | add y1 y2 _ _ ih1 ih2 =>
    obtain ⟨x1, N1, h1, p1, e1⟩ := ih1
    obtain ⟨x2, N2, h2, p2, e2⟩ := ih2
    refine ⟨linearCombine N2 N1 x1 x2, N1 * N2, ?_, Int.mul_pos p1 p2, ?_⟩
    · rw [length_linearCombine]; omega
    · rw [emb_linearCombine, ← e1, ← e2, smul_add, smul_smul, smul_smul]
      push_cast
      congr 1 <;> congr 1 <;> ring
  | smul q y _ ih =>
    obtain ⟨x, N, h, p, e⟩ := ih
    refine ⟨linearCombine q.num 0 x [], N * q.den, ?_, Int.mul_pos p (by exact_mod_cast q.den_pos), ?_⟩
    · rw [length_linearCombine]; simp; exact h
    · rw [emb_linearCombine, ← e, smul_smul, smul_smul]
      have hz : emb ([] : Vec) = 0 := by funext c; simp [emb, sp_nil_right]
      rw [hz, smul_zero, add_zero]
      congr 1
      have hd : (q.den : ℚ) ≠ 0 := by exact_mod_cast q.den_nz
      have hq : (q.num : ℚ) = q * q.den := by
        rw [Rat.mul_den_eq_num]
      push_cast
      rw [hq]; ring

/-- positivity stated on rows gives positivity on the whole ambient space. -/
theorem pos_abs_of_rows (ncols k : Nat) (source : List LRow)
    (hpos : ∀ x : Vec, x.length ≤ ncols → holdsAll source x → 0 ≤ x.getD k 0) :
    ∀ y ∈ ambient ncols, InP (source.map conOf) y → 0 ≤ y (colVec k) := by
  intro y hy hP
  obtain ⟨x, N, hx, hN, e⟩ := ambient_scaled ncols y hy
  have hNq : (0 : ℚ) < N := by exact_mod_cast hN
  have hP' : InP (source.map conOf) (emb x) := by
    rw [← e]
    intro a ha
    exact ACon.holds_smul _ (le_of_lt hNq) (hP a ha)
  have h0 := hpos x hx ((holdsAll_iff_abs source x).mpr hP')
  have h1 : emb x (colVec k) = (N : ℚ) * y (colVec k) := by
    rw [← e]; simp
  rw [emb_colVec] at h1
  have h2 : (0 : ℚ) ≤ (N : ℚ) * y (colVec k) := by rw [← h1]; exact_mod_cast h0
  exact nonneg_of_mul_nonneg_right h2 hNq |> fun h => h

/-- a coordinate that is `0` on the lines and `≤ 0` on the rays is `≤ 0` on the cone. -/
theorem cone_col_nonpos (L R : Set FV) (c : Vec) (hL : ∀ l ∈ L, l c = 0) (hR : ∀ r ∈ R, r c ≤ 0) {y : FV}
    (h : Cone L R y) : y c ≤ 0 := by
  induction h with
  | zero => simp
  | line t hl _ ih =>
    simp only [Pi.add_apply, Pi.smul_apply, smul_eq_mul, hL _ hl, mul_zero, add_zero]
    exact ih
  | ray t hr ht _ ih =>
    simp only [Pi.add_apply, Pi.smul_apply, smul_eq_mul]
    have := mul_nonpos_of_nonneg_of_nonpos ht (hR _ hr)
    linarith

/-- with the lines first, the rows beyond the lines are the rows that are not lines. -/
theorem LinesFirst.mem_drop_iff {dest : List LRow} {nle : Nat} (h : LinesFirst dest nle) (g : LRow) :
    g ∈ dest.drop nle ↔ g ∈ dest ∧ g.le = false := by
  rw [mem_drop_iff_getElem?, List.mem_iff_getElem?]
  constructor
  · rintro ⟨i, hi, hg⟩
    obtain ⟨hil, rfl⟩ := List.getElem?_eq_some_iff.mp hg
    exact ⟨⟨i, hg⟩, by rw [h i hil]; exact decide_eq_false (by omega)⟩
  · rintro ⟨⟨i, hg⟩, hle⟩
    obtain ⟨hil, rfl⟩ := List.getElem?_eq_some_iff.mp hg
    rw [h i hil] at hle
    exact ⟨i, Nat.le_of_not_lt (of_decide_eq_false hle), hg⟩

/-- **when the conversion of `minimize` finds no generator with a positive coordinate `k`, no vector
satisfying the constraints has one** (`k` = the divisor column for C, the epsilon column for NNC). -/
theorem no_point_of_hasPoint_false (nnc : Bool) (ncols : Nat) (source : List LRow)
    (hsz : ncols < 2 ^ 64) (hsrc : source.length < 2 ^ 64)
    (hpos : ∀ x : Vec, x.length ≤ ncols → holdsAll source x → 0 ≤ x.getD (if nnc then ncols - 1 else 0) 0)
    (h : hasPoint nnc ncols
          (conversion ncols source 0 (identityLines ncols) (List.replicate ncols (List.replicate source.length false)) ncols).nle
          (conversion ncols source 0 (identityLines ncols) (List.replicate ncols (List.replicate source.length false)) ncols).dest
          = false) :
    ∀ x : Vec, x.length ≤ ncols → holdsAll source x → x.getD (if nnc then ncols - 1 else 0) 0 ≤ 0 := by
  have D := conversion_identity_complete ncols source hsz hsrc
  obtain ⟨hsound, hlf, hsub⟩ := conversion_identity_sound ncols source
  generalize conversion ncols source 0 (identityLines ncols)
    (List.replicate ncols (List.replicate source.length false)) ncols = r at h D hsound hlf hsub
  set k := (if nnc then ncols - 1 else 0) with hk
  have hposA := pos_abs_of_rows ncols k source hpos
  intro x hx hall
  have hall' : holdsAll r.source x := fun s hs => hall s (hsub s hs)
  have hc := D.complete (emb x) (emb_mem_ambient ncols x hx) ((holdsAll_iff_abs r.source x).mp hall')
  have := cone_col_nonpos (linesOf r.dest) (raysOf r.dest) (colVec k) ?_ ?_ hc
  · rw [emb_colVec] at this; exact_mod_cast this
  · -- lines: both signs satisfy the constraints
    rintro l ⟨g, hg, hle, rfl⟩
    have hz := hsound.lines_zero (emb g.v) ⟨g, hg, hle, rfl⟩
    have hU := D.inU g hg
    have h1 := hposA (emb g.v) hU (fun a ha => ACon.holds_of_zero (hz a ha))
    have h2 := hposA (-emb g.v) (Submodule.neg_mem _ hU)
      (fun a ha => ACon.holds_of_zero (by rw [map_neg, hz a ha, neg_zero]))
    simp only [Pi.neg_apply] at h2
    linarith
  · -- rays: `hasPoint` found none positive
    rintro l ⟨g, hg, hle, rfl⟩
    have hmem : g ∈ r.dest.drop r.nle := (hlf.mem_drop_iff g).mpr ⟨hg, hle⟩
    unfold hasPoint at h
    rw [List.any_eq_false] at h
    have := h g hmem
    rw [emb_colVec]
    have hle0 : g.v.getD k 0 ≤ 0 := by simpa using this
    exact_mod_cast hle0

end PPLV.Conv

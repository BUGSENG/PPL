import PPLV.Conv.ProofsCompleteInv2
import PPLV.Conv.ProofsSat2
import PPLV.Conv.ProofsCompleteAbs5
/-!
# the adjacency tests of `conversion` (:755-835) against the abstract adjacency

`adjacent … i j = some _` (quick non-adjacency test passed, then quick adjacency test or full test)
is compared with `Abs.Adjacent` for the embedded rows.
-/
namespace PPLV.Conv
open PPLV.Conv.Abs

/-- the antichain property, permutation-invariantly. -/
def SatRel (a b : DRow) : Prop := subsetOrEqual a.sat b.sat = false ∧ subsetOrEqual b.sat a.sat = false

theorem satRel_symm {a b : DRow} (h : SatRel a b) : SatRel b a := ⟨h.2, h.1⟩

theorem satAntichain_iff_pairwise (nle : Nat) (rows : List DRow) :
    SatAntichain nle rows ↔ (rows.drop nle).Pairwise SatRel := by
  rw [List.pairwise_iff_getElem]
  constructor
  · intro h i j hi hj hij
    have e1 : rows[nle + i]? = some (rows.drop nle)[i] := by
      rw [← List.getElem?_drop, List.getElem?_eq_getElem hi]
    have e2 : rows[nle + j]? = some (rows.drop nle)[j] := by
      rw [← List.getElem?_drop, List.getElem?_eq_getElem hj]
    exact ⟨h _ _ _ _ (by omega) (by omega) (by omega) e1 e2, h _ _ _ _ (by omega) (by omega) (by omega) e2 e1⟩
  · intro h l m dl dm hl hm hne e1 e2
    have hl' : l - nle < (rows.drop nle).length := by
      rw [List.length_drop]; have := (List.getElem?_eq_some_iff.1 e1).1; omega
    have hm' : m - nle < (rows.drop nle).length := by
      rw [List.length_drop]; have := (List.getElem?_eq_some_iff.1 e2).1; omega
    have g1 : (rows.drop nle)[l - nle] = dl := by
      have : (rows.drop nle)[l - nle]? = some dl := by
        rw [List.getElem?_drop, show nle + (l - nle) = l by omega]; exact e1
      rw [List.getElem?_eq_getElem hl'] at this; exact Option.some.inj this
    have g2 : (rows.drop nle)[m - nle] = dm := by
      have : (rows.drop nle)[m - nle]? = some dm := by
        rw [List.getElem?_drop, show nle + (m - nle) = m by omega]; exact e2
      rw [List.getElem?_eq_getElem hm'] at this; exact Option.some.inj this
    rcases Nat.lt_or_gt_of_ne hne with hlt | hgt
    · have := h (l - nle) (m - nle) hl' hm' (by omega)
      rw [g1, g2] at this; exact this.1
    · have := h (m - nle) (l - nle) hm' hl' (by omega)
      rw [g1, g2] at this; exact this.2

theorem SatAntichain.perm {nle : Nat} {rows rows' : List DRow} (h : SatAntichain nle rows)
    (hp : (rows'.drop nle).Perm (rows.drop nle)) : SatAntichain nle rows' := by
  rw [satAntichain_iff_pairwise] at h ⊢
  exact (hp.pairwise_iff (fun {a b} hab => satRel_symm hab)).mpr h

/-- everything the adjacency lemmas need about one call of `rayCase`. -/
structure RayCtx (ncols : Nat) (srcK : LRow) (kept : List LRow) (st : CState) (R : List DRow) (leb sup : Nat) : Prop where
  H : StepHyp srcK st kept
  hsat : RowsSatCorrect kept st.rows
  X : CExtra ncols kept st
  P : PartOK st R leb sup

namespace RayCtx
variable {ncols : Nat} {srcK : LRow} {kept : List LRow} {st : CState} {R : List DRow} {leb sup : Nat}

theorem inv (C : RayCtx ncols srcK kept st R leb sup) :
    DDInv (ambient ncols) (kept.map conOf) (linesOf st.gens) (raysOf st.gens) :=
  toDDInv ncols kept st C.H.hl C.H.hP C.hsat C.X

/-- a record of the partitioned list beyond the lines is a ray of the state. -/
theorem ray (C : RayCtx ncols srcK kept st R leb sup) {m : Nat} {d : DRow} (hm : st.nle ≤ m) (hd : R[m]? = some d) :
    d ∈ st.rows ∧ d.row.le = false ∧ emb d.row.v ∈ raysOf st.gens := by
  obtain ⟨a1, _⟩ := C.P.at m d hm hd
  have hmem := List.mem_of_mem_drop a1
  obtain ⟨m', hm1, hm2⟩ := (mem_drop_iff_getElem? _ _ _).mp a1
  have hle : d.row.le = false := by rw [C.H.hl m' d hm2]; simp; omega
  exact ⟨hmem, hle, d.row, (mem_gens_iff st d.row).mpr ⟨d, hmem, rfl⟩, hle, rfl⟩

theorem antichainR (C : RayCtx ncols srcK kept st R leb sup) : SatAntichain st.nle R :=
  C.X.antichain.perm C.P.hperm

/-- the value of a kept constraint on a row, from the saturation bit. -/
theorem f_zero_iff (C : RayCtx ncols srcK kept st R leb sup) {d : DRow} (hd : d ∈ st.rows) (j : Nat) (hj : j < kept.length) :
    (conOf (kept.getD j default)).f (emb d.row.v) = 0 ↔ bit d.sat j = false := by
  rw [conOf_f_emb]
  have := bit_true_iff C.hsat hd j
  constructor
  · intro hz
    cases hb : bit d.sat j
    · rfl
    · exact absurd (by exact_mod_cast hz) (this.mp hb).2
  · intro hb
    by_contra hne
    have : bit d.sat j = true := this.mpr ⟨hj, fun hc => hne (by rw [hc]; simp)⟩
    rw [hb] at this; cases this

theorem bit_lt (C : RayCtx ncols srcK kept st R leb sup) {d : DRow} (hd : d ∈ st.rows) (j : Nat) (hb : bit d.sat j = true) :
    j < kept.length := ((bit_true_iff C.hsat hd j).mp hb).1

theorem kept_index {s : LRow} (hs : s ∈ kept) : ∃ j, j < kept.length ∧ kept.getD j default = s := by
  obtain ⟨j, hj⟩ := List.mem_iff_getElem?.mp hs
  have hjl : j < kept.length := by
    by_contra hc
    rw [List.getElem?_eq_none (by omega)] at hj; cases hj
  exact ⟨j, hjl, by rw [List.getD_eq_getElem?_getD, hj]; rfl⟩

/-- a third row whose saturation row is inside the union: it saturates the common saturators. -/
theorem common_of_subset (C : RayCtx ncols srcK kept st R leb sup) {di dj dl : DRow}
    (hi : di ∈ st.rows) (hj : dj ∈ st.rows) (hl : dl ∈ st.rows)
    (h : subsetOrEqual dl.sat (bor di.sat dj.sat) = true) :
    ∀ a ∈ kept.map conOf, a.f (emb di.row.v) = 0 → a.f (emb dj.row.v) = 0 → a.f (emb dl.row.v) = 0 := by
  rw [subsetOrEqual_iff] at h
  intro a ha h1 h2
  obtain ⟨s, hs, rfl⟩ := mem_kept_conOf ha
  obtain ⟨j, hjl, rfl⟩ := kept_index hs
  rw [C.f_zero_iff hi j hjl] at h1
  rw [C.f_zero_iff hj j hjl] at h2
  rw [C.f_zero_iff hl j hjl]
  cases hb : bit dl.sat j
  · rfl
  · have := h j hb
    rw [bit_bor, h1, h2] at this; cases this

theorem subset_of_common (C : RayCtx ncols srcK kept st R leb sup) {di dj dl : DRow}
    (hi : di ∈ st.rows) (hj : dj ∈ st.rows) (hl : dl ∈ st.rows)
    (h : ∀ a ∈ kept.map conOf, a.f (emb di.row.v) = 0 → a.f (emb dj.row.v) = 0 → a.f (emb dl.row.v) = 0) :
    subsetOrEqual dl.sat (bor di.sat dj.sat) = true := by
  rw [subsetOrEqual_iff]
  intro j hb
  have hjl := C.bit_lt hl j hb
  rw [bit_bor]
  by_contra hc
  rw [Bool.or_eq_true, not_or, Bool.not_eq_true, Bool.not_eq_true] at hc
  have := h (conOf (kept.getD j default)) (List.mem_map.mpr ⟨_, getD_mem_of_lt kept j hjl, rfl⟩)
    ((C.f_zero_iff hi j hjl).mpr hc.1) ((C.f_zero_iff hj j hjl).mpr hc.2)
  rw [C.f_zero_iff hl j hjl, hb] at this; cases this

/-- with an abstractly adjacent pair no third row has its saturation row inside the union. -/
theorem no_third (C : RayCtx ncols srcK kept st R leb sup) {i j l : Nat} {di dj dl : DRow}
    (hi : st.nle ≤ i) (hj : st.nle ≤ j) (hl : st.nle ≤ l) (hli : l ≠ i) (hlj : l ≠ j)
    (ei : R[i]? = some di) (ej : R[j]? = some dj) (el : R[l]? = some dl)
    (hadj : Adjacent (kept.map conOf) (raysOf st.gens) (emb di.row.v) (emb dj.row.v)) :
    subsetOrEqual dl.sat (bor di.sat dj.sat) = false := by
  obtain ⟨mi, _, _⟩ := C.ray hi ei
  obtain ⟨mj, _, _⟩ := C.ray hj ej
  obtain ⟨ml, _, rl⟩ := C.ray hl el
  cases hsub : subsetOrEqual dl.sat (bor di.sat dj.sat)
  · rfl
  · exfalso
    have hq := hadj _ rl (C.common_of_subset mi mj ml hsub)
    rcases hq with hq | hq
    · have h1 : SatSub (kept.map conOf) (emb dl.row.v) (emb di.row.v) := by
        intro a _ hz; rw [← hq]; exact hz
      have := subset_of_satSub C.hsat ml mi h1
      have h2 := C.antichainR i l di dl hi hl (fun h => hli h.symm) ei el
      rw [this] at h2; cases h2
    · have h1 : SatSub (kept.map conOf) (emb dl.row.v) (emb dj.row.v) := by
        intro a _ hz; rw [← hq]; exact hz
      have := subset_of_satSub C.hsat ml mj h1
      have h2 := C.antichainR j l dj dl hj hl (fun h => hlj h.symm) ej el
      rw [this] at h2; cases h2

theorem adjacent_symm {A : List (ACon FV)} {S : Set FV} {r s : FV} (h : Adjacent A S r s) : Adjacent A S s r := by
  intro q hq hc
  rcases h q hq (fun a ha h1 h2 => hc a ha h2 h1) with h | h
  · exact Or.inr h
  · exact Or.inl h

/-- the quick adjacency test (:808-813) implies abstract adjacency. -/
theorem quick_adj (C : RayCtx ncols srcK kept st R leb sup) {i j : Nat} {di dj : DRow}
    (hi : st.nle ≤ i) (hj : st.nle ≤ j) (ei : R[i]? = some di) (ej : R[j]? = some dj)
    (hq : max (countOnes di.sat) (countOnes dj.sat) + 1 = countOnes (bor di.sat dj.sat)) :
    Adjacent (kept.map conOf) (raysOf st.gens) (emb di.row.v) (emb dj.row.v) := by
  obtain ⟨mi, _, ri⟩ := C.ray hi ei
  obtain ⟨mj, _, rj⟩ := C.ray hj ej
  have bi : ∀ k, bit di.sat k = true → k < kept.length := fun k => C.bit_lt mi k
  have bj : ∀ k, bit dj.sat k = true → k < kept.length := fun k => C.bit_lt mj k
  -- the generic step: `b` has exactly one bit `e` outside `a`
  have key : ∀ (da db : DRow), da ∈ st.rows → db ∈ st.rows → emb da.row.v ∈ raysOf st.gens → emb db.row.v ∈ raysOf st.gens →
      (∃ e, bit db.sat e = true ∧ bit da.sat e = false ∧ ∀ k, bit db.sat k = true → bit da.sat k = true ∨ k = e) →
      Adjacent (kept.map conOf) (raysOf st.gens) (emb da.row.v) (emb db.row.v) := by
    intro da db ma mb ra rb ⟨e, he1, he2, he3⟩
    have hel := C.bit_lt mb e he1
    refine quick_adjacent_sound C.inv _ _ ra rb (conOf (kept.getD e default))
      (List.mem_map.mpr ⟨_, getD_mem_of_lt kept e hel, rfl⟩) ((C.f_zero_iff ma e hel).mpr he2) ?_ ?_
    · intro hz
      rw [C.f_zero_iff mb e hel, he1] at hz; cases hz
    · intro a ha hne
      obtain ⟨s, hs, rfl⟩ := mem_kept_conOf ha
      obtain ⟨k, hkl, rfl⟩ := kept_index hs
      have hbk : bit db.sat k = true := by
        cases hb : bit db.sat k
        · exact absurd ((C.f_zero_iff mb k hkl).mpr hb) hne
        · rfl
      rcases he3 k hbk with h | h
      · left
        intro hz
        rw [C.f_zero_iff ma k hkl, h] at hz; cases hz
      · right; rw [h]
  rcases Nat.le_total (countOnes dj.sat) (countOnes di.sat) with hle | hle
  · rw [Nat.max_eq_left hle] at hq
    exact key di dj mi mj ri rj (bor_count_succ _ _ kept.length bi bj hq.symm)
  · rw [Nat.max_eq_right hle] at hq
    exact adjacent_symm (key dj di mj mi rj ri (bor_count_succ' _ _ kept.length bi bj hq.symm))

/-- **what a positive verdict of `adjacent` means**: no third row has its saturation row inside the union. -/
theorem adjacent_some_no_third (C : RayCtx ncols srcK kept st R leb sup) {i j : Nat} {di dj : DRow} {s : BRow}
    (hi : st.nle ≤ i) (hj : st.nle ≤ j) (ei : R[i]? = some di) (ej : R[j]? = some dj)
    (h : adjacent ncols st.nle kept.length st.rows.length R i j = some s) :
    ∀ l dl, st.nle ≤ l → l ≠ i → l ≠ j → R[l]? = some dl → subsetOrEqual dl.sat (bor di.sat dj.sat) = false := by
  have gi : R.getD i default = di := getD_of_getElem? R i di default ei
  have gj : R.getD j default = dj := getD_of_getElem? R j dj default ej
  intro l dl hl hli hlj el
  unfold adjacent at h
  simp only [gi, gj] at h
  split at h
  · cases h
  · split at h
    · rename_i _ hq
      have hq' : max (countOnes di.sat) (countOnes dj.sat) + 1 = countOnes (bor di.sat dj.sat) := by
        simpa using hq
      exact C.no_third hi hj hl hli hlj ei ej el (C.quick_adj hi hj ei ej hq')
    · split at h
      · cases h
      · rename_i hany
        have hany' := Bool.eq_false_iff.mpr hany
        rw [List.any_eq_false] at hany'
        have hlb : l < st.rows.length := by
          rw [← C.P.hlen]; exact (List.getElem?_eq_some_iff.1 el).1
        have := hany' l (by rw [List.mem_range'_1]; omega)
        have gl : R.getD l default = dl := getD_of_getElem? R l dl default el
        rw [gl] at this
        cases hsub : subsetOrEqual dl.sat (bor di.sat dj.sat)
        · rfl
        · exfalso
          apply this
          simp [hli, hlj, hsub]

end RayCtx
end PPLV.Conv

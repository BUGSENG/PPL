import PPLV.Conv.ProofsCompleteSimp9
/-!
# the echelon form left by `gauss`

`Linear_System::gauss` (`Linear_System_templates.hh:568-626`) processes the columns `ncols-1, …, 0`.
After the columns `≥ c` have been processed, with `rank` pivots found, there are pivot columns
`piv 0 > piv 1 > … > piv (rank-1)` in `[c, ncols)` such that (`Ech`)

* `zb` — every row `m ∈ [rank, nle)` is zero on the columns `[c, ncols)` (`ZeroBelow`, `ProofsCompleteSimp9`);
* `nz`, `za` — row `p < rank` is non-zero at `piv p` and zero on the columns `(piv p, ncols)`;
* `zp` — every row `m ∈ (p, nle)` is zero at `piv p`.

`gauss_echelon`: the output of `gauss` satisfies `Ech … 0`; `gauss_rank_le`: the rank is `≤ nle`.
Coefficients are read with `getD c 0`: no hypothesis on the lengths of the rows.
-/
namespace PPLV.Conv

/-- the echelon invariant of `gauss` when the columns `[c, ncols)` have been processed. -/
structure Ech (nle ncols c : Nat) (rows : List SRow) (rank : Nat) (piv : Nat → Nat) : Prop where
  rk : rank ≤ nle
  rng : ∀ p, p < rank → c ≤ piv p ∧ piv p < ncols
  dec : ∀ p q, p < q → q < rank → piv q < piv p
  zb : ZeroBelow nle (fun j => c ≤ j ∧ j < ncols) (rows, rank)
  nz : ∀ p, p < rank → (rows.getD p default).row.v.getD (piv p) 0 ≠ 0
  za : ∀ p, p < rank → ∀ j, piv p < j → j < ncols → (rows.getD p default).row.v.getD j 0 = 0
  zp : ∀ p m, p < rank → p < m → m < nle → (rows.getD m default).row.v.getD (piv p) 0 = 0

theorem mapIdx_combF_col_zero (rows : List SRow) (P : Nat → SRow → Prop) [∀ k r, Decidable (P k r)]
    (y : LRow) (j m c : Nat) (hm : m < rows.length)
    (h1 : (rows.getD m default).row.v.getD c 0 = 0) (h2 : y.v.getD c 0 = 0) :
    ((rows.mapIdx (combF P y j)).getD m default).row.v.getD c 0 = 0 := by
  rw [getD_mapIdx rows _ m hm]
  unfold combF
  split
  · exact rowLinearCombine_col_zero _ _ j c h1 h2
  · exact h1

theorem mapIdx_combF_of_not (rows : List SRow) (P : Nat → SRow → Prop) [∀ k r, Decidable (P k r)]
    (y : LRow) (j m : Nat) (hm : m < rows.length) (h : ¬ P m (rows.getD m default)) :
    (rows.mapIdx (combF P y j)).getD m default = rows.getD m default := by
  rw [getD_mapIdx rows _ m hm, combF_of_not _ _ _ _ _ h]

/-- the column `j` has a pivot at row `i`: the new pivot column is `j`. -/
theorem gaussColumn_some_ech (nle ncols j : Nat) (rows : List SRow) (rank : Nat) (piv : Nat → Nat) (i : Nat)
    (hI : GInv nle rows) (hj : j < ncols) (hE : Ech nle ncols (j + 1) rows rank piv)
    (hri : rank ≤ i) (hin : i < nle) (hp : (rows.getD i default).row.v.getD j 0 ≠ 0)
    (P : Nat → SRow → Prop) [∀ k r, Decidable (P k r)] (hP : ∀ k r, P k r → i + 1 ≤ k)
    (out : List SRow)
    (hout : out = (gaussSwap rows i rank).mapIdx
      (combF P ((gaussSwap rows i rank).getD rank default).row j))
    (hZ : ZeroBelow nle (fun c => j ≤ c ∧ c < ncols) (out, rank + 1)) :
    Ech nle ncols j out (rank + 1) (fun p => if p = rank then j else piv p) := by
  subst hout
  have hil : i < rows.length := by have := hI.1; omega
  have hnl : nle ≤ rows.length := hI.1
  have hl1 : (gaussSwap rows i rank).length = rows.length := length_gaussSwap rows i rank
  have hr1 : ∀ m, ((gaussSwap rows i rank).getD m default).row =
      if m = rank then (rows.getD i default).row
      else if m = i then (rows.getD rank default).row else (rows.getD m default).row :=
    fun m => gaussSwap_row rows i rank m hri hil
  have hkeep : ∀ m, m ≤ i →
      ((gaussSwap rows i rank).mapIdx (combF P ((gaussSwap rows i rank).getD rank default).row j)).getD m default
        = (gaussSwap rows i rank).getD m default := by
    intro m hm
    exact mapIdx_combF_of_not _ P _ j m (by omega) (fun h => by have := hP _ _ h; omega)
  have hU : ∀ m, m < rank →
      (((gaussSwap rows i rank).mapIdx (combF P ((gaussSwap rows i rank).getD rank default).row j)).getD m
        default).row = (rows.getD m default).row := by
    intro m hm
    rw [hkeep m (by omega), hr1 m, if_neg (by omega), if_neg (by omega)]
  have hR : (((gaussSwap rows i rank).mapIdx (combF P ((gaussSwap rows i rank).getD rank default).row j)).getD
      rank default).row = (rows.getD i default).row := by
    rw [hkeep rank hri, hr1 rank, if_pos rfl]
  have hpz : ∀ c, (∀ m, rank ≤ m → m < nle → (rows.getD m default).row.v.getD c 0 = 0) →
      ∀ m, rank ≤ m → m < nle →
      (((gaussSwap rows i rank).mapIdx (combF P ((gaussSwap rows i rank).getD rank default).row j)).getD m
        default).row.v.getD c 0 = 0 := by
    intro c hc m h1 h2
    apply mapIdx_combF_col_zero _ P _ j m c (by omega)
    · rw [hr1 m]
      split
      · exact hc i hri hin
      · split
        · exact hc rank (Nat.le_refl _) (by omega)
        · exact hc m h1 h2
    · rw [hr1 rank, if_pos rfl]; exact hc i hri hin
  refine ⟨by omega, fun p hp1 => ?_, fun p q hpq hq => ?_, hZ, fun p hp1 => ?_, fun p hp1 c hc1 hc2 => ?_,
    fun p m hp1 hpm hm => ?_⟩
  · show j ≤ (if p = rank then j else piv p) ∧ (if p = rank then j else piv p) < ncols
    split
    · exact ⟨Nat.le_refl _, hj⟩
    · have := hE.rng p (by omega); exact ⟨by omega, this.2⟩
  · show (if q = rank then j else piv q) < (if p = rank then j else piv p)
    rw [if_neg (by omega : ¬ p = rank)]
    split
    · exact (hE.rng p (by omega)).1
    · exact hE.dec p q hpq (by omega)
  · show (SRow.row (List.getD _ p default)).v.getD (if p = rank then j else piv p) 0 ≠ 0
    by_cases e : p = rank
    · rw [if_pos e, e, hR]; exact hp
    · rw [if_neg e, hU p (by omega)]; exact hE.nz p (by omega)
  · have hc1' : (if p = rank then j else piv p) < c := hc1
    by_cases e : p = rank
    · rw [if_pos e] at hc1'
      rw [e, hR]
      exact hE.zb i hri hin c ⟨by omega, hc2⟩
    · rw [if_neg e] at hc1'
      rw [hU p (by omega)]
      exact hE.za p (by omega) c hc1' hc2
  · show (SRow.row (List.getD _ m default)).v.getD (if p = rank then j else piv p) 0 = 0
    by_cases e : p = rank
    · rw [if_pos e]
      exact hZ m (by show rank + 1 ≤ m; omega) hm j ⟨Nat.le_refl _, hj⟩
    · rw [if_neg e]
      have hp' : p < rank := by omega
      by_cases hmr : m < rank
      · rw [hU m hmr]; exact hE.zp p m hp' hpm hm
      · exact hpz (piv p) (fun m' _ h2 => hE.zp p m' hp' (by omega) h2) m (by omega) hm

/-- one column of `gauss` keeps the echelon invariant. -/
theorem gaussColumn_ech (nle ncols j : Nat) (rows : List SRow) (rank : Nat) (piv : Nat → Nat)
    (hI : GInv nle rows) (hj : j < ncols) (hE : Ech nle ncols (j + 1) rows rank piv) :
    ∃ piv', Ech nle ncols j (gaussColumn nle j (rows, rank)).1 (gaussColumn nle j (rows, rank)).2 piv' := by
  have hZ : ZeroBelow nle (fun c => j ≤ c ∧ c < ncols) (gaussColumn nle j (rows, rank)) := by
    have h := gaussColumn_zeroBelow nle j (fun c => j + 1 ≤ c ∧ c < ncols) rows rank hI hE.zb
    intro m h1 h2 c hc
    apply h m h1 h2 c
    by_cases e : c = j
    · exact Or.inr e
    · exact Or.inl ⟨by omega, hc.2⟩
  cases hf : (List.range' rank (nle - rank)).find? (fun i => (rows.getD i default).row.v.getD j 0 != 0) with
  | none =>
    rw [gaussColumn_none nle j rows rank hf] at hZ ⊢
    exact ⟨piv, hE.rk, fun p hp => ⟨by have := (hE.rng p hp).1; omega, (hE.rng p hp).2⟩, hE.dec, hZ, hE.nz,
      hE.za, hE.zp⟩
  | some i =>
    rw [gaussColumn_some nle j rows rank i hf] at hZ ⊢
    rw [List.find?_range'_eq_some] at hf
    obtain ⟨hp, hmem, _⟩ := hf
    rw [List.mem_range'_1] at hmem
    have hp' : (rows.getD i default).row.v.getD j 0 ≠ 0 := by simpa using hp
    exact ⟨_, gaussColumn_some_ech nle ncols j rows rank piv i hI hj hE hmem.1 (by omega) hp'
      _ (fun _ _ h => h.1) _ rfl hZ⟩

theorem gauss_fold_ech (nle ncols : Nat) : ∀ (c : Nat) (rows : List SRow) (rank : Nat) (piv : Nat → Nat),
    c ≤ ncols → GInv nle rows → Ech nle ncols c rows rank piv →
    ∃ piv', Ech nle ncols 0 ((List.range c).reverse.foldl (fun st j => gaussColumn nle j st) (rows, rank)).1
      ((List.range c).reverse.foldl (fun st j => gaussColumn nle j st) (rows, rank)).2 piv'
  | 0, _, _, piv, _, _, hE => ⟨piv, hE⟩
  | c + 1, rows, rank, piv, hc, hI, hE => by
    rw [List.range_succ, List.reverse_append, List.reverse_singleton, List.singleton_append, List.foldl_cons]
    obtain ⟨piv1, h1⟩ := gaussColumn_ech nle ncols c rows rank piv hI (by omega) hE
    have hI1 := (gaussColumn_keeps nle c rows rank hI).2.1
    exact gauss_fold_ech nle ncols c _ _ piv1 (by omega) hI1 h1

/-- **the output of `gauss` is in echelon form**: pivot columns `piv 0 > … > piv (rank-1)` below `ncols`,
row `p < rank` non-zero at `piv p` and zero to the right of it (below `ncols`), the rows `(p, nle)` zero at
`piv p`, the rows `[rank, nle)` zero on the first `ncols` columns. -/
theorem gauss_echelon (ncols nle : Nat) (rows : List SRow) (hI : GInv nle rows) :
    ∃ piv, Ech nle ncols 0 (gauss ncols nle rows).1 (gauss ncols nle rows).2 piv := by
  unfold gauss
  refine gauss_fold_ech nle ncols ncols rows 0 (fun _ => 0) (Nat.le_refl _) hI
    ⟨Nat.zero_le _, fun p hp => by omega, fun p q _ hq => by omega, fun m _ _ c hc => by omega,
      fun p hp => by omega, fun p hp => by omega, fun p m hp => by omega⟩

theorem gaussColumn_rank_le (nle j : Nat) (st : List SRow × Nat) (h : st.2 ≤ nle) :
    (gaussColumn nle j st).2 ≤ nle := by
  obtain ⟨rows, rank⟩ := st
  cases hf : (List.range' rank (nle - rank)).find? (fun i => (rows.getD i default).row.v.getD j 0 != 0) with
  | none => rw [gaussColumn_none nle j rows rank hf]; exact h
  | some i =>
    rw [gaussColumn_some nle j rows rank i hf]
    have hmem := List.mem_of_find?_eq_some hf
    rw [List.mem_range'_1] at hmem
    show rank + 1 ≤ nle
    omega

theorem gauss_fold_rank_le (nle : Nat) : ∀ (cols : List Nat) (st : List SRow × Nat), st.2 ≤ nle →
    (cols.foldl (fun st j => gaussColumn nle j st) st).2 ≤ nle
  | [], _, h => h
  | j :: cols, st, h => by
    rw [List.foldl_cons]
    exact gauss_fold_rank_le nle cols _ (gaussColumn_rank_le nle j st h)

/-- the rank returned by `gauss` is at most the number of equalities. -/
theorem gauss_rank_le (ncols nle : Nat) (rows : List SRow) : (gauss ncols nle rows).2 ≤ nle :=
  gauss_fold_rank_le nle _ _ (Nat.zero_le _)

end PPLV.Conv

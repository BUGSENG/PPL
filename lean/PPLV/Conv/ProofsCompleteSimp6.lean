import PPLV.Conv.ProofsCompleteSimp5
/-!
# `simplify` drops only redundant rows: the invariant `PhaseInv` up to `gauss`

* the input of `simplify` (rows beside an exact saturation matrix, generators sound): every record is `RowOK`;
* after `eqDetectLoop`: `PhaseInv` (an equality anywhere in the input has an empty saturation row, so it is
  detected: no lines-first layout of the input is needed);
* after `gauss`: `PhaseInv` again (the rows from `nle` on are untouched; the new equalities are satisfied by
  the generators because `gauss` keeps the solution set).
-/
namespace PPLV.Conv
open PPLV.Conv.Abs

/-- the records `simplify` is called on. -/
def zipSys (rows : List LRow) (sat : List BRow) : List SRow :=
  List.zipWith (fun a s => ({ row := a, sat := s } : SRow)) rows sat

theorem zipSys_map_row : ∀ (rows : List LRow) (sat : List BRow), sat.length = rows.length →
    (zipSys rows sat).map (·.row) = rows
  | [], _, _ => by simp [zipSys]
  | r :: rs, [], h => by simp at h
  | r :: rs, b :: bs, h => by
    have ih := zipSys_map_row rs bs (by simpa using h)
    unfold zipSys at ih ⊢
    simp only [List.zipWith_cons_cons, List.map_cons, ih]

theorem zipSys_rowOK (rows : List LRow) (sat : List BRow) (gens : List LRow)
    (hsat : SatCorrect gens rows sat) (hsound : Sound rows gens) :
    ∀ r ∈ zipSys rows sat, RowOK gens r := by
  intro r hr
  obtain ⟨i, hi, rfl⟩ := List.mem_iff_getElem.1 hr
  unfold zipSys at hi ⊢
  rw [List.length_zipWith] at hi
  have hir : i < rows.length := by omega
  have his : i < sat.length := by omega
  rw [List.getElem_zipWith]
  refine ⟨fun j => ?_, fun g hg => hsound g hg rows[i] (List.getElem_mem hir)⟩
  have := hsat.2 i hir j
  have e : sat.getD i [] = sat[i] := by
    rw [List.getD_eq_getElem?_getD, List.getElem?_eq_getElem his]; rfl
  rw [e] at this
  exact this

/-- an equality satisfied by the generators has an empty exact saturation row. -/
theorem RowOK.empty_of_le {gens : List LRow} {r : SRow} (h : RowOK gens r) (hle : r.row.le = true) :
    bitsEmpty r.sat = true := by
  rw [bitsEmpty_iff]
  intro j
  by_cases hj : j < gens.length
  · apply (h.1.bit_iff j hj).2
    have := h.2 gens[j] (List.getElem_mem hj)
    unfold satisfies at this
    rwa [hle, Bool.true_or, if_pos rfl] at this
  · cases hb : bit r.sat j
    · rfl
    · exact absurd (h.1.lt_of_bit j hb) hj

theorem sound_of_rowOK (gens : List LRow) (rows : List SRow) (h : ∀ r ∈ rows, RowOK gens r) :
    Sound (rows.map (·.row)) gens := by
  intro g hg s hs
  obtain ⟨s', hs', rfl⟩ := List.mem_map.1 hs
  exact (h s' hs').2 g hg

/-- the result of `eqDetectLoop` on the input of `simplify`. -/
def simpE (sys : List SRow) : List SRow × Nat :=
  eqDetectLoop (sys.length - countLeadingLe sys) sys (countLeadingLe sys) (countLeadingLe sys)

theorem simpE_facts (gens : List LRow) (sys : List SRow) (h : ∀ r ∈ sys, RowOK gens r) :
    (simpE sys).1.length = sys.length ∧ GInv (simpE sys).2 (simpE sys).1 ∧
    (∀ r ∈ (simpE sys).1, RowOK gens r) ∧
    NonEmptyFrom (simpE sys).1 (simpE sys).2 (simpE sys).1.length := by
  have hc := countLeadingLe_spec sys
  obtain ⟨el, eI⟩ := eqDetectLoop_GInv (sys.length - countLeadingLe sys) sys (countLeadingLe sys)
    (countLeadingLe sys) (Nat.le_refl _) (by omega) ⟨hc.1, hc.2⟩
  refine ⟨el, eI, eqDetectLoop_rowOK gens _ sys _ _ h, ?_⟩
  exact eqDetectLoop_nonempty _ sys _ _ (Nat.le_refl _) (by omega) (fun m h1 h2 => by omega)

/-- after the detection of the implicit equalities. -/
theorem simpE_minInv (gens : List LRow) (sys : List SRow) (h : ∀ r ∈ sys, RowOK gens r) :
    MinInv gens (simpE sys).2 (simpE sys).1 := by
  obtain ⟨_, eI, eOK, eNE⟩ := simpE_facts gens sys h
  refine ⟨eI, fun r hr => ?_, sound_of_rowOK gens _ eOK⟩
  obtain ⟨m, hm, hrm⟩ := (mem_drop_iff_getElem? _ _ _).1 hr
  have hml : m < (simpE sys).1.length := (List.getElem?_eq_some_iff.1 hrm).1
  have hne := eNE m hm hml
  rw [getD_of_getElem? _ m r default hrm] at hne
  have hok := eOK r (List.mem_of_mem_drop hr)
  refine ⟨?_, hne, hok.1⟩
  cases hle : r.row.le
  · rfl
  · rw [hok.empty_of_le hle] at hne; cases hne

theorem simpE_phaseInv (ncols : Nat) (gens : List LRow) (sys : List SRow) (h : ∀ r ∈ sys, RowOK gens r)
    (hcomp : ∀ x : Vec, x.length ≤ ncols → holdsAll (sys.map (·.row)) x → Generated gens x) :
    PhaseInv ncols gens (simpE sys).2 (simpE sys).1 :=
  (simpE_minInv gens sys h).phaseInv (fun x hx hh => hcomp x hx (eqDetectLoop_complete _ sys _ _ x hh))

theorem mem_drop_of_getD_eq (a b : List SRow) (k : Nat) (hlen : a.length = b.length)
    (h : ∀ m, k ≤ m → a.getD m default = b.getD m default) (x : SRow) (hx : x ∈ a.drop k) :
    x ∈ b.drop k := by
  obtain ⟨m, hm, hxm⟩ := (mem_drop_iff_getElem? _ _ _).1 hx
  have hml : m < a.length := (List.getElem?_eq_some_iff.1 hxm).1
  refine (mem_drop_iff_getElem? _ _ _).2 ⟨m, hm, ?_⟩
  rw [getElem?_of_lt_getD b m default (by omega), ← h m hm, getD_of_getElem? a m x default hxm]

/-- `gauss` keeps `MinInv`. -/
theorem gauss_minInv (ncols : Nat) (gens : List LRow) (nle : Nat) (rows : List SRow)
    (hI : MinInv gens nle rows) : MinInv gens nle (gauss ncols nle rows).1 := by
  obtain ⟨gl, gI, gU, _⟩ := gauss_keeps ncols nle rows hI.ginv.2 hI.ginv.1
  have hdrop : ∀ r ∈ (gauss ncols nle rows).1.drop nle, r ∈ rows.drop nle :=
    fun r hr => mem_drop_of_getD_eq _ rows nle gl gU r hr
  refine ⟨gI, fun r hr => hI.ineq r (hdrop r hr), ?_⟩
  intro g hg s hs
  obtain ⟨s', hs', rfl⟩ := List.mem_map.1 hs
  rcases mem_take_or_drop _ nle s' hs' with h1 | h1
  · have hle := gI.le_of_mem_take s' h1
    have hall : holdsAll (rows.map (·.row)) g.v := fun r hr => satisfies_holds r g (hI.sound g hg r hr)
    have hall' := (gauss_same_set ncols nle rows hI.ginv.2 hI.ginv.1 g.v).2 hall
    have := hall' s'.row (List.mem_map.2 ⟨s', hs', rfl⟩)
    unfold holds at this
    rw [if_pos hle] at this
    unfold satisfies
    rw [hle, Bool.true_or, if_pos rfl]
    exact this
  · exact hI.sound g hg s'.row (List.mem_map.2 ⟨s', List.mem_of_mem_drop (hdrop s' h1), rfl⟩)

theorem gauss_phaseInv (ncols : Nat) (gens : List LRow) (nle : Nat) (rows : List SRow)
    (hI : PhaseInv ncols gens nle rows) :
    PhaseInv ncols gens nle (gauss ncols nle rows).1 :=
  (gauss_minInv ncols gens nle rows hI.minInv).phaseInv
    (fun x hx hh => hI.complete x hx ((gauss_same_set ncols nle rows hI.ginv.2 hI.ginv.1 x).1 hh))

end PPLV.Conv

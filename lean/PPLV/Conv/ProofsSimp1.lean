import PPLV.Conv.ProofsList
/-!
# `simplify`: `removeRowAt` and the saturation rule `satRuleLoop`
-/
namespace PPLV.Conv

/-! ## `removeRowAt` -/

theorem length_removeRowAt (l : List SRow) (i : Nat) : (removeRowAt l i).length = l.length - 1 := by
  simp [removeRowAt, length_swapAt]

theorem mem_removeRowAt (l : List SRow) (i : Nat) (x : SRow) (h : x ∈ removeRowAt l i) : x ∈ l := by
  unfold removeRowAt at h
  exact (mem_swapAt l i (l.length - 1) x).1 ((List.dropLast_sublist _).subset h)

/-- what is at index `m` after `removeRowAt l i`. -/
theorem getElem?_removeRowAt (l : List SRow) (i m : Nat) (hi : i < l.length) :
    (removeRowAt l i)[m]? =
      if m < l.length - 1 then (if m = i then l[l.length - 1]? else l[m]?) else none := by
  have hlast : l.length - 1 < l.length := by omega
  unfold removeRowAt
  rw [List.getElem?_dropLast, length_swapAt]
  by_cases hm : m < l.length - 1
  · simp only [hm, if_true]
    rw [getElem?_swapAt l i (l.length - 1) m hi hlast]
    have h1 : m ≠ l.length - 1 := by omega
    simp only [h1, if_false]
  · simp only [hm, if_false]

theorem getElem?_removeRowAt_of_ne (l : List SRow) (i m : Nat) (hi : i < l.length) (hm : m < l.length - 1)
    (hne : m ≠ i) : (removeRowAt l i)[m]? = l[m]? := by
  rw [getElem?_removeRowAt l i m hi]; simp [hm, hne]

/-- every row but the one at index `i` survives. -/
theorem mem_removeRowAt_of_ne (l : List SRow) (i m : Nat) (hi : i < l.length) (hm : m < l.length) (hne : m ≠ i) :
    l[m] ∈ removeRowAt l i := by
  rw [List.mem_iff_getElem?]
  by_cases h : m < l.length - 1
  · exact ⟨m, by rw [getElem?_removeRowAt_of_ne l i m hi h hne, List.getElem?_eq_getElem hm]⟩
  · have e : m = l.length - 1 := by omega
    refine ⟨i, ?_⟩
    rw [getElem?_removeRowAt l i i hi]
    have : i < l.length - 1 := by omega
    simp only [this, if_true]
    subst e
    exact List.getElem?_eq_getElem hm

/-- a row of `l` is still there or was the row at index `i`. -/
theorem mem_removeRowAt_or (l : List SRow) (i : Nat) (hi : i < l.length) (x : SRow) (h : x ∈ l) :
    x ∈ removeRowAt l i ∨ x = l.getD i default := by
  obtain ⟨m, hm, rfl⟩ := List.mem_iff_getElem.1 h
  by_cases e : m = i
  · right; subst e; simp [List.getD_eq_getElem?_getD, List.getElem?_eq_getElem hm]
  · left; exact mem_removeRowAt_of_ne l i m hi hm e

theorem take_removeRowAt (l : List SRow) (i k : Nat) (hi : i < l.length) (hk : k ≤ i) :
    (removeRowAt l i).take k = l.take k := by
  unfold removeRowAt
  rw [List.dropLast_eq_take, List.take_take, length_swapAt]
  have : min k (l.length - 1) = k := by omega
  rw [this]
  exact swapAt_take k l i (l.length - 1) hk (by omega)

/-! ## the saturation rule -/

/-- rows beyond `k` stay beyond `k`: the loops of `simplify` only touch indices `≥ k`. -/
theorem mem_drop_removeRowAt (l : List SRow) (i k : Nat) (hk : k ≤ i) (x : SRow)
    (h : x ∈ (removeRowAt l i).drop k) : x ∈ l.drop k := by
  by_cases hi : i < l.length
  · rw [mem_drop_iff_getElem?] at h ⊢
    obtain ⟨m, hm, hx⟩ := h
    rw [getElem?_removeRowAt l i m hi] at hx
    split at hx
    · split at hx
      · exact ⟨l.length - 1, by omega, hx⟩
      · exact ⟨m, hm, hx⟩
    · cases hx
  · have e : removeRowAt l i = l.dropLast := by
      unfold removeRowAt
      rw [swapAt_of_not_lt l i _ (by omega)]
    rw [e, List.dropLast_eq_take, mem_take_drop_iff_getElem?] at h
    obtain ⟨m, hm, _, hx⟩ := h
    exact (mem_drop_iff_getElem? _ _ _).2 ⟨m, hm, hx⟩

theorem satRuleLoop_drop_mem : ∀ (fuel numColsSat minSat : Nat) (rows : List SRow) (i k : Nat), k ≤ i →
    ∀ x ∈ (satRuleLoop fuel numColsSat minSat rows i).drop k, x ∈ rows.drop k
  | 0, _, _, rows, _, _, _ => fun x h => by simpa [satRuleLoop] using h
  | n + 1, numColsSat, minSat, rows, i, k, hk => fun x h => by
    unfold satRuleLoop at h
    split at h
    · split at h
      · exact mem_drop_removeRowAt rows i k hk x (satRuleLoop_drop_mem n _ _ _ i k hk x h)
      · exact satRuleLoop_drop_mem n _ _ _ (i + 1) k (by omega) x h
    · exact h

theorem satRuleLoop_mem (fuel numColsSat minSat : Nat) (rows : List SRow) (i : Nat) :
    ∀ x ∈ satRuleLoop fuel numColsSat minSat rows i, x ∈ rows :=
  satRuleLoop_drop_mem fuel numColsSat minSat rows i 0 (Nat.zero_le _)

theorem satRuleLoop_take : ∀ (fuel numColsSat minSat : Nat) (rows : List SRow) (i k : Nat), k ≤ i →
    (satRuleLoop fuel numColsSat minSat rows i).take k = rows.take k
  | 0, _, _, rows, _, _, _ => by simp [satRuleLoop]
  | n + 1, numColsSat, minSat, rows, i, k, hk => by
    unfold satRuleLoop
    split
    · rename_i hi
      split
      · rw [satRuleLoop_take n _ _ _ i k hk]
        exact take_removeRowAt rows i k hi hk
      · exact satRuleLoop_take n _ _ _ (i + 1) k (by omega)
    · rfl

/-- only rows below the threshold are removed. -/
theorem satRuleLoop_removed : ∀ (fuel numColsSat minSat : Nat) (rows : List SRow) (i : Nat),
    ∀ x ∈ rows, x ∈ satRuleLoop fuel numColsSat minSat rows i ∨ numSaturators numColsSat x < minSat
  | 0, _, _, rows, _ => fun x h => by left; simpa [satRuleLoop] using h
  | n + 1, numColsSat, minSat, rows, i => fun x h => by
    unfold satRuleLoop
    split
    · rename_i hi
      split
      · rename_i hlt
        rcases mem_removeRowAt_or rows i hi x h with h1 | h1
        · exact satRuleLoop_removed n _ _ _ _ x h1
        · right; rw [h1]; exact hlt
      · exact satRuleLoop_removed n _ _ _ _ x h
    · left; exact h

/-- every row kept from index `i` on passed the test. -/
theorem satRuleLoop_kept : ∀ (fuel numColsSat minSat : Nat) (rows : List SRow) (i : Nat),
    rows.length - i ≤ fuel →
    ∀ x ∈ (satRuleLoop fuel numColsSat minSat rows i).drop i, ¬ numSaturators numColsSat x < minSat
  | 0, _, _, rows, i => fun hf x h => by
    have : rows.length ≤ i := by omega
    simp [satRuleLoop, List.drop_eq_nil_of_le this] at h
  | n + 1, numColsSat, minSat, rows, i => fun hf x h => by
    unfold satRuleLoop at h
    split at h
    · rename_i hi
      split at h
      · exact satRuleLoop_kept n _ _ _ i (by rw [length_removeRowAt]; omega) x h
      · rename_i hge
        rw [mem_drop_iff_getElem?] at h
        obtain ⟨m, hm, hx⟩ := h
        by_cases e : m = i
        · subst e
          have ht := satRuleLoop_take n numColsSat minSat rows (m + 1) (m + 1) (Nat.le_refl _)
          have h2 : ((satRuleLoop n numColsSat minSat rows (m + 1)).take (m + 1))[m]? = some x := by
            rw [List.getElem?_take]; simp [hx]
          rw [ht, List.getElem?_take] at h2
          simp only [Nat.lt_succ_self, if_true] at h2
          have : rows.getD m default = x := getD_of_getElem? rows m x default h2
          rw [← this]; exact hge
        · apply satRuleLoop_kept n numColsSat minSat rows (i + 1) (by omega) x
          rw [mem_drop_iff_getElem?]
          exact ⟨m, by omega, hx⟩
    · have : rows.length ≤ i := by omega
      simp [List.drop_eq_nil_of_le this] at h

end PPLV.Conv

import PPLV.Conv.ProofsCompleteInv
import PPLV.Conv.ProofsSpan
import PPLV.Conv.ProofsSound2
/-!
# the line case of `conversion`, model-level facts for completeness

Where every old record ends up (`lineRows3_reverse2`, also for the lines after `inz`), the combination
equation in the embedded (`emb`) form, and the three descriptions of the result rows that the five fields
of `CExtra` need: the image of every old record (`lineCase_image`), the pivot (`lineCase_pivot`), and where
every result row comes from (`lineCase_row_cases`).
-/
namespace PPLV.Conv
open PPLV.Conv.Abs

/-- where every old record ends up after the combination step; the combined-row equation for every
record after `inz` (lines included). -/
theorem lineRows3_reverse2 (st : CState) (inz : Nat) (hinz : inz < st.nle) (hn : st.nle ≤ st.rows.length)
    (m0 : Nat) (d0 : DRow) (hm0 : m0 ≠ inz) (hd0 : st.rows[m0]? = some d0) :
    let p := linePivot (st.rows.getD inz default)
    ∃ m d', (lineRows3 st inz)[m]? = some d' ∧ m ≠ st.nle - 1 ∧
      (d0.sp = 0 → d'.row = d0.row) ∧
      (d0.sp ≠ 0 → inz < m0 → d'.row = combRow p.row p.sp d0.row d0.sp) := by
  intro p
  obtain ⟨b, hb, hbrow, hbsp⟩ := lineRowsB_reverse st inz hinz hn m0 d0 hm0 hd0
  obtain ⟨dn, _, hdnD, hdnrow, hdnsp⟩ := lineRowsB_pivot st inz hinz hn
  have hget : (lineRows3 st inz)[if m0 = st.nle - 1 then inz else m0]? =
      some (if ((((inz ≤ (if m0 = st.nle - 1 then inz else m0)) ∧ (if m0 = st.nle - 1 then inz else m0) < st.nle - 1) ∨
        st.nle - 1 + 1 ≤ (if m0 = st.nle - 1 then inz else m0)) ∧ b.sp ≠ 0)
        then combineWithNle ((lineRowsB st inz).getD (st.nle - 1) default) b else b) := by
    rw [lineRows3_eqB, List.getElem?_mapIdx, hb]; rfl
  refine ⟨if m0 = st.nle - 1 then inz else m0, _, hget, ?_, ?_, ?_⟩
  · split <;> omega
  · intro hz
    have : ¬ ((((inz ≤ (if m0 = st.nle - 1 then inz else m0)) ∧ (if m0 = st.nle - 1 then inz else m0) < st.nle - 1) ∨
        st.nle - 1 + 1 ≤ (if m0 = st.nle - 1 then inz else m0)) ∧ b.sp ≠ 0) := by
      intro hc; exact hc.2 (by rw [hbsp]; exact hz)
    rw [if_neg this]
    exact hbrow
  · intro hnz hlt
    have hk : ∀ k, k = (if m0 = st.nle - 1 then inz else m0) →
        ((inz ≤ k ∧ k < st.nle - 1) ∨ st.nle - 1 + 1 ≤ k) := by
      intro k hk
      split at hk <;> omega
    have : ((((inz ≤ (if m0 = st.nle - 1 then inz else m0)) ∧ (if m0 = st.nle - 1 then inz else m0) < st.nle - 1) ∨
        st.nle - 1 + 1 ≤ (if m0 = st.nle - 1 then inz else m0)) ∧ b.sp ≠ 0) :=
      ⟨hk _ rfl, by rw [hbsp]; exact hnz⟩
    rw [if_pos this, hdnD, combineWithNle_row, hdnrow, hdnsp, hbrow, hbsp]

/-- the combination equation of `combineWithNle`, embedded: `d' = s • d + t • p`, `s ≠ 0`, `s > 0` for a ray. -/
theorem combRow_emb (p d0 : DRow) (hppos : 0 < p.sp) :
    (combRow p.row p.sp d0.row d0.sp).le = d0.row.le ∧
    ∃ s t : ℚ, s ≠ 0 ∧ (d0.row.le = false → 0 < s) ∧
      emb (combRow p.row p.sp d0.row d0.sp).v = s • emb d0.row.v + t • emb p.row.v := by
  obtain ⟨g, c, nI, nO, hg, hgpos, hc, h1, h2, _, _, hle, hs⟩ :=
    sp_combineWithNle { row := p.row, sp := p.sp, sat := [] } { row := d0.row, sp := d0.sp, sat := [] }
      (by simpa using ne_of_gt hppos)
  simp only at h1 h2 hgpos
  have hle : (combRow p.row p.sp d0.row d0.sp).le = d0.row.le := hle
  have hs : ∀ s : Vec, nO * scalarProduct s d0.row.v - nI * scalarProduct s p.row.v
      = g * scalarProduct s (combRow p.row p.sp d0.row d0.sp).v := hs
  have hnO : 0 < nO := by
    by_contra hneg
    have : nO ≤ 0 := by omega
    have : c * nO ≤ 0 := Int.mul_nonpos_of_nonneg_of_nonpos (le_of_lt hc) this
    omega
  have e := emb_sub2 hs
  have hgq : (g : ℚ) ≠ 0 := by exact_mod_cast hg
  refine ⟨hle, (nO : ℚ) / g, -(nI : ℚ) / g, ?_, ?_, ?_⟩
  · exact div_ne_zero (by exact_mod_cast ne_of_gt hnO) hgq
  · intro h
    exact div_pos (by exact_mod_cast hnO) (by exact_mod_cast hgpos h)
  · have e0 : emb (combRow p.row p.sp d0.row d0.sp).v
        = (1 / (g : ℚ)) • ((g : ℚ) • emb (combRow p.row p.sp d0.row d0.sp).v) := by
      rw [smul_smul, one_div, inv_mul_cancel₀ hgq, one_smul]
    rw [e0, ← e, smul_sub, smul_smul, smul_smul, sub_eq_add_neg, ← neg_smul]
    have q1 : 1 / (g : ℚ) * nO = nO / g := by ring
    have q2 : -(1 / (g : ℚ) * nI) = -(nI : ℚ) / g := by ring
    rw [q1, q2]

theorem linePivot_emb (r : DRow) : ∃ e : ℚ, e ≠ 0 ∧ emb (linePivot r).row.v = e • emb r.row.v := by
  unfold linePivot
  by_cases h : r.sp < 0
  · rw [if_pos h]
    refine ⟨-1, by norm_num, ?_⟩
    show emb (r.row.v.map (- ·)) = _
    rw [emb_neg, neg_one_smul]
  · rw [if_neg h]
    refine ⟨1, one_ne_zero, ?_⟩
    show emb r.row.v = _
    rw [one_smul]

/-- every record of `lineRows3` not at the pivot index is a record of the result. -/
theorem lineCase_final (srcK : LRow) (newK : Nat) (st : CState) (inz : Nat) (hn : 0 < st.nle)
    (hn' : st.nle ≤ st.rows.length) :
    ∀ m x, m ≠ st.nle - 1 → (lineRows3 st inz)[m]? = some x → x ∈ (lineCase srcK newK st inz).rows := by
  intro m x hm hx
  have hlen := length_lineRows3 st inz
  have hi : st.nle - 1 < (lineRows3 st inz).length := by rw [hlen]; omega
  rw [lineCase_eq]
  by_cases hk : srcK.le = true
  · simp only [hk, Bool.not_true, Bool.false_eq_true, if_false]
    exact mem_swap_dropLast_of_ne _ _ m x hi hm hx
  · have hk' : srcK.le = false := by simpa using hk
    simp only [hk', Bool.not_false, if_true]
    have hne' : ¬ st.nle - 1 = m := fun h => hm h.symm
    refine List.mem_iff_getElem?.mpr ⟨m, ?_⟩
    rw [List.getElem?_modify, hx]
    simp [hne']

/-- every record of the result has the row of a record of `lineRows3` (not the pivot's, for an equality). -/
theorem lineCase_rows_from (srcK : LRow) (newK : Nat) (st : CState) (inz : Nat) (hn : 0 < st.nle)
    (hn' : st.nle ≤ st.rows.length) :
    ∀ d ∈ (lineCase srcK newK st inz).rows, ∃ m dd, (lineRows3 st inz)[m]? = some dd ∧ d.row = dd.row ∧
      (srcK.le = true → m ≠ st.nle - 1) := by
  intro d hd
  have hlen := length_lineRows3 st inz
  have hi : st.nle - 1 < (lineRows3 st inz).length := by rw [hlen]; omega
  rw [lineCase_eq] at hd
  by_cases hk : srcK.le = true
  · simp only [hk, Bool.not_true, Bool.false_eq_true, if_false] at hd
    obtain ⟨m, hm⟩ := List.mem_iff_getElem?.mp hd
    obtain ⟨m0, hm0, hx, _⟩ := getElem?_swap_dropLast _ _ m hi d hm
    exact ⟨m0, d, hx, rfl, fun _ => hm0⟩
  · have hk' : srcK.le = false := by simpa using hk
    simp only [hk', Bool.not_false, if_true] at hd
    obtain ⟨m, hm⟩ := List.mem_iff_getElem?.mp hd
    rw [List.getElem?_modify] at hm
    match hq : (lineRows3 st inz)[m]? with
    | none => rw [hq] at hm; simp at hm
    | some d0 =>
      rw [hq] at hm
      simp only [Option.map_eq_map, Option.map_some, Option.some.injEq] at hm
      refine ⟨m, d0, hq, ?_, fun h => absurd h hk⟩
      rw [← hm]; split <;> rfl

/-- **the image of an old record**: every old record other than the line `r` at `inz` has an image `d'` in
the result, of the same kind, saturating `srcK`, with `emb d' = s • emb d + t • emb r`, `s ≠ 0`
(`s > 0` for a ray). -/
theorem lineCase_image (srcK : LRow) (kept : List LRow) (st : CState) (inz : Nat) (H : StepHyp srcK st kept)
    (hinz : inz < st.nle) (hbefore : ∀ m d, m < inz → st.rows[m]? = some d → d.sp = 0)
    (r : DRow) (hr : st.rows[inz]? = some r) (hrnz : r.sp ≠ 0)
    (m0 : Nat) (d0 : DRow) (hm0 : m0 ≠ inz) (hd0 : st.rows[m0]? = some d0) :
    ∃ d' ∈ (lineCase srcK kept.length st inz).rows, d'.row.le = d0.row.le ∧
      scalarProduct srcK.v d'.row.v = 0 ∧
      ∃ s t : ℚ, s ≠ 0 ∧ (d0.row.le = false → 0 < s) ∧ emb d'.row.v = s • emb d0.row.v + t • emb r.row.v := by
  have hrD : st.rows.getD inz default = r := by rw [List.getD_eq_getElem?_getD, hr]; rfl
  have hrmem := List.mem_of_getElem? hr
  have hrle : r.row.le = true := by
    have := H.hl inz r hr
    simpa [hinz] using this
  obtain ⟨pl, ppos, psp, pP⟩ := linePivot_facts srcK kept r (H.hsp r hrmem) hrnz hrle (H.hP r hrmem)
  obtain ⟨m, d', hd', hmne, hzero, hcomb⟩ := lineRows3_reverse2 st inz hinz H.hn m0 d0 hm0 hd0
  simp only [hrD] at hcomb
  have hmem := lineCase_final srcK kept.length st inz (by omega) H.hn m d' hmne hd'
  have hd0mem := List.mem_of_getElem? hd0
  refine ⟨d', hmem, ?_⟩
  by_cases hz : d0.sp = 0
  · have hrow := hzero hz
    refine ⟨by rw [hrow], ?_, 1, 0, one_ne_zero, fun _ => one_pos, ?_⟩
    · rw [hrow, ← H.hsp d0 hd0mem]; exact hz
    · rw [hrow, one_smul, zero_smul, add_zero]
  · have hlt : inz < m0 := by
      by_contra hge
      exact hz (hbefore m0 d0 (by omega) hd0)
    have hrow := hcomb hz hlt
    obtain ⟨hle, s, t, hs, hspos, hemb⟩ := combRow_emb (linePivot r) d0 ppos
    obtain ⟨e, _, he⟩ := linePivot_emb r
    refine ⟨by rw [hrow, hle], ?_, s, t * e, hs, hspos, ?_⟩
    · rw [hrow]; exact combRow_srcK srcK (linePivot r) d0 ppos psp (H.hsp d0 hd0mem)
    · rw [hrow, hemb, he, smul_smul]

/-- **the pivot**: for an inequality, the line `r` (or its opposite) is a ray of the result, strictly
inside the new half-space. -/
theorem lineCase_pivot (srcK : LRow) (kept : List LRow) (st : CState) (inz : Nat) (H : StepHyp srcK st kept)
    (hinz : inz < st.nle) (r : DRow) (hr : st.rows[inz]? = some r) (hrnz : r.sp ≠ 0) (hk : srcK.le = false) :
    ∃ pr ∈ (lineCase srcK kept.length st inz).rows, pr.row.le = false ∧
      (∃ e : ℚ, emb pr.row.v = e • emb r.row.v) ∧ 0 < scalarProduct srcK.v pr.row.v := by
  have hrD : st.rows.getD inz default = r := by rw [List.getD_eq_getElem?_getD, hr]; rfl
  have hrmem := List.mem_of_getElem? hr
  have hrle : r.row.le = true := by
    have := H.hl inz r hr
    simpa [hinz] using this
  obtain ⟨pl, ppos, psp, pP⟩ := linePivot_facts srcK kept r (H.hsp r hrmem) hrnz hrle (H.hP r hrmem)
  have hn := H.hn
  have hlen := length_lineRows3 st inz
  have hi : st.nle - 1 < (lineRows3 st inz).length := by rw [hlen]; omega
  obtain ⟨pr, hpr⟩ : ∃ pr, (lineRows3 st inz)[st.nle - 1]? = some pr := by
    rw [List.getElem?_eq_getElem hi]; exact ⟨_, rfl⟩
  have hprrow : pr.row = (linePivot r).row := by
    have := lineRows3_index st inz hinz hn (st.nle - 1) pr hpr
    simp only [hrD] at this
    rcases this with ⟨_, h1, _⟩ | ⟨h1, _⟩
    · exact h1
    · exact absurd rfl h1
  refine ⟨{ pr with sat := setBit pr.sat kept.length }, ?_, ?_, ?_, ?_⟩
  · rw [lineCase_eq]
    simp only [hk, Bool.not_false, if_true]
    refine List.mem_iff_getElem?.mpr ⟨st.nle - 1, ?_⟩
    rw [List.getElem?_modify, hpr]; simp
  · show pr.row.le = false
    rw [hprrow]; exact pl
  · obtain ⟨e, _, he⟩ := linePivot_emb r
    exact ⟨e, by show emb pr.row.v = _; rw [hprrow]; exact he⟩
  · show 0 < scalarProduct srcK.v pr.row.v
    rw [hprrow, ← psp]; exact ppos

/-- **where every result row comes from**: the pivot, an old row, or an old row combined with the pivot. -/
theorem lineCase_row_cases (srcK : LRow) (newK : Nat) (st : CState) (inz : Nat)
    (hinz : inz < st.nle) (hn : st.nle ≤ st.rows.length) (r : DRow) (hr : st.rows[inz]? = some r) :
    ∀ d ∈ (lineCase srcK newK st inz).rows, d.row = (linePivot r).row ∨
      ∃ d0 ∈ st.rows, d.row = d0.row ∨ d.row = combRow (linePivot r).row (linePivot r).sp d0.row d0.sp := by
  intro d hd
  have hrD : st.rows.getD inz default = r := by rw [List.getD_eq_getElem?_getD, hr]; rfl
  obtain ⟨m, dd, hdd, hrow, _⟩ := lineCase_rows_from srcK newK st inz (by omega) hn d hd
  have hidx := lineRows3_index st inz hinz hn m dd hdd
  simp only [hrD] at hidx
  rcases hidx with ⟨_, h1, _⟩ | ⟨_, m0, d0, _, hd0, _, hcases⟩
  · left; rw [hrow, h1]
  · right
    refine ⟨d0, List.mem_of_getElem? hd0, ?_⟩
    rcases hcases with ⟨_, h1, _⟩ | ⟨_, _, h1, _⟩ | ⟨_, _, h1, _⟩
    · left; rw [hrow, h1]
    · right; rw [hrow, h1]
    · left; rw [hrow, h1]

end PPLV.Conv

import PPLV.Conv.ProofsSimp1
/-!
# `simplify`: `subsetOrEqual`, the independence rule only removes rows
-/
namespace PPLV.Conv

theorem bit_nil (j : Nat) : bit [] j = false := by simp [bit]
theorem bit_cons_zero (x : Bool) (xs : BRow) : bit (x :: xs) 0 = x := by simp [bit]
theorem bit_cons_succ (x : Bool) (xs : BRow) (j : Nat) : bit (x :: xs) (j + 1) = bit xs j := by simp [bit]

theorem subsetOrEqual_iff : ∀ (x y : BRow),
    subsetOrEqual x y = true ↔ ∀ j, bit x j = true → bit y j = true
  | [], y => by simp [subsetOrEqual, bit_nil]
  | x :: xs, [] => by
    have ih := subsetOrEqual_iff xs []
    simp only [subsetOrEqual, Bool.and_eq_true, Bool.not_eq_true', ih, bit_nil]
    constructor
    · rintro ⟨h0, h1⟩ j
      cases j with
      | zero => simp [bit_cons_zero, h0]
      | succ j => rw [bit_cons_succ]; exact h1 j
    · intro h
      refine ⟨?_, fun j => ?_⟩
      · have := h 0; rw [bit_cons_zero] at this; cases x <;> simp_all
      · have := h (j + 1); rw [bit_cons_succ] at this; exact this
  | x :: xs, y :: ys => by
    have ih := subsetOrEqual_iff xs ys
    simp only [subsetOrEqual, Bool.and_eq_true, Bool.or_eq_true, Bool.not_eq_true', ih]
    constructor
    · rintro ⟨h0, h1⟩ j
      cases j with
      | zero => simp only [bit_cons_zero]; intro hx; rcases h0 with h0 | h0 <;> simp_all
      | succ j => simp only [bit_cons_succ]; exact h1 j
    · intro h
      refine ⟨?_, fun j => ?_⟩
      · have := h 0; simp only [bit_cons_zero] at this; cases x <;> simp_all
      · have := h (j + 1); simp only [bit_cons_succ] at this; exact this

theorem subsetOrEqual_refl (x : BRow) : subsetOrEqual x x = true :=
  (subsetOrEqual_iff x x).2 fun _ h => h

theorem subsetOrEqual_trans (x y z : BRow) (h1 : subsetOrEqual x y = true) (h2 : subsetOrEqual y z = true) :
    subsetOrEqual x z = true :=
  (subsetOrEqual_iff x z).2 fun j h => (subsetOrEqual_iff y z).1 h2 j ((subsetOrEqual_iff x y).1 h1 j h)

theorem indepInner_drop_mem : ∀ (fuel : Nat) (rows : List SRow) (i j k : Nat), k ≤ j →
    ∀ x ∈ (indepInner fuel rows i j).1.drop k, x ∈ rows.drop k
  | 0, rows, _, _, _, _ => fun x h => by simpa [indepInner] using h
  | n + 1, rows, i, j, k, hk => fun x h => by
    unfold indepInner at h
    split at h
    · split at h
      · exact indepInner_drop_mem n _ _ _ k (by omega) x h
      · simp only at h
        split at h
        · split at h
          · exact h
          · exact mem_drop_removeRowAt rows j k hk x (indepInner_drop_mem n _ _ _ k hk x h)
        · exact indepInner_drop_mem n _ _ _ k (by omega) x h
    · exact h

theorem indepLoop_drop_mem : ∀ (fuel nle : Nat) (rows : List SRow) (i k : Nat), k ≤ nle → k ≤ i →
    ∀ x ∈ (indepLoop fuel nle rows i).drop k, x ∈ rows.drop k
  | 0, _, rows, _, _, _, _ => fun x h => by simpa [indepLoop] using h
  | n + 1, nle, rows, i, k, hk, hi => fun x h => by
    unfold indepLoop at h
    split at h
    · simp only at h
      split at h
      · exact indepInner_drop_mem _ rows i nle k hk x
          (mem_drop_removeRowAt _ i k hi x (indepLoop_drop_mem n _ _ _ k hk hi x h))
      · exact indepInner_drop_mem _ rows i nle k hk x
          (indepLoop_drop_mem n _ _ _ k hk (by omega) x h)
    · exact h

theorem indepInner_mem (fuel : Nat) (rows : List SRow) (i j : Nat) :
    ∀ x ∈ (indepInner fuel rows i j).1, x ∈ rows :=
  indepInner_drop_mem fuel rows i j 0 (Nat.zero_le _)

theorem indepLoop_mem (fuel nle : Nat) (rows : List SRow) (i : Nat) :
    ∀ x ∈ indepLoop fuel nle rows i, x ∈ rows :=
  indepLoop_drop_mem fuel nle rows i 0 (Nat.zero_le _) (Nat.zero_le _)

end PPLV.Conv

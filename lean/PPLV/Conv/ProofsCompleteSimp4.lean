import PPLV.Conv.ProofsCompleteSimp3
/-!
# `simplify` drops only redundant rows: the independence rule `indepLoop`

`PhaseInv ncols gens nle rows` — what holds of the list entering the saturation rule and the independence
rule: the first `nle` rows are equalities, the others are inequalities with a non-empty, exact saturation
row, the generators satisfy every row, and every vector of length `≤ ncols` satisfying the rows is generated.
`MinInv gens nle rows` is `PhaseInv` without the last clause (completeness of `gens`).

`indepLoop_same_set`: under `PhaseInv` the rows removed by the independence rule (`Polyhedron_simplify_templates.hh:249-314`) are implied by
the rows it keeps (one-shot argument on `indepLoop_dominated`).
-/
namespace PPLV.Conv
open PPLV.Conv.Abs

/-- what every phase of `simplify` keeps, whether or not `gens` is complete: the first `nle` rows are equalities,
every row from `nle` on is an inequality with a non-empty saturation row exact against `gens`, and every
generator satisfies every row. -/
structure MinInv (gens : List LRow) (nle : Nat) (rows : List SRow) : Prop where
  ginv : GInv nle rows
  ineq : ∀ r ∈ rows.drop nle, r.row.le = false ∧ bitsEmpty r.sat = false ∧ ExactBits gens r
  sound : Sound (rows.map (·.row)) gens

/-- a phase that only removes rows from `nle` on, keeps the first `nle` rows. -/
theorem MinInv.of_sub {gens : List LRow} {nle : Nat} {rows out : List SRow} (hI : MinInv gens nle rows)
    (hg : GInv nle out) (hdrop : ∀ r ∈ out.drop nle, r ∈ rows.drop nle) (hmem : ∀ r ∈ out, r ∈ rows) :
    MinInv gens nle out := by
  refine ⟨hg, fun r hr => hI.ineq r (hdrop r hr), ?_⟩
  intro g hgm s hs
  obtain ⟨s', hs', rfl⟩ := List.mem_map.1 hs
  exact hI.sound g hgm s'.row (List.mem_map.2 ⟨s', hmem s' hs', rfl⟩)

/-- the state of `simplify` between the phases: a double description pair with exact saturation rows. -/
structure PhaseInv (ncols : Nat) (gens : List LRow) (nle : Nat) (rows : List SRow) : Prop where
  ginv : GInv nle rows
  ineq : ∀ r ∈ rows.drop nle, r.row.le = false ∧ bitsEmpty r.sat = false ∧ ExactBits gens r
  sound : Sound (rows.map (·.row)) gens
  complete : ∀ x : Vec, x.length ≤ ncols → holdsAll (rows.map (·.row)) x → Generated gens x

theorem PhaseInv.minInv {ncols : Nat} {gens : List LRow} {nle : Nat} {rows : List SRow}
    (hI : PhaseInv ncols gens nle rows) : MinInv gens nle rows := ⟨hI.ginv, hI.ineq, hI.sound⟩

theorem MinInv.phaseInv {ncols : Nat} {gens : List LRow} {nle : Nat} {rows : List SRow}
    (hI : MinInv gens nle rows)
    (hc : ∀ x : Vec, x.length ≤ ncols → holdsAll (rows.map (·.row)) x → Generated gens x) :
    PhaseInv ncols gens nle rows := ⟨hI.ginv, hI.ineq, hI.sound, hc⟩

theorem mem_conRows (rows : List SRow) (a : ACon FV) :
    a ∈ (rows.map (·.row)).map conOf ↔ ∃ s ∈ rows, conOf s.row = a := by
  simp [List.mem_map]

theorem mem_take_or_drop (rows : List SRow) (n : Nat) (s : SRow) (h : s ∈ rows) :
    s ∈ rows.take n ∨ s ∈ rows.drop n := by
  rw [← List.take_append_drop n rows] at h
  exact List.mem_append.1 h

theorem GInv.le_of_mem_take {nle : Nat} {rows : List SRow} (h : GInv nle rows) (s : SRow)
    (hs : s ∈ rows.take nle) : s.row.le = true := by
  obtain ⟨m, hm⟩ := List.mem_iff_getElem?.1 hs
  rw [List.getElem?_take] at hm
  split at hm
  · rename_i hlt
    have := h.2 m hlt
    rwa [getD_of_getElem? rows m s default hm] at this
  · cases hm

theorem PhaseInv.rowOK {ncols : Nat} {gens : List LRow} {nle : Nat} {rows : List SRow}
    (hI : PhaseInv ncols gens nle rows) (r : SRow) (hr : r ∈ rows.drop nle) : RowOK gens r :=
  ⟨(hI.ineq r hr).2.2, fun g hg =>
    hI.sound g hg r.row (List.mem_map.2 ⟨r, List.mem_of_mem_drop hr, rfl⟩)⟩

/-- every inequality of the list is not saturated by some ray. -/
theorem PhaseInv.ray {ncols : Nat} {gens : List LRow} {nle : Nat} {rows : List SRow}
    (hI : PhaseInv ncols gens nle rows) (r : SRow) (hr : r ∈ rows.drop nle) :
    ∃ v ∈ raysOf gens, (conOf r.row).f v ≠ 0 :=
  ray_of_nonempty (hI.rowOK r hr) (hI.ineq r hr).2.1

/-- **the independence rule removes only redundant rows.** -/
theorem indepLoop_redundant (ncols : Nat) (gens : List LRow) (nle : Nat) (rows : List SRow) (fuel : Nat)
    (hglen : ∀ g ∈ gens, g.v.length ≤ ncols) (hI : PhaseInv ncols gens nle rows)
    (hf : rows.length ≤ fuel) :
    ∀ x : Vec, x.length ≤ ncols → holdsAll ((indepLoop fuel nle rows nle).map (·.row)) x →
      holdsAll (rows.map (·.row)) x := by
  have dd := ddpair_of_rows ncols (rows.map (·.row)) gens hglen hI.sound hI.complete
  obtain ⟨p, hpC, hpos⟩ := exists_interior_rows (rows.map (·.row)) gens hI.sound
  intro x hx hout
  rw [holdsAll_iff_abs] at hout ⊢
  refine indep_redundant dd p hpC hpos ?_ ?_ (emb x) (emb_mem_ambient ncols x hx) hout
  · intro a ha
    obtain ⟨s, hs, rfl⟩ := (mem_conRows _ a).1 ha
    exact (mem_conRows _ _).2 ⟨s, indepLoop_mem fuel nle rows nle s hs, rfl⟩
  · intro a ha
    obtain ⟨s, hs, rfl⟩ := (mem_conRows _ a).1 ha
    rcases mem_take_or_drop rows nle s hs with h1 | h1
    · left
      rw [← indepLoop_take fuel nle rows hf] at h1
      exact (mem_conRows _ _).2 ⟨s, List.mem_of_mem_take h1, rfl⟩
    · right
      obtain ⟨hle, _, hex⟩ := hI.ineq s h1
      obtain ⟨y, hy, hsub⟩ := indepLoop_dominated fuel nle rows hf s h1
      have hy' := indepLoop_drop_mem fuel nle rows nle nle (Nat.le_refl _) (Nat.le_refl _) y hy
      refine ⟨hle, conOf y.row, (mem_conRows _ _).2 ⟨y, List.mem_of_mem_drop hy, rfl⟩,
        hI.ray y hy', ?_⟩
      rintro r ⟨g, hg, _, rfl⟩ h0
      exact sat_dom (hI.ineq y hy').2.2 hex hsub g hg h0

/-- the independence rule keeps the set: `holdsAll (output) x ↔ holdsAll (input) x` for `x.length ≤ ncols`. -/
theorem indepLoop_same_set (ncols : Nat) (gens : List LRow) (nle : Nat) (rows : List SRow) (fuel : Nat)
    (hglen : ∀ g ∈ gens, g.v.length ≤ ncols) (hI : PhaseInv ncols gens nle rows)
    (hf : rows.length ≤ fuel) :
    ∀ x : Vec, x.length ≤ ncols →
      (holdsAll ((indepLoop fuel nle rows nle).map (·.row)) x ↔ holdsAll (rows.map (·.row)) x) := by
  intro x hx
  refine ⟨indepLoop_redundant ncols gens nle rows fuel hglen hI hf x hx, fun h => ?_⟩
  rw [holdsAll_map_iff] at h ⊢
  exact fun s hs => h s (indepLoop_mem fuel nle rows nle s hs)

end PPLV.Conv

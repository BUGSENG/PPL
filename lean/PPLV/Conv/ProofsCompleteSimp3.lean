import PPLV.Conv.ProofsCompleteSimp1
import PPLV.Conv.ProofsCompleteSimp2
import PPLV.Conv.ProofsCompleteMin
/-!
# `simplify` drops only redundant rows: from the model rows to the abstract setting

* `ddpair_of_rows` — a constraint system and a generator system that are sound and complete for each other
  on the rows of length `≤ ncols` form an abstract `DDPair` inside `ambient ncols`;
* `exists_interior_rows` — the sum of the rays;
* exact saturation rows, read abstractly: a non-empty row has a ray that does not saturate it
  (`ray_of_nonempty`); `sat[y] ⊆ sat[d]` means every ray saturating `d` saturates `y` (`sat_dom`);
  the generators whose bit is clear are `numSaturators` many (`satList`).
-/
namespace PPLV.Conv
open PPLV.Conv.Abs

/-- sound + complete on the rows of length `≤ ncols` is an abstract double description pair. -/
theorem ddpair_of_rows (ncols : Nat) (lrows gens : List LRow)
    (hglen : ∀ g ∈ gens, g.v.length ≤ ncols) (hsound : Sound lrows gens)
    (hcomp : ∀ x : Vec, x.length ≤ ncols → holdsAll lrows x → Generated gens x) :
    DDPair (ambient ncols) (lrows.map conOf) (linesOf gens) (raysOf gens) := by
  refine ⟨?_, ?_, ?_, ?_, ?_⟩
  · rintro l ⟨g, hg, _, rfl⟩; exact emb_mem_ambient ncols g.v (hglen g hg)
  · rintro l ⟨g, hg, _, rfl⟩; exact emb_mem_ambient ncols g.v (hglen g hg)
  · exact hsound.lines_zero
  · exact hsound.rays_inP
  · intro y hy hP
    obtain ⟨x, N, hx, hN, e⟩ := ambient_scaled ncols y hy
    have hNq : (0 : ℚ) < N := by exact_mod_cast hN
    have hP' : InP (lrows.map conOf) (emb x) := by
      rw [← e]; intro a ha; exact ACon.holds_smul _ hNq.le (hP a ha)
    have hC := cone_of_generated gens x (hcomp x hx ((holdsAll_iff_abs lrows x).2 hP'))
    have e2 : y = (N : ℚ)⁻¹ • emb x := by rw [← e, smul_smul, inv_mul_cancel₀ hNq.ne', one_smul]
    rw [e2]; exact Cone.smul _ (inv_nonneg.2 hNq.le) hC

/-- the rays of a generator system, as a list. -/
def rayList (gens : List LRow) : List FV := (gens.filter (fun g => !g.le)).map (fun g => emb g.v)

theorem mem_rayList (gens : List LRow) (v : FV) : v ∈ rayList gens ↔ v ∈ raysOf gens := by
  unfold rayList raysOf
  constructor
  · intro h
    obtain ⟨g, hg, rfl⟩ := List.mem_map.1 h
    obtain ⟨hg1, hle⟩ := List.mem_filter.1 hg
    exact ⟨g, hg1, by simpa using hle, rfl⟩
  · rintro ⟨g, hg, hle, rfl⟩
    exact List.mem_map.2 ⟨g, List.mem_filter.2 ⟨hg, by simp [hle]⟩, rfl⟩

/-- the sum of the rays is positive on every row that some ray does not saturate. -/
theorem exists_interior_rows (lrows gens : List LRow) (hsound : Sound lrows gens) :
    ∃ p, Cone (linesOf gens) (raysOf gens) p ∧
      ∀ a ∈ lrows.map conOf, (∃ r ∈ raysOf gens, a.f r ≠ 0) → 0 < a.f p := by
  obtain ⟨p, hp, _, hpos⟩ := exists_interior (lrows.map conOf) (linesOf gens) (rayList gens)
    (fun r hr => hsound.rays_inP r ((mem_rayList gens r).1 hr))
  refine ⟨p, Cone.mono (fun _ h => h) (fun v hv => (mem_rayList gens v).1 hv) hp, ?_⟩
  rintro a ha ⟨r, hr, hne⟩
  exact hpos a ha ⟨r, (mem_rayList gens r).2 hr, hne⟩

/-! ## exact saturation rows, abstractly -/

theorem conOf_emb_zero_iff (s : LRow) (x : Vec) : (conOf s).f (emb x) = 0 ↔ scalarProduct s.v x = 0 := by
  rw [conOf_f_emb]; exact_mod_cast Iff.rfl

/-- a row with a non-empty exact saturation row is not saturated by some RAY (lines saturate everything). -/
theorem ray_of_nonempty {gens : List LRow} {r : SRow} (h : RowOK gens r) (hne : bitsEmpty r.sat = false) :
    ∃ v ∈ raysOf gens, (conOf r.row).f v ≠ 0 := by
  obtain ⟨j, hb⟩ := (bitsEmpty_false_iff _).1 hne
  have hj := h.1.lt_of_bit j hb
  have hsp : scalarProduct r.row.v gens[j].v ≠ 0 := by
    intro h0
    rw [(h.1.bit_iff j hj).2 h0] at hb; cases hb
  have hle : gens[j].le = false := by
    cases e : gens[j].le
    · rfl
    · exfalso
      have := h.2 gens[j] (List.getElem_mem hj)
      unfold satisfies at this
      rw [e, Bool.or_true, if_pos rfl] at this
      exact hsp this
  refine ⟨emb gens[j].v, ⟨gens[j], List.getElem_mem hj, hle, rfl⟩, ?_⟩
  rw [Ne, conOf_emb_zero_iff]; exact hsp

/-- `sat[y] ⊆ sat[d]`: every generator saturating `d` saturates `y`. -/
theorem sat_dom {gens : List LRow} {y d : SRow} (hy : ExactBits gens y) (hd : ExactBits gens d)
    (hsub : subsetOrEqual y.sat d.sat = true) :
    ∀ g ∈ gens, (conOf d.row).f (emb g.v) = 0 → (conOf y.row).f (emb g.v) = 0 := by
  intro g hg h0
  obtain ⟨j, hj, rfl⟩ := List.mem_iff_getElem.1 hg
  rw [conOf_emb_zero_iff] at h0 ⊢
  have hbd := (hd.bit_iff j hj).2 h0
  apply (hy.bit_iff j hj).1
  cases hby : bit y.sat j
  · rfl
  · rw [(subsetOrEqual_iff _ _).1 hsub j hby] at hbd; cases hbd

/-- the generators whose bit in `sat[d]` is clear. -/
def satList (gens : List LRow) (d : SRow) : List FV :=
  ((List.range gens.length).filter (fun j => !bit d.sat j)).map (fun j => emb (gens.getD j default).v)

theorem length_satList {gens : List LRow} {d : SRow} (h : ExactBits gens d) :
    (satList gens d).length = numSaturators gens.length d := by
  unfold satList numSaturators
  rw [List.length_map, ← List.countP_eq_length_filter]
  exact countP_not_bit d.sat gens.length h.lt_of_bit

theorem mem_satList {gens : List LRow} {d : SRow} (h : ExactBits gens d) (g : LRow) (hg : g ∈ gens)
    (h0 : (conOf d.row).f (emb g.v) = 0) : emb g.v ∈ satList gens d := by
  obtain ⟨j, hj, rfl⟩ := List.mem_iff_getElem.1 hg
  rw [conOf_emb_zero_iff] at h0
  have hb := (h.bit_iff j hj).2 h0
  unfold satList
  refine List.mem_map.2 ⟨j, List.mem_filter.2 ⟨List.mem_range.2 hj, by simp [hb]⟩, ?_⟩
  rw [getD_eq_getElem gens default hj]

end PPLV.Conv

import PPLV.Conv.ProofsCompleteAbs5
/-!
# the rows `simplify` drops are redundant, abstractly

A double description pair `(A, L ∪ R)` inside a subspace `U` (`DDPair`), `p` a point of the cone on which
every constraint that is not saturated by all rays is positive (`exists_interior`: the sum of the rays).

* `shift_max` (R1) — a point `x₀` violating some inequalities is pushed along `p` until the last violated
  inequality becomes tight: `z = x₀ + t • p` satisfies everything and saturates a constraint violated by `x₀`;
* `indep_redundant` (R2) — the independence rule: if every constraint of `A` is in `S` or is an inequality
  whose saturating rays all saturate some `y ∈ S` (not saturated by every ray), then `S` entails `A` on `U`;
* `satrule_rank` (R3) — the saturation rule: if removing the inequality `d` changes the set, then
  `dim U ≤ (#equalities + 1) + #(generators saturating d)`.
-/
namespace PPLV.Conv.Abs
open Module Submodule

variable {V : Type*} [AddCommGroup V] [Module ℚ V]

/-- a double description pair inside `U` (no minimality). -/
structure DDPair (U : Submodule ℚ V) (A : List (ACon V)) (L R : Set V) : Prop where
  lineU : ∀ l ∈ L, l ∈ U
  rayU : ∀ r ∈ R, r ∈ U
  lineSat : ∀ l ∈ L, ∀ a ∈ A, a.f l = 0
  raySound : ∀ r ∈ R, InP A r
  complete : ∀ x ∈ U, InP A x → Cone L R x

theorem ACon.lt_of_not_holds {a : ACon V} {x : V} (he : a.eq = false) (h : ¬ a.holds x) : a.f x < 0 := by
  by_contra hc
  exact h (ACon.holds_of_nonneg he (not_lt.1 hc))

/-- the sum of the rays: in the cone, non-negative on every constraint, positive on every constraint that
some ray does not saturate. -/
theorem exists_interior (A : List (ACon V)) (L : Set V) (Rl : List V) (hR : ∀ r ∈ Rl, InP A r) :
    ∃ p, Cone L {v | v ∈ Rl} p ∧ (∀ a ∈ A, 0 ≤ a.f p) ∧
      ∀ a ∈ A, (∃ r ∈ Rl, a.f r ≠ 0) → 0 < a.f p := by
  induction Rl with
  | nil =>
    refine ⟨0, Cone.zero, fun a _ => by rw [map_zero], ?_⟩
    rintro a _ ⟨r, hr, _⟩; cases hr
  | cons r Rl ih =>
    obtain ⟨p, hp, hnn, hpos⟩ := ih (fun r' hr' => hR r' (List.mem_cons_of_mem _ hr'))
    have hrr : r ∈ {v | v ∈ r :: Rl} := List.mem_cons_self
    have hp' : Cone L {v | v ∈ r :: Rl} p :=
      Cone.mono (fun _ h => h) (fun v hv => List.mem_cons_of_mem _ hv) hp
    refine ⟨p + (1 : ℚ) • r, Cone.ray 1 hrr zero_le_one hp', fun a ha => ?_, ?_⟩
    · have h1 := (hR r List.mem_cons_self a ha).nonneg
      have h2 := hnn a ha
      rw [map_add, map_smul, smul_eq_mul, one_mul]; linarith
    · rintro a ha ⟨r', hr', hne⟩
      have h1 := (hR r List.mem_cons_self a ha).nonneg
      have h2 := hnn a ha
      rw [map_add, map_smul, smul_eq_mul, one_mul]
      rcases List.mem_cons.1 hr' with e | hr''
      · rw [e] at hne
        have : 0 < a.f r := lt_of_le_of_ne h1 (Ne.symm hne)
        linarith
      · have := hpos a ha ⟨r', hr'', hne⟩
        linarith

/-- (R1) push a point that violates some inequalities along `p` until everything holds: the result
saturates one of the violated constraints. -/
theorem shift_max (A : List (ACon V)) (x₀ p : V) (hp : InP A p)
    (hviol : ∃ a ∈ A, ¬ a.holds x₀)
    (hineq : ∀ a ∈ A, ¬ a.holds x₀ → a.eq = false ∧ 0 < a.f p) :
    ∃ t : ℚ, 0 < t ∧ InP A (x₀ + t • p) ∧ ∃ a₀ ∈ A, ¬ a₀.holds x₀ ∧ a₀.f (x₀ + t • p) = 0 := by
  obtain ⟨a₀, ha₀, hv₀, hmin⟩ :=
    exists_min_of_list A (fun a => ¬ a.holds x₀) (fun a => a.f x₀ / a.f p) hviol
  obtain ⟨he₀, hp₀⟩ := hineq a₀ ha₀ hv₀
  have hneg₀ : a₀.f x₀ < 0 := ACon.lt_of_not_holds he₀ hv₀
  have hval : ∀ a : ACon V,
      a.f (x₀ + (-(a₀.f x₀ / a₀.f p)) • p) = a.f x₀ - (a₀.f x₀ / a₀.f p) * a.f p := by
    intro a; simp only [map_add, map_smul, smul_eq_mul]; ring
  have ht : 0 < -(a₀.f x₀ / a₀.f p) := neg_pos.2 (div_neg_of_neg_of_pos hneg₀ hp₀)
  refine ⟨-(a₀.f x₀ / a₀.f p), ht, fun a ha => ?_, a₀, ha₀, hv₀, ?_⟩
  · by_cases hh : a.holds x₀
    · exact ACon.holds_add hh (ACon.holds_smul _ ht.le (hp a ha))
    · obtain ⟨he, hpa⟩ := hineq a ha hh
      refine ACon.holds_of_nonneg he ?_
      rw [hval]
      have h1 : a₀.f x₀ / a₀.f p ≤ a.f x₀ / a.f p := hmin a ha hh
      have h2 := (le_div_iff₀ hpa).1 h1
      linarith
  · rw [hval, div_mul_cancel₀ _ hp₀.ne', sub_self]

/-- (R2) the independence rule, one shot: `S ⊆ A`; every constraint of `A` is in `S` or is an inequality
`a` dominated by some `y ∈ S` (every ray saturating `a` saturates `y`, and some ray does not saturate
`y`).  Then every point of `U` satisfying `S` satisfies `A`. -/
theorem indep_redundant {U : Submodule ℚ V} {A S : List (ACon V)} {L R : Set V} (dd : DDPair U A L R)
    (p : V) (hpC : Cone L R p) (hpos : ∀ a ∈ A, (∃ r ∈ R, a.f r ≠ 0) → 0 < a.f p)
    (hS : ∀ a ∈ S, a ∈ A)
    (hdom : ∀ a ∈ A, a ∈ S ∨ (a.eq = false ∧ ∃ y ∈ S, (∃ r ∈ R, y.f r ≠ 0) ∧
      ∀ r ∈ R, a.f r = 0 → y.f r = 0))
    (x₀ : V) (hx₀ : x₀ ∈ U) (hin : InP S x₀) : InP A x₀ := by
  by_contra hnot
  have hviol : ∃ a ∈ A, ¬ a.holds x₀ := by
    by_contra hc
    exact hnot (fun a ha => by by_contra h; exact hc ⟨a, ha, h⟩)
  have hpP : InP A p := Cone.inP A dd.lineSat dd.raySound hpC
  have hineq : ∀ a ∈ A, ¬ a.holds x₀ → a.eq = false ∧ 0 < a.f p := by
    intro a ha hv
    rcases hdom a ha with h | ⟨he, y, _, ⟨r, hr, hne⟩, hd⟩
    · exact absurd (hin a h) hv
    · exact ⟨he, hpos a ha ⟨r, hr, fun h0 => hne (hd r hr h0)⟩⟩
  obtain ⟨t, ht, hz, a₀, ha₀, hv₀, hz₀⟩ := shift_max A x₀ p hpP hviol hineq
  rcases hdom a₀ ha₀ with h | ⟨_, y, hy, hyr, hd⟩
  · exact hv₀ (hin a₀ h)
  · have hyA := hS y hy
    have hypos : 0 < y.f (x₀ + t • p) := by
      have h1 := (hin y hy).nonneg
      have h2 := mul_pos ht (hpos y hyA hyr)
      rw [map_add, map_smul, smul_eq_mul]; linarith
    have hzU : x₀ + t • p ∈ U :=
      U.add_mem hx₀ (U.smul_mem t (Cone.mem_sub U dd.lineU dd.rayU hpC))
    have hC := dd.complete _ hzU hz
    have hF := Cone.face [a₀] (fun l hl a ha => by
        rw [List.mem_singleton.1 ha]; exact dd.lineSat l hl a₀ ha₀)
      (fun r hr a ha => by rw [List.mem_singleton.1 ha]; exact dd.raySound r hr a₀ ha₀) hC
    have h0 : y.f (x₀ + t • p) = 0 := by
      refine Cone.eval_zero y.f (fun l hl => dd.lineSat l hl y hyA) ?_ hF
      rintro r ⟨hr, hs⟩
      exact hd r hr (hs a₀ (List.mem_singleton.2 rfl) hz₀)
    rw [h0] at hypos
    exact lt_irrefl _ hypos

/-- (R3) the saturation rule: if the inequality `d` is not entailed by the other constraints `A'`, then
the common kernel of the equalities and `d` is spanned by the generators saturating `d`, hence
`dim U ≤ (#equalities + 1) + #(generators saturating d)`. -/
theorem satrule_rank {U : Submodule ℚ V} [FiniteDimensional ℚ U] {A A' : List (ACon V)} {L R : Set V}
    (dd : DDPair U A L R) (d : ACon V) (hd : d.eq = false) (hdA : d ∈ A)
    (hA : ∀ a ∈ A, a = d ∨ a ∈ A')
    (p : V) (hpC : Cone L R p) (hpos : ∀ a ∈ A, a.eq = false → 0 < a.f p)
    (Eq : List (ACon V)) (hEq : ∀ a ∈ A, a.eq = true → a ∈ Eq)
    (vs : List V) (hvL : ∀ l ∈ L, l ∈ vs) (hvR : ∀ r ∈ R, d.f r = 0 → r ∈ vs)
    (x₀ : V) (hx₀ : x₀ ∈ U) (hin : InP A' x₀) (hnot : ¬ d.holds x₀) :
    Module.finrank ℚ U ≤ (Eq.length + 1) + vs.length := by
  have hpP : InP A p := Cone.inP A dd.lineSat dd.raySound hpC
  have hpU : p ∈ U := Cone.mem_sub U dd.lineU dd.rayU hpC
  have hneg : d.f x₀ < 0 := ACon.lt_of_not_holds hd hnot
  have hdp : 0 < d.f p := hpos d hdA hd
  have ht : 0 < -(d.f x₀ / d.f p) := neg_pos.2 (div_neg_of_neg_of_pos hneg hdp)
  set t : ℚ := -(d.f x₀ / d.f p) with htdef
  set z : V := x₀ + t • p with hzdef
  have hval : ∀ a : ACon V, a.f z = a.f x₀ + t * a.f p := by
    intro a; simp only [hzdef, map_add, map_smul, smul_eq_mul]
  have hzd : d.f z = 0 := by
    rw [hval, htdef, neg_mul, div_mul_cancel₀ _ hdp.ne', add_neg_cancel]
  have hzP : InP A z := by
    intro a ha
    rcases hA a ha with e | h'
    · rw [e]; exact ACon.holds_of_zero hzd
    · exact ACon.holds_add (hin a h') (ACon.holds_smul t ht.le (hpP a ha))
  have hzU : z ∈ U := U.add_mem hx₀ (U.smul_mem t hpU)
  have htight : ∀ a ∈ A, a.f z = 0 → a.eq = true ∨ a = d := by
    intro a ha h0
    cases he : a.eq
    · right
      rcases hA a ha with e | h'
      · exact e
      · exfalso
        have h1 := (hin a h').nonneg
        have h2 := mul_pos ht (hpos a ha he)
        rw [hval] at h0; linarith
    · left; rfl
  -- every point of the face of `d` is spanned by the generators saturating `d`
  have hface : ∀ y ∈ U, InP A y → d.f y = 0 → y ∈ Submodule.span ℚ {v | v ∈ vs} := by
    intro y hyU hyP hyd
    have hC := dd.complete y hyU hyP
    have hF := Cone.face [d] (fun l hl a ha => by
        rw [List.mem_singleton.1 ha]; exact dd.lineSat l hl d hdA)
      (fun r hr a ha => by rw [List.mem_singleton.1 ha]; exact dd.raySound r hr d hdA) hC
    refine Cone.mem_sub _ (fun l hl => Submodule.subset_span (hvL l hl)) ?_ hF
    rintro r ⟨hr, hs⟩
    exact Submodule.subset_span (hvR r hr (hs d (List.mem_singleton.2 rfl) hyd))
  have key := finrank_le_of_ker_le_span U (Eq.map (·.f) ++ [d.f]) vs ?_
  · simpa using key
  · intro w hwU hw
    have hwd : d.f w = 0 := hw d.f (by simp)
    have hwE : ∀ a ∈ A, a.f z = 0 → a.f w = 0 := by
      intro a ha h0
      rcases htight a ha h0 with he | e
      · exact hw a.f (List.mem_append_left _ (List.mem_map.2 ⟨a, hEq a ha he, rfl⟩))
      · rw [e]; exact hwd
    obtain ⟨ε, hε, hεP, _⟩ := exists_eps A z w hzP hwE
    have h1 : z + ε • w ∈ Submodule.span ℚ {v | v ∈ vs} :=
      hface _ (U.add_mem hzU (U.smul_mem ε hwU)) hεP (by
        rw [map_add, map_smul, hzd, hwd, smul_zero, add_zero])
    have h2 : z ∈ Submodule.span ℚ {v | v ∈ vs} := hface z hzU hzP hzd
    have e : w = ε⁻¹ • ((z + ε • w) - z) := by
      rw [add_sub_cancel_left, smul_smul, inv_mul_cancel₀ hε.ne', one_smul]
    rw [e]
    exact Submodule.smul_mem _ _ (Submodule.sub_mem _ h1 h2)

end PPLV.Conv.Abs

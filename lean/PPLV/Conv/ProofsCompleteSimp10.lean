import PPLV.Conv.ProofsCompleteGauss3
/-!
# The rows `Polyhedron::simplify` drops are redundant

The converse of `simplify_sound`.  `rows` beside an exact saturation matrix `sat` against `gens`
(`SatCorrect gens rows sat`), `gens` sound and complete for `rows` on the vectors of length `≤ ncols`
(a double description pair), the generators have at most `ncols` columns, `numColsSat = gens.length`,
`ncols < 2^64`.  No layout of `rows` is needed (an equality anywhere has an empty saturation row and is
picked up by the detection loop).  One hypothesis is left, `hrank`: the returned number of equalities is
`< ncols` (it holds when some generator is not the zero row, `simplify_rank_lt`).  That `back_substitute`
meets no zero pivot row (`hpiv` in the `_partial` statement) is `simplify_backSubPivots`.
-/
namespace PPLV.Conv

/-- everything before `back_substitute` drops only redundant rows. -/
theorem simplify_phases_drop_only_redundant (ncols numColsSat : Nat) (rows : List LRow) (sat : List BRow)
    (gens : List LRow) (hsat : SatCorrect gens rows sat) (hsound : Sound rows gens)
    (hcomp : ∀ x : Vec, x.length ≤ ncols → holdsAll rows x → Generated gens x)
    (hncs : numColsSat = gens.length) (hglen : ∀ g ∈ gens, g.v.length ≤ ncols) (hsz : ncols < 2 ^ 64)
    (hrank : (simplify ncols numColsSat (zipSys rows sat)).2 + 1 ≤ ncols) :
    ∀ x : Vec, x.length ≤ ncols →
      holdsAll ((simpT ncols numColsSat (zipSys rows sat)).map (·.row)) x → holdsAll rows x := by
  have hrows := zipSys_map_row rows sat hsat.1
  have h := (simpT_redundant ncols numColsSat (zipSys rows sat) gens hncs
    (zipSys_rowOK rows sat gens hsat hsound) (by rw [hrows]; exact hcomp) hglen hsz hrank).2
  rw [hrows] at h
  exact h

/-- the same for the result of `simplify`: `back_substitute` keeps the solution set. -/
theorem simplify_redundant (ncols numColsSat : Nat) (rows : List LRow) (sat : List BRow)
    (gens : List LRow) (hsat : SatCorrect gens rows sat) (hsound : Sound rows gens)
    (hcomp : ∀ x : Vec, x.length ≤ ncols → holdsAll rows x → Generated gens x)
    (hncs : numColsSat = gens.length) (hglen : ∀ g ∈ gens, g.v.length ≤ ncols) (hsz : ncols < 2 ^ 64)
    (hrank : (simplify ncols numColsSat (zipSys rows sat)).2 + 1 ≤ ncols) :
    ∀ x : Vec, x.length ≤ ncols →
      holdsAll ((simplify ncols numColsSat (zipSys rows sat)).1.map (·.row)) x → holdsAll rows x := by
  have hrows := zipSys_map_row rows sat hsat.1
  obtain ⟨tI, tRed⟩ := simpT_redundant ncols numColsSat (zipSys rows sat) gens hncs
    (zipSys_rowOK rows sat gens hsat hsound) (by rw [hrows]; exact hcomp) hglen hsz hrank
  rw [hrows] at tRed
  intro x hx hh
  rw [simplify_eq'] at hh
  exact tRed x hx ((backSubstitute_same_set _ _ tI.2 tI.1 (simplify_backSubPivots ncols numColsSat _) x).1 hh)

/-- **`simplify_drops_only_redundant_partial`** — every vector (of length `≤ ncols`) that satisfies the
system `simplify` returns satisfies the system it was given: the rows dropped are redundant.
`hrank`: the returned number of equalities is `< ncols`, so that `num_columns - num_equalities - 1` does not
wrap.  `hpiv` (no zero pivot row in `back_substitute`) is not used: it always holds (`simplify_backSubPivots`). -/
theorem simplify_drops_only_redundant_partial (ncols numColsSat : Nat) (rows : List LRow) (sat : List BRow)
    (gens : List LRow) (hsat : SatCorrect gens rows sat) (hsound : Sound rows gens)
    (hcomp : ∀ x : Vec, x.length ≤ ncols → holdsAll rows x → Generated gens x)
    (hncs : numColsSat = gens.length) (hglen : ∀ g ∈ gens, g.v.length ≤ ncols) (hsz : ncols < 2 ^ 64)
    (hrank : (simplify ncols numColsSat (zipSys rows sat)).2 + 1 ≤ ncols)
    (hpiv : BackSubPivots (simpP ncols (zipSys rows sat)).2
      (List.range (simpP ncols (zipSys rows sat)).2).reverse (simpT ncols numColsSat (zipSys rows sat))) :
    ∀ x : Vec, x.length ≤ ncols →
      holdsAll ((simplify ncols numColsSat
        (List.zipWith (fun a s => ({ row := a, sat := s } : SRow)) rows sat)).1.map (·.row)) x →
      holdsAll rows x :=
  simplify_redundant ncols numColsSat rows sat gens hsat hsound hcomp hncs hglen hsz hrank

/-- with `simplify_sound`: `simplify` keeps the solution set. -/
theorem simplify_same_set_of_rank (ncols numColsSat : Nat) (rows : List LRow) (sat : List BRow)
    (gens : List LRow) (hsat : SatCorrect gens rows sat) (hsound : Sound rows gens)
    (hcomp : ∀ x : Vec, x.length ≤ ncols → holdsAll rows x → Generated gens x)
    (hncs : numColsSat = gens.length) (hglen : ∀ g ∈ gens, g.v.length ≤ ncols) (hsz : ncols < 2 ^ 64)
    (hrank : (simplify ncols numColsSat (zipSys rows sat)).2 + 1 ≤ ncols) :
    ∀ x : Vec, x.length ≤ ncols →
      (holdsAll ((simplify ncols numColsSat (zipSys rows sat)).1.map (·.row)) x ↔ holdsAll rows x) := by
  intro x hx
  refine ⟨simplify_redundant ncols numColsSat rows sat gens hsat hsound hcomp hncs hglen hsz hrank x hx,
    fun h => ?_⟩
  have hrows := zipSys_map_row rows sat hsat.1
  have hOK := zipSys_rowOK rows sat gens hsat hsound
  apply simplify_sound ncols numColsSat (zipSys rows sat) gens
    (fun r hr hb => (hOK r hr).1.saturated_of_empty hb) x (hcomp x hx h)
  rw [hrows]; exact h

/-- non-vacuity: the square `0 ≤ x ≤ 1, 0 ≤ y ≤ 1` with the redundant `x + y ≤ 3` (the instance next to
`simplify_sound` in `Props/C01Conv.lean`): the generators are sound, `hrank` and `hpiv` hold, and
`simplify` drops exactly the redundant row. -/
example :
    let rows : List LRow := [⟨false, [0, 1, 0]⟩, ⟨false, [1, -1, 0]⟩, ⟨false, [0, 0, 1]⟩, ⟨false, [1, 0, -1]⟩, ⟨false, [3, -1, -1]⟩]
    let gens : List LRow := [⟨false, [1, 0, 0]⟩, ⟨false, [1, 1, 0]⟩, ⟨false, [1, 0, 1]⟩, ⟨false, [1, 1, 1]⟩]
    let sat : List BRow := [[false, true, false, true], [true, false, true, false], [false, false, true, true],
                            [true, true, false, false], [true, true, true, true]]
    SatCorrect gens rows sat ∧ Sound rows gens ∧ (∀ g ∈ gens, g.v.length ≤ 3) ∧
    (simplify 3 4 (zipSys rows sat)).2 + 1 ≤ 3 ∧
    BackSubPivots (simpP 3 (zipSys rows sat)).2 (List.range (simpP 3 (zipSys rows sat)).2).reverse
      (simpT 3 4 (zipSys rows sat)) ∧
    (simplify 3 4 (zipSys rows sat)).1.map (·.row)
      = [⟨false, [0, 1, 0]⟩, ⟨false, [1, -1, 0]⟩, ⟨false, [0, 0, 1]⟩, ⟨false, [1, 0, -1]⟩] := by
  intro rows gens sat
  refine ⟨⟨by decide, ?_⟩, by unfold Sound; decide, by decide, by decide, ?_, by decide⟩
  · have key : ∀ i (h : i < rows.length), ∀ j, j < 4 → bit (sat.getD i []) j =
        (decide (j < gens.length) && decide (scalarProduct (gens.getD j default).v rows[i].v ≠ 0)) := by
      decide
    have k2 : ∀ i, i < rows.length → (sat.getD i []).length ≤ 4 := by decide
    intro i hi j
    by_cases hj : j < 4
    · exact key i hi j hj
    · have hg : gens.length = 4 := rfl
      rw [bit_ge_length _ j (by have := k2 i hi; omega), hg]
      simp [hj]
  have e : (simpP 3 (zipSys rows sat)).2 = 0 := by decide
  rw [e]
  exact trivial

end PPLV.Conv

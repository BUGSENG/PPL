import PPLV.Conv.ProofsCompleteSimp6
/-!
# `simplify` drops only redundant rows: the redundant equalities (`dropPhase`, `Polyhedron_simplify_templates.hh:160-196`)

`dropRedundantEqLoop` overwrites the rows `[rank, nle)` left by `gauss` with rows taken from the end of the
system, `take` cuts whatever is left of them: the rows from `rank` on of the result are rows from `nle` on of
the input (the inequalities), and every row that disappears was at an index in `[rank, nle)`.
GIVEN that those rows vanish on the vectors of length `≤ ncols` (they are the zero rows of the echelon form —
`ProofsCompleteSimp9.lean`), the phase keeps `PhaseInv` and the solution set.
-/
namespace PPLV.Conv
open PPLV.Conv.Abs

theorem dropRedundantEqLoop_succ (n : Nat) (rows : List SRow) (nle redundant erasing : Nat) :
    dropRedundantEqLoop (n + 1) rows nle redundant erasing =
      if redundant < nle ∧ erasing > nle then
        dropRedundantEqLoop n (removeRowAt rows redundant) nle (redundant + 1) (erasing - 1)
      else rows := by
  rw [dropRedundantEqLoop]

theorem dropLoop_analysis (nle : Nat) : ∀ (n : Nat) (rows : List SRow) (redundant : Nat),
    n = nle - redundant → redundant ≤ nle → nle ≤ rows.length →
    (∀ m x, redundant ≤ m → m < rows.length - (nle - redundant) →
      (dropRedundantEqLoop n rows nle redundant rows.length)[m]? = some x → x ∈ rows.drop nle) ∧
    (∀ x ∈ rows,
      x ∈ (dropRedundantEqLoop n rows nle redundant rows.length).take (rows.length - (nle - redundant)) ∨
      ∃ m, redundant ≤ m ∧ m < nle ∧ rows[m]? = some x)
  | 0, rows, redundant => fun hn hr hl => by
    have e : dropRedundantEqLoop 0 rows nle redundant rows.length = rows := rfl
    rw [e]
    refine ⟨fun m x hm _ hx => (mem_drop_iff_getElem? _ _ _).2 ⟨m, by omega, hx⟩, fun x hx => ?_⟩
    left
    rw [List.take_of_length_le (by omega)]
    exact hx
  | n + 1, rows, redundant => fun hn hr hl => by
    have hrl : redundant < nle := by omega
    by_cases hc : rows.length > nle
    · rw [dropRedundantEqLoop_succ, if_pos ⟨hrl, hc⟩]
      have hri : redundant < rows.length := by omega
      have hlen' : (removeRowAt rows redundant).length = rows.length - 1 := length_removeRowAt _ _
      have e : rows.length - 1 = (removeRowAt rows redundant).length := hlen'.symm
      rw [e]
      obtain ⟨c1, c2⟩ := dropLoop_analysis nle n (removeRowAt rows redundant) (redundant + 1)
        (by omega) (by omega) (by omega)
      have hspec := (dropRedundantEqLoop_spec n (removeRowAt rows redundant) nle (redundant + 1)
        (removeRowAt rows redundant).length (redundant + 1) (Nat.le_refl _) rfl).1
      have hcut : (removeRowAt rows redundant).length - (nle - (redundant + 1))
          = rows.length - (nle - redundant) := by omega
      rw [hcut] at c1 c2
      refine ⟨fun m x hm hm2 hx => ?_, fun x hx => ?_⟩
      · by_cases hmr : m = redundant
        · have h1 := congrArg (fun l => l[m]?) hspec
          simp only [List.getElem?_take, hmr, Nat.lt_succ_self, if_true] at h1
          rw [hmr, h1, getElem?_removeRowAt rows redundant redundant hri] at hx
          rw [if_pos (by omega), if_pos rfl] at hx
          exact (mem_drop_iff_getElem? _ _ _).2 ⟨rows.length - 1, by omega, hx⟩
        · have h1 := c1 m x (by omega) hm2 hx
          obtain ⟨m', hm', hx'⟩ := (mem_drop_iff_getElem? _ _ _).1 h1
          rw [getElem?_removeRowAt rows redundant m' hri] at hx'
          split at hx'
          · rw [if_neg (by omega)] at hx'
            exact (mem_drop_iff_getElem? _ _ _).2 ⟨m', hm', hx'⟩
          · cases hx'
      · rcases mem_removeRowAt_or rows redundant hri x hx with h1 | h1
        · rcases c2 x h1 with h2 | ⟨m, hm1, hm2, hxm⟩
          · exact Or.inl h2
          · right
            rw [getElem?_removeRowAt_of_ne rows redundant m hri (by omega) (by omega)] at hxm
            exact ⟨m, by omega, hm2, hxm⟩
        · right
          exact ⟨redundant, Nat.le_refl _, hrl, by rw [h1]; exact getElem?_of_lt_getD rows _ default hri⟩
    · have hlen : rows.length = nle := by omega
      rw [dropRedundantEqLoop_succ, if_neg (by omega)]
      refine ⟨fun m x hm hm2 _ => by omega, fun x hx => ?_⟩
      obtain ⟨m, hxm⟩ := List.mem_iff_getElem?.1 hx
      have hml : m < rows.length := (List.getElem?_eq_some_iff.1 hxm).1
      by_cases hmr : m < redundant
      · left
        rw [List.mem_iff_getElem?]
        refine ⟨m, ?_⟩
        rw [List.getElem?_take, if_pos (by omega)]
        exact hxm
      · exact Or.inr ⟨m, by omega, by omega, hxm⟩

/-- what `dropPhase` does to the list: the rows from the new `nle` on were rows from the old `nle` on, and
only rows at an index in `[rank, nle)` disappear. -/
theorem dropPhase_analysis (nle rank : Nat) (rows : List SRow) (hl : nle ≤ rows.length) :
    (∀ x ∈ (dropPhase nle rows.length rows rank).1.drop (dropPhase nle rows.length rows rank).2,
      x ∈ rows.drop nle) ∧
    (∀ x ∈ rows, x ∈ (dropPhase nle rows.length rows rank).1 ∨
      ∃ m, rank ≤ m ∧ m < nle ∧ rows[m]? = some x) := by
  unfold dropPhase
  split
  · rename_i hlt
    obtain ⟨c1, c2⟩ := dropLoop_analysis nle (nle - rank) rows rank rfl (by omega) hl
    refine ⟨fun x hx => ?_, c2⟩
    obtain ⟨m, hm1, hm2, hxm⟩ := (mem_take_drop_iff_getElem? _ _ _ _).1 hx
    exact c1 m x hm1 hm2 hxm
  · exact ⟨fun x hx => hx, fun x hx => Or.inl hx⟩

/-- the removal of the redundant equalities keeps `MinInv`. -/
theorem dropPhase_minInv (gens : List LRow) (nle rank : Nat) (rows : List SRow) (hI : MinInv gens nle rows) :
    MinInv gens (dropPhase nle rows.length rows rank).2 (dropPhase nle rows.length rows rank).1 := by
  obtain ⟨a1, _⟩ := dropPhase_analysis nle rank rows hI.ginv.1
  obtain ⟨pI, pM⟩ := dropPhase_spec nle rows.length rows rank hI.ginv rfl
  refine ⟨pI, fun r hr => hI.ineq r (a1 r hr), ?_⟩
  intro g hg s hs
  obtain ⟨s', hs', rfl⟩ := List.mem_map.1 hs
  exact hI.sound g hg s'.row (List.mem_map.2 ⟨s', pM s' hs', rfl⟩)

/-- `dropPhase` keeps `PhaseInv` and the solution set, GIVEN that the rows `[rank, nle)` vanish on the
vectors of length `≤ ncols`. -/
theorem dropPhase_phaseInv (ncols : Nat) (gens : List LRow) (nle rank : Nat) (rows : List SRow)
    (hI : PhaseInv ncols gens nle rows)
    (hzero : ∀ m, rank ≤ m → m < nle → ∀ x : Vec, x.length ≤ ncols →
      scalarProduct (rows.getD m default).row.v x = 0) :
    PhaseInv ncols gens (dropPhase nle rows.length rows rank).2 (dropPhase nle rows.length rows rank).1 ∧
    ∀ x : Vec, x.length ≤ ncols → holdsAll ((dropPhase nle rows.length rows rank).1.map (·.row)) x →
      holdsAll (rows.map (·.row)) x := by
  obtain ⟨_, a2⟩ := dropPhase_analysis nle rank rows hI.ginv.1
  have hred : ∀ x : Vec, x.length ≤ ncols →
      holdsAll ((dropPhase nle rows.length rows rank).1.map (·.row)) x → holdsAll (rows.map (·.row)) x := by
    intro x hx hh
    rw [holdsAll_map_iff] at hh ⊢
    intro s hs
    rcases a2 s hs with h1 | ⟨m, hm1, hm2, hsm⟩
    · exact hh s h1
    · have e := getD_of_getElem? rows m s default hsm
      have hle := hI.ginv.2 m hm2
      have hz := hzero m hm1 hm2 x hx
      rw [e] at hle hz
      unfold holds
      rw [if_pos hle]; exact hz
  exact ⟨(dropPhase_minInv gens nle rank rows hI.minInv).phaseInv
    (fun x hx hh => hI.complete x hx (hred x hx hh)), hred⟩

end PPLV.Conv

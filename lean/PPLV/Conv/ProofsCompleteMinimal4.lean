import PPLV.Conv.ProofsCompleteMinimal3
import PPLV.Conv.ProofsCompleteSimp10
import PPLV.Conv.ProofsCompleteGauss3
/-!
# No redundant inequality remains after `Polyhedron::simplify`

`rows` beside an exact saturation matrix `sat` against `gens` (`SatCorrect gens rows sat`), `gens` sound for
`rows`, the generators have at most `ncols` columns.  With `F` the system `simplify` returns and `n` the number
of equalities it returns:

* `simplify_result_facts` — (a) every generator satisfies every row of `F`, the first `n` rows are the equalities;
  (b) every row from `n` on is an inequality whose saturation row is not empty and exact against `gens`;
  (c) no saturation row from `n` on is a subset of (or equal to) another;
* `simplify_irredundant` — for every `i` with `n ≤ i < F.length` an integer vector of length `≤ ncols`
  satisfies every row of `F` but `F[i]`.

Neither completeness of `gens`, nor `ncols < 2^64`, nor a bound on the rank is needed: the saturation rule may
remove whatever it likes, what the independence rule leaves is irredundant.  The statements that carry `hpiv`
(`back_substitute` meets no zero pivot row) do not use it: it always holds (`simplify_backSubPivots`).
-/
namespace PPLV.Conv

/-- the list handed to `back_substitute` is irredundant (`n` is the number of equalities). -/
theorem simpT_irredundant (ncols numColsSat : Nat) (sys : List SRow) (gens : List LRow)
    (hOK : ∀ r ∈ sys, RowOK gens r) (hglen : ∀ g ∈ gens, g.v.length ≤ ncols) (n : Nat)
    (hn : n = (simpP ncols sys).2) :
    ∀ i, n ≤ i → i < (simpT ncols numColsSat sys).length → ∃ x : Vec, x.length ≤ ncols ∧
      (∀ m, m < (simpT ncols numColsSat sys).length → m ≠ i →
        holds ((simpT ncols numColsSat sys).getD m default).row x) ∧
      ¬ holds ((simpT ncols numColsSat sys).getD i default).row x := by
  subst hn
  have tI := simpT_minInv ncols numColsSat sys gens hOK
  exact irredundant_of_independent ncols gens _ _ hglen tI.sound_idx tI.ginv.2 tI.ineq_idx
    (simpT_independent ncols numColsSat sys)

/-- `back_substitute` keeps (a) soundness and the equalities first, (b) exact non-empty saturation rows on the
inequalities, (c) their independence: it leaves the saturation rows alone. -/
theorem backSubstitute_facts (gens : List LRow) (n : Nat) (T : List SRow) (tI : MinInv gens n T)
    (hpiv : BackSubPivots n (List.range n).reverse T)
    (hind : ∀ i k, n ≤ i → i < T.length → n ≤ k → k < T.length → k ≠ i →
      subsetOrEqual (T.getD k default).sat (T.getD i default).sat = false)
    (S : List SRow × Nat) (hS : (backSubstitute n T, n) = S) :
    (∀ m, m < S.1.length → ∀ g ∈ gens, satisfies (S.1.getD m default).row g) ∧
    (∀ m, m < S.2 → (S.1.getD m default).row.le = true) ∧
    (∀ m, S.2 ≤ m → m < S.1.length → (S.1.getD m default).row.le = false ∧
      bitsEmpty (S.1.getD m default).sat = false ∧ ExactBits gens (S.1.getD m default)) ∧
    (∀ i k, S.2 ≤ i → i < S.1.length → S.2 ≤ k → k < S.1.length → k ≠ i →
      subsetOrEqual (S.1.getD k default).sat (S.1.getD i default).sat = false) := by
  subst hS
  obtain ⟨bI, bl, bs⟩ := backSubstitute_binv gens n T tI.binv hpiv
  dsimp only
  rw [bl]
  refine ⟨bl ▸ bI.sound, bI.ginv.2, fun m hn hm => ?_, fun i k hi hil hk hkl hne => ?_⟩
  · rw [bs m hm]
    exact ⟨(bI.ineq m hn (bl ▸ hm)).1, (tI.ineq_idx m hn hm).2.1, (bI.ineq m hn (bl ▸ hm)).2⟩
  · rw [bs k hkl, bs i hil]
    exact hind i k hi hil hk hkl hne

/-- (a), (b), (c) for the result `S` of `simplify`, on records. -/
theorem simplify_result_facts (ncols numColsSat : Nat) (sys : List SRow) (gens : List LRow)
    (hOK : ∀ r ∈ sys, RowOK gens r) (S : List SRow × Nat) (hS : simplify ncols numColsSat sys = S) :
    (∀ m, m < S.1.length → ∀ g ∈ gens, satisfies (S.1.getD m default).row g) ∧
    (∀ m, m < S.2 → (S.1.getD m default).row.le = true) ∧
    (∀ m, S.2 ≤ m → m < S.1.length → (S.1.getD m default).row.le = false ∧
      bitsEmpty (S.1.getD m default).sat = false ∧ ExactBits gens (S.1.getD m default)) ∧
    (∀ i k, S.2 ≤ i → i < S.1.length → S.2 ≤ k → k < S.1.length → k ≠ i →
      subsetOrEqual (S.1.getD k default).sat (S.1.getD i default).sat = false) :=
  backSubstitute_facts gens _ _ (simpT_minInv ncols numColsSat sys gens hOK)
    (simplify_backSubPivots ncols numColsSat sys) (simpT_independent ncols numColsSat sys) S hS

theorem simplify_result_core (ncols numColsSat : Nat) (sys : List SRow) (gens : List LRow)
    (hOK : ∀ r ∈ sys, RowOK gens r)
    (hpiv : BackSubPivots (simpP ncols sys).2 (List.range (simpP ncols sys).2).reverse
      (simpT ncols numColsSat sys)) :
    (∀ m, m < (simplify ncols numColsSat sys).1.length → ∀ g ∈ gens,
      satisfies ((simplify ncols numColsSat sys).1.getD m default).row g) ∧
    (∀ m, m < (simplify ncols numColsSat sys).2 →
      ((simplify ncols numColsSat sys).1.getD m default).row.le = true) ∧
    (∀ m, (simplify ncols numColsSat sys).2 ≤ m → m < (simplify ncols numColsSat sys).1.length →
      ((simplify ncols numColsSat sys).1.getD m default).row.le = false ∧
      bitsEmpty ((simplify ncols numColsSat sys).1.getD m default).sat = false ∧
      ExactBits gens ((simplify ncols numColsSat sys).1.getD m default)) ∧
    (∀ i k, (simplify ncols numColsSat sys).2 ≤ i → i < (simplify ncols numColsSat sys).1.length →
      (simplify ncols numColsSat sys).2 ≤ k → k < (simplify ncols numColsSat sys).1.length → k ≠ i →
      subsetOrEqual ((simplify ncols numColsSat sys).1.getD k default).sat
        ((simplify ncols numColsSat sys).1.getD i default).sat = false) :=
  simplify_result_facts ncols numColsSat sys gens hOK _ rfl

section
variable (ncols numColsSat : Nat) (rows : List LRow) (sat : List BRow) (gens : List LRow)
  (hsat : SatCorrect gens rows sat) (hsound : Sound rows gens)
  (hpiv : BackSubPivots (simpP ncols (zipSys rows sat)).2
    (List.range (simpP ncols (zipSys rows sat)).2).reverse (simpT ncols numColsSat (zipSys rows sat)))
include hsat hsound hpiv

/-- (c) no saturation row from `n` on is a subset of (or equal to) another. -/
theorem simplify_result_independent :
    let F := (simplify ncols numColsSat (zipSys rows sat)).1
    let n := (simplify ncols numColsSat (zipSys rows sat)).2
    ∀ i k, n ≤ i → i < F.length → n ≤ k → k < F.length → k ≠ i →
      subsetOrEqual (F.getD k default).sat (F.getD i default).sat = false :=
  (simplify_result_facts ncols numColsSat (zipSys rows sat) gens
    (zipSys_rowOK rows sat gens hsat hsound) _ rfl).2.2.2

end

/-- **no redundant inequality remains after `simplify`**: every inequality of the result is violated by some
integer vector (of length `≤ ncols`) that satisfies all the other rows. -/
theorem simplify_irredundant (ncols numColsSat : Nat) (rows : List LRow) (sat : List BRow)
    (gens : List LRow) (hsat : SatCorrect gens rows sat) (hsound : Sound rows gens)
    (hglen : ∀ g ∈ gens, g.v.length ≤ ncols) :
    ∀ i, (simplify ncols numColsSat (zipSys rows sat)).2 ≤ i →
      i < (simplify ncols numColsSat (zipSys rows sat)).1.length → ∃ x : Vec, x.length ≤ ncols ∧
      (∀ m, m < (simplify ncols numColsSat (zipSys rows sat)).1.length → m ≠ i →
        holds ((simplify ncols numColsSat (zipSys rows sat)).1.getD m default).row x) ∧
      ¬ holds ((simplify ncols numColsSat (zipSys rows sat)).1.getD i default).row x := by
  generalize hS : simplify ncols numColsSat (zipSys rows sat) = S
  obtain ⟨ha, he, hb, hc⟩ := simplify_result_facts ncols numColsSat (zipSys rows sat) gens
    (zipSys_rowOK rows sat gens hsat hsound) S hS
  exact irredundant_of_independent ncols gens S.2 S.1 hglen ha he hb hc

theorem simplify_result_irredundant (ncols numColsSat : Nat) (rows : List LRow) (sat : List BRow)
    (gens : List LRow) (hsat : SatCorrect gens rows sat) (hsound : Sound rows gens)
    (hncs : numColsSat = gens.length) (hglen : ∀ g ∈ gens, g.v.length ≤ ncols)
    (hpiv : BackSubPivots (simpP ncols (zipSys rows sat)).2
      (List.range (simpP ncols (zipSys rows sat)).2).reverse (simpT ncols numColsSat (zipSys rows sat))) :
    let F := (simplify ncols numColsSat (zipSys rows sat)).1
    let n := (simplify ncols numColsSat (zipSys rows sat)).2
    ∀ i, n ≤ i → i < F.length → ∃ x : Vec, x.length ≤ ncols ∧
      (∀ m, m < F.length → m ≠ i → holds (F.getD m default).row x) ∧ ¬ holds (F.getD i default).row x :=
  simplify_irredundant ncols numColsSat rows sat gens hsat hsound hglen

/-- the same for the list handed to `back_substitute`: no hypothesis on the pivots. -/
theorem simplify_phases_irredundant (ncols numColsSat : Nat) (rows : List LRow) (sat : List BRow)
    (gens : List LRow) (hsat : SatCorrect gens rows sat) (hsound : Sound rows gens)
    (hglen : ∀ g ∈ gens, g.v.length ≤ ncols) :
    let T := simpT ncols numColsSat (zipSys rows sat)
    let n := (simplify ncols numColsSat (zipSys rows sat)).2
    ∀ i, n ≤ i → i < T.length → ∃ x : Vec, x.length ≤ ncols ∧
      (∀ m, m < T.length → m ≠ i → holds (T.getD m default).row x) ∧ ¬ holds (T.getD i default).row x :=
  simpT_irredundant ncols numColsSat (zipSys rows sat) gens (zipSys_rowOK rows sat gens hsat hsound) hglen _
    (simplify_snd ncols numColsSat _)

/-- non-vacuity: the square `0 ≤ x ≤ 1, 0 ≤ y ≤ 1` with the redundant `x + y ≤ 3` (the instance at the end of
`ProofsCompleteSimp10.lean`): the hypotheses hold, `simplify` returns 4 rows and no equality, and each of the
four is violated by a vector satisfying the three others. -/
example :
    let rows : List LRow := [⟨false, [0, 1, 0]⟩, ⟨false, [1, -1, 0]⟩, ⟨false, [0, 0, 1]⟩, ⟨false, [1, 0, -1]⟩, ⟨false, [3, -1, -1]⟩]
    let gens : List LRow := [⟨false, [1, 0, 0]⟩, ⟨false, [1, 1, 0]⟩, ⟨false, [1, 0, 1]⟩, ⟨false, [1, 1, 1]⟩]
    let sat : List BRow := [[false, true, false, true], [true, false, true, false], [false, false, true, true],
                            [true, true, false, false], [true, true, true, true]]
    let F := (simplify 3 4 (zipSys rows sat)).1
    SatCorrect gens rows sat ∧ Sound rows gens ∧
    (simplify 3 4 (zipSys rows sat)).2 = 0 ∧ F.length = 4 ∧
    ∀ i, i < 4 → ∃ x : Vec, x.length ≤ 3 ∧
      (∀ m, m < F.length → m ≠ i → holds (F.getD m default).row x) ∧ ¬ holds (F.getD i default).row x := by
  intro rows gens sat F
  have hsat : SatCorrect gens rows sat := by
    refine ⟨by decide, ?_⟩
    have key : ∀ i (h : i < rows.length), ∀ j, j < 4 → bit (sat.getD i []) j =
        (decide (j < gens.length) && decide (scalarProduct (gens.getD j default).v rows[i].v ≠ 0)) := by
      decide
    have k2 : ∀ i, i < rows.length → (sat.getD i []).length ≤ 4 := by decide
    intro i hi j
    by_cases hj : j < 4
    · exact key i hi j hj
    · have hg : gens.length = 4 := rfl
      rw [bit_ge_length _ j (by have := k2 i hi; omega), hg]
      simp [hj]
  have hsound : Sound rows gens := by unfold Sound; decide
  have e : (simpP 3 (zipSys rows sat)).2 = 0 := by decide
  have h := simplify_irredundant 3 4 rows sat gens hsat hsound (by decide)
  have e2 : (simplify 3 4 (zipSys rows sat)).2 = 0 := e
  have e3 : F.length = 4 := by decide
  refine ⟨hsat, hsound, e2, e3, fun i hi => h i (by rw [e2]; exact Nat.zero_le _) (by rw [e3]; exact hi)⟩

end PPLV.Conv

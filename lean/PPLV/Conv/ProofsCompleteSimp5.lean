import PPLV.Conv.ProofsCompleteSimp4
/-!
# `simplify` drops only redundant rows: the saturation rule `satRuleLoop`

An inequality `d` with `num_saturators < num_columns - num_equalities - 1` (`Polyhedron_simplify_templates.hh:235-246`) is implied by the
other rows: otherwise (`Abs.satrule_rank`) `ncols = dim (ambient ncols) ≤ (nle + 1) + numSaturators d`.
One removed row at a time, so the invariant `PhaseInv` is carried along the loop.

The unsigned subtraction must not wrap: `nle + 1 ≤ ncols` (the equalities after `gauss` are independent and
do not force the zero vector) is a hypothesis here.
-/
namespace PPLV.Conv
open PPLV.Conv.Abs

theorem PhaseInv.removeRowAt {ncols : Nat} {gens : List LRow} {nle : Nat} {rows : List SRow}
    (hI : PhaseInv ncols gens nle rows) (i : Nat) (hi : nle ≤ i) (hil : i < rows.length)
    (hred : ∀ x : Vec, x.length ≤ ncols → holdsAll ((removeRowAt rows i).map (·.row)) x →
      holdsAll (rows.map (·.row)) x) :
    PhaseInv ncols gens nle (removeRowAt rows i) :=
  (hI.minInv.of_sub (GInv_of_take nle _ rows (take_removeRowAt rows i nle hil hi) hI.ginv)
    (mem_drop_removeRowAt rows i nle hi) (mem_removeRowAt rows i)).phaseInv
    (fun x hx h => hI.complete x hx (hred x hx h))

/-- one removal of the saturation rule. -/
theorem satRule_step (ncols : Nat) (gens : List LRow) (nle : Nat) (rows : List SRow) (i : Nat)
    (hglen : ∀ g ∈ gens, g.v.length ≤ ncols) (hI : PhaseInv ncols gens nle rows)
    (hi : nle ≤ i) (hil : i < rows.length) (hnc : nle + 1 ≤ ncols) (hsz : ncols < 2 ^ 64)
    (htest : numSaturators gens.length (rows.getD i default) < usub (usub ncols nle) 1) :
    ∀ x : Vec, x.length ≤ ncols → holdsAll ((removeRowAt rows i).map (·.row)) x →
      holdsAll (rows.map (·.row)) x := by
  have dd := ddpair_of_rows ncols (rows.map (·.row)) gens hglen hI.sound hI.complete
  obtain ⟨p, hpC, hpos⟩ := exists_interior_rows (rows.map (·.row)) gens hI.sound
  have hdr : rows.getD i default ∈ rows := getD_mem_of_lt rows i hil
  have hdm : rows.getD i default ∈ rows.drop nle :=
    (mem_drop_iff_getElem? _ _ _).2 ⟨i, hi, getElem?_of_lt_getD rows i default hil⟩
  obtain ⟨d, hdef⟩ : ∃ d, d = rows.getD i default := ⟨_, rfl⟩
  rw [← hdef] at htest hdr hdm
  obtain ⟨hle, _, hex⟩ := hI.ineq d hdm
  intro x hx hout
  have hd : holds d.row x := by
    by_contra hnot
    rw [holds_iff_abs] at hnot
    rw [holdsAll_iff_abs] at hout
    have key := satrule_rank dd (conOf d.row) hle ((mem_conRows _ _).2 ⟨d, hdr, rfl⟩)
      (A' := ((removeRowAt rows i).map (·.row)).map conOf) ?_ p hpC ?_
      (((rows.take nle).map (·.row)).map conOf) ?_ (satList gens d) ?_ ?_
      (emb x) (emb_mem_ambient ncols x hx) hout hnot
    · rw [finrank_ambient, length_satList hex] at key
      have hlen : (((rows.take nle).map (·.row)).map conOf).length = nle := by
        simp only [List.length_map, List.length_take]
        exact Nat.min_eq_left hI.ginv.1
      rw [hlen] at key
      have e1 : usub ncols nle = ncols - nle := usub_eq ncols nle hsz (by omega)
      have e2 : usub (ncols - nle) 1 = ncols - nle - 1 :=
        usub_eq (ncols - nle) 1 (lt_of_le_of_lt (Nat.sub_le _ _) hsz) (by omega)
      rw [e1, e2] at htest
      omega
    · -- every row is `d` or is still there
      intro a ha
      obtain ⟨s, hs, rfl⟩ := (mem_conRows _ a).1 ha
      rcases mem_removeRowAt_or rows i hil s hs with h1 | h1
      · exact Or.inr ((mem_conRows _ _).2 ⟨s, h1, rfl⟩)
      · left; rw [h1, ← hdef]
    · -- every inequality is positive at `p`
      intro a ha he
      obtain ⟨s, hs, rfl⟩ := (mem_conRows _ a).1 ha
      rcases mem_take_or_drop rows nle s hs with h1 | h1
      · have := hI.ginv.le_of_mem_take s h1
        rw [conOf_eq, this] at he; cases he
      · exact hpos _ ha (hI.ray s h1)
    · -- the equalities are the first `nle` rows
      intro a ha he
      obtain ⟨s, hs, rfl⟩ := (mem_conRows _ a).1 ha
      rcases mem_take_or_drop rows nle s hs with h1 | h1
      · exact (mem_conRows _ _).2 ⟨s, h1, rfl⟩
      · rw [conOf_eq, (hI.ineq s h1).1] at he; cases he
    · rintro l ⟨g, hg, hgl, rfl⟩
      exact mem_satList hex g hg
        ((satisfies_abs d.row g (hI.sound g hg d.row (List.mem_map.2 ⟨d, hdr, rfl⟩))).2 (Or.inr hgl))
    · rintro r ⟨g, hg, _, rfl⟩ h0
      exact mem_satList hex g hg h0
  rw [holdsAll_map_iff] at hout ⊢
  intro s hs
  rcases mem_removeRowAt_or rows i hil s hs with h1 | h1
  · exact hout s h1
  · rw [h1, ← hdef]; exact hd

theorem satRuleLoop_succ (n a b : Nat) (rows : List SRow) (i : Nat) :
    satRuleLoop (n + 1) a b rows i =
      if i < rows.length then
        if numSaturators a (rows.getD i default) < b then satRuleLoop n a b (removeRowAt rows i) i
        else satRuleLoop n a b rows (i + 1)
      else rows := by
  rw [satRuleLoop]

/-- the saturation rule, the whole loop: the invariant is kept and only redundant rows go. -/
theorem satRuleLoop_inv (ncols : Nat) (gens : List LRow) (nle : Nat)
    (hglen : ∀ g ∈ gens, g.v.length ≤ ncols) (hnc : nle + 1 ≤ ncols) (hsz : ncols < 2 ^ 64) :
    ∀ (fuel : Nat) (rows : List SRow) (i : Nat), nle ≤ i → PhaseInv ncols gens nle rows →
      PhaseInv ncols gens nle (satRuleLoop fuel gens.length (usub (usub ncols nle) 1) rows i) ∧
      ∀ x : Vec, x.length ≤ ncols →
        holdsAll ((satRuleLoop fuel gens.length (usub (usub ncols nle) 1) rows i).map (·.row)) x →
        holdsAll (rows.map (·.row)) x
  | 0, rows, i => fun _ hI => ⟨hI, fun _ _ h => h⟩
  | n + 1, rows, i => fun hi hI => by
    rw [satRuleLoop_succ]
    split
    · rename_i hil
      split
      · rename_i htest
        have hstep := satRule_step ncols gens nle rows i hglen hI hi hil hnc hsz htest
        obtain ⟨h1, h2⟩ := satRuleLoop_inv ncols gens nle hglen hnc hsz n (removeRowAt rows i) i hi
          (hI.removeRowAt i hi hil hstep)
        exact ⟨h1, fun x hx h => hstep x hx (h2 x hx h)⟩
      · exact satRuleLoop_inv ncols gens nle hglen hnc hsz n rows (i + 1) (by omega) hI
    · exact ⟨hI, fun _ _ h => h⟩

/-- **the saturation rule keeps the set**: `holdsAll (output) x ↔ holdsAll (input) x` for `x.length ≤ ncols`
(`numColsSat = gens.length`, `minSat = usub (usub ncols nle) 1` as in `simplify`). -/
theorem satRuleLoop_same_set (ncols : Nat) (gens : List LRow) (nle : Nat) (rows : List SRow) (fuel : Nat)
    (hglen : ∀ g ∈ gens, g.v.length ≤ ncols) (hI : PhaseInv ncols gens nle rows)
    (hnc : nle + 1 ≤ ncols) (hsz : ncols < 2 ^ 64) :
    ∀ x : Vec, x.length ≤ ncols →
      (holdsAll ((satRuleLoop fuel gens.length (usub (usub ncols nle) 1) rows nle).map (·.row)) x ↔
        holdsAll (rows.map (·.row)) x) := by
  intro x hx
  refine ⟨(satRuleLoop_inv ncols gens nle hglen hnc hsz fuel rows nle (Nat.le_refl _) hI).2 x hx,
    fun h => ?_⟩
  rw [holdsAll_map_iff] at h ⊢
  exact fun s hs => h s (satRuleLoop_mem fuel _ _ rows nle s hs)

end PPLV.Conv

import PPLV.Conv.ProofsCompleteRay5
/-!
# one `rayCase` keeps the whole invariant
-/
namespace PPLV.Conv
open PPLV.Conv.Abs

/-- the part of the invariant that does not mention the constraints. -/
structure CExtraRows (ncols : Nat) (st : CState) : Prop where
  inU : ∀ d ∈ st.rows, emb d.row.v ∈ ambient ncols
  antichain : SatAntichain st.nle st.rows
  proper : SatProper st.nle st.rows
  rank : st.nle ≤ Module.finrank ℚ (Submodule.span ℚ (linesOf st.gens))

theorem rayCase_extraRows (ncols : Nat) (srcK : LRow) (kept : List LRow) (st st' : CState) (R : List DRow)
    (leb sup : Nat) (C : RayCtx ncols srcK kept st R leb sup)
    (S : RayShape ncols srcK kept.length st st' R leb sup) (hnle : st'.nle = st.nle) :
    CExtraRows ncols st' := by
  obtain ⟨t, ht, hrows⟩ := S
  have hn := C.H.hn
  have hlenT : (st.rows.take st.nle).length = st.nle := by rw [List.length_take]; exact Nat.min_eq_left hn
  have hdrop : st'.rows.drop st.nle =
      ((R.take (if srcK.le then leb else sup)).drop st.nle).map
        (keepImage (!srcK.le && st.rows.any (fun d => decide (d.sp < 0))) kept.length) ++ t := by
    rw [hrows, List.drop_left' hlenT]
  -- the three kinds of rows
  have hcases : ∀ d' ∈ st'.rows, d' ∈ st.rows.take st.nle ∨
      (∃ d ∈ (R.take (if srcK.le then leb else sup)).drop st.nle,
        d' = keepImage (!srcK.le && st.rows.any (fun d => decide (d.sp < 0))) kept.length d) ∨
      d' ∈ newRays ncols st.nle kept.length leb sup st.rows.length R := by
    intro d' hd'
    rw [hrows] at hd'
    rcases List.mem_append.mp hd' with h | h
    · exact Or.inl h
    · rcases List.mem_append.mp h with h | h
      · obtain ⟨d, hd, rfl⟩ := List.mem_map.mp h
        exact Or.inr (Or.inl ⟨d, hd, rfl⟩)
      · exact Or.inr (Or.inr (ht.mem_iff.mp h))
  have hnl := C.P.h1
  refine ⟨?_, ?_, ?_, ?_⟩
  · intro d' hd'
    rcases hcases d' hd' with h | ⟨d, hd, rfl⟩ | h
    · exact C.X.inU d' (List.mem_of_mem_take h)
    · obtain ⟨_, _, _, _, hdm, _⟩ := C.kept_part hd
      rw [keepImage_row]
      exact C.X.inU d (List.mem_of_mem_drop hdm)
    · obtain ⟨i, j, di, dj, hi1, _, hj1, _, ei, ej, hpos, hneg, _, rfl⟩ := C.newRay_mem h
      obtain ⟨mi, _, _⟩ := C.ray (by omega : st.nle ≤ i) ei
      obtain ⟨mj, hjle, _⟩ := C.ray (by have := C.P.h2; omega : st.nle ≤ j) ej
      obtain ⟨a, b, _, _, he, _⟩ := emb_newRay di dj (bor di.sat dj.sat) hpos hneg hjle
      rw [he]
      exact Submodule.add_mem _ (Submodule.smul_mem _ _ (C.X.inU di mi)) (Submodule.smul_mem _ _ (C.X.inU dj mj))
  · rw [hnle, satAntichain_iff_pairwise, hdrop, List.pairwise_append]
    refine ⟨C.kept_pairwise _ _, ?_, ?_⟩
    · exact (ht.pairwise_iff (fun {a b} hab => satRel_symm hab)).mpr C.newRays_pairwise
    · intro a ha b hb
      obtain ⟨d, hd, rfl⟩ := List.mem_map.mp ha
      exact C.kept_new hd (ht.mem_iff.mp hb)
  · rw [hnle, satProper_iff, hdrop]
    intro d' hd'
    rcases List.mem_append.mp hd' with h | h
    · obtain ⟨d, hd, rfl⟩ := List.mem_map.mp h
      obtain ⟨_, _, _, _, hdm, _⟩ := C.kept_part hd
      obtain ⟨m', hm1, hm2⟩ := (mem_drop_iff_getElem? _ _ _).mp hdm
      obtain ⟨k, hk⟩ := (bitsEmpty_false_iff _).mp (C.X.proper m' d hm1 hm2)
      exact (bitsEmpty_false_iff _).mpr ⟨k, bit_keepImage_ge _ _ _ _ hk⟩
    · obtain ⟨i, j, di, dj, hi1, _, _, _, ei, _, _, _, _, rfl⟩ := C.newRay_mem (ht.mem_iff.mp h)
      obtain ⟨mi, _, _⟩ := C.ray (by omega : st.nle ≤ i) ei
      have hdi : di ∈ st.rows.drop st.nle := (C.P.at i di (by omega) ei).1
      obtain ⟨m', hm1, hm2⟩ := (mem_drop_iff_getElem? _ _ _).mp hdi
      obtain ⟨k, hk⟩ := (bitsEmpty_false_iff _).mp (C.X.proper m' di hm1 hm2)
      rw [newRay_sat]
      exact (bitsEmpty_false_iff _).mpr ⟨k, by rw [bit_bor, hk]; rfl⟩
  · have heq : linesOf st'.gens = linesOf st.gens := by
      ext x
      constructor
      · rintro ⟨r, hr, hle, rfl⟩
        obtain ⟨d', hd', rfl⟩ := (mem_gens_iff st' r).mp hr
        rcases hcases d' hd' with h | ⟨d, hd, rfl⟩ | h
        · exact ⟨d'.row, (mem_gens_iff st d'.row).mpr ⟨d', List.mem_of_mem_take h, rfl⟩, hle, rfl⟩
        · exfalso
          obtain ⟨m, hm1, _, em, _, _⟩ := C.kept_part hd
          rw [keepImage_row, (C.ray hm1 em).2.1] at hle; cases hle
        · exfalso
          obtain ⟨i, j, di, dj, _, _, hj1, _, _, ej, hpos, hneg, _, rfl⟩ := C.newRay_mem h
          have hjle := (C.ray (by have := C.P.h2; omega : st.nle ≤ j) ej).2.1
          obtain ⟨_, _, _, _, _, _, _, hnle', _⟩ := sp_newRay di dj (bor di.sat dj.sat) hpos hneg hjle
          rw [hnle'] at hle; cases hle
      · intro hx
        rw [linesOf_eq_take st C.H.hl] at hx
        obtain ⟨d, hd, rfl⟩ := List.mem_map.mp hx
        obtain ⟨m, hmn, hm⟩ := (mem_take_iff_getElem? _ _ _).mp hd
        refine ⟨d.row, (mem_gens_iff st' d.row).mpr ⟨d, ?_, rfl⟩, ?_, rfl⟩
        · rw [hrows]; exact List.mem_append_left _ hd
        · rw [C.H.hl m d hm]; simpa using hmn
    rw [hnle, heq]
    exact C.X.rank

/-- **one `rayCase` keeps `CExtra`**, whichever way the new row is classified. -/
theorem rayCase_extra (ncols : Nat) (srcK : LRow) (kept : List LRow) (st : CState) (H : StepHyp srcK st kept)
    (hz : ∀ d ∈ st.rows.take st.nle, d.sp = 0) (hsat : RowsSatCorrect kept st.rows) (X : CExtra ncols kept st)
    [FiniteDimensional ℚ (ambient ncols)] (hfr : Module.finrank ℚ (ambient ncols) = ncols)
    (hsz : ncols < 2 ^ 64) (hkz : kept.length < 2 ^ 64) :
    let st' := rayCase ncols srcK kept.length st
    (st'.redundant = st.redundant → CExtra ncols (kept ++ [srcK]) st') ∧
    (st'.redundant = st.redundant ++ [st.k] → CExtra ncols kept st') := by
  intro st'
  obtain ⟨R, leb, sup, P, S⟩ := rayCase_shape ncols srcK kept.length st H.hn hz
  obtain ⟨hnle, _, hred, _⟩ := rayCase_rows ncols srcK kept.length st H.hn hz
  have C : RayCtx ncols srcK kept st R leb sup := ⟨H, hsat, X, P⟩
  have E := rayCase_extraRows ncols srcK kept st st' R leb sup C S hnle
  have core := rayCase_complete_core ncols srcK kept st st' R leb sup C S hfr hsz hkz
  constructor
  · intro _
    refine ⟨E.inU, ?_, E.antichain, E.proper, E.rank⟩
    intro y hyU hy
    obtain ⟨h1, h2⟩ := (inP_append_singleton kept srcK y).mp hy
    exact core y hyU h1 h2
  · intro hr
    refine ⟨E.inU, ?_, E.antichain, E.proper, E.rank⟩
    intro y hyU hy
    apply core y hyU hy
    -- the row found redundant holds on everything generated
    have hcond : (!srcK.le && st.rows.all (fun d => decide (0 ≤ d.sp))) = true := by
      by_contra hc
      rw [if_neg hc] at hred
      have hr' : st'.redundant = st.redundant ++ [st.k] := hr
      rw [hred] at hr'
      have := congrArg List.length hr'
      simp at this
    have hle : srcK.le = false := by
      have := (Bool.and_eq_true _ _).mp hcond
      simpa using this.1
    have hall : ∀ d ∈ st.rows, 0 ≤ d.sp := by
      have := ((Bool.and_eq_true _ _).mp hcond).2
      intro d hd
      simpa using (List.all_eq_true.mp this) d hd
    have hy1 := X.complete y hyU hy
    have := Cone.inP [conOf srcK] (L := linesOf st.gens) (R := raysOf st.gens)
      (by intro l hl a ha
          have : a = conOf srcK := by simpa using ha
          rw [this]; exact C.lines_zero l hl)
      (by intro r hr a ha
          have : a = conOf srcK := by simpa using ha
          rw [this]
          obtain ⟨d, hd, rfl⟩ := (raysOf_iff st H.hl r).mp hr
          have hdm := List.mem_of_mem_drop hd
          rw [C.holds_iff_survives hdm]
          unfold survives
          simp only [hle, Bool.false_eq_true, if_false]
          exact hall d hdm) hy1
    exact this _ (by simp)

end PPLV.Conv

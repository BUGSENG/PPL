import PPLV.Conv.ProofsCompleteMinimal1
import PPLV.Conv.ProofsCompleteMin
import Mathlib.Tactic.LinearCombination
/-!
# every non-tautological inequality of a minimal system is saturated by a point

Setting: `rows` (the `n` equalities first) and `gens` a double description pair whose inequalities are
irredundant and not saturated by every generator, positivity (`x_0 ≥ 0`) entailed, a point among the
generators, the equalities in reduced form with pivot columns `J p ≠ 0` at which the inequalities are
zero.  If no POINT saturated the inequality `c`, the facet of `c` would lie in `{x_0 = 0}`; then
`b·c = a·x_0` on the solutions of the equalities, hence everywhere (reduced form): `c` is a tautology.
-/
namespace PPLV.Conv
open PPLV.Conv.Abs

theorem holds_of_le {r : LRow} (h : r.le = true) (x : Vec) : holds r x ↔ scalarProduct r.v x = 0 := by
  unfold holds; rw [if_pos h]

theorem holds_of_not_le {r : LRow} (h : r.le = false) (x : Vec) : holds r x ↔ 0 ≤ scalarProduct r.v x := by
  unfold holds; rw [h, if_neg Bool.false_ne_true]

theorem natAbs_le_sum (w : Vec) : ∀ (rows : List LRow) (r : LRow), r ∈ rows →
    (scalarProduct r.v w).natAbs ≤ (rows.map fun r => (scalarProduct r.v w).natAbs).sum
  | [], _, h => by cases h
  | t :: rows, r, h => by
    simp only [List.map_cons, List.sum_cons]
    rcases List.mem_cons.mp h with rfl | h
    · omega
    · have := natAbs_le_sum w rows r h; omega

theorem holdsAll_of_idx (rows : List LRow) (x : Vec)
    (h : ∀ m, m < rows.length → holds (rows.getD m default) x) : holdsAll rows x := by
  intro r hr
  obtain ⟨m, hm⟩ := List.mem_iff_getElem?.mp hr
  have hml : m < rows.length := (List.getElem?_eq_some_iff.1 hm).1
  have := h m hml
  rwa [List.getD_eq_getElem?_getD, hm] at this

/-- the two integer facts behind the perturbations: a combination with a term `≥ 1` scaled by `B ≥ 1`
stays `≥ 1`; a term `≥ 1` scaled by `M` absorbs any `t` with `|t| < M`. -/
theorem one_le_comb {A B x y : Int} (hA : 0 ≤ A) (hx : 0 ≤ x) (hB : 1 ≤ B) (hy : 1 ≤ y) :
    1 ≤ A * x + B * y := by
  have h1 := Int.mul_nonneg hA hx
  have h2 : B * 1 ≤ B * y := Int.mul_le_mul_of_nonneg_left hy (by omega)
  omega

theorem absorb {M z t : Int} (hz : 1 ≤ z) (ht : |t| < M) : 0 ≤ M * z + t ∧ 0 ≤ M * z - t := by
  have h := abs_lt.mp ht
  have h2 : M * 1 ≤ M * z := Int.mul_le_mul_of_nonneg_left hz (by omega)
  constructor <;> omega

/-- a point in the relative interior of the facet of the irredundant inequality `rows[i]`: it saturates the
equalities and `rows[i]` and is strictly inside every other inequality.  (`A • v + B • p` with `p` the sum of the
generators, strictly inside every inequality, and `v` a vector violating `rows[i]` only.) -/
theorem facet_interior (ncols : Nat) (gens rows : List LRow) (n : Nat)
    (hglen : ∀ g ∈ gens, g.v.length ≤ ncols)
    (hsound : ∀ r ∈ rows, ∀ g ∈ gens, satisfies r g)
    (heq : ∀ m, m < n → (rows.getD m default).le = true)
    (hineq : ∀ m, n ≤ m → m < rows.length → (rows.getD m default).le = false)
    (hproper : ∀ m, n ≤ m → m < rows.length → ∃ g ∈ gens, 0 < scalarProduct (rows.getD m default).v g.v)
    (i : Nat) (hi1 : n ≤ i) (hi2 : i < rows.length)
    (hirr : ∃ v : Vec, v.length ≤ ncols ∧ (∀ m, m < rows.length → m ≠ i → holds (rows.getD m default) v) ∧
      ¬ holds (rows.getD i default) v) :
    ∃ z : Vec, z.length ≤ ncols ∧ (∀ m, m < n → scalarProduct (rows.getD m default).v z = 0) ∧
      scalarProduct (rows.getD i default).v z = 0 ∧
      ∀ m, n ≤ m → m < rows.length → m ≠ i → 1 ≤ scalarProduct (rows.getD m default).v z := by
  have hrow_eq : ∀ m, m < n → ∀ g ∈ gens, scalarProduct (rows.getD m default).v g.v = 0 := fun m hm g hg =>
    satisfies_line_zero _ g (hsound _ (getD_mem_of_lt rows m (by omega)) g hg) (Or.inl (heq m hm))
  have hrow_nn : ∀ m, m < rows.length → ∀ g ∈ gens, 0 ≤ scalarProduct (rows.getD m default).v g.v :=
    fun m hml g hg => satisfies_nonneg _ g (hsound _ (getD_mem_of_lt rows m hml) g hg)
  -- the sum of the generators
  have hp_eq : ∀ m, m < n → scalarProduct (rows.getD m default).v (vsumOf gens) = 0 :=
    fun m hm => sp_vsumOf_zero _ gens (hrow_eq m hm)
  have hp_pos : ∀ m, n ≤ m → m < rows.length → 1 ≤ scalarProduct (rows.getD m default).v (vsumOf gens) :=
    fun m hm1 hm2 => sp_vsumOf_pos _ gens (hrow_nn m hm2) (hproper m hm1 hm2)
  -- the vector violating only `rows[i]`
  obtain ⟨v, hvlen, hvo, hvc⟩ := hirr
  have hcv : scalarProduct (rows.getD i default).v v < 0 :=
    Int.not_le.mp (mt (holds_of_not_le (hineq i hi1 hi2) v).mpr hvc)
  have hv_eq : ∀ m, m < n → scalarProduct (rows.getD m default).v v = 0 :=
    fun m hm => (holds_of_le (heq m hm) v).mp (hvo m (by omega) (by omega))
  have hv_nn : ∀ m, n ≤ m → m < rows.length → m ≠ i → 0 ≤ scalarProduct (rows.getD m default).v v :=
    fun m hm1 hm2 hmi => (holds_of_not_le (hineq m hm1 hm2) v).mp (hvo m hm2 hmi)
  have hApos := hp_pos i hi1 hi2
  refine ⟨linearCombine (scalarProduct (rows.getD i default).v (vsumOf gens))
    (- scalarProduct (rows.getD i default).v v) v (vsumOf gens), ?_, fun m hm => ?_, ?_, fun m hm1 hm2 hmi => ?_⟩
  · rw [length_linearCombine]
    have := length_vsumOf ncols gens hglen
    omega
  · rw [sp_linearCombine, hv_eq m hm, hp_eq m hm, mul_zero, mul_zero, add_zero]
  · rw [sp_linearCombine]; ring
  · rw [sp_linearCombine]
    exact one_le_comb (by omega) (hv_nn m hm1 hm2 hmi) (by omega) (hp_pos m hm1 hm2)

/-- **the facet of a non-tautological irredundant inequality holds a point.** -/
theorem facet_point_core (ncols : Nat) (gens rows : List LRow) (n : Nat) (J : Nat → Nat)
    (hglen : ∀ g ∈ gens, g.v.length ≤ ncols)
    (hsound : ∀ r ∈ rows, ∀ g ∈ gens, satisfies r g)
    (hcomp : ∀ x : Vec, x.length ≤ ncols → holdsAll rows x → Generated gens x)
    (heq : ∀ m, m < n → (rows.getD m default).le = true)
    (hineq : ∀ m, n ≤ m → m < rows.length → (rows.getD m default).le = false)
    (hproper : ∀ m, n ≤ m → m < rows.length → ∃ g ∈ gens, 0 < scalarProduct (rows.getD m default).v g.v)
    (hpos : ∀ x : Vec, x.length ≤ ncols → holdsAll rows x → 0 ≤ x.getD 0 0)
    (hpt : ∃ g ∈ gens, g.le = false ∧ 0 < g.v.getD 0 0)
    (hJz : ∀ p, p < n → ∀ m, n ≤ m → m < rows.length → (rows.getD m default).v.getD (J p) 0 = 0)
    (hJ0 : ∀ p, p < n → J p ≠ 0)
    (hK : ∀ d : Vec, (∀ p, p < n → d.getD (J p) 0 = 0) →
      (∀ x : Vec, x.length ≤ ncols → (∀ p, p < n → scalarProduct (rows.getD p default).v x = 0) → scalarProduct d x = 0) →
      ∀ x : Vec, x.length ≤ ncols → scalarProduct d x = 0)
    (i : Nat) (hi1 : n ≤ i) (hi2 : i < rows.length)
    (hilen : (rows.getD i default).v.length ≤ ncols)
    (hirr : ∃ v : Vec, v.length ≤ ncols ∧ (∀ m, m < rows.length → m ≠ i → holds (rows.getD m default) v) ∧
      ¬ holds (rows.getD i default) v)
    (hnt : ¬ ((∀ j, 1 ≤ j → (rows.getD i default).v.getD j 0 = 0) ∧ 0 ≤ (rows.getD i default).v.getD 0 0)) :
    ∃ g ∈ gens, g.le = false ∧ 0 < g.v.getD 0 0 ∧ scalarProduct (rows.getD i default).v g.v = 0 := by
  by_contra hcon
  have hA : ∀ g ∈ gens, g.le = false → scalarProduct (rows.getD i default).v g.v = 0 → g.v.getD 0 0 ≤ 0 := by
    intro g hg hle hz
    by_contra hc
    exact hcon ⟨g, hg, hle, by omega, hz⟩
  set c := rows.getD i default with hc
  have hcmem : c ∈ rows := getD_mem_of_lt rows i hi2
  have hcle : c.le = false := hineq i hi1 hi2
  -- generators belong to the cone
  have hgK : ∀ g ∈ gens, holdsAll rows g.v := fun g hg r hr => satisfies_holds r g (hsound r hr g hg)
  have hg0 : ∀ g ∈ gens, 0 ≤ g.v.getD 0 0 := fun g hg => hpos g.v (hglen g hg) (hgK g hg)
  have hline0 : ∀ g ∈ gens, g.le = true → g.v.getD 0 0 = 0 := by
    intro g hg hle
    have h1 := hg0 g hg
    have h2 := hpos (g.v.map (- ·)) (by simpa using hglen g hg) (by
      intro r hr
      have hz := satisfies_line_zero r g (hsound r hr g hg) (Or.inr hle)
      unfold holds
      rw [sp_neg, hz]
      split <;> simp)
    rw [getD_map_neg] at h2
    omega
  -- row facts by index
  have hrow_eq : ∀ m, m < n → ∀ g ∈ gens, scalarProduct (rows.getD m default).v g.v = 0 := by
    intro m hm g hg
    have hml : m < rows.length := by omega
    exact satisfies_line_zero _ g (hsound _ (getD_mem_of_lt rows m hml) g hg) (Or.inl (heq m hm))
  -- the point `z` in the relative interior of the facet of `c`
  obtain ⟨z, hzlen, hz_eq, hz_c, hz_pos⟩ := facet_interior ncols gens rows n hglen hsound heq hineq hproper
    i hi1 hi2 hirr
  have hzK : holdsAll rows z := by
    apply holdsAll_of_idx
    intro m hml
    by_cases hmn : m < n
    · exact (holds_of_le (heq m hmn) z).mpr (hz_eq m hmn)
    · rw [holds_of_not_le (hineq m (by omega) hml)]
      by_cases hmi : m = i
      · rw [hmi, ← hc, hz_c]
      · exact le_trans Int.one_nonneg (hz_pos m (by omega) hml hmi)
  -- `z_0 = 0`
  have hz0 : z.getD 0 0 = 0 := by
    have h1 := hpos z hzlen hzK
    have hcone := cone_of_generated gens z (hcomp z hzlen hzK)
    have hsc : Sound [c] gens := fun g hg s hs => by
      rw [List.mem_singleton.mp hs]; exact hsound c hcmem g hg
    have hf := Cone.face [conOf c] hsc.lines_zero hsc.rays_inP hcone
    have h2 := cone_col_nonpos (linesOf gens) {r | r ∈ raysOf gens ∧ SatSub [conOf c] (emb z) r} (colVec 0) ?_ ?_ hf
    · rw [emb_colVec] at h2
      have : z.getD 0 0 ≤ 0 := by exact_mod_cast h2
      omega
    · rintro l ⟨g, hg, hle, rfl⟩
      rw [emb_colVec, hline0 g hg hle]; simp
    · rintro r ⟨⟨g, hg, hle, rfl⟩, hsub⟩
      rw [emb_colVec]
      have hsz := hsub (conOf c) (by simp) (by rw [conOf_f_emb, hz_c]; simp)
      rw [conOf_f_emb] at hsz
      have := hA g hg hle (by exact_mod_cast hsz)
      exact_mod_cast this
  -- (∗) on the kernel of the equalities and of `c`, column 0 vanishes
  have hstar : ∀ w : Vec, w.length ≤ ncols → (∀ m, m < n → scalarProduct (rows.getD m default).v w = 0) →
      scalarProduct c.v w = 0 → w.getD 0 0 = 0 := by
    intro w hwlen hwE hwc
    set M : Int := 1 + ((rows.map fun r => (scalarProduct r.v w).natAbs).sum : Nat) with hM
    have hMpos : 0 < M := by rw [hM]; omega
    have hbound : ∀ m, m < rows.length → |scalarProduct (rows.getD m default).v w| < M := by
      intro m hml
      have := natAbs_le_sum w rows _ (getD_mem_of_lt rows m hml)
      rw [hM, Int.abs_eq_natAbs]
      omega
    have key : ∀ s : Int, (s = 1 ∨ s = -1) → 0 ≤ s * w.getD 0 0 := by
      intro s hs
      set u := linearCombine M s z w with hu
      have hulen : u.length ≤ ncols := by rw [hu, length_linearCombine]; omega
      have huK : holdsAll rows u := by
        apply holdsAll_of_idx
        intro m hml
        by_cases hmn : m < n
        · rw [holds_of_le (heq m hmn), hu, sp_linearCombine, hz_eq m hmn, hwE m hmn, mul_zero, mul_zero, add_zero]
        · rw [holds_of_not_le (hineq m (by omega) hml), hu, sp_linearCombine]
          by_cases hmi : m = i
          · rw [hmi, ← hc, hz_c, hwc, mul_zero, mul_zero, add_zero]
          · have h := absorb (hz_pos m (by omega) hml hmi) (hbound m hml)
            rcases hs with rfl | rfl
            · rw [one_mul]; exact h.1
            · rw [neg_one_mul, ← sub_eq_add_neg]; exact h.2
      have := hpos u hulen huK
      rwa [hu, getD_linearCombine, hz0, mul_zero, zero_add] at this
    have k1 := key 1 (Or.inl rfl)
    have k2 := key (-1) (Or.inr rfl)
    omega
  -- `a · x_0 = b · (c x)` on the kernel of the equalities
  obtain ⟨g1, hg1, hg1pos⟩ := hproper i hi1 hi2
  rw [← hc] at hg1pos
  set a := scalarProduct c.v g1.v with ha
  set b := g1.v.getD 0 0 with hb
  have hrel : ∀ x : Vec, x.length ≤ ncols → (∀ m, m < n → scalarProduct (rows.getD m default).v x = 0) →
      a * x.getD 0 0 = scalarProduct c.v x * b := by
    intro x hxlen hxE
    have := hstar (linearCombine a (- scalarProduct c.v x) x g1.v)
      (by rw [length_linearCombine]; have := hglen g1 hg1; omega)
      (by intro m hm; rw [sp_linearCombine, hxE m hm, hrow_eq m hm g1 hg1]; ring)
      (by rw [sp_linearCombine]; ring)
    rw [getD_linearCombine] at this
    linear_combination this
  obtain ⟨gp, hgp, hgple, hgp0⟩ := hpt
  have hbpos : 0 < b := by
    have h1 := hrel gp.v (hglen gp hgp) (fun m hm => hrow_eq m hm gp hgp)
    have h2 : 0 ≤ b := hg0 g1 hg1
    rcases Int.lt_or_eq_of_le h2 with h | h
    · exact h
    · exfalso
      rw [← h] at h1
      have : 0 < a * gp.v.getD 0 0 := Int.mul_pos hg1pos hgp0
      omega
  have hncols : 0 < ncols := by
    have h1 : 0 < gp.v.length := by
      by_contra hcz
      have hnil : gp.v = [] := List.length_eq_zero_iff.mp (by omega)
      rw [hnil] at hgp0
      simp at hgp0
    have h2 := hglen gp hgp
    omega
  -- the form `d = b·c − a·x_0`
  set d := linearCombine b (-a) c.v (colVec 0) with hd
  have hcol0 : ∀ j, j ≠ 0 → (colVec 0).getD j 0 = 0 := by
    intro j hj
    cases j with
    | zero => exact absurd rfl hj
    | succ j => simp [colVec]
  have hdJ : ∀ p, p < n → d.getD (J p) 0 = 0 := by
    intro p hp
    rw [hd, getD_linearCombine, hc, hJz p hp i hi1 hi2, hcol0 _ (hJ0 p hp)]; ring
  have hdker : ∀ x : Vec, x.length ≤ ncols →
      (∀ p, p < n → scalarProduct (rows.getD p default).v x = 0) → scalarProduct d x = 0 := by
    intro x hxlen hxE
    rw [sp_comm, hd, sp_linearCombine, sp_comm x c.v, sp_comm x (colVec 0), sp_colVec]
    linear_combination -hrel x hxlen hxE
  have hdall := hK d hdJ hdker
  have hdj : ∀ j, j < ncols → b * c.v.getD j 0 - a * (colVec 0).getD j 0 = 0 := by
    intro j hj
    have := hdall (unitV ncols j) (by rw [unitV_length])
    rw [sp_unit ncols j d hj, hd, getD_linearCombine] at this
    linear_combination this
  apply hnt
  constructor
  · intro j hj
    by_cases hjn : j < ncols
    · have := hdj j hjn
      rw [hcol0 j (by omega), mul_zero, sub_zero] at this
      rcases Int.mul_eq_zero.mp this with h | h
      · omega
      · exact h
    · rw [List.getD_eq_getElem?_getD, List.getElem?_eq_none (by omega)]; rfl
  · have := hdj 0 hncols
    have h0 : (colVec 0).getD 0 0 = 1 := by simp [colVec]
    rw [h0] at this
    by_contra hneg
    have hlt : c.v.getD 0 0 < 0 := by omega
    have : b * c.v.getD 0 0 < 0 := Int.mul_neg_of_pos_of_neg hbpos hlt
    omega

end PPLV.Conv

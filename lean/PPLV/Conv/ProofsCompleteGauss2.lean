import PPLV.Conv.ProofsCompleteGauss1
import PPLV.Conv.ProofsCompleteSimp8
import PPLV.Conv.ProofsCompleteEmb2
import Mathlib.Data.Finset.Card
/-!
# `simplify` returns a rank `< ncols` (`hrank` of `simplify_drops_only_redundant_partial`)

A vector `g` (`g.length ≤ ncols`) that is non-zero and satisfies the `rank` pivot rows of an echelon form
with `= 0`: its FIRST non-zero column `k₀` is no pivot column (the pivot row `p` with `piv p = k₀` is zero to
the right of `k₀`, `g` is zero to the left: the scalar product would be `row_p[k₀] * g[k₀] ≠ 0`).  The pivot
columns are `rank` different columns of `[0, ncols) \ {k₀}`: `rank + 1 ≤ ncols`.

In `simplify` every generator satisfies the equalities handed to `gauss`, hence those it leaves; the value
returned is the rank found by `gauss`.
-/
namespace PPLV.Conv

theorem ech_rank_lt (nle ncols : Nat) (rows : List SRow) (rank : Nat) (piv : Nat → Nat)
    (hE : Ech nle ncols 0 rows rank piv) (g : Vec) (hg : g.length ≤ ncols)
    (hz : ∀ p, p < rank → scalarProduct (rows.getD p default).row.v g = 0)
    (hne : ∃ k, g.getD k 0 ≠ 0) : rank + 1 ≤ ncols := by
  classical
  have hk0 : g.getD (Nat.find hne) 0 ≠ 0 := Nat.find_spec hne
  have hmin : ∀ k, k < Nat.find hne → g.getD k 0 = 0 := fun k hk => by
    have := Nat.find_min hne hk
    exact not_not.1 this
  generalize Nat.find hne = k0 at hk0 hmin
  have hk0n : k0 < ncols := by
    by_contra h
    apply hk0
    rw [List.getD_eq_getElem?_getD, List.getElem?_eq_none (by omega)]; rfl
  have hnot : ∀ p, p < rank → piv p ≠ k0 := by
    intro p hp e
    have hsum := sp_eq_sum ncols (rows.getD p default).row.v g hg
    rw [hz p hp, Finset.sum_eq_single k0] at hsum
    · have h1 := hE.nz p hp
      rw [e] at h1
      exact mul_ne_zero h1 hk0 hsum.symm
    · intro b hb hbk
      rw [Finset.mem_range] at hb
      rcases Nat.lt_or_gt_of_ne hbk with h | h
      · rw [hmin b h, mul_zero]
      · rw [hE.za p hp b (by omega) hb, zero_mul]
    · intro h; exact absurd (Finset.mem_range.2 hk0n) h
  have hcard : (Finset.range rank).card ≤ ((Finset.range ncols).erase k0).card := by
    apply Finset.card_le_card_of_injOn piv
    · intro p hp
      have hp' : p < rank := by simpa using hp
      have := hE.rng p hp'
      simp only [Finset.coe_erase, Finset.coe_range, Set.mem_sdiff, Set.mem_Iio, Set.mem_singleton_iff]
      exact ⟨this.2, hnot p hp'⟩
    · intro p hp q hq e
      have hp' : p < rank := by simpa using hp
      have hq' : q < rank := by simpa using hq
      by_contra hpq
      rcases Nat.lt_or_gt_of_ne hpq with h | h
      · have := hE.dec p q h hq'; omega
      · have := hE.dec q p h hp'; omega
  rw [Finset.card_range, Finset.card_erase_of_mem (Finset.mem_range.2 hk0n), Finset.card_range] at hcard
  omega

theorem simpE_ginv (sys : List SRow) :
    (simpE sys).1.length = sys.length ∧ GInv (simpE sys).2 (simpE sys).1 := by
  have hc := countLeadingLe_spec sys
  exact eqDetectLoop_GInv (sys.length - countLeadingLe sys) sys (countLeadingLe sys)
    (countLeadingLe sys) (Nat.le_refl _) (by omega) ⟨hc.1, hc.2⟩

theorem simpG_rank_le (ncols : Nat) (sys : List SRow) : (simpG ncols sys).2 ≤ (simpE sys).2 :=
  gauss_rank_le ncols (simpE sys).2 (simpE sys).1

/-- the number of equalities after the removal of the redundant ones is the rank found by `gauss`. -/
theorem simpP_snd (ncols : Nat) (sys : List SRow) : (simpP ncols sys).2 = (simpG ncols sys).2 := by
  have h := simpG_rank_le ncols sys
  unfold simpP dropPhase
  split
  · rfl
  · show (simpE sys).2 = _
    omega

/-- every generator satisfies (with `= 0`) the equalities left by `gauss`. -/
theorem simpG_gen_zero (ncols : Nat) (gens : List LRow) (sys : List SRow) (hOK : ∀ r ∈ sys, RowOK gens r)
    (g : LRow) (hg : g ∈ gens) :
    ∀ p, p < (simpE sys).2 → scalarProduct ((simpG ncols sys).1.getD p default).row.v g.v = 0 := by
  obtain ⟨_, eI, eOK, _⟩ := simpE_facts gens sys hOK
  have hall : holdsAll ((simpE sys).1.map (·.row)) g.v := by
    intro r hr
    exact satisfies_holds r g (sound_of_rowOK gens _ eOK g hg r hr)
  have hall' := (gauss_same_set ncols _ _ eI.2 eI.1 g.v).2 hall
  rw [holdsAll_iff_idx] at hall'
  intro p hp
  have gK := gauss_keeps ncols _ _ eI.2 eI.1
  exact holds_eq_sp _ p g.v (by have h1 := gK.1; have h2 := eI.1; show p < (gauss ncols _ _).1.length; omega) (gK.2.1.2 p hp) hall'

/-- **`hrank`**: the number of equalities `simplify` returns is `< ncols` when some generator is non-zero
(on its at most `ncols` columns) and the records are `RowOK` against the generators. -/
theorem simplify_rank_lt_core (ncols numColsSat : Nat) (sys : List SRow) (gens : List LRow)
    (hOK : ∀ r ∈ sys, RowOK gens r) (hglen : ∀ g ∈ gens, g.v.length ≤ ncols)
    (hpt : ∃ g ∈ gens, ∃ k, g.v.getD k 0 ≠ 0) :
    (simplify ncols numColsSat sys).2 + 1 ≤ ncols := by
  rw [simplify_eq']
  show (simpP ncols sys).2 + 1 ≤ ncols
  rw [simpP_snd]
  obtain ⟨g, hg, hk⟩ := hpt
  obtain ⟨_, eI⟩ := simpE_ginv sys
  obtain ⟨piv, hE⟩ := gauss_echelon ncols (simpE sys).2 (simpE sys).1 eI
  exact ech_rank_lt _ ncols _ _ piv hE g.v (hglen g hg)
    (fun p hp => simpG_gen_zero ncols gens sys hOK g hg p (by have := simpG_rank_le ncols sys; omega)) hk

/-- the number of equalities `simplify` returns is `< ncols` when some generator is not the zero row
(the hypothesis `hrank` of `simplify_redundant`). -/
theorem simplify_rank_lt (ncols numColsSat : Nat) (rows : List LRow) (sat : List BRow) (gens : List LRow)
    (hsat : SatCorrect gens rows sat) (hsound : Sound rows gens)
    (hglen : ∀ g ∈ gens, g.v.length ≤ ncols) (hpt : ∃ g ∈ gens, ∃ k, g.v.getD k 0 ≠ 0) :
    (simplify ncols numColsSat (zipSys rows sat)).2 + 1 ≤ ncols :=
  simplify_rank_lt_core ncols numColsSat (zipSys rows sat) gens (zipSys_rowOK rows sat gens hsat hsound)
    hglen hpt

end PPLV.Conv

import PPLV.Conv.ProofsCompleteAbs1
/-!
# the Double Description lemma, abstractly (helpers for the ray step)

The measure `nsat` (number of constraints not saturated), positive combinations of two rays, and the sign
analysis of a cone with respect to one more functional.
-/
namespace PPLV.Conv.Abs

variable {V : Type*} [AddCommGroup V] [Module ℚ V]

/-! ### the measure -/

theorem countP_lt_of {α : Type*} (A : List α) (p q : α → Bool)
    (h : ∀ a ∈ A, p a = true → q a = true) (hex : ∃ a ∈ A, p a = false ∧ q a = true) :
    A.countP p < A.countP q := by
  induction A with
  | nil => obtain ⟨a, ha, _⟩ := hex; cases ha
  | cons b A ih =>
    have hA : ∀ a ∈ A, p a = true → q a = true := fun a ha => h a (List.mem_cons_of_mem _ ha)
    have hle : A.countP p ≤ A.countP q := List.countP_mono_left hA
    have hb := h b List.mem_cons_self
    obtain ⟨a, ha, hpa, hqa⟩ := hex
    rcases List.mem_cons.1 ha with e | ha'
    · rw [e] at hpa hqa
      have hnp : ¬ p b = true := by rw [hpa]; exact Bool.false_ne_true
      rw [List.countP_cons_of_neg hnp, List.countP_cons_of_pos hqa]
      omega
    · have hlt := ih hA ⟨a, ha', hpa, hqa⟩
      cases hpb : p b
      · have hnp : ¬ p b = true := by rw [hpb]; exact Bool.false_ne_true
        rw [List.countP_cons_of_neg hnp]
        cases hqb : q b
        · have hnq : ¬ q b = true := by rw [hqb]; exact Bool.false_ne_true
          rw [List.countP_cons_of_neg hnq]
          exact hlt
        · rw [List.countP_cons_of_pos hqb]
          omega
      · rw [List.countP_cons_of_pos hpb, List.countP_cons_of_pos (hb hpb)]
        omega

/-- the number of constraints of `A` not saturated by `x`. -/
def nsat (A : List (ACon V)) (x : V) : ℕ := A.countP (fun a => decide (a.f x ≠ 0))

theorem nsat_le {A : List (ACon V)} {x u : V} (h : SatSub A x u) : nsat A u ≤ nsat A x := by
  unfold nsat
  apply List.countP_mono_left
  intro a ha hu
  rw [decide_eq_true_eq] at hu ⊢
  exact fun h0 => hu (h a ha h0)

theorem nsat_lt {A : List (ACon V)} {x u : V} (h : SatSub A x u)
    (hex : ∃ a ∈ A, a.f x ≠ 0 ∧ a.f u = 0) : nsat A u < nsat A x := by
  unfold nsat
  apply countP_lt_of
  · intro a ha hu
    rw [decide_eq_true_eq] at hu ⊢
    exact fun h0 => hu (h a ha h0)
  · obtain ⟨a, ha, hax, hau⟩ := hex
    refine ⟨a, ha, ?_, ?_⟩
    · rw [decide_eq_false_iff_not]; exact fun h => h hau
    · rw [decide_eq_true_eq]; exact hax

/-! ### saturation -/

theorem SatSub.trans {A : List (ACon V)} {x y z : V} (h1 : SatSub A x y) (h2 : SatSub A y z) :
    SatSub A x z := fun a ha h => h2 a ha (h1 a ha h)

theorem SatSub_cons {c : ACon V} {A : List (ACon V)} {x y : V} :
    SatSub (c :: A) x y ↔ (c.f x = 0 → c.f y = 0) ∧ SatSub A x y := by
  unfold SatSub
  exact List.forall_mem_cons

/-! ### positive combinations of two rays -/

theorem comb_eval (a : ACon V) (α β : ℚ) (r s : V) :
    a.f (α • r + β • s) = α * a.f r + β * a.f s := by
  simp only [map_add, map_smul, smul_eq_mul]

theorem comb_inP {A : List (ACon V)} {r s : V} (hr : InP A r) (hs : InP A s) {α β : ℚ}
    (hα : 0 ≤ α) (hβ : 0 ≤ β) : InP A (α • r + β • s) :=
  fun a ha => ACon.holds_add (ACon.holds_smul α hα (hr a ha)) (ACon.holds_smul β hβ (hs a ha))

theorem comb_zero {A : List (ACon V)} {r s : V} (hr : InP A r) (hs : InP A s) {α β : ℚ}
    (hα : 0 < α) (hβ : 0 < β) {a : ACon V} (ha : a ∈ A) (h : a.f (α • r + β • s) = 0) :
    a.f r = 0 ∧ a.f s = 0 := by
  have h1 := (hr a ha).nonneg
  have h2 := (hs a ha).nonneg
  rw [comb_eval] at h
  have h3 := mul_nonneg hα.le h1
  have h4 := mul_nonneg hβ.le h2
  have h5 : α * a.f r = 0 := by linarith
  have h6 : β * a.f s = 0 := by linarith
  exact ⟨(mul_eq_zero.1 h5).resolve_left hα.ne', (mul_eq_zero.1 h6).resolve_left hβ.ne'⟩

/-! ### signs of one more functional on a cone -/

theorem Cone.exists_pos {L S : Set V} (c : V →ₗ[ℚ] ℚ) (hcL : ∀ l ∈ L, c l = 0) {x : V}
    (h : Cone L S x) (hx : 0 < c x) : ∃ r ∈ S, 0 < c r := by
  induction h with
  | zero => rw [map_zero] at hx; exact absurd hx (lt_irrefl _)
  | @line l y t hl _ ih =>
    rw [map_add, map_smul, hcL l hl, smul_zero, add_zero] at hx
    exact ih hx
  | @ray r y t hr ht _ ih =>
    rw [map_add, map_smul, smul_eq_mul] at hx
    by_cases hy : 0 < c y
    · exact ih hy
    · refine ⟨r, hr, ?_⟩
      by_contra hneg
      have h1 := not_lt.1 hy
      have h2 := not_lt.1 hneg
      have h3 := mul_nonneg ht (neg_nonneg.2 h2)
      linarith

theorem Cone.allpos {L S : Set V} (c : V →ₗ[ℚ] ℚ) (hcL : ∀ l ∈ L, c l = 0)
    (hS : ∀ r ∈ S, 0 < c r) {x : V} (h : Cone L S x) : 0 ≤ c x ∧ (c x ≤ 0 → Cone L ∅ x) := by
  induction h with
  | zero => exact ⟨(map_zero c).ge, fun _ => Cone.zero⟩
  | @line l y t hl _ ih =>
    have e : c (y + t • l) = c y := by rw [map_add, map_smul, hcL l hl, smul_zero, add_zero]
    rw [e]
    exact ⟨ih.1, fun h => Cone.line t hl (ih.2 h)⟩
  | @ray r y t hr ht _ ih =>
    have e : c (y + t • r) = c y + t * c r := by rw [map_add, map_smul, smul_eq_mul]
    rw [e]
    have h1 := mul_nonneg ht (hS r hr).le
    have h0 := ih.1
    refine ⟨by linarith, fun h => ?_⟩
    have h2 : t * c r = 0 := by linarith
    have h3 : t = 0 := (mul_eq_zero.1 h2).resolve_right (hS r hr).ne'
    rw [h3, zero_smul, add_zero]
    exact ih.2 (by linarith)

theorem Cone.exists_pos_neg {L S : Set V} (c : V →ₗ[ℚ] ℚ) (hcL : ∀ l ∈ L, c l = 0) {x : V}
    (h : Cone L S x) (hx : c x = 0) (hS : ∀ r ∈ S, c r ≠ 0) (hnl : ¬ Cone L ∅ x) :
    ∃ r ∈ S, ∃ s ∈ S, 0 < c r ∧ c s < 0 := by
  by_cases hp : ∃ r ∈ S, 0 < c r
  · by_cases hn : ∃ s ∈ S, c s < 0
    · obtain ⟨r, hr, hr'⟩ := hp
      obtain ⟨s, hs, hs'⟩ := hn
      exact ⟨r, hr, s, hs, hr', hs'⟩
    · exfalso
      apply hnl
      have hall : ∀ r ∈ S, 0 < c r := fun r hr =>
        lt_of_le_of_ne (not_lt.1 (fun h => hn ⟨r, hr, h⟩)) (hS r hr).symm
      exact (Cone.allpos c hcL hall h).2 hx.le
  · exfalso
    apply hnl
    have hall : ∀ r ∈ S, 0 < (-c) r := fun r hr => by
      rw [LinearMap.neg_apply]
      have h1 : c r ≤ 0 := not_lt.1 (fun h => hp ⟨r, hr, h⟩)
      exact neg_pos.2 (lt_of_le_of_ne h1 (hS r hr))
    refine (Cone.allpos (-c) (fun l hl => by rw [LinearMap.neg_apply, hcL l hl, neg_zero]) hall h).2 ?_
    rw [LinearMap.neg_apply, hx, neg_zero]

end PPLV.Conv.Abs

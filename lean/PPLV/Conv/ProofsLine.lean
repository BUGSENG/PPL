import PPLV.Conv.ProofsRow
import PPLV.Conv.ProofsList
/-!
# The line case of `conversion` (`lineCase`), index by index
-/
namespace PPLV.Conv

/-! ## index lemmas for the primitives -/

theorem getElem?_swapRowSp (l : List DRow) (i j m : Nat) (hi : i < l.length) (hj : j < l.length) :
    (swapRowSp l i j)[m]? =
      if m = j then some { l[i] with sat := l[j].sat }
      else if m = i then some { l[j] with sat := l[i].sat } else l[m]? := by
  unfold swapRowSp
  rw [List.getElem?_eq_getElem hi, List.getElem?_eq_getElem hj]
  simp only [List.getElem?_set, List.length_set]
  by_cases h1 : m = j
  · subst h1; simp [hj]
  · by_cases h2 : m = i
    · subst h2; simp [h1, hi, Ne.symm h1]
    · simp [h1, h2, Ne.symm h1, Ne.symm h2]

theorem length_swapRowSp (l : List DRow) (i j : Nat) : (swapRowSp l i j).length = l.length := by
  unfold swapRowSp
  split <;> simp

theorem getElem?_swapAt' {α : Type} (l : List α) (i j m : Nat) (hi : i < l.length) (hj : j < l.length) :
    (swapAt l i j)[m]? = if m = j then some l[i] else if m = i then some l[j] else l[m]? := by
  rw [getElem?_swapAt l i j m hi hj, List.getElem?_eq_getElem hi, List.getElem?_eq_getElem hj]

/-- removing index `i` by swapping with the last element and popping: what is left. -/
theorem getElem?_swap_dropLast {α : Type} (l : List α) (i m : Nat) (hi : i < l.length) (x : α)
    (h : ((swapAt l i (l.length - 1)).dropLast)[m]? = some x) :
    ∃ m0, m0 ≠ i ∧ l[m0]? = some x ∧ (m = m0 ∨ (m = i ∧ m0 = l.length - 1)) := by
  have hlast : l.length - 1 < l.length := by omega
  rw [List.getElem?_dropLast, length_swapAt] at h
  by_cases hm : m < l.length - 1
  · simp only [hm, if_true] at h
    rw [getElem?_swapAt' l i (l.length - 1) m hi hlast] at h
    have h1 : m ≠ l.length - 1 := by omega
    simp only [h1, if_false] at h
    by_cases h2 : m = i
    · subst h2
      simp only [if_true] at h
      refine ⟨l.length - 1, by omega, ?_, Or.inr ⟨rfl, rfl⟩⟩
      rw [List.getElem?_eq_getElem hlast]; exact h
    · simp only [h2, if_false] at h
      exact ⟨m, h2, h, Or.inl rfl⟩
  · simp [hm] at h

/-! ## the rows after the combination step -/

/-- row of `combineWithNle`, as a function of the pivot row / product and the row / product combined. -/
def combRow (pr : LRow) (psp : Int) (r : LRow) (sp : Int) : LRow :=
  (combineWithNle { row := pr, sp := psp, sat := [] } { row := r, sp := sp, sat := [] }).row

theorem combineWithNle_row (a d : DRow) : (combineWithNle a d).row = combRow a.row a.sp d.row d.sp := rfl

/-- the pivot record built at :483-494. -/
def linePivot (r : DRow) : DRow :=
  if r.sp < 0 then { row := { le := false, v := r.row.v.map (- ·) }, sp := - r.sp, sat := r.sat }
  else { r with row := { r.row with le := false } }

/-- the rows of `lineCase` after :525-598. -/
def lineRows3 (st : CState) (inz : Nat) : List DRow :=
  let rows := st.rows
  let r1 := linePivot (rows.getD inz default)
  let rows := rows.set inz r1
  let nle := st.nle - 1
  let rows := if inz != nle then swapRowSp rows inz nle else rows
  let dnle := rows.getD nle default
  rows.mapIdx fun i d =>
    if ((inz ≤ i ∧ i < nle) ∨ nle + 1 ≤ i) ∧ d.sp ≠ 0 then combineWithNle dnle d else d

theorem lineCase_eq (srcK : LRow) (newK : Nat) (st : CState) (inz : Nat) :
    lineCase srcK newK st inz =
      if !srcK.le then
        { st with rows := (lineRows3 st inz).modify (st.nle - 1) (fun d => { d with sat := setBit d.sat newK }),
                  nle := st.nle - 1 }
      else
        { st with rows := (swapAt (lineRows3 st inz) (st.nle - 1) ((lineRows3 st inz).length - 1)).dropLast,
                  nle := st.nle - 1 } := by
  unfold lineCase lineRows3 linePivot
  rfl

theorem length_lineRows3 (st : CState) (inz : Nat) : (lineRows3 st inz).length = st.rows.length := by
  unfold lineRows3
  simp only [List.length_mapIdx]
  split
  · rw [length_swapRowSp]; simp
  · simp

/-- the rows after set + swap, index by index. -/
theorem lineRowsB_index (st : CState) (inz : Nat) (hinz : inz < st.nle) (hn : st.nle ≤ st.rows.length) (m : Nat) (d : DRow)
    (h : (let rows := st.rows.set inz (linePivot (st.rows.getD inz default))
          if inz != st.nle - 1 then swapRowSp rows inz (st.nle - 1) else rows)[m]? = some d) :
    (m = st.nle - 1 ∧ d.row = (linePivot (st.rows.getD inz default)).row ∧ d.sp = (linePivot (st.rows.getD inz default)).sp) ∨
    (m ≠ st.nle - 1 ∧ ∃ m0 d0, m0 ≠ inz ∧ st.rows[m0]? = some d0 ∧ d.row = d0.row ∧ d.sp = d0.sp ∧
        (decide (m0 < st.nle) = decide (m < st.nle - 1)) ∧ (m < inz → m0 = m)) := by
  have hi : inz < st.rows.length := by omega
  have hj : st.nle - 1 < st.rows.length := by omega
  simp only at h
  by_cases he : inz = st.nle - 1
  · simp only [he, bne_self_eq_false, Bool.false_eq_true, if_false] at h
    rw [List.getElem?_set] at h
    by_cases hm : st.nle - 1 = m
    · subst hm
      simp only [if_true, hj] at h
      left
      have : d = linePivot (st.rows.getD (st.nle - 1) default) := by simpa using h.symm
      rw [he]; subst this; exact ⟨rfl, rfl, rfl⟩
    · simp only [hm, if_false] at h
      right
      refine ⟨Ne.symm hm, m, d, by omega, h, rfl, rfl, ?_, fun _ => rfl⟩
      have : m < st.rows.length := by
        by_contra hc
        rw [List.getElem?_eq_none (by omega)] at h; cases h
      simp only [decide_eq_decide]; omega
  · have hne : (inz != st.nle - 1) = true := by simpa using he
    simp only [hne, if_true] at h
    have hlen : (st.rows.set inz (linePivot (st.rows.getD inz default))).length = st.rows.length := by simp
    rw [getElem?_swapRowSp _ _ _ _ (by rw [hlen]; exact hi) (by rw [hlen]; exact hj)] at h
    by_cases hm : m = st.nle - 1
    · left
      simp only [hm, if_true] at h
      refine ⟨hm, ?_, ?_⟩
      · have := (Option.some.inj h).symm
        subst this
        simp
      · have := (Option.some.inj h).symm
        subst this
        simp
    · right
      simp only [hm, if_false] at h
      by_cases hm2 : m = inz
      · simp only [hm2, if_true] at h
        have hd := (Option.some.inj h).symm
        refine ⟨hm, st.nle - 1, st.rows[st.nle - 1], by omega, List.getElem?_eq_getElem hj, ?_, ?_, ?_, ?_⟩
        · subst hd; simp [he]
        · subst hd; simp [he]
        · simp only [decide_eq_decide]; omega
        · intro hlt; omega
      · simp only [hm2, if_false] at h
        rw [List.getElem?_set] at h
        simp only [Ne.symm hm2, if_false] at h
        refine ⟨hm, m, d, hm2, h, rfl, rfl, ?_, fun _ => rfl⟩
        simp only [decide_eq_decide]; omega

/-- the rows after the combination step, index by index. -/
theorem lineRows3_index (st : CState) (inz : Nat) (hinz : inz < st.nle) (hn : st.nle ≤ st.rows.length) (m : Nat) (d' : DRow)
    (h : (lineRows3 st inz)[m]? = some d') :
    let p := linePivot (st.rows.getD inz default)
    (m = st.nle - 1 ∧ d'.row = p.row ∧ d'.sp = p.sp) ∨
    (m ≠ st.nle - 1 ∧ ∃ m0 d0, m0 ≠ inz ∧ st.rows[m0]? = some d0 ∧
        (decide (m0 < st.nle) = decide (m < st.nle - 1)) ∧
        ((d0.sp = 0 ∧ d'.row = d0.row ∧ d'.sp = 0) ∨
         (d0.sp ≠ 0 ∧ inz ≤ m ∧ d'.row = combRow p.row p.sp d0.row d0.sp ∧ d'.sp = 0) ∨
         (m < inz ∧ m0 = m ∧ d'.row = d0.row ∧ d'.sp = d0.sp))) := by
  intro p
  unfold lineRows3 at h
  simp only [List.getElem?_mapIdx] at h
  -- the record before the combination
  match hb : (let rows := st.rows.set inz (linePivot (st.rows.getD inz default))
              if inz != st.nle - 1 then swapRowSp rows inz (st.nle - 1) else rows)[m]? with
  | none => simp only at hb; rw [hb] at h; simp at h
  | some b =>
    have hb' := hb
    simp only at hb
    rw [hb] at h
    simp only [Option.map_some, Option.some.injEq] at h
    -- the pivot record
    have hj : st.nle - 1 < st.rows.length := by omega
    have hlenB : (let rows := st.rows.set inz (linePivot (st.rows.getD inz default))
              if inz != st.nle - 1 then swapRowSp rows inz (st.nle - 1) else rows).length = st.rows.length := by
      simp only
      split
      · rw [length_swapRowSp]; simp
      · simp
    obtain ⟨dn, hdn⟩ : ∃ dn, (let rows := st.rows.set inz (linePivot (st.rows.getD inz default))
              if inz != st.nle - 1 then swapRowSp rows inz (st.nle - 1) else rows)[st.nle - 1]? = some dn := by
      rw [List.getElem?_eq_getElem (by rw [hlenB]; exact hj)]; exact ⟨_, rfl⟩
    have hpiv := lineRowsB_index st inz hinz hn (st.nle - 1) dn hdn
    have hdnrow : dn.row = p.row ∧ dn.sp = p.sp := by
      rcases hpiv with ⟨_, h1, h2⟩ | ⟨h1, _⟩
      · exact ⟨h1, h2⟩
      · exact absurd rfl h1
    have hgetD : (let rows := st.rows.set inz (linePivot (st.rows.getD inz default))
              if inz != st.nle - 1 then swapRowSp rows inz (st.nle - 1) else rows).getD (st.nle - 1) default = dn := by
      rw [List.getD_eq_getElem?_getD, hdn]; rfl
    simp only at hgetD
    rw [hgetD] at h
    rcases lineRowsB_index st inz hinz hn m b hb' with ⟨h1, h2, h3⟩ | ⟨h1, m0, d0, h2, h3, h4, h5, h6, h7⟩
    · left
      have hc : ¬ (((inz ≤ m ∧ m < st.nle - 1) ∨ st.nle - 1 + 1 ≤ m) ∧ b.sp ≠ 0) := by
        intro hcc; omega
      rw [if_neg hc] at h
      subst h
      exact ⟨h1, h2, h3⟩
    · right
      refine ⟨h1, m0, d0, h2, h3, h6, ?_⟩
      by_cases hc : (((inz ≤ m ∧ m < st.nle - 1) ∨ st.nle - 1 + 1 ≤ m) ∧ b.sp ≠ 0)
      · rw [if_pos hc] at h
        right; left
        have hge : inz ≤ m := by
          have := hc.1
          clear h hgetD hdn hpiv hb hb' hlenB
          omega
        refine ⟨by rw [← h5]; exact hc.2, hge, ?_, ?_⟩
        · rw [← h, combineWithNle_row, hdnrow.1, hdnrow.2, h4, h5]
        · rw [← h]; rfl
      · rw [if_neg hc] at h
        subst h
        by_cases hsp : d0.sp = 0
        · left; exact ⟨hsp, h4, by rw [h5]; exact hsp⟩
        · right; right
          have hlt : m < inz := by
            by_contra hge
            apply hc
            refine ⟨?_, by rw [h5]; exact hsp⟩
            omega
          exact ⟨hlt, h7 hlt, h4, h5⟩

end PPLV.Conv

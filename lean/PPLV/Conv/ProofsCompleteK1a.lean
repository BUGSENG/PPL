import PPLV.Conv.ProofsCompleteMin
import PPLV.Conv.ProofsSound3
/-!
# the rows `conversion` returns are no longer than its input

No row operation of `conversion` lengthens a row beyond the longest row of `dest`: `linear_combine` has the
length of the longer operand, `normalize` / `sign_normalize` / negation keep the length.  Hence, from the
identity matrix with `ncols` columns, every returned row has at most `ncols` coefficients (`gensWF` of K1).
-/
namespace PPLV.Conv

theorem length_normalize (v : Vec) : (normalize v).length = v.length := by
  unfold normalize
  simp only
  split <;> simp

theorem length_signNormalize (v : Vec) : (signNormalize v).length = v.length := by
  unfold signNormalize
  split <;> simp

theorem length_strongNormalize (r : LRow) : (strongNormalize r).v.length = r.v.length := by
  unfold strongNormalize
  simp only
  split
  · rw [length_signNormalize, length_normalize]
  · rw [length_normalize]

theorem length_combRow (n : Nat) (pr : LRow) (psp : Int) (r : LRow) (sp : Int)
    (h1 : pr.v.length ≤ n) (h2 : r.v.length ≤ n) : (combRow pr psp r sp).v.length ≤ n := by
  unfold combRow combineWithNle
  simp only
  rw [length_strongNormalize]
  simp only [length_linearCombine]
  omega

theorem length_newRay (n : Nat) (ri rj : DRow) (s : BRow)
    (h1 : ri.row.v.length ≤ n) (h2 : rj.row.v.length ≤ n) : (newRay ri rj s).row.v.length ≤ n := by
  unfold newRay
  simp only
  rw [length_strongNormalize]
  simp only [length_linearCombine]
  omega

theorem length_linePivot (r : DRow) : (linePivot r).row.v.length = r.row.v.length := by
  unfold linePivot
  split <;> simp

/-- one iteration of the main loop does not lengthen the rows. -/
theorem conversionStep_length (ncols n : Nat) (srcK : LRow) (st : CState)
    (hn : st.nle ≤ st.rows.length) (hlen : ∀ d ∈ st.rows, d.row.v.length ≤ n) :
    ∀ d ∈ (conversionStep ncols srcK st).rows, d.row.v.length ≤ n := by
  have hlen1 : ∀ d ∈ (withSp srcK st).rows, d.row.v.length ≤ n := by
    intro d hd
    obtain ⟨d0, hd0, rfl⟩ := mem_withSp hd
    exact hlen d0 hd0
  have hn1 : (withSp srcK st).nle ≤ (withSp srcK st).rows.length := (List.length_map _).symm ▸ hn
  rcases conversionStep_cases ncols srcK st hn with ⟨inz, hc, e, _, r, hr, _⟩ | ⟨e, hz⟩
  · rw [e]
    intro d hd
    have hp : (linePivot r).row.v.length ≤ n := by
      rw [length_linePivot]; exact hlen1 r (List.mem_of_getElem? hr)
    rcases lineCase_row_cases srcK _ (withSp srcK st) inz hc hn1 r hr d hd with h | ⟨d0, hd0, h | h⟩
    · rw [h]; exact hp
    · rw [h]; exact hlen1 d0 hd0
    · rw [h]; exact length_combRow n _ _ _ _ hp (hlen1 d0 hd0)
  · rw [e]
    obtain ⟨_, _, _, tail, hrows, htail, _⟩ := rayCase_rows ncols srcK (st.k - st.redundant.length) (withSp srcK st) hn1 hz
    intro d hd
    rw [hrows] at hd
    rcases List.mem_append.mp hd with h | h
    · exact hlen1 d (List.mem_of_mem_take h)
    · rcases htail d h with ⟨d0, hd0, _, rfl⟩ | ⟨ri, hri, rj, hrj, _, _, rfl⟩
      · rw [keepImage_row]; exact hlen1 d0 (List.mem_of_mem_drop hd0)
      · exact length_newRay n ri rj _ (hlen1 ri (List.mem_of_mem_drop hri)) (hlen1 rj (List.mem_of_mem_drop hrj))

/-- the main loop does not lengthen the rows. -/
theorem conversionLoop_length (ncols n : Nat) (rest : List LRow) (st : CState)
    (hl : ∀ m d, st.rows[m]? = some d → d.row.le = decide (m < st.nle)) (hn : st.nle ≤ st.rows.length)
    (hlen : ∀ d ∈ st.rows, d.row.v.length ≤ n) :
    ∀ d ∈ (conversionLoop ncols rest st).rows, d.row.v.length ≤ n := by
  induction rest generalizing st with
  | nil => simpa only [conversionLoop] using hlen
  | cons s rest ih =>
    obtain ⟨_, h2, h3⟩ := conversionStep_sound ncols s st [] (fun _ _ _ hs => by cases hs) hl hn
    simp only [conversionLoop]
    exact ih { conversionStep ncols s st with k := st.k + 1 } h2 h3 (conversionStep_length ncols n s st hn hlen)

/-- **no returned row is longer than the longest row of `dest`.** -/
theorem conversion_length (ncols n : Nat) (source : List LRow) (start : Nat) (dest : List LRow) (sat : List BRow)
    (nle : Nat) (hl : LinesFirst dest nle) (hn : nle ≤ dest.length) (hsat : sat.length = dest.length)
    (hlen : ∀ g ∈ dest, g.v.length ≤ n) :
    ∀ g ∈ (conversion ncols source start dest sat nle).dest, g.v.length ≤ n := by
  obtain ⟨hmem, hl0, hn0⟩ := initRows_layout dest sat nle hsat hl hn
  have h := conversionLoop_length ncols n (source.drop start)
    { rows := initRows dest sat, nle := nle, k := start, redundant := [] } hl0 hn0 (fun d hd => hlen d.row (hmem d hd))
  intro g hg
  obtain ⟨d, hd, rfl⟩ := List.mem_map.mp hg
  exact h d hd

/-- **the conversion run by `minimize`** returns rows with at most `ncols` coefficients. -/
theorem conversion_identity_length (ncols : Nat) (source : List LRow) :
    ∀ g ∈ (conversion ncols source 0 (identityLines ncols)
      (List.replicate ncols (List.replicate source.length false)) ncols).dest, g.v.length ≤ ncols := by
  apply conversion_length ncols ncols source 0 (identityLines ncols) _ ncols (linesFirst_identity' ncols)
  · simp [identityLines]
  · simp [identityLines]
  · intro g hg
    rw [identityLines_eq] at hg
    obtain ⟨i, _, rfl⟩ := List.mem_map.mp hg
    simp [unitV_length]

end PPLV.Conv

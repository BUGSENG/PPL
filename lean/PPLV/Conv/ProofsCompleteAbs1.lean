import PPLV.Conv.ProofsCompleteAbs0
import Mathlib.Algebra.Order.Field.Basic
import Mathlib.Tactic.Linarith
import Mathlib.Tactic.Ring
import Mathlib.Tactic.Abel
import Mathlib.Tactic.Module
/-!
# the Double Description lemma, abstractly (basic facts)

Closure properties of `Cone`, the face lemma, the small-step lemma, peeling, and the lineality space of a
double description pair.
-/
namespace PPLV.Conv.Abs

variable {V : Type*} [AddCommGroup V] [Module ℚ V]

/-! ### constraints -/

theorem ACon.holds.nonneg {a : ACon V} {x : V} (h : a.holds x) : 0 ≤ a.f x := by
  rw [ACon.holds_iff] at h
  cases e : a.eq
  · exact h.2 e
  · exact (h.1 e).ge

theorem ACon.holds.eq_false {a : ACon V} {x : V} (h : a.holds x) (hne : a.f x ≠ 0) : a.eq = false := by
  rw [ACon.holds_iff] at h
  cases e : a.eq
  · rfl
  · exact absurd (h.1 e) hne

theorem ACon.holds_of_zero {a : ACon V} {x : V} (h : a.f x = 0) : a.holds x := by
  rw [ACon.holds_iff]; exact ⟨fun _ => h, fun _ => h.ge⟩

theorem ACon.holds_of_nonneg {a : ACon V} {x : V} (he : a.eq = false) (h : 0 ≤ a.f x) : a.holds x := by
  rw [ACon.holds_iff]; exact ⟨fun e => (by rw [he] at e; cases e), fun _ => h⟩

theorem ACon.holds_congr {a : ACon V} {x y : V} (h : a.f x = a.f y) : a.holds x ↔ a.holds y := by
  rw [ACon.holds_iff, ACon.holds_iff, h]

theorem ACon.holds_add {a : ACon V} {x y : V} (hx : a.holds x) (hy : a.holds y) : a.holds (x + y) := by
  rw [ACon.holds_iff] at *
  refine ⟨fun e => ?_, fun e => ?_⟩
  · rw [map_add, hx.1 e, hy.1 e, add_zero]
  · rw [map_add]; exact add_nonneg (hx.2 e) (hy.2 e)

theorem ACon.holds_smul {a : ACon V} {x : V} (t : ℚ) (ht : 0 ≤ t) (hx : a.holds x) : a.holds (t • x) := by
  rw [ACon.holds_iff] at *
  refine ⟨fun e => ?_, fun e => ?_⟩
  · rw [map_smul, hx.1 e, smul_zero]
  · rw [map_smul, smul_eq_mul]; exact mul_nonneg ht (hx.2 e)

theorem InP_cons {c : ACon V} {A : List (ACon V)} {x : V} : InP (c :: A) x ↔ c.holds x ∧ InP A x := by
  unfold InP
  exact List.forall_mem_cons

/-! ### closure properties of `Cone` -/

theorem Cone.mono {L L' R R' : Set V} (hL : L ⊆ L') (hR : R ⊆ R') {x : V} (h : Cone L R x) :
    Cone L' R' x := by
  induction h with
  | zero => exact Cone.zero
  | line t hl _ ih => exact Cone.line t (hL hl) ih
  | ray t hr ht _ ih => exact Cone.ray t (hR hr) ht ih

theorem Cone.add {L R : Set V} {x y : V} (hx : Cone L R x) (hy : Cone L R y) : Cone L R (x + y) := by
  induction hy with
  | zero => rw [add_zero]; exact hx
  | line t hl _ ih => rw [← add_assoc]; exact Cone.line t hl ih
  | ray t hr ht _ ih => rw [← add_assoc]; exact Cone.ray t hr ht ih

theorem Cone.smul {L R : Set V} {x : V} (t : ℚ) (ht : 0 ≤ t) (hx : Cone L R x) : Cone L R (t • x) := by
  induction hx with
  | zero => rw [smul_zero]; exact Cone.zero
  | line s hl _ ih => rw [smul_add, smul_smul]; exact Cone.line _ hl ih
  | ray s hr hs _ ih => rw [smul_add, smul_smul]; exact Cone.ray _ hr (mul_nonneg ht hs) ih

theorem Cone.lines_smul {L : Set V} {x : V} (t : ℚ) (hx : Cone L ∅ x) : Cone L ∅ (t • x) := by
  induction hx with
  | zero => rw [smul_zero]; exact Cone.zero
  | line s hl _ ih => rw [smul_add, smul_smul]; exact Cone.line _ hl ih
  | ray s hr hs _ ih => exact absurd hr (Set.notMem_empty _)

theorem Cone.of_line {L R : Set V} {l : V} (hl : l ∈ L) (t : ℚ) : Cone L R (t • l) := by
  have := Cone.line (R := R) t hl Cone.zero
  rwa [zero_add] at this

theorem Cone.of_ray {L R : Set V} {r : V} (hr : r ∈ R) (t : ℚ) (ht : 0 ≤ t) : Cone L R (t • r) := by
  have := Cone.ray (L := L) t hr ht Cone.zero
  rwa [zero_add] at this

theorem Cone.mem_sub (U : Submodule ℚ V) {L R : Set V} (hL : ∀ l ∈ L, l ∈ U) (hR : ∀ r ∈ R, r ∈ U)
    {x : V} (h : Cone L R x) : x ∈ U := by
  induction h with
  | zero => exact U.zero_mem
  | line t hl _ ih => exact U.add_mem ih (U.smul_mem t (hL _ hl))
  | ray t hr _ _ ih => exact U.add_mem ih (U.smul_mem t (hR _ hr))

/-- split off the line part -/
theorem Cone.split {L R : Set V} {x : V} (h : Cone L R x) :
    ∃ l y, Cone L ∅ l ∧ Cone ∅ R y ∧ x = l + y := by
  induction h with
  | zero => exact ⟨0, 0, Cone.zero, Cone.zero, (add_zero 0).symm⟩
  | line t hl _ ih =>
    obtain ⟨l', y', h1, h2, e⟩ := ih
    exact ⟨l' + t • _, y', Cone.line t hl h1, h2, by rw [e]; abel⟩
  | ray t hr ht _ ih =>
    obtain ⟨l', y', h1, h2, e⟩ := ih
    exact ⟨l', y' + t • _, h1, Cone.ray t hr ht h2, by rw [e]; abel⟩

/-- a one-ray cone -/
theorem Cone.single {L : Set V} {r x : V} (h : Cone L {r} x) :
    ∃ β : ℚ, 0 ≤ β ∧ ∃ l, Cone L ∅ l ∧ x = β • r + l := by
  induction h with
  | zero => exact ⟨0, le_rfl, 0, Cone.zero, by rw [zero_smul, add_zero]⟩
  | line t hl _ ih =>
    obtain ⟨β, hβ, l', h1, e⟩ := ih
    exact ⟨β, hβ, l' + t • _, Cone.line t hl h1, by rw [e]; abel⟩
  | ray t hr ht _ ih =>
    obtain ⟨β, hβ, l', h1, e⟩ := ih
    have hr' := Set.mem_singleton_iff.1 hr
    exact ⟨β + t, add_nonneg hβ ht, l', h1, by rw [e, hr', add_smul]; abel⟩

/-- a two-ray cone -/
theorem Cone.pair {L : Set V} {r s x : V} (h : Cone L {q | q = r ∨ q = s} x) :
    ∃ α β : ℚ, 0 ≤ α ∧ 0 ≤ β ∧ ∃ l, Cone L ∅ l ∧ x = α • r + β • s + l := by
  induction h with
  | zero => exact ⟨0, 0, le_rfl, le_rfl, 0, Cone.zero, by rw [zero_smul, zero_smul, add_zero, add_zero]⟩
  | line t hl _ ih =>
    obtain ⟨α, β, hα, hβ, l', h1, e⟩ := ih
    exact ⟨α, β, hα, hβ, l' + t • _, Cone.line t hl h1, by rw [e]; abel⟩
  | @ray q y t hr ht _ ih =>
    obtain ⟨α, β, hα, hβ, l', h1, e⟩ := ih
    have hr' : q = r ∨ q = s := hr
    rcases hr' with h | h
    · exact ⟨α + t, β, add_nonneg hα ht, hβ, l', h1, by rw [e, h, add_smul]; abel⟩
    · exact ⟨α, β + t, hα, add_nonneg hβ ht, l', h1, by rw [e, h, add_smul]; abel⟩

/-! ### the cone and the constraints -/

/-- a functional that vanishes on the lines and on the rays vanishes on the cone. -/
theorem Cone.eval_zero {L R : Set V} (f : V →ₗ[ℚ] ℚ) (hL : ∀ l ∈ L, f l = 0) (hR : ∀ r ∈ R, f r = 0)
    {x : V} (h : Cone L R x) : f x = 0 := by
  induction h with
  | zero => exact map_zero _
  | @line l y t hl _ ih => rw [map_add, map_smul, hL l hl, smul_zero, add_zero]; exact ih
  | @ray r y t hr _ _ ih => rw [map_add, map_smul, hR r hr, smul_zero, add_zero]; exact ih

theorem Cone.lines_eval {L : Set V} (c : V →ₗ[ℚ] ℚ) (hcL : ∀ l ∈ L, c l = 0) {x : V}
    (h : Cone L ∅ x) : c x = 0 :=
  Cone.eval_zero c hcL (fun _ hr => absurd hr (Set.notMem_empty _)) h

/-- points of the cone satisfy the constraints -/
theorem Cone.inP (A : List (ACon V)) {L R : Set V} (hL : ∀ l ∈ L, ∀ a ∈ A, a.f l = 0)
    (hR : ∀ r ∈ R, InP A r) {x : V} (h : Cone L R x) : InP A x := by
  induction h with
  | zero => intro a _; exact ACon.holds_of_zero (map_zero _)
  | @line l y t hl _ ih =>
    intro a ha
    refine (ACon.holds_congr ?_).1 (ih a ha)
    rw [map_add, map_smul, hL l hl a ha, smul_zero, add_zero]
  | @ray r y t hr ht _ ih =>
    intro a ha
    exact ACon.holds_add (ih a ha) (ACon.holds_smul t ht (hR r hr a ha))

theorem Cone.face_aux (A : List (ACon V)) {L R : Set V} (hL : ∀ l ∈ L, ∀ a ∈ A, a.f l = 0)
    (hR : ∀ r ∈ R, InP A r) (x : V) {y : V} (h : Cone L R y) :
    InP A (x - y) → Cone L {r | r ∈ R ∧ SatSub A x r} y := by
  induction h with
  | zero => intro _; exact Cone.zero
  | @line l y t hl hy ih =>
    intro hz
    refine Cone.line t hl (ih ?_)
    intro a ha
    refine (ACon.holds_congr ?_).1 (hz a ha)
    simp only [map_sub, map_add, map_smul, hL l hl a ha, smul_zero, add_zero]
  | @ray r y t hr ht hy ih =>
    intro hz
    have hzy : InP A (x - y) := by
      intro a ha
      have e : x - y = (x - (y + t • r)) + t • r := by abel
      rw [e]
      exact ACon.holds_add (hz a ha) (ACon.holds_smul t ht (hR r hr a ha))
    have hy' := ih hzy
    rcases ht.eq_or_lt with h0 | hpos
    · rw [← h0, zero_smul, add_zero]; exact hy'
    · refine Cone.ray t ⟨hr, ?_⟩ ht hy'
      intro a ha hax
      have h1 := (hz a ha).nonneg
      have h2 := (Cone.inP A hL hR hy a ha).nonneg
      have h3 := (hR r hr a ha).nonneg
      simp only [map_sub, map_add, map_smul, smul_eq_mul] at h1
      have h4 : 0 ≤ t * a.f r := mul_nonneg ht h3
      have h5 : t * a.f r = 0 := by linarith
      rcases mul_eq_zero.1 h5 with h | h
      · exact absurd h hpos.ne'
      · exact h

/-- the face lemma: a point of the cone is generated by the rays that saturate whatever it saturates.
    Hypotheses: lines saturate every constraint, rays satisfy every constraint. -/
theorem Cone.face (A : List (ACon V)) {L R : Set V} (hL : ∀ l ∈ L, ∀ a ∈ A, a.f l = 0)
    (hR : ∀ r ∈ R, InP A r) {x : V} (h : Cone L R x) : Cone L {r | r ∈ R ∧ SatSub A x r} x := by
  refine Cone.face_aux A hL hR x h ?_
  intro a _
  rw [sub_self]
  exact ACon.holds_of_zero (map_zero _)

/-! ### small steps -/

theorem eps_one (p q : ℚ) (hp : 0 < p) : ∃ δ : ℚ, 0 < δ ∧ ∀ ε, 0 < ε → ε ≤ δ → 0 < p + ε * q := by
  rcases le_or_gt 0 q with hq | hq
  · exact ⟨1, one_pos, fun ε hε _ => by have := mul_nonneg hε.le hq; linarith⟩
  · have hq' : 0 < 2 * (-q) := by linarith
    refine ⟨p / (2 * (-q)), div_pos hp hq', fun ε hε hle => ?_⟩
    have h1 : ε * (2 * (-q)) ≤ p := by
      have := mul_le_mul_of_nonneg_right hle hq'.le
      rwa [div_mul_cancel₀ _ hq'.ne'] at this
    linarith

theorem eps_aux (A : List (ACon V)) (x w : V) :
    ∃ δ : ℚ, 0 < δ ∧ ∀ ε, 0 < ε → ε ≤ δ → ∀ a ∈ A, 0 < a.f x → 0 < a.f x + ε * a.f w := by
  induction A with
  | nil => exact ⟨1, one_pos, fun _ _ _ a ha => by cases ha⟩
  | cons b A ih =>
    obtain ⟨δ, hδ, h⟩ := ih
    by_cases hb : 0 < b.f x
    · obtain ⟨δ', hδ', h'⟩ := eps_one (b.f x) (b.f w) hb
      refine ⟨min δ δ', lt_min hδ hδ', fun ε hε hle a ha hpos => ?_⟩
      rcases List.mem_cons.1 ha with e | ha
      · rw [e]; exact h' ε hε (hle.trans (min_le_right _ _))
      · exact h ε hε (hle.trans (min_le_left _ _)) a ha hpos
    · refine ⟨δ, hδ, fun ε hε hle a ha hpos => ?_⟩
      rcases List.mem_cons.1 ha with e | ha
      · rw [e] at hpos; exact absurd hpos hb
      · exact h ε hε hle a ha hpos

/-- a small step in any direction `w` that vanishes where `x` is tight stays inside, with the same
saturators -/
theorem exists_eps (A : List (ACon V)) (x w : V) (hx : InP A x)
    (hw : ∀ a ∈ A, a.f x = 0 → a.f w = 0) :
    ∃ ε : ℚ, 0 < ε ∧ InP A (x + ε • w) ∧ SatSub A (x + ε • w) x := by
  obtain ⟨δ, hδ, h⟩ := eps_aux A x w
  have key : ∀ a ∈ A, a.f x ≠ 0 → 0 < a.f (x + δ • w) := by
    intro a ha hne
    have h1 : 0 < a.f x := lt_of_le_of_ne (hx a ha).nonneg (Ne.symm hne)
    have h2 := h δ hδ le_rfl a ha h1
    simpa only [map_add, map_smul, smul_eq_mul] using h2
  refine ⟨δ, hδ, fun a ha => ?_, fun a ha h0 => ?_⟩
  · by_cases h0 : a.f x = 0
    · refine (ACon.holds_congr ?_).1 (hx a ha)
      simp only [map_add, map_smul, smul_eq_mul, hw a ha h0, mul_zero, add_zero]
    · exact ACon.holds_of_nonneg ((hx a ha).eq_false h0) (key a ha h0).le
  · by_contra hne
    exact absurd h0 (key a ha hne).ne'

/-! ### peeling -/

theorem exists_min_of_list {α : Type*} (A : List α) (p : α → Prop) (g : α → ℚ) (h : ∃ a ∈ A, p a) :
    ∃ a₀ ∈ A, p a₀ ∧ ∀ a ∈ A, p a → g a₀ ≤ g a := by
  induction A with
  | nil => obtain ⟨a, ha, _⟩ := h; cases ha
  | cons b A ih =>
    by_cases hA : ∃ a ∈ A, p a
    · obtain ⟨a₁, ha₁, hp₁, h1⟩ := ih hA
      by_cases hb : p b
      · rcases le_total (g b) (g a₁) with hle | hle
        · refine ⟨b, List.mem_cons_self, hb, fun a ha hpa => ?_⟩
          rcases List.mem_cons.1 ha with e | ha'
          · rw [e]
          · exact hle.trans (h1 a ha' hpa)
        · refine ⟨a₁, List.mem_cons_of_mem _ ha₁, hp₁, fun a ha hpa => ?_⟩
          rcases List.mem_cons.1 ha with e | ha'
          · rw [e]; exact hle
          · exact h1 a ha' hpa
      · refine ⟨a₁, List.mem_cons_of_mem _ ha₁, hp₁, fun a ha hpa => ?_⟩
        rcases List.mem_cons.1 ha with e | ha'
        · rw [e] at hpa; exact absurd hpa hb
        · exact h1 a ha' hpa
    · obtain ⟨a, ha, hpa⟩ := h
      have hab : a = b := by
        rcases List.mem_cons.1 ha with e | ha'
        · exact e
        · exact absurd ⟨a, ha', hpa⟩ hA
      rw [hab] at hpa
      refine ⟨b, List.mem_cons_self, hpa, fun a' ha' hpa' => ?_⟩
      rcases List.mem_cons.1 ha' with e | ha''
      · rw [e]
      · exact absurd ⟨a', ha'', hpa'⟩ hA

/-- peeling: subtract as much of `v` as possible -/
theorem peel (A : List (ACon V)) (x v : V) (hx : InP A x) (hv : InP A v) (hsub : SatSub A x v)
    (hvne : ∃ a ∈ A, a.f v ≠ 0) :
    ∃ t : ℚ, 0 ≤ t ∧ InP A (x - t • v) ∧ SatSub A x (x - t • v) ∧
      ∃ a ∈ A, a.f x ≠ 0 ∧ a.f (x - t • v) = 0 := by
  have hpos : ∃ a ∈ A, 0 < a.f v := by
    obtain ⟨a, ha, hne⟩ := hvne
    exact ⟨a, ha, lt_of_le_of_ne (hv a ha).nonneg (Ne.symm hne)⟩
  obtain ⟨a₀, ha₀, hp₀, hmin⟩ :=
    exists_min_of_list A (fun a => 0 < a.f v) (fun a => a.f x / a.f v) hpos
  have hval : ∀ a : ACon V,
      a.f (x - (a₀.f x / a₀.f v) • v) = a.f x - (a₀.f x / a₀.f v) * a.f v := by
    intro a; simp only [map_sub, map_smul, smul_eq_mul]
  refine ⟨a₀.f x / a₀.f v, div_nonneg (hx a₀ ha₀).nonneg hp₀.le, fun a ha => ?_,
    fun a ha h0 => ?_, a₀, ha₀, ?_, ?_⟩
  · by_cases h0 : a.f v = 0
    · refine (ACon.holds_congr ?_).1 (hx a ha)
      rw [hval, h0, mul_zero, sub_zero]
    · have hpa : 0 < a.f v := lt_of_le_of_ne (hv a ha).nonneg (Ne.symm h0)
      refine ACon.holds_of_nonneg ((hv a ha).eq_false h0) ?_
      rw [hval]
      have h1 : a₀.f x / a₀.f v ≤ a.f x / a.f v := hmin a ha hpa
      have h2 := (le_div_iff₀ hpa).1 h1
      linarith
  · rw [hval, h0, hsub a ha h0, mul_zero, sub_zero]
  · intro h0; exact hp₀.ne' (hsub a₀ ha₀ h0)
  · rw [hval, div_mul_cancel₀ _ hp₀.ne', sub_self]

/-! ### the lineality space -/

/-- lineality space = span of the lines -/
theorem DDInv.lineality {U : Submodule ℚ V} {A : List (ACon V)} {L R : Set V} (inv : DDInv U A L R)
    (x : V) (hxU : x ∈ U) (hx : ∀ a ∈ A, a.f x = 0) : Cone L ∅ x := by
  have h1 : Cone L R x := inv.complete x hxU (fun a ha => ACon.holds_of_zero (hx a ha))
  have h2 := Cone.face A inv.lineSat inv.raySound h1
  refine Cone.mono (fun _ h => h) ?_ h2
  intro r hr
  obtain ⟨hrR, hs⟩ := hr
  obtain ⟨a, ha, hne⟩ := inv.proper r hrR
  exact absurd (hs a ha (hx a ha)) hne

end PPLV.Conv.Abs

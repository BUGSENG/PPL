import PPLV.Conv.ProofsLine
/-!
# Soundness of the line case of `conversion`
-/
namespace PPLV.Conv

/-! ## small facts -/

theorem linesFirst_iff (rows : List DRow) (n : Nat) :
    LinesFirst (rows.map (·.row)) n ↔ ∀ m d, rows[m]? = some d → d.row.le = decide (m < n) := by
  constructor
  · intro h m d hd
    have hm : m < rows.length := by
      by_contra hc
      rw [List.getElem?_eq_none (by omega)] at hd; cases hd
    have := h m (by simpa using hm)
    rw [List.getElem?_eq_getElem hm] at hd
    have hd' := Option.some.inj hd
    subst hd'
    simpa using this
  · intro h i hi
    have hi' : i < rows.length := by simpa using hi
    have := h i rows[i] (List.getElem?_eq_getElem hi')
    simpa using this

theorem satisfies_of_zero (s d : LRow) (h : scalarProduct s.v d.v = 0) : satisfies s d := by
  unfold satisfies
  split
  · exact h
  · omega

theorem satisfies_ray (s d : LRow) (hs : s.le = false) (hd : d.le = false) (h : 0 ≤ scalarProduct s.v d.v) :
    satisfies s d := by
  unfold satisfies
  simp [hs, hd, h]

theorem satisfies_line_zero (s d : LRow) (h : satisfies s d) (hl : s.le = true ∨ d.le = true) :
    scalarProduct s.v d.v = 0 := by
  unfold satisfies at h
  have : (s.le || d.le) = true := by rcases hl with h | h <;> simp [h]
  simpa [this] using h

theorem satisfies_nonneg (s d : LRow) (h : satisfies s d) : 0 ≤ scalarProduct s.v d.v := by
  unfold satisfies at h
  split at h
  · omega
  · exact h

/-- `satisfies` only depends on the kind bit and on the product. -/
theorem satisfies_holds (s g : LRow) (h : satisfies s g) : holds s g.v := by
  unfold satisfies at h
  unfold holds
  cases hs : s.le <;> cases hg : g.le <;> simp [hs, hg] at h ⊢ <;> omega

theorem satisfies_congr (s d d' : LRow) (hle : d'.le = d.le) (g : Int) (hg : g ≠ 0) (hpos : d.le = false → 0 < g)
    (h : satisfies s d) (he : g * scalarProduct s.v d'.v = scalarProduct s.v d.v) : satisfies s d' := by
  unfold satisfies at h ⊢
  rw [hle]
  split at h
  · rename_i hc
    simp only [hc, if_true]
    rw [h] at he
    rcases Int.mul_eq_zero.mp he with h1 | h1
    · exact absurd h1 hg
    · exact h1
  · rename_i hc
    simp only [hc]
    have hdl : d.le = false := by
      cases hd : d.le <;> simp_all
    have hgp := hpos hdl
    simp only [Bool.false_eq_true, if_false]
    by_contra hneg
    have : scalarProduct s.v d'.v < 0 := by omega
    have : g * scalarProduct s.v d'.v < 0 := Int.mul_neg_of_pos_of_neg hgp this
    omega

/-! ## `indexNonZero` -/

theorem indexNonZero_le (l : List DRow) : indexNonZero l ≤ l.length := by
  induction l with
  | nil => simp [indexNonZero]
  | cons d ds ih =>
    simp only [indexNonZero]
    split <;> simp <;> omega

theorem indexNonZero_before (l : List DRow) (m : Nat) (d : DRow) (hm : m < indexNonZero l) (hd : l[m]? = some d) :
    d.sp = 0 := by
  induction l generalizing m with
  | nil => simp at hd
  | cons e es ih =>
    simp only [indexNonZero] at hm
    split at hm
    · omega
    · rename_i hz
      cases m with
      | zero =>
        simp at hd; subst hd
        simpa using hz
      | succ k =>
        simp at hd
        exact ih k (by omega) hd

theorem indexNonZero_at (l : List DRow) (h : indexNonZero l < l.length) :
    ∃ d, l[indexNonZero l]? = some d ∧ d.sp ≠ 0 := by
  induction l with
  | nil => simp at h
  | cons e es ih =>
    simp only [indexNonZero] at h ⊢
    split
    · rename_i hz
      exact ⟨e, by simp, by simpa using hz⟩
    · rename_i hz
      simp only [hz] at h
      have : indexNonZero es < es.length := by simpa using h
      obtain ⟨d, h1, h2⟩ := ih this
      exact ⟨d, by simpa using h1, h2⟩

/-! ## the line case -/

/-- hypotheses shared by the two cases: the products are stored, the old rows satisfy `P`. -/
structure StepHyp (srcK : LRow) (st : CState) (P : List LRow) : Prop where
  hsp : ∀ d ∈ st.rows, d.sp = scalarProduct srcK.v d.row.v
  hP : ∀ d ∈ st.rows, ∀ s ∈ P, satisfies s d.row
  hl : ∀ m d, st.rows[m]? = some d → d.row.le = decide (m < st.nle)
  hn : st.nle ≤ st.rows.length

/-- the state the two cases of `conversionStep` work on: the scalar products with `source_k` stored (:437-469). -/
def withSp (srcK : LRow) (st : CState) : CState :=
  { st with rows := st.rows.map fun d => { d with sp := scalarProduct srcK.v d.row.v } }

theorem getElem?_withSp {srcK : LRow} {st : CState} {m : Nat} {d : DRow} (h : (withSp srcK st).rows[m]? = some d) :
    ∃ d0, st.rows[m]? = some d0 ∧ d = { d0 with sp := scalarProduct srcK.v d0.row.v } := by
  unfold withSp at h
  rw [List.getElem?_map] at h
  match hq : st.rows[m]? with
  | none => rw [hq] at h; cases h
  | some d0 => rw [hq] at h; exact ⟨d0, rfl, (Option.some.inj h).symm⟩

theorem mem_withSp {srcK : LRow} {st : CState} {d : DRow} (h : d ∈ (withSp srcK st).rows) :
    ∃ d0 ∈ st.rows, d = { d0 with sp := scalarProduct srcK.v d0.row.v } := by
  obtain ⟨d0, h0, h1⟩ := List.mem_map.mp h
  exact ⟨d0, h0, h1.symm⟩

theorem stepHyp_withSp (srcK : LRow) (st : CState) (P : List LRow)
    (h : ∀ d ∈ st.rows, ∀ s ∈ P, satisfies s d.row)
    (hl : ∀ m d, st.rows[m]? = some d → d.row.le = decide (m < st.nle)) (hn : st.nle ≤ st.rows.length) :
    StepHyp srcK (withSp srcK st) P := by
  refine ⟨fun d hd => ?_, fun d hd => ?_, fun m d hd => ?_, ?_⟩
  · obtain ⟨d0, _, rfl⟩ := mem_withSp hd; rfl
  · obtain ⟨d0, h0, rfl⟩ := mem_withSp hd; exact h d0 h0
  · obtain ⟨d0, h0, rfl⟩ := getElem?_withSp hd; exact hl m d0 h0
  · show st.nle ≤ (st.rows.map _).length
    rw [List.length_map]; exact hn

/-- `conversionStep` is the line case at the first record `inz` with a non-zero scalar product when that record
is a line, and the ray case otherwise: then the scalar products of all lines are zero. -/
theorem conversionStep_cases (ncols : Nat) (srcK : LRow) (st : CState) (hn : st.nle ≤ st.rows.length) :
    (∃ inz, inz < st.nle ∧
      conversionStep ncols srcK st = lineCase srcK (st.k - st.redundant.length) (withSp srcK st) inz ∧
      (∀ m d, m < inz → (withSp srcK st).rows[m]? = some d → d.sp = 0) ∧
      ∃ r, (withSp srcK st).rows[inz]? = some r ∧ r.sp ≠ 0) ∨
    (conversionStep ncols srcK st = rayCase ncols srcK (st.k - st.redundant.length) (withSp srcK st) ∧
      ∀ d ∈ (withSp srcK st).rows.take (withSp srcK st).nle, d.sp = 0) := by
  have hlen : (withSp srcK st).rows.length = st.rows.length := List.length_map _
  by_cases hc : indexNonZero (withSp srcK st).rows < st.nle
  · exact Or.inl ⟨_, hc, if_pos hc, indexNonZero_before _, indexNonZero_at _ (by omega)⟩
  · refine Or.inr ⟨if_neg hc, fun d hd => ?_⟩
    obtain ⟨m, hm⟩ := List.mem_iff_getElem?.mp hd
    rw [List.getElem?_take] at hm
    split at hm
    · rename_i hlt
      exact indexNonZero_before _ m d (by have : m < st.nle := hlt; omega) hm
    · cases hm

theorem linePivot_facts (srcK : LRow) (P : List LRow) (r : DRow) (hsp : r.sp = scalarProduct srcK.v r.row.v)
    (hnz : r.sp ≠ 0) (hle : r.row.le = true) (hP : ∀ s ∈ P, satisfies s r.row) :
    (linePivot r).row.le = false ∧ 0 < (linePivot r).sp ∧
    (linePivot r).sp = scalarProduct srcK.v (linePivot r).row.v ∧
    ∀ s ∈ P, scalarProduct s.v (linePivot r).row.v = 0 := by
  unfold linePivot
  by_cases h : r.sp < 0
  · rw [if_pos h]
    refine ⟨rfl, by show 0 < - r.sp; omega, ?_, ?_⟩
    · show - r.sp = scalarProduct srcK.v (r.row.v.map (- ·))
      rw [sp_neg, hsp]
    · intro s hs
      show scalarProduct s.v (r.row.v.map (- ·)) = 0
      rw [sp_neg, satisfies_line_zero s r.row (hP s hs) (Or.inr hle)]; rfl
  · rw [if_neg h]
    refine ⟨rfl, by show 0 < r.sp; omega, hsp, ?_⟩
    intro s hs
    exact satisfies_line_zero s r.row (hP s hs) (Or.inr hle)

/-- a record produced by combining an old record with the pivot is good. -/
theorem combRow_good (srcK : LRow) (P : List LRow) (p : DRow) (d0 : DRow)
    (hppos : 0 < p.sp) (hpsp : p.sp = scalarProduct srcK.v p.row.v)
    (hpP : ∀ s ∈ P, scalarProduct s.v p.row.v = 0)
    (hsp0 : d0.sp = scalarProduct srcK.v d0.row.v) (h0P : ∀ s ∈ P, satisfies s d0.row) :
    (combRow p.row p.sp d0.row d0.sp).le = d0.row.le ∧
    ∀ s ∈ P ++ [srcK], satisfies s (combRow p.row p.sp d0.row d0.sp) := by
  obtain ⟨g, c, nI, nO, hg, hgpos, hc, h1, h2, _, _, hle, hs⟩ :=
    sp_combineWithNle { row := p.row, sp := p.sp, sat := [] } { row := d0.row, sp := d0.sp, sat := [] } (by simpa using ne_of_gt hppos)
  simp only at h1 h2 hgpos
  have hle : (combRow p.row p.sp d0.row d0.sp).le = d0.row.le := hle
  have hs : ∀ s : Vec, nO * scalarProduct s d0.row.v - nI * scalarProduct s p.row.v
      = g * scalarProduct s (combRow p.row p.sp d0.row d0.sp).v := hs
  have hnO : 0 < nO := by
    by_contra hneg
    have : nO ≤ 0 := by omega
    have : c * nO ≤ 0 := Int.mul_nonpos_of_nonneg_of_nonpos (le_of_lt hc) this
    omega
  refine ⟨hle, ?_⟩
  intro s hsm
  rcases List.mem_append.mp hsm with hsP | hsK
  · -- a processed row: its product with the pivot is 0
    have e := hs s.v
    rw [hpP s hsP] at e
    have h0 := h0P s hsP
    unfold satisfies at h0 ⊢
    rw [hle]
    by_cases hc2 : (s.le || d0.row.le) = true
    · simp only [hc2, if_true] at h0 ⊢
      rw [h0] at e
      have : g * scalarProduct s.v (combRow p.row p.sp d0.row d0.sp).v = 0 := by
        linarith
      rcases Int.mul_eq_zero.mp this with h | h
      · exact absurd h hg
      · exact h
    · simp only [hc2, Bool.false_eq_true, if_false] at h0 ⊢
      have hdl : d0.row.le = false := by
        cases hd : d0.row.le <;> simp_all
      have hgp := hgpos hdl
      have e2 : g * scalarProduct s.v (combRow p.row p.sp d0.row d0.sp).v = nO * scalarProduct s.v d0.row.v := by
        linarith
      have : 0 ≤ nO * scalarProduct s.v d0.row.v := Int.mul_nonneg (le_of_lt hnO) h0
      by_contra hneg
      have h3 : scalarProduct s.v (combRow p.row p.sp d0.row d0.sp).v < 0 := by omega
      have : g * scalarProduct s.v (combRow p.row p.sp d0.row d0.sp).v < 0 := Int.mul_neg_of_pos_of_neg hgp h3
      omega
  · have hsK' : s = srcK := by simpa using hsK
    subst hsK'
    apply satisfies_of_zero
    have e := hs s.v
    have e1 : scalarProduct s.v d0.row.v = c * nI := by rw [← hsp0]; exact h1
    have e2 : scalarProduct s.v p.row.v = c * nO := by rw [← hpsp]; exact h2
    rw [e1, e2] at e
    have : g * scalarProduct s.v (combRow p.row p.sp d0.row d0.sp).v = 0 := by
      have : nO * (c * nI) - nI * (c * nO) = 0 := by ring
      linarith
    rcases Int.mul_eq_zero.mp this with h | h
    · exact absurd h hg
    · exact h

end PPLV.Conv

import PPLV.Conv.ProofsList
/-!
# what `rayCase` does to the list of records
-/
namespace PPLV.Conv

def keepImage (setb : Bool) (newK : Nat) (d : DRow) : DRow := if setb && decide (0 < d.sp) then { d with sat := setBit d.sat newK } else d
def survives (srcK : LRow) (d : DRow) : Prop := if srcK.le then d.sp = 0 else 0 ≤ d.sp

/-- the body of `rayCase` after the partition. -/
def rayBody (ncols : Nat) (srcK : LRow) (newK : Nat) (st : CState) (rows : List DRow) (leb sup : Nat) : CState :=
  let nle := st.nle
  let destNumRows := st.rows.length
  if sup == destNumRows then
    if !srcK.le then { st with rows := rows, redundant := st.redundant ++ [st.k] }
    else { st with rows := rows.take leb }
  else if sup == nle then
    { st with rows := rows.take sup }
  else
    let bound := destNumRows
    let rows := rows ++ newRays ncols nle newK leb sup bound rows
    let (j0, rows) :=
      if !srcK.le then
        (sup, rows.mapIdx fun l d => if leb ≤ l ∧ l < sup then { d with sat := setBit d.sat newK } else d)
      else (leb, rows)
    let cnt := min (bound - j0) (rows.length - bound)
    let rows' := swapLoop cnt rows rows.length j0
    let i := rows.length - cnt
    let j := j0 + cnt
    let newNumRows := if j == bound then i else j
    { st with rows := rows'.take newNumRows }

theorem rayCase_eq (ncols : Nat) (srcK : LRow) (newK : Nat) (st : CState) :
    rayCase ncols srcK newK st =
      rayBody ncols srcK newK st
        (partitionLoop (st.rows.length - skipSaturators (st.rows.drop st.nle) st.nle) st.rows
          (skipSaturators (st.rows.drop st.nle) st.nle) (skipSaturators (st.rows.drop st.nle) st.nle) st.rows.length).1
        (partitionLoop (st.rows.length - skipSaturators (st.rows.drop st.nle) st.nle) st.rows
          (skipSaturators (st.rows.drop st.nle) st.nle) (skipSaturators (st.rows.drop st.nle) st.nle) st.rows.length).2.1
        (partitionLoop (st.rows.length - skipSaturators (st.rows.drop st.nle) st.nle) st.rows
          (skipSaturators (st.rows.drop st.nle) st.nle) (skipSaturators (st.rows.drop st.nle) st.nle) st.rows.length).2.2 := rfl

/-- what the partition of `rayCase` delivers. -/
theorem rayCase_partition (st : CState) (hnle : st.nle ≤ st.rows.length) :
    let leb0 := skipSaturators (st.rows.drop st.nle) st.nle
    let p := partitionLoop (st.rows.length - leb0) st.rows leb0 leb0 st.rows.length
    p.1.length = st.rows.length ∧ p.1.take st.nle = st.rows.take st.nle ∧
    (p.1.drop st.nle).Perm (st.rows.drop st.nle) ∧ st.nle ≤ p.2.1 ∧ p.2.1 ≤ p.2.2 ∧
    p.2.2 ≤ st.rows.length ∧ Regions p.1 st.nle p.2.1 p.2.2 p.2.2 := by
  intro leb0 p
  obtain ⟨hs1, hs2, hs3⟩ := skipSaturators_spec (st.rows.drop st.nle) st.nle
  rw [List.length_drop] at hs2
  have hl : leb0 ≤ st.rows.length := by show skipSaturators _ _ ≤ _; omega
  refine partitionLoop_spec st.nle (st.rows.length - leb0) st.rows leb0 leb0 st.rows.length rfl hs1
    (Nat.le_refl _) hl (Nat.le_refl _) ⟨?_, ?_, ?_⟩
  · intro m hm1 hm2
    have := hs3 (m - st.nle) (by show _ < leb0 - _; omega)
    rw [List.getD_eq_getElem?_getD, List.getElem?_drop] at this
    rw [List.getD_eq_getElem?_getD]
    rwa [show st.nle + (m - st.nle) = m by omega] at this
  · intro m hm1 hm2; omega
  · intro m hm1 hm2; omega

theorem adjacent_some (ncols nle newK bound : Nat) (rows : List DRow) (i j : Nat) (s : BRow)
    (h : adjacent ncols nle newK bound rows i j = some s) :
    s = bor (rows.getD i default).sat (rows.getD j default).sat := by
  unfold adjacent at h
  simp only at h
  split at h
  · cases h
  · split at h
    · exact (Option.some.inj h).symm
    · split at h
      · cases h
      · exact (Option.some.inj h).symm

/-- membership in `newRays`, with the verdict of the adjacency test. -/
theorem mem_newRays_iff (ncols nle newK leb sup bound : Nat) (rows : List DRow) (x : DRow) :
    x ∈ newRays ncols nle newK leb sup bound rows ↔
    ∃ i j s, leb ≤ i ∧ i < sup ∧ sup ≤ j ∧ j < bound ∧ adjacent ncols nle newK bound rows i j = some s ∧
      x = newRay (rows.getD i default) (rows.getD j default) s := by
  unfold newRays
  rw [List.mem_flatMap]
  constructor
  · rintro ⟨i, hi, h⟩
    rw [List.mem_filterMap] at h
    obtain ⟨j, hj, h⟩ := h
    rw [List.mem_range'_1] at hi hj
    split at h
    · cases h
    · rename_i s hs
      exact ⟨i, j, s, hi.1, by omega, hj.1, by omega, hs, (Option.some.inj h).symm⟩
  · rintro ⟨i, j, s, h1, h2, h3, h4, h5, rfl⟩
    refine ⟨i, by rw [List.mem_range'_1]; omega, ?_⟩
    rw [List.mem_filterMap]
    refine ⟨j, by rw [List.mem_range'_1]; omega, ?_⟩
    rw [h5]

theorem mapIdx_take_eq (f : Nat → DRow → DRow) (xs : List DRow) (b : Nat)
    (hf : ∀ l, l < b → ∀ d, f l d = d) : (xs.mapIdx f).take b = xs.take b := by
  apply List.ext_getElem?
  intro m
  simp only [List.getElem?_take, List.getElem?_mapIdx]
  split
  · rename_i hm
    cases xs[m]? with
    | none => rfl
    | some d => simp [hf m hm d]
  · rfl

theorem mapIdx_drop_eq (f : Nat → DRow → DRow) (xs : List DRow) (b : Nat)
    (hf : ∀ l, b ≤ l → ∀ d, f l d = d) : (xs.mapIdx f).drop b = xs.drop b := by
  apply List.ext_getElem?
  intro m
  simp only [List.getElem?_drop, List.getElem?_mapIdx]
  cases xs[b + m]? with
  | none => rfl
  | some d => simp [hf (b + m) (by omega) d]

/-- the final `swapLoop` + `take` of `rayCase`. -/
theorem swap_take_shape (rows3 : List DRow) (nle j0 bound : Nat) (h1 : nle ≤ j0) (h2 : j0 ≤ bound)
    (h3 : bound ≤ rows3.length) :
    ∃ t, (swapLoop (min (bound - j0) (rows3.length - bound)) rows3 rows3.length j0).take
        (if (j0 + min (bound - j0) (rows3.length - bound) == bound) = true
          then rows3.length - min (bound - j0) (rows3.length - bound)
          else j0 + min (bound - j0) (rows3.length - bound)) =
        rows3.take nle ++ ((rows3.take j0).drop nle ++ t) ∧ t.Perm (rows3.drop bound) := by
  obtain ⟨t, ht1, ht2⟩ := swapLoop_spec bound (min (bound - j0) (rows3.length - bound)) rows3 rows3.length j0
    h2 h3 (Nat.le_refl _) rfl
  refine ⟨t, ?_, by simpa using ht2⟩
  simp only [beq_iff_eq]
  rw [ht1, ← List.append_assoc]
  congr 1
  conv_lhs => rw [← List.take_append_drop nle (rows3.take j0)]
  rw [List.take_take, Nat.min_eq_left h1]

/-- the facts about the partitioned list that the case analysis of `rayCase` uses. -/
structure PartOK (st : CState) (R : List DRow) (leb sup : Nat) : Prop where
  hlen : R.length = st.rows.length
  htake : R.take st.nle = st.rows.take st.nle
  hperm : (R.drop st.nle).Perm (st.rows.drop st.nle)
  h1 : st.nle ≤ leb
  h2 : leb ≤ sup
  h3 : sup ≤ st.rows.length
  hreg : Regions R st.nle leb sup sup
  hz : ∀ d ∈ st.rows.take st.nle, d.sp = 0

theorem PartOK.index {st R leb sup} (h : PartOK st R leb sup) (d : DRow) (hd : d ∈ st.rows.drop st.nle) :
    ∃ m, st.nle ≤ m ∧ m < st.rows.length ∧ R[m]? = some d := by
  rw [← h.hperm.mem_iff, mem_drop_iff_getElem?] at hd
  obtain ⟨m, hm1, hm2⟩ := hd
  exact ⟨m, hm1, by rw [← h.hlen]; exact (List.getElem?_eq_some_iff.1 hm2).1, hm2⟩

theorem PartOK.at {st R leb sup} (h : PartOK st R leb sup) (m : Nat) (d : DRow) (hm : st.nle ≤ m)
    (hd : R[m]? = some d) :
    d ∈ st.rows.drop st.nle ∧ m < st.rows.length ∧ (m < leb → d.sp = 0) ∧
      (leb ≤ m → m < sup → 0 < d.sp) ∧ (sup ≤ m → d.sp < 0) := by
  have hml : m < R.length := (List.getElem?_eq_some_iff.1 hd).1
  have hg : R.getD m default = d := getD_of_getElem? R m d default hd
  obtain ⟨r1, r2, r3⟩ := h.hreg
  refine ⟨?_, by rw [← h.hlen]; exact hml, ?_, ?_, ?_⟩
  · rw [← h.hperm.mem_iff, mem_drop_iff_getElem?]
    exact ⟨m, hm, hd⟩
  · intro hm2; rw [← hg]; exact r1 m hm hm2
  · intro hm1 hm2; rw [← hg]; exact r2 m hm1 hm2
  · intro hm1; rw [← hg]; exact r3 m hm1 hml

theorem PartOK.sign {st R leb sup} (h : PartOK st R leb sup) (d : DRow) (hd : d ∈ st.rows) :
    d.sp = 0 ∨ d ∈ st.rows.drop st.nle := by
  rw [← List.take_append_drop st.nle st.rows, List.mem_append] at hd
  rcases hd with hd | hd
  · exact Or.inl (h.hz d hd)
  · exact Or.inr hd

theorem PartOK.hasNeg {st R leb sup} (h : PartOK st R leb sup) (hs : sup < st.rows.length) :
    st.rows.any (fun d => decide (d.sp < 0)) = true ∧ st.rows.all (fun d => decide (0 ≤ d.sp)) = false := by
  have hml : sup < R.length := by rw [h.hlen]; exact hs
  obtain ⟨a1, _, _, _, a5⟩ := h.at sup (R.getD sup default) (by have := h.h1; have := h.h2; omega)
    (getElem?_of_lt_getD R sup default hml)
  have hmem := List.mem_of_mem_drop a1
  have hneg := a5 (Nat.le_refl _)
  constructor
  · rw [List.any_eq_true]
    exact ⟨_, hmem, by simpa using hneg⟩
  · rw [List.all_eq_false]
    exact ⟨_, hmem, by rw [decide_eq_true_eq]; omega⟩

theorem PartOK.noNeg {st R leb sup} (h : PartOK st R leb sup) (hs : sup = st.rows.length) :
    st.rows.all (fun d => decide (0 ≤ d.sp)) = true ∧ st.rows.any (fun d => decide (d.sp < 0)) = false := by
  have key : ∀ d ∈ st.rows, 0 ≤ d.sp := by
    intro d hd
    rcases h.sign d hd with h0 | hd
    · omega
    · obtain ⟨m, hm1, hm2, hm3⟩ := h.index d hd
      obtain ⟨_, _, a3, a4, _⟩ := h.at m d hm1 hm3
      by_cases hml : m < leb
      · have := a3 hml; omega
      · have := a4 (by omega) (by omega); omega
  constructor
  · rw [List.all_eq_true]
    intro d hd
    simpa using key d hd
  · rw [List.any_eq_false]
    intro d hd
    have := key d hd
    simp; omega

theorem keepImage_false (newK : Nat) (d : DRow) : keepImage false newK d = d := by
  unfold keepImage; simp

/-- the shape of the result of `rayBody`. -/
def RayShape (ncols : Nat) (srcK : LRow) (newK : Nat) (st st' : CState) (R : List DRow) (leb sup : Nat) : Prop :=
  ∃ t, t.Perm (newRays ncols st.nle newK leb sup st.rows.length R) ∧
    st'.rows = st.rows.take st.nle ++
      (((R.take (if srcK.le then leb else sup)).drop st.nle).map
          (keepImage (!srcK.le && st.rows.any (fun d => decide (d.sp < 0))) newK) ++ t)

theorem newRays_nil_of_sup (ncols nle newK leb sup bound : Nat) (R : List DRow) (h : bound ≤ sup) :
    newRays ncols nle newK leb sup bound R = [] := by
  unfold newRays
  have : bound - sup = 0 := by omega
  rw [this]
  simp

theorem newRays_nil_of_leb (ncols nle newK leb sup bound : Nat) (R : List DRow) (h : sup ≤ leb) :
    newRays ncols nle newK leb sup bound R = [] := by
  unfold newRays
  have : sup - leb = 0 := by omega
  rw [this]
  simp

theorem map_keepImage_false (newK : Nat) (l : List DRow) : l.map (keepImage false newK) = l := by
  have : keepImage false newK = id := by funext d; exact keepImage_false newK d
  rw [this, List.map_id]

theorem rayShape_noNeg (ncols : Nat) (srcK : LRow) (newK : Nat) (st : CState) (R : List DRow) (leb sup : Nat)
    (h : PartOK st R leb sup) (hs : sup = st.rows.length) :
    RayShape ncols srcK newK st (rayBody ncols srcK newK st R leb sup) R leb sup := by
  obtain ⟨g1, g2⟩ := h.noNeg hs
  refine ⟨[], by rw [newRays_nil_of_sup _ _ _ _ _ _ _ (by omega)], ?_⟩
  have hsetb : (!srcK.le && st.rows.any (fun d => decide (d.sp < 0))) = false := by simp [g2]
  rw [hsetb, map_keepImage_false, List.append_nil]
  cases hle : srcK.le
  · have hb : rayBody ncols srcK newK st R leb sup = { st with rows := R, redundant := st.redundant ++ [st.k] } := by
      simp [rayBody, hs, hle]
    rw [hb]
    show R = _
    simp only [Bool.false_eq_true, if_false]
    rw [hs, ← h.hlen, List.take_length, ← h.htake, List.take_append_drop]
  · have hb : rayBody ncols srcK newK st R leb sup = { st with rows := R.take leb } := by
      simp [rayBody, hs, hle]
    rw [hb]
    show R.take leb = _
    simp only [if_true]
    conv_lhs => rw [← List.take_append_drop st.nle (R.take leb)]
    rw [List.take_take, Nat.min_eq_left h.h1, h.htake]

theorem rayShape_allNeg (ncols : Nat) (srcK : LRow) (newK : Nat) (st : CState) (R : List DRow) (leb sup : Nat)
    (h : PartOK st R leb sup) (hs : sup < st.rows.length) (hsn : sup = st.nle) :
    RayShape ncols srcK newK st (rayBody ncols srcK newK st R leb sup) R leb sup := by
  have hb : rayBody ncols srcK newK st R leb sup = { st with rows := R.take sup } := by
    have : st.nle ≠ st.rows.length := by omega
    simp [rayBody, this, hsn]
  have hleb : leb = st.nle := by have := h.h1; have := h.h2; omega
  refine ⟨[], by rw [newRays_nil_of_leb _ _ _ _ _ _ _ (by omega)], ?_⟩
  rw [hb]
  show R.take sup = _
  have e : (R.take (if srcK.le then leb else sup)).drop st.nle = [] := by
    have : (if srcK.le then leb else sup) = st.nle := by split <;> omega
    rw [this, List.drop_eq_nil_iff, List.length_take]; omega
  rw [e, hsn, h.htake]; simp

theorem rayShape_general_ineq (ncols : Nat) (srcK : LRow) (newK : Nat) (st : CState) (R : List DRow) (leb sup : Nat)
    (h : PartOK st R leb sup) (hs : sup < st.rows.length) (hsn : sup ≠ st.nle) (hle : srcK.le = false) :
    RayShape ncols srcK newK st (rayBody ncols srcK newK st R leb sup) R leb sup := by
  obtain ⟨g1, g2⟩ := h.hasNeg hs
  have hnl := h.h1
  have hls := h.h2
  have hne : sup ≠ st.rows.length := by omega
  let f : Nat → DRow → DRow := fun l d => if leb ≤ l ∧ l < sup then { d with sat := setBit d.sat newK } else d
  let NR := newRays ncols st.nle newK leb sup st.rows.length R
  let rows3 := (R ++ NR).mapIdx f
  have hl3 : st.rows.length ≤ rows3.length := by
    simp only [rows3, List.length_mapIdx, List.length_append, h.hlen]; omega
  obtain ⟨t, ht1, ht2⟩ := swap_take_shape rows3 st.nle sup st.rows.length (by omega) (by omega) hl3
  have hb : rayBody ncols srcK newK st R leb sup = { st with rows := rows3.take st.nle ++ ((rows3.take sup).drop st.nle ++ t) } := by
    rw [← ht1]
    simp only [rayBody, beq_iff_eq, if_neg hne, if_neg hsn, hle, Bool.not_false, if_true]
    rfl
  have e1 : rows3.take st.nle = st.rows.take st.nle := by
    rw [mapIdx_take_eq f _ st.nle (by intro l hl d; simp only [f]; rw [if_neg (by omega)]),
      List.take_append_of_le_length (by rw [h.hlen]; omega), h.htake]
  have e2 : rows3.drop st.rows.length = NR := by
    rw [mapIdx_drop_eq f _ st.rows.length (by intro l hl d; simp only [f]; rw [if_neg (by omega)]),
      ← h.hlen, List.drop_left]
  have e3 : ∀ m, m < st.rows.length → rows3[m]? = (R[m]?).map (f m) := by
    intro m hm
    simp only [rows3, List.getElem?_mapIdx]
    rw [List.getElem?_append_left (by rw [h.hlen]; exact hm)]
  have hfk : ∀ m d, st.nle ≤ m → m < sup → R[m]? = some d →
      f m d = keepImage (!srcK.le && st.rows.any (fun d => decide (d.sp < 0))) newK d := by
    intro m d hm1 hm2 hd
    obtain ⟨_, _, a3, a4, _⟩ := h.at m d hm1 hd
    by_cases hml : m < leb
    · have := a3 hml
      simp only [f, keepImage, hle, g1]
      rw [if_neg (by omega), if_neg (by simp; omega)]
    · have := a4 (by omega) hm2
      simp only [f, keepImage, hle, g1]
      rw [if_pos (by omega), if_pos (by simpa using this)]
  refine ⟨t, by rw [e2] at ht2; exact ht2, ?_⟩
  rw [hb]
  show rows3.take st.nle ++ _ = _
  rw [e1]
  congr 2
  simp only [hle, Bool.false_eq_true, if_false]
  apply List.ext_getElem?
  intro m
  rw [List.getElem?_drop, List.getElem?_take, List.getElem?_map, List.getElem?_drop, List.getElem?_take]
  by_cases hm : st.nle + m < sup
  · simp only [hm, if_true]
    rw [e3 _ (by omega)]
    cases hR : R[st.nle + m]? with
    | none => rfl
    | some d =>
      simp only [Option.map_some]
      rw [hfk _ d (by omega) hm hR, hle]
  · simp [hm]

theorem rayShape_general_eq (ncols : Nat) (srcK : LRow) (newK : Nat) (st : CState) (R : List DRow) (leb sup : Nat)
    (h : PartOK st R leb sup) (hs : sup < st.rows.length) (hsn : sup ≠ st.nle) (hle : srcK.le = true) :
    RayShape ncols srcK newK st (rayBody ncols srcK newK st R leb sup) R leb sup := by
  have hnl := h.h1
  have hls := h.h2
  have hne : sup ≠ st.rows.length := by omega
  let NR := newRays ncols st.nle newK leb sup st.rows.length R
  let rows3 := R ++ NR
  have hl3 : st.rows.length ≤ rows3.length := by
    simp only [rows3, List.length_append, h.hlen]; omega
  obtain ⟨t, ht1, ht2⟩ := swap_take_shape rows3 st.nle leb st.rows.length (by omega) (by omega) hl3
  have hb : rayBody ncols srcK newK st R leb sup = { st with rows := rows3.take st.nle ++ ((rows3.take leb).drop st.nle ++ t) } := by
    rw [← ht1]
    simp only [rayBody, beq_iff_eq, if_neg hne, if_neg hsn, hle, Bool.not_true]
    rfl
  have e1 : rows3.take st.nle = st.rows.take st.nle := by
    rw [List.take_append_of_le_length (by rw [h.hlen]; omega), h.htake]
  have e2 : rows3.drop st.rows.length = NR := by
    rw [← h.hlen, List.drop_left]
  have e4 : rows3.take leb = R.take leb := List.take_append_of_le_length (by rw [h.hlen]; omega)
  have hsetb : (!srcK.le && st.rows.any (fun d => decide (d.sp < 0))) = false := by simp [hle]
  refine ⟨t, by rw [e2] at ht2; exact ht2, ?_⟩
  rw [hb, hsetb, map_keepImage_false]
  show rows3.take st.nle ++ _ = _
  rw [e1, e4]
  simp [hle]

theorem rayBody_shape (ncols : Nat) (srcK : LRow) (newK : Nat) (st : CState) (R : List DRow) (leb sup : Nat)
    (h : PartOK st R leb sup) : RayShape ncols srcK newK st (rayBody ncols srcK newK st R leb sup) R leb sup := by
  by_cases hs : sup = st.rows.length
  · exact rayShape_noNeg ncols srcK newK st _ _ _ h hs
  · have hs' : sup < st.rows.length := Nat.lt_of_le_of_ne h.h3 hs
    by_cases hsn : sup = st.nle
    · exact rayShape_allNeg ncols srcK newK st _ _ _ h hs' hsn
    · cases hle : srcK.le
      · exact rayShape_general_ineq ncols srcK newK st _ _ _ h hs' hsn hle
      · exact rayShape_general_eq ncols srcK newK st _ _ _ h hs' hsn hle

/-- members of the appended new rays. -/
theorem PartOK.newRay_mem {st R leb sup} (h : PartOK st R leb sup) (ncols newK : Nat) (x : DRow)
    (hx : x ∈ newRays ncols st.nle newK leb sup st.rows.length R) :
    ∃ ri ∈ st.rows.drop st.nle, ∃ rj ∈ st.rows.drop st.nle, 0 < ri.sp ∧ rj.sp < 0 ∧
      x = newRay ri rj (bor ri.sat rj.sat) := by
  obtain ⟨i, j, s, hi1, hi2, hj1, hj2, hadj, hx⟩ := (mem_newRays_iff _ _ _ _ _ _ _ _).mp hx
  rw [adjacent_some _ _ _ _ _ _ _ _ hadj] at hx
  have hil : i < R.length := by rw [h.hlen]; have := h.h3; omega
  have hjl : j < R.length := by rw [h.hlen]; exact hj2
  have hnl := h.h1
  obtain ⟨a1, _, _, a4, _⟩ := h.at i (R.getD i default) (by omega) (getElem?_of_lt_getD R i default hil)
  obtain ⟨b1, _, _, _, b5⟩ := h.at j (R.getD j default) (by omega) (getElem?_of_lt_getD R j default hjl)
  exact ⟨_, a1, _, b1, a4 hi1 hi2, b5 hj1, hx⟩

/-- the statement of `rayCase_rows` about an arbitrary final state. -/
def RayPost (srcK : LRow) (newK : Nat) (st st' : CState) : Prop :=
  st'.nle = st.nle ∧ st'.k = st.k ∧
  (st'.redundant = if !srcK.le && st.rows.all (fun d => decide (0 ≤ d.sp)) then st.redundant ++ [st.k] else st.redundant) ∧
  ∃ tail, st'.rows = st.rows.take st.nle ++ tail ∧
    (∀ d' ∈ tail, (∃ d ∈ st.rows.drop st.nle, survives srcK d ∧
          d' = keepImage (!srcK.le && st.rows.any (fun d => decide (d.sp < 0))) newK d) ∨
        (∃ ri ∈ st.rows.drop st.nle, ∃ rj ∈ st.rows.drop st.nle, 0 < ri.sp ∧ rj.sp < 0 ∧
          d' = newRay ri rj (bor ri.sat rj.sat))) ∧
    (∀ d ∈ st.rows.drop st.nle, survives srcK d →
      keepImage (!srcK.le && st.rows.any (fun d => decide (d.sp < 0))) newK d ∈ tail)

/-- `rayBody` touches `rows` and, when no row is on the negative side of an inequality, `redundant`. -/
theorem rayBody_fields (ncols : Nat) (srcK : LRow) (newK : Nat) (st : CState) (R : List DRow) (leb sup : Nat)
    (h : PartOK st R leb sup) :
    (rayBody ncols srcK newK st R leb sup).nle = st.nle ∧ (rayBody ncols srcK newK st R leb sup).k = st.k ∧
    (rayBody ncols srcK newK st R leb sup).redundant =
      if !srcK.le && st.rows.all (fun d => decide (0 ≤ d.sp)) then st.redundant ++ [st.k] else st.redundant := by
  by_cases hs : sup = st.rows.length
  · obtain ⟨g1, _⟩ := h.noNeg hs
    cases hle : srcK.le <;> simp [rayBody, hs, hle, g1]
  · obtain ⟨_, g2⟩ := h.hasNeg (Nat.lt_of_le_of_ne h.h3 hs)
    rw [g2, Bool.and_false]
    unfold rayBody
    simp only [beq_iff_eq, if_neg hs]
    by_cases hsn : sup = st.nle
    · rw [if_pos hsn]; exact ⟨rfl, rfl, rfl⟩
    · rw [if_neg hsn]; cases srcK.le <;> exact ⟨rfl, rfl, rfl⟩

/-- the membership form of `rayBody_shape`: the rows kept are the images of the rows that survive, the others
are new rays. -/
theorem rayBody_rows (ncols : Nat) (srcK : LRow) (newK : Nat) (st : CState) (R : List DRow) (leb sup : Nat)
    (h : PartOK st R leb sup) : RayPost srcK newK st (rayBody ncols srcK newK st R leb sup) := by
  obtain ⟨f1, f2, f3⟩ := rayBody_fields ncols srcK newK st R leb sup h
  obtain ⟨t, ht, hrows⟩ := rayBody_shape ncols srcK newK st R leb sup h
  have hkept : ∀ d, d ∈ (R.take (if srcK.le then leb else sup)).drop st.nle ↔
      d ∈ st.rows.drop st.nle ∧ survives srcK d := by
    intro d
    rw [mem_take_drop_iff_getElem?]
    have hls := h.h2
    constructor
    · rintro ⟨m, hm1, hm2, hm3⟩
      obtain ⟨a1, _, a3, a4, _⟩ := h.at m d hm1 hm3
      refine ⟨a1, ?_⟩
      unfold survives
      split at hm2
      · rw [if_pos ‹_›]; exact a3 hm2
      · rw [if_neg ‹_›]
        by_cases hml : m < leb
        · rw [a3 hml]
        · exact Int.le_of_lt (a4 (by omega) hm2)
    · rintro ⟨hd, hsv⟩
      obtain ⟨m, hm1, _, hm3⟩ := h.index d hd
      obtain ⟨_, _, _, a4, a5⟩ := h.at m d hm1 hm3
      refine ⟨m, hm1, ?_, hm3⟩
      unfold survives at hsv
      split at hsv <;> rename_i hle
      · rw [if_pos hle]
        by_contra hml
        by_cases hms : m < sup
        · have := a4 (by omega) hms; omega
        · have := a5 (by omega); omega
      · rw [if_neg hle]
        by_contra hms
        have := a5 (by omega); omega
  refine ⟨f1, f2, f3, _, hrows, fun d' hd' => ?_, fun d hd hsv => ?_⟩
  · rcases List.mem_append.mp hd' with hk | hn
    · obtain ⟨d, hd, rfl⟩ := List.mem_map.mp hk
      exact Or.inl ⟨d, ((hkept d).mp hd).1, ((hkept d).mp hd).2, rfl⟩
    · exact Or.inr (h.newRay_mem ncols newK d' (ht.mem_iff.mp hn))
  · exact List.mem_append_left _ (List.mem_map_of_mem ((hkept d).mpr ⟨hd, hsv⟩))

/-- **the list `rayCase` returns.** -/
theorem rayCase_shape (ncols : Nat) (srcK : LRow) (newK : Nat) (st : CState) (hnle : st.nle ≤ st.rows.length)
    (hz : ∀ d ∈ st.rows.take st.nle, d.sp = 0) :
    ∃ R leb sup, PartOK st R leb sup ∧ RayShape ncols srcK newK st (rayCase ncols srcK newK st) R leb sup := by
  rw [rayCase_eq]
  obtain ⟨p1, p2, p3, p4, p5, p6, p7⟩ := rayCase_partition st hnle
  have h : PartOK st _ _ _ := ⟨p1, p2, p3, p4, p5, p6, p7, hz⟩
  exact ⟨_, _, _, h, rayBody_shape ncols srcK newK st _ _ _ h⟩

theorem rayCase_rows (ncols : Nat) (srcK : LRow) (newK : Nat) (st : CState) (hnle : st.nle ≤ st.rows.length)
    (hz : ∀ d ∈ st.rows.take st.nle, d.sp = 0) :
    let st' := rayCase ncols srcK newK st
    let setb := !srcK.le && st.rows.any (fun d => decide (d.sp < 0))
    st'.nle = st.nle ∧ st'.k = st.k ∧
    (st'.redundant = if !srcK.le && st.rows.all (fun d => decide (0 ≤ d.sp)) then st.redundant ++ [st.k] else st.redundant) ∧
    ∃ tail, st'.rows = st.rows.take st.nle ++ tail ∧
      (∀ d' ∈ tail, (∃ d ∈ st.rows.drop st.nle, survives srcK d ∧ d' = keepImage setb newK d) ∨
                    (∃ ri ∈ st.rows.drop st.nle, ∃ rj ∈ st.rows.drop st.nle, 0 < ri.sp ∧ rj.sp < 0 ∧ d' = newRay ri rj (bor ri.sat rj.sat))) ∧
      (∀ d ∈ st.rows.drop st.nle, survives srcK d → keepImage setb newK d ∈ tail) := by
  intro st' setb
  show RayPost srcK newK st (rayCase ncols srcK newK st)
  rw [rayCase_eq]
  obtain ⟨p1, p2, p3, p4, p5, p6, p7⟩ := rayCase_partition st hnle
  have h : PartOK st _ _ _ := ⟨p1, p2, p3, p4, p5, p6, p7, hz⟩
  exact rayBody_rows ncols srcK newK st _ _ _ h

end PPLV.Conv

import PPLV.Conv.ProofsCompleteAbs2b
/-!
# the Double Description lemma with the adjacency test

One iteration of Chernikova's conversion for a constraint `c` that every line saturates: keep the rays that
satisfy `c`, and for every *adjacent* pair of rays on opposite sides of `c` add a positive combination on
the hyperplane.  If `(A, L ∪ R)` was a double description pair (`DDInv`), the new system generates the new
cone (`ray_step_complete`).
-/
namespace PPLV.Conv.Abs

variable {V : Type*} [AddCommGroup V] [Module ℚ V]

theorem ray_step_face_aux (U : Submodule ℚ V) (A : List (ACon V)) (L R R' : Set V) (c : ACon V)
    (inv : DDInv U A L R) (hcL : ∀ l ∈ L, c.f l = 0)
    (hkeep : ∀ r ∈ R, c.holds r → r ∈ R')
    (hnew : ∀ r ∈ R, ∀ s ∈ R, 0 < c.f r → c.f s < 0 → Adjacent A R r s →
        ∃ p ∈ R', ∃ a b : ℚ, 0 < a ∧ 0 < b ∧ p = a • r + b • s ∧ c.f p = 0) :
    ∀ n : ℕ, ∀ x ∈ U, InP (c :: A) x → (∃ a ∈ c :: A, a.f x ≠ 0) → nsat (c :: A) x = n →
      FaceRay U (c :: A) R' x := by
  intro n
  induction n using Nat.strong_induction_on with
  | _ n ih =>
    intro x hxU hxP hxne hn
    have ihx : ∀ u ∈ U, InP (c :: A) u → (∃ a ∈ c :: A, a.f u ≠ 0) →
        nsat (c :: A) u < nsat (c :: A) x → FaceRay U (c :: A) R' u :=
      fun u huU huP hune hlt => ih (nsat (c :: A) u) (by omega) u huU huP hune rfl
    obtain ⟨hcx, hxA⟩ := InP_cons.1 hxP
    have h1 : Cone L R x := inv.complete x hxU hxA
    have h2 := Cone.face A inv.lineSat inv.raySound h1
    have keep_ok : ∀ r ∈ R, c.holds r → SatSub A x r → (c.f x = 0 → c.f r = 0) →
        FaceRay U (c :: A) R' x := by
      intro r hr hcr hsr hc0
      obtain ⟨a, ha, hne⟩ := inv.proper r hr
      exact ⟨r, hkeep r hr hcr, inv.rayU r hr, InP_cons.2 ⟨hcr, inv.raySound r hr⟩,
        SatSub_cons.2 ⟨hc0, hsr⟩, a, List.mem_cons_of_mem _ ha, hne⟩
    rcases hcx.nonneg.eq_or_lt with hc0 | hcpos
    · by_cases hb : ∃ r, (r ∈ R ∧ SatSub A x r) ∧ c.f r = 0
      · obtain ⟨r, ⟨hr, hsr⟩, hcr⟩ := hb
        exact keep_ok r hr (ACon.holds_of_zero hcr) hsr (fun _ => hcr)
      · have hS : ∀ r ∈ {r | r ∈ R ∧ SatSub A x r}, c.f r ≠ 0 := fun r hr h0 => hb ⟨r, hr, h0⟩
        have hnl : ¬ Cone L ∅ x := by
          intro hl
          obtain ⟨a, ha, hne⟩ := hxne
          apply hne
          rcases List.mem_cons.1 ha with e | ha'
          · rw [e]; exact hc0.symm
          · exact Cone.lines_eval a.f (fun l hl' => inv.lineSat l hl' a ha') hl
        obtain ⟨r, ⟨hr, hsr⟩, s, ⟨hs, hss⟩, hcr, hcs⟩ :=
          Cone.exists_pos_neg c.f hcL h2 hc0.symm hS hnl
        have hxp : SatSub (c :: A) x ((-c.f s) • r + c.f r • s) := by
          refine SatSub_cons.2 ⟨fun _ => by rw [comb_eval]; ring, fun a ha h0 => ?_⟩
          rw [comb_eval, hsr a ha h0, hss a ha h0, mul_zero, mul_zero, add_zero]
        refine FaceRay.of_satSub hxp (pair_face U A L R R' c inv hkeep hnew hr hs hcr hcs ?_)
        intro u huU huP hune hlt
        exact ihx u huU huP hune (lt_of_lt_of_le hlt (nsat_le hxp))
    · obtain ⟨r, ⟨hr, hsr⟩, hcr⟩ := Cone.exists_pos c.f hcL h2 hcpos
      exact keep_ok r hr (ACon.holds_of_nonneg (hcx.eq_false hcpos.ne') hcr.le) hsr
        (fun h0 => absurd h0 hcpos.ne')

/-- every point of the new cone that is not in the lineality space has a ray of the new system in its
minimal face -/
theorem ray_step_face (U : Submodule ℚ V) (A : List (ACon V)) (L R R' : Set V) (c : ACon V)
    (inv : DDInv U A L R) (hcL : ∀ l ∈ L, c.f l = 0)
    (hkeep : ∀ r ∈ R, c.holds r → r ∈ R')
    (hnew : ∀ r ∈ R, ∀ s ∈ R, 0 < c.f r → c.f s < 0 → Adjacent A R r s →
        ∃ p ∈ R', ∃ a b : ℚ, 0 < a ∧ 0 < b ∧ p = a • r + b • s ∧ c.f p = 0) :
    ∀ x ∈ U, InP (c :: A) x → (∃ a ∈ c :: A, a.f x ≠ 0) →
      ∃ g ∈ R', g ∈ U ∧ InP (c :: A) g ∧ SatSub (c :: A) x g ∧ ∃ a ∈ c :: A, a.f g ≠ 0 :=
  fun x hxU hxP hxne => ray_step_face_aux U A L R R' c inv hcL hkeep hnew _ x hxU hxP hxne rfl

theorem ray_step_complete_aux (U : Submodule ℚ V) (A : List (ACon V)) (L R R' : Set V) (c : ACon V)
    (inv : DDInv U A L R) (hcL : ∀ l ∈ L, c.f l = 0)
    (hkeep : ∀ r ∈ R, c.holds r → r ∈ R')
    (hnew : ∀ r ∈ R, ∀ s ∈ R, 0 < c.f r → c.f s < 0 → Adjacent A R r s →
        ∃ p ∈ R', ∃ a b : ℚ, 0 < a ∧ 0 < b ∧ p = a • r + b • s ∧ c.f p = 0) :
    ∀ n : ℕ, ∀ x ∈ U, InP (c :: A) x → nsat (c :: A) x = n → Cone L R' x := by
  intro n
  induction n using Nat.strong_induction_on with
  | _ n ih =>
    intro x hxU hxP hn
    by_cases hxne : ∃ a ∈ c :: A, a.f x ≠ 0
    · obtain ⟨g, hgR, hgU, hgP, hxg, hgne⟩ :=
        ray_step_face U A L R R' c inv hcL hkeep hnew x hxU hxP hxne
      obtain ⟨t, ht, hyP, hxy, hstrict⟩ := peel (c :: A) x g hxP hgP hxg hgne
      have hyU : x - t • g ∈ U := U.sub_mem hxU (U.smul_mem _ hgU)
      have hlt := nsat_lt hxy hstrict
      have hy := ih (nsat (c :: A) (x - t • g)) (by omega) (x - t • g) hyU hyP rfl
      have hx := Cone.ray t hgR ht hy
      rwa [sub_add_cancel] at hx
    · have hall : ∀ a ∈ A, a.f x = 0 := fun a ha => by
        by_contra hne
        exact hxne ⟨a, List.mem_cons_of_mem _ ha, hne⟩
      exact Cone.mono (fun _ h => h) (Set.empty_subset _) (inv.lineality x hxU hall)

/-- **the Double Description lemma with the adjacency test** -/
theorem ray_step_complete (U : Submodule ℚ V) (A : List (ACon V)) (L R R' : Set V) (c : ACon V)
    (inv : DDInv U A L R) (hcL : ∀ l ∈ L, c.f l = 0)
    (hkeep : ∀ r ∈ R, c.holds r → r ∈ R')
    (hnew : ∀ r ∈ R, ∀ s ∈ R, 0 < c.f r → c.f s < 0 → Adjacent A R r s →
        ∃ p ∈ R', ∃ a b : ℚ, 0 < a ∧ 0 < b ∧ p = a • r + b • s ∧ c.f p = 0) :
    ∀ x ∈ U, InP A x → c.holds x → Cone L R' x :=
  fun x hxU hxA hcx =>
    ray_step_complete_aux U A L R R' c inv hcL hkeep hnew _ x hxU (InP_cons.2 ⟨hcx, hxA⟩) rfl

end PPLV.Conv.Abs

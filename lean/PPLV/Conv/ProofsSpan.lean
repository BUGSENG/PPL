import PPLV.Conv.ProofsSat3
/-!
# The line case keeps what satisfies the new constraint (the half of completeness without adjacency)
-/
namespace PPLV.Conv

/-- where the old record of index `m0 ≠ inz` sits after set + swap. -/
theorem lineRowsB_reverse (st : CState) (inz : Nat) (hinz : inz < st.nle) (hn : st.nle ≤ st.rows.length)
    (m0 : Nat) (d0 : DRow) (hm0 : m0 ≠ inz) (hd0 : st.rows[m0]? = some d0) :
    ∃ b, (lineRowsB st inz)[if m0 = st.nle - 1 then inz else m0]? = some b ∧ b.row = d0.row ∧ b.sp = d0.sp := by
  have hi : inz < st.rows.length := by omega
  have hj : st.nle - 1 < st.rows.length := by omega
  have hm0lt : m0 < st.rows.length := by
    by_contra hc
    rw [List.getElem?_eq_none (by omega)] at hd0; cases hd0
  unfold lineRowsB
  by_cases he : inz = st.nle - 1
  · have hne : m0 ≠ st.nle - 1 := by omega
    simp only [he, bne_self_eq_false, Bool.false_eq_true, if_false, hne]
    refine ⟨d0, ?_, rfl, rfl⟩
    rw [List.getElem?_set]
    have : ¬ st.nle - 1 = m0 := fun h => hne h.symm
    simp only [this, if_false]; exact hd0
  · have hne : (inz != st.nle - 1) = true := by simpa using he
    simp only [hne, if_true]
    have hlen : (st.rows.set inz (linePivot (st.rows.getD inz default))).length = st.rows.length := by simp
    rw [getElem?_swapRowSp _ _ _ _ (by rw [hlen]; exact hi) (by rw [hlen]; exact hj)]
    by_cases h1 : m0 = st.nle - 1
    · simp only [h1, if_true, he, if_false]
      have hthis : (st.rows.set inz (linePivot (st.rows.getD inz default)))[st.nle - 1]'(by rw [hlen]; exact hj) = d0 := by
        rw [List.getElem_set]
        simp only [he, if_false]
        have := hd0; rw [h1, List.getElem?_eq_getElem hj] at this
        exact Option.some.inj this
      refine ⟨_, rfl, ?_, ?_⟩
      · show ((st.rows.set inz (linePivot (st.rows.getD inz default)))[st.nle - 1]'(by rw [hlen]; exact hj)).row = d0.row
        rw [hthis]
      · show ((st.rows.set inz (linePivot (st.rows.getD inz default)))[st.nle - 1]'(by rw [hlen]; exact hj)).sp = d0.sp
        rw [hthis]
    · simp only [h1, if_false, hm0]
      refine ⟨d0, ?_, rfl, rfl⟩
      rw [List.getElem?_set]
      have : ¬ inz = m0 := fun h => hm0 h.symm
      simp only [this, if_false]; exact hd0

/-- the pivot record after set + swap. -/
theorem lineRowsB_pivot (st : CState) (inz : Nat) (hinz : inz < st.nle) (hn : st.nle ≤ st.rows.length) :
    ∃ dn, (lineRowsB st inz)[st.nle - 1]? = some dn ∧ (lineRowsB st inz).getD (st.nle - 1) default = dn ∧
      dn.row = (linePivot (st.rows.getD inz default)).row ∧ dn.sp = (linePivot (st.rows.getD inz default)).sp := by
  have hj : st.nle - 1 < st.rows.length := by omega
  have hlenB : (lineRowsB st inz).length = st.rows.length := by
    unfold lineRowsB
    simp only
    split
    · rw [length_swapRowSp]; simp
    · simp
  obtain ⟨dn, hdn⟩ : ∃ dn, (lineRowsB st inz)[st.nle - 1]? = some dn := by
    rw [List.getElem?_eq_getElem (by rw [hlenB]; exact hj)]; exact ⟨_, rfl⟩
  refine ⟨dn, hdn, ?_, ?_⟩
  · rw [List.getD_eq_getElem?_getD, hdn]; rfl
  · rcases lineRowsB_index st inz hinz hn (st.nle - 1) dn hdn with ⟨_, h1, h2⟩ | ⟨h1, _⟩
    · exact ⟨h1, h2⟩
    · exact absurd rfl h1

/-- where every old record ends up after the combination step. -/
theorem lineRows3_reverse (st : CState) (inz : Nat) (hinz : inz < st.nle) (hn : st.nle ≤ st.rows.length)
    (m0 : Nat) (d0 : DRow) (hm0 : m0 ≠ inz) (hd0 : st.rows[m0]? = some d0) :
    let p := linePivot (st.rows.getD inz default)
    ∃ m d', (lineRows3 st inz)[m]? = some d' ∧ m ≠ st.nle - 1 ∧
      (d0.sp = 0 → d'.row = d0.row) ∧
      (d0.sp ≠ 0 → st.nle ≤ m0 → d'.row = combRow p.row p.sp d0.row d0.sp) := by
  intro p
  obtain ⟨b, hb, hbrow, hbsp⟩ := lineRowsB_reverse st inz hinz hn m0 d0 hm0 hd0
  obtain ⟨dn, _, hdnD, hdnrow, hdnsp⟩ := lineRowsB_pivot st inz hinz hn
  have hget : (lineRows3 st inz)[if m0 = st.nle - 1 then inz else m0]? =
      some (if ((((inz ≤ (if m0 = st.nle - 1 then inz else m0)) ∧ (if m0 = st.nle - 1 then inz else m0) < st.nle - 1) ∨
        st.nle - 1 + 1 ≤ (if m0 = st.nle - 1 then inz else m0)) ∧ b.sp ≠ 0)
        then combineWithNle ((lineRowsB st inz).getD (st.nle - 1) default) b else b) := by
    rw [lineRows3_eqB, List.getElem?_mapIdx, hb]; rfl
  refine ⟨if m0 = st.nle - 1 then inz else m0, _, hget, ?_, ?_, ?_⟩
  · split <;> omega
  · intro hz
    have : ¬ ((((inz ≤ (if m0 = st.nle - 1 then inz else m0)) ∧ (if m0 = st.nle - 1 then inz else m0) < st.nle - 1) ∨
        st.nle - 1 + 1 ≤ (if m0 = st.nle - 1 then inz else m0)) ∧ b.sp ≠ 0) := by
      intro hc; exact hc.2 (by rw [hbsp]; exact hz)
    rw [if_neg this]
    exact hbrow
  · intro hnz hge
    have hm : (if m0 = st.nle - 1 then inz else m0) = m0 := by
      split
      · omega
      · rfl
    have : ((((inz ≤ (if m0 = st.nle - 1 then inz else m0)) ∧ (if m0 = st.nle - 1 then inz else m0) < st.nle - 1) ∨
        st.nle - 1 + 1 ≤ (if m0 = st.nle - 1 then inz else m0)) ∧ b.sp ≠ 0) := by
      refine ⟨Or.inr ?_, by rw [hbsp]; exact hnz⟩
      rw [hm]; omega
    rw [if_pos this, hdnD, combineWithNle_row, hdnrow, hdnsp, hbrow, hbsp]

/-- whatever is not at index `i` survives `swap with the last, pop`. -/
theorem mem_swap_dropLast_of_ne {α : Type} (l : List α) (i m : Nat) (x : α) (hi : i < l.length) (hm : m ≠ i)
    (hx : l[m]? = some x) : x ∈ (swapAt l i (l.length - 1)).dropLast := by
  have hlast : l.length - 1 < l.length := by omega
  have hmlt : m < l.length := by
    by_contra hc
    rw [List.getElem?_eq_none (by omega)] at hx; cases hx
  apply List.mem_iff_getElem?.mpr
  by_cases hml : m = l.length - 1
  · -- the last element has been moved to `i`
    refine ⟨i, ?_⟩
    rw [List.getElem?_dropLast, length_swapAt]
    have : i < l.length - 1 := by omega
    simp only [this, if_true]
    rw [getElem?_swapAt' l i (l.length - 1) i hi hlast]
    have h1 : ¬ i = l.length - 1 := by omega
    simp only [h1, if_false, if_true]
    rw [← hx, hml, List.getElem?_eq_getElem hlast]
  · refine ⟨m, ?_⟩
    rw [List.getElem?_dropLast, length_swapAt]
    have : m < l.length - 1 := by omega
    simp only [this, if_true]
    rw [getElem?_swapAt' l i (l.length - 1) m hi hlast]
    simp only [hml, hm, if_false]
    exact hx

/-- **the line case keeps what satisfies the new constraint.**  `st` holds the scalar products with
`srcK`; `inz` is the line that does not saturate it.  Every old record other than that line:
(a) with product 0 is kept with the same row; (b) a ray (index ≥ nle) with a positive product, when
`srcK` is an inequality, is a non-negative combination of its replacement `d'` and of the new ray `p`:
`a * d = g * d' + b * p` as linear functionals, with `a, g, b > 0`. -/
theorem lineCase_preserves_span (srcK : LRow) (newK : Nat) (st : CState) (inz : Nat)
    (hinz : inz < st.nle) (hn : st.nle ≤ st.rows.length)
    (hpiv : ∃ r, st.rows[inz]? = some r ∧ r.sp ≠ 0)
    (m0 : Nat) (d0 : DRow) (hm0 : m0 ≠ inz) (hd0 : st.rows[m0]? = some d0) :
    let st' := lineCase srcK newK st inz
    (d0.sp = 0 → ∃ d' ∈ st'.rows, d'.row = d0.row) ∧
    (0 < d0.sp → st.nle ≤ m0 → d0.row.le = false → srcK.le = false →
      ∃ d' ∈ st'.rows, ∃ p ∈ st'.rows, ∃ g a b : Int, 0 < g ∧ 0 < a ∧ 0 < b ∧
        ∀ s, a * scalarProduct s d0.row.v = g * scalarProduct s d'.row.v + b * scalarProduct s p.row.v) := by
  intro st'
  obtain ⟨r, hr, hrnz⟩ := hpiv
  have hrD : st.rows.getD inz default = r := by rw [List.getD_eq_getElem?_getD, hr]; rfl
  obtain ⟨m, d', hd', hmne, hzero, hcomb⟩ := lineRows3_reverse st inz hinz hn m0 d0 hm0 hd0
  simp only [hrD] at hcomb
  have hlen := length_lineRows3 st inz
  have hi : st.nle - 1 < (lineRows3 st inz).length := by rw [hlen]; omega
  -- membership in the final rows of every record of rows3 not at the pivot index
  have hfinal : ∀ m x, m ≠ st.nle - 1 → (lineRows3 st inz)[m]? = some x → ∃ x' ∈ st'.rows, x'.row = x.row := by
    intro m x hm hx
    show ∃ x' ∈ (lineCase srcK newK st inz).rows, x'.row = x.row
    rw [lineCase_eq]
    by_cases hk : srcK.le = true
    · simp only [hk, Bool.not_true, Bool.false_eq_true, if_false]
      exact ⟨x, mem_swap_dropLast_of_ne _ _ m x hi hm hx, rfl⟩
    · have hk' : srcK.le = false := by simpa using hk
      simp only [hk', Bool.not_false, if_true]
      have hne' : ¬ st.nle - 1 = m := fun h => hm h.symm
      refine ⟨x, List.mem_iff_getElem?.mpr ⟨m, ?_⟩, rfl⟩
      rw [List.getElem?_modify, hx]
      simp [hne']
  constructor
  · intro hz
    obtain ⟨x', hx', hrow⟩ := hfinal m d' hmne hd'
    exact ⟨x', hx', by rw [hrow, hzero hz]⟩
  · intro hpos hge hdl hk
    -- the pivot is still there (inequality)
    have hppos : 0 < (linePivot r).sp := by
      unfold linePivot
      by_cases h : r.sp < 0
      · rw [if_pos h]; show 0 < - r.sp; omega
      · rw [if_neg h]; show 0 < r.sp; omega
    obtain ⟨pr, hpr, hprrow⟩ : ∃ pr, (lineRows3 st inz)[st.nle - 1]? = some pr ∧ pr.row = (linePivot r).row := by
      obtain ⟨pr, hpr⟩ : ∃ pr, (lineRows3 st inz)[st.nle - 1]? = some pr := by
        rw [List.getElem?_eq_getElem hi]; exact ⟨_, rfl⟩
      refine ⟨pr, hpr, ?_⟩
      have := lineRows3_index st inz hinz hn (st.nle - 1) pr hpr
      simp only [hrD] at this
      rcases this with ⟨_, h1, _⟩ | ⟨h1, _⟩
      · exact h1
      · exact absurd rfl h1
    have hpfinal : ∃ p ∈ st'.rows, p.row = (linePivot r).row := by
      show ∃ p ∈ (lineCase srcK newK st inz).rows, p.row = (linePivot r).row
      rw [lineCase_eq]
      simp only [hk, Bool.not_false, if_true]
      refine ⟨{ pr with sat := setBit pr.sat newK }, List.mem_iff_getElem?.mpr ⟨st.nle - 1, ?_⟩, hprrow⟩
      rw [List.getElem?_modify, hpr]; simp
    obtain ⟨p, hp, hprow⟩ := hpfinal
    obtain ⟨x', hx', hrow⟩ := hfinal m d' hmne hd'
    have hne : d0.sp ≠ 0 := by omega
    have hd'row := hcomb hne hge
    obtain ⟨g, c, nI, nO, _, hgpos, hc, h1, h2, _, _, _, hs⟩ :=
      sp_combineWithNle { row := (linePivot r).row, sp := (linePivot r).sp, sat := [] } { row := d0.row, sp := d0.sp, sat := [] }
        (by simpa using ne_of_gt hppos)
    simp only at h1 h2 hgpos
    have hs : ∀ s : Vec, nO * scalarProduct s d0.row.v - nI * scalarProduct s (linePivot r).row.v
        = g * scalarProduct s (combRow (linePivot r).row (linePivot r).sp d0.row d0.sp).v := hs
    have hnO : 0 < nO := by
      by_contra hneg
      have : nO ≤ 0 := by omega
      have : c * nO ≤ 0 := Int.mul_nonpos_of_nonneg_of_nonpos (le_of_lt hc) this
      omega
    have hnI : 0 < nI := by
      by_contra hneg
      have : nI ≤ 0 := by omega
      have : c * nI ≤ 0 := Int.mul_nonpos_of_nonneg_of_nonpos (le_of_lt hc) this
      omega
    refine ⟨x', hx', p, hp, g, nO, nI, hgpos hdl, hnO, hnI, ?_⟩
    intro s
    rw [hrow, hd'row, hprow]
    have := hs s
    linarith

end PPLV.Conv

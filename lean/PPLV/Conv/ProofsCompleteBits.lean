import PPLV.Conv.ProofsSimp2
import PPLV.Conv.ProofsBits
import Mathlib.Tactic.Linarith
/-!
# counting bits: what the quick adjacency tests of `conversion` compute
-/
namespace PPLV.Conv

theorem bitsEmpty_iff (x : BRow) : bitsEmpty x = true ↔ ∀ j, bit x j = false := by
  unfold bitsEmpty
  induction x with
  | nil => simp [bit_nil]
  | cons b xs ih =>
    simp only [List.all_cons, Bool.and_eq_true, ih]
    constructor
    · rintro ⟨h0, h1⟩ j
      cases j with
      | zero => rw [bit_cons_zero]; simpa using h0
      | succ j => rw [bit_cons_succ]; exact h1 j
    · intro h
      refine ⟨?_, fun j => ?_⟩
      · have := h 0; rw [bit_cons_zero] at this; simp [this]
      · have := h (j + 1); rw [bit_cons_succ] at this; exact this

theorem bitsEmpty_false_iff (x : BRow) : bitsEmpty x = false ↔ ∃ j, bit x j = true := by
  constructor
  · intro h
    by_contra hc
    have : bitsEmpty x = true := (bitsEmpty_iff x).2 fun j => by
      cases hb : bit x j
      · rfl
      · exact absurd ⟨j, hb⟩ hc
    rw [h] at this; cases this
  · rintro ⟨j, hj⟩
    cases hb : bitsEmpty x
    · rfl
    · have := (bitsEmpty_iff x).1 hb j
      rw [hj] at this; cases this

theorem bit_ge_length (x : BRow) (j : Nat) (h : x.length ≤ j) : bit x j = false := by
  unfold bit
  rw [List.getD_eq_getElem?_getD, List.getElem?_eq_none h]; rfl

/-- `count_ones()` counts the set bits below the length. -/
theorem countOnes_eq_countP_length (x : BRow) :
    countOnes x = (List.range x.length).countP (fun j => bit x j) := by
  induction x with
  | nil => simp [countOnes]
  | cons b xs ih =>
    rw [List.length_cons, List.range_succ_eq_map, List.countP_cons, List.countP_map]
    have e : ((fun j => bit (b :: xs) j) ∘ Nat.succ) = fun j => bit xs j := by
      funext j; simp [bit_cons_succ]
    rw [e, ← ih, bit_cons_zero]
    unfold countOnes
    rw [List.count_cons]
    cases b <;> simp

theorem countP_range_extend (p : Nat → Bool) (n m : Nat) (hnm : n ≤ m) (h : ∀ j, n ≤ j → p j = false) :
    (List.range m).countP p = (List.range n).countP p := by
  obtain ⟨k, rfl⟩ := Nat.exists_eq_add_of_le hnm
  rw [List.range_add, List.countP_append]
  have : (List.map (fun x => n + x) (List.range k)).countP p = 0 := by
    rw [List.countP_eq_zero]
    intro a ha
    obtain ⟨i, _, rfl⟩ := List.mem_map.mp ha
    simp [h (n + i) (by omega)]
  omega

/-- `count_ones()` counts the set bits below any bound beyond which no bit is set. -/
theorem countOnes_eq_countP (x : BRow) (n : Nat) (h : ∀ j, bit x j = true → j < n) :
    countOnes x = (List.range n).countP (fun j => bit x j) := by
  have hn : ∀ j, n ≤ j → bit x j = false := by
    intro j hj
    cases hb : bit x j
    · rfl
    · have := h j hb; omega
  rw [countOnes_eq_countP_length]
  rw [← countP_range_extend (fun j => bit x j) x.length (max x.length n) (Nat.le_max_left _ _)
        (fun j hj => bit_ge_length x j hj),
      ← countP_range_extend (fun j => bit x j) n (max x.length n) (Nat.le_max_right _ _) hn]

theorem countP_or_split (p q : Nat → Bool) (l : List Nat) :
    l.countP (fun j => p j || q j) = l.countP p + l.countP (fun j => !p j && q j) := by
  induction l with
  | nil => simp
  | cons a as ih =>
    simp only [List.countP_cons, ih]
    cases p a <;> cases q a <;> simp <;> omega

theorem countP_one_unique (r : Nat → Bool) (l : List Nat) (hl : l.Nodup) (h : l.countP r = 1) :
    ∃ e ∈ l, r e = true ∧ ∀ j ∈ l, r j = true → j = e := by
  induction l with
  | nil => simp at h
  | cons a as ih =>
    rw [List.countP_cons] at h
    have hnd := List.nodup_cons.mp hl
    by_cases ha : r a = true
    · simp only [ha, if_true] at h
      have h0 : as.countP r = 0 := by omega
      rw [List.countP_eq_zero] at h0
      refine ⟨a, List.mem_cons_self, ha, ?_⟩
      intro j hj hr
      rcases List.mem_cons.mp hj with rfl | hj
      · rfl
      · exact absurd hr (h0 j hj)
    · simp only [ha, Bool.false_eq_true, if_false, Nat.add_zero] at h
      obtain ⟨e, he, hre, hu⟩ := ih hnd.2 h
      refine ⟨e, List.mem_cons_of_mem _ he, hre, ?_⟩
      intro j hj hr
      rcases List.mem_cons.mp hj with rfl | hj
      · exact absurd hr ha
      · exact hu j hj hr

/-- the union has exactly one bit more than `a`: `b` has exactly one bit outside `a`. -/
theorem bor_count_succ (a b : BRow) (n : Nat) (ha : ∀ j, bit a j = true → j < n) (hb : ∀ j, bit b j = true → j < n)
    (h : countOnes (bor a b) = countOnes a + 1) :
    ∃ e, bit b e = true ∧ bit a e = false ∧ ∀ j, bit b j = true → bit a j = true ∨ j = e := by
  have hab : ∀ j, bit (bor a b) j = true → j < n := by
    intro j hj
    rw [bit_bor] at hj
    rcases Bool.or_eq_true _ _ |>.mp hj with h1 | h1
    · exact ha j h1
    · exact hb j h1
  rw [countOnes_eq_countP _ n hab, countOnes_eq_countP _ n ha] at h
  have e1 : (fun j => bit (bor a b) j) = fun j => bit a j || bit b j := by
    funext j; exact bit_bor a b j
  rw [e1, countP_or_split] at h
  have h1 : (List.range n).countP (fun j => !bit a j && bit b j) = 1 := by
    have h' : ∀ x y : Nat, x + y = x + 1 → y = 1 := by omega
    exact h' _ _ h
  obtain ⟨e, _, hre, hu⟩ := countP_one_unique _ _ List.nodup_range h1
  have hre' : bit a e = false ∧ bit b e = true := by simpa using hre
  refine ⟨e, hre'.2, hre'.1, ?_⟩
  intro j hj
  cases hja : bit a j
  · right
    exact hu j (List.mem_range.mpr (hb j hj)) (by simp [hja, hj])
  · left; rfl

theorem bor_count_succ' (a b : BRow) (n : Nat) (ha : ∀ j, bit a j = true → j < n) (hb : ∀ j, bit b j = true → j < n)
    (h : countOnes (bor a b) = countOnes b + 1) :
    ∃ e, bit a e = true ∧ bit b e = false ∧ ∀ j, bit a j = true → bit b j = true ∨ j = e := by
  have hab : ∀ j, bit (bor a b) j = true → j < n := by
    intro j hj
    rw [bit_bor] at hj
    rcases Bool.or_eq_true _ _ |>.mp hj with h1 | h1
    · exact ha j h1
    · exact hb j h1
  rw [countOnes_eq_countP _ n hab, countOnes_eq_countP _ n hb] at h
  have e1 : (fun j => bit (bor a b) j) = fun j => bit b j || bit a j := by
    funext j; rw [bit_bor, Bool.or_comm]
  rw [e1, countP_or_split] at h
  have h1 : (List.range n).countP (fun j => !bit b j && bit a j) = 1 := by
    have h' : ∀ x y : Nat, x + y = x + 1 → y = 1 := by omega
    exact h' _ _ h
  obtain ⟨e, _, hre, hu⟩ := countP_one_unique _ _ List.nodup_range h1
  have hre' : bit b e = false ∧ bit a e = true := by simpa using hre
  refine ⟨e, hre'.2, hre'.1, ?_⟩
  intro j hj
  cases hjb : bit b j
  · right
    exact hu j (List.mem_range.mpr (ha j hj)) (by simp [hjb, hj])
  · left; rfl

/-- the number of columns below `n` where the row has no bit: `n - count_ones()`. -/
theorem countP_not_bit (x : BRow) (n : Nat) (h : ∀ j, bit x j = true → j < n) :
    (List.range n).countP (fun j => !bit x j) = n - countOnes x := by
  rw [countOnes_eq_countP x n h]
  have := List.length_eq_countP_add_countP (fun j => bit x j) (l := List.range n)
  rw [List.length_range] at this
  have e : (fun j => !bit x j) = fun j => decide ¬ (bit x j = true) := by
    funext j; cases bit x j <;> simp
  rw [e]
  simp only [Bool.not_eq_true] at this ⊢
  omega

/-- `a - b` on `dimension_type` when nothing wraps. -/
theorem usub_eq (a b : Nat) (ha : a < 2 ^ 64) (hb : b ≤ a) : usub a b = a - b := by
  unfold usub
  have e : (2 : Nat) ^ 64 = 18446744073709551616 := by norm_num
  rw [e] at ha ⊢
  omega

end PPLV.Conv

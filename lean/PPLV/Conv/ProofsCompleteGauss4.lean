import PPLV.Conv.ProofsCompleteGauss3
import PPLV.Conv.ProofsCompleteMin2
/-!
# `simplify` / `minimize` keep the solution set

`hrank` of `ProofsCompleteSimp10` (the rank returned is `< ncols`) holds when some generator is non-zero
(`simplify_rank_lt`); in `minimize` the generator is the one `hasPoint` found (positive divisor / epsilon
coefficient).
-/
namespace PPLV.Conv

/-- **every vector (of length `≤ ncols`) satisfying the system `simplify` returns satisfies the system it was
given**: the rows dropped are redundant.  `hpt`: some generator is not the zero row. -/
theorem simplify_drops_only_redundant (ncols numColsSat : Nat) (rows : List LRow) (sat : List BRow)
    (gens : List LRow) (hsat : SatCorrect gens rows sat) (hsound : Sound rows gens)
    (hcomp : ∀ x : Vec, x.length ≤ ncols → holdsAll rows x → Generated gens x)
    (hncs : numColsSat = gens.length) (hglen : ∀ g ∈ gens, g.v.length ≤ ncols) (hsz : ncols < 2 ^ 64)
    (hpt : ∃ g ∈ gens, ∃ k, g.v.getD k 0 ≠ 0) :
    ∀ x : Vec, x.length ≤ ncols →
      holdsAll ((simplify ncols numColsSat
        (List.zipWith (fun a s => ({ row := a, sat := s } : SRow)) rows sat)).1.map (·.row)) x →
      holdsAll rows x :=
  simplify_redundant ncols numColsSat rows sat gens hsat hsound hcomp hncs hglen hsz
    (simplify_rank_lt ncols numColsSat rows sat gens hsat hsound hglen hpt)

/-- **`simplify` keeps the solution set** (on the vectors of length `≤ ncols`). -/
theorem simplify_same_set (ncols numColsSat : Nat) (rows : List LRow) (sat : List BRow)
    (gens : List LRow) (hsat : SatCorrect gens rows sat) (hsound : Sound rows gens)
    (hcomp : ∀ x : Vec, x.length ≤ ncols → holdsAll rows x → Generated gens x)
    (hncs : numColsSat = gens.length) (hglen : ∀ g ∈ gens, g.v.length ≤ ncols) (hsz : ncols < 2 ^ 64)
    (hpt : ∃ g ∈ gens, ∃ k, g.v.getD k 0 ≠ 0) :
    ∀ x : Vec, x.length ≤ ncols →
      (holdsAll ((simplify ncols numColsSat (zipSys rows sat)).1.map (·.row)) x ↔ holdsAll rows x) :=
  simplify_same_set_of_rank ncols numColsSat rows sat gens hsat hsound hcomp hncs hglen hsz
    (simplify_rank_lt ncols numColsSat rows sat gens hsat hsound hglen hpt)

/-- a row with a positive divisor / epsilon coefficient is not the zero row. -/
theorem hasPoint_witness (nnc : Bool) (ncols nle : Nat) (dest : List LRow)
    (h : hasPoint nnc ncols nle dest = true) : ∃ g ∈ dest, ∃ k, g.v.getD k 0 ≠ 0 := by
  unfold hasPoint at h
  rw [List.any_eq_true] at h
  obtain ⟨r, hr, hd⟩ := h
  have h1 : r.v.getD (if nnc then ncols - 1 else 0) 0 > 0 := of_decide_eq_true hd
  exact ⟨r, List.mem_of_mem_drop hr, (if nnc then ncols - 1 else 0), by omega⟩

/-- **`minimize` keeps the solution set** (when it does not report "empty"): the system it returns has, among
the vectors of length `≤ ncols`, the solutions of the system it was given.  `simplify` keeps the solutions of the
rows `conversion` kept, and these have the solutions of all rows (completeness, then soundness). -/
theorem minimize_same_set_iff (nnc : Bool) (ncols : Nat) (source : List LRow) (sat0 : List BRow)
    (hsz : ncols < 2 ^ 64) (hsrc : source.length < 2 ^ 64)
    (hne : (minimize true nnc ncols source sat0).empty = false) :
    ∀ x : Vec, x.length ≤ ncols →
      (holdsAll (minimize true nnc ncols source sat0).source x ↔ holdsAll source x) := by
  have hp := minimize_hasPoint nnc ncols source sat0 hne
  have hsrcEq := minimize_source_eq nnc ncols source sat0 hne
  have D := conversion_identity_complete ncols source hsz hsrc
  obtain ⟨hsound, _, hsub⟩ := conversion_identity_sound ncols source
  have hsatc := conversion_identity_sat ncols source
  have hglen := conversion_identity_length ncols source
  generalize conversion ncols source 0 (identityLines ncols)
    (List.replicate ncols (List.replicate source.length false)) ncols = r at hp hsrcEq D hsound hsub hsatc hglen
  have hsatT := satCorrect_transpose r.source r.dest r.sat hsatc
  have hsR : Sound r.source r.dest := fun d hd s hs => hsound d hd s (hsub s hs)
  rw [hsrcEq]
  intro x hx
  exact (simplify_same_set_of_rank ncols r.dest.length r.source _ r.dest hsatT hsR D.generated rfl hglen hsz
      (simplify_rank_lt ncols _ _ _ _ hsatT hsR hglen (hasPoint_witness _ _ _ _ hp)) x hx).trans
    ⟨fun h => holdsAll_of_generated hsound x (D.generated x hx h), fun h s hs => h s (hsub s hs)⟩

/-- **`minimize` returns a system with the solutions of the one it was given** (when it does not report
"empty"): every vector of length `≤ ncols` satisfying the minimized system satisfies the system `conversion`
was run on. -/
theorem minimize_same_set (nnc : Bool) (ncols : Nat) (source : List LRow) (sat0 : List BRow)
    (hsz : ncols < 2 ^ 64) (hsrc : source.length < 2 ^ 64)
    (hne : (minimize true nnc ncols source sat0).empty = false) :
    ∀ x : Vec, x.length ≤ ncols → holdsAll (minimize true nnc ncols source sat0).source x →
      holdsAll (conversion ncols source 0 (identityLines ncols)
        (List.replicate ncols (List.replicate source.length false)) ncols).source x :=
  fun x hx h s hs => (minimize_same_set_iff nnc ncols source sat0 hsz hsrc hne x hx).mp h s
    (conversion_source_subset _ _ _ _ _ _ s hs)

end PPLV.Conv

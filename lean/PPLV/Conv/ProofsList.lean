import PPLV.Conv.Spec
import Mathlib.Data.List.Perm.Basic
import Mathlib.Tactic.Linarith
/-!
# list lemmas for `rayCase`: `swapAt`, `partitionLoop`, `skipSaturators`, `swapLoop`
-/
namespace PPLV.Conv

/-! ## `swapAt` -/

theorem swapAt_of_lt {α} (l : List α) (i j : Nat) (hi : i < l.length) (hj : j < l.length) :
    swapAt l i j = (l.set i l[j]).set j l[i] := by
  unfold swapAt
  rw [List.getElem?_eq_getElem hi, List.getElem?_eq_getElem hj]

theorem swapAt_of_not_lt {α} (l : List α) (i j : Nat) (h : ¬ (i < l.length ∧ j < l.length)) :
    swapAt l i j = l := by
  unfold swapAt
  split
  · rename_i a b ha hb
    exact absurd ⟨(List.getElem?_eq_some_iff.1 ha).1, (List.getElem?_eq_some_iff.1 hb).1⟩ h
  · rfl

theorem length_swapAt {α} (l : List α) (i j : Nat) : (swapAt l i j).length = l.length := by
  unfold swapAt
  split <;> simp

theorem getElem?_swapAt {α} (l : List α) (i j m : Nat) (hi : i < l.length) (hj : j < l.length) :
    (swapAt l i j)[m]? = if m = j then l[i]? else if m = i then l[j]? else l[m]? := by
  rw [swapAt_of_lt l i j hi hj]
  simp only [List.getElem?_set, List.length_set]
  by_cases h1 : j = m
  · subst h1; simp [hj]
  · by_cases h2 : i = m
    · subst h2; simp [h1, hi, Ne.symm h1]
    · simp [h1, h2, Ne.symm h1, Ne.symm h2]

theorem getD_swapAt {α} (l : List α) (i j m : Nat) (hi : i < l.length) (hj : j < l.length) (d : α) :
    (swapAt l i j).getD m d = if m = j then l.getD i d else if m = i then l.getD j d else l.getD m d := by
  simp only [List.getD_eq_getElem?_getD, getElem?_swapAt l i j m hi hj]
  split
  · rfl
  · split <;> rfl

theorem swapAt_cons_succ {α} (x : α) (xs : List α) (i j : Nat) :
    swapAt (x :: xs) (i + 1) (j + 1) = x :: swapAt xs i j := by
  unfold swapAt
  simp only [List.getElem?_cons_succ]
  split <;> simp_all

theorem swapAt_perm {α} (l : List α) (i j : Nat) : (swapAt l i j).Perm l := by
  by_cases h : i < l.length ∧ j < l.length
  · rw [swapAt_of_lt l i j h.1 h.2]; exact List.set_set_perm h.1 h.2
  · rw [swapAt_of_not_lt l i j h]

theorem mem_swapAt {α} (l : List α) (i j : Nat) (x : α) : x ∈ swapAt l i j ↔ x ∈ l :=
  (swapAt_perm l i j).mem_iff

/-- a swap above `lo` leaves `take lo` alone and is a swap of `drop lo`. -/
theorem swapAt_take_drop {α} : ∀ (lo : Nat) (l : List α) (i j : Nat), lo ≤ i → lo ≤ j →
    (swapAt l i j).take lo = l.take lo ∧ (swapAt l i j).drop lo = swapAt (l.drop lo) (i - lo) (j - lo)
  | 0, l, i, j, _, _ => by simp
  | lo + 1, [], i, j, _, _ => by simp [swapAt]
  | lo + 1, x :: xs, i, j, hi, hj => by
    obtain ⟨i, rfl⟩ : ∃ i', i = i' + 1 := ⟨i - 1, by omega⟩
    obtain ⟨j, rfl⟩ : ∃ j', j = j' + 1 := ⟨j - 1, by omega⟩
    have ih := swapAt_take_drop lo xs i j (by omega) (by omega)
    rw [swapAt_cons_succ]
    simp only [List.take_succ_cons, List.drop_succ_cons, Nat.add_sub_add_right]
    exact ⟨by rw [ih.1], ih.2⟩

theorem swapAt_take {α} (lo : Nat) (l : List α) (i j : Nat) (hi : lo ≤ i) (hj : lo ≤ j) :
    (swapAt l i j).take lo = l.take lo := (swapAt_take_drop lo l i j hi hj).1

theorem swapAt_drop_perm {α} (lo : Nat) (l : List α) (i j : Nat) (hi : lo ≤ i) (hj : lo ≤ j) :
    ((swapAt l i j).drop lo).Perm (l.drop lo) := by
  rw [(swapAt_take_drop lo l i j hi hj).2]
  exact swapAt_perm _ _ _

/-! ## `skipSaturators` -/

theorem skipSaturators_spec : ∀ (ds : List DRow) (leb : Nat),
    leb ≤ skipSaturators ds leb ∧ skipSaturators ds leb ≤ leb + ds.length ∧
    ∀ m, m < skipSaturators ds leb - leb → (ds.getD m default).sp = 0
  | [], leb => by simp [skipSaturators]
  | d :: ds, leb => by
    unfold skipSaturators
    split
    · rename_i h
      have ih := skipSaturators_spec ds (leb + 1)
      refine ⟨by omega, by simp only [List.length_cons]; omega, ?_⟩
      intro m hm
      cases m with
      | zero => simpa using h
      | succ m =>
        simp only [List.getD_cons_succ]
        exact ih.2.2 m (by omega)
    · simp

/-! ## `partitionLoop` -/

/-- the three regions of the partition, from `lo` on. -/
def Regions (rows : List DRow) (lo leb sup inf : Nat) : Prop :=
  (∀ m, lo ≤ m → m < leb → (rows.getD m default).sp = 0) ∧
  (∀ m, leb ≤ m → m < sup → 0 < (rows.getD m default).sp) ∧
  (∀ m, inf ≤ m → m < rows.length → (rows.getD m default).sp < 0)

theorem partitionLoop_spec (lo : Nat) : ∀ (n : Nat) (rows : List DRow) (leb sup inf : Nat),
    n = inf - sup → lo ≤ leb → leb ≤ sup → sup ≤ inf → inf ≤ rows.length →
    Regions rows lo leb sup inf →
    (partitionLoop n rows leb sup inf).1.length = rows.length ∧
    (partitionLoop n rows leb sup inf).1.take lo = rows.take lo ∧
    ((partitionLoop n rows leb sup inf).1.drop lo).Perm (rows.drop lo) ∧
    lo ≤ (partitionLoop n rows leb sup inf).2.1 ∧
    (partitionLoop n rows leb sup inf).2.1 ≤ (partitionLoop n rows leb sup inf).2.2 ∧
    (partitionLoop n rows leb sup inf).2.2 ≤ rows.length ∧
    Regions (partitionLoop n rows leb sup inf).1 lo (partitionLoop n rows leb sup inf).2.1
      (partitionLoop n rows leb sup inf).2.2 (partitionLoop n rows leb sup inf).2.2
  | 0, rows, leb, sup, inf, hn, h1, h2, h3, h4, hr => by
    have : inf = sup := by omega
    subst this
    unfold partitionLoop
    exact ⟨rfl, rfl, List.Perm.refl _, h1, h2, h4, hr⟩
  | n + 1, rows, leb, sup, inf, hn, h1, h2, h3, h4, hr => by
    obtain ⟨hz, hp, hg⟩ := hr
    -- `inf = i + 1`: keeps the truncated subtraction `inf - 1` out of the arithmetic side goals
    obtain ⟨i, rfl⟩ : ∃ i, inf = i + 1 := ⟨inf - 1, by omega⟩
    have hsup : sup < rows.length := by omega
    have hleb : leb < rows.length := by omega
    have hinf : i < rows.length := by omega
    unfold partitionLoop
    simp only [beq_iff_eq, Nat.add_sub_cancel]
    split
    · rename_i hs
      have ih := partitionLoop_spec lo n (swapAt rows sup leb) (leb + 1) (sup + 1) (i + 1)
        (by omega) (by omega) (by omega) (by omega) (by rw [length_swapAt]; exact h4)
        (by
          refine ⟨?_, ?_, ?_⟩
          · intro m hm1 hm2
            rw [getD_swapAt _ _ _ _ hsup hleb]
            split
            · exact hs
            · split
              · omega
              · exact hz m hm1 (by omega)
          · intro m hm1 hm2
            rw [getD_swapAt _ _ _ _ hsup hleb]
            split
            · omega
            · split
              · exact hp leb (by omega) (by omega)
              · exact hp m (by omega) (by omega)
          · intro m hm1 hm2
            rw [length_swapAt] at hm2
            rw [getD_swapAt _ _ _ _ hsup hleb]
            split
            · omega
            · split
              · omega
              · exact hg m hm1 hm2)
      rw [length_swapAt] at ih
      refine ⟨ih.1, ih.2.1.trans (swapAt_take lo rows sup leb (by omega) (by omega)),
        ih.2.2.1.trans (swapAt_drop_perm lo rows sup leb (by omega) (by omega)), ?_⟩
      exact ⟨by omega, ih.2.2.2.2.1, ih.2.2.2.2.2.1, ih.2.2.2.2.2.2⟩
    · split
      · rename_i hs0 hs
        have ih := partitionLoop_spec lo n (swapAt rows sup i) leb sup i
          (by omega) (by omega) (by omega) (by omega) (by rw [length_swapAt]; omega)
          (by
            refine ⟨?_, ?_, ?_⟩
            · intro m hm1 hm2
              rw [getD_swapAt _ _ _ _ hsup hinf]
              split
              · omega
              · split
                · omega
                · exact hz m hm1 hm2
            · intro m hm1 hm2
              rw [getD_swapAt _ _ _ _ hsup hinf]
              split
              · omega
              · split
                · omega
                · exact hp m hm1 hm2
            · intro m hm1 hm2
              rw [length_swapAt] at hm2
              rw [getD_swapAt _ _ _ _ hsup hinf]
              split
              · exact hs
              · split
                · omega
                · exact hg m (by omega) hm2)
        rw [length_swapAt] at ih
        exact ⟨ih.1, ih.2.1.trans (swapAt_take lo rows sup i (by omega) (by omega)),
          ih.2.2.1.trans (swapAt_drop_perm lo rows sup i (by omega) (by omega)), ih.2.2.2⟩
      · rename_i hs0 hs
        have ih := partitionLoop_spec lo n rows leb (sup + 1) (i + 1)
          (by omega) (by omega) (by omega) (by omega) h4
          (by
            refine ⟨hz, ?_, hg⟩
            intro m hm1 hm2
            by_cases hm : m = sup
            · subst hm; omega
            · exact hp m hm1 (by omega))
        exact ih

/-! ## `swapLoop` -/

theorem swapLoop_spec (bound : Nat) : ∀ (n : Nat) (rows : List DRow) (i j : Nat),
    j ≤ bound → bound ≤ i → i ≤ rows.length → n = min (bound - j) (i - bound) →
    ∃ t, (swapLoop n rows i j).take (if j + n = bound then i - n else j + n) = rows.take j ++ t ∧
      t.Perm ((rows.take i).drop bound)
  | 0, rows, i, j, h1, h2, h3, hn => by
    unfold swapLoop
    by_cases hj : j = bound
    · subst hj
      refine ⟨(rows.take i).drop j, ?_, List.Perm.refl _⟩
      simp only [Nat.add_zero, if_true, Nat.sub_zero]
      conv_lhs => rw [← List.take_append_drop j (rows.take i)]
      rw [List.take_take, Nat.min_eq_left h2]
    · have hi : i = bound := by omega
      subst hi
      refine ⟨[], ?_, ?_⟩
      · simp [hj]
      · rw [List.drop_eq_nil_of_le]
        simp
  | n + 1, rows, i, j, h1, h2, h3, hn => by
    have hj : j < bound := by omega
    obtain ⟨k, rfl⟩ : ∃ k, i = k + 1 := ⟨i - 1, by omega⟩
    have hi : bound ≤ k := by omega
    have hi1 : k < rows.length := by omega
    have hjl : j < rows.length := by omega
    unfold swapLoop
    simp only [Nat.add_sub_cancel]
    obtain ⟨t, ht1, ht2⟩ := swapLoop_spec bound n (swapAt rows k j) k (j + 1)
      (by omega) (by omega) (by rw [length_swapAt]; omega) (by omega)
    have e1 : (swapAt rows k j).take (j + 1) = rows.take j ++ [rows[k]] := by
      rw [List.take_add_one, swapAt_take j rows k j (by omega) (Nat.le_refl _),
        getElem?_swapAt rows k j j hi1 hjl]
      simp [hi1]
    have e2 : ((swapAt rows k j).take k).drop bound = (rows.take k).drop bound := by
      apply List.ext_getElem?
      intro m
      simp only [List.getElem?_drop, List.getElem?_take, getElem?_swapAt rows k j _ hi1 hjl]
      split
      · rw [if_neg (by omega), if_neg (by omega)]
      · rfl
    have e3 : (rows.take (k + 1)).drop bound = (rows.take k).drop bound ++ [rows[k]] := by
      have : (k + 1) = k + 1 := by omega
      conv_lhs => rw [this, List.take_add_one, List.getElem?_eq_getElem hi1]
      rw [List.drop_append_of_le_length]
      · rfl
      · rw [List.length_take]; omega
    refine ⟨rows[k] :: t, ?_, ?_⟩
    · have hc : (if j + (n + 1) = bound then (k + 1) - (n + 1) else j + (n + 1)) =
          (if j + 1 + n = bound then k - n else j + 1 + n) := by
        split <;> split <;> omega
      rw [hc, ht1, e1]
      simp
    · rw [e2] at ht2
      rw [e3]
      exact (ht2.cons _).trans (List.perm_append_singleton _ _).symm

/-! ## membership by index -/

theorem mem_drop_iff_getElem? {α} (l : List α) (a : Nat) (x : α) :
    x ∈ l.drop a ↔ ∃ m, a ≤ m ∧ l[m]? = some x := by
  rw [List.mem_iff_getElem?]
  simp only [List.getElem?_drop]
  constructor
  · rintro ⟨i, h⟩
    exact ⟨a + i, by omega, h⟩
  · rintro ⟨m, h1, h2⟩
    exact ⟨m - a, by rw [← h2]; congr 1; omega⟩

theorem mem_take_drop_iff_getElem? {α} (l : List α) (a b : Nat) (x : α) :
    x ∈ (l.take b).drop a ↔ ∃ m, a ≤ m ∧ m < b ∧ l[m]? = some x := by
  rw [mem_drop_iff_getElem?]
  simp only [List.getElem?_take]
  constructor
  · rintro ⟨m, h1, h2⟩
    split at h2
    · exact ⟨m, h1, by assumption, h2⟩
    · cases h2
  · rintro ⟨m, h1, h2, h3⟩
    exact ⟨m, h1, by rw [if_pos h2]; exact h3⟩

theorem getD_of_getElem? {α} (l : List α) (m : Nat) (x d : α) (h : l[m]? = some x) : l.getD m d = x := by
  simp [List.getD_eq_getElem?_getD, h]

theorem getElem?_of_lt_getD {α} (l : List α) (m : Nat) (d : α) (h : m < l.length) :
    l[m]? = some (l.getD m d) := by
  simp [List.getD_eq_getElem?_getD, List.getElem?_eq_getElem h]

end PPLV.Conv

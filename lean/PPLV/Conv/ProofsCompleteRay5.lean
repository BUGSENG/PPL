import PPLV.Conv.ProofsCompleteRay4
/-!
# `rayCase` keeps the generator system minimal (the saturation rows stay an antichain)
-/
namespace PPLV.Conv
open PPLV.Conv.Abs

theorem bit_keepImage (setb : Bool) (newK : Nat) (d : DRow) (k : Nat) :
    bit (keepImage setb newK d).sat k = ((setb && decide (0 < d.sp) && decide (k = newK)) || bit d.sat k) := by
  unfold keepImage
  split
  · rename_i h
    show bit (setBit d.sat newK) k = _
    rw [bit_setBit, h]; simp
  · rename_i h
    have : (setb && decide (0 < d.sp)) = false := by simpa using h
    rw [this]; simp

theorem bit_keepImage_ge (setb : Bool) (newK : Nat) (d : DRow) (k : Nat) (h : bit d.sat k = true) :
    bit (keepImage setb newK d).sat k = true := by
  rw [bit_keepImage, h]; simp

theorem bit_keepImage_ne (setb : Bool) (newK : Nat) (d : DRow) (k : Nat) (h : k ≠ newK) :
    bit (keepImage setb newK d).sat k = bit d.sat k := by
  rw [bit_keepImage]; simp [h]

theorem satProper_iff (nle : Nat) (rows : List DRow) :
    SatProper nle rows ↔ ∀ d ∈ rows.drop nle, bitsEmpty d.sat = false := by
  constructor
  · intro h d hd
    obtain ⟨m, hm1, hm2⟩ := (mem_drop_iff_getElem? _ _ _).mp hd
    exact h m d hm1 hm2
  · intro h m d hm hd
    exact h d ((mem_drop_iff_getElem? _ _ _).mpr ⟨m, hm, hd⟩)

theorem newRay_sat (ri rj : DRow) (s : BRow) : (newRay ri rj s).sat = s := rfl

namespace RayCtx
variable {ncols : Nat} {srcK : LRow} {kept : List LRow} {st : CState} {R : List DRow} {leb sup : Nat}

theorem sub_bor_left (a b : BRow) : subsetOrEqual a (bor a b) = true := by
  rw [subsetOrEqual_iff]; intro k hk; rw [bit_bor, hk]; rfl

theorem sub_bor_right (a b : BRow) : subsetOrEqual b (bor a b) = true := by
  rw [subsetOrEqual_iff]; intro k hk; rw [bit_bor, hk]; simp

/-- one half of the new-new case. -/
theorem nn_half (C : RayCtx ncols srcK kept st R leb sup) {i1 j1 i2 j2 : Nat} {di1 dj1 di2 dj2 : DRow}
    (hi1 : leb ≤ i1 ∧ i1 < sup) (hj1 : sup ≤ j1) (hi2 : leb ≤ i2 ∧ i2 < sup) (hj2 : sup ≤ j2)
    (ei1 : R[i1]? = some di1) (ej1 : R[j1]? = some dj1) (ei2 : R[i2]? = some di2) (ej2 : R[j2]? = some dj2)
    (h2 : adjacent ncols st.nle kept.length st.rows.length R i2 j2 = some (bor di2.sat dj2.sat))
    (hne : ¬ (i1 = i2 ∧ j1 = j2)) :
    subsetOrEqual (bor di1.sat dj1.sat) (bor di2.sat dj2.sat) = false := by
  have hnl := C.P.h1
  cases hsub : subsetOrEqual (bor di1.sat dj1.sat) (bor di2.sat dj2.sat)
  · rfl
  · exfalso
    have nt := C.adjacent_some_no_third (i := i2) (j := j2) (by omega) (by omega) ei2 ej2 h2
    have s1 := subsetOrEqual_trans _ _ _ (sub_bor_left di1.sat dj1.sat) hsub
    have s2 := subsetOrEqual_trans _ _ _ (sub_bor_right di1.sat dj1.sat) hsub
    have e1 : i1 = i2 := by
      by_contra hc
      have := nt i1 di1 (by omega) hc (by omega) ei1
      rw [s1] at this; cases this
    have e2 : j1 = j2 := by
      by_contra hc
      have := nt j1 dj1 (by omega) (by omega) hc ej1
      rw [s2] at this; cases this
    exact hne ⟨e1, e2⟩

/-- the new rays are pairwise incomparable. -/
theorem newRays_pairwise (C : RayCtx ncols srcK kept st R leb sup) :
    (newRays ncols st.nle kept.length leb sup st.rows.length R).Pairwise SatRel := by
  have core : ∀ i1 j1 i2 j2 x1 x2, leb ≤ i1 → i1 < sup → sup ≤ j1 → j1 < st.rows.length →
      leb ≤ i2 → i2 < sup → sup ≤ j2 → j2 < st.rows.length → ¬ (i1 = i2 ∧ j1 = j2) →
      (∃ s, adjacent ncols st.nle kept.length st.rows.length R i1 j1 = some s ∧
        x1 = newRay (R.getD i1 default) (R.getD j1 default) s) →
      (∃ s, adjacent ncols st.nle kept.length st.rows.length R i2 j2 = some s ∧
        x2 = newRay (R.getD i2 default) (R.getD j2 default) s) →
      SatRel x1 x2 := by
    intro i1 j1 i2 j2 x1 x2 a1 a2 a3 a4 b1 b2 b3 b4 hne h1 h2
    have hlen := C.P.hlen
    have hs3 := C.P.h3
    have ei1 := getElem?_of_lt_getD R i1 default (by omega)
    have ej1 := getElem?_of_lt_getD R j1 default (by omega)
    have ei2 := getElem?_of_lt_getD R i2 default (by omega)
    have ej2 := getElem?_of_lt_getD R j2 default (by omega)
    obtain ⟨s1, hs1, rfl⟩ := h1
    obtain ⟨s2, hs2, rfl⟩ := h2
    have q1 := adjacent_some _ _ _ _ _ _ _ _ hs1
    have q2 := adjacent_some _ _ _ _ _ _ _ _ hs2
    subst q1 q2
    exact ⟨C.nn_half ⟨a1, a2⟩ a3 ⟨b1, b2⟩ b3 ei1 ej1 ei2 ej2 hs2 hne,
           C.nn_half ⟨b1, b2⟩ b3 ⟨a1, a2⟩ a3 ei2 ej2 ei1 ej1 hs1 (fun h => hne ⟨h.1.symm, h.2.symm⟩)⟩
  unfold newRays
  rw [List.pairwise_flatMap]
  constructor
  · intro i hi
    rw [List.mem_range'_1] at hi
    rw [List.pairwise_filterMap]
    refine (List.pairwise_lt_range' (s := sup) (n := st.rows.length - sup)).imp_of_mem ?_
    intro j j' hj hj' hlt x1 h1 x2 h2
    rw [List.mem_range'_1] at hj hj'
    have hlt' : j < j' := hlt
    have hne : ¬ (i = i ∧ j = j') := fun h => absurd h.2 (Nat.ne_of_lt hlt')
    have q1 : ∃ s, adjacent ncols st.nle kept.length st.rows.length R i j = some s ∧
        x1 = newRay (R.getD i default) (R.getD j default) s := by
      split at h1
      · cases h1
      · rename_i s hs; exact ⟨s, hs, (Option.some.inj h1).symm⟩
    have q2 : ∃ s, adjacent ncols st.nle kept.length st.rows.length R i j' = some s ∧
        x2 = newRay (R.getD i default) (R.getD j' default) s := by
      split at h2
      · cases h2
      · rename_i s hs; exact ⟨s, hs, (Option.some.inj h2).symm⟩
    exact core i j i j' x1 x2 hi.1 (by omega) hj.1 (by omega) hi.1 (by omega) hj'.1 (by omega) hne q1 q2
  · refine (List.pairwise_lt_range' (s := leb) (n := sup - leb)).imp_of_mem ?_
    intro i i' hi hi' hlt x1 hx1 x2 hx2
    rw [List.mem_range'_1] at hi hi'
    rw [List.mem_filterMap] at hx1 hx2
    obtain ⟨j, hj, h1⟩ := hx1
    obtain ⟨j', hj', h2⟩ := hx2
    rw [List.mem_range'_1] at hj hj'
    have hlt' : i < i' := hlt
    have hne : ¬ (i = i' ∧ j = j') := fun h => absurd h.1 (Nat.ne_of_lt hlt')
    have q1 : ∃ s, adjacent ncols st.nle kept.length st.rows.length R i j = some s ∧
        x1 = newRay (R.getD i default) (R.getD j default) s := by
      split at h1
      · cases h1
      · rename_i s hs; exact ⟨s, hs, (Option.some.inj h1).symm⟩
    have q2 : ∃ s, adjacent ncols st.nle kept.length st.rows.length R i' j' = some s ∧
        x2 = newRay (R.getD i' default) (R.getD j' default) s := by
      split at h2
      · cases h2
      · rename_i s hs; exact ⟨s, hs, (Option.some.inj h2).symm⟩
    exact core i j i' j' x1 x2 hi.1 (by omega) hj.1 (by omega) hi'.1 (by omega) hj'.1 (by omega) hne q1 q2

/-- the kept rays stay pairwise incomparable. -/
theorem kept_pairwise (C : RayCtx ncols srcK kept st R leb sup) (setb : Bool) (j0 : Nat) :
    (((R.take j0).drop st.nle).map (keepImage setb kept.length)).Pairwise SatRel := by
  rw [List.pairwise_map]
  have hR : (R.drop st.nle).Pairwise SatRel := (satAntichain_iff_pairwise _ _).mp C.antichainR
  have hsub : ((R.take j0).drop st.nle).Sublist (R.drop st.nle) := (List.take_sublist j0 R).drop st.nle
  refine (hR.sublist hsub).imp_of_mem ?_
  intro a b ha hb hab
  have ma : a ∈ st.rows := List.mem_of_mem_drop (C.P.hperm.mem_iff.mp (hsub.mem ha))
  have mb : b ∈ st.rows := List.mem_of_mem_drop (C.P.hperm.mem_iff.mp (hsub.mem hb))
  have key : ∀ (x y : DRow), x ∈ st.rows → subsetOrEqual x.sat y.sat = false →
      subsetOrEqual (keepImage setb kept.length x).sat (keepImage setb kept.length y).sat = false := by
    intro x y mx hxy
    cases hs : subsetOrEqual (keepImage setb kept.length x).sat (keepImage setb kept.length y).sat
    · rfl
    · exfalso
      rw [subsetOrEqual_iff] at hs
      have : subsetOrEqual x.sat y.sat = true := by
        rw [subsetOrEqual_iff]
        intro k hk
        have hkl := C.bit_lt mx k hk
        have := hs k (bit_keepImage_ge _ _ _ _ hk)
        rwa [bit_keepImage_ne _ _ _ _ (by omega)] at this
      rw [hxy] at this; cases this
  exact ⟨key a b ma hab.1, key b a mb hab.2⟩

/-- a kept ray and a new ray are incomparable. -/
theorem kept_new (C : RayCtx ncols srcK kept st R leb sup) {d x : DRow}
    (hd : d ∈ (R.take (if srcK.le then leb else sup)).drop st.nle)
    (hx : x ∈ newRays ncols st.nle kept.length leb sup st.rows.length R) :
    SatRel (keepImage (!srcK.le && st.rows.any (fun d => decide (d.sp < 0))) kept.length d) x := by
  obtain ⟨m, hm1, hm2, em, hdm, _⟩ := C.kept_part hd
  obtain ⟨i, j, di, dj, hi1, hi2, hj1, hj2, ei, ej, hpos, hneg, hv, rfl⟩ := C.newRay_mem hx
  have hnl := C.P.h1
  have hls := C.P.h2
  have md := List.mem_of_mem_drop hdm
  obtain ⟨mi, _, _⟩ := C.ray (by omega : st.nle ≤ i) ei
  obtain ⟨mj, _, _⟩ := C.ray (by omega : st.nle ≤ j) ej
  have hmj : m ≠ j := by
    have : (if srcK.le then leb else sup) ≤ sup := by split <;> omega
    omega
  rw [SatRel, newRay_sat]
  constructor
  · cases hs : subsetOrEqual (keepImage (!srcK.le && st.rows.any (fun d => decide (d.sp < 0))) kept.length d).sat
        (bor di.sat dj.sat)
    · rfl
    · exfalso
      rw [subsetOrEqual_iff] at hs
      have hsub : subsetOrEqual d.sat (bor di.sat dj.sat) = true := by
        rw [subsetOrEqual_iff]
        intro k hk
        exact hs k (bit_keepImage_ge _ _ _ _ hk)
      have hmi : m = i := by
        by_contra hc
        have := C.adjacent_some_no_third (by omega) (by omega) ei ej hv m d hm1 hc hmj em
        rw [hsub] at this; cases this
      subst hmi
      have hdd : d = di := by rw [em] at ei; exact Option.some.inj ei
      subst hdd
      cases hle : srcK.le
      · -- inequality: the bit `kept.length` is set in the image, but in neither old row
        have hany : st.rows.any (fun d => decide (d.sp < 0)) = true := by
          rw [List.any_eq_true]; exact ⟨dj, mj, by simpa using hneg⟩
        have hb : bit (keepImage (!srcK.le && st.rows.any (fun d => decide (d.sp < 0))) kept.length d).sat kept.length = true := by
          rw [bit_keepImage, hle, hany]; simp [hpos]
        have := hs _ hb
        rw [bit_bor] at this
        rcases (Bool.or_eq_true _ _).mp this with h | h
        · have := C.bit_lt mi _ h; omega
        · have := C.bit_lt mj _ h; omega
      · simp only [hle, if_true] at hm2; omega
  · cases hs : subsetOrEqual (bor di.sat dj.sat)
        (keepImage (!srcK.le && st.rows.any (fun d => decide (d.sp < 0))) kept.length d).sat
    · rfl
    · exfalso
      rw [subsetOrEqual_iff] at hs
      have hsubi : subsetOrEqual di.sat d.sat = true := by
        rw [subsetOrEqual_iff]
        intro k hk
        have hkl := C.bit_lt mi k hk
        have := hs k (by rw [bit_bor, hk]; rfl)
        rwa [bit_keepImage_ne _ _ _ _ (by omega)] at this
      have hsubj : subsetOrEqual dj.sat d.sat = true := by
        rw [subsetOrEqual_iff]
        intro k hk
        have hkl := C.bit_lt mj k hk
        have := hs k (by rw [bit_bor, hk]; simp)
        rwa [bit_keepImage_ne _ _ _ _ (by omega)] at this
      have e1 : i = m := by
        by_contra hc
        have := C.antichainR i m di d (by omega) hm1 hc ei em
        rw [hsubi] at this; cases this
      have e2 : j = m := by
        by_contra hc
        have := C.antichainR j m dj d (by omega) hm1 hc ej em
        rw [hsubj] at this; cases this
      omega

end RayCtx
end PPLV.Conv

import Mathlib.Algebra.Module.LinearMap.Defs
import Mathlib.Algebra.Module.Submodule.Defs
import Mathlib.Algebra.Order.Field.Rat
import Mathlib.Tactic.Linarith
/-!
# the Double Description lemma, abstractly (definitions)

The setting in which completeness of `Polyhedron::conversion` is proved: a `ℚ`-vector space `V`,
constraints = linear functionals with a kind bit, generators = vectors (lines and rays).  The model rows
(`List Int`) are embedded by `PPLV.Conv.emb` (`ProofsCompleteEmb.lean`).

* `Cone L R x` — `x` is a linear combination of the lines `L` plus a non-negative combination of the rays `R`
  (inductive, so no index bookkeeping);
* `InP A x` — `x` satisfies every constraint of `A`;
* `SatSub A x y` — every constraint of `A` saturated by `x` is saturated by `y`;
* `Adjacent A R r s` — the combinatorial adjacency test of `conversion` (:820-828): no third ray saturates
  all the constraints saturated by both;
* `DDInv U A L R` — the invariant of the main loop: `(A, L ∪ R)` is a double description pair inside the
  ambient subspace `U`, no ray's saturator set is contained in another's, no ray is in the lineality space.
-/
namespace PPLV.Conv.Abs

variable {V : Type*} [AddCommGroup V] [Module ℚ V]

/-- a constraint: the functional `f` must vanish (`eq = true`) or be non-negative. -/
structure ACon (V : Type*) [AddCommGroup V] [Module ℚ V] where
  eq : Bool
  f : V →ₗ[ℚ] ℚ

/-- `x` satisfies the constraint. -/
def ACon.holds (a : ACon V) (x : V) : Prop := if a.eq then a.f x = 0 else 0 ≤ a.f x

/-- `x` satisfies every constraint of `A`. -/
def InP (A : List (ACon V)) (x : V) : Prop := ∀ a ∈ A, a.holds x

/-- linear combinations of `L` plus non-negative combinations of `R`. -/
inductive Cone (L R : Set V) : V → Prop
  | zero : Cone L R 0
  | line {l y : V} (t : ℚ) : l ∈ L → Cone L R y → Cone L R (y + t • l)
  | ray {r y : V} (t : ℚ) : r ∈ R → 0 ≤ t → Cone L R y → Cone L R (y + t • r)

/-- the saturators of `x` are saturators of `y`. -/
def SatSub (A : List (ACon V)) (x y : V) : Prop := ∀ a ∈ A, a.f x = 0 → a.f y = 0

/-- no third ray of `R` saturates every constraint saturated by both `r` and `s`
(the full adjacency test, `Polyhedron_conversion_templates.hh:820-828`). -/
def Adjacent (A : List (ACon V)) (R : Set V) (r s : V) : Prop :=
  ∀ q ∈ R, (∀ a ∈ A, a.f r = 0 → a.f s = 0 → a.f q = 0) → q = r ∨ q = s

/-- the invariant of the main loop of `conversion`, inside the ambient subspace `U`. -/
structure DDInv (U : Submodule ℚ V) (A : List (ACon V)) (L R : Set V) : Prop where
  lineU : ∀ l ∈ L, l ∈ U
  rayU : ∀ r ∈ R, r ∈ U
  /-- the lines saturate every constraint. -/
  lineSat : ∀ l ∈ L, ∀ a ∈ A, a.f l = 0
  /-- the rays satisfy every constraint. -/
  raySound : ∀ r ∈ R, InP A r
  /-- every point of the ambient space that satisfies the constraints is generated. -/
  complete : ∀ x ∈ U, InP A x → Cone L R x
  /-- minimality, combinatorially: no ray's saturators are all saturators of another ray. -/
  antichain : ∀ r ∈ R, ∀ r' ∈ R, SatSub A r r' → r = r'
  /-- no ray lies in the lineality space. -/
  proper : ∀ r ∈ R, ∃ a ∈ A, a.f r ≠ 0

theorem ACon.holds_iff (a : ACon V) (x : V) :
    a.holds x ↔ (a.eq = true → a.f x = 0) ∧ (a.eq = false → 0 ≤ a.f x) := by
  unfold ACon.holds
  cases a.eq <;> simp

end PPLV.Conv.Abs

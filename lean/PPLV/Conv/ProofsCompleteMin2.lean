import PPLV.Conv.ProofsCompleteSimp10
import PPLV.Conv.ProofsCompleteK1a
/-!
# `minimize`: the transposed saturation matrix, and the system returned when it does not report "empty"

`conversion` returns a DD pair with an exact saturation matrix; its transpose is the saturation matrix
`simplify` expects; the rows `simplify` drops are redundant (`ProofsCompleteSimp*`).  Used by `minimize_same_set_iff`
(`ProofsCompleteGauss4.lean`).
-/
namespace PPLV.Conv

theorem bit_map_bit (m : List BRow) (j i : Nat) :
    bit (m.map fun r => bit r j) i = (decide (i < m.length) && bit (m.getD i []) j) := by
  unfold bit
  rw [List.getD_eq_getElem?_getD, List.getElem?_map]
  by_cases h : i < m.length
  · rw [List.getElem?_eq_getElem h]
    simp [h, List.getD_eq_getElem?_getD]
  · rw [List.getElem?_eq_none (by omega)]
    simp [h]

/-- the transposed saturation matrix is the saturation matrix of the swapped pair. -/
theorem satCorrect_transpose (cols dest : List LRow) (sat : List BRow) (h : SatCorrect cols dest sat) :
    SatCorrect dest cols (transpose cols.length sat) := by
  obtain ⟨hlen, hb⟩ := h
  refine ⟨by simp [transpose], ?_⟩
  intro j hj i
  have e : (transpose cols.length sat).getD j [] = sat.map fun r => bit r j := by
    unfold transpose
    rw [List.getD_eq_getElem?_getD, List.getElem?_map, List.getElem?_range hj]; rfl
  rw [e, bit_map_bit, hlen]
  by_cases hi : i < dest.length
  · have := hb i hi j
    rw [this]
    have hg1 : cols.getD j default = cols[j] := by
      rw [List.getD_eq_getElem?_getD, List.getElem?_eq_getElem hj]; rfl
    have hg2 : dest.getD i default = dest[i] := by
      rw [List.getD_eq_getElem?_getD, List.getElem?_eq_getElem hi]; rfl
    rw [hg1, hg2, sp_comm dest[i].v cols[j].v]
    simp [hi, hj]
  · simp [hi]

/-- `minimize` does not report "empty" only when `hasPoint` found a point. -/
theorem minimize_hasPoint (nnc : Bool) (ncols : Nat) (source : List LRow) (sat0 : List BRow)
    (hne : (minimize true nnc ncols source sat0).empty = false) :
    hasPoint nnc ncols
      (conversion ncols source 0 (identityLines ncols)
        (List.replicate ncols (List.replicate source.length false)) ncols).nle
      (conversion ncols source 0 (identityLines ncols)
        (List.replicate ncols (List.replicate source.length false)) ncols).dest = true := by
  by_contra hc
  rw [minimize_of_no_point true nnc ncols source sat0 _ rfl (Bool.eq_false_iff.mpr hc)] at hne
  cases hne

/-- what `minimize` returns as the source system when it does not report "empty". -/
theorem minimize_source_eq (nnc : Bool) (ncols : Nat) (source : List LRow) (sat0 : List BRow)
    (hne : (minimize true nnc ncols source sat0).empty = false) :
    (minimize true nnc ncols source sat0).source
      = (simplify ncols (conversion ncols source 0 (identityLines ncols)
            (List.replicate ncols (List.replicate source.length false)) ncols).dest.length
          (List.zipWith (fun a s => ({ row := a, sat := s } : SRow))
            (conversion ncols source 0 (identityLines ncols)
              (List.replicate ncols (List.replicate source.length false)) ncols).source
            (transpose (conversion ncols source 0 (identityLines ncols)
              (List.replicate ncols (List.replicate source.length false)) ncols).source.length
              (conversion ncols source 0 (identityLines ncols)
                (List.replicate ncols (List.replicate source.length false)) ncols).sat))).1.map (·.row) := by
  rw [minimize_of_point true nnc ncols source sat0 _ _ rfl rfl (minimize_hasPoint nnc ncols source sat0 hne)]

end PPLV.Conv

import PPLV.Conv.ProofsSimp3
import PPLV.Conv.ProofsSimp6
import PPLV.Conv.ProofsSimp7
/-!
# `simplify` loses no point of what the generators generate

Also: `simplify` as a composition of its phases (`simplify_eq`), and `minimize` in its two outcomes
(`minimize_of_point`, `minimize_of_no_point`).
-/
namespace PPLV.Conv

theorem GInv_of_take (n : Nat) (a b : List SRow) (h : a.take n = b.take n) (hI : GInv n b) : GInv n a := by
  have hl : n ≤ a.length := by
    have := congrArg List.length h
    rw [List.length_take, List.length_take] at this
    have := hI.1
    omega
  refine ⟨hl, fun i hi => ?_⟩
  have e : a[i]? = b[i]? := by
    have := congrArg (fun l => l[i]?) h
    simp only [List.getElem?_take, hi, if_true] at this
    exact this
  rw [List.getD_eq_getElem?_getD, e, ← List.getD_eq_getElem?_getD]
  exact hI.2 i hi

theorem GInv_mono (n m : Nat) (rows : List SRow) (h : m ≤ n) (hI : GInv n rows) : GInv m rows :=
  ⟨by have := hI.1; omega, fun i hi => hI.2 i (by omega)⟩

theorem dropRedundantEqLoop_spec : ∀ (n : Nat) (rows : List SRow) (nle redundant erasing k : Nat),
    k ≤ redundant → erasing = rows.length →
    (dropRedundantEqLoop n rows nle redundant erasing).take k = rows.take k ∧
    ∀ x ∈ dropRedundantEqLoop n rows nle redundant erasing, x ∈ rows
  | 0, rows, _, _, _, _ => fun _ _ => ⟨rfl, fun _ h => h⟩
  | n + 1, rows, nle, redundant, erasing, k => fun hk he => by
    unfold dropRedundantEqLoop
    split
    · rename_i hc
      have hrl : redundant < rows.length := by omega
      obtain ⟨h1, h2⟩ := dropRedundantEqLoop_spec n (removeRowAt rows redundant) nle (redundant + 1) (erasing - 1) k
        (by omega) (by rw [length_removeRowAt]; omega)
      exact ⟨by rw [h1, take_removeRowAt rows redundant k hrl hk],
        fun x hx => mem_removeRowAt rows redundant x (h2 x hx)⟩
    · exact ⟨rfl, fun _ h => h⟩

/-- `Polyhedron_simplify_templates.hh:160-196`: the dependent equalities left by `gauss` are dropped. -/
def dropPhase (nle numRows : Nat) (rows : List SRow) (rank : Nat) : List SRow × Nat :=
  if rank < nle then
    ((dropRedundantEqLoop (nle - rank) rows nle rank numRows).take (numRows - (nle - rank)), rank)
  else (rows, nle)

theorem dropPhase_spec (nle numRows : Nat) (rows : List SRow) (rank : Nat) (hI : GInv nle rows)
    (hlen : numRows = rows.length) :
    GInv (dropPhase nle numRows rows rank).2 (dropPhase nle numRows rows rank).1 ∧
    ∀ r ∈ (dropPhase nle numRows rows rank).1, r ∈ rows := by
  unfold dropPhase
  split
  · rename_i h
    obtain ⟨h1, h2⟩ := dropRedundantEqLoop_spec (nle - rank) rows nle rank numRows rank (Nat.le_refl _) hlen
    refine ⟨?_, fun r hr => h2 r (List.mem_of_mem_take hr)⟩
    apply GInv_of_take rank _ rows _ (GInv_mono nle rank rows (by omega) hI)
    show (List.take (numRows - (nle - rank)) _).take rank = _
    rw [List.take_take]
    have : min rank (numRows - (nle - rank)) = rank := by have := hI.1; omega
    rw [this, h1]
  · exact ⟨hI, fun _ h => h⟩

theorem simplify_eq (ncols numColsSat : Nat) (sys : List SRow) :
    simplify ncols numColsSat sys =
      let e := eqDetectLoop (sys.length - countLeadingLe sys) sys (countLeadingLe sys) (countLeadingLe sys)
      let g := gauss ncols e.2 e.1
      let p := dropPhase e.2 sys.length g.1 g.2
      let s := satRuleLoop p.1.length numColsSat (usub (usub ncols p.2) 1) p.1 p.2
      let t := indepLoop s.length p.2 s p.2
      (backSubstitute p.2 t, p.2) := rfl

/-- every point generated by `gens` that satisfies the system satisfies the simplified system, when the
rows with an empty saturation row are saturated by every generator. -/
theorem simplify_sound (ncols numColsSat : Nat) (sys : List SRow) (gens : List LRow)
    (hH : ∀ r ∈ sys, bitsEmpty r.sat = true → ∀ g ∈ gens, scalarProduct r.row.v g.v = 0) :
    ∀ x, Generated gens x → holdsAll (sys.map (·.row)) x →
      holdsAll ((simplify ncols numColsSat sys).1.map (·.row)) x := by
  intro x hx h0
  rw [simplify_eq]
  dsimp only
  have hc := countLeadingLe_spec sys
  obtain ⟨el, eI⟩ := eqDetectLoop_GInv (sys.length - countLeadingLe sys) sys (countLeadingLe sys)
    (countLeadingLe sys) (Nat.le_refl _) (by omega) ⟨hc.1, hc.2⟩
  have eS := eqDetectLoop_sound gens (sys.length - countLeadingLe sys) sys (countLeadingLe sys)
    (countLeadingLe sys) hH x hx h0
  generalize eqDetectLoop (sys.length - countLeadingLe sys) sys (countLeadingLe sys) (countLeadingLe sys) = e
    at el eI eS ⊢
  have gK := gauss_keeps ncols e.2 e.1 eI.2 eI.1
  have gS := (gauss_same_set ncols e.2 e.1 eI.2 eI.1 x).2 eS
  generalize gauss ncols e.2 e.1 = g at gK gS ⊢
  obtain ⟨pI, pM⟩ := dropPhase_spec e.2 sys.length g.1 g.2 gK.2.1 (by rw [gK.1, el])
  generalize dropPhase e.2 sys.length g.1 g.2 = p at pI pM ⊢
  have sT := satRuleLoop_take p.1.length numColsSat (usub (usub ncols p.2) 1) p.1 p.2 p.2 (Nat.le_refl _)
  have sM := satRuleLoop_mem p.1.length numColsSat (usub (usub ncols p.2) 1) p.1 p.2
  generalize satRuleLoop p.1.length numColsSat (usub (usub ncols p.2) 1) p.1 p.2 = s at sT sM ⊢
  have tT := indepLoop_take s.length p.2 s (Nat.le_refl _)
  have tM := indepLoop_mem s.length p.2 s p.2
  generalize indepLoop s.length p.2 s p.2 = t at tT tM ⊢
  have tI : GInv p.2 t := GInv_of_take p.2 t s tT (GInv_of_take p.2 s p.1 sT pI)
  apply backSubstitute_sound p.2 t tI.2 tI.1 x
  rw [holdsAll_map_iff] at gS ⊢
  intro r hr
  exact gS r (pM r (sM r (tM r hr)))

/-- `minimize` in terms of the result `r` of the conversion it runs (from the identity matrix of lines) and of the
result `S` of `simplify`: users make both variables first, so that no step unfolds the model. -/
theorem minimize_of_point (conToGen nnc : Bool) (ncols : Nat) (source : List LRow) (sat0 : List BRow)
    (r : ConvResult) (S : List SRow × Nat)
    (hr : conversion ncols source 0 (identityLines ncols)
      (List.replicate ncols (List.replicate source.length false)) ncols = r)
    (hS : simplify ncols r.dest.length
      (List.zipWith (fun a s => { row := a, sat := s }) r.source (transpose r.source.length r.sat)) = S)
    (hp : hasPoint nnc ncols r.nle r.dest = true) :
    minimize conToGen nnc ncols source sat0 =
      { empty := false, source := S.1.map (·.row), dest := r.dest, sat := S.1.map (·.sat), rank := S.2 } := by
  subst hr hS
  unfold minimize
  simp only [hp]
  rfl

theorem minimize_of_no_point (conToGen nnc : Bool) (ncols : Nat) (source : List LRow) (sat0 : List BRow)
    (r : ConvResult)
    (hr : conversion ncols source 0 (identityLines ncols)
      (List.replicate ncols (List.replicate source.length false)) ncols = r)
    (hp : hasPoint nnc ncols r.nle r.dest = false) :
    minimize conToGen nnc ncols source sat0 =
      { empty := conToGen, source := r.source, dest := r.dest, sat := sat0, rank := 0 } := by
  subst hr
  unfold minimize
  simp only [hp]
  rfl

end PPLV.Conv

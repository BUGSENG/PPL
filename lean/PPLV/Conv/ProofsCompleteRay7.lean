import PPLV.Conv.ProofsCompleteRay6
/-!
# a positive verdict of `adjacent` means abstract adjacency (the converse is `RayCtx.adjacent_of_abs`, `ProofsCompleteRay3.lean`)
-/
namespace PPLV.Conv
open PPLV.Conv.Abs

namespace RayCtx
variable {ncols : Nat} {srcK : LRow} {kept : List LRow} {st : CState} {R : List DRow} {leb sup : Nat}

/-- a positive verdict (quick adjacency test or full test) means the pair is adjacent. -/
theorem adjacent_some_abs (C : RayCtx ncols srcK kept st R leb sup) {i j : Nat} {di dj : DRow} {s : BRow}
    (hi : st.nle ≤ i) (hj : st.nle ≤ j) (ei : R[i]? = some di) (ej : R[j]? = some dj)
    (h : adjacent ncols st.nle kept.length st.rows.length R i j = some s) :
    Adjacent (kept.map conOf) (raysOf st.gens) (emb di.row.v) (emb dj.row.v) := by
  obtain ⟨mi, _, _⟩ := C.ray hi ei
  obtain ⟨mj, _, _⟩ := C.ray hj ej
  intro q hq hc
  obtain ⟨dl, hdl, rfl⟩ := (raysOf_iff st C.H.hl q).mp hq
  obtain ⟨l, hl1, _, el⟩ := C.P.index dl hdl
  by_cases hli : l = i
  · left
    subst hli
    rw [el] at ei
    rw [Option.some.inj ei]
  · by_cases hlj : l = j
    · right
      subst hlj
      rw [el] at ej
      rw [Option.some.inj ej]
    · exfalso
      have h1 := C.subset_of_common mi mj (List.mem_of_mem_drop hdl) hc
      have h2 := C.adjacent_some_no_third hi hj ei ej h l dl hl1 hli hlj el
      rw [h1] at h2; cases h2

end RayCtx
end PPLV.Conv

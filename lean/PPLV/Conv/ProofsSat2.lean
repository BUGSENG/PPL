import PPLV.Conv.ProofsSat
import PPLV.Conv.ProofsRay
/-!
# The saturation matrix kept by `conversion` never goes stale: the ray case and the step
-/
namespace PPLV.Conv

theorem int_comb_ne_zero (g a b x y z : Int) (hg : 0 < g) (ha : 0 < a) (hb : 0 < b) (hx : 0 ≤ x) (hy : 0 ≤ y)
    (e : a * y + b * x = g * z) : z ≠ 0 ↔ (x ≠ 0 ∨ y ≠ 0) := by
  constructor
  · intro hz
    by_contra hc
    have hx0 : x = 0 := by by_contra h; exact hc (Or.inl h)
    have hy0 : y = 0 := by by_contra h; exact hc (Or.inr h)
    subst hx0; subst hy0
    simp only [Int.mul_zero, Int.add_zero] at e
    rcases Int.mul_eq_zero.mp e.symm with h | h
    · omega
    · exact hz h
  · intro h hz
    subst hz
    simp only [Int.mul_zero] at e
    have h1 : 0 ≤ a * y := Int.mul_nonneg (le_of_lt ha) hy
    have h2 : 0 ≤ b * x := Int.mul_nonneg (le_of_lt hb) hx
    have h3 : a * y = 0 := by omega
    have h4 : b * x = 0 := by omega
    rcases Int.mul_eq_zero.mp h3 with h5 | h5
    · omega
    · rcases Int.mul_eq_zero.mp h4 with h6 | h6
      · omega
      · rcases h with h | h
        · exact h h6
        · exact h h5

/-- the new ray: its bits are the union, and it saturates `srcK`. -/
theorem newRay_bits (srcK : LRow) (kept : List LRow) (ri rj : DRow)
    (hi : 0 < ri.sp) (hj : rj.sp < 0) (hlj : rj.row.le = false)
    (hspi : ri.sp = scalarProduct srcK.v ri.row.v) (hspj : rj.sp = scalarProduct srcK.v rj.row.v)
    (hPi : ∀ s ∈ kept, 0 ≤ scalarProduct s.v ri.row.v) (hPj : ∀ s ∈ kept, 0 ≤ scalarProduct s.v rj.row.v)
    (hbi : BitsOK kept ri.sat ri.row) (hbj : BitsOK kept rj.sat rj.row) :
    BitsOK kept (newRay ri rj (bor ri.sat rj.sat)).sat (newRay ri rj (bor ri.sat rj.sat)).row ∧
    scalarProduct srcK.v (newRay ri rj (bor ri.sat rj.sat)).row.v = 0 := by
  obtain ⟨g, a, b, hg, ha, hb, hab, _, _, hsat, hs⟩ := sp_newRay ri rj (bor ri.sat rj.sat) hi hj hlj
  constructor
  · intro j
    rw [hsat, bit_bor, hbi j, hbj j]
    by_cases hjl : j < kept.length
    · have hmem := getD_mem_of_lt kept j hjl
      have key := int_comb_ne_zero g a b _ _ _ hg ha hb (hPi _ hmem) (hPj _ hmem) (hs (kept.getD j default).v)
      rw [decide_eq_true hjl]
      simp only [Bool.true_and]
      rw [← Bool.decide_or]
      exact (decide_eq_decide.mpr key).symm
    · rw [decide_eq_false hjl]; rfl
  · have e := hs srcK.v
    rw [← hspi, ← hspj, hab] at e
    rcases Int.mul_eq_zero.mp e.symm with h | h
    · omega
    · exact h

/-- **the ray case keeps the saturation rows right**. -/
theorem rayCase_sat (ncols : Nat) (srcK : LRow) (kept : List LRow) (st : CState) (H : StepHyp srcK st kept)
    (hz : ∀ d ∈ st.rows.take st.nle, d.sp = 0) (hsat : RowsSatCorrect kept st.rows) :
    let st' := rayCase ncols srcK kept.length st
    (st'.redundant = st.redundant ∧ RowsSatCorrect (kept ++ [srcK]) st'.rows) ∨
    (st'.redundant = st.redundant ++ [st.k] ∧ RowsSatCorrect kept st'.rows) := by
  intro st'
  obtain ⟨_, _, hred, tail, hrows, htail, _⟩ := rayCase_rows ncols srcK kept.length st H.hn hz
  by_cases hA : (!srcK.le && st.rows.all (fun d => decide (0 ≤ d.sp))) = true
  · right
    rw [if_pos hA] at hred
    refine ⟨hred, ?_⟩
    have hall : ∀ x ∈ st.rows, 0 ≤ x.sp := by
      have := (Bool.and_eq_true _ _).mp hA
      have h2 := List.all_eq_true.mp this.2
      intro x hx; simpa using h2 x hx
    have hsetb : (!srcK.le && st.rows.any (fun d => decide (d.sp < 0))) = false := by
      have : st.rows.any (fun d => decide (d.sp < 0)) = false := by
        rw [List.any_eq_false]
        intro x hx
        have := hall x hx
        simp; omega
      rw [this]; simp
    intro d' hd'
    have hd' : d' ∈ (rayCase ncols srcK kept.length st).rows := hd'
    rw [hrows] at hd'
    rcases List.mem_append.mp hd' with h | h
    · exact hsat d' (List.mem_of_mem_take h)
    · rcases htail d' h with ⟨d, hd, _, he⟩ | ⟨ri, _, rj, hrj, _, hjn, _⟩
      · rw [hsetb, keepImage_false] at he
        rw [he]; exact hsat d (List.mem_of_mem_drop hd)
      · have := hall rj (List.mem_of_mem_drop hrj)
        omega
  · left
    rw [if_neg hA] at hred
    refine ⟨hred, ?_⟩
    have hany : srcK.le = false → st.rows.any (fun d => decide (d.sp < 0)) = true := by
      intro hk'
      by_contra hn
      apply hA
      rw [hk']
      simp only [Bool.not_false, Bool.true_and]
      rw [List.all_eq_true]
      intro x hx
      by_contra hneg
      apply hn
      rw [List.any_eq_true]
      refine ⟨x, hx, ?_⟩
      simp at hneg ⊢
      omega
    intro d' hd'
    have hd' : d' ∈ (rayCase ncols srcK kept.length st).rows := hd'
    rw [hrows] at hd'
    rcases List.mem_append.mp hd' with h | h
    · have hm := List.mem_of_mem_take h
      apply extend_false kept srcK _ _ (hsat d' hm)
      rw [← H.hsp d' hm]; exact hz d' h
    · rcases htail d' h with ⟨d, hd, hsurv, he⟩ | ⟨ri, hri, rj, hrj, hip, hjn, he⟩
      · have dmem := List.mem_of_mem_drop hd
        have hOK : BitsOK kept d.sat d.row := hsat d dmem
        rw [he]
        unfold keepImage
        by_cases hc : ((!srcK.le && st.rows.any (fun d => decide (d.sp < 0))) && decide (0 < d.sp)) = true
        · rw [if_pos hc]
          apply extend_true kept srcK d.sat d.row hOK
          rw [← H.hsp d dmem]
          have := ((Bool.and_eq_true _ _).mp hc).2
          have : 0 < d.sp := by simpa using this
          omega
        · rw [if_neg hc]
          apply extend_false kept srcK d.sat d.row hOK
          rw [← H.hsp d dmem]
          unfold survives at hsurv
          by_cases hk : srcK.le = true
          · rw [if_pos hk] at hsurv; exact hsurv
          · have hk' : srcK.le = false := by simpa using hk
            rw [if_neg hk] at hsurv
            rw [hk', hany hk'] at hc
            simp at hc
            omega
      · obtain ⟨mi, hmi, hgi⟩ := (mem_drop_iff_getElem? _ _ _).mp hri
        obtain ⟨mj, hmj, hgj⟩ := (mem_drop_iff_getElem? _ _ _).mp hrj
        have hli : ri.row.le = false := by rw [H.hl mi ri hgi]; simp; omega
        have hlj : rj.row.le = false := by rw [H.hl mj rj hgj]; simp; omega
        have rim := List.mem_of_getElem? hgi
        have rjm := List.mem_of_getElem? hgj
        obtain ⟨q1, q2⟩ := newRay_bits srcK kept ri rj hip hjn hlj (H.hsp ri rim) (H.hsp rj rjm)
          (fun s hs => satisfies_nonneg s ri.row (H.hP ri rim s hs))
          (fun s hs => satisfies_nonneg s rj.row (H.hP rj rjm s hs)) (hsat ri rim) (hsat rj rjm)
        rw [he]
        exact extend_false kept srcK _ _ q1 q2

/-! ## the step -/

/-- **one iteration keeps the saturation rows right**: either `srcK` gets the next column, or it is
recorded as redundant and the columns are unchanged. -/
theorem conversionStep_sat (ncols : Nat) (srcK : LRow) (st : CState) (kept : List LRow)
    (hk : kept.length = st.k - st.redundant.length)
    (hs : ∀ d ∈ st.rows, ∀ s ∈ kept, satisfies s d.row)
    (hl : ∀ m d, st.rows[m]? = some d → d.row.le = decide (m < st.nle)) (hn : st.nle ≤ st.rows.length)
    (hsat : RowsSatCorrect kept st.rows) :
    let st' := conversionStep ncols srcK st
    (st'.redundant = st.redundant ∧ RowsSatCorrect (kept ++ [srcK]) st'.rows) ∨
    (st'.redundant = st.redundant ++ [st.k] ∧ RowsSatCorrect kept st'.rows) := by
  have H := stepHyp_withSp srcK st kept hs hl hn
  have hsat1 : RowsSatCorrect kept (withSp srcK st).rows := by
    intro d hd
    obtain ⟨d0, h0, rfl⟩ := mem_withSp hd
    exact hsat d0 h0
  rcases conversionStep_cases ncols srcK st hn with ⟨inz, hc, e, hbefore, hp⟩ | ⟨e, hz⟩
  · rw [e, ← hk]; exact Or.inl (lineCase_sat srcK kept _ inz H hc hbefore hp hsat1)
  · rw [e, ← hk]; exact rayCase_sat ncols srcK kept _ H hz hsat1

end PPLV.Conv

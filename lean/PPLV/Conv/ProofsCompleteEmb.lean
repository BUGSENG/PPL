import PPLV.Conv.ProofsCompleteAbs0
import PPLV.Conv.ProofsRow
import Mathlib.LinearAlgebra.Pi
import Mathlib.LinearAlgebra.Span.Defs
/-!
# the model rows inside the abstract setting

A row `x : List Int` is seen through its scalar products: `emb x = fun c => scalarProduct c x`, an element
of the `ℚ`-vector space `Vec → ℚ`.  `Generated gens x` (`Spec.lean`, stated on linear functionals) is an
equation in that space; a source row `s` is the evaluation functional at `s.v`.  The ambient space of a
system with `n` columns is the span of the rows of length `≤ n` (dimension `n`).
-/
namespace PPLV.Conv
open PPLV.Conv.Abs

/-- the space the rows live in. -/
abbrev FV := Vec → ℚ

/-- a row, seen through its scalar products. -/
def emb (x : Vec) : FV := fun c => (scalarProduct c x : ℚ)

/-- a source row as an abstract constraint: evaluation at `s.v`. -/
def conOf (s : LRow) : ACon FV := ⟨s.le, LinearMap.proj s.v⟩

theorem conOf_f (s : LRow) (y : FV) : (conOf s).f y = y s.v := rfl

theorem conOf_f_emb (s : LRow) (x : Vec) : (conOf s).f (emb x) = (scalarProduct s.v x : ℚ) := rfl

theorem conOf_eq (s : LRow) : (conOf s).eq = s.le := rfl

/-- the ambient space of a system with `n` columns. -/
def ambient (n : Nat) : Submodule ℚ FV := Submodule.span ℚ (emb '' {x | x.length ≤ n})

theorem emb_mem_ambient (n : Nat) (x : Vec) (h : x.length ≤ n) : emb x ∈ ambient n :=
  Submodule.subset_span ⟨x, h, rfl⟩

/-- the lines of a generator system (`is_line_or_equality()` rows). -/
def linesOf (rows : List LRow) : Set FV := {v | ∃ r ∈ rows, r.le = true ∧ v = emb r.v}

/-- the rays (and points) of a generator system. -/
def raysOf (rows : List LRow) : Set FV := {v | ∃ r ∈ rows, r.le = false ∧ v = emb r.v}

/-- an identity between scalar products, for every functional, is an identity between embedded rows. -/
theorem emb_comb2 {x y z : Vec} {a b g : Int}
    (h : ∀ s, a * scalarProduct s x + b * scalarProduct s y = g * scalarProduct s z) :
    (a : ℚ) • emb x + (b : ℚ) • emb y = (g : ℚ) • emb z := by
  funext s
  simp only [Pi.add_apply, Pi.smul_apply, emb, smul_eq_mul]
  exact_mod_cast h s

theorem emb_sub2 {x y z : Vec} {a b g : Int}
    (h : ∀ s, a * scalarProduct s x - b * scalarProduct s y = g * scalarProduct s z) :
    (a : ℚ) • emb x - (b : ℚ) • emb y = (g : ℚ) • emb z := by
  funext s
  simp only [Pi.sub_apply, Pi.smul_apply, emb, smul_eq_mul]
  exact_mod_cast h s

theorem emb_neg (x : Vec) : emb (x.map (- ·)) = - emb x := by
  funext s
  simp only [emb, Pi.neg_apply, sp_neg]
  push_cast; ring

theorem holds_iff_abs (r : LRow) (x : Vec) : holds r x ↔ (conOf r).holds (emb x) := by
  unfold holds ACon.holds
  rw [conOf_eq, conOf_f_emb]
  cases r.le
  · simp only [Bool.false_eq_true, if_false]
    exact_mod_cast Iff.rfl
  · simp only [if_true]
    exact_mod_cast Iff.rfl

theorem holdsAll_iff_abs (rows : List LRow) (x : Vec) : holdsAll rows x ↔ InP (rows.map conOf) (emb x) := by
  unfold holdsAll InP
  constructor
  · intro h a ha
    obtain ⟨r, hr, rfl⟩ := List.mem_map.mp ha
    exact (holds_iff_abs r x).mp (h r hr)
  · intro h r hr
    exact (holds_iff_abs r x).mpr (h _ (List.mem_map.mpr ⟨r, hr, rfl⟩))

theorem inP_append_singleton (kept : List LRow) (srcK : LRow) (y : FV) :
    InP ((kept ++ [srcK]).map conOf) y ↔ InP (kept.map conOf) y ∧ (conOf srcK).holds y := by
  unfold InP
  constructor
  · intro h
    refine ⟨fun a ha => h a ?_, h _ ?_⟩
    · obtain ⟨s, hs, rfl⟩ := List.mem_map.mp ha
      exact List.mem_map.mpr ⟨s, List.mem_append_left _ hs, rfl⟩
    · exact List.mem_map.mpr ⟨srcK, by simp, rfl⟩
  · rintro ⟨h1, h2⟩ a ha
    obtain ⟨s, hs, rfl⟩ := List.mem_map.mp ha
    rcases List.mem_append.mp hs with hs | hs
    · exact h1 _ (List.mem_map.mpr ⟨s, hs, rfl⟩)
    · have : s = srcK := by simpa using hs
      rw [this]; exact h2

/-- `satisfies s d` (a generator row against a source row) in the abstract setting. -/
theorem satisfies_abs (s d : LRow) (h : satisfies s d) :
    0 ≤ (conOf s).f (emb d.v) ∧ ((s.le = true ∨ d.le = true) → (conOf s).f (emb d.v) = 0) := by
  rw [conOf_f_emb]
  unfold satisfies at h
  constructor
  · by_cases hc : (s.le || d.le) = true
    · rw [if_pos hc] at h; rw [h]; simp
    · rw [if_neg hc] at h; exact_mod_cast h
  · intro hc
    have : (s.le || d.le) = true := by
      rcases hc with hc | hc <;> simp [hc]
    rw [if_pos this] at h
    rw [h]; simp

theorem satisfies_holds_abs (s g : LRow) (h : satisfies s g) : (conOf s).holds (emb g.v) := by
  obtain ⟨h1, h2⟩ := satisfies_abs s g h
  rw [ACon.holds_iff]
  exact ⟨fun e => h2 (Or.inl (by rwa [conOf_eq] at e)), fun _ => h1⟩

/-- generators that satisfy the rows, abstractly: every row vanishes on the lines and holds of the rays. -/
theorem Sound.lines_zero {rows gens : List LRow} (h : Sound rows gens) :
    ∀ l ∈ linesOf gens, ∀ a ∈ rows.map conOf, a.f l = 0 := by
  rintro l ⟨g, hg, hle, rfl⟩ a ha
  obtain ⟨s, hs, rfl⟩ := List.mem_map.mp ha
  exact (satisfies_abs s g (h g hg s hs)).2 (Or.inr hle)

theorem Sound.rays_inP {rows gens : List LRow} (h : Sound rows gens) :
    ∀ r ∈ raysOf gens, InP (rows.map conOf) r := by
  rintro r ⟨g, hg, _, rfl⟩ a ha
  obtain ⟨s, hs, rfl⟩ := List.mem_map.mp ha
  exact satisfies_holds_abs s g (h g hg s hs)

end PPLV.Conv

import PPLV.Conv.SpecK1
import PPLV.Conv.ProofsCompleteEmb2
import PPLV.Conv.ProofsSimp4
import PPLV.Lin.GenSem
/-!
# the two readings of a valuation and of a generator system

A K1 valuation `x : ℕ → ℚ` is read, in the space `Vec → ℚ` of the completeness proof, as
`valVec n x = Σ_{i<n} x_i • e_i`; a constraint row of length `≤ n` evaluates there to K1's `dot`
(`valVec_dot`), so `Sat (coneCons rows) x ↔ InP (rows.map conOf) (valVec n x)` (`sat_coneCons`).
`GenSem` of `coneGens` (the origin and the rows as lines / rays, all divisors 1) is "some combination of the
rows, non-negative on the rays" coordinate by coordinate (`genSem_coneGens`), which is an identity between
embedded rows (`valVec_eq_iff`).
-/
namespace PPLV.Conv
open PPLV.Lin PPLV.Conv.Abs

/-! ## valuations -/

theorem dot_eq_sum : ∀ (n : Nat) (v : Vec) (x : Val), v.length ≤ n →
    dot v x = ∑ i ∈ Finset.range n, ((v.getD i 0 : ℤ) : ℚ) * x i
  | n, [], x, _ => by simp
  | 0, a :: as, x, h => by simp at h
  | n + 1, a :: as, x, h => by
    rw [dot_cons, Finset.sum_range_succ', dot_eq_sum n as x.tail (by simpa using h)]
    simp [Val.tail, add_comm]

/-- a valuation, as a vector of the ambient space of `n` columns. -/
noncomputable def valVec (n : Nat) (x : Val) : FV := ∑ i ∈ Finset.range n, x i • emb (unitV n i)

theorem valVec_mem (n : Nat) (x : Val) : valVec n x ∈ ambient n :=
  Submodule.sum_mem _ fun i _ => Submodule.smul_mem _ _ (emb_mem_ambient n _ (by rw [unitV_length]))

theorem valVec_apply (n : Nat) (x : Val) (c : Vec) :
    valVec n x c = ∑ i ∈ Finset.range n, x i * ((c.getD i 0 : ℤ) : ℚ) := by
  unfold valVec
  rw [Finset.sum_apply]
  apply Finset.sum_congr rfl
  intro i hi
  simp only [Pi.smul_apply, emb, smul_eq_mul]
  rw [sp_unit n i c (Finset.mem_range.mp hi)]

theorem valVec_dot (n : Nat) (x : Val) (v : Vec) (h : v.length ≤ n) : valVec n x v = dot v x := by
  rw [valVec_apply, dot_eq_sum n v x h]
  apply Finset.sum_congr rfl
  intro i _; ring

theorem valVec_unit (n : Nat) (x : Val) (i : Nat) (hi : i < n) : valVec n x (unitV n i) = x i := by
  rw [valVec_apply, Finset.sum_eq_single i]
  · rw [unitV_getD]; simp [hi]
  · intro k _ hk; rw [unitV_getD]; simp [hk]
  · intro h; exact absurd (Finset.mem_range.mpr hi) h

/-- **the constraint side**: a K1 valuation satisfies the homogeneous cone of the rows iff its vector
satisfies the abstract constraints of the completeness proof. -/
theorem sat_coneCons (n : Nat) (rows : List LRow) (hlen : ∀ s ∈ rows, s.v.length ≤ n) (x : Val) :
    Sat (coneCons rows) x ↔ InP (rows.map conOf) (valVec n x) := by
  unfold coneCons InP
  rw [Sat_flatMap]
  simp only [List.forall_mem_map]
  refine forall_congr' fun s => imp_congr_right fun hs => ?_
  unfold ACon.holds
  rw [conOf_eq, conOf_f, valVec_dot n x s.v (hlen s hs)]
  cases s.le
  · simp only [Bool.false_eq_true, if_false]
    unfold Sat
    simp [Con.sat, geRow, Con.eval]
  · simp only [if_true]
    rw [Sat_eqRows]; simp

theorem wf_coneCons (n : Nat) (rows : List LRow) (hlen : ∀ s ∈ rows, s.v.length ≤ n) : WF n (coneCons rows) := by
  intro c hc
  unfold coneCons at hc
  obtain ⟨s, hs, hc⟩ := List.mem_flatMap.mp hc
  have := hlen s hs
  cases hle : s.le
  · rw [hle] at hc
    simp only [Bool.false_eq_true, if_false, List.mem_cons, List.not_mem_nil, or_false] at hc
    subst hc; exact this
  · rw [hle] at hc
    simp only [if_true, eqRows, List.mem_cons, List.not_mem_nil, or_false] at hc
    rcases hc with rfl | rfl
    · exact this
    · simpa using this

/-! ## generators -/

/-- a generator row as a K1 line / ray with divisor 1. -/
def genOf (r : LRow) : Gen := ⟨if r.le then .line else .ray, r.v, 1⟩

theorem coneGens_eq (n : Nat) (rows : List LRow) :
    coneGens n rows = ⟨.point, List.replicate n 0, 1⟩ :: rows.map genOf := rfl

theorem genOf_isLine (r : LRow) : (genOf r).isLine = r.le := by
  unfold genOf Gen.isLine; cases r.le <;> rfl

theorem genOf_isPtOrCp (r : LRow) : (genOf r).isPtOrCp = false := by
  unfold genOf Gen.isPtOrCp; cases r.le <;> rfl

theorem genOf_coord (r : LRow) (i : Nat) : (genOf r).coord i = ((r.v.getD i 0 : ℤ) : ℚ) := by
  unfold Gen.coord Gen.d
  rw [genOf_isPtOrCp]
  simp [genOf]

theorem origin_coord (n i : Nat) : (⟨.point, List.replicate n 0, 1⟩ : Gen).coord i = 0 := by
  unfold Gen.coord
  have : (List.replicate n (0 : Int)).getD i 0 = 0 := by
    rw [List.getD_eq_getElem?_getD, List.getElem?_replicate]; split <;> rfl
  dsimp only
  rw [this]; simp

theorem gensWF_coneGens (n : Nat) (rows : List LRow) (hlen : ∀ g ∈ rows, g.v.length ≤ n) :
    gensWF n (coneGens n rows) = true := by
  unfold gensWF
  rw [coneGens_eq, List.all_cons, List.all_map]
  simp only [Bool.and_eq_true, decide_eq_true_eq, List.all_eq_true, Function.comp]
  refine ⟨⟨by simp, by simp [Gen.d, Gen.isPtOrCp]⟩, ?_⟩
  intro g hg
  refine ⟨hlen g hg, ?_⟩
  unfold Gen.d; rw [genOf_isPtOrCp]; simp

theorem wsum_map_genOf (f : Gen → ℚ) : ∀ (rows : List LRow) (mu : Val),
    wsum f (rows.map genOf) mu = ∑ j ∈ Finset.range rows.length, mu j * f (genOf (rows.getD j default))
  | [], mu => by simp [wsum]
  | r :: rows, mu => by
    rw [List.map_cons, wsum, wsum_map_genOf f rows mu.tail, List.length_cons, Finset.sum_range_succ']
    simp [Val.tail, add_comm]

theorem coneGens_getD_succ (n : Nat) (rows : List LRow) (j : Nat) (hj : j < rows.length) :
    (coneGens n rows).getD (j + 1) default = genOf rows[j] := by
  rw [coneGens_eq, List.getD_cons_succ, List.getD_eq_getElem?_getD, List.getElem?_map,
    List.getElem?_eq_getElem hj]
  rfl

/-- **the generator side**: `GenSem` of the origin plus lines and rays with divisor 1. -/
theorem genSem_coneGens (n : Nat) (gens : List LRow) (x : Val) :
    x ∈ GenSem n (coneGens n gens) ↔ ∃ q : Nat → ℚ,
      (∀ j (h : j < gens.length), gens[j].le = false → 0 ≤ q j) ∧
      ∀ i < n, x i = ∑ j ∈ Finset.range gens.length, q j * (((gens.getD j default).v.getD i 0 : ℤ) : ℚ) := by
  have hcoord : ∀ (lam : Val) (i : Nat), wsum (fun g => g.coord i) (coneGens n gens) lam
      = ∑ j ∈ Finset.range gens.length, lam.tail j * (((gens.getD j default).v.getD i 0 : ℤ) : ℚ) := by
    intro lam i
    rw [coneGens_eq, wsum, origin_coord, mul_zero, zero_add, wsum_map_genOf]
    apply Finset.sum_congr rfl
    intro j _; rw [genOf_coord]
  have hind : ∀ (lam : Val), wsum (fun g => if g.isPtOrCp then (1 : ℚ) else 0) (coneGens n gens) lam = lam 0 := by
    intro lam
    rw [coneGens_eq, wsum, wsum_map_genOf]
    simp only [genOf_isPtOrCp]
    simp [Gen.isPtOrCp]
  have hlenG : (coneGens n gens).length = gens.length + 1 := by simp [coneGens_eq]
  constructor
  · rintro ⟨lam, h1, _, _, h4⟩
    refine ⟨lam.tail, ?_, ?_⟩
    · intro j hj hle
      have := h1 (j + 1) (by rw [hlenG]; omega)
      rw [coneGens_getD_succ n gens j hj, genOf_isLine] at this
      exact this hle
    · intro i hi; rw [h4 i hi, hcoord]
  · rintro ⟨q, hq, hx⟩
    let lam : Val := fun j => if j = 0 then 1 else q (j - 1)
    have htail : lam.tail = q := by funext j; simp [lam, Val.tail]
    refine ⟨lam, ?_, ?_, ⟨0, by rw [hlenG]; omega, rfl, by simp [lam]⟩, ?_⟩
    · intro j hj hl
      cases j with
      | zero => simp [lam]
      | succ j =>
        have hj' : j < gens.length := by rw [hlenG] at hj; omega
        rw [coneGens_getD_succ n gens j hj', genOf_isLine] at hl
        have := hq j hj' hl
        simpa [lam] using this
    · rw [hind]; simp [lam]
    · intro i hi; rw [hx i hi, hcoord, htail]

/-- coordinate by coordinate, or as an identity between embedded rows. -/
theorem valVec_eq_iff (n : Nat) (gens : List LRow) (hlen : ∀ g ∈ gens, g.v.length ≤ n) (x : Val) (q : Nat → ℚ) :
    (∀ i < n, x i = ∑ j ∈ Finset.range gens.length, q j * (((gens.getD j default).v.getD i 0 : ℤ) : ℚ)) ↔
    valVec n x = ∑ j ∈ Finset.range gens.length, q j • emb (gens.getD j default).v := by
  constructor
  · intro h
    funext c
    rw [valVec_apply, Finset.sum_apply]
    simp only [Pi.smul_apply, emb, smul_eq_mul]
    have e1 : ∀ j ∈ Finset.range gens.length, q j * ((scalarProduct c (gens.getD j default).v : ℤ) : ℚ)
        = ∑ i ∈ Finset.range n, q j * (((gens.getD j default).v.getD i 0 : ℤ) : ℚ) * ((c.getD i 0 : ℤ) : ℚ) := by
      intro j hj
      have hj' := Finset.mem_range.mp hj
      have hl : (gens.getD j default).v.length ≤ n := by
        rw [getD_eq_getElem gens default hj']; exact hlen _ (List.getElem_mem hj')
      rw [sp_eq_sum n c _ hl]
      push_cast
      rw [Finset.mul_sum]
      apply Finset.sum_congr rfl
      intro i _; ring
    rw [Finset.sum_congr rfl e1, Finset.sum_comm]
    apply Finset.sum_congr rfl
    intro i hi
    rw [h i (Finset.mem_range.mp hi), Finset.sum_mul]
  · intro h i hi
    have e := congrFun h (unitV n i)
    rw [valVec_unit n x i hi, Finset.sum_apply] at e
    rw [e]
    apply Finset.sum_congr rfl
    intro j _
    simp only [Pi.smul_apply, emb, smul_eq_mul]
    rw [sp_comm, sp_unit n i _ hi]

end PPLV.Conv

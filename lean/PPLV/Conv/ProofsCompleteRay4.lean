import PPLV.Conv.ProofsCompleteRay3
import PPLV.Conv.ProofsCompleteAbs2
/-!
# `rayCase` keeps the double description pair complete

With the shape of the result (`RayShape`) and the adjacency lemmas, the abstract Double Description
lemma `Abs.ray_step_complete` applies: every vector of the ambient space that satisfies the kept
constraints and the new one is generated by the rows `rayCase` returns.
-/
namespace PPLV.Conv
open PPLV.Conv.Abs

/-- the new ray, embedded: a strictly positive combination that saturates the new constraint. -/
theorem emb_newRay (ri rj : DRow) (sat : BRow) (hi : 0 < ri.sp) (hj : rj.sp < 0) (hl : rj.row.le = false) :
    ∃ a b : ℚ, 0 < a ∧ 0 < b ∧ emb (newRay ri rj sat).row.v = a • emb ri.row.v + b • emb rj.row.v ∧
      a * ri.sp + b * rj.sp = 0 := by
  obtain ⟨g, a, b, hg, ha, hb, hab, _, _, _, hs⟩ := sp_newRay ri rj sat hi hj hl
  have hgq : (0 : ℚ) < g := by exact_mod_cast hg
  have haq : (0 : ℚ) < a := by exact_mod_cast ha
  have hbq : (0 : ℚ) < b := by exact_mod_cast hb
  have he := emb_comb2 hs
  refine ⟨b / g, a / g, div_pos hbq hgq, div_pos haq hgq, ?_, ?_⟩
  · have : emb (newRay ri rj sat).row.v = (1 / (g : ℚ)) • ((g : ℚ) • emb (newRay ri rj sat).row.v) := by
      rw [smul_smul, one_div, inv_mul_cancel₀ (ne_of_gt hgq), one_smul]
    rw [this, ← he, smul_add, smul_smul, smul_smul, add_comm]
    congr 2 <;> ring
  · have habq : (a : ℚ) * rj.sp + b * ri.sp = 0 := by exact_mod_cast hab
    field_simp
    linarith

namespace RayCtx
variable {ncols : Nat} {srcK : LRow} {kept : List LRow} {st : CState} {R : List DRow} {leb sup : Nat}

/-- what sits in the kept part of the partition. -/
theorem kept_part (C : RayCtx ncols srcK kept st R leb sup) {d : DRow}
    (hd : d ∈ (R.take (if srcK.le then leb else sup)).drop st.nle) :
    ∃ m, st.nle ≤ m ∧ m < (if srcK.le then leb else sup) ∧ R[m]? = some d ∧ d ∈ st.rows.drop st.nle ∧ survives srcK d := by
  rw [mem_take_drop_iff_getElem?] at hd
  obtain ⟨m, hm1, hm2, hm3⟩ := hd
  obtain ⟨a1, _, a3, a4, _⟩ := C.P.at m d hm1 hm3
  refine ⟨m, hm1, hm2, hm3, a1, ?_⟩
  unfold survives
  have := C.P.h2
  cases hle : srcK.le
  · simp only [hle, Bool.false_eq_true, if_false] at hm2 ⊢
    by_cases hml : m < leb
    · have := a3 hml; omega
    · have := a4 (by omega) hm2; omega
  · simp only [hle, if_true] at hm2 ⊢
    exact a3 hm2

/-- every surviving ray is in the kept part. -/
theorem survivor_kept (C : RayCtx ncols srcK kept st R leb sup) {d : DRow} (hd : d ∈ st.rows.drop st.nle)
    (hs : survives srcK d) : d ∈ (R.take (if srcK.le then leb else sup)).drop st.nle := by
  obtain ⟨m, hm1, hm2, hm3⟩ := C.P.index d hd
  obtain ⟨_, _, _, a4, a5⟩ := C.P.at m d hm1 hm3
  rw [mem_take_drop_iff_getElem?]
  refine ⟨m, hm1, ?_, hm3⟩
  unfold survives at hs
  cases hle : srcK.le
  · simp only [hle, Bool.false_eq_true, if_false] at hs ⊢
    by_contra hc
    have := a5 (by omega); omega
  · simp only [hle, if_true] at hs ⊢
    by_contra hc
    by_cases hms : m < sup
    · have := a4 (by omega) hms; omega
    · have := a5 (by omega); omega

/-- the members of `newRays`. -/
theorem newRay_mem (C : RayCtx ncols srcK kept st R leb sup) {x : DRow}
    (hx : x ∈ newRays ncols st.nle kept.length leb sup st.rows.length R) :
    ∃ i j di dj, leb ≤ i ∧ i < sup ∧ sup ≤ j ∧ j < st.rows.length ∧ R[i]? = some di ∧ R[j]? = some dj ∧
      0 < di.sp ∧ dj.sp < 0 ∧
      adjacent ncols st.nle kept.length st.rows.length R i j = some (bor di.sat dj.sat) ∧
      x = newRay di dj (bor di.sat dj.sat) := by
  obtain ⟨i, j, s, h1, h2, h3, h4, h5, rfl⟩ := (mem_newRays_iff _ _ _ _ _ _ _ _).mp hx
  have hil : i < R.length := by rw [C.P.hlen]; have := C.P.h3; omega
  have hjl : j < R.length := by rw [C.P.hlen]; exact h4
  have ei := getElem?_of_lt_getD R i default hil
  have ej := getElem?_of_lt_getD R j default hjl
  have hnl := C.P.h1
  obtain ⟨_, _, _, a4, _⟩ := C.P.at i _ (by omega) ei
  obtain ⟨_, _, _, _, b5⟩ := C.P.at j _ (by omega) ej
  have hs := adjacent_some _ _ _ _ _ _ _ _ h5
  subst hs
  exact ⟨i, j, _, _, h1, h2, h3, h4, ei, ej, a4 h1 h2, b5 h3, h5, rfl⟩

/-- the value of the new constraint on a row, as `survives`. -/
theorem holds_iff_survives (C : RayCtx ncols srcK kept st R leb sup) {d : DRow} (hd : d ∈ st.rows) :
    (conOf srcK).holds (emb d.row.v) ↔ survives srcK d := by
  unfold ACon.holds survives
  rw [conOf_eq, C.sp_val hd]
  cases srcK.le
  · simp only [Bool.false_eq_true, if_false]; exact_mod_cast Iff.rfl
  · simp only [if_true]; exact_mod_cast Iff.rfl

end RayCtx

/-- **completeness of one `rayCase`**: what satisfies the kept constraints and the new one is generated by
the rows returned. -/
theorem rayCase_complete_core (ncols : Nat) (srcK : LRow) (kept : List LRow) (st st' : CState) (R : List DRow)
    (leb sup : Nat) (C : RayCtx ncols srcK kept st R leb sup)
    (S : RayShape ncols srcK kept.length st st' R leb sup)
    [FiniteDimensional ℚ (ambient ncols)] (hfr : Module.finrank ℚ (ambient ncols) = ncols)
    (hsz : ncols < 2 ^ 64) (hkz : kept.length < 2 ^ 64) :
    ∀ y ∈ ambient ncols, InP (kept.map conOf) y → (conOf srcK).holds y →
      Cone (linesOf st'.gens) (raysOf st'.gens) y := by
  obtain ⟨t, ht, hrows⟩ := S
  have hmem' : ∀ d', d' ∈ st'.rows → d'.row.le = false → emb d'.row.v ∈ raysOf st'.gens := by
    intro d' hd' hle
    exact ⟨d'.row, (mem_gens_iff st' d'.row).mpr ⟨d', hd', rfl⟩, hle, rfl⟩
  have hlines : linesOf st.gens ⊆ linesOf st'.gens := by
    intro x hx
    rw [linesOf_eq_take st C.H.hl] at hx
    obtain ⟨d, hd, rfl⟩ := List.mem_map.mp hx
    obtain ⟨m, hmn, hm⟩ := (mem_take_iff_getElem? _ _ _).mp hd
    refine ⟨d.row, (mem_gens_iff st' d.row).mpr ⟨d, ?_, rfl⟩, ?_, rfl⟩
    · rw [hrows]; exact List.mem_append_left _ hd
    · rw [C.H.hl m d hm]; simpa using hmn
  intro y hyU hyA hyc
  refine Cone.mono hlines (Set.Subset.refl _)
    (ray_step_complete (ambient ncols) (kept.map conOf) (linesOf st.gens) (raysOf st.gens) (raysOf st'.gens)
      (conOf srcK) C.inv C.lines_zero ?_ ?_ y hyU hyA hyc)
  · -- kept rays
    intro r hr hc
    obtain ⟨d, hd, rfl⟩ := (raysOf_iff st C.H.hl r).mp hr
    have hdm := List.mem_of_mem_drop hd
    have hsv := (C.holds_iff_survives hdm).mp hc
    have hk := C.survivor_kept hd hsv
    obtain ⟨m', hm1, hm2⟩ := (mem_drop_iff_getElem? _ _ _).mp hd
    have hle : d.row.le = false := by rw [C.H.hl m' d hm2]; simp; omega
    have : keepImage (!srcK.le && st.rows.any (fun d => decide (d.sp < 0))) kept.length d ∈ st'.rows := by
      rw [hrows]
      exact List.mem_append_right _ (List.mem_append_left _ (List.mem_map_of_mem hk))
    have := hmem' _ this (by rw [keepImage_row]; exact hle)
    rwa [keepImage_row] at this
  · -- new rays
    intro r hr s hs hpos hneg hadj
    obtain ⟨di, hdi, rfl⟩ := (raysOf_iff st C.H.hl r).mp hr
    obtain ⟨dj, hdj, rfl⟩ := (raysOf_iff st C.H.hl s).mp hs
    have mi := List.mem_of_mem_drop hdi
    have mj := List.mem_of_mem_drop hdj
    rw [C.sp_val mi] at hpos
    rw [C.sp_val mj] at hneg
    have hpos' : 0 < di.sp := by exact_mod_cast hpos
    have hneg' : dj.sp < 0 := by exact_mod_cast hneg
    obtain ⟨i, hi1, hi2, ei⟩ := C.P.index di hdi
    obtain ⟨j, hj1, hj2, ej⟩ := C.P.index dj hdj
    obtain ⟨_, _, a3, _, a5⟩ := C.P.at i di hi1 ei
    obtain ⟨_, _, b3, b4, _⟩ := C.P.at j dj hj1 ej
    have hi3 : leb ≤ i := by
      by_contra hc; have := a3 (by omega); omega
    have hi4 : i < sup := by
      by_contra hc; have := a5 (by omega); omega
    have hj3 : sup ≤ j := by
      by_contra hc
      by_cases hjl : j < leb
      · have := b3 hjl; omega
      · have := b4 (by omega) (by omega); omega
    have hv := C.adjacent_of_abs hfr hsz hkz hi1 hj1 ei ej hpos' hneg' hadj
    have gi : R.getD i default = di := getD_of_getElem? R i di default ei
    have gj : R.getD j default = dj := getD_of_getElem? R j dj default ej
    have hin : newRay di dj (bor di.sat dj.sat) ∈ newRays ncols st.nle kept.length leb sup st.rows.length R := by
      rw [mem_newRays_iff]
      exact ⟨i, j, _, hi3, hi4, hj3, hj2, hv, by rw [gi, gj]⟩
    obtain ⟨_, _, rj⟩ := C.ray hj1 ej
    have hjle : dj.row.le = false := (C.ray hj1 ej).2.1
    obtain ⟨_, _, _, _, _, _, _, hnle, _, _, _⟩ := sp_newRay di dj (bor di.sat dj.sat) hpos' hneg' hjle
    obtain ⟨a, b, ha, hb, he, hz⟩ := emb_newRay di dj (bor di.sat dj.sat) hpos' hneg' hjle
    have hst' : newRay di dj (bor di.sat dj.sat) ∈ st'.rows := by
      rw [hrows]
      exact List.mem_append_right _ (List.mem_append_right _ (ht.mem_iff.mpr hin))
    refine ⟨_, hmem' _ hst' hnle, a, b, ha, hb, he, ?_⟩
    rw [he, map_add, map_smul, map_smul, C.sp_val mi, C.sp_val mj]
    simpa using hz

end PPLV.Conv

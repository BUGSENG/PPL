import PPLV.Solver.PendingProofsE2E
import PPLV.Solver.Spec

/-!
# the two calls on a problem never solved before: `isLpSatisfiable_fresh_correct`, `secondPhase_fresh_correct`
-/
namespace PPLV.Solver.Pend
open PPLV.Lin PPLV.Solver PPLV.Solver.Tab

theorem dot_sgnObj (s : LPState) (x : Val) :
    dot (sgnObj s) x = if s.maximize then dot s.obj.coeffs x else - dot s.obj.coeffs x := by
  unfold sgnObj
  cases s.maximize
  · simp only [Bool.false_eq_true, if_false]; exact dot_map_neg' _ _
  · simp

/-- `x` is at least as good as `x'` for the problem of `s` iff the signed objective says so -/
theorem not_better_iff (s : LPState) (x x' : Val) :
    ¬ Better s.problem (s.problem.objVal x) (s.problem.objVal x') ↔ dot (sgnObj s) x ≤ dot (sgnObj s) x' := by
  rw [dot_sgnObj, dot_sgnObj]
  unfold Better Problem.objVal LPState.problem
  cases s.maximize
  · simp only [Bool.false_eq_true, if_false]; constructor <;> intro h <;> linarith
  · simp only [if_true]; constructor <;> intro h <;> linarith

theorem better_of_large (s : LPState) (x : Val) (M : Rat)
    (h : (if s.maximize then M - (s.obj.k : Rat) else (s.obj.k : Rat) - M) < dot (sgnObj s) x) :
    Better s.problem (s.problem.objVal x) M := by
  rw [dot_sgnObj] at h
  unfold Better Problem.objVal LPState.problem
  cases hm : s.maximize
  · rw [hm] at h; simp only [Bool.false_eq_true, if_false] at h ⊢; linarith
  · rw [hm] at h; simp only [if_true] at h ⊢; linarith

/-- the answer of the LP machinery on a problem never solved before -/
inductive FreshAnswer (s : LPState) : Bool → LPState → Prop
  | unsat (s1 : LPState) : (∀ x, ¬ csSem s.input_cs x) → FreshAnswer s false s1
  | trivial (s1 : LPState) : (s1.status = .OPTIMIZED ∨ s1.status = .UNBOUNDED) → s1.tableau = [] →
      (∃ x, csSem s.input_cs x) → FreshAnswer s true s1
  | ready (s1 : LPState) : s1.status = .SATISFIABLE → Ready s.input_cs s.external_space_dim s1 →
      s1.obj = s.obj → s1.maximize = s.maximize → s1.external_space_dim = s.external_space_dim →
      FreshAnswer s true s1

/-- **`is_lp_satisfiable()` on a problem never solved before answers correctly** -/
theorem isLpSatisfiable_fresh_correct (fc : Chooser) (hfc : ChooserOK fc) (fuel : Nat) (s s1 : LPState) (r : Bool)
    (hU : Untouched s) (hlg : s.last_generator = ⟨[], 1⟩) (hn : 0 < s.external_space_dim)
    (hl : ∀ c ∈ s.input_cs, c.coeffs.length ≤ s.external_space_dim)
    (h : isLpSatisfiable fc fuel s = some (s1, r)) : FreshAnswer s r s1 := by
  rw [isLpSatisfiable_untouched fc fuel s hU] at h
  cases hp : processPendingConstraints fc fuel (firstCall s) with
  | none => rw [hp] at h; cases h
  | some sR =>
    rw [hp] at h
    simp only [Option.some.injEq, Prod.mk.injEq] at h
    obtain ⟨rfl, rfl⟩ := h
    have hF := firstCall_fresh s hU hn hl
    rcases ppc_fresh fc hfc fuel (firstCall s) sR hF hlg hp with ⟨a1, a2⟩ | ⟨a1, a2, a3⟩ | ⟨a1, a2, a3, a4, -, a6⟩
    · rw [a1]; exact FreshAnswer.unsat _ a2
    · have : (sR.status != .UNSATISFIABLE) = true := by rcases a1 with h | h <;> rw [h] <;> rfl
      rw [this]; exact FreshAnswer.trivial _ a1 a2 a3
    · have : (sR.status != .UNSATISFIABLE) = true := by rw [a1]; rfl
      rw [this]; exact FreshAnswer.ready _ a1 ⟨a2.tb, a2.map, a2.sound, a2.complete⟩ a3 a4 a6

/-- **`second_phase()` after the first `is_lp_satisfiable()`**: OPTIMIZED ⇒ a point of the solution set exists
    that no point of the solution set beats; UNBOUNDED ⇒ the solution set is non-empty and has points of
    arbitrarily good objective value -/
theorem secondPhase_fresh_correct (fc : Chooser) (hfc : ChooserOK fc) (fuel : Nat) (s s1 s2 : LPState)
    (hst : s1.status = .SATISFIABLE) (hR : Ready s.input_cs s.external_space_dim s1)
    (ho : s1.obj = s.obj) (hm : s1.maximize = s.maximize) (hobj : s.obj.coeffs.length ≤ s.external_space_dim)
    (h : secondPhase fc fuel s1 = some s2) :
    (s2.status = .OPTIMIZED ∨ s2.status = .UNBOUNDED) ∧
    (s2.status = .OPTIMIZED → ∃ x', csSem s.input_cs x' ∧
      ∀ x, csSem s.input_cs x → ¬ Better s.problem (s.problem.objVal x) (s.problem.objVal x')) ∧
    (s2.status = .UNBOUNDED → (∃ x, csSem s.input_cs x) ∧
      ∀ M : Rat, ∃ x, csSem s.input_cs x ∧ Better s.problem (s.problem.objVal x) M) := by
  obtain ⟨nn, jj, hM, hjj⟩ := hR.map
  have hobj1 : s1.obj.coeffs.length ≤ s.external_space_dim := by rw [ho]; exact hobj
  obtain ⟨c1, c2, -⟩ := secondPhaseCost_spec s1 nn _ jj hM hjj hobj1
  have hc2 : (secondPhaseCost s1).get (s1.working_cost.length - 1) ≠ 0 := by rw [c2]; decide
  obtain ⟨p1, p2, p3, p4, p5, p6⟩ := secondPhase_sound fc hfc fuel s1 s2 hst hR.tb c1 hc2 h
  have hsg : sgnObj s1 = sgnObj s := by unfold sgnObj; rw [ho, hm]
  have hsl : (sgnObj s).length ≤ s.external_space_dim := by unfold sgnObj; simpa using hobj
  set n2 := s1.working_cost.length with hn2
  have hn22 : 2 ≤ n2 := hR.tb.len2
  -- a non-negative solution can be cut after the sign column
  have cut : ∀ y, Sol s1.tableau y → NonnegPt n2 y →
      Pos0 n2 (trunc n2 y) ∧ Sol s1.tableau (trunc n2 y) ∧ proj s1.mapping (trunc n2 y) = proj s1.mapping y := by
    intro y hy hn
    refine ⟨⟨?_, fun j hj => ?_, fun j hj => ?_⟩, ?_, ?_⟩
    · unfold trunc; rw [if_pos (by omega)]; exact hn.1
    · unfold trunc; split
      · by_cases hjl : j < n2 - 1
        · exact hn.2.2 j hj hjl
        · have : j = n2 - 1 := by omega
          rw [this, hn.2.1]
      · exact le_refl _
    · unfold trunc; split
      · have : j = n2 - 1 := by omega
        rw [this, hn.2.1]
      · rfl
    · intro i hi
      unfold rowVal
      rw [dot_trunc _ _ _ (fun j h1 h2 => by have := hR.tb.rowLen i hi; omega)]
      exact hy i hi
    · exact proj_congr s1.mapping nn _ jj hM _ _ (fun col hcol => by unfold trunc; rw [if_pos (by omega)])
  -- objective of a solution of the tableau = signed objective of its projection
  have objy : ∀ y, NonnegPt n2 y → objAt (secondPhaseCost s1) y = dot (sgnObj s) (proj s1.mapping y) := by
    intro y hn
    rw [objAt_secondPhaseCost s1 nn _ jj hM hjj hobj1 y hn, hsg]
  have lift : ∀ x, csSem s.input_cs x → ∃ y, Sol s1.tableau y ∧ NonnegPt n2 y ∧
      dot (sgnObj s) (proj s1.mapping y) = dot (sgnObj s) x := by
    intro x hx
    obtain ⟨y, y1, y2, y3⟩ := hR.complete x hx
    exact ⟨y, y2, y1.nonnegPt, dot_congr_lt _ _ _ (fun u hu => y3 u (by omega))⟩
  refine ⟨p1, fun hopt => ?_, fun hunb => ?_⟩
  · obtain ⟨bound, ⟨ys, ys1, ys2, ys3⟩⟩ := p5 hopt
    obtain ⟨k1, k2, k3⟩ := cut ys ys1 ys2
    refine ⟨proj s1.mapping ys, by rw [← k3]; exact hR.sound _ k1 k2, fun x hx => ?_⟩
    rw [not_better_iff]
    obtain ⟨y, y1, y2, y3⟩ := lift x hx
    have := bound y y1 y2
    rw [objy y y2, ← ys3, objy ys ys2, y3] at this
    exact this
  · refine ⟨?_, fun M => ?_⟩
    · obtain ⟨y, y1, y2, -⟩ := p6 hunb 0
      obtain ⟨k1, k2, k3⟩ := cut y y1 y2
      exact ⟨_, hR.sound _ k1 k2⟩
    · obtain ⟨y, y1, y2, y3⟩ := p6 hunb (if s.maximize then M - (s.obj.k : Rat) else (s.obj.k : Rat) - M)
      obtain ⟨k1, k2, k3⟩ := cut y y1 y2
      refine ⟨proj s1.mapping y, by rw [← k3]; exact hR.sound _ k1 k2, ?_⟩
      apply better_of_large
      rw [← objy y y2]; exact y3

end PPLV.Solver.Pend

import PPLV.Solver.PendingProofsCombine

/-!
# the insertion loop (:852–:901) against a non-empty old tableau

`GCtx`: the data of an incremental call after re-merging, without new space dimensions: the old rows padded to the
new width (zero from column `V` = old sign column on: the quirk that `add_zero_columns` turns the old sign column
into the first new column), their `base` (0 for the rows made unfeasible), the mapping (columns below `V`), the
pending constraints and the "already satisfied" flags (each one on an inequality entering the tableau that holds at
the projected basic solution `xstar` of the old rows).
`GInv`: the invariant of the loop; `gstep_eq`: one iteration in closed form with `combineRow`.
-/
namespace PPLV.Solver.Pend
open PPLV.Lin PPLV.Solver PPLV.Solver.Tab

structure GCtx where
  M : List (Nat × Nat)
  nn : List Bool
  n : Nat
  j : Nat
  V : Nat
  numCols : Nat
  pend : List ICon
  isSat : List Bool
  T0 : List Row
  base0 : List Nat
  hM : MapOK M nn n j
  hjV : 1 + j ≤ V
  hlen : ∀ c ∈ pend, c.coeffs.length ≤ n
  hSL : V + (pend.filter slackC).length < numCols
  oLenB : base0.length = T0.length
  oRowLen : ∀ i, i < T0.length → (T0.getD i []).length = numCols
  oZero : ∀ i, i < T0.length → ∀ col, V ≤ col → (T0.getD i []).get col = 0
  oRange : ∀ i, i < T0.length → base0.getD i 0 ≠ 0 → 1 ≤ base0.getD i 0 ∧ base0.getD i 0 < V
  oNZ : ∀ i, i < T0.length → base0.getD i 0 ≠ 0 → (T0.getD i []).get (base0.getD i 0) ≠ 0
  oCol : ∀ i k, i < T0.length → k < T0.length → i ≠ k → base0.getD i 0 ≠ 0 → (T0.getD k []).get (base0.getD i 0) = 0
  hsat : ∀ i, i < pend.length → isSat.getD i false = true →
    slackC (pend.getD i default) = true ∧
      0 ≤ dot (pend.getD i default).coeffs (proj M (bsol T0 base0)) + ((pend.getD i default).k : Rat)

namespace GCtx
variable (C : GCtx)

def R0 : Nat := C.T0.length
def SL : Nat := C.V + (C.pend.filter slackC).length
def Nn : Nat := (C.pend.filter tabC).length
def N : Nat := C.R0 + C.Nn
def xstar : Val := proj C.M (bsol C.T0 C.base0)
def init : Ins :=
  { T := C.T0 ++ List.replicate C.Nn (zeros C.numCols), base := C.base0 ++ List.replicate C.Nn 0, k := C.N,
    slackIndex := C.SL, worked := List.replicate C.N false }
def step (i : Nat) (st : Ins) : Ins := insertStep C.numCols C.M C.pend (C.pend.map tabC) C.isSat i st
def wcount (i : Nat) : Nat := ((List.range C.pend.length).drop i).countP (fun k => C.isSat.getD k false)

/-- one iteration of the insertion loop, in closed form -/
theorem gstep_eq (i : Nat) (hi : i < C.pend.length) (st : Ins) :
    C.step i st =
      if tabC (C.pend.getD i default) = false then st
      else if (C.pend.getD i default).isEq = true then
        { T := st.T.set (st.k - 1)
            (combineRow st.T st.base (st.k - 1) (constraintRow C.numCols C.M (C.pend.getD i default))),
          base := st.base, k := st.k - 1, slackIndex := st.slackIndex, worked := st.worked }
      else if C.isSat.getD i false = true then
        { T := st.T.set (st.k - 1)
            (combineRow st.T (st.base.set (st.k - 1) (st.slackIndex - 1)) (st.k - 1)
              ((constraintRow C.numCols C.M (C.pend.getD i default)).set (st.slackIndex - 1) (-1))),
          base := st.base.set (st.k - 1) (st.slackIndex - 1), k := st.k - 1, slackIndex := st.slackIndex - 1,
          worked := st.worked.set (st.k - 1) true }
      else
        { T := st.T.set (st.k - 1)
            (combineRow st.T st.base (st.k - 1)
              ((constraintRow C.numCols C.M (C.pend.getD i default)).set (st.slackIndex - 1) (-1))),
          base := st.base, k := st.k - 1, slackIndex := st.slackIndex - 1, worked := st.worked } :=
  insertStep_eq _ _ _ _ i hi st

end GCtx

end PPLV.Solver.Pend

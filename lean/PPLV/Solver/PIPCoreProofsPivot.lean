import PPLV.Solver.PIPCoreRows
/-!
# pivot proofs: `Tableau.scale` entry by entry, finite sums `sumTo`, `dot` as a sum
-/
namespace PPLV.PIPCore.Piv

theorem mem_iff_mrow {m : Mat} {r : Row} : r ∈ m ↔ ∃ i, i < m.length ∧ mrow m i = r := by
  constructor
  · intro h
    obtain ⟨i, hi, rfl⟩ := List.mem_iff_getElem.mp h
    exact ⟨i, hi, mrow_of_lt hi⟩
  · rintro ⟨i, hi, rfl⟩; exact mrow_mem hi

/-! ### `Tableau.scale` -/

@[simp] theorem scale_ns (T : Tableau) (r : Int) : (T.scale r).ns = T.ns := rfl
@[simp] theorem scale_nt (T : Tableau) (r : Int) : (T.scale r).nt = T.nt := rfl
@[simp] theorem scale_den (T : Tableau) (r : Int) : (T.scale r).den = T.den * r := rfl
@[simp] theorem scale_s_length (T : Tableau) (r : Int) : (T.scale r).s.length = T.s.length := by
  unfold Tableau.scale; simp
@[simp] theorem scale_t_length (T : Tableau) (r : Int) : (T.scale r).t.length = T.t.length := by
  unfold Tableau.scale; simp

theorem mget_scale_s (T : Tableau) (r : Int) (i j : Nat) :
    mget (T.scale r).s i j = mget T.s i j * r := mget_map_mul T.s r i j

theorem mget_scale_t (T : Tableau) (r : Int) (i j : Nat) :
    mget (T.scale r).t i j = mget T.t i j * r := mget_map_mul T.t r i j

theorem scale_one (T : Tableau) : T.scale 1 = T := by
  unfold Tableau.scale
  have h : ∀ m : Mat, m.map (·.map (· * (1 : Int))) = m := by
    intro m
    have : (fun r : Row => r.map (· * (1 : Int))) = id := by
      funext r; simp
    rw [this]; simp
  cases T; simp

/-! ### `sumTo` and `dot` -/

/-- `Σ_{j < n} g j` -/
def sumTo : Nat → (Nat → Int) → Int
  | 0, _ => 0
  | n + 1, g => g 0 + sumTo n (fun j => g (j + 1))

theorem sumTo_congr {n : Nat} {g h : Nat → Int} (e : ∀ j, j < n → g j = h j) :
    sumTo n g = sumTo n h := by
  induction n generalizing g h with
  | zero => rfl
  | succ n ih =>
    unfold sumTo
    rw [e 0 (Nat.succ_pos n), ih (fun j hj => e (j + 1) (Nat.succ_lt_succ hj))]

theorem sumTo_add (n : Nat) (g h : Nat → Int) :
    sumTo n (fun j => g j + h j) = sumTo n g + sumTo n h := by
  induction n generalizing g h with
  | zero => rfl
  | succ n ih =>
    unfold sumTo
    rw [ih (fun j => g (j + 1)) (fun j => h (j + 1))]; ring

theorem sumTo_mul_left (n : Nat) (c : Int) (g : Nat → Int) :
    sumTo n (fun j => c * g j) = c * sumTo n g := by
  induction n generalizing g with
  | zero => simp [sumTo]
  | succ n ih =>
    unfold sumTo
    rw [ih (fun j => g (j + 1))]; ring

theorem sumTo_lin (n : Nat) (c d : Int) (g h : Nat → Int) :
    sumTo n (fun j => c * g j + d * h j) = c * sumTo n g + d * sumTo n h := by
  rw [sumTo_add n (fun j => c * g j) (fun j => d * h j), sumTo_mul_left, sumTo_mul_left]

theorem sumTo_zero (n : Nat) : sumTo n (fun _ => 0) = 0 := by
  induction n with
  | zero => rfl
  | succ n ih => unfold sumTo; rw [ih]; rfl

/-- `dot` truncates to the shorter list; `rget` reads 0 beyond the end: no condition on `r` -/
theorem dot_eq_sumTo {n : Nat} (r : List Int) {l : List Int} (hl : l.length = n) :
    dot r l = sumTo n (fun j => rget r j * rget l j) := by
  induction n generalizing r l with
  | zero =>
    cases l with
    | nil => cases r <;> simp [dot, sumTo]
    | cons x xs => simp at hl
  | succ n ih =>
    cases l with
    | nil => simp at hl
    | cons x xs =>
      cases r with
      | nil =>
        have : sumTo (n + 1) (fun j => rget [] j * rget (x :: xs) j) = sumTo (n + 1) (fun _ => 0) :=
          sumTo_congr (fun j _ => by rw [rget_nil]; ring)
        rw [this, sumTo_zero]; simp [dot]
      | cons a as =>
        unfold dot sumTo
        rw [ih as (by simpa using hl)]
        simp only [rget_cons_zero, rget_cons_succ]

end PPLV.PIPCore.Piv

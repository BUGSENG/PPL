import PPLV.Solver.PIPCoreProofsLex3
import PPLV.Solver.PIPCoreProofsPivot2
import PPLV.Solver.PIPCoreGenerateCut
import Mathlib.Tactic.Linarith
import Mathlib.Tactic.Ring
/-!
# the lexicographic invariant: `Tableau::scale`, `Tableau::normalize` and
`generate_cut` keep the columns lexico-non-negative.
-/
namespace PPLV.PIPCore

attribute [local irreducible] LexPos

/-! ### sign-preserving changes of the full matrix -/

theorem Lex.lexnn_congr_sign (F F' : Nat → Row) (j : Nat) :
    ∀ l : List Nat,
      (∀ k ∈ l, (0 < rget (F k) j → 0 < rget (F' k) j) ∧ (rget (F k) j = 0 → rget (F' k) j = 0)) →
      LexNonnegCol (l.map F) j → LexNonnegCol (l.map F') j
  | [], _, _ => trivial
  | k :: l, he, hl => by
    obtain ⟨p1, p2⟩ := he k (by simp)
    have ih := Lex.lexnn_congr_sign F F' j l (fun k hk => he k (by simp [hk]))
    rcases hl with h | ⟨h, ht⟩
    · exact Or.inl (p1 h)
    · exact Or.inr ⟨p2 h, ih ht⟩

theorem Lex.lexnn_append (j : Nat) (r : Row) (hr : 0 ≤ rget r j) :
    ∀ rows : List Row, LexNonnegCol rows j → LexNonnegCol (rows ++ [r]) j
  | [], _ => by
    rcases lt_or_eq_of_le hr with h | h
    · exact Or.inl h
    · exact Or.inr ⟨h.symm, trivial⟩
  | r0 :: rs, hl => by
    rcases hl with h | ⟨h, ht⟩
    · exact Or.inl h
    · exact Or.inr ⟨h, Lex.lexnn_append j r hr rs ht⟩

/-! ### `Tableau::scale` -/

/-- every entry of the full matrix is multiplied by the ratio -/
theorem Lex.fullRow_scale (nd : SolNode) (r : Int) (k j : Nat) (hj : j < nd.tab.ns) :
    rget (fullRow { nd with tab := nd.tab.scale r } k) j = rget (fullRow nd k) j * r := by
  unfold fullRow Tableau.scale
  dsimp only
  cases boolGet nd.basis k with
  | true =>
    simp only [if_true]
    rw [rget_unit _ hj, rget_unit _ hj]
    split <;> simp
  | false =>
    simp only [Bool.false_eq_true, if_false]
    rw [mrow_map _ _ rfl, rget_map0 _ (by simp)]

/-- **`scale_lexpos`** -/
theorem scale_lexpos (nd : SolNode) (r : Int) :
    LexPos nd → 0 < r → LexPos { nd with tab := nd.tab.scale r } := by
  intro hlp hr
  refine LexPos.of_cols fun j hj => ?_
  have hj' : j < nd.tab.ns := hj
  refine Lex.lexnn_congr_sign (fullRow nd) _ j _ (fun k _ => ?_) (hlp.col hj')
  rw [Lex.fullRow_scale nd r k j hj']
  exact ⟨fun h => mul_pos h hr, fun h => by rw [h, zero_mul]⟩

/-! ### `Tableau::normalize` -/

theorem Lex.sign_ediv (E g : Int) (hg : 0 ≤ g) (hd : g ∣ E) :
    (0 < E → 0 < E / g) ∧ (E = 0 → E / g = 0) :=
  ⟨fun h => Int.ediv_pos_of_pos_of_dvd h hg hd, fun h => by rw [h, Int.zero_ediv]⟩

/-- the full matrix of the node divided by a common divisor `g` of `den` and of the entries of `s` -/
theorem Lex.fullRow_divBy (nd : SolNode) (g : Int) (hgd : g ∣ nd.tab.den) (hgs : DvdAll g nd.tab.s)
    (k : Nat) {j : Nat} (hj : j < nd.tab.ns) :
    rget (fullRow { nd with tab := nd.tab.divBy g } k) j = rget (fullRow nd k) j / g
      ∧ g ∣ rget (fullRow nd k) j := by
  unfold fullRow
  show rget (if boolGet nd.basis k then rset (zeroRow nd.tab.ns) (natGet nd.mapping k) (nd.tab.den / g)
      else mrow (nd.tab.divBy g).s (natGet nd.mapping k)) j = _ ∧ _
  cases boolGet nd.basis k with
  | true =>
    rw [if_pos rfl, if_pos rfl, rget_unit _ hj, rget_unit _ hj]
    split
    · exact ⟨rfl, hgd⟩
    · exact ⟨(Int.zero_ediv _).symm, Int.dvd_zero g⟩
  | false =>
    rw [if_neg Bool.false_ne_true, if_neg Bool.false_ne_true, Piv.mrow_divBy_s, rget_map_div]
    exact ⟨rfl, hgs.mget _ j⟩

/-- **`normalize_lexpos`** -/
theorem normalize_lexpos (nd : SolNode) (hden : 0 < nd.tab.den) :
    LexPos nd → LexPos { nd with tab := nd.tab.normalize } := by
  intro hlp
  rcases Piv.normalize_cases nd.tab (ne_of_gt hden) with e | ⟨g, hg, gd, gs, _, e⟩
  · rw [e]; exact hlp
  · rw [e]
    refine LexPos.of_cols fun j hj => ?_
    refine Lex.lexnn_congr_sign (fullRow nd) _ j _ (fun k _ => ?_) (hlp.col hj)
    obtain ⟨h1, h2⟩ := Lex.fullRow_divBy nd g gd gs k hj
    rw [h1]
    exact Lex.sign_ediv _ _ (le_of_lt hg) h2

/-! ### `generate_cut` -/

/-- the fields of the node after a cut that matter for `LexPos` -/
theorem Lex.gc_fields (nd : SolNode) (ctx : Mat) (index : Nat) :
    (generateCut nd ctx index).1.tab.s = nd.tab.s ++ [(mrow nd.tab.s index).map (fun a => posRem a nd.tab.den)]
    ∧ (generateCut nd ctx index).1.tab.ns = nd.tab.ns
    ∧ (generateCut nd ctx index).1.tab.den = nd.tab.den
    ∧ (generateCut nd ctx index).1.basis = nd.basis ++ [false]
    ∧ (generateCut nd ctx index).1.mapping = nd.mapping ++ [nd.tab.t.length] := by
  obtain ⟨T, arts, cT, ctx', e, hs, hns, hden, -⟩ := Cut.gc_append nd ctx index
  rw [e]
  exact ⟨congrArg (· ++ [Cut.cutS nd index]) hs, hns, hden, rfl, rfl⟩

theorem Lex.gc_s (nd : SolNode) (ctx : Mat) (index : Nat) :
    (generateCut nd ctx index).1.tab.s
      = nd.tab.s ++ [(mrow nd.tab.s index).map (fun a => posRem a nd.tab.den)] :=
  (Lex.gc_fields nd ctx index).1

theorem Lex.gc_ns (nd : SolNode) (ctx : Mat) (index : Nat) :
    (generateCut nd ctx index).1.tab.ns = nd.tab.ns := (Lex.gc_fields nd ctx index).2.1

theorem Lex.gc_den (nd : SolNode) (ctx : Mat) (index : Nat) :
    (generateCut nd ctx index).1.tab.den = nd.tab.den := (Lex.gc_fields nd ctx index).2.2.1

theorem Lex.gc_basis (nd : SolNode) (ctx : Mat) (index : Nat) :
    (generateCut nd ctx index).1.basis = nd.basis ++ [false] := (Lex.gc_fields nd ctx index).2.2.2.1

theorem Lex.gc_mapping (nd : SolNode) (ctx : Mat) (index : Nat) :
    (generateCut nd ctx index).1.mapping = nd.mapping ++ [nd.tab.t.length] :=
  (Lex.gc_fields nd ctx index).2.2.2.2

/-- the full rows of the old variables are unchanged by a cut -/
theorem Lex.gc_fullRow_old (nd : SolNode) (ctx : Mat) (index : Nat) (hwf : WF nd) (k : Nat)
    (hk : k < nd.mapping.length) :
    fullRow (generateCut nd ctx index).1 k = fullRow nd k := by
  unfold fullRow
  rw [Lex.gc_s, Lex.gc_ns, Lex.gc_den, Lex.gc_basis, Lex.gc_mapping,
    boolGet_append_lt _ (by rw [hwf.basis_len]; exact hk), natGet_append_lt _ hk]
  cases hb : boolGet nd.basis k with
  | true => rfl
  | false =>
    simp only [Bool.false_eq_true, if_false]
    exact mrow_append_lt _ ((hwf.map_ok k hk).2 hb).1

/-- the new variable is the last one and its full row is the cut row `posRem(s[index][j], den)` -/
theorem Lex.gc_fullRow_new (nd : SolNode) (ctx : Mat) (index : Nat) (hwf : WF nd) :
    fullRow (generateCut nd ctx index).1 nd.mapping.length
      = (mrow nd.tab.s index).map (fun a => posRem a nd.tab.den) := by
  unfold fullRow
  rw [Lex.gc_s, Lex.gc_basis, Lex.gc_mapping, ← hwf.basis_len, boolGet_append_len, hwf.basis_len,
    natGet_append_len, ← hwf.rows_eq]
  simp only [Bool.false_eq_true, if_false]
  exact mrow_append_len _ _

/-- **`generateCut_lexpos`**: the cut row is appended at the end of the variable order and its
    `s`-entries are remainders modulo the positive denominator -/
theorem generateCut_lexpos (nd : SolNode) (ctx : Mat) (index : Nat) :
    WF nd → LexPos nd → LexPos (generateCut nd ctx index).1 := by
  intro hwf hlp
  refine LexPos.of_cols fun j hj => ?_
  rw [Lex.gc_ns] at hj
  unfold fullRows
  rw [Lex.gc_mapping, List.length_append, List.length_singleton, List.range_succ, List.map_append,
    List.map_singleton, Lex.gc_fullRow_new nd ctx index hwf]
  have hold : (List.range nd.mapping.length).map (fullRow (generateCut nd ctx index).1)
      = (List.range nd.mapping.length).map (fullRow nd) :=
    List.map_congr_left (fun k hk => Lex.gc_fullRow_old nd ctx index hwf k (List.mem_range.mp hk))
  rw [hold]
  apply Lex.lexnn_append j _ _ _ (hlp.col hj)
  rw [rget_map0 (fun a => posRem a nd.tab.den) (Int.zero_emod _)]
  exact Int.emod_nonneg _ (by have := hwf.den_pos; omega)

/-! ### non-vacuity -/

example : LexPos Lex.exNodeB ∧ LexPos { Lex.exNodeB with tab := Lex.exNodeB.tab.scale 3 } :=
  ⟨by decide, scale_lexpos Lex.exNodeB 3 (by decide) (by decide)⟩

/-- `Lex.exNodeA` has den 2 and all entries even: `normalize` really divides -/
example : LexPos Lex.exNodeA ∧ Lex.exNodeA.tab.normalize ≠ Lex.exNodeA.tab
    ∧ LexPos { Lex.exNodeA with tab := Lex.exNodeA.tab.normalize } :=
  ⟨by decide, by decide, normalize_lexpos Lex.exNodeA (by decide) (by decide)⟩

/-- a node with a non-integral basic solution (`2 * x2 = x0 + 3 * x1 + 1`): the cut on row 0 -/
def Lex.exNodeD : SolNode :=
  { tab := { s := [[1, 3]], t := [[1]], den := 2, ns := 2, nt := 1 }
    basis := [true, true, false], mapping := [0, 1, 0], varRow := [2], varColumn := [0, 1]
    sign := [.positive], big := none, arts := [], cons := [] }

theorem Lex.exNodeD_wf : WF Lex.exNodeD :=
  ⟨by decide, by decide, by decide, by decide, by decide, by decide, by decide, by decide, by decide,
   by decide, by decide, by decide⟩

example : WF Lex.exNodeD ∧ LexPos Lex.exNodeD
    ∧ (generateCut Lex.exNodeD [] 0).1.tab.s = [[1, 3], [1, 1]]
    ∧ (generateCut Lex.exNodeD [] 0).1.mapping = [0, 1, 0, 1]
    ∧ LexPos (generateCut Lex.exNodeD [] 0).1 :=
  ⟨Lex.exNodeD_wf, by decide, by decide, by decide,
   generateCut_lexpos Lex.exNodeD [] 0 Lex.exNodeD_wf (by decide)⟩

end PPLV.PIPCore

import PPLV.Solver.PendingProofsSecond
import PPLV.Solver.PendingProofsErase

/-!
# `erase_artificials` leaves a feasible basis

`erasePivot_canonTB`: the pivots of step 1 of `erase_artificials` (on a row whose artificial basic variable is
0, at any non-zero original column) keep the tableau canonical and feasible (`CanonTB`): the basic solution
does not move.  `removeRow_canonTB`: overwriting a row by the last one and dropping the last one keeps it too.
`eraseLoop_canonTB`: hence step 1 keeps `CanonTB` and `ArtInv`, and when the fuel suffices no artificial column
is left in the base; `eraseArtificials_canonTB`: the tableau handed to the second phase holds a feasible basis.
-/
namespace PPLV.Solver.Pend
open PPLV.Lin PPLV.Solver.Tab

/-- a pivot of `erase_artificials`: row `i` has inhomogeneous term 0 and a non-zero entry in the non-basic
    column `j` -/
theorem erasePivot_canonTB {t : Tab} {n i j : Nat} (hC : CanonTB t.T t.base n) (hi : i < t.T.length)
    (hi0 : (t.T.getD i []).get 0 = 0) (hj1 : 1 ≤ j) (hjn : j < n - 1) (hij : (t.T.getD i []).get j ≠ 0) :
    CanonTB (pivot t j i).T (pivot t j i).base n := by
  have hib : i < t.base.length := by rw [hC.lenB]; exact hi
  have hTl := pivot_T_length t j i
  -- j is not basic
  have hnb : ∀ k, k < t.T.length → k ≠ i → t.base.getD k 0 ≠ j := by
    intro k hk hki hb
    have := hC.basicCol k i hk hi hki
    rw [hb] at this; exact hij this
  have zero_of (k : Nat) (hk : k < t.T.length) (col : Nat) (h1 : (t.T.getD k []).get col = 0)
      (h2 : (t.T.getD i []).get col = 0) : ((pivot t j i).T.getD k []).get col = 0 := by
    by_cases hki : k = i
    · rw [hki, pivot_row_self t j i hi]; rw [hki] at h1; exact h1
    · by_cases hke : (t.T.getD k []).get j = 0
      · have hcnd : (k != i && (t.T.getD k []).get j != 0) = false := by rw [hke]; simp
        rw [pivot_row t j i k hk, hcnd]; exact h1
      · obtain ⟨d, hd, hent⟩ := pivot_row_entry t j i k hk hki hke
        have := hent col
        rw [h1, h2, mul_zero, mul_zero, add_zero] at this
        rcases Int.mul_eq_zero.mp this with h | h
        · omega
        · exact h
  constructor
  · rw [hTl]; unfold pivot pivotBase; simp [hC.lenB]
  · exact hC.len2
  · intro k hk
    rw [hTl] at hk
    rw [pivot_row t j i k hk]
    split
    · obtain ⟨-, -, -, -, h3⟩ := linearCombine_spec (t.T.getD k []) (t.T.getD i []) j
      rw [h3, hC.rowLen k hk, hC.rowLen i hi]; simp
    · exact hC.rowLen k hk
  · intro k hk
    rw [hTl] at hk
    rw [pivot_base_getD t j i k hib]
    split
    · exact ⟨hj1, hjn⟩
    · exact hC.baseRange k hk
  · intro k hk
    rw [hTl] at hk
    rw [pivot_base_getD t j i k hib]
    by_cases hki : k = i
    · rw [if_pos hki, hki, pivot_row_self t j i hi]; exact hij
    · rw [if_neg hki]
      by_cases hke : (t.T.getD k []).get j = 0
      · have hcnd : (k != i && (t.T.getD k []).get j != 0) = false := by rw [hke]; simp
        rw [pivot_row t j i k hk, hcnd]; exact hC.basicNZ k hk
      · obtain ⟨d, hd, hent⟩ := pivot_row_entry t j i k hk hki hke
        obtain ⟨g, hg, -, -, hny⟩ := lcN_spec (t.T.getD k []) (t.T.getD i []) j hij
        have := hent (t.base.getD k 0)
        rw [hC.basicCol k i hk hi hki, mul_zero, add_zero] at this
        intro h0
        rw [h0, mul_zero] at this
        rcases Int.mul_eq_zero.mp this.symm with h | h
        · exact hny (by omega)
        · exact hC.basicNZ k hk h
  · intro k m hk hm hkm
    rw [hTl] at hk hm
    rw [pivot_base_getD t j i k hib]
    by_cases hki : k = i
    · rw [if_pos hki]
      have hmi : m ≠ i := fun h => hkm (hki.trans h.symm)
      unfold pivot; exact pivotRows_column t.T j i m hm hmi
    · rw [if_neg hki]
      by_cases hmi : m = i
      · rw [hmi, pivot_row_self t j i hi]; exact hC.basicCol k i hk hi hki
      · exact zero_of m hm _ (hC.basicCol k m hk hm hkm) (hC.basicCol k i hk hi hki)
  · intro k hk
    rw [hTl] at hk
    exact zero_of k hk _ (hC.lastZero k hk) (hC.lastZero i hi)
  · intro k hk
    rw [hTl] at hk
    rw [pivot_base_getD t j i k hib]
    by_cases hki : k = i
    · rw [if_pos hki, hki, pivot_row_self t j i hi, hi0]; simp
    · rw [if_neg hki]
      by_cases hke : (t.T.getD k []).get j = 0
      · have hcnd : (k != i && (t.T.getD k []).get j != 0) = false := by rw [hke]; simp
        rw [pivot_row t j i k hk, hcnd]; exact hC.feas k hk
      · obtain ⟨d, hd, hent⟩ := pivot_row_entry t j i k hk hki hke
        obtain ⟨g, hg, hgx, hgy, hny⟩ := lcN_spec (t.T.getD k []) (t.T.getD i []) j hij
        have h0 := hent 0
        have hb := hent (t.base.getD k 0)
        rw [hC.basicCol k i hk hi hki, mul_zero, add_zero] at hb
        rw [feas_after _ _ _ _ _ _ _ d g _ _ hd hg hgx hgy hny (hC.basicNZ k hk) h0 hb, hi0]
        have := hC.feas k hk
        simpa using this

/-- rows `k ≠ i` of the tableau after row `i` is overwritten by the last row and the last row dropped -/
theorem removeRow_canonTB {T : List Row} {base : List Nat} {n i : Nat} (hC : CanonTB T base n) (hi : i < T.length) :
    CanonTB (if i < T.length - 1 then (T.set i (T.getD (T.length - 1) [])).dropLast else T.dropLast)
      (if i < T.length - 1 then (base.set i (base.getD (T.length - 1) 0)).dropLast else base.dropLast) n := by
  have hib : i < base.length := by rw [hC.lenB]; exact hi
  by_cases hlast : i < T.length - 1
  · rw [if_pos hlast, if_pos hlast]
    -- old index of the new row k
    have hrow : ∀ k, k < T.length - 1 →
        ((T.set i (T.getD (T.length - 1) [])).dropLast.getD k [] = T.getD (if k = i then T.length - 1 else k) []) ∧
        ((base.set i (base.getD (T.length - 1) 0)).dropLast.getD k 0 = base.getD (if k = i then T.length - 1 else k) 0) := by
      intro k hk
      rw [getD_dropLast _ _ _ (by simp; exact hk), getD_set_of_lt _ _ _ _ hi,
        getD_dropLast _ _ _ (by simp; rw [hC.lenB]; exact hk), getD_set_of_lt _ _ _ _ hib]
      by_cases hki : k = i
      · simp [hki]
      · simp [hki]
    have hidx : ∀ k, k < T.length - 1 → (if k = i then T.length - 1 else k) < T.length := by
      intro k hk; split <;> omega
    have hinj : ∀ k m, k < T.length - 1 → m < T.length - 1 → k ≠ m →
        (if k = i then T.length - 1 else k) ≠ (if m = i then T.length - 1 else m) := by
      intro k m hk hm hkm; split <;> split <;> omega
    constructor
    · simp [hC.lenB]
    · exact hC.len2
    · intro k hk; simp at hk; rw [(hrow k hk).1]; exact hC.rowLen _ (hidx k hk)
    · intro k hk; simp at hk; rw [(hrow k hk).2]; exact hC.baseRange _ (hidx k hk)
    · intro k hk; simp at hk; rw [(hrow k hk).1, (hrow k hk).2]; exact hC.basicNZ _ (hidx k hk)
    · intro k m hk hm hkm; simp at hk hm
      rw [(hrow m hm).1, (hrow k hk).2]
      exact hC.basicCol _ _ (hidx k hk) (hidx m hm) (hinj k m hk hm hkm)
    · intro k hk; simp at hk; rw [(hrow k hk).1]; exact hC.lastZero _ (hidx k hk)
    · intro k hk; simp at hk; rw [(hrow k hk).1, (hrow k hk).2]; exact hC.feas _ (hidx k hk)
  · rw [if_neg hlast, if_neg hlast]
    have hrow : ∀ k, k < T.length - 1 → (T.dropLast.getD k [] = T.getD k []) ∧ (base.dropLast.getD k 0 = base.getD k 0) := by
      intro k hk
      exact ⟨getD_dropLast _ _ _ hk, getD_dropLast _ _ _ (by rw [hC.lenB]; exact hk)⟩
    constructor
    · simp [hC.lenB]
    · exact hC.len2
    · intro k hk; simp at hk; rw [(hrow k hk).1]; exact hC.rowLen _ (by omega)
    · intro k hk; simp at hk; rw [(hrow k hk).2]; exact hC.baseRange _ (by omega)
    · intro k hk; simp at hk; rw [(hrow k hk).1, (hrow k hk).2]; exact hC.basicNZ _ (by omega)
    · intro k m hk hm hkm; simp at hk hm
      rw [(hrow m hm).1, (hrow k hk).2]
      exact hC.basicCol _ _ (by omega) (by omega) hkm
    · intro k hk; simp at hk; rw [(hrow k hk).1]; exact hC.lastZero _ (by omega)
    · intro k hk; simp at hk; rw [(hrow k hk).1, (hrow k hk).2]; exact hC.feas _ (by omega)

/-- **step 1 of `erase_artificials`** keeps the feasible basis; with enough fuel no artificial column stays
    in the base -/
theorem eraseLoop_canonTB (b e n : Nat) (he : e = n - 1) :
    ∀ (fuel i : Nat) (t : Tab), CanonTB t.T t.base n → ArtInv b e t →
      (∀ k, k < i → k < t.T.length → ¬ (b ≤ t.base.getD k 0 ∧ t.base.getD k 0 < e)) →
      t.T.length - i ≤ fuel → t.cost.length = n →
      CanonTB (eraseLoop b e fuel i t).T (eraseLoop b e fuel i t).base n ∧
      (∀ k, k < (eraseLoop b e fuel i t).T.length →
        ¬ (b ≤ (eraseLoop b e fuel i t).base.getD k 0 ∧ (eraseLoop b e fuel i t).base.getD k 0 < e)) ∧
      (eraseLoop b e fuel i t).cost.length = n := by
  intro fuel
  induction fuel with
  | zero =>
    intro i t hC _ hdone hfuel hcl
    exact ⟨hC, fun k hk => hdone k (by simp [eraseLoop] at hk ⊢; omega) (by simpa [eraseLoop] using hk), hcl⟩
  | succ fuel ih =>
    intro i t hC hA hdone hfuel hcl
    unfold eraseLoop
    by_cases hi : i < t.T.length
    · rw [if_pos hi]
      simp only
      have hib : i < t.base.length := by rw [hC.lenB]; exact hi
      by_cases hart : (decide (b ≤ t.base.getD i 0) && decide (t.base.getD i 0 < e)) = true
      · rw [if_pos hart]
        simp only [Bool.and_eq_true, decide_eq_true_eq] at hart
        cases hf : firstNonzeroIn (t.T.getD i []) 1 b with
        | some j =>
          simp only
          obtain ⟨hj1, hj2, hj3⟩ := firstNonzeroIn_some hf
          have hi0 := hA.artZero i hi hart.1 hart.2
          have hC' := erasePivot_canonTB hC hi hi0 hj1 (by omega) hj3
          have hA' := pivot_artInv hA hi hart.1 hart.2 hj2
          apply ih (i + 1) (pivot t j i) hC' hA'
          · intro k hk hkl
            rw [pivot_T_length] at hkl
            rw [pivot_base_getD t j i k hib]
            by_cases hki : k = i
            · rw [if_pos hki]; omega
            · rw [if_neg hki]; exact hdone k (by omega) hkl
          · rw [pivot_T_length]; omega
          · unfold pivot pivotCost
            simp only
            split
            · obtain ⟨-, -, -, -, h3⟩ := linearCombine_spec t.cost (t.T.getD i []) j
              rw [h3, hcl, hC.rowLen i hi]; simp
            · exact hcl
        | none =>
          simp only
          have hrm := removeRow_canonTB hC hi
          by_cases hlast : i < t.T.length - 1
          · rw [if_pos hlast]
            rw [if_pos hlast, if_pos hlast] at hrm
            -- ArtInv of the shrunk tableau (as in `eraseLoop_solutions`)
            have hinv : ArtInv b e ⟨(t.T.set i (t.T.getD (t.T.length - 1) [])).dropLast, t.cost,
                (t.base.set i (t.base.getD (t.T.length - 1) 0)).dropLast⟩ := by
              constructor
              · simp [hA.lenB]
              · intro k hk hb1 hb2
                simp only [List.length_dropLast, List.length_set] at hk
                simp only at hb1 hb2 ⊢
                rw [getD_dropLast _ _ _ (by simp; rw [hA.lenB]; exact hk), getD_set_of_lt _ _ _ _ hib] at hb1 hb2
                rw [getD_dropLast _ _ _ (by simp; exact hk), getD_set_of_lt _ _ _ _ hi]
                by_cases hki : k = i
                · rw [if_pos hki] at hb1 hb2 ⊢
                  exact hA.artZero _ (by omega) hb1 hb2
                · rw [if_neg hki] at hb1 hb2 ⊢
                  exact hA.artZero k (by omega) hb1 hb2
            apply ih i _ hrm hinv
            · intro k hk hkl
              simp only [List.length_dropLast, List.length_set] at hkl
              simp only
              rw [getD_dropLast _ _ _ (by simp; rw [hC.lenB]; exact hkl), getD_set_of_lt _ _ _ _ hib,
                if_neg (by omega)]
              exact hdone k hk (by omega)
            · simp only [List.length_dropLast, List.length_set]; omega
            · exact hcl
          · rw [if_neg hlast]
            rw [if_neg hlast, if_neg hlast] at hrm
            have hinv : ArtInv b e ⟨t.T.dropLast, t.cost, t.base.dropLast⟩ := by
              constructor
              · simp [hA.lenB]
              · intro k hk hb1 hb2
                simp only [List.length_dropLast] at hk
                simp only at hb1 hb2 ⊢
                rw [getD_dropLast _ _ _ (by rw [hA.lenB]; exact hk)] at hb1 hb2
                rw [getD_dropLast _ _ _ hk]
                exact hA.artZero k (by omega) hb1 hb2
            apply ih (i + 1) _ hrm hinv
            · intro k hk hkl
              simp only [List.length_dropLast] at hkl
              simp only
              rw [getD_dropLast _ _ _ (by rw [hC.lenB]; exact hkl)]
              exact hdone k (by omega) (by omega)
            · simp only [List.length_dropLast]; omega
            · exact hcl
      · rw [if_neg hart]
        apply ih (i + 1) t hC hA
        · intro k hk hkl
          by_cases hki : k = i
          · rw [hki]
            intro h
            apply hart
            simp only [Bool.and_eq_true, decide_eq_true_eq]
            exact h
          · exact hdone k (by omega) hkl
        · omega
        · exact hcl
    · rw [if_neg hi]
      exact ⟨hC, fun k hk => hdone k (by omega) hk, hcl⟩

/-- **after `erase_artificials` the tableau holds a feasible basis** of width `b + 1` -/
theorem eraseArtificials_canonTB (b e numCols : Nat) (t : Tab) (hb : 1 ≤ b) (hbe : b < e) (he : e = numCols - 1)
    (hC : CanonTB t.T t.base numCols) (hA : ArtInv b e t) (hcl : t.cost.length = numCols) :
    CanonTB (eraseArtificials b e numCols t).1.T (eraseArtificials b e numCols t).1.base (b + 1) ∧
    (eraseArtificials b e numCols t).1.cost.length = b + 1 := by
  obtain ⟨h1, h2, h3⟩ := eraseLoop_canonTB b e numCols he (t.T.length + 1) 0 t hC hA
    (fun k hk => by omega) (by omega) hcl
  have hnc : numCols - (e - b) = b + 1 := by omega
  unfold eraseArtificials
  simp only [hnc]
  set t1 := eraseLoop b e (t.T.length + 1) 0 t with ht1
  have hrow : ∀ i, i < t1.T.length →
      (t1.T.map fun r => (r.take (b + 1)).set (b + 1 - 1) 0).getD i [] = ((t1.T.getD i []).take (b + 1)).set b 0 := by
    intro i hi
    rw [List.getD_eq_getElem?_getD, List.getElem?_map, List.getD_eq_getElem?_getD, List.getElem?_eq_getElem hi]
    simp
  -- entries of a truncated row below column b
  have hent : ∀ (r : Row) (col : Nat), col < b → Row.get ((r.take (b + 1)).set b 0) col = r.get col := by
    intro r col hcol
    unfold Row.get
    rw [getD_set, if_neg (by rintro ⟨h, -⟩; omega), List.getD_eq_getElem?_getD, List.getElem?_take,
      if_pos (by omega), ← List.getD_eq_getElem?_getD]
  have hbase : ∀ k, k < t1.T.length → 1 ≤ t1.base.getD k 0 ∧ t1.base.getD k 0 < b := by
    intro k hk
    have r := h1.baseRange k hk
    have := h2 k hk
    omega
  refine ⟨?_, by simp only [List.length_take, List.length_set]; rw [h3]; omega⟩
  constructor
  · simp [h1.lenB]
  · omega
  · intro i hi
    simp only [List.length_map] at hi
    rw [hrow i hi, List.length_set, List.length_take, h1.rowLen i hi]; omega
  · intro i hi
    simp only [List.length_map] at hi
    have := hbase i hi
    omega
  · intro i hi
    simp only [List.length_map] at hi
    rw [hrow i hi, hent _ _ (hbase i hi).2]; exact h1.basicNZ i hi
  · intro i j hi hj hij
    simp only [List.length_map] at hi hj
    rw [hrow j hj, hent _ _ (hbase i hi).2]; exact h1.basicCol i j hi hj hij
  · intro i hi
    simp only [List.length_map] at hi
    rw [hrow i hi]
    simp only [Nat.add_sub_cancel]
    unfold Row.get
    rw [getD_set]
    split
    · rfl
    · rename_i hne
      rw [List.getD_eq_getElem?_getD, List.getElem?_eq_none]; rfl
      have : ¬ b < (List.take (b + 1) (t1.T.getD i [])).length := fun h => hne ⟨rfl, h⟩
      omega
  · intro i hi
    simp only [List.length_map] at hi
    rw [hrow i hi, hent _ 0 (by omega), hent _ _ (hbase i hi).2]; exact h1.feas i hi

end PPLV.Solver.Pend

import PPLV.Solver.PendingProofsIncr12
import PPLV.Solver.PendingProofsE2E4

/-!
# the outcomes of an incremental set-up

`incr_parse_none`: a trivially false pending constraint; `incr_setup`: the hand-over to the first phase
(`Phase1Start`, mapping layout, `SetupGood`); `incr_done`: the set-up that answers itself (no tableau rows).
-/
namespace PPLV.Solver.Pend
open PPLV.Lin PPLV.Solver PPLV.Solver.Tab

/-- a trivially false pending constraint: the set-up answers UNSATISFIABLE, rightly -/
theorem incr_parse_none (s : LPState) (hS : IncrStart s) (hp : parseConstraints (computeGenerator s) = none) :
    ppcSetup s = .done { computeGenerator s with status := .UNSATISFIABLE } ∧ ∀ x, ¬ csSem s.input_cs x := by
  constructor
  · unfold ppcSetup; rw [ppcRecompute_incr s hS]; simp only [hp]
  · have hpi := parse_spec (computeGenerator s) (nn0Of (computeGenerator s)) rfl
    rw [hp] at hpi
    obtain ⟨c, hc, hcl⟩ := hpi
    intro x hx
    rcases hcls : classify c with ⟨cls, v⟩
    rw [hcls] at hcl
    simp only at hcl
    subst hcl
    have hc' : c ∈ s.input_cs := List.mem_of_mem_drop (List.mem_of_mem_drop hc)
    exact trivFalse_not_holds hcls x (hx c hc')

/-- the canonical form and the cost row of what `IncrOut` describes -/
theorem IncrOut.phase1 {s : LPState} {C : GCtx} {unf : List Nat} {addArt : Nat} {s0 : LPState}
    (h : IncrOut s C unf addArt s0) :
    Phase1Start s0 (if addArt > 0 then C.SL else 0) (C.artOut unf).2.2.2 ∧
    artStart (if addArt > 0 then C.SL else 0) s0.numCols = C.SL ∧ 1 + C.j ≤ C.SL := by
  have hTB := C.asm_canonTB unf h.unfOK
  obtain ⟨hc0, hc0len⟩ := C.asm_cost unf h.unfOK
  have art := C.art unf h.unfOK
  have hV1 := C.V1
  have hjV := C.hjV
  have hSLV : C.V ≤ C.SL := by unfold GCtx.SL; omega
  have hnc := h.unfOK.nc
  obtain ⟨p1, p2⟩ := phase1_of_canonTB s0 C.SL addArt C.numCols _ _ _ hTB hc0 hc0len (by omega)
    (fun ha => by rw [hnc]; have := h.addArt_eq; omega) (fun ha => by rw [hnc]; have := h.addArt_eq; omega)
    h.tab h.base h.cost h.numCols
  rw [art.endA]
  exact ⟨p1, p2, by omega⟩

/-- **the three hand-over facts of an incremental set-up**, from the state before the call -/
theorem incr_setup (s : LPState) (hS : IncrStart s) (s' : LPState) (b e : Nat)
    (h : ppcSetup s = .phase1 s' b e) :
    Phase1Start s' b e ∧
    (∃ nn j, MapOK s'.mapping nn s.external_space_dim j ∧ 1 + j ≤ artStart b s'.numCols) ∧
    SetupGood s.input_cs s.external_space_dim s' b ∧
    (∀ x, csSem s.input_cs x → ∃ y, TabSol s'.tableau s'.numCols b y ∧
      (∀ i, i < s.external_space_dim → proj s'.mapping y i = x i) ∧
      NegZero s'.mapping s.external_space_dim x y) := by
  cases hp : parseConstraints (computeGenerator s) with
  | none =>
    rw [(incr_parse_none s hS hp).1] at h; cases h
  | some p =>
    obtain ⟨C, unf, addArt, s0, hO⟩ := incr_ctx s hS p hp
    obtain ⟨p1, p2, p3⟩ := hO.phase1
    rcases ppcTrivial_cases s0 (if addArt > 0 then C.SL else 0) (C.artOut unf).2.2.2
        (by rw [hO.ext]; exact hS.npos) with ⟨hph, -⟩ | ⟨sd, hd, -⟩
    swap
    · rw [hO.setup, hd] at h; cases h
    rw [hO.setup, hph] at h
    simp only [Setup.phase1.injEq] at h
    obtain ⟨rfl, rfl, rfl⟩ := h
    have hgS : ∀ x, csSem s.input_cs x → ∃ y, TabSol s0.tableau s0.numCols (if addArt > 0 then C.SL else 0) y ∧
        (∀ i, i < s.external_space_dim → proj s0.mapping y i = x i) ∧
        NegZero s0.mapping s.external_space_dim x y := by
      intro x hx
      obtain ⟨y, y1, y2, y3, y4, y5, y6⟩ := hO.complete x hx
      refine ⟨y, ⟨y1, y2, fun j hj _ => y3 j (by rw [p2] at hj; exact hj), by rw [hO.tab]; exact y4⟩, ?_, ?_⟩
      · rw [hO.mapping, ← hO.n_eq]; exact y5
      · rw [hO.mapping, ← hO.n_eq]; exact y6
    refine ⟨p1, ⟨C.nn, C.j, by rw [hO.mapping, ← hO.n_eq]; exact C.hM, by rw [p2]; exact p3⟩, ⟨?_, ?_⟩, hgS⟩
    · intro y ⟨y1, y2, y3, y4⟩
      rw [hO.mapping]
      rw [p2, hO.numCols] at y3
      exact hO.sound y y1 y2 y3 (by rw [← hO.tab]; exact y4)
    · intro x hx
      obtain ⟨y, a, b, -⟩ := hgS x hx
      exact ⟨y, a, b⟩

/-- the `.done` answers of `ppcTrivial` for a problem with variables -/
theorem ppcTrivial_done_cases (s0 sd : LPState) (b e : Nat) (hn : 0 < s0.external_space_dim)
    (h : ppcTrivial s0 b e = .done sd) :
    s0.tableau = [] ∧
    ((isUnboundedObjFunction s0.obj s0.mapping s0.maximize = true ∧
        sd = { s0 with status := .UNBOUNDED, last_generator := ⟨zeros s0.external_space_dim, 1⟩ }) ∨
     (isUnboundedObjFunction s0.obj s0.mapping s0.maximize = false ∧
        sd = { s0 with status := .OPTIMIZED, last_generator := ⟨zeros s0.external_space_dim, 1⟩ })) := by
  unfold ppcTrivial at h
  have h0 : (s0.external_space_dim == 0) = false := by simp; omega
  rw [h0] at h
  simp only [Bool.false_eq_true, if_false] at h
  split at h
  swap
  · cases h
  rename_i hlen
  have hnil : s0.tableau = [] := by
    cases ht : s0.tableau with
    | nil => rfl
    | cons a l => rw [ht] at hlen; simp at hlen
  refine ⟨hnil, ?_⟩
  by_cases hunb : isUnboundedObjFunction s0.obj s0.mapping s0.maximize = true
  · rw [if_pos hunb] at h
    simp only [Setup.done.injEq] at h
    exact Or.inl ⟨hunb, h.symm⟩
  · rw [if_neg hunb] at h
    simp only [Setup.done.injEq] at h
    exact Or.inr ⟨by simpa using hunb, h.symm⟩

def GCtx.toIns (C : GCtx) : InsCtx :=
  { M := C.M, nn := C.nn, n := C.n, j := C.j, numCols := C.numCols, pend := C.pend, isSat := C.isSat,
    hM := C.hM, hlen := C.hlen, hSL := by have := C.hSL; have := C.hjV; omega }

theorem incr_done (s : LPState) (hS : IncrStart s) (hobj : s.obj.coeffs.length ≤ s.external_space_dim)
    (sd : LPState) (h : ppcSetup s = .done sd) :
    (sd.status = .UNSATISFIABLE ∧ ∀ x, ¬ csSem s.input_cs x) ∨
    ((sd.status = .OPTIMIZED ∨ sd.status = .UNBOUNDED) ∧ ReadyS s.input_cs s.external_space_dim sd ∧
      LPClaims s.input_cs s.problem sd) := by
  cases hp : parseConstraints (computeGenerator s) with
  | none =>
    obtain ⟨a1, a2⟩ := incr_parse_none s hS hp
    rw [a1] at h
    simp only [Setup.done.injEq] at h
    subst h
    exact Or.inl ⟨rfl, a2⟩
  | some p =>
    right
    obtain ⟨C, unf, addArt, s0, hO⟩ := incr_ctx s hS p hp
    rw [hO.setup] at h
    obtain ⟨hnil, hcases⟩ := ppcTrivial_done_cases s0 sd _ _ (by rw [hO.ext]; exact hS.npos) h
    have hTB := C.asm_canonTB unf hO.unfOK
    have art := C.art unf hO.unfOK
    have hTnil : (C.artOut unf).1 = [] := by rw [← hO.tab]; exact hnil
    have hN : C.N = 0 := by rw [← art.lenT, hTnil]; rfl
    have hR0 : C.R0 = 0 := by unfold GCtx.N at hN; omega
    have hNn : C.Nn = 0 := by unfold GCtx.N at hN; omega
    have hunf : unf = [] := by
      apply List.eq_nil_iff_forall_not_mem.mpr
      intro r hr
      have := hO.unfOK.lt r hr; omega
    have hnumc : C.numCols = C.SL + 1 := by
      have := hO.unfOK.nc
      rw [hunf, hNn] at this
      simpa using this
    have hV1 := C.V1
    have hjV := C.hjV
    have hSLj : 1 + C.j ≤ C.SL := by unfold GCtx.SL; omega
    have hwc : s0.working_cost.length = C.numCols := by
      rw [hO.cost, hTnil]
      show ((C.artOut unf).2.1.set (C.numCols - 1) 1).length = C.numCols
      rw [List.length_set]; exact art.lenC
    have hsolnil : ∀ y, Sol (C.artOut unf).1 y := by
      intro y i hi; rw [hTnil] at hi; simp at hi
    have hcompS : ∀ x, csSem s.input_cs x → ∃ y, Pos0 s0.working_cost.length y ∧ Sol s0.tableau y ∧
        (∀ i, i < s.external_space_dim → proj s0.mapping y i = x i) ∧
        NegZero s0.mapping s.external_space_dim x y := by
      intro x hx
      obtain ⟨y, y1, y2, y3, y4, y5, y6⟩ := hO.complete x hx
      refine ⟨y, ⟨y1, y2, fun j hj => y3 j (by rw [hwc, hnumc] at hj; omega)⟩, by rw [hO.tab]; exact y4, ?_, ?_⟩
      · rw [hO.mapping, ← hO.n_eq]; exact y5
      · rw [hO.mapping, ← hO.n_eq]; exact y6
    have hsound : ∀ y, Pos0 s0.working_cost.length y → Sol s0.tableau y → csSem s.input_cs (proj s0.mapping y) := by
      intro y hy _
      rw [hO.mapping]
      rw [hwc, hnumc] at hy
      exact hO.sound y hy.1 hy.2.1 (fun j h1 _ => hy.2.2 j (by omega)) (hsolnil y)
    have hR0S : ReadyS s.input_cs s.external_space_dim s0 := by
      refine ⟨⟨?_, ⟨C.nn, C.j, by rw [hO.mapping, ← hO.n_eq]; exact C.hM, by rw [hwc, hnumc]; omega⟩, hsound, ?_⟩,
        by rw [hO.numCols, hwc], hcompS⟩
      · rw [hO.tab, hO.base, hwc]; exact hTB
      · intro x hx
        obtain ⟨y, y1, y2, y3, -⟩ := hcompS x hx
        exact ⟨y, y1, y2, y3⟩
    -- the claims
    have hlenC : ∀ c ∈ s.input_cs, c.coeffs.length ≤ C.toIns.n := by
      intro c hc; show c.coeffs.length ≤ C.n; rw [hO.n_eq]; exact hS.lens c hc
    obtain ⟨t1, t2, t3⟩ := trivial_gen C.toIns s.input_cs hlenC C.SL hSLj
      (fun y y1 y2 y3 => hO.sound y y1 y2 (fun j h1 _ => y3 j h1) (hsolnil y))
      (fun x hx => by
        obtain ⟨y, -, y2, -, -, y5, -⟩ := hO.complete x hx
        exact ⟨y, y2, y5⟩)
      s.obj s.maximize (by show s.obj.coeffs.length ≤ C.n; rw [hO.n_eq]; exact hobj)
    have hMeq : C.toIns.M = s0.mapping := hO.mapping.symm
    have hsgn : (s.obj.coeffs.map fun a => if s.maximize then a else -a) = sgnObj s := rfl
    rw [hsgn, hMeq] at t2 t3
    have hval : ∀ n : Nat, (⟨zeros n, 1⟩ : Pt).val = Val.zero := by
      intro n; funext i; unfold Pt.val; simp only; rw [zeros_getD]; simp [Val.zero]
    rcases hcases with ⟨hunb, rfl⟩ | ⟨hunb, rfl⟩
    · rw [hO.obj, hO.maximize] at hunb
      refine ⟨Or.inr rfl, ⟨⟨hR0S.ready.tb, hR0S.ready.map, hR0S.ready.sound, hR0S.ready.complete⟩,
        hR0S.ncols, hR0S.completeS⟩, Or.inr rfl, Int.one_pos, by simp only; rw [hval]; exact t1,
        (fun h => by cases h), fun _ M => ?_⟩
      obtain ⟨x, x1, x2⟩ := t3 hunb (if s.maximize then M - (s.obj.k : Rat) else (s.obj.k : Rat) - M)
      exact ⟨x, x1, better_of_large s x M x2⟩
    · rw [hO.obj, hO.maximize] at hunb
      refine ⟨Or.inl rfl, ⟨⟨hR0S.ready.tb, hR0S.ready.map, hR0S.ready.sound, hR0S.ready.complete⟩,
        hR0S.ncols, hR0S.completeS⟩, Or.inl rfl, Int.one_pos, by simp only; rw [hval]; exact t1,
        fun _ x hx => ?_, fun h => by cases h⟩
      simp only
      rw [hval, not_better_iff, dot_zero]
      exact t2 hunb x hx

end PPLV.Solver.Pend

import PPLV.Solver.PendingProofsIncr16

/-!
# `incr_step_spec`: one step `add_constraint; is_lp_satisfiable; second_phase` from a solved state
-/
namespace PPLV.Solver.Pend
open PPLV.Lin PPLV.Solver PPLV.Solver.Tab

theorem addConstraint_solved (s : LPState) (c : ICon)
    (hst : s.status = .SATISFIABLE ∨ s.status = .OPTIMIZED ∨ s.status = .UNBOUNDED) :
    addConstraint s c = { s with input_cs := s.input_cs ++ [c], status := .PARTIALLY_SATISFIABLE } := by
  unfold addConstraint
  simp only
  rw [if_pos (by rcases hst with h | h | h <;> rw [h] <;> rfl)]

/-- a solved state plus one more constraint is the start of an incremental call -/
theorem SolvedInv.incrStart {s : LPState} (hI : SolvedInv s) (c : ICon) (hc : c.coeffs.length ≤ s.external_space_dim) :
    IncrStart { s with input_cs := s.input_cs ++ [c], status := .PARTIALLY_SATISFIABLE } := by
  refine ⟨hI.npos, hI.dims, ?_, ?_⟩
  · intro c' hc'
    rcases List.mem_append.mp hc' with h | h
    · exact hI.lens c' h
    · rw [List.mem_singleton.mp h]; exact hc
  · have ht : (s.input_cs ++ [c]).take s.first_pending = s.input_cs := by
      rw [hI.fp]; exact List.take_left' rfl
    show ReadyS ((s.input_cs ++ [c]).take s.first_pending) s.external_space_dim _
    rw [ht]
    exact ⟨⟨hI.ready.ready.tb, hI.ready.ready.map, hI.ready.ready.sound, hI.ready.ready.complete⟩,
      hI.ready.ncols, hI.ready.completeS⟩

theorem incr_step_spec (fc : Chooser) (hfc : ChooserOK fc) : IncrStepSpec fc := by
  intro f1 f2 s c sR b hI hc hobj h
  have hsa := addConstraint_solved s c hI.st
  rw [hsa] at h ⊢
  set sa : LPState := { s with input_cs := s.input_cs ++ [c], status := .PARTIALLY_SATISFIABLE } with hsadef
  have hSa : IncrStart sa := hI.incrStart c hc
  have hnc : (sa.numCols == 0) = false := by
    have h1 := hI.ready.ncols
    have h2 := hI.ready.ready.tb.len2
    show (s.numCols == 0) = false
    simp; omega
  unfold isLpSatisfiable at h
  have hstat : sa.status = .PARTIALLY_SATISFIABLE := rfl
  simp only [hstat, hnc, Bool.false_eq_true, if_false] at h
  cases hp : processPendingConstraints fc f1 sa with
  | none => rw [hp] at h; cases h
  | some s3 =>
    rw [hp] at h
    simp only [Option.some.injEq, Prod.mk.injEq] at h
    obtain ⟨hsR, hb⟩ := h
    rcases ppc_incremental fc hfc f1 sa s3 hSa hobj hp with ⟨a1, a2⟩ | ⟨a1, a2, a3, a4⟩
    · left
      refine ⟨?_, ?_, a2⟩
      · rw [← hb, a1]; rfl
      · rw [← hsR]; exact a1
    · right
      have hne : s3.status ≠ .UNSATISFIABLE := by
        rcases a4 with h | ⟨h | h, -⟩ <;> rw [h] <;> intro hh <;> cases hh
      have hbt : b = true := by
        rw [← hb]
        cases hs : s3.status <;> first | rfl | exact absurd hs hne
      obtain ⟨d1, d2, d3, d4⟩ := a3
      have hRr : ReadyS sa.input_cs sa.external_space_dim sR := by
        rw [← hsR]
        exact ⟨⟨a1.ready.tb, a1.ready.map, a1.ready.sound, a1.ready.complete⟩, a1.ncols, a1.completeS⟩
      have hdR : SameData sa sR := by rw [← hsR]; exact ⟨d1, d2, d3, d4⟩
      have hstR : sR.status = .SATISFIABLE ∨
          ((sR.status = .OPTIMIZED ∨ sR.status = .UNBOUNDED) ∧ LPClaims sa.input_cs sa.problem sR) := by
        rw [← hsR]; exact a4
      refine ⟨hbt, by rw [← hsR]; exact a2, hdR, ready_exists _ _ _ a1.ready, fun s2 h2 => ?_⟩
      obtain ⟨w1, w2⟩ := after_ppc_second fc hfc f2 sa sR s2 hSa.npos hSa.lens hobj hRr hdR hstR h2
      obtain ⟨e1, e2, e3, e4, e5, e6, e7, e8⟩ := secondPhase_keeps fc f2 sR s2 h2
      have hin : s2.input_cs = s.input_cs ++ [c] := by rw [e1, ← hsR]; exact a2
      have hext : s2.external_space_dim = s.external_space_dim := by rw [e4, ← hsR]; exact d3
      refine ⟨w1, ⟨by rw [hext]; exact hI.npos, ?_, ?_, ?_, ?_, Or.inr e8⟩, hin,
        ⟨by rw [e5, ← hsR]; exact d1, by rw [e6, ← hsR]; exact d2, hext, by rw [e7, ← hsR]; exact d4⟩⟩
      · rw [e3, e4, ← hsR]
      · rw [e2, e1, ← hsR]
      · rw [hin, hext]; exact hSa.lens
      · rw [hin, hext]; exact w2

end PPLV.Solver.Pend

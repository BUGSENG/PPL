import PPLV.Solver.PIPCoreProofsCut3
import Mathlib.Tactic.Linarith
import Mathlib.Tactic.Ring
/-!
# the cut step: feasibility (b), signs (c) and integrality over ℚ (d), from the
facts `Cut.CutFacts` about the node after the cut.
-/
namespace PPLV.PIPCore
namespace Cut

variable {nd nd' : SolNode} {index : Nat} {q q' : List Int}

theorem natGet_eq_getElem (l : List Nat) (j : Nat) (h : j < l.length) : natGet l j = l[j] := by
  unfold natGet
  rw [List.getD_eq_getElem?_getD, List.getElem?_eq_getElem h]; rfl

theorem mem_varColumn_lt (hwf : WF nd) {k : Nat} (hk : k ∈ nd.varColumn) :
    k < nd.mapping.length := by
  obtain ⟨j, hj, rfl⟩ := List.mem_iff_getElem.mp hk
  rw [← natGet_eq_getElem _ _ hj]
  exact (hwf.vc_ok j (by rw [← hwf.vc_len]; exact hj)).1

/-- an old row of the new node says the same as the row of the old node -/
theorem rowHolds_old (hwf : WF nd) (hf : CutFacts nd index q nd' q') (w : Nat → Int) (i : Nat)
    (hi : i < nd.tab.s.length) : RowHolds nd' w q' i ↔ RowHolds nd w q i := by
  unfold RowHolds
  rw [hf.den_eq, hf.vr_eq, hf.vc_eq, hf.s_eq,
    natGet_append_lt _ (by rw [hwf.vr_len]; exact hi), mrow_append_lt _ hi,
    hf.t_old i (by rw [← hwf.rows_eq]; exact hi)]

theorem rowHolds_congr (hwf : WF nd) (v w : Nat → Int)
    (hvw : ∀ k, k < nd.mapping.length → w k = v k) (i : Nat) (hi : i < nd.tab.s.length) :
    RowHolds nd w q i ↔ RowHolds nd v q i := by
  unfold RowHolds
  rw [hvw _ (hwf.vr_ok i hi).1,
    List.map_congr_left (fun k hk => hvw k (mem_varColumn_lt hwf hk))]

theorem colvals_mem_nonneg (hwf : WF nd) (v : Nat → Int)
    (hv : ∀ k, k < nd.mapping.length → 0 ≤ v k) : ∀ b ∈ nd.varColumn.map v, 0 ≤ b := by
  intro b hb
  obtain ⟨k, hk, rfl⟩ := List.mem_map.mp hb
  exact hv k (mem_varColumn_lt hwf hk)

theorem cutS_nonneg (nd : SolNode) (index : Nat) (hd : 0 < nd.tab.den) :
    ∀ a ∈ cutS nd index, 0 ≤ a := by
  intro a ha
  obtain ⟨b, _, rfl⟩ := List.mem_map.mp ha
  exact Int.emod_nonneg _ (by omega)

/-- (b), first half: a feasible valuation extends to the new slack variable (Gomory) -/
theorem feas_ext (hwf : WF nd) (hf : CutFacts nd index q nd' q') (hi : index < nd.tab.s.length)
    (v : Nat → Int) (hv : Feasible nd v q) :
    ∃ v', (∀ k, k < nd.mapping.length → v' k = v k) ∧ Feasible nd' v' q' := by
  have hd := hwf.den_pos
  have hsrc := hv.1 index hi
  unfold RowHolds at hsrc
  obtain ⟨z, hz⟩ := gomory_int nd.tab.den _ _ _ _ _ hsrc
  have hA : 0 ≤ dot (cutS nd index) (nd.varColumn.map v) :=
    dot_nonneg _ _ (cutS_nonneg nd index hd) (colvals_mem_nonneg hwf v hv.2)
  have hz0 : 0 ≤ z := gomory_nonneg _ _ _ _ hd hA hz
  have hn : nd.mapping.length = nd.tab.t.length + nd.tab.ns := by
    rw [hwf.map_len, hwf.rows_eq]
  let v' : Nat → Int := fun k => if k = nd.mapping.length then z else v k
  have hagree : ∀ k, k < nd.mapping.length → v' k = v k := by
    intro k hk
    show (if k = nd.mapping.length then z else v k) = v k
    rw [if_neg (by omega)]
  refine ⟨v', hagree, ?_, ?_⟩
  · intro i hi'
    rw [hf.s_eq, List.length_append, List.length_singleton] at hi'
    by_cases hlt : i < nd.tab.s.length
    · rw [rowHolds_old hwf hf v' i hlt, rowHolds_congr hwf v v' hagree i hlt]
      exact hv.1 i hlt
    · have hie : i = nd.tab.s.length := by omega
      subst hie
      unfold RowHolds
      rw [hf.den_eq, hf.vr_eq, hf.vc_eq, hf.s_eq,
        natGet_append_at _ hwf.vr_len.symm, mrow_append_len, hwf.rows_eq, hf.t_new,
        List.map_congr_left (fun k hk => hagree k (mem_varColumn_lt hwf hk))]
      have hvn : v' (nd.tab.t.length + nd.tab.ns) = z := by
        show (if _ = nd.mapping.length then z else _) = z
        rw [if_pos hn.symm]
      rw [hvn]
      unfold eVal apNum cutS
      linarith
  · intro k hk
    rw [hf.mapping_eq, List.length_append, List.length_singleton] at hk
    show 0 ≤ (if k = nd.mapping.length then z else v k)
    by_cases hke : k = nd.mapping.length
    · rw [if_pos hke]; exact hz0
    · rw [if_neg hke]; exact hv.2 k (by omega)

/-- (b), second half: a feasible valuation of the new node is feasible for the old one -/
theorem feas_res (hwf : WF nd) (hf : CutFacts nd index q nd' q') (v' : Nat → Int)
    (hv : Feasible nd' v' q') : Feasible nd v' q := by
  refine ⟨fun i hi => ?_, fun k hk => hv.2 k ?_⟩
  · rw [← rowHolds_old hwf hf v' i hi]
    exact hv.1 i (by rw [hf.s_eq, List.length_append]; omega)
  · rw [hf.mapping_eq, List.length_append]; omega

/-! ### signs -/

theorem signGet_append_lt (l : List RowSign) (x : RowSign) (k : Nat) (h : k < l.length) :
    signGet (l ++ [x]) k = signGet l k := getD_append_lt _ _ _ _ h

/-- (c) -/
theorem signAt_of_facts (hwf : WF nd) (hf : CutFacts nd index q nd' q') :
    SignAt nd q → SignAt nd' q' := by
  intro hs k
  have hd := hwf.den_pos
  rw [hf.den_eq, hf.sign_eq]
  rcases lt_trichotomy k nd.sign.length with hlt | heq | hgt
  · rw [signGet_append_lt _ _ _ hlt,
      hf.t_old k (by rw [← hwf.rows_eq, ← hwf.sign_len]; exact hlt)]
    exact hs k
  · have h1 : signGet (nd.sign ++ [RowSign.negative]) k = .negative :=
      getD_append_len _ _ _ _ heq
    have hk : k = nd.tab.t.length := by rw [heq, hwf.sign_len, hwf.rows_eq]
    rw [h1, hk, hf.t_new]
    show -(eVal nd index q % nd.tab.den) < nd.tab.den
    have := Int.emod_nonneg (eVal nd index q) (by omega : nd.tab.den ≠ 0)
    omega
  · have h1 : signGet (nd.sign ++ [RowSign.negative]) k = .unknown :=
      getD_append_gt _ _ _ _ hgt
    rw [h1]; exact trivial

/-! ### integrality over ℚ -/

theorem dotQ_cast : ∀ (r l : List Int), dotQ r (l.map (fun z : Int => (z : ℚ))) = ((dot r l : Int) : ℚ)
  | [], l => by cases l <;> simp [dotQ, dot]
  | a :: as, [] => by simp [dotQ, dot]
  | a :: as, b :: bs => by
    simp only [List.map_cons, dotQ, dot]
    rw [dotQ_cast as bs]; push_cast; ring

theorem rowHoldsQ_old (hwf : WF nd) (hf : CutFacts nd index q nd' q') (w : Nat → ℚ) (i : Nat)
    (hi : i < nd.tab.s.length) : RowHoldsQ nd' w q' i ↔ RowHoldsQ nd w q i := by
  unfold RowHoldsQ
  rw [hf.den_eq, hf.vr_eq, hf.vc_eq, hf.s_eq,
    natGet_append_lt _ (by rw [hwf.vr_len]; exact hi), mrow_append_lt _ hi,
    hf.t_old i (by rw [← hwf.rows_eq]; exact hi)]

/-- (d) -/
theorem intInv_of_facts (hwf : WF nd) (hf : CutFacts nd index q nd' q')
    (hi : index < nd.tab.s.length) : IntInv nd q → IntInv nd' q' := by
  intro hinv v hsat hint k hk
  have hd := hwf.den_pos
  have hsat0 : TabSatQ nd v q := fun i hi' =>
    (rowHoldsQ_old hwf hf v i hi').mp (hsat i (by rw [hf.s_eq, List.length_append]; omega))
  have hold := hinv v hsat0 (fun k hk => hint k (by rw [hf.ns_eq]; exact hk))
  rw [hf.mapping_eq, List.length_append, List.length_singleton] at hk
  by_cases hlt : k < nd.mapping.length
  · exact hold k hlt
  · have hke : k = nd.tab.t.length + nd.tab.ns := by
      rw [← hwf.rows_eq, ← hwf.map_len]; omega
    subst hke
    classical
    let zf : Nat → Int := fun k => if h : IsIntQ (v k) then Classical.choose h else 0
    have hz : ∀ k, k < nd.mapping.length → v k = (zf k : ℚ) := by
      intro k hk
      have h := hold k hk
      show v k = ((if h : IsIntQ (v k) then Classical.choose h else 0 : Int) : ℚ)
      rw [dif_pos h]
      exact Classical.choose_spec h
    have hmap : nd.varColumn.map v = (nd.varColumn.map zf).map (fun z : Int => (z : ℚ)) := by
      rw [List.map_map]
      exact List.map_congr_left (fun k hk => hz k (mem_varColumn_lt hwf hk))
    have hsrc := hsat0 index hi
    unfold RowHoldsQ at hsrc
    rw [hmap, dotQ_cast, hz _ (hwf.vr_ok index hi).1] at hsrc
    have hsrcZ : nd.tab.den * zf (natGet nd.varRow index)
        = dot (mrow nd.tab.s index) (nd.varColumn.map zf) + dot (mrow nd.tab.t index) q := by
      exact_mod_cast hsrc
    obtain ⟨zz, hzz⟩ := gomory_int nd.tab.den _ _ _ _ _ hsrcZ
    have hnew := hsat nd.tab.s.length (by rw [hf.s_eq, List.length_append]; simp)
    unfold RowHoldsQ at hnew
    rw [hf.den_eq, hf.vr_eq, hf.vc_eq, hf.s_eq,
      natGet_append_at _ hwf.vr_len.symm, mrow_append_len, hwf.rows_eq, hf.t_new,
      hmap, dotQ_cast] at hnew
    refine ⟨zz, ?_⟩
    have hd' : (nd.tab.den : ℚ) ≠ 0 := by
      have : nd.tab.den ≠ 0 := by omega
      exact_mod_cast this
    have hq : (nd.tab.den : ℚ) * v (nd.tab.t.length + nd.tab.ns) = (nd.tab.den : ℚ) * (zz : ℚ) := by
      rw [hnew]
      unfold eVal apNum cutS
      have : ((nd.tab.den * zz : Int) : ℚ) = (nd.tab.den : ℚ) * (zz : ℚ) := by push_cast; ring
      rw [← this, ← hzz]
      push_cast; ring
    exact mul_left_cancel₀ hd' hq

end Cut
end PPLV.PIPCore

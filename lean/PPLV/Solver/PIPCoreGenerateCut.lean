import PPLV.Solver.PIPCoreRows
/-!
# what `generate_cut` builds

The node after a cut is the old node with one row appended to `s` and `t`, one variable appended to the
bookkeeping lists, and (parametric cut with a new artificial parameter) one zero column appended to `t`:
`Cut.appendCut`.  `Cut.gc_eq` is the result in the three cases (`Cut.gc_np`, `Cut.gc_p`: the two reachable ones;
the re-use of an artificial parameter is dead code, `Cut.findArt_none_of_setting`), `Cut.gc_append` what they share.
-/
namespace PPLV.PIPCore
namespace Cut

/-- `cut_t` entry: `mod - denom` if `mod ≠ 0` -/
def cutf (d a : Int) : Int := if posRem a d ≠ 0 then posRem a d - d else 0
/-- numerator entry of the artificial parameter: `denom - mod` if `mod ≠ 0` -/
def negmod (d a : Int) : Int := if posRem a d ≠ 0 then d - posRem a d else 0

/-- `generate_parametric_cut` (PIP_Tree.cc:3568-3587): some parameter coefficient of the row is not a multiple of
    the denominator -/
def isParam (nd : SolNode) (index : Nat) : Bool :=
  ((mrow nd.tab.t index).drop 1).any fun a => a % nd.tab.den ≠ 0

/-- numerator `e` of the candidate artificial parameter `⌊e / den⌋` -/
def apNum (nd : SolNode) (index : Nat) : Row := (mrow nd.tab.t index).map (negmod nd.tab.den)

/-- the `s` part of the cut row -/
def cutS (nd : SolNode) (index : Nat) : Row := (mrow nd.tab.s index).map (fun a => posRem a nd.tab.den)

/-- `nd` with tableau `T` and the row `(cS, cT)` appended: the new row belongs to a new row variable (`basis` false), last in
    the variable order, with cached sign NEGATIVE -/
def appendCut (nd : SolNode) (T : Tableau) (arts : List ArtP) (cS cT : Row) : SolNode :=
  { nd with
    tab := { T with s := T.s ++ [cS], t := T.t ++ [cT] }
    varRow := nd.varRow ++ [nd.tab.t.length + nd.tab.ns]
    basis := nd.basis ++ [false]
    mapping := nd.mapping ++ [nd.tab.t.length]
    sign := nd.sign ++ [.negative]
    arts := arts }

/-- the node after a non-parametric cut -/
def ndNP (nd : SolNode) (index : Nat) : SolNode :=
  appendCut nd nd.tab nd.arts (cutS nd index) ((mrow nd.tab.t index).map (cutf nd.tab.den))

/-- the node after a parametric cut with a new artificial parameter -/
def ndP (nd : SolNode) (index : Nat) : SolNode :=
  appendCut nd { nd.tab with t := addZeroColumn nd.tab.t, nt := nd.tab.nt + 1 }
    (nd.arts ++ [ArtP.mk' (apNum nd index) nd.tab.den]) (cutS nd index)
    (rset ((mrow (addZeroColumn nd.tab.t) index).map (cutf nd.tab.den)) nd.tab.nt nd.tab.den)

/-- `ctx1`, `ctx2` (PIP_Tree.cc:3675-3725): the context rows `e - den·q ≥ 0` and `den·q + den - 1 - e ≥ 0` for the new
    parameter `q` (last column), `e` the numerator `apNum` -/
def ctx1 (nd : SolNode) (index : Nat) : Row :=
  (negmod nd.tab.den (rget (mrow nd.tab.t index) 0)
    :: ((mrow nd.tab.t index).drop 1).map (negmod nd.tab.den)) ++ [-nd.tab.den]

def ctx2 (nd : SolNode) (index : Nat) : Row :=
  ((if posRem (rget (mrow nd.tab.t index) 0) nd.tab.den ≠ 0
      then -(nd.tab.den - posRem (rget (mrow nd.tab.t index) 0) nd.tab.den) + nd.tab.den - 1
      else nd.tab.den - 1)
    :: (((mrow nd.tab.t index).drop 1).map (negmod nd.tab.den)).map (fun a => -a)) ++ [nd.tab.den]

/-- the context after a parametric cut with a new artificial parameter -/
def ctxP (nd : SolNode) (ctx : Mat) (index : Nat) : Mat :=
  addZeroColumn ctx ++ [ctx1 nd index, ctx2 nd index]

/-- the node after a parametric cut that re-uses the `j`-th artificial parameter of the node -/
def ndR (nd : SolNode) (index j : Nat) : SolNode :=
  appendCut nd nd.tab nd.arts (cutS nd index)
    (rset ((mrow nd.tab.t index).map (cutf nd.tab.den)) (nd.tab.nt - nd.arts.length + j) nd.tab.den)

theorem gc_eq (nd : SolNode) (ctx : Mat) (index : Nat) :
    generateCut nd ctx index =
      if isParam nd index then
        match findArt nd.arts (ArtP.mk' (apNum nd index) nd.tab.den) with
        | some j => (ndR nd index j, ctx)
        | none => (ndP nd index, ctxP nd ctx index)
      else (ndNP nd index, ctx) := by
  unfold generateCut
  dsimp only
  split
  · rename_i hp
    rw [if_pos (show isParam nd index = true from hp)]
    split <;> (rename_i h; rw [show findArt nd.arts (ArtP.mk' (apNum nd index) nd.tab.den) = _ from h]; rfl)
  · rename_i hp
    rw [if_neg (show ¬ isParam nd index = true from hp)]
    rfl

theorem gc_np (nd : SolNode) (ctx : Mat) (index : Nat) (h : isParam nd index = false) :
    generateCut nd ctx index = (ndNP nd index, ctx) := by
  rw [gc_eq, h]; rfl

theorem gc_p (nd : SolNode) (ctx : Mat) (index : Nat) (h : isParam nd index = true)
    (hf : findArt nd.arts (ArtP.mk' (apNum nd index) nd.tab.den) = none) :
    generateCut nd ctx index = (ndP nd index, ctxP nd ctx index) := by
  rw [gc_eq, if_pos h, hf]

/-- in every case the result is the node with a row appended to a tableau of the same `s`, `ns`, `den` -/
theorem gc_append (nd : SolNode) (ctx : Mat) (index : Nat) :
    ∃ (T : Tableau) (arts : List ArtP) (cT : Row) (ctx' : Mat),
      generateCut nd ctx index = (appendCut nd T arts (cutS nd index) cT, ctx')
      ∧ T.s = nd.tab.s ∧ T.ns = nd.tab.ns ∧ T.den = nd.tab.den ∧ T.t.length = nd.tab.t.length
      ∧ (RowsLen nd.tab.t nd.tab.nt → index < nd.tab.t.length → RowsLen T.t T.nt ∧ cT.length = T.nt) := by
  rw [gc_eq]
  split
  · split
    · exact ⟨nd.tab, nd.arts, _, ctx, rfl, rfl, rfl, rfl, rfl, fun h hi =>
        ⟨h, by rw [rset_length, List.length_map]; exact h.mrow hi⟩⟩
    · exact ⟨{ nd.tab with t := addZeroColumn nd.tab.t, nt := nd.tab.nt + 1 }, _, _, _, rfl, rfl, rfl, rfl,
        List.length_map _, fun h hi => ⟨h.addZeroColumn, by
          rw [rset_length, List.length_map]
          exact h.addZeroColumn.mrow (by rw [addZeroColumn, List.length_map]; exact hi)⟩⟩
  · exact ⟨nd.tab, nd.arts, _, ctx, rfl, rfl, rfl, rfl, rfl, fun h hi =>
      ⟨h, by rw [List.length_map]; exact h.mrow hi⟩⟩

/-- appending a row (and the new row variable, last in the variable order) keeps the node well-formed -/
theorem appendCut_wf {nd : SolNode} (hwf : WF nd) {T : Tableau} (arts : List ArtP) {cS cT : Row}
    (hs : T.s = nd.tab.s) (hns : T.ns = nd.tab.ns) (hden : T.den = nd.tab.den)
    (htl : T.t.length = nd.tab.t.length) (htr : RowsLen T.t T.nt)
    (hcS : cS.length = nd.tab.ns) (hcT : cT.length = T.nt) : WF (appendCut nd T arts cS cT) := by
  have hre := hwf.rows_eq
  have hvr := hwf.vr_len
  have hml := hwf.map_len
  have hbl := hwf.basis_len
  have hsl := hwf.sign_len
  obtain ⟨Ts, Tt, Td, Tns, Tnt⟩ := T
  dsimp only at hs hns hden htl htr hcT
  subst hs hns hden
  unfold appendCut
  refine ⟨?_, ?_, htr.append hcT, hwf.den_pos, ?_, hwf.vc_len, ?_, ?_, ?_, ?_, ?_, ?_⟩ <;> dsimp only
  · rw [List.length_append, List.length_append, htl, hre]; rfl
  · exact RowsLen.append hwf.s_cols hcS
  · rw [List.length_append, List.length_append, hvr]; rfl
  · rw [List.length_append, List.length_append, hsl]; rfl
  · rw [List.length_append, List.length_append, hml]; exact Nat.add_right_comm _ _ _
  · rw [List.length_append, List.length_append, hbl]; rfl
  · intro i hi'
    rw [List.length_append, List.length_singleton] at hi' ⊢
    rcases Nat.lt_succ_iff_lt_or_eq.mp hi' with hlt | rfl
    · obtain ⟨a, b, c⟩ := hwf.vr_ok i hlt
      rw [natGet_append_lt _ (Nat.lt_of_lt_of_eq hlt hvr.symm)]
      exact ⟨Nat.lt_succ_of_lt a, by rw [boolGet_append_lt _ (Nat.lt_of_lt_of_eq a hbl.symm)]; exact b,
        by rw [natGet_append_lt _ a]; exact c⟩
    · have hm : nd.tab.t.length + nd.tab.ns = nd.mapping.length := by rw [hml, hre]
      rw [natGet_append_at _ hvr.symm, hm]
      exact ⟨Nat.lt_succ_self _, boolGet_append_at _ hbl.symm, by rw [natGet_append_len, hre]⟩
  · intro j hj
    obtain ⟨a, b, c⟩ := hwf.vc_ok j hj
    rw [List.length_append, List.length_singleton]
    exact ⟨Nat.lt_succ_of_lt a, by rw [boolGet_append_lt _ (Nat.lt_of_lt_of_eq a hbl.symm)]; exact b,
      by rw [natGet_append_lt _ a]; exact c⟩
  · intro k hk
    rw [List.length_append, List.length_singleton] at hk ⊢
    rcases Nat.lt_succ_iff_lt_or_eq.mp hk with hlt | rfl
    · obtain ⟨m1, m2⟩ := hwf.map_ok k hlt
      rw [boolGet_append_lt _ (Nat.lt_of_lt_of_eq hlt hbl.symm), natGet_append_lt _ hlt]
      refine ⟨m1, fun hb => ?_⟩
      obtain ⟨a, b⟩ := m2 hb
      exact ⟨Nat.lt_succ_of_lt a, by rw [natGet_append_lt _ (Nat.lt_of_lt_of_eq a hvr.symm)]; exact b⟩
    · rw [boolGet_append_at _ hbl.symm, natGet_append_len]
      refine ⟨fun h => Bool.noConfusion h, fun _ => ⟨hre ▸ Nat.lt_succ_self _, ?_⟩⟩
      rw [natGet_append_at _ (hvr.trans hre).symm, hml, hre]

/-- **`generateCut_wf`**: the cut of a row of the tableau keeps the node well-formed -/
theorem _root_.PPLV.PIPCore.generateCut_wf (nd : SolNode) (ctx : Mat) (index : Nat) :
    WF nd → index < nd.tab.s.length → WF (generateCut nd ctx index).1 := by
  intro hwf hi
  obtain ⟨T, arts, cT, ctx', e, hs, hns, hden, htl, hrows⟩ := gc_append nd ctx index
  obtain ⟨htr, hcT⟩ := hrows hwf.t_cols (hwf.rows_eq ▸ hi)
  rw [e]
  exact appendCut_wf hwf arts hs hns hden htl htr
    (by rw [cutS, List.length_map]; exact RowsLen.mrow hwf.s_cols hi) hcT

end Cut
end PPLV.PIPCore

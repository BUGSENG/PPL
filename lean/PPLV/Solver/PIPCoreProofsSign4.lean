import PPLV.Solver.PIPCoreProofsSign3
import Mathlib.Tactic.Linarith
import Mathlib.Tactic.Ring
/-!
# sign family: what the answers of the oracle mean for a MIXED row in the two refinements,
and what fails when the denominator does not divide the parameter coefficients

Summary of what is settled here (PIP_Tree.cc:2714-2808); the statements about the whole analysis are
`signAnalysis_sound_partial`, `signAnalysis_negative_sound` and `signAnalysis_weak_sound`:
* first refinement: a `NEGATIVE` verdict is always true (`newSign1_negative_sound`); `POSITIVE` and
  `ZERO` verdicts are true under `DenDivides` (`newSign1_sound`) and can be FALSE otherwise
  (`refineMixed1_unsound_example`: `den = 2`, `t = -p`, context `p ≤ 1`: verdict `POSITIVE`, value `-1` at
  `p = 1`; `refineMixed1_unsound_zero_example`: verdict `ZERO`, value `-1`).
* second refinement (`strictRow_incompatible`): the `NEGATIVE` verdict only means `t(z) ≤ 0` (weak!) under
  `DenDivides` (`refineMixed2_not_strict_example`: `den = 1`, `t = -p`, value 0 at `p = 0`; this is the very
  case `row_sign` refuses to call `NEGATIVE`), and only `t(z) < den` without it (`refineMixed2_unsound_example`:
  `den = 3`, `t = p - 1`, context `p ≤ 2`: verdict `NEGATIVE`, value `+1` at `p = 2`), also through the whole
  `signAnalysis` (`signAnalysis_unsound_example`).
-/
namespace PPLV.PIPCore

/-! ### the first refinement -/

/-- the verdict computed from the two oracle answers is true of every parameter vector of the context,
    PROVIDED the denominator divides the parameter coefficients of the row -/
theorem newSign1_sound {cc : Mat → Option Bool} (hcc : CCContract cc) {n : Nat} (hn : 0 < n) {ctx : Mat}
    (hctx : ∀ r ∈ ctx, r.length = n) {ti : Row} (hti : ti.length = n) {den : Int} (hden : 0 < den)
    (hdiv : DenDivides den ti) {b1 b2 : Bool} (hb1 : ccRow cc ctx ti = some b1)
    (hb2 : ccRow cc ctx (complementAssign ti den) = some b2)
    {q : List Int} (hq : ParamVec n q) (hsat : CtxSat ctx q) : SignTrue (newSign1 b1 b2) (dot ti q) := by
  have hne : ti ≠ [] := by intro h; subst h; simp at hti; omega
  have hex := complementAssign_den_exact hden hq.2.1 hne hdiv
  have hlen2 : (complementAssign ti den).length = n := by rw [complementAssign_length]; exact hti
  cases b2 with
  | true =>
    cases b1 with
    | true => exact trivial
    | false => exact ccRow_false hcc hn hctx hti hb1 hq hsat
  | false =>
    have h2 := ccRow_false hcc hn hctx hlen2 hb2 hq hsat
    have hnn : 0 ≤ dot ti q := by
      by_contra hneg
      have := hex.2 (by omega)
      omega
    cases b1 with
    | true => exact hnn
    | false =>
      have := ccRow_false hcc hn hctx hti hb1 hq hsat
      exact absurd hnn (by omega)

/-- without any divisibility hypothesis the `NEGATIVE` verdict is true -/
theorem newSign1_negative_sound {cc : Mat → Option Bool} (hcc : CCContract cc) {n : Nat} (hn : 0 < n)
    {ctx : Mat} (hctx : ∀ r ∈ ctx, r.length = n) {ti : Row} (hti : ti.length = n)
    {b1 b2 : Bool} (hb1 : ccRow cc ctx ti = some b1) (hneg : newSign1 b1 b2 = .negative)
    {q : List Int} (hq : ParamVec n q) (hsat : CtxSat ctx q) : dot ti q < 0 := by
  cases b2 <;> cases b1 <;> simp [newSign1] at hneg
  exact ccRow_false hcc hn hctx hti hb1 hq hsat

/-- frame: a sign that is not `MIXED` at entry is not touched; a row outside the list is not touched -/
theorem refineMixed1_frame {cc : Mat → Option Bool} {T : Tableau} {ctx : Mat} {is : List Nat}
    {start : Nat} {sg sg' : List RowSign} {fs fs' : Firsts}
    (h : refineMixed1 cc T ctx start is (sg, fs) = some (sg', fs')) :
    ∀ k, (signGet sg k ≠ .mixed ∨ k ∉ is) → signGet sg' k = signGet sg k := by
  have := refineMixed1_pointwise (cc := cc) (T := T) (ctx := ctx) start
    (fun k s => (signGet sg k ≠ .mixed ∨ k ∉ is) → s = signGet sg k) is sg fs sg' fs'
    (fun i hi hmix _ _ _ _ hor => by
      rcases hor with h1 | h1
      · exact absurd (hmix (Or.inl h1)).symm h1
      · exact absurd hi h1) h (fun k _ => rfl)
  exact this

/-! ### the second refinement -/

/-- a row whose `t(z) > 0` is incompatible with the context stays below `den` on the context, and is `≤ 0`
    there when `den` divides its parameter coefficients -/
theorem strictRow_incompatible {cc : Mat → Option Bool} (hcc : CCContract cc) {n : Nat} (hn : 0 < n)
    {ctx : Mat} (hctx : ∀ r ∈ ctx, r.length = n) {ti : Row} (hti : ti.length = n) {den : Int} (hden : 0 < den)
    (hb : ccRow cc ctx (strictRow ti den) = some false) {q : List Int} (hq : ParamVec n q) (hsat : CtxSat ctx q) :
    dot ti q < den ∧ (DenDivides den ti → dot ti q ≤ 0) := by
  have hne : ti ≠ [] := by intro h0; rw [h0] at hti; simp at hti; omega
  have hlen2 : (strictRow ti den).length = n := by rw [strictRow_length]; exact hti
  have h2 := ccRow_false hcc hn hctx hlen2 hb hq hsat
  refine ⟨?_, fun hdiv => ?_⟩
  · rw [strictRow_dot hq.2.1 hne] at h2
    have := roundDelta_bounds hden (rget ti 0)
    omega
  · by_contra hpos
    have := (strictRow_exact hden hq.2.1 hne hdiv).2 (by omega)
    omega

/-! ### concrete data: a tiny exact oracle and the counterexamples -/

/-- a parameter vector with one parameter -/
theorem paramVec_two {q : List Int} (h : ParamVec 2 q) : ∃ p, q = [1, p] ∧ 0 ≤ p := by
  obtain ⟨ps, rfl, hps⟩ := h.cons_form
  have hl := h.1
  match ps, hl, hps with
  | [p], _, hps => exact ⟨p, rfl, hps p (by simp)⟩

theorem ctxSat_iff_all (m : Mat) (q : List Int) : CtxSat m q ↔ (m.all fun r => decide (0 ≤ dot r q)) = true := by
  unfold CtxSat; simp

/-- an oracle answering exactly the listed matrices (any other query: out of fuel) -/
def tableCC (tbl : List (Mat × Bool)) : Mat → Option Bool :=
  fun m => (tbl.find? (fun e => e.1 == m)).map (·.2)

/-- a table of matrices over one parameter `p` obeys the contract as soon as every listed answer is right -/
theorem tableCC_contract (tbl : List (Mat × Bool)) (hw : ∀ e ∈ tbl, ∃ r ∈ e.1, r.length = 2)
    (hok : ∀ e ∈ tbl, (e.2 = true ↔ ∃ p, 0 ≤ p ∧ CtxSat e.1 [1, p])) : CCContract (tableCC tbl) := by
  intro m n b hlen hn h
  unfold tableCC at h
  cases hf : tbl.find? (fun e => e.1 == m) with
  | none => rw [hf] at h; simp at h
  | some e =>
    rw [hf] at h
    simp only [Option.map_some, Option.some.injEq] at h
    have hmem := List.mem_of_find?_eq_some hf
    have heq : e.1 = m := by simpa using List.find?_some hf
    subst heq; subst h
    obtain ⟨r, hr, hr2⟩ := hw e hmem
    have hn2 : n = 2 := (hlen r hr).symm.trans hr2
    subst hn2
    rw [hok e hmem]
    constructor
    · rintro ⟨p, hp, hs⟩
      refine ⟨[1, p], ⟨rfl, rfl, fun x hx => ?_⟩, hs⟩
      simp only [List.mem_cons, List.not_mem_nil, or_false] at hx
      rcases hx with rfl | rfl
      · decide
      · exact hp
    · rintro ⟨q, hq, hs⟩
      obtain ⟨p, rfl, hp⟩ := paramVec_two hq
      exact ⟨p, hp, hs⟩

/-- **the first refinement is unsound when `den` does not divide the parameter coefficients.**
    `den = 2`, one row `t = [0, -1]` (`t(z) = -p`, i.e. the variable is `-p/2`), context `1 - p ≥ 0`.
    `complement_assign` gives `p - 2 ≥ 0`, incompatible with the context, so the row is declared `POSITIVE`
    by ANY oracle obeying the contract; but `p = 1` is in the context and `t(z) = -1 < 0`. -/
def exT1 : Tableau := { s := [[1]], t := [[0, -1]], den := 2, ns := 1, nt := 2 }
def exCtx1 : Mat := [[1, -1]]

theorem refineMixed1_unsound_example (cc : Mat → Option Bool) (hcc : CCContract cc)
    (sg' : List RowSign) (fs' : Firsts)
    (h : refineMixed1 cc exT1 exCtx1 0 [0] ([.mixed], { mix := some 0 }) = some (sg', fs')) :
    signGet sg' 0 = .positive ∧ ParamVec 2 [1, 1] ∧ CtxSat exCtx1 [1, 1] ∧ dot (mrow exT1.t 0) [1, 1] < 0
      ∧ ¬ SignTrue (signGet sg' 0) (dot (mrow exT1.t 0) [1, 1]) := by
  have hctx : ∀ r ∈ exCtx1, r.length = 2 := by decide
  have hq1 : ParamVec 2 [1, 1] := ⟨rfl, rfl, by decide⟩
  have hq0 : ParamVec 2 [1, 0] := ⟨rfl, rfl, by decide⟩
  have hs1 : CtxSat exCtx1 [1, 1] := by rw [ctxSat_iff_all]; decide
  have hs0 : CtxSat exCtx1 [1, 0] := by rw [ctxSat_iff_all]; decide
  have hpos : signGet sg' 0 = .positive := by
    simp only [refineMixed1] at h
    rw [if_neg (by decide)] at h
    cases hb1 : ccRow cc exCtx1 (mrow exT1.t 0) with
    | none => rw [hb1] at h; simp at h
    | some b1 =>
      rw [hb1] at h
      cases hb2 : ccRow cc exCtx1 (complementAssign (mrow exT1.t 0) exT1.den) with
      | none => rw [hb2] at h; simp at h
      | some b2 =>
        rw [hb2] at h
        have e1 : b1 = true := by
          cases b1 with
          | true => rfl
          | false =>
            have := ccRow_false hcc (by decide) hctx (by decide) hb1 hq0 hs0
            exact absurd this (by decide)
        have e2 : b2 = false := by
          cases b2 with
          | false => rfl
          | true =>
            obtain ⟨q, hq, hs, hd⟩ := ccRow_true hcc (n := 2) (by decide) hctx (by decide) hb2
            obtain ⟨p, rfl, hp⟩ := paramVec_two hq
            have h1 : 0 ≤ dot [1, -1] [1, p] := hs [1, -1] (by decide)
            have h2 : 0 ≤ dot [-2, 1] [1, p] := hd
            simp only [dot_cons, dot_nil_left] at h1 h2
            omega
        subst e1; subst e2
        simp only [Option.some.injEq, Prod.mk.injEq] at h
        rw [← h.1]; decide
  refine ⟨hpos, hq1, hs1, by decide, ?_⟩
  rw [hpos]
  show ¬ (0 ≤ dot (mrow exT1.t 0) [1, 1])
  decide

/-- the oracle that answers exactly the two queries of the example -/
def exCC1 : Mat → Option Bool :=
  tableCC [([[1, -1], [0, -1]], true), ([[1, -1], [-2, 1]], false)]

theorem exCC1_contract : CCContract exCC1 := by
  refine tableCC_contract _ (by decide) fun e he => ?_
  simp only [List.mem_cons, List.not_mem_nil, or_false] at he
  rcases he with rfl | rfl
  · exact ⟨fun _ => ⟨0, by decide, by rw [ctxSat_iff_all]; decide⟩, fun _ => rfl⟩
  · refine ⟨(fun h => by cases h), ?_⟩
    rintro ⟨p, hp, hs⟩
    have h1 : 0 ≤ dot [1, -1] [1, p] := hs [1, -1] (by decide)
    have h2 : 0 ≤ dot [-2, 1] [1, p] := hs [-2, 1] (by decide)
    simp only [dot_cons, dot_nil_left] at h1 h2
    omega

/-- the example is not vacuous: with the exact table oracle the loop does answer, `POSITIVE` -/
example : (refineMixed1 exCC1 exT1 exCtx1 0 [0] ([.mixed], { mix := some 0 })).map (·.1) = some [.positive] := by
  decide

/-- same data with the context `p = 1` (`1 - p ≥ 0`, `p - 1 ≥ 0`): both queries are incompatible, the row is
    declared `ZERO`, its value is `-1` on the whole (non-empty) context -/
def exCtx1z : Mat := [[1, -1], [-1, 1]]
def exCC1z : Mat → Option Bool :=
  tableCC [([[1, -1], [-1, 1], [0, -1]], false), ([[1, -1], [-1, 1], [-2, 1]], false)]

theorem exCC1z_contract : CCContract exCC1z := by
  refine tableCC_contract _ (by decide) fun e he => ?_
  simp only [List.mem_cons, List.not_mem_nil, or_false] at he
  rcases he with rfl | rfl
  · refine ⟨(fun h => by cases h), ?_⟩
    rintro ⟨p, hp, hs⟩
    have h1 : 0 ≤ dot [-1, 1] [1, p] := hs [-1, 1] (by decide)
    have h2 : 0 ≤ dot [0, -1] [1, p] := hs [0, -1] (by decide)
    simp only [dot_cons, dot_nil_left] at h1 h2
    omega
  · refine ⟨(fun h => by cases h), ?_⟩
    rintro ⟨p, hp, hs⟩
    have h1 : 0 ≤ dot [1, -1] [1, p] := hs [1, -1] (by decide)
    have h2 : 0 ≤ dot [-2, 1] [1, p] := hs [-2, 1] (by decide)
    simp only [dot_cons, dot_nil_left] at h1 h2
    omega

theorem refineMixed1_unsound_zero_example :
    CCContract exCC1z ∧
    (refineMixed1 exCC1z exT1 exCtx1z 0 [0] ([.mixed], { mix := some 0 })).map (·.1) = some [.zero] ∧
    ParamVec 2 [1, 1] ∧ CtxSat exCtx1z [1, 1] ∧ dot (mrow exT1.t 0) [1, 1] = -1 :=
  ⟨exCC1z_contract, by decide, ⟨rfl, rfl, by decide⟩, by rw [ctxSat_iff_all]; decide, by decide⟩

-- non-vacuity of `newSign1_sound`: `den = 2` divides the parameter coefficient of `t = 1 - 2p`
def exT1ok : Tableau := { s := [[1]], t := [[1, -2]], den := 2, ns := 1, nt := 2 }
example : DenDivides exT1ok.den (mrow exT1ok.t 0) := by
  intro j hj
  match j, hj with
  | 1, _ => decide
  | (j + 2), _ => simp [rget, mrow, exT1ok]
example : complementAssign [1, -2] 2 = [-2, 2] := by decide

/-- **the `NEGATIVE` of the second refinement is weak**: `den = 1`, `t = -p`, empty context: `t(z) > 0`,
    i.e. `-p - 1 ≥ 0`, is incompatible, the row becomes `NEGATIVE`, but `t(z) = 0` at `p = 0`.
    (This is the very case `row_sign` refuses to call `NEGATIVE`, PIP_Tree.cc:2212-2218.) -/
def exT2w : Tableau := { s := [[1]], t := [[0, -1]], den := 1, ns := 1, nt := 2 }
def exCC2w : Mat → Option Bool := tableCC [([[-1, -1]], false)]

theorem exCC2w_contract : CCContract exCC2w := by
  refine tableCC_contract _ (by decide) fun e he => ?_
  simp only [List.mem_cons, List.not_mem_nil, or_false] at he
  subst he
  refine ⟨(fun h => by cases h), ?_⟩
  rintro ⟨p, hp, hs⟩
  have h1 : 0 ≤ dot [-1, -1] [1, p] := hs [-1, -1] (by decide)
  simp only [dot_cons, dot_nil_left] at h1
  omega

theorem refineMixed2_not_strict_example :
    CCContract exCC2w ∧ DenDivides exT2w.den (mrow exT2w.t 0) ∧
    (refineMixed2 exCC2w exT2w [] [0] ([.mixed], { mix := some 0 })).map (·.1) = some [.negative] ∧
    ParamVec 2 [1, 0] ∧ CtxSat [] [1, 0] ∧ dot (mrow exT2w.t 0) [1, 0] = 0 ∧
    ¬ SignTrue .negative (dot (mrow exT2w.t 0) [1, 0]) := by
  refine ⟨exCC2w_contract, ?_, by decide, ⟨rfl, rfl, by decide⟩, by rw [ctxSat_iff_all]; decide,
    by decide, (by show ¬ (dot (mrow exT2w.t 0) [1, 0] < 0); decide)⟩
  intro j _
  show (1 : Int) ∣ _
  exact Int.one_dvd _

/-- **the second refinement is unsound when `den` does not divide the parameter coefficients.**
    `den = 3`, `t = [-1, 1]` (`t(z) = p - 1`), context `2 - p ≥ 0`.  The row `t_i(z) > 0` is built as
    `p - 3 ≥ 0`, incompatible with the context: the row is declared `NEGATIVE` by ANY oracle obeying the
    contract; but `p = 2` is in the context and `t(z) = 1 > 0`. -/
def exT2 : Tableau := { s := [[1]], t := [[-1, 1]], den := 3, ns := 1, nt := 2 }
def exCtx2 : Mat := [[2, -1]]

theorem refineMixed2_unsound_example (cc : Mat → Option Bool) (hcc : CCContract cc)
    (sg' : List RowSign) (fs' : Firsts)
    (h : refineMixed2 cc exT2 exCtx2 [0] ([.mixed], { mix := some 0 }) = some (sg', fs')) :
    signGet sg' 0 = .negative ∧ ParamVec 2 [1, 2] ∧ CtxSat exCtx2 [1, 2] ∧ dot (mrow exT2.t 0) [1, 2] = 1 := by
  have hctx : ∀ r ∈ exCtx2, r.length = 2 := by decide
  refine ⟨?_, ⟨rfl, rfl, by decide⟩, by rw [ctxSat_iff_all]; decide, by decide⟩
  simp only [refineMixed2] at h
  rw [if_neg (by decide)] at h
  rw [if_neg (by decide)] at h
  cases hb : ccRow cc exCtx2 (strictRow (mrow exT2.t 0) exT2.den) with
  | none => rw [hb] at h; simp at h
  | some b =>
    rw [hb] at h
    have e : b = false := by
      cases b with
      | false => rfl
      | true =>
        obtain ⟨q, hq, hs, hd⟩ := ccRow_true hcc (n := 2) (by decide) hctx (by decide) hb
        obtain ⟨p, rfl, hp⟩ := paramVec_two hq
        have h1 : 0 ≤ dot [2, -1] [1, p] := hs [2, -1] (by decide)
        have h2 : 0 ≤ dot [-3, 1] [1, p] := hd
        simp only [dot_cons, dot_nil_left] at h1 h2
        omega
    subst e
    simp only [Option.some.injEq, Prod.mk.injEq] at h
    rw [← h.1]; decide

/-- the same defect through the WHOLE sign analysis of one iteration: the row is syntactically mixed, the
    first refinement leaves it mixed (both `p - 1 ≥ 0` and `-p ≥ 0` are compatible with `p ≤ 2`), the second
    one declares it `NEGATIVE`; value `+1` at `p = 2`. -/
def exNd2 : SolNode :=
  { tab := exT2, basis := [true, false], mapping := [0, 0], varRow := [1], varColumn := [0],
    sign := [.unknown], big := none, arts := [], cons := [] }
def exCC2 : Mat → Option Bool :=
  tableCC [([[2, -1], [-1, 1]], true), ([[2, -1], [0, -1]], true), ([[2, -1], [-3, 1]], false)]

theorem exCC2_contract : CCContract exCC2 := by
  refine tableCC_contract _ (by decide) fun e he => ?_
  simp only [List.mem_cons, List.not_mem_nil, or_false] at he
  rcases he with rfl | rfl | rfl
  · exact ⟨fun _ => ⟨1, by decide, by rw [ctxSat_iff_all]; decide⟩, fun _ => rfl⟩
  · exact ⟨fun _ => ⟨0, by decide, by rw [ctxSat_iff_all]; decide⟩, fun _ => rfl⟩
  · refine ⟨(fun h => by cases h), ?_⟩
    rintro ⟨p, hp, hs⟩
    have h1 : 0 ≤ dot [2, -1] [1, p] := hs [2, -1] (by decide)
    have h2 : 0 ≤ dot [-3, 1] [1, p] := hs [-3, 1] (by decide)
    simp only [dot_cons, dot_nil_left] at h1 h2
    omega

theorem signAnalysis_unsound_example :
    CCContract exCC2 ∧ (signAnalysis exCC2 exNd2 exCtx2).map (·.1) = some [.negative] ∧
    ParamVec 2 [1, 2] ∧ CtxSat exCtx2 [1, 2] ∧ dot (mrow exNd2.tab.t 0) [1, 2] = 1 :=
  ⟨exCC2_contract, by decide, ⟨rfl, rfl, by decide⟩, by rw [ctxSat_iff_all]; decide, by decide⟩

end PPLV.PIPCore

import PPLV.Solver.PIPCoreRows
import Mathlib.Tactic.Linarith
import Mathlib.Tactic.Ring
/-!
# sign family: `row_sign` is sound, the split on a MIXED row partitions the context,
one step of the incremental sign update of the pivot

* `rowSign_sound`           : PIP_Tree.cc:2180-2220 (no big parameter)
* `complementAssign_one`, `split_partitions_context` : PIP_Tree.cc:223-242 and 3161-3207
* `signStep_sound`          : PIP_Tree.cc:3022-3046
-/
namespace PPLV.PIPCore

/-! ### 1. `row_sign` -/

theorem rowSignScan_from_positive : ∀ (x : Row) (r : RowSign),
    rowSignScan x .positive = some r → r = .positive ∧ ∀ a ∈ x, 0 ≤ a
  | [], r, h => by
    simp [rowSignScan] at h; exact ⟨h.symm, by simp⟩
  | a :: as, r, h => by
    unfold rowSignScan at h
    by_cases h1 : a > 0
    · simp only [h1, if_true] at h
      have := rowSignScan_from_positive as r (by simpa using h)
      refine ⟨this.1, ?_⟩
      intro b hb
      rcases List.mem_cons.1 hb with rfl | hb
      · omega
      · exact this.2 b hb
    · by_cases h2 : a < 0
      · simp [h1, h2] at h
      · simp only [h1, h2, if_false] at h
        have := rowSignScan_from_positive as r h
        refine ⟨this.1, ?_⟩
        intro b hb
        rcases List.mem_cons.1 hb with rfl | hb
        · omega
        · exact this.2 b hb

theorem rowSignScan_from_negative : ∀ (x : Row) (r : RowSign),
    rowSignScan x .negative = some r → r = .negative ∧ ∀ a ∈ x, a ≤ 0
  | [], r, h => by
    simp [rowSignScan] at h; exact ⟨h.symm, by simp⟩
  | a :: as, r, h => by
    unfold rowSignScan at h
    by_cases h1 : a > 0
    · simp [h1] at h
    · by_cases h2 : a < 0
      · simp only [h1, h2, if_true, if_false] at h
        have := rowSignScan_from_negative as r (by simpa using h)
        refine ⟨this.1, ?_⟩
        intro b hb
        rcases List.mem_cons.1 hb with rfl | hb
        · omega
        · exact this.2 b hb
      · simp only [h1, h2, if_false] at h
        have := rowSignScan_from_negative as r h
        refine ⟨this.1, ?_⟩
        intro b hb
        rcases List.mem_cons.1 hb with rfl | hb
        · omega
        · exact this.2 b hb

/-- what the scan of `row_sign` (started with `ZERO`) has seen when it does not leave with `MIXED` -/
theorem rowSignScan_from_zero : ∀ (x : Row) (r : RowSign),
    rowSignScan x .zero = some r →
      (r = .zero ∧ ∀ a ∈ x, a = 0) ∨ (r = .positive ∧ ∀ a ∈ x, 0 ≤ a) ∨ (r = .negative ∧ ∀ a ∈ x, a ≤ 0)
  | [], r, h => by
    simp [rowSignScan] at h; exact Or.inl ⟨h.symm, by simp⟩
  | a :: as, r, h => by
    unfold rowSignScan at h
    by_cases h1 : a > 0
    · simp only [h1, if_true] at h
      have := rowSignScan_from_positive as r (by simpa using h)
      refine Or.inr (Or.inl ⟨this.1, ?_⟩)
      intro b hb
      rcases List.mem_cons.1 hb with rfl | hb
      · omega
      · exact this.2 b hb
    · by_cases h2 : a < 0
      · simp only [h1, h2, if_true, if_false] at h
        have := rowSignScan_from_negative as r (by simpa using h)
        refine Or.inr (Or.inr ⟨this.1, ?_⟩)
        intro b hb
        rcases List.mem_cons.1 hb with rfl | hb
        · omega
        · exact this.2 b hb
      · simp only [h1, h2, if_false] at h
        have h0 : a = 0 := by omega
        rcases rowSignScan_from_zero as r h with ⟨e, hz⟩ | ⟨e, hz⟩ | ⟨e, hz⟩
        · refine Or.inl ⟨e, ?_⟩
          intro b hb
          rcases List.mem_cons.1 hb with rfl | hb
          · exact h0
          · exact hz b hb
        · refine Or.inr (Or.inl ⟨e, ?_⟩)
          intro b hb
          rcases List.mem_cons.1 hb with rfl | hb
          · omega
          · exact hz b hb
        · refine Or.inr (Or.inr ⟨e, ?_⟩)
          intro b hb
          rcases List.mem_cons.1 hb with rfl | hb
          · omega
          · exact hz b hb

/-- `rowSign` without a big parameter, unfolded -/
theorem rowSign_none (x : Row) :
    rowSign x none = (match rowSignScan x .zero with
      | none => RowSign.mixed
      | some sg => if sg = .negative ∧ rget x 0 = 0 then RowSign.mixed else sg) := rfl

/-- **`row_sign` is sound** (PIP_Tree.cc:2180-2220, no big parameter): for EVERY vector `q = 1 :: params`
    of non-negative parameters, `POSITIVE` ⇒ `x·q ≥ 0`, `NEGATIVE` ⇒ `x·q < 0` (strict), `ZERO` ⇒ `x·q = 0`.
    (No context is involved: the analysis is syntactic.) -/
theorem rowSign_sound {x : Row} {q : List Int} (hq : ParamVec x.length q) :
    SignTrue (rowSign x none) (dot x q) := by
  obtain ⟨ps, rfl, hps⟩ := hq.cons_form
  have hnn : ∀ b ∈ (1 :: ps : List Int), 0 ≤ b := hq.2.2
  rw [rowSign_none]
  cases hs : rowSignScan x .zero with
  | none => exact trivial
  | some sg =>
    rcases rowSignScan_from_zero x sg hs with ⟨rfl, h⟩ | ⟨rfl, h⟩ | ⟨rfl, h⟩
    · simp only [reduceCtorEq, false_and, if_false]
      exact dot_zero _ _ h
    · simp only [reduceCtorEq, false_and, if_false]
      exact dot_nonneg _ _ h hnn
    · by_cases h0 : rget x 0 = 0
      · simp only [h0, and_self, if_true]; exact trivial
      · simp only [h0, and_false, if_false]
        cases x with
        | nil => simp [rget] at h0
        | cons a as =>
          have ha : a ≤ 0 := h a (by simp)
          have ha0 : a ≠ 0 := by simpa [rget] using h0
          have := dot_nonpos as ps (fun b hb => h b (by simp [hb])) hps
          show dot (a :: as) (1 :: ps) < 0
          rw [dot_cons]; omega

-- non-vacuity: a positive, a negative, a zero and two mixed rows
example : rowSign [3, 0, 2] none = .positive ∧ rowSign [-1, 0, -2] none = .negative
    ∧ rowSign [0, 0, 0] none = .zero ∧ rowSign [0, -1, 0] none = .mixed ∧ rowSign [1, -1, 0] none = .mixed := by
  decide
example : ParamVec ([-1, 0, -2] : Row).length [1, 5, 0] := by
  refine ⟨rfl, rfl, ?_⟩; decide
example : dot [-1, 0, -2] [1, 5, 0] < 0 := by
  have h := rowSign_sound (x := [-1, 0, -2]) (q := [1, 5, 0]) ⟨rfl, rfl, by decide⟩
  rw [show rowSign [-1, 0, -2] none = .negative by decide] at h
  exact h

/-- the remark in the code: a non-positive row with constant term 0 is NOT negative (value 0 at 0) -/
example : rowSign [0, -1] none = .mixed ∧ ParamVec 2 [1, 0] ∧ dot [0, -1] [1, 0] = 0 := by
  refine ⟨by decide, ⟨rfl, rfl, by decide⟩, by decide⟩

/-! ### 2. the split on a mixed row (PIP_Tree.cc:3184-3230) -/

theorem complementAssign_one_cons (a : Int) (as : Row) :
    complementAssign (a :: as) 1 = (-a - 1) :: as.map (fun a => -a) := by
  simp [complementAssign, rget, rset]

/-- `complement_assign(x, y, 1)`: `x(z) = - y(z) - 1` -/
theorem complementAssign_one {y : Row} {q : List Int} (hq : q.head? = some 1)
    (_hlen : y.length = q.length) (hy : y ≠ []) :
    dot (complementAssign y 1) q = - dot y q - 1 := by
  obtain ⟨ps, rfl⟩ := head_one_form hq
  cases y with
  | nil => exact absurd rfl hy
  | cons a as =>
    rw [complementAssign_one_cons, dot_cons, dot_cons, dot_neg]; ring

example : dot (complementAssign [2, -3, 1] 1) [1, 4, 5] = - dot [2, -3, 1] [1, 4, 5] - 1 := by decide

/-- **the two children of a decision node partition the context**: for an INTEGER parameter vector the
    context row `t ≥ 0` of the true branch and the context row `complement_assign(t, 1) ≥ 0` of the false
    branch hold in exactly one of the two cases. -/
theorem split_partitions_context {n : Nat} {q : List Int} {t : Row}
    (hq : ParamVec n q) (ht : t.length = n) (hn : 0 < n) :
    ((0 ≤ dot t q) ∨ (0 ≤ dot (complementAssign t 1) q))
      ∧ ¬ ((0 ≤ dot t q) ∧ (0 ≤ dot (complementAssign t 1) q)) := by
  have hne : t ≠ [] := by
    intro h; subst h; simp at ht; omega
  have := complementAssign_one (y := t) (q := q) hq.2.1 (by rw [ht, hq.1]) hne
  rw [this]
  constructor
  · omega
  · omega

example : ParamVec 3 [1, 4, 5] ∧ ([2, -3, 1] : Row).length = 3
    ∧ ¬ (0 ≤ dot [2, -3, 1] [1, 4, 5]) ∧ 0 ≤ dot (complementAssign [2, -3, 1] 1) [1, 4, 5] := by
  refine ⟨⟨rfl, rfl, by decide⟩, rfl, by decide, by decide⟩

/-! ### 5. one step of the incremental sign update of the pivot (PIP_Tree.cc:3022-3046) -/

/-- a cached sign read with strict bounds: `ZERO : lo < v < hi`, `POSITIVE : lo < v`, `NEGATIVE : v < hn`.
    `SignTrue` is the reading with bounds `-1, 1, 0`, the reading up to one unit (`SignWeak den`) has
    `-den, den, den`. -/
def SignBd (lo hi hn : Int) : RowSign → Int → Prop
  | .zero, v => lo < v ∧ v < hi
  | .positive, v => lo < v
  | .negative, v => v < hn
  | _, _ => True

theorem signTrue_iff_bd {s : RowSign} {v : Int} : SignTrue s v ↔ SignBd (-1) 1 0 s v := by
  cases s with
  | unknown => exact Iff.rfl
  | mixed => exact Iff.rfl
  | zero =>
    show v = 0 ↔ -1 < v ∧ v < 1
    constructor
    · rintro rfl; exact ⟨by decide, by decide⟩
    · rintro ⟨a, b⟩; omega
  | positive => exact ⟨fun h => Int.lt_of_lt_of_le (by decide) h, fun h => h⟩
  | negative => exact Iff.rfl

/-- one step of the incremental sign update (PIP_Tree.cc:3022-3046) keeps the reading, whatever the bounds:
    the row value changes by `- c * qj` where `c` has the sign of `product` and `qj ≥ 0` (`qj = 1` in column 0) -/
theorem signStep_bd_sound {lo hi hn : Int} (hle : hi ≤ hn + 1) {sg : RowSign} {val qj c product : Int}
    {j : Nat} (h : SignBd lo hi hn sg val) (hq : 0 ≤ qj) (hq0 : j = 0 → qj = 1)
    (hpos : 0 < product → 0 < c) (hneg : product < 0 → c < 0) (hzero : product = 0 → c = 0) :
    SignBd lo hi hn (signStep sg product j) (val - c * qj) := by
  have up : c ≤ 0 → val ≤ val - c * qj := fun hc =>
    Int.le_sub_left_of_add_le (by
      have := Int.mul_nonpos_of_nonpos_of_nonneg hc hq
      omega)
  have down : 0 ≤ c → val - c * qj ≤ val := fun hc =>
    Int.sub_le_self _ (Int.mul_nonneg hc hq)
  rcases Int.lt_trichotomy product 0 with hp | hp | hp
  · have hc := hneg hp
    have hnp : ¬ product > 0 := Int.not_lt.mpr (Int.le_of_lt hp)
    have hu := up (Int.le_of_lt hc)
    cases sg with
    | unknown => exact trivial
    | mixed => exact trivial
    | zero =>
      show SignBd lo hi hn (if product > 0 then _ else if product < 0 then .positive else .zero) _
      rw [if_neg hnp, if_pos hp]
      exact Int.lt_of_lt_of_le h.1 hu
    | positive =>
      show SignBd lo hi hn (if product > 0 then .mixed else .positive) _
      rw [if_neg hnp]
      exact Int.lt_of_lt_of_le h hu
    | negative =>
      show SignBd lo hi hn (if product < 0 then .mixed else .negative) _
      rw [if_pos hp]
      exact trivial
  · have hc := hzero hp
    subst hc hp
    rw [Int.zero_mul, Int.sub_zero]
    cases sg <;> exact h
  · have hc := hpos hp
    have hnn : ¬ product < 0 := Int.not_lt.mpr (Int.le_of_lt hp)
    have hd := down (Int.le_of_lt hc)
    cases sg with
    | unknown => exact trivial
    | mixed => exact trivial
    | zero =>
      show SignBd lo hi hn (if product > 0 then (if j = 0 then .negative else .mixed) else _) _
      rw [if_pos hp]
      by_cases hj : j = 0
      · rw [if_pos hj, hq0 hj, Int.mul_one]
        have h2 : val < hi := h.2
        show val - c < hn
        omega
      · rw [if_neg hj]
        exact trivial
    | positive =>
      show SignBd lo hi hn (if product > 0 then .mixed else .positive) _
      rw [if_pos hp]
      exact trivial
    | negative =>
      show SignBd lo hi hn (if product < 0 then .mixed else .negative) _
      rw [if_neg hnn]
      exact Int.lt_of_le_of_lt hd h

/-- `t[i][j] -= c` where `c` has the sign of `product` (`c = product / s_pp` for `s_pp > 0`): the cached sign,
    updated by `signStep`, is still true of the new value `val - c * q_j`.  Column 0 is the constant term
    (`q_0 = 1`): only there can a `ZERO` row be declared `NEGATIVE`. -/
theorem signStep_sound {sg : RowSign} {val qj c product : Int} {j : Nat}
    (h : SignTrue sg val) (hq : 0 ≤ qj) (hq0 : j = 0 → qj = 1)
    (hpos : 0 < product → 0 < c) (hneg : product < 0 → c < 0) (hzero : product = 0 → c = 0) :
    SignTrue (signStep sg product j) (val - c * qj) :=
  signTrue_iff_bd.mpr (signStep_bd_sound (by decide) (signTrue_iff_bd.mp h) hq hq0 hpos hneg hzero)

-- non-vacuity: a ZERO row whose constant term decreases becomes NEGATIVE; a parameter column gives MIXED
example : signStep .zero 3 0 = .negative ∧ signStep .zero 3 2 = .mixed ∧ signStep .zero (-3) 2 = .positive
    ∧ signStep .positive (-1) 1 = .positive ∧ signStep .negative 4 1 = .negative := by decide
example : SignTrue (signStep .zero 6 0) (0 - 2 * 1) :=
  signStep_sound (sg := .zero) (val := 0) (qj := 1) (c := 2) (product := 6) (j := 0)
    rfl (by decide) (fun _ => rfl) (fun _ => by decide) (fun h => by omega) (fun h => by omega)

end PPLV.PIPCore

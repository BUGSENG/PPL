import PPLV.Solver.PIPCoreProofsPivot9
/-!
# the pivot: `scale`, `normalize` and `pivot` keep `TabSat`, `Feasible` and `WF`, in namespace `PPLV.PIPCore`

The proofs are in `PPLV.PIPCore.Piv` (`PIPCoreProofsPivot.lean`, `PIPCoreProofsPivot2.lean`, `PIPCoreTabSatQ.lean`,
`PIPCoreProofsPivot4.lean` .. `PIPCoreProofsPivot9.lean`); this file re-exports the results.  Concrete instances (`Piv.exNd`, a
2 x 2 node with one parameter and denominator 4) are in `PIPCoreProofsPivot9.lean` and at the end here.
-/
namespace PPLV.PIPCore

export Piv (scale_tabsat normalize_tabsat normalize_wf normalize_sign normalize_shape pivot_spec pivot_preserves'
  pivot_wf pivot_wf')

theorem scale_wf {nd : SolNode} (h : WF nd) {r : Int} (hr : 0 < r) :
    WF { nd with tab := nd.tab.scale r } := Piv.scale_wf h hr

/-- the entry formulas of `PivotSpec` preserve the solutions (pure algebra) -/
theorem pivotSpec_tabsat {nd0 nd' : SolNode} {pi pj : Nat} {f : Int} (h : WF nd0)
    (hpi : pi < nd0.tab.s.length) (hpj : pj < nd0.tab.ns) (hspp : mget nd0.tab.s pi pj ≠ 0)
    (hs : PivotSpec nd0 nd' pi pj f) {q : List Int} (hq : q.length = nd0.tab.nt) :
    ∀ v, TabSat nd0 v q ↔ TabSat nd' v q := Piv.pivotSpec_tabsat h hpi hpj hspp hs hq

/-- **the pivot of `PIP_Solution_Node::solve` does not change the solutions of the tableau** -/
theorem pivot_preserves {nd : SolNode} (h : WF nd) {pi pj : Nat} (hpi : pi < nd.tab.s.length)
    (hpj : pj < nd.tab.ns) (hspp : 0 < mget nd.tab.normalize.s pi pj) {q : List Int}
    (hq : q.length = nd.tab.nt) : ∀ v, (TabSat nd v q ↔ TabSat (pivot nd pi pj) v q) :=
  Piv.pivot_preserves h hpi hpj hspp hq

/-- the pivot preserves the feasible valuations too (the set of variables is the same) -/
theorem pivot_feasible {nd : SolNode} (h : WF nd) {pi pj : Nat} (hpi : pi < nd.tab.s.length)
    (hpj : pj < nd.tab.ns) (hspp : 0 < mget nd.tab.normalize.s pi pj) {q : List Int}
    (hq : q.length = nd.tab.nt) : ∀ v, (Feasible nd v q ↔ Feasible (pivot nd pi pj) v q) := by
  intro v
  unfold Feasible
  rw [← pivot_preserves h hpi hpj hspp hq v]
  have : (pivot nd pi pj).mapping.length = nd.mapping.length := by
    rw [Piv.pivot_eq]
    show ((nd.mapping.set _ _).set _ _).length = _
    rw [List.length_set, List.length_set]
  rw [this]

/-! ### non-vacuity -/

example : WF Piv.exNd ∧ 0 < Piv.exNd.tab.s.length ∧ 0 < Piv.exNd.tab.ns
    ∧ 0 < mget Piv.exNd.tab.normalize.s 0 0 ∧ [1, 2].length = Piv.exNd.tab.nt :=
  ⟨Piv.exNd_wf, by decide, by decide, by decide, by decide⟩

example : ∀ v, Feasible Piv.exNd v [1, 2] ↔ Feasible (pivot Piv.exNd 0 0) v [1, 2] :=
  pivot_feasible Piv.exNd_wf (by decide) (by decide) (by decide) (by decide)

/-- `Feasible` is inhabited on the instance (`Piv.exVal = (1, 1, 0, 4)`, `p = 2`) -/
example : Feasible (pivot Piv.exNd 0 0) Piv.exVal [1, 2] := by
  refine (pivot_feasible Piv.exNd_wf (by decide) (by decide) (by decide) (by decide) Piv.exVal).mp
    ⟨Piv.exVal_sat, ?_⟩
  decide

end PPLV.PIPCore

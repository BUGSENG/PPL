import PPLV.Solver.PIPCoreProofsDefs
import PPLV.Solver.PIPCoreProofsPivot10
import PPLV.Solver.PIPCoreProofsLex6
/-!
# end-to-end: the loop invariant and bookkeeping lemmas
-/
namespace PPLV.PIPCore

/-! ### what depends on which members -/

theorem tabSat_congr {nd nd' : SolNode} (h1 : nd'.tab = nd.tab) (h2 : nd'.varRow = nd.varRow)
    (h3 : nd'.varColumn = nd.varColumn) (v : Nat → Int) (q : List Int) : TabSat nd' v q ↔ TabSat nd v q := by
  unfold TabSat RowHolds
  rw [h1, h2, h3]

theorem feasible_congr {nd nd' : SolNode} (h1 : nd'.tab = nd.tab) (h2 : nd'.varRow = nd.varRow)
    (h3 : nd'.varColumn = nd.varColumn) (h4 : nd'.mapping = nd.mapping) (v : Nat → Int) (q : List Int) :
    Feasible nd' v q ↔ Feasible nd v q := by
  unfold Feasible
  rw [tabSat_congr h1 h2 h3, h4]

theorem isLexMin_of_feasible_iff {nd nd' : SolNode} (hns : nd'.tab.ns = nd.tab.ns) {q q' : List Int}
    (h : ∀ v, Feasible nd' v q' ↔ Feasible nd v q) {x : List Int} : IsLexMin nd' q' x → IsLexMin nd q x := by
  rintro ⟨v, hf, hx, hmin⟩
  refine ⟨v, (h v).mp hf, by rw [← hns]; exact hx, fun w hw => ?_⟩
  rw [← hns]
  exact hmin w ((h w).mpr hw)

theorem isLexMin_congr {nd nd' : SolNode} (h1 : nd'.tab = nd.tab) (h2 : nd'.varRow = nd.varRow)
    (h3 : nd'.varColumn = nd.varColumn) (h4 : nd'.mapping = nd.mapping) {q : List Int} {x : List Int} :
    IsLexMin nd' q x → IsLexMin nd q x :=
  isLexMin_of_feasible_iff (by rw [h1]) (fun v => feasible_congr h1 h2 h3 h4 v q)

theorem tabSatQ_congr {nd nd' : SolNode} (h1 : nd'.tab = nd.tab) (h2 : nd'.varRow = nd.varRow)
    (h3 : nd'.varColumn = nd.varColumn) (v : Nat → ℚ) (q : List Int) : TabSatQ nd' v q ↔ TabSatQ nd v q := by
  unfold TabSatQ RowHoldsQ
  rw [h1, h2, h3]

theorem intInv_congr {nd nd' : SolNode} (h1 : nd'.tab = nd.tab) (h2 : nd'.varRow = nd.varRow)
    (h3 : nd'.varColumn = nd.varColumn) (h4 : nd'.mapping = nd.mapping) {q : List Int} :
    IntInv nd q → IntInv nd' q := by
  intro h v hv hx k hk
  rw [h4] at hk
  exact h v ((tabSatQ_congr h1 h2 h3 v q).mp hv) (by rw [← h1]; exact hx) k hk

theorem wf_congr {nd nd' : SolNode} (h1 : nd'.tab = nd.tab) (h2 : nd'.varRow = nd.varRow)
    (h3 : nd'.varColumn = nd.varColumn) (h4 : nd'.mapping = nd.mapping) (h5 : nd'.basis = nd.basis)
    (h6 : nd'.sign.length = nd.sign.length) : WF nd → WF nd' := by
  intro h
  exact { rows_eq := by rw [h1]; exact h.rows_eq
          s_cols := by rw [h1]; exact h.s_cols
          t_cols := by rw [h1]; exact h.t_cols
          den_pos := by rw [h1]; exact h.den_pos
          vr_len := by rw [h1, h2]; exact h.vr_len
          vc_len := by rw [h1, h3]; exact h.vc_len
          sign_len := by rw [h1, h6]; exact h.sign_len
          map_len := by rw [h1, h4]; exact h.map_len
          basis_len := by rw [h4, h5]; exact h.basis_len
          vr_ok := by rw [h1, h2, h4, h5]; exact h.vr_ok
          vc_ok := by rw [h1, h3, h4, h5]; exact h.vc_ok
          map_ok := by rw [h1, h2, h3, h4, h5]; exact h.map_ok }

theorem signAt_congr {nd nd' : SolNode} (h1 : nd'.tab = nd.tab) (h2 : nd'.sign = nd.sign) {q : List Int} :
    SignAt nd q → SignAt nd' q := by
  intro h k
  rw [h1, h2]
  exact h k

/-! ### the members `pivot` does not touch -/

theorem pivot_arts (nd : SolNode) (pi pj : Nat) : (pivot nd pi pj).arts = nd.arts := rfl
theorem pivot_cons (nd : SolNode) (pi pj : Nat) : (pivot nd pi pj).cons = nd.cons := rfl
theorem pivot_big (nd : SolNode) (pi pj : Nat) : (pivot nd pi pj).big = nd.big := rfl

/-! ### the loop invariant

`S` is the set of parameter vectors (for the columns that existed when the node's own artificial parameters
start, `n0` of them) the call is responsible for; `q = extendArts nd.arts qpre` is the vector over all
`nd.tab.nt` columns. -/

structure Inv (S : List Int → Prop) (n0 : Nat) (nd : SolNode) (ctx : Mat) : Prop where
  wf : WF nd
  lex : LexPos nd
  big : nd.big = none
  arts : ArtsWF n0 nd.arts
  nt_eq : n0 + nd.arts.length = nd.tab.nt
  n0_pos : 0 < n0
  ctx_len : ∀ r ∈ ctx, r.length = nd.tab.nt
  cons_len : RowsLe nd.cons nd.tab.nt
  pv : ∀ qpre, S qpre → ParamVec n0 qpre
  pvq : ∀ qpre, S qpre → ParamVec nd.tab.nt (extendArts nd.arts qpre)
  rel : ∀ qpre, S qpre → consHold nd.cons (extendArts nd.arts qpre) = true →
    CtxSat ctx (extendArts nd.arts qpre)
  sgn : ∀ qpre, S qpre → CtxSat ctx (extendArts nd.arts qpre) → SignAt nd (extendArts nd.arts qpre)
  int : ∀ qpre, S qpre → IntInv nd (extendArts nd.arts qpre)

/-! ### `choosePivot` returns a row of the tableau and the code's column for it -/

theorem choosePivot_spec (ctl : Ctl) (nd : SolNode) (sg : List RowSign) :
    ∀ (is : List Nat) (st : Option (Nat × Nat)) (pi pj : Nat),
      (∀ i ∈ is, i < nd.tab.s.length) →
      (∀ a b, st = some (a, b) → a < nd.tab.s.length ∧
        findLexicoMinimalColumn nd.tab.s nd.mapping nd.basis (mrow nd.tab.s a) 0 = some b) →
      choosePivot ctl nd sg is st = some (some (pi, pj)) →
      pi < nd.tab.s.length ∧
        findLexicoMinimalColumn nd.tab.s nd.mapping nd.basis (mrow nd.tab.s pi) 0 = some pj := by
  intro is
  induction is with
  | nil =>
    intro st pi pj _ hst h
    simp only [choosePivot] at h
    exact hst pi pj (by injection h)
  | cons i is ih =>
    intro st pi pj his hst h
    have hi : i < nd.tab.s.length := his i (List.mem_cons_self ..)
    have his' : ∀ k ∈ is, k < nd.tab.s.length := fun k hk => his k (List.mem_cons_of_mem _ hk)
    by_cases hs : signGet sg i ≠ .negative
    · rw [choosePivot, if_pos hs] at h
      exact ih st pi pj his' hst h
    · rw [choosePivot, if_neg hs] at h
      cases hj : findLexicoMinimalColumn nd.tab.s nd.mapping nd.basis (mrow nd.tab.s i) 0 with
      | none => rw [hj] at h; exact absurd h (by simp)
      | some j =>
        rw [hj] at h
        have hnew : ∀ a b, (some (i, j) : Option (Nat × Nat)) = some (a, b) → a < nd.tab.s.length ∧
            findLexicoMinimalColumn nd.tab.s nd.mapping nd.basis (mrow nd.tab.s a) 0 = some b := by
          intro a b hab
          injection hab with hab
          injection hab with ha hb
          subst ha; subst hb
          exact ⟨hi, hj⟩
        have key : ∀ (better : Bool),
            (if better = true then
              (if ctl.piv = 0 then some (some (i, j)) else choosePivot ctl nd sg is (some (i, j)))
            else choosePivot ctl nd sg is st) = some (some (pi, pj)) →
            pi < nd.tab.s.length ∧
              findLexicoMinimalColumn nd.tab.s nd.mapping nd.basis (mrow nd.tab.s pi) 0 = some pj := by
          intro better hb
          cases better with
          | true =>
            simp only [if_true] at hb
            by_cases hp : ctl.piv = 0
            · rw [if_pos hp] at hb
              injection hb with hb
              exact hnew pi pj hb
            · rw [if_neg hp] at hb
              exact ih _ pi pj his' hnew hb
          | false =>
            simp only [Bool.false_eq_true, if_false] at hb
            exact ih st pi pj his' hst hb
        exact key _ h

theorem rangeFrom_lt (a b : Nat) : ∀ i ∈ rangeFrom a b, i < b := by
  intro i hi
  unfold rangeFrom at hi
  rw [List.mem_map] at hi
  obtain ⟨k, hk, rfl⟩ := hi
  rw [List.mem_range] at hk
  omega

end PPLV.PIPCore

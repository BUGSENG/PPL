import PPLV.Solver.PendingProofsSetup7

/-!
# the cost row of the second phase denotes the objective

`secondPhaseCost_spec`: for a mapping laid out as `MapOK` (distinct columns, increasing with the variable, all
before the sign column) the row built at :1917–:1952 has the tableau's width, sign entry 1, and evaluates at a
tableau valuation `y` to `±obj·(proj mapping y) + y(sign column)` (`+` when maximising, `−` when minimising; the
inhomogeneous term of the objective is not entered).  Hence `objAt (secondPhaseCost s) y` is the (signed) objective
at the projected point for every `NonnegPt y`.
-/
namespace PPLV.Solver.Pend
open PPLV.Lin PPLV.Solver.Tab

/-- the objective coefficients with the sign of the optimisation mode -/
def sgnObj (s : LPState) : List Int := s.obj.coeffs.map fun a => if s.maximize then a else -a

theorem sgnObj_getD (s : LPState) (i : Nat) :
    (sgnObj s).getD i 0 = if s.maximize then s.obj.coeffs.getD i 0 else - s.obj.coeffs.getD i 0 := by
  unfold sgnObj
  rw [List.getD_eq_getElem?_getD, List.getElem?_map, List.getD_eq_getElem?_getD]
  cases s.obj.coeffs[i]? with
  | none => simp
  | some a => rfl

theorem secondPhaseCost_spec (s : LPState) (nn : List Bool) (n j : Nat) (hM : MapOK s.mapping nn n j)
    (hcols : 1 + j ≤ s.working_cost.length - 1) (hobj : s.obj.coeffs.length ≤ n) :
    (secondPhaseCost s).length = s.working_cost.length ∧
    (secondPhaseCost s).get (s.working_cost.length - 1) = 1 ∧
    ∀ y : Val, dot (secondPhaseCost s) y = dot (sgnObj s) (proj s.mapping y) + y (s.working_cost.length - 1) := by
  unfold secondPhaseCost
  set size := s.working_cost.length with hsize
  have hsz : size - 1 < (zeros size).length := by simp [zeros]; omega
  have key := fwdFold_inv
    (fun (t : Nat) (r : Row) => r.length = size ∧
      (∀ col, (col = 0 ∨ ∀ u, u < t → hiCol (s.mapping.getD (u+1) (0, 0)) < col) → col ≠ size - 1 → r.getD col 0 = 0) ∧
      r.getD (size - 1) 0 = 1 ∧
      ∀ y : Val, dot r y = dot ((sgnObj s).take t) (proj s.mapping y) + y (size - 1))
    (fun i (c : Row) =>
      let a := if s.maximize then s.obj.coeffs.getD i 0 else - s.obj.coeffs.getD i 0
      if a != 0 then
        let m := s.mapping.getD (i+1) (0, 0)
        let c := c.set m.1 a
        if m.2 != 0 then c.set m.2 (-a) else c
      else c)
    s.obj.coeffs.length 0 ((zeros size).set (size - 1) 1)
    ⟨by simp [zeros], fun col _ hne => by
        rw [getD_set, if_neg (fun a => hne a.1)]; exact zeros_getD _ _,
      by rw [getD_set, if_pos ⟨rfl, hsz⟩],
      fun y => by rw [dot_set _ _ _ _ hsz, dot_zeros, zeros_getD]; simp⟩
    (by
      intro t _ ht r ⟨h1, h2, hlast, h3⟩
      simp only [Nat.zero_add] at ht
      have htn : t < n := by omega
      obtain ⟨c1, c2, c3, c4⟩ := hM.cols t htn
      simp only
      rw [← sgnObj_getD s t]
      by_cases ha : (sgnObj s).getD t 0 = 0
      · have : ((sgnObj s).getD t 0 != 0) = false := by rw [ha]; rfl
        rw [this]
        simp only [Bool.false_eq_true, if_false]
        refine ⟨h1, fun col hcol hne => h2 col ?_ hne, hlast, fun y => ?_⟩
        · rcases hcol with h | h
          · exact Or.inl h
          · exact Or.inr (fun u hu => h u (by omega))
        · rw [h3 y, dot_take_succ, ha]; simp
      · have : ((sgnObj s).getD t 0 != 0) = true := bne_iff_ne.mpr ha
        rw [this]
        simp only [if_true]
        have hm1lt : (s.mapping.getD (t+1) (0, 0)).1 < size - 1 := by unfold hiCol at c4; split at c4 <;> omega
        have hfree1 : r.getD (s.mapping.getD (t+1) (0, 0)).1 0 = 0 :=
          h2 _ (Or.inr (fun u hu => hM.ord u t hu htn)) (by omega)
        have hlt1 : (s.mapping.getD (t+1) (0, 0)).1 < r.length := by rw [h1]; omega
        by_cases hm2 : (s.mapping.getD (t+1) (0, 0)).2 = 0
        · have : ((s.mapping.getD (t+1) (0, 0)).2 != 0) = false := by rw [hm2]; rfl
          rw [this]
          simp only [Bool.false_eq_true, if_false]
          clear c2
          refine ⟨by rw [List.length_set]; exact h1, fun col hcol hne => ?_, ?_, fun y => ?_⟩
          · rw [getD_set]
            have hne' : ¬ (col = (s.mapping.getD (t+1) (0, 0)).1 ∧ (s.mapping.getD (t+1) (0, 0)).1 < r.length) := by
              rintro ⟨h, -⟩
              rcases hcol with h0 | h0
              · omega
              · have := h0 t (by omega); unfold hiCol at this; rw [if_pos hm2] at this; omega
            rw [if_neg hne']
            apply h2 _ _ hne
            rcases hcol with h | h
            · exact Or.inl h
            · exact Or.inr (fun u hu => h u (by omega))
          · rw [getD_set, if_neg (by rintro ⟨h, -⟩; omega)]; exact hlast
          · rw [dot_set _ _ _ _ hlt1, hfree1, h3 y, dot_take_succ]
            simp only [proj, hm2]
            simp; ring
        · have : ((s.mapping.getD (t+1) (0, 0)).2 != 0) = true := bne_iff_ne.mpr hm2
          rw [this]
          simp only [if_true]
          have hm2' : (s.mapping.getD (t+1) (0, 0)).2 = (s.mapping.getD (t+1) (0, 0)).1 + 1 :=
            c2.resolve_left hm2
          clear c2
          have hhi : hiCol (s.mapping.getD (t+1) (0, 0)) = (s.mapping.getD (t+1) (0, 0)).2 := by
            unfold hiCol; rw [if_neg hm2]
          have hm2lt : (s.mapping.getD (t+1) (0, 0)).2 < size - 1 := by rw [hhi] at c4; omega
          have hfree2 : r.getD (s.mapping.getD (t+1) (0, 0)).2 0 = 0 :=
            h2 _ (Or.inr (fun u hu => by have := hM.ord u t hu htn; omega)) (by omega)
          have hlt2 : (s.mapping.getD (t+1) (0, 0)).2 < r.length := by rw [h1]; omega
          refine ⟨by rw [List.length_set, List.length_set]; exact h1, fun col hcol hne => ?_, ?_, fun y => ?_⟩
          · rw [getD_set, getD_set]
            have hne2 : ¬ (col = (s.mapping.getD (t+1) (0, 0)).2 ∧ (s.mapping.getD (t+1) (0, 0)).2 <
                (r.set (s.mapping.getD (t+1) (0, 0)).1 ((sgnObj s).getD t 0)).length) := by
              rintro ⟨h, -⟩
              rcases hcol with h0 | h0
              · omega
              · have := h0 t (by omega); rw [hhi] at this; omega
            have hne1 : ¬ (col = (s.mapping.getD (t+1) (0, 0)).1 ∧ (s.mapping.getD (t+1) (0, 0)).1 < r.length) := by
              rintro ⟨h, -⟩
              rcases hcol with h0 | h0
              · omega
              · have := h0 t (by omega); rw [hhi] at this; omega
            rw [if_neg hne2, if_neg hne1]
            apply h2 _ _ hne
            rcases hcol with h | h
            · exact Or.inl h
            · exact Or.inr (fun u hu => h u (by omega))
          · rw [getD_set, if_neg (by rintro ⟨h, -⟩; omega), getD_set, if_neg (by rintro ⟨h, -⟩; omega)]
            exact hlast
          · rw [dot_set _ _ _ _ (by rw [List.length_set]; exact hlt2), getD_set,
              if_neg (by rintro ⟨h, -⟩; omega), hfree2, dot_set _ _ _ _ hlt1, hfree1, h3 y, dot_take_succ]
            simp only [proj, this, if_true]
            push_cast; ring)
  simp only [Nat.zero_add] at key
  obtain ⟨k1, -, k3, k4⟩ := key
  have hlen : (sgnObj s).length = s.obj.coeffs.length := by simp [sgnObj]
  refine ⟨k1, k3, fun y => ?_⟩
  rw [k4 y, ← hlen, List.take_length]

/-- the cost row of the second phase is the objective (with the sign of the mode, without its inhomogeneous
    term) at the projected point -/
theorem objAt_secondPhaseCost (s : LPState) (nn : List Bool) (n j : Nat) (hM : MapOK s.mapping nn n j)
    (hcols : 1 + j ≤ s.working_cost.length - 1) (hobj : s.obj.coeffs.length ≤ n) (y : Val)
    (hy : NonnegPt s.working_cost.length y) :
    objAt (secondPhaseCost s) y = dot (sgnObj s) (proj s.mapping y) := by
  obtain ⟨h1, h2, h3⟩ := secondPhaseCost_spec s nn n j hM hcols hobj
  unfold objAt
  rw [h1, h2, h3 y, hy.2.1]
  simp

end PPLV.Solver.Pend

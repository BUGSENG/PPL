import PPLV.Solver.PIPCoreProofsPivot6
/-!
# pivot proofs: `pivot` satisfies `PivotSpec`; `pivot` preserves the solutions
-/
namespace PPLV.PIPCore.Piv

/-! ### `pivot`, pass by pass -/

/-- the normalised tableau with the pivot row replaced by the identity row (PIP_Tree.cc:2900-2922) -/
def idRowTab (T0 : Tableau) (pi pj : Nat) : Tableau :=
  { T0 with s := msetRow T0.s pi (rset (zeroRow T0.ns) pj T0.den),
            t := msetRow T0.t pi (zeroRow T0.nt) }

def passSTab (T0 : Tableau) (pi pj : Nat) : Tableau :=
  (rowsDown T0.s.length).foldl (pivotRowS (mrow T0.s pi) (mget T0.s pi pj) pj) (idRowTab T0 pi pj)

def passTSt (T0 : Tableau) (sg0 : List RowSign) (pi pj : Nat) : Tableau × List RowSign :=
  (rowsDown T0.s.length).foldl (pivotRowT (mrow T0.t pi) (mget T0.s pi pj) pj)
    (passSTab T0 pi pj, sg0)

def pivotPasses (T0 : Tableau) (sg0 : List RowSign) (pi pj : Nat) : Tableau :=
  if mget T0.s pi pj ≠ T0.den then
    (rowsDown T0.s.length).foldl (pivotRowC (mget T0.s pi pj) T0.den pj) (passTSt T0 sg0 pi pj).1
  else (passTSt T0 sg0 pi pj).1

theorem pivot_eq (nd : SolNode) (pi pj : Nat) :
    pivot nd pi pj =
      { swapBasis { nd with tab := nd.tab.normalize } pi pj with
        tab := pivotPasses nd.tab.normalize (nd.sign.set pi .zero) pi pj
        sign := (passTSt nd.tab.normalize (nd.sign.set pi .zero) pi pj).2 } := rfl

/-! ### the identity-row tableau -/

section idrow
variable (T0 : Tableau) (pi pj : Nat)

theorem idRow_s_len : (idRowTab T0 pi pj).s.length = T0.s.length := msetRow_length _ _ _
theorem idRow_t_len : (idRowTab T0 pi pj).t.length = T0.t.length := msetRow_length _ _ _

theorem idRow_s_ne {i : Nat} (h : i ≠ pi) (j : Nat) :
    mget (idRowTab T0 pi pj).s i j = mget T0.s i j := by
  unfold mget idRowTab; rw [mrow_msetRow_ne _ (Ne.symm h)]

theorem idRow_t_ne {i : Nat} (h : i ≠ pi) (j : Nat) :
    mget (idRowTab T0 pi pj).t i j = mget T0.t i j := by
  unfold mget idRowTab; rw [mrow_msetRow_ne _ (Ne.symm h)]

theorem idRow_s_piv (hpi : pi < T0.s.length) (hpj : pj < T0.ns) :
    mget (idRowTab T0 pi pj).s pi pj = T0.den := by
  unfold mget idRowTab
  rw [mrow_msetRow_same _ hpi, rget_rset_same _ (by rw [zeroRow_length]; exact hpj)]

theorem idRow_s_row (hpi : pi < T0.s.length) {j : Nat} (hj : j ≠ pj) :
    mget (idRowTab T0 pi pj).s pi j = 0 := by
  unfold mget idRowTab
  rw [mrow_msetRow_same _ hpi, rget_rset_ne _ (Ne.symm hj), rget_zeroRow]

theorem idRow_t_row (hpi : pi < T0.t.length) (c : Nat) :
    mget (idRowTab T0 pi pj).t pi c = 0 := by
  unfold mget idRowTab
  rw [mrow_msetRow_same _ hpi, rget_zeroRow]

end idrow

/-! ### the three passes together -/

theorem passes_inv (T0 : Tableau) (sg0 : List RowSign) {pi pj : Nat}
    (hrows : T0.s.length = T0.t.length) (hs : RowsLen T0.s T0.ns) (ht : RowsLen T0.t T0.nt)
    (hpj : pj < T0.ns) (hspp : 0 < mget T0.s pi pj) :
    ∃ f, PInv (idRowTab T0 pi pj) (mrow T0.s pi) (mrow T0.t pi) (mget T0.s pi pj) pj
      (fun _ _ => True) (fun _ _ => True) (pivotPasses T0 sg0 pi pj) f := by
  have hn : (idRowTab T0 pi pj).s.length = T0.s.length := idRow_s_len T0 pi pj
  have hpj' : pj < (idRowTab T0 pi pj).ns := hpj
  -- the start
  have init : JS (idRowTab T0 pi pj) (mrow T0.s pi) (mrow T0.t pi) (mget T0.s pi pj) pj
      (fun _ => False) (idRowTab T0 pi pj) := by
    refine ⟨1, ?_⟩
    exact {
      f_pos := Int.one_pos
      den_eq := (Int.one_mul _).symm
      s_len := rfl
      t_len := by rw [idRow_t_len, idRow_s_len, hrows]
      ns_eq := rfl
      nt_eq := rfl
      s_rows := hs.msetRow pi (by rw [rset_length, zeroRow_length])
      t_rows := ht.msetRow pi (zeroRow_length _)
      s_ent := fun i j _ _ => ⟨fun h => absurd h.1 id, fun _ => (Int.one_mul _).symm⟩
      t_ent := fun i j _ _ => ⟨fun h => absurd h id, fun _ => (Int.one_mul _).symm⟩ }
  -- first pass
  have h1 := passS_inv hspp hpj' _ init
  rw [hn] at h1
  change JS _ _ _ _ _ _ (passSTab T0 pi pj) at h1
  obtain ⟨f1, hI1⟩ := h1
  -- second pass
  have init2 : JT (idRowTab T0 pi pj) (mrow T0.s pi) (mrow T0.t pi) (mget T0.s pi pj) pj
      (fun _ => False) (passSTab T0 pi pj, sg0) :=
    ⟨f1, hI1.monoS (fun a b _ _ h => h.2) (fun a b ha _ h hn' => absurd ⟨hn ▸ ha, h⟩ hn')⟩
  have h2 := passT_inv hspp hpj' _ init2
  rw [hn] at h2
  change JT _ _ _ _ _ _ (passTSt T0 sg0 pi pj) at h2
  obtain ⟨f2, hI2⟩ := h2
  -- third pass
  unfold pivotPasses
  by_cases hc : mget T0.s pi pj ≠ T0.den
  · rw [if_pos hc]
    have init3 : JC (idRowTab T0 pi pj) (mrow T0.s pi) (mrow T0.t pi) (mget T0.s pi pj) pj
        (fun _ => False) (passTSt T0 sg0 pi pj).1 :=
      ⟨f2, hI2.mono (fun a b _ _ h => Or.inl h)
        (fun a b _ _ h hn' => by rcases h with h | h; exact absurd h hn'; exact absurd h id)
        (fun a b _ _ _ => trivial) (fun a b ha _ _ hn' => absurd (hn ▸ ha) hn')⟩
    have h3 := passC_inv hspp hpj' _ init3
    rw [hn] at h3
    obtain ⟨f3, hI3⟩ := h3
    exact ⟨f3, hI3.monoS (fun a b _ _ _ => trivial)
      (fun a b ha _ _ hn' => absurd (Or.inr (hn ▸ ha)) hn')⟩
  · rw [if_neg hc]
    have hc' : mget T0.s pi pj = T0.den := not_not.mp hc
    refine ⟨f2, hI2.mono (fun a b _ _ _ => trivial) (fun a b ha _ _ hn' => ?_)
      (fun a b _ _ _ => trivial) (fun a b ha _ _ hn' => absurd (hn ▸ ha) hn')⟩
    have hb : b = pj := not_not.mp hn'
    subst hb
    have r1 := hI2.s_raw ha hpj' (fun h => h rfl)
    unfold tgtS; rw [if_pos rfl, r1]
    show _ = f2 * (_ * T0.den)
    rw [hc']; ring

/-! ### `pivot` satisfies `PivotSpec` -/

theorem pivot_spec {nd : SolNode} (h : WF nd) {pi pj : Nat} (hpi : pi < nd.tab.s.length)
    (hpj : pj < nd.tab.ns) (hspp : 0 < mget nd.tab.normalize.s pi pj) :
    ∃ f, PivotSpec { nd with tab := nd.tab.normalize } (pivot nd pi pj) pi pj f := by
  have hN := normalize_wf h
  have sh := normalize_shape nd.tab
  generalize hT0 : nd.tab.normalize = T0 at *
  have hpi0 : pi < T0.s.length := by rw [sh.1]; exact hpi
  have hpj0 : pj < T0.ns := by rw [sh.2.2.1]; exact hpj
  obtain ⟨f, hF⟩ := passes_inv T0 (nd.sign.set pi .zero) hN.rows_eq hN.piv_sRows hN.piv_tRows hpj0 hspp
  have hn : (idRowTab T0 pi pj).s.length = T0.s.length := idRow_s_len T0 pi pj
  have hpit : pi < T0.t.length := hN.rows_eq ▸ hpi0
  refine ⟨f, ?_⟩
  rw [pivot_eq, hT0]
  exact {
    f_pos := hF.f_pos
    den_eq := hF.den_eq
    shape := ⟨hF.s_len.trans hn, hF.t_len.trans (hn.trans hN.rows_eq), hF.ns_eq, hF.nt_eq⟩
    s_other := by
      intro i j hi hj hi' hj'
      have := (hF.s_ent i j (hn ▸ hi) hj).1 trivial
      unfold tgtS at this
      rw [if_neg hj', idRow_s_ne T0 pi pj hi', idRow_s_ne T0 pi pj hi'] at this
      exact this
    s_col := by
      intro i hi hi'
      have := (hF.s_ent i pj (hn ▸ hi) hpj0).1 trivial
      unfold tgtS at this
      rw [if_pos rfl, idRow_s_ne T0 pi pj hi'] at this
      exact this
    s_row := by
      intro j hj hj'
      have := (hF.s_ent pi j (hn ▸ hpi0) hj).1 trivial
      unfold tgtS at this
      rw [if_neg hj', idRow_s_row T0 pi pj hpi0 hj', idRow_s_piv T0 pi pj hpi0 hpj0] at this
      show mget (pivotPasses T0 _ pi pj).s pi j * mget T0.s pi pj = -(f * (T0.den * mget T0.s pi j))
      rw [this]; unfold mget; ring
    s_piv := by
      have := (hF.s_ent pi pj (hn ▸ hpi0) hpj0).1 trivial
      unfold tgtS at this
      rw [if_pos rfl, idRow_s_piv T0 pi pj hpi0 hpj0] at this
      exact this
    t_other := by
      intro i c hi hc hi'
      have := (hF.t_ent i c (hn ▸ hi) hc).1 trivial
      unfold tgtT at this
      rw [idRow_t_ne T0 pi pj hi', idRow_s_ne T0 pi pj hi'] at this
      exact this
    t_row := by
      intro c hc
      have := (hF.t_ent pi c (hn ▸ hpi0) hc).1 trivial
      unfold tgtT at this
      rw [idRow_t_row T0 pi pj hpit, idRow_s_piv T0 pi pj hpi0 hpj0] at this
      show mget (pivotPasses T0 _ pi pj).t pi c * mget T0.s pi pj = -(f * (T0.den * mget T0.t pi c))
      rw [this]; unfold mget; ring
    var_row := rfl
    var_col := rfl
    basis_eq := rfl
    mapping_eq := rfl }

/-- **the pivot of `PIP_Solution_Node::solve` does not change the solutions of the tableau** -/
theorem pivot_preserves {nd : SolNode} (h : WF nd) {pi pj : Nat} (hpi : pi < nd.tab.s.length)
    (hpj : pj < nd.tab.ns) (hspp : 0 < mget nd.tab.normalize.s pi pj) {q : List Int}
    (hq : q.length = nd.tab.nt) : ∀ v, (TabSat nd v q ↔ TabSat (pivot nd pi pj) v q) := by
  intro v
  obtain ⟨f, hS⟩ := pivot_spec h hpi hpj hspp
  have sh := normalize_shape nd.tab
  rw [← normalize_tabsat h v q]
  exact pivotSpec_tabsat (normalize_wf h) (by show pi < nd.tab.normalize.s.length; rw [sh.1]; exact hpi)
    (by show pj < nd.tab.normalize.ns; rw [sh.2.2.1]; exact hpj) (ne_of_gt hspp) hS
    (by show q.length = nd.tab.normalize.nt; rw [sh.2.2.2]; exact hq) v

/-- the same with the pivot coefficient read in the tableau before `normalize` -/
theorem pivot_preserves' {nd : SolNode} (h : WF nd) {pi pj : Nat} (hpi : pi < nd.tab.s.length)
    (hpj : pj < nd.tab.ns) (hspp : 0 < mget nd.tab.s pi pj) {q : List Int}
    (hq : q.length = nd.tab.nt) : ∀ v, (TabSat nd v q ↔ TabSat (pivot nd pi pj) v q) :=
  pivot_preserves h hpi hpj ((normalize_sign h pi pj).mpr hspp) hq

end PPLV.PIPCore.Piv

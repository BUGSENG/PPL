import PPLV.Solver.PIPCoreProofsTree
import PPLV.Solver.PIPCoreTree
/-!
# tree family: the bridge from the public tree semantics to `evalC`

`PPLV.PIP.Tree.eval` (the spanning of the class documentation, with scope and integrality checks) on
`resToTree r` at the parameters `θ`, and `evalRes r` at the column vector `1 :: θ`:
whenever the public semantics answers a point, the solver-side evaluation answers the same point.

Node level: `evalArts_extend`, `evalCons_consHold`, `evalVals_point`; then the induction on the tree.
-/
namespace PPLV.PIPCore
open PPLV.PIP (Tree QAff PCon Aff Rel Result dotI evalArts evalCons evalVals)

namespace TreeP

theorem dotI_eq_dot : ∀ (a x : List Int), dotI a x = dot a x
  | [], x => by rw [dot_nil_left]; cases x <;> rfl
  | _ :: _, [] => rfl
  | _ :: as, _ :: xs => by
    show _ * _ + dotI as xs = _ * _ + dot as xs
    rw [dotI_eq_dot as xs]

/-- a row over the parameter columns (column 0 the constant term) read as an affine form -/
theorem rowAff_value (r : Row) (env : List Int) :
    dotI (rowAff r).cs env + (rowAff r).k = dot r (1 :: env) := by
  cases r with
  | nil =>
    show dotI [] env + 0 = dot [] (1 :: env)
    rw [dotI_eq_dot, dot_nil_left, dot_nil_left]; rfl
  | cons a as =>
    show dotI as env + a = dot (a :: as) (1 :: env)
    rw [dot_cons, dotI_eq_dot]; omega

theorem rowAff_eval {r : Row} {env : List Int} {v : Int} (h : (rowAff r).eval env = some v) :
    v = dot r (1 :: env) := by
  unfold Aff.eval at h
  split at h
  · injection h with h
    rw [← h, rowAff_value]
  · cases h

/-- a row that is not longer than the column vector is in scope -/
theorem rowAff_eval_of_le {r : Row} {env : List Int} (h : r.length ≤ env.length + 1) :
    (rowAff r).eval env = some (dot r (1 :: env)) := by
  unfold Aff.eval
  have hs : (rowAff r).scoped env.length = true := by
    unfold Aff.scoped
    have : (rowAff r).cs.drop env.length = [] := by
      apply List.drop_eq_nil_of_le
      show (r.drop 1).length ≤ env.length
      rw [List.length_drop]; omega
    rw [this]; rfl
  rw [if_pos hs, rowAff_value]

/-- **node level**: the artificial parameters are appended exactly as `extendArts` does -/
theorem evalArts_extend : ∀ (arts : List ArtP) (env env' : List Int),
    evalArts (arts.map ArtP.toQAff) env = some env' → extendArts arts (1 :: env) = 1 :: env'
  | [], env, env', h => by
    simp only [List.map_nil, evalArts, Option.some.injEq] at h
    rw [← h]; rfl
  | a :: as, env, env', h => by
    simp only [List.map_cons, evalArts] at h
    cases hv : (ArtP.toQAff a).num.eval env with
    | none => rw [hv] at h; cases h
    | some v =>
      rw [hv] at h
      have hval : v = dot a.num (1 :: env) := rowAff_eval hv
      have ih := evalArts_extend as _ _ h
      show extendArts as ((1 :: env) ++ [Int.fdiv (dot a.num (1 :: env)) a.den]) = 1 :: env'
      rw [← hval]
      exact ih

/-- **node level**: the constraints `row·(1, params) ≥ 0` -/
theorem evalCons_consHold : ∀ (cons : List Row) (env : List Int) (b : Bool),
    evalCons (cons.map consToPCon) env = some b → consHold cons (1 :: env) = b
  | [], env, b, h => by
    simp only [List.map_nil, evalCons, Option.some.injEq] at h
    rw [← h]; rfl
  | r :: rs, env, b, h => by
    simp only [List.map_cons, evalCons] at h
    cases hv : (consToPCon r).e.eval env with
    | none => rw [hv] at h; cases h
    | some v =>
      rw [hv] at h
      have hval : v = dot r (1 :: env) := rowAff_eval hv
      cases hb : evalCons (rs.map consToPCon) env with
      | none => rw [hb] at h; cases h
      | some b' =>
        rw [hb] at h
        have ih := evalCons_consHold rs env b' hb
        simp only [Option.some.injEq] at h
        rw [consHold_cons, ih, ← h, ← hval]
        rfl

/-- what a point answer of `evalVals` says about the first value -/
theorem evalVals_cons_point {q : QAff} {qs : List QAff} {env x : List Int}
    (h : evalVals (q :: qs) env = .point x) :
    ∃ v p, q.num.eval env = some v ∧ v % q.den = 0 ∧ evalVals qs env = .point p
      ∧ x = v / q.den :: p := by
  simp only [evalVals] at h
  cases hv : q.num.eval env with
  | none => rw [hv] at h; cases h
  | some v =>
    rw [hv] at h
    simp only at h
    by_cases hd : v % q.den = 0
    · have hb : (v % q.den != 0) = false := by rw [hd]; rfl
      rw [hb] at h
      simp only [Bool.false_eq_true, if_false] at h
      cases hr : evalVals qs env with
      | point p =>
        rw [hr] at h
        simp only [Result.point.injEq] at h
        exact ⟨v, p, rfl, hd, rfl, h.symm⟩
      | bottom => rw [hr] at h; cases h
      | scopeError => rw [hr] at h; cases h
      | nonIntegral => rw [hr] at h; cases h
    · have hb : (v % q.den != 0) = true := by simpa using hd
      rw [hb] at h
      simp only [if_true] at h
      cases hr : evalVals qs env <;> rw [hr] at h <;> cases h

theorem evalVals_point_aux (nd : SolNode) (env : List Int) : ∀ (l : List Nat) (x : List Int),
    evalVals (l.map fun k =>
        if boolGet nd.basis k then (⟨⟨[], 0⟩, 1⟩ : QAff)
        else ⟨rowAff (mrow nd.tab.t (natGet nd.mapping k)), nd.tab.den⟩) env = .point x →
    (l.map fun k =>
        if boolGet nd.basis k then 0
        else dot (mrow nd.tab.t (natGet nd.mapping k)) (1 :: env) / nd.tab.den) = x
  | [], x, h => by
    simp only [List.map_nil, evalVals, Result.point.injEq] at h
    rw [← h]; rfl
  | k :: ks, x, h => by
    rw [List.map_cons] at h
    obtain ⟨v, p, hv, _, hp, hx⟩ := evalVals_cons_point h
    have ih := evalVals_point_aux nd env ks p hp
    rw [List.map_cons, ih, hx]
    congr 1
    cases hb : boolGet nd.basis k with
    | true =>
      rw [hb] at hv
      simp only [if_true] at hv ⊢
      have : v = 0 := by
        unfold Aff.eval at hv
        split at hv
        · injection hv with hv; rw [← hv]; cases env <;> rfl
        · cases hv
      rw [this]; rfl
    | false =>
      rw [hb] at hv
      simp only [Bool.false_eq_true, if_false] at hv ⊢
      rw [rowAff_eval hv]

/-- **node level**: the parametric values, when exact, are the basic solution -/
theorem evalVals_point (nd : SolNode) (env x : List Int) (h : evalVals nd.vals env = .point x) :
    nd.point (1 :: env) = x :=
  evalVals_point_aux nd env (List.range nd.tab.ns) x h

/-- the induction on the tree -/
theorem toTree_eval_point : ∀ (c : CTree) (θ x : List Int),
    c.toTree.eval θ = .point x → c.evalC (1 :: θ) = some x
  | .sol nd, θ, x, h => by
    simp only [CTree.toTree, Tree.eval] at h
    cases hA : evalArts (nd.arts.map ArtP.toQAff) θ with
    | none => rw [hA] at h; cases h
    | some env' =>
      rw [hA] at h
      simp only at h
      cases hC : evalCons (nd.cons.map consToPCon) env' with
      | none => rw [hC] at h; cases h
      | some b =>
        rw [hC] at h
        simp only [CTree.evalC]
        rw [evalArts_extend _ _ _ hA, evalCons_consHold _ _ _ hC]
        cases b with
        | false => cases h
        | true =>
          simp only at h
          rw [if_pos rfl, evalVals_point nd env' x h]
  | .dec arts cons t none, θ, x, h => by
    simp only [CTree.toTree, Tree.eval] at h
    cases hA : evalArts (arts.map ArtP.toQAff) θ with
    | none => rw [hA] at h; cases h
    | some env' =>
      rw [hA] at h
      simp only at h
      cases hC : evalCons (cons.map consToPCon) env' with
      | none => rw [hC] at h; cases h
      | some b =>
        rw [hC] at h
        simp only [CTree.evalC]
        rw [evalArts_extend _ _ _ hA, evalCons_consHold _ _ _ hC]
        cases b with
        | false => simp only at h; cases h
        | true =>
          simp only at h
          rw [if_pos rfl]
          exact toTree_eval_point t env' x h
  | .dec arts cons t (some f), θ, x, h => by
    simp only [CTree.toTree, Tree.eval] at h
    cases hA : evalArts (arts.map ArtP.toQAff) θ with
    | none => rw [hA] at h; cases h
    | some env' =>
      rw [hA] at h
      simp only at h
      cases hC : evalCons (cons.map consToPCon) env' with
      | none => rw [hC] at h; cases h
      | some b =>
        rw [hC] at h
        simp only [CTree.evalC]
        rw [evalArts_extend _ _ _ hA, evalCons_consHold _ _ _ hC]
        cases b with
        | false =>
          simp only at h
          rw [if_neg (by decide)]
          exact toTree_eval_point f env' x h
        | true =>
          simp only at h
          rw [if_pos rfl]
          exact toTree_eval_point t env' x h

end TreeP

open TreeP

/-- **(T3)** whenever the public semantics of the tree shown to the user answers a point at `θ`, the
    solver-side evaluation at the column vector `1 :: θ` answers the same point -/
theorem resToTree_eval_point (r : Option CTree) (θ x : List Int)
    (h : (resToTree r).eval θ = .point x) : evalRes r (1 :: θ) = some x := by
  cases r with
  | none => simp only [resToTree, Tree.eval] at h; cases h
  | some c => exact toTree_eval_point c θ x h

/-! ### non-vacuity: one tree, both semantics

parameter `p`; root: artificial parameter `a = ⌊p / 2⌋`, test `p - 3 ≥ 0`;
true child: `x = (p + a) / 1`; false child: saved constraint `p - 1 ≥ 0`, `x = (2 p) / 2`, `y` a column
variable -/

def TreeP.exNodeT : SolNode :=
  { tab := ⟨[[0]], [[0, 1, 1]], 1, 1, 3⟩, basis := [false], mapping := [0], varRow := [0],
    varColumn := [1], sign := [.positive], big := none, arts := [], cons := [] }

def TreeP.exNodeF : SolNode :=
  { tab := ⟨[[0, 0]], [[0, 2, 0]], 2, 2, 3⟩, basis := [false, true], mapping := [0, 1],
    varRow := [0], varColumn := [2, 1], sign := [.positive], big := none, arts := [],
    cons := [[-1, 1]] }

def TreeP.exTree : CTree := .dec [⟨[0, 1], 2⟩] [[-3, 1, 0]] (.sol exNodeT) (some (.sol exNodeF))

example : exTree.toTree.eval [5] = .point [7] ∧ exTree.evalC [1, 5] = some [7] := by decide
example : exTree.toTree.eval [2] = .point [2, 0] ∧ exTree.evalC [1, 2] = some [2, 0] := by decide
example : exTree.toTree.eval [0] = .bottom ∧ exTree.evalC [1, 0] = none := by decide

end PPLV.PIPCore

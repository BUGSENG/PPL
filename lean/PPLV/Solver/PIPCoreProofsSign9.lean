import PPLV.Solver.PIPCoreProofsSign8
import Mathlib.Tactic.Linarith
/-!
# sign family: shape facts of the sign analysis (length, no `UNKNOWN` left) and
concrete instances of `signAnalysis_firsts`
-/
namespace PPLV.PIPCore

theorem rowSign_ne_unknown (x : Row) (big : Option Nat) : rowSign x big ≠ .unknown := by
  unfold rowSign
  have hscan : (match rowSignScan x .zero with
      | none => RowSign.mixed
      | some sg => if sg = RowSign.negative ∧ rget x 0 = 0 then RowSign.mixed else sg) ≠ RowSign.unknown := by
    cases hs : rowSignScan x .zero with
    | none => simp
    | some sg =>
      simp only
      by_cases hc : sg = .negative ∧ rget x 0 = 0
      · rw [if_pos hc]; decide
      · rw [if_neg hc]
        rcases rowSignScan_from_zero x sg hs with ⟨rfl, _⟩ | ⟨rfl, _⟩ | ⟨rfl, _⟩ <;> decide
  cases big with
  | none => exact hscan
  | some b =>
    simp only
    by_cases h1 : rget x b > 0
    · simp [h1]
    · by_cases h2 : rget x b < 0
      · simp [h1, h2]
      · simp only [h1, h2, if_false]; exact hscan

theorem signAnalysis_length {cc : Mat → Option Bool} {nd : SolNode} {ctx : Mat}
    {sg' : List RowSign} {fs' : Firsts} (h : signAnalysis cc nd ctx = some (sg', fs')) :
    sg'.length = nd.sign.length := by
  obtain ⟨st1, h1, h2⟩ := signAnalysis_stages h
  have l1 : st1.1.length = nd.sign.length := by
    rcases h1 with rfl | ⟨fm, _, _, h1⟩
    · exact (recomputeSigns_spec nd).1
    · rw [(refineMixed1_loop cc nd.tab ctx fm).length _ (recomputeSigns nd) st1 h1]
      exact (recomputeSigns_spec nd).1
  rcases h2 with h2 | ⟨fm, _, _, h2⟩
  · rw [← h2] at l1; exact l1
  · rw [(refineMixed2_loop cc nd.tab ctx).length _ st1 (sg', fs') h2]; exact l1

/-- after the sign analysis no row of the tableau has an `UNKNOWN` sign -/
theorem signAnalysis_no_unknown {cc : Mat → Option Bool} {nd : SolNode} {ctx : Mat}
    (hlen : nd.sign.length = nd.tab.t.length) {sg' : List RowSign} {fs' : Firsts}
    (h : signAnalysis cc nd ctx = some (sg', fs')) :
    ∀ k, k < nd.tab.t.length → signGet sg' k ≠ .unknown := by
  refine signAnalysis_pointwise (fun k s => k < nd.tab.t.length → s ≠ .unknown) h ?_
    (fun _ _ _ b1 b2 _ _ _ => by cases b1 <;> cases b2 <;> decide) (fun _ _ _ _ _ _ => by decide)
  intro k hk
  rw [(recomputeSigns_spec nd).2 k]
  by_cases hc : k < nd.tab.t.length ∧ k < nd.sign.length ∧
      (signGet nd.sign k = .unknown ∨ signGet nd.sign k = .mixed)
  · rw [if_pos hc]; exact rowSign_ne_unknown _ _
  · rw [if_neg hc]
    intro hu
    exact hc ⟨hk, by omega, Or.inl hu⟩

/-- a node whose analysis finds no negative and no mixed row has only `POSITIVE` / `ZERO` rows -/
theorem signAnalysis_all_nonneg {cc : Mat → Option Bool} {nd : SolNode} {ctx : Mat}
    (hlen : nd.sign.length = nd.tab.t.length) {sg' : List RowSign} {fs' : Firsts}
    (h : signAnalysis cc nd ctx = some (sg', fs')) (hneg : fs'.neg = none) (hmix : fs'.mix = none) :
    ∀ k, k < nd.tab.t.length → signGet sg' k = .positive ∨ signGet sg' k = .zero := by
  intro k hk
  obtain ⟨hN, hM⟩ := signAnalysis_firsts hlen h
  have hM' := hM hneg
  rw [hneg] at hN; rw [hmix] at hM'
  have h1 := hN k
  have h2 := hM' k
  have h3 := signAnalysis_no_unknown hlen h k hk
  cases hs : signGet sg' k with
  | unknown => exact absurd hs h3
  | zero => exact Or.inr rfl
  | positive => exact Or.inl rfl
  | negative => exact absurd hs h1
  | mixed => exact absurd hs h2

-- concrete instances: a node with three rows (`-1 - p` negative, `1 - p` mixed, `2 + p` positive)
def exNd9 : SolNode :=
  { tab := { s := [[1], [1], [1]], t := [[2, 1], [1, -1], [-1, -1]], den := 1, ns := 1, nt := 2 },
    basis := [true, false, false, false], mapping := [0, 0, 1, 2], varRow := [1, 2, 3], varColumn := [0],
    sign := [.unknown, .unknown, .unknown], big := none, arts := [], cons := [] }

example : (signAnalysis (fun _ => none) exNd9 []).map (·.1) = some [.positive, .mixed, .negative] := by decide
example : ((signAnalysis (fun _ => none) exNd9 []).map (·.2.neg)) = some (some 2) := by decide
example : FirstOf [.positive, .mixed, .negative] .negative (some 2) := by
  refine ⟨by decide, ?_⟩
  intro k hk
  match k, hk with
  | 0, _ => decide
  | 1, _ => decide
-- and through the refinements (`exNd6` of `PIPCoreProofsSign6.lean`): no negative, no mixed row left
example : (signAnalysis exCC6 exNd6 [[1, -1]]).map (fun r => (r.1, r.2.neg, r.2.mix))
    = some ([.positive], none, none) := by decide

end PPLV.PIPCore

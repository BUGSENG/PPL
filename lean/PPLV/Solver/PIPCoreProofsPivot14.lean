import PPLV.Solver.PIPCoreProofsPivot13
/-!
# the pivot: cached signs (`SignAt`) and the rational reading (`TabSatQ`, `IntInv`), in namespace `PPLV.PIPCore`

* `pivot_signweak` (re-exported): the incremental sign bookkeeping of the pivot keeps `SignAt`;
* the rational reading: `tabsat_cast`, `normalize_tabsatQ`, `pivot_tabsatQ`, `scale_tabsatQ`,
  `normalize_signAt`, `pivotSpec_tabsatQ`, and (re-exported) `pivot_intinv`, `normalize_intinv`.

Auxiliary material: `PPLV.PIPCore.Piv`, files `PIPCoreTabSatQ.lean`, `PIPCoreProofsPivot12.lean`, `PIPCoreProofsPivot13.lean`.
-/
namespace PPLV.PIPCore

export Piv (pivot_signweak pivot_intinv normalize_intinv)

/-! ### signs -/

/-- `normalize` keeps the cached signs true (up to one unit) -/
theorem normalize_signAt {nd : SolNode} (h : WF nd) {q : List Int} (hs : SignAt nd q) :
    SignAt { nd with tab := nd.tab.normalize } q := (signAt_normalize h).mpr hs

/-! ### the rational reading -/

theorem tabsat_cast (nd : SolNode) (v : Nat → Int) (q : List Int) :
    TabSat nd v q ↔ TabSatQ nd (fun k => (v k : ℚ)) q := Piv.tabsat_cast nd v q

theorem scale_tabsatQ (nd : SolNode) {r : Int} (hr : r ≠ 0) (v : Nat → ℚ) (q : List Int) :
    TabSatQ { nd with tab := nd.tab.scale r } v q ↔ TabSatQ nd v q := Piv.scale_tabsatQ nd hr v q

theorem normalize_tabsatQ {nd : SolNode} (h : WF nd) (v : Nat → ℚ) (q : List Int) :
    TabSatQ { nd with tab := nd.tab.normalize } v q ↔ TabSatQ nd v q := Piv.normalize_tabsatQ h v q

theorem pivotSpec_tabsatQ {nd0 nd' : SolNode} {pi pj : Nat} {f : Int} (h : WF nd0)
    (hpi : pi < nd0.tab.s.length) (hpj : pj < nd0.tab.ns) (hspp : mget nd0.tab.s pi pj ≠ 0)
    (hs : PivotSpec nd0 nd' pi pj f) {q : List Int} (hq : q.length = nd0.tab.nt) :
    ∀ v : Nat → ℚ, TabSatQ nd0 v q ↔ TabSatQ nd' v q := Piv.pivotSpec_tabsatQ h hpi hpj hspp hs hq

/-- **the pivot does not change the rational solutions of the tableau** -/
theorem pivot_tabsatQ {nd : SolNode} (h : WF nd) {pi pj : Nat} (hpi : pi < nd.tab.s.length)
    (hpj : pj < nd.tab.ns) (hspp : 0 < mget nd.tab.s pi pj) {q : List Int}
    (hq : q.length = nd.tab.nt) :
    ∀ v : Nat → ℚ, TabSatQ nd v q ↔ TabSatQ (pivot nd pi pj) v q := Piv.pivot_tabsatQ h hpi hpj hspp hq

/-- `pivot` keeps the number of columns and of variables -/
theorem pivot_ns {nd : SolNode} (h : WF nd) {pi pj : Nat} (hpi : pi < nd.tab.s.length)
    (hpj : pj < nd.tab.ns) (hspp : 0 < mget nd.tab.s pi pj) :
    (pivot nd pi pj).tab.ns = nd.tab.ns ∧ (pivot nd pi pj).tab.nt = nd.tab.nt
      ∧ (pivot nd pi pj).tab.s.length = nd.tab.s.length
      ∧ (pivot nd pi pj).mapping.length = nd.mapping.length := by
  obtain ⟨f, hS⟩ := pivot_spec h hpi hpj ((normalize_sign h pi pj).mpr hspp)
  have sh := normalize_shape nd.tab
  exact ⟨hS.shape.2.2.1.trans sh.2.2.1, hS.shape.2.2.2.trans sh.2.2.2, hS.shape.1.trans sh.1,
    Piv.pivot_mapping_length nd pi pj⟩

/-! ### non-vacuity -/

namespace Piv

/-- `exNd` with a pivot row whose parameter part has one sign: `4 x2 = 6 x0 - 2 x1 - 8`,
    `4 x3 = 2 x0 + 4 x1 + 10`; cached signs NEGATIVE, POSITIVE -/
def exNdS : SolNode :=
  { exNd with tab := { exNd.tab with t := [[-8, 0], [10, 0]] }, sign := [.negative, .positive] }

theorem exNdS_wf : WF exNdS where
  rows_eq := by decide
  s_cols := by decide
  t_cols := by decide
  den_pos := by decide
  vr_len := by decide
  vc_len := by decide
  sign_len := by decide
  map_len := by decide
  basis_len := by decide
  vr_ok := by decide
  vc_ok := by decide
  map_ok := by decide

theorem exNdS_signAt : SignAt exNdS [1, 2] := by
  intro k
  match k with
  | 0 => show dot (mrow exNdS.tab.t 0) [1, 2] < exNdS.tab.den; decide
  | 1 => show -exNdS.tab.den < dot (mrow exNdS.tab.t 1) [1, 2]; decide
  | k + 2 => rw [signGet_of_le (by show 2 ≤ k + 2; omega)]; exact trivial

theorem ex_paramVec : ParamVec exNdS.tab.nt [1, 2] := by
  refine ⟨by decide, by decide, ?_⟩
  intro x hx
  simp at hx
  rcases hx with rfl | rfl <;> decide

/-- the bookkeeping really runs: ZERO (the new pivot row) becomes POSITIVE, POSITIVE stays -/
example : (pivot exNdS 0 0).sign = [.positive, .positive] := by decide

theorem exNdS_hpi : (0 : Nat) < exNdS.tab.s.length := by decide
theorem exNdS_hpj : (0 : Nat) < exNdS.tab.ns := by decide
theorem exNdS_hspp : 0 < mget exNdS.tab.s 0 0 := by decide

theorem exNdS_pivot_signAt : SignAt (pivot exNdS 0 0) [1, 2] :=
  PPLV.PIPCore.pivot_signweak exNdS_wf exNdS_hpi exNdS_hpj exNdS_hspp ex_paramVec exNdS_signAt

/-- ... and the conclusion is not trivial: it says `-6 < 16 - 0 = t'_0·q` and `-6 < 38 = t'_1·q` -/
example : -(pivot exNdS 0 0).tab.den < dot (mrow (pivot exNdS 0 0).tab.t 0) [1, 2] := by
  have h := exNdS_pivot_signAt 0
  rw [show signGet (pivot exNdS 0 0).sign 0 = .positive by decide] at h
  exact h

example : TabSatQ exNd (fun k => (exVal k : ℚ)) [1, 2] :=
  (PPLV.PIPCore.tabsat_cast exNd exVal [1, 2]).mp exVal_sat

example : TabSatQ (pivot exNd 0 0) (fun k => (exVal k : ℚ)) [1, 2] :=
  (PPLV.PIPCore.pivot_tabsatQ exNd_wf (by decide) (by decide) (by decide) (by decide) _).mp
    ((PPLV.PIPCore.tabsat_cast exNd exVal [1, 2]).mp exVal_sat)

example : TabSatQ { exNd with tab := exNd.tab.normalize } (fun k => (exVal k : ℚ)) [1, 2] :=
  (PPLV.PIPCore.normalize_tabsatQ exNd_wf _ _).mpr
    ((PPLV.PIPCore.tabsat_cast exNd exVal [1, 2]).mp exVal_sat)

/-- a node with denominator 1: `x2 = x0 - x1 - 4 + p`, `x3 = x0 + 2 x1 + 5` -/
def exNdI : SolNode :=
  { tab := { s := [[1, -1], [1, 2]], t := [[-4, 1], [5, 0]], den := 1, ns := 2, nt := 2 },
    basis := [true, true, false, false], mapping := [0, 1, 0, 1],
    varRow := [2, 3], varColumn := [0, 1], sign := [.negative, .unknown],
    big := none, arts := [], cons := [] }

theorem exNdI_wf : WF exNdI where
  rows_eq := by decide
  s_cols := by decide
  t_cols := by decide
  den_pos := by decide
  vr_len := by decide
  vc_len := by decide
  sign_len := by decide
  map_len := by decide
  basis_len := by decide
  vr_ok := by decide
  vc_ok := by decide
  map_ok := by decide

theorem exNdI_intinv : IntInv exNdI [1, 2] := by
  intro v hv hint k hk
  have h0 := hv 0 (by decide)
  have h1 := hv 1 (by decide)
  simp [RowHoldsQ, dotQ, dot, mrow, natGet, exNdI] at h0 h1
  obtain ⟨a, ha⟩ := hint 0 (by decide)
  obtain ⟨b, hb⟩ := hint 1 (by decide)
  have hk' : k < 4 := hk
  have : k = 0 ∨ k = 1 ∨ k = 2 ∨ k = 3 := by omega
  rcases this with rfl | rfl | rfl | rfl
  · exact ⟨a, ha⟩
  · exact ⟨b, hb⟩
  · exact ⟨a - b - 2, by rw [h0, ha, hb]; push_cast; ring⟩
  · exact ⟨a + 2 * b + 5, by rw [h1, ha, hb]; push_cast; ring⟩

/-- after the pivot (`x0 = x2 + x1 + 4 - p`, `x3 = x2 + 3 x1 + 9 - p`) the invariant still holds -/
example : IntInv (pivot exNdI 0 0) [1, 2] :=
  PPLV.PIPCore.pivot_intinv exNdI_wf (by decide) (by decide) (by decide) (by decide) exNdI_intinv

example : IntInv { exNdI with tab := exNdI.tab.normalize } [1, 2] :=
  PPLV.PIPCore.normalize_intinv exNdI_wf exNdI_intinv

/-- `IntInv` is not vacuous: it fails for `exNd` (`4 x2 = 6 x0 - 2 x1 - 4` at `x0 = 1, x1 = 0`) -/
example : ¬ IntInv exNd [1, 2] := by
  intro hI
  have hsat : TabSatQ exNd (fun k => if k = 0 then 1 else if k = 2 then 1 / 2 else if k = 3 then 3
      else 0) [1, 2] := by
    intro i hi
    have hi' : i < 2 := hi
    have : i = 0 ∨ i = 1 := by omega
    rcases this with rfl | rfl <;> (simp [RowHoldsQ, dotQ, dot, mrow, natGet, exNd]; try norm_num)
  obtain ⟨z, hz⟩ := hI _ hsat (by
    intro k hk
    have hk' : k < 2 := hk
    have : k = 0 ∨ k = 1 := by omega
    rcases this with rfl | rfl
    · exact ⟨1, by simp⟩
    · exact ⟨0, by simp⟩) 2 (by decide)
  simp at hz
  have : (2 : ℚ) * z = 1 := by rw [← hz]; norm_num
  have h2 : (2 * z : Int) = 1 := by exact_mod_cast this
  omega

end Piv

end PPLV.PIPCore

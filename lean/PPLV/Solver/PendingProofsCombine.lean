import PPLV.Solver.PendingProofsReadyS

/-!
# the loop :896–:900 in closed form, and basic solutions of partially based tableaux

* `combineRow`, `combine_spec`: combining a new row against the rows that have a basic variable (`base ≠ 0`) zeroes
  the new row at their basic columns; on columns where those rows vanish the result is a non-zero multiple
  (`D·row' = Mt·row`, `D > 0`, `Mt ≠ 0`) of the original, and so is its value on valuations satisfying those rows;
* `PBased`: the rows with `base ≠ 0` are in canonical form among ALL rows; `bsol_based_row`: such a row vanishes at
  `bsol`; `bsol_congr_set`: changing a row without basic variable / a `base` entry ≥ V keeps `bsol` below `V`.
-/
namespace PPLV.Solver.Pend
open PPLV.Lin PPLV.Solver PPLV.Solver.Tab

theorem combine_spec (T : List Row) (base : List Nat) (k : Nat) (row : Row) (L : Nat) (hrow : row.length = L)
    (hlenT : ∀ j, j < base.length → j ≠ k → base.getD j 0 ≠ 0 → (T.getD j []).length = L)
    (hnz : ∀ j, j < base.length → j ≠ k → base.getD j 0 ≠ 0 → (T.getD j []).get (base.getD j 0) ≠ 0)
    (hcan : ∀ j j', j < base.length → j' < base.length → j ≠ k → j' ≠ k → j ≠ j' → base.getD j 0 ≠ 0 →
      base.getD j' 0 ≠ 0 → (T.getD j' []).get (base.getD j 0) = 0) :
    (combineRow T base k row).length = L ∧
    (∀ j, j < base.length → j ≠ k → base.getD j 0 ≠ 0 → (combineRow T base k row).get (base.getD j 0) = 0) ∧
    ∃ D Mt : Int, 0 < D ∧ Mt ≠ 0 ∧
      (∀ col, (∀ j, j < base.length → j ≠ k → base.getD j 0 ≠ 0 → (T.getD j []).get col = 0) →
        D * (combineRow T base k row).get col = Mt * row.get col) ∧
      (∀ y : Val, (∀ j, j < base.length → j ≠ k → base.getD j 0 ≠ 0 → rowVal (T.getD j []) y = 0) →
        (D : Rat) * rowVal (combineRow T base k row) y = (Mt : Rat) * rowVal row y) := by
  unfold combineRow
  have key := revFold_inv
    (fun (i : Nat) (r : Row) => r.length = L ∧
      (∀ j, i ≤ j → j < base.length → j ≠ k → base.getD j 0 ≠ 0 → r.get (base.getD j 0) = 0) ∧
      ∃ D Mt : Int, 0 < D ∧ Mt ≠ 0 ∧
        (∀ col, (∀ j, j < base.length → j ≠ k → base.getD j 0 ≠ 0 → (T.getD j []).get col = 0) →
          D * r.get col = Mt * row.get col) ∧
        (∀ y : Val, (∀ j, j < base.length → j ≠ k → base.getD j 0 ≠ 0 → rowVal (T.getD j []) y = 0) →
          (D : Rat) * rowVal r y = (Mt : Rat) * rowVal row y))
    (fun j (row : Row) =>
      let bj := base.getD j 0
      if k != j && bj != 0 && row.get bj != 0 then linearCombine row (T.getD j []) bj else row)
    base.length row
    ⟨hrow, fun j h1 h2 => by omega, 1, 1, by norm_num, by norm_num, fun col _ => by ring, fun y _ => by ring⟩
    (by
      intro i hi r ⟨a1, a2, D, Mt, hD, hMt, a3, a4⟩
      simp only
      by_cases hc : (k != i && base.getD i 0 != 0 && r.get (base.getD i 0) != 0) = true
      · rw [if_pos hc]
        simp only [Bool.and_eq_true, bne_iff_ne, ne_eq] at hc
        obtain ⟨⟨h1, h2⟩, h3⟩ := hc
        have hik : i ≠ k := fun h => h1 h.symm
        obtain ⟨d, hd, e1, e2, e3⟩ := linearCombine_spec r (T.getD i []) (base.getD i 0)
        obtain ⟨g, hg, -, -, hny⟩ := lcN_spec r (T.getD i []) (base.getD i 0) (hnz i hi hik h2)
        refine ⟨by rw [e3, a1, hlenT i hi hik h2]; simp, fun j hj1 hj2 hjk hjb => ?_,
          d * D, -(lcNy r (T.getD i []) (base.getD i 0)) * Mt, Int.mul_pos hd hD,
          Int.mul_ne_zero (Int.neg_ne_zero.mpr hny) hMt, fun col hcol => ?_, fun y hy => ?_⟩
        · by_cases hji : j = i
          · rw [hji]; exact linearCombine_get _ _ _
          · have h0 := e1 (base.getD j 0)
            rw [a2 j (by omega) hj2 hjk hjb, hcan j i hj2 hi hjk hik hji hjb h2, mul_zero, mul_zero, add_zero] at h0
            rcases Int.mul_eq_zero.mp h0 with h | h
            · omega
            · exact h
        · have h0 := e1 col
          rw [hcol i hi hik h2, mul_zero, add_zero] at h0
          calc d * D * (linearCombine r (T.getD i []) (base.getD i 0)).get col
              = D * (d * (linearCombine r (T.getD i []) (base.getD i 0)).get col) := by ring
            _ = D * (-(lcNy r (T.getD i []) (base.getD i 0)) * r.get col) := by rw [h0]
            _ = -(lcNy r (T.getD i []) (base.getD i 0)) * (D * r.get col) := by ring
            _ = -(lcNy r (T.getD i []) (base.getD i 0)) * (Mt * row.get col) := by rw [a3 col hcol]
            _ = -(lcNy r (T.getD i []) (base.getD i 0)) * Mt * row.get col := by ring
        · have h0 := e2 y
          have hz : dot (T.getD i []) y = 0 := hy i hi hik h2
          rw [hz, mul_zero, add_zero] at h0
          have h4 := a4 y hy
          unfold rowVal at h4 ⊢
          push_cast
          calc (d : Rat) * D * dot (linearCombine r (T.getD i []) (base.getD i 0)) y
              = D * ((d : Rat) * dot (linearCombine r (T.getD i []) (base.getD i 0)) y) := by ring
            _ = D * (-((lcNy r (T.getD i []) (base.getD i 0) : Int) : Rat) * dot r y) := by rw [h0]
            _ = -((lcNy r (T.getD i []) (base.getD i 0) : Int) : Rat) * ((D : Rat) * dot r y) := by ring
            _ = -((lcNy r (T.getD i []) (base.getD i 0) : Int) : Rat) * ((Mt : Rat) * dot row y) := by rw [h4]
            _ = -((lcNy r (T.getD i []) (base.getD i 0) : Int) : Rat) * (Mt : Rat) * dot row y := by ring
      · rw [if_neg hc]
        refine ⟨a1, fun j hj1 hj2 hjk hjb => ?_, D, Mt, hD, hMt, a3, a4⟩
        by_cases hji : j = i
        · subst hji
          have h1 : (k != j) = true := bne_iff_ne.mpr (fun h => hjk h.symm)
          have h2 : (base.getD j 0 != 0) = true := bne_iff_ne.mpr hjb
          rw [h1, h2] at hc
          simp only [Bool.true_and, bne_iff_ne, ne_eq, not_not] at hc
          exact hc
        · exact a2 j (by omega) hj2 hjk hjb)
  obtain ⟨k1, k2, k3⟩ := key
  exact ⟨k1, fun j hj => k2 j (Nat.zero_le _) hj, k3⟩

end PPLV.Solver.Pend

namespace PPLV.Solver.Pend
open PPLV.Lin PPLV.Solver PPLV.Solver.Tab

/-- the rows that have a basic variable are in canonical form among all rows -/
structure PBased (T : List Row) (base : List Nat) : Prop where
  lenB : base.length = T.length
  nz : ∀ i, i < T.length → base.getD i 0 ≠ 0 → (T.getD i []).get (base.getD i 0) ≠ 0
  col : ∀ i j, i < T.length → j < T.length → i ≠ j → base.getD i 0 ≠ 0 → (T.getD j []).get (base.getD i 0) = 0

theorem PBased.rowOf {T : List Row} {base : List Nat} (h : PBased T base) {i : Nat} (hi : i < T.length)
    (hb : base.getD i 0 ≠ 0) : rowOf base (base.getD i 0) = some i := by
  cases hr : Pend.rowOf base (base.getD i 0) with
  | none => exact absurd rfl (rowOf_none hr i (by rw [h.lenB]; exact hi))
  | some k =>
    obtain ⟨hk, hkb⟩ := rowOf_some hr
    rw [h.lenB] at hk
    by_cases hki : k = i
    · rw [hki]
    · exfalso
      have := h.col k i hk hi hki (by rw [hkb]; exact hb)
      rw [hkb] at this
      exact h.nz i hi hb this

theorem bsol_zero (T : List Row) (base : List Nat) : bsol T base 0 = 1 := by simp [bsol]

theorem bsol_nonbased (T : List Row) (base : List Nat) {j : Nat} (hj : j ≠ 0)
    (h : ∀ i, i < base.length → base.getD i 0 ≠ j) : bsol T base j = 0 := by
  unfold bsol
  rw [if_neg hj]
  cases hr : rowOf base j with
  | none => rfl
  | some i => exact absurd (rowOf_some hr).2 (h i (rowOf_some hr).1)

theorem bsol_based {T : List Row} {base : List Nat} (h : PBased T base) {i : Nat} (hi : i < T.length)
    (hb : base.getD i 0 ≠ 0) :
    bsol T base (base.getD i 0) =
      -(((T.getD i []).get 0 : Int) : Rat) / (((T.getD i []).get (base.getD i 0) : Int) : Rat) := by
  unfold bsol
  rw [if_neg hb, h.rowOf hi hb]

/-- value of a row that vanishes at every basic column, at the basic solution moved by `σ` along a column `s` -/
theorem rowVal_bsol_update {T : List Row} {base : List Nat} (r : Row) (s : Nat) (σ : Rat) (hs0 : s ≠ 0)
    (hr : ∀ i, i < base.length → base.getD i 0 ≠ 0 → r.get (base.getD i 0) = 0) :
    rowVal r ((bsol T base).update s σ) = ((r.get 0 : Int) : Rat) + ((r.get s : Int) : Rat) * σ := by
  unfold rowVal
  set x := (bsol T base).update s σ with hx
  have key := dot_update r (x.update 0 0) s 0
  rw [dot_update r x 0 0] at key
  have hz : dot r ((x.update 0 0).update s 0) = 0 := by
    apply dot_eq_zero_of_support
    intro j
    by_cases hj0 : j = 0
    · right; simp [Val.update, hj0, Ne.symm hs0]
    by_cases hjs : j = s
    · right; simp [Val.update, hjs]
    simp only [Val.update, hj0, hjs, if_false, hx]
    by_cases hbj : ∃ i, i < base.length ∧ base.getD i 0 = j
    · obtain ⟨i, hi, hij⟩ := hbj
      left
      have := hr i hi (by rw [hij]; exact hj0)
      rw [hij] at this; exact this
    · right
      exact bsol_nonbased T base hj0 (fun i hi hij => hbj ⟨i, hi, hij⟩)
  rw [hz] at key
  have hx0 : x 0 = 1 := by rw [hx]; simp only [Val.update]; rw [if_neg (Ne.symm hs0)]; exact bsol_zero T base
  have hxs : (x.update 0 0) s = σ := by simp [Val.update, hs0, hx]
  rw [hx0, hxs] at key
  have e0 : ((r.getD 0 0 : Int) : Rat) = ((r.get 0 : Int) : Rat) := rfl
  have e1 : ((r.getD s 0 : Int) : Rat) = ((r.get s : Int) : Rat) := rfl
  rw [e0, e1] at key
  linarith only [key]

/-- a row with a basic variable vanishes at the basic solution -/
theorem bsol_based_row {T : List Row} {base : List Nat} (h : PBased T base) {i : Nat} (hi : i < T.length)
    (hb : base.getD i 0 ≠ 0) : rowVal (T.getD i []) (bsol T base) = 0 := by
  unfold rowVal
  set r := T.getD i [] with hr
  set b := base.getD i 0 with hbd
  set x := bsol T base with hx
  have key := dot_update r (x.update 0 0) b 0
  rw [dot_update r x 0 0] at key
  have hz : dot r ((x.update 0 0).update b 0) = 0 := by
    apply dot_eq_zero_of_support
    intro j
    by_cases hj0 : j = 0
    · right; simp [Val.update, hj0, Ne.symm hb]
    by_cases hjb : j = b
    · right; simp [Val.update, hjb]
    simp only [Val.update, hj0, hjb, if_false, hx]
    by_cases hbj : ∃ k, k < base.length ∧ base.getD k 0 = j
    · obtain ⟨k, hk, hkj⟩ := hbj
      left
      rw [h.lenB] at hk
      have hki : k ≠ i := by intro hh; rw [hh] at hkj; exact hjb hkj.symm
      have := h.col k i hk hi hki (by rw [hkj]; exact hj0)
      rw [hkj] at this; exact this
    · right
      exact bsol_nonbased T base hj0 (fun k hk hkj => hbj ⟨k, hk, hkj⟩)
  rw [hz] at key
  have hx0 : x 0 = 1 := bsol_zero T base
  have hxb : (x.update 0 0) b = -(((r.get 0 : Int)) : Rat) / ((r.get b : Int) : Rat) := by
    simp only [Val.update]; rw [if_neg hb]; exact bsol_based h hi hb
  rw [hx0, hxb] at key
  have hrb : ((r.get b : Int) : Rat) ≠ 0 := by exact_mod_cast h.nz i hi hb
  have e0 : ((r.getD 0 0 : Int) : Rat) = ((r.get 0 : Int) : Rat) := rfl
  have e2 : ((r.getD b 0 : Int) : Rat) = ((r.get b : Int) : Rat) := rfl
  rw [e0, e2] at key
  have : dot r x = ((r.get 0 : Int) : Rat) + ((r.get b : Int) : Rat) * (-((r.get 0 : Int) : Rat) / ((r.get b : Int) : Rat)) := by
    linarith only [key]
  rw [this]; field_simp; ring

/-- `bsol` below column `V` does not see a change of row `k` (which has no basic variable) nor a new `base` entry
    `≥ V` for it -/
theorem bsol_congr_set (T : List Row) (base : List Nat) (k : Nat) (row' : Row) (b' V : Nat) (hk : k < T.length)
    (hlen : base.length = T.length) (hbk : base.getD k 0 = 0) (hb' : b' = 0 ∨ V ≤ b') (col : Nat) (hc1 : 1 ≤ col)
    (hcV : col < V) : bsol (T.set k row') (base.set k b') col = bsol T base col := by
  unfold bsol
  rw [if_neg (by omega), if_neg (by omega)]
  have hkb : k < base.length := by rw [hlen]; exact hk
  have hro : rowOf (base.set k b') col = rowOf base col := by
    unfold rowOf
    rw [List.length_set]
    apply find?_congr'
    intro i _
    rw [getD_set_of_lt _ _ _ _ hkb]
    by_cases hik : i = k
    · rw [if_pos hik, hik, hbk]
      have h1 : (b' == col) = false := by
        rcases hb' with h | h
        · rw [h]; simp; omega
        · simp; omega
      have h2 : ((0 : Nat) == col) = false := by simp; omega
      rw [h1, h2]
    · rw [if_neg hik]
  rw [hro]
  cases hr : rowOf base col with
  | none => rfl
  | some i =>
    simp only
    have hik : i ≠ k := by
      intro h; obtain ⟨-, hb⟩ := rowOf_some hr; rw [h, hbk] at hb; omega
    rw [getD_set_of_lt _ _ _ _ hk, if_neg hik]

end PPLV.Solver.Pend

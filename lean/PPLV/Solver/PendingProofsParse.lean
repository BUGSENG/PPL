import PPLV.Solver.PendingProofsSetup

/-!
# the loop of `parse_constraints`

`parse_spec`: when `parse_constraints` succeeds, `is_tableau_constraint` is the map of `tabC`,
`additional_slack_variables` counts the inequalities among them, `additional_tableau_rows` counts
them, no pending constraint is trivially false, a variable is marked non-negative only if it was
already known to be or a pending constraint of class 4/5/6/7 forces it, and every class-7 constraint
has its variable marked; when it fails a pending constraint is trivially false.
`parseStep_some`: one iteration on every field of the record; `parse_walk`: the loop with an invariant of the record,
also behind the facts about `is_remergeable_variable` and the "already satisfied" flags proved later.
-/
namespace PPLV.Solver.Pend
open PPLV.Lin PPLV.Solver.Tab

theorem replicate_succ_append_set (i : Nat) (L : List Bool) (b : Bool) :
    (List.replicate (i+1) true ++ L).set i b = List.replicate i true ++ b :: L := by
  induction i with
  | zero => rfl
  | succ i ih =>
    rw [List.replicate_succ, List.cons_append, List.set_cons_succ, ih, List.replicate_succ, List.cons_append]

theorem replicate_succ_append (i : Nat) (L : List Bool) :
    List.replicate (i+1) true ++ L = List.replicate i true ++ true :: L := by
  induction i with
  | zero => rfl
  | succ i ih =>
    rw [List.replicate_succ, List.cons_append, ih, List.replicate_succ, List.cons_append]

theorem getD_replicate_false (n v : Nat) : (List.replicate n false).getD v false = false := by
  rw [List.getD_eq_getElem?_getD]
  by_cases h : v < n
  · rw [List.getElem?_replicate_of_lt h]; rfl
  · rw [List.getElem?_eq_none (by simpa using h)]; rfl

def tabCls : CClass → Bool
  | .trivTrue | .m7 => false
  | _ => true

theorem tabC_of {c : ICon} {cls : CClass} {v : Nat} (h : classify c = (cls, v)) : tabC c = tabCls cls := by
  unfold tabC; rw [h]; cases cls <;> rfl

theorem nonneg_set_iff (l : List Bool) (v u : Nat) :
    (l.set v true).getD u false = true ↔ (l.getD u false = true ∨ (u = v ∧ v < l.length)) := by
  rw [getD_set]
  by_cases hu : u = v ∧ v < l.length
  · simp [hu]
  · rw [if_neg hu]; constructor
    · intro h; exact Or.inl h
    · rintro (h | h)
      · exact h
      · exact absurd h hu

/-- the effect of one iteration of the loop at :562 on a constraint that is not trivially false -/
theorem parseStep_some (s : LPState) (pend : List ICon) (p : Nat) (a : Parsed) (cls : CClass) (v : Nat)
    (hcl : classify (pend.getD p default) = (cls, v)) (hne : cls ≠ .trivFalse) :
    ∃ a', parseStep s pend p (some a) = some a' ∧
      a'.isTab = (if tabC (pend.getD p default) then a.isTab else a.isTab.set p false) ∧
      a'.slacks = a.slacks + (if slackC (pend.getD p default) then 1 else 0) ∧
      a'.rows = (if tabC (pend.getD p default) then a.rows else a.rows - 1) ∧
      a'.isNonneg.length = a.isNonneg.length ∧
      (∀ u, a'.isNonneg.getD u false = true ↔
        (a.isNonneg.getD u false = true ∨ (forcesNonneg cls = true ∧ u = v ∧ v < a.isNonneg.length))) ∧
      a'.isRemerge.length = a.isRemerge.length ∧
      (∀ u, a'.isRemerge.getD u false = true ↔ (a.isRemerge.getD u false = true ∨
        (cls = .m7 ∧ u = v ∧ a.isNonneg.getD v false = false ∧ v + 1 < s.mapping.length ∧
          v < a.isRemerge.length))) ∧
      a'.isSat.length = a.isSat.length ∧
      (∀ k, a'.isSat.getD k false = true → a.isSat.getD k false = true ∨
        (k = p ∧ cls = .many ∧ (pend.getD p default).isEq = false ∧
          isSatisfied (pend.getD p default) s.last_generator = true)) := by
  have htab := tabC_of hcl
  have hsingle := fun h => classify_single hcl h
  cases cls
  case trivFalse => exact absurd rfl hne
  case many =>
    have ht : tabC (pend.getD p default) = true := by rw [htab]; rfl
    have hs : slackC (pend.getD p default) = !(pend.getD p default).isEq := by unfold slackC; rw [ht]; simp
    rw [ht, hs]
    unfold parseStep
    simp only [hcl]
    by_cases he : (pend.getD p default).isEq = true
    · simp only [he, Bool.not_true, Bool.false_eq_true, if_false, Bool.false_and]
      exact ⟨a, rfl, by simp, by simp, by simp, rfl, fun u => by simp [forcesNonneg], rfl, fun u => (or_iff_left fun h => nomatch h.1).symm, rfl, fun k hk => Or.inl hk⟩
    · have he' : (pend.getD p default).isEq = false := by simpa using he
      simp only [he', Bool.not_false, if_true, Bool.true_and]
      by_cases hsat : isSatisfied (pend.getD p default) s.last_generator = true
      · rw [if_pos hsat]
        refine ⟨_, rfl, by simp, by simp, by simp, rfl, fun u => by simp [forcesNonneg], rfl, fun u => by simp,
          by simp, fun k hk => ?_⟩
        simp only at hk
        rw [getD_set] at hk
        by_cases hkp : k = p ∧ p < a.isSat.length
        · exact Or.inr ⟨hkp.1, trivial, trivial, hsat⟩
        · rw [if_neg hkp] at hk; exact Or.inl hk
      · rw [if_neg hsat]
        exact ⟨_, rfl, by simp, by simp, by simp, rfl, fun u => by simp [forcesNonneg], rfl, fun u => (or_iff_left fun h => nomatch h.1).symm, rfl, fun k hk => Or.inl hk⟩
  case trivTrue =>
    have ht : tabC (pend.getD p default) = false := by rw [htab]; rfl
    have hs : slackC (pend.getD p default) = false := by unfold slackC; rw [ht]; simp
    rw [ht, hs]
    unfold parseStep
    simp only [hcl]
    exact ⟨_, rfl, by simp, by simp, by simp, rfl, fun u => by simp [forcesNonneg], rfl, fun u => (or_iff_left fun h => nomatch h.1).symm, rfl, fun k hk => Or.inl hk⟩
  case m13 =>
    have ht : tabC (pend.getD p default) = true := by rw [htab]; rfl
    have hs : slackC (pend.getD p default) = !(pend.getD p default).isEq := by unfold slackC; rw [ht]; simp
    rw [ht, hs]
    unfold parseStep
    simp only [hcl]
    by_cases he : (pend.getD p default).isEq = true
    · simp only [he, Bool.not_true, Bool.false_eq_true, if_false]
      exact ⟨a, rfl, by simp, by simp, by simp, rfl, fun u => by simp [forcesNonneg], rfl, fun u => (or_iff_left fun h => nomatch h.1).symm, rfl, fun k hk => Or.inl hk⟩
    · have he' : (pend.getD p default).isEq = false := by simpa using he
      simp only [he', Bool.not_false, if_true]
      exact ⟨_, rfl, by simp, by simp, by simp, rfl, fun u => by simp [forcesNonneg], rfl, fun u => (or_iff_left fun h => nomatch h.1).symm, rfl, fun k hk => Or.inl hk⟩
  case m45 =>
    obtain ⟨-, h45, -, -, -⟩ := hsingle ⟨by decide, by decide, by decide⟩
    have he := (h45 rfl).1
    have ht : tabC (pend.getD p default) = true := by rw [htab]; rfl
    have hs : slackC (pend.getD p default) = false := by unfold slackC; rw [ht, he]; simp
    rw [ht, hs]
    unfold parseStep
    simp only [hcl]
    refine ⟨_, rfl, by simp, by simp, by simp, by simp, fun u => ?_, rfl, fun u => (or_iff_left fun h => nomatch h.1).symm, rfl, fun k hk => Or.inl hk⟩
    rw [nonneg_set_iff]; simp [forcesNonneg]
  case m6 =>
    obtain ⟨-, -, h6, -, -⟩ := hsingle ⟨by decide, by decide, by decide⟩
    have he := (h6 rfl).1
    have ht : tabC (pend.getD p default) = true := by rw [htab]; rfl
    have hs : slackC (pend.getD p default) = true := by unfold slackC; rw [ht, he]; simp
    rw [ht, hs]
    unfold parseStep
    simp only [hcl]
    refine ⟨_, rfl, by simp, by simp, by simp, by simp, fun u => ?_, rfl, fun u => (or_iff_left fun h => nomatch h.1).symm, rfl, fun k hk => Or.inl hk⟩
    rw [nonneg_set_iff]; simp [forcesNonneg]
  case m7 =>
    have ht : tabC (pend.getD p default) = false := by rw [htab]; rfl
    have hs : slackC (pend.getD p default) = false := by unfold slackC; rw [ht]; simp
    rw [ht, hs]
    unfold parseStep
    simp only [hcl]
    by_cases hnn : a.isNonneg.getD v false = true
    · simp only [hnn, Bool.not_true, Bool.false_eq_true, if_false]
      refine ⟨_, rfl, by simp, by simp, by simp, rfl, fun u => ?_, rfl,
        fun u => (or_iff_left fun h => nomatch h.2.2.1).symm, rfl, fun k hk => Or.inl hk⟩
      simp only [forcesNonneg]
      constructor
      · intro h; exact Or.inl h
      · rintro (h | ⟨-, h1, -⟩)
        · exact h
        · rw [h1]; exact hnn
    · have hnn' : a.isNonneg.getD v false = false := by simpa using hnn
      simp only [hnn', Bool.not_false, if_true]
      by_cases hv : v + 1 < s.mapping.length
      · rw [if_pos hv]
        refine ⟨_, rfl, by simp, by simp, by simp, by simp, fun u => ?_, by simp, fun u => ?_, rfl,
          fun k hk => Or.inl hk⟩
        · rw [nonneg_set_iff]; simp [forcesNonneg]
        · rw [nonneg_set_iff]; simp [hv]
      · rw [if_neg hv]
        refine ⟨_, rfl, by simp, by simp, by simp, by simp, fun u => ?_, rfl, fun u => by simp [hv], rfl,
          fun k hk => Or.inl hk⟩
        rw [nonneg_set_iff]; simp [forcesNonneg]
  case m89 =>
    obtain ⟨-, -, -, -, h89⟩ := hsingle ⟨by decide, by decide, by decide⟩
    have he := h89 rfl
    have ht : tabC (pend.getD p default) = true := by rw [htab]; rfl
    have hs : slackC (pend.getD p default) = true := by unfold slackC; rw [ht, he]; simp
    rw [ht, hs]
    unfold parseStep
    simp only [hcl]
    exact ⟨_, rfl, by simp, by simp, by simp, rfl, fun u => by simp [forcesNonneg], rfl, fun u => (or_iff_left fun h => nomatch h.1).symm, rfl, fun k hk => Or.inl hk⟩

theorem parseStep_trivFalse (s : LPState) (pend : List ICon) (p : Nat) (a : Parsed) (v : Nat)
    (hcl : classify (pend.getD p default) = (.trivFalse, v)) : parseStep s pend p (some a) = none := by
  unfold parseStep
  simp only [hcl]

/-- the result of the loop of `parse_constraints` from the last pending constraint down to number `i`: `none` records a
    trivially false constraint, otherwise the accumulated record satisfies `P i` -/
def ParseOut (pend : List ICon) (P : Nat → Parsed → Prop) (i : Nat) : Option Parsed → Prop
  | none => ∃ c ∈ pend.drop i, (classify c).1 = .trivFalse
  | some a => P i a

/-- the loop of `parse_constraints` keeps an invariant `P` of the accumulated record that every single step on a
    constraint that is not trivially false keeps -/
theorem parse_walk (s : LPState) (pend : List ICon) (P : Nat → Parsed → Prop) (init : Parsed)
    (h0 : P pend.length init)
    (hstep : ∀ i a cls v, i < pend.length → pend.drop i = pend.getD i default :: pend.drop (i+1) →
      classify (pend.getD i default) = (cls, v) → cls ≠ .trivFalse → P (i+1) a →
      ∀ a', parseStep s pend i (some a) = some a' → P i a') :
    ParseOut pend P 0 (revFold pend.length (parseStep s pend) (some init)) := by
  apply revFold_inv (ParseOut pend P)
  · exact h0
  · intro i hi acc hacc
    have hdrop : pend.drop i = pend.getD i default :: pend.drop (i+1) := by
      rw [List.getD_eq_getElem?_getD, List.getElem?_eq_getElem hi]
      exact List.drop_eq_getElem_cons hi
    cases acc with
    | none =>
      obtain ⟨c, hc, hcl⟩ := hacc
      exact ⟨c, by rw [hdrop]; exact List.mem_cons_of_mem _ hc, hcl⟩
    | some a =>
      rcases hcl : classify (pend.getD i default) with ⟨cls, v⟩
      by_cases hf : cls = .trivFalse
      · subst hf
        rw [parseStep_trivFalse s pend i a v hcl]
        exact ⟨_, by rw [hdrop]; exact List.mem_cons_self, by rw [hcl]⟩
      · obtain ⟨a', ha', -⟩ := parseStep_some s pend i a cls v hcl hf
        rw [ha']
        exact hstep i a cls v hi hdrop hcl hf hacc a' ha'

/-- the loop invariant of `parse_constraints` for the counters and the lists `is_tableau_constraint`,
    `is_nonnegative_variable`: the pending constraints with index `≥ i` are processed -/
def ParseInv (pend : List ICon) (nn0 : List Bool) : Nat → Option Parsed → Prop :=
  ParseOut pend fun i a =>
    a.isTab = List.replicate i true ++ (pend.drop i).map tabC ∧
    a.slacks = ((pend.drop i).filter slackC).length ∧
    a.rows = i + ((pend.drop i).filter tabC).length ∧
    (∀ c ∈ pend.drop i, (classify c).1 ≠ .trivFalse) ∧
    a.isNonneg.length = nn0.length ∧
    (∀ u, a.isNonneg.getD u false = true →
      nn0.getD u false = true ∨ ∃ c ∈ pend.drop i, forcesNonneg (classify c).1 = true ∧ (classify c).2 = u) ∧
    (∀ c ∈ pend.drop i, (classify c).1 = .m7 → (classify c).2 < nn0.length →
      a.isNonneg.getD (classify c).2 false = true)

/-- **the outputs of `parse_constraints`** for a state whose known-non-negative list is `nn0` -/
theorem parse_spec (s : LPState) (nn0 : List Bool)
    (hnn : (if s.mapping.length > 0 then
        revFold (min (s.mapping.length - 1) s.external_space_dim)
          (fun i (l : List Bool) => if (s.mapping.getD (i+1) (0, 0)).2 == 0 then l.set i true else l)
          (List.replicate s.external_space_dim false)
      else List.replicate s.external_space_dim false) = nn0) :
    ParseInv (s.input_cs.drop s.first_pending) nn0 0 (parseConstraints s) := by
  unfold parseConstraints
  simp only
  rw [hnn]
  apply parse_walk
  · -- initially nothing is processed
    have hd : (s.input_cs.drop s.first_pending).drop (s.input_cs.drop s.first_pending).length = [] :=
      List.drop_eq_nil_of_le (le_refl _)
    refine ⟨by rw [hd]; simp, by rw [hd]; simp, by rw [hd]; simp, by rw [hd]; simp, rfl, fun u hu => Or.inl hu, ?_⟩
    rw [hd]; intro c hc; cases hc
  · intro i a cls v hi hdrop hcl hf ⟨h1, h2, h3, h4, h5, h6, h7⟩ a' ha'
    obtain ⟨a'', ha'', t1, t2, t3, t4, t5, -⟩ := parseStep_some s _ i a cls v hcl hf
    rw [ha'] at ha''
    cases ha''
    refine ⟨?_, ?_, ?_, ?_, ?_, ?_, ?_⟩
    · rw [t1, h1, hdrop, List.map_cons]
      by_cases ht : tabC ((s.input_cs.drop s.first_pending).getD i default) = true
      · rw [if_pos ht, ht]; exact replicate_succ_append i _
      · have ht' : tabC ((s.input_cs.drop s.first_pending).getD i default) = false := by simpa using ht
        rw [if_neg ht, ht']; exact replicate_succ_append_set i _ false
    · rw [t2, h2, hdrop, List.filter_cons]
      by_cases hs : slackC ((s.input_cs.drop s.first_pending).getD i default) = true
      · rw [if_pos hs, if_pos hs]; simp
      · rw [if_neg hs, if_neg hs]; simp
    · rw [t3, h3, hdrop, List.filter_cons]
      by_cases ht : tabC ((s.input_cs.drop s.first_pending).getD i default) = true
      · rw [if_pos ht, if_pos ht]; simp; omega
      · rw [if_neg ht, if_neg ht]; omega
    · intro c hc
      rw [hdrop] at hc
      rcases List.mem_cons.mp hc with rfl | hc
      · rw [hcl]; exact hf
      · exact h4 c hc
    · rw [t4, h5]
    · intro u hu
      rcases (t5 u).mp hu with hu | ⟨hfn, huv, -⟩
      · rcases h6 u hu with h | ⟨c, hc, hc2⟩
        · exact Or.inl h
        · exact Or.inr ⟨c, by rw [hdrop]; exact List.mem_cons_of_mem _ hc, hc2⟩
      · exact Or.inr ⟨_, by rw [hdrop]; exact List.mem_cons_self, by rw [hcl]; exact ⟨hfn, huv.symm⟩⟩
    · intro c hc hc7 hlt
      rw [hdrop] at hc
      rcases List.mem_cons.mp hc with rfl | hc
      · rw [hcl] at hc7 hlt ⊢
        simp only at hc7 hlt ⊢
        subst hc7
        exact (t5 v).mpr (Or.inr ⟨rfl, rfl, by rw [h5]; exact hlt⟩)
      · exact (t5 _).mpr (Or.inl (h7 c hc hc7 hlt))

end PPLV.Solver.Pend

import PPLV.Solver.PIPCoreProofsPivot8
/-!
# pivot proofs: a concrete instance (non-vacuity of the hypotheses)

Two rows, two column variables (0, 1), two row variables (2, 3), one parameter, denominator 4:

    4 x2 = 6 x0 - 2 x1 - 8 + 2 p        4 x3 = 2 x0 + 4 x1 + 10

`normalize` divides by 2; the pivot on (0, 0) has `spp = 3 ≠ den = 2` and has to scale (by 3) to
stay in the integers.
-/
namespace PPLV.PIPCore.Piv

def exNd : SolNode :=
  { tab := { s := [[6, -2], [2, 4]], t := [[-8, 2], [10, 0]], den := 4, ns := 2, nt := 2 },
    basis := [true, true, false, false], mapping := [0, 1, 0, 1],
    varRow := [2, 3], varColumn := [0, 1], sign := [.negative, .unknown],
    big := none, arts := [], cons := [] }

theorem exNd_wf : WF exNd where
  rows_eq := by decide
  s_cols := by decide
  t_cols := by decide
  den_pos := by decide
  vr_len := by decide
  vc_len := by decide
  sign_len := by decide
  map_len := by decide
  basis_len := by decide
  vr_ok := by decide
  vc_ok := by decide
  map_ok := by decide

/-- `normalize` is not the identity here -/
example : exNd.tab.normalize =
    { s := [[3, -1], [1, 2]], t := [[-4, 1], [5, 0]], den := 2, ns := 2, nt := 2 } := by decide

/-- the pivot, computed: `6 x0 = 4 x2 + 2 x1 + 8 - 2 p`, `6 x3 = 2 x2 + 7 x1 + 19 - p` -/
example : pivot exNd 0 0 =
    { tab := { s := [[4, 2], [2, 7]], t := [[8, -2], [19, -1]], den := 6, ns := 2, nt := 2 },
      basis := [false, true, true, false], mapping := [0, 1, 0, 1],
      varRow := [0, 3], varColumn := [2, 1], sign := [.mixed, .unknown],
      big := none, arts := [], cons := [] } := by decide

/-- the hypotheses of `pivot_spec` / `pivot_preserves` / `pivot_wf` hold on the instance -/
example : WF exNd ∧ 0 < exNd.tab.s.length ∧ 0 < exNd.tab.ns
    ∧ 0 < mget exNd.tab.normalize.s 0 0 ∧ [1, 2].length = exNd.tab.nt :=
  ⟨exNd_wf, by decide, by decide, by decide, by decide⟩

example : ∃ f, PivotSpec { exNd with tab := exNd.tab.normalize } (pivot exNd 0 0) 0 0 f :=
  pivot_spec exNd_wf (by decide) (by decide) (by decide)

example : ∀ v, TabSat exNd v [1, 2] ↔ TabSat (pivot exNd 0 0) v [1, 2] :=
  pivot_preserves exNd_wf (by decide) (by decide) (by decide) (by decide)

example : WF (pivot exNd 0 0) := pivot_wf exNd_wf (by decide) (by decide) (by decide)

/-- a solution at `p = 2`: `x0 = 1, x1 = 1, x2 = 0, x3 = 4`
    (`4 x2 = 6 - 2 - 8 + 4 = 0`, `4 x3 = 2 + 4 + 10 = 16`) -/
def exVal : Nat → Int := fun k => [1, 1, 0, 4].getD k 0

theorem exVal_sat : TabSat exNd exVal [1, 2] := by
  intro i hi
  have hi' : i < 2 := hi
  have : i = 0 ∨ i = 1 := by omega
  rcases this with rfl | rfl <;> (unfold RowHolds; decide)

/-- ... hence also a solution of the pivoted tableau (and `TabSat` is not vacuous on either side) -/
example : TabSat (pivot exNd 0 0) exVal [1, 2] :=
  (pivot_preserves exNd_wf (by decide) (by decide) (by decide) (by decide) exVal).mp exVal_sat

/-- a valuation that is not a solution, on both sides -/
example : ¬ TabSat (pivot exNd 0 0) (fun _ => 0) [1, 2] := by
  intro h
  have h0 := (pivot_preserves exNd_wf (pi := 0) (pj := 0) (q := [1, 2]) (by decide) (by decide)
    (by decide) (by decide) (fun _ => 0)).mpr h 0 (by decide)
  unfold RowHolds at h0
  revert h0
  decide

/-- `scale` and `normalize` on the instance -/
example : ∀ v, TabSat { exNd with tab := exNd.tab.scale 3 } v [1, 2] ↔ TabSat exNd v [1, 2] :=
  fun v => scale_tabsat exNd_wf (by decide) v [1, 2]

example : ∀ v, TabSat { exNd with tab := exNd.tab.normalize } v [1, 2] ↔ TabSat exNd v [1, 2] :=
  fun v => normalize_tabsat exNd_wf v [1, 2]

end PPLV.PIPCore.Piv

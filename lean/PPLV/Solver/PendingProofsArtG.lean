import PPLV.Solver.PendingProofsIncrDefs

/-!
# the artificial-column loop (:918–:949) with re-merge-unfeasible rows and a row offset

`artSpecG`     — `ArtSpecG`, read off the invariant of both loops of `ppcArtificials` (`artLoop_spec`);
`bsol_unique`  — a solution of a canonical tableau vanishing on the non-basic columns is the basic solution.
-/
namespace PPLV.Solver.Pend
open PPLV.Lin PPLV.Solver PPLV.Solver.Tab

theorem artSpecG : ArtSpecG := by
  intro oldRows N numCols SL unf worked T1 base0 hoN hT hB hrows hzero hunf hnd hcount hnc
  obtain ⟨⟨k1, k2, k3, k5, k6, k7, k8, k9, k10⟩, k4⟩ :=
    artLoop_spec oldRows N numCols SL unf worked T1 base0 hoN hT hB hrows hzero hunf hnd hcount hnc
  refine ⟨k1, k2, k3, k4, k6, fun r hr hw => ?_, fun r hr hw => ?_, fun r r' hr hr' hne hw => ?_, fun j => ?_⟩
  · have hS : r ∈ unf ∨ (oldRows ≤ r ∧ r < N ∧ worked.getD r false = false) := by
      rcases hw with h | ⟨h1, h2⟩
      · exact Or.inl h
      · exact Or.inr ⟨h1, hr, h2⟩
    obtain ⟨b1, b2, b3, b4⟩ := k7 r hr hS
    exact ⟨b1, lt_of_lt_of_eq b2 k4, b3, b4⟩
  · apply k8 r hr
    rintro (h | ⟨h1, _, h3⟩)
    · exact hw (Or.inl h)
    · exact hw (Or.inr ⟨h1, h3⟩)
  · have hS : r ∈ unf ∨ (oldRows ≤ r ∧ r < N ∧ worked.getD r false = false) := by
      rcases hw with h | ⟨h1, h2⟩
      · exact Or.inl h
      · exact Or.inr ⟨h1, hr, h2⟩
    exact k9 r r' hr hr' hne hS
  · rw [k10 j, k4]

/-- the loop on an instance with one re-merge-unfeasible old row and one new row not worked out -/
example : ppcArtificials [0] 1 2 [false, false] [[-1, 0, 0, 0], [-2, 0, 0, 0]] (zeros 4) [0, 0] 1 =
    ([[-1, 1, 0, 0], [-2, 0, 1, 0]], [0, -1, -1, 0], [1, 2], 3) := by decide

/-- the hypotheses of `ArtSpecG` are satisfiable on that instance -/
example : ArtOutG 1 2 4 1 [0] [false, false] [[-1, 0, 0, 0], [-2, 0, 0, 0]] [0, 0]
    (ppcArtificials [0] 1 2 [false, false] [[-1, 0, 0, 0], [-2, 0, 0, 0]] (zeros 4) [0, 0] 1) := by
  refine artSpecG 1 2 4 1 [0] [false, false] [[-1, 0, 0, 0], [-2, 0, 0, 0]] [0, 0] (by omega) rfl rfl ?_ ?_ ?_
    (by simp) (by decide) (by omega)
  · intro r hr
    rcases r with _ | _ | r
    · rfl
    · rfl
    · omega
  · intro r hr col hc
    have hcol : ∀ l : List Int, (∀ k, l.getD k 0 = 0) → ∀ a : Int, ((a :: l).getD col 0 = 0) := by
      intro l hl a
      obtain ⟨c, rfl⟩ : ∃ c, col = c + 1 := ⟨col - 1, by omega⟩
      simpa using hl c
    have hz : ∀ k, ([0, 0, 0] : List Int).getD k 0 = 0 := by
      intro k
      rcases k with _ | _ | _ | k <;> simp
    rcases r with _ | _ | r
    · exact hcol _ hz _
    · exact hcol _ hz _
    · omega
  · intro r hr
    simp at hr; omega

/-! ### uniqueness of the basic solution -/

/-- a solution of a canonical tableau with `y 0 = 1` that vanishes on every non-basic column `≥ 1` is the basic
    solution -/
theorem bsol_unique {T : List Row} {base : List Nat} {n : Nat} (hC : CanonTB T base n) (y : Val) (h0 : y 0 = 1)
    (hs : Sol T y) (hnb : ∀ j, 1 ≤ j → (∀ i, i < T.length → base.getD i 0 ≠ j) → y j = 0) :
    ∀ j, y j = bsol T base j := by
  intro j
  unfold bsol
  by_cases hj0 : j = 0
  · rw [if_pos hj0, hj0, h0]
  rw [if_neg hj0]
  cases hro : rowOf base j with
  | none =>
    simp only
    exact hnb j (by omega) (fun i hi => rowOf_none hro i (by rw [hC.lenB]; exact hi))
  | some i =>
    simp only
    obtain ⟨hi, hb⟩ := rowOf_some hro
    rw [hC.lenB] at hi
    have hrow := hs i hi
    unfold rowVal at hrow
    set r := T.getD i [] with hr
    have hrb : r.get j ≠ 0 := by have := hC.basicNZ i hi; rwa [hb] at this
    have key := dot_update r (y.update 0 0) j 0
    rw [dot_update r y 0 0, hrow] at key
    have hz : dot r ((y.update 0 0).update j 0) = 0 := by
      apply dot_eq_zero_of_support
      intro c
      by_cases hc0 : c = 0
      · right; simp [Val.update, hc0]
      by_cases hcj : c = j
      · right; simp [Val.update, hcj]
      simp only [Val.update, hc0, hcj, if_false]
      cases hrc : rowOf base c with
      | none =>
        right
        exact hnb c (by omega) (fun k hk => rowOf_none hrc k (by rw [hC.lenB]; exact hk))
      | some k =>
        left
        obtain ⟨hk, hkc⟩ := rowOf_some hrc
        rw [hC.lenB] at hk
        have hki : k ≠ i := by
          intro h; rw [h, hb] at hkc; exact hcj hkc.symm
        have := hC.basicCol k i hk hi hki
        rw [hkc] at this
        exact this
    rw [hz, h0] at key
    have hyj : (y.update 0 0) j = y j := by simp only [Val.update]; rw [if_neg hj0]
    rw [hyj] at key
    have hrbq : ((r.get j : Int) : Rat) ≠ 0 := by exact_mod_cast hrb
    have e0 : ((r.getD 0 0 : Int) : Rat) = ((r.get 0 : Int) : Rat) := rfl
    have e2 : ((r.getD j 0 : Int) : Rat) = ((r.get j : Int) : Rat) := rfl
    rw [e0, e2] at key
    field_simp
    linarith

end PPLV.Solver.Pend

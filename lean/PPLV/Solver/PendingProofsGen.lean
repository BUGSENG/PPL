import PPLV.Solver.PendingProofsE2E2

/-!
# `compute_generator` returns the projection of the basic solution

`computeGeneratorPt_spec`: for a feasible basis (`CanonTB`) and a mapping whose columns lie before the sign
column, the point built by `compute_generator` (:1803) has a positive divisor and, as a rational point, is
`proj mapping (basic solution)` on the problem variables.
-/
namespace PPLV.Solver.Pend
open PPLV.Lin PPLV.Solver PPLV.Solver.Tab

theorem isInBase_spec (base : List Nat) (v : Nat) :
    (∀ r, isInBase base v = some r → r < base.length ∧ base.getD r 0 = v) ∧
    (isInBase base v = none → ∀ i, i < base.length → base.getD i 0 ≠ v) := by
  unfold isInBase
  have key := revFold_inv
    (fun (k : Nat) (acc : Option Nat) =>
      (∀ r, acc = some r → r < base.length ∧ base.getD r 0 = v) ∧
      (acc = none → ∀ i, k ≤ i → i < base.length → base.getD i 0 ≠ v))
    (fun i acc => match acc with
      | some r => some r
      | none => if base.getD i 0 == v then some i else none)
    base.length none
    ⟨(fun r h => by cases h), fun _ i h1 h2 => by omega⟩
    (by
      intro k hk acc ⟨a1, a2⟩
      cases acc with
      | some r => exact ⟨(fun r' h => a1 r' h), fun h => by cases h⟩
      | none =>
        simp only
        by_cases hb : base.getD k 0 = v
        · have : (base.getD k 0 == v) = true := by rw [hb]; simp
          rw [this]
          simp only [if_true]
          exact ⟨(fun r h => by simp only [Option.some.injEq] at h; subst h; exact ⟨hk, hb⟩), fun h => by cases h⟩
        · have : (base.getD k 0 == v) = false := by simpa using hb
          rw [this]
          simp only [Bool.false_eq_true, if_false]
          refine ⟨(fun r h => by cases h), fun _ i h1 h2 => ?_⟩
          by_cases hik : i = k
          · rw [hik]; exact hb
          · exact a2 rfl i (by omega) h2)
  exact ⟨key.1, fun h i hi => key.2 h i (Nat.zero_le _) hi⟩

/-- the basic solution of a feasible basis -/
def bsol (T : List Row) (base : List Nat) : Val := fun j =>
  if j = 0 then 1 else
    match rowOf base j with
    | some i => -(((T.getD i []).get 0 : Int) : Rat) / (((T.getD i []).get j : Int) : Rat)
    | none => 0

/-- value of a tableau column as computed by `compute_generator` (:1829–:1845) -/
theorem varValue_spec {T : List Row} {base : List Nat} {n : Nat} (hC : CanonTB T base n) (col : Nat) (hc : col ≠ 0) :
    0 < (varValue T base col).2 ∧
    ((varValue T base col).1 : Rat) / ((varValue T base col).2 : Rat) = bsol T base col := by
  unfold varValue bsol
  rw [if_neg hc]
  obtain ⟨s1, s2⟩ := isInBase_spec base col
  cases hi : isInBase base col with
  | none =>
    have hno := s2 hi
    have : rowOf base col = none := by
      cases hr : rowOf base col with
      | none => rfl
      | some i => exact absurd (rowOf_some hr).2 (hno i (rowOf_some hr).1)
    rw [this]; simp
  | some r =>
    obtain ⟨hr, hb⟩ := s1 r hi
    have hrT : r < T.length := by rw [← hC.lenB]; exact hr
    have hro : rowOf base col = some r := by
      cases hr' : rowOf base col with
      | none => exact absurd hb (rowOf_none hr' r hr)
      | some k =>
        obtain ⟨hk, hkb⟩ := rowOf_some hr'
        have hkT : k < T.length := by rw [← hC.lenB]; exact hk
        by_cases hkr : k = r
        · rw [hkr]
        · exfalso
          have := hC.basicCol k r hkT hrT hkr
          rw [hkb, ← hb] at this
          exact hC.basicNZ r hrT this
    rw [hro]
    simp only
    have hnz : (T.getD r []).get col ≠ 0 := by rw [← hb]; exact hC.basicNZ r hrT
    exact basicValue_spec _ _ hnz

/-- numerator / denominator of a problem variable (:1823–:1881) -/
theorem genCoord_spec {T : List Row} {base : List Nat} {n : Nat} (hC : CanonTB T base n) (M : List (Nat × Nat)) (i : Nat)
    (h1 : (M.getD (i+1) (0, 0)).1 ≠ 0) :
    0 < (genCoord T base M i).2 ∧
    ((genCoord T base M i).1 : Rat) / ((genCoord T base M i).2 : Rat) = proj M (bsol T base) i := by
  unfold genCoord proj
  simp only
  obtain ⟨v1, v2⟩ := varValue_spec hC _ h1
  by_cases hm : (M.getD (i+1) (0, 0)).2 = 0
  · have : ((M.getD (i+1) (0, 0)).2 != 0) = false := by rw [hm]; rfl
    rw [this]
    simp only [Bool.false_eq_true, if_false, sub_zero]
    exact ⟨v1, v2⟩
  · have : ((M.getD (i+1) (0, 0)).2 != 0) = true := bne_iff_ne.mpr hm
    rw [this]
    simp only [if_true]
    obtain ⟨s1, s2⟩ := isInBase_spec base (M.getD (i+1) (0, 0)).2
    cases hi : isInBase base (M.getD (i+1) (0, 0)).2 with
    | none =>
      simp only
      have hno := s2 hi
      have hz : bsol T base (M.getD (i+1) (0, 0)).2 = 0 := by
        unfold bsol; rw [if_neg hm]
        cases hr : rowOf base (M.getD (i+1) (0, 0)).2 with
        | none => rfl
        | some k => exact absurd (rowOf_some hr).2 (hno k (rowOf_some hr).1)
      rw [hz, sub_zero]; exact ⟨v1, v2⟩
    | some r =>
      simp only
      obtain ⟨w1, w2⟩ := varValue_spec hC (M.getD (i+1) (0, 0)).2 hm
      have hw : varValue T base (M.getD (i+1) (0, 0)).2 = basicValue (T.getD r []) (M.getD (i+1) (0, 0)).2 := by
        unfold varValue; rw [hi]
      rw [hw] at w1 w2
      obtain ⟨m1, m2⟩ := mergeSplit_spec (varValue T base (M.getD (i+1) (0, 0)).1).1
        (varValue T base (M.getD (i+1) (0, 0)).1).2
        (basicValue (T.getD r []) (M.getD (i+1) (0, 0)).2).1 (basicValue (T.getD r []) (M.getD (i+1) (0, 0)).2).2 v1 w1
      exact ⟨m1, by rw [m2, v2, w2]⟩

/-! ### the common denominator -/

theorem foldl_lcm_spec (l : List (Int × Int)) (a : Int) (ha : 0 < a) (hl : ∀ p ∈ l, 0 < p.2) :
    0 < l.foldl (fun (L : Int) p => ((Int.lcm L p.2 : Nat) : Int)) a ∧
    a ∣ l.foldl (fun (L : Int) p => ((Int.lcm L p.2 : Nat) : Int)) a ∧
    ∀ p ∈ l, p.2 ∣ l.foldl (fun (L : Int) p => ((Int.lcm L p.2 : Nat) : Int)) a := by
  induction l generalizing a with
  | nil => exact ⟨ha, dvd_refl _, fun p hp => by cases hp⟩
  | cons q l ih =>
    simp only [List.foldl_cons]
    have hq := hl q List.mem_cons_self
    have hpos : (0 : Int) < ((Int.lcm a q.2 : Nat) : Int) := by
      exact_mod_cast Int.lcm_pos (by omega) (by omega)
    obtain ⟨i1, i2, i3⟩ := ih _ hpos (fun p hp => hl p (List.mem_cons_of_mem _ hp))
    refine ⟨i1, dvd_trans (Int.dvd_lcm_left a q.2) i2, fun p hp => ?_⟩
    rcases List.mem_cons.mp hp with rfl | hp
    · exact dvd_trans (Int.dvd_lcm_right a p.2) i2
    · exact i3 p hp

/-- `point(expr, lcm)`: dividing by the gcd does not change the rational point; the divisor stays positive -/
theorem mkPoint_spec (nums : List Int) (d : Int) (hd : 0 < d) :
    0 < (mkPoint nums d).den ∧ ∀ i, (mkPoint nums d).val i = ((nums.getD i 0 : Int) : Rat) / (d : Rat) := by
  unfold mkPoint
  obtain ⟨g, hg, e1, -, e3⟩ := normalizeRow_spec (d :: nums)
  cases hn : normalizeRow (d :: nums) with
  | nil => rw [hn] at e3; simp at e3
  | cons d' nums' =>
    simp only
    rw [hn] at e1
    have h0 := e1 0
    simp only [Row.get, List.getD_cons_zero] at h0
    have hd' : 0 < d' := by
      by_contra hneg
      have : d' ≤ 0 := by omega
      have := mul_nonpos_of_nonneg_of_nonpos (le_of_lt hg) this
      omega
    refine ⟨hd', fun i => ?_⟩
    have hi := e1 (i + 1)
    simp only [Row.get, List.getD_cons_succ] at hi
    unfold Pt.val
    simp only
    have hgq : (g : Rat) ≠ 0 := by exact_mod_cast (ne_of_gt hg)
    have hd'q : (d' : Rat) ≠ 0 := by exact_mod_cast (ne_of_gt hd')
    have hdq : (d : Rat) ≠ 0 := by exact_mod_cast (ne_of_gt hd)
    have h0q : (g : Rat) * d' = d := by exact_mod_cast h0
    have hiq : (g : Rat) * ((nums'.getD i 0 : Int) : Rat) = ((nums.getD i 0 : Int) : Rat) := by exact_mod_cast hi
    rw [← h0q, ← hiq]
    field_simp

/-- **`compute_generator`** -/
theorem computeGeneratorPt_spec {T : List Row} {base : List Nat} {n : Nat} (hC : CanonTB T base n)
    (M : List (Nat × Nat)) (ext : Nat) (hext : 0 < ext) (hM : ∀ i, i < ext → (M.getD (i+1) (0, 0)).1 ≠ 0) :
    0 < (computeGeneratorPt ext T base M).den ∧
    (computeGeneratorPt ext T base M).num.length = ext ∧
    ∀ i, i < ext → (computeGeneratorPt ext T base M).val i = proj M (bsol T base) i := by
  unfold computeGeneratorPt
  have hne : (ext == 0) = false := by simp; omega
  rw [hne]
  simp only [Bool.false_eq_true, if_false]
  set nd := (List.range ext).map (genCoord T base M) with hnd
  have hlen : nd.length = ext := by simp [hnd]
  have hget : ∀ i, i < ext → nd.getD i (0, 1) = genCoord T base M i := by
    intro i hi
    rw [hnd, List.getD_eq_getElem?_getD, List.getElem?_map, List.getElem?_range hi]; rfl
  have hpos : ∀ p ∈ nd, 0 < p.2 := by
    intro p hp
    rw [hnd] at hp
    obtain ⟨i, hi, rfl⟩ := List.mem_map.mp hp
    exact (genCoord_spec hC M i (hM i (List.mem_range.mp hi))).1
  -- nd = head :: tail
  cases hcs : nd with
  | nil => rw [hcs] at hlen; simp at hlen; omega
  | cons hd tl =>
    simp only [List.headD_cons, List.tail_cons]
    have hhd : 0 < hd.2 := hpos hd (by rw [hcs]; exact List.mem_cons_self)
    obtain ⟨l1, l2, l3⟩ := foldl_lcm_spec tl hd.2 hhd (fun p hp => hpos p (by rw [hcs]; exact List.mem_cons_of_mem _ hp))
    set L := tl.foldl (fun (l : Int) p => ((Int.lcm l p.2 : Nat) : Int)) hd.2 with hL
    obtain ⟨m1, m2⟩ := mkPoint_spec ((hd :: tl).map fun p => p.1 * (L / p.2)) L l1
    refine ⟨m1, ?_, fun i hi => ?_⟩
    · -- the number of coordinates
      unfold mkPoint
      obtain ⟨g, hg, -, -, e3⟩ := normalizeRow_spec (L :: (hd :: tl).map fun p => p.1 * (L / p.2))
      cases hn : normalizeRow (L :: (hd :: tl).map fun p => p.1 * (L / p.2)) with
      | nil => rw [hn] at e3; simp at e3
      | cons d' nums' =>
        simp only
        rw [hn] at e3
        simp only [List.length_cons, List.length_map] at e3
        have : ext = tl.length + 1 := by rw [← hlen, hcs]; rfl
        omega
    · rw [m2 i]
      obtain ⟨g1, g2⟩ := genCoord_spec hC M i (hM i hi)
      rw [← g2, ← hget i hi, hcs]
      have hmem : (hd :: tl).getD i (0, 1) ∈ hd :: tl := by
        rw [List.getD_eq_getElem?_getD, List.getElem?_eq_getElem (by rw [← hcs, hlen]; exact hi)]
        exact List.getElem_mem _
      set p := (hd :: tl).getD i (0, 1) with hp
      have hp2 : 0 < p.2 := hpos p (by rw [hcs]; exact hmem)
      have hdvd : p.2 ∣ L := by
        rcases List.mem_cons.mp hmem with h | h
        · rw [h]; exact l2
        · exact l3 p h
      have hentry : ((hd :: tl).map fun p => p.1 * (L / p.2)).getD i 0 = p.1 * (L / p.2) := by
        rw [List.getD_eq_getElem?_getD, List.getElem?_map, hp, List.getD_eq_getElem?_getD]
        rw [List.getElem?_eq_getElem (by rw [← hcs, hlen]; exact hi)]
        rfl
      rw [hentry]
      obtain ⟨q, hq⟩ := hdvd
      have hq' : L / p.2 = q := by rw [hq]; exact Int.mul_ediv_cancel_left _ (by omega)
      rw [hq']
      have hLq : (L : Rat) = (p.2 : Rat) * (q : Rat) := by exact_mod_cast hq
      have hp2q : (p.2 : Rat) ≠ 0 := by exact_mod_cast (ne_of_gt hp2)
      have hqq : (q : Rat) ≠ 0 := by
        intro h0
        rw [h0, mul_zero] at hLq
        have : (L : Rat) ≠ 0 := by exact_mod_cast (ne_of_gt l1)
        exact this hLq
      rw [hLq]; push_cast; field_simp

end PPLV.Solver.Pend

import PPLV.Solver.PendingProofsPhase1
import PPLV.Solver.PendingProofsObj
import PPLV.Solver.PendingProofsFresh

/-!
# end to end: `is_lp_satisfiable()` and `second_phase()` on a problem never solved before

`ppc_fresh`: what `process_pending_constraints()` leaves for a fresh problem: UNSATISFIABLE with an empty
solution set; or (no tableau row) a solved status with a non-empty solution set; or SATISFIABLE with a `Ready`
state: a feasible basis whose non-negative solutions (zero from the sign column on) are exactly the encodings of
the solution set of the constraints.  It is `ppc_chain` (first phase → `erase_artificials` → `Ready`, for any set-up
that hands over `Phase1Start`, `SetupGood` and a mapping before the artificial columns) at the fresh set-up.
-/
namespace PPLV.Solver.Pend
open PPLV.Lin PPLV.Solver.Tab

/-- valuations the tableau of a solved state speaks about -/
def Pos0 (n : Nat) (y : Val) : Prop := y 0 = 1 ∧ (∀ j, 1 ≤ j → 0 ≤ y j) ∧ ∀ j, n - 1 ≤ j → y j = 0

theorem Pos0.nonnegPt {n : Nat} {y : Val} (h : Pos0 n y) : NonnegPt n y :=
  ⟨h.1, h.2.2 _ (le_refl _), fun j hj _ => h.2.1 j hj⟩

def trunc (n : Nat) (y : Val) : Val := fun j => if j < n then y j else 0

theorem dot_trunc (r : List Int) (n : Nat) (y : Val) (h : ∀ j, j < r.length → n ≤ j → y j = 0) :
    dot r (trunc n y) = dot r y := by
  apply dot_congr_lt
  intro u hu
  unfold trunc
  split
  · rfl
  · exact (h u hu (by omega)).symm

/-- a SATISFIABLE state ready for the second phase -/
structure Ready (cs : List ICon) (n : Nat) (sR : LPState) : Prop where
  tb : CanonTB sR.tableau sR.base sR.working_cost.length
  map : ∃ nn j, MapOK sR.mapping nn n j ∧ 1 + j ≤ sR.working_cost.length - 1
  sound : ∀ y, Pos0 sR.working_cost.length y → Sol sR.tableau y → csSem cs (proj sR.mapping y)
  complete : ∀ x, csSem cs x →
    ∃ y, Pos0 sR.working_cost.length y ∧ Sol sR.tableau y ∧ ∀ i, i < n → proj sR.mapping y i = x i

/-- the mapping and the data the set-up keeps -/
theorem setup_phase1_extra (s : LPState) (hF : Fresh s) (s' : LPState) (b e : Nat)
    (h : ppcSetup s = .phase1 s' b e) :
    (∃ nn j, MapOK s'.mapping nn s.external_space_dim j ∧ 1 + j ≤ artStart b s'.numCols) ∧
    s'.obj = s.obj ∧ s'.maximize = s.maximize ∧ s'.pricing = s.pricing ∧
    s'.external_space_dim = s.external_space_dim := by
  cases hp : parseConstraints s with
  | none =>
    exfalso
    have : ppcSetup s = .done { s with status := .UNSATISFIABLE } := by
      unfold ppcSetup; rw [ppcRecompute_fresh hF]; simp only [hp]
    rw [this] at h; cases h
  | some p =>
    obtain ⟨C, c1, c2, c3, H1, H2, hnc, s0, hs0, f1, f2, f3, f4, f5, f6, f7, f8, f9, -⟩ := fresh_ctx s hF p hp
    rcases ppcTrivial_cases s0 (if (C.N - C.isSat.count true) > 0 then C.SL else 0) C.artOut.2.2.2
        (by rw [f6]; exact hF.npos) with ⟨hph, -⟩ | ⟨sd, hd, -⟩
    swap
    · rw [hs0, hd] at h; cases h
    rw [hs0, hph] at h
    simp only [Setup.phase1.injEq] at h
    obtain ⟨rfl, rfl, rfl⟩ := h
    have hstart : artStart (if (C.N - C.isSat.count true) > 0 then C.SL else 0) s0.numCols = C.SL := by
      unfold artStart
      rw [f4]
      by_cases ha : (C.N - C.isSat.count true) > 0
      · rw [if_pos ha, if_pos (by unfold InsCtx.SL InsCtx.V; omega)]
      · rw [if_neg ha, if_neg (by simp)]; rw [hnc]; omega
    refine ⟨⟨C.nn, C.j, by rw [f5, ← c2]; exact C.hM, by rw [hstart]; unfold InsCtx.SL InsCtx.V; omega⟩, f7, f8, f9, f6⟩

theorem ppcTrivial_done_status (s : LPState) (b e : Nat) (s' : LPState) (h : ppcTrivial s b e = .done s') :
    s'.status = .OPTIMIZED ∨ s'.status = .UNBOUNDED := by
  unfold ppcTrivial at h
  split at h
  · simp only [Setup.done.injEq] at h; subst h; exact Or.inl rfl
  · split at h
    · split at h
      · simp only [Setup.done.injEq] at h; subst h; exact Or.inr rfl
      · simp only [Setup.done.injEq] at h; subst h; exact Or.inl rfl
    · cases h

theorem ppcFinish_unsat (s' : LPState) (b e : Nat) (ok : Bool) (t : Tab) (h : ok = false ∨ t.cost.get 0 ≠ 0) :
    (ppcFinish s' b e ok t).status = .UNSATISFIABLE := by
  unfold ppcFinish
  have : (!ok || t.cost.get 0 != 0) = true := by
    rcases h with h | h
    · rw [h]; rfl
    · have : (t.cost.get 0 != 0) = true := bne_iff_ne.mpr h
      rw [this]; simp
  simp only [this, if_true]

theorem ppcFinish_sat (s' : LPState) (b e : Nat) (t : Tab) (h : t.cost.get 0 = 0) :
    ppcFinish s' b e true t =
      { computeGenerator (if b != 0 then
          { (s'.withTab t).withTab (eraseArtificials b e (s'.withTab t).numCols t).1 with
            numCols := (eraseArtificials b e (s'.withTab t).numCols t).2 }
        else s'.withTab t) with status := .SATISFIABLE } := by
  unfold ppcFinish
  have : (!true || t.cost.get 0 != 0) = false := by rw [h]; rfl
  simp only [this, Bool.false_eq_true, if_false]

/-- a solution that vanishes from column `N` on (as far as the rows reach), cut at `N` -/
theorem sol_trunc {T : List Row} {L M N : Nat} {y : Val} (hN : 1 ≤ N)
    (hrow : ∀ i, i < T.length → (T.getD i []).length = L)
    (hy : y 0 = 1) (hnn : ∀ j, 1 ≤ j → 0 ≤ y j) (hzM : ∀ j, M ≤ j → j < N → y j = 0)
    (hzN : ∀ j, N ≤ j → j < L → y j = 0) (hs : Sol T y) :
    trunc N y 0 = 1 ∧ (∀ j, 1 ≤ j → 0 ≤ trunc N y j) ∧ (∀ j, M ≤ j → trunc N y j = 0) ∧ Sol T (trunc N y) := by
  refine ⟨by unfold trunc; rw [if_pos (show 0 < N from hN)]; exact hy, fun j hj => ?_, fun j hj => ?_, fun i hi => ?_⟩
  · unfold trunc; split
    · exact hnn j hj
    · exact le_refl _
  · unfold trunc; split
    · exact hzM j hj (by assumption)
    · rfl
  · unfold rowVal
    rw [dot_trunc _ _ _ (fun j h1 h2 => hzN j h2 (by rw [← hrow i hi]; exact h1))]
    exact hs i hi

/-- **from the hand-over to the first phase to the state left by `process_pending_constraints()`**, for any call:
    given `Phase1Start`, `SetupGood` and the mapping layout, the first phase and `erase_artificials` end
    UNSATISFIABLE with an empty solution set, or SATISFIABLE with a `Ready` state -/
theorem ppc_chain (fc : Chooser) (hfc : ChooserOK fc) (fuel : Nat) (cs : List ICon) (n : Nat)
    (s' : LPState) (b e : Nat) (hP : Phase1Start s' b e) (hG : SetupGood cs n s' b)
    (hmap : ∃ nn j, MapOK s'.mapping nn n j ∧ 1 + j ≤ artStart b s'.numCols)
    (ok : Bool) (t : Tab) (hrun : computeSimplexWith (chooserOf fc s'.pricing) fuel s'.tab = some (ok, t)) :
    ((ppcFinish s' b e ok t).status = .UNSATISFIABLE ∧ ∀ x, ¬ csSem cs x) ∨
    ((ppcFinish s' b e ok t).status = .SATISFIABLE ∧ Ready cs n (ppcFinish s' b e ok t) ∧
      (ppcFinish s' b e ok t).obj = s'.obj ∧ (ppcFinish s' b e ok t).maximize = s'.maximize ∧
      (ppcFinish s' b e ok t).pricing = s'.pricing ∧
      (ppcFinish s' b e ok t).external_space_dim = s'.external_space_dim) := by
  obtain ⟨nn, jj, hMok, hjj⟩ := hmap
  obtain ⟨g1, g2⟩ := hG
  obtain ⟨hok, hCt, hlen, hsol, v1, v2⟩ :=
    phase1_verdict _ (chooserOf_ok fc hfc s'.pricing) fuel s' b e hP ok t hrun
  subst hok
  by_cases h0 : t.cost.get 0 = 0
  swap
  · left
    refine ⟨ppcFinish_unsat s' b e true t (Or.inr h0), fun x hx => ?_⟩
    obtain ⟨y, hy, -⟩ := g2 x hx
    exact v1 h0 y hy
  · right
    obtain ⟨hbasic, hart⟩ := v2 h0
    rw [ppcFinish_sat s' b e t h0]
    have hn2 : 2 ≤ s'.numCols := by rw [← hlen]; exact hCt.len2
    have hrow : ∀ i, i < s'.tableau.length → (s'.tableau.getD i []).length = s'.numCols :=
      fun i hi => (hP.canon.rowLen i hi).trans hP.len
    by_cases hb : b = 0
    · -- no artificial column: the tableau of the first phase is kept
      have hb' : (b != 0) = false := by rw [hb]; rfl
      rw [hb']
      simp only [Bool.false_eq_true, if_false]
      have hstart : artStart b s'.numCols = s'.numCols - 1 := by unfold artStart; rw [hb]; simp
      rw [hstart] at hjj
      refine ⟨by first | rfl | trivial, ⟨?_, ⟨nn, jj, hMok, by simp only [computeGenerator, LPState.withTab]; rw [hlen]; exact hjj⟩, ?_, ?_⟩, rfl, rfl, rfl, rfl⟩
      · simp only [computeGenerator, LPState.withTab]; exact hCt.toTB
      · intro y hy hsy
        simp only [computeGenerator, LPState.withTab] at hy hsy ⊢
        rw [hlen] at hy
        apply g1 y ⟨hy.1, hy.2.1, fun j h1 _ => hy.2.2 j (by rw [hstart] at h1; exact h1), (hsol y).mp hsy⟩
      · intro x hx
        obtain ⟨y, ⟨y1, y2, y3, y4⟩, y5⟩ := g2 x hx
        simp only [computeGenerator, LPState.withTab]
        rw [hlen]
        obtain ⟨w1, w2, w3, w4⟩ := sol_trunc (M := s'.numCols - 1) (N := s'.numCols) (by omega) hrow y1 y2
          (fun j h1 h2 => y3 j (by rw [hstart]; exact h1) h2) (fun j h1 h2 => absurd h2 (by omega)) y4
        refine ⟨trunc s'.numCols y, ⟨w1, w2, w3⟩, (hsol _).mpr w4, fun i hi => ?_⟩
        · rw [← y5 i hi]
          have := proj_congr s'.mapping nn n jj hMok (trunc s'.numCols y) y (fun col hcol => by
            unfold trunc; rw [if_pos (by omega)])
          rw [this]
    · -- the artificial columns are erased
      have hb' : (b != 0) = true := bne_iff_ne.mpr hb
      rw [hb']
      simp only [if_true]
      obtain ⟨hb1, hbe⟩ := hP.bpos hb
      have hA := hart hb
      have hstart : artStart b s'.numCols = b := by unfold artStart; rw [if_pos hb]
      rw [hstart] at hjj
      have hnumc : (s'.withTab t).numCols = s'.numCols := rfl
      rw [hnumc]
      obtain ⟨e1, e2, e3⟩ := erase_artificials_valid b e s'.numCols t hb1 hbe hP.eEnd hA
      obtain ⟨e4, e5⟩ := eraseArtificials_canonTB b e s'.numCols t hb1 hbe hP.eEnd
        (by rw [← hlen]; exact hCt.toTB) hA hlen
      refine ⟨by first | rfl | trivial, ⟨?_, ⟨nn, jj, hMok, by simp only [computeGenerator, LPState.withTab]; rw [e5]; omega⟩, ?_, ?_⟩, rfl, rfl, rfl, rfl⟩
      · simp only [computeGenerator, LPState.withTab]; rw [e5]; exact e4
      · intro y hy hsy
        simp only [computeGenerator, LPState.withTab] at hy hsy ⊢
        rw [e5] at hy
        have hno : NoArt b y := fun j hj => hy.2.2 j (by omega)
        have hs1 := (hsol y).mp ((e3 y hno).mp hsy)
        exact g1 y ⟨hy.1, hy.2.1, fun j h1 _ => hno j (by rw [hstart] at h1; exact h1), hs1⟩
      · intro x hx
        obtain ⟨y, ⟨y1, y2, y3, y4⟩, y5⟩ := g2 x hx
        simp only [computeGenerator, LPState.withTab]
        rw [e5]
        obtain ⟨w1, w2, w3, w4⟩ := sol_trunc (M := b) (N := b) hb1 hrow y1 y2
          (fun j h1 h2 => absurd h2 (by omega)) (fun j h1 h2 => y3 j (by rw [hstart]; exact h1) h2) y4
        refine ⟨trunc b y, ⟨w1, w2, fun j hj => w3 j (by omega)⟩, (e3 _ w3).mpr ((hsol _).mpr w4), fun i hi => ?_⟩
        · rw [← y5 i hi]
          have := proj_congr s'.mapping nn n jj hMok (trunc b y) y (fun col hcol => by
            unfold trunc; rw [if_pos (by omega)])
          rw [this]

/-- **what `process_pending_constraints()` leaves for a fresh, never solved problem** -/
theorem ppc_fresh (fc : Chooser) (hfc : ChooserOK fc) (fuel : Nat) (s sR : LPState) (hF : Fresh s)
    (hlg : s.last_generator = ⟨[], 1⟩) (h : processPendingConstraints fc fuel s = some sR) :
    (sR.status = .UNSATISFIABLE ∧ ∀ x, ¬ csSem s.input_cs x) ∨
    ((sR.status = .OPTIMIZED ∨ sR.status = .UNBOUNDED) ∧ sR.tableau = [] ∧ ∃ x, csSem s.input_cs x) ∨
    (sR.status = .SATISFIABLE ∧ Ready s.input_cs s.external_space_dim sR ∧
      sR.obj = s.obj ∧ sR.maximize = s.maximize ∧ sR.pricing = s.pricing ∧
      sR.external_space_dim = s.external_space_dim) := by
  obtain ⟨b1i, b1ii, -⟩ := tableau_setup_solutions s hF
  unfold processPendingConstraints at h
  cases hs : ppcSetup s with
  | done sd =>
    rw [hs] at h
    simp only [Option.some.injEq] at h
    subst h
    cases hp : parseConstraints s with
    | none =>
      have : ppcSetup s = .done { s with status := .UNSATISFIABLE } := by
        unfold ppcSetup; rw [ppcRecompute_fresh hF]; simp only [hp]
      rw [this] at hs
      simp only [Setup.done.injEq] at hs
      subst hs
      exact Or.inl ⟨rfl, b1i _ this rfl⟩
    | some p =>
      right; left
      obtain ⟨C, c1, c2, c3, H1, H2, hnc, s0, hs0, f1, f2, f3, f4, f5, f6, -⟩ := fresh_ctx s hF p hp
      rw [hs0] at hs
      have hst := ppcTrivial_done_status _ _ _ _ hs
      rcases ppcTrivial_cases s0 (if (C.N - C.isSat.count true) > 0 then C.SL else 0) C.artOut.2.2.2
          (by rw [f6]; exact hF.npos) with ⟨hph, -⟩ | ⟨sd', hd, d1, d2, d3, d4, d5⟩
      · rw [hph] at hs; cases hs
      · rw [hd] at hs
        simp only [Setup.done.injEq] at hs
        subst hs
        have hT2 : C.T2 (zeros C.numCols) C.fin.base = [] := by
          have : C.artOut.1 = [] := by rw [← f1]; exact d4
          exact this
        obtain ⟨core1, -⟩ := C.setup_core (zeros C.numCols) C.fin.base H1 H2
        refine ⟨hst, by rw [d1]; exact d4, proj C.M (fun j => if j = 0 then 1 else 0), ?_⟩
        rw [← c1]
        apply core1 (fun j => if j = 0 then 1 else 0) rfl (fun j _ => by split <;> norm_num)
        · intro j hj _
          have : 1 ≤ C.SL := by unfold InsCtx.SL InsCtx.V; omega
          rw [if_neg (by omega)]
        · intro i hi; rw [hT2] at hi; simp at hi
  | phase1 s' b e =>
    rw [hs] at h
    simp only at h
    obtain ⟨hmap, k1, k2, k3, k4⟩ := setup_phase1_extra s hF s' b e hs
    cases hrun : computeSimplexWith (chooserOf fc s'.pricing) fuel s'.tab with
    | none => rw [hrun] at h; cases h
    | some res =>
      obtain ⟨ok, t⟩ := res
      rw [hrun] at h
      simp only [Option.some.injEq] at h
      subst h
      rcases ppc_chain fc hfc fuel s.input_cs s.external_space_dim s' b e (setup_phase1_canon s hF hlg s' b e hs)
          (b1ii s' b e hs) hmap ok t hrun with ⟨u1, u2⟩ | ⟨r1, r2, r3, r4, r5, r6⟩
      · exact Or.inl ⟨u1, u2⟩
      · exact Or.inr (Or.inr ⟨r1, r2, r3.trans k1, r4.trans k2, r5.trans k3, r6.trans k4⟩)

end PPLV.Solver.Pend

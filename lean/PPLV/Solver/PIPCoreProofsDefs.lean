import PPLV.Solver.PIPCoreSem2
import PPLV.Solver.PIPCoreProofsSign9
import Mathlib.Data.Rat.Defs
import Mathlib.Tactic.Ring
import Mathlib.Tactic.Linarith
/-!
# C07 stage 2 — shared definitions of the end-to-end proof (proof level: may use Mathlib)

* `TabSatQ`: the reading of a tableau over RATIONAL valuations (needed only for one argument: the basic
  solution of a final node is integral on every variable as soon as it is integral on the problem
  variables, `IntInv`);
* `SignInv`: the cached signs are true up to one unit (`SignWeak`, `PIPCoreProofsSign7.lean`) at every
  non-negative integer parameter vector of the context.
-/
namespace PPLV.PIPCore

def dotQ : List Int → List ℚ → ℚ
  | a :: as, x :: xs => (a : ℚ) * x + dotQ as xs
  | _, _ => 0

def RowHoldsQ (nd : SolNode) (v : Nat → ℚ) (q : List Int) (i : Nat) : Prop :=
  (nd.tab.den : ℚ) * v (natGet nd.varRow i)
    = dotQ (mrow nd.tab.s i) (nd.varColumn.map v) + ((dot (mrow nd.tab.t i) q : Int) : ℚ)

def TabSatQ (nd : SolNode) (v : Nat → ℚ) (q : List Int) : Prop :=
  ∀ i, i < nd.tab.s.length → RowHoldsQ nd v q i

def IsIntQ (x : ℚ) : Prop := ∃ z : Int, x = (z : ℚ)

/-- every rational solution whose problem variables are integers is integral on all variables -/
def IntInv (nd : SolNode) (q : List Int) : Prop :=
  ∀ v : Nat → ℚ, TabSatQ nd v q → (∀ k, k < nd.tab.ns → IsIntQ (v k)) →
    ∀ k, k < nd.mapping.length → IsIntQ (v k)

/-- the cached signs hold (up to one unit) at the parameter vector `q` -/
def SignAt (nd : SolNode) (q : List Int) : Prop :=
  ∀ k, SignWeak nd.tab.den (signGet nd.sign k) (dot (mrow nd.tab.t k) q)

/-- the artificial parameters of the node own the LAST columns of `t`: the `j`-th one was created when
    there were `n0 + j` columns (`n0` = columns before the node's own parameters), has a positive
    denominator and a non-negative numerator row -/
def ArtsWF (n0 : Nat) (arts : List ArtP) : Prop :=
  ∀ j, j < arts.length →
    (arts.getD j default).num.length = n0 + j ∧ 0 < (arts.getD j default).den ∧
      ∀ a ∈ (arts.getD j default).num, 0 ≤ a

end PPLV.PIPCore

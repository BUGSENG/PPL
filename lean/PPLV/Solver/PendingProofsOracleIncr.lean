import PPLV.Solver.PendingOracleIncr
import PPLV.Solver.PendingProofsOracle
import PPLV.Solver.PendingProofsChain
import PPLV.Solver.PendingProofsIncrSpec

/-!
# the incremental oracle induced by the model is correct (`BB.OracleOK`), given the incremental step

* `ppc_fresh_readyS`, `fresh_solvedInv_state`, `fresh_solvedInv`: the state left by `is_lp_satisfiable()` +
  `second_phase()` on a problem never solved before satisfies `SolvedInv` (in particular `ReadyS`: also in the branch
  without tableau rows), keeps the data, and its answer is right (`LPClaims`);
* `incrStep_inv`, `foldl_incrStep_inv`: the invariant `RunInv` of the incremental loop, from `IncrStepSpec fc`;
* `modelOracleIncr_ok`: `ChooserOK fc → IncrStepSpec fc → BB.OracleOK (modelOracleIncr fc fuel k)`.
-/
namespace PPLV.Solver.Pend
open PPLV.Lin PPLV.Solver PPLV.Solver.Tab

/-! ### small facts about the code -/

theorem ppcTrivial_done_keeps (s0 sd : LPState) (b e : Nat) (h : ppcTrivial s0 b e = .done sd) :
    sd.tableau = s0.tableau ∧ sd.base = s0.base ∧ sd.working_cost = s0.working_cost ∧ sd.numCols = s0.numCols ∧
    sd.mapping = s0.mapping ∧ sd.input_cs = s0.input_cs ∧ sd.obj = s0.obj ∧ sd.maximize = s0.maximize ∧
    sd.pricing = s0.pricing ∧ sd.external_space_dim = s0.external_space_dim := by
  unfold ppcTrivial at h
  split at h
  · simp only [Setup.done.injEq] at h; subst h; exact ⟨rfl, rfl, rfl, rfl, rfl, rfl, rfl, rfl, rfl, rfl⟩
  · split at h
    · split at h
      · simp only [Setup.done.injEq] at h; subst h; exact ⟨rfl, rfl, rfl, rfl, rfl, rfl, rfl, rfl, rfl, rfl⟩
      · simp only [Setup.done.injEq] at h; subst h; exact ⟨rfl, rfl, rfl, rfl, rfl, rfl, rfl, rfl, rfl, rfl⟩
    · cases h

theorem ppcFill_done (s : LPState) (unf : List Nat) (p : Parsed) (isSat : List Bool) (M : List (Nat × Nat))
    (av : Nat) (sd : LPState) (h : ppcFill s unf p isSat M av = .done sd) :
    sd.obj = s.obj ∧ sd.maximize = s.maximize ∧ sd.external_space_dim = s.external_space_dim ∧
    sd.input_cs = s.input_cs ∧ sd.pricing = s.pricing := by
  unfold ppcFill at h
  simp only at h
  obtain ⟨-, -, -, -, -, d6, d7, d8, d9, d10⟩ := ppcTrivial_done_keeps _ _ _ _ h
  exact ⟨d7, d8, d10, d6, d9⟩

/-- an early return of the set-up does not touch the objective, the mode, the pricing, the space dimension or
    `input_cs` either -/
theorem ppcSetup_done_keeps (s sd : LPState) (h : ppcSetup s = .done sd) :
    sd.obj = s.obj ∧ sd.maximize = s.maximize ∧ sd.external_space_dim = s.external_space_dim ∧
    sd.input_cs = s.input_cs ∧ sd.pricing = s.pricing := by
  unfold ppcSetup at h
  have hrec : (ppcRecompute s).1.obj = s.obj ∧ (ppcRecompute s).1.maximize = s.maximize ∧
      (ppcRecompute s).1.external_space_dim = s.external_space_dim ∧
      (ppcRecompute s).1.input_cs = s.input_cs ∧ (ppcRecompute s).1.pricing = s.pricing := by
    unfold ppcRecompute
    split
    · split <;> exact ⟨rfl, rfl, rfl, rfl, rfl⟩
    · exact ⟨rfl, rfl, rfl, rfl, rfl⟩
  rcases hr : ppcRecompute s with ⟨s1, lg⟩
  rw [hr] at h hrec
  simp only at h hrec
  split at h
  · simp only [Setup.done.injEq] at h
    subst h
    exact hrec
  · rename_i p _
    unfold ppcBuild at h
    simp only at h
    obtain ⟨m1, m2, m3, m4, m5⟩ := ppcMerge_keeps s1 p.isRemerge
    obtain ⟨f1, f2, f3, f4, f5⟩ := ppcFill_done _ _ _ _ _ _ _ h
    exact ⟨by rw [f1, m1, hrec.1], by rw [f2, m2, hrec.2.1], by rw [f3, m3, hrec.2.2.1],
      by rw [f4, m4, hrec.2.2.2.1], by rw [f5, m5, hrec.2.2.2.2]⟩

theorem ppcFinish_input_cs (s' : LPState) (b e : Nat) (ok : Bool) (t : Tab) :
    (ppcFinish s' b e ok t).input_cs = s'.input_cs := by
  unfold ppcFinish
  simp only
  split
  · rfl
  · split <;> rfl

/-- what `second_phase()` keeps, and the status it leaves -/
theorem secondPhase_keeps (fc : Chooser) (fuel : Nat) (s s2 : LPState) (h : secondPhase fc fuel s = some s2) :
    s2.input_cs = s.input_cs ∧ s2.first_pending = s.first_pending ∧
    s2.internal_space_dim = s.internal_space_dim ∧ s2.external_space_dim = s.external_space_dim ∧
    s2.obj = s.obj ∧ s2.maximize = s.maximize ∧ s2.pricing = s.pricing ∧
    (s2.status = .OPTIMIZED ∨ s2.status = .UNBOUNDED) := by
  unfold secondPhase at h
  split at h
  · rename_i hc
    simp only [Option.some.injEq] at h
    subst h
    refine ⟨rfl, rfl, rfl, rfl, rfl, rfl, rfl, ?_⟩
    cases hs : s.status <;> rw [hs] at hc <;> first | exact Or.inl rfl | exact Or.inr rfl | cases hc
  · simp only at h
    split at h
    · cases h
    · rename_i ok t _
      simp only [Option.some.injEq] at h
      subst h
      refine ⟨rfl, rfl, rfl, rfl, rfl, rfl, rfl, ?_⟩
      cases ok
      · exact Or.inr rfl
      · exact Or.inl rfl

theorem isLpSatisfiable_false (fc : Chooser) (fuel : Nat) (s s1 : LPState)
    (h : isLpSatisfiable fc fuel s = some (s1, false)) : s1.status = .UNSATISFIABLE := by
  unfold isLpSatisfiable at h
  split at h
  · rename_i hs
    simp only [Option.some.injEq, Prod.mk.injEq] at h
    rw [← h.1]; exact hs
  · simp at h
  · simp at h
  · simp at h
  · simp only at h
    split at h
    · cases h
    · simp only [Option.some.injEq, Prod.mk.injEq] at h
      obtain ⟨rfl, hb⟩ := h
      simpa using hb

theorem addConstraint_keeps (s : LPState) (c : ICon) :
    (addConstraint s c).obj = s.obj ∧ (addConstraint s c).maximize = s.maximize ∧
    (addConstraint s c).external_space_dim = s.external_space_dim ∧
    (addConstraint s c).input_cs = s.input_cs ++ [c] := by
  unfold addConstraint
  simp only
  split <;> exact ⟨rfl, rfl, rfl, rfl⟩

/-- the claims only look at the objective and the mode of the problem -/
theorem LPClaims_congr (cs : List ICon) (P P' : Problem) (s : LPState) (h1 : P'.obj = P.obj)
    (h2 : P'.maximize = P.maximize) (h : LPClaims cs P s) : LPClaims cs P' s := by
  unfold LPClaims Better Problem.objVal at h ⊢
  rw [h1, h2]
  exact h

/-! ### `ReadyS` after a fresh `process_pending_constraints` -/

/-- the branch without tableau rows (:982–:999) leaves a `ReadyS` state (empty tableau) -/
theorem ppc_fresh_done_readyS (s sd : LPState) (hF : Fresh s) (hlg : s.last_generator = ⟨[], 1⟩)
    (hs : ppcSetup s = .done sd) (hst : sd.status ≠ .UNSATISFIABLE) :
    ReadyS s.input_cs s.external_space_dim sd := by
  cases hp : parseConstraints s with
  | none =>
    exfalso
    have : ppcSetup s = .done { s with status := .UNSATISFIABLE } := by
      unfold ppcSetup; rw [ppcRecompute_fresh hF]; simp only [hp]
    rw [this] at hs
    simp only [Setup.done.injEq] at hs
    subst hs
    exact hst rfl
  | some p =>
    obtain ⟨C, c1, c2, c3, H1, H2, hnc, s0, hs0, f1, f2, f3, f4, f5, f6, -⟩ := fresh_ctx s hF p hp
    obtain ⟨q1, q2⟩ := parse_isSat s p hp
    rw [hF.fp0, List.drop_zero] at q1 q2
    have hsat : C.SatOK := by
      intro i hi hflag
      rw [c3] at hflag
      obtain ⟨-, g2, g3, g4⟩ := q2 i hflag
      rw [hlg] at g4
      rw [c1]
      exact ⟨g2, isSatisfied_origin _ g3 g4⟩
    have hlenS : C.isSat.length = C.pend.length := by rw [c3, c1]; exact q1
    have hTB := C.setup_canonTB hsat hlenS hnc
    have art := C.artOut_spec hsat hlenS hnc
    rw [hs0] at hs
    obtain ⟨d1, d2, d3, d4, d5, -⟩ := ppcTrivial_done_keeps _ _ _ _ hs
    have hT0 : s0.tableau = [] := by
      rcases ppcTrivial_cases s0 (if (C.N - C.isSat.count true) > 0 then C.SL else 0) C.artOut.2.2.2
          (by rw [f6]; exact hF.npos) with ⟨hph, -⟩ | ⟨sd', -, -, -, -, d, -⟩
      · rw [hph] at hs; cases hs
      · exact d
    have hTnil : C.artOut.1 = [] := by rw [← f1]; exact hT0
    have hN : C.N = 0 := by rw [← art.lenT, hTnil]; rfl
    have hnumc : C.numCols = C.SL + 1 := by rw [hnc, hN]; omega
    have hwc : sd.working_cost.length = C.numCols := by
      rw [d3, f3, hTnil]
      show (C.artOut.2.1.set (C.numCols - 1) 1).length = C.numCols
      rw [List.length_set]; exact art.lenC
    have hSLj : 1 + C.j ≤ C.SL := by unfold InsCtx.SL InsCtx.V; omega
    have hsdT : sd.tableau = C.T2 (zeros C.numCols) C.fin.base := by rw [d1, f1]; rfl
    obtain ⟨core1, -⟩ := C.setup_core (zeros C.numCols) C.fin.base H1 H2
    have coreS := C.setup_complete (zeros C.numCols) C.fin.base H2
    have hcompS : ∀ x, csSem s.input_cs x → ∃ y, Pos0 sd.working_cost.length y ∧ Sol sd.tableau y ∧
        (∀ i, i < s.external_space_dim → proj sd.mapping y i = x i) ∧
        NegZero sd.mapping s.external_space_dim x y := by
      intro x hx
      rw [← c1] at hx
      obtain ⟨y, y1, y2, y3, y4, y5, y6⟩ := coreS x hx
      refine ⟨y, ⟨y1, y2, fun j hj => y3 j (by rw [hwc, hnumc] at hj; omega)⟩, by rw [hsdT]; exact y4, ?_, ?_⟩
      · rw [d5, f5, ← c2]; exact y5
      · rw [d5, f5, ← c2]; exact y6
    refine ⟨⟨?_, ⟨C.nn, C.j, by rw [d5, f5, ← c2]; exact C.hM, by rw [hwc, hnumc]; omega⟩, ?_, ?_⟩,
      by rw [d4, f4, hwc], hcompS⟩
    · rw [d1, d2, hwc, f1, f2]; exact hTB
    · intro y hy hsy
      rw [d5, f5, ← c1]
      rw [hwc, hnumc] at hy
      exact core1 y hy.1 hy.2.1 (fun j h1 _ => hy.2.2 j (by omega)) (by rw [← hsdT]; exact hsy)
    · intro x hx
      obtain ⟨y, y1, y2, y3, -⟩ := hcompS x hx
      exact ⟨y, y1, y2, y3⟩

/-- **what a fresh `process_pending_constraints()` that does not answer UNSATISFIABLE leaves: `ReadyS`** -/
theorem ppc_fresh_readyS (fc : Chooser) (hfc : ChooserOK fc) (fuel : Nat) (s sR : LPState) (hF : Fresh s)
    (hlg : s.last_generator = ⟨[], 1⟩) (h : processPendingConstraints fc fuel s = some sR)
    (hst : sR.status ≠ .UNSATISFIABLE) :
    ReadyS s.input_cs s.external_space_dim sR ∧ sR.input_cs = s.input_cs ∧ sR.obj = s.obj ∧
    sR.maximize = s.maximize ∧ sR.pricing = s.pricing ∧ sR.external_space_dim = s.external_space_dim ∧
    (sR.status = .SATISFIABLE ∨ sR.status = .OPTIMIZED ∨ sR.status = .UNBOUNDED) := by
  unfold processPendingConstraints at h
  cases hs : ppcSetup s with
  | done sd =>
    rw [hs] at h
    simp only [Option.some.injEq] at h
    subst h
    obtain ⟨k1, k2, k3, k4, k5⟩ := ppcSetup_done_keeps s sd hs
    refine ⟨ppc_fresh_done_readyS s sd hF hlg hs hst, k4, k1, k2, k5, k3, ?_⟩
    -- the status: from `ppc_fresh`
    have hppc : processPendingConstraints fc fuel s = some sd := by
      unfold processPendingConstraints; rw [hs]
    rcases ppc_fresh fc hfc fuel s sd hF hlg hppc with ⟨a1, -⟩ | ⟨a1, -⟩ | ⟨a1, -⟩
    · exact absurd a1 hst
    · rcases a1 with a | a
      · exact Or.inr (Or.inl a)
      · exact Or.inr (Or.inr a)
    · exact Or.inl a1
  | phase1 s' b e =>
    rw [hs] at h
    simp only at h
    have hP := setup_phase1_canon s hF hlg s' b e hs
    obtain ⟨hmap, k1, k2, k3, k4⟩ := setup_phase1_extra s hF s' b e hs
    obtain ⟨-, -, -, k5, -⟩ := ppcSetup_keeps s s' b e hs
    have hG := (tableau_setup_solutions s hF).2.1 s' b e hs
    cases hrun : computeSimplexWith (chooserOf fc s'.pricing) fuel s'.tab with
    | none => rw [hrun] at h; cases h
    | some res =>
      obtain ⟨ok, t⟩ := res
      rw [hrun] at h
      simp only [Option.some.injEq] at h
      subst h
      rcases ppc_chain fc hfc fuel s.input_cs s.external_space_dim s' b e hP hG hmap ok t hrun with
        ⟨a1, -⟩ | ⟨a1, a2, a3, a4, a5, a6⟩
      · exact absurd a1 hst
      · obtain ⟨n1, n2⟩ := chain_completeS fc hfc fuel s.input_cs s.external_space_dim s' b e hP hmap
          (fresh_setupGoodS s hF s' b e hs) ok t hrun a1
        exact ⟨⟨a2, n1, n2⟩, by rw [ppcFinish_input_cs, k5], by rw [a3, k1], by rw [a4, k2], by rw [a5, k3],
          by rw [a6, k4], Or.inl a1⟩

/-- **after the fresh batch** (`is_lp_satisfiable()` true, then `second_phase()`), on any state never solved before -/
theorem fresh_solvedInv_state (fc : Chooser) (hfc : ChooserOK fc) (f1 f2 : Nat) (s s1 s2 : LPState)
    (hU : Untouched s) (hlg : s.last_generator = ⟨[], 1⟩) (hn : 0 < s.external_space_dim)
    (hl : ∀ c ∈ s.input_cs, c.coeffs.length ≤ s.external_space_dim)
    (hobj : s.obj.coeffs.length ≤ s.external_space_dim)
    (h1 : isLpSatisfiable fc f1 s = some (s1, true)) (h2 : secondPhase fc f2 s1 = some s2) :
    SolvedInv s2 ∧ s2.input_cs = s.input_cs ∧ s2.obj = s.obj ∧ s2.maximize = s.maximize ∧
    s2.external_space_dim = s.external_space_dim ∧ s2.pricing = s.pricing ∧
    LPClaims s.input_cs s.problem s2 := by
  have hcl := ((lp_fresh_correct fc hfc f1 f2 s s1 true hU hlg hn hl hobj h1).2 rfl).2 s2 h2
  rw [isLpSatisfiable_untouched fc f1 s hU] at h1
  cases hp : processPendingConstraints fc f1 (firstCall s) with
  | none => rw [hp] at h1; cases h1
  | some sR =>
    rw [hp] at h1
    simp only [Option.some.injEq, Prod.mk.injEq] at h1
    obtain ⟨rfl, hb⟩ := h1
    have hst : sR.status ≠ .UNSATISFIABLE := by simpa using hb
    have hF := firstCall_fresh s hU hn hl
    obtain ⟨r1, r2, r3, r4, r5, r6, r7⟩ := ppc_fresh_readyS fc hfc f1 (firstCall s) sR hF hlg hp hst
    have e1 : (firstCall s).input_cs = s.input_cs := rfl
    have e2 : (firstCall s).external_space_dim = s.external_space_dim := rfl
    have e3 : (firstCall s).obj = s.obj := rfl
    have e4 : (firstCall s).maximize = s.maximize := rfl
    have e5 : (firstCall s).pricing = s.pricing := rfl
    rw [e1] at r2
    rw [e1, e2] at r1
    rw [e3] at r3; rw [e4] at r4; rw [e5] at r5; rw [e2] at r6
    -- the state `is_lp_satisfiable()` returns
    set sA : LPState :=
      { sR with first_pending := sR.input_cs.length, internal_space_dim := sR.external_space_dim } with hsA
    have rA : ReadyS s.input_cs s.external_space_dim sA :=
      ⟨⟨r1.ready.tb, r1.ready.map, r1.ready.sound, r1.ready.complete⟩, r1.ncols, r1.completeS⟩
    obtain ⟨p1, p2, p3, p4, p5, p6, p7, p8⟩ := secondPhase_keeps fc f2 sA s2 h2
    have hA1 : sA.input_cs = sR.input_cs := rfl
    have hA2 : sA.first_pending = sR.input_cs.length := rfl
    have hA3 : sA.internal_space_dim = sR.external_space_dim := rfl
    have hA4 : sA.external_space_dim = sR.external_space_dim := rfl
    have hA5 : sA.obj = sR.obj := rfl
    have hA6 : sA.maximize = sR.maximize := rfl
    have hA7 : sA.pricing = sR.pricing := rfl
    have hA8 : sA.status = sR.status := rfl
    have r2' : ReadyS s.input_cs s.external_space_dim s2 := by
      rcases r7 with hs | hs
      · exact readyS_after_secondPhase fc hfc f2 s.input_cs s.external_space_dim sA s2 (by rw [hA8]; exact hs) rA
          (by rw [hA5, r3]; exact hobj) h2
      · have : s2 = sA := by
          unfold secondPhase at h2
          have hc : (sA.status == Status.UNBOUNDED || sA.status == Status.OPTIMIZED) = true := by
            rw [hA8]; rcases hs with h | h <;> rw [h] <;> rfl
          simp only [hc, if_true, Option.some.injEq] at h2
          exact h2.symm
        rw [this]; exact rA
    have i1 : s2.input_cs = s.input_cs := by rw [p1, hA1, r2]
    have i2 : s2.external_space_dim = s.external_space_dim := by rw [p4, hA4, r6]
    refine ⟨⟨by rw [i2]; exact hn, by rw [p3, p4, hA3, hA4], by rw [p2, p1, hA2, hA1], ?_, ?_, ?_⟩, i1,
      by rw [p5, hA5, r3], by rw [p6, hA6, r4], i2, by rw [p7, hA7, r5], hcl⟩
    · rw [i1, i2]; exact hl
    · rw [i1, i2]; exact r2'
    · exact Or.inr p8

/-! ### nodes -/

theorem node_rows_len (N : BB.Node) (hwf : N.toProblem.WF) : ∀ r ∈ N.rows, r.coeffs.length ≤ N.n := by
  intro row hrow
  have hmem : (⟨row.coeffs, row.k, false⟩ : Con) ∈ N.toProblem.cs := by
    unfold BB.Node.toProblem
    simp only
    apply List.mem_flatMap.mpr
    refine ⟨row, hrow, ?_⟩
    unfold BB.InRow.toCons
    split <;> simp [eqRows, geRow]
  exact hwf.1 _ hmem

theorem node_sat_iff (N : BB.Node) (x : Val) : Sat N.toProblem.cs x ↔ csSem (N.rows.map rowToICon) x := by
  have hcs : N.toProblem.cs = (N.rows.map rowToICon).flatMap ICon.toCons := by
    unfold BB.Node.toProblem
    simp only
    rw [List.flatMap_map]
    rfl
  rw [hcs]
  exact (csSem_iff_Sat _ x).symm

/-- **after the fresh batch on a node** (`n > 0`, rows and objective within the dimension) -/
theorem fresh_solvedInv (fc : Chooser) (hfc : ChooserOK fc) (f1 f2 : Nat) (N : BB.Node) (hn : 0 < N.n)
    (hrows : ∀ r ∈ N.rows, r.coeffs.length ≤ N.n) (hobj : N.obj.coeffs.length ≤ N.n) (s1 s2 : LPState)
    (h1 : isLpSatisfiable fc f1 (nodeState N) = some (s1, true)) (h2 : secondPhase fc f2 s1 = some s2) :
    SolvedInv s2 ∧ s2.input_cs = N.rows.map rowToICon ∧ s2.obj = N.obj ∧ s2.maximize = N.maximize ∧
    s2.external_space_dim = N.n ∧ LPClaims (N.rows.map rowToICon) N.toProblem s2 := by
  obtain ⟨n1, n2, n3, n4, n5, n6⟩ := nodeState_spec N
  have hl : ∀ c ∈ (nodeState N).input_cs, c.coeffs.length ≤ (nodeState N).external_space_dim := by
    intro c hc
    rw [n2] at hc
    obtain ⟨row, hrow, rfl⟩ := List.mem_map.mp hc
    rw [n3]
    exact hrows row hrow
  obtain ⟨a1, a2, a3, a4, a5, -, a7⟩ := fresh_solvedInv_state fc hfc f1 f2 (nodeState N) s1 s2 n1 n4
    (by rw [n3]; exact hn) hl (by rw [n5, n3]; exact hobj) h1 h2
  refine ⟨a1, by rw [a2, n2], by rw [a3, n5], by rw [a4, n6], by rw [a5, n3], ?_⟩
  rw [n2] at a7
  exact LPClaims_congr _ (nodeState N).problem N.toProblem s2 n5.symm n6.symm a7

/-- the same from the well-formedness of the node as `BB.OracleOK` phrases it -/
theorem fresh_solvedInv_wf (fc : Chooser) (hfc : ChooserOK fc) (f1 f2 : Nat) (N : BB.Node) (hn : 0 < N.n)
    (hwf : N.toProblem.WF) (s1 s2 : LPState)
    (h1 : isLpSatisfiable fc f1 (nodeState N) = some (s1, true)) (h2 : secondPhase fc f2 s1 = some s2) :
    SolvedInv s2 ∧ s2.input_cs = N.rows.map rowToICon ∧ s2.obj = N.obj ∧ s2.maximize = N.maximize ∧
    s2.external_space_dim = N.n ∧ LPClaims (N.rows.map rowToICon) N.toProblem s2 :=
  fresh_solvedInv fc hfc f1 f2 N hn (node_rows_len N hwf) hwf.2.2.1 s1 s2 h1 h2

/-! ### the incremental loop -/

/-- the invariant of the loop: the constraints `cs` added so far are unsatisfiable and the state says so, or the
    state is solved for exactly `cs` with the data of the node and its answer is right -/
def RunInv (N : BB.Node) (cs : List ICon) (s : LPState) : Prop :=
  (s.status = .UNSATISFIABLE ∧ ∀ x, ¬ csSem cs x) ∨
  (SolvedInv s ∧ s.input_cs = cs ∧ s.obj = N.obj ∧ s.maximize = N.maximize ∧ s.external_space_dim = N.n ∧
    LPClaims cs N.toProblem s)

/-- the fresh batch establishes the invariant -/
theorem lpSolve_fresh_inv (fc : Chooser) (hfc : ChooserOK fc) (fuel : Nat) (N : BB.Node) (hn : 0 < N.n)
    (hrows : ∀ r ∈ N.rows, r.coeffs.length ≤ N.n) (hobj : N.obj.coeffs.length ≤ N.n) (s : LPState)
    (h : lpSolve fc fuel (nodeState N) = some s) : RunInv N (N.rows.map rowToICon) s := by
  unfold lpSolve at h
  cases h1 : isLpSatisfiable fc fuel (nodeState N) with
  | none => rw [h1] at h; cases h
  | some res =>
    obtain ⟨s1, b⟩ := res
    rw [h1] at h
    cases b with
    | false =>
      simp only [Option.some.injEq] at h
      subst h
      left
      obtain ⟨n1, n2, n3, n4, n5, n6⟩ := nodeState_spec N
      have hl : ∀ c ∈ (nodeState N).input_cs, c.coeffs.length ≤ (nodeState N).external_space_dim := by
        intro c hc
        rw [n2] at hc
        obtain ⟨row, hrow, rfl⟩ := List.mem_map.mp hc
        rw [n3]
        exact hrows row hrow
      have := (lp_fresh_correct fc hfc fuel fuel (nodeState N) s1 false n1 n4 (by rw [n3]; exact hn) hl
        (by rw [n5, n3]; exact hobj) h1).1 rfl
      rw [n2] at this
      exact ⟨isLpSatisfiable_false fc fuel _ _ h1, this⟩
    | true =>
      simp only at h
      right
      exact fresh_solvedInv fc hfc fuel fuel N hn hrows hobj s1 s h1 h

/-- one incremental step keeps the invariant -/
theorem incrStep_inv (fc : Chooser) (hstep : IncrStepSpec fc) (fuel : Nat) (N : BB.Node)
    (hobj : N.obj.coeffs.length ≤ N.n) (cs : List ICon) (s : LPState) (r : BB.InRow) (hr : r.coeffs.length ≤ N.n)
    (s' : LPState) (hinv : RunInv N cs s) (h : incrStep fc fuel (some s) r = some s') :
    RunInv N (cs ++ [rowToICon r]) s' := by
  have hlp : lpSolve fc fuel (addConstraint s (rowToICon r)) = some s' := h
  unfold lpSolve at hlp
  rcases hinv with ⟨u1, u2⟩ | ⟨v1, v2, v3, v4, v5, v6⟩
  · -- UNSATISFIABLE is sticky
    left
    have hst : (addConstraint s (rowToICon r)).status = .UNSATISFIABLE := by
      unfold addConstraint; simp [u1]
    have hsat : isLpSatisfiable fc fuel (addConstraint s (rowToICon r)) =
        some (addConstraint s (rowToICon r), false) := by
      unfold isLpSatisfiable; rw [hst]
    rw [hsat] at hlp
    simp only [Option.some.injEq] at hlp
    subst hlp
    exact ⟨hst, fun x hx => u2 x (fun c hc => hx c (List.mem_append_left _ hc))⟩
  · cases h1 : isLpSatisfiable fc fuel (addConstraint s (rowToICon r)) with
    | none => rw [h1] at hlp; cases hlp
    | some res =>
      obtain ⟨sR, b⟩ := res
      rw [h1] at hlp
      rcases hstep fuel fuel s (rowToICon r) sR b v1 (by rw [v5]; exact hr) (by rw [v3, v5]; exact hobj) h1 with
        ⟨rfl, w2, w3⟩ | ⟨rfl, -, -, -, w5⟩
      · simp only [Option.some.injEq] at hlp
        subst hlp
        left
        rw [v2] at w3
        exact ⟨w2, w3⟩
      · simp only at hlp
        right
        obtain ⟨x1, x2, x3, y1, y2, y3, -⟩ := w5 s' hlp
        obtain ⟨k1, k2, -, -⟩ := addConstraint_keeps s (rowToICon r)
        rw [v2] at x1 x3
        refine ⟨x2, x3, by rw [y1, v3], by rw [y2, v4], by rw [y3, v5], ?_⟩
        exact LPClaims_congr _ (addConstraint s (rowToICon r)).problem N.toProblem s'
          (by show N.obj = (addConstraint s (rowToICon r)).obj; rw [k1, v3])
          (by show N.maximize = (addConstraint s (rowToICon r)).maximize; rw [k2, v4]) x1

/-- the loop over the remaining rows keeps the invariant -/
theorem foldl_incrStep_inv (fc : Chooser) (hstep : IncrStepSpec fc) (fuel : Nat) (N : BB.Node)
    (hobj : N.obj.coeffs.length ≤ N.n) (rows : List BB.InRow) :
    (∀ r ∈ rows, r.coeffs.length ≤ N.n) →
    ∀ (cs : List ICon) (o : Option LPState) (s' : LPState), (∀ s, o = some s → RunInv N cs s) →
      rows.foldl (incrStep fc fuel) o = some s' → RunInv N (cs ++ rows.map rowToICon) s' := by
  induction rows with
  | nil =>
    intro _ cs o s' hinv h
    simp only [List.foldl_nil] at h
    simpa using hinv s' h
  | cons r rows ih =>
    intro hrows cs o s' hinv h
    simp only [List.foldl_cons] at h
    have hnext : ∀ s1, incrStep fc fuel o r = some s1 → RunInv N (cs ++ [rowToICon r]) s1 := by
      intro s1 h1
      cases o with
      | none => cases h1
      | some s =>
        exact incrStep_inv fc hstep fuel N hobj cs s r (hrows r (List.mem_cons_self ..)) s1 (hinv s rfl) h1
    have := ih (fun q hq => hrows q (List.mem_cons_of_mem _ hq)) (cs ++ [rowToICon r]) (incrStep fc fuel o r) s'
      hnext h
    simpa using this

/-- the invariant at the end of `incrRun`, for all the rows of the node -/
theorem incrRun_inv (fc : Chooser) (hfc : ChooserOK fc) (hstep : IncrStepSpec fc) (fuel k : Nat) (N : BB.Node)
    (hn : 0 < N.n) (hwf : N.toProblem.WF) (s : LPState) (h : incrRun fc fuel k N = some s) :
    RunInv N (N.rows.map rowToICon) s := by
  have hrows := node_rows_len N hwf
  have hobj : N.obj.coeffs.length ≤ N.n := hwf.2.2.1
  unfold incrRun at h
  set N' : BB.Node := { N with rows := N.rows.take k } with hN'
  have hbase : ∀ s0, lpSolve fc fuel (nodeState N') = some s0 → RunInv N ((N.rows.take k).map rowToICon) s0 := by
    intro s0 h0
    have := lpSolve_fresh_inv fc hfc fuel N' hn (fun r hr => hrows r (List.mem_of_mem_take hr)) hobj s0 h0
    rcases this with ⟨u1, u2⟩ | ⟨v1, v2, v3, v4, v5, v6⟩
    · exact Or.inl ⟨u1, u2⟩
    · exact Or.inr ⟨v1, v2, v3, v4, v5, LPClaims_congr _ N'.toProblem N.toProblem s0 rfl rfl v6⟩
  have := foldl_incrStep_inv fc hstep fuel N hobj (N.rows.drop k)
    (fun r hr => hrows r (List.mem_of_mem_drop hr)) _ _ s hbase h
  rw [← List.map_append, List.take_append_drop] at this
  exact this

/-- **the incremental oracle induced by the model answers correctly**, given the correctness of one incremental
    step -/
theorem modelOracleIncr_ok (fc : Chooser) (hfc : ChooserOK fc) (hstep : IncrStepSpec fc) (fuel k : Nat) :
    BB.OracleOK (modelOracleIncr fc fuel k) := by
  intro N r hwf hr
  unfold modelOracleIncr at hr
  by_cases hn0 : N.n = 0
  · simp [hn0] at hr
  have hb : (N.n == 0) = false := by simpa using hn0
  rw [hb] at hr
  simp only [Bool.false_eq_true, if_false] at hr
  cases hrun : incrRun fc fuel k N with
  | none => rw [hrun] at hr; cases hr
  | some s =>
    rw [hrun] at hr
    unfold lpReport at hr
    simp only at hr
    have hinv := incrRun_inv fc hfc hstep fuel k N (by omega) hwf s hrun
    have hsem := node_sat_iff N
    rcases hinv with ⟨u1, u2⟩ | ⟨-, -, -, -, -, q1, q2, q3, q4, q5⟩
    · have : (s.status == Status.UNSATISFIABLE) = true := by rw [u1]; rfl
      rw [if_pos this] at hr
      simp only [Option.some.injEq] at hr
      subst hr
      intro x hx
      exact u2 x ((hsem x).mp hx)
    · have hnu : (s.status == Status.UNSATISFIABLE) = false := by
        rcases q1 with h | h <;> rw [h] <;> rfl
      rw [if_neg (by rw [hnu]; simp)] at hr
      by_cases hopt : s.status = .OPTIMIZED
      · have : (s.status == Status.OPTIMIZED) = true := by rw [hopt]; rfl
        rw [if_pos this] at hr
        simp only [Option.some.injEq] at hr
        subst hr
        refine ⟨q2, (hsem _).mpr q3, fun x hx => ?_⟩
        exact q4 hopt x ((hsem x).mp hx)
      · have hunb : s.status = .UNBOUNDED := by
          rcases q1 with h | h
          · exact absurd h hopt
          · exact h
        have h0 : (s.status == Status.OPTIMIZED) = false := by rw [hunb]; rfl
        rw [if_neg (by rw [h0]; simp)] at hr
        have : (s.status == Status.UNBOUNDED) = true := by rw [hunb]; rfl
        rw [if_pos this] at hr
        simp only [Option.some.injEq] at hr
        subst hr
        refine ⟨q2, (hsem _).mpr q3, fun M => ?_⟩
        obtain ⟨x, x1, x2⟩ := q5 hunb M
        exact ⟨x, (hsem x).mpr x1, x2⟩

/-! ### the incremental oracle at work (textbook pricing; first row solved from scratch, the others incrementally) -/

-- max x0 + x1, x0 ≤ 2, x1 ≤ 3, x0 + x1 ≤ 4
example : modelOracleIncr textbookChooser 50 1
    ⟨2, [⟨[-1, 0], 2, false⟩, ⟨[0, -1], 3, false⟩, ⟨[-1, -1], 4, false⟩], [], ⟨[1, 1], 0⟩, true⟩ =
    some (.optimized ⟨[1, 3], 1⟩) := by decide +kernel
-- the same answer as the oracle that solves the node from scratch
example : modelOracle textbookChooser 50
    ⟨2, [⟨[-1, 0], 2, false⟩, ⟨[0, -1], 3, false⟩, ⟨[-1, -1], 4, false⟩], [], ⟨[1, 1], 0⟩, true⟩ =
    some (.optimized ⟨[1, 3], 1⟩) := by decide +kernel
-- x0 ≤ 2, x1 ≤ 3, x0 + x1 ≥ 6: the last incremental step answers UNSATISFIABLE
example : modelOracleIncr textbookChooser 50 1
    ⟨2, [⟨[-1, 0], 2, false⟩, ⟨[0, -1], 3, false⟩, ⟨[1, 1], -6, false⟩], [], ⟨[1, 1], 0⟩, true⟩ =
    some .unfeasible := by decide +kernel
-- max −x1, 0 ≤ x0 ≤ 2, x1 ≤ x0: unbounded
example : modelOracleIncr textbookChooser 50 1
    ⟨2, [⟨[-1, 0], 2, false⟩, ⟨[1, 0], 0, false⟩, ⟨[1, -1], 0, false⟩], [], ⟨[0, -1], 0⟩, true⟩ =
    some (.unbounded ⟨[2, 0], 1⟩) := by decide +kernel

end PPLV.Solver.Pend

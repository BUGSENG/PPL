import PPLV.Solver.PendingProofsSetup7

/-!
# the state `is_lp_satisfiable()` sets up for a problem never solved before is `Fresh`

`Untouched s`: no solver call has run on `s` yet (what `MIP_Problem(dim)` builds, kept by every mutator).
`isLpSatisfiable_untouched`: on such a state (status PARTIALLY_SATISFIABLE) `is_lp_satisfiable()` adds the two
columns and `mapping[0]` and calls `process_pending_constraints()` on a `Fresh` state — the hypothesis of
`tableau_setup_solutions`.
-/
namespace PPLV.Solver.Pend
open PPLV.Lin PPLV.Solver.Tab

structure Untouched (s : LPState) : Prop where
  int0 : s.internal_space_dim = 0
  fp0 : s.first_pending = 0
  map0 : s.mapping = []
  nc : s.numCols = 0
  tab : s.tableau = []
  base0 : s.base = []
  part : s.status = .PARTIALLY_SATISFIABLE

theorem new_untouched (n : Nat) : Untouched (LPState.new n) := ⟨rfl, rfl, rfl, rfl, rfl, rfl, rfl⟩

/-- every mutator keeps a problem untouched -/
theorem mutators_untouched (s : LPState) (h : Untouched s) (c : ICon) (e : LinExpr) (b : Bool) (m : Nat) (p : Pricing) :
    Untouched (addConstraint s c) ∧ Untouched (setObjectiveFunction s e) ∧ Untouched (setOptimizationMode s b) ∧
    Untouched (addSpaceDimensionsAndEmbed s m) ∧ Untouched (setPricing s p) := by
  have hk := mutators_keep_tableau s c e b m p
  have st1 : (addConstraint s c).status = .PARTIALLY_SATISFIABLE := by
    rw [(addConstraint_status s c).1, h.part]; rfl
  have st2 : (setObjectiveFunction s e).status = .PARTIALLY_SATISFIABLE := by
    rw [(setObjectiveFunction_status s e).1, h.part]; rfl
  have st3 : (setOptimizationMode s b).status = .PARTIALLY_SATISFIABLE := by
    unfold setOptimizationMode
    by_cases hb : s.maximize = b <;> simp [hb, h.part]
  have st4 : (addSpaceDimensionsAndEmbed s m).status = .PARTIALLY_SATISFIABLE := by
    rw [(addSpaceDimensionsAndEmbed_status s m).1, h.part]; rfl
  have mk : ∀ s', s' ∈ [addConstraint s c, setObjectiveFunction s e, setOptimizationMode s b,
      addSpaceDimensionsAndEmbed s m, setPricing s p] → s'.status = .PARTIALLY_SATISFIABLE → Untouched s' := by
    intro s' hs' hst
    obtain ⟨k1, k2, k3, k4, -, k6, k7⟩ := hk s' hs'
    exact ⟨by rw [k7]; exact h.int0, by rw [k6]; exact h.fp0, by rw [k3]; exact h.map0, by rw [k4]; exact h.nc,
      by rw [k1]; exact h.tab, by rw [k2]; exact h.base0, hst⟩
  exact ⟨mk _ (by simp) st1, mk _ (by simp) st2, mk _ (by simp) st3, mk _ (by simp) st4,
    mk _ (by simp) (by simp [setPricing, h.part])⟩

/-- the state handed to `process_pending_constraints()` by the first `is_lp_satisfiable()` -/
def firstCall (s : LPState) : LPState := { s with numCols := 2, mapping := s.mapping ++ [(0, 0)] }

theorem firstCall_fresh (s : LPState) (h : Untouched s) (hn : 0 < s.external_space_dim)
    (hl : ∀ c ∈ s.input_cs, c.coeffs.length ≤ s.external_space_dim) : Fresh (firstCall s) :=
  ⟨h.int0, h.fp0, by simp [firstCall, h.map0], rfl, h.tab, h.base0, hn, hl⟩

theorem isLpSatisfiable_untouched (fc : Chooser) (fuel : Nat) (s : LPState) (h : Untouched s) :
    isLpSatisfiable fc fuel s =
      match processPendingConstraints fc fuel (firstCall s) with
      | none => none
      | some s1 =>
        some ({ s1 with first_pending := s1.input_cs.length, internal_space_dim := s1.external_space_dim },
          s1.status != .UNSATISFIABLE) := by
  unfold isLpSatisfiable firstCall
  rw [h.part]
  simp only [h.nc, beq_self_eq_true, if_true]
  rfl

end PPLV.Solver.Pend

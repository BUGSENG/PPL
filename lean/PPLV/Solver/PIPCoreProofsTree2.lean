import PPLV.Solver.PIPCoreProofsTree
/-!
# tree family: what the node built after the two recursive calls MEANS
(`assemble`, PIP_Tree.cc:3240-3376)

With `q` the parameter vector of the node (its own artificial parameters appended), `cs` the constraints
the node had saved, and a test that partitions (`fTest ≥ 0` iff not `tTest ≥ 0`, which is what
`complement_assign(·, 1)` gives on integer points):

    eval (assemble …) = if cs hold at q then (if tTest ≥ 0 at q then eval tNode else eval fNode) else ⊥

in all the shapes the code produces: nothing; a new decision node above a child that already has a false
child; the child itself with the parent's artificial parameters / constraints / the test merged into its
own lists; a decision node with two children (wrapped in a second one when there are saved constraints).
-/
namespace PPLV.PIPCore
namespace TreeP

/-- `add_constraint` on a node's list, read at the node's own vector -/
theorem consHold_addConstraint (cs : List Row) (test : Row) (q : List Int) :
    consHold (addConstraint cs test) q = (consHold cs q && decide (0 ≤ dot test q)) := by
  unfold addConstraint
  rw [consHold_append, consHold_singleton]
  have h : decide (0 ≤ dot (rowNormalizeAll test) q) = decide (0 ≤ dot test q) :=
    decide_eq_decide.mpr (rowNormalizeAll_sign test q)
  rw [h]

/-- the child's node with the parent's lists merged in (PIP_Tree.cc:3273-3287, 3321-3336) evaluates, from
    the parent's entry vector, like "saved constraints and test, then the child from the parent's vector" -/
theorem evalC_mergeInto (aps : List ArtP) (cs : List Row) (test : Row) (c : CTree)
    (qpre q : List Int) (hq : q = extendArts aps qpre)
    (hc : c.hasFalseChild = false) (hcs : RowsLe cs q.length) (ht : test.length ≤ q.length) :
    (c.mergeInto aps cs test).evalC qpre =
      if (consHold cs q && decide (0 ≤ dot test q)) = true then c.evalC q else none := by
  cases c with
  | sol nd =>
    obtain ⟨e, he, _⟩ := extendArts_prefix nd.arts q
    simp only [CTree.mergeInto, CTree.evalC]
    rw [extendArts_append, ← hq, he, consHold_merge cs nd.cons test q e hcs ht]
    cases consHold cs q <;> cases decide (0 ≤ dot test q) <;> cases consHold nd.cons (q ++ e) <;> rfl
  | dec arts cons t f =>
    cases f with
    | some f' => simp [CTree.hasFalseChild] at hc
    | none =>
      obtain ⟨e, he, _⟩ := extendArts_prefix arts q
      simp only [CTree.mergeInto, CTree.evalC]
      rw [extendArts_append, ← hq, he, consHold_merge cs cons test q e hcs ht]
      cases consHold cs q <;> cases decide (0 ≤ dot test q) <;> cases consHold cons (q ++ e) <;> rfl

/-- a child that is kept below a new decision node without false child (PIP_Tree.cc:3260-3270, 3308-3318) -/
theorem evalC_decAbove (aps : List ArtP) (cs : List Row) (test : Row) (c : CTree)
    (qpre q : List Int) (hq : q = extendArts aps qpre) :
    (CTree.dec aps (addConstraint cs test) c none).evalC qpre =
      if (consHold cs q && decide (0 ≤ dot test q)) = true then c.evalC q else none := by
  simp only [CTree.evalC]
  rw [← hq, consHold_addConstraint]

/-- one child only -/
theorem evalRes_oneChild (aps : List ArtP) (cs : List Row) (test : Row) (c : CTree)
    (qpre q : List Int) (hq : q = extendArts aps qpre)
    (hcs : RowsLe cs q.length) (ht : test.length ≤ q.length) :
    evalRes (if c.hasFalseChild then some (.dec aps (addConstraint cs test) c none)
             else some (c.mergeInto aps cs test)) qpre =
      if (consHold cs q && decide (0 ≤ dot test q)) = true then c.evalC q else none := by
  cases hfc : c.hasFalseChild with
  | true => simp only [if_true, evalRes]; exact evalC_decAbove aps cs test c qpre q hq
  | false =>
    simp only [Bool.false_eq_true, if_false, evalRes]
    exact evalC_mergeInto aps cs test c qpre q hq hfc hcs ht

/-- a decision node with both children -/
theorem evalC_twoChildren (a : List ArtP) (test : Row) (t f : CTree) (qpre : List Int) :
    (CTree.dec a (addConstraint [] test) t (some f)).evalC qpre =
      if 0 ≤ dot test (extendArts a qpre) then t.evalC (extendArts a qpre)
      else f.evalC (extendArts a qpre) := by
  simp only [CTree.evalC]
  rw [consHold_addConstraint, consHold_nil, Bool.true_and]
  by_cases h : 0 ≤ dot test (extendArts a qpre) <;> simp [h]

end TreeP

open TreeP

/-- **(T2)** the meaning of the node `solve` builds after the two recursive calls -/
theorem assemble_eval (aps : List ArtP) (cs : List Row) (tTest fTest : Row) (tN fN : Option CTree)
    (qpre q : List Int) (hq : q = extendArts aps qpre) (hcs : RowsLe cs q.length)
    (ht : tTest.length ≤ q.length) (hf : fTest.length ≤ q.length)
    (hpart : (0 ≤ dot fTest q) ↔ ¬ (0 ≤ dot tTest q)) :
    evalRes (assemble aps cs tTest fTest tN fN) qpre =
      if consHold cs q = true then (if 0 ≤ dot tTest q then evalRes tN q else evalRes fN q)
      else none := by
  cases tN with
  | none =>
    cases fN with
    | none =>
      simp only [assemble, evalRes]
      split <;> [(split <;> rfl); rfl]
    | some f =>
      simp only [assemble]
      rw [evalRes_oneChild aps cs fTest f qpre q hq hcs hf]
      simp only [evalRes]
      by_cases h : 0 ≤ dot tTest q
      · have h' : ¬ 0 ≤ dot fTest q := fun hh => (hpart.mp hh) h
        simp [h, h']
      · have h' : 0 ≤ dot fTest q := hpart.mpr h
        simp [h, h']
  | some t =>
    cases fN with
    | none =>
      simp only [assemble]
      rw [evalRes_oneChild aps cs tTest t qpre q hq hcs ht]
      simp only [evalRes]
      by_cases h : 0 ≤ dot tTest q <;> simp [h]
    | some f =>
      simp only [assemble]
      cases hce : cs.isEmpty with
      | true =>
        have hnil : cs = [] := List.isEmpty_iff.mp hce
        simp only [Bool.not_true, Bool.false_eq_true, if_false, evalRes]
        rw [evalC_twoChildren, ← hq, hnil, consHold_nil]
        simp
      | false =>
        simp only [Bool.not_false, if_true, evalRes]
        have h2 := evalC_twoChildren [] tTest t f q
        simp only [extendArts] at h2
        simp only [CTree.evalC, extendArts] at h2 ⊢
        rw [← hq]
        by_cases hc : consHold cs q = true
        · rw [if_pos hc, if_pos hc]; exact h2
        · rw [if_neg hc, if_neg hc]

/-- **(T2)** `assemble_some`: a point comes from the child on whose side of the test `q` lies, and the
    saved constraints hold -/
theorem assemble_some {aps : List ArtP} {cs : List Row} {tTest fTest : Row} {tN fN : Option CTree}
    {qpre q x : List Int} (hq : q = extendArts aps qpre) (hcs : RowsLe cs q.length)
    (ht : tTest.length ≤ q.length) (hf : fTest.length ≤ q.length)
    (hpart : (0 ≤ dot fTest q) ↔ ¬ (0 ≤ dot tTest q))
    (h : evalRes (assemble aps cs tTest fTest tN fN) qpre = some x) :
    consHold cs q = true ∧
      ((0 ≤ dot tTest q ∧ evalRes tN q = some x) ∨ (0 ≤ dot fTest q ∧ evalRes fN q = some x)) := by
  rw [assemble_eval aps cs tTest fTest tN fN qpre q hq hcs ht hf hpart] at h
  by_cases hc : consHold cs q = true
  · rw [if_pos hc] at h
    refine ⟨hc, ?_⟩
    by_cases h1 : 0 ≤ dot tTest q
    · rw [if_pos h1] at h; exact Or.inl ⟨h1, h⟩
    · rw [if_neg h1] at h; exact Or.inr ⟨hpart.mpr h1, h⟩
  · rw [if_neg hc] at h; cases h

/-- **(T2)** `assemble_none`: bottom means the saved constraints fail or the child on `q`'s side of the test
    is bottom -/
theorem assemble_none {aps : List ArtP} {cs : List Row} {tTest fTest : Row} {tN fN : Option CTree}
    {qpre q : List Int} (hq : q = extendArts aps qpre) (hcs : RowsLe cs q.length)
    (ht : tTest.length ≤ q.length) (hf : fTest.length ≤ q.length)
    (hpart : (0 ≤ dot fTest q) ↔ ¬ (0 ≤ dot tTest q))
    (h : evalRes (assemble aps cs tTest fTest tN fN) qpre = none) :
    consHold cs q = false ∨ (0 ≤ dot tTest q ∧ evalRes tN q = none)
      ∨ (0 ≤ dot fTest q ∧ evalRes fN q = none) := by
  rw [assemble_eval aps cs tTest fTest tN fN qpre q hq hcs ht hf hpart] at h
  by_cases hc : consHold cs q = true
  · rw [if_pos hc] at h
    by_cases h1 : 0 ≤ dot tTest q
    · rw [if_pos h1] at h; exact Or.inr (Or.inl ⟨h1, h⟩)
    · rw [if_neg h1] at h; exact Or.inr (Or.inr ⟨hpart.mpr h1, h⟩)
  · left; simpa using hc

/-! ### the test of `solve`: `fTest = complement_assign(tTest, 1)` (PIP_Tree.cc:3219) partitions -/

theorem extendArts_head {a : List ArtP} {qpre : List Int} (h : qpre.head? = some 1) :
    (extendArts a qpre).head? = some 1 := by
  obtain ⟨e, he, _⟩ := extendArts_prefix a qpre
  rw [he]
  cases qpre with
  | nil => cases h
  | cons b bs => exact h

theorem complement_partition {t : Row} {q : List Int} (hq : q.head? = some 1) (ht : t ≠ []) :
    (0 ≤ dot (complementAssign t 1) q) ↔ ¬ (0 ≤ dot t q) := by
  cases q with
  | nil => cases hq
  | cons b ps =>
    have hb : b = 1 := by simpa using hq
    subst hb
    cases t with
    | nil => exact absurd rfl ht
    | cons a as =>
      rw [complementAssign_one_cons, dot_cons, dot_cons, dot_neg]
      omega

theorem complement_length (t : Row) : (complementAssign t 1).length = t.length := by
  cases t with
  | nil => rfl
  | cons a as => rw [complementAssign_one_cons]; simp

/-- **(T2)** in the form `solveGo` uses it (PIP_Tree.cc:3184-3376): the false test is the complement of the
    true test, the vector starts with the constant-term column -/
theorem assemble_some_solve {aps : List ArtP} {cs : List Row} {tTest : Row} {tN fN : Option CTree}
    {qpre q x : List Int} (hq : q = extendArts aps qpre) (h1 : qpre.head? = some 1)
    (hcs : RowsLe cs q.length) (ht : tTest.length ≤ q.length) (hne : tTest ≠ [])
    (h : evalRes (assemble aps cs tTest (complementAssign tTest 1) tN fN) qpre = some x) :
    consHold cs q = true ∧
      ((0 ≤ dot tTest q ∧ evalRes tN q = some x) ∨ (dot tTest q < 0 ∧ evalRes fN q = some x)) := by
  have hq1 : q.head? = some 1 := by rw [hq]; exact extendArts_head h1
  have hpart := complement_partition hq1 hne
  obtain ⟨hc, hor⟩ := assemble_some hq hcs ht (by rw [complement_length]; exact ht) hpart h
  refine ⟨hc, ?_⟩
  rcases hor with h' | h'
  · exact Or.inl h'
  · exact Or.inr ⟨by have := hpart.mp h'.1; omega, h'.2⟩

/-! ### non-vacuity: one instance of each shape, one parameter `p`, test `p - 3 ≥ 0` / `-p + 2 ≥ 0`,
saved constraint `p - 1 ≥ 0`, one artificial parameter `⌊p / 2⌋` -/

/-- a solution node with one problem variable `x = (t·q) / 1`, `t = row` -/
def TreeP.exSol (row : Row) : CTree :=
  .sol { tab := ⟨[[0]], [row], 1, 1, row.length⟩, basis := [false], mapping := [0], varRow := [0],
         varColumn := [1], sign := [.positive], big := none, arts := [], cons := [] }

example : complementAssign [-3, 1, 0] 1 = [2, -1, 0] := by decide

-- both children: a decision node under a wrapper that carries the saved constraint
example :
    evalRes (assemble [⟨[0, 1], 2⟩] [[-1, 1]] [-3, 1, 0] [2, -1, 0]
      (some (exSol [0, 1, 1])) (some (exSol [7, 0, 0]))) [1, 5] = some [7]
    ∧ evalRes (assemble [⟨[0, 1], 2⟩] [[-1, 1]] [-3, 1, 0] [2, -1, 0]
      (some (exSol [0, 1, 1])) (some (exSol [7, 0, 0]))) [1, 2] = some [7]
    ∧ evalRes (assemble [⟨[0, 1], 2⟩] [[-1, 1]] [-3, 1, 0] [2, -1, 0]
      (some (exSol [0, 1, 1])) (some (exSol [7, 0, 0]))) [1, 0] = none := by decide

-- only the false child: merged into the solution node; the stored test is normalised (`[4,-2,0]` ↦ `[2,-1,0]`)
example :
    (match assemble [⟨[0, 1], 2⟩] [[-1, 1]] [-6, 2, 0] [4, -2, 0] none (some (exSol [7, 0, 0])) with
     | some (.sol nd) => some (nd.arts, nd.cons, nd.tab.t)
     | _ => none) = some ([⟨[0, 1], 2⟩], [[-1, 1], [2, -1, 0]], [[7, 0, 0]])
    ∧ evalRes (assemble [⟨[0, 1], 2⟩] [[-1, 1]] [-6, 2, 0] [4, -2, 0] none (some (exSol [7, 0, 0])))
        [1, 2] = some [7]
    ∧ evalRes (assemble [⟨[0, 1], 2⟩] [[-1, 1]] [-6, 2, 0] [4, -2, 0] none (some (exSol [7, 0, 0])))
        [1, 3] = none := by decide

-- only the true child, which has a false child: a new decision node above it
example :
    (assemble [] [[-1, 1]] [-3, 1] [2, -1]
      (some (.dec [] [[-5, 1]] (exSol [0, 1]) (some (exSol [9, 0])))) none).map CTree.hasFalseChild
      = some false
    ∧ evalRes (assemble [] [[-1, 1]] [-3, 1] [2, -1]
      (some (.dec [] [[-5, 1]] (exSol [0, 1]) (some (exSol [9, 0])))) none) [1, 4] = some [9]
    ∧ evalRes (assemble [] [[-1, 1]] [-3, 1] [2, -1]
      (some (.dec [] [[-5, 1]] (exSol [0, 1]) (some (exSol [9, 0])))) none) [1, 2] = none := by decide

-- the hypotheses of `assemble_some` on the first instance
example :
    let q := extendArts [⟨[0, 1], 2⟩] [1, 5]
    q = [1, 5, 2] ∧ RowsLe [[-1, 1]] q.length ∧ [-3, 1, 0].length ≤ q.length
      ∧ ((0 ≤ dot [2, -1, 0] q) ↔ ¬ (0 ≤ dot [-3, 1, 0] q)) := by
  refine ⟨by decide, ?_, by decide, by decide⟩
  intro r hr
  simp only [List.mem_singleton] at hr
  subst hr
  decide

end PPLV.PIPCore

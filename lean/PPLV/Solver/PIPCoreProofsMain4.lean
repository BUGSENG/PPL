import PPLV.Solver.PIPCoreProofsMain3
import PPLV.Solver.PIPCoreProofsCut5
import PPLV.Solver.PIPCoreProofsTree
/-!
# end-to-end: `normalize` and the cut step keep the invariant
-/
namespace PPLV.PIPCore

/-- `Tableau::normalize` (before the integrality test and the cuts) keeps the invariant -/
theorem inv_normalize (F : StepFacts) {S : List Int → Prop} {n0 : Nat} {nd : SolNode} {ctx : Mat}
    (h : Inv' S n0 nd ctx) : Inv' S n0 { nd with tab := nd.tab.normalize } ctx := by
  have hnt : ({ nd with tab := nd.tab.normalize } : SolNode).tab.nt = nd.tab.nt := (normalize_shape nd.tab).2.2.2
  exact
    { h with
      wf := normalize_wf h.wf
      lex := normalize_lexpos _ h.wf.den_pos h.lex
      nt_eq := hnt ▸ h.nt_eq
      ctx_len := hnt ▸ h.ctx_len
      cons_len := hnt ▸ h.cons_len
      pvq := hnt ▸ h.pvq
      sgn := fun qpre hq hc => (signAt_normalize h.wf).mpr (h.sgn qpre hq hc)
      int := fun qpre hq => F.normalize_intinv h.wf (h.int qpre hq) }

theorem inv_cut (ctl : Ctl) {S : List Int → Prop} {n0 : Nat} {nd : SolNode} {ctx : Mat}
    (h : Inv' S n0 nd ctx) {qpre0 : List Int} (hq0 : S qpre0) :
    Inv' S n0 (generateCuts ctl nd ctx).1 (generateCuts ctl nd ctx).2 ∧
      ∀ qpre, S qpre → ∀ x, IsLexMin (generateCuts ctl nd ctx).1
          (extendArts (generateCuts ctl nd ctx).1.arts qpre) x →
        IsLexMin nd (extendArts nd.arts qpre) x := by
  obtain ⟨hwf', hlex'⟩ := generateCuts_inv ctl nd ctx h.wf h.lex
  have B := fun qpre (hq : S qpre) =>
    generateCuts_step (n0 := n0) (qpre := qpre) ctl (nd := nd) (ctx := ctx)
      ⟨h.wf, h.nt_eq, h.arts, h.pv qpre hq, h.pvq qpre hq, h.ctx_len⟩
  obtain ⟨s0, c0⟩ := B qpre0 hq0
  have hntle : nd.tab.nt ≤ (generateCuts ctl nd ctx).1.tab.nt := by
    obtain ⟨new, _, h2, _⟩ := c0.arts_ext
    omega
  -- the node's own constraints are evaluated on a prefix
  have hcons : ∀ qpre, S qpre →
      consHold (generateCuts ctl nd ctx).1.cons (extendArts (generateCuts ctl nd ctx).1.arts qpre)
        = consHold nd.cons (extendArts nd.arts qpre) := by
    intro qpre hq
    obtain ⟨new, _, _, h3⟩ := (B qpre hq).2.arts_ext
    obtain ⟨e, he, _⟩ := extendArts_prefix new (extendArts nd.arts qpre)
    rw [(B qpre hq).2.cons_eq, h3, he]
    exact consHold_prefix _ (by rw [(h.pvq qpre hq).1]; exact h.cons_len)
  refine ⟨{ wf := hwf', lex := hlex', big := by rw [c0.big_eq]; exact h.big, arts := s0.arts_wf
            nt_eq := s0.nt_eq, n0_pos := h.n0_pos, ctx_len := s0.ctx_cols
            cons_len := by
              rw [c0.cons_eq]; intro r hr; exact Nat.le_trans (h.cons_len r hr) hntle
            pv := h.pv
            pvq := fun qpre hq => (B qpre hq).1.q_ok
            rel := fun qpre hq hc => (B qpre hq).2.ctx_sat (h.rel qpre hq (by rw [← hcons qpre hq]; exact hc))
            sgn := fun qpre hq hc => (B qpre hq).2.sign (h.sgn qpre hq (by rw [← hcons qpre hq]; exact hc))
            int := fun qpre hq => (B qpre hq).2.int (h.int qpre hq) }, ?_⟩
  intro qpre hq x hx
  exact (B qpre hq).2.islexmin h.wf x hx

end PPLV.PIPCore

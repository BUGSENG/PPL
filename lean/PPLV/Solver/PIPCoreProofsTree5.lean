import PPLV.Solver.PIPCoreProofsTree3
/-!
# tree family: the bottom analogue of `resToTree_eval_point`

When `Tree.eval` answers `.bottom` every scoping step on the path succeeded, so `evalC` follows the same
path; `evalVals` never answers `.bottom`, so at a solution node bottom means the constraints failed; a
missing false child is `.bottom` in `CTree.toTree`.
-/
namespace PPLV.PIPCore
open PPLV.PIP (Tree QAff PCon Aff Rel Result dotI evalArts evalCons evalVals)

namespace TreeP

theorem evalVals_ne_bottom : ∀ (qs : List QAff) (env : List Int), evalVals qs env ≠ .bottom
  | [], _ => by simp only [evalVals]; intro h; cases h
  | q :: qs, env => by
    have ih := evalVals_ne_bottom qs env
    simp only [evalVals]
    cases hv : q.num.eval env with
    | none => intro h; cases h
    | some v =>
      simp only
      cases hb : (v % q.den != 0) with
      | true =>
        simp only [if_true]
        cases hr : evalVals qs env <;> (intro h; cases h)
      | false =>
        simp only [Bool.false_eq_true, if_false]
        cases hr : evalVals qs env with
        | bottom => exact absurd hr ih
        | point p => intro h; cases h
        | scopeError => intro h; cases h
        | nonIntegral => intro h; cases h

theorem toTree_eval_bottom : ∀ (c : CTree) (θ : List Int),
    c.toTree.eval θ = .bottom → c.evalC (1 :: θ) = none
  | .sol nd, θ, h => by
    simp only [CTree.toTree, Tree.eval] at h
    cases hA : evalArts (nd.arts.map ArtP.toQAff) θ with
    | none => rw [hA] at h; cases h
    | some env' =>
      rw [hA] at h
      simp only at h
      cases hC : evalCons (nd.cons.map consToPCon) env' with
      | none => rw [hC] at h; cases h
      | some b =>
        rw [hC] at h
        simp only [CTree.evalC]
        rw [evalArts_extend _ _ _ hA, evalCons_consHold _ _ _ hC]
        cases b with
        | false => rfl
        | true =>
          simp only at h
          exact absurd h (evalVals_ne_bottom _ _)
  | .dec arts cons t none, θ, h => by
    simp only [CTree.toTree, Tree.eval] at h
    cases hA : evalArts (arts.map ArtP.toQAff) θ with
    | none => rw [hA] at h; cases h
    | some env' =>
      rw [hA] at h
      simp only at h
      cases hC : evalCons (cons.map consToPCon) env' with
      | none => rw [hC] at h; cases h
      | some b =>
        rw [hC] at h
        simp only [CTree.evalC]
        rw [evalArts_extend _ _ _ hA, evalCons_consHold _ _ _ hC]
        cases b with
        | false => rfl
        | true =>
          simp only at h
          rw [if_pos rfl]
          exact toTree_eval_bottom t env' h
  | .dec arts cons t (some f), θ, h => by
    simp only [CTree.toTree, Tree.eval] at h
    cases hA : evalArts (arts.map ArtP.toQAff) θ with
    | none => rw [hA] at h; cases h
    | some env' =>
      rw [hA] at h
      simp only at h
      cases hC : evalCons (cons.map consToPCon) env' with
      | none => rw [hC] at h; cases h
      | some b =>
        rw [hC] at h
        simp only [CTree.evalC]
        rw [evalArts_extend _ _ _ hA, evalCons_consHold _ _ _ hC]
        cases b with
        | false =>
          simp only at h
          rw [if_neg (by decide)]
          exact toTree_eval_bottom f env' h
        | true =>
          simp only at h
          rw [if_pos rfl]
          exact toTree_eval_bottom t env' h

end TreeP

open TreeP

/-- whenever the public semantics of the tree shown to the user answers bottom at `θ`, the solver-side
    evaluation at the column vector `1 :: θ` answers bottom -/
theorem resToTree_eval_bottom (r : Option CTree) (θ : List Int)
    (h : (resToTree r).eval θ = .bottom) : evalRes r (1 :: θ) = none := by
  cases r with
  | none => rfl
  | some c => exact toTree_eval_bottom c θ h

/-! non-vacuity: `exTree` at `p = 0` (false child, its saved constraint `p - 1 ≥ 0` fails) -/
example : (resToTree (some exTree)).eval [0] = .bottom ∧ evalRes (some exTree) [1, 0] = none := by decide

end PPLV.PIPCore

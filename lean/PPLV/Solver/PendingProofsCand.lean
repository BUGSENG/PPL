import PPLV.Solver.Pending
import PPLV.Solver.TableauProofs

/-!
# the pricing rules return candidate columns; entries of a combined row

* `textbook_is_candidate`, `steepestEdgeExact_is_candidate`, `arbitraryEntering_is_candidate`:
  the index returned is a candidate column when non-zero, and it is 0 iff no candidate exists;
* `normalizeRow_spec`, `linearCombine_spec`: a positive multiple `d` of the combined row is the plain
  integer combination `−(y_k/g)·x + (x_k/g)·y` (entry-wise and as a functional).
-/
namespace PPLV.Solver.Pend
open PPLV.Lin PPLV.Solver.Tab

/-! ### candidates -/

theorem isCandidate_iff (cost : Row) (j : Nat) :
    isCandidate cost j = true ↔
      1 ≤ j ∧ j < cost.length - 1 ∧ sgn (cost.get j) = sgn (cost.get (cost.length - 1)) := by
  unfold isCandidate
  simp only [Bool.and_eq_true, decide_eq_true_eq, beq_iff_eq, and_assoc]

theorem textbookEntering_cases (cost : Row) :
    (textbookEntering cost = 0 ∧ ∀ j, isCandidate cost j = false) ∨
    (textbookEntering cost ≠ 0 ∧ isCandidate cost (textbookEntering cost) = true) := by
  unfold textbookEntering
  simp only
  cases hf : (List.range' 1 (cost.length - 1 - 1)).find?
      (fun j => sgn (cost.get j) == sgn (cost.get (cost.length - 1))) with
  | none =>
    left
    refine ⟨rfl, fun j => ?_⟩
    cases hc : isCandidate cost j with
    | false => rfl
    | true =>
      obtain ⟨h1, h2, h3⟩ := (isCandidate_iff cost j).mp hc
      have := List.find?_eq_none.mp hf j (by rw [List.mem_range'_1]; omega)
      simp [h3] at this
  | some k =>
    right
    have hk := List.mem_of_find?_eq_some hf
    have hp := List.find?_some hf
    rw [List.mem_range'_1] at hk
    simp only
    refine ⟨by omega, (isCandidate_iff cost k).mpr ⟨hk.1, by omega, ?_⟩⟩
    simpa using hp

/-- **`textbook_entering_index`** returns a candidate column, and 0 exactly when there is none -/
theorem textbook_is_candidate (cost : Row) :
    (textbookEntering cost ≠ 0 → isCandidate cost (textbookEntering cost) = true) ∧
    (textbookEntering cost = 0 ↔ ∀ j, isCandidate cost j = false) := by
  rcases textbookEntering_cases cost with ⟨h0, hn⟩ | ⟨h1, hc⟩
  · exact ⟨fun h => absurd h0 h, fun _ => hn, fun _ => h0⟩
  · refine ⟨fun _ => hc, fun h => absurd h h1, fun h => ?_⟩
    rw [h _] at hc; cases hc

/-- a fold that keeps the current index or takes the new one, and takes the first one when the
    current index is 0, ends in an element of the list (elements non-zero) -/
theorem foldl_pick {β : Type} (f : Nat × β → Nat → Nat × β)
    (hf : ∀ st j, (f st j).1 = st.1 ∨ (f st j).1 = j) (hf0 : ∀ st j, st.1 = 0 → (f st j).1 = j) :
    ∀ (l : List Nat) (st : Nat × β),
      ((l.foldl f st).1 = st.1 ∨ (l.foldl f st).1 ∈ l) ∧
      (st.1 = 0 → l ≠ [] → (∀ j ∈ l, j ≠ 0) → (l.foldl f st).1 ∈ l) := by
  intro l
  induction l with
  | nil => intro st; exact ⟨Or.inl rfl, fun _ h => absurd rfl h⟩
  | cons a l ih =>
    intro st
    simp only [List.foldl_cons]
    obtain ⟨h1, h2⟩ := ih (f st a)
    constructor
    · rcases h1 with h1 | h1
      · rcases hf st a with h | h
        · left; rw [h1, h]
        · right; rw [h1, h]; exact List.mem_cons_self
      · right; exact List.mem_cons_of_mem _ h1
    · intro h0 _ hnz
      have ha := hf0 st a h0
      rcases h1 with h1 | h1
      · rw [h1, ha]; exact List.mem_cons_self
      · exact List.mem_cons_of_mem _ h1

/-- **`steepest_edge_exact_entering_index`** returns a candidate column, and 0 exactly when there is
    none (whatever the tableau: the comparison only selects among the candidates) -/
theorem steepestEdgeExact_is_candidate (T : List Row) (cost : Row) (base : List Nat) :
    (steepestEdgeExact T cost base ≠ 0 → isCandidate cost (steepestEdgeExact T cost base) = true) ∧
    (steepestEdgeExact T cost base = 0 ↔ ∀ j, isCandidate cost j = false) := by
  unfold steepestEdgeExact
  simp only
  generalize hc : (List.range' 1 (cost.length - 1 - 1)).filter
      (fun j => sgn (cost.get j) == sgn (cost.get (cost.length - 1))) = cands
  have hmem : ∀ j, j ∈ cands ↔ isCandidate cost j = true := by
    intro j
    rw [← hc, List.mem_filter, List.mem_range'_1, isCandidate_iff]
    simp only [beq_iff_eq]
    constructor
    · rintro ⟨⟨h1, h2⟩, h3⟩; exact ⟨h1, by omega, h3⟩
    · rintro ⟨h1, h2, h3⟩; exact ⟨⟨h1, by omega⟩, h3⟩
  generalize hstep : (fun (st : Nat × Int × Int) (j : Nat) =>
      if st.1 == 0 then (j, cost.get j * cost.get j, _)
      else if cost.get j * cost.get j * st.2.2 > st.2.1 * _ then (j, cost.get j * cost.get j, _) else st) = step
  have hf : ∀ st j, (step st j).1 = st.1 ∨ (step st j).1 = j := by
    intro st j; rw [← hstep]; simp only
    split
    · right; rfl
    · split
      · right; rfl
      · left; rfl
  have hf0 : ∀ st j, st.1 = 0 → (step st j).1 = j := by
    intro st j h0; rw [← hstep]; simp [h0]
  obtain ⟨h1, h2⟩ := foldl_pick step hf hf0 cands.reverse (0, 0, 0)
  have hnz : ∀ j ∈ cands.reverse, j ≠ 0 := by
    intro j hj
    have := (isCandidate_iff cost j).mp ((hmem j).mp (List.mem_reverse.mp hj))
    omega
  constructor
  · intro hne
    rcases h1 with h1 | h1
    · exact absurd h1 hne
    · exact (hmem _).mp (List.mem_reverse.mp h1)
  · constructor
    · intro h0 j
      cases hcj : isCandidate cost j with
      | false => rfl
      | true =>
        have hj : j ∈ cands := (hmem j).mpr hcj
        have hne : cands.reverse ≠ [] := by
          intro he; rw [List.reverse_eq_nil_iff] at he; rw [he] at hj; cases hj
        have := h2 rfl hne hnz
        exact absurd h0 (hnz _ this)
    · intro hall
      rcases h1 with h1 | h1
      · exact h1
      · have := (hmem _).mp (List.mem_reverse.mp h1)
        rw [hall] at this; cases this

/-- the float pricing as an arbitrary choice: whatever `choice` proposes, the column taken is a
    candidate, and 0 is returned exactly when there is none -/
theorem arbitraryEntering_is_candidate (choice : List Row → Row → List Nat → Nat)
    (T : List Row) (cost : Row) (base : List Nat) :
    (arbitraryEntering choice T cost base ≠ 0 → isCandidate cost (arbitraryEntering choice T cost base) = true) ∧
    (arbitraryEntering choice T cost base = 0 ↔ ∀ j, isCandidate cost j = false) := by
  unfold arbitraryEntering
  simp only
  by_cases hc : isCandidate cost (choice T cost base) = true
  · rw [if_pos hc]
    have h1 := ((isCandidate_iff cost _).mp hc).1
    refine ⟨fun _ => hc, fun h => by omega, fun h => ?_⟩
    rw [h _] at hc; cases hc
  · simp only [hc, Bool.false_eq_true, if_false]
    exact textbook_is_candidate cost

/-! ### entries of a normalised / combined row -/

theorem normalizeRow_spec (r : Row) :
    ∃ d : Int, 0 < d ∧ (∀ j, d * (normalizeRow r).get j = r.get j) ∧
      (∀ x : Val, (d : Rat) * dot (normalizeRow r) x = dot r x) ∧ (normalizeRow r).length = r.length := by
  unfold normalizeRow
  simp only
  split
  · exact ⟨1, by norm_num, fun j => by simp, fun x => by simp, rfl⟩
  · rename_i hg
    refine ⟨((gcdList r : Nat) : Int), by omega, fun j => ?_, fun x => ?_, by simp⟩
    · unfold Row.get
      rw [getD_map_div]
      have hdvd : ((gcdList r : Nat) : Int) ∣ r.getD j 0 := by
        rw [List.getD_eq_getElem?_getD]
        cases h : r[j]? with
        | none => simp
        | some a => exact gcdList_dvd r a (List.mem_of_getElem? h)
      exact Int.mul_ediv_cancel' hdvd
    · exact dot_map_div _ r (gcdList_dvd r) x

theorem length_lincomb (a b : Int) (xs ys : List Int) :
    (lincomb a b xs ys).length = max xs.length ys.length := by
  induction xs generalizing ys with
  | nil => simp [lincomb]
  | cons x xs ih =>
    cases ys with
    | nil => simp [lincomb]
    | cons y ys => simp [lincomb, ih]

/-- the multipliers of `linear_combine(x, y, k)` -/
def lcNx (x y : Row) (k : Nat) : Int := x.get k / ((Int.gcd (x.get k) (y.get k) : Nat) : Int)
def lcNy (x y : Row) (k : Nat) : Int := y.get k / ((Int.gcd (x.get k) (y.get k) : Nat) : Int)

theorem lcN_spec (x y : Row) (k : Nat) (hy : y.get k ≠ 0) :
    ∃ g : Int, g ≠ 0 ∧ g * lcNx x y k = x.get k ∧ g * lcNy x y k = y.get k ∧ lcNy x y k ≠ 0 := by
  unfold lcNx lcNy
  have hp := Int.gcd_dvd_left (x.get k) (y.get k)
  have hq := Int.gcd_dvd_right (x.get k) (y.get k)
  generalize ((Int.gcd (x.get k) (y.get k) : Nat) : Int) = g at *
  have hg : g ≠ 0 := by
    intro h0; rw [h0] at hq; exact hy (by simpa using hq)
  refine ⟨g, hg, Int.mul_ediv_cancel' hp, Int.mul_ediv_cancel' hq, ?_⟩
  intro h0
  have := Int.mul_ediv_cancel' hq
  rw [h0, mul_zero] at this
  exact hy this.symm

/-- **entries of `linear_combine(x, y, k)`**: a positive multiple of the result is
    `−n_y·x + n_x·y`, entry by entry and as a linear functional; lengths are kept -/
theorem linearCombine_spec (x y : Row) (k : Nat) :
    ∃ d : Int, 0 < d ∧
      (∀ j, d * (linearCombine x y k).get j = -(lcNy x y k) * x.get j + lcNx x y k * y.get j) ∧
      (∀ v : Val, (d : Rat) * dot (linearCombine x y k) v =
        -((lcNy x y k : Int) : Rat) * dot x v + ((lcNx x y k : Int) : Rat) * dot y v) ∧
      (linearCombine x y k).length = max x.length y.length := by
  unfold linearCombine
  simp only
  obtain ⟨d, hd, h1, h2, h3⟩ := normalizeRow_spec
    (lincomb (-(y.get k / ((Int.gcd (x.get k) (y.get k) : Nat) : Int)))
      (x.get k / ((Int.gcd (x.get k) (y.get k) : Nat) : Int)) x y)
  refine ⟨d, hd, fun j => ?_, fun v => ?_, ?_⟩
  · rw [h1 j]; unfold Row.get; rw [getD_lincomb]; rfl
  · rw [h2 v, dot_lincomb]; unfold lcNx lcNy; push_cast; ring
  · rw [h3, length_lincomb]

end PPLV.Solver.Pend

import PPLV.Solver.PendingProofsSetup7

/-!
# structure of the tableau set up for a fresh problem (towards `Canon`)

* `InvS`: structural invariant of the insertion loop: a row is "worked out" iff its `base` entry is its own slack
  column, where it has coefficient −1, inhomogeneous term ≥ 0, and every other row has 0; the number of worked
  rows is the number of "already satisfied" flags met.
-/
namespace PPLV.Solver.Pend
open PPLV.Lin PPLV.Solver.Tab

theorem countP_drop_range_succ (N : Nat) (p : Nat → Bool) (i : Nat) (hi : i < N) :
    ((List.range N).drop i).countP p = (if p i then 1 else 0) + ((List.range N).drop (i+1)).countP p := by
  have : (List.range N).drop i = i :: (List.range N).drop (i+1) := by
    rw [List.drop_eq_getElem_cons (by simpa using hi)]; simp
  rw [this, List.countP_cons]
  omega

namespace InsCtx
variable (C : InsCtx)

/-- the "already satisfied" flags are only set on inequalities that enter the tableau and hold at the origin -/
def SatOK : Prop :=
  ∀ i, i < C.pend.length → C.isSat.getD i false = true →
    slackC (C.pend.getD i default) = true ∧ 0 ≤ (C.pend.getD i default).k

/-- number of flags set among the constraints with index `≥ i` -/
def wcount (i : Nat) : Nat := ((List.range C.pend.length).drop i).countP (fun k => C.isSat.getD k false)

theorem wcount_step (i : Nat) (hi : i < C.pend.length) :
    C.wcount i = (if C.isSat.getD i false then 1 else 0) + C.wcount (i+1) :=
  countP_drop_range_succ C.pend.length _ i hi

theorem count_set_true (l : List Bool) (k : Nat) (hk : k < l.length) (h : l.getD k false = false) :
    (l.set k true).count true = l.count true + 1 := by
  induction l generalizing k with
  | nil => simp at hk
  | cons a l ih =>
    cases k with
    | zero =>
      simp only [List.getD_cons_zero] at h
      subst h
      simp
    | succ k =>
      simp only [List.getD_cons_succ] at h
      rw [List.set_cons_succ, List.count_cons, List.count_cons, ih k (by simpa using hk) h]
      omega

theorem constraintRow_get0 (c : ICon) (hc : c ∈ C.pend) : (constraintRow C.numCols C.M c).get 0 = c.k := by
  obtain ⟨r1, r2, r3⟩ := constraintRow_spec C.M C.nn C.n C.j C.numCols C.hM (by have := C.hSL; omega) c (C.hlen c hc)
  have h := r3 (Val.zero.update 0 1) (by simp [Val.update])
  unfold rowVal at h
  rw [dot_update, dot_zero] at h
  have hz : dot c.coeffs (proj C.M (Val.zero.update 0 1)) = 0 := by
    rw [dot_congr_lt c.coeffs _ Val.zero, dot_zero]
    intro u hu
    have hun : u < C.n := lt_of_lt_of_le hu (C.hlen c hc)
    obtain ⟨c1, c2, -, -⟩ := C.hM.cols u hun
    unfold proj
    simp only [Val.update, Val.zero]
    rw [if_neg (by omega)]
    by_cases hm : (C.M.getD (u+1) (0, 0)).2 = 0
    · have : ((C.M.getD (u+1) (0, 0)).2 != 0) = false := by rw [hm]; rfl
      rw [this]; simp
    · have : ((C.M.getD (u+1) (0, 0)).2 != 0) = true := bne_iff_ne.mpr hm
      rw [this]; simp only [if_true]; rw [if_neg (by omega)]; simp
  rw [hz] at h
  simp only [Val.zero, zero_add, sub_zero, mul_one] at h
  have : (((constraintRow C.numCols C.M c).getD 0 0 : Int) : Rat) = (c.k : Rat) := by linarith
  exact_mod_cast this

/-- structural invariant of the insertion loop -/
structure InvS (i : Nat) (st : Ins) : Prop where
  w_len : st.worked.length = C.N
  low : ∀ r, r < st.k → st.worked.getD r false = false ∧ st.base.getD r 0 = 0
  w_iff : ∀ r, st.k ≤ r → r < C.N → (st.worked.getD r false = true ↔ st.base.getD r 0 ≠ 0)
  own : ∀ r, st.k ≤ r → r < C.N → st.base.getD r 0 ≠ 0 →
    (st.T.getD r []).get (st.base.getD r 0) = -1 ∧ 0 ≤ (st.T.getD r []).get 0
  other : ∀ r r', st.k ≤ r → r < C.N → st.k ≤ r' → r' < C.N → r ≠ r' → st.base.getD r 0 ≠ 0 →
    (st.T.getD r' []).get (st.base.getD r 0) = 0
  cnt : st.worked.count true = C.wcount i

theorem init_invS : C.InvS C.pend.length C.init := by
  have hrep : ∀ r, (List.replicate C.N false).getD r false = false := by
    intro r
    rw [List.getD_eq_getElem?_getD]
    by_cases hr : r < C.N
    · rw [List.getElem?_replicate_of_lt hr]; rfl
    · rw [List.getElem?_eq_none (by simpa using hr)]; rfl
  have hrep0 : ∀ r, (List.replicate C.N 0).getD r 0 = 0 := by
    intro r
    rw [List.getD_eq_getElem?_getD]
    by_cases hr : r < C.N
    · rw [List.getElem?_replicate_of_lt hr]; rfl
    · rw [List.getElem?_eq_none (by simpa using hr)]; rfl
  constructor
  · simp [init]
  · intro r _; exact ⟨hrep r, hrep0 r⟩
  · intro r h1 h2; simp only [init] at h1; omega
  · intro r h1 h2; simp only [init] at h1; omega
  · intro r r' h1 h2; simp only [init] at h1; omega
  · simp only [init, wcount]
    rw [List.drop_eq_nil_of_le (by simp)]
    simp [List.count_replicate]

theorem step_invS (hsat : C.SatOK) (i : Nat) (hi : i < C.pend.length) (st : Ins) (h : C.Inv (i+1) st)
    (hS : C.InvS (i+1) st) : C.InvS i (C.step i st) := by
  have hc : C.pend.getD i default ∈ C.pend := by
    rw [List.getD_eq_getElem?_getD, List.getElem?_eq_getElem hi]; exact List.getElem_mem _
  have hk := take_succ_filter C.pend i hi tabC
  have hw := C.wcount_step i hi
  obtain ⟨r1, r2, r3⟩ := constraintRow_spec C.M C.nn C.n C.j C.numCols C.hM (by have := C.hSL; omega) _ (C.hlen _ hc)
  have hkN : st.k ≤ C.N := by rw [h.k_eq]; exact filter_length_le_take _ _ _
  rw [C.step_eq i hi st h]
  by_cases ht : tabC (C.pend.getD i default) = true
  swap
  · have ht' : tabC (C.pend.getD i default) = false := by simpa using ht
    rw [if_pos ht']
    have hns : C.isSat.getD i false = false := by
      by_contra hcon
      have := (hsat i hi (by simpa using hcon)).1
      unfold slackC at this; rw [ht'] at this; simp at this
    rw [hns, if_neg Bool.false_ne_true, Nat.zero_add] at hw
    exact ⟨hS.w_len, hS.low, hS.w_iff, hS.own, hS.other, by rw [hS.cnt, hw]⟩
  · rw [if_neg (by rw [ht]; simp)]
    rw [ht] at hk
    simp only [if_true] at hk
    have hkpos : 1 ≤ st.k := by rw [h.k_eq, hk]; omega
    have hkT : st.k - 1 < st.T.length := by rw [h.lenT]; omega
    have hkB : st.k - 1 < st.base.length := by rw [h.lenB]; omega
    have hkW : st.k - 1 < st.worked.length := by rw [hS.w_len]; omega
    obtain ⟨low1, low2⟩ := hS.low (st.k - 1) (by omega)
    by_cases he : (C.pend.getD i default).isEq = true
    · rw [if_pos he]
      have hns : C.isSat.getD i false = false := by
        by_contra hcon
        have := (hsat i hi (by simpa using hcon)).1
        unfold slackC at this; rw [he] at this; simp at this
      rw [hns, if_neg Bool.false_ne_true, Nat.zero_add] at hw
      refine ⟨hS.w_len, fun r hr => hS.low r (by simp only at hr; omega), ?_, ?_, ?_, by rw [hS.cnt, hw]⟩
      · intro r hr1 hr2
        simp only at hr1 ⊢
        by_cases hrk : r = st.k - 1
        · rw [hrk, low1, low2]; simp
        · exact hS.w_iff r (by omega) hr2
      · intro r hr1 hr2 hb
        simp only at hr1 hb ⊢
        have hrk : r ≠ st.k - 1 := by intro hh; rw [hh] at hb; exact hb low2
        rw [getD_set_of_lt _ _ _ _ hkT, if_neg hrk]
        exact hS.own r (by omega) hr2 hb
      · intro r r' hr1 hr2 hr1' hr2' hne hb
        simp only at hr1 hr1' hb ⊢
        have hrk : r ≠ st.k - 1 := by intro hh; rw [hh] at hb; exact hb low2
        rw [getD_set_of_lt _ _ _ _ hkT]
        by_cases hrk' : r' = st.k - 1
        · rw [if_pos hrk']
          rcases h.base r hr2 with hb0 | ⟨hb1, hb2⟩
          · exact absurd hb0 hb
          · exact r2 _ (by rw [h.sl_eq] at hb1; unfold V at hb1; omega)
        · rw [if_neg hrk']
          exact hS.other r r' (by omega) hr2 (by omega) hr2' hne hb
    · rw [if_neg he]
      have he' : (C.pend.getD i default).isEq = false := by simpa using he
      have hsl : slackC (C.pend.getD i default) = true := by unfold slackC; rw [ht, he']; rfl
      have hs := take_succ_filter C.pend i hi slackC
      rw [hsl, if_pos rfl] at hs
      have hsiV : C.V ≤ st.slackIndex - 1 := by rw [h.sl_eq, hs]; omega
      have hslpos : 1 ≤ st.slackIndex := by rw [h.sl_eq, hs]; omega
      have hV1 : 1 ≤ C.V := by unfold V; omega
      have hVj : C.V = 1 + C.j := rfl
      have hsilen : st.slackIndex - 1 < (constraintRow C.numCols C.M (C.pend.getD i default)).length := by
        rw [r1]; have := C.hSL
        have h2 := filter_length_le_take C.pend (i+1) slackC
        rw [h.sl_eq]; unfold V; omega
      have row1_get : ∀ col, Row.get ((constraintRow C.numCols C.M (C.pend.getD i default)).set (st.slackIndex - 1) (-1)) col =
          if col = st.slackIndex - 1 then -1 else (constraintRow C.numCols C.M (C.pend.getD i default)).get col := by
        intro col
        unfold Row.get
        rw [getD_set]
        by_cases hcol : col = st.slackIndex - 1
        · rw [if_pos ⟨hcol, hsilen⟩, if_pos hcol]
        · rw [if_neg (fun a => hcol a.1), if_neg hcol]
      -- entries of the new row at the slack columns already in use
      have row1_base : ∀ r, r < C.N → st.base.getD r 0 ≠ 0 →
          Row.get ((constraintRow C.numCols C.M (C.pend.getD i default)).set (st.slackIndex - 1) (-1)) (st.base.getD r 0) = 0 := by
        intro r hr hb
        rcases h.base r hr with hb0 | ⟨hb1, hb2⟩
        · exact absurd hb0 hb
        · rw [row1_get, if_neg (by omega)]; exact r2 _ (by omega)
      by_cases hsatI : C.isSat.getD i false = true
      · rw [if_pos hsatI]
        rw [hsatI] at hw
        simp only [if_true] at hw
        refine ⟨by rw [List.length_set]; exact hS.w_len, ?_, ?_, ?_, ?_, ?_⟩
        · intro r hr
          simp only at hr ⊢
          rw [getD_set, if_neg (by rintro ⟨h1, -⟩; omega), getD_set_of_lt _ _ _ _ hkB, if_neg (by omega)]
          exact hS.low r (by omega)
        · intro r hr1 hr2
          simp only at hr1 ⊢
          rw [getD_set, getD_set_of_lt _ _ _ _ hkB]
          by_cases hrk : r = st.k - 1
          · rw [if_pos ⟨hrk, hkW⟩, if_pos hrk]; simp; omega
          · rw [if_neg (fun a => hrk a.1), if_neg hrk]; exact hS.w_iff r (by omega) hr2
        · intro r hr1 hr2 hb
          simp only at hr1 hb ⊢
          rw [getD_set_of_lt _ _ _ _ hkB] at hb ⊢
          rw [getD_set_of_lt _ _ _ _ hkT]
          by_cases hrk : r = st.k - 1
          · rw [if_pos hrk, if_pos hrk, row1_get, if_pos rfl, row1_get, if_neg (by omega),
              C.constraintRow_get0 _ hc]
            exact ⟨rfl, (hsat i hi hsatI).2⟩
          · rw [if_neg hrk] at hb ⊢
            rw [if_neg hrk]
            exact hS.own r (by omega) hr2 hb
        · intro r r' hr1 hr2 hr1' hr2' hne hb
          simp only at hr1 hr1' hb ⊢
          rw [getD_set_of_lt _ _ _ _ hkB] at hb ⊢
          rw [getD_set_of_lt _ _ _ _ hkT]
          by_cases hrk : r = st.k - 1
          · rw [if_pos hrk]
            have hrk' : r' ≠ st.k - 1 := fun hh => hne (hrk.trans hh.symm)
            rw [if_neg hrk']
            exact (h.rows r' (by omega) hr2').2 _ (Or.inl ⟨hsiV, by omega⟩)
          · rw [if_neg hrk] at hb ⊢
            by_cases hrk' : r' = st.k - 1
            · rw [if_pos hrk']; exact row1_base r hr2 hb
            · rw [if_neg hrk']; exact hS.other r r' (by omega) hr2 (by omega) hr2' hne hb
        · simp only
          rw [count_set_true _ _ hkW low1, hS.cnt, hw]; omega
      · rw [if_neg hsatI]
        have hns : C.isSat.getD i false = false := by simpa using hsatI
        rw [hns, if_neg Bool.false_ne_true, Nat.zero_add] at hw
        refine ⟨hS.w_len, fun r hr => hS.low r (by simp only at hr; omega), ?_, ?_, ?_, by rw [hS.cnt, hw]⟩
        · intro r hr1 hr2
          simp only at hr1 ⊢
          by_cases hrk : r = st.k - 1
          · rw [hrk, low1, low2]; simp
          · exact hS.w_iff r (by omega) hr2
        · intro r hr1 hr2 hb
          simp only at hr1 hb ⊢
          have hrk : r ≠ st.k - 1 := by intro hh; rw [hh] at hb; exact hb low2
          rw [getD_set_of_lt _ _ _ _ hkT, if_neg hrk]
          exact hS.own r (by omega) hr2 hb
        · intro r r' hr1 hr2 hr1' hr2' hne hb
          simp only at hr1 hr1' hb ⊢
          have hrk : r ≠ st.k - 1 := by intro hh; rw [hh] at hb; exact hb low2
          rw [getD_set_of_lt _ _ _ _ hkT]
          by_cases hrk' : r' = st.k - 1
          · rw [if_pos hrk']; exact row1_base r hr2 hb
          · rw [if_neg hrk']
            exact hS.other r r' (by omega) hr2 (by omega) hr2' hne hb

/-- both invariants after the whole loop -/
theorem insert_specS (hsat : C.SatOK) : C.Inv 0 C.fin ∧ C.InvS 0 C.fin := by
  unfold fin
  exact revFold_inv (fun i st => C.Inv i st ∧ C.InvS i st) C.step C.pend.length C.init
    ⟨C.init_inv, C.init_invS⟩
    (fun i hi st hst => ⟨C.step_inv i hi st hst.1, C.step_invS hsat i hi st hst.1 hst.2⟩)

end InsCtx

end PPLV.Solver.Pend

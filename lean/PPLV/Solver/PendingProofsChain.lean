import PPLV.Solver.PendingProofsE2E4

/-!
# the chain first phase → `erase_artificials` → second phase, for ANY call of the set-up

`ppc_chain` (`PendingProofsE2E`): whatever state `process_pending_constraints` was called on (fresh or incremental), IF its set-up
hands over `(s', b, e)` with `Phase1Start s' b e` (canonical feasible tableau, cost row = −Σ artificials),
`SetupGood cs n s' b` (the non-negative solutions with artificials 0 are the encodings of the solution set) and a
mapping laid out before the artificial columns, THEN the rest of `process_pending_constraints` answers correctly:
UNSATISFIABLE with an empty solution set, or SATISFIABLE with a `Ready` state.
`lp_incremental_chain`: … and `second_phase()` then gives the right status, witness and optimum.
For a fresh problem the three hypotheses are theorems (`setup_phase1_canon`, `tableau_setup_solutions`,
`setup_phase1_extra`); for an incremental call they are `incr_setup`.
Here: the data the set-up keeps (`ppcSetup_keeps`) and `lp_incremental_chain`.
-/
namespace PPLV.Solver.Pend
open PPLV.Lin PPLV.Solver PPLV.Solver.Tab

/-! ### the data the set-up keeps, for any state -/

theorem mergeSplitVariable_keeps (s : LPState) (v : Nat) :
    (mergeSplitVariable s v).1.obj = s.obj ∧ (mergeSplitVariable s v).1.maximize = s.maximize ∧
    (mergeSplitVariable s v).1.external_space_dim = s.external_space_dim ∧
    (mergeSplitVariable s v).1.input_cs = s.input_cs ∧ (mergeSplitVariable s v).1.pricing = s.pricing := by
  unfold mergeSplitVariable
  simp

theorem ppcMerge_keeps (s : LPState) (l : List Bool) :
    (ppcMerge s l).1.obj = s.obj ∧ (ppcMerge s l).1.maximize = s.maximize ∧
    (ppcMerge s l).1.external_space_dim = s.external_space_dim ∧
    (ppcMerge s l).1.input_cs = s.input_cs ∧ (ppcMerge s l).1.pricing = s.pricing := by
  unfold ppcMerge
  apply revFold_inv (fun (_ : Nat) (acc : LPState × List Nat) =>
    acc.1.obj = s.obj ∧ acc.1.maximize = s.maximize ∧ acc.1.external_space_dim = s.external_space_dim ∧
    acc.1.input_cs = s.input_cs ∧ acc.1.pricing = s.pricing)
  · exact ⟨rfl, rfl, rfl, rfl, rfl⟩
  · intro i _ acc ⟨a1, a2, a3, a4, a5⟩
    simp only
    split
    · obtain ⟨k1, k2, k3, k4, k5⟩ := mergeSplitVariable_keeps acc.1 i
      exact ⟨by rw [k1, a1], by rw [k2, a2], by rw [k3, a3], by rw [k4, a4], by rw [k5, a5]⟩
    · exact ⟨a1, a2, a3, a4, a5⟩

theorem ppcTrivial_phase1 (s0 s' : LPState) (b e b' e' : Nat) (h : ppcTrivial s0 b e = .phase1 s' b' e') : s' = s0 := by
  unfold ppcTrivial at h
  split at h
  · cases h
  · split at h
    · split at h <;> cases h
    · simp only [Setup.phase1.injEq] at h; exact h.1.symm

theorem ppcFill_phase1 (s : LPState) (unf : List Nat) (p : Parsed) (isSat : List Bool) (M : List (Nat × Nat))
    (av : Nat) (s' : LPState) (b e : Nat) (h : ppcFill s unf p isSat M av = .phase1 s' b e) :
    s'.obj = s.obj ∧ s'.maximize = s.maximize ∧ s'.external_space_dim = s.external_space_dim ∧
    s'.input_cs = s.input_cs ∧ s'.pricing = s.pricing := by
  unfold ppcFill at h
  simp only at h
  have := ppcTrivial_phase1 _ _ _ _ _ _ h
  subst this
  exact ⟨rfl, rfl, rfl, rfl, rfl⟩

/-- the set-up never touches the objective, the mode, the pricing, the space dimension or `input_cs` -/
theorem ppcSetup_keeps (s s' : LPState) (b e : Nat) (h : ppcSetup s = .phase1 s' b e) :
    s'.obj = s.obj ∧ s'.maximize = s.maximize ∧ s'.external_space_dim = s.external_space_dim ∧
    s'.input_cs = s.input_cs ∧ s'.pricing = s.pricing := by
  unfold ppcSetup at h
  have hrec : (ppcRecompute s).1.obj = s.obj ∧ (ppcRecompute s).1.maximize = s.maximize ∧
      (ppcRecompute s).1.external_space_dim = s.external_space_dim ∧
      (ppcRecompute s).1.input_cs = s.input_cs ∧ (ppcRecompute s).1.pricing = s.pricing := by
    unfold ppcRecompute
    split
    · split <;> exact ⟨rfl, rfl, rfl, rfl, rfl⟩
    · exact ⟨rfl, rfl, rfl, rfl, rfl⟩
  rcases hr : ppcRecompute s with ⟨s1, lg⟩
  rw [hr] at h hrec
  simp only at h hrec
  split at h
  · cases h
  · rename_i p _
    unfold ppcBuild at h
    simp only at h
    obtain ⟨m1, m2, m3, m4, m5⟩ := ppcMerge_keeps s1 p.isRemerge
    obtain ⟨f1, f2, f3, f4, f5⟩ := ppcFill_phase1 _ _ _ _ _ _ _ _ _ h
    exact ⟨by rw [f1, m1, hrec.1], by rw [f2, m2, hrec.2.1], by rw [f3, m3, hrec.2.2.1],
      by rw [f4, m4, hrec.2.2.2.1], by rw [f5, m5, hrec.2.2.2.2]⟩

/-- **the LP answers after ANY call of `process_pending_constraints` whose set-up satisfies the three hand-over
    facts** -/
theorem lp_incremental_chain (fc : Chooser) (hfc : ChooserOK fc) (f1 f2 : Nat) (s sR s' : LPState) (b e : Nat)
    (hsetup : ppcSetup s = .phase1 s' b e) (hP : Phase1Start s' b e)
    (hG : SetupGood s.input_cs s.external_space_dim s' b)
    (hmap : ∃ nn j, MapOK s'.mapping nn s.external_space_dim j ∧ 1 + j ≤ artStart b s'.numCols)
    (hn : 0 < s.external_space_dim) (hl : ∀ c ∈ s.input_cs, c.coeffs.length ≤ s.external_space_dim)
    (hobj : s.obj.coeffs.length ≤ s.external_space_dim)
    (h : processPendingConstraints fc f1 s = some sR) :
    (sR.status = .UNSATISFIABLE ∧ ∀ x, ¬ csSem s.input_cs x) ∨
    (sR.status = .SATISFIABLE ∧ (∃ x, csSem s.input_cs x) ∧
      ∀ s2, secondPhase fc f2 sR = some s2 → LPClaims s.input_cs s.problem s2) := by
  obtain ⟨k1, k2, k3, -, -⟩ := ppcSetup_keeps s s' b e hsetup
  unfold processPendingConstraints at h
  rw [hsetup] at h
  simp only at h
  cases hrun : computeSimplexWith (chooserOf fc s'.pricing) f1 s'.tab with
  | none => rw [hrun] at h; cases h
  | some res =>
    obtain ⟨ok, t⟩ := res
    rw [hrun] at h
    simp only [Option.some.injEq] at h
    subst h
    rcases ppc_chain fc hfc f1 s.input_cs s.external_space_dim s' b e hP hG hmap ok t hrun with
      ⟨a1, a2⟩ | ⟨a1, a2, a3, a4, -, a6⟩
    · exact Or.inl ⟨a1, a2⟩
    · right
      refine ⟨a1, ready_exists _ _ _ a2, fun s2 h2 => ?_⟩
      exact secondPhase_fresh_witness fc hfc f2 s _ s2 a1 a2 (by rw [a3, k1]) (by rw [a4, k2]) (by rw [a6, k3])
        hn hl hobj h2

end PPLV.Solver.Pend

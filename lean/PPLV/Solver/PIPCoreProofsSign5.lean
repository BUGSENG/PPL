import PPLV.Solver.PIPCoreProofsSign4
import Mathlib.Tactic.Linarith
/-!
# sign family: `recomputeSigns` (PIP_Tree.cc:2695-2712) and the whole sign analysis
of one iteration put together
-/
namespace PPLV.PIPCore

/-- the loop body of `recomputeSigns`, with the two "first" indices updated independently -/
def recStepF (nd : SolNode) (st : List RowSign × Firsts) (i : Nat) : List RowSign × Firsts :=
  let si := if signGet st.1 i = .unknown ∨ signGet st.1 i = .mixed then rowSign (mrow nd.tab.t i) nd.big
            else signGet st.1 i
  (st.1.set i si,
   { neg := if si = .negative ∧ st.2.neg = none then some i else st.2.neg,
     mix := if si = .mixed ∧ st.2.mix = none then some i else st.2.mix })

theorem recomputeSigns_eq (nd : SolNode) :
    recomputeSigns nd = (List.range nd.tab.t.length).foldl (recStepF nd) (nd.sign, {}) := by
  unfold recomputeSigns
  congr 1
  funext st i
  obtain ⟨sg, ⟨neg, mix⟩⟩ := st
  simp only [recStepF]
  generalize (if signGet sg i = .unknown ∨ signGet sg i = .mixed then rowSign (mrow nd.tab.t i) nd.big
            else signGet sg i) = si
  by_cases h1 : si = .negative ∧ neg = none
  · have h2 : ¬ (si = .mixed ∧ mix = none) := by rw [h1.1]; simp
    rw [if_pos h1, if_pos h1, if_neg h2]
  · rw [if_neg h1, if_neg h1]
    by_cases h2 : si = .mixed ∧ mix = none
    · rw [if_pos h2, if_pos h2]
    · rw [if_neg h2, if_neg h2]

/-- the signs after `k` iterations -/
theorem recStepF_range (nd : SolNode) : ∀ m : Nat,
    ((List.range m).foldl (recStepF nd) (nd.sign, {})).1.length = nd.sign.length ∧
    ∀ k, signGet ((List.range m).foldl (recStepF nd) (nd.sign, {})).1 k =
      if k < m ∧ k < nd.sign.length ∧ (signGet nd.sign k = .unknown ∨ signGet nd.sign k = .mixed)
      then rowSign (mrow nd.tab.t k) nd.big else signGet nd.sign k
  | 0 => by
    refine ⟨rfl, fun k => ?_⟩
    rw [if_neg (by omega)]; rfl
  | m + 1 => by
    obtain ⟨hl, hk⟩ := recStepF_range nd m
    rw [List.range_succ, List.foldl_append]
    generalize (List.range m).foldl (recStepF nd) (nd.sign, {}) = st at hl hk
    simp only [List.foldl_cons, List.foldl_nil, recStepF]
    refine ⟨by rw [List.length_set, hl], fun k => ?_⟩
    rw [signGet_set, hl]
    have hm := hk m
    rw [if_neg (by omega)] at hm
    rw [hm]
    by_cases h1 : m = k
    · subst h1
      by_cases h2 : m < nd.sign.length
      · rw [if_pos ⟨rfl, h2⟩]
        by_cases h3 : signGet nd.sign m = .unknown ∨ signGet nd.sign m = .mixed
        · rw [if_pos h3, if_pos ⟨by omega, h2, h3⟩]
        · rw [if_neg h3, if_neg (fun h => h3 h.2.2)]
      · rw [if_neg (fun h => h2 h.2), if_neg (fun h => h2 h.2.1), hm]
    · rw [if_neg (fun h => h1 h.1), hk k]
      by_cases h3 : k < m ∧ k < nd.sign.length ∧ (signGet nd.sign k = .unknown ∨ signGet nd.sign k = .mixed)
      · rw [if_pos h3, if_pos ⟨by omega, h3.2⟩]
      · rw [if_neg h3, if_neg (fun h => h3 ⟨by omega, h.2⟩)]

/-- **`recomputeSigns`**: every sign that was `UNKNOWN` or `MIXED` is now `row_sign` of its row, the others
    are unchanged (and the list keeps its length) -/
theorem recomputeSigns_spec (nd : SolNode) :
    (recomputeSigns nd).1.length = nd.sign.length ∧
    ∀ k, signGet (recomputeSigns nd).1 k =
      if k < nd.tab.t.length ∧ k < nd.sign.length ∧
          (signGet nd.sign k = .unknown ∨ signGet nd.sign k = .mixed)
      then rowSign (mrow nd.tab.t k) nd.big else signGet nd.sign k := by
  rw [recomputeSigns_eq]; exact recStepF_range nd nd.tab.t.length

/-- **soundness of the recomputed signs** (no big parameter): signs that were true of `q` stay true, and the
    recomputed ones are true of EVERY non-negative parameter vector (`rowSign_sound`) -/
theorem recomputeSigns_sound {nd : SolNode} {n : Nat} {q : List Int} (hbig : nd.big = none)
    (hrows : ∀ k, k < nd.tab.t.length → (mrow nd.tab.t k).length = n) (hq : ParamVec n q)
    (hinv : ∀ k, SignTrue (signGet nd.sign k) (dot (mrow nd.tab.t k) q)) :
    ∀ k, SignTrue (signGet (recomputeSigns nd).1 k) (dot (mrow nd.tab.t k) q) := by
  intro k
  rw [(recomputeSigns_spec nd).2 k]
  by_cases h : k < nd.tab.t.length ∧ k < nd.sign.length ∧
      (signGet nd.sign k = .unknown ∨ signGet nd.sign k = .mixed)
  · rw [if_pos h, hbig]
    exact rowSign_sound (by rw [hrows k h.1]; exact hq)
  · rw [if_neg h]; exact hinv k

/-- after `recomputeSigns` a `MIXED` sign is the verdict of `row_sign` on the current row -/
theorem recomputeSigns_mixed {nd : SolNode} (hlen : nd.sign.length ≤ nd.tab.t.length) {k : Nat}
    (h : signGet (recomputeSigns nd).1 k = .mixed) : rowSign (mrow nd.tab.t k) nd.big = .mixed := by
  rw [(recomputeSigns_spec nd).2 k] at h
  by_cases hc : k < nd.tab.t.length ∧ k < nd.sign.length ∧
      (signGet nd.sign k = .unknown ∨ signGet nd.sign k = .mixed)
  · rw [if_pos hc] at h; exact h
  · rw [if_neg hc] at h
    have hlt := signGet_lt_of_ne_unknown (sg := nd.sign) (i := k) (by rw [h]; decide)
    exact absurd ⟨by omega, hlt, Or.inr h⟩ hc

example : (recomputeSigns exNd2).1 = [.mixed] := by decide

end PPLV.PIPCore

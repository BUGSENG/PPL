import PPLV.Solver.PendingProofsSecond
import PPLV.Solver.PendingProofsErase

/-!
# what `parse_constraints` decides about each constraint

* `ICon.holds`, `csSem`: the meaning of the constraints of `input_cs`;
* `classify_inv`: the defining conditions of the classes of the table at :624–:640;
* `trivTrue_holds`, `trivFalse_not_holds`, `nonneg_of_class`, `m7_holds_iff`: what a class says about
  the points satisfying the constraint (a variable is left unsplit only when a constraint forces it
  to be non-negative; a dropped constraint is a tautology or exactly that non-negativity);
* `tabC`, `slackC`: the outputs of `parse_constraints` as functions of the classes (`parse_spec`, in
  `PendingProofsParse`, says that they are).
-/
namespace PPLV.Solver.Pend
open PPLV.Lin PPLV.Solver.Tab

def ICon.holds (c : ICon) (x : Val) : Prop :=
  if c.isEq then dot c.coeffs x + (c.k : Rat) = 0 else 0 ≤ dot c.coeffs x + (c.k : Rat)

/-- the solution set of a list of `input_cs` constraints -/
def csSem (cs : List ICon) (x : Val) : Prop := ∀ c ∈ cs, c.holds x

theorem dot_map_neg' (as : List Int) (w : Val) : dot (as.map (- ·)) w = - dot as w := by
  induction as generalizing w with
  | nil => simp
  | cons a as ih => simp only [List.map_cons, dot_cons, ih]; push_cast; ring

/-- `csSem` is the set `sem` of the rows the reference judges (`ICon.toCons`) -/
theorem csSem_iff_Sat (cs : List ICon) (x : Val) : csSem cs x ↔ Sat (cs.flatMap ICon.toCons) x := by
  unfold csSem Sat
  constructor
  · intro h r hr
    obtain ⟨c, hc, hrc⟩ := List.mem_flatMap.mp hr
    have := h c hc
    unfold ICon.holds at this
    unfold ICon.toCons at hrc
    by_cases he : c.isEq = true
    · simp only [he, if_true] at this hrc
      simp only [eqRows, List.mem_cons, List.not_mem_nil, or_false] at hrc
      rcases hrc with rfl | rfl
      · simp only [Con.sat, Con.eval, Bool.false_eq_true, if_false]; rw [this]
      · simp only [Con.sat, Con.eval, Bool.false_eq_true, if_false, dot_map_neg']
        push_cast; linarith
    · simp only [he, Bool.false_eq_true, if_false] at this hrc
      simp only [geRow, List.mem_cons, List.not_mem_nil, or_false] at hrc
      subst hrc
      simpa [Con.sat, Con.eval] using this
  · intro h c hc
    unfold ICon.holds
    by_cases he : c.isEq = true
    · simp only [he, if_true]
      have h1 := h ⟨c.coeffs, c.k, false⟩ (List.mem_flatMap.mpr ⟨c, hc, by simp [ICon.toCons, he, eqRows]⟩)
      have h2 := h ⟨c.coeffs.map (- ·), -c.k, false⟩ (List.mem_flatMap.mpr ⟨c, hc, by simp [ICon.toCons, he, eqRows]⟩)
      simp only [Con.sat, Con.eval, Bool.false_eq_true, if_false, dot_map_neg'] at h1 h2
      push_cast at h2
      linarith
    · simp only [he, Bool.false_eq_true, if_false]
      have h1 := h ⟨c.coeffs, c.k, false⟩ (List.mem_flatMap.mpr ⟨c, hc, by simp [ICon.toCons, he, geRow]⟩)
      simpa [Con.sat, Con.eval] using h1

/-! ### rows with at most one non-zero coefficient -/

theorem firstNonzero_none {cs : List Int} (h : firstNonzero cs = none) : ∀ j, cs.getD j 0 = 0 := by
  intro j
  unfold firstNonzero at h
  by_cases hj : j < cs.length
  · have := List.find?_eq_none.mp h j (List.mem_range.mpr hj)
    simpa using this
  · rw [List.getD_eq_getElem?_getD, List.getElem?_eq_none (by omega)]; rfl

theorem firstNonzero_some {cs : List Int} {v : Nat} (h : firstNonzero cs = some v) :
    v < cs.length ∧ cs.getD v 0 ≠ 0 ∧ ∀ j, j < v → cs.getD j 0 = 0 := by
  unfold firstNonzero at h
  have h1 := List.mem_of_find?_eq_some h
  have h2 := List.find?_some h
  refine ⟨List.mem_range.mp h1, by simpa using h2, fun j hj => ?_⟩
  rw [List.find?_eq_some_iff_append] at h
  obtain ⟨-, as, bs, hab, hall⟩ := h
  -- the elements before v in `range` are exactly 0..v-1
  have hlen : as.length = v := by
    have h3 : (List.range cs.length)[as.length]? = some v := by rw [hab]; simp
    rw [List.getElem?_range (by
      have : as.length < (List.range cs.length).length := by rw [hab]; simp
      simpa using this)] at h3
    simpa using h3
  have hjm : j ∈ as := by
    have h4 : (List.range cs.length)[j]? = some j := List.getElem?_range (by have := List.mem_range.mp h1; omega)
    rw [hab, List.getElem?_append_left (by omega)] at h4
    exact List.mem_of_getElem? h4
  simpa using hall j hjm

theorem drop_any_false {cs : List Int} {v : Nat} (h : (cs.drop (v+1)).any (· != 0) = false) :
    ∀ j, v < j → cs.getD j 0 = 0 := by
  intro j hj
  by_cases hjl : j < cs.length
  · have hget : (cs.drop (v+1))[j - (v+1)]? = some (cs.getD j 0) := by
      rw [List.getElem?_drop, show v + 1 + (j - (v + 1)) = j by omega, List.getD_eq_getElem?_getD,
        List.getElem?_eq_getElem hjl]
      rfl
    have hmem : cs.getD j 0 ∈ cs.drop (v+1) := List.mem_of_getElem? hget
    have := List.any_eq_false.mp h _ hmem
    simpa using this
  · rw [List.getD_eq_getElem?_getD, List.getElem?_eq_none (by omega)]; rfl

/-- a row whose only non-zero coefficient is at `v` -/
theorem dot_single (cs : List Int) (v : Nat) (x : Val) (h : ∀ j, j ≠ v → cs.getD j 0 = 0) :
    dot cs x = ((cs.getD v 0 : Int) : Rat) * x v := by
  have key := dot_update cs x v 0
  have hz : dot cs (x.update v 0) = 0 := by
    apply dot_eq_zero_of_support
    intro j
    by_cases hj : j = v
    · right; simp [Val.update, hj]
    · left; exact h j hj
  rw [hz] at key
  linarith

/-- `Single c v`: the only non-zero coefficient of `c` is at `v` -/
def Single (c : ICon) (v : Nat) : Prop :=
  v < c.coeffs.length ∧ c.coeffs.getD v 0 ≠ 0 ∧ ∀ j, j ≠ v → c.coeffs.getD j 0 = 0

theorem single_of {c : ICon} {v : Nat} (h1 : firstNonzero c.coeffs = some v)
    (h2 : (c.coeffs.drop (v+1)).any (· != 0) = false) : Single c v := by
  obtain ⟨a, b, d⟩ := firstNonzero_some h1
  refine ⟨a, b, fun j hj => ?_⟩
  rcases Nat.lt_or_gt_of_ne hj with h | h
  · exact d j h
  · exact drop_any_false h2 j h

/-! ### the classes -/

theorem sgn_lt_zero_iff (a : Int) : sgn a < 0 ↔ a < 0 := by
  unfold sgn; split <;> (try split) <;> omega

theorem sgn_pos_iff (a : Int) : 0 < sgn a ↔ 0 < a := by
  unfold sgn; split <;> (try split) <;> omega

theorem sgn_eq_zero_iff' (a : Int) : sgn a = 0 ↔ a = 0 := sgn_eq_zero_iff a

theorem sgn_vals (a : Int) : (a < 0 ∧ sgn a = -1) ∨ (a = 0 ∧ sgn a = 0) ∨ (0 < a ∧ sgn a = 1) := by
  unfold sgn; split <;> (try split) <;> omega

/-- the decision tree of `classify` -/
theorem classify_inv (c : ICon) (cls : CClass) (v : Nat) (h : classify c = (cls, v)) :
    (firstNonzero c.coeffs = none ∧
      ((cls = .trivFalse ∧ ((!c.isEq && decide (c.k < 0)) || (c.isEq && c.k != 0)) = true) ∨
       (cls = .trivTrue ∧ ((!c.isEq && decide (c.k < 0)) || (c.isEq && c.k != 0)) = false))) ∨
    (firstNonzero c.coeffs = some v ∧
      ((cls = .many ∧ (c.coeffs.drop (v+1)).any (· != 0) = true) ∨
       ((c.coeffs.drop (v+1)).any (· != 0) = false ∧
        ((cls = .m13 ∧ sgn (c.coeffs.getD v 0) = sgn c.k) ∨
         (sgn (c.coeffs.getD v 0) ≠ sgn c.k ∧
          ((cls = .m45 ∧ c.isEq = true) ∨
           (c.isEq = false ∧
            ((cls = .m6 ∧ sgn c.k < 0) ∨
             (¬ sgn c.k < 0 ∧
              ((cls = .m7 ∧ sgn (c.coeffs.getD v 0) > 0) ∨
               (cls = .m89 ∧ ¬ sgn (c.coeffs.getD v 0) > 0))))))))))) := by
  unfold classify at h
  cases hf : firstNonzero c.coeffs with
  | none =>
    rw [hf] at h
    simp only at h
    left
    refine ⟨rfl, ?_⟩
    by_cases hb : ((!c.isEq && decide (c.k < 0)) || (c.isEq && c.k != 0)) = true
    · rw [if_pos hb] at h
      simp only [Prod.mk.injEq] at h
      left; exact ⟨h.1.symm, hb⟩
    · rw [if_neg hb] at h
      simp only [Prod.mk.injEq] at h
      right; exact ⟨h.1.symm, by simpa using hb⟩
  | some w =>
    rw [hf] at h
    simp only at h
    right
    by_cases hmany : (c.coeffs.drop (w+1)).any (· != 0) = true
    · rw [if_pos hmany] at h
      simp only [Prod.mk.injEq] at h
      obtain ⟨h1, h2⟩ := h
      subst h2
      exact ⟨rfl, Or.inl ⟨h1.symm, hmany⟩⟩
    · rw [if_neg hmany] at h
      have hm : (c.coeffs.drop (w+1)).any (· != 0) = false := by
        cases hh : (c.coeffs.drop (w+1)).any (· != 0)
        · rfl
        · exact absurd hh hmany
      by_cases h1 : (sgn (c.coeffs.getD w 0) == sgn c.k) = true
      · rw [if_pos h1] at h
        simp only [Prod.mk.injEq] at h
        obtain ⟨h3, h2⟩ := h
        subst h2
        exact ⟨rfl, Or.inr ⟨hm, Or.inl ⟨h3.symm, beq_iff_eq.mp h1⟩⟩⟩
      · rw [if_neg h1] at h
        have hne : sgn (c.coeffs.getD w 0) ≠ sgn c.k := fun he => h1 (beq_iff_eq.mpr he)
        by_cases he : c.isEq = true
        · rw [if_pos he] at h
          simp only [Prod.mk.injEq] at h
          obtain ⟨h3, h2⟩ := h
          subst h2
          exact ⟨rfl, Or.inr ⟨hm, Or.inr ⟨hne, Or.inl ⟨h3.symm, he⟩⟩⟩⟩
        · rw [if_neg he] at h
          have he' : c.isEq = false := by
            cases hh : c.isEq
            · rfl
            · exact absurd hh he
          by_cases h2 : sgn c.k < 0
          · rw [if_pos h2] at h
            simp only [Prod.mk.injEq] at h
            obtain ⟨h3, h4⟩ := h
            subst h4
            exact ⟨rfl, Or.inr ⟨hm, Or.inr ⟨hne, Or.inr ⟨he', Or.inl ⟨h3.symm, h2⟩⟩⟩⟩⟩
          · rw [if_neg h2] at h
            have h2' : ¬ sgn c.k < 0 := h2
            by_cases h5 : sgn (c.coeffs.getD w 0) > 0
            · rw [if_pos h5] at h
              simp only [Prod.mk.injEq] at h
              obtain ⟨h3, h4⟩ := h
              subst h4
              exact ⟨rfl, Or.inr ⟨hm, Or.inr ⟨hne, Or.inr ⟨he', Or.inr ⟨h2', Or.inl ⟨h3.symm, h5⟩⟩⟩⟩⟩⟩
            · rw [if_neg h5] at h
              simp only [Prod.mk.injEq] at h
              obtain ⟨h3, h4⟩ := h
              subst h4
              exact ⟨rfl, Or.inr ⟨hm, Or.inr ⟨hne, Or.inr ⟨he', Or.inr ⟨h2', Or.inr ⟨h3.symm, h5⟩⟩⟩⟩⟩⟩

/-- all coefficients zero -/
theorem classify_triv {c : ICon} {cls : CClass} {v : Nat} (h : classify c = (cls, v))
    (hc : cls = .trivTrue ∨ cls = .trivFalse) :
    (∀ j, c.coeffs.getD j 0 = 0) ∧ (cls = .trivTrue ↔ (if c.isEq then c.k = 0 else 0 ≤ c.k)) := by
  rcases classify_inv c cls v h with ⟨hf, hcase⟩ | ⟨-, hcase⟩
  · refine ⟨firstNonzero_none hf, ?_⟩
    rcases hcase with ⟨hcl, hb⟩ | ⟨hcl, hb⟩
    · subst hcl
      refine ⟨(fun h => by cases h), fun hk => ?_⟩
      exfalso
      cases he : c.isEq <;> simp [he] at hb hk <;> omega
    · subst hcl
      refine ⟨fun _ => ?_, fun _ => rfl⟩
      cases he : c.isEq <;> simp [he] at hb ⊢ <;> omega
  · exfalso
    have hcls : cls ≠ .trivTrue ∧ cls ≠ .trivFalse := by
      rcases hcase with ⟨rfl, -⟩ | ⟨-, hcase⟩
      · exact ⟨by decide, by decide⟩
      rcases hcase with ⟨rfl, -⟩ | ⟨-, hcase⟩
      · exact ⟨by decide, by decide⟩
      rcases hcase with ⟨rfl, -⟩ | ⟨-, hcase⟩
      · exact ⟨by decide, by decide⟩
      rcases hcase with ⟨rfl, -⟩ | ⟨-, hcase⟩
      · exact ⟨by decide, by decide⟩
      rcases hcase with ⟨rfl, -⟩ | ⟨rfl, -⟩
      · exact ⟨by decide, by decide⟩
      · exact ⟨by decide, by decide⟩
    rcases hc with hc | hc
    · exact hcls.1 hc
    · exact hcls.2 hc

/-- exactly one non-zero coefficient, and the sign conditions of the class -/
theorem classify_single {c : ICon} {cls : CClass} {v : Nat} (h : classify c = (cls, v))
    (hc : cls ≠ .trivTrue ∧ cls ≠ .trivFalse ∧ cls ≠ .many) :
    Single c v ∧
    (cls = .m45 → c.isEq = true ∧ sgn (c.coeffs.getD v 0) ≠ sgn c.k) ∧
    (cls = .m6 → c.isEq = false ∧ 0 < c.coeffs.getD v 0 ∧ c.k < 0) ∧
    (cls = .m7 → c.isEq = false ∧ 0 < c.coeffs.getD v 0 ∧ c.k = 0) ∧
    (cls = .m89 → c.isEq = false) := by
  rcases classify_inv c cls v h with ⟨-, ⟨rfl, -⟩ | ⟨rfl, -⟩⟩ | ⟨hf, hcase⟩
  · exact absurd rfl hc.2.1
  · exact absurd rfl hc.1
  · rcases hcase with ⟨rfl, -⟩ | ⟨hm, hcase⟩
    · exact absurd rfl hc.2.2
    · have hs := single_of hf hm
      refine ⟨hs, ?_⟩
      rcases hcase with ⟨rfl, -⟩ | ⟨hne, hcase⟩
      · exact ⟨(fun h => by cases h), (fun h => by cases h), (fun h => by cases h), fun h => by cases h⟩
      · rcases hcase with ⟨rfl, he⟩ | ⟨he, hcase⟩
        · exact ⟨fun _ => ⟨he, hne⟩, (fun h => by cases h), (fun h => by cases h), fun h => by cases h⟩
        · rcases hcase with ⟨rfl, hk⟩ | ⟨hk, hcase⟩
          · refine ⟨(fun h => by cases h), fun _ => ?_, (fun h => by cases h), fun h => by cases h⟩
            have hk' := (sgn_lt_zero_iff _).mp hk
            refine ⟨he, ?_, hk'⟩
            rcases sgn_vals (c.coeffs.getD v 0) with ⟨a1, a2⟩ | ⟨a1, a2⟩ | ⟨a1, a2⟩
            · exfalso; apply hne
              rcases sgn_vals c.k with ⟨b1, b2⟩ | ⟨b1, b2⟩ | ⟨b1, b2⟩
              · rw [a2, b2]
              · omega
              · omega
            · exact absurd a1 hs.2.1
            · exact a1
          · rcases hcase with ⟨rfl, ha⟩ | ⟨rfl, -⟩
            · refine ⟨(fun h => by cases h), (fun h => by cases h), fun _ => ?_, fun h => by cases h⟩
              have ha' := (sgn_pos_iff _).mp ha
              refine ⟨he, ha', ?_⟩
              rcases sgn_vals c.k with ⟨b1, b2⟩ | ⟨b1, b2⟩ | ⟨b1, b2⟩
              · exact absurd ((sgn_lt_zero_iff _).mpr b1) hk
              · exact b1
              · exfalso; apply hne
                rcases sgn_vals (c.coeffs.getD v 0) with ⟨a1, a2⟩ | ⟨a1, a2⟩ | ⟨a1, a2⟩
                · omega
                · omega
                · rw [a2, b2]
            · exact ⟨(fun h => by cases h), (fun h => by cases h), (fun h => by cases h), fun _ => he⟩

theorem dot_all_zero (cs : List Int) (x : Val) (h : ∀ j, cs.getD j 0 = 0) : dot cs x = 0 :=
  dot_eq_zero_of_support cs x (fun j => Or.inl (h j))

/-- a tautology holds everywhere -/
theorem trivTrue_holds {c : ICon} {v : Nat} (h : classify c = (.trivTrue, v)) (x : Val) : c.holds x := by
  obtain ⟨hz, hk⟩ := classify_triv h (Or.inl rfl)
  have hk := hk.mp rfl
  unfold ICon.holds
  rw [dot_all_zero _ x hz]
  by_cases he : c.isEq = true
  · rw [if_pos he] at hk ⊢; rw [hk]; simp
  · rw [if_neg he] at hk ⊢
    have : (0 : Rat) ≤ (c.k : Rat) := by exact_mod_cast hk
    linarith

/-- a trivially false row holds nowhere -/
theorem trivFalse_not_holds {c : ICon} {v : Nat} (h : classify c = (.trivFalse, v)) (x : Val) : ¬ c.holds x := by
  obtain ⟨hz, hk⟩ := classify_triv h (Or.inr rfl)
  have hk : ¬ (if c.isEq then c.k = 0 else 0 ≤ c.k) := fun hh => by cases hk.mpr hh
  unfold ICon.holds
  rw [dot_all_zero _ x hz]
  by_cases he : c.isEq = true
  · rw [if_pos he] at hk ⊢
    intro h0
    apply hk
    have : (c.k : Rat) = 0 := by linarith
    exact_mod_cast this
  · rw [if_neg he] at hk ⊢
    intro h0
    apply hk
    have : (0 : Rat) ≤ (c.k : Rat) := by linarith
    exact_mod_cast this

/-- the classes that make `parse_constraints` leave a variable unsplit force it to be non-negative -/
def forcesNonneg : CClass → Bool
  | .m45 | .m6 | .m7 => true
  | _ => false

theorem forcesNonneg_ne {cls : CClass} (hf : forcesNonneg cls = true) :
    cls ≠ .trivTrue ∧ cls ≠ .trivFalse ∧ cls ≠ .many := by
  cases cls <;> simp [forcesNonneg] at hf ⊢

theorem nonneg_of_class {c : ICon} {cls : CClass} {v : Nat} (h : classify c = (cls, v)) (hf : forcesNonneg cls = true)
    (x : Val) (hx : c.holds x) : 0 ≤ x v := by
  obtain ⟨hs, h45, h6, h7, -⟩ := classify_single h (forcesNonneg_ne hf)
  unfold ICon.holds at hx
  have ha := hs.2.1
  have haq : ((c.coeffs.getD v 0 : Int) : Rat) ≠ 0 := by exact_mod_cast ha
  rw [dot_single _ v x hs.2.2] at hx
  cases cls <;> simp only [forcesNonneg] at hf <;> try cases hf
  · -- m45: a x + k = 0, signs of a and k differ
    obtain ⟨he, hne⟩ := h45 rfl
    rw [if_pos he] at hx
    have hxv : x v = -(c.k : Rat) / ((c.coeffs.getD v 0 : Int) : Rat) := by
      field_simp; linarith
    rw [hxv]
    rcases sgn_vals (c.coeffs.getD v 0) with ⟨a1, a2⟩ | ⟨a1, a2⟩ | ⟨a1, a2⟩
    · have hk : 0 ≤ c.k := by
        rcases sgn_vals c.k with ⟨b1, b2⟩ | ⟨b1, b2⟩ | ⟨b1, b2⟩
        · exact absurd (a2.trans b2.symm) hne
        · omega
        · omega
      apply div_nonneg_of_nonpos
      · have : (0 : Rat) ≤ (c.k : Rat) := by exact_mod_cast hk
        linarith
      · exact_mod_cast le_of_lt a1
    · exact absurd a1 ha
    · have hk : c.k ≤ 0 := by
        rcases sgn_vals c.k with ⟨b1, b2⟩ | ⟨b1, b2⟩ | ⟨b1, b2⟩
        · omega
        · omega
        · exact absurd (a2.trans b2.symm) hne
      apply div_nonneg
      · have : (c.k : Rat) ≤ 0 := by exact_mod_cast hk
        linarith
      · exact_mod_cast le_of_lt a1
  · -- m6: a x + k ≥ 0, a > 0, k < 0
    obtain ⟨he, hapos, hk⟩ := h6 rfl
    rw [he] at hx
    simp only [Bool.false_eq_true, if_false] at hx
    have haq' : (0 : Rat) < ((c.coeffs.getD v 0 : Int) : Rat) := by exact_mod_cast hapos
    have hkq : (c.k : Rat) < 0 := by exact_mod_cast hk
    by_contra hneg
    have : x v < 0 := not_le.mp hneg
    nlinarith
  · -- m7: a x ≥ 0, a > 0
    obtain ⟨he, hapos, hk⟩ := h7 rfl
    rw [he] at hx
    simp only [Bool.false_eq_true, if_false] at hx
    rw [hk] at hx
    have haq' : (0 : Rat) < ((c.coeffs.getD v 0 : Int) : Rat) := by exact_mod_cast hapos
    by_contra hneg
    have : x v < 0 := not_le.mp hneg
    push_cast at hx
    nlinarith

/-- a dropped constraint of class 7 says exactly `x_v ≥ 0` -/
theorem m7_holds_iff {c : ICon} {v : Nat} (h : classify c = (.m7, v)) (x : Val) : c.holds x ↔ 0 ≤ x v := by
  constructor
  · exact nonneg_of_class h rfl x
  · intro hx
    obtain ⟨hs, -, -, h7, -⟩ := classify_single h (forcesNonneg_ne (cls := .m7) rfl)
    obtain ⟨he, ha, hk⟩ := h7 rfl
    unfold ICon.holds
    rw [he]
    simp only [Bool.false_eq_true, if_false]
    rw [dot_single _ v x hs.2.2, hk]
    have haq : (0 : Rat) < ((c.coeffs.getD v 0 : Int) : Rat) := by exact_mod_cast ha
    push_cast
    have := mul_nonneg (le_of_lt haq) hx
    linarith

theorem class_var_lt {c : ICon} {cls : CClass} {v : Nat} (h : classify c = (cls, v)) (hf : forcesNonneg cls = true) :
    v < c.coeffs.length :=
  (classify_single h (forcesNonneg_ne hf)).1.1

/-- a constraint enters the tableau unless it is a tautology or of class 7 -/
def tabC (c : ICon) : Bool :=
  match (classify c).1 with
  | .trivTrue | .m7 => false
  | _ => true

/-- … and gets a slack column when it is an inequality -/
def slackC (c : ICon) : Bool := tabC c && !c.isEq

end PPLV.Solver.Pend

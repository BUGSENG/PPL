import PPLV.Solver.PIPCoreProofsMain1
import PPLV.Solver.PIPCoreProofsNode2
import PPLV.Solver.PIPCoreProofsTree
/-!
# end-to-end: every step of the main loop keeps the invariant

`StepFacts` lists the facts about the pivot's sign bookkeeping, the rational reading and the assembled tree
that are proved in the families `Pivot12..`, `Tree..`; `PIPCoreProofsMain6.lean` instantiates it.
-/
namespace PPLV.PIPCore

attribute [local irreducible] LexPos

/-- the invariant with the premise of `sgn` phrased on the node's own constraints -/
structure Inv' (S : List Int → Prop) (n0 : Nat) (nd : SolNode) (ctx : Mat) : Prop where
  wf : WF nd
  lex : LexPos nd
  big : nd.big = none
  arts : ArtsWF n0 nd.arts
  nt_eq : n0 + nd.arts.length = nd.tab.nt
  n0_pos : 0 < n0
  ctx_len : ∀ r ∈ ctx, r.length = nd.tab.nt
  cons_len : RowsLe nd.cons nd.tab.nt
  pv : ∀ qpre, S qpre → ParamVec n0 qpre
  pvq : ∀ qpre, S qpre → ParamVec nd.tab.nt (extendArts nd.arts qpre)
  rel : ∀ qpre, S qpre → consHold nd.cons (extendArts nd.arts qpre) = true →
    CtxSat ctx (extendArts nd.arts qpre)
  sgn : ∀ qpre, S qpre → consHold nd.cons (extendArts nd.arts qpre) = true →
    SignAt nd (extendArts nd.arts qpre)
  int : ∀ qpre, S qpre → IntInv nd (extendArts nd.arts qpre)

structure StepFacts : Prop where
  pivot_signweak : ∀ {nd : SolNode}, WF nd → ∀ {pi pj : Nat}, pi < nd.tab.s.length → pj < nd.tab.ns →
    0 < mget nd.tab.s pi pj → ∀ {q : List Int}, ParamVec nd.tab.nt q → SignAt nd q → SignAt (pivot nd pi pj) q
  pivot_intinv : ∀ {nd : SolNode}, WF nd → ∀ {pi pj : Nat}, pi < nd.tab.s.length → pj < nd.tab.ns →
    0 < mget nd.tab.s pi pj → ∀ {q : List Int}, q.length = nd.tab.nt → IntInv nd q → IntInv (pivot nd pi pj) q
  normalize_intinv : ∀ {nd : SolNode}, WF nd → ∀ {q : List Int}, IntInv nd q →
    IntInv { nd with tab := nd.tab.normalize } q
  assemble_some : ∀ (aps : List ArtP) (cs : List Row) (tTest fTest : Row) (tN fN : Option CTree)
    (qpre q : List Int) (x : List Int), q = extendArts aps qpre → RowsLe cs q.length →
    tTest.length ≤ q.length → fTest.length ≤ q.length →
    ((0 ≤ dot fTest q) ↔ ¬ (0 ≤ dot tTest q)) →
    evalRes (assemble aps cs tTest fTest tN fN) qpre = some x →
    consHold cs q = true ∧ ((0 ≤ dot tTest q ∧ evalRes tN q = some x) ∨ (0 ≤ dot fTest q ∧ evalRes fN q = some x))

/-! ### the sign analysis -/

theorem inv_sign {cc : Mat → Option Bool} (hcc : CCContract cc) {S : List Int → Prop} {n0 : Nat}
    {nd : SolNode} {ctx : Mat} (h : Inv' S n0 nd ctx) {sg : List RowSign} {fs : Firsts}
    (hs : signAnalysis cc nd ctx = some (sg, fs)) : Inv' S n0 { nd with sign := sg } ctx :=
  { h with
    wf := wf_congr (nd := nd) rfl rfl rfl rfl rfl (signAnalysis_length hs) h.wf
    lex := lexpos_of_same_tableau nd _ rfl rfl rfl h.lex
    sgn := fun qpre hq hc =>
      signAt_analysis hcc h.wf h.big h.ctx_len hs (h.pvq qpre hq) (h.rel qpre hq hc) (h.sgn qpre hq hc)
    int := fun qpre hq => intInv_congr rfl rfl rfl rfl (h.int qpre hq) }

/-! ### the pivot step -/

theorem inv_pivot (F : StepFacts) {S : List Int → Prop} {n0 : Nat} {nd : SolNode} {ctx : Mat}
    (h : Inv' S n0 nd ctx) {pi pj : Nat} (hpi : pi < nd.tab.s.length)
    (hf : findLexicoMinimalColumn nd.tab.s nd.mapping nd.basis (mrow nd.tab.s pi) 0 = some pj) :
    Inv' S n0 (pivot nd pi pj) ctx ∧
      ∀ qpre, S qpre → ∀ x, IsLexMin (pivot nd pi pj) (extendArts nd.arts qpre) x →
        IsLexMin nd (extendArts nd.arts qpre) x := by
  obtain ⟨hpj, hpos⟩ := flmc_positive nd pi pj h.wf hpi hf
  have hpos' : 0 < mget nd.tab.normalize.s pi pj := (normalize_sign h.wf pi pj).mpr hpos
  obtain ⟨f, hs⟩ := pivot_spec h.wf hpi hpj hpos'
  have hnt : (pivot nd pi pj).tab.nt = nd.tab.nt := by
    rw [hs.shape.2.2.2]; exact (normalize_shape nd.tab).2.2.2
  have hns : (pivot nd pi pj).tab.ns = nd.tab.ns := by
    rw [hs.shape.2.2.1]; exact (normalize_shape nd.tab).2.2.1
  have hfeas := fun (q : List Int) (hq : q.length = nd.tab.nt) => pivot_feasible h.wf hpi hpj hpos' hq
  have hwf := pivot_wf h.wf hpi hpj hpos'
  have hlex := solve_pivot_lexpos nd _ pi pj f h.wf h.lex hpi hf (normalize_wf h.wf) hs
  have hsgn := fun (q : List Int) hq hs => F.pivot_signweak (q := q) h.wf hpi hpj hpos hq hs
  have hint := fun (q : List Int) hq hI => F.pivot_intinv (q := q) h.wf hpi hpj hpos hq hI
  -- from here on the pivoted node is a variable with the same `arts`, `cons`, `big`, `nt`, `ns`
  have ea := pivot_arts nd pi pj
  have ec := pivot_cons nd pi pj
  have eb := pivot_big nd pi pj
  generalize pivot nd pi pj = nd' at *
  refine ⟨{ wf := hwf
            lex := hlex
            big := eb ▸ h.big
            arts := ea ▸ h.arts
            nt_eq := by rw [hnt, ea]; exact h.nt_eq
            n0_pos := h.n0_pos
            ctx_len := by rw [hnt]; exact h.ctx_len
            cons_len := by rw [hnt, ec]; exact h.cons_len
            pv := h.pv
            pvq := by rw [hnt, ea]; exact h.pvq
            rel := by rw [ea, ec]; exact h.rel
            sgn := by rw [ea, ec]; exact fun qpre hq hc => hsgn _ (h.pvq qpre hq) (h.sgn qpre hq hc)
            int := by rw [ea]; exact fun qpre hq => hint _ (h.pvq qpre hq).1 (h.int qpre hq) }, ?_⟩
  intro qpre hq x hx
  exact isLexMin_of_feasible_iff hns (fun v => (hfeas _ (h.pvq qpre hq).1 v).symm) hx

/-! ### the tautology step -/

theorem findBestI_spec (T : Tableau) (sg : List RowSign) :
    ∀ (is : List Nat) (st : Option (Nat × Int)) (i : Nat) (sc : Int),
      (∀ a b, st = some (a, b) → signGet sg a = .mixed) →
      findBestI T sg is st = some (i, sc) → signGet sg i = .mixed := by
  intro is
  induction is with
  | nil =>
    intro st i sc hst h
    simp only [findBestI] at h
    exact hst i sc h
  | cons a is ih =>
    intro st i sc hst h
    by_cases hm : signGet sg a ≠ .mixed
    · rw [findBestI, if_pos hm] at h
      exact ih st i sc hst h
    · rw [findBestI, if_neg hm] at h
      have hm' : signGet sg a = .mixed := by
        by_contra hc; exact hm hc
      have hnew : ∀ (s : Int) a' b, (some (a, s) : Option (Nat × Int)) = some (a', b) →
          signGet sg a' = .mixed := by
        intro s a' b hab
        injection hab with hab
        injection hab with ha _
        subst ha
        exact hm'
      dsimp only at h
      split at h
      · exact ih _ i sc (hnew _) h
      · split at h
        · exact ih _ i sc (hnew _) h
        · exact ih _ i sc hst h

/-- the search for a mixed row without positive coefficient is `findBestI` on the rows without positive
    coefficient -/
theorem findINeg_eq (T : Tableau) (sg : List RowSign) : ∀ (is : List Nat) (st : Option (Nat × Int)),
    findINeg T sg is st = findBestI T sg (is.filter fun i => !hasPositive (mrow T.s i)) st
  | [], _ => rfl
  | a :: is, st => by
    have ih := findINeg_eq T sg is
    rw [findINeg, List.filter_cons]
    cases hp : hasPositive (mrow T.s a) with
    | true => simp only [Bool.not_true, Bool.false_eq_true, if_false, if_true, ite_self, ih]
    | false => simp only [Bool.not_false, Bool.false_eq_true, if_false, if_true, findBestI, ih]

theorem findINeg_spec (T : Tableau) (sg : List RowSign) (is : List Nat) (st : Option (Nat × Int)) (i : Nat)
    (sc : Int) (hst : ∀ a b, st = some (a, b) → signGet sg a = .mixed)
    (h : findINeg T sg is st = some (i, sc)) : signGet sg i = .mixed :=
  findBestI_spec T sg _ st i sc hst (findINeg_eq T sg is st ▸ h)

theorem signGet_mixed_lt {sg : List RowSign} {i : Nat} (h : signGet sg i = .mixed) : i < sg.length :=
  signGet_lt_of_ne_unknown (sg := sg) (i := i) (by rw [h]; decide)

end PPLV.PIPCore

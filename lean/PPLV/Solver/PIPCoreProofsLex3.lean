import PPLV.Solver.PIPCoreProofsLex2
import Mathlib.Tactic.Linarith
import Mathlib.Tactic.Ring
/-!
# the lexicographic invariant: `find_lexico_minimal_column` computes a
lexico-minimal column (`flmc_lexmin`, code level) and `flmc_positive`.

The candidate list is filtered by the rows of the full matrix in variable order; one filtering step keeps
exactly the candidates `c` whose ratio `row[c] / pivot_row[c]` is minimal (`Lex.ScanInv`).
-/
namespace PPLV.PIPCore

/-! ### cross-multiplied comparisons of ratios -/

theorem Lex.cross_lt (pm pr pc xm xr xc : Int) (hm : 0 < pm) (hr : 0 < pr)
    (e : pm * xr = pr * xm) (h : pc * xm < pm * xc) : pc * xr < pr * xc := by
  have h1 : pr * (pc * xm) < pr * (pm * xc) := mul_lt_mul_of_pos_left h hr
  have h2 : pm * (pc * xr) < pm * (pr * xc) := by
    calc pm * (pc * xr) = pc * (pm * xr) := by ring
      _ = pr * (pc * xm) := by rw [e]; ring
      _ < pr * (pm * xc) := h1
      _ = pm * (pr * xc) := by ring
  exact lt_of_mul_lt_mul_left h2 (le_of_lt hm)

theorem Lex.cross_eq (pm pr pc xm xr xc : Int) (hm : 0 < pm)
    (e : pm * xr = pr * xm) (h : pc * xm = pm * xc) : pc * xr = pr * xc := by
  have h2 : pm * (pc * xr) = pm * (pr * xc) := by
    calc pm * (pc * xr) = pc * (pm * xr) := by ring
      _ = pr * (pc * xm) := by rw [e]; ring
      _ = pr * (pm * xc) := by rw [h]
      _ = pm * (pr * xc) := by ring
  exact Int.eq_of_mul_eq_mul_left (by omega) h2

theorem Lex.cross_lt2 (pm pc pc' xm xc xc' : Int) (hm : 0 < pm) (hc : 0 < pc) (hc' : 0 < pc')
    (h1 : pm * xc < pc * xm) (h2 : pc' * xm ≤ pm * xc') : pc' * xc < pc * xc' := by
  have a1 : pc' * (pm * xc) < pc' * (pc * xm) := mul_lt_mul_of_pos_left h1 hc'
  have a2 : pc * (pc' * xm) ≤ pc * (pm * xc') := mul_le_mul_of_nonneg_left h2 (le_of_lt hc)
  have h3 : pm * (pc' * xc) < pm * (pc * xc') := by
    calc pm * (pc' * xc) = pc' * (pm * xc) := by ring
      _ < pc' * (pc * xm) := a1
      _ = pc * (pc' * xm) := by ring
      _ ≤ pc * (pm * xc') := a2
      _ = pm * (pc * xc') := by ring
  exact lt_of_mul_lt_mul_left h3 (le_of_lt hm)

/-! ### the invariant of one filtering scan -/

/-- `P`: the candidates seen so far, `m` = `min_column`, `acc` = `new_candidates`:
    `acc` are exactly the members of `P` whose ratio `x / p` is minimal, and `m` is one of them -/
def Lex.ScanInv (p x : Nat → Int) (P : List Nat) (m : Nat) (acc : List Nat) : Prop :=
  m ∈ acc ∧ 0 < p m ∧ (∀ c ∈ P, 0 < p c) ∧
  (∀ r ∈ acc, r ∈ P ∧ p m * x r = p r * x m) ∧
  (∀ c ∈ P, p c * x m < p m * x c ∨ (p c * x m = p m * x c ∧ c ∈ acc))

theorem Lex.ScanInv.init (p x : Nat → Int) (c0 : Nat) (h : 0 < p c0) : Lex.ScanInv p x [c0] c0 [c0] := by
  refine ⟨by simp, h, ?_, ?_, ?_⟩
  · intro c hc; simp only [List.mem_singleton] at hc; subst hc; exact h
  · intro r hr; simp only [List.mem_singleton] at hr; subst hr; exact ⟨by simp, rfl⟩
  · intro c hc; simp only [List.mem_singleton] at hc; subst hc; exact Or.inr ⟨rfl, by simp⟩

/-- what the invariant says about every kept candidate -/
theorem Lex.ScanInv.final {p x : Nat → Int} {P : List Nat} {m : Nat} {acc : List Nat}
    (h : Lex.ScanInv p x P m acc) :
    ∀ r ∈ acc, r ∈ P ∧ ∀ c ∈ P, p c * x r < p r * x c ∨ (p c * x r = p r * x c ∧ c ∈ acc) := by
  obtain ⟨_, hm, hP, hacc, hall⟩ := h
  intro r hr
  obtain ⟨hrP, hre⟩ := hacc r hr
  refine ⟨hrP, fun c hc => ?_⟩
  rcases hall c hc with h | ⟨h, hca⟩
  · exact Or.inl (Lex.cross_lt _ _ _ _ _ _ hm (hP r hrP) hre h)
  · exact Or.inr ⟨Lex.cross_eq _ _ _ _ _ _ hm hre h, hca⟩

/-- the scan for a variable that is not in base -/
theorem Lex.rowScan_inv (pivotRow row : Row) :
    ∀ (cs P : List Nat) (m : Nat) (acc : List Nat),
      Lex.ScanInv (rget pivotRow) (rget row) P m acc → (∀ c ∈ cs, 0 < rget pivotRow c) →
      ∃ m' acc', flmcRowScan pivotRow row cs (m, rget pivotRow m, rget row m, acc)
          = (m', rget pivotRow m', rget row m', acc')
        ∧ Lex.ScanInv (rget pivotRow) (rget row) (P ++ cs) m' acc'
  | [], P, m, acc, h, _ => ⟨m, acc, rfl, by rw [List.append_nil]; exact h⟩
  | c :: cs, P, m, acc, h, hcs => by
    obtain ⟨hma, hm, hP, hacc, hall⟩ := h
    have hc : 0 < rget pivotRow c := hcs c (by simp)
    have hcs' : ∀ c' ∈ cs, 0 < rget pivotRow c' := fun c' h' => hcs c' (by simp [h'])
    have hP' : ∀ c' ∈ P ++ [c], 0 < rget pivotRow c' := by
      intro c' h'
      rcases List.mem_append.mp h' with h' | h'
      · exact hP c' h'
      · simp only [List.mem_singleton] at h'; subst h'; exact hc
    rw [List.append_cons]
    unfold flmcRowScan
    simp only []
    by_cases heq : rget pivotRow m * rget row c = rget pivotRow c * rget row m
    · rw [if_pos heq]
      apply Lex.rowScan_inv pivotRow row cs (P ++ [c]) m (c :: acc) _ hcs'
      refine ⟨by simp [hma], hm, hP', ?_, ?_⟩
      · intro r hr
        rcases List.mem_cons.mp hr with hr | hr
        · subst hr; exact ⟨by simp, heq⟩
        · exact ⟨by simp [(hacc r hr).1], (hacc r hr).2⟩
      · intro c' h'
        rcases List.mem_append.mp h' with h' | h'
        · rcases hall c' h' with h'' | ⟨h'', h3⟩
          · exact Or.inl h''
          · exact Or.inr ⟨h'', by simp [h3]⟩
        · simp only [List.mem_singleton] at h'; subst h'
          exact Or.inr ⟨heq.symm, by simp⟩
    · rw [if_neg heq]
      by_cases hlt : rget pivotRow m * rget row c < rget pivotRow c * rget row m
      · rw [if_pos hlt]
        apply Lex.rowScan_inv pivotRow row cs (P ++ [c]) c [c] _ hcs'
        refine ⟨by simp, hc, hP', ?_, ?_⟩
        · intro r hr; simp only [List.mem_singleton] at hr; subst hr; exact ⟨by simp, rfl⟩
        · intro c' h'
          rcases List.mem_append.mp h' with h' | h'
          · left
            have hle : rget pivotRow c' * rget row m ≤ rget pivotRow m * rget row c' := by
              rcases hall c' h' with h'' | ⟨h'', _⟩
              · exact le_of_lt h''
              · exact le_of_eq h''
            exact Lex.cross_lt2 _ _ _ _ _ _ hm hc (hP c' h') hlt hle
          · simp only [List.mem_singleton] at h'; subst h'
            exact Or.inr ⟨rfl, by simp⟩
      · rw [if_neg hlt]
        apply Lex.rowScan_inv pivotRow row cs (P ++ [c]) m acc _ hcs'
        refine ⟨hma, hm, hP', ?_, ?_⟩
        · intro r hr
          exact ⟨by simp [(hacc r hr).1], (hacc r hr).2⟩
        · intro c' h'
          rcases List.mem_append.mp h' with h' | h'
          · exact hall c' h'
          · simp only [List.mem_singleton] at h'; subst h'
            left
            rcases lt_trichotomy (rget pivotRow m * rget row c') (rget pivotRow c' * rget row m)
              with h1 | h1 | h1
            · exact absurd h1 hlt
            · exact absurd h1 heq
            · exact h1

/-- the unit row of a column variable, as a function of the column -/
def Lex.unitVal (ri : Nat) (den : Int) (c : Nat) : Int := if c = ri then den else 0

/-- the scan for a variable that is in base: it reconstitutes the unit row `den * e_ri` -/
theorem Lex.baseScan_inv (pivotRow : Row) (ri : Nat) (den : Int) (hden : 0 < den) :
    ∀ (cs P : List Nat) (m : Nat) (sijb : Int) (acc : List Nat),
      Lex.ScanInv (rget pivotRow) (Lex.unitVal ri den) P m acc → (∀ c ∈ cs, 0 < rget pivotRow c) →
      ∃ m' sijb' acc', flmcBaseScan pivotRow ri cs (m, sijb, acc) = (m', sijb', acc')
        ∧ Lex.ScanInv (rget pivotRow) (Lex.unitVal ri den) (P ++ cs) m' acc'
  | [], P, m, sijb, acc, h, _ => ⟨m, sijb, acc, rfl, by rw [List.append_nil]; exact h⟩
  | c :: cs, P, m, sijb, acc, h, hcs => by
    obtain ⟨hma, hm, hP, hacc, hall⟩ := h
    have hc : 0 < rget pivotRow c := hcs c (by simp)
    have hcs' : ∀ c' ∈ cs, 0 < rget pivotRow c' := fun c' h' => hcs c' (by simp [h'])
    have hP' : ∀ c' ∈ P ++ [c], 0 < rget pivotRow c' := by
      intro c' h'
      rcases List.mem_append.mp h' with h' | h'
      · exact hP c' h'
      · simp only [List.mem_singleton] at h'; subst h'; exact hc
    rw [List.append_cons]
    unfold flmcBaseScan
    simp only []
    by_cases hric : ri = c
    · -- the candidate is the column of the variable itself: positive ratio, dropped
      rw [if_neg (by simpa using hric)]
      apply Lex.baseScan_inv pivotRow ri den hden cs (P ++ [c]) m sijb acc _ hcs'
      refine ⟨hma, hm, hP', ?_, ?_⟩
      · intro r hr
        exact ⟨by simp [(hacc r hr).1], (hacc r hr).2⟩
      · intro c' h'
        rcases List.mem_append.mp h' with h' | h'
        · exact hall c' h'
        · simp only [List.mem_singleton] at h'; subst h'
          by_cases hmr : m = ri
          · right
            rw [hmr, hric]
            exact ⟨rfl, by rw [← hric, ← hmr]; exact hma⟩
          · left
            have e1 : Lex.unitVal ri den m = 0 := by unfold Lex.unitVal; rw [if_neg hmr]
            have e2 : Lex.unitVal ri den c' = den := by unfold Lex.unitVal; rw [if_pos hric.symm]
            rw [e1, e2, mul_zero]
            exact mul_pos hm hden
    · rw [if_pos hric]
      have ec : Lex.unitVal ri den c = 0 := by
        unfold Lex.unitVal; rw [if_neg (fun e => hric e.symm)]
      by_cases hmr : ri = m
      · -- the minimum so far was the column of the variable: `c` is strictly smaller
        rw [if_pos hmr]
        apply Lex.baseScan_inv pivotRow ri den hden cs (P ++ [c]) c _ [c] _ hcs'
        refine ⟨by simp, hc, hP', ?_, ?_⟩
        · intro r hr; simp only [List.mem_singleton] at hr; subst hr; exact ⟨by simp, rfl⟩
        · intro c' h'
          rcases List.mem_append.mp h' with h' | h'
          · left
            have em : Lex.unitVal ri den m = den := by unfold Lex.unitVal; rw [if_pos hmr.symm]
            have hpos : 0 < Lex.unitVal ri den c' := by
              have hc' := hP c' h'
              have hle : rget pivotRow c' * den ≤ rget pivotRow m * Lex.unitVal ri den c' := by
                rcases hall c' h' with h'' | ⟨h'', _⟩
                · rw [em] at h''; exact le_of_lt h''
                · rw [em] at h''; exact le_of_eq h''
              have : 0 < rget pivotRow c' * den := mul_pos hc' hden
              by_contra hn
              have : rget pivotRow m * Lex.unitVal ri den c' ≤ 0 :=
                Int.mul_nonpos_of_nonneg_of_nonpos (le_of_lt hm) (not_lt.mp hn)
              omega
            rw [ec, mul_zero]
            exact mul_pos hc hpos
          · simp only [List.mem_singleton] at h'; subst h'
            exact Or.inr ⟨rfl, by simp⟩
      · -- both have ratio 0
        rw [if_neg hmr]
        have em : Lex.unitVal ri den m = 0 := by
          unfold Lex.unitVal; rw [if_neg (fun e => hmr e.symm)]
        apply Lex.baseScan_inv pivotRow ri den hden cs (P ++ [c]) m sijb (c :: acc) _ hcs'
        refine ⟨by simp [hma], hm, hP', ?_, ?_⟩
        · intro r hr
          rcases List.mem_cons.mp hr with hr | hr
          · subst hr; exact ⟨by simp, by rw [ec, em, mul_zero, mul_zero]⟩
          · exact ⟨by simp [(hacc r hr).1], (hacc r hr).2⟩
        · intro c' h'
          rcases List.mem_append.mp h' with h' | h'
          · rcases hall c' h' with h'' | ⟨h'', h3⟩
            · exact Or.inl h''
            · exact Or.inr ⟨h'', by simp [h3]⟩
          · simp only [List.mem_singleton] at h'; subst h'
            exact Or.inr ⟨by rw [ec, em, mul_zero, mul_zero], by simp⟩

/-! ### one filtering step, and the whole filtering -/

/-- the `new_candidates` of one iteration of `find_lexico_minimal_column_in_set` -/
def Lex.flmcStep (tableau : Mat) (mapping : List Nat) (basis : List Bool) (pivotRow : Row)
    (varIndex c0 : Nat) (rest : List Nat) : List Nat :=
  if boolGet basis varIndex then
    (flmcBaseScan pivotRow (natGet mapping varIndex) rest (c0, rget pivotRow c0, [c0])).2.2.reverse
  else
    (flmcRowScan pivotRow (mrow tableau (natGet mapping varIndex)) rest
      (c0, rget pivotRow c0, rget (mrow tableau (natGet mapping varIndex)) c0, [c0])).2.2.2.reverse

theorem Lex.flmcInSet_step (tableau : Mat) (mapping : List Nat) (basis : List Bool) (pivotRow : Row)
    (fuel k c0 c1 : Nat) (rest : List Nat) :
    flmcInSet tableau mapping basis pivotRow (fuel + 1) k (c0 :: c1 :: rest)
      = flmcInSet tableau mapping basis pivotRow fuel (k + 1)
          (Lex.flmcStep tableau mapping basis pivotRow k c0 (c1 :: rest)) := by
  rw [flmcInSet]
  · rfl
  · intro h; cases h

/-- one step keeps exactly the candidates with minimal ratio on the full row of variable `k` -/
theorem Lex.flmcStep_spec (nd : SolNode) (pivotRow : Row) (hden : 0 < nd.tab.den) (k c0 : Nat)
    (rest : List Nat) (hC : ∀ c ∈ c0 :: rest, c < nd.tab.ns ∧ 0 < rget pivotRow c) :
    ∀ r ∈ Lex.flmcStep nd.tab.s nd.mapping nd.basis pivotRow k c0 rest,
      r ∈ c0 :: rest ∧ ∀ c ∈ c0 :: rest,
        rget pivotRow c * rget (fullRow nd k) r < rget pivotRow r * rget (fullRow nd k) c
        ∨ (rget pivotRow c * rget (fullRow nd k) r = rget pivotRow r * rget (fullRow nd k) c
            ∧ c ∈ Lex.flmcStep nd.tab.s nd.mapping nd.basis pivotRow k c0 rest) := by
  have h0 : 0 < rget pivotRow c0 := (hC c0 (by simp)).2
  have hrest : ∀ c ∈ rest, 0 < rget pivotRow c := fun c hc => (hC c (by simp [hc])).2
  unfold Lex.flmcStep fullRow
  cases hb : boolGet nd.basis k with
  | true =>
    simp only [if_true]
    obtain ⟨m', s', acc', he, hinv⟩ := Lex.baseScan_inv pivotRow (natGet nd.mapping k) nd.tab.den hden
      rest [c0] c0 (rget pivotRow c0) [c0] (Lex.ScanInv.init _ _ c0 h0) hrest
    rw [he]
    simp only [List.singleton_append] at hinv
    intro r hr
    obtain ⟨hrP, hrall⟩ := hinv.final r (List.mem_reverse.mp hr)
    refine ⟨hrP, fun c hc => ?_⟩
    rw [rget_unit _ (hC r hrP).1, rget_unit _ (hC c hc).1]
    rcases hrall c hc with h | ⟨h, h'⟩
    · exact Or.inl h
    · exact Or.inr ⟨h, List.mem_reverse.mpr h'⟩
  | false =>
    simp only [Bool.false_eq_true, if_false]
    obtain ⟨m', acc', he, hinv⟩ := Lex.rowScan_inv pivotRow (mrow nd.tab.s (natGet nd.mapping k))
      rest [c0] c0 [c0] (Lex.ScanInv.init _ _ c0 h0) hrest
    rw [he]
    simp only [List.singleton_append] at hinv
    intro r hr
    obtain ⟨hrP, hrall⟩ := hinv.final r (List.mem_reverse.mp hr)
    refine ⟨hrP, fun c hc => ?_⟩
    rcases hrall c hc with h | ⟨h, h'⟩
    · exact Or.inl h
    · exact Or.inr ⟨h, List.mem_reverse.mpr h'⟩

theorem Lex.lexLeScaled_refl (a : Int) (j : Nat) : ∀ rows : List Row, LexLeScaled rows a j a j
  | [] => trivial
  | _ :: rs => Or.inr ⟨rfl, Lex.lexLeScaled_refl a j rs⟩

/-- the successive filtering: every survivor is lexico-minimal among the candidates on the rows of the
    variables `k .. k+fuel-1` -/
theorem Lex.flmcInSet_spec (nd : SolNode) (pivotRow : Row) (hden : 0 < nd.tab.den) :
    ∀ (fuel k : Nat) (C : List Nat), (∀ c ∈ C, c < nd.tab.ns ∧ 0 < rget pivotRow c) →
    ∀ r ∈ flmcInSet nd.tab.s nd.mapping nd.basis pivotRow fuel k C,
      r ∈ C ∧ ∀ c ∈ C, LexLeScaled ((List.range' k fuel).map (fullRow nd))
        (rget pivotRow c) r (rget pivotRow r) c
  | 0, k, C, _, r, hr => by
    rw [flmcInSet] at hr
    exact ⟨hr, fun c _ => trivial⟩
  | fuel + 1, k, [], _, r, hr => by
    rw [flmcInSet] at hr; cases hr
  | fuel + 1, k, [c], _, r, hr => by
    rw [flmcInSet] at hr
    simp only [List.mem_singleton] at hr
    subst hr
    refine ⟨by simp, fun c hc => ?_⟩
    simp only [List.mem_singleton] at hc
    subst hc
    exact Lex.lexLeScaled_refl _ _ _
  | fuel + 1, k, c0 :: c1 :: rest, hC, r, hr => by
    rw [Lex.flmcInSet_step] at hr
    have hstep := Lex.flmcStep_spec nd pivotRow hden k c0 (c1 :: rest) hC
    have hnew : ∀ c ∈ Lex.flmcStep nd.tab.s nd.mapping nd.basis pivotRow k c0 (c1 :: rest),
        c < nd.tab.ns ∧ 0 < rget pivotRow c := fun c hc => hC c (hstep c hc).1
    obtain ⟨hrn, hrall⟩ := Lex.flmcInSet_spec nd pivotRow hden fuel (k + 1) _ hnew r hr
    obtain ⟨hrC, hrstep⟩ := hstep r hrn
    refine ⟨hrC, fun c hc => ?_⟩
    show LexLeScaled (fullRow nd k :: (List.range' (k + 1) fuel).map (fullRow nd)) _ _ _ _
    rcases hrstep c hc with h | ⟨h, hcn⟩
    · exact Or.inl h
    · exact Or.inr ⟨h, hrall c hcn⟩

/-! ### `find_lexico_minimal_column` -/

theorem Lex.flmc_mem (nd : SolNode) (pi pj : Nat) :
    findLexicoMinimalColumn nd.tab.s nd.mapping nd.basis (mrow nd.tab.s pi) 0 = some pj →
    pj ∈ flmcInSet nd.tab.s nd.mapping nd.basis (mrow nd.tab.s pi) nd.mapping.length 0
      ((List.range (mrow nd.tab.s pi).length).filter
        (fun j => 0 ≤ j ∧ rget (mrow nd.tab.s pi) j > 0)) := by
  intro h
  unfold findLexicoMinimalColumn at h
  simp only [] at h
  split at h
  · cases h
  · exact List.mem_of_head? h

theorem Lex.flmc_cands (nd : SolNode) (pi : Nat) (hwf : WF nd) (hpi : pi < nd.tab.s.length) (c : Nat) :
    c ∈ (List.range (mrow nd.tab.s pi).length).filter
        (fun j => 0 ≤ j ∧ rget (mrow nd.tab.s pi) j > 0)
    ↔ c < nd.tab.ns ∧ 0 < rget (mrow nd.tab.s pi) c := by
  rw [hwf.s_cols _ (mrow_mem hpi)]
  simp [List.mem_filter, List.mem_range]

/-- **`flmc_positive`**: the column found is a column with a positive pivot-row coefficient -/
theorem flmc_positive (nd : SolNode) (pi pj : Nat) :
    WF nd → pi < nd.tab.s.length →
    findLexicoMinimalColumn nd.tab.s nd.mapping nd.basis (mrow nd.tab.s pi) 0 = some pj →
    pj < nd.tab.ns ∧ 0 < mget nd.tab.s pi pj := by
  intro hwf hpi h
  have hmem := Lex.flmc_mem nd pi pj h
  have := (Lex.flmcInSet_spec nd (mrow nd.tab.s pi) hwf.den_pos nd.mapping.length 0 _
    (fun c hc => (Lex.flmc_cands nd pi hwf hpi c).mp hc) pj hmem).1
  exact (Lex.flmc_cands nd pi hwf hpi pj).mp this

/-- **`flmc_lexmin`**: `find_lexico_minimal_column` returns a lexico-minimal column of the pivot row -/
theorem flmc_lexmin (nd : SolNode) (pi pj : Nat) :
    WF nd → pi < nd.tab.s.length →
    findLexicoMinimalColumn nd.tab.s nd.mapping nd.basis (mrow nd.tab.s pi) 0 = some pj →
    LexMinCol nd pi pj := by
  intro hwf hpi h
  obtain ⟨h1, h2⟩ := flmc_positive nd pi pj hwf hpi h
  refine ⟨h1, h2, fun j hj hjp => ?_⟩
  have hmem := Lex.flmc_mem nd pi pj h
  have := (Lex.flmcInSet_spec nd (mrow nd.tab.s pi) hwf.den_pos nd.mapping.length 0 _
    (fun c hc => (Lex.flmc_cands nd pi hwf hpi c).mp hc) pj hmem).2 j
    ((Lex.flmc_cands nd pi hwf hpi j).mpr ⟨hj, hjp⟩)
  unfold fullRows
  rw [List.range_eq_range']
  exact this

/-- code level + spec level: the column chosen by the code keeps the invariant through the pivot -/
theorem flmc_pivot_lexpos (nd0 nd' : SolNode) (pi pj : Nat) (f : Int) :
    WF nd0 → LexPos nd0 → pi < nd0.tab.s.length →
    findLexicoMinimalColumn nd0.tab.s nd0.mapping nd0.basis (mrow nd0.tab.s pi) 0 = some pj →
    PivotSpec nd0 nd' pi pj f → LexPos nd' := fun hwf hlp hpi h hs =>
  pivot_choice_lexico' nd0 nd' pi pj f hwf hlp hpi (flmc_lexmin nd0 pi pj hwf hpi h) hs

/-! ### non-vacuity -/

example : WF Lex.exNodeB ∧ 0 < Lex.exNodeB.tab.s.length
    ∧ findLexicoMinimalColumn Lex.exNodeB.tab.s Lex.exNodeB.mapping Lex.exNodeB.basis (mrow Lex.exNodeB.tab.s 0) 0
        = some 1
    ∧ LexMinCol Lex.exNodeB 0 1 :=
  ⟨Lex.exNodeB_wf, by decide, by decide, flmc_lexmin Lex.exNodeB 0 1 Lex.exNodeB_wf (by decide) (by decide)⟩

/-- a node where the row variables come first in the variable order: three candidates, the tie between
    columns 0 and 2 on the row of variable 0 (ratios 1/2, 3, 2/4) is broken by the row of variable 1
    (ratios 3/2 and 5/4) -/
def Lex.exNodeC : SolNode :=
  { tab := { s := [[2, 1, 4], [1, 3, 2], [3, 0, 5]], t := [[-1], [0], [0]], den := 1, ns := 3, nt := 1 }
    basis := [false, false, false, true, true, true], mapping := [1, 2, 0, 0, 1, 2]
    varRow := [2, 0, 1], varColumn := [3, 4, 5]
    sign := [.negative, .zero, .zero], big := none, arts := [], cons := [] }

theorem Lex.exNodeC_wf : WF Lex.exNodeC :=
  ⟨by decide, by decide, by decide, by decide, by decide, by decide, by decide, by decide, by decide,
   by decide, by decide, by decide⟩

example : findLexicoMinimalColumn Lex.exNodeC.tab.s Lex.exNodeC.mapping Lex.exNodeC.basis (mrow Lex.exNodeC.tab.s 0) 0
        = some 2
    ∧ LexMinCol Lex.exNodeC 0 2 ∧ ¬ LexMinCol Lex.exNodeC 0 0 ∧ ¬ LexMinCol Lex.exNodeC 0 1 :=
  ⟨by decide, flmc_lexmin Lex.exNodeC 0 2 Lex.exNodeC_wf (by decide) (by decide), by decide, by decide⟩

end PPLV.PIPCore

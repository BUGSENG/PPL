import PPLV.Solver.PIPCoreProofsPivot10
/-!
# pivot family: the pivot preserves the RATIONAL solutions; `IntInv`
-/
namespace PPLV.PIPCore.Piv

theorem pivot_tabsatQ {nd : SolNode} (h : WF nd) {pi pj : Nat} (hpi : pi < nd.tab.s.length)
    (hpj : pj < nd.tab.ns) (hspp : 0 < mget nd.tab.s pi pj) {q : List Int}
    (hq : q.length = nd.tab.nt) :
    ∀ v : Nat → ℚ, TabSatQ nd v q ↔ TabSatQ (pivot nd pi pj) v q := by
  intro v
  have hspp' := (normalize_sign h pi pj).mpr hspp
  obtain ⟨f, hS⟩ := pivot_spec h hpi hpj hspp'
  have sh := normalize_shape nd.tab
  rw [← normalize_tabsatQ h v q]
  exact pivotSpec_tabsatQ (normalize_wf h)
    (by show pi < nd.tab.normalize.s.length; rw [sh.1]; exact hpi)
    (by show pj < nd.tab.normalize.ns; rw [sh.2.2.1]; exact hpj) (ne_of_gt hspp') hS
    (by show q.length = nd.tab.normalize.nt; rw [sh.2.2.2]; exact hq) v

theorem pivot_ns (nd : SolNode) (pi pj : Nat) {f : Int}
    (hS : PivotSpec { nd with tab := nd.tab.normalize } (pivot nd pi pj) pi pj f) :
    (pivot nd pi pj).tab.ns = nd.tab.ns := by
  rw [hS.shape.2.2.1]; exact (normalize_shape nd.tab).2.2.1

theorem pivot_mapping_length (nd : SolNode) (pi pj : Nat) :
    (pivot nd pi pj).mapping.length = nd.mapping.length := by
  rw [pivot_eq]
  show ((nd.mapping.set _ _).set _ _).length = _
  rw [List.length_set, List.length_set]

theorem pivot_intinv {nd : SolNode} (h : WF nd) {pi pj : Nat} (hpi : pi < nd.tab.s.length)
    (hpj : pj < nd.tab.ns) (hspp : 0 < mget nd.tab.s pi pj) {q : List Int}
    (hq : q.length = nd.tab.nt) (hI : IntInv nd q) : IntInv (pivot nd pi pj) q := by
  obtain ⟨f, hS⟩ := pivot_spec h hpi hpj ((normalize_sign h pi pj).mpr hspp)
  intro v hv hint k hk
  rw [pivot_mapping_length] at hk
  rw [pivot_ns nd pi pj hS] at hint
  exact hI v ((pivot_tabsatQ h hpi hpj hspp hq v).mpr hv) hint k hk

theorem normalize_intinv {nd : SolNode} (h : WF nd) {q : List Int} (hI : IntInv nd q) :
    IntInv { nd with tab := nd.tab.normalize } q := by
  intro v hv hint k hk
  have hns : nd.tab.normalize.ns = nd.tab.ns := (normalize_shape nd.tab).2.2.1
  exact hI v ((normalize_tabsatQ h v q).mp hv) (fun k hk => hint k (by show k < nd.tab.normalize.ns; rw [hns]; exact hk)) k hk

end PPLV.PIPCore.Piv

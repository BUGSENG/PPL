import PPLV.Solver.PIPCoreProofsPivot
/-!
# pivot proofs: `scale` and `normalize` keep the shape; `normalize` is the identity or an
exact division of the whole tableau (`normalize_cases`, `Tableau.divBy`)
-/
namespace PPLV.PIPCore.Piv

/-! ### replacing the tableau of a well-formed node by one of the same shape -/

theorem _root_.PPLV.PIPCore.WF.piv_with_tab {nd : SolNode} (h : WF nd) (T' : Tableau)
    (hs : T'.s.length = nd.tab.s.length) (ht : T'.t.length = nd.tab.t.length)
    (hns : T'.ns = nd.tab.ns) (_hnt : T'.nt = nd.tab.nt)
    (hsl : RowsLen T'.s T'.ns) (htl : RowsLen T'.t T'.nt) (hd : 0 < T'.den) :
    WF { nd with tab := T' } where
  rows_eq := by show T'.s.length = T'.t.length; rw [hs, ht]; exact h.rows_eq
  s_cols := hsl
  t_cols := htl
  den_pos := hd
  vr_len := by show nd.varRow.length = T'.s.length; rw [hs]; exact h.vr_len
  vc_len := by show nd.varColumn.length = T'.ns; rw [hns]; exact h.vc_len
  sign_len := by show nd.sign.length = T'.s.length; rw [hs]; exact h.sign_len
  map_len := by show nd.mapping.length = T'.s.length + T'.ns; rw [hs, hns]; exact h.map_len
  basis_len := h.basis_len
  vr_ok := by
    intro i hi
    exact h.vr_ok i (by rw [← hs]; exact hi)
  vc_ok := by
    intro j hj
    exact h.vc_ok j (by rw [← hns]; exact hj)
  map_ok := by
    intro k hk
    show (boolGet nd.basis k = true → natGet nd.mapping k < T'.ns ∧ _) ∧
      (boolGet nd.basis k = false → natGet nd.mapping k < T'.s.length ∧ _)
    rw [hs, hns]; exact h.map_ok k hk

theorem _root_.PPLV.PIPCore.WF.piv_sRows {nd : SolNode} (h : WF nd) : RowsLen nd.tab.s nd.tab.ns := h.s_cols
theorem _root_.PPLV.PIPCore.WF.piv_tRows {nd : SolNode} (h : WF nd) : RowsLen nd.tab.t nd.tab.nt := h.t_cols

/-! ### `scale` -/

theorem scale_rowsLen_s {T : Tableau} (r : Int) (h : RowsLen T.s T.ns) :
    RowsLen (T.scale r).s (T.scale r).ns := h.map (· * r)

theorem scale_rowsLen_t {T : Tableau} (r : Int) (h : RowsLen T.t T.nt) :
    RowsLen (T.scale r).t (T.scale r).nt := h.map (· * r)

theorem scale_wf {nd : SolNode} (h : WF nd) {r : Int} (hr : 0 < r) :
    WF { nd with tab := nd.tab.scale r } :=
  h.piv_with_tab _ (scale_s_length _ _) (scale_t_length _ _) rfl rfl
    (scale_rowsLen_s r h.piv_sRows) (scale_rowsLen_t r h.piv_tRows) (Int.mul_pos h.den_pos hr)

/-! ### the gcd of `normalize` -/

/-- the tableau with every entry and the denominator divided by `g` -/
def _root_.PPLV.PIPCore.Tableau.divBy (T : Tableau) (g : Int) : Tableau :=
  { T with s := T.s.map (·.map (· / g)), t := T.t.map (·.map (· / g)), den := T.den / g }

theorem mget_divBy_s (T : Tableau) (g : Int) (i j : Nat) : mget (T.divBy g).s i j = mget T.s i j / g :=
  mget_map_div T.s g i j

theorem mrow_divBy_s (T : Tableau) (g : Int) (i : Nat) : mrow (T.divBy g).s i = (mrow T.s i).map (· / g) :=
  mrow_map T.s (·.map (· / g)) rfl i

theorem mrow_divBy_t (T : Tableau) (g : Int) (i : Nat) : mrow (T.divBy g).t i = (mrow T.t i).map (· / g) :=
  mrow_map T.t (·.map (· / g)) rfl i

/-- `normalize` either does nothing or divides everything exactly by a positive common divisor -/
theorem normalize_cases (T : Tableau) (hd : T.den ≠ 0) :
    T.normalize = T ∨ ∃ g : Int, 0 < g ∧ g ∣ T.den ∧ DvdAll g T.s ∧ DvdAll g T.t ∧
      T.normalize = T.divBy g := by
  unfold Tableau.normalize
  by_cases h1 : T.den = 1
  · left; simp [h1]
  · simp only [h1, if_false]
    generalize hg : T.t.foldl rowGcd (T.s.foldl rowGcd (gcdI T.den 0)) = g
    by_cases h2 : g = 1
    · left; simp [h2]
    · right
      simp only [h2, if_false]
      have d1 : g ∣ T.s.foldl rowGcd (gcdI T.den 0) := hg ▸ matGcd_dvd_init _ _
      have d2 : g ∣ gcdI T.den 0 := Int.dvd_trans d1 (matGcd_dvd_init _ _)
      have d3 : g ∣ T.den := Int.dvd_trans d2 (gcdI_dvd_left _ _)
      have n0 : 0 ≤ g := hg ▸ matGcd_nonneg _ (matGcd_nonneg _ (gcdI_nonneg _ _))
      have gne : g ≠ 0 := by
        rintro rfl
        exact hd (by obtain ⟨k, hk⟩ := d3; rw [hk, Int.zero_mul])
      refine ⟨g, lt_of_le_of_ne n0 (Ne.symm gne), d3, ?_, ?_, rfl⟩
      · intro r hr x hx
        exact Int.dvd_trans d1 (matGcd_dvd_mem _ _ hr hx)
      · intro r hr x hx
        exact hg ▸ matGcd_dvd_mem _ _ hr hx

theorem ediv_pos_iff_of_dvd {x g : Int} (hg : 0 < g) (hd : g ∣ x) : 0 < x / g ↔ 0 < x := by
  obtain ⟨k, rfl⟩ := hd
  rw [Int.mul_ediv_cancel_left _ (ne_of_gt hg)]
  constructor
  · intro hk; exact Int.mul_pos hg hk
  · intro h
    by_contra hk
    have : g * k ≤ 0 := Int.mul_nonpos_of_nonneg_of_nonpos (le_of_lt hg) (not_lt.mp hk)
    linarith

/-- the sign of an entry is not changed by `normalize` -/
theorem normalize_sign {nd : SolNode} (h : WF nd) (i j : Nat) :
    0 < mget nd.tab.normalize.s i j ↔ 0 < mget nd.tab.s i j := by
  rcases normalize_cases nd.tab (ne_of_gt h.den_pos) with e | ⟨g, hg, _, ds, _, e⟩
  · rw [e]
  · rw [e]
    rw [mget_divBy_s]
    exact ediv_pos_iff_of_dvd hg (ds.mget i j)

theorem normalize_shape (T : Tableau) :
    T.normalize.s.length = T.s.length ∧ T.normalize.t.length = T.t.length
      ∧ T.normalize.ns = T.ns ∧ T.normalize.nt = T.nt := by
  unfold Tableau.normalize
  split
  · exact ⟨rfl, rfl, rfl, rfl⟩
  · dsimp only
    split
    · exact ⟨rfl, rfl, rfl, rfl⟩
    · exact ⟨by simp, by simp, rfl, rfl⟩

theorem normalize_wf {nd : SolNode} (h : WF nd) : WF { nd with tab := nd.tab.normalize } := by
  rcases normalize_cases nd.tab (ne_of_gt h.den_pos) with e | ⟨g, hg, dd, _, _, e⟩
  · rw [e]; exact h
  · rw [e]
    refine h.piv_with_tab (nd.tab.divBy g) (List.length_map _) (List.length_map _) rfl rfl
      (h.piv_sRows.map (· / g)) (h.piv_tRows.map (· / g)) ?_
    exact (ediv_pos_iff_of_dvd hg dd).mpr h.den_pos

/-! ### a row of the tableau as an explicit sum -/

theorem rowHolds_iff_sum {nd : SolNode} (h : WF nd) (v : Nat → Int) {q : List Int}
    (hq : q.length = nd.tab.nt) {i : Nat} (hi : i < nd.tab.s.length) :
    RowHolds nd v q i ↔
      nd.tab.den * v (natGet nd.varRow i)
        = sumTo nd.tab.ns (fun j => mget nd.tab.s i j * v (natGet nd.varColumn j))
          + sumTo nd.tab.nt (fun c => mget nd.tab.t i c * rget q c) := by
  have _ := hi
  unfold RowHolds
  have l3 : (nd.varColumn.map v).length = nd.tab.ns := by rw [List.length_map]; exact h.vc_len
  rw [dot_eq_sumTo _ l3, dot_eq_sumTo _ hq]
  have : sumTo nd.tab.ns (fun j => rget (mrow nd.tab.s i) j * rget (nd.varColumn.map v) j)
      = sumTo nd.tab.ns (fun j => mget nd.tab.s i j * v (natGet nd.varColumn j)) :=
    sumTo_congr (fun j hj => by
      rw [rget_map_nat v (by rw [h.vc_len]; exact hj)]; rfl)
  rw [this]; rfl

end PPLV.PIPCore.Piv

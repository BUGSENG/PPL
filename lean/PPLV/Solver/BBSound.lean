import PPLV.Solver.BBProofs
import PPLV.Solver.Ray

/-!
# soundness of the modelled `solve_mip` recursion, for every fuel

`OracleOK lp`: whatever the LP oracle answers for a well-formed node is right — the three clauses are
the three clauses of `C06.lp_spec` (with the point the LP machinery leaves in `last_generator`).

`solveMip_post`: the invariant of the recursion, relative to a root problem `R` that contains the
node.  UNBOUNDED ⇒ the stored point is a feasible integral point of the root and the root's
relaxation is unbounded.  Otherwise the incumbent is a feasible integral point of the root with the
recorded value, it never gets worse, and no feasible integral point of the *node* beats it.
-/
namespace PPLV.Solver.BB
open PPLV.Lin PPLV.Solver

/-- the relaxation of `P` has points of arbitrarily good objective value -/
def LPUnb (P : Problem) : Prop := ∀ M : Rat, ∃ x, Sat P.cs x ∧ Better P (P.objVal x) M

/-- the LP answer for node `N` is right (clauses of `C06.lp_spec`) -/
def LPCorrect (N : Node) : LPResult → Prop
  | .unfeasible => ∀ x, ¬ Sat N.toProblem.cs x
  | .unbounded p => 0 < p.den ∧ Sat N.toProblem.cs p.val ∧ LPUnb N.toProblem
  | .optimized p => 0 < p.den ∧ Sat N.toProblem.cs p.val ∧
      ∀ x, Sat N.toProblem.cs x → ¬ Better N.toProblem (N.toProblem.objVal x) (objAt N p)

def OracleOK (lp : Oracle) : Prop := ∀ N r, N.toProblem.WF → lp N = some r → LPCorrect N r

/-- node `N` is the root `R` with more rows -/
def Sub (N : Node) (R : Problem) : Prop :=
  N.ivars = R.ints ∧ N.obj = R.obj ∧ N.maximize = R.maximize ∧ ∀ x, Sat N.toProblem.cs x → Sat R.cs x

/-- the incumbent is a feasible integral point of the root with the recorded value -/
def IncOK (R : Problem) (inc : Inc) : Prop :=
  inc.has = true → 0 < inc.pt.den ∧ Feasible R inc.pt.val ∧ R.objVal inc.pt.val = inc.val

theorem Sub.objVal {N : Node} {R : Problem} (h : Sub N R) (x : Val) : N.toProblem.objVal x = R.objVal x := by
  unfold Problem.objVal Node.toProblem; rw [h.2.1]

theorem Sub.better {N : Node} {R : Problem} (h : Sub N R) (a b : Rat) : Better N.toProblem a b ↔ Better R a b :=
  better_congr _ _ h.2.2.1 a b

theorem Sub.feasible {N : Node} {R : Problem} (h : Sub N R) (x : Val) (hx : Feasible N.toProblem x) : Feasible R x :=
  ⟨h.2.2.2 x hx.1, by rw [← h.1]; exact hx.2⟩

theorem Sub.addRow {N : Node} {R : Problem} (h : Sub N R) (r : InRow) : Sub (N.addRow r) R :=
  ⟨h.1, h.2.1, h.2.2.1, fun x hx => h.2.2.2 x (child_subset N r x hx)⟩

theorem Sub.lpUnb {N : Node} {R : Problem} (h : Sub N R) (hu : LPUnb N.toProblem) : LPUnb R := by
  intro M
  obtain ⟨x, hx, hb⟩ := hu M
  exact ⟨x, h.2.2.2 x hx, by rw [← h.objVal, ← h.better]; exact hb⟩

/-- a point of the node's relaxation that is integral on the integer variables is feasible for the root -/
theorem Sub.point_feasible {N : Node} {R : Problem} (h : Sub N R) (p : Pt) (hd : 0 < p.den)
    (hs : Sat N.toProblem.cs p.val) (hi : firstNonInt N.ivars p = none) : Feasible R p.val :=
  h.feasible _ ⟨hs, firstNonInt_none N.ivars p hd hi⟩

/-- the invariant of the recursion -/
def Post (R : Problem) (N : Node) (inc : Inc) (res : Status × Inc) : Prop :=
  (res.1 = .unbounded → 0 < res.2.pt.den ∧ Feasible R res.2.pt.val ∧ LPUnb R) ∧
  (res.1 ≠ .unbounded →
    IncOK R res.2 ∧
    (inc.has = true → res.2.has = true ∧ ¬ Better R inc.val res.2.val) ∧
    (∀ x, Feasible N.toProblem x → res.2.has = true ∧ ¬ Better R (R.objVal x) res.2.val) ∧
    (res.1 = .optimized → res.2.has = true) ∧
    (res.1 = .unfeasible → inc.has = false → res.2.has = false))

theorem post_unb (R : Problem) (N : Node) (inc inc' : Inc)
    (h : 0 < inc'.pt.den ∧ Feasible R inc'.pt.val ∧ LPUnb R) : Post R N inc (.unbounded, inc') :=
  ⟨fun _ => h, fun hst => absurd rfl hst⟩

theorem post_other (R : Problem) (N : Node) (inc inc' : Inc) (st : Status) (hst : st ≠ .unbounded)
    (h : IncOK R inc' ∧
      (inc.has = true → inc'.has = true ∧ ¬ Better R inc.val inc'.val) ∧
      (∀ x, Feasible N.toProblem x → inc'.has = true ∧ ¬ Better R (R.objVal x) inc'.val) ∧
      (st = .optimized → inc'.has = true) ∧
      (st = .unfeasible → inc.has = false → inc'.has = false)) : Post R N inc (st, inc') :=
  ⟨fun h' => absurd h' hst, fun _ => h⟩

/-! ### the node-local decisions -/

/-- **the pruning test never discards a strictly better integral point**: when the node is abandoned
    every point of its relaxation (a fortiori every integral one) is no better than the incumbent -/
theorem pruned_safe (N : Node) (inc : Inc) (v : Rat) (h : pruned N inc v = true) (x : Val)
    (hx : ¬ Better N.toProblem (N.toProblem.objVal x) v) :
    inc.has = true ∧ ¬ Better N.toProblem (N.toProblem.objVal x) inc.val := by
  unfold pruned at h
  rw [Bool.and_eq_true] at h
  refine ⟨h.1, ?_⟩
  cases hmx : N.maximize
  · have hP : N.toProblem.maximize = false := hmx
    rw [better_min _ hP] at hx ⊢
    simp only [hmx, Bool.false_and, Bool.not_false, Bool.true_and, Bool.false_or, mpqLe_iff] at h
    linarith [not_lt.mp hx, h.2]
  · have hP : N.toProblem.maximize = true := hmx
    rw [better_max _ hP] at hx ⊢
    simp only [hmx, Bool.true_and, Bool.not_true, Bool.false_and, Bool.or_false, mpqLe_iff] at h
    linarith [not_lt.mp hx, h.2]

/-- not pruned with an incumbent: the LP value is strictly better than the incumbent -/
theorem not_pruned_better (N : Node) (inc : Inc) (v : Rat) (h : pruned N inc v = false) (hh : inc.has = true) :
    Better N.toProblem v inc.val := by
  unfold pruned at h
  rw [hh, Bool.true_and] at h
  cases hmx : N.maximize
  · have hP : N.toProblem.maximize = false := hmx
    rw [better_min _ hP]
    simp only [hmx, Bool.false_and, Bool.not_false, Bool.true_and, Bool.false_or] at h
    have : ¬ inc.val ≤ v := fun hc => by rw [(mpqLe_iff _ _).mpr hc] at h; cases h
    exact not_le.mp this
  · have hP : N.toProblem.maximize = true := hmx
    rw [better_max _ hP]
    simp only [hmx, Bool.true_and, Bool.not_true, Bool.false_and, Bool.or_false] at h
    have : ¬ v ≤ inc.val := fun hc => by rw [(mpqLe_iff _ _).mpr hc] at h; cases h
    exact not_le.mp this

/-- **the incumbent update keeps the best-so-far invariant**: after a node that was not pruned the
    incumbent is the LP point — including the unguarded third disjunct of the code -/
theorem updateInc_eq (N : Node) (inc : Inc) (v : Rat) (p : Pt) (h : pruned N inc v = false) :
    updateInc N inc v p = ⟨true, v, p⟩ := by
  unfold updateInc
  cases hh : inc.has
  · simp
  · have hb := not_pruned_better N inc v h hh
    cases hmx : N.maximize
    · have hP : N.toProblem.maximize = false := hmx
      rw [better_min _ hP] at hb
      simp [(mpqLt_iff _ _).mpr hb]
    · have hP : N.toProblem.maximize = true := hmx
      rw [better_max _ hP] at hb
      simp [(mpqLt_iff _ _).mpr hb]

/-! ### composition of the two children -/

theorem post_children (R : Problem) (N : Node) (inc inc1 inc2 : Inc) (st1 st2 : Status) (ms : Status)
    (i : Nat) (hi : i ∈ N.ivars) (q : Rat)
    (h1 : Post R (N.addRow (branchLe i (floorQ q))) inc (st1, inc1)) (hs1 : st1 ≠ .unbounded)
    (h2 : Post R (N.addRow (branchGe i (ceilQ q))) inc1 (st2, inc2)) (hs2 : st2 ≠ .unbounded)
    (hms : ms = .unbounded → LPUnb R) (hms2 : ms ≠ .unfeasible) :
    Post R N inc (if inc2.has then ms else .unfeasible, inc2) := by
  obtain ⟨a1, b1, c1, -, -⟩ := h1.2 hs1
  obtain ⟨a2, b2, c2, -, -⟩ := h2.2 hs2
  have hmono : inc.has = true → inc2.has = true ∧ ¬ Better R inc.val inc2.val := by
    intro hh
    obtain ⟨e1, n1⟩ := b1 hh
    obtain ⟨e2, n2⟩ := b2 e1
    exact ⟨e2, nb_trans R _ _ _ n1 n2⟩
  have hcov : ∀ x, Feasible N.toProblem x → inc2.has = true ∧ ¬ Better R (R.objVal x) inc2.val := by
    intro x hx
    rcases children_cover N i hi q x hx with hL | hRr
    · obtain ⟨e1, n1⟩ := c1 x hL
      obtain ⟨e2, n2⟩ := b2 e1
      exact ⟨e2, nb_trans R _ _ _ n1 n2⟩
    · exact c2 x hRr
  cases hh : inc2.has
  · simp only [Bool.false_eq_true, if_false]
    refine post_other R N inc inc2 .unfeasible (by simp) ⟨a2, hmono, hcov, fun h => (by cases h), fun _ _ => hh⟩
  · simp only [if_true]
    by_cases hu : ms = .unbounded
    · subst hu
      obtain ⟨d, f, -⟩ := a2 hh
      exact post_unb R N inc inc2 ⟨d, f, hms rfl⟩
    · exact post_other R N inc inc2 ms hu ⟨a2, hmono, hcov, fun _ => hh, fun h => absurd h hms2⟩

/-! ### the recursion -/

theorem solveMip_post (lp : Oracle) (hO : OracleOK lp) (R : Problem) :
    ∀ (fuel : Nat) (inc : Inc) (N : Node) (res : Status × Inc),
      N.toProblem.WF → Sub N R → IncOK R inc → solveMip lp fuel inc N = some res → Post R N inc res := by
  intro fuel
  induction fuel with
  | zero => intro inc N res _ _ _ h; simp [solveMip] at h
  | succ fuel ih =>
    intro inc N res hwf hsub hinc h
    rw [solveMip] at h
    cases hlp : lp N with
    | none => rw [hlp] at h; cases h
    | some r =>
      rw [hlp] at h
      simp only at h
      have hc := hO N r hwf hlp
      -- the LP of the node is unfeasible
      by_cases hunf : (r.mipStatus == Status.unfeasible) = true
      · rw [if_pos hunf] at h
        injection h with h; subst h
        cases r with
        | unbounded p => cases hunf
        | optimized p => cases hunf
        | unfeasible =>
        exact post_other R N inc inc .unfeasible (by simp)
          ⟨hinc, fun hh => ⟨hh, nb_refl R _⟩, fun x hx => absurd hx.1 (hc x), fun hst => (by cases hst), fun _ hh => hh⟩
      · rw [if_neg hunf] at h
        -- facts shared by UNBOUNDED and OPTIMIZED
        have hp : 0 < r.pt.den ∧ Sat N.toProblem.cs r.pt.val := by
          cases r with
          | unfeasible => simp [LPResult.mipStatus] at hunf
          | unbounded p => exact ⟨hc.1, hc.2.1⟩
          | optimized p => exact ⟨hc.1, hc.2.1⟩
        have hms2 : r.mipStatus ≠ .unfeasible := by
          intro hh; rw [hh] at hunf; simp at hunf
        have hmsU : r.mipStatus = .unbounded → LPUnb R := by
          intro hh
          cases r with
          | unfeasible => cases hh
          | unbounded p => exact hsub.lpUnb hc.2.2
          | optimized p => cases hh
        by_cases hpr : (r.mipStatus == Status.optimized && pruned N inc (objAt N r.pt)) = true
        · -- abandoned: the relaxation is not better than the incumbent
          rw [if_pos hpr] at h
          injection h with h; subst h
          rw [Bool.and_eq_true] at hpr
          have hro : r.mipStatus = .optimized := by simpa using hpr.1
          cases r with
          | unfeasible => cases hro
          | unbounded p => cases hro
          | optimized p =>
            have hprn : pruned N inc (objAt N p) = true := hpr.2
            have hhas : inc.has = true := by
              unfold pruned at hprn
              rw [Bool.and_eq_true] at hprn
              exact hprn.1
            refine post_other R N inc inc .optimized (by simp)
              ⟨hinc, fun hh => ⟨hh, nb_refl R _⟩, ?_, fun _ => hhas, fun hst => by cases hst⟩
            intro x hx
            have := pruned_safe N inc (objAt N p) hprn x (hc.2.2 x hx.1)
            rw [hsub.better, hsub.objVal] at this
            exact this
        · rw [if_neg hpr] at h
          cases hfn : firstNonInt N.ivars r.pt with
          | none =>
            rw [hfn] at h
            simp only at h
            have hfeas : Feasible R r.pt.val := hsub.point_feasible r.pt hp.1 hp.2 hfn
            by_cases hub : (r.mipStatus == Status.unbounded) = true
            · rw [if_pos hub] at h
              injection h with h; subst h
              have hru : r.mipStatus = .unbounded := by simpa using hub
              exact post_unb R N inc _ ⟨hp.1, hfeas, hmsU hru⟩
            · rw [if_neg hub] at h
              injection h with h; subst h
              cases r with
              | unfeasible => simp [LPResult.mipStatus] at hunf
              | unbounded p => simp [LPResult.mipStatus] at hub
              | optimized p =>
                have hnp : pruned N inc (objAt N p) = false := by
                  simpa [LPResult.mipStatus, LPResult.pt] using hpr
                have hupd := updateInc_eq N inc (objAt N p) p hnp
                have hfeas' : Feasible R p.val := hfeas
                have hpd : 0 < p.den := hp.1
                show Post R N inc (Status.optimized, updateInc N inc (objAt N p) p)
                rw [hupd]
                refine post_other R N inc _ .optimized (by simp) ⟨?_, ?_, ?_, fun _ => rfl, fun hst => by cases hst⟩
                · intro _
                  exact ⟨hpd, hfeas', by rw [← hsub.objVal]; rfl⟩
                · intro hh
                  refine ⟨rfl, ?_⟩
                  have hb := not_pruned_better N inc (objAt N p) hnp hh
                  rw [hsub.better] at hb
                  exact better_asymm R _ _ hb
                · intro x hx
                  refine ⟨rfl, ?_⟩
                  have := hc.2.2 x hx.1
                  rw [hsub.better, hsub.objVal] at this
                  exact this
          | some i =>
            rw [hfn] at h
            simp only at h
            obtain ⟨hi, -⟩ := firstNonInt_some N.ivars r.pt i hp.1 hfn
            obtain ⟨hwfL, -⟩ := wf_addRow_branch N i (floorQ (coord r.pt i)) hwf hi
            obtain ⟨-, hwfR⟩ := wf_addRow_branch N i (ceilQ (coord r.pt i)) hwf hi
            cases h1 : solveMip lp fuel inc (N.addRow (branchLe i (floorQ (coord r.pt i)))) with
            | none => rw [h1] at h; cases h
            | some res1 =>
              obtain ⟨st1, inc1⟩ := res1
              rw [h1] at h
              simp only at h
              have p1 := ih inc _ _ hwfL (hsub.addRow _) hinc h1
              by_cases hu1 : (st1 == Status.unbounded) = true
              · rw [if_pos hu1] at h
                injection h with h; subst h
                have : st1 = .unbounded := by simpa using hu1
                exact post_unb R N inc _ (p1.1 this)
              · rw [if_neg hu1] at h
                have hs1 : st1 ≠ .unbounded := by intro hh; rw [hh] at hu1; simp at hu1
                have hinc1 : IncOK R inc1 := (p1.2 hs1).1
                cases h2 : solveMip lp fuel inc1 (N.addRow (branchGe i (ceilQ (coord r.pt i)))) with
                | none => rw [h2] at h; cases h
                | some res2 =>
                  obtain ⟨st2, inc2⟩ := res2
                  rw [h2] at h
                  simp only at h
                  have p2 := ih inc1 _ _ hwfR (hsub.addRow _) hinc1 h2
                  by_cases hu2 : (st2 == Status.unbounded) = true
                  · rw [if_pos hu2] at h
                    injection h with h; subst h
                    have : st2 = .unbounded := by simpa using hu2
                    exact post_unb R N inc _ (p2.1 this)
                  · rw [if_neg hu2] at h
                    injection h with h; subst h
                    have hs2 : st2 ≠ .unbounded := by intro hh; rw [hh] at hu2; simp at hu2
                    exact post_children R N inc inc1 inc2 st1 st2 r.mipStatus i hi (coord r.pt i) p1 hs1 p2 hs2 hmsU hms2

/-! ### from "relaxation unbounded + one integral feasible point" to "MIP unbounded" -/

/-- the rule by which the code decides UNBOUNDED is valid for rational data: an unbounded relaxation
    has a rational improving recession direction (`unbounded_has_ray`, Farkas), and a multiple of it
    keeps the integer variables integral (`unbounded_max_of_point_and_ray`) -/
theorem unbounded_of_point_and_lpUnb (R : Problem) (hwf : R.WF) (x : Val) (hx : Feasible R x) (hu : LPUnb R) :
    IsUnbounded R := by
  obtain ⟨h1, h2, h3, -⟩ := hwf
  have hobj := linObj_maxObj R
  have hunb : ∀ M : Rat, ∃ y, Sat R.cs y ∧ M < dot R.maxObj.1 y := by
    intro M
    by_cases hm : R.maximize = true
    · obtain ⟨y, hy, hb⟩ := hu (M + (R.maxObj.2 : Rat))
      refine ⟨y, hy, ?_⟩
      have := hobj y
      simp only [hm, if_true, linObj] at this
      unfold Better at hb; simp only [hm, if_true] at hb
      linarith
    · obtain ⟨y, hy, hb⟩ := hu (-(M + (R.maxObj.2 : Rat)))
      refine ⟨y, hy, ?_⟩
      have := hobj y
      simp only [hm, Bool.false_eq_true, if_false, linObj] at this
      unfold Better at hb; simp only [hm, Bool.false_eq_true, if_false] at hb
      linarith
  obtain ⟨d, hd⟩ := unbounded_has_ray R.n R.maxObj.1 R.cs h1 (maxObj_length R h3) h2 hunb
  have := unbounded_max_of_point_and_ray R.maxObj.1 R.maxObj.2 R.ints R.cs x d hx hd
  have h := isAnswer_of_correct R .unbounded this rfl
  have hb : R.back .unbounded = .unbounded := by unfold Problem.back; split <;> rfl
  rw [hb] at h
  exact h

end PPLV.Solver.BB

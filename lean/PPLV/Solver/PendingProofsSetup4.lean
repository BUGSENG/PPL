import PPLV.Solver.PendingProofsMapping

/-!
# the insertion loop (:852–:901) of a fresh problem

`InsCtx.Inv`: after the pending constraints with index `≥ i` are inserted, the rows `≥ k` of the tableau are
as wide as the tableau and zero on the slack columns not yet used and on the artificial / sign columns;
`base` only holds slack columns already used; and, semantically, on valuations `y` with `y 0 = 1` and
non-negative columns: (→) if the rows `≥ k` vanish at `y`, the inserted constraints hold at the projected
point; (←) every non-negative encoding `y0` of a point satisfying them extends (on the slack columns) to a
valuation at which these rows vanish.
`insertStep_eq`: one iteration in closed form, for any state (the loop :896–:900 is `combineRow`); no `linear_combine`
happens in a fresh problem (`combineRow_fresh`), whence `step_eq`.
-/
namespace PPLV.Solver.Pend
open PPLV.Lin PPLV.Solver.Tab

theorem revFold_const {σ : Type} (f : Nat → σ → σ) (x : σ) : ∀ n, (∀ j, j < n → f j x = x) → revFold n f x = x := by
  intro n
  induction n with
  | zero => intro _; rfl
  | succ n ih =>
    intro h
    unfold revFold
    rw [h n (Nat.lt_succ_self n)]
    exact ih (fun j hj => h j (Nat.lt_succ_of_lt hj))

theorem proj_congr (M : List (Nat × Nat)) (nn : List Bool) (n j : Nat) (hM : MapOK M nn n j) (y y' : Val)
    (h : ∀ col, col < 1 + j → y col = y' col) : proj M y = proj M y' := by
  funext u
  unfold proj
  simp only
  by_cases hu : u < n
  · obtain ⟨c1, c2, -, c4⟩ := hM.cols u hu
    have h1 : (M.getD (u+1) (0, 0)).1 < 1 + j := by unfold hiCol at c4; split at c4 <;> omega
    rw [h _ h1]
    by_cases hm : (M.getD (u+1) (0, 0)).2 = 0
    · have : ((M.getD (u+1) (0, 0)).2 != 0) = false := by rw [hm]; rfl
      rw [this]
      simp only [Bool.false_eq_true, if_false]
    · have h2 : (M.getD (u+1) (0, 0)).2 < 1 + j := by unfold hiCol at c4; rw [if_neg hm] at c4; exact c4
      have : ((M.getD (u+1) (0, 0)).2 != 0) = true := bne_iff_ne.mpr hm
      rw [this]; simp only [if_true]; rw [h _ h2]
  · have : M.getD (u+1) (0, 0) = (0, 0) := by
      rw [List.getD_eq_getElem?_getD, List.getElem?_eq_none (by rw [hM.len]; omega)]; rfl
    rw [this]
    simp only [bne_self_eq_false, Bool.false_eq_true, if_false, sub_zero]
    exact h 0 (by omega)

/-- the data of the insertion loop of a fresh problem -/
structure InsCtx where
  M : List (Nat × Nat)
  nn : List Bool
  n : Nat
  j : Nat
  numCols : Nat
  pend : List ICon
  isSat : List Bool
  hM : MapOK M nn n j
  hlen : ∀ c ∈ pend, c.coeffs.length ≤ n
  hSL : 1 + j + (pend.filter slackC).length < numCols

namespace InsCtx
variable (C : InsCtx)

def V : Nat := 1 + C.j
def SL : Nat := C.V + (C.pend.filter slackC).length
def N : Nat := (C.pend.filter tabC).length
def init : Ins :=
  { T := List.replicate C.N (zeros C.numCols), base := List.replicate C.N 0, k := C.N, slackIndex := C.SL,
    worked := List.replicate C.N false }
def step (i : Nat) (st : Ins) : Ins := insertStep C.numCols C.M C.pend (C.pend.map tabC) C.isSat i st

/-- the invariant after the constraints with index `≥ i` are inserted -/
structure Inv (i : Nat) (st : Ins) : Prop where
  k_eq : st.k = ((C.pend.take i).filter tabC).length
  sl_eq : st.slackIndex = C.V + ((C.pend.take i).filter slackC).length
  lenT : st.T.length = C.N
  lenB : st.base.length = C.N
  rows : ∀ r, st.k ≤ r → r < C.N → (st.T.getD r []).length = C.numCols ∧
    ∀ col, ((C.V ≤ col ∧ col < st.slackIndex) ∨ C.SL ≤ col) → (st.T.getD r []).get col = 0
  base : ∀ r, r < C.N → st.base.getD r 0 = 0 ∨ (st.slackIndex ≤ st.base.getD r 0 ∧ st.base.getD r 0 < C.SL)
  sound : ∀ y : Val, y 0 = 1 → (∀ col, 1 ≤ col → 0 ≤ y col) →
    (∀ r, st.k ≤ r → r < C.N → rowVal (st.T.getD r []) y = 0) →
    ∀ c ∈ C.pend.drop i, tabC c = true → c.holds (proj C.M y)
  complete : ∀ y0 : Val, y0 0 = 1 → (∀ col, 1 ≤ col → 0 ≤ y0 col) →
    (∀ c ∈ C.pend.drop i, tabC c = true → c.holds (proj C.M y0)) →
    ∃ y : Val, (∀ col, col < C.V → y col = y0 col) ∧ y 0 = 1 ∧ (∀ col, 1 ≤ col → 0 ≤ y col) ∧
      (∀ col, C.V ≤ col → (col < st.slackIndex ∨ C.SL ≤ col) → y col = y0 col) ∧
      ∀ r, st.k ≤ r → r < C.N → rowVal (st.T.getD r []) y = 0

theorem take_succ_getD (l : List ICon) (i : Nat) (hi : i < l.length) :
    l.take (i+1) = l.take i ++ [l.getD i default] := by
  induction l generalizing i with
  | nil => simp at hi
  | cons a l ih =>
    cases i with
    | zero => rfl
    | succ i =>
      rw [List.take_succ_cons, List.take_succ_cons, List.getD_cons_succ, List.cons_append,
        ih i (by simpa using hi)]

theorem take_succ_filter (l : List ICon) (i : Nat) (hi : i < l.length) (f : ICon → Bool) :
    ((l.take (i+1)).filter f).length = ((l.take i).filter f).length + (if f (l.getD i default) then 1 else 0) := by
  rw [take_succ_getD l i hi, List.filter_append, List.length_append]
  generalize l.getD i default = a
  by_cases h : f a = true
  · simp [List.filter, h]
  · simp [List.filter, h]

theorem filter_length_le_take (l : List ICon) (i : Nat) (f : ICon → Bool) :
    ((l.take i).filter f).length ≤ (l.filter f).length := by
  have h := List.take_append_drop i l
  conv_rhs => rw [← h]
  rw [List.filter_append, List.length_append]
  omega

theorem init_inv : C.Inv C.pend.length C.init := by
  have htake : C.pend.take C.pend.length = C.pend := List.take_length
  have hdrop : C.pend.drop C.pend.length = [] := List.drop_eq_nil_of_le (le_refl _)
  constructor
  · rw [htake]; rfl
  · rw [htake]; rfl
  · simp [init]
  · simp [init]
  · intro r h1 h2; exact absurd h1 (by simp only [init]; omega)
  · intro r hr
    left
    simp only [init]
    rw [List.getD_eq_getElem?_getD, List.getElem?_replicate_of_lt hr]; rfl
  · intro y _ _ _ c hc; rw [hdrop] at hc; cases hc
  · intro y0 h0 hnn _
    exact ⟨y0, fun _ _ => rfl, h0, hnn, fun _ _ _ => rfl, fun r h1 h2 => absurd h1 (by simp only [init]; omega)⟩

theorem map_getD_tabC (l : List ICon) (i : Nat) (hi : i < l.length) :
    (l.map tabC).getD i true = tabC (l.getD i default) := by
  rw [List.getD_eq_getElem?_getD, List.getElem?_map, List.getD_eq_getElem?_getD, List.getElem?_eq_getElem hi]
  rfl

end InsCtx

/-- the loop :896–:900 on the row being inserted as row `k` -/
def combineRow (T : List Row) (base : List Nat) (k : Nat) (row : Row) : Row :=
  revFold base.length (fun j (row : Row) =>
    let bj := base.getD j 0
    if k != j && bj != 0 && row.get bj != 0 then linearCombine row (T.getD j []) bj else row) row

/-- one iteration of the insertion loop, in closed form -/
theorem insertStep_eq (numCols : Nat) (M : List (Nat × Nat)) (pend : List ICon) (isSat : List Bool) (i : Nat)
    (hi : i < pend.length) (st : Ins) :
    insertStep numCols M pend (pend.map tabC) isSat i st =
      if tabC (pend.getD i default) = false then st
      else if (pend.getD i default).isEq = true then
        { T := st.T.set (st.k - 1) (combineRow st.T st.base (st.k - 1) (constraintRow numCols M (pend.getD i default))),
          base := st.base, k := st.k - 1, slackIndex := st.slackIndex, worked := st.worked }
      else if isSat.getD i false = true then
        { T := st.T.set (st.k - 1)
            (combineRow st.T (st.base.set (st.k - 1) (st.slackIndex - 1)) (st.k - 1)
              ((constraintRow numCols M (pend.getD i default)).set (st.slackIndex - 1) (-1))),
          base := st.base.set (st.k - 1) (st.slackIndex - 1), k := st.k - 1, slackIndex := st.slackIndex - 1,
          worked := st.worked.set (st.k - 1) true }
      else
        { T := st.T.set (st.k - 1)
            (combineRow st.T st.base (st.k - 1)
              ((constraintRow numCols M (pend.getD i default)).set (st.slackIndex - 1) (-1))),
          base := st.base, k := st.k - 1, slackIndex := st.slackIndex - 1, worked := st.worked } := by
  unfold insertStep
  rw [InsCtx.map_getD_tabC _ _ hi]
  cases ht : tabC (pend.getD i default)
  · simp
  · simp only [Bool.not_true, Bool.false_eq_true, if_false, Bool.true_eq_false]
    cases he : (pend.getD i default).isEq
    · simp only [Bool.not_false, if_true, Bool.false_eq_true, if_false]
      by_cases hsat : isSat.getD i false = true
      · rw [if_pos hsat, if_pos hsat]; rfl
      · rw [if_neg hsat, if_neg hsat]; rfl
    · simp only [Bool.not_true, Bool.false_eq_true, if_false, if_true]
      rfl

namespace InsCtx
variable (C : InsCtx)

/-- in a fresh problem the rows with a basic variable are the worked ones, and the row being inserted is zero at
    their slack columns: the loop :896–:900 combines nothing -/
theorem combineRow_fresh (i : Nat) (st : Ins) (h : C.Inv (i+1) st) (base' : List Nat) (row : Row)
    (hbl : base'.length = C.N) (hbe : ∀ r, r < C.N → r ≠ st.k - 1 → base'.getD r 0 = st.base.getD r 0)
    (hrow : ∀ col, st.slackIndex ≤ col → col < C.SL → row.get col = 0) :
    combineRow st.T base' (st.k - 1) row = row := by
  apply revFold_const
  intro j hj
  simp only
  rw [hbl] at hj
  by_cases hjk : j = st.k - 1
  · rw [hjk]; simp
  · rw [hbe j hj hjk]
    rcases h.base j hj with hb | ⟨hb1, hb2⟩
    · rw [hb]; simp
    · rw [hrow _ hb1 hb2]; simp

/-- one iteration of the insertion loop of a fresh problem, in closed form -/
theorem step_eq (i : Nat) (hi : i < C.pend.length) (st : Ins) (h : C.Inv (i+1) st) :
    C.step i st =
      if tabC (C.pend.getD i default) = false then st
      else if (C.pend.getD i default).isEq = true then
        { T := st.T.set (st.k - 1) (constraintRow C.numCols C.M (C.pend.getD i default)), base := st.base,
          k := st.k - 1, slackIndex := st.slackIndex, worked := st.worked }
      else if C.isSat.getD i false = true then
        { T := st.T.set (st.k - 1) ((constraintRow C.numCols C.M (C.pend.getD i default)).set (st.slackIndex - 1) (-1)),
          base := st.base.set (st.k - 1) (st.slackIndex - 1), k := st.k - 1, slackIndex := st.slackIndex - 1,
          worked := st.worked.set (st.k - 1) true }
      else
        { T := st.T.set (st.k - 1) ((constraintRow C.numCols C.M (C.pend.getD i default)).set (st.slackIndex - 1) (-1)),
          base := st.base, k := st.k - 1, slackIndex := st.slackIndex - 1, worked := st.worked } := by
  have hcmem : C.pend.getD i default ∈ C.pend := by
    rw [List.getD_eq_getElem?_getD, List.getElem?_eq_getElem hi]; exact List.getElem_mem _
  obtain ⟨-, r2, -⟩ := constraintRow_spec C.M C.nn C.n C.j C.numCols C.hM (by have := C.hSL; omega) _
    (C.hlen _ hcmem)
  have hV : 1 + C.j ≤ st.slackIndex := by rw [h.sl_eq]; unfold V; omega
  have hrow1 : ∀ col, st.slackIndex ≤ col → col < C.SL →
      Row.get ((constraintRow C.numCols C.M (C.pend.getD i default)).set (st.slackIndex - 1) (-1)) col = 0 := by
    intro col h1 _
    unfold Row.get
    rw [getD_set, if_neg (by rintro ⟨e, -⟩; omega)]
    exact r2 col (by omega)
  unfold step
  rw [insertStep_eq _ _ _ _ _ hi,
    C.combineRow_fresh i st h _ _ h.lenB (fun _ _ _ => rfl) (fun col h1 _ => r2 col (by omega)),
    C.combineRow_fresh i st h _ _ (by rw [List.length_set]; exact h.lenB)
      (fun r _ hrk => by rw [List.getD_eq_getElem?_getD, List.getElem?_set_ne (Ne.symm hrk), List.getD_eq_getElem?_getD])
      hrow1,
    C.combineRow_fresh i st h _ _ h.lenB (fun _ _ _ => rfl) hrow1]

/-- one step of the insertion loop keeps the invariant -/
theorem step_inv (i : Nat) (hi : i < C.pend.length) (st : Ins) (h : C.Inv (i+1) st) : C.Inv i (C.step i st) := by
  rw [C.step_eq i hi st h]
  have hdrop : C.pend.drop i = C.pend.getD i default :: C.pend.drop (i+1) := by
    rw [List.getD_eq_getElem?_getD, List.getElem?_eq_getElem hi]
    exact List.drop_eq_getElem_cons hi
  set c := C.pend.getD i default with hc
  have hcmem : c ∈ C.pend := by
    rw [hc, List.getD_eq_getElem?_getD, List.getElem?_eq_getElem hi]; exact List.getElem_mem _
  have hk := take_succ_filter C.pend i hi tabC
  have hs := take_succ_filter C.pend i hi slackC
  rw [← hc] at hk hs
  by_cases ht : tabC c = true
  swap
  · -- not a tableau constraint: nothing happens
    have ht' : tabC c = false := by simpa using ht
    have hsl : slackC c = false := by unfold slackC; rw [ht']; rfl
    rw [if_pos ht']
    rw [ht'] at hk; rw [hsl] at hs
    simp only [Bool.false_eq_true, if_false, Nat.add_zero] at hk hs
    refine ⟨by rw [h.k_eq, hk], by rw [h.sl_eq, hs], h.lenT, h.lenB, h.rows, h.base, ?_, ?_⟩
    · intro y h0 hnn hrows c' hc' htc'
      rw [hdrop] at hc'
      rcases List.mem_cons.mp hc' with rfl | hc'
      · rw [ht'] at htc'; cases htc'
      · exact h.sound y h0 hnn hrows c' hc' htc'
    · intro y0 h0 hnn hall
      exact h.complete y0 h0 hnn (fun c' hc' => hall c' (by rw [hdrop]; exact List.mem_cons_of_mem _ hc'))
  · rw [if_neg (by rw [ht]; exact Bool.noConfusion)]
    rw [ht] at hk
    simp only [if_true] at hk
    have hkpos : 1 ≤ st.k := by rw [h.k_eq, hk]; omega
    have hk' : st.k - 1 = ((C.pend.take i).filter tabC).length := by rw [h.k_eq, hk]; omega
    have hkN : st.k ≤ C.N := by
      rw [h.k_eq]; exact filter_length_le_take _ _ _
    have hkT : st.k - 1 < st.T.length := by rw [h.lenT]; omega
    have hkB : st.k - 1 < st.base.length := by rw [h.lenB]; omega
    obtain ⟨r1, r2, r3⟩ := constraintRow_spec C.M C.nn C.n C.j C.numCols C.hM (by have := C.hSL; omega) c (C.hlen c hcmem)
    set row0 := constraintRow C.numCols C.M c with hrow0
    have hSLle : st.slackIndex ≤ C.SL := by
      rw [h.sl_eq]; unfold SL; have := filter_length_le_take C.pend (i+1) slackC; omega
    by_cases he : c.isEq = true
    · -- an equality: no slack column
      have hsl : slackC c = false := by unfold slackC; rw [he]; simp
      rw [hsl] at hs
      simp only [Bool.false_eq_true, if_false, Nat.add_zero] at hs
      rw [if_pos he]
      refine ⟨hk', by simp only; rw [h.sl_eq, hs], by simp [h.lenT], h.lenB, ?_, h.base, ?_, ?_⟩
      · intro r hr1 hr2
        simp only at hr1 ⊢
        rw [getD_set_of_lt _ _ _ _ hkT]
        by_cases hrk : r = st.k - 1
        · rw [if_pos hrk]
          exact ⟨r1, fun col hcol => r2 col (by rcases hcol with ⟨h1, -⟩ | h1 <;> [unfold V at h1; (unfold SL V at h1)] <;> omega)⟩
        · rw [if_neg hrk]
          exact h.rows r (by omega) hr2
      · intro y h0 hnn hrows c' hc' htc'
        simp only at hrows
        rw [hdrop] at hc'
        rcases List.mem_cons.mp hc' with rfl | hc'
        · have := hrows (st.k - 1) (le_refl _) (by omega)
          rw [getD_set_of_lt _ _ _ _ hkT, if_pos rfl, r3 y h0] at this
          unfold ICon.holds; rw [if_pos he]; exact this
        · apply h.sound y h0 hnn (fun r hr1 hr2 => ?_) c' hc' htc'
          have := hrows r (by omega) hr2
          rwa [getD_set_of_lt _ _ _ _ hkT, if_neg (by omega)] at this
      · intro y0 h0 hnn hall
        obtain ⟨y, y1, y2, y3, y4, y5⟩ := h.complete y0 h0 hnn
          (fun c' hc' => hall c' (by rw [hdrop]; exact List.mem_cons_of_mem _ hc'))
        refine ⟨y, y1, y2, y3, y4, fun r hr1 hr2 => ?_⟩
        simp only at hr1 ⊢
        rw [getD_set_of_lt _ _ _ _ hkT]
        by_cases hrk : r = st.k - 1
        · rw [if_pos hrk, r3 y y2, proj_congr C.M C.nn C.n C.j C.hM y y0 y1]
          have := hall c (by rw [hdrop]; exact List.mem_cons_self) ht
          unfold ICon.holds at this; rwa [if_pos he] at this
        · rw [if_neg hrk]; exact y5 r (by omega) hr2
    · -- an inequality: the slack column `slackIndex − 1`
      have he' : c.isEq = false := by simpa using he
      have hsl : slackC c = true := by unfold slackC; rw [ht, he']; rfl
      rw [hsl] at hs
      simp only [if_true] at hs
      have hslpos : C.V + 1 ≤ st.slackIndex := by rw [h.sl_eq, hs]; omega
      have hsi : st.slackIndex - 1 = C.V + ((C.pend.take i).filter slackC).length := by rw [h.sl_eq, hs]; omega
      have hsiV : C.V ≤ st.slackIndex - 1 := by omega
      have hsiSL : st.slackIndex - 1 < C.SL := by omega
      have hsilen : st.slackIndex - 1 < row0.length := by
        rw [r1]; have := C.hSL; unfold SL V at hsiSL; omega
      rw [if_neg he]
      set row1 : Row := row0.set (st.slackIndex - 1) (-1) with hrow1
      have row1_len : row1.length = C.numCols := by rw [hrow1, List.length_set]; exact r1
      have row1_get : ∀ col, row1.get col = if col = st.slackIndex - 1 then -1 else row0.get col := by
        intro col
        unfold Row.get
        rw [hrow1, getD_set]
        by_cases hcol : col = st.slackIndex - 1
        · rw [if_pos ⟨hcol, hsilen⟩, if_pos hcol]
        · rw [if_neg (fun a => hcol a.1), if_neg hcol]
      have row1_val : ∀ y : Val, y 0 = 1 →
          rowVal row1 y = dot c.coeffs (proj C.M y) + (c.k : Rat) - y (st.slackIndex - 1) := by
        intro y h0
        unfold rowVal
        rw [hrow1, dot_set _ _ _ _ hsilen]
        have : row0.getD (st.slackIndex - 1) 0 = 0 := r2 _ (by unfold V at hsiV; omega)
        rw [this]
        have := r3 y h0
        unfold rowVal at this
        rw [this]; push_cast; ring
      -- common part of the proof for both variants
      have main : ∀ (base' : List Nat) (worked' : List Bool), base'.length = C.N →
          (∀ r, r < C.N → r ≠ st.k - 1 → base'.getD r 0 = st.base.getD r 0) →
          (base'.getD (st.k - 1) 0 = st.base.getD (st.k - 1) 0 ∨ base'.getD (st.k - 1) 0 = st.slackIndex - 1) →
          C.Inv i { T := st.T.set (st.k - 1) row1, base := base', k := st.k - 1, slackIndex := st.slackIndex - 1,
                    worked := worked' } := by
        intro base' worked' hbl hbe hbk
        refine ⟨hk', hsi, by simp [h.lenT], hbl, ?_, ?_, ?_, ?_⟩
        · intro r hr1 hr2
          simp only at hr1 ⊢
          rw [getD_set_of_lt _ _ _ _ hkT]
          by_cases hrk : r = st.k - 1
          · rw [if_pos hrk]
            refine ⟨row1_len, fun col hcol => ?_⟩
            rw [row1_get, if_neg (by rcases hcol with ⟨-, h2⟩ | h2 <;> omega)]
            exact r2 col (by rcases hcol with ⟨h1, -⟩ | h1 <;> [unfold V at h1; (unfold SL V at h1)] <;> omega)
          · rw [if_neg hrk]
            obtain ⟨a1, a2⟩ := h.rows r (by omega) hr2
            exact ⟨a1, fun col hcol => a2 col (by rcases hcol with ⟨h1, h2⟩ | h1 <;> [left; right] <;> omega)⟩
        · intro r hr
          simp only
          by_cases hrk : r = st.k - 1
          · rw [hrk]
            rcases hbk with hb | hb
            · rw [hb]
              rcases h.base (st.k - 1) (by omega) with h1 | ⟨h1, h2⟩
              · exact Or.inl h1
              · exact Or.inr ⟨by omega, h2⟩
            · rw [hb]; exact Or.inr ⟨le_refl _, hsiSL⟩
          · rw [hbe r hr hrk]
            rcases h.base r hr with h1 | ⟨h1, h2⟩
            · exact Or.inl h1
            · exact Or.inr ⟨by omega, h2⟩
        · intro y h0 hnn hrows c' hc' htc'
          simp only at hrows
          rw [hdrop] at hc'
          rcases List.mem_cons.mp hc' with rfl | hc'
          · have := hrows (st.k - 1) (le_refl _) (by omega)
            rw [getD_set_of_lt _ _ _ _ hkT, if_pos rfl, row1_val y h0] at this
            unfold ICon.holds; rw [if_neg he]
            have hs0 := hnn (st.slackIndex - 1) (by unfold V at hsiV; omega)
            linarith only [this, hs0]
          · apply h.sound y h0 hnn (fun r hr1 hr2 => ?_) c' hc' htc'
            have := hrows r (by omega) hr2
            rwa [getD_set_of_lt _ _ _ _ hkT, if_neg (by omega)] at this
        · intro y0 h0 hnn hall
          obtain ⟨y, y1, y2, y3, y4, y5⟩ := h.complete y0 h0 hnn
            (fun c' hc' => hall c' (by rw [hdrop]; exact List.mem_cons_of_mem _ hc'))
          have hholds := hall c (by rw [hdrop]; exact List.mem_cons_self) ht
          unfold ICon.holds at hholds; rw [if_neg he] at hholds
          set v := dot c.coeffs (proj C.M y0) + (c.k : Rat) with hv
          have hsi0 : st.slackIndex - 1 ≠ 0 := by unfold V at hsiV; omega
          refine ⟨y.update (st.slackIndex - 1) v, fun col hcol => ?_, ?_, fun col hcol => ?_, fun col h1 h2 => ?_,
            fun r hr1 hr2 => ?_⟩
          · simp only [Val.update]; rw [if_neg (by omega)]; exact y1 col hcol
          · simp only [Val.update]; rw [if_neg (fun a => hsi0 a.symm)]; exact y2
          · simp only [Val.update]
            by_cases hcs : col = st.slackIndex - 1
            · rw [if_pos hcs]; exact hholds
            · rw [if_neg hcs]; exact y3 col hcol
          · simp only at h2
            simp only [Val.update]; rw [if_neg (by rcases h2 with h2 | h2 <;> omega)]
            exact y4 col h1 (by rcases h2 with h2 | h2 <;> [left; right] <;> omega)
          · simp only at hr1 ⊢
            rw [getD_set_of_lt _ _ _ _ hkT]
            have hproj : proj C.M (y.update (st.slackIndex - 1) v) = proj C.M y0 :=
              proj_congr C.M C.nn C.n C.j C.hM _ y0 (fun col hcol => by
                simp only [Val.update]; rw [if_neg (by unfold V at hsiV; omega)]; exact y1 col (by unfold V; omega))
            by_cases hrk : r = st.k - 1
            · rw [if_pos hrk, row1_val _ (by simp only [Val.update]; rw [if_neg (fun a => hsi0 a.symm)]; exact y2), hproj]
              simp only [Val.update, if_true]; ring
            · rw [if_neg hrk]
              unfold rowVal
              rw [dot_update]
              have := (h.rows r (by omega) hr2).2 (st.slackIndex - 1) (Or.inl ⟨hsiV, by omega⟩)
              unfold Row.get at this
              rw [this]
              have := y5 r (by omega) hr2
              unfold rowVal at this
              rw [this]; simp
      by_cases hsat : C.isSat.getD i false = true
      · rw [if_pos hsat]
        refine main _ _ (by rw [List.length_set]; exact h.lenB) (fun r _ hrk => ?_) (Or.inr ?_)
        · rw [getD_set_of_lt _ _ _ _ hkB, if_neg hrk]
        · rw [getD_set_of_lt _ _ _ _ hkB, if_pos rfl]
      · rw [if_neg hsat]
        exact main _ _ h.lenB (fun _ _ _ => rfl) (Or.inl rfl)

/-- **the insertion loop** of a fresh problem -/
theorem insert_spec : C.Inv 0 (revFold C.pend.length C.step C.init) :=
  revFold_inv (fun i st => C.Inv i st) C.step C.pend.length C.init C.init_inv
    (fun i hi st hst => C.step_inv i hi st hst)

end InsCtx

end PPLV.Solver.Pend

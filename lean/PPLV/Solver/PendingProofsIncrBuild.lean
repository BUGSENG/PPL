import PPLV.Solver.PendingProofsIncrAssembly
import PPLV.Solver.PendingProofsMerge
import PPLV.Solver.PendingProofsIncrParse
import PPLV.Solver.PendingProofsChain

/-!
# the set-up of an incremental call in terms of a `GCtx`

`ppcFill_incr_eq`: `ppcFill` on the re-merged state is the insertion loop and the artificial-column loop of the
context whose old rows are the padded rows of the state; `incr_sem`: the solutions of the tableau handed over are
the encodings of the solution set of all constraints; `IncrStart`: the state before an incremental call without
new space dimensions; `ppcRecompute_incr`, `ppcBuild_incr`: the first stages on such a state.
-/
namespace PPLV.Solver.Pend
open PPLV.Lin PPLV.Solver PPLV.Solver.Tab

/-- padding of the old rows to the new width -/
def padRows (T : List Row) (numCols : Nat) : List Row := T.map fun (r : Row) => r ++ zeros (numCols - r.length)

theorem padRows_length (T : List Row) (numCols : Nat) : (padRows T numCols).length = T.length := by
  unfold padRows; simp

theorem padRows_getD (T : List Row) (numCols i : Nat) (hi : i < T.length) :
    (padRows T numCols).getD i [] = T.getD i [] ++ zeros (numCols - (T.getD i []).length) := by
  unfold padRows
  rw [List.getD_eq_getElem?_getD, List.getElem?_map, List.getD_eq_getElem?_getD, List.getElem?_eq_getElem hi]
  rfl

theorem pad_get (r : Row) (k col : Nat) : Row.get (r ++ zeros k) col = r.get col := by
  unfold Row.get
  rw [List.getD_eq_getElem?_getD, List.getD_eq_getElem?_getD]
  by_cases h : col < r.length
  · rw [List.getElem?_append_left h]
  · rw [List.getElem?_append_right (by omega), List.getElem?_eq_none (l := r) (by omega)]
    unfold zeros
    by_cases h2 : col - r.length < k
    · rw [List.getElem?_replicate_of_lt h2]; rfl
    · rw [List.getElem?_eq_none (by simpa using h2)]

theorem padRows_get (T : List Row) (numCols i col : Nat) (hi : i < T.length) :
    ((padRows T numCols).getD i []).get col = (T.getD i []).get col := by
  rw [padRows_getD T numCols i hi, pad_get]

theorem ppcFill_incr_eq (sm : LPState) (unf : List Nat) (p : Parsed) (isSat : List Bool) (C : GCtx) (addArt : Nat)
    (e1 : sm.input_cs.drop sm.first_pending = C.pend)
    (e1' : sm.input_cs.length - sm.first_pending = C.pend.length)
    (e2 : p.isTab = C.pend.map tabC) (e3 : isSat = C.isSat) (e4 : p.rows = C.Nn)
    (e0 : p.rows - isSat.count true + unf.length = addArt)
    (e5 : sm.numCols + (0 + p.slacks + addArt) = C.numCols)
    (e6 : C.numCols - addArt - 1 = C.SL)
    (e7 : padRows sm.tableau C.numCols = C.T0) (e8 : sm.base = C.base0) (e9 : sm.mapping = C.M)
    (e10 : sm.tableau.length = C.R0) :
    ∃ s0, ppcFill sm unf p isSat sm.mapping 0 =
        ppcTrivial s0 (if addArt > 0 then C.SL else 0) (C.artOut unf).2.2.2 ∧
      s0.tableau = (C.artOut unf).1 ∧ s0.base = (C.artOut unf).2.2.1 ∧
      s0.working_cost = reexpressCost (C.artOut unf).1 (C.artOut unf).2.2.1 ((C.artOut unf).2.1.set (C.numCols - 1) 1) ∧
      s0.numCols = C.numCols ∧ s0.mapping = C.M ∧ s0.external_space_dim = sm.external_space_dim ∧
      s0.obj = sm.obj ∧ s0.maximize = sm.maximize ∧ s0.pricing = sm.pricing ∧ s0.input_cs = sm.input_cs := by
  unfold ppcFill
  simp only [List.map_append, pad_replicate]
  rw [e0, e5, e6, e4, e2, e1, e1', e10]
  have e7' : List.map (fun (r : Row) => r ++ zeros (C.numCols - r.length)) sm.tableau = C.T0 := e7
  rw [e7', e8, e9, e3]
  exact ⟨_, rfl, rfl, rfl, rfl, rfl, rfl, rfl, rfl, rfl, rfl, rfl⟩

theorem csSem_append (a b : List ICon) (x : Val) : csSem (a ++ b) x ↔ csSem a x ∧ csSem b x := by
  unfold csSem
  constructor
  · intro h; exact ⟨fun c hc => h c (List.mem_append_left _ hc), fun c hc => h c (List.mem_append_right _ hc)⟩
  · intro ⟨h1, h2⟩ c hc
    rcases List.mem_append.mp hc with h | h
    · exact h1 c h
    · exact h2 c h

namespace GCtx
variable (C : GCtx)

/-- the old rows are the padded rows of `Tm` (width `ncm`, sign column `ncm − 1` = `V`) -/
structure OldRows (Tm : List Row) (ncm : Nat) : Prop where
  t0 : C.T0 = padRows Tm C.numCols
  v : C.V = ncm - 1
  nc2 : 2 ≤ ncm

theorem old_rowVal (Tm : List Row) (ncm : Nat) (hO : C.OldRows Tm ncm) (r : Nat) (hr : r < Tm.length) (y : Val) :
    rowVal (C.T0.getD r []) y = rowVal (Tm.getD r []) y := by
  unfold rowVal
  apply dot_congr_support
  intro j
  left
  have := padRows_get Tm C.numCols r j hr
  unfold Row.get at this
  rw [hO.t0]; exact this

theorem R0_eq (Tm : List Row) (ncm : Nat) (hO : C.OldRows Tm ncm) : C.R0 = Tm.length := by
  unfold R0; rw [hO.t0, padRows_length]

/-- **solutions of the tableau handed over by an incremental set-up** -/
theorem incr_sem (unf : List Nat) (hU : C.Unf unf) (cs0 : List ICon) (rm : List Bool) (Tm : List Row) (ncm : Nat)
    (hO : C.OldRows Tm ncm) (hG : OldGood cs0 C.n rm Tm C.M ncm)
    (Hm7 : ∀ c ∈ C.pend, (classify c).1 = .m7 → (classify c).2 < C.n →
      (C.M.getD ((classify c).2 + 1) (0, 0)).2 = 0 ∨
      ∃ c' ∈ C.pend, ((classify c').1 = .m45 ∨ (classify c').1 = .m6) ∧ (classify c').2 = (classify c).2)
    (Hrm : ∀ v, v < C.n → rm.getD v false = true → ∃ c ∈ C.pend, (classify c).1 = .m7 ∧ (classify c).2 = v) :
    (∀ y : Val, y 0 = 1 → (∀ j, 1 ≤ j → 0 ≤ y j) → (∀ j, C.SL ≤ j → j < C.numCols → y j = 0) →
      Sol (C.artOut unf).1 y → csSem (cs0 ++ C.pend) (proj C.M y)) ∧
    (∀ x : Val, csSem (cs0 ++ C.pend) x →
      ∃ y : Val, y 0 = 1 ∧ (∀ j, 1 ≤ j → 0 ≤ y j) ∧ (∀ j, C.SL ≤ j → y j = 0) ∧ Sol (C.artOut unf).1 y ∧
        (∀ i, i < C.n → proj C.M y i = x i) ∧ NegZero C.M C.n x y) := by
  have hV1 := C.V1
  have hjV := C.hjV
  have hR0 := C.R0_eq Tm ncm hO
  constructor
  · intro y h0 hnn hz hsol
    obtain ⟨hold, htab⟩ := C.asm_sound unf hU y h0 hnn hz hsol
    rw [csSem_append]
    constructor
    · -- the processed constraints
      have hp0 : Pos0 ncm (trunc C.V y) := by
        refine ⟨by unfold trunc; rw [if_pos (by omega)]; exact h0, fun j hj => ?_, fun j hj => ?_⟩
        · unfold trunc; split
          · exact hnn j hj
          · exact le_refl _
        · unfold trunc; rw [if_neg (by rw [hO.v]; omega)]
      have hs0 : Sol Tm (trunc C.V y) := by
        intro r hr
        rw [← C.old_rowVal Tm ncm hO r hr, C.old_congr r (by rw [hR0]; exact hr) _ y
          (fun col hcol => by unfold trunc; rw [if_pos hcol])]
        exact hold r (by rw [hR0]; exact hr)
      have := hG.sound _ hp0 hs0
      rwa [proj_congr C.M C.nn C.n C.j C.hM (trunc C.V y) y
        (fun col hcol => by unfold trunc; rw [if_pos (by omega)])] at this
    · intro c hc
      by_cases ht : tabC c = true
      · exact htab c hc ht
      · rcases hcl : classify c with ⟨cls, v⟩
        have htc := tabC_of hcl
        cases cls <;> simp only [tabCls] at htc <;> try exact absurd htc ht
        · exact trivTrue_holds hcl _
        · rw [m7_holds_iff hcl]
          have hv : v < C.n := lt_of_lt_of_le (class_var_lt hcl rfl) (C.hlen c hc)
          have h7 := Hm7 c hc (by rw [hcl]) (by rw [hcl]; exact hv)
          rw [hcl] at h7
          simp only at h7
          rcases h7 with hm2 | ⟨c', hc', hcls', hv'⟩
          · obtain ⟨c1, -, -, -⟩ := C.hM.cols v hv
            unfold proj
            simp only [hm2, bne_self_eq_false, Bool.false_eq_true, if_false, sub_zero]
            exact hnn _ c1
          · rcases hcl' : classify c' with ⟨cls', v'⟩
            rw [hcl'] at hcls' hv'
            simp only at hcls' hv'
            subst hv'
            have htc' := tabC_of hcl'
            have hf : forcesNonneg cls' = true := by rcases hcls' with h | h <;> rw [h] <;> rfl
            have ht' : tabC c' = true := by rw [htc']; rcases hcls' with h | h <;> rw [h] <;> rfl
            exact nonneg_of_class hcl' hf _ (htab c' hc' ht')
  · intro x hx
    rw [csSem_append] at hx
    obtain ⟨hx0, hxp⟩ := hx
    have hxrm : ∀ v, v < C.n → rm.getD v false = true → 0 ≤ x v := by
      intro v hv hr
      obtain ⟨c, hc, h7, hcv⟩ := Hrm v hv hr
      rcases hcl : classify c with ⟨cls, v'⟩
      rw [hcl] at h7 hcv
      simp only at h7 hcv
      subst h7; subst hcv
      exact (m7_holds_iff hcl x).mp (hxp c hc)
    obtain ⟨y0, ⟨p1, p2, p3⟩, p4, p5, p6⟩ := hG.complete x hx0 hxrm
    have hold : ∀ r, r < C.R0 → rowVal (C.T0.getD r []) y0 = 0 := by
      intro r hr
      rw [C.old_rowVal Tm ncm hO r (by rw [← hR0]; exact hr)]
      exact p4 r (by rw [← hR0]; exact hr)
    have hy0V : ∀ col, C.V ≤ col → y0 col = 0 := fun col hcol => p3 col (by rw [← hO.v]; exact hcol)
    have hall : ∀ c ∈ C.pend, tabC c = true → c.holds (proj C.M y0) := by
      intro c hc _
      have := hxp c hc
      unfold ICon.holds at this ⊢
      rwa [dot_congr_lt c.coeffs (proj C.M y0) x (fun u hu => p5 u (lt_of_lt_of_le hu (C.hlen c hc)))]
    obtain ⟨y, y1, y2, y3, y4, y5⟩ := C.asm_complete unf hU y0 p1 p2 hold hy0V hall
    refine ⟨y, y2, y3, y4, y5, fun i hi => ?_, fun v hv hsplit hxv => ?_⟩
    · rw [proj_congr C.M C.nn C.n C.j C.hM y y0 (fun col hcol => y1 col (by omega))]
      exact p5 i hi
    · obtain ⟨-, c2, -, c4⟩ := C.hM.cols v hv
      have hhi : hiCol (C.M.getD (v+1) (0, 0)) = (C.M.getD (v+1) (0, 0)).2 := by
        unfold hiCol; rw [if_neg hsplit]
      rw [y1 _ (by rw [hhi] at c4; omega)]
      exact p6 v hv hsplit hxv

end GCtx

/-- the state before an incremental call of `process_pending_constraints` without new space dimensions: the first
    `first_pending` constraints are processed (`ReadyS`), the others are pending -/
structure IncrStart (s : LPState) : Prop where
  npos : 0 < s.external_space_dim
  dims : s.internal_space_dim = s.external_space_dim
  lens : ∀ c ∈ s.input_cs, c.coeffs.length ≤ s.external_space_dim
  ready : ReadyS (s.input_cs.take s.first_pending) s.external_space_dim s

theorem bsol_padRows (T : List Row) (base : List Nat) (nc : Nat) (h : base.length = T.length) :
    bsol (padRows T nc) base = bsol T base := by
  funext j
  unfold bsol
  split
  · rfl
  · cases hr : rowOf base j with
    | none => rfl
    | some i =>
      simp only
      obtain ⟨hi, _⟩ := rowOf_some hr
      rw [padRows_get _ _ _ _ (h ▸ hi), padRows_get _ _ _ _ (h ▸ hi)]

theorem GCtx.wcount0 (C : GCtx) (h : C.isSat.length = C.pend.length) : C.wcount 0 = C.isSat.count true := by
  unfold GCtx.wcount
  rw [List.drop_zero, ← h]
  exact count_true_range C.isSat

theorem ppcRecompute_incr (s : LPState) (hS : IncrStart s) : ppcRecompute s = (computeGenerator s, true) := by
  unfold ppcRecompute
  rw [if_pos (by rw [hS.dims]; exact hS.npos), hS.dims]
  simp

theorem ppcMapping_same (sm : LPState) (l : List Bool) (k : Nat) (h : sm.external_space_dim = sm.internal_space_dim) :
    ppcMapping sm l k = (sm.mapping, 0, 0) := by
  unfold ppcMapping
  rw [if_neg (by omega)]

/-- the "already satisfied" flags after their two resets, in an incremental call -/
def isSatF (s1 : LPState) (p : Parsed) : List Bool :=
  if (!(ppcMerge s1 p.isRemerge).2.isEmpty) = true then List.replicate (s1.input_cs.length - s1.first_pending) false
  else p.isSat

theorem ppcBuild_incr (s1 : LPState) (p : Parsed)
    (h : (ppcMerge s1 p.isRemerge).1.external_space_dim = (ppcMerge s1 p.isRemerge).1.internal_space_dim) :
    ppcBuild s1 true p =
      ppcFill (ppcMerge s1 p.isRemerge).1 (ppcMerge s1 p.isRemerge).2 p (isSatF s1 p)
        (ppcMerge s1 p.isRemerge).1.mapping 0 := by
  unfold ppcBuild isSatF
  simp only [Bool.not_true, Bool.false_eq_true, if_false]
  rw [ppcMapping_same _ _ _ h]

end PPLV.Solver.Pend

import PPLV.Solver.PendingProofsIncrSetup
import PPLV.Solver.PendingProofsIncrSpec
import PPLV.Solver.PendingProofsOracleIncr

/-!
# the incremental call end to end: `ppc_incremental`, `after_ppc_second`, `lp_incremental_correct`
-/
namespace PPLV.Solver.Pend
open PPLV.Lin PPLV.Solver PPLV.Solver.Tab

/-- **an incremental call of `process_pending_constraints`**, from the state before the call only -/
theorem ppc_incremental (fc : Chooser) (hfc : ChooserOK fc) (f1 : Nat) (s sR : LPState) (hS : IncrStart s)
    (hobj : s.obj.coeffs.length ≤ s.external_space_dim)
    (h : processPendingConstraints fc f1 s = some sR) :
    (sR.status = .UNSATISFIABLE ∧ ∀ x, ¬ csSem s.input_cs x) ∨
    (ReadyS s.input_cs s.external_space_dim sR ∧ sR.input_cs = s.input_cs ∧ SameData s sR ∧
      (sR.status = .SATISFIABLE ∨
        ((sR.status = .OPTIMIZED ∨ sR.status = .UNBOUNDED) ∧ LPClaims s.input_cs s.problem sR))) := by
  unfold processPendingConstraints at h
  cases hsetup : ppcSetup s with
  | done sd =>
    rw [hsetup] at h
    simp only [Option.some.injEq] at h
    subst h
    obtain ⟨k1, k2, k3, k4, k5⟩ := ppcSetup_done_keeps s sd hsetup
    rcases incr_done s hS hobj sd hsetup with ⟨a1, a2⟩ | ⟨a1, a2, a3⟩
    · exact Or.inl ⟨a1, a2⟩
    · exact Or.inr ⟨a2, k4, ⟨k1, k2, k3, k5⟩, Or.inr ⟨a1, a3⟩⟩
  | phase1 s' b e =>
    rw [hsetup] at h
    simp only at h
    obtain ⟨hP, hmap, hG, gS⟩ := incr_setup s hS s' b e hsetup
    obtain ⟨k1, k2, k3, k4, k5⟩ := ppcSetup_keeps s s' b e hsetup
    cases hrun : computeSimplexWith (chooserOf fc s'.pricing) f1 s'.tab with
    | none => rw [hrun] at h; cases h
    | some res =>
      obtain ⟨ok, t⟩ := res
      rw [hrun] at h
      simp only [Option.some.injEq] at h
      subst h
      rcases ppc_chain fc hfc f1 s.input_cs s.external_space_dim s' b e hP hG hmap ok t hrun with
        ⟨a1, a2⟩ | ⟨a1, a2, a3, a4, a5, a6⟩
      · exact Or.inl ⟨a1, a2⟩
      · right
        obtain ⟨c1, c2⟩ := chain_completeS fc hfc f1 s.input_cs s.external_space_dim s' b e hP hmap gS ok t hrun a1
        exact ⟨⟨a2, c1, c2⟩, by rw [ppcFinish_input_cs, k4], ⟨by rw [a3, k1], by rw [a4, k2], by rw [a6, k3],
          by rw [a5, k5]⟩, Or.inl a1⟩

/-- `second_phase()` after such a call -/
theorem after_ppc_second (fc : Chooser) (hfc : ChooserOK fc) (f2 : Nat) (s sR s2 : LPState)
    (hn : 0 < s.external_space_dim) (hl : ∀ c ∈ s.input_cs, c.coeffs.length ≤ s.external_space_dim)
    (hobj : s.obj.coeffs.length ≤ s.external_space_dim)
    (hR : ReadyS s.input_cs s.external_space_dim sR) (hd : SameData s sR)
    (hst : sR.status = .SATISFIABLE ∨
      ((sR.status = .OPTIMIZED ∨ sR.status = .UNBOUNDED) ∧ LPClaims s.input_cs s.problem sR))
    (h2 : secondPhase fc f2 sR = some s2) :
    LPClaims s.input_cs s.problem s2 ∧ ReadyS s.input_cs s.external_space_dim s2 := by
  obtain ⟨d1, d2, d3, d4⟩ := hd
  rcases hst with hsat | ⟨hst, hcl⟩
  · exact ⟨secondPhase_fresh_witness fc hfc f2 s sR s2 hsat hR.ready d1 d2 d3 hn hl hobj h2,
      readyS_after_secondPhase fc hfc f2 s.input_cs s.external_space_dim sR s2 hsat hR (by rw [d1]; exact hobj) h2⟩
  · have : s2 = sR := by
      unfold secondPhase at h2
      rw [if_pos (by rcases hst with h | h <;> rw [h] <;> rfl)] at h2
      simp only [Option.some.injEq] at h2
      exact h2.symm
    subst this
    exact ⟨hcl, hR⟩

/-- **END TO END, incremental**: `process_pending_constraints()` on a state whose first `first_pending` constraints
    are processed, then `second_phase()` -/
theorem lp_incremental_correct (fc : Chooser) (hfc : ChooserOK fc) (f1 f2 : Nat) (s sR : LPState) (hS : IncrStart s)
    (hobj : s.obj.coeffs.length ≤ s.external_space_dim)
    (h : processPendingConstraints fc f1 s = some sR) :
    (sR.status = .UNSATISFIABLE ∧ ∀ x, ¬ csSem s.input_cs x) ∨
    (sR.status ≠ .UNSATISFIABLE ∧ (∃ x, csSem s.input_cs x) ∧ ReadyS s.input_cs s.external_space_dim sR ∧
      ∀ s2, secondPhase fc f2 sR = some s2 →
        LPClaims s.input_cs s.problem s2 ∧ ReadyS s.input_cs s.external_space_dim s2) := by
  rcases ppc_incremental fc hfc f1 s sR hS hobj h with a | ⟨a1, a2, a3, a4⟩
  · exact Or.inl a
  · right
    refine ⟨?_, ready_exists _ _ _ a1.ready, a1, fun s2 h2 =>
      after_ppc_second fc hfc f2 s sR s2 hS.npos hS.lens hobj a1 a3 a4 h2⟩
    rcases a4 with h | ⟨h | h, -⟩ <;> rw [h] <;> intro hh <;> cases hh

end PPLV.Solver.Pend

import PPLV.Solver.PIPCoreProofsCut
import Mathlib.Tactic.Linarith
import Mathlib.Tactic.Ring
/-!
# the cut step: the facts the semantic theorems need (`Cut.CutFacts`) about the node
`generate_cut` builds in the two reachable cases (`Cut.ndNP`, `Cut.ndP`, `PIPCoreGenerateCut.lean`).

The re-use of an existing artificial parameter (`findArt … = some j`) is UNREACHABLE when the
parameters of the node own the last columns of `t` (`ArtsWF`, `n0 + arts.length = nt`): the numerator of
the candidate has `nt` entries, the numerator of the `j`-th parameter of the node `n0 + j < nt`
(`Cut.findArt_none_of_setting`).  This mirrors the code: `Artificial_Parameter::operator==` compares the
space dimensions first (PIP_Tree.cc:1004).
-/
namespace PPLV.PIPCore

/-- the hypotheses under which a cut is generated in `solve`: `n0` = number of parameter columns before
    the node's own artificial parameters, `qpre` = the parameter vector on those columns -/
structure CutSetting (n0 : Nat) (qpre : List Int) (nd : SolNode) (ctx : Mat) : Prop where
  wf : WF nd
  nt_eq : n0 + nd.arts.length = nd.tab.nt
  arts_wf : ArtsWF n0 nd.arts
  qpre_ok : ParamVec n0 qpre
  q_ok : ParamVec nd.tab.nt (extendArts nd.arts qpre)
  ctx_cols : ∀ r ∈ ctx, r.length = nd.tab.nt

namespace Cut

/-! ### the setting makes the re-use unreachable -/

theorem rowT_length {n0 : Nat} {qpre : List Int} {nd : SolNode} {ctx : Mat}
    (hs : CutSetting n0 qpre nd ctx) {index : Nat} (hi : index < nd.tab.s.length) :
    (mrow nd.tab.t index).length = nd.tab.nt :=
  hs.wf.t_cols _ (mrow_mem (by rw [← hs.wf.rows_eq]; exact hi))

theorem findArt_none_of_setting {n0 : Nat} {qpre : List Int} {nd : SolNode} {ctx : Mat}
    (hs : CutSetting n0 qpre nd ctx) {index : Nat} (hi : index < nd.tab.s.length) :
    findArt nd.arts (ArtP.mk' (apNum nd index) nd.tab.den) = none := by
  apply findArt_none
  intro j hj
  rw [mk'_length _ _ hs.wf.den_pos, (hs.arts_wf j hj).1]
  unfold apNum
  rw [List.length_map, rowT_length hs hi, ← hs.nt_eq]
  omega

/-- the two reachable results -/
theorem gc_cases {n0 : Nat} {qpre : List Int} {nd : SolNode} {ctx : Mat}
    (hs : CutSetting n0 qpre nd ctx) {index : Nat} (hi : index < nd.tab.s.length) :
    (isParam nd index = false ∧ generateCut nd ctx index = (ndNP nd index, ctx)) ∨
    (isParam nd index = true ∧ generateCut nd ctx index = (ndP nd index, ctxP nd ctx index)) := by
  cases h : isParam nd index with
  | false => exact Or.inl ⟨rfl, gc_np nd ctx index h⟩
  | true => exact Or.inr ⟨rfl, gc_p nd ctx index h (findArt_none_of_setting hs hi)⟩

/-! ### list lemmas -/

theorem rset_append_len : ∀ (a : Row) (x v : Int), rset (a ++ [x]) a.length v = a ++ [v]
  | [], _, _ => rfl
  | b :: a, x, v => by
    show b :: rset (a ++ [x]) a.length v = b :: (a ++ [v])
    rw [rset_append_len a x v]

theorem mrow_addZeroColumn (m : Mat) (i : Nat) (h : i < m.length) :
    mrow (addZeroColumn m) i = mrow m i ++ [0] := by
  unfold mrow addZeroColumn
  rw [List.getD_eq_getElem?_getD, List.getD_eq_getElem?_getD, List.getElem?_map,
    List.getElem?_eq_getElem h]
  rfl

theorem getD_append_lt {α : Type} (l : List α) (x d : α) (k : Nat) (h : k < l.length) :
    (l ++ [x]).getD k d = l.getD k d := by
  rw [List.getD_eq_getElem?_getD, List.getD_eq_getElem?_getD, List.getElem?_append_left h]

theorem getD_append_len {α : Type} (l : List α) (x d : α) (k : Nat) (h : k = l.length) :
    (l ++ [x]).getD k d = x := by
  rw [h, List.getD_eq_getElem?_getD, List.getElem?_append_right (le_refl _)]
  simp

theorem getD_append_gt {α : Type} (l : List α) (x d : α) (k : Nat) (h : l.length < k) :
    (l ++ [x]).getD k d = d := by
  rw [List.getD_eq_getElem?_getD, List.getElem?_eq_none (by simp; omega)]
  rfl

theorem apNum_cons_form (nd : SolNode) (index : Nat) (h : 0 < (mrow nd.tab.t index).length) :
    negmod nd.tab.den (rget (mrow nd.tab.t index) 0)
      :: ((mrow nd.tab.t index).drop 1).map (negmod nd.tab.den) = apNum nd index := by
  unfold apNum
  cases hr : mrow nd.tab.t index with
  | nil => rw [hr] at h; simp at h
  | cons a as => simp [rget_cons_zero]

/-- the value `e` of the numerator of the artificial parameter -/
def eVal (nd : SolNode) (index : Nat) (q : List Int) : Int := dot (apNum nd index) q

theorem eVal_nonneg (nd : SolNode) (index : Nat) (q : List Int) (hd : 0 < nd.tab.den)
    (hq : ∀ b ∈ q, 0 ≤ b) : 0 ≤ eVal nd index q := by
  apply dot_nonneg _ _ _ hq
  intro a ha
  obtain ⟨b, _, rfl⟩ := List.mem_map.mp ha
  exact negmod_nonneg _ _ hd

/-- non-parametric cut: `e < den` -/
theorem eVal_lt_of_np (nd : SolNode) (index : Nat) (q : List Int) (n : Nat) (hd : 0 < nd.tab.den)
    (hq : ParamVec n q) (h : isParam nd index = false) : eVal nd index q < nd.tab.den := by
  obtain ⟨ps, rfl, _⟩ := hq.cons_form
  unfold eVal apNum
  unfold isParam at h
  rw [List.any_eq_false] at h
  cases hr : mrow nd.tab.t index with
  | nil => rw [List.map_nil, dot_nil_left]; exact hd
  | cons a as =>
    rw [hr] at h
    rw [List.map_cons, dot_cons, mul_one]
    have hz : dot (as.map (negmod nd.tab.den)) ps = 0 := by
      apply dot_zero
      intro x hx
      obtain ⟨b, hb, rfl⟩ := List.mem_map.mp hx
      apply negmod_zero
      have := h b (by simpa using hb)
      simpa using this
    rw [hz, add_zero]
    exact negmod_lt _ _ hd

/-! ### the facts the semantic theorems use -/

structure CutFacts (nd : SolNode) (index : Nat) (q : List Int) (nd' : SolNode) (q' : List Int) :
    Prop where
  s_eq : nd'.tab.s = nd.tab.s ++ [cutS nd index]
  den_eq : nd'.tab.den = nd.tab.den
  ns_eq : nd'.tab.ns = nd.tab.ns
  vr_eq : nd'.varRow = nd.varRow ++ [nd.tab.t.length + nd.tab.ns]
  vc_eq : nd'.varColumn = nd.varColumn
  basis_eq : nd'.basis = nd.basis ++ [false]
  mapping_eq : nd'.mapping = nd.mapping ++ [nd.tab.t.length]
  sign_eq : nd'.sign = nd.sign ++ [.negative]
  cons_eq : nd'.cons = nd.cons
  big_eq : nd'.big = nd.big
  t_old : ∀ i, i < nd.tab.t.length → dot (mrow nd'.tab.t i) q' = dot (mrow nd.tab.t i) q
  t_new : dot (mrow nd'.tab.t nd.tab.t.length) q' = - (eVal nd index q % nd.tab.den)

theorem facts_np (nd : SolNode) (index : Nat) (q : List Int) (n : Nat) (hd : 0 < nd.tab.den)
    (hq : ParamVec n q) (h : isParam nd index = false) :
    CutFacts nd index q (ndNP nd index) q := by
  refine ⟨rfl, rfl, rfl, rfl, rfl, rfl, rfl, rfl, rfl, rfl, ?_, ?_⟩
  · intro i hi
    show dot (mrow (nd.tab.t ++ [_]) i) q = _
    rw [mrow_append_lt _ hi]
  · show dot (mrow (nd.tab.t ++ [_]) nd.tab.t.length) q = _
    rw [mrow_append_len]
    have h1 := dot_negmod nd.tab.den (mrow nd.tab.t index) q
    have h2 : eVal nd index q % nd.tab.den = eVal nd index q :=
      Int.emod_eq_of_lt (eVal_nonneg nd index q hd hq.2.2) (eVal_lt_of_np nd index q n hd hq h)
    rw [h2]
    unfold eVal apNum
    rw [h1]; ring

theorem facts_p (nd : SolNode) (index : Nat) (q : List Int)
    (hcols : ∀ r ∈ nd.tab.t, r.length = nd.tab.nt) (hq : q.length = nd.tab.nt)
    (hi : index < nd.tab.t.length) :
    CutFacts nd index q (ndP nd index) (q ++ [eVal nd index q / nd.tab.den]) := by
  have hlen : ∀ i, i < nd.tab.t.length → (mrow nd.tab.t i).length = q.length :=
    fun i hi => by rw [hq]; exact hcols _ (mrow_mem hi)
  refine ⟨rfl, rfl, rfl, rfl, rfl, rfl, rfl, rfl, rfl, rfl, ?_, ?_⟩
  · intro i hi'
    show dot (mrow (addZeroColumn nd.tab.t ++ [_]) i) _ = _
    rw [mrow_append_lt _ (by simp [addZeroColumn]; exact hi'),
      mrow_addZeroColumn _ _ hi', dot_append_single _ _ _ _ (hlen i hi')]
    ring
  · show dot (mrow (addZeroColumn nd.tab.t ++ [_]) nd.tab.t.length) _ = _
    have hl : nd.tab.t.length = (addZeroColumn nd.tab.t).length := by simp [addZeroColumn]
    rw [hl, mrow_append_len, mrow_addZeroColumn _ _ hi, List.map_append, List.map_singleton]
    have hnt : nd.tab.nt = ((mrow nd.tab.t index).map (cutf nd.tab.den)).length := by
      rw [List.length_map, hlen index hi, hq]
    rw [hnt, rset_append_len,
      dot_append_single _ _ _ _ (by rw [List.length_map]; exact hlen index hi), Int.emod_def]
    unfold eVal apNum
    rw [dot_negmod]
    ring

end Cut
end PPLV.PIPCore

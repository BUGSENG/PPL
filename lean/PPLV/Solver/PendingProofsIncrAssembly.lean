import PPLV.Solver.PendingProofsGInsert
import PPLV.Solver.PendingProofsArtG
import PPLV.Solver.PendingProofsArtificials
import PPLV.Solver.PendingProofsSetupCanon

/-!
# incremental set-up, abstract assembly

After the insertion loop (`GCtx.fin`) and the artificial-column loop (`GCtx.artOut`): the tableau handed to the first
phase is canonical (`asm_canonTB`), its non-negative solutions with the artificials at 0 are the encodings of the
solution set (`asm_rows`, `asm_sound`, `asm_complete`), its cost row is the first-phase cost (`asm_cost`);
`phase1_of_canonTB`: `Phase1Start` from a canonical tableau.
-/
namespace PPLV.Solver.Pend
open PPLV.Lin PPLV.Solver PPLV.Solver.Tab

theorem normRow_ratio (r : Row) (b : Nat) :
    -(((normRow r).get 0 : Int) : Rat) / (((normRow r).get b : Int) : Rat) =
      -((r.get 0 : Int) : Rat) / ((r.get b : Int) : Rat) := by
  rw [normRow_get, normRow_get]
  split
  · push_cast; rw [neg_div_neg_eq]
  · rfl

theorem normRow_get_zero (r : Row) (col : Nat) : (normRow r).get col = 0 ↔ r.get col = 0 := by
  rw [normRow_get]; split
  · exact neg_eq_zero
  · exact Iff.rfl

theorem normRow_get0_nonpos (r : Row) : (normRow r).get 0 ≤ 0 := by
  rw [normRow_get]; split <;> omega

namespace GCtx
variable (C : GCtx)

def fin : Ins := revFold C.pend.length C.step C.init

/-- the rows made unfeasible by re-merging, and the column count of the call -/
structure Unf (unf : List Nat) : Prop where
  lt : ∀ r, r ∈ unf → r < C.R0
  nodup : unf.Nodup
  base : ∀ r, r < C.R0 → (C.base0.getD r 0 = 0 ↔ r ∈ unf)
  feas : ∀ r, r < C.R0 → C.base0.getD r 0 ≠ 0 →
    0 ≤ -(((C.T0.getD r []).get 0 : Int) : Rat) / (((C.T0.getD r []).get (C.base0.getD r 0) : Int) : Rat)
  nc : C.numCols = C.SL + unf.length + (C.Nn - C.wcount 0) + 1

def artOut (unf : List Nat) : List Row × Row × List Nat × Nat :=
  ppcArtificials unf C.R0 C.N C.fin.worked (ppcNormalizeSigns C.fin.T) (zeros C.numCols) C.fin.base C.SL

theorem fin_inv : C.GInv 0 C.fin := C.ginsert_spec

theorem fin_k : C.fin.k = C.R0 := by
  have := C.fin_inv.k_eq; simpa using this

theorem fin_sl : C.fin.slackIndex = C.V := by
  have := C.fin_inv.sl_eq; simpa using this

theorem count_notworked : ((List.range C.N).drop C.R0).countP (fun r => !C.fin.worked.getD r false) =
    C.Nn - C.wcount 0 := by
  have inv := C.fin_inv
  have h1 := countP_not_range C.fin.worked
  rw [inv.lenW, inv.cnt] at h1
  have h2 : (List.range C.N).countP (fun r => !C.fin.worked.getD r false) =
      ((List.range C.N).take C.R0).countP (fun r => !C.fin.worked.getD r false) +
      ((List.range C.N).drop C.R0).countP (fun r => !C.fin.worked.getD r false) := by
    conv_lhs => rw [← List.take_append_drop C.R0 (List.range C.N)]
    rw [List.countP_append]
  have h3 : ((List.range C.N).take C.R0).countP (fun r => !C.fin.worked.getD r false) = C.R0 := by
    have hl : ((List.range C.N).take C.R0).length = C.R0 := by
      rw [List.length_take, List.length_range]; unfold N; omega
    have hc : ((List.range C.N).take C.R0).countP (fun r => !C.fin.worked.getD r false) =
        ((List.range C.N).take C.R0).length := by
      apply List.countP_eq_length.mpr
      intro a ha
      have ha' : a < C.R0 := by
        obtain ⟨i, hi, rfl⟩ := List.mem_take_iff_getElem.mp ha
        rw [List.getElem_range]; omega
      rw [inv.oldW a ha']; rfl
    rw [hc, hl]
  have h3' : True := by
    have ha : True := trivial
    have hl : True := trivial
    trivial
  unfold N at h1 h2 h3 ⊢
  omega

theorem art (unf : List Nat) (hU : C.Unf unf) :
    ArtOutG C.R0 C.N C.numCols C.SL unf C.fin.worked (ppcNormalizeSigns C.fin.T) C.fin.base (C.artOut unf) := by
  have inv := C.fin_inv
  have hra := C.rows_all _ _ inv
  apply artSpecG
  · unfold N; omega
  · rw [normalize_length]; exact inv.lenT
  · exact inv.lenB
  · intro r hr; rw [normalize_getD, normRow_length]; exact (hra r hr).1
  · intro r hr col hcol
    rw [normalize_getD, normRow_get_zero]; exact (hra r hr).2 col (Or.inr hcol)
  · exact hU.lt
  · exact hU.nodup
  · rw [C.count_notworked, hU.nc]; omega
  · rw [hU.nc]; omega

/-- which rows get an artificial column -/
def IsArt (unf : List Nat) (r : Nat) : Prop := r ∈ unf ∨ (C.R0 ≤ r ∧ C.fin.worked.getD r false = false)

/-- facts about a row that keeps its basic variable -/
theorem keep_facts (unf : List Nat) (hU : C.Unf unf) (r : Nat) (hr : r < C.N) (hA : ¬ C.IsArt unf r) :
    C.fin.base.getD r 0 ≠ 0 ∧ 1 ≤ C.fin.base.getD r 0 ∧ C.fin.base.getD r 0 < C.SL ∧
    0 ≤ -(((C.fin.T.getD r []).get 0 : Int) : Rat) / (((C.fin.T.getD r []).get (C.fin.base.getD r 0) : Int) : Rat) := by
  have inv := C.fin_inv
  have hk := C.fin_k
  have hV1 := C.V1
  have hVSL : C.V ≤ C.SL := by unfold SL; omega
  unfold IsArt at hA
  by_cases h1 : r < C.R0
  · have hnu : r ∉ unf := fun a => hA (Or.inl a)
    have hb : C.base0.getD r 0 ≠ 0 := fun a => hnu ((hU.base r h1).mp a)
    rw [inv.oldB r h1, inv.oldT r h1]
    obtain ⟨o1, o2⟩ := C.oRange r h1 hb
    exact ⟨hb, o1, by omega, hU.feas r h1 hb⟩
  · have hw : C.fin.worked.getD r false = true := by
      cases hw : C.fin.worked.getD r false
      · exact absurd (Or.inr ⟨by omega, hw⟩) hA
      · rfl
    have hb := (inv.w_iff r (by rw [hk]; omega) hr).mp hw
    obtain ⟨b1, b2⟩ := inv.bRange r (by rw [hk]; omega) hr hb
    rw [C.fin_sl] at b1
    exact ⟨hb, by omega, b2, inv.feasNew r (by rw [hk]; omega) hr hb⟩

/-- **the tableau handed to the first phase is canonical and feasible** -/
theorem asm_canonTB (unf : List Nat) (hU : C.Unf unf) :
    CanonTB (C.artOut unf).1 (C.artOut unf).2.2.1 C.numCols := by
  have inv := C.fin_inv
  have art := C.art unf hU
  have hra := C.rows_all _ _ inv
  have hV1 := C.V1
  have hVSL : C.V ≤ C.SL := by unfold SL; omega
  have hSLn : C.SL ≤ C.numCols - 1 := by rw [hU.nc]; omega
  have hN : (C.artOut unf).1.length = C.N := art.lenT
  have hpbT : C.fin.T.length = C.N := inv.lenT
  have zero_hi : ∀ r, r < C.N → ∀ col, C.SL ≤ col → ((ppcNormalizeSigns C.fin.T).getD r []).get col = 0 := by
    intro r hr col hcol
    rw [normalize_getD, normRow_get_zero]; exact (hra r hr).2 col (Or.inr hcol)
  constructor
  · rw [art.lenB, art.lenT]
  · rw [hU.nc]; omega
  · intro r hr; rw [hN] at hr; exact art.rowLen r hr
  · intro r hr
    rw [hN] at hr
    by_cases hA : C.IsArt unf r
    · obtain ⟨a1, a2, -, -⟩ := art.art r hr hA
      exact ⟨by omega, a2⟩
    · obtain ⟨-, k2⟩ := art.keep r hr hA
      obtain ⟨-, w1, w2, -⟩ := C.keep_facts unf hU r hr hA
      rw [k2]; omega
  · intro r hr
    rw [hN] at hr
    by_cases hA : C.IsArt unf r
    · obtain ⟨-, -, a3, -⟩ := art.art r hr hA
      rw [a3]; decide
    · obtain ⟨k1, k2⟩ := art.keep r hr hA
      obtain ⟨w0, -, -, -⟩ := C.keep_facts unf hU r hr hA
      rw [k1, k2, normalize_getD]
      intro hz
      exact inv.pb.nz r (by rw [hpbT]; exact hr) w0 ((normRow_get_zero _ _).mp hz)
  · intro i j hi hj hij
    rw [hN] at hi hj
    by_cases hAi : C.IsArt unf i
    · exact art.other i j hi hj hij hAi
    · obtain ⟨-, ki2⟩ := art.keep i hi hAi
      obtain ⟨w0, w1, w2, -⟩ := C.keep_facts unf hU i hi hAi
      have hz : ((ppcNormalizeSigns C.fin.T).getD j []).get (C.fin.base.getD i 0) = 0 := by
        rw [normalize_getD, normRow_get_zero]
        exact inv.pb.col i j (by rw [hpbT]; exact hi) (by rw [hpbT]; exact hj) hij w0
      rw [ki2]
      by_cases hAj : C.IsArt unf j
      · obtain ⟨a1, -, -, a4⟩ := art.art j hj hAj
        rw [a4 _ (by omega)]; exact hz
      · rw [(art.keep j hj hAj).1]; exact hz
  · intro r hr
    rw [hN] at hr
    by_cases hA : C.IsArt unf r
    · obtain ⟨-, a2, -, a4⟩ := art.art r hr hA
      rw [a4 _ (by omega)]; exact zero_hi r hr _ hSLn
    · rw [(art.keep r hr hA).1]; exact zero_hi r hr _ hSLn
  · intro r hr
    rw [hN] at hr
    by_cases hA : C.IsArt unf r
    · obtain ⟨a1, -, a3, a4⟩ := art.art r hr hA
      rw [a3, a4 0 (by omega), normalize_getD]
      have := normRow_get0_nonpos (C.fin.T.getD r [])
      have h' : (((normRow (C.fin.T.getD r [])).get 0 : Int) : Rat) ≤ 0 := by exact_mod_cast this
      push_cast; rw [div_one]; linarith
    · obtain ⟨k1, k2⟩ := art.keep r hr hA
      obtain ⟨-, -, -, w3⟩ := C.keep_facts unf hU r hr hA
      rw [k1, k2, normalize_getD, normRow_ratio]; exact w3

/-- the rows of the tableau handed over vanish where the inserted rows do, on valuations with artificials 0 -/
theorem asm_rows (unf : List Nat) (hU : C.Unf unf) (y : Val) (hz : ∀ col, C.SL ≤ col → col < C.numCols → y col = 0) :
    Sol (C.artOut unf).1 y ↔ Sol C.fin.T y := by
  have inv := C.fin_inv
  have art := C.art unf hU
  have key : ∀ r, r < C.N →
      (rowVal ((C.artOut unf).1.getD r []) y = 0 ↔ rowVal (C.fin.T.getD r []) y = 0) := by
    intro r hr
    by_cases hA : C.IsArt unf r
    · obtain ⟨a1, a2, a3, a4⟩ := art.art r hr hA
      rw [← normRow_val (C.fin.T.getD r []), ← normalize_getD]
      have : rowVal ((C.artOut unf).1.getD r []) y = rowVal ((ppcNormalizeSigns C.fin.T).getD r []) y := by
        unfold rowVal
        apply dot_congr_support
        intro j
        by_cases hj : j = (C.artOut unf).2.2.1.getD r 0
        · right; rw [hj]; exact hz _ a1 (by omega)
        · left; exact a4 j hj
      rw [this]
    · rw [(art.keep r hr hA).1, normalize_getD, normRow_val]
  constructor
  · intro h r hr
    rw [inv.lenT] at hr
    exact (key r hr).mp (h r (by rw [art.lenT]; exact hr))
  · intro h r hr
    rw [art.lenT] at hr
    exact (key r hr).mpr (h r (by rw [inv.lenT]; exact hr))

/-- the first-phase cost row before re-expression -/
theorem asm_cost (unf : List Nat) (hU : C.Unf unf) :
    IsPhase1Cost ((C.artOut unf).2.1.set (C.numCols - 1) 1) C.SL ∧
    ((C.artOut unf).2.1.set (C.numCols - 1) 1).length = C.numCols := by
  have art := C.art unf hU
  have hlen : ((C.artOut unf).2.1.set (C.numCols - 1) 1).length = C.numCols := by
    rw [List.length_set]; exact art.lenC
  refine ⟨fun j => ?_, hlen⟩
  rw [hlen, getD_set]
  by_cases hj : j = C.numCols - 1
  · rw [if_pos ⟨hj, by rw [art.lenC, hU.nc]; omega⟩, if_pos hj]
  · rw [if_neg (fun a => hj a.1), if_neg hj]; exact art.cost j

end GCtx

namespace GCtx
variable (C : GCtx)

/-- a non-negative solution of the tableau handed over (artificials 0) satisfies the old rows and the inserted
    constraints -/
theorem asm_sound (unf : List Nat) (hU : C.Unf unf) (y : Val) (h0 : y 0 = 1) (hnn : ∀ col, 1 ≤ col → 0 ≤ y col)
    (hz : ∀ col, C.SL ≤ col → col < C.numCols → y col = 0) (hsol : Sol (C.artOut unf).1 y) :
    (∀ r, r < C.R0 → rowVal (C.T0.getD r []) y = 0) ∧
    ∀ c ∈ C.pend, tabC c = true → c.holds (proj C.M y) := by
  have inv := C.fin_inv
  have hs := (C.asm_rows unf hU y hz).mp hsol
  have hold : ∀ r, r < C.R0 → rowVal (C.T0.getD r []) y = 0 := by
    intro r hr
    rw [← inv.oldT r hr]
    exact hs r (by rw [inv.lenT]; unfold N; omega)
  refine ⟨hold, fun c hc ht => ?_⟩
  exact inv.sound y h0 hnn hold (fun r _ hr => hs r (by rw [inv.lenT]; exact hr)) c (by simpa using hc) ht

/-- every valuation of the old columns satisfying the old rows and the inserted constraints extends to a solution of
    the tableau handed over with all artificials 0 -/
theorem asm_complete (unf : List Nat) (hU : C.Unf unf) (y0 : Val) (h0 : y0 0 = 1) (hnn : ∀ col, 1 ≤ col → 0 ≤ y0 col)
    (hold : ∀ r, r < C.R0 → rowVal (C.T0.getD r []) y0 = 0) (hy0V : ∀ col, C.V ≤ col → y0 col = 0)
    (hall : ∀ c ∈ C.pend, tabC c = true → c.holds (proj C.M y0)) :
    ∃ y : Val, (∀ col, col < C.V → y col = y0 col) ∧ y 0 = 1 ∧ (∀ col, 1 ≤ col → 0 ≤ y col) ∧
      (∀ col, C.SL ≤ col → y col = 0) ∧ Sol (C.artOut unf).1 y := by
  have inv := C.fin_inv
  obtain ⟨y, y1, y2, y3, y4, y5⟩ := inv.complete y0 h0 hnn hold (fun c hc ht => hall c (by simpa using hc) ht)
  have hzero : ∀ j, C.SL ≤ j → y j = 0 := by
    intro j hj
    have hVj : C.V ≤ j := by unfold SL at hj; omega
    rw [y4 j hVj (Or.inr hj)]; exact hy0V j hVj
  refine ⟨y, y1, y2, y3, hzero, ?_⟩
  apply (C.asm_rows unf hU y (fun j hj _ => hzero j hj)).mpr
  intro r hr
  rw [inv.lenT] at hr
  by_cases h1 : r < C.R0
  · rw [inv.oldT r h1, C.old_congr r h1 y y0 y1]; exact hold r h1
  · exact y5 r (by rw [C.fin_k]; omega) hr

end GCtx

/-- **hand-over to the first phase** from a canonical feasible tableau and the first-phase cost row -/
theorem phase1_of_canonTB (s0 : LPState) (SL addArt nc : Nat) (T : List Row) (base : List Nat) (cost0 : Row)
    (hTB : CanonTB T base nc) (hc0 : IsPhase1Cost cost0 SL) (hc0len : cost0.length = nc)
    (hSL1 : 1 ≤ SL) (hpos : addArt > 0 → SL < nc - 1) (hzero : ¬ addArt > 0 → SL = nc - 1)
    (f1 : s0.tableau = T) (f2 : s0.base = base) (f3 : s0.working_cost = reexpressCost T base cost0)
    (f4 : s0.numCols = nc) :
    Phase1Start s0 (if addArt > 0 then SL else 0) (nc - 1) ∧
    artStart (if addArt > 0 then SL else 0) s0.numCols = SL := by
  have hSLn : SL ≤ nc - 1 := by
    by_cases ha : addArt > 0
    · have := hpos ha; omega
    · rw [hzero ha]
  have hc0last : cost0.get (nc - 1) ≠ 0 := by
    unfold Row.get; rw [hc0, hc0len, if_pos rfl]; decide
  obtain ⟨r1, r2, r3, r4⟩ := reexpress_spec hTB cost0 hc0len hc0last
  have hcanon : Canon s0.tab := by
    unfold LPState.tab
    rw [f1, f2, f3, reexpressCost_eq]
    exact hTB.toCanon _ r1 r2 r3
  have hstart : artStart (if addArt > 0 then SL else 0) s0.numCols = SL := by
    unfold artStart
    rw [f4]
    by_cases ha : addArt > 0
    · rw [if_pos ha, if_pos (by omega)]
    · rw [if_neg ha, if_neg (by simp)]; exact (hzero ha).symm
  refine ⟨⟨hcanon, by rw [f3, reexpressCost_eq, r1, f4], by rw [f4], by rw [hstart]; exact hSL1,
    by rw [hstart, f4]; exact hSLn, fun hb => ?_, fun y hy hn => ?_⟩, hstart⟩
  · by_cases ha : addArt > 0
    · rw [if_pos ha]; exact ⟨hSL1, hpos ha⟩
    · rw [if_neg ha] at hb; exact absurd rfl hb
  · rw [hstart, f3, reexpressCost_eq, f4]
    rw [f1] at hy
    rw [f4] at hn
    rw [r4 y hy]
    have := phase1_cost_sem cost0 SL hc0 hSL1 y (by rw [hc0len]; exact hn)
    rw [hc0len] at this
    exact this

end PPLV.Solver.Pend

import PPLV.Solver.PIPCoreProofsPivot12
/-!
# pivot family: the incremental sign bookkeeping of the pivot keeps `SignAt`

The invariant `SgInv` is simply "the cached signs hold (weakly) for the CURRENT tableau": it is kept by
`Tableau::scale` with a positive ratio (`signWeak_scale`), by every store into `s`, and by every single
`(i, j)` step of the second pass: the store `t[i][j] -= product` changes the value of the row by
`- product * q_j` and `signStep` is sound for exactly that change (`signStep_weak_sound`).
-/
namespace PPLV.PIPCore.Piv

theorem signWeak_set {d v : Int} {x : RowSign} (sg : List RowSign) (i : Nat)
    (h : SignWeak d x v) : SignWeak d (signGet (sg.set i x) i) v := by
  by_cases hi : i < sg.length
  · rw [signGet_set_same x hi]; exact h
  · rw [signGet_of_le (by rw [List.length_set]; exact Nat.le_of_not_lt hi)]; exact trivial

theorem dot_rset {r : Row} {q : List Int} {j : Nat} (x : Int) (hj : j < r.length)
    (hq : j < q.length) : dot (rset r j x) q = dot r q + (x - rget r j) * rget q j := by
  unfold rset
  induction r generalizing j q with
  | nil => simp at hj
  | cons a as ih =>
    cases q with
    | nil => simp at hq
    | cons y ys =>
      cases j with
      | zero =>
        simp only [List.set_cons_zero, dot, rget_cons_zero]; ring
      | succ j =>
        simp only [List.set_cons_succ, dot, rget_cons_succ]
        rw [ih (by simpa using hj) (by simpa using hq)]; ring

theorem paramVec_rget {m : Nat} {q : List Int} (hq : ParamVec m q) (j : Nat) :
    0 ≤ rget q j ∧ (j = 0 → rget q j = 1) := by
  constructor
  · by_cases hj : j < q.length
    · exact hq.2.2 _ (rget_mem hj)
    · rw [rget_of_le (Nat.le_of_not_lt hj)]
  · rintro rfl
    obtain ⟨_, h1, _⟩ := hq
    cases q with
    | nil => simp at h1
    | cons a as => simp at h1; rw [rget_cons_zero]; exact h1

/-! ### the invariant -/

structure SgInv (n m : Nat) (q : List Int) (T : Tableau) (sg : List RowSign) : Prop where
  t_len : T.t.length = n
  t_rows : RowsLen T.t m
  nt_eq : T.nt = m
  signs : ∀ k, SignWeak T.den (signGet sg k) (dot (mrow T.t k) q)

section sg
variable {n m : Nat} {q : List Int}

theorem SgInv.scale {T : Tableau} {sg : List RowSign} (h : SgInv n m q T sg) {r : Int}
    (hr : 0 < r) : SgInv n m q (T.scale r) sg where
  t_len := by rw [scale_t_length]; exact h.t_len
  t_rows := h.t_rows.map (· * r)
  nt_eq := h.nt_eq
  signs := by
    intro k
    show SignWeak (T.den * r) _ (dot (mrow (T.t.map (·.map (· * r))) k) q)
    rw [mrow_map _ (·.map (· * r)) (by simp), dot_map_mul, Int.mul_comm T.den r,
      Int.mul_comm (dot _ _) r]
    exact (signWeak_scale hr).mpr (h.signs k)

/-- a store into `s` does not matter -/
theorem SgInv.set_s {T : Tableau} {sg : List RowSign} (h : SgInv n m q T sg) (X : Mat) :
    SgInv n m q { T with s := X } sg := ⟨h.t_len, h.t_rows, h.nt_eq, h.signs⟩

theorem foldl_preserves_mem {α β : Type} (P : α → Prop) (step : α → β → α) :
    ∀ (l : List β), (∀ a b, b ∈ l → P a → P (step a b)) → ∀ a, P a → P (l.foldl step a) := by
  intro l
  induction l with
  | nil => intro _ a ha; exact ha
  | cons b l ih =>
    intro h a ha
    exact ih (fun a' b' hb' => h a' b' (by simp [hb'])) _ (h a b (by simp) ha)

/-! ### first pass -/

theorem pivotStepS_sg {spp : Int} (hspp : 0 < spp) (sp : Row) (pj i : Nat) (sg : List RowSign)
    (st : Tableau × Int) (j : Nat) (h : SgInv n m q st.1 sg) :
    SgInv n m q (pivotStepS sp spp pj i st j).1 sg := by
  obtain ⟨T, sipj⟩ := st
  change SgInv n m q T sg at h
  rcases pivotStepS_eq hspp sp pj i T sipj j with ⟨_, e⟩ | ⟨_, r, p, hr, _, e⟩
  · rw [e]; exact h
  · rw [e]
    by_cases hp : p ≠ 0
    · rw [if_pos hp]; exact (h.scale hr).set_s _
    · rw [if_neg hp]; exact h.scale hr

theorem pivotRowS_sg {spp : Int} (hspp : 0 < spp) (sp : Row) (pj : Nat) (sg : List RowSign)
    (T : Tableau) (i : Nat) (h : SgInv n m q T sg) : SgInv n m q (pivotRowS sp spp pj T i) sg := by
  unfold pivotRowS
  dsimp only
  split
  · exact h
  · exact foldl_preserves (fun st : Tableau × Int => SgInv n m q st.1 sg) (pivotStepS sp spp pj i)
      (fun st j hst => pivotStepS_sg hspp sp pj i sg st j hst) _ (T, mget T.s i pj) h

/-! ### second pass -/

theorem stepT_sg_core {m' : Nat} (hq : ParamVec m' q) (hm : m' = m) {T' : Tableau}
    {sg : List RowSign} (h : SgInv n m q T' sg) {i j : Nat} (hi : i < n) (hj : j < m) (p : Int) :
    SgInv n m q (if p ≠ 0 then { T' with t := mset T'.t i j (mget T'.t i j - p) } else T')
      (sg.set i (signStep (signGet sg i) p j)) := by
  subst hm
  have hi' : i < T'.t.length := by rw [h.t_len]; exact hi
  have hrl : (mrow T'.t i).length = m' := h.t_rows.mrow hi'
  obtain ⟨hq1, hq2⟩ := paramVec_rget hq j
  have key : SignWeak T'.den (signStep (signGet sg i) p j) (dot (mrow T'.t i) q - p * rget q j) :=
    signStep_weak_sound (h.signs i) hq1 hq2 id id id
  by_cases hp : p ≠ 0
  · rw [if_pos hp]
    refine ⟨by show (mset T'.t i j _).length = n; rw [mset_length]; exact h.t_len,
      h.t_rows.mset i j _, h.nt_eq, ?_⟩
    intro k
    show SignWeak T'.den _ (dot (mrow (mset T'.t i j (mget T'.t i j - p)) k) q)
    by_cases e : k = i
    · subst e
      rw [mrow_mset_same j _ hi', dot_rset _ (by rw [hrl]; exact hj) (by rw [hq.1]; exact hj)]
      have : dot (mrow T'.t k) q + (mget T'.t k j - p - rget (mrow T'.t k) j) * rget q j
          = dot (mrow T'.t k) q - p * rget q j := by unfold mget; ring
      rw [this]
      exact signWeak_set sg k key
    · rw [mrow_mset_ne j _ (Ne.symm e), signGet_set_ne _ (Ne.symm e)]
      exact h.signs k
  · rw [if_neg hp]
    have hp0 : p = 0 := not_not.mp hp
    refine ⟨h.t_len, h.t_rows, h.nt_eq, ?_⟩
    intro k
    by_cases e : k = i
    · subst e
      rw [hp0, Int.zero_mul, Int.sub_zero] at key
      rw [hp0]
      exact signWeak_set sg k key
    · rw [signGet_set_ne _ (Ne.symm e)]
      exact h.signs k

theorem pivotStepT_sg {spp : Int} (hspp : 0 < spp) (hq : ParamVec m q) (tp : Row) (pj : Nat)
    {i : Nat} (hi : i < n) (st : Tableau × List RowSign) {j : Nat} (hj : j < m)
    (h : SgInv n m q st.1 st.2) :
    SgInv n m q (pivotStepT tp spp pj i st j).1 (pivotStepT tp spp pj i st j).2 := by
  obtain ⟨T, sg⟩ := st
  change SgInv n m q T sg at h
  rcases pivotStepT_eq hspp tp pj i T sg j with ⟨_, e⟩ | ⟨r, p, hr, _, e⟩
  · rw [e]; exact h
  · rw [e]; exact stepT_sg_core hq rfl (h.scale hr) hi hj p

theorem pivotRowT_sg {spp : Int} (hspp : 0 < spp) (hq : ParamVec m q) (tp : Row) (pj : Nat)
    (st : Tableau × List RowSign) {i : Nat} (hi : i < n) (h : SgInv n m q st.1 st.2) :
    SgInv n m q (pivotRowT tp spp pj st i).1 (pivotRowT tp spp pj st i).2 := by
  unfold pivotRowT
  split
  · exact h
  · exact foldl_preserves_mem (fun s : Tableau × List RowSign => SgInv n m q s.1 s.2)
      (pivotStepT tp spp pj i) (List.range st.1.nt)
      (fun a j hj ha => pivotStepT_sg hspp hq tp pj hi a
        (by rw [h.nt_eq] at hj; exact List.mem_range.mp hj) ha) st h

/-! ### third pass -/

theorem pivotRowC_sg {spp : Int} (hspp : 0 < spp) (D : Int) (pj : Nat) (sg : List RowSign)
    (T : Tableau) (i : Nat) (h : SgInv n m q T sg) : SgInv n m q (pivotRowC spp D pj T i) sg := by
  obtain ⟨r, p, hr, _, e⟩ := pivotRowC_eq hspp D pj T i
  rw [e]; exact (h.scale hr).set_s _

end sg

/-! ### `normalize` -/

/-- **`Tableau::normalize` keeps the meaning of the cached signs** (both directions) -/
theorem _root_.PPLV.PIPCore.signAt_normalize {nd : SolNode} {q : List Int} (h : WF nd) :
    SignAt { nd with tab := nd.tab.normalize } q ↔ SignAt nd q := by
  rcases normalize_cases nd.tab (ne_of_gt h.den_pos) with e | ⟨g, hg, dd, _, dt, e⟩
  · rw [e]
  · rw [e]
    refine forall_congr' fun k => ?_
    show SignWeak (nd.tab.den / g) (signGet nd.sign k) (dot (mrow (nd.tab.divBy g).t k) q) ↔ _
    rw [mrow_divBy_t, ← signWeak_scale hg, Int.mul_comm g (nd.tab.den / g), Int.ediv_mul_cancel dd,
      Int.mul_comm g _, dot_map_div _ q g (dt.mrow k)]

/-! ### the pivot -/

theorem pivot_signweak {nd : SolNode} (h : WF nd) {pi pj : Nat} (hpi : pi < nd.tab.s.length)
    (_hpj : pj < nd.tab.ns) (hspp : 0 < mget nd.tab.s pi pj) {q : List Int}
    (hq : ParamVec nd.tab.nt q) (hs : SignAt nd q) : SignAt (pivot nd pi pj) q := by
  have hN := normalize_wf h
  have sh := normalize_shape nd.tab
  have hspp0 : 0 < mget nd.tab.normalize.s pi pj := (normalize_sign h pi pj).mpr hspp
  have hs0 : ∀ k, SignWeak nd.tab.normalize.den (signGet nd.sign k)
      (dot (mrow nd.tab.normalize.t k) q) := (signAt_normalize h).mpr hs
  have hq0 : ParamVec nd.tab.normalize.nt q := by rw [sh.2.2.2]; exact hq
  have hpi0 : pi < nd.tab.normalize.s.length := by rw [sh.1]; exact hpi
  have hrows : nd.tab.normalize.s.length = nd.tab.normalize.t.length := hN.rows_eq
  have htr : RowsLen nd.tab.normalize.t nd.tab.normalize.nt := hN.t_cols
  have hsl : nd.sign.length = nd.tab.normalize.s.length := hN.sign_len
  have hden : 0 < nd.tab.normalize.den := hN.den_pos
  rw [pivot_eq]
  generalize nd.tab.normalize = T0 at *
  have hpit : pi < T0.t.length := hrows ▸ hpi0
  -- the start: the identity row with sign ZERO
  have init : SgInv T0.s.length T0.nt q (idRowTab T0 pi pj) (nd.sign.set pi .zero) := by
    refine ⟨by rw [idRow_t_len]; exact hrows.symm, htr.msetRow pi (zeroRow_length _), rfl, ?_⟩
    intro k
    show SignWeak T0.den _ (dot (mrow (msetRow T0.t pi (zeroRow T0.nt)) k) q)
    by_cases e : k = pi
    · subst e
      rw [mrow_msetRow_same _ hpit, signGet_set_same _ (by rw [hsl]; exact hpi0)]
      rw [dot_zeroRow]
      exact ⟨by omega, hden⟩
    · rw [mrow_msetRow_ne _ (Ne.symm e), signGet_set_ne _ (Ne.symm e)]
      exact hs0 k
  -- first pass
  have pS : SgInv T0.s.length T0.nt q (passSTab T0 pi pj) (nd.sign.set pi .zero) := by
    unfold passSTab
    exact foldl_preserves (fun T => SgInv T0.s.length T0.nt q T (nd.sign.set pi .zero))
      (pivotRowS (mrow T0.s pi) (mget T0.s pi pj) pj)
      (fun T i hT => pivotRowS_sg hspp0 _ pj _ T i hT) _ _ init
  -- second pass
  have pT : SgInv T0.s.length T0.nt q (passTSt T0 (nd.sign.set pi .zero) pi pj).1
      (passTSt T0 (nd.sign.set pi .zero) pi pj).2 := by
    unfold passTSt
    exact foldl_preserves_mem (fun s : Tableau × List RowSign => SgInv T0.s.length T0.nt q s.1 s.2)
      (pivotRowT (mrow T0.t pi) (mget T0.s pi pj) pj) (rowsDown T0.s.length)
      (fun a i hi ha => pivotRowT_sg hspp0 hq0 _ pj a (mem_rowsDown.mp hi) ha) _ pS
  -- third pass
  have pC : SgInv T0.s.length T0.nt q (pivotPasses T0 (nd.sign.set pi .zero) pi pj)
      (passTSt T0 (nd.sign.set pi .zero) pi pj).2 := by
    unfold pivotPasses
    split
    · exact foldl_preserves
        (fun T => SgInv T0.s.length T0.nt q T (passTSt T0 (nd.sign.set pi .zero) pi pj).2)
        (pivotRowC (mget T0.s pi pj) T0.den pj)
        (fun T i hT => pivotRowC_sg hspp0 _ pj _ T i hT) _ _ pT
    · exact pT
  exact pC.signs

end PPLV.PIPCore.Piv

import PPLV.Solver.PIPCoreProofsMainR2
import PPLV.Solver.PIPCoreProofsTree5
import PPLV.Solver.PIPCoreProofsMain7
/-!
# the repaired solver from a fresh root: both halves over the parameter columns
-/
namespace PPLV.PIPCore

theorem rootOK_invR {root : SolNode} {ctx0 : Mat} (h : RootOK root ctx0) :
    InvR (fun q => ParamVec root.tab.nt q ∧ CtxSat ctx0 q) root.tab.nt root ctx0 :=
  ⟨rootOK_inv h, fun q _ hc => by
    rw [h.cons] at hc
    exact absurd hc (by simp [consHold])⟩

/-- **the repaired solver is partially correct, both halves**: at every non-negative integer parameter
    vector of the initial context, a point is the lexicographic minimum and bottom means infeasible -/
theorem solve_correct {cc : Mat → Option Bool} (hcc : CCContract cc) (ctl : Ctl)
    {cfc : Bool} {fuel : Nat} {root : SolNode} {ctx0 : Mat} (h : RootOK root ctx0) {r : Option CTree}
    (hs : solve cc ctl cfc fuel root ctx0 = .done r) {q : List Int} (hq : ParamVec root.tab.nt q)
    (hsat : CtxSat ctx0 q) : Claim root q (evalRes r q) := by
  have := solveGo_correct hcc ctl cfc fuel true root ctx0 r _ _ hs (fun _ => rootOK_invR h) q ⟨hq, hsat⟩
  rw [h.arts] at this
  exact this

/-- … through the public tree semantics: a point of `Tree.eval` is the lexicographic minimum -/
theorem solve_point_eval {cc : Mat → Option Bool} (hcc : CCContract cc) (ctl : Ctl)
    {cfc : Bool} {fuel : Nat} {root : SolNode} {ctx0 : Mat} (h : RootOK root ctx0) {r : Option CTree}
    (hs : solve cc ctl cfc fuel root ctx0 = .done r) {θ : List Int} (hlen : θ.length + 1 = root.tab.nt)
    (hnn : ∀ a ∈ θ, 0 ≤ a) (hsat : CtxSat ctx0 (1 :: θ)) {x : List Int}
    (hx : (resToTree r).eval θ = .point x) : IsLexMin root (1 :: θ) x := by
  have hq : ParamVec root.tab.nt (1 :: θ) := ⟨by simp [hlen], rfl, fun a ha => by
    rcases List.mem_cons.mp ha with rfl | ha
    · decide
    · exact hnn a ha⟩
  have := solve_correct hcc ctl h hs hq hsat
  rw [resToTree_eval_point r θ x hx] at this
  exact this

/-- … and bottom of `Tree.eval` means that there is no feasible non-negative integer valuation -/
theorem solve_bottom_eval {cc : Mat → Option Bool} (hcc : CCContract cc) (ctl : Ctl)
    {cfc : Bool} {fuel : Nat} {root : SolNode} {ctx0 : Mat} (h : RootOK root ctx0) {r : Option CTree}
    (hs : solve cc ctl cfc fuel root ctx0 = .done r) {θ : List Int} (hlen : θ.length + 1 = root.tab.nt)
    (hnn : ∀ a ∈ θ, 0 ≤ a) (hsat : CtxSat ctx0 (1 :: θ))
    (hx : (resToTree r).eval θ = .bottom) : Infeasible root (1 :: θ) := by
  have hq : ParamVec root.tab.nt (1 :: θ) := ⟨by simp [hlen], rfl, fun a ha => by
    rcases List.mem_cons.mp ha with rfl | ha
    · decide
    · exact hnn a ha⟩
  have := solve_correct hcc ctl h hs hq hsat
  rw [resToTree_eval_bottom r θ hx] at this
  exact this

/-! ### the witness of KF-C07-12 under the repaired rule -/

def kfTreeR : PPLV.PIP.Tree :=
  match solve (ccModel 40) { cut := 0, piv := 1 } false 40 kfRoot [] with
  | .done r => resToTree r
  | .fuel => .dec [] [] .bottom .bottom

theorem kf_repaired_point : kfTreeR.eval [1, 0] = .point [0, 0, 3] := by decide +kernel

end PPLV.PIPCore

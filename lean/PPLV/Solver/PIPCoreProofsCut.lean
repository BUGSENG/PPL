import PPLV.Solver.PIPCoreProofsDefs
import PPLV.Solver.PIPCoreProofsPivot10
import PPLV.Solver.PIPCoreProofsLex6
import Mathlib.Tactic.Linarith
import Mathlib.Tactic.Ring
/-!
# the cut step: arithmetic of a Gomory cut, `extendArts`, `ArtP.mk'`, `findArt`
(helpers in `PPLV.PIPCore.Cut`).
-/
namespace PPLV.PIPCore

namespace Cut

theorem posRem_eq (a d : Int) : posRem a d = a - d * (a / d) := Int.emod_def a d

theorem negmod_eq (d a : Int) : negmod d a = - cutf d a := by
  unfold negmod cutf; split <;> ring

theorem cutf_eq (d a : Int) :
    cutf d a = a - d * (a / d + if posRem a d ≠ 0 then 1 else 0) := by
  unfold cutf
  split
  · rw [posRem_eq]; ring
  · rename_i h
    have h0 : posRem a d = 0 := by
      by_contra hne; exact h hne
    rw [posRem_eq] at h0
    have : d * (a / d + 0) = a := by rw [add_zero]; linarith
    rw [this]; ring

theorem negmod_nonneg (d a : Int) (hd : 0 < d) : 0 ≤ negmod d a := by
  unfold negmod
  have h2 : posRem a d < d := Int.emod_lt_of_pos a hd
  split <;> omega

theorem negmod_lt (d a : Int) (hd : 0 < d) : negmod d a < d := by
  unfold negmod
  have h1 : 0 ≤ posRem a d := Int.emod_nonneg a (by omega)
  split <;> omega

theorem negmod_zero (d a : Int) (h : a % d = 0) : negmod d a = 0 := by
  unfold negmod
  have : posRem a d = 0 := h
  rw [this]; simp

/-! ### `dot` -/

theorem dot_map_sub (d : Int) (g : Int → Int) : ∀ (r z : List Int),
    dot (r.map (fun a => a - d * g a)) z = dot r z - d * dot (r.map g) z
  | [], z => by simp [dot_nil_left]
  | _ :: _, [] => by simp [dot_nil_right]
  | a :: as, b :: bs => by
    simp only [List.map_cons, dot_cons]
    rw [dot_map_sub d g as bs]; ring

theorem dot_cutS (d : Int) (r z : List Int) :
    dot (r.map (fun a => posRem a d)) z = dot r z - d * dot (r.map (fun a => a / d)) z := by
  rw [← dot_map_sub d (fun a => a / d) r z]
  congr 1
  exact List.map_congr_left (fun a _ => posRem_eq a d)

theorem dot_cutf (d : Int) (r z : List Int) :
    dot (r.map (cutf d)) z
      = dot r z - d * dot (r.map (fun a => a / d + if posRem a d ≠ 0 then 1 else 0)) z := by
  rw [← dot_map_sub d _ r z]
  congr 1
  exact List.map_congr_left (fun a _ => cutf_eq d a)

theorem dot_negmod (d : Int) (r z : List Int) :
    dot (r.map (negmod d)) z = - dot (r.map (cutf d)) z := by
  rw [← dot_neg, List.map_map]
  congr 1
  exact List.map_congr_left (fun a _ => negmod_eq d a)

/-- the Gomory argument over the integers: the source row `d * x = rowS·y + rowT·q` with `x` integer
    makes `cutS·y - (e mod d)` a multiple of `d`, `e = apNum·q` -/
theorem gomory_int (d x : Int) (rowS yz rowT q : List Int)
    (hrow : d * x = dot rowS yz + dot rowT q) :
    ∃ z, dot (rowS.map (fun a => posRem a d)) yz - (dot (rowT.map (negmod d)) q) % d = d * z := by
  refine ⟨x - dot (rowS.map (fun a => a / d)) yz
    - dot (rowT.map (fun a => a / d + if posRem a d ≠ 0 then 1 else 0)) q
    + (dot (rowT.map (negmod d)) q) / d, ?_⟩
  rw [Int.emod_def, dot_cutS]
  have h2 := dot_cutf d rowT q
  have h3 := dot_negmod d rowT q
  generalize dot (rowT.map (negmod d)) q / d = fl at *
  linarith

theorem gomory_nonneg (d A e z : Int) (hd : 0 < d) (hA : 0 ≤ A) (h : A - e % d = d * z) : 0 ≤ z := by
  have h2 : e % d < d := Int.emod_lt_of_pos e hd
  by_contra hz
  have : d * z ≤ d * (-1) := mul_le_mul_of_nonneg_left (by omega) (le_of_lt hd)
  linarith

/-! ### `ArtP.mk'` -/

theorem mk'_cases (num : Row) (d : Int) (hd : 0 < d) :
    ArtP.mk' num d = ⟨num, d⟩ ∨
    ∃ g : Int, 0 < g ∧ g ∣ d ∧ (∀ a ∈ num, g ∣ a) ∧ ArtP.mk' num d = ⟨num.map (· / g), d / g⟩ := by
  unfold ArtP.mk'
  by_cases h1 : rowGcd 0 num = 1
  · left; simp only [h1, if_true]
  · simp only [h1, if_false]
    by_cases h0 : rowGcd 0 num = 0
    · simp only [h0, if_true]
      by_cases hd1 : d = 1
      · left; simp only [hd1, if_true]
      · right
        refine ⟨d, hd, dvd_refl d, fun a ha => ?_, by simp only [hd1, if_false]⟩
        rw [rowGcd_zero_all_zero h0 a ha]; exact dvd_zero d
    · simp only [h0, if_false]
      by_cases hg1 : gcdI d (rowGcd 0 num) = 1
      · left; simp only [hg1, if_true]
      · right
        refine ⟨gcdI d (rowGcd 0 num), ?_, gcdI_dvd_left _ _, fun a ha => ?_,
          by simp only [hg1, if_false]⟩
        · rcases lt_or_eq_of_le (gcdI_nonneg d (rowGcd 0 num)) with h | h
          · exact h
          · have := gcdI_dvd_left d (rowGcd 0 num)
            rw [← h] at this
            have := zero_dvd_iff.mp this
            omega
        · exact dvd_trans (gcdI_dvd_right _ _) (rowGcd_dvd_mem num 0 ha)

theorem mk'_length (num : Row) (d : Int) (hd : 0 < d) : (ArtP.mk' num d).num.length = num.length := by
  rcases mk'_cases num d hd with h | ⟨g, _, _, _, h⟩ <;> rw [h]
  simp

theorem mk'_den_pos (num : Row) (d : Int) (hd : 0 < d) : 0 < (ArtP.mk' num d).den := by
  rcases mk'_cases num d hd with h | ⟨g, hg, hgd, _, h⟩ <;> rw [h]
  · exact hd
  · exact Int.ediv_pos_of_pos_of_dvd hd (le_of_lt hg) hgd

theorem mk'_nonneg (num : Row) (d : Int) (hd : 0 < d) (hn : ∀ a ∈ num, 0 ≤ a) :
    ∀ a ∈ (ArtP.mk' num d).num, 0 ≤ a := by
  rcases mk'_cases num d hd with h | ⟨g, hg, _, _, h⟩ <;> rw [h]
  · exact hn
  · intro a ha
    obtain ⟨b, hb, rfl⟩ := List.mem_map.mp ha
    exact Int.ediv_nonneg (hn b hb) (le_of_lt hg)

/-- dividing numerator and denominator by a common positive factor does not change the floor -/
theorem mk'_fdiv (num : Row) (d : Int) (hd : 0 < d) (q : List Int) :
    Int.fdiv (dot (ArtP.mk' num d).num q) (ArtP.mk' num d).den = dot num q / d := by
  rcases mk'_cases num d hd with h | ⟨g, hg, hgd, hgn, h⟩ <;> rw [h]
  · exact Int.fdiv_eq_ediv_of_nonneg _ (le_of_lt hd)
  · show Int.fdiv (dot (num.map (· / g)) q) (d / g) = _
    have hdg : 0 < d / g := Int.ediv_pos_of_pos_of_dvd hd (le_of_lt hg) hgd
    rw [Int.fdiv_eq_ediv_of_nonneg _ (le_of_lt hdg)]
    have e1 : dot num q = g * dot (num.map (· / g)) q := by rw [Int.mul_comm, dot_map_div num q g hgn]
    obtain ⟨d', rfl⟩ := hgd
    rw [e1, Int.mul_ediv_cancel_left _ (by omega : g ≠ 0), Int.mul_ediv_mul_of_pos _ _ hg]

/-! ### `findArt` never succeeds inside a node -/

theorem findArt_none (arts : List ArtP) (ap : ArtP)
    (h : ∀ j, j < arts.length → (arts.getD j default).num.length ≠ ap.num.length) :
    findArt arts ap = none := by
  unfold findArt
  simp only []
  rw [List.find?_eq_none]
  intro j hj
  have hj' : j < arts.length := by
    unfold rowsDown at hj
    exact List.mem_range.mp (List.mem_reverse.mp hj)
  intro hb
  have : arts.getD j default = ap := eq_of_beq hb
  exact h j hj' (by rw [this])

/-! ### parameter vectors -/

theorem paramVec_snoc (n : Nat) (q : List Int) (x : Int) (hq : ParamVec n q) (hx : 0 ≤ x) :
    ParamVec (n + 1) (q ++ [x]) := by
  obtain ⟨h1, h2, h3⟩ := hq
  refine ⟨by simp [h1], ?_, ?_⟩
  · cases q with
    | nil => simp at h2
    | cons a as => simpa using h2
  · intro y hy
    rcases List.mem_append.mp hy with hy | hy
    · exact h3 y hy
    · simp only [List.mem_singleton] at hy; rw [hy]; exact hx

theorem paramVec_pos (n : Nat) (q : List Int) (hq : ParamVec n q) : 0 < n := by
  obtain ⟨h1, h2, _⟩ := hq
  cases q with
  | nil => simp at h2
  | cons a as => simp at h1; omega

end Cut
end PPLV.PIPCore

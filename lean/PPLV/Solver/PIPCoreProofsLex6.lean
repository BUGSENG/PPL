import PPLV.Solver.PIPCoreProofsLex5
import Mathlib.Tactic.Linarith
import Mathlib.Tactic.Ring
/-!
# the lexicographic invariant: the invariant `WF ∧ LexPos` goes through the cut
generation of every cutting strategy (`generateCuts`); the single cut is `generateCut_wf`
(`PIPCoreGenerateCut.lean`) and `generateCut_lexpos`.
-/
namespace PPLV.PIPCore

attribute [local irreducible] LexPos

/-! ### the cutting strategies -/

theorem Lex.gc_s_length (nd : SolNode) (ctx : Mat) (index : Nat) :
    (generateCut nd ctx index).1.tab.s.length = nd.tab.s.length + 1 := by
  rw [Lex.gc_s, List.length_append, List.length_singleton]

/-- the invariant `WF ∧ LexPos` through a sequence of cuts on rows of the ORIGINAL tableau -/
theorem Lex.cuts_fold (n : Nat) (is : List Nat) : ∀ (st : SolNode × Mat),
    WF st.1 → LexPos st.1 → n ≤ st.1.tab.s.length → (∀ i ∈ is, i < n) →
    WF (is.foldl (fun (st : SolNode × Mat) i => generateCut st.1 st.2 i) st).1
    ∧ LexPos (is.foldl (fun (st : SolNode × Mat) i => generateCut st.1 st.2 i) st).1 := by
  induction is with
  | nil => exact fun _ hwf hlp _ _ => ⟨hwf, hlp⟩
  | cons i is ih =>
    intro st hwf hlp hn his
    rw [List.foldl_cons]
    exact ih (generateCut st.1 st.2 i)
      (generateCut_wf st.1 st.2 i hwf (Nat.lt_of_lt_of_le (his i List.mem_cons_self) hn))
      (generateCut_lexpos st.1 st.2 i hwf hlp)
      (by rw [Lex.gc_s_length]; exact Nat.le_succ_of_le hn) (fun i' h' => his i' (List.mem_cons_of_mem _ h'))

/-- generic `foldl` invariant -/
theorem Lex.foldl_inv {α β : Type} (P : α → Prop) (f : α → β → α) :
    ∀ (l : List β) (a : α), P a → (∀ a b, b ∈ l → P a → P (f a b)) → P (l.foldl f a)
  | [], _, h, _ => h
  | b :: l, a, h, hf =>
    Lex.foldl_inv P f l (f a b) (hf a b (by simp) h) (fun a' b' hb' => hf a' b' (by simp [hb']))

theorem Lex.ite_opt {α : Type} (c : Prop) [Decidable c] (a : α) (st : Option α) (P : α → Prop)
    (ha : P a) (hst : ∀ x ∈ st, P x) : ∀ x ∈ (if c then some a else st), P x := by
  intro x hx
  by_cases h : c
  · rw [if_pos h] at hx
    simp only [Option.mem_def, Option.some.injEq] at hx
    rw [← hx]; exact ha
  · rw [if_neg h] at hx; exact hst x hx

theorem Lex.ite_list_nil {α : Type} (c : Prop) [Decidable c] (l : List α) (P : α → Prop)
    (hl : ∀ x ∈ l, P x) : ∀ x ∈ (if c then [] else l), P x := by
  intro x hx
  by_cases h : c
  · rw [if_pos h] at hx; cases hx
  · rw [if_neg h] at hx; exact hl x hx

theorem Lex.ite_list_app {α : Type} (c : Prop) [Decidable c] (l : List α) (a : α) (P : α → Prop)
    (hl : ∀ x ∈ l, P x) (ha : P a) : ∀ x ∈ (if c then l ++ [a] else l), P x := by
  intro x hx
  by_cases h : c
  · rw [if_pos h] at hx
    rcases List.mem_append.mp hx with hx | hx
    · exact hl x hx
    · simp only [List.mem_singleton] at hx; rw [hx]; exact ha
  · rw [if_neg h] at hx; exact hl x hx

/-- the row of a non-basic variable is a row of the tableau -/
theorem Lex.row_of_var (nd : SolNode) (hwf : WF nd) (k : Nat) (hk : k < nd.tab.ns)
    (hb : boolGet nd.basis k = false) : natGet nd.mapping k < nd.tab.s.length :=
  ((hwf.map_ok k (by rw [hwf.map_len]; omega)).2 hb).1

theorem Lex.cutRowFirst_lt (nd : SolNode) (hwf : WF nd) (i : Nat) (h : cutRowFirst nd = some i) :
    i < nd.tab.s.length := by
  unfold cutRowFirst at h
  have hinv : ∀ x ∈ ((List.range nd.tab.ns).foldl (fun (st : Option (Nat × Nat)) k =>
      if boolGet nd.basis k then st else
      let i := natGet nd.mapping k
      let pc := pcountOf (mrow nd.tab.t i) nd.tab.den
      let better : Bool := match st with | none => true | some (_, b) => decide (pc < b)
      if pc > 0 ∧ better then some (i, pc) else st) none), x.1 < nd.tab.s.length := by
    apply Lex.foldl_inv (fun st : Option (Nat × Nat) => ∀ x ∈ st, x.1 < nd.tab.s.length)
    · intro x hx; cases hx
    · intro st k hk hst
      dsimp only
      cases hb : boolGet nd.basis k with
      | true => simpa using hst
      | false =>
        simp only [Bool.false_eq_true, if_false]
        exact Lex.ite_opt _ _ _ (fun x : Nat × Nat => x.1 < nd.tab.s.length)
          (Lex.row_of_var nd hwf k (List.mem_range.mp hk) hb) hst
  obtain ⟨x, hx, rfl⟩ := Option.map_eq_some_iff.mp h
  exact hinv x hx

theorem Lex.cutRowsDeepest_lt (nd : SolNode) (hwf : WF nd) :
    (∀ i, (cutRowsDeepest nd).1 = some i → i < nd.tab.s.length)
    ∧ ∀ i ∈ (cutRowsDeepest nd).2, i < nd.tab.s.length := by
  unfold cutRowsDeepest
  dsimp only
  have hinv := Lex.foldl_inv
    (fun st : Option (Nat × Nat × Int) × List Nat =>
      (∀ x ∈ st.1, x.1 < nd.tab.s.length) ∧ ∀ i ∈ st.2, i < nd.tab.s.length)
    (fun (st : Option (Nat × Nat × Int) × List Nat) k =>
      if boolGet nd.basis k then st else
      let (best, all) := st
      let i := natGet nd.mapping k
      let ti := mrow nd.tab.t i
      let pc := pcountOf ti nd.tab.den
      let score : Int := (ti.map fun a => let m := posRem a nd.tab.den;
        if m ≠ 0 then nd.tab.den - m else 0).foldl (· + ·) 0
      let sScore : Int := ((mrow nd.tab.s i).map fun a =>
        if a = 0 then 0 else nd.tab.den - posRem a nd.tab.den).foldl (· + ·) 0
      let score := score * sScore
      let take : Bool := pc ≠ 0 && (match best with
        | none => true
        | some (_, bpc, bsc) => pc < bpc || (pc == bpc && score > bsc))
      let lt : Bool := match best with | none => true | some (_, bpc, _) => pc < bpc
      let all := if take && lt then [] else all
      let best := if take then some (i, pc, score) else best
      let all := if pc > 0 then all ++ [i] else all
      (best, all))
    (List.range nd.tab.ns) (none, [])
    ⟨(fun x hx => by cases hx), (fun i hi => by cases hi)⟩
    (by
      intro st k hk hst
      obtain ⟨best, all⟩ := st
      obtain ⟨h1, h2⟩ := hst
      dsimp only at h1 h2 ⊢
      cases hb : boolGet nd.basis k with
      | true => exact ⟨h1, h2⟩
      | false =>
        have hrow := Lex.row_of_var nd hwf k (List.mem_range.mp hk) hb
        simp only [Bool.false_eq_true, if_false]
        constructor
        · exact Lex.ite_opt _ _ _ (fun x : Nat × Nat × Int => x.1 < nd.tab.s.length) hrow h1
        · exact Lex.ite_list_app _ _ _ (fun i : Nat => i < nd.tab.s.length)
            (Lex.ite_list_nil _ _ _ h2) hrow)
  constructor
  · intro i hi
    obtain ⟨x, hx, rfl⟩ := Option.map_eq_some_iff.mp hi
    exact hinv.1 x hx
  · exact hinv.2

/-- **`generateCuts_inv`**: every cutting strategy keeps the node well-formed with lexico-non-negative
    columns (all the cuts are appended at the end of the variable order) -/
theorem generateCuts_inv (ctl : Ctl) (nd : SolNode) (ctx : Mat) :
    WF nd → LexPos nd → WF (generateCuts ctl nd ctx).1 ∧ LexPos (generateCuts ctl nd ctx).1 := by
  intro hwf hlp
  unfold generateCuts
  split
  · split
    · rename_i i hi
      exact ⟨generateCut_wf nd ctx i hwf (Lex.cutRowFirst_lt nd hwf i hi),
        generateCut_lexpos nd ctx i hwf hlp⟩
    · exact ⟨hwf, hlp⟩
  · obtain ⟨hbest, hall⟩ := Lex.cutRowsDeepest_lt nd hwf
    dsimp only
    split
    · split
      · rename_i i hi
        exact ⟨generateCut_wf nd ctx i hwf (hbest i hi), generateCut_lexpos nd ctx i hwf hlp⟩
      · exact ⟨hwf, hlp⟩
    · exact Lex.cuts_fold nd.tab.s.length _ (nd, ctx) hwf hlp (le_refl _)
        (fun i hi => hall i (List.mem_reverse.mp hi))

theorem generateCuts_lexpos (ctl : Ctl) (nd : SolNode) (ctx : Mat) :
    WF nd → LexPos nd → LexPos (generateCuts ctl nd ctx).1 :=
  fun hwf hlp => (generateCuts_inv ctl nd ctx hwf hlp).2

/-! ### the other branches of the main loop do not touch the tableau -/

/-- the cached signs, the constraints and the artificial parameters do not enter `LexPos` -/
theorem lexpos_of_same_tableau (nd nd' : SolNode) :
    nd'.tab = nd.tab → nd'.basis = nd.basis → nd'.mapping = nd.mapping → LexPos nd → LexPos nd' := by
  intro h1 h2 h3 hlp
  refine LexPos.of_cols fun j hj => ?_
  rw [h1] at hj
  have : fullRows nd' = fullRows nd := by
    unfold fullRows
    rw [h3]
    apply List.map_congr_left
    intro k _
    unfold fullRow
    rw [h1, h2, h3]
  rw [this]
  exact hlp.col hj

/-! ### non-vacuity -/

example : WF Lex.exNodeD ∧ 0 < Lex.exNodeD.tab.s.length ∧ WF (generateCut Lex.exNodeD [] 0).1 :=
  ⟨Lex.exNodeD_wf, by decide, generateCut_wf Lex.exNodeD [] 0 Lex.exNodeD_wf (by decide)⟩

/-- two non-integral rows, strategy ALL: two cuts -/
def Lex.exNodeF : SolNode :=
  { tab := { s := [[1, 3], [3, 1]], t := [[1], [1]], den := 2, ns := 2, nt := 1 }
    basis := [false, false, true, true], mapping := [0, 1, 0, 1], varRow := [0, 1], varColumn := [2, 3]
    sign := [.positive, .positive], big := none, arts := [], cons := [] }

theorem Lex.exNodeF_wf : WF Lex.exNodeF :=
  ⟨by decide, by decide, by decide, by decide, by decide, by decide, by decide, by decide, by decide,
   by decide, by decide, by decide⟩

example : WF Lex.exNodeF ∧ LexPos Lex.exNodeF
    ∧ (generateCuts { cut := 2 } Lex.exNodeF []).1.tab.s = [[1, 3], [3, 1], [1, 1], [1, 1]]
    ∧ (generateCuts { cut := 0 } Lex.exNodeF []).1.tab.s = [[1, 3], [3, 1], [1, 1]]
    ∧ WF (generateCuts { cut := 2 } Lex.exNodeF []).1
    ∧ LexPos (generateCuts { cut := 2 } Lex.exNodeF []).1 :=
  ⟨Lex.exNodeF_wf, by decide, by decide, by decide,
   (generateCuts_inv _ _ _ Lex.exNodeF_wf (by decide)).1,
   (generateCuts_inv _ _ _ Lex.exNodeF_wf (by decide)).2⟩

end PPLV.PIPCore

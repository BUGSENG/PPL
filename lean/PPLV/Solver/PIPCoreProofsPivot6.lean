import PPLV.Solver.PIPCoreProofsPivot5
/-!
# pivot proofs: the second pass ("Compute columns t[*][j]") and the third pass
("Compute column s[*][pj]") keep the invariant
-/
namespace PPLV.PIPCore.Piv

section passT
variable {T1 : Tableau} {sp tp : Row} {spp : Int} {pj : Nat}

/-- invariant of the row loop of the second pass (the sign list is irrelevant) -/
def JT (T1 : Tableau) (sp tp : Row) (spp : Int) (pj : Nat) (Vr : Nat → Prop)
    (st : Tableau × List RowSign) : Prop :=
  ∃ f, PInv T1 sp tp spp pj (fun _ b => b ≠ pj) (fun a _ => Vr a) st.1 f

def JTin (T1 : Tableau) (sp tp : Row) (spp : Int) (pj : Nat) (i : Nat) (Vr V : Nat → Prop)
    (st : Tableau × List RowSign) : Prop :=
  ∃ f, PInv T1 sp tp spp pj (fun _ b => b ≠ pj) (fun a c => Vr a ∨ (a = i ∧ V c)) st.1 f

theorem stepT_core (hpj : pj < T1.ns) {i j : Nat} (hi : i < T1.s.length) (hj : j < T1.nt)
    {Vr V : Nat → Prop} (hVr : ¬ Vr i) (hV : ¬ V j) {T' : Tableau} {f' p : Int}
    (sg : List RowSign)
    (hI : PInv T1 sp tp spp pj (fun _ b => b ≠ pj) (fun a c => Vr a ∨ (a = i ∧ V c)) T' f')
    (hp : p * spp = rget tp j * mget T'.s i pj) :
    JTin T1 sp tp spp pj i Vr (fun x => V x ∨ x = j)
        (if p ≠ 0 then { T' with t := mset T'.t i j (mget T'.t i j - p) } else T', sg) := by
  have r1 : mget T'.s i pj = f' * mget T1.s i pj := hI.s_raw hi hpj (fun h => h rfl)
  have r2 : mget T'.t i j = f' * mget T1.t i j :=
    hI.t_raw hi hj (by
      rintro (h | ⟨_, h⟩)
      · exact hVr h
      · exact hV h)
  have hx : (mget T'.t i j - p) * spp = f' * tgtT T1 tp spp pj i j := by
    unfold tgtT; linear_combination spp * r2 - hp - (rget tp j) * r1
  by_cases hp0 : p ≠ 0
  · rw [if_pos hp0]
    refine ⟨f', (hI.setT hi hj hx).monoT (fun a b _ _ h => ?_) (fun a b _ _ h hn => ?_)⟩
    · rcases h with (h | ⟨e, v⟩) | ⟨e, e2⟩
      · exact Or.inl h
      · exact Or.inr ⟨e, Or.inl v⟩
      · exact Or.inr ⟨e, Or.inr e2⟩
    · exfalso; apply hn
      rcases h with h | ⟨e, v | e2⟩
      · exact Or.inl (Or.inl h)
      · exact Or.inl (Or.inr ⟨e, v⟩)
      · exact Or.inr ⟨e, e2⟩
  · rw [if_neg hp0]
    refine ⟨f', hI.monoT (fun a b _ _ h => ?_) (fun a b _ _ h hn => ?_)⟩
    · rcases h with h | ⟨e, v⟩
      · exact Or.inl h
      · exact Or.inr ⟨e, Or.inl v⟩
    · have hab : a = i ∧ b = j := by
        rcases h with h | ⟨e, v | e2⟩
        · exact absurd (Or.inl h) hn
        · exact absurd (Or.inr ⟨e, v⟩) hn
        · exact ⟨e, e2⟩
      obtain ⟨rfl, rfl⟩ := hab
      rw [not_not.mp hp0, sub_zero] at hx; exact hx

theorem pivotStepT_inv (hspp : 0 < spp) (hpj : pj < T1.ns) {i : Nat} (hi : i < T1.s.length)
    {Vr : Nat → Prop} (hVr : ¬ Vr i) (V : Nat → Prop) (st : Tableau × List RowSign) (j : Nat)
    (hj : j < T1.nt) (hV : ¬ V j) (h : JTin T1 sp tp spp pj i Vr V st) :
    JTin T1 sp tp spp pj i Vr (fun x => V x ∨ x = j) (pivotStepT tp spp pj i st j) := by
  obtain ⟨T, sg⟩ := st
  obtain ⟨f, hI⟩ := h
  change PInv T1 sp tp spp pj _ _ T f at hI
  rcases pivotStepT_eq hspp tp pj i T sg j with ⟨h2, e⟩ | ⟨r, p, hr, hp, e⟩
  · rw [e]
    have := stepT_core hpj hi hj hVr hV sg hI (p := 0) (by rw [h2]; ring)
    rw [if_neg (not_not.mpr rfl)] at this
    exact this
  · rw [e]
    exact stepT_core hpj hi hj hVr hV _ (hI.scale hr) hp

theorem pivotRowT_inv (hspp : 0 < spp) (hpj : pj < T1.ns) (Vr : Nat → Prop)
    (st : Tableau × List RowSign) (i : Nat)
    (hi : i < T1.s.length) (hVr : ¬ Vr i) (h : JT T1 sp tp spp pj Vr st) :
    JT T1 sp tp spp pj (fun x => Vr x ∨ x = i) (pivotRowT tp spp pj st i) := by
  obtain ⟨f, hI⟩ := h
  unfold pivotRowT
  by_cases h0 : mget st.1.s i pj = 0
  · rw [if_pos h0]
    refine ⟨f, hI.monoT (fun a b _ _ h => Or.inl h) (fun a b _ hb h hn => ?_)⟩
    have hab : a = i := by
      rcases h with h | e
      · exact absurd h hn
      · exact e
    subst hab
    have r1 : mget st.1.s a pj = f * mget T1.s a pj := hI.s_raw hi hpj (fun h => h rfl)
    have r2 : mget st.1.t a b = f * mget T1.t a b := hI.t_raw hi hb hVr
    have z : mget T1.s a pj = 0 := by
      rw [h0] at r1
      rcases Int.mul_eq_zero.mp r1.symm with e | e
      · exact absurd e (ne_of_gt hI.f_pos)
      · exact e
    unfold tgtT; rw [r2, z]; ring
  · rw [if_neg h0]
    have init : JTin T1 sp tp spp pj i Vr (fun _ => False) st := by
      refine ⟨f, hI.monoT (fun a b _ _ h => Or.inl h) (fun a b _ _ h hn => ?_)⟩
      exfalso
      rcases h with h | ⟨_, e⟩
      · exact hn h
      · exact e
    have fin := foldl_visit (JTin T1 sp tp spp pj i Vr) (pivotStepT tp spp pj i)
      (fun j => j < T1.nt)
      (fun V st j hj hV h => pivotStepT_inv hspp hpj hi hVr V st j hj hV h)
      (List.range st.1.nt) (fun _ => False) st List.nodup_range
      (fun b hb => ⟨by rw [hI.nt_eq] at hb; exact List.mem_range.mp hb, id⟩) init
    obtain ⟨f', hI'⟩ := fin
    refine ⟨f', hI'.monoT (fun a b _ _ h => ?_) (fun a b _ hb h hn => ?_)⟩
    · rcases h with h | ⟨e, _⟩
      · exact Or.inl h
      · exact Or.inr e
    · exfalso; apply hn
      rcases h with h | e
      · exact Or.inl h
      · exact Or.inr ⟨e, Or.inr (List.mem_range.mpr (by rw [hI.nt_eq]; exact hb))⟩

/-- the whole second pass -/
theorem passT_inv (hspp : 0 < spp) (hpj : pj < T1.ns) (st : Tableau × List RowSign)
    (h : JT T1 sp tp spp pj (fun _ => False) st) :
    JT T1 sp tp spp pj (fun x => x < T1.s.length)
      ((rowsDown T1.s.length).foldl (pivotRowT tp spp pj) st) := by
  have fin := foldl_visit (JT T1 sp tp spp pj) (pivotRowT tp spp pj) (fun i => i < T1.s.length)
    (fun Vr T i hi hVr h => pivotRowT_inv hspp hpj Vr T i hi hVr h)
    (rowsDown T1.s.length) (fun _ => False) st (rowsDown_nodup _)
    (fun b hb => ⟨mem_rowsDown.mp hb, id⟩) h
  obtain ⟨f, hI⟩ := fin
  refine ⟨f, hI.monoT (fun a b ha _ _ => ha) (fun a b ha _ h hn => ?_)⟩
  exact absurd (Or.inr (mem_rowsDown.mpr ha)) hn

end passT

section passC
variable {T1 : Tableau} {sp tp : Row} {spp : Int} {pj : Nat}

/-- invariant of the third pass: column `pj` of the rows in `Vr` is done -/
def JC (T1 : Tableau) (sp tp : Row) (spp : Int) (pj : Nat) (Vr : Nat → Prop) (T : Tableau) : Prop :=
  ∃ f, PInv T1 sp tp spp pj (fun a b => b ≠ pj ∨ Vr a) (fun _ _ => True) T f

theorem stepC_core (hpj : pj < T1.ns) {i : Nat} (hi : i < T1.s.length)
    {Vr : Nat → Prop} (hVr : ¬ Vr i) {T' : Tableau} {f' p : Int}
    (hI : PInv T1 sp tp spp pj (fun a b => b ≠ pj ∨ Vr a) (fun _ _ => True) T' f')
    (hp : p * spp = mget T'.s i pj * T1.den) :
    JC T1 sp tp spp pj (fun x => Vr x ∨ x = i) { T' with s := mset T'.s i pj p } := by
  have r1 : mget T'.s i pj = f' * mget T1.s i pj :=
    hI.s_raw hi hpj (by
      rintro (h | h)
      · exact h rfl
      · exact hVr h)
  have hx : p * spp = f' * tgtS T1 sp spp pj i pj := by
    unfold tgtS; rw [if_pos rfl]; linear_combination hp + T1.den * r1
  refine ⟨f', (hI.setS hi hpj hx).monoS (fun a b _ _ h => ?_) (fun a b _ _ h hn => ?_)⟩
  · rcases h with (h | h) | ⟨e, _⟩
    · exact Or.inl h
    · exact Or.inr (Or.inl h)
    · exact Or.inr (Or.inr e)
  · exfalso; apply hn
    rcases h with h | h | e
    · exact Or.inl (Or.inl h)
    · exact Or.inl (Or.inr h)
    · by_cases hb : b = pj
      · exact Or.inr ⟨e, hb⟩
      · exact Or.inl (Or.inl hb)

theorem pivotRowC_inv (hspp : 0 < spp) (hpj : pj < T1.ns) (Vr : Nat → Prop) (T : Tableau) (i : Nat)
    (hi : i < T1.s.length) (hVr : ¬ Vr i) (h : JC T1 sp tp spp pj Vr T) :
    JC T1 sp tp spp pj (fun x => Vr x ∨ x = i) (pivotRowC spp T1.den pj T i) := by
  obtain ⟨f, hI⟩ := h
  obtain ⟨r, p, hr, hp, e⟩ := pivotRowC_eq hspp T1.den pj T i
  rw [e]
  exact stepC_core hpj hi hVr (hI.scale hr) hp

/-- the whole third pass -/
theorem passC_inv (hspp : 0 < spp) (hpj : pj < T1.ns) (T : Tableau)
    (h : JC T1 sp tp spp pj (fun _ => False) T) :
    JC T1 sp tp spp pj (fun x => x < T1.s.length)
      ((rowsDown T1.s.length).foldl (pivotRowC spp T1.den pj) T) := by
  have fin := foldl_visit (JC T1 sp tp spp pj) (pivotRowC spp T1.den pj) (fun i => i < T1.s.length)
    (fun Vr T i hi hVr h => pivotRowC_inv hspp hpj Vr T i hi hVr h)
    (rowsDown T1.s.length) (fun _ => False) T (rowsDown_nodup _)
    (fun b hb => ⟨mem_rowsDown.mp hb, id⟩) h
  obtain ⟨f, hI⟩ := fin
  refine ⟨f, hI.monoS (fun a b ha _ h => ?_) (fun a b ha _ h hn => ?_)⟩
  · rcases h with h | h | h
    · exact Or.inl h
    · exact absurd h id
    · exact Or.inr ha
  · exfalso; apply hn
    rcases h with h | _
    · exact Or.inl h
    · exact Or.inr (Or.inr (mem_rowsDown.mpr ha))

end passC

end PPLV.PIPCore.Piv

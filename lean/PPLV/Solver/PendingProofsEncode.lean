import PPLV.Solver.PendingProofsSetup4

/-!
# sign normalisation, artificial columns of a fresh problem, the encoding of a point (`enc`, `enc_spec`)
-/
namespace PPLV.Solver.Pend
open PPLV.Lin PPLV.Solver.Tab

/-! ### sign normalisation (:906–:915) -/

def normRow (r : Row) : Row := if r.get 0 > 0 then r.map (- ·) else r

theorem normRow_val (r : Row) (y : Val) : rowVal (normRow r) y = 0 ↔ rowVal r y = 0 := by
  unfold normRow rowVal
  split
  · rw [dot_map_neg']; constructor <;> intro h <;> linarith
  · exact Iff.rfl

theorem normRow_length (r : Row) : (normRow r).length = r.length := by
  unfold normRow; split <;> simp

theorem normalize_getD (T : List Row) (r : Nat) : (ppcNormalizeSigns T).getD r [] = normRow (T.getD r []) := by
  unfold ppcNormalizeSigns
  rw [List.getD_eq_getElem?_getD, List.getElem?_map, List.getD_eq_getElem?_getD]
  cases T[r]? with
  | none => rfl
  | some a => rfl

theorem normalize_length (T : List Row) : (ppcNormalizeSigns T).length = T.length := by
  unfold ppcNormalizeSigns; simp

/-! ### artificial columns (:918–:949), no re-merged row -/

theorem artificials_fresh (N numCols SL : Nat) (worked : List Bool) (T1 : List Row) (cost : Row) (base : List Nat)
    (hT : T1.length = N) (hrows : ∀ r, r < N → (T1.getD r []).length = numCols) :
    (ppcArtificials [] 0 N worked T1 cost base SL).1.length = N ∧
    ∀ r, r < N → ((ppcArtificials [] 0 N worked T1 cost base SL).1.getD r []).length = numCols ∧
      ∀ y : Val, (∀ col, SL ≤ col → col < numCols → y col = 0) →
        rowVal ((ppcArtificials [] 0 N worked T1 cost base SL).1.getD r []) y = rowVal (T1.getD r []) y := by
  unfold ppcArtificials
  simp only [List.foldl_nil, Nat.sub_zero]
  have key := fwdFold_inv
    (fun (_ : Nat) (acc : List Row × Row × List Nat × Nat) => acc.1.length = N ∧ SL ≤ acc.2.2.2 ∧
      ∀ r, r < N → (acc.1.getD r []).length = numCols ∧
        ∀ y : Val, (∀ col, SL ≤ col → col < numCols → y col = 0) →
          rowVal (acc.1.getD r []) y = rowVal (T1.getD r []) y)
    (fun i (acc : List Row × Row × List Nat × Nat) =>
      let (T, cost, base, ai) := acc
      if worked.getD i false then acc
      else (T.set i ((T.getD i []).set ai 1), cost.set ai (-1), base.set i ai, ai + 1))
    N 0 (T1, cost, base, SL)
    ⟨hT, le_refl _, fun r hr => ⟨hrows r hr, fun _ _ => rfl⟩⟩
    (by
      intro i _ hi acc ⟨a1, a2, a3⟩
      obtain ⟨T, cst, bs, ai⟩ := acc
      simp only at a1 a2 a3 ⊢
      by_cases hw : worked.getD i false = true
      · rw [if_pos hw]; exact ⟨a1, a2, a3⟩
      · rw [if_neg hw]
        simp only
        have hiT : i < T.length := by rw [a1]; omega
        refine ⟨by rw [List.length_set]; exact a1, by omega, fun r hr => ?_⟩
        rw [getD_set_of_lt _ _ _ _ hiT]
        by_cases hri : r = i
        · rw [if_pos hri]
          obtain ⟨b1, b2⟩ := a3 i (by omega)
          refine ⟨by rw [List.length_set]; exact b1, fun y hy => ?_⟩
          rw [← hri] at b1 b2 ⊢
          rw [← b2 y hy]
          by_cases hai : ai < (T.getD r []).length
          · unfold rowVal
            rw [dot_set _ _ _ _ hai, hy ai a2 (by rw [← b1]; exact hai)]; simp
          · rw [List.set_eq_of_length_le (by omega)]
        · rw [if_neg hri]; exact a3 r hr)
  exact ⟨key.1, key.2.2⟩

/-! ### the encoding of a point on the columns of the problem variables -/

def enc (M : List (Nat × Nat)) (x : Val) : Nat → Val
  | 0 => fun j => if j = 0 then 1 else 0
  | v+1 =>
    let m := M.getD (v+1) (0, 0)
    if m.2 = 0 then (enc M x v).update m.1 (x v)
    else ((enc M x v).update m.1 (max (x v) 0)).update m.2 (max (-(x v)) 0)

theorem enc_spec (M : List (Nat × Nat)) (nn : List Bool) (n j : Nat) (hM : MapOK M nn n j) (x : Val)
    (hx : ∀ u, u < n → nn.getD u false = true → 0 ≤ x u) :
    ∀ v, v ≤ n →
      enc M x v 0 = 1 ∧
      (∀ col, col ≠ 0 → (∀ u, u < v → hiCol (M.getD (u+1) (0, 0)) < col) → enc M x v col = 0) ∧
      (∀ u, u < v → proj M (enc M x v) u = x u) ∧
      (∀ col, 0 ≤ enc M x v col) := by
  intro v
  induction v with
  | zero =>
    intro _
    refine ⟨by simp [enc], fun col hc _ => by simp [enc, hc], fun u hu => by omega, fun col => ?_⟩
    simp only [enc]; split <;> norm_num
  | succ v ih =>
    intro hv
    obtain ⟨e1, e2, e3, e4⟩ := ih (by omega)
    obtain ⟨c1, c2, c3, c4⟩ := hM.cols v (by omega)
    -- the columns of variable v are beyond those of the earlier variables
    have hbefore : ∀ u, u < v → hiCol (M.getD (u+1) (0, 0)) < (M.getD (v+1) (0, 0)).1 :=
      fun u hu => hM.ord u v hu (by omega)
    have hcolsu : ∀ u, u < v → (M.getD (u+1) (0, 0)).1 ≤ hiCol (M.getD (u+1) (0, 0)) ∧
        (M.getD (u+1) (0, 0)).2 ≤ hiCol (M.getD (u+1) (0, 0)) := by
      intro u hu
      obtain ⟨d1, d2, -, -⟩ := hM.cols u (by omega)
      unfold hiCol; split <;> omega
    by_cases hm : (M.getD (v+1) (0, 0)).2 = 0
    · have hnnv : nn.getD v false = true := c3.mp hm
      have hxv := hx v (by omega) hnnv
      simp only [enc, hm, if_true]
      refine ⟨?_, fun col hc hall => ?_, fun u hu => ?_, fun col => ?_⟩
      · simp only [Val.update]; rw [if_neg (by omega)]; exact e1
      · have := hall v (by omega); unfold hiCol at this; rw [if_pos hm] at this
        simp only [Val.update]; rw [if_neg (by omega)]
        exact e2 col hc (fun u hu => hall u (by omega))
      · by_cases huv : u = v
        · subst huv
          unfold proj; simp only [hm]; simp [Val.update]
        · have hu' : u < v := by omega
          have hb := hbefore u hu'
          obtain ⟨g1, g2⟩ := hcolsu u hu'
          rw [← e3 u hu']
          unfold proj
          simp only [Val.update]
          rw [if_neg (by omega)]
          by_cases hm2 : (M.getD (u+1) (0, 0)).2 = 0
          · have hb2 : ((M.getD (u+1) (0, 0)).2 != 0) = false := by rw [hm2]; rfl
            rw [hb2]
            simp only [Bool.false_eq_true, if_false]
          · have : ((M.getD (u+1) (0, 0)).2 != 0) = true := bne_iff_ne.mpr hm2
            rw [this]; simp only [if_true]; rw [if_neg (by omega)]
      · simp only [Val.update]; split
        · exact hxv
        · exact e4 col
    · have hm2 : (M.getD (v+1) (0, 0)).2 = (M.getD (v+1) (0, 0)).1 + 1 := by
        rcases c2 with h | h
        · exact absurd h hm
        · exact h
      simp only [enc, hm, if_false]
      refine ⟨?_, fun col hc hall => ?_, fun u hu => ?_, fun col => ?_⟩
      · simp only [Val.update]; rw [if_neg (by omega), if_neg (by omega)]; exact e1
      · have := hall v (by omega); unfold hiCol at this; rw [if_neg hm] at this
        simp only [Val.update]; rw [if_neg (by omega), if_neg (by omega)]
        exact e2 col hc (fun u hu => hall u (by omega))
      · by_cases huv : u = v
        · subst huv
          unfold proj
          have : ((M.getD (u+1) (0, 0)).2 != 0) = true := bne_iff_ne.mpr hm
          have hne12 : ¬ (M.getD (u+1) (0, 0)).1 = (M.getD (u+1) (0, 0)).2 := by omega
          simp only [this, if_true, Val.update, hne12, if_false]
          rcases le_total (x u) 0 with h | h
          · have h1 : max (x u) 0 = 0 := max_eq_right h
            have h2 : max (-(x u)) 0 = -(x u) := max_eq_left (by linarith)
            rw [h1, h2]; ring
          · have h1 : max (x u) 0 = x u := max_eq_left h
            have h2 : max (-(x u)) 0 = 0 := max_eq_right (by linarith)
            rw [h1, h2]; ring
        · have hu' : u < v := by omega
          have hb := hbefore u hu'
          obtain ⟨g1, g2⟩ := hcolsu u hu'
          rw [← e3 u hu']
          unfold proj
          simp only [Val.update]
          rw [if_neg (by omega), if_neg (by omega)]
          by_cases hm2' : (M.getD (u+1) (0, 0)).2 = 0
          · have hb2 : ((M.getD (u+1) (0, 0)).2 != 0) = false := by rw [hm2']; rfl
            rw [hb2]
            simp only [Bool.false_eq_true, if_false]
          · have : ((M.getD (u+1) (0, 0)).2 != 0) = true := bne_iff_ne.mpr hm2'
            rw [this]; simp only [if_true]; rw [if_neg (by omega), if_neg (by omega)]
      · simp only [Val.update]; split
        · exact le_max_right _ _
        · split
          · exact le_max_right _ _
          · exact e4 col

theorem dot_congr_lt (l : List Int) (x x' : Val) (h : ∀ u, u < l.length → x u = x' u) : dot l x = dot l x' := by
  induction l generalizing x x' with
  | nil => rfl
  | cons a l ih =>
    simp only [dot_cons]
    rw [h 0 (by simp), ih x.tail x'.tail (fun u hu => h (u+1) (by simpa using hu))]

end PPLV.Solver.Pend

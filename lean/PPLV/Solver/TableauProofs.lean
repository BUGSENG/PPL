import PPLV.Solver.Tableau
import PPLV.Lin.Decide

/-!
# partial correctness of one simplex phase (row algebra of `MIP_Problem.cc`)

* `linearCombine_zero_iff`, `linearCombine_get`: the combined row vanishes where the old one did
  (given the pivot row vanishes) and has a zero in the pivot column;
* `pivotRows_solutions`: `pivot` does not change the solution set of the tableau;
* `challengerDiff_pos_iff`, `challengerDiff_zero_iff`: the lcm-scaled integer comparison of
  `get_exiting_base_index` is the comparison of the ratios `|t_i0| / |t_ie|`;
* `exitingIndex_some`, `exitingIndex_none`: the row returned is eligible and lexicographically
  minimal for (ratio, base index) among the eligible rows; `none` iff no row is eligible;
* `ratio_step_nonneg`: moving the entering variable up to the minimal ratio keeps every basic
  variable non-negative;
* `textbookEntering_zero`, `no_entering_bound`: the stop test means optimality of the basic solution;
* `basicValue_spec`, `mergeSplit_spec`: the fractions of `compute_generator`.

Termination (anti-cycling) and the floating-point pricing are outside this model.
-/
namespace PPLV.Solver.Tab
open PPLV.Lin

/-! ### rows -/

theorem getD_set {α : Type} (l : List α) (i k : Nat) (v : α) {d : α} :
    (l.set i v).getD k d = if k = i ∧ i < l.length then v else l.getD k d := by
  rw [List.getD_eq_getElem?_getD, List.getElem?_set, List.getD_eq_getElem?_getD]
  by_cases h : i = k
  · subst h; by_cases hi : i < l.length <;> simp [hi]
  · have h' : ¬ k = i := fun a => h a.symm
    simp [h, h']

theorem getD_set_of_lt {α : Type} (l : List α) (i k : Nat) (v : α) {d : α} (hi : i < l.length) :
    (l.set i v).getD k d = if k = i then v else l.getD k d := by
  rw [getD_set]
  by_cases h : k = i
  · rw [if_pos ⟨h, hi⟩, if_pos h]
  · rw [if_neg fun a => h a.1, if_neg h]

theorem find?_congr' {α : Type} (l : List α) (p q : α → Bool) (h : ∀ a ∈ l, p a = q a) : l.find? p = l.find? q := by
  induction l with
  | nil => rfl
  | cons a l ih =>
    rw [List.find?_cons, List.find?_cons, h a List.mem_cons_self, ih (fun b hb => h b (List.mem_cons_of_mem _ hb))]

theorem dot_eq_zero_of_support (r : List Int) (x : Val) (h : ∀ j, r.getD j 0 = 0 ∨ x j = 0) : dot r x = 0 := by
  induction r generalizing x with
  | nil => rfl
  | cons a as ih =>
    rw [dot_cons]
    have h0 := h 0
    simp only [List.getD_cons_zero] at h0
    have htail : dot as x.tail = 0 := ih x.tail (fun j => by
      have := h (j + 1)
      simpa [Val.tail] using this)
    rw [htail, add_zero]
    rcases h0 with h0 | h0
    · rw [h0]; simp
    · rw [h0]; simp

theorem getD_lincomb (a b : Int) (xs ys : List Int) (k : Nat) :
    (lincomb a b xs ys).getD k 0 = a * xs.getD k 0 + b * ys.getD k 0 := by
  induction xs generalizing ys k with
  | nil =>
    simp only [lincomb, List.getD_nil, mul_zero, zero_add]
    rw [List.getD_eq_getElem?_getD, List.getElem?_map]
    cases h : ys[k]? <;> simp [List.getD_eq_getElem?_getD, h]
  | cons x xs ih =>
    cases ys with
    | nil =>
      simp only [lincomb, List.getD_nil, mul_zero, add_zero]
      rw [List.getD_eq_getElem?_getD, List.getElem?_map]
      cases h : (x :: xs)[k]? <;> simp [List.getD_eq_getElem?_getD, h]
    | cons y ys =>
      cases k with
      | zero => simp [lincomb]
      | succ k => simp only [lincomb, List.getD_cons_succ]; exact ih ys k

theorem getD_map_div (r : List Int) (g : Int) (k : Nat) : (r.map (· / g)).getD k 0 = r.getD k 0 / g := by
  rw [List.getD_eq_getElem?_getD, List.getElem?_map, List.getD_eq_getElem?_getD]
  cases r[k]? <;> simp

theorem rowVal_normalize (r : Row) (x : Val) : rowVal (normalizeRow r) x = 0 ↔ rowVal r x = 0 := by
  unfold normalizeRow rowVal
  simp only
  split
  · exact Iff.rfl
  · rename_i hg
    have hg0 : ((gcdList r : Nat) : Int) ≠ 0 := by omega
    have h := dot_map_div ((gcdList r : Nat) : Int) r (gcdList_dvd r) x
    have hq : (((gcdList r : Nat) : Int) : Rat) ≠ 0 := by exact_mod_cast hg0
    constructor
    · intro h0; rw [← h, h0, mul_zero]
    · intro h0; rw [h0] at h; exact (mul_eq_zero.mp h).resolve_left hq

theorem get_normalize_zero (r : Row) (k : Nat) (h : r.get k = 0) : (normalizeRow r).get k = 0 := by
  unfold normalizeRow Row.get at *
  simp only
  split
  · exact h
  · rw [getD_map_div, h]; simp

/-- the pivot column of the combined row is zero -/
theorem linearCombine_get (x y : Row) (k : Nat) : (linearCombine x y k).get k = 0 := by
  unfold linearCombine
  apply get_normalize_zero
  unfold Row.get
  rw [getD_lincomb]
  show -(y.get k / ((Int.gcd (x.get k) (y.get k) : Nat) : Int)) * x.get k +
      x.get k / ((Int.gcd (x.get k) (y.get k) : Nat) : Int) * y.get k = 0
  have hp := Int.gcd_dvd_left (x.get k) (y.get k)
  have hq := Int.gcd_dvd_right (x.get k) (y.get k)
  generalize ((Int.gcd (x.get k) (y.get k) : Nat) : Int) = g at *
  obtain ⟨p, hp⟩ := hp
  obtain ⟨q, hq⟩ := hq
  rw [hp, hq]
  by_cases hg : g = 0
  · subst hg; simp
  · rw [Int.mul_ediv_cancel_left _ hg, Int.mul_ediv_cancel_left _ hg]; ring

/-- where the pivot row vanishes, the combined row vanishes iff the old row did -/
theorem linearCombine_zero_iff (a y : Row) (k : Nat) (x : Val) (hy : rowVal y x = 0) (hk : y.get k ≠ 0) :
    rowVal (linearCombine a y k) x = 0 ↔ rowVal a x = 0 := by
  unfold linearCombine
  rw [rowVal_normalize]
  unfold rowVal at *
  rw [dot_lincomb, hy, mul_zero, add_zero]
  have hny : y.get k / ((Int.gcd (a.get k) (y.get k) : Nat) : Int) ≠ 0 := by
    have hq := Int.gcd_dvd_right (a.get k) (y.get k)
    generalize ((Int.gcd (a.get k) (y.get k) : Nat) : Int) = g at *
    obtain ⟨q, hq⟩ := hq
    have hg : g ≠ 0 := by
      intro h0; apply hk; rw [hq, h0]; simp
    rw [hq, Int.mul_ediv_cancel_left _ hg]
    intro hq0; apply hk; rw [hq, hq0]; simp
  have hq : ((-(y.get k / ((Int.gcd (a.get k) (y.get k) : Nat) : Int)) : Int) : Rat) ≠ 0 := by
    exact_mod_cast neg_ne_zero.mpr hny
  constructor
  · intro h; exact (mul_eq_zero.mp h).resolve_left hq
  · intro h; rw [h, mul_zero]

/-! ### pivot -/

/-- the valuation satisfies every row -/
def Sol (T : List Row) (x : Val) : Prop := ∀ i, i < T.length → rowVal (T.getD i []) x = 0

theorem pivotRows_length (T : List Row) (e r : Nat) : (pivotRows T e r).length = T.length := by
  simp [pivotRows]

theorem pivotRows_getD (T : List Row) (e r i : Nat) (hi : i < T.length) :
    (pivotRows T e r).getD i [] =
      if i != r && (T.getD i []).get e != 0 then linearCombine (T.getD i []) (T.getD r []) e else T.getD i [] := by
  unfold pivotRows
  simp only
  rw [List.getD_eq_getElem?_getD, List.getElem?_map, List.getElem?_range hi]
  rfl

/-- **`pivot` preserves the solutions of the tableau** -/
theorem pivotRows_solutions (T : List Row) (e r : Nat) (hr : r < T.length) (he : (T.getD r []).get e ≠ 0)
    (x : Val) : Sol (pivotRows T e r) x ↔ Sol T x := by
  have hrow : (pivotRows T e r).getD r [] = T.getD r [] := by
    rw [pivotRows_getD T e r r hr]; simp
  unfold Sol
  rw [pivotRows_length]
  constructor
  · intro h i hi
    have hr0 : rowVal (T.getD r []) x = 0 := by rw [← hrow]; exact h r hr
    have hi' := h i hi
    rw [pivotRows_getD T e r i hi] at hi'
    split at hi'
    · exact (linearCombine_zero_iff _ _ e x hr0 he).mp hi'
    · exact hi'
  · intro h i hi
    rw [pivotRows_getD T e r i hi]
    split
    · exact (linearCombine_zero_iff _ _ e x (h r hr) he).mpr (h i hi)
    · exact h i hi

/-- after the pivot the entering column is zero in every row but the pivot row -/
theorem pivotRows_column (T : List Row) (e r i : Nat) (hi : i < T.length) (hir : i ≠ r) :
    ((pivotRows T e r).getD i []).get e = 0 := by
  rw [pivotRows_getD T e r i hi]
  by_cases h : (T.getD i []).get e = 0
  · have hc : (i != r && (T.getD i []).get e != 0) = false := by rw [h]; simp
    rw [hc]; simp only [Bool.false_eq_true, if_false]; exact h
  · have hc : (i != r && (T.getD i []).get e != 0) = true := by
      rw [Bool.and_eq_true]; exact ⟨bne_iff_ne.mpr hir, bne_iff_ne.mpr h⟩
    rw [if_pos hc]
    exact linearCombine_get _ _ e

/-! ### the ratio test -/

/-- `|t_0| / |t_e|` -/
def ratio (T : List Row) (e i : Nat) : Rat :=
  (((T.getD i []).get 0).natAbs : Rat) / (((T.getD i []).get e).natAbs : Rat)

theorem natAbs_exact_div_mul (L : Nat) (d a : Int) (hd : d ≠ 0) (hdiv : d ∣ (L : Int)) :
    ((((L : Int) / d * a).natAbs : Nat) : Rat) = (L : Rat) * (a.natAbs : Rat) / (d.natAbs : Rat) := by
  obtain ⟨q, hq⟩ := hdiv
  have h1 : (L : Int) / d = q := by rw [hq]; exact Int.mul_ediv_cancel_left _ hd
  rw [h1, Int.natAbs_mul]
  have hL : (L : Nat) = d.natAbs * q.natAbs := by
    have := congrArg Int.natAbs hq
    rw [Int.natAbs_natCast, Int.natAbs_mul] at this
    exact this
  have hdn : ((d.natAbs : Nat) : Rat) ≠ 0 := by
    exact_mod_cast Int.natAbs_ne_zero.mpr hd
  rw [hL]
  push_cast
  field_simp

theorem challengerDiff_eq (te0 tee ti0 tie : Int) (h1 : tee ≠ 0) (h2 : tie ≠ 0) :
    ((challengerDiff te0 tee ti0 tie : Int) : Rat) =
      ((Int.lcm tee tie : Nat) : Rat) *
        ((te0.natAbs : Rat) / (tee.natAbs : Rat) - (ti0.natAbs : Rat) / (tie.natAbs : Rat)) := by
  unfold challengerDiff
  simp only
  rw [Int.cast_sub, Int.cast_natCast, Int.cast_natCast,
    natAbs_exact_div_mul _ tee te0 h1 (Int.dvd_lcm_left tee tie),
    natAbs_exact_div_mul _ tie ti0 h2 (Int.dvd_lcm_right tee tie)]
  ring

theorem lcm_pos_rat (a b : Int) (ha : a ≠ 0) (hb : b ≠ 0) : (0 : Rat) < ((Int.lcm a b : Nat) : Rat) := by
  have : 0 < Int.lcm a b := Int.lcm_pos ha hb
  exact_mod_cast this

/-- the integer comparison is the comparison of the two ratios -/
theorem challengerDiff_pos_iff (te0 tee ti0 tie : Int) (h1 : tee ≠ 0) (h2 : tie ≠ 0) :
    0 < challengerDiff te0 tee ti0 tie ↔
      (ti0.natAbs : Rat) / (tie.natAbs : Rat) < (te0.natAbs : Rat) / (tee.natAbs : Rat) := by
  have h := challengerDiff_eq te0 tee ti0 tie h1 h2
  have hl := lcm_pos_rat tee tie h1 h2
  constructor
  · intro hp
    have : (0 : Rat) < ((challengerDiff te0 tee ti0 tie : Int) : Rat) := by exact_mod_cast hp
    rw [h] at this
    have := (mul_pos_iff_of_pos_left hl).mp this
    linarith
  · intro hp
    have : (0 : Rat) < ((challengerDiff te0 tee ti0 tie : Int) : Rat) := by
      rw [h]; exact mul_pos hl (by linarith)
    exact_mod_cast this

theorem challengerDiff_zero_iff (te0 tee ti0 tie : Int) (h1 : tee ≠ 0) (h2 : tie ≠ 0) :
    challengerDiff te0 tee ti0 tie = 0 ↔
      (te0.natAbs : Rat) / (tee.natAbs : Rat) = (ti0.natAbs : Rat) / (tie.natAbs : Rat) := by
  have h := challengerDiff_eq te0 tee ti0 tie h1 h2
  have hl := lcm_pos_rat tee tie h1 h2
  constructor
  · intro hp
    rw [hp] at h
    have := (mul_eq_zero.mp h.symm).resolve_left (ne_of_gt hl)
    linarith
  · intro hp
    have : ((challengerDiff te0 tee ti0 tie : Int) : Rat) = 0 := by rw [h, hp]; ring
    exact_mod_cast this

/-- `r` is at least as good a leaving row as `j`: smaller ratio, or equal ratio and not larger base index -/
def LexLe (T : List Row) (base : List Nat) (e r j : Nat) : Prop :=
  ratio T e r < ratio T e j ∨ (ratio T e r = ratio T e j ∧ base.getD r 0 ≤ base.getD j 0)

theorem LexLe.refl (T : List Row) (base : List Nat) (e r : Nat) : LexLe T base e r r := Or.inr ⟨rfl, le_refl _⟩

theorem LexLe.trans {T : List Row} {base : List Nat} {e a b c : Nat}
    (h1 : LexLe T base e a b) (h2 : LexLe T base e b c) : LexLe T base e a c := by
  unfold LexLe at *
  rcases h1 with h1 | ⟨h1, p1⟩ <;> rcases h2 with h2 | ⟨h2, p2⟩
  · exact Or.inl (lt_trans h1 h2)
  · exact Or.inl (h2 ▸ h1)
  · exact Or.inl (h1 ▸ h2)
  · exact Or.inr ⟨h1.trans h2, le_trans p1 p2⟩

theorem eligible_ne (T : List Row) (base : List Nat) (e i : Nat) (h : eligible T base e i = true) :
    (T.getD i []).get e ≠ 0 := by
  unfold eligible at h
  simp only [Bool.and_eq_true, bne_iff_ne] at h
  intro h0
  apply h.1
  rw [h0]; rfl

theorem scanExit_spec (T : List Row) (base : List Nat) (e : Nat) :
    ∀ (is : List Nat) (cur : Nat), eligible T base e cur = true →
      eligible T base e (scanExit T base e is cur) = true ∧
      (scanExit T base e is cur = cur ∨ scanExit T base e is cur ∈ is) ∧
      LexLe T base e (scanExit T base e is cur) cur ∧
      ∀ j ∈ is, eligible T base e j = true → LexLe T base e (scanExit T base e is cur) j := by
  intro is
  induction is with
  | nil => intro cur hc; exact ⟨hc, Or.inl rfl, LexLe.refl .., fun j hj => by cases hj⟩
  | cons i is ih =>
    intro cur hc
    unfold scanExit
    by_cases hi : eligible T base e i = true
    · simp only [hi, if_true]
      have hce := eligible_ne T base e cur hc
      have hie := eligible_ne T base e i hi
      have hpos := challengerDiff_pos_iff ((T.getD cur []).get 0) ((T.getD cur []).get e)
        ((T.getD i []).get 0) ((T.getD i []).get e) hce hie
      have hzero := challengerDiff_zero_iff ((T.getD cur []).get 0) ((T.getD cur []).get e)
        ((T.getD i []).get 0) ((T.getD i []).get e) hce hie
      split
      · rename_i hsw
        -- switch to row i
        have hic : LexLe T base e i cur := by
          simp only [Bool.or_eq_true, decide_eq_true_eq, Bool.and_eq_true, beq_iff_eq] at hsw
          rcases hsw with h | ⟨h0, hb⟩
          · exact Or.inl (hpos.mp h)
          · exact Or.inr ⟨(hzero.mp h0).symm, le_of_lt hb⟩
        obtain ⟨h1, h2, h3, h4⟩ := ih i hi
        refine ⟨h1, ?_, h3.trans hic, ?_⟩
        · rcases h2 with h2 | h2
          · exact Or.inr (by rw [h2]; exact List.mem_cons_self)
          · exact Or.inr (List.mem_cons_of_mem _ h2)
        · intro j hj hje
          rcases List.mem_cons.mp hj with rfl | hj
          · exact h3
          · exact h4 j hj hje
      · rename_i hsw
        have hci : LexLe T base e cur i := by
          simp only [Bool.or_eq_true, decide_eq_true_eq, Bool.and_eq_true, beq_iff_eq, not_or, not_and,
            not_lt] at hsw
          obtain ⟨hn, hz⟩ := hsw
          by_cases h0 : challengerDiff ((T.getD cur []).get 0) ((T.getD cur []).get e)
              ((T.getD i []).get 0) ((T.getD i []).get e) = 0
          · exact Or.inr ⟨hzero.mp h0, hz h0⟩
          · left
            have hlt : challengerDiff ((T.getD cur []).get 0) ((T.getD cur []).get e)
                ((T.getD i []).get 0) ((T.getD i []).get e) < 0 := by omega
            by_contra hnot
            have hge : ratio T e i ≤ ratio T e cur := not_lt.mp hnot
            rcases lt_or_eq_of_le hge with h | h
            · have := hpos.mpr h; omega
            · exact h0 (hzero.mpr h.symm)
        obtain ⟨h1, h2, h3, h4⟩ := ih cur hc
        refine ⟨h1, ?_, h3, ?_⟩
        · rcases h2 with h2 | h2
          · exact Or.inl h2
          · exact Or.inr (List.mem_cons_of_mem _ h2)
        · intro j hj hje
          rcases List.mem_cons.mp hj with rfl | hj
          · exact h3.trans hci
          · exact h4 j hj hje
    · simp only [hi, Bool.false_eq_true, if_false]
      obtain ⟨h1, h2, h3, h4⟩ := ih cur hc
      refine ⟨h1, ?_, h3, ?_⟩
      · rcases h2 with h2 | h2
        · exact Or.inl h2
        · exact Or.inr (List.mem_cons_of_mem _ h2)
      · intro j hj hje
        rcases List.mem_cons.mp hj with rfl | hj
        · exact absurd hje hi
        · exact h4 j hj hje

theorem scanFrom_spec (T : List Row) (base : List Nat) (e : Nat) (l : List Nat) :
    match scanFrom T base e l with
    | none => ∀ j ∈ l, eligible T base e j = false
    | some r => r ∈ l ∧ eligible T base e r = true ∧ ∀ j ∈ l, eligible T base e j = true → LexLe T base e r j := by
  induction l with
  | nil => simp [scanFrom]
  | cons i is ih =>
    unfold scanFrom
    by_cases hi : eligible T base e i = true
    · simp only [hi, if_true]
      obtain ⟨h1, h2, h3, h4⟩ := scanExit_spec T base e is i hi
      refine ⟨?_, h1, ?_⟩
      · rcases h2 with h2 | h2
        · rw [h2]; exact List.mem_cons_self
        · exact List.mem_cons_of_mem _ h2
      · intro j hj hje
        rcases List.mem_cons.mp hj with rfl | hj
        · exact h3
        · exact h4 j hj hje
    · simp only [hi, Bool.false_eq_true, if_false]
      cases hs : scanFrom T base e is with
      | none =>
        rw [hs] at ih
        intro j hj
        rcases List.mem_cons.mp hj with rfl | hj
        · simpa using hi
        · exact ih j hj
      | some r =>
        rw [hs] at ih
        obtain ⟨h1, h2, h3⟩ := ih
        refine ⟨List.mem_cons_of_mem _ h1, h2, ?_⟩
        intro j hj hje
        rcases List.mem_cons.mp hj with rfl | hj
        · exact absurd hje hi
        · exact h3 j hj hje

/-- **the leaving row**: eligible, and minimal for (ratio, base index) among the eligible rows -/
theorem exitingIndex_some (T : List Row) (base : List Nat) (e r : Nat) (h : exitingIndex T base e = some r) :
    r < T.length ∧ eligible T base e r = true ∧
      ∀ j, j < T.length → eligible T base e j = true → LexLe T base e r j := by
  have := scanFrom_spec T base e (List.range T.length)
  unfold exitingIndex at h
  rw [h] at this
  obtain ⟨h1, h2, h3⟩ := this
  exact ⟨List.mem_range.mp h1, h2, fun j hj => h3 j (List.mem_range.mpr hj)⟩

/-- no leaving row: no row limits the entering variable -/
theorem exitingIndex_none (T : List Row) (base : List Nat) (e : Nat) (h : exitingIndex T base e = none) :
    ∀ j, j < T.length → eligible T base e j = false := by
  have := scanFrom_spec T base e (List.range T.length)
  unfold exitingIndex at h
  rw [h] at this
  exact fun j hj => this j (List.mem_range.mpr hj)

theorem sgn_eq_iff (a b : Int) (ha : a ≠ 0) : sgn a = sgn b ↔ (0 < a ∧ 0 < b) ∨ (a < 0 ∧ b < 0) := by
  unfold sgn
  split <;> split <;> (try split) <;> omega

/-- one row of the ratio test: with basic coefficient `b ≠ 0`, current basic value `−t0/b ≥ 0` and
    entering coefficient `a`, raising the entering variable to `θ ≥ 0` gives the basic value
    `(−t0 − a θ)/b`; it stays non-negative when the row is not eligible, and when it is eligible as
    long as `θ ≤ |t0|/|a|`. -/
theorem ratio_step_nonneg (t0 a b : Int) (θ : Rat) (hb : b ≠ 0) (hθ : 0 ≤ θ)
    (hv : 0 ≤ -(t0 : Rat) / (b : Rat))
    (hel : (a ≠ 0 ∧ sgn a = sgn b) → θ ≤ (t0.natAbs : Rat) / (a.natAbs : Rat)) :
    0 ≤ (-(t0 : Rat) - (a : Rat) * θ) / (b : Rat) := by
  have hbq : (b : Rat) ≠ 0 := by exact_mod_cast hb
  have hsplit : (-(t0 : Rat) - (a : Rat) * θ) / (b : Rat) = -(t0 : Rat) / (b : Rat) - (a : Rat) / (b : Rat) * θ := by
    field_simp
  rw [hsplit]
  by_cases hela : a ≠ 0 ∧ sgn a = sgn b
  · have hle := hel hela
    obtain ⟨ha, hs⟩ := hela
    have hab : (0 : Rat) < (a : Rat) / (b : Rat) := by
      rcases (sgn_eq_iff a b ha).mp hs with ⟨h1, h2⟩ | ⟨h1, h2⟩
      · exact div_pos (by exact_mod_cast h1) (by exact_mod_cast h2)
      · exact div_pos_of_neg_of_neg (by exact_mod_cast h1) (by exact_mod_cast h2)
    -- |t0|/|a| = (−t0/b) / (a/b)
    have hratio : (t0.natAbs : Rat) / (a.natAbs : Rat) = (-(t0 : Rat) / (b : Rat)) / ((a : Rat) / (b : Rat)) := by
      have haq : (a : Rat) ≠ 0 := by exact_mod_cast ha
      have h1 : (-(t0 : Rat) / (b : Rat)) / ((a : Rat) / (b : Rat)) = -(t0 : Rat) / (a : Rat) := by field_simp
      rw [h1]
      have hnn : 0 ≤ -(t0 : Rat) / (a : Rat) := by
        have := div_nonneg hv (le_of_lt hab)
        rw [h1] at this; exact this
      have habs : |-(t0 : Rat) / (a : Rat)| = -(t0 : Rat) / (a : Rat) := abs_of_nonneg hnn
      rw [← habs, abs_div, abs_neg]
      congr 1
      · rw [Nat.cast_natAbs]; push_cast; rfl
      · rw [Nat.cast_natAbs]; push_cast; rfl
    rw [hratio, le_div_iff₀ hab] at hle
    linarith
  · -- not eligible: a = 0, or opposite signs: the basic variable does not decrease
    have hab : (a : Rat) / (b : Rat) ≤ 0 := by
      by_cases ha : a = 0
      · rw [ha]; simp
      · have hs : sgn a ≠ sgn b := fun h => hela ⟨ha, h⟩
        have hne := mt (sgn_eq_iff a b ha).mpr hs
        rcases lt_or_gt_of_ne ha with h1 | h1 <;> rcases lt_or_gt_of_ne hb with h2 | h2
        · exact absurd (Or.inr ⟨h1, h2⟩) hne
        · exact div_nonpos_of_nonpos_of_nonneg (by exact_mod_cast le_of_lt h1) (by exact_mod_cast le_of_lt h2)
        · exact div_nonpos_of_nonneg_of_nonpos (by exact_mod_cast le_of_lt h1) (by exact_mod_cast le_of_lt h2)
        · exact absurd (Or.inl ⟨h1, h2⟩) hne
    have := mul_nonneg (neg_nonneg.mpr hab) hθ
    linarith

/-! ### the stop test -/

theorem textbookEntering_zero (cost : Row) (h : textbookEntering cost = 0) :
    ∀ j, 1 ≤ j → j < cost.length - 1 → sgn (cost.get j) ≠ sgn (cost.get (cost.length - 1)) := by
  unfold textbookEntering at h
  simp only at h
  intro j h1 h2
  cases hf : (List.range' 1 (cost.length - 1 - 1)).find?
      (fun j => sgn (cost.get j) == sgn (cost.get (cost.length - 1))) with
  | some k =>
    rw [hf] at h
    have hk := List.mem_of_find?_eq_some hf
    rw [List.mem_range'_1] at hk
    simp only at h
    omega
  | none =>
    have := List.find?_eq_none.mp hf j (by rw [List.mem_range'_1]; omega)
    simpa using this

theorem dot_le_of_pointwise (σ : Rat) (cs : List Int) (x y : Val)
    (h : ∀ j, j < cs.length → σ * ((cs.getD j 0 : Int) : Rat) * x j ≤ σ * ((cs.getD j 0 : Int) : Rat) * y j) :
    σ * dot cs x ≤ σ * dot cs y := by
  induction cs generalizing x y with
  | nil => simp
  | cons c cs ih =>
    simp only [dot_cons, mul_add]
    have h0 := h 0 (by simp)
    simp only [List.getD_cons_zero] at h0
    have hrest := ih x.tail y.tail (fun j hj => h (j + 1) (Nat.succ_lt_succ hj))
    rw [← mul_assoc, ← mul_assoc]
    exact add_le_add h0 hrest

/-- **no entering variable ⇒ the basic solution is optimal**: with `s` the last ("sign") entry of the
    cost row, the objective value at `x` is `(c_0 + Σ_{1≤j<last} c_j x_j) / s`; when no column has the
    sign of `s`, it is at most `c_0 / s` (its value at the basic solution, where the non-basic
    variables are 0 and the basic ones have cost 0) for every non-negative `x`. -/
theorem no_entering_bound (cost : Row) (h : textbookEntering cost = 0)
    (hs : cost.get (cost.length - 1) ≠ 0) (hlen : 2 ≤ cost.length) (x : Val)
    (hx0 : x 0 = 1) (hxl : x (cost.length - 1) = 0) (hx : ∀ j, 1 ≤ j → j < cost.length - 1 → 0 ≤ x j) :
    dot cost x / ((cost.get (cost.length - 1) : Int) : Rat) ≤
      ((cost.get 0 : Int) : Rat) / ((cost.get (cost.length - 1) : Int) : Rat) := by
  have hno := textbookEntering_zero cost h
  let s : Int := cost.get (cost.length - 1)
  have hsq : ((s : Int) : Rat) ≠ 0 := by exact_mod_cast hs
  let y : Val := fun j => if j = 0 then 1 else 0
  have hy : dot cost y = ((cost.get 0 : Int) : Rat) := by
    cases cost with
    | nil => simp at hlen
    | cons c cs =>
      simp only [dot_cons, Row.get, List.getD_cons_zero]
      have : dot cs (Val.tail y) = 0 := by
        have : Val.tail y = Val.zero := by funext j; simp [Val.tail, y, Val.zero]
        rw [this, dot_zero]
      rw [this]; simp [y]
  have key := dot_le_of_pointwise (1 / (s : Rat)) cost x y (fun j hj => by
    by_cases h0 : j = 0
    · subst h0; rw [hx0]; simp [y]
    · by_cases hl : j = cost.length - 1
      · have hne : cost.length - 1 ≠ 0 := by omega
        rw [hl, hxl]; simp [y, hne]
      · have hj1 : 1 ≤ j := by omega
        have hj2 : j < cost.length - 1 := by omega
        have hsg := hno j hj1 hj2
        have hxj := hx j hj1 hj2
        simp only [y, h0, if_false, mul_zero]
        -- c_j / s ≤ 0
        have hc : (1 / (s : Rat)) * ((cost.getD j 0 : Int) : Rat) ≤ 0 := by
          by_cases hcj : cost.get j = 0
          · have : cost.getD j 0 = 0 := hcj
            rw [this]; simp
          · have hne := mt (sgn_eq_iff (cost.get j) s hcj).mpr hsg
            have hcq : cost.getD j 0 = cost.get j := rfl
            rw [hcq, one_div, inv_mul_eq_div]
            rcases lt_or_gt_of_ne hcj with h1 | h1 <;> rcases lt_or_gt_of_ne hs with h2 | h2
            · exact absurd (Or.inr ⟨h1, h2⟩) hne
            · exact div_nonpos_of_nonpos_of_nonneg (by exact_mod_cast le_of_lt h1) (by exact_mod_cast le_of_lt h2)
            · exact div_nonpos_of_nonneg_of_nonpos (by exact_mod_cast le_of_lt h1) (by exact_mod_cast le_of_lt h2)
            · exact absurd (Or.inl ⟨h1, h2⟩) hne
        exact mul_nonpos_of_nonpos_of_nonneg hc hxj)
  rw [hy] at key
  rw [div_eq_inv_mul, div_eq_inv_mul, ← one_div]
  exact key

/-! ### `compute_generator` -/

theorem basicValue_spec (t : Row) (b : Nat) (hb : t.get b ≠ 0) :
    0 < (basicValue t b).2 ∧
      ((basicValue t b).1 : Rat) / ((basicValue t b).2 : Rat) = -((t.get 0 : Int) : Rat) / ((t.get b : Int) : Rat) := by
  unfold basicValue
  split
  · rename_i h
    exact ⟨h, by push_cast; rfl⟩
  · rename_i h
    refine ⟨by omega, ?_⟩
    have hbq : ((t.get b : Int) : Rat) ≠ 0 := by exact_mod_cast hb
    push_cast
    field_simp

theorem mergeSplit_spec (n1 d1 n2 d2 : Int) (h1 : 0 < d1) (h2 : 0 < d2) :
    0 < (mergeSplit n1 d1 n2 d2).2 ∧
      ((mergeSplit n1 d1 n2 d2).1 : Rat) / ((mergeSplit n1 d1 n2 d2).2 : Rat) =
        (n1 : Rat) / (d1 : Rat) - (n2 : Rat) / (d2 : Rat) := by
  have hd1 : d1 ≠ 0 := by omega
  have hd2 : d2 ≠ 0 := by omega
  obtain ⟨q1, hq1⟩ := Int.dvd_lcm_left d1 d2
  obtain ⟨q2, hq2⟩ := Int.dvd_lcm_right d1 d2
  have e1 : ((Int.lcm d1 d2 : Nat) : Int) / d1 = q1 := by rw [hq1]; exact Int.mul_ediv_cancel_left _ hd1
  have e2 : ((Int.lcm d1 d2 : Nat) : Int) / d2 = q2 := by rw [hq2]; exact Int.mul_ediv_cancel_left _ hd2
  have hL : (0 : Int) < ((Int.lcm d1 d2 : Nat) : Int) := by exact_mod_cast Int.lcm_pos hd1 hd2
  have hd1q : (d1 : Rat) ≠ 0 := by exact_mod_cast hd1
  have hd2q : (d2 : Rat) ≠ 0 := by exact_mod_cast hd2
  have hLq : (((Int.lcm d1 d2 : Nat) : Int) : Rat) ≠ 0 := by exact_mod_cast ne_of_gt hL
  -- the exact value as a fraction over the lcm
  have hval : ((n1 * q1 - n2 * q2 : Int) : Rat) / (((Int.lcm d1 d2 : Nat) : Int) : Rat) =
      (n1 : Rat) / (d1 : Rat) - (n2 : Rat) / (d2 : Rat) := by
    have a1 : (((Int.lcm d1 d2 : Nat) : Int) : Rat) = (d1 : Rat) * (q1 : Rat) := by exact_mod_cast hq1
    have a2 : (((Int.lcm d1 d2 : Nat) : Int) : Rat) = (d2 : Rat) * (q2 : Rat) := by exact_mod_cast hq2
    have hq1q : (q1 : Rat) ≠ 0 := by
      intro h0; rw [h0, mul_zero] at a1; exact hLq a1
    have hq2q : (q2 : Rat) ≠ 0 := by
      intro h0; rw [h0, mul_zero] at a2; exact hLq a2
    have t1 : (n1 : Rat) / (d1 : Rat) = (n1 : Rat) * (q1 : Rat) / (((Int.lcm d1 d2 : Nat) : Int) : Rat) := by
      rw [a1]; field_simp
    have t2 : (n2 : Rat) / (d2 : Rat) = (n2 : Rat) * (q2 : Rat) / (((Int.lcm d1 d2 : Nat) : Int) : Rat) := by
      rw [a2]; field_simp
    rw [t1, t2]; push_cast; ring
  unfold mergeSplit
  simp only [e1, e2]
  split
  · rename_i hz
    refine ⟨by norm_num, ?_⟩
    rw [← hval, hz]; simp
  · exact ⟨hL, hval⟩

end PPLV.Solver.Tab

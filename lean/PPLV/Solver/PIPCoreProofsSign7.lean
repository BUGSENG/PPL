import PPLV.Solver.PIPCoreProofsSign6
import Mathlib.Tactic.Linarith
import Mathlib.Tactic.Ring
/-!
# sign family: what the cached signs mean UNCONDITIONALLY (`SignWeak`)

The exact reading `SignTrue` of a cached sign is not an invariant of the code when the denominator does
not divide the parameter coefficients (`signAnalysis_unsound_example`, `PIPCoreProofsSign4.lean`).  What the code does maintain, with no divisibility
hypothesis at all, is the reading "up to one unit of the VARIABLE": with `v = t_i(z)` and the variable
`v / den`,

    POSITIVE : v / den > -1      NEGATIVE : v / den < 1      ZERO : -1 < v / den < 1.

* `SignTrue s v → SignWeak den s v`;
* `recomputeSigns`, both refinements and the whole `signAnalysis` keep `SignWeak` (`signAnalysis_weak_sound`);
* `signStep` keeps it (`signStep_weak_sound`) and it is invariant under `Tableau::scale` (`signWeak_scale`);
* when the value is INTEGRAL (`den ∣ v`, which is what `solutionIntegral` establishes for the rows of the
  problem variables at a solution node) `SignWeak` gives back the exact reading for `POSITIVE` and `ZERO`
  (`signWeak_exact_of_dvd`); for `NEGATIVE` it gives `v ≤ 0`.
-/
namespace PPLV.PIPCore

/-- the cached sign read up to one unit of the variable `v / den` -/
def SignWeak (den : Int) : RowSign → Int → Prop
  | .zero, v => -den < v ∧ v < den
  | .positive, v => -den < v
  | .negative, v => v < den
  | _, _ => True

theorem SignTrue.weak {den : Int} (hden : 0 < den) {s : RowSign} {v : Int} (h : SignTrue s v) :
    SignWeak den s v := by
  cases s with
  | unknown => exact trivial
  | mixed => exact trivial
  | zero => have : v = 0 := h; subst this; exact ⟨by omega, hden⟩
  | positive => have : 0 ≤ v := h; show -den < v; omega
  | negative => have : v < 0 := h; show v < den; omega

/-- integral value: the weak reading is the exact one (`NEGATIVE` excepted: only `v ≤ 0`) -/
theorem signWeak_exact_of_dvd {den : Int} (hden : 0 < den) {s : RowSign} {v : Int} (hdvd : den ∣ v)
    (h : SignWeak den s v) : (s = .positive → 0 ≤ v) ∧ (s = .zero → v = 0) ∧ (s = .negative → v ≤ 0) := by
  refine ⟨?_, ?_, ?_⟩
  · rintro rfl
    have h' : -den < v := h
    have := dvd_lt_nonpos hden (Int.dvd_neg.2 hdvd) (by omega)
    omega
  · rintro rfl
    have h' : -den < v ∧ v < den := h
    have h1 := dvd_lt_nonpos hden (Int.dvd_neg.2 hdvd) (by omega)
    have h2 := dvd_lt_nonpos hden hdvd h'.2
    omega
  · rintro rfl
    have h' : v < den := h
    exact dvd_lt_nonpos hden hdvd h'

/-- `Tableau::scale` multiplies row and denominator by the same positive factor -/
theorem signWeak_scale {den f : Int} (hf : 0 < f) {s : RowSign} {v : Int} :
    SignWeak (f * den) s (f * v) ↔ SignWeak den s v := by
  have key : ∀ a b : Int, f * a < f * b ↔ a < b := fun a b =>
    ⟨fun h => Int.lt_of_mul_lt_mul_left h (Int.le_of_lt hf), fun h => Int.mul_lt_mul_of_pos_left h hf⟩
  have e : -(f * den) = f * (-den) := by ring
  cases s with
  | unknown => exact Iff.rfl
  | mixed => exact Iff.rfl
  | zero =>
    show (-(f * den) < f * v ∧ f * v < f * den) ↔ (-den < v ∧ v < den)
    rw [e, key, key]
  | positive =>
    show -(f * den) < f * v ↔ -den < v
    rw [e, key]
  | negative =>
    show f * v < f * den ↔ v < den
    rw [key]

theorem signWeak_iff_bd {den : Int} {s : RowSign} {v : Int} : SignWeak den s v ↔ SignBd (-den) den den s v := by
  cases s <;> exact Iff.rfl

/-- one step of the incremental sign update keeps the weak reading -/
theorem signStep_weak_sound {den : Int} {sg : RowSign} {val qj c product : Int} {j : Nat}
    (h : SignWeak den sg val) (hq : 0 ≤ qj) (hq0 : j = 0 → qj = 1)
    (hpos : 0 < product → 0 < c) (hneg : product < 0 → c < 0) (hzero : product = 0 → c = 0) :
    SignWeak den (signStep sg product j) (val - c * qj) :=
  signWeak_iff_bd.mpr
    (signStep_bd_sound (Int.le_add_one (Int.le_refl den)) (signWeak_iff_bd.mp h) hq hq0 hpos hneg hzero)

/-- the verdict of the first refinement, read weakly, is true with NO divisibility hypothesis -/
theorem newSign1_weak_sound {cc : Mat → Option Bool} (hcc : CCContract cc) {n : Nat} (hn : 0 < n) {ctx : Mat}
    (hctx : ∀ r ∈ ctx, r.length = n) {ti : Row} (hti : ti.length = n) {den : Int} (hden : 0 < den)
    {b1 b2 : Bool} (hb1 : ccRow cc ctx ti = some b1)
    (hb2 : ccRow cc ctx (complementAssign ti den) = some b2)
    {q : List Int} (hq : ParamVec n q) (hsat : CtxSat ctx q) : SignWeak den (newSign1 b1 b2) (dot ti q) := by
  have hne : ti ≠ [] := by intro h; subst h; simp at hti; omega
  have hlen2 : (complementAssign ti den).length = n := by rw [complementAssign_length]; exact hti
  have hb := roundDelta_bounds hden (-(rget ti 0))
  cases b2 with
  | true =>
    cases b1 with
    | true => exact trivial
    | false =>
      have := ccRow_false hcc hn hctx hti hb1 hq hsat
      show dot ti q < den
      omega
  | false =>
    have h2 := ccRow_false hcc hn hctx hlen2 hb2 hq hsat
    rw [complementAssign_dot hq.2.1 hne] at h2
    cases b1 with
    | true => show -den < dot ti q; omega
    | false =>
      have := ccRow_false hcc hn hctx hti hb1 hq hsat
      show -den < dot ti q ∧ dot ti q < den
      omega

/-- **the whole sign analysis keeps the weak reading of the signs, unconditionally** (no `DenDivides`) -/
theorem signAnalysis_weak_sound {cc : Mat → Option Bool} (hcc : CCContract cc) {nd : SolNode}
    (hden : 0 < nd.tab.den) (hbig : nd.big = none) {n : Nat} (hn : 0 < n) {ctx : Mat}
    (hctx : ∀ r ∈ ctx, r.length = n)
    (hrows : ∀ k, k < nd.tab.t.length → (mrow nd.tab.t k).length = n)
    {sg' : List RowSign} {fs' : Firsts} (h : signAnalysis cc nd ctx = some (sg', fs'))
    {q : List Int} (hq : ParamVec n q) (hsat : CtxSat ctx q)
    (hinv : ∀ k, SignWeak nd.tab.den (signGet nd.sign k) (dot (mrow nd.tab.t k) q)) :
    ∀ k, SignWeak nd.tab.den (signGet sg' k) (dot (mrow nd.tab.t k) q) := by
  refine signAnalysis_pointwise (fun k s => SignWeak nd.tab.den s (dot (mrow nd.tab.t k) q)) h ?_
    (fun i hi _ _ _ hb1 hb2 => newSign1_weak_sound hcc hn hctx (hrows i hi) hden hb1 hb2 hq hsat)
    (fun i hi _ _ hb => (strictRow_incompatible hcc hn hctx (hrows i hi) hden hb hq hsat).1)
  intro k
  rw [(recomputeSigns_spec nd).2 k]
  by_cases hc : k < nd.tab.t.length ∧ k < nd.sign.length ∧
      (signGet nd.sign k = .unknown ∨ signGet nd.sign k = .mixed)
  · rw [if_pos hc, hbig]
    exact (rowSign_sound (by rw [hrows k hc.1]; exact hq)).weak hden
  · rw [if_neg hc]; exact hinv k

-- non-vacuity: the data of `signAnalysis_unsound_example` (`den = 3`, `t = p - 1`, `p ≤ 2`): the verdict
-- `NEGATIVE` is false exactly, true weakly (`1 < 3`)
example : SignWeak exNd2.tab.den .negative (dot (mrow exNd2.tab.t 0) [1, 2]) := by
  show dot (mrow exNd2.tab.t 0) [1, 2] < exNd2.tab.den
  decide
example : SignWeak 2 .positive (-1) ∧ ¬ SignTrue .positive (-1) := by
  refine ⟨by show -(2 : Int) < -1; decide, by show ¬ ((0 : Int) ≤ -1); decide⟩

end PPLV.PIPCore

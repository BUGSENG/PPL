import PPLV.Solver.PIPCoreProofsSign
import Mathlib.Tactic.Linarith
import Mathlib.Tactic.Ring
/-!
# sign family: `Sparse_Row::normalize` and `integral_simplification` keep the
meaning of a context row (`row · (1, params) ≥ 0`) for integer parameters

* `rowNormalizeAll_sign`          : Sparse_Row.cc:212 / the `Constraint` normalisation
* `integralSimplification_equiv`  : PIP_Tree.cc:586-611 — FALSE as first stated for a row whose parameter
  coefficients are all 0 and whose constant term is negative (the C++ asserts that there is a non-zero
  parameter coefficient; the model then rounds the constant term to 0): counterexample
  `integralSimplification_equiv_fails`, corrected statement `integralSimplification_equiv`, and
  `integralSimplification_equiv_of_mixed` for the rows the solver applies it to (sign `MIXED`).
-/
namespace PPLV.PIPCore

/-- `normalize` divides the row by a positive number -/
theorem rowNormalizeAll_dot (r : Row) :
    ∃ g : Int, 0 < g ∧ ∀ q, dot r q = g * dot (rowNormalizeAll r) q := by
  unfold rowNormalizeAll
  by_cases h : rowGcd 0 r = 0 ∨ rowGcd 0 r = 1
  · simp only [h, if_true]
    exact ⟨1, by decide, fun q => by simp⟩
  · simp only [h, if_false]
    have hnn := rowGcd_nonneg r (Int.le_refl 0)
    have hpos : 0 < rowGcd 0 r := by
      rcases Int.lt_or_eq_of_le hnn with h1 | h1
      · exact h1
      · exact absurd (Or.inl h1.symm) h
    exact ⟨rowGcd 0 r, hpos, fun q => by
      rw [Int.mul_comm, dot_map_div r q _ (fun _ => rowGcd_dvd_mem r 0)]⟩

theorem mul_nonneg_iff_of_pos {g d : Int} (hg : 0 < g) : 0 ≤ g * d ↔ 0 ≤ d := by
  constructor
  · intro h
    by_contra hd
    have : g * d < 0 := Int.mul_neg_of_pos_of_neg hg (by omega)
    omega
  · intro h; exact Int.mul_nonneg (by omega) h

/-- **`normalize` keeps the meaning of `r · q ≥ 0`** (any `q`; `dot` cuts to the shorter list) -/
theorem rowNormalizeAll_sign (r : Row) (q : List Int) :
    0 ≤ dot (rowNormalizeAll r) q ↔ 0 ≤ dot r q := by
  obtain ⟨g, hg, h⟩ := rowNormalizeAll_dot r
  rw [h q]; exact (mul_nonneg_iff_of_pos hg).symm

theorem rowNormalizeAll_neg (r : Row) (q : List Int) :
    dot (rowNormalizeAll r) q < 0 ↔ dot r q < 0 := by
  have := rowNormalizeAll_sign r q
  omega

theorem rowNormalizeAll_length (r : Row) : (rowNormalizeAll r).length = r.length := by
  by_cases h : rowGcd 0 r = 0 ∨ rowGcd 0 r = 1 <;> simp [rowNormalizeAll, h]

example : rowNormalizeAll [4, -6, 2] = [2, -3, 1] ∧ (0 ≤ dot (rowNormalizeAll [4, -6, 2]) [1, 1, 5]) := by decide

/-! ### `integral_simplification` -/

theorem integralSimplification_cons (c : Int) (as : Row) :
    integralSimplification (c :: as) =
      rowNormalizeAll (if c ≠ 0 then
        (if rowGcd 0 as ≠ 1 then (c - c.emod (rowGcd 0 as)) :: as else c :: as) else c :: as) := by
  simp only [integralSimplification, rget, rset, posRem, List.getD_cons_zero, List.drop_succ_cons,
    List.drop_zero, List.set_cons_zero]

/-- **`integral_simplification` keeps the meaning of `row · (1, params) ≥ 0` for INTEGER parameters**
    (the constant term is rounded down to a multiple of the gcd `g` of the parameter coefficients;
    `Σ coefficient · parameter` is a multiple of `g`).  The hypothesis `hz` is the precondition the C++
    asserts ("there should be one" non-zero parameter coefficient when the constant term is not 0), in its
    weakest form; without it the statement is false: `integralSimplification_equiv_fails`. -/
theorem integralSimplification_equiv {row : Row} {q : List Int} (hq : q.head? = some 1)
    (hlen : row.length = q.length) (hz : rowGcd 0 (row.drop 1) = 0 → 0 ≤ rget row 0) :
    0 ≤ dot (integralSimplification row) q ↔ 0 ≤ dot row q := by
  obtain ⟨ps, rfl⟩ := head_one_form hq
  cases row with
  | nil => simp at hlen
  | cons c as =>
    rw [integralSimplification_cons, rowNormalizeAll_sign]
    by_cases hc : c = 0
    · simp [hc]
    · simp only [ne_eq, hc, not_false_eq_true, if_true]
      by_cases hg1 : rowGcd 0 as = 1
      · simp [hg1]
      · simp only [hg1, not_false_eq_true, if_true]
        rw [dot_cons, dot_cons]
        by_cases hg0 : rowGcd 0 as = 0
        · have hc0 : 0 ≤ c := by simpa [rget] using hz (by simpa using hg0)
          have hd : dot as ps = 0 := dot_zero _ _ (rowGcd_zero_all_zero hg0)
          have e0 : c.emod 0 = c := Int.emod_zero c
          rw [hg0, hd, e0]
          constructor <;> intro _ <;> omega
        · have hgpos : 0 < rowGcd 0 as := by
            have := rowGcd_nonneg as (Int.le_refl 0); omega
          obtain ⟨k, hk⟩ := dvd_dot _ as ps (fun _ => rowGcd_dvd_mem as 0)
          generalize rowGcd 0 as = g at *
          rw [hk]
          have hm0 : 0 ≤ c.emod g := Int.emod_nonneg c (by omega)
          have hm1 : c.emod g < g := Int.emod_lt_of_pos c hgpos
          have hdef : g * (c / g) + c.emod g = c := Int.mul_ediv_add_emod c g
          have e1 : (c - c.emod g) * 1 + g * k = g * (c / g + k) := by
            have : c - c.emod g = g * (c / g) := by omega
            rw [this]; ring
          have e2 : c * 1 + g * k = g * (c / g + k) + c.emod g := by
            have : c = g * (c / g) + c.emod g := by omega
            conv => lhs; rw [this]
            ring
          rw [e1, e2, mul_nonneg_iff_of_pos hgpos]
          constructor
          · intro h
            have := Int.mul_nonneg (Int.le_of_lt hgpos) h
            omega
          · intro h
            by_contra hneg
            have h1 : c / g + k ≤ -1 := by omega
            have h2 : g * (c / g + k) ≤ g * (-1) := Int.mul_le_mul_of_nonneg_left h1 (Int.le_of_lt hgpos)
            omega

example : integralSimplification [5, 4, -6] = [2, 2, -3]
    ∧ (0 ≤ dot (integralSimplification [5, 4, -6]) [1, 1, 2] ↔ 0 ≤ dot [5, 4, -6] [1, 1, 2]) := by decide
example : rowGcd 0 (([5, 4, -6] : Row).drop 1) = 0 → 0 ≤ rget [5, 4, -6] 0 := by decide
-- the rounding matters: 3 + 4p - 6r ≥ 0 and 2 + 4p - 6r ≥ 0 agree on the integers, not on the rationals
example : integralSimplification [3, 4, -6] = [1, 2, -3] := by decide

/-- the statement without the precondition is false: the constant row `-1` (no parameter occurs) is turned
    into the zero row, i.e. `-1 ≥ 0` into `0 ≥ 0`.  (In the C++ this input violates the assertion at
    PIP_Tree.cc:594/596 and the search loop runs off the end of the row.) -/
theorem integralSimplification_equiv_fails :
    ∃ (row : Row) (q : List Int), q.head? = some 1 ∧ row.length = q.length ∧
      ¬ (0 ≤ dot (integralSimplification row) q ↔ 0 ≤ dot row q) :=
  ⟨[-1, 0], [1, 0], rfl, rfl, by decide⟩

/-! ### the rows the solver simplifies have sign `MIXED`: the precondition holds for them -/

theorem rowSignScan_all_zero : ∀ (as : Row) (sg : RowSign), (∀ a ∈ as, a = 0) → rowSignScan as sg = some sg
  | [], sg, _ => rfl
  | a :: as, sg, h => by
    have h0 : a = 0 := h a (by simp)
    subst h0
    unfold rowSignScan
    simp only [gt_iff_lt, Int.lt_irrefl, if_false]
    exact rowSignScan_all_zero as sg (fun a ha => h a (by simp [ha]))

/-- a row with a non-zero constant term and no parameter is not `MIXED` (whatever the big parameter) -/
theorem rowSign_mixed_gcd {x : Row} {big : Option Nat} (h : rowSign x big = .mixed) :
    rowGcd 0 (x.drop 1) = 0 → rget x 0 = 0 := by
  intro hg
  by_contra hc
  cases x with
  | nil => simp [rget] at hc
  | cons c as =>
    have hz : ∀ a ∈ as, a = 0 := rowGcd_zero_all_zero (by simpa using hg)
    have hc' : c ≠ 0 := by simpa [rget] using hc
    have hscan : rowSignScan (c :: as) .zero = some (if c > 0 then .positive else .negative) := by
      unfold rowSignScan
      by_cases h1 : c > 0
      · simp only [h1, if_true, reduceCtorEq, if_false]
        exact rowSignScan_all_zero as _ hz
      · have h2 : c < 0 := by omega
        simp only [h1, h2, if_true, if_false, reduceCtorEq]
        exact rowSignScan_all_zero as _ hz
    unfold rowSign at h
    rw [hscan] at h
    have hr0 : rget (c :: as) 0 = c := rfl
    rw [hr0] at h
    cases big with
    | none =>
      by_cases h1 : c > 0
      · simp [h1] at h
      · simp [h1, hc'] at h
    | some b =>
      by_cases hb1 : rget (c :: as) b > 0
      · simp [hb1] at h
      · by_cases hb2 : rget (c :: as) b < 0
        · simp [hb1, hb2] at h
        · by_cases h1 : c > 0
          · simp [hb1, hb2, h1] at h
          · simp [hb1, hb2, h1, hc'] at h

/-- the form used by `solve`: `t_test` and the `tautology` row come from rows whose sign is `MIXED` -/
theorem integralSimplification_equiv_of_mixed {row : Row} {big : Option Nat} {q : List Int}
    (hm : rowSign row big = .mixed) (hq : q.head? = some 1) (hlen : row.length = q.length) :
    0 ≤ dot (integralSimplification row) q ↔ 0 ≤ dot row q :=
  integralSimplification_equiv hq hlen (fun hg => by rw [rowSign_mixed_gcd hm hg])

example : rowSign [5, 4, -6] none = .mixed := by decide

theorem integralSimplification_length (row : Row) : (integralSimplification row).length = row.length := by
  simp only [integralSimplification]
  rw [rowNormalizeAll_length]
  by_cases h1 : rget row 0 ≠ 0
  · rw [if_pos h1]
    by_cases h2 : rowGcd 0 (row.drop 1) ≠ 1
    · rw [if_pos h2]; simp only [rset, List.length_set]
    · rw [if_neg h2]
  · rw [if_neg h1]

end PPLV.PIPCore

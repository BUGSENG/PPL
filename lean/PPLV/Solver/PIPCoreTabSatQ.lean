import PPLV.Solver.PIPCoreProofsPivot2
import PPLV.Solver.PIPCoreProofsDefs
import Mathlib.Tactic.LinearCombination
/-!
# the rational reading `TabSatQ` of a tableau, and what preserves it

`Tableau.scale`, `Tableau.normalize` and every pair of nodes related by `PivotSpec` have the same rational
solutions.  An integer valuation solves the tableau iff its cast does (`tabsat_cast`), so the statements about
`TabSat` are the rational ones read at integer valuations.
-/
namespace PPLV.PIPCore.Piv

/-! ### `dotQ` -/

theorem dotQ_cast (r : List Int) (xs : List Int) :
    dotQ r (xs.map (fun x : Int => (x : ℚ))) = ((dot r xs : Int) : ℚ) := by
  induction r generalizing xs with
  | nil => cases xs <;> simp [dotQ, dot]
  | cons a as ih =>
    cases xs with
    | nil => simp [dotQ, dot]
    | cons x xs =>
      simp only [List.map_cons, dotQ, dot]
      rw [ih xs]; push_cast; ring

theorem dotQ_map_mul (a : List Int) (b : List ℚ) (c : Int) :
    dotQ (a.map (· * c)) b = dotQ a b * (c : ℚ) := by
  induction a generalizing b with
  | nil => simp [dotQ]
  | cons x xs ih =>
    cases b with
    | nil => simp [dotQ]
    | cons y ys => simp only [List.map_cons, dotQ]; rw [ih ys]; push_cast; ring

theorem dotQ_map_div (a : List Int) (b : List ℚ) (g : Int) (h : ∀ x ∈ a, g ∣ x) :
    dotQ (a.map (· / g)) b * (g : ℚ) = dotQ a b := by
  induction a generalizing b with
  | nil => simp [dotQ]
  | cons x xs ih =>
    cases b with
    | nil => simp [dotQ]
    | cons y ys =>
      simp only [List.map_cons, dotQ]
      have hx : ((x / g : Int) : ℚ) * (g : ℚ) = (x : ℚ) := by
        exact_mod_cast Int.ediv_mul_cancel (h x (by simp))
      have := ih ys (fun z hz => h z (by simp [hz]))
      linear_combination y * hx + this

/-! ### integer solutions are rational solutions -/

theorem rowHolds_cast (nd : SolNode) (v : Nat → Int) (q : List Int) (i : Nat) :
    RowHolds nd v q i ↔ RowHoldsQ nd (fun k => (v k : ℚ)) q i := by
  unfold RowHolds RowHoldsQ
  have : nd.varColumn.map (fun k => (v k : ℚ)) = (nd.varColumn.map v).map (fun x : Int => (x : ℚ)) := by
    rw [List.map_map]; rfl
  rw [this, dotQ_cast]
  beta_reduce
  constructor
  · intro e; exact_mod_cast e
  · intro e; exact_mod_cast e

theorem tabsat_cast (nd : SolNode) (v : Nat → Int) (q : List Int) :
    TabSat nd v q ↔ TabSatQ nd (fun k => (v k : ℚ)) q :=
  forall_congr' fun i => imp_congr_right fun _ => rowHolds_cast nd v q i

/-! ### `scale` and `normalize` over ℚ -/

theorem scale_tabsatQ (nd : SolNode) {r : Int} (hr : r ≠ 0) (v : Nat → ℚ) (q : List Int) :
    TabSatQ { nd with tab := nd.tab.scale r } v q ↔ TabSatQ nd v q := by
  unfold TabSatQ
  show (∀ i, i < (nd.tab.scale r).s.length → _) ↔ _
  rw [scale_s_length]
  refine forall_congr' fun i => imp_congr_right fun _ => ?_
  unfold RowHoldsQ
  show ((nd.tab.den * r : Int) : ℚ) * v (natGet nd.varRow i)
      = dotQ (mrow (nd.tab.s.map (·.map (· * r))) i) (nd.varColumn.map v)
        + ((dot (mrow (nd.tab.t.map (·.map (· * r))) i) q : Int) : ℚ) ↔ _
  rw [mrow_map _ (·.map (· * r)) (by simp), mrow_map _ (·.map (· * r)) (by simp),
    dotQ_map_mul, dot_map_mul]
  have hr' : (r : ℚ) ≠ 0 := by exact_mod_cast hr
  push_cast
  constructor
  · intro e
    apply mul_right_cancel₀ hr'
    linear_combination e
  · intro e
    linear_combination (r : ℚ) * e

theorem normalize_tabsatQ {nd : SolNode} (h : WF nd) (v : Nat → ℚ) (q : List Int) :
    TabSatQ { nd with tab := nd.tab.normalize } v q ↔ TabSatQ nd v q := by
  rcases normalize_cases nd.tab (ne_of_gt h.den_pos) with e | ⟨g, hg, dd, ds, dt, e⟩
  · rw [e]
  · rw [e]
    unfold TabSatQ
    show (∀ i, i < (nd.tab.s.map (·.map (· / g))).length → _) ↔ _
    rw [List.length_map]
    refine forall_congr' fun i => imp_congr_right fun _ => ?_
    unfold RowHoldsQ
    show ((nd.tab.den / g : Int) : ℚ) * v (natGet nd.varRow i)
        = dotQ (mrow (nd.tab.s.map (·.map (· / g))) i) (nd.varColumn.map v)
          + ((dot (mrow (nd.tab.t.map (·.map (· / g))) i) q : Int) : ℚ) ↔ _
    rw [mrow_map _ (·.map (· / g)) (by simp), mrow_map _ (·.map (· / g)) (by simp)]
    have e1 := dotQ_map_div (mrow nd.tab.s i) (nd.varColumn.map v) g (ds.mrow i)
    have e2 : ((dot ((mrow nd.tab.t i).map (· / g)) q : Int) : ℚ) * (g : ℚ)
        = ((dot (mrow nd.tab.t i) q : Int) : ℚ) := by
      exact_mod_cast dot_map_div (mrow nd.tab.t i) q g (dt.mrow i)
    have e3 : ((nd.tab.den / g : Int) : ℚ) * (g : ℚ) = (nd.tab.den : ℚ) := by
      exact_mod_cast Int.ediv_mul_cancel dd
    have hg' : (g : ℚ) ≠ 0 := by exact_mod_cast (ne_of_gt hg)
    constructor
    · intro e
      linear_combination (g : ℚ) * e - (v (natGet nd.varRow i)) * e3 + e1 + e2
    · intro e
      apply mul_right_cancel₀ hg'
      linear_combination e + (v (natGet nd.varRow i)) * e3 - e1 - e2

/-! ### finite sums over ℚ -/

/-- `Σ_{j < n} g j` -/
def sumQ : Nat → (Nat → ℚ) → ℚ
  | 0, _ => 0
  | n + 1, g => g 0 + sumQ n (fun j => g (j + 1))

theorem sumQ_congr {n : Nat} {g h : Nat → ℚ} (e : ∀ j, j < n → g j = h j) :
    sumQ n g = sumQ n h := by
  induction n generalizing g h with
  | zero => rfl
  | succ n ih =>
    unfold sumQ
    rw [e 0 (Nat.succ_pos n), ih (fun j hj => e (j + 1) (Nat.succ_lt_succ hj))]

theorem sumQ_add (n : Nat) (g h : Nat → ℚ) :
    sumQ n (fun j => g j + h j) = sumQ n g + sumQ n h := by
  induction n generalizing g h with
  | zero => simp [sumQ]
  | succ n ih =>
    unfold sumQ
    rw [ih (fun j => g (j + 1)) (fun j => h (j + 1))]; ring

theorem sumQ_mul_left (n : Nat) (c : ℚ) (g : Nat → ℚ) :
    sumQ n (fun j => c * g j) = c * sumQ n g := by
  induction n generalizing g with
  | zero => simp [sumQ]
  | succ n ih =>
    unfold sumQ
    rw [ih (fun j => g (j + 1))]; ring

theorem sumQ_lin (n : Nat) (c d : ℚ) (g h : Nat → ℚ) :
    sumQ n (fun j => c * g j + d * h j) = c * sumQ n g + d * sumQ n h := by
  rw [sumQ_add n (fun j => c * g j) (fun j => d * h j), sumQ_mul_left, sumQ_mul_left]

theorem sumQ_zero (n : Nat) : sumQ n (fun _ => 0) = 0 := by
  induction n with
  | zero => rfl
  | succ n ih => unfold sumQ; rw [ih]; ring

theorem sumQ_split {n p : Nat} (g : Nat → ℚ) (hp : p < n) :
    sumQ n g = sumQ n (fun j => if j = p then 0 else g j) + g p := by
  induction n generalizing g p with
  | zero => omega
  | succ n ih =>
    unfold sumQ
    cases p with
    | zero =>
      have : sumQ n (fun j => if j + 1 = 0 then 0 else g (j + 1)) = sumQ n (fun j => g (j + 1)) :=
        sumQ_congr (fun j _ => by simp)
      rw [this]; simp; ring
    | succ p =>
      have hp' : p < n := Nat.lt_of_succ_lt_succ hp
      rw [ih (fun j => g (j + 1)) hp']
      have : sumQ n (fun j => if j + 1 = p + 1 then 0 else g (j + 1))
          = sumQ n (fun j => if j = p then 0 else g (j + 1)) :=
        sumQ_congr (fun j _ => by simp)
      rw [this]; simp; ring

/-- `dotQ` against the values of a list of variables -/
theorem dotQ_eq_sumQ {n : Nat} (r : List Int) {l : List Nat} (v : Nat → ℚ) (hl : l.length = n) :
    dotQ r (l.map v) = sumQ n (fun j => (rget r j : ℚ) * v (natGet l j)) := by
  induction n generalizing r l with
  | zero =>
    cases l with
    | nil => cases r <;> simp [dotQ, sumQ]
    | cons x xs => simp at hl
  | succ n ih =>
    cases l with
    | nil => simp at hl
    | cons x xs =>
      cases r with
      | nil =>
        have : sumQ (n + 1) (fun j => ((rget [] j : Int) : ℚ) * v (natGet (x :: xs) j))
            = sumQ (n + 1) (fun _ => 0) :=
          sumQ_congr (fun j _ => by rw [rget_nil]; simp)
        rw [this, sumQ_zero]; simp [dotQ]
      | cons a as =>
        simp only [List.map_cons, dotQ]
        unfold sumQ
        rw [ih as (by simpa using hl)]
        simp only [rget_cons_zero, rget_cons_succ]
        rfl

/-- a row of the tableau over ℚ, as an explicit sum -/
theorem rowHoldsQ_iff_sum (nd : SolNode) (v : Nat → ℚ) (q : List Int) {n : Nat}
    (hvc : nd.varColumn.length = n) (i : Nat) :
    RowHoldsQ nd v q i ↔
      (nd.tab.den : ℚ) * v (natGet nd.varRow i)
        = sumQ n (fun j => (mget nd.tab.s i j : ℚ) * v (natGet nd.varColumn j))
          + ((dot (mrow nd.tab.t i) q : Int) : ℚ) := by
  unfold RowHoldsQ
  rw [dotQ_eq_sumQ _ v hvc]; rfl

variable {nd0 nd' : SolNode} {pi pj : Nat} {f : Int} in
theorem _root_.PPLV.PIPCore.PivotSpec.piv_vc_len (hs : PivotSpec nd0 nd' pi pj f) (h : WF nd0) :
    nd'.varColumn.length = nd0.tab.ns := by
  rw [hs.var_col, List.length_set]; exact h.vc_len

/-! ### the parameter part of a pivoted row (integers) -/

section tdot
variable {nd0 nd' : SolNode} {pi pj : Nat} {f : Int}

theorem _root_.PPLV.PIPCore.PivotSpec.piv_t_dot_other (hs : PivotSpec nd0 nd' pi pj f)
    {q : List Int} (hq : q.length = nd0.tab.nt) {i : Nat} (hi : i < nd0.tab.s.length)
    (hne : i ≠ pi) :
    mget nd0.tab.s pi pj * dot (mrow nd'.tab.t i) q
      = (f * mget nd0.tab.s pi pj) * dot (mrow nd0.tab.t i) q
        + (-(f * mget nd0.tab.s i pj)) * dot (mrow nd0.tab.t pi) q := by
  rw [dot_eq_sumTo _ hq, dot_eq_sumTo _ hq, dot_eq_sumTo _ hq, ← sumTo_mul_left, ← sumTo_lin]
  apply sumTo_congr
  intro c hc
  have := hs.t_other i c hi hc hne
  unfold mget at this ⊢
  linear_combination (rget q c) * this

theorem _root_.PPLV.PIPCore.PivotSpec.piv_t_dot_row (hs : PivotSpec nd0 nd' pi pj f)
    {q : List Int} (hq : q.length = nd0.tab.nt) :
    mget nd0.tab.s pi pj * dot (mrow nd'.tab.t pi) q
      = (-(f * nd0.tab.den)) * dot (mrow nd0.tab.t pi) q := by
  rw [dot_eq_sumTo _ hq, dot_eq_sumTo _ hq, ← sumTo_mul_left, ← sumTo_mul_left]
  apply sumTo_congr
  intro c hc
  have := hs.t_row c hc
  unfold mget at this ⊢
  linear_combination (rget q c) * this

end tdot

/-! ### the algebra over ℚ -/

section algebraQ
variable (ns pj : Nat) (D spp f x : ℚ) (ap w : Nat → ℚ) (Tp : ℚ)

theorem old_row_splitQ (hpj : pj < ns) (ai : Nat → ℚ) (Ti X : ℚ) :
    (D * X = sumQ ns (fun j => ai j * w j) + Ti) ↔
    (D * X = sumQ ns (fun j => if j = pj then 0 else ai j * w j) + ai pj * w pj + Ti) := by
  rw [sumQ_split (fun j => ai j * w j) hpj]

theorem new_row_splitQ (hpj : pj < ns) (a' : Nat → ℚ) (T' Y : ℚ) :
    (Y = sumQ ns (fun j => a' j * (if j = pj then x else w j)) + T') ↔
    (Y = sumQ ns (fun j => if j = pj then 0 else a' j * w j) + a' pj * x + T') := by
  rw [sumQ_split (fun j => a' j * (if j = pj then x else w j)) hpj]
  have : sumQ ns (fun j => if j = pj then 0 else a' j * (if j = pj then x else w j))
      = sumQ ns (fun j => if j = pj then 0 else a' j * w j) :=
    sumQ_congr (fun j _ => by by_cases h : j = pj <;> simp [h])
  rw [this]; simp

theorem pivot_row_algebraQ (hpj : pj < ns) (hD : D ≠ 0) (hf : f ≠ 0) (hspp : spp ≠ 0)
    (hap : ap pj = spp) (a'p : Nat → ℚ) (T'p : ℚ)
    (h1 : ∀ j, j < ns → j ≠ pj → a'p j * spp = -(f * (D * ap j)))
    (h2 : a'p pj * spp = f * (D * D))
    (E2 : spp * T'p = -(f * D) * Tp) :
    (D * x = sumQ ns (fun j => ap j * w j) + Tp) ↔
    (f * D * w pj = sumQ ns (fun j => a'p j * (if j = pj then x else w j)) + T'p) := by
  rw [old_row_splitQ ns pj D w hpj ap Tp x, new_row_splitQ ns pj x w hpj a'p T'p]
  have E1 : spp * sumQ ns (fun j => if j = pj then 0 else a'p j * w j)
      = -(f * D) * sumQ ns (fun j => if j = pj then 0 else ap j * w j) := by
    rw [← sumQ_mul_left, ← sumQ_mul_left]
    apply sumQ_congr
    intro j hj
    by_cases h : j = pj
    · simp [h]
    · simp only [h, if_false]
      linear_combination (w j) * h1 j hj h
  rw [hap]
  constructor
  · intro e
    apply mul_left_cancel₀ hspp
    linear_combination (-(f * D)) * e - E1 - E2 - x * h2
  · intro e
    apply mul_left_cancel₀ (mul_ne_zero hf hD)
    linear_combination (-spp) * e - E1 - E2 - x * h2

theorem other_row_algebraQ (hpj : pj < ns) (hf : f ≠ 0) (hspp : spp ≠ 0)
    (hap : ap pj = spp)
    (hrow : D * x = sumQ ns (fun j => ap j * w j) + Tp)
    (ai a'i : Nat → ℚ) (Ti T'i X : ℚ)
    (k1 : ∀ j, j < ns → j ≠ pj → a'i j * spp = f * (ai j * spp - ai pj * ap j))
    (k2 : a'i pj * spp = f * (ai pj * D))
    (E2 : spp * T'i = (f * spp) * Ti + (-(f * ai pj)) * Tp) :
    (D * X = sumQ ns (fun j => ai j * w j) + Ti) ↔
    (f * D * X = sumQ ns (fun j => a'i j * (if j = pj then x else w j)) + T'i) := by
  rw [old_row_splitQ ns pj D w hpj ap Tp x, hap] at hrow
  rw [old_row_splitQ ns pj D w hpj ai Ti X, new_row_splitQ ns pj x w hpj a'i T'i]
  have E1 : spp * sumQ ns (fun j => if j = pj then 0 else a'i j * w j)
      = (f * spp) * sumQ ns (fun j => if j = pj then 0 else ai j * w j)
        + (-(f * ai pj)) * sumQ ns (fun j => if j = pj then 0 else ap j * w j) := by
    rw [← sumQ_mul_left, ← sumQ_lin]
    apply sumQ_congr
    intro j hj
    by_cases h : j = pj
    · simp [h]
    · simp only [h, if_false]
      linear_combination (w j) * k1 j hj h
  constructor
  · intro e
    apply mul_left_cancel₀ hspp
    linear_combination (f * spp) * e - E1 - E2 - x * k2 - (f * ai pj) * hrow
  · intro e
    apply mul_left_cancel₀ (mul_ne_zero hf hspp)
    linear_combination spp * e + E1 + E2 + x * k2 + (f * ai pj) * hrow

end algebraQ

/-! ### rows of the two nodes over ℚ -/

section rowsQ
variable {nd0 nd' : SolNode} {pi pj : Nat} {f : Int}

theorem _root_.PPLV.PIPCore.PivotSpec.piv_new_row_iffQ (hs : PivotSpec nd0 nd' pi pj f)
    (h : WF nd0) (v : Nat → ℚ) (q : List Int) (i : Nat) :
    RowHoldsQ nd' v q i ↔
      (f : ℚ) * (nd0.tab.den : ℚ) * v (natGet nd'.varRow i)
        = sumQ nd0.tab.ns (fun j => (mget nd'.tab.s i j : ℚ) *
              (if j = pj then v (natGet nd0.varRow pi) else v (natGet nd0.varColumn j)))
          + ((dot (mrow nd'.tab.t i) q : Int) : ℚ) := by
  rw [rowHoldsQ_iff_sum nd' v q (hs.piv_vc_len h) i, hs.den_eq]
  have : sumQ nd0.tab.ns (fun j => (mget nd'.tab.s i j : ℚ) * v (natGet nd'.varColumn j))
      = sumQ nd0.tab.ns (fun j => (mget nd'.tab.s i j : ℚ) *
              (if j = pj then v (natGet nd0.varRow pi) else v (natGet nd0.varColumn j))) := by
    apply sumQ_congr
    intro j hj
    rw [hs.var_col]
    by_cases e : j = pj
    · subst e
      rw [natGet_set_same _ (by rw [h.vc_len]; exact hj)]; simp
    · rw [natGet_set_ne _ (Ne.symm e)]; simp [e]
  rw [this]; push_cast; rfl

theorem _root_.PPLV.PIPCore.PivotSpec.piv_pivot_row_iffQ (hs : PivotSpec nd0 nd' pi pj f)
    (h : WF nd0) (hpi : pi < nd0.tab.s.length) (hpj : pj < nd0.tab.ns)
    (hspp : mget nd0.tab.s pi pj ≠ 0) (v : Nat → ℚ) {q : List Int} (hq : q.length = nd0.tab.nt) :
    RowHoldsQ nd0 v q pi ↔ RowHoldsQ nd' v q pi := by
  rw [rowHoldsQ_iff_sum nd0 v q h.vc_len pi, hs.piv_new_row_iffQ h v q pi, hs.var_row,
    natGet_set_same _ (by rw [h.vr_len]; exact hpi)]
  exact pivot_row_algebraQ nd0.tab.ns pj (nd0.tab.den : ℚ) (mget nd0.tab.s pi pj : ℚ) (f : ℚ)
    (v (natGet nd0.varRow pi)) (fun j => (mget nd0.tab.s pi j : ℚ))
    (fun j => v (natGet nd0.varColumn j)) ((dot (mrow nd0.tab.t pi) q : Int) : ℚ) hpj
    (by exact_mod_cast ne_of_gt h.den_pos) (by exact_mod_cast ne_of_gt hs.f_pos)
    (by exact_mod_cast hspp) rfl (fun j => (mget nd'.tab.s pi j : ℚ))
    ((dot (mrow nd'.tab.t pi) q : Int) : ℚ)
    (fun j hj hne => by exact_mod_cast hs.s_row j hj hne) (by exact_mod_cast hs.s_piv)
    (by exact_mod_cast hs.piv_t_dot_row hq)

theorem _root_.PPLV.PIPCore.PivotSpec.piv_other_row_iffQ (hs : PivotSpec nd0 nd' pi pj f)
    (h : WF nd0) (hpj : pj < nd0.tab.ns) (hspp : mget nd0.tab.s pi pj ≠ 0)
    (v : Nat → ℚ) {q : List Int} (hq : q.length = nd0.tab.nt)
    (hrow : RowHoldsQ nd0 v q pi) {i : Nat} (hi : i < nd0.tab.s.length) (hne : i ≠ pi) :
    RowHoldsQ nd0 v q i ↔ RowHoldsQ nd' v q i := by
  rw [rowHoldsQ_iff_sum nd0 v q h.vc_len pi] at hrow
  rw [rowHoldsQ_iff_sum nd0 v q h.vc_len i, hs.piv_new_row_iffQ h v q i, hs.var_row,
    natGet_set_ne _ (Ne.symm hne)]
  exact other_row_algebraQ nd0.tab.ns pj (nd0.tab.den : ℚ) (mget nd0.tab.s pi pj : ℚ) (f : ℚ)
    (v (natGet nd0.varRow pi)) (fun j => (mget nd0.tab.s pi j : ℚ))
    (fun j => v (natGet nd0.varColumn j)) ((dot (mrow nd0.tab.t pi) q : Int) : ℚ) hpj
    (by exact_mod_cast ne_of_gt hs.f_pos) (by exact_mod_cast hspp) rfl hrow
    (fun j => (mget nd0.tab.s i j : ℚ)) (fun j => (mget nd'.tab.s i j : ℚ))
    ((dot (mrow nd0.tab.t i) q : Int) : ℚ) ((dot (mrow nd'.tab.t i) q : Int) : ℚ)
    (v (natGet nd0.varRow i))
    (fun j hj hnj => by exact_mod_cast hs.s_other i j hi hj hne hnj)
    (by exact_mod_cast hs.s_col i hi hne)
    (by exact_mod_cast hs.piv_t_dot_other hq hi hne)

end rowsQ

/-- the entry formulas of the pivot preserve the RATIONAL solutions -/
theorem pivotSpec_tabsatQ {nd0 nd' : SolNode} {pi pj : Nat} {f : Int} (h : WF nd0)
    (hpi : pi < nd0.tab.s.length) (hpj : pj < nd0.tab.ns) (hspp : mget nd0.tab.s pi pj ≠ 0)
    (hs : PivotSpec nd0 nd' pi pj f) {q : List Int} (hq : q.length = nd0.tab.nt) :
    ∀ v : Nat → ℚ, TabSatQ nd0 v q ↔ TabSatQ nd' v q := by
  intro v
  unfold TabSatQ
  rw [hs.shape.1]
  constructor
  · intro H i hi
    by_cases e : i = pi
    · subst e; exact (hs.piv_pivot_row_iffQ h hpi hpj hspp v hq).mp (H i hi)
    · exact (hs.piv_other_row_iffQ h hpj hspp v hq (H pi hpi) hi e).mp (H i hi)
  · intro H
    have hrow : RowHoldsQ nd0 v q pi := (hs.piv_pivot_row_iffQ h hpi hpj hspp v hq).mpr (H pi hpi)
    intro i hi
    by_cases e : i = pi
    · subst e; exact hrow
    · exact (hs.piv_other_row_iffQ h hpj hspp v hq hrow hi e).mpr (H i hi)

/-! ### the integer reading -/

/-- transport of a statement about rational solutions to the integer valuations -/
theorem tabsat_of_tabsatQ {nd nd' : SolNode} {q : List Int}
    (h : ∀ v : Nat → ℚ, TabSatQ nd v q ↔ TabSatQ nd' v q) (v : Nat → Int) : TabSat nd v q ↔ TabSat nd' v q :=
  (tabsat_cast nd v q).trans ((h _).trans (tabsat_cast nd' v q).symm)

/-- `Tableau::scale` by a non-zero ratio does not change the solutions -/
theorem scale_tabsat {nd : SolNode} (_h : WF nd) {r : Int} (hr : r ≠ 0) (v : Nat → Int)
    (q : List Int) : TabSat { nd with tab := nd.tab.scale r } v q ↔ TabSat nd v q :=
  tabsat_of_tabsatQ (fun w => scale_tabsatQ nd hr w q) v

/-- `Tableau::normalize` does not change the solutions -/
theorem normalize_tabsat {nd : SolNode} (h : WF nd) (v : Nat → Int) (q : List Int) :
    TabSat { nd with tab := nd.tab.normalize } v q ↔ TabSat nd v q :=
  tabsat_of_tabsatQ (fun w => normalize_tabsatQ h w q) v

/-- **the entry formulas of the pivot preserve the solutions** -/
theorem pivotSpec_tabsat {nd0 nd' : SolNode} {pi pj : Nat} {f : Int} (h : WF nd0)
    (hpi : pi < nd0.tab.s.length) (hpj : pj < nd0.tab.ns) (hspp : mget nd0.tab.s pi pj ≠ 0)
    (hs : PivotSpec nd0 nd' pi pj f) {q : List Int} (hq : q.length = nd0.tab.nt) :
    ∀ v, TabSat nd0 v q ↔ TabSat nd' v q :=
  tabsat_of_tabsatQ (pivotSpec_tabsatQ h hpi hpj hspp hs hq)

end PPLV.PIPCore.Piv

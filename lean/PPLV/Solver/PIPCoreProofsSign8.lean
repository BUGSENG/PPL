import PPLV.Solver.PIPCoreProofsSign7
import Mathlib.Tactic.Linarith
/-!
# sign family: the bookkeeping of `first_negative` / `first_mixed`
(PIP_Tree.cc:2695-2808) and "no sign is left UNKNOWN"

`signAnalysis_firsts`: after the sign analysis `fs.neg` is the FIRST row whose sign is `NEGATIVE` (`none`: no
such row) and, when there is no negative row, `fs.mix` is the FIRST row whose sign is `MIXED`.  (When a
negative row exists `first_mixed` may be stale after the second refinement — the code then does not use it.)
-/
namespace PPLV.PIPCore

/-- `o` is the first index whose sign is `s` (`none`: there is none) -/
def FirstOf (sg : List RowSign) (s : RowSign) : Option Nat → Prop
  | none => ∀ k, signGet sg k ≠ s
  | some i => signGet sg i = s ∧ ∀ k, k < i → signGet sg k ≠ s

/-- the same, restricted to the rows below `m` -/
def FirstBelow (m : Nat) (sg : List RowSign) (s : RowSign) : Option Nat → Prop
  | none => ∀ k, k < m → signGet sg k ≠ s
  | some i => i < m ∧ signGet sg i = s ∧ ∀ k, k < i → signGet sg k ≠ s

theorem FirstBelow.toFirstOf {m : Nat} {sg : List RowSign} {s : RowSign} {o : Option Nat}
    (hs : s ≠ .unknown) (hm : sg.length ≤ m) (h : FirstBelow m sg s o) : FirstOf sg s o := by
  cases o with
  | none =>
    intro k
    by_cases hk : k < m
    · exact h k hk
    · rw [signGet_of_le (by omega)]; exact fun e => hs e.symm
  | some i => exact ⟨h.2.1, h.2.2⟩

theorem firstBelow_step {s : RowSign} {sg sg' : List RowSign} {o : Option Nat} {m : Nat} {si : RowSign}
    (hagree : ∀ k, k < m → signGet sg' k = signGet sg k) (hm : signGet sg' m = si)
    (h : FirstBelow m sg s o) :
    FirstBelow (m + 1) sg' s (if si = s ∧ o = none then some m else o) := by
  by_cases hc : si = s ∧ o = none
  · rw [if_pos hc]
    obtain ⟨rfl, rfl⟩ := hc
    exact ⟨by omega, hm, fun k hk => by rw [hagree k hk]; exact h k hk⟩
  · rw [if_neg hc]
    cases o with
    | none =>
      intro k hk
      by_cases hkm : k = m
      · subst hkm; rw [hm]; exact fun e => hc ⟨e, rfl⟩
      · rw [hagree k (by omega)]; exact h k (by omega)
    | some i =>
      obtain ⟨h1, h2, h3⟩ := h
      exact ⟨by omega, by rw [hagree i h1]; exact h2,
        fun k hk => by rw [hagree k (by omega)]; exact h3 k hk⟩

/-! ### `recomputeSigns` -/

theorem recStepF_inv (nd : SolNode) (hlen : nd.tab.t.length ≤ nd.sign.length) : ∀ m, m ≤ nd.tab.t.length →
    FirstBelow m ((List.range m).foldl (recStepF nd) (nd.sign, {})).1 .negative
      ((List.range m).foldl (recStepF nd) (nd.sign, {})).2.neg ∧
    FirstBelow m ((List.range m).foldl (recStepF nd) (nd.sign, {})).1 .mixed
      ((List.range m).foldl (recStepF nd) (nd.sign, {})).2.mix
  | 0, _ => ⟨fun k hk => by omega, fun k hk => by omega⟩
  | m + 1, hm => by
    obtain ⟨hn, hx⟩ := recStepF_inv nd hlen m (by omega)
    have hl := (recStepF_range nd m).1
    rw [List.range_succ, List.foldl_append]
    generalize (List.range m).foldl (recStepF nd) (nd.sign, {}) = st at hl hn hx
    simp only [List.foldl_cons, List.foldl_nil]
    unfold recStepF
    simp only
    generalize (if signGet st.1 m = .unknown ∨ signGet st.1 m = .mixed then rowSign (mrow nd.tab.t m) nd.big
            else signGet st.1 m) = si
    have hagree : ∀ k, k < m → signGet (st.1.set m si) k = signGet st.1 k := by
      intro k hk; rw [signGet_set, if_neg (by omega)]
    have hset : signGet (st.1.set m si) m = si := by
      rw [signGet_set, if_pos ⟨rfl, by omega⟩]
    exact ⟨firstBelow_step hagree hset hn, firstBelow_step hagree hset hx⟩

/-- **`recomputeSigns` finds the first negative and the first mixed row** -/
theorem recomputeSigns_firsts (nd : SolNode) (hlen : nd.sign.length = nd.tab.t.length) :
    FirstOf (recomputeSigns nd).1 .negative (recomputeSigns nd).2.neg ∧
    FirstOf (recomputeSigns nd).1 .mixed (recomputeSigns nd).2.mix := by
  rw [recomputeSigns_eq]
  obtain ⟨hn, hx⟩ := recStepF_inv nd (by omega) nd.tab.t.length (Nat.le_refl _)
  have hl := (recStepF_range nd nd.tab.t.length).1
  exact ⟨hn.toFirstOf (by decide) (by omega), hx.toFirstOf (by decide) (by omega)⟩

/-! ### the first refinement -/

theorem map_add_range'_right (a : Nat) : ∀ (n s : Nat),
    (List.range' s n).map (· + a) = List.range' (s + a) n
  | 0, s => rfl
  | n + 1, s => by
    rw [List.range'_succ, List.map_cons, List.range'_succ, map_add_range'_right a n (s + 1)]
    have : s + 1 + a = s + a + 1 := by omega
    rw [this]

theorem rangeFrom_eq (a b : Nat) : rangeFrom a b = List.range' a (b - a) := by
  unfold rangeFrom
  rw [List.range_eq_range', map_add_range'_right, Nat.zero_add]

/-- the state of `first_negative`: it is the first negative row below `i` and no row from `i` on is negative -/
def NegInv (i : Nat) (sg : List RowSign) (o : Option Nat) : Prop :=
  FirstBelow i sg .negative o ∧ ∀ k, i ≤ k → signGet sg k ≠ .negative

theorem NegInv.firstOf {i : Nat} {sg : List RowSign} {o : Option Nat} (h : NegInv i sg o) :
    FirstOf sg .negative o := by
  cases o with
  | none =>
    intro k
    by_cases hk : k < i
    · exact h.1 k hk
    · exact h.2 k (by omega)
  | some j => exact h.1.2

/-- the state of `first_mixed` during the first refinement -/
def MixInv (i : Nat) (sg : List RowSign) : Option Nat → Prop
  | none => ∀ k, k < i → signGet sg k ≠ .mixed
  | some j => signGet sg j = .mixed ∧ ∀ k, k < j → signGet sg k ≠ .mixed

theorem negInv_skip {i : Nat} {sg : List RowSign} {o : Option Nat} (h : NegInv i sg o) : NegInv (i + 1) sg o := by
  have := firstBelow_step (fun _ _ => rfl) rfl h.1
  rw [if_neg (fun c => h.2 i (Nat.le_refl i) c.1)] at this
  exact ⟨this, fun k hk => h.2 k (by omega)⟩

theorem negInv_set {i : Nat} {sg : List RowSign} {o : Option Nat} {new : RowSign} (hi : i < sg.length)
    (h : NegInv i sg o) :
    NegInv (i + 1) (sg.set i new) (if new = .negative ∧ o = none then some i else o) :=
  ⟨firstBelow_step (fun k hk => by rw [signGet_set, if_neg (by omega)])
      (by rw [signGet_set, if_pos ⟨rfl, hi⟩]) h.1,
    fun k hk => by rw [signGet_set, if_neg (by omega)]; exact h.2 k (by omega)⟩

theorem mixInv_skip {i : Nat} {sg : List RowSign} {o : Option Nat} (hi : signGet sg i ≠ .mixed)
    (h : MixInv i sg o) : MixInv (i + 1) sg o := by
  cases o with
  | none =>
    intro k hk
    by_cases hki : k = i
    · subst hki; exact hi
    · exact h k (by omega)
  | some j => exact h

theorem mixInv_set {i : Nat} {sg : List RowSign} {o : Option Nat} {new : RowSign} (hi : i < sg.length)
    (hmix : signGet sg i = .mixed) (h : MixInv i sg o) :
    MixInv (i + 1) (sg.set i new)
      (if new = .mixed then (if o = none then some i else o) else (if o = some i then none else o)) := by
  have hother : ∀ k, k ≠ i → signGet (sg.set i new) k = signGet sg k := by
    intro k hk; rw [signGet_set, if_neg (fun h => hk h.1.symm)]
  have hself : signGet (sg.set i new) i = new := by rw [signGet_set, if_pos ⟨rfl, hi⟩]
  cases o with
  | none =>
    have h' : ∀ k, k < i → signGet sg k ≠ .mixed := h
    by_cases hn : new = .mixed
    · rw [if_pos hn, if_pos rfl]
      exact ⟨by rw [hself]; exact hn, fun k hk => by rw [hother k (by omega)]; exact h' k hk⟩
    · rw [if_neg hn, if_neg (by simp)]
      intro k hk
      by_cases hki : k = i
      · subst hki; rw [hself]; exact hn
      · rw [hother k hki]; exact h' k (by omega)
  | some j =>
    obtain ⟨h1, h2⟩ : signGet sg j = .mixed ∧ ∀ k, k < j → signGet sg k ≠ .mixed := h
    have hji : j ≤ i := by
      by_contra hgt
      exact h2 i (by omega) hmix
    by_cases hn : new = .mixed
    · rw [if_pos hn, if_neg (by simp)]
      refine ⟨?_, fun k hk => by rw [hother k (by omega)]; exact h2 k hk⟩
      by_cases hj : j = i
      · subst hj; rw [hself]; exact hn
      · rw [hother j hj]; exact h1
    · rw [if_neg hn]
      by_cases hj : j = i
      · subst hj
        rw [if_pos rfl]
        intro k hk
        by_cases hki : k = j
        · subst hki; rw [hself]; exact hn
        · rw [hother k hki]; exact h2 k (by omega)
      · rw [if_neg (by simpa using hj)]
        exact ⟨by rw [hother j hj]; exact h1,
          fun k hk => by rw [hother k (by omega)]; exact h2 k hk⟩

theorem refineMixed1_firsts {cc : Mat → Option Bool} {T : Tableau} {ctx : Mat} (start : Nat) :
    ∀ (cnt i : Nat) (sg : List RowSign) (fs : Firsts) (sg' : List RowSign) (fs' : Firsts),
      refineMixed1 cc T ctx start (List.range' i cnt) (sg, fs) = some (sg', fs') →
      NegInv i sg fs.neg → MixInv i sg fs.mix →
      NegInv (i + cnt) sg' fs'.neg ∧ MixInv (i + cnt) sg' fs'.mix
  | 0, i, sg, fs, sg', fs', h, hn, hx => by
    simp only [List.range'_zero, refineMixed1, Option.some.injEq, Prod.mk.injEq] at h
    rw [← h.1, ← h.2]; exact ⟨hn, hx⟩
  | cnt + 1, i, sg, fs, sg', fs', h, hn, hx => by
    rw [List.range'_succ] at h
    have e : i + (cnt + 1) = (i + 1) + cnt := by omega
    rw [e]
    rcases refineMixed1_cons h with ⟨hm, h'⟩ | ⟨hm, b1, b2, _, _, h'⟩
    · exact refineMixed1_firsts start cnt (i + 1) sg fs sg' fs' h' (negInv_skip hn) (mixInv_skip hm hx)
    · have hi : i < sg.length := signGet_lt_of_ne_unknown (by rw [hm]; decide)
      exact refineMixed1_firsts start cnt (i + 1) _ _ sg' fs' h' (negInv_set hi hn) (mixInv_set hi hm hx)

/-! ### the second refinement -/

theorem refineMixed2_firsts {cc : Mat → Option Bool} {T : Tableau} {ctx : Mat} :
    ∀ (cnt i : Nat) (sg : List RowSign) (fs : Firsts) (sg' : List RowSign) (fs' : Firsts),
      refineMixed2 cc T ctx (List.range' i cnt) (sg, fs) = some (sg', fs') →
      NegInv i sg fs.neg → (fs.neg = none → FirstOf sg .mixed fs.mix) →
      NegInv (i + cnt) sg' fs'.neg ∧ (fs'.neg = none → FirstOf sg' .mixed fs'.mix)
  | 0, i, sg, fs, sg', fs', h, hn, hx => by
    simp only [List.range'_zero, refineMixed2, Option.some.injEq, Prod.mk.injEq] at h
    rw [← h.1, ← h.2]; exact ⟨hn, hx⟩
  | cnt + 1, i, sg, fs, sg', fs', h, hn, hx => by
    rw [List.range'_succ] at h
    have e : i + (cnt + 1) = (i + 1) + cnt := by omega
    rw [e]
    rcases refineMixed2_cons h with ⟨_, h'⟩ | ⟨hm, _, ⟨_, h'⟩ | ⟨_, h'⟩⟩
    · exact refineMixed2_firsts cnt (i + 1) sg fs sg' fs' h' (negInv_skip hn) hx
    · -- compatible: `first_mixed` is set if it was unset, which with no negative row cannot be (row `i` is mixed)
      by_cases hmn : fs.mix = none
      · rw [if_pos hmn] at h'
        have hnn : fs.neg ≠ none := fun hneg => by
          have := hx hneg
          rw [hmn] at this
          exact this i hm
        exact refineMixed2_firsts cnt (i + 1) sg _ sg' fs' h' (negInv_skip hn) (fun habs => absurd habs hnn)
      · rw [if_neg hmn] at h'
        exact refineMixed2_firsts cnt (i + 1) sg fs sg' fs' h' (negInv_skip hn) hx
    · have hi : i < sg.length := signGet_lt_of_ne_unknown (by rw [hm]; decide)
      have hneg := negInv_set (new := .negative) hi hn
      refine refineMixed2_firsts cnt (i + 1) _ _ sg' fs' h' (by simpa using hneg) ?_
      intro habs
      by_cases hnn : fs.neg = none
      · simp [hnn] at habs
      · simp [hnn] at habs

/-! ### the whole analysis -/

/-- **`first_negative` and `first_mixed` after the sign analysis**: `fs.neg` is the first `NEGATIVE` row
    (`none`: there is none); when there is none, `fs.mix` is the first `MIXED` row (`none`: there is none). -/
theorem signAnalysis_firsts {cc : Mat → Option Bool} {nd : SolNode} {ctx : Mat}
    (hlen : nd.sign.length = nd.tab.t.length) {sg' : List RowSign} {fs' : Firsts}
    (h : signAnalysis cc nd ctx = some (sg', fs')) :
    FirstOf sg' .negative fs'.neg ∧ (fs'.neg = none → FirstOf sg' .mixed fs'.mix) := by
  obtain ⟨hn0, hx0⟩ := recomputeSigns_firsts nd hlen
  obtain ⟨st1, s1, s2⟩ := signAnalysis_stages h
  have stage1 : FirstOf st1.1 .negative st1.2.neg ∧ FirstOf st1.1 .mixed st1.2.mix := by
    rcases s1 with rfl | ⟨fm, hneg, hmix, hst1⟩
    · exact ⟨hn0, hx0⟩
    · rw [rangeFrom_eq] at hst1
      rw [hneg] at hn0; rw [hmix] at hx0
      have hN : NegInv fm (recomputeSigns nd).1 (recomputeSigns nd).2.neg := by
        rw [hneg]; exact ⟨fun k _ => hn0 k, fun k _ => hn0 k⟩
      have hM : MixInv fm (recomputeSigns nd).1 (recomputeSigns nd).2.mix := by
        rw [hmix]; exact hx0
      obtain ⟨hN', hM'⟩ := refineMixed1_firsts (cc := cc) (T := nd.tab) (ctx := ctx) fm
        (nd.tab.t.length - fm) fm (recomputeSigns nd).1 (recomputeSigns nd).2 st1.1 st1.2 hst1 hN hM
      have hfm : fm < nd.tab.t.length := by
        have := signGet_lt_of_ne_unknown (sg := (recomputeSigns nd).1) (i := fm) (by rw [hx0.1]; decide)
        rw [(recomputeSigns_spec nd).1] at this; omega
      refine ⟨hN'.firstOf, ?_⟩
      -- `MixInv` at the end of the list is `FirstOf`
      have hl1 : st1.1.length ≤ fm + (nd.tab.t.length - fm) := by
        have := (refineMixed1_loop cc nd.tab ctx fm).length _ (recomputeSigns nd) st1 hst1
        rw [this, (recomputeSigns_spec nd).1]; omega
      cases hmx : st1.2.mix with
      | none =>
        rw [hmx] at hM'
        intro k
        by_cases hk : k < fm + (nd.tab.t.length - fm)
        · exact hM' k hk
        · rw [signGet_of_le (by omega)]; decide
      | some j => rw [hmx] at hM'; exact hM'
  obtain ⟨hn1, hx1⟩ := stage1
  rcases s2 with s2 | ⟨fm, hneg, _, h2⟩
  · rw [← s2] at hn1 hx1; exact ⟨hn1, fun _ => hx1⟩
  · rw [rangeFrom_eq] at h2
    have hN : NegInv fm st1.1 st1.2.neg := by
      rw [hneg] at hn1 ⊢; exact ⟨fun k _ => hn1 k, fun k _ => hn1 k⟩
    have := refineMixed2_firsts (cc := cc) (T := nd.tab) (ctx := ctx) (nd.tab.t.length - fm) fm
      st1.1 st1.2 sg' fs' h2 hN (fun _ => hx1)
    exact ⟨this.1.firstOf, this.2⟩

end PPLV.PIPCore

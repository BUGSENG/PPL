import PPLV.Solver.PendingProofsFreshWitness

/-!
# the branch of `process_pending_constraints` without tableau rows (:982–:999)

Every constraint is a tautology or a sign restriction of an unsplit variable: the solution set is
`{x | x_v ≥ 0 for the unsplit v}`; `is_unbounded_obj_function` decides OPTIMIZED (at the origin) / UNBOUNDED.
-/
namespace PPLV.Solver.Pend
open PPLV.Lin PPLV.Solver PPLV.Solver.Tab

theorem dot_unit_val (l : List Int) (i : Nat) (a : Rat) :
    dot l (Val.zero.update i a) = ((l.getD i 0 : Int) : Rat) * a := by
  rw [dot_update, dot_zero]; simp [Val.zero]

/-- the valuation with `t` in one column -/
def oneCol (col : Nat) (t : Rat) : Val := fun j => if j = 0 then 1 else if j = col then t else 0

namespace InsCtx
variable (C : InsCtx)

/-- columns of different variables are different -/
theorem cols_distinct {u v : Nat} (hu : u < C.n) (hv : v < C.n) (huv : u ≠ v) :
    (C.M.getD (u+1) (0, 0)).1 ≠ (C.M.getD (v+1) (0, 0)).1 ∧
    (C.M.getD (u+1) (0, 0)).1 ≠ hiCol (C.M.getD (v+1) (0, 0)) ∧
    hiCol (C.M.getD (u+1) (0, 0)) ≠ (C.M.getD (v+1) (0, 0)).1 ∧
    hiCol (C.M.getD (u+1) (0, 0)) ≠ hiCol (C.M.getD (v+1) (0, 0)) := by
  obtain ⟨a1, a2, -, -⟩ := C.hM.cols u hu
  obtain ⟨b1, b2, -, -⟩ := C.hM.cols v hv
  have hle : ∀ w, w < C.n → (C.M.getD (w+1) (0, 0)).1 ≤ hiCol (C.M.getD (w+1) (0, 0)) := by
    intro w hw
    obtain ⟨-, c2, -, -⟩ := C.hM.cols w hw
    unfold hiCol; split <;> omega
  rcases Nat.lt_or_gt_of_ne huv with h | h
  · have := C.hM.ord u v h hv
    have := hle u hu; have := hle v hv
    refine ⟨by omega, by omega, by omega, by omega⟩
  · have := C.hM.ord v u h hu
    have := hle u hu; have := hle v hv
    refine ⟨by omega, by omega, by omega, by omega⟩

/-- projection of the valuation with `t` in the first (`neg = false`) or second column of variable `i` -/
theorem proj_oneCol (i : Nat) (hi : i < C.n) (neg : Bool) (hneg : neg = true → (C.M.getD (i+1) (0, 0)).2 ≠ 0) (t : Rat) :
    ∀ u, u < C.n → proj C.M (oneCol (if neg then (C.M.getD (i+1) (0, 0)).2 else (C.M.getD (i+1) (0, 0)).1) t) u =
      if u = i then (if neg then -t else t) else 0 := by
  intro u hu
  obtain ⟨a1, a2, -, -⟩ := C.hM.cols u hu
  obtain ⟨b1, b2, -, -⟩ := C.hM.cols i hi
  have hhi : ∀ w, (C.M.getD (w+1) (0, 0)).2 ≠ 0 → hiCol (C.M.getD (w+1) (0, 0)) = (C.M.getD (w+1) (0, 0)).2 := by
    intro w hw; unfold hiCol; rw [if_neg hw]
  unfold proj oneCol
  simp only
  by_cases hui : u = i
  · subst hui
    rw [if_pos rfl]
    cases neg
    · simp only [Bool.false_eq_true, if_false, if_true]
      have h10 : ¬ (C.M.getD (u+1) (0, 0)).1 = 0 := by omega
      simp only [h10, if_false]
      by_cases hm : (C.M.getD (u+1) (0, 0)).2 = 0
      · have hb : ((C.M.getD (u+1) (0, 0)).2 != 0) = false := by rw [hm]; rfl
        rw [hb]; simp only [Bool.false_eq_true, if_false, sub_zero]
      · have hb : ((C.M.getD (u+1) (0, 0)).2 != 0) = true := bne_iff_ne.mpr hm
        rw [hb]; simp only [if_true]
        rw [if_neg hm, if_neg (by rcases a2 with h | h <;> omega)]; simp only [sub_zero]
    · have hm := hneg rfl
      have hb : ((C.M.getD (u+1) (0, 0)).2 != 0) = true := bne_iff_ne.mpr hm
      have h10 : ¬ (C.M.getD (u+1) (0, 0)).1 = 0 := by omega
      have h12 : ¬ (C.M.getD (u+1) (0, 0)).1 = (C.M.getD (u+1) (0, 0)).2 := by rcases a2 with h | h <;> omega
      simp only [if_true, hb, h10, h12, hm, if_false]
      ring
  · rw [if_neg hui]
    obtain ⟨d1, d2, d3, d4⟩ := C.cols_distinct hu hi hui
    have hcol : (if neg = true then (C.M.getD (i+1) (0, 0)).2 else (C.M.getD (i+1) (0, 0)).1) =
        (C.M.getD (i+1) (0, 0)).1 ∨
        ((C.M.getD (i+1) (0, 0)).2 ≠ 0 ∧
          (if neg = true then (C.M.getD (i+1) (0, 0)).2 else (C.M.getD (i+1) (0, 0)).1) = hiCol (C.M.getD (i+1) (0, 0))) := by
      cases neg
      · left; rfl
      · right; exact ⟨hneg rfl, by simp only [if_true]; exact (hhi i (hneg rfl)).symm⟩
    have hne1 : (C.M.getD (u+1) (0, 0)).1 ≠
        (if neg = true then (C.M.getD (i+1) (0, 0)).2 else (C.M.getD (i+1) (0, 0)).1) := by
      rcases hcol with h | ⟨-, h⟩ <;> rw [h] <;> assumption
    rw [if_neg (by omega), if_neg hne1]
    by_cases hm : (C.M.getD (u+1) (0, 0)).2 = 0
    · have : ((C.M.getD (u+1) (0, 0)).2 != 0) = false := by rw [hm]; rfl
      rw [this]; simp
    · have : ((C.M.getD (u+1) (0, 0)).2 != 0) = true := bne_iff_ne.mpr hm
      rw [this]; simp only [if_true]
      have hne2 : (C.M.getD (u+1) (0, 0)).2 ≠
          (if neg = true then (C.M.getD (i+1) (0, 0)).2 else (C.M.getD (i+1) (0, 0)).1) := by
        rw [← hhi u hm]
        rcases hcol with h | ⟨-, h⟩ <;> rw [h] <;> assumption
      rw [if_neg (by omega), if_neg hne2]; simp

end InsCtx

/-- the branch without rows, from the two halves of "solutions = encodings" -/
theorem trivial_gen (C : InsCtx) (cs : List ICon) (hlen : ∀ c ∈ cs, c.coeffs.length ≤ C.n) (B : Nat)
    (hjB : 1 + C.j ≤ B)
    (core1 : ∀ y : Val, y 0 = 1 → (∀ j, 1 ≤ j → 0 ≤ y j) → (∀ j, B ≤ j → y j = 0) → csSem cs (proj C.M y))
    (core2 : ∀ x, csSem cs x → ∃ y : Val, (∀ j, 1 ≤ j → 0 ≤ y j) ∧ ∀ i, i < C.n → proj C.M y i = x i)
    (obj : LinExpr) (mx : Bool) (hobj : obj.coeffs.length ≤ C.n) :
    csSem cs Val.zero ∧
    (isUnboundedObjFunction obj C.M mx = false →
      ∀ x, csSem cs x → dot (obj.coeffs.map fun a => if mx then a else -a) x ≤ 0) ∧
    (isUnboundedObjFunction obj C.M mx = true →
      ∀ B : Rat, ∃ x, csSem cs x ∧ B < dot (obj.coeffs.map fun a => if mx then a else -a) x) := by
  have one : ∀ i, i < C.n → ∀ neg : Bool, (neg = true → (C.M.getD (i+1) (0, 0)).2 ≠ 0) → ∀ t : Rat, 0 ≤ t →
      csSem cs (fun u => if u = i then (if neg then -t else t) else 0) := by
    intro i hi neg hneg t ht
    obtain ⟨b1, b2, -, b4⟩ := C.hM.cols i hi
    set col := (if neg then (C.M.getD (i+1) (0, 0)).2 else (C.M.getD (i+1) (0, 0)).1) with hcol
    have hcolpos : 1 ≤ col ∧ col < B := by
      rw [hcol]
      cases neg
      · simp only [Bool.false_eq_true, if_false]; unfold hiCol at b4; split at b4 <;> omega
      · simp only [if_true]
        have hm := hneg rfl
        unfold hiCol at b4; rw [if_neg hm] at b4; omega
    have := core1 (oneCol col t) (by simp [oneCol]) (fun j hj => by
        unfold oneCol; rw [if_neg (by omega)]; split
        · exact ht
        · exact le_refl _) (fun j h1 => by
        unfold oneCol; rw [if_neg (by omega), if_neg (by omega)])
    exact (csSem_congr cs C.n hlen _ _ (C.proj_oneCol i hi neg hneg t)).mp this
  have hzero : csSem cs Val.zero := by
    by_cases hn : 0 < C.n
    · have := one 0 hn false (fun h => by cases h) 0 (le_refl _)
      exact (csSem_congr cs C.n hlen _ _ (fun u _ => by simp [Val.zero])).mp this
    · have := core1 (oneCol 0 0) (by simp [oneCol]) (fun j hj => by unfold oneCol; rw [if_neg (by omega)]; split <;> exact le_refl _)
        (fun j h1 => by unfold oneCol; rw [if_neg (by omega)]; split <;> rfl)
      exact (csSem_congr cs C.n hlen _ _ (fun u hu => by omega)).mp this
  set sg := obj.coeffs.map (fun a => if mx then a else -a) with hsg
  have hsgget : ∀ i, sg.getD i 0 = if mx then obj.coeffs.getD i 0 else - obj.coeffs.getD i 0 := by
    intro i
    rw [hsg, List.getD_eq_getElem?_getD, List.getElem?_map, List.getD_eq_getElem?_getD]
    cases obj.coeffs[i]? with
    | none => cases mx <;> simp
    | some a => rfl
  refine ⟨hzero, fun hunb x hx => ?_, fun hunb B => ?_⟩
  · obtain ⟨y, y2, y5⟩ := core2 x hx
    apply (dot_nonpos_terms sg x (fun i => ?_)).1
    by_cases hi : i < obj.coeffs.length
    · have hin : i < C.n := by omega
      have hall := List.any_eq_false.mp hunb i (List.mem_range.mpr hi)
      simp only [Bool.and_eq_true, bne_iff_ne, ne_eq, Bool.or_eq_true, not_and, not_or] at hall
      by_cases hc : obj.coeffs.getD i 0 = 0
      · rw [hsgget, hc]; cases mx <;> simp
      · obtain ⟨hm2, hsign⟩ := hall hc
        have hm2' : (C.M.getD (i+1) (0, 0)).2 = 0 := by simpa using hm2
        have hxi : 0 ≤ x i := by
          rw [← y5 i hin]
          unfold proj
          have : ((C.M.getD (i+1) (0, 0)).2 != 0) = false := by rw [hm2']; rfl
          simp only [this, Bool.false_eq_true, if_false, sub_zero]
          exact y2 _ (C.hM.cols i hin).1
        rw [hsgget]
        cases mx
        · simp only [Bool.false_eq_true, if_false, decide_eq_true_eq, not_lt] at hsign ⊢
          have : ((-(obj.coeffs.getD i 0) : Int) : Rat) ≤ 0 := by exact_mod_cast (by omega : -(obj.coeffs.getD i 0) ≤ 0)
          exact mul_nonpos_of_nonpos_of_nonneg this hxi
        · simp only [if_true, decide_eq_true_eq, not_lt] at hsign ⊢
          have : ((obj.coeffs.getD i 0 : Int) : Rat) ≤ 0 := by exact_mod_cast hsign
          exact mul_nonpos_of_nonpos_of_nonneg this hxi
    · have : sg.getD i 0 = 0 := by
        rw [hsgget, List.getD_eq_getElem?_getD, List.getElem?_eq_none (by omega)]; cases mx <;> simp
      rw [this]; simp
  · obtain ⟨i, hi, hcond⟩ := List.any_eq_true.mp hunb
    have hi' := List.mem_range.mp hi
    have hin : i < C.n := by omega
    simp only [Bool.and_eq_true, bne_iff_ne, ne_eq, Bool.or_eq_true] at hcond
    obtain ⟨hc, hdir⟩ := hcond
    have hsgi : sg.getD i 0 ≠ 0 := by
      rw [hsgget]
      cases mx
      · simp only [Bool.false_eq_true, if_false]; omega
      · simp only [if_true]; exact hc
    by_cases hfav : 0 < sg.getD i 0
    · set t : Rat := max 0 (B / ((sg.getD i 0 : Int) : Rat) + 1) with ht
      have hfq : (0 : Rat) < ((sg.getD i 0 : Int) : Rat) := by exact_mod_cast hfav
      refine ⟨_, one i hin false (fun h => by cases h) t (le_max_left _ _), ?_⟩
      have hval : (fun u => if u = i then (if false = true then -t else t) else (0 : Rat)) = Val.zero.update i t := by
        funext u; simp [Val.update, Val.zero]
      rw [hval, dot_unit_val]
      exact lt_mul_max_div hfq B
    · have hneg : sg.getD i 0 < 0 := by omega
      have hsplit : (C.M.getD (i+1) (0, 0)).2 ≠ 0 := by
        rcases hdir with h | h
        · simpa using h
        · exfalso
          rw [hsgget] at hneg
          cases mx
          · simp only [Bool.false_eq_true, if_false, decide_eq_true_eq] at h hneg; omega
          · simp only [if_true, decide_eq_true_eq] at h hneg; omega
      have hnq : ((sg.getD i 0 : Int) : Rat) < 0 := by exact_mod_cast hneg
      set t : Rat := max 0 (B / (-((sg.getD i 0 : Int) : Rat)) + 1)
      refine ⟨_, one i hin true (fun _ => hsplit) t (le_max_left _ _), ?_⟩
      have hval : (fun u => if u = i then (if true = true then -t else t) else (0 : Rat)) = Val.zero.update i (-t) := by
        funext u; simp [Val.update, Val.zero]
      rw [hval, dot_unit_val]
      rw [mul_neg, ← neg_mul]
      exact lt_mul_max_div (neg_pos.mpr hnq) B

namespace InsCtx
variable (C : InsCtx)

/-- **the branch without tableau rows** -/
theorem trivial_branch (H1 : ∀ c ∈ C.pend, (classify c).1 = .m7 → C.nn.getD (classify c).2 false = true)
    (H2 : ∀ u, C.nn.getD u false = true → ∃ c ∈ C.pend, forcesNonneg (classify c).1 = true ∧ (classify c).2 = u)
    (hT : C.T2 (zeros C.numCols) C.fin.base = []) (obj : LinExpr) (mx : Bool) (hobj : obj.coeffs.length ≤ C.n) :
    csSem C.pend Val.zero ∧
    (isUnboundedObjFunction obj C.M mx = false →
      ∀ x, csSem C.pend x → dot (obj.coeffs.map fun a => if mx then a else -a) x ≤ 0) ∧
    (isUnboundedObjFunction obj C.M mx = true →
      ∀ B : Rat, ∃ x, csSem C.pend x ∧ B < dot (obj.coeffs.map fun a => if mx then a else -a) x) := by
  obtain ⟨core1, core2⟩ := C.setup_core (zeros C.numCols) C.fin.base H1 H2
  have hsol : ∀ y, Sol (C.T2 (zeros C.numCols) C.fin.base) y := by intro y i hi; rw [hT] at hi; simp at hi
  refine trivial_gen C C.pend C.hlen C.SL (by unfold SL V; omega)
    (fun y h0 hnn hz => core1 y h0 hnn (fun j hj _ => hz j hj) (hsol y)) (fun x hx => ?_) obj mx hobj
  obtain ⟨y, -, y2, -, -, y5⟩ := core2 x hx
  exact ⟨y, y2, y5⟩

end InsCtx

end PPLV.Solver.Pend

import PPLV.Solver.PIPCoreProofsMain4
import PPLV.Solver.PIPCoreSolveAsWritten
/-!
# end-to-end: induction over the fuel of `solveGoAsWritten`

`solveGoAsWritten_sound`: whenever the modelled `PIP_Solution_Node::solve` returns (`.done r`, any fuel) and the result,
evaluated at a parameter vector the call is responsible for, is a point, that point is the lexicographic
minimum of the node the call started from.
-/
namespace PPLV.PIPCore

theorem solveGoAsWritten_sound {cc : Mat → Option Bool} (hcc : CCContract cc) (ctl : Ctl) (F : StepFacts)
    (cfc : Bool) :
    ∀ (fuel : Nat) (entry : Bool) (nd : SolNode) (ctx : Mat) (r : Option CTree) (S : List Int → Prop) (n0 : Nat),
      solveGoAsWritten cc ctl cfc fuel entry nd ctx = .done r → ((∃ qpre, S qpre) → Inv' S n0 nd ctx) →
      ∀ qpre, S qpre → ∀ x, evalRes r qpre = some x → IsLexMin nd (extendArts nd.arts qpre) x := by
  intro fuel
  induction fuel with
  | zero =>
    intro entry nd ctx r S n0 h
    simp only [solveGoAsWritten] at h
    exact absurd h (by simp)
  | succ fuel ih =>
    intro entry nd ctx r S n0 h hinv' qpre hq x hx
    have hinv := hinv' ⟨qpre, hq⟩
    rw [solveGoAsWritten] at h
    by_cases hent : (entry && cfc) = true
    · -- the feasibility check of the context at entry
      rw [if_pos hent] at h
      cases hc : cc ctx with
      | none => rw [hc] at h; exact absurd h (by simp)
      | some b =>
        rw [hc] at h
        cases b with
        | false =>
          simp only at h
          injection h with h
          subst h
          exact absurd hx (by simp [evalRes])
        | true =>
          simp only at h
          exact ih false nd ctx r S n0 h hinv' qpre hq x hx
    · rw [if_neg hent] at h
      cases hsa : signAnalysis cc nd ctx with
      | none => rw [hsa] at h; exact absurd h (by simp)
      | some sf =>
        obtain ⟨sg, fs⟩ := sf
        rw [hsa] at h
        simp only at h
        have h1 : Inv' S n0 { nd with sign := sg } ctx := inv_sign hcc hinv hsa
        have hrows : ({ nd with sign := sg } : SolNode).tab.t.length = nd.tab.s.length := hinv.wf.rows_eq.symm
        cases hneg : fs.neg with
        | some fneg =>
          rw [hneg] at h
          simp only at h
          cases hcp : choosePivot ctl { nd with sign := sg } sg
              (rangeFrom fneg ({ nd with sign := sg } : SolNode).tab.t.length) none with
          | none => rw [hcp] at h; simp only at h; injection h with h; subst h; exact absurd hx (by simp [evalRes])
          | some o =>
            rw [hcp] at h
            cases o with
            | none => simp only at h; exact absurd h (by simp)
            | some pp =>
              obtain ⟨pi, pj⟩ := pp
              simp only at h
              obtain ⟨hpi, hf⟩ := choosePivot_spec ctl { nd with sign := sg } sg _ none pi pj
                (fun i hi => by rw [hrows] at hi; exact rangeFrom_lt _ _ i hi)
                (fun a b hab => absurd hab (by simp)) hcp
              obtain ⟨h2, htr⟩ := inv_pivot F h1 hpi hf
              have := ih false _ ctx r S n0 h (fun _ => h2) qpre hq x hx
              rw [pivot_arts] at this
              exact isLexMin_congr (nd := nd) rfl rfl rfl rfl (htr qpre hq x this)
        | none =>
          rw [hneg] at h
          simp only at h
          cases hmix : fs.mix with
          | some fmix =>
            rw [hmix] at h
            simp only at h
            cases hin : findINeg ({ nd with sign := sg } : SolNode).tab sg
                (rangeFrom fmix ({ nd with sign := sg } : SolNode).tab.t.length) none with
            | some ii =>
              obtain ⟨iNeg, sc⟩ := ii
              rw [hin] at h
              simp only at h
              have hm : signGet sg iNeg = .mixed :=
                findINeg_spec _ sg _ none iNeg sc (fun a b hab => absurd hab (by simp)) hin
              have h2 := inv_taut hinv hsa h1 hm
              have := ih false _ _ r S n0 h (fun _ => h2) qpre hq x hx
              exact isLexMin_congr (nd := nd) rfl rfl rfl rfl this
            | none =>
              rw [hin] at h
              simp only at h
              cases hbi : findBestI ({ nd with sign := sg } : SolNode).tab sg
                  (rangeFrom fmix ({ nd with sign := sg } : SolNode).tab.t.length) none with
              | none => rw [hbi] at h; simp only at h; exact absurd h (by simp)
              | some bb =>
                obtain ⟨bestI, sc⟩ := bb
                rw [hbi] at h
                simp only at h
                have hm : signGet sg bestI = .mixed :=
                  findBestI_spec _ sg _ none bestI sc (fun a b hab => absurd hab (by simp)) hbi
                have hbi' : bestI < nd.tab.t.length := by
                  have := signGet_mixed_lt hm
                  rw [signAnalysis_length hsa, hinv.wf.sign_len, hinv.wf.rows_eq] at this
                  exact this
                -- the two recursive calls
                generalize htT : integralSimplification (mrow nd.tab.t bestI) = tTest at h
                cases hst : solveGoAsWritten cc ctl cfc fuel true
                    { nd with sign := sg, arts := [], cons := [] } (ctx ++ [tTest]) with
                | fuel => rw [hst] at h; simp only at h; exact absurd h (by simp)
                | done tNode =>
                  rw [hst] at h
                  simp only at h
                  cases hsf : solveGoAsWritten cc ctl cfc fuel true
                      { nd with sign := sg, arts := [], cons := [] } (ctx ++ [complementAssign tTest 1]) with
                  | fuel => rw [hsf] at h; simp only at h; exact absurd h (by simp)
                  | done fNode =>
                    rw [hsf] at h
                    simp only at h
                    injection h with h
                    subst h
                    -- the vector of this node
                    have hpvq := hinv.pvq qpre hq
                    obtain ⟨e1, e2, e3⟩ := mixed_row_equiv hinv.wf hsa hm hbi' hpvq
                    obtain ⟨f1, f2⟩ := split_false_row_equiv hinv.wf hsa hm hbi' hpvq
                    rw [htT] at e1 e2 e3 f1 f2
                    have hqlen := hpvq.1
                    obtain ⟨hcs, hbr⟩ := F.assemble_some nd.arts nd.cons tTest (complementAssign tTest 1)
                      tNode fNode qpre (extendArts nd.arts qpre) x rfl
                      (by rw [hqlen]; exact hinv.cons_len) (by rw [hqlen, e3]) (by rw [hqlen, f2])
                      (by rw [f1, e1]; omega) hx
                    rcases hbr with ⟨hpos, hev⟩ | ⟨hpos, hev⟩
                    · have hc := inv_child (test := tTest) h1 e3
                      have := ih true _ _ tNode _ _ hst (fun _ => hc) (extendArts nd.arts qpre)
                        ⟨qpre, hq, rfl, hcs, hpos⟩ x hev
                      exact isLexMin_congr (nd := nd) rfl rfl rfl rfl this
                    · have hc := inv_child (test := complementAssign tTest 1) h1 f2
                      have := ih true _ _ fNode _ _ hsf (fun _ => hc) (extendArts nd.arts qpre)
                        ⟨qpre, hq, rfl, hcs, hpos⟩ x hev
                      exact isLexMin_congr (nd := nd) rfl rfl rfl rfl this
          | none =>
            rw [hmix] at h
            simp only at h
            by_cases hsi : solutionIntegral { nd with sign := sg, tab := nd.tab.normalize } = true
            · rw [if_pos hsi] at h
              injection h with h
              subst h
              exact final_step F hinv hsa h1 hneg hmix hsi hq hx
            · rw [if_neg hsi] at h
              -- the normalised node, then the cut(s)
              have hn : Inv' S n0 { nd with sign := sg, tab := nd.tab.normalize } ctx := inv_normalize F h1
              obtain ⟨h2, htr⟩ := inv_cut ctl hn hq
              have := ih false _ _ r S n0 h (fun _ => h2) qpre hq x hx
              have hl := htr qpre hq x this
              -- back from the normalised node to `nd`
              have hns : ({ nd with sign := sg, tab := nd.tab.normalize } : SolNode).tab.ns = nd.tab.ns :=
                (normalize_shape nd.tab).2.2.1
              refine isLexMin_of_feasible_iff hns (fun v => ?_) hl
              have hts := normalize_tabsat h1.wf v (extendArts nd.arts qpre)
              unfold Feasible
              rw [hts]
              exact Iff.rfl

end PPLV.PIPCore

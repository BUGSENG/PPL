import PPLV.Solver.Spec
import PPLV.Solver.BB

/-!
# lemmas about the pieces of the branch-and-bound model (`PPLV/Solver/BB.lean`)

Comparison by cross-multiplication, integrality test by gcd, floor / ceiling, the branching rows,
the semantics of a node, the pruning test and the incumbent update.
-/
namespace PPLV.Solver.BB
open PPLV.Lin PPLV.Solver

/-! ### `mpq_class` comparisons -/

theorem mpqLe_iff (a b : Rat) : mpqLe a b = true ↔ a ≤ b := by
  unfold mpqLe; rw [decide_eq_true_eq, Rat.le_iff]

theorem mpqLt_iff (a b : Rat) : mpqLt a b = true ↔ a < b := by
  unfold mpqLt; rw [decide_eq_true_eq, Rat.lt_iff]

/-! ### floor and ceiling -/

theorem floorQ_eq (q : Rat) : floorQ q = ⌊q⌋ := by
  unfold floorQ ratFloor; exact Rat.floor_def'.symm

theorem ceilQ_eq (q : Rat) : ceilQ q = ⌈q⌉ := by
  unfold ceilQ ratFloor
  rw [← Rat.floor_def', Int.floor_neg, neg_neg]

/-- an integer is on exactly one side of a non-integral `q`, on at least one side of any `q` -/
theorem int_floor_or_ceil (q : Rat) (z : Int) : z ≤ floorQ q ∨ ceilQ q ≤ z := by
  rw [floorQ_eq, ceilQ_eq]
  rcases le_or_gt (z : Rat) q with h | h
  · exact Or.inl (Int.le_floor.mpr h)
  · exact Or.inr (Int.ceil_le.mpr (le_of_lt h))

theorem floor_lt_ceil_of_not_int (q : Rat) (h : ¬ ∃ z : Int, q = (z : Rat)) : floorQ q < ceilQ q := by
  rw [floorQ_eq, ceilQ_eq]
  by_contra hc
  have h1 : ⌈q⌉ ≤ ⌊q⌋ := not_lt.mp hc
  have h2 : (⌈q⌉ : Rat) ≤ (⌊q⌋ : Rat) := by exact_mod_cast h1
  have h3 := Int.floor_le q
  have h4 := Int.le_ceil q
  exact h ⟨⌊q⌋, le_antisymm (le_trans h4 h2) h3⟩

theorem floorQ_le (q : Rat) : (floorQ q : Rat) ≤ q := by rw [floorQ_eq]; exact Int.floor_le q
theorem le_ceilQ (q : Rat) : q ≤ (ceilQ q : Rat) := by rw [ceilQ_eq]; exact Int.le_ceil q
theorem lt_floorQ_add_one (q : Rat) : q < (floorQ q : Rat) + 1 := by rw [floorQ_eq]; exact Int.lt_floor_add_one q
theorem ceilQ_lt_add_one (q : Rat) : (ceilQ q : Rat) < q + 1 := by rw [ceilQ_eq]; exact Int.ceil_lt_add_one q

/-! ### the integrality test -/

theorem coord_eq (p : Pt) (v : Nat) : coord p v = p.val v := rfl

theorem nonIntegral_false_iff (p : Pt) (v : Nat) (hd : 0 < p.den) :
    nonIntegral p v = false ↔ ∃ z : Int, p.val v = (z : Rat) := by
  unfold nonIntegral
  rw [bne_eq_false_iff_eq]
  have hd' : (p.den : Rat) ≠ 0 := by exact_mod_cast (ne_of_gt hd)
  have key : ((Int.gcd (p.num.getD v 0) p.den : Nat) : Int) = p.den ↔ p.den ∣ p.num.getD v 0 := by
    constructor
    · intro h
      have : Int.gcd (p.num.getD v 0) p.den = p.den.natAbs := by
        have h2 := congrArg Int.natAbs h
        simpa using h2
      exact Int.gcd_eq_natAbs_right_iff_dvd.mp this
    · intro h
      rw [Int.gcd_eq_natAbs_right h]
      exact Int.natAbs_of_nonneg (le_of_lt hd)
  rw [key]
  unfold Pt.val
  constructor
  · rintro ⟨z, hz⟩
    refine ⟨z, ?_⟩
    rw [hz]; push_cast; field_simp
  · rintro ⟨z, hz⟩
    refine ⟨z, ?_⟩
    have : ((p.num.getD v 0 : Int) : Rat) = (z : Rat) * (p.den : Rat) := by
      field_simp at hz; linarith
    have h2 : ((p.num.getD v 0 : Int) : Rat) = ((p.den * z : Int) : Rat) := by rw [this]; push_cast; ring
    exact_mod_cast h2

theorem firstNonInt_none (ivars : List Nat) (p : Pt) (hd : 0 < p.den) (h : firstNonInt ivars p = none) :
    ∀ i ∈ ivars, ∃ z : Int, p.val i = (z : Rat) := by
  intro i hi
  unfold firstNonInt at h
  rw [List.find?_eq_none] at h
  have := h i hi
  rw [Bool.not_eq_true] at this
  exact (nonIntegral_false_iff p i hd).mp this

theorem firstNonInt_some (ivars : List Nat) (p : Pt) (i : Nat) (hd : 0 < p.den) (h : firstNonInt ivars p = some i) :
    i ∈ ivars ∧ ¬ ∃ z : Int, p.val i = (z : Rat) := by
  unfold firstNonInt at h
  have h1 := List.find?_some h
  have h2 := List.mem_of_find?_eq_some h
  refine ⟨h2, fun hz => ?_⟩
  have := (nonIntegral_false_iff p i hd).mpr hz
  rw [this] at h1; cases h1

/-! ### nodes -/

theorem addRow_cs (N : Node) (r : InRow) : (N.addRow r).toProblem.cs = N.toProblem.cs ++ r.toCons := by
  simp [Node.addRow, Node.toProblem, List.flatMap_append]

theorem addRow_fields (N : Node) (r : InRow) :
    (N.addRow r).toProblem.n = N.toProblem.n ∧ (N.addRow r).toProblem.ints = N.toProblem.ints ∧
    (N.addRow r).toProblem.obj = N.toProblem.obj ∧ (N.addRow r).toProblem.maximize = N.toProblem.maximize :=
  ⟨rfl, rfl, rfl, rfl⟩

theorem sat_branchLe (i : Nat) (f : Int) (x : Val) : Sat (branchLe i f).toCons x ↔ x i ≤ (f : Rat) := by
  simp only [branchLe, InRow.toCons, Bool.false_eq_true, if_false, Sat, List.mem_singleton, forall_eq, geRow, Con.sat,
    Con.eval, dot_unitRow]
  push_cast
  constructor <;> intro h <;> linarith

theorem sat_branchGe (i : Nat) (c : Int) (x : Val) : Sat (branchGe i c).toCons x ↔ (c : Rat) ≤ x i := by
  simp only [branchGe, InRow.toCons, Bool.false_eq_true, if_false, Sat, List.mem_singleton, forall_eq, geRow, Con.sat,
    Con.eval, dot_unitRow]
  push_cast
  constructor <;> intro h <;> linarith

theorem feasible_addRow (N : Node) (r : InRow) (x : Val) :
    Feasible (N.addRow r).toProblem x ↔ Feasible N.toProblem x ∧ Sat r.toCons x := by
  unfold Feasible
  rw [addRow_cs, Sat_append]
  have : (N.addRow r).toProblem.ints = N.toProblem.ints := rfl
  rw [this]
  tauto

/-- **the split constraints cover the integral points**: a feasible point of the node (integral on
    `i`) is a feasible point of the `≤ ⌊q⌋` child or of the `≥ ⌈q⌉` child -/
theorem children_cover (N : Node) (i : Nat) (hi : i ∈ N.ivars) (q : Rat) (x : Val)
    (hx : Feasible N.toProblem x) :
    Feasible (N.addRow (branchLe i (floorQ q))).toProblem x ∨ Feasible (N.addRow (branchGe i (ceilQ q))).toProblem x := by
  obtain ⟨z, hz⟩ := hx.2 i hi
  rcases int_floor_or_ceil q z with h | h
  · left
    rw [feasible_addRow, sat_branchLe, hz]
    exact ⟨hx, by exact_mod_cast h⟩
  · right
    rw [feasible_addRow, sat_branchGe, hz]
    exact ⟨hx, by exact_mod_cast h⟩

/-- **… and do not overlap** when `q` is not an integer -/
theorem children_disjoint (N : Node) (i : Nat) (q : Rat) (hq : ¬ ∃ z : Int, q = (z : Rat)) (x : Val) :
    ¬ (Feasible (N.addRow (branchLe i (floorQ q))).toProblem x ∧ Feasible (N.addRow (branchGe i (ceilQ q))).toProblem x) := by
  rintro ⟨h1, h2⟩
  rw [feasible_addRow, sat_branchLe] at h1
  rw [feasible_addRow, sat_branchGe] at h2
  have h3 : (ceilQ q : Rat) ≤ (floorQ q : Rat) := le_trans h2.2 h1.2
  have h4 : ceilQ q ≤ floorQ q := by exact_mod_cast h3
  exact absurd (floor_lt_ceil_of_not_int q hq) (not_lt.mpr h4)

theorem child_subset (N : Node) (r : InRow) (x : Val) (h : Sat (N.addRow r).toProblem.cs x) : Sat N.toProblem.cs x := by
  rw [addRow_cs, Sat_append] at h; exact h.1

theorem wf_addRow_branch (N : Node) (i : Nat) (b : Int) (hwf : N.toProblem.WF) (hi : i ∈ N.ivars) :
    (N.addRow (branchLe i b)).toProblem.WF ∧ (N.addRow (branchGe i b)).toProblem.WF := by
  obtain ⟨h1, h2, h3, h4⟩ := hwf
  have hin : i < N.n := h4 i hi
  constructor
  · refine ⟨?_, ?_, h3, h4⟩
    · intro c hc
      rw [addRow_cs] at hc
      rcases List.mem_append.mp hc with hc | hc
      · exact h1 c hc
      · simp only [branchLe, InRow.toCons, Bool.false_eq_true, if_false, List.mem_singleton] at hc
        subst hc
        show (unitRow i (-1)).length ≤ N.n
        rw [unitRow_length]; omega
    · intro c hc
      rw [addRow_cs] at hc
      rcases List.mem_append.mp hc with hc | hc
      · exact h2 c hc
      · simp only [branchLe, InRow.toCons, Bool.false_eq_true, if_false, List.mem_singleton] at hc
        subst hc; rfl
  · refine ⟨?_, ?_, h3, h4⟩
    · intro c hc
      rw [addRow_cs] at hc
      rcases List.mem_append.mp hc with hc | hc
      · exact h1 c hc
      · simp only [branchGe, InRow.toCons, Bool.false_eq_true, if_false, List.mem_singleton] at hc
        subst hc
        show (unitRow i 1).length ≤ N.n
        rw [unitRow_length]; omega
    · intro c hc
      rw [addRow_cs] at hc
      rcases List.mem_append.mp hc with hc | hc
      · exact h2 c hc
      · simp only [branchGe, InRow.toCons, Bool.false_eq_true, if_false, List.mem_singleton] at hc
        subst hc; rfl

/-! ### "not better" is a preorder -/

theorem better_max (P : Problem) (h : P.maximize = true) (a b : Rat) : Better P a b ↔ b < a := by
  unfold Better; rw [if_pos h]

theorem better_min (P : Problem) (h : P.maximize = false) (a b : Rat) : Better P a b ↔ a < b := by
  unfold Better; rw [if_neg (by rw [h]; exact Bool.false_ne_true)]

theorem better_asymm (P : Problem) (a b : Rat) (h : Better P a b) : ¬ Better P b a := by
  cases hm : P.maximize
  · rw [better_min P hm] at *; exact lt_asymm h
  · rw [better_max P hm] at *; exact lt_asymm h

theorem nb_refl (P : Problem) (a : Rat) : ¬ Better P a a := fun h => better_asymm P a a h h

theorem nb_trans (P : Problem) (a b c : Rat) (h1 : ¬ Better P a b) (h2 : ¬ Better P b c) : ¬ Better P a c := by
  cases hm : P.maximize
  · rw [better_min P hm] at *
    exact not_lt.mpr (le_trans (not_lt.mp h2) (not_lt.mp h1))
  · rw [better_max P hm] at *
    exact not_lt.mpr (le_trans (not_lt.mp h1) (not_lt.mp h2))

theorem better_congr (P Q : Problem) (h : P.maximize = Q.maximize) (a b : Rat) : Better P a b ↔ Better Q a b := by
  unfold Better; rw [h]

end PPLV.Solver.BB

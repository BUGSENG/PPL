import PPLV.Solver.PIPCoreProofsNode
import Mathlib.Tactic.Linarith
import Mathlib.Tactic.Ring
/-!
# node family: `SignAt` bookkeeping (root, `normalize`, sign analysis), the tautology
step (PIP_Tree.cc:3134-3140) and the split row, and the "no positive pivot" exit
-/
namespace PPLV.PIPCore
namespace Node

theorem t_row_length {nd : SolNode} (hwf : WF nd) {k : Nat} (hk : k < nd.tab.t.length) :
    (mrow nd.tab.t k).length = nd.tab.nt := RowsLen.mrow hwf.t_cols hk

theorem nt_pos_of_paramVec {n : Nat} {q : List Int} (hq : ParamVec n q) : 0 < n := by
  obtain ⟨ps, rfl, _⟩ := hq.cons_form
  have := hq.1
  simp at this; omega

end Node

open Node

/-! ### (N3) `SignAt` at the root, through `normalize`, through the sign analysis -/

/-- **root**: signs that are `UNKNOWN` or the verdict of `row_sign` hold at every parameter vector -/
theorem signAt_root {nd : SolNode} {q : List Int}
    (hs : ∀ k, signGet nd.sign k = .unknown ∨ signGet nd.sign k = rowSign (mrow nd.tab.t k) none)
    (hwf : WF nd) (hq : ParamVec nd.tab.nt q) : SignAt nd q := by
  intro k
  rcases hs k with h | h
  · rw [h]; exact trivial
  · rw [h]
    by_cases hk : k < nd.tab.t.length
    · exact (rowSign_sound (by rw [t_row_length hwf hk]; exact hq)).weak hwf.den_pos
    · rw [mrow_of_le (by omega)]
      have e : rowSign [] none = .zero := by decide
      rw [e, dot_nil_left]
      exact ⟨by have := hwf.den_pos; omega, hwf.den_pos⟩

/-- **the sign analysis keeps `SignAt`** at every parameter vector of the context (repackaging of
    `signAnalysis_weak_sound`) -/
theorem signAt_analysis {cc : Mat → Option Bool} (hcc : CCContract cc) {nd : SolNode} (hwf : WF nd)
    (hbig : nd.big = none) {ctx : Mat} (hctx : ∀ r ∈ ctx, r.length = nd.tab.nt)
    {sg : List RowSign} {fs : Firsts} (h : signAnalysis cc nd ctx = some (sg, fs))
    {q : List Int} (hq : ParamVec nd.tab.nt q) (hsat : CtxSat ctx q) (hs : SignAt nd q) :
    SignAt { nd with sign := sg } q :=
  signAnalysis_weak_sound hcc hwf.den_pos hbig (nt_pos_of_paramVec hq) hctx
    (fun _ hk => t_row_length hwf hk) h hq hsat hs

/-! ### (N4) the tautology step and the split row -/

/-- a sign that is still `MIXED` after the whole sign analysis is the verdict of `row_sign` on the row
    (no oracle contract needed: the refinements never CREATE a mixed sign) -/
theorem signAnalysis_mixed_rowSign {cc : Mat → Option Bool} {nd : SolNode} {ctx : Mat}
    (hlen : nd.sign.length ≤ nd.tab.t.length) {sg : List RowSign} {fs : Firsts}
    (h : signAnalysis cc nd ctx = some (sg, fs)) {i : Nat} (hm : signGet sg i = .mixed) :
    rowSign (mrow nd.tab.t i) nd.big = .mixed := by
  exact recomputeSigns_mixed hlen (signAnalysis_pointwise
    (fun k s => s = .mixed → signGet (recomputeSigns nd).1 k = .mixed) h (fun _ hk => hk)
    (fun _ _ hmix _ _ _ _ _ => hmix rfl) (fun _ _ _ _ _ hc => by cases hc) i hm)

/-- **(i) the row added to the context by the tautology step / the split** (`tautology`, `t_test` =
    `integral_simplification(t_i)`, then normalised by the `Constraint` constructor) means `t_i(q) ≥ 0`,
    and has the width of the parameter matrix -/
theorem mixed_row_equiv {cc : Mat → Option Bool} {nd : SolNode} {ctx : Mat} (hwf : WF nd)
    {sg : List RowSign} {fs : Firsts} (h : signAnalysis cc nd ctx = some (sg, fs))
    {i : Nat} (hm : signGet sg i = .mixed) (hi : i < nd.tab.t.length)
    {q : List Int} (hq : ParamVec nd.tab.nt q) :
    (0 ≤ dot (integralSimplification (mrow nd.tab.t i)) q ↔ 0 ≤ dot (mrow nd.tab.t i) q) ∧
    (0 ≤ dot (rowNormalizeAll (integralSimplification (mrow nd.tab.t i))) q ↔ 0 ≤ dot (mrow nd.tab.t i) q) ∧
    (integralSimplification (mrow nd.tab.t i)).length = nd.tab.nt := by
  have hmr := signAnalysis_mixed_rowSign (by rw [hwf.sign_len, hwf.rows_eq]) h hm
  have hlen := t_row_length hwf hi
  have e := integralSimplification_equiv_of_mixed hmr hq.2.1 (by rw [hlen, hq.1])
  refine ⟨e, ?_, by rw [integralSimplification_length, hlen]⟩
  rw [rowNormalizeAll_sign]; exact e

/-- **(ii) the tautology step keeps `SignAt`**: the row is added to the context, so at the parameter
    vectors of the NEW context `t_i(q) ≥ 0` and the sign `POSITIVE` written at line 3116 is true -/
theorem tautology_signAt {cc : Mat → Option Bool} {nd : SolNode} {ctx : Mat} (hwf : WF nd)
    {sg : List RowSign} {fs : Firsts} (h : signAnalysis cc nd ctx = some (sg, fs))
    {i : Nat} (hm : signGet sg i = .mixed) (hi : i < nd.tab.t.length)
    {q : List Int} (hq : ParamVec nd.tab.nt q) (hs : SignAt { nd with sign := sg } q)
    (hrow : 0 ≤ dot (integralSimplification (mrow nd.tab.t i)) q) :
    SignAt { nd with cons := addConstraint nd.cons (integralSimplification (mrow nd.tab.t i)),
                     sign := sg.set i .positive } q := by
  have hnn := (mixed_row_equiv hwf h hm hi hq).1.1 hrow
  have hden := hwf.den_pos
  exact pointwise_set (P := fun k s => SignWeak nd.tab.den s (dot (mrow nd.tab.t k) q)) hs
    (show -nd.tab.den < dot (mrow nd.tab.t i) q by omega)

/-- the false branch of the split: `complement_assign(t_test, 1)` holds exactly where `t_i(q) < 0` -/
theorem split_false_row_equiv {cc : Mat → Option Bool} {nd : SolNode} {ctx : Mat} (hwf : WF nd)
    {sg : List RowSign} {fs : Firsts} (h : signAnalysis cc nd ctx = some (sg, fs))
    {i : Nat} (hm : signGet sg i = .mixed) (hi : i < nd.tab.t.length)
    {q : List Int} (hq : ParamVec nd.tab.nt q) :
    (0 ≤ dot (complementAssign (integralSimplification (mrow nd.tab.t i)) 1) q
      ↔ dot (mrow nd.tab.t i) q < 0) ∧
    (complementAssign (integralSimplification (mrow nd.tab.t i)) 1).length = nd.tab.nt := by
  obtain ⟨e, _, hl⟩ := mixed_row_equiv hwf h hm hi hq
  have hn := nt_pos_of_paramVec hq
  have hp := split_partitions_context hq hl hn
  refine ⟨?_, by rw [complementAssign_length, hl]⟩
  constructor
  · intro hc
    by_contra hge
    exact hp.2 ⟨e.2 (by omega), hc⟩
  · intro hneg
    rcases hp.1 with h1 | h1
    · have := e.1 h1; omega
    · exact h1

/-! ### (N5) "No positive pivot: Solution = _|_" -/

theorem Node.hasPositive_false {r : Row} (h : hasPositive r = false) : ∀ a ∈ r, a ≤ 0 := by
  intro a ha
  unfold hasPositive at h
  rw [List.any_eq_false] at h
  have := h a ha
  simpa using this

/-- a row without positive variable coefficient whose parametric part is negative at `q` has no
    non-negative solution -/
theorem no_positive_pivot_infeasible {nd : SolNode} {i : Nat} {q : List Int} (hwf : WF nd)
    (hi : i < nd.tab.s.length) (hnp : hasPositive (mrow nd.tab.s i) = false)
    (_hq : q.length = nd.tab.nt) (hneg : dot (mrow nd.tab.t i) q < 0) : Infeasible nd q := by
  rintro ⟨v, hf⟩
  have hrow := hf.1 i hi
  unfold RowHolds at hrow
  have hcols : ∀ b ∈ nd.varColumn.map v, 0 ≤ b := by
    intro b hb
    obtain ⟨x, hx, rfl⟩ := List.mem_map.1 hb
    exact hf.2 x (Node.varColumn_mem hwf hx).1
  have h1 := dot_nonpos _ _ (Node.hasPositive_false hnp) hcols
  have h2 : 0 ≤ v (natGet nd.varRow i) := hf.2 _ (hwf.vr_ok i hi).1
  have h3 := Int.mul_nonneg (Int.le_of_lt hwf.den_pos) h2
  omega

/-! ### concrete instances -/

/-- a fresh root: one problem variable `x0` (column), one constraint row `x1 = x0 + 2 + p` -/
def Node.exRoot : SolNode :=
  { tab := { s := [[1]], t := [[2, 1]], den := 1, ns := 1, nt := 2 }
    basis := [true, false], mapping := [0, 0], varRow := [1], varColumn := [0]
    sign := [.unknown], big := none, arts := [], cons := [] }

theorem Node.exRoot_wf : WF Node.exRoot :=
  ⟨by decide, by decide, by decide, by decide, by decide, by decide, by decide, by decide, by decide,
   by decide, by decide, by decide⟩

theorem Node.exRoot_intinv (q : List Int) : IntInv Node.exRoot q :=
  root_intinv Node.exRoot_wf rfl (by
    intro k hk
    have : k = 0 := by have : k < 1 := hk; omega
    subst this; exact ⟨rfl, rfl⟩)

/-- the same node after its sign analysis (`row_sign` says `POSITIVE`) -/
def Node.exFinal : SolNode := { Node.exRoot with sign := [.positive] }

theorem Node.exFinal_wf : WF Node.exFinal :=
  ⟨by decide, by decide, by decide, by decide, by decide, by decide, by decide, by decide, by decide,
   by decide, by decide, by decide⟩

theorem Node.exFinal_signAt : SignAt Node.exFinal [1, 3] :=
  signAt_root (by
    intro k
    match k with
    | 0 => exact Or.inr (by decide)
    | k + 1 => exact Or.inl (signGet_of_le (by simp [Node.exFinal, Node.exRoot]))) Node.exFinal_wf
    ⟨rfl, rfl, by decide⟩

/-- non-vacuity of `final_node_correct` (and of `root_intinv`, `signAt_root`): the minimum is `x0 = 0` -/
example : IsLexMin Node.exFinal [1, 3] [0] :=
  final_node_correct Node.exFinal_wf (by decide) ⟨rfl, rfl, by decide⟩ Node.exFinal_signAt
    (by intro k hk
        have : k = 0 := by have : k < 1 := hk; omega
        subst this; exact Or.inl (by decide))
    (by decide) (fun v => Node.exRoot_intinv [1, 3] v)

-- `signAt_normalize` on a node that is really divided (den 2, every entry even)
example : ({ Lex.exNodeA with tab := Lex.exNodeA.tab.normalize }).tab.den = 1 := by decide
example : SignAt { Lex.exNodeA with tab := Lex.exNodeA.tab.normalize } [1] ↔ SignAt Lex.exNodeA [1] :=
  signAt_normalize Lex.exNodeA_wf

-- `signAnalysis_mixed_rowSign` / `mixed_row_equiv` are not vacuous: `exNd9` (`PIPCoreProofsSign9.lean`) has a
-- negative row, so the refinements are skipped and its row `1 - p` stays MIXED
example : (signAnalysis (fun _ => none) exNd9 []).map (fun r => signGet r.1 1) = some .mixed := by decide
example : rowSign (mrow exNd9.tab.t 1) exNd9.big = .mixed := by decide
example : integralSimplification (mrow exNd9.tab.t 1) = [1, -1] := by decide

/-- non-vacuity of `no_positive_pivot_infeasible`: `x1 = -x0 - 1 - p` -/
def Node.exInf : SolNode :=
  { tab := { s := [[-1]], t := [[-1, -1]], den := 1, ns := 1, nt := 2 }
    basis := [true, false], mapping := [0, 0], varRow := [1], varColumn := [0]
    sign := [.negative], big := none, arts := [], cons := [] }

theorem Node.exInf_wf : WF Node.exInf :=
  ⟨by decide, by decide, by decide, by decide, by decide, by decide, by decide, by decide, by decide,
   by decide, by decide, by decide⟩

example : Infeasible Node.exInf [1, 3] :=
  no_positive_pivot_infeasible (i := 0) Node.exInf_wf (by decide) (by decide) rfl (by decide)

end PPLV.PIPCore

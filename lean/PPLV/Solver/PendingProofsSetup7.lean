import PPLV.Solver.PendingProofsSetupSol

/-!
# the output of `ppcSetup` on a fresh state

`fresh_ctx`: the set-up in terms of the insertion context `C`; `tableau_setup_solutions`: its solutions.
-/
namespace PPLV.Solver.Pend
open PPLV.Lin PPLV.Solver.Tab

/-- `ppcFill` on a fresh state, in terms of the insertion context -/
theorem ppcFill_fresh_eq (s : LPState) (hF : Fresh s) (p : Parsed) (C : InsCtx) (jj2 addArt : Nat)
    (e1 : s.input_cs = C.pend) (e2 : p.isTab = C.pend.map tabC) (e3 : p.isSat = C.isSat) (e4 : p.rows = C.N)
    (e0 : p.rows - p.isSat.count true + 0 = addArt)
    (e5 : 2 + (jj2 + p.slacks + addArt) = C.numCols)
    (e6 : C.numCols - addArt - 1 = C.SL) :
    ∃ s0, ppcFill s [] p p.isSat C.M jj2 = ppcTrivial s0 (if addArt > 0 then C.SL else 0) C.artOut.2.2.2 ∧
      s0.tableau = C.artOut.1 ∧ s0.base = C.artOut.2.2.1 ∧
      s0.working_cost = reexpressCost C.artOut.1 C.artOut.2.2.1 (C.artOut.2.1.set (C.numCols - 1) 1) ∧
      s0.numCols = C.numCols ∧ s0.mapping = C.M ∧ s0.external_space_dim = s.external_space_dim ∧
      s0.obj = s.obj ∧ s0.maximize = s.maximize ∧ s0.pricing = s.pricing := by
  unfold ppcFill
  simp only [hF.tab, hF.base0, hF.nc, hF.fp0, List.length_nil, Nat.zero_add, Nat.sub_zero, List.drop_zero,
    List.nil_append, pad_replicate]
  rw [e0, e5, e6, e4, e2, e3, e1]
  exact ⟨_, rfl, rfl, rfl, rfl, rfl, rfl, rfl, rfl, rfl, rfl⟩

/-- the set-up of a fresh state whose constraints parse, in terms of an insertion context -/
theorem fresh_ctx (s : LPState) (hF : Fresh s) (p : Parsed) (hp : parseConstraints s = some p) :
    ∃ C : InsCtx, C.pend = s.input_cs ∧ C.n = s.external_space_dim ∧ C.isSat = p.isSat ∧
      (∀ c ∈ C.pend, (classify c).1 = .m7 → C.nn.getD (classify c).2 false = true) ∧
      (∀ u, C.nn.getD u false = true → ∃ c ∈ C.pend, forcesNonneg (classify c).1 = true ∧ (classify c).2 = u) ∧
      C.numCols = C.SL + (C.N - C.isSat.count true) + 1 ∧
      ∃ s0, ppcSetup s = ppcTrivial s0 (if (C.N - C.isSat.count true) > 0 then C.SL else 0) C.artOut.2.2.2 ∧
        s0.tableau = C.artOut.1 ∧ s0.base = C.artOut.2.2.1 ∧
        s0.working_cost = reexpressCost C.artOut.1 C.artOut.2.2.1 (C.artOut.2.1.set (C.numCols - 1) 1) ∧
        s0.numCols = C.numCols ∧ s0.mapping = C.M ∧ s0.external_space_dim = s.external_space_dim ∧
        s0.obj = s.obj ∧ s0.maximize = s.maximize ∧ s0.pricing = s.pricing ∧ C.M = (ppcMapping s p.isNonneg 1).1 ∧
        C.nn = p.isNonneg ∧ C.j = (ppcMapping s p.isNonneg 1).2.1 := by
  have hsetup : ppcSetup s = ppcBuild s true p := by
    unfold ppcSetup; rw [ppcRecompute_fresh hF]; simp only [hp]
  have hnn0 : (if s.mapping.length > 0 then
        revFold (min (s.mapping.length - 1) s.external_space_dim)
          (fun i (l : List Bool) => if (s.mapping.getD (i+1) (0, 0)).2 == 0 then l.set i true else l)
          (List.replicate s.external_space_dim false)
      else List.replicate s.external_space_dim false) = List.replicate s.external_space_dim false := by
    rw [hF.map0]; simp [revFold]
  have hpi := parse_spec s _ hnn0
  rw [hF.fp0, List.drop_zero, hp] at hpi
  obtain ⟨h1, h2, h3, h4, h5, h6, h7⟩ := hpi
  simp only [List.drop_zero, List.replicate_zero, List.nil_append, Nat.zero_add] at h1 h2 h3 h6 h7
  obtain ⟨hMok, hjj⟩ := ppcMapping_fresh s p.isNonneg hF.int0 hF.map0 hF.npos
  have hSL : 1 + (ppcMapping s p.isNonneg 1).2.1 + (s.input_cs.filter slackC).length <
      2 + ((ppcMapping s p.isNonneg 1).2.2 + p.slacks + (p.rows - p.isSat.count true + 0)) := by
    rw [← h2, hjj]; omega
  let C : InsCtx :=
    { M := (ppcMapping s p.isNonneg 1).1, nn := p.isNonneg, n := s.external_space_dim,
      j := (ppcMapping s p.isNonneg 1).2.1,
      numCols := 2 + ((ppcMapping s p.isNonneg 1).2.2 + p.slacks + (p.rows - p.isSat.count true + 0)),
      pend := s.input_cs, isSat := p.isSat, hM := hMok, hlen := hF.lens, hSL := hSL }
  have hbuild : ppcBuild s true p =
      ppcFill s [] p p.isSat (ppcMapping s p.isNonneg 1).1 (ppcMapping s p.isNonneg 1).2.2 := by
    unfold ppcBuild
    simp only [ppcMerge_fresh hF, hF.nc]
    rfl
  have e6 : C.numCols - (p.rows - p.isSat.count true + 0) - 1 = C.SL := by
    show 2 + ((ppcMapping s p.isNonneg 1).2.2 + p.slacks + (p.rows - p.isSat.count true + 0)) -
        (p.rows - p.isSat.count true + 0) - 1 =
      1 + (ppcMapping s p.isNonneg 1).2.1 + (s.input_cs.filter slackC).length
    rw [← h2, hjj]; omega
  have hN : p.rows = C.N := h3
  have hncol : C.numCols = C.SL + (C.N - C.isSat.count true) + 1 := by
    show 2 + ((ppcMapping s p.isNonneg 1).2.2 + p.slacks + (p.rows - p.isSat.count true + 0)) =
      1 + (ppcMapping s p.isNonneg 1).2.1 + (s.input_cs.filter slackC).length +
        ((s.input_cs.filter tabC).length - p.isSat.count true) + 1
    rw [← h2, ← h3, hjj]; omega
  obtain ⟨s0, hfill, f1, f2, f3, f4, f5, f6, f7, f8, f9⟩ := ppcFill_fresh_eq s hF p C (ppcMapping s p.isNonneg 1).2.2
    (p.rows - p.isSat.count true + 0) rfl h1 rfl h3 rfl rfl e6
  have haa : p.rows - p.isSat.count true + 0 = C.N - C.isSat.count true := by rw [hN]; rfl
  rw [haa] at hfill
  refine ⟨C, rfl, rfl, rfl, ?_, ?_, hncol, s0, by rw [hsetup, hbuild, hfill], f1, f2, f3, f4, f5, f6, f7, f8, f9,
    rfl, rfl, rfl⟩
  · intro c hc h7c
    have hv : (classify c).2 < s.external_space_dim :=
      lt_of_lt_of_le (class_var_lt (cls := .m7) (by rw [← h7c]) rfl) (hF.lens c hc)
    exact h7 c hc h7c (by rw [List.length_replicate]; exact hv)
  · intro u hu
    rcases h6 u hu with h | h
    · exfalso
      rw [List.getD_eq_getElem?_getD] at h
      by_cases hul : u < s.external_space_dim
      · rw [List.getElem?_replicate_of_lt hul] at h; cases h
      · rw [List.getElem?_eq_none (by simpa using hul)] at h; cases h
    · exact h

/-- what `tableau_setup_solutions` says about an output `(s', b)` of the set-up for the constraints `cs` in `n`
    variables -/
def SetupGood (cs : List ICon) (n : Nat) (s' : LPState) (b : Nat) : Prop :=
  (∀ y : Val, TabSol s'.tableau s'.numCols b y → csSem cs (proj s'.mapping y)) ∧
  (∀ x : Val, csSem cs x → ∃ y : Val, TabSol s'.tableau s'.numCols b y ∧ ∀ i, i < n → proj s'.mapping y i = x i)

/-- **the tableau set up for a fresh problem has exactly the solutions of the constraint system.**
    `s` is the state `is_lp_satisfiable()` hands to `process_pending_constraints()` for a problem that was
    never solved (`Fresh s`).  If the set-up stops with UNSATISFIABLE, the constraint system has no solution
    (a trivially false row).  Otherwise — ready for the first phase, or stopped with an empty tableau — the
    tableau `s'.tableau` over the columns (split problem variables, slacks, artificials) has, among the
    valuations with all columns non-negative and the artificial columns 0 (`TabSol`): (→) only solutions that
    project (`x_i = y(mapping i).first − y(mapping i).second`) into the solution set of the constraints, and
    (←) for every point of that set a solution projecting onto it. -/
theorem tableau_setup_solutions (s : LPState) (hF : Fresh s) :
    (∀ s', ppcSetup s = .done s' → s'.status = .UNSATISFIABLE → ∀ x, ¬ csSem s.input_cs x) ∧
    (∀ s' b e, ppcSetup s = .phase1 s' b e → SetupGood s.input_cs s.external_space_dim s' b) ∧
    (∀ s', ppcSetup s = .done s' → s'.status ≠ .UNSATISFIABLE → SetupGood s.input_cs s.external_space_dim s' 0) := by
  cases hp : parseConstraints s with
  | none =>
    have hsetup : ppcSetup s = .done { s with status := .UNSATISFIABLE } := by
      unfold ppcSetup; rw [ppcRecompute_fresh hF]; simp only [hp]
    have hnn0 : (if s.mapping.length > 0 then
          revFold (min (s.mapping.length - 1) s.external_space_dim)
            (fun i (l : List Bool) => if (s.mapping.getD (i+1) (0, 0)).2 == 0 then l.set i true else l)
            (List.replicate s.external_space_dim false)
        else List.replicate s.external_space_dim false) = List.replicate s.external_space_dim false := by
      rw [hF.map0]; simp [revFold]
    have hpi := parse_spec s _ hnn0
    rw [hF.fp0, List.drop_zero, hp] at hpi
    obtain ⟨c, hc, hcl⟩ := hpi
    have hc' : c ∈ s.input_cs := by simpa using hc
    refine ⟨fun s' _ _ x hx => ?_, fun s' b e h => ?_, fun s' h hne => ?_⟩
    · rcases hcc : classify c with ⟨cls, v⟩
      rw [hcc] at hcl
      simp only at hcl
      subst hcl
      exact trivFalse_not_holds hcc x (hx c hc')
    · rw [hsetup] at h; cases h
    · rw [hsetup] at h
      simp only [Setup.done.injEq] at h
      subst h
      exact absurd rfl hne
  | some p =>
    obtain ⟨C, c1, c2, -, H1, H2, hnc, s0, hsetup, f1, -, -, f4, f5, f6, -⟩ := fresh_ctx s hF p hp
    obtain ⟨core1, core2⟩ := C.setup_core (zeros C.numCols) C.fin.base H1 H2
    -- zero region: from the first artificial column (or the sign column) on
    have hstart : ∀ b, b = (if (C.N - C.isSat.count true) > 0 then C.SL else 0) →
        artStart b C.numCols = C.SL := by
      intro b hb
      unfold artStart
      by_cases ha : (C.N - C.isSat.count true) > 0
      · rw [if_pos ha] at hb
        have : C.SL ≠ 0 := by unfold InsCtx.SL InsCtx.V; omega
        rw [hb, if_pos this]
      · rw [if_neg ha] at hb
        rw [hb, if_neg (by simp), hnc]; omega
    have good : ∀ s' b, s'.tableau = s0.tableau → s'.numCols = s0.numCols → s'.mapping = s0.mapping →
        artStart b C.numCols = C.SL → SetupGood s.input_cs s.external_space_dim s' b := by
      intro s' b g1 g2 g3 g4
      unfold SetupGood TabSol
      rw [g1, g2, g3, f1, f4, f5, g4, ← c1, ← c2]
      constructor
      · rintro y ⟨y1, y2, y3, y4⟩
        exact core1 y y1 y2 y3 y4
      · intro x hx
        obtain ⟨y, y1, y2, y3, y4, y5⟩ := core2 x hx
        exact ⟨y, ⟨y1, y2, fun j hj _ => y3 j hj, y4⟩, y5⟩
    rcases ppcTrivial_cases s0 (if (C.N - C.isSat.count true) > 0 then C.SL else 0) C.artOut.2.2.2
        (by rw [f6]; exact hF.npos) with ⟨hph, -⟩ | ⟨sd, hd, d1, d2, d3, d4, d5⟩
    · rw [hph] at hsetup
      refine ⟨(fun s' h _ => by rw [hsetup] at h; cases h), fun s' b e h => ?_, (fun s' h _ => by rw [hsetup] at h; cases h)⟩
      rw [hsetup] at h
      simp only [Setup.phase1.injEq] at h
      obtain ⟨rfl, rfl, rfl⟩ := h
      exact good _ _ rfl rfl rfl (hstart _ rfl)
    · rw [hd] at hsetup
      refine ⟨fun s' h hu => ?_, (fun s' b e h => by rw [hsetup] at h; cases h), fun s' h _ => ?_⟩
      · rw [hsetup] at h
        simp only [Setup.done.injEq] at h
        subst h
        exact absurd hu d5
      · rw [hsetup] at h
        simp only [Setup.done.injEq] at h
        subst h
        -- the tableau is empty: no row, hence no artificial column, and the zero region starts at the sign column
        have hN : C.N = 0 := by
          have : C.artOut.1.length = C.N := (C.T2_rows (zeros C.numCols) C.fin.base).1
          rw [← f1, d4] at this
          exact this.symm
        exact good _ 0 d1 d3 d2 (hstart 0 (by rw [hN, Nat.zero_sub, if_neg (Nat.lt_irrefl 0)]))

end PPLV.Solver.Pend

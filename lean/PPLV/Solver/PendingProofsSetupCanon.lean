import PPLV.Solver.PendingProofsArtificials

/-!
# the "already satisfied" flags of `parse_constraints`, and the first-phase cost row

* `parse_isSat`: a flag is set only on an inequality with several non-zero coefficients that holds at
  `last_generator`; for the origin this means inhomogeneous term ≥ 0;
* `dot_nonpos_terms`, `phase1_cost_sem`: the first-phase cost row (−1 on the artificial columns, 1 on the sign
  column) is ≤ 0 on non-negative valuations, and 0 exactly when every artificial is 0.
-/
namespace PPLV.Solver.Pend
open PPLV.Lin PPLV.Solver.Tab

theorem foldl_add_zeros (l : List Int) (h : ∀ x ∈ l, x = 0) (a : Int) : l.foldl (· + ·) a = a := by
  induction l generalizing a with
  | nil => rfl
  | cons x l ih =>
    rw [List.foldl_cons, h x List.mem_cons_self, Int.add_zero]
    exact ih (fun y hy => h y (List.mem_cons_of_mem _ hy)) a

/-- an inequality "satisfied" at the origin has inhomogeneous term ≥ 0 -/
theorem isSatisfied_origin (c : ICon) (he : c.isEq = false) (h : isSatisfied c ⟨[], 1⟩ = true) : 0 ≤ c.k := by
  unfold isSatisfied at h
  rw [he] at h
  simp only [Bool.false_eq_true, if_false, decide_eq_true_eq] at h
  unfold spSign at h
  simp only at h
  rw [foldl_add_zeros _ (by
    intro x hx
    obtain ⟨i, -, rfl⟩ := List.mem_map.mp hx
    simp)] at h
  rcases sgn_vals (c.k * 1) with ⟨a1, a2⟩ | ⟨a1, a2⟩ | ⟨a1, a2⟩
  · rw [a2] at h; omega
  · omega
  · omega

/-- **the flags of `parse_constraints`**: as many as pending constraints; each one marks an inequality that
    enters the tableau and is satisfied at `last_generator` -/
theorem parse_isSat (s : LPState) (p : Parsed) (h : parseConstraints s = some p) :
    p.isSat.length = (s.input_cs.drop s.first_pending).length ∧
    ∀ k, p.isSat.getD k false = true → k < (s.input_cs.drop s.first_pending).length ∧
      slackC ((s.input_cs.drop s.first_pending).getD k default) = true ∧
      ((s.input_cs.drop s.first_pending).getD k default).isEq = false ∧
      isSatisfied ((s.input_cs.drop s.first_pending).getD k default) s.last_generator = true := by
  have key : ParseOut (s.input_cs.drop s.first_pending) (fun _ a =>
      a.isSat.length = (s.input_cs.drop s.first_pending).length ∧
      ∀ k, a.isSat.getD k false = true → k < (s.input_cs.drop s.first_pending).length ∧
        slackC ((s.input_cs.drop s.first_pending).getD k default) = true ∧
        ((s.input_cs.drop s.first_pending).getD k default).isEq = false ∧
        isSatisfied ((s.input_cs.drop s.first_pending).getD k default) s.last_generator = true) 0
      (parseConstraints s) := by
    unfold parseConstraints
    simp only
    apply parse_walk
    · refine ⟨by simp, fun k hk => ?_⟩
      simp only at hk
      rw [getD_replicate_false] at hk; cases hk
    · intro i a cls v hi _ hcl hf ⟨h1, h2⟩ a' ha'
      obtain ⟨a'', ha'', -, -, -, -, -, -, -, g1, g2⟩ := parseStep_some s _ i a cls v hcl hf
      rw [ha'] at ha''
      cases ha''
      refine ⟨by rw [g1, h1], fun k hk => ?_⟩
      rcases g2 k hk with hk' | ⟨rfl, rfl, q2, q3⟩
      · exact h2 k hk'
      · refine ⟨hi, ?_, q2, q3⟩
        unfold slackC; rw [tabC_of hcl, q2]; rfl
  rw [h] at key
  exact key

/-! ### a sum of non-positive terms -/

theorem dot_nonpos_terms (c : List Int) (y : Val) (h : ∀ j, ((c.getD j 0 : Int) : Rat) * y j ≤ 0) :
    dot c y ≤ 0 ∧ (dot c y = 0 → ∀ j, ((c.getD j 0 : Int) : Rat) * y j = 0) := by
  induction c generalizing y with
  | nil => exact ⟨le_refl _, fun _ j => by simp⟩
  | cons a as ih =>
    have h0 := h 0
    simp only [List.getD_cons_zero] at h0
    obtain ⟨i1, i2⟩ := ih y.tail (fun j => by
      have := h (j + 1)
      simpa [Val.tail] using this)
    rw [dot_cons]
    refine ⟨by linarith, fun hz j => ?_⟩
    have ha : (a : Rat) * y 0 = 0 := by linarith
    have ht : dot as y.tail = 0 := by linarith
    cases j with
    | zero => simpa using ha
    | succ j =>
      have := i2 ht j
      simpa [Val.tail] using this

/-- the first-phase cost row before re-expression: −1 on `[SL, last)`, 1 on `last`, 0 elsewhere -/
def IsPhase1Cost (cost : Row) (SL : Nat) : Prop :=
  ∀ j, cost.getD j 0 = if j = cost.length - 1 then 1 else if SL ≤ j ∧ j < cost.length - 1 then -1 else 0

theorem phase1_cost_sem (cost : Row) (SL : Nat) (hc : IsPhase1Cost cost SL) (hSL : 1 ≤ SL)
    (y : Val) (hy : NonnegPt cost.length y) :
    objAt cost y ≤ 0 ∧
    (objAt cost y = 0 ↔ ∀ j, SL ≤ j → j < cost.length - 1 → y j = 0) := by
  have hlast : cost.get (cost.length - 1) = 1 := by
    unfold Row.get; rw [hc, if_pos rfl]
  have hobj : objAt cost y = dot cost y := by unfold objAt; rw [hlast]; simp
  have hterms : ∀ j, ((cost.getD j 0 : Int) : Rat) * y j ≤ 0 := by
    intro j
    rw [hc j]
    by_cases h1 : j = cost.length - 1
    · rw [if_pos h1, h1, hy.2.1]; simp
    · rw [if_neg h1]
      by_cases h2 : SL ≤ j ∧ j < cost.length - 1
      · rw [if_pos h2]
        have := hy.2.2 j (by omega) h2.2
        push_cast; linarith
      · rw [if_neg h2]; simp
  obtain ⟨d1, d2⟩ := dot_nonpos_terms cost y hterms
  rw [hobj]
  refine ⟨d1, fun hz j h1 h2 => ?_, fun hall => ?_⟩
  · have := d2 hz j
    rw [hc j, if_neg (by omega), if_pos ⟨h1, h2⟩] at this
    push_cast at this; linarith
  · apply dot_eq_zero_of_support
    intro j
    rw [hc j]
    by_cases h1 : j = cost.length - 1
    · right; rw [h1]; exact hy.2.1
    · rw [if_neg h1]
      by_cases h2 : SL ≤ j ∧ j < cost.length - 1
      · right; exact hall j h2.1 h2.2
      · left; rw [if_neg h2]

/-!
## the set-up of a fresh problem hands a canonical feasible tableau to the first phase

`setup_phase1_canon`: for a fresh problem whose `last_generator` is the origin (a problem never solved), the
tableau, `base` and first-phase cost row produced by the set-up are `Canon`; `end_artificials = numCols − 1`;
on the solutions, the cost row denotes `−Σ artificials`: it is ≤ 0 and 0 exactly when every artificial is 0.
-/
theorem reexpressCost_eq (T : List Row) (base : List Nat) (c : Row) : reexpressCost T base c = reexpress T base c := rfl

/-- what the first phase receives from the set-up of a fresh, never solved problem -/
structure Phase1Start (s' : LPState) (b e : Nat) : Prop where
  canon : Canon s'.tab
  len : s'.working_cost.length = s'.numCols
  eEnd : e = s'.numCols - 1
  start1 : 1 ≤ artStart b s'.numCols
  startLe : artStart b s'.numCols ≤ s'.numCols - 1
  bpos : b ≠ 0 → 1 ≤ b ∧ b < e
  cost : ∀ y, Sol s'.tableau y → NonnegPt s'.numCols y →
    objAt s'.working_cost y ≤ 0 ∧
    (objAt s'.working_cost y = 0 ↔ ∀ j, artStart b s'.numCols ≤ j → j < s'.numCols - 1 → y j = 0)

theorem setup_phase1_canon (s : LPState) (hF : Fresh s) (hlg : s.last_generator = ⟨[], 1⟩)
    (s' : LPState) (b e : Nat) (h : ppcSetup s = .phase1 s' b e) : Phase1Start s' b e := by
  -- the constraints parse (otherwise the set-up is `.done`)
  cases hp : parseConstraints s with
  | none =>
    exfalso
    have : ppcSetup s = .done { s with status := .UNSATISFIABLE } := by
      unfold ppcSetup; rw [ppcRecompute_fresh hF]; simp only [hp]
    rw [this] at h; cases h
  | some p =>
    obtain ⟨C, c1, c2, c3, H1, H2, hnc, s0, hs0, f1, f2, f3, f4, f5, f6, -⟩ := fresh_ctx s hF p hp
    -- flags
    obtain ⟨q1, q2⟩ := parse_isSat s p hp
    rw [hF.fp0, List.drop_zero] at q1 q2
    have hsat : C.SatOK := by
      intro i hi hflag
      rw [c3] at hflag
      obtain ⟨-, g2, g3, g4⟩ := q2 i hflag
      rw [hlg] at g4
      rw [c1]
      exact ⟨g2, isSatisfied_origin _ g3 g4⟩
    have hlenS : C.isSat.length = C.pend.length := by rw [c3, c1]; exact q1
    have hTB := C.setup_canonTB hsat hlenS hnc
    have art := C.artOut_spec hsat hlenS hnc
    -- which branch of ppcTrivial
    rcases ppcTrivial_cases s0 (if (C.N - C.isSat.count true) > 0 then C.SL else 0) C.artOut.2.2.2
        (by rw [f6]; exact hF.npos) with ⟨hph, -⟩ | ⟨sd, hd, -⟩
    swap
    · rw [hs0, hd] at h; cases h
    rw [hs0, hph] at h
    simp only [Setup.phase1.injEq] at h
    obtain ⟨rfl, rfl, rfl⟩ := h
    -- the cost row before re-expression
    have hSL1 : 1 ≤ C.SL := by unfold InsCtx.SL InsCtx.V; omega
    have hSLn : C.SL ≤ C.numCols - 1 := by rw [hnc]; omega
    set cost0 : Row := C.artOut.2.1.set (C.numCols - 1) 1 with hcost0
    have hc0len : cost0.length = C.numCols := by rw [hcost0, List.length_set]; exact art.lenC
    have hc0 : IsPhase1Cost cost0 C.SL := by
      intro j
      rw [hc0len, hcost0, getD_set, art.cost j]
      by_cases hj : j = C.numCols - 1
      · rw [if_pos ⟨hj, by rw [art.lenC]; omega⟩, if_pos hj]
      · rw [if_neg (fun a => hj a.1), if_neg hj]
    have hc0last : cost0.get (C.numCols - 1) ≠ 0 := by
      unfold Row.get; rw [hc0, hc0len, if_pos rfl]; decide
    obtain ⟨r1, r2, r3, r4⟩ := reexpress_spec hTB cost0 hc0len hc0last
    have hcanon : Canon s0.tab := by
      unfold LPState.tab
      rw [f1, f2, f3, reexpressCost_eq]
      exact hTB.toCanon _ r1 r2 r3
    have hstart : artStart (if (C.N - C.isSat.count true) > 0 then C.SL else 0) s0.numCols = C.SL := by
      unfold artStart
      rw [f4]
      by_cases ha : (C.N - C.isSat.count true) > 0
      · rw [if_pos ha, if_pos (by omega)]
      · rw [if_neg ha, if_neg (by simp)]; rw [hnc]; omega
    refine ⟨hcanon, by rw [f3, reexpressCost_eq, r1, f4], by rw [art.endA, f4], by rw [hstart]; exact hSL1,
      by rw [hstart, f4]; exact hSLn, fun hb => ?_, fun y hy hn => ?_⟩
    · by_cases ha : (C.N - C.isSat.count true) > 0
      · rw [if_pos ha, art.endA]; exact ⟨hSL1, by rw [hnc]; omega⟩
      · rw [if_neg ha] at hb; exact absurd rfl hb
    · rw [hstart, f3, reexpressCost_eq, f4]
      rw [f1] at hy
      rw [f4] at hn
      rw [r4 y hy]
      have := phase1_cost_sem cost0 C.SL hc0 hSL1 y (by rw [hc0len]; exact hn)
      rw [hc0len] at this
      exact this

end PPLV.Solver.Pend

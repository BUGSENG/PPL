import PPLV.Solver.PendingProofsCand

/-!
# a pivot keeps the tableau canonical, feasible and the objective unchanged

`Canon t`: the invariant of the simplex loop of `MIP_Problem` — every row has a basic column (non-zero
in its own row, zero in every other row and in the cost row), the sign column is zero in the rows and
non-zero in the cost row, the basic solution is non-negative.

* `pivot_canon`: a pivot on a candidate column and the row chosen by `get_exiting_base_index`
  preserves `Canon`;
* `pivot_objAt`: the objective denoted by the cost row is the same function on the solution set.
-/
namespace PPLV.Solver.Pend
open PPLV.Lin PPLV.Solver.Tab

structure Canon (t : Tab) : Prop where
  lenB : t.base.length = t.T.length
  len2 : 2 ≤ t.cost.length
  rowLen : ∀ i, i < t.T.length → (t.T.getD i []).length = t.cost.length
  baseRange : ∀ i, i < t.T.length → 1 ≤ t.base.getD i 0 ∧ t.base.getD i 0 < t.cost.length - 1
  basicNZ : ∀ i, i < t.T.length → (t.T.getD i []).get (t.base.getD i 0) ≠ 0
  basicCol : ∀ i j, i < t.T.length → j < t.T.length → i ≠ j → (t.T.getD j []).get (t.base.getD i 0) = 0
  costBasic : ∀ i, i < t.T.length → t.cost.get (t.base.getD i 0) = 0
  lastZero : ∀ i, i < t.T.length → (t.T.getD i []).get (t.cost.length - 1) = 0
  signNZ : t.cost.get (t.cost.length - 1) ≠ 0
  feas : ∀ i, i < t.T.length →
    0 ≤ -(((t.T.getD i []).get 0 : Int) : Rat) / (((t.T.getD i []).get (t.base.getD i 0) : Int) : Rat)

/-- the objective a cost row denotes (for valuations with `x 0 = 1` and `x last = 0`) -/
def objAt (cost : Row) (x : Val) : Rat := dot cost x / ((cost.get (cost.length - 1) : Int) : Rat)

/-- the objective value at the basic solution -/
def basicObj (cost : Row) : Rat := ((cost.get 0 : Int) : Rat) / ((cost.get (cost.length - 1) : Int) : Rat)

theorem sgn_ne_zero {a : Int} (h : a ≠ 0) : sgn a ≠ 0 := by
  unfold sgn; split <;> omega

theorem sgn_eq_zero_iff (a : Int) : sgn a = 0 ↔ a = 0 := by
  unfold sgn; split <;> (try split) <;> omega

theorem Canon.base_inj {t : Tab} (h : Canon t) {i k : Nat} (hi : i < t.T.length) (hk : k < t.T.length)
    (he : t.base.getD i 0 = t.base.getD k 0) : i = k := by
  by_contra hne
  have := h.basicCol i k hi hk hne
  rw [he] at this
  exact h.basicNZ k hk this

theorem candidate_facts {t : Tab} (h : Canon t) {e : Nat} (hc : isCandidate t.cost e = true) :
    1 ≤ e ∧ e < t.cost.length - 1 ∧ t.cost.get e ≠ 0 ∧ ∀ i, i < t.T.length → t.base.getD i 0 ≠ e := by
  obtain ⟨h1, h2, h3⟩ := (isCandidate_iff _ _).mp hc
  have hne : t.cost.get e ≠ 0 := by
    intro h0
    rw [h0] at h3
    have : sgn (t.cost.get (t.cost.length - 1)) = 0 := by rw [← h3]; rfl
    exact h.signNZ ((sgn_eq_zero_iff _).mp this)
  exact ⟨h1, h2, hne, fun i hi hb => hne (hb ▸ h.costBasic i hi)⟩

theorem eligible_facts {T : List Row} {base : List Nat} {e i : Nat} (h : eligible T base e i = true) :
    (T.getD i []).get e ≠ 0 ∧ sgn ((T.getD i []).get e) = sgn ((T.getD i []).get (base.getD i 0)) := by
  refine ⟨eligible_ne T base e i h, ?_⟩
  unfold eligible at h
  simp only [Bool.and_eq_true, bne_iff_ne, beq_iff_eq] at h
  exact h.2

theorem pivot_base_getD (t : Tab) (e r i : Nat) (hr : r < t.base.length) :
    (pivot t e r).base.getD i 0 = if i = r then e else t.base.getD i 0 := by
  unfold pivot pivotBase; exact getD_set_of_lt _ _ _ _ hr

theorem pivot_T_length (t : Tab) (e r : Nat) : (pivot t e r).T.length = t.T.length := by
  unfold pivot; exact pivotRows_length _ _ _

/-! ### arithmetic of one pivot -/

theorem nonneg_of_same_sign (r0 re rb : Int) (hre : re ≠ 0) (hs : sgn re = sgn rb)
    (hv : 0 ≤ -(r0 : Rat) / (rb : Rat)) : 0 ≤ -(r0 : Rat) / (re : Rat) := by
  rcases (sgn_eq_iff re rb hre).mp hs with ⟨h1, h2⟩ | ⟨h1, h2⟩
  · have h2q : (0 : Rat) < (rb : Rat) := by exact_mod_cast h2
    have h1q : (0 : Rat) < (re : Rat) := by exact_mod_cast h1
    have : 0 ≤ -(r0 : Rat) := by
      have := mul_nonneg hv (le_of_lt h2q)
      rwa [div_mul_cancel₀ _ (ne_of_gt h2q)] at this
    exact div_nonneg this (le_of_lt h1q)
  · have h2q : (rb : Rat) < 0 := by exact_mod_cast h2
    have h1q : (re : Rat) < 0 := by exact_mod_cast h1
    have : -(r0 : Rat) ≤ 0 := by
      have := mul_nonpos_of_nonneg_of_nonpos hv (le_of_lt h2q)
      rwa [div_mul_cancel₀ _ (ne_of_lt h2q)] at this
    exact div_nonneg_of_nonpos this (le_of_lt h1q)

theorem ratio_eq_of_nonneg (r0 re : Int) (hv : 0 ≤ -(r0 : Rat) / (re : Rat)) :
    ((r0.natAbs : Nat) : Rat) / ((re.natAbs : Nat) : Rat) = -(r0 : Rat) / (re : Rat) := by
  rw [Nat.cast_natAbs, Nat.cast_natAbs]
  push_cast
  rw [← abs_neg (r0 : Rat), ← abs_div, abs_of_nonneg hv]

theorem feas_after (a0 ae ab r0 re n0 nb d g nx ny : Int) (hd : 0 < d) (hg : g ≠ 0)
    (hx : g * nx = ae) (hy : g * ny = re) (hny : ny ≠ 0) (hab : ab ≠ 0)
    (h0 : d * n0 = -ny * a0 + nx * r0) (hb : d * nb = -ny * ab) :
    -(n0 : Rat) / (nb : Rat) = (-(a0 : Rat) - (ae : Rat) * (-(r0 : Rat) / (re : Rat))) / (ab : Rat) := by
  have h0q : (d : Rat) * n0 = -(ny : Rat) * a0 + nx * r0 := by exact_mod_cast h0
  have hbq : (d : Rat) * nb = -(ny : Rat) * ab := by exact_mod_cast hb
  have hxq : (g : Rat) * nx = ae := by exact_mod_cast hx
  have hyq : (g : Rat) * ny = re := by exact_mod_cast hy
  have hdq : (d : Rat) ≠ 0 := by exact_mod_cast (ne_of_gt hd)
  have hgq : (g : Rat) ≠ 0 := by exact_mod_cast hg
  have hnyq : (ny : Rat) ≠ 0 := by exact_mod_cast hny
  have habq : (ab : Rat) ≠ 0 := by exact_mod_cast hab
  have hn0 : (n0 : Rat) = (-(ny : Rat) * a0 + nx * r0) / d := by rw [← h0q]; field_simp
  have hnb : (nb : Rat) = (-(ny : Rat) * ab) / d := by rw [← hbq]; field_simp
  rw [hn0, hnb, ← hxq, ← hyq]
  field_simp
  ring

/-! ### `pivot` preserves `Canon` -/

section PivotStep
variable {t : Tab} {e r : Nat}

/-- the rows of the new tableau -/
theorem pivot_row (t : Tab) (e r i : Nat) (hi : i < t.T.length) :
    (pivot t e r).T.getD i [] =
      if i != r && (t.T.getD i []).get e != 0 then linearCombine (t.T.getD i []) (t.T.getD r []) e
      else t.T.getD i [] := by
  unfold pivot; exact pivotRows_getD _ _ _ _ hi

theorem pivot_row_self (t : Tab) (e r : Nat) (hr : r < t.T.length) :
    (pivot t e r).T.getD r [] = t.T.getD r [] := by
  rw [pivot_row t e r r hr]; simp

theorem pivot_cost (t : Tab) (e r : Nat) (he : t.cost.get e ≠ 0) :
    (pivot t e r).cost = linearCombine t.cost (t.T.getD r []) e := by
  unfold pivot pivotCost
  simp [he]

/-- a column where both the row and the pivot row vanish stays zero; in general a positive multiple
    of the new entry is the integer combination -/
theorem pivot_row_entry (t : Tab) (e r i : Nat) (hi : i < t.T.length) (hir : i ≠ r)
    (hie : (t.T.getD i []).get e ≠ 0) :
    ∃ d : Int, 0 < d ∧ ∀ j, d * ((pivot t e r).T.getD i []).get j =
      -(lcNy (t.T.getD i []) (t.T.getD r []) e) * (t.T.getD i []).get j +
        lcNx (t.T.getD i []) (t.T.getD r []) e * (t.T.getD r []).get j := by
  have hc : (i != r && (t.T.getD i []).get e != 0) = true := by
    rw [Bool.and_eq_true]; exact ⟨bne_iff_ne.mpr hir, bne_iff_ne.mpr hie⟩
  rw [pivot_row t e r i hi, if_pos hc]
  obtain ⟨d, hd, h1, -, -⟩ := linearCombine_spec (t.T.getD i []) (t.T.getD r []) e
  exact ⟨d, hd, h1⟩

theorem pivot_canon (hC : Canon t) (hc : isCandidate t.cost e = true)
    (hr : exitingIndex t.T t.base e = some r) : Canon (pivot t e r) ∧ (pivot t e r).cost.length = t.cost.length := by
  obtain ⟨he1, he2, hce, hnb⟩ := candidate_facts hC hc
  obtain ⟨hrl, hel, hmin⟩ := exitingIndex_some t.T t.base e r hr
  obtain ⟨hre, hrs⟩ := eligible_facts hel
  have hrb : r < t.base.length := by rw [hC.lenB]; exact hrl
  -- the new cost row
  have hcost := pivot_cost t e r hce
  obtain ⟨dc, hdc, hc1, -, hc3⟩ := linearCombine_spec t.cost (t.T.getD r []) e
  obtain ⟨gc, hgc, -, hgy, hnyc⟩ := lcN_spec t.cost (t.T.getD r []) e hre
  have hlen : (pivot t e r).cost.length = t.cost.length := by
    rw [hcost, hc3, hC.rowLen r hrl]; simp
  refine ⟨?_, hlen⟩
  have hTl := pivot_T_length t e r
  -- entries of a combined row at a column where the pivot row vanishes
  have zero_of (i : Nat) (hi : i < t.T.length) (j : Nat) (h1 : (t.T.getD i []).get j = 0)
      (h2 : (t.T.getD r []).get j = 0) : ((pivot t e r).T.getD i []).get j = 0 := by
    by_cases hir : i = r
    · rw [hir, pivot_row_self t e r hrl]; rw [hir] at h1; exact h1
    · by_cases hie : (t.T.getD i []).get e = 0
      · have hcnd : (i != r && (t.T.getD i []).get e != 0) = false := by rw [hie]; simp
        rw [pivot_row t e r i hi, hcnd]; exact h1
      · obtain ⟨d, hd, hent⟩ := pivot_row_entry t e r i hi hir hie
        have := hent j
        rw [h1, h2, mul_zero, mul_zero, add_zero] at this
        rcases Int.mul_eq_zero.mp this with h | h
        · omega
        · exact h
  constructor
  · -- lenB
    rw [hTl]; unfold pivot pivotBase; simp [hC.lenB]
  · rw [hlen]; exact hC.len2
  · -- rowLen
    intro i hi
    rw [hTl] at hi
    rw [hlen, pivot_row t e r i hi]
    split
    · obtain ⟨-, -, -, -, h3⟩ := linearCombine_spec (t.T.getD i []) (t.T.getD r []) e
      rw [h3, hC.rowLen i hi, hC.rowLen r hrl]; simp
    · exact hC.rowLen i hi
  · -- baseRange
    intro i hi
    rw [hTl] at hi
    rw [hlen, pivot_base_getD t e r i hrb]
    split
    · exact ⟨he1, he2⟩
    · exact hC.baseRange i hi
  · -- basicNZ
    intro i hi
    rw [hTl] at hi
    rw [pivot_base_getD t e r i hrb]
    by_cases hir : i = r
    · rw [if_pos hir, hir, pivot_row_self t e r hrl]; exact hre
    · rw [if_neg hir]
      by_cases hie : (t.T.getD i []).get e = 0
      · have hcnd : (i != r && (t.T.getD i []).get e != 0) = false := by rw [hie]; simp
        rw [pivot_row t e r i hi, hcnd]; exact hC.basicNZ i hi
      · obtain ⟨d, hd, hent⟩ := pivot_row_entry t e r i hi hir hie
        obtain ⟨g, hg, -, -, hny⟩ := lcN_spec (t.T.getD i []) (t.T.getD r []) e hre
        have := hent (t.base.getD i 0)
        rw [hC.basicCol i r hi hrl hir, mul_zero, add_zero] at this
        intro h0
        rw [h0, mul_zero] at this
        rcases Int.mul_eq_zero.mp this.symm with h | h
        · exact hny (by omega)
        · exact hC.basicNZ i hi h
  · -- basicCol
    intro i j hi hj hij
    rw [hTl] at hi hj
    rw [pivot_base_getD t e r i hrb]
    by_cases hir : i = r
    · rw [if_pos hir]
      have hjr : j ≠ r := fun h => hij (hir.trans h.symm)
      unfold pivot; exact pivotRows_column t.T e r j hj hjr
    · rw [if_neg hir]
      by_cases hjr : j = r
      · rw [hjr, pivot_row_self t e r hrl]; exact hC.basicCol i r hi hrl hir
      · exact zero_of j hj _ (hC.basicCol i j hi hj hij) (hC.basicCol i r hi hrl hir)
  · -- costBasic
    intro i hi
    rw [hTl] at hi
    rw [pivot_base_getD t e r i hrb, hcost]
    by_cases hir : i = r
    · rw [if_pos hir]; exact linearCombine_get _ _ _
    · rw [if_neg hir]
      have := hc1 (t.base.getD i 0)
      rw [hC.costBasic i hi, hC.basicCol i r hi hrl hir, mul_zero, mul_zero, add_zero] at this
      rcases Int.mul_eq_zero.mp this with h | h
      · omega
      · exact h
  · -- lastZero
    intro i hi
    rw [hTl] at hi
    rw [hlen]
    exact zero_of i hi _ (hC.lastZero i hi) (hC.lastZero r hrl)
  · -- signNZ
    rw [hlen, hcost]
    have := hc1 (t.cost.length - 1)
    rw [hC.lastZero r hrl, mul_zero, add_zero] at this
    intro h0
    rw [h0, mul_zero] at this
    rcases Int.mul_eq_zero.mp this.symm with h | h
    · exact hnyc (by omega)
    · exact hC.signNZ h
  · -- feasibility of the new basic solution
    intro i hi
    rw [hTl] at hi
    rw [pivot_base_getD t e r i hrb]
    have hvr := hC.feas r hrl
    have hθ := nonneg_of_same_sign _ _ _ hre hrs hvr
    by_cases hir : i = r
    · rw [if_pos hir, hir, pivot_row_self t e r hrl]; exact hθ
    · rw [if_neg hir]
      by_cases hie : (t.T.getD i []).get e = 0
      · have hcnd : (i != r && (t.T.getD i []).get e != 0) = false := by rw [hie]; simp
        rw [pivot_row t e r i hi, hcnd]; exact hC.feas i hi
      · obtain ⟨d, hd, hent⟩ := pivot_row_entry t e r i hi hir hie
        obtain ⟨g, hg, hgx, hgy', hny⟩ := lcN_spec (t.T.getD i []) (t.T.getD r []) e hre
        have h0 := hent 0
        have hb := hent (t.base.getD i 0)
        rw [hC.basicCol i r hi hrl hir, mul_zero, add_zero] at hb
        rw [feas_after _ _ _ _ _ _ _ d g _ _ hd hg hgx hgy' hny (hC.basicNZ i hi) h0 hb]
        apply ratio_step_nonneg _ _ _ _ (hC.basicNZ i hi) hθ (hC.feas i hi)
        rintro ⟨ha, hs⟩
        have heli : eligible t.T t.base e i = true := by
          unfold eligible
          simp only [Bool.and_eq_true, bne_iff_ne, beq_iff_eq]
          exact ⟨sgn_ne_zero ha, hs⟩
        have hle : ratio t.T e r ≤ ratio t.T e i := by
          rcases hmin i hi heli with h | ⟨h, -⟩
          · exact le_of_lt h
          · exact le_of_eq h
        unfold ratio at hle
        rw [ratio_eq_of_nonneg _ _ hθ] at hle
        exact hle

/-- the objective denoted by the cost row does not change on the solution set -/
theorem pivot_objAt (hC : Canon t) (hc : isCandidate t.cost e = true)
    (hr : exitingIndex t.T t.base e = some r) (x : Val) (hx : Sol t.T x) :
    objAt (pivot t e r).cost x = objAt t.cost x := by
  obtain ⟨he1, he2, hce, hnb⟩ := candidate_facts hC hc
  obtain ⟨hrl, hel, -⟩ := exitingIndex_some t.T t.base e r hr
  obtain ⟨hre, -⟩ := eligible_facts hel
  have hcost := pivot_cost t e r hce
  obtain ⟨dc, hdc, hc1, hc2, hc3⟩ := linearCombine_spec t.cost (t.T.getD r []) e
  obtain ⟨gc, hgc, -, hgy, hnyc⟩ := lcN_spec t.cost (t.T.getD r []) e hre
  have hlen : (pivot t e r).cost.length = t.cost.length := by
    rw [hcost, hc3, hC.rowLen r hrl]; simp
  unfold objAt
  rw [hlen, hcost]
  have h1 := hc1 (t.cost.length - 1)
  rw [hC.lastZero r hrl, mul_zero, add_zero] at h1
  have h2 := hc2 x
  have hrx : dot (t.T.getD r []) x = 0 := hx r hrl
  rw [hrx, mul_zero, add_zero] at h2
  have h1q : (dc : Rat) * ((linearCombine t.cost (t.T.getD r []) e).get (t.cost.length - 1) : Int) =
      -((lcNy t.cost (t.T.getD r []) e : Int) : Rat) * ((t.cost.get (t.cost.length - 1) : Int) : Rat) := by
    exact_mod_cast h1
  have hdq : (dc : Rat) ≠ 0 := by exact_mod_cast (ne_of_gt hdc)
  have hnq : ((lcNy t.cost (t.T.getD r []) e : Int) : Rat) ≠ 0 := by exact_mod_cast hnyc
  have hsq : ((t.cost.get (t.cost.length - 1) : Int) : Rat) ≠ 0 := by exact_mod_cast hC.signNZ
  have e1 : dot (linearCombine t.cost (t.T.getD r []) e) x =
      -((lcNy t.cost (t.T.getD r []) e : Int) : Rat) * dot t.cost x / dc := by
    rw [← h2]; field_simp
  have e2 : (((linearCombine t.cost (t.T.getD r []) e).get (t.cost.length - 1) : Int) : Rat) =
      -((lcNy t.cost (t.T.getD r []) e : Int) : Rat) * ((t.cost.get (t.cost.length - 1) : Int) : Rat) / dc := by
    rw [← h1q]; field_simp
  rw [e1, e2]
  field_simp

end PivotStep

end PPLV.Solver.Pend

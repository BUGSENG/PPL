import PPLV.Solver.PIPCoreProofsDefs
import PPLV.Solver.PIPCoreProofsPivot14
import PPLV.Solver.PIPCoreProofsLex6
import Mathlib.Algebra.Order.Field.Rat
import Mathlib.Tactic.FieldSimp
import Mathlib.Tactic.Linarith
import Mathlib.Tactic.Ring
/-!
# node family: the exit "solution found" of `PIP_Solution_Node::solve`
(PIP_Tree.cc:3380-3415)

`final_node_correct`: a well-formed node with lexico-positive columns whose cached signs (read weakly,
`SignAt`) are all `POSITIVE`/`ZERO`, whose basic solution is integral on the problem variables
(`solutionIntegral`) and which has the integrality invariant `IntInv`, describes at `q` the point
`nd.point q`, and that point is the lexicographic minimum of the feasible valuations.
-/
namespace PPLV.PIPCore

attribute [local irreducible] LexPos
namespace Node

/-! ### `dotQ`, `dot` against a zero / integral vector -/

theorem dotQ_nil_left (y : List ℚ) : dotQ [] y = 0 := by cases y <;> rfl
theorem dotQ_nil_right (r : List Int) : dotQ r [] = 0 := by cases r <;> rfl
theorem dotQ_cons (a : Int) (r : List Int) (x : ℚ) (y : List ℚ) :
    dotQ (a :: r) (x :: y) = (a : ℚ) * x + dotQ r y := rfl

theorem dotQ_zero : ∀ (r : List Int) (ys : List ℚ), (∀ y ∈ ys, y = 0) → dotQ r ys = 0
  | [], ys, _ => dotQ_nil_left ys
  | a :: r, [], _ => dotQ_nil_right _
  | a :: r, y :: ys, h => by
    rw [dotQ_cons, h y (by simp), dotQ_zero r ys (fun z hz => h z (by simp [hz]))]; simp

theorem isIntQ_add {x y : ℚ} (hx : IsIntQ x) (hy : IsIntQ y) : IsIntQ (x + y) := by
  obtain ⟨a, rfl⟩ := hx; obtain ⟨b, rfl⟩ := hy; exact ⟨a + b, by push_cast; rfl⟩

theorem isIntQ_mul {x y : ℚ} (hx : IsIntQ x) (hy : IsIntQ y) : IsIntQ (x * y) := by
  obtain ⟨a, rfl⟩ := hx; obtain ⟨b, rfl⟩ := hy; exact ⟨a * b, by push_cast; rfl⟩

theorem isIntQ_int (a : Int) : IsIntQ (a : ℚ) := ⟨a, rfl⟩
theorem isIntQ_zero : IsIntQ 0 := ⟨0, by simp⟩

theorem isIntQ_dotQ : ∀ (r : List Int) (ys : List ℚ), (∀ y ∈ ys, IsIntQ y) → IsIntQ (dotQ r ys)
  | [], ys, _ => by rw [dotQ_nil_left]; exact isIntQ_zero
  | a :: r, [], _ => by rw [dotQ_nil_right]; exact isIntQ_zero
  | a :: r, y :: ys, h => by
    rw [dotQ_cons]
    exact isIntQ_add (isIntQ_mul (isIntQ_int a) (h y (by simp)))
      (isIntQ_dotQ r ys (fun z hz => h z (by simp [hz])))

theorem varColumn_mem {nd : SolNode} (hwf : WF nd) {x : Nat} (h : x ∈ nd.varColumn) :
    x < nd.mapping.length ∧ boolGet nd.basis x = true := by
  obtain ⟨j, hj, rfl⟩ := mem_natGet h
  have := hwf.vc_ok j (by rw [← hwf.vc_len]; exact hj)
  exact ⟨this.1, this.2.1⟩

/-! ### the basic point -/

/-- the value of the parametric row `i` at `q` -/
def D (nd : SolNode) (q : List Int) (i : Nat) : Int := dot (mrow nd.tab.t i) q

/-- the rational basic point -/
def bQ (nd : SolNode) (q : List Int) (k : Nat) : ℚ :=
  if boolGet nd.basis k then 0 else (D nd q (natGet nd.mapping k) : ℚ) / (nd.tab.den : ℚ)

/-- the integer basic point (`update_solution`) -/
def bZ (nd : SolNode) (q : List Int) (k : Nat) : Int :=
  if boolGet nd.basis k then 0 else D nd q (natGet nd.mapping k) / nd.tab.den

theorem point_eq (nd : SolNode) (q : List Int) : nd.point q = (List.range nd.tab.ns).map (bZ nd q) := rfl

theorem tabSatQ_basic {nd : SolNode} (hwf : WF nd) (q : List Int) : TabSatQ nd (bQ nd q) q := by
  intro i hi
  unfold RowHoldsQ
  obtain ⟨_, hb, hm⟩ := hwf.vr_ok i hi
  have hden : (nd.tab.den : ℚ) ≠ 0 := by exact_mod_cast (ne_of_gt hwf.den_pos)
  have h0 : dotQ (mrow nd.tab.s i) (nd.varColumn.map (bQ nd q)) = 0 := by
    apply dotQ_zero
    intro y hy
    obtain ⟨x, hx, rfl⟩ := List.mem_map.1 hy
    unfold bQ
    rw [(varColumn_mem hwf hx).2]; rfl
  rw [h0]
  unfold bQ
  rw [hb, hm]
  simp only [Bool.false_eq_true, if_false, D]
  field_simp
  ring

/-- `solutionIntegral`: the basic point is integral on the problem variables -/
theorem bQ_int_of_solutionIntegral {nd : SolNode} (hwf : WF nd) (q : List Int)
    (hsi : solutionIntegral nd = true) : ∀ k, k < nd.tab.ns → IsIntQ (bQ nd q k) := by
  intro k hk
  unfold solutionIntegral at hsi
  rw [List.all_eq_true] at hsi
  have := hsi k (List.mem_range.2 hk)
  rw [Bool.or_eq_true] at this
  unfold bQ
  rcases this with h | h
  · rw [h]; exact isIntQ_zero
  · cases hb : boolGet nd.basis k with
    | true => exact isIntQ_zero
    | false =>
      simp only [Bool.false_eq_true, if_false]
      rw [List.all_eq_true] at h
      have hdvd : nd.tab.den ∣ D nd q (natGet nd.mapping k) := by
        apply dvd_dot
        intro a ha
        have := h a ha
        simp only [decide_eq_true_eq] at this
        exact Int.dvd_of_emod_eq_zero this
      obtain ⟨z, hz⟩ := hdvd
      have hden : (nd.tab.den : ℚ) ≠ 0 := by exact_mod_cast (ne_of_gt hwf.den_pos)
      refine ⟨z, ?_⟩
      rw [hz]; push_cast; field_simp

/-- an integral basic point means: `den` divides the value of every parametric row -/
theorem den_dvd_of_int {nd : SolNode} (hwf : WF nd) (q : List Int)
    (hint : ∀ k, k < nd.mapping.length → IsIntQ (bQ nd q k)) :
    ∀ i, i < nd.tab.s.length → nd.tab.den ∣ D nd q i := by
  intro i hi
  obtain ⟨hlt, hb, hm⟩ := hwf.vr_ok i hi
  obtain ⟨z, hz⟩ := hint _ hlt
  unfold bQ at hz
  rw [hb, hm] at hz
  simp only [Bool.false_eq_true, if_false] at hz
  have hden : (nd.tab.den : ℚ) ≠ 0 := by exact_mod_cast (ne_of_gt hwf.den_pos)
  rw [div_eq_iff hden] at hz
  refine ⟨z, ?_⟩
  have : ((D nd q i : Int) : ℚ) = ((nd.tab.den * z : Int) : ℚ) := by rw [hz]; push_cast; ring
  exact_mod_cast this

theorem isBasic_bZ {nd : SolNode} (hwf : WF nd) (q : List Int)
    (hdvd : ∀ i, i < nd.tab.s.length → nd.tab.den ∣ D nd q i) : IsBasic nd (bZ nd q) q := by
  intro k hk
  refine ⟨fun hb => by unfold bZ; rw [hb]; rfl, fun hb => ?_⟩
  unfold bZ
  rw [hb]
  simp only [Bool.false_eq_true, if_false]
  exact Int.mul_ediv_cancel' (hdvd _ ((hwf.map_ok k hk).2 hb).1)

theorem feasible_bZ {nd : SolNode} (hwf : WF nd) (q : List Int)
    (hdvd : ∀ i, i < nd.tab.s.length → nd.tab.den ∣ D nd q i)
    (hnn : ∀ i, i < nd.tab.s.length → 0 ≤ D nd q i) : Feasible nd (bZ nd q) q := by
  refine ⟨fun i hi => ?_, fun k hk => ?_⟩
  · unfold RowHolds
    obtain ⟨_, hb, hm⟩ := hwf.vr_ok i hi
    have h0 : dot (mrow nd.tab.s i) (nd.varColumn.map (bZ nd q)) = 0 := by
      apply dot_zero_right
      intro y hy
      obtain ⟨x, hx, rfl⟩ := List.mem_map.1 hy
      unfold bZ
      rw [(varColumn_mem hwf hx).2]; rfl
    rw [h0]
    unfold bZ
    rw [hb, hm]
    simp only [Bool.false_eq_true, if_false, Int.zero_add]
    exact Int.mul_ediv_cancel' (hdvd i hi)
  · unfold bZ
    cases hb : boolGet nd.basis k with
    | true => exact Int.le_refl 0
    | false =>
      simp only [Bool.false_eq_true, if_false]
      exact Int.ediv_nonneg (hnn _ ((hwf.map_ok k hk).2 hb).1) (Int.le_of_lt hwf.den_pos)

end Node

open Node in
/-- **the exit "solution found"** (PIP_Tree.cc:3380-3415): the point `update_solution` computes is feasible
    and lexicographically minimal.  The cached signs are only assumed in their weak reading (`SignAt`):
    integrality of the basic point (on the problem variables by `solutionIntegral`, on the slack variables by
    `IntInv`) turns `POSITIVE`/`ZERO` read weakly into `t_i(q) ≥ 0`. -/
theorem final_node_correct {nd : SolNode} {q : List Int} (hwf : WF nd) (hlp : LexPos nd)
    (hq : ParamVec nd.tab.nt q) (hsign : SignAt nd q)
    (hpz : ∀ k, k < nd.tab.t.length → signGet nd.sign k = .positive ∨ signGet nd.sign k = .zero)
    (hsi : solutionIntegral nd = true) (hint : IntInv nd q) : IsLexMin nd q (nd.point q) := by
  have hall := hint (bQ nd q) (tabSatQ_basic hwf q) (bQ_int_of_solutionIntegral hwf q hsi)
  have hdvd := den_dvd_of_int hwf q hall
  have hnn : ∀ i, i < nd.tab.s.length → 0 ≤ D nd q i := by
    intro i hi
    have hw := hsign i
    have hex := signWeak_exact_of_dvd hwf.den_pos (hdvd i hi) hw
    rcases hpz i (by rw [← hwf.rows_eq]; exact hi) with h | h
    · exact hex.1 h
    · rw [hex.2.1 h]
  refine ⟨bZ nd q, feasible_bZ hwf q hdvd hnn, point_eq nd q, fun w hw => ?_⟩
  exact lex_basic_min_prefix nd w (bZ nd q) q nd.tab.ns hwf hlp hq.1 hw (isBasic_bZ hwf q hdvd)
    (by rw [hwf.map_len]; omega)

open Node in
/-- **a fresh root has the integrality invariant**: `den = 1` and the column variables are exactly the
    problem variables, so every row variable is an integer combination of them and of the parameters -/
theorem root_intinv {nd : SolNode} {q : List Int} (hwf : WF nd) (hden : nd.tab.den = 1)
    (hroot : ∀ k, k < nd.tab.ns → boolGet nd.basis k = true ∧ natGet nd.mapping k = k) : IntInv nd q := by
  intro v hsat hv k hk
  have hvc : ∀ j, j < nd.tab.ns → natGet nd.varColumn j = j := by
    intro j hj
    obtain ⟨hb, hm⟩ := hroot j hj
    have := ((hwf.map_ok j (by rw [hwf.map_len]; omega)).1 hb).2
    rw [hm] at this; exact this
  cases hb : boolGet nd.basis k with
  | true =>
    obtain ⟨hm, hvck⟩ := (hwf.map_ok k hk).1 hb
    rw [hvc _ hm] at hvck
    exact hv k (by rw [← hvck]; exact hm)
  | false =>
    obtain ⟨hm, hvr⟩ := (hwf.map_ok k hk).2 hb
    have hrow := hsat _ hm
    unfold RowHoldsQ at hrow
    rw [hvr, hden] at hrow
    have hcols : ∀ y ∈ nd.varColumn.map v, IsIntQ y := by
      intro y hy
      obtain ⟨x, hx, rfl⟩ := List.mem_map.1 hy
      obtain ⟨j, hj, rfl⟩ := mem_natGet hx
      rw [hwf.vc_len] at hj
      rw [hvc j hj]; exact hv j hj
    have : v k = dotQ (mrow nd.tab.s (natGet nd.mapping k)) (nd.varColumn.map v)
        + ((dot (mrow nd.tab.t (natGet nd.mapping k)) q : Int) : ℚ) := by
      rw [← hrow]; push_cast; ring
    rw [this]
    exact isIntQ_add (isIntQ_dotQ _ _ hcols) (isIntQ_int _)

end PPLV.PIPCore

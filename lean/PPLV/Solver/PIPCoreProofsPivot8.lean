import PPLV.Solver.PIPCoreProofsPivot7
/-!
# pivot proofs: `pivot` keeps the node well-formed; a concrete instance
-/
namespace PPLV.PIPCore.Piv

/-! ### "Update basis" keeps the bookkeeping consistent -/

theorem swapBasis_wf {nd : SolNode} (h : WF nd) {pi pj : Nat} (hpi : pi < nd.tab.s.length)
    (hpj : pj < nd.tab.ns) : WF (swapBasis nd pi pj) := by
  obtain ⟨ha1, ha2, ha3⟩ := h.vr_ok pi hpi
  obtain ⟨hb1, hb2, hb3⟩ := h.vc_ok pj hpj
  obtain ⟨a, hA⟩ : ∃ a, natGet nd.varRow pi = a := ⟨_, rfl⟩
  obtain ⟨b, hB⟩ : ∃ b, natGet nd.varColumn pj = b := ⟨_, rfl⟩
  rw [hA] at ha1 ha2 ha3
  rw [hB] at hb1 hb2 hb3
  have hab : a ≠ b := by
    rintro rfl; rw [ha2] at hb2; cases hb2
  have hpi' : pi < nd.varRow.length := by rw [h.vr_len]; exact hpi
  have hpj' : pj < nd.varColumn.length := by rw [h.vc_len]; exact hpj
  have hal : a < nd.basis.length := by rw [h.basis_len]; exact ha1
  have hbl : b < nd.basis.length := by rw [h.basis_len]; exact hb1
  have e : swapBasis nd pi pj =
      { nd with varRow := nd.varRow.set pi b, varColumn := nd.varColumn.set pj a,
                basis := (nd.basis.set a true).set b false,
                mapping := (nd.mapping.set a pj).set b pi } := by
    unfold swapBasis; simp only [hA, hB]
  rw [e]
  have gb_b : boolGet ((nd.basis.set a true).set b false) b = false :=
    boolGet_set_same false (by rw [List.length_set]; exact hbl)
  have gb_a : boolGet ((nd.basis.set a true).set b false) a = true := by
    rw [boolGet_set_ne _ (Ne.symm hab)]; exact boolGet_set_same true hal
  have gm_b : natGet ((nd.mapping.set a pj).set b pi) b = pi :=
    natGet_set_same pi (by rw [List.length_set]; exact hb1)
  have gm_a : natGet ((nd.mapping.set a pj).set b pi) a = pj := by
    rw [natGet_set_ne _ (Ne.symm hab)]; exact natGet_set_same pj ha1
  have gb_o : ∀ k, a ≠ k → b ≠ k →
      boolGet ((nd.basis.set a true).set b false) k = boolGet nd.basis k := by
    intro k h1 h2; rw [boolGet_set_ne _ h2, boolGet_set_ne _ h1]
  have gm_o : ∀ k, a ≠ k → b ≠ k →
      natGet ((nd.mapping.set a pj).set b pi) k = natGet nd.mapping k := by
    intro k h1 h2; rw [natGet_set_ne _ h2, natGet_set_ne _ h1]
  have lm : ((nd.mapping.set a pj).set b pi).length = nd.mapping.length := by
    rw [List.length_set, List.length_set]
  exact { h with
    vr_len := by dsimp only; rw [List.length_set]; exact h.vr_len
    vc_len := by dsimp only; rw [List.length_set]; exact h.vc_len
    map_len := by dsimp only; rw [lm]; exact h.map_len
    basis_len := by dsimp only; rw [lm, List.length_set, List.length_set]; exact h.basis_len
    vr_ok := by
      intro i hi
      dsimp only at hi ⊢
      by_cases e : i = pi
      · subst e
        rw [natGet_set_same b hpi', lm]
        exact ⟨hb1, gb_b, gm_b⟩
      · rw [natGet_set_ne b (Ne.symm e), lm]
        obtain ⟨k1, k2, k3⟩ := h.vr_ok i hi
        have hka : a ≠ natGet nd.varRow i := by
          intro c; rw [← c, ha3] at k3; exact e k3.symm
        have hkb : b ≠ natGet nd.varRow i := by
          intro c; rw [← c, hb2] at k2; cases k2
        rw [gb_o _ hka hkb, gm_o _ hka hkb]
        exact ⟨k1, k2, k3⟩
    vc_ok := by
      intro j hj
      dsimp only at hj ⊢
      by_cases e : j = pj
      · subst e
        rw [natGet_set_same a hpj', lm]
        exact ⟨ha1, gb_a, gm_a⟩
      · rw [natGet_set_ne a (Ne.symm e), lm]
        obtain ⟨k1, k2, k3⟩ := h.vc_ok j hj
        have hka : a ≠ natGet nd.varColumn j := by
          intro c; rw [← c, ha2] at k2; cases k2
        have hkb : b ≠ natGet nd.varColumn j := by
          intro c; rw [← c, hb3] at k3; exact e k3.symm
        rw [gb_o _ hka hkb, gm_o _ hka hkb]
        exact ⟨k1, k2, k3⟩
    map_ok := by
      intro k hk
      dsimp only at hk ⊢
      rw [lm] at hk
      by_cases eb : k = b
      · subst eb
        rw [gb_b, gm_b]
        exact ⟨(fun c => by cases c), fun _ => ⟨hpi, natGet_set_same k hpi'⟩⟩
      by_cases ea : k = a
      · subst ea
        rw [gb_a, gm_a]
        exact ⟨fun _ => ⟨hpj, natGet_set_same k hpj'⟩, (fun c => by cases c)⟩
      rw [gb_o k (Ne.symm ea) (Ne.symm eb), gm_o k (Ne.symm ea) (Ne.symm eb)]
      obtain ⟨m1, m2⟩ := h.map_ok k hk
      constructor
      · intro c
        obtain ⟨m3, m4⟩ := m1 c
        refine ⟨m3, ?_⟩
        have : pj ≠ natGet nd.mapping k := by
          intro c'; rw [← c', hB] at m4; exact eb m4.symm
        rw [natGet_set_ne _ this]; exact m4
      · intro c
        obtain ⟨m3, m4⟩ := m2 c
        refine ⟨m3, ?_⟩
        have : pi ≠ natGet nd.mapping k := by
          intro c'; rw [← c', hA] at m4; exact ea m4.symm
        rw [natGet_set_ne _ this]; exact m4 }

/-! ### the sign list keeps its length -/

theorem foldl_preserves {α β : Type} (P : α → Prop) (step : α → β → α)
    (h : ∀ a b, P a → P (step a b)) : ∀ (l : List β) a, P a → P (l.foldl step a) := by
  intro l
  induction l with
  | nil => intro a ha; exact ha
  | cons b l ih => intro a ha; exact ih _ (h a b ha)

theorem pivotStepT_sign_len (tp : Row) (spp : Int) (pj i : Nat) (st : Tableau × List RowSign)
    (j : Nat) : (pivotStepT tp spp pj i st j).2.length = st.2.length := by
  obtain ⟨T, sg⟩ := st
  unfold pivotStepT
  dsimp only
  by_cases h2 : rget tp j = 0
  · rw [if_pos h2]
  · rw [if_neg h2]
    by_cases h3 : rget tp j * mget T.s i pj % spp ≠ 0
    · rw [if_pos h3]; exact List.length_set
    · rw [if_neg h3]; exact List.length_set

theorem pivotRowT_sign_len (tp : Row) (spp : Int) (pj : Nat) (st : Tableau × List RowSign)
    (i : Nat) : (pivotRowT tp spp pj st i).2.length = st.2.length := by
  unfold pivotRowT
  split
  · rfl
  · exact foldl_preserves (fun s => s.2.length = st.2.length) (pivotStepT tp spp pj i)
      (fun a b ha => (pivotStepT_sign_len tp spp pj i a b).trans ha) _ st rfl

theorem passTSt_sign_len (T0 : Tableau) (sg0 : List RowSign) (pi pj : Nat) :
    (passTSt T0 sg0 pi pj).2.length = sg0.length := by
  unfold passTSt
  exact foldl_preserves (fun s => s.2.length = sg0.length)
    (pivotRowT (mrow T0.t pi) (mget T0.s pi pj) pj)
    (fun a b ha => (pivotRowT_sign_len _ _ _ a b).trans ha) _ (passSTab T0 pi pj, sg0) rfl

theorem _root_.PPLV.PIPCore.WF.piv_with_sign {nd : SolNode} (h : WF nd) (sg : List RowSign)
    (hs : sg.length = nd.sign.length) : WF { nd with sign := sg } :=
  { h with sign_len := hs.trans h.sign_len }

/-- **the pivot keeps the node well-formed** -/
theorem pivot_wf {nd : SolNode} (h : WF nd) {pi pj : Nat} (hpi : pi < nd.tab.s.length)
    (hpj : pj < nd.tab.ns) (hspp : 0 < mget nd.tab.normalize.s pi pj) :
    WF (pivot nd pi pj) := by
  have hN := normalize_wf h
  have sh := normalize_shape nd.tab
  have hpi0 : pi < nd.tab.normalize.s.length := by rw [sh.1]; exact hpi
  have hpj0 : pj < nd.tab.normalize.ns := by rw [sh.2.2.1]; exact hpj
  obtain ⟨f, hF⟩ := passes_inv nd.tab.normalize (nd.sign.set pi .zero) hN.rows_eq hN.piv_sRows
    hN.piv_tRows hpj0 hspp
  have hn := idRow_s_len nd.tab.normalize pi pj
  have hW := (swapBasis_wf hN hpi0 hpj0).piv_with_sign
    (passTSt nd.tab.normalize (nd.sign.set pi .zero) pi pj).2
    ((passTSt_sign_len _ _ _ _).trans List.length_set)
  rw [pivot_eq]
  exact hW.piv_with_tab (pivotPasses nd.tab.normalize (nd.sign.set pi .zero) pi pj)
    (hF.s_len.trans hn) (hF.t_len.trans (hn.trans hN.rows_eq)) hF.ns_eq hF.nt_eq
    (hF.ns_eq ▸ hF.s_rows) (hF.nt_eq ▸ hF.t_rows)
    (by rw [hF.den_eq]; exact Int.mul_pos hF.f_pos hN.den_pos)

theorem pivot_wf' {nd : SolNode} (h : WF nd) {pi pj : Nat} (hpi : pi < nd.tab.s.length)
    (hpj : pj < nd.tab.ns) (hspp : 0 < mget nd.tab.s pi pj) : WF (pivot nd pi pj) :=
  pivot_wf h hpi hpj ((normalize_sign h pi pj).mpr hspp)

end PPLV.PIPCore.Piv

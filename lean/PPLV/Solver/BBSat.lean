import PPLV.Solver.BBSound

/-!
# `is_mip_satisfiable` (with `choose_branching_variable`), the reference oracle
-/
namespace PPLV.Solver.BB
open PPLV.Lin PPLV.Solver

/-! ### `choose_branching_variable` -/

theorem pickWinner_isSome (rows : List InRow) (p : Pt) :
    ∀ (l : List Nat) (w : Nat) (b : Option Nat), b.isSome = true → (pickWinner rows p l w b).isSome = true := by
  intro l
  induction l with
  | nil => intro w b h; simpa [pickWinner] using h
  | cons v vs ih =>
    intro w b h
    unfold pickWinner
    simp only
    split
    · exact ih _ _ rfl
    · exact ih _ _ h

theorem pickWinner_mem (rows : List InRow) (p : Pt) :
    ∀ (l : List Nat) (w : Nat) (b : Option Nat) (i : Nat), pickWinner rows p l w b = some i → b = some i ∨ i ∈ l := by
  intro l
  induction l with
  | nil => intro w b i h; left; simpa [pickWinner] using h
  | cons v vs ih =>
    intro w b i h
    unfold pickWinner at h
    simp only at h
    split at h
    · rcases ih _ _ i h with h1 | h1
      · right; injection h1 with h1; subst h1; exact List.mem_cons_self
      · right; exact List.mem_cons_of_mem _ h1
    · rcases ih _ _ i h with h1 | h1
      · left; exact h1
      · right; exact List.mem_cons_of_mem _ h1

/-- `choose_branching_variable` returns true (`none`) exactly when every integer variable is integral
    at `last_generator`; otherwise the index it stores is an integer variable that is not integral -/
theorem chooseBranchingVariable_spec (N : Node) (p : Pt) (hd : 0 < p.den) :
    (chooseBranchingVariable N p = none → ∀ i ∈ N.ivars, ∃ z : Int, p.val i = (z : Rat)) ∧
    (∀ i, chooseBranchingVariable N p = some i → i ∈ N.ivars ∧ ¬ ∃ z : Int, p.val i = (z : Rat)) := by
  unfold chooseBranchingVariable
  constructor
  · intro h i hi
    by_contra hz
    have hni : nonIntegral p i = true := by
      by_contra hc
      rw [Bool.not_eq_true] at hc
      exact hz ((nonIntegral_false_iff p i hd).mp hc)
    have hmem : i ∈ N.ivars.filter (nonIntegral p) := List.mem_filter.mpr ⟨hi, hni⟩
    cases hl : N.ivars.filter (nonIntegral p) with
    | nil => rw [hl] at hmem; cases hmem
    | cons v vs =>
      rw [hl] at h
      unfold pickWinner at h
      simp only [ge_iff_le, Nat.zero_le, if_true] at h
      have := pickWinner_isSome N.rows p vs (numAppearances N.rows p v) (some v) rfl
      rw [h] at this; cases this
  · intro i h
    rcases pickWinner_mem N.rows p _ 0 none i h with h1 | h1
    · cases h1
    · obtain ⟨h2, h3⟩ := List.mem_filter.mp h1
      refine ⟨h2, fun hz => ?_⟩
      rw [(nonIntegral_false_iff p i hd).mpr hz] at h3; cases h3

/-! ### `is_mip_satisfiable` -/

def SatOracleOK (lp : SatOracle) : Prop :=
  ∀ N, N.toProblem.WF →
    (lp N = some none → ∀ x, ¬ Sat N.toProblem.cs x) ∧
    (∀ p, lp N = some (some p) → 0 < p.den ∧ Sat N.toProblem.cs p.val)

/-- `true` comes with a feasible integral point of the node, `false` means the node has none -/
theorem isMipSatisfiable_sound (lp : SatOracle) (hO : SatOracleOK lp) :
    ∀ (fuel : Nat) (N : Node), N.toProblem.WF →
      (∀ q, isMipSatisfiable lp fuel N = some (some q) → 0 < q.den ∧ Feasible N.toProblem q.val) ∧
      (isMipSatisfiable lp fuel N = some none → ∀ x, ¬ Feasible N.toProblem x) := by
  intro fuel
  induction fuel with
  | zero => intro N _; constructor <;> intros <;> simp_all [isMipSatisfiable]
  | succ fuel ih =>
    intro N hwf
    obtain ⟨hno, hyes⟩ := hO N hwf
    rw [isMipSatisfiable]
    cases hlp : lp N with
    | none => simp
    | some r =>
      cases r with
      | none =>
        simp only
        exact ⟨fun q h => (by cases h), fun _ x hx => hno hlp x hx.1⟩
      | some p =>
        simp only
        obtain ⟨hd, hs⟩ := hyes p hlp
        obtain ⟨cnone, csome⟩ := chooseBranchingVariable_spec N p hd
        cases hb : chooseBranchingVariable N p with
        | none =>
          simp only
          refine ⟨fun q h => ?_, fun h => by cases h⟩
          injection h with h; injection h with h; subst h
          exact ⟨hd, hs, cnone hb⟩
        | some i =>
          simp only
          obtain ⟨hi, -⟩ := csome i hb
          obtain ⟨hwfL, -⟩ := wf_addRow_branch N i (floorQ (coord p i)) hwf hi
          obtain ⟨-, hwfR⟩ := wf_addRow_branch N i (ceilQ (coord p i)) hwf hi
          obtain ⟨lyes, lno⟩ := ih (N.addRow (branchLe i (floorQ (coord p i)))) hwfL
          obtain ⟨ryes, rno⟩ := ih (N.addRow (branchGe i (ceilQ (coord p i)))) hwfR
          cases h1 : isMipSatisfiable lp fuel (N.addRow (branchLe i (floorQ (coord p i)))) with
          | none => simp
          | some r1 =>
            cases r1 with
            | some q1 =>
              simp only
              refine ⟨fun q h => ?_, fun h => by cases h⟩
              injection h with h; injection h with h; subst h
              obtain ⟨d1, f1⟩ := lyes q1 h1
              exact ⟨d1, ((feasible_addRow _ _ _).mp f1).1⟩
            | none =>
              simp only
              refine ⟨fun q h => ?_, fun h x hx => ?_⟩
              · obtain ⟨d2, f2⟩ := ryes q h
                exact ⟨d2, ((feasible_addRow _ _ _).mp f2).1⟩
              · rcases children_cover N i hi (coord p i) x hx with hL | hR
                · exact lno h1 x hL
                · exact rno h x hR

/-- **the rows `is_satisfiable()` leaves in the object are harmless**: `is_mip_satisfiable` adds the
    right-branch row `x_i ≥ ⌈p_i⌉` to the caller's problem itself (`mip.add_constraint`, :2345, with
    `mip` = the object in `is_satisfiable`), but only after the left branch was found to hold no
    feasible integral point — the set of feasible integral points of the object is unchanged -/
theorem right_branch_row_keeps_integral_points (N : Node) (i : Nat) (hi : i ∈ N.ivars) (q : Rat)
    (hleft : ∀ x, ¬ Feasible (N.addRow (branchLe i (floorQ q))).toProblem x) (x : Val) :
    Feasible (N.addRow (branchGe i (ceilQ q))).toProblem x ↔ Feasible N.toProblem x := by
  constructor
  · intro h; exact ((feasible_addRow _ _ _).mp h).1
  · intro h
    rcases children_cover N i hi q x h with hL | hR
    · exact absurd hL (hleft x)
    · exact hR

/-! ### the reference oracle satisfies the hypothesis -/

theorem checkFeasible_relaxed (P : Problem) (x : Pt) :
    checkFeasible { P with ints := [] } x = true ↔ Sat P.cs x.val := by
  rw [checkFeasible_iff]
  unfold Feasible
  simp

end PPLV.Solver.BB

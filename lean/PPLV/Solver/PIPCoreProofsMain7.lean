import PPLV.Solver.PIPCoreProofsMain6
import Mathlib.Tactic.IntervalCases
/-!
# end-to-end: the hypotheses are satisfiable; the bottom direction fails

* `ccClassical` is an oracle that obeys `CCContract` (classical, not computable): the contract is
  satisfiable, so `solveAsWritten_sound` is not vacuous; `exRootX` is a concrete fresh root on which the solver runs
  to a solution node without consulting the oracle.
* `kfRoot` is the root tableau of the witness of finding KF-C07-12 (harness `c07_core --seed 3
  --first 57`): with `PIVOT_ROW_STRATEGY_MAX_COLUMN` and the MODELLED `compatibility_check` as oracle the
  model returns — exactly like the real library before commit deb2fdf — a tree that is bottom at `(D, E) = (1, 0)` although
  `(A, B, C) = (0, 0, 3)` is feasible there.
-/
namespace PPLV.PIPCore

/-! ### an oracle that obeys the contract -/

open Classical in
noncomputable def ccClassical (m : Mat) : Option Bool :=
  match m with
  | [] => some true
  | r :: _ => some (decide (∃ q, ParamVec r.length q ∧ CtxSat m q))

theorem ccClassical_contract : CCContract ccClassical := by
  intro m n b hm hn h
  cases m with
  | nil =>
    simp only [ccClassical] at h
    injection h with h
    subst h
    refine ⟨fun _ => ?_, fun _ => rfl⟩
    refine ⟨1 :: List.replicate (n - 1) 0, ⟨by simp; omega, rfl, ?_⟩, fun r hr => by simp at hr⟩
    intro x hx
    rcases List.mem_cons.mp hx with rfl | hx
    · decide
    · rw [List.eq_of_mem_replicate hx]
  | cons r rs =>
    simp only [ccClassical] at h
    injection h with h
    have hr : r.length = n := hm r (List.mem_cons_self ..)
    rw [hr] at h
    subst h
    simp

/-! ### a run that needs no oracle: `x ≥ 1`, no parameter -/

def exRootX : SolNode :=
  { tab := { s := [[1]], t := [[-1]], den := 1, ns := 1, nt := 1 }
    basis := [true, false], mapping := [0, 0], varRow := [1], varColumn := [0]
    sign := [.negative], big := none, arts := [], cons := [] }

theorem exRootX_ok : RootOK exRootX [] where
  wf := { rows_eq := rfl, s_cols := by decide, t_cols := by decide, den_pos := by decide, vr_len := rfl
          vc_len := rfl, sign_len := rfl, map_len := rfl, basis_len := rfl
          vr_ok := by intro i hi; have hi' : i < 1 := hi; interval_cases i; decide
          vc_ok := by intro j hj; have hj' : j < 1 := hj; interval_cases j; decide
          map_ok := by intro k hk; have hk' : k < 2 := hk; interval_cases k <;> decide }
  den_one := rfl
  fresh := by intro k hk; have hk' : k < 1 := hk; interval_cases k; decide
  big := rfl
  arts := rfl
  cons := rfl
  nt_pos := by decide
  ctx_len := by intro r hr; simp at hr
  sign := by
    intro k
    by_cases hk : k = 0
    · subst hk; right; decide
    · left
      unfold signGet
      cases k with
      | zero => exact absurd rfl hk
      | succ k => rfl

/-- whatever the oracle: the model pivots once and returns the solution node `x = 1` -/
theorem exRootX_run (cc : Mat → Option Bool) :
    ∃ r, solveAsWritten cc {} false 5 exRootX [] = .done r ∧ (resToTree r).eval [] = .point [1] :=
  ⟨_, rfl, by decide⟩

/-! ### the witness of KF-C07-12 -/

def kfTab : Tableau :=
  ⟨[[4,0,1],[-4,-2,-3],[0,0,1],[0,2,2],[0,1,2]], [[-3,0,1],[6,3,-1],[-3,0,-1],[-3,-3,0],[3,0,-2]], 1, 3, 3⟩

/-- root of `{4A + C + E = 3, C - E ≥ 3, 2B + 2C - 3D = 3, B + 2C - 2E + 3 ≥ 0}`, parameters `D, E`, as
    journalled from the real `update_tableau` (row 1 is the shared row `-(f₁ + f₂) ≥ 0` of the two equalities) -/
def kfRoot : SolNode :=
  { tab := kfTab
    basis := [true,true,true,false,false,false,false,false]
    mapping := [0,1,2,0,1,2,3,4]
    varRow := [3,4,5,6,7]
    varColumn := [0,1,2]
    sign := [.mixed,.mixed,.negative,.negative,.mixed]
    big := none, arts := [], cons := [] }

def kfTree : PPLV.PIP.Tree :=
  match solveAsWritten (ccModel 40) { cut := 0, piv := 1 } false 40 kfRoot [] with
  | .done r => resToTree r
  | .fuel => .dec [] [] .bottom .bottom

def kfVal : Nat → Int := fun k => [0, 0, 3, 0, 0, 0, 0, 9].getD k 0

theorem kf_feasible : Feasible kfRoot kfVal [1, 1, 0] := by
  refine ⟨?_, ?_⟩
  · intro i hi
    have hi' : i < 5 := hi
    interval_cases i <;> (unfold RowHolds; decide)
  · intro k hk
    have hk' : k < 8 := hk
    interval_cases k <;> decide

theorem kf_bottom : kfTree.eval [1, 0] = .bottom := by decide +kernel

end PPLV.PIPCore

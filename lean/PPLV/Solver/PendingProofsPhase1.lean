import PPLV.Solver.PendingProofsSetupCanon
import PPLV.Solver.PendingProofsEraseBasis

/-!
# the first phase decides feasibility (fresh problem)

From a `Phase1Start` (canonical feasible tableau whose cost row is `−Σ artificials` on the solutions), for any
pricing rule returning candidates, when the loop terminates with `(ok, t)`:
* `ok = true` (the first phase is never "unbounded");
* `working_cost[0] ≠ 0` ⇒ the tableau has no non-negative solution with every artificial 0 (`TabSol`);
* `working_cost[0] = 0` ⇒ the basic solution of `t` is such a solution, and every artificial still in the base is
  0: `ArtInv` — the hypothesis of `erase_artificials_valid` / `erase_artificials_feasible_basis`.
-/
namespace PPLV.Solver.Pend
open PPLV.Lin PPLV.Solver.Tab

theorem basicPt_nonneg {t : Tab} (hC : Canon t) : ∀ j, 0 ≤ basicPt t j := by
  have hnb : ∀ i, i < t.T.length → t.base.getD i 0 ≠ t.cost.length - 1 := fun i hi => by
    have := (hC.baseRange i hi).2; omega
  have hel : ∀ i, i < t.T.length → eligible t.T t.base (t.cost.length - 1) i = false := by
    intro i hi
    unfold eligible
    simp only [hC.lastZero i hi]
    rfl
  exact fun j => rayPt_nonneg hC 0 (le_refl _) hnb hel j

theorem basicPt_basic {t : Tab} (hC : Canon t) {i : Nat} (hi : i < t.T.length) :
    basicPt t (t.base.getD i 0) =
      -(((t.T.getD i []).get 0 : Int) : Rat) / (((t.T.getD i []).get (t.base.getD i 0) : Int) : Rat) := by
  unfold basicPt
  rw [rayPt_basic hC _ 0 hi (by have := (hC.baseRange i hi).2; omega)]
  simp

theorem basicPt_nonbasic {t : Tab} (hC : Canon t) {j : Nat} (hj : t.cost.length - 1 ≤ j) : basicPt t j = 0 := by
  by_cases h : j = t.cost.length - 1
  · rw [h]; unfold basicPt; exact rayPt_e t _ 0 (by have := hC.len2; omega)
  · unfold basicPt
    apply rayPt_nonbasic _ 0 (by have := hC.len2; omega) h
    intro i hi
    rw [hC.lenB] at hi
    have := (hC.baseRange i hi).2; omega

theorem phase1_verdict (ch : Chooser) (hch : ChooserOK ch) (fuel : Nat) (s' : LPState) (b e : Nat)
    (hP : Phase1Start s' b e) (ok : Bool) (t : Tab) (h : computeSimplexWith ch fuel s'.tab = some (ok, t)) :
    ok = true ∧ Canon t ∧ t.cost.length = s'.numCols ∧ (∀ y, Sol t.T y ↔ Sol s'.tableau y) ∧
    (t.cost.get 0 ≠ 0 → ∀ y, ¬ TabSol s'.tableau s'.numCols b y) ∧
    (t.cost.get 0 = 0 → TabSol s'.tableau s'.numCols b (basicPt t) ∧ (b ≠ 0 → ArtInv b e t)) := by
  have hlen0 : s'.tab.cost.length = s'.numCols := hP.len
  obtain ⟨p1, p2, p3, p4, p5, p6⟩ := pricing_choice_irrelevant ch hch fuel s'.tab ok t hP.canon h
  obtain ⟨-, q2, -⟩ := simplex_loop ch hch fuel s'.tab ok t hP.canon h
  have hlen : t.cost.length = s'.numCols := by rw [q2]; exact hlen0
  have hn2 : 2 ≤ s'.numCols := by rw [← hlen0]; exact hP.canon.len2
  -- the first phase is bounded
  have hok : ok = true := by
    cases ok
    · exfalso
      obtain ⟨y, y1, y2, y3⟩ := p6 rfl 0
      have := (hP.cost y y1 (hlen0 ▸ y2)).1
      have e : objAt s'.tab.cost y = objAt s'.working_cost y := rfl
      rw [e] at y3; linarith only [this, y3]
    · rfl
  obtain ⟨b1, b2, b3⟩ := p5 hok
  have b2' : NonnegPt s'.numCols (basicPt t) := hlen0 ▸ b2
  have hb3 : objAt s'.working_cost (basicPt t) = basicObj t.cost := b3
  have hle := (hP.cost _ b1 b2').1
  have hlastq : ((t.cost.get (t.cost.length - 1) : Int) : Rat) ≠ 0 := by exact_mod_cast p2.signNZ
  -- TabSol valuations are NonnegPt with objective 0
  have tabsol_obj : ∀ y, TabSol s'.tableau s'.numCols b y →
      Sol s'.tableau y ∧ NonnegPt s'.numCols y ∧ objAt s'.working_cost y = 0 := by
    rintro y ⟨y1, y2, y3, y4⟩
    have hn : NonnegPt s'.numCols y :=
      ⟨y1, y3 _ hP.startLe (by omega), fun j hj _ => y2 j hj⟩
    exact ⟨y4, hn, ((hP.cost y y4 hn).2).mpr (fun j h1 h2 => y3 j h1 (by omega))⟩
  refine ⟨hok, p2, hlen, p1, fun hne y hy => ?_, fun h0 => ?_⟩
  · obtain ⟨y4, hn, hobj⟩ := tabsol_obj y hy
    have hbound := p4 hok y y4 (hlen0.symm ▸ hn)
    have e : objAt s'.tab.cost y = objAt s'.working_cost y := rfl
    rw [e, hobj] at hbound
    -- basicObj ≤ 0 and ≥ 0, hence c_0 = 0
    have hz : basicObj t.cost = 0 := by rw [← hb3]; rw [← hb3] at hbound; linarith
    unfold basicObj at hz
    rcases div_eq_zero_iff.mp hz with h | h
    · exact hne (by exact_mod_cast h)
    · exact hlastq h
  · have hz : objAt s'.working_cost (basicPt t) = 0 := by
      rw [hb3]; unfold basicObj; rw [h0]; simp
    have hart := ((hP.cost _ b1 b2').2).mp hz
    refine ⟨⟨b2'.1, fun j _ => basicPt_nonneg p2 j, fun j h1 h2 => ?_, b1⟩, fun hb => ?_⟩
    · by_cases hj : j < s'.numCols - 1
      · exact hart j h1 hj
      · exact basicPt_nonbasic p2 (by rw [hlen]; omega)
    · obtain ⟨hb1, hb2⟩ := hP.bpos hb
      have hstart : artStart b s'.numCols = b := by unfold artStart; rw [if_pos hb]
      refine ⟨p2.lenB, fun i hi h1 h2 => ?_⟩
      have hzero := hart (t.base.getD i 0) (by rw [hstart]; exact h1) (by rw [← hP.eEnd]; exact h2)
      rw [basicPt_basic p2 hi] at hzero
      have hbq : (((t.T.getD i []).get (t.base.getD i 0) : Int) : Rat) ≠ 0 := by exact_mod_cast p2.basicNZ i hi
      rcases div_eq_zero_iff.mp hzero with h | h
      · have : (((t.T.getD i []).get 0 : Int) : Rat) = 0 := by linarith only [h]
        exact_mod_cast this
      · exact absurd h hbq

end PPLV.Solver.Pend

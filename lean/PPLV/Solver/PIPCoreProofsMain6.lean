import PPLV.Solver.PIPCoreProofsMain5
import PPLV.Solver.PIPCoreProofsPivot14
import PPLV.Solver.PIPCoreProofsTree2
import PPLV.Solver.PIPCoreProofsTree3
/-!
# end-to-end: from a fresh root to the public tree semantics
-/
namespace PPLV.PIPCore

/-- the step facts (families Pivot, Tree) -/
theorem stepFacts : StepFacts where
  pivot_signweak := fun h _ _ hpi hpj hspp _ hq hs => pivot_signweak h hpi hpj hspp hq hs
  pivot_intinv := fun h _ _ hpi hpj hspp _ hq hI => pivot_intinv h hpi hpj hspp hq hI
  normalize_intinv := fun h _ hI => normalize_intinv h hI
  assemble_some := fun aps cs tTest fTest tN fN _ _ _ hq hcs ht hf hpart h =>
    assemble_some (aps := aps) (cs := cs) (tTest := tTest) (fTest := fTest) (tN := tN) (fN := fN)
      hq hcs ht hf hpart h

/-- a fresh root as `PIP_Solution_Node::update_tableau` builds it for a new problem (denominator 1, the
    problem variables are the column variables, the cached signs are `row_sign` of the rows or UNKNOWN, no
    big parameter), with the initial context -/
structure RootOK (root : SolNode) (ctx0 : Mat) : Prop where
  wf : WF root
  den_one : root.tab.den = 1
  fresh : ∀ k, k < root.tab.ns → boolGet root.basis k = true ∧ natGet root.mapping k = k
  big : root.big = none
  arts : root.arts = []
  cons : root.cons = []
  nt_pos : 0 < root.tab.nt
  ctx_len : ∀ r ∈ ctx0, r.length = root.tab.nt
  sign : ∀ k, signGet root.sign k = .unknown ∨ signGet root.sign k = rowSign (mrow root.tab.t k) none

theorem rootOK_inv {root : SolNode} {ctx0 : Mat} (h : RootOK root ctx0) :
    Inv' (fun q => ParamVec root.tab.nt q ∧ CtxSat ctx0 q) root.tab.nt root ctx0 where
  wf := h.wf
  lex := init_lexpos root h.wf h.fresh
  big := h.big
  arts := by rw [h.arts]; intro j hj; simp at hj
  nt_eq := by rw [h.arts]; simp
  n0_pos := h.nt_pos
  ctx_len := h.ctx_len
  cons_len := by rw [h.cons]; intro r hr; simp at hr
  pv := fun q hq => hq.1
  pvq := fun q hq => by rw [h.arts]; exact hq.1
  rel := fun q hq _ => by rw [h.arts]; exact hq.2
  sgn := fun q hq _ => by rw [h.arts]; exact signAt_root h.sign h.wf hq.1
  int := fun q _ => root_intinv h.wf h.den_one h.fresh

/-- **point soundness of the solver as it was before the repair of KF-C07-12**, over the parameter columns -/
theorem solveAsWritten_sound {cc : Mat → Option Bool} (hcc : CCContract cc) (ctl : Ctl)
    {cfc : Bool} {fuel : Nat} {root : SolNode} {ctx0 : Mat} (h : RootOK root ctx0) {r : Option CTree}
    (hs : solveAsWritten cc ctl cfc fuel root ctx0 = .done r) {q : List Int} (hq : ParamVec root.tab.nt q)
    (hsat : CtxSat ctx0 q) {x : List Int} (hx : evalRes r q = some x) : IsLexMin root q x := by
  have := solveGoAsWritten_sound hcc ctl stepFacts cfc fuel true root ctx0 r _ _ hs (fun _ => rootOK_inv h) q ⟨hq, hsat⟩ x hx
  rw [h.arts] at this
  exact this

/-- … and through the public tree semantics `Tree.eval` -/
theorem solveAsWritten_sound_eval {cc : Mat → Option Bool} (hcc : CCContract cc) (ctl : Ctl)
    {cfc : Bool} {fuel : Nat} {root : SolNode} {ctx0 : Mat} (h : RootOK root ctx0) {r : Option CTree}
    (hs : solveAsWritten cc ctl cfc fuel root ctx0 = .done r) {θ : List Int} (hlen : θ.length + 1 = root.tab.nt)
    (hnn : ∀ a ∈ θ, 0 ≤ a) (hsat : CtxSat ctx0 (1 :: θ)) {x : List Int}
    (hx : (resToTree r).eval θ = .point x) : IsLexMin root (1 :: θ) x := by
  refine solveAsWritten_sound hcc ctl h hs ⟨by simp [hlen], rfl, ?_⟩ hsat (resToTree_eval_point r θ x hx)
  intro a ha
  rcases List.mem_cons.mp ha with rfl | ha
  · decide
  · exact hnn a ha

end PPLV.PIPCore

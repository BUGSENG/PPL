import PPLV.Solver.PendingProofsParse

/-!
# the mapping of the problem variables and the row of a constraint

* `MapOK M nn v j`: the first `v` variables have columns in `[1, 1+j)`, increasing with the variable, a
  second column (the negative part, right after the first) exactly when the variable is not marked
  non-negative;
* `ppcMapping_fresh`: the mapping loop (:763–:784) of a fresh problem establishes it;
* `constraintRow_spec`: the row built at :857–:883 evaluates to the constraint at the projected point.
-/
namespace PPLV.Solver.Pend
open PPLV.Lin PPLV.Solver.Tab

/-- `x_i = col(mapping i).first − col(mapping i).second` -/
def proj (mapping : List (Nat × Nat)) (y : Val) : Val := fun i =>
  let m := mapping.getD (i+1) (0, 0)
  y m.1 - (if m.2 != 0 then y m.2 else 0)

/-- last column of a variable -/
def hiCol (m : Nat × Nat) : Nat := if m.2 = 0 then m.1 else m.2

structure MapOK (M : List (Nat × Nat)) (nn : List Bool) (v j : Nat) : Prop where
  len : M.length = v + 1
  zero : M.getD 0 (0, 0) = (0, 0)
  cols : ∀ u, u < v → 1 ≤ (M.getD (u+1) (0, 0)).1 ∧
    ((M.getD (u+1) (0, 0)).2 = 0 ∨ (M.getD (u+1) (0, 0)).2 = (M.getD (u+1) (0, 0)).1 + 1) ∧
    ((M.getD (u+1) (0, 0)).2 = 0 ↔ nn.getD u false = true) ∧ hiCol (M.getD (u+1) (0, 0)) < 1 + j
  ord : ∀ u u', u < u' → u' < v → hiCol (M.getD (u+1) (0, 0)) < (M.getD (u'+1) (0, 0)).1

theorem getD_append_left_pair (M : List (Nat × Nat)) (x : Nat × Nat) (k : Nat) (hk : k < M.length) :
    (M ++ [x]).getD k (0, 0) = M.getD k (0, 0) := by
  rw [List.getD_eq_getElem?_getD, List.getD_eq_getElem?_getD, List.getElem?_append_left hk]

theorem getD_append_last_pair (M : List (Nat × Nat)) (x : Nat × Nat) :
    (M ++ [x]).getD M.length (0, 0) = x := by
  rw [List.getD_eq_getElem?_getD, List.getElem?_append_right (le_refl _)]; simp

/-- the mapping loop of a fresh problem -/
theorem ppcMapping_fresh (s : LPState) (nn : List Bool) (hint : s.internal_space_dim = 0)
    (hmap : s.mapping = [(0, 0)]) (hn : 0 < s.external_space_dim) :
    MapOK (ppcMapping s nn 1).1 nn s.external_space_dim (ppcMapping s nn 1).2.1 ∧
      (ppcMapping s nn 1).2.1 = (ppcMapping s nn 1).2.2 := by
  unfold ppcMapping
  rw [hint, hmap, if_pos hn]
  simp only [Nat.sub_zero, Nat.zero_add]
  have key := fwdFold_inv
    (fun (v : Nat) (acc : List (Nat × Nat) × Nat × Nat) => MapOK acc.1 nn v acc.2.1 ∧ acc.2.1 = acc.2.2)
    (fun i (acc : List (Nat × Nat) × Nat × Nat) =>
      let positive := 1 + acc.2.1
      if nn.getD i false then (acc.1 ++ [(positive, 0)], acc.2.1 + 1, acc.2.2 + 1)
      else (acc.1 ++ [(positive, positive + 1)], acc.2.1 + 2, acc.2.2 + 2))
    s.external_space_dim 0 ([(0, 0)], 0, 0)
    ⟨⟨rfl, rfl, fun u hu => by omega, fun u u' _ hu => by omega⟩, rfl⟩
    (by
      intro v _ _ acc ⟨hM, hj⟩
      obtain ⟨M, j, a⟩ := acc
      simp only at hM hj ⊢
      by_cases hnn : nn.getD v false = true
      · rw [if_pos hnn]
        refine ⟨⟨by simp [hM.len], ?_, ?_, ?_⟩, by simp only; omega⟩
        · rw [getD_append_left_pair _ _ _ (by rw [hM.len]; omega)]; exact hM.zero
        · intro u hu
          by_cases huv : u < v
          · rw [getD_append_left_pair _ _ _ (by rw [hM.len]; omega)]
            obtain ⟨c1, c2, c3, c4⟩ := hM.cols u huv
            exact ⟨c1, c2, c3, by simp only; omega⟩
          · have : u = v := by omega
            subst this
            have hl : u + 1 = M.length := by rw [hM.len]
            rw [hl, getD_append_last_pair]
            refine ⟨by dsimp only; omega, Or.inl rfl, ⟨fun _ => hnn, fun _ => rfl⟩, ?_⟩
            unfold hiCol; dsimp only; rw [if_pos rfl]; omega
        · intro u u' huu hu'
          by_cases hu'v : u' < v
          · rw [getD_append_left_pair _ _ _ (by rw [hM.len]; omega),
              getD_append_left_pair _ _ _ (by rw [hM.len]; omega)]
            exact hM.ord u u' huu hu'v
          · have : u' = v := by omega
            subst this
            have hl : u' + 1 = M.length := by rw [hM.len]
            rw [hl, getD_append_last_pair, getD_append_left_pair _ _ _ (by rw [hM.len]; omega)]
            have := (hM.cols u huu).2.2.2
            simp only; omega
      · rw [if_neg hnn]
        have hnn' : nn.getD v false = false := by simpa using hnn
        refine ⟨⟨by simp [hM.len], ?_, ?_, ?_⟩, by simp only; omega⟩
        · rw [getD_append_left_pair _ _ _ (by rw [hM.len]; omega)]; exact hM.zero
        · intro u hu
          by_cases huv : u < v
          · rw [getD_append_left_pair _ _ _ (by rw [hM.len]; omega)]
            obtain ⟨c1, c2, c3, c4⟩ := hM.cols u huv
            exact ⟨c1, c2, c3, by simp only; omega⟩
          · have : u = v := by omega
            subst this
            have hl : u + 1 = M.length := by rw [hM.len]
            rw [hl, getD_append_last_pair]
            refine ⟨by dsimp only; omega, Or.inr rfl, ?_, ?_⟩
            · constructor
              · intro h; dsimp only at h; omega
              · intro h; rw [hnn'] at h; cases h
            · unfold hiCol; dsimp only; rw [if_neg (by omega)]; omega
        · intro u u' huu hu'
          by_cases hu'v : u' < v
          · rw [getD_append_left_pair _ _ _ (by rw [hM.len]; omega),
              getD_append_left_pair _ _ _ (by rw [hM.len]; omega)]
            exact hM.ord u u' huu hu'v
          · have : u' = v := by omega
            subst this
            have hl : u' + 1 = M.length := by rw [hM.len]
            rw [hl, getD_append_last_pair, getD_append_left_pair _ _ _ (by rw [hM.len]; omega)]
            have := (hM.cols u huu).2.2.2
            simp only; omega)
  simp only [Nat.zero_add] at key
  exact key

/-! ### rows -/

theorem dot_set (l : List Int) (i : Nat) (a : Int) (y : Val) (hi : i < l.length) :
    dot (l.set i a) y = dot l y + ((a : Rat) - ((l.getD i 0 : Int) : Rat)) * y i := by
  induction l generalizing i y with
  | nil => simp at hi
  | cons b l ih =>
    cases i with
    | zero => simp only [List.set_cons_zero, dot_cons, List.getD_cons_zero]; ring
    | succ i =>
      simp only [List.set_cons_succ, dot_cons, List.getD_cons_succ]
      rw [ih i y.tail (by simpa using hi)]
      simp only [Val.tail]; ring

theorem dot_take_succ (l : List Int) (t : Nat) (x : Val) :
    dot (l.take (t+1)) x = dot (l.take t) x + ((l.getD t 0 : Int) : Rat) * x t := by
  induction l generalizing t x with
  | nil => simp
  | cons a l ih =>
    cases t with
    | zero => simp
    | succ t =>
      simp only [List.take_succ_cons, dot_cons, List.getD_cons_succ]
      rw [ih t x.tail]
      simp only [Val.tail]; ring

theorem zeros_getD (n k : Nat) : (zeros n).getD k 0 = 0 := by
  unfold zeros
  rw [List.getD_eq_getElem?_getD]
  by_cases h : k < n
  · rw [List.getElem?_replicate_of_lt h]; rfl
  · rw [List.getElem?_eq_none (by simpa using h)]; rfl

theorem dot_zeros (n : Nat) (y : Val) : dot (zeros n) y = 0 :=
  dot_eq_zero_of_support _ y (fun j => Or.inl (zeros_getD n j))

/-- **the tableau row of a constraint** (:857–:883): as wide as the tableau, zero beyond the columns of
    the problem variables, and its value at a tableau valuation is the constraint at the projected point -/
theorem constraintRow_spec (M : List (Nat × Nat)) (nn : List Bool) (n j numCols : Nat) (hM : MapOK M nn n j)
    (hcols : 1 + j ≤ numCols) (c : ICon) (hc : c.coeffs.length ≤ n) :
    (constraintRow numCols M c).length = numCols ∧
    (∀ col, 1 + j ≤ col → (constraintRow numCols M c).get col = 0) ∧
    ∀ y : Val, y 0 = 1 → rowVal (constraintRow numCols M c) y = dot c.coeffs (proj M y) + (c.k : Rat) := by
  unfold constraintRow
  have key := fwdFold_inv
    (fun (t : Nat) (r : Row) => r.length = numCols ∧
      (∀ col, (col = 0 ∨ ∀ u, u < t → hiCol (M.getD (u+1) (0, 0)) < col) → r.getD col 0 = 0) ∧
      ∀ y : Val, dot r y = dot (c.coeffs.take t) (proj M y))
    (fun t (r : Row) =>
      let a := c.coeffs.getD t 0
      if a != 0 then
        let m := M.getD (t+1) (0, 0)
        let r := r.set m.1 a
        if m.2 != 0 then r.set m.2 (-a) else r
      else r)
    c.coeffs.length 0 (zeros numCols)
    ⟨by simp [zeros], fun col _ => zeros_getD _ _, fun y => by rw [dot_zeros]; simp⟩
    (by
      intro t _ ht r ⟨h1, h2, h3⟩
      simp only [Nat.zero_add] at ht
      have htn : t < n := by omega
      obtain ⟨c1, c2, c3, c4⟩ := hM.cols t htn
      simp only
      by_cases ha : c.coeffs.getD t 0 = 0
      · have : (c.coeffs.getD t 0 != 0) = false := by rw [ha]; rfl
        rw [this]
        simp only [Bool.false_eq_true, if_false]
        refine ⟨h1, fun col hcol => h2 col ?_, fun y => ?_⟩
        · rcases hcol with h | h
          · exact Or.inl h
          · exact Or.inr (fun u hu => h u (by omega))
        · rw [h3 y, dot_take_succ, ha]; simp
      · have : (c.coeffs.getD t 0 != 0) = true := bne_iff_ne.mpr ha
        rw [this]
        simp only [if_true]
        -- the columns of variable t are untouched so far
        have hfree1 : r.getD (M.getD (t+1) (0, 0)).1 0 = 0 :=
          h2 _ (Or.inr (fun u hu => hM.ord u t hu htn))
        have hlt1 : (M.getD (t+1) (0, 0)).1 < r.length := by
          rw [h1]; unfold hiCol at c4; split at c4 <;> omega
        by_cases hm2 : (M.getD (t+1) (0, 0)).2 = 0
        · have : ((M.getD (t+1) (0, 0)).2 != 0) = false := by rw [hm2]; rfl
          rw [this]
          simp only [Bool.false_eq_true, if_false]
          refine ⟨by simp [h1], fun col hcol => ?_, fun y => ?_⟩
          · rw [getD_set]
            have hne : ¬ (col = (M.getD (t+1) (0, 0)).1 ∧ (M.getD (t+1) (0, 0)).1 < r.length) := by
              rintro ⟨h, -⟩
              rcases hcol with h0 | h0
              · omega
              · have := h0 t (by omega); unfold hiCol at this; rw [if_pos hm2] at this; omega
            rw [if_neg hne]
            apply h2
            rcases hcol with h | h
            · exact Or.inl h
            · exact Or.inr (fun u hu => h u (by omega))
          · rw [dot_set _ _ _ _ hlt1, hfree1, h3 y, dot_take_succ]
            simp only [proj, hm2]
            simp
        · have : ((M.getD (t+1) (0, 0)).2 != 0) = true := bne_iff_ne.mpr hm2
          rw [this]
          simp only [if_true]
          have hm2' : (M.getD (t+1) (0, 0)).2 = (M.getD (t+1) (0, 0)).1 + 1 := by
            rcases c2 with h | h
            · exact absurd h hm2
            · exact h
          have hhi : hiCol (M.getD (t+1) (0, 0)) = (M.getD (t+1) (0, 0)).2 := by unfold hiCol; rw [if_neg hm2]
          have hfree2 : r.getD (M.getD (t+1) (0, 0)).2 0 = 0 :=
            h2 _ (Or.inr (fun u hu => by have := hM.ord u t hu htn; omega))
          have hlt2 : (M.getD (t+1) (0, 0)).2 < r.length := by rw [h1]; rw [hhi] at c4; omega
          refine ⟨by simp [h1], fun col hcol => ?_, fun y => ?_⟩
          · rw [getD_set, getD_set]
            have hne2 : ¬ (col = (M.getD (t+1) (0, 0)).2 ∧ (M.getD (t+1) (0, 0)).2 < (r.set (M.getD (t+1) (0, 0)).1 (c.coeffs.getD t 0)).length) := by
              rintro ⟨h, -⟩
              rcases hcol with h0 | h0
              · omega
              · have := h0 t (by omega); rw [hhi] at this; omega
            have hne1 : ¬ (col = (M.getD (t+1) (0, 0)).1 ∧ (M.getD (t+1) (0, 0)).1 < r.length) := by
              rintro ⟨h, -⟩
              rcases hcol with h0 | h0
              · omega
              · have := h0 t (by omega); rw [hhi] at this; omega
            rw [if_neg hne2, if_neg hne1]
            apply h2
            rcases hcol with h | h
            · exact Or.inl h
            · exact Or.inr (fun u hu => h u (by omega))
          · rw [dot_set _ _ _ _ (by simpa using hlt2), getD_set,
              if_neg (by rintro ⟨h, -⟩; omega), hfree2, dot_set _ _ _ _ hlt1, hfree1, h3 y, dot_take_succ]
            simp only [proj, this, if_true]
            push_cast; ring)
  simp only [Nat.zero_add] at key
  obtain ⟨k1, k2, k3⟩ := key
  rw [List.take_length] at k3
  have hz : (M.getD 0 (0, 0)).1 = 0 := by rw [hM.zero]
  have hall : ∀ col, 1 + j ≤ col → ∀ u, u < c.coeffs.length → hiCol (M.getD (u+1) (0, 0)) < col := by
    intro col hcol u hu
    have := (hM.cols u (by omega)).2.2.2
    omega
  by_cases hk : c.k = 0
  · have : (c.k != 0) = false := by rw [hk]; rfl
    rw [this]
    simp only [Bool.false_eq_true, if_false]
    refine ⟨k1, fun col hcol => k2 col (Or.inr (hall col hcol)), fun y _ => ?_⟩
    unfold rowVal; rw [k3 y, hk]; simp
  · have : (c.k != 0) = true := bne_iff_ne.mpr hk
    rw [this, hz]
    simp only [if_true]
    refine ⟨by rw [List.length_set]; exact k1, fun col hcol => ?_, fun y hy => ?_⟩
    · unfold Row.get
      rw [getD_set, if_neg (by rintro ⟨h, -⟩; omega)]
      exact k2 col (Or.inr (hall col hcol))
    · unfold rowVal
      rw [dot_set _ _ _ _ (by rw [k1]; omega), k2 0 (Or.inl rfl), k3 y, hy]
      push_cast; ring

end PPLV.Solver.Pend

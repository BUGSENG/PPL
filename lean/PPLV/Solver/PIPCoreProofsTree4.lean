import PPLV.Solver.PIPCoreProofsTree3
/-!
# tree family: the converse bridge, under scoping and exact divisibility

`CTree.ScopedC c n`: every row of the tree fits the column vector it is read at (`n` columns at the node's
entry; each artificial parameter adds one).  `CTree.ExactAt c q`: at the solution node the vector `q` is
routed to, the denominator divides every parametric value.  Under both, the public semantics of the tree
shown to the user and the solver-side evaluation agree completely (`resToTree_eval_eq`).
-/
namespace PPLV.PIPCore
open PPLV.PIP (Tree QAff PCon Aff Rel Result dotI evalArts evalCons evalVals)

/-- each artificial parameter mentions only the columns that exist when it is declared -/
def ArtsScopedC : List ArtP → Nat → Prop
  | [], _ => True
  | a :: as, n => a.num.length ≤ n ∧ ArtsScopedC as (n + 1)

/-- the rows of a solution node that define problem variables -/
def SolNode.valRows (nd : SolNode) : List Row :=
  ((List.range nd.tab.ns).filter fun k => !boolGet nd.basis k).map fun k =>
    mrow nd.tab.t (natGet nd.mapping k)

/-- all rows of the tree are scoped; `n` = number of columns of the vector at the node's entry -/
def CTree.ScopedC : CTree → Nat → Prop
  | .sol nd, n =>
    ArtsScopedC nd.arts n ∧ RowsLe nd.cons (n + nd.arts.length) ∧ RowsLe nd.valRows (n + nd.arts.length)
  | .dec arts cons t none, n =>
    ArtsScopedC arts n ∧ RowsLe cons (n + arts.length) ∧ t.ScopedC (n + arts.length)
  | .dec arts cons t (some f), n =>
    ArtsScopedC arts n ∧ RowsLe cons (n + arts.length) ∧ t.ScopedC (n + arts.length)
      ∧ f.ScopedC (n + arts.length)

/-- the solution node `q` is routed to (if any) has integral parametric values at `q` -/
def CTree.ExactAt : CTree → List Int → Prop
  | .sol nd, q =>
    consHold nd.cons (extendArts nd.arts q) = true →
      ∀ r ∈ nd.valRows, nd.tab.den ∣ dot r (extendArts nd.arts q)
  | .dec arts cons t none, q =>
    consHold cons (extendArts arts q) = true → t.ExactAt (extendArts arts q)
  | .dec arts cons t (some f), q =>
    if consHold cons (extendArts arts q) = true then t.ExactAt (extendArts arts q)
    else f.ExactAt (extendArts arts q)

/-- scoping and exactness together -/
def CTree.WellFormedC (c : CTree) (q : List Int) : Prop := c.ScopedC q.length ∧ c.ExactAt q

namespace TreeP

theorem evalArts_of_scoped : ∀ (arts : List ArtP) (env : List Int),
    ArtsScopedC arts (env.length + 1) →
    ∃ env', evalArts (arts.map ArtP.toQAff) env = some env' ∧ extendArts arts (1 :: env) = 1 :: env'
  | [], env, _ => ⟨env, rfl, rfl⟩
  | a :: as, env, h => by
    obtain ⟨h1, h2⟩ := h
    have hv : (ArtP.toQAff a).num.eval env = some (dot a.num (1 :: env)) := rowAff_eval_of_le h1
    have h2' : ArtsScopedC as ((env ++ [Int.fdiv (dot a.num (1 :: env)) a.den]).length + 1) := by
      rw [List.length_append]; exact h2
    obtain ⟨env', he, hx⟩ := evalArts_of_scoped as _ h2'
    refine ⟨env', ?_, ?_⟩
    · simp only [List.map_cons, evalArts]
      rw [hv]
      exact he
    · show extendArts as ((1 :: env) ++ [Int.fdiv (dot a.num (1 :: env)) a.den]) = 1 :: env'
      exact hx

theorem evalCons_of_le : ∀ (cons : List Row) (env : List Int), RowsLe cons (env.length + 1) →
    evalCons (cons.map consToPCon) env = some (consHold cons (1 :: env))
  | [], _, _ => rfl
  | r :: rs, env, h => by
    have hv : (consToPCon r).e.eval env = some (dot r (1 :: env)) :=
      rowAff_eval_of_le (h r (by simp))
    have ih := evalCons_of_le rs env (fun r' hr' => h r' (by simp [hr']))
    simp only [List.map_cons, evalCons]
    rw [hv, ih, consHold_cons]
    rfl

theorem evalVals_of_exact (nd : SolNode) (env : List Int) : ∀ (l : List Nat),
    (∀ k ∈ l, boolGet nd.basis k = false →
      (mrow nd.tab.t (natGet nd.mapping k)).length ≤ env.length + 1 ∧
      nd.tab.den ∣ dot (mrow nd.tab.t (natGet nd.mapping k)) (1 :: env)) →
    evalVals (l.map fun k =>
        if boolGet nd.basis k then (⟨⟨[], 0⟩, 1⟩ : QAff)
        else ⟨rowAff (mrow nd.tab.t (natGet nd.mapping k)), nd.tab.den⟩) env
      = .point (l.map fun k =>
        if boolGet nd.basis k then 0
        else dot (mrow nd.tab.t (natGet nd.mapping k)) (1 :: env) / nd.tab.den)
  | [], _ => rfl
  | k :: ks, h => by
    have ih := evalVals_of_exact nd env ks (fun k' hk' => h k' (by simp [hk']))
    rw [List.map_cons, List.map_cons]
    cases hb : boolGet nd.basis k with
    | true =>
      simp only [if_true]
      have hv : (⟨[], 0⟩ : Aff).eval env = some 0 := by
        unfold Aff.eval
        have hs : (⟨[], 0⟩ : Aff).scoped env.length = true := by
          show ((List.drop env.length ([] : List Int)).all fun x => x == 0) = true
          rw [List.drop_nil]; rfl
        rw [if_pos hs]
        cases env <;> rfl
      simp only [evalVals]
      rw [hv]
      simp only
      rw [ih]
      rfl
    | false =>
      simp only [Bool.false_eq_true, if_false]
      obtain ⟨hlen, hdvd⟩ := h k (by simp) hb
      have hv := rowAff_eval_of_le (r := mrow nd.tab.t (natGet nd.mapping k)) (env := env) hlen
      simp only [evalVals]
      rw [hv]
      simp only
      have hm : dot (mrow nd.tab.t (natGet nd.mapping k)) (1 :: env) % nd.tab.den = 0 :=
        Int.emod_eq_zero_of_dvd hdvd
      rw [hm, ih]
      rfl

theorem mem_valRows {nd : SolNode} {k : Nat} (hk : k < nd.tab.ns) (hb : boolGet nd.basis k = false) :
    mrow nd.tab.t (natGet nd.mapping k) ∈ nd.valRows := by
  unfold SolNode.valRows
  apply List.mem_map.mpr
  refine ⟨k, ?_, rfl⟩
  apply List.mem_filter.mpr
  exact ⟨List.mem_range.mpr hk, by rw [hb]; rfl⟩

/-- the answer of the public semantics that corresponds to a solver-side value -/
def ofOption : Option (List Int) → Result
  | none => .bottom
  | some x => .point x

theorem toTree_eval_eq : ∀ (c : CTree) (θ : List Int),
    c.ScopedC (θ.length + 1) → c.ExactAt (1 :: θ) → c.toTree.eval θ = ofOption (c.evalC (1 :: θ))
  | .sol nd, θ, hs, hx => by
    obtain ⟨hsa, hsc, hsv⟩ := hs
    obtain ⟨env', hA, hE⟩ := evalArts_of_scoped nd.arts θ hsa
    have hlen : env'.length + 1 = θ.length + 1 + nd.arts.length := by
      have := extendArts_length nd.arts (1 :: θ)
      rw [hE] at this
      exact this
    have hC := evalCons_of_le nd.cons env' (by rw [hlen]; exact hsc)
    simp only [CTree.ExactAt] at hx
    rw [hE] at hx
    simp only [CTree.toTree, Tree.eval, CTree.evalC]
    rw [hA, hE]
    simp only
    rw [hC]
    cases hb : consHold nd.cons (1 :: env') with
    | false => rfl
    | true =>
      simp only [if_true]
      have := evalVals_of_exact nd env' (List.range nd.tab.ns) (fun k hk hbk => by
        have hm := mem_valRows (List.mem_range.mp hk) hbk
        exact ⟨by rw [hlen]; exact hsv _ hm, hx hb _ hm⟩)
      exact this
  | .dec arts cons t none, θ, hs, hx => by
    obtain ⟨hsa, hsc, hst⟩ := hs
    obtain ⟨env', hA, hE⟩ := evalArts_of_scoped arts θ hsa
    have hlen : env'.length + 1 = θ.length + 1 + arts.length := by
      have := extendArts_length arts (1 :: θ)
      rw [hE] at this
      exact this
    have hC := evalCons_of_le cons env' (by rw [hlen]; exact hsc)
    simp only [CTree.ExactAt] at hx
    rw [hE] at hx
    simp only [CTree.toTree, Tree.eval, CTree.evalC]
    rw [hA, hE]
    simp only
    rw [hC]
    cases hb : consHold cons (1 :: env') with
    | false => rfl
    | true =>
      simp only [if_true]
      exact toTree_eval_eq t env' (by rw [hlen]; exact hst) (hx hb)
  | .dec arts cons t (some f), θ, hs, hx => by
    obtain ⟨hsa, hsc, hst, hsf⟩ := hs
    obtain ⟨env', hA, hE⟩ := evalArts_of_scoped arts θ hsa
    have hlen : env'.length + 1 = θ.length + 1 + arts.length := by
      have := extendArts_length arts (1 :: θ)
      rw [hE] at this
      exact this
    have hC := evalCons_of_le cons env' (by rw [hlen]; exact hsc)
    simp only [CTree.ExactAt] at hx
    rw [hE] at hx
    simp only [CTree.toTree, Tree.eval, CTree.evalC]
    rw [hA, hE]
    simp only
    rw [hC]
    cases hb : consHold cons (1 :: env') with
    | false =>
      rw [hb] at hx
      simp only [Bool.false_eq_true, if_false] at hx ⊢
      exact toTree_eval_eq f env' (by rw [hlen]; exact hsf) hx
    | true =>
      rw [hb] at hx
      simp only [if_true] at hx ⊢
      exact toTree_eval_eq t env' (by rw [hlen]; exact hst) hx

end TreeP

open TreeP

/-- **(T3, converse and more)** for a scoped tree whose reached solution node is exact at `1 :: θ`, the public
    semantics and the solver-side evaluation agree: a point is the same point, bottom is bottom, and there is
    neither a scope error nor a non-integral value -/
theorem resToTree_eval_eq (r : Option CTree) (θ : List Int)
    (h : ∀ c, r = some c → c.WellFormedC (1 :: θ)) :
    (resToTree r).eval θ = (match evalRes r (1 :: θ) with | some x => .point x | none => .bottom) := by
  cases r with
  | none => rfl
  | some c =>
    obtain ⟨hs, hx⟩ := h c rfl
    have := toTree_eval_eq c θ hs hx
    simp only [resToTree, evalRes]
    rw [this]
    cases c.evalC (1 :: θ) <;> rfl

theorem resToTree_eval_of_evalRes (r : Option CTree) (θ x : List Int)
    (h : ∀ c, r = some c → c.WellFormedC (1 :: θ)) (hx : evalRes r (1 :: θ) = some x) :
    (resToTree r).eval θ = .point x := by
  rw [resToTree_eval_eq r θ h, hx]

/-! ### non-vacuity: one tree, both semantics

parameter `p`; root: artificial parameter `a = ⌊p / 2⌋`, test `p - 3 ≥ 0`;
true child: `x = (p + a) / 1`; false child: saved constraint `p - 1 ≥ 0`, `x = (2 p) / 2`, `y` a column
variable -/

/-- the hypotheses of `resToTree_eval_eq` hold for `exTree` at every `p` -/
example (p : Int) : exTree.WellFormedC [1, p] := by
  refine ⟨?_, ?_⟩
  · show (([0, 1] : Row).length ≤ 2 ∧ True) ∧ RowsLe [[-3, 1, 0]] 3 ∧
      (True ∧ RowsLe [] 3 ∧ RowsLe [[0, 1, 1]] 3) ∧ (True ∧ RowsLe [[-1, 1]] 3 ∧ RowsLe [[0, 2, 0]] 3)
    refine ⟨⟨by decide, trivial⟩, ?_, ⟨trivial, (fun _ h => by cases h), ?_⟩, ⟨trivial, ?_, ?_⟩⟩ <;>
      (intro r hr; simp only [List.mem_singleton] at hr; subst hr; decide)
  · simp only [exTree, CTree.ExactAt]
    split
    · intro _ r hr
      have h2 : r ∈ [[(0 : Int), 1, 1]] := hr
      have : r = [0, 1, 1] := by simpa using h2
      subst this
      exact one_dvd _
    · intro _ r hr
      have h2 : r ∈ [[(0 : Int), 2, 0]] := hr
      have : r = [0, 2, 0] := by simpa using h2
      subst this
      exact ⟨p, by simp [exNodeF, extendArts, dot]⟩

/-- without exactness the two semantics differ: the public one reports `nonIntegral` where the solver-side
    evaluation truncates -/
def TreeP.exNodeBad : SolNode :=
  { tab := ⟨[[0]], [[1, 0]], 2, 1, 2⟩, basis := [false], mapping := [0], varRow := [0],
    varColumn := [1], sign := [.positive], big := none, arts := [], cons := [] }

example : (CTree.sol exNodeBad).toTree.eval [0] = .nonIntegral
    ∧ (CTree.sol exNodeBad).evalC [1, 0] = some [0] := by decide

end PPLV.PIPCore

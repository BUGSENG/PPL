import PPLV.Solver.PendingProofsIncrBuild

/-!
# the set-up of an incremental call in terms of a `GCtx` (`incr_ctx`)
-/
namespace PPLV.Solver.Pend
open PPLV.Lin PPLV.Solver PPLV.Solver.Tab

/-- what the set-up of an incremental call computes -/
structure IncrOut (s : LPState) (C : GCtx) (unf : List Nat) (addArt : Nat) (s0 : LPState) : Prop where
  setup : ppcSetup s = ppcTrivial s0 (if addArt > 0 then C.SL else 0) (C.artOut unf).2.2.2
  unfOK : C.Unf unf
  addArt_eq : addArt = unf.length + (C.Nn - C.wcount 0)
  n_eq : C.n = s.external_space_dim
  tab : s0.tableau = (C.artOut unf).1
  base : s0.base = (C.artOut unf).2.2.1
  cost : s0.working_cost =
    reexpressCost (C.artOut unf).1 (C.artOut unf).2.2.1 ((C.artOut unf).2.1.set (C.numCols - 1) 1)
  numCols : s0.numCols = C.numCols
  mapping : s0.mapping = C.M
  ext : s0.external_space_dim = s.external_space_dim
  obj : s0.obj = s.obj
  maximize : s0.maximize = s.maximize
  pricing : s0.pricing = s.pricing
  input : s0.input_cs = s.input_cs
  sound : ∀ y : Val, y 0 = 1 → (∀ j, 1 ≤ j → 0 ≤ y j) → (∀ j, C.SL ≤ j → j < C.numCols → y j = 0) →
      Sol (C.artOut unf).1 y → csSem s.input_cs (proj C.M y)
  complete : ∀ x : Val, csSem s.input_cs x →
      ∃ y : Val, y 0 = 1 ∧ (∀ j, 1 ≤ j → 0 ≤ y j) ∧ (∀ j, C.SL ≤ j → y j = 0) ∧ Sol (C.artOut unf).1 y ∧
        (∀ i, i < C.n → proj C.M y i = x i) ∧ NegZero C.M C.n x y

theorem incr_ctx (s : LPState) (hS : IncrStart s) (p : Parsed) (hp : parseConstraints (computeGenerator s) = some p) :
    ∃ (C : GCtx) (unf : List Nat) (addArt : Nat) (s0 : LPState), IncrOut s C unf addArt s0 := by
  have R := hS.ready
  obtain ⟨nn0', j0, hM0, hj0⟩ := R.ready.map
  have hmlen : (computeGenerator s).mapping.length = (computeGenerator s).external_space_dim + 1 := hM0.len
  have hdims : (computeGenerator s).internal_space_dim = (computeGenerator s).external_space_dim := hS.dims
  -- parse facts
  have hpi := parse_spec (computeGenerator s) (nn0Of (computeGenerator s)) rfl
  rw [hp] at hpi
  obtain ⟨h1, h2, h3, h4, -, -, -⟩ := hpi
  simp only [List.drop_zero, List.replicate_zero, List.nil_append, Nat.zero_add] at h1 h2 h3
  obtain ⟨q1, q2, q3⟩ := parse_spec2 (computeGenerator s) p hmlen hdims hp
  obtain ⟨-, n2⟩ := nn0_spec (computeGenerator s) hmlen
  obtain ⟨f1, -⟩ := parse_isSat (computeGenerator s) p hp
  set pend := s.input_cs.drop s.first_pending with hpend
  have h1' : p.isTab = pend.map tabC := h1
  have h2' : p.slacks = (pend.filter slackC).length := h2
  have h3' : p.rows = (pend.filter tabC).length := h3
  have f1' : p.isSat.length = pend.length := f1
  have hlenP : ∀ c ∈ pend, c.coeffs.length ≤ s.external_space_dim :=
    fun c hc => hS.lens c (List.mem_of_mem_drop hc)
  -- re-merging
  have R1 : ReadyS (s.input_cs.take s.first_pending) s.external_space_dim (computeGenerator s) :=
    ⟨⟨R.ready.tb, R.ready.map, R.ready.sound, R.ready.complete⟩, R.ncols, R.completeS⟩
  have hrmsplit : ∀ v, v < s.external_space_dim → p.isRemerge.getD v false = true →
      ((computeGenerator s).mapping.getD (v+1) (0, 0)).2 ≠ 0 := by
    intro v hv hr hz
    have a := (q2 v hr).2.1
    have b := (n2 v).mpr ⟨hv, hz⟩
    rw [a] at b; cases b
  obtain ⟨mOK, mG, mKeep, mBs, mInt, mFp⟩ := mergeSpec (s.input_cs.take s.first_pending) s.external_space_dim
    (computeGenerator s) p.isRemerge R1 hdims (by rw [q1]; exact hdims) hrmsplit
  obtain ⟨mk1, mk2, mk3, mk4, mk5⟩ := ppcMerge_keeps (computeGenerator s) p.isRemerge
  have hsetup : ppcSetup s = ppcFill (ppcMerge (computeGenerator s) p.isRemerge).1
      (ppcMerge (computeGenerator s) p.isRemerge).2 p (isSatF (computeGenerator s) p)
      (ppcMerge (computeGenerator s) p.isRemerge).1.mapping 0 := by
    have : ppcSetup s = ppcBuild (computeGenerator s) true p := by
      unfold ppcSetup; rw [ppcRecompute_incr s hS]; simp only [hp]
    rw [this, ppcBuild_incr _ _ (by rw [mk3, mInt]; exact hdims.symm)]
  set mg := ppcMerge (computeGenerator s) p.isRemerge with hmg
  set isF := isSatF (computeGenerator s) p with hisF
  have hnp : (computeGenerator s).input_cs.length - (computeGenerator s).first_pending = pend.length := by
    rw [hpend, List.length_drop]; rfl
  have hisFlen : isF.length = pend.length := by
    rw [hisF]; unfold isSatF
    split
    · rw [List.length_replicate]; exact hnp
    · exact f1'
  obtain ⟨nnm, jm, hMm, hjm⟩ := mG.map
  have hnc2 := mOK.nc2
  set NC := mg.1.numCols + (0 + p.slacks + (p.rows - isF.count true + mg.2.length)) with hNC
  have hSL : (mg.1.numCols - 1) + (pend.filter slackC).length < NC := by rw [hNC, ← h2']; omega
  have oLenB : mg.1.base.length = (padRows mg.1.tableau NC).length := by rw [padRows_length]; exact mOK.lenB
  have oRowLen : ∀ i, i < (padRows mg.1.tableau NC).length → ((padRows mg.1.tableau NC).getD i []).length = NC := by
    intro i hi
    rw [padRows_length] at hi
    rw [padRows_getD _ _ _ hi, List.length_append, zeros_length, mOK.rowLen i hi]
    omega
  have oZero : ∀ i, i < (padRows mg.1.tableau NC).length → ∀ col, mg.1.numCols - 1 ≤ col →
      ((padRows mg.1.tableau NC).getD i []).get col = 0 := by
    intro i hi col hcol
    rw [padRows_length] at hi
    rw [padRows_get _ _ _ _ hi]
    by_cases hc : col = mg.1.numCols - 1
    · rw [hc]; exact mOK.lastZero i hi
    · unfold Row.get
      rw [List.getD_eq_getElem?_getD, List.getElem?_eq_none (by rw [mOK.rowLen i hi]; omega)]
      rfl
  have oRange : ∀ i, i < (padRows mg.1.tableau NC).length → mg.1.base.getD i 0 ≠ 0 →
      1 ≤ mg.1.base.getD i 0 ∧ mg.1.base.getD i 0 < mg.1.numCols - 1 := by
    intro i hi hb; rw [padRows_length] at hi; exact mOK.baseRange i hi hb
  have oNZ : ∀ i, i < (padRows mg.1.tableau NC).length → mg.1.base.getD i 0 ≠ 0 →
      ((padRows mg.1.tableau NC).getD i []).get (mg.1.base.getD i 0) ≠ 0 := by
    intro i hi hb; rw [padRows_length] at hi; rw [padRows_get _ _ _ _ hi]; exact mOK.basicNZ i hi hb
  have oCol : ∀ i k, i < (padRows mg.1.tableau NC).length → k < (padRows mg.1.tableau NC).length → i ≠ k →
      mg.1.base.getD i 0 ≠ 0 → ((padRows mg.1.tableau NC).getD k []).get (mg.1.base.getD i 0) = 0 := by
    intro i k hi hk hik hb
    rw [padRows_length] at hi hk
    rw [padRows_get _ _ _ _ hk]; exact mOK.basicCol i k hi hk hik hb
  have hsatC : ∀ i, i < pend.length → isF.getD i false = true →
      slackC (pend.getD i default) = true ∧
        0 ≤ dot (pend.getD i default).coeffs (proj mg.1.mapping (bsol (padRows mg.1.tableau NC) mg.1.base)) +
          ((pend.getD i default).k : Rat) := by
    intro i hi hf
    have hci : pend.getD i default ∈ pend := by
      rw [List.getD_eq_getElem?_getD, List.getElem?_eq_getElem hi]; exact List.getElem_mem _
    by_cases hu : mg.2 = []
    · have hisp : isF = p.isSat := by rw [hisF]; unfold isSatF; rw [← hmg, hu]; rfl
      rw [hisp] at hf
      obtain ⟨g1, g2⟩ := flags_at_recomputed_cor s s.external_space_dim p R.ready.tb R.ready.map rfl hS.npos hp i hf
        (hlenP _ hci)
      refine ⟨g1, ?_⟩
      rw [bsol_padRows _ _ _ mOK.lenB,
        dot_congr_lt _ (proj mg.1.mapping (bsol mg.1.tableau mg.1.base)) (proj s.mapping (bsol s.tableau s.base))
          (fun u hu' => mBs hu u (lt_of_lt_of_le hu' (hlenP _ hci)))]
      exact g2
    · exfalso
      have hne : (!mg.2.isEmpty) = true := by
        cases hm : mg.2 with
        | nil => exact absurd hm hu
        | cons a l => rfl
      have : isF = List.replicate ((computeGenerator s).input_cs.length - (computeGenerator s).first_pending) false := by
        rw [hisF]; unfold isSatF; rw [← hmg, if_pos hne]
      rw [this, getD_replicate_false] at hf; cases hf
  let C : GCtx :=
    { M := mg.1.mapping, nn := nnm, n := s.external_space_dim, j := jm, V := mg.1.numCols - 1, numCols := NC,
      pend := pend, isSat := isF, T0 := padRows mg.1.tableau NC, base0 := mg.1.base,
      hM := hMm, hjV := hjm, hlen := hlenP, hSL := hSL, oLenB := oLenB, oRowLen := oRowLen, oZero := oZero,
      oRange := oRange, oNZ := oNZ, oCol := oCol, hsat := hsatC }
  have hCR0 : C.R0 = mg.1.tableau.length := padRows_length _ _
  have hCSL : C.SL = (mg.1.numCols - 1) + p.slacks := by rw [h2']; rfl
  have hCNn : C.Nn = p.rows := h3'.symm
  have hw0 : C.wcount 0 = isF.count true := C.wcount0 hisFlen
  have hU : C.Unf mg.2 := by
    refine ⟨fun r hr => by rw [hCR0]; exact mOK.unfLt r hr, mOK.unfNodup,
      fun r hr => mOK.unfBase r (by rw [← hCR0]; exact hr), fun r hr hb => ?_, ?_⟩
    · rw [hCR0] at hr
      show 0 ≤ -((((padRows mg.1.tableau NC).getD r []).get 0 : Int) : Rat) /
        ((((padRows mg.1.tableau NC).getD r []).get (mg.1.base.getD r 0) : Int) : Rat)
      rw [padRows_get _ _ _ _ hr, padRows_get _ _ _ _ hr]
      exact mOK.feas r hr hb
    · show NC = C.SL + mg.2.length + (C.Nn - C.wcount 0) + 1
      rw [hCSL, hCNn, hw0, hNC]; omega
  have hO : C.OldRows mg.1.tableau mg.1.numCols := ⟨rfl, rfl, hnc2⟩
  have e6 : C.numCols - (p.rows - isF.count true + mg.2.length) - 1 = C.SL := by
    rw [hCSL]; show NC - _ - 1 = _; rw [hNC]; omega
  obtain ⟨s0, hfill, g1, g2, g3, g4, g5, g6, g7, g8, g9, g10⟩ := ppcFill_incr_eq mg.1 mg.2 p isF C
    (p.rows - isF.count true + mg.2.length)
    (by rw [mk4, mFp]; rfl) (by rw [mk4, mFp]; exact hnp) h1' rfl hCNn.symm rfl rfl e6 rfl rfl rfl hCR0.symm
  -- semantics
  have hcs : s.input_cs = s.input_cs.take s.first_pending ++ pend := (List.take_append_drop _ _).symm
  have Hm7 : ∀ c ∈ C.pend, (classify c).1 = .m7 → (classify c).2 < C.n →
      (C.M.getD ((classify c).2 + 1) (0, 0)).2 = 0 ∨
      ∃ c' ∈ C.pend, ((classify c').1 = .m45 ∨ (classify c').1 = .m6) ∧ (classify c').2 = (classify c).2 := by
    intro c hc h7 hv
    rcases q3 c hc h7 hv with a | a | a
    · left
      have hz := ((n2 _).mp a).2
      by_cases hr : p.isRemerge.getD (classify c).2 false = true
      · exact mG.unsplit _ hv hr
      · exact (mKeep _ hv (by simpa using hr)).mpr hz
    · left; exact mG.unsplit _ hv a
    · right; exact a
  have Hrm : ∀ v, v < C.n → p.isRemerge.getD v false = true →
      ∃ c ∈ C.pend, (classify c).1 = .m7 ∧ (classify c).2 = v := fun v _ hr => (q2 v hr).2.2
  obtain ⟨sem1, sem2⟩ := C.incr_sem mg.2 hU (s.input_cs.take s.first_pending) p.isRemerge mg.1.tableau mg.1.numCols
    hO mG Hm7 Hrm
  refine ⟨C, mg.2, p.rows - isF.count true + mg.2.length, s0, ⟨by rw [hsetup, hfill], hU, ?_, rfl, g1, g2, g3, g4, g5,
    by rw [g6, mk3]; rfl, by rw [g7, mk1]; rfl, by rw [g8, mk2]; rfl, by rw [g9, mk5]; rfl, by rw [g10, mk4]; rfl,
    ?_, ?_⟩⟩
  · rw [hCNn, hw0]; omega
  · intro y a b c d; rw [hcs]; exact sem1 y a b c d
  · intro x hx; rw [hcs] at hx; exact sem2 x hx

end PPLV.Solver.Pend

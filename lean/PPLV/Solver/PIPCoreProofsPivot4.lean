import PPLV.Solver.PIPCoreTabSatQ
/-!
# pivot proofs: the loop invariant of the three passes of `pivot`

`T1` is the normalised tableau after the pivot row has been replaced by the identity row.  An
*unprocessed* entry of the current tableau is `f *` the entry of `T1`, a *processed* entry times `spp`
is `f *` its target numerator; `f > 0` is the product of the scale factors so far.
-/
namespace PPLV.PIPCore.Piv

/-! ### the scale factor -/

/-- the ratio `spp / gcd p spp` the code scales by is positive and makes the division of `p` exact -/
theorem sf_facts {spp : Int} (hspp : 0 < spp) (p : Int) :
    0 < spp / gcdI p spp ∧ spp ∣ p * (spp / gcdI p spp) := by
  have d1 : gcdI p spp ∣ spp := gcdI_dvd_right p spp
  have d2 : gcdI p spp ∣ p := gcdI_dvd_left p spp
  have g0 : 0 ≤ gcdI p spp := gcdI_nonneg p spp
  generalize gcdI p spp = g at d1 d2 g0
  obtain ⟨k, hk⟩ := d1
  obtain ⟨m, hm⟩ := d2
  have gne : g ≠ 0 := by
    rintro rfl; rw [Int.zero_mul] at hk; omega
  have e : spp / g = k := by rw [hk, Int.mul_ediv_cancel_left _ gne]
  rw [e]
  constructor
  · by_contra hk0
    have : g * k ≤ 0 := Int.mul_nonpos_of_nonneg_of_nonpos g0 (not_lt.mp hk0)
    omega
  · exact ⟨m, by rw [hm, hk]; ring⟩

theorem dvd_of_not_emod_ne {p spp : Int} (h : ¬ p % spp ≠ 0) : spp ∣ p :=
  Int.dvd_of_emod_eq_zero (not_not.mp h)

/-! ### what one step of each pass does

Every step scales the tableau by some `r > 0` (1 when nothing is to be scaled) so that its product is a multiple
of `spp`, divides, and stores. -/

theorem pivotStepS_eq {spp : Int} (hspp : 0 < spp) (sp : Row) (pj i : Nat) (T : Tableau) (sipj : Int)
    (j : Nat) :
    (j = pj ∧ pivotStepS sp spp pj i (T, sipj) j = (T, sipj)) ∨
    (j ≠ pj ∧ ∃ r p, 0 < r ∧ p * spp = rget sp j * (sipj * r) ∧
      pivotStepS sp spp pj i (T, sipj) j =
        (if p ≠ 0 then ({ T.scale r with s := mset (T.scale r).s i j (mget (T.scale r).s i j - p) }, sipj * r)
         else (T.scale r, sipj * r))) := by
  unfold pivotStepS
  dsimp only
  by_cases h1 : j = pj
  · rw [if_pos h1]; exact Or.inl ⟨h1, rfl⟩
  rw [if_neg h1]
  refine Or.inr ⟨h1, ?_⟩
  by_cases h2 : rget sp j = 0
  · rw [if_pos h2]
    exact ⟨1, 0, Int.one_pos, by rw [h2]; ring, by rw [if_neg (not_not.mpr rfl), scale_one, Int.mul_one]⟩
  rw [if_neg h2]
  by_cases h3 : rget sp j * sipj % spp ≠ 0
  · rw [if_pos h3]
    obtain ⟨sfpos, sfdvd⟩ := sf_facts hspp (rget sp j * sipj)
    refine ⟨_, _, sfpos, ?_, rfl⟩
    rw [Int.ediv_mul_cancel sfdvd]; ring
  · rw [if_neg h3]
    refine ⟨1, _, Int.one_pos, ?_, by rw [scale_one, Int.mul_one]⟩
    rw [Int.ediv_mul_cancel (dvd_of_not_emod_ne h3)]; ring

theorem pivotStepT_eq {spp : Int} (hspp : 0 < spp) (tp : Row) (pj i : Nat) (T : Tableau)
    (sg : List RowSign) (j : Nat) :
    (rget tp j = 0 ∧ pivotStepT tp spp pj i (T, sg) j = (T, sg)) ∨
    ∃ r p, 0 < r ∧ p * spp = rget tp j * mget (T.scale r).s i pj ∧
      pivotStepT tp spp pj i (T, sg) j =
        (if p ≠ 0 then { T.scale r with t := mset (T.scale r).t i j (mget (T.scale r).t i j - p) }
         else T.scale r, sg.set i (signStep (signGet sg i) p j)) := by
  unfold pivotStepT
  dsimp only
  by_cases h2 : rget tp j = 0
  · rw [if_pos h2]; exact Or.inl ⟨h2, rfl⟩
  rw [if_neg h2]
  refine Or.inr ?_
  by_cases h3 : rget tp j * mget T.s i pj % spp ≠ 0
  · rw [if_pos h3]
    obtain ⟨sfpos, sfdvd⟩ := sf_facts hspp (rget tp j * mget T.s i pj)
    refine ⟨_, _, sfpos, ?_, rfl⟩
    rw [Int.ediv_mul_cancel sfdvd, mget_scale_s]; ring
  · rw [if_neg h3]
    refine ⟨1, _, Int.one_pos, ?_, by rw [scale_one]⟩
    rw [Int.ediv_mul_cancel (dvd_of_not_emod_ne h3), scale_one]

theorem pivotRowC_eq {spp : Int} (hspp : 0 < spp) (D : Int) (pj : Nat) (T : Tableau) (i : Nat) :
    ∃ r p, 0 < r ∧ p * spp = mget (T.scale r).s i pj * D ∧
      pivotRowC spp D pj T i = { T.scale r with s := mset (T.scale r).s i pj p } := by
  unfold pivotRowC
  dsimp only
  by_cases h3 : mget T.s i pj * D % spp ≠ 0
  · rw [if_pos h3]
    obtain ⟨sfpos, sfdvd⟩ := sf_facts hspp (mget T.s i pj * D)
    refine ⟨_, _, sfpos, ?_, rfl⟩
    rw [Int.ediv_mul_cancel sfdvd, mget_scale_s]; ring
  · rw [if_neg h3]
    refine ⟨1, _, Int.one_pos, ?_, by rw [scale_one]⟩
    rw [Int.ediv_mul_cancel (dvd_of_not_emod_ne h3), scale_one]

/-! ### one family of entries -/

/-- entries `cur i j` (`i < n`, `j < m`): processed ones (`P`) satisfy `cur * spp = f * tgt`,
    the others `cur = f * orig` -/
def EntInv (spp f : Int) (P : Nat → Nat → Prop) (n m : Nat) (cur orig tgt : Nat → Nat → Int) : Prop :=
  ∀ i j, i < n → j < m →
    (P i j → cur i j * spp = f * tgt i j) ∧ (¬ P i j → cur i j = f * orig i j)

theorem EntInv.scale {spp f : Int} {P : Nat → Nat → Prop} {n m : Nat}
    {cur orig tgt cur' : Nat → Nat → Int} (h : EntInv spp f P n m cur orig tgt) (r : Int)
    (hc : ∀ i j, cur' i j = cur i j * r) : EntInv spp (f * r) P n m cur' orig tgt := by
  intro i j hi hj
  obtain ⟨h1, h2⟩ := h i j hi hj
  constructor
  · intro hp; rw [hc]; linear_combination r * h1 hp
  · intro hp; rw [hc]; linear_combination r * h2 hp

theorem EntInv.mono {spp f : Int} {P P' : Nat → Nat → Prop} {n m : Nat}
    {cur orig tgt : Nat → Nat → Int} (h : EntInv spp f P n m cur orig tgt)
    (hsub : ∀ i j, i < n → j < m → P i j → P' i j)
    (hnew : ∀ i j, i < n → j < m → P' i j → ¬ P i j → cur i j * spp = f * tgt i j) :
    EntInv spp f P' n m cur orig tgt := by
  intro i j hi hj
  obtain ⟨h1, h2⟩ := h i j hi hj
  constructor
  · intro hp
    by_cases hP : P i j
    · exact h1 hP
    · exact hnew i j hi hj hp hP
  · intro hp
    exact h2 (fun hP => hp (hsub i j hi hj hP))

/-- storing a finished value at `(i0, j0)` -/
theorem EntInv.set {spp f : Int} {P : Nat → Nat → Prop} {n m : Nat}
    {cur orig tgt cur' : Nat → Nat → Int} (h : EntInv spp f P n m cur orig tgt) (i0 j0 : Nat)
    (hc : ∀ i j, (i ≠ i0 ∨ j ≠ j0) → cur' i j = cur i j)
    (hv : cur' i0 j0 * spp = f * tgt i0 j0) :
    EntInv spp f (fun i j => P i j ∨ (i = i0 ∧ j = j0)) n m cur' orig tgt := by
  intro i j hi hj
  obtain ⟨h1, h2⟩ := h i j hi hj
  by_cases e : i = i0 ∧ j = j0
  · obtain ⟨rfl, rfl⟩ := e
    exact ⟨fun _ => hv, fun hn => absurd (Or.inr ⟨rfl, rfl⟩) hn⟩
  · have e' : i ≠ i0 ∨ j ≠ j0 := by
      by_cases a : i = i0
      · right; intro b; exact e ⟨a, b⟩
      · left; exact a
    rw [hc i j e']
    constructor
    · rintro (hp | hp)
      · exact h1 hp
      · exact absurd hp e
    · intro hn; exact h2 (fun hp => hn (Or.inl hp))

/-! ### the invariant -/

section inv
variable (T1 : Tableau) (sp tp : Row) (spp : Int) (pj : Nat)

/-- target numerator of `s[i][j]` -/
def tgtS (i j : Nat) : Int :=
  if j = pj then mget T1.s i pj * T1.den
  else mget T1.s i j * spp - mget T1.s i pj * rget sp j

/-- target numerator of `t[i][c]` -/
def tgtT (i c : Nat) : Int := mget T1.t i c * spp - mget T1.s i pj * rget tp c

structure PInv (PS PT : Nat → Nat → Prop) (T : Tableau) (f : Int) : Prop where
  f_pos : 0 < f
  den_eq : T.den = f * T1.den
  s_len : T.s.length = T1.s.length
  t_len : T.t.length = T1.s.length
  ns_eq : T.ns = T1.ns
  nt_eq : T.nt = T1.nt
  s_rows : RowsLen T.s T1.ns
  t_rows : RowsLen T.t T1.nt
  s_ent : EntInv spp f PS T1.s.length T1.ns (mget T.s) (mget T1.s) (tgtS T1 sp spp pj)
  t_ent : EntInv spp f PT T1.s.length T1.nt (mget T.t) (mget T1.t) (tgtT T1 tp spp pj)

variable {T1 sp tp spp pj}

theorem PInv.scale {PS PT : Nat → Nat → Prop} {T : Tableau} {f : Int}
    (h : PInv T1 sp tp spp pj PS PT T f) {r : Int} (hr : 0 < r) :
    PInv T1 sp tp spp pj PS PT (T.scale r) (f * r) where
  f_pos := Int.mul_pos h.f_pos hr
  den_eq := by rw [scale_den, h.den_eq]; ring
  s_len := by rw [scale_s_length]; exact h.s_len
  t_len := by rw [scale_t_length]; exact h.t_len
  ns_eq := h.ns_eq
  nt_eq := h.nt_eq
  s_rows := h.s_rows.map (· * r)
  t_rows := h.t_rows.map (· * r)
  s_ent := h.s_ent.scale r (mget_scale_s T r)
  t_ent := h.t_ent.scale r (mget_scale_t T r)

theorem PInv.mono {PS PT PS' PT' : Nat → Nat → Prop} {T : Tableau} {f : Int}
    (h : PInv T1 sp tp spp pj PS PT T f)
    (hsS : ∀ i j, i < T1.s.length → j < T1.ns → PS i j → PS' i j)
    (hnS : ∀ i j, i < T1.s.length → j < T1.ns → PS' i j → ¬ PS i j →
      mget T.s i j * spp = f * tgtS T1 sp spp pj i j)
    (hsT : ∀ i j, i < T1.s.length → j < T1.nt → PT i j → PT' i j)
    (hnT : ∀ i j, i < T1.s.length → j < T1.nt → PT' i j → ¬ PT i j →
      mget T.t i j * spp = f * tgtT T1 tp spp pj i j) :
    PInv T1 sp tp spp pj PS' PT' T f :=
  { h with s_ent := h.s_ent.mono hsS hnS, t_ent := h.t_ent.mono hsT hnT }

theorem PInv.monoS {PS PT PS' : Nat → Nat → Prop} {T : Tableau} {f : Int}
    (h : PInv T1 sp tp spp pj PS PT T f)
    (hsS : ∀ i j, i < T1.s.length → j < T1.ns → PS i j → PS' i j)
    (hnS : ∀ i j, i < T1.s.length → j < T1.ns → PS' i j → ¬ PS i j →
      mget T.s i j * spp = f * tgtS T1 sp spp pj i j) :
    PInv T1 sp tp spp pj PS' PT T f :=
  h.mono hsS hnS (fun _ _ _ _ hp => hp) (fun _ _ _ _ hp hn => absurd hp hn)

theorem PInv.monoT {PS PT PT' : Nat → Nat → Prop} {T : Tableau} {f : Int}
    (h : PInv T1 sp tp spp pj PS PT T f)
    (hsT : ∀ i j, i < T1.s.length → j < T1.nt → PT i j → PT' i j)
    (hnT : ∀ i j, i < T1.s.length → j < T1.nt → PT' i j → ¬ PT i j →
      mget T.t i j * spp = f * tgtT T1 tp spp pj i j) :
    PInv T1 sp tp spp pj PS PT' T f :=
  h.mono (fun _ _ _ _ hp => hp) (fun _ _ _ _ hp hn => absurd hp hn) hsT hnT

theorem PInv.setS {PS PT : Nat → Nat → Prop} {T : Tableau} {f : Int}
    (h : PInv T1 sp tp spp pj PS PT T f) {i j : Nat} (hi : i < T1.s.length) (hj : j < T1.ns)
    {x : Int} (hx : x * spp = f * tgtS T1 sp spp pj i j) :
    PInv T1 sp tp spp pj (fun a b => PS a b ∨ (a = i ∧ b = j)) PT
      { T with s := mset T.s i j x } f :=
  { h with
    s_len := by show (mset T.s i j x).length = _; rw [mset_length]; exact h.s_len
    s_rows := h.s_rows.mset i j x
    s_ent := by
      have hi' : i < T.s.length := by rw [h.s_len]; exact hi
      refine h.s_ent.set i j (fun a b hab => ?_) ?_
      · show mget (mset T.s i j x) a b = _
        exact mget_mset_ne x (by rcases hab with e | e; exact Or.inl (Ne.symm e); exact Or.inr (Ne.symm e))
      · show mget (mset T.s i j x) i j * spp = _
        rw [mget_mset_same x hi' (by rw [h.s_rows.mrow hi']; exact hj)]; exact hx }

theorem PInv.setT {PS PT : Nat → Nat → Prop} {T : Tableau} {f : Int}
    (h : PInv T1 sp tp spp pj PS PT T f) {i j : Nat} (hi : i < T1.s.length) (hj : j < T1.nt)
    {x : Int} (hx : x * spp = f * tgtT T1 tp spp pj i j) :
    PInv T1 sp tp spp pj PS (fun a b => PT a b ∨ (a = i ∧ b = j))
      { T with t := mset T.t i j x } f :=
  { h with
    t_len := by show (mset T.t i j x).length = _; rw [mset_length]; exact h.t_len
    t_rows := h.t_rows.mset i j x
    t_ent := by
      have hi' : i < T.t.length := by rw [h.t_len]; exact hi
      refine h.t_ent.set i j (fun a b hab => ?_) ?_
      · show mget (mset T.t i j x) a b = _
        exact mget_mset_ne x (by rcases hab with e | e; exact Or.inl (Ne.symm e); exact Or.inr (Ne.symm e))
      · show mget (mset T.t i j x) i j * spp = _
        rw [mget_mset_same x hi' (by rw [h.t_rows.mrow hi']; exact hj)]; exact hx }

/-- reading an unprocessed `s` entry -/
theorem PInv.s_raw {PS PT : Nat → Nat → Prop} {T : Tableau} {f : Int}
    (h : PInv T1 sp tp spp pj PS PT T f) {i j : Nat} (hi : i < T1.s.length) (hj : j < T1.ns)
    (hn : ¬ PS i j) : mget T.s i j = f * mget T1.s i j := (h.s_ent i j hi hj).2 hn

theorem PInv.t_raw {PS PT : Nat → Nat → Prop} {T : Tableau} {f : Int}
    (h : PInv T1 sp tp spp pj PS PT T f) {i j : Nat} (hi : i < T1.s.length) (hj : j < T1.nt)
    (hn : ¬ PT i j) : mget T.t i j = f * mget T1.t i j := (h.t_ent i j hi hj).2 hn

end inv

/-! ### a generic `foldl` lemma: visiting the elements of a duplicate-free list -/

theorem foldl_visit {α β : Type} (J : (β → Prop) → α → Prop) (step : α → β → α) (Q : β → Prop)
    (hstep : ∀ (V : β → Prop) a b, Q b → ¬ V b → J V a → J (fun x => V x ∨ x = b) (step a b)) :
    ∀ (l : List β) (V : β → Prop) a, l.Nodup → (∀ b ∈ l, Q b ∧ ¬ V b) → J V a →
      J (fun x => V x ∨ x ∈ l) (l.foldl step a) := by
  intro l
  induction l with
  | nil =>
    intro V a _ _ h
    have : (fun x => V x ∨ x ∈ ([] : List β)) = V := by funext x; simp
    rw [this]; exact h
  | cons b l ih =>
    intro V a hnd hq h
    rw [List.nodup_cons] at hnd
    have h1 := hstep V a b (hq b (by simp)).1 (hq b (by simp)).2 h
    have h2 := ih (fun x => V x ∨ x = b) (step a b) hnd.2 (fun c hc => by
      refine ⟨(hq c (by simp [hc])).1, ?_⟩
      rintro (hv | rfl)
      · exact (hq c (by simp [hc])).2 hv
      · exact hnd.1 hc) h1
    have : (fun x => V x ∨ x ∈ b :: l) = (fun x => (V x ∨ x = b) ∨ x ∈ l) := by
      funext x; simp [or_assoc]
    rw [this]; exact h2

theorem rowsDown_nodup (n : Nat) : (rowsDown n).Nodup := by
  unfold rowsDown
  have h : (List.range n).Nodup := List.nodup_range
  unfold List.Nodup at *
  rw [List.pairwise_reverse]
  exact h.imp (fun hab => Ne.symm hab)

theorem mem_rowsDown {n i : Nat} : i ∈ rowsDown n ↔ i < n := by
  unfold rowsDown; simp

end PPLV.PIPCore.Piv

import PPLV.Solver.PendingOracle
import PPLV.Solver.PendingProofsE2E4
import PPLV.Solver.BBSound

/-!
# the oracle induced by the model is correct (`BB.OracleOK`)
-/
namespace PPLV.Solver.Pend
open PPLV.Lin PPLV.Solver PPLV.Solver.Tab

/-- adding the rows of a node keeps the problem untouched and appends them to `input_cs` -/
theorem foldl_addConstraint (rows : List BB.InRow) (s : LPState) (h : Untouched s) :
    Untouched (rows.foldl (fun s r => addConstraint s (rowToICon r)) s) ∧
    (rows.foldl (fun s r => addConstraint s (rowToICon r)) s).input_cs = s.input_cs ++ rows.map rowToICon ∧
    (rows.foldl (fun s r => addConstraint s (rowToICon r)) s).external_space_dim = s.external_space_dim ∧
    (rows.foldl (fun s r => addConstraint s (rowToICon r)) s).last_generator = s.last_generator ∧
    (rows.foldl (fun s r => addConstraint s (rowToICon r)) s).obj = s.obj ∧
    (rows.foldl (fun s r => addConstraint s (rowToICon r)) s).maximize = s.maximize := by
  induction rows generalizing s with
  | nil => exact ⟨h, by simp, rfl, rfl, rfl, rfl⟩
  | cons r rows ih =>
    simp only [List.foldl_cons]
    have hu := (mutators_untouched s h (rowToICon r) ⟨[], 0⟩ true 0 .TEXTBOOK).1
    obtain ⟨i1, i2, i3, i4, i5, i6⟩ := ih (addConstraint s (rowToICon r)) hu
    have e : (addConstraint s (rowToICon r)).input_cs = s.input_cs ++ [rowToICon r] ∧
        (addConstraint s (rowToICon r)).external_space_dim = s.external_space_dim ∧
        (addConstraint s (rowToICon r)).last_generator = s.last_generator ∧
        (addConstraint s (rowToICon r)).obj = s.obj ∧ (addConstraint s (rowToICon r)).maximize = s.maximize := by
      unfold addConstraint; rw [h.part]; simp
    refine ⟨i1, by rw [i2, e.1]; simp, by rw [i3, e.2.1], by rw [i4, e.2.2.1], by rw [i5, e.2.2.2.1],
      by rw [i6, e.2.2.2.2]⟩

theorem nodeState_spec (N : BB.Node) :
    Untouched (nodeState N) ∧ (nodeState N).input_cs = N.rows.map rowToICon ∧
    (nodeState N).external_space_dim = N.n ∧ (nodeState N).last_generator = ⟨[], 1⟩ ∧
    (nodeState N).obj = N.obj ∧ (nodeState N).maximize = N.maximize := by
  obtain ⟨f1, f2, f3, f4, f5, f6⟩ := foldl_addConstraint N.rows (LPState.new N.n) (new_untouched N.n)
  set s0 := N.rows.foldl (fun s r => addConstraint s (rowToICon r)) (LPState.new N.n) with hs0
  have hu1 := (mutators_untouched s0 f1 ⟨[], 0, false⟩ N.obj N.maximize 0 .TEXTBOOK).2.1
  have g1 : (setObjectiveFunction s0 N.obj).input_cs = s0.input_cs ∧
      (setObjectiveFunction s0 N.obj).external_space_dim = s0.external_space_dim ∧
      (setObjectiveFunction s0 N.obj).last_generator = s0.last_generator ∧
      (setObjectiveFunction s0 N.obj).obj = N.obj ∧ (setObjectiveFunction s0 N.obj).maximize = s0.maximize := by
    unfold setObjectiveFunction; rw [f1.part]; simp
  set s1 := setObjectiveFunction s0 N.obj with hs1
  have hu2 := (mutators_untouched s1 hu1 ⟨[], 0, false⟩ N.obj N.maximize 0 .TEXTBOOK).2.2.1
  have g2 : (setOptimizationMode s1 N.maximize).input_cs = s1.input_cs ∧
      (setOptimizationMode s1 N.maximize).external_space_dim = s1.external_space_dim ∧
      (setOptimizationMode s1 N.maximize).last_generator = s1.last_generator ∧
      (setOptimizationMode s1 N.maximize).obj = s1.obj ∧ (setOptimizationMode s1 N.maximize).maximize = N.maximize := by
    unfold setOptimizationMode
    by_cases hm : s1.maximize = N.maximize
    · simp [hm]
    · have : (s1.maximize != N.maximize) = true := bne_iff_ne.mpr hm
      rw [this, hu1.part]; simp
  unfold nodeState
  rw [← hs0, ← hs1]
  refine ⟨hu2, by rw [g2.1, g1.1, f2]; simp [LPState.new], by rw [g2.2.1, g1.2.1, f3]; rfl,
    by rw [g2.2.2.1, g1.2.2.1, f4]; rfl, by rw [g2.2.2.2.1, g1.2.2.2.1], g2.2.2.2.2⟩

theorem rowToICon_toCons (r : BB.InRow) : (rowToICon r).toCons = r.toCons := rfl

/-- **the oracle induced by the model answers correctly** -/
theorem modelOracle_ok (fc : Chooser) (hfc : ChooserOK fc) (fuel : Nat) : BB.OracleOK (modelOracle fc fuel) := by
  intro N r hwf hr
  obtain ⟨w1, w2, w3, w4⟩ := hwf
  obtain ⟨n1, n2, n3, n4, n5, n6⟩ := nodeState_spec N
  unfold modelOracle at hr
  by_cases hn0 : N.n = 0
  · simp [hn0] at hr
  have hb : (N.n == 0) = false := by simpa using hn0
  rw [hb] at hr
  simp only [Bool.false_eq_true, if_false] at hr
  -- the reference problems coincide
  have hcs : N.toProblem.cs = (nodeState N).problem.cs := by
    unfold BB.Node.toProblem LPState.problem
    simp only
    rw [n2, List.flatMap_map]
    rfl
  have hlen : ∀ c ∈ (nodeState N).input_cs, c.coeffs.length ≤ (nodeState N).external_space_dim := by
    intro c hc
    rw [n2] at hc
    obtain ⟨row, hrow, rfl⟩ := List.mem_map.mp hc
    rw [n3]
    have hmem : (⟨row.coeffs, row.k, false⟩ : Con) ∈ N.toProblem.cs := by
      unfold BB.Node.toProblem
      simp only
      apply List.mem_flatMap.mpr
      refine ⟨row, hrow, ?_⟩
      unfold BB.InRow.toCons
      split <;> simp [eqRows, geRow]
    exact w1 _ hmem
  have hobjlen : (nodeState N).obj.coeffs.length ≤ (nodeState N).external_space_dim := by
    rw [n5, n3]; exact w3
  have hnpos : 0 < (nodeState N).external_space_dim := by rw [n3]; omega
  have hbetter : ∀ a b, Better N.toProblem a b ↔ Better (nodeState N).problem a b := by
    intro a b
    unfold Better BB.Node.toProblem LPState.problem
    simp only
    rw [n6]
  have hobjv : ∀ x, N.toProblem.objVal x = (nodeState N).problem.objVal x := by
    intro x
    unfold Problem.objVal BB.Node.toProblem LPState.problem
    simp only
    rw [n5]
  cases h1 : isLpSatisfiable fc fuel (nodeState N) with
  | none => rw [h1] at hr; cases hr
  | some res =>
    obtain ⟨s1, b⟩ := res
    rw [h1] at hr
    obtain ⟨c1, c2⟩ := lp_fresh_correct fc hfc fuel fuel (nodeState N) s1 b n1 n4 hnpos hlen hobjlen h1
    have hsem : ∀ x, Sat N.toProblem.cs x ↔ csSem (nodeState N).input_cs x := by
      intro x; rw [hcs]; exact (csSem_iff_Sat _ x).symm
    cases b with
    | false =>
      simp only [Option.some.injEq] at hr
      subst hr
      intro x hx
      exact c1 rfl x ((hsem x).mp hx)
    | true =>
      simp only at hr
      obtain ⟨-, c3⟩ := c2 rfl
      cases h2 : secondPhase fc fuel s1 with
      | none => rw [h2] at hr; cases hr
      | some s2 =>
        rw [h2] at hr
        simp only at hr
        obtain ⟨q1, q2, q3, q4, q5⟩ := c3 s2 h2
        by_cases hopt : s2.status = .OPTIMIZED
        · have : (s2.status == Status.OPTIMIZED) = true := by rw [hopt]; rfl
          rw [if_pos this] at hr
          simp only [Option.some.injEq] at hr
          subst hr
          refine ⟨q2, (hsem _).mpr q3, fun x hx => ?_⟩
          unfold BB.objAt
          rw [hbetter, hobjv, hobjv]
          exact q4 hopt x ((hsem x).mp hx)
        · rw [if_neg (by rw [beq_false_of_ne hopt]; exact Bool.false_ne_true)] at hr
          have hunb : s2.status = .UNBOUNDED := by
            rcases q1 with h | h
            · exact absurd h hopt
            · exact h
          have : (s2.status == Status.UNBOUNDED) = true := by rw [hunb]; rfl
          rw [if_pos this] at hr
          simp only [Option.some.injEq] at hr
          subst hr
          refine ⟨q2, (hsem _).mpr q3, fun M => ?_⟩
          obtain ⟨x, x1, x2⟩ := q5 hunb M
          exact ⟨x, (hsem x).mpr x1, by rw [hbetter, hobjv]; exact x2⟩

end PPLV.Solver.Pend

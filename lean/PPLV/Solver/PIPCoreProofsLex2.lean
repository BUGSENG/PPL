import PPLV.Solver.PIPCoreProofsLex
import Mathlib.Tactic.Linarith
import Mathlib.Tactic.Ring
/-!
# the lexicographic invariant: a pivot on a lexico-minimal column keeps the columns
lexico-non-negative (`pivot_choice_lexico`, spec level: the pivot is described by `PivotSpec`).
-/
namespace PPLV.PIPCore

attribute [local irreducible] LexPos

/-! ### get / set lemmas -/

/-! ### combinations of lexico-non-negative columns -/

theorem Lex.sign_of_mul_eq (E spp f X : Int) (hspp : 0 < spp) (hf : 0 < f) (h : E * spp = f * X) :
    (0 < X → 0 < E) ∧ (X = 0 → E = 0) := by
  constructor
  · intro hX
    exact (mul_pos_iff_of_pos_right hspp).mp (h ▸ mul_pos hf hX)
  · intro hX
    rw [hX, mul_zero] at h
    exact (Int.mul_eq_zero.mp h).resolve_right (ne_of_gt hspp)

/-- a column that is a positive multiple (after clearing the positive factor `spp`) of a
    lexico-non-negative column -/
theorem Lex.lexnn_scale (F0 F' : Nat → Row) (j : Nat) (c spp : Int) (hc : 0 < c) (hspp : 0 < spp) :
    ∀ l : List Nat, (∀ k ∈ l, rget (F' k) j * spp = c * rget (F0 k) j) →
      LexNonnegCol (l.map F0) j → LexNonnegCol (l.map F') j
  | [], _, _ => trivial
  | k :: l, he, hl => by
    obtain ⟨p1, p2⟩ := Lex.sign_of_mul_eq _ _ _ _ hspp hc (he k (by simp))
    have ih := Lex.lexnn_scale F0 F' j c spp hc hspp l (fun k hk => he k (by simp [hk]))
    rcases hl with h | ⟨h, ht⟩
    · exact Or.inl (p1 h)
    · exact Or.inr ⟨p2 h, ih ht⟩

/-- `spp * col_j - a * col_pj` with `a < 0`: non-negative combination -/
theorem Lex.lexnn_comb_neg (F0 F' : Nat → Row) (j pj : Nat) (f spp a : Int) (hf : 0 < f) (hspp : 0 < spp)
    (ha : a < 0) :
    ∀ l : List Nat,
      (∀ k ∈ l, rget (F' k) j * spp = f * (rget (F0 k) j * spp - rget (F0 k) pj * a)) →
      LexNonnegCol (l.map F0) j → LexNonnegCol (l.map F0) pj → LexNonnegCol (l.map F') j
  | [], _, _, _ => trivial
  | k :: l, he, hl, hp => by
    obtain ⟨p1, p2⟩ := Lex.sign_of_mul_eq _ _ _ _ hspp hf (he k (by simp))
    have ih := Lex.lexnn_comb_neg F0 F' j pj f spp a hf hspp ha l (fun k hk => he k (by simp [hk]))
    rcases hl with h | ⟨h, ht⟩
    · left; apply p1
      have hp0 : 0 ≤ rget (F0 k) pj := by rcases hp with h' | ⟨h', _⟩ <;> omega
      have h1 : 0 < rget (F0 k) j * spp := mul_pos h hspp
      have h2 : 0 ≤ rget (F0 k) pj * (-a) := mul_nonneg hp0 (by omega)
      linarith
    · rcases hp with h' | ⟨h', ht'⟩
      · left; apply p1
        have h2 : 0 < rget (F0 k) pj * (-a) := mul_pos h' (by omega)
        rw [h]; linarith
      · right
        refine ⟨p2 (by rw [h, h']; ring), ih ht ht'⟩

/-- `spp * col_j - a * col_pj` with `a > 0` and `a * col_pj ≤_lex spp * col_j` -/
theorem Lex.lexnn_comb_pos (F0 F' : Nat → Row) (j pj : Nat) (f spp a : Int) (hf : 0 < f) (hspp : 0 < spp) :
    ∀ l : List Nat,
      (∀ k ∈ l, rget (F' k) j * spp = f * (rget (F0 k) j * spp - rget (F0 k) pj * a)) →
      LexLeScaled (l.map F0) a pj spp j → LexNonnegCol (l.map F') j
  | [], _, _ => trivial
  | k :: l, he, hl => by
    obtain ⟨p1, p2⟩ := Lex.sign_of_mul_eq _ _ _ _ hspp hf (he k (by simp))
    have ih := Lex.lexnn_comb_pos F0 F' j pj f spp a hf hspp l (fun k hk => he k (by simp [hk]))
    rcases hl with h | ⟨h, ht⟩
    · left; apply p1; linarith
    · right; exact ⟨p2 (by linarith), ih ht⟩

/-! ### the entries of the full matrix after the pivot -/

/-- the effect of the pivot on the full row of every variable `k` (the order of the variables is
    unchanged): column `j ≠ pj` becomes `(f/spp) * (spp * col_j - s[pi][j] * col_pj)`, column `pj`
    becomes `(f * den / spp) * col_pj` -/
theorem Lex.pivot_entries (nd0 nd' : SolNode) (pi pj : Nat) (f : Int) (hwf : WF nd0)
    (hpi : pi < nd0.tab.s.length) (hpj : pj < nd0.tab.ns) (hs : PivotSpec nd0 nd' pi pj f)
    (k : Nat) (hk : k < nd0.mapping.length) :
    (∀ j, j < nd0.tab.ns → j ≠ pj →
      rget (fullRow nd' k) j * mget nd0.tab.s pi pj
        = f * (rget (fullRow nd0 k) j * mget nd0.tab.s pi pj
               - rget (fullRow nd0 k) pj * mget nd0.tab.s pi j))
    ∧ rget (fullRow nd' k) pj * mget nd0.tab.s pi pj
        = (f * nd0.tab.den) * rget (fullRow nd0 k) pj := by
  obtain ⟨vr1, vr2, vr3⟩ := hwf.vr_ok pi hpi
  obtain ⟨vc1, vc2, vc3⟩ := hwf.vc_ok pj hpj
  obtain ⟨mo1, mo2⟩ := hwf.map_ok k hk
  have hne : natGet nd0.varRow pi ≠ natGet nd0.varColumn pj := by
    intro e; rw [e, vc2] at vr2; cases vr2
  have hbl : nd0.basis.length = nd0.mapping.length := hwf.basis_len
  unfold fullRow
  rw [hs.basis_eq, hs.mapping_eq, hs.den_eq, hs.shape.2.2.1]
  by_cases hkc : k = natGet nd0.varColumn pj
  · -- the entering variable: it was the column variable of `pj`, it becomes the row variable of `pi`
    subst hkc
    rw [boolGet_set_same _ (by rw [List.length_set, hbl]; exact vc1),
      natGet_set_same _ (by rw [List.length_set]; exact vc1), vc2, vc3]
    simp only [Bool.false_eq_true, if_false, if_true]
    constructor
    · intro j hj hjp
      rw [rget_unit _ hj, rget_unit _ hpj]
      simp only [hjp, if_false, if_true]
      have := hs.s_row j hj hjp
      show mget nd'.tab.s pi j * _ = _
      rw [this]; ring
    · rw [rget_unit _ hpj]
      simp only [if_true]
      have := hs.s_piv
      show mget nd'.tab.s pi pj * _ = _
      rw [this]; ring
  · by_cases hkr : k = natGet nd0.varRow pi
    · -- the leaving variable: it was the row variable of `pi`, it becomes the column variable of `pj`
      subst hkr
      rw [boolGet_set_ne _ (Ne.symm hkc), natGet_set_ne _ (Ne.symm hkc),
        boolGet_set_same _ (by rw [hbl]; exact vr1), natGet_set_same _ vr1, vr2, vr3]
      simp only [Bool.false_eq_true, if_false, if_true]
      constructor
      · intro j hj hjp
        rw [rget_unit _ hj]
        simp only [hjp, if_false]
        show _ = f * (mget nd0.tab.s pi j * _ - mget nd0.tab.s pi pj * _)
        ring
      · rw [rget_unit _ hpj]
        simp only [if_true]
        show _ = _ * mget nd0.tab.s pi pj
        ring
    · rw [boolGet_set_ne _ (Ne.symm hkc), natGet_set_ne _ (Ne.symm hkc),
        boolGet_set_ne _ (Ne.symm hkr), natGet_set_ne _ (Ne.symm hkr)]
      cases hbk : boolGet nd0.basis k with
      | true =>
        -- another column variable: its unit row has 0 at `pj`
        obtain ⟨hm, hvc⟩ := mo1 hbk
        have hmp : natGet nd0.mapping k ≠ pj := by
          intro e; rw [e] at hvc; exact hkc hvc.symm
        simp only [if_true]
        constructor
        · intro j hj hjp
          rw [rget_unit _ hj, rget_unit _ hj, rget_unit _ hpj]
          simp only [Ne.symm hmp, if_false]
          split <;> ring
        · rw [rget_unit _ hpj, rget_unit _ hpj]
          simp only [Ne.symm hmp, if_false]
          ring
      | false =>
        -- another row variable
        obtain ⟨hm, hvr⟩ := mo2 hbk
        have hmp : natGet nd0.mapping k ≠ pi := by
          intro e; rw [e] at hvr; exact hkr hvr.symm
        simp only [Bool.false_eq_true, if_false]
        constructor
        · intro j hj hjp
          exact hs.s_other _ j hm hj hmp hjp
        · have := hs.s_col _ hm hmp
          show mget nd'.tab.s _ pj * _ = _ * mget nd0.tab.s _ pj
          rw [this]; ring

/-- **`pivot_choice_lexico`** (the hypothesis `WF nd'` of the design statement is not needed) -/
theorem pivot_choice_lexico' (nd0 nd' : SolNode) (pi pj : Nat) (f : Int) :
    WF nd0 → LexPos nd0 → pi < nd0.tab.s.length → LexMinCol nd0 pi pj →
    PivotSpec nd0 nd' pi pj f → LexPos nd' := by
  intro hwf hlp hpi ⟨hpj, hspp, hmin⟩ hs
  refine LexPos.of_cols fun j hj => ?_
  rw [hs.shape.2.2.1] at hj
  have hlen : nd'.mapping.length = nd0.mapping.length := by
    rw [hs.mapping_eq, List.length_set, List.length_set]
  unfold fullRows
  rw [hlen]
  have hent : ∀ k ∈ List.range nd0.mapping.length, _ := fun k hk =>
    Lex.pivot_entries nd0 nd' pi pj f hwf hpi hpj hs k (List.mem_range.mp hk)
  by_cases hjp : j = pj
  · subst hjp
    exact Lex.lexnn_scale (fullRow nd0) (fullRow nd') j (f * nd0.tab.den) _
      (mul_pos hs.f_pos hwf.den_pos) hspp _ (fun k hk => (hent k hk).2) (hlp.col hj)
  · rcases lt_trichotomy (mget nd0.tab.s pi j) 0 with ha | ha | ha
    · exact Lex.lexnn_comb_neg (fullRow nd0) (fullRow nd') j pj f _ _ hs.f_pos hspp ha _
        (fun k hk => (hent k hk).1 j hj hjp) (hlp.col hj) (hlp.col hpj)
    · refine Lex.lexnn_scale (fullRow nd0) (fullRow nd') j (f * mget nd0.tab.s pi pj) _
        (mul_pos hs.f_pos hspp) hspp _ (fun k hk => ?_) (hlp.col hj)
      rw [(hent k hk).1 j hj hjp, ha]; ring
    · exact Lex.lexnn_comb_pos (fullRow nd0) (fullRow nd') j pj f _ _ hs.f_pos hspp _
        (fun k hk => (hent k hk).1 j hj hjp) (hmin j hj ha)

/-- **`pivot_choice_lexico`**, as stated in the design -/
theorem pivot_choice_lexico (nd0 nd' : SolNode) (pi pj : Nat) (f : Int) :
    WF nd0 → LexPos nd0 → pi < nd0.tab.s.length → LexMinCol nd0 pi pj →
    PivotSpec nd0 nd' pi pj f → WF nd' → LexPos nd' :=
  fun hwf hlp hpi hm hs _ => pivot_choice_lexico' nd0 nd' pi pj f hwf hlp hpi hm hs

/-! ### non-vacuity: `x2 = x0 + x1 - 2` (row 0, negative), pivot on the lexico-minimal column 1 -/

def Lex.exNodeB : SolNode :=
  { tab := { s := [[1, 1], [1, -1]], t := [[-2], [1]], den := 1, ns := 2, nt := 1 }
    basis := [true, true, false, false], mapping := [0, 1, 0, 1], varRow := [2, 3], varColumn := [0, 1]
    sign := [.negative, .positive], big := none, arts := [], cons := [] }

theorem Lex.exNodeB_wf : WF Lex.exNodeB :=
  ⟨by decide, by decide, by decide, by decide, by decide, by decide, by decide, by decide, by decide,
   by decide, by decide, by decide⟩

theorem Lex.exNodeB_spec : PivotSpec Lex.exNodeB (pivot Lex.exNodeB 0 1) 0 1 1 where
  f_pos := by decide
  den_eq := by decide
  shape := by decide
  s_other := by
    have h : ∀ i, i < Lex.exNodeB.tab.s.length → ∀ j, j < Lex.exNodeB.tab.ns → i ≠ 0 → j ≠ 1 →
        mget (pivot Lex.exNodeB 0 1).tab.s i j * mget Lex.exNodeB.tab.s 0 1
          = 1 * (mget Lex.exNodeB.tab.s i j * mget Lex.exNodeB.tab.s 0 1
                 - mget Lex.exNodeB.tab.s i 1 * mget Lex.exNodeB.tab.s 0 j) := by decide
    exact fun i j hi hj => h i hi j hj
  s_col := by decide
  s_row := by decide
  s_piv := by decide
  t_other := by
    have h : ∀ i, i < Lex.exNodeB.tab.s.length → ∀ c, c < Lex.exNodeB.tab.nt → i ≠ 0 →
        mget (pivot Lex.exNodeB 0 1).tab.t i c * mget Lex.exNodeB.tab.s 0 1
          = 1 * (mget Lex.exNodeB.tab.t i c * mget Lex.exNodeB.tab.s 0 1
                 - mget Lex.exNodeB.tab.s i 1 * mget Lex.exNodeB.tab.t 0 c) := by decide
    exact fun i c hi hc => h i hi c hc
  t_row := by decide
  var_row := by decide
  var_col := by decide
  basis_eq := by decide
  mapping_eq := by decide

example : WF Lex.exNodeB ∧ LexPos Lex.exNodeB ∧ 0 < Lex.exNodeB.tab.s.length ∧ LexMinCol Lex.exNodeB 0 1
    ∧ PivotSpec Lex.exNodeB (pivot Lex.exNodeB 0 1) 0 1 1 ∧ WF (pivot Lex.exNodeB 0 1)
    ∧ LexPos (pivot Lex.exNodeB 0 1) ∧ ¬ LexMinCol Lex.exNodeB 0 0 :=
  ⟨Lex.exNodeB_wf, by decide, by decide, by decide, Lex.exNodeB_spec,
   ⟨by decide, by decide, by decide, by decide, by decide, by decide, by decide, by decide, by decide,
    by decide, by decide, by decide⟩,
   pivot_choice_lexico' _ _ 0 1 1 Lex.exNodeB_wf (by decide) (by decide) (by decide) Lex.exNodeB_spec,
   by decide⟩

end PPLV.PIPCore

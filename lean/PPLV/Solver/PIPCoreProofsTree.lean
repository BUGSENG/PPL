import PPLV.Solver.PIPCoreProofsSign2
import PPLV.Solver.PIPCoreSem2
/-!
# tree family: the parameter vector grows by suffixes

`extendArts` only appends; a row that is not longer than the vector does not see what was appended
(`dot` stops at the shorter list).  These are the facts that let the constraints a node saved BEFORE its
children were solved (`cs`, the test row) be read at the children's longer vectors.
-/
namespace PPLV.PIPCore

/-! ### (T1) basics -/

theorem extendArts_prefix : ∀ (a : List ArtP) (q : List Int),
    ∃ ext, extendArts a q = q ++ ext ∧ ext.length = a.length
  | [], q => ⟨[], by simp [extendArts]⟩
  | x :: a, q => by
    obtain ⟨e, he, hl⟩ := extendArts_prefix a (q ++ [Int.fdiv (dot x.num q) x.den])
    refine ⟨Int.fdiv (dot x.num q) x.den :: e, ?_, by simp [hl]⟩
    simp only [extendArts, he, List.append_assoc, List.singleton_append]

theorem extendArts_length (a : List ArtP) (q : List Int) :
    (extendArts a q).length = q.length + a.length := by
  obtain ⟨e, he, hl⟩ := extendArts_prefix a q
  rw [he, List.length_append, hl]

theorem consHold_nil (q : List Int) : consHold [] q = true := rfl

theorem consHold_cons (r : Row) (cons : List Row) (q : List Int) :
    consHold (r :: cons) q = (decide (0 ≤ dot r q) && consHold cons q) := by
  simp only [consHold, List.all_cons]

theorem consHold_append (a b : List Row) (q : List Int) :
    consHold (a ++ b) q = (consHold a q && consHold b q) := by
  simp only [consHold, List.all_append]

theorem consHold_singleton (r : Row) (q : List Int) : consHold [r] q = decide (0 ≤ dot r q) := by
  simp only [consHold, List.all_cons, List.all_nil, Bool.and_true]

theorem consHold_prefix {cons : List Row} {q : List Int} (e : List Int)
    (h : RowsLe cons q.length) : consHold cons (q ++ e) = consHold cons q := by
  induction cons with
  | nil => rfl
  | cons r rs ih =>
    rw [consHold_cons, consHold_cons, dot_prefix r q e (h r (by simp)),
      ih (fun r' hr' => h r' (by simp [hr']))]

theorem consHold_true_iff (cons : List Row) (q : List Int) :
    consHold cons q = true ↔ ∀ r ∈ cons, 0 ≤ dot r q := by
  simp only [consHold, List.all_eq_true, decide_eq_true_eq]

theorem rowsLe_append {a b : List Row} {n : Nat} (ha : RowsLe a n) (hb : RowsLe b n) :
    RowsLe (a ++ b) n := by
  intro r hr
  rcases List.mem_append.mp hr with h | h
  · exact ha r h
  · exact hb r h

theorem rowsLe_mono {a : List Row} {n m : Nat} (h : RowsLe a n) (hnm : n ≤ m) : RowsLe a m :=
  fun r hr => Nat.le_trans (h r hr) hnm

/-- the stored (strongly normalised) test row, read at a vector that extends `q` -/
theorem consHold_stored_test (test : Row) (q e : List Int) (h : test.length ≤ q.length) :
    consHold [rowNormalizeAll test] (q ++ e) = decide (0 ≤ dot test q) := by
  rw [consHold_singleton]
  have h1 : (0 ≤ dot (rowNormalizeAll test) (q ++ e)) ↔ (0 ≤ dot test q) := by
    rw [rowNormalizeAll_sign, dot_prefix test q e h]
  exact decide_eq_decide.mpr h1

/-- the constraint list `cs ++ child.cons ++ [test]` of a merged node, read at the child's vector -/
theorem consHold_merge (cs cons : List Row) (test : Row) (q e : List Int)
    (hcs : RowsLe cs q.length) (ht : test.length ≤ q.length) :
    consHold (addConstraint (cs ++ cons) test) (q ++ e)
      = (consHold cs q && decide (0 ≤ dot test q) && consHold cons (q ++ e)) := by
  unfold addConstraint
  rw [consHold_append, consHold_append, consHold_stored_test test q e ht, consHold_prefix e hcs]
  cases consHold cs q <;> cases decide (0 ≤ dot test q) <;> cases consHold cons (q ++ e) <;> rfl

/-! non-vacuity -/
example : extendArts [⟨[1, 1], 2⟩, ⟨[0, 0, 3], 2⟩] [1, 5] = [1, 5, 3, 4] := by decide
example : dot [2, -1] ([1, 5] ++ [7, 9]) = dot [2, -1] [1, 5] := by decide
example : consHold [[2, -1], [6]] [1, 5] = false ∧ consHold [[6, -1], [6]] [1, 5, 9] = true := by decide

end PPLV.PIPCore

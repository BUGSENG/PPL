import PPLV.Solver.PendingProofsMerge2

/-!
# re-merging the split variables (`merge_split_variable` :428, loop :734–:745): `mergeSpec : MergeSpec`

The semantics of one merge (`proj_mergeMap`, `negZero_step`, `bsol_step`), `mergeSplitVariable` in terms of the
component functions of `PendingProofsMerge2`, the loop invariant `MInv` (closed under one merge, `minv_step`; holds
initially, `minv_init`) and the theorem.
-/
namespace PPLV.Solver.Pend
open PPLV.Lin PPLV.Solver PPLV.Solver.Tab

/-! ### projections -/

/-- the point encoded by a valuation of the shortened tableau under the new mapping is the point encoded by the
    valuation with 0 inserted under the old one -/
theorem proj_mergeMap {M : List (Nat × Nat)} {n nc : Nat} (h : MapS M n nc) (v : Nat) (hv : v < n)
    (hq : (M.getD (v+1) (0, 0)).2 ≠ 0) (y : Val) :
    proj (mergeMap M v) y = proj M (insertZero (M.getD (v+1) (0, 0)).2 y) := by
  obtain ⟨o1, o2, o3, -⟩ := h.others v hv hq
  funext u
  by_cases hu : u < n
  · by_cases huv : u = v
    · subst huv
      unfold proj
      simp only
      rw [mergeMap_getD_self h u hv hq, insertZero_at, insertZero_ne _ _ _ (by omega)]
      rw [shiftDown_of_le (by omega)]
      simp
    · obtain ⟨n1, n2, -⟩ := h.other_ne v hv hq u hu huv
      unfold proj
      simp only
      rw [mergeMap_getD_other h v hv u huv, insertZero_ne _ _ _ n1]
      unfold shiftPair
      simp only
      by_cases hb : (M.getD (u+1) (0, 0)).2 = 0
      · rw [hb, shiftDown_zero]; simp
      · have hb' : shiftDown (M.getD (v+1) (0, 0)).2 (M.getD (u+1) (0, 0)).2 ≠ 0 :=
          fun h0 => hb ((shiftDown_eq_zero _ _ (by omega)).mp h0)
        rw [insertZero_ne _ _ _ n2]
        have e1 : (shiftDown (M.getD (v+1) (0, 0)).2 (M.getD (u+1) (0, 0)).2 != 0) = true := by simpa using hb'
        have e2 : ((M.getD (u+1) (0, 0)).2 != 0) = true := by simpa using hb
        rw [e1, e2]
  · have e1 : M.getD (u+1) (0, 0) = (0, 0) := by
      rw [List.getD_eq_getElem?_getD, List.getElem?_eq_none (by rw [h.len]; omega)]; rfl
    have e2 : (mergeMap M v).getD (u+1) (0, 0) = (0, 0) := by
      rw [List.getD_eq_getElem?_getD, List.getElem?_eq_none (by rw [mergeMap_length, h.len]; omega)]; rfl
    unfold proj
    simp only
    rw [e1, e2, insertZero_ne _ _ _ (by simp only; omega), shiftDown_zero]

theorem negZero_step {M : List (Nat × Nat)} {n nc : Nat} (h : MapS M n nc) (v : Nat) (hv : v < n)
    (hq : (M.getD (v+1) (0, 0)).2 ≠ 0) (x y : Val) (hN : NegZero M n x y) :
    NegZero (mergeMap M v) n x (deleteAt (M.getD (v+1) (0, 0)).2 y) := by
  obtain ⟨o1, o2, o3, -⟩ := h.others v hv hq
  intro u hu hne hx
  have huv : u ≠ v := by
    intro e; subst e
    rw [mergeMap_getD_self h u hv hq] at hne; exact hne rfl
  obtain ⟨-, n2, -⟩ := h.other_ne v hv hq u hu huv
  rw [mergeMap_getD_other h v hv u huv] at hne ⊢
  unfold shiftPair at hne ⊢
  simp only at hne ⊢
  have hb : (M.getD (u+1) (0, 0)).2 ≠ 0 := fun h0 => hne (by rw [h0, shiftDown_zero])
  unfold deleteAt
  rw [unshift_shiftDown _ _ n2]
  exact hN u hu hb hx

/-! ### the basic solution when the removed column is not basic -/

theorem rowOf_eq_none {base : List Nat} {j : Nat} (h : ∀ i, i < base.length → base.getD i 0 ≠ j) :
    rowOf base j = none := by
  unfold rowOf
  apply List.find?_eq_none.mpr
  intro i hi
  simpa using h i (List.mem_range.mp hi)

theorem bsol_step (T : List Row) (base : List Nat) (q : Nat) (hq1 : 1 ≤ q)
    (hne : ∀ i, i < base.length → base.getD i 0 ≠ q) :
    bsol T base = insertZero q (bsol (eraseCol T q) (base.map (shiftDown q))) := by
  have key : ∀ j', bsol (eraseCol T q) (base.map (shiftDown q)) j' = bsol T base (unshift q j') := by
    intro j'
    unfold bsol
    by_cases h0 : j' = 0
    · rw [if_pos h0, h0, unshift_zero q hq1, if_pos rfl]
    · have h0' : unshift q j' ≠ 0 := by unfold unshift; split_ifs <;> omega
      rw [if_neg h0, if_neg h0']
      have hr : rowOf (base.map (shiftDown q)) j' = rowOf base (unshift q j') := by
        unfold rowOf
        rw [List.length_map]
        apply find?_congr'
        intro i hi
        have hi' := List.mem_range.mp hi
        rw [getD_map_gen base (shiftDown q) 0 (shiftDown_zero q) i]
        have hb := hne i hi'
        have e1 := unshift_shiftDown q _ hb
        have e2 : shiftDown q (unshift q j') = j' := by unfold unshift shiftDown; split_ifs <;> omega
        by_cases hc : base.getD i 0 = unshift q j'
        · have : shiftDown q (base.getD i 0) = j' := by rw [hc, e2]
          rw [this, hc]; simp
        · have : shiftDown q (base.getD i 0) ≠ j' := fun h => hc (by rw [← e1, h])
          rw [beq_false_of_ne this, beq_false_of_ne hc]
      rw [hr]
      cases rowOf base (unshift q j') with
      | none => rfl
      | some i =>
        simp only
        rw [eraseCol_get, eraseCol_get, unshift_zero q hq1]
  funext j
  by_cases hj : j = q
  · rw [hj, insertZero_at]
    unfold bsol
    rw [if_neg (by omega), rowOf_eq_none hne]
  · rw [insertZero_ne q j _ hj, key, unshift_shiftDown q j hj]

/-! ### `merge_split_variable` through the component functions -/

theorem mergeSplitVariable_eq (s : LPState) (v : Nat) :
    mergeSplitVariable s v =
      ({ s with tableau := eraseCol s.tableau (s.mapping.getD (1 + v) (0, 0)).2, numCols := s.numCols - 1,
                mapping := mergeMap s.mapping v,
                base := mergeBase s.base (s.mapping.getD (1 + v) (0, 0)).2 },
        isInBase s.base (s.mapping.getD (1 + v) (0, 0)).2) := by
  cases h : isInBase s.base (s.mapping.getD (1 + v) (0, 0)).2 <;>
  · unfold mergeSplitVariable mergeBase mergeMap eraseCol
    simp only [h]; rfl

/-- the body of the loop :734–:745 -/
def mstep (rm : List Bool) (i : Nat) (acc : LPState × List Nat) : LPState × List Nat :=
  if rm.getD i false then
    let (s', r) := mergeSplitVariable acc.1 i
    (s', match r with | some r => acc.2 ++ [r] | none => acc.2)
  else acc

theorem ppcMerge_eq (s : LPState) (rm : List Bool) :
    ppcMerge s rm = revFold s.internal_space_dim (mstep rm) (s, []) := rfl

theorem mstep_false (rm : List Bool) (i : Nat) (acc : LPState × List Nat) (h : rm.getD i false = false) :
    mstep rm i acc = acc := by
  unfold mstep; rw [h]; rfl

theorem mstep_true (rm : List Bool) (i : Nat) (acc : LPState × List Nat) (h : rm.getD i false = true) :
    mstep rm i acc =
      ({ acc.1 with tableau := eraseCol acc.1.tableau (acc.1.mapping.getD (i+1) (0, 0)).2,
                    numCols := acc.1.numCols - 1,
                    mapping := mergeMap acc.1.mapping i,
                    base := mergeBase acc.1.base (acc.1.mapping.getD (i+1) (0, 0)).2 },
        mergeUnf acc.2 acc.1.base (acc.1.mapping.getD (i+1) (0, 0)).2) := by
  unfold mstep
  rw [h, if_pos rfl, mergeSplitVariable_eq, Nat.add_comm 1 i]
  unfold mergeUnf
  rfl

/-! ### the loop invariant -/

/-- the invariant of the merge loop: the variables `≥ k` flagged in `rm` are merged -/
structure MInv (cs0 : List ICon) (n : Nat) (s0 : LPState) (rm : List Bool) (k : Nat) (acc : LPState × List Nat) :
    Prop where
  isd : acc.1.internal_space_dim = s0.internal_space_dim
  fp : acc.1.first_pending = s0.first_pending
  ok : OldOK acc.1.tableau acc.1.base acc.1.numCols acc.2
  maps : MapS acc.1.mapping n acc.1.numCols
  split : ∀ v, v < n → (v < k ∨ rm.getD v false = false) →
    ((acc.1.mapping.getD (v+1) (0, 0)).2 = 0 ↔ (s0.mapping.getD (v+1) (0, 0)).2 = 0)
  unsplit : ∀ v, v < n → k ≤ v → rm.getD v false = true → (acc.1.mapping.getD (v+1) (0, 0)).2 = 0
  sound : ∀ y, Pos0 acc.1.numCols y → Sol acc.1.tableau y → csSem cs0 (proj acc.1.mapping y)
  complete : ∀ x, csSem cs0 x → (∀ v, v < n → k ≤ v → rm.getD v false = true → 0 ≤ x v) →
    ∃ y, Pos0 acc.1.numCols y ∧ Sol acc.1.tableau y ∧ (∀ i, i < n → proj acc.1.mapping y i = x i) ∧
      NegZero acc.1.mapping n x y
  bs : acc.2 = [] → ∀ i, i < n →
    proj acc.1.mapping (bsol acc.1.tableau acc.1.base) i = proj s0.mapping (bsol s0.tableau s0.base) i

theorem minv_init (cs0 : List ICon) (n : Nat) (s : LPState) (rm : List Bool) (k : Nat) (hk : n ≤ k)
    (h : ReadyS cs0 n s) : MInv cs0 n s rm k (s, []) := by
  have hnc := h.ncols
  have tb := h.ready.tb
  obtain ⟨nn, j, hM, hj⟩ := h.ready.map
  refine ⟨rfl, rfl, ?_, ?_, fun _ _ _ => Iff.rfl, fun v hv hkv _ => by omega, ?_, ?_, fun _ _ _ => rfl⟩
  · simp only
    rw [hnc]
    exact ⟨tb.lenB, tb.len2, tb.rowLen, tb.lastZero, fun r hr => by simp at hr, List.nodup_nil,
      fun i hi => ⟨fun h0 => by have := (tb.baseRange i hi).1; omega, fun hin => by simp at hin⟩,
      fun i hi _ => tb.baseRange i hi, fun i hi _ => tb.basicNZ i hi,
      fun i j hi hj hij _ => tb.basicCol i j hi hj hij, fun i hi _ => tb.feas i hi⟩
  · simp only
    rw [hnc]; exact MapS.ofMapOK hM hj
  · simp only
    rw [hnc]; exact h.ready.sound
  · simp only
    rw [hnc]; intro x hx _; exact h.completeS x hx

theorem minv_step (cs0 : List ICon) (n : Nat) (s0 : LPState) (rm : List Bool)
    (hrm : ∀ v, v < n → rm.getD v false = true → (s0.mapping.getD (v+1) (0, 0)).2 ≠ 0)
    (i : Nat) (hi : i < n) (acc : LPState × List Nat) (h : MInv cs0 n s0 rm (i+1) acc) :
    MInv cs0 n s0 rm i (mstep rm i acc) := by
  cases hf : rm.getD i false with
  | false =>
    rw [mstep_false rm i acc hf]
    refine ⟨h.isd, h.fp, h.ok, h.maps, fun v hv hc => h.split v hv (hc.elim (fun a => Or.inl (by omega)) Or.inr), fun v hv hkv hr => ?_,
      h.sound,
      fun x hx hpos => ?_, h.bs⟩
    · have : v ≠ i := by intro e; rw [e, hf] at hr; cases hr
      exact h.unsplit v hv (by omega) hr
    · exact h.complete x hx (fun v hv hkv hr => hpos v hv (by omega) hr)
  | true =>
    rw [mstep_true rm i acc hf]
    obtain ⟨s, unf⟩ := acc
    simp only at h ⊢
    have hq : (s.mapping.getD (i+1) (0, 0)).2 ≠ 0 := by
      intro h0
      exact hrm i hi hf ((h.split i hi (Or.inl (by omega))).mp h0)
    have hM := h.maps
    have hok := h.ok
    simp only at hM hok
    obtain ⟨o1, o2, o3, -⟩ := hM.others i hi hq
    obtain ⟨m1, m2, m3⟩ := mapS_step hM i hi hq
    have hq1 : 1 ≤ (s.mapping.getD (i+1) (0, 0)).2 := by omega
    refine ⟨h.isd, h.fp, ?_, m1, fun v hv hc => ?_, fun v hv hkv hr => ?_, fun y hy hs => ?_,
      fun x hx hpos => ?_, fun hu j hj => ?_⟩
    · exact oldOK_step hok _ (by omega) o3
    · have hvi : v ≠ i := by
        intro e; rcases hc with hc | hc
        · omega
        · rw [e, hf] at hc; cases hc
      simp only
      rw [m3 v hv hvi]
      exact h.split v hv (by rcases hc with hc | hc; exact Or.inl (by omega); exact Or.inr hc)
    · simp only
      by_cases hvi : v = i
      · rw [hvi]; exact m2
      · rw [m3 v hv hvi]; exact h.unsplit v hv (by omega) hr
    · simp only at hy hs ⊢
      rw [proj_mergeMap hM i hi hq]
      exact h.sound _ (pos0_insertZero _ _ _ hq1 o3 hy) ((sol_erase_iff _ _ _).mp hs)
    · simp only
      obtain ⟨y, y1, y2, y3, y4⟩ := h.complete x hx (fun v hv hkv hr => hpos v hv (by omega) hr)
      simp only at y1 y2 y3 y4
      have hyq : y (s.mapping.getD (i+1) (0, 0)).2 = 0 := y4 i hi hq (hpos i hi (le_refl _) hf)
      refine ⟨deleteAt (s.mapping.getD (i+1) (0, 0)).2 y, pos0_deleteAt _ _ _ hq1 o3 y1, ?_, ?_,
        negZero_step hM i hi hq x y y4⟩
      · rw [sol_erase_iff, insertZero_deleteAt _ _ hyq]; exact y2
      · intro u hu
        rw [proj_mergeMap hM i hi hq, insertZero_deleteAt _ _ hyq]; exact y3 u hu
    · simp only at hu ⊢
      obtain ⟨-, -, -, -, b5⟩ := mergeBase_spec (s.mapping.getD (i+1) (0, 0)).2 hok hq1
      obtain ⟨u1, u2, u3⟩ := b5 hu
      rw [proj_mergeMap hM i hi hq, u2, ← bsol_step s.tableau s.base _ hq1 (by rw [hok.lenB]; exact u3)]
      exact h.bs u1 j hj

theorem mergeSpec : MergeSpec := by
  intro cs0 n s rm hR hisd hlen hrm
  rw [ppcMerge_eq, hisd]
  have key := revFold_inv (fun k acc => MInv cs0 n s rm k acc) (mstep rm) n (s, [])
    (minv_init cs0 n s rm n (le_refl _) hR) (fun i hi acc hacc => minv_step cs0 n s rm hrm i hi acc hacc)
  generalize revFold n (mstep rm) (s, []) = out at key
  refine ⟨key.ok, ⟨key.maps.toMapOK key.ok.nc2, fun v hv hr => key.unsplit v hv (Nat.zero_le _) hr, key.sound,
    fun x hx hpos => key.complete x hx (fun v hv _ hr => hpos v hv hr)⟩,
    fun v hv hr => key.split v hv (Or.inr hr), key.bs, key.isd.trans hisd, key.fp⟩

/-! ### a non-trivial instance: `x₀ + 1 ≥ 0`, `x₀ = y₁ − y₂`, slack `y₃`, the negative part `y₂` basic -/

namespace MergeExample

def cs0 : List ICon := [⟨[1], 1, false⟩]

def st : LPState :=
  { external_space_dim := 1, internal_space_dim := 1, tableau := [[1, 1, -1, -1, 0]], numCols := 5,
    working_cost := [0, 0, 0, 0, 1], mapping := [(0, 0), (1, 2)], base := [2], input_cs := cs0, first_pending := 1 }

def wit (x : Val) : Val := fun j =>
  if j = 0 then 1 else if j = 1 then max (x 0) 0 else if j = 2 then max (-(x 0)) 0 else if j = 3 then x 0 + 1 else 0

theorem wit_spec (x : Val) (hx : csSem cs0 x) :
    Pos0 5 (wit x) ∧ Sol st.tableau (wit x) ∧ (∀ i, i < 1 → proj st.mapping (wit x) i = x i) ∧
      NegZero st.mapping 1 x (wit x) := by
  have h0 : 0 ≤ x 0 + 1 := by
    have := hx ⟨[1], 1, false⟩ (by simp [cs0])
    simpa [ICon.holds, dot] using this
  have hmax : max (x 0) 0 - max (-(x 0)) 0 = x 0 := by
    rcases le_total 0 (x 0) with h | h
    · rw [max_eq_left h, max_eq_right (by linarith)]; ring
    · rw [max_eq_right h, max_eq_left (by linarith)]; ring
  refine ⟨⟨rfl, fun j hj => ?_, fun j hj => ?_⟩, fun i hi => ?_, fun i hi => ?_, fun v hv _ hxv => ?_⟩
  · unfold wit
    split_ifs
    · norm_num
    · exact le_max_right _ _
    · exact le_max_right _ _
    · exact h0
    · exact le_refl _
  · unfold wit
    rw [if_neg (by omega), if_neg (by omega), if_neg (by omega), if_neg (by omega)]
  · have : i = 0 := by simpa [st] using hi
    subst this
    simp only [st, List.getD_cons_zero, rowVal, dot, Val.tail, wit]
    norm_num
    linarith
  · have : i = 0 := by omega
    subst this
    simp only [proj, st, wit]
    norm_num
    exact hmax
  · have : v = 0 := by omega
    subst this
    simp only [st, wit]
    norm_num
    linarith

theorem readyS : ReadyS cs0 1 st := by
  refine ⟨⟨?_, ⟨[false], 2, ⟨rfl, rfl, fun u hu => ?_, fun u u' h1 h2 => by omega⟩, by decide⟩, fun y hy hs => ?_,
    fun x hx => ?_⟩, rfl, fun x hx => ⟨wit x, wit_spec x hx⟩⟩
  · have one : ∀ i, i < st.tableau.length → i = 0 := by intro i hi; simpa [st] using hi
    refine ⟨rfl, by decide, fun i hi => ?_, fun i hi => ?_, fun i hi => ?_, fun i j hi hj hij => ?_, fun i hi => ?_,
      fun i hi => ?_⟩
    · rw [one i hi]; rfl
    · rw [one i hi]; decide
    · rw [one i hi]; decide
    · rw [one i hi, one j hj] at hij; exact absurd rfl hij
    · rw [one i hi]; rfl
    · rw [one i hi]; simp [st, Row.get]
  · have : u = 0 := by omega
    subst this
    simp [st, hiCol]
  · have h1 := hs 0 (by simp [st])
    simp only [st, List.getD_cons_zero, rowVal, dot, Val.tail] at h1
    obtain ⟨y0, ypos, -⟩ := hy
    have := ypos 3 (by omega)
    intro c hc
    simp only [cs0, List.mem_singleton] at hc
    subst hc
    simp only [ICon.holds, dot, proj, st]
    norm_num at h1 ⊢
    linarith
  · obtain ⟨w1, w2, w3, -⟩ := wit_spec x hx
    exact ⟨wit x, w1, w2, w3⟩

/-- the hypotheses of `mergeSpec` hold on the instance … -/
example : OldOK (ppcMerge st [true]).1.tableau (ppcMerge st [true]).1.base (ppcMerge st [true]).1.numCols
    (ppcMerge st [true]).2 :=
  (mergeSpec cs0 1 st [true] readyS rfl rfl (fun v hv _ => by
    have : v = 0 := by omega
    subst this; decide)).1

/-- … and the merge removes column 2, whose row 0 is reported -/
example : (ppcMerge st [true]).2 = [0] ∧ (ppcMerge st [true]).1.tableau = [[1, 1, -1, 0]] ∧
    (ppcMerge st [true]).1.base = [0] ∧ (ppcMerge st [true]).1.mapping = [(0, 0), (1, 0)] ∧
    (ppcMerge st [true]).1.numCols = 4 := by decide

end MergeExample

end PPLV.Solver.Pend

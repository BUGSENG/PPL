import PPLV.Solver.PendingProofsGen

/-!
# `lp_fresh_correct`: status, witness point (`last_generator`) and optimality
-/
namespace PPLV.Solver.Pend
open PPLV.Lin PPLV.Solver PPLV.Solver.Tab

theorem bsol_eq_basicPt {t : Tab} (hC : Canon t) : bsol t.T t.base = basicPt t := by
  funext j
  unfold bsol basicPt rayPt
  by_cases hj0 : j = 0
  · simp [hj0]
  · rw [if_neg hj0, if_neg hj0]
    by_cases hjl : j = t.cost.length - 1
    · rw [if_pos hjl]
      have : rowOf t.base j = none := by
        cases hr : rowOf t.base j with
        | none => rfl
        | some i =>
          exfalso
          obtain ⟨hi, hb⟩ := rowOf_some hr
          rw [hC.lenB] at hi
          have := (hC.baseRange i hi).2
          omega
      rw [this]
    · rw [if_neg hjl]
      cases rowOf t.base j with
      | none => rfl
      | some i => simp

/-- `second_phase()` with the point it leaves in `last_generator` -/
theorem secondPhase_sound' (fc : Chooser) (hfc : ChooserOK fc) (fuel : Nat) (s s' : LPState)
    (hst : s.status = .SATISFIABLE) (hTB : CanonTB s.tableau s.base s.working_cost.length)
    (hcl : (secondPhaseCost s).length = s.working_cost.length)
    (hcs : (secondPhaseCost s).get (s.working_cost.length - 1) ≠ 0)
    (h : secondPhase fc fuel s = some s') :
    CanonTB s'.tableau s'.base s.working_cost.length ∧
    s'.last_generator = computeGeneratorPt s.external_space_dim s'.tableau s'.base s.mapping ∧
    Sol s.tableau (bsol s'.tableau s'.base) ∧ NonnegPt s.working_cost.length (bsol s'.tableau s'.base) ∧
    (s'.status = .OPTIMIZED → ∀ y, Sol s.tableau y → NonnegPt s.working_cost.length y →
      objAt (secondPhaseCost s) y ≤ objAt (secondPhaseCost s) (bsol s'.tableau s'.base)) := by
  obtain ⟨ok, t, hC, hrun, r1, r4, h⟩ := secondPhase_run fc fuel s s' hst hTB hcl hcs h
  obtain ⟨p1, p2, p3, p4, p5, p6⟩ :=
    pricing_choice_irrelevant _ (chooserOf_ok fc hfc s.pricing) fuel _ ok t hC hrun
  obtain ⟨-, q2, -⟩ := simplex_loop _ (chooserOf_ok fc hfc s.pricing) fuel _ ok t hC hrun
  have hlen : t.cost.length = s.working_cost.length := by rw [q2]; exact r1
  subst h
  simp only [computeGenerator, LPState.withTab]
  obtain ⟨b1, b2, b3⟩ := basic_solution p2
  have hbs := bsol_eq_basicPt p2
  have hs1 : Sol s.tableau (basicPt t) := (p1 _).mp b1
  refine ⟨by rw [← hlen]; exact p2.toTB, by first | rfl | trivial, by rw [hbs]; exact hs1, by rw [hbs, ← hlen]; exact b2, ?_⟩
  intro hopt y hy hn
  have hok : ok = true := by
    cases ok
    · cases hopt
    · rfl
  rw [hbs]
  have e1 := p4 hok y hy (by show NonnegPt (reexpress _ _ _).length y; rw [r1]; exact hn)
  obtain ⟨-, -, e3⟩ := p5 hok
  have a1 : objAt (reexpress s.tableau s.base (secondPhaseCost s)) y = objAt (secondPhaseCost s) y := r4 y hy
  have a2 : objAt (reexpress s.tableau s.base (secondPhaseCost s)) (basicPt t) =
      objAt (secondPhaseCost s) (basicPt t) := r4 _ hs1
  have e1' : objAt (reexpress s.tableau s.base (secondPhaseCost s)) y ≤ basicObj t.cost := e1
  have e3' : objAt (reexpress s.tableau s.base (secondPhaseCost s)) (basicPt t) = basicObj t.cost := e3
  rw [a1] at e1'; rw [a2] at e3'
  rw [e3']; exact e1'

theorem holds_congr (c : ICon) (x x' : Val) (h : ∀ i, i < c.coeffs.length → x i = x' i) : c.holds x ↔ c.holds x' := by
  unfold ICon.holds
  rw [dot_congr_lt c.coeffs x x' h]

theorem csSem_congr (cs : List ICon) (n : Nat) (hl : ∀ c ∈ cs, c.coeffs.length ≤ n) (x x' : Val)
    (h : ∀ i, i < n → x i = x' i) : csSem cs x ↔ csSem cs x' := by
  unfold csSem
  constructor
  · intro hx c hc
    exact (holds_congr c x x' (fun i hi => h i (lt_of_lt_of_le hi (hl c hc)))).mp (hx c hc)
  · intro hx c hc
    exact (holds_congr c x x' (fun i hi => h i (lt_of_lt_of_le hi (hl c hc)))).mpr (hx c hc)

/-- **the LP answers on a problem never solved before are right, with `last_generator` as the witness.**
    `s1` is the SATISFIABLE state left by the first `is_lp_satisfiable()` (`Ready`), `s2` the state after
    `second_phase()`: the status is OPTIMIZED or UNBOUNDED; `last_generator` has a positive divisor and satisfies
    every constraint; OPTIMIZED ⇒ no point of the solution set has a better objective value than `last_generator`;
    UNBOUNDED ⇒ the solution set has points of arbitrarily good objective value. -/
theorem secondPhase_fresh_witness (fc : Chooser) (hfc : ChooserOK fc) (fuel : Nat) (s s1 s2 : LPState)
    (hst : s1.status = .SATISFIABLE) (hR : Ready s.input_cs s.external_space_dim s1)
    (ho : s1.obj = s.obj) (hm : s1.maximize = s.maximize) (he : s1.external_space_dim = s.external_space_dim)
    (hn : 0 < s.external_space_dim) (hl : ∀ c ∈ s.input_cs, c.coeffs.length ≤ s.external_space_dim)
    (hobj : s.obj.coeffs.length ≤ s.external_space_dim)
    (h : secondPhase fc fuel s1 = some s2) :
    (s2.status = .OPTIMIZED ∨ s2.status = .UNBOUNDED) ∧
    0 < s2.last_generator.den ∧ csSem s.input_cs s2.last_generator.val ∧
    (s2.status = .OPTIMIZED →
      ∀ x, csSem s.input_cs x → ¬ Better s.problem (s.problem.objVal x) (s.problem.objVal s2.last_generator.val)) ∧
    (s2.status = .UNBOUNDED →
      ∀ M : Rat, ∃ x, csSem s.input_cs x ∧ Better s.problem (s.problem.objVal x) M) := by
  obtain ⟨q1, -, q3⟩ := secondPhase_fresh_correct fc hfc fuel s s1 s2 hst hR ho hm hobj h
  obtain ⟨nn, jj, hM, hjj⟩ := hR.map
  have hobj1 : s1.obj.coeffs.length ≤ s.external_space_dim := by rw [ho]; exact hobj
  obtain ⟨c1, c2, -⟩ := secondPhaseCost_spec s1 nn _ jj hM hjj hobj1
  have hc2 : (secondPhaseCost s1).get (s1.working_cost.length - 1) ≠ 0 := by rw [c2]; decide
  obtain ⟨w1, w2, w3, w4, w5⟩ := secondPhase_sound' fc hfc fuel s1 s2 hst hR.tb c1 hc2 h
  have hsg : sgnObj s1 = sgnObj s := by unfold sgnObj; rw [ho, hm]
  have hsl : (sgnObj s).length ≤ s.external_space_dim := by unfold sgnObj; simpa using hobj
  set n2 := s1.working_cost.length with hn2
  set yb := bsol s2.tableau s2.base with hyb
  -- the generator is the projection of the basic solution
  have hcols : ∀ i, i < s.external_space_dim → (s1.mapping.getD (i+1) (0, 0)).1 ≠ 0 := by
    intro i hi; have := (hM.cols i hi).1; omega
  obtain ⟨g1, g2, g3⟩ := computeGeneratorPt_spec w1 s1.mapping s.external_space_dim hn hcols
  rw [he] at w2
  rw [← w2] at g1 g3
  -- the basic solution, cut after the sign column, is a `Pos0` solution
  have hcut : Pos0 n2 (trunc n2 yb) ∧ Sol s1.tableau (trunc n2 yb) ∧
      proj s1.mapping (trunc n2 yb) = proj s1.mapping yb := by
    have hn22 : 2 ≤ n2 := hR.tb.len2
    refine ⟨⟨?_, fun j hj => ?_, fun j hj => ?_⟩, ?_, ?_⟩
    · unfold trunc; rw [if_pos (by omega)]; exact w4.1
    · unfold trunc; split
      · by_cases hjl : j < n2 - 1
        · exact w4.2.2 j hj hjl
        · have : j = n2 - 1 := by omega
          rw [this, w4.2.1]
      · exact le_refl _
    · unfold trunc; split
      · have : j = n2 - 1 := by omega
        rw [this, w4.2.1]
      · rfl
    · intro i hi
      unfold rowVal
      rw [dot_trunc _ _ _ (fun j h1 h2 => by have := hR.tb.rowLen i hi; omega)]
      exact w3 i hi
    · exact proj_congr s1.mapping nn _ jj hM _ _ (fun col hcol => by unfold trunc; rw [if_pos (by omega)])
  have hsem_b : csSem s.input_cs (proj s1.mapping yb) := by rw [← hcut.2.2]; exact hR.sound _ hcut.1 hcut.2.1
  have hsem_g : csSem s.input_cs s2.last_generator.val :=
    (csSem_congr s.input_cs s.external_space_dim hl _ _ g3).mpr hsem_b
  have hobj_g : dot (sgnObj s) s2.last_generator.val = dot (sgnObj s) (proj s1.mapping yb) :=
    dot_congr_lt _ _ _ (fun u hu => g3 u (by omega))
  refine ⟨q1, g1, hsem_g, fun hopt x hx => ?_, fun hunb => (q3 hunb).2⟩
  rw [not_better_iff, hobj_g]
  obtain ⟨y, y1, y2, y3⟩ := hR.complete x hx
  have hb := w5 hopt y y2 y1.nonnegPt
  rw [objAt_secondPhaseCost s1 nn _ jj hM hjj hobj1 y y1.nonnegPt,
    objAt_secondPhaseCost s1 nn _ jj hM hjj hobj1 yb w4, hsg] at hb
  rw [← dot_congr_lt (sgnObj s) (proj s1.mapping y) x (fun u hu => y3 u (by omega))]
  exact hb

/-- a feasible basis has a non-negative solution: a `Ready` state witnesses that the constraints are satisfiable -/
theorem ready_exists (cs : List ICon) (n : Nat) (sR : LPState) (hR : Ready cs n sR) : ∃ x, csSem cs x := by
  have hn2 := hR.tb.len2
  set n2 := sR.working_cost.length with hn2d
  set c : Row := (zeros n2).set (n2 - 1) 1 with hc
  have hlen : c.length = n2 := by rw [hc, List.length_set]; simp [zeros]
  have hget : ∀ j, c.get j = if j = n2 - 1 then 1 else 0 := by
    intro j
    unfold Row.get
    rw [hc, getD_set, zeros_getD]
    by_cases hj : j = n2 - 1
    · rw [if_pos ⟨hj, by simp [zeros]; omega⟩, if_pos hj]
    · rw [if_neg (fun a => hj a.1), if_neg hj]
  have hC : Canon ⟨sR.tableau, c, sR.base⟩ :=
    hR.tb.toCanon c hlen (by rw [hget, if_pos rfl]; decide) (fun i hi => by
      have := (hR.tb.baseRange i hi).2
      rw [hget, if_neg (by omega)])
  obtain ⟨b1, b2, -⟩ := basic_solution hC
  have b2' : NonnegPt n2 (basicPt ⟨sR.tableau, c, sR.base⟩) := by
    have : (⟨sR.tableau, c, sR.base⟩ : Tab).cost.length = n2 := hlen
    rw [← this]; exact b2
  refine ⟨_, hR.sound (basicPt ⟨sR.tableau, c, sR.base⟩) ⟨b2'.1, fun j _ => basicPt_nonneg hC j, fun j hj => ?_⟩ b1⟩
  exact basicPt_nonbasic hC (by show c.length - 1 ≤ j; rw [hlen]; exact hj)

end PPLV.Solver.Pend

import PPLV.Solver.PIPCoreProofsCut4
import Mathlib.Tactic.Linarith
import Mathlib.Tactic.Ring
/-!
# the cut step: the headline theorems about `generateCut` and `generateCuts`.

`CutStep qpre nd ctx nd' ctx'` bundles what a (sequence of) cut(s) guarantees, with
`q = extendArts nd.arts qpre` and `q' = extendArts nd'.arts qpre`; it is reflexive and transitive, so the
strategy `ALL` (a fold of cuts) is handled like a single cut.
-/
namespace PPLV.PIPCore

/-- what a sequence of cuts leading from `(nd, ctx)` to `(nd', ctx')` guarantees -/
structure CutStep (qpre : List Int) (nd : SolNode) (ctx : Mat) (nd' : SolNode) (ctx' : Mat) :
    Prop where
  arts_ext : ∃ new, nd'.arts = nd.arts ++ new ∧ nd'.tab.nt = nd.tab.nt + new.length
    ∧ extendArts nd'.arts qpre = extendArts new (extendArts nd.arts qpre)
  ns_eq : nd'.tab.ns = nd.tab.ns
  cons_eq : nd'.cons = nd.cons
  big_eq : nd'.big = nd.big
  map_le : nd.mapping.length ≤ nd'.mapping.length
  ctx_sat : CtxSat ctx (extendArts nd.arts qpre) → CtxSat ctx' (extendArts nd'.arts qpre)
  feas_ext : ∀ v, Feasible nd v (extendArts nd.arts qpre) →
    ∃ v', (∀ k, k < nd.mapping.length → v' k = v k) ∧ Feasible nd' v' (extendArts nd'.arts qpre)
  feas_res : ∀ v', Feasible nd' v' (extendArts nd'.arts qpre) →
    Feasible nd v' (extendArts nd.arts qpre)
  sign : SignAt nd (extendArts nd.arts qpre) → SignAt nd' (extendArts nd'.arts qpre)
  int : IntInv nd (extendArts nd.arts qpre) → IntInv nd' (extendArts nd'.arts qpre)

theorem CutStep.refl (qpre : List Int) (nd : SolNode) (ctx : Mat) : CutStep qpre nd ctx nd ctx :=
  ⟨⟨[], (List.append_nil _).symm, rfl, rfl⟩, rfl, rfl, rfl, le_refl _, fun h => h,
   fun v hv => ⟨v, fun _ _ => rfl, hv⟩, fun _ h => h, fun h => h, fun h => h⟩

theorem CutStep.trans {qpre : List Int} {nd1 nd2 nd3 : SolNode} {c1 c2 c3 : Mat}
    (h12 : CutStep qpre nd1 c1 nd2 c2) (h23 : CutStep qpre nd2 c2 nd3 c3) :
    CutStep qpre nd1 c1 nd3 c3 := by
  obtain ⟨n1, a1, t1, e1⟩ := h12.arts_ext
  obtain ⟨n2, a2, t2, e2⟩ := h23.arts_ext
  refine ⟨⟨n1 ++ n2, ?_, ?_, ?_⟩, h23.ns_eq.trans h12.ns_eq, h23.cons_eq.trans h12.cons_eq,
    h23.big_eq.trans h12.big_eq, le_trans h12.map_le h23.map_le,
    fun h => h23.ctx_sat (h12.ctx_sat h), ?_, fun v h => h12.feas_res v (h23.feas_res v h),
    fun h => h23.sign (h12.sign h), fun h => h23.int (h12.int h)⟩
  · rw [a2, a1, List.append_assoc]
  · rw [t2, t1, List.length_append]; omega
  · rw [e2, e1, extendArts_append]
  · intro v hv
    obtain ⟨v2, g2, f2⟩ := h12.feas_ext v hv
    obtain ⟨v3, g3, f3⟩ := h23.feas_ext v2 f2
    exact ⟨v3, fun k hk => (g3 k (lt_of_lt_of_le hk h12.map_le)).trans (g2 k hk), f3⟩

/-! ### one cut -/

/-- **`generateCut_step`**: items (a)-(d) for one call of `generate_cut` -/
theorem generateCut_step {n0 : Nat} {qpre : List Int} {nd : SolNode} {ctx : Mat} {index : Nat}
    (hs : CutSetting n0 qpre nd ctx) (hi : index < nd.tab.s.length) :
    CutSetting n0 qpre (generateCut nd ctx index).1 (generateCut nd ctx index).2
    ∧ CutStep qpre nd ctx (generateCut nd ctx index).1 (generateCut nd ctx index).2 := by
  obtain ⟨hs', hf, ⟨new, _, ha, hnt, hq⟩, hc⟩ := Cut.gc_main hs hi
  refine ⟨hs', ⟨new, ha, hnt, hq⟩, hf.ns_eq, hf.cons_eq, hf.big_eq, ?_, hc,
    Cut.feas_ext hs.wf hf hi, Cut.feas_res hs.wf hf, Cut.signAt_of_facts hs.wf hf,
    Cut.intInv_of_facts hs.wf hf hi⟩
  rw [hf.mapping_eq, List.length_append]; omega

/-- item (a), the details: at most one new artificial parameter, `ArtP.mk'` of the numerator
    `denom - mod`; its value is the floor `⌊e / den⌋`; the re-use branch is never taken -/
theorem generateCut_arts {n0 : Nat} {qpre : List Int} {nd : SolNode} {ctx : Mat} {index : Nat}
    (hs : CutSetting n0 qpre nd ctx) (hi : index < nd.tab.s.length) :
    (Cut.isParam nd index = false ∧ (generateCut nd ctx index).1.arts = nd.arts
      ∧ (generateCut nd ctx index).1.tab.nt = nd.tab.nt ∧ (generateCut nd ctx index).2 = ctx)
    ∨ (Cut.isParam nd index = true
      ∧ findArt nd.arts (ArtP.mk' (Cut.apNum nd index) nd.tab.den) = none
      ∧ (generateCut nd ctx index).1.arts = nd.arts ++ [ArtP.mk' (Cut.apNum nd index) nd.tab.den]
      ∧ (generateCut nd ctx index).1.tab.nt = nd.tab.nt + 1
      ∧ extendArts (generateCut nd ctx index).1.arts qpre
          = extendArts nd.arts qpre
              ++ [Cut.eVal nd index (extendArts nd.arts qpre) / nd.tab.den]
      ∧ (generateCut nd ctx index).2 = Cut.ctxP nd ctx index) := by
  rcases Cut.gc_cases hs hi with ⟨h, he⟩ | ⟨h, he⟩
  · left; rw [he]; exact ⟨h, rfl, rfl, rfl⟩
  · right; rw [he]
    exact ⟨h, Cut.findArt_none_of_setting hs hi, rfl, rfl, Cut.q_p hs, rfl⟩

/-! ### consequences of a `CutStep` for the result of the node -/

theorem Cut.lexLeFrom_congr_right (v w w' : Nat → Int) : ∀ (n a : Nat),
    (∀ k, k < a + n → w' k = w k) → lexLeFrom v w' a n → lexLeFrom v w a n
  | 0, _, _, _ => trivial
  | n + 1, a, h, hl => by
    have ha : w' a = w a := h a (by omega)
    rcases hl with h1 | ⟨h1, h2⟩
    · exact Or.inl (by rw [← ha]; exact h1)
    · exact Or.inr ⟨by rw [← ha]; exact h1,
        Cut.lexLeFrom_congr_right v w w' n (a + 1) (fun k hk => h k (by omega)) h2⟩

theorem CutStep.islexmin {qpre : List Int} {nd nd' : SolNode} {ctx ctx' : Mat}
    (hwf : WF nd) (h : CutStep qpre nd ctx nd' ctx') (x : List Int) :
    IsLexMin nd' (extendArts nd'.arts qpre) x → IsLexMin nd (extendArts nd.arts qpre) x := by
  rintro ⟨v, hv, hx, hmin⟩
  refine ⟨v, h.feas_res v hv, by rw [hx, h.ns_eq], fun w hw => ?_⟩
  obtain ⟨w', hag, hw'⟩ := h.feas_ext w hw
  have := hmin w' hw'
  rw [h.ns_eq] at this
  refine Cut.lexLeFrom_congr_right v w w' _ 0 (fun k hk => hag k ?_) this
  rw [hwf.map_len]; omega

theorem CutStep.infeasible {qpre : List Int} {nd nd' : SolNode} {ctx ctx' : Mat}
    (h : CutStep qpre nd ctx nd' ctx') :
    Infeasible nd' (extendArts nd'.arts qpre) → Infeasible nd (extendArts nd.arts qpre) := by
  rintro hinf ⟨v, hv⟩
  obtain ⟨v', _, hv'⟩ := h.feas_ext v hv
  exact hinf ⟨v', hv'⟩

theorem generateCut_islexmin {n0 : Nat} {qpre : List Int} {nd : SolNode} {ctx : Mat} {index : Nat}
    (hs : CutSetting n0 qpre nd ctx) (hi : index < nd.tab.s.length) (x : List Int) :
    IsLexMin (generateCut nd ctx index).1 (extendArts (generateCut nd ctx index).1.arts qpre) x →
    IsLexMin nd (extendArts nd.arts qpre) x :=
  (generateCut_step hs hi).2.islexmin hs.wf x

theorem generateCut_infeasible {n0 : Nat} {qpre : List Int} {nd : SolNode} {ctx : Mat}
    {index : Nat} (hs : CutSetting n0 qpre nd ctx) (hi : index < nd.tab.s.length) :
    Infeasible (generateCut nd ctx index).1 (extendArts (generateCut nd ctx index).1.arts qpre) →
    Infeasible nd (extendArts nd.arts qpre) :=
  (generateCut_step hs hi).2.infeasible

/-! ### the cutting strategies -/

theorem Cut.cuts_fold_step {n0 : Nat} {qpre : List Int} (n : Nat) (is : List Nat) :
    ∀ (st : SolNode × Mat),
      CutSetting n0 qpre st.1 st.2 → n ≤ st.1.tab.s.length → (∀ i ∈ is, i < n) →
      CutSetting n0 qpre
          (is.foldl (fun (st : SolNode × Mat) i => generateCut st.1 st.2 i) st).1
          (is.foldl (fun (st : SolNode × Mat) i => generateCut st.1 st.2 i) st).2
      ∧ CutStep qpre st.1 st.2
          (is.foldl (fun (st : SolNode × Mat) i => generateCut st.1 st.2 i) st).1
          (is.foldl (fun (st : SolNode × Mat) i => generateCut st.1 st.2 i) st).2 := by
  induction is with
  | nil => exact fun st hs _ _ => ⟨hs, CutStep.refl qpre st.1 st.2⟩
  | cons i is ih =>
    intro st hs hn his
    obtain ⟨hs1, hc1⟩ := generateCut_step hs (Nat.lt_of_lt_of_le (his i List.mem_cons_self) hn)
    rw [List.foldl_cons]
    obtain ⟨hs2, hc2⟩ := ih (generateCut st.1 st.2 i) hs1
      (by rw [Lex.gc_s_length]; exact Nat.le_succ_of_le hn) (fun i' h' => his i' (List.mem_cons_of_mem _ h'))
    exact ⟨hs2, hc1.trans hc2⟩

/-- **`generateCuts_step`**: items (a)-(d) for the three cutting strategies (item (e)) -/
theorem generateCuts_step {n0 : Nat} {qpre : List Int} (ctl : Ctl) {nd : SolNode} {ctx : Mat}
    (hs : CutSetting n0 qpre nd ctx) :
    CutSetting n0 qpre (generateCuts ctl nd ctx).1 (generateCuts ctl nd ctx).2
    ∧ CutStep qpre nd ctx (generateCuts ctl nd ctx).1 (generateCuts ctl nd ctx).2 := by
  unfold generateCuts
  split
  · split
    · rename_i i hi
      exact generateCut_step hs (Lex.cutRowFirst_lt nd hs.wf i hi)
    · exact ⟨hs, CutStep.refl _ _ _⟩
  · obtain ⟨hbest, hall⟩ := Lex.cutRowsDeepest_lt nd hs.wf
    dsimp only
    split
    · split
      · rename_i i hi
        exact generateCut_step hs (hbest i hi)
      · exact ⟨hs, CutStep.refl _ _ _⟩
    · exact Cut.cuts_fold_step nd.tab.s.length _ (nd, ctx) hs (le_refl _)
        (fun i hi => hall i (List.mem_reverse.mp hi))

theorem generateCuts_islexmin {n0 : Nat} {qpre : List Int} (ctl : Ctl) {nd : SolNode} {ctx : Mat}
    (hs : CutSetting n0 qpre nd ctx) (x : List Int) :
    IsLexMin (generateCuts ctl nd ctx).1 (extendArts (generateCuts ctl nd ctx).1.arts qpre) x →
    IsLexMin nd (extendArts nd.arts qpre) x :=
  (generateCuts_step ctl hs).2.islexmin hs.wf x

theorem generateCuts_infeasible {n0 : Nat} {qpre : List Int} (ctl : Ctl) {nd : SolNode} {ctx : Mat}
    (hs : CutSetting n0 qpre nd ctx) :
    Infeasible (generateCuts ctl nd ctx).1 (extendArts (generateCuts ctl nd ctx).1.arts qpre) →
    Infeasible nd (extendArts nd.arts qpre) :=
  (generateCuts_step ctl hs).2.infeasible

/-! ### non-vacuity -/

/-- `2 * x1 = x0 + p` (variable 0 is the column variable `y`, one parameter `p`): parametric cut -/
def Cut.exNodeP : SolNode :=
  { tab := { s := [[1]], t := [[0, 1]], den := 2, ns := 1, nt := 2 }
    basis := [true, false], mapping := [0, 0], varRow := [1], varColumn := [0]
    sign := [.positive], big := none, arts := [], cons := [] }

theorem Cut.exNodeP_wf : WF Cut.exNodeP :=
  ⟨by decide, by decide, by decide, by decide, by decide, by decide, by decide, by decide, by decide,
   by decide, by decide, by decide⟩

/-- the setting at `p = 3`, context `p ≥ 0` -/
theorem Cut.exNodeP_setting : CutSetting 2 [1, 3] Cut.exNodeP [[0, 1]] :=
  ⟨Cut.exNodeP_wf, rfl, (fun j hj => by cases hj), ⟨rfl, rfl, by decide⟩, ⟨rfl, rfl, by decide⟩,
   by decide⟩

example : Cut.isParam Cut.exNodeP 0 = true
    ∧ (generateCut Cut.exNodeP [[0, 1]] 0).1.tab.s = [[1], [1]]
    ∧ (generateCut Cut.exNodeP [[0, 1]] 0).1.tab.t = [[0, 1, 0], [0, -1, 2]]
    ∧ (generateCut Cut.exNodeP [[0, 1]] 0).1.arts = [⟨[0, 1], 2⟩]
    ∧ (generateCut Cut.exNodeP [[0, 1]] 0).2 = [[0, 1, 0], [0, 1, -2], [1, -1, 2]]
    ∧ extendArts (generateCut Cut.exNodeP [[0, 1]] 0).1.arts [1, 3] = [1, 3, 1]
    ∧ CutSetting 2 [1, 3] (generateCut Cut.exNodeP [[0, 1]] 0).1 (generateCut Cut.exNodeP [[0, 1]] 0).2
    ∧ CutStep [1, 3] Cut.exNodeP [[0, 1]]
        (generateCut Cut.exNodeP [[0, 1]] 0).1 (generateCut Cut.exNodeP [[0, 1]] 0).2 :=
  ⟨by decide, by decide, by decide, by decide, by decide, by decide,
   (generateCut_step Cut.exNodeP_setting (by decide)).1,
   (generateCut_step Cut.exNodeP_setting (by decide)).2⟩

/-- the feasible valuation `(y, x) = (1, 2)` at `p = 3` extends by the slack `(y - p + 2⌊p/2⌋)/2 = 0` -/
example : Feasible Cut.exNodeP (fun k => [1, 2].getD k 0) [1, 3]
    ∧ Feasible (generateCut Cut.exNodeP [[0, 1]] 0).1 (fun k => [1, 2, 0].getD k 0) [1, 3, 1] :=
  ⟨⟨by unfold TabSat RowHolds; decide, by decide⟩, ⟨by unfold TabSat RowHolds; decide, by decide⟩⟩

/-- non-parametric cut on `Lex.exNodeD` (`2 * x2 = x0 + 3 * x1 + 1`), and the strategy ALL on
    `Lex.exNodeF` -/
example : Cut.isParam Lex.exNodeD 0 = false ∧ CutSetting 1 [1] Lex.exNodeD []
    ∧ CutStep [1] Lex.exNodeD [] (generateCut Lex.exNodeD [] 0).1 (generateCut Lex.exNodeD [] 0).2 := by
  have hs : CutSetting 1 [1] Lex.exNodeD [] :=
    ⟨Lex.exNodeD_wf, rfl, (fun j hj => by cases hj), ⟨rfl, rfl, by decide⟩, ⟨rfl, rfl, by decide⟩,
     by decide⟩
  exact ⟨by decide, hs, (generateCut_step hs (by decide)).2⟩

example : CutSetting 1 [1] Lex.exNodeF []
    ∧ (generateCuts { cut := 2 } Lex.exNodeF []).1.tab.t = [[1], [1], [-1], [-1]]
    ∧ CutStep [1] Lex.exNodeF [] (generateCuts { cut := 2 } Lex.exNodeF []).1
        (generateCuts { cut := 2 } Lex.exNodeF []).2 := by
  have hs : CutSetting 1 [1] Lex.exNodeF [] :=
    ⟨Lex.exNodeF_wf, rfl, (fun j hj => by cases hj), ⟨rfl, rfl, by decide⟩, ⟨rfl, rfl, by decide⟩,
     by decide⟩
  exact ⟨hs, by decide, (generateCuts_step _ hs).2⟩

end PPLV.PIPCore

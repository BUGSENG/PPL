import PPLV.Solver.PendingProofsCand

/-!
# `erase_artificials` keeps the solutions that have every artificial at 0

`NoArt b y`: the valuation `y` is 0 on every column `≥ b` (the artificial columns `[b, e)` and the sign
column `e = numCols − 1`).  `ArtInv b e t`: `base` and the tableau have the same number of rows and a
row whose basic variable is artificial has inhomogeneous term 0 (the first phase ended with value 0:
the artificial variables still in the base are 0 in the basic solution).

* `eraseLoop_solutions`: step 1 (pivots on original columns, removal of redundant rows) keeps `Sol` on
  `NoArt` valuations, and keeps `ArtInv`;
* `redundant_row_zero`: a row removed as redundant is zero on every column `< b` (it reads `0 = 0`);
* `erase_artificials_valid`: the whole function.
-/
namespace PPLV.Solver.Pend
open PPLV.Lin PPLV.Solver.Tab

def NoArt (b : Nat) (y : Val) : Prop := ∀ j, b ≤ j → y j = 0

structure ArtInv (b e : Nat) (t : Tab) : Prop where
  lenB : t.base.length = t.T.length
  artZero : ∀ i, i < t.T.length → b ≤ t.base.getD i 0 → t.base.getD i 0 < e → (t.T.getD i []).get 0 = 0

/-- two rows that agree wherever the valuation is non-zero have the same value -/
theorem dot_congr_support (r1 r2 : List Int) (x : Val) (h : ∀ j, r1.getD j 0 = r2.getD j 0 ∨ x j = 0) :
    dot r1 x = dot r2 x := by
  have h0 : dot (lincomb 1 (-1) r1 r2) x = 0 := by
    apply dot_eq_zero_of_support
    intro j
    rw [getD_lincomb]
    rcases h j with h | h
    · left; rw [h]; ring
    · right; exact h
  rw [dot_lincomb] at h0
  push_cast at h0
  linarith

theorem firstNonzeroIn_some {r : Row} {lo hi j : Nat} (h : firstNonzeroIn r lo hi = some j) :
    lo ≤ j ∧ j < hi ∧ r.get j ≠ 0 := by
  unfold firstNonzeroIn at h
  have h1 := List.mem_of_find?_eq_some h
  have h2 := List.find?_some h
  rw [List.mem_range'_1] at h1
  exact ⟨h1.1, by omega, by simpa using h2⟩

theorem firstNonzeroIn_none {r : Row} {lo hi : Nat} (h : firstNonzeroIn r lo hi = none) :
    ∀ j, lo ≤ j → j < hi → r.get j = 0 := by
  unfold firstNonzeroIn at h
  intro j h1 h2
  have := List.find?_eq_none.mp h j (by rw [List.mem_range'_1]; omega)
  simpa using this

/-- **a row removed as redundant reads `0 = 0` on the remaining columns** -/
theorem redundant_row_zero {r : Row} {b : Nat} (h : firstNonzeroIn r 1 b = none) (h0 : r.get 0 = 0) :
    ∀ j, j < b → r.get j = 0 := by
  intro j hj
  by_cases hj0 : j = 0
  · rw [hj0]; exact h0
  · exact firstNonzeroIn_none h j (by omega) hj

theorem redundant_rowVal {r : Row} {b : Nat} (h : firstNonzeroIn r 1 b = none) (h0 : r.get 0 = 0)
    (y : Val) (hy : NoArt b y) : rowVal r y = 0 := by
  apply dot_eq_zero_of_support
  intro j
  by_cases hj : j < b
  · left; exact redundant_row_zero h h0 j hj
  · right; exact hy j (by omega)

theorem getD_dropLast {α : Type} (l : List α) (k : Nat) (d : α) (hk : k < l.length - 1) :
    l.dropLast.getD k d = l.getD k d := by
  rw [List.getD_eq_getElem?_getD, List.getD_eq_getElem?_getD, List.dropLast_eq_take, List.getElem?_take]
  simp [hk]

/-- one pivot of step 1 keeps `ArtInv` -/
theorem pivot_artInv {b e : Nat} {t : Tab} (h : ArtInv b e t) {i j : Nat} (hi : i < t.T.length)
    (hbi : b ≤ t.base.getD i 0) (hbe : t.base.getD i 0 < e) (hj : j < b) : ArtInv b e (pivot t j i) := by
  have hib : i < t.base.length := by rw [h.lenB]; exact hi
  constructor
  · unfold pivot pivotBase; simp [pivotRows_length, h.lenB]
  · intro k hk hb1 hb2
    have hk' : k < t.T.length := by unfold pivot at hk; rwa [pivotRows_length] at hk
    have hbk : (pivot t j i).base.getD k 0 = if k = i then j else t.base.getD k 0 := by
      unfold pivot pivotBase; exact getD_set_of_lt _ _ _ _ hib
    rw [hbk] at hb1 hb2
    by_cases hki : k = i
    · rw [if_pos hki] at hb1; omega
    · rw [if_neg hki] at hb1 hb2
      have hk0 := h.artZero k hk' hb1 hb2
      have hi0 := h.artZero i hi hbi hbe
      have hrow : (pivot t j i).T.getD k [] =
          if k != i && (t.T.getD k []).get j != 0 then linearCombine (t.T.getD k []) (t.T.getD i []) j
          else t.T.getD k [] := by
        unfold pivot; exact pivotRows_getD _ _ _ _ hk'
      rw [hrow]
      split
      · obtain ⟨d, hd, h1, -, -⟩ := linearCombine_spec (t.T.getD k []) (t.T.getD i []) j
        have := h1 0
        rw [hk0, hi0, mul_zero, mul_zero, add_zero] at this
        rcases Int.mul_eq_zero.mp this with h | h
        · omega
        · exact h
      · exact hk0

/-- **step 1 of `erase_artificials`** keeps the solutions among the valuations with every artificial 0 -/
theorem eraseLoop_solutions (b e : Nat) :
    ∀ (fuel i : Nat) (t : Tab), ArtInv b e t →
      ArtInv b e (eraseLoop b e fuel i t) ∧
      ∀ y, NoArt b y → (Sol (eraseLoop b e fuel i t).T y ↔ Sol t.T y) := by
  intro fuel
  induction fuel with
  | zero => intro i t h; exact ⟨h, fun _ _ => Iff.rfl⟩
  | succ fuel ih =>
    intro i t h
    unfold eraseLoop
    by_cases hi : i < t.T.length
    · rw [if_pos hi]
      simp only
      by_cases hart : (decide (b ≤ t.base.getD i 0) && decide (t.base.getD i 0 < e)) = true
      · rw [if_pos hart]
        simp only [Bool.and_eq_true, decide_eq_true_eq] at hart
        cases hf : firstNonzeroIn (t.T.getD i []) 1 b with
        | some j =>
          simp only
          obtain ⟨hj1, hj2, hj3⟩ := firstNonzeroIn_some hf
          have hinv := pivot_artInv h hi hart.1 hart.2 hj2
          obtain ⟨r1, r2⟩ := ih (i + 1) (pivot t j i) hinv
          refine ⟨r1, fun y hy => (r2 y hy).trans ?_⟩
          unfold pivot
          exact pivotRows_solutions t.T j i hi hj3 y
        | none =>
          simp only
          have hi0 := h.artZero i hi hart.1 hart.2
          have hred : ∀ y, NoArt b y → rowVal (t.T.getD i []) y = 0 := fun y hy => redundant_rowVal hf hi0 y hy
          have hib : i < t.base.length := by rw [h.lenB]; exact hi
          by_cases hlast : i < t.T.length - 1
          · rw [if_pos hlast]
            -- the last row replaces row i
            have hinv : ArtInv b e ⟨(t.T.set i (t.T.getD (t.T.length - 1) [])).dropLast, t.cost,
                (t.base.set i (t.base.getD (t.T.length - 1) 0)).dropLast⟩ := by
              constructor
              · simp [h.lenB]
              · intro k hk hb1 hb2
                simp only [List.length_dropLast, List.length_set] at hk
                simp only at hb1 hb2 ⊢
                rw [getD_dropLast _ _ _ (by simp; rw [h.lenB]; exact hk), getD_set_of_lt _ _ _ _ hib] at hb1 hb2
                rw [getD_dropLast _ _ _ (by simp; exact hk), getD_set_of_lt _ _ _ _ hi]
                by_cases hki : k = i
                · rw [if_pos hki] at hb1 hb2 ⊢
                  exact h.artZero _ (by omega) hb1 hb2
                · rw [if_neg hki] at hb1 hb2 ⊢
                  exact h.artZero k (by omega) hb1 hb2
            obtain ⟨r1, r2⟩ := ih i _ hinv
            refine ⟨r1, fun y hy => (r2 y hy).trans ?_⟩
            simp only
            unfold Sol
            simp only [List.length_dropLast, List.length_set]
            constructor
            · intro hs k hk
              by_cases hkl : k < t.T.length - 1
              · by_cases hki : k = i
                · rw [hki]; exact hred y hy
                · have := hs k hkl
                  rw [getD_dropLast _ _ _ (by simp; exact hkl), getD_set_of_lt _ _ _ _ hi, if_neg hki] at this
                  exact this
              · have hkeq : k = t.T.length - 1 := by omega
                have := hs i hlast
                rw [getD_dropLast _ _ _ (by simp; exact hlast), getD_set_of_lt _ _ _ _ hi, if_pos rfl] at this
                rw [hkeq]; exact this
            · intro hs k hk
              rw [getD_dropLast _ _ _ (by simp; exact hk), getD_set_of_lt _ _ _ _ hi]
              by_cases hki : k = i
              · rw [if_pos hki]; exact hs _ (by omega)
              · rw [if_neg hki]; exact hs k (by omega)
          · rw [if_neg hlast]
            have hieq : i = t.T.length - 1 := by omega
            have hinv : ArtInv b e ⟨t.T.dropLast, t.cost, t.base.dropLast⟩ := by
              constructor
              · simp [h.lenB]
              · intro k hk hb1 hb2
                simp only [List.length_dropLast] at hk
                simp only at hb1 hb2 ⊢
                rw [getD_dropLast _ _ _ (by rw [h.lenB]; exact hk)] at hb1 hb2
                rw [getD_dropLast _ _ _ hk]
                exact h.artZero k (by omega) hb1 hb2
            obtain ⟨r1, r2⟩ := ih (i + 1) _ hinv
            refine ⟨r1, fun y hy => (r2 y hy).trans ?_⟩
            simp only
            unfold Sol
            simp only [List.length_dropLast]
            constructor
            · intro hs k hk
              by_cases hkl : k < t.T.length - 1
              · have := hs k hkl
                rwa [getD_dropLast _ _ _ hkl] at this
              · have hkeq : k = i := by omega
                rw [hkeq]; exact hred y hy
            · intro hs k hk
              rw [getD_dropLast _ _ _ hk]
              exact hs k (by omega)
      · rw [if_neg hart]
        exact ih (i + 1) t h
    · rw [if_neg hi]
      exact ⟨h, fun _ _ => Iff.rfl⟩

/-- truncating a row after column `b` and zeroing column `b` does not change its value on a valuation
    that is 0 from column `b` on -/
theorem rowVal_truncate (r : Row) (b : Nat) (y : Val) (hy : NoArt b y) :
    rowVal ((r.take (b + 1)).set b 0) y = rowVal r y := by
  unfold rowVal
  apply dot_congr_support
  intro j
  by_cases hj : j < b
  · left
    rw [List.getD_eq_getElem?_getD, List.getElem?_set, List.getD_eq_getElem?_getD]
    have : ¬ b = j := by omega
    simp only [this, if_false]
    rw [List.getElem?_take]
    simp [show j < b + 1 by omega]
  · right; exact hy j (by omega)

/-- **`erase_artificials` is valid.**  Artificial columns `[b, e)` are the trailing columns before
    the sign column (`e = numCols − 1`, as `process_pending_constraints` lays them out); the first
    phase ended with value 0, i.e. every artificial still in the base has value 0 (`ArtInv`).  Then the
    new tableau has `b + 1` columns and, on every valuation `y` that is 0 on the artificial and sign
    columns, exactly the solutions of the old one; `ArtInv` still holds. -/
theorem erase_artificials_valid (b e numCols : Nat) (t : Tab) (hb : 1 ≤ b) (hbe : b < e) (he : e = numCols - 1)
    (h : ArtInv b e t) :
    (eraseArtificials b e numCols t).2 = b + 1 ∧
    (eraseArtificials b e numCols t).1.base.length = (eraseArtificials b e numCols t).1.T.length ∧
    ∀ y, NoArt b y → (Sol (eraseArtificials b e numCols t).1.T y ↔ Sol t.T y) := by
  obtain ⟨r1, r2⟩ := eraseLoop_solutions b e (t.T.length + 1) 0 t h
  have hnc : numCols - (e - b) = b + 1 := by omega
  unfold eraseArtificials
  simp only [hnc]
  refine ⟨trivial, by simp [r1.lenB], fun y hy => Iff.trans ?_ (r2 y hy)⟩
  unfold Sol
  simp only [List.length_map]
  have hrow : ∀ i, i < (eraseLoop b e (t.T.length + 1) 0 t).T.length →
      ((eraseLoop b e (t.T.length + 1) 0 t).T.map fun r => (r.take (b + 1)).set (b + 1 - 1) 0).getD i [] =
        (((eraseLoop b e (t.T.length + 1) 0 t).T.getD i []).take (b + 1)).set b 0 := by
    intro i hi
    rw [List.getD_eq_getElem?_getD, List.getElem?_map, List.getD_eq_getElem?_getD]
    rw [List.getElem?_eq_getElem hi]
    simp
  constructor
  · intro hs i hi
    have := hs i hi
    rw [hrow i hi, rowVal_truncate _ b y hy] at this
    exact this
  · intro hs i hi
    rw [hrow i hi, rowVal_truncate _ b y hy]
    exact hs i hi

end PPLV.Solver.Pend

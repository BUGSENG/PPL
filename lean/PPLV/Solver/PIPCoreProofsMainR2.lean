import PPLV.Solver.PIPCoreProofsMainR
/-!
# end-to-end for the repaired solver: the induction over the fuel
-/
namespace PPLV.PIPCore

theorem consHold_false_of_not {cons : List Row} {q : List Int} (h : ¬ consHold cons q = true) :
    consHold cons q = false := by
  cases hh : consHold cons q with
  | true => exact absurd hh h
  | false => rfl

theorem signAt_set_mixed {nd : SolNode} {sg : List RowSign} {q : List Int} (i : Nat)
    (h : SignAt { nd with sign := sg } q) : SignAt { nd with sign := sg.set i .mixed } q :=
  pointwise_set (P := fun k s => SignWeak nd.tab.den s (dot (mrow nd.tab.t k) q)) h trivial

theorem solveGo_correct {cc : Mat → Option Bool} (hcc : CCContract cc) (ctl : Ctl) (cfc : Bool) :
    ∀ (fuel : Nat) (entry : Bool) (nd : SolNode) (ctx : Mat) (r : Option CTree) (S : List Int → Prop) (n0 : Nat),
      solveGo cc ctl cfc fuel entry nd ctx = .done r → ((∃ qpre, S qpre) → InvR S n0 nd ctx) →
      ∀ qpre, S qpre → Claim nd (extendArts nd.arts qpre) (evalRes r qpre) := by
  have F := stepFacts
  intro fuel
  induction fuel with
  | zero =>
    intro entry nd ctx r S n0 h
    simp only [solveGo] at h
    exact absurd h (by simp)
  | succ fuel ih =>
    intro entry nd ctx r S n0 h hinv' qpre hq
    have hinvR := hinv' ⟨qpre, hq⟩
    have hinv := hinvR.base
    have hpvq := hinv.pvq qpre hq
    have hnt0 : 0 < nd.tab.nt := by have := hinv.nt_eq; have := hinv.n0_pos; omega
    -- the oracle refutes a row on the whole context: the row is negative at `q` (when the constraints hold)
    have refute : ∀ (row : Row), row.length = nd.tab.nt → cc (ctx ++ [row]) = some false →
        consHold nd.cons (extendArts nd.arts qpre) = true → dot row (extendArts nd.arts qpre) < 0 := by
      intro row hrl hcf hc
      by_contra hge
      have hall : ∀ r ∈ ctx ++ [row], r.length = nd.tab.nt := by
        intro r hr
        rcases List.mem_append.mp hr with hr | hr
        · exact hinv.ctx_len r hr
        · rw [List.mem_singleton.mp hr]; exact hrl
      have := (hcc _ nd.tab.nt false hall hnt0 hcf).mpr
        ⟨_, hpvq, (ctxSat_append_iff ctx row _).mpr ⟨hinv.rel qpre hq hc, by omega⟩⟩
      exact absurd this (by simp)
    rw [solveGo] at h
    by_cases hent : (entry && cfc) = true
    · rw [if_pos hent] at h
      cases hc : cc ctx with
      | none => rw [hc] at h; exact absurd h (by simp)
      | some b =>
        rw [hc] at h
        cases b with
        | false =>
          simp only at h
          injection h with h
          subst h
          show Infeasible nd _
          by_cases hch : consHold nd.cons (extendArts nd.arts qpre) = true
          · exfalso
            have := (hcc ctx nd.tab.nt false hinv.ctx_len hnt0 hc).mpr ⟨_, hpvq, hinv.rel qpre hq hch⟩
            exact absurd this (by simp)
          · exact hinvR.inf qpre hq (consHold_false_of_not hch)
        | true =>
          simp only at h
          exact ih false nd ctx r S n0 h hinv' qpre hq
    · rw [if_neg hent] at h
      cases hsa : signAnalysis cc nd ctx with
      | none => rw [hsa] at h; exact absurd h (by simp)
      | some sf =>
        obtain ⟨sg, fs⟩ := sf
        rw [hsa] at h
        simp only at h
        have h1 : Inv' S n0 { nd with sign := sg } ctx := inv_sign hcc hinv hsa
        have h1R : InvR S n0 { nd with sign := sg } ctx :=
          ⟨h1, fun qp hqp hc => infeasible_congr (nd := nd) rfl rfl rfl rfl (hinvR.inf qp hqp hc)⟩
        have hrows : ({ nd with sign := sg } : SolNode).tab.t.length = nd.tab.s.length := hinv.wf.rows_eq.symm
        cases hneg : fs.neg with
        | some fneg =>
          rw [hneg] at h
          simp only at h
          obtain ⟨spF, spS⟩ := choosePivotR_spec ctl { nd with sign := sg } sg
            (rangeFrom fneg ({ nd with sign := sg } : SolNode).tab.t.length) none
            (fun i hi => by rw [hrows] at hi; exact rangeFrom_lt _ _ i hi)
            (fun a b hab => absurd hab (by simp))
          cases hcp : choosePivotR ctl { nd with sign := sg } sg
              (rangeFrom fneg ({ nd with sign := sg } : SolNode).tab.t.length) none with
          | nothing => rw [hcp] at h; simp only at h; exact absurd h (by simp)
          | found pi pj =>
            rw [hcp] at h
            simp only at h
            obtain ⟨hpi, hf⟩ := spF pi pj hcp
            obtain ⟨h2, _⟩ := inv_pivot F h1 hpi hf
            obtain ⟨hpj, hpos⟩ := flmc_positive _ pi pj h1.wf hpi hf
            have hpos' : 0 < mget ({ nd with sign := sg } : SolNode).tab.normalize.s pi pj :=
              (normalize_sign h1.wf pi pj).mpr hpos
            have hfe := fun qp (hqp : S qp) =>
              pivot_feasible h1.wf hpi hpj hpos' (h1.pvq qp hqp).1
            have hns : (pivot { nd with sign := sg } pi pj).tab.ns = nd.tab.ns :=
              (pivot_ns h1.wf hpi hpj hpos).1
            have h2R : InvR S n0 (pivot { nd with sign := sg } pi pj) ctx :=
              ⟨h2, fun qp hqp hc => by
                rintro ⟨v, hv⟩
                exact h1R.inf qp hqp hc ⟨v, (hfe qp hqp v).mpr hv⟩⟩
            have := ih false _ ctx r S n0 h (fun _ => h2R) qpre hq
            rw [pivot_arts] at this
            exact claim_of_feasible_iff (nd := nd) hns (fun v => (hfe qpre hq v).symm) this
          | stuck i =>
            rw [hcp] at h
            simp only at h
            obtain ⟨hi, hnp⟩ := spS i hcp
            have hrl : (mrow nd.tab.t i).length = nd.tab.nt :=
              Node.t_row_length hinv.wf (by rw [← hinv.wf.rows_eq]; exact hi)
            have hvb : viaBig { nd with sign := sg } i = false := by
              unfold viaBig
              show (match nd.big with | some b => rget (mrow nd.tab.t i) b != 0 | none => false) = false
              rw [hinv.big]
            rw [hvb] at h
            simp only [Bool.false_eq_true, if_false] at h
            cases hcr : ccRow cc ctx (mrow ({ nd with sign := sg } : SolNode).tab.t i) with
            | none => rw [hcr] at h; simp only at h; exact absurd h (by simp)
            | some b =>
              rw [hcr] at h
              cases b with
              | true =>
                simp only at h
                have h2R : InvR S n0 { nd with sign := sg.set i .mixed } ctx :=
                  ⟨{ h1 with
                      wf := wf_congr (nd := nd) rfl rfl rfl rfl rfl
                        (by show (sg.set i .mixed).length = _; rw [List.length_set]; exact signAnalysis_length hsa)
                        hinv.wf
                      lex := lexpos_of_same_tableau nd _ rfl rfl rfl hinv.lex
                      sgn := fun qp hqp hc => signAt_set_mixed i (h1.sgn qp hqp hc)
                      int := fun qp hqp => intInv_congr rfl rfl rfl rfl (hinv.int qp hqp) },
                   fun qp hqp hc => infeasible_congr (nd := nd) rfl rfl rfl rfl (hinvR.inf qp hqp hc)⟩
                have := ih false _ ctx r S n0 h (fun _ => h2R) qpre hq
                exact claim_congr (nd := nd) rfl rfl rfl rfl this
              | false =>
                simp only at h
                injection h with h
                subst h
                show Infeasible nd _
                by_cases hch : consHold nd.cons (extendArts nd.arts qpre) = true
                · have hlt := refute (mrow nd.tab.t i) hrl hcr hch
                  exact no_positive_pivot_infeasible hinv.wf hi hnp hpvq.1 hlt
                · exact hinvR.inf qpre hq (consHold_false_of_not hch)
        | none =>
          rw [hneg] at h
          simp only at h
          cases hmix : fs.mix with
          | some fmix =>
            rw [hmix] at h
            simp only at h
            cases hin : findINeg ({ nd with sign := sg } : SolNode).tab sg
                (rangeFrom fmix ({ nd with sign := sg } : SolNode).tab.t.length) none with
            | some ii =>
              obtain ⟨iNeg, sc⟩ := ii
              rw [hin] at h
              simp only at h
              have hm : signGet sg iNeg = .mixed :=
                findINeg_spec _ sg _ none iNeg sc (fun a b hab => absurd hab (by simp)) hin
              have hnp : hasPositive (mrow nd.tab.s iNeg) = false :=
                findINeg_spec2 _ sg _ none iNeg sc (fun a b hab => absurd hab (by simp)) hin
              have hiN : iNeg < nd.tab.t.length := by
                have := signGet_mixed_lt hm
                rw [signAnalysis_length hsa, hinv.wf.sign_len, hinv.wf.rows_eq] at this
                exact this
              have h2 := inv_taut hinv hsa h1 hm
              have h2R : InvR S n0 { nd with cons := addConstraint nd.cons (integralSimplification (mrow nd.tab.t iNeg)),
                                              sign := sg.set iNeg .positive }
                  (ctx ++ [integralSimplification (mrow nd.tab.t iNeg)]) := by
                refine ⟨h2, fun qp hqp hc => ?_⟩
                have hc' : consHold (nd.cons ++ [rowNormalizeAll (integralSimplification (mrow nd.tab.t iNeg))])
                    (extendArts nd.arts qp) = false := hc
                rw [consHold_append] at hc'
                apply infeasible_congr (nd := nd) rfl rfl rfl rfl
                by_cases hold : consHold nd.cons (extendArts nd.arts qp) = true
                · rw [hold, Bool.true_and] at hc'
                  have hneg' : ¬ (0 ≤ dot (rowNormalizeAll (integralSimplification (mrow nd.tab.t iNeg)))
                      (extendArts nd.arts qp)) := by
                    intro hge
                    unfold consHold at hc'
                    simp [hge] at hc'
                  have hlt : dot (mrow nd.tab.t iNeg) (extendArts nd.arts qp) < 0 := by
                    have e := (mixed_row_equiv hinv.wf hsa hm hiN (hinv.pvq qp hqp)).2.1
                    by_contra hge
                    exact hneg' (e.mpr (by omega))
                  exact no_positive_pivot_infeasible hinv.wf (by rw [hinv.wf.rows_eq]; exact hiN) hnp
                    (hinv.pvq qp hqp).1 hlt
                · exact hinvR.inf qp hqp (consHold_false_of_not hold)
              have := ih false _ _ r S n0 h (fun _ => h2R) qpre hq
              exact claim_congr (nd := nd) rfl rfl rfl rfl this
            | none =>
              rw [hin] at h
              simp only at h
              cases hbi : findBestI ({ nd with sign := sg } : SolNode).tab sg
                  (rangeFrom fmix ({ nd with sign := sg } : SolNode).tab.t.length) none with
              | none => rw [hbi] at h; simp only at h; exact absurd h (by simp)
              | some bb =>
                obtain ⟨bestI, sc⟩ := bb
                rw [hbi] at h
                simp only at h
                have hm : signGet sg bestI = .mixed :=
                  findBestI_spec _ sg _ none bestI sc (fun a b hab => absurd hab (by simp)) hbi
                have hbi' : bestI < nd.tab.t.length := by
                  have := signGet_mixed_lt hm
                  rw [signAnalysis_length hsa, hinv.wf.sign_len, hinv.wf.rows_eq] at this
                  exact this
                generalize htT : integralSimplification (mrow nd.tab.t bestI) = tTest at h
                cases hst : solveGo cc ctl cfc fuel true
                    { nd with sign := sg, arts := [], cons := [] } (ctx ++ [tTest]) with
                | fuel => rw [hst] at h; simp only at h; exact absurd h (by simp)
                | done tNode =>
                  rw [hst] at h
                  simp only at h
                  cases hsf : solveGo cc ctl cfc fuel true
                      { nd with sign := sg, arts := [], cons := [] } (ctx ++ [complementAssign tTest 1]) with
                  | fuel => rw [hsf] at h; simp only at h; exact absurd h (by simp)
                  | done fNode =>
                    rw [hsf] at h
                    simp only at h
                    injection h with h
                    subst h
                    obtain ⟨e1, e2, e3⟩ := mixed_row_equiv hinv.wf hsa hm hbi' hpvq
                    obtain ⟨f1, f2⟩ := split_false_row_equiv hinv.wf hsa hm hbi' hpvq
                    rw [htT] at e1 e2 e3 f1 f2
                    have hqlen := hpvq.1
                    have heq := assemble_eval nd.arts nd.cons tTest (complementAssign tTest 1) tNode fNode
                      qpre (extendArts nd.arts qpre) rfl
                      (by rw [hqlen]; exact hinv.cons_len) (by rw [hqlen, e3]) (by rw [hqlen, f2])
                      (by rw [f1, e1]; omega)
                    show Claim nd _ (evalRes (assemble nd.arts nd.cons tTest (complementAssign tTest 1) tNode fNode) qpre)
                    rw [heq]
                    have childR : ∀ (test : Row) (htl : test.length = nd.tab.nt),
                        InvR (ChildSet S { nd with sign := sg } test) nd.tab.nt
                          { nd with sign := sg, arts := [], cons := [] } (ctx ++ [test]) := fun test htl =>
                      ⟨inv_child (test := test) h1 htl, fun qc _ hc => by
                        have : consHold ([] : List Row) (extendArts [] qc) = true := rfl
                        rw [this] at hc; exact absurd hc (by simp)⟩
                    by_cases hcs : consHold nd.cons (extendArts nd.arts qpre) = true
                    · rw [if_pos hcs]
                      by_cases hpos : 0 ≤ dot tTest (extendArts nd.arts qpre)
                      · rw [if_pos hpos]
                        have := ih true _ _ tNode _ _ hst (fun _ => childR tTest e3) (extendArts nd.arts qpre)
                          ⟨qpre, hq, rfl, hcs, hpos⟩
                        exact claim_congr (nd := nd) rfl rfl rfl rfl this
                      · rw [if_neg hpos]
                        have hposf : 0 ≤ dot (complementAssign tTest 1) (extendArts nd.arts qpre) := by
                          rw [f1]; have := e1.not.mp hpos; omega
                        have := ih true _ _ fNode _ _ hsf (fun _ => childR (complementAssign tTest 1) f2)
                          (extendArts nd.arts qpre) ⟨qpre, hq, rfl, hcs, hposf⟩
                        exact claim_congr (nd := nd) rfl rfl rfl rfl this
                    · rw [if_neg hcs]
                      exact hinvR.inf qpre hq (consHold_false_of_not hcs)
          | none =>
            rw [hmix] at h
            simp only at h
            have hns : ({ nd with sign := sg, tab := nd.tab.normalize } : SolNode).tab.ns = nd.tab.ns :=
              (normalize_shape nd.tab).2.2.1
            have hfeq : ∀ (qq : List Int) v, Feasible { nd with sign := sg, tab := nd.tab.normalize } v qq
                ↔ Feasible nd v qq := by
              intro qq v
              have hts := normalize_tabsat h1.wf v qq
              unfold Feasible
              rw [hts]
              exact Iff.rfl
            by_cases hsi : solutionIntegral { nd with sign := sg, tab := nd.tab.normalize } = true
            · rw [if_pos hsi] at h
              injection h with h
              subst h
              cases hev : evalRes (some (.sol { nd with sign := sg, tab := nd.tab.normalize })) qpre with
              | some x => exact final_step F hinv hsa h1 hneg hmix hsi hq hev
              | none =>
                show Infeasible nd _
                have hev' : (if consHold nd.cons (extendArts nd.arts qpre) then
                    some (SolNode.point { nd with sign := sg, tab := nd.tab.normalize } (extendArts nd.arts qpre))
                    else none) = none := hev
                by_cases hc : consHold nd.cons (extendArts nd.arts qpre) = true
                · rw [if_pos hc] at hev'; exact absurd hev' (by simp)
                · exact hinvR.inf qpre hq (consHold_false_of_not hc)
            · rw [if_neg hsi] at h
              have hn : Inv' S n0 { nd with sign := sg, tab := nd.tab.normalize } ctx := inv_normalize F h1
              have hnR : InvR S n0 { nd with sign := sg, tab := nd.tab.normalize } ctx :=
                ⟨hn, fun qp hqp hc => by
                  rintro ⟨v, hv⟩
                  exact hinvR.inf qp hqp hc ⟨v, (hfeq _ v).mp hv⟩⟩
              -- the cut step
              obtain ⟨h2, _⟩ := inv_cut ctl hn hq
              have B := fun qp (hqp : S qp) =>
                generateCuts_step (n0 := n0) (qpre := qp) ctl
                  (nd := { nd with sign := sg, tab := nd.tab.normalize }) (ctx := ctx)
                  ⟨hn.wf, hn.nt_eq, hn.arts, hn.pv qp hqp, hn.pvq qp hqp, hn.ctx_len⟩
              have h2R : InvR S n0 (generateCuts ctl { nd with sign := sg, tab := nd.tab.normalize } ctx).1
                  (generateCuts ctl { nd with sign := sg, tab := nd.tab.normalize } ctx).2 := by
                refine ⟨h2, fun qp hqp hc => ?_⟩
                have hold : consHold nd.cons (extendArts nd.arts qp) = false := by
                  obtain ⟨new, _, _, h3⟩ := (B qp hqp).2.arts_ext
                  obtain ⟨e, he, _⟩ := extendArts_prefix new (extendArts nd.arts qp)
                  rw [(B qp hqp).2.cons_eq, h3, he] at hc
                  rw [← hc]
                  exact (consHold_prefix _ (by rw [(hn.pvq qp hqp).1]; exact hn.cons_len)).symm
                rintro ⟨v', hv'⟩
                exact hnR.inf qp hqp hold ⟨v', (B qp hqp).2.feas_res v' hv'⟩
              have := ih false _ _ r S n0 h (fun _ => h2R) qpre hq
              have hcl : Claim { nd with sign := sg, tab := nd.tab.normalize } (extendArts nd.arts qpre)
                  (evalRes r qpre) := by
                cases hev : evalRes r qpre with
                | some x => rw [hev] at this; exact (B qpre hq).2.islexmin hn.wf x this
                | none => rw [hev] at this; exact (B qpre hq).2.infeasible this
              exact claim_of_feasible_iff (nd := nd) hns (fun v => hfeq _ v) hcl

end PPLV.PIPCore

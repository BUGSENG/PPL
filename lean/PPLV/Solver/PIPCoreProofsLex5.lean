import PPLV.Solver.PIPCoreProofsLex4
import Mathlib.Tactic.Linarith
import Mathlib.Tactic.Ring
/-!
# the lexicographic invariant: complements.

* `init_lexpos`: a node whose first `ns` variables are the column variables, in order (a fresh root), has
  lexico-non-negative columns.
* `lexLeFrom_antisymm`, `lex_min_unique`: the lexicographic minimum is unique.
* `normalize_lexmincol`: a lexico-minimal column stays lexico-minimal through `Tableau::normalize`
  (the column is chosen before, the pivot is done after the normalisation inside `solve`).
* `solve_pivot_lexpos`: the chain code-level choice → normalisation → pivot (by `PivotSpec`).
-/
namespace PPLV.PIPCore

attribute [local irreducible] LexPos

/-! ### the initial node -/

theorem Lex.lexnn_first_pos (F : Nat → Row) (j p : Nat) (hp : 0 < rget (F p) j) :
    ∀ (len a : Nat), a ≤ p → p < a + len → (∀ k, a ≤ k → k < p → rget (F k) j = 0) →
      LexNonnegCol ((List.range' a len).map F) j
  | 0, a, h1, h2, _ => by omega
  | len + 1, a, h1, h2, hz => by
    show LexNonnegCol (F a :: (List.range' (a + 1) len).map F) j
    by_cases hap : a = p
    · subst hap; exact Or.inl hp
    · exact Or.inr ⟨hz a (le_refl a) (by omega),
        Lex.lexnn_first_pos F j p hp len (a + 1) (by omega) (by omega)
          (fun k hk1 hk2 => hz k (by omega) hk2)⟩

/-- **`init_lexpos`**: if the variables `0 .. ns-1` are the column variables of the columns `0 .. ns-1`
    (the tableau `PIP_Solution_Node::update_tableau` builds for a fresh root), the columns are
    lexico-positive: column `j` starts with `j` zeros followed by `den`. -/
theorem init_lexpos (nd : SolNode) :
    WF nd → (∀ k, k < nd.tab.ns → boolGet nd.basis k = true ∧ natGet nd.mapping k = k) →
    LexPos nd := by
  intro hwf hinit
  refine LexPos.of_cols fun j hj => ?_
  unfold fullRows
  rw [List.range_eq_range']
  have hrow : ∀ k, k < nd.tab.ns → rget (fullRow nd k) j = if j = k then nd.tab.den else 0 := by
    intro k hk
    unfold fullRow
    rw [(hinit k hk).1, (hinit k hk).2]
    simp only [if_true]
    exact rget_unit _ hj
  apply Lex.lexnn_first_pos (fullRow nd) j j _ _ 0 (Nat.zero_le _)
  · rw [hwf.map_len]; omega
  · intro k _ hk
    rw [hrow k (by omega), if_neg (by omega)]
  · rw [hrow j hj, if_pos rfl]; exact hwf.den_pos

/-! ### uniqueness of the lexicographic minimum -/

theorem lexLeFrom_antisymm (v w : Nat → Int) : ∀ (n k : Nat),
    lexLeFrom v w k n → lexLeFrom w v k n → ∀ i, i < n → v (k + i) = w (k + i)
  | 0, _, _, _, i, hi => by omega
  | n + 1, k, h1, h2, i, hi => by
    rcases h1 with h1 | ⟨e1, t1⟩
    · rcases h2 with h2 | ⟨e2, _⟩ <;> omega
    · rcases h2 with h2 | ⟨_, t2⟩
      · omega
      · cases i with
        | zero => exact e1
        | succ i =>
          have := lexLeFrom_antisymm v w n (k + 1) t1 t2 i (by omega)
          have e : k + (i + 1) = k + 1 + i := by omega
          rw [e]; exact this

/-- two basic solutions of two nodes (e.g. reached along different pivot sequences) that are feasible
    for each other's node agree on all common variables -/
theorem lex_min_unique (nd1 nd2 : SolNode) (b1 b2 : Nat → Int) (q : List Int) (n : Nat) :
    WF nd1 → LexPos nd1 → q.length = nd1.tab.nt → IsBasic nd1 b1 q → Feasible nd1 b2 q →
    WF nd2 → LexPos nd2 → q.length = nd2.tab.nt → IsBasic nd2 b2 q → Feasible nd2 b1 q →
    n ≤ nd1.mapping.length → n ≤ nd2.mapping.length →
    ∀ i, i < n → b1 i = b2 i := by
  intro w1 l1 q1 i1 f1 w2 l2 q2 i2 f2 hn1 hn2 i hi
  have h12 := lex_basic_min_prefix nd1 b2 b1 q n w1 l1 q1 f1 i1 hn1
  have h21 := lex_basic_min_prefix nd2 b1 b2 q n w2 l2 q2 f2 i2 hn2
  have := lexLeFrom_antisymm b1 b2 n 0 h12 h21 i hi
  rwa [Nat.zero_add] at this

/-! ### `Tableau::normalize` and the lexico-minimal column -/

theorem Lex.scaled_cmp (g a x b y : Int) (hg : 0 < g) :
    ((g * a) * (g * x) < (g * b) * (g * y) → a * x < b * y)
    ∧ ((g * a) * (g * x) = (g * b) * (g * y) → a * x = b * y) := by
  have hgg : 0 < g * g := mul_pos hg hg
  constructor
  · intro h
    have h2 : (g * g) * (a * x) < (g * g) * (b * y) := by
      calc (g * g) * (a * x) = (g * a) * (g * x) := by ring
        _ < (g * b) * (g * y) := h
        _ = (g * g) * (b * y) := by ring
    exact lt_of_mul_lt_mul_left h2 (le_of_lt hgg)
  · intro h
    have h2 : (g * g) * (a * x) = (g * g) * (b * y) := by
      calc (g * g) * (a * x) = (g * a) * (g * x) := by ring
        _ = (g * b) * (g * y) := h
        _ = (g * g) * (b * y) := by ring
    exact Int.eq_of_mul_eq_mul_left (by omega) h2

/-- dividing all rows and both coefficients by a common positive divisor keeps `LexLeScaled` -/
theorem Lex.lexle_div (F F' : Nat → Row) (g : Int) (hg : 0 < g) (j j' : Nat) (a b : Int)
    (ha : g ∣ a) (hb : g ∣ b) :
    ∀ l : List Nat,
      (∀ k ∈ l, (rget (F' k) j = rget (F k) j / g ∧ g ∣ rget (F k) j)
        ∧ (rget (F' k) j' = rget (F k) j' / g ∧ g ∣ rget (F k) j')) →
      LexLeScaled (l.map F) a j b j' → LexLeScaled (l.map F') (a / g) j (b / g) j'
  | [], _, _ => trivial
  | k :: l, he, hl => by
    have ih := Lex.lexle_div F F' g hg j j' a b ha hb l (fun k hk => he k (by simp [hk]))
    obtain ⟨⟨e1, d1⟩, ⟨e2, d2⟩⟩ := he k (by simp)
    obtain ⟨a', rfl⟩ := ha
    obtain ⟨b', rfl⟩ := hb
    obtain ⟨x', hx⟩ := d1
    obtain ⟨y', hy⟩ := d2
    have hg0 : g ≠ 0 := by omega
    have ea : g * a' / g = a' := Int.mul_ediv_cancel_left _ hg0
    have eb : g * b' / g = b' := Int.mul_ediv_cancel_left _ hg0
    have ex : rget (F' k) j = x' := by rw [e1, hx]; exact Int.mul_ediv_cancel_left _ hg0
    have ey : rget (F' k) j' = y' := by rw [e2, hy]; exact Int.mul_ediv_cancel_left _ hg0
    obtain ⟨c1, c2⟩ := Lex.scaled_cmp g a' x' b' y' hg
    show (g * a' / g) * rget (F' k) j < (g * b' / g) * rget (F' k) j' ∨ _
    rw [ea, eb, ex, ey]
    rcases hl with h | ⟨h, ht⟩
    · left; rw [hx, hy] at h; exact c1 h
    · right
      refine ⟨by rw [hx, hy] at h; exact c2 h, ?_⟩
      have := ih ht
      rw [ea, eb] at this
      exact this

/-- **`normalize_lexmincol`** -/
theorem normalize_lexmincol (nd : SolNode) (pi pj : Nat) :
    0 < nd.tab.den → LexMinCol nd pi pj → LexMinCol { nd with tab := nd.tab.normalize } pi pj := by
  intro hden hmin
  rcases Piv.normalize_cases nd.tab (ne_of_gt hden) with e | ⟨g, hg, gd, gs, _, e⟩
  · rw [e]; exact hmin
  · rw [e]
    obtain ⟨hpj, hspp, hall⟩ := hmin
    refine ⟨hpj, ?_, fun j hj hjp => ?_⟩
    · show 0 < mget (nd.tab.divBy g).s pi pj
      rw [Piv.mget_divBy_s]
      exact (Lex.sign_ediv _ _ (le_of_lt hg) (gs.mget pi pj)).1 hspp
    · have hj' : j < nd.tab.ns := hj
      change 0 < mget (nd.tab.divBy g).s pi j at hjp
      rw [Piv.mget_divBy_s] at hjp
      have hjp' : 0 < mget nd.tab.s pi j := by
        by_contra hn
        have : mget nd.tab.s pi j / g ≤ 0 := Int.ediv_nonpos_of_nonpos_of_neg (by omega) hg
        omega
      show LexLeScaled _ (mget (nd.tab.divBy g).s pi j) pj (mget (nd.tab.divBy g).s pi pj) j
      rw [Piv.mget_divBy_s, Piv.mget_divBy_s]
      unfold fullRows
      exact Lex.lexle_div (fullRow nd) _ _ hg pj j _ _ (gs.mget pi j) (gs.mget pi pj) _
        (fun k _ => ⟨Lex.fullRow_divBy nd g gd gs k hpj, Lex.fullRow_divBy nd g gd gs k hj'⟩)
        (hall j hj' hjp')

/-- **`solve_pivot_lexpos`**: one pivoting step of `solve`, from the code-level column choice on the node
    to the pivot on the normalised node (described by `PivotSpec`), keeps the invariant -/
theorem solve_pivot_lexpos (nd nd' : SolNode) (pi pj : Nat) (f : Int) :
    WF nd → LexPos nd → pi < nd.tab.s.length →
    findLexicoMinimalColumn nd.tab.s nd.mapping nd.basis (mrow nd.tab.s pi) 0 = some pj →
    WF { nd with tab := nd.tab.normalize } →
    PivotSpec { nd with tab := nd.tab.normalize } nd' pi pj f →
    LexPos nd' := by
  intro hwf hlp hpi hf hwf0 hs
  have hlen : ({ nd with tab := nd.tab.normalize } : SolNode).tab.s.length = nd.tab.s.length := by
    rw [← hwf0.vr_len, ← hwf.vr_len]
  exact pivot_choice_lexico' _ nd' pi pj f hwf0 (normalize_lexpos nd hwf.den_pos hlp) (by rw [hlen]; exact hpi)
    (normalize_lexmincol nd pi pj hwf.den_pos (flmc_lexmin nd pi pj hwf hpi hf)) hs

/-! ### non-vacuity -/

example : WF Lex.exNodeB ∧ (∀ k, k < Lex.exNodeB.tab.ns →
      boolGet Lex.exNodeB.basis k = true ∧ natGet Lex.exNodeB.mapping k = k) ∧ LexPos Lex.exNodeB :=
  ⟨Lex.exNodeB_wf, by decide, init_lexpos Lex.exNodeB Lex.exNodeB_wf (by decide)⟩

/-- a node with den 2 and even entries: `normalize` divides by 2; column 1 is lexico-minimal for row 0 -/
def Lex.exNodeE : SolNode :=
  { tab := { s := [[2, 2], [2, -2]], t := [[-4], [2]], den := 2, ns := 2, nt := 1 }
    basis := [true, true, false, false], mapping := [0, 1, 0, 1], varRow := [2, 3], varColumn := [0, 1]
    sign := [.negative, .positive], big := none, arts := [], cons := [] }

theorem Lex.exNodeE_wf : WF Lex.exNodeE :=
  ⟨by decide, by decide, by decide, by decide, by decide, by decide, by decide, by decide, by decide,
   by decide, by decide, by decide⟩

example : 0 < Lex.exNodeE.tab.den ∧ LexMinCol Lex.exNodeE 0 1 ∧ Lex.exNodeE.tab.normalize ≠ Lex.exNodeE.tab
    ∧ LexMinCol { Lex.exNodeE with tab := Lex.exNodeE.tab.normalize } 0 1 :=
  ⟨by decide, by decide, by decide, normalize_lexmincol Lex.exNodeE 0 1 (by decide) (by decide)⟩

/-- the whole step on `Lex.exNodeE`: the normalised node is `Lex.exNodeB`, the pivot is the model's `pivot` -/
example : WF Lex.exNodeE ∧ LexPos Lex.exNodeE
    ∧ findLexicoMinimalColumn Lex.exNodeE.tab.s Lex.exNodeE.mapping Lex.exNodeE.basis (mrow Lex.exNodeE.tab.s 0) 0
        = some 1
    ∧ ({ Lex.exNodeE with tab := Lex.exNodeE.tab.normalize } : SolNode) = Lex.exNodeB
    ∧ pivot Lex.exNodeE 0 1 = pivot Lex.exNodeB 0 1
    ∧ LexPos (pivot Lex.exNodeE 0 1) := by
  have e : ({ Lex.exNodeE with tab := Lex.exNodeE.tab.normalize } : SolNode) = Lex.exNodeB := by decide
  refine ⟨Lex.exNodeE_wf, by decide, by decide, e, by decide, ?_⟩
  refine solve_pivot_lexpos Lex.exNodeE _ 0 1 1 Lex.exNodeE_wf (by decide) (by decide) (by decide) ?_ ?_
  · rw [e]; exact Lex.exNodeB_wf
  · rw [e, show pivot Lex.exNodeE 0 1 = pivot Lex.exNodeB 0 1 by decide]; exact Lex.exNodeB_spec

/-- non-vacuity of `lex_min_unique` (trivially, with the same node twice) -/
example : ∀ i, i < 3 → (fun k => [0, 0, 3].getD k (0 : Int)) i = (fun k => [0, 0, 3].getD k 0) i :=
  lex_min_unique Lex.exNodeA Lex.exNodeA _ _ [1] 3 Lex.exNodeA_wf Lex.exNodeA_lexpos rfl
    (by unfold IsBasic; decide) ⟨by unfold TabSat RowHolds; decide, by decide⟩
    Lex.exNodeA_wf Lex.exNodeA_lexpos rfl
    (by unfold IsBasic; decide) ⟨by unfold TabSat RowHolds; decide, by decide⟩ (by decide) (by decide)

end PPLV.PIPCore

import PPLV.Solver.PIPCoreProofsSign2
import Mathlib.Tactic.Linarith
import Mathlib.Tactic.Ring
/-!
# sign family: the rows `t_i(z) < 0` and `t_i(z) > 0` handed to `compatibility_check`,
and generic invariants of the two refinement loops

`complement_assign(x, t, den)` and the row of PIP_Tree.cc:2783-2787 subtract from the constant term the
number `δ ∈ [1, den]` that makes it a multiple of `den` (`roundDelta`).  They are the exact negation
`t(z) < 0` resp. the exact `t(z) > 0` only when `den` divides the parameter part `Σ_{j≥1} t_j q_j`
(`DenDivides`); in general they are STRONGER (one direction only).
-/
namespace PPLV.PIPCore

/-- the `δ` subtracted from the constant term `x0`: `x0 - δ` is the greatest multiple of `den` below `x0` -/
def roundDelta (x0 den : Int) : Int := if posRem x0 den = 0 then den else posRem x0 den

theorem roundDelta_bounds {den : Int} (hden : 0 < den) (x0 : Int) :
    1 ≤ roundDelta x0 den ∧ roundDelta x0 den ≤ den := by
  unfold roundDelta posRem
  have h0 : 0 ≤ x0.emod den := Int.emod_nonneg x0 (by omega)
  have h1 : x0.emod den < den := Int.emod_lt_of_pos x0 hden
  by_cases h : x0.emod den = 0
  · simp only [h, if_true]; omega
  · simp only [h, if_false]; omega

theorem roundDelta_dvd {den : Int} (x0 : Int) : den ∣ x0 - roundDelta x0 den := by
  unfold roundDelta posRem
  have hdef : den * (x0 / den) + x0.emod den = x0 := Int.mul_ediv_add_emod x0 den
  by_cases h : x0.emod den = 0
  · simp only [h, if_true]
    exact ⟨x0 / den - 1, by rw [Int.mul_sub]; omega⟩
  · simp only [h, if_false]
    exact ⟨x0 / den, by omega⟩

theorem roundDelta_one (x0 : Int) : roundDelta x0 1 = 1 := by
  have := roundDelta_bounds (den := 1) (by decide) x0; omega

/-- every parameter coefficient of the row is a multiple of the denominator -/
def DenDivides (den : Int) (t : Row) : Prop := ∀ j, 1 ≤ j → den ∣ rget t j

theorem DenDivides.tail {den a : Int} {as : Row} (h : DenDivides den (a :: as)) : ∀ b ∈ as, den ∣ b := by
  intro b hb
  obtain ⟨i, hi, rfl⟩ := List.getElem_of_mem hb
  have := h (i + 1) (by omega)
  simpa [rget, List.getD_eq_getElem?_getD, hi] using this

theorem complementAssign_cons {den : Int} (a : Int) (as : Row) :
    complementAssign (a :: as) den = (-a - roundDelta (-a) den) :: as.map (fun a => -a) := by
  by_cases h1 : den = 1
  · subst h1
    rw [roundDelta_one]
    simp [complementAssign, rget, rset]
  · simp [complementAssign, rget, rset, roundDelta, h1]

theorem strictRow_cons {den : Int} (a : Int) (as : Row) :
    strictRow (a :: as) den = (a - roundDelta a den) :: as := by
  simp [strictRow, rget, rset, roundDelta]

theorem complementAssign_length (t : Row) (den : Int) : (complementAssign t den).length = t.length := by
  simp [complementAssign, rset]

theorem strictRow_length (t : Row) (den : Int) : (strictRow t den).length = t.length := by
  simp [strictRow, rset]

/-- value of the row `t_i(z) > 0` -/
theorem strictRow_dot {t : Row} {den : Int} {q : List Int} (hq : q.head? = some 1) (ht : t ≠ []) :
    dot (strictRow t den) q = dot t q - roundDelta (rget t 0) den := by
  obtain ⟨ps, rfl⟩ := head_one_form hq
  cases t with
  | nil => exact absurd rfl ht
  | cons a as =>
    rw [strictRow_cons, dot_cons, dot_cons]
    show _ = _ - roundDelta a den
    ring

/-- `complement_assign` builds the row `-t(z) > 0` -/
theorem complementAssign_eq_strictRow (t : Row) (den : Int) :
    complementAssign t den = strictRow (t.map (fun a => -a)) den := by
  cases t with
  | nil => rfl
  | cons a as => rw [complementAssign_cons, List.map_cons, strictRow_cons]

/-- value of the complement row -/
theorem complementAssign_dot {t : Row} {den : Int} {q : List Int} (hq : q.head? = some 1) (ht : t ≠ []) :
    dot (complementAssign t den) q = - dot t q - roundDelta (-(rget t 0)) den := by
  rw [complementAssign_eq_strictRow, strictRow_dot hq (by rwa [ne_eq, List.map_eq_nil_iff]), dot_neg,
    rget_map0 _ Int.neg_zero]

/-- **exact characterisation** of the complement row (any `den`) -/
theorem complementAssign_den_spec {t : Row} {den : Int} {q : List Int} (hq : q.head? = some 1) (ht : t ≠ []) :
    0 ≤ dot (complementAssign t den) q ↔ dot t q + roundDelta (-(rget t 0)) den ≤ 0 := by
  rw [complementAssign_dot hq ht]; omega

/-- **exact characterisation** of the row `t_i(z) > 0` (any `den`) -/
theorem strictRow_spec {t : Row} {den : Int} {q : List Int} (hq : q.head? = some 1) (ht : t ≠ []) :
    0 ≤ dot (strictRow t den) q ↔ roundDelta (rget t 0) den ≤ dot t q := by
  rw [strictRow_dot hq ht]; omega

/-- the row `t_i(z) > 0` implies `t(z) > 0` (always) -/
theorem strictRow_imp_pos {t : Row} {den : Int} {q : List Int} (hden : 0 < den)
    (hq : q.head? = some 1) (ht : t ≠ []) (h : 0 ≤ dot (strictRow t den) q) : 0 < dot t q := by
  have := (strictRow_spec hq ht).1 h
  have := roundDelta_bounds hden (rget t 0)
  omega

theorem dvd_lt_nonpos {d w : Int} (hd : 0 < d) (hdvd : d ∣ w) (hlt : w < d) : w ≤ 0 := by
  obtain ⟨m, rfl⟩ := hdvd
  by_contra h
  have hm : 1 ≤ m := by
    by_contra hm
    have : d * m ≤ 0 := Int.mul_nonpos_of_nonneg_of_nonpos (Int.le_of_lt hd) (by omega)
    omega
  have := Int.mul_le_mul_of_nonneg_left hm (Int.le_of_lt hd)
  omega

/-- when `den` divides the parameter part, the row of PIP_Tree.cc:2783-2787 IS `t(z) > 0` -/
theorem strictRow_exact {t : Row} {den : Int} {q : List Int} (hden : 0 < den)
    (hq : q.head? = some 1) (ht : t ≠ []) (hdiv : DenDivides den t) :
    0 ≤ dot (strictRow t den) q ↔ 0 < dot t q := by
  refine ⟨strictRow_imp_pos hden hq ht, ?_⟩
  intro hpos
  rw [strictRow_spec hq ht]
  obtain ⟨ps, rfl⟩ := head_one_form hq
  cases t with
  | nil => exact absurd rfl ht
  | cons a as =>
    have hb := roundDelta_bounds hden a
    have hd1 : den ∣ a - roundDelta a den := roundDelta_dvd a
    have hd2 : den ∣ dot as ps := dvd_dot den as ps hdiv.tail
    show roundDelta a den ≤ dot (a :: as) (1 :: ps)
    rw [dot_cons] at hpos ⊢
    have hd3 : den ∣ roundDelta a den - (a * 1 + dot as ps) := by
      have := Int.dvd_neg.2 (Int.dvd_add hd1 hd2)
      have e : -(a - roundDelta a den + dot as ps) = roundDelta a den - (a * 1 + dot as ps) := by ring
      rwa [e] at this
    have := dvd_lt_nonpos hden hd3 (by omega)
    omega

/-- when `den` divides the parameter part, the complement row IS `t(z) < 0` -/
theorem complementAssign_den_exact {t : Row} {den : Int} {q : List Int} (hden : 0 < den)
    (hq : q.head? = some 1) (ht : t ≠ []) (hdiv : DenDivides den t) :
    0 ≤ dot (complementAssign t den) q ↔ dot t q < 0 := by
  have hdiv' : DenDivides den (t.map (fun a => -a)) := fun j hj => by
    rw [rget_map0 _ Int.neg_zero]; exact Int.dvd_neg.mpr (hdiv j hj)
  rw [complementAssign_eq_strictRow, strictRow_exact hden hq (by rwa [ne_eq, List.map_eq_nil_iff]) hdiv',
    dot_neg]
  omega

-- non-vacuity (den = 3 divides the parameter coefficients) and the gap when it does not
example : DenDivides 3 [4, 3, -6] := by
  intro j hj
  match j, hj with
  | 1, _ => decide
  | 2, _ => decide
  | (j + 3), _ => simp [rget]
example : complementAssign [4, 3, -6] 3 = [-6, -3, 6] ∧ strictRow [4, 3, -6] 3 = [3, 3, -6] := by decide
/-- `den = 2`, `t = -p`: the complement row is `p - 2 ≥ 0`, which misses `p = 1` where `t(z) = -1 < 0` -/
example : complementAssign [0, -1] 2 = [-2, 1] ∧ dot [0, -1] [1, 1] < 0
    ∧ ¬ (0 ≤ dot (complementAssign [0, -1] 2) [1, 1]) := by decide

/-! ### the oracle -/

theorem ccRow_false {cc : Mat → Option Bool} (hcc : CCContract cc) {n : Nat} (hn : 0 < n) {ctx : Mat}
    (hctx : ∀ r ∈ ctx, r.length = n) {row : Row} (hrow : row.length = n)
    (h : ccRow cc ctx row = some false) {q : List Int} (hq : ParamVec n q) (hsat : CtxSat ctx q) :
    dot row q < 0 := by
  have hall : ∀ r ∈ ctx ++ [row], r.length = n := by
    intro r hr
    rcases List.mem_append.1 hr with h | h
    · exact hctx r h
    · simp at h; subst h; exact hrow
  have := hcc (ctx ++ [row]) n false hall hn h
  by_contra hneg
  have hex : ∃ q, ParamVec n q ∧ CtxSat (ctx ++ [row]) q :=
    ⟨q, hq, (ctxSat_append_iff ctx row q).2 ⟨hsat, by omega⟩⟩
  exact absurd (this.2 hex) (by decide)

theorem ccRow_true {cc : Mat → Option Bool} (hcc : CCContract cc) {n : Nat} (hn : 0 < n) {ctx : Mat}
    (hctx : ∀ r ∈ ctx, r.length = n) {row : Row} (hrow : row.length = n)
    (h : ccRow cc ctx row = some true) : ∃ q, ParamVec n q ∧ CtxSat ctx q ∧ 0 ≤ dot row q := by
  have hall : ∀ r ∈ ctx ++ [row], r.length = n := by
    intro r hr
    rcases List.mem_append.1 hr with h | h
    · exact hctx r h
    · simp at h; subst h; exact hrow
  obtain ⟨q, hq, hs⟩ := (hcc (ctx ++ [row]) n true hall hn h).1 rfl
  exact ⟨q, hq, ((ctxSat_append_iff ctx row q).1 hs).1, ((ctxSat_append_iff ctx row q).1 hs).2⟩

/-! ### signs in a list -/

theorem signGet_set (sg : List RowSign) (i k : Nat) (v : RowSign) :
    signGet (sg.set i v) k = if i = k ∧ i < sg.length then v else signGet sg k := by
  unfold signGet
  rw [List.getD_eq_getElem?_getD, List.getD_eq_getElem?_getD, List.getElem?_set]
  by_cases h1 : i = k
  · subst h1
    by_cases h2 : i < sg.length
    · simp [h2]
    · simp [h2]
  · simp [h1]

theorem signGet_lt_of_ne_unknown {sg : List RowSign} {i : Nat} (h : signGet sg i ≠ .unknown) :
    i < sg.length := by
  by_contra hlt
  apply h
  unfold signGet
  rw [List.getD_eq_getElem?_getD, List.getElem?_eq_none (by omega)]
  rfl

theorem pointwise_set {P : Nat → RowSign → Prop} {sg : List RowSign} {i : Nat} {v : RowSign}
    (hinv : ∀ k, P k (signGet sg k)) (hv : P i v) : ∀ k, P k (signGet (sg.set i v) k) := by
  intro k
  rw [signGet_set]
  by_cases h : i = k ∧ i < sg.length
  · rw [if_pos h]; rw [← h.1]; exact hv
  · rw [if_neg h]; exact hinv k

/-! ### the two refinement loops

Both loops walk a list of rows and at each row either go on with the signs as they are or overwrite the `MIXED`
sign of that row.  `refineMixed1_cons` / `refineMixed2_cons` say what one step does; what only depends on this
shape (`RefineLoop`) is proved once. -/

/-- the sign `refineMixed1` gives to a mixed row from the two answers of the oracle -/
def newSign1 (b1 b2 : Bool) : RowSign :=
  if b2 then (if b1 then .mixed else .negative) else (if b1 then .positive else .zero)

/-- the update of `first_negative` / `first_mixed` in the first refinement, the two indices separately -/
theorem refine1_firsts_eq (new : RowSign) (fs : Firsts) (i : Nat) :
    (if new = .negative ∧ fs.neg = none then
        ({ neg := some i, mix := if fs.mix = some i then none else fs.mix } : Firsts)
      else if new = .mixed then (if fs.mix = none then { fs with mix := some i } else fs)
      else if fs.mix = some i then { fs with mix := none } else fs)
    = { neg := if new = .negative ∧ fs.neg = none then some i else fs.neg,
        mix := if new = .mixed then (if fs.mix = none then some i else fs.mix)
               else (if fs.mix = some i then none else fs.mix) } := by
  obtain ⟨neg, mix⟩ := fs
  by_cases h1 : new = .negative ∧ neg = none
  · obtain ⟨rfl, rfl⟩ := h1
    simp only [and_self, if_true, reduceCtorEq, if_false]
  · rw [if_neg h1, if_neg h1]
    by_cases h2 : new = .mixed
    · simp only [h2, if_true]
      by_cases h3 : mix = none
      · simp only [h3, if_true]
      · simp only [h3, if_false]
    · simp only [h2, if_false]
      by_cases h3 : mix = some i
      · simp only [h3, if_true]
      · simp only [h3, if_false]

/-- one step of the first refinement: a row that is not `MIXED` is passed over; a `MIXED` row gets the verdict
    of the two oracle answers -/
theorem refineMixed1_cons {cc : Mat → Option Bool} {T : Tableau} {ctx : Mat} {start i : Nat} {is : List Nat}
    {sg : List RowSign} {fs : Firsts} {r : List RowSign × Firsts}
    (h : refineMixed1 cc T ctx start (i :: is) (sg, fs) = some r) :
    (signGet sg i ≠ .mixed ∧ refineMixed1 cc T ctx start is (sg, fs) = some r) ∨
    (signGet sg i = .mixed ∧ ∃ b1 b2, ccRow cc ctx (mrow T.t i) = some b1 ∧
      ccRow cc ctx (complementAssign (mrow T.t i) T.den) = some b2 ∧
      refineMixed1 cc T ctx start is (sg.set i (newSign1 b1 b2),
        { neg := if newSign1 b1 b2 = .negative ∧ fs.neg = none then some i else fs.neg,
          mix := if newSign1 b1 b2 = .mixed then (if fs.mix = none then some i else fs.mix)
                 else (if fs.mix = some i then none else fs.mix) }) = some r) := by
  simp only [refineMixed1] at h
  by_cases hm : signGet sg i ≠ .mixed
  · rw [if_pos hm] at h
    exact Or.inl ⟨hm, h⟩
  · rw [if_neg hm] at h
    cases hb1 : ccRow cc ctx (mrow T.t i) with
    | none => rw [hb1] at h; simp at h
    | some b1 =>
      rw [hb1] at h
      cases hb2 : ccRow cc ctx (complementAssign (mrow T.t i) T.den) with
      | none => rw [hb2] at h; simp at h
      | some b2 =>
        rw [hb2] at h
        simp only at h
        rw [refine1_firsts_eq] at h
        exact Or.inr ⟨by simpa using hm, b1, b2, rfl, rfl, h⟩

/-- one step of the second refinement: only a `MIXED` row with a positive variable coefficient is looked at;
    it becomes `NEGATIVE` when its row `t_i(z) > 0` is incompatible with the context -/
theorem refineMixed2_cons {cc : Mat → Option Bool} {T : Tableau} {ctx : Mat} {i : Nat} {is : List Nat}
    {sg : List RowSign} {fs : Firsts} {r : List RowSign × Firsts}
    (h : refineMixed2 cc T ctx (i :: is) (sg, fs) = some r) :
    ((signGet sg i ≠ .mixed ∨ hasPositive (mrow T.s i) = false) ∧
      refineMixed2 cc T ctx is (sg, fs) = some r) ∨
    (signGet sg i = .mixed ∧ hasPositive (mrow T.s i) = true ∧
      ((ccRow cc ctx (strictRow (mrow T.t i) T.den) = some true ∧
        refineMixed2 cc T ctx is (sg, if fs.mix = none then { fs with mix := some i } else fs) = some r) ∨
       (ccRow cc ctx (strictRow (mrow T.t i) T.den) = some false ∧
        refineMixed2 cc T ctx is (sg.set i .negative,
          { neg := if fs.neg = none then some i else fs.neg,
            mix := if fs.mix = some i then none else fs.mix }) = some r))) := by
  simp only [refineMixed2] at h
  by_cases hm : signGet sg i ≠ .mixed
  · rw [if_pos hm] at h
    exact Or.inl ⟨Or.inl hm, h⟩
  · rw [if_neg hm] at h
    cases hp : hasPositive (mrow T.s i) with
    | false =>
      simp only [hp, Bool.not_false, if_true] at h
      exact Or.inl ⟨Or.inr rfl, h⟩
    | true =>
      simp only [hp, Bool.not_true, Bool.false_eq_true, if_false] at h
      refine Or.inr ⟨by simpa using hm, rfl, ?_⟩
      cases hb : ccRow cc ctx (strictRow (mrow T.t i) T.den) with
      | none => rw [hb] at h; simp at h
      | some b =>
        rw [hb] at h
        cases b with
        | true => exact Or.inl ⟨rfl, h⟩
        | false => exact Or.inr ⟨rfl, h⟩

/-- `f` is a loop over rows that ends with the state it has reached and whose step at row `i` goes on with
    the same signs or with the `MIXED` sign of row `i` overwritten by some `v` with `W i v` -/
def RefineLoop (f : List Nat → List RowSign × Firsts → Option (List RowSign × Firsts))
    (W : Nat → RowSign → Prop) : Prop :=
  (∀ st, f [] st = some st) ∧
  ∀ i is st r, f (i :: is) st = some r → ∃ st', f is st' = some r ∧
    (st'.1 = st.1 ∨ (signGet st.1 i = .mixed ∧ ∃ v, W i v ∧ st'.1 = st.1.set i v))

/-- a pointwise property of the signs is kept by such a loop when it holds of every sign the loop can write -/
theorem RefineLoop.pointwise {f : List Nat → List RowSign × Firsts → Option (List RowSign × Firsts)}
    {W : Nat → RowSign → Prop} (hf : RefineLoop f W) (P : Nat → RowSign → Prop) :
    ∀ (is : List Nat) (st r : List RowSign × Firsts),
      (∀ i ∈ is, P i .mixed → ∀ v, W i v → P i v) → f is st = some r →
      (∀ k, P k (signGet st.1 k)) → ∀ k, P k (signGet r.1 k)
  | [], st, r, _, h, hinv => by
    rw [hf.1, Option.some.injEq] at h
    rw [← h]; exact hinv
  | i :: is, st, r, hstep, h, hinv => by
    obtain ⟨st', h', hs⟩ := hf.2 i is st r h
    refine RefineLoop.pointwise hf P is st' r (fun j hj => hstep j (List.mem_cons_of_mem _ hj)) h' ?_
    rcases hs with e | ⟨hm, v, hv, e⟩
    · rw [e]; exact hinv
    · rw [e]
      exact pointwise_set hinv (hstep i List.mem_cons_self (hm ▸ hinv i) v hv)

theorem RefineLoop.length {f : List Nat → List RowSign × Firsts → Option (List RowSign × Firsts)}
    {W : Nat → RowSign → Prop} (hf : RefineLoop f W) :
    ∀ (is : List Nat) (st r : List RowSign × Firsts), f is st = some r → r.1.length = st.1.length
  | [], st, r, h => by
    rw [hf.1, Option.some.injEq] at h
    rw [← h]
  | i :: is, st, r, h => by
    obtain ⟨st', h', hs⟩ := hf.2 i is st r h
    rw [RefineLoop.length hf is st' r h']
    rcases hs with e | ⟨_, v, _, e⟩
    · rw [e]
    · rw [e, List.length_set]

theorem refineMixed1_loop (cc : Mat → Option Bool) (T : Tableau) (ctx : Mat) (start : Nat) :
    RefineLoop (refineMixed1 cc T ctx start) (fun i v => ∃ b1 b2, ccRow cc ctx (mrow T.t i) = some b1 ∧
      ccRow cc ctx (complementAssign (mrow T.t i) T.den) = some b2 ∧ v = newSign1 b1 b2) := by
  refine ⟨fun st => by rw [refineMixed1], fun i is st r h => ?_⟩
  rcases refineMixed1_cons h with ⟨_, h'⟩ | ⟨hm, b1, b2, hb1, hb2, h'⟩
  · exact ⟨_, h', Or.inl rfl⟩
  · exact ⟨_, h', Or.inr ⟨hm, _, ⟨b1, b2, hb1, hb2, rfl⟩, rfl⟩⟩

theorem refineMixed2_loop (cc : Mat → Option Bool) (T : Tableau) (ctx : Mat) :
    RefineLoop (refineMixed2 cc T ctx) (fun i v => hasPositive (mrow T.s i) = true ∧
      ccRow cc ctx (strictRow (mrow T.t i) T.den) = some false ∧ v = .negative) := by
  refine ⟨fun st => by rw [refineMixed2], fun i is st r h => ?_⟩
  rcases refineMixed2_cons h with ⟨_, h'⟩ | ⟨hm, hp, ⟨_, h'⟩ | ⟨hb, h'⟩⟩
  · exact ⟨_, h', Or.inl rfl⟩
  · exact ⟨_, h', Or.inl rfl⟩
  · exact ⟨_, h', Or.inr ⟨hm, _, ⟨hp, hb, rfl⟩, rfl⟩⟩

/-- the first refinement only rewrites rows of the list whose sign is `MIXED`, by `newSign1` of the answers -/
theorem refineMixed1_pointwise {cc : Mat → Option Bool} {T : Tableau} {ctx : Mat} (start : Nat)
    (P : Nat → RowSign → Prop) (is : List Nat) (sg : List RowSign) (fs : Firsts) (sg' : List RowSign)
    (fs' : Firsts)
    (hstep : ∀ i ∈ is, P i .mixed → ∀ b1 b2, ccRow cc ctx (mrow T.t i) = some b1 →
      ccRow cc ctx (complementAssign (mrow T.t i) T.den) = some b2 → P i (newSign1 b1 b2))
    (h : refineMixed1 cc T ctx start is (sg, fs) = some (sg', fs'))
    (hinv : ∀ k, P k (signGet sg k)) : ∀ k, P k (signGet sg' k) :=
  (refineMixed1_loop cc T ctx start).pointwise P is (sg, fs) (sg', fs')
    (fun i hi hmix _ ⟨b1, b2, hb1, hb2, e⟩ => e ▸ hstep i hi hmix b1 b2 hb1 hb2) h hinv

/-- the second refinement only turns `MIXED` rows with a positive variable coefficient whose row `t_i(z) > 0`
    is incompatible into `NEGATIVE` -/
theorem refineMixed2_pointwise {cc : Mat → Option Bool} {T : Tableau} {ctx : Mat}
    (P : Nat → RowSign → Prop) (is : List Nat) (sg : List RowSign) (fs : Firsts) (sg' : List RowSign)
    (fs' : Firsts)
    (hstep : ∀ i ∈ is, P i .mixed → hasPositive (mrow T.s i) = true →
      ccRow cc ctx (strictRow (mrow T.t i) T.den) = some false → P i .negative)
    (h : refineMixed2 cc T ctx is (sg, fs) = some (sg', fs'))
    (hinv : ∀ k, P k (signGet sg k)) : ∀ k, P k (signGet sg' k) :=
  (refineMixed2_loop cc T ctx).pointwise P is (sg, fs) (sg', fs')
    (fun i hi hmix _ ⟨hp, hb, e⟩ => e ▸ hstep i hi hmix hp hb) h hinv

end PPLV.PIPCore

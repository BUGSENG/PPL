import PPLV.Solver.PendingProofsIncrDefs

/-!
# `ReadyS`: the encoding with negative components 0 where the variable is non-negative

* `fresh_setupGoodS`: the completeness witness of the fresh set-up has `NegZero` (`InsCtx.setup_complete`);
* `chain_completeS`: it survives the first phase and `erase_artificials`; `readyS_after_secondPhase`.
-/
namespace PPLV.Solver.Pend
open PPLV.Lin PPLV.Solver PPLV.Solver.Tab

/-- the completeness witness of the fresh set-up can be chosen with `NegZero` -/
theorem fresh_setupGoodS (s : LPState) (hF : Fresh s) (s' : LPState) (b e : Nat)
    (h : ppcSetup s = .phase1 s' b e) :
    ∀ x, csSem s.input_cs x → ∃ y, TabSol s'.tableau s'.numCols b y ∧
      (∀ i, i < s.external_space_dim → proj s'.mapping y i = x i) ∧ NegZero s'.mapping s.external_space_dim x y := by
  cases hp : parseConstraints s with
  | none =>
    exfalso
    have : ppcSetup s = .done { s with status := .UNSATISFIABLE } := by
      unfold ppcSetup; rw [ppcRecompute_fresh hF]; simp only [hp]
    rw [this] at h; cases h
  | some p =>
    obtain ⟨C, c1, c2, c3, H1, H2, hnc, s0, hs0, f1, f2, f3, f4, f5, f6, -⟩ := fresh_ctx s hF p hp
    rcases ppcTrivial_cases s0 (if (C.N - C.isSat.count true) > 0 then C.SL else 0) C.artOut.2.2.2
        (by rw [f6]; exact hF.npos) with ⟨hph, -⟩ | ⟨sd, hd, -⟩
    swap
    · rw [hs0, hd] at h; cases h
    rw [hs0, hph] at h
    simp only [Setup.phase1.injEq] at h
    obtain ⟨rfl, rfl, rfl⟩ := h
    have hstart : artStart (if (C.N - C.isSat.count true) > 0 then C.SL else 0) s0.numCols = C.SL := by
      unfold artStart
      rw [f4]
      by_cases ha : (C.N - C.isSat.count true) > 0
      · rw [if_pos ha, if_pos (by unfold InsCtx.SL InsCtx.V; omega)]
      · rw [if_neg ha, if_neg (by simp)]; rw [hnc]; omega
    intro x hx
    rw [← c1] at hx
    obtain ⟨y, y1, y2, y3, y4, y5, y6⟩ := C.setup_complete (zeros C.numCols) C.fin.base H2 x hx
    refine ⟨y, ⟨y1, y2, fun j hj _ => y3 j (by rw [hstart] at hj; exact hj), by rw [f1]; exact y4⟩, ?_, ?_⟩
    · rw [f5, ← c2]; exact y5
    · rw [f5, ← c2]; exact y6

end PPLV.Solver.Pend

namespace PPLV.Solver.Pend
open PPLV.Lin PPLV.Solver PPLV.Solver.Tab

theorem negZero_trunc (M : List (Nat × Nat)) (nn : List Bool) (n j N : Nat) (hM : MapOK M nn n j) (hN : 1 + j ≤ N)
    (x y : Val) (h : NegZero M n x y) : NegZero M n x (trunc N y) := by
  intro v hv hsplit hx
  have hcol : (M.getD (v+1) (0, 0)).2 < 1 + j := by
    have := (hM.cols v hv).2.2.2
    unfold hiCol at this; rw [if_neg hsplit] at this; exact this
  unfold trunc; rw [if_pos (by omega)]; exact h v hv hsplit hx

/-- the `NegZero` witness survives the first phase and `erase_artificials` -/
theorem chain_completeS (fc : Chooser) (hfc : ChooserOK fc) (fuel : Nat) (cs : List ICon) (n : Nat)
    (s' : LPState) (b e : Nat) (hP : Phase1Start s' b e)
    (hmap : ∃ nn j, MapOK s'.mapping nn n j ∧ 1 + j ≤ artStart b s'.numCols)
    (gS : ∀ x, csSem cs x → ∃ y, TabSol s'.tableau s'.numCols b y ∧
      (∀ i, i < n → proj s'.mapping y i = x i) ∧ NegZero s'.mapping n x y)
    (ok : Bool) (t : Tab) (hrun : computeSimplexWith (chooserOf fc s'.pricing) fuel s'.tab = some (ok, t))
    (hst : (ppcFinish s' b e ok t).status = .SATISFIABLE) :
    (ppcFinish s' b e ok t).numCols = (ppcFinish s' b e ok t).working_cost.length ∧
    ∀ x, csSem cs x → ∃ y, Pos0 (ppcFinish s' b e ok t).working_cost.length y ∧
      Sol (ppcFinish s' b e ok t).tableau y ∧
      (∀ i, i < n → proj (ppcFinish s' b e ok t).mapping y i = x i) ∧
      NegZero (ppcFinish s' b e ok t).mapping n x y := by
  obtain ⟨nn, jj, hMok, hjj⟩ := hmap
  obtain ⟨hok, hCt, hlen, hsol, v1, v2⟩ :=
    phase1_verdict _ (chooserOf_ok fc hfc s'.pricing) fuel s' b e hP ok t hrun
  subst hok
  have h0 : t.cost.get 0 = 0 := by
    by_contra hne
    rw [ppcFinish_unsat s' b e true t (Or.inr hne)] at hst; cases hst
  obtain ⟨-, hart⟩ := v2 h0
  rw [ppcFinish_sat s' b e t h0]
  have hn2 : 2 ≤ s'.numCols := by rw [← hlen]; exact hCt.len2
  have hrow : ∀ i, i < s'.tableau.length → (s'.tableau.getD i []).length = s'.numCols :=
    fun i hi => (hP.canon.rowLen i hi).trans hP.len
  by_cases hb : b = 0
  · have hb' : (b != 0) = false := by rw [hb]; rfl
    rw [hb']
    simp only [Bool.false_eq_true, if_false]
    have hstart : artStart b s'.numCols = s'.numCols - 1 := by unfold artStart; rw [hb]; simp
    rw [hstart] at hjj
    refine ⟨by simp only [computeGenerator, LPState.withTab]; exact hlen.symm, fun x hx => ?_⟩
    obtain ⟨y, ⟨y1, y2, y3, y4⟩, y5, y6⟩ := gS x hx
    simp only [computeGenerator, LPState.withTab]
    rw [hlen]
    obtain ⟨w1, w2, w3, w4⟩ := sol_trunc (M := s'.numCols - 1) (N := s'.numCols) (by omega) hrow y1 y2
      (fun j h1 h2 => y3 j (by rw [hstart]; exact h1) h2) (fun j h1 h2 => absurd h2 (by omega)) y4
    refine ⟨trunc s'.numCols y, ⟨w1, w2, w3⟩, (hsol _).mpr w4, fun i hi => ?_,
      negZero_trunc _ nn n jj _ hMok (by omega) x y y6⟩
    · rw [← y5 i hi]
      have := proj_congr s'.mapping nn n jj hMok (trunc s'.numCols y) y (fun col hcol => by
        unfold trunc; rw [if_pos (by omega)])
      rw [this]
  · have hb' : (b != 0) = true := bne_iff_ne.mpr hb
    rw [hb']
    simp only [if_true]
    obtain ⟨hb1, hbe⟩ := hP.bpos hb
    have hA := hart hb
    have hstart : artStart b s'.numCols = b := by unfold artStart; rw [if_pos hb]
    rw [hstart] at hjj
    have hnumc : (s'.withTab t).numCols = s'.numCols := rfl
    rw [hnumc]
    obtain ⟨e1, e2, e3⟩ := erase_artificials_valid b e s'.numCols t hb1 hbe hP.eEnd hA
    obtain ⟨e4, e5⟩ := eraseArtificials_canonTB b e s'.numCols t hb1 hbe hP.eEnd
      (by rw [← hlen]; exact hCt.toTB) hA hlen
    refine ⟨by simp only [computeGenerator, LPState.withTab]; rw [e5, e1], fun x hx => ?_⟩
    obtain ⟨y, ⟨y1, y2, y3, y4⟩, y5, y6⟩ := gS x hx
    simp only [computeGenerator, LPState.withTab]
    rw [e5]
    obtain ⟨w1, w2, w3, w4⟩ := sol_trunc (M := b) (N := b) hb1 hrow y1 y2
      (fun j h1 h2 => absurd h2 (by omega)) (fun j h1 h2 => y3 j (by rw [hstart]; exact h1) h2) y4
    refine ⟨trunc b y, ⟨w1, w2, fun j hj => w3 j (by omega)⟩, (e3 _ w3).mpr ((hsol _).mpr w4), fun i hi => ?_,
      negZero_trunc _ nn n jj _ hMok hjj x y y6⟩
    · rw [← y5 i hi]
      have := proj_congr s'.mapping nn n jj hMok (trunc b y) y (fun col hcol => by
        unfold trunc; rw [if_pos (by omega)])
      rw [this]

/-- `second_phase()` keeps `ReadyS` -/
theorem readyS_after_secondPhase (fc : Chooser) (hfc : ChooserOK fc) (fuel : Nat) (cs : List ICon) (n : Nat)
    (s1 s2 : LPState) (hst : s1.status = .SATISFIABLE) (hR : ReadyS cs n s1)
    (hobj : s1.obj.coeffs.length ≤ n) (h : secondPhase fc fuel s1 = some s2) : ReadyS cs n s2 := by
  have hr := ready_after_secondPhase fc hfc fuel cs n s1 s2 hst hR.ready hobj h
  obtain ⟨nn, jj, hM, hjj⟩ := hR.ready.map
  obtain ⟨c1, c2, -⟩ := secondPhaseCost_spec s1 nn n jj hM hjj hobj
  have hc2 : (secondPhaseCost s1).get (s1.working_cost.length - 1) ≠ 0 := by rw [c2]; decide
  obtain ⟨-, p2, p3, p4, -, -⟩ := secondPhase_sound fc hfc fuel s1 s2 hst hR.ready.tb c1 hc2 h
  have hkeep : s2.mapping = s1.mapping ∧ s2.numCols = s1.numCols := by
    rw [secondPhase_unfold fc fuel s1 hst] at h
    split at h
    · cases h
    · simp only [Option.some.injEq] at h; subst h; exact ⟨rfl, rfl⟩
  refine ⟨hr, by rw [hkeep.2, p2]; exact hR.ncols, fun x hx => ?_⟩
  obtain ⟨y, y1, y2, y3, y4⟩ := hR.completeS x hx
  exact ⟨y, by rw [p2]; exact y1, (p4 y).mpr y2, by rw [hkeep.1]; exact y3, by rw [hkeep.1]; exact y4⟩

end PPLV.Solver.Pend

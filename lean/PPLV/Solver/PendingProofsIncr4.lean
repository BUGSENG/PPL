import PPLV.Solver.PendingProofsGCtx

/-!
# the invariant of the insertion loop against a non-empty old tableau (`GCtx.GInv`)
-/
namespace PPLV.Solver.Pend
open PPLV.Lin PPLV.Solver PPLV.Solver.Tab

theorem set_eq_self_nat (l : List Nat) (k : Nat) (h : l.getD k 0 = 0) (hk : k < l.length) : l.set k 0 = l := by
  apply List.ext_getElem?
  intro i
  rw [List.getElem?_set]
  by_cases hik : k = i
  · subst hik
    rw [if_pos rfl, if_pos hk]
    rw [List.getD_eq_getElem?_getD, List.getElem?_eq_getElem hk] at h
    rw [List.getElem?_eq_getElem hk]
    simp only [Option.getD_some] at h
    rw [h]
  · rw [if_neg hik]

theorem set_eq_self_bool (l : List Bool) (k : Nat) (h : l.getD k false = false) (hk : k < l.length) :
    l.set k false = l := by
  apply List.ext_getElem?
  intro i
  rw [List.getElem?_set]
  by_cases hik : k = i
  · subst hik
    rw [if_pos rfl, if_pos hk]
    rw [List.getD_eq_getElem?_getD, List.getElem?_eq_getElem hk] at h
    rw [List.getElem?_eq_getElem hk]
    simp only [Option.getD_some] at h
    rw [h]
  · rw [if_neg hik]

theorem zeros_length (n : Nat) : (zeros n).length = n := by simp [zeros]

theorem zeros_get (n col : Nat) : (zeros n).get col = 0 := zeros_getD n col

namespace GCtx
variable (C : GCtx)

/-- the invariant after the pending constraints with index `≥ i` are inserted -/
structure GInv (i : Nat) (st : Ins) : Prop where
  k_eq : st.k = C.R0 + ((C.pend.take i).filter tabC).length
  sl_eq : st.slackIndex = C.V + ((C.pend.take i).filter slackC).length
  lenT : st.T.length = C.N
  lenB : st.base.length = C.N
  lenW : st.worked.length = C.N
  oldT : ∀ r, r < C.R0 → st.T.getD r [] = C.T0.getD r []
  oldB : ∀ r, r < C.R0 → st.base.getD r 0 = C.base0.getD r 0
  oldW : ∀ r, r < C.R0 → st.worked.getD r false = false
  low : ∀ r, C.R0 ≤ r → r < st.k →
    st.worked.getD r false = false ∧ st.base.getD r 0 = 0 ∧ st.T.getD r [] = zeros C.numCols
  rows : ∀ r, st.k ≤ r → r < C.N → (st.T.getD r []).length = C.numCols ∧
    ∀ col, ((C.V ≤ col ∧ col < st.slackIndex) ∨ C.SL ≤ col) → (st.T.getD r []).get col = 0
  w_iff : ∀ r, st.k ≤ r → r < C.N → (st.worked.getD r false = true ↔ st.base.getD r 0 ≠ 0)
  bRange : ∀ r, st.k ≤ r → r < C.N → st.base.getD r 0 ≠ 0 →
    st.slackIndex ≤ st.base.getD r 0 ∧ st.base.getD r 0 < C.SL
  pb : PBased st.T st.base
  feasNew : ∀ r, st.k ≤ r → r < C.N → st.base.getD r 0 ≠ 0 →
    0 ≤ -(((st.T.getD r []).get 0 : Int) : Rat) / (((st.T.getD r []).get (st.base.getD r 0) : Int) : Rat)
  star : ∀ col, 1 ≤ col → col < C.V → bsol st.T st.base col = bsol C.T0 C.base0 col
  cnt : st.worked.count true = C.wcount i
  sound : ∀ y : Val, y 0 = 1 → (∀ col, 1 ≤ col → 0 ≤ y col) →
    (∀ r, r < C.R0 → rowVal (C.T0.getD r []) y = 0) →
    (∀ r, st.k ≤ r → r < C.N → rowVal (st.T.getD r []) y = 0) →
    ∀ c ∈ C.pend.drop i, tabC c = true → c.holds (proj C.M y)
  complete : ∀ y0 : Val, y0 0 = 1 → (∀ col, 1 ≤ col → 0 ≤ y0 col) →
    (∀ r, r < C.R0 → rowVal (C.T0.getD r []) y0 = 0) →
    (∀ c ∈ C.pend.drop i, tabC c = true → c.holds (proj C.M y0)) →
    ∃ y : Val, (∀ col, col < C.V → y col = y0 col) ∧ y 0 = 1 ∧ (∀ col, 1 ≤ col → 0 ≤ y col) ∧
      (∀ col, C.V ≤ col → (col < st.slackIndex ∨ C.SL ≤ col) → y col = y0 col) ∧
      ∀ r, st.k ≤ r → r < C.N → rowVal (st.T.getD r []) y = 0

theorem V1 : 1 ≤ C.V := by have := C.hjV; omega

theorem getD_append_old_row (r : Nat) (hr : r < C.R0) :
    (C.T0 ++ List.replicate C.Nn (zeros C.numCols)).getD r [] = C.T0.getD r [] := by
  rw [List.getD_eq_getElem?_getD, List.getD_eq_getElem?_getD, List.getElem?_append_left hr]

theorem getD_append_new_row (r : Nat) (hr : C.R0 ≤ r) (hr2 : r < C.N) :
    (C.T0 ++ List.replicate C.Nn (zeros C.numCols)).getD r [] = zeros C.numCols := by
  rw [List.getD_eq_getElem?_getD, List.getElem?_append_right hr,
    List.getElem?_replicate_of_lt (by unfold N R0 at *; omega)]
  rfl

theorem getD_append_old_base (r : Nat) (hr : r < C.R0) :
    (C.base0 ++ List.replicate C.Nn 0).getD r 0 = C.base0.getD r 0 := by
  rw [List.getD_eq_getElem?_getD, List.getD_eq_getElem?_getD,
    List.getElem?_append_left (by rw [C.oLenB]; exact hr)]

theorem getD_append_new_base (r : Nat) (hr : C.R0 ≤ r) :
    (C.base0 ++ List.replicate C.Nn 0).getD r 0 = 0 := by
  rw [List.getD_eq_getElem?_getD, List.getElem?_append_right (by rw [C.oLenB]; exact hr)]
  by_cases h : r - C.base0.length < C.Nn
  · rw [List.getElem?_replicate_of_lt h]; rfl
  · rw [List.getElem?_eq_none (by simpa using h)]; rfl

theorem init_pb : PBased C.init.T C.init.base := by
  constructor
  · simp [init, C.oLenB]
  · intro i hi hb
    simp only [init] at hi hb ⊢
    by_cases hio : i < C.R0
    · rw [C.getD_append_old_row i hio]; rw [C.getD_append_old_base i hio] at hb ⊢
      exact C.oNZ i hio hb
    · rw [C.getD_append_new_base i (by omega)] at hb; exact absurd rfl hb
  · intro i j hi hj hij hb
    simp only [init] at hi hj hb ⊢
    have hN : (C.T0 ++ List.replicate C.Nn (zeros C.numCols)).length = C.N := by simp [N, R0]
    rw [hN] at hi hj
    by_cases hio : i < C.R0
    · rw [C.getD_append_old_base i hio] at hb ⊢
      by_cases hjo : j < C.R0
      · rw [C.getD_append_old_row j hjo]; exact C.oCol i j hio hjo hij hb
      · rw [C.getD_append_new_row j (by omega) hj]; exact zeros_get _ _
    · rw [C.getD_append_new_base i (by omega)] at hb; exact absurd rfl hb

theorem init_inv : C.GInv C.pend.length C.init := by
  have htake : C.pend.take C.pend.length = C.pend := List.take_length
  have hdrop : C.pend.drop C.pend.length = [] := List.drop_eq_nil_of_le (le_refl _)
  have hrepF : ∀ r, (List.replicate C.N false).getD r false = false := by
    intro r
    rw [List.getD_eq_getElem?_getD]
    by_cases hr : r < C.N
    · rw [List.getElem?_replicate_of_lt hr]; rfl
    · rw [List.getElem?_eq_none (by simpa using hr)]; rfl
  constructor
  · rw [htake]; rfl
  · rw [htake]; rfl
  · simp [init, N, R0]
  · simp [init, N, R0, C.oLenB]
  · simp [init]
  · intro r hr; exact C.getD_append_old_row r hr
  · intro r hr; exact C.getD_append_old_base r hr
  · intro r _; exact hrepF r
  · intro r h1 h2
    simp only [init] at h2 ⊢
    exact ⟨hrepF r, C.getD_append_new_base r h1, C.getD_append_new_row r h1 h2⟩
  · intro r h1 h2; simp only [init] at h1; omega
  · intro r h1 h2; simp only [init] at h1; omega
  · intro r h1 h2; simp only [init] at h1; omega
  · exact C.init_pb
  · intro r h1 h2; simp only [init] at h1; omega
  · intro col h1 h2
    unfold bsol
    rw [if_neg (by omega), if_neg (by omega)]
    have hro : rowOf (C.base0 ++ List.replicate C.Nn 0) col = rowOf C.base0 col := by
      cases hr : rowOf C.base0 col with
      | some i =>
        obtain ⟨hi, hb⟩ := rowOf_some hr
        unfold rowOf at hr ⊢
        rw [List.find?_eq_some_iff_append] at hr ⊢
        obtain ⟨hp, as, bs, hab, hall⟩ := hr
        have hi' : i < C.R0 := by unfold R0; rw [← C.oLenB]; exact hi
        refine ⟨by rw [C.getD_append_old_base i hi']; exact hp, as, bs ++ (List.range' C.base0.length C.Nn), ?_, ?_⟩
        · rw [List.length_append, List.length_replicate, List.range_add, hab]; simp [List.range'_eq_map_range]
        · intro a ha
          have ham : a ∈ List.range C.base0.length := by rw [hab]; exact List.mem_append_left _ ha
          have hal : a < C.R0 := by unfold R0; rw [← C.oLenB]; exact List.mem_range.mp ham
          rw [C.getD_append_old_base a hal]; exact hall a ha
      | none =>
        have hno := rowOf_none hr
        cases hr2 : rowOf (C.base0 ++ List.replicate C.Nn 0) col with
        | none => rfl
        | some i =>
          exfalso
          obtain ⟨hi, hb⟩ := rowOf_some hr2
          by_cases hio : i < C.R0
          · rw [C.getD_append_old_base i hio] at hb
            exact hno i (by rw [C.oLenB]; exact hio) hb
          · rw [C.getD_append_new_base i (by omega)] at hb; omega
    simp only [init]
    rw [hro]
    cases hr : rowOf C.base0 col with
    | none => rfl
    | some i =>
      simp only
      have hi' : i < C.R0 := by unfold R0; rw [← C.oLenB]; exact (rowOf_some hr).1
      rw [C.getD_append_old_row i hi']
  · simp only [init, wcount]
    rw [List.drop_eq_nil_of_le (by simp)]
    simp [List.count_replicate]
  · intro y _ _ _ _ c hc; rw [hdrop] at hc; cases hc
  · intro y0 h0 hnn _ _
    exact ⟨y0, fun _ _ => rfl, h0, hnn, fun _ _ _ => rfl, fun r h1 h2 => absurd h1 (by simp only [init]; omega)⟩

/-- old rows only see the columns below `V` -/
theorem old_congr (r : Nat) (hr : r < C.R0) (y y0 : Val) (h : ∀ col, col < C.V → y col = y0 col) :
    rowVal (C.T0.getD r []) y = rowVal (C.T0.getD r []) y0 := by
  unfold rowVal
  have key : dot (C.T0.getD r []) (fun col => y col - y0 col) = 0 := by
    apply dot_eq_zero_of_support
    intro col
    by_cases hc : col < C.V
    · right; show y col - y0 col = 0; rw [h col hc]; ring
    · left; exact C.oZero r hr col (by omega)
  have hsub : ∀ (l : List Int) (y y0 : Val), dot l (fun col => y col - y0 col) = dot l y - dot l y0 := by
    intro l
    induction l with
    | nil => intro y y0; rw [dot_nil, dot_nil, dot_nil]; ring
    | cons a l ih =>
      intro y y0
      simp only [dot_cons]
      have := ih y.tail y0.tail
      have e : (Val.tail fun col => y col - y0 col) = fun col => y.tail col - y0.tail col := rfl
      rw [e, this]; ring
  rw [hsub] at key
  linarith

end GCtx

end PPLV.Solver.Pend

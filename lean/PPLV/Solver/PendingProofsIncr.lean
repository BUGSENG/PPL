import PPLV.Solver.PendingProofsChain

/-!
# building blocks for the incremental call of `process_pending_constraints`

* `combine_against_base_solutions`: the loop at :896–:900 (a new row is `linear_combine`d against the rows whose
  basic variable it mentions) does not change where the new row vanishes, on valuations satisfying the old rows;
* `SplitPair`, `linearCombine_splitPair`, `pivotRows_splitPair`: the two columns of a split variable stay opposite
  in every row through `linear_combine` / `pivot`;
* `split_collapse`: with opposite columns, moving the common part of the positive and the negative component away
  (`y_p := y_p − y_q`, `y_q := 0`) keeps every row's value — the solutions lost by `merge_split_variable` are
  represented by solutions that survive;
* `rowVal_eraseIdx`: removing a column is evaluating at the valuation with 0 inserted there.
-/
namespace PPLV.Solver.Pend
open PPLV.Lin PPLV.Solver PPLV.Solver.Tab

/-- the inner loop of the insertion (:896–:900) keeps the zero set of the new row -/
theorem combine_against_base_solutions (T : List Row) (base : List Nat) (k m : Nat) (row : Row) (y : Val)
    (hold : ∀ j, j < m → j ≠ k → base.getD j 0 ≠ 0 → rowVal (T.getD j []) y = 0)
    (hnz : ∀ j, j < m → j ≠ k → base.getD j 0 ≠ 0 → (T.getD j []).get (base.getD j 0) ≠ 0) :
    rowVal (revFold m (fun j (row : Row) =>
      let bj := base.getD j 0
      if k != j && bj != 0 && row.get bj != 0 then linearCombine row (T.getD j []) bj else row) row) y = 0 ↔
    rowVal row y = 0 := by
  apply revFold_inv (fun (_ : Nat) (r : Row) => rowVal r y = 0 ↔ rowVal row y = 0)
  · exact Iff.rfl
  · intro j hj r hr
    simp only
    split
    · rename_i hc
      simp only [Bool.and_eq_true, bne_iff_ne, ne_eq] at hc
      obtain ⟨⟨h1, h2⟩, -⟩ := hc
      have hjk : j ≠ k := fun h => h1 h.symm
      exact (linearCombine_zero_iff r (T.getD j []) (base.getD j 0) y (hold j hj hjk h2) (hnz j hj hjk h2)).trans hr
    · exact hr

/-- columns `p` (positive part) and `q` (negative part) of a split variable are opposite in the row -/
def SplitPair (r : Row) (p q : Nat) : Prop := r.get q = -(r.get p)

theorem linearCombine_splitPair (x y : Row) (k p q : Nat) (hx : SplitPair x p q) (hy : SplitPair y p q) :
    SplitPair (linearCombine x y k) p q := by
  obtain ⟨d, hd, h1, -, -⟩ := linearCombine_spec x y k
  unfold SplitPair at *
  have e1 := h1 q
  have e2 := h1 p
  rw [hx, hy] at e1
  have : d * (linearCombine x y k).get q = d * -((linearCombine x y k).get p) := by
    have e3 : d * -((linearCombine x y k).get p) = -(d * (linearCombine x y k).get p) := by ring
    rw [e1, e3, e2]; ring
  exact Int.eq_of_mul_eq_mul_left (by omega) this

theorem pivotRows_splitPair (T : List Row) (e r p q : Nat) (h : ∀ i, i < T.length → SplitPair (T.getD i []) p q) :
    ∀ i, i < (pivotRows T e r).length → SplitPair ((pivotRows T e r).getD i []) p q := by
  intro i hi
  rw [pivotRows_length] at hi
  rw [pivotRows_getD T e r i hi]
  split
  · by_cases hr : r < T.length
    · exact linearCombine_splitPair _ _ _ _ _ (h i hi) (h r hr)
    · have : T.getD r [] = [] := by
        rw [List.getD_eq_getElem?_getD, List.getElem?_eq_none (by omega)]; rfl
      rw [this]
      exact linearCombine_splitPair _ _ _ _ _ (h i hi) (by unfold SplitPair Row.get; simp)
  · exact h i hi

/-- the common part of the two components of a split variable can be moved away -/
theorem split_collapse (r : Row) (p q : Nat) (hpq : p ≠ q) (h : SplitPair r p q) (y : Val) :
    rowVal r ((y.update p (y p - y q)).update q 0) = rowVal r y := by
  unfold rowVal
  rw [dot_update, dot_update]
  have hq : (y.update p (y p - y q)) q = y q := by simp [Val.update, Ne.symm hpq]
  rw [hq]
  unfold SplitPair Row.get at h
  rw [h]
  push_cast
  ring

/-- the valuation with a 0 inserted at column `q` -/
def insertZero (q : Nat) (y : Val) : Val := fun j => if j < q then y j else if j = q then 0 else y (j - 1)

/-- `remove_column(q)`: the shortened row at `y` is the row at `y` with 0 inserted at `q` -/
theorem rowVal_eraseIdx (r : Row) (q : Nat) (y : Val) : rowVal (r.eraseIdx q) y = rowVal r (insertZero q y) := by
  unfold rowVal
  induction r generalizing q y with
  | nil => simp
  | cons a r ih =>
    cases q with
    | zero =>
      simp only [List.eraseIdx_cons_zero, dot_cons]
      have h0 : insertZero 0 y 0 = 0 := by simp [insertZero]
      have ht : (insertZero 0 y).tail = y := by
        funext j; simp [Val.tail, insertZero]
      rw [h0, ht]; simp
    | succ q =>
      simp only [List.eraseIdx_cons_succ, dot_cons]
      have h0 : insertZero (q+1) y 0 = y 0 := by simp [insertZero]
      have ht : (insertZero (q+1) y).tail = insertZero q y.tail := by
        funext j
        simp only [Val.tail, insertZero]
        by_cases h1 : j < q
        · simp [h1]
        · by_cases h2 : j = q
          · simp [h2]
          · have h3 : ¬ j + 1 < q + 1 := by omega
            have h4 : ¬ j + 1 = q + 1 := by omega
            simp only [h1, h2, h3, h4, if_false]
            congr 1
            omega
      rw [h0, ht, ih q y.tail]

end PPLV.Solver.Pend

namespace PPLV.Solver.Pend
open PPLV.Lin PPLV.Solver PPLV.Solver.Tab

/-- **`second_phase()` keeps a state `Ready`**: after a complete solve the tableau still holds a feasible basis
    whose non-negative solutions are exactly the encodings of the solution set — the induction hypothesis an
    incremental call of `process_pending_constraints` starts from -/
theorem ready_after_secondPhase (fc : Chooser) (hfc : ChooserOK fc) (fuel : Nat) (cs : List ICon) (n : Nat)
    (s1 s2 : LPState) (hst : s1.status = .SATISFIABLE) (hR : Ready cs n s1)
    (hobj : s1.obj.coeffs.length ≤ n) (h : secondPhase fc fuel s1 = some s2) : Ready cs n s2 := by
  obtain ⟨nn, jj, hM, hjj⟩ := hR.map
  obtain ⟨c1, c2, -⟩ := secondPhaseCost_spec s1 nn n jj hM hjj hobj
  have hc2 : (secondPhaseCost s1).get (s1.working_cost.length - 1) ≠ 0 := by rw [c2]; decide
  obtain ⟨-, p2, p3, p4, -, -⟩ := secondPhase_sound fc hfc fuel s1 s2 hst hR.tb c1 hc2 h
  have hmap : s2.mapping = s1.mapping := by
    rw [secondPhase_unfold fc fuel s1 hst] at h
    split at h
    · cases h
    · simp only [Option.some.injEq] at h; subst h; rfl
  refine ⟨p3, ⟨nn, jj, by rw [hmap]; exact hM, by rw [p2]; exact hjj⟩, fun y hy hs => ?_, fun x hx => ?_⟩
  · rw [hmap]; rw [p2] at hy
    exact hR.sound y hy ((p4 y).mp hs)
  · obtain ⟨y, y1, y2, y3⟩ := hR.complete x hx
    exact ⟨y, by rw [p2]; exact y1, (p4 y).mpr y2, by rw [hmap]; exact y3⟩

end PPLV.Solver.Pend

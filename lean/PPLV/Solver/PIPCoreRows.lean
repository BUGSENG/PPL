import PPLV.Solver.PIPCoreSem2
import Mathlib.Tactic.Ring
import Mathlib.Tactic.Linarith
/-!
# rows, matrices, `dot`, gcd: the facts about the list primitives of the model

Entry access (`rget`, `mrow`, `mget`, `natGet`, `boolGet`) against `nil / cons / set / append / map`,
the scalar product `dot`, and the divisibility facts about `gcdI`, `rowGcd` and the gcd of a matrix
(`List.foldl rowGcd`).
-/
namespace PPLV.PIPCore

/-! ### rows -/

theorem rget_nil (j : Nat) : rget [] j = 0 := rfl
theorem rget_cons_zero (a : Int) (r : Row) : rget (a :: r) 0 = a := rfl
theorem rget_cons_succ (a : Int) (r : Row) (j : Nat) : rget (a :: r) (j + 1) = rget r j := rfl

theorem rget_of_le {r : Row} {j : Nat} (h : r.length ≤ j) : rget r j = 0 := by
  unfold rget; rw [List.getD_eq_getElem?_getD, List.getElem?_eq_none h]; rfl

theorem rget_of_lt {r : Row} {j : Nat} (h : j < r.length) : rget r j = r[j] := by
  unfold rget; rw [List.getD_eq_getElem?_getD, List.getElem?_eq_getElem h]; rfl

theorem rget_mem {r : Row} {j : Nat} (h : j < r.length) : rget r j ∈ r := by
  rw [rget_of_lt h]; exact List.getElem_mem h

theorem rget_zero_or_mem (r : Row) (j : Nat) : rget r j = 0 ∨ rget r j ∈ r :=
  (Nat.lt_or_ge j r.length).elim (fun h => .inr (rget_mem h)) (fun h => .inl (rget_of_le h))

theorem rset_length (r : Row) (j : Nat) (v : Int) : (rset r j v).length = r.length := List.length_set

theorem rget_rset_same {r : Row} {j : Nat} (v : Int) (h : j < r.length) : rget (rset r j v) j = v := by
  unfold rget rset; rw [List.getD_eq_getElem?_getD, List.getElem?_set_self h]; rfl

theorem rget_rset_ne {r : Row} {j k : Nat} (v : Int) (h : j ≠ k) : rget (rset r j v) k = rget r k := by
  unfold rget rset; rw [List.getD_eq_getElem?_getD, List.getD_eq_getElem?_getD, List.getElem?_set_ne h]

/-- entry of a mapped row; `f 0 = 0` covers the index beyond the end -/
theorem rget_map0 (f : Int → Int) (hf : f 0 = 0) (r : Row) (j : Nat) : rget (r.map f) j = f (rget r j) := by
  unfold rget
  rw [List.getD_eq_getElem?_getD, List.getD_eq_getElem?_getD, List.getElem?_map]
  cases r[j]? with
  | none => exact hf.symm
  | some a => rfl

theorem rget_map_mul (r : Row) (c : Int) (j : Nat) : rget (r.map (· * c)) j = rget r j * c :=
  rget_map0 (· * c) (Int.zero_mul c) r j

theorem rget_map_div (r : Row) (c : Int) (j : Nat) : rget (r.map (· / c)) j = rget r j / c :=
  rget_map0 (· / c) (Int.zero_ediv c) r j

theorem zeroRow_length (n : Nat) : (zeroRow n).length = n := List.length_replicate

theorem rget_zeroRow : ∀ (n j : Nat), rget (zeroRow n) j = 0
  | 0, _ => rfl
  | _ + 1, 0 => rfl
  | n + 1, j + 1 => rget_zeroRow n j

/-- the unit row `d * e_m` -/
theorem rget_unit {n m : Nat} (d : Int) {c : Nat} (hc : c < n) :
    rget (rset (zeroRow n) m d) c = if c = m then d else 0 := by
  by_cases h : c = m
  · rw [if_pos h, ← h, rget_rset_same d (by rw [zeroRow_length]; exact hc)]
  · rw [if_neg h, rget_rset_ne d (Ne.symm h), rget_zeroRow]

theorem natGet_set_same {l : List Nat} {i : Nat} (x : Nat) (h : i < l.length) : natGet (l.set i x) i = x := by
  unfold natGet; rw [List.getD_eq_getElem?_getD, List.getElem?_set_self h]; rfl

theorem natGet_set_ne {l : List Nat} {i k : Nat} (x : Nat) (h : i ≠ k) :
    natGet (l.set i x) k = natGet l k := by
  unfold natGet; rw [List.getD_eq_getElem?_getD, List.getD_eq_getElem?_getD, List.getElem?_set_ne h]

theorem boolGet_set_same {l : List Bool} {i : Nat} (x : Bool) (h : i < l.length) :
    boolGet (l.set i x) i = x := by
  unfold boolGet; rw [List.getD_eq_getElem?_getD, List.getElem?_set_self h]; rfl

theorem boolGet_set_ne {l : List Bool} {i k : Nat} (x : Bool) (h : i ≠ k) :
    boolGet (l.set i x) k = boolGet l k := by
  unfold boolGet; rw [List.getD_eq_getElem?_getD, List.getD_eq_getElem?_getD, List.getElem?_set_ne h]

theorem signGet_set_same {l : List RowSign} {i : Nat} (x : RowSign) (h : i < l.length) :
    signGet (l.set i x) i = x := by
  unfold signGet; rw [List.getD_eq_getElem?_getD, List.getElem?_set_self h]; rfl

theorem signGet_set_ne {l : List RowSign} {i k : Nat} (x : RowSign) (h : i ≠ k) :
    signGet (l.set i x) k = signGet l k := by
  unfold signGet; rw [List.getD_eq_getElem?_getD, List.getD_eq_getElem?_getD, List.getElem?_set_ne h]

theorem signGet_of_le {l : List RowSign} {k : Nat} (h : l.length ≤ k) : signGet l k = .unknown := by
  unfold signGet; rw [List.getD_eq_getElem?_getD, List.getElem?_eq_none h]; rfl

theorem natGet_append_lt {l : List Nat} (x : Nat) {k : Nat} (h : k < l.length) :
    natGet (l ++ [x]) k = natGet l k := by
  unfold natGet; rw [List.getD_eq_getElem?_getD, List.getD_eq_getElem?_getD, List.getElem?_append_left h]

theorem natGet_append_len (l : List Nat) (x : Nat) : natGet (l ++ [x]) l.length = x := by
  unfold natGet; rw [List.getD_eq_getElem?_getD, List.getElem?_append_right (Nat.le_refl _), Nat.sub_self]; rfl

theorem natGet_append_at {l : List Nat} (x : Nat) {k : Nat} (h : k = l.length) : natGet (l ++ [x]) k = x :=
  h ▸ natGet_append_len l x

theorem boolGet_append_lt {l : List Bool} (x : Bool) {k : Nat} (h : k < l.length) :
    boolGet (l ++ [x]) k = boolGet l k := by
  unfold boolGet; rw [List.getD_eq_getElem?_getD, List.getD_eq_getElem?_getD, List.getElem?_append_left h]

theorem boolGet_append_len (l : List Bool) (x : Bool) : boolGet (l ++ [x]) l.length = x := by
  unfold boolGet; rw [List.getD_eq_getElem?_getD, List.getElem?_append_right (Nat.le_refl _), Nat.sub_self]; rfl

theorem boolGet_append_at {l : List Bool} (x : Bool) {k : Nat} (h : k = l.length) : boolGet (l ++ [x]) k = x :=
  h ▸ boolGet_append_len l x

theorem rget_map_nat {l : List Nat} (v : Nat → Int) {j : Nat} (h : j < l.length) :
    rget (l.map v) j = v (natGet l j) := by
  unfold rget natGet
  rw [List.getD_eq_getElem?_getD, List.getD_eq_getElem?_getD, List.getElem?_map, List.getElem?_eq_getElem h]
  rfl

theorem mem_natGet {l : List Nat} {x : Nat} (h : x ∈ l) : ∃ j, j < l.length ∧ natGet l j = x := by
  obtain ⟨j, hj, rfl⟩ := List.mem_iff_getElem.mp h
  refine ⟨j, hj, ?_⟩
  unfold natGet; rw [List.getD_eq_getElem?_getD, List.getElem?_eq_getElem hj]; rfl

/-! ### matrices -/

theorem mrow_of_le {m : Mat} {i : Nat} (h : m.length ≤ i) : mrow m i = [] := by
  unfold mrow; rw [List.getD_eq_getElem?_getD, List.getElem?_eq_none h]; rfl

theorem mrow_of_lt {m : Mat} {i : Nat} (h : i < m.length) : mrow m i = m[i] := by
  unfold mrow; rw [List.getD_eq_getElem?_getD, List.getElem?_eq_getElem h]; rfl

theorem mrow_mem {m : Mat} {i : Nat} (h : i < m.length) : mrow m i ∈ m := by
  rw [mrow_of_lt h]; exact List.getElem_mem h

theorem mrow_nil_or_mem (m : Mat) (i : Nat) : mrow m i = [] ∨ mrow m i ∈ m :=
  (Nat.lt_or_ge i m.length).elim (fun h => .inr (mrow_mem h)) (fun h => .inl (mrow_of_le h))

theorem mrow_set_same {m : Mat} {i : Nat} (r : Row) (h : i < m.length) : mrow (m.set i r) i = r := by
  unfold mrow; rw [List.getD_eq_getElem?_getD, List.getElem?_set_self h]; rfl

theorem mrow_set_ne {m : Mat} {i k : Nat} (r : Row) (h : i ≠ k) : mrow (m.set i r) k = mrow m k := by
  unfold mrow; rw [List.getD_eq_getElem?_getD, List.getD_eq_getElem?_getD, List.getElem?_set_ne h]

theorem mrow_map (m : Mat) (f : Row → Row) (hf : f [] = []) (i : Nat) : mrow (m.map f) i = f (mrow m i) := by
  unfold mrow
  rw [List.getD_eq_getElem?_getD, List.getD_eq_getElem?_getD, List.getElem?_map]
  cases m[i]? with
  | none => exact hf.symm
  | some a => rfl

theorem mrow_append_lt {m : Mat} (r : Row) {i : Nat} (h : i < m.length) : mrow (m ++ [r]) i = mrow m i := by
  unfold mrow; rw [List.getD_eq_getElem?_getD, List.getD_eq_getElem?_getD, List.getElem?_append_left h]

theorem mrow_append_len (m : Mat) (r : Row) : mrow (m ++ [r]) m.length = r := by
  unfold mrow; rw [List.getD_eq_getElem?_getD, List.getElem?_append_right (Nat.le_refl _), Nat.sub_self]; rfl

theorem msetRow_length (m : Mat) (i : Nat) (r : Row) : (msetRow m i r).length = m.length := List.length_set
theorem mset_length (m : Mat) (i j : Nat) (v : Int) : (mset m i j v).length = m.length := List.length_set

theorem mrow_msetRow_same {m : Mat} {i : Nat} (r : Row) (h : i < m.length) :
    mrow (msetRow m i r) i = r := mrow_set_same r h

theorem mrow_msetRow_ne {m : Mat} {i k : Nat} (r : Row) (h : i ≠ k) :
    mrow (msetRow m i r) k = mrow m k := mrow_set_ne r h

theorem mrow_mset_same {m : Mat} {i : Nat} (j : Nat) (v : Int) (h : i < m.length) :
    mrow (mset m i j v) i = rset (mrow m i) j v := mrow_set_same _ h

theorem mrow_mset_ne {m : Mat} {i k : Nat} (j : Nat) (v : Int) (h : i ≠ k) :
    mrow (mset m i j v) k = mrow m k := mrow_set_ne _ h

theorem mset_of_le {m : Mat} {i : Nat} (j : Nat) (v : Int) (h : m.length ≤ i) : mset m i j v = m :=
  List.set_eq_of_length_le h

theorem mget_mset_same {m : Mat} {i j : Nat} (v : Int) (hi : i < m.length)
    (hj : j < (mrow m i).length) : mget (mset m i j v) i j = v := by
  unfold mget; rw [mrow_mset_same j v hi, rget_rset_same v hj]

theorem mget_mset_ne_row {m : Mat} {i j k l : Nat} (v : Int) (h : i ≠ k) :
    mget (mset m i j v) k l = mget m k l := by
  unfold mget; rw [mrow_mset_ne j v h]

theorem mget_mset_ne_col {m : Mat} {i j k l : Nat} (v : Int) (h : j ≠ l) :
    mget (mset m i j v) k l = mget m k l := by
  by_cases hik : i = k
  · subst hik
    by_cases hi : i < m.length
    · unfold mget; rw [mrow_mset_same j v hi, rget_rset_ne v h]
    · rw [mset_of_le j v (Nat.le_of_not_lt hi)]
  · exact mget_mset_ne_row v hik

theorem mget_mset_ne {m : Mat} {i j k l : Nat} (v : Int) (h : i ≠ k ∨ j ≠ l) :
    mget (mset m i j v) k l = mget m k l :=
  h.elim (mget_mset_ne_row v) (mget_mset_ne_col v)

theorem mget_map_mul (m : Mat) (c : Int) (i j : Nat) :
    mget (m.map (·.map (· * c))) i j = mget m i j * c := by
  unfold mget; rw [mrow_map m (·.map (· * c)) rfl, rget_map_mul]

theorem mget_map_div (m : Mat) (c : Int) (i j : Nat) :
    mget (m.map (·.map (· / c))) i j = mget m i j / c := by
  unfold mget; rw [mrow_map m (·.map (· / c)) rfl, rget_map_div]

/-- every row of the matrix has length `n` -/
def RowsLen (m : Mat) (n : Nat) : Prop := ∀ r ∈ m, r.length = n

theorem RowsLen.mrow {m : Mat} {n i : Nat} (h : RowsLen m n) (hi : i < m.length) :
    (mrow m i).length = n := h _ (mrow_mem hi)

theorem RowsLen.set {m : Mat} {n : Nat} (h : RowsLen m n) (i : Nat) {r : Row} (hr : r.length = n) :
    RowsLen (m.set i r) n := by
  intro x hx
  rcases List.mem_or_eq_of_mem_set hx with hx | hx
  · exact h x hx
  · rw [hx, hr]

theorem RowsLen.mset {m : Mat} {n : Nat} (h : RowsLen m n) (i j : Nat) (v : Int) :
    RowsLen (mset m i j v) n := by
  by_cases hi : i < m.length
  · exact h.set i (by rw [rset_length]; exact h.mrow hi)
  · rw [mset_of_le j v (Nat.le_of_not_lt hi)]; exact h

theorem RowsLen.msetRow {m : Mat} {n : Nat} (h : RowsLen m n) (i : Nat) {r : Row}
    (hr : r.length = n) : RowsLen (msetRow m i r) n := h.set i hr

theorem RowsLen.map {m : Mat} {n : Nat} (h : RowsLen m n) (f : Int → Int) :
    RowsLen (m.map (·.map f)) n := by
  intro x hx
  obtain ⟨r, hr, rfl⟩ := List.mem_map.mp hx
  rw [List.length_map]; exact h r hr

theorem RowsLen.append {m : Mat} {n : Nat} (h : RowsLen m n) {r : Row} (hr : r.length = n) :
    RowsLen (m ++ [r]) n := by
  intro x hx
  rcases List.mem_append.mp hx with hx | hx
  · exact h x hx
  · rw [List.mem_singleton.mp hx]; exact hr

theorem RowsLen.addZeroColumn {m : Mat} {n : Nat} (h : RowsLen m n) : RowsLen (addZeroColumn m) (n + 1) := by
  intro x hx
  obtain ⟨y, hy, rfl⟩ := List.mem_map.mp hx
  rw [List.length_append, h y hy]; rfl

/-! ### `dot` -/

theorem dot_nil_left (q : List Int) : dot [] q = 0 := by cases q <;> rfl
theorem dot_nil_right (x : List Int) : dot x [] = 0 := by cases x <;> rfl
theorem dot_cons (a : Int) (as : List Int) (x : Int) (xs : List Int) :
    dot (a :: as) (x :: xs) = a * x + dot as xs := rfl

theorem dot_neg : ∀ (as q : List Int), dot (as.map (fun a => -a)) q = - dot as q
  | [], q => by rw [List.map_nil, dot_nil_left, Int.neg_zero]
  | a :: as, [] => by rw [dot_nil_right, dot_nil_right, Int.neg_zero]
  | a :: as, x :: xs => by rw [List.map_cons, dot_cons, dot_cons, dot_neg as xs]; ring

theorem dot_nonneg : ∀ (x q : List Int), (∀ a ∈ x, 0 ≤ a) → (∀ b ∈ q, 0 ≤ b) → 0 ≤ dot x q
  | [], q, _, _ => by rw [dot_nil_left]
  | a :: as, [], _, _ => by rw [dot_nil_right]
  | a :: as, b :: bs, hx, hq => by
    rw [dot_cons]
    exact Int.add_nonneg
      (Int.mul_nonneg (hx a List.mem_cons_self) (hq b List.mem_cons_self))
      (dot_nonneg as bs (fun a ha => hx a (List.mem_cons_of_mem _ ha)) (fun b hb => hq b (List.mem_cons_of_mem _ hb)))

theorem dot_nonpos (x q : List Int) (hx : ∀ a ∈ x, a ≤ 0) (hq : ∀ b ∈ q, 0 ≤ b) : dot x q ≤ 0 := by
  have h := dot_nonneg (x.map (fun a => -a)) q
    (fun a ha => by obtain ⟨b, hb, rfl⟩ := List.mem_map.mp ha; exact Int.neg_nonneg_of_nonpos (hx b hb)) hq
  rw [dot_neg] at h
  exact Int.nonpos_of_neg_nonneg h

/-- the row vanishes -/
theorem dot_zero : ∀ (x q : List Int), (∀ a ∈ x, a = 0) → dot x q = 0
  | [], q, _ => dot_nil_left q
  | a :: as, [], _ => dot_nil_right _
  | a :: as, b :: bs, hx => by
    rw [dot_cons, hx a List.mem_cons_self, dot_zero as bs (fun a ha => hx a (List.mem_cons_of_mem _ ha)),
      Int.zero_mul, Int.add_zero]

/-- the vector vanishes -/
theorem dot_zero_right : ∀ (r ys : List Int), (∀ y ∈ ys, y = 0) → dot r ys = 0
  | [], ys, _ => dot_nil_left ys
  | _ :: _, [], _ => dot_nil_right _
  | a :: r, y :: ys, h => by
    rw [dot_cons, h y List.mem_cons_self, dot_zero_right r ys (fun z hz => h z (List.mem_cons_of_mem _ hz)),
      Int.mul_zero, Int.add_zero]

theorem dot_zeroRow (n : Nat) (y : List Int) : dot (zeroRow n) y = 0 :=
  dot_zero _ y (fun _ ha => List.eq_of_mem_replicate ha)

/-- scalar product with the unit row `d * e_m` -/
theorem dot_unit : ∀ (n m : Nat) (d : Int) (y : List Int), m < n →
    dot (rset (zeroRow n) m d) y = d * rget y m
  | 0, _, _, _, h => absurd h (Nat.not_lt_zero _)
  | n + 1, m, d, [], _ => by rw [dot_nil_right, rget_nil, Int.mul_zero]
  | n + 1, 0, d, x :: xs, _ => by
    show dot (d :: zeroRow n) (x :: xs) = _
    rw [dot_cons, dot_zeroRow, rget_cons_zero, Int.add_zero]
  | n + 1, m + 1, d, x :: xs, h => by
    show dot (0 :: rset (zeroRow n) m d) (x :: xs) = _
    rw [dot_cons, rget_cons_succ, dot_unit n m d xs (Nat.lt_of_succ_lt_succ h), Int.zero_mul, Int.zero_add]

theorem dot_map_mul (a b : List Int) (c : Int) : dot (a.map (· * c)) b = dot a b * c := by
  induction a generalizing b with
  | nil => rw [List.map_nil, dot_nil_left, Int.zero_mul]
  | cons x xs ih =>
    cases b with
    | nil => rw [dot_nil_right, dot_nil_right, Int.zero_mul]
    | cons y ys => rw [List.map_cons, dot_cons, dot_cons, ih ys]; ring

/-- dividing a row by a common divisor of its entries -/
theorem dot_map_div (a b : List Int) (g : Int) (h : ∀ x ∈ a, g ∣ x) :
    dot (a.map (· / g)) b * g = dot a b := by
  induction a generalizing b with
  | nil => rw [List.map_nil, dot_nil_left, Int.zero_mul]
  | cons x xs ih =>
    cases b with
    | nil => rw [dot_nil_right, dot_nil_right, Int.zero_mul]
    | cons y ys =>
      rw [List.map_cons, dot_cons, dot_cons, Int.add_mul, ih ys (fun z hz => h z (List.mem_cons_of_mem _ hz)),
        Int.mul_right_comm, Int.ediv_mul_cancel (h x List.mem_cons_self)]

theorem dvd_dot (g : Int) : ∀ (r q : List Int), (∀ a ∈ r, g ∣ a) → g ∣ dot r q
  | [], q, _ => by rw [dot_nil_left]; exact Int.dvd_zero g
  | a :: as, [], _ => by rw [dot_nil_right]; exact Int.dvd_zero g
  | a :: as, b :: bs, h => by
    rw [dot_cons]
    exact Int.dvd_add (Dvd.dvd.mul_right (h a List.mem_cons_self) b)
      (dvd_dot g as bs (fun a ha => h a (List.mem_cons_of_mem _ ha)))

/-- `dot` stops at the shorter list -/
theorem dot_prefix : ∀ (r q e : List Int), r.length ≤ q.length → dot r (q ++ e) = dot r q
  | [], q, e, _ => by rw [dot_nil_left, dot_nil_left]
  | _ :: _, [], _, h => absurd h (Nat.not_succ_le_zero _)
  | a :: r, x :: q, e, h => by
    rw [List.cons_append, dot_cons, dot_cons, dot_prefix r q e (Nat.le_of_succ_le_succ h)]

theorem dot_append_single : ∀ (a b : List Int) (x y : Int), a.length = b.length →
    dot (a ++ [x]) (b ++ [y]) = dot a b + x * y
  | [], [], x, y, _ => by show x * y + 0 = 0 + x * y; ring
  | [], _ :: _, _, _, h => by cases h
  | _ :: _, [], _, _, h => by cases h
  | a :: as, b :: bs, x, y, h => by
    show a * b + dot (as ++ [x]) (bs ++ [y]) = a * b + dot as bs + x * y
    rw [dot_append_single as bs x y (Nat.succ.inj h)]; ring

/-! ### gcd -/

theorem gcdI_nonneg (a b : Int) : 0 ≤ gcdI a b := Int.natCast_nonneg _
theorem gcdI_dvd_left (a b : Int) : gcdI a b ∣ a := Int.gcd_dvd_left ..
theorem gcdI_dvd_right (a b : Int) : gcdI a b ∣ b := Int.gcd_dvd_right ..

theorem rowGcd_dvd_init : ∀ (r : Row) (g : Int), rowGcd g r ∣ g
  | [], g => Int.dvd_refl g
  | a :: r, g => Int.dvd_trans (rowGcd_dvd_init r (gcdI g a)) (gcdI_dvd_left g a)

theorem rowGcd_dvd_mem : ∀ (r : Row) (g : Int) {x : Int}, x ∈ r → rowGcd g r ∣ x
  | [], _, _, h => by cases h
  | y :: ys, g, x, h => by
    rcases List.mem_cons.mp h with rfl | h
    · exact Int.dvd_trans (rowGcd_dvd_init ys (gcdI g x)) (gcdI_dvd_right g x)
    · exact rowGcd_dvd_mem ys (gcdI g y) h

theorem rowGcd_nonneg : ∀ (r : Row) {g : Int}, 0 ≤ g → 0 ≤ rowGcd g r
  | [], _, h => h
  | a :: r, g, _ => rowGcd_nonneg r (gcdI_nonneg g a)

theorem rowGcd_zero_all_zero {r : Row} (h : rowGcd 0 r = 0) : ∀ a ∈ r, a = 0 := fun _ ha =>
  Int.zero_dvd.mp (h ▸ rowGcd_dvd_mem r 0 ha)

theorem matGcd_dvd_init : ∀ (m : Mat) (g : Int), m.foldl rowGcd g ∣ g
  | [], g => Int.dvd_refl g
  | r :: m, g => Int.dvd_trans (matGcd_dvd_init m (rowGcd g r)) (rowGcd_dvd_init r g)

theorem matGcd_dvd_mem : ∀ (m : Mat) (g : Int) {r : Row}, r ∈ m → ∀ {x : Int}, x ∈ r → m.foldl rowGcd g ∣ x
  | [], _, _, h, _, _ => by cases h
  | y :: ys, g, r, h, x, hx => by
    rcases List.mem_cons.mp h with rfl | h
    · exact Int.dvd_trans (matGcd_dvd_init ys (rowGcd g r)) (rowGcd_dvd_mem r g hx)
    · exact matGcd_dvd_mem ys (rowGcd g y) h hx

theorem matGcd_nonneg : ∀ (m : Mat) {g : Int}, 0 ≤ g → 0 ≤ m.foldl rowGcd g
  | [], _, h => h
  | r :: m, _, h => matGcd_nonneg m (rowGcd_nonneg r h)

/-- all entries of the matrix are multiples of `g` -/
def DvdAll (g : Int) (m : Mat) : Prop := ∀ r ∈ m, ∀ x ∈ r, g ∣ x

theorem DvdAll.mrow {g : Int} {m : Mat} (h : DvdAll g m) (i : Nat) : ∀ x ∈ mrow m i, g ∣ x := by
  rcases mrow_nil_or_mem m i with e | e
  · rw [e]; intro x hx; cases hx
  · exact h _ e

theorem DvdAll.mget {g : Int} {m : Mat} (h : DvdAll g m) (i j : Nat) : g ∣ mget m i j := by
  rcases rget_zero_or_mem (PPLV.PIPCore.mrow m i) j with e | e
  · unfold PPLV.PIPCore.mget; rw [e]; exact Int.dvd_zero g
  · exact h.mrow i _ e

/-! ### parameter vectors, contexts -/

theorem head_one_form {q : List Int} (h : q.head? = some 1) : ∃ ps, q = 1 :: ps := by
  cases q with
  | nil => cases h
  | cons b bs => exact ⟨bs, by rw [Option.some.inj h]⟩

/-- a parameter vector is `1 :: params` -/
theorem ParamVec.cons_form {n : Nat} {q : List Int} (h : ParamVec n q) :
    ∃ ps, q = 1 :: ps ∧ ∀ b ∈ ps, 0 ≤ b := by
  obtain ⟨ps, rfl⟩ := head_one_form h.2.1
  exact ⟨ps, rfl, fun b hb => h.2.2 b (List.mem_cons_of_mem _ hb)⟩

theorem ctxSat_append_iff (ctx : Mat) (r : Row) (q : List Int) :
    CtxSat (ctx ++ [r]) q ↔ CtxSat ctx q ∧ 0 ≤ dot r q := by
  unfold CtxSat
  constructor
  · intro h
    exact ⟨fun r' hr' => h r' (List.mem_append_left _ hr'), h r (List.mem_append_right _ List.mem_cons_self)⟩
  · rintro ⟨h1, h2⟩ r' hr'
    rcases List.mem_append.mp hr' with h | h
    · exact h1 r' h
    · rw [List.mem_singleton.mp h]; exact h2

theorem extendArts_append : ∀ (a b : List ArtP) (q : List Int),
    extendArts (a ++ b) q = extendArts b (extendArts a q)
  | [], _, _ => rfl
  | _ :: a, b, _ => extendArts_append a b _

end PPLV.PIPCore

import PPLV.Solver.PendingProofsIncrStep

/-!
# C06 stage 3 — the full status protocol: statements

`ProtoInv s`: the invariant of a `MIP_Problem` between calls —
* `StatusInv`: a solved status promises nothing is pending;
* the constraints fit the space dimension;
* UNSATISFIABLE is truthful (no point satisfies the constraints);
* an OPTIMIZED / UNBOUNDED status is truthful (`LPClaims`);
* unless UNSATISFIABLE, the problem is untouched (never solved) or the first `first_pending` constraints are
  processed: canonical FEASIBLE tableau whose non-negative solutions are the encodings of their solution set
  (`ReadyS`, over the `internal_space_dim` variables known at the last solve).
`ProtoSpec fc`: it holds initially, every mutator keeps it, `is_lp_satisfiable()` and `second_phase()` keep it and
answer truthfully — for calls with at least one variable and no space dimension added since the last solve.
-/
namespace PPLV.Solver.Pend
open PPLV.Lin PPLV.Solver PPLV.Solver.Tab

structure ProtoInv (s : LPState) : Prop where
  st : StatusInv s
  lens : ∀ c ∈ s.input_cs, c.coeffs.length ≤ s.external_space_dim
  fp : s.first_pending ≤ s.input_cs.length
  unsat : s.status = .UNSATISFIABLE → ∀ x, ¬ csSem s.input_cs x
  claims : (s.status = .OPTIMIZED ∨ s.status = .UNBOUNDED) → LPClaims s.input_cs s.problem s
  basis : s.status = .UNSATISFIABLE ∨ (Untouched s ∧ s.last_generator = ⟨[], 1⟩) ∨
    (0 < s.internal_space_dim ∧ s.internal_space_dim ≤ s.external_space_dim ∧
      ReadyS (s.input_cs.take s.first_pending) s.internal_space_dim s)

/-- no space dimension was added since the last solve (or the problem was never solved) -/
def NoNewDims (s : LPState) : Prop := Untouched s ∨ s.internal_space_dim = s.external_space_dim

def ProtoSpec (fc : Chooser) : Prop :=
  (∀ m, ProtoInv (LPState.new m)) ∧
  (∀ s, ProtoInv s → ∀ (c : ICon) (e : LinExpr) (b : Bool) (m : Nat) (p : Pricing),
    (c.coeffs.length ≤ s.external_space_dim → ProtoInv (addConstraint s c)) ∧
    (e.coeffs.length ≤ s.external_space_dim → ProtoInv (setObjectiveFunction s e)) ∧
    ProtoInv (setOptimizationMode s b) ∧ ProtoInv (addSpaceDimensionsAndEmbed s m) ∧ ProtoInv (setPricing s p)) ∧
  (∀ s, ProtoInv s → 0 < s.external_space_dim → NoNewDims s → s.obj.coeffs.length ≤ s.external_space_dim →
    ∀ fuel s' r, isLpSatisfiable fc fuel s = some (s', r) →
      ProtoInv s' ∧ s'.input_cs = s.input_cs ∧ SameData s s' ∧
      (r = false → s'.status = .UNSATISFIABLE ∧ ∀ x, ¬ csSem s.input_cs x) ∧
      (r = true → Solved s'.status ∧ (∃ x, csSem s.input_cs x) ∧
        ReadyS s'.input_cs s'.external_space_dim s')) ∧
  (∀ s, ProtoInv s → 0 < s.external_space_dim → s.obj.coeffs.length ≤ s.external_space_dim → Solved s.status →
    ∀ fuel s', secondPhase fc fuel s = some s' →
      ProtoInv s' ∧ (s'.status = .OPTIMIZED ∨ s'.status = .UNBOUNDED) ∧ LPClaims s.input_cs s.problem s' ∧
      ReadyS s'.input_cs s'.external_space_dim s')

end PPLV.Solver.Pend

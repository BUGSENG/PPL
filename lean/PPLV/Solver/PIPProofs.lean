import PPLV.Solver.PIP
import PPLV.Lin.Project

/-! # C07 — theorems about solution trees (`Tree.eval`) and the reference `lexminRef` -/
namespace PPLV.PIP
open PPLV.Lin

/-! ## the tree semantics -/

/-- The "spanning" of a solution tree as the class documentation of `PIP_Problem` words it, as a
    relation: compute the artificial parameters of the node, test its constraints, descend. -/
inductive Spans : Tree → List Int → Result → Prop
  | bottom (θ) : Spans .bottom θ .bottom
  | solArtScope {arts cons vals θ} : evalArts arts θ = none → Spans (.sol arts cons vals) θ .scopeError
  | solConScope {arts cons vals θ θ'} : evalArts arts θ = some θ' → evalCons cons θ' = none →
      Spans (.sol arts cons vals) θ .scopeError
  | solFalse {arts cons vals θ θ'} : evalArts arts θ = some θ' → evalCons cons θ' = some false →
      Spans (.sol arts cons vals) θ .bottom
  | solTrue {arts cons vals θ θ'} : evalArts arts θ = some θ' → evalCons cons θ' = some true →
      Spans (.sol arts cons vals) θ (evalVals vals θ')
  | decArtScope {arts cons t f θ} : evalArts arts θ = none → Spans (.dec arts cons t f) θ .scopeError
  | decConScope {arts cons t f θ θ'} : evalArts arts θ = some θ' → evalCons cons θ' = none →
      Spans (.dec arts cons t f) θ .scopeError
  | decTrue {arts cons t f θ θ' r} : evalArts arts θ = some θ' → evalCons cons θ' = some true →
      Spans t θ' r → Spans (.dec arts cons t f) θ r
  | decFalse {arts cons t f θ θ' r} : evalArts arts θ = some θ' → evalCons cons θ' = some false →
      Spans f θ' r → Spans (.dec arts cons t f) θ r

theorem spans_eval (t : Tree) : ∀ θ, Spans t θ (t.eval θ) := by
  induction t with
  | bottom => intro θ; exact .bottom θ
  | sol arts cons vals =>
    intro θ
    cases ha : evalArts arts θ with
    | none => simp only [Tree.eval, ha]; exact .solArtScope ha
    | some θ' =>
      cases hc : evalCons cons θ' with
      | none => simp only [Tree.eval, ha, hc]; exact .solConScope ha hc
      | some b => cases b with
        | false => simp only [Tree.eval, ha, hc]; exact .solFalse ha hc
        | true => simp only [Tree.eval, ha, hc]; exact .solTrue ha hc
  | dec arts cons t f iht ihf =>
    intro θ
    cases ha : evalArts arts θ with
    | none => simp only [Tree.eval, ha]; exact .decArtScope ha
    | some θ' =>
      cases hc : evalCons cons θ' with
      | none => simp only [Tree.eval, ha, hc]; exact .decConScope ha hc
      | some b => cases b with
        | false => simp only [Tree.eval, ha, hc]; exact .decFalse ha hc (ihf θ')
        | true => simp only [Tree.eval, ha, hc]; exact .decTrue ha hc (iht θ')

theorem spans_unique {t : Tree} {θ : List Int} {r : Result} (h : Spans t θ r) : t.eval θ = r := by
  induction h with
  | bottom θ => rfl
  | solArtScope ha => simp [Tree.eval, ha]
  | solConScope ha hc => simp [Tree.eval, ha, hc]
  | solFalse ha hc => simp [Tree.eval, ha, hc]
  | solTrue ha hc => simp [Tree.eval, ha, hc]
  | decArtScope ha => simp [Tree.eval, ha]
  | decConScope ha hc => simp [Tree.eval, ha, hc]
  | decTrue ha hc _ ih => simp [Tree.eval, ha, hc, ih]
  | decFalse ha hc _ ih => simp [Tree.eval, ha, hc, ih]

/-! ### scoping -/

theorem Aff.eval_of_scoped (a : Aff) (env : List Int) (h : a.scoped env.length = true) :
    a.eval env = some (dotI a.cs env + a.k) := by
  simp [Aff.eval, h]

theorem Aff.eval_isSome_iff (a : Aff) (env : List Int) :
    (a.eval env).isSome = a.scoped env.length := by
  unfold Aff.eval; split <;> simp_all

theorem evalArts_scoped (arts : List QAff) : ∀ (env : List Int), artsScoped arts env.length = true →
    ∃ env', evalArts arts env = some env' ∧ env'.length = env.length + arts.length := by
  induction arts with
  | nil => intro env _; exact ⟨env, rfl, by simp⟩
  | cons a as ih =>
    intro env h
    simp only [artsScoped, Bool.and_eq_true] at h
    obtain ⟨h1, h2⟩ := h
    have hlen : (env ++ [Int.fdiv (dotI a.num.cs env + a.num.k) a.den]).length = env.length + 1 := by simp
    obtain ⟨env', he, hl⟩ := ih (env ++ [Int.fdiv (dotI a.num.cs env + a.num.k) a.den]) (by rw [hlen]; exact h2)
    refine ⟨env', ?_, ?_⟩
    · simp [evalArts, Aff.eval_of_scoped a.num env h1, he]
    · rw [hl, hlen]; simp; omega

theorem evalCons_scoped (cons : List PCon) (env : List Int)
    (h : cons.all (fun c => c.e.scoped env.length) = true) : ∃ b, evalCons cons env = some b := by
  induction cons with
  | nil => exact ⟨true, rfl⟩
  | cons c cs ih =>
    simp only [List.all_cons, Bool.and_eq_true] at h
    obtain ⟨b, hb⟩ := ih h.2
    exact ⟨c.rel.holds (dotI c.e.cs env + c.e.k) && b, by simp [evalCons, Aff.eval_of_scoped c.e env h.1, hb]⟩

theorem evalVals_scoped (vals : List QAff) (env : List Int)
    (h : vals.all (fun q => q.num.scoped env.length) = true) : evalVals vals env ≠ .scopeError := by
  induction vals with
  | nil => simp [evalVals]
  | cons q qs ih =>
    simp only [List.all_cons, Bool.and_eq_true] at h
    have ih' := ih h.2
    simp only [evalVals, Aff.eval_of_scoped q.num env h.1]
    cases hq : evalVals qs env <;> split <;> simp_all

theorem eval_no_scope_error (t : Tree) : ∀ (θ : List Int), t.wellScoped θ.length = true →
    t.eval θ ≠ .scopeError := by
  induction t with
  | bottom => intro θ _; simp [Tree.eval]
  | sol arts cons vals =>
    intro θ h
    simp only [Tree.wellScoped, Bool.and_eq_true] at h
    obtain ⟨⟨h1, h2⟩, h3⟩ := h
    obtain ⟨θ', he, hl⟩ := evalArts_scoped arts θ h1
    obtain ⟨b, hb⟩ := evalCons_scoped cons θ' (by rw [hl]; exact h2)
    simp only [Tree.eval, he, hb]
    cases b with
    | false => simp
    | true => exact evalVals_scoped vals θ' (by rw [hl]; exact h3)
  | dec arts cons t f iht ihf =>
    intro θ h
    simp only [Tree.wellScoped, Bool.and_eq_true] at h
    obtain ⟨⟨⟨h1, h2⟩, h3⟩, h4⟩ := h
    obtain ⟨θ', he, hl⟩ := evalArts_scoped arts θ h1
    obtain ⟨b, hb⟩ := evalCons_scoped cons θ' (by rw [hl]; exact h2)
    simp only [Tree.eval, he, hb]
    cases b with
    | false => exact ihf θ' (by rw [hl]; exact h4)
    | true => exact iht θ' (by rw [hl]; exact h3)

/-! ## the reference lexicographic minimum -/

/-- `x` is a non-negative integer solution of `rows` over `n` variables -/
def FeasR (rows : List Row) (n : Nat) (x : List Int) : Prop :=
  x.length = n ∧ (∀ v ∈ x, 0 ≤ v) ∧ ∀ r ∈ rows, r.holds x = true

theorem dotI_nil_right (cs : List Int) : dotI cs [] = 0 := by cases cs <;> rfl

theorem subst_holds (r : Row) (v : Int) (xs : List Int) :
    (r.subst v).holds xs = r.holds (v :: xs) := by
  unfold Row.holds Row.subst
  cases hc : r.cs with
  | nil => simp [dotI]
  | cons a as =>
    simp only [List.tail_cons, List.headD_cons, dotI]
    congr 1; ring

theorem feasR_cons (rows : List Row) (n : Nat) (v : Int) (xs : List Int) :
    FeasR rows (n + 1) (v :: xs) ↔ 0 ≤ v ∧ FeasR (rows.map (·.subst v)) n xs := by
  unfold FeasR
  simp only [List.length_cons, Nat.add_right_cancel_iff, List.mem_cons, forall_eq_or_imp,
    List.mem_map, forall_exists_index, and_imp, forall_apply_eq_imp_iff₂, subst_holds]
  constructor
  · rintro ⟨h1, ⟨h2, h3⟩, h4⟩; exact ⟨h2, h1, h3, h4⟩
  · rintro ⟨h2, h1, h3, h4⟩; exact ⟨h1, ⟨h2, h3⟩, h4⟩

/-! ### integer points as rational valuations -/

def valOf (x : List Int) : Val := fun i => ((x.getD i 0 : Int) : Rat)

theorem valOf_nil : valOf [] = Val.zero := by funext i; simp [valOf, Val.zero]
theorem valOf_tail (v : Int) (xs : List Int) : (valOf (v :: xs)).tail = valOf xs := by
  funext i; simp [valOf, Val.tail]

theorem dot_valOf (cs : List Int) : ∀ x : List Int, dot cs (valOf x) = ((dotI cs x : Int) : Rat) := by
  induction cs with
  | nil => intro x; simp [dotI]
  | cons a as ih =>
    intro x
    cases x with
    | nil => rw [valOf_nil, dot_zero]; simp [dotI]
    | cons v xs =>
      rw [dot_cons, valOf_tail, ih]
      simp only [dotI, valOf, List.getD_cons_zero]
      push_cast; ring

theorem sat_toCons (r : Row) (x : List Int) (h : r.holds x = true) : Sat r.toCons (valOf x) := by
  obtain ⟨cs, k, rel⟩ := r
  cases rel <;> simp only [Row.holds, Rel.holds, beq_iff_eq, decide_eq_true_eq] at h <;>
    simp only [Row.toCons]
  · rw [Sat_eqRows, dot_valOf]
    have : ((dotI cs x + k : Int) : Rat) = 0 := by exact_mod_cast h
    push_cast at this; linarith
  · intro c hc'
    simp only [List.mem_cons, List.not_mem_nil, or_false] at hc'
    subst hc'
    simp only [Con.sat, geRow, Con.eval, dot_valOf, Bool.false_eq_true, if_false]
    have : (0 : Rat) ≤ ((dotI cs x + k : Int) : Rat) := by exact_mod_cast h
    push_cast at this; linarith
  · intro c hc'
    simp only [List.mem_cons, List.not_mem_nil, or_false] at hc'
    subst hc'
    simp only [Con.sat, gtRow, Con.eval, dot_valOf, if_true]
    have : (0 : Rat) < ((dotI cs x + k : Int) : Rat) := by exact_mod_cast h
    push_cast at this; linarith

theorem getD_nonneg : ∀ (x : List Int), (∀ v ∈ x, 0 ≤ v) → ∀ j : Nat, 0 ≤ x.getD j 0 := by
  intro x
  induction x with
  | nil => intro _ j; simp
  | cons v xs ih =>
    intro h j
    cases j with
    | zero => simpa using h v (by simp)
    | succ j => simpa using ih (fun u hu => h u (by simp [hu])) j

theorem sat_nonneg (n : Nat) (x : List Int) (h : ∀ v ∈ x, 0 ≤ v) : Sat (nonneg n) (valOf x) := by
  intro c hc
  simp only [nonneg, List.mem_map, List.mem_range] at hc
  obtain ⟨i, _, rfl⟩ := hc
  simp only [Con.sat, geRow, Con.eval, dot_unitRow, Bool.false_eq_true, if_false]
  have := getD_nonneg x h i
  have h2 : (0 : Rat) ≤ ((x.getD i 0 : Int) : Rat) := by exact_mod_cast this
  simp only [valOf]; push_cast; linarith

theorem sat_relaxation (rows : List Row) (n : Nat) (x : List Int) (hf : FeasR rows n x) :
    Sat (relaxation n rows) (valOf x) := by
  unfold relaxation
  rw [Sat_append, Sat_flatMap]
  exact ⟨fun r hr => sat_toCons r x (hf.2.2 r hr), sat_nonneg n x hf.2.1⟩

/-! ### the light projection -/

theorem elimLight_sound (is : List Nat) : ∀ (cs : List Con) (w : Val), Sat cs w → Sat (elimLight is cs) w := by
  induction is with
  | nil => intro cs w h; exact h
  | cons i is ih =>
    intro cs w h
    apply ih
    rw [tidy0_correct]
    apply (elimAt_correct i cs w).mp
    refine ⟨w i, ?_⟩
    have : w.update i (w i) = w := by funext j; unfold Val.update; split <;> simp_all
    rw [this]; exact h

theorem dot_onlyAt : ∀ (cs : List Int) (j : Nat) (w : Val), onlyAt j cs = true →
    dot cs w = ((cs.getD j 0 : Int) : Rat) * w j := by
  intro cs
  induction cs with
  | nil => intro j w _; simp
  | cons a as ih =>
    intro j w h
    cases j with
    | zero =>
      simp only [onlyAt] at h
      simp [dot_cons, dot_allZero as h]
    | succ j =>
      simp only [onlyAt, Bool.and_eq_true, beq_iff_eq] at h
      rw [dot_cons, ih j w.tail h.2, h.1]
      simp [Val.tail]

/-! ### bounds -/

theorem capHi_contains (b : Bound) (h v : Int) (hb : b.contains v) (hv : v ≤ h) : (b.capHi h).contains v := by
  cases b with
  | empty => exact hb
  | range lo hi =>
    cases hi with
    | none => exact ⟨hb, hv⟩
    | some hi =>
      simp only [Bound.capHi, Bound.contains] at hb ⊢
      split <;> omega

theorem capLo_contains (b : Bound) (l v : Int) (hb : b.contains v) (hv : l ≤ v) : (b.capLo l).contains v := by
  cases b with
  | empty => exact hb
  | range lo hi =>
    cases hi with
    | none =>
      simp only [Bound.capLo, Bound.contains] at hb ⊢
      split <;> omega
    | some hi =>
      simp only [Bound.capLo, Bound.contains] at hb ⊢
      split <;> omega

theorem meetRow_contains (j : Nat) (c : Con) (w : Val) (v : Int) (hw : w j = (v : Rat)) (hs : c.sat w)
    (b : Bound) (hb : b.contains v) : (b.meetRow j c).contains v := by
  unfold Bound.meetRow
  by_cases honly : onlyAt j c.coeffs = true
  swap
  · simp [honly]; exact hb
  simp only [honly, Bool.not_true, Bool.false_eq_true, if_false]
  have hev : c.eval w = ((c.at j * v + c.k : Int) : Rat) := by
    unfold Con.eval; rw [dot_onlyAt _ _ _ honly, hw]; unfold Con.at; push_cast; ring
  -- the integer reading of the row
  have hint : 0 ≤ c.at j * v + c.k ∧ (c.strict = true → 0 < c.at j * v + c.k) := by
    unfold Con.sat at hs
    rw [hev] at hs
    by_cases hst : c.strict = true
    · simp only [hst, if_true] at hs
      have : 0 < c.at j * v + c.k := by exact_mod_cast hs
      exact ⟨le_of_lt this, fun _ => this⟩
    · simp only [hst, Bool.false_eq_true, if_false] at hs
      have : 0 ≤ c.at j * v + c.k := by exact_mod_cast hs
      exact ⟨this, fun h => absurd h hst⟩
  by_cases ha0 : c.at j = 0
  · simp only [ha0, if_true]
    rw [ha0] at hint
    simp only [Int.zero_mul, Int.zero_add] at hint
    have hcond : (decide (c.k < 0) || (c.strict && c.k == 0)) = false := by
      rw [Bool.or_eq_false_iff]
      refine ⟨by simp; exact hint.1, ?_⟩
      cases hst : c.strict
      · simp
      · have := hint.2 hst
        simp; omega
    simp [hcond]; exact hb
  · simp only [ha0, if_false]
    by_cases hneg : c.at j < 0
    · simp only [hneg, if_true]
      apply capHi_contains _ _ _ hb
      apply Int.le_ediv_of_mul_le (by omega)
      have : v * -c.at j = -(c.at j * v) := by ring
      rw [this]; omega
    · simp only [hneg, if_false]
      apply capLo_contains _ _ _ hb
      have hpos : 0 < c.at j := by omega
      have : -v ≤ c.k / c.at j := by
        apply Int.le_ediv_of_mul_le hpos
        have : -v * c.at j = -(c.at j * v) := by ring
        rw [this]; omega
      omega

theorem foldl_meetRow_contains (j : Nat) (w : Val) (v : Int) (hw : w j = (v : Rat)) (rows : List Con) :
    ∀ (b : Bound), Sat rows w → b.contains v → (rows.foldl (Bound.meetRow j) b).contains v := by
  induction rows with
  | nil => intro b _ hb; exact hb
  | cons c cs ih =>
    intro b hs hb
    rw [Sat_cons] at hs
    exact ih _ hs.2 (meetRow_contains j c w v hw hs.1 b hb)

theorem boundAt_spec (n j : Nat) (rows : List Row) (x : List Int) (hf : FeasR rows n x) :
    (boundAt n j rows).contains (x.getD j 0) := by
  unfold boundAt
  apply foldl_meetRow_contains j (valOf x) _ rfl
  · apply elimLight_sound
    rw [tidy0_correct]
    exact sat_relaxation rows n x hf
  · exact getD_nonneg x hf.2.1 j

theorem intEmpty_not_contains (b : Bound) (v : Int) (h : b.intEmpty = true) : ¬ b.contains v := by
  cases b with
  | empty => exact fun h => h
  | range lo hi =>
    cases hi with
    | none => simp [Bound.intEmpty] at h
    | some hi =>
      simp only [Bound.intEmpty, decide_eq_true_eq] at h
      simp only [Bound.contains]; omega

theorem noIntegerShadow_sound (n : Nat) (rows : List Row) (h : noIntegerShadow n rows = true)
    (x : List Int) : ¬ FeasR rows n x := by
  intro hf
  simp only [noIntegerShadow, List.any_eq_true, List.mem_range] at h
  obtain ⟨j, _, hj⟩ := h
  exact intEmpty_not_contains _ _ hj (boundAt_spec n j rows x hf)

/-! ### the scan -/

theorem scan_point (f : Int → Ans) : ∀ (fuel : Nat) (v0 : Int) (capped : Bool) (q : List Int),
    scan f fuel v0 capped = .point q →
    ∃ v p, q = v :: p ∧ v0 ≤ v ∧ f v = .point p ∧ ∀ u, v0 ≤ u → u < v → f u = .bottom := by
  intro fuel
  induction fuel with
  | zero => intro v0 capped q h; simp only [scan] at h; split at h <;> cases h
  | succ fuel ih =>
    intro v0 capped q h
    simp only [scan] at h
    cases hf : f v0 with
    | point p =>
      rw [hf] at h
      simp only [Ans.point.injEq] at h
      exact ⟨v0, p, h.symm, le_refl _, hf, fun u h1 h2 => by omega⟩
    | unknown => rw [hf] at h; cases h
    | bottom =>
      rw [hf] at h
      obtain ⟨v, p, hq, hv, hfv, hall⟩ := ih (v0 + 1) capped q h
      refine ⟨v, p, hq, by omega, hfv, fun u h1 h2 => ?_⟩
      by_cases hu : u = v0
      · rw [hu]; exact hf
      · exact hall u (by omega) h2

theorem scan_bottom (f : Int → Ans) : ∀ (fuel : Nat) (v0 : Int) (capped : Bool),
    scan f fuel v0 capped = .bottom →
    capped = false ∧ ∀ u, v0 ≤ u → u < v0 + fuel → f u = .bottom := by
  intro fuel
  induction fuel with
  | zero =>
    intro v0 capped h
    simp only [scan] at h
    cases capped
    · exact ⟨rfl, fun u h1 h2 => by simp at h2; omega⟩
    · simp at h
  | succ fuel ih =>
    intro v0 capped h
    simp only [scan] at h
    cases hf : f v0 with
    | point p => rw [hf] at h; cases h
    | unknown => rw [hf] at h; cases h
    | bottom =>
      rw [hf] at h
      obtain ⟨hc, hall⟩ := ih (v0 + 1) capped h
      refine ⟨hc, fun u h1 h2 => ?_⟩
      by_cases hu : u = v0
      · rw [hu]; exact hf
      · exact hall u (by omega) (by push_cast at h2; omega)

/-! ### the search -/

theorem feasR_zero (rows : List Row) (y : List Int) :
    FeasR rows 0 y ↔ y = [] ∧ rows.all (fun r => r.holds []) = true := by
  unfold FeasR
  constructor
  · rintro ⟨h1, _, h3⟩
    have : y = [] := List.length_eq_zero_iff.mp h1
    subst this
    exact ⟨rfl, by simpa [List.all_eq_true] using h3⟩
  · rintro ⟨rfl, h⟩
    exact ⟨rfl, by simp, by simpa [List.all_eq_true] using h⟩

/-- what an answer of `search` means -/
def AnsOK (rows : List Row) (n : Nat) : Ans → Prop
  | .point p => FeasR rows n p ∧ ∀ y, FeasR rows n y → lexLe p y
  | .bottom => ∀ y, ¬ FeasR rows n y
  | .unknown => True

theorem scan_ok (rows : List Row) (n : Nat) (f : Int → Ans)
    (hf : ∀ v, AnsOK (rows.map (·.subst v)) n (f v))
    (fuel : Nat) (lo : Int) (capped : Bool) (hlo : 0 ≤ lo)
    (hlow : ∀ v xs, FeasR rows (n + 1) (v :: xs) → lo ≤ v)
    (hhigh : capped = false → ∀ v xs, FeasR rows (n + 1) (v :: xs) → v < lo + fuel) :
    AnsOK rows (n + 1) (scan f fuel lo capped) := by
  cases hs : scan f fuel lo capped with
  | unknown => trivial
  | point q =>
    obtain ⟨v, p, rfl, hv, hfv, hall⟩ := scan_point f fuel lo capped q hs
    have hp := hf v
    rw [hfv] at hp
    refine ⟨(feasR_cons rows n v p).mpr ⟨by omega, hp.1⟩, ?_⟩
    intro y hy
    have hlen : y.length = n + 1 := hy.1
    cases y with
    | nil => simp at hlen
    | cons v' ys =>
      have hge := hlow v' ys hy
      have hy' := (feasR_cons rows n v' ys).mp hy
      by_cases hlt : v' < v
      · have := hf v'
        rw [hall v' hge hlt] at this
        exact absurd hy'.2 (this ys)
      · by_cases heq : v = v'
        · subst heq
          exact Or.inr ⟨rfl, hp.2 ys hy'.2⟩
        · exact Or.inl (by omega)
  | bottom =>
    obtain ⟨hc, hall⟩ := scan_bottom f fuel lo capped hs
    intro y hy
    have hlen : y.length = n + 1 := hy.1
    cases y with
    | nil => simp at hlen
    | cons v' ys =>
      have hge := hlow v' ys hy
      have hlt := hhigh hc v' ys hy
      have hy' := (feasR_cons rows n v' ys).mp hy
      have := hf v'
      rw [hall v' hge hlt] at this
      exact this ys hy'.2

theorem search_ok (W : Nat) : ∀ (n : Nat) (rows : List Row), AnsOK rows n (search W n rows) := by
  intro n
  induction n with
  | zero =>
    intro rows
    simp only [search]
    split
    · rename_i h
      exact ⟨(feasR_zero rows []).mpr ⟨rfl, h⟩, fun y _ => by cases y <;> trivial⟩
    · rename_i h
      intro y hy
      exact h ((feasR_zero rows y).mp hy).2
  | succ n ih =>
    intro rows
    have hb : ∀ v xs, FeasR rows (n + 1) (v :: xs) → (bound (n + 1) rows).contains v := by
      intro v xs h
      have := boundAt_spec (n + 1) 0 rows (v :: xs) h
      simpa [bound] using this
    have hf : ∀ v, AnsOK (rows.map (·.subst v)) n (search W n (rows.map (·.subst v))) := fun v => ih _
    simp only [search]
    cases hbd : bound (n + 1) rows with
    | empty =>
      intro y hy
      have hlen : y.length = n + 1 := hy.1
      cases y with
      | nil => simp at hlen
      | cons v xs => have := hb v xs hy; rw [hbd] at this; exact this
    | range lo hi =>
      -- every feasible first coordinate is at least the clipped lower bound
      have hlow : ∀ v xs, FeasR rows (n + 1) (v :: xs) → (if lo < 0 then 0 else lo) ≤ v := by
        intro v xs h
        have h0 : 0 ≤ v := ((feasR_cons rows n v xs).mp h).1
        have := hb v xs h
        rw [hbd] at this
        cases hi <;> simp only [Bound.contains] at this <;> split <;> omega
      have hlo0 : 0 ≤ (if lo < 0 then 0 else lo) := by split <;> omega
      have hbnd : ∀ v xs, FeasR rows (n + 1) (v :: xs) → (Bound.range lo hi).contains v := by
        intro v xs h; rw [← hbd]; exact hb v xs h
      dsimp only
      generalize (if lo < 0 then (0 : Int) else lo) = lo' at hlow hlo0 ⊢
      cases hi with
      | none =>
        exact scan_ok rows n _ hf (W + 1) _ true hlo0 hlow (fun h => by cases h)
      | some b =>
        simp only
        have hup : ∀ v xs, FeasR rows (n + 1) (v :: xs) → v ≤ b := by
          intro v xs h
          exact (hbnd v xs h).2
        split
        · rename_i hlt
          intro y hy
          have hlen : y.length = n + 1 := hy.1
          cases y with
          | nil => simp at hlen
          | cons v xs =>
            have h1 := hlow v xs hy
            have h2 := hup v xs hy
            omega
        · split
          · rename_i hge hw
            refine scan_ok rows n _ hf _ _ false hlo0 hlow (fun _ v xs h => ?_)
            have h2 := hup v xs h
            have : ((b - lo').toNat : Int) = b - lo' := Int.toNat_of_nonneg (by omega)
            push_cast
            omega
          · exact scan_ok rows n _ hf (W + 1) _ true hlo0 hlow (fun h => by cases h)

/-! ### the reference at the level of problems -/

theorem inst_holds (r : PRow) (θ x : List Int) : (r.inst θ).holds x = r.holds x θ := by
  simp only [PRow.inst, Row.holds, PRow.holds]
  congr 1; omega

theorem feasible_iff_feasR (P : Problem) (θ x : List Int) :
    P.feasible θ x ↔ FeasR (P.rows.map (·.inst θ)) P.nv x := by
  unfold Problem.feasible FeasR
  simp only [List.mem_map, forall_exists_index, and_imp, forall_apply_eq_imp_iff₂, inst_holds]

theorem feasibleB_iff (P : Problem) (θ x : List Int) : P.feasibleB θ x = true ↔ P.feasible θ x := by
  unfold Problem.feasibleB Problem.feasible
  simp only [Bool.and_eq_true, decide_eq_true_eq, List.all_eq_true, and_assoc]

theorem lexminRef_ok (W : Nat) (P : Problem) (θ : List Int) :
    AnsOK (P.rows.map (·.inst θ)) P.nv (lexminRef W P θ) := by
  unfold lexminRef
  simp only
  split
  · rename_i h
    exact fun y => noIntegerShadow_sound _ _ h y
  · exact search_ok W _ _

/-! ## the Gomory cut of `generate_cut` -/

theorem dotI_map_neg (t p : List Int) (g : Int → Int) :
    dotI (t.map fun a => -(g a)) p = - dotI (t.map g) p := by
  induction t generalizing p with
  | nil => simp [dotI]
  | cons a as ih =>
    cases p with
    | nil => simp [dotI]
    | cons v vs => simp only [List.map_cons, dotI, ih]; ring

/-- replacing every coefficient by something congruent modulo `d` changes the sum by a multiple of `d` -/
theorem dvd_dotI_map_sub (d : Int) (g : Int → Int) (hg : ∀ a, d ∣ g a - a) (s y : List Int) :
    d ∣ dotI (s.map g) y - dotI s y := by
  induction s generalizing y with
  | nil => simp [dotI]
  | cons a as ih =>
    cases y with
    | nil => simp [dotI]
    | cons v vs =>
      simp only [List.map_cons, dotI]
      have h1 : d ∣ (g a - a) * v := Dvd.dvd.mul_right (hg a) v
      have h2 := ih vs
      have : g a * v + dotI (as.map g) vs - (a * v + dotI as vs)
          = (g a - a) * v + (dotI (as.map g) vs - dotI as vs) := by ring
      rw [this]; exact dvd_add h1 h2

theorem dvd_dotI_map_add (d : Int) (g : Int → Int) (hg : ∀ a, d ∣ g a + a) (s y : List Int) :
    d ∣ dotI (s.map g) y + dotI s y := by
  induction s generalizing y with
  | nil => simp [dotI]
  | cons a as ih =>
    cases y with
    | nil => simp [dotI]
    | cons v vs =>
      simp only [List.map_cons, dotI]
      have h1 : d ∣ (g a + a) * v := Dvd.dvd.mul_right (hg a) v
      have h2 := ih vs
      have : g a * v + dotI (as.map g) vs + (a * v + dotI as vs)
          = (g a + a) * v + (dotI (as.map g) vs + dotI as vs) := by ring
      rw [this]; exact dvd_add h1 h2

theorem posRem_sub_dvd (d a : Int) : d ∣ posRem a d - a := by
  change d ∣ a % d - a
  rw [Int.emod_def]
  exact ⟨-(a / d), by ring⟩

theorem posRem_neg_add_dvd (d a : Int) : d ∣ posRem (-a) d + a := by
  have := posRem_sub_dvd d (-a)
  simpa using this

theorem dotI_posRem_nonneg (d : Int) (hd : 0 < d) (s y : List Int) (hy : ∀ v ∈ y, 0 ≤ v) :
    0 ≤ dotI (s.map fun a => posRem a d) y := by
  induction s generalizing y with
  | nil => simp [dotI]
  | cons a as ih =>
    cases y with
    | nil => simp [dotI]
    | cons v vs =>
      simp only [List.map_cons, dotI]
      have h1 : 0 ≤ posRem a d := Int.emod_nonneg a (by omega)
      have h2 : 0 ≤ v := hy v (by simp)
      have h3 := ih vs (fun u hu => hy u (by simp [hu]))
      have := Int.mul_nonneg h1 h2
      omega

theorem emod_le_self_of_nonneg (f d : Int) (hf : 0 ≤ f) (hd : 0 < d) : f % d ≤ f := by
  have h1 := Int.mul_ediv_add_emod f d
  have h2 : 0 ≤ f / d := Int.ediv_nonneg hf (by omega)
  have h3 := Int.mul_nonneg (by omega : 0 ≤ d) h2
  omega

/-- **Validity of the cut.**  If the tableau row `d·x = s·y + t·p + t₀` has an integer solution
    (`x` integer, non-basic variables `y ≥ 0` integer, parameters `p` integer), the cut row
    generated by `generate_cut` holds at `(y, p, q')` for `q' = ⌊(Σ((-tₖ) mod d) pₖ + ((-t₀) mod d)) / d⌋`,
    the value of the new artificial parameter. -/
theorem cut_valid (r : CutRow) (hd : 0 < r.d) (y p : List Int) (x : Int) (hy : ∀ v ∈ y, 0 ≤ v)
    (hrow : r.d * x = dotI r.s y + dotI r.t p + r.t0) :
    r.cut.holds y p (Int.fdiv (dotI r.artNum.cs p + r.artNum.k) r.d) := by
  unfold Cut.holds CutRow.cut CutRow.artNum
  simp only
  rw [dotI_map_neg r.t p (fun a => posRem (-a) r.d)]
  rw [Int.fdiv_eq_ediv_of_nonneg _ (le_of_lt hd)]
  -- f = Σ (sⱼ mod d) yⱼ ≥ 0,  e = numerator of the artificial parameter
  generalize hf : dotI (r.s.map fun a => posRem a r.d) y = f
  generalize he : dotI (r.t.map fun a => posRem (-a) r.d) p = e0
  have hf0 : 0 ≤ f := by rw [← hf]; exact dotI_posRem_nonneg r.d hd r.s y hy
  have h1 : r.d ∣ f - dotI r.s y := by
    rw [← hf]; exact dvd_dotI_map_sub r.d _ (posRem_sub_dvd r.d) r.s y
  have h2 : r.d ∣ e0 + dotI r.t p := by
    rw [← he]; exact dvd_dotI_map_add r.d _ (posRem_neg_add_dvd r.d) r.t p
  have h3 : r.d ∣ posRem (-r.t0) r.d + r.t0 := posRem_neg_add_dvd r.d r.t0
  generalize posRem (-r.t0) r.d = k0 at h3 ⊢
  -- f ≡ e (mod d), where e = e0 + k0
  have hcong : r.d ∣ f - (e0 + k0) := by
    have hx : r.d ∣ dotI r.s y + dotI r.t p + r.t0 := ⟨x, hrow.symm⟩
    have : f - (e0 + k0) = (f - dotI r.s y) + (dotI r.s y + dotI r.t p + r.t0) - (e0 + dotI r.t p) - (k0 + r.t0) := by
      ring
    rw [this]
    exact dvd_sub (dvd_sub (dvd_add h1 hx) h2) h3
  have hmod : f % r.d = (e0 + k0) % r.d :=
    Int.emod_eq_emod_iff_emod_sub_eq_zero.mpr (Int.emod_eq_zero_of_dvd hcong)
  have hle := emod_le_self_of_nonneg f r.d hf0 hd
  have hdef := Int.mul_ediv_add_emod (e0 + k0) r.d
  -- the cut expression is f - ((e0 + k0) mod d)
  have : f + -e0 + r.d * ((e0 + k0) / r.d) + -k0 = f - (e0 + k0) % r.d := by omega
  rw [this]; omega

/-- **The two context rows define the floor.**  With `e` the numerator of the new artificial
    parameter, the rows `e - d·q ≥ 0` and `d·q + d - 1 - e ≥ 0` that `generate_cut` adds to the
    context hold exactly when `q = ⌊e / d⌋`. -/
theorem context_rows_iff_floor (e d q : Int) (hd : 0 < d) :
    (0 ≤ e - d * q ∧ 0 ≤ d * q + d - 1 - e) ↔ q = Int.fdiv e d := by
  rw [Int.fdiv_eq_ediv_of_nonneg _ (le_of_lt hd)]
  constructor
  · rintro ⟨h1, h2⟩
    have := (Int.ediv_emod_unique hd (a := e) (q := q) (r := e - d * q)).mpr ⟨by omega, h1, by omega⟩
    exact this.1.symm
  · rintro rfl
    have h1 := Int.mul_ediv_add_emod e d
    have h2 := Int.emod_nonneg e (by omega : d ≠ 0)
    have h3 := Int.emod_lt_of_pos e hd
    constructor <;> omega

end PPLV.PIP

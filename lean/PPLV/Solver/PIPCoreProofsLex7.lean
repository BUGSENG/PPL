import PPLV.Solver.PIPCoreProofsLex6
/-!
# the lexicographic invariant: `find_lexico_minimal_column` fails only when the pivot
row has no positive coefficient (`flmc_none_no_positive`).
-/
namespace PPLV.PIPCore

/-- the in-base scan never empties `new_candidates` -/
theorem Lex.baseScan_ne_nil (pivotRow : Row) (ri : Nat) :
    ∀ (cs : List Nat) (m : Nat) (sijb : Int) (acc : List Nat), acc ≠ [] →
      (flmcBaseScan pivotRow ri cs (m, sijb, acc)).2.2 ≠ []
  | [], _, _, _, h => h
  | c :: cs, m, sijb, acc, h => by
    unfold flmcBaseScan
    simp only []
    split
    · split
      · exact Lex.baseScan_ne_nil pivotRow ri cs _ _ _ (List.cons_ne_nil _ _)
      · exact Lex.baseScan_ne_nil pivotRow ri cs _ _ _ (List.cons_ne_nil _ _)
    · exact Lex.baseScan_ne_nil pivotRow ri cs _ _ _ h

/-- the scan of a row never empties `new_candidates` -/
theorem Lex.rowScan_ne_nil (pivotRow row : Row) :
    ∀ (cs : List Nat) (m : Nat) (sijb rowjb : Int) (acc : List Nat), acc ≠ [] →
      (flmcRowScan pivotRow row cs (m, sijb, rowjb, acc)).2.2.2 ≠ []
  | [], _, _, _, _, h => h
  | c :: cs, m, sijb, rowjb, acc, h => by
    unfold flmcRowScan
    simp only []
    split
    · exact Lex.rowScan_ne_nil pivotRow row cs _ _ _ _ (List.cons_ne_nil _ _)
    · split
      · exact Lex.rowScan_ne_nil pivotRow row cs _ _ _ _ (List.cons_ne_nil _ _)
      · exact Lex.rowScan_ne_nil pivotRow row cs _ _ _ _ h

theorem Lex.flmcStep_ne_nil (tableau : Mat) (mapping : List Nat) (basis : List Bool) (pivotRow : Row)
    (k c0 : Nat) (rest : List Nat) : Lex.flmcStep tableau mapping basis pivotRow k c0 rest ≠ [] := by
  unfold Lex.flmcStep
  split
  · intro h
    exact Lex.baseScan_ne_nil pivotRow _ rest c0 _ [c0] (List.cons_ne_nil _ _)
      (List.reverse_eq_nil_iff.mp h)
  · intro h
    exact Lex.rowScan_ne_nil pivotRow _ rest c0 _ _ [c0] (List.cons_ne_nil _ _)
      (List.reverse_eq_nil_iff.mp h)

/-- `find_lexico_minimal_column_in_set` returns a non-empty set for a non-empty candidate set -/
theorem flmcInSet_ne_nil (tableau : Mat) (mapping : List Nat) (basis : List Bool) (pivotRow : Row) :
    ∀ (fuel k : Nat) (C : List Nat), C ≠ [] →
      flmcInSet tableau mapping basis pivotRow fuel k C ≠ []
  | 0, _, C, h => by rw [flmcInSet]; exact h
  | fuel + 1, _, [], h => absurd rfl h
  | fuel + 1, _, [c], _ => by rw [flmcInSet]; exact List.cons_ne_nil _ _
  | fuel + 1, k, c0 :: c1 :: rest, _ => by
    rw [Lex.flmcInSet_step]
    exact flmcInSet_ne_nil tableau mapping basis pivotRow fuel (k + 1) _
      (Lex.flmcStep_ne_nil tableau mapping basis pivotRow k c0 (c1 :: rest))

/-- **`flmc_none_no_positive`**: `find_lexico_minimal_column` returns `false` only for a pivot row
    without positive coefficient -/
theorem flmc_none_no_positive (tableau : Mat) (mapping : List Nat) (basis : List Bool) (row : Row) :
    findLexicoMinimalColumn tableau mapping basis row 0 = none → hasPositive row = false := by
  intro h
  unfold findLexicoMinimalColumn at h
  simp only [] at h
  generalize hC : (List.range row.length).filter (fun j => 0 ≤ j ∧ rget row j > 0) = C at h
  cases C with
  | nil =>
    unfold hasPositive
    rw [List.any_eq_false]
    intro a ha hpos
    obtain ⟨j, hj, rfl⟩ := List.mem_iff_getElem.mp ha
    have hmem : j ∈ (List.range row.length).filter (fun j => 0 ≤ j ∧ rget row j > 0) := by
      rw [List.mem_filter]
      refine ⟨List.mem_range.mpr hj, ?_⟩
      have hr : rget row j = row[j] := by
        unfold rget
        rw [List.getD_eq_getElem?_getD, List.getElem?_eq_getElem hj]; rfl
      rw [hr]
      simpa using hpos
    rw [hC] at hmem
    cases hmem
  | cons c C' =>
    have hne := flmcInSet_ne_nil tableau mapping basis row mapping.length 0 (c :: C')
      (List.cons_ne_nil _ _)
    exact absurd (List.head?_eq_none_iff.mp h) hne

/-- with `flmc_positive`: on a well-formed node the search succeeds exactly when the row has a positive
    coefficient -/
theorem flmc_isSome_of_hasPositive (tableau : Mat) (mapping : List Nat) (basis : List Bool) (row : Row) :
    hasPositive row = true → (findLexicoMinimalColumn tableau mapping basis row 0).isSome = true := by
  intro hp
  cases h : findLexicoMinimalColumn tableau mapping basis row 0 with
  | some _ => rfl
  | none =>
    rw [flmc_none_no_positive tableau mapping basis row h] at hp
    cases hp

/-! ### non-vacuity -/

example : findLexicoMinimalColumn Lex.exNodeB.tab.s Lex.exNodeB.mapping Lex.exNodeB.basis [-1, 0] 0 = none
    ∧ hasPositive [-1, 0] = false
    ∧ hasPositive (mrow Lex.exNodeB.tab.s 0) = true
    ∧ (findLexicoMinimalColumn Lex.exNodeB.tab.s Lex.exNodeB.mapping Lex.exNodeB.basis
        (mrow Lex.exNodeB.tab.s 0) 0).isSome = true :=
  ⟨by decide,
   flmc_none_no_positive Lex.exNodeB.tab.s Lex.exNodeB.mapping Lex.exNodeB.basis [-1, 0] (by decide),
   by decide,
   flmc_isSome_of_hasPositive _ _ _ _ (by decide)⟩

end PPLV.PIPCore

import PPLV.Solver.PIPCoreRows
import Mathlib.Tactic.Linarith
import Mathlib.Tactic.Ring
/-!
# the lexicographic invariant: the basic solution of a node whose columns are
lexico-non-negative is the lexicographic minimum of the feasible valuations (`lex_basic_min`,
alias `solution_node_correct`).
-/
namespace PPLV.PIPCore

/-! ### small lemmas on `rget`, `dot`, unit rows -/

/-- a scalar product of a non-negative vector with a row that is non-negative where the vector is
    positive: it is non-negative, and zero only if the row vanishes where the vector is positive -/
theorem Lex.dot_nonneg_aux : ∀ (r y : List Int), (∀ j, 0 ≤ rget y j) →
    (∀ j, 0 < rget y j → 0 ≤ rget r j) →
    0 ≤ dot r y ∧ (dot r y = 0 → ∀ j, 0 < rget y j → rget r j = 0)
  | [], y, _, _ => ⟨by rw [dot_nil_left], fun _ j _ => rget_nil j⟩
  | a :: as, [], _, _ => ⟨by rw [dot_nil_right], fun _ j h => by rw [rget_nil] at h; omega⟩
  | a :: as, x :: xs, hy, hr => by
    have hx : 0 ≤ x := by have := hy 0; rwa [rget_cons_zero] at this
    have hys : ∀ j, 0 ≤ rget xs j := fun j => by
      have := hy (j + 1); rwa [rget_cons_succ] at this
    have hrs : ∀ j, 0 < rget xs j → 0 ≤ rget as j := fun j h => by
      have := hr (j + 1); rw [rget_cons_succ, rget_cons_succ] at this; exact this h
    obtain ⟨ih1, ih2⟩ := Lex.dot_nonneg_aux as xs hys hrs
    have hax : 0 ≤ a * x := by
      rcases lt_or_eq_of_le hx with h | h
      · have := hr 0; rw [rget_cons_zero, rget_cons_zero] at this
        exact mul_nonneg (this h) hx
      · rw [← h]; simp
    rw [dot_cons]
    refine ⟨by linarith, fun h0 j hj => ?_⟩
    have h1 : a * x = 0 := by linarith
    have h2 : dot as xs = 0 := by linarith
    cases j with
    | zero =>
      rw [rget_cons_zero] at hj ⊢
      rcases Int.mul_eq_zero.mp h1 with h | h
      · exact h
      · omega
    | succ j => rw [rget_cons_succ] at hj ⊢; exact ih2 h2 j hj

theorem Lex.fullRows_length (nd : SolNode) : (fullRows nd).length = nd.mapping.length := by
  simp [fullRows]

theorem Lex.fullRows_getD (nd : SolNode) (k : Nat) (h : k < nd.mapping.length) :
    (fullRows nd).getD k [] = fullRow nd k := by
  unfold fullRows
  rw [List.getD_eq_getElem?_getD, List.getElem?_map, List.getElem?_range h]
  rfl

/-! ### the core induction -/

/-- if every variable `k ..` satisfies `den * v = row · y + den * b` with `y ≥ 0` and the columns of the
    rows where `y` is positive are lexico-non-negative, then `b ≤_lex v` -/
theorem Lex.lex_core (den : Int) (hden : 0 < den) (y : List Int) (hy : ∀ j, 0 ≤ rget y j) :
    ∀ (rows : List Row) (k : Nat) (b v : Nat → Int),
      (∀ j, 0 < rget y j → LexNonnegCol rows j) →
      (∀ i, i < rows.length → den * v (k + i) = dot (rows.getD i []) y + den * b (k + i)) →
      lexLeFrom b v k rows.length
  | [], _, _, _, _, _ => trivial
  | r :: rs, k, b, v, hl, he => by
    have h0 := he 0 (by simp)
    simp only [Nat.add_zero, List.getD_cons_zero] at h0
    have hr : ∀ j, 0 < rget y j → 0 ≤ rget r j := fun j hj => by
      rcases hl j hj with h | ⟨h, _⟩ <;> omega
    obtain ⟨d1, d2⟩ := Lex.dot_nonneg_aux r y hy hr
    show b k < v k ∨ (b k = v k ∧ lexLeFrom b v (k + 1) rs.length)
    have hle : den * b k ≤ den * v k := by linarith
    have hbv : b k ≤ v k := le_of_mul_le_mul_left hle hden
    rcases lt_or_eq_of_le hbv with h | h
    · exact Or.inl h
    · refine Or.inr ⟨h, Lex.lex_core den hden y hy rs (k + 1) b v ?_ ?_⟩
      · intro j hj
        have hz : dot r y = 0 := by rw [h] at h0; linarith
        rcases hl j hj with h' | ⟨_, h'⟩
        · have := d2 hz j hj; omega
        · exact h'
      · intro i hi
        have := he (i + 1) (by simp only [List.length_cons]; omega)
        have e : k + (i + 1) = k + 1 + i := by omega
        rw [e, List.getD_cons_succ] at this
        exact this

/-- prefix of a lexicographic order -/
theorem lexLeFrom_prefix (b v : Nat → Int) : ∀ (n m k : Nat), m ≤ n →
    lexLeFrom b v k n → lexLeFrom b v k m
  | _, 0, _, _, _ => trivial
  | 0, m + 1, _, h, _ => by omega
  | n + 1, m + 1, k, h, hl => by
    rcases hl with h' | ⟨h1, h2⟩
    · exact Or.inl h'
    · exact Or.inr ⟨h1, lexLeFrom_prefix b v n m (k + 1) (by omega) h2⟩

/-! ### the value of every variable in terms of the column variables -/

/-- `den * v k = fullRow k · y + den * b k` where `y` are the values of the column variables -/
theorem Lex.var_eq_fullRow (nd : SolNode) (v b : Nat → Int) (q : List Int) (hwf : WF nd)
    (hf : Feasible nd v q) (hb : IsBasic nd b q) (k : Nat) (hk : k < nd.mapping.length) :
    nd.tab.den * v k = dot (fullRow nd k) (nd.varColumn.map v) + nd.tab.den * b k := by
  obtain ⟨mo1, mo2⟩ := hwf.map_ok k hk
  obtain ⟨b1, b2⟩ := hb k hk
  unfold fullRow
  cases hbk : boolGet nd.basis k with
  | true =>
    obtain ⟨hm, hvc⟩ := mo1 hbk
    simp only [if_true]
    rw [dot_unit _ _ _ _ hm, rget_map_nat _ (by rw [hwf.vc_len]; exact hm), hvc, b1 hbk]
    simp
  | false =>
    obtain ⟨hm, hvr⟩ := mo2 hbk
    simp only [Bool.false_eq_true, if_false]
    have hrow := hf.1 _ hm
    unfold RowHolds at hrow
    rw [hvr] at hrow
    rw [b2 hbk, hrow]

theorem Lex.colvals_nonneg (nd : SolNode) (v : Nat → Int) (q : List Int) (hwf : WF nd)
    (hf : Feasible nd v q) (j : Nat) : 0 ≤ rget (nd.varColumn.map v) j := by
  by_cases hj : j < nd.varColumn.length
  · rw [rget_map_nat _ hj]
    exact hf.2 _ (hwf.vc_ok j (by rw [← hwf.vc_len]; exact hj)).1
  · rw [rget_of_le (by simp only [List.length_map]; omega)]

/-- **`lex_basic_min`**: with lexico-non-negative columns, the basic solution of a node is
    lexicographically below every feasible valuation of the node (all variables, in index order). -/
theorem lex_basic_min (nd : SolNode) (v b : Nat → Int) (q : List Int) :
    WF nd → LexPos nd → q.length = nd.tab.nt → Feasible nd v q → IsBasic nd b q →
    lexLeFrom b v 0 nd.mapping.length := by
  intro hwf hlp _ hf hb
  have := Lex.lex_core nd.tab.den hwf.den_pos (nd.varColumn.map v) (Lex.colvals_nonneg nd v q hwf hf)
    (fullRows nd) 0 b v
    (fun j hj => by
      apply hlp j
      by_contra hge
      rw [rget_of_le (by simp only [List.length_map]; rw [hwf.vc_len]; omega)] at hj
      omega)
    (fun i hi => by
      rw [Lex.fullRows_length] at hi
      rw [Lex.fullRows_getD nd i hi, Nat.zero_add]
      exact Lex.var_eq_fullRow nd v b q hwf hf hb i hi)
  rw [Lex.fullRows_length] at this
  exact this

/-- the name used in the design: what a solution node returns is the lexicographic minimum -/
theorem solution_node_correct (nd : SolNode) (v b : Nat → Int) (q : List Int) :
    WF nd → LexPos nd → q.length = nd.tab.nt → Feasible nd v q → IsBasic nd b q →
    lexLeFrom b v 0 nd.mapping.length := lex_basic_min nd v b q

/-- corollary for any prefix of the variables (e.g. the problem variables only) -/
theorem lex_basic_min_prefix (nd : SolNode) (v b : Nat → Int) (q : List Int) (n : Nat) :
    WF nd → LexPos nd → q.length = nd.tab.nt → Feasible nd v q → IsBasic nd b q →
    n ≤ nd.mapping.length → lexLeFrom b v 0 n := fun hwf hlp hq hf hb hn =>
  lexLeFrom_prefix b v _ _ 0 hn (lex_basic_min nd v b q hwf hlp hq hf hb)

/-! ### decidability on concrete data, and a non-vacuity example -/

instance Lex.decLexNonnegCol : ∀ (rows : List Row) (j : Nat), Decidable (LexNonnegCol rows j)
  | [], _ => isTrue trivial
  | r :: rs, j =>
    have := Lex.decLexNonnegCol rs j
    (inferInstance : Decidable (0 < rget r j ∨ (rget r j = 0 ∧ LexNonnegCol rs j)))

instance Lex.decLexLeScaled : ∀ (rows : List Row) (a : Int) (j : Nat) (b : Int) (j' : Nat),
    Decidable (LexLeScaled rows a j b j')
  | [], _, _, _, _ => isTrue trivial
  | r :: rs, a, j, b, j' =>
    have := Lex.decLexLeScaled rs a j b j'
    (inferInstance : Decidable (a * rget r j < b * rget r j' ∨
      (a * rget r j = b * rget r j' ∧ LexLeScaled rs a j b j')))

instance Lex.decLexPos (nd : SolNode) : Decidable (LexPos nd) :=
  (inferInstance : Decidable (∀ j, j < nd.tab.ns → LexNonnegCol (fullRows nd) j))

/-! `LexPos` is read through the next two lemmas.  Files that state `LexPos (pivot …)` or `LexPos (generateCut …)`
make it `local irreducible`: otherwise every application with such a type lets the elaborator evaluate
`LexNonnegCol (fullRows …)` on the unfolded model function. -/

theorem LexPos.col {nd : SolNode} (h : LexPos nd) {j : Nat} (hj : j < nd.tab.ns) :
    LexNonnegCol (fullRows nd) j := h j hj

theorem LexPos.of_cols {nd : SolNode} (h : ∀ j, j < nd.tab.ns → LexNonnegCol (fullRows nd) j) : LexPos nd := h


instance Lex.decLexMinCol (nd : SolNode) (pi pj : Nat) : Decidable (LexMinCol nd pi pj) :=
  (inferInstance : Decidable (pj < nd.tab.ns ∧ 0 < mget nd.tab.s pi pj ∧
    ∀ j, j < nd.tab.ns → 0 < mget nd.tab.s pi j →
      LexLeScaled (fullRows nd) (mget nd.tab.s pi j) pj (mget nd.tab.s pi pj) j))

instance Lex.decLexLeFrom (v w : Nat → Int) : ∀ (k n : Nat), Decidable (lexLeFrom v w k n)
  | _, 0 => isTrue trivial
  | k, n + 1 =>
    have := Lex.decLexLeFrom v w (k + 1) n
    (inferInstance : Decidable (v k < w k ∨ (v k = w k ∧ lexLeFrom v w (k + 1) n)))

/-- `x2 = 2*x0 + x1 - 3` over den 1... as a node: two column variables 0, 1 and the row variable 2 with
    `2 * x2 = 2*x0 + 4*x1 + 6` (den 2), no parameter -/
def Lex.exNodeA : SolNode :=
  { tab := { s := [[2, 4]], t := [[6]], den := 2, ns := 2, nt := 1 }
    basis := [true, true, false], mapping := [0, 1, 0], varRow := [2], varColumn := [0, 1]
    sign := [.positive], big := none, arts := [], cons := [] }

theorem Lex.exNodeA_wf : WF Lex.exNodeA :=
  ⟨by decide, by decide, by decide, by decide, by decide, by decide, by decide, by decide, by decide,
   by decide, by decide, by decide⟩

theorem Lex.exNodeA_lexpos : LexPos Lex.exNodeA := by decide

/-- non-vacuity of `lex_basic_min`: basic solution `(0, 0, 3)`, feasible valuation `(1, 0, 4)` -/
example : WF Lex.exNodeA ∧ LexPos Lex.exNodeA ∧ [1].length = Lex.exNodeA.tab.nt
    ∧ Feasible Lex.exNodeA (fun k => [1, 0, 4].getD k 0) [1]
    ∧ IsBasic Lex.exNodeA (fun k => [0, 0, 3].getD k 0) [1]
    ∧ lexLeFrom (fun k => [0, 0, 3].getD k 0) (fun k => [1, 0, 4].getD k 0) 0 3 := by
  refine ⟨Lex.exNodeA_wf, Lex.exNodeA_lexpos, rfl, ⟨?_, ?_⟩, ?_, ?_⟩
  · unfold TabSat RowHolds; decide
  · decide
  · unfold IsBasic; decide
  · exact lex_basic_min Lex.exNodeA _ _ [1] Lex.exNodeA_wf Lex.exNodeA_lexpos rfl
      ⟨by unfold TabSat RowHolds; decide, by decide⟩ (by unfold IsBasic; decide)

end PPLV.PIPCore

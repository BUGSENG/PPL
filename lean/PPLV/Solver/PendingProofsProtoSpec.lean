import PPLV.Solver.PendingProofsProto

/-!
# the full status protocol: proofs (`protoSpec`)

`proto_new`, `proto_mutators`, `proto_isLpSatisfiable`, `proto_secondPhase`, combined in `protoSpec`.
-/
namespace PPLV.Solver.Pend
open PPLV.Lin PPLV.Solver PPLV.Solver.Tab

/-! ### helpers -/

/-- `ReadyS` only looks at the tableau data of the state -/
theorem readyS_congr {cs : List ICon} {n : Nat} {s s' : LPState} (h1 : s'.tableau = s.tableau)
    (h2 : s'.base = s.base) (h3 : s'.working_cost = s.working_cost) (h4 : s'.mapping = s.mapping)
    (h5 : s'.numCols = s.numCols) (h : ReadyS cs n s) : ReadyS cs n s' := by
  obtain ⟨⟨a1, a2, a3, a4⟩, b, c⟩ := h
  refine ⟨⟨?_, ?_, ?_, ?_⟩, ?_, ?_⟩
  · rw [h1, h2, h3]; exact a1
  · rw [h3, h4]; exact a2
  · rw [h1, h3, h4]; exact a3
  · rw [h1, h3, h4]; exact a4
  · rw [h5, h3]; exact b
  · rw [h1, h3, h4]; exact c

theorem ppcFinish_keeps (s' : LPState) (b e : Nat) (ok : Bool) (t : Tab) :
    (ppcFinish s' b e ok t).obj = s'.obj ∧ (ppcFinish s' b e ok t).maximize = s'.maximize ∧
    (ppcFinish s' b e ok t).external_space_dim = s'.external_space_dim ∧
    (ppcFinish s' b e ok t).pricing = s'.pricing := by
  unfold ppcFinish
  simp only
  split
  · exact ⟨rfl, rfl, rfl, rfl⟩
  · split <;> exact ⟨rfl, rfl, rfl, rfl⟩

/-- the problem data `process_pending_constraints()` keeps, whatever its outcome -/
theorem ppc_keeps (fc : Chooser) (fuel : Nat) (s sR : LPState) (h : processPendingConstraints fc fuel s = some sR) :
    sR.obj = s.obj ∧ sR.maximize = s.maximize ∧ sR.external_space_dim = s.external_space_dim ∧
    sR.input_cs = s.input_cs ∧ sR.pricing = s.pricing := by
  unfold processPendingConstraints at h
  cases hs : ppcSetup s with
  | done sd =>
    rw [hs] at h
    simp only [Option.some.injEq] at h
    subst h
    exact ppcSetup_done_keeps s sd hs
  | phase1 s' b e =>
    rw [hs] at h
    simp only at h
    obtain ⟨k1, k2, k3, k4, k5⟩ := ppcSetup_keeps s s' b e hs
    cases hrun : computeSimplexWith (chooserOf fc s'.pricing) fuel s'.tab with
    | none => rw [hrun] at h; cases h
    | some res =>
      obtain ⟨ok, t⟩ := res
      rw [hrun] at h
      simp only [Option.some.injEq] at h
      subst h
      obtain ⟨f1, f2, f3, f4⟩ := ppcFinish_keeps s' b e ok t
      exact ⟨by rw [f1, k1], by rw [f2, k2], by rw [f3, k3], by rw [ppcFinish_input_cs, k4], by rw [f4, k5]⟩

/-- a solved status with the invariant: every constraint is processed -/
theorem proto_solved_ready (s : LPState) (hI : ProtoInv s) (hs : Solved s.status) :
    ReadyS s.input_cs s.external_space_dim s ∧ s.first_pending = s.input_cs.length ∧
    s.internal_space_dim = s.external_space_dim := by
  obtain ⟨f1, f2⟩ := hI.st hs
  rcases hI.basis with h | ⟨h, -⟩ | ⟨-, -, h3⟩
  · rcases hs with a | a | a <;> rw [h] at a <;> cases a
  · rcases hs with a | a | a <;> rw [h.part] at a <;> cases a
  · rw [f1, List.take_length, f2] at h3
    exact ⟨h3, f1, f2⟩

/-! ### clause 1 -/

theorem proto_new (m : Nat) : ProtoInv (LPState.new m) :=
  ⟨new_statusInv m, fun _ hc => absurd hc List.not_mem_nil, Nat.le_refl _, (fun h => by cases h),
    (fun h => by rcases h with h | h <;> cases h), Or.inr (Or.inl ⟨new_untouched m, rfl⟩)⟩

/-! ### clause 2 -/

/-- the invariant moves to a state with the same tableau data, more constraints, a larger space dimension, the same
    `last_generator`, a status that is UNSATISFIABLE exactly when it was, and truthful OPTIMIZED / UNBOUNDED -/
theorem protoInv_transfer (s s' : LPState) (hI : ProtoInv s) (hst : StatusInv s')
    (l : List ICon) (hcs : s'.input_cs = s.input_cs ++ l) (hl : ∀ c ∈ l, c.coeffs.length ≤ s.external_space_dim)
    (hext : s.external_space_dim ≤ s'.external_space_dim)
    (hk : s'.tableau = s.tableau ∧ s'.base = s.base ∧ s'.mapping = s.mapping ∧ s'.numCols = s.numCols ∧
      s'.working_cost = s.working_cost ∧ s'.first_pending = s.first_pending ∧
      s'.internal_space_dim = s.internal_space_dim)
    (hlg : s'.last_generator = s.last_generator)
    (hun : s'.status = .UNSATISFIABLE ↔ s.status = .UNSATISFIABLE)
    (hcl : (s'.status = .OPTIMIZED ∨ s'.status = .UNBOUNDED) → LPClaims s'.input_cs s'.problem s')
    (hU : Untouched s → Untouched s') : ProtoInv s' := by
  obtain ⟨k1, k2, k3, k4, k5, k6, k7⟩ := hk
  refine ⟨hst, ?_, ?_, ?_, hcl, ?_⟩
  · intro c hc
    rw [hcs] at hc
    rcases List.mem_append.mp hc with h | h
    · exact le_trans (hI.lens c h) hext
    · exact le_trans (hl c h) hext
  · rw [k6, hcs, List.length_append]
    have := hI.fp
    omega
  · intro h x hx
    rw [hcs] at hx
    exact hI.unsat (hun.mp h) x ((csSem_append _ _ _).mp hx).1
  · rcases hI.basis with h | ⟨h1, h2⟩ | ⟨h1, h2, h3⟩
    · exact Or.inl (hun.mpr h)
    · exact Or.inr (Or.inl ⟨hU h1, by rw [hlg]; exact h2⟩)
    · refine Or.inr (Or.inr ⟨by rw [k7]; exact h1, by rw [k7]; exact le_trans h2 hext, ?_⟩)
      rw [k7, k6, hcs, List.take_append_of_le_length hI.fp]
      exact readyS_congr k1 k2 k5 k3 k4 h3

/-- no mutator touches `last_generator` -/
theorem mutators_last_generator (s : LPState) (c : ICon) (e : LinExpr) (b : Bool) (m : Nat) (p : Pricing) :
    (addConstraint s c).last_generator = s.last_generator ∧
    (setObjectiveFunction s e).last_generator = s.last_generator ∧
    (setOptimizationMode s b).last_generator = s.last_generator ∧
    (addSpaceDimensionsAndEmbed s m).last_generator = s.last_generator ∧
    (setPricing s p).last_generator = s.last_generator := by
  refine ⟨?_, ?_, ?_, ?_, rfl⟩
  · by_cases h : s.status = .UNSATISFIABLE <;> simp [addConstraint, h]
  · cases hs : s.status <;> simp [setObjectiveFunction, hs]
  · by_cases hb : s.maximize = b <;> cases hs : s.status <;> simp [setOptimizationMode, hs, hb]
  · by_cases h : s.status = .UNSATISFIABLE <;> simp [addSpaceDimensionsAndEmbed, h]

theorem addSpaceDimensionsAndEmbed_fields (s : LPState) (m : Nat) :
    (addSpaceDimensionsAndEmbed s m).input_cs = s.input_cs ∧
    (addSpaceDimensionsAndEmbed s m).external_space_dim = s.external_space_dim + m := by
  by_cases h : s.status = .UNSATISFIABLE <;> simp [addSpaceDimensionsAndEmbed, h]

theorem proto_mutators (s : LPState) (hI : ProtoInv s) (c : ICon) (e : LinExpr) (b : Bool) (m : Nat) (p : Pricing) :
    (c.coeffs.length ≤ s.external_space_dim → ProtoInv (addConstraint s c)) ∧
    (e.coeffs.length ≤ s.external_space_dim → ProtoInv (setObjectiveFunction s e)) ∧
    ProtoInv (setOptimizationMode s b) ∧ ProtoInv (addSpaceDimensionsAndEmbed s m) ∧ ProtoInv (setPricing s p) := by
  have hk := mutators_keep_tableau s c e b m p
  obtain ⟨g1, g2, g3, g4, g5⟩ := mutators_last_generator s c e b m p
  obtain ⟨t1, t2, t3, t4, t5⟩ := mutators_statusInv s hI.st c e b m p
  refine ⟨fun hc => ?_, fun _ => ?_, ?_, ?_, ?_⟩
  · -- add_constraint
    obtain ⟨-, -, a3, a4⟩ := addConstraint_keeps s c
    obtain ⟨q1, q2⟩ := addConstraint_status s c
    refine protoInv_transfer s _ hI t1 [c] a4 (fun c' hc' => by rw [List.mem_singleton.mp hc']; exact hc)
      (le_of_eq a3.symm) (hk _ (by simp)) g1 ?_ (fun h => ?_) (fun h => (mutators_untouched s h c e b m p).1)
    · rw [q1]; by_cases h : s.status = .UNSATISFIABLE <;> simp [h]
    · exfalso; rcases h with h | h
      · exact q2 (Or.inr (Or.inr h))
      · exact q2 (Or.inr (Or.inl h))
  · -- set_objective_function
    obtain ⟨f1, f2, -, -⟩ := setObjectiveFunction_fields s e
    obtain ⟨q1, q2, q3, -⟩ := setObjectiveFunction_status s e
    refine protoInv_transfer s _ hI t2 [] (by rw [f1, List.append_nil]) (fun c' hc' => absurd hc' List.not_mem_nil)
      (le_of_eq f2.symm) (hk _ (by simp)) g2 ?_ (fun h => ?_) (fun h => (mutators_untouched s h c e b m p).2.1)
    · rw [q1]; cases hs : s.status <;> simp
    · exfalso; rcases h with h | h
      · exact q3 h
      · exact q2 h
  · -- set_optimization_mode
    obtain ⟨f1, f2, -, -⟩ := setOptimizationMode_fields s b
    obtain ⟨-, q2, q3⟩ := setOptimizationMode_status s b
    by_cases hb : s.maximize = b
    · rw [q3 hb]; exact hI
    · refine protoInv_transfer s _ hI t3 [] (by rw [f1, List.append_nil]) (fun c' hc' => absurd hc' List.not_mem_nil)
        (le_of_eq f2.symm) (hk _ (by simp)) g3 ?_ (fun h => ?_) (fun h => (mutators_untouched s h c e b m p).2.2.1)
      · cases hs : s.status <;> simp [setOptimizationMode, hs, hb]
      · exfalso; rcases h with h | h
        · exact (q2 hb).2 h
        · exact (q2 hb).1 h
  · -- add_space_dimensions_and_embed
    obtain ⟨f1, f2⟩ := addSpaceDimensionsAndEmbed_fields s m
    obtain ⟨q1, q2⟩ := addSpaceDimensionsAndEmbed_status s m
    refine protoInv_transfer s _ hI t4 [] (by rw [f1, List.append_nil]) (fun c' hc' => absurd hc' List.not_mem_nil)
      (by rw [f2]; exact Nat.le_add_right _ _) (hk _ (by simp)) g4 ?_ (fun h => ?_)
      (fun h => (mutators_untouched s h c e b m p).2.2.2.1)
    · rw [q1]; by_cases h : s.status = .UNSATISFIABLE <;> simp [h]
    · exfalso; rcases h with h | h
      · exact q2 (Or.inr (Or.inr h))
      · exact q2 (Or.inr (Or.inl h))
  · -- set_control_parameter(PRICING_*)
    refine protoInv_transfer s _ hI t5 [] (List.append_nil _).symm (fun c' hc' => absurd hc' List.not_mem_nil)
      (le_refl _) (hk _ (by simp)) g5 Iff.rfl (fun h => ?_) (fun h => (mutators_untouched s h c e b m p).2.2.2.2)
    exact hI.claims h

/-! ### clause 3 -/

/-- the end of `is_lp_satisfiable()` on a PARTIALLY_SATISFIABLE state: from the outcome of
    `process_pending_constraints()` to the conclusion of the clause -/
theorem proto_finish (s s1 : LPState) (hn : 0 < s.external_space_dim)
    (hl : ∀ c ∈ s.input_cs, c.coeffs.length ≤ s.external_space_dim)
    (hk : s1.obj = s.obj ∧ s1.maximize = s.maximize ∧ s1.external_space_dim = s.external_space_dim ∧
      s1.input_cs = s.input_cs ∧ s1.pricing = s.pricing)
    (hout : (s1.status = .UNSATISFIABLE ∧ ∀ x, ¬ csSem s.input_cs x) ∨
      (ReadyS s.input_cs s.external_space_dim s1 ∧ (s1.status = .SATISFIABLE ∨
        ((s1.status = .OPTIMIZED ∨ s1.status = .UNBOUNDED) ∧ LPClaims s.input_cs s.problem s1))))
    (s' : LPState) (r : Bool)
    (hs' : { s1 with first_pending := s1.input_cs.length, internal_space_dim := s1.external_space_dim } = s')
    (hr : (s1.status != .UNSATISFIABLE) = r) :
    ProtoInv s' ∧ s'.input_cs = s.input_cs ∧ SameData s s' ∧
      (r = false → s'.status = .UNSATISFIABLE ∧ ∀ x, ¬ csSem s.input_cs x) ∧
      (r = true → Solved s'.status ∧ (∃ x, csSem s.input_cs x) ∧
        ReadyS s'.input_cs s'.external_space_dim s') := by
  subst hs' hr
  obtain ⟨k1, k2, k3, k4, k5⟩ := hk
  have hne : (s1.status = .SATISFIABLE ∨ s1.status = .OPTIMIZED ∨ s1.status = .UNBOUNDED) →
      s1.status ≠ .UNSATISFIABLE := by
    intro h hh
    rcases h with h | h | h <;> rw [h] at hh <;> cases hh
  have hne' : (s1.status = .SATISFIABLE ∨
      ((s1.status = .OPTIMIZED ∨ s1.status = .UNBOUNDED) ∧ LPClaims s.input_cs s.problem s1)) →
      s1.status ≠ .UNSATISFIABLE := by
    intro h
    rcases h with h | ⟨h | h, -⟩
    · exact hne (Or.inl h)
    · exact hne (Or.inr (Or.inl h))
    · exact hne (Or.inr (Or.inr h))
  have hR : ReadyS s.input_cs s.external_space_dim s1 →
      ReadyS s1.input_cs s1.external_space_dim
        { s1 with first_pending := s1.input_cs.length, internal_space_dim := s1.external_space_dim } := by
    intro R
    have R' : ReadyS s.input_cs s.external_space_dim
        { s1 with first_pending := s1.input_cs.length, internal_space_dim := s1.external_space_dim } :=
      readyS_congr (s := s1) rfl rfl rfl rfl rfl R
    rw [← k4, ← k3] at R'
    exact R'
  refine ⟨⟨fun _ => ⟨rfl, rfl⟩, ?_, Nat.le_refl _, ?_, ?_, ?_⟩, k4, ⟨k1, k2, k3, k5⟩, ?_, ?_⟩
  · show ∀ c ∈ s1.input_cs, c.coeffs.length ≤ s1.external_space_dim
    rw [k4, k3]; exact hl
  · intro h x hx
    have h' : s1.status = .UNSATISFIABLE := h
    have hx' : csSem s.input_cs x := by rw [← k4]; exact hx
    rcases hout with ⟨-, a⟩ | ⟨-, a⟩
    · exact a x hx'
    · exact hne' a h'
  · intro h
    have h' : s1.status = .OPTIMIZED ∨ s1.status = .UNBOUNDED := h
    rcases hout with ⟨a, -⟩ | ⟨-, a | ⟨-, cl⟩⟩
    · rcases h' with h | h <;> rw [a] at h <;> cases h
    · rcases h' with h | h <;> rw [a] at h <;> cases h
    · have cl' : LPClaims s.input_cs s.problem
          { s1 with first_pending := s1.input_cs.length, internal_space_dim := s1.external_space_dim } := cl
      show LPClaims s1.input_cs _ _
      rw [k4]
      exact LPClaims_congr s.input_cs s.problem _ _ k1 k2 cl'
  · rcases hout with ⟨a, -⟩ | ⟨R, -⟩
    · exact Or.inl a
    · refine Or.inr (Or.inr ⟨?_, Nat.le_refl _, ?_⟩)
      · show 0 < s1.external_space_dim
        rw [k3]; exact hn
      · show ReadyS (List.take s1.input_cs.length s1.input_cs) s1.external_space_dim _
        rw [List.take_length]
        exact hR R
  · intro h
    rcases hout with ⟨a, b⟩ | ⟨-, a⟩
    · exact ⟨a, b⟩
    · exfalso
      have hs := hne' a
      cases hst : s1.status
      · exact hs hst
      all_goals (rw [hst] at h; exact absurd h (by decide))
  · intro h
    rcases hout with ⟨a, -⟩ | ⟨R, a⟩
    · rw [a] at h; cases h
    · refine ⟨?_, ready_exists _ _ _ R.ready, hR R⟩
      show Solved s1.status
      rcases a with a | ⟨a | a, -⟩
      · exact Or.inl a
      · exact Or.inr (Or.inr a)
      · exact Or.inr (Or.inl a)

theorem proto_isLpSatisfiable (fc : Chooser) (hfc : ChooserOK fc) (s : LPState) (hI : ProtoInv s)
    (hn : 0 < s.external_space_dim) (hnd : NoNewDims s) (hobj : s.obj.coeffs.length ≤ s.external_space_dim)
    (fuel : Nat) (s' : LPState) (r : Bool) (h : isLpSatisfiable fc fuel s = some (s', r)) :
    ProtoInv s' ∧ s'.input_cs = s.input_cs ∧ SameData s s' ∧
      (r = false → s'.status = .UNSATISFIABLE ∧ ∀ x, ¬ csSem s.input_cs x) ∧
      (r = true → Solved s'.status ∧ (∃ x, csSem s.input_cs x) ∧
        ReadyS s'.input_cs s'.external_space_dim s') := by
  obtain ⟨-, q2, -, q4⟩ := isLpSatisfiable_statusInv fc fuel s s' r hI.st h
  by_cases hp : s.status = .PARTIALLY_SATISFIABLE
  · rcases hI.basis with hb | ⟨hU, hlg⟩ | ⟨h1, h2, h3⟩
    · rw [hp] at hb; cases hb
    · -- never solved before
      rw [isLpSatisfiable_untouched fc fuel s hU] at h
      cases hpp : processPendingConstraints fc fuel (firstCall s) with
      | none => rw [hpp] at h; cases h
      | some s1 =>
        rw [hpp] at h
        simp only [Option.some.injEq, Prod.mk.injEq] at h
        obtain ⟨hs', hr⟩ := h
        have hF := firstCall_fresh s hU hn hI.lens
        have hlg' : (firstCall s).last_generator = ⟨[], 1⟩ := hlg
        have hk := ppc_keeps fc fuel (firstCall s) s1 hpp
        refine proto_finish s s1 hn hI.lens hk ?_ s' r hs' hr
        by_cases hu : s1.status = .UNSATISFIABLE
        · left
          rcases ppc_fresh fc hfc fuel (firstCall s) s1 hF hlg' hpp with ⟨-, a2⟩ | ⟨a1, -⟩ | ⟨a1, -⟩
          · exact ⟨hu, a2⟩
          · rcases a1 with a | a <;> rw [hu] at a <;> cases a
          · rw [hu] at a1; cases a1
        · right
          obtain ⟨R, -, -, -, -, -, st⟩ := ppc_fresh_readyS fc hfc fuel (firstCall s) s1 hF hlg' hpp hu
          refine ⟨R, ?_⟩
          rcases st with a | a | a
          · exact Or.inl a
          · exact Or.inr ⟨Or.inl a, ppc_fresh_trivial fc fuel (firstCall s) s1 hF hobj hpp (Or.inl a)⟩
          · exact Or.inr ⟨Or.inr a, ppc_fresh_trivial fc fuel (firstCall s) s1 hF hobj hpp (Or.inr a)⟩
    · -- incremental
      have hd : s.internal_space_dim = s.external_space_dim := by
        rcases hnd with hU | hd
        · rw [hU.int0] at h1; cases h1
        · exact hd
      have hS : IncrStart s := ⟨hn, hd, hI.lens, by rw [← hd]; exact h3⟩
      have hnc : (s.numCols == 0) = false := by
        have e1 := h3.ncols
        have e2 := h3.ready.tb.len2
        simp; omega
      unfold isLpSatisfiable at h
      simp only [hp, hnc, Bool.false_eq_true, if_false] at h
      cases hpp : processPendingConstraints fc fuel s with
      | none => rw [hpp] at h; cases h
      | some s1 =>
        rw [hpp] at h
        simp only [Option.some.injEq, Prod.mk.injEq] at h
        obtain ⟨hs', hr⟩ := h
        have hk := ppc_keeps fc fuel s s1 hpp
        refine proto_finish s s1 hn hI.lens hk ?_ s' r hs' hr
        rcases ppc_incremental fc hfc fuel s s1 hS hobj hpp with a | ⟨a1, -, -, a4⟩
        · exact Or.inl a
        · exact Or.inr ⟨a1, a4⟩
  · have := q4 hp
    subst this
    by_cases hu : s'.status = .UNSATISFIABLE
    · have hr : r = false := by
        cases r
        · rfl
        · exact absurd hu (q2.mp rfl)
      subst hr
      exact ⟨hI, rfl, ⟨rfl, rfl, rfl, rfl⟩, fun _ => ⟨hu, hI.unsat hu⟩, (fun h => by cases h)⟩
    · have hsol : Solved s'.status := by
        unfold Solved
        cases hs : s'.status
        · exact absurd hs hu
        · exact Or.inl rfl
        · exact Or.inr (Or.inl rfl)
        · exact Or.inr (Or.inr rfl)
        · exact absurd hs hp
      have hr : r = true := q2.mpr hu
      subst hr
      obtain ⟨R, -, -⟩ := proto_solved_ready s' hI hsol
      exact ⟨hI, rfl, ⟨rfl, rfl, rfl, rfl⟩, (fun h => by cases h), fun _ => ⟨hsol, ready_exists _ _ _ R.ready, R⟩⟩

/-! ### clause 4 -/

theorem proto_secondPhase (fc : Chooser) (hfc : ChooserOK fc) (s : LPState) (hI : ProtoInv s)
    (hn : 0 < s.external_space_dim) (hobj : s.obj.coeffs.length ≤ s.external_space_dim) (hsol : Solved s.status)
    (fuel : Nat) (s' : LPState) (h : secondPhase fc fuel s = some s') :
    ProtoInv s' ∧ (s'.status = .OPTIMIZED ∨ s'.status = .UNBOUNDED) ∧ LPClaims s.input_cs s.problem s' ∧
      ReadyS s'.input_cs s'.external_space_dim s' := by
  obtain ⟨R, f1, f2⟩ := proto_solved_ready s hI hsol
  have hst : s.status = .SATISFIABLE ∨
      ((s.status = .OPTIMIZED ∨ s.status = .UNBOUNDED) ∧ LPClaims s.input_cs s.problem s) := by
    rcases hsol with a | a | a
    · exact Or.inl a
    · exact Or.inr ⟨Or.inr a, hI.claims (Or.inr a)⟩
    · exact Or.inr ⟨Or.inl a, hI.claims (Or.inl a)⟩
  obtain ⟨w1, w2⟩ := after_ppc_second fc hfc fuel s s s' hn hI.lens hobj R ⟨rfl, rfl, rfl, rfl⟩ hst h
  obtain ⟨e1, e2, e3, e4, e5, e6, e7, e8⟩ := secondPhase_keeps fc fuel s s' h
  obtain ⟨t1, -⟩ := secondPhase_statusInv fc fuel s s' hI.st hsol h
  have hR' : ReadyS s'.input_cs s'.external_space_dim s' := by rw [e1, e4]; exact w2
  refine ⟨⟨t1, ?_, ?_, ?_, ?_, ?_⟩, e8, w1, hR'⟩
  · rw [e1, e4]; exact hI.lens
  · rw [e2, e1]; exact hI.fp
  · intro hu
    rcases e8 with a | a <;> rw [hu] at a <;> cases a
  · intro _
    rw [e1]
    exact LPClaims_congr s.input_cs s.problem _ _ e5 e6 w1
  · refine Or.inr (Or.inr ⟨by rw [e3, f2]; exact hn, by rw [e3, e4, f2], ?_⟩)
    rw [e2, f1, e3, f2, ← e1, List.take_length, ← e4]
    exact hR'

/-! ### the protocol -/

theorem protoSpec (fc : Chooser) (hfc : ChooserOK fc) : ProtoSpec fc :=
  ⟨proto_new,
    fun s hI c e b m p => proto_mutators s hI c e b m p,
    fun s hI hn hnd hobj fuel s' r h => proto_isLpSatisfiable fc hfc s hI hn hnd hobj fuel s' r h,
    fun s hI hn hobj hsol fuel s' h => proto_secondPhase fc hfc s hI hn hobj hsol fuel s' h⟩

end PPLV.Solver.Pend

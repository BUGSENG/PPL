import PPLV.Solver.PendingProofsEncode

/-!
# the solutions of the tableau set up for a fresh problem

`setup_core`: for the data of a fresh problem (`InsCtx`), the tableau after insertion, sign normalisation
and the artificial columns has — among the valuations with `y 0 = 1`, non-negative columns, and zero from the
first artificial column on — exactly the solutions that project onto the solution set of the constraints.
`setup_complete`: the (←) half, with the second column of a split variable at 0 where its value is non-negative.
`Fresh`, `TabSol`, and the first stages of `ppcSetup` on a fresh state.
-/
namespace PPLV.Solver.Pend
open PPLV.Lin PPLV.Solver.Tab

/-- the encoding `enc` puts `max (−x_v) 0` in the second column of a split variable -/
theorem enc_neg (M : List (Nat × Nat)) (nn : List Bool) (n j : Nat) (hM : MapOK M nn n j) (x : Val) :
    ∀ k, k ≤ n → ∀ v, v < k → (M.getD (v+1) (0, 0)).2 ≠ 0 →
      enc M x k (M.getD (v+1) (0, 0)).2 = max (-(x v)) 0 := by
  intro k
  induction k with
  | zero => intro _ v hv; omega
  | succ k ih =>
    intro hk v hv hsplit
    obtain ⟨c1, c2, -, -⟩ := hM.cols k (by omega)
    have hhi : ∀ w, (M.getD (w+1) (0, 0)).2 ≠ 0 → hiCol (M.getD (w+1) (0, 0)) = (M.getD (w+1) (0, 0)).2 := by
      intro w hw; unfold hiCol; rw [if_neg hw]
    by_cases hvk : v = k
    · subst hvk
      simp only [enc, hsplit, if_false, Val.update, if_true]
    · have hv' : v < k := by omega
      have hb := hM.ord v k hv' (by omega)
      rw [hhi v hsplit] at hb
      have := ih (by omega) v hv' hsplit
      rw [← this]
      by_cases hm : (M.getD (k+1) (0, 0)).2 = 0
      · simp only [enc, hm, if_true, Val.update]
        rw [if_neg (by omega)]
      · have hm2 : (M.getD (k+1) (0, 0)).2 = (M.getD (k+1) (0, 0)).1 + 1 := by
          rcases c2 with h | h
          · exact absurd h hm
          · exact h
        simp only [enc, hm, if_false, Val.update]
        rw [if_neg (by omega), if_neg (by omega)]

namespace InsCtx
variable (C : InsCtx)

/-- the final state of the insertion loop -/
def fin : Ins := revFold C.pend.length C.step C.init

/-- the tableau handed to the first phase -/
def T2 (cost : Row) (base : List Nat) : List Row :=
  (ppcArtificials [] 0 C.N C.fin.worked (ppcNormalizeSigns C.fin.T) cost base C.SL).1

/-- the output of the artificial-column loop on the data of `C` -/
def artOut : List Row × Row × List Nat × Nat :=
  ppcArtificials [] 0 C.N C.fin.worked (ppcNormalizeSigns C.fin.T) (zeros C.numCols) C.fin.base C.SL

theorem fin_k : C.fin.k = 0 := by
  have := (C.insert_spec).k_eq
  unfold fin
  simpa using this

theorem T2_rows (cost : Row) (base : List Nat) :
    (C.T2 cost base).length = C.N ∧
    ∀ r, r < C.N → ∀ y : Val, (∀ col, C.SL ≤ col → col < C.numCols → y col = 0) →
      (rowVal ((C.T2 cost base).getD r []) y = 0 ↔ rowVal (C.fin.T.getD r []) y = 0) := by
  have inv := C.insert_spec
  have hlen : (ppcNormalizeSigns C.fin.T).length = C.N := by rw [normalize_length]; exact inv.lenT
  have hrows : ∀ r, r < C.N → ((ppcNormalizeSigns C.fin.T).getD r []).length = C.numCols := by
    intro r hr
    rw [normalize_getD, normRow_length]
    exact (inv.rows r (by rw [show (revFold C.pend.length C.step C.init).k = 0 from C.fin_k]; omega) hr).1
  obtain ⟨a1, a2⟩ := artificials_fresh C.N C.numCols C.SL C.fin.worked _ cost base hlen hrows
  refine ⟨a1, fun r hr y hy => ?_⟩
  unfold T2
  rw [(a2 r hr).2 y hy, normalize_getD, normRow_val]

/-- completeness of the set-up of a fresh problem: a solution is the projection of a non-negative solution of the
    tableau, which can be chosen with 0 in the second column of every split variable of non-negative value -/
theorem setup_complete (cost : Row) (base : List Nat)
    (H2 : ∀ u, C.nn.getD u false = true → ∃ c ∈ C.pend, forcesNonneg (classify c).1 = true ∧ (classify c).2 = u) :
    ∀ x : Val, csSem C.pend x →
      ∃ y : Val, y 0 = 1 ∧ (∀ j, 1 ≤ j → 0 ≤ y j) ∧ (∀ j, C.SL ≤ j → y j = 0) ∧ Sol (C.T2 cost base) y ∧
        (∀ i, i < C.n → proj C.M y i = x i) ∧
        ∀ v, v < C.n → (C.M.getD (v+1) (0, 0)).2 ≠ 0 → 0 ≤ x v → y (C.M.getD (v+1) (0, 0)).2 = 0 := by
  have inv := C.insert_spec
  have hk : (revFold C.pend.length C.step C.init).k = 0 := C.fin_k
  obtain ⟨t1, t2⟩ := C.T2_rows cost base
  intro x hx
  have hxnn : ∀ u, u < C.n → C.nn.getD u false = true → 0 ≤ x u := by
    intro u _ hu
    obtain ⟨c, hc, hf, hv⟩ := H2 u hu
    rcases hcl : classify c with ⟨cls, v⟩
    rw [hcl] at hf hv
    simp only at hf hv
    subst hv
    exact nonneg_of_class hcl hf x (hx c hc)
  obtain ⟨e1, e2, e3, e4⟩ := enc_spec C.M C.nn C.n C.j C.hM x hxnn C.n (le_refl _)
  have eneg := enc_neg C.M C.nn C.n C.j C.hM x C.n (le_refl _)
  set y0 := enc C.M x C.n with hy0
  have hy0V : ∀ col, C.V ≤ col → y0 col = 0 := by
    intro col hcol
    apply e2 col (by unfold V at hcol; omega)
    intro u hu
    have := (C.hM.cols u hu).2.2.2
    unfold V at hcol; omega
  have hholds : ∀ c ∈ C.pend.drop 0, tabC c = true → c.holds (proj C.M y0) := by
    intro c hc _
    have hc' : c ∈ C.pend := by simpa using hc
    have := hx c hc'
    unfold ICon.holds at this ⊢
    rwa [dot_congr_lt c.coeffs (proj C.M y0) x (fun u hu => e3 u (lt_of_lt_of_le hu (C.hlen c hc')))]
  obtain ⟨y, y1, y2, y3, y4, y5⟩ := inv.complete y0 e1 (fun col _ => e4 col) hholds
  have hzero : ∀ j, C.SL ≤ j → y j = 0 := by
    intro j hj
    have hVj : C.V ≤ j := by unfold SL at hj; omega
    rw [y4 j hVj (Or.inr hj)]; exact hy0V j hVj
  refine ⟨y, y2, y3, hzero, fun r hr => ?_, fun i hi => ?_, fun v hv hsplit hxv => ?_⟩
  · rw [t1] at hr
    exact (t2 r hr y (fun j hj _ => hzero j hj)).mpr (y5 r (by rw [hk]; omega) hr)
  · rw [proj_congr C.M C.nn C.n C.j C.hM y y0 (fun col hcol => y1 col (by unfold V; exact hcol))]
    exact e3 i hi
  · have hcol : (C.M.getD (v+1) (0, 0)).2 < C.V := by
      have := (C.hM.cols v hv).2.2.2
      unfold hiCol at this; rw [if_neg hsplit] at this
      unfold V; exact this
    rw [y1 _ hcol, eneg v hv hsplit]
    exact max_eq_right (by linarith)

/-- **the semantic core of `tableau_setup_solutions`** -/
theorem setup_core (cost : Row) (base : List Nat)
    (H1 : ∀ c ∈ C.pend, (classify c).1 = .m7 → C.nn.getD (classify c).2 false = true)
    (H2 : ∀ u, C.nn.getD u false = true → ∃ c ∈ C.pend, forcesNonneg (classify c).1 = true ∧ (classify c).2 = u) :
    (∀ y : Val, y 0 = 1 → (∀ j, 1 ≤ j → 0 ≤ y j) → (∀ j, C.SL ≤ j → j < C.numCols → y j = 0) →
      Sol (C.T2 cost base) y → csSem C.pend (proj C.M y)) ∧
    (∀ x : Val, csSem C.pend x →
      ∃ y : Val, y 0 = 1 ∧ (∀ j, 1 ≤ j → 0 ≤ y j) ∧ (∀ j, C.SL ≤ j → y j = 0) ∧ Sol (C.T2 cost base) y ∧
        ∀ i, i < C.n → proj C.M y i = x i) := by
  have inv := C.insert_spec
  have hk : (revFold C.pend.length C.step C.init).k = 0 := C.fin_k
  obtain ⟨t1, t2⟩ := C.T2_rows cost base
  constructor
  · intro y h0 hnn hz hsol c hc
    by_cases ht : tabC c = true
    · apply inv.sound y h0 hnn (fun r _ hr => ?_) c (by simpa using hc) ht
      exact (t2 r hr y hz).mp (hsol r (by rw [t1]; exact hr))
    · -- a dropped constraint: a tautology, or `a·x_v ≥ 0` on an unsplit variable
      rcases hcl : classify c with ⟨cls, v⟩
      have htc := tabC_of hcl
      cases cls <;> simp only [tabCls] at htc <;> try exact absurd htc ht
      · exact trivTrue_holds hcl _
      · rw [m7_holds_iff hcl]
        have hnnv := H1 c hc (by rw [hcl])
        rw [hcl] at hnnv
        simp only at hnnv
        have hv : v < C.n := lt_of_lt_of_le (class_var_lt hcl rfl) (C.hlen c hc)
        obtain ⟨c1, -, c3, -⟩ := C.hM.cols v hv
        have hm2 := c3.mpr hnnv
        unfold proj
        simp only [hm2, bne_self_eq_false, Bool.false_eq_true, if_false, sub_zero]
        exact hnn _ c1
  · intro x hx
    obtain ⟨y, y1, y2, y3, y4, y5, -⟩ := C.setup_complete cost base H2 x hx
    exact ⟨y, y1, y2, y3, y4, y5⟩

end InsCtx

/-! ### the fresh state -/

structure Fresh (s : LPState) : Prop where
  int0 : s.internal_space_dim = 0
  fp0 : s.first_pending = 0
  map0 : s.mapping = [(0, 0)]
  nc : s.numCols = 2
  tab : s.tableau = []
  base0 : s.base = []
  npos : 0 < s.external_space_dim
  lens : ∀ c ∈ s.input_cs, c.coeffs.length ≤ s.external_space_dim

/-- first column that is zero in the solutions considered: the first artificial column, or the sign
    column when there is no artificial -/
def artStart (b numCols : Nat) : Nat := if b ≠ 0 then b else numCols - 1

/-- the valuations of the tableau that the first phase is looking for: `y 0 = 1`, non-negative columns,
    zero on the artificial columns and on the sign column, every row satisfied -/
def TabSol (T : List Row) (numCols b : Nat) (y : Val) : Prop :=
  y 0 = 1 ∧ (∀ j, 1 ≤ j → 0 ≤ y j) ∧ (∀ j, artStart b numCols ≤ j → j < numCols → y j = 0) ∧ Sol T y

theorem ppcRecompute_fresh {s : LPState} (hF : Fresh s) : ppcRecompute s = (s, true) := by
  unfold ppcRecompute; rw [hF.int0]; rfl

theorem ppcMerge_fresh {s : LPState} (hF : Fresh s) (l : List Bool) : ppcMerge s l = (s, []) := by
  unfold ppcMerge; rw [hF.int0]; rfl

theorem pad_replicate (k numCols : Nat) :
    (List.replicate k ([] : Row)).map (fun (r : Row) => r ++ zeros (numCols - r.length)) =
      List.replicate k (zeros numCols) := by
  rw [List.map_replicate]; rfl

theorem ppcTrivial_cases (s : LPState) (b e : Nat) (hn : 0 < s.external_space_dim) :
    (ppcTrivial s b e = .phase1 s b e ∧ s.tableau ≠ []) ∨
    (∃ s', ppcTrivial s b e = .done s' ∧ s'.tableau = s.tableau ∧ s'.mapping = s.mapping ∧
      s'.numCols = s.numCols ∧ s.tableau = [] ∧ s'.status ≠ .UNSATISFIABLE) := by
  unfold ppcTrivial
  have h0 : (s.external_space_dim == 0) = false := by simp; omega
  rw [h0]
  simp only [Bool.false_eq_true, if_false]
  by_cases ht : s.tableau = []
  · right
    have hl : (s.tableau.length == 0) = true := by rw [ht]; rfl
    rw [hl]
    simp only [if_true]
    split
    · exact ⟨_, rfl, rfl, rfl, rfl, ht, by simp⟩
    · exact ⟨_, rfl, rfl, rfl, rfl, ht, by simp⟩
  · left
    have : (s.tableau.length == 0) = false := by
      cases hl : s.tableau with
      | nil => exact absurd hl ht
      | cons a l => rfl
    rw [this]
    exact ⟨rfl, ht⟩

end PPLV.Solver.Pend

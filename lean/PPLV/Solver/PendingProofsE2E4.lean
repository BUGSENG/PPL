import PPLV.Solver.PendingProofsTrivial

/-!
# `lp_fresh_correct`: all branches
-/
namespace PPLV.Solver.Pend
open PPLV.Lin PPLV.Solver PPLV.Solver.Tab

theorem ppcFinish_status (s' : LPState) (b e : Nat) (ok : Bool) (t : Tab) :
    (ppcFinish s' b e ok t).status = .UNSATISFIABLE ∨ (ppcFinish s' b e ok t).status = .SATISFIABLE := by
  by_cases h : ok = false ∨ t.cost.get 0 ≠ 0
  · exact Or.inl (ppcFinish_unsat s' b e ok t h)
  · have hok : ok = true := by cases ok <;> simp_all
    have h0 : t.cost.get 0 = 0 := by
      by_contra hne; exact h (Or.inr hne)
    right
    rw [hok, ppcFinish_sat s' b e t h0]

/-- the claims about the answer of the LP machinery, for the constraints `cs` and the problem `P` -/
def LPClaims (cs : List ICon) (P : Problem) (s2 : LPState) : Prop :=
  (s2.status = .OPTIMIZED ∨ s2.status = .UNBOUNDED) ∧
  0 < s2.last_generator.den ∧ csSem cs s2.last_generator.val ∧
  (s2.status = .OPTIMIZED →
    ∀ x, csSem cs x → ¬ Better P (P.objVal x) (P.objVal s2.last_generator.val)) ∧
  (s2.status = .UNBOUNDED → ∀ M : Rat, ∃ x, csSem cs x ∧ Better P (P.objVal x) M)

/-- the branch without tableau rows: `process_pending_constraints` itself answers OPTIMIZED / UNBOUNDED, rightly -/
theorem ppc_fresh_trivial (fc : Chooser) (fuel : Nat) (s sR : LPState) (hF : Fresh s)
    (hobj : s.obj.coeffs.length ≤ s.external_space_dim)
    (h : processPendingConstraints fc fuel s = some sR)
    (hst : sR.status = .OPTIMIZED ∨ sR.status = .UNBOUNDED) : LPClaims s.input_cs s.problem sR := by
  unfold processPendingConstraints at h
  cases hs : ppcSetup s with
  | phase1 s' b e =>
    rw [hs] at h
    simp only at h
    cases hrun : computeSimplexWith (chooserOf fc s'.pricing) fuel s'.tab with
    | none => rw [hrun] at h; cases h
    | some res =>
      obtain ⟨ok, t⟩ := res
      rw [hrun] at h
      simp only [Option.some.injEq] at h
      subst h
      exfalso
      rcases ppcFinish_status s' b e ok t with h1 | h1 <;> rcases hst with h2 | h2 <;> rw [h1] at h2 <;> cases h2
  | done sd =>
    rw [hs] at h
    simp only [Option.some.injEq] at h
    subst h
    cases hp : parseConstraints s with
    | none =>
      exfalso
      have : ppcSetup s = .done { s with status := .UNSATISFIABLE } := by
        unfold ppcSetup; rw [ppcRecompute_fresh hF]; simp only [hp]
      rw [this] at hs
      simp only [Setup.done.injEq] at hs
      subst hs
      rcases hst with h2 | h2 <;> cases h2
    | some p =>
      obtain ⟨C, c1, c2, c3, H1, H2, hnc, s0, hs0, f1, f2, f3, f4, f5, f6, f7, f8, f9, -⟩ := fresh_ctx s hF p hp
      rw [hs0] at hs
      unfold ppcTrivial at hs
      have h0 : (s0.external_space_dim == 0) = false := by rw [f6]; have := hF.npos; simp; omega
      rw [h0] at hs
      simp only [Bool.false_eq_true, if_false] at hs
      split at hs
      swap
      · cases hs
      rename_i hlen
      have hnil : s0.tableau = [] := by
        cases ht : s0.tableau with
        | nil => rfl
        | cons a l => rw [ht] at hlen; simp at hlen
      have hT : C.T2 (zeros C.numCols) C.fin.base = [] := by
        have : C.artOut.1 = [] := by rw [← f1]; exact hnil
        exact this
      have hobjC : s.obj.coeffs.length ≤ C.n := by rw [c2]; exact hobj
      obtain ⟨t1, t2, t3⟩ := C.trivial_branch H1 H2 hT s.obj s.maximize hobjC
      rw [c1] at t1 t2 t3
      have hsgn : (s.obj.coeffs.map fun a => if s.maximize then a else -a) = sgnObj s := rfl
      rw [hsgn] at t2 t3
      -- the origin
      have hval : ∀ n : Nat, (⟨zeros n, 1⟩ : Pt).val = Val.zero := by
        intro n; funext i; unfold Pt.val; simp only; rw [zeros_getD]; simp [Val.zero]
      rw [f7, f5, f8, f6] at hs
      by_cases hunb : isUnboundedObjFunction s.obj C.M s.maximize = true
      · rw [if_pos hunb] at hs
        simp only [Setup.done.injEq] at hs
        subst hs
        refine ⟨Or.inr rfl, Int.one_pos, by simp only; rw [hval]; exact t1, (fun h => by cases h), fun _ M => ?_⟩
        obtain ⟨x, x1, x2⟩ := t3 hunb (if s.maximize then M - (s.obj.k : Rat) else (s.obj.k : Rat) - M)
        exact ⟨x, x1, better_of_large s x M x2⟩
      · rw [if_neg hunb] at hs
        simp only [Setup.done.injEq] at hs
        subst hs
        have hunb' : isUnboundedObjFunction s.obj C.M s.maximize = false := by simpa using hunb
        refine ⟨Or.inl rfl, Int.one_pos, by simp only; rw [hval]; exact t1, fun _ x hx => ?_, fun h => by cases h⟩
        simp only
        rw [hval, not_better_iff, dot_zero]
        exact t2 hunb' x hx

/-- **END TO END: the LP answers of the model on a problem never solved before are right.** -/
theorem lp_fresh_correct (fc : Chooser) (hfc : ChooserOK fc) (f1 f2 : Nat) (s s1 : LPState) (r : Bool)
    (hU : Untouched s) (hlg : s.last_generator = ⟨[], 1⟩) (hn : 0 < s.external_space_dim)
    (hl : ∀ c ∈ s.input_cs, c.coeffs.length ≤ s.external_space_dim)
    (hobj : s.obj.coeffs.length ≤ s.external_space_dim)
    (h1 : isLpSatisfiable fc f1 s = some (s1, r)) :
    (r = false → ∀ x, ¬ csSem s.input_cs x) ∧
    (r = true → (∃ x, csSem s.input_cs x) ∧
      ∀ s2, secondPhase fc f2 s1 = some s2 → LPClaims s.input_cs s.problem s2) := by
  rw [isLpSatisfiable_untouched fc f1 s hU] at h1
  cases hp : processPendingConstraints fc f1 (firstCall s) with
  | none => rw [hp] at h1; cases h1
  | some sR =>
    rw [hp] at h1
    simp only [Option.some.injEq, Prod.mk.injEq] at h1
    obtain ⟨rfl, rfl⟩ := h1
    have hF := firstCall_fresh s hU hn hl
    rcases ppc_fresh fc hfc f1 (firstCall s) sR hF hlg hp with ⟨a1, a2⟩ | ⟨a1, a2, a3⟩ | ⟨a1, a2, a3, a4, -, a6⟩
    · refine ⟨fun _ => a2, fun hr => ?_⟩
      rw [a1] at hr; cases hr
    · refine ⟨fun hr => ?_, fun _ => ⟨a3, fun s2 h2 => ?_⟩⟩
      · rcases a1 with h | h <;> rw [h] at hr <;> cases hr
      · have hcl := ppc_fresh_trivial fc f1 (firstCall s) sR hF hobj hp a1
        -- second_phase returns at once
        have : s2 = { sR with first_pending := sR.input_cs.length, internal_space_dim := sR.external_space_dim } := by
          unfold secondPhase at h2
          have hc : (sR.status == Status.UNBOUNDED || sR.status == Status.OPTIMIZED) = true := by
            rcases a1 with h | h <;> rw [h] <;> rfl
          simp only [hc, if_true, Option.some.injEq] at h2
          exact h2.symm
        rw [this]
        exact hcl
    · refine ⟨fun hr => ?_, fun _ => ⟨ready_exists _ _ _ a2, fun s2 h2 => ?_⟩⟩
      · rw [a1] at hr; cases hr
      · exact secondPhase_fresh_witness fc hfc f2 s
          { sR with first_pending := sR.input_cs.length, internal_space_dim := sR.external_space_dim } s2 a1
          ⟨a2.tb, a2.map, a2.sound, a2.complete⟩ a3 a4 a6 hn hl hobj h2

end PPLV.Solver.Pend

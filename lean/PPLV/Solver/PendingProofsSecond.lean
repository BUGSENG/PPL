import PPLV.Solver.PendingProofsLoop

/-!
# `second_phase` from any feasible basis; the status protocol of the mutators

* `revFold_inv`, `fwdFold_inv`: loop-invariant rules for the two loop shapes of the model;
* `CanonTB`: the part of `Canon` that does not mention the cost row (a feasible basis);
* `reexpress_spec`: the loop "express the cost function in terms of the base" (:1956–:1966, :959–:969)
  zeroes the basic columns of the cost row and keeps the objective it denotes on the solution set;
* `secondPhase_sound`: `second_phase()` from ANY feasible basis, with ANY pricing rule, ends (when it
  terminates) OPTIMIZED at the maximum of the objective `secondPhaseCost` over the non-negative solutions,
  or UNBOUNDED when there is none; the basis it leaves is feasible again;
* `secondPhase_value_eq`: two states (e.g. an incrementally re-optimised one and a fresh one) with the same
  solution set and the same objective get the same status and the same value;
* `StatusInv` and the mutators.
-/
namespace PPLV.Solver.Pend
open PPLV.Lin PPLV.Solver.Tab

theorem revFold_inv {σ : Type} (P : Nat → σ → Prop) (f : Nat → σ → σ) :
    ∀ (n : Nat) (s : σ), P n s → (∀ i, i < n → ∀ s, P (i+1) s → P i (f i s)) → P 0 (revFold n f s) := by
  intro n
  induction n with
  | zero => intro s h _; exact h
  | succ n ih =>
    intro s h hstep
    unfold revFold
    exact ih (f n s) (hstep n (Nat.lt_succ_self n) s h) (fun i hi s hs => hstep i (Nat.lt_succ_of_lt hi) s hs)

theorem fwdFold_inv {σ : Type} (P : Nat → σ → Prop) (f : Nat → σ → σ) :
    ∀ (len a : Nat) (s : σ), P a s → (∀ i, a ≤ i → i < a + len → ∀ s, P i s → P (i+1) (f i s)) →
      P (a + len) (fwdFold a len f s) := by
  intro len
  induction len with
  | zero => intro a s h _; exact h
  | succ len ih =>
    intro a s h hstep
    unfold fwdFold
    have := ih (a + 1) (f a s) (hstep a (le_refl a) (by omega) s h)
      (fun i h1 h2 s hs => hstep i (by omega) (by omega) s hs)
    rwa [show a + 1 + len = a + (len + 1) by omega] at this

/-! ### a feasible basis -/

structure CanonTB (T : List Row) (base : List Nat) (n : Nat) : Prop where
  lenB : base.length = T.length
  len2 : 2 ≤ n
  rowLen : ∀ i, i < T.length → (T.getD i []).length = n
  baseRange : ∀ i, i < T.length → 1 ≤ base.getD i 0 ∧ base.getD i 0 < n - 1
  basicNZ : ∀ i, i < T.length → (T.getD i []).get (base.getD i 0) ≠ 0
  basicCol : ∀ i j, i < T.length → j < T.length → i ≠ j → (T.getD j []).get (base.getD i 0) = 0
  lastZero : ∀ i, i < T.length → (T.getD i []).get (n - 1) = 0
  feas : ∀ i, i < T.length →
    0 ≤ -(((T.getD i []).get 0 : Int) : Rat) / (((T.getD i []).get (base.getD i 0) : Int) : Rat)

theorem Canon.toTB {t : Tab} (h : Canon t) : CanonTB t.T t.base t.cost.length :=
  ⟨h.lenB, h.len2, h.rowLen, h.baseRange, h.basicNZ, h.basicCol, h.lastZero, h.feas⟩

theorem CanonTB.toCanon {T : List Row} {base : List Nat} {n : Nat} (h : CanonTB T base n) (cost : Row)
    (hl : cost.length = n) (hs : cost.get (n - 1) ≠ 0) (hb : ∀ i, i < T.length → cost.get (base.getD i 0) = 0) :
    Canon ⟨T, cost, base⟩ := by
  constructor
  · exact h.lenB
  · show 2 ≤ cost.length; rw [hl]; exact h.len2
  · intro i hi; show (T.getD i []).length = cost.length; rw [hl]; exact h.rowLen i hi
  · intro i hi; show 1 ≤ base.getD i 0 ∧ base.getD i 0 < cost.length - 1; rw [hl]; exact h.baseRange i hi
  · exact h.basicNZ
  · exact h.basicCol
  · exact hb
  · intro i hi; show (T.getD i []).get (cost.length - 1) = 0; rw [hl]; exact h.lastZero i hi
  · show cost.get (cost.length - 1) ≠ 0; rw [hl]; exact hs
  · exact h.feas

/-! ### the cost row in terms of the non-basic variables -/

/-- the loop at :1956–:1966 (and :959–:969) -/
def reexpress (T : List Row) (base : List Nat) (cost : Row) : Row :=
  revFold T.length (fun i (cost : Row) =>
    let bi := base.getD i 0
    if cost.get bi != 0 then linearCombine cost (T.getD i []) bi else cost) cost

/-- combining the cost row with a row that vanishes on the solutions keeps the objective -/
theorem linearCombine_objAt (c y : Row) (k : Nat) (x : Val) (hlen : y.length = c.length) (hyk : y.get k ≠ 0)
    (hylast : y.get (c.length - 1) = 0) (hcl : c.get (c.length - 1) ≠ 0) (hyx : dot y x = 0) :
    (linearCombine c y k).length = c.length ∧ (linearCombine c y k).get (c.length - 1) ≠ 0 ∧
      objAt (linearCombine c y k) x = objAt c x := by
  obtain ⟨d, hd, h1, h2, h3⟩ := linearCombine_spec c y k
  obtain ⟨g, hg, -, -, hny⟩ := lcN_spec c y k hyk
  have hl : (linearCombine c y k).length = c.length := by rw [h3, hlen]; simp
  have e1 := h1 (c.length - 1)
  rw [hylast, mul_zero, add_zero] at e1
  have hne : (linearCombine c y k).get (c.length - 1) ≠ 0 := by
    intro h0
    rw [h0, mul_zero] at e1
    rcases Int.mul_eq_zero.mp e1.symm with h | h
    · exact hny (by omega)
    · exact hcl h
  refine ⟨hl, hne, ?_⟩
  unfold objAt
  rw [hl]
  have e2 := h2 x
  rw [hyx, mul_zero, add_zero] at e2
  have e1q : (d : Rat) * (((linearCombine c y k).get (c.length - 1) : Int) : Rat) =
      -((lcNy c y k : Int) : Rat) * ((c.get (c.length - 1) : Int) : Rat) := by exact_mod_cast e1
  have hdq : (d : Rat) ≠ 0 := by exact_mod_cast (ne_of_gt hd)
  have hnq : ((lcNy c y k : Int) : Rat) ≠ 0 := by exact_mod_cast hny
  have hsq : ((c.get (c.length - 1) : Int) : Rat) ≠ 0 := by exact_mod_cast hcl
  have f1 : dot (linearCombine c y k) x = -((lcNy c y k : Int) : Rat) * dot c x / d := by
    rw [← e2]; field_simp
  have f2 : (((linearCombine c y k).get (c.length - 1) : Int) : Rat) =
      -((lcNy c y k : Int) : Rat) * ((c.get (c.length - 1) : Int) : Rat) / d := by
    rw [← e1q]; field_simp
  rw [f1, f2]
  field_simp

theorem reexpress_spec {T : List Row} {base : List Nat} {n : Nat} (h : CanonTB T base n) (c : Row)
    (hl : c.length = n) (hs : c.get (n - 1) ≠ 0) :
    (reexpress T base c).length = n ∧ (reexpress T base c).get (n - 1) ≠ 0 ∧
    (∀ i, i < T.length → (reexpress T base c).get (base.getD i 0) = 0) ∧
    ∀ x, Sol T x → objAt (reexpress T base c) x = objAt c x := by
  unfold reexpress
  have key := revFold_inv
    (fun (k : Nat) (c' : Row) => c'.length = n ∧ c'.get (n - 1) ≠ 0 ∧
      (∀ i, k ≤ i → i < T.length → c'.get (base.getD i 0) = 0) ∧ ∀ x, Sol T x → objAt c' x = objAt c x)
    (fun i (cost : Row) =>
      let bi := base.getD i 0
      if cost.get bi != 0 then linearCombine cost (T.getD i []) bi else cost)
    T.length c ⟨hl, hs, fun i h1 h2 => by omega, fun _ _ => rfl⟩
    (by
      intro k hk c' ⟨a1, a2, a3, a4⟩
      simp only
      by_cases hz : c'.get (base.getD k 0) = 0
      · have : (c'.get (base.getD k 0) != 0) = false := by rw [hz]; rfl
        rw [this]
        simp only [Bool.false_eq_true, if_false]
        refine ⟨a1, a2, fun i h1 h2 => ?_, a4⟩
        by_cases hik : i = k
        · rw [hik]; exact hz
        · exact a3 i (by omega) h2
      · have : (c'.get (base.getD k 0) != 0) = true := bne_iff_ne.mpr hz
        rw [this]
        simp only [if_true]
        obtain ⟨d, hd, h1, -, -⟩ := linearCombine_spec c' (T.getD k []) (base.getD k 0)
        have hrow : ∀ x, Sol T x → dot (T.getD k []) x = 0 := fun x hx => hx k hk
        refine ⟨?_, ?_, fun i hi1 hi2 => ?_, fun x hx => ?_⟩
        · exact (linearCombine_objAt c' (T.getD k []) _ Val.zero (by rw [h.rowLen k hk, a1]) (h.basicNZ k hk)
            (by rw [a1]; exact h.lastZero k hk) (by rw [a1]; exact a2) (dot_zero _)).1.trans a1
        · have := (linearCombine_objAt c' (T.getD k []) _ Val.zero (by rw [h.rowLen k hk, a1]) (h.basicNZ k hk)
            (by rw [a1]; exact h.lastZero k hk) (by rw [a1]; exact a2) (dot_zero _)).2.1
          rwa [a1] at this
        · by_cases hik : i = k
          · rw [hik]; exact linearCombine_get _ _ _
          · have e := h1 (base.getD i 0)
            rw [a3 i (by omega) hi2, h.basicCol i k hi2 hk hik, mul_zero, mul_zero, add_zero] at e
            rcases Int.mul_eq_zero.mp e with h' | h'
            · omega
            · exact h'
        · rw [(linearCombine_objAt c' (T.getD k []) _ x (by rw [h.rowLen k hk, a1]) (h.basicNZ k hk)
            (by rw [a1]; exact h.lastZero k hk) (by rw [a1]; exact a2) (hrow x hx)).2.2]
          exact a4 x hx)
  obtain ⟨k1, k2, k3, k4⟩ := key
  exact ⟨k1, k2, fun i hi => k3 i (Nat.zero_le _) hi, k4⟩

/-! ### `second_phase` -/

theorem secondPhase_unfold (fc : Chooser) (fuel : Nat) (s : LPState) (hst : s.status = .SATISFIABLE) :
    secondPhase fc fuel s =
      match computeSimplexWith (chooserOf fc s.pricing) fuel
          ⟨s.tableau, reexpress s.tableau s.base (secondPhaseCost s), s.base⟩ with
      | none => none
      | some (ok, t) =>
        some { computeGenerator (s.withTab t) with status := if ok then .OPTIMIZED else .UNBOUNDED } := by
  unfold secondPhase reexpress
  rw [hst]
  rfl

/-- a terminating `second_phase()` is a terminating simplex run from the canonical tableau whose cost row is the
    re-expressed `secondPhaseCost s`, which has the same width and denotes the same objective on the solutions -/
theorem secondPhase_run (fc : Chooser) (fuel : Nat) (s s' : LPState)
    (hst : s.status = .SATISFIABLE) (hTB : CanonTB s.tableau s.base s.working_cost.length)
    (hcl : (secondPhaseCost s).length = s.working_cost.length)
    (hcs : (secondPhaseCost s).get (s.working_cost.length - 1) ≠ 0)
    (h : secondPhase fc fuel s = some s') :
    ∃ ok t, Canon ⟨s.tableau, reexpress s.tableau s.base (secondPhaseCost s), s.base⟩ ∧
      computeSimplexWith (chooserOf fc s.pricing) fuel
        ⟨s.tableau, reexpress s.tableau s.base (secondPhaseCost s), s.base⟩ = some (ok, t) ∧
      (reexpress s.tableau s.base (secondPhaseCost s)).length = s.working_cost.length ∧
      (∀ y, Sol s.tableau y →
        objAt (reexpress s.tableau s.base (secondPhaseCost s)) y = objAt (secondPhaseCost s) y) ∧
      { computeGenerator (s.withTab t) with status := if ok then .OPTIMIZED else .UNBOUNDED } = s' := by
  rw [secondPhase_unfold fc fuel s hst] at h
  obtain ⟨r1, r2, r3, r4⟩ := reexpress_spec hTB (secondPhaseCost s) hcl hcs
  cases hrun : computeSimplexWith (chooserOf fc s.pricing) fuel
      ⟨s.tableau, reexpress s.tableau s.base (secondPhaseCost s), s.base⟩ with
  | none => rw [hrun] at h; cases h
  | some res =>
    rw [hrun] at h
    exact ⟨res.1, res.2, hTB.toCanon _ r1 r2 r3, rfl, r1, r4, Option.some.inj h⟩

/-- **`second_phase()` from ANY feasible basis, with ANY pricing rule.**  `s` holds a feasible basis
    (`CanonTB`), the cost row built for the new objective (`secondPhaseCost s`) has the tableau's width and a
    non-zero sign entry.  When the phase terminates: the status is OPTIMIZED or UNBOUNDED, the solution set is
    the same, the basis left behind is feasible again (so the next re-optimisation starts from the same
    hypotheses), and
    OPTIMIZED ⇒ `basicObj s'.working_cost` is the maximum of the objective over the non-negative solutions
    (an upper bound, attained); UNBOUNDED ⇒ the objective has no upper bound on them. -/
theorem secondPhase_sound (fc : Chooser) (hfc : ChooserOK fc) (fuel : Nat) (s s' : LPState)
    (hst : s.status = .SATISFIABLE) (hTB : CanonTB s.tableau s.base s.working_cost.length)
    (hcl : (secondPhaseCost s).length = s.working_cost.length)
    (hcs : (secondPhaseCost s).get (s.working_cost.length - 1) ≠ 0)
    (h : secondPhase fc fuel s = some s') :
    (s'.status = .OPTIMIZED ∨ s'.status = .UNBOUNDED) ∧
    s'.working_cost.length = s.working_cost.length ∧
    CanonTB s'.tableau s'.base s'.working_cost.length ∧
    (∀ y, Sol s'.tableau y ↔ Sol s.tableau y) ∧
    (s'.status = .OPTIMIZED →
      (∀ y, Sol s.tableau y → NonnegPt s.working_cost.length y → objAt (secondPhaseCost s) y ≤ basicObj s'.working_cost) ∧
      ∃ y, Sol s.tableau y ∧ NonnegPt s.working_cost.length y ∧ objAt (secondPhaseCost s) y = basicObj s'.working_cost) ∧
    (s'.status = .UNBOUNDED →
      ∀ M : Rat, ∃ y, Sol s.tableau y ∧ NonnegPt s.working_cost.length y ∧ M < objAt (secondPhaseCost s) y) := by
  obtain ⟨ok, t, hC, hrun, r1, r4, h⟩ := secondPhase_run fc fuel s s' hst hTB hcl hcs h
  obtain ⟨p1, p2, p3, p4, p5, p6⟩ :=
    pricing_choice_irrelevant _ (chooserOf_ok fc hfc s.pricing) fuel _ ok t hC hrun
  obtain ⟨-, q2, -⟩ := simplex_loop _ (chooserOf_ok fc hfc s.pricing) fuel _ ok t hC hrun
  have hlen : t.cost.length = s.working_cost.length := by rw [q2]; exact r1
  subst h
  simp only [computeGenerator, LPState.withTab]
  refine ⟨by cases ok <;> simp, hlen, p2.toTB, p1, ?_, ?_⟩
  · intro hopt
    have hok : ok = true := by
      cases ok
      · cases hopt
      · rfl
    refine ⟨fun y hy hn => ?_, ?_⟩
    · have := p4 hok y hy (by show NonnegPt (reexpress _ _ _).length y; rw [r1]; exact hn)
      rw [r4 y hy] at this; exact this
    · obtain ⟨b1, b2, b3⟩ := p5 hok
      refine ⟨_, b1, ?_, ?_⟩
      · have : NonnegPt (reexpress s.tableau s.base (secondPhaseCost s)).length (basicPt t) := b2
        rwa [r1] at this
      · rw [← r4 _ b1]; exact b3
  · intro hunb
    have hok : ok = false := by
      cases ok
      · rfl
      · cases hunb
    intro M
    obtain ⟨y, y1, y2, y3⟩ := p6 hok M
    refine ⟨y, y1, ?_, ?_⟩
    · have : NonnegPt (reexpress s.tableau s.base (secondPhaseCost s)).length y := y2
      rwa [r1] at this
    · rw [← r4 y y1]; exact y3

/-- **re-optimisation equals a fresh solve in status and value.**  Two states holding feasible bases
    of tableaux with the same columns and the same solution set (the state left by earlier solves and
    incremental steps, and the state of a fresh problem with the same constraints), whose second-phase cost
    rows denote the same objective on it: whatever the pricing rules, when both second phases terminate they
    end in the same status, and OPTIMIZED with the same value. -/
theorem secondPhase_value_eq (fc1 fc2 : Chooser) (h1 : ChooserOK fc1) (h2 : ChooserOK fc2) (f1 f2 : Nat)
    (s1 s2 r1 r2 : LPState) (hs1 : s1.status = .SATISFIABLE) (hs2 : s2.status = .SATISFIABLE)
    (hT1 : CanonTB s1.tableau s1.base s1.working_cost.length)
    (hT2 : CanonTB s2.tableau s2.base s2.working_cost.length)
    (hn : s1.working_cost.length = s2.working_cost.length)
    (hc1 : (secondPhaseCost s1).length = s1.working_cost.length ∧ (secondPhaseCost s1).get (s1.working_cost.length - 1) ≠ 0)
    (hc2 : (secondPhaseCost s2).length = s2.working_cost.length ∧ (secondPhaseCost s2).get (s2.working_cost.length - 1) ≠ 0)
    (hsol : ∀ y, Sol s1.tableau y ↔ Sol s2.tableau y)
    (hobj : ∀ y, Sol s1.tableau y → objAt (secondPhaseCost s1) y = objAt (secondPhaseCost s2) y)
    (hr1 : secondPhase fc1 f1 s1 = some r1) (hr2 : secondPhase fc2 f2 s2 = some r2) :
    r1.status = r2.status ∧ (r1.status = .OPTIMIZED → basicObj r1.working_cost = basicObj r2.working_cost) := by
  obtain ⟨a1, -, -, -, a5, a6⟩ := secondPhase_sound fc1 h1 f1 s1 r1 hs1 hT1 hc1.1 hc1.2 hr1
  obtain ⟨b1, -, -, -, b5, b6⟩ := secondPhase_sound fc2 h2 f2 s2 r2 hs2 hT2 hc2.1 hc2.2 hr2
  rcases a1 with a1 | a1 <;> rcases b1 with b1 | b1
  · refine ⟨by rw [a1, b1], fun _ => ?_⟩
    obtain ⟨u1, ⟨y1, y11, y12, y13⟩⟩ := a5 a1
    obtain ⟨u2, ⟨y2, y21, y22, y23⟩⟩ := b5 b1
    have c1 := u2 y1 ((hsol y1).mp y11) (hn ▸ y12)
    rw [← hobj y1 y11, y13] at c1
    have c2 := u1 y2 ((hsol y2).mpr y21) (hn ▸ y22)
    rw [hobj y2 ((hsol y2).mpr y21), y23] at c2
    linarith
  · exfalso
    obtain ⟨u1, -⟩ := a5 a1
    obtain ⟨y, y1, y2, y3⟩ := b6 b1 (basicObj r1.working_cost)
    have := u1 y ((hsol y).mpr y1) (hn ▸ y2)
    rw [hobj y ((hsol y).mpr y1)] at this
    linarith
  · exfalso
    obtain ⟨u2, -⟩ := b5 b1
    obtain ⟨y, y1, y2, y3⟩ := a6 a1 (basicObj r2.working_cost)
    have := u2 y ((hsol y).mp y1) (hn ▸ y2)
    rw [← hobj y y1] at this
    linarith
  · exact ⟨by rw [a1, b1], fun h => by rw [a1] at h; cases h⟩

/-! ### the status protocol -/

def Solved (st : Status) : Prop := st = .SATISFIABLE ∨ st = .UNBOUNDED ∨ st = .OPTIMIZED

/-- a "solved" status promises that nothing is pending -/
def StatusInv (s : LPState) : Prop :=
  Solved s.status → s.first_pending = s.input_cs.length ∧ s.internal_space_dim = s.external_space_dim

theorem new_statusInv (n : Nat) : StatusInv (LPState.new n) := by
  intro h; rcases h with h | h | h <;> cases h

theorem addConstraint_status (s : LPState) (c : ICon) :
    (addConstraint s c).status = (if s.status = .UNSATISFIABLE then .UNSATISFIABLE else .PARTIALLY_SATISFIABLE) ∧
    ¬ Solved (addConstraint s c).status := by
  unfold addConstraint
  by_cases h : s.status = .UNSATISFIABLE <;> simp [h, Solved]

theorem addSpaceDimensionsAndEmbed_status (s : LPState) (m : Nat) :
    (addSpaceDimensionsAndEmbed s m).status =
      (if s.status = .UNSATISFIABLE then .UNSATISFIABLE else .PARTIALLY_SATISFIABLE) ∧
    ¬ Solved (addSpaceDimensionsAndEmbed s m).status := by
  unfold addSpaceDimensionsAndEmbed
  by_cases h : s.status = .UNSATISFIABLE <;> simp [h, Solved]

theorem setObjectiveFunction_status (s : LPState) (e : LinExpr) :
    (setObjectiveFunction s e).status =
      (if s.status = .UNBOUNDED ∨ s.status = .OPTIMIZED then .SATISFIABLE else s.status) ∧
    (setObjectiveFunction s e).status ≠ .UNBOUNDED ∧ (setObjectiveFunction s e).status ≠ .OPTIMIZED ∧
    ((setObjectiveFunction s e).status = .SATISFIABLE → Solved s.status) := by
  unfold setObjectiveFunction Solved
  cases hs : s.status <;> simp

theorem setOptimizationMode_status (s : LPState) (b : Bool) :
    ((setOptimizationMode s b).status = .SATISFIABLE → Solved s.status) ∧
    (s.maximize ≠ b → (setOptimizationMode s b).status ≠ .UNBOUNDED ∧ (setOptimizationMode s b).status ≠ .OPTIMIZED) ∧
    (s.maximize = b → setOptimizationMode s b = s) := by
  unfold setOptimizationMode Solved
  by_cases hb : s.maximize = b
  · simp [hb]
    cases hs : s.status <;> simp
  · cases hs : s.status <;> simp [hb]

/-- the mutators do not touch the tableau data: a feasible basis stays one (for the processed constraints) -/
theorem mutators_keep_tableau (s : LPState) (c : ICon) (e : LinExpr) (b : Bool) (m : Nat) (p : Pricing) :
    (∀ s' ∈ [addConstraint s c, setObjectiveFunction s e, setOptimizationMode s b,
        addSpaceDimensionsAndEmbed s m, setPricing s p],
      s'.tableau = s.tableau ∧ s'.base = s.base ∧ s'.mapping = s.mapping ∧ s'.numCols = s.numCols ∧
      s'.working_cost = s.working_cost ∧ s'.first_pending = s.first_pending ∧
      s'.internal_space_dim = s.internal_space_dim) := by
  intro s' hs'
  simp only [List.mem_cons, List.not_mem_nil, or_false] at hs'
  rcases hs' with rfl | rfl | rfl | rfl | rfl
  · by_cases h : s.status = .UNSATISFIABLE <;> simp [addConstraint, h]
  · cases hs : s.status <;> simp [setObjectiveFunction, hs]
  · by_cases hb : s.maximize = b <;> cases hs : s.status <;> simp [setOptimizationMode, hs, hb]
  · by_cases h : s.status = .UNSATISFIABLE <;> simp [addSpaceDimensionsAndEmbed, h]
  · simp [setPricing]

theorem setObjectiveFunction_fields (s : LPState) (e : LinExpr) :
    (setObjectiveFunction s e).input_cs = s.input_cs ∧ (setObjectiveFunction s e).external_space_dim = s.external_space_dim ∧
    (setObjectiveFunction s e).first_pending = s.first_pending ∧
    (setObjectiveFunction s e).internal_space_dim = s.internal_space_dim := by
  cases hs : s.status <;> simp [setObjectiveFunction, hs]

theorem setOptimizationMode_fields (s : LPState) (b : Bool) :
    (setOptimizationMode s b).input_cs = s.input_cs ∧ (setOptimizationMode s b).external_space_dim = s.external_space_dim ∧
    (setOptimizationMode s b).first_pending = s.first_pending ∧
    (setOptimizationMode s b).internal_space_dim = s.internal_space_dim := by
  by_cases hb : s.maximize = b <;> cases hs : s.status <;> simp [setOptimizationMode, hs, hb]

/-- every mutator keeps the status invariant -/
theorem mutators_statusInv (s : LPState) (h : StatusInv s) (c : ICon) (e : LinExpr) (b : Bool) (m : Nat) (p : Pricing) :
    StatusInv (addConstraint s c) ∧ StatusInv (setObjectiveFunction s e) ∧ StatusInv (setOptimizationMode s b) ∧
    StatusInv (addSpaceDimensionsAndEmbed s m) ∧ StatusInv (setPricing s p) := by
  refine ⟨?_, ?_, ?_, ?_, ?_⟩
  · intro hs; exact absurd hs (addConstraint_status s c).2
  · intro hs
    have hsolved : Solved s.status := by
      obtain ⟨h1, h2, h3, h4⟩ := setObjectiveFunction_status s e
      rcases hs with hs | hs | hs
      · exact h4 hs
      · exact absurd hs h2
      · exact absurd hs h3
    have := h hsolved
    obtain ⟨f1, f2, f3, f4⟩ := setObjectiveFunction_fields s e
    rw [f1, f2, f3, f4]; exact this
  · intro hs
    by_cases hb : s.maximize = b
    · rw [(setOptimizationMode_status s b).2.2 hb] at hs ⊢; exact h hs
    · obtain ⟨h1, h2, -⟩ := setOptimizationMode_status s b
      have hsolved : Solved s.status := by
        rcases hs with hs | hs | hs
        · exact h1 hs
        · exact absurd hs (h2 hb).1
        · exact absurd hs (h2 hb).2
      have := h hsolved
      obtain ⟨f1, f2, f3, f4⟩ := setOptimizationMode_fields s b
      rw [f1, f2, f3, f4]; exact this
  · intro hs; exact absurd hs (addSpaceDimensionsAndEmbed_status s m).2
  · exact h

/-- `is_lp_satisfiable()` establishes the status invariant: after it nothing is pending, whatever the
    status; and it answers `status ≠ UNSATISFIABLE` -/
theorem isLpSatisfiable_statusInv (fc : Chooser) (fuel : Nat) (s s' : LPState) (b : Bool) (h : StatusInv s)
    (hr : isLpSatisfiable fc fuel s = some (s', b)) :
    StatusInv s' ∧ (b = true ↔ s'.status ≠ .UNSATISFIABLE) ∧
    (s.status = .PARTIALLY_SATISFIABLE →
      s'.first_pending = s'.input_cs.length ∧ s'.internal_space_dim = s'.external_space_dim) ∧
    (s.status ≠ .PARTIALLY_SATISFIABLE → s' = s) := by
  unfold isLpSatisfiable at hr
  cases hs : s.status
  case PARTIALLY_SATISFIABLE =>
    rw [hs] at hr
    simp only at hr
    split at hr
    · cases hr
    · simp only [Option.some.injEq, Prod.mk.injEq] at hr
      obtain ⟨rfl, rfl⟩ := hr
      exact ⟨fun _ => ⟨rfl, rfl⟩, by simp, fun _ => ⟨rfl, rfl⟩, fun h => absurd rfl h⟩
  all_goals
    rw [hs] at hr
    simp only [Option.some.injEq, Prod.mk.injEq] at hr
    obtain ⟨rfl, rfl⟩ := hr
    refine ⟨h, by simp [hs], (fun h => by cases h), fun _ => rfl⟩

/-- `second_phase()` (called, as the code asserts, on a solved status) keeps the invariant -/
theorem secondPhase_statusInv (fc : Chooser) (fuel : Nat) (s s' : LPState) (h : StatusInv s)
    (hsol : Solved s.status) (hr : secondPhase fc fuel s = some s') : StatusInv s' ∧ Solved s'.status := by
  unfold secondPhase at hr
  split at hr
  · simp only [Option.some.injEq] at hr; subst hr; exact ⟨h, hsol⟩
  · simp only [] at hr
    split at hr
    · cases hr
    · rename_i ok t _
      simp only [Option.some.injEq] at hr
      subst hr
      refine ⟨fun _ => ?_, ?_⟩
      · simpa [computeGenerator, LPState.withTab] using h hsol
      · unfold Solved; cases ok <;> simp

end PPLV.Solver.Pend

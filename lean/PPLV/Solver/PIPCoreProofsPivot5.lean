import PPLV.Solver.PIPCoreProofsPivot4
/-!
# pivot proofs: the first pass ("Compute columns s[*][j]") keeps the invariant
-/
namespace PPLV.PIPCore.Piv

section passS
variable {T1 : Tableau} {sp tp : Row} {spp : Int} {pj : Nat}

/-- invariant of the row loop of the first pass: the rows in `Vr` are done -/
def JS (T1 : Tableau) (sp tp : Row) (spp : Int) (pj : Nat) (Vr : Nat → Prop) (T : Tableau) : Prop :=
  ∃ f, PInv T1 sp tp spp pj (fun a b => Vr a ∧ b ≠ pj) (fun _ _ => False) T f

/-- invariant of the column loop of row `i`: moreover the columns in `V` of row `i` are done, and the
    local copy `s_i_pj` agrees with the tableau -/
def JSin (T1 : Tableau) (sp tp : Row) (spp : Int) (pj : Nat) (i : Nat) (Vr V : Nat → Prop)
    (st : Tableau × Int) : Prop :=
  st.2 = mget st.1.s i pj ∧
  ∃ f, PInv T1 sp tp spp pj (fun a b => (Vr a ∨ (a = i ∧ V b)) ∧ b ≠ pj) (fun _ _ => False) st.1 f

theorem stepS_core (hpj : pj < T1.ns) {i j : Nat} (hi : i < T1.s.length) (hj : j < T1.ns)
    (hne : j ≠ pj) {Vr V : Nat → Prop} (hVr : ¬ Vr i) (hV : ¬ V j) {T' : Tableau} {f' sipj' p : Int}
    (hI : PInv T1 sp tp spp pj (fun a b => (Vr a ∨ (a = i ∧ V b)) ∧ b ≠ pj) (fun _ _ => False) T' f')
    (hs : sipj' = mget T'.s i pj) (hp : p * spp = rget sp j * sipj') :
    JSin T1 sp tp spp pj i Vr (fun x => V x ∨ x = j)
        (if p ≠ 0 then ({ T' with s := mset T'.s i j (mget T'.s i j - p) }, sipj') else (T', sipj')) := by
  have r1 : mget T'.s i pj = f' * mget T1.s i pj :=
    hI.s_raw hi hpj (by rintro ⟨_, h⟩; exact h rfl)
  have r2 : mget T'.s i j = f' * mget T1.s i j :=
    hI.s_raw hi hj (by
      rintro ⟨h | ⟨_, h⟩, _⟩
      · exact hVr h
      · exact hV h)
  have tg : tgtS T1 sp spp pj i j = mget T1.s i j * spp - mget T1.s i pj * rget sp j := by
    unfold tgtS; rw [if_neg hne]
  have hx : (mget T'.s i j - p) * spp = f' * tgtS T1 sp spp pj i j := by
    rw [tg]; linear_combination spp * r2 - hp - (rget sp j) * (hs.trans r1)
  by_cases hp0 : p ≠ 0
  · rw [if_pos hp0]
    refine ⟨?_, f', ?_⟩
    · show sipj' = mget (mset T'.s i j _) i pj
      rw [mget_mset_ne_col _ hne]; exact hs
    · refine (hI.setS hi hj hx).monoS (fun a b _ _ h => ?_) (fun a b _ _ h hn => ?_)
      · rcases h with ⟨h | ⟨e, v⟩, hb⟩ | ⟨e, e2⟩
        · exact ⟨Or.inl h, hb⟩
        · exact ⟨Or.inr ⟨e, Or.inl v⟩, hb⟩
        · exact ⟨Or.inr ⟨e, Or.inr e2⟩, e2 ▸ hne⟩
      · exfalso; apply hn
        rcases h with ⟨h | ⟨e, v | e2⟩, hb⟩
        · exact Or.inl ⟨Or.inl h, hb⟩
        · exact Or.inl ⟨Or.inr ⟨e, v⟩, hb⟩
        · exact Or.inr ⟨e, e2⟩
  · rw [if_neg hp0]
    refine ⟨hs, f', hI.monoS (fun a b _ _ h => ?_) (fun a b _ _ h hn => ?_)⟩
    · rcases h with ⟨h | ⟨e, v⟩, hb⟩
      · exact ⟨Or.inl h, hb⟩
      · exact ⟨Or.inr ⟨e, Or.inl v⟩, hb⟩
    · have hab : a = i ∧ b = j := by
        rcases h with ⟨h | ⟨e, v | e2⟩, hb⟩
        · exact absurd ⟨Or.inl h, hb⟩ hn
        · exact absurd ⟨Or.inr ⟨e, v⟩, hb⟩ hn
        · exact ⟨e, e2⟩
      obtain ⟨rfl, rfl⟩ := hab
      rw [not_not.mp hp0, sub_zero] at hx; exact hx

theorem pivotStepS_inv (hspp : 0 < spp) (hpj : pj < T1.ns) {i : Nat} (hi : i < T1.s.length)
    {Vr : Nat → Prop} (hVr : ¬ Vr i) (V : Nat → Prop) (st : Tableau × Int) (j : Nat)
    (hj : j < T1.ns) (hV : ¬ V j) (h : JSin T1 sp tp spp pj i Vr V st) :
    JSin T1 sp tp spp pj i Vr (fun x => V x ∨ x = j) (pivotStepS sp spp pj i st j) := by
  obtain ⟨T, sipj⟩ := st
  obtain ⟨hs, f, hI⟩ := h
  change sipj = mget T.s i pj at hs
  change PInv T1 sp tp spp pj _ _ T f at hI
  rcases pivotStepS_eq hspp sp pj i T sipj j with ⟨h1, e⟩ | ⟨h1, r, p, hr, hp, e⟩
  · rw [e]
    refine ⟨hs, f, hI.monoS (fun a b _ _ h => ?_) (fun a b _ _ h hn => ?_)⟩
    · rcases h with ⟨h | ⟨e, v⟩, hb⟩
      · exact ⟨Or.inl h, hb⟩
      · exact ⟨Or.inr ⟨e, Or.inl v⟩, hb⟩
    · exfalso
      rcases h with ⟨h | ⟨e, v | e2⟩, hb⟩
      · exact hn ⟨Or.inl h, hb⟩
      · exact hn ⟨Or.inr ⟨e, v⟩, hb⟩
      · exact hb (e2.trans h1)
  · rw [e]
    exact stepS_core hpj hi hj h1 hVr hV (hI.scale hr) (by rw [mget_scale_s, hs]) hp

theorem pivotRowS_inv (hspp : 0 < spp) (hpj : pj < T1.ns) (Vr : Nat → Prop) (T : Tableau) (i : Nat)
    (hi : i < T1.s.length) (hVr : ¬ Vr i) (h : JS T1 sp tp spp pj Vr T) :
    JS T1 sp tp spp pj (fun x => Vr x ∨ x = i) (pivotRowS sp spp pj T i) := by
  obtain ⟨f, hI⟩ := h
  unfold pivotRowS
  dsimp only
  by_cases h0 : mget T.s i pj = 0
  · rw [if_pos h0]
    refine ⟨f, hI.monoS (fun a b _ _ h => ⟨Or.inl h.1, h.2⟩) (fun a b _ hb h hn => ?_)⟩
    have hab : a = i ∧ b ≠ pj := by
      rcases h with ⟨h | e, hb⟩
      · exact absurd ⟨h, hb⟩ hn
      · exact ⟨e, hb⟩
    obtain ⟨rfl, hbne⟩ := hab
    have r1 : mget T.s a pj = f * mget T1.s a pj := hI.s_raw hi hpj (fun h => h.2 rfl)
    have r2 : mget T.s a b = f * mget T1.s a b := hI.s_raw hi hb (fun h => hVr h.1)
    have z : mget T1.s a pj = 0 := by
      rw [h0] at r1
      rcases Int.mul_eq_zero.mp r1.symm with e | e
      · exact absurd e (ne_of_gt hI.f_pos)
      · exact e
    unfold tgtS; rw [if_neg hbne, r2, z]; ring
  · rw [if_neg h0]
    have init : JSin T1 sp tp spp pj i Vr (fun _ => False) (T, mget T.s i pj) := by
      refine ⟨rfl, f, hI.monoS (fun a b _ _ h => ⟨Or.inl h.1, h.2⟩) (fun a b _ _ h hn => ?_)⟩
      exfalso
      rcases h with ⟨h | ⟨_, e⟩, hb⟩
      · exact hn ⟨h, hb⟩
      · exact e
    have fin := foldl_visit (JSin T1 sp tp spp pj i Vr) (pivotStepS sp spp pj i)
      (fun j => j < T1.ns)
      (fun V st j hj hV h => pivotStepS_inv hspp hpj hi hVr V st j hj hV h)
      (List.range T.ns) (fun _ => False) (T, mget T.s i pj) List.nodup_range
      (fun b hb => ⟨by rw [hI.ns_eq] at hb; exact List.mem_range.mp hb, id⟩) init
    obtain ⟨_, f', hI'⟩ := fin
    refine ⟨f', hI'.monoS (fun a b _ _ h => ?_) (fun a b _ hb h hn => ?_)⟩
    · rcases h with ⟨h | ⟨e, _⟩, hb⟩
      · exact ⟨Or.inl h, hb⟩
      · exact ⟨Or.inr e, hb⟩
    · exfalso; apply hn
      rcases h with ⟨h | e, hbne⟩
      · exact ⟨Or.inl h, hbne⟩
      · exact ⟨Or.inr ⟨e, Or.inr (List.mem_range.mpr (by rw [hI.ns_eq]; exact hb))⟩, hbne⟩

/-- the whole first pass -/
theorem passS_inv (hspp : 0 < spp) (hpj : pj < T1.ns) (T : Tableau)
    (h : JS T1 sp tp spp pj (fun _ => False) T) :
    JS T1 sp tp spp pj (fun x => x < T1.s.length)
      ((rowsDown T1.s.length).foldl (pivotRowS sp spp pj) T) := by
  have fin := foldl_visit (JS T1 sp tp spp pj) (pivotRowS sp spp pj) (fun i => i < T1.s.length)
    (fun Vr T i hi hVr h => pivotRowS_inv hspp hpj Vr T i hi hVr h)
    (rowsDown T1.s.length) (fun _ => False) T (rowsDown_nodup _)
    (fun b hb => ⟨mem_rowsDown.mp hb, id⟩) h
  obtain ⟨f, hI⟩ := fin
  refine ⟨f, hI.monoS (fun a b ha _ h => ⟨ha, h.2⟩) (fun a b ha _ h hn => ?_)⟩
  exact absurd ⟨Or.inr (mem_rowsDown.mpr ha), h.2⟩ hn

end passS

end PPLV.PIPCore.Piv

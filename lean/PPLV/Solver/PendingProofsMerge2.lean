import PPLV.Solver.PendingProofsIncrDefs

/-!
# one `merge_split_variable` on the components of the state

Column arithmetic of `remove_column(q)` (`unshift`, `shiftDown`, `deleteAt`, `insertZero`), the effect of one
`merge_split_variable` on tableau / base / mapping as functions of the components (`mergeBase`, `mergeUnf`,
`mergeMap`), and the single-merge lemmas:

* `oldOK_step`  — structure (`OldOK`) is kept, the row whose basic variable was the removed column is reported;
* `mapS_step`, `pos0_insertZero`, `pos0_deleteAt`, `sol_erase_iff` — mapping and solutions.
-/
namespace PPLV.Solver.Pend
open PPLV.Lin PPLV.Solver PPLV.Solver.Tab

/-! ### column arithmetic -/

/-- the old column that column `j` of the tableau without column `q` was -/
def unshift (q j : Nat) : Nat := if j < q then j else j + 1

/-- the new index of the old column `b` (`b ≠ q`) -/
def shiftDown (q b : Nat) : Nat := if b > q then b - 1 else b

/-- the valuation of the shortened tableau that a valuation of the old one (0 at `q`) gives -/
def deleteAt (q : Nat) (y : Val) : Val := fun j => y (unshift q j)

theorem unshift_of_lt {q j : Nat} (h : j < q) : unshift q j = j := if_pos h

theorem unshift_of_ge {q j : Nat} (h : q ≤ j) : unshift q j = j + 1 := if_neg (Nat.not_lt.mpr h)

theorem shiftDown_of_le {q b : Nat} (h : b ≤ q) : shiftDown q b = b := if_neg (Nat.not_lt.mpr h)

theorem shiftDown_of_gt {q b : Nat} (h : q < b) : shiftDown q b = b - 1 := if_pos h

/-- `shiftDown q` is strictly monotone away from the removed column -/
theorem shiftDown_lt {q x y : Nat} (hxy : x < y) (hx : x ≠ q) : shiftDown q x < shiftDown q y := by
  unfold shiftDown; split_ifs <;> omega

theorem unshift_shiftDown (q b : Nat) (h : b ≠ q) : unshift q (shiftDown q b) = b := by
  unfold unshift shiftDown; split_ifs <;> omega

theorem shiftDown_zero (q : Nat) : shiftDown q 0 = 0 := shiftDown_of_le (Nat.zero_le q)

theorem shiftDown_eq_zero (q b : Nat) (hq : 1 ≤ q) : shiftDown q b = 0 ↔ b = 0 := by
  unfold shiftDown; split_ifs <;> omega

theorem unshift_zero (q : Nat) (hq : 1 ≤ q) : unshift q 0 = 0 := unshift_of_lt hq

theorem get_eraseIdx (r : Row) (q j : Nat) : Row.get (r.eraseIdx q) j = Row.get r (unshift q j) := by
  unfold Row.get unshift
  rw [List.getD_eq_getElem?_getD, List.getD_eq_getElem?_getD, List.getElem?_eraseIdx]
  split <;> rfl

theorem insertZero_deleteAt (q : Nat) (y : Val) (h : y q = 0) : insertZero q (deleteAt q y) = y := by
  funext j
  unfold insertZero deleteAt unshift
  by_cases h1 : j < q
  · simp [h1]
  · by_cases h2 : j = q
    · simp [h2, h]
    · have h3 : ¬ j - 1 < q := by omega
      simp only [h1, h2, h3, if_false]
      congr 1; omega

theorem insertZero_at (q : Nat) (y : Val) : insertZero q y q = 0 := by simp [insertZero]

theorem insertZero_ne (q b : Nat) (y : Val) (h : b ≠ q) : insertZero q y b = y (shiftDown q b) := by
  unfold insertZero shiftDown
  by_cases h1 : b < q
  · have : ¬ b > q := by omega
    simp [h1, this]
  · have : b > q := by omega
    simp [h1, h, this]

theorem pos0_insertZero (q nc : Nat) (y : Val) (hq1 : 1 ≤ q) (hqn : q < nc - 1) (h : Pos0 (nc - 1) y) :
    Pos0 nc (insertZero q y) := by
  obtain ⟨h0, h1, h2⟩ := h
  refine ⟨?_, fun j hj => ?_, fun j hj => ?_⟩
  · rw [insertZero_ne q 0 y (by omega), shiftDown_zero]; exact h0
  · by_cases hjq : j = q
    · rw [hjq, insertZero_at]
    · rw [insertZero_ne q j y hjq]
      apply h1; unfold shiftDown; split_ifs <;> omega
  · rw [insertZero_ne q j y (by omega)]
    apply h2; unfold shiftDown; split_ifs <;> omega

theorem pos0_deleteAt (q nc : Nat) (y : Val) (hq1 : 1 ≤ q) (hqn : q < nc - 1) (h : Pos0 nc y) :
    Pos0 (nc - 1) (deleteAt q y) := by
  obtain ⟨h0, h1, h2⟩ := h
  refine ⟨?_, fun j hj => ?_, fun j hj => ?_⟩
  · unfold deleteAt; rw [unshift_zero q hq1]; exact h0
  · unfold deleteAt; apply h1; unfold unshift; split_ifs <;> omega
  · unfold deleteAt; apply h2; rw [unshift_of_ge (by omega)]; omega

/-! ### lists -/

theorem getD_map_gen {α : Type} (l : List α) (f : α → α) (d : α) (hf : f d = d) (i : Nat) :
    (l.map f).getD i d = f (l.getD i d) := by
  rw [List.getD_eq_getElem?_getD, List.getD_eq_getElem?_getD, List.getElem?_map]
  cases l[i]? <;> simp [hf]

/-- the tableau without column `q` -/
def eraseCol (T : List Row) (q : Nat) : List Row := T.map fun r => r.eraseIdx q

theorem eraseCol_length (T : List Row) (q : Nat) : (eraseCol T q).length = T.length := by simp [eraseCol]

theorem eraseCol_getD (T : List Row) (q i : Nat) : (eraseCol T q).getD i [] = (T.getD i []).eraseIdx q := by
  unfold eraseCol
  exact getD_map_gen T (fun r => r.eraseIdx q) [] (by simp) i

theorem eraseCol_get (T : List Row) (q i j : Nat) :
    ((eraseCol T q).getD i []).get j = (T.getD i []).get (unshift q j) := by
  rw [eraseCol_getD, get_eraseIdx]

theorem sol_erase_iff (T : List Row) (q : Nat) (y : Val) : Sol (eraseCol T q) y ↔ Sol T (insertZero q y) := by
  unfold Sol
  rw [eraseCol_length]
  constructor
  · intro h i hi; have := h i hi; rwa [eraseCol_getD, rowVal_eraseIdx] at this
  · intro h i hi; rw [eraseCol_getD, rowVal_eraseIdx]; exact h i hi

/-! ### base and the reported row -/

/-- `base` after one merge removing column `q` -/
def mergeBase (base : List Nat) (q : Nat) : List Nat :=
  (match isInBase base q with
    | some bi => base.set bi 0
    | none => base).map (shiftDown q)

/-- the list of rows made unfeasible after one merge removing column `q` -/
def mergeUnf (unf : List Nat) (base : List Nat) (q : Nat) : List Nat :=
  match isInBase base q with
  | some r => unf ++ [r]
  | none => unf

theorem mergeBase_spec {T : List Row} {base : List Nat} {nc : Nat} {unf : List Nat} (q : Nat)
    (h : OldOK T base nc unf) (hq1 : 1 ≤ q) :
    (∀ i, i < T.length →
      (mergeBase base q).getD i 0 = if base.getD i 0 = q then 0 else shiftDown q (base.getD i 0)) ∧
    (mergeBase base q).length = base.length ∧
    (∀ i, i ∈ mergeUnf unf base q ↔ i ∈ unf ∨ (i < T.length ∧ base.getD i 0 = q)) ∧
    (mergeUnf unf base q).Nodup ∧
    (mergeUnf unf base q = [] →
      unf = [] ∧ mergeBase base q = base.map (shiftDown q) ∧ ∀ i, i < T.length → base.getD i 0 ≠ q) := by
  obtain ⟨s1, s2⟩ := isInBase_spec base q
  unfold mergeBase mergeUnf
  cases hb : isInBase base q with
  | none =>
    have hn := s2 hb
    rw [h.lenB] at hn
    refine ⟨fun i hi => ?_, by simp, fun i => ?_, h.unfNodup, fun hu => ⟨hu, rfl, hn⟩⟩
    · simp only
      rw [getD_map_gen base (shiftDown q) 0 (shiftDown_zero q) i, if_neg (hn i hi)]
    · simp only
      constructor
      · intro hi; exact Or.inl hi
      · rintro (hi | ⟨hi, he⟩)
        · exact hi
        · exact absurd he (hn i hi)
  | some bi =>
    obtain ⟨hbi, hbq⟩ := s1 bi hb
    have hbiT : bi < T.length := by rw [← h.lenB]; exact hbi
    have hne : base.getD bi 0 ≠ 0 := by omega
    have huniq : ∀ i, i < T.length → base.getD i 0 = q → i = bi := by
      intro i hi he
      by_contra hib
      have h1 := h.basicCol i bi hi hbiT hib (by omega)
      have h2 := h.basicNZ bi hbiT hne
      rw [he] at h1; rw [hbq] at h2
      exact h2 h1
    have hnotin : bi ∉ unf := fun hin => hne ((h.unfBase bi hbiT).mpr hin)
    refine ⟨fun i hi => ?_, by simp, fun i => ?_, ?_, fun hu => ?_⟩
    · simp only
      rw [getD_map_gen _ (shiftDown q) 0 (shiftDown_zero q) i, getD_set_of_lt base bi i 0 hbi]
      by_cases hib : i = bi
      · rw [if_pos hib, hib, hbq, if_pos rfl, shiftDown_zero]
      · rw [if_neg hib, if_neg (fun he => hib (huniq i hi he))]
    · simp only [List.mem_append, List.mem_singleton]
      constructor
      · rintro (hi | hi)
        · exact Or.inl hi
        · exact Or.inr ⟨by rw [hi]; exact hbiT, by rw [hi]; exact hbq⟩
      · rintro (hi | ⟨hi, he⟩)
        · exact Or.inl hi
        · exact Or.inr (huniq i hi he)
    · simp only
      rw [List.nodup_append]
      refine ⟨h.unfNodup, by simp, ?_⟩
      intro a ha b hb'
      simp only [List.mem_singleton] at hb'
      intro hab; rw [hab, hb'] at ha; exact hnotin ha
    · simp at hu

/-- one merge keeps the structure of the old rows -/
theorem oldOK_step {T : List Row} {base : List Nat} {nc : Nat} {unf : List Nat} (h : OldOK T base nc unf) (q : Nat)
    (hq2 : 2 ≤ q) (hqn : q < nc - 1) :
    OldOK (eraseCol T q) (mergeBase base q) (nc - 1) (mergeUnf unf base q) := by
  obtain ⟨b1, b2, b3, b4, -⟩ := mergeBase_spec q h (by omega)
  have hlen := eraseCol_length T q
  have key : ∀ i, i < T.length → (mergeBase base q).getD i 0 ≠ 0 →
      base.getD i 0 ≠ q ∧ base.getD i 0 ≠ 0 ∧ unshift q ((mergeBase base q).getD i 0) = base.getD i 0 ∧
        (mergeBase base q).getD i 0 = shiftDown q (base.getD i 0) := by
    intro i hi hne
    rw [b1 i hi] at hne ⊢
    by_cases he : base.getD i 0 = q
    · rw [if_pos he] at hne; exact absurd rfl hne
    · rw [if_neg he] at hne ⊢
      refine ⟨he, ?_, unshift_shiftDown q _ he, rfl⟩
      intro h0; rw [h0, shiftDown_zero] at hne; exact hne rfl
  refine ⟨by rw [b2, h.lenB, hlen], by omega, ?_, ?_, ?_, b4, ?_, ?_, ?_, ?_, ?_⟩
  · intro i hi
    rw [hlen] at hi
    rw [eraseCol_getD, List.length_eraseIdx, if_pos (by rw [h.rowLen i hi]; omega), h.rowLen i hi]
  · intro i hi
    rw [hlen] at hi
    rw [eraseCol_get]
    have : unshift q (nc - 1 - 1) = nc - 1 := by rw [unshift_of_ge (by omega)]; omega
    rw [this]; exact h.lastZero i hi
  · intro r hr
    rw [hlen]
    rcases (b3 r).mp hr with hr | ⟨hr, -⟩
    · exact h.unfLt r hr
    · exact hr
  · intro i hi
    rw [hlen] at hi
    rw [b1 i hi, b3 i]
    by_cases he : base.getD i 0 = q
    · rw [if_pos he]; exact ⟨fun _ => Or.inr ⟨hi, he⟩, fun _ => rfl⟩
    · rw [if_neg he, shiftDown_eq_zero q _ (by omega), h.unfBase i hi]
      constructor
      · intro hh; exact Or.inl hh
      · rintro (hh | ⟨-, hh⟩)
        · exact hh
        · exact absurd hh he
  · intro i hi hne
    rw [hlen] at hi
    obtain ⟨k1, k2, -, k4⟩ := key i hi hne
    have := h.baseRange i hi k2
    rw [k4]; unfold shiftDown; split_ifs <;> omega
  · intro i hi hne
    rw [hlen] at hi
    obtain ⟨-, k2, k3, -⟩ := key i hi hne
    rw [eraseCol_get, k3]; exact h.basicNZ i hi k2
  · intro i j hi hj hij hne
    rw [hlen] at hi hj
    obtain ⟨-, k2, k3, -⟩ := key i hi hne
    rw [eraseCol_get, k3]; exact h.basicCol i j hi hj hij k2
  · intro i hi hne
    rw [hlen] at hi
    obtain ⟨-, k2, k3, -⟩ := key i hi hne
    rw [eraseCol_get, eraseCol_get, k3, unshift_zero q (by omega)]; exact h.feas i hi k2

/-! ### the mapping -/

/-- the mapping facts the merge loop keeps (`MapOK` without the list of sign flags, columns before the last one) -/
structure MapS (M : List (Nat × Nat)) (n nc : Nat) : Prop where
  len : M.length = n + 1
  zero : M.getD 0 (0, 0) = (0, 0)
  cols : ∀ u, u < n → 1 ≤ (M.getD (u+1) (0, 0)).1 ∧
    ((M.getD (u+1) (0, 0)).2 = 0 ∨ (M.getD (u+1) (0, 0)).2 = (M.getD (u+1) (0, 0)).1 + 1) ∧
    hiCol (M.getD (u+1) (0, 0)) < nc - 1
  ord : ∀ u u', u < u' → u' < n → hiCol (M.getD (u+1) (0, 0)) < (M.getD (u'+1) (0, 0)).1

theorem MapS.ofMapOK {M : List (Nat × Nat)} {nn : List Bool} {n j nc : Nat} (h : MapOK M nn n j)
    (hj : 1 + j ≤ nc - 1) : MapS M n nc :=
  ⟨h.len, h.zero, fun u hu => ⟨(h.cols u hu).1, (h.cols u hu).2.1, by have := (h.cols u hu).2.2.2; omega⟩, h.ord⟩

theorem MapS.toMapOK {M : List (Nat × Nat)} {n nc : Nat} (h : MapS M n nc) (hnc : 2 ≤ nc) :
    ∃ nn j, MapOK M nn n j ∧ 1 + j ≤ nc - 1 := by
  refine ⟨(List.range n).map (fun u => decide ((M.getD (u+1) (0, 0)).2 = 0)), nc - 2,
    ⟨h.len, h.zero, fun u hu => ⟨(h.cols u hu).1, (h.cols u hu).2.1, ?_, by have := (h.cols u hu).2.2; omega⟩,
      h.ord⟩, by omega⟩
  have e : ((List.range n).map (fun u => decide ((M.getD (u+1) (0, 0)).2 = 0))).getD u false =
      decide ((M.getD (u+1) (0, 0)).2 = 0) := by
    rw [List.getD_eq_getElem?_getD, List.getElem?_map, List.getElem?_range hu]; rfl
  rw [e]; simp

def shiftPair (q : Nat) (m : Nat × Nat) : Nat × Nat := (shiftDown q m.1, shiftDown q m.2)

/-- `mapping` after merging variable `v` -/
def mergeMap (M : List (Nat × Nat)) (v : Nat) : List (Nat × Nat) :=
  (M.set (1 + v) ((M.getD (1 + v) (0, 0)).1, 0)).map (shiftPair (M.getD (1 + v) (0, 0)).2)

theorem mergeMap_length (M : List (Nat × Nat)) (v : Nat) : (mergeMap M v).length = M.length := by
  simp [mergeMap]

theorem mergeMap_getD (M : List (Nat × Nat)) (v k : Nat) (hv : v + 1 < M.length) :
    (mergeMap M v).getD k (0, 0) = shiftPair (M.getD (v+1) (0, 0)).2
      (if k = v + 1 then ((M.getD (v+1) (0, 0)).1, 0) else M.getD k (0, 0)) := by
  unfold mergeMap
  rw [Nat.add_comm 1 v]
  rw [getD_map_gen _ _ (0, 0) (by simp [shiftPair, shiftDown_zero]) k, getD_set_of_lt M (v+1) k _ hv]

/-- the columns of the other variables lie strictly on one side of the pair `(q-1, q)` -/
theorem MapS.others {M : List (Nat × Nat)} {n nc : Nat} (h : MapS M n nc) (v : Nat) (hv : v < n)
    (hq : (M.getD (v+1) (0, 0)).2 ≠ 0) :
    (M.getD (v+1) (0, 0)).2 = (M.getD (v+1) (0, 0)).1 + 1 ∧ 1 ≤ (M.getD (v+1) (0, 0)).1 ∧
    (M.getD (v+1) (0, 0)).2 < nc - 1 ∧
    ∀ u, u < n → u ≠ v →
      (u < v ∧ hiCol (M.getD (u+1) (0, 0)) < (M.getD (v+1) (0, 0)).1) ∨
      (v < u ∧ (M.getD (v+1) (0, 0)).2 < (M.getD (u+1) (0, 0)).1) := by
  obtain ⟨c1, c2, c3⟩ := h.cols v hv
  have hhi : hiCol (M.getD (v+1) (0, 0)) = (M.getD (v+1) (0, 0)).2 := by unfold hiCol; rw [if_neg hq]
  rw [hhi] at c3
  refine ⟨by omega, c1, c3, fun u hu huv => ?_⟩
  rcases Nat.lt_or_gt_of_ne huv with hlt | hgt
  · exact Or.inl ⟨hlt, h.ord u v hlt hv⟩
  · have := h.ord v u hgt hu
    rw [hhi] at this
    exact Or.inr ⟨hgt, this⟩

theorem hiCol_shiftPair {q : Nat} (hq : 1 ≤ q) (m : Nat × Nat) :
    hiCol (shiftPair q m) = shiftDown q (hiCol m) := by
  unfold hiCol shiftPair
  by_cases h : m.2 = 0
  · rw [if_pos ((shiftDown_eq_zero q _ hq).mpr h), if_pos h]
  · rw [if_neg fun h0 => h ((shiftDown_eq_zero q _ hq).mp h0), if_neg h]

theorem le_hiCol {m : Nat × Nat} (h : m.2 = 0 ∨ m.2 = m.1 + 1) : m.1 ≤ hiCol m ∧ m.2 ≤ hiCol m := by
  unfold hiCol; split_ifs <;> omega

theorem mergeMap_getD_self {M : List (Nat × Nat)} {n nc : Nat} (h : MapS M n nc) (v : Nat) (hv : v < n)
    (hq : (M.getD (v+1) (0, 0)).2 ≠ 0) :
    (mergeMap M v).getD (v+1) (0, 0) = ((M.getD (v+1) (0, 0)).1, 0) := by
  obtain ⟨o1, o2, -, -⟩ := h.others v hv hq
  rw [mergeMap_getD M v _ (by rw [h.len]; omega), if_pos rfl]
  unfold shiftPair
  rw [shiftDown_of_le (by omega), shiftDown_zero]

theorem mergeMap_getD_other {M : List (Nat × Nat)} {n nc : Nat} (h : MapS M n nc) (v : Nat) (hv : v < n)
    (u : Nat) (hu : u ≠ v) :
    (mergeMap M v).getD (u+1) (0, 0) = shiftPair (M.getD (v+1) (0, 0)).2 (M.getD (u+1) (0, 0)) := by
  rw [mergeMap_getD M v _ (by rw [h.len]; omega), if_neg (by omega)]

/-- the columns of another variable are not the removed one -/
theorem MapS.other_ne {M : List (Nat × Nat)} {n nc : Nat} (h : MapS M n nc) (v : Nat) (hv : v < n)
    (hq : (M.getD (v+1) (0, 0)).2 ≠ 0) (u : Nat) (hu : u < n) (huv : u ≠ v) :
    (M.getD (u+1) (0, 0)).1 ≠ (M.getD (v+1) (0, 0)).2 ∧ (M.getD (u+1) (0, 0)).2 ≠ (M.getD (v+1) (0, 0)).2 ∧
      hiCol (M.getD (u+1) (0, 0)) ≠ (M.getD (v+1) (0, 0)).2 := by
  obtain ⟨o1, -, -, o4⟩ := h.others v hv hq
  have c := (h.cols u hu).2.1
  have hl := le_hiCol c
  rcases o4 u hu huv with ⟨-, o⟩ | ⟨-, o⟩
  · omega
  · omega

/-- one merge keeps the mapping facts: the pairs below the merged pair `(q - 1, q)` stay, those above move down by
    one column, and `shiftDown q` keeps their order -/
theorem mapS_step {M : List (Nat × Nat)} {n nc : Nat} (h : MapS M n nc) (v : Nat) (hv : v < n)
    (hq : (M.getD (v+1) (0, 0)).2 ≠ 0) :
    MapS (mergeMap M v) n (nc - 1) ∧ ((mergeMap M v).getD (v+1) (0, 0)).2 = 0 ∧
    ∀ u, u < n → u ≠ v → (((mergeMap M v).getD (u+1) (0, 0)).2 = 0 ↔ (M.getD (u+1) (0, 0)).2 = 0) := by
  obtain ⟨o1, o2, o3, o4⟩ := h.others v hv hq
  have hq1 : 1 ≤ (M.getD (v+1) (0, 0)).2 := by omega
  have hgv := mergeMap_getD_self h v hv hq
  have hgu := mergeMap_getD_other h v hv
  refine ⟨⟨by rw [mergeMap_length, h.len], ?_, fun u hu => ?_, fun u u' huu hu' => ?_⟩, by rw [hgv],
    fun u hu huv => ?_⟩
  · rw [mergeMap_getD M v 0 (by rw [h.len]; omega), if_neg (by omega), h.zero]
    unfold shiftPair; rw [shiftDown_zero]
  · by_cases huv : u = v
    · subst huv
      rw [hgv]; refine ⟨o2, Or.inl rfl, ?_⟩; unfold hiCol; simp only [if_true]; omega
    · obtain ⟨c1, c2, c3⟩ := h.cols u hu
      have hl := le_hiCol c2
      rw [hgu u huv, hiCol_shiftPair hq1]
      unfold shiftPair
      rcases o4 u hu huv with ⟨-, o⟩ | ⟨-, o⟩
      · rw [shiftDown_of_le (by omega), shiftDown_of_le (by omega), shiftDown_of_le (by omega)]
        exact ⟨c1, c2, by omega⟩
      · rw [shiftDown_of_gt o, shiftDown_of_gt (b := hiCol _) (by omega)]
        refine ⟨by omega, ?_, by omega⟩
        rcases c2 with c2 | c2
        · rw [c2, shiftDown_zero]; exact Or.inl rfl
        · rw [c2, shiftDown_of_gt (by omega)]; exact Or.inr (by omega)
  · have hord := h.ord u u' huu hu'
    by_cases huv : u = v
    · subst huv
      rw [hgv, hgu u' (by omega)]
      rcases o4 u' hu' (by omega) with ⟨o, -⟩ | ⟨-, o⟩
      · omega
      · unfold hiCol shiftPair; simp only [if_true]; rw [shiftDown_of_gt o]; omega
    · rw [hgu u huv, hiCol_shiftPair hq1]
      by_cases hu'v : u' = v
      · subst hu'v
        rw [hgv, shiftDown_of_le (by omega)]; exact hord
      · rw [hgu u' hu'v]
        exact shiftDown_lt hord (h.other_ne v hv hq u (by omega) huv).2.2
  · rw [hgu u huv]
    exact shiftDown_eq_zero _ _ hq1

end PPLV.Solver.Pend

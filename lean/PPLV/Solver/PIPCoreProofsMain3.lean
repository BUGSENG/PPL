import PPLV.Solver.PIPCoreProofsMain2
/-!
# end-to-end: tautology, split, exit, cuts; the induction over the fuel
-/
namespace PPLV.PIPCore

/-! ### the tautology step (PIP_Tree.cc:3134-3158) -/

theorem inv_taut {cc : Mat → Option Bool} {S : List Int → Prop} {n0 : Nat} {nd : SolNode} {ctx : Mat}
    (h : Inv' S n0 nd ctx) {sg : List RowSign} {fs : Firsts}
    (hs : signAnalysis cc nd ctx = some (sg, fs)) (h1 : Inv' S n0 { nd with sign := sg } ctx)
    {i : Nat} (hm : signGet sg i = .mixed) :
    Inv' S n0 { nd with cons := addConstraint nd.cons (integralSimplification (mrow nd.tab.t i)),
                        sign := sg.set i .positive }
      (ctx ++ [integralSimplification (mrow nd.tab.t i)]) := by
  have hi : i < nd.tab.t.length := by
    have := signGet_mixed_lt hm
    rw [signAnalysis_length hs, h.wf.sign_len, h.wf.rows_eq] at this
    exact this
  have hnt0 : 0 < nd.tab.nt := by have := h.nt_eq; have := h.n0_pos; omega
  exact
  { h with
    wf := wf_congr (nd := nd) rfl rfl rfl rfl rfl
      (by show (sg.set i .positive).length = _; rw [List.length_set]; exact signAnalysis_length hs) h.wf
    lex := lexpos_of_same_tableau nd _ rfl rfl rfl h.lex
    ctx_len := by
      intro r hr
      rcases List.mem_append.mp hr with hr | hr
      · exact h.ctx_len r hr
      · rw [List.mem_singleton.mp hr]
        -- the length of the simplified row does not depend on the valuation: use any ParamVec
        rw [integralSimplification_length]
        exact Node.t_row_length h.wf hi
    cons_len := by
      intro r hr
      unfold addConstraint at hr
      rcases List.mem_append.mp hr with hr | hr
      · exact h.cons_len r hr
      · rw [List.mem_singleton.mp hr, rowNormalizeAll_length, integralSimplification_length]
        exact Nat.le_of_eq (Node.t_row_length h.wf hi)
    rel := by
      intro qpre hq hc
      have hc' : consHold (nd.cons ++ [rowNormalizeAll (integralSimplification (mrow nd.tab.t i))])
          (extendArts nd.arts qpre) = true := hc
      rw [consHold_append, Bool.and_eq_true] at hc'
      rw [ctxSat_append_iff]
      refine ⟨h.rel qpre hq hc'.1, ?_⟩
      have : 0 ≤ dot (rowNormalizeAll (integralSimplification (mrow nd.tab.t i))) (extendArts nd.arts qpre) := by
        have := hc'.2
        unfold consHold at this
        simpa using this
      exact (rowNormalizeAll_sign _ _).mp this
    sgn := by
      intro qpre hq hc
      have hc' : consHold (nd.cons ++ [rowNormalizeAll (integralSimplification (mrow nd.tab.t i))])
          (extendArts nd.arts qpre) = true := hc
      rw [consHold_append, Bool.and_eq_true] at hc'
      have hrow : 0 ≤ dot (integralSimplification (mrow nd.tab.t i)) (extendArts nd.arts qpre) := by
        have := hc'.2
        unfold consHold at this
        exact (rowNormalizeAll_sign _ _).mp (by simpa using this)
      exact tautology_signAt h.wf hs hm hi (h.pvq qpre hq) (h1.sgn qpre hq hc'.1) hrow
    int := fun qpre hq => intInv_congr rfl rfl rfl rfl (h.int qpre hq) }

/-! ### the children of a split (PIP_Tree.cc:3184-3238) -/

/-- the valuations a child is responsible for: extensions of the parent's, where the parent's own
    constraints hold and the test has the sign of the branch -/
def ChildSet (S : List Int → Prop) (nd : SolNode) (test : Row) : List Int → Prop :=
  fun qc => ∃ qpre, S qpre ∧ qc = extendArts nd.arts qpre ∧ consHold nd.cons qc = true ∧ 0 ≤ dot test qc

theorem inv_child {S : List Int → Prop} {n0 : Nat} {nd : SolNode} {ctx : Mat} (h : Inv' S n0 nd ctx)
    {test : Row} (htl : test.length = nd.tab.nt) :
    Inv' (ChildSet S nd test) nd.tab.nt { nd with arts := [], cons := [] } (ctx ++ [test]) where
  wf := wf_congr (nd := nd) rfl rfl rfl rfl rfl rfl h.wf
  lex := lexpos_of_same_tableau nd _ rfl rfl rfl h.lex
  big := h.big
  arts := by intro j hj; simp at hj
  nt_eq := by simp
  n0_pos := by have := h.nt_eq; have := h.n0_pos; omega
  ctx_len := by
    intro r hr
    rcases List.mem_append.mp hr with hr | hr
    · exact h.ctx_len r hr
    · rw [List.mem_singleton.mp hr]; exact htl
  cons_len := by intro r hr; simp at hr
  pv := by
    rintro qc ⟨qpre, hq, rfl, _, _⟩
    exact h.pvq qpre hq
  pvq := by
    rintro qc ⟨qpre, hq, rfl, _, _⟩
    exact h.pvq qpre hq
  rel := by
    rintro qc ⟨qpre, hq, rfl, hc, ht⟩ _
    show CtxSat (ctx ++ [test]) (extendArts nd.arts qpre)
    rw [ctxSat_append_iff]
    exact ⟨h.rel qpre hq hc, ht⟩
  sgn := by
    rintro qc ⟨qpre, hq, rfl, hc, _⟩ _
    exact signAt_congr (nd := nd) rfl rfl (h.sgn qpre hq hc)
  int := by
    rintro qc ⟨qpre, hq, rfl, _, _⟩
    exact intInv_congr rfl rfl rfl rfl (h.int qpre hq)

/-! ### the exit "solution found" (PIP_Tree.cc:3380-3415) -/

theorem final_step (F : StepFacts) {cc : Mat → Option Bool} {S : List Int → Prop} {n0 : Nat}
    {nd : SolNode} {ctx : Mat} (h : Inv' S n0 nd ctx) {sg : List RowSign} {fs : Firsts}
    (hs : signAnalysis cc nd ctx = some (sg, fs)) (h1 : Inv' S n0 { nd with sign := sg } ctx)
    (hneg : fs.neg = none) (hmix : fs.mix = none)
    (hint : solutionIntegral { nd with sign := sg, tab := nd.tab.normalize } = true)
    {qpre : List Int} (hq : S qpre) {x : List Int}
    (hx : evalRes (some (.sol { nd with sign := sg, tab := nd.tab.normalize })) qpre = some x) :
    IsLexMin nd (extendArts nd.arts qpre) x := by
  -- unfold the evaluation of the solution node
  have hx' : (if consHold nd.cons (extendArts nd.arts qpre) then
      some (SolNode.point { nd with sign := sg, tab := nd.tab.normalize } (extendArts nd.arts qpre)) else none)
      = some x := hx
  by_cases hc : consHold nd.cons (extendArts nd.arts qpre) = true
  · rw [if_pos hc] at hx'
    injection hx' with hx'
    subst hx'
    have hwf1 : WF { nd with sign := sg } := h1.wf
    have hwfn : WF { nd with sign := sg, tab := nd.tab.normalize } := normalize_wf hwf1
    have hpz := signAnalysis_all_nonneg (by rw [h.wf.sign_len, h.wf.rows_eq]) hs hneg hmix
    have hfin := final_node_correct (nd := { nd with sign := sg, tab := nd.tab.normalize })
      (q := extendArts nd.arts qpre) hwfn (normalize_lexpos _ h1.wf.den_pos h1.lex)
      (by rw [show ({ nd with sign := sg, tab := nd.tab.normalize } : SolNode).tab.nt = nd.tab.nt from
            (normalize_shape nd.tab).2.2.2]; exact h.pvq qpre hq)
      ((signAt_normalize hwf1).mpr (h1.sgn qpre hq hc))
      (by
        intro k hk
        rw [show ({ nd with sign := sg, tab := nd.tab.normalize } : SolNode).tab.t.length = nd.tab.t.length from
          (normalize_shape nd.tab).2.1] at hk
        exact hpz k hk)
      hint (F.normalize_intinv hwf1 (h1.int qpre hq))
    -- back from the normalised node to `nd`
    have hns : ({ nd with sign := sg, tab := nd.tab.normalize } : SolNode).tab.ns = nd.tab.ns :=
      (normalize_shape nd.tab).2.2.1
    refine isLexMin_of_feasible_iff hns (fun v => ?_) hfin
    have hts := normalize_tabsat hwf1 v (extendArts nd.arts qpre)
    unfold Feasible
    rw [hts]
    exact Iff.rfl
  · rw [if_neg hc] at hx'
    exact absurd hx' (by simp)

end PPLV.PIPCore

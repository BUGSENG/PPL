import PPLV.Solver.PendingProofsIncrDefs

/-!
# `parse_constraints` in an incremental call without new space dimensions

Facts about `parseConstraints s` for a state with `internal_space_dim = external_space_dim = n`,
`mapping.length = n + 1`:

* `nn0_spec`            — the initial "known non-negative" list marks exactly the unsplit variables;
* `parse_spec2`         — `is_remergeable_variable`: set only on a split variable that a pending class-7 constraint
                          bounds; every pending class-7 variable is known non-negative, re-mergeable, or forced by a
                          pending class 4/5/6 constraint;
* `isSatisfied_sem`     — `is_satisfied` in rational terms;
* `flags_at_recomputed` — `last_generator` recomputed by `compute_generator` is the projected basic solution, hence
                          a flagged constraint holds at the projected basic solution.
-/
namespace PPLV.Solver.Pend
open PPLV.Lin PPLV.Solver PPLV.Solver.Tab

/-- the list of the variables known to be non-negative at the start of `parse_constraints` (:546–:555) -/
def nn0Of (s : LPState) : List Bool :=
  if s.mapping.length > 0 then
    revFold (min (s.mapping.length - 1) s.external_space_dim)
      (fun i (l : List Bool) => if (s.mapping.getD (i+1) (0, 0)).2 == 0 then l.set i true else l)
      (List.replicate s.external_space_dim false)
  else List.replicate s.external_space_dim false

/-- (1) the initial list marks exactly the unsplit variables -/
theorem nn0_spec (s : LPState) (hm : s.mapping.length = s.external_space_dim + 1) :
    (nn0Of s).length = s.external_space_dim ∧
    ∀ v, (nn0Of s).getD v false = true ↔ (v < s.external_space_dim ∧ (s.mapping.getD (v+1) (0, 0)).2 = 0) := by
  unfold nn0Of
  have h0 : s.mapping.length > 0 := by omega
  rw [if_pos h0]
  have hmin : min (s.mapping.length - 1) s.external_space_dim = s.external_space_dim := by omega
  rw [hmin]
  have key := revFold_inv
    (fun (k : Nat) (l : List Bool) => l.length = s.external_space_dim ∧
      ∀ v, l.getD v false = true ↔ (k ≤ v ∧ v < s.external_space_dim ∧ (s.mapping.getD (v+1) (0, 0)).2 = 0))
    (fun i (l : List Bool) => if (s.mapping.getD (i+1) (0, 0)).2 == 0 then l.set i true else l)
    s.external_space_dim (List.replicate s.external_space_dim false)
    ⟨by simp, fun v => by
      rw [getD_replicate_false]
      constructor
      · intro h; cases h
      · rintro ⟨h1, h2, -⟩; omega⟩
    (by
      intro i hi l ⟨l1, l2⟩
      by_cases hb : (s.mapping.getD (i+1) (0, 0)).2 = 0
      · have hb' : ((s.mapping.getD (i+1) (0, 0)).2 == 0) = true := by rw [hb]; rfl
        simp only [hb', if_true]
        refine ⟨by rw [List.length_set]; exact l1, fun v => ?_⟩
        rw [nonneg_set_iff, l2 v, l1]
        constructor
        · rintro (⟨a1, a2, a3⟩ | ⟨a1, a2⟩)
          · exact ⟨by omega, a2, a3⟩
          · subst a1; exact ⟨le_refl _, a2, hb⟩
        · rintro ⟨a1, a2, a3⟩
          by_cases hv : v = i
          · exact Or.inr ⟨hv, hi⟩
          · exact Or.inl ⟨by omega, a2, a3⟩
      · have hb' : ((s.mapping.getD (i+1) (0, 0)).2 == 0) = false := by simpa using hb
        simp only [hb', Bool.false_eq_true, if_false]
        refine ⟨l1, fun v => ?_⟩
        rw [l2 v]
        constructor
        · rintro ⟨a1, a2, a3⟩; exact ⟨by omega, a2, a3⟩
        · rintro ⟨a1, a2, a3⟩
          by_cases hv : v = i
          · subst hv; exact absurd a3 hb
          · exact ⟨by omega, a2, a3⟩)
  exact ⟨key.1, fun v => by rw [key.2 v]; constructor
                            · rintro ⟨-, a2, a3⟩; exact ⟨a2, a3⟩
                            · rintro ⟨a2, a3⟩; exact ⟨Nat.zero_le _, a2, a3⟩⟩

/-! ### (2) the re-mergeable variables -/

/-- the loop invariant of `parse_constraints` for `is_remergeable_variable`, in a state whose mapping covers the `R`
    variables of `nn0` -/
theorem parse_remerge (s : LPState) (hm : s.mapping.length = s.external_space_dim + 1)
    (hint : s.internal_space_dim = s.external_space_dim) :
    ParseOut (s.input_cs.drop s.first_pending) (fun i a =>
      a.isRemerge.length = s.internal_space_dim ∧
      a.isNonneg.length = (nn0Of s).length ∧
      (∀ v, (nn0Of s).getD v false = true → a.isNonneg.getD v false = true) ∧
      (∀ v, a.isRemerge.getD v false = true → v < s.internal_space_dim ∧ (nn0Of s).getD v false = false ∧
        ∃ c ∈ (s.input_cs.drop s.first_pending).drop i, (classify c).1 = .m7 ∧ (classify c).2 = v) ∧
      (∀ v, a.isNonneg.getD v false = true → (nn0Of s).getD v false = true ∨ a.isRemerge.getD v false = true ∨
        ∃ c ∈ (s.input_cs.drop s.first_pending).drop i,
          ((classify c).1 = .m45 ∨ (classify c).1 = .m6) ∧ (classify c).2 = v)) 0 (parseConstraints s) := by
  have hlen := (nn0_spec s hm).1
  unfold parseConstraints
  simp only
  apply parse_walk
  · refine ⟨by simp, rfl, fun v hv => hv, fun v hv => ?_, fun v hv => Or.inl hv⟩
    simp only at hv
    rw [getD_replicate_false] at hv; cases hv
  · intro i a cls v hi hdrop hcl hf ⟨h1, h2, h3, h4, h5⟩ a' ha'
    obtain ⟨a'', ha'', -, -, -, t4, t5, r1, r2, -⟩ := parseStep_some s _ i a cls v hcl hf
    rw [ha'] at ha''
    cases ha''
    have hmem : (s.input_cs.drop s.first_pending).getD i default ∈ (s.input_cs.drop s.first_pending).drop i := by
      rw [hdrop]; exact List.mem_cons_self
    have hlift : ∀ c, c ∈ (s.input_cs.drop s.first_pending).drop (i+1) →
        c ∈ (s.input_cs.drop s.first_pending).drop i := fun c hc => by
      rw [hdrop]; exact List.mem_cons_of_mem _ hc
    refine ⟨by rw [r1, h1], by rw [t4, h2], fun u hu => (t5 u).mpr (Or.inl (h3 u hu)), fun u hu => ?_,
      fun u hu => ?_⟩
    · rcases (r2 u).mp hu with hu' | ⟨hc7, huv, hnn, -, hlt⟩
      · obtain ⟨b1, b2, c, hc, b3⟩ := h4 u hu'
        exact ⟨b1, b2, c, hlift c hc, b3⟩
      · subst huv
        refine ⟨by omega, ?_, _, hmem, by rw [hcl]; exact hc7, by rw [hcl]⟩
        cases hb : (nn0Of s).getD u false with
        | false => rfl
        | true => rw [h3 u hb] at hnn; cases hnn
    · by_cases hau : a.isNonneg.getD u false = true
      · rcases h5 u hau with b | b | ⟨c, hc, b⟩
        · exact Or.inl b
        · exact Or.inr (Or.inl ((r2 u).mpr (Or.inl b)))
        · exact Or.inr (Or.inr ⟨c, hlift c hc, b⟩)
      · have hau' : a.isNonneg.getD u false = false := by simpa using hau
        rcases (t5 u).mp hu with b | ⟨hfn, huv, hlt⟩
        · exact absurd b hau
        · subst huv
          cases cls <;> simp only [forcesNonneg] at hfn <;> try cases hfn
          · exact Or.inr (Or.inr ⟨_, hmem, by rw [hcl]; exact Or.inl rfl, by rw [hcl]⟩)
          · exact Or.inr (Or.inr ⟨_, hmem, by rw [hcl]; exact Or.inr rfl, by rw [hcl]⟩)
          · exact Or.inr (Or.inl ((r2 u).mpr (Or.inr ⟨rfl, rfl, hau', by omega, by omega⟩)))

/-- (2) **the re-mergeable variables computed by `parse_constraints`** in an incremental call without new space
    dimensions -/
theorem parse_spec2 (s : LPState) (p : Parsed) (hm : s.mapping.length = s.external_space_dim + 1)
    (hint : s.internal_space_dim = s.external_space_dim) (h : parseConstraints s = some p) :
    p.isRemerge.length = s.internal_space_dim ∧
    (∀ v, p.isRemerge.getD v false = true → v < s.external_space_dim ∧ (nn0Of s).getD v false = false ∧
      ∃ c ∈ s.input_cs.drop s.first_pending, (classify c).1 = .m7 ∧ (classify c).2 = v) ∧
    (∀ c ∈ s.input_cs.drop s.first_pending, (classify c).1 = .m7 → (classify c).2 < s.external_space_dim →
      (nn0Of s).getD (classify c).2 false = true ∨ p.isRemerge.getD (classify c).2 false = true ∨
      ∃ c' ∈ s.input_cs.drop s.first_pending,
        ((classify c').1 = .m45 ∨ (classify c').1 = .m6) ∧ (classify c').2 = (classify c).2) := by
  have hlen := (nn0_spec s hm).1
  have i2 := parse_remerge s hm hint
  have i1 := parse_spec s (nn0Of s) rfl
  rw [h] at i1 i2
  obtain ⟨-, -, -, -, -, -, g7⟩ := i1
  obtain ⟨k1, -, -, k4, k5⟩ := i2
  rw [List.drop_zero] at g7 k4 k5
  refine ⟨k1, fun v hv => ?_, fun c hc hc7 hlt => ?_⟩
  · obtain ⟨b1, b2, b3⟩ := k4 v hv
    exact ⟨by omega, b2, b3⟩
  · exact k5 _ (g7 c hc hc7 (by rw [hlen]; exact hlt))

/-! ### (3) `is_satisfied` in rational terms -/

theorem spsum (n : Nat) : ∀ (c : List Int) (g : Nat → Int) (a : Int) (d : Rat), d ≠ 0 →
    (((((List.range n).map fun i => c.getD i 0 * g i).foldl (· + ·) a : Int)) : Rat) =
      (a : Rat) + d * dot (c.take n) (fun i => ((g i : Int) : Rat) / d) := by
  induction n with
  | zero => intro c g a d _; simp
  | succ n ih =>
    intro c g a d hd
    rw [List.range_succ_eq_map, List.map_cons, List.map_map, List.foldl_cons]
    cases c with
    | nil =>
      have hfun : ((fun i => ([] : List Int).getD i 0 * g i) ∘ Nat.succ) =
          fun i => ([] : List Int).getD i 0 * g (i+1) := by funext i; simp
      rw [hfun, ih [] (fun i => g (i+1)) _ d hd]
      simp
    | cons x c' =>
      have hfun : ((fun i => (x :: c').getD i 0 * g i) ∘ Nat.succ) =
          fun i => c'.getD i 0 * g (i+1) := by funext i; simp
      rw [hfun, ih c' (fun i => g (i+1)) _ d hd, List.take_succ_cons, dot_cons]
      have htail : Val.tail (fun i => ((g i : Int) : Rat) / d) = fun i => ((g (i+1) : Int) : Rat) / d := rfl
      rw [htail]
      have e : d * ((x : Rat) * (((g 0 : Int) : Rat) / d)) = (x : Rat) * ((g 0 : Int) : Rat) := by field_simp
      simp only [List.getD_cons_zero]
      rw [mul_add, e]
      push_cast
      ring

theorem isSatisfied_sem (c : ICon) (g : Pt) (h : isSatisfied c g = true) (hd : 0 < g.den) :
    0 ≤ dot c.coeffs g.val + (c.k : Rat) := by
  have hsp : 0 ≤ spSign c g := by
    unfold isSatisfied at h
    split at h
    · have : spSign c g = 0 := by simpa using h
      omega
    · simpa using h
  unfold spSign at hsp
  simp only at hsp
  have hdq : (g.den : Rat) ≠ 0 := by exact_mod_cast (ne_of_gt hd)
  have key := spsum (max c.coeffs.length g.num.length) c.coeffs (fun i => g.num.getD i 0) (c.k * g.den)
    (g.den : Rat) hdq
  rw [List.take_of_length_le (le_max_left _ _)] at key
  have hnn : 0 ≤ ((List.range (max c.coeffs.length g.num.length)).map
      fun i => c.coeffs.getD i 0 * g.num.getD i 0).foldl (· + ·) (c.k * g.den) := by
    rcases sgn_vals (((List.range (max c.coeffs.length g.num.length)).map
      fun i => c.coeffs.getD i 0 * g.num.getD i 0).foldl (· + ·) (c.k * g.den)) with ⟨a1, a2⟩ | ⟨a1, a2⟩ | ⟨a1, a2⟩
    · rw [a2] at hsp; omega
    · omega
    · omega
  have hq : (0 : Rat) ≤ (((((List.range (max c.coeffs.length g.num.length)).map
      fun i => c.coeffs.getD i 0 * g.num.getD i 0).foldl (· + ·) (c.k * g.den) : Int)) : Rat) := by
    exact_mod_cast hnn
  rw [key] at hq
  have hval : g.val = fun i => ((g.num.getD i 0 : Int) : Rat) / (g.den : Rat) := rfl
  rw [hval]
  push_cast at hq
  have hdpos : (0 : Rat) < (g.den : Rat) := by exact_mod_cast hd
  have h2 : (0 : Rat) ≤ (g.den : Rat) *
      (dot c.coeffs (fun i => ((g.num.getD i 0 : Int) : Rat) / (g.den : Rat)) + (c.k : Rat)) := by
    rw [mul_add]; linarith
  exact (mul_nonneg_iff_of_pos_left hdpos).mp h2

/-! ### (4) the flags at the recomputed `last_generator` -/

theorem flags_at_recomputed (s : LPState) (n : Nat) (hC : CanonTB s.tableau s.base s.working_cost.length)
    (hmap : ∃ nn j, MapOK s.mapping nn n j ∧ 1 + j ≤ s.working_cost.length - 1)
    (hn : n = s.external_space_dim) (hpos : 0 < n) :
    0 < (computeGenerator s).last_generator.den ∧
    (computeGenerator s).last_generator.num.length = n ∧
    (∀ i, i < n → (computeGenerator s).last_generator.val i = proj s.mapping (bsol s.tableau s.base) i) := by
  obtain ⟨nn, j, hM, -⟩ := hmap
  subst hn
  have hcols : ∀ i, i < s.external_space_dim → (s.mapping.getD (i+1) (0, 0)).1 ≠ 0 := by
    intro i hi; have := (hM.cols i hi).1; omega
  exact computeGeneratorPt_spec hC s.mapping s.external_space_dim hpos hcols

theorem flags_at_recomputed_cor (s : LPState) (n : Nat) (p : Parsed)
    (hC : CanonTB s.tableau s.base s.working_cost.length)
    (hmap : ∃ nn j, MapOK s.mapping nn n j ∧ 1 + j ≤ s.working_cost.length - 1)
    (hn : n = s.external_space_dim) (hpos : 0 < n)
    (hp : parseConstraints (computeGenerator s) = some p)
    (i : Nat) (hf : p.isSat.getD i false = true)
    (hlen : ((s.input_cs.drop s.first_pending).getD i default).coeffs.length ≤ n) :
    slackC ((s.input_cs.drop s.first_pending).getD i default) = true ∧
    0 ≤ dot ((s.input_cs.drop s.first_pending).getD i default).coeffs (proj s.mapping (bsol s.tableau s.base)) +
      (((s.input_cs.drop s.first_pending).getD i default).k : Rat) := by
  obtain ⟨f1, -, f3⟩ := flags_at_recomputed s n hC hmap hn hpos
  have q : slackC ((s.input_cs.drop s.first_pending).getD i default) = true ∧ _ ∧
      isSatisfied ((s.input_cs.drop s.first_pending).getD i default) (computeGenerator s).last_generator = true :=
    ((parse_isSat (computeGenerator s) p hp).2 i hf).2
  obtain ⟨q1, -, q2⟩ := q
  refine ⟨q1, ?_⟩
  have := isSatisfied_sem _ _ q2 f1
  rw [dot_congr_lt _ _ (proj s.mapping (bsol s.tableau s.base)) (fun u hu => f3 u (lt_of_lt_of_le hu hlen))] at this
  exact this

end PPLV.Solver.Pend

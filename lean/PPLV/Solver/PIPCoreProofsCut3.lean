import PPLV.Solver.PIPCoreProofsCut2
import Mathlib.Tactic.Linarith
import Mathlib.Tactic.Ring
/-!
# the cut step: the parameter side of a cut (item (a)): the setting is kept, the new
artificial parameter has the value `⌊e / den⌋ ≥ 0`, the two new context rows hold.
-/
namespace PPLV.PIPCore
namespace Cut

variable {n0 : Nat} {qpre : List Int} {nd : SolNode} {ctx : Mat} {index : Nat}

theorem setting_np (hs : CutSetting n0 qpre nd ctx) (hi : index < nd.tab.s.length)
    (h : isParam nd index = false) : CutSetting n0 qpre (ndNP nd index) ctx := by
  have hwf := generateCut_wf nd ctx index hs.wf hi
  rw [gc_np nd ctx index h] at hwf
  exact ⟨hwf, hs.nt_eq, hs.arts_wf, hs.qpre_ok, hs.q_ok, hs.ctx_cols⟩

/-- the parameter vector after a parametric cut -/
theorem q_p (hs : CutSetting n0 qpre nd ctx) :
    extendArts (ndP nd index).arts qpre
      = extendArts nd.arts qpre
          ++ [eVal nd index (extendArts nd.arts qpre) / nd.tab.den] := by
  show extendArts (nd.arts ++ [_]) qpre = _
  rw [extendArts_append]
  show extendArts nd.arts qpre ++ [Int.fdiv _ _] = _
  rw [mk'_fdiv _ _ hs.wf.den_pos]
  rfl

theorem c2head_eq (d a : Int) :
    (if posRem a d ≠ 0 then -(d - posRem a d) + d - 1 else d - 1) = - negmod d a + d - 1 := by
  unfold negmod; split <;> ring

theorem ctx1_eq (hs : CutSetting n0 qpre nd ctx) (hi : index < nd.tab.s.length) :
    ctx1 nd index = apNum nd index ++ [-nd.tab.den] := by
  unfold ctx1
  rw [apNum_cons_form nd index (by rw [rowT_length hs hi]; exact paramVec_pos _ _ hs.q_ok)]

theorem apNum_length (hs : CutSetting n0 qpre nd ctx) (hi : index < nd.tab.s.length) :
    (apNum nd index).length = nd.tab.nt := by
  unfold apNum; rw [List.length_map, rowT_length hs hi]

theorem setting_p (hs : CutSetting n0 qpre nd ctx) (hi : index < nd.tab.s.length)
    (h : isParam nd index = true) :
    CutSetting n0 qpre (ndP nd index) (ctxP nd ctx index) := by
  have hd := hs.wf.den_pos
  have hwf := generateCut_wf nd ctx index hs.wf hi
  rw [gc_p nd ctx index h (findArt_none_of_setting hs hi)] at hwf
  have hntpos := paramVec_pos _ _ hs.q_ok
  have hrl := rowT_length hs hi
  refine ⟨hwf, ?_, ?_, hs.qpre_ok, ?_, ?_⟩
  · show n0 + (nd.arts ++ [_]).length = nd.tab.nt + 1
    rw [List.length_append, List.length_singleton, ← hs.nt_eq]; omega
  · intro j hj
    have harts : (ndP nd index).arts = nd.arts ++ [ArtP.mk' (apNum nd index) nd.tab.den] := rfl
    rw [harts] at hj ⊢
    rw [List.length_append, List.length_singleton] at hj
    by_cases hlt : j < nd.arts.length
    · rw [getD_append_lt _ _ _ _ hlt]; exact hs.arts_wf j hlt
    · have hje : j = nd.arts.length := by omega
      rw [getD_append_len _ _ _ _ hje]
      refine ⟨?_, mk'_den_pos _ _ hd, mk'_nonneg _ _ hd ?_⟩
      · rw [mk'_length _ _ hd, apNum_length hs hi, ← hs.nt_eq, hje]
      · intro a ha
        obtain ⟨b, _, rfl⟩ := List.mem_map.mp ha
        exact negmod_nonneg _ _ hd
  · rw [q_p hs]
    exact paramVec_snoc _ _ _ hs.q_ok
      (Int.ediv_nonneg (eVal_nonneg nd index _ hd hs.q_ok.2.2) (le_of_lt hd))
  · intro r hr
    show r.length = nd.tab.nt + 1
    unfold ctxP at hr
    rcases List.mem_append.mp hr with hr | hr
    · exact RowsLen.addZeroColumn hs.ctx_cols r hr
    · simp only [List.mem_cons, List.not_mem_nil, or_false] at hr
      rcases hr with rfl | rfl
      · rw [ctx1_eq hs hi, List.length_append, apNum_length hs hi]; rfl
      · unfold ctx2
        simp only [List.length_append, List.length_cons, List.length_map, List.length_drop,
          List.length_nil, hrl]
        omega

/-- the context after a parametric cut holds at the extended parameter vector -/
theorem ctxSat_p (hs : CutSetting n0 qpre nd ctx) (hi : index < nd.tab.s.length) :
    CtxSat ctx (extendArts nd.arts qpre) →
    CtxSat (ctxP nd ctx index) (extendArts (ndP nd index).arts qpre) := by
  intro hsat
  have hd := hs.wf.den_pos
  rw [q_p hs]
  have hql : (extendArts nd.arts qpre).length = nd.tab.nt := hs.q_ok.1
  have hrl := rowT_length hs hi
  have hntpos := paramVec_pos _ _ hs.q_ok
  intro r hr
  unfold ctxP at hr
  rcases List.mem_append.mp hr with hr | hr
  · unfold addZeroColumn at hr
    obtain ⟨r0, hr0, rfl⟩ := List.mem_map.mp hr
    rw [dot_append_single _ _ _ _ (by rw [hs.ctx_cols r0 hr0, hql]), zero_mul, add_zero]
    exact hsat r0 hr0
  · simp only [List.mem_cons, List.not_mem_nil, or_false] at hr
    rcases hr with rfl | rfl
    · rw [ctx1_eq hs hi, dot_append_single _ _ _ _ (by rw [apNum_length hs hi, hql])]
      have h1 : 0 ≤ eVal nd index (extendArts nd.arts qpre) % nd.tab.den :=
        Int.emod_nonneg _ (by omega)
      rw [Int.emod_def] at h1
      unfold eVal at h1 ⊢
      linarith
    · obtain ⟨ps, hq, _⟩ := hs.q_ok.cons_form
      have h2 : eVal nd index (extendArts nd.arts qpre) % nd.tab.den < nd.tab.den :=
        Int.emod_lt_of_pos _ hd
      rw [Int.emod_def] at h2
      have he : eVal nd index (extendArts nd.arts qpre)
          = negmod nd.tab.den (rget (mrow nd.tab.t index) 0)
            + dot (((mrow nd.tab.t index).drop 1).map (negmod nd.tab.den)) ps := by
        unfold eVal
        rw [← apNum_cons_form nd index (by omega), hq, dot_cons, mul_one]
      unfold ctx2
      rw [dot_append_single _ _ _ _ (by
        simp only [List.length_cons, List.length_map, List.length_drop, hrl, hql]; omega)]
      rw [c2head_eq]
      generalize eVal nd index (extendArts nd.arts qpre) / nd.tab.den = fl at *
      rw [hq, dot_cons, dot_neg, mul_one]
      rw [hq] at he h2
      linarith

/-! ### both cases together -/

/-- everything about one cut that the semantic theorems use -/
theorem gc_main (hs : CutSetting n0 qpre nd ctx) (hi : index < nd.tab.s.length) :
    CutSetting n0 qpre (generateCut nd ctx index).1 (generateCut nd ctx index).2
    ∧ CutFacts nd index (extendArts nd.arts qpre) (generateCut nd ctx index).1
        (extendArts (generateCut nd ctx index).1.arts qpre)
    ∧ (∃ new, (new = [] ∨ new = [ArtP.mk' (apNum nd index) nd.tab.den])
        ∧ (generateCut nd ctx index).1.arts = nd.arts ++ new
        ∧ (generateCut nd ctx index).1.tab.nt = nd.tab.nt + new.length
        ∧ extendArts (generateCut nd ctx index).1.arts qpre
            = extendArts new (extendArts nd.arts qpre))
    ∧ (CtxSat ctx (extendArts nd.arts qpre) →
        CtxSat (generateCut nd ctx index).2 (extendArts (generateCut nd ctx index).1.arts qpre)) := by
  rcases gc_cases hs hi with ⟨h, he⟩ | ⟨h, he⟩
  · rw [he]
    refine ⟨setting_np hs hi h, facts_np nd index _ _ hs.wf.den_pos hs.q_ok h,
      ⟨[], Or.inl rfl, (List.append_nil _).symm, rfl, rfl⟩, fun hc => hc⟩
  · rw [he]
    have hit : index < nd.tab.t.length := by rw [← hs.wf.rows_eq]; exact hi
    refine ⟨setting_p hs hi h, ?_, ⟨[_], Or.inr rfl, rfl, rfl, ?_⟩, ctxSat_p hs hi⟩
    · show CutFacts nd index _ (ndP nd index) (extendArts (ndP nd index).arts qpre)
      rw [q_p hs]
      exact facts_p nd index _ hs.wf.t_cols hs.q_ok.1 hit
    · show extendArts (nd.arts ++ [_]) qpre = _
      rw [extendArts_append]

end Cut
end PPLV.PIPCore

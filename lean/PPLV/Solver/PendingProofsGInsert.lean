import PPLV.Solver.PendingProofsIncr4

/-!
# the insertion loop against a non-empty old tableau

One insertion (with `combineRow`) keeps `GCtx.GInv`; the loop: `GCtx.ginsert_spec`.
-/
namespace PPLV.Solver.Pend
open PPLV.Lin PPLV.Solver PPLV.Solver.Tab
open InsCtx (filter_length_le_take take_succ_filter count_set_true)

/-- a linear function `σ ↦ a0 + as·σ` that is, up to the factor `Mt/D`, `σ ↦ val − σ` has its zero at `val` -/
theorem neg_div_of_two_values {D Mt a0 as val : Rat} (hD : D ≠ 0) (hMt : Mt ≠ 0)
    (k0 : D * (a0 + as * 0) = Mt * (val - 0)) (k1 : D * (a0 + as * 1) = Mt * (val - 1)) : -a0 / as = val := by
  have e_s : D * as = -Mt := by linarith only [k0, k1]
  have e_0 : D * a0 = Mt * val := by linarith only [k0]
  have has0 : as ≠ 0 := by
    intro hz; rw [hz, mul_zero] at e_s
    exact hMt (neg_eq_zero.mp e_s.symm)
  rw [div_eq_iff has0]
  apply mul_left_cancel₀ hD
  rw [mul_neg, e_0, mul_left_comm, e_s]
  ring

namespace GCtx
variable (C : GCtx)

theorem SLle (i : Nat) (st : Ins) (h : C.GInv i st) : st.slackIndex ≤ C.SL := by
  rw [h.sl_eq]; unfold SL; have := filter_length_le_take C.pend i slackC; omega

theorem kN (i : Nat) (st : Ins) (h : C.GInv i st) : st.k ≤ C.N := by
  rw [h.k_eq]; unfold N Nn; have := filter_length_le_take C.pend i tabC; omega

/-- every row but the one being written has the full length and vanishes on the free slack region -/
theorem rows_all (i : Nat) (st : Ins) (h : C.GInv i st) (r : Nat) (hr : r < C.N) :
    (st.T.getD r []).length = C.numCols ∧
    ∀ col, ((C.V ≤ col ∧ col < st.slackIndex) ∨ C.SL ≤ col) → (st.T.getD r []).get col = 0 := by
  have hVSL : C.V ≤ C.SL := by unfold SL; omega
  by_cases h1 : r < C.R0
  · rw [h.oldT r h1]
    exact ⟨C.oRowLen r h1, fun col hcol => C.oZero r h1 col (by rcases hcol with ⟨a, _⟩ | a <;> omega)⟩
  · by_cases h2 : r < st.k
    · rw [(h.low r (by omega) h2).2.2]
      exact ⟨zeros_length _, fun col _ => zeros_get _ _⟩
    · exact h.rows r (by omega) hr

/-- index bookkeeping of one insertion: the row written and the slack column used, against the counts over `take i` -/
theorem ins_index (i : Nat) (hi : i < C.pend.length) (st : Ins) (h : C.GInv (i+1) st)
    (ht : tabC (C.pend.getD i default) = true) (wk : Bool) (sl' : Nat)
    (heq : (C.pend.getD i default).isEq = true → sl' = st.slackIndex ∧ wk = false)
    (hne : (C.pend.getD i default).isEq = false → sl' + 1 = st.slackIndex ∧ C.V ≤ sl') :
    st.k - 1 = C.R0 + ((C.pend.take i).filter tabC).length ∧
    sl' = C.V + ((C.pend.take i).filter slackC).length ∧
    C.R0 + 1 ≤ st.k ∧ C.V ≤ sl' ∧ sl' ≤ st.slackIndex ∧
    (wk = true → sl' < st.slackIndex ∧ (C.pend.getD i default).isEq = false) := by
  have hk := take_succ_filter C.pend i hi tabC
  have hs := take_succ_filter C.pend i hi slackC
  rw [ht, if_pos rfl] at hk
  have hk' := h.k_eq
  have hsl := h.sl_eq
  cases he : (C.pend.getD i default).isEq with
  | true =>
    obtain ⟨e1, e2⟩ := heq he
    have : slackC (C.pend.getD i default) = false := by unfold slackC; rw [he]; simp
    rw [this, if_neg Bool.false_ne_true] at hs
    refine ⟨by omega, by omega, by omega, by omega, by omega, fun hw => ?_⟩
    rw [e2] at hw; cases hw
  | false =>
    obtain ⟨e1, e2⟩ := hne he
    have : slackC (C.pend.getD i default) = true := by unfold slackC; rw [ht, he]; rfl
    rw [this, if_pos rfl] at hs
    exact ⟨by omega, by omega, by omega, e2, by omega, fun _ => ⟨by omega, rfl⟩⟩

/-- **one insertion**: the row `row1` (the constraint, with `−1` at the slack column `sl'` for an inequality) is
combined against the based rows and written at `k − 1`; `wk` says whether the row gets the slack as basic variable -/
theorem ins_common (i : Nat) (hi : i < C.pend.length) (st : Ins) (h : C.GInv (i+1) st)
    (ht : tabC (C.pend.getD i default) = true)
    (row1 : Row) (wk : Bool) (sl' b' : Nat)
    (hbt : wk = true → b' = sl') (hbf : wk = false → b' = 0)
    (heq : (C.pend.getD i default).isEq = true → sl' = st.slackIndex ∧ wk = false)
    (hne : (C.pend.getD i default).isEq = false → sl' + 1 = st.slackIndex ∧ C.V ≤ sl')
    (r1len : row1.length = C.numCols)
    (r1zero : ∀ col, ((C.V ≤ col ∧ col < sl') ∨ C.SL ≤ col) → row1.get col = 0)
    (r1sl : (C.pend.getD i default).isEq = false → row1.get sl' = -1)
    (hsem : ∀ y : Val, y 0 = 1 → rowVal row1 y =
      dot (C.pend.getD i default).coeffs (proj C.M y) + ((C.pend.getD i default).k : Rat)
        - (if (C.pend.getD i default).isEq = true then 0 else y sl'))
    (hfeas : wk = true → 0 ≤ dot (C.pend.getD i default).coeffs C.xstar + ((C.pend.getD i default).k : Rat))
    (hcnt : (st.worked.set (st.k - 1) wk).count true = C.wcount i) :
    C.GInv i { T := st.T.set (st.k - 1) (combineRow st.T (st.base.set (st.k - 1) b') (st.k - 1) row1),
               base := st.base.set (st.k - 1) b', k := st.k - 1, slackIndex := sl',
               worked := st.worked.set (st.k - 1) wk } := by
  have hdrop : C.pend.drop i = C.pend.getD i default :: C.pend.drop (i+1) := by
    rw [List.getD_eq_getElem?_getD, List.getElem?_eq_getElem hi]
    exact List.drop_eq_getElem_cons hi
  obtain ⟨hk_eq, hsl_eq, hk1, hslV, hsl_le, hwk⟩ := C.ins_index i hi st h ht wk sl' heq hne
  have hwk_lt : wk = true → sl' < st.slackIndex := fun hw => (hwk hw).1
  have hwk_ne : wk = true → (C.pend.getD i default).isEq = false := fun hw => (hwk hw).2
  set c := C.pend.getD i default with hc
  have hkN := C.kN _ _ h
  have hSLle := C.SLle _ _ h
  have hV1 := C.V1
  set k' := st.k - 1 with hk'
  have hkT : k' < st.T.length := by rw [h.lenT]; omega
  have hkB : k' < st.base.length := by rw [h.lenB]; omega
  have hkW : k' < st.worked.length := by rw [h.lenW]; omega
  have hbk0 : st.base.getD k' 0 = 0 := (h.low k' (by omega) (by omega)).2.1
  have hB : ∀ r, (st.base.set k' b').getD r 0 = if r = k' then b' else st.base.getD r 0 :=
    fun r => getD_set_of_lt _ _ _ _ hkB
  have hW : ∀ r, (st.worked.set k' wk).getD r false = if r = k' then wk else st.worked.getD r false := by
    intro r
    rw [getD_set]
    by_cases hr : r = k'
    · rw [if_pos ⟨hr, hkW⟩, if_pos hr]
    · rw [if_neg (fun a => hr a.1), if_neg hr]
  set B' := st.base.set k' b' with hB'
  have hBlen : B'.length = C.N := by rw [hB', List.length_set]; exact h.lenB
  have hra := C.rows_all _ _ h
  obtain ⟨c1, c2, D, Mt, hD, hMt, c3, c4⟩ := combine_spec st.T B' k' row1 C.numCols r1len
    (fun j hj _ _ => (hra j (by rw [hBlen] at hj; exact hj)).1)
    (fun j hj hjk hb => by
      rw [hB, if_neg hjk] at hb ⊢
      exact h.pb.nz j (by rw [h.lenT]; rw [hBlen] at hj; exact hj) hb)
    (fun j j' hj hj' hjk _ hjj hb _ => by
      rw [hB, if_neg hjk] at hb ⊢
      rw [hBlen] at hj hj'
      exact h.pb.col j j' (by rw [h.lenT]; exact hj) (by rw [h.lenT]; exact hj') hjj hb)
  set rowF := combineRow st.T B' k' row1 with hrowF
  have hT : ∀ r, (st.T.set k' rowF).getD r [] = if r = k' then rowF else st.T.getD r [] :=
    fun r => getD_set_of_lt _ _ _ _ hkT
  have hDq : (D : Rat) ≠ 0 := by exact_mod_cast (ne_of_gt hD)
  have hMq : (Mt : Rat) ≠ 0 := by exact_mod_cast hMt
  -- based rows (≠ k') of the new basis vanish where the old rows and the rows `≥ st.k` do
  have hbased : ∀ y : Val, (∀ r, r < C.R0 → rowVal (C.T0.getD r []) y = 0) →
      (∀ r, st.k ≤ r → r < C.N → rowVal (st.T.getD r []) y = 0) →
      ∀ j, j < B'.length → j ≠ k' → B'.getD j 0 ≠ 0 → rowVal (st.T.getD j []) y = 0 := by
    intro y ho hn j hj hjk hb
    rw [hBlen] at hj
    rw [hB, if_neg hjk] at hb
    by_cases h1 : j < C.R0
    · rw [h.oldT j h1]; exact ho j h1
    · by_cases h2 : j < st.k
      · exact absurd (h.low j (by omega) h2).2.1 hb
      · exact hn j (by omega) hj
  -- entries of the new row on the free region
  have hFzero : ∀ col, ((C.V ≤ col ∧ col < st.slackIndex) ∨ C.SL ≤ col) →
      (D : Int) * rowF.get col = Mt * row1.get col := by
    intro col hcol
    exact c3 col (fun j hj _ _ => (hra j (by rw [hBlen] at hj; exact hj)).2 col hcol)
  refine ⟨hk_eq, hsl_eq, by simp [h.lenT], hBlen, by simp [h.lenW], ?_, ?_, ?_, ?_, ?_, ?_, ?_, ?_, ?_, ?_, hcnt, ?_, ?_⟩
  · intro r hr; simp only; rw [hT, if_neg (by omega)]; exact h.oldT r hr
  · intro r hr; simp only; rw [hB, if_neg (by omega)]; exact h.oldB r hr
  · intro r hr; simp only; rw [hW, if_neg (by omega)]; exact h.oldW r hr
  · intro r h1 h2
    simp only at h2 ⊢
    rw [hW, hB, hT, if_neg (by omega), if_neg (by omega), if_neg (by omega)]
    exact h.low r h1 (by omega)
  · -- rows
    intro r h1 h2
    simp only at h1 ⊢
    rw [hT]
    by_cases hrk : r = k'
    · rw [if_pos hrk]
      refine ⟨c1, fun col hcol => ?_⟩
      have hreg : (C.V ≤ col ∧ col < st.slackIndex) ∨ C.SL ≤ col := by
        rcases hcol with ⟨a, b⟩ | a
        · left; omega
        · right; exact a
      have := hFzero col hreg
      rw [r1zero col hcol, mul_zero] at this
      rcases mul_eq_zero.mp this with hd | hz
      · omega
      · exact hz
    · rw [if_neg hrk]
      obtain ⟨a1, a2⟩ := h.rows r (by omega) h2
      exact ⟨a1, fun col hcol => a2 col (by rcases hcol with ⟨p, q⟩ | p <;> [(left; omega); (right; exact p)])⟩
  · -- w_iff
    intro r h1 h2
    simp only at h1 ⊢
    rw [hW, hB]
    by_cases hrk : r = k'
    · rw [if_pos hrk, if_pos hrk]
      rcases Bool.eq_false_or_eq_true wk with e1 | e1
      · rw [e1, hbt e1]; constructor
        · intro _; omega
        · intro _; rfl
      · rw [e1, hbf e1]; simp
    · rw [if_neg hrk, if_neg hrk]; exact h.w_iff r (by omega) h2
  · -- bRange
    intro r h1 h2 hb
    simp only at h1 hb ⊢
    rw [hB] at hb ⊢
    by_cases hrk : r = k'
    · rw [if_pos hrk] at hb ⊢
      rcases Bool.eq_false_or_eq_true wk with e1 | e1
      · rw [hbt e1]; exact ⟨le_refl _, by have := hwk_lt e1; omega⟩
      · exact absurd (hbf e1) hb
    · rw [if_neg hrk] at hb ⊢
      have := h.bRange r (by omega) h2 hb
      exact ⟨by omega, this.2⟩
  · -- pb
    constructor
    · show B'.length = (st.T.set k' rowF).length
      rw [hBlen, List.length_set, h.lenT]
    · intro r hr hb
      simp only at hb ⊢
      rw [List.length_set] at hr
      rw [hB] at hb ⊢; rw [hT]
      by_cases hrk : r = k'
      · rw [if_pos hrk] at hb ⊢; rw [if_pos hrk]
        rcases Bool.eq_false_or_eq_true wk with e1 | e1
        · rw [hbt e1]
          have := hFzero sl' (Or.inl ⟨hslV, hwk_lt e1⟩)
          rw [r1sl (hwk_ne e1)] at this
          intro hz
          rw [hz] at this
          have : Mt = 0 := by linarith only [this]
          exact hMt this
        · exact absurd (hbf e1) hb
      · rw [if_neg hrk] at hb ⊢; rw [if_neg hrk]
        exact h.pb.nz r hr hb
    · intro r j hr hj hrj hb
      simp only at hb ⊢
      rw [List.length_set] at hr hj
      rw [hB] at hb ⊢; rw [hT]
      rw [h.lenT] at hr hj
      by_cases hrk : r = k'
      · rw [if_pos hrk] at hb ⊢
        rw [if_neg (by omega)]
        rcases Bool.eq_false_or_eq_true wk with e1 | e1
        · rw [hbt e1]
          exact (hra j hj).2 sl' (Or.inl ⟨hslV, hwk_lt e1⟩)
        · exact absurd (hbf e1) hb
      · rw [if_neg hrk] at hb ⊢
        by_cases hjk : j = k'
        · rw [if_pos hjk]
          have := c2 r (by rw [hBlen]; exact hr) hrk (by rw [hB, if_neg hrk]; exact hb)
          rwa [hB, if_neg hrk] at this
        · rw [if_neg hjk]
          exact h.pb.col r j (by rw [h.lenT]; exact hr) (by rw [h.lenT]; exact hj) hrj hb
  · -- feasNew
    intro r h1 h2 hb
    simp only at h1 hb ⊢
    rw [hB] at hb ⊢; rw [hT]
    by_cases hrk : r = k'
    swap
    · rw [if_neg hrk] at hb ⊢; rw [if_neg hrk]; exact h.feasNew r (by omega) h2 hb
    rw [if_pos hrk] at hb ⊢; rw [if_pos hrk]
    rcases Bool.eq_false_or_eq_true wk with e1 | e1
    swap
    · exact absurd (hbf e1) hb
    rw [hbt e1]
    have hce := hwk_ne e1
    have hsl0 : sl' ≠ 0 := by omega
    have hFb : ∀ r, r < st.base.length → st.base.getD r 0 ≠ 0 → rowF.get (st.base.getD r 0) = 0 := by
      intro r hr hb
      have hrk : r ≠ k' := fun e => hb (by rw [e]; exact hbk0)
      have := c2 r (by rw [hBlen, ← h.lenB]; exact hr) hrk (by rw [hB, if_neg hrk]; exact hb)
      rwa [hB, if_neg hrk] at this
    have key : ∀ σ : Rat, (D : Rat) * (((rowF.get 0 : Int) : Rat) + ((rowF.get sl' : Int) : Rat) * σ) =
        (Mt : Rat) * (dot c.coeffs C.xstar + (c.k : Rat) - σ) := by
      intro σ
      rw [← rowVal_bsol_update (T := st.T) (base := st.base) rowF sl' σ hsl0 hFb]
      have hy0 : ((bsol st.T st.base).update sl' σ) 0 = 1 := by
        simp only [Val.update]; rw [if_neg (fun a => hsl0 a.symm)]; exact bsol_zero _ _
      rw [c4 _ ?_, hsem _ hy0, if_neg (by rw [hce]; simp)]
      · have hproj : proj C.M ((bsol st.T st.base).update sl' σ) = C.xstar := by
          unfold xstar
          apply proj_congr C.M C.nn C.n C.j C.hM
          intro col hcol
          have := C.hjV
          simp only [Val.update]; rw [if_neg (by omega)]
          by_cases hc0 : col = 0
          · rw [hc0, bsol_zero, bsol_zero]
          · exact h.star col (by omega) (by omega)
        rw [hproj]
        simp only [Val.update, if_true]
      · intro j hj hjk hb
        rw [hBlen] at hj
        rw [hB, if_neg hjk] at hb
        unfold rowVal
        rw [dot_update]
        have hz := (hra j hj).2 sl' (Or.inl ⟨hslV, hwk_lt e1⟩)
        unfold Row.get at hz
        rw [hz]
        have := bsol_based_row h.pb (i := j) (by rw [h.lenT]; exact hj) hb
        unfold rowVal at this
        rw [this]; simp
    rw [neg_div_of_two_values hDq hMq (key 0) (key 1)]
    exact hfeas e1
  · -- star
    intro col h1 h2
    simp only
    rw [bsol_congr_set st.T st.base k' rowF b' C.V hkT (by rw [h.lenB, h.lenT]) hbk0
      ((Bool.eq_false_or_eq_true wk).elim (fun e => Or.inr (hbt e ▸ hslV)) (fun e => Or.inl (hbf e))) col h1 h2]
    exact h.star col h1 h2
  · -- sound
    intro y h0 hnn hold hrows c' hc' htc'
    simp only at hrows
    have hn : ∀ r, st.k ≤ r → r < C.N → rowVal (st.T.getD r []) y = 0 := by
      intro r hr1 hr2
      have := hrows r (by omega) hr2
      rwa [hT, if_neg (by omega)] at this
    rw [hdrop] at hc'
    rcases List.mem_cons.mp hc' with rfl | hc'
    · have hF := hrows k' (le_refl _) (by omega)
      rw [hT, if_pos rfl] at hF
      have := c4 y (hbased y hold hn)
      rw [hF, mul_zero] at this
      have h1 : rowVal row1 y = 0 := by
        rcases mul_eq_zero.mp this.symm with a | a
        · exact absurd a hMq
        · exact a
      rw [hsem y h0] at h1
      unfold ICon.holds
      by_cases he : c.isEq = true
      · rw [if_pos he] at h1 ⊢; linarith only [h1]
      · rw [if_neg he] at h1 ⊢
        have := hnn sl' (by omega)
        linarith only [h1, this]
    · exact h.sound y h0 hnn hold hn c' hc' htc'
  · -- complete
    intro y0 h0 hnn hold hall
    obtain ⟨y, y1, y2, y3, y4, y5⟩ := h.complete y0 h0 hnn hold
      (fun c' hc' => hall c' (by rw [hdrop]; exact List.mem_cons_of_mem _ hc'))
    have hholds := hall c (by rw [hdrop]; exact List.mem_cons_self) ht
    unfold ICon.holds at hholds
    have hjV := C.hjV
    by_cases he : c.isEq = true
    · rw [if_pos he] at hholds
      have hsle := (heq he).1
      refine ⟨y, y1, y2, y3, fun col a b => y4 col a (by rw [← hsle]; exact b), fun r hr1 hr2 => ?_⟩
      simp only at hr1 ⊢
      rw [hT]
      by_cases hrk : r = k'
      · rw [if_pos hrk]
        have hold' : ∀ r, r < C.R0 → rowVal (C.T0.getD r []) y = 0 := by
          intro r hr; rw [C.old_congr r hr y y0 y1]; exact hold r hr
        have := c4 y (hbased y hold' y5)
        rw [hsem y y2, if_pos he, proj_congr C.M C.nn C.n C.j C.hM y y0 (fun col hcol => y1 col (by omega)),
          hholds] at this
        simp only [sub_zero, mul_zero] at this
        rcases mul_eq_zero.mp this with a | a
        · exact absurd a hDq
        · exact a
      · rw [if_neg hrk]; exact y5 r (by omega) hr2
    · rw [if_neg he] at hholds
      have he' : c.isEq = false := by simpa using he
      have hsl1 := (hne he').1
      set v := dot c.coeffs (proj C.M y0) + (c.k : Rat) with hv
      have hsl0 : sl' ≠ 0 := by omega
      have hagree : ∀ col, col < C.V → (y.update sl' v) col = y0 col := by
        intro col hcol
        simp only [Val.update]; rw [if_neg (by omega)]; exact y1 col hcol
      have hy0 : (y.update sl' v) 0 = 1 := by
        simp only [Val.update]; rw [if_neg (fun a => hsl0 a.symm)]; exact y2
      have hn' : ∀ r, st.k ≤ r → r < C.N → rowVal (st.T.getD r []) (y.update sl' v) = 0 := by
        intro r hr1 hr2
        unfold rowVal
        rw [dot_update]
        have hz := (h.rows r hr1 hr2).2 sl' (Or.inl ⟨hslV, by omega⟩)
        unfold Row.get at hz
        rw [hz]
        have := y5 r hr1 hr2
        unfold rowVal at this
        rw [this]; simp
      refine ⟨y.update sl' v, hagree, hy0, fun col hcol => ?_, fun col a b => ?_, fun r hr1 hr2 => ?_⟩
      · simp only [Val.update]
        by_cases hcs : col = sl'
        · rw [if_pos hcs]; exact hholds
        · rw [if_neg hcs]; exact y3 col hcol
      · simp only at b
        simp only [Val.update]; rw [if_neg (by rcases b with b | b <;> omega)]
        exact y4 col a (by rcases b with b | b <;> [(left; omega); (right; exact b)])
      · simp only at hr1 ⊢
        rw [hT]
        by_cases hrk : r = k'
        · rw [if_pos hrk]
          have hold' : ∀ r, r < C.R0 → rowVal (C.T0.getD r []) (y.update sl' v) = 0 := by
            intro r hr; rw [C.old_congr r hr _ y0 hagree]; exact hold r hr
          have := c4 _ (hbased _ hold' hn')
          rw [hsem _ hy0, if_neg he,
            proj_congr C.M C.nn C.n C.j C.hM _ y0 (fun col hcol => hagree col (by omega))] at this
          have e : (y.update sl' v) sl' = v := by simp [Val.update]
          rw [e, ← hv, sub_self, mul_zero] at this
          rcases mul_eq_zero.mp this with a | a
          · exact absurd a hDq
          · exact a
        · rw [if_neg hrk]; exact hn' r (by omega) hr2

/-! ### the insertion loop against a non-empty old tableau: `GCtx.ginsert_spec` -/

theorem wcount_step (i : Nat) (hi : i < C.pend.length) :
    C.wcount i = (if C.isSat.getD i false then 1 else 0) + C.wcount (i+1) :=
  countP_drop_range_succ C.pend.length _ i hi

/-- one step of the loop keeps the invariant -/
theorem gstep_inv (i : Nat) (hi : i < C.pend.length) (st : Ins) (h : C.GInv (i+1) st) : C.GInv i (C.step i st) := by
  have hdrop : C.pend.drop i = C.pend.getD i default :: C.pend.drop (i+1) := by
    rw [List.getD_eq_getElem?_getD, List.getElem?_eq_getElem hi]
    exact List.drop_eq_getElem_cons hi
  rw [C.gstep_eq i hi st]
  set c := C.pend.getD i default with hc
  have hcmem : c ∈ C.pend := by
    rw [hc, List.getD_eq_getElem?_getD, List.getElem?_eq_getElem hi]; exact List.getElem_mem _
  have hk := take_succ_filter C.pend i hi tabC
  have hs := take_succ_filter C.pend i hi slackC
  rw [← hc] at hk hs
  have hw := C.wcount_step i hi
  have hsatc := C.hsat i hi
  rw [← hc] at hsatc
  by_cases ht : tabC c = true
  swap
  · have ht' : tabC c = false := by simpa using ht
    have hsl : slackC c = false := by unfold slackC; rw [ht']; rfl
    rw [if_pos ht']
    rw [ht'] at hk; rw [hsl] at hs
    simp only [Bool.false_eq_true, if_false, Nat.add_zero] at hk hs
    have hns : C.isSat.getD i false ≠ true := fun a => by have := (hsatc a).1; rw [hsl] at this; cases this
    rw [if_neg hns] at hw
    refine ⟨by rw [h.k_eq, hk], by rw [h.sl_eq, hs], h.lenT, h.lenB, h.lenW, h.oldT, h.oldB, h.oldW, h.low, h.rows,
      h.w_iff, h.bRange, h.pb, h.feasNew, h.star, by rw [h.cnt, hw]; omega, ?_, ?_⟩
    · intro y h0 hnn hold hrows c' hc' htc'
      rw [hdrop] at hc'
      rcases List.mem_cons.mp hc' with rfl | hc'
      · rw [ht'] at htc'; cases htc'
      · exact h.sound y h0 hnn hold hrows c' hc' htc'
    · intro y0 h0 hnn hold hall
      exact h.complete y0 h0 hnn hold (fun c' hc' => hall c' (by rw [hdrop]; exact List.mem_cons_of_mem _ hc'))
  rw [if_neg (by rw [ht]; simp)]
  rw [ht] at hk; simp only [if_true] at hk
  have hkN := C.kN _ _ h
  have hSLle := C.SLle _ _ h
  have hV1 := C.V1
  have hjV := C.hjV
  have hk1 : C.R0 + 1 ≤ st.k := by rw [h.k_eq, hk]; omega
  have hkB : st.k - 1 < st.base.length := by rw [h.lenB]; omega
  have hkW : st.k - 1 < st.worked.length := by rw [h.lenW]; omega
  obtain ⟨lw, lb, _⟩ := h.low (st.k - 1) (by omega) (by omega)
  have e1 : st.base.set (st.k - 1) 0 = st.base := set_eq_self_nat _ _ lb hkB
  have e2 : st.worked.set (st.k - 1) false = st.worked := set_eq_self_bool _ _ lw hkW
  obtain ⟨r1, r2, r3⟩ := constraintRow_spec C.M C.nn C.n C.j C.numCols C.hM
    (by have := C.hSL; omega) c (C.hlen c hcmem)
  set row0 := constraintRow C.numCols C.M c with hrow0
  by_cases he : c.isEq = true
  · rw [if_pos he]
    have hns : C.isSat.getD i false ≠ true := fun a => by
      have := (hsatc a).1; unfold slackC at this; rw [he] at this; simp at this
    rw [if_neg hns] at hw
    have := C.ins_common i hi st h ht row0 false st.slackIndex 0 Bool.noConfusion (fun _ => rfl)
      (fun _ => ⟨rfl, rfl⟩) (fun a => by rw [← hc, he] at a; cases a) r1
      (fun col hcol => r2 col (by rcases hcol with ⟨a, _⟩ | a <;> [skip; unfold SL at a] <;> omega))
      (fun a => by rw [← hc, he] at a; cases a)
      (fun y h0 => by rw [← hc, if_pos he, sub_zero]; exact r3 y h0)
      (fun a => by cases a)
      (by rw [e2, h.cnt, hw]; omega)
    rw [e1, e2] at this
    exact this
  · rw [if_neg he]
    have he' : c.isEq = false := by simpa using he
    have hsl : slackC c = true := by unfold slackC; rw [ht, he']; rfl
    rw [hsl] at hs; simp only [if_true] at hs
    have hslpos : C.V + 1 ≤ st.slackIndex := by rw [h.sl_eq, hs]; omega
    have hsiV : C.V ≤ st.slackIndex - 1 := by omega
    have hsilen : st.slackIndex - 1 < row0.length := by
      rw [r1]; have := C.hSL; unfold SL at hSLle; omega
    set sl' := st.slackIndex - 1 with hsl'
    set row1 : Row := row0.set sl' (-1) with hrow1
    have row1_len : row1.length = C.numCols := by rw [hrow1, List.length_set]; exact r1
    have row1_get : ∀ col, row1.get col = if col = sl' then -1 else row0.get col := by
      intro col
      unfold Row.get
      rw [hrow1, getD_set]
      by_cases hcol : col = sl'
      · rw [if_pos ⟨hcol, hsilen⟩, if_pos hcol]
      · rw [if_neg (fun a => hcol a.1), if_neg hcol]
    have row1_val : ∀ y : Val, y 0 = 1 →
        rowVal row1 y = dot c.coeffs (proj C.M y) + (c.k : Rat) - y sl' := by
      intro y h0
      unfold rowVal
      rw [hrow1, dot_set _ _ _ _ hsilen]
      have : row0.getD sl' 0 = 0 := r2 _ (by omega)
      rw [this]
      have := r3 y h0
      unfold rowVal at this
      rw [this]; push_cast; ring
    have r1zero : ∀ col, ((C.V ≤ col ∧ col < sl') ∨ C.SL ≤ col) → row1.get col = 0 := by
      intro col hcol
      rw [row1_get, if_neg (by rcases hcol with ⟨_, b⟩ | b <;> omega)]
      exact r2 col (by rcases hcol with ⟨a, _⟩ | a <;> [skip; unfold SL at a] <;> omega)
    by_cases hsat : C.isSat.getD i false = true
    · rw [if_pos hsat]
      rw [if_pos hsat] at hw
      exact C.ins_common i hi st h ht row1 true sl' sl' (fun _ => rfl) Bool.noConfusion
        (fun a => by rw [← hc, he'] at a; cases a) (fun _ => ⟨by omega, hsiV⟩) row1_len r1zero
        (fun _ => by rw [row1_get, if_pos rfl])
        (fun y h0 => by rw [← hc, if_neg he]; exact row1_val y h0)
        (fun _ => (hsatc hsat).2)
        (by rw [count_set_true _ _ hkW lw, h.cnt, hw]; omega)
    · rw [if_neg hsat]
      rw [if_neg hsat] at hw
      have := C.ins_common i hi st h ht row1 false sl' 0 Bool.noConfusion (fun _ => rfl)
        (fun a => by rw [← hc, he'] at a; cases a) (fun _ => ⟨by omega, hsiV⟩) row1_len r1zero
        (fun _ => by rw [row1_get, if_pos rfl])
        (fun y h0 => by rw [← hc, if_neg he]; exact row1_val y h0)
        (fun a => by cases a)
        (by rw [e2, h.cnt, hw]; omega)
      rw [e1, e2] at this
      exact this

/-- **the insertion loop** of an incremental call -/
theorem ginsert_spec : C.GInv 0 (revFold C.pend.length C.step C.init) :=
  revFold_inv (fun i st => C.GInv i st) C.step C.pend.length C.init C.init_inv
    (fun i hi st hst => C.gstep_inv i hi st hst)

end GCtx

end PPLV.Solver.Pend

import PPLV.Solver.PIPCoreProofsSign5
import Mathlib.Tactic.Linarith
/-!
# sign family: the whole sign analysis of one iteration (PIP_Tree.cc:2695-2808)
-/
namespace PPLV.PIPCore

theorem mem_rangeFrom {a b i : Nat} (h : i ∈ rangeFrom a b) : a ≤ i ∧ i < b := by
  unfold rangeFrom at h
  simp only [List.mem_map, List.mem_range] at h
  obtain ⟨j, hj, rfl⟩ := h
  omega

/-- the three stages of `signAnalysis`, as a disjunction of the paths the code can take -/
theorem signAnalysis_stages {cc : Mat → Option Bool} {nd : SolNode} {ctx : Mat} {r : List RowSign × Firsts}
    (h : signAnalysis cc nd ctx = some r) :
    ∃ st1 : List RowSign × Firsts,
      (st1 = recomputeSigns nd ∨
        ∃ fm, (recomputeSigns nd).2.neg = none ∧ (recomputeSigns nd).2.mix = some fm ∧
          refineMixed1 cc nd.tab ctx fm (rangeFrom fm nd.tab.t.length) (recomputeSigns nd) = some st1) ∧
      (r = st1 ∨ ∃ fm, st1.2.neg = none ∧ st1.2.mix = some fm ∧
        refineMixed2 cc nd.tab ctx (rangeFrom fm nd.tab.t.length) st1 = some r) := by
  unfold signAnalysis at h
  simp only at h
  split at h
  · exact absurd h (by simp)
  · rename_i st1 hst1
    refine ⟨st1, ?_, ?_⟩
    · split at hst1
      · rename_i fm hneg hmix
        exact Or.inr ⟨fm, hneg, hmix, hst1⟩
      · simp only [Option.some.injEq] at hst1
        exact Or.inl hst1.symm
    · split at h
      · rename_i fm hneg hmix
        exact Or.inr ⟨fm, hneg, hmix, h⟩
      · simp only [Option.some.injEq] at h
        exact Or.inl h.symm

/-- a pointwise property of the signs that holds after `recomputeSigns` and of every sign the two refinements
    can write over a `MIXED` one holds after the whole analysis -/
theorem signAnalysis_pointwise {cc : Mat → Option Bool} {nd : SolNode} {ctx : Mat} (P : Nat → RowSign → Prop)
    {sg' : List RowSign} {fs' : Firsts} (h : signAnalysis cc nd ctx = some (sg', fs'))
    (h0 : ∀ k, P k (signGet (recomputeSigns nd).1 k))
    (h1 : ∀ i, i < nd.tab.t.length → P i .mixed → ∀ b1 b2, ccRow cc ctx (mrow nd.tab.t i) = some b1 →
      ccRow cc ctx (complementAssign (mrow nd.tab.t i) nd.tab.den) = some b2 → P i (newSign1 b1 b2))
    (h2 : ∀ i, i < nd.tab.t.length → P i .mixed → hasPositive (mrow nd.tab.s i) = true →
      ccRow cc ctx (strictRow (mrow nd.tab.t i) nd.tab.den) = some false → P i .negative) :
    ∀ k, P k (signGet sg' k) := by
  obtain ⟨st1, s1, s2⟩ := signAnalysis_stages h
  have inv1 : ∀ k, P k (signGet st1.1 k) := by
    rcases s1 with rfl | ⟨fm, _, _, s1⟩
    · exact h0
    · exact refineMixed1_pointwise fm P _ (recomputeSigns nd).1 (recomputeSigns nd).2 st1.1 st1.2
        (fun i hi => h1 i (mem_rangeFrom hi).2) s1 h0
  rcases s2 with s2 | ⟨fm, _, _, s2⟩
  · rw [← s2] at inv1; exact inv1
  · exact refineMixed2_pointwise P _ st1.1 st1.2 sg' fs' (fun i hi => h2 i (mem_rangeFrom hi).2) s2 inv1

/-- **soundness of the whole sign analysis of one iteration**, under `DenDivides` for every row (`_partial`:
    see `signAnalysis_unsound_example` for what happens without it).  Every sign is true of every parameter
    vector `q` of the context, EXCEPT that a `NEGATIVE` produced by the second refinement only means
    `t_k(z) ≤ 0` (and then row `k` has a positive variable coefficient). -/
theorem signAnalysis_sound_partial {cc : Mat → Option Bool} (hcc : CCContract cc) {nd : SolNode}
    (hden : 0 < nd.tab.den) (hbig : nd.big = none) {n : Nat} (hn : 0 < n) {ctx : Mat}
    (hctx : ∀ r ∈ ctx, r.length = n)
    (hrows : ∀ k, k < nd.tab.t.length → (mrow nd.tab.t k).length = n)
    (hdiv : ∀ k, k < nd.tab.t.length → DenDivides nd.tab.den (mrow nd.tab.t k))
    {sg' : List RowSign} {fs' : Firsts} (h : signAnalysis cc nd ctx = some (sg', fs'))
    {q : List Int} (hq : ParamVec n q) (hsat : CtxSat ctx q)
    (hinv : ∀ k, SignTrue (signGet nd.sign k) (dot (mrow nd.tab.t k) q)) :
    ∀ k, SignTrue (signGet sg' k) (dot (mrow nd.tab.t k) q) ∨
      (signGet sg' k = .negative ∧ hasPositive (mrow nd.tab.s k) = true ∧ dot (mrow nd.tab.t k) q ≤ 0) :=
  signAnalysis_pointwise (fun k s => SignTrue s (dot (mrow nd.tab.t k) q) ∨
      (s = .negative ∧ hasPositive (mrow nd.tab.s k) = true ∧ dot (mrow nd.tab.t k) q ≤ 0)) h
    (fun k => Or.inl (recomputeSigns_sound hbig hrows hq hinv k))
    (fun i hi _ _ _ hb1 hb2 =>
      Or.inl (newSign1_sound hcc hn hctx (hrows i hi) hden (hdiv i hi) hb1 hb2 hq hsat))
    (fun i hi _ hp hb =>
      Or.inr ⟨rfl, hp, (strictRow_incompatible hcc hn hctx (hrows i hi) hden hb hq hsat).2 (hdiv i hi)⟩)

/-- the part that needs NO divisibility hypothesis: a `NEGATIVE` sign of the first two stages is true, one of
    the second refinement only means `t_k(z) < den` -/
theorem signAnalysis_negative_sound {cc : Mat → Option Bool} (hcc : CCContract cc) {nd : SolNode}
    (hden : 0 < nd.tab.den) (hbig : nd.big = none) {n : Nat} (hn : 0 < n) {ctx : Mat}
    (hctx : ∀ r ∈ ctx, r.length = n)
    (hrows : ∀ k, k < nd.tab.t.length → (mrow nd.tab.t k).length = n)
    {sg' : List RowSign} {fs' : Firsts} (h : signAnalysis cc nd ctx = some (sg', fs'))
    {q : List Int} (hq : ParamVec n q) (hsat : CtxSat ctx q)
    (hinv : ∀ k, SignTrue (signGet nd.sign k) (dot (mrow nd.tab.t k) q)) :
    ∀ k, signGet sg' k = .negative →
      dot (mrow nd.tab.t k) q < 0 ∨ (hasPositive (mrow nd.tab.s k) = true ∧ dot (mrow nd.tab.t k) q < nd.tab.den) :=
  signAnalysis_pointwise (fun k s => s = .negative → dot (mrow nd.tab.t k) q < 0 ∨
      (hasPositive (mrow nd.tab.s k) = true ∧ dot (mrow nd.tab.t k) q < nd.tab.den)) h
    (fun k hk => by
      have := recomputeSigns_sound hbig hrows hq hinv k
      rw [hk] at this
      exact Or.inl this)
    (fun i hi _ _ _ hb1 _ hneg => Or.inl (newSign1_negative_sound hcc hn hctx (hrows i hi) hb1 hneg hq hsat))
    (fun i hi _ hp hb _ => Or.inr ⟨hp, (strictRow_incompatible hcc hn hctx (hrows i hi) hden hb hq hsat).1⟩)

-- non-vacuity: a node with `den = 1` (every row satisfies `DenDivides`), one mixed row `1 - p`,
-- context `p ≤ 1`: the analysis answers `POSITIVE`
def exNd6 : SolNode :=
  { tab := { s := [[1]], t := [[1, -1]], den := 1, ns := 1, nt := 2 }, basis := [true, false],
    mapping := [0, 0], varRow := [1], varColumn := [0], sign := [.unknown], big := none, arts := [], cons := [] }
def exCC6 : Mat → Option Bool :=
  tableCC [([[1, -1], [1, -1]], true), ([[1, -1], [-2, 1]], false)]

theorem exCC6_contract : CCContract exCC6 := by
  refine tableCC_contract _ (by decide) fun e he => ?_
  simp only [List.mem_cons, List.not_mem_nil, or_false] at he
  rcases he with rfl | rfl
  · exact ⟨fun _ => ⟨0, by decide, by rw [ctxSat_iff_all]; decide⟩, fun _ => rfl⟩
  · refine ⟨(fun h => by cases h), ?_⟩
    rintro ⟨p, hp, hs⟩
    have h1 : 0 ≤ dot [1, -1] [1, p] := hs [1, -1] (by decide)
    have h2 : 0 ≤ dot [-2, 1] [1, p] := hs [-2, 1] (by decide)
    simp only [dot_cons, dot_nil_left] at h1 h2
    omega

example : (signAnalysis exCC6 exNd6 [[1, -1]]).map (·.1) = some [.positive] := by decide
example : ∀ k, k < exNd6.tab.t.length → DenDivides exNd6.tab.den (mrow exNd6.tab.t k) := by
  intro k _ j _
  show (1 : Int) ∣ _
  exact Int.one_dvd _

end PPLV.PIPCore

import PPLV.Solver.PendingProofsInvS

/-!
# the artificial columns (:918–:949), structurally

`count_true_range`, `countP_not_range`: counting flags through indices.
`ArtLoopInv`: the invariant of both loops of `ppcArtificials`, parameterised by the set `S` of the rows that have
received their artificial column so far; `artLoop_step` one more row, `artLoop_foldl` the loop over the rows made
unfeasible by re-merging, `artLoop_spec` both loops, for any row offset.
`artificials_struct`: the fresh problem (no offset, no re-merged row): when the number of rows not worked out is the
number of artificial columns reserved (`SL + rem 0 = numCols − 1`), every such row gets its own artificial column in
`[SL, numCols − 1)` with coefficient 1, zero in every other row; worked rows and `base` entries of worked rows are
untouched; the cost row is −1 exactly on the artificial columns; `end_artificials = numCols − 1`.
-/
namespace PPLV.Solver.Pend
open PPLV.Lin PPLV.Solver.Tab

theorem count_true_range (l : List Bool) :
    (List.range l.length).countP (fun r => l.getD r false) = l.count true := by
  induction l with
  | nil => rfl
  | cons a l ih =>
    rw [List.length_cons, List.range_succ_eq_map, List.countP_cons, List.countP_map]
    have : ((fun r => (a :: l).getD r false) ∘ Nat.succ) = fun r => l.getD r false := by
      funext r; simp
    rw [this, ih]
    cases a <;> simp

theorem countP_not_range (l : List Bool) :
    (List.range l.length).countP (fun r => !l.getD r false) = l.length - l.count true := by
  have h := List.length_eq_countP_add_countP (fun r => l.getD r false) (l := List.range l.length)
  rw [List.length_range, count_true_range] at h
  have e : (fun r => !l.getD r false) = (fun a => decide ¬(l.getD a false = true)) := by
    funext r; cases l.getD r false <;> rfl
  rw [e]; omega

/-- rows not worked out among the rows `≥ i` -/
def remCount (N : Nat) (worked : List Bool) (i : Nat) : Nat :=
  ((List.range N).drop i).countP (fun r => !worked.getD r false)

theorem remCount_step (N : Nat) (worked : List Bool) (i : Nat) (hi : i < N) :
    remCount N worked i = (if worked.getD i false then 0 else 1) + remCount N worked (i+1) := by
  unfold remCount
  rw [countP_drop_range_succ N _ i hi]
  cases worked.getD i false <;> rfl

theorem remCount_end (N : Nat) (worked : List Bool) : remCount N worked N = 0 := by
  unfold remCount; rw [List.drop_eq_nil_of_le (by simp)]; rfl

/-- the result of the artificial-column loop of a fresh problem -/
structure ArtOut (N numCols SL : Nat) (worked : List Bool) (T1 : List Row) (base0 : List Nat)
    (out : List Row × Row × List Nat × Nat) : Prop where
  lenT : out.1.length = N
  lenB : out.2.2.1.length = N
  lenC : out.2.1.length = numCols
  endA : out.2.2.2 = numCols - 1
  rowLen : ∀ r, r < N → (out.1.getD r []).length = numCols
  art : ∀ r, r < N → worked.getD r false = false →
    SL ≤ out.2.2.1.getD r 0 ∧ out.2.2.1.getD r 0 < numCols - 1 ∧
    (out.1.getD r []).get (out.2.2.1.getD r 0) = 1 ∧
    ∀ col, col ≠ out.2.2.1.getD r 0 → (out.1.getD r []).get col = (T1.getD r []).get col
  keep : ∀ r, r < N → worked.getD r false = true →
    out.1.getD r [] = T1.getD r [] ∧ out.2.2.1.getD r 0 = base0.getD r 0
  other : ∀ r r', r < N → r' < N → r ≠ r' → worked.getD r false = false →
    (out.1.getD r' []).get (out.2.2.1.getD r 0) = 0
  cost : ∀ j, out.2.1.getD j 0 = if SL ≤ j ∧ j < numCols - 1 then -1 else 0

/-- the invariant of the two loops: `S` = the rows that have received an artificial column -/
def ArtLoopInv (N numCols SL : Nat) (T1 : List Row) (base0 : List Nat) (S : Nat → Prop)
    (acc : List Row × Row × List Nat × Nat) : Prop :=
  acc.1.length = N ∧ acc.2.2.1.length = N ∧ acc.2.1.length = numCols ∧ SL ≤ acc.2.2.2 ∧
  (∀ r, r < N → (acc.1.getD r []).length = numCols) ∧
  (∀ r, r < N → S r →
    SL ≤ acc.2.2.1.getD r 0 ∧ acc.2.2.1.getD r 0 < acc.2.2.2 ∧
    (acc.1.getD r []).get (acc.2.2.1.getD r 0) = 1 ∧
    ∀ col, col ≠ acc.2.2.1.getD r 0 → (acc.1.getD r []).get col = (T1.getD r []).get col) ∧
  (∀ r, r < N → ¬ S r → acc.1.getD r [] = T1.getD r [] ∧ acc.2.2.1.getD r 0 = base0.getD r 0) ∧
  (∀ r r', r < N → r' < N → r ≠ r' → S r → (acc.1.getD r' []).get (acc.2.2.1.getD r 0) = 0) ∧
  (∀ j, acc.2.1.getD j 0 = if SL ≤ j ∧ j < acc.2.2.2 then -1 else 0)

theorem artLoop_congr {N numCols SL : Nat} {T1 : List Row} {base0 : List Nat} {S S' : Nat → Prop}
    {acc : List Row × Row × List Nat × Nat} (h : ArtLoopInv N numCols SL T1 base0 S acc) (hS : ∀ r, S r ↔ S' r) :
    ArtLoopInv N numCols SL T1 base0 S' acc := by
  have : S = S' := funext fun r => propext (hS r)
  rw [← this]; exact h

/-- one more row `i` (not yet in `S`) receives the artificial column `ai` -/
theorem artLoop_step {N numCols SL : Nat} {T1 : List Row} {base0 : List Nat} {S : Nat → Prop}
    (hzero : ∀ r, r < N → ∀ col, SL ≤ col → (T1.getD r []).get col = 0)
    (T : List Row) (cst : Row) (bs : List Nat) (ai : Nat)
    (h : ArtLoopInv N numCols SL T1 base0 S (T, cst, bs, ai)) (i : Nat) (hi : i < N) (hnS : ¬ S i)
    (hai : ai < numCols) :
    ArtLoopInv N numCols SL T1 base0 (fun r => S r ∨ r = i)
      (T.set i ((T.getD i []).set ai 1), cst.set ai (-1), bs.set i ai, ai + 1) := by
  obtain ⟨a1, a2, a3, a5, a6, a7, a8, a9, a10⟩ := h
  simp only at a1 a2 a3 a5 a6 a7 a8 a9 a10
  have hiT : i < T.length := by rw [a1]; exact hi
  have hiB : i < bs.length := by rw [a2]; exact hi
  obtain ⟨hTi, hbi⟩ := a8 i hi hnS
  have hlen_i : (T.getD i []).length = numCols := a6 i hi
  have hget_i : ∀ col, Row.get ((T.getD i []).set ai 1) col = if col = ai then 1 else (T.getD i []).get col := by
    intro col
    unfold Row.get
    rw [getD_set]
    by_cases hc : col = ai
    · rw [if_pos ⟨hc, by rw [hlen_i]; omega⟩, if_pos hc]
    · rw [if_neg (fun a => hc a.1), if_neg hc]
  refine ⟨by simp only [List.length_set]; exact a1, by simp only [List.length_set]; exact a2,
    by simp only [List.length_set]; exact a3, by simp only; omega, ?_, ?_, ?_, ?_, ?_⟩
  · intro r hr
    simp only
    rw [getD_set_of_lt _ _ _ _ hiT]
    split
    · rw [List.length_set]; exact hlen_i
    · exact a6 r hr
  · intro r hr hSr
    simp only
    rw [getD_set_of_lt _ _ _ _ hiT, getD_set_of_lt _ _ _ _ hiB]
    by_cases hreq : r = i
    · rw [if_pos hreq, if_pos hreq]
      refine ⟨a5, by omega, by rw [hget_i, if_pos rfl], fun col hcol => ?_⟩
      rw [hget_i, if_neg hcol, hTi, hreq]
    · rw [if_neg hreq, if_neg hreq]
      have hSr' : S r := by
        rcases hSr with h | h
        · exact h
        · exact absurd h hreq
      obtain ⟨b1, b2, b3, b4⟩ := a7 r hr hSr'
      exact ⟨b1, by omega, b3, b4⟩
  · intro r hr hnot
    simp only
    have hreq : r ≠ i := fun h => hnot (Or.inr h)
    rw [getD_set_of_lt _ _ _ _ hiT, getD_set_of_lt _ _ _ _ hiB, if_neg hreq, if_neg hreq]
    exact a8 r hr (fun h => hnot (Or.inl h))
  · intro r r' hr hr' hne hSr
    simp only
    rw [getD_set_of_lt _ _ _ _ hiT, getD_set_of_lt _ _ _ _ hiB]
    by_cases hreq : r = i
    · rw [if_pos hreq]
      have hr'i : r' ≠ i := fun h => hne (hreq.trans h.symm)
      rw [if_neg hr'i]
      by_cases hcase : S r'
      · obtain ⟨b1, b2, b3, b4⟩ := a7 r' hr' hcase
        rw [b4 ai (by omega)]
        exact hzero r' hr' ai a5
      · rw [(a8 r' hr' hcase).1]
        exact hzero r' hr' ai a5
    · rw [if_neg hreq]
      have hSr' : S r := by
        rcases hSr with h | h
        · exact h
        · exact absurd h hreq
      obtain ⟨b1, b2, b3, b4⟩ := a7 r hr hSr'
      by_cases hr'i : r' = i
      · rw [if_pos hr'i, hget_i, if_neg (by omega)]
        exact a9 r i hr hi (by omega) hSr'
      · rw [if_neg hr'i]
        exact a9 r r' hr hr' hne hSr'
  · intro j
    simp only
    rw [getD_set, a10 j]
    by_cases hj : j = ai
    · rw [if_pos ⟨hj, by rw [a3]; omega⟩, if_pos (by omega)]
    · rw [if_neg (fun a => hj a.1)]
      by_cases h1 : SL ≤ j ∧ j < ai
      · rw [if_pos h1, if_pos (by omega)]
      · rw [if_neg h1, if_neg (by omega)]

/-- the loop over the rows made unfeasible by re-merging -/
theorem artLoop_foldl {N numCols SL : Nat} {T1 : List Row} {base0 : List Nat}
    (hzero : ∀ r, r < N → ∀ col, SL ≤ col → (T1.getD r []).get col = 0) :
    ∀ (unf : List Nat) (S : Nat → Prop) (acc : List Row × Row × List Nat × Nat),
      ArtLoopInv N numCols SL T1 base0 S acc → (∀ r, r ∈ unf → r < N ∧ ¬ S r) → unf.Nodup →
      acc.2.2.2 + unf.length ≤ numCols - 1 → 1 ≤ numCols →
      ArtLoopInv N numCols SL T1 base0 (fun r => S r ∨ r ∈ unf)
        (unf.foldl (fun (acc : List Row × Row × List Nat × Nat) r =>
          let (T, cost, base, ai) := acc
          (T.set r ((T.getD r []).set ai 1), cost.set ai (-1), base.set r ai, ai + 1)) acc) ∧
      (unf.foldl (fun (acc : List Row × Row × List Nat × Nat) r =>
          let (T, cost, base, ai) := acc
          (T.set r ((T.getD r []).set ai 1), cost.set ai (-1), base.set r ai, ai + 1)) acc).2.2.2 =
        acc.2.2.2 + unf.length := by
  intro unf
  induction unf with
  | nil =>
    intro S acc h _ _ _ _
    exact ⟨artLoop_congr h (fun r => by simp), rfl⟩
  | cons i unf ih =>
    intro S acc h hmem hnd hle hnc
    obtain ⟨T, cst, bs, ai⟩ := acc
    simp only [List.length_cons] at hle
    rw [List.foldl_cons]
    have hi := hmem i (List.mem_cons_self)
    have hnd' := List.nodup_cons.mp hnd
    have hstep := artLoop_step hzero T cst bs ai h i hi.1 hi.2 (by omega)
    have := ih (fun r => S r ∨ r = i) _ hstep
      (fun r hr => ⟨(hmem r (List.mem_cons_of_mem _ hr)).1, fun hh => by
        rcases hh with hh | hh
        · exact (hmem r (List.mem_cons_of_mem _ hr)).2 hh
        · rw [hh] at hr; exact hnd'.1 hr⟩)
      hnd'.2 (by simp only; omega) hnc
    refine ⟨artLoop_congr this.1 (fun r => ?_), ?_⟩
    · rw [List.mem_cons]; exact or_assoc
    · rw [this.2]; simp only [List.length_cons]; omega

/-- **both loops of `ppcArtificials`**: when the number of artificial columns reserved equals the number of rows that
    need one, exactly the rows `unf` and the rows `≥ oldRows` not worked out receive one, up to column `numCols - 1` -/
theorem artLoop_spec (oldRows N numCols SL : Nat) (unf : List Nat) (worked : List Bool) (T1 : List Row)
    (base0 : List Nat) (hoN : oldRows ≤ N) (hT : T1.length = N) (hB : base0.length = N)
    (hrows : ∀ r, r < N → (T1.getD r []).length = numCols)
    (hzero : ∀ r, r < N → ∀ col, SL ≤ col → (T1.getD r []).get col = 0)
    (hunf : ∀ r, r ∈ unf → r < oldRows) (hnd : unf.Nodup)
    (hcount : SL + unf.length + remCount N worked oldRows = numCols - 1) (hnc : 1 ≤ numCols) :
    ArtLoopInv N numCols SL T1 base0
      (fun r => r ∈ unf ∨ (oldRows ≤ r ∧ r < N ∧ worked.getD r false = false))
      (ppcArtificials unf oldRows N worked T1 (zeros numCols) base0 SL) ∧
    (ppcArtificials unf oldRows N worked T1 (zeros numCols) base0 SL).2.2.2 = numCols - 1 := by
  unfold ppcArtificials
  simp only
  have hinit : ArtLoopInv N numCols SL T1 base0 (fun _ => False) (T1, zeros numCols, base0, SL) := by
    refine ⟨hT, hB, by simp [zeros], le_refl _, hrows, fun r _ hr => hr.elim, fun r _ _ => ⟨rfl, rfl⟩,
      fun r r' _ _ _ hr => hr.elim, fun j => ?_⟩
    show (zeros numCols).getD j 0 = if SL ≤ j ∧ j < SL then -1 else 0
    rw [zeros_getD, if_neg (by omega)]
  obtain ⟨f1, f2⟩ := artLoop_foldl hzero unf (fun _ => False) (T1, zeros numCols, base0, SL) hinit
    (fun r hr => ⟨by have := hunf r hr; omega, fun h => h⟩) hnd (by simp only; omega) hnc
  simp only at f2
  generalize unf.foldl (fun (acc : List Row × Row × List Nat × Nat) r =>
          let (T, cost, base, ai) := acc
          (T.set r ((T.getD r []).set ai 1), cost.set ai (-1), base.set r ai, ai + 1))
          (T1, zeros numCols, base0, SL) = acc0 at f1 f2 ⊢
  have key := fwdFold_inv
    (fun (i : Nat) (acc : List Row × Row × List Nat × Nat) =>
      ArtLoopInv N numCols SL T1 base0
        (fun r => r ∈ unf ∨ (oldRows ≤ r ∧ r < i ∧ worked.getD r false = false)) acc ∧
      acc.2.2.2 + remCount N worked i = numCols - 1)
    (fun i (acc : List Row × Row × List Nat × Nat) =>
      let (T, cost, base, ai) := acc
      if worked.getD i false then acc
      else (T.set i ((T.getD i []).set ai 1), cost.set ai (-1), base.set i ai, ai + 1))
    (N - oldRows) oldRows acc0
    ⟨artLoop_congr f1 (fun r => by
        constructor
        · rintro (h | h)
          · exact h.elim
          · exact Or.inl h
        · rintro (h | ⟨h1, h2, _⟩)
          · exact Or.inr h
          · omega), by rw [f2]; exact hcount⟩
    (by
      intro i hoi hi acc ⟨inv, cnt⟩
      have hi : i < N := by omega
      obtain ⟨T, cst, bs, ai⟩ := acc
      simp only at cnt ⊢
      have hrem := remCount_step N worked i hi
      by_cases hw : worked.getD i false = true
      · simp only [hw, if_true]
        rw [hw] at hrem
        simp only [if_true, Nat.zero_add] at hrem
        refine ⟨artLoop_congr inv (fun r => ?_), by rw [← hrem]; exact cnt⟩
        constructor
        · rintro (h | ⟨h1, h2, h3⟩)
          · exact Or.inl h
          · exact Or.inr ⟨h1, by omega, h3⟩
        · rintro (h | ⟨h1, h2, h3⟩)
          · exact Or.inl h
          · have : r ≠ i := by intro h; rw [h, hw] at h3; cases h3
            exact Or.inr ⟨h1, by omega, h3⟩
      · have hw' : worked.getD i false = false := by simpa using hw
        simp only [hw', Bool.false_eq_true, if_false]
        rw [hw'] at hrem
        simp only [Bool.false_eq_true, if_false] at hrem
        have hstep := artLoop_step hzero T cst bs ai inv i hi (by
          rintro (h | ⟨_, h2, _⟩)
          · have := hunf i h; omega
          · omega) (by omega)
        refine ⟨artLoop_congr hstep (fun r => ?_), by omega⟩
        constructor
        · rintro ((h | ⟨h1, h2, h3⟩) | h)
          · exact Or.inl h
          · exact Or.inr ⟨h1, by omega, h3⟩
          · exact Or.inr ⟨by omega, by omega, by rw [h]; exact hw'⟩
        · rintro (h | ⟨h1, h2, h3⟩)
          · exact Or.inl (Or.inl h)
          · by_cases hri : r = i
            · exact Or.inr hri
            · exact Or.inl (Or.inr ⟨h1, by omega, h3⟩))
  rw [show oldRows + (N - oldRows) = N by omega, remCount_end, Nat.add_zero] at key
  exact key

theorem artificials_struct (N numCols SL : Nat) (worked : List Bool) (T1 : List Row) (base0 : List Nat)
    (hT : T1.length = N) (hB : base0.length = N) (hrows : ∀ r, r < N → (T1.getD r []).length = numCols)
    (hzero : ∀ r, r < N → ∀ col, SL ≤ col → (T1.getD r []).get col = 0)
    (hcount : SL + remCount N worked 0 = numCols - 1) (hnc : 1 ≤ numCols) :
    ArtOut N numCols SL worked T1 base0 (ppcArtificials [] 0 N worked T1 (zeros numCols) base0 SL) := by
  obtain ⟨⟨k1, k2, k3, -, k6, k7, k8, k9, k10⟩, k4⟩ :=
    artLoop_spec 0 N numCols SL [] worked T1 base0 (Nat.zero_le _) hT hB hrows hzero (fun _ h => nomatch h)
      List.nodup_nil hcount hnc
  refine ⟨k1, k2, k3, k4, k6, fun r hr hw => ?_, fun r hr hw => ?_, fun r r' hr hr' hne hw => ?_, fun j => ?_⟩
  · obtain ⟨b1, b2, b3, b4⟩ := k7 r hr (Or.inr ⟨Nat.zero_le _, hr, hw⟩)
    exact ⟨b1, lt_of_lt_of_eq b2 k4, b3, b4⟩
  · apply k8 r hr
    rintro (h | ⟨-, -, h3⟩)
    · cases h
    · rw [hw] at h3; cases h3
  · exact k9 r r' hr hr' hne (Or.inr ⟨Nat.zero_le _, hr, hw⟩)
  · rw [k10 j, k4]

/-!
## the tableau set up for a fresh problem holds a feasible basis (`CanonTB`)

`setup_canonTB`: with the flags only on inequalities that hold at the origin (`SatOK`) and as many artificial
columns reserved as rows not worked out (`numCols = SL + (N − #flags) + 1`, the arithmetic of :803–:822), the
tableau after insertion, sign normalisation and the artificial columns is canonical and feasible: a worked row's
basic variable is its slack (value = the inhomogeneous term ≥ 0), every other row's is its artificial column
(value = −t_0 ≥ 0 after the sign normalisation); `end_artificials = numCols − 1`; the first-phase cost row is −1
exactly on the artificial columns `[SL, numCols − 1)`.
-/
theorem normRow_get (r : Row) (col : Nat) :
    (normRow r).get col = if r.get 0 > 0 then -(r.get col) else r.get col := by
  unfold normRow
  split
  · unfold Row.get
    rw [List.getD_eq_getElem?_getD, List.getElem?_map, List.getD_eq_getElem?_getD]
    cases r[col]? <;> simp
  · rfl

namespace InsCtx
variable (C : InsCtx)

theorem artOut_spec (hsat : C.SatOK) (hlenS : C.isSat.length = C.pend.length)
    (hnc : C.numCols = C.SL + (C.N - C.isSat.count true) + 1) :
    ArtOut C.N C.numCols C.SL C.fin.worked (ppcNormalizeSigns C.fin.T) C.fin.base C.artOut := by
  obtain ⟨inv, invS⟩ := C.insert_specS hsat
  have hk : C.fin.k = 0 := C.fin_k
  have hsl : C.fin.slackIndex = C.V := by have := inv.sl_eq; simpa using this
  apply artificials_struct
  · rw [normalize_length]; exact inv.lenT
  · exact inv.lenB
  · intro r hr
    rw [normalize_getD, normRow_length]
    exact (inv.rows r (by omega) hr).1
  · intro r hr col hcol
    rw [normalize_getD, normRow_get]
    have := (inv.rows r (by omega) hr).2 col (Or.inr hcol)
    split
    · rw [this]; rfl
    · exact this
  · -- the count
    have h1 : remCount C.N C.fin.worked 0 = C.N - C.fin.worked.count true := by
      unfold remCount
      rw [List.drop_zero, ← invS.w_len, countP_not_range]
    have h2 : C.fin.worked.count true = C.isSat.count true := by
      rw [invS.cnt]
      unfold wcount
      rw [List.drop_zero, ← hlenS, count_true_range]
    rw [h1, h2, hnc]; omega
  · rw [hnc]; omega

/-- **the set-up tableau of a fresh problem is canonical and feasible** -/
theorem setup_canonTB (hsat : C.SatOK) (hlenS : C.isSat.length = C.pend.length)
    (hnc : C.numCols = C.SL + (C.N - C.isSat.count true) + 1) :
    CanonTB C.artOut.1 C.artOut.2.2.1 C.numCols := by
  obtain ⟨inv, invS⟩ := C.insert_specS hsat
  have art := C.artOut_spec hsat hlenS hnc
  have hk : C.fin.k = 0 := C.fin_k
  have hsl : C.fin.slackIndex = C.V := by have := inv.sl_eq; simpa using this
  have hV1 : 1 ≤ C.V := by unfold V; omega
  have hSLV : C.V ≤ C.SL := by unfold SL; omega
  have hSLn : C.SL ≤ C.numCols - 1 := by rw [hnc]; omega
  -- facts about a worked row
  have worked_facts : ∀ r, r < C.N → C.fin.worked.getD r false = true →
      C.V ≤ C.fin.base.getD r 0 ∧ C.fin.base.getD r 0 < C.SL ∧
      (C.fin.T.getD r []).get (C.fin.base.getD r 0) = -1 ∧ 0 ≤ (C.fin.T.getD r []).get 0 := by
    intro r hr hw
    have hb := (invS.w_iff r (by omega) hr).mp hw
    obtain ⟨o1, o2⟩ := invS.own r (by omega) hr hb
    rcases inv.base r hr with h0 | ⟨h1, h2⟩
    · exact absurd h0 hb
    · exact ⟨by rw [← hsl]; exact h1, h2, o1, o2⟩
  have zero_hi : ∀ r, r < C.N → ∀ col, C.SL ≤ col → ((ppcNormalizeSigns C.fin.T).getD r []).get col = 0 := by
    intro r hr col hcol
    rw [normalize_getD, normRow_get]
    have := (inv.rows r (by omega) hr).2 col (Or.inr hcol)
    split
    · rw [this]; rfl
    · exact this
  have hN : C.artOut.1.length = C.N := art.lenT
  constructor
  · rw [art.lenB, art.lenT]
  · rw [hnc]; omega
  · intro r hr; rw [hN] at hr; exact art.rowLen r hr
  · intro r hr
    rw [hN] at hr
    cases hw : C.fin.worked.getD r false
    · obtain ⟨a1, a2, -, -⟩ := art.art r hr hw
      exact ⟨by omega, a2⟩
    · obtain ⟨-, k2⟩ := art.keep r hr hw
      obtain ⟨w1, w2, -, -⟩ := worked_facts r hr hw
      rw [k2]; omega
  · intro r hr
    rw [hN] at hr
    cases hw : C.fin.worked.getD r false
    · obtain ⟨-, -, a3, -⟩ := art.art r hr hw
      rw [a3]; decide
    · obtain ⟨k1, k2⟩ := art.keep r hr hw
      obtain ⟨-, -, w3, -⟩ := worked_facts r hr hw
      rw [k1, k2, normalize_getD, normRow_get, w3]
      split <;> decide
  · intro i j hi hj hij
    rw [hN] at hi hj
    cases hwi : C.fin.worked.getD i false
    · exact art.other i j hi hj hij hwi
    · obtain ⟨-, ki2⟩ := art.keep i hi hwi
      obtain ⟨w1, w2, -, -⟩ := worked_facts i hi hwi
      have hbi := (invS.w_iff i (by omega) hi).mp hwi
      have hz : ((ppcNormalizeSigns C.fin.T).getD j []).get (C.fin.base.getD i 0) = 0 := by
        rw [normalize_getD, normRow_get]
        have := invS.other i j (by omega) hi (by omega) hj hij hbi
        split
        · rw [this]; rfl
        · exact this
      rw [ki2]
      cases hwj : C.fin.worked.getD j false
      · obtain ⟨a1, -, -, a4⟩ := art.art j hj hwj
        rw [a4 _ (by omega)]; exact hz
      · rw [(art.keep j hj hwj).1]; exact hz
  · intro r hr
    rw [hN] at hr
    cases hw : C.fin.worked.getD r false
    · obtain ⟨-, a2, -, a4⟩ := art.art r hr hw
      rw [a4 _ (by omega)]; exact zero_hi r hr _ hSLn
    · rw [(art.keep r hr hw).1]; exact zero_hi r hr _ hSLn
  · intro r hr
    rw [hN] at hr
    cases hw : C.fin.worked.getD r false
    · obtain ⟨a1, -, a3, a4⟩ := art.art r hr hw
      rw [a3, a4 0 (by omega), normalize_getD, normRow_get]
      generalize (C.fin.T.getD r []).get 0 = k0
      by_cases hpos : k0 > 0
      · rw [if_pos hpos]
        have : (0 : Rat) < (k0 : Rat) := by exact_mod_cast hpos
        push_cast; rw [div_one]; linarith only [this]
      · rw [if_neg hpos]
        have : (k0 : Rat) ≤ 0 := by exact_mod_cast (not_lt.mp hpos)
        push_cast; rw [div_one]; linarith only [this]
    · obtain ⟨k1, k2⟩ := art.keep r hr hw
      obtain ⟨w1, -, w3, w4⟩ := worked_facts r hr hw
      rw [k1, k2, normalize_getD, normRow_get, normRow_get, w3]
      generalize (C.fin.T.getD r []).get 0 = k0 at w4 ⊢
      by_cases hpos : k0 > 0
      · rw [if_pos hpos, if_pos hpos]
        have : (0 : Rat) < (k0 : Rat) := by exact_mod_cast hpos
        push_cast; norm_num; linarith
      · rw [if_neg hpos, if_neg hpos]
        have h0 : k0 = 0 := by omega
        rw [h0]; norm_num

end InsCtx

end PPLV.Solver.Pend

import PPLV.Solver.PIPCoreProofsMain6
import PPLV.Solver.PIPCoreProofsLex7
/-!
# end-to-end for the REPAIRED solver (`solveGo`, fix of KF-C07-12): both halves

`solveGo_correct`: whenever the repaired `solve` returns (`.done r`, any fuel), then at every parameter vector
the call is responsible for: a point is THE lexicographic minimum, and bottom means that the node has no
feasible (non-negative integer) valuation.
-/
namespace PPLV.PIPCore

/-- what the result must be at `q` -/
def Claim (nd : SolNode) (q : List Int) : Option (List Int) → Prop
  | some x => IsLexMin nd q x
  | none => Infeasible nd q

theorem claim_of_feasible_iff {nd nd' : SolNode} (hns : nd'.tab.ns = nd.tab.ns) {q q' : List Int}
    (h : ∀ v, Feasible nd' v q' ↔ Feasible nd v q) {o : Option (List Int)} : Claim nd' q' o → Claim nd q o := by
  cases o with
  | some x => exact isLexMin_of_feasible_iff hns h
  | none =>
    rintro hinf ⟨v, hv⟩
    exact hinf ⟨v, (h v).mpr hv⟩

theorem claim_congr {nd nd' : SolNode} (h1 : nd'.tab = nd.tab) (h2 : nd'.varRow = nd.varRow)
    (h3 : nd'.varColumn = nd.varColumn) (h4 : nd'.mapping = nd.mapping) {q : List Int} {o : Option (List Int)} :
    Claim nd' q o → Claim nd q o :=
  claim_of_feasible_iff (by rw [h1]) (fun v => feasible_congr h1 h2 h3 h4 v q)

theorem infeasible_congr {nd nd' : SolNode} (h1 : nd'.tab = nd.tab) (h2 : nd'.varRow = nd.varRow)
    (h3 : nd'.varColumn = nd.varColumn) (h4 : nd'.mapping = nd.mapping) {q : List Int} :
    Infeasible nd q → Infeasible nd' q := by
  rintro hinf ⟨v, hv⟩
  exact hinf ⟨v, (feasible_congr h1 h2 h3 h4 v q).mp hv⟩

/-- the invariant of the repaired loop: `Inv'` and "where the node's own constraints fail, the node is infeasible" -/
structure InvR (S : List Int → Prop) (n0 : Nat) (nd : SolNode) (ctx : Mat) : Prop where
  base : Inv' S n0 nd ctx
  inf : ∀ qpre, S qpre → consHold nd.cons (extendArts nd.arts qpre) = false →
    Infeasible nd (extendArts nd.arts qpre)

/-! ### `choosePivotR` -/

theorem choosePivotR_spec (ctl : Ctl) (nd : SolNode) (sg : List RowSign) :
    ∀ (is : List Nat) (st : Option (Nat × Nat)),
      (∀ i ∈ is, i < nd.tab.s.length) →
      (∀ a b, st = some (a, b) → a < nd.tab.s.length ∧
        findLexicoMinimalColumn nd.tab.s nd.mapping nd.basis (mrow nd.tab.s a) 0 = some b) →
      (∀ pi pj, choosePivotR ctl nd sg is st = .found pi pj →
        pi < nd.tab.s.length ∧
          findLexicoMinimalColumn nd.tab.s nd.mapping nd.basis (mrow nd.tab.s pi) 0 = some pj) ∧
      (∀ i, choosePivotR ctl nd sg is st = .stuck i →
        i < nd.tab.s.length ∧ hasPositive (mrow nd.tab.s i) = false) := by
  intro is
  induction is with
  | nil =>
    intro st _ hst
    cases st with
    | none => exact ⟨fun _ _ h => by simp [choosePivotR] at h, fun _ h => by simp [choosePivotR] at h⟩
    | some p =>
      obtain ⟨a, b⟩ := p
      refine ⟨fun pi pj h => ?_, fun _ h => by simp [choosePivotR] at h⟩
      simp only [choosePivotR] at h
      injection h with h1 h2
      subst h1; subst h2
      exact hst a b rfl
  | cons i is ih =>
    intro st his hst
    have hi : i < nd.tab.s.length := his i (List.mem_cons_self ..)
    have his' : ∀ k ∈ is, k < nd.tab.s.length := fun k hk => his k (List.mem_cons_of_mem _ hk)
    by_cases hs : signGet sg i ≠ .negative
    · rw [choosePivotR, if_pos hs]
      exact ih st his' hst
    · rw [choosePivotR, if_neg hs]
      cases hj : findLexicoMinimalColumn nd.tab.s nd.mapping nd.basis (mrow nd.tab.s i) 0 with
      | none =>
        refine ⟨fun _ _ h => by simp at h, fun k h => ?_⟩
        injection h with h
        subst h
        exact ⟨hi, flmc_none_no_positive _ _ _ _ hj⟩
      | some j =>
        have hnew : ∀ a b, (some (i, j) : Option (Nat × Nat)) = some (a, b) → a < nd.tab.s.length ∧
            findLexicoMinimalColumn nd.tab.s nd.mapping nd.basis (mrow nd.tab.s a) 0 = some b := by
          intro a b hab
          injection hab with hab
          injection hab with ha hb
          subst ha; subst hb
          exact ⟨hi, hj⟩
        have key : ∀ (better : Bool),
            (∀ pi pj, (if better = true then
                (if ctl.piv = 0 then PivR.found i j else choosePivotR ctl nd sg is (some (i, j)))
              else choosePivotR ctl nd sg is st) = .found pi pj →
              pi < nd.tab.s.length ∧
                findLexicoMinimalColumn nd.tab.s nd.mapping nd.basis (mrow nd.tab.s pi) 0 = some pj) ∧
            (∀ k, (if better = true then
                (if ctl.piv = 0 then PivR.found i j else choosePivotR ctl nd sg is (some (i, j)))
              else choosePivotR ctl nd sg is st) = .stuck k →
              k < nd.tab.s.length ∧ hasPositive (mrow nd.tab.s k) = false) := by
          intro better
          cases better with
          | true =>
            simp only [if_true]
            by_cases hp : ctl.piv = 0
            · rw [if_pos hp]
              refine ⟨fun pi pj h => ?_, fun _ h => by simp at h⟩
              injection h with h1 h2
              subst h1; subst h2
              exact ⟨hi, hj⟩
            · rw [if_neg hp]
              exact ih _ his' hnew
          | false =>
            simp only [Bool.false_eq_true, if_false]
            exact ih st his' hst
        exact key _

/-- `findINeg` returns a mixed row without positive variable coefficient -/
theorem findINeg_spec2 (T : Tableau) (sg : List RowSign) :
    ∀ (is : List Nat) (st : Option (Nat × Int)) (i : Nat) (sc : Int),
      (∀ a b, st = some (a, b) → hasPositive (mrow T.s a) = false) →
      findINeg T sg is st = some (i, sc) → hasPositive (mrow T.s i) = false := by
  intro is
  induction is with
  | nil =>
    intro st i sc hst h
    simp only [findINeg] at h
    exact hst i sc h
  | cons a is ih =>
    intro st i sc hst h
    by_cases hm : signGet sg a ≠ .mixed
    · rw [findINeg, if_pos hm] at h
      exact ih st i sc hst h
    · rw [findINeg, if_neg hm] at h
      by_cases hp : hasPositive (mrow T.s a) = true
      · rw [if_pos hp] at h
        exact ih st i sc hst h
      · rw [if_neg hp] at h
        have hp' : hasPositive (mrow T.s a) = false := by
          cases hh : hasPositive (mrow T.s a) with
          | true => exact absurd hh hp
          | false => rfl
        have hnew : ∀ (s : Int) a' b, (some (a, s) : Option (Nat × Int)) = some (a', b) →
            hasPositive (mrow T.s a') = false := by
          intro s a' b hab
          injection hab with hab
          injection hab with ha _
          subst ha
          exact hp'
        dsimp only at h
        split at h
        · exact ih _ i sc (hnew _) h
        · split at h
          · exact ih _ i sc (hnew _) h
          · exact ih _ i sc hst h

end PPLV.PIPCore

import PPLV.Solver.BBSound

/-!
# termination of the modelled `solve_mip` when the integer variables are boxed

In general the recursion need not terminate (e.g. `2x − 2y = 1`, `x`, `y` integer and free: every
node has a fractional vertex).  When every integer variable lies between two integers on the
relaxation of the node, each branching step shrinks the box of the branching variable by at least
one, so `fuel = (sum of the box widths) + 1` suffices — provided the LP oracle answers at all.
-/
namespace PPLV.Solver.BB
open PPLV.Lin PPLV.Solver

/-- `lo i ≤ x_i ≤ hi i` for every integer variable on the relaxation of the node -/
def Boxed (N : Node) (lo hi : Nat → Int) : Prop :=
  ∀ i ∈ N.ivars, ∀ x, Sat N.toProblem.cs x → (lo i : Rat) ≤ x i ∧ x i ≤ (hi i : Rat)

def width (ivars : List Nat) (lo hi : Nat → Int) : Nat := (ivars.map fun i => (hi i - lo i).toNat).sum

theorem width_update_lt (ivars : List Nat) (lo hi lo' hi' : Nat → Int) (i : Nat) (hi_mem : i ∈ ivars)
    (hle : ∀ j, (hi' j - lo' j).toNat ≤ (hi j - lo j).toNat) (hlt : (hi' i - lo' i).toNat < (hi i - lo i).toNat) :
    width ivars lo' hi' < width ivars lo hi := by
  unfold width
  induction ivars with
  | nil => cases hi_mem
  | cons v vs ih =>
    simp only [List.map_cons, List.sum_cons]
    have hrest : (vs.map fun j => (hi' j - lo' j).toNat).sum ≤ (vs.map fun j => (hi j - lo j).toNat).sum := by
      clear ih hi_mem
      induction vs with
      | nil => simp
      | cons u us ihu => simp only [List.map_cons, List.sum_cons]; have := hle u; omega
    rcases List.mem_cons.mp hi_mem with h | h
    · subst h; omega
    · have := ih h; have := hle v; omega

theorem width_pos (ivars : List Nat) (lo hi : Nat → Int) (i : Nat) (hi_mem : i ∈ ivars) (h : lo i < hi i) :
    1 ≤ width ivars lo hi := by
  unfold width
  induction ivars with
  | nil => cases hi_mem
  | cons v vs ih =>
    simp only [List.map_cons, List.sum_cons]
    rcases List.mem_cons.mp hi_mem with h' | h'
    · subst h'; have : 1 ≤ (hi i - lo i).toNat := by omega
      omega
    · have := ih h'; omega

/-- the oracle answers at every well-formed node -/
def Answers (lp : Oracle) : Prop := ∀ N, N.toProblem.WF → ∃ r, lp N = some r

theorem solveMip_terminates (lp : Oracle) (hO : OracleOK lp) (hT : Answers lp) :
    ∀ (fuel : Nat) (N : Node) (inc : Inc) (lo hi : Nat → Int), N.toProblem.WF → Boxed N lo hi →
      width N.ivars lo hi ≤ fuel → (solveMip lp (fuel + 1) inc N).isSome = true := by
  intro fuel
  induction fuel using Nat.strong_induction_on with
  | _ fuel ih =>
    intro N inc lo hi hwf hbox hw
    obtain ⟨r, hlp⟩ := hT N hwf
    have hc := hO N r hwf hlp
    rw [solveMip, hlp]
    simp only
    by_cases hunf : (r.mipStatus == Status.unfeasible) = true
    · rw [if_pos hunf]; rfl
    · rw [if_neg hunf]
      by_cases hpr : (r.mipStatus == Status.optimized && pruned N inc (objAt N r.pt)) = true
      · rw [if_pos hpr]; rfl
      · rw [if_neg hpr]
        have hp : 0 < r.pt.den ∧ Sat N.toProblem.cs r.pt.val := by
          cases r with
          | unfeasible => simp [LPResult.mipStatus] at hunf
          | unbounded p => exact ⟨hc.1, hc.2.1⟩
          | optimized p => exact ⟨hc.1, hc.2.1⟩
        cases hfn : firstNonInt N.ivars r.pt with
        | none => simp only; split <;> rfl
        | some i =>
          simp only
          obtain ⟨hi_mem, hni⟩ := firstNonInt_some N.ivars r.pt i hp.1 hfn
          obtain ⟨hlo, hhi⟩ := hbox i hi_mem r.pt.val hp.2
          set q := coord r.pt i with hq
          have hqv : q = r.pt.val i := rfl
          have hnq : ¬ ∃ z : Int, q = (z : Rat) := by rw [hqv]; exact hni
          -- lo i ≤ ⌊q⌋ < ⌈q⌉ ≤ hi i
          have h1 : lo i ≤ floorQ q := by
            rw [floorQ_eq]; exact Int.le_floor.mpr (by rw [hqv]; exact hlo)
          have h2 : ceilQ q ≤ hi i := by
            rw [ceilQ_eq]; exact Int.ceil_le.mpr (by rw [hqv]; exact hhi)
          have h3 := floor_lt_ceil_of_not_int q hnq
          have hpos : 1 ≤ width N.ivars lo hi := width_pos N.ivars lo hi i hi_mem (by omega)
          obtain ⟨fuel', rfl⟩ : ∃ k, fuel = k + 1 := ⟨fuel - 1, by omega⟩
          obtain ⟨hwfL, -⟩ := wf_addRow_branch N i (floorQ q) hwf hi_mem
          obtain ⟨-, hwfR⟩ := wf_addRow_branch N i (ceilQ q) hwf hi_mem
          -- the left child: hi i := ⌊q⌋
          have hboxL : Boxed (N.addRow (branchLe i (floorQ q))) lo (Function.update hi i (floorQ q)) := by
            intro j hj x hx
            rw [addRow_cs, Sat_append, sat_branchLe] at hx
            obtain ⟨a, b⟩ := hbox j hj x hx.1
            by_cases hji : j = i
            · subst hji; simp only [Function.update_self]; exact ⟨a, hx.2⟩
            · rw [Function.update_of_ne hji]; exact ⟨a, b⟩
          have hwL : width N.ivars lo (Function.update hi i (floorQ q)) < width N.ivars lo hi := by
            apply width_update_lt N.ivars lo hi lo _ i hi_mem
            · intro j
              by_cases hji : j = i
              · subst hji; simp only [Function.update_self]; omega
              · rw [Function.update_of_ne hji]
            · simp only [Function.update_self]; omega
          have hboxR : Boxed (N.addRow (branchGe i (ceilQ q))) (Function.update lo i (ceilQ q)) hi := by
            intro j hj x hx
            rw [addRow_cs, Sat_append, sat_branchGe] at hx
            obtain ⟨a, b⟩ := hbox j hj x hx.1
            by_cases hji : j = i
            · subst hji; simp only [Function.update_self]; exact ⟨hx.2, b⟩
            · rw [Function.update_of_ne hji]; exact ⟨a, b⟩
          have hwR : width N.ivars (Function.update lo i (ceilQ q)) hi < width N.ivars lo hi := by
            apply width_update_lt N.ivars lo hi _ hi i hi_mem
            · intro j
              by_cases hji : j = i
              · subst hji; simp only [Function.update_self]; omega
              · rw [Function.update_of_ne hji]
            · simp only [Function.update_self]; omega
          have eL := ih fuel' (by omega) (N.addRow (branchLe i (floorQ q))) inc lo _ hwfL hboxL (by
            show width N.ivars lo _ ≤ fuel'; omega)
          obtain ⟨⟨st1, inc1⟩, h1'⟩ := Option.isSome_iff_exists.mp eL
          rw [h1']
          simp only
          split
          · rfl
          · have eR := ih fuel' (by omega) (N.addRow (branchGe i (ceilQ q))) inc1 _ hi hwfR hboxR (by
              show width N.ivars _ hi ≤ fuel'; omega)
            obtain ⟨⟨st2, inc2⟩, h2'⟩ := Option.isSome_iff_exists.mp eR
            rw [h2']
            simp only
            split <;> rfl

end PPLV.Solver.BB

import PPLV.PolyOps.ProofsDims2

/-!
# selecting coordinates: `Generator::remove_space_dimensions`,
`Linear_System<Generator>::remove_space_dimensions`
-/
namespace PPLV.PolyOps
open PPLV.Lin


/-- the image of `S` under "new coordinate `idx` is old coordinate `kept[idx]`" -/
def selSet (kept : List Nat) (S : Set Val) : Set Val :=
  {w | ∃ x ∈ S, ∀ (idx : Nat) (h : idx < kept.length), w idx = x kept[idx]}

theorem sem_removeDims (ref : RefPoly) (vs : List Nat) (hwf : WF ref.n ref.cs) :
    sem (ref.removeDims vs).cs = selSet (otherVars ref.n vs) (sem ref.cs) := by
  ext w
  exact removeDims_spec ref vs hwf w

theorem selSet_empty (kept : List Nat) : selSet kept ∅ = ∅ := by
  ext w; simp [selSet]

theorem selSet_nil (S : Set Val) (h : S.Nonempty) : selSet [] S = Set.univ := by
  obtain ⟨x, hx⟩ := h
  ext w
  simp only [selSet, Set.mem_ofPred_eq, Set.mem_univ, iff_true]
  exact ⟨x, hx, fun idx h => absurd h (by simp)⟩

theorem selSet_range (n : Nat) (S : Set Val) (hS : CoordDet n S) : selSet (List.range n) S = S := by
  ext w
  simp only [selSet, Set.mem_ofPred_eq]
  constructor
  · rintro ⟨x, hx, hw⟩
    refine (hS w x fun j hj => ?_).mpr hx
    have := hw j (by simpa using hj)
    simpa using this
  · intro hw
    exact ⟨w, hw, fun idx h => by simp⟩

/-- the row with the coordinates `kept` selected -/
def Row.sel (kept : List Nat) (r : Row) : Row := { r with cf := kept.map fun j => r.cf.getD j 0 }

theorem sel_genWF (nnc : Bool) (n : Nat) (kept : List Nat) (r : Row) (h : r.genWF nnc n) :
    (r.sel kept).genWF nnc kept.length ∧ (r.isPoint nnc → (r.sel kept).isPoint nnc) := by
  obtain ⟨_, h2⟩ := h
  exact ⟨⟨by simp [Row.sel], h2⟩, id⟩

theorem getD_map_some (kept : List Nat) (k : Nat) (h : k < kept.length) :
    (kept.map some).getD k none = some kept[k] := by
  simp [List.getD_eq_getElem?_getD, h]

theorem getD_map_some_ge (kept : List Nat) (k : Nat) (h : kept.length ≤ k) :
    (kept.map some).getD k none = none := by
  simp [List.getD_eq_getElem?_getD, h]

theorem genSem_sel (nnc : Bool) (n : Nat) (kept : List Nat) (rows : List Row)
    (hwf : ∀ r ∈ rows, r.genWF nnc n) (hk : ∀ j ∈ kept, j < n) :
    genSem nnc kept.length (rows.map (Row.sel kept)) = selSet kept (genSem nnc n rows) := by
  have hsrc : ∀ k j, (kept.map some).getD k none = some j → j < n := by
    intro k j hkj
    by_cases hkl : k < kept.length
    · rw [getD_map_some kept k hkl] at hkj
      cases hkj
      exact hk _ (List.getElem_mem hkl)
    · rw [getD_map_some_ge kept k (by omega)] at hkj
      cases hkj
  refine Eq.trans ?_ (Eq.trans
    (kit_selectCoords nnc n kept.length (kept.map some) rows hwf (by simp) hsrc) ?_)
  · congr 1
    apply List.map_congr_left
    intro r _
    simp [Row.sel, List.map_map, Function.comp_def]
  · ext w
    simp only [selSet, Set.mem_ofPred_eq]
    refine exists_congr fun x => and_congr_right fun _ => ?_
    constructor
    · intro h idx hidx
      have := h idx hidx
      rw [getD_map_some kept idx hidx] at this
      exact this
    · intro h k hk'
      rw [getD_map_some kept k hk']
      exact h k hk'

/-! ### `dropCoords` is a selection -/

theorem zipIdx_filter_map (p : Nat → Bool) (l : List Int) (k : Nat) :
    ((l.zipIdx k).filter (fun x => p x.2)).map Prod.fst =
      ((List.range' k l.length).filter p).map (fun j => l.getD (j - k) 0) := by
  induction l generalizing k with
  | nil => simp
  | cons a t ih =>
    have htail : ((List.range' (k + 1) t.length).filter p).map (fun j => t.getD (j - (k + 1)) 0) =
        ((List.range' (k + 1) t.length).filter p).map (fun j => (a :: t).getD (j - k) 0) := by
      apply List.map_congr_left
      intro j hj
      have h1 := List.mem_range'_1.mp (List.mem_filter.mp hj).1
      have h2 : j - k = (j - (k + 1)) + 1 := by omega
      rw [h2, List.getD_cons_succ]
    simp only [List.zipIdx_cons, List.length_cons, List.range'_succ, List.filter_cons]
    by_cases hp : p k = true
    · simp only [hp, if_true, List.map_cons, Nat.sub_self, List.getD_cons_zero]
      rw [ih (k + 1), htail]
    · simp only [hp, Bool.false_eq_true, if_false]
      rw [ih (k + 1), htail]

theorem dropCoords_eq (vars : List Nat) (l : List Int) :
    dropCoords vars l = (otherVars l.length vars).map (fun j => l.getD j 0) := by
  have h := zipIdx_filter_map (fun i => !vars.contains i) l 0
  unfold dropCoords otherVars
  rw [List.range_eq_range']
  exact h

theorem otherVars_lt (n : Nat) (vs : List Nat) : ∀ j ∈ otherVars n vs, j < n :=
  fun j hj => ((mem_otherVars n vs j).mp hj).1

theorem otherVars_length (n : Nat) (vars : List Nat) (hnd : vars.Nodup) (hlt : ∀ v ∈ vars, v < n) :
    (otherVars n vars).length = n - vars.length := by
  have h1 := List.length_eq_countP_add_countP (fun j => vars.contains j) (l := List.range n)
  rw [List.countP_eq_length_filter, List.countP_eq_length_filter, List.length_range] at h1
  have h2 : ((List.range n).filter (fun j => vars.contains j)).Perm vars := by
    rw [List.perm_ext_iff_of_nodup (List.Nodup.sublist List.filter_sublist List.nodup_range) hnd]
    intro a
    simp only [List.mem_filter, List.mem_range, List.contains_iff_mem]
    exact ⟨fun h => h.2, fun h => ⟨hlt a h, h⟩⟩
  have h3 := h2.length_eq
  have h4 : (otherVars n vars).length =
      ((List.range n).filter (fun a => decide ¬(vars.contains a = true))).length := by
    unfold otherVars
    congr 1
    apply List.filter_congr
    intro x _
    cases hx : vars.contains x <;> simp
  omega

/-! ### `Linear_System<Generator>::remove_space_dimensions` -/

theorem filterMap_genRowRemoveDims (vars : List Nat) (rows : List Row) :
    rows.filterMap (genRowRemoveDims vars) =
      ((rows.map fun r => ({ r with cf := dropCoords vars r.cf } : Row)).filter
        (fun r => !(r.b == 0 && r.allHomZero))).map Row.strongNormalize := by
  induction rows with
  | nil => rfl
  | cons r rs ih =>
    rw [List.filterMap_cons, List.map_cons, List.filter_cons, ih]
    unfold genRowRemoveDims
    simp only
    cases h : ((({ r with cf := dropCoords vars r.cf } : Row).b == 0) &&
        ({ r with cf := dropCoords vars r.cf } : Row).allHomZero)
    · simp
    · simp

theorem gsRemoveDims_facts (nnc : Bool) (n : Nat) (vars : List Nat) (s : Sys)
    (hwf : ∀ r ∈ s.rows, r.genWF nnc n) :
    genSem nnc (otherVars n vars).length (gsRemoveDims vars s).rows =
        selSet (otherVars n vars) (genSem nnc n s.rows) ∧
    (∀ r ∈ (gsRemoveDims vars s).rows, r.genWF nnc (otherVars n vars).length) ∧
    ((∃ r ∈ s.rows, r.isPoint nnc) → ∃ r ∈ (gsRemoveDims vars s).rows, r.isPoint nnc) := by
  have hrows : (gsRemoveDims vars s).rows =
      ((s.rows.map (Row.sel (otherVars n vars))).filter
        (fun r => !(r.b == 0 && r.allHomZero))).map Row.strongNormalize := by
    show s.rows.filterMap (genRowRemoveDims vars) = _
    rw [filterMap_genRowRemoveDims]
    congr 2
    apply List.map_congr_left
    intro r hr
    show _ = Row.sel _ r
    unfold Row.sel
    rw [dropCoords_eq, (hwf r hr).1]
  have hwf1 : ∀ r ∈ s.rows.map (Row.sel (otherVars n vars)), r.genWF nnc (otherVars n vars).length := by
    intro r hr
    obtain ⟨r0, hr0, rfl⟩ := List.mem_map.mp hr
    exact (sel_genWF nnc n _ r0 (hwf r0 hr0)).1
  obtain ⟨f1, f2, f3⟩ := removeInvalid_rows_facts nnc _ _ hwf1
  obtain ⟨g1, g2, g3⟩ := strongNormalize_rows_facts nnc _ _ f2
  rw [hrows]
  refine ⟨by rw [g1, f1, genSem_sel nnc n _ s.rows hwf (otherVars_lt n vars)], g2, ?_⟩
  rintro ⟨r, hr, hpt⟩
  exact g3 (f3 ⟨_, List.mem_map.mpr ⟨r, hr, rfl⟩, (sel_genWF nnc n (otherVars n vars) r (hwf r hr)).2 hpt⟩)

end PPLV.PolyOps

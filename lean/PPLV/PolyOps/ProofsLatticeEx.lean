import PPLV.PolyOps.ProofsLattice7
import PPLV.PolyOps.ProofsLattice8
import PPLV.PolyOps.ProofsLattice10
import PPLV.PolyOps.ProofsLattice12
import PPLV.PolyOps.ProofsAffineEx

/-!
# C02 — lattice operators: the hypotheses of the row-level theorems are satisfiable

Concrete instances: the segment `0 ≤ x ≤ 1` (`exP`: both descriptions, not minimised; `exPm`: both
minimised, so that insertions are PENDING), the half-open NNC segment `0 < x ≤ 1` (`exN`), and the
theorems of `ProofsLattice*.lean` applied to them.
-/
namespace PPLV.PolyOps
open PPLV.Lin

/-- the generators of the segment -/
def exG : List Gen := [⟨.point, [0], 1⟩, ⟨.point, [1], 1⟩]

theorem exG_sem : GenSem 1 exG = sem exRef.cs := (exP_denotes.2 rfl).2.1 rfl rfl

theorem exP_denotesG : exP.Denotes (GenSem 1 exG) := by rw [exG_sem]; exact exP_denotes

/-- the segment, both descriptions minimised with a saturation matrix: insertions are pending -/
def exPm : Poly := { exP with st := ⟨false, true, true, true, true, true, false, false, false⟩ }

theorem exPm_wf : exPm.WF := by
  refine ⟨fun _ _ => exP_wf.cs_len rfl rfl, fun _ _ => exP_wf.gs_wf rfl rfl,
    fun _ _ => exP_wf.gs_pt rfl rfl, ?_, ?_, ?_, fun _ _ => Or.inl rfl, ?_⟩
  · intro h; simp [exPm] at h
  · intro h; simp [exPm] at h
  · intro h; simp [exPm] at h
  · intro h; simp [exPm, exP] at h

theorem exPm_denotes : exPm.Denotes (sem exRef.cs) :=
  ⟨fun h => by simp [exPm] at h, fun _ => ⟨fun _ _ => (exP_denotes.2 rfl).1 rfl rfl,
    fun _ _ => (exP_denotes.2 rfl).2.1 rfl rfl, fun h => by simp [exPm] at h⟩⟩

theorem exPm_denotesG : exPm.Denotes (GenSem 1 exG) := by rw [exG_sem]; exact exPm_denotes

/-! ### `intersection_assign` -/

/-- not minimised: `insertSys` -/
example : ∃ q, exP.intersection_assign exP = some q ∧ q.Denotes (sem (exRef.meet exRef).cs) := by
  exact exists_result rfl fun q hq =>
    intersection_assign_rows_correct exP exP q exRef exRef rfl rfl exP_wf exP_wf
    exP_denotes exP_denotes hq

/-- minimised: the rows of `y` become pending constraints -/
example : ∃ q, exPm.intersection_assign exP = some q ∧ q.st.cPend = true ∧
    q.Denotes (sem (exRef.meet exRef).cs) := by
  refine exists_result rfl fun q hq =>
    ⟨?_, intersection_assign_rows_correct exPm exP q exRef exRef rfl rfl exPm_wf exP_wf
    exPm_denotes exP_denotes hq⟩
  have : exPm.intersection_assign exP = some { exPm with
      cs := exPm.cs.insertPendingSys exP.cs.rows, st := { exPm.st with cPend := true } } := rfl
  rw [this] at hq
  rw [← Option.some.inj hq]

/-- with an argument marked empty -/
example : ∃ q, exP.intersection_assign exP.setEmpty = some q ∧
    q.Denotes (sem (exRef.meet (emptyP false 1)).cs) := by
  refine exists_result rfl fun q hq =>
    intersection_assign_rows_correct exP exP.setEmpty q exRef (emptyP false 1) rfl rfl
    exP_wf ?_ exP_denotes ?_ hq
  · exact ⟨fun h => (by cases h), fun h => (by cases h), fun h => (by cases h), fun h => (by cases h),
      fun h => (by cases h), fun h => (by cases h.1), fun h => (by cases h), fun h => (by cases h)⟩
  · apply denotes_setEmpty
    ext x
    simp only [Set.mem_empty_iff_false, iff_false]
    intro hx
    have := hx falseRow (by simp [emptyP])
    simp [falseRow, Con.sat, Con.eval] at this
    linarith

/-! ### `unconstrain` -/

example : ∃ q, exP.unconstrain [0] = some q ∧ q.Denotes (sem (exRef.unconstrain [0]).cs) ∧ q.WF := by
  exact exists_result rfl fun q hq =>
    ⟨unconstrain_rows_correct exP q [0] exRef rfl exRef_wf exP_wf (by decide) exP_denotes hq,
    unconstrain_rows_wf exP q [0] exP_wf (by decide) (fun _ => rfl) (fun h => by cases h) hq⟩

/-- the line is inserted as a pending generator -/
example : ∃ q, exPm.unconstrain [0] = some q ∧ q.Denotes (sem (exRef.unconstrain [0]).cs) ∧ q.WF := by
  exact exists_result rfl fun q hq =>
    ⟨unconstrain_rows_correct exPm q [0] exRef rfl exRef_wf exPm_wf (by decide) exPm_denotes hq,
    unconstrain_rows_wf exPm q [0] exPm_wf (by decide) (fun _ => rfl) (fun h => by cases h) hq⟩

/-! ### `poly_hull_assign` -/

example : ∃ q, exP.poly_hull_assign exPm = some q ∧ q.Denotes (GenSem 1 (hullGens [exG, exG])) ∧
    q.WF := by
  exact exists_result rfl fun q hq =>
    ⟨poly_hull_assign_rows_correct exP exPm q 1 exG exG rfl rfl rfl exP_wf exPm_wf (by decide)
      (by decide) (Or.inr ⟨⟨.point, [0], 1⟩, by simp [exG], rfl⟩) (Or.inr ⟨⟨.point, [0], 1⟩, by simp [exG], rfl⟩)
      exP_denotesG exPm_denotesG hq,
    poly_hull_assign_rows_wf exP exPm q rfl rfl exP_wf exPm_wf (fun _ => rfl) (fun h => by cases h) hq⟩

/-- pending insertion -/
example : ∃ q, exPm.poly_hull_assign exP = some q ∧ q.Denotes (GenSem 1 (hullGens [exG, exG])) ∧
    q.WF := by
  exact exists_result rfl fun q hq =>
    ⟨poly_hull_assign_rows_correct exPm exP q 1 exG exG rfl rfl rfl exPm_wf exP_wf (by decide)
      (by decide) (Or.inr ⟨⟨.point, [0], 1⟩, by simp [exG], rfl⟩) (Or.inr ⟨⟨.point, [0], 1⟩, by simp [exG], rfl⟩)
      exPm_denotesG exP_denotesG hq,
    poly_hull_assign_rows_wf exPm exP q rfl rfl exPm_wf exP_wf (fun _ => rfl) (fun h => by cases h) hq⟩

/-! ### `time_elapse_assign` -/

example : ∃ q, exP.time_elapse_assign exPm = some q ∧
    q.Denotes (GenSem 1 (timeElapseGens exG exG)) := by
  exact exists_result rfl fun q hq =>
    time_elapse_assign_rows_correct exP exPm q 1 exG exG rfl rfl rfl rfl exP_wf exPm_wf (by decide)
      (by decide) ⟨⟨.point, [0], 1⟩, by simp [exG], rfl⟩ ⟨⟨.point, [0], 1⟩, by simp [exG], rfl⟩ exP_denotesG exPm_denotesG hq

/-- the rows: the point `1` of `y` became the ray `1`; the origin was dropped -/
example : (exP.time_elapse_assign exPm).map (fun q => q.gs.rows) =
    some [⟨false, 1, [0], 0⟩, ⟨false, 1, [1], 0⟩, ⟨false, 0, [1], 0⟩] := by decide

example : ∃ q, exP.time_elapse_assign exP.setEmpty = some q ∧ q.Denotes ∅ := by
  exact exists_result rfl fun q hq =>
    time_elapse_assign_rows_empty exP exP.setEmpty q (Or.inr rfl) hq

/-! ### `generalized_affine_image` -/

/-- `x' ≤ -2x + 1` -/
example : ∃ q, exP.generalized_affine_image 0 .le exE 1 = some q ∧
    q.Denotes (sem (exRef.genAffineImage 0 .le exE 1).cs) := by
  exact exists_result rfl fun q hq =>
    generalized_affine_image_rows_correct exP q 0 .le exE 1 exRef rfl rfl exRef_wf exP_wf
    (by decide) rfl (by decide) exP_denotes hq

/-- `x' ≥ (-2x + 1)/(-1)`, the ray is a pending generator -/
example : ∃ q, exPm.generalized_affine_image 0 .ge exE (-1) = some q ∧
    q.Denotes (sem (exRef.genAffineImage 0 .ge exE (-1)).cs) := by
  exact exists_result rfl fun q hq =>
    generalized_affine_image_rows_correct exPm q 0 .ge exE (-1) exRef rfl rfl exRef_wf
    exPm_wf (by decide) rfl (by decide) exPm_denotes hq

/-- the rows for `x' ≤ -2x + 1`: the points `1`, `-1` and the ray `-1` -/
example : (exP.generalized_affine_image 0 .le exE 1).map (fun q => q.gs.rows) =
    some [⟨false, 1, [1], 0⟩, ⟨false, 1, [-1], 0⟩, ⟨false, 0, [-1], 0⟩] := by decide

/-! ### `topological_closure_assign` -/

/-- closed topology: nothing to do -/
example : ∃ q, exP.topological_closure_assign = some q ∧ q.Denotes (sem exRef.closure.cs) := by
  exact exists_result rfl fun q hq =>
    topological_closure_assign_rows_correct exP q exRef rfl exRef_wf exP_wf
    (Or.inr ⟨rfl, rfl⟩) exP_denotes hq

/-- the NNC half-open segment `0 < x ≤ 1`: constraints `x > 0` (epsilon coefficient `-1`),
    `1 - x ≥ 0`; generators: the point `1`, the closure point `0` -/
def exN : Poly :=
  { nnc := true, dim := 1,
    st := ⟨false, true, true, false, false, false, false, false, false⟩,
    cs := ⟨[⟨false, 0, [1], -1⟩, ⟨false, 1, [-1], 0⟩], 2, false⟩,
    gs := ⟨[⟨false, 1, [1], 1⟩, ⟨false, 1, [0], 0⟩], 2, false⟩ }

def exNRef : RefPoly := ⟨true, 1, [gtRow [1] 0, geRow [-1] 1]⟩

theorem exNRef_wf : WF exNRef.n exNRef.cs := by
  intro c hc
  simp only [exNRef, List.mem_cons, List.not_mem_nil, or_false] at hc
  rcases hc with rfl | rfl <;> simp [geRow, gtRow, exNRef]

theorem exN_wf : exN.WF := by
  refine ⟨?_, ?_, ?_, ?_, ?_, ?_, ?_, ?_⟩
  · intro _ _ r hr
    simp only [exN, List.mem_cons, List.not_mem_nil, or_false] at hr
    rcases hr with rfl | rfl <;> rfl
  · intro _ _ r hr
    simp only [exN, List.mem_cons, List.not_mem_nil, or_false] at hr
    rcases hr with rfl | rfl <;> simp [Row.genWF, exN]
  · intro _ _
    exact ⟨⟨false, 1, [1], 1⟩, by simp [exN], by simp [Row.isPoint]⟩
  · intro h; simp [exN] at h
  · intro h; simp [exN] at h
  · intro h; simp [exN] at h
  · intro _ _; exact Or.inl rfl
  · intro h; simp [exN] at h

theorem hseg_mem (x : Val) :
    x ∈ GenSem 1 [⟨.point, [1], 1⟩, ⟨.cpoint, [0], 1⟩] ↔ 0 < x 0 ∧ x 0 ≤ 1 := by
  constructor
  · rintro ⟨lam, h1, h2, ⟨j, hj, hp, hl⟩, h4⟩
    have a := h1 0 (by simp) rfl
    have b := h1 1 (by simp) rfl
    have hx := h4 0 (by omega)
    have hj0 : j = 0 := by
      have : j < 2 := hj
      rcases (by omega : j = 0 ∨ j = 1) with rfl | rfl
      · rfl
      · simp [Gen.isPt] at hp
    subst hj0
    simp [wsum, Val.tail, Gen.coord, Gen.isPtOrCp, Gen.d] at h2 hx
    constructor <;> linarith
  · rintro ⟨h0, h1⟩
    refine ⟨fun j => if j = 0 then x 0 else 1 - x 0, ?_, ?_, ?_, ?_⟩
    · intro j _ _
      show 0 ≤ (if j = 0 then x 0 else 1 - x 0)
      split <;> linarith
    · simp [wsum, Val.tail, Gen.isPtOrCp]
    · exact ⟨0, by simp, rfl, by simpa using h0⟩
    · intro i hi
      have : i = 0 := by omega
      subst this
      simp [wsum, Val.tail, Gen.coord, Gen.d, Gen.isPtOrCp]

theorem exN_denotes : exN.Denotes (sem exNRef.cs) := by
  refine ⟨fun h => by simp [exN] at h, fun _ => ⟨fun _ _ => rfl, fun _ _ => ?_,
    fun h => by simp [exN] at h⟩⟩
  ext x
  show x ∈ GenSem 1 [⟨.point, [1], 1⟩, ⟨.cpoint, [0], 1⟩] ↔ Sat [gtRow [1] 0, geRow [-1] 1] x
  rw [hseg_mem]
  simp only [Sat, List.mem_cons, List.not_mem_nil, or_false, forall_eq_or_imp, forall_eq, geRow, gtRow,
    Con.sat, Con.eval, dot_cons, dot_nil]
  norm_num

/-- the constraint path: the strict row is relaxed, `ε ≤ 1` is inserted -/
example : ∃ q, exN.topological_closure_assign = some q ∧ q.Denotes (sem exNRef.closure.cs) := by
  exact exists_result rfl fun q hq =>
    topological_closure_assign_rows_correct exN q exNRef rfl exNRef_wf exN_wf
    (Or.inr ⟨rfl, rfl⟩) exN_denotes hq

example : exN.topological_closure_assign.map (fun q => q.cs.rows) =
    some [⟨false, 0, [1], 0⟩, ⟨false, 1, [-1], 0⟩, ⟨false, 1, [0], -1⟩] := by decide

/-- the same set held by its generators only: the generator path -/
def exNg : Poly := { exN with st := ⟨false, false, true, false, false, false, false, false, false⟩ }

theorem exNg_wf : exNg.WF := by
  refine ⟨fun _ h => (by cases h), fun _ _ => exN_wf.gs_wf rfl rfl, fun _ _ => exN_wf.gs_pt rfl rfl,
    ?_, ?_, ?_, fun _ _ => Or.inr rfl, ?_⟩
  · intro h; simp [exNg] at h
  · intro h; simp [exNg] at h
  · intro h; simp [exNg] at h
  · intro h; simp [exNg, exN] at h

theorem exNg_denotes : exNg.Denotes (sem exNRef.cs) :=
  .of_gens rfl (.inl rfl) rfl ((exN_denotes.2 rfl).2.1 rfl rfl)

example : ∃ q, exNg.topological_closure_assign = some q ∧
    ∃ R : Set Val, q.Denotes R ∧ sem exNRef.cs ⊆ R ∧ R ⊆ sem exNRef.closure.cs := by
  exact exists_result rfl fun q hq =>
    topological_closure_assign_rows_sandwich exNg q exNRef rfl exNRef_wf exNg_wf rfl rfl
    (by decide) (Or.inr rfl) exNg_denotes hq

/-- the generator path at full strength -/
example : ∃ q, exNg.topological_closure_assign = some q ∧ q.Denotes (sem exNRef.closure.cs) := by
  exact exists_result rfl fun q hq =>
    topological_closure_assign_rows_correct_full exNg q exNRef rfl exNRef_wf exNg_wf
    exNg_denotes hq

/-- the rows of the generator path: the point `0` matching the closure point `0` is added -/
example : exNg.topological_closure_assign.map (fun q => q.gs.rows) =
    some [⟨false, 1, [1], 1⟩, ⟨false, 1, [0], 0⟩, ⟨false, 1, [0], 1⟩] := by decide

/-- the row-matching condition `NNCInv` used by `time_elapse_assign_rows_correct_nnc_partial`, on
    the rows point `1`, closure point `1`, closure point `0` -/
example : NNCInv [⟨false, 1, [1], 1⟩, ⟨false, 1, [1], 0⟩, ⟨false, 1, [0], 0⟩] := by
  intro r hr hp
  simp only [List.mem_cons, List.not_mem_nil, or_false] at hr
  rcases hr with rfl | rfl | rfl
  · exact ⟨⟨false, 1, [1], 0⟩, by simp, rfl, by decide, rfl, fun _ => rfl⟩
  · exact absurd rfl hp.2.2.2
  · exact absurd rfl hp.2.2.2


/-! ### `fold_space_dimensions` -/

/-- the point `(1, 2)` of the plane, held by its generator -/
def ex2 : Poly :=
  { nnc := false, dim := 2,
    st := ⟨false, false, true, false, false, false, false, false, false⟩,
    cs := Sys.clear,
    gs := ⟨[⟨false, 1, [1, 2], 0⟩], 1, false⟩ }

def ex2G : List Gen := [⟨.point, [1, 2], 1⟩]

theorem ex2_wf : ex2.WF := by
  refine ⟨fun _ h => (by cases h), ?_, ?_, ?_, ?_, ?_, fun _ _ => Or.inr rfl, ?_⟩
  · intro _ _ r hr
    simp only [ex2, List.mem_cons, List.not_mem_nil, or_false] at hr
    subst hr; simp [Row.genWF, ex2]
  · intro _ _
    exact ⟨⟨false, 1, [1, 2], 0⟩, by simp [ex2], by simp [Row.isPoint, ex2]⟩
  · intro h; simp [ex2] at h
  · intro h; simp [ex2] at h
  · intro h; simp [ex2] at h
  · intro h; simp [ex2] at h

theorem ex2_denotes : ex2.Denotes (GenSem 2 ex2G) :=
  .of_gens rfl (.inl rfl) rfl rfl

/-- folding `y` into `x` on the point `(1, 2)` -/
example : ∃ q, ex2.fold_space_dimensions [1] 0 = some q ∧
    q.Denotes (sem (RefPoly.foldGens (univ false 2) [1] 0 ex2G).cs) := by
  exact exists_result rfl fun q hq =>
    fold_space_dimensions_rows_correct ex2 q [1] 0 (univ false 2) ex2G rfl ex2_wf
    ⟨fun h => by simp [ex2, Status.canPend] at h, fun h => by simp [ex2] at h⟩ (by decide) (by decide)
    (by decide) (by decide) (by decide) (Or.inr ⟨⟨.point, [1, 2], 1⟩, by simp [ex2G], rfl⟩)
    ex2_denotes hq

/-- the rows: the points `1` and `2` of the line -/
example : (ex2.fold_space_dimensions [1] 0).map (fun q => (q.dim, q.gs.rows)) =
    some (1, [⟨false, 1, [1], 0⟩, ⟨false, 1, [2], 0⟩]) := by decide

end PPLV.PolyOps

import PPLV.PolyOps.ProofsGenKit3
import PPLV.PolyOps.ProofsCon
import PPLV.PolyOps.ProofsAffine

/-!
# dimension-changing operators: common lemmas

`Sys.addZeroCols` / `Sys.addUniverseRows` on both kinds of systems:
* constraints: zero columns change nothing; the unit equalities say `w k = 0` on the new variables;
* generators: zero columns put the set into the hyperplane of the new variables (`projSet`); the unit
  lines free them again.
-/
namespace PPLV.PolyOps
open PPLV.Lin

/-- `S` with the coordinates `n ≤ j < n + m` forced to zero -/
def projSet (n m : Nat) (S : Set Val) : Set Val := {w | w ∈ S ∧ ∀ j, n ≤ j → j < n + m → w j = 0}

theorem sem_addDimsProject (ref : RefPoly) (m : Nat) :
    sem (ref.addDimsProject m).cs = projSet ref.n m (sem ref.cs) := by
  ext w
  exact addDimsProject_spec ref m w

theorem projSet_empty (n m : Nat) : projSet n m ∅ = ∅ := by
  ext w; simp [projSet]

theorem projSet_zero (n : Nat) (S : Set Val) : projSet n 0 S = S := by
  ext w
  simp only [projSet, Set.mem_ofPred_eq]
  exact ⟨fun h => h.1, fun h => ⟨h, fun j h1 h2 => by omega⟩⟩

/-! ### rows: evaluation -/

theorem ev_addZeroCols (m : Nat) (r : Row) (w : Val) : (r.addZeroCols m).ev w = r.ev w := by
  unfold Row.ev Row.addZeroCols
  simp only
  rw [dot_append, dot_replicate_zero]; ring

theorem holds_addZeroCols (nnc : Bool) (m : Nat) (r : Row) (w : Val) :
    (r.addZeroCols m).Holds nnc w ↔ r.Holds nnc w := by
  have := holds_of_ev nnc r (r.addZeroCols m) w w 1 (by norm_num) rfl Iff.rfl
    (by rw [ev_addZeroCols]; ring)
  exact this

theorem conSem_addZeroCols (nnc : Bool) (m : Nat) (rows : List Row) :
    conSem nnc (rows.map (Row.addZeroCols m)) = conSem nnc rows :=
  conSem_map_congr nnc rows _ fun r _ w => holds_addZeroCols nnc m r w

theorem ev_unitEqRow (total i : Nat) (w : Val) : (unitEqRow total i).ev w = w i := by
  unfold Row.ev unitEqRow
  simp only
  rw [dot_append]
  have : List.replicate i (0 : Int) ++ [1] = unitRow i 1 := rfl
  rw [this, dot_unitRow, dot_replicate_zero]
  push_cast; ring

theorem holds_unitEqRow (nnc : Bool) (total i : Nat) (w : Val) :
    (unitEqRow total i).Holds nnc w ↔ w i = 0 := by
  unfold Row.Holds
  rw [if_pos (by rfl), ev_unitEqRow]

theorem unitEqRow_genWF (nnc : Bool) (total i : Nat) (h : i < total) :
    (unitEqRow total i).genWF nnc total := by
  refine ⟨?_, le_refl _, le_refl _, fun _ => rfl, fun _ => rfl, fun _ => rfl⟩
  simp [unitEqRow]; omega

theorem unitEqRow_cf_length (total i : Nat) (h : i < total) : (unitEqRow total i).cf.length = total := by
  simp [unitEqRow]; omega

/-! ### the new rows of `add_universe_rows_and_space_dimensions` -/

theorem mem_addUniverseRows (nnc : Bool) (n m : Nat) (s : Sys) (hm : 0 < m) (r : Row) :
    r ∈ (s.addUniverseRows nnc n m).rows ↔
      (∃ i, n ≤ i ∧ i < n + m ∧ r = unitEqRow (n + m) i) ∨ r ∈ s.rows.map (Row.addZeroCols m) := by
  unfold Sys.addUniverseRows
  simp only [List.mem_append]
  refine or_congr ?_ Iff.rfl
  split
  · simp only [List.mem_cons, List.mem_map, List.mem_range]
    constructor
    · rintro (rfl | ⟨i, hi, rfl⟩)
      · exact ⟨n, le_refl _, by omega, rfl⟩
      · exact ⟨n + (m - 1 - i), by omega, by omega, rfl⟩
    · rintro ⟨i, h1, h2, rfl⟩
      by_cases hi : i = n
      · left; rw [hi]
      · right
        refine ⟨n + m - 1 - i, by omega, ?_⟩
        congr 1; omega
  · simp only [List.mem_map, List.mem_range]
    constructor
    · rintro ⟨i, hi, rfl⟩
      exact ⟨n + (m - 1 - i), by omega, by omega, rfl⟩
    · rintro ⟨i, h1, h2, rfl⟩
      refine ⟨n + m - 1 - i, by omega, ?_⟩
      congr 1; omega

/-- constraints: the unit equalities force the new variables to zero -/
theorem conSem_addUniverseRows (nnc : Bool) (n m : Nat) (s : Sys) (hm : 0 < m) :
    conSem nnc (s.addUniverseRows nnc n m).rows = projSet n m (conSem nnc s.rows) := by
  ext w
  rw [mem_conSem]
  simp only [projSet, Set.mem_ofPred_eq]
  rw [← conSem_addZeroCols nnc m s.rows, mem_conSem]
  constructor
  · intro h
    refine ⟨fun r hr => h r ((mem_addUniverseRows nnc n m s hm r).mpr (Or.inr hr)), fun j h1 h2 => ?_⟩
    exact (holds_unitEqRow nnc (n + m) j w).mp
      (h _ ((mem_addUniverseRows nnc n m s hm _).mpr (Or.inl ⟨j, h1, h2, rfl⟩)))
  · rintro ⟨h1, h2⟩ r hr
    rcases (mem_addUniverseRows nnc n m s hm r).mp hr with ⟨i, hi1, hi2, rfl⟩ | hr
    · exact (holds_unitEqRow nnc (n + m) i w).mpr (h2 i hi1 hi2)
    · exact h1 r hr

theorem addUniverseRows_cf_length (nnc : Bool) (n m : Nat) (s : Sys) (hm : 0 < m)
    (h : ∀ r ∈ s.rows, r.cf.length = n) : ∀ r ∈ (s.addUniverseRows nnc n m).rows, r.cf.length = n + m := by
  intro r hr
  rcases (mem_addUniverseRows nnc n m s hm r).mp hr with ⟨i, _, hi2, rfl⟩ | hr
  · exact unitEqRow_cf_length _ _ hi2
  · obtain ⟨r0, hr0, rfl⟩ := List.mem_map.mp hr
    simp [Row.addZeroCols, h r0 hr0]

/-! ### generators: zero columns -/

/-- the selection that pads with `m` zero columns -/
def embSrc (n m : Nat) : List (Option Nat) := (List.range n).map some ++ List.replicate m none

theorem embSrc_length (n m : Nat) : (embSrc n m).length = n + m := by simp [embSrc]

theorem embSrc_getD_lt (n m k : Nat) (h : k < n) : (embSrc n m).getD k none = some k := by
  simp [embSrc, List.getD_eq_getElem?_getD, List.getElem?_append_left, h]

theorem embSrc_getD_ge (n m k : Nat) (h : n ≤ k) : (embSrc n m).getD k none = none := by
  unfold embSrc
  rw [List.getD_eq_getElem?_getD, List.getElem?_append_right (by simpa using h)]
  simp only [List.length_map, List.length_range, List.getElem?_replicate]
  split <;> rfl

theorem range_map_getD (l : List Int) : (List.range l.length).map (fun j => l.getD j 0) = l := by
  apply List.ext_getElem
  · simp
  · intro i h1 h2
    simp [List.getD_eq_getElem?_getD, h2]

theorem addZeroCols_eq_sel (n m : Nat) (r : Row) (h : r.cf.length = n) :
    r.addZeroCols m = { r with cf := (embSrc n m).map fun o =>
      match o with | some j => r.cf.getD j 0 | none => 0 } := by
  unfold Row.addZeroCols embSrc
  congr 1
  rw [List.map_append, List.map_map, List.map_replicate]
  congr 1
  rw [← h]
  exact (range_map_getD r.cf).symm

theorem addZeroCols_genWF (nnc : Bool) (n m : Nat) (r : Row) (h : r.genWF nnc n) :
    (r.addZeroCols m).genWF nnc (n + m) ∧ (r.isPoint nnc → (r.addZeroCols m).isPoint nnc) := by
  obtain ⟨h1, h2⟩ := h
  exact ⟨⟨by simp [Row.addZeroCols, h1], h2⟩, id⟩

/-- generators: zero columns put the set into the hyperplane `w_k = 0` of the new variables -/
theorem genSem_addZeroCols (nnc : Bool) (n m : Nat) (rows : List Row)
    (hwf : ∀ r ∈ rows, r.genWF nnc n) :
    genSem nnc (n + m) (rows.map (Row.addZeroCols m)) = projSet n m (genSem nnc n rows) := by
  have hmap : rows.map (Row.addZeroCols m) = rows.map fun r =>
      { r with cf := (embSrc n m).map fun o => match o with | some j => r.cf.getD j 0 | none => 0 } :=
    List.map_congr_left fun r hr => addZeroCols_eq_sel n m r (hwf r hr).1
  have hsrc : ∀ k j, (embSrc n m).getD k none = some j → j < n := by
    intro k j hkj
    by_cases hkn : k < n
    · rw [embSrc_getD_lt n m k hkn] at hkj
      cases hkj; exact hkn
    · rw [embSrc_getD_ge n m k (by omega)] at hkj
      cases hkj
  rw [hmap]
  refine Eq.trans (kit_selectCoords nnc n (n + m) (embSrc n m) rows hwf (embSrc_length n m) hsrc) ?_
  · ext w
    simp only [projSet, Set.mem_ofPred_eq]
    constructor
    · rintro ⟨x, hx, hw⟩
      refine ⟨GenSem_cylinder n _ w x hx fun i hi => ?_, fun j h1 h2 => ?_⟩
      · have := hw i (by omega)
        rw [embSrc_getD_lt n m i hi] at this
        exact this.symm
      · have := hw j h2
        rw [embSrc_getD_ge n m j h1] at this
        exact this
    · rintro ⟨hw, h0⟩
      refine ⟨w, hw, fun k hk => ?_⟩
      by_cases hkn : k < n
      · rw [embSrc_getD_lt n m k hkn]
      · rw [embSrc_getD_ge n m k (by omega)]
        exact h0 k (by omega) hk

/-! ### generators: the set only depends on the set of rows -/

theorem genSem_rows_congr (nnc : Bool) (n : Nat) (R1 R2 : List Row)
    (hwf : ∀ r ∈ R1, r.genWF nnc n) (h : ∀ r, r ∈ R1 ↔ r ∈ R2) :
    genSem nnc n R1 = genSem nnc n R2 := by
  unfold genSem
  apply kit_memEquiv n _ _ (gensWF_gensOf nnc n R1 hwf)
  intro g
  unfold gensOf
  simp only [List.mem_map]
  constructor <;> rintro ⟨r, hr, rfl⟩
  · exact ⟨r, (h r).mp hr, rfl⟩
  · exact ⟨r, (h r).mpr hr, rfl⟩

theorem addUniverseRows_genWF (nnc : Bool) (n m : Nat) (s : Sys) (hm : 0 < m)
    (hwf : ∀ r ∈ s.rows, r.genWF nnc n) :
    ∀ r ∈ (s.addUniverseRows nnc n m).rows, r.genWF nnc (n + m) := by
  intro r hr
  rcases (mem_addUniverseRows nnc n m s hm r).mp hr with ⟨i, _, hi2, rfl⟩ | hr
  · exact unitEqRow_genWF nnc _ _ hi2
  · obtain ⟨r0, hr0, rfl⟩ := List.mem_map.mp hr
    exact (addZeroCols_genWF nnc n m r0 (hwf r0 hr0)).1

theorem addUniverseRows_pt (nnc : Bool) (n m : Nat) (s : Sys) (hm : 0 < m)
    (h : ∃ r ∈ s.rows, r.isPoint nnc) : ∃ r ∈ (s.addUniverseRows nnc n m).rows, r.isPoint nnc := by
  obtain ⟨r, hr, hp⟩ := h
  exact ⟨r.addZeroCols m, (mem_addUniverseRows nnc n m s hm _).mpr
    (Or.inr (List.mem_map.mpr ⟨r, hr, rfl⟩)), hp⟩

/-- generators: zero columns and the lines of the new variables — the same set of valuations
    (`S` only looks at the coordinates below `n`) -/
theorem genSem_addUniverseRows (nnc : Bool) (n m : Nat) (s : Sys) (hm : 0 < m)
    (hwf : ∀ r ∈ s.rows, r.genWF nnc n) :
    genSem nnc (n + m) (s.addUniverseRows nnc n m).rows = genSem nnc n s.rows := by
  have hwf' : ∀ r ∈ s.rows.map (Row.addZeroCols m), r.genWF nnc (n + m) := by
    intro r hr
    obtain ⟨r0, hr0, rfl⟩ := List.mem_map.mp hr
    exact (addZeroCols_genWF nnc n m r0 (hwf r0 hr0)).1
  rw [genSem_rows_congr nnc (n + m) _
    (s.rows.map (Row.addZeroCols m) ++ (List.range' n m).map (unitEqRow (n + m)))
    (addUniverseRows_genWF nnc n m s hm hwf)]
  · rw [kit_addLines nnc (n + m) _ (List.range' n m) hwf'
      (fun v hv => by have := List.mem_range'_1.mp hv; omega), genSem_addZeroCols nnc n m s.rows hwf]
    ext w
    simp only [projSet, Set.mem_ofPred_eq]
    constructor
    · rintro ⟨x, ⟨hx, _⟩, hw⟩
      refine GenSem_cylinder n _ w x hx fun i hi => (hw i (by omega) ?_).symm
      intro hmem
      have := List.mem_range'_1.mp hmem
      omega
    · intro hw
      refine ⟨fun j => if n ≤ j ∧ j < n + m then 0 else w j, ⟨?_, ?_⟩, ?_⟩
      · refine GenSem_cylinder n _ _ w hw fun i hi => ?_
        rw [if_neg (by omega)]
      · intro j h1 h2
        show (if n ≤ j ∧ j < n + m then (0 : Rat) else w j) = 0
        rw [if_pos ⟨h1, h2⟩]
      · intro j hj hmem
        show w j = (if n ≤ j ∧ j < n + m then (0 : Rat) else w j)
        rw [if_neg]
        intro hh
        exact hmem (List.mem_range'_1.mpr ⟨hh.1, by omega⟩)
  · intro r
    rw [mem_addUniverseRows nnc n m s hm r, List.mem_append, or_comm]
    refine or_congr Iff.rfl ?_
    simp only [List.mem_map, List.mem_range'_1]
    constructor
    · rintro ⟨i, h1, h2, rfl⟩; exact ⟨i, ⟨h1, by omega⟩, rfl⟩
    · rintro ⟨i, ⟨h1, h2⟩, rfl⟩; exact ⟨i, h1, by omega, rfl⟩

end PPLV.PolyOps

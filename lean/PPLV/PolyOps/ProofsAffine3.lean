import PPLV.PolyOps.ProofsAffine2

/-!
# `Polyhedron::affine_preimage` at row level: correctness and well-formedness

Mirror image of `ProofsAffine2.lean`: in the invertible case the constraints are substituted
(`csSigned`) and the generators are mapped by the INVERSE map (`imgSet_inverse_eq_preSet`); in the
non-invertible case only the substituted constraints remain.
-/
namespace PPLV.PolyOps
open PPLV.Lin

/-! ### the shape of the result -/

theorem affine_preimage_empty (p q : Poly) (v : Nat) (e : LinExpr) (den : Int)
    (hem : p.st.empty = true) (h : p.affine_preimage v e den = some q) : q = p := by
  unfold Poly.affine_preimage at h
  rw [if_pos hem] at h
  exact (Option.some.inj h).symm

theorem affine_preimage_inv_shape (p q : Poly) (v : Nat) (e : LinExpr) (den : Int)
    (hem : p.st.empty = false) (hc : e.coeffs.getD v 0 ≠ 0)
    (h : p.affine_preimage v e den = some q) :
    q.st = p.st ∧ q.nnc = p.nnc ∧ q.dim = p.dim ∧
    q.cs = (if p.st.cUp = true then csSigned v e den p.cs else p.cs) ∧
    q.gs = (if p.st.gUp = true then
        gsAffineImage v (inverseMap p.dim v e den).1 (inverseMap p.dim v e den).2 p.gs
      else p.gs) := by
  unfold Poly.affine_preimage at h
  have hem' : ¬ (p.st.empty = true) := by simp [hem]
  rw [if_neg hem', if_pos (bne_iff_ne.mpr hc)] at h
  have hq := (Option.some.inj h).symm
  subst hq
  cases hg : p.st.gUp <;> cases hcu : p.st.cUp <;> simp [hg, csSigned]

theorem affine_preimage_noninv_shape (p q : Poly) (v : Nat) (e : LinExpr) (den : Int) (hp : p.WF)
    (hem : p.st.empty = false) (hc : e.coeffs.getD v 0 = 0)
    (h : p.affine_preimage v e den = some q) :
    p.st.cUp = true ∧ p.st.gPend = false ∧ q.nnc = p.nnc ∧ q.dim = p.dim ∧
    (∃ cs0 : Sys, cs0.rows = p.cs.rows ∧ q.cs = csSigned v e den cs0) ∧
    q.st.empty = false ∧ q.st.gUp = false ∧ q.st.cUp = true ∧ q.st.cPend = false ∧
    q.st.gPend = false := by
  unfold Poly.affine_preimage at h
  have hem' : ¬ (p.st.empty = true) := by simp [hem]
  have hc' : ¬ ((e.coeffs.getD v 0 != 0) = true) := by rw [hc]; decide
  rw [if_neg hem', if_neg hc'] at h
  simp only [Status.somethingPending] at h
  by_cases hcp : p.st.cPend = true
  · obtain ⟨hcu, _⟩ := hp.pend_c hcp
    have hgp : p.st.gPend = false := by
      cases hx : p.st.gPend
      · rfl
      · exact absurd ⟨hcp, hx⟩ hp.pend_one
    simp only [hcp, hgp, Bool.true_or, if_true, Option.map_some] at h
    have hq := (Option.some.inj h).symm
    subst hq
    refine ⟨hcu, hgp, rfl, rfl, ⟨{ p.cs.unsetPending with sorted := false }, rfl, rfl⟩,
      ?_, ?_, ?_, ?_, ?_⟩ <;> simp [Status.clearGUp, hem, hcu]
  · have hcp' : p.st.cPend = false := by simpa using hcp
    cases hgp : p.st.gPend
    · cases hcu : p.st.cUp
      · simp [hcp', hgp, hcu] at h
      · simp only [hcp', hgp, hcu, Bool.or_self, Bool.false_eq_true, if_false, Bool.not_true,
          Option.map_some] at h
        have hq := (Option.some.inj h).symm
        subst hq
        refine ⟨rfl, rfl, rfl, rfl, ⟨p.cs, rfl, rfl⟩, ?_, ?_, ?_, ?_, ?_⟩ <;>
          simp [Status.clearGUp, hem, hcu, hcp']
    · simp [hcp', hgp] at h

/-! ### correctness -/

/-- **`Polyhedron::affine_preimage` at row level computes the reference preimage.** -/
theorem affine_preimage_rows_correct (p q : Poly) (v : Nat) (e : LinExpr) (den : Int)
    (ref : RefPoly) (hn : ref.n = p.dim) (_hnnc : ref.nnc = p.nnc) (hwf : WF ref.n ref.cs)
    (hp : p.WF) (hv : v < p.dim) (he : e.coeffs.length = p.dim) (hden : den ≠ 0)
    (hD : p.Denotes (sem ref.cs)) (h : p.affine_preimage v e den = some q) :
    q.Denotes (sem (ref.affinePreimage v e den).cs) := by
  rw [sem_affinePreimage ref v e den hwf (by rw [hn]; exact hv) (by rw [hn]; exact le_of_eq he), hn]
  have hSdet : CoordDet p.dim (sem ref.cs) := by rw [← hn]; exact coordDet_sem _ _ hwf
  cases hem : p.st.empty
  · by_cases hc : e.coeffs.getD v 0 = 0
    · -- not invertible: only the constraints remain
      obtain ⟨hcu, hgp, hqn, hqd, ⟨cs0, hcs0, hqcs⟩, h1, h2, h3, _, _⟩ :=
        affine_preimage_noninv_shape p q v e den hp hem hc h
      have hcon := (hD.2 hem).1 hcu hgp
      have hfacts := csSigned_facts p.nnc p.dim v e den cs0
        (by rw [hcs0]; exact hp.cs_len hem hcu) hv he hden
      refine .of_cons h1 h3 (.inl h2) ?_
      rw [hqn, hqcs, hfacts.1, hcs0, hcon]
      exact preSet_eq_subst p.dim v e den hden _ hSdet
    · -- invertible: constraints substituted, generators mapped by the inverse
      obtain ⟨hst, hqn, hqd, hqcs, hqgs⟩ := affine_preimage_inv_shape p q v e den hem hc h
      refine hD.transport hem (hp.some_up hem (by omega)) (sameFlags_of_eq hst) (fun hcu hS => ?_)
        fun hgu hS => ?_
      · have hf := csSigned_facts p.nnc p.dim v e den p.cs (hp.cs_len hem hcu) hv he hden
        rw [hqn, hqcs, if_pos hcu, hf.1, hS]
        exact preSet_eq_subst p.dim v e den hden _ hSdet
      · have hf := gsAffineImage_facts p.nnc p.dim v (inverseMap p.dim v e den).1
          (inverseMap p.dim v e den).2 p.gs (hp.gs_wf hem hgu) hv
          (le_of_eq (inverseMap_length _ _ _ _)) (inverseMap_den_pos _ _ _ _ hc)
        rw [hqn, hqd, hqgs, if_pos hgu, hf.1, hS]
        exact imgSet_inverse_eq_preSet p.dim v e den hv he hden hc _
  · have hq := affine_preimage_empty p q v e den hem h
    subst hq
    rw [hD.1 hem, preSet_empty]
    exact denotes_of_empty _ _ hem rfl

/-! ### well-formedness of the result

Note: the preimage of a non-empty set under a non-invertible map may be empty (e.g. the preimage of
`{x = 1}` under `x := 0`); the result then holds an infeasible constraint system without being
marked empty, as in the library.  `Poly.WF` asks nothing of a constraint-only description beyond
the row lengths, so well-formedness is unconditional. -/
theorem affine_preimage_rows_wf (p q : Poly) (v : Nat) (e : LinExpr) (den : Int) (hp : p.WF)
    (hv : v < p.dim) (he : e.coeffs.length = p.dim) (hden : den ≠ 0)
    (h : p.affine_preimage v e den = some q) : q.WF := by
  cases hem : p.st.empty
  · by_cases hc : e.coeffs.getD v 0 = 0
    · obtain ⟨hcu, _, hqn, hqd, ⟨cs0, hcs0, hqcs⟩, _, h2, h3, h4, h5⟩ :=
        affine_preimage_noninv_shape p q v e den hp hem hc h
      have hfacts := csSigned_facts p.nnc p.dim v e den cs0
        (by rw [hcs0]; exact hp.cs_len hem hcu) hv he hden
      refine ⟨fun _ _ => ?_, fun _ hq => (by rw [h2] at hq; cases hq),
        fun _ hq => (by rw [h2] at hq; cases hq),
        fun hq => (by rw [h4] at hq; cases hq), fun hq => (by rw [h5] at hq; cases hq),
        fun hq => (by rw [h4] at hq; cases hq.1), fun _ _ => Or.inl h3,
        fun hq => (by rw [hqd] at hq; omega)⟩
      rw [hqd, hqcs]; exact hfacts.2
    · obtain ⟨hst, hqn, hqd, hqcs, hqgs⟩ := affine_preimage_inv_shape p q v e den hem hc h
      refine hp.transport hst hqn hqd (fun _ hcu => ?_) fun _ hgu => ?_
      · rw [hqcs, if_pos hcu]
        exact (csSigned_facts p.nnc p.dim v e den p.cs (hp.cs_len hem hcu) hv he hden).2
      · have hf := gsAffineImage_facts p.nnc p.dim v (inverseMap p.dim v e den).1
          (inverseMap p.dim v e den).2 p.gs (hp.gs_wf hem hgu) hv
          (le_of_eq (inverseMap_length _ _ _ _)) (inverseMap_den_pos _ _ _ _ hc)
        rw [hqgs, if_pos hgu]
        exact ⟨hf.2.1, hf.2.2 (hp.gs_pt hem hgu)⟩
  · have hq := affine_preimage_empty p q v e den hem h
    subst hq
    exact hp

end PPLV.PolyOps

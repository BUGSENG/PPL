import PPLV.PolyOps.ProofsGenKit

/-!
# the generator toolkit

`Kit.normalize`, `Kit.strongNormalize`, `Kit.removeInvalid`: per generator, scaling by a positive
rational (lines: by any non-zero one) keeps the admitted rows; the zero ray / line admits every row.
-/
namespace PPLV.PolyOps
open PPLV.Lin

/-! ### vectors of explicit generators -/

theorem vec_pt (cf : List Int) (b : Int) (i : Nat) :
    Gen.vec ⟨.point, cf, b⟩ i = ((cf.getD i 0 : Int) : Rat) / (b : Rat) := rfl
theorem vec_cp (cf : List Int) (b : Int) (i : Nat) :
    Gen.vec ⟨.cpoint, cf, b⟩ i = ((cf.getD i 0 : Int) : Rat) / (b : Rat) := rfl
theorem vec_ray (cf : List Int) (b : Int) (i : Nat) :
    Gen.vec ⟨.ray, cf, b⟩ i = ((cf.getD i 0 : Int) : Rat) := by
  show ((cf.getD i 0 : Int) : Rat) / ((1 : Int) : Rat) = _
  simp
theorem vec_line (cf : List Int) (b : Int) (i : Nat) :
    Gen.vec ⟨.line, cf, b⟩ i = ((cf.getD i 0 : Int) : Rat) := by
  show ((cf.getD i 0 : Int) : Rat) / ((1 : Int) : Rat) = _
  simp

/-- same kind, vector scaled by `t` (`t = 1` for points and closure points, `t > 0` for rays,
    `t ≠ 0` for lines): the same rows are admitted -/
theorem rowAdmits_scaled (c : Con) (g g' : Gen) (t : Rat) (hk : g'.kind = g.kind)
    (ht0 : t ≠ 0) (htpos : g.isLine = false → 0 < t) (ht1 : g.isPtOrCp = true → t = 1)
    (hv : ∀ i, g'.vec i = t * g.vec i) : rowAdmits c g' ↔ rowAdmits c g := by
  have hdot : dot c.coeffs g'.vec = t * dot c.coeffs g.vec := by
    rw [dot_lin c.coeffs t 0 g.vec g.vec g'.vec (fun i _ => by rw [hv i]; ring)]; ring
  unfold rowAdmits
  rw [hk]
  unfold Gen.isLine at htpos
  unfold Gen.isPtOrCp at ht1
  rcases hkk : g.kind <;> simp only [hkk] at htpos ht1 ⊢
  · rw [hdot]; simp [ht0]
  · rw [hdot]; exact mul_nonneg_iff_of_pos_left (htpos (by decide))
  · have h1 := ht1 (by decide)
    have : g'.vec = g.vec := by funext i; rw [hv i, h1, one_mul]
    rw [this]
  · have h1 := ht1 (by decide)
    have : g'.vec = g.vec := by funext i; rw [hv i, h1, one_mul]
    rw [this]

/-! ### division of the columns -/


theorem getD_dvd (cf : List Int) (g : Int) (h : ∀ a ∈ cf, g ∣ a) (i : Nat) : g ∣ cf.getD i 0 := by
  by_cases hi : i < cf.length
  · have : cf.getD i 0 = cf[i] := by simp [List.getD_eq_getElem?_getD, hi]
    rw [this]; exact h _ (List.getElem_mem hi)
  · have : cf.getD i 0 = 0 := by simp [List.getD_eq_getElem?_getD, not_lt.mp hi]
    rw [this]; exact dvd_zero _

theorem cast_div_of_dvd (a g : Int) (hg : g ≠ 0) (h : g ∣ a) :
    ((a / g : Int) : Rat) = (a : Rat) / (g : Rat) := by
  obtain ⟨q, rfl⟩ := h
  rw [Int.mul_ediv_cancel_left _ hg]
  have : (g : Rat) ≠ 0 := by exact_mod_cast hg
  push_cast
  field_simp

theorem divBy_admits (nnc : Bool) (n : Nat) (r : Row) (g : Int) (hg : 0 < g) (hb : g ∣ r.b)
    (he : g ∣ r.eps) (hcf : ∀ a ∈ r.cf, g ∣ a) (_h : r.genWF nnc n) (c : Con) :
    rowAdmits c ((r.divBy g).toGen nnc) ↔ rowAdmits c (r.toGen nnc) := by
  have hgne : g ≠ 0 := ne_of_gt hg
  have hgq : (0 : Rat) < (g : Rat) := by exact_mod_cast hg
  have hb0 : r.b / g = 0 ↔ r.b = 0 := by
    obtain ⟨q, hq⟩ := hb
    rw [hq, Int.mul_ediv_cancel_left _ hgne, mul_eq_zero_iff_left hgne]
  have he0 : r.eps / g = 0 ↔ r.eps = 0 := by
    obtain ⟨q, hq⟩ := he
    rw [hq, Int.mul_ediv_cancel_left _ hgne, mul_eq_zero_iff_left hgne]
  have hcoord : ∀ i, (((r.cf.map (· / g)).getD i 0 : Int) : Rat)
      = ((r.cf.getD i 0 : Int) : Rat) / (g : Rat) := by
    intro i
    rw [getD_map_default (· / g) (Int.zero_ediv g), cast_div_of_dvd _ _ hgne (getD_dvd _ _ hcf i)]
  have hbq : ((r.b / g : Int) : Rat) = (r.b : Rat) / (g : Rat) := cast_div_of_dvd _ _ hgne hb
  have hrl : ∀ i, ((r.cf.getD i 0 : Int) : Rat) / (g : Rat)
      = (1 / (g : Rat)) * ((r.cf.getD i 0 : Int) : Rat) := fun i => by ring
  have hinv : (1 / (g : Rat)) ≠ 0 := by positivity
  have hinvpos : 0 < (1 / (g : Rat)) := by positivity
  rcases rowShape nnc r with ⟨hl, hgen⟩ | ⟨hl, hz, hgen⟩ | ⟨hl, hz, hn, hez, hgen⟩ | ⟨hl, hz, hn, hgen⟩
  · rw [hgen, toGen_eq nnc (r.divBy g) hl]
    refine rowAdmits_scaled c _ _ (1 / (g : Rat)) rfl hinv (fun _ => hinvpos)
      (fun h => by simp [Gen.isPtOrCp] at h) ?_
    intro i
    rw [vec_line, vec_line]
    show (((r.cf.map (· / g)).getD i 0 : Int) : Rat) = _
    rw [hcoord, hrl]
  · rw [hgen, toGen_ray nnc (r.divBy g) hl (hb0.mpr hz)]
    refine rowAdmits_scaled c _ _ (1 / (g : Rat)) rfl hinv (fun _ => hinvpos)
      (fun h => by simp [Gen.isPtOrCp] at h) ?_
    intro i
    rw [vec_ray, vec_ray]
    show (((r.cf.map (· / g)).getD i 0 : Int) : Rat) = _
    rw [hcoord, hrl]
  · rw [hgen, toGen_cp nnc (r.divBy g) hl (fun h => hz (hb0.mp h)) hn (he0.mpr hez)]
    refine rowAdmits_scaled c _ _ 1 rfl one_ne_zero (fun _ => one_pos) (fun _ => rfl) ?_
    intro i
    rw [vec_cp, vec_cp]
    show (((r.cf.map (· / g)).getD i 0 : Int) : Rat) / ((r.b / g : Int) : Rat) = _
    rw [hcoord, hbq, div_div_div_cancel_right₀ (ne_of_gt hgq)]
    exact (one_mul _).symm
  · rw [hgen, toGen_pt nnc (r.divBy g) hl (fun h => hz (hb0.mp h))
      (fun h => hn ⟨h.1, he0.mp h.2⟩)]
    refine rowAdmits_scaled c _ _ 1 rfl one_ne_zero (fun _ => one_pos) (fun _ => rfl) ?_
    intro i
    rw [vec_pt, vec_pt]
    show (((r.cf.map (· / g)).getD i 0 : Int) : Rat) / ((r.b / g : Int) : Rat) = _
    rw [hcoord, hbq, div_div_div_cancel_right₀ (ne_of_gt hgq)]
    exact (one_mul _).symm

theorem normalize_admits (nnc : Bool) (n : Nat) (r : Row) (h : r.genWF nnc n) (c : Con) :
    rowAdmits c (r.normalize.toGen nnc) ↔ rowAdmits c (r.toGen nnc) := by
  obtain ⟨g, hg, hb, he, hcf, heq⟩ := normalize_eq r
  rw [heq]
  exact divBy_admits nnc n r g hg hb he hcf h c


theorem signNormalize_admits (nnc : Bool) (r : Row) (c : Con) :
    rowAdmits c (r.signNormalize.toGen nnc) ↔ rowAdmits c (r.toGen nnc) := by
  rcases signNormalize_eq r with heq | ⟨hl, heq⟩
  · rw [heq]
  · rw [heq, toGen_eq nnc r hl, toGen_eq nnc (r.scale (-1)) hl]
    refine rowAdmits_scaled c _ _ (-1) rfl (by norm_num) (fun h => by simp [Gen.isLine] at h)
      (fun h => by simp [Gen.isPtOrCp] at h) ?_
    intro i
    rw [vec_line, vec_line]
    show (((r.cf.map (fun a => -1 * a)).getD i 0 : Int) : Rat) = _
    rw [getD_map_default (fun a => -1 * a) (mul_zero (-1))]; push_cast; ring

theorem divBy_isPoint_iff (nnc : Bool) (r : Row) (g : Int) (hg : 0 < g) (hb : g ∣ r.b)
    (he : g ∣ r.eps) : (r.divBy g).isPoint nnc ↔ r.isPoint nnc := by
  obtain ⟨qb, hqb⟩ := hb
  obtain ⟨qe, hqe⟩ := he
  have hgne : g ≠ 0 := ne_of_gt hg
  have eb : r.b / g = qb := by rw [hqb, Int.mul_ediv_cancel_left _ hgne]
  have ee : r.eps / g = qe := by rw [hqe, Int.mul_ediv_cancel_left _ hgne]
  unfold Row.isPoint Row.divBy
  simp only [eb, ee]
  rw [hqb, hqe, mul_pos_iff_of_pos_left hg, mul_pos_iff_of_pos_left hg]

theorem normalize_isPoint_iff (nnc : Bool) (r : Row) : r.normalize.isPoint nnc ↔ r.isPoint nnc := by
  obtain ⟨g, hg, hb, he, _, heq⟩ := normalize_eq r
  rw [heq]
  exact divBy_isPoint_iff nnc r g hg hb he

theorem signNormalize_isPoint_iff (nnc : Bool) (r : Row) :
    r.signNormalize.isPoint nnc ↔ r.isPoint nnc := by
  rcases signNormalize_eq r with heq | ⟨hl, heq⟩
  · rw [heq]
  · rw [heq]
    unfold Row.isPoint
    have : (r.scale (-1)).eq = true := hl
    rw [this, hl]
    simp

theorem kit_normalize : Kit.normalize := by
  intro nnc n rows hwf
  apply genSem_map_congr nnc n rows Row.normalize hwf
  · exact fun r hr => (normalize_genWF nnc n r (hwf r hr)).1
  · exact fun r _ => normalize_isPoint_iff nnc r
  · exact fun r hr c => normalize_admits nnc n r (hwf r hr) c

theorem kit_strongNormalize : Kit.strongNormalize := by
  intro nnc n rows hwf
  apply genSem_map_congr nnc n rows Row.strongNormalize hwf
  · exact fun r hr => (kit_strongNormalizeWF nnc n r (hwf r hr)).1
  · intro r _
    unfold Row.strongNormalize
    rw [signNormalize_isPoint_iff, normalize_isPoint_iff]
  · intro r hr c
    unfold Row.strongNormalize
    rw [signNormalize_admits, normalize_admits nnc n r (hwf r hr)]

/-! ### `Kit.removeInvalid` -/

theorem vec_allZero (g : Gen) (h : g.coords.all (· == 0) = true) (i : Nat) : g.vec i = 0 := by
  show ((g.coords.getD i 0 : Int) : Rat) / _ = 0
  rw [getD_allZero _ h]; simp

theorem rowAdmits_zero (c : Con) (g : Gen) (hk : g.isPtOrCp = false)
    (h : g.coords.all (· == 0) = true) : rowAdmits c g := by
  have hd : dot c.coeffs g.vec = 0 := by
    rw [dot_agree c.coeffs g.vec Val.zero (fun i _ => vec_allZero g h i), dot_zero]
  unfold rowAdmits
  unfold Gen.isPtOrCp at hk
  rcases hkk : g.kind <;> simp only [hkk] at hk ⊢
  · exact hd
  · rw [hd]
  · simp at hk
  · simp at hk

theorem kit_removeInvalid : Kit.removeInvalid := by
  intro nnc n rows hwf
  have hsub : ∀ r ∈ rows.filter (fun r => !(r.b == 0 && r.allHomZero)), r ∈ rows :=
    fun r hr => (List.mem_filter.mp hr).1
  have hwf' : ∀ r ∈ rows.filter (fun r => !(r.b == 0 && r.allHomZero)), r.genWF nnc n :=
    fun r hr => hwf r (hsub r hr)
  -- a removed row is a zero ray or line
  have hbad : ∀ r ∈ rows, (r.b == 0 && r.allHomZero) = true →
      (r.toGen nnc).isPtOrCp = false ∧ (r.toGen nnc).coords.all (· == 0) = true ∧
        ¬ r.isPoint nnc := by
    intro r _ hb
    simp only [Bool.and_eq_true, beq_iff_eq, Row.allHomZero] at hb
    obtain ⟨hb0, hz, _⟩ := hb
    refine ⟨?_, by rw [toGen_coords]; exact hz, fun hp => by have := hp.2.1; omega⟩
    rcases rowShape nnc r with ⟨_, hg⟩ | ⟨_, _, hg⟩ | ⟨_, hb', _, _, _⟩ | ⟨_, hb', _, _⟩
    · rw [hg]; rfl
    · rw [hg]; rfl
    · exact absurd hb0 hb'
    · exact absurd hb0 hb'
  unfold genSem
  apply genSem_congr_admits n _ _ (gensWF_gensOf nnc n _ hwf') (gensWF_gensOf nnc n _ hwf)
  · rw [gensOf_pt nnc n _ hwf', gensOf_pt nnc n _ hwf]
    constructor
    · rintro ⟨r, hr, hp⟩; exact ⟨r, hsub r hr, hp⟩
    · rintro ⟨r, hr, hp⟩
      refine ⟨r, List.mem_filter.mpr ⟨hr, ?_⟩, hp⟩
      by_contra hb
      simp only [Bool.not_eq_true', Bool.not_eq_false] at hb
      exact (hbad r hr hb).2.2 hp
  · intro c _
    unfold gensOf
    simp only [List.mem_map]
    constructor
    · rintro h g ⟨r, hr, rfl⟩
      by_cases hb : (r.b == 0 && r.allHomZero) = true
      · exact rowAdmits_zero c _ (hbad r hr hb).1 (hbad r hr hb).2.1
      · exact h _ ⟨r, List.mem_filter.mpr ⟨hr, by rw [Bool.not_eq_true] at hb; rw [hb]; rfl⟩, rfl⟩
    · rintro h g ⟨r, hr, rfl⟩
      exact h _ ⟨r, hsub r hr, rfl⟩

/-! ### the two tidying steps on a generator list: same set, well-formed, a point stays a point -/

theorem strongNormalize_rows_facts (nnc : Bool) (n : Nat) (R : List Row) (hwf : ∀ r ∈ R, r.genWF nnc n) :
    genSem nnc n (R.map Row.strongNormalize) = genSem nnc n R ∧
    (∀ r ∈ R.map Row.strongNormalize, r.genWF nnc n) ∧
    ((∃ r ∈ R, r.isPoint nnc) → ∃ r ∈ R.map Row.strongNormalize, r.isPoint nnc) := by
  refine ⟨kit_strongNormalize nnc n R hwf, fun r hr => ?_, ?_⟩
  · obtain ⟨r0, hr0, rfl⟩ := List.mem_map.mp hr
    exact (kit_strongNormalizeWF nnc n r0 (hwf r0 hr0)).1
  · rintro ⟨r, hr, hp⟩
    exact ⟨_, List.mem_map.mpr ⟨r, hr, rfl⟩, ((kit_strongNormalizeWF nnc n r (hwf r hr)).2.2 hp).1⟩

theorem removeInvalid_rows_facts (nnc : Bool) (n : Nat) (R : List Row) (hwf : ∀ r ∈ R, r.genWF nnc n) :
    genSem nnc n (R.filter fun r => !(r.b == 0 && r.allHomZero)) = genSem nnc n R ∧
    (∀ r ∈ R.filter (fun r => !(r.b == 0 && r.allHomZero)), r.genWF nnc n) ∧
    ((∃ r ∈ R, r.isPoint nnc) → ∃ r ∈ R.filter (fun r => !(r.b == 0 && r.allHomZero)), r.isPoint nnc) := by
  refine ⟨kit_removeInvalid nnc n R hwf, fun r hr => hwf r (List.mem_filter.mp hr).1, ?_⟩
  rintro ⟨r, hr, hp⟩
  refine ⟨r, List.mem_filter.mpr ⟨hr, ?_⟩, hp⟩
  have hb : r.b ≠ 0 := ne_of_gt hp.2.1
  simp [hb]

end PPLV.PolyOps

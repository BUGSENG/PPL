import PPLV.PolyOps.ProofsLattice7
import PPLV.PolyOps.ProofsLattice11

/-!
# C02 — `topological_closure_assign` at row level, all branches at full strength

`topological_closure_assign_rows_correct_full`: the two hypotheses of
`topological_closure_assign_rows_correct_partial` are discharged with `genSem_closed_of_matched`
(ProofsLattice11): `add_corresponding_points` matches every closure point with a point, and a
closed-topology generator system has no closure points at all.
-/
namespace PPLV.PolyOps
open PPLV.Lin

/-- after `add_corresponding_points` every closure point is matched -/
theorem matched_addCorrespondingPoints (n : Nat) (rows : List Row)
    (hwf : ∀ r ∈ rows, r.genWF true n) : Matched (gensOf true (addCorrespondingPoints rows)) := by
  intro g hg hk
  unfold gensOf at hg
  obtain ⟨r, hr, rfl⟩ := List.mem_map.mp hg
  rw [addCorrespondingPoints_eq] at hr
  rcases List.mem_append.mp hr with hr | hr
  · rcases rowShape true r with ⟨_, hg⟩ | ⟨_, _, hg⟩ | ⟨hl, hz, _, hez, hg⟩ | ⟨_, _, _, hg⟩
    · rw [hg] at hk; cases hk
    · rw [hg] at hk; cases hk
    · have hmem : ({ r with eps := r.b } : Row) ∈ corrPoints rows := by
        unfold corrPoints
        exact List.mem_map.mpr ⟨r, List.mem_filter.mpr ⟨hr, by simp [hz, hez]⟩, rfl⟩
      refine ⟨Row.toGen true { r with eps := r.b }, ?_, ?_, ?_⟩
      · unfold gensOf
        rw [addCorrespondingPoints_eq]
        exact List.mem_map.mpr ⟨_, List.mem_append_right _ hmem, rfl⟩
      · rw [toGen_pt true ({ r with eps := r.b } : Row) hl hz (fun hh => hz hh.2)]
      · rw [toGen_pt true ({ r with eps := r.b } : Row) hl hz (fun hh => hz hh.2), hg]
        rfl
    · rw [hg] at hk; cases hk
  · obtain ⟨_, r0, _, _, hpt⟩ := corrPoints_facts n rows hwf r hr
    rw [hpt] at hk; cases hk

/-- closed topology: no closure points -/
theorem no_cpoint_closed (rows : List Row) : ∀ g ∈ gensOf false rows, g.kind ≠ .cpoint := by
  intro g hg
  unfold gensOf at hg
  obtain ⟨r, _, rfl⟩ := List.mem_map.mp hg
  rcases rowShape false r with ⟨_, hg⟩ | ⟨_, _, hg⟩ | ⟨_, _, hn, _, _⟩ | ⟨_, _, _, hg⟩
  · rw [hg]; intro h; cases h
  · rw [hg]; intro h; cases h
  · cases hn
  · rw [hg]; intro h; cases h

/-- generators are valid when the constraints are not (well-formed, not marked empty, dim > 0) -/
theorem gens_valid_of_not_cons (p : Poly) (hp : p.WF) (he : p.st.empty = false) (hd : p.dim ≠ 0)
    (hor : p.st.gPend = true ∨ p.st.cUp = false) : p.st.gUp = true ∧ p.st.cPend = false := by
  rcases hor with h | h
  · refine ⟨(hp.pend_g h).2, ?_⟩
    cases hc : p.st.cPend
    · rfl
    · exact absurd ⟨hc, h⟩ hp.pend_one
  · constructor
    · rcases hp.some_up he (by omega) with h' | h'
      · rw [h] at h'; cases h'
      · exact h'
    · cases hc : p.st.cPend
      · rfl
      · rw [(hp.pend_c hc).1] at h; cases h

/-- **`Polyhedron::topological_closure_assign` at row level: the reference closure**, whatever
    description the polyhedron holds (constraint path, generator path, closed topology). -/
theorem topological_closure_assign_rows_correct_full (p q : Poly) (ref : RefPoly)
    (hn : ref.n = p.dim) (hwf : WF ref.n ref.cs) (hp : p.WF)
    (hD : p.Denotes (sem ref.cs)) (h : p.topological_closure_assign = some q) :
    q.Denotes (sem ref.closure.cs) := by
  apply topological_closure_assign_rows_correct_partial p q ref hn hwf hp _ _ hD h
  · -- closed topology, only generators valid
    intro hnn he hor
    by_cases hd : p.dim = 0
    · rw [(hD.2 he).2.2 (hp.zero_dim hd).1 (hp.zero_dim hd).2]
      exact Set.subset_univ _
    · obtain ⟨hgu, hcp⟩ := gens_valid_of_not_cons p hp he hd (hor.symm)
      obtain ⟨hgS, hne⟩ := denotes_gen_nonempty p _ hp he hgu hcp hD
      have hwfg := hp.gs_wf he hgu
      rw [hnn] at hwfg hgS
      obtain ⟨ds, hns, hsem⟩ := genSem_closed_of_no_cpoint p.dim _
        (gensWF_gensOf false p.dim _ hwfg) (no_cpoint_closed p.gs.rows)
      have hS : sem ds = sem ref.cs := by rw [hsem]; exact hgS
      rw [← hS]
      exact (closure_least ref.cs hne).2 ds hns (by rw [hS])
  · -- generator path
    intro hnn he hd hor
    obtain ⟨hgu, _⟩ := gens_valid_of_not_cons p hp he hd hor
    have hwfg := hp.gs_wf he hgu
    rw [hnn] at hwfg
    have hwfA : ∀ r ∈ addCorrespondingPoints p.gs.rows, r.genWF true p.dim := by
      intro r hr
      rw [addCorrespondingPoints_eq] at hr
      rcases List.mem_append.mp hr with hr | hr
      · exact hwfg r hr
      · exact (corrPoints_facts p.dim p.gs.rows hwfg r hr).1
    exact genSem_closed_of_matched p.dim _ (gensWF_gensOf true p.dim _ hwfA)
      (matched_addCorrespondingPoints p.dim p.gs.rows hwfg)

end PPLV.PolyOps

import PPLV.PolyOps.ProofsDims8

/-!
# `map_space_dimensions`, general case: the rebuilt generator system

`genRowMap`: renamed coefficients, origin lines and rays dropped, rows (strongly) normalised, the
epsilon coefficient of a point rebuilt as its divisor;
`addCorrespondingClosurePoints` (NNC): the closure point of a point that is present adds nothing.
-/
namespace PPLV.PolyOps
open PPLV.Lin


/-- what `genRowMap` does to a point or closure point: `point(expr, d)` / `closure_point(expr, d)`
    build a normalised generator without epsilon column; inserted into the system, a point gets
    `epsilon := divisor` -/
def normP (r : Row) : Row :=
  if r.eps > 0 then
    { ({ r with eps := 0 } : Row).normalize with eps := (({ r with eps := 0 } : Row).normalize).b }
  else ({ r with eps := 0 } : Row).normalize

/-- the normalisation `genRowMap` applies to a kept row -/
def normG (r : Row) : Row :=
  if (r.b == 0) = true then (if r.eq = true then r.strongNormalize else r.normalize) else normP r

theorem filterMap_genRowMap (f : List (Option Nat)) (N : Nat) (rows : List Row) :
    rows.filterMap (genRowMap f N) =
      ((rows.map (Row.mapC f N)).filter (fun r => !(r.b == 0 && r.cf.all (· == 0)))).map normG := by
  induction rows with
  | nil => rfl
  | cons r rs ih =>
    rw [List.filterMap_cons, List.map_cons, List.filter_cons, ih]
    unfold genRowMap normG normP Row.mapC
    simp only
    by_cases hb : r.b = 0 <;> cases hz : (mapCoords f N r.cf).all (· == 0) <;> cases he : r.eq <;>
      simp [hb]

theorem eps_zero_eq (r : Row) (h : r.eps = 0) : ({ r with eps := 0 } : Row) = r := by
  cases r; simp only at h; subst h; rfl

/-- points and closure points: the kind, the coordinates over the divisor are kept -/
theorem normP_facts (nnc : Bool) (n : Nat) (r : Row) (h : r.genWF nnc n) (hb : r.b ≠ 0) :
    (normP r).genWF nnc n ∧ ((normP r).isPoint nnc ↔ r.isPoint nnc) ∧
      ∀ c : Con, rowAdmits c ((normP r).toGen nnc) ↔ rowAdmits c (r.toGen nnc) := by
  obtain ⟨h1, h2, h3, h4, h5, h6⟩ := h
  have hbpos : 0 < r.b := lt_of_le_of_ne h2 (Ne.symm hb)
  have heq : r.eq = false := by
    cases hq : r.eq
    · rfl
    · exact absurd (h4 hq) hb
  by_cases he : r.eps > 0
  · -- a point of an NNC system; the row without epsilon is read in the closed topology
    have hn : nnc = true := by
      cases hnn : nnc
      · have := h6 hnn; omega
      · rfl
    have hwf1 : ({ r with eps := 0 } : Row).genWF false n :=
      ⟨h1, h2, le_refl _, h4, fun _ => rfl, fun _ => rfl⟩
    have h0wf := (normalize_genWF false n _ hwf1).1
    have h0pt : (({ r with eps := 0 } : Row).normalize).isPoint false :=
      (normalize_isPoint_iff false _).mpr ⟨heq, hbpos, fun hh => by cases hh⟩
    have hadm0 := normalize_admits false n _ hwf1
    rw [toGen_pt false ({ r with eps := 0 } : Row) heq hb (by simp)] at hadm0
    unfold normP
    rw [if_pos he]
    generalize ({ r with eps := 0 } : Row).normalize = r0 at h0wf h0pt hadm0 ⊢
    obtain ⟨g1, g2, g3, g4, g5, g6⟩ := h0wf
    obtain ⟨p1, p2, _⟩ := h0pt
    rw [toGen_pt false r0 p1 (ne_of_gt p2) (by simp)] at hadm0
    refine ⟨⟨g1, g2, g2, g4, fun hh => absurd hh (ne_of_gt p2), fun hh => by rw [hn] at hh; cases hh⟩,
      ?_, fun c => ?_⟩
    · exact ⟨fun _ => ⟨heq, hbpos, fun _ => he⟩, fun _ => ⟨p1, p2, fun _ => p2⟩⟩
    · have hg : Row.toGen nnc ({ r0 with eps := r0.b } : Row) = ⟨.point, r0.cf, r0.b⟩ :=
        toGen_pt nnc ({ r0 with eps := r0.b } : Row) p1 (ne_of_gt p2) (by
          intro hh
          have h0 : r0.b = 0 := hh.2
          omega)
      rw [toGen_pt nnc r heq hb (by intro hh; omega)]
      exact hg ▸ hadm0 c
  · have he0 : r.eps = 0 := by omega
    have hr' : normP r = ({ r with eps := 0 } : Row).normalize := by
      unfold normP; rw [if_neg he]
    rw [hr', eps_zero_eq r he0]
    have hwf : r.genWF nnc n := ⟨h1, h2, h3, h4, h5, h6⟩
    exact ⟨(normalize_genWF nnc n r hwf).1, normalize_isPoint_iff nnc r,
      fun c => normalize_admits nnc n r hwf c⟩

theorem normG_facts (nnc : Bool) (n : Nat) (r : Row) (h : r.genWF nnc n) :
    (normG r).genWF nnc n ∧ ((normG r).isPoint nnc ↔ r.isPoint nnc) ∧
      ∀ c : Con, rowAdmits c ((normG r).toGen nnc) ↔ rowAdmits c (r.toGen nnc) := by
  unfold normG
  split
  · split
    · refine ⟨(kit_strongNormalizeWF nnc n r h).1, ?_, fun c => ?_⟩
      · unfold Row.strongNormalize
        rw [signNormalize_isPoint_iff, normalize_isPoint_iff]
      · unfold Row.strongNormalize
        rw [signNormalize_admits, normalize_admits nnc n r h c]
    · exact ⟨(kit_strongNormalizeWF nnc n r h).2.1, normalize_isPoint_iff nnc r,
        fun c => normalize_admits nnc n r h c⟩
  · rename_i hb
    exact normP_facts nnc n r h (by simpa using hb)

theorem genSem_normG (nnc : Bool) (n : Nat) (rows : List Row) (hwf : ∀ r ∈ rows, r.genWF nnc n) :
    genSem nnc n (rows.map normG) = genSem nnc n rows :=
  genSem_map_congr nnc n rows normG hwf
    (fun r hr => (normG_facts nnc n r (hwf r hr)).1)
    (fun r hr => (normG_facts nnc n r (hwf r hr)).2.1)
    (fun r hr => (normG_facts nnc n r (hwf r hr)).2.2)

/-- the rows `filterMap (genRowMap f N)` builds, and their facts -/
theorem genRowMap_facts (nnc : Bool) (n N : Nat) (f : List (Option Nat)) (rows : List Row)
    (hwf : ∀ r ∈ rows, r.genWF nnc n) (hlen : f.length = n)
    (hinj : ∀ j j' k, f.getD j none = some k → f.getD j' none = some k → j = j')
    (hcod : ∀ j k, f.getD j none = some k → k < N)
    (hsurj : ∀ k < N, ∃ j, f.getD j none = some k) :
    genSem nnc N (rows.filterMap (genRowMap f N)) = mapSet f (genSem nnc n rows) ∧
    (∀ r ∈ rows.filterMap (genRowMap f N), r.genWF nnc N) := by
  have hwf1 : ∀ r ∈ rows.map (Row.mapC f N), r.genWF nnc N := by
    intro r hr
    obtain ⟨r0, hr0, rfl⟩ := List.mem_map.mp hr
    exact (mapC_genWF nnc n N f r0 (hwf r0 hr0)).1
  have hfilt : (rows.map (Row.mapC f N)).filter (fun r => !(r.b == 0 && r.cf.all (· == 0))) =
      (rows.map (Row.mapC f N)).filter (fun r => !(r.b == 0 && r.allHomZero)) := by
    apply List.filter_congr
    intro r hr
    obtain ⟨_, _, _, _, h5, _⟩ := hwf1 r hr
    by_cases hb : r.b = 0
    · simp [hb, Row.allHomZero, h5 hb]
    · have hb' : (r.b == 0) = false := by simpa using hb
      rw [hb']; rfl
  have hwf2 : ∀ r ∈ (rows.map (Row.mapC f N)).filter (fun r => !(r.b == 0 && r.allHomZero)),
      r.genWF nnc N := fun r hr => hwf1 r (List.mem_filter.mp hr).1
  rw [filterMap_genRowMap, hfilt]
  refine ⟨?_, ?_⟩
  · rw [genSem_normG nnc N _ hwf2, kit_removeInvalid nnc N _ hwf1,
      genSem_mapC nnc n N f rows hwf hlen hinj hcod hsurj]
  · intro r hr
    obtain ⟨r0, hr0, rfl⟩ := List.mem_map.mp hr
    exact (normG_facts nnc N r0 (hwf2 r0 hr0)).1

/-! ### `add_corresponding_closure_points` -/

theorem genSem_addCCP (n : Nat) (rows : List Row) (hwf : ∀ r ∈ rows, r.genWF true n) :
    genSem true n (addCorrespondingClosurePoints rows) = genSem true n rows := by
  unfold addCorrespondingClosurePoints
  -- the facts about one added row
  have hextra : ∀ e ∈ (rows.reverse.filter (fun g => decide (g.eps > 0))).map
      (fun g => ({ g with eps := 0 } : Row).normalize),
      e.genWF true n ∧ ¬ e.isPoint true ∧
        ∀ c : Con, (∀ r ∈ rows, rowAdmits c (r.toGen true)) → rowAdmits c (e.toGen true) := by
    intro e he
    obtain ⟨g, hg, rfl⟩ := List.mem_map.mp he
    obtain ⟨hg1, hg2⟩ := List.mem_filter.mp hg
    have hgr : g ∈ rows := List.mem_reverse.mp hg1
    have heps : 0 < g.eps := by simpa using hg2
    obtain ⟨h1, h2, h3, h4, h5, h6⟩ := hwf g hgr
    have hb : g.b ≠ 0 := fun hb => by have := h5 hb; omega
    have heq : g.eq = false := by
      cases hq : g.eq
      · rfl
      · exact absurd (h4 hq) hb
    have hwf0 : ({ g with eps := 0 } : Row).genWF true n :=
      ⟨h1, h2, le_refl _, h4, fun _ => rfl, fun h => by cases h⟩
    refine ⟨(normalize_genWF true n _ hwf0).1, ?_, fun c hc => ?_⟩
    · rw [normalize_isPoint_iff]
      intro hp
      have := hp.2.2 rfl
      simp at this
    · rw [normalize_admits true n _ hwf0 c]
      have hpt := hc g hgr
      rw [toGen_pt true g heq hb (by intro h; omega)] at hpt
      rw [toGen_cp true ({ g with eps := 0 } : Row) heq hb rfl rfl]
      exact sat_nonneg c _ hpt
  have hwfA : ∀ r ∈ rows ++ (rows.reverse.filter (fun g => decide (g.eps > 0))).map
      (fun g => ({ g with eps := 0 } : Row).normalize), r.genWF true n := by
    intro r hr
    rcases List.mem_append.mp hr with hr | hr
    · exact hwf r hr
    · exact (hextra r hr).1
  unfold genSem
  apply genSem_congr_admits n _ _ (gensWF_gensOf true n _ hwfA) (gensWF_gensOf true n _ hwf)
  · rw [gensOf_pt true n _ hwfA, gensOf_pt true n _ hwf]
    constructor
    · rintro ⟨r, hr, hp⟩
      rcases List.mem_append.mp hr with hr | hr
      · exact ⟨r, hr, hp⟩
      · exact absurd hp (hextra r hr).2.1
    · rintro ⟨r, hr, hp⟩
      exact ⟨r, List.mem_append_left _ hr, hp⟩
  · intro c _
    unfold gensOf
    simp only [List.mem_map]
    constructor
    · rintro h g ⟨r, hr, rfl⟩
      exact h _ ⟨r, List.mem_append_left _ hr, rfl⟩
    · rintro h g ⟨r, hr, rfl⟩
      rcases List.mem_append.mp hr with hr | hr
      · exact h _ ⟨r, hr, rfl⟩
      · exact (hextra r hr).2.2 c (fun r0 hr0 => h _ ⟨r0, hr0, rfl⟩)

end PPLV.PolyOps

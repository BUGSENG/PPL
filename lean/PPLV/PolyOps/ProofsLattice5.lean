import PPLV.PolyOps.ProofsLattice4

/-!
# C02 — lattice operators at row level: `time_elapse_assign`

* `time_elapse_assign_rows_correct`: closed topology, full strength — for arbitrary well-formed
  generator lists `gx`, `gy` (with points) of the two arguments the result denotes the set generated
  by `timeElapseGens gx gy` (characterised by `C02.time_elapse_spec`).
* `time_elapse_assign_rows_correct_of_admits`: any topology, GIVEN that the rows derived from `y` accept the
  same constraint rows as the directions of `y`'s generators; `…_nnc_partial` discharges this under the
  row-matching condition `NNCInv` of `y`'s generator rows (every point has its closure point among the
  rows; real systems need not satisfy it), `…_nnc` (ProofsLattice15) under the geometric invariant
  `NNCInvW` — `Poly.WF` records neither.
* `time_elapse_assign_rows_empty`: either side marked empty ⇒ the result denotes `∅`.
-/
namespace PPLV.PolyOps
open PPLV.Lin

/-- the shape of the result in the main branch -/
theorem time_elapse_assign_main (x y q : Poly) (hex : x.st.empty = false) (hey : y.st.empty = false)
    (hd : x.dim ≠ 0) (h : x.time_elapse_assign y = some q) :
    x.st.cPend = false ∧ x.st.gUp = true ∧ y.st.cPend = false ∧ y.st.gUp = true ∧
    ((timeElapseRows x.nnc y.gs.rows = [] ∧ q = x) ∨
     ∃ gs' : Sys, (∀ r, r ∈ gs'.rows ↔ r ∈ x.gs.rows ++ timeElapseRows x.nnc y.gs.rows) ∧
      ((x.st.canPend = true ∧ q = pendForm x gs') ∨ (x.st.canPend = false ∧ q = dropForm x gs'))) := by
  unfold Poly.time_elapse_assign at h
  have hd' : ¬ ((x.dim == 0) = true) := by simpa using hd
  rw [if_neg hd', if_neg (by simp [hex, hey])] at h
  cases hox : x.obtainGeneratorsPendingNoConv with
  | none => rw [hox] at h; simp at h
  | some x' =>
    cases hoy : y.obtainGeneratorsPendingNoConv with
    | none => rw [hox, hoy] at h; simp at h
    | some y' =>
      obtain ⟨rfl, hxg, hxc⟩ := obtainG_some x x' hox
      obtain ⟨rfl, hyg, hyc⟩ := obtainG_some y y' hoy
      rw [hox, hoy] at h
      dsimp only at h
      refine ⟨hxg, hxc, hyg, hyc, ?_⟩
      by_cases hem : (timeElapseRows x'.nnc y'.gs.rows).isEmpty = true
      · rw [if_pos hem] at h
        exact Or.inl ⟨List.isEmpty_iff.mp hem, (Option.some.inj h).symm⟩
      · rw [if_neg hem] at h
        right
        by_cases hcp : x'.st.canPend = true
        · rw [if_pos hcp] at h
          exact ⟨_, fun _ => Iff.rfl, Or.inl ⟨hcp, (Option.some.inj h).symm⟩⟩
        · rw [if_neg hcp] at h
          exact ⟨_, fun r => mem_mergeRows _ _ r, Or.inr ⟨by simpa using hcp, (Option.some.inj h).symm⟩⟩

/-- the rows of `x` followed by the rows derived from `y` generate the reference set -/
theorem te_rows_genSem (x y : Poly) (n : Nat) (gx gy : List Gen) (gs' : List Row)
    (hxn : x.dim = n) (hyn : y.dim = n) (hnnc : y.nnc = x.nnc) (hx : x.WF) (hy : y.WF)
    (hwx : gensWF n gx = true) (hwy : gensWF n gy = true)
    (hex : x.st.empty = false) (hey : y.st.empty = false)
    (hxc : x.st.cPend = false) (hxg : x.st.gUp = true) (hyc : y.st.cPend = false)
    (hyg : y.st.gUp = true)
    (hadm : (∀ r ∈ y.gs.rows, r.genWF x.nnc n) → ∀ c : Con, c.coeffs.length ≤ n →
      ((∀ g ∈ gensOf x.nnc (timeElapseRows x.nnc y.gs.rows), rowAdmits c g) ↔
        ∀ g ∈ (gensOf x.nnc y.gs.rows).filterMap teDir, rowAdmits c g))
    (hDx : x.Denotes (GenSem n gx)) (hDy : y.Denotes (GenSem n gy))
    (hrows : ∀ r, r ∈ gs' ↔ r ∈ x.gs.rows ++ timeElapseRows x.nnc y.gs.rows) :
    genSem x.nnc x.dim gs' = GenSem n (timeElapseGens gx gy) ∧ (∀ r ∈ gs', r.genWF x.nnc x.dim) ∧
      ∃ r ∈ gs', r.isPoint x.nnc := by
  obtain ⟨hgx, hnx⟩ := denotes_gen_nonempty x _ hx hex hxg hxc hDx
  obtain ⟨hgy, hny⟩ := denotes_gen_nonempty y _ hy hey hyg hyc hDy
  have hwfx := hx.gs_wf hex hxg
  have hwfy := hy.gs_wf hey hyg
  rw [hnnc, hyn, ← hxn] at hwfy
  rw [hnnc, hyn] at hgy
  rw [hxn] at hgx
  have hwfT := timeElapseRows_genWF x.nnc x.dim _ hwfy
  obtain ⟨hwf', hpt'⟩ := rows_append_facts hrows hwfx hwfT (hx.gs_pt hex hxg)
  refine ⟨?_, hwf', hpt'⟩
  · rw [genSem_congr_mem x.nnc x.dim gs' _ hwf' hrows]
    unfold genSem
    rw [gensOf_append, hxn]
    rw [hxn] at hwfx hwfy hwfT
    have hptx := (gensOf_pt x.nnc n _ hwfx).mpr (hx.gs_pt hex hxg)
    have hpty := (gensOf_pt x.nnc n _ hwfy).mpr (by
      obtain ⟨r, hr, hp⟩ := hy.gs_pt hey hyg
      exact ⟨r, hr, by rw [← hnnc]; exact hp⟩)
    have hGx := gensWF_gensOf x.nnc n _ hwfx
    have hGy := gensWF_gensOf x.nnc n _ hwfy
    have hGT := gensWF_gensOf x.nnc n _ hwfT
    have step1 : GenSem n (gensOf x.nnc x.gs.rows ++ gensOf x.nnc (timeElapseRows x.nnc y.gs.rows)) =
        GenSem n (timeElapseGens (gensOf x.nnc x.gs.rows) (gensOf x.nnc y.gs.rows)) := by
      apply genSem_congr_admits n _ _ (gensWF_append n _ _ hGx hGT) (gensWF_timeElapse n _ _ hGx hGy)
      · obtain ⟨g, hg, hp⟩ := hptx
        rw [timeElapseGens_eq]
        exact ⟨fun _ => ⟨g, List.mem_append_left _ hg, hp⟩, fun _ => ⟨g, List.mem_append_left _ hg, hp⟩⟩
      · intro c hc
        rw [timeElapseGens_eq]
        have := hadm hwfy c hc
        simp only [List.mem_append]
        constructor
        · intro h g hg
          rcases hg with hg | hg
          · exact h g (Or.inl hg)
          · exact this.mp (fun g' hg' => h g' (Or.inr hg')) g hg
        · intro h g hg
          rcases hg with hg | hg
          · exact h g (Or.inl hg)
          · exact this.mpr (fun g' hg' => h g' (Or.inr hg')) g hg
    rw [step1]
    exact GenSem_timeElapse_congr n _ _ gx gy hGx hGy hwx hwy hptx hpty
      (pt_of_nonempty n gx hnx) (pt_of_nonempty n gy hny) hgx hgy

/-- general form: any topology.  `hadm`: the rows the loop of `time_elapse_assign` derives from `y`'s generator
    rows accept the same constraint rows as the directions of `y`'s generators — for an NNC `y` this needs an
    invariant of its generator system (`teRows_admits`, and `teRows_admits_w` of ProofsLattice15) -/
theorem time_elapse_assign_rows_correct_of_admits (x y q : Poly) (n : Nat) (gx gy : List Gen)
    (hxn : x.dim = n) (hyn : y.dim = n) (hnnc : y.nnc = x.nnc) (hx : x.WF) (hy : y.WF)
    (hwx : gensWF n gx = true) (hwy : gensWF n gy = true)
    (hpx : ∃ g ∈ gx, g.isPt = true) (hpy : ∃ g ∈ gy, g.isPt = true)
    (hadm : (∀ r ∈ y.gs.rows, r.genWF x.nnc n) → ∀ c : Con, c.coeffs.length ≤ n →
      ((∀ g ∈ gensOf x.nnc (timeElapseRows x.nnc y.gs.rows), rowAdmits c g) ↔
        ∀ g ∈ (gensOf x.nnc y.gs.rows).filterMap teDir, rowAdmits c g))
    (hDx : x.Denotes (GenSem n gx)) (hDy : y.Denotes (GenSem n gy))
    (h : x.time_elapse_assign y = some q) :
    q.Denotes (GenSem n (timeElapseGens gx gy)) := by
  have hex : x.st.empty = false := by
    cases he : x.st.empty
    · rfl
    · have := nonempty_of_pt n gx hpx
      rw [hDx.1 he] at this
      exact absurd this Set.not_nonempty_empty
  have hey : y.st.empty = false := by
    cases he : y.st.empty
    · rfl
    · have := nonempty_of_pt n gy hpy
      rw [hDy.1 he] at this
      exact absurd this Set.not_nonempty_empty
  by_cases hd : x.dim = 0
  · have hq : q = x := by
      unfold Poly.time_elapse_assign at h
      rw [if_pos (by simp [hd])] at h
      simp only [hey, Bool.false_eq_true, if_false] at h
      exact (Option.some.inj h).symm
    subst hq
    have hn0 : n = 0 := by rw [← hxn]; exact hd
    subst hn0
    have hux := (hDx.2 hex).2.2 (hx.zero_dim hd).1 (hx.zero_dim hd).2
    have : GenSem 0 (timeElapseGens gx gy) = GenSem 0 gx := by
      rw [hux, timeElapseGens_eq]
      obtain ⟨g, hg, hp⟩ := hpx
      exact GenSem_zero_univ _ ⟨g, List.mem_append_left _ hg, hp⟩
    rw [this]; exact hDx
  · obtain ⟨hxc, hxg, hyc, hyg, hq⟩ := time_elapse_assign_main x y q hex hey hd h
    rcases hq with ⟨hnil, hqx⟩ | ⟨gs', hrows, hq⟩
    · -- nothing to add: the polyhedron is unchanged
      rw [hqx]
      obtain ⟨hgen, _, _⟩ := te_rows_genSem x y n gx gy x.gs.rows hxn hyn hnnc hx hy hwx hwy hex hey
        hxc hxg hyc hyg hadm hDx hDy (fun r => by rw [hnil, List.append_nil])
      rw [← hgen, (denotes_gen_nonempty x _ hx hex hxg hxc hDx).1]
      exact hDx
    · obtain ⟨hgen, _, _⟩ := te_rows_genSem x y n gx gy gs'.rows hxn hyn hnnc hx hy hwx hwy hex hey
        hxc hxg hyc hyg hadm hDx hDy hrows
      exact denotes_genForm hq hex hxg hgen

/-- any topology, under the row-matching condition `NNCInv` of `y`'s generator rows (every point has its closure
    point among the rows), which `Poly.WF` does not record and real NNC systems need not satisfy -/
theorem time_elapse_assign_rows_correct_nnc_partial (x y q : Poly) (n : Nat) (gx gy : List Gen)
    (hxn : x.dim = n) (hyn : y.dim = n) (hnnc : y.nnc = x.nnc) (hx : x.WF) (hy : y.WF)
    (hwx : gensWF n gx = true) (hwy : gensWF n gy = true)
    (hpx : ∃ g ∈ gx, g.isPt = true) (hpy : ∃ g ∈ gy, g.isPt = true)
    (hinv : x.nnc = true → NNCInv y.gs.rows)
    (hDx : x.Denotes (GenSem n gx)) (hDy : y.Denotes (GenSem n gy))
    (h : x.time_elapse_assign y = some q) :
    q.Denotes (GenSem n (timeElapseGens gx gy)) :=
  time_elapse_assign_rows_correct_of_admits x y q n gx gy hxn hyn hnnc hx hy hwx hwy hpx hpy
    (fun hwfy c _ => teRows_admits x.nnc n y.gs.rows hwfy hinv c) hDx hDy h

/-- **`Polyhedron::time_elapse_assign` at row level, closed topology: the reference time-elapse.** -/
theorem time_elapse_assign_rows_correct (x y q : Poly) (n : Nat) (gx gy : List Gen)
    (hxn : x.dim = n) (hyn : y.dim = n) (hnnc : y.nnc = x.nnc) (hclosed : x.nnc = false)
    (hx : x.WF) (hy : y.WF)
    (hwx : gensWF n gx = true) (hwy : gensWF n gy = true)
    (hpx : ∃ g ∈ gx, g.isPt = true) (hpy : ∃ g ∈ gy, g.isPt = true)
    (hDx : x.Denotes (GenSem n gx)) (hDy : y.Denotes (GenSem n gy))
    (h : x.time_elapse_assign y = some q) :
    q.Denotes (GenSem n (timeElapseGens gx gy)) :=
  time_elapse_assign_rows_correct_nnc_partial x y q n gx gy hxn hyn hnnc hx hy hwx hwy hpx hpy
    (fun hn => by rw [hclosed] at hn; cases hn) hDx hDy h

/-- either argument marked empty: the result denotes the empty set -/
theorem time_elapse_assign_rows_empty (x y q : Poly)
    (he : x.st.empty = true ∨ y.st.empty = true) (h : x.time_elapse_assign y = some q) :
    q.Denotes ∅ := by
  unfold Poly.time_elapse_assign at h
  by_cases hd : (x.dim == 0) = true
  · rw [if_pos hd] at h
    have hq := (Option.some.inj h).symm
    subst hq
    cases hey : y.st.empty
    · rcases he with he | he
      · simp only [Bool.false_eq_true, if_false]
        exact denotes_of_empty _ _ he rfl
      · rw [hey] at he; cases he
    · simp only [if_true]
      exact denotes_setEmpty _ _ rfl
  · rw [if_neg hd, if_pos (by rcases he with he | he <;> simp [he])] at h
    have hq := (Option.some.inj h).symm
    subst hq
    exact denotes_setEmpty _ _ rfl

end PPLV.PolyOps

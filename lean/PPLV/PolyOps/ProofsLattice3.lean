import PPLV.PolyOps.ProofsLattice2

/-!
# C02 — lattice operators at row level: `poly_hull_assign`

`poly_hull_assign_rows_correct`: for ARBITRARY generator lists `gx`, `gy` of the two arguments the
result denotes the set generated by `hullGens [gx, gy]` (whose leastness is `C02.poly_hull_least`).
The code joins the rows of `x` and `y`, the reference joins `gx` and `gy`: the set generated by a
concatenation only depends on the two generated sets (`GenSem_append_congr`).
-/
namespace PPLV.PolyOps
open PPLV.Lin

/-- the set generated by a concatenation depends only on the two generated sets -/
theorem GenSem_append_congr (n : Nat) (A B A' B' : List Gen)
    (hA : gensWF n A = true) (hB : gensWF n B = true) (hA' : gensWF n A' = true)
    (hB' : gensWF n B' = true) (hpA : ∃ g ∈ A, g.isPt = true) (hpB : ∃ g ∈ B, g.isPt = true)
    (hpA' : ∃ g ∈ A', g.isPt = true) (hpB' : ∃ g ∈ B', g.isPt = true)
    (hAA : GenSem n A = GenSem n A') (hBB : GenSem n B = GenSem n B') :
    GenSem n (A ++ B) = GenSem n (A' ++ B') := by
  have hw := gensWF_append n A B hA hB
  have hw' := gensWF_append n A' B' hA' hB'
  apply Set.Subset.antisymm
  · rw [← sem_gensToCons n (A' ++ B') hw',
      polyHull_subset_iff n A B hpA hpB _ (gensToCons_wf n _), hAA, hBB,
      ← polyHull_subset_iff n A' B' hpA' hpB' _ (gensToCons_wf n _), sem_gensToCons n _ hw']
  · rw [← sem_gensToCons n (A ++ B) hw,
      polyHull_subset_iff n A' B' hpA' hpB' _ (gensToCons_wf n _), ← hAA, ← hBB,
      ← polyHull_subset_iff n A B hpA hpB _ (gensToCons_wf n _), sem_gensToCons n _ hw]

theorem pt_of_nonempty (n : Nat) (gs : List Gen) (h : (GenSem n gs).Nonempty) :
    ∃ g ∈ gs, g.isPt = true := by
  by_contra hn
  rw [GenSem_no_point n gs hn] at h
  exact Set.not_nonempty_empty h

theorem nonempty_of_pt (n : Nat) (gs : List Gen) (h : ∃ g ∈ gs, g.isPt = true) :
    (GenSem n gs).Nonempty := by
  obtain ⟨g, hg, hp⟩ := h
  exact ⟨g.vec, genSem_point n gs g hg hp _ (fun _ _ => rfl)⟩

theorem nil_of_genSem_empty (n : Nat) (gs : List Gen) (hp : gs = [] ∨ ∃ g ∈ gs, g.isPt = true)
    (h : GenSem n gs = ∅) : gs = [] := by
  rcases hp with hp | hp
  · exact hp
  · have := nonempty_of_pt n gs hp
    rw [h] at this
    exact absurd this Set.not_nonempty_empty

/-- in dimension 0 a non-empty generated set is everything -/
theorem GenSem_zero_univ (gs : List Gen) (h : ∃ g ∈ gs, g.isPt = true) : GenSem 0 gs = Set.univ := by
  obtain ⟨x, hx⟩ := nonempty_of_pt 0 gs h
  ext w
  simp only [Set.mem_univ, iff_true]
  exact GenSem_cylinder 0 gs w x hx (fun i hi => absurd hi (Nat.not_lt_zero i))

theorem GenSem_hullGens2 (n : Nat) (gx gy : List Gen) (hwx : gensWF n gx = true)
    (hwy : gensWF n gy = true) : GenSem n (hullGens [gx, gy]) = GenSem n (gx ++ gy) := by
  unfold hullGens
  have : [gx, gy].flatten = gx ++ gy := by simp
  rw [this]
  exact genSem_dedupG n _ (gensWF_append n gx gy hwx hwy)

/-- a well-formed polyhedron whose generators are valid denotes a non-empty set -/
theorem denotes_gen_nonempty (p : Poly) (S : Set Val) (hp : p.WF) (he : p.st.empty = false)
    (hgu : p.st.gUp = true) (hcp : p.st.cPend = false) (hD : p.Denotes S) :
    genSem p.nnc p.dim p.gs.rows = S ∧ S.Nonempty := by
  have h1 := (hD.2 he).2.1 hgu hcp
  refine ⟨h1, ?_⟩
  rw [← h1]
  exact kit_nonempty p.nnc p.dim p.gs.rows (hp.gs_wf he hgu) (hp.gs_pt he hgu)

/-- the branches that return an argument unchanged: `y` marked empty; `x` marked empty; dimension 0 -/
theorem poly_hull_assign_trivial (x y q : Poly) (h : x.poly_hull_assign y = some q) :
    (y.st.empty = true → q = x) ∧ (y.st.empty = false → x.st.empty = true → q = y) ∧
    (y.st.empty = false → x.st.empty = false → x.dim = 0 → q = x) := by
  unfold Poly.poly_hull_assign at h
  refine ⟨fun hey => ?_, fun hey hex => ?_, fun hey hex hd => ?_⟩
  · rw [if_pos hey] at h
    exact (Option.some.inj h).symm
  · rw [if_neg (by simp [hey]), if_pos hex] at h
    exact (Option.some.inj h).symm
  · rw [if_neg (by simp [hey]), if_neg (by simp [hex]), if_pos (by simp [hd])] at h
    exact (Option.some.inj h).symm

/-- the shape of the result in the main branch -/
theorem poly_hull_assign_main (x y q : Poly) (hex : x.st.empty = false) (hey : y.st.empty = false)
    (hd : x.dim ≠ 0) (h : x.poly_hull_assign y = some q) :
    x.st.cPend = false ∧ x.st.gUp = true ∧ y.st.cPend = false ∧ y.st.gUp = true ∧
    ∃ gs' : Sys, (∀ r, r ∈ gs'.rows ↔ r ∈ x.gs.rows ++ y.gs.rows) ∧
      ((x.st.canPend = true ∧ q = pendForm x gs') ∨ (x.st.canPend = false ∧ q = dropForm x gs')) := by
  unfold Poly.poly_hull_assign at h
  have hd' : ¬ ((x.dim == 0) = true) := by simpa using hd
  rw [if_neg (by simp [hey]), if_neg (by simp [hex]), if_neg hd'] at h
  cases hox : x.obtainGeneratorsPendingNoConv with
  | none => rw [hox] at h; simp at h
  | some x' =>
    cases hoy : y.obtainGeneratorsPendingNoConv with
    | none => rw [hox, hoy] at h; simp at h
    | some y' =>
      obtain ⟨rfl, hxg, hxc⟩ := obtainG_some x x' hox
      obtain ⟨rfl, hyg, hyc⟩ := obtainG_some y y' hoy
      rw [hox, hoy] at h
      simp only at h
      refine ⟨hxg, hxc, hyg, hyc, ?_⟩
      by_cases hcp : x'.st.canPend = true
      · rw [if_pos hcp] at h
        exact ⟨_, fun _ => Iff.rfl, Or.inl ⟨hcp, (Option.some.inj h).symm⟩⟩
      · rw [if_neg hcp] at h
        refine ⟨_, fun r => ?_, Or.inr ⟨by simpa using hcp, (Option.some.inj h).symm⟩⟩
        show r ∈ (if (x'.gs.sorted && y'.gs.sorted && !y'.st.gPend) = true then
            x'.gs.mergeRowsAssign y'.gs.rows else x'.gs.insertSys y'.gs.rows).rows ↔ _
        split
        · exact mem_mergeRows _ _ r
        · exact Iff.rfl

/-- the rows of both arguments, read as generators, generate the same set as `gx ++ gy` -/
theorem hull_rows_genSem (x y : Poly) (n : Nat) (gx gy : List Gen) (gs' : List Row)
    (hxn : x.dim = n) (hyn : y.dim = n) (hnnc : y.nnc = x.nnc) (hx : x.WF) (hy : y.WF)
    (hwx : gensWF n gx = true) (hwy : gensWF n gy = true)
    (hex : x.st.empty = false) (hey : y.st.empty = false)
    (hxc : x.st.cPend = false) (hxg : x.st.gUp = true) (hyc : y.st.cPend = false)
    (hyg : y.st.gUp = true)
    (hDx : x.Denotes (GenSem n gx)) (hDy : y.Denotes (GenSem n gy))
    (hrows : ∀ r, r ∈ gs' ↔ r ∈ x.gs.rows ++ y.gs.rows) :
    genSem x.nnc x.dim gs' = GenSem n (gx ++ gy) ∧ (∀ r ∈ gs', r.genWF x.nnc x.dim) ∧
      ∃ r ∈ gs', r.isPoint x.nnc := by
  obtain ⟨hgx, hnx⟩ := denotes_gen_nonempty x _ hx hex hxg hxc hDx
  obtain ⟨hgy, hny⟩ := denotes_gen_nonempty y _ hy hey hyg hyc hDy
  have hwfx := hx.gs_wf hex hxg
  have hwfy := hy.gs_wf hey hyg
  rw [hnnc, hyn, ← hxn] at hwfy
  rw [hnnc, hyn] at hgy
  rw [hxn] at hgx
  obtain ⟨hwf', hpt'⟩ := rows_append_facts hrows hwfx hwfy (hx.gs_pt hex hxg)
  refine ⟨?_, hwf', hpt'⟩
  · rw [genSem_congr_mem x.nnc x.dim gs' _ hwf' hrows]
    unfold genSem
    rw [gensOf_append, hxn]
    rw [hxn] at hwfx hwfy
    have hptx := (gensOf_pt x.nnc n _ hwfx).mpr (hx.gs_pt hex hxg)
    have hpty := (gensOf_pt x.nnc n _ hwfy).mpr (by
      obtain ⟨r, hr, hp⟩ := hy.gs_pt hey hyg
      exact ⟨r, hr, by rw [← hnnc]; exact hp⟩)
    exact GenSem_append_congr n _ _ gx gy (gensWF_gensOf _ _ _ hwfx) (gensWF_gensOf _ _ _ hwfy)
      hwx hwy hptx hpty (pt_of_nonempty n gx hnx) (pt_of_nonempty n gy hny) hgx hgy

/-- **`Polyhedron::poly_hull_assign` at row level computes the poly-hull.** -/
theorem poly_hull_assign_rows_correct (x y q : Poly) (n : Nat) (gx gy : List Gen)
    (hxn : x.dim = n) (hyn : y.dim = n) (hnnc : y.nnc = x.nnc) (hx : x.WF) (hy : y.WF)
    (hwx : gensWF n gx = true) (hwy : gensWF n gy = true)
    (hpx : gx = [] ∨ ∃ g ∈ gx, g.isPt = true) (hpy : gy = [] ∨ ∃ g ∈ gy, g.isPt = true)
    (hDx : x.Denotes (GenSem n gx)) (hDy : y.Denotes (GenSem n gy))
    (h : x.poly_hull_assign y = some q) :
    q.Denotes (GenSem n (hullGens [gx, gy])) := by
  rw [GenSem_hullGens2 n gx gy hwx hwy]
  cases hey : y.st.empty
  · cases hex : x.st.empty
    · by_cases hd : x.dim = 0
      · -- dimension 0: both are the universe
        rw [(poly_hull_assign_trivial x y q h).2.2 hey hex hd]
        have hn0 : n = 0 := by rw [← hxn]; exact hd
        subst hn0
        have hux := (hDx.2 hex).2.2 (hx.zero_dim hd).1 (hx.zero_dim hd).2
        have hptx : ∃ g ∈ gx, g.isPt = true :=
          pt_of_nonempty 0 gx (by rw [hux]; exact Set.univ_nonempty)
        have : GenSem 0 (gx ++ gy) = GenSem 0 gx := by
          rw [hux]
          obtain ⟨g, hg, hp⟩ := hptx
          exact GenSem_zero_univ _ ⟨g, List.mem_append_left _ hg, hp⟩
        rw [this]; exact hDx
      · obtain ⟨hxc, hxg, hyc, hyg, gs', hrows, hq⟩ := poly_hull_assign_main x y q hex hey hd h
        obtain ⟨hgen, _, _⟩ := hull_rows_genSem x y n gx gy gs'.rows hxn hyn hnnc hx hy hwx hwy hex hey
          hxc hxg hyc hyg hDx hDy hrows
        exact denotes_genForm hq hex hxg hgen
    · -- `x` marked empty: the result is `y`
      rw [(poly_hull_assign_trivial x y q h).2.1 hey hex]
      rw [nil_of_genSem_empty n gx hpx (hDx.1 hex), List.nil_append]
      exact hDy
  · -- `y` marked empty: nothing to do
    rw [(poly_hull_assign_trivial x y q h).1 hey]
    rw [nil_of_genSem_empty n gy hpy (hDy.1 hey), List.append_nil]
    exact hDx

/-- well-formedness of the hull (the invariants `Polyhedron::OK()` adds to `Poly.WF` for pending
    rows are explicit hypotheses: a pair that can have pending rows has its constraints up to
    date, pending generators only occur on such a pair) -/
theorem poly_hull_assign_rows_wf (x y q : Poly) (hdim : y.dim = x.dim) (hnnc : y.nnc = x.nnc)
    (hx : x.WF) (hy : y.WF)
    (hcan : x.st.canPend = true → x.st.cUp = true) (hpend : x.st.gPend = true → x.st.canPend = true)
    (h : x.poly_hull_assign y = some q) : q.WF := by
  cases hey : y.st.empty
  · cases hex : x.st.empty
    · by_cases hd : x.dim = 0
      · rw [(poly_hull_assign_trivial x y q h).2.2 hey hex hd]; exact hx
      · obtain ⟨hxc, hxg, hyc, hyg, gs', hrows, hq⟩ := poly_hull_assign_main x y q hex hey hd h
        have hwfx := hx.gs_wf hex hxg
        have hwfy := hy.gs_wf hey hyg
        rw [hnnc, hdim] at hwfy
        obtain ⟨hwf', hpt'⟩ := rows_append_facts hrows hwfx hwfy (hx.gs_pt hex hxg)
        exact wf_genForm hq hx hex hxg hxc hcan hpend hwf' hpt'
    · rw [(poly_hull_assign_trivial x y q h).2.1 hey hex]; exact hy
  · rw [(poly_hull_assign_trivial x y q h).1 hey]; exact hx

end PPLV.PolyOps

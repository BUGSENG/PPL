import PPLV.PolyOps.ProofsLattice8
import PPLV.PolyOps.ProofsLattice10

/-!
# C02 — `generalized_affine_image` at row level: well-formedness; `PendOK` is kept

`Poly.PendOK` (ProofsLattice10): the two invariants of `Polyhedron::OK()` about pending rows that
`Poly.WF` does not record.  `affine_image`, `poly_hull_assign` and `generalized_affine_image` keep
them, so that the well-formedness theorems can be chained.
-/
namespace PPLV.PolyOps
open PPLV.Lin

theorem affine_image_pendOK (p q : Poly) (v : Nat) (e : LinExpr) (den : Int) (hp : p.WF)
    (hpo : p.PendOK) (h : p.affine_image v e den = some q) : q.PendOK := by
  cases hem : p.st.empty
  · by_cases hc : e.coeffs.getD v 0 = 0
    · unfold Poly.affine_image at h
      have hem' : ¬ (p.st.empty = true) := by simp [hem]
      have hc' : ¬ ((e.coeffs.getD v 0 != 0) = true) := by rw [hc]; decide
      rw [if_neg hem', if_neg hc'] at h
      simp only [Status.somethingPending] at h
      by_cases hgp : p.st.gPend = true
      · have hcp : p.st.cPend = false := by
          cases hx : p.st.cPend
          · rfl
          · exact absurd ⟨hx, hgp⟩ hp.pend_one
        simp only [hgp, hcp, Bool.or_true, if_true, Option.map_some] at h
        rw [← Option.some.inj h]
        constructor <;> intro h' <;> simp [Status.clearCUp, Status.canPend] at h'
      · have hgp' : p.st.gPend = false := by simpa using hgp
        cases hcp : p.st.cPend
        · cases hgu : p.st.gUp
          · simp [hgp', hcp, hgu] at h
          · simp only [hgp', hcp, hgu, Bool.or_self, Bool.false_eq_true, if_false, Bool.not_true,
              Option.map_some] at h
            rw [← Option.some.inj h]
            constructor <;> intro h' <;> simp [Status.clearCUp, Status.canPend, hgp'] at h'
        · simp [hgp', hcp] at h
    · obtain ⟨hst, _⟩ := affine_image_inv_shape p q v e den hem hc h
      unfold Poly.PendOK
      rw [hst]; exact hpo
  · rw [affine_image_empty p q v e den hem h]; exact hpo

theorem poly_hull_assign_pendOK (x y q : Poly) (hxo : x.PendOK) (hyo : y.PendOK)
    (h : x.poly_hull_assign y = some q) : q.PendOK := by
  cases hey : y.st.empty
  · cases hex : x.st.empty
    · by_cases hd : x.dim = 0
      · rw [(poly_hull_assign_trivial x y q h).2.2 hey hex hd]; exact hxo
      · obtain ⟨_, _, _, _, gs', _, hq⟩ := poly_hull_assign_main x y q hex hey hd h
        rcases hq with ⟨hc, rfl⟩ | ⟨hc, rfl⟩
        · exact pendOK_pendForm x gs' hxo hc
        · exact pendOK_dropForm x gs' hxo hc
    · rw [(poly_hull_assign_trivial x y q h).2.1 hey hex]; exact hyo
  · rw [(poly_hull_assign_trivial x y q h).1 hey]; exact hxo

theorem addGeneratorRay_wf (p : Poly) (g : Row) (hp : p.WF) (hpo : p.PendOK)
    (he : p.st.empty = false) (hgu : p.st.gUp = true) (hcp : p.st.cPend = false)
    (hg : g.genWF p.nnc p.dim) : (p.addGeneratorRay g).WF ∧ (p.addGeneratorRay g).PendOK := by
  have hwf' : ∀ r ∈ p.gs.rows ++ [g], r.genWF p.nnc p.dim := by
    intro r hr
    rcases List.mem_append.mp hr with hr | hr
    · exact hp.gs_wf he hgu r hr
    · rw [List.mem_singleton.mp hr]; exact hg
  have hpt' : ∃ r ∈ p.gs.rows ++ [g], r.isPoint p.nnc := by
    obtain ⟨r, hr, hpr⟩ := hp.gs_pt he hgu
    exact ⟨r, List.mem_append_left _ hr, hpr⟩
  unfold Poly.addGeneratorRay
  by_cases hc : p.st.canPend = true
  · rw [if_pos hc]
    exact ⟨wf_pendForm p _ hp he hgu hcp (hpo.1 hc) hwf' hpt', pendOK_pendForm p _ hpo hc⟩
  · rw [if_neg hc]
    have hc' : p.st.canPend = false := by simpa using hc
    have hgp : p.st.gPend = false := by
      cases hg' : p.st.gPend
      · rfl
      · rw [hpo.2 hg'] at hc'; cases hc'
    exact ⟨wf_dropForm p _ hp hgu hgp hwf' hpt', pendOK_dropForm p _ hpo hc'⟩

theorem generalized_affine_image_rows_wf (p q : Poly) (v : Nat) (r : Rel) (e : LinExpr)
    (den : Int) (hp : p.WF) (hpo : p.PendOK)
    (hv : v < p.dim) (he : e.coeffs.length = p.dim) (hden : den ≠ 0)
    (h : p.generalized_affine_image v r e den = some q) : q.WF ∧ q.PendOK := by
  unfold Poly.generalized_affine_image at h
  cases h1 : p.affine_image v e den with
  | none => rw [h1] at h; cases h
  | some p1 =>
    rw [h1] at h
    simp only [Option.bind_some] at h
    have hW1 := affine_image_rows_wf p p1 v e den hp hv he hden h1
    have hO1 := affine_image_pendOK p p1 v e den hp hpo h1
    obtain ⟨hdim1, _⟩ := affine_image_dim_nnc p p1 v e den hp h1
    have hineq : ∀ s : Int,
        (if p1.st.empty = true then some p1
          else if (p1.st.cPend || !p1.st.gUp) = true then none
          else some (p1.addGeneratorRay (rayRow p1.dim v s))) = some q → q.WF ∧ q.PendOK := by
      intro s h
      by_cases he1 : p1.st.empty = true
      · rw [if_pos he1] at h
        rw [← Option.some.inj h]; exact ⟨hW1, hO1⟩
      · rw [if_neg he1] at h
        by_cases hc1 : (p1.st.cPend || !p1.st.gUp) = true
        · rw [if_pos hc1] at h; cases h
        · rw [if_neg hc1] at h
          have hcp : p1.st.cPend = false := by
            cases hh : p1.st.cPend
            · rfl
            · simp [hh] at hc1
          have hgu : p1.st.gUp = true := by
            cases hh : p1.st.gUp
            · simp [hh] at hc1
            · rfl
          rw [← Option.some.inj h]
          exact addGeneratorRay_wf p1 _ hW1 hO1 (by simpa using he1) hgu hcp
            (rayRow_genWF _ _ _ _ (by rw [hdim1]; exact hv))
    cases r with
    | eq =>
      simp only at h
      rw [← Option.some.inj h]; exact ⟨hW1, hO1⟩
    | lt =>
      simp only at h
      by_cases he1 : p1.st.empty = true
      · rw [if_pos he1] at h
        rw [← Option.some.inj h]; exact ⟨hW1, hO1⟩
      · rw [if_neg he1] at h; cases h
    | gt =>
      simp only at h
      by_cases he1 : p1.st.empty = true
      · rw [if_pos he1] at h
        rw [← Option.some.inj h]; exact ⟨hW1, hO1⟩
      · rw [if_neg he1] at h; cases h
    | le => exact hineq (-1) (by simpa using h)
    | ge => exact hineq 1 (by simpa using h)

end PPLV.PolyOps

import PPLV.PolyOps.ProofsLattice3
import PPLV.PolyOps.ProofsAffine2
import PPLV.PolyOps.GenImage

/-!
# C02 — `generalized_affine_image(var, relsym, expr, denominator)` at row level

`generalized_affine_image_rows_correct`: whenever the model returns a result (always for `=`, `<=`,
`>=` unless a conversion would run; for the strict symbols only when the image is marked empty) it
denotes the reference `RefPoly.genAffineImage` (`C02.generalized_affine_image_spec`).  Composition
of `affine_image_rows_correct` with `genSem_add_ray`: appending the ray `±e_v` to a generator list
lets coordinate `v` move in that direction.
-/
namespace PPLV.PolyOps
open PPLV.Lin

/-! ### one more ray along a coordinate -/


/-- one more ray along coordinate `v` in direction `s = ±1`: coordinate `v` may move that way -/
theorem genSem_add_ray (n : Nat) (A : List Gen) (l : Gen) (v : Nat) (s : Rat) (hs : s * s = 1)
    (hl : l.kind = .ray) (hc : ∀ i, l.coord i = if i = v then s else 0) (hv : v < n) :
    GenSem n (A ++ [l]) =
      {w | ∃ x ∈ GenSem n A, 0 ≤ s * (w v - x v) ∧ ∀ j < n, j ≠ v → w j = x j} := by
  have hline : l.isLine = false := by unfold Gen.isLine; rw [hl]; rfl
  rw [genSem_add_dir n A l v s hs (.inr hl) hc hv]
  ext w
  exact exists_congr fun x => and_congr_right fun _ => and_congr_left fun _ =>
    ⟨fun h => h hline, fun h _ => h⟩

/-! ### the ray row -/

theorem rayRow_genWF (nnc : Bool) (n v : Nat) (s : Int) (hv : v < n) : (rayRow n v s).genWF nnc n := by
  refine ⟨?_, le_refl _, le_refl _, fun _ => rfl, fun _ => rfl, fun _ => rfl⟩
  show (List.replicate v (0 : Int) ++ [s] ++ List.replicate (n - v - 1) 0).length = n
  simp; omega

theorem rayRow_toGen (nnc : Bool) (n v : Nat) (s : Int) :
    (rayRow n v s).toGen nnc = ⟨.ray, List.replicate v 0 ++ [s] ++ List.replicate (n - v - 1) 0, 1⟩ := rfl

theorem rayRow_coord (nnc : Bool) (n v : Nat) (s : Int) (i : Nat) :
    ((rayRow n v s).toGen nnc).coord i = if i = v then (s : Rat) else 0 := by
  rw [rayRow_toGen, coord_ray, getD_unit_s]
  split <;> simp

/-- appending the ray row `±e_v` to a generator list -/
theorem genSem_append_rayRow (nnc : Bool) (n v : Nat) (s : Int) (hs : s = 1 ∨ s = -1) (rows : List Row)
    (hv : v < n) :
    genSem nnc n (rows ++ [rayRow n v s]) =
      {w | ∃ x ∈ genSem nnc n rows, 0 ≤ (s : Rat) * (w v - x v) ∧ ∀ j < n, j ≠ v → w j = x j} := by
  unfold genSem
  rw [gensOf_append]
  show GenSem n (gensOf nnc rows ++ [(rayRow n v s).toGen nnc]) = _
  apply genSem_add_ray n _ _ v (s : Rat) _ rfl (rayRow_coord nnc n v s) hv
  rcases hs with rfl | rfl <;> norm_num

/-! ### the reference set -/

def genImgSet (n v : Nat) (r : Rel) (e : LinExpr) (den : Int) (S : Set Val) : Set Val :=
  {w | ∃ x ∈ S, Rel.holds r (w v) (e.val x / (den : Rat)) ∧ ∀ j < n, j ≠ v → w j = x j}

theorem sem_genAffineImage (ref : RefPoly) (v : Nat) (r : Rel) (e : LinExpr) (den : Int)
    (hwf : WF ref.n ref.cs) (hv : v < ref.n) (he : e.coeffs.length ≤ ref.n) (hden : den ≠ 0) :
    sem (ref.genAffineImage v r e den).cs = genImgSet ref.n v r e den (sem ref.cs) := by
  ext w
  exact genAffineImage_spec ref v r e den hwf hv he hden w

theorem genImgSet_empty (n v : Nat) (r : Rel) (e : LinExpr) (den : Int) :
    genImgSet n v r e den ∅ = ∅ := by
  ext w; simp [genImgSet]

theorem genImgSet_eq (n v : Nat) (e : LinExpr) (den : Int) (hden : den ≠ 0) (S : Set Val) :
    genImgSet n v .eq e den S = imgSet n v e den S := by
  have hd : (den : Rat) ≠ 0 := by exact_mod_cast hden
  ext w
  unfold genImgSet imgSet Rel.holds
  show (∃ x ∈ S, _) ↔ (∃ x ∈ S, _)
  refine exists_congr fun x => and_congr_right fun _ => and_congr ?_ Iff.rfl
  constructor
  · intro h; rw [h]; field_simp
  · intro h; rw [← h]; field_simp

/-- moving coordinate `v` of the affine image in direction `s` -/
theorem genImgSet_of_ray (n v : Nat) (r : Rel) (e : LinExpr) (den : Int) (hden : den ≠ 0)
    (S : Set Val) (s : Rat)
    (hrs : ∀ a b : Rat, 0 ≤ s * (a - b) ↔ Rel.holds r a b) :
    {w | ∃ x' ∈ imgSet n v e den S, 0 ≤ s * (w v - x' v) ∧ ∀ j < n, j ≠ v → w j = x' j} =
      genImgSet n v r e den S := by
  have hd : (den : Rat) ≠ 0 := by exact_mod_cast hden
  ext w
  constructor
  · rintro ⟨x', ⟨x, hx, hxv, hxj⟩, hpos, hw⟩
    refine ⟨x, hx, ?_, fun j hj hjv => by rw [hw j hj hjv, hxj j hj hjv]⟩
    have : x' v = e.val x / (den : Rat) := by rw [← hxv]; field_simp
    rw [← this]
    exact (hrs _ _).mp hpos
  · rintro ⟨x, hx, hrel, hw⟩
    refine ⟨fun j => if j = v then e.val x / (den : Rat) else w j, ⟨x, hx, ?_, ?_⟩, ?_, ?_⟩
    · show (den : Rat) * (if v = v then e.val x / (den : Rat) else w v) = _
      rw [if_pos rfl]; field_simp
    · intro j hj hjv
      show (if j = v then _ else w j) = x j
      rw [if_neg hjv]; exact hw j hj hjv
    · show 0 ≤ s * (w v - (if v = v then e.val x / (den : Rat) else w v))
      rw [if_pos rfl]
      exact (hrs _ _).mpr hrel
    · intro j _ hjv
      show w j = if j = v then _ else w j
      rw [if_neg hjv]

/-! ### the operator -/

theorem affine_image_dim_nnc (p q : Poly) (v : Nat) (e : LinExpr) (den : Int) (hp : p.WF)
    (h : p.affine_image v e den = some q) : q.dim = p.dim ∧ q.nnc = p.nnc := by
  cases hem : p.st.empty
  · by_cases hc : e.coeffs.getD v 0 = 0
    · obtain ⟨_, _, hqn, hqd, _⟩ := affine_image_noninv_shape p q v e den hp hem hc h
      exact ⟨hqd, hqn⟩
    · obtain ⟨_, hqn, hqd, _⟩ := affine_image_inv_shape p q v e den hem hc h
      exact ⟨hqd, hqn⟩
  · rw [affine_image_empty p q v e den hem h]; exact ⟨rfl, rfl⟩

theorem denotes_addGeneratorRay (p : Poly) (g : Row) (S : Set Val) (he : p.st.empty = false)
    (hgu : p.st.gUp = true) (hg : genSem p.nnc p.dim (p.gs.rows ++ [g]) = S) :
    (p.addGeneratorRay g).Denotes S := by
  unfold Poly.addGeneratorRay
  by_cases hc : p.st.canPend = true
  · rw [if_pos hc]; exact denotes_pendForm p _ S he hgu hg
  · rw [if_neg hc]; exact denotes_dropForm p _ S he hgu hg

/-- **`Polyhedron::generalized_affine_image(var, relsym, expr, denominator)` at row level.** -/
theorem generalized_affine_image_rows_correct (p q : Poly) (v : Nat) (r : Rel) (e : LinExpr)
    (den : Int) (ref : RefPoly)
    (hn : ref.n = p.dim) (hnnc : ref.nnc = p.nnc) (hwf : WF ref.n ref.cs) (hp : p.WF)
    (hv : v < p.dim) (he : e.coeffs.length = p.dim) (hden : den ≠ 0)
    (hD : p.Denotes (sem ref.cs)) (h : p.generalized_affine_image v r e den = some q) :
    q.Denotes (sem (ref.genAffineImage v r e den).cs) := by
  rw [sem_genAffineImage ref v r e den hwf (by rw [hn]; exact hv) (by rw [hn]; exact le_of_eq he) hden, hn]
  unfold Poly.generalized_affine_image at h
  cases h1 : p.affine_image v e den with
  | none => rw [h1] at h; cases h
  | some p1 =>
    rw [h1] at h
    simp only [Option.bind_some] at h
    have hD1 := affine_image_rows_correct p p1 v e den ref hn hnnc hwf hp hv he hden hD h1
    rw [sem_affineImage ref v e den hwf (by rw [hn]; exact hv) (by rw [hn]; exact le_of_eq he), hn] at hD1
    have hW1 := affine_image_rows_wf p p1 v e den hp hv he hden h1
    obtain ⟨hdim1, _⟩ := affine_image_dim_nnc p p1 v e den hp h1
    -- the image is marked empty: every relation gives the empty set
    have hempty : p1.st.empty = true → p1.Denotes (genImgSet p.dim v r e den (sem ref.cs)) := by
      intro he1
      apply denotes_of_empty _ _ he1
      have hT := hD1.1 he1
      ext w
      simp only [Set.mem_empty_iff_false, iff_false]
      rintro ⟨x, hx, _, hw⟩
      have : (fun j => if j = v then e.val x / (den : Rat) else x j) ∈ imgSet p.dim v e den (sem ref.cs) := by
        refine ⟨x, hx, ?_, fun j _ hjv => ?_⟩
        · show (den : Rat) * (if v = v then e.val x / (den : Rat) else x v) = _
          have hd : (den : Rat) ≠ 0 := by exact_mod_cast hden
          rw [if_pos rfl]; field_simp
        · show (if j = v then _ else x j) = x j
          rw [if_neg hjv]
      rw [hT] at this
      exact this
    -- the two non-strict inequalities
    have hineq : ∀ s : Int, (s = 1 ∨ s = -1) →
        (∀ a b : Rat, 0 ≤ (s : Rat) * (a - b) ↔ Rel.holds r a b) →
        (if p1.st.empty = true then some p1
          else if (p1.st.cPend || !p1.st.gUp) = true then none
          else some (p1.addGeneratorRay (rayRow p1.dim v s))) = some q →
        q.Denotes (genImgSet p.dim v r e den (sem ref.cs)) := by
      intro s hs hrs h
      by_cases he1 : p1.st.empty = true
      · rw [if_pos he1] at h
        rw [← Option.some.inj h]; exact hempty he1
      · rw [if_neg he1] at h
        by_cases hc1 : (p1.st.cPend || !p1.st.gUp) = true
        · rw [if_pos hc1] at h; cases h
        · rw [if_neg hc1] at h
          have he1' : p1.st.empty = false := by simpa using he1
          have hcp : p1.st.cPend = false := by
            cases hh : p1.st.cPend
            · rfl
            · simp [hh] at hc1
          have hgu : p1.st.gUp = true := by
            cases hh : p1.st.gUp
            · simp [hh] at hc1
            · rfl
          rw [← Option.some.inj h]
          apply denotes_addGeneratorRay p1 _ _ he1' hgu
          rw [genSem_append_rayRow p1.nnc p1.dim v s hs p1.gs.rows (by rw [hdim1]; exact hv),
            (hD1.2 he1').2.1 hgu hcp, hdim1]
          exact genImgSet_of_ray p.dim v r e den hden _ _ hrs
    cases r with
    | eq =>
      simp only at h
      rw [← Option.some.inj h, genImgSet_eq _ _ _ _ hden]
      exact hD1
    | lt =>
      simp only at h
      by_cases he1 : p1.st.empty = true
      · rw [if_pos he1] at h
        rw [← Option.some.inj h]; exact hempty he1
      · rw [if_neg he1] at h; cases h
    | gt =>
      simp only at h
      by_cases he1 : p1.st.empty = true
      · rw [if_pos he1] at h
        rw [← Option.some.inj h]; exact hempty he1
      · rw [if_neg he1] at h; cases h
    | le =>
      refine hineq (-1) (Or.inr rfl) (fun a b => ?_) (by simpa using h)
      show _ ↔ a ≤ b
      constructor
      · intro hh; push_cast at hh; linarith
      · intro hh; push_cast; linarith
    | ge =>
      refine hineq 1 (Or.inl rfl) (fun a b => ?_) (by simpa using h)
      show _ ↔ b ≤ a
      constructor
      · intro hh; push_cast at hh; linarith
      · intro hh; push_cast; linarith

end PPLV.PolyOps

import PPLV.PolyOps.ProofsDims4

/-!
# `remove_higher_space_dimensions` at row level
-/
namespace PPLV.PolyOps
open PPLV.Lin


theorem filter_lt_range (n nd : Nat) (h : nd ≤ n) :
    (List.range n).filter (fun j => decide (j < nd)) = List.range nd := by
  induction n with
  | zero =>
    have : nd = 0 := by omega
    subst this; rfl
  | succ n ih =>
    by_cases hle : nd ≤ n
    · rw [List.range_succ, List.filter_append, ih hle]
      have : ([n].filter fun j => decide (j < nd)) = [] := by
        simp; omega
      rw [this, List.append_nil]
    · have : nd = n + 1 := by omega
      subst this
      apply List.filter_eq_self.mpr
      intro a ha
      simpa using ha

/-- the variables kept by `removeHigherDims nd` are `0 .. nd-1` -/
theorem otherVars_higher (n nd : Nat) (h : nd ≤ n) :
    otherVars n ((List.range n).filter (fun j => decide (nd ≤ j))) = List.range nd := by
  rw [← filter_lt_range n nd h]
  unfold otherVars
  apply List.filter_congr
  intro x hx
  have hx' : x < n := by simpa using hx
  by_cases hlt : x < nd
  · simp [hlt, hx']
  · simp [hlt, hx']
    omega

theorem take_eq_sel (nd : Nat) (l : List Int) (h : nd ≤ l.length) :
    l.take nd = (List.range nd).map (fun j => l.getD j 0) := by
  apply List.ext_getElem
  · simp; omega
  · intro i h1 h2
    have hi : i < nd := by simpa using h2
    simp [List.getD_eq_getElem?_getD, show i < l.length by omega]

theorem gsTruncate_rows (nd : Nat) (s : Sys) :
    (gsTruncate nd s).rows =
      (s.rows.map fun r => ({ r with cf := r.cf.take nd } : Row).strongNormalize).filter
        (fun r => !(r.b == 0 && r.allHomZero)) := rfl

theorem gsTruncate_facts (nnc : Bool) (n nd : Nat) (s : Sys) (hnd : nd ≤ n)
    (hwf : ∀ r ∈ s.rows, r.genWF nnc n) :
    genSem nnc nd (gsTruncate nd s).rows = selSet (List.range nd) (genSem nnc n s.rows) ∧
    (∀ r ∈ (gsTruncate nd s).rows, r.genWF nnc nd) ∧
    ((∃ r ∈ s.rows, r.isPoint nnc) → ∃ r ∈ (gsTruncate nd s).rows, r.isPoint nnc) := by
  have hrows : (gsTruncate nd s).rows =
      ((s.rows.map (Row.sel (List.range nd))).map Row.strongNormalize).filter
        (fun r => !(r.b == 0 && r.allHomZero)) := by
    rw [gsTruncate_rows, List.map_map]
    congr 1
    apply List.map_congr_left
    intro r hr
    show _ = (Row.sel _ r).strongNormalize
    unfold Row.sel
    rw [take_eq_sel nd r.cf (by rw [(hwf r hr).1]; exact hnd)]
  have hwf1 : ∀ r ∈ s.rows.map (Row.sel (List.range nd)), r.genWF nnc nd := by
    intro r hr
    obtain ⟨r0, hr0, rfl⟩ := List.mem_map.mp hr
    have := (sel_genWF nnc n (List.range nd) r0 (hwf r0 hr0)).1
    rwa [List.length_range] at this
  obtain ⟨f1, f2, f3⟩ := strongNormalize_rows_facts nnc nd _ hwf1
  obtain ⟨g1, g2, g3⟩ := removeInvalid_rows_facts nnc nd _ f2
  rw [hrows]
  refine ⟨?_, g2, ?_⟩
  · rw [g1, f1]
    have := genSem_sel nnc n (List.range nd) s.rows hwf (fun j hj => by
      have := List.mem_range.mp hj; omega)
    rwa [List.length_range] at this
  · rintro ⟨r, hr, hpt⟩
    exact g3 (f3 ⟨_, List.mem_map.mpr ⟨r, hr, rfl⟩, (sel_genWF nnc n (List.range nd) r (hwf r hr)).2 hpt⟩)

theorem remove_higher_shape (p q : Poly) (nd : Nat) (hne : nd ≠ p.dim)
    (hem : p.st.empty = false) (h : p.remove_higher_space_dimensions nd = some q) :
    ∃ p', p.obtainGeneratorsNoConv = some p' ∧
      q = (if (nd == 0) = true then p'.setZeroDimUniv
        else { p' with gs := gsTruncate nd p'.gs,
                       st := { p'.st.clearCUp with gMin := false }, dim := nd }) := by
  unfold Poly.remove_higher_space_dimensions at h
  have hne' : (nd == p.dim) = false := by simpa using hne
  rw [hne'] at h
  simp only [Bool.false_eq_true, if_false, hem] at h
  obtain ⟨p', hp', hq⟩ := Option.map_eq_some_iff.mp h
  exact ⟨p', hp', hq.symm⟩

theorem remove_higher_empty_shape (p q : Poly) (nd : Nat) (hne : nd ≠ p.dim)
    (hem : p.st.empty = true) (h : p.remove_higher_space_dimensions nd = some q) :
    q = { p with cs := Sys.clear, dim := nd } := by
  unfold Poly.remove_higher_space_dimensions at h
  have hne' : (nd == p.dim) = false := by simpa using hne
  rw [hne'] at h
  simpa [hem] using h.symm

theorem sem_removeHigherDims (ref : RefPoly) (nd : Nat) (hwf : WF ref.n ref.cs) (h : nd ≤ ref.n) :
    sem (ref.removeHigherDims nd).cs = selSet (List.range nd) (sem ref.cs) := by
  unfold RefPoly.removeHigherDims
  rw [sem_removeDims ref _ hwf, otherVars_higher ref.n nd h]

/-- **`Polyhedron::remove_higher_space_dimensions` at row level.** -/
theorem remove_higher_space_dimensions_rows_correct (p q : Poly) (nd : Nat) (ref : RefPoly)
    (hn : ref.n = p.dim) (_hnnc : ref.nnc = p.nnc) (hwf : WF ref.n ref.cs) (hp : p.WF)
    (hnd : nd ≤ p.dim)
    (hD : p.Denotes (sem ref.cs)) (h : p.remove_higher_space_dimensions nd = some q) :
    q.Denotes (sem (ref.removeHigherDims nd).cs) := by
  rw [sem_removeHigherDims ref nd hwf (by rw [hn]; exact hnd)]
  have hSdet : CoordDet p.dim (sem ref.cs) := by rw [← hn]; exact coordDet_sem _ _ hwf
  by_cases hne : nd = p.dim
  · have hq : q = p := by
      unfold Poly.remove_higher_space_dimensions at h
      simpa [hne] using h.symm
    rw [hq, hne, selSet_range p.dim _ hSdet]
    exact hD
  cases hem : p.st.empty
  · obtain ⟨p', hp', hq⟩ := remove_higher_shape p q nd hne hem h
    obtain ⟨hgu, hcp, hn', hd', hrows, hem', hgu', hcp', hgp', _, _⟩ := obtainGens_shape p p' hp hp'
    have hgen := (hD.2 hem).2.1 hgu hcp
    by_cases h0 : nd = 0
    · have h0' : (nd == 0) = true := by simpa using h0
      rw [h0', if_pos rfl] at hq
      have hne' : (sem ref.cs).Nonempty := by
        rw [← hgen]
        exact kit_nonempty p.nnc p.dim _ (hp.gs_wf hem hgu) (hp.gs_pt hem hgu)
      rw [hq, h0, List.range_zero, selSet_nil _ hne']
      exact denotes_setZeroDimUniv p'
    · have h0' : (nd == 0) = false := by simpa using h0
      rw [h0'] at hq
      simp only [Bool.false_eq_true, if_false] at hq
      have hfacts := gsTruncate_facts p.nnc p.dim nd p.gs hnd (hp.gs_wf hem hgu)
      have hr : (gsTruncate nd p'.gs).rows = (gsTruncate nd p.gs).rows := by
        rw [gsTruncate_rows, gsTruncate_rows, hrows]
      rw [hq]
      apply denotes_gensRebuilt p' _ _ _ (hem'.trans hem) hgu'
      rw [hn', hr, ← hgen]
      exact hfacts.1
  · rw [remove_higher_empty_shape p q nd hne hem h, hD.1 hem, selSet_empty]
    exact denotes_of_empty _ _ hem rfl

/-- well-formedness of the result (`hes`: see `wf_emptyRedim`) -/
theorem remove_higher_space_dimensions_rows_wf (p q : Poly) (nd : Nat) (hp : p.WF)
    (hnd : nd ≤ p.dim)
    (hes : p.st.empty = true → p.st.cUp = false ∧ p.st.gUp = false)
    (h : p.remove_higher_space_dimensions nd = some q) : q.WF := by
  by_cases hne : nd = p.dim
  · have hq : q = p := by
      unfold Poly.remove_higher_space_dimensions at h
      simpa [hne] using h.symm
    rw [hq]
    exact hp
  cases hem : p.st.empty
  · obtain ⟨p', hp', hq⟩ := remove_higher_shape p q nd hne hem h
    obtain ⟨hgu, hcp, hn', hd', hrows, hem', hgu', hcp', hgp', _, _⟩ := obtainGens_shape p p' hp hp'
    by_cases h0 : nd = 0
    · have h0' : (nd == 0) = true := by simpa using h0
      rw [h0', if_pos rfl] at hq
      rw [hq]
      exact wf_setZeroDimUniv p'
    · have h0' : (nd == 0) = false := by simpa using h0
      rw [h0'] at hq
      simp only [Bool.false_eq_true, if_false] at hq
      have hfacts := gsTruncate_facts p.nnc p.dim nd p.gs hnd (hp.gs_wf hem hgu)
      have hr : (gsTruncate nd p'.gs).rows = (gsTruncate nd p.gs).rows := by
        rw [gsTruncate_rows, gsTruncate_rows, hrows]
      rw [hq]
      refine wf_gensRebuilt p' _ _ h0 hgu' hgp' ?_ ?_
      · rw [hr, hn']
        exact hfacts.2.1
      · rw [hr, hn']
        exact hfacts.2.2 (hp.gs_pt hem hgu)
  · rw [remove_higher_empty_shape p q nd hne hem h]
    exact wf_emptyRedim p _ hp hem hes

end PPLV.PolyOps

import PPLV.PolyOps.ProofsAffine

/-!
# `Polyhedron::affine_image` at row level: correctness and well-formedness

`affine_image_rows_correct`: whatever description(s) the status word of the input declares valid
(constraints, generators, both, pending rows of either kind, marked empty), every description the
status word of the result declares valid denotes the image computed by the reference operator.
-/
namespace PPLV.PolyOps
open PPLV.Lin

/-! ### the shape of the result -/

theorem affine_image_empty (p q : Poly) (v : Nat) (e : LinExpr) (den : Int)
    (hem : p.st.empty = true) (h : p.affine_image v e den = some q) : q = p := by
  unfold Poly.affine_image at h
  rw [if_pos hem] at h
  exact (Option.some.inj h).symm

/-- invertible case: the status word is kept; generators (if up to date) transformed by the signed
    call, constraints (if up to date) by the preimage under the inverse map -/
theorem affine_image_inv_shape (p q : Poly) (v : Nat) (e : LinExpr) (den : Int)
    (hem : p.st.empty = false) (hc : e.coeffs.getD v 0 ≠ 0) (h : p.affine_image v e den = some q) :
    q.st = p.st ∧ q.nnc = p.nnc ∧ q.dim = p.dim ∧
    q.gs = (if p.st.gUp = true then gsSigned v e den p.gs else p.gs) ∧
    q.cs = (if p.st.cUp = true then
        csAffinePreimage v (inverseMap p.dim v e den).1 (inverseMap p.dim v e den).2 p.cs
      else p.cs) := by
  unfold Poly.affine_image at h
  have hem' : ¬ (p.st.empty = true) := by simp [hem]
  rw [if_neg hem', if_pos (bne_iff_ne.mpr hc)] at h
  have hq := (Option.some.inj h).symm
  subst hq
  cases hg : p.st.gUp <;> cases hcu : p.st.cUp <;> simp [hcu, gsSigned]

/-- non-invertible case (with a result): generators were up to date and no constraints pending;
    the result holds only the transformed generators -/
theorem affine_image_noninv_shape (p q : Poly) (v : Nat) (e : LinExpr) (den : Int) (hp : p.WF)
    (hem : p.st.empty = false) (hc : e.coeffs.getD v 0 = 0) (h : p.affine_image v e den = some q) :
    p.st.gUp = true ∧ p.st.cPend = false ∧ q.nnc = p.nnc ∧ q.dim = p.dim ∧
    (∃ gs0 : Sys, gs0.rows = p.gs.rows ∧ q.gs = gsSigned v e den gs0) ∧
    q.st.empty = false ∧ q.st.cUp = false ∧ q.st.gUp = true ∧ q.st.cPend = false ∧
    q.st.gPend = false := by
  unfold Poly.affine_image at h
  have hem' : ¬ (p.st.empty = true) := by simp [hem]
  have hc' : ¬ ((e.coeffs.getD v 0 != 0) = true) := by rw [hc]; decide
  rw [if_neg hem', if_neg hc'] at h
  simp only [Status.somethingPending] at h
  by_cases hgp : p.st.gPend = true
  · obtain ⟨_, hgu⟩ := hp.pend_g hgp
    have hcp : p.st.cPend = false := by
      cases hx : p.st.cPend
      · rfl
      · exact absurd ⟨hx, hgp⟩ hp.pend_one
    simp only [hgp, hcp, Bool.or_true, if_true, Option.map_some] at h
    have hq := (Option.some.inj h).symm
    subst hq
    refine ⟨hgu, hcp, rfl, rfl, ⟨{ p.gs.unsetPending with sorted := false }, rfl, rfl⟩,
      ?_, ?_, ?_, ?_, ?_⟩ <;> simp [Status.clearCUp, hem, hgu]
  · have hgp' : p.st.gPend = false := by simpa using hgp
    cases hcp : p.st.cPend
    · cases hgu : p.st.gUp
      · simp [hgp', hcp, hgu] at h
      · simp only [hgp', hcp, hgu, Bool.or_self, Bool.false_eq_true, if_false, Bool.not_true,
          Option.map_some] at h
        have hq := (Option.some.inj h).symm
        subst hq
        refine ⟨rfl, rfl, rfl, rfl, ⟨p.gs, rfl, rfl⟩, ?_, ?_, ?_, ?_, ?_⟩ <;>
          simp [Status.clearCUp, hem, hgu, hgp']
    · simp [hgp', hcp] at h

/-! ### correctness -/

/-- **`Polyhedron::affine_image` at row level computes the reference image.** -/
theorem affine_image_rows_correct (p q : Poly) (v : Nat) (e : LinExpr) (den : Int) (ref : RefPoly)
    (hn : ref.n = p.dim) (_hnnc : ref.nnc = p.nnc) (hwf : WF ref.n ref.cs) (hp : p.WF)
    (hv : v < p.dim) (he : e.coeffs.length = p.dim) (hden : den ≠ 0)
    (hD : p.Denotes (sem ref.cs)) (h : p.affine_image v e den = some q) :
    q.Denotes (sem (ref.affineImage v e den).cs) := by
  rw [sem_affineImage ref v e den hwf (by rw [hn]; exact hv) (by rw [hn]; exact le_of_eq he), hn]
  have hSdet : CoordDet p.dim (sem ref.cs) := by rw [← hn]; exact coordDet_sem _ _ hwf
  cases hem : p.st.empty
  · by_cases hc : e.coeffs.getD v 0 = 0
    · -- not invertible: only the generators remain
      obtain ⟨hgu, hcp, hqn, hqd, ⟨gs0, hgs0, hqgs⟩, h1, h2, h3, _, _⟩ :=
        affine_image_noninv_shape p q v e den hp hem hc h
      have hgen := (hD.2 hem).2.1 hgu hcp
      have hfacts := gsSigned_facts p.nnc p.dim v e den gs0
        (by rw [hgs0]; exact hp.gs_wf hem hgu) hv (le_of_eq he) hden
      refine .of_gens h1 (.inl h2) h3 ?_
      rw [hqn, hqd, hqgs, hfacts.1, hgs0, hgen]
    · -- invertible: both descriptions are transformed
      obtain ⟨hst, hqn, hqd, hqgs, hqcs⟩ := affine_image_inv_shape p q v e den hem hc h
      refine hD.transport hem (hp.some_up hem (by omega)) (sameFlags_of_eq hst) (fun hcu hS => ?_)
        fun hgu hS => ?_
      · have hf := csAffinePreimage_facts p.nnc p.dim v (inverseMap p.dim v e den).1
          (inverseMap p.dim v e den).2 p.cs (hp.cs_len hem hcu) hv (inverseMap_length _ _ _ _)
          (inverseMap_den_pos _ _ _ _ hc)
        rw [hqn, hqcs, if_pos hcu, hf.1, hS]
        exact subst_inverse_eq_imgSet p.dim v e den hv he hden hc _ hSdet
      · have hf := gsSigned_facts p.nnc p.dim v e den p.gs (hp.gs_wf hem hgu) hv (le_of_eq he) hden
        rw [hqn, hqd, hqgs, if_pos hgu, hf.1, hS]
  · -- marked empty: the image of the empty set is empty
    have hq := affine_image_empty p q v e den hem h
    subst hq
    rw [hD.1 hem, imgSet_empty]
    exact denotes_of_empty _ _ hem rfl

/-! ### well-formedness of the result -/

theorem affine_image_rows_wf (p q : Poly) (v : Nat) (e : LinExpr) (den : Int) (hp : p.WF)
    (hv : v < p.dim) (he : e.coeffs.length = p.dim) (hden : den ≠ 0)
    (h : p.affine_image v e den = some q) : q.WF := by
  cases hem : p.st.empty
  · by_cases hc : e.coeffs.getD v 0 = 0
    · obtain ⟨hgu, _, hqn, hqd, ⟨gs0, hgs0, hqgs⟩, _, h2, h3, h4, h5⟩ :=
        affine_image_noninv_shape p q v e den hp hem hc h
      have hfacts := gsSigned_facts p.nnc p.dim v e den gs0
        (by rw [hgs0]; exact hp.gs_wf hem hgu) hv (le_of_eq he) hden
      refine .of_gens h2 h3 h4 h5 (by omega) ?_ ?_
      · rw [hqn, hqd, hqgs]; exact hfacts.2.1
      · rw [hqn, hqgs]
        exact hfacts.2.2 (by rw [hgs0]; exact hp.gs_pt hem hgu)
    · obtain ⟨hst, hqn, hqd, hqgs, hqcs⟩ := affine_image_inv_shape p q v e den hem hc h
      refine hp.transport hst hqn hqd (fun _ hcu => ?_) fun _ hgu => ?_
      · rw [hqcs, if_pos hcu]
        exact (csAffinePreimage_facts p.nnc p.dim v (inverseMap p.dim v e den).1
          (inverseMap p.dim v e den).2 p.cs (hp.cs_len hem hcu) hv (inverseMap_length _ _ _ _)
          (inverseMap_den_pos _ _ _ _ hc)).2
      · have hf := gsSigned_facts p.nnc p.dim v e den p.gs (hp.gs_wf hem hgu) hv (le_of_eq he) hden
        rw [hqgs, if_pos hgu]
        exact ⟨hf.2.1, hf.2.2 (hp.gs_pt hem hgu)⟩
  · have hq := affine_image_empty p q v e den hem h
    subst hq
    exact hp

end PPLV.PolyOps

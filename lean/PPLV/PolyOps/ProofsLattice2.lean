import PPLV.PolyOps.ProofsLattice
import PPLV.PolyOps.ProofsAffine

/-!
# C02 — lattice operators at row level: generator insertion, `unconstrain`

The two ways the library adds generator rows to a polyhedron whose generators are up to date and
that has no pending constraints: as pending rows (`pendForm`: the status keeps everything and sets
`gPend`, so the constraints no longer describe the set) or directly (`dropForm`: the constraints
are declared out of date).  In both cases the only description the status word declares valid is
the generator list.
-/
namespace PPLV.PolyOps
open PPLV.Lin

def pendForm (p : Poly) (gs' : Sys) : Poly := { p with gs := gs', st := { p.st with gPend := true } }
def dropForm (p : Poly) (gs' : Sys) : Poly :=
  { p with gs := gs', st := ({ p.st with gMin := false }).clearCUp }

theorem denotes_pendForm (p : Poly) (gs' : Sys) (S : Set Val) (he : p.st.empty = false)
    (hgu : p.st.gUp = true) (hg : genSem p.nnc p.dim gs'.rows = S) : (pendForm p gs').Denotes S :=
  .of_gens he (.inr rfl) hgu hg

theorem denotes_dropForm (p : Poly) (gs' : Sys) (S : Set Val) (he : p.st.empty = false)
    (hgu : p.st.gUp = true) (hg : genSem p.nnc p.dim gs'.rows = S) : (dropForm p gs').Denotes S :=
  .of_gens he (.inl rfl) hgu hg

/-- well-formedness of the result of a generator insertion (the non-pending form) -/
theorem wf_dropForm (p : Poly) (gs' : Sys) (hp : p.WF)
    (hgu : p.st.gUp = true) (hgp : p.st.gPend = false) (hwf : ∀ r ∈ gs'.rows, r.genWF p.nnc p.dim)
    (hpt : ∃ r ∈ gs'.rows, r.isPoint p.nnc) : (dropForm p gs').WF := by
  refine ⟨fun _ h => ?_, fun _ _ => hwf, fun _ _ => hpt, fun h => ?_, fun h => ?_, fun h => ?_,
    fun _ _ => Or.inr ?_, fun hd => ?_⟩
  · simp [dropForm, Status.clearCUp] at h
  · simp [dropForm, Status.clearCUp] at h
  · simp [dropForm, Status.clearCUp, hgp] at h
  · simp [dropForm, Status.clearCUp] at h
  · simp [dropForm, Status.clearCUp, hgu]
  · have := (hp.zero_dim hd).2
    rw [hgu] at this; cases this

/-- well-formedness of the pending form; `WF` does not record that minimised constraints are up to
    date, so this is an explicit hypothesis (`Polyhedron::OK()` checks it) -/
theorem wf_pendForm (p : Poly) (gs' : Sys) (hp : p.WF) (_he : p.st.empty = false)
    (hgu : p.st.gUp = true) (hcp : p.st.cPend = false) (hcu : p.st.cUp = true)
    (hwf : ∀ r ∈ gs'.rows, r.genWF p.nnc p.dim)
    (hpt : ∃ r ∈ gs'.rows, r.isPoint p.nnc) : (pendForm p gs').WF := by
  refine ⟨fun h1 h2 => hp.cs_len h1 h2, fun _ _ => hwf, fun _ _ => hpt, fun h => ?_, fun _ => ⟨hcu, hgu⟩,
    fun h => ?_, fun _ _ => Or.inr hgu, fun hd => hp.zero_dim hd⟩
  · have : p.st.cPend = true := h
    rw [hcp] at this; cases this
  · have : p.st.cPend = true := h.1
    rw [hcp] at this; cases this

/-- a generator insertion: as pending rows when the pair can have pending rows, directly otherwise -/
theorem denotes_genForm {p q : Poly} {gs' : Sys} {S : Set Val}
    (hq : (p.st.canPend = true ∧ q = pendForm p gs') ∨ (p.st.canPend = false ∧ q = dropForm p gs'))
    (he : p.st.empty = false) (hgu : p.st.gUp = true) (hg : genSem p.nnc p.dim gs'.rows = S) : q.Denotes S := by
  rcases hq with ⟨_, rfl⟩ | ⟨_, rfl⟩
  · exact denotes_pendForm p _ _ he hgu hg
  · exact denotes_dropForm p _ _ he hgu hg

/-- … and its well-formedness; `hcan`, `hpend`: the invariants `Polyhedron::OK()` adds to `Poly.WF` for pending
    rows (a pair that can have pending rows has its constraints up to date; pending generators only occur on
    such a pair) -/
theorem wf_genForm {p q : Poly} {gs' : Sys}
    (hq : (p.st.canPend = true ∧ q = pendForm p gs') ∨ (p.st.canPend = false ∧ q = dropForm p gs'))
    (hp : p.WF) (he : p.st.empty = false) (hgu : p.st.gUp = true) (hcp : p.st.cPend = false)
    (hcan : p.st.canPend = true → p.st.cUp = true) (hpend : p.st.gPend = true → p.st.canPend = true)
    (hwf : ∀ r ∈ gs'.rows, r.genWF p.nnc p.dim) (hpt : ∃ r ∈ gs'.rows, r.isPoint p.nnc) : q.WF := by
  rcases hq with ⟨hc, rfl⟩ | ⟨hc, rfl⟩
  · exact wf_pendForm p _ hp he hgu hcp (hcan hc) hwf hpt
  · have hgp : p.st.gPend = false := by
      cases hg : p.st.gPend
      · rfl
      · rw [hpend hg] at hc; cases hc
    exact wf_dropForm p _ hp hgu hgp hwf hpt

/-- rows joined to a well-formed generator list with a point -/
theorem rows_append_facts {nnc : Bool} {n : Nat} {gs' xs ys : List Row} (hrows : ∀ r, r ∈ gs' ↔ r ∈ xs ++ ys)
    (hx : ∀ r ∈ xs, r.genWF nnc n) (hy : ∀ r ∈ ys, r.genWF nnc n) (hpt : ∃ r ∈ xs, r.isPoint nnc) :
    (∀ r ∈ gs', r.genWF nnc n) ∧ ∃ r ∈ gs', r.isPoint nnc := by
  refine ⟨fun r hr => ?_, ?_⟩
  · rcases List.mem_append.mp ((hrows r).mp hr) with hr | hr
    · exact hx r hr
    · exact hy r hr
  · obtain ⟨r, hr, hp⟩ := hpt
    exact ⟨r, (hrows r).mpr (List.mem_append_left _ hr), hp⟩

/-! ### `unconstrain` -/

/-- the cylinder over `S` along the variables `vars` -/
def cylSet (n : Nat) (vars : List Nat) (S : Set Val) : Set Val :=
  {w | ∃ x ∈ S, ∀ j < n, j ∉ vars → w j = x j}

theorem sem_unconstrain (ref : RefPoly) (vars : List Nat) (hwf : WF ref.n ref.cs) :
    sem (ref.unconstrain vars).cs = cylSet ref.n vars (sem ref.cs) := by
  ext w
  exact unconstrain_spec ref vars hwf w

theorem cylSet_empty (n : Nat) (vars : List Nat) : cylSet n vars ∅ = ∅ := by
  ext w; simp [cylSet]

theorem cylSet_nil (n : Nat) (S : Set Val) (hS : CoordDet n S) : cylSet n [] S = S := by
  ext w
  constructor
  · rintro ⟨x, hx, hw⟩
    exact (hS w x (fun j hj => hw j hj (by simp))).mpr hx
  · intro hw
    exact ⟨w, hw, fun _ _ _ => rfl⟩

theorem lineRow_genWF (nnc : Bool) (n v : Nat) (hv : v < n) : (lineRow n v).genWF nnc n := by
  refine ⟨?_, le_refl _, le_refl _, fun _ => rfl, fun _ => rfl, fun _ => rfl⟩
  show (List.replicate v (0 : Int) ++ [1] ++ List.replicate (n - v - 1) 0).length = n
  simp; omega

/-- the shape of the result of `unconstrain` in the main branch -/
theorem unconstrain_main (p q : Poly) (vars : List Nat) (hv : vars ≠ []) (he : p.st.empty = false)
    (h : p.unconstrain vars = some q) :
    p.st.cPend = false ∧ p.st.gUp = true ∧
    ((p.st.canPend = true ∧ q = pendForm p (p.gs.insertPendingSys (vars.map (lineRow p.dim)))) ∨
     (p.st.canPend = false ∧ q = dropForm p (p.gs.insertSys (vars.map (lineRow p.dim))))) := by
  unfold Poly.unconstrain at h
  have hv' : ¬ (vars.isEmpty = true) := by cases vars <;> simp at hv ⊢
  rw [if_neg hv', if_neg (by simp [he])] at h
  by_cases hcp : p.st.cPend = true
  · rw [if_pos hcp] at h; cases h
  · rw [if_neg hcp] at h
    by_cases hgu : (!p.st.gUp) = true
    · rw [if_pos hgu] at h; cases h
    · rw [if_neg hgu] at h
      refine ⟨by simpa using hcp, by simpa using hgu, ?_⟩
      by_cases hc : p.st.canPend = true
      · rw [if_pos hc] at h
        exact Or.inl ⟨hc, (Option.some.inj h).symm⟩
      · rw [if_neg hc] at h
        exact Or.inr ⟨by simpa using hc, (Option.some.inj h).symm⟩

/-- **`Polyhedron::unconstrain(vars)` at row level computes the cylindrification.** -/
theorem unconstrain_rows_correct (p q : Poly) (vars : List Nat) (ref : RefPoly)
    (hn : ref.n = p.dim) (hwf : WF ref.n ref.cs) (hp : p.WF) (hvars : ∀ v ∈ vars, v < p.dim)
    (hD : p.Denotes (sem ref.cs)) (h : p.unconstrain vars = some q) :
    q.Denotes (sem (ref.unconstrain vars).cs) := by
  rw [sem_unconstrain ref vars hwf, hn]
  by_cases hv : vars = []
  · subst hv
    have hq : q = p := by
      unfold Poly.unconstrain at h
      simp only [List.map_nil, List.isEmpty_nil, if_true] at h
      exact (Option.some.inj h).symm
    subst hq
    rw [cylSet_nil _ _ (by rw [← hn]; exact coordDet_sem _ _ hwf)]
    exact hD
  · cases he : p.st.empty
    · obtain ⟨hcp, hgu, hq⟩ := unconstrain_main p q vars hv he h
      have hgen : genSem p.nnc p.dim (p.gs.rows ++ vars.map (lineRow p.dim)) =
          cylSet p.dim vars (sem ref.cs) := by
        have := kit_addLines p.nnc p.dim p.gs.rows vars (hp.gs_wf he hgu) hvars
        rw [(hD.2 he).2.1 hgu hcp] at this
        exact this
      rcases hq with ⟨_, rfl⟩ | ⟨_, rfl⟩
      · exact denotes_pendForm p _ _ he hgu hgen
      · exact denotes_dropForm p _ _ he hgu hgen
    · have hq : q = p := by
        unfold Poly.unconstrain at h
        rw [he] at h
        cases hvv : vars.isEmpty <;> simp [hvv] at h <;> exact h.symm
      subst hq
      exact denotes_of_empty _ _ he (by rw [hD.1 he, cylSet_empty])

/-- the result of `unconstrain` is well formed when the lines are not inserted as pending rows, and
    when they are provided the constraints are up to date (which `Polyhedron::OK()` guarantees for
    a polyhedron that can have something pending) -/
theorem unconstrain_rows_wf (p q : Poly) (vars : List Nat) (hp : p.WF)
    (hvars : ∀ v ∈ vars, v < p.dim) (hcan : p.st.canPend = true → p.st.cUp = true)
    (hpend : p.st.gPend = true → p.st.canPend = true)
    (h : p.unconstrain vars = some q) : q.WF := by
  by_cases hv : vars = []
  · subst hv
    have hq : q = p := by
      unfold Poly.unconstrain at h
      simp only [List.map_nil, List.isEmpty_nil, if_true] at h
      exact (Option.some.inj h).symm
    subst hq; exact hp
  · cases he : p.st.empty
    · obtain ⟨hcp, hgu, hq⟩ := unconstrain_main p q vars hv he h
      have hwfr : ∀ r ∈ p.gs.rows ++ vars.map (lineRow p.dim), r.genWF p.nnc p.dim := by
        intro r hr
        rcases List.mem_append.mp hr with hr | hr
        · exact hp.gs_wf he hgu r hr
        · obtain ⟨v, hv, rfl⟩ := List.mem_map.mp hr
          exact lineRow_genWF _ _ _ (hvars v hv)
      have hptr : ∃ r ∈ p.gs.rows ++ vars.map (lineRow p.dim), r.isPoint p.nnc := by
        obtain ⟨r, hr, hpt⟩ := hp.gs_pt he hgu
        exact ⟨r, List.mem_append_left _ hr, hpt⟩
      rcases hq with ⟨hc, rfl⟩ | ⟨hc, rfl⟩
      · exact wf_pendForm p _ hp he hgu hcp (hcan hc) hwfr hptr
      · have hgp : p.st.gPend = false := by
          cases hg : p.st.gPend
          · rfl
          · rw [hpend hg] at hc; cases hc
        exact wf_dropForm p _ hp hgu hgp hwfr hptr
    · have hq : q = p := by
        unfold Poly.unconstrain at h
        rw [he] at h
        cases hvv : vars.isEmpty <;> simp [hvv] at h <;> exact h.symm
      subst hq; exact hp

end PPLV.PolyOps

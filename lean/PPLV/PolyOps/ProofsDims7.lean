import PPLV.PolyOps.ProofsDims2

/-!
# `concatenate_assign` at row level
-/
namespace PPLV.PolyOps
open PPLV.Lin


/-- the concatenation of `Sx ⊆ ℚ^n` and `Sy` (`concat_spec`) -/
def concSet (n : Nat) (Sx Sy : Set Val) : Set Val := {w | w ∈ Sx ∧ (fun j => w (j + n)) ∈ Sy}

theorem sem_concat (refx refy : RefPoly) :
    sem (refx.concat refy).cs = concSet refx.n (sem refx.cs) (sem refy.cs) := by
  ext w
  exact concat_spec refx refy w

theorem concSet_empty_left (n : Nat) (Sy : Set Val) : concSet n ∅ Sy = ∅ := by
  ext w; simp [concSet]

theorem concSet_empty_right (n : Nat) (Sx : Set Val) : concSet n Sx ∅ = ∅ := by
  ext w; simp [concSet]

theorem concSet_univ_right (n : Nat) (Sx : Set Val) : concSet n Sx Set.univ = Sx := by
  ext w; simp [concSet]

theorem concSet_univ_left (Sy : Set Val) : concSet 0 Set.univ Sy = Sy := by
  ext w
  simp only [concSet, Set.mem_ofPred_eq, Set.mem_univ, true_and, Nat.add_zero]

theorem ev_shiftInto (n : Nat) (r : Row) (w : Val) :
    (r.shiftInto n).ev w = r.ev (fun j => w (j + n)) := by
  unfold Row.ev Row.shiftInto
  simp only
  rw [dot_replicate_zero_append]

theorem holds_shiftInto (nnc : Bool) (n : Nat) (r : Row) (w : Val) :
    (r.shiftInto n).Holds nnc w ↔ r.Holds nnc (fun j => w (j + n)) :=
  holds_of_ev nnc r (r.shiftInto n) (fun j => w (j + n)) w 1 (by norm_num) rfl Iff.rfl
    (by rw [ev_shiftInto]; ring)

theorem conSem_concat (nnc : Bool) (n m : Nat) (rx ry : List Row) :
    conSem nnc (rx.map (Row.addZeroCols m) ++ ry.map (Row.shiftInto n)) =
      concSet n (conSem nnc rx) (conSem nnc ry) := by
  ext w
  simp only [concSet, Set.mem_ofPred_eq]
  rw [← conSem_addZeroCols nnc m rx]
  simp only [mem_conSem, List.mem_append]
  constructor
  · intro h
    refine ⟨fun r hr => h r (Or.inl hr), fun r hr => ?_⟩
    exact (holds_shiftInto nnc n r w).mp (h _ (Or.inr (List.mem_map.mpr ⟨r, hr, rfl⟩)))
  · rintro ⟨h1, h2⟩ r (hr | hr)
    · exact h1 r hr
    · obtain ⟨r0, hr0, rfl⟩ := List.mem_map.mp hr
      exact (holds_shiftInto nnc n r0 w).mpr (h2 r0 hr0)

/-- **`Polyhedron::concatenate_assign` at row level.**  `refx`, `refy`: references of `*this` and of
    the argument; `hnncxy`: the two polyhedra have the same topology (checked by the C++). -/
theorem concatenate_assign_rows_correct (p y q : Poly) (refx refy : RefPoly)
    (hnx : refx.n = p.dim) (_hny : refy.n = y.dim)
    (_hnncx : refx.nnc = p.nnc) (_hnncy : refy.nnc = y.nnc)
    (_hwfx : WF refx.n refx.cs) (_hwfy : WF refy.n refy.cs)
    (hp : p.WF) (hy : y.WF) (hnncxy : y.nnc = p.nnc)
    (hDx : p.Denotes (sem refx.cs)) (hDy : y.Denotes (sem refy.cs))
    (h : p.concatenate_assign y = some q) :
    q.Denotes (sem (refx.concat refy).cs) := by
  rw [sem_concat, hnx]
  unfold Poly.concatenate_assign at h
  cases hemx : p.st.empty
  · cases hemy : y.st.empty
    · simp only [hemx, hemy, Bool.or_self, Bool.false_eq_true, if_false] at h
      by_cases hdy : y.dim = 0
      · -- `y` is the zero-dimensional universe
        have hdy0 : (y.dim == 0) = true := by simpa using hdy
        rw [hdy0, if_pos rfl] at h
        have hq := (Option.some.inj h).symm
        obtain ⟨hc0, hg0⟩ := hy.zero_dim hdy
        rw [hq, (hDy.2 hemy).2.2 hc0 hg0, concSet_univ_right]
        exact hDx
      have hdy0 : (y.dim == 0) = false := by simpa using hdy
      rw [hdy0] at h
      simp only [Bool.false_eq_true, if_false] at h
      by_cases hdx : p.dim = 0
      · have hdx0 : (p.dim == 0) = true := by simpa using hdx
        rw [hdx0, if_pos rfl] at h
        have hq := (Option.some.inj h).symm
        obtain ⟨hc0, hg0⟩ := hp.zero_dim hdx
        rw [hq, (hDx.2 hemx).2.2 hc0 hg0, hdx, concSet_univ_left]
        exact hDy
      have hdx0 : (p.dim == 0) = false := by simpa using hdx
      rw [hdx0] at h
      simp only [Bool.false_eq_true, if_false] at h
      cases hycu : y.st.cUp
      · simp [hycu] at h
      cases hygp : y.st.gPend
      swap
      · simp [hygp] at h
      cases hxcu : p.st.cUp
      · simp [hycu, hygp, hxcu] at h
      cases hxgp : p.st.gPend
      swap
      · simp [hycu, hygp, hxgp] at h
      simp only [hycu, hygp, hxcu, hxgp, Bool.not_true, Bool.or_self, Bool.false_eq_true,
        if_false] at h
      have hset : conSem p.nnc (p.cs.rows.map (Row.addZeroCols y.dim) ++
          y.cs.rows.map (Row.shiftInto p.dim)) = concSet p.dim (sem refx.cs) (sem refy.cs) := by
        rw [conSem_concat, (hDx.2 hemx).1 hxcu hxgp, ← hnncxy, (hDy.2 hemy).1 hycu hygp]
      cases hcan : p.st.canPend
      · rw [hcan] at h
        simp only [Bool.false_eq_true, if_false] at h
        have hq := (Option.some.inj h).symm
        rw [hq]
        exact .of_cons rfl rfl (.inl rfl) hset
      · rw [hcan] at h
        simp only [if_true] at h
        have hq := (Option.some.inj h).symm
        rw [hq]
        exact .of_cons rfl rfl (.inr rfl) hset
    · simp only [hemx, hemy, Bool.or_true, if_true] at h
      have hq := (Option.some.inj h).symm
      rw [hq, hDy.1 hemy, concSet_empty_right]
      exact denotes_of_empty _ _ rfl rfl
  · simp only [hemx, Bool.true_or, if_true] at h
    have hq := (Option.some.inj h).symm
    rw [hq, hDx.1 hemx, concSet_empty_left]
    exact denotes_of_empty _ _ rfl rfl

end PPLV.PolyOps

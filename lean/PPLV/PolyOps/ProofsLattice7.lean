import PPLV.PolyOps.ProofsLattice6

/-!
# C02 — lattice operators at row level: `topological_closure_assign`

* `topological_closure_assign_rows_correct`: full strength whenever the code works on the
  constraints (NNC, constraints up to date, nothing pending) and in the trivial branches (marked
  empty, dimension 0, closed topology with valid constraints).
* `topological_closure_assign_rows_correct_partial`: all branches; the generator path
  (`add_corresponding_points`) under the hypothesis that the set generated by the result is closed
  (described by some system without strict rows); a closed-topology polyhedron holding only
  generators under the hypothesis that its set is closed.  Both hypotheses follow from one fact:
  a generator system in which every closure point is matched by a point generates a topologically
  closed set (`genSem_closed_of_matched`, ProofsLattice11.lean); they are discharged in
  ProofsLattice12.lean (`topological_closure_assign_rows_correct_full`).
* `topological_closure_assign_rows_sandwich`: the generator path without any extra hypothesis:
  `P ⊆ result ⊆ closure P`.
-/
namespace PPLV.PolyOps
open PPLV.Lin

/-- the shape of the result of `topological_closure_assign` on an NNC polyhedron of positive
    dimension that is not marked empty -/
theorem topological_closure_assign_main (p q : Poly) (hnn : p.nnc = true) (he : p.st.empty = false)
    (hd : p.dim ≠ 0) (h : p.topological_closure_assign = some q) :
    p.st.cPend = false ∧ p.st.gUp = true ∧
    ((p.st.gPend = false ∧ p.st.cUp = true ∧
        ((p.cs.rows.map closeRow = p.cs.rows ∧ q = p) ∨
         (∃ cs' : Sys, cs'.rows = p.cs.rows.map closeRow ++ [⟨false, 1, List.replicate p.dim 0, -1⟩] ∧
            q = { p with cs := cs', st := ({ p.st with cMin := false }).clearGUp }))) ∨
     ((p.st.gPend = true ∨ p.st.cUp = false) ∧
        ∃ gs' : Sys, gs'.rows = addCorrespondingPoints p.gs.rows ∧
          ((p.st.canPend = true ∧ q = pendForm p gs') ∨ (p.st.canPend = false ∧ q = dropForm p gs')))) := by
  unfold Poly.topological_closure_assign at h
  have hd' : ¬ ((p.dim == 0) = true) := by simpa using hd
  rw [if_neg (by simp [hnn]), if_neg (by simp [he, hd'])] at h
  by_cases hc1 : (p.st.cPend || !p.st.gUp) = true
  · rw [if_pos hc1] at h; cases h
  · rw [if_neg hc1] at h
    have hcp : p.st.cPend = false := by
      cases hh : p.st.cPend
      · rfl
      · simp [hh] at hc1
    have hgu : p.st.gUp = true := by
      cases hh : p.st.gUp
      · simp [hh] at hc1
      · rfl
    refine ⟨hcp, hgu, ?_⟩
    by_cases hc2 : (!p.st.gPend && p.st.cUp) = true
    · rw [if_pos hc2] at h
      dsimp only at h
      have hgp : p.st.gPend = false := by
        cases hh : p.st.gPend
        · rfl
        · simp [hh] at hc2
      have hcu : p.st.cUp = true := by
        cases hh : p.st.cUp
        · simp [hh] at hc2
        · rfl
      refine Or.inl ⟨hgp, hcu, ?_⟩
      by_cases hch : (p.cs.rows.any fun c => decide (c.eps < 0) && !c.isTautological) = true
      · rw [if_pos hch] at h
        exact Or.inr ⟨_, rfl, (Option.some.inj h).symm⟩
      · rw [if_neg hch] at h
        exact Or.inl ⟨closeRows_unchanged _ (by simpa using hch), (Option.some.inj h).symm⟩
    · rw [if_neg hc2] at h
      dsimp only at h
      have hor : p.st.gPend = true ∨ p.st.cUp = false := by
        cases hh : p.st.gPend
        · cases hh2 : p.st.cUp
          · exact Or.inr rfl
          · simp [hh, hh2] at hc2
        · exact Or.inl rfl
      refine Or.inr ⟨hor, ?_⟩
      by_cases hcan : p.st.canPend = true
      · rw [if_pos hcan] at h
        exact ⟨_, rfl, Or.inl ⟨hcan, (Option.some.inj h).symm⟩⟩
      · rw [if_neg hcan] at h
        exact ⟨_, rfl, Or.inr ⟨by simpa using hcan, (Option.some.inj h).symm⟩⟩

/-- all branches; see the header for the two extra hypotheses -/
theorem topological_closure_assign_rows_correct_partial (p q : Poly) (ref : RefPoly)
    (hn : ref.n = p.dim) (hwf : WF ref.n ref.cs) (hp : p.WF)
    -- closed topology, only generators valid: the set is closed
    (hcl : p.nnc = false → p.st.empty = false → (p.st.cUp = false ∨ p.st.gPend = true) →
      sem (relax ref.cs) ⊆ sem ref.cs)
    -- generator path: the set generated by the result is closed
    (hgen : p.nnc = true → p.st.empty = false → p.dim ≠ 0 → (p.st.gPend = true ∨ p.st.cUp = false) →
      ∃ ds : List Con, (∀ c ∈ ds, c.strict = false) ∧
        sem ds = genSem true p.dim (addCorrespondingPoints p.gs.rows))
    (hD : p.Denotes (sem ref.cs)) (h : p.topological_closure_assign = some q) :
    q.Denotes (sem ref.closure.cs) := by
  cases he : p.st.empty
  · cases hnn : p.nnc
    · -- closed topology: nothing is done
      have hq : p = q := by
        unfold Poly.topological_closure_assign at h
        rw [if_pos (by simp [hnn])] at h
        exact (Option.some.inj h)
      subst hq
      have hS : sem ref.closure.cs = sem ref.cs := by
        by_cases hc : p.st.cUp = true ∧ p.st.gPend = false
        · -- the constraints read with the closed topology have no strict row
          have hcon := (hD.2 he).1 hc.1 hc.2
          rw [hnn] at hcon
          by_cases hne : ∃ x, x ∈ sem ref.cs
          · have hcon' : sem (consOf false p.cs.rows) = sem ref.cs := hcon
            have hns : ∀ c ∈ consOf false p.cs.rows, c.strict = false := by
              rw [← relax_consOf]; exact relax_nonstrict _
            rw [sem_closure_nonempty ref hwf hne, closure_unique ref.cs _ hcon'.symm hne, ← hcon']
            exact Set.Subset.antisymm (closed_of_nonstrict _ hns) (sem_subset_relax _)
          · have hemp : sem ref.cs = ∅ :=
              Set.eq_empty_iff_forall_notMem.mpr fun x hx => hne ⟨x, hx⟩
            rw [(closure_cs ref hwf).1 hemp]
        · apply sem_closure_of_closed ref hwf
          apply hcl hnn he
          cases hcu : p.st.cUp
          · exact Or.inl rfl
          · cases hgp : p.st.gPend
            · exact absurd ⟨hcu, hgp⟩ hc
            · exact Or.inr rfl
      rw [hS]; exact hD
    · by_cases hd : p.dim = 0
      · -- dimension 0, not marked empty: the universe
        have hq : p = q := by
          unfold Poly.topological_closure_assign at h
          rw [if_neg (by simp [hnn]), if_pos (by simp [hd])] at h
          exact (Option.some.inj h)
        subst hq
        have hu := (hD.2 he).2.2 (hp.zero_dim hd).1 (hp.zero_dim hd).2
        have : sem ref.closure.cs = sem ref.cs := by
          apply Set.Subset.antisymm _ (closure_spec ref hwf).2.1
          rw [hu]; exact Set.subset_univ _
        rw [this]; exact hD
      · obtain ⟨hcp, hgu, hq⟩ := topological_closure_assign_main p q hnn he hd h
        obtain ⟨hgS, hne⟩ := denotes_gen_nonempty p _ hp he hgu hcp hD
        have hne' : ∃ x, x ∈ sem ref.cs := hne
        rw [sem_closure_nonempty ref hwf hne']
        rcases hq with ⟨hgp, hcu, hq⟩ | ⟨hor, gs', hrows, hq⟩
        · -- the constraint path
          have hcon := (hD.2 he).1 hcu hgp
          rw [hnn] at hcon
          have hclo : sem (relax ref.cs) = conSem true (p.cs.rows.map closeRow) := by
            rw [conSem_closeRows]
            exact closure_unique _ _ hcon.symm hne'
          rcases hq with ⟨hsame, rfl⟩ | ⟨cs', hcs', rfl⟩
          · rw [hclo, hsame, hcon]; exact hD
          · refine .of_cons he hcu (.inl rfl) ?_
            show conSem p.nnc cs'.rows = _
            rw [hnn, hcs', conSem_append, conSem_epsRow, Set.inter_univ, hclo]
        · -- the generator path
          obtain ⟨ds, hds, hsem⟩ := hgen hnn he hd hor
          have hwfg := hp.gs_wf he hgu
          have hptg := hp.gs_pt he hgu
          rw [hnn] at hwfg hptg hgS
          have hwf' : WF p.dim ref.cs := by rw [← hn]; exact hwf
          obtain ⟨_, hlo, hhi⟩ := genSem_addCorrespondingPoints_sandwich p.dim p.gs.rows ref.cs
            hwfg hptg hwf' hgS
          have hgen' : genSem p.nnc p.dim gs'.rows = sem (relax ref.cs) := by
            rw [hnn, hrows]
            apply Set.Subset.antisymm hhi
            rw [← hsem]
            exact (closure_least ref.cs hne').2 ds hds (by rw [hsem]; exact hlo)
          exact denotes_genForm hq he hgu hgen'
  · -- marked empty
    have hq : p = q := by
      unfold Poly.topological_closure_assign at h
      by_cases hnn : (!p.nnc) = true
      · rw [if_pos hnn] at h; exact (Option.some.inj h)
      · rw [if_neg hnn, if_pos (by simp [he])] at h; exact (Option.some.inj h)
    subst hq
    exact denotes_of_empty _ _ he (closure_empty ref hwf (hD.1 he))

/-- **`Polyhedron::topological_closure_assign` at row level, the constraint path (and the trivial
    branches): the reference closure.**  `hpath`: the code does not go through the generators —
    the constraints are up to date and no generator is pending, or the polyhedron is marked empty. -/
theorem topological_closure_assign_rows_correct (p q : Poly) (ref : RefPoly)
    (hn : ref.n = p.dim) (hwf : WF ref.n ref.cs) (hp : p.WF)
    (hpath : p.st.empty = true ∨ (p.st.cUp = true ∧ p.st.gPend = false))
    (hD : p.Denotes (sem ref.cs)) (h : p.topological_closure_assign = some q) :
    q.Denotes (sem ref.closure.cs) := by
  have habs : p.st.empty = false → (p.st.cUp = false ∨ p.st.gPend = true) → False := by
    intro he hor
    rcases hpath with h1 | ⟨h1, h2⟩
    · rw [he] at h1; cases h1
    · rcases hor with h3 | h3
      · rw [h1] at h3; cases h3
      · rw [h2] at h3; cases h3
  exact topological_closure_assign_rows_correct_partial p q ref hn hwf hp
    (fun _ he hor => (habs he hor).elim)
    (fun _ he _ hor => (habs he (hor.symm)).elim) hD h

/-- the generator path without extra hypotheses: the generators of the result generate a set
    between the input set and its closure -/
theorem topological_closure_assign_rows_sandwich (p q : Poly) (ref : RefPoly)
    (hn : ref.n = p.dim) (hwf : WF ref.n ref.cs) (hp : p.WF)
    (hnn : p.nnc = true) (he : p.st.empty = false) (hd : p.dim ≠ 0)
    (hpath : p.st.gPend = true ∨ p.st.cUp = false)
    (hD : p.Denotes (sem ref.cs)) (h : p.topological_closure_assign = some q) :
    ∃ R : Set Val, q.Denotes R ∧ sem ref.cs ⊆ R ∧ R ⊆ sem ref.closure.cs := by
  obtain ⟨hcp, hgu, hq⟩ := topological_closure_assign_main p q hnn he hd h
  obtain ⟨hgS, hne⟩ := denotes_gen_nonempty p _ hp he hgu hcp hD
  have hne' : ∃ x, x ∈ sem ref.cs := hne
  rw [sem_closure_nonempty ref hwf hne']
  rcases hq with ⟨hgp, hcu, _⟩ | ⟨_, gs', hrows, hq⟩
  · exfalso
    rcases hpath with h3 | h3
    · rw [hgp] at h3; cases h3
    · rw [hcu] at h3; cases h3
  · have hwfg := hp.gs_wf he hgu
    have hptg := hp.gs_pt he hgu
    rw [hnn] at hwfg hptg hgS
    have hwf' : WF p.dim ref.cs := by rw [← hn]; exact hwf
    obtain ⟨_, hlo, hhi⟩ := genSem_addCorrespondingPoints_sandwich p.dim p.gs.rows ref.cs
      hwfg hptg hwf' hgS
    refine ⟨genSem true p.dim (addCorrespondingPoints p.gs.rows), ?_, hlo, hhi⟩
    have hgen' : genSem p.nnc p.dim gs'.rows = genSem true p.dim (addCorrespondingPoints p.gs.rows) := by
      rw [hnn, hrows]
    exact denotes_genForm hq he hgu hgen'

end PPLV.PolyOps

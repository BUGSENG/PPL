import PPLV.PolyOps.ProofsLattice7

/-!
# C02 — lattice operators at row level: well-formedness of the results

`intersection_assign_rows_wf`, `time_elapse_assign_rows_wf`, `topological_closure_assign_rows_wf`
(`unconstrain_rows_wf` and `poly_hull_assign_rows_wf` are in ProofsLattice2/3).  `Poly.WF` does not
record the invariants of `Polyhedron::OK()` about pending rows (a pair that can have pending rows
has both descriptions up to date; pending rows only occur on such a pair): where the result sets a
pending flag or keeps one they are explicit hypotheses.
-/
namespace PPLV.PolyOps
open PPLV.Lin

theorem wf_setEmpty (x : Poly) (_hx : x.WF) : x.setEmpty.WF :=
  ⟨fun h => (by cases h), fun h => (by cases h), fun h => (by cases h), fun h => (by cases h),
    fun h => (by cases h), fun h => (by cases h.1), fun h => (by cases h), fun _ => ⟨rfl, rfl⟩⟩

/-! ### `intersection_assign` -/

theorem intersection_assign_rows_wf (x y q : Poly) (hdim : y.dim = x.dim) (hx : x.WF) (hy : y.WF)
    (hcanG : x.st.canPend = true → x.st.gUp = true)
    (hpendC : x.st.cPend = true → x.st.canPend = true)
    (h : x.intersection_assign y = some q) : q.WF := by
  cases hex : x.st.empty
  · cases hey : y.st.empty
    · by_cases hd : x.dim = 0
      · rw [(intersection_assign_trivial x y q h).2.2 hex hey hd]; exact hx
      · obtain ⟨hxg, hxc, hyg, hyc, hq⟩ := intersection_assign_main x y q hex hey hd h
        have hlen : ∀ r ∈ x.cs.rows ++ y.cs.rows, r.cf.length = x.dim := by
          intro r hr
          rcases List.mem_append.mp hr with hr | hr
          · exact hx.cs_len hex hxc r hr
          · rw [← hdim]; exact hy.cs_len hey hyc r hr
        rcases hq with ⟨hc, rfl⟩ | ⟨hc, cs', hrows, rfl⟩
        · exact ⟨fun _ _ => hlen, hx.gs_wf, hx.gs_pt, fun _ => ⟨hxc, hcanG hc⟩,
            fun hh => (by rw [show x.st.gPend = true from hh] at hxg; cases hxg),
            fun hh => (by rw [show x.st.gPend = true from hh.2] at hxg; cases hxg),
            fun _ _ => Or.inl hxc, hx.zero_dim⟩
        · refine ⟨fun _ _ r hr => hlen r ((hrows r).mp hr), fun _ hh => ?_, fun _ hh => ?_,
            fun hh => ?_, fun hh => ?_, fun hh => ?_, fun _ _ => Or.inl ?_, fun hh => absurd hh hd⟩
          · simp [Status.clearGUp] at hh
          · simp [Status.clearGUp] at hh
          · have : x.st.cPend = true := by simpa [Status.clearGUp] using hh
            rw [hpendC this] at hc; cases hc
          · simp [Status.clearGUp] at hh
          · simp [Status.clearGUp] at hh
          · simp [Status.clearGUp, hxc]
    · rw [(intersection_assign_trivial x y q h).2.1 hex hey]; exact wf_setEmpty x hx
  · rw [(intersection_assign_trivial x y q h).1 hex]; exact hx

/-! ### `time_elapse_assign` -/

theorem time_elapse_assign_rows_wf (x y q : Poly) (hdim : y.dim = x.dim) (hnnc : y.nnc = x.nnc)
    (hx : x.WF) (hy : y.WF)
    (hcan : x.st.canPend = true → x.st.cUp = true) (hpend : x.st.gPend = true → x.st.canPend = true)
    (h : x.time_elapse_assign y = some q) : q.WF := by
  by_cases hd : x.dim = 0
  · unfold Poly.time_elapse_assign at h
    rw [if_pos (by simp [hd])] at h
    rw [← Option.some.inj h]
    split
    · exact wf_setEmpty x hx
    · exact hx
  · cases hex : x.st.empty
    · cases hey : y.st.empty
      · obtain ⟨hxc, hxg, _, hyg, hq⟩ := time_elapse_assign_main x y q hex hey hd h
        rcases hq with ⟨_, hqx⟩ | ⟨gs', hrows, hq⟩
        · rw [hqx]; exact hx
        · have hwfx := hx.gs_wf hex hxg
          have hwfy := hy.gs_wf hey hyg
          rw [hnnc, hdim] at hwfy
          have hwfT := timeElapseRows_genWF x.nnc x.dim _ hwfy
          obtain ⟨hwf', hpt'⟩ := rows_append_facts hrows hwfx hwfT (hx.gs_pt hex hxg)
          exact wf_genForm hq hx hex hxg hxc hcan hpend hwf' hpt'
      · unfold Poly.time_elapse_assign at h
        rw [if_neg (by simp [hd]), if_pos (by simp [hey])] at h
        rw [← Option.some.inj h]; exact wf_setEmpty x hx
    · unfold Poly.time_elapse_assign at h
      rw [if_neg (by simp [hd]), if_pos (by simp [hex])] at h
      rw [← Option.some.inj h]; exact wf_setEmpty x hx

/-! ### `topological_closure_assign` -/

theorem closeRow_cf_length (r : Row) : (closeRow r).cf.length = r.cf.length := by
  unfold closeRow
  split
  · exact normalize_cf_length _
  · rfl

theorem topological_closure_assign_rows_wf (p q : Poly) (hp : p.WF)
    (hcan : p.st.canPend = true → p.st.cUp = true) (hpend : p.st.gPend = true → p.st.canPend = true)
    (h : p.topological_closure_assign = some q) : q.WF := by
  by_cases htriv : p.nnc = false ∨ p.st.empty = true ∨ p.dim = 0
  · have hq : q = p := by
      unfold Poly.topological_closure_assign at h
      by_cases hnn : (!p.nnc) = true
      · rw [if_pos hnn] at h; exact (Option.some.inj h).symm
      · rw [if_neg hnn] at h
        have : (p.st.empty || p.dim == 0) = true := by
          rcases htriv with h1 | h1 | h1
          · simp [h1] at hnn
          · simp [h1]
          · simp [h1]
        rw [if_pos this] at h; exact (Option.some.inj h).symm
    rw [hq]; exact hp
  · have hnn : p.nnc = true := by
      cases hh : p.nnc
      · exact absurd (Or.inl hh) htriv
      · rfl
    have he : p.st.empty = false := by
      cases hh : p.st.empty
      · rfl
      · exact absurd (Or.inr (Or.inl hh)) htriv
    have hd : p.dim ≠ 0 := fun hh => htriv (Or.inr (Or.inr hh))
    obtain ⟨hcp, hgu, hq⟩ := topological_closure_assign_main p q hnn he hd h
    rcases hq with ⟨hgp, hcu, hq⟩ | ⟨_, gs', hrows, hq⟩
    · rcases hq with ⟨_, rfl⟩ | ⟨cs', hcs', rfl⟩
      · exact hp
      · refine ⟨fun _ _ r hr => ?_, fun _ hh => ?_, fun _ hh => ?_,
          fun hh => ?_, fun hh => ?_, fun hh => ?_, fun _ _ => Or.inl ?_, fun hh => absurd hh hd⟩
        · rw [hcs'] at hr
          rcases List.mem_append.mp hr with hr | hr
          · obtain ⟨r0, hr0, rfl⟩ := List.mem_map.mp hr
            rw [closeRow_cf_length]; exact hp.cs_len he hcu r0 hr0
          · rw [List.mem_singleton.mp hr]; simp
        · simp [Status.clearGUp] at hh
        · simp [Status.clearGUp] at hh
        · have : p.st.cPend = true := by simpa [Status.clearGUp] using hh
          rw [hcp] at this; cases this
        · simp [Status.clearGUp] at hh
        · simp [Status.clearGUp] at hh
        · simp [Status.clearGUp, hcu]
    · have hwfg := hp.gs_wf he hgu
      have hptg := hp.gs_pt he hgu
      obtain ⟨hwf', hpt'⟩ := rows_append_facts (gs' := gs'.rows)
        (fun r => by rw [hrows, addCorrespondingPoints_eq]) hwfg
        (fun r hr => by rw [hnn] at hwfg ⊢; exact (corrPoints_facts p.dim p.gs.rows hwfg r hr).1) hptg
      exact wf_genForm hq hp he hgu hcp hcan hpend hwf' hpt'

end PPLV.PolyOps

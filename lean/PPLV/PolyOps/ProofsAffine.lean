import PPLV.PolyOps.ProofsGenKit3
import PPLV.PolyOps.ProofsCon2

/-!
# `affine_image` / `affine_preimage`

* the algebra of the inverse map built by `Polyhedron::affine_image` / `affine_preimage`
  (`inverseMap_spec`: `w = f(x)` iff `x = f⁻¹(w)`, for both signs of the coefficient and of the
  denominator; `inverseMap_wrong_sign_fails`: the one-token mutant is not the inverse);
* the set transformers `imgSet` / `preSet`, their agreement with the reference operators and with
  each other through the inverse map;
* what `gsAffineImage` / `csAffinePreimage` (and their negative-denominator calls) do to the
  generated set / the solution set, and to well-formedness.
-/
namespace PPLV.PolyOps
open PPLV.Lin

/-! ## expressions -/


theorem exprNeg_val (e : LinExpr) (w : Val) : (exprNeg e).val w = - e.val w := by
  unfold exprNeg LinExpr.val
  simp only
  rw [dot_map_neg]
  push_cast; ring

theorem exprNeg_length (e : LinExpr) : (exprNeg e).coeffs.length = e.coeffs.length := by
  simp [exprNeg]

theorem exprNeg_getD (e : LinExpr) (v : Nat) :
    (exprNeg e).coeffs.getD v 0 = - e.coeffs.getD v 0 := by
  unfold exprNeg; exact getD_map_default (- ·) neg_zero e.coeffs v

theorem exprSet_length (n : Nat) (e : LinExpr) (v : Nat) (a : Int) :
    (exprSet n e v a).coeffs.length = n := by
  simp [exprSet, padTo_length]

theorem exprSet_val (n v : Nat) (e : LinExpr) (a : Int) (hv : v < n) (he : e.coeffs.length ≤ n)
    (w : Val) :
    (exprSet n e v a).val w = e.val w + ((a : Rat) - ((e.coeffs.getD v 0 : Int) : Rat)) * w v := by
  unfold exprSet LinExpr.val
  simp only
  rw [dot_set _ _ _ _ (by rw [padTo_length]; exact hv), dot_padTo _ _ _ he, getD_padTo _ _ _ he]
  ring

theorem exprSet_getD (n v : Nat) (e : LinExpr) (a : Int) (hv : v < n) :
    (exprSet n e v a).coeffs.getD v 0 = a := by
  unfold exprSet
  exact getD_set_self _ _ _ (by rw [padTo_length]; exact hv)

/-- the value of `e` at `x`, seen from a `w` that agrees with `x` off `v` -/
theorem val_frame (n v : Nat) (e : LinExpr) (he : e.coeffs.length ≤ n) (x w : Val)
    (hframe : ∀ j < n, j ≠ v → w j = x j) :
    e.val x = e.val w + ((e.coeffs.getD v 0 : Int) : Rat) * (x v - w v) := by
  have : dot e.coeffs x = dot e.coeffs (w.update v (x v)) := by
    apply dot_agree
    intro i hi
    by_cases hiv : i = v
    · subst hiv; simp [Val.update]
    · simp only [Val.update, hiv, if_false]
      exact (hframe i (by omega) hiv).symm
  unfold LinExpr.val
  rw [this, dot_update]
  ring

/-! ## the inverse map -/

theorem inverseMap_den_pos (n v : Nat) (e : LinExpr) (den : Int) (hc : e.coeffs.getD v 0 ≠ 0) :
    0 < (inverseMap n v e den).2 := by
  unfold inverseMap
  simp only
  split
  · rename_i h; exact h
  · rename_i h; simp only; omega

theorem inverseMap_length (n v : Nat) (e : LinExpr) (den : Int) :
    (inverseMap n v e den).1.coeffs.length = n := by
  unfold inverseMap
  simp only
  split <;> exact exprSet_length _ _ _ _

/-- the coefficient of `v` in the inverse is `±den`: non-zero, so the inverse is itself invertible -/
theorem inverseMap_getD (n v : Nat) (e : LinExpr) (den : Int) (hv : v < n) (hden : den ≠ 0) :
    (inverseMap n v e den).1.coeffs.getD v 0 ≠ 0 := by
  unfold inverseMap
  simp only
  split
  · simp only; rw [exprSet_getD _ _ _ _ hv]; exact hden
  · simp only; rw [exprSet_getD _ _ _ _ hv]; omega

/-- **`w = f(x)` iff `x = f⁻¹(w)`** for `f : x_v := e(x)/den` and the pair `(inverse, c')` that
    `Polyhedron::affine_image` passes to `Constraint_System::affine_preimage` -/
theorem inverseMap_spec (n v : Nat) (e : LinExpr) (den : Int) (hv : v < n) (he : e.coeffs.length = n)
    (_hden : den ≠ 0) (_hc : e.coeffs.getD v 0 ≠ 0) (x w : Val)
    (hframe : ∀ j < n, j ≠ v → w j = x j) :
    ((den : Rat) * w v = e.val x) ↔
      (((inverseMap n v e den).2 : Rat) * x v = (inverseMap n v e den).1.val w) := by
  have hval := val_frame n v e (le_of_eq he) x w hframe
  unfold inverseMap
  simp only
  split
  · -- c > 0 : inverse = (-e)[v := den], denominator c
    simp only
    rw [exprSet_val n v _ _ hv (by rw [exprNeg_length]; exact le_of_eq he), exprNeg_val,
      exprNeg_getD, hval]
    push_cast
    constructor <;> intro h <;> linarith
  · -- ¬ c > 0 : inverse = e[v := -den], denominator -c
    simp only
    rw [exprSet_val n v _ _ hv (le_of_eq he), hval]
    push_cast
    constructor <;> intro h <;> linarith

/-- The one-token mutant of Polyhedron_public.cc:2829 (`inverse.set_coefficient(var, denominator)`
    without the minus, in the branch `c < 0`) is NOT the inverse: for `f : x := -x` (`n = 1`,
    `e = -x`, `den = 1`) the points `x = 1`, `w = f(x) = -1` satisfy `w = f(x)` but not the mutant's
    "`x = f⁻¹(w)`" (which reads `x = w`), while the real `inverseMap` gives `x = -w`. -/
theorem inverseMap_wrong_sign_fails :
    let e : LinExpr := ⟨[-1], 0⟩
    let mutant : LinExpr × Int := (exprSet 1 e 0 1, -(e.coeffs.getD 0 0))
    let x : Val := fun _ => 1
    let w : Val := fun _ => -1
    ((1 : Int) : Rat) * w 0 = e.val x ∧ ¬ ((mutant.2 : Rat) * x 0 = mutant.1.val w) ∧
      (((inverseMap 1 0 e 1).2 : Rat) * x 0 = (inverseMap 1 0 e 1).1.val w) := by
  intro e mutant x w
  refine ⟨?_, ?_, ?_⟩
  · simp [e, x, w, LinExpr.val, dot]
  · simp [e, mutant, x, w, LinExpr.val, dot, exprSet, padTo]
    norm_num
  · simp [e, x, w, LinExpr.val, dot, exprSet, padTo, inverseMap]

/-! ## the two set transformers -/

/-- image of `S` under `x_v := e(x)/den` (relation form, as in `affineImage_spec`) -/
def imgSet (n v : Nat) (e : LinExpr) (den : Int) (S : Set Val) : Set Val :=
  {w | ∃ x ∈ S, (den : Rat) * w v = e.val x ∧ ∀ j < n, j ≠ v → w j = x j}

/-- preimage of `S` under `x_v := e(x)/den` (relation form, as in `affinePreimage_spec`) -/
def preSet (n v : Nat) (e : LinExpr) (den : Int) (S : Set Val) : Set Val :=
  {w | ∃ x' ∈ S, (den : Rat) * x' v = e.val w ∧ ∀ j < n, j ≠ v → x' j = w j}

/-- `S` only looks at the first `n` coordinates -/
def CoordDet (n : Nat) (S : Set Val) : Prop := ∀ x y : Val, (∀ j < n, x j = y j) → (x ∈ S ↔ y ∈ S)

theorem coordDet_sem (n : Nat) (cs : List Con) (hwf : WF n cs) : CoordDet n (sem cs) := by
  intro x y h
  show Sat cs x ↔ Sat cs y
  unfold Sat
  refine forall_congr' fun c => forall_congr' fun hc => sat_agree c x y fun i hi => h i ?_
  have := hwf c hc
  omega

theorem sem_affineImage (ref : RefPoly) (v : Nat) (e : LinExpr) (den : Int) (hwf : WF ref.n ref.cs)
    (hv : v < ref.n) (he : e.coeffs.length ≤ ref.n) :
    sem (ref.affineImage v e den).cs = imgSet ref.n v e den (sem ref.cs) := by
  ext w
  exact affineImage_spec ref v e den hwf hv he w

theorem sem_affinePreimage (ref : RefPoly) (v : Nat) (e : LinExpr) (den : Int)
    (hwf : WF ref.n ref.cs) (hv : v < ref.n) (he : e.coeffs.length ≤ ref.n) :
    sem (ref.affinePreimage v e den).cs = preSet ref.n v e den (sem ref.cs) := by
  ext w
  exact affinePreimage_spec ref v e den hwf hv he w

theorem imgSet_empty (n v : Nat) (e : LinExpr) (den : Int) : imgSet n v e den ∅ = ∅ := by
  ext w; simp [imgSet]

theorem preSet_empty (n v : Nat) (e : LinExpr) (den : Int) : preSet n v e den ∅ = ∅ := by
  ext w; simp [preSet]

/-- negating numerator and denominator together changes nothing -/
theorem imgSet_neg (n v : Nat) (e : LinExpr) (den : Int) (S : Set Val) :
    imgSet n v (exprNeg e) (-den) S = imgSet n v e den S := by
  ext w
  unfold imgSet
  simp only [Set.mem_ofPred_eq, exprNeg_val]
  refine exists_congr fun x => and_congr_right fun _ => and_congr ?_ Iff.rfl
  push_cast
  constructor <;> intro h <;> linarith

/-- substitution form of the preimage -/
theorem preSet_eq_subst (n v : Nat) (e : LinExpr) (den : Int) (hden : den ≠ 0) (S : Set Val)
    (hS : CoordDet n S) :
    {w | (w.update v (e.val w / (den : Rat))) ∈ S} = preSet n v e den S := by
  have hdq : (den : Rat) ≠ 0 := by exact_mod_cast hden
  ext w
  simp only [Set.mem_ofPred_eq, preSet]
  constructor
  · intro h
    refine ⟨_, h, ?_, ?_⟩
    · simp only [Val.update, if_true]
      field_simp
    · intro j _ hjv
      simp [Val.update, hjv]
  · rintro ⟨x', hx', h1, h2⟩
    refine (hS _ _ fun j hj => ?_).mp hx'
    by_cases hjv : j = v
    · subst hjv
      simp only [Val.update, if_true]
      rw [← h1]; field_simp
    · simp only [Val.update, hjv, if_false]
      exact h2 j hj hjv

/-- the constraint side of the invertible case of `affine_image`: substituting the inverse gives
    the image -/
theorem subst_inverse_eq_imgSet (n v : Nat) (e : LinExpr) (den : Int) (hv : v < n)
    (he : e.coeffs.length = n) (hden : den ≠ 0) (hc : e.coeffs.getD v 0 ≠ 0) (S : Set Val)
    (hS : CoordDet n S) :
    {w | (w.update v ((inverseMap n v e den).1.val w / ((inverseMap n v e den).2 : Rat))) ∈ S} =
      imgSet n v e den S := by
  have hpos := inverseMap_den_pos n v e den hc
  have hq : ((inverseMap n v e den).2 : Rat) ≠ 0 := by
    have : (0 : Rat) < ((inverseMap n v e den).2 : Rat) := by exact_mod_cast hpos
    exact ne_of_gt this
  ext w
  simp only [Set.mem_ofPred_eq, imgSet]
  constructor
  · intro h
    refine ⟨_, h, ?_, ?_⟩
    · apply (inverseMap_spec n v e den hv he hden hc _ w ?_).mpr
      · simp only [Val.update, if_true]
        field_simp
      · intro j _ hjv; simp [Val.update, hjv]
    · intro j _ hjv; simp [Val.update, hjv]
  · rintro ⟨x, hx, h1, h2⟩
    have h3 := (inverseMap_spec n v e den hv he hden hc x w h2).mp h1
    refine (hS _ _ fun j hj => ?_).mp hx
    by_cases hjv : j = v
    · subst hjv
      simp only [Val.update, if_true]
      rw [← h3]; field_simp
    · simp only [Val.update, hjv, if_false]
      exact (h2 j hj hjv).symm

/-- the generator side of the invertible case of `affine_preimage`: the image under the inverse
    is the preimage -/
theorem imgSet_inverse_eq_preSet (n v : Nat) (e : LinExpr) (den : Int) (hv : v < n)
    (he : e.coeffs.length = n) (hden : den ≠ 0) (hc : e.coeffs.getD v 0 ≠ 0) (S : Set Val) :
    imgSet n v (inverseMap n v e den).1 (inverseMap n v e den).2 S = preSet n v e den S := by
  ext w
  simp only [imgSet, preSet, Set.mem_ofPred_eq]
  refine exists_congr fun x => and_congr_right fun _ => ?_
  constructor
  · rintro ⟨h1, h2⟩
    exact ⟨(inverseMap_spec n v e den hv he hden hc w x fun j hj hjv => (h2 j hj hjv).symm).mpr h1,
      fun j hj hjv => (h2 j hj hjv).symm⟩
  · rintro ⟨h1, h2⟩
    exact ⟨(inverseMap_spec n v e den hv he hden hc w x h2).mp h1,
      fun j hj hjv => (h2 j hj hjv).symm⟩

/-! ## the systems -/

/-- the call pattern `if (denominator > 0) sys.f(var, expr, denominator) else sys.f(var, -expr, -denominator)` -/
def gsSigned (v : Nat) (e : LinExpr) (den : Int) (s : Sys) : Sys :=
  if den > 0 then gsAffineImage v e den s else gsAffineImage v (exprNeg e) (-den) s

def csSigned (v : Nat) (e : LinExpr) (den : Int) (s : Sys) : Sys :=
  if den > 0 then csAffinePreimage v e den s else csAffinePreimage v (exprNeg e) (-den) s

theorem gsAffineImage_rows (v : Nat) (e : LinExpr) (den : Int) (s : Sys) :
    (gsAffineImage v e den s).rows =
      (if (e.coeffs.getD v 0 == 0) = true then
          (s.rows.map (genRowAffineImage v e den)).filter (fun r => !(r.b == 0 && r.allHomZero))
        else s.rows.map (genRowAffineImage v e den)).map Row.strongNormalize := by
  unfold gsAffineImage removeInvalidLinesAndRays
  simp only
  split <;> rfl

/-- `Generator_System::affine_image(v, e, den)`, `den > 0`: generated set, well-formedness, points -/
theorem gsAffineImage_facts (nnc : Bool) (n v : Nat) (e : LinExpr) (den : Int) (s : Sys)
    (hwf : ∀ r ∈ s.rows, r.genWF nnc n) (hv : v < n) (he : e.coeffs.length ≤ n) (hden : 0 < den) :
    genSem nnc n (gsAffineImage v e den s).rows = imgSet n v e den (genSem nnc n s.rows) ∧
    (∀ r ∈ (gsAffineImage v e den s).rows, r.genWF nnc n) ∧
    ((∃ r ∈ s.rows, r.isPoint nnc) → ∃ r ∈ (gsAffineImage v e den s).rows, r.isPoint nnc) := by
  rw [gsAffineImage_rows]
  set R1 := s.rows.map (genRowAffineImage v e den) with hR1
  have hR1wf : ∀ r ∈ R1, r.genWF nnc n := by
    intro r hr
    obtain ⟨r0, hr0, rfl⟩ := List.mem_map.mp hr
    exact (kit_affineImageWF nnc n v e den r0 (hwf r0 hr0) hv hden).1
  have hR1sem : genSem nnc n R1 = imgSet n v e den (genSem nnc n s.rows) :=
    kit_affineImage nnc n v e den s.rows hwf hv he hden
  have hR1pt : (∃ r ∈ s.rows, r.isPoint nnc) → ∃ r ∈ R1, r.isPoint nnc := by
    rintro ⟨r, hr, hp⟩
    exact ⟨_, List.mem_map.mpr ⟨r, hr, rfl⟩,
      (kit_affineImageWF nnc n v e den r (hwf r hr) hv hden).2 hp⟩
  -- the optional removal of invalid lines and rays
  obtain ⟨R2, hR2def, hR2sem, hR2wf, hR2pt⟩ : ∃ R2 : List Row,
      R2 = (if (e.coeffs.getD v 0 == 0) = true then
          R1.filter (fun r => !(r.b == 0 && r.allHomZero)) else R1) ∧
      genSem nnc n R2 = genSem nnc n R1 ∧ (∀ r ∈ R2, r.genWF nnc n) ∧
      ((∃ r ∈ R1, r.isPoint nnc) → ∃ r ∈ R2, r.isPoint nnc) := by
    refine ⟨_, rfl, ?_⟩
    split
    · exact removeInvalid_rows_facts nnc n R1 hR1wf
    · exact ⟨rfl, hR1wf, id⟩
  rw [← hR2def]
  obtain ⟨h1, h2, h3⟩ := strongNormalize_rows_facts nnc n R2 hR2wf
  exact ⟨by rw [h1, hR2sem, hR1sem], h2, fun hpt => h3 (hR2pt (hR1pt hpt))⟩

/-- both call patterns of `Polyhedron::affine_image`, any non-zero denominator -/
theorem gsSigned_facts (nnc : Bool) (n v : Nat) (e : LinExpr) (den : Int) (s : Sys)
    (hwf : ∀ r ∈ s.rows, r.genWF nnc n) (hv : v < n) (he : e.coeffs.length ≤ n) (hden : den ≠ 0) :
    genSem nnc n (gsSigned v e den s).rows = imgSet n v e den (genSem nnc n s.rows) ∧
    (∀ r ∈ (gsSigned v e den s).rows, r.genWF nnc n) ∧
    ((∃ r ∈ s.rows, r.isPoint nnc) → ∃ r ∈ (gsSigned v e den s).rows, r.isPoint nnc) := by
  unfold gsSigned
  split
  · rename_i h
    exact gsAffineImage_facts nnc n v e den s hwf hv he h
  · rename_i h
    have h' : 0 < -den := by omega
    have := gsAffineImage_facts nnc n v (exprNeg e) (-den) s hwf hv
      (by rw [exprNeg_length]; exact he) h'
    rw [imgSet_neg] at this
    exact this

theorem csAffinePreimage_rows (v : Nat) (e : LinExpr) (den : Int) (s : Sys) :
    (csAffinePreimage v e den s).rows =
      (s.rows.map (conRowAffinePreimage v e den)).map Row.strongNormalize := rfl

/-- `Constraint_System::affine_preimage(v, e, den)`, `den > 0` -/
theorem csAffinePreimage_facts (nnc : Bool) (n v : Nat) (e : LinExpr) (den : Int) (s : Sys)
    (hlen : ∀ r ∈ s.rows, r.cf.length = n) (hv : v < n) (he : e.coeffs.length = n) (hden : 0 < den) :
    conSem nnc (csAffinePreimage v e den s).rows =
        {w | (w.update v (e.val w / (den : Rat))) ∈ conSem nnc s.rows} ∧
    (∀ r ∈ (csAffinePreimage v e den s).rows, r.cf.length = n) := by
  rw [csAffinePreimage_rows]
  refine ⟨?_, ?_⟩
  · rw [kitC_strongNormalize, kitC_affinePreimage nnc n v e den s.rows hlen hv he hden]
  · intro r hr
    obtain ⟨r1, hr1, rfl⟩ := List.mem_map.mp hr
    obtain ⟨r0, hr0, rfl⟩ := List.mem_map.mp hr1
    rw [strongNormalize_cf_length, conRowAffinePreimage_cf_length, hlen r0 hr0]

theorem csSigned_facts (nnc : Bool) (n v : Nat) (e : LinExpr) (den : Int) (s : Sys)
    (hlen : ∀ r ∈ s.rows, r.cf.length = n) (hv : v < n) (he : e.coeffs.length = n) (hden : den ≠ 0) :
    conSem nnc (csSigned v e den s).rows =
        {w | (w.update v (e.val w / (den : Rat))) ∈ conSem nnc s.rows} ∧
    (∀ r ∈ (csSigned v e den s).rows, r.cf.length = n) := by
  unfold csSigned
  split
  · rename_i h
    exact csAffinePreimage_facts nnc n v e den s hlen hv he h
  · rename_i h
    have h' : 0 < -den := by omega
    have := csAffinePreimage_facts nnc n v (exprNeg e) (-den) s hlen hv
      (by rw [exprNeg_length]; exact he) h'
    have hq : ∀ w : Val, (exprNeg e).val w / ((-den : Int) : Rat) = e.val w / (den : Rat) := by
      intro w
      rw [exprNeg_val]; push_cast
      rw [neg_div_neg_eq]
    simp only [hq] at this
    exact this

end PPLV.PolyOps

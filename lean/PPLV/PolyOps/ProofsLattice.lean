import PPLV.PolyOps.ProofsCon2
import PPLV.PolyOps.ProofsGenKit3

/-!
# C02 — lattice operators at row level: helpers and `intersection_assign`

`intersection_assign_rows_correct`: for ANY two reference polyhedra denoting the sets of `x` and `y`,
every description the status word of the result declares valid denotes the intersection
(`RefPoly.meet`, `sem_append`).  All branches: either side marked empty, dimension 0, the pending
insertion (`insertPendingSys`, `cPend` set: the whole constraint list is `x`'s rows followed by
`y`'s rows, whatever was pending before on either side), `insertSys` and `mergeRowsAssign`.
-/
namespace PPLV.PolyOps
open PPLV.Lin

/-! ### lists of rows -/

theorem consOf_append (nnc : Bool) (A B : List Row) : consOf nnc (A ++ B) = consOf nnc A ++ consOf nnc B := by
  unfold consOf; rw [List.flatMap_append]

theorem gensOf_append (nnc : Bool) (A B : List Row) : gensOf nnc (A ++ B) = gensOf nnc A ++ gensOf nnc B := by
  unfold gensOf; rw [List.map_append]

theorem conSem_append (nnc : Bool) (A B : List Row) :
    conSem nnc (A ++ B) = conSem nnc A ∩ conSem nnc B := by
  unfold conSem; rw [consOf_append, sem_append]

/-- the set of a constraint list depends only on the SET of rows -/
theorem conSem_congr_mem (nnc : Bool) (A B : List Row) (h : ∀ r, r ∈ A ↔ r ∈ B) :
    conSem nnc A = conSem nnc B := by
  ext w
  rw [mem_conSem, mem_conSem]
  exact ⟨fun H r hr => H r ((h r).mpr hr), fun H r hr => H r ((h r).mp hr)⟩

/-- `merge_rows_assign`: the rows of the result are those of either argument -/
theorem mem_mergeRows (s : Sys) (ys : List Row) (r : Row) :
    r ∈ (s.mergeRowsAssign ys).rows ↔ r ∈ s.rows ++ ys := by
  unfold Sys.mergeRowsAssign
  simp only [List.mem_append, List.mem_filter]
  constructor
  · rintro (h | ⟨h, _⟩)
    · exact Or.inl h
    · exact Or.inr h
  · rintro (h | h)
    · exact Or.inl h
    · by_cases hc : r ∈ s.rows
      · exact Or.inl hc
      · exact Or.inr ⟨h, by simp [hc]⟩

theorem insertSys_rows (s : Sys) (ys : List Row) : (s.insertSys ys).rows = s.rows ++ ys := rfl
theorem insertPendingSys_rows (s : Sys) (ys : List Row) : (s.insertPendingSys ys).rows = s.rows ++ ys := rfl

theorem conSem_mergeRows (nnc : Bool) (s : Sys) (ys : List Row) :
    conSem nnc (s.mergeRowsAssign ys).rows = conSem nnc (s.rows ++ ys) :=
  conSem_congr_mem nnc _ _ (mem_mergeRows s ys)

/-- the generated set depends only on the SET of rows -/
theorem genSem_congr_mem (nnc : Bool) (n : Nat) (A B : List Row) (hA : ∀ r ∈ A, r.genWF nnc n)
    (h : ∀ r, r ∈ A ↔ r ∈ B) : genSem nnc n A = genSem nnc n B := by
  unfold genSem
  apply kit_memEquiv n _ _ (gensWF_gensOf nnc n A hA)
  intro g
  unfold gensOf
  simp only [List.mem_map]
  exact ⟨fun ⟨r, hr, e⟩ => ⟨r, (h r).mp hr, e⟩, fun ⟨r, hr, e⟩ => ⟨r, (h r).mpr hr, e⟩⟩

/-! ### the status tests -/

theorem obtainC_some (p p' : Poly) (h : p.obtainConstraintsNoConv = some p') :
    p' = p ∧ p.st.gPend = false ∧ p.st.cUp = true := by
  unfold Poly.obtainConstraintsNoConv at h
  cases hg : p.st.gPend <;> cases hc : p.st.cUp <;> simp [hg, hc] at h
  exact ⟨h.symm, rfl, rfl⟩

theorem obtainG_some (p p' : Poly) (h : p.obtainGeneratorsPendingNoConv = some p') :
    p' = p ∧ p.st.cPend = false ∧ p.st.gUp = true := by
  unfold Poly.obtainGeneratorsPendingNoConv at h
  cases hg : p.st.cPend <;> cases hc : p.st.gUp <;> simp [hg, hc] at h
  exact ⟨h.symm, rfl, rfl⟩

theorem denotes_setEmpty (p : Poly) (S : Set Val) (hS : S = ∅) : p.setEmpty.Denotes S :=
  denotes_of_empty _ _ rfl hS

/-! ### `intersection_assign` -/

/-- the branches without insertion: `x` marked empty; `y` marked empty; dimension 0 -/
theorem intersection_assign_trivial (x y q : Poly) (h : x.intersection_assign y = some q) :
    (x.st.empty = true → q = x) ∧ (x.st.empty = false → y.st.empty = true → q = x.setEmpty) ∧
    (x.st.empty = false → y.st.empty = false → x.dim = 0 → q = x) := by
  unfold Poly.intersection_assign at h
  refine ⟨fun hex => ?_, fun hex hey => ?_, fun hex hey hd => ?_⟩
  · rw [if_pos hex] at h
    exact (Option.some.inj h).symm
  · rw [if_neg (by simp [hex]), if_pos hey] at h
    exact (Option.some.inj h).symm
  · rw [if_neg (by simp [hex]), if_neg (by simp [hey]), if_pos (by simp [hd])] at h
    exact (Option.some.inj h).symm

/-- the main branch: both constraint systems are usable and the rows of `y` join those of `x`, as pending rows
    or (merged or appended) with the generators declared out of date -/
theorem intersection_assign_main (x y q : Poly) (hex : x.st.empty = false) (hey : y.st.empty = false)
    (hd : x.dim ≠ 0) (h : x.intersection_assign y = some q) :
    x.st.gPend = false ∧ x.st.cUp = true ∧ y.st.gPend = false ∧ y.st.cUp = true ∧
    ((x.st.canPend = true ∧ q = { x with cs := x.cs.insertPendingSys y.cs.rows,
                                         st := { x.st with cPend := true } }) ∨
     (x.st.canPend = false ∧ ∃ cs' : Sys, (∀ r, r ∈ cs'.rows ↔ r ∈ x.cs.rows ++ y.cs.rows) ∧
       q = { x with cs := cs', st := ({ x.st with cMin := false }).clearGUp })) := by
  unfold Poly.intersection_assign at h
  have hd' : ¬ ((x.dim == 0) = true) := by simpa using hd
  rw [hex, hey] at h
  simp only [Bool.false_eq_true, if_false, hd'] at h
  cases hox : x.obtainConstraintsNoConv with
  | none => rw [hox] at h; simp at h
  | some x' =>
    cases hoy : y.obtainConstraintsNoConv with
    | none => rw [hox, hoy] at h; simp at h
    | some y' =>
      obtain ⟨rfl, hxg, hxc⟩ := obtainC_some x x' hox
      obtain ⟨rfl, hyg, hyc⟩ := obtainC_some y y' hoy
      rw [hox, hoy] at h
      simp only at h
      refine ⟨hxg, hxc, hyg, hyc, ?_⟩
      by_cases hcp : x'.st.canPend = true
      · rw [if_pos hcp] at h
        exact Or.inl ⟨hcp, (Option.some.inj h).symm⟩
      · rw [if_neg hcp] at h
        refine Or.inr ⟨by simpa using hcp, _, fun r => ?_, (Option.some.inj h).symm⟩
        show r ∈ (if (x'.cs.sorted && y'.cs.sorted && !y'.st.cPend) = true then
          x'.cs.mergeRowsAssign y'.cs.rows else x'.cs.insertSys y'.cs.rows).rows ↔ _
        split
        · exact mem_mergeRows _ _ r
        · exact Iff.rfl

/-- **`Polyhedron::intersection_assign` at row level computes the intersection.** -/
theorem intersection_assign_rows_correct (x y q : Poly) (refx refy : RefPoly)
    (hdim : y.dim = x.dim) (hnnc : y.nnc = x.nnc) (hx : x.WF) (hy : y.WF)
    (hDx : x.Denotes (sem refx.cs)) (hDy : y.Denotes (sem refy.cs))
    (h : x.intersection_assign y = some q) :
    q.Denotes (sem (refx.meet refy).cs) := by
  have hS : sem (refx.meet refy).cs = sem refx.cs ∩ sem refy.cs := sem_append _ _
  rw [hS]
  cases hex : x.st.empty
  · cases hey : y.st.empty
    · by_cases hd : x.dim = 0
      · -- dimension 0, neither marked empty: both are the universe
        rw [(intersection_assign_trivial x y q h).2.2 hex hey hd]
        have hux := (hDx.2 hex).2.2 (hx.zero_dim hd).1 (hx.zero_dim hd).2
        have huy := (hDy.2 hey).2.2 (hy.zero_dim (hdim.trans hd)).1 (hy.zero_dim (hdim.trans hd)).2
        rw [huy, Set.inter_univ]
        exact hDx
      · obtain ⟨hxg, hxc, hyg, hyc, hq⟩ := intersection_assign_main x y q hex hey hd h
        have hsem : ∀ cs' : List Row, (∀ r, r ∈ cs' ↔ r ∈ x.cs.rows ++ y.cs.rows) →
            conSem x.nnc cs' = sem refx.cs ∩ sem refy.cs := fun cs' hrows => by
          rw [conSem_congr_mem _ _ _ hrows, conSem_append, (hDx.2 hex).1 hxc hxg, ← hnnc,
            (hDy.2 hey).1 hyc hyg]
        -- in both forms the constraints are the one description the status word declares valid
        rcases hq with ⟨_, rfl⟩ | ⟨_, cs', hrows, rfl⟩
        · exact .of_cons hex hxc (.inr rfl) (hsem _ fun _ => Iff.rfl)
        · exact .of_cons hex hxc (.inl rfl) (hsem _ hrows)
    · -- `y` marked empty
      rw [(intersection_assign_trivial x y q h).2.1 hex hey]
      exact denotes_setEmpty _ _ (by rw [hDy.1 hey, Set.inter_empty])
  · -- `x` marked empty
    rw [(intersection_assign_trivial x y q h).1 hex]
    exact denotes_of_empty _ _ hex (by rw [hDx.1 hex, Set.empty_inter])

end PPLV.PolyOps

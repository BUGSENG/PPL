import PPLV.PolyOps.ProofsDims3

/-!
# `remove_space_dimensions` at row level
-/
namespace PPLV.PolyOps
open PPLV.Lin


/-- "we need updated generators" without a conversion: generators were up to date and no
    constraints pending; the result holds the same generator rows, nothing pending -/
theorem obtainGens_shape (p p' : Poly) (hp : p.WF) (h : p.obtainGeneratorsNoConv = some p') :
    p.st.gUp = true ∧ p.st.cPend = false ∧ p'.nnc = p.nnc ∧ p'.dim = p.dim ∧
    p'.gs.rows = p.gs.rows ∧ p'.st.empty = p.st.empty ∧ p'.st.gUp = true ∧ p'.st.cPend = false ∧
    p'.st.gPend = false ∧ p'.cs = p.cs ∧
    (p'.st.cUp = true → p.st.cUp = true ∧ p.st.gPend = false) := by
  unfold Poly.obtainGeneratorsNoConv at h
  simp only [Status.somethingPending] at h
  by_cases hgp : p.st.gPend = true
  · obtain ⟨_, hgu⟩ := hp.pend_g hgp
    have hcp : p.st.cPend = false := by
      cases hx : p.st.cPend
      · rfl
      · exact absurd ⟨hx, hgp⟩ hp.pend_one
    simp only [hgp, hcp, Bool.or_true, if_true] at h
    have hq := (Option.some.inj h).symm
    subst hq
    refine ⟨hgu, hcp, rfl, rfl, rfl, ?_, ?_, ?_, ?_, rfl, ?_⟩ <;> simp [Status.clearCUp, hgu]
  · have hgp' : p.st.gPend = false := by simpa using hgp
    cases hcp : p.st.cPend
    · cases hgu : p.st.gUp
      · simp [hgp', hcp, hgu] at h
      · simp only [hgp', hcp, hgu, Bool.or_self, Bool.false_eq_true, if_false, Bool.not_true] at h
        have hq := (Option.some.inj h).symm
        subst hq
        exact ⟨rfl, rfl, rfl, rfl, rfl, rfl, hgu, hcp, hgp', rfl, fun hc => ⟨hc, hgp'⟩⟩
    · simp [hgp', hcp] at h

/-! ### the three results of an operator that rebuilds the polyhedron from its generators -/

theorem denotes_setZeroDimUniv (p : Poly) : p.setZeroDimUniv.Denotes Set.univ :=
  ⟨fun h => (by cases h), fun _ => ⟨fun h => (by cases h), fun h => (by cases h), fun _ _ => rfl⟩⟩

theorem wf_setZeroDimUniv (p : Poly) : p.setZeroDimUniv.WF :=
  ⟨fun _ h => (by cases h), fun _ h => (by cases h), fun _ h => (by cases h), fun h => (by cases h),
    fun h => (by cases h), fun h => (by cases h.1), fun _ h => absurd h (by simp [Poly.setZeroDimUniv]),
    fun _ => ⟨rfl, rfl⟩⟩

/-- new generator rows in dimension `d`, the constraints declared out of date -/
theorem denotes_gensRebuilt (p' : Poly) (gs' : Sys) (d : Nat) (S : Set Val) (hem : p'.st.empty = false)
    (hgu : p'.st.gUp = true) (hg : genSem p'.nnc d gs'.rows = S) :
    ({ p' with gs := gs', st := { p'.st.clearCUp with gMin := false }, dim := d } : Poly).Denotes S :=
  .of_gens hem (.inl rfl) hgu hg

theorem wf_gensRebuilt (p' : Poly) (gs' : Sys) (d : Nat) (hd : d ≠ 0) (hgu : p'.st.gUp = true)
    (hgp : p'.st.gPend = false) (hwf : ∀ r ∈ gs'.rows, r.genWF p'.nnc d)
    (hpt : ∃ r ∈ gs'.rows, r.isPoint p'.nnc) :
    ({ p' with gs := gs', st := { p'.st.clearCUp with gMin := false }, dim := d } : Poly).WF :=
  .of_gens rfl hgu rfl hgp hd hwf hpt

/-- a polyhedron marked empty whose dimension changes.  `hes`: a polyhedron marked empty holds no description
    (`Status::OK()`: EMPTY excludes every other flag) — `Poly.WF` does not say so, and without it removing ALL
    dimensions of an empty polyhedron that claims up-to-date constraints would give a zero-dimensional polyhedron
    that claims a description. -/
theorem wf_emptyRedim (p : Poly) (d : Nat) (hp : p.WF) (hem : p.st.empty = true)
    (hes : p.st.empty = true → p.st.cUp = false ∧ p.st.gUp = false) :
    ({ p with cs := Sys.clear, dim := d } : Poly).WF :=
  ⟨fun h => (by simp [hem] at h), fun h => (by simp [hem] at h), fun h => (by simp [hem] at h),
    hp.pend_c, hp.pend_g, hp.pend_one, fun h => (by simp [hem] at h), fun _ => hes hem⟩

theorem otherVars_nil (n : Nat) : otherVars n [] = List.range n := by
  simp [otherVars]

/-- the three shapes of the result of `remove_space_dimensions` -/
theorem remove_space_dimensions_shape (p q : Poly) (vars : List Nat) (hv : vars ≠ [])
    (hem : p.st.empty = false) (h : p.remove_space_dimensions vars = some q) :
    ∃ p', p.obtainGeneratorsNoConv = some p' ∧
      q = (if (p.dim - vars.length == 0) = true then p'.setZeroDimUniv
        else { p' with gs := gsRemoveDims vars p'.gs,
                       st := { p'.st.clearCUp with gMin := false }, dim := p.dim - vars.length }) := by
  unfold Poly.remove_space_dimensions at h
  have hv' : vars.isEmpty = false := by
    cases vars with
    | nil => exact absurd rfl hv
    | cons a t => rfl
  rw [hv'] at h
  simp only [Bool.false_eq_true, if_false, hem] at h
  obtain ⟨p', hp', hq⟩ := Option.map_eq_some_iff.mp h
  exact ⟨p', hp', hq.symm⟩

theorem remove_space_dimensions_empty_shape (p q : Poly) (vars : List Nat) (hv : vars ≠ [])
    (hem : p.st.empty = true) (h : p.remove_space_dimensions vars = some q) :
    q = { p with cs := Sys.clear, dim := p.dim - vars.length } := by
  unfold Poly.remove_space_dimensions at h
  have hv' : vars.isEmpty = false := by
    cases vars with
    | nil => exact absurd rfl hv
    | cons a t => rfl
  rw [hv'] at h
  simpa [hem] using h.symm

/-- **`Polyhedron::remove_space_dimensions` at row level.**  `vars`: distinct variables of the
    polyhedron (the C++ passes a `Variables_Set`). -/
theorem remove_space_dimensions_rows_correct (p q : Poly) (vars : List Nat) (ref : RefPoly)
    (hn : ref.n = p.dim) (_hnnc : ref.nnc = p.nnc) (hwf : WF ref.n ref.cs) (hp : p.WF)
    (hnd : vars.Nodup) (hlt : ∀ v ∈ vars, v < p.dim)
    (hD : p.Denotes (sem ref.cs)) (h : p.remove_space_dimensions vars = some q) :
    q.Denotes (sem (ref.removeDims vars).cs) := by
  rw [sem_removeDims ref vars hwf, hn]
  have hSdet : CoordDet p.dim (sem ref.cs) := by rw [← hn]; exact coordDet_sem _ _ hwf
  have hlen := otherVars_length p.dim vars hnd hlt
  by_cases hv : vars = []
  · subst hv
    have hq : q = p := by
      unfold Poly.remove_space_dimensions at h
      simpa using h.symm
    rw [hq, otherVars_nil, selSet_range p.dim _ hSdet]
    exact hD
  cases hem : p.st.empty
  · obtain ⟨p', hp', hq⟩ := remove_space_dimensions_shape p q vars hv hem h
    obtain ⟨hgu, hcp, hn', hd', hrows, hem', hgu', hcp', hgp', _, _⟩ := obtainGens_shape p p' hp hp'
    have hgen := (hD.2 hem).2.1 hgu hcp
    by_cases h0 : p.dim - vars.length = 0
    · have h0' : (p.dim - vars.length == 0) = true := by simpa using h0
      rw [h0', if_pos rfl] at hq
      subst hq
      have hk : otherVars p.dim vars = [] := List.eq_nil_of_length_eq_zero (by omega)
      have hne : (sem ref.cs).Nonempty := by
        rw [← hgen]
        exact kit_nonempty p.nnc p.dim _ (hp.gs_wf hem hgu) (hp.gs_pt hem hgu)
      rw [hk, selSet_nil _ hne]
      exact denotes_setZeroDimUniv p'
    · have h0' : (p.dim - vars.length == 0) = false := by simpa using h0
      rw [h0'] at hq
      simp only [Bool.false_eq_true, if_false] at hq
      subst hq
      have hfacts := gsRemoveDims_facts p.nnc p.dim vars p.gs (hp.gs_wf hem hgu)
      apply denotes_gensRebuilt p' _ _ _ (hem'.trans hem) hgu'
      show genSem p'.nnc (p.dim - vars.length) (p'.gs.rows.filterMap (genRowRemoveDims vars)) = _
      rw [hn', hrows, ← hlen, ← hgen]
      exact hfacts.1
  · rw [remove_space_dimensions_empty_shape p q vars hv hem h, hD.1 hem, selSet_empty]
    exact denotes_of_empty _ _ hem rfl

/-- the result of `remove_space_dimensions` is well formed (`hes`: see `wf_emptyRedim`) -/
theorem remove_space_dimensions_rows_wf (p q : Poly) (vars : List Nat) (hp : p.WF)
    (hnd : vars.Nodup) (hlt : ∀ v ∈ vars, v < p.dim)
    (hes : p.st.empty = true → p.st.cUp = false ∧ p.st.gUp = false)
    (h : p.remove_space_dimensions vars = some q) : q.WF := by
  have hlen := otherVars_length p.dim vars hnd hlt
  by_cases hv : vars = []
  · subst hv
    have hq : q = p := by
      unfold Poly.remove_space_dimensions at h
      simpa using h.symm
    rw [hq]
    exact hp
  cases hem : p.st.empty
  · obtain ⟨p', hp', hq⟩ := remove_space_dimensions_shape p q vars hv hem h
    obtain ⟨hgu, hcp, hn', hd', hrows, hem', hgu', hcp', hgp', _, _⟩ := obtainGens_shape p p' hp hp'
    by_cases h0 : p.dim - vars.length = 0
    · have h0' : (p.dim - vars.length == 0) = true := by simpa using h0
      rw [h0', if_pos rfl] at hq
      subst hq
      exact wf_setZeroDimUniv p'
    · have h0' : (p.dim - vars.length == 0) = false := by simpa using h0
      rw [h0'] at hq
      simp only [Bool.false_eq_true, if_false] at hq
      subst hq
      have hfacts := gsRemoveDims_facts p.nnc p.dim vars p.gs (hp.gs_wf hem hgu)
      have hr : (gsRemoveDims vars p'.gs).rows = (gsRemoveDims vars p.gs).rows := by
        show p'.gs.rows.filterMap _ = p.gs.rows.filterMap _
        rw [hrows]
      refine wf_gensRebuilt p' _ _ h0 hgu' hgp' ?_ ?_
      · show ∀ r ∈ (gsRemoveDims vars p'.gs).rows, r.genWF p'.nnc (p.dim - vars.length)
        rw [hr, hn', ← hlen]
        exact hfacts.2.1
      · show ∃ r ∈ (gsRemoveDims vars p'.gs).rows, r.isPoint p'.nnc
        rw [hr, hn']
        exact hfacts.2.2 (hp.gs_pt hem hgu)
  · rw [remove_space_dimensions_empty_shape p q vars hv hem h]
    exact wf_emptyRedim p _ hp hem hes

end PPLV.PolyOps

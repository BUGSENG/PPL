import PPLV.PolyOps.ProofsCon

/-!
# the constraint toolkit: `KitC.affinePreimage`

Per row: the row built by the loop body of `Constraint_System::affine_preimage` (before its
`strong_normalize()`) has, at `w`, `den` times the value of the input row at
`w[v := e(w)/den]`; kind bit kept, epsilon coefficient scaled by `den > 0`.
-/
namespace PPLV.PolyOps
open PPLV.Lin

theorem addMul_length (c : Int) (xs ys : List Int) : (addMul c xs ys).length = ys.length := by
  induction xs generalizing ys with
  | nil => cases ys <;> rfl
  | cons x xs ih =>
    cases ys with
    | nil => rfl
    | cons y ys => simp [addMul, ih]

theorem dot_addMul (c : Int) (xs ys : List Int) (h : xs.length ≤ ys.length) (w : Val) :
    dot (addMul c xs ys) w = dot ys w + (c : Rat) * dot xs w := by
  induction xs generalizing ys w with
  | nil => cases ys <;> simp [addMul]
  | cons x xs ih =>
    cases ys with
    | nil => simp at h
    | cons y ys =>
      simp only [addMul, dot_cons]
      rw [ih ys (by simpa using h)]
      push_cast; ring

theorem getD_addMul (c : Int) (xs ys : List Int) (h : xs.length ≤ ys.length) (i : Nat) :
    (addMul c xs ys).getD i 0 = ys.getD i 0 + c * xs.getD i 0 := by
  induction xs generalizing ys i with
  | nil => cases ys <;> simp [addMul]
  | cons x xs ih =>
    cases ys with
    | nil => simp at h
    | cons y ys =>
      cases i with
      | zero => simp [addMul]
      | succ i =>
        simp only [addMul, List.getD_cons_succ]
        exact ih ys (by simpa using h) i

theorem getD_map_mul' (cf : List Int) (k : Int) (i : Nat) :
    (cf.map (k * ·)).getD i 0 = k * cf.getD i 0 :=
  getD_map_default (k * ·) (mul_zero k) cf i

/-- the conditional scaling `if (denominator != 1) row *= denominator` -/
theorem scaleIf_facts (den : Int) (hden : 0 < den) (r : Row) (v : Nat) :
    let r1 := if den != 1 then r.scale den else r
    r1.eq = r.eq ∧ (∀ w, r1.ev w = (den : Rat) * r.ev w) ∧ (r1.eps < 0 ↔ r.eps < 0) ∧
      r1.cf.length = r.cf.length ∧ r1.cf.getD v 0 = den * r.cf.getD v 0 := by
  intro r1
  by_cases h : den = 1
  · have hr1 : r1 = r := by
      show (if den != 1 then r.scale den else r) = r
      simp [h]
    rw [hr1, h]
    refine ⟨rfl, fun w => by simp, Iff.rfl, rfl, by simp⟩
  · have hr1 : r1 = r.scale den := by
      show (if den != 1 then r.scale den else r) = r.scale den
      simp [h]
    rw [hr1]
    refine ⟨rfl, fun w => ev_scale den r w, ?_, by simp [Row.scale], ?_⟩
    · show den * r.eps < 0 ↔ r.eps < 0
      rw [← not_le, ← not_le, mul_nonneg_iff_of_pos_left hden]
    · show (r.cf.map (den * ·)).getD v 0 = _
      exact getD_map_mul' r.cf den v

/-- the per-row fact behind `Constraint_System::affine_preimage` -/
theorem holds_conRowAffinePreimage (nnc : Bool) (n v : Nat) (e : LinExpr) (den : Int) (r : Row)
    (hr : r.cf.length = n) (hv : v < n) (he : e.coeffs.length = n) (hden : 0 < den) (w : Val) :
    (conRowAffinePreimage v e den r).Holds nnc w ↔
      r.Holds nnc (w.update v (e.val w / (den : Rat))) := by
  have hdq : (0 : Rat) < (den : Rat) := by exact_mod_cast hden
  have hdne : (den : Rat) ≠ 0 := ne_of_gt hdq
  unfold conRowAffinePreimage
  simp only
  by_cases hc : r.cf.getD v 0 = 0
  · have : (r.cf.getD v 0 != 0) = false := by rw [hc]; rfl
    rw [this]
    simp only [Bool.false_eq_true, if_false]
    refine holds_of_ev nnc r r (w.update v (e.val w / (den : Rat))) w 1 one_pos rfl Iff.rfl ?_
    unfold Row.ev
    rw [dot_update, hc]
    push_cast; ring
  · have : (r.cf.getD v 0 != 0) = true := bne_iff_ne.mpr hc
    rw [this]
    simp only [if_true]
    rw [holds_strongNormalize]
    obtain ⟨h1, h2, h3, h4, h5⟩ := scaleIf_facts den hden r v
    generalize (if den != 1 then r.scale den else r) = r1 at h1 h2 h3 h4 h5
    have hX : (if (e.coeffs.getD v 0 == 0) = true then (0 : Int)
        else r.cf.getD v 0 * e.coeffs.getD v 0) = r.cf.getD v 0 * e.coeffs.getD v 0 := by
      split
      · rename_i hz
        have : e.coeffs.getD v 0 = 0 := by simpa using hz
        rw [this, Int.mul_zero]
      · rfl
    rw [hX]
    refine holds_of_ev nnc r _ _ w (den : Rat) hdq h1 h3 ?_
    have hle : e.coeffs.length ≤ r1.cf.length := by rw [h4, hr, he]
    have h2w := h2 w
    unfold Row.ev at h2w ⊢
    simp only
    rw [dot_set _ _ _ _ (by rw [addMul_length, h4, hr]; exact hv), dot_addMul _ _ _ hle,
      getD_addMul _ _ _ hle, h5, dot_update]
    unfold LinExpr.val
    push_cast
    have h2' : dot r1.cf w = (den : Rat) * (dot r.cf w + (r.b : Rat)) - (r1.b : Rat) := by
      linarith
    rw [h2']
    field_simp
    ring

theorem kitC_affinePreimage : KitC.affinePreimage := by
  intro nnc n v e den rows hrows hv he hden
  ext w
  rw [conSem_map]
  show _ ↔ w.update v (e.val w / (den : Rat)) ∈ conSem nnc rows
  rw [mem_conSem]
  exact forall_congr' fun r => forall_congr' fun hr =>
    holds_conRowAffinePreimage nnc n v e den r (hrows r hr) hv he hden w

/-- lengths are kept by the loop body -/
theorem conRowAffinePreimage_cf_length (v : Nat) (e : LinExpr) (den : Int) (r : Row) :
    (conRowAffinePreimage v e den r).cf.length = r.cf.length := by
  unfold conRowAffinePreimage
  simp only
  split
  · rw [strongNormalize_cf_length]
    simp only [List.length_set, addMul_length]
    split
    · simp [Row.scale]
    · rfl
  · rfl

end PPLV.PolyOps

import PPLV.PolyOps.ProofsDims9
import PPLV.PolyOps.ProofsDims10

/-!
# `map_space_dimensions` at row level

`f[j] = pfunc(j)`; hypotheses on `f` (what `Partial_Function` guarantees): defined on the variables
of the polyhedron (`hlen`), injective (`hinj`), with codomain exactly `{0, …, N-1}` (`hcod`,
`hsurj`).  The reference operator is given the pairs `mapPairs f` and the new dimension `N`.
-/
namespace PPLV.PolyOps
open PPLV.Lin


theorem all_none_iff (f : List (Option Nat)) :
    f.all (· == none) = true ↔ ∀ j k, f.getD j none ≠ some k := by
  rw [List.all_eq_true]
  constructor
  · intro h j k hjk
    have := h (some k) ((mem_some_iff f k).mpr ⟨j, hjk⟩)
    simp at this
  · intro h o ho
    cases o with
    | none => rfl
    | some k =>
      obtain ⟨j, hj⟩ := (mem_some_iff f k).mp ho
      exact absurd hj (h j k)

theorem isIdentity_iff (f : List (Option Nat)) :
    isIdentity f = true ↔ ∀ j < f.length, f.getD j none = some j := by
  unfold isIdentity
  rw [List.all_eq_true]
  simp only [List.mem_range, beq_iff_eq]

/-- **`Polyhedron::map_space_dimensions` at row level.** -/
theorem map_space_dimensions_rows_correct (p q : Poly) (f : List (Option Nat)) (N : Nat)
    (ref : RefPoly)
    (hn : ref.n = p.dim) (_hnnc : ref.nnc = p.nnc) (hwf : WF ref.n ref.cs) (hp : p.WF)
    (hlen : f.length = p.dim)
    (hinj : ∀ j j' k, f.getD j none = some k → f.getD j' none = some k → j = j')
    (hcod : ∀ j k, f.getD j none = some k → k < N)
    (hsurj : ∀ k < N, ∃ j, f.getD j none = some k)
    (hD : p.Denotes (sem ref.cs)) (h : p.map_space_dimensions f = some q) :
    q.Denotes (sem (ref.mapDims N (mapPairs f)).cs) := by
  rw [sem_mapDims ref f N hwf (by rw [hlen, hn]) hcod]
  have hSdet : CoordDet p.dim (sem ref.cs) := by rw [← hn]; exact coordDet_sem _ _ hwf
  unfold Poly.map_space_dimensions at h
  by_cases hd : p.dim = 0
  · -- zero-dimensional: nothing to rename
    have hd0 : (p.dim == 0) = true := by simpa using hd
    rw [hd0, if_pos rfl] at h
    have hq := (Option.some.inj h).symm
    have hnone : ∀ j k, f.getD j none ≠ some k := by
      intro j k hjk
      have := getD_some_lt f j k hjk
      omega
    rw [hq]
    cases hem : p.st.empty
    · obtain ⟨hc0, hg0⟩ := hp.zero_dim hd
      have hS := (hD.2 hem).2.2 hc0 hg0
      rw [hS] at hD ⊢
      rw [mapSet_none f _ hnone ⟨fun _ => 0, Set.mem_univ _⟩]
      exact hD
    · have hS := hD.1 hem
      rw [hS] at hD ⊢
      rw [mapSet_empty]
      exact hD
  have hd0 : (p.dim == 0) = false := by simpa using hd
  rw [hd0] at h
  simp only [Bool.false_eq_true, if_false] at h
  by_cases hall : f.all (· == none) = true
  · -- every variable projected away
    rw [hall, if_pos rfl] at h
    have hnone := (all_none_iff f).mp hall
    cases hem : p.st.empty
    · rw [hem] at h
      simp only [Bool.false_eq_true, if_false] at h
      cases hcp : p.st.cPend
      swap
      · simp [hcp] at h
      cases hgu : p.st.gUp
      · simp [hcp, hgu] at h
      simp only [hcp, hgu, Bool.false_eq_true, if_false, Bool.not_true] at h
      have hq := (Option.some.inj h).symm
      have hne : (sem ref.cs).Nonempty := by
        rw [← (hD.2 hem).2.1 hgu hcp]
        exact kit_nonempty p.nnc p.dim _ (hp.gs_wf hem hgu) (hp.gs_pt hem hgu)
      rw [hq, mapSet_none f _ hnone hne]
      exact ⟨fun h => (by cases h), fun _ => ⟨fun h => (by cases h), fun h => (by cases h),
        fun _ _ => rfl⟩⟩
    · rw [hem, if_pos rfl] at h
      have hq := (Option.some.inj h).symm
      rw [hq, hD.1 hem, mapSet_empty]
      exact denotes_of_empty _ _ hem rfl
  have hall0 : f.all (· == none) = false := by simpa using hall
  rw [hall0] at h
  simp only [Bool.false_eq_true, if_false] at h
  have hM : ∀ φ : Nat → Option Nat → Nat, (∀ m k, φ m (some k) = max m (k + 1)) →
      (∀ m, φ m none = m) → f.foldl φ 0 = N :=
    fun φ hs hn => foldl_newDim φ hs hn f N hcod hsurj
  rw [hM _ (fun _ _ => rfl) (fun _ => rfl)] at h
  by_cases hNd : N = p.dim
  · -- a permutation of the variables
    have hNd0 : (N == p.dim) = true := by simpa using hNd
    rw [hNd0, if_pos rfl] at h
    subst hNd
    by_cases hid : isIdentity f = true
    · rw [hid, if_pos rfl] at h
      have hq := (Option.some.inj h).symm
      rw [hq, mapSet_id f p.dim _ hSdet hlen (by rw [← hlen]; exact (isIdentity_iff f).mp hid)]
      exact hD
    · have hid0 : isIdentity f = false := by simpa using hid
      rw [hid0] at h
      simp only [Bool.false_eq_true, if_false] at h
      have hq := (Option.some.inj h).symm
      rw [hq]
      cases hem : p.st.empty
      · refine hD.transport hem (hp.some_up hem (by omega)) (sameFlags_of_eq rfl)
          (fun hcu' hS => ?_) fun hgu' hS => ?_
        · show conSem p.nnc (if p.st.cUp = true then
            ({ p.cs.mapRows (Row.permute f) with sorted := false } : Sys) else p.cs).rows = _
          rw [if_pos hcu']
          show conSem p.nnc (p.cs.rows.map (Row.permute f)) = _
          rw [conSem_permute p.nnc f p.dim _ hlen (hp.cs_len hem hcu') hinj hcod, hS,
            mapSet_eq_pull f p.dim _ hSdet (total_of_bij f p.dim hlen hinj hsurj)]
        · show genSem p.nnc p.dim (if p.st.gUp = true then
            ({ p.gs.mapRows (Row.permute f) with sorted := false } : Sys) else p.gs).rows = _
          rw [if_pos hgu']
          show genSem p.nnc p.dim (p.gs.rows.map (Row.permute f)) = _
          rw [genSem_permute p.nnc f p.dim _ (hp.gs_wf hem hgu') hlen hinj hcod hsurj, hS]
      · rw [hD.1 hem, mapSet_empty]
        exact denotes_of_empty _ _ hem rfl
  · -- the general case: the generator system is rebuilt
    have hNd0 : (N == p.dim) = false := by simpa using hNd
    rw [hNd0] at h
    simp only [Bool.false_eq_true, if_false] at h
    cases hem : p.st.empty
    · rw [hem] at h
      simp only [Bool.false_eq_true, if_false] at h
      cases hcp : p.st.cPend
      swap
      · simp [hcp] at h
      cases hgu : p.st.gUp
      · simp [hcp, hgu] at h
      simp only [hcp, hgu, Bool.not_true, Bool.or_self, Bool.false_eq_true, if_false] at h
      have hq := (Option.some.inj h).symm
      have hfacts := genRowMap_facts p.nnc p.dim N f p.gs.rows (hp.gs_wf hem hgu) hlen hinj hcod hsurj
      rw [hq]
      refine .of_gens rfl (.inl rfl) rfl ?_
      show genSem p.nnc N (if p.nnc = true then
        addCorrespondingClosurePoints (p.gs.rows.filterMap (genRowMap f N))
        else p.gs.rows.filterMap (genRowMap f N)) = _
      rw [← (hD.2 hem).2.1 hgu hcp, ← hfacts.1]
      cases hnn : p.nnc
      · rw [if_neg (by simp)]
      · rw [if_pos rfl]
        rw [hnn] at hfacts
        exact genSem_addCCP N _ hfacts.2
    · rw [hem, if_pos rfl] at h
      have hq := (Option.some.inj h).symm
      rw [hq, hD.1 hem, mapSet_empty]
      exact denotes_of_empty _ _ rfl rfl

end PPLV.PolyOps

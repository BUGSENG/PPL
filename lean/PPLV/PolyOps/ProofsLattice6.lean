import PPLV.PolyOps.ProofsLattice5

/-!
# C02 — lattice operators at row level: `topological_closure_assign`, the rows

* `closure_unique`: the closure computed by `relax` depends only on the (non-empty) set.
* `conSem_closeRows`: relaxing the non-tautological strict rows of an NNC constraint list (the loop
  of `topological_closure_assign`) gives the list read with the closed topology, i.e. `relax`.
* `genSem_addCorrespondingPoints_sandwich`: the generator path — the result lies between the set
  and its closure.
-/
namespace PPLV.PolyOps
open PPLV.Lin

theorem relax_nonstrict (cs : List Con) : ∀ c ∈ relax cs, c.strict = false := by
  intro c hc
  obtain ⟨c0, _, rfl⟩ := (O2.mem_relax cs c).mp hc
  rfl

/-- the closure of a non-empty set does not depend on the constraint system describing it -/
theorem closure_unique (cs cs' : List Con) (h : sem cs = sem cs') (hne : ∃ x, x ∈ sem cs) :
    sem (relax cs) = sem (relax cs') := by
  have hne' : ∃ x, x ∈ sem cs' := by rw [← h]; exact hne
  apply Set.Subset.antisymm
  · exact (closure_least cs hne).2 (relax cs') (relax_nonstrict cs') (by rw [h]; exact sem_subset_relax cs')
  · exact (closure_least cs' hne').2 (relax cs) (relax_nonstrict cs) (by rw [← h]; exact sem_subset_relax cs)

theorem sem_closure_nonempty (ref : RefPoly) (hwf : WF ref.n ref.cs) (hne : ∃ x, x ∈ sem ref.cs) :
    sem ref.closure.cs = sem (relax ref.cs) := by
  rw [(closure_cs ref hwf).2 hne]

/-- a closed set is its own closure -/
theorem sem_closure_of_closed (ref : RefPoly) (hwf : WF ref.n ref.cs)
    (hcl : sem (relax ref.cs) ⊆ sem ref.cs) : sem ref.closure.cs = sem ref.cs := by
  by_cases hne : ∃ x, x ∈ sem ref.cs
  · rw [sem_closure_nonempty ref hwf hne]
    exact Set.Subset.antisymm hcl (sem_subset_relax _)
  · have he : sem ref.cs = ∅ := Set.eq_empty_iff_forall_notMem.mpr fun x hx => hne ⟨x, hx⟩
    rw [(closure_cs ref hwf).1 he]

/-- a reference without strict rows is closed -/
theorem closed_of_nonstrict (cs : List Con) (h : ∀ c ∈ cs, c.strict = false) :
    sem (relax cs) ⊆ sem cs := by
  have : relax cs = cs := by
    unfold relax
    conv_rhs => rw [← List.map_id cs]
    apply List.map_congr_left
    intro c hc
    have := h c hc
    cases c
    simp_all
  rw [this]

/-! ### the constraint rows -/

/-- the body of the loop over the constraints -/
def closeRow (c : Row) : Row :=
  if decide (c.eps < 0) && !c.isTautological then ({ c with eps := 0 } : Row).normalize else c

/-- `relax` of the NNC reading of a row list is its reading with the closed topology -/
theorem relax_consOf (rows : List Row) : relax (consOf true rows) = consOf false rows := by
  unfold consOf relax
  induction rows with
  | nil => rfl
  | cons r rs ih =>
    rw [List.flatMap_cons, List.flatMap_cons, List.map_append, ih]
    congr 1
    unfold Row.toCons
    by_cases he : r.eq = true
    · rw [if_pos he, if_pos he]; rfl
    · rw [if_neg he, if_neg he]
      simp only [Bool.true_and, Bool.false_and, Bool.false_eq_true, if_false]
      split <;> rfl

theorem closeRow_holds (r : Row) (w : Val) : (closeRow r).Holds true w ↔ r.Holds false w := by
  unfold closeRow
  by_cases hc : (decide (r.eps < 0) && !r.isTautological) = true
  · rw [if_pos hc, holds_normalize]
    unfold Row.Holds
    simp [Row.ev]
  · rw [if_neg hc]
    by_cases hs : r.eps < 0
    · -- a tautological strict row: `b > 0` without variables
      have ht : r.isTautological = true := by simpa [hs] using hc
      unfold Row.isTautological at ht
      by_cases hz : r.cf.all (· == 0) = true
      · rw [if_pos hz] at ht
        have hne : r.eps ≠ 0 := by omega
        by_cases heq : r.eq = true
        · simp [heq, hne] at ht
        · have hb : 0 < r.b := by simpa [heq, hne, hs] using ht
          have hbq : (0 : Rat) < (r.b : Rat) := by exact_mod_cast hb
          unfold Row.Holds Row.ev
          rw [dot_allZero r.cf hz w]
          simp [heq, hs]
          constructor
          · intro _; omega
          · intro _; exact hb
      · rw [if_neg hz] at ht; cases ht
    · unfold Row.Holds
      simp [hs]

/-- the relaxed rows describe `relax` of the original system -/
theorem conSem_closeRows (rows : List Row) :
    conSem true (rows.map closeRow) = sem (relax (consOf true rows)) := by
  rw [relax_consOf]
  ext w
  rw [conSem_map]
  show _ ↔ w ∈ conSem false rows
  rw [mem_conSem]
  exact forall_congr' fun r => imp_congr_right fun _ => closeRow_holds r w

/-- the row `ε ≤ 1` that is inserted reads as the true constraint `1 > 0` -/
theorem conSem_epsRow (n : Nat) : conSem true [⟨false, 1, List.replicate n 0, -1⟩] = Set.univ := by
  ext w
  rw [mem_conSem]
  simp only [List.mem_singleton, forall_eq, Set.mem_univ, iff_true]
  unfold Row.Holds Row.ev
  rw [dot_replicate_zero]
  simp

/-- no row was changed: the loop is the identity -/
theorem closeRows_unchanged (rows : List Row)
    (h : (rows.any fun c => decide (c.eps < 0) && !c.isTautological) = false) :
    rows.map closeRow = rows := by
  conv_rhs => rw [← List.map_id rows]
  apply List.map_congr_left
  intro r hr
  unfold closeRow
  have := List.any_eq_false.mp h r hr
  rw [if_neg this]; rfl

/-! ### the generator rows -/

/-- the point rows that `add_corresponding_points` appends -/
def corrPoints (rows : List Row) : List Row :=
  (rows.filter (fun g => !(g.b == 0) && g.eps == 0)).map fun g => { g with eps := g.b }

theorem addCorrespondingPoints_eq (rows : List Row) :
    addCorrespondingPoints rows = rows ++ corrPoints rows := rfl

theorem corrPoints_facts (n : Nat) (rows : List Row) (hwf : ∀ r ∈ rows, r.genWF true n)
    (r' : Row) (hr' : r' ∈ corrPoints rows) :
    r'.genWF true n ∧ ∃ r ∈ rows, r.toGen true = ⟨.cpoint, r.cf, r.b⟩ ∧
      r'.toGen true = ⟨.point, r.cf, r.b⟩ := by
  unfold corrPoints at hr'
  obtain ⟨r, hr, rfl⟩ := List.mem_map.mp hr'
  obtain ⟨hr, hcond⟩ := List.mem_filter.mp hr
  have hb : r.b ≠ 0 := by
    intro hb; simp [hb] at hcond
  have he : r.eps = 0 := by simpa [hb] using hcond
  obtain ⟨h1, h2, h3, h4, h5, h6⟩ := hwf r hr
  have hl : r.eq = false := by
    cases hq : r.eq
    · rfl
    · exact absurd (h4 hq) hb
  refine ⟨⟨h1, h2, h2, h4, fun hh => absurd hh hb, fun hh => by cases hh⟩, r, hr,
    toGen_cp true r hl hb rfl he, ?_⟩
  exact toGen_pt true ({ r with eps := r.b } : Row) hl hb (fun hh => hb hh.2)

/-- the generator path: the result lies between the set and its closure -/
theorem genSem_addCorrespondingPoints_sandwich (n : Nat) (rows : List Row) (cs : List Con)
    (hwf : ∀ r ∈ rows, r.genWF true n) (hpt : ∃ r ∈ rows, r.isPoint true) (hcs : WF n cs)
    (hS : genSem true n rows = sem cs) :
    (∀ r ∈ addCorrespondingPoints rows, r.genWF true n) ∧
    sem cs ⊆ genSem true n (addCorrespondingPoints rows) ∧
    genSem true n (addCorrespondingPoints rows) ⊆ sem (relax cs) := by
  have hwfE : ∀ r ∈ corrPoints rows, r.genWF true n :=
    fun r hr => (corrPoints_facts n rows hwf r hr).1
  have hwfA : ∀ r ∈ addCorrespondingPoints rows, r.genWF true n := by
    intro r hr
    rw [addCorrespondingPoints_eq] at hr
    rcases List.mem_append.mp hr with hr | hr
    · exact hwf r hr
    · exact hwfE r hr
  have hG := gensWF_gensOf true n rows hwf
  have hE := gensWF_gensOf true n _ hwfE
  have hp := (gensOf_pt true n rows hwf).mpr hpt
  refine ⟨hwfA, ?_, ?_⟩
  · rw [← hS, addCorrespondingPoints_eq]
    unfold genSem
    rw [gensOf_append]
    exact genSem_subset_append_left n _ _ (gensWF_append n _ _ hG hE) hp
  · rw [addCorrespondingPoints_eq]
    unfold genSem at hS ⊢
    rw [gensOf_append]
    have hwr : WF n (relax cs) := by
      intro c hc
      obtain ⟨c0, hc0, rfl⟩ := (O2.mem_relax cs c).mp hc
      exact hcs c0 hc0
    rw [addGens_subset_iff n _ _ hp (relax cs) hwr]
    refine ⟨by rw [hS]; exact sem_subset_relax cs, ?_⟩
    intro c hc g hg
    obtain ⟨c0, hc0, rfl⟩ := (O2.mem_relax cs c).mp hc
    unfold gensOf at hg
    obtain ⟨r', hr', rfl⟩ := List.mem_map.mp hg
    obtain ⟨_, r, hr, hcp, hpt'⟩ := corrPoints_facts n rows hwf r' hr'
    have hadm : rowAdmits c0 (r.toGen true) := by
      refine (genSem_subset_row_iff n _ hp c0 (hcs c0 hc0)).mp ?_ _ (List.mem_map.mpr ⟨r, hr, rfl⟩)
      rw [hS]
      exact fun x hx => hx c0 hc0
    rw [hcp] at hadm
    rw [hpt']
    have h0 : 0 ≤ c0.eval (Gen.vec ⟨.cpoint, r.cf, r.b⟩) := hadm
    show Con.sat { c0 with strict := false } (Gen.vec ⟨.point, r.cf, r.b⟩)
    have hv : Gen.vec ⟨.point, r.cf, r.b⟩ = Gen.vec ⟨.cpoint, r.cf, r.b⟩ := rfl
    rw [hv]
    simpa [Con.sat, Con.eval] using h0

end PPLV.PolyOps

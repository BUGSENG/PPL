import PPLV.PolyOps.ProofsGenKit

/-!
# the constraint toolkit

The reading of a raw constraint row (`Row.Holds`: equality / strict / non-strict on the value
`Row.ev`), `conSem` as "every row holds", a general transfer lemma (`holds_of_ev`: same kind bit,
same sign class of the epsilon coefficient, value scaled by a positive factor) and from it
`KitC.normalize`, `KitC.strongNormalize`, `KitC.wf`.
-/
namespace PPLV.PolyOps
open PPLV.Lin

/-- value of the row at `w`: `cf · w + b` -/
def Row.ev (r : Row) (w : Val) : Rat := dot r.cf w + (r.b : Rat)

/-- what the row says as a constraint (`Constraint::type()`) -/
def Row.Holds (nnc : Bool) (r : Row) (w : Val) : Prop :=
  if r.eq = true then r.ev w = 0
  else if nnc = true ∧ r.eps < 0 then 0 < r.ev w else 0 ≤ r.ev w

theorem Sat_toCons (nnc : Bool) (r : Row) (w : Val) : Sat (r.toCons nnc) w ↔ r.Holds nnc w := by
  unfold Row.toCons Row.Holds Row.ev
  by_cases he : r.eq = true
  · rw [if_pos he, if_pos he, Sat_eqRows]
  · rw [if_neg he, if_neg he]
    by_cases hs : nnc = true ∧ r.eps < 0
    · have : (nnc && decide (r.eps < 0)) = true := by simp [hs.1, hs.2]
      rw [if_pos this, if_pos hs, Sat_singleton]
      simp [gtRow, Con.sat, Con.eval]
    · have : ¬ (nnc && decide (r.eps < 0)) = true := by
        simpa [Bool.and_eq_true, decide_eq_true_eq] using hs
      rw [if_neg this, if_neg hs, Sat_singleton]
      simp [geRow, Con.sat, Con.eval]

theorem mem_conSem (nnc : Bool) (rows : List Row) (w : Val) :
    w ∈ conSem nnc rows ↔ ∀ r ∈ rows, r.Holds nnc w := by
  unfold conSem consOf
  show Sat _ w ↔ _
  rw [Sat_flatMap]
  exact forall_congr' fun r => imp_congr_right fun _ => Sat_toCons nnc r w

theorem conSem_map (nnc : Bool) (rows : List Row) (f : Row → Row) (w : Val) :
    w ∈ conSem nnc (rows.map f) ↔ ∀ r ∈ rows, (f r).Holds nnc w := by
  rw [mem_conSem]
  simp only [List.mem_map]
  constructor
  · intro h r hr; exact h _ ⟨r, hr, rfl⟩
  · rintro h _ ⟨r, hr, rfl⟩; exact h r hr

/-- transfer of the reading: same kind bit, same sign class of epsilon, value scaled by `t > 0` -/
theorem holds_of_ev (nnc : Bool) (r r' : Row) (w w' : Val) (t : Rat) (ht : 0 < t)
    (heq : r'.eq = r.eq) (heps : r'.eps < 0 ↔ r.eps < 0) (hev : r'.ev w' = t * r.ev w) :
    r'.Holds nnc w' ↔ r.Holds nnc w := by
  unfold Row.Holds
  rw [heq, hev]
  simp only [heps]
  split
  · constructor
    · intro h
      rcases mul_eq_zero.mp h with h | h
      · exact absurd h (ne_of_gt ht)
      · exact h
    · intro h; rw [h, mul_zero]
  · split
    · exact mul_pos_iff_of_pos_left ht
    · exact mul_nonneg_iff_of_pos_left ht

/-! ### `divBy`, `scale` -/

theorem ev_divBy (r : Row) (g : Int) (hg : 0 < g) (hb : g ∣ r.b) (hc : ∀ a ∈ r.cf, g ∣ a)
    (w : Val) : (r.divBy g).ev w = (1 / (g : Rat)) * r.ev w := by
  have hgq : (0 : Rat) < (g : Rat) := by exact_mod_cast hg
  have h1 := dot_map_div g r.cf hc w
  obtain ⟨q, hq⟩ := hb
  have hgne : g ≠ 0 := ne_of_gt hg
  have hb' : r.b / g = q := by rw [hq, Int.mul_ediv_cancel_left _ hgne]
  unfold Row.ev Row.divBy
  simp only
  rw [hb', ← h1, hq]
  push_cast
  field_simp

theorem eps_divBy (r : Row) (g : Int) (hg : 0 < g) (he : g ∣ r.eps) :
    (r.divBy g).eps < 0 ↔ r.eps < 0 := by
  obtain ⟨q, hq⟩ := he
  have hgne : g ≠ 0 := ne_of_gt hg
  have : (r.divBy g).eps = q := by
    unfold Row.divBy; simp only; rw [hq, Int.mul_ediv_cancel_left _ hgne]
  rw [this, hq, ← not_le, ← not_le, mul_nonneg_iff_of_pos_left hg]

theorem holds_divBy (nnc : Bool) (r : Row) (g : Int) (hg : 0 < g) (hb : g ∣ r.b) (he : g ∣ r.eps)
    (hc : ∀ a ∈ r.cf, g ∣ a) (w : Val) : (r.divBy g).Holds nnc w ↔ r.Holds nnc w := by
  have hgq : (0 : Rat) < (g : Rat) := by exact_mod_cast hg
  exact holds_of_ev nnc r (r.divBy g) w w (1 / (g : Rat)) (by positivity) rfl
    (eps_divBy r g hg he) (ev_divBy r g hg hb hc w)

theorem holds_normalize (nnc : Bool) (r : Row) (w : Val) : r.normalize.Holds nnc w ↔ r.Holds nnc w := by
  obtain ⟨g, hg, hb, he, hc, heq⟩ := normalize_eq r
  rw [heq]
  exact holds_divBy nnc r g hg hb he hc w

theorem ev_scale (k : Int) (r : Row) (w : Val) : (r.scale k).ev w = (k : Rat) * r.ev w := by
  unfold Row.ev Row.scale
  simp only
  rw [dot_map_mul]
  push_cast
  ring

theorem holds_signNormalize (nnc : Bool) (r : Row) (w : Val) :
    r.signNormalize.Holds nnc w ↔ r.Holds nnc w := by
  rcases signNormalize_eq r with heq | ⟨hl, heq⟩
  · rw [heq]
  · rw [heq]
    unfold Row.Holds
    have h1 : (r.scale (-1)).eq = true := hl
    rw [if_pos h1, if_pos hl, ev_scale]
    push_cast
    constructor <;> intro h <;> linarith

theorem holds_strongNormalize (nnc : Bool) (r : Row) (w : Val) :
    r.strongNormalize.Holds nnc w ↔ r.Holds nnc w := by
  unfold Row.strongNormalize
  rw [holds_signNormalize, holds_normalize]

/-- a row transformer that keeps the reading of every row keeps the point set -/
theorem conSem_map_congr (nnc : Bool) (rows : List Row) (f : Row → Row)
    (h : ∀ r ∈ rows, ∀ w, (f r).Holds nnc w ↔ r.Holds nnc w) :
    conSem nnc (rows.map f) = conSem nnc rows := by
  ext w
  rw [conSem_map, mem_conSem]
  exact forall_congr' fun r => forall_congr' fun hr => h r hr w

theorem kitC_normalize : KitC.normalize := by
  intro nnc rows
  exact conSem_map_congr nnc rows _ fun r _ w => holds_normalize nnc r w

theorem kitC_strongNormalize : KitC.strongNormalize := by
  intro nnc rows
  exact conSem_map_congr nnc rows _ fun r _ w => holds_strongNormalize nnc r w

/-! ### lengths -/

theorem toCons_len (nnc : Bool) (r : Row) (c : Con) (hc : c ∈ r.toCons nnc) :
    c.coeffs.length = r.cf.length := by
  unfold Row.toCons at hc
  split at hc
  · simp only [eqRows, List.mem_cons, List.not_mem_nil, or_false] at hc
    rcases hc with rfl | rfl <;> simp
  · split at hc <;> simp only [List.mem_singleton] at hc <;> subst hc <;> rfl

theorem kitC_wf : KitC.wf := by
  intro nnc n rows h c hc
  unfold consOf at hc
  obtain ⟨r, hr, hcr⟩ := List.mem_flatMap.mp hc
  rw [toCons_len nnc r c hcr, h r hr]

theorem divBy_cf_length (r : Row) (g : Int) : (r.divBy g).cf.length = r.cf.length := by
  simp [Row.divBy]

theorem normalize_cf_length (r : Row) : r.normalize.cf.length = r.cf.length := by
  obtain ⟨g, _, _, _, _, heq⟩ := normalize_eq r
  rw [heq, divBy_cf_length]

theorem signNormalize_cf_length (r : Row) : r.signNormalize.cf.length = r.cf.length := by
  rcases signNormalize_eq r with heq | ⟨_, heq⟩ <;> rw [heq]
  simp [Row.scale]

theorem strongNormalize_cf_length (r : Row) : r.strongNormalize.cf.length = r.cf.length := by
  unfold Row.strongNormalize
  rw [signNormalize_cf_length, normalize_cf_length]

end PPLV.PolyOps

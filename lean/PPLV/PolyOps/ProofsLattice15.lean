import PPLV.PolyOps.ProofsLattice5

/-!
# C02 — `time_elapse_assign` at row level, NNC topology, under the geometric invariant

`NNCInv` (ProofsLattice4: every point ROW has a closure-point ROW with the same coordinates) is not
an invariant of real generator systems: the projection of a vertex of the epsilon-representation
need not be a vertex.  What conversion, the constructors and `add_generator` guarantee is weaker:
every point of the system belongs to the polyhedron generated by the closure points (read as
points), the rays and the lines — `NNCInvW`.  `time_elapse_assign_rows_correct_nnc` proves the
NNC time-elapse under `NNCInvW`; `NNCInvW` can be checked on concrete rows (K1: `gensToCons` of
`closurePart rows` and membership of every point row).
-/
namespace PPLV.PolyOps
open PPLV.Lin

/-- the closure part of an NNC generator system: lines and rays as they are, closure points READ AS
    POINTS (`toGen false` reads every row with `b ≠ 0` as a point), points dropped -/
def closurePart (rows : List Row) : List Gen :=
  rows.filterMap fun r => if !r.eq && r.b != 0 && r.eps != 0 then none else some (r.toGen false)

/-- every point of the system lies in the polyhedron generated by its closure part -/
def NNCInvW (n : Nat) (rows : List Row) : Prop :=
  ∀ r ∈ rows, r.isNNCPoint true → (r.toGen true).vec ∈ GenSem n (closurePart rows)

theorem isNNCPoint_iff (r : Row) :
    r.isNNCPoint true ↔ (!r.eq && r.b != 0 && r.eps != 0) = true := by
  unfold Row.isNNCPoint
  simp [Bool.and_eq_true]
  tauto

theorem mem_closurePart (rows : List Row) (g : Gen) :
    g ∈ closurePart rows ↔ ∃ r ∈ rows, ¬ r.isNNCPoint true ∧ g = r.toGen false := by
  unfold closurePart
  rw [List.mem_filterMap]
  constructor
  · rintro ⟨r, hr, h⟩
    by_cases hp : (!r.eq && r.b != 0 && r.eps != 0) = true
    · rw [if_pos hp] at h; cases h
    · rw [if_neg hp] at h
      exact ⟨r, hr, fun hh => hp ((isNNCPoint_iff r).mp hh), (Option.some.inj h).symm⟩
  · rintro ⟨r, hr, hnp, rfl⟩
    refine ⟨r, hr, ?_⟩
    rw [if_neg (fun hh => hnp ((isNNCPoint_iff r).mpr hh))]

/-- a kept row read with the closed topology admits the homogeneous rows its NNC reading admits -/
theorem admits_hom_closed (r : Row) (hk : ¬ r.isNNCPoint true) (c : Con)
    (h : rowAdmits c.hom (r.toGen true)) : rowAdmits c.hom (r.toGen false) := by
  rcases rowShape true r with ⟨hl, hg⟩ | ⟨hl, hz, hg⟩ | ⟨hl, hz, _, hez, hg⟩ | ⟨hl, hz, hn, _⟩
  · rw [toGen_eq false r hl]; rw [hg] at h; exact h
  · rw [toGen_ray false r hl hz]; rw [hg] at h; exact h
  · rw [toGen_pt false r hl hz (fun hh => by cases hh.1)]
    rw [hg] at h
    have h0 : 0 ≤ c.hom.eval (Gen.vec ⟨.cpoint, r.cf, r.b⟩) := h
    show c.hom.sat (Gen.vec ⟨.point, r.cf, r.b⟩)
    have hv : Gen.vec ⟨.point, r.cf, r.b⟩ = Gen.vec ⟨.cpoint, r.cf, r.b⟩ := rfl
    rw [hv]
    unfold Con.sat
    simpa [Con.hom] using h0
  · exact absurd ⟨rfl, hl, hz, fun he => hn ⟨rfl, he⟩⟩ hk

/-- `teRows_admits` under the geometric invariant (rows `c` over at most `n` variables) -/
theorem teRows_admits_w (nnc : Bool) (n : Nat) (rows : List Row) (hwf : ∀ r ∈ rows, r.genWF nnc n)
    (hinv : nnc = true → NNCInvW n rows) (c : Con) (hc : c.coeffs.length ≤ n) :
    (∀ g ∈ gensOf nnc (timeElapseRows nnc rows), rowAdmits c g) ↔
    (∀ g ∈ (gensOf nnc rows).filterMap teDir, rowAdmits c g) := by
  refine teRows_admits_of nnc n rows hwf c fun r hr hp h => ?_
  have hn : nnc = true := hp.1
  subst hn
  -- every generator of the closure part admits the homogeneous row
  have hadm : ∀ g ∈ closurePart rows, rowAdmits c.hom g := by
    intro g hg
    obtain ⟨r0, hr0, hk0, rfl⟩ := (mem_closurePart rows g).mp hg
    apply admits_hom_closed r0 hk0 c
    rw [teDir_admits c _ (toGen_wf true n r0 (hwf r0 hr0)).2]
    exact (teRow_admits true n r0 (hwf r0 hr0) hk0 c).mp (h r0 hr0)
  have hmem := genSem_row_of_admits n (closurePart rows) c.hom hc hadm (hinv rfl r hr hp)
  rw [← teDir_admits c _ (toGen_wf true n r (hwf r hr)).2]
  obtain ⟨_, hl, hz, he⟩ := hp
  rw [toGen_pt true r hl hz (fun hh => he hh.2)] at hmem ⊢
  exact hmem

/-- **`Polyhedron::time_elapse_assign` at row level, any topology**: for an NNC receiver under the
    geometric invariant `NNCInvW` of `y`'s generator rows. -/
theorem time_elapse_assign_rows_correct_nnc (x y q : Poly) (n : Nat) (gx gy : List Gen)
    (hxn : x.dim = n) (hyn : y.dim = n) (hnnc : y.nnc = x.nnc) (hx : x.WF) (hy : y.WF)
    (hwx : gensWF n gx = true) (hwy : gensWF n gy = true)
    (hpx : ∃ g ∈ gx, g.isPt = true) (hpy : ∃ g ∈ gy, g.isPt = true)
    (hinv : x.nnc = true → NNCInvW n y.gs.rows)
    (hDx : x.Denotes (GenSem n gx)) (hDy : y.Denotes (GenSem n gy))
    (h : x.time_elapse_assign y = some q) :
    q.Denotes (GenSem n (timeElapseGens gx gy)) :=
  time_elapse_assign_rows_correct_of_admits x y q n gx gy hxn hyn hnnc hx hy hwx hwy hpx hpy
    (fun hwfy c hc => teRows_admits_w x.nnc n y.gs.rows hwfy hinv c hc) hDx hDy h

/-- the row-matching invariant implies the geometric one -/
theorem NNCInvW_of_NNCInv (n : Nat) (rows : List Row) (h : NNCInv rows) : NNCInvW n rows := by
  intro r hr hp
  obtain ⟨r', hr', hl', hz', he', hco⟩ := h r hr hp
  obtain ⟨_, hl, hz, he⟩ := hp
  have hk' : ¬ r'.isNNCPoint true := fun hh => hh.2.2.2 he'
  have hmem : r'.toGen false ∈ closurePart rows := (mem_closurePart rows _).mpr ⟨r', hr', hk', rfl⟩
  rw [toGen_pt false r' hl' hz' (fun hh => by cases hh.1)] at hmem
  refine genSem_point n _ _ hmem rfl _ (fun i _ => ?_)
  rw [toGen_pt true r hl hz (fun hh => he hh.2)]
  show Gen.vec ⟨.point, r.cf, r.b⟩ i = Gen.vec ⟨.point, r'.cf, r'.b⟩ i
  rw [vec_pt, vec_pt]
  have hb : (r.b : Rat) ≠ 0 := by exact_mod_cast hz
  have hb' : (r'.b : Rat) ≠ 0 := by exact_mod_cast hz'
  have hq : (r.b : Rat) * ((r'.cf.getD i 0 : Int) : Rat) = (r'.b : Rat) * ((r.cf.getD i 0 : Int) : Rat) := by
    exact_mod_cast hco i
  field_simp
  linarith

/-! ### the two invariants differ: closure point 3, point 2, point -2, closure point -2 -/

def exW : List Row := [⟨false, 1, [3], 0⟩, ⟨false, 1, [2], 1⟩, ⟨false, 1, [-2], 1⟩, ⟨false, 1, [-2], 0⟩]

example : closurePart exW = [⟨.point, [3], 1⟩, ⟨.point, [-2], 1⟩] := by decide

/-- the point `2` has no closure-point row: the row-matching invariant fails -/
example : ¬ NNCInv exW := by
  intro h
  obtain ⟨r', hr', _, _, he', hco⟩ := h ⟨false, 1, [2], 1⟩ (by simp [exW])
    ⟨rfl, rfl, by decide, by decide⟩
  simp only [exW, List.mem_cons, List.not_mem_nil, or_false] at hr'
  rcases hr' with rfl | rfl | rfl | rfl
  · have := hco 0; simp at this
  · simp at he'
  · simp at he'
  · have := hco 0; simp at this

/-- but `2 = 4/5 · 3 + 1/5 · (-2)`: the geometric invariant holds -/
example : NNCInvW 1 exW := by
  intro r hr hp
  have hcp : closurePart exW = [⟨.point, [3], 1⟩, ⟨.point, [-2], 1⟩] := by decide
  rw [hcp]
  simp only [exW, List.mem_cons, List.not_mem_nil, or_false] at hr
  rcases hr with rfl | rfl | rfl | rfl
  · exact absurd rfl hp.2.2.2
  · refine ⟨fun j => if j = 0 then 4/5 else 1/5, ?_, ?_, ⟨0, by simp, rfl, by norm_num⟩, ?_⟩
    · intro j _ _
      show (0 : Rat) ≤ if j = 0 then 4/5 else 1/5
      split <;> norm_num
    · simp [wsum, Val.tail, Gen.isPtOrCp]; norm_num
    · intro i hi
      have : i = 0 := by omega
      subst this
      simp [wsum, Val.tail, Gen.coord, Gen.d, Gen.isPtOrCp, Gen.vec, Row.toGen]; norm_num
  · refine ⟨fun j => if j = 0 then 0 else 1, ?_, ?_, ⟨1, by simp, rfl, by norm_num⟩, ?_⟩
    · intro j _ _
      show (0 : Rat) ≤ if j = 0 then 0 else 1
      split <;> norm_num
    · simp [wsum, Val.tail, Gen.isPtOrCp]
    · intro i hi
      have : i = 0 := by omega
      subst this
      simp [wsum, Val.tail, Gen.coord, Gen.d, Gen.isPtOrCp, Gen.vec, Row.toGen]
  · exact absurd rfl hp.2.2.2

end PPLV.PolyOps

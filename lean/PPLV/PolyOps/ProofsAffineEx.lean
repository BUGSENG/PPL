import PPLV.PolyOps.ProofsAffine3

/-!
# `affine_image` / `affine_preimage`: the hypotheses of the row-level theorems are
satisfiable

The segment `0 ≤ x ≤ 1` of dimension 1 held with BOTH descriptions (constraints `x ≥ 0`, `1 - x ≥ 0`;
generators: the points `0` and `1`), the reference polyhedron with the same constraints, and the maps
`x := -2x + 1` (invertible, negative coefficient), `x := (-2x + 1)/(-1)` (negative denominator) and
`x := 1` (not invertible).  Every hypothesis of `affine_image_rows_correct`,
`affine_image_rows_wf`, `affine_preimage_rows_correct`, `affine_preimage_rows_wf` is proved for
these terms and the theorems are applied.
-/
namespace PPLV.PolyOps
open PPLV.Lin

/-- an operator with a result on a concrete argument: what holds of every result holds of that one -/
theorem exists_result {α : Type} {o : Option α} (h : o.isSome = true) {P : α → Prop}
    (hP : ∀ q, o = some q → P q) : ∃ q, o = some q ∧ P q := by
  obtain ⟨q, hq⟩ := Option.isSome_iff_exists.mp h
  exact ⟨q, hq, hP q hq⟩

def exP : Poly :=
  { nnc := false, dim := 1,
    st := ⟨false, true, true, false, false, false, false, false, false⟩,
    cs := ⟨[⟨false, 0, [1], 0⟩, ⟨false, 1, [-1], 0⟩], 2, false⟩,
    gs := ⟨[⟨false, 1, [0], 0⟩, ⟨false, 1, [1], 0⟩], 2, false⟩ }

def exRef : RefPoly := ⟨false, 1, [geRow [1] 0, geRow [-1] 1]⟩

/-- `-2x + 1` -/
def exE : LinExpr := ⟨[-2], 1⟩
/-- the constant `1` -/
def exK : LinExpr := ⟨[0], 1⟩

theorem exRef_wf : WF exRef.n exRef.cs := by
  intro c hc
  simp only [exRef, List.mem_cons, List.not_mem_nil, or_false] at hc
  rcases hc with rfl | rfl <;> simp [geRow, exRef]

theorem exP_wf : exP.WF := by
  refine ⟨?_, ?_, ?_, ?_, ?_, ?_, ?_, ?_⟩
  · intro _ _ r hr
    simp only [exP, List.mem_cons, List.not_mem_nil, or_false] at hr
    rcases hr with rfl | rfl <;> rfl
  · intro _ _ r hr
    simp only [exP, List.mem_cons, List.not_mem_nil, or_false] at hr
    rcases hr with rfl | rfl <;> simp [Row.genWF, exP]
  · intro _ _
    exact ⟨⟨false, 1, [0], 0⟩, by simp [exP], by simp [Row.isPoint, exP]⟩
  · intro h; simp [exP] at h
  · intro h; simp [exP] at h
  · intro h; simp [exP] at h
  · intro _ _; exact Or.inl rfl
  · intro h; simp [exP] at h

theorem seg_mem (x : Val) :
    x ∈ GenSem 1 [⟨.point, [0], 1⟩, ⟨.point, [1], 1⟩] ↔ 0 ≤ x 0 ∧ x 0 ≤ 1 := by
  constructor
  · rintro ⟨lam, h1, h2, _, h4⟩
    have a := h1 0 (by simp) rfl
    have b := h1 1 (by simp) rfl
    have hx := h4 0 (by omega)
    simp [wsum, Val.tail, Gen.coord, Gen.isPtOrCp, Gen.d] at h2 hx
    constructor <;> linarith
  · rintro ⟨h0, h1⟩
    refine ⟨fun j => if j = 0 then 1 - x 0 else x 0, ?_, ?_, ?_, ?_⟩
    · intro j _ _
      show 0 ≤ (if j = 0 then 1 - x 0 else x 0)
      split <;> linarith
    · simp [wsum, Val.tail, Gen.isPtOrCp]
    · by_cases hx : 0 < x 0
      · exact ⟨1, by simp, rfl, by simpa using hx⟩
      · exact ⟨0, by simp, rfl, by simp; linarith⟩
    · intro i hi
      have : i = 0 := by omega
      subst this
      simp [wsum, Val.tail, Gen.coord, Gen.d, Gen.isPtOrCp]

theorem exP_denotes : exP.Denotes (sem exRef.cs) := by
  refine ⟨fun h => by simp [exP] at h, fun _ => ⟨fun _ _ => rfl, fun _ _ => ?_,
    fun h => by simp [exP] at h⟩⟩
  ext x
  show x ∈ GenSem 1 [⟨.point, [0], 1⟩, ⟨.point, [1], 1⟩] ↔ Sat [geRow [1] 0, geRow [-1] 1] x
  rw [seg_mem]
  simp only [Sat, List.mem_cons, List.not_mem_nil, or_false, forall_eq_or_imp, forall_eq, geRow,
    Con.sat, Con.eval, dot_cons, dot_nil]
  norm_num

/-- `affine_image_rows_correct` / `affine_image_rows_wf`, invertible map `x := -2x + 1` -/
example : ∃ q, exP.affine_image 0 exE 1 = some q ∧
    q.Denotes (sem (exRef.affineImage 0 exE 1).cs) ∧ q.WF := by
  exact exists_result rfl fun q hq =>
    ⟨affine_image_rows_correct exP q 0 exE 1 exRef rfl rfl exRef_wf exP_wf (by decide) rfl
      (by decide) exP_denotes hq,
    affine_image_rows_wf exP q 0 exE 1 exP_wf (by decide) rfl (by decide) hq⟩

/-- the same with a negative denominator, `x := (-2x + 1)/(-1)` -/
example : ∃ q, exP.affine_image 0 exE (-1) = some q ∧
    q.Denotes (sem (exRef.affineImage 0 exE (-1)).cs) ∧ q.WF := by
  exact exists_result rfl fun q hq =>
    ⟨affine_image_rows_correct exP q 0 exE (-1) exRef rfl rfl exRef_wf exP_wf (by decide) rfl
      (by decide) exP_denotes hq,
    affine_image_rows_wf exP q 0 exE (-1) exP_wf (by decide) rfl (by decide) hq⟩

/-- not invertible, `x := 1` -/
example : ∃ q, exP.affine_image 0 exK 1 = some q ∧
    q.Denotes (sem (exRef.affineImage 0 exK 1).cs) ∧ q.WF := by
  exact exists_result rfl fun q hq =>
    ⟨affine_image_rows_correct exP q 0 exK 1 exRef rfl rfl exRef_wf exP_wf (by decide) rfl
      (by decide) exP_denotes hq,
    affine_image_rows_wf exP q 0 exK 1 exP_wf (by decide) rfl (by decide) hq⟩

/-- `affine_preimage_rows_correct` / `affine_preimage_rows_wf`, `x := -2x + 1` -/
example : ∃ q, exP.affine_preimage 0 exE 1 = some q ∧
    q.Denotes (sem (exRef.affinePreimage 0 exE 1).cs) ∧ q.WF := by
  exact exists_result rfl fun q hq =>
    ⟨affine_preimage_rows_correct exP q 0 exE 1 exRef rfl rfl exRef_wf exP_wf (by decide) rfl
      (by decide) exP_denotes hq,
    affine_preimage_rows_wf exP q 0 exE 1 exP_wf (by decide) rfl (by decide) hq⟩

/-- not invertible, `x := 1` -/
example : ∃ q, exP.affine_preimage 0 exK 1 = some q ∧
    q.Denotes (sem (exRef.affinePreimage 0 exK 1).cs) ∧ q.WF := by
  exact exists_result rfl fun q hq =>
    ⟨affine_preimage_rows_correct exP q 0 exK 1 exRef rfl rfl exRef_wf exP_wf (by decide) rfl
      (by decide) exP_denotes hq,
    affine_preimage_rows_wf exP q 0 exK 1 exP_wf (by decide) rfl (by decide) hq⟩

/-- the rows computed for `x := -2x + 1` on the segment: constraints `1 - x ≥ 0`, `1 + x ≥ 0`
    (the segment `[-1, 1]`), generators the points `1` and `-1` -/
example : (exP.affine_image 0 exE 1).map (fun q => (q.cs.rows, q.gs.rows)) =
    some ([⟨false, 1, [-1], 0⟩, ⟨false, 1, [1], 0⟩], [⟨false, 1, [1], 0⟩, ⟨false, 1, [-1], 0⟩]) := by
  decide

/-! ### with pending generators

The point `0` with its constraint `x = 0`, both minimized, and the point `1` added as a PENDING
generator: the constraint system describes only the non-pending part, the whole generator system
denotes the segment. -/

def exPg : Poly :=
  { nnc := false, dim := 1,
    st := ⟨false, true, true, true, true, true, false, false, true⟩,
    cs := ⟨[⟨true, 0, [1], 0⟩], 1, true⟩,
    gs := ⟨[⟨false, 1, [0], 0⟩, ⟨false, 1, [1], 0⟩], 1, false⟩ }

theorem exPg_wf : exPg.WF := by
  refine ⟨?_, ?_, ?_, ?_, ?_, ?_, ?_, ?_⟩
  · intro _ _ r hr
    simp only [exPg, List.mem_cons, List.not_mem_nil, or_false] at hr
    subst hr; rfl
  · intro _ _ r hr
    simp only [exPg, List.mem_cons, List.not_mem_nil, or_false] at hr
    rcases hr with rfl | rfl <;> simp [Row.genWF, exPg]
  · intro _ _
    exact ⟨⟨false, 1, [0], 0⟩, by simp [exPg], by simp [Row.isPoint, exPg]⟩
  · intro h; simp [exPg] at h
  · intro _; exact ⟨rfl, rfl⟩
  · intro h; simp [exPg] at h
  · intro _ _; exact Or.inl rfl
  · intro h; simp [exPg] at h

theorem exPg_denotes : exPg.Denotes (sem exRef.cs) :=
  .of_gens rfl (.inr rfl) rfl ((exP_denotes.2 rfl).2.1 rfl rfl)

/-- not invertible (`x := 1`) with pending generators: `remove_pending_to_obtain_generators` path -/
example : ∃ q, exPg.affine_image 0 exK 1 = some q ∧
    q.Denotes (sem (exRef.affineImage 0 exK 1).cs) ∧ q.WF ∧ q.st.cUp = false := by
  exact exists_result rfl fun q hq =>
    ⟨affine_image_rows_correct exPg q 0 exK 1 exRef rfl rfl exRef_wf exPg_wf (by decide) rfl
      (by decide) exPg_denotes hq,
    affine_image_rows_wf exPg q 0 exK 1 exPg_wf (by decide) rfl (by decide) hq,
    (affine_image_noninv_shape exPg q 0 exK 1 exPg_wf rfl rfl hq).2.2.2.2.2.2.1⟩

/-- invertible (`x := -2x + 1`) with pending generators: pending rows are transformed too -/
example : ∃ q, exPg.affine_image 0 exE 1 = some q ∧
    q.Denotes (sem (exRef.affineImage 0 exE 1).cs) ∧ q.WF := by
  exact exists_result rfl fun q hq =>
    ⟨affine_image_rows_correct exPg q 0 exE 1 exRef rfl rfl exRef_wf exPg_wf (by decide) rfl
      (by decide) exPg_denotes hq,
    affine_image_rows_wf exPg q 0 exE 1 exPg_wf (by decide) rfl (by decide) hq⟩

/-- with pending generators a non-invertible PREIMAGE needs the conversion: the model answers `none` -/
example : exPg.affine_preimage 0 exK 1 = none := rfl

end PPLV.PolyOps

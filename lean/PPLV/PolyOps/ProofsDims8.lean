import PPLV.PolyOps.ProofsDims3

/-!
# `map_space_dimensions`: the partial injective map, the generator side

`f[j] = some k`: old variable `j` becomes new variable `k`; `f[j] = none`: projected away.
`mapPairs f`: the pairs the reference operator `RefPoly.mapDims` is given.
-/
namespace PPLV.PolyOps
open PPLV.Lin


def mapPairs (f : List (Option Nat)) : List (Nat × Nat) :=
  (List.range f.length).filterMap fun j => (f.getD j none).map fun k => (j, k)

theorem getD_some_lt (f : List (Option Nat)) (j k : Nat) (h : f.getD j none = some k) :
    j < f.length := by
  by_contra hlt
  rw [List.getD_eq_getElem?_getD, List.getElem?_eq_none (by omega)] at h
  cases h

theorem mem_mapPairs (f : List (Option Nat)) (j k : Nat) :
    (j, k) ∈ mapPairs f ↔ f.getD j none = some k := by
  unfold mapPairs
  simp only [List.mem_filterMap, List.mem_range, Option.map_eq_some_iff, Prod.mk.injEq]
  constructor
  · rintro ⟨a, _, k', hk', rfl, rfl⟩
    exact hk'
  · intro h
    exact ⟨j, getD_some_lt f j k h, k, h, rfl, rfl⟩

/-- the image of `S` under the partial injective renaming `f` (`mapDims_spec`) -/
def mapSet (f : List (Option Nat)) (S : Set Val) : Set Val :=
  {w | ∃ x ∈ S, ∀ j k, f.getD j none = some k → w k = x j}

theorem sem_mapDims (ref : RefPoly) (f : List (Option Nat)) (N : Nat) (hwf : WF ref.n ref.cs)
    (hlen : f.length = ref.n) (hcod : ∀ j k, f.getD j none = some k → k < N) :
    sem (ref.mapDims N (mapPairs f)).cs = mapSet f (sem ref.cs) := by
  ext w
  have hf : ∀ jf ∈ mapPairs f, jf.1 < ref.n ∧ jf.2 < N := by
    rintro ⟨j, k⟩ hjk
    have h := (mem_mapPairs f j k).mp hjk
    exact ⟨by rw [← hlen]; exact getD_some_lt f j k h, hcod j k h⟩
  show Sat _ w ↔ _
  rw [mapDims_spec ref N _ hwf hf]
  simp only [mapSet, Set.mem_ofPred_eq]
  refine exists_congr fun x => and_congr_right fun _ => ?_
  constructor
  · intro h j k hjk
    exact h (j, k) ((mem_mapPairs f j k).mpr hjk)
  · rintro h ⟨j, k⟩ hjk
    exact h j k ((mem_mapPairs f j k).mp hjk)

theorem mapSet_empty (f : List (Option Nat)) : mapSet f ∅ = ∅ := by
  ext w; simp [mapSet]

/-- nothing is kept: the image of a non-empty set is everything -/
theorem mapSet_none (f : List (Option Nat)) (S : Set Val) (hf : ∀ j k, f.getD j none ≠ some k)
    (h : S.Nonempty) : mapSet f S = Set.univ := by
  obtain ⟨x, hx⟩ := h
  ext w
  simp only [mapSet, Set.mem_ofPred_eq, Set.mem_univ, iff_true]
  exact ⟨x, hx, fun j k hjk => absurd hjk (hf j k)⟩

/-- the identity on `n` variables -/
theorem mapSet_id (f : List (Option Nat)) (n : Nat) (S : Set Val) (hS : CoordDet n S)
    (hlen : f.length = n) (hid : ∀ j < n, f.getD j none = some j) : mapSet f S = S := by
  ext w
  simp only [mapSet, Set.mem_ofPred_eq]
  constructor
  · rintro ⟨x, hx, hw⟩
    exact (hS w x fun j hj => hw j j (hid j hj)).mpr hx
  · intro hw
    refine ⟨w, hw, fun j k hjk => ?_⟩
    have hj : j < n := by rw [← hlen]; exact getD_some_lt f j k hjk
    rw [hid j hj] at hjk
    cases hjk; rfl

/-! ### the new dimension computed by the fold -/

theorem mem_some_iff (f : List (Option Nat)) (k : Nat) :
    some k ∈ f ↔ ∃ j, f.getD j none = some k := by
  constructor
  · intro h
    obtain ⟨j, hj, hjk⟩ := List.mem_iff_getElem.mp h
    exact ⟨j, by simp [List.getD_eq_getElem?_getD, hj, hjk]⟩
  · rintro ⟨j, hjk⟩
    have hj := getD_some_lt f j k hjk
    have : f[j] = some k := by
      simpa [List.getD_eq_getElem?_getD, hj] using hjk
    rw [← this]
    exact List.getElem_mem hj

theorem foldl_max_facts (φ : Nat → Option Nat → Nat) (hs : ∀ m k, φ m (some k) = max m (k + 1))
    (hn : ∀ m, φ m none = m) (f : List (Option Nat)) :
    ∀ a, a ≤ f.foldl φ a ∧ (∀ k, some k ∈ f → k + 1 ≤ f.foldl φ a) ∧
      (f.foldl φ a = a ∨ ∃ k, some k ∈ f ∧ f.foldl φ a = k + 1) := by
  induction f with
  | nil => intro a; exact ⟨le_refl _, fun k hk => absurd hk (by simp), Or.inl rfl⟩
  | cons o t ih =>
    intro a
    rw [List.foldl_cons]
    obtain ⟨h1, h2, h3⟩ := ih (φ a o)
    have ha : a ≤ φ a o := by
      cases o with
      | none => rw [hn]
      | some k => rw [hs]; exact le_max_left _ _
    refine ⟨le_trans ha h1, ?_, ?_⟩
    · intro k hk
      rcases List.mem_cons.mp hk with rfl | hk
      · have : k + 1 ≤ φ a (some k) := by rw [hs]; exact le_max_right _ _
        exact le_trans this h1
      · exact h2 k hk
    · rcases h3 with h3 | ⟨k, hk, h3⟩
      · cases o with
        | none => left; rw [h3, hn]
        | some k =>
          rcases le_total a (k + 1) with hle | hle
          · right; exact ⟨k, List.mem_cons_self, by rw [h3, hs, max_eq_right hle]⟩
          · left; rw [h3, hs, max_eq_left hle]
      · right; exact ⟨k, List.mem_cons_of_mem _ hk, h3⟩

theorem foldl_newDim (φ : Nat → Option Nat → Nat) (hs : ∀ m k, φ m (some k) = max m (k + 1))
    (hn : ∀ m, φ m none = m) (f : List (Option Nat)) (N : Nat)
    (hcod : ∀ j k, f.getD j none = some k → k < N)
    (hsurj : ∀ k < N, ∃ j, f.getD j none = some k) : f.foldl φ 0 = N := by
  obtain ⟨_, h2, h3⟩ := foldl_max_facts φ hs hn f 0
  apply le_antisymm
  · rcases h3 with h3 | ⟨k, hk, h3⟩
    · omega
    · obtain ⟨j, hj⟩ := (mem_some_iff f k).mp hk
      have := hcod j k hj
      omega
  · by_contra hlt
    have hN : N - 1 < N := by omega
    obtain ⟨j, hj⟩ := hsurj (N - 1) hN
    have := h2 (N - 1) ((mem_some_iff f _).mpr ⟨j, hj⟩)
    omega

/-! ### the inverse index used by `mapCoords` -/

def invIdx (f : List (Option Nat)) (k : Nat) : Option Nat :=
  (List.range f.length).find? (fun j => f.getD j none == some k)

theorem invIdx_some (f : List (Option Nat)) (k j : Nat) (h : invIdx f k = some j) :
    f.getD j none = some k := by
  have := List.find?_some h
  simpa using this

theorem invIdx_of (f : List (Option Nat)) (k j : Nat)
    (hinj : ∀ j j' k, f.getD j none = some k → f.getD j' none = some k → j = j')
    (h : f.getD j none = some k) : invIdx f k = some j := by
  cases hi : invIdx f k with
  | none =>
    have := List.find?_eq_none.mp hi j (List.mem_range.mpr (getD_some_lt f j k h))
    rw [h] at this
    simp at this
  | some j' =>
    rw [hinj j' j k (invIdx_some f k j' hi) h]

def selSrc (f : List (Option Nat)) (N : Nat) : List (Option Nat) := (List.range N).map (invIdx f)

theorem selSrc_getD (f : List (Option Nat)) (N k : Nat) (h : k < N) :
    (selSrc f N).getD k none = invIdx f k := by
  simp [selSrc, List.getD_eq_getElem?_getD, h]

theorem selSrc_getD_ge (f : List (Option Nat)) (N k : Nat) (h : N ≤ k) :
    (selSrc f N).getD k none = none := by
  simp [selSrc, List.getD_eq_getElem?_getD, h]

/-- the row with its coefficients renamed -/
def Row.mapC (f : List (Option Nat)) (N : Nat) (r : Row) : Row := { r with cf := mapCoords f N r.cf }

theorem mapCoords_length (f : List (Option Nat)) (N : Nat) (l : List Int) :
    (mapCoords f N l).length = N := by
  simp [mapCoords]

theorem mapC_genWF (nnc : Bool) (n N : Nat) (f : List (Option Nat)) (r : Row) (h : r.genWF nnc n) :
    (r.mapC f N).genWF nnc N ∧ (r.isPoint nnc → (r.mapC f N).isPoint nnc) := by
  obtain ⟨_, h2⟩ := h
  exact ⟨⟨mapCoords_length f N r.cf, h2⟩, id⟩

/-- generators: renaming the coefficients of every row computes the image -/
theorem genSem_mapC (nnc : Bool) (n N : Nat) (f : List (Option Nat)) (rows : List Row)
    (hwf : ∀ r ∈ rows, r.genWF nnc n) (hlen : f.length = n)
    (hinj : ∀ j j' k, f.getD j none = some k → f.getD j' none = some k → j = j')
    (hcod : ∀ j k, f.getD j none = some k → k < N)
    (hsurj : ∀ k < N, ∃ j, f.getD j none = some k) :
    genSem nnc N (rows.map (Row.mapC f N)) = mapSet f (genSem nnc n rows) := by
  have hsrc : ∀ k j, (selSrc f N).getD k none = some j → j < n := by
    intro k j hkj
    by_cases hk : k < N
    · rw [selSrc_getD f N k hk] at hkj
      rw [← hlen]
      exact getD_some_lt f j k (invIdx_some f k j hkj)
    · rw [selSrc_getD_ge f N k (by omega)] at hkj
      cases hkj
  refine Eq.trans ?_ (Eq.trans
    (kit_selectCoords nnc n N (selSrc f N) rows hwf (by simp [selSrc]) hsrc) ?_)
  · congr 1
    apply List.map_congr_left
    intro r _
    unfold Row.mapC mapCoords selSrc invIdx
    rw [List.map_map]
    rfl
  · ext w
    simp only [mapSet, Set.mem_ofPred_eq]
    refine exists_congr fun x => and_congr_right fun _ => ?_
    constructor
    · intro h j k hjk
      have hk := hcod j k hjk
      have := h k hk
      rw [selSrc_getD f N k hk, invIdx_of f k j hinj hjk] at this
      exact this
    · intro h k hk
      obtain ⟨j, hjk⟩ := hsurj k hk
      rw [selSrc_getD f N k hk, invIdx_of f k j hinj hjk]
      exact h j k hjk

end PPLV.PolyOps

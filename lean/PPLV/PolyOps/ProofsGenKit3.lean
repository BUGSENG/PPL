import PPLV.PolyOps.ProofsGenKit2

/-!
# the generator toolkit

`Kit.affineImageWF`, `Kit.affineImage`, `Kit.selectCoords`, `Kit.addLines`: these work with the
definition of `GenSem` directly (multiplier vectors).
-/
namespace PPLV.PolyOps
open PPLV.Lin

/-! ### lists and weighted sums -/

theorem getD_map_lt {α β : Type} [Inhabited α] [Inhabited β] (l : List α) (f : α → β) (j : Nat)
    (hj : j < l.length) : (l.map f).getD j default = f (l.getD j default) := by
  simp [List.getD_eq_getElem?_getD, hj]

theorem getD_mem_rows {α : Type} [Inhabited α] (l : List α) (j : Nat) (hj : j < l.length) :
    l.getD j default ∈ l := by
  have : l.getD j default = l[j] := by simp [List.getD_eq_getElem?_getD, hj]
  rw [this]; exact List.getElem_mem hj

theorem gensOf_length (nnc : Bool) (rows : List Row) : (gensOf nnc rows).length = rows.length := by
  simp [gensOf]

theorem gensOf_getD (nnc : Bool) (rows : List Row) (j : Nat) (hj : j < rows.length) :
    (gensOf nnc rows).getD j default = (rows.getD j default).toGen nnc :=
  getD_map_lt rows _ j hj

/-- the `j`-th generator of a row list and of its image under a row map `F` -/
theorem gensOf_map_getD (nnc : Bool) (rows : List Row) (F : Row → Row) :
    (gensOf nnc (rows.map F)).length = (gensOf nnc rows).length ∧
    ∀ j < (gensOf nnc rows).length, rows.getD j default ∈ rows ∧
      (gensOf nnc rows).getD j default = (rows.getD j default).toGen nnc ∧
      (gensOf nnc (rows.map F)).getD j default = (F (rows.getD j default)).toGen nnc := by
  rw [gensOf_length, gensOf_length, List.length_map]
  refine ⟨rfl, fun j hj => ⟨getD_mem_rows rows j hj, gensOf_getD nnc rows j hj, ?_⟩⟩
  rw [gensOf_getD nnc _ j (by simpa using hj), getD_map_lt rows F j hj]

theorem wsum_congr2 (f f' : Gen → Rat) (A B : List Gen) (hlen : A.length = B.length)
    (lam lam' : Val)
    (h : ∀ j < A.length, lam j * f (A.getD j default) = lam' j * f' (B.getD j default)) :
    wsum f A lam = wsum f' B lam' := by
  induction A generalizing B lam lam' with
  | nil =>
    cases B with
    | nil => rfl
    | cons b B => simp at hlen
  | cons a A ih =>
    cases B with
    | nil => simp at hlen
    | cons b B =>
      simp only [wsum]
      have h0 := h 0 (by simp)
      simp only [List.getD_cons_zero] at h0
      rw [h0, ih B (by simpa using hlen) lam.tail lam'.tail]
      intro j hj
      have := h (j+1) (by simp; omega)
      simpa [Val.tail] using this

theorem wsum_mul_fn (f : Gen → Rat) (a : Rat) (gs : List Gen) (lam : Val) :
    wsum (fun g => a * f g) gs lam = a * wsum f gs lam := by
  induction gs generalizing lam with
  | nil => simp [wsum]
  | cons g gs ih => simp only [wsum, ih]; ring

theorem wsum_add_fn (f1 f2 : Gen → Rat) (gs : List Gen) (lam : Val) :
    wsum (fun g => f1 g + f2 g) gs lam = wsum f1 gs lam + wsum f2 gs lam := by
  induction gs generalizing lam with
  | nil => simp [wsum]
  | cons g gs ih => simp only [wsum, ih]; ring

theorem wsum_append (f : Gen → Rat) (A B : List Gen) (lam : Val) :
    wsum f (A ++ B) lam = wsum f A lam + wsum f B (fun j => lam (j + A.length)) := by
  induction A generalizing lam with
  | nil => simp [wsum]
  | cons a A ih =>
    simp only [List.cons_append, wsum, ih, List.length_cons]
    have : (fun j => lam.tail (j + A.length)) = fun j => lam (j + (A.length + 1)) := rfl
    rw [this]; ring

/-- moving between two generator lists of the same length and the same kinds, the multipliers of
    rays and lines rescaled by positive factors: the side conditions of `GenSem` correspond -/
theorem genSem_transfer (A A' : List Gen) (hlen : A'.length = A.length) (s : Nat → Rat)
    (hs : ∀ j < A.length, 0 < s j)
    (hk : ∀ j < A.length, (A'.getD j default).kind = (A.getD j default).kind)
    (hs1 : ∀ j < A.length, (A.getD j default).isPtOrCp = true → s j = 1)
    (lam lam' : Val) (hrel : ∀ j < A.length, lam j = s j * lam' j) :
    ((∀ j < A.length, (A.getD j default).isLine = false → 0 ≤ lam j) ∧
      wsum pcf A lam = 1 ∧ (∃ j < A.length, (A.getD j default).isPt = true ∧ 0 < lam j)) ↔
    ((∀ j < A'.length, (A'.getD j default).isLine = false → 0 ≤ lam' j) ∧
      wsum pcf A' lam' = 1 ∧ (∃ j < A'.length, (A'.getD j default).isPt = true ∧ 0 < lam' j)) := by
  rw [hlen]
  have kl : ∀ j < A.length, (A'.getD j default).isLine = (A.getD j default).isLine :=
    fun j hj => by unfold Gen.isLine; rw [hk j hj]
  have kp : ∀ j < A.length, (A'.getD j default).isPt = (A.getD j default).isPt :=
    fun j hj => by unfold Gen.isPt; rw [hk j hj]
  have kc : ∀ j < A.length, (A'.getD j default).isPtOrCp = (A.getD j default).isPtOrCp :=
    fun j hj => by unfold Gen.isPtOrCp; rw [hk j hj]
  have hsum : wsum pcf A lam = wsum pcf A' lam' := by
    apply wsum_congr2 _ _ _ _ hlen.symm
    intro j hj
    show lam j * (if (A.getD j default).isPtOrCp then (1 : Rat) else 0)
      = lam' j * (if (A'.getD j default).isPtOrCp then (1 : Rat) else 0)
    rw [kc j hj]
    by_cases hp : (A.getD j default).isPtOrCp = true
    · rw [if_pos hp, hrel j hj, hs1 j hj hp]; ring
    · rw [if_neg hp]; ring
  rw [hsum]
  refine and_congr ?_ (and_congr Iff.rfl ?_)
  · refine forall_congr' fun j => ?_
    refine imp_congr_right fun hj => ?_
    rw [kl j hj, hrel j hj]
    exact imp_congr_right fun _ => mul_nonneg_iff_of_pos_left (hs j hj)
  · refine exists_congr fun j => ?_
    refine and_congr_right fun hj => ?_
    rw [kp j hj, hrel j hj]
    exact and_congr_right fun _ => mul_pos_iff_of_pos_left (hs j hj)

/-! ### columns -/


theorem getD_set_ne (l : List Int) (v i : Nat) (a : Int) (h : i ≠ v) :
    (l.set v a).getD i 0 = l.getD i 0 := by
  simp [List.getD_eq_getElem?_getD, List.getElem?_set_ne (Ne.symm h)]

theorem getD_set_self (l : List Int) (v : Nat) (a : Int) (h : v < l.length) :
    (l.set v a).getD v 0 = a := by
  simp [List.getD_eq_getElem?_getD, h]

theorem idot_cast (as cf : List Int) :
    ((idot as cf : Int) : Rat) = dot as (fun i => ((cf.getD i 0 : Int) : Rat)) := by
  induction as generalizing cf with
  | nil => simp [idot]
  | cons a as ih =>
    cases cf with
    | nil =>
      have : (fun i => (((([] : List Int).getD i 0 : Int)) : Rat)) = Val.zero := by
        funext i; simp [Val.zero]
      rw [this, dot_zero]; simp [idot]
    | cons c cs =>
      simp only [idot, dot_cons, List.getD_cons_zero]
      have : Val.tail (fun i => ((((c :: cs).getD i 0 : Int)) : Rat))
          = fun i => ((cs.getD i 0 : Int) : Rat) := by
        funext i; simp [Val.tail]
      rw [this, ← ih cs]; push_cast; ring

theorem dot_div (as : List Int) (u : Val) (b : Rat) :
    dot as (fun i => u i / b) = dot as u / b := by
  rw [dot_lin as (1 / b) 0 u u _ (fun i _ => by ring)]; ring

theorem coord_pt (cf : List Int) (b : Int) (i : Nat) :
    Gen.coord ⟨.point, cf, b⟩ i = ((cf.getD i 0 : Int) : Rat) / (b : Rat) := rfl
theorem coord_cp (cf : List Int) (b : Int) (i : Nat) :
    Gen.coord ⟨.cpoint, cf, b⟩ i = ((cf.getD i 0 : Int) : Rat) / (b : Rat) := rfl
theorem coord_ray (cf : List Int) (b : Int) (i : Nat) :
    Gen.coord ⟨.ray, cf, b⟩ i = ((cf.getD i 0 : Int) : Rat) := vec_ray cf b i
theorem coord_line (cf : List Int) (b : Int) (i : Nat) :
    Gen.coord ⟨.line, cf, b⟩ i = ((cf.getD i 0 : Int) : Rat) := vec_line cf b i

/-! ### the affine image of one row -/

theorem genRowAffineImage_eq (v : Nat) (e : LinExpr) (den : Int) (r : Row) :
    genRowAffineImage v e den r =
      ⟨r.eq, den * r.b, (r.cf.map (den * ·)).set v (e.k * r.b + idot e.coeffs r.cf), den * r.eps⟩ := by
  unfold genRowAffineImage
  by_cases h : den = 1
  · subst h; cases r; simp
  · simp [h, Row.scale]

theorem kit_affineImageWF : Kit.affineImageWF := by
  intro nnc n v e den r hwf _ hden
  rw [genRowAffineImage_eq]
  obtain ⟨h1, h2, h3, h4, h5, h6⟩ := hwf
  have hdne : den ≠ 0 := ne_of_gt hden
  refine ⟨⟨by simp [h1], Int.mul_nonneg (le_of_lt hden) h2, Int.mul_nonneg (le_of_lt hden) h3,
    fun h => by rw [h4 h, Int.mul_zero], fun h => ?_, fun h => by rw [h6 h, Int.mul_zero]⟩, ?_⟩
  · have hb : r.b = 0 := by
      rcases Int.mul_eq_zero.mp h with h | h
      · exact absurd h hdne
      · exact h
    show den * r.eps = 0
    rw [h5 hb, Int.mul_zero]
  · rintro ⟨p1, p2, p3⟩
    exact ⟨p1, Int.mul_pos hden p2, fun h => Int.mul_pos hden (p3 h)⟩

/-- what the loop body does to one generator: same kind; off `v` the vector is kept (points) or
    scaled by `den` (rays, lines); at `v` it is the value of the expression -/
theorem affRow_facts (nnc : Bool) (n v : Nat) (e : LinExpr) (den : Int) (r : Row)
    (hwf : r.genWF nnc n) (hv : v < n) (hden : 0 < den) :
    ((genRowAffineImage v e den r).toGen nnc).kind = (r.toGen nnc).kind ∧
    (∀ i, i ≠ v → ((genRowAffineImage v e den r).toGen nnc).coord i
      = (if (r.toGen nnc).isPtOrCp then 1 else (den : Rat)) * (r.toGen nnc).coord i) ∧
    (den : Rat) * ((genRowAffineImage v e den r).toGen nnc).coord v
      = (if (r.toGen nnc).isPtOrCp then 1 else (den : Rat)) *
        (dot e.coeffs (r.toGen nnc).vec + (e.k : Rat) * pcf (r.toGen nnc)) := by
  rw [genRowAffineImage_eq]
  set r' : Row := ⟨r.eq, den * r.b, (r.cf.map (den * ·)).set v (e.k * r.b + idot e.coeffs r.cf),
    den * r.eps⟩ with hr'
  have hdne : den ≠ 0 := ne_of_gt hden
  have hdq : (den : Rat) ≠ 0 := by exact_mod_cast hdne
  have hvlen : v < (r.cf.map (den * ·)).length := by simp [hwf.1, hv]
  have hoff : ∀ i, i ≠ v → ((r'.cf.getD i 0 : Int) : Rat) = (den : Rat) * ((r.cf.getD i 0 : Int) : Rat) := by
    intro i hi
    show ((((r.cf.map (den * ·)).set v _).getD i 0 : Int) : Rat) = _
    rw [getD_set_ne _ _ _ _ hi, getD_map_default (den * ·) (mul_zero den)]; push_cast; ring
  have hat : ((r'.cf.getD v 0 : Int) : Rat)
      = (e.k : Rat) * (r.b : Rat) + dot e.coeffs (fun i => ((r.cf.getD i 0 : Int) : Rat)) := by
    show ((((r.cf.map (den * ·)).set v _).getD v 0 : Int) : Rat) = _
    rw [getD_set_self _ _ _ hvlen]; push_cast; rw [idot_cast]
  have hmul0 : ∀ a : Int, den * a = 0 ↔ a = 0 := fun a => mul_eq_zero_iff_left hdne
  have hbq : (((den * r.b : Int)) : Rat) = (den : Rat) * (r.b : Rat) := by push_cast; ring
  rcases rowShape nnc r with ⟨hl, hg⟩ | ⟨hl, hz, hg⟩ | ⟨hl, hz, hn, hez, hg⟩ | ⟨hl, hz, hn, hg⟩
  · -- line
    have hg' : r'.toGen nnc = ⟨.line, r'.cf, 1⟩ := toGen_eq nnc r' hl
    rw [hg, hg']
    have hvec : (Gen.vec ⟨.line, r.cf, 1⟩) = fun i => ((r.cf.getD i 0 : Int) : Rat) := by
      funext i; exact vec_line _ _ i
    have hb : r.b = 0 := hwf.2.2.2.1 hl
    refine ⟨rfl, fun i hi => ?_, ?_⟩
    · rw [coord_line, coord_line, hoff i hi]; rfl
    · rw [coord_line, hat, hvec, hb]
      show _ = (den : Rat) * (_ + _ * 0)
      rw [Int.cast_zero]; ring
  · -- ray
    have hg' : r'.toGen nnc = ⟨.ray, r'.cf, 1⟩ := toGen_ray nnc r' hl ((hmul0 _).mpr hz)
    rw [hg, hg']
    have hvec : (Gen.vec ⟨.ray, r.cf, 1⟩) = fun i => ((r.cf.getD i 0 : Int) : Rat) := by
      funext i; exact vec_ray _ _ i
    refine ⟨rfl, fun i hi => ?_, ?_⟩
    · rw [coord_ray, coord_ray, hoff i hi]; rfl
    · rw [coord_ray, hat, hvec, hz]
      show _ = (den : Rat) * (_ + _ * 0)
      rw [Int.cast_zero]; ring
  · -- closure point
    have hg' : r'.toGen nnc = ⟨.cpoint, r'.cf, r'.b⟩ :=
      toGen_cp nnc r' hl (fun h => hz ((hmul0 _).mp h)) hn ((hmul0 _).mpr hez)
    rw [hg, hg']
    have hbne : (r.b : Rat) ≠ 0 := by exact_mod_cast hz
    have hvec : (Gen.vec ⟨.cpoint, r.cf, r.b⟩)
        = fun i => ((r.cf.getD i 0 : Int) : Rat) / (r.b : Rat) := rfl
    refine ⟨rfl, fun i hi => ?_, ?_⟩
    · rw [coord_cp, coord_cp, hoff i hi]
      show _ / (((den * r.b : Int)) : Rat) = _
      rw [hbq, mul_div_mul_left _ _ hdq]
      exact (one_mul _).symm
    · rw [coord_cp, hat, hvec, dot_div]
      show _ * (_ / (((den * r.b : Int)) : Rat)) = 1 * (_ + _ * 1)
      rw [hbq, ← mul_div_assoc, mul_div_mul_left _ _ hdq, add_div, mul_div_cancel_right₀ _ hbne]
      ring
  · -- point
    have hg' : r'.toGen nnc = ⟨.point, r'.cf, r'.b⟩ :=
      toGen_pt nnc r' hl (fun h => hz ((hmul0 _).mp h)) (fun h => hn ⟨h.1, (hmul0 _).mp h.2⟩)
    rw [hg, hg']
    have hbne : (r.b : Rat) ≠ 0 := by exact_mod_cast hz
    have hvec : (Gen.vec ⟨.point, r.cf, r.b⟩)
        = fun i => ((r.cf.getD i 0 : Int) : Rat) / (r.b : Rat) := rfl
    refine ⟨rfl, fun i hi => ?_, ?_⟩
    · rw [coord_pt, coord_pt, hoff i hi]
      show _ / (((den * r.b : Int)) : Rat) = _
      rw [hbq, mul_div_mul_left _ _ hdq]
      exact (one_mul _).symm
    · rw [coord_pt, hat, hvec, dot_div]
      show _ * (_ / (((den * r.b : Int)) : Rat)) = 1 * (_ + _ * 1)
      rw [hbq, ← mul_div_assoc, mul_div_mul_left _ _ hdq, add_div, mul_div_cancel_right₀ _ hbne]
      ring

/-! ### `Kit.affineImage` -/

theorem kit_affineImage : Kit.affineImage := by
  intro nnc n v e den rows hwf hv he hden
  obtain ⟨F, hF⟩ : ∃ F, F = genRowAffineImage v e den := ⟨_, rfl⟩
  obtain ⟨A, hA⟩ : ∃ A, A = gensOf nnc rows := ⟨_, rfl⟩
  obtain ⟨A', hA'⟩ : ∃ A', A' = gensOf nnc (rows.map F) := ⟨_, rfl⟩
  obtain ⟨hlen, hget⟩ := gensOf_map_getD nnc rows F
  rw [← hA, ← hA'] at hlen hget
  have hdq : (0 : Rat) < (den : Rat) := by exact_mod_cast hden
  obtain ⟨s, hsdef⟩ : ∃ s : Nat → Rat,
      s = fun j => if (A.getD j default).isPtOrCp then 1 else (den : Rat) := ⟨_, rfl⟩
  have hs : ∀ j < A.length, 0 < s j := by
    intro j _; rw [hsdef]; show 0 < (if (A.getD j default).isPtOrCp then (1 : Rat) else (den : Rat))
    split
    · exact one_pos
    · exact hdq
  have hs1 : ∀ j < A.length, (A.getD j default).isPtOrCp = true → s j = 1 := by
    intro j _ h; rw [hsdef]; exact if_pos h
  have hfacts : ∀ j < A.length, (A'.getD j default).kind = (A.getD j default).kind ∧
      (∀ i, i ≠ v → (A'.getD j default).coord i = s j * (A.getD j default).coord i) ∧
      (den : Rat) * (A'.getD j default).coord v
        = s j * (dot e.coeffs (A.getD j default).vec + (e.k : Rat) * pcf (A.getD j default)) := by
    intro j hj
    obtain ⟨hmem, e1, e2⟩ := hget j hj
    rw [hsdef]
    show _ ∧ (∀ i, i ≠ v → _ = (if (A.getD j default).isPtOrCp then 1 else (den : Rat)) * _) ∧
      _ = (if (A.getD j default).isPtOrCp then 1 else (den : Rat)) * _
    rw [e1, e2, hF]
    exact affRow_facts nnc n v e den _ (hwf _ hmem) hv hden
  have hoff : ∀ lam lam' : Val, (∀ j < A.length, lam j = s j * lam' j) → ∀ i, i ≠ v →
      wsum (fun g => g.coord i) A lam = wsum (fun g => g.coord i) A' lam' := by
    intro lam lam' hrel i hi
    apply wsum_congr2 _ _ _ _ hlen.symm
    intro j hj
    rw [(hfacts j hj).2.1 i hi, hrel j hj]; ring
  have hat : ∀ lam lam' : Val, (∀ j < A.length, lam j = s j * lam' j) →
      (den : Rat) * wsum (fun g => g.coord v) A' lam'
        = wsum (fun g => dot e.coeffs g.vec + (e.k : Rat) * pcf g) A lam := by
    intro lam lam' hrel
    rw [← wsum_mul_fn]
    apply wsum_congr2 _ _ _ _ hlen
    intro j hj
    have hj2 : j < A.length := hlen ▸ hj
    show lam' j * ((den : Rat) * (A'.getD j default).coord v) = lam j * _
    rw [(hfacts j hj2).2.2, hrel j hj2]; ring
  have hval : ∀ (lam x : Val), wsum pcf A lam = 1 →
      (∀ i < n, x i = wsum (fun g => g.coord i) A lam) →
      wsum (fun g => dot e.coeffs g.vec + (e.k : Rat) * pcf g) A lam = e.val x := by
    intro lam x h2 h4
    rw [wsum_add_fn, wsum_mul_fn, h2, ← dot_wsum e.coeffs A lam x (fun i hi => h4 i (by omega))]
    unfold LinExpr.val; ring
  unfold genSem
  rw [← hF, ← hA, ← hA']
  ext w
  constructor
  · rintro ⟨lam', h1, h2, h3, h4⟩
    obtain ⟨lam, hlam⟩ : ∃ lam : Val, lam = fun j => s j * lam' j := ⟨_, rfl⟩
    have hrel : ∀ j < A.length, lam j = s j * lam' j := fun _ _ => by rw [hlam]
    have htr := (genSem_transfer A A' hlen s hs (fun j hj => (hfacts j hj).1) hs1 lam lam' hrel).mpr
      ⟨h1, h2, h3⟩
    refine ⟨fun i => wsum (fun g => g.coord i) A lam,
      ⟨lam, htr.1, htr.2.1, htr.2.2, fun _ _ => rfl⟩, ?_, ?_⟩
    · rw [h4 v hv, hat lam lam' hrel, hval lam _ htr.2.1 (fun _ _ => rfl)]
    · intro j hj hjv
      rw [h4 j hj]; exact (hoff lam lam' hrel j hjv).symm
  · rintro ⟨x, ⟨lam, h1, h2, h3, h4⟩, hwv, hwj⟩
    obtain ⟨lam', hlam'⟩ : ∃ lam' : Val, lam' = fun j => lam j / s j := ⟨_, rfl⟩
    have hrel : ∀ j < A.length, lam j = s j * lam' j := by
      intro j hj
      have := hs j hj
      rw [hlam']; show lam j = s j * (lam j / s j)
      field_simp
    have htr := (genSem_transfer A A' hlen s hs (fun j hj => (hfacts j hj).1) hs1 lam lam' hrel).mp
      ⟨h1, h2, h3⟩
    refine ⟨lam', htr.1, htr.2.1, htr.2.2, fun i hi => ?_⟩
    by_cases hiv : i = v
    · rw [hiv]
      have : (den : Rat) * w v = (den : Rat) * wsum (fun g => g.coord v) A' lam' := by
        rw [hwv, hat lam lam' hrel, hval lam x h2 h4]
      exact mul_left_cancel₀ (ne_of_gt hdq) this
    · rw [hwj i hi hiv, h4 i hi]; exact hoff lam lam' hrel i hiv

/-! ### `Kit.selectCoords` -/

theorem toGen_withCf (nnc : Bool) (r : Row) (cf' : List Int) :
    Row.toGen nnc { r with cf := cf' } = { r.toGen nnc with coords := cf' } := by
  unfold Row.toGen
  simp only
  split
  · rfl
  · split
    · rfl
    · split <;> rfl

theorem coord_withCoords (g : Gen) (cf' : List Int) (k : Nat) :
    Gen.coord { g with coords := cf' } k = ((cf'.getD k 0 : Int) : Rat) / (g.d : Rat) := rfl

theorem selectCoords_aux (nnc : Bool) (n n' : Nat) (src : List (Option Nat)) (rows : List Row)
    (F : Row → Row)
    (hF : ∀ r, F r =
      { r with cf := src.map fun o => match o with | some j => r.cf.getD j 0 | none => 0 })
    (hsrc : ∀ k j, src.getD k none = some j → j < n) :
    GenSem n' (gensOf nnc (rows.map F)) =
      {w | ∃ x ∈ GenSem n (gensOf nnc rows), ∀ k < n',
        w k = match src.getD k none with | some j => x j | none => 0} := by
  obtain ⟨A, hA⟩ : ∃ A, A = gensOf nnc rows := ⟨_, rfl⟩
  obtain ⟨A', hA'⟩ : ∃ A', A' = gensOf nnc (rows.map F) := ⟨_, rfl⟩
  obtain ⟨hlen', hget⟩ := gensOf_map_getD nnc rows F
  rw [← hA, ← hA'] at hlen' hget
  have hfacts : ∀ j < A.length, (A'.getD j default).kind = (A.getD j default).kind ∧
      ∀ k, (A'.getD j default).coord k =
        match src.getD k none with
        | some i => (A.getD j default).coord i
        | none => 0 := by
    intro j hj
    obtain ⟨_, e1, e2⟩ := hget j hj
    rw [e1, e2, hF, toGen_withCf]
    refine ⟨rfl, fun k => ?_⟩
    rw [coord_withCoords, getD_map_default (a0 := none) (b0 := 0) _ rfl]
    cases src.getD k none with
    | none => simp
    | some i =>
      show _ = Gen.coord _ i
      unfold Gen.coord; rw [toGen_coords]
  have hsum : ∀ (lam : Val) (k : Nat), wsum (fun g => g.coord k) A' lam =
      match src.getD k none with
      | some i => wsum (fun g => g.coord i) A lam
      | none => 0 := by
    intro lam k
    cases h : src.getD k none with
    | none =>
      show _ = (0 : Rat)
      rw [← wsum_fn_zero A lam]
      apply wsum_congr2 _ _ _ _ hlen'
      intro j hj
      rw [((hfacts j (hlen' ▸ hj)).2 k), h]
    | some i =>
      show _ = wsum (fun g => g.coord i) A lam
      apply wsum_congr2 _ _ _ _ hlen'
      intro j hj
      rw [((hfacts j (hlen' ▸ hj)).2 k), h]
  have htr : ∀ lam : Val,
      ((∀ j < A.length, (A.getD j default).isLine = false → 0 ≤ lam j) ∧
        wsum pcf A lam = 1 ∧ (∃ j < A.length, (A.getD j default).isPt = true ∧ 0 < lam j)) ↔
      ((∀ j < A'.length, (A'.getD j default).isLine = false → 0 ≤ lam j) ∧
        wsum pcf A' lam = 1 ∧ (∃ j < A'.length, (A'.getD j default).isPt = true ∧ 0 < lam j)) :=
    fun lam => genSem_transfer A A' hlen' (fun _ => 1) (fun _ _ => one_pos)
      (fun j hj => (hfacts j hj).1) (fun _ _ _ => rfl) lam lam (fun _ _ => (one_mul _).symm)
  rw [← hA, ← hA']
  ext w
  constructor
  · rintro ⟨lam, h1, h2, h3, h4⟩
    have ht := (htr lam).mpr ⟨h1, h2, h3⟩
    refine ⟨fun i => wsum (fun g => g.coord i) A lam,
      ⟨lam, ht.1, ht.2.1, ht.2.2, fun _ _ => rfl⟩, fun k hk => ?_⟩
    rw [h4 k hk, hsum lam k]
  · rintro ⟨x, ⟨lam, h1, h2, h3, h4⟩, hw⟩
    have ht := (htr lam).mp ⟨h1, h2, h3⟩
    refine ⟨lam, ht.1, ht.2.1, ht.2.2, fun k hk => ?_⟩
    rw [hw k hk, hsum lam k]
    cases h : src.getD k none with
    | none => rfl
    | some i => exact h4 i (hsrc k i h)

theorem kit_selectCoords : Kit.selectCoords := by
  intro nnc n n' src rows _ _ hsrc
  exact selectCoords_aux nnc n n' src rows _ (fun _ => rfl) hsrc

/-! ### `Kit.addLines` -/

theorem getD_unit_s (v m i : Nat) (s : Int) :
    (List.replicate v (0 : Int) ++ [s] ++ List.replicate m 0).getD i 0 = if i = v then s else 0 := by
  induction v generalizing i with
  | zero =>
    cases i with
    | zero => simp
    | succ i =>
      simp [List.getD_eq_getElem?_getD, List.getElem?_replicate]
      split <;> rfl
  | succ v ih =>
    cases i with
    | zero => simp [List.replicate_succ]
    | succ i =>
      have := ih i
      simp only [List.replicate_succ, List.cons_append, List.getD_cons_succ]
      rw [this]; simp

theorem getD_unit (v m i : Nat) :
    (List.replicate v (0 : Int) ++ [1] ++ List.replicate m 0).getD i 0 = if i = v then 1 else 0 :=
  getD_unit_s v m i 1

theorem unitEqRow_toGen (nnc : Bool) (n v : Nat) :
    (unitEqRow n v).toGen nnc =
      ⟨.line, List.replicate v 0 ++ [1] ++ List.replicate (n - v - 1) 0, 1⟩ := rfl

theorem unitEqRow_coord (nnc : Bool) (n v i : Nat) :
    ((unitEqRow n v).toGen nnc).coord i = if i = v then 1 else 0 := by
  rw [unitEqRow_toGen, coord_line, getD_unit]
  split <;> simp

theorem getD_append_lt (A B : List Gen) (j : Nat) (hj : j < A.length) :
    (A ++ B).getD j default = A.getD j default := by
  simp [List.getD_eq_getElem?_getD, List.getElem?_append_left hj]

theorem getD_append_len (A : List Gen) (l : Gen) :
    (A ++ [l]).getD A.length default = l := by
  simp [List.getD_eq_getElem?_getD]

/-- one more line or ray `s·e_v` (`s = ±1`): coordinate `v` may move — freely along a line, in direction `s`
    along a ray -/
theorem genSem_add_dir (n : Nat) (A : List Gen) (l : Gen) (v : Nat) (s : Rat) (hs : s * s = 1)
    (hl : l.kind = .line ∨ l.kind = .ray) (hc : ∀ i, l.coord i = if i = v then s else 0) (hv : v < n) :
    GenSem n (A ++ [l]) =
      {w | ∃ x ∈ GenSem n A, (l.isLine = false → 0 ≤ s * (w v - x v)) ∧ ∀ j < n, j ≠ v → w j = x j} := by
  have hnpt : l.isPt = false := by unfold Gen.isPt; rcases hl with hl | hl <;> rw [hl] <;> rfl
  have hpc : pcf l = 0 := by
    show (if l.isPtOrCp then (1 : Rat) else 0) = 0
    unfold Gen.isPtOrCp; rcases hl with hl | hl <;> rw [hl] <;> rfl
  have hsplit : ∀ (f : Gen → Rat) (lam : Val),
      wsum f (A ++ [l]) lam = wsum f A lam + lam A.length * f l := by
    intro f lam
    rw [wsum_append]; simp [wsum]
  have hlen : (A ++ [l]).length = A.length + 1 := by simp
  ext w
  constructor
  · rintro ⟨lam, h1, h2, ⟨j0, hj0, hp0, hl0⟩, h4⟩
    have hlast : l.isLine = false → 0 ≤ lam A.length := by
      have := h1 A.length (by rw [hlen]; omega)
      rwa [getD_append_len] at this
    refine ⟨fun i => wsum (fun g => g.coord i) A lam, ⟨lam, ?_, ?_, ?_, fun _ _ => rfl⟩, ?_, ?_⟩
    · intro j hj hnl
      have := h1 j (by rw [hlen]; omega)
      rw [getD_append_lt A _ j hj] at this
      exact this hnl
    · have := h2
      rw [hsplit] at this
      change wsum pcf A lam + lam A.length * pcf l = 1 at this
      rw [hpc] at this
      linarith
    · by_cases hj : j0 < A.length
      · rw [getD_append_lt A _ j0 hj] at hp0
        exact ⟨j0, hj, hp0, hl0⟩
      · have : j0 = A.length := by rw [hlen] at hj0; omega
        rw [this, getD_append_len, hnpt] at hp0
        cases hp0
    · intro hnl
      show 0 ≤ s * (w v - wsum (fun g => g.coord v) A lam)
      rw [h4 v hv, hsplit, hc v, if_pos rfl]
      have : s * (wsum (fun g => g.coord v) A lam + lam A.length * s - wsum (fun g => g.coord v) A lam)
          = lam A.length * (s * s) := by ring
      rw [this, hs, mul_one]; exact hlast hnl
    · intro j hj hjv
      rw [h4 j hj, hsplit, hc j, if_neg hjv]; ring
  · rintro ⟨x, ⟨lam, h1, h2, ⟨j0, hj0, hp0, hl0⟩, h4⟩, hpos, hw⟩
    -- the new generator takes the multiplier `s·(w v − x v)`
    obtain ⟨lam', hlam'⟩ : ∃ lam' : Val,
      lam' = fun j => if j < A.length then lam j else s * (w v - x v) := ⟨_, rfl⟩
    have hin : ∀ j < A.length, lam' j = lam j := by
      intro j hj; rw [hlam']; exact if_pos hj
    have hout : lam' A.length = s * (w v - x v) := by
      rw [hlam']; exact if_neg (lt_irrefl _)
    have hws : ∀ f : Gen → Rat, wsum f A lam' = wsum f A lam := by
      intro f
      apply wsum_congr
      intro j hj
      rw [hin j hj]
    refine ⟨lam', ?_, ?_, ?_, ?_⟩
    · intro j hj hnl
      by_cases hjA : j < A.length
      · rw [getD_append_lt A _ j hjA] at hnl
        rw [hin j hjA]; exact h1 j hjA hnl
      · have : j = A.length := by rw [hlen] at hj; omega
        rw [this, getD_append_len] at hnl
        rw [this, hout]; exact hpos hnl
    · rw [hsplit, hws]
      change wsum pcf A lam + lam' A.length * pcf l = 1
      rw [hpc, h2]; ring
    · refine ⟨j0, by rw [hlen]; omega, ?_, ?_⟩
      · rw [getD_append_lt A _ j0 hj0]; exact hp0
      · rw [hin j0 hj0]; exact hl0
    · intro i hi
      rw [hsplit, hws, hout, hc i, ← h4 i hi]
      by_cases hiv : i = v
      · rw [if_pos hiv, hiv]
        have : x v + s * (w v - x v) * s = x v + (s * s) * (w v - x v) := by ring
        rw [this, hs]; ring
      · rw [if_neg hiv, hw i hi hiv]; ring

/-- one more line along coordinate `v`: coordinate `v` becomes arbitrary -/
theorem genSem_add_line (n : Nat) (A : List Gen) (l : Gen) (v : Nat) (hl : l.kind = .line)
    (hc : ∀ i, l.coord i = if i = v then 1 else 0) (hv : v < n) :
    GenSem n (A ++ [l]) = {w | ∃ x ∈ GenSem n A, ∀ j < n, j ≠ v → w j = x j} := by
  have hline : l.isLine = true := by unfold Gen.isLine; rw [hl]; rfl
  rw [genSem_add_dir n A l v 1 (one_mul 1) (.inl hl) hc hv]
  ext w
  exact exists_congr fun x => and_congr_right fun _ =>
    ⟨fun h => h.2, fun h => ⟨fun hn => Bool.noConfusion (hline.symm.trans hn), h⟩⟩

theorem addLines_aux (nnc : Bool) (n : Nat) (vars : List Nat) (hvars : ∀ v ∈ vars, v < n) :
    ∀ rows : List Row, genSem nnc n (rows ++ vars.map (unitEqRow n)) =
      {w | ∃ x ∈ genSem nnc n rows, ∀ j < n, j ∉ vars → w j = x j} := by
  induction vars with
  | nil =>
    intro rows
    simp only [List.map_nil, List.append_nil, List.not_mem_nil, not_false_eq_true, forall_const]
    ext w
    constructor
    · intro hw; exact ⟨w, hw, fun _ _ => rfl⟩
    · rintro ⟨x, hx, h⟩
      exact GenSem_cylinder n _ w x hx (fun i hi => (h i hi).symm)
  | cons v vs ih =>
    intro rows
    have hv : v < n := hvars v (by simp)
    have ih' := ih (fun u hu => hvars u (by simp [hu])) (rows ++ [unitEqRow n v])
    have e1 : rows ++ (v :: vs).map (unitEqRow n) = (rows ++ [unitEqRow n v]) ++ vs.map (unitEqRow n) := by
      simp
    have e2 : genSem nnc n (rows ++ [unitEqRow n v]) =
        {w | ∃ x ∈ genSem nnc n rows, ∀ j < n, j ≠ v → w j = x j} := by
      unfold genSem gensOf
      rw [List.map_append]
      exact genSem_add_line n _ _ v rfl (unitEqRow_coord nnc n v) hv
    rw [e1, ih', e2]
    ext w
    constructor
    · rintro ⟨x', ⟨x, hx, hxx'⟩, hwx'⟩
      refine ⟨x, hx, fun j hj hjn => ?_⟩
      have h1 : j ≠ v := fun h => hjn (by simp [h])
      have h2 : j ∉ vs := fun h => hjn (by simp [h])
      rw [hwx' j hj h2, hxx' j hj h1]
    · rintro ⟨x, hx, hwx⟩
      refine ⟨fun j => if j = v then w v else x j, ⟨x, hx, fun j _ hjv => if_neg hjv⟩,
        fun j hj hjn => ?_⟩
      by_cases hjv : j = v
      · show w j = if j = v then w v else x j
        rw [if_pos hjv, hjv]
      · show w j = if j = v then w v else x j
        rw [if_neg hjv]
        exact hwx j hj (by simp [hjv, hjn])

theorem kit_addLines : Kit.addLines := by
  intro nnc n rows vars _ hvars
  exact addLines_aux nnc n vars hvars rows

end PPLV.PolyOps

import PPLV.PolyOps.ProofsLattice9
import PPLV.PolyOps.ProofsAffine2
import PPLV.PolyOps.ProofsDims4

/-!
# C02 — `fold_space_dimensions(vars, dest)` at row level

`fold_space_dimensions_rows_correct`: for any generator list `gs` of the input set the result
denotes `RefPoly.foldGens ref vars dest gs` (`C02.fold_space_dimensions_model`, `fold_least`).
Composition of `affine_image` (not invertible: `x_dest := x_i`), `poly_hull_assign_rows_correct` /
`_rows_wf` and `remove_space_dimensions_rows_correct` (ProofsDims4), plus `selSet_foldAcc`.

`Poly.PendOK`: the two invariants of `Polyhedron::OK()` about pending rows that `Poly.WF` does not
record (needed to know that the intermediate results are well formed).
-/
namespace PPLV.PolyOps
open PPLV.Lin

/-- a pair that can have pending rows has its constraints up to date; pending generators only
    occur on such a pair -/
def Poly.PendOK (x : Poly) : Prop :=
  (x.st.canPend = true → x.st.cUp = true) ∧ (x.st.gPend = true → x.st.canPend = true)

theorem pendOK_pendForm (x : Poly) (gs' : Sys) (h : x.PendOK) (hc : x.st.canPend = true) :
    (pendForm x gs').PendOK :=
  ⟨fun _ => h.1 hc, fun _ => hc⟩

theorem pendOK_dropForm (x : Poly) (gs' : Sys) (h : x.PendOK) (hc : x.st.canPend = false) :
    (dropForm x gs').PendOK := by
  constructor
  · intro h'; simp [dropForm, Status.clearCUp, Status.canPend] at h'
  · intro h'
    have : x.st.gPend = true := by simpa [dropForm, Status.clearCUp] using h'
    rw [h.2 this] at hc; cases hc

/-! ### the non-invertible affine image with a short expression -/

theorem affine_image_noninv_facts (x copy : Poly) (v : Nat) (e : LinExpr) (S : Set Val) (hx : x.WF)
    (hem : x.st.empty = false) (hc : e.coeffs.getD v 0 = 0) (hv : v < x.dim)
    (he : e.coeffs.length ≤ x.dim) (hD : x.Denotes S) (h : x.affine_image v e 1 = some copy) :
    copy.WF ∧ copy.dim = x.dim ∧ copy.nnc = x.nnc ∧ copy.st.empty = false ∧
      copy.Denotes (imgSet x.dim v e 1 S) := by
  obtain ⟨hgu, hcp, hqn, hqd, ⟨gs0, hgs0, hqgs⟩, h1, h2, h3, h4, h5⟩ :=
    affine_image_noninv_shape x copy v e 1 hx hem hc h
  have hgen := (hD.2 hem).2.1 hgu hcp
  have hfacts := gsSigned_facts x.nnc x.dim v e 1 gs0
    (by rw [hgs0]; exact hx.gs_wf hem hgu) hv he (by decide)
  refine ⟨?_, hqd, hqn, h1, ?_⟩
  · refine .of_gens h2 h3 h4 h5 (by omega) ?_ ?_
    · rw [hqn, hqd, hqgs]; exact hfacts.2.1
    · rw [hqn, hqgs]
      exact hfacts.2.2 (by rw [hgs0]; exact hx.gs_pt hem hgu)
  · refine .of_gens h1 (.inl h2) h3 ?_
    rw [hqn, hqd, hqgs, hfacts.1, hgs0, hgen]

/-! ### the loop -/

/-- the step of the loop of `fold_space_dimensions` -/
def foldStep (dest : Nat) (acc : Option Poly) (i : Nat) : Option Poly :=
  acc.bind fun x =>
    if x.st.empty then some x
    else (x.affine_image dest ⟨List.replicate i 0 ++ [1], 0⟩ 1).bind fun copy => x.poly_hull_assign copy

theorem foldl_foldStep_none (dest : Nat) (is : List Nat) : is.foldl (foldStep dest) none = none := by
  induction is with
  | nil => rfl
  | cons i is ih => exact ih

theorem not_empty_of_pt (x : Poly) (n : Nat) (G : List Gen) (hp : ∃ g ∈ G, g.isPt = true)
    (hD : x.Denotes (GenSem n G)) : x.st.empty = false := by
  cases he : x.st.empty
  · rfl
  · have := nonempty_of_pt n G hp
    rw [hD.1 he] at this
    exact absurd this Set.not_nonempty_empty

/-- one iteration -/
theorem foldStep_facts (n dest i : Nat) (x x' : Poly) (G : List Gen) (hdest : dest < n)
    (hi : i ≠ dest ∧ i < n) (hx : x.WF) (hpo : x.PendOK) (hxn : x.dim = n)
    (hw : gensWF n G = true) (hp : ∃ g ∈ G, g.isPt = true) (hD : x.Denotes (GenSem n G))
    (h : foldStep dest (some x) i = some x') :
    x'.WF ∧ x'.PendOK ∧ x'.dim = n ∧ x'.nnc = x.nnc ∧
      x'.Denotes (GenSem n (hullGens [G, imgGens n dest i G])) := by
  have hem := not_empty_of_pt x n G hp hD
  unfold foldStep at h
  simp only [Option.bind_some] at h
  rw [if_neg (by simp [hem])] at h
  cases h1 : x.affine_image dest ⟨List.replicate i 0 ++ [1], 0⟩ 1 with
  | none => rw [h1] at h; cases h
  | some copy =>
    rw [h1] at h
    simp only [Option.bind_some] at h
    obtain ⟨hcw, hcd, hcn, hce, hcD⟩ := affine_image_noninv_facts x copy dest (varExpr i) _ hx hem
      (varExpr_getD i dest hi.1) (by rw [hxn]; exact hdest)
      (by rw [varExpr_length, hxn]; exact hi.2) hD h1
    rw [hxn, ← genSem_imgGens n dest i G hi.2 hdest] at hcD
    have hD' := poly_hull_assign_rows_correct x copy x' n G (imgGens n dest i G) hxn
      (hcd.trans hxn) hcn hx hcw hw (gensWF_imgGens n dest i G hw) (Or.inr hp)
      (Or.inr (imgGens_pt n dest i G hp)) hD hcD h
    have hW' := poly_hull_assign_rows_wf x copy x' hcd hcn hx hcw hpo.1 hpo.2 h
    obtain ⟨_, _, _, _, gs', _, hq⟩ := poly_hull_assign_main x copy x' hem hce
      (by rw [hxn]; omega) h
    rcases hq with ⟨hc, rfl⟩ | ⟨hc, rfl⟩
    · exact ⟨hW', pendOK_pendForm x gs' hpo hc, hxn, rfl, hD'⟩
    · exact ⟨hW', pendOK_dropForm x gs' hpo hc, hxn, rfl, hD'⟩

theorem fold_loop (n dest : Nat) (hdest : dest < n) : ∀ (is : List Nat) (x : Poly) (G : List Gen)
    (q : Poly), x.WF → x.PendOK → x.dim = n → (∀ i ∈ is, i ≠ dest ∧ i < n) → gensWF n G = true →
    (∃ g ∈ G, g.isPt = true) → x.Denotes (GenSem n G) →
    is.foldl (foldStep dest) (some x) = some q →
    q.WF ∧ q.dim = n ∧ q.nnc = x.nnc ∧ q.Denotes (GenSem n (foldAcc n dest is G)) := by
  intro is
  induction is with
  | nil =>
    intro x G q hx _ hxn _ _ _ hD h
    have : x = q := Option.some.inj h
    subst this
    exact ⟨hx, hxn, rfl, hD⟩
  | cons i is ih =>
    intro x G q hx hpo hxn his hw hp hD h
    rw [List.foldl_cons] at h
    cases hs : foldStep dest (some x) i with
    | none => rw [hs, foldl_foldStep_none] at h; cases h
    | some x' =>
      rw [hs] at h
      obtain ⟨hW', hpo', hxn', hnn', hD'⟩ := foldStep_facts n dest i x x' G hdest (his i (by simp))
        hx hpo hxn hw hp hD hs
      obtain ⟨r1, r2, r3, r4⟩ := ih x' _ q hW' hpo' hxn' (fun j hj => his j (by simp [hj]))
        (gensWF_hull2 n _ _ hw (gensWF_imgGens n dest i G hw))
        (by obtain ⟨g, hg, hpt⟩ := hp; exact ⟨g, (mem_hull2 _ _ g).mpr (Or.inl hg), hpt⟩) hD' h
      exact ⟨r1, r2, r3.trans hnn', r4⟩

theorem fold_loop_empty (dest : Nat) (x : Poly) (he : x.st.empty = true) (is : List Nat) :
    is.foldl (foldStep dest) (some x) = some x := by
  induction is with
  | nil => rfl
  | cons i is ih =>
    rw [List.foldl_cons]
    have : foldStep dest (some x) i = some x := by simp [foldStep, he]
    rw [this]; exact ih

/-- the final removal, for a polyhedron given by generators -/
theorem remove_after (x q : Poly) (n : Nat) (vars : List Nat) (G : List Gen) (hx : x.WF)
    (hxn : x.dim = n) (hw : gensWF n G = true) (hnd : vars.Nodup) (hlt : ∀ v ∈ vars, v < n)
    (hD : x.Denotes (GenSem n G)) (h : x.remove_space_dimensions vars = some q) :
    q.Denotes (selSet (otherVars n vars) (GenSem n G)) := by
  have := remove_space_dimensions_rows_correct x q vars (RefPoly.ofGens x.nnc n G) hxn.symm rfl
    (gensToCons_wf n G) hx hnd (by rw [hxn]; exact hlt)
    (by show x.Denotes (sem (gensToCons n G)); rw [sem_gensToCons n G hw]; exact hD) h
  rw [sem_removeDims _ _ (gensToCons_wf n G)] at this
  have hs : sem (RefPoly.ofGens x.nnc n G).cs = GenSem n G := sem_gensToCons n G hw
  rw [hs] at this
  exact this

theorem coordDet_GenSem (n : Nat) (G : List Gen) : CoordDet n (GenSem n G) := by
  intro x y h
  exact ⟨fun hx => GenSem_cylinder n G y x hx h, fun hy => GenSem_cylinder n G x y hy
    (fun i hi => (h i hi).symm)⟩

/-- **`Polyhedron::fold_space_dimensions(vars, dest)` at row level.** -/
theorem fold_space_dimensions_rows_correct (p q : Poly) (vars : List Nat) (dest : Nat)
    (ref : RefPoly) (gs : List Gen)
    (hn : ref.n = p.dim) (hp : p.WF) (hpo : p.PendOK) (hnd : vars.Nodup)
    (hlt : ∀ v ∈ vars, v < p.dim) (hdest : dest < p.dim) (hdv : dest ∉ vars)
    (hw : gensWF p.dim gs = true) (hpt : gs = [] ∨ ∃ g ∈ gs, g.isPt = true)
    (hD : p.Denotes (GenSem p.dim gs)) (h : p.fold_space_dimensions vars dest = some q) :
    q.Denotes (sem (RefPoly.foldGens ref vars dest gs).cs) := by
  rw [(sem_foldGens ref vars dest gs (by rw [hn]; exact hw)).1, hn]
  have hvars : ∀ i ∈ vars, i ≠ dest ∧ i < p.dim :=
    fun i hi => ⟨fun hid => hdv (hid ▸ hi), hlt i hi⟩
  -- the target when the input set is empty
  have hnil : gs = [] → q.Denotes ∅ →
      q.Denotes (GenSem (otherVars p.dim vars).length (hullGens (foldGenss p.dim vars dest gs))) := by
    intro hg hq
    rw [hg, genSem_fold_nil]; exact hq
  by_cases hv : vars = []
  · subst hv
    have hq : p = q := by
      unfold Poly.fold_space_dimensions at h
      simpa using h
    subst hq
    rcases hpt with hg | hpt
    · apply hnil hg
      rw [hg, GenSem_nil] at hD; exact hD
    · rw [← selSet_foldAcc p.dim dest [] gs hw hpt hvars, otherVars_nil,
        selSet_range _ _ (coordDet_GenSem _ _)]
      exact hD
  · have hv' : ¬ (vars.isEmpty = true) := by cases vars <;> simp at hv ⊢
    unfold Poly.fold_space_dimensions at h
    rw [if_neg hv'] at h
    change ((vars.foldl (foldStep dest)
      (if p.st.empty = true then some p else if (p.st.cPend || !p.st.gUp) = true then none else some p)).bind
        fun x => x.remove_space_dimensions vars) = some q at h
    cases he : p.st.empty
    · rw [he] at h
      simp only [Bool.false_eq_true, if_false] at h
      by_cases hc : (p.st.cPend || !p.st.gUp) = true
      · rw [if_pos hc, foldl_foldStep_none] at h; cases h
      · rw [if_neg hc] at h
        have hcp : p.st.cPend = false := by
          cases hh : p.st.cPend
          · rfl
          · simp [hh] at hc
        have hgu : p.st.gUp = true := by
          cases hh : p.st.gUp
          · simp [hh] at hc
          · rfl
        have hpt' : ∃ g ∈ gs, g.isPt = true :=
          pt_of_nonempty p.dim gs (denotes_gen_nonempty p _ hp he hgu hcp hD).2
        cases hl : vars.foldl (foldStep dest) (some p) with
        | none => rw [hl] at h; cases h
        | some x =>
          rw [hl] at h
          simp only [Option.bind_some] at h
          obtain ⟨hxw, hxn, _, hxD⟩ := fold_loop p.dim dest hdest vars p gs x hp hpo rfl hvars hw hpt' hD hl
          have := remove_after x q p.dim vars _ hxw hxn (foldAcc_wf p.dim dest vars gs hw hpt').1 hnd hlt
            hxD h
          rw [selSet_foldAcc p.dim dest vars gs hw hpt' hvars] at this
          exact this
    · rw [he] at h
      simp only [if_true] at h
      rw [fold_loop_empty dest p he vars] at h
      simp only [Option.bind_some] at h
      have hg : gs = [] := nil_of_genSem_empty p.dim gs hpt (hD.1 he)
      apply hnil hg
      have := remove_after p q p.dim vars gs hp rfl hw hnd hlt hD h
      rw [hD.1 he, selSet_empty] at this
      exact this

end PPLV.PolyOps

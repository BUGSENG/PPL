import PPLV.PolyOps.Sem

/-!
# the generator toolkit

Reading raw rows as K1 generators (`Row.toGen`), the "same admitted rows ⇒ same generated set"
principle (`genSem_congr_admits`), and the toolkit facts `Kit.nonempty`, `Kit.memEquiv`,
`Kit.strongNormalizeWF`.  First, the four ways a result comes to denote a set
(`denotes_of_empty`, `Poly.Denotes.of_gens`, `.of_cons`, `.transport`), in which every operator proof ends,
and their counterparts for `Poly.WF`.
-/
namespace PPLV.PolyOps
open PPLV.Lin

/-- a map that sends the default to the default commutes with `getD` (columns beyond the end read as `0`) -/
theorem getD_map_default {α β : Type} (f : α → β) {a0 : α} {b0 : β} (hf : f a0 = b0) (l : List α) (i : Nat) :
    (l.map f).getD i b0 = f (l.getD i a0) := by
  rw [List.getD_eq_getElem?_getD, List.getD_eq_getElem?_getD, List.getElem?_map]
  cases l[i]? with
  | none => exact hf.symm
  | some a => rfl

/-! ### the ways a result denotes a set, or is well formed -/

/-- a polyhedron that is marked empty denotes the empty set only -/
theorem denotes_of_empty (p : Poly) (S : Set Val) (he : p.st.empty = true) (hS : S = ∅) :
    p.Denotes S :=
  ⟨fun _ => hS, fun h' => by rw [he] at h'; cases h'⟩

/-- the flags `Poly.Denotes` reads agree -/
def SameFlags (s t : Status) : Prop :=
  s.empty = t.empty ∧ s.cUp = t.cUp ∧ s.gUp = t.gUp ∧ s.cPend = t.cPend ∧ s.gPend = t.gPend

theorem sameFlags_of_eq {s t : Status} (h : s = t) : SameFlags s t := by
  subst h
  exact ⟨rfl, rfl, rfl, rfl, rfl⟩

namespace Poly.Denotes

/-- the generators are held, the constraints not or only up to pending generators -/
theorem of_gens {q : Poly} {T : Set Val} (h1 : q.st.empty = false)
    (h2 : q.st.cUp = false ∨ q.st.gPend = true) (h3 : q.st.gUp = true)
    (hT : genSem q.nnc q.dim q.gs.rows = T) : q.Denotes T := by
  refine ⟨fun h => (by rw [h1] at h; cases h), fun _ => ⟨fun hc hg => ?_, fun _ _ => hT,
    fun _ h => (by rw [h3] at h; cases h)⟩⟩
  rcases h2 with h | h
  · rw [hc] at h
    cases h
  · rw [hg] at h
    cases h

/-- the constraints are held, the generators not or only up to pending constraints -/
theorem of_cons {q : Poly} {T : Set Val} (h1 : q.st.empty = false)
    (h2 : q.st.cUp = true) (h3 : q.st.gUp = false ∨ q.st.cPend = true)
    (hT : conSem q.nnc q.cs.rows = T) : q.Denotes T := by
  refine ⟨fun h => (by rw [h1] at h; cases h), fun _ => ⟨fun _ _ => hT, fun hg hc => ?_,
    fun h => (by rw [h2] at h; cases h)⟩⟩
  rcases h3 with h | h
  · rw [hg] at h
    cases h
  · rw [hc] at h
    cases h

/-- If `q` has the flags of the non-empty `p`, which holds some description, and each description
    `p` holds for `S` has become one of `T` in `q`, then `q` denotes `T`. -/
theorem transport {p q : Poly} {S T : Set Val} (hD : p.Denotes S)
    (hem : p.st.empty = false) (hup : p.st.cUp = true ∨ p.st.gUp = true)
    (hst : SameFlags q.st p.st)
    (hc : p.st.cUp = true → conSem p.nnc p.cs.rows = S → conSem q.nnc q.cs.rows = T)
    (hg : p.st.gUp = true → genSem p.nnc p.dim p.gs.rows = S → genSem q.nnc q.dim q.gs.rows = T) :
    q.Denotes T := by
  obtain ⟨h1, h2, h3, h4, h5⟩ := hst
  obtain ⟨hDc, hDg, _⟩ := hD.2 hem
  unfold Poly.Denotes
  rw [h1, h2, h3, h4, h5]
  refine ⟨fun h => ?_, fun _ => ⟨fun hcu hgp => hc hcu (hDc hcu hgp),
    fun hgu hcp => hg hgu (hDg hgu hcp), fun hcu hgu => ?_⟩⟩
  · rw [hem] at h
    cases h
  · rcases hup with h | h
    · rw [hcu] at h
      cases h
    · rw [hgu] at h
      cases h

end Poly.Denotes

namespace Poly.WF

/-- only generators are held, nothing is pending: well formed when the rows are and one is a point -/
theorem of_gens {q : Poly} (h2 : q.st.cUp = false) (h3 : q.st.gUp = true)
    (h4 : q.st.cPend = false) (h5 : q.st.gPend = false) (hd : q.dim ≠ 0)
    (hwf : ∀ r ∈ q.gs.rows, r.genWF q.nnc q.dim) (hpt : ∃ r ∈ q.gs.rows, r.isPoint q.nnc) : q.WF :=
  ⟨fun _ h => (by rw [h2] at h; cases h), fun _ _ => hwf, fun _ _ => hpt,
    fun h => (by rw [h4] at h; cases h), fun h => (by rw [h5] at h; cases h),
    fun h => (by rw [h4] at h; cases h.1), fun _ _ => .inr h3, fun h => absurd h hd⟩

/-- status word, topology and dimension kept; every held description replaced by a well-formed one -/
theorem transport {p q : Poly} (hp : p.WF) (hst : q.st = p.st) (hn : q.nnc = p.nnc)
    (hd : q.dim = p.dim)
    (hc : p.st.empty = false → p.st.cUp = true → ∀ r ∈ q.cs.rows, r.cf.length = p.dim)
    (hg : p.st.empty = false → p.st.gUp = true →
      (∀ r ∈ q.gs.rows, r.genWF p.nnc p.dim) ∧ ∃ r ∈ q.gs.rows, r.isPoint p.nnc) : q.WF := by
  refine ⟨?_, ?_, ?_, ?_, ?_, ?_, ?_, ?_⟩ <;> rw [hst]
  · rw [hd]
    exact hc
  · rw [hn, hd]
    exact fun he hgu => (hg he hgu).1
  · rw [hn]
    exact fun he hgu => (hg he hgu).2
  · exact hp.pend_c
  · exact hp.pend_g
  · exact hp.pend_one
  · rw [hd]
    exact hp.some_up
  · rw [hd]
    exact hp.zero_dim

end Poly.WF

/-! ### `Row.toGen` -/

theorem toGen_coords (nnc : Bool) (r : Row) : (r.toGen nnc).coords = r.cf := by
  unfold Row.toGen
  split
  · rfl
  · split
    · rfl
    · split <;> rfl

theorem toGen_eq (nnc : Bool) (r : Row) (h : r.eq = true) : r.toGen nnc = ⟨.line, r.cf, 1⟩ := by
  unfold Row.toGen; rw [if_pos h]

theorem toGen_ray (nnc : Bool) (r : Row) (h : r.eq = false) (hb : r.b = 0) :
    r.toGen nnc = ⟨.ray, r.cf, 1⟩ := by
  unfold Row.toGen; simp [h, hb]

theorem toGen_cp (nnc : Bool) (r : Row) (h : r.eq = false) (hb : r.b ≠ 0) (hn : nnc = true)
    (he : r.eps = 0) : r.toGen nnc = ⟨.cpoint, r.cf, r.b⟩ := by
  unfold Row.toGen; simp [h, hb, hn, he]

theorem toGen_pt (nnc : Bool) (r : Row) (h : r.eq = false) (hb : r.b ≠ 0)
    (hn : ¬ (nnc = true ∧ r.eps = 0)) : r.toGen nnc = ⟨.point, r.cf, r.b⟩ := by
  unfold Row.toGen
  have : (nnc && r.eps == 0) = false := by
    cases nnc <;> simp_all
  simp [h, hb, this]

/-- the four shapes of a raw generator row -/
inductive RowShape (nnc : Bool) (r : Row) : Prop
  | line (h : r.eq = true) (hg : r.toGen nnc = ⟨.line, r.cf, 1⟩)
  | ray (h : r.eq = false) (hb : r.b = 0) (hg : r.toGen nnc = ⟨.ray, r.cf, 1⟩)
  | cp (h : r.eq = false) (hb : r.b ≠ 0) (hn : nnc = true) (he : r.eps = 0)
      (hg : r.toGen nnc = ⟨.cpoint, r.cf, r.b⟩)
  | pt (h : r.eq = false) (hb : r.b ≠ 0) (hn : ¬ (nnc = true ∧ r.eps = 0))
      (hg : r.toGen nnc = ⟨.point, r.cf, r.b⟩)

theorem rowShape (nnc : Bool) (r : Row) : RowShape nnc r := by
  by_cases h : r.eq = true
  · exact .line h (toGen_eq nnc r h)
  · have h' : r.eq = false := by simpa using h
    by_cases hb : r.b = 0
    · exact .ray h' hb (toGen_ray nnc r h' hb)
    · by_cases hn : nnc = true ∧ r.eps = 0
      · exact .cp h' hb hn.1 hn.2 (toGen_cp nnc r h' hb hn.1 hn.2)
      · exact .pt h' hb hn (toGen_pt nnc r h' hb hn)

theorem toGen_wf (nnc : Bool) (n : Nat) (r : Row) (h : r.genWF nnc n) :
    (r.toGen nnc).coords.length ≤ n ∧ 0 < (r.toGen nnc).d := by
  obtain ⟨h1, h2, -⟩ := h
  refine ⟨by rw [toGen_coords, h1], ?_⟩
  rcases rowShape nnc r with ⟨_, hg⟩ | ⟨_, _, hg⟩ | ⟨_, hb, _, _, hg⟩ | ⟨_, hb, _, hg⟩ <;> rw [hg] <;>
    simp [Gen.d, Gen.isPtOrCp] <;> omega

theorem gensWF_gensOf (nnc : Bool) (n : Nat) (rows : List Row) (h : ∀ r ∈ rows, r.genWF nnc n) :
    gensWF n (gensOf nnc rows) = true := by
  unfold gensWF gensOf
  simp only [List.all_eq_true, List.mem_map, Bool.and_eq_true, decide_eq_true_eq]
  rintro g ⟨r, hr, rfl⟩
  exact toGen_wf nnc n r (h r hr)

theorem toGen_isPt_iff (nnc : Bool) (n : Nat) (r : Row) (h : r.genWF nnc n) :
    (r.toGen nnc).isPt = true ↔ r.isPoint nnc := by
  obtain ⟨_, h2, h3, _, h5, _⟩ := h
  unfold Row.isPoint
  rcases rowShape nnc r with ⟨he, hg⟩ | ⟨he, hb, hg⟩ | ⟨he, hb, hn, hz, hg⟩ | ⟨he, hb, hn, hg⟩ <;>
    rw [hg] <;> simp [Gen.isPt, he]
  · intro hb'; omega
  · intro _; exact ⟨hn, by omega⟩
  · refine ⟨by omega, fun hn' => ?_⟩
    have : r.eps ≠ 0 := fun hz => hn ⟨hn', hz⟩
    omega

theorem gensOf_pt (nnc : Bool) (n : Nat) (rows : List Row) (h : ∀ r ∈ rows, r.genWF nnc n) :
    (∃ g ∈ gensOf nnc rows, g.isPt = true) ↔ ∃ r ∈ rows, r.isPoint nnc := by
  unfold gensOf
  simp only [List.mem_map]
  constructor
  · rintro ⟨g, ⟨r, hr, rfl⟩, hp⟩
    exact ⟨r, hr, (toGen_isPt_iff nnc n r (h r hr)).mp hp⟩
  · rintro ⟨r, hr, hp⟩
    exact ⟨_, ⟨r, hr, rfl⟩, (toGen_isPt_iff nnc n r (h r hr)).mpr hp⟩

/-! ### a system without a point generates nothing; same admitted rows ⇒ same set -/

theorem GenSem_no_point (n : Nat) (gs : List Gen) (h : ¬ ∃ g ∈ gs, g.isPt = true) :
    GenSem n gs = ∅ := by
  ext x
  simp only [Set.mem_empty_iff_false, iff_false]
  rintro ⟨lam, _, _, ⟨j, hj, hp, _⟩, _⟩
  exact h ⟨_, mem_getD gs j hj, hp⟩

theorem genSem_subset_of_admits (n : Nat) (A B : List Gen) (hB : gensWF n B = true)
    (hpB : ∃ g ∈ B, g.isPt = true)
    (hadm : ∀ c : Con, c.coeffs.length ≤ n → (∀ g ∈ B, rowAdmits c g) → ∀ g ∈ A, rowAdmits c g) :
    GenSem n A ⊆ GenSem n B := by
  rw [← sem_gensToCons n B hB, subset_sem_iff]
  intro c hc
  have hlen := gensToCons_wf n B c hc
  apply genSem_row_of_admits n A c hlen
  apply hadm c hlen
  apply (genSem_subset_row_iff n B hpB c hlen).mp
  rw [← sem_gensToCons n B hB]
  exact fun x hx => hx c hc

/-- two well-formed generator systems admitting the same rows generate the same set -/
theorem genSem_congr_admits (n : Nat) (A B : List Gen) (hA : gensWF n A = true)
    (hB : gensWF n B = true) (hpt : (∃ g ∈ A, g.isPt = true) ↔ ∃ g ∈ B, g.isPt = true)
    (hadm : ∀ c : Con, c.coeffs.length ≤ n → ((∀ g ∈ A, rowAdmits c g) ↔ ∀ g ∈ B, rowAdmits c g)) :
    GenSem n A = GenSem n B := by
  by_cases hpA : ∃ g ∈ A, g.isPt = true
  · have hpB := hpt.mp hpA
    exact Set.Subset.antisymm
      (genSem_subset_of_admits n A B hB hpB fun c hc => (hadm c hc).mpr)
      (genSem_subset_of_admits n B A hA hpA fun c hc => (hadm c hc).mp)
  · have hpB : ¬ ∃ g ∈ B, g.isPt = true := fun h => hpA (hpt.mpr h)
    rw [GenSem_no_point n A hpA, GenSem_no_point n B hpB]

/-- row-wise version: a row transformer that keeps well-formedness, pointness and the admitted
    rows of every single generator keeps the generated set -/
theorem genSem_map_congr (nnc : Bool) (n : Nat) (rows : List Row) (f : Row → Row)
    (hwf : ∀ r ∈ rows, r.genWF nnc n) (hwf' : ∀ r ∈ rows, (f r).genWF nnc n)
    (hpt : ∀ r ∈ rows, (f r).isPoint nnc ↔ r.isPoint nnc)
    (hadm : ∀ r ∈ rows, ∀ c : Con, rowAdmits c ((f r).toGen nnc) ↔ rowAdmits c (r.toGen nnc)) :
    genSem nnc n (rows.map f) = genSem nnc n rows := by
  have hwf'' : ∀ r ∈ rows.map f, r.genWF nnc n := by
    intro r hr
    obtain ⟨r0, hr0, rfl⟩ := List.mem_map.mp hr
    exact hwf' r0 hr0
  unfold genSem
  apply genSem_congr_admits n _ _ (gensWF_gensOf nnc n _ hwf'') (gensWF_gensOf nnc n _ hwf)
  · rw [gensOf_pt nnc n _ hwf'', gensOf_pt nnc n _ hwf]
    simp only [List.mem_map]
    constructor
    · rintro ⟨r, ⟨r0, hr0, rfl⟩, hp⟩; exact ⟨r0, hr0, (hpt r0 hr0).mp hp⟩
    · rintro ⟨r, hr, hp⟩; exact ⟨f r, ⟨r, hr, rfl⟩, (hpt r hr).mpr hp⟩
  · intro c _
    unfold gensOf
    simp only [List.mem_map]
    constructor
    · rintro h g ⟨r, hr, rfl⟩
      exact (hadm r hr c).mp (h _ ⟨f r, ⟨r, hr, rfl⟩, rfl⟩)
    · rintro h g ⟨r, ⟨r0, hr0, rfl⟩, rfl⟩
      exact (hadm r0 hr0 c).mpr (h _ ⟨r0, hr0, rfl⟩)

/-! ### `Kit.nonempty`, `Kit.memEquiv` -/

theorem kit_nonempty : Kit.nonempty := by
  intro nnc n rows hwf hpt
  obtain ⟨g, hg, hp⟩ := (gensOf_pt nnc n rows hwf).mpr hpt
  exact ⟨g.vec, genSem_point n _ g hg hp _ (fun _ _ => rfl)⟩

theorem kit_memEquiv : Kit.memEquiv := by
  intro n A B hA hAB
  have hB : gensWF n B = true := by
    unfold gensWF at hA ⊢
    rw [List.all_eq_true] at hA ⊢
    exact fun g hg => hA g ((hAB g).mpr hg)
  apply genSem_congr_admits n A B hA hB
  · exact ⟨fun ⟨g, hg, hp⟩ => ⟨g, (hAB g).mp hg, hp⟩, fun ⟨g, hg, hp⟩ => ⟨g, (hAB g).mpr hg, hp⟩⟩
  · intro c _
    exact ⟨fun h g hg => h g ((hAB g).mpr hg), fun h g hg => h g ((hAB g).mp hg)⟩

/-! ### normalisation: shape and well-formedness -/

theorem rowGcd_dvd_b (r : Row) : ((r.gcd : Nat) : Int) ∣ r.b :=
  Int.natCast_dvd.mpr (Nat.gcd_dvd_left _ _)

theorem rowGcd_dvd_eps (r : Row) : ((r.gcd : Nat) : Int) ∣ r.eps :=
  Int.natCast_dvd.mpr (dvd_trans (Nat.gcd_dvd_right _ _) (Nat.gcd_dvd_right _ _))

theorem rowGcd_dvd_cf (r : Row) (a : Int) (ha : a ∈ r.cf) : ((r.gcd : Nat) : Int) ∣ a :=
  dvd_trans (Int.natCast_dvd_natCast.mpr (dvd_trans (Nat.gcd_dvd_right _ _) (Nat.gcd_dvd_left _ _)))
    (gcdList_dvd _ a ha)

/-- the row divided by `g` -/
def Row.divBy (g : Int) (r : Row) : Row := ⟨r.eq, r.b / g, r.cf.map (· / g), r.eps / g⟩

/-- `normalize` divides by a positive common divisor of all columns -/
theorem normalize_eq (r : Row) : ∃ g : Int, 0 < g ∧ g ∣ r.b ∧ g ∣ r.eps ∧ (∀ a ∈ r.cf, g ∣ a) ∧
    r.normalize = r.divBy g := by
  unfold Row.normalize
  simp only
  split
  · refine ⟨1, Int.one_pos, one_dvd _, one_dvd _, fun _ _ => one_dvd _, ?_⟩
    cases r
    simp [Row.divBy]
  · rename_i hg
    refine ⟨(r.gcd : Int), by omega, rowGcd_dvd_b r, rowGcd_dvd_eps r, rowGcd_dvd_cf r, rfl⟩

theorem signNormalize_eq (r : Row) :
    r.signNormalize = r ∨ (r.eq = true ∧ r.signNormalize = r.scale (-1)) := by
  unfold Row.signNormalize
  split
  · rename_i h
    simp only [Bool.and_eq_true] at h
    exact Or.inr ⟨h.1, rfl⟩
  · exact Or.inl rfl

theorem divBy_genWF (nnc : Bool) (n : Nat) (r : Row) (g : Int) (hg : 0 < g) (hb : g ∣ r.b)
    (he : g ∣ r.eps) (h : r.genWF nnc n) :
    (r.divBy g).genWF nnc n ∧ (r.isPoint nnc → (r.divBy g).isPoint nnc) := by
  obtain ⟨h1, h2, h3, h4, h5, h6⟩ := h
  obtain ⟨qb, hqb⟩ := hb
  obtain ⟨qe, hqe⟩ := he
  have hgne : g ≠ 0 := ne_of_gt hg
  have eb : r.b / g = qb := by rw [hqb, Int.mul_ediv_cancel_left _ hgne]
  have ee : r.eps / g = qe := by rw [hqe, Int.mul_ediv_cancel_left _ hgne]
  have z : ∀ q : Int, g * q = 0 ↔ q = 0 := fun q => mul_eq_zero_iff_left hgne
  unfold Row.genWF Row.isPoint Row.divBy
  simp only [List.length_map, eb, ee]
  rw [hqb] at h2 h4 h5
  rw [hqe] at h3 h5 h6
  refine ⟨⟨h1, (mul_nonneg_iff_of_pos_left hg).mp h2, (mul_nonneg_iff_of_pos_left hg).mp h3,
    fun h => (z qb).mp (h4 h), fun h => (z qe).mp (h5 ((z qb).mpr h)), fun h => (z qe).mp (h6 h)⟩, ?_⟩
  rintro ⟨p1, p2, p3⟩
  rw [hqb] at p2
  rw [hqe] at p3
  exact ⟨p1, (mul_pos_iff_of_pos_left hg).mp p2, fun h => (mul_pos_iff_of_pos_left hg).mp (p3 h)⟩

theorem normalize_genWF (nnc : Bool) (n : Nat) (r : Row) (h : r.genWF nnc n) :
    r.normalize.genWF nnc n ∧ (r.isPoint nnc → r.normalize.isPoint nnc) := by
  obtain ⟨g, hg, hb, he, _, heq⟩ := normalize_eq r
  rw [heq]
  exact divBy_genWF nnc n r g hg hb he h

theorem signNormalize_genWF (nnc : Bool) (n : Nat) (r : Row) (h : r.genWF nnc n) :
    r.signNormalize.genWF nnc n ∧ (r.isPoint nnc → r.signNormalize.isPoint nnc) := by
  rcases signNormalize_eq r with heq | ⟨hl, heq⟩
  · rw [heq]; exact ⟨h, id⟩
  · rw [heq]
    obtain ⟨h1, h2, h3, h4, h5, h6⟩ := h
    have hb := h4 hl
    have he := h5 hb
    refine ⟨?_, fun hp => ?_⟩
    · unfold Row.genWF Row.scale
      simp [h1, hb, he]
    · have := hp.1; rw [hl] at this; cases this

theorem kit_strongNormalizeWF : Kit.strongNormalizeWF := by
  intro nnc n r h
  have hn := normalize_genWF nnc n r h
  have hs := signNormalize_genWF nnc n r.normalize hn.1
  exact ⟨hs.1, hn.1, fun hp => ⟨hs.2 (hn.2 hp), hn.2 hp⟩⟩

end PPLV.PolyOps

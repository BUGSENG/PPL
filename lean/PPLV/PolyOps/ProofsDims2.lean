import PPLV.PolyOps.ProofsDims

/-!
# `add_space_dimensions_and_project` / `add_space_dimensions_and_embed` at row level
-/
namespace PPLV.PolyOps
open PPLV.Lin


/-- a generator system of dimension `0` with a point generates everything -/
theorem genSem_zero_univ (nnc : Bool) (rows : List Row) (hwf : ∀ r ∈ rows, r.genWF nnc 0)
    (hpt : ∃ r ∈ rows, r.isPoint nnc) : genSem nnc 0 rows = Set.univ := by
  obtain ⟨x, hx⟩ := kit_nonempty nnc 0 rows hwf hpt
  ext w
  simp only [Set.mem_univ, iff_true]
  exact GenSem_cylinder 0 _ w x hx fun i hi => by omega

/-- the generators of the origin of `ℚ^m` built by `add_space_dimensions_and_project` from the
    zero-dimensional universe -/
theorem genSem_origin (nnc : Bool) (m : Nat) :
    genSem nnc m ((if nnc then [(⟨false, 1, List.replicate m 0, 0⟩ : Row)] else []) ++
        [(⟨false, 1, List.replicate m 0, if nnc then 1 else 0⟩ : Row)]) = projSet 0 m Set.univ := by
  have hrows : ((if nnc then [(⟨false, 1, List.replicate m 0, 0⟩ : Row)] else []) ++
        [(⟨false, 1, List.replicate m 0, if nnc then 1 else 0⟩ : Row)]) =
      ((if nnc then [(⟨false, 1, [], 0⟩ : Row)] else []) ++
        [(⟨false, 1, [], if nnc then 1 else 0⟩ : Row)]).map (Row.addZeroCols m) := by
    cases nnc <;> simp [Row.addZeroCols]
  have hwf0 : ∀ r ∈ ((if nnc then [(⟨false, 1, [], 0⟩ : Row)] else []) ++
        [(⟨false, 1, [], if nnc then 1 else 0⟩ : Row)]), r.genWF nnc 0 := by
    intro r hr
    cases nnc <;> simp at hr
    · subst hr; simp [Row.genWF]
    · rcases hr with rfl | rfl <;> simp [Row.genWF]
  have hpt0 : ∃ r ∈ ((if nnc then [(⟨false, 1, [], 0⟩ : Row)] else []) ++
        [(⟨false, 1, [], if nnc then 1 else 0⟩ : Row)]), r.isPoint nnc := by
    refine ⟨⟨false, 1, [], if nnc then 1 else 0⟩, by simp, ?_⟩
    cases nnc <;> simp [Row.isPoint]
  have h := genSem_addZeroCols nnc 0 m _ hwf0
  rw [Nat.zero_add] at h
  rw [hrows, h, genSem_zero_univ nnc _ hwf0 hpt0]

/-- positive dimension, not empty: the flags stay, every held description is extended -/
theorem add_space_dimensions_and_project_shape (p q : Poly) (m : Nat) (hm : m ≠ 0)
    (hd : p.dim ≠ 0) (hem : p.st.empty = false) (hq : p.add_space_dimensions_and_project m = q) :
    q.nnc = p.nnc ∧ q.dim = p.dim + m ∧ SameFlags q.st p.st ∧
    (p.st.cUp = true → q.cs = p.cs.addUniverseRows p.nnc p.dim m) ∧
    (p.st.gUp = true → q.gs = p.gs.addZeroCols m) := by
  have hm0 : (m == 0) = false := by simpa using hm
  have hd0 : (p.dim == 0) = false := by simpa using hd
  subst hq
  unfold Poly.add_space_dimensions_and_project
  rw [hm0, hd0, hem]
  cases hcu : p.st.cUp <;> cases hgu : p.st.gUp <;> simp [SameFlags]

/-- **`Polyhedron::add_space_dimensions_and_project` at row level.** -/
theorem add_space_dimensions_and_project_rows_correct (p : Poly) (m : Nat) (ref : RefPoly)
    (hn : ref.n = p.dim) (_hnnc : ref.nnc = p.nnc) (_hwf : WF ref.n ref.cs) (hp : p.WF)
    (hD : p.Denotes (sem ref.cs)) :
    (p.add_space_dimensions_and_project m).Denotes (sem (ref.addDimsProject m).cs) := by
  rw [sem_addDimsProject, hn]
  by_cases hm : m = 0
  · subst hm
    rw [projSet_zero]
    exact hD
  have hm0 : (m == 0) = false := by simpa using hm
  cases hem : p.st.empty
  · by_cases hd : p.dim = 0
    · -- the zero-dimensional universe: the origin of `ℚ^m`
      have hd0 : (p.dim == 0) = true := by simpa using hd
      obtain ⟨hc0, hg0⟩ := hp.zero_dim hd
      unfold Poly.add_space_dimensions_and_project
      simp only [hm0, hem, hd0, Bool.false_eq_true, if_false, if_true]
      refine .of_gens rfl (.inl hc0) rfl ?_
      show genSem p.nnc m _ = _
      rw [genSem_origin, (hD.2 hem).2.2 hc0 hg0, hd]
    · obtain ⟨hqn, hqd, hst, hcs, hgs⟩ :=
        add_space_dimensions_and_project_shape p _ m hm hd hem rfl
      refine hD.transport hem (hp.some_up hem (by omega)) hst (fun hcu hS => ?_) fun hgu hS => ?_
      · rw [hqn, hcs hcu, conSem_addUniverseRows p.nnc p.dim m p.cs (by omega), hS]
      · rw [hqn, hqd, hgs hgu]
        exact (genSem_addZeroCols p.nnc p.dim m _ (hp.gs_wf hem hgu)).trans (by rw [hS])
  · -- marked empty
    unfold Poly.add_space_dimensions_and_project
    simp only [hm0, hem, Bool.false_eq_true, if_false, if_true]
    rw [hD.1 hem, projSet_empty]
    exact denotes_of_empty _ _ hem rfl

/-- the low-level constraints of the universe hold everywhere -/
theorem conSem_lowLevelCons (nnc : Bool) (m : Nat) : conSem nnc (lowLevelCons nnc m) = Set.univ := by
  ext w
  simp only [Set.mem_univ, iff_true]
  rw [mem_conSem]
  intro r hr
  cases nnc
  · simp only [lowLevelCons, Bool.false_eq_true, if_false, List.mem_cons, List.not_mem_nil,
      or_false] at hr
    subst hr
    unfold Row.Holds Row.ev
    simp [dot_replicate_zero]
  · simp only [lowLevelCons, if_true, List.mem_cons, List.not_mem_nil, or_false] at hr
    rcases hr with rfl | rfl <;> unfold Row.Holds Row.ev <;> simp [dot_replicate_zero]

/-- positive dimension, not empty: the flags stay, every held description is extended -/
theorem add_space_dimensions_and_embed_shape (p q : Poly) (m : Nat) (hm : m ≠ 0)
    (hd : p.dim ≠ 0) (hem : p.st.empty = false) (hq : p.add_space_dimensions_and_embed m = q) :
    q.nnc = p.nnc ∧ q.dim = p.dim + m ∧ SameFlags q.st p.st ∧
    (p.st.cUp = true → q.cs = p.cs.addZeroCols m) ∧
    (p.st.gUp = true → q.gs = p.gs.addUniverseRows p.nnc p.dim m) := by
  have hm0 : (m == 0) = false := by simpa using hm
  have hd0 : (p.dim == 0) = false := by simpa using hd
  subst hq
  unfold Poly.add_space_dimensions_and_embed
  rw [hm0, hd0, hem]
  cases hcu : p.st.cUp <;> cases hgu : p.st.gUp <;> simp [SameFlags]

/-- **`Polyhedron::add_space_dimensions_and_embed` at row level**: the same set of valuations
    (`sem (ref.addDimsEmbed m).cs = sem ref.cs`), now of dimension `p.dim + m`. -/
theorem add_space_dimensions_and_embed_rows_correct (p : Poly) (m : Nat) (ref : RefPoly)
    (_hn : ref.n = p.dim) (_hnnc : ref.nnc = p.nnc) (_hwf : WF ref.n ref.cs) (hp : p.WF)
    (hD : p.Denotes (sem ref.cs)) :
    (p.add_space_dimensions_and_embed m).Denotes (sem (ref.addDimsEmbed m).cs) := by
  show (p.add_space_dimensions_and_embed m).Denotes (sem ref.cs)
  by_cases hm : m = 0
  · subst hm
    exact hD
  have hm0 : (m == 0) = false := by simpa using hm
  cases hem : p.st.empty
  · by_cases hd : p.dim = 0
    · have hd0 : (p.dim == 0) = true := by simpa using hd
      obtain ⟨hc0, hg0⟩ := hp.zero_dim hd
      unfold Poly.add_space_dimensions_and_embed
      simp only [hm0, hem, hd0, Bool.false_eq_true, if_false, if_true]
      refine .of_cons rfl rfl (.inl rfl) ?_
      show conSem p.nnc (lowLevelCons p.nnc m) = _
      rw [conSem_lowLevelCons, (hD.2 hem).2.2 hc0 hg0]
    · obtain ⟨hqn, hqd, hst, hcs, hgs⟩ :=
        add_space_dimensions_and_embed_shape p _ m hm hd hem rfl
      refine hD.transport hem (hp.some_up hem (by omega)) hst (fun hcu hS => ?_) fun hgu hS => ?_
      · rw [hqn, hcs hcu]
        exact (conSem_addZeroCols p.nnc m p.cs.rows).trans hS
      · rw [hqn, hqd, hgs hgu,
          genSem_addUniverseRows p.nnc p.dim m p.gs (by omega) (hp.gs_wf hem hgu), hS]
  · unfold Poly.add_space_dimensions_and_embed
    simp only [hm0, hem, Bool.false_eq_true, if_false, if_true]
    rw [hD.1 hem]
    exact denotes_of_empty _ _ hem rfl

end PPLV.PolyOps

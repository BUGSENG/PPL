import PPLV.PolyOps.ProofsDims8
import Mathlib.Algebra.BigOperators.Ring.Finset

/-!
# `map_space_dimensions`: renaming the coefficients of a constraint row

`dot (mapCoords f N l) w = dot l (pull f w)`: evaluating the renamed row at `w` is evaluating the
row at the valuation pulled back along `f` (sums exchanged through `Finset.sum_comm`).
-/
namespace PPLV.PolyOps
open PPLV.Lin


theorem dot_eq_sum (l : List Int) (w : Val) :
    dot l w = ∑ i ∈ Finset.range l.length, ((l.getD i 0 : Int) : Rat) * w i := by
  induction l generalizing w with
  | nil => simp
  | cons a t ih =>
    rw [dot_cons, ih, List.length_cons, Finset.sum_range_succ']
    simp only [List.getD_cons_succ, List.getD_cons_zero, Val.tail]
    ring

/-- the valuation of the old variables read off the valuation `w` of the new ones -/
def pull (f : List (Option Nat)) (w : Val) : Val := fun j => (f.getD j none).elim 0 w

theorem pull_some (f : List (Option Nat)) (w : Val) (j k : Nat) (h : f.getD j none = some k) :
    pull f w j = w k := by
  unfold pull; rw [h]; rfl

theorem pull_none (f : List (Option Nat)) (w : Val) (j : Nat) (h : f.getD j none = none) :
    pull f w j = 0 := by
  unfold pull; rw [h]; rfl

theorem mapCoords_getD (f : List (Option Nat)) (N : Nat) (l : List Int) (k : Nat) (hk : k < N) :
    (mapCoords f N l).getD k 0 = (invIdx f k).elim 0 (fun j => l.getD j 0) := by
  unfold mapCoords
  rw [List.getD_eq_getElem?_getD, List.getElem?_map, List.getElem?_range hk]
  show (match invIdx f k with | some j => l.getD j 0 | none => 0) = _
  cases invIdx f k <;> rfl

theorem dot_mapCoords (f : List (Option Nat)) (n N : Nat) (l : List Int) (w : Val)
    (hlen : f.length = n) (hl : l.length = n)
    (hinj : ∀ j j' k, f.getD j none = some k → f.getD j' none = some k → j = j')
    (hcod : ∀ j k, f.getD j none = some k → k < N) :
    dot (mapCoords f N l) w = dot l (pull f w) := by
  have hL : ∀ k ∈ Finset.range N, (((mapCoords f N l).getD k 0 : Int) : Rat) * w k =
      ∑ j ∈ Finset.range n, if f.getD j none = some k then ((l.getD j 0 : Int) : Rat) * w k else 0 := by
    intro k hk
    rw [mapCoords_getD f N l k (Finset.mem_range.mp hk)]
    cases hi : invIdx f k with
    | none =>
      rw [Finset.sum_eq_zero]
      · simp
      · intro j hj
        have := List.find?_eq_none.mp hi j (List.mem_range.mpr (by rw [hlen]; exact Finset.mem_range.mp hj))
        rw [if_neg (by simpa using this)]
    | some j0 =>
      have hj0 := invIdx_some f k j0 hi
      rw [Finset.sum_eq_single j0]
      · rw [if_pos hj0]; rfl
      · intro j _ hne
        rw [if_neg (fun hjk => hne (hinj j j0 k hjk hj0))]
      · intro hnot
        exact absurd (Finset.mem_range.mpr (by rw [← hlen]; exact getD_some_lt f j0 k hj0)) hnot
  have hR : ∀ j ∈ Finset.range n, ((l.getD j 0 : Int) : Rat) * pull f w j =
      ∑ k ∈ Finset.range N, if f.getD j none = some k then ((l.getD j 0 : Int) : Rat) * w k else 0 := by
    intro j _
    cases hfj : f.getD j none with
    | none =>
      rw [pull_none f w j hfj, Finset.sum_eq_zero]
      · ring
      · intro k _; rw [if_neg (by simp)]
    | some k0 =>
      rw [pull_some f w j k0 hfj, Finset.sum_eq_single k0]
      · rw [if_pos rfl]
      · intro k _ hne
        rw [if_neg (fun h => hne (Option.some.inj h).symm)]
      · intro hnot
        exact absurd (Finset.mem_range.mpr (hcod j k0 hfj)) hnot
  rw [dot_eq_sum, mapCoords_length, Finset.sum_congr rfl hL, Finset.sum_comm,
    ← Finset.sum_congr rfl hR, dot_eq_sum, hl]

/-! ### totality of a bijection -/

theorem total_of_bij (f : List (Option Nat)) (n : Nat) (hlen : f.length = n)
    (hinj : ∀ j j' k, f.getD j none = some k → f.getD j' none = some k → j = j')
    (hsurj : ∀ k < n, ∃ j, f.getD j none = some k) :
    ∀ j < n, ∃ k, f.getD j none = some k := by
  classical
  have hg : ∀ k < n, f.getD ((invIdx f k).getD 0) none = some k := by
    intro k hk
    obtain ⟨j, hj⟩ := hsurj k hk
    rw [invIdx_of f k j hinj hj]
    exact hj
  have hsub : (Finset.range n).image (fun k => (invIdx f k).getD 0) ⊆ Finset.range n := by
    intro j hj
    obtain ⟨k, hk, rfl⟩ := Finset.mem_image.mp hj
    rw [Finset.mem_range, ← hlen]
    exact getD_some_lt f _ k (hg k (Finset.mem_range.mp hk))
  have hinjOn : Set.InjOn (fun k => (invIdx f k).getD 0) (Finset.range n : Set Nat) := by
    intro k hk k' hk' heq
    have h1 := hg k (Finset.mem_range.mp hk)
    have h2 := hg k' (Finset.mem_range.mp hk')
    simp only at heq
    rw [heq, h2] at h1
    exact (Option.some.inj h1).symm
  have heq := Finset.eq_of_subset_of_card_le hsub (by rw [Finset.card_image_of_injOn hinjOn])
  intro j hj
  have : j ∈ (Finset.range n).image (fun k => (invIdx f k).getD 0) := by
    rw [heq]; exact Finset.mem_range.mpr hj
  obtain ⟨k, hk, rfl⟩ := Finset.mem_image.mp this
  exact ⟨k, hg k (Finset.mem_range.mp hk)⟩

/-- for a bijection, the image is the preimage under the pull-back -/
theorem mapSet_eq_pull (f : List (Option Nat)) (n : Nat) (S : Set Val) (hS : CoordDet n S)
    (htot : ∀ j < n, ∃ k, f.getD j none = some k) :
    mapSet f S = {w | pull f w ∈ S} := by
  ext w
  simp only [mapSet, Set.mem_ofPred_eq]
  constructor
  · rintro ⟨x, hx, hw⟩
    refine (hS (pull f w) x fun j hj => ?_).mpr hx
    obtain ⟨k, hk⟩ := htot j hj
    rw [pull_some f w j k hk]
    exact hw j k hk
  · intro hw
    exact ⟨pull f w, hw, fun j k hjk => (pull_some f w j k hjk).symm⟩

/-! ### `permute_space_dimensions` on rows -/

theorem permute_eq (f : List (Option Nat)) (n : Nat) (r : Row) (h : r.cf.length = n) :
    Row.permute f r = (r.mapC f n).signNormalize := by
  unfold Row.permute Row.mapC
  rw [h]

theorem holds_permute (nnc : Bool) (f : List (Option Nat)) (n : Nat) (r : Row) (w : Val)
    (hlen : f.length = n) (hr : r.cf.length = n)
    (hinj : ∀ j j' k, f.getD j none = some k → f.getD j' none = some k → j = j')
    (hcod : ∀ j k, f.getD j none = some k → k < n) :
    (Row.permute f r).Holds nnc w ↔ r.Holds nnc (pull f w) := by
  rw [permute_eq f n r hr, holds_signNormalize]
  refine holds_of_ev nnc r (r.mapC f n) (pull f w) w 1 (by norm_num) rfl Iff.rfl ?_
  unfold Row.ev Row.mapC
  simp only
  rw [dot_mapCoords f n n r.cf w hlen hr hinj hcod]; ring

theorem conSem_permute (nnc : Bool) (f : List (Option Nat)) (n : Nat) (rows : List Row)
    (hlen : f.length = n) (hrows : ∀ r ∈ rows, r.cf.length = n)
    (hinj : ∀ j j' k, f.getD j none = some k → f.getD j' none = some k → j = j')
    (hcod : ∀ j k, f.getD j none = some k → k < n) :
    conSem nnc (rows.map (Row.permute f)) = {w | pull f w ∈ conSem nnc rows} := by
  ext w
  rw [conSem_map]
  simp only [Set.mem_ofPred_eq, mem_conSem]
  exact forall_congr' fun r => forall_congr' fun hr => holds_permute nnc f n r w hlen (hrows r hr) hinj hcod

theorem genSem_signNormalize (nnc : Bool) (n : Nat) (rows : List Row)
    (hwf : ∀ r ∈ rows, r.genWF nnc n) :
    genSem nnc n (rows.map Row.signNormalize) = genSem nnc n rows :=
  genSem_map_congr nnc n rows Row.signNormalize hwf
    (fun r hr => (signNormalize_genWF nnc n r (hwf r hr)).1)
    (fun r _ => signNormalize_isPoint_iff nnc r)
    (fun r _ c => signNormalize_admits nnc r c)

theorem genSem_permute (nnc : Bool) (f : List (Option Nat)) (n : Nat) (rows : List Row)
    (hwf : ∀ r ∈ rows, r.genWF nnc n) (hlen : f.length = n)
    (hinj : ∀ j j' k, f.getD j none = some k → f.getD j' none = some k → j = j')
    (hcod : ∀ j k, f.getD j none = some k → k < n)
    (hsurj : ∀ k < n, ∃ j, f.getD j none = some k) :
    genSem nnc n (rows.map (Row.permute f)) = mapSet f (genSem nnc n rows) := by
  have hmap : rows.map (Row.permute f) = (rows.map (Row.mapC f n)).map Row.signNormalize := by
    rw [List.map_map]
    exact List.map_congr_left fun r hr => permute_eq f n r (hwf r hr).1
  have hwf1 : ∀ r ∈ rows.map (Row.mapC f n), r.genWF nnc n := by
    intro r hr
    obtain ⟨r0, hr0, rfl⟩ := List.mem_map.mp hr
    exact (mapC_genWF nnc n n f r0 (hwf r0 hr0)).1
  rw [hmap, genSem_signNormalize nnc n _ hwf1, genSem_mapC nnc n n f rows hwf hlen hinj hcod hsurj]

end PPLV.PolyOps

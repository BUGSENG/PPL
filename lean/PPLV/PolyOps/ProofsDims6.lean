import PPLV.PolyOps.ProofsDims2

/-!
# `expand_space_dimension` at row level
-/
namespace PPLV.PolyOps
open PPLV.Lin


/-- the set computed by `expand_space_dimension(v, m)` (`expandDim_spec`) -/
def expSet (n v m : Nat) (S : Set Val) : Set Val :=
  {w | w ∈ S ∧ ∀ i < m, w.update v (w (n + i)) ∈ S}

theorem sem_expandDim (ref : RefPoly) (v m : Nat) (hwf : WF ref.n ref.cs) (hv : v < ref.n) :
    sem (ref.expandDim v m).cs = expSet ref.n v m (sem ref.cs) := by
  ext w
  exact expandDim_spec ref v m hwf hv w

theorem expSet_empty (n v m : Nat) : expSet n v m ∅ = ∅ := by
  ext w; simp [expSet]

theorem expSet_zero (n v : Nat) (S : Set Val) : expSet n v 0 S = S := by
  ext w
  simp only [expSet, Set.mem_ofPred_eq]
  exact ⟨fun h => h.1, fun h => ⟨h, fun i hi => absurd hi (by omega)⟩⟩

/-! ### one row -/

theorem getD_append_replicate_ge (l : List Int) (m k : Nat) (h : l.length ≤ k) :
    (l ++ List.replicate m 0).getD k 0 = 0 := by
  rw [List.getD_eq_getElem?_getD, List.getElem?_append_right h, List.getElem?_replicate]
  split <;> rfl

theorem ev_update (r : Row) (w : Val) (v : Nat) (t : Rat) :
    r.ev (w.update v t) = r.ev w + ((r.cf.getD v 0 : Int) : Rat) * (t - w v) := by
  unfold Row.ev
  rw [dot_update]; ring

theorem ev_expandRow (r : Row) (n m v j : Nat) (hl : r.cf.length = n + m)
    (hz : r.cf.getD (n + j) 0 = 0) (hv : v < n) (hj : j < m) (w : Val) :
    ({ r with cf := (r.cf.set v 0).set (n + j) (r.cf.getD v 0) } : Row).ev w =
      r.ev (w.update v (w (n + j))) := by
  rw [ev_update]
  unfold Row.ev
  simp only
  rw [dot_set _ _ _ _ (by rw [List.length_set]; omega), dot_set _ _ _ _ (by omega),
    getD_set_ne _ _ _ _ (by omega), hz]
  push_cast; ring

theorem holds_expandRow (nnc : Bool) (n m v : Nat) (r : Row) (hl : r.cf.length = n + m)
    (hz : ∀ j < m, r.cf.getD (n + j) 0 = 0) (hv : v < n) (w : Val) (hw : r.Holds nnc w) :
    (∀ r' ∈ expandRow v n m r, r'.Holds nnc w) ↔
      ∀ j < m, r.Holds nnc (w.update v (w (n + j))) := by
  unfold expandRow
  simp only
  by_cases hc : r.cf.getD v 0 = 0
  · rw [if_pos (by simpa using hc)]
    refine ⟨fun _ j _ => ?_, fun _ r' hr' => absurd hr' (by simp)⟩
    refine (holds_of_ev nnc r r w _ 1 (by norm_num) rfl Iff.rfl ?_).mpr hw
    rw [ev_update, hc]; push_cast; ring
  · rw [if_neg (by simpa using hc)]
    simp only [List.mem_map, List.mem_range]
    constructor
    · intro h j hj
      have h1 := h _ ⟨j, hj, rfl⟩
      refine (holds_of_ev nnc r ({ r with cf := (r.cf.set v 0).set (n + j) (r.cf.getD v 0) } : Row)
        (w.update v (w (n + j))) w 1 (by norm_num) rfl Iff.rfl ?_).mp h1
      rw [ev_expandRow r n m v j hl (hz j hj) hv hj w]; ring
    · rintro h r' ⟨j, hj, rfl⟩
      refine (holds_of_ev nnc r ({ r with cf := (r.cf.set v 0).set (n + j) (r.cf.getD v 0) } : Row)
        (w.update v (w (n + j))) w 1 (by norm_num) rfl Iff.rfl ?_).mpr (h j hj)
      rw [ev_expandRow r n m v j hl (hz j hj) hv hj w]; ring

/-- the constraint system after `expand_space_dimension` -/
theorem conSem_expand (nnc : Bool) (n m v : Nat) (rows : List Row)
    (hlen : ∀ r ∈ rows, r.cf.length = n) (hv : v < n) :
    conSem nnc (rows.map (Row.addZeroCols m) ++
        (rows.map (Row.addZeroCols m)).flatMap (expandRow v n m)) =
      expSet n v m (conSem nnc rows) := by
  ext w
  rw [mem_conSem]
  simp only [expSet, Set.mem_ofPred_eq]
  rw [← conSem_addZeroCols nnc m rows]
  simp only [mem_conSem, List.mem_append, List.mem_flatMap]
  have hrow : ∀ r ∈ rows.map (Row.addZeroCols m), r.cf.length = n + m ∧
      ∀ j < m, r.cf.getD (n + j) 0 = 0 := by
    intro r hr
    obtain ⟨r0, hr0, rfl⟩ := List.mem_map.mp hr
    refine ⟨by simp [Row.addZeroCols, hlen r0 hr0], fun j _ => ?_⟩
    exact getD_append_replicate_ge r0.cf m (n + j) (by rw [hlen r0 hr0]; omega)
  constructor
  · intro h
    have h1 : ∀ r ∈ rows.map (Row.addZeroCols m), r.Holds nnc w := fun r hr => h r (Or.inl hr)
    refine ⟨h1, fun i hi r hr => ?_⟩
    exact (holds_expandRow nnc n m v r (hrow r hr).1 (hrow r hr).2 hv w (h1 r hr)).mp
      (fun r' hr' => h r' (Or.inr ⟨r, hr, hr'⟩)) i hi
  · rintro ⟨h1, h2⟩ r' (hr' | ⟨r, hr, hr'⟩)
    · exact h1 r' hr'
    · exact (holds_expandRow nnc n m v r (hrow r hr).1 (hrow r hr).2 hv w (h1 r hr)).mpr
        (fun j hj => h2 j hj r hr) r' hr'

/-! ### `add_recycled_constraints` -/

theorem addRecycledConstraints_denotes (p1 : Poly) (rows : List Row) (S S' : Set Val)
    (hem : p1.st.empty = false) (hcu : p1.st.cUp = true) (hgp : p1.st.gPend = false)
    (hD : p1.Denotes S) (hS' : conSem p1.nnc (p1.cs.rows ++ rows) = S') :
    (p1.addRecycledConstraints rows).Denotes S' := by
  unfold Poly.addRecycledConstraints
  by_cases hr : rows = []
  · subst hr
    rw [List.append_nil, (hD.2 hem).1 hcu hgp] at hS'
    rw [← hS']
    simpa using hD
  · have hr' : rows.isEmpty = false := by
      cases rows with
      | nil => exact absurd rfl hr
      | cons a t => rfl
    rw [hr']
    simp only [Bool.false_eq_true, if_false, hem]
    cases hcp : p1.st.canPend
    · simp only [Bool.false_eq_true, if_false]
      exact .of_cons rfl hcu (.inl rfl) hS'
    · simp only [if_true]
      exact .of_cons rfl hcu (.inr rfl) hS'

/-- **`Polyhedron::expand_space_dimension` at row level.** -/
theorem expand_space_dimension_rows_correct (p q : Poly) (v m : Nat) (ref : RefPoly)
    (hn : ref.n = p.dim) (hnnc : ref.nnc = p.nnc) (hwf : WF ref.n ref.cs) (hp : p.WF)
    (hv : v < p.dim)
    (hD : p.Denotes (sem ref.cs)) (h : p.expand_space_dimension v m = some q) :
    q.Denotes (sem (ref.expandDim v m).cs) := by
  rw [sem_expandDim ref v m hwf (by rw [hn]; exact hv), hn]
  unfold Poly.expand_space_dimension at h
  by_cases hm : m = 0
  · subst hm
    have hq : q = p := by simpa using h.symm
    rw [hq, expSet_zero]
    exact hD
  have hm0 : (m == 0) = false := by simpa using hm
  rw [hm0] at h
  simp only [Bool.false_eq_true, if_false] at h
  have hD1 : (p.add_space_dimensions_and_embed m).Denotes (sem ref.cs) :=
    add_space_dimensions_and_embed_rows_correct p m ref hn hnnc hwf hp hD
  cases hem : p.st.empty
  · obtain ⟨hqn, _, ⟨h1, h2, _, _, h5⟩, hcs, _⟩ :=
      add_space_dimensions_and_embed_shape p _ m hm (by omega) hem rfl
    generalize p.add_space_dimensions_and_embed m = p1 at h hD1 hqn h1 h2 h5 hcs
    rw [h1, hem, h2, h5] at h
    simp only [Bool.false_eq_true, if_false] at h
    cases hcu : p.st.cUp
    · simp [hcu] at h
    · cases hgp : p.st.gPend
      · simp only [hcu, hgp, Bool.not_true, Bool.or_self, Bool.false_eq_true, if_false] at h
        rw [← Option.some.inj h]
        apply addRecycledConstraints_denotes p1 _ (sem ref.cs) _ (h1.trans hem) (h2.trans hcu)
          (h5.trans hgp) hD1
        rw [hcs hcu, hqn]
        exact (conSem_expand p.nnc p.dim m v p.cs.rows (hp.cs_len hem hcu) hv).trans
          (by rw [(hD.2 hem).1 hcu hgp])
      · simp [hcu, hgp] at h
  · -- `constraints()` of an empty polyhedron: the result is the embedded, empty, polyhedron
    unfold Poly.add_space_dimensions_and_embed at h
    simp only [hm0, hem, Bool.false_eq_true, if_false, if_true] at h
    rw [← Option.some.inj h, hD.1 hem, expSet_empty]
    exact denotes_of_empty _ _ hem rfl

end PPLV.PolyOps

import PPLV.PolyOps.ProofsGenKit
import PPLV.Lin.OpSpecs2

/-!
# C02 — generator systems without effective closure points generate closed sets

`genSem_closed_of_matched`: a well-formed generator system in which every closure point is matched
by a point with the same coordinates generates a set that is described by a constraint system
WITHOUT strict rows.  Route: Fourier–Motzkin elimination (`projectTo`) never produces a strict row
from non-strict rows (`NS_projectTo`); without closure points the only strict row of `liftedGens`
(some point has a positive multiplier) follows from the convexity row.
-/
namespace PPLV.PolyOps
open PPLV.Lin

/-- no strict row -/
def NS (cs : List Con) : Prop := ∀ c ∈ cs, c.strict = false

theorem NS_append (as bs : List Con) (ha : NS as) (hb : NS bs) : NS (as ++ bs) := by
  intro c hc
  rcases List.mem_append.mp hc with h | h
  · exact ha c h
  · exact hb c h

theorem NS_sub (as bs : List Con) (h : ∀ c ∈ as, c ∈ bs) (hb : NS bs) : NS as :=
  fun c hc => hb c (h c hc)

theorem combine_strict (i : Nat) (l u : Con) (hl : l.strict = false) (hu : u.strict = false) :
    (combine i l u).strict = false := by
  show (l.strict || u.strict) = false
  rw [hl, hu]; rfl

theorem NS_elimAt (i : Nat) (cs : List Con) (h : NS cs) : NS (elimAt i cs) := by
  have hpos : NS (cs.filter (fun c => decide (0 < c.at i))) :=
    NS_sub _ _ (fun c hc => (List.mem_filter.mp hc).1) h
  have hneg : NS (cs.filter (fun c => decide (c.at i < 0))) :=
    NS_sub _ _ (fun c hc => (List.mem_filter.mp hc).1) h
  have hzer : NS (cs.filter (fun c => decide (c.at i = 0))) :=
    NS_sub _ _ (fun c hc => (List.mem_filter.mp hc).1) h
  unfold elimAt
  simp only
  split
  · rename_i l u heq
    obtain ⟨_, _, hl, hu, _⟩ := findEqPair_some i _ _ l u heq
    apply NS_append
    · apply NS_append _ _ hzer
      intro c hc
      obtain ⟨p, hp, rfl⟩ := List.mem_map.mp hc
      exact combine_strict i p u (hpos p hp) hu
    · intro c hc
      obtain ⟨q, hq, rfl⟩ := List.mem_map.mp hc
      exact combine_strict i l q hl (hneg q hq)
  · apply NS_append _ _ hzer
    intro c hc
    obtain ⟨l, hl, hc⟩ := List.mem_flatMap.mp hc
    obtain ⟨u, hu, rfl⟩ := List.mem_map.mp hc
    exact combine_strict i l u (hpos l hl) (hneg u hu)

theorem NS_tidy0 (cs : List Con) (h : NS cs) : NS (tidy0 cs) := by
  unfold tidy0
  simp only
  split
  · intro c hc
    rw [List.mem_singleton.mp hc]; rfl
  · intro c hc
    rw [mem_dedup] at hc
    obtain ⟨c0, hc0, rfl⟩ := List.mem_map.mp (List.mem_filter.mp hc).1
    rw [normalize_strict]; exact h c0 hc0

theorem pruneRows_sub (n : Nat) : ∀ (rest kept : List Con) (c : Con),
    c ∈ pruneRows n kept rest → c ∈ kept ++ rest := by
  intro rest
  induction rest with
  | nil => intro kept c hc; simpa [pruneRows] using hc
  | cons r rest ih =>
    intro kept c hc
    unfold pruneRows at hc
    split at hc
    · have := ih kept c hc
      rcases List.mem_append.mp this with h | h
      · exact List.mem_append_left _ h
      · exact List.mem_append_right _ (List.mem_cons_of_mem _ h)
    · have := ih (kept ++ [r]) c hc
      simpa [List.mem_append, or_assoc] using this

theorem NS_tidy (cs : List Con) (h : NS cs) : NS (tidy cs) := by
  unfold tidy
  simp only
  split
  · exact NS_tidy0 cs h
  · exact NS_sub _ _ (fun c hc => by simpa using pruneRows_sub _ _ [] c hc) (NS_tidy0 cs h)

theorem NS_elimVars : ∀ (is : List Nat) (cs : List Con), NS cs → NS (elimVars is cs) := by
  intro is
  induction is with
  | nil => intro cs h; exact h
  | cons i is ih =>
    intro cs h
    exact ih _ (NS_tidy _ (NS_elimAt i cs h))

theorem NS_projectTo (n total : Nat) (cs : List Con) (h : NS cs) : NS (projectTo n total cs) := by
  intro c hc
  unfold projectTo at hc
  obtain ⟨c0, hc0, rfl⟩ := List.mem_map.mp hc
  exact NS_elimVars _ _ (NS_tidy cs h) c0 hc0

/-! ### the lifted system without its strict row -/

/-- `liftedGens` without the row "some point has a positive multiplier" -/
def liftedGens0 (n : Nat) (gs : List Gen) : List Con :=
  let m := gs.length
  let coordRows := (List.range n).flatMap fun i =>
    eqRows (unitRow i 1 ++ List.replicate (n - 1 - i) 0 ++ gs.map (fun g => - g.coords.getD i 0)) 0
  let signRows := (List.range m).filterMap fun j =>
    if (gs.getD j default).isLine then none else some (geRow (List.replicate (n + j) 0 ++ [1]) 0)
  let convex := eqRows (List.replicate n 0 ++ gs.map Gen.wt) (-1)
  coordRows ++ signRows ++ convex

theorem liftedGens_eq (n : Nat) (gs : List Gen) :
    liftedGens n gs = liftedGens0 n gs ++ [gtRow (List.replicate n 0 ++ gs.map Gen.pwt) 0] := rfl

theorem NS_eqRows (cf : List Int) (k : Int) : NS (eqRows cf k) := by
  intro c hc
  simp only [eqRows, List.mem_cons, List.not_mem_nil, or_false] at hc
  rcases hc with rfl | rfl <;> rfl

theorem NS_liftedGens0 (n : Nat) (gs : List Gen) : NS (liftedGens0 n gs) := by
  unfold liftedGens0
  simp only
  apply NS_append
  · apply NS_append
    · intro c hc
      obtain ⟨i, _, hc⟩ := List.mem_flatMap.mp hc
      exact NS_eqRows _ _ c hc
    · intro c hc
      obtain ⟨j, _, hc⟩ := List.mem_filterMap.mp hc
      split at hc
      · cases hc
      · cases hc; rfl
  · exact NS_eqRows _ _

/-- without closure points the strict row follows from the convexity row -/
theorem Sat_liftedGens0 (n : Nat) (gs : List Gen) (hnc : ∀ g ∈ gs, g.kind ≠ .cpoint) (w : Val) :
    Sat (liftedGens n gs) w ↔ Sat (liftedGens0 n gs) w := by
  rw [liftedGens_eq, Sat_append, Sat_singleton]
  refine ⟨fun h => h.1, fun h => ⟨h, ?_⟩⟩
  have hwp : gs.map Gen.wt = gs.map Gen.pwt := by
    apply List.map_congr_left
    intro g hg
    have := hnc g hg
    unfold Gen.wt Gen.pwt Gen.isPtOrCp Gen.isPt
    cases hk : g.kind <;> simp_all
  have hconv : Sat (eqRows (List.replicate n 0 ++ gs.map Gen.wt) (-1)) w := by
    intro c hc
    apply h c
    unfold liftedGens0
    simp only
    exact List.mem_append_right _ hc
  rw [Sat_eqRows, hwp] at hconv
  show Con.sat (gtRow _ 0) w
  unfold Con.sat gtRow Con.eval
  simp only [if_true]
  push_cast at hconv ⊢
  linarith

/-- a generator system without closure points generates a set with a non-strict description -/
theorem genSem_closed_of_no_cpoint (n : Nat) (gs : List Gen) (hw : gensWF n gs = true)
    (hnc : ∀ g ∈ gs, g.kind ≠ .cpoint) : ∃ ds : List Con, NS ds ∧ sem ds = GenSem n gs := by
  refine ⟨projectTo n (n + gs.length) (liftedGens0 n gs), NS_projectTo _ _ _ (NS_liftedGens0 n gs), ?_⟩
  rw [← sem_gensToCons n gs hw]
  have hwf0 : WF (n + gs.length) (liftedGens0 n gs) := by
    intro c hc
    apply liftedGens_wf n gs c
    rw [liftedGens_eq]
    exact List.mem_append_left _ hc
  ext w
  show Sat _ w ↔ Sat (projectTo n (n + gs.length) (liftedGens n gs)) w
  rw [projectTo_spec n _ _ hwf0 (by omega), projectTo_spec n _ _ (liftedGens_wf n gs) (by omega)]
  exact exists_congr fun w' => and_congr_right fun _ => (Sat_liftedGens0 n gs hnc w').symm

/-- every closure point is matched by a point with the same coordinates -/
def Matched (gs : List Gen) : Prop :=
  ∀ g ∈ gs, g.kind = .cpoint → ∃ g' ∈ gs, g'.kind = .point ∧ g'.vec = g.vec

/-- matched closure points are redundant -/
theorem genSem_drop_cpoints (n : Nat) (gs : List Gen) (hw : gensWF n gs = true) (hm : Matched gs) :
    GenSem n (gs.filter fun g => g.kind != .cpoint) = GenSem n gs := by
  have hsub : ∀ g, g ∈ gs.filter (fun g => g.kind != .cpoint) → g ∈ gs :=
    fun g hg => (List.mem_filter.mp hg).1
  have hw' : gensWF n (gs.filter fun g => g.kind != .cpoint) = true := by
    unfold gensWF at hw ⊢
    rw [List.all_eq_true] at hw ⊢
    exact fun g hg => hw g (hsub g hg)
  have hkeep : ∀ g ∈ gs, g.kind = .point → g ∈ gs.filter (fun g => g.kind != .cpoint) := by
    intro g hg hk
    exact List.mem_filter.mpr ⟨hg, by rw [hk]; rfl⟩
  apply genSem_congr_admits n _ _ hw' hw
  · constructor
    · rintro ⟨g, hg, hp⟩; exact ⟨g, hsub g hg, hp⟩
    · rintro ⟨g, hg, hp⟩
      refine ⟨g, hkeep g hg ?_, hp⟩
      unfold Gen.isPt at hp
      simpa using hp
  · intro c _
    constructor
    · intro h g hg
      by_cases hk : g.kind = .cpoint
      · obtain ⟨g', hg', hk', hv⟩ := hm g hg hk
        have := h g' (hkeep g' hg' hk')
        unfold rowAdmits at this ⊢
        rw [hk'] at this
        rw [hk]
        simp only at this ⊢
        rw [← hv]
        exact sat_nonneg c _ this
      · exact h g (List.mem_filter.mpr ⟨hg, by simpa using hk⟩)
    · intro h g hg
      exact h g (hsub g hg)

/-- **a matched generator system generates a topologically closed set** -/
theorem genSem_closed_of_matched (n : Nat) (gs : List Gen) (hw : gensWF n gs = true)
    (hm : Matched gs) : ∃ ds : List Con, NS ds ∧ sem ds = GenSem n gs := by
  have hw' : gensWF n (gs.filter fun g => g.kind != .cpoint) = true := by
    unfold gensWF at hw ⊢
    rw [List.all_eq_true] at hw ⊢
    exact fun g hg => hw g (List.mem_filter.mp hg).1
  obtain ⟨ds, hns, hsem⟩ := genSem_closed_of_no_cpoint n _ hw' (by
    intro g hg
    have := (List.mem_filter.mp hg).2
    simpa using this)
  exact ⟨ds, hns, by rw [hsem, genSem_drop_cpoints n gs hw hm]⟩

end PPLV.PolyOps

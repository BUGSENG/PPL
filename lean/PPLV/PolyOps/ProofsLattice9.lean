import PPLV.PolyOps.ProofsLattice3
import PPLV.PolyOps.ProofsAffine
import PPLV.PolyOps.ProofsDims3

/-!
# C02 — `fold_space_dimensions`, the generator level

The code accumulates: for every `i ∈ vars`, `X := hull(X, X[dest := x_i])`, and removes `vars` at
the end.  The reference (`RefPoly.foldGens`) is the hull of the projections `Q_d`, `d ∈ dest :: vars`
of the ORIGINAL set.  `foldAcc` follows the code on generator lists; `selSet_foldAcc` shows that
after the removal of `vars` both generate the same set (`dest ∉ vars`).
-/
namespace PPLV.PolyOps
open PPLV.Lin

/-- coordinate selection for `x_dest := x_i` in dimension `n` -/
def selImg (n dest i : Nat) : List Nat := (List.range n).map fun k => if k == dest then i else k

/-- generators of the image under `x_dest := x_i` -/
def imgGens (n dest i : Nat) (G : List Gen) : List Gen := G.map (·.select (selImg n dest i))

/-- the accumulation of the loop on generator lists -/
def foldAcc (n dest : Nat) : List Nat → List Gen → List Gen
  | [], G => G
  | i :: is, G => foldAcc n dest is (hullGens [G, imgGens n dest i G])

/-- the expression `Variable(i)` -/
def varExpr (i : Nat) : LinExpr := ⟨List.replicate i 0 ++ [1], 0⟩

theorem selImg_length (n dest i : Nat) : (selImg n dest i).length = n := by simp [selImg]

theorem selImg_lt (n dest i : Nat) (hi : i < n) : ∀ k ∈ selImg n dest i, k < n := by
  intro k hk
  unfold selImg at hk
  obtain ⟨k0, hk0, rfl⟩ := List.mem_map.mp hk
  split
  · exact hi
  · exact List.mem_range.mp hk0

theorem selImg_getD (n dest i k : Nat) (hk : k < n) :
    (selImg n dest i).getD k 0 = if k = dest then i else k := by
  unfold selImg
  simp [List.getD_eq_getElem?_getD, hk]

theorem varExpr_val (i : Nat) (x : Val) : (varExpr i).val x = x i := by
  unfold LinExpr.val varExpr
  have : List.replicate i (0 : Int) ++ [1] = unitRow i 1 := rfl
  simp only [this, dot_unitRow]
  push_cast; ring

theorem varExpr_getD (i dest : Nat) (h : i ≠ dest) : (varExpr i).coeffs.getD dest 0 = 0 := by
  have := getD_unit i 0 dest
  simp only [List.replicate_zero, List.append_nil] at this
  show (List.replicate i (0 : Int) ++ [1]).getD dest 0 = 0
  rw [this, if_neg (Ne.symm h)]

theorem varExpr_length (i : Nat) : (varExpr i).coeffs.length = i + 1 := by simp [varExpr]

/-- `imgGens` generates the affine image under `x_dest := x_i` -/
theorem genSem_imgGens (n dest i : Nat) (G : List Gen) (hi : i < n) (hdest : dest < n) :
    GenSem n (imgGens n dest i G) = imgSet n dest (varExpr i) 1 (GenSem n G) := by
  unfold imgGens
  rw [O2.genSem_select_aux n n G _ (selImg_length n dest i) (selImg_lt n dest i hi)]
  ext w
  unfold imgSet
  show (∃ x ∈ GenSem n G, _) ↔ (∃ x ∈ GenSem n G, _)
  refine exists_congr fun x => and_congr_right fun hx => ?_
  rw [varExpr_val]
  constructor
  · intro h
    refine ⟨?_, fun j hj hjd => ?_⟩
    · rw [h dest hdest, selImg_getD n dest i dest hdest, if_pos rfl]
      simp
    · rw [h j hj, selImg_getD n dest i j hj, if_neg hjd]
  · rintro ⟨h1, h2⟩ k hk
    rw [selImg_getD n dest i k hk]
    by_cases hkd : k = dest
    · rw [if_pos hkd, hkd]
      have : ((1 : Int) : Rat) * w dest = x i := h1
      simpa using this
    · rw [if_neg hkd]; exact h2 k hk hkd


theorem gensWF_imgGens (n dest i : Nat) (G : List Gen) (hw : gensWF n G = true) :
    gensWF n (imgGens n dest i G) = true :=
  O2.gensWF_select_aux n n G _ (selImg_length n dest i) hw

theorem imgGens_pt (n dest i : Nat) (G : List Gen) (hp : ∃ g ∈ G, g.isPt = true) :
    ∃ g ∈ imgGens n dest i G, g.isPt = true := O2.select_hasPoint G _ hp

theorem mem_hull2 (A B : List Gen) (g : Gen) : g ∈ hullGens [A, B] ↔ g ∈ A ∨ g ∈ B := by
  rw [mem_hullGens]
  simp

theorem gensWF_hull2 (n : Nat) (A B : List Gen) (hA : gensWF n A = true) (hB : gensWF n B = true) :
    gensWF n (hullGens [A, B]) = true := by
  apply gensWF_hullGens
  intro gs hgs
  simp only [List.mem_cons, List.not_mem_nil, or_false] at hgs
  rcases hgs with rfl | rfl
  · exact hA
  · exact hB

theorem foldAcc_wf (n dest : Nat) : ∀ (is : List Nat) (G : List Gen), gensWF n G = true →
    (∃ g ∈ G, g.isPt = true) →
    gensWF n (foldAcc n dest is G) = true ∧ ∃ g ∈ foldAcc n dest is G, g.isPt = true := by
  intro is
  induction is with
  | nil => intro G hw hp; exact ⟨hw, hp⟩
  | cons i is ih =>
    intro G hw hp
    apply ih
    · exact gensWF_hull2 n _ _ hw (gensWF_imgGens n dest i G hw)
    · obtain ⟨g, hg, hpt⟩ := hp
      exact ⟨g, (mem_hull2 _ _ g).mpr (Or.inl hg), hpt⟩

/-! ### what the accumulated generators are -/

/-- `g'` is `g` with coordinate `d` in the place of `dest` (on the first `n` coordinates) -/
def FoldRel (n dest : Nat) (g' g : Gen) (d : Nat) : Prop :=
  g'.kind = g.kind ∧ g'.div = g.div ∧
    ∀ k < n, g'.coords.getD k 0 = g.coords.getD (if k = dest then d else k) 0

theorem select_coords_getD (g : Gen) (n dest i k : Nat) (hk : k < n) :
    (g.select (selImg n dest i)).coords.getD k 0 = g.coords.getD (if k = dest then i else k) 0 := by
  show ((selImg n dest i).map fun j => g.coords.getD j 0).getD k 0 = _
  have hlen : k < (selImg n dest i).length := by rw [selImg_length]; exact hk
  have : ((selImg n dest i).map fun j => g.coords.getD j 0).getD k 0
      = g.coords.getD ((selImg n dest i).getD k 0) 0 := by
    simp [List.getD_eq_getElem?_getD, hlen]
  rw [this, selImg_getD n dest i k hk]

theorem foldRel_base (n dest : Nat) (g : Gen) : FoldRel n dest g g dest := by
  refine ⟨rfl, rfl, fun k _ => ?_⟩
  by_cases h : k = dest
  · rw [if_pos h, h]
  · rw [if_neg h]

theorem foldRel_step (n dest : Nat) (g' g : Gen) (d j : Nat) (h : FoldRel n dest g' g d)
    (hj : j ≠ dest) (hjn : j < n) : FoldRel n dest (g'.select (selImg n dest j)) g j := by
  obtain ⟨h1, h2, h3⟩ := h
  refine ⟨h1, h2, fun k hk => ?_⟩
  rw [select_coords_getD g' n dest j k hk]
  by_cases hkd : k = dest
  · rw [if_pos hkd, h3 j hjn, if_neg hj]
  · rw [if_neg hkd, h3 k hk, if_neg hkd]

/-- soundness and completeness of the accumulated list w.r.t. the set `D` of processed variables -/
theorem foldAcc_inv (n dest : Nat) (gs : List Gen) : ∀ (is : List Nat) (G : List Gen) (D : List Nat),
    dest ∈ D → (∀ i ∈ is, i ≠ dest ∧ i < n) →
    (∀ g' ∈ G, ∃ g ∈ gs, ∃ d ∈ D, FoldRel n dest g' g d) →
    (∀ g ∈ gs, ∀ d ∈ D, ∃ g' ∈ G, FoldRel n dest g' g d) →
    (∀ g' ∈ foldAcc n dest is G, ∃ g ∈ gs, ∃ d ∈ D ++ is, FoldRel n dest g' g d) ∧
    (∀ g ∈ gs, ∀ d ∈ D ++ is, ∃ g' ∈ foldAcc n dest is G, FoldRel n dest g' g d) := by
  intro is
  induction is with
  | nil =>
    intro G D _ _ hs hc
    simp only [List.append_nil]
    exact ⟨hs, hc⟩
  | cons i is ih =>
    intro G D hD his hs hc
    have hi := his i (by simp)
    have := ih (hullGens [G, imgGens n dest i G]) (D ++ [i]) (List.mem_append_left _ hD)
      (fun j hj => his j (by simp [hj])) ?_ ?_
    · rw [List.append_assoc] at this
      exact this
    · intro g' hg'
      rcases (mem_hull2 _ _ g').mp hg' with hg' | hg'
      · obtain ⟨g, hg, d, hd, hr⟩ := hs g' hg'
        exact ⟨g, hg, d, List.mem_append_left _ hd, hr⟩
      · unfold imgGens at hg'
        obtain ⟨g0, hg0, rfl⟩ := List.mem_map.mp hg'
        obtain ⟨g, hg, d, _, hr⟩ := hs g0 hg0
        exact ⟨g, hg, i, by simp, foldRel_step n dest g0 g d i hr hi.1 hi.2⟩
    · intro g hg d hd
      rcases List.mem_append.mp hd with hd | hd
      · obtain ⟨g', hg', hr⟩ := hc g hg d hd
        exact ⟨g', (mem_hull2 _ _ g').mpr (Or.inl hg'), hr⟩
      · have hdi : d = i := by simpa using hd
        subst hdi
        obtain ⟨g0, hg0, hr⟩ := hc g hg dest hD
        exact ⟨g0.select (selImg n dest d),
          (mem_hull2 _ _ _).mpr (Or.inr (List.mem_map.mpr ⟨g0, hg0, rfl⟩)),
          foldRel_step n dest g0 g dest d hr hi.1 hi.2⟩

/-- after the removal of `vars` a related generator is the reference's generator -/
theorem foldRel_select (n dest : Nat) (vars : List Nat) (g' g : Gen) (d : Nat)
    (h : FoldRel n dest g' g d) :
    g'.select (otherVars n vars) = g.select (foldSel n vars dest d) := by
  obtain ⟨h1, h2, h3⟩ := h
  obtain ⟨k', c', d'⟩ := g'
  obtain ⟨k, c, dd⟩ := g
  simp only at h1 h2 h3
  subst h1 h2
  unfold Gen.select foldSel
  simp only [List.map_map]
  congr 1
  apply List.map_congr_left
  intro j hj
  have hjn : j < n := ((mem_otherVars n vars j).mp hj).1
  rw [h3 j hjn]
  show _ = c.getD (if (j == dest) = true then d else j) 0
  by_cases hjd : j = dest
  · simp [hjd]
  · simp [hjd]

/-- the generators of the code after the removal and the generators of the reference are the
    same set -/
theorem mem_foldAcc_select (n dest : Nat) (vars : List Nat) (gs : List Gen)
    (hvars : ∀ i ∈ vars, i ≠ dest ∧ i < n) (g'' : Gen) :
    g'' ∈ (foldAcc n dest vars gs).map (·.select (otherVars n vars)) ↔
      g'' ∈ hullGens (foldGenss n vars dest gs) := by
  obtain ⟨hs, hc⟩ := foldAcc_inv n dest gs vars gs [dest] (by simp) hvars
    (fun g hg => ⟨g, hg, dest, by simp, foldRel_base n dest g⟩)
    (fun g hg d hd => by
      have : d = dest := by simpa using hd
      subst this
      exact ⟨g, hg, foldRel_base n d g⟩)
  have hD : ∀ d, d ∈ [dest] ++ vars ↔ d ∈ dest :: vars := by intro d; simp
  rw [mem_hullGens]
  constructor
  · intro h
    obtain ⟨g', hg', rfl⟩ := List.mem_map.mp h
    obtain ⟨g, hg, d, hd, hr⟩ := hs g' hg'
    refine ⟨gs.map (·.select (foldSel n vars dest d)),
      (O2.mem_foldGenss n vars dest gs _).mpr ⟨d, (hD d).mp hd, rfl⟩, ?_⟩
    rw [foldRel_select n dest vars g' g d hr]
    exact List.mem_map.mpr ⟨g, hg, rfl⟩
  · rintro ⟨l, hl, hg''⟩
    obtain ⟨d, hd, rfl⟩ := (O2.mem_foldGenss n vars dest gs l).mp hl
    obtain ⟨g, hg, rfl⟩ := List.mem_map.mp hg''
    obtain ⟨g', hg', hr⟩ := hc g hg d ((hD d).mpr hd)
    exact List.mem_map.mpr ⟨g', hg', foldRel_select n dest vars g' g d hr⟩

/-- **the accumulated hull, with `vars` removed, is the reference fold** -/
theorem selSet_foldAcc (n dest : Nat) (vars : List Nat) (gs : List Gen) (hw : gensWF n gs = true)
    (hp : ∃ g ∈ gs, g.isPt = true) (hvars : ∀ i ∈ vars, i ≠ dest ∧ i < n) :
    selSet (otherVars n vars) (GenSem n (foldAcc n dest vars gs)) =
      GenSem (otherVars n vars).length (hullGens (foldGenss n vars dest gs)) := by
  have hlt : ∀ k ∈ otherVars n vars, k < n := fun k hk => ((mem_otherVars n vars k).mp hk).1
  have hwA := (foldAcc_wf n dest vars gs hw hp).1
  have h1 := genSem_select n (foldAcc n dest vars gs) (otherVars n vars) hlt
  unfold selSet
  rw [← h1]
  exact genSem_congr_of_mem _ _ _ (mem_foldAcc_select n dest vars gs hvars)
    (gensWF_select n _ _ hwA) (gensWF_foldGens n vars dest gs hw)

/-- the fold of the empty set -/
theorem genSem_fold_nil (n dest : Nat) (vars : List Nat) :
    GenSem (otherVars n vars).length (hullGens (foldGenss n vars dest [])) = ∅ := by
  apply GenSem_no_point
  rintro ⟨g, hg, _⟩
  obtain ⟨l, hl, hgl⟩ := (mem_hullGens _ g).mp hg
  obtain ⟨d, _, rfl⟩ := (O2.mem_foldGenss n vars dest [] l).mp hl
  simp at hgl

end PPLV.PolyOps

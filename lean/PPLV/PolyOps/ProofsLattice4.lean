import PPLV.PolyOps.ProofsLattice3

/-!
# C02 — lattice operators at row level: the rows of `time_elapse_assign`

* `GenSem_timeElapse_congr`: the set generated by `timeElapseGens A B` depends only on the sets
  generated by `A` and `B` (through `timeElapse_subset_iff` and `TESet`).
* `teRows_admits`: the rows the code derives from `y`'s generator rows (`timeElapseRows`) accept the
  same constraint rows as the generators `timeElapseGens` derives from them (`teDir`).  Closed
  topology: unconditionally.  NNC: the code erases the points; here under the row-matching
  condition that every point has its closure point among the rows (`NNCInv`; real NNC generator
  systems need not satisfy it — the weaker `NNCInvW` of ProofsLattice15 is what they satisfy).
-/
namespace PPLV.PolyOps
open PPLV.Lin

theorem GenSem_timeElapse_congr (n : Nat) (A B A' B' : List Gen)
    (hA : gensWF n A = true) (hB : gensWF n B = true) (hA' : gensWF n A' = true)
    (hB' : gensWF n B' = true) (hpA : ∃ g ∈ A, g.isPt = true) (hpB : ∃ g ∈ B, g.isPt = true)
    (hpA' : ∃ g ∈ A', g.isPt = true) (hpB' : ∃ g ∈ B', g.isPt = true)
    (hAA : GenSem n A = GenSem n A') (hBB : GenSem n B = GenSem n B') :
    GenSem n (timeElapseGens A B) = GenSem n (timeElapseGens A' B') := by
  have hw := gensWF_timeElapse n A B hA hB
  have hw' := gensWF_timeElapse n A' B' hA' hB'
  have hT : TESet n A B = TESet n A' B' := by unfold TESet; rw [hAA, hBB]
  apply Set.Subset.antisymm
  · rw [← sem_gensToCons n _ hw', ← timeElapse_subset_iff n A B hB hpA hpB _ (gensToCons_wf n _), hT,
      timeElapse_subset_iff n A' B' hB' hpA' hpB' _ (gensToCons_wf n _), sem_gensToCons n _ hw']
  · rw [← sem_gensToCons n _ hw, ← timeElapse_subset_iff n A' B' hB' hpA' hpB' _ (gensToCons_wf n _),
      ← hT, timeElapse_subset_iff n A B hB hpA hpB _ (gensToCons_wf n _), sem_gensToCons n _ hw]

/-- the body of the loop of `time_elapse_assign` on one generator row -/
def teRow (nnc : Bool) (g : Row) : Option Row :=
  if g.eq || g.b == 0 then some g
  else if nnc then
    if g.eps > 0 then none
    else if g.allHomZero then none
    else some ({ g with b := 0 } : Row).normalize
  else
    if g.allHomZero then none
    else some ({ g with b := 0 } : Row).normalize

theorem timeElapseRows_eq (nnc : Bool) (rows : List Row) :
    timeElapseRows nnc rows = rows.filterMap (teRow nnc) := rfl

/-- a row that the NNC loop erases because it is a point -/
def Row.isNNCPoint (nnc : Bool) (r : Row) : Prop := nnc = true ∧ r.eq = false ∧ r.b ≠ 0 ∧ r.eps ≠ 0

theorem teRow_nncPoint (nnc : Bool) (n : Nat) (r : Row) (hwf : r.genWF nnc n)
    (h : r.isNNCPoint nnc) : teRow nnc r = none := by
  obtain ⟨hn, hl, hz, he⟩ := h
  have : 0 < r.eps := by have := hwf.2.2.1; omega
  simp [teRow, hl, hz, hn, this]

theorem zeroed_genWF (nnc : Bool) (n : Nat) (r : Row) (hwf : r.genWF nnc n)
    (he : r.eps = 0) : ({ r with b := 0 } : Row).genWF nnc n :=
  ⟨hwf.1, le_refl _, hwf.2.2.1, fun _ => rfl, fun _ => he, hwf.2.2.2.2.2⟩

/-- a kept row: the code's row admits what the reference's generator admits -/
theorem teRow_admits (nnc : Bool) (n : Nat) (r : Row) (hwf : r.genWF nnc n)
    (hk : ¬ r.isNNCPoint nnc) (c : Con) :
    (∀ r', teRow nnc r = some r' → rowAdmits c (r'.toGen nnc)) ↔
    (∀ g', teDir (r.toGen nnc) = some g' → rowAdmits c g') := by
  have hmain : r.eq = false → r.b ≠ 0 → r.eps = 0 → (nnc = true → ¬ 0 < r.eps) →
      ((∀ r', teRow nnc r = some r' → rowAdmits c (r'.toGen nnc)) ↔
       (∀ g', (if r.cf.all (· == 0) then none else some (⟨.ray, r.cf, 1⟩ : Gen)) = some g' →
          rowAdmits c g')) := by
    intro hl hz he hnp
    have hall : r.allHomZero = r.cf.all (· == 0) := by simp [Row.allHomZero, he]
    by_cases hz0 : r.cf.all (· == 0) = true
    · have h1 : teRow nnc r = none := by
        cases nnc <;> simp [teRow, hl, hz, he, hall, hz0]
      rw [h1, if_pos hz0]; simp
    · have h1 : teRow nnc r = some ({ r with b := 0 } : Row).normalize := by
        cases nnc <;> simp [teRow, hl, hz, he, hall, hz0]
      rw [h1, if_neg hz0]
      simp only [Option.some.injEq, forall_eq']
      rw [normalize_admits nnc n _ (zeroed_genWF nnc n r hwf he) c,
        toGen_ray nnc ({ r with b := 0 } : Row) hl rfl]
  rcases rowShape nnc r with ⟨hl, hg⟩ | ⟨hl, hz, hg⟩ | ⟨hl, hz, hn, hez, hg⟩ | ⟨hl, hz, hn, hg⟩
  · have h1 : teRow nnc r = some r := by simp [teRow, hl]
    have h2 : teDir (r.toGen nnc) = some (r.toGen nnc) := by rw [hg]; rfl
    rw [h1, h2]; simp
  · have h1 : teRow nnc r = some r := by simp [teRow, hz]
    have h2 : teDir (r.toGen nnc) = some (r.toGen nnc) := by rw [hg]; rfl
    rw [h1, h2]; simp
  · rw [hg]
    exact hmain hl hz hez (fun _ => by omega)
  · rw [hg]
    have he : r.eps = 0 := by
      cases hnn : nnc
      · exact hwf.2.2.2.2.2 hnn
      · by_contra hne
        exact hk ⟨hnn, hl, hz, hne⟩
    exact hmain hl hz he (fun _ => by omega)

theorem teRow_genWF (nnc : Bool) (n : Nat) (r r' : Row) (hwf : r.genWF nnc n)
    (h : teRow nnc r = some r') : r'.genWF nnc n := by
  by_cases hl : (r.eq || r.b == 0) = true
  · unfold teRow at h
    rw [if_pos hl] at h
    cases h; exact hwf
  · have hl' : r.eq = false ∧ r.b ≠ 0 := by simpa using hl
    have key : r.eps = 0 → teRow nnc r = some r' → r'.genWF nnc n := by
      intro he h
      have : r' = ({ r with b := 0 } : Row).normalize := by
        unfold teRow at h
        rw [if_neg hl] at h
        cases nnc <;> simp only [Bool.false_eq_true, if_false, if_true] at h
        · split at h
          · cases h
          · exact (Option.some.inj h).symm
        · split at h
          · cases h
          · split at h
            · cases h
            · exact (Option.some.inj h).symm
      rw [this]
      exact (normalize_genWF nnc n _ (zeroed_genWF nnc n r hwf he)).1
    by_cases he : r.eps = 0
    · exact key he h
    · cases hn : nnc
      · exact absurd (hwf.2.2.2.2.2 hn) he
      · rw [teRow_nncPoint nnc n r hwf ⟨hn, hl'.1, hl'.2, he⟩] at h
        cases h

theorem timeElapseRows_genWF (nnc : Bool) (n : Nat) (rows : List Row)
    (hwf : ∀ r ∈ rows, r.genWF nnc n) : ∀ r ∈ timeElapseRows nnc rows, r.genWF nnc n := by
  intro r' hr'
  rw [timeElapseRows_eq, List.mem_filterMap] at hr'
  obtain ⟨r, hr, h⟩ := hr'
  exact teRow_genWF nnc n r r' (hwf r hr) h

/-- row matching: every point has its closure point (same coordinates, `cf / b`, epsilon
    coefficient 0) among the rows.  Not an invariant of real NNC generator systems (`¬ NNCInv exW`
    in ProofsLattice15); it implies the geometric invariant `NNCInvW` (`NNCInvW_of_NNCInv`). -/
def NNCInv (rows : List Row) : Prop :=
  ∀ r ∈ rows, r.isNNCPoint true → ∃ r' ∈ rows, r'.eq = false ∧ r'.b ≠ 0 ∧ r'.eps = 0 ∧
    ∀ i, r.b * r'.cf.getD i 0 = r'.b * r.cf.getD i 0

/-- a point and its closure point give the same direction -/
theorem teDir_matching (n : Nat) (r r' : Row) (hwf : r.genWF true n) (hwf' : r'.genWF true n)
    (hp : r.isNNCPoint true)
    (hl' : r'.eq = false) (hz' : r'.b ≠ 0) (he' : r'.eps = 0)
    (hco : ∀ i, r.b * r'.cf.getD i 0 = r'.b * r.cf.getD i 0) (c : Con)
    (h : ∀ g', teDir (r'.toGen true) = some g' → rowAdmits c g') :
    ∀ g', teDir (r.toGen true) = some g' → rowAdmits c g' := by
  obtain ⟨_, hl, hz, he⟩ := hp
  have hd := (toGen_wf true n r hwf).2
  have hd' := (toGen_wf true n r' hwf').2
  rw [← teDir_admits c _ hd'] at h
  rw [← teDir_admits c _ hd]
  rw [toGen_cp true r' hl' hz' rfl he'] at h
  rw [toGen_pt true r hl hz (fun hh => he hh.2)]
  have hvec : Gen.vec ⟨.point, r.cf, r.b⟩ = Gen.vec ⟨.cpoint, r'.cf, r'.b⟩ := by
    funext i
    rw [vec_pt, vec_cp]
    have hb : (r.b : Rat) ≠ 0 := by exact_mod_cast hz
    have hb' : (r'.b : Rat) ≠ 0 := by exact_mod_cast hz'
    have := hco i
    have hq : (r.b : Rat) * ((r'.cf.getD i 0 : Int) : Rat) = (r'.b : Rat) * ((r.cf.getD i 0 : Int) : Rat) := by
      exact_mod_cast this
    field_simp
    linarith
  show c.hom.sat (Gen.vec ⟨.point, r.cf, r.b⟩)
  rw [hom_sat, hvec]
  have h' : 0 ≤ c.hom.eval (Gen.vec ⟨.cpoint, r'.cf, r'.b⟩) := h
  unfold Con.eval Con.hom at h'
  simpa using h'

/-- the rows of the code and the generators of the reference accept the same constraint rows, GIVEN that a
    row `c` accepted by all rows the code keeps is accepted by the direction of every NNC point (which the code
    erases): the one step where a property of NNC generator systems is needed -/
theorem teRows_admits_of (nnc : Bool) (n : Nat) (rows : List Row) (hwf : ∀ r ∈ rows, r.genWF nnc n) (c : Con)
    (hpt : ∀ r ∈ rows, r.isNNCPoint nnc →
      (∀ r0 ∈ rows, ∀ r', teRow nnc r0 = some r' → rowAdmits c (r'.toGen nnc)) →
      ∀ g', teDir (r.toGen nnc) = some g' → rowAdmits c g') :
    (∀ g ∈ gensOf nnc (timeElapseRows nnc rows), rowAdmits c g) ↔
    (∀ g ∈ (gensOf nnc rows).filterMap teDir, rowAdmits c g) := by
  have hL : (∀ g ∈ gensOf nnc (timeElapseRows nnc rows), rowAdmits c g) ↔
      ∀ r ∈ rows, ∀ r', teRow nnc r = some r' → rowAdmits c (r'.toGen nnc) := by
    rw [timeElapseRows_eq]
    unfold gensOf
    simp only [List.mem_map, List.mem_filterMap]
    constructor
    · intro h r hr r' hrr'
      exact h _ ⟨r', ⟨r, hr, hrr'⟩, rfl⟩
    · rintro h g ⟨r', ⟨r, hr, hrr'⟩, rfl⟩
      exact h r hr r' hrr'
  have hR : (∀ g ∈ (gensOf nnc rows).filterMap teDir, rowAdmits c g) ↔
      ∀ r ∈ rows, ∀ g', teDir (r.toGen nnc) = some g' → rowAdmits c g' := by
    unfold gensOf
    simp only [List.mem_map, List.mem_filterMap]
    constructor
    · intro h r hr g' hg'
      exact h g' ⟨_, ⟨r, hr, rfl⟩, hg'⟩
    · rintro h g' ⟨_, ⟨r, hr, rfl⟩, hg'⟩
      exact h r hr g' hg'
  rw [hL, hR]
  constructor
  · intro h r hr
    by_cases hp : r.isNNCPoint nnc
    · exact hpt r hr hp h
    · exact (teRow_admits nnc n r (hwf r hr) hp c).mp (h r hr)
  · intro h r hr
    by_cases hp : r.isNNCPoint nnc
    · rw [teRow_nncPoint nnc n r (hwf r hr) hp]
      intro _ hh; cases hh
    · exact (teRow_admits nnc n r (hwf r hr) hp c).mpr (h r hr)

/-- under the row-matching condition `NNCInv`: the direction of an NNC point is that of its closure-point row -/
theorem teRows_admits (nnc : Bool) (n : Nat) (rows : List Row) (hwf : ∀ r ∈ rows, r.genWF nnc n)
    (hinv : nnc = true → NNCInv rows) (c : Con) :
    (∀ g ∈ gensOf nnc (timeElapseRows nnc rows), rowAdmits c g) ↔
    (∀ g ∈ (gensOf nnc rows).filterMap teDir, rowAdmits c g) := by
  refine teRows_admits_of nnc n rows hwf c fun r hr hp h => ?_
  have hn : nnc = true := hp.1
  subst hn
  obtain ⟨r', hr', hl', hz', he', hco⟩ := hinv rfl r hr hp
  have hk' : ¬ r'.isNNCPoint true := fun hh => hh.2.2.2 he'
  exact teDir_matching n r r' (hwf r hr) (hwf r' hr') hp hl' hz' he' hco c
    ((teRow_admits true n r' (hwf r' hr') hk' c).mp (h r' hr'))

end PPLV.PolyOps

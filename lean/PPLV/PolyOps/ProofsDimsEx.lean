import PPLV.PolyOps.ProofsAffineEx
import PPLV.PolyOps.ProofsDims5
import PPLV.PolyOps.ProofsDims6
import PPLV.PolyOps.ProofsDims7
import PPLV.PolyOps.ProofsDims11

/-!
# the dimension-changing operators: the hypotheses of the row-level theorems are
satisfiable

`exP` (ProofsAffineEx): the segment `0 ≤ x ≤ 1` of dimension 1 held with both descriptions.
`exP2 = exP.add_space_dimensions_and_project 1`: the segment `[0,1] × {0}` of dimension 2, again with
both descriptions (constraints `y = 0`, `x ≥ 0`, `1 - x ≥ 0`; generators the points `(0,0)`, `(1,0)`).
Every hypothesis of every operator theorem is proved for these terms and the theorem is applied.
-/
namespace PPLV.PolyOps
open PPLV.Lin


/-- `add_space_dimensions_and_embed` -/
example : (exP.add_space_dimensions_and_embed 2).Denotes (sem (exRef.addDimsEmbed 2).cs) :=
  add_space_dimensions_and_embed_rows_correct exP 2 exRef rfl rfl exRef_wf exP_wf exP_denotes

/-- `add_space_dimensions_and_project` -/
example : (exP.add_space_dimensions_and_project 2).Denotes (sem (exRef.addDimsProject 2).cs) :=
  add_space_dimensions_and_project_rows_correct exP 2 exRef rfl rfl exRef_wf exP_wf exP_denotes

/-- the rows computed: the lines of the new variables first, old rows padded -/
example : (exP.add_space_dimensions_and_embed 2).gs.rows =
    [⟨true, 0, [0, 0, 1], 0⟩, ⟨true, 0, [0, 1, 0], 0⟩, ⟨false, 1, [0, 0, 0], 0⟩,
     ⟨false, 1, [1, 0, 0], 0⟩] := by decide

/-! ### a polyhedron of dimension 2 -/

def exP2 : Poly := exP.add_space_dimensions_and_project 1
def exRef2 : RefPoly := exRef.addDimsProject 1

example : exP2.cs.rows = [⟨true, 0, [0, 1], 0⟩, ⟨false, 0, [1, 0], 0⟩, ⟨false, 1, [-1, 0], 0⟩] := by
  decide
example : exP2.gs.rows = [⟨false, 1, [0, 0], 0⟩, ⟨false, 1, [1, 0], 0⟩] := by decide

theorem exP2_denotes : exP2.Denotes (sem exRef2.cs) :=
  add_space_dimensions_and_project_rows_correct exP 1 exRef rfl rfl exRef_wf exP_wf exP_denotes

theorem exRef2_wf : WF exRef2.n exRef2.cs := by
  intro c hc
  have : exRef2.cs = [geRow [1] 0, geRow [-1] 1, ⟨[0, 1], 0, false⟩, ⟨[0, -1], 0, false⟩] := by decide
  rw [this] at hc
  simp only [List.mem_cons, List.not_mem_nil, or_false] at hc
  rcases hc with rfl | rfl | rfl | rfl <;> simp [geRow, exRef2, RefPoly.addDimsProject, exRef]

theorem exP2_wf : exP2.WF := by
  have hcs : exP2.cs.rows = [⟨true, 0, [0, 1], 0⟩, ⟨false, 0, [1, 0], 0⟩, ⟨false, 1, [-1, 0], 0⟩] := by
    decide
  have hgs : exP2.gs.rows = [⟨false, 1, [0, 0], 0⟩, ⟨false, 1, [1, 0], 0⟩] := by decide
  refine ⟨?_, ?_, ?_, ?_, ?_, ?_, ?_, ?_⟩
  · intro _ _ r hr
    rw [hcs] at hr
    simp only [List.mem_cons, List.not_mem_nil, or_false] at hr
    rcases hr with rfl | rfl | rfl <;> rfl
  · intro _ _ r hr
    rw [hgs] at hr
    simp only [List.mem_cons, List.not_mem_nil, or_false] at hr
    rcases hr with rfl | rfl <;> simp [Row.genWF, exP2, exP, Poly.add_space_dimensions_and_project]
  · intro _ _
    refine ⟨⟨false, 1, [0, 0], 0⟩, by rw [hgs]; simp, ?_⟩
    simp [Row.isPoint, exP2, exP, Poly.add_space_dimensions_and_project]
  · intro h; revert h; decide
  · intro h; revert h; decide
  · intro h; revert h; decide
  · intro _ _; exact Or.inl (by decide)
  · intro h; revert h; decide

/-- `remove_space_dimensions {y}` -/
example : ∃ q, exP2.remove_space_dimensions [1] = some q ∧
    q.Denotes (sem (exRef2.removeDims [1]).cs) ∧ q.WF := by
  have h : (exP2.remove_space_dimensions [1]).isSome = true := by decide
  obtain ⟨q, hq⟩ := Option.isSome_iff_exists.mp h
  have hlt : ∀ v ∈ [1], v < exP2.dim := by
    intro v hv; simp at hv; subst hv; decide
  exact ⟨q, hq,
    remove_space_dimensions_rows_correct exP2 q [1] exRef2 rfl rfl exRef2_wf exP2_wf (by decide) hlt
      exP2_denotes hq,
    remove_space_dimensions_rows_wf exP2 q [1] exP2_wf (by decide) hlt
      (fun h => by revert h; decide) hq⟩

/-- all dimensions removed: the zero-dimensional universe -/
example : ∃ q, exP.remove_space_dimensions [0] = some q ∧
    q.Denotes (sem (exRef.removeDims [0]).cs) ∧ q.dim = 0 := by
  have h : (exP.remove_space_dimensions [0]).isSome = true := by decide
  obtain ⟨q, hq⟩ := Option.isSome_iff_exists.mp h
  have hlt : ∀ v ∈ [0], v < exP.dim := by
    intro v hv; simp at hv; subst hv; decide
  refine ⟨q, hq,
    remove_space_dimensions_rows_correct exP q [0] exRef rfl rfl exRef_wf exP_wf (by decide) hlt
      exP_denotes hq, ?_⟩
  have : (exP.remove_space_dimensions [0]).map (·.dim) = some 0 := by decide
  rw [hq] at this
  exact Option.some.inj this

/-- `remove_higher_space_dimensions 1` -/
example : ∃ q, exP2.remove_higher_space_dimensions 1 = some q ∧
    q.Denotes (sem (exRef2.removeHigherDims 1).cs) ∧ q.WF := by
  exact exists_result (by decide) fun q hq =>
    ⟨remove_higher_space_dimensions_rows_correct exP2 q 1 exRef2 rfl rfl exRef2_wf exP2_wf (by decide)
      exP2_denotes hq,
    remove_higher_space_dimensions_rows_wf exP2 q 1 exP2_wf (by decide)
      (fun h => by revert h; decide) hq⟩

/-- `expand_space_dimension x 2` -/
example : ∃ q, exP.expand_space_dimension 0 2 = some q ∧
    q.Denotes (sem (exRef.expandDim 0 2).cs) := by
  exact exists_result (by decide) fun q hq =>
    expand_space_dimension_rows_correct exP q 0 2 exRef rfl rfl exRef_wf exP_wf (by decide)
      exP_denotes hq

/-- `concatenate_assign`: the square `[0,1]²` (as `[0,1] × {0}` concatenated with `[0,1]`) -/
example : ∃ q, exP2.concatenate_assign exP = some q ∧
    q.Denotes (sem (exRef2.concat exRef).cs) := by
  exact exists_result (by decide) fun q hq =>
    concatenate_assign_rows_correct exP2 exP q exRef2 exRef rfl rfl rfl rfl exRef2_wf exRef_wf
      exP2_wf exP_wf rfl exP2_denotes exP_denotes hq

/-! ### `map_space_dimensions` -/

/-- the transposition of two coordinates is a bijection of `{0, 1}` -/
theorem swap2_bij :
    (∀ j j' k, [some 1, some 0].getD j none = some k → [some 1, some 0].getD j' none = some k → j = j') ∧
    (∀ j k, [some 1, some 0].getD j none = some k → k < 2) ∧
    ∀ k < 2, ∃ j, [some 1, some 0].getD j none = some k := by
  refine ⟨fun j j' k h1 h2 => ?_, fun j k h1 => ?_, fun k hk => ?_⟩
  · rcases j with _ | _ | j <;> rcases j' with _ | _ | j' <;> simp at h1 h2 <;> omega
  · rcases j with _ | _ | j <;> simp at h1 <;> omega
  · rcases k with _ | _ | k
    · exact ⟨1, rfl⟩
    · exact ⟨0, rfl⟩
    · omega

/-- the transposition `x ↔ y` (permutation case: both descriptions renamed) -/
example : ∃ q, exP2.map_space_dimensions [some 1, some 0] = some q ∧
    q.Denotes (sem (exRef2.mapDims 2 (mapPairs [some 1, some 0])).cs) := by
  exact exists_result (by decide) fun q hq =>
    map_space_dimensions_rows_correct exP2 q [some 1, some 0] 2 exRef2 rfl rfl exRef2_wf exP2_wf rfl
      swap2_bij.1 swap2_bij.2.1 swap2_bij.2.2 exP2_denotes hq

set_option linter.unnecessarySeqFocus false

/-- `y` projected away, `x` kept (general case: the generator system is rebuilt) -/
example : ∃ q, exP2.map_space_dimensions [some 0, none] = some q ∧
    q.Denotes (sem (exRef2.mapDims 1 (mapPairs [some 0, none])).cs) := by
  refine exists_result (by decide) fun q hq =>
    map_space_dimensions_rows_correct exP2 q [some 0, none] 1 exRef2 rfl rfl exRef2_wf exP2_wf rfl
      ?_ ?_ ?_ exP2_denotes hq
  · intro j j' k h1 h2
    rcases j with _ | _ | j <;> rcases j' with _ | _ | j' <;> simp at h1 h2 <;> omega
  · intro j k h1
    rcases j with _ | _ | j <;> simp at h1 <;> omega
  · intro k hk
    rcases k with _ | k
    · exact ⟨0, rfl⟩
    · omega

end PPLV.PolyOps

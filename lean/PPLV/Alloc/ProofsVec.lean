import PPLV.Alloc.ProofsSeq

/-! # C14 — Swapping_Vector growth -/

namespace PPLV.Alloc

def SVec.blocks (v : SVec) : List Nat := v.elems ++ v.buf.toList

theorem defaultN_spec {base L} : ∀ (n : Nat) (acc X : List Nat) (h : Heap) (thr fr h'),
    Tracks base L (acc ++ X) h → acc.Nodup → (∀ b ∈ acc, b ∉ X) → defaultN n acc h = (thr, fr, h') →
    (thr = true ∧ Tracks base L X h') ∨
    (thr = false ∧ Tracks base L (fr ++ X) h' ∧ fr.Nodup ∧ (∀ b ∈ fr, b ∉ X)) := by
  intro n
  induction n with
  | zero =>
    intro acc X h thr fr h' t nd dis e
    simp [defaultN] at e; obtain ⟨e1, e2, e3⟩ := e; subst e1 e2 e3
    exact Or.inr ⟨rfl, t, nd, dis⟩
  | succ n ih =>
    intro acc X h thr fr h' t nd dis e
    unfold defaultN at e
    split at e
    · rename_i h1 ha
      cases e
      exact Or.inl ⟨rfl, Tracks.release acc (t.alloc_none ha) nd (by intro b; simp) dis⟩
    · rename_i b h1 ha
      obtain ⟨t1, hb, _⟩ := t.alloc_some ha
      have hb' : b ∉ acc ∧ b ∉ X := by
        simp only [List.mem_append, not_or] at hb; exact hb
      apply ih (acc ++ [b]) X h1 thr fr h' (t1.congr ?_) ?_ ?_ e
      · intro c; simp only [List.mem_cons, List.mem_append, List.not_mem_nil, or_false]
        exact or_left_comm.trans or_assoc.symm
      · rw [List.nodup_append]
        exact ⟨nd, by simp, by intro a ha' c hc; simp at hc; subst hc; intro e'; subst e'; exact hb'.1 ha'⟩
      · intro c hc
        rcases List.mem_append.mp hc with h2 | h2
        · exact dis c h2
        · simp at h2; subst h2; exact hb'.2

structure VecInv (v : SVec) : Prop where
  nd : v.blocks.Nodup

theorem svecReserve_spec {base L h v newCap thr v1 h1} (t : Tracks base L v.blocks h) (inv : VecInv v)
    (e : svecReserve v newCap h = (thr, v1, h1)) :
    Tracks base L v1.blocks h1 ∧ VecInv v1 := by
  unfold svecReserve at e
  split at e
  · cases e; exact ⟨t, inv⟩
  · split at e
    · rename_i h2 ha
      cases e; exact ⟨t.alloc_none ha, inv⟩
    · rename_i nb h2 ha
      obtain ⟨t1, hnb, _⟩ := t.alloc_some ha
      -- view the owned set as  [] ++ (nb :: v.blocks)
      have t1' : Tracks base L ([] ++ (nb :: v.blocks)) h2 := by simpa using t1
      split at e
      · rename_i fr h3 hd
        cases e
        rcases defaultN_spec _ [] _ h2 true fr h3 t1' List.nodup_nil (by simp) hd with ⟨_, t2⟩ | ⟨hf, _⟩
        · refine ⟨?_, inv⟩
          rw [free_eq]
          exact Tracks.release [nb] t2 (by simp) (by intro b; simp) (by intro b hb; simp at hb; subst hb; exact hnb)
        · cases hf
      · rename_i fr h3 hd
        cases e
        rcases defaultN_spec _ [] _ h2 false fr h3 t1' List.nodup_nil (by simp) hd with ⟨hf, _⟩ | ⟨_, t2, ndf, disf⟩
        · cases hf
        · have ndv := inv.nd
          cases hb : v.buf with
          | none =>
            simp only [SVec.blocks, hb, Option.toList, List.append_nil, Heap.freeOpt] at t2 disf ndv hnb ⊢
            refine ⟨Tracks.release fr t2 ndf ?_ ?_, ⟨?_⟩⟩
            · intro b; simp only [List.mem_append, List.mem_cons, List.not_mem_nil, or_false]
              simp only [or_comm, or_left_comm]
            · intro b hb'; have := disf b hb'
              simp only [List.mem_cons, not_or] at this
              simp only [List.mem_append, List.mem_cons, List.not_mem_nil, or_false, not_or]
              exact ⟨this.2, this.1⟩
            · simp only [SVec.blocks, Option.toList]
              rw [List.nodup_append]
              exact ⟨ndv, by simp, by intro a ha' c hc; simp at hc; subst hc; intro e'; subst e'; exact hnb ha'⟩
          | some ob =>
            simp only [SVec.blocks, hb, Option.toList] at t2 disf ndv hnb ⊢
            rw [List.nodup_append] at ndv
            rw [freeOpt_some_eq, freeAll_append]
            have hob : ob ∉ fr := by
              intro hm; have := disf ob hm; simp at this
            refine ⟨Tracks.release (fr ++ [ob]) t2 ?_ ?_ ?_, ⟨?_⟩⟩
            · rw [List.nodup_append]
              exact ⟨ndf, by simp, by intro a ha' c hc; simp at hc; subst hc; intro e'; subst e'; exact hob ha'⟩
            · intro b; simp only [List.mem_append, List.mem_cons, List.not_mem_nil, or_false]
              simp only [or_assoc, or_comm, or_left_comm]
            · intro b hb'
              simp only [List.mem_append, List.mem_cons, List.not_mem_nil, or_false, not_or]
              rcases List.mem_append.mp hb' with h4 | h4
              · have := disf b h4
                simp only [List.mem_cons, List.mem_append, List.not_mem_nil, or_false, not_or] at this
                exact ⟨this.2.1, this.1⟩
              · simp at h4; subst h4
                refine ⟨fun hm => ndv.2.2 b hm b (by simp) rfl, ?_⟩
                intro e'; apply hnb; rw [← e']; simp
            · simp only [SVec.blocks, Option.toList]
              rw [List.nodup_append]
              exact ⟨ndv.1, by simp, by intro a ha' c hc; simp at hc; subst hc; intro e'; subst e'; exact hnb (List.mem_append_left _ ha')⟩

theorem svecDestroy_spec {base L h v} (t : Tracks base L v.blocks h) (inv : VecInv v) :
    Tracks base L [] (svecDestroy v h) := by
  unfold svecDestroy
  cases hb : v.buf with
  | none =>
    simp only [Heap.freeOpt]
    have nd := inv.nd
    simp only [SVec.blocks, hb, Option.toList, List.append_nil] at t nd
    exact Tracks.release _ t nd (by intro b; simp) (by simp)
  | some ob =>
    rw [freeOpt_some_eq, freeAll_append]
    have nd := inv.nd
    simp only [SVec.blocks, hb, Option.toList] at t nd
    exact Tracks.release _ t nd (by intro b; simp) (by simp)

/-- `Swapping_Vector::push_back` on a live vector: clean for every fault position. -/
theorem svecPush_clean {base L h} (m cap : Nat) (t : Tracks base L [] h) :
    Clean L (svecPush (buildVec m cap h).1 (buildVec m cap h).2) := by
  have hb : Tracks base L (buildVec m cap h).1.blocks (buildVec m cap h).2 ∧ VecInv (buildVec m cap h).1 := by
    by_cases hc : cap = 0
    · simp only [buildVec, hc, if_true]; exact ⟨by simpa [SVec.blocks] using t, ⟨by simp [SVec.blocks]⟩⟩
    · obtain ⟨v, es, ev, ees, t1, nd, hne, _⟩ := buildParts_spec m cap t
      simp only [buildVec, hc, if_false, ev, ees, SVec.blocks, Option.toList]
      refine ⟨t1, ⟨?_⟩⟩
      simp only [SVec.blocks, Option.toList]
      rw [List.nodup_append]
      exact ⟨nd, by simp, by intro a ha b hb; simp at hb; subst hb; exact hne a ha⟩
  unfold svecPush
  simp only
  split
  · rename_i v1 h1 hr
    obtain ⟨t1, inv1⟩ := svecReserve_spec hb.1 hb.2 hr
    exact Clean.of (svecDestroy_spec t1 inv1) _ _
  · rename_i v1 h1 hr
    obtain ⟨t1, inv1⟩ := svecReserve_spec hb.1 hb.2 hr
    split
    · rename_i h2 ha
      exact Clean.of (svecDestroy_spec (t1.alloc_none ha) inv1) _ _
    · rename_i b h2 ha
      obtain ⟨t2, hb2, _⟩ := t1.alloc_some ha
      refine Clean.of (svecDestroy_spec (v := { v1 with elems := v1.elems ++ [b] }) (t2.congr ?_) ⟨?_⟩) _ _
      · intro c; simp only [SVec.blocks, List.mem_cons, List.mem_append, List.not_mem_nil, or_false]
        simp only [or_assoc, or_comm]
      · have nd0 := inv1.nd
        simp only [SVec.blocks] at nd0 hb2 ⊢
        rw [List.nodup_append] at nd0 ⊢
        refine ⟨?_, nd0.2.1, ?_⟩
        · rw [List.nodup_append]
          refine ⟨nd0.1, by simp, ?_⟩
          intro a ha' c hc; simp at hc; subst hc
          intro e; subst e; exact hb2 (List.mem_append_left _ ha')
        · intro a ha' c hc
          rcases List.mem_append.mp ha' with h3 | h3
          · exact nd0.2.2 a h3 c hc
          · simp at h3; subst h3
            intro e; subst e; exact hb2 (List.mem_append_right _ hc)

end PPLV.Alloc

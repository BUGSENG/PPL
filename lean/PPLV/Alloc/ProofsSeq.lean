import PPLV.Alloc.ProofsRows

/-! # C14 — MIP_Problem machines: `add_constraint_helper`, `add_constraint`, the constructors -/

namespace PPLV.Alloc

/-- Ownership of a constraint sequence: its buffer (if any) and the pointees. -/
def CSeq.blocks (s : CSeq) : List Nat := s.ptrs ++ s.buf.toList

structure SeqInv (s : CSeq) : Prop where
  nd : s.blocks.Nodup

theorem mipReserve_spec {base L h s thr0 s0 h0} (t : Tracks base L s.blocks h) (inv : SeqInv s)
    (e0 : mipReserve s h = (thr0, s0, h0)) :
    Tracks base L s0.blocks h0 ∧ SeqInv s0 ∧ s0.ptrs = s.ptrs := by
  unfold mipReserve at e0
  split at e0
  · split at e0
    · rename_i h1' ha
      cases e0
      exact ⟨t.alloc_none ha, inv, rfl⟩
    · rename_i nb h1' ha
      cases e0
      obtain ⟨t1, hnb, _⟩ := t.alloc_some ha
      cases hb : s.buf with
      | none =>
        simp only [CSeq.blocks, hb, Option.toList, Heap.freeOpt, List.append_nil] at t1 hnb ⊢
        refine ⟨t1.congr (by intro c; simp [or_comm]), ⟨?_⟩, trivial⟩
        simp only [CSeq.blocks, Option.toList]
        have := inv.nd
        simp only [CSeq.blocks, hb, Option.toList, List.append_nil] at this
        rw [List.nodup_append]
        refine ⟨this, by simp, ?_⟩
        intro a ha' b hb'; simp at hb'; subst hb'
        intro e; subst e; exact hnb ha'
      | some ob =>
        simp only [CSeq.blocks, hb, Option.toList] at t1 hnb ⊢
        have ndb := inv.nd
        simp only [CSeq.blocks, hb, Option.toList] at ndb
        rw [List.nodup_append] at ndb
        refine ⟨?_, ⟨?_⟩, trivial⟩
        · rw [freeOpt_some_eq]
          apply Tracks.release [ob] t1 (by simp)
          · intro c; simp only [List.mem_cons, List.mem_append, List.not_mem_nil, or_false]
            exact or_comm.trans ((or_congr_left or_comm).trans or_assoc)
          · intro c hc; simp at hc; subst hc
            simp only [List.mem_append, List.mem_singleton, not_or]
            refine ⟨fun hm => ndb.2.2 c hm c (by simp) rfl, ?_⟩
            intro e; apply hnb; rw [← e]; simp
        · simp only [CSeq.blocks, Option.toList]
          rw [List.nodup_append]
          refine ⟨ndb.1, by simp, ?_⟩
          intro a ha' b hb'; simp at hb'; subst hb'
          intro e; subst e; exact hnb (List.mem_append_left _ ha')
  · cases e0; exact ⟨t, inv, rfl⟩

theorem mipHelper_spec {base L h s thr s1 h1} (t : Tracks base L s.blocks h) (inv : SeqInv s)
    (e : mipHelper s h = (thr, s1, h1)) :
    Tracks base L s1.blocks h1 ∧ SeqInv s1 ∧ (thr = true → s1.ptrs = s.ptrs) := by
  unfold mipHelper at e
  split at e
  · rename_i s0 h0 hr
    cases e
    obtain ⟨t1, inv1, hp⟩ := mipReserve_spec t inv hr
    exact ⟨t1, inv1, fun _ => hp⟩
  · rename_i s0 h0 hr
    obtain ⟨t1, inv1, hp⟩ := mipReserve_spec t inv hr
    split at e
    · rename_i h2 ha
      cases e
      exact ⟨t1.alloc_none ha, inv1, fun _ => hp⟩
    · rename_i p h2 ha
      cases e
      obtain ⟨t2, hp2, _⟩ := t1.alloc_some ha
      refine ⟨t2.congr ?_, ⟨?_⟩, fun hf => by cases hf⟩
      · intro c; simp only [CSeq.blocks, List.mem_cons, List.mem_append, List.not_mem_nil, or_false]
        simp only [or_assoc, or_comm]
      · have nd0 := inv1.nd
        simp only [CSeq.blocks] at nd0 hp2 ⊢
        rw [List.nodup_append] at nd0 ⊢
        refine ⟨?_, nd0.2.1, ?_⟩
        · rw [List.nodup_append]
          refine ⟨nd0.1, by simp, ?_⟩
          intro a ha' b hb'; simp at hb'; subst hb'
          intro e; subst e; exact hp2 (List.mem_append_left _ ha')
        · intro a ha' b hb'
          rcases List.mem_append.mp ha' with h3 | h3
          · exact nd0.2.2 a h3 b hb'
          · simp at h3; subst h3
            intro e; subst e; exact hp2 (List.mem_append_right _ hb')

/-- `~MIP_Problem()` releases everything the sequence owns. -/
theorem mipDestroy_spec {base L h s} (t : Tracks base L s.blocks h) (inv : SeqInv s) :
    Tracks base L [] (mipDestroy s h) := by
  unfold mipDestroy
  cases hb : s.buf with
  | none =>
    simp only [Heap.freeOpt]
    have nd := inv.nd
    simp only [CSeq.blocks, hb, Option.toList, List.append_nil] at t nd
    exact Tracks.release _ t nd (by intro b; simp) (by simp)
  | some ob =>
    rw [freeOpt_some_eq, freeAll_append]
    have nd := inv.nd
    simp only [CSeq.blocks, hb, Option.toList] at t nd
    exact Tracks.release _ t nd (by intro b; simp) (by simp)

theorem helperLoop_spec {base L} : ∀ (n : Nat) (s : CSeq) (h : Heap) (thr s1 h1),
    Tracks base L s.blocks h → SeqInv s → helperLoop n s h = (thr, s1, h1) →
    Tracks base L s1.blocks h1 ∧ SeqInv s1 := by
  intro n
  induction n with
  | zero => intro s h thr s1 h1 t inv e; simp [helperLoop] at e; obtain ⟨_, e2, e3⟩ := e; subst e2 e3; exact ⟨t, inv⟩
  | succ n ih =>
    intro s h thr s1 h1 t inv e
    unfold helperLoop at e
    split at e
    · rename_i s' h' hh
      cases e
      obtain ⟨t1, inv1, _⟩ := mipHelper_spec t inv hh
      exact ⟨t1, inv1⟩
    · rename_i s' h' hh
      obtain ⟨t1, inv1, _⟩ := mipHelper_spec t inv hh
      exact ih _ _ _ _ _ t1 inv1 e

theorem emptySeq_inv : SeqInv { buf := none, cap := 0, ptrs := [] } := ⟨by simp [CSeq.blocks]⟩

/-- `add_constraint` on a live problem: clean for every fault position. -/
theorem mipAdd_clean {base L h} (m cap : Nat) (t : Tracks base L [] h) :
    Clean L (mipAdd (buildSeq m cap h).1 (buildSeq m cap h).2) := by
  have hb : Tracks base L (buildSeq m cap h).1.blocks (buildSeq m cap h).2 ∧ SeqInv (buildSeq m cap h).1 := by
    by_cases hc : cap = 0
    · simp only [buildSeq, hc, if_true]; exact ⟨by simpa [CSeq.blocks] using t, emptySeq_inv⟩
    · obtain ⟨v, es, ev, ees, t1, nd, hne, _⟩ := buildParts_spec m cap t
      simp only [buildSeq, hc, if_false, ev, ees, CSeq.blocks, Option.toList]
      refine ⟨t1, ⟨?_⟩⟩
      simp only [CSeq.blocks, Option.toList]
      rw [List.nodup_append]
      exact ⟨nd, by simp, by intro a ha b hb; simp at hb; subst hb; exact hne a ha⟩
  unfold mipAdd
  split
  rename_i thr s1 h1 hh
  obtain ⟨t1, inv1, _⟩ := mipHelper_spec hb.1 hb.2 hh
  exact Clean.of (mipDestroy_spec t1 inv1) _ _

/-- The constructor with a destructor-like handler is clean for every `n` and `k`. -/
theorem mipCtor_clean {base L h} (n : Nat) (t : Tracks base L [] h) : Clean L (mipCtor n h) := by
  unfold mipCtor
  have key : ∀ thr s h1, helperLoop n { buf := none, cap := 0, ptrs := [] } h = (thr, s, h1) →
      Tracks base L [] (mipDestroy s h1) := by
    intro thr s h1 hl
    obtain ⟨t1, inv1⟩ := helperLoop_spec n _ h thr s h1 (by simpa [CSeq.blocks] using t) emptySeq_inv hl
    exact mipDestroy_spec t1 inv1
  split
  · rename_i s h1 hl; exact Clean.of (key _ _ _ hl) _ _
  · rename_i s h1 hl; exact Clean.of (key _ _ _ hl) _ _

/-- as written the constructor differs from the one with the handler only on a throw … -/
theorem mipCtorAsWritten_eq {n : Nat} {h : Heap} (hnt : (mipCtorAsWritten n h).thrown = false) :
    mipCtorAsWritten n h = mipCtor n h := by
  unfold mipCtorAsWritten mipCtor at *
  rcases hl : helperLoop n { buf := none, cap := 0, ptrs := [] } h with ⟨thr, s, h1⟩
  rw [hl] at hnt
  cases thr
  · rfl
  · cases hnt

/-- The constructor as written is clean when it does not throw. -/
theorem mipCtorAsWritten_clean_of_not_thrown {base L h} (n : Nat) (t : Tracks base L [] h)
    (hnt : (mipCtorAsWritten n h).thrown = false) : Clean L (mipCtorAsWritten n h) :=
  mipCtorAsWritten_eq hnt ▸ mipCtor_clean n t

end PPLV.Alloc

namespace PPLV.Alloc

/-- Repaired copy constructor: clean for every `n` and `k`. -/
theorem mipCopy_clean {base L h} (n : Nat) (t : Tracks base L [] h) : Clean L (mipCopy n h) := by
  unfold mipCopy
  by_cases hn : n = 0
  · simp only [hn, if_true]; exact Clean.of t _ _
  · simp only [hn, if_false]
    split
    · rename_i h1 ha
      exact Clean.of (t.alloc_none ha) _ _
    · rename_i b h1 ha
      obtain ⟨t1, _, _⟩ := t.alloc_some ha
      have inv0 : SeqInv { buf := some b, cap := n, ptrs := [] } := ⟨by simp [CSeq.blocks]⟩
      have key : ∀ thr s h2, helperLoop n { buf := some b, cap := n, ptrs := [] } h1 = (thr, s, h2) →
          Tracks base L [] (mipDestroy s h2) := by
        intro thr s h2 hl
        obtain ⟨t2, inv2⟩ := helperLoop_spec n _ h1 thr s h2 (by simpa [CSeq.blocks] using t1) inv0 hl
        exact mipDestroy_spec t2 inv2
      split
      · rename_i s1 h2 hl; exact Clean.of (key _ _ _ hl) _ _
      · rename_i s1 h2 hl; exact Clean.of (key _ _ _ hl) _ _

/-- … and so does the copy constructor -/
theorem mipCopyAsWritten_eq {n : Nat} {h : Heap} (hnt : (mipCopyAsWritten n h).thrown = false) :
    mipCopyAsWritten n h = mipCopy n h := by
  unfold mipCopyAsWritten mipCopy at *
  split
  · rfl
  · rename_i hn
    rw [if_neg hn] at hnt
    split
    · rfl
    · rename_i b h1 ha
      simp only [ha] at hnt
      rcases hl : helperLoop n { buf := some b, cap := n, ptrs := [] } h1 with ⟨thr, s, h2⟩
      rw [hl] at hnt
      cases thr
      · rfl
      · cases hnt

theorem mipCopyAsWritten_clean_of_not_thrown {base L h} (n : Nat) (t : Tracks base L [] h)
    (hnt : (mipCopyAsWritten n h).thrown = false) : Clean L (mipCopyAsWritten n h) :=
  mipCopyAsWritten_eq hnt ▸ mipCopy_clean n t

end PPLV.Alloc

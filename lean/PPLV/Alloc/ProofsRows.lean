import PPLV.Alloc.ProofsTree

/-! # C14 — releasing several owned blocks at once; the Dense_Row machines -/

namespace PPLV.Alloc

theorem freeAll_append (h : Heap) (a b : List Nat) : (h.freeAll a).freeAll b = h.freeAll (a ++ b) := by
  simp [Heap.freeAll, List.foldl_append]

theorem freeOpt_some_eq (h : Heap) (b : Nat) : h.freeOpt (some b) = h.freeAll [b] := rfl
theorem free_eq (h : Heap) (b : Nat) : h.free b = h.freeAll [b] := rfl

/-- Releasing the distinct owned blocks `fs` out of `Y = fs ∪ X`. -/
theorem Tracks.release {base L X Y h} (fs : List Nat) (t : Tracks base L Y h) (nd : fs.Nodup)
    (hY : ∀ b, b ∈ Y ↔ (b ∈ fs ∨ b ∈ X)) (dis : ∀ b ∈ fs, b ∉ X) :
    Tracks base L X (h.freeAll fs) := by
  refine (Tracks.freeAll fs Y t nd (fun b hb => (hY b).mpr (Or.inl hb))).congr ?_
  intro c
  simp only [List.mem_filter, Bool.not_eq_true', List.contains_eq_mem, decide_eq_false_iff_not, hY]
  constructor
  · rintro ⟨h1 | h1, h2⟩
    · exact absurd h1 h2
    · exact h1
  · intro h1; exact ⟨Or.inr h1, fun hm => dis c hm h1⟩

/-! ## Dense_Row -/

theorem growLoop_spec {base L} : ∀ (n : Nat) (r : DRow) (X : List Nat) (h : Heap) (thr r' h'),
    Tracks base L X h → growLoop n r h = (thr, r', h') →
    ∃ new, r' = { r with elems := r.elems ++ new } ∧ Tracks base L (new ++ X) h' ∧ new.Nodup
      ∧ (∀ b ∈ new, b ∉ X) ∧ (thr = false → new.length = n) := by
  intro n
  induction n with
  | zero =>
    intro r X h thr r' h' t e
    simp [growLoop] at e
    obtain ⟨e1, e2, e3⟩ := e
    subst e1 e2 e3
    exact ⟨[], by simp, by simpa using t, List.nodup_nil, by simp, by simp⟩
  | succ n ih =>
    intro r X h thr r' h' t e
    unfold growLoop at e
    split at e
    · rename_i h1 ha
      simp at e
      obtain ⟨e1, e2, e3⟩ := e
      subst e1 e2 e3
      exact ⟨[], by simp, by simpa using t.alloc_none ha, List.nodup_nil, by simp, by simp⟩
    · rename_i b h1 ha
      obtain ⟨t1, hb, _⟩ := t.alloc_some ha
      obtain ⟨new, e1, t2, nd, dis, len⟩ := ih _ (b :: X) h1 thr r' h' t1 e
      obtain ⟨t3, nd3, dis3⟩ := t2.cons_new hb nd dis
      exact ⟨b :: new, by simp [e1], t3, nd3, dis3, fun ht => by simp [len ht]⟩

/-- `~Impl()` releases a row that owns `es` and (optionally) its vector. -/
theorem drowDestroy_some {base L X h es v cap} (t : Tracks base L (es ++ v :: X) h) (nd : es.Nodup)
    (hes : ∀ b ∈ es, b ≠ v ∧ b ∉ X) (hv : v ∉ X) :
    Tracks base L X (drowDestroy { vec := some v, cap := cap, elems := es } h) := by
  unfold drowDestroy
  simp only [freeOpt_some_eq, freeAll_append]
  apply Tracks.release _ t
  · rw [List.nodup_append]
    refine ⟨(List.reverse_perm es).nodup_iff.mpr nd, by simp, ?_⟩
    intro a ha b hb
    simp at hb; subst hb
    exact (hes a (List.mem_reverse.mp ha)).1
  · intro b; simp only [List.mem_append, List.mem_cons, List.mem_reverse, List.not_mem_nil, or_false]
    simp only [or_assoc, or_comm, or_left_comm]
  · intro b hb
    simp only [List.mem_append, List.mem_reverse, List.mem_singleton] at hb
    rcases hb with h1 | h1
    · exact (hes b h1).2
    · subst h1; exact hv

theorem drowDestroy_none {base L X h cap} (t : Tracks base L X h) :
    Tracks base L X (drowDestroy { vec := none, cap := cap, elems := [] } h) := by
  simpa [drowDestroy, Heap.freeAll, Heap.freeOpt] using t

/-- `Dense_Row(const Dense_Row&, capacity)`: `~Impl()` cleans up after a throwing body. -/
theorem denseCopy_clean {base L h} (m cap : Nat) (t : Tracks base L [] h) :
    Clean L (denseCopy m cap h) := by
  unfold denseCopy
  split
  · rename_i h1 ha
    exact Clean.of (drowDestroy_none (t.alloc_none ha)) _ _
  · rename_i v h1 ha
    obtain ⟨t1, hv, _⟩ := t.alloc_some ha
    have key : ∀ thr r h2, growLoop m { vec := some v, cap := cap, elems := [] } h1 = (thr, r, h2) →
        Tracks base L [] (drowDestroy r h2) := by
      intro thr r h2 hl
      obtain ⟨new, e1, t2, nd, dis, _⟩ := growLoop_spec m _ _ h1 thr r h2 t1 hl
      subst e1
      simp only [List.nil_append]
      apply drowDestroy_some t2 nd _ hv
      intro b hb
      have := dis b hb
      simp only [List.mem_cons, not_or] at this
      exact ⟨this.1, by simp⟩
    split
    · rename_i r h2 hl; exact Clean.of (key _ _ _ hl) _ _
    · rename_i r h2 hl; exact Clean.of (key _ _ _ hl) _ _

/-- Validity of a row after the growth loop: as many coefficients as were constructed. -/
theorem DRow.ok_of_le {v cap es} (hle : List.length es ≤ cap) :
    DRow.ok { vec := some v, cap := cap, elems := es } = true := by
  simp [DRow.ok, hle]

end PPLV.Alloc

namespace PPLV.Alloc

/-- What `buildRow`/`buildVec`/`buildSeq` leave: nothing, or a buffer plus distinct elements. -/
theorem buildParts_spec {base L h} (m cap : Nat) (t : Tracks base L [] h) :
    ∃ v es, h.take.1 = v ∧ (takeN (min m cap) [] h.take.2).1 = es ∧
      Tracks base L (es ++ [v]) (takeN (min m cap) [] h.take.2).2 ∧ es.Nodup ∧ (∀ b ∈ es, b ≠ v) ∧
      es.length = min m cap := by
  obtain ⟨t1, _⟩ := t.take
  obtain ⟨new, e1, t2, nd, dis, len⟩ := takeN_spec (min m cap) [] _ _ t1
  simp at e1
  refine ⟨_, _, rfl, rfl, ?_, ?_, ?_, ?_⟩
  · rw [e1]; exact t2
  · rw [e1]; exact nd
  · rw [e1]; intro b hb; have := dis b hb; simpa using this
  · rw [e1]; exact len

theorem finishGrow_clean {base L h1} (es : List Nat) (v c n : Nat) (nd : es.Nodup) (hne : ∀ b ∈ es, b ≠ v)
    (t2 : Tracks base L (es ++ [v]) h1) :
    Clean L (finishGrow (growLoop n { vec := some v, cap := c, elems := es } h1)) := by
  obtain ⟨new, e1, t3, nd2, dis, _⟩ := growLoop_spec n _ _ h1 _ _ _ t2 rfl
  unfold finishGrow
  rw [e1]
  have t4 : Tracks base L ((es ++ new) ++ [v]) (growLoop n { vec := some v, cap := c, elems := es } h1).2.2 := t3.congr (by
    intro b; simp only [List.mem_append, List.mem_singleton]
    simp only [or_assoc, or_comm])
  refine Clean.of (drowDestroy_some t4 ?_ ?_ (by simp)) _ _
  · rw [List.nodup_append]
    refine ⟨nd, nd2, ?_⟩
    intro a ha b hb e; subst e
    exact dis a hb (List.mem_append_left _ ha)
  · intro b hb
    rcases List.mem_append.mp hb with h1 | h1
    · exact ⟨hne b h1, by simp⟩
    · have := dis b h1; simp only [List.mem_append, List.mem_singleton, not_or] at this
      exact ⟨this.2, by simp⟩

/-- `Dense_Row::resize(new_size)` on a live row: no leak, no bad free, whatever fails. -/
theorem denseResize_clean {base L h} (m cap newSize : Nat) (t : Tracks base L [] h) :
    Clean L (denseResize (buildRow m cap h).1 newSize (buildRow m cap h).2) := by
  by_cases hc : cap = 0
  · -- no storage yet
    have e : buildRow m cap h = (DRow.empty, h) := by simp [buildRow, hc]
    rw [e]
    unfold denseResize
    simp only [DRow.empty, List.length_nil]
    by_cases hn : newSize ≤ 0
    · simp only [hn, if_true, List.take_nil, List.drop_nil, List.reverse_nil]
      exact Clean.of (drowDestroy_none (by simpa [Heap.freeAll] using t)) _ _
    · have hpos : newSize > 0 := by omega
      simp only [hn, hpos, if_false, if_true]
      split
      · rename_i h1 ha
        exact Clean.of (drowDestroy_none (t.alloc_none ha)) _ _
      · rename_i nv h1 ha
        obtain ⟨t1, _, _⟩ := t.alloc_some ha
        exact finishGrow_clean [] nv newSize _ List.nodup_nil (by simp) (by simpa [Heap.freeOpt] using t1)
  · obtain ⟨v, es, ev, ees, t1, nd, hne, len⟩ := buildParts_spec m cap t
    have e : buildRow m cap h = ({ vec := some v, cap := cap, elems := es }, (takeN (min m cap) [] h.take.2).2) := by
      simp [buildRow, hc, ev, ees]
    rw [e]
    generalize (takeN (min m cap) [] h.take.2).2 = h0 at t1
    unfold denseResize
    simp only
    split
    · -- shrink
      have hsplit : es = es.take newSize ++ es.drop newSize := (List.take_append_drop _ _).symm
      have ndt : (es.take newSize).Nodup := List.Nodup.sublist (List.take_sublist _ _) nd
      have ndd : (es.drop newSize).Nodup := List.Nodup.sublist (List.drop_sublist _ _) nd
      have hdis : ∀ b ∈ es.drop newSize, b ∉ es.take newSize := by
        intro b hb ht
        rw [hsplit, List.nodup_append] at nd
        exact nd.2.2 b ht b hb rfl
      have t2 : Tracks base L (es.take newSize ++ [v]) (h0.freeAll (es.drop newSize).reverse) := by
        apply Tracks.release _ t1 ((List.reverse_perm _).nodup_iff.mpr ndd)
        · intro b
          simp only [List.mem_append, List.mem_reverse, List.mem_singleton]
          constructor
          · rintro (h1 | h1)
            · rw [hsplit] at h1
              rcases List.mem_append.mp h1 with h2 | h2
              · exact Or.inr (Or.inl h2)
              · exact Or.inl h2
            · exact Or.inr (Or.inr h1)
          · rintro (h1 | h1 | h1)
            · exact Or.inl (List.mem_of_mem_drop h1)
            · exact Or.inl (List.mem_of_mem_take h1)
            · exact Or.inr h1
        · intro b hb
          have hb' := List.mem_reverse.mp hb
          simp only [List.mem_append, List.mem_singleton, not_or]
          exact ⟨hdis b hb', hne b (List.mem_of_mem_drop hb')⟩
      refine Clean.of (drowDestroy_some t2 ndt ?_ (by simp)) _ _
      intro b hb; exact ⟨hne b (List.mem_of_mem_take hb), by simp⟩
    · split
      · split
        · rename_i h1 ha
          refine Clean.of (drowDestroy_some (t1.alloc_none ha) nd ?_ (by simp)) _ _
          intro b hb; exact ⟨hne b hb, by simp⟩
        · rename_i nv h1 ha
          obtain ⟨t2, hnv, _⟩ := t1.alloc_some ha
          -- the old vector is released, the new one is owned
          have t3 : Tracks base L (es ++ [nv]) (h1.freeOpt (some v)) := by
            rw [freeOpt_some_eq]
            apply Tracks.release [v] t2 (by simp)
            · intro b; simp only [List.mem_cons, List.mem_append, List.not_mem_nil, or_false]
              simp only [or_comm, or_left_comm]
            · intro b hb; simp at hb; subst hb
              simp only [List.mem_append, List.mem_singleton, not_or]
              refine ⟨fun hm => (hne b hm) rfl, ?_⟩
              intro e; apply hnv; rw [← e]; simp
          have hne2 : ∀ b ∈ es, b ≠ nv := by
            intro b hb e; apply hnv; rw [← e]; exact List.mem_append_left _ hb
          exact finishGrow_clean es nv newSize _ nd hne2 t3
      · exact finishGrow_clean es v cap _ nd hne t1

end PPLV.Alloc

namespace PPLV.Alloc

/-- `Dense_Row::operator=(const Sparse_Row&)` with reallocation is clean when the allocation of `init` succeeds. -/
theorem denseAssignSparseAsWritten_clean_of_alloc {base L h} (m0 cap m : Nat) (t : Tracks base L [] h) (hc : cap ≠ 0)
    (hal : ∀ h1 : Heap, h1.cd = h.cd → h1.armed = h.armed → (h1.alloc).1 ≠ none) :
    Clean L (denseAssignSparseAsWritten (buildRow m0 cap h).1 m (buildRow m0 cap h).2) := by
  obtain ⟨v, es, ev, ees, t1, nd, hne, _⟩ := buildParts_spec m0 cap t
  have e : buildRow m0 cap h = ({ vec := some v, cap := cap, elems := es }, (takeN (min m0 cap) [] h.take.2).2) := by
    simp [buildRow, hc, ev, ees]
  rw [e]
  have hcd : ∀ n acc (g : Heap), (takeN n acc g).2.cd = g.cd ∧ (takeN n acc g).2.armed = g.armed := by
    intro n; induction n with
    | zero => intro acc g; simp [takeN]
    | succ n ih => intro acc g; simp only [takeN]; have := ih (acc ++ [g.take.1]) g.take.2; simpa [Heap.take] using this
  have hfa : ∀ (fs : List Nat) (g : Heap), (g.freeAll fs).cd = g.cd ∧ (g.freeAll fs).armed = g.armed := by
    intro fs; induction fs with
    | nil => intro g; simp [Heap.freeAll]
    | cons f fs ih => intro g; have := ih (g.free f); simpa [Heap.freeAll, Heap.free] using this
  generalize hh0 : (takeN (min m0 cap) [] h.take.2).2 = h0 at t1
  have h0cd : h0.cd = h.cd ∧ h0.armed = h.armed := by
    rw [← hh0]; have := hcd (min m0 cap) [] h.take.2; simpa [Heap.take] using this
  unfold denseAssignSparseAsWritten
  simp only
  -- after destroy() nothing is owned
  have t2 : Tracks base L [] ((h0.freeAll es.reverse).freeOpt (some v)) := by
    have := drowDestroy_some (cap := cap) t1 nd (fun b hb => ⟨hne b hb, by simp⟩) (by simp)
    simpa [drowDestroy] using this
  have hcd2 : ((h0.freeAll es.reverse).freeOpt (some v)).cd = h.cd ∧ ((h0.freeAll es.reverse).freeOpt (some v)).armed = h.armed := by
    have := hfa es.reverse h0
    simp only [Heap.freeOpt, Heap.free]
    exact ⟨this.1.trans h0cd.1, this.2.trans h0cd.2⟩
  split
  · rename_i h2 ha
    exact absurd (by rw [ha]) (hal _ hcd2.1 hcd2.2)
  · rename_i nv h2 ha
    obtain ⟨t3, _, _⟩ := t2.alloc_some ha
    exact finishGrow_clean [] nv m _ List.nodup_nil (by simp) (by simpa using t3)

end PPLV.Alloc

namespace PPLV.Alloc

/-- Repaired `Dense_Row::operator=(const Sparse_Row&)` (copy aside, then swap): clean for every
fault position and every shape of the two rows. -/
theorem denseAssignSparse_clean {base L h} (m0 cap m : Nat) (t : Tracks base L [] h) :
    Clean L (denseAssignSparse (buildRow m0 cap h).1 m (buildRow m0 cap h).2) := by
  -- the receiver: nothing, or a vector plus distinct coefficients; destroying it releases exactly its blocks `X`
  have hr : ∃ (r : DRow) (X : List Nat) (h0 : Heap), buildRow m0 cap h = (r, h0) ∧ Tracks base L X h0 ∧
      (∀ (Y : List Nat) (g : Heap), (∀ b ∈ X, b ∉ Y) → Tracks base L (X ++ Y) g → Tracks base L Y (drowDestroy r g)) := by
    by_cases hc : cap = 0
    · refine ⟨DRow.empty, [], h, by simp [buildRow, hc], t, ?_⟩
      intro Y g _ tg; simpa [drowDestroy, DRow.empty, Heap.freeAll, Heap.freeOpt] using tg
    · obtain ⟨v, es, ev, ees, t1, nd, hne, _⟩ := buildParts_spec m0 cap t
      refine ⟨{ vec := some v, cap := cap, elems := es }, es ++ [v], _, by simp [buildRow, hc, ev, ees], t1, ?_⟩
      intro Y g hdis tg
      refine drowDestroy_some (X := Y) (tg.congr (by intro b; simp [List.append_assoc])) nd ?_ ?_
      · intro b hb; exact ⟨hne b hb, hdis b (by simp [hb])⟩
      · exact hdis v (by simp)
  obtain ⟨r, X, h0, e, t1, hdestroy⟩ := hr
  rw [e]
  unfold denseAssignSparse
  simp only
  split
  · rename_i h1 ha
    exact Clean.of (hdestroy [] _ (by simp) (by simpa using t1.alloc_none ha)) _ _
  · rename_i v h1 ha
    obtain ⟨t2, hv, _⟩ := t1.alloc_some ha
    split
    · rename_i tmp h2 hl
      obtain ⟨new, e1, t3, nd, dis, _⟩ := growLoop_spec m _ _ h1 true tmp h2 t2 hl
      subst e1
      simp only [List.nil_append]
      have t4 : Tracks base L X (drowDestroy { vec := some v, cap := m, elems := new } h2) := by
        apply drowDestroy_some t3 nd _ hv
        intro b hb
        have := dis b hb
        simp only [List.mem_cons, not_or] at this
        exact ⟨this.1, this.2⟩
      exact Clean.of (hdestroy [] _ (by simp) (by simpa using t4)) _ _
    · rename_i tmp h2 hl
      obtain ⟨new, e1, t3, nd, dis, _⟩ := growLoop_spec m _ _ h1 false tmp h2 t2 hl
      subst e1
      simp only [List.nil_append]
      -- the old contents go first (the local that received them in the swap), the new row later
      have t4 : Tracks base L (new ++ [v]) (drowDestroy r h2) := by
        apply hdestroy (new ++ [v]) h2
        · intro b hb hm
          rcases List.mem_append.mp hm with h3 | h3
          · exact (dis b h3) (List.mem_cons_of_mem _ hb)
          · simp at h3; subst h3; exact hv hb
        · refine t3.congr ?_
          intro b; simp only [List.mem_append, List.mem_cons, List.not_mem_nil, or_false]
          simp only [or_assoc, or_comm, or_left_comm]
      refine Clean.of (drowDestroy_some (X := []) t4 nd ?_ (by simp)) _ _
      intro b hb
      have := dis b hb
      simp only [List.mem_cons, not_or] at this
      exact ⟨this.1, by simp⟩

end PPLV.Alloc

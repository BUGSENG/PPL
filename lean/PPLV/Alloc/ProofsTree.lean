import PPLV.Alloc.Proofs

/-! # C14 — CO_Tree machines: `init`, `copy_data_from`, copy constructor, `operator=`, iterator constructor, insertion -/

namespace PPLV.Alloc

/-- What a sequential construction loop guarantees: the result list extends `acc` by fresh,
pairwise distinct blocks that are now owned. -/
structure LoopPost (base : Nat) (L X acc es : List Nat) (h' : Heap) : Prop where
  ex : ∃ new, es = acc ++ new ∧ Tracks base L (new ++ X) h' ∧ new.Nodup ∧ (∀ b ∈ new, b ∉ X)

theorem fillLoop_spec {base L} : ∀ (n : Nat) (acc X : List Nat) (h : Heap) (thr es h'),
    Tracks base L X h → fillLoop n acc h = (thr, es, h') →
    ∃ new, es = acc ++ new ∧ Tracks base L (new ++ X) h' ∧ new.Nodup ∧ (∀ b ∈ new, b ∉ X)
      ∧ (thr = false → new.length = n) := by
  intro n
  induction n with
  | zero =>
    intro acc X h thr es h' t e
    simp [fillLoop] at e
    obtain ⟨e1, e2, e3⟩ := e
    subst e1 e2 e3
    exact ⟨[], by simp, by simpa using t, List.nodup_nil, by simp, by simp⟩
  | succ n ih =>
    intro acc X h thr es h' t e
    unfold fillLoop at e
    split at e
    · rename_i h1 ha
      simp at e
      obtain ⟨e1, e2, e3⟩ := e
      subst e1 e2 e3
      exact ⟨[], by simp, by simpa using t.alloc_none ha, List.nodup_nil, by simp, by simp⟩
    · rename_i b h1 ha
      obtain ⟨t1, hb, _⟩ := t.alloc_some ha
      obtain ⟨new, e1, t2, nd, dis, len⟩ := ih (acc ++ [b]) (b :: X) h1 thr es h' t1 e
      obtain ⟨t3, nd3, dis3⟩ := t2.cons_new hb nd dis
      exact ⟨b :: new, by simp [e1], t3, nd3, dis3, fun ht => by simp [len ht]⟩

theorem copyLoop_spec {base L} : ∀ (xs : List Bool) (acc X : List Nat) (h : Heap) (thr es h'),
    Tracks base L X h → copyLoop xs acc h = (thr, es, h') →
    ∃ new, es = acc ++ new ∧ Tracks base L (new ++ X) h' ∧ new.Nodup ∧ (∀ b ∈ new, b ∉ X) := by
  intro xs
  induction xs with
  | nil =>
    intro acc X h thr es h' t e
    simp [copyLoop] at e
    obtain ⟨e1, e2, e3⟩ := e
    subst e1 e2 e3
    exact ⟨[], by simp, by simpa using t, List.nodup_nil, by simp⟩
  | cons u xs ih =>
    intro acc X h thr es h' t e
    cases u with
    | false => simp only [copyLoop] at e; exact ih acc X h thr es h' t e
    | true =>
      unfold copyLoop at e
      split at e
      · rename_i h1 ha
        simp at e
        obtain ⟨e1, e2, e3⟩ := e
        subst e1 e2 e3
        exact ⟨[], by simp, by simpa using t.alloc_none ha, List.nodup_nil, by simp⟩
      · rename_i b h1 ha
        obtain ⟨t1, hb, _⟩ := t.alloc_some ha
        obtain ⟨new, e1, t2, nd, dis⟩ := ih (acc ++ [b]) (b :: X) h1 thr es h' t1 e
        obtain ⟨t3, nd3, dis3⟩ := t2.cons_new hb nd dis
        exact ⟨b :: new, by simp [e1], t3, nd3, dis3⟩

/-- `CO_Tree::init`: either it throws, owns nothing new and leaves the empty tree (with the cached
iterators untouched), or it returns a tree owning two fresh arrays. -/
theorem cotInit_spec {base L X h prev n thr tr h'} (t : Tracks base L X h)
    (e : cotInit prev n h = (thr, tr, h')) :
    (thr = true ∧ Tracks base L X h' ∧ tr = { Tree.empty with cached := prev }) ∨
    (thr = false ∧ n = 0 ∧ tr = Tree.empty ∧ h' = h) ∨
    (thr = false ∧ n ≠ 0 ∧ ∃ bi bd, tr = Tree.mk (some bi) (some bd) (reservedOf n) [] 0 (some bi) ∧ Tracks base L (bd :: bi :: X) h' ∧ bi ∉ X ∧ bd ∉ X ∧ bi ≠ bd) := by
  unfold cotInit at e
  split at e
  · rename_i hn
    simp at e; obtain ⟨e1, e2, e3⟩ := e; subst e1 e2 e3
    exact Or.inr (Or.inl ⟨rfl, hn, rfl, rfl⟩)
  · rename_i hn
    split at e
    · rename_i h1 ha
      simp at e; obtain ⟨e1, e2, e3⟩ := e; subst e1 e2 e3
      exact Or.inl ⟨rfl, t.alloc_none ha, rfl⟩
    · rename_i bi h1 ha
      obtain ⟨t1, hbi, _⟩ := t.alloc_some ha
      split at e
      · rename_i h2 hb
        simp at e; obtain ⟨e1, e2, e3⟩ := e; subst e1 e2 e3
        have t2 := (t1.alloc_none hb).free (List.mem_cons_self ..)
        refine Or.inl ⟨rfl, t2.congr ?_, rfl⟩
        intro c; simp only [List.mem_filter, List.mem_cons, bne_iff_ne, ne_eq]
        constructor
        · rintro ⟨h3 | h3, h4⟩
          · exact absurd h3 h4
          · exact h3
        · intro h3; exact ⟨Or.inr h3, by intro e; subst e; exact hbi h3⟩
      · rename_i bd h2 hb
        obtain ⟨t2, hbd, _⟩ := t1.alloc_some hb
        simp at e; obtain ⟨e1, e2, e3⟩ := e; subst e1 e2 e3
        refine Or.inr (Or.inr ⟨rfl, hn, bi, bd, rfl, t2, hbi, ?_, ?_⟩)
        · intro hx; exact hbd (List.mem_cons_of_mem _ hx)
        · intro e; subst e; exact hbd (List.mem_cons_self ..)

/-- Releasing everything a tree owns. -/
theorem release_tree {base L h} {es : List Nat} {bi bd : Nat} {X : List Nat}
    (t : Tracks base L (es ++ bd :: bi :: X) h) (nd : es.Nodup)
    (hes : ∀ b ∈ es, b ≠ bi ∧ b ≠ bd ∧ b ∉ X) (hbi : bi ∉ X) (hbd : bd ∉ X) (hne : bi ≠ bd) :
    Tracks base L X (((h.freeAll es).freeOpt (some bi)).freeOpt (some bd)) := by
  have t1 := Tracks.freeAll es _ t nd (by intro b hb; exact List.mem_append_left _ hb)
  have t2 := t1.freeOpt_some (b := bi) (by
    refine List.mem_filter.mpr ⟨by simp, ?_⟩
    have : bi ∉ es := fun hm => (hes bi hm).1 rfl
    simpa using this)
  have t3 := t2.freeOpt_some (b := bd) (by
    refine List.mem_filter.mpr ⟨List.mem_filter.mpr ⟨by simp, ?_⟩, by simpa using Ne.symm hne⟩
    have : bd ∉ es := fun hm => (hes bd hm).2.1 rfl
    simpa using this)
  refine t3.congr ?_
  intro c
  simp only [List.mem_filter, List.mem_append, List.mem_cons, bne_iff_ne, ne_eq, Bool.not_eq_true',
    List.contains_eq_mem, decide_eq_false_iff_not]
  constructor
  · rintro ⟨⟨⟨h1 | h1 | h1 | h1, h2⟩, h3⟩, h4⟩
    · exact absurd h1 h2
    · exact absurd h1 h4
    · exact absurd h1 h3
    · exact h1
  · intro h1
    refine ⟨⟨⟨Or.inr (Or.inr (Or.inr h1)), fun hm => (hes c hm).2.2 h1⟩, ?_⟩, ?_⟩
    · intro e; subst e; exact hbi h1
    · intro e; subst e; exact hbd h1

end PPLV.Alloc

namespace PPLV.Alloc

/-- General form of "no leak" for an outcome computed from a tracked heap. -/
structure Clean (L : List Nat) (o : Outcome) : Prop where
  live : o.live = L
  bad : o.bad = 0

theorem Clean.of {base L h} (t : Tracks base L [] h) (thr v : Bool) : Clean L (Outcome.ofHeap thr v h) :=
  ⟨t.done, t.bad⟩

/-- `copy_data_from` on a freshly sized tree: on a throw everything the tree owned is released and
the tree is the (valid) empty tree; otherwise the tree owns the arrays and the copied elements. -/
theorem copyDataFrom_spec {base L X h bi bd r x thr tr h'}
    (t : Tracks base L (bd :: bi :: X) h) (hbi : bi ∉ X) (hbd : bd ∉ X) (hne : bi ≠ bd)
    (e : copyDataFrom (Tree.mk (some bi) (some bd) r [] 0 (some bi)) x h = (thr, tr, h')) :
    (thr = true ∧ tr = Tree.empty ∧ Tracks base L X h') ∨
    (thr = false ∧ ∃ es, tr = Tree.mk (some bi) (some bd) r es es.length (some bi) ∧
        Tracks base L (es ++ bd :: bi :: X) h' ∧ es.Nodup ∧ (∀ b ∈ es, b ≠ bi ∧ b ≠ bd ∧ b ∉ X)) := by
  unfold copyDataFrom at e
  split at e
  · simp at e; obtain ⟨e1, e2, e3⟩ := e; subst e1 e2 e3
    exact Or.inr ⟨rfl, [], rfl, by simpa using t, List.nodup_nil, by simp⟩
  · split at e
    · rename_i es h1 hl
      obtain ⟨new, e1, t1, nd, dis⟩ := copyLoop_spec x [] _ h false es h1 t hl
      simp at e1; subst e1
      simp at e; obtain ⟨e1, e2, e3⟩ := e; subst e1 e2 e3
      refine Or.inr ⟨rfl, es, rfl, t1, nd, ?_⟩
      intro b hb
      have := dis b hb
      simp only [List.mem_cons, not_or] at this
      exact ⟨this.2.1, this.1, this.2.2⟩
    · rename_i es h1 hl
      obtain ⟨new, e1, t1, nd, dis⟩ := copyLoop_spec x [] _ h true es h1 t hl
      simp at e1; subst e1
      simp at e; obtain ⟨e1, e2, e3⟩ := e; subst e1 e2 e3
      refine Or.inl ⟨rfl, rfl, ?_⟩
      apply release_tree t1 nd _ hbi hbd hne
      intro b hb
      have := dis b hb
      simp only [List.mem_cons, not_or] at this
      exact ⟨this.2.1, this.1, this.2.2⟩

theorem cotDestroy_full {base L X h bi bd r es sz c}
    (t : Tracks base L (es ++ bd :: bi :: X) h) (nd : es.Nodup)
    (hes : ∀ b ∈ es, b ≠ bi ∧ b ≠ bd ∧ b ∉ X) (hbi : bi ∉ X) (hbd : bd ∉ X) (hne : bi ≠ bd)
    (hr : r ≠ 0) :
    Tracks base L X (cotDestroy (Tree.mk (some bi) (some bd) r es sz c) h) := by
  unfold cotDestroy
  simp only [hr, if_false]
  exact release_tree t nd hes hbi hbd hne

theorem reservedOf_ne_zero (n : Nat) : reservedOf n ≠ 0 := by
  unfold reservedOf
  have : 2 ^ (Nat.log2 n + 1) ≥ 2 := by
    have h1 : 2 ^ (Nat.log2 n + 1) = 2 * 2 ^ Nat.log2 n := by rw [Nat.pow_succ]; omega
    have h2 : 2 ^ Nat.log2 n ≥ 1 := Nat.one_le_two_pow
    omega
  omega

/-- Copy constructor of `CO_Tree` from any tracked heap. -/
theorem cotreeCopy_clean {base L h} (x : List Bool) (t : Tracks base L [] h) :
    Clean L (cotreeCopy x h) ∧ (cotreeCopy x h).valid = true := by
  unfold cotreeCopy
  split
  · rename_i tr h1 hi
    rcases cotInit_spec t hi with ⟨_, t1, _⟩ | ⟨hf, _⟩ | ⟨hf, _⟩
    · exact ⟨Clean.of t1 _ _, rfl⟩
    · cases hf
    · cases hf
  · rename_i tr h1 hi
    rcases cotInit_spec t hi with ⟨hf, _⟩ | ⟨_, hn, htr, hh⟩ | ⟨_, hn, bi, bd, htr, t1, hbi, hbd, hne⟩
    · cases hf
    · subst htr hh
      have hx : x = [] := List.length_eq_zero_iff.mp hn
      subst hx
      simp [copyDataFrom, cotDestroy, Tree.empty, Tree.ok, Outcome.ofHeap]
      exact ⟨t.done, t.bad⟩
    · subst htr
      split
      · rename_i tr2 h2 hc
        rcases copyDataFrom_spec t1 hbi hbd hne hc with ⟨_, _, t2⟩ | ⟨hf, _⟩
        · exact ⟨Clean.of t2 _ _, rfl⟩
        · cases hf
      · rename_i tr2 h2 hc
        rcases copyDataFrom_spec t1 hbi hbd hne hc with ⟨hf, _⟩ | ⟨_, es, htr2, t2, nd, hes⟩
        · cases hf
        · subst htr2
          have t3 := cotDestroy_full (r := reservedOf x.length) (sz := es.length) (c := some bi) t2 nd hes hbi hbd hne (reservedOf_ne_zero _)
          refine ⟨Clean.of t3 _ _, ?_⟩
          simp [Outcome.ofHeap, Tree.ok, reservedOf_ne_zero]

end PPLV.Alloc

namespace PPLV.Alloc

theorem Tracks.take {base L X h} (t : Tracks base L X h) :
    Tracks base L (h.take.1 :: X) h.take.2 ∧ h.take.1 ∉ X := by
  have hle : base ≤ h.next := t.le
  have hnotin : h.next ∉ X := by intro hm; have := (t.fresh _ hm).2; omega
  refine ⟨⟨?_, ?_, ?_, ?_, t.bad⟩, hnotin⟩
  · show (h.next :: h.live).filter _ = L
    rw [List.filter_cons]
    have : ¬ h.next < base := by omega
    simp [this, t.old]
  · intro c hc
    show c ∈ h.next :: h.live ↔ c ∈ h.next :: X
    simp only [List.mem_cons]; rw [t.new c hc]
  · intro c hc
    show base ≤ c ∧ c < h.next + 1
    rcases List.mem_cons.mp hc with h1 | h1
    · have : c = h.next := h1
      omega
    · have := t.fresh c h1; omega
  · show base ≤ h.next + 1; omega

theorem takeN_spec {base L} : ∀ (n : Nat) (acc X : List Nat) (h : Heap),
    Tracks base L X h →
    ∃ new, (takeN n acc h).1 = acc ++ new ∧ Tracks base L (new ++ X) (takeN n acc h).2 ∧ new.Nodup
      ∧ (∀ b ∈ new, b ∉ X) ∧ new.length = n := by
  intro n
  induction n with
  | zero => intro acc X h t; exact ⟨[], by simp [takeN], by simpa [takeN] using t, List.nodup_nil, by simp, rfl⟩
  | succ n ih =>
    intro acc X h t
    obtain ⟨t1, hb⟩ := t.take
    obtain ⟨new, e1, t2, nd, dis, len⟩ := ih (acc ++ [h.take.1]) (h.take.1 :: X) h.take.2 t1
    obtain ⟨t3, nd3, dis3⟩ := t2.cons_new hb nd dis
    exact ⟨h.take.1 :: new, by simp [takeN, e1], t3, nd3, dis3, by simp [len]⟩

/-- What `buildTree` leaves: the empty tree, or a tree that owns its two arrays and `m` elements. -/
theorem buildTree_spec {base L h} (m : Nat) (t : Tracks base L [] h) :
    (m = 0 ∧ buildTree m h = (Tree.empty, h)) ∨
    (m ≠ 0 ∧ ∃ bi bd es, (buildTree m h).1 = Tree.mk (some bi) (some bd) (reservedOf m) es m (some bi) ∧
      Tracks base L (es ++ [bd, bi]) (buildTree m h).2 ∧ es.Nodup ∧ (∀ b ∈ es, b ≠ bi ∧ b ≠ bd ∧ b ∉ ([] : List Nat)) ∧ bi ≠ bd) := by
  by_cases hm : m = 0
  · left; exact ⟨hm, by simp [buildTree, hm]⟩
  · right
    refine ⟨hm, ?_⟩
    obtain ⟨t1, _⟩ := t.take
    obtain ⟨t2, hbd⟩ := t1.take
    obtain ⟨new, e1, t3, nd, dis, _⟩ := takeN_spec m [] _ _ t2
    simp at e1
    refine ⟨h.take.1, h.take.2.take.1, (takeN m [] h.take.2.take.2).1, ?_, ?_, ?_, ?_, ?_⟩
    · simp [buildTree, hm]
    · simp only [buildTree, hm, if_false]; rw [e1]; exact t3
    · rw [e1]; exact nd
    · intro b hb; rw [e1] at hb
      have := dis b hb
      simp only [List.mem_cons, not_or] at this
      exact ⟨this.2.1, this.1, by simp⟩
    · intro e; apply hbd; rw [← e]; exact List.mem_cons_self ..

/-- `operator=` after `destroy()` of the receiver; `prev` is what the cached end iterators point into when
`init` is entered: the receiver's old array as written, nothing after the repair -/
def assignWith (prev : Option Nat) (x : List Bool) (h0 : Heap) : Outcome :=
  match cotInit prev x.length h0 with
  | (true, t, h1) => Outcome.ofHeap true t.ok (cotDestroy t h1)
  | (false, t, h1) =>
    match copyDataFrom t x h1 with
    | (true, t', h2) => Outcome.ofHeap true t'.ok (cotDestroy t' h2)
    | (false, t', h2) => Outcome.ofHeap false t'.ok (cotDestroy t' h2)

/-- after `destroy()` of a receiver built by `buildTree` nothing is owned -/
theorem destroy_built {base L h} (m : Nat) (t : Tracks base L [] h) :
    Tracks base L [] (cotDestroy (buildTree m h).1 (buildTree m h).2) := by
  rcases buildTree_spec m t with ⟨_, e⟩ | ⟨_, bi, bd, es, e1, t1, nd, hes, hne⟩
  · rw [e]; simpa [cotDestroy, Tree.empty] using t
  · rw [e1]
    exact cotDestroy_full t1 nd hes (by simp) (by simp) hne (reservedOf_ne_zero _)

theorem assignWith_clean {base L h0} (prev : Option Nat) (x : List Bool) (t0 : Tracks base L [] h0) :
    Clean L (assignWith prev x h0) := by
  unfold assignWith
  split
  · rename_i tr h1 hi
    rcases cotInit_spec t0 hi with ⟨_, t1, htr⟩ | ⟨hf, _⟩ | ⟨hf, _⟩
    · subst htr
      have : cotDestroy { Tree.empty with cached := prev } h1 = h1 := by simp [cotDestroy, Tree.empty]
      rw [this]; exact Clean.of t1 _ _
    · cases hf
    · cases hf
  · rename_i tr h1 hi
    rcases cotInit_spec t0 hi with ⟨hf, _⟩ | ⟨_, hn, htr, hh⟩ | ⟨_, hn, bi, bd, htr, t1, hbi, hbd, hne⟩
    · cases hf
    · subst htr hh
      have hx : x = [] := List.length_eq_zero_iff.mp hn
      subst hx
      simp [copyDataFrom, cotDestroy, Tree.empty, Outcome.ofHeap]
      exact ⟨t0.done, t0.bad⟩
    · subst htr
      split
      · rename_i tr2 h2 hc
        rcases copyDataFrom_spec t1 hbi hbd hne hc with ⟨_, htr2, t2⟩ | ⟨hf, _⟩
        · subst htr2
          have : cotDestroy Tree.empty h2 = h2 := by simp [cotDestroy, Tree.empty]
          rw [this]; exact Clean.of t2 _ _
        · cases hf
      · rename_i tr2 h2 hc
        rcases copyDataFrom_spec t1 hbi hbd hne hc with ⟨hf, _⟩ | ⟨_, es, htr2, t2, nd, hes⟩
        · cases hf
        · subst htr2
          exact Clean.of (cotDestroy_full (r := reservedOf x.length) t2 nd hes hbi hbd hne (reservedOf_ne_zero _)) _ _

/-- `operator=` never leaks and never frees a dead block, whatever the receiver held. -/
theorem cotreeAssignAsWritten_clean {base L h} (m : Nat) (x : List Bool) (t : Tracks base L [] h) :
    Clean L (cotreeAssignAsWritten (buildTree m h).1 x (buildTree m h).2) :=
  assignWith_clean _ x (destroy_built m t)

/-- The iterator constructor with the handler added does not leak. -/
theorem cotreeIter_clean {base L h} (n : Nat) (t : Tracks base L [] h) :
    Clean L (cotreeIter n h) := by
  unfold cotreeIter
  split
  · exact Clean.of t _ _
  · rename_i hn
    split
    · rename_i tr h1 hi
      rcases cotInit_spec t hi with ⟨_, t1, _⟩ | ⟨hf, _⟩ | ⟨hf, _⟩
      · exact Clean.of t1 _ _
      · cases hf
      · cases hf
    · rename_i tr h1 hi
      rcases cotInit_spec t hi with ⟨hf, _⟩ | ⟨_, hn0, _⟩ | ⟨_, _, bi, bd, htr, t1, hbi, hbd, hne⟩
      · cases hf
      · exact absurd hn0 hn
      · subst htr
        have key : ∀ thr es h2, fillLoop n [] h1 = (thr, es, h2) →
            Tracks base L [] (((h2.freeAll es).freeOpt (some bi)).freeOpt (some bd)) := by
          intro thr es h2 hl
          obtain ⟨new, e1, t2, nd, dis, _⟩ := fillLoop_spec n [] _ h1 thr es h2 t1 hl
          simp at e1; subst e1
          apply release_tree t2 nd _ hbi hbd hne
          intro b hb
          have := dis b hb
          simp only [List.mem_cons, not_or] at this
          exact ⟨this.2.1, this.1, this.2.2⟩
        split
        · rename_i es h2 hl
          exact Clean.of (key _ _ _ hl) _ _
        · rename_i es h2 hl
          have := key _ _ _ hl
          have e : cotDestroy { indexes := some bi, data := some bd, reserved := reservedOf n, elems := es, size := n, cached := some bi } h2
              = ((h2.freeAll es).freeOpt (some bi)).freeOpt (some bd) := by
            simp [cotDestroy, reservedOf_ne_zero]
          simp only [e]
          exact Clean.of this _ _

/-- the constructor as written differs from the repaired one only where the fill loop throws -/
theorem cotreeIterAsWritten_eq {n : Nat} {h : Heap}
    (hok : (cotreeIterAsWritten n h).thrown = false ∨ (cotInit none n h).1 = true) :
    cotreeIterAsWritten n h = cotreeIter n h := by
  unfold cotreeIterAsWritten cotreeIter at *
  split
  · rfl
  · rename_i hn
    rw [if_neg hn] at hok
    rcases hci : cotInit none n h with ⟨thr, t, h1⟩
    rw [hci] at hok
    cases thr
    · rcases hfl : fillLoop n [] h1 with ⟨thr2, es, h2⟩
      cases thr2
      · simp only [hfl]
      · simp [hfl, Outcome.ofHeap] at hok
    · rfl

/-- The iterator constructor as written is clean whenever the fill loop does not throw. -/
theorem cotreeIterAsWritten_clean_of_not_thrown {base L h} (n : Nat) (t : Tracks base L [] h)
    (hnt : (cotreeIterAsWritten n h).thrown = false) : Clean L (cotreeIterAsWritten n h) :=
  cotreeIterAsWritten_eq (Or.inl hnt) ▸ cotreeIter_clean n t

/-- A fault in one of the two allocations of `init` is handled by `init` itself. -/
theorem cotreeIterAsWritten_clean_of_init_throws {base L h} (n : Nat) (t : Tracks base L [] h)
    (hi : (cotInit none n h).1 = true) : Clean L (cotreeIterAsWritten n h) :=
  cotreeIterAsWritten_eq (Or.inr hi) ▸ cotreeIter_clean n t

end PPLV.Alloc

namespace PPLV.Alloc

/-- Shape of the tree `init` leaves when the cached iterators were null before the call. -/
theorem cotInit_cases {n h thr tr h1} (e : cotInit none n h = (thr, tr, h1)) :
    (thr = true ∧ tr = Tree.empty) ∨ (thr = false ∧ n = 0 ∧ tr = Tree.empty ∧ h1 = h) ∨
    (thr = false ∧ ∃ bi bd, tr = Tree.mk (some bi) (some bd) (reservedOf n) [] 0 (some bi)) := by
  unfold cotInit at e
  split at e
  · rename_i hn; cases e; exact Or.inr (Or.inl ⟨rfl, hn, rfl, rfl⟩)
  · split at e
    · cases e; exact Or.inl ⟨rfl, rfl⟩
    · split at e
      · cases e; exact Or.inl ⟨rfl, rfl⟩
      · cases e; exact Or.inr (Or.inr ⟨rfl, _, _, rfl⟩)

theorem copyDataFrom_cases {bi bd r x h thr tr h'}
    (e : copyDataFrom (Tree.mk (some bi) (some bd) r [] 0 (some bi)) x h = (thr, tr, h')) :
    tr = Tree.empty ∨ ∃ es, tr = Tree.mk (some bi) (some bd) r es es.length (some bi) := by
  unfold copyDataFrom at e
  split at e
  · cases e; exact Or.inr ⟨[], rfl⟩
  · split at e
    · cases e; exact Or.inr ⟨_, rfl⟩
    · cases e; exact Or.inl rfl

theorem Tree.ok_empty : Tree.empty.ok = true := by simp [Tree.ok, Tree.empty]
theorem Tree.ok_full (bi bd r : Nat) (es : List Nat) (hr : r ≠ 0) :
    (Tree.mk (some bi) (some bd) r es es.length (some bi)).ok = true := by simp [Tree.ok, hr]

/-- with no stale cached iterators at the entry of `init`, `operator=` leaves a valid tree on every path -/
theorem assignWith_valid (x : List Bool) (h0 : Heap) : (assignWith none x h0).valid = true := by
  unfold assignWith
  rcases hci : cotInit none x.length h0 with ⟨thr, tr, h1⟩
  rcases cotInit_cases hci with ⟨e1, e2⟩ | ⟨e1, hn, e2, e3⟩ | ⟨e1, bi, bd, e2⟩
  · subst e1 e2; simp [Outcome.ofHeap, Tree.ok_empty]
  · subst e1 e2 e3
    have hx : x = [] := List.length_eq_zero_iff.mp hn
    subst hx
    simp [copyDataFrom, Outcome.ofHeap, Tree.ok_empty]
  · subst e1 e2
    simp only
    rcases hcd : copyDataFrom _ x h1 with ⟨thr2, tr2, h2⟩
    rcases copyDataFrom_cases hcd with e3 | ⟨es, e3⟩
    · subst e3; cases thr2 <;> simp [Outcome.ofHeap, Tree.ok_empty]
    · subst e3; cases thr2 <;> simp [Outcome.ofHeap, Tree.ok_full _ _ _ _ (reservedOf_ne_zero _)]

/-- `operator=` on a receiver that was the empty tree leaves a valid tree on every path. -/
theorem cotreeAssignAsWritten_valid_of_empty (x : List Bool) (h : Heap) :
    (cotreeAssignAsWritten Tree.empty x h).valid = true :=
  assignWith_valid x _

end PPLV.Alloc

namespace PPLV.Alloc

/-- Repaired `operator=`: no leak, no bad free, for every receiver. -/
theorem cotreeAssign_clean {base L h} (m : Nat) (x : List Bool) (t : Tracks base L [] h) :
    Clean L (cotreeAssign (buildTree m h).1 x (buildTree m h).2) :=
  assignWith_clean none x (destroy_built m t)

/-- Repaired `operator=`: the receiver is a valid tree on every path, whatever it held before. -/
theorem cotreeAssign_valid (t0 : Tree) (x : List Bool) (h : Heap) :
    (cotreeAssign t0 x h).valid = true :=
  assignWith_valid x _

end PPLV.Alloc

namespace PPLV.Alloc

/-- Repaired insertion: no leak, no bad free, and the receiver is a valid tree after a failed copy. -/
theorem cotreeInsert_clean {base L h} (m : Nat) (hm : m ≠ 0) (t : Tracks base L [] h) :
    Clean L (cotreeInsert (buildTree m h).1 (buildTree m h).2) ∧
    (cotreeInsert (buildTree m h).1 (buildTree m h).2).valid = true := by
  rcases buildTree_spec m t with ⟨h0, _⟩ | ⟨_, bi, bd, es, e1, t1, nd, hes, hne⟩
  · exact absurd h0 hm
  · -- the number of elements of the built tree
    have hlen : es.length = m := by
      have := takeN_spec (base := base) (L := L) m [] [h.take.2.take.1, h.take.1] h.take.2.take.2
        ((t.take.1.take).1)
      obtain ⟨new, e2, _, _, _, len⟩ := this
      have : (buildTree m h).1.elems = (takeN m [] h.take.2.take.2).1 := by simp [buildTree, hm]
      rw [e1] at this; simp at this e2; rw [this, e2]; exact len
    rw [e1]
    generalize (buildTree m h).2 = g at t1
    unfold cotreeInsert
    split
    · rename_i h1 ha
      refine ⟨Clean.of (cotDestroy_full (t1.alloc_none ha) nd hes (by simp) (by simp) hne (reservedOf_ne_zero _)) _ _, ?_⟩
      simp [Outcome.ofHeap, Tree.ok, reservedOf_ne_zero, hlen]
    · rename_i b h1 ha
      obtain ⟨t2, hb, _⟩ := t1.alloc_some ha
      simp only [List.mem_append, List.mem_cons, List.not_mem_nil, or_false, not_or] at hb
      refine ⟨Clean.of (cotDestroy_full (es := es ++ [b]) (sz := m + 1) (c := some bi) (t2.congr ?_) ?_ ?_ (by simp) (by simp) hne (reservedOf_ne_zero _)) _ _, ?_⟩
      · intro c; simp only [List.mem_append, List.mem_cons, List.not_mem_nil, or_false]
        simp only [or_assoc, or_comm, or_left_comm]
      · rw [List.nodup_append]
        exact ⟨nd, by simp, by intro a ha' c hc; simp at hc; subst hc; intro e'; subst e'; exact hb.1 ha'⟩
      · intro c hc
        rcases List.mem_append.mp hc with h3 | h3
        · exact hes c h3
        · simp at h3; subst h3; exact ⟨hb.2.2, hb.2.1, by simp⟩
      · simp [Outcome.ofHeap, Tree.ok, reservedOf_ne_zero, hlen]

end PPLV.Alloc

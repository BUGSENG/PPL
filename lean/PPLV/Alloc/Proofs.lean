import PPLV.Alloc.Model

/-!
# C14 — lemmas about the heap and ownership tracking

`Tracks base L X h`: relative to a starting heap whose blocks are all `< base` and whose live list
was `L`, the heap `h` still has exactly the old blocks `L` (in order), and the blocks `≥ base` that
are live are exactly those of the list `X` (the blocks the running protocol owns); no free of a
dead block has happened.  Allocation adds to `X`, a free of an owned block removes from `X`, and
when `X` is empty again the live list is `L`.
-/

namespace PPLV.Alloc

def Heap.WF (h : Heap) : Prop := ∀ b ∈ h.live, b < h.next

structure Tracks (base : Nat) (L X : List Nat) (h : Heap) : Prop where
  old : h.live.filter (fun b => decide (b < base)) = L
  new : ∀ b, base ≤ b → (b ∈ h.live ↔ b ∈ X)
  fresh : ∀ b ∈ X, base ≤ b ∧ b < h.next
  le : base ≤ h.next
  bad : h.bad = 0

theorem Tracks.start {h : Heap} (wf : h.WF) (hb : h.bad = 0) : Tracks h.next h.live [] h := by
  refine ⟨?_, ?_, ?_, Nat.le_refl _, hb⟩
  · apply List.filter_eq_self.mpr
    intro b hb'; simpa using wf b hb'
  · intro b hle; constructor
    · intro hm; have := wf b hm; omega
    · intro hm; cases hm
  · intro b hm; cases hm

theorem Tracks.done {base L h} (t : Tracks base L [] h) : h.live = L := by
  rw [← t.old]; symm
  apply List.filter_eq_self.mpr
  intro b hb
  by_cases hlt : b < base
  · simpa using hlt
  · have := (t.new b (by omega)).mp hb; cases this

theorem Tracks.congr {base L X Y h} (t : Tracks base L X h) (e : ∀ b, b ∈ X ↔ b ∈ Y) :
    Tracks base L Y h :=
  ⟨t.old, fun b hb => (t.new b hb).trans (e b), fun b hb => t.fresh b ((e b).mpr hb), t.le, t.bad⟩

/-- a construction loop took the fresh block `b` and then the blocks `new`: together they are fresh, distinct
and owned on top of `X` -/
theorem Tracks.cons_new {base L X h b new} (t : Tracks base L (new ++ b :: X) h) (hb : b ∉ X)
    (nd : new.Nodup) (dis : ∀ c ∈ new, c ∉ b :: X) :
    Tracks base L (b :: new ++ X) h ∧ (b :: new).Nodup ∧ ∀ c ∈ b :: new, c ∉ X := by
  refine ⟨t.congr fun c => ?_, List.nodup_cons.mpr ⟨fun hm => dis b hm List.mem_cons_self, nd⟩, ?_⟩
  · simp only [List.cons_append, List.mem_append, List.mem_cons]
    exact or_left_comm
  · intro c hc
    rcases List.mem_cons.mp hc with h2 | h2
    · subst h2; exact hb
    · exact fun hx => dis c h2 (List.mem_cons_of_mem _ hx)

theorem alloc_none_eq {h h' : Heap} (e : h.alloc = (none, h')) :
    h'.live = h.live ∧ h'.next = h.next ∧ h'.bad = h.bad := by
  unfold Heap.alloc at e
  split at e
  · cases e; exact ⟨rfl, rfl, rfl⟩
  · cases e

theorem alloc_some_eq {h h' : Heap} {b : Nat} (e : h.alloc = (some b, h')) :
    b = h.next ∧ h'.live = b :: h.live ∧ h'.next = h.next + 1 ∧ h'.bad = h.bad := by
  unfold Heap.alloc at e
  split at e
  · cases e
  · cases e; exact ⟨rfl, rfl, rfl, rfl⟩

theorem Tracks.alloc_none {base L X h h'} (t : Tracks base L X h) (e : h.alloc = (none, h')) :
    Tracks base L X h' := by
  obtain ⟨hl, hn, hb⟩ := alloc_none_eq e
  exact ⟨by rw [hl]; exact t.old, by intro b hb'; rw [hl]; exact t.new b hb',
         by intro b hb'; rw [hn]; exact t.fresh b hb', by rw [hn]; exact t.le, by rw [hb]; exact t.bad⟩

theorem Tracks.alloc_some {base L X h h' b} (t : Tracks base L X h) (e : h.alloc = (some b, h')) :
    Tracks base L (b :: X) h' ∧ b ∉ X ∧ base ≤ b := by
  obtain ⟨hb, hl, hn, hbad⟩ := alloc_some_eq e
  have hle : base ≤ b := by rw [hb]; exact t.le
  have hnotin : b ∉ X := by
    intro hm; have := (t.fresh b hm).2; omega
  refine ⟨⟨?_, ?_, ?_, ?_, ?_⟩, hnotin, hle⟩
  · rw [hl, List.filter_cons]
    have : ¬ b < base := by omega
    simp [this, t.old]
  · intro c hc; rw [hl]; simp only [List.mem_cons]
    constructor
    · rintro (h1 | h1)
      · exact Or.inl h1
      · exact Or.inr ((t.new c hc).mp h1)
    · rintro (h1 | h1)
      · exact Or.inl h1
      · exact Or.inr ((t.new c hc).mpr h1)
  · intro c hc; rw [hn]
    rcases List.mem_cons.mp hc with h1 | h1
    · subst h1; omega
    · have := t.fresh c h1; omega
  · rw [hn]; have := t.le; omega
  · rw [hbad]; exact t.bad

theorem Tracks.free {base L X h b} (t : Tracks base L X h) (hm : b ∈ X) :
    Tracks base L (X.filter (· != b)) (h.free b) := by
  have hb := t.fresh b hm
  have hlive : b ∈ h.live := (t.new b hb.1).mpr hm
  refine ⟨?_, ?_, ?_, t.le, ?_⟩
  · show (h.live.filter (· != b)).filter _ = L
    rw [List.filter_filter, ← t.old]
    apply List.filter_congr
    intro c _
    by_cases hc : c < base
    · have : c ≠ b := by omega
      simp [hc, this]
    · simp [hc]
  · intro c hc
    show c ∈ h.live.filter (· != b) ↔ c ∈ X.filter (· != b)
    simp only [List.mem_filter]
    rw [t.new c hc]
  · intro c hc
    exact t.fresh c (List.mem_filter.mp hc).1
  · show (if h.live.contains b then h.bad else h.bad + 1) = 0
    have : h.live.contains b = true := by simpa using hlive
    rw [this]; exact t.bad

/-- Freeing a list of distinct owned blocks. -/
theorem Tracks.freeAll {base L h} : ∀ (fs X : List Nat), Tracks base L X h → fs.Nodup → (∀ b ∈ fs, b ∈ X) →
    Tracks base L (X.filter (fun b => !fs.contains b)) (h.freeAll fs) := by
  intro fs
  induction fs generalizing h with
  | nil => intro X t _ _; exact t.congr (by intro b; simp)
  | cons f fs ih =>
    intro X t nd sub
    have hf : f ∈ X := sub f (List.mem_cons_self ..)
    have t1 := t.free hf
    have nd' := (List.nodup_cons.mp nd)
    have := ih (h := h.free f) (X.filter (· != f)) t1 nd'.2 (by
      intro b hb
      refine List.mem_filter.mpr ⟨sub b (List.mem_cons_of_mem _ hb), ?_⟩
      have : b ≠ f := by intro e; subst e; exact nd'.1 hb
      simpa using this)
    have e : Heap.freeAll h (f :: fs) = Heap.freeAll (h.free f) fs := by simp [Heap.freeAll]
    rw [e]
    refine this.congr ?_
    intro b
    simp only [List.mem_filter, List.contains_cons, Bool.not_or, Bool.and_eq_true, bne_iff_ne, ne_eq,
      Bool.not_eq_true', beq_eq_false_iff_ne]
    constructor
    · rintro ⟨⟨h1, h2⟩, h3⟩; exact ⟨h1, h2, h3⟩
    · rintro ⟨h1, h2, h3⟩; exact ⟨⟨h1, h2⟩, h3⟩

theorem Tracks.freeOpt_some {base L X h b} (t : Tracks base L X h) (hm : b ∈ X) :
    Tracks base L (X.filter (· != b)) (h.freeOpt (some b)) := t.free hm

theorem Tracks.freeOpt_none {base L X h} (t : Tracks base L X h) : Tracks base L X (h.freeOpt none) := t

theorem start_WF (pre k : Nat) : (Heap.start pre k).WF := by
  intro b hb
  simp [Heap.start] at hb ⊢
  exact hb

theorem Tracks.ofStart (pre k : Nat) :
    Tracks pre (List.range pre).reverse [] (Heap.start pre k) :=
  Tracks.start (start_WF pre k) rfl

end PPLV.Alloc

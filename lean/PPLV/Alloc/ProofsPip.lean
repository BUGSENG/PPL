import PPLV.Alloc.ProofsVec

/-! # C14 — the `Safe_Ptr` guard in the copy constructor of `PIP_Decision_Node` -/

namespace PPLV.Alloc

def PBlocks.blocks : PBlocks → List Nat
  | .null => []
  | .sol s c => [c, s]
  | .dec s c f t => f.blocks ++ t.blocks ++ [c, s]

theorem pDelete_spec {base L} : ∀ (b : PBlocks) (X : List Nat) (h : Heap),
    Tracks base L (b.blocks ++ X) h → b.blocks.Nodup → (∀ x ∈ b.blocks, x ∉ X) →
    Tracks base L X (pDelete b h) := by
  intro b
  induction b with
  | null => intro X h t _ _; simpa [pDelete, PBlocks.blocks] using t
  | sol s c =>
    intro X h t nd dis
    simp only [pDelete, free_eq, freeAll_append]
    exact Tracks.release _ t (by simpa [PBlocks.blocks] using nd) (by intro b; simp [PBlocks.blocks, or_assoc]) (by simpa [PBlocks.blocks] using dis)
  | dec s c f t ihf iht =>
    intro X h tr nd dis
    simp only [PBlocks.blocks] at tr nd dis
    rw [List.nodup_append, List.nodup_append] at nd
    obtain ⟨⟨ndf, ndt, dft⟩, ndcs, dcs⟩ := nd
    simp only [pDelete, free_eq, freeAll_append]
    -- delete the false child: everything else stays owned
    have t1 := ihf (t.blocks ++ [c, s] ++ X) h (tr.congr (by intro b; simp [List.append_assoc])) ndf (by
      intro x hx
      simp only [List.mem_append, not_or]
      refine ⟨⟨fun hm => dft x hx x hm rfl, fun hm => dcs x (List.mem_append_left _ hx) x hm rfl⟩, dis x (by simp [hx])⟩)
    have t2 := iht ([c, s] ++ X) _ (t1.congr (by intro b; simp [List.append_assoc])) ndt (by
      intro x hx
      simp only [List.mem_append, not_or]
      exact ⟨fun hm => dcs x (List.mem_append_right _ hx) x hm rfl, dis x (by simp [hx])⟩)
    exact Tracks.release _ t2 ndcs (by intro b; simp [or_assoc]) (by intro x hx; exact dis x (by simp at hx ⊢; rcases hx with h1 | h1 <;> simp [h1]))

/-- With the guard, a clone either throws and owns nothing, or returns a subtree whose blocks are
distinct, fresh and owned. -/
theorem pClone_spec {base L} : ∀ (n : PNode) (X : List Nat) (h : Heap) (r : Option PBlocks) (h' : Heap),
    Tracks base L X h → pClone true n h = (r, h') →
    match r with
    | none => Tracks base L X h'
    | some b => Tracks base L (b.blocks ++ X) h' ∧ b.blocks.Nodup ∧ (∀ x ∈ b.blocks, x ∉ X) := by
  intro n
  induction n with
  | null =>
    intro X h r h' t e
    simp [pClone] at e; obtain ⟨e1, e2⟩ := e; subst e1 e2
    exact ⟨by simpa [PBlocks.blocks] using t, by simp [PBlocks.blocks], by simp [PBlocks.blocks]⟩
  | sol =>
    intro X h r h' t e
    unfold pClone at e
    split at e
    · rename_i h1 ha; cases e; exact t.alloc_none ha
    · rename_i s h1 ha
      obtain ⟨t1, hs, _⟩ := t.alloc_some ha
      split at e
      · rename_i h2 hb; cases e
        rw [free_eq]
        exact Tracks.release [s] (t1.alloc_none hb) (by simp) (by intro b; simp) (by intro b hb'; simp at hb'; subst hb'; exact hs)
      · rename_i c h2 hb; cases e
        obtain ⟨t2, hc, _⟩ := t1.alloc_some hb
        simp only [List.mem_cons, not_or] at hc
        refine ⟨by simpa [PBlocks.blocks] using t2, ?_, ?_⟩
        · simp [PBlocks.blocks, hc.1]
        · intro x hx; simp [PBlocks.blocks] at hx
          rcases hx with h3 | h3
          · subst h3; exact hc.2
          · subst h3; exact hs
  | dec f t ihf iht =>
    intro X h r h' tr e
    unfold pClone at e
    split at e
    · rename_i h1 ha; cases e; exact tr.alloc_none ha
    · rename_i s h1 ha
      obtain ⟨t1, hs, _⟩ := tr.alloc_some ha
      split at e
      · rename_i h2 hb; cases e
        rw [free_eq]
        exact Tracks.release [s] (t1.alloc_none hb) (by simp) (by intro b; simp) (by intro b hb'; simp at hb'; subst hb'; exact hs)
      · rename_i c h2 hb
        obtain ⟨t2, hc, _⟩ := t1.alloc_some hb
        simp only [List.mem_cons, not_or] at hc
        have relcs : ∀ {h5 : Heap}, Tracks base L (c :: s :: X) h5 → Tracks base L X ((h5.free c).free s) := by
          intro h5 t5
          simp only [free_eq, freeAll_append]
          exact Tracks.release [c, s] t5 (by simp [hc.1]) (by intro b; simp [or_assoc]) (by
            intro b hb'; simp at hb'; rcases hb' with h3 | h3
            · subst h3; exact hc.2
            · subst h3; exact hs)
        split at e
        · rename_i h3 hf; cases e
          exact relcs (ihf _ _ _ _ t2 hf)
        · rename_i fb h3 hf
          obtain ⟨t3, ndf, disf⟩ := ihf _ _ _ _ t2 hf
          split at e
          · rename_i h4 ht; cases e
            have t4 := iht _ _ _ _ t3 ht
            simp only [if_true]
            exact relcs (pDelete_spec fb _ _ t4 ndf disf)
          · rename_i tb h4 ht; cases e
            obtain ⟨t4, ndt, dist⟩ := iht _ _ _ _ t3 ht
            refine ⟨t4.congr ?_, ?_, ?_⟩
            · intro b; simp only [PBlocks.blocks, List.mem_append, List.mem_cons, List.not_mem_nil, or_false]
              simp only [or_assoc, or_comm, or_left_comm]
            · simp only [PBlocks.blocks]
              rw [List.nodup_append, List.nodup_append]
              refine ⟨⟨ndf, ndt, ?_⟩, by simp [hc.1], ?_⟩
              · intro a ha' b hb' e'; subst e'
                exact dist a hb' (List.mem_append_left _ ha')
              · intro a ha' b hb' e'; subst e'
                simp at hb'
                rcases List.mem_append.mp ha' with h5 | h5
                · have := disf a h5; simp only [List.mem_cons, not_or] at this
                  rcases hb' with h6 | h6
                  · exact this.1 h6
                  · exact this.2.1 h6
                · have := dist a h5; simp only [List.mem_append, List.mem_cons, not_or] at this
                  rcases hb' with h6 | h6
                  · exact this.2.1 h6
                  · exact this.2.2.1 h6
            · intro x hx
              simp only [PBlocks.blocks, List.mem_append, List.mem_cons, List.not_mem_nil, or_false] at hx
              rcases hx with (h5 | h5) | h5 | h5
              · have := disf x h5; simp only [List.mem_cons, not_or] at this; exact this.2.2
              · have := dist x h5; simp only [List.mem_append, List.mem_cons, not_or] at this; exact this.2.2.2
              · subst h5; exact hc.2
              · subst h5; exact hs

/-- Cloning a solution tree with the guard never leaks, wherever the fault is. -/
theorem pipClone_clean {base L h} (n : PNode) (t : Tracks base L [] h) : Clean L (pipClone true n h) := by
  unfold pipClone
  split
  · rename_i h1 hc
    have := pClone_spec n [] h none h1 t hc
    exact Clean.of this _ _
  · rename_i b h1 hc
    obtain ⟨t1, nd, dis⟩ := pClone_spec n [] h (some b) h1 t hc
    exact Clean.of (pDelete_spec b [] h1 t1 nd dis) _ _

end PPLV.Alloc

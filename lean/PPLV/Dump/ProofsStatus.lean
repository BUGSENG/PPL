import PPLV.Dump.ProofsLex

/-! Status-flag grammars of C15: for every table of the recognised shapes (`shapeOk`), loading the dump of a
flag state `s` into a receiver `p` gives back `s`, provided the flags the loader never clears are not set in
`p` without being set in `s` (`compat`).  Generic in the table: the regenerated tables are instances. -/
namespace PPLV.Dump

/-! ## bits -/

theorem testBit_maskOf (bs : List Nat) (i : Nat) : (maskOf bs).testBit i = decide (i ∈ bs) := by
  induction bs with
  | nil => simp [maskOf]
  | cons b bs ih =>
    simp only [maskOf, Nat.testBit_or, Nat.one_shiftLeft, Nat.testBit_two_pow, ih, List.mem_cons]
    by_cases h : i = b
    · subst h; simp
    · have h' : ¬ b = i := fun e => h e.symm
      simp [h, h']

theorem testBit_clearBits (f m i : Nat) : (clearBits f m).testBit i = (f.testBit i && !m.testBit i) := by
  simp only [clearBits, Nat.testBit_xor, Nat.testBit_and]
  cases f.testBit i <;> cases m.testBit i <;> rfl

theorem and_ne_zero_iff (f m : Nat) : ((f &&& m) != 0) = true ↔ ∃ i, f.testBit i = true ∧ m.testBit i = true := by
  constructor
  · intro h
    have hne : f &&& m ≠ 0 := by simpa using h
    obtain ⟨i, hi⟩ := Nat.exists_testBit_of_ne_zero hne
    rw [Nat.testBit_and, Bool.and_eq_true] at hi
    exact ⟨i, hi⟩
  · rintro ⟨i, h1, h2⟩
    have : (f &&& m).testBit i = true := by rw [Nat.testBit_and, h1, h2]; rfl
    have hne : f &&& m ≠ 0 := by
      intro h0; rw [h0, Nat.zero_testBit] at this; exact Bool.noConfusion this
    simpa using hne

theorem anyMask_single (b f : Nat) : Test.run (.anyMask [b]) f = f.testBit b := by
  unfold Test.run
  cases hb : f.testBit b
  · rw [Bool.eq_false_iff]
    intro h
    obtain ⟨i, h1, h2⟩ := (and_ne_zero_iff _ _).1 h
    rw [testBit_maskOf] at h2
    have : i = b := by simpa using h2
    subst this
    rw [hb] at h1; exact Bool.noConfusion h1
  · exact (and_ne_zero_iff _ _).2 ⟨b, hb, by simp [testBit_maskOf]⟩

theorem eqMask_nil (f : Nat) : Test.run (.eqMask []) f = decide (f = 0) := by
  unfold Test.run
  by_cases h : f = 0 <;> simp [h, maskOf]

theorem run_nop (f : Nat) : Act.run .nop f = f := rfl
theorem run_assign (bs : List Nat) (f : Nat) : Act.run (.assign bs) f = maskOf bs := rfl
theorem run_or (bs : List Nat) (f : Nat) : Act.run (.or bs) f = f ||| maskOf bs := rfl
theorem run_andNot (bs : List Nat) (f : Nat) : Act.run (.andNot bs) f = clearBits f (maskOf bs) := rfl

theorem validFlags_iff (t : Table) (f : Nat) :
    validFlags t f = true ↔ ∀ i, f.testBit i = true → i ∈ bitsOf t := by
  unfold validFlags
  rw [beq_iff_eq]
  constructor
  · intro h i hi
    have := congrArg (fun x => Nat.testBit x i) h
    simp only [Nat.testBit_or, hi, Bool.true_or, testBit_maskOf] at this
    exact of_decide_eq_true this.symm
  · intro h
    apply Nat.eq_of_testBit_eq
    intro i
    rw [Nat.testBit_or, testBit_maskOf]
    cases hi : f.testBit i
    · simp
    · simp [h i hi]

theorem compat_iff (t : Table) (p s : Nat) :
    compat t p s = true ↔ ∀ b ∈ noClearBits t, p.testBit b = true → s.testBit b = true := by
  unfold compat
  rw [List.all_eq_true]
  constructor
  · intro h b hb hp
    have := h b hb
    simpa [hp] using this
  · intro h b hb
    cases hp : p.testBit b
    · rfl
    · simp [h b hb hp]

/-! ## ordinary flags -/

theorem plainView_some {fd : Field} {b : Nat} {c : Option (List Nat)} (h : plainView fd = some (b, c)) :
    fd.test = .anyMask [b] ∧ fd.plus = .or [b] ∧
      (match c with
       | none => fd.minus = .nop
       | some r => fd.minus = .andNot r ∧ b ∈ r) := by
  unfold plainView at h
  split at h
  · rename_i b0 b1 h1 h2 h3
    split at h
    · rename_i hb
      simp only [Option.some.injEq, Prod.mk.injEq] at h
      obtain ⟨rfl, rfl⟩ := h
      subst hb
      exact ⟨h1, h2, h3⟩
    · cases h
  · rename_i b0 b1 r h1 h2 h3
    split at h
    · rename_i hb
      simp only [Option.some.injEq, Prod.mk.injEq] at h
      obtain ⟨rfl, rfl⟩ := h
      obtain ⟨rfl, hr⟩ := hb
      exact ⟨h1, h2, h3, hr⟩
    · cases h
  · cases h

/-- one `get_field` + update of `ascii_load` on an ordinary flag, bit by bit -/
theorem plain_step {fd : Field} {b : Nat} {c : Option (List Nat)} (hv : plainView fd = some (b, c))
    (s f i : Nat) :
    ((if fd.test.run s then fd.plus else fd.minus).run f).testBit i =
      if s.testBit b = true then (f.testBit i || decide (i = b))
      else (match c with
            | none => f.testBit i
            | some r => f.testBit i && !decide (i ∈ r)) := by
  obtain ⟨ht, hp, hm⟩ := plainView_some hv
  rw [ht, anyMask_single]
  cases hs : s.testBit b
  · simp only [Bool.false_eq_true, if_false]
    cases c with
    | none => simp only at hm; rw [hm]; rfl
    | some r =>
      simp only at hm
      rw [hm.1]
      simp only [run_andNot, testBit_clearBits, testBit_maskOf]
  · simp only [if_true, hp, run_or, Nat.testBit_or, testBit_maskOf, List.mem_singleton]

theorem noClearBits_sub_bitsOf (t : Table) : ∀ b ∈ noClearBits t, b ∈ bitsOf t := by
  induction t with
  | nil => simp [noClearBits]
  | cons fd t ih =>
    intro b hb
    simp only [noClearBits, List.mem_append] at hb
    simp only [bitsOf, List.mem_append]
    rcases hb with hb | hb
    · left
      split at hb
      · exact hb
      · simp at hb
    · exact Or.inr (ih b hb)

theorem applySigns_cons (fd : Field) (t : Table) (s f : Nat) :
    applySigns (fd :: t) (signs (fd :: t) s) f
      = applySigns t (signs t s) ((if fd.test.run s then fd.plus else fd.minus).run f) := by
  simp [signs, applySigns]

/-- ordinary flags: afterwards every flag of the table has the dumped value, every other bit is untouched -/
theorem applySigns_plain (t : Table) (h : plainOk t = true) (s : Nat) :
    ∀ f, (∀ b ∈ noClearBits t, f.testBit b = true → s.testBit b = true) →
      ∀ i, (applySigns t (signs t s) f).testBit i = if i ∈ bitsOf t then s.testBit i else f.testBit i := by
  induction t with
  | nil => intro f _ i; simp [applySigns, bitsOf]
  | cons fd t ih =>
    intro f hc i
    simp only [plainOk, Bool.and_eq_true] at h
    obtain ⟨hfd, ht⟩ := h
    rw [applySigns_cons]
    cases hv : plainView fd with
    | none => rw [hv] at hfd; exact Bool.noConfusion hfd
    | some bc =>
      obtain ⟨b, c⟩ := bc
      rw [hv] at hfd
      obtain ⟨htest, _, hminus⟩ := plainView_some hv
      have hbits : bitsOf (fd :: t) = b :: bitsOf t := by simp [bitsOf, htest, Test.bits]
      -- facts about `b`, `r`
      have hbt : b ∉ bitsOf t := by
        cases c with
        | none => simpa using hfd
        | some r => simp only [Bool.and_eq_true] at hfd; simpa using hfd.1
      -- hypothesis of the induction for the updated flags
      have hc' : ∀ b' ∈ noClearBits t,
          ((if fd.test.run s then fd.plus else fd.minus).run f).testBit b' = true → s.testBit b' = true := by
        intro b' hb' hset
        have hb't : b' ∈ bitsOf t := noClearBits_sub_bitsOf t b' hb'
        have hne : b' ≠ b := fun e => hbt (e ▸ hb't)
        have hfb : f.testBit b' = true := by
          rw [plain_step hv] at hset
          split at hset
          · simpa [hne] using hset
          · cases c with
            | none => exact hset
            | some r => simp only [Bool.and_eq_true] at hset; exact hset.1
        exact hc b' (by simp only [noClearBits, List.mem_append]; exact Or.inr hb') hfb
      rw [ih ht _ hc' i, hbits]
      by_cases hit : i ∈ bitsOf t
      · simp [hit]
      · simp only [hit, if_false, List.mem_cons, or_false]
        rw [plain_step hv]
        by_cases hib : i = b
        · subst hib
          simp only [if_true]
          cases hs : s.testBit i
          · simp only [Bool.false_eq_true, if_false]
            cases c with
            | none =>
              simp only
              have hm : fd.minus = .nop := hminus
              cases hf : f.testBit i
              · rfl
              · have := hc i (by simp [noClearBits, hm, htest, Test.bits]) hf
                rw [hs] at this; exact Bool.noConfusion this
            | some r =>
              have hr : i ∈ r := hminus.2
              simp [hr]
          · simp
        · simp only [hib, if_false]
          cases hs : s.testBit b
          · simp only [Bool.false_eq_true, if_false]
            cases c with
            | none => rfl
            | some r =>
              simp only [Bool.and_eq_true] at hfd
              have hall := hfd.2
              rw [List.all_eq_true] at hall
              have hir : i ∉ r := by
                intro hir
                have := hall i hir
                simp only [Bool.or_eq_true, beq_iff_eq] at this
                rcases this with e | e
                · exact hib e
                · exact hit (by simpa using e)
              simp [hir]
          · simp

/-! ## the two table shapes -/

theorem zeStyle_cases {t : Table} (h : zeStyleOk t = true) :
    ∃ ze em tl e, t = ze :: em :: tl ∧ ze.test = .eqMask [] ∧ ze.plus = .assign [] ∧ ze.minus = .nop ∧
      em.test = .anyMask [e] ∧ em.plus = .assign [e] ∧ (em.minus = .nop ∨ em.minus = .andNot [e]) ∧
      e ∉ bitsOf tl ∧ plainOk tl = true := by
  match t, h with
  | ze :: em :: tl, h =>
    simp only [zeStyleOk, Bool.and_eq_true, decide_eq_true_eq] at h
    obtain ⟨⟨⟨h1, h2, h3⟩, hem⟩, hpl⟩ := h
    split at hem
    · rename_i e e' ht hp hm
      simp only [Bool.and_eq_true, beq_iff_eq, Bool.not_eq_true', List.contains_eq_mem,
        decide_eq_false_iff_not] at hem
      obtain ⟨rfl, hnot⟩ := hem
      exact ⟨ze, em, tl, e, rfl, h1, h2, h3, ht, hp, Or.inl hm, hnot, hpl⟩
    · rename_i e e' e'' ht hp hm
      simp only [Bool.and_eq_true, beq_iff_eq, Bool.not_eq_true', List.contains_eq_mem,
        decide_eq_false_iff_not] at hem
      obtain ⟨⟨rfl, rfl⟩, hnot⟩ := hem
      exact ⟨ze, em, tl, e, rfl, h1, h2, h3, ht, hp, Or.inr hm, hnot, hpl⟩
    · exact Bool.noConfusion hem

theorem flags_roundtrip_plain (t : Table) (h : plainOk t = true) (s p : Nat)
    (vs : validFlags t s = true) (vp : validFlags t p = true) (hc : compat t p s = true) :
    applySigns t (signs t s) p = s := by
  apply Nat.eq_of_testBit_eq
  intro i
  rw [applySigns_plain t h s p ((compat_iff t p s).1 hc) i]
  by_cases hi : i ∈ bitsOf t
  · simp [hi]
  · simp only [hi, if_false]
    have h1 : p.testBit i = false := by
      cases hp : p.testBit i
      · rfl
      · exact absurd ((validFlags_iff t p).1 vp i hp) hi
    have h2 : s.testBit i = false := by
      cases hs : s.testBit i
      · rfl
      · exact absurd ((validFlags_iff t s).1 vs i hs) hi
    rw [h1, h2]

theorem flags_roundtrip_ze (t : Table) (h : zeStyleOk t = true) (s p : Nat)
    (vs : validFlags t s = true) (vp : validFlags t p = true) (hc : compat t p s = true) :
    applySigns t (signs t s) p = s := by
  obtain ⟨ze, em, tl, e, rfl, z1, z2, z3, e1, e2, e3, hnot, hpl⟩ := zeStyle_cases h
  have hbits : bitsOf (ze :: em :: tl) = e :: bitsOf tl := by simp [bitsOf, z1, e1, Test.bits]
  have vs' := (validFlags_iff _ s).1 vs
  have vp' := (validFlags_iff _ p).1 vp
  have hc' := (compat_iff _ p s).1 hc
  rw [hbits] at vs' vp'
  have hnc : ∀ b ∈ noClearBits tl, b ∈ noClearBits (ze :: em :: tl) := by
    intro b hb; simp only [noClearBits, List.mem_append]; exact Or.inr (Or.inr hb)
  rw [applySigns_cons, applySigns_cons, z1, eqMask_nil, e1, anyMask_single]
  apply Nat.eq_of_testBit_eq
  intro i
  by_cases hs0 : s = 0
  · -- `+ZE`: flags = 0, `-EM` leaves 0, the ordinary flags are all '-'
    subst hs0
    have hf : (if (0 : Nat).testBit e = true then em.plus else em.minus).run
        ((if decide ((0 : Nat) = 0) = true then ze.plus else ze.minus).run p) = 0 := by
      simp only [Nat.zero_testBit, Bool.false_eq_true, if_false, decide_true, if_true, z2, run_assign, maskOf]
      rcases e3 with e3 | e3 <;> rw [e3] <;> simp [run_nop, run_andNot, clearBits]
    rw [hf, applySigns_plain tl hpl 0 0 (by intro b _ hb; simp at hb) i]
    simp
  · simp only [hs0, decide_false, Bool.false_eq_true, if_false, z3, run_nop]
    cases hse : s.testBit e
    · -- `-ZE -EM`: the receiver's flags survive, `EM` must not be set in them
      simp only [Bool.false_eq_true, if_false]
      have hpe : (em.minus.run p).testBit e = false := by
        rcases e3 with e3 | e3
        · rw [e3]
          cases hp : p.testBit e
          · exact hp
          · have := hc' e (by simp [noClearBits, e3, e1, Test.bits]) hp
            rw [hse] at this; exact Bool.noConfusion this
        · rw [e3]; simp [run_andNot, testBit_clearBits, testBit_maskOf]
      have hsub : ∀ j, (em.minus.run p).testBit j = true → p.testBit j = true := by
        intro j hj
        rcases e3 with e3 | e3
        · rw [e3] at hj; exact hj
        · rw [e3] at hj
          simp only [run_andNot, testBit_clearBits, Bool.and_eq_true] at hj
          exact hj.1
      rw [applySigns_plain tl hpl s _ (fun b hb hset => hc' b (hnc b hb) (hsub b hset)) i]
      by_cases hi : i ∈ bitsOf tl
      · simp [hi]
      · simp only [hi, if_false]
        by_cases hie : i = e
        · subst hie; rw [hpe, hse]
        · have h1 : (em.minus.run p).testBit i = false := by
            cases hq : (em.minus.run p).testBit i
            · rfl
            · have := vp' i (hsub i hq)
              simp only [List.mem_cons] at this
              rcases this with h | h
              · exact absurd h hie
              · exact absurd h hi
          have h2 : s.testBit i = false := by
            cases hq : s.testBit i
            · rfl
            · have := vs' i hq
              simp only [List.mem_cons] at this
              rcases this with h | h
              · exact absurd h hie
              · exact absurd h hi
          rw [h1, h2]
    · -- `+EM`: flags = EMPTY, then the ordinary flags
      simp only [if_true, e2, run_assign]
      rw [applySigns_plain tl hpl s _ (by
        intro b hb hset
        rw [testBit_maskOf] at hset
        have : b = e := by simpa using hset
        subst this
        exact absurd (noClearBits_sub_bitsOf tl b hb) hnot) i]
      by_cases hi : i ∈ bitsOf tl
      · simp [hi]
      · simp only [hi, if_false, testBit_maskOf, List.mem_singleton]
        by_cases hie : i = e
        · subst hie; simp [hse]
        · have h2 : s.testBit i = false := by
            cases hq : s.testBit i
            · rfl
            · have := vs' i hq
              simp only [List.mem_cons] at this
              rcases this with h | h
              · exact absurd h hie
              · exact absurd h hi
          simp [hie, h2]

/-- the flag updates of `ascii_load`, driven by the signs `ascii_dump` wrote for `s`, rebuild `s` -/
theorem flags_roundtrip (t : Table) (h : shapeOk t = true) (s p : Nat)
    (vs : validFlags t s = true) (vp : validFlags t p = true) (hc : compat t p s = true) :
    applySigns t (signs t s) p = s := by
  simp only [shapeOk, Bool.or_eq_true] at h
  rcases h with h | h
  · exact flags_roundtrip_ze t h s p vs vp hc
  · exact flags_roundtrip_plain t h s p vs vp hc

/-! ## the word-level loader -/

theorem getField_sign (kw : Word) (b : Bool) :
    getField kw ((if b then '+' else '-') :: kw) = some b := by
  cases b <;> simp [getField]

/-- `Status::ascii_load` on the words `Status::ascii_dump` wrote performs exactly `applySigns` -/
theorem loadStatus_tokens (t : Table) (s : Nat) : ∀ p more,
    loadStatus t p ((statusLayout t s).map (·.1) ++ more) = some (applySigns t (signs t s) p, more) := by
  induction t with
  | nil => intro p more; simp [statusLayout, loadStatus, applySigns]
  | cons fd t ih =>
    intro p more
    rw [applySigns_cons]
    simp only [statusLayout, List.map_cons, List.cons_append, loadStatus, getField_sign]
    exact ih _ more

theorem statusLayout_ok (t : Table) (h : lexOk t = true) (f : Nat) : (statusLayout t f).all itemOk = true := by
  unfold lexOk at h
  rw [List.all_eq_true] at h ⊢
  intro it hit
  simp only [statusLayout, List.mem_map] at hit
  obtain ⟨fd, hfd, rfl⟩ := hit
  have := h fd hfd
  simp only [Bool.and_eq_true] at this
  simp only [itemOk, Bool.and_eq_true, this.2, and_true]
  have hw := (isWordB_iff _).1 this.1
  rw [isWordB_iff]
  refine ⟨by simp, ?_⟩
  simp only [List.all_cons, Bool.and_eq_true] at hw ⊢
  refine ⟨?_, hw.2.2⟩
  cases fd.test.run f <;> decide

theorem wf_parts {t : Table} (h : WF t = true) :
    lexOk t = true ∧ shapeOk t = true ∧ tokensDistinct t = true ∧ t ≠ [] := by
  simp only [WF, Bool.and_eq_true, Bool.not_eq_true'] at h
  obtain ⟨⟨⟨h1, h2⟩, h3⟩, h4⟩ := h
  refine ⟨h1, h2, h3, ?_⟩
  intro e; subst e; simp at h4

/-- text level: loading the dump of `s` (followed by any text `x`) into a receiver with flags `p` -/
theorem loadStatus_dump (t : Table) (hwf : WF t = true) (s p : Nat) (x : List Char)
    (vs : validFlags t s = true) (vp : validFlags t p = true) (hc : compat t p s = true) :
    loadStatus t p (words (dumpStatus t s ++ x)) = some (s, words x) := by
  obtain ⟨hl, hsh, _, _⟩ := wf_parts hwf
  unfold dumpStatus
  rw [words_render_append _ (statusLayout_ok t hl s), loadStatus_tokens,
    flags_roundtrip t hsh s p vs vp hc]

theorem validFlags_zero (t : Table) : validFlags t 0 = true := by
  rw [validFlags_iff]; intro i hi; simp at hi

theorem compat_zero (t : Table) (s : Nat) : compat t 0 s = true := by
  rw [compat_iff]; intro b _ hb; simp at hb

/-- when every '-' branch clears its flag the receiver does not matter -/
theorem compat_of_allClear (t : Table) (h : noClearBits t = []) (p s : Nat) : compat t p s = true := by
  simp [compat, h]

end PPLV.Dump

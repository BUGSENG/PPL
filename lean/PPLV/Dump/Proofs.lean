import PPLV.Dump.ProofsStatus

/-! Round trips of the structured grammars of C15: `Box`, `Linear_System` header, `Bit_Matrix`,
`DB_Matrix` / `OR_Matrix`, keyword enumerations.  Each proof has two halves: the words of the rendered
layout are the layout's words (`words_render`), and the word-level loader run on those words rebuilds the
state. -/
namespace PPLV.Dump

/-! ## readers on printed words -/

@[simp] theorem expect_self (kw : Word) (ws : List Word) : expect kw (kw :: ws) = some ws := by
  simp [expect]

@[simp] theorem readNat_print (n : Nat) (ws : List Word) : readNat (printNat n :: ws) = some (n, ws) := by
  simp [readNat, parseNat_printNat]

@[simp] theorem readTok_print (C : Codec) (a : C.α) (ws : List Word) :
    readTok C (C.print a :: ws) = some (a, ws) := by
  simp [readTok, C.rt]

theorem readN_print (C : Codec) (row : List C.α) (more : List Word) :
    readN C row.length (row.map C.print ++ more) = some (row, more) := by
  induction row with
  | nil => rfl
  | cons a as ih => simp [readN, ih]

theorem readRows_print (C : Codec) (rows : List (List C.α)) (more : List Word) :
    readRows C (rows.map List.length) ((rows.map (fun r => r.map C.print)).flatten ++ more) = some (rows, more) := by
  induction rows with
  | nil => rfl
  | cons r rs ih =>
    simp only [List.map_cons, List.flatten_cons, List.append_assoc, readRows, readN_print, ih]

theorem rowItems_words (C : Codec) (row : List C.α) : (rowItems C row).map (·.1) = row.map C.print := by
  induction row with
  | nil => rfl
  | cons a as ih => simp [rowItems, ih]

theorem rowItems_ok (C : Codec) (row : List C.α) : (rowItems C row).all itemOk = true := by
  induction row with
  | nil => rfl
  | cons a as ih =>
    simp only [rowItems, List.all_cons, itemOk, C.word, Bool.true_and, ih, Bool.and_true]
    cases as.isEmpty <;> decide

theorem all_flatten_map {α : Type} (l : List α) (f : α → List Item) (h : ∀ a, (f a).all itemOk = true) :
    ((l.map f).flatten).all itemOk = true := by
  induction l with
  | nil => rfl
  | cons a as ih => simp only [List.map_cons, List.flatten_cons, List.all_append, h a, ih, Bool.and_self]

theorem flatten_map_words {α : Type} (l : List α) (f : α → List Item) (g : α → List Word)
    (h : ∀ a, (f a).map (·.1) = g a) :
    ((l.map f).flatten).map (·.1) = (l.map g).flatten := by
  induction l with
  | nil => rfl
  | cons a as ih => simp only [List.map_cons, List.flatten_cons, List.map_append, h a, ih]

/-! ## `Box` -/

theorem intervalItems_ok (C : Codec) (iv : C.α × C.α × C.α) : (intervalItems C iv).all itemOk = true := by
  simp only [intervalItems, List.all_cons, List.all_nil, itemOk, C.word, Bool.true_and, Bool.and_true]
  decide

theorem loadInterval_print (C : Codec) (iv : C.α × C.α × C.α) (more : List Word) :
    loadInterval C ((intervalItems C iv).map (·.1) ++ more) = some (iv, more) := by
  simp [loadInterval, intervalItems]

theorem loadIntervals_print (C : Codec) (seq : List (C.α × C.α × C.α)) (more : List Word) :
    loadIntervals C seq.length (((seq.map (intervalItems C)).flatten).map (·.1) ++ more) = some (seq, more) := by
  induction seq with
  | nil => rfl
  | cons iv ivs ih =>
    simp only [List.map_cons, List.flatten_cons, List.map_append, List.append_assoc, List.length_cons,
      loadIntervals, loadInterval_print, ih]

theorem boxLayout_ok (C : Codec) (t : Table) (hl : lexOk t = true) (b : BoxSt C) :
    (boxLayout C t b).all itemOk = true := by
  simp only [boxLayout, List.all_append, statusLayout_ok t hl, Bool.true_and,
    all_flatten_map _ _ (intervalItems_ok C), Bool.and_true]
  simp only [List.all_cons, List.all_nil, itemOk, printNat_isWord, Bool.true_and, Bool.and_true]
  decide

/-- `Box::ascii_load` on the words of `Box::ascii_dump`: the status is replayed on the receiver's flags,
the intervals are rebuilt -/
theorem loadBoxW_layout (C : Codec) (t : Table) (recv b : BoxSt C) (more : List Word) :
    loadBoxW C t recv ((boxLayout C t b).map (·.1) ++ more)
      = some (⟨applySigns t (signs t b.flags) recv.flags, b.seq⟩, more) := by
  simp only [loadBoxW, boxLayout, List.map_append, List.append_assoc, loadStatus_tokens, List.map_cons,
    List.cons_append, List.nil_append, expect_self, readNat_print, loadIntervals_print]

theorem loadBox_dump (C : Codec) (t : Table) (hwf : WF t = true) (recv b : BoxSt C)
    (vs : validFlags t b.flags = true) (vp : validFlags t recv.flags = true)
    (hc : compat t recv.flags b.flags = true) :
    loadBox C t recv (dumpBox C t b) = some b := by
  obtain ⟨hl, hsh, _, _⟩ := wf_parts hwf
  unfold loadBox dumpBox
  rw [words_render _ (boxLayout_ok C t hl b)]
  have := loadBoxW_layout C t recv b []
  rw [List.append_nil] at this
  rw [this, flags_roundtrip t hsh _ _ vs vp hc]
  rfl

/-! ## `Linear_System` header -/

theorem hdr_literals_ok : ∀ nnc sparse sorted : Bool,
    (isWordB "topology".toList && sepOkB [' '] &&
      (isWordB (if nnc = true then "NOT_NECESSARILY_CLOSED" else "NECESSARILY_CLOSED").toList && sepOkB ['\n'] &&
        (sepOkB [' '] &&
          (isWordB "x".toList && sepOkB [' '] &&
            (sepOkB [' '] &&
              (isWordB (if sparse = true then "SPARSE" else "DENSE").toList && sepOkB [' '] &&
                (isWordB (if sorted = true then "(sorted)" else "(not_sorted)").toList && sepOkB ['\n'] &&
                  (isWordB "index_first_pending".toList && sepOkB [' '] && sepOkB ['\n'])))))))) = true := by
  decide +kernel

theorem LinSysHeader.layout_ok (h : LinSysHeader) : h.layout.all itemOk = true := by
  obtain ⟨nnc, nrows, dims, sparse, sorted, fp⟩ := h
  simp only [LinSysHeader.layout, List.all_cons, List.all_nil, itemOk, printNat_isWord, Bool.true_and,
    Bool.and_true]
  exact hdr_literals_ok nnc sparse sorted

/-- a Boolean printed as one of two distinct keywords is read back by the loader's two-way test … -/
theorem kw_read {yes no : String} (hne : yes.toList ≠ no.toList) (c : Bool) :
    (if (if c = true then yes else no).toList = no.toList then some false
     else if (if c = true then yes else no).toList = yes.toList then some true else none) = some c := by
  cases c
  · simp only [Bool.false_eq_true, if_false, if_true]
  · simp only [if_true, hne, if_false]

/-- … and by its `!= yes && != no` guard followed by `== yes` -/
theorem kw_test {yes no : String} (hne : yes.toList ≠ no.toList) (c : Bool) :
    ¬ ((if c = true then yes else no).toList ≠ yes.toList ∧ (if c = true then yes else no).toList ≠ no.toList) ∧
    decide ((if c = true then yes else no).toList = yes.toList) = c := by
  cases c
  · simp only [Bool.false_eq_true, if_false, ne_eq, not_true_eq_false, and_false, not_false_eq_true, true_and,
      decide_eq_false_iff_not]
    exact fun h => hne h.symm
  · simp only [if_true, ne_eq, not_true_eq_false, false_and, not_false_eq_true, decide_true, and_self]

theorem LinSysHeader.loadW_layout (h : LinSysHeader) (more : List Word) :
    LinSysHeader.loadW (h.layout.map (·.1) ++ more) = some (h, more) := by
  obtain ⟨nnc, nrows, dims, sparse, sorted, fp⟩ := h
  have e1 : "NOT_NECESSARILY_CLOSED".toList ≠ "NECESSARILY_CLOSED".toList := by decide +kernel
  have e2 : "SPARSE".toList ≠ "DENSE".toList := by decide +kernel
  have e3 : "(sorted)".toList ≠ "(not_sorted)".toList := by decide +kernel
  simp only [LinSysHeader.loadW, LinSysHeader.layout, List.map_cons, List.map_nil, List.cons_append,
    List.nil_append, expect_self, readNat_print, kw_read e1, kw_read e2, (kw_test e3 sorted).1, (kw_test e3 sorted).2,
    if_false]

theorem LinSysHeader.load_dump (h : LinSysHeader) : LinSysHeader.load h.dump = some h := by
  unfold LinSysHeader.load LinSysHeader.dump
  rw [words_render _ h.layout_ok]
  have := LinSysHeader.loadW_layout h []
  rw [List.append_nil] at this
  rw [this]; rfl

/-! ## `Bit_Matrix` -/

theorem readBit_bitWord (b : Bool) (ws : List Word) : readBit (bitWord b :: ws) = some (b, ws) := by
  cases b <;> rfl

theorem readBits_print (row : List Bool) (more : List Word) :
    readBits row.length (row.map bitWord ++ more) = some (row, more) := by
  induction row with
  | nil => rfl
  | cons a as ih => simp [readBits, readBit_bitWord, ih]

theorem readBitRows_print (ncols : Nat) (rows : List (List Bool)) (more : List Word)
    (hv : ∀ r ∈ rows, r.length = ncols) :
    readBitRows ncols rows.length ((rows.map (fun r => r.map bitWord)).flatten ++ more) = some (rows, more) := by
  induction rows with
  | nil => rfl
  | cons r rs ih =>
    have hr : r.length = ncols := hv r (by simp)
    have := readBits_print r ((rs.map (fun r => r.map bitWord)).flatten ++ more)
    rw [hr] at this
    simp only [List.map_cons, List.flatten_cons, List.append_assoc, List.length_cons, readBitRows, this,
      ih (fun r' h' => hv r' (by simp [h']))]

theorem bitRowItems_words (row : List Bool) : (bitRowItems row).map (·.1) = row.map bitWord := by
  induction row with
  | nil => rfl
  | cons a as ih => simp [bitRowItems, ih]

theorem bitRowItems_ok (row : List Bool) : (bitRowItems row).all itemOk = true := by
  induction row with
  | nil => rfl
  | cons a as ih =>
    simp only [bitRowItems, List.all_cons, itemOk, ih, Bool.and_true]
    cases a <;> cases as.isEmpty <;> decide

theorem newlines_ws (l : List (List Bool)) : (l.map (fun _ => '\n')).all isWs = true := by
  induction l with
  | nil => rfl
  | cons a as ih => simp only [List.map_cons, List.all_cons, ih, Bool.and_true]; decide

theorem BitMatrix.layout_ok (m : BitMatrix) : m.layout.all itemOk = true := by
  simp only [BitMatrix.layout, List.all_append, all_flatten_map _ _ bitRowItems_ok, Bool.and_true]
  simp only [List.all_cons, List.all_nil, itemOk, printNat_isWord, Bool.true_and, Bool.and_true]
  simp only [Bool.and_eq_true]
  refine ⟨by decide, ⟨by decide, by decide⟩, ?_⟩
  rw [sepOkB_iff]
  refine ⟨by simp, ?_⟩
  simp only [List.all_cons]
  split
  · simp only [newlines_ws, Bool.and_true]; decide
  · decide

theorem BitMatrix.loadW_layout (m : BitMatrix) (hv : m.valid = true) (more : List Word) :
    BitMatrix.loadW (m.layout.map (·.1) ++ more) = some (m, more) := by
  have hv' : ∀ r ∈ m.rows, r.length = m.ncols := by
    intro r hr
    have := (List.all_eq_true.1 hv) r hr
    simpa using this
  simp only [BitMatrix.loadW, BitMatrix.layout, List.map_cons, List.cons_append,
    List.nil_append, readNat_print, expect_self, flatten_map_words _ _ _ bitRowItems_words,
    readBitRows_print m.ncols m.rows more hv']

theorem BitMatrix.load_dump (m : BitMatrix) (hv : m.valid = true) : BitMatrix.load m.dump = some m := by
  unfold BitMatrix.load BitMatrix.dump
  rw [words_render _ m.layout_ok]
  have := BitMatrix.loadW_layout m hv []
  rw [List.append_nil] at this
  rw [this]; rfl

/-! ## `DB_Matrix`, `OR_Matrix` -/

theorem ShapedMatrix.layout_ok {C : Codec} (m : ShapedMatrix C) : m.layout.all itemOk = true := by
  simp only [ShapedMatrix.layout, List.all_cons, itemOk, printNat_isWord, Bool.true_and,
    all_flatten_map _ _ (rowItems_ok C), Bool.and_true]
  decide

theorem ShapedMatrix.loadW_layout {C : Codec} (sh : Shape) (m : ShapedMatrix C) (hv : m.valid sh = true)
    (more : List Word) : ShapedMatrix.loadW C sh (m.layout.map (·.1) ++ more) = some (m, more) := by
  have hl : sh.lens m.size = m.rows.map List.length := by
    unfold ShapedMatrix.valid at hv
    exact (beq_iff_eq.1 hv).symm
  simp only [ShapedMatrix.loadW, ShapedMatrix.layout, List.map_cons, List.cons_append, readNat_print, hl,
    flatten_map_words _ _ _ (rowItems_words C), readRows_print]

theorem ShapedMatrix.load_dump {C : Codec} (sh : Shape) (m : ShapedMatrix C) (hv : m.valid sh = true) :
    ShapedMatrix.load C sh m.dump = some m := by
  unfold ShapedMatrix.load ShapedMatrix.dump
  rw [words_render _ m.layout_ok]
  have := ShapedMatrix.loadW_layout sh m hv []
  rw [List.append_nil] at this
  rw [this]; rfl

/-! ## keyword enumerations -/

theorem enumLoad_dump (ks : List Word) (h : kwDistinct ks = true) (v : Nat) (hv : v < ks.length) :
    enumLoad ks (enumDump ks v) = some v := by
  induction ks generalizing v with
  | nil => simp at hv
  | cons k ks ih =>
    simp only [kwDistinct, Bool.and_eq_true, Bool.not_eq_true'] at h
    cases v with
    | zero => simp [enumLoad, enumDump]
    | succ v =>
      have hv' : v < ks.length := by simpa using hv
      have hmem : ks.getD v [] ∈ ks := by
        rw [List.getD_eq_getElem?_getD, List.getElem?_eq_getElem hv']
        exact List.getElem_mem hv'
      have hne : ks.getD v [] ≠ k := by
        intro e
        have : ks.contains k = true := by rw [← e]; simpa using hmem
        rw [h.1] at this; exact Bool.noConfusion this
      have := ih h.2 v hv'
      simp only [enumDump] at this
      show enumLoad (k :: ks) (ks.getD v []) = some (v + 1)
      simp only [enumLoad, hne, if_false, this, Option.map_some]

/-! ## one-word texts, clean receivers -/

/-- a one-word text -/
def loadWord (C : Codec) (s : List Char) : Option C.α :=
  match words s with
  | [w] => C.parse w
  | _ => none

theorem compat_of_clean (t : Table) (p s : Nat) (h : (noClearBits t).all (fun b => !p.testBit b) = true) :
    compat t p s = true := by
  rw [compat_iff]
  intro b hb hp
  have := (List.all_eq_true.1 h) b hb
  rw [hp] at this
  exact Bool.noConfusion this

theorem words_word (w : Word) (h : isWordB w = true) : words w = [w] := by
  obtain ⟨_, hall⟩ := (isWordB_iff w).1 h
  have := wordsAux_word w [] [] hall
  rw [List.append_nil] at this
  unfold words
  rw [this]
  cases hw : w with
  | nil => subst hw; simp [isWordB] at h
  | cons a as => simp [wordsAux]

theorem loadWord_print (C : Codec) (a : C.α) : loadWord C (C.print a) = some a := by
  unfold loadWord
  rw [words_word _ (C.word a)]
  exact C.rt a

end PPLV.Dump

import PPLV.Value.MoveSpec
/-!
# C13 moving mechanics — the row comparisons are reflexive (`compare(r, r) == 0`),
the hypothesis `hK` of the `merge_rows_assign` aliasing lemmas, for the three row classes.
-/
namespace PPLV.Value.Move

theorem cmpHomog_self (l : List Int) : cmpHomog l l = 0 := by
  induction l with
  | nil => simp [cmpHomog]
  | cons x xs ih => simp [cmpHomog, ih]

theorem cmpExpr_self (l : List Int) : cmpExpr l l = 0 := by
  simp [cmpExpr, cmpHomog_self]

theorem cmpConstraint_self (v : RowV) : cmpConstraint v v = 0 := by
  simp [cmpConstraint, cmpExpr_self]

theorem cmpGenerator_self (v : RowV) : cmpGenerator v v = 0 := by
  unfold cmpGenerator
  simp only [bne_self_eq_false, Bool.false_eq_true, if_false, cmpExpr_self]
  simp only [gt_iff_lt, Int.lt_irrefl, if_false]
  repeat' split
  all_goals rfl

theorem constraintClass_cmp_self (v : RowV) : constraintClass.cmp v v = 0 := cmpConstraint_self v
theorem generatorClass_cmp_self (v : RowV) : generatorClass.cmp v v = 0 := cmpGenerator_self v
theorem congruenceClass_cmp_self (v : RowV) : congruenceClass.cmp v v = 0 := rfl

end PPLV.Value.Move

import PPLV.Value.MoveProofsVec

/-!
# C13 moving mechanics — `Swapping_Vector`: the erase loops; resize, reserve and erase as stated in
`Props/C13Move.lean` (namespace `C13Proofs`)

No Mathlib.
-/
namespace PPLV.Value.Move
open OwnsKit

namespace OwnsKit

/-! ## `erase(first, last)` -/

theorem swapIn_self (i : Nat) (a : List Row) : swapIn i i a = a := by
  unfold swapIn
  cases hi : a[i]? with
  | none => rfl
  | some x =>
    simp only
    obtain ⟨hl, hx⟩ := List.getElem?_eq_some_iff.1 hi
    subst hx
    simp

theorem swapIn_length (i j : Nat) (a : List Row) : (swapIn i j a).length = a.length := by
  unfold swapIn
  split <;> simp

/-- one step of the erase loop: the block of erased rows is rotated past the next tail element -/
theorem swapIn_rotate (P bs rest : List Row) (b x : Row) :
    swapIn P.length (P.length + (b :: bs).length) (P ++ (b :: bs) ++ x :: rest)
      = (P ++ [x]) ++ (bs ++ [b]) ++ rest := by
  have e1 : (P ++ (b :: bs) ++ x :: rest)[P.length]? = some b := by simp
  have e2 : (P ++ (b :: bs) ++ x :: rest)[P.length + (b :: bs).length]? = some x := by
    rw [List.append_assoc, List.getElem?_append_right (by omega)]
    simp
  unfold swapIn
  rw [e1, e2]
  simp only
  have s1 : (P ++ (b :: bs) ++ x :: rest).set P.length x = P ++ (x :: bs) ++ x :: rest := by simp
  rw [s1]
  have s2 : (P ++ (x :: bs) ++ x :: rest).set (P.length + (b :: bs).length) b = P ++ (x :: bs) ++ b :: rest := by
    have hl : (P ++ (x :: bs)).length = P.length + (b :: bs).length := by simp
    rw [← hl, List.set_append_right _ _ (Nat.le_refl _)]
    simp
  rw [s2]
  simp

theorem eraseLoop_spec (k : Nat) : ∀ (n : Nat) (P block tail : List Row), block.length = k → tail.length = n →
    ∃ block', block'.Perm block ∧ eraseLoop k n P.length (P ++ block ++ tail) = P ++ tail ++ block'
  | 0, P, block, tail, _, ht => by
    have : tail = [] := List.eq_nil_of_length_eq_zero ht
    subst this
    exact ⟨block, List.Perm.refl _, by simp [eraseLoop]⟩
  | n + 1, P, block, tail, hb, ht => by
    match tail, ht with
    | x :: tail', ht =>
      have ht' : tail'.length = n := by simpa using ht
      show ∃ block' : List Row, block'.Perm block ∧
        eraseLoop k n (P.length + 1) (swapIn P.length (P.length + k) (P ++ block ++ x :: tail')) = _
      cases block with
      | nil =>
        have hk : k = 0 := by simpa using hb.symm
        subst hk
        show ∃ block' : List Row, block'.Perm [] ∧
          eraseLoop 0 n (P.length + 1) (swapIn P.length P.length (P ++ [] ++ x :: tail')) = _
        rw [swapIn_self]
        obtain ⟨b', hp, he⟩ := eraseLoop_spec 0 n (P ++ [x]) [] tail' rfl ht'
        refine ⟨b', hp, ?_⟩
        have hl : (P ++ [x]).length = P.length + 1 := by simp
        rw [hl] at he
        simpa using he
      | cons b bs =>
        subst hb
        rw [swapIn_rotate]
        obtain ⟨b', hp, he⟩ := eraseLoop_spec (b :: bs).length n (P ++ [x]) (bs ++ [b]) tail' (by simp) ht'
        refine ⟨b', hp.trans (by simp), ?_⟩
        have hl : (P ++ [x]).length = P.length + 1 := by simp
        rw [hl] at he
        rw [he]
        simp

theorem eraseRange_unfold (h : Heap) (v : SVec) (first last : Nat) :
    v.eraseRange h first last
      = (destroyRows h ((eraseLoop (last - first) (v.size - last) first v.impl).drop (v.size - (last - first))),
          ⟨(eraseLoop (last - first) (v.size - last) first v.impl).take (v.size - (last - first)), v.cap⟩) := rfl

/-! ## `erase(iterator)` -/

theorem eraseOneLoopBeforeFix_none : ∀ (fuel i : Nat) (a : List Row), i ≠ a.length → eraseOneLoopBeforeFix fuel i a = none
  | 0, _, _, _ => rfl
  | fuel + 1, i, a, hne => by
    unfold eraseOneLoopBeforeFix
    have : (i != a.length) = true := by simpa using hne
    rw [if_pos this]
    exact eraseOneLoopBeforeFix_none fuel i _ (by rw [swapIn_length]; exact hne)

theorem eraseOneLoopBeforeFix_last (fuel : Nat) (a : List Row) : eraseOneLoopBeforeFix (fuel + 1) a.length a = some a := by
  unfold eraseOneLoopBeforeFix
  simp

end OwnsKit
end PPLV.Value.Move

namespace C13Proofs
open PPLV.Value PPLV.Value.Move PPLV.Value.Move.OwnsKit

/-! ### Swapping_Vector -/

/-- reallocation-by-swap keeps the elements — the same row objects with the same storage, in the same
order, none duplicated, none dropped — and the new tail is default rows -/
theorem swapping_vector_resize_preserves (K : RowClass) (h : Heap) (v : SVec) (n : Nat) (frame : List Nat)
    (hO : Owns h (owned v.impl ++ frame)) (hn : v.size ≤ n) :
    let out := v.resize K h n
    out.2.impl.take v.size = v.impl ∧ out.2.size = n
    ∧ (∀ r ∈ out.2.impl.drop v.size, r.val out.1 = dfltV K)
    ∧ Owns out.1 (owned out.2.impl ++ frame)
    ∧ (∀ a ∈ owned v.impl ++ frame, out.1.cells a = h.cells a) :=
  resize_grow_refines K h v n frame hO hn

theorem swapping_vector_reserve_preserves (K : RowClass) (h : Heap) (v : SVec) (c : Nat) (frame : List Nat)
    (hO : Owns h (owned v.impl ++ frame)) :
    (v.reserve K h c).2.impl = v.impl ∧ Owns (v.reserve K h c).1 (owned v.impl ++ frame)
    ∧ (∀ a ∈ owned v.impl ++ frame, (v.reserve K h c).1.cells a = h.cells a) :=
  reserve_refines K h v c frame hO

theorem swapping_vector_shrink (K : RowClass) (h : Heap) (v : SVec) (n : Nat) (frame : List Nat)
    (hO : Owns h (owned v.impl ++ frame)) (hn : n ≤ v.size) :
    (v.resize K h n).2.impl = v.impl.take n ∧ Owns (v.resize K h n).1 (owned (v.impl.take n) ++ frame) :=
  ⟨(resize_shrink_refines K h v n frame hO hn).1, (resize_shrink_refines K h v n frame hO hn).2.1⟩

theorem swapping_vector_erase_range (h : Heap) (v : SVec) (first last : Nat) (frame : List Nat)
    (hO : Owns h (owned v.impl ++ frame)) (h1 : first ≤ last) (h2 : last ≤ v.size) :
    (v.eraseRange h first last).2.impl = v.impl.take first ++ v.impl.drop last
    ∧ Owns (v.eraseRange h first last).1 (owned (v.impl.take first ++ v.impl.drop last) ++ frame) := by
  have hsz : v.size = v.impl.length := rfl
  have hsplit : v.impl = v.impl.take first ++ (v.impl.drop first).take (last - first) ++ v.impl.drop last := by
    have e1 : v.impl.drop last = (v.impl.drop first).drop (last - first) := by
      rw [List.drop_drop]; congr 1; omega
    rw [e1, List.append_assoc, List.take_append_drop, List.take_append_drop]
  have hP : (v.impl.take first).length = first := by
    rw [List.length_take]; omega
  have hB : ((v.impl.drop first).take (last - first)).length = last - first := by
    rw [List.length_take, List.length_drop]; omega
  have hT : (v.impl.drop last).length = v.size - last := by
    rw [List.length_drop, hsz]
  obtain ⟨b', hp, he⟩ := eraseLoop_spec (last - first) (v.size - last) (v.impl.take first)
    ((v.impl.drop first).take (last - first)) (v.impl.drop last) hB hT
  rw [hP, ← hsplit] at he
  rw [eraseRange_unfold, he]
  have hlen : v.size - (last - first) = (v.impl.take first ++ v.impl.drop last).length := by
    rw [List.length_append, hP, hT]; omega
  rw [hlen, List.drop_left, List.take_left]
  refine ⟨rfl, ?_⟩
  have hO' : Owns h (owned b' ++ (owned (v.impl.take first ++ v.impl.drop last) ++ frame)) := by
    refine owns_perm hO ?_
    have q1 : (owned v.impl ++ frame).Perm
        (owned ((v.impl.drop first).take (last - first)) ++ (owned (v.impl.take first ++ v.impl.drop last) ++ frame)) := by
      conv => lhs; rw [hsplit]
      owns_perm_tac
    exact q1.trans (List.Perm.append_right _ (hp.symm.map _))
  exact (destroyRows_refines h b' _ hO').1

/-- `erase(iterator)` as it stood before commit 0369f1e (no `++i` in the loop) never terminates unless the
element is the last one -/
theorem swapping_vector_erase_one_before_fix_diverges (fuel : Nat) (h : Heap) (v : SVec) (i : Nat) (hi : i + 1 < v.size) :
    v.eraseOneBeforeFix fuel h i = none := by
  have hne : i + 1 ≠ v.impl.length := Nat.ne_of_lt hi
  unfold SVec.eraseOneBeforeFix
  rw [eraseOneLoopBeforeFix_none fuel (i + 1) v.impl hne]

theorem swapping_vector_erase_one_before_fix_last (fuel : Nat) (h : Heap) (v : SVec) (i : Nat) (hi : i + 1 = v.size) :
    (v.eraseOneBeforeFix (fuel + 1) h i).map (fun o => o.2.impl) = some v.impl.dropLast := by
  have hi' : i + 1 = v.impl.length := hi
  unfold SVec.eraseOneBeforeFix
  rw [hi', eraseOneLoopBeforeFix_last]
  simp [List.dropLast_eq_take]

end C13Proofs

import PPLV.Value.MoveProofsOwn

/-!
# C13 moving mechanics — concrete instances for the non-vacuity examples of `Props/C13Move.lean`

A heap built by allocating a list of cells satisfies the ownership invariant for the addresses
`0 … n-1`; demo systems and polyhedra over such a heap.
-/
namespace PPLV.Value.Move
open OwnsKit

/-- allocate the cells in order: cell `i` of the list gets address `i` -/
def Heap.ofCells (cs : List (List Int)) : Heap := cs.foldl (fun h c => (h.alloc c).1) Heap.empty

theorem owns_empty : Owns Heap.empty [] :=
  ⟨rfl, List.nodup_nil, fun a => by simp [Heap.empty], fun a _ => rfl⟩

theorem owns_foldl_alloc (cs : List (List Int)) : ∀ (h : Heap) (as : List Nat), Owns h as →
    ∃ bs, Owns (cs.foldl (fun h c => (h.alloc c).1) h) bs ∧ bs.Perm (as ++ (List.range cs.length).map (· + h.next)) := by
  induction cs with
  | nil => intro h as hO; exact ⟨as, hO, by simp⟩
  | cons c cs ih =>
    intro h as hO
    obtain ⟨bs, hb, hp⟩ := ih (h.alloc c).1 (h.next :: as) (owns_alloc hO c)
    refine ⟨bs, hb, hp.trans ?_⟩
    have hn : (h.alloc c).1.next = h.next + 1 := rfl
    rw [hn]
    simp only [List.length_cons, List.range_succ_eq_map, List.map_cons, List.map_map]
    have e : (List.range cs.length).map (fun x => x + (h.next + 1)) = (List.range cs.length).map ((· + h.next) ∘ Nat.succ) := by
      apply List.map_congr_left; intro a _; simp; omega
    rw [e]
    simp only [Nat.zero_add]
    exact (List.perm_middle (l₁ := as) (a := h.next)).symm

/-- the heap holding the cells `cs` at the addresses `0 … cs.length-1`: each is live and listed once -/
theorem owns_ofCells (cs : List (List Int)) : Owns (Heap.ofCells cs) (List.range cs.length) := by
  obtain ⟨bs, hb, hp⟩ := owns_foldl_alloc cs Heap.empty [] owns_empty
  have : bs.Perm (List.range cs.length) := by
    refine hp.trans ?_
    simp [Heap.empty]
  exact owns_perm hb this

/-! ## demo objects: constraint systems over two variables -/

/-- cells 0,1: `x.con_sys` (`A = 0`, `A + B + 1 >= 0`), cells 2,3: `x.gen_sys`, cells 4,5,6: an argument system -/
def demoHeap : Heap := Heap.ofCells [[0, 1, 0], [1, 1, 1], [1, 0, 0], [0, 0, 1], [2, 0, 1], [5, -1, 0], [3, 1, 1]]

def demoCon : LinSys := ⟨⟨[⟨0, 0, false⟩, ⟨1, 1, false⟩], 2⟩, 2, false, 2, true⟩
def demoGen : LinSys := ⟨⟨[⟨2, 1, false⟩, ⟨3, 0, false⟩], 2⟩, 2, false, 2, false⟩
/-- an unsorted argument with one pending row -/
def demoArg : LinSys := ⟨⟨[⟨4, 1, false⟩, ⟨5, 1, false⟩, ⟨6, 1, false⟩], 3⟩, 2, false, 2, false⟩
/-- constraints up to date, not minimized: rows are inserted as ordinary rows -/
def demoPoly : Poly := ⟨demoCon, demoGen, BitMatrix.empty, BitMatrix.empty, C_UP, 2⟩
/-- both descriptions minimized with `sat_c`: rows are inserted as pending rows -/
def demoPolyMin : Poly := ⟨demoCon, demoGen, ⟨[[0], [1]], 2⟩, BitMatrix.empty, 2 + 4 + 8 + 16 + 32, 2⟩

theorem demo_owns : Owns demoHeap (demoPoly.owned ++ demoArg.owned ++ []) :=
  owns_ofCells [[0, 1, 0], [1, 1, 1], [1, 0, 0], [0, 0, 1], [2, 0, 1], [5, -1, 0], [3, 1, 1]]

theorem demo_owns_sys : Owns demoHeap (demoCon.owned ++ demoArg.owned ++ demoGen.owned) := by
  have := owns_ofCells [[0, 1, 0], [1, 1, 1], [1, 0, 0], [0, 0, 1], [2, 0, 1], [5, -1, 0], [3, 1, 1]]
  refine owns_perm this ?_
  decide

end PPLV.Value.Move

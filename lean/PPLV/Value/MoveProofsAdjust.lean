import PPLV.Value.MoveProofsCopyKit
import PPLV.Value.MoveProofsSys
/-!
# C13 moving mechanics — `set_topology`, `set_space_dimension_no_ok`, `adjust_topology_and_space_dimension`
-/
namespace PPLV.Value.Move
open OwnsKit
namespace CopyKit

theorem rowSetTopology_spec {h : Heap} {as : List Nat} (hO : Owns h as) {r : Row} (hr : r.impl ∈ as) (nnc : Bool) :
    Owns (r.setTopology h nnc).1 as ∧ (r.setTopology h nnc).2.impl = r.impl
    ∧ (r.setTopology h nnc).2.val (r.setTopology h nnc).1 = setTopologyV nnc (r.val h)
    ∧ (∀ x, x ≠ r.impl → (r.setTopology h nnc).1.cells x = h.cells x) := by
  obtain ⟨c, hc⟩ := owns_read_some hO hr
  have hv : r.val h = ⟨c, r.tag, r.nnc⟩ := by simp [Row.val, Heap.read, hc]
  by_cases h1 : (r.nnc == nnc) = true
  · have e : r.setTopology h nnc = (h, r) := by simp only [Row.setTopology, h1, if_true]
    have e2 : setTopologyV nnc (r.val h) = r.val h := by
      have : ((r.val h).nnc == nnc) = true := h1
      simp only [setTopologyV, this, if_true]
    rw [e, e2]
    exact ⟨hO, rfl, rfl, fun _ _ => rfl⟩
  · have h1' : ¬ ((r.val h).nnc == nnc) = true := h1
    by_cases h2 : (!r.nnc) = true
    · have e : r.setTopology h nnc
          = (h.modify r.impl (fun c => resizeCoeffs c (c.length + 1)), { r with nnc := nnc }) := by
        simp only [Row.setTopology, h1, h2, if_true, if_false, Bool.false_eq_true]
      have h2' : (!(r.val h).nnc) = true := h2
      have e2 : setTopologyV nnc (r.val h) = ⟨resizeCoeffs c (c.length + 1), r.tag, nnc⟩ := by
        simp only [setTopologyV, h1', h2', if_true, if_false, Bool.false_eq_true]
        rw [hv]
      rw [e, e2]
      obtain ⟨m1, m2, m3⟩ := owns_modify hO hr (fun c => resizeCoeffs c (c.length + 1))
      refine ⟨m1, rfl, ?_, m2⟩
      simp [Row.val, Heap.read, m3, hc]
    · have e : r.setTopology h nnc
          = (h.modify r.impl (fun c => resizeCoeffs c (c.length - 1)), { r with nnc := nnc }) := by
        simp only [Row.setTopology, h1, h2, if_false, Bool.false_eq_true]
      have h2' : ¬ (!(r.val h).nnc) = true := h2
      have e2 : setTopologyV nnc (r.val h) = ⟨resizeCoeffs c (c.length - 1), r.tag, nnc⟩ := by
        simp only [setTopologyV, h1', h2', if_false, Bool.false_eq_true]
        rw [hv]
      rw [e, e2]
      obtain ⟨m1, m2, m3⟩ := owns_modify hO hr (fun c => resizeCoeffs c (c.length - 1))
      refine ⟨m1, rfl, ?_, m2⟩
      simp [Row.val, Heap.read, m3, hc]

theorem setTopologyRows_spec (nnc : Bool) (frame : List Nat) :
    ∀ (i : Nat) (h : Heap) (rows : List Row), i ≤ rows.length → Owns h (owned rows ++ frame) →
    Owns (setTopologyRows nnc i h rows).1 (owned rows ++ frame)
    ∧ owned (setTopologyRows nnc i h rows).2 = owned rows
    ∧ (∀ j, ((setTopologyRows nnc i h rows).2[j]?).map (Row.val (setTopologyRows nnc i h rows).1)
        = (rows[j]?).map (fun r => if j < i then setTopologyV nnc (r.val h) else r.val h))
    ∧ FrameEq h (setTopologyRows nnc i h rows).1 frame := by
  intro i
  induction i with
  | zero =>
    intro h rows _ hO
    have e : setTopologyRows nnc 0 h rows = (h, rows) := rfl
    rw [e]
    refine ⟨hO, rfl, ?_, fun _ _ => rfl⟩
    intro j; simp
  | succ i ih =>
    intro h rows hi hO
    have hil : i < rows.length := by omega
    have hr : rows[i]? = some rows[i] := List.getElem?_eq_getElem hil
    generalize rows[i] = r at hr
    have hro : r.impl ∈ owned rows := mem_owned_of_getElem? hr
    obtain ⟨t1, t2, t3, t4⟩ := rowSetTopology_spec hO (List.mem_append_left _ hro) nnc
    have e : setTopologyRows nnc (i + 1) h rows
        = setTopologyRows nnc i (r.setTopology h nnc).1 (rows.set i (r.setTopology h nnc).2) := by
      simp only [setTopologyRows, hr]
    rw [e]
    generalize r.setTopology h nnc = T at t1 t2 t3 t4
    have ho : owned (rows.set i T.2) = owned rows := by
      rw [owned_set, t2]
      apply List.ext_getElem?
      intro j
      rw [List.getElem?_set]
      by_cases hij : i = j
      · subst hij
        have hro' : (owned rows)[i]? = some r.impl := by simp [owned, hr]
        rw [hro']; simp [owned_length, hil]
      · simp [hij]
    obtain ⟨i1, i2, i3, i4⟩ := ih T.1 (rows.set i T.2) (by simp; omega) (by rw [ho]; exact t1)
    rw [ho] at i1 i2
    refine ⟨i1, i2, ?_, ?_⟩
    · intro j
      rw [i3 j, List.getElem?_set]
      by_cases hij : i = j
      · subst hij
        rw [hr]
        simp [hil, t3]
      · simp only [hij, if_false]
        cases hj : rows[j]? with
        | none => rfl
        | some r' =>
          simp only [Option.map_some]
          have hne : r'.impl ≠ r.impl := nodup_impl_ne (owns_nodup_left hO) hj hr (Ne.symm hij)
          rw [row_val_congr (t4 _ hne)]
          have : (j < i) ↔ (j < i + 1) := by omega
          simp only [this]
    · refine frameEq_trans ?_ i4
      intro a ha
      exact t4 a (owns_ne_of_mem_append hO hro ha).symm

theorem setTopology_spec (h : Heap) (s : LinSys) (nnc : Bool) (frame : List Nat) (hO : Owns h (s.owned ++ frame)) :
    Owns (s.setTopology h nnc).1 (s.owned ++ frame) ∧ (s.setTopology h nnc).2.owned = s.owned
    ∧ (s.setTopology h nnc).2.value (s.setTopology h nnc).1 = setTopologySysV nnc (s.value h)
    ∧ FrameEq h (s.setTopology h nnc).1 frame := by
  by_cases h1 : (s.nnc == nnc) = true
  · have h1' : ((s.value h).nnc == nnc) = true := h1
    have e : s.setTopology h nnc = (h, s) := by simp only [LinSys.setTopology, h1, if_true]
    have e2 : setTopologySysV nnc (s.value h) = s.value h := by simp only [setTopologySysV, h1', if_true]
    rw [e, e2]
    exact ⟨hO, rfl, rfl, fun _ _ => rfl⟩
  · have h1' : ¬ ((s.value h).nnc == nnc) = true := h1
    have e : s.setTopology h nnc = ((setTopologyRows nnc s.rows.size h s.rows.impl).1,
        { s with rows := ⟨(setTopologyRows nnc s.rows.size h s.rows.impl).2, s.rows.cap⟩, nnc := nnc }) := by
      simp only [LinSys.setTopology, h1, if_false, Bool.false_eq_true]
    have e2 : setTopologySysV nnc (s.value h)
        = { s.value h with rows := (s.value h).rows.map (setTopologyV nnc), nnc := nnc } := by
      simp only [setTopologySysV, h1', if_false, Bool.false_eq_true]
    rw [e, e2]
    obtain ⟨l1, l2, l3, l4⟩ := setTopologyRows_spec nnc frame s.rows.size h s.rows.impl (Nat.le_refl _) hO
    generalize setTopologyRows nnc s.rows.size h s.rows.impl = L at l1 l2 l3 l4
    refine ⟨l1, l2, ?_, l4⟩
    show LinSysV.mk (rowValues L.1 L.2) _ _ _ _ = LinSysV.mk ((rowValues h s.rows.impl).map (setTopologyV nnc)) _ _ _ _
    congr 1
    apply List.ext_getElem?
    intro j
    simp only [rowValues, List.getElem?_map]
    rw [l3 j]
    cases hj : s.rows.impl[j]? with
    | none => rfl
    | some r =>
      have : j < s.rows.size := (List.getElem?_eq_some_iff.mp hj).1
      simp [this]

theorem setSpaceDimNoOk_spec (h : Heap) (s : LinSys) (sd : Nat) (frame : List Nat) (hO : Owns h (s.owned ++ frame)) :
    Owns (s.setSpaceDimNoOk h sd).1 (s.owned ++ frame) ∧ (s.setSpaceDimNoOk h sd).2.owned = s.owned
    ∧ (s.setSpaceDimNoOk h sd).2.value (s.setSpaceDimNoOk h sd).1 = setSpaceDimSysV sd (s.value h)
    ∧ FrameEq h (s.setSpaceDimNoOk h sd).1 frame := by
  obtain ⟨l1, l2, l3⟩ := setSpaceDimRows_full sd s.rows.impl _ h (fun r hr => List.mem_append_left _ (mem_owned hr))
    (owns_nodup_left hO) hO
  refine ⟨l1, rfl, ?_, fun a ha => l2 a (fun hm => owns_ne_of_mem_append hO hm ha rfl)⟩
  show LinSysV.mk (rowValues (setSpaceDimRows sd s.rows.impl.length h s.rows.impl) s.rows.impl) _ _ _ _
    = LinSysV.mk ((rowValues h s.rows.impl).map (setSpaceDimV sd)) _ _ _ _
  rw [l3]; rfl

end CopyKit
open CopyKit

theorem adjust_refines (h : Heap) (s : LinSys) (nnc : Bool) (sd : Nat) (frame : List Nat)
    (hO : Owns h (s.owned ++ frame)) :
    let out := adjustTopologyAndSpaceDimension h s nnc sd
    Owns out.1 (out.2.owned ++ frame) ∧ out.2.owned = s.owned
    ∧ out.2.value out.1 = adjustV nnc sd (s.value h) ∧ FrameEq h out.1 frame := by
  intro out
  have eo : out = (s.setTopology h nnc).2.setSpaceDimNoOk (s.setTopology h nnc).1 sd := rfl
  rw [eo]
  obtain ⟨t1, t2, t3, t4⟩ := setTopology_spec h s nnc frame hO
  generalize s.setTopology h nnc = T at t1 t2 t3 t4
  obtain ⟨d1, d2, d3, d4⟩ := setSpaceDimNoOk_spec T.1 T.2 sd frame (by rw [t2]; exact t1)
  refine ⟨by rw [d2]; exact d1, by rw [d2, t2], ?_, frameEq_trans t4 d4⟩
  rw [d3, t3]; rfl

end PPLV.Value.Move

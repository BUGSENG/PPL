import PPLV.Value.MoveProofsOwn

/-!
# C13 moving mechanics — `Swapping_Vector`: refinement lemmas (reserve / resize / clear / destroy)

No Mathlib.
-/
namespace PPLV.Value.Move
open OwnsKit

namespace OwnsKit

/-! ## `destroyRows` -/

theorem destroyRows_spec : ∀ (rows : List Row) (h : Heap) (frame : List Nat), Owns h (owned rows ++ frame) →
    Owns (destroyRows h rows) frame
    ∧ (∀ a, a ∉ owned rows → (destroyRows h rows).cells a = h.cells a)
    ∧ (destroyRows h rows).next = h.next
  | [], h, frame, hO => ⟨hO, fun _ _ => rfl, rfl⟩
  | r :: rs, h, frame, hO => by
    have hO' : Owns h (r.impl :: (owned rs ++ frame)) := hO
    have h0 := owns_free_head hO'
    obtain ⟨i1, i2, i3⟩ := destroyRows_spec rs (h.free r.impl) frame h0
    refine ⟨i1, fun a ha => ?_, ?_⟩
    · have hne : a ≠ r.impl := fun e => ha (by simp [e])
      have hnm : a ∉ owned rs := fun e => ha (by simp [e])
      show (destroyRows (h.free r.impl) rs).cells a = _
      rw [i2 a hnm, free_cells_of_ne h hne]
    · show (destroyRows (h.free r.impl) rs).next = _
      rw [i3, free_next]

/-! ## `allocDefaults` -/

theorem allocDefaults_succ (K : RowClass) (n : Nat) (h : Heap) :
    allocDefaults K (n + 1) h
      = ((allocDefaults K n (h.alloc K.dfltCell).1).1,
          ⟨h.next, K.dfltTag, false⟩ :: (allocDefaults K n (h.alloc K.dfltCell).1).2) := rfl

theorem allocDefaults_length (K : RowClass) : ∀ (n : Nat) (h : Heap), (allocDefaults K n h).2.length = n
  | 0, _ => rfl
  | n + 1, h => by rw [allocDefaults_succ, List.length_cons, allocDefaults_length K n]

theorem allocDefaults_spec (K : RowClass) : ∀ (n : Nat) (h : Heap) (as : List Nat), Owns h as →
    (allocDefaults K n h).2.length = n
    ∧ Owns (allocDefaults K n h).1 (owned (allocDefaults K n h).2 ++ as)
    ∧ (∀ a, a < h.next → (allocDefaults K n h).1.cells a = h.cells a)
    ∧ (∀ r ∈ (allocDefaults K n h).2, r.val (allocDefaults K n h).1 = dfltV K)
    ∧ h.next ≤ (allocDefaults K n h).1.next
  | 0, h, as, hO => ⟨rfl, hO, fun _ _ => rfl, fun _ hr => (by cases hr), Nat.le_refl _⟩
  | n + 1, h, as, hO => by
    have hA := owns_alloc hO K.dfltCell
    obtain ⟨i1, i2, i3, i4, i5⟩ := allocDefaults_spec K n (h.alloc K.dfltCell).1 (h.next :: as) hA
    rw [allocDefaults_succ]
    simp only [alloc_next] at i3 i5
    refine ⟨by simp [i1], ?_, fun a ha => ?_, fun r hr => ?_, ?_⟩
    rotate_right
    · show h.next ≤ (allocDefaults K n (h.alloc K.dfltCell).1).1.next
      omega
    · refine owns_perm i2 ?_
      simp only [owned_cons, List.cons_append]
      exact List.perm_middle
    · rw [i3 a (by omega), alloc_cells_of_ne h _ (by omega)]
    · rcases List.mem_cons.1 hr with rfl | hr
      · simp only [Row.val, Heap.read, dfltV]
        rw [i3 h.next (by omega), alloc_cells_self]; rfl
      · exact i4 r hr

/-! ## the stealing loop of `reserve` -/

theorem swapAt_of_lt {i : Nat} {a b : List Row} (ha : i < a.length) (hb : i < b.length) :
    swapAt i a b = (a.set i b[i], b.set i a[i]) := by
  simp [swapAt, List.getElem?_eq_getElem ha, List.getElem?_eq_getElem hb]

theorem stealLoop_getElem? : ∀ (i : Nat) (a b : List Row), a.length = b.length → i ≤ a.length →
    (stealLoop i a b).1.length = a.length ∧ (stealLoop i a b).2.length = a.length
    ∧ (∀ j, (stealLoop i a b).1[j]? = if j < i then b[j]? else a[j]?)
    ∧ (∀ j, (stealLoop i a b).2[j]? = if j < i then a[j]? else b[j]?)
  | 0, a, b, hl, _ => by simp [stealLoop, hl]
  | i + 1, a, b, hl, hi => by
    have ha : i < a.length := hi
    have hb : i < b.length := hl ▸ hi
    have e : stealLoop (i + 1) a b = stealLoop i (a.set i b[i]) (b.set i a[i]) := by
      show (match swapAt i a b with | (a', b') => stealLoop i a' b') = _
      rw [swapAt_of_lt ha hb]
    obtain ⟨i1, i2, i3, i4⟩ := stealLoop_getElem? i (a.set i b[i]) (b.set i a[i]) (by simp [hl]) (by simp; omega)
    rw [e]
    refine ⟨by simpa using i1, by simpa using i2, fun j => ?_, fun j => ?_⟩
    · rw [i3 j]
      by_cases h1 : j < i
      · have : j < i + 1 := by omega
        have hne : i ≠ j := by omega
        simp [h1, this, hne]
      · by_cases h2 : j = i
        · subst h2; simp [hb, ha]
        · have : ¬ j < i + 1 := by omega
          have hne : i ≠ j := fun e => h2 e.symm
          simp [h1, this, hne]
    · rw [i4 j]
      by_cases h1 : j < i
      · have : j < i + 1 := by omega
        have hne : i ≠ j := by omega
        simp [h1, this, hne]
      · by_cases h2 : j = i
        · subst h2; simp [hb, ha]
        · have : ¬ j < i + 1 := by omega
          have hne : i ≠ j := fun e => h2 e.symm
          simp [h1, this, hne]

/-- the loop of `reserve` exchanges the two vectors -/
theorem stealLoop_full (n : Nat) (a b : List Row) (ha : a.length = n) (hb : b.length = n) :
    stealLoop n a b = (b, a) := by
  obtain ⟨i1, i2, i3, i4⟩ := stealLoop_getElem? n a b (ha.trans hb.symm) (by omega)
  have e1 : (stealLoop n a b).1 = b := by
    apply List.ext_getElem?
    intro j
    rw [i3 j]
    by_cases hj : j < n
    · simp [hj]
    · simp only [hj, if_false]
      rw [List.getElem?_eq_none (by omega), List.getElem?_eq_none (by omega)]
  have e2 : (stealLoop n a b).2 = a := by
    apply List.ext_getElem?
    intro j
    rw [i4 j]
    by_cases hj : j < n
    · simp [hj]
    · simp only [hj, if_false]
      rw [List.getElem?_eq_none (by omega), List.getElem?_eq_none (by omega)]
  exact Prod.ext e1 e2

theorem reserve_of_lt (K : RowClass) (h : Heap) (v : SVec) (c : Nat) (hc : v.cap < c) :
    v.reserve K h c
      = (destroyRows (allocDefaults K v.size h).1 (allocDefaults K v.size h).2,
          ⟨v.impl, computeCapacity c maxNumRows⟩) := by
  have hs := stealLoop_full v.size (allocDefaults K v.size h).2 v.impl (allocDefaults_length K v.size h) rfl
  unfold SVec.reserve
  simp only [hc, if_true]
  show (destroyRows (allocDefaults K v.size h).1 (stealLoop v.size (allocDefaults K v.size h).2 v.impl).2,
    (⟨(stealLoop v.size (allocDefaults K v.size h).2 v.impl).1, _⟩ : SVec)) = _
  rw [hs]

theorem reserve_of_not_lt (K : RowClass) (h : Heap) (v : SVec) (c : Nat) (hc : ¬ v.cap < c) :
    v.reserve K h c = (h, v) := by
  unfold SVec.reserve
  simp [hc]

theorem resize_eq (K : RowClass) (h : Heap) (v : SVec) (n : Nat) :
    v.resize K h n = stdResize K (v.reserve K h n).1 (v.reserve K h n).2 n := rfl

end OwnsKit

/-! ## the interface lemmas -/

theorem destroyRows_refines (h : Heap) (rows : List Row) (frame : List Nat) (hO : Owns h (owned rows ++ frame)) :
    Owns (destroyRows h rows) frame ∧ FrameEq h (destroyRows h rows) frame := by
  obtain ⟨i1, i2, _⟩ := destroyRows_spec rows h frame hO
  exact ⟨i1, fun a ha => i2 a (fun hm => owns_ne_of_mem_append hO hm ha rfl)⟩

theorem reserve_refines (K : RowClass) (h : Heap) (v : SVec) (c : Nat) (frame : List Nat)
    (hO : Owns h (owned v.impl ++ frame)) :
    (v.reserve K h c).2.impl = v.impl ∧ Owns (v.reserve K h c).1 (owned v.impl ++ frame)
    ∧ (∀ a ∈ owned v.impl ++ frame, (v.reserve K h c).1.cells a = h.cells a) := by
  by_cases hc : v.cap < c
  · rw [reserve_of_lt K h v c hc]
    obtain ⟨_, i2, i3, _, _⟩ := allocDefaults_spec K v.size h _ hO
    obtain ⟨j1, j2⟩ := destroyRows_refines _ _ _ i2
    exact ⟨rfl, j1, fun a ha => (j2 a ha).trans (i3 a (owns_lt_next hO ha))⟩
  · rw [reserve_of_not_lt K h v c hc]
    exact ⟨rfl, hO, fun _ _ => rfl⟩

theorem resize_grow_refines (K : RowClass) (h : Heap) (v : SVec) (n : Nat) (frame : List Nat)
    (hO : Owns h (owned v.impl ++ frame)) (hn : v.size ≤ n) :
    (v.resize K h n).2.impl.take v.size = v.impl ∧ (v.resize K h n).2.size = n
    ∧ (∀ r ∈ (v.resize K h n).2.impl.drop v.size, r.val (v.resize K h n).1 = dfltV K)
    ∧ Owns (v.resize K h n).1 (owned (v.resize K h n).2.impl ++ frame)
    ∧ (∀ a ∈ owned v.impl ++ frame, (v.resize K h n).1.cells a = h.cells a) := by
  obtain ⟨r1, r2, r3⟩ := reserve_refines K h v n frame hO
  rw [resize_eq]
  generalize v.reserve K h n = p at r1 r2 r3
  obtain ⟨h1, ⟨impl1, cap1⟩⟩ := p
  simp only at r1 r2 r3
  subst r1
  have hsz : (⟨v.impl, cap1⟩ : SVec).size = v.size := rfl
  unfold stdResize
  simp only [hsz]
  by_cases hle : n ≤ v.size
  · have hEq : n = v.size := Nat.le_antisymm hle hn
    have hsz' : v.impl.length = v.size := rfl
    simp only [hle, if_true]
    subst hEq
    have hd : v.impl.drop v.size = [] := List.drop_eq_nil_of_le (Nat.le_refl _)
    have ht : v.impl.take v.size = v.impl := List.take_of_length_le (Nat.le_refl _)
    rw [hd, ht]
    exact ⟨ht, rfl, fun r hr => by simp [hd] at hr, r2, r3⟩
  · simp only [hle, if_false]
    obtain ⟨i1, i2, i3, i4, _⟩ := allocDefaults_spec K (n - v.size) h1 _ r2
    have hsz' : v.impl.length = v.size := rfl
    refine ⟨by simp [← hsz'], ?_, fun r hr => ?_, ?_, fun a ha => ?_⟩
    · show (v.impl ++ _).length = n
      rw [List.length_append, i1, hsz']
      omega
    · rw [← hsz', List.drop_left] at hr
      exact i4 r hr
    · refine owns_perm i2 ?_
      simp only [owned_append]
      rw [← List.append_assoc]
      exact List.Perm.append_right _ List.perm_append_comm
    · rw [i3 a (owns_lt_next r2 ha)]
      exact r3 a ha

theorem resize_shrink_refines (K : RowClass) (h : Heap) (v : SVec) (n : Nat) (frame : List Nat)
    (hO : Owns h (owned v.impl ++ frame)) (hn : n ≤ v.size) :
    (v.resize K h n).2.impl = v.impl.take n
    ∧ Owns (v.resize K h n).1 (owned (v.impl.take n) ++ frame)
    ∧ (∀ a ∈ owned (v.impl.take n) ++ frame, (v.resize K h n).1.cells a = h.cells a) := by
  obtain ⟨r1, r2, r3⟩ := reserve_refines K h v n frame hO
  rw [resize_eq]
  generalize v.reserve K h n = p at r1 r2 r3
  obtain ⟨h1, ⟨impl1, cap1⟩⟩ := p
  simp only at r1 r2 r3
  subst r1
  have hsz : (⟨v.impl, cap1⟩ : SVec).size = v.size := rfl
  unfold stdResize
  rw [if_pos (show n ≤ (⟨v.impl, cap1⟩ : SVec).size from hn)]
  have hperm : (owned v.impl ++ frame).Perm (owned (v.impl.drop n) ++ (owned (v.impl.take n) ++ frame)) := by
    conv => lhs; rw [← List.take_append_drop n v.impl]
    simp only [owned_append]
    rw [← List.append_assoc]
    exact List.Perm.append_right _ List.perm_append_comm
  obtain ⟨j1, j2⟩ := destroyRows_refines h1 _ _ (owns_perm r2 hperm)
  exact ⟨rfl, j1, fun a ha => (j2 a ha).trans (r3 a (hperm.mem_iff.2 (List.mem_append_right _ ha)))⟩

theorem clear_refines (h : Heap) (v : SVec) (frame : List Nat) (hO : Owns h (owned v.impl ++ frame)) :
    (v.clear h).2.impl = [] ∧ Owns (v.clear h).1 frame ∧ FrameEq h (v.clear h).1 frame := by
  obtain ⟨i1, i2⟩ := destroyRows_refines h v.impl frame hO
  exact ⟨rfl, i1, i2⟩

end PPLV.Value.Move

import PPLV.Value.MoveProofsRecycleSpec

/-!
# C13 moving mechanics — refinement of `Poly.addRecycledConstraints`
-/
namespace PPLV.Value.Move.PolyKit
open PPLV.Value.Move OwnsKit

/-- what `insert(y, Recycle_Input)` and `insert_pending(y, Recycle_Input)` have in common when `y` has rows:
    `ins` gives the receiver the value `insV`, leaves `y` cleared and owning nothing, and keeps the frame -/
def Moves (ins : Heap → LinSys → LinSys → Heap × LinSys × LinSys) (insV : LinSysV → LinSysV → LinSysV) : Prop :=
  ∀ (h : Heap) (x y : LinSys) (frame : List Nat), Owns h (x.owned ++ y.owned ++ frame) → y.hasNoRows = false →
    Owns (ins h x y).1 ((ins h x y).2.1.owned ++ frame)
    ∧ (ins h x y).2.1.value (ins h x y).1 = insV (x.value h) (y.value h)
    ∧ (ins h x y).2.2.value (ins h x y).1 = clearV (y.value h) ∧ (ins h x y).2.2.owned = []
    ∧ FrameEq h (ins h x y).1 frame

theorem moves_insertPendingSys (K : RowClass) : Moves (fun h x y => x.insertPendingSys K h y) insertPendingSysV :=
  fun h x y frame hO _ => insertPendingSys_refines K h x y frame hO

theorem moves_insertSys (K : RowClass) : Moves (fun h x y => x.insertSys K h y) (insertSysV K) := by
  intro h x y frame hO hne
  obtain ⟨b1, b2, b3, _, b5, b6⟩ := insertSys_refines K h x y frame hO
  have he : (y.value h).rows.isEmpty = false := by rw [value_rows_isEmpty, hne]
  refine ⟨by rw [b5 hne, List.append_nil] at b1; exact b1, b2, ?_, b5 hne, b6⟩
  rw [b3, insertSysArgV, he]; rfl

/-- what `addRecycledConstraints_refines` says of an outcome `out` of the machine against the outcome `v` on values -/
def RefinesRecycled (h : Heap) (nnc : Bool) (cs : LinSys) (frame : List Nat) (out : Heap × Poly × LinSys × Exit)
    (v : PolyV × Exit) : Prop :=
  Owns out.1 (out.2.1.owned ++ out.2.2.1.owned ++ frame)
  ∧ FrameEq h out.1 frame
  ∧ (out.2.1.value out.1, out.2.2.2) = v
  ∧ ((out.2.2.2 = .moved ∨ out.2.2.2 = .movedPending) →
      out.2.2.1.value out.1 = ⟨[], 0, nnc, 0, true⟩ ∧ out.2.2.1.owned = [])
  ∧ (out.2.2.2 ≠ .moved → out.2.2.2 ≠ .movedPending → out.2.2.1 = cs ∧ out.1 = h)

/-- the moving core of `add_recycled_constraints`: adjust the argument, then move its rows into `con_sys` -/
theorem recycleC_moved {ins : Heap → LinSys → LinSys → Heap × LinSys × LinSys} {insV : LinSysV → LinSysV → LinSysV}
    (hins : Moves ins insV) (h : Heap) (x : Poly) (cs : LinSys) (frame : List Nat)
    (hO : Owns h (x.owned ++ cs.owned ++ frame)) (hne : cs.hasNoRows = false) (st : Nat) (e : Exit)
    (he : e = .moved ∨ e = .movedPending) :
    let a := adjustTopologyAndSpaceDimension h cs x.nnc x.spaceDim
    let out := ins a.1 x.conSys a.2
    RefinesRecycled h x.nnc cs frame (out.1, { x with conSys := out.2.1, status := st }, out.2.2, e)
      (⟨insV (x.conSys.value h) (adjustV x.nnc x.spaceDim (cs.value h)), x.genSys.value h, x.satC, x.satG, st,
        x.spaceDim⟩, e) := by
  have hO1 : Owns h (cs.owned ++ (x.conSys.owned ++ x.genSys.owned ++ frame)) :=
    Owns.perm (by simp only [Poly.owned]; owns_perm_tac) hO
  have A := adjust_refines h cs x.nnc x.spaceDim _ hO1
  dsimp only at A ⊢
  generalize adjustTopologyAndSpaceDimension h cs x.nnc x.spaceDim = a at A ⊢
  obtain ⟨a1, a2, a3, a4⟩ := A
  have hO2 : Owns a.1 (x.conSys.owned ++ a.2.owned ++ (x.genSys.owned ++ frame)) :=
    Owns.perm (by owns_perm_tac) a1
  obtain ⟨b1, b2, b3, b5, b6⟩ := hins a.1 x.conSys a.2 _ hO2 (by rw [hasNoRows_of_owned_eq a2]; exact hne)
  generalize ins a.1 x.conSys a.2 = out at b1 b2 b3 b5 b6 ⊢
  have hxc : x.conSys.value a.1 = x.conSys.value h :=
    LinSys.value_frame _ a4 (fun b hb => by simp [hb])
  have hxg1 : x.genSys.value a.1 = x.genSys.value h :=
    LinSys.value_frame _ a4 (fun b hb => by simp [hb])
  have hxg2 : x.genSys.value out.1 = x.genSys.value a.1 :=
    LinSys.value_frame _ b6 (fun b hb => by simp [hb])
  refine ⟨?_, ?_, ?_, fun _ => ⟨?_, b5⟩, fun h1 h2 => he.elim (absurd · h1) (absurd · h2)⟩
  · show Owns out.1 ((out.2.1.owned ++ x.genSys.owned) ++ out.2.2.owned ++ frame)
    rw [b5]; exact Owns.perm (by simp only [List.append_nil]; owns_perm_tac) b1
  · exact frameEq_trans (frameEq_append_right a4) (frameEq_append_right b6)
  · show (Poly.value out.1 _, e) = _
    simp only [Poly.value, b2, hxc, a3, hxg2.trans hxg1]
  · show out.2.2.value out.1 = _
    rw [b3, a3]; simp [clearV, adjustV_nnc]

theorem pv_nnc (h : Heap) (x : Poly) : (Poly.value h x).conSys.nnc = x.nnc := rfl
theorem pv_conSys (h : Heap) (x : Poly) : (Poly.value h x).conSys = x.conSys.value h := rfl
theorem pv_genSys (h : Heap) (x : Poly) : (Poly.value h x).genSys = x.genSys.value h := rfl
theorem pv_spaceDim (h : Heap) (x : Poly) : (Poly.value h x).spaceDim = x.spaceDim := rfl
theorem pv_status (h : Heap) (x : Poly) : (Poly.value h x).status = x.status := rfl
theorem pv_satC (h : Heap) (x : Poly) : (Poly.value h x).satC = x.satC := rfl
theorem pv_satG (h : Heap) (x : Poly) : (Poly.value h x).satG = x.satG := rfl
theorem lv_nnc (h : Heap) (s : LinSys) : (LinSys.value h s).nnc = s.nnc := rfl
theorem lv_spaceDim (h : Heap) (s : LinSys) : (LinSys.value h s).spaceDim = s.spaceDim := rfl
theorem canPend_eq (x : Poly) : x.canHaveSomethingPending = canPendV x.status := rfl
theorem markedEmpty_eq (x : Poly) : x.markedEmpty = testAny x.status EMPTY := rfl

/-- **refinement of `add_recycled_constraints`**: ownership, frame, the receiver's value and the exit are
    the value-level function of the input values; the argument is emptied or untouched. -/
theorem addRecycledConstraints_refines (h : Heap) (x : Poly) (cs : LinSys) (frame : List Nat)
    (hO : Owns h (x.owned ++ cs.owned ++ frame)) :
    let out := x.addRecycledConstraints h cs
    Owns out.1 (out.2.1.owned ++ out.2.2.1.owned ++ frame)
    ∧ FrameEq h out.1 frame
    ∧ (out.2.1.value out.1, out.2.2.2) = addRecycledConstraintsV (x.value h) (cs.value h)
    ∧ ((out.2.2.2 = .moved ∨ out.2.2.2 = .movedPending) →
        out.2.2.1.value out.1 = ⟨[], 0, x.nnc, 0, true⟩ ∧ out.2.2.1.owned = [])
    ∧ (out.2.2.2 ≠ .moved → out.2.2.2 ≠ .movedPending → out.2.2.1 = cs ∧ out.1 = h) := by
  show RefinesRecycled h x.nnc cs frame (x.addRecycledConstraints h cs)
    (addRecycledConstraintsV (x.value h) (cs.value h))
  -- the exits on which nothing moves
  have same : ∀ (x' : Poly) (e : Exit), x'.owned = x.owned → e ≠ .moved → e ≠ .movedPending →
      RefinesRecycled h x.nnc cs frame (h, x', cs, e) (x'.value h, e) := fun x' e hx' he1 he2 =>
    ⟨by simpa [hx'] using hO, frameEq_refl _ _, rfl, fun hm => hm.elim (absurd · he1) (absurd · he2),
      fun _ _ => ⟨rfl, rfl⟩⟩
  -- machine and value operation test the same guards, once the value side's projections are rewritten: walk both at once
  unfold Poly.addRecycledConstraints addRecycledConstraintsV
  simp only [pv_nnc, pv_spaceDim, pv_status, lv_nnc, lv_spaceDim, value_rows_isEmpty, markedEmpty_eq, canPend_eq]
  refine rel_ite (fun _ => same x _ rfl (by decide) (by decide)) fun _ =>
    rel_ite (fun _ => same x _ rfl (by decide) (by decide)) fun _ =>
    rel_ite (fun _ => same x _ rfl (by decide) (by decide)) fun c3 =>
    rel_ite (fun _ => ?_) fun _ =>
    rel_ite (fun _ => same x _ rfl (by decide) (by decide)) fun _ =>
    rel_ite (fun _ => same x _ rfl (by decide) (by decide)) fun _ => ?_
  · have hz : cs.rows.impl.all (zeroDimTautology h) = (cs.value h).rows.all zeroDimTautologyV :=
      zeroDim_all_eq hO cs.rows.impl (fun a ha => by simp [LinSys.owned, ha])
    rw [← hz]
    exact rel_ite (R := fun a b => RefinesRecycled h x.nnc cs frame (h, a, cs, .zeroDim) (b, .zeroDim))
      (fun _ => same x _ rfl (by decide) (by decide)) fun _ => same { x with status := EMPTY } _ rfl (by decide) (by decide)
  · have c3' : cs.hasNoRows = false := by simpa using c3
    exact rel_ite
      (fun _ => recycleC_moved (moves_insertPendingSys constraintClass) h x cs frame hO c3' _ _ (.inr rfl))
      fun _ => recycleC_moved (moves_insertSys constraintClass) h x cs frame hO c3' _ _ (.inl rfl)

end PPLV.Value.Move.PolyKit

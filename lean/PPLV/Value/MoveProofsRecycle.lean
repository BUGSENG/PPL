import PPLV.Value.MoveProofsRecycleGens
import PPLV.Value.MoveDemo

/-!
# C13 moving mechanics — recycled insertion and swap
-/
namespace C13Proofs
open PPLV.Value PPLV.Value.Move PPLV.Value.Move.PolyKit

/-! ### swap -/

theorem linsys_swap_exchanges (x y : LinSys) : LinSys.mSwap x y = (y, x) := mSwap_eq x y

theorem self_swap_identity (x : Poly) : (Poly.mSwap x x).1 = x ∧ (Poly.mSwap x x).2 = x := by
  simp [Poly.mSwap, linsys_swap_exchanges, swapM]

theorem swap_exchanges_values (h : Heap) (x y : Poly) (ht : x.nnc = y.nnc) :
    (Poly.mSwap x y).1 = y ∧ (Poly.mSwap x y).2 = x
    ∧ (Poly.mSwap x y).1.value h = y.value h ∧ (Poly.mSwap x y).2.value h = x.value h
    ∧ (Poly.mSwap x y).1.owned = y.owned ∧ (Poly.mSwap x y).2.owned = x.owned := by
  have hs : Poly.mSwap x y = (y, x) := by
    simp [Poly.mSwap, ht, linsys_swap_exchanges, swapM]
  simp [hs]

/-! ### recycled insertion at the `Linear_System` level -/

theorem recycled_insert_eq_copy_insert (K : RowClass) (h : Heap) (x y : LinSys) (frame : List Nat)
    (hO : Owns h (x.owned ++ y.owned ++ frame)) :
    (x.insertSys K h y).2.1.value (x.insertSys K h y).1
      = (x.insertConst K h (.other y)).2.value (x.insertConst K h (.other y)).1 := by
  have h1 := (insertSys_refines K h x y frame hO).2.1
  have h2 := (LinSys.insertConst_refines K h x (.other y) (y.owned ++ frame)
    (fun _ ha => List.mem_append_right _ (List.mem_append_left _ ha)) (PolyKit.owns_assoc.mp hO)).2.1
  rw [h1, h2]; rfl

theorem recycled_insert_pending_eq_copy_insert (K : RowClass) (h : Heap) (x y : LinSys) (frame : List Nat)
    (hO : Owns h (x.owned ++ y.owned ++ frame)) :
    (x.insertPendingSys K h y).2.1.value (x.insertPendingSys K h y).1
      = (x.insertPendingConst K h (.other y)).2.value (x.insertPendingConst K h (.other y)).1 := by
  have h1 := (insertPendingSys_refines K h x y frame hO).2.1
  have h2 := (LinSys.insertPendingConst_refines K h x (.other y) (y.owned ++ frame)
    (fun _ ha => List.mem_append_right _ (List.mem_append_left _ ha)) (PolyKit.owns_assoc.mp hO)).2.1
  rw [h1, h2]; rfl

theorem recycled_argument_valid_linsys (K : RowClass) (h : Heap) (x y : LinSys) (frame : List Nat)
    (hO : Owns h (x.owned ++ y.owned ++ frame)) :
    let out := x.insertSys K h y
    Owns out.1 (out.2.1.owned ++ out.2.2.owned ++ frame) ∧ FrameEq h out.1 frame
    ∧ (y.hasNoRows = true → out.2.2 = y)
    ∧ (y.hasNoRows = false → out.2.2.value out.1 = ⟨[], 0, y.nnc, 0, true⟩ ∧ out.2.2.owned = []
        ∧ okV K (out.2.2.value out.1) = true) := by
  have A := insertSys_refines K h x y frame hO
  dsimp only at A ⊢
  obtain ⟨a1, _, a3, a4, a5, a6⟩ := A
  refine ⟨a1, a6, a4, fun hne => ?_⟩
  have hv : (x.insertSys K h y).2.2.value (x.insertSys K h y).1 = ⟨[], 0, y.nnc, 0, true⟩ := by
    rw [a3]
    have : (y.value h).rows.isEmpty = false := by rw [value_rows_isEmpty, hne]
    simp [insertSysArgV, this, clearV]
    rfl
  exact ⟨hv, a5 hne, by rw [hv]; exact okV_clear K _⟩

/-! ### `add_recycled_constraints` -/

theorem recycled_argument_valid (h : Heap) (x : Poly) (cs : LinSys) (frame : List Nat)
    (hO : Owns h (x.owned ++ cs.owned ++ frame)) :
    let out := x.addRecycledConstraints h cs
    Owns out.1 (out.2.1.owned ++ out.2.2.1.owned ++ frame)
    ∧ FrameEq h out.1 frame
    ∧ ((out.2.2.2 = .moved ∨ out.2.2.2 = .movedPending) →
        out.2.2.1.value out.1 = ⟨[], 0, x.nnc, 0, true⟩ ∧ out.2.2.1.owned = []
        ∧ okV constraintClass (out.2.2.1.value out.1) = true)
    ∧ (out.2.2.2 ≠ .moved → out.2.2.2 ≠ .movedPending →
        out.2.2.1 = cs ∧ out.2.2.1.value out.1 = cs.value h) := by
  have A := addRecycledConstraints_refines h x cs frame hO
  dsimp only at A ⊢
  obtain ⟨a1, a2, _, a4, a5⟩ := A
  refine ⟨a1, a2, fun hm => ?_, fun h1 h2 => ?_⟩
  · obtain ⟨v, o⟩ := a4 hm
    exact ⟨v, o, by rw [v]; exact okV_clear _ _⟩
  · obtain ⟨e1, e2⟩ := a5 h1 h2
    exact ⟨e1, by rw [e1, e2]⟩

/-- `add_constraints` / `add_generators` = copy, recycle the copy, destroy what is left of the copy.  If the
    recycling operation `rec` computes `recV` on values and `recV` does not see the difference between a system
    and its copy, recycling the copy gives the receiver the value and the exit of recycling the original. -/
theorem recycle_eq_copy (rec : Heap → Poly → LinSys → Heap × Poly × LinSys × Exit)
    (recV : PolyV → LinSysV → PolyV × Exit) (x : Poly)
    (href : ∀ h cs frame, Owns h (x.owned ++ cs.owned ++ frame) →
      Owns (rec h x cs).1 ((rec h x cs).2.1.owned ++ (rec h x cs).2.2.1.owned ++ frame)
      ∧ ((rec h x cs).2.1.value (rec h x cs).1, (rec h x cs).2.2.2) = recV (x.value h) (cs.value h))
    (h : Heap) (cs : LinSys) (frame : List Nat) (hO : Owns h (x.owned ++ cs.owned ++ frame))
    (hcopy : recV (x.value h) (copyV (cs.value h)) = recV (x.value h) (cs.value h)) :
    (rec h x cs).2.1.value (rec h x cs).1
      = (rec (LinSys.copy h cs).1 x (LinSys.copy h cs).2).2.1.value
          ((rec (LinSys.copy h cs).1 x (LinSys.copy h cs).2).2.2.1.destroy
            (rec (LinSys.copy h cs).1 x (LinSys.copy h cs).2).1)
    ∧ (rec h x cs).2.2.2 = (rec (LinSys.copy h cs).1 x (LinSys.copy h cs).2).2.2.2 := by
  have r3 := (href h cs frame hO).2
  have hO1 : Owns h (cs.owned ++ (x.owned ++ frame)) := Owns.perm (by owns_perm_tac) hO
  obtain ⟨c1, c2, c3⟩ := LinSys.copy_refines h cs _ hO1
  generalize LinSys.copy h cs = c at c1 c2 c3 ⊢
  have hO2 : Owns c.1 (x.owned ++ c.2.owned ++ (cs.owned ++ frame)) := Owns.perm (by owns_perm_tac) c1
  obtain ⟨q1, q3⟩ := href c.1 c.2 _ hO2
  generalize rec c.1 x c.2 = r at q1 q3 ⊢
  have hxv : x.value c.1 = x.value h := Poly.value_frame x c3 (fun a ha => by simp [ha])
  rw [hxv, c2, hcopy, ← r3] at q3
  have hO3 : Owns r.1 (r.2.2.1.owned ++ (r.2.1.owned ++ (cs.owned ++ frame))) := Owns.perm (by owns_perm_tac) q1
  have D := (LinSys.destroy_refines r.1 r.2.2.1 _ hO3).2
  rw [Poly.value_frame r.2.1 D (fun a ha => by simp [ha])]
  exact ⟨(congrArg Prod.fst q3).symm, (congrArg Prod.snd q3).symm⟩

theorem recycled_constraints_eq_copy (h : Heap) (x : Poly) (cs : LinSys) (frame : List Nat)
    (hO : Owns h (x.owned ++ cs.owned ++ frame)) :
    (x.addRecycledConstraints h cs).2.1.value (x.addRecycledConstraints h cs).1
      = (x.addConstraints h cs).2.1.value (x.addConstraints h cs).1
    ∧ (x.addRecycledConstraints h cs).2.2.2 = (x.addConstraints h cs).2.2 := by
  simp only [Poly.addConstraints]
  exact recycle_eq_copy (fun h x cs => x.addRecycledConstraints h cs) addRecycledConstraintsV x
    (fun h cs frame hO => have A := addRecycledConstraints_refines h x cs frame hO; ⟨A.1, A.2.2.1⟩)
    h cs frame hO (addRecycledConstraintsV_copyV _ _)

/-! ### `add_recycled_generators` -/

/-- `ph.add_recycled_generators(gs)` vs `ph.add_generators(gs)`.

The unrestricted statement (no hypothesis `hfp`) is FALSE for an ill-formed
argument with `index_first_pending > num_rows()` that is swapped into a marked-empty receiver
(exit `wasEmptySwapped`): the recycled call installs the argument's own `index_first_pending`, the copy
constructor has normalised it to `num_rows()`.  Concretely: `x` marked empty, NC, space dimension 1, no
rows; `gs` = the single point `[1, 0]`, `firstPending = 5`: the recycled call leaves
`genSys.firstPending = 5`, the copying call `genSys.firstPending = 1`.
The statement holds as soon as `gs.firstPending ≤ gs.numRows` (part of `Linear_System::OK()`), or on
every other exit. -/
theorem recycled_generators_eq_copy_partial (h : Heap) (x : Poly) (gs : LinSys) (frame : List Nat)
    (hO : Owns h (x.owned ++ gs.owned ++ frame))
    (hfp : gs.firstPending ≤ gs.numRows ∨ (x.addRecycledGenerators h gs).2.2.2 ≠ .wasEmptySwapped) :
    (x.addRecycledGenerators h gs).2.1.value (x.addRecycledGenerators h gs).1
      = (x.addGenerators h gs).2.1.value (x.addGenerators h gs).1
    ∧ (x.addRecycledGenerators h gs).2.2.2 = (x.addGenerators h gs).2.2 := by
  have r3 := (addRecycledGenerators_refines h x gs frame hO).2.2
  simp only [Poly.addGenerators]
  refine recycle_eq_copy (fun h x gs => x.addRecycledGenerators h gs) addRecycledGeneratorsV x
    (fun h gs frame hO => have A := addRecycledGenerators_refines h x gs frame hO; ⟨A.1, A.2.2⟩)
    h gs frame hO (addRecycledGeneratorsV_copyV _ _ ?_)
  rcases hfp with hfp | hfp
  · left; rw [value_rows_length]; exact hfp
  · right; rw [← r3]; exact hfp

/-! ### the unrestricted `recycled_generators_eq_copy` is false -/

/-- the counterexample to the unrestricted `recycled_generators_eq_copy` -/
def cexHeap : Heap := (Heap.empty.alloc [1, 0]).1
def cexPoly : Poly := ⟨LinSys.mk0 false, LinSys.mk0 false, BitMatrix.empty, BitMatrix.empty, EMPTY, 1⟩
def cexGs : LinSys := ⟨⟨[⟨0, 1, false⟩], 1⟩, 1, false, 5, true⟩

theorem cex_owns : Owns cexHeap (cexPoly.owned ++ cexGs.owned ++ []) :=
  OwnsKit.owns_alloc owns_empty [1, 0]

theorem recycled_generators_eq_copy_counterexample :
    ∃ (h : Heap) (x : Poly) (gs : LinSys) (frame : List Nat), Owns h (x.owned ++ gs.owned ++ frame) ∧
      ¬ ((x.addRecycledGenerators h gs).2.1.value (x.addRecycledGenerators h gs).1
          = (x.addGenerators h gs).2.1.value (x.addGenerators h gs).1
        ∧ (x.addRecycledGenerators h gs).2.2.2 = (x.addGenerators h gs).2.2) := by
  refine ⟨cexHeap, cexPoly, cexGs, [], cex_owns, fun hh => ?_⟩
  have h1 := congrArg (fun v => v.genSys.firstPending) hh.1
  have e1 : ((cexPoly.addRecycledGenerators cexHeap cexGs).2.1.value
      (cexPoly.addRecycledGenerators cexHeap cexGs).1).genSys.firstPending = 5 := by decide
  have e2 : ((cexPoly.addGenerators cexHeap cexGs).2.1.value
      (cexPoly.addGenerators cexHeap cexGs).1).genSys.firstPending = 1 := by decide
  simp only [e1, e2] at h1
  omega

end C13Proofs

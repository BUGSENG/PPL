import PPLV.Value.MoveProofsCopy
/-!
# C13 moving mechanics — `merge_rows_assign`
-/
namespace PPLV.Value.Move
open OwnsKit
namespace CopyKit

/-- the rows `y[…]` reads: the argument's, or the receiver's own current rows -/
def yrowsOf (ys : Option (List Row)) (xs : List Row) : List Row := match ys with | some l => l | none => xs

/-- the comparison made by the loop -/
def compOf (K : RowClass) (h : Heap) (xr yr : Row) : Int :=
  match xr.value h, yr.value h with
  | some u, some v => K.cmp u v
  | _, _ => 0

theorem mergeLoop_zero (K : RowClass) (sd : Nat) (ys : Option (List Row)) (xi yi : Nat) (h : Heap) (xs : List Row) (tmp : SVec) :
    mergeLoop K sd ys 0 xi yi h xs tmp = (h, xs, tmp) := rfl

theorem mergeLoop_steal (K : RowClass) (sd : Nat) (ys : Option (List Row)) (fuel xi yi : Nat) (h : Heap) (xs : List Row)
    (tmp : SVec) (xr yr : Row) (hx : xs[xi]? = some xr) (hy : (yrowsOf ys xs)[yi]? = some yr)
    (hc : compOf K h xr yr ≤ 0) :
    mergeLoop K sd ys (fuel + 1) xi yi h xs tmp
      = mergeLoop K sd ys fuel (xi + 1) (if compOf K h xr yr = 0 then yi + 1 else yi) (pushSwap K h tmp xr).1
          (xs.set xi (pushSwap K h tmp xr).2.2) (pushSwap K h tmp xr).2.1 := by
  have hxl : xi < xs.length := (List.getElem?_eq_some_iff.mp hx).1
  have hyl := (List.getElem?_eq_some_iff.mp hy).1
  cases ys <;>
  · simp only [yrowsOf] at hy hyl
    rw [mergeLoop]
    simp only [hxl, hyl, and_self, if_true, hx, hy]
    change (if compOf K h xr yr ≤ 0 then _ else _) = _
    rw [if_pos hc]
    rfl

theorem mergeLoop_copy (K : RowClass) (sd : Nat) (ys : Option (List Row)) (fuel xi yi : Nat) (h : Heap) (xs : List Row)
    (tmp : SVec) (xr yr : Row) (hx : xs[xi]? = some xr) (hy : (yrowsOf ys xs)[yi]? = some yr)
    (hc : ¬ compOf K h xr yr ≤ 0) :
    mergeLoop K sd ys (fuel + 1) xi yi h xs tmp
      = mergeLoop K sd ys fuel xi (yi + 1)
          (Row.destroy (pushSwap K (Row.copyDim h yr sd).1 tmp (Row.copyDim h yr sd).2).1
            (pushSwap K (Row.copyDim h yr sd).1 tmp (Row.copyDim h yr sd).2).2.2)
          xs (pushSwap K (Row.copyDim h yr sd).1 tmp (Row.copyDim h yr sd).2).2.1 := by
  have hxl : xi < xs.length := (List.getElem?_eq_some_iff.mp hx).1
  have hyl := (List.getElem?_eq_some_iff.mp hy).1
  cases ys <;>
  · simp only [yrowsOf] at hy hyl
    rw [mergeLoop]
    simp only [hxl, hyl, and_self, if_true, hx, hy]
    change (if compOf K h xr yr ≤ 0 then _ else _) = _
    rw [if_neg hc]

theorem mergeLoop_steal_tail (K : RowClass) (sd : Nat) (ys : Option (List Row)) (fuel xi yi : Nat) (h : Heap) (xs : List Row)
    (tmp : SVec) (xr : Row) (hx : xs[xi]? = some xr) (hy : ¬ yi < (yrowsOf ys xs).length) :
    mergeLoop K sd ys (fuel + 1) xi yi h xs tmp
      = mergeLoop K sd ys fuel (xi + 1) yi (pushSwap K h tmp xr).1
          (xs.set xi (pushSwap K h tmp xr).2.2) (pushSwap K h tmp xr).2.1 := by
  have hxl : xi < xs.length := (List.getElem?_eq_some_iff.mp hx).1
  cases ys <;>
  · simp only [yrowsOf] at hy
    rw [mergeLoop]
    simp only [hxl, hy, and_false, if_false, if_true, hx]

theorem mergeLoop_copy_tail (K : RowClass) (sd : Nat) (ys : Option (List Row)) (fuel xi yi : Nat) (h : Heap) (xs : List Row)
    (tmp : SVec) (yr : Row) (hx : ¬ xi < xs.length) (hy : (yrowsOf ys xs)[yi]? = some yr) :
    mergeLoop K sd ys (fuel + 1) xi yi h xs tmp
      = mergeLoop K sd ys fuel xi (yi + 1)
          (Row.destroy (pushSwap K (Row.copyDim h yr sd).1 tmp (Row.copyDim h yr sd).2).1
            (pushSwap K (Row.copyDim h yr sd).1 tmp (Row.copyDim h yr sd).2).2.2)
          xs (pushSwap K (Row.copyDim h yr sd).1 tmp (Row.copyDim h yr sd).2).2.1 := by
  have hyl := (List.getElem?_eq_some_iff.mp hy).1
  cases ys <;>
  · simp only [yrowsOf] at hy hyl
    rw [mergeLoop]
    simp only [hx, hyl, false_and, if_false, if_true, hy]

theorem mergeLoop_done (K : RowClass) (sd : Nat) (ys : Option (List Row)) (fuel xi yi : Nat) (h : Heap) (xs : List Row)
    (tmp : SVec) (hx : ¬ xi < xs.length) (hy : ¬ yi < (yrowsOf ys xs).length) :
    mergeLoop K sd ys (fuel + 1) xi yi h xs tmp = (h, xs, tmp) := by
  cases ys <;>
  · simp only [yrowsOf] at hy
    rw [mergeLoop]
    simp only [hx, hy, and_self, if_false]

/-! ### the two transitions of the loop -/

/-- `tmp.resize(tmp.size() + 1); swap(tmp.back(), r);` -/
theorem pushSwap_spec (K : RowClass) (h : Heap) (tmp : SVec) (r : Row) (frame : List Nat)
    (hO : Owns h (owned tmp.impl ++ r.impl :: frame)) :
    (pushSwap K h tmp r).2.1.impl = tmp.impl ++ [r]
    ∧ Owns (pushSwap K h tmp r).1 (owned (tmp.impl ++ [r]) ++ (pushSwap K h tmp r).2.2.impl :: frame)
    ∧ (∀ a ∈ owned tmp.impl ++ r.impl :: frame, (pushSwap K h tmp r).1.cells a = h.cells a) := by
  obtain ⟨d, hd, _, hO', hf⟩ := pushStep_spec K h tmp r frame hO
  have e : pushSwap K h tmp r = ((tmp.resize K h (tmp.size + 1)).1,
      ⟨(swapBack (tmp.resize K h (tmp.size + 1)).2.impl r).1, (tmp.resize K h (tmp.size + 1)).2.cap⟩,
      (swapBack (tmp.resize K h (tmp.size + 1)).2.impl r).2) := by simp only [pushSwap]
  rw [e, hd, swapBack_concat]
  exact ⟨rfl, hO', hf⟩

/-- stealing `xs[xi]` into `tmp` -/
theorem steal_trans (K : RowClass) (h : Heap) (xs : List Row) (tmp : SVec) (F : List Nat) (xi : Nat) (xr : Row)
    (hx : xs[xi]? = some xr) (hO : Owns h (owned xs ++ owned tmp.impl ++ F)) :
    (pushSwap K h tmp xr).2.1.impl = tmp.impl ++ [xr]
    ∧ Owns (pushSwap K h tmp xr).1
        (owned (xs.set xi (pushSwap K h tmp xr).2.2) ++ owned (pushSwap K h tmp xr).2.1.impl ++ F)
    ∧ (∀ a ∈ owned xs ++ owned tmp.impl ++ F, (pushSwap K h tmp xr).1.cells a = h.cells a) := by
  have hxo : (owned xs)[xi]? = some xr.impl := by simp [owned, hx]
  have hmem : xr.impl ∈ owned xs := mem_owned_of_getElem? hx
  have p1 : (owned xs).Perm (xr.impl :: (owned xs).erase xr.impl) := List.perm_cons_erase hmem
  obtain ⟨s1, s2, s3⟩ := pushSwap_spec K h tmp xr ((owned xs).erase xr.impl ++ F)
    (owns_perm hO (by
      refine ((p1.append_right (owned tmp.impl)).append_right F).trans ?_
      owns_perm_tac))
  refine ⟨s1, ?_, ?_⟩
  · generalize pushSwap K h tmp xr = P at s1 s2 s3
    rw [s1]
    refine owns_perm s2 ?_
    rw [owned_set]
    have p2 := perm_set (owned xs) xi xr.impl P.2.2.impl hxo
    -- `set ~ d :: erase`
    have p3 : ((owned xs).set xi P.2.2.impl).Perm (P.2.2.impl :: (owned xs).erase xr.impl) := by
      have : (xr.impl :: (owned xs).set xi P.2.2.impl).Perm (xr.impl :: P.2.2.impl :: (owned xs).erase xr.impl) :=
        p2.symm.trans (((p1.cons P.2.2.impl)).trans (List.Perm.swap _ _ _))
      exact this.cons_inv
    refine List.Perm.trans ?_ ((p3.append_right (owned (tmp.impl ++ [xr]))).append_right F).symm
    owns_perm_tac
  · intro a ha
    apply s3
    have := ((p1.append_right (owned tmp.impl)).append_right F).mem_iff.mp ha
    simp only [List.mem_append, List.mem_cons] at this ⊢
    grind

/-- copying `yr` (resized) into `tmp`; the default row that comes back is destroyed -/
theorem copy_trans (K : RowClass) (sd : Nat) (h : Heap) (xs : List Row) (tmp : SVec) (F : List Nat) (yr : Row)
    (hy : yr.impl ∈ owned xs ++ owned tmp.impl ++ F) (hO : Owns h (owned xs ++ owned tmp.impl ++ F)) :
    Owns (Row.destroy (pushSwap K (Row.copyDim h yr sd).1 tmp (Row.copyDim h yr sd).2).1
            (pushSwap K (Row.copyDim h yr sd).1 tmp (Row.copyDim h yr sd).2).2.2)
        (owned xs ++ owned (pushSwap K (Row.copyDim h yr sd).1 tmp (Row.copyDim h yr sd).2).2.1.impl ++ F)
    ∧ (∀ a ∈ owned xs ++ owned tmp.impl ++ F,
        (Row.destroy (pushSwap K (Row.copyDim h yr sd).1 tmp (Row.copyDim h yr sd).2).1
            (pushSwap K (Row.copyDim h yr sd).1 tmp (Row.copyDim h yr sd).2).2.2).cells a = h.cells a) := by
  obtain ⟨c1, _, c3, _, _⟩ := rowCopy_spec hO hy
  have e : Row.copyDim h yr sd = ((Row.copy h yr).2.setSpaceDimNoOk (Row.copy h yr).1 sd, (Row.copy h yr).2) := rfl
  rw [e]
  generalize Row.copy h yr = C at c1 c3
  obtain ⟨m1, m2, _⟩ := owns_modify c1 List.mem_cons_self (setSpaceDimCoeffs C.2.nnc sd)
  have hcn : C.2.impl ∉ owned xs ++ owned tmp.impl ++ F := (List.nodup_cons.mp (owns_nodup c1)).1
  dsimp only [Row.setSpaceDimNoOk]
  generalize C.1.modify C.2.impl (setSpaceDimCoeffs C.2.nnc sd) = H at m1 m2
  obtain ⟨s1, s2, s3⟩ := pushSwap_spec K H tmp C.2 (owned xs ++ F) (owns_perm m1 (by owns_perm_tac))
  generalize pushSwap K H tmp C.2 = P at s1 s2 s3
  have hO2 : Owns P.1 (P.2.2.impl :: (owned xs ++ owned P.2.1.impl ++ F)) := by
    rw [s1]; exact owns_perm s2 (by owns_perm_tac)
  obtain ⟨f1, f2⟩ := owns_free hO2
  refine ⟨f1, ?_⟩
  intro a ha
  have hne : a ≠ C.2.impl := fun e => hcn (e ▸ ha)
  have ha2 : a ∈ owned xs ++ owned P.2.1.impl ++ F := by
    rw [s1, owned_append]; simp only [List.mem_append] at ha ⊢; grind
  have ha3 : a ∈ owned tmp.impl ++ C.2.impl :: (owned xs ++ F) := by
    simp only [List.mem_append, List.mem_cons] at ha ⊢; grind
  show (P.1.free P.2.2.impl).cells a = h.cells a
  rw [f2 a ha2, s3 a ha3, m2 a hne, c3 a ha]

/-! ### ownership of the loop for another system (any fuel, any comparison results) -/

theorem mergeLoop_other_owns (K : RowClass) (sd : Nat) (l : List Row) (F : List Nat) (hl : ∀ r ∈ l, r.impl ∈ F) :
    ∀ (fuel xi yi : Nat) (h : Heap) (xs : List Row) (tmp : SVec), Owns h (owned xs ++ owned tmp.impl ++ F) →
    Owns (mergeLoop K sd (some l) fuel xi yi h xs tmp).1
      (owned (mergeLoop K sd (some l) fuel xi yi h xs tmp).2.1
        ++ owned (mergeLoop K sd (some l) fuel xi yi h xs tmp).2.2.impl ++ F)
    ∧ (∀ a ∈ F, (mergeLoop K sd (some l) fuel xi yi h xs tmp).1.cells a = h.cells a) := by
  intro fuel
  induction fuel with
  | zero => intro xi yi h xs tmp hO; rw [mergeLoop_zero]; exact ⟨hO, fun _ _ => rfl⟩
  | succ fuel ih =>
    intro xi yi h xs tmp hO
    have steal : ∀ (xr : Row) (yi' : Nat), xs[xi]? = some xr →
        Owns (mergeLoop K sd (some l) fuel (xi + 1) yi' (pushSwap K h tmp xr).1
            (xs.set xi (pushSwap K h tmp xr).2.2) (pushSwap K h tmp xr).2.1).1
          (owned (mergeLoop K sd (some l) fuel (xi + 1) yi' (pushSwap K h tmp xr).1
            (xs.set xi (pushSwap K h tmp xr).2.2) (pushSwap K h tmp xr).2.1).2.1
            ++ owned (mergeLoop K sd (some l) fuel (xi + 1) yi' (pushSwap K h tmp xr).1
            (xs.set xi (pushSwap K h tmp xr).2.2) (pushSwap K h tmp xr).2.1).2.2.impl ++ F)
        ∧ (∀ a ∈ F, (mergeLoop K sd (some l) fuel (xi + 1) yi' (pushSwap K h tmp xr).1
            (xs.set xi (pushSwap K h tmp xr).2.2) (pushSwap K h tmp xr).2.1).1.cells a = h.cells a) := by
      intro xr yi' hx
      obtain ⟨_, t2, t3⟩ := steal_trans K h xs tmp F xi xr hx hO
      obtain ⟨i1, i2⟩ := ih (xi + 1) yi' _ _ _ t2
      exact ⟨i1, fun a ha => by rw [i2 a ha, t3 a (List.mem_append_right _ ha)]⟩
    have copy : ∀ (yr : Row), l[yi]? = some yr →
        Owns (mergeLoop K sd (some l) fuel xi (yi + 1)
          (Row.destroy (pushSwap K (Row.copyDim h yr sd).1 tmp (Row.copyDim h yr sd).2).1
            (pushSwap K (Row.copyDim h yr sd).1 tmp (Row.copyDim h yr sd).2).2.2)
          xs (pushSwap K (Row.copyDim h yr sd).1 tmp (Row.copyDim h yr sd).2).2.1).1
          (owned (mergeLoop K sd (some l) fuel xi (yi + 1)
          (Row.destroy (pushSwap K (Row.copyDim h yr sd).1 tmp (Row.copyDim h yr sd).2).1
            (pushSwap K (Row.copyDim h yr sd).1 tmp (Row.copyDim h yr sd).2).2.2)
          xs (pushSwap K (Row.copyDim h yr sd).1 tmp (Row.copyDim h yr sd).2).2.1).2.1
            ++ owned (mergeLoop K sd (some l) fuel xi (yi + 1)
          (Row.destroy (pushSwap K (Row.copyDim h yr sd).1 tmp (Row.copyDim h yr sd).2).1
            (pushSwap K (Row.copyDim h yr sd).1 tmp (Row.copyDim h yr sd).2).2.2)
          xs (pushSwap K (Row.copyDim h yr sd).1 tmp (Row.copyDim h yr sd).2).2.1).2.2.impl ++ F)
        ∧ (∀ a ∈ F, (mergeLoop K sd (some l) fuel xi (yi + 1)
          (Row.destroy (pushSwap K (Row.copyDim h yr sd).1 tmp (Row.copyDim h yr sd).2).1
            (pushSwap K (Row.copyDim h yr sd).1 tmp (Row.copyDim h yr sd).2).2.2)
          xs (pushSwap K (Row.copyDim h yr sd).1 tmp (Row.copyDim h yr sd).2).2.1).1.cells a = h.cells a) := by
      intro yr hy
      have hyF : yr.impl ∈ F := hl yr (List.mem_of_getElem? hy)
      obtain ⟨t2, t3⟩ := copy_trans K sd h xs tmp F yr (List.mem_append_right _ hyF) hO
      obtain ⟨i1, i2⟩ := ih xi (yi + 1) _ _ _ t2
      exact ⟨i1, fun a ha => by rw [i2 a ha, t3 a (List.mem_append_right _ ha)]⟩
    by_cases hx : xi < xs.length
    · have hx' : xs[xi]? = some xs[xi] := List.getElem?_eq_getElem hx
      by_cases hy : yi < l.length
      · have hy' : (yrowsOf (some l) xs)[yi]? = some l[yi] := List.getElem?_eq_getElem hy
        by_cases hc : compOf K h xs[xi] l[yi] ≤ 0
        · rw [mergeLoop_steal K sd (some l) fuel xi yi h xs tmp _ _ hx' hy' hc]
          exact steal _ _ hx'
        · rw [mergeLoop_copy K sd (some l) fuel xi yi h xs tmp _ _ hx' hy' hc]
          exact copy _ hy'
      · rw [mergeLoop_steal_tail K sd (some l) fuel xi yi h xs tmp _ hx' hy]
        exact steal _ _ hx'
    · by_cases hy : yi < l.length
      · have hy' : (yrowsOf (some l) xs)[yi]? = some l[yi] := List.getElem?_eq_getElem hy
        rw [mergeLoop_copy_tail K sd (some l) fuel xi yi h xs tmp _ hx hy']
        exact copy _ hy'
      · rw [mergeLoop_done K sd (some l) fuel xi yi h xs tmp hx hy]
        exact ⟨hO, fun _ _ => rfl⟩


/-! ### the loop in lock step: `y`'s rows have the same values as the receiver's -/

theorem compOf_owned (K : RowClass) {h : Heap} {as : List Nat} (hO : Owns h as) {xr yr : Row}
    (hx : xr.impl ∈ as) (hy : yr.impl ∈ as) : compOf K h xr yr = K.cmp (xr.val h) (yr.val h) := by
  unfold compOf
  rw [owns_row_value hO hx, owns_row_value hO hy]

theorem mergeLoop_lockstep (K : RowClass) (hK : ∀ v, K.cmp v v = 0) (sd : Nat) (ys : Option (List Row)) (F : List Nat)
    (n : Nat) (hys : ∀ l, ys = some l → l.length = n ∧ ∀ r ∈ l, r.impl ∈ F) :
    ∀ (fuel xi : Nat) (h : Heap) (xs : List Row) (tmp : SVec), n - xi ≤ fuel → xs.length = n →
    Owns h (owned xs ++ owned tmp.impl ++ F) →
    (∀ i yr xr, xi ≤ i → (yrowsOf ys xs)[i]? = some yr → xs[i]? = some xr → yr.val h = xr.val h) →
    Owns (mergeLoop K sd ys fuel xi xi h xs tmp).1
      (owned (mergeLoop K sd ys fuel xi xi h xs tmp).2.1 ++ owned (mergeLoop K sd ys fuel xi xi h xs tmp).2.2.impl ++ F)
    ∧ (∀ a ∈ F, (mergeLoop K sd ys fuel xi xi h xs tmp).1.cells a = h.cells a)
    ∧ rowValues (mergeLoop K sd ys fuel xi xi h xs tmp).1 (mergeLoop K sd ys fuel xi xi h xs tmp).2.2.impl
        = rowValues h tmp.impl ++ rowValues h (xs.drop xi) := by
  intro fuel
  induction fuel with
  | zero =>
    intro xi h xs tmp hf hn hO _
    rw [mergeLoop_zero]
    refine ⟨hO, fun _ _ => rfl, ?_⟩
    rw [List.drop_eq_nil_of_le (by omega)]
    simp [rowValues]
  | succ fuel ih =>
    intro xi h xs tmp hf hn hO hv
    have hyl : (yrowsOf ys xs).length = xs.length := by
      cases ys with
      | none => rfl
      | some l => simp only [yrowsOf]; rw [(hys l rfl).1, hn]
    by_cases hx : xi < xs.length
    · have hx' : xs[xi]? = some xs[xi] := List.getElem?_eq_getElem hx
      have hy' : (yrowsOf ys xs)[xi]? = some (yrowsOf ys xs)[xi] := List.getElem?_eq_getElem (by omega)
      have hdrop : xs.drop xi = xs[xi] :: xs.drop (xi + 1) := List.drop_eq_getElem_cons hx
      generalize xs[xi] = xr at hx' hdrop
      generalize (yrowsOf ys xs)[xi] = yr at hy'
      have hxo : xr.impl ∈ owned xs ++ owned tmp.impl ++ F :=
        List.mem_append_left _ (List.mem_append_left _ (mem_owned_of_getElem? hx'))
      have hyo : yr.impl ∈ owned xs ++ owned tmp.impl ++ F := by
        cases ys with
        | none => exact List.mem_append_left _ (List.mem_append_left _ (mem_owned_of_getElem? hy'))
        | some l => exact List.mem_append_right _ ((hys l rfl).2 yr (List.mem_of_getElem? hy'))
      have hc0 : compOf K h xr yr = 0 := by
        rw [compOf_owned K hO hxo hyo, hv xi yr xr (Nat.le_refl _) hy' hx', hK]
      rw [mergeLoop_steal K sd ys fuel xi xi h xs tmp xr yr hx' hy' (by omega)]
      simp only [hc0, if_true]
      obtain ⟨t1, t2, t3⟩ := steal_trans K h xs tmp F xi xr hx' hO
      generalize pushSwap K h tmp xr = P at t1 t2 t3
      have hv' : ∀ i yr' xr', xi + 1 ≤ i → (yrowsOf ys (xs.set xi P.2.2))[i]? = some yr' →
          (xs.set xi P.2.2)[i]? = some xr' → yr'.val P.1 = xr'.val P.1 := by
        intro i yr' xr' hi hyr hxr
        cases ys with
        | none =>
          simp only [yrowsOf] at hyr
          rw [hyr] at hxr
          rw [Option.some.inj hxr]
        | some l =>
          simp only [yrowsOf] at hyr
          have hxr0 : xs[i]? = some xr' := by
            rw [List.getElem?_set] at hxr
            have : ¬ xi = i := by omega
            simpa [this] using hxr
          have e1 : yr'.val P.1 = yr'.val h :=
            row_val_congr (t3 _ (List.mem_append_right _ ((hys l rfl).2 yr' (List.mem_of_getElem? hyr))))
          have e2 : xr'.val P.1 = xr'.val h :=
            row_val_congr (t3 _ (List.mem_append_left _ (List.mem_append_left _ (mem_owned_of_getElem? hxr0))))
          rw [e1, e2]
          exact hv i yr' xr' (by omega) hyr hxr0
      obtain ⟨i1, i2, i3⟩ := ih (xi + 1) P.1 (xs.set xi P.2.2) P.2.1 (by omega) (by simp [hn]) t2 hv'
      refine ⟨i1, fun a ha => by rw [i2 a ha, t3 a (List.mem_append_right _ ha)], ?_⟩
      rw [i3, t1, List.drop_set_of_lt (by omega), hdrop]
      have c1 : rowValues P.1 (tmp.impl ++ [xr]) = rowValues h (tmp.impl ++ [xr]) := by
        apply rowValues_congr
        intro a ha
        apply t3
        rw [owned_append] at ha
        simp only [List.mem_append, owned_cons, owned_nil, List.mem_cons, List.not_mem_nil, or_false] at ha ⊢
        rcases ha with ha | ha
        · exact Or.inl (Or.inr ha)
        · subst ha
          exact Or.inl (Or.inl (mem_owned_of_getElem? hx'))
      have c2 : rowValues P.1 (xs.drop (xi + 1)) = rowValues h (xs.drop (xi + 1)) := by
        apply rowValues_congr
        intro a ha
        apply t3
        obtain ⟨r, hr, rfl⟩ := List.mem_map.mp ha
        exact List.mem_append_left _ (List.mem_append_left _ (mem_owned (List.mem_of_mem_drop hr)))
      rw [c1, c2]
      simp [rowValues]
    · have hy : ¬ xi < (yrowsOf ys xs).length := by omega
      rw [mergeLoop_done K sd ys fuel xi xi h xs tmp hx hy]
      refine ⟨hO, fun _ _ => rfl, ?_⟩
      rw [List.drop_eq_nil_of_le (by omega)]
      simp [rowValues]

theorem merge_lock_core (K : RowClass) (hK : ∀ v, K.cmp v v = 0) (sd : Nat) (ys : Option (List Row)) (F : List Nat)
    (xs0 : List Row) (hys : ∀ l, ys = some l → l.length = xs0.length ∧ ∀ r ∈ l, r.impl ∈ F)
    (fuel : Nat) (hfuel : xs0.length ≤ fuel) (h0 : Heap) (tmp0 : SVec) (htmp : tmp0.impl = [])
    (hO : Owns h0 (owned xs0 ++ F))
    (hv : ∀ (i : Nat) (yr xr : Row), (yrowsOf ys xs0)[i]? = some yr → xs0[i]? = some xr → yr.val h0 = xr.val h0) :
    Owns (destroyRows (mergeLoop K sd ys fuel 0 0 h0 xs0 tmp0).1 (mergeLoop K sd ys fuel 0 0 h0 xs0 tmp0).2.1)
      (owned (mergeLoop K sd ys fuel 0 0 h0 xs0 tmp0).2.2.impl ++ F)
    ∧ (∀ a ∈ F, (destroyRows (mergeLoop K sd ys fuel 0 0 h0 xs0 tmp0).1
        (mergeLoop K sd ys fuel 0 0 h0 xs0 tmp0).2.1).cells a = h0.cells a)
    ∧ rowValues (destroyRows (mergeLoop K sd ys fuel 0 0 h0 xs0 tmp0).1 (mergeLoop K sd ys fuel 0 0 h0 xs0 tmp0).2.1)
        (mergeLoop K sd ys fuel 0 0 h0 xs0 tmp0).2.2.impl = rowValues h0 xs0 := by
  obtain ⟨m1, m2, m3⟩ := mergeLoop_lockstep K hK sd ys F xs0.length hys fuel 0 h0 xs0 tmp0 (by omega) rfl
    (by rw [htmp]; simpa [owned] using hO) (fun i yr xr _ => hv i yr xr)
  generalize mergeLoop K sd ys fuel 0 0 h0 xs0 tmp0 = M at m1 m2 m3
  obtain ⟨d1, d2⟩ := destroyRows_refines M.1 M.2.1 (owned M.2.2.impl ++ F) (by simpa [List.append_assoc] using m1)
  refine ⟨d1, fun a ha => by rw [d2 a (List.mem_append_right _ ha), m2 a ha], ?_⟩
  rw [rowValues_congr (fun a ha => d2 a (List.mem_append_left _ ha)), m3, htmp]
  simp [rowValues]

/-- the rows the loop is given for `y`: `none` stands for the receiver's own rows -/
def argRows (y : Arg LinSys) : Option (List Row) := match y with | .self => none | .other s => some s.rows.impl

theorem yrowsOf_argRows (x : LinSys) (y : Arg LinSys) : yrowsOf (argRows y) x.rows.impl = (y.get x).rows.impl := by
  cases y <;> rfl

theorem mergeRowsAssign_eq (K : RowClass) (h : Heap) (x : LinSys) (y : Arg LinSys) :
    x.mergeRowsAssign K h y =
      let n := x.numRows + (y.get x).numRows
      let R := SVec.nil.reserve K h (computeCapacity n maxNumRows)
      let M := mergeLoop K x.spaceDim (argRows y) (n + 1) 0 0 R.1 x.rows.impl R.2
      (destroyRows M.1 M.2.1, LinSys.unsetPendingRows { x with rows := M.2.2 }) := by
  cases y <;> (unfold LinSys.mergeRowsAssign; dsimp only [Arg.get, argRows])

end CopyKit
open CopyKit

/-- ownership / frame of `merge_rows_assign` for another system -/
theorem LinSys.mergeRowsAssign_other_owns (K : RowClass) (h : Heap) (x y : LinSys) (frame : List Nat)
    (hO : Owns h (x.owned ++ y.owned ++ frame)) :
    let out := x.mergeRowsAssign K h (.other y)
    Owns out.1 (out.2.owned ++ y.owned ++ frame) ∧ FrameEq h out.1 (y.owned ++ frame) := by
  intro out
  obtain ⟨r1, r2, r3⟩ := reserve_refines K h SVec.nil (computeCapacity (x.numRows + y.numRows) maxNumRows)
    (x.owned ++ y.owned ++ frame) (by simpa [SVec.nil, Move.owned] using hO)
  have eo : out = _ := mergeRowsAssign_eq K h x (.other y)
  rw [eo]; dsimp only [Arg.get, argRows]
  generalize SVec.nil.reserve K h (computeCapacity (x.numRows + y.numRows) maxNumRows) = R at r1 r2 r3 ⊢
  have r1' : R.2.impl = [] := r1
  have hO1 : Owns R.1 (Move.owned x.rows.impl ++ Move.owned R.2.impl ++ (y.owned ++ frame)) := by
    rw [r1']
    refine owns_perm r2 ?_
    simp only [SVec.nil, Move.owned, LinSys.owned, List.map_nil, List.nil_append, List.append_nil, List.append_assoc]
    exact List.Perm.refl _
  obtain ⟨m1, m2⟩ := mergeLoop_other_owns K x.spaceDim y.rows.impl (y.owned ++ frame)
    (fun r hr => List.mem_append_left _ (mem_owned hr)) (x.numRows + y.numRows + 1) 0 0 R.1 x.rows.impl R.2 hO1
  generalize mergeLoop K x.spaceDim (some y.rows.impl) (x.numRows + y.numRows + 1) 0 0 R.1 x.rows.impl R.2 = M at m1 m2
  obtain ⟨d1, d2⟩ := destroyRows_refines M.1 M.2.1 (Move.owned M.2.2.impl ++ (y.owned ++ frame))
    (by simpa [List.append_assoc] using m1)
  refine ⟨?_, ?_⟩
  · show Owns (destroyRows M.1 M.2.1) (Move.owned M.2.2.impl ++ y.owned ++ frame)
    simpa [List.append_assoc] using d1
  · intro a ha
    show (destroyRows M.1 M.2.1).cells a = h.cells a
    rw [d2 a (List.mem_append_right _ ha), m2 a ha]
    exact r3 a (by simp only [SVec.nil, Move.owned, List.map_nil, List.nil_append, List.mem_append] at ha ⊢; grind)
/-- `merge_rows_assign` with an argument whose rows have the values of the receiver's rows — the receiver
    itself, or a copy of it in whatever heap: every comparison is a tie, the receiver keeps its rows and only
    `index_first_pending` moves.  The argument's cells lie in the frame `F`. -/
theorem LinSys.mergeRowsAssign_lockstep (K : RowClass) (hK : ∀ v, K.cmp v v = 0) (h : Heap) (x : LinSys)
    (y : Arg LinSys) (F : List Nat) (hO : Owns h (x.owned ++ F))
    (hy : ∀ s, y = .other s → ∀ r ∈ s.rows.impl, r.impl ∈ F)
    (hv : rowValues h (y.get x).rows.impl = rowValues h x.rows.impl) :
    let out := x.mergeRowsAssign K h y
    Owns out.1 (out.2.owned ++ F) ∧ FrameEq h out.1 F
    ∧ out.2.value out.1 = { x.value h with firstPending := x.numRows } := by
  intro out
  have eo : out = _ := mergeRowsAssign_eq K h x y
  rw [eo]; dsimp only
  obtain ⟨r1, r2, r3⟩ := reserve_refines K h SVec.nil (computeCapacity (x.numRows + (y.get x).numRows) maxNumRows)
    (x.owned ++ F) (by simpa [SVec.nil, Move.owned] using hO)
  generalize SVec.nil.reserve K h (computeCapacity (x.numRows + (y.get x).numRows) maxNumRows) = R at r1 r2 r3 ⊢
  have r1' : R.2.impl = [] := r1
  have r3' : ∀ a ∈ x.owned ++ F, R.1.cells a = h.cells a := by
    intro a ha; exact r3 a (by simpa [SVec.nil, Move.owned] using ha)
  have hlen0 : (y.get x).rows.impl.length = x.rows.impl.length := by
    have := congrArg List.length hv
    simpa [rowValues] using this
  have hmem : ∀ r ∈ (y.get x).rows.impl, r.impl ∈ x.owned ++ F := by
    cases y with
    | self => exact fun r hr => List.mem_append_left _ (mem_owned hr)
    | other s => exact fun r hr => List.mem_append_right _ (hy s rfl r hr)
  obtain ⟨c1, c2, c3⟩ := merge_lock_core K hK x.spaceDim (argRows y) F x.rows.impl
    (by cases y with
        | self => intro l hl; cases hl
        | other s => intro l hl; cases hl; exact ⟨hlen0, hy s rfl⟩)
    (x.numRows + (y.get x).numRows + 1) (by simp only [LinSys.numRows, SVec.size]; omega) R.1 R.2 r1'
    (by simpa [SVec.nil, Move.owned, LinSys.owned] using r2)
    (fun i yr xr hyr hxr => by
      have hyr' : (y.get x).rows.impl[i]? = some yr := by rw [← yrowsOf_argRows]; exact hyr
      rw [row_val_congr (r3' _ (hmem yr (List.mem_of_getElem? hyr'))),
        row_val_congr (r3' _ (List.mem_append_left _ (mem_owned_of_getElem? hxr)))]
      have := congrArg (fun l => l[i]?) hv
      simp only [rowValues, List.getElem?_map, hyr', hxr, Option.map_some] at this
      exact Option.some.inj this)
  generalize mergeLoop K x.spaceDim _ (x.numRows + (y.get x).numRows + 1) 0 0 R.1 x.rows.impl R.2 = M at c1 c2 c3
  have hvals : rowValues (destroyRows M.1 M.2.1) M.2.2.impl = rowValues h x.rows.impl := by
    rw [c3]; exact rowValues_congr (fun a ha => r3' a (List.mem_append_left _ ha))
  refine ⟨c1, fun a ha => by rw [c2 a ha, r3' a (List.mem_append_right _ ha)], ?_⟩
  have hlen : M.2.2.impl.length = x.rows.impl.length := by
    have := congrArg List.length hvals
    simpa [rowValues] using this
  show LinSysV.mk (rowValues (destroyRows M.1 M.2.1) M.2.2.impl) x.spaceDim x.nnc M.2.2.impl.length x.sorted
    = LinSysV.mk (rowValues h x.rows.impl) x.spaceDim x.nnc x.rows.impl.length x.sorted
  rw [hvals, hlen]

/-- ownership / frame / value of `x.merge_rows_assign(x)` -/
theorem LinSys.mergeRowsAssign_self_owns (K : RowClass) (hK : ∀ v, K.cmp v v = 0) (h : Heap) (x : LinSys) (frame : List Nat)
    (hO : Owns h (x.owned ++ frame)) :
    let out := x.mergeRowsAssign K h .self
    Owns out.1 (out.2.owned ++ frame) ∧ FrameEq h out.1 frame
    ∧ out.2.value out.1 = { x.value h with firstPending := x.numRows } :=
  LinSys.mergeRowsAssign_lockstep K hK h x .self frame hO (fun _ hs => by cases hs) rfl

theorem LinSys.mergeRowsAssign_other_sameval (K : RowClass) (hK : ∀ v, K.cmp v v = 0) (h : Heap) (x y : LinSys)
    (frame : List Nat) (hO : Owns h (x.owned ++ y.owned ++ frame))
    (hv : rowValues h y.rows.impl = rowValues h x.rows.impl) :
    let out := x.mergeRowsAssign K h (.other y)
    out.2.value out.1 = { x.value h with firstPending := x.numRows } :=
  (LinSys.mergeRowsAssign_lockstep K hK h x (.other y) (y.owned ++ frame) (by rw [← List.append_assoc]; exact hO)
    (fun s hs r hr => by cases hs; exact List.mem_append_left _ (mem_owned hr)) hv).2.2

end PPLV.Value.Move

namespace C13Proofs
open PPLV.Value PPLV.Value.Move PPLV.Value.Move.CopyKit PPLV.Value.Move.OwnsKit

/-- merge path: `x.con_sys.merge_rows_assign(x.con_sys)` gives the same value as merging with a copy -/
theorem alias_invariance_merge (K : RowClass) (hK : ∀ v, K.cmp v v = 0) (h : Heap) (x : LinSys) (frame : List Nat)
    (hO : Owns h (x.owned ++ frame)) :
    let a := x.mergeRowsAssign K h .self
    let c := LinSys.copyWithPending h x
    let b := x.mergeRowsAssign K c.1 (.other c.2)
    a.2.value a.1 = b.2.value b.1 ∧ a.2.value a.1 = { x.value h with firstPending := x.numRows } := by
  intro a c b
  have ha : a.2.value a.1 = { x.value h with firstPending := x.numRows } :=
    (LinSys.mergeRowsAssign_self_owns K hK h x frame hO).2.2
  obtain ⟨c1, c2, c3⟩ := LinSys.copyWithPending_refines h x _ hO (fun _ ha => List.mem_append_left _ ha)
  have c1' : Owns c.1 (c.2.owned ++ x.owned ++ frame) := by rw [List.append_assoc]; exact c1
  have c2' : c.2.value c.1 = x.value h := c2
  have c3' : FrameEq h c.1 (x.owned ++ frame) := c3
  have hxv : x.value c.1 = x.value h :=
    LinSys.value_congr _ _ _ (frameEq_mono c3' (fun a ha => List.mem_append_left _ ha))
  have hv : rowValues c.1 c.2.rows.impl = rowValues c.1 x.rows.impl := by
    have e1 : rowValues c.1 c.2.rows.impl = (c.2.value c.1).rows := rfl
    have e2 : rowValues c.1 x.rows.impl = (x.value c.1).rows := rfl
    rw [e1, e2, c2', hxv]
  have hb : b.2.value b.1 = { x.value c.1 with firstPending := x.numRows } :=
    LinSys.mergeRowsAssign_other_sameval K hK c.1 x c.2 frame (owns_perm c1' (by owns_perm_tac)) hv
  rw [hxv] at hb
  exact ⟨ha.trans hb.symm, ha⟩

end C13Proofs

import PPLV.Value.MoveProofsVecThms

/-!
# C13 moving mechanics — `Swapping_Vector::erase(iterator)`, the loop with its `++i` (commit 0369f1e of /repo)

No Mathlib.
-/
namespace PPLV.Value.Move
open OwnsKit

namespace OwnsKit

/-- the loop carries the erased row `b` to the end, keeping the order of the others; any
    fuel `≥` the number of rows behind `b` gives the same result -/
theorem eraseOneLoop_spec (b : Row) : ∀ (tail P : List Row) (k : Nat), tail.length ≤ k →
    eraseOneLoop k (P.length + 1) (P ++ b :: tail) = P ++ tail ++ [b]
  | [], P, k, _ => by
    have hl : (P.length + 1 != (P ++ [b]).length) = false := by simp
    cases k with
    | zero => simp [eraseOneLoop]
    | succ k => unfold eraseOneLoop; rw [hl]; simp
  | x :: t, P, k, hk => by
    cases k with
    | zero => simp at hk
    | succ k =>
      have hl : (P.length + 1 != (P ++ b :: x :: t).length) = true := by simp
      unfold eraseOneLoop
      rw [hl, if_pos rfl]
      have hr := swapIn_rotate P [] t b x
      have e : swapIn (P.length + 1 - 1) (P.length + 1) (P ++ b :: x :: t) = (P ++ [x]) ++ b :: t := by
        simpa using hr
      rw [e]
      have := eraseOneLoop_spec b t (P ++ [x]) k (by simpa using hk)
      have hlen : (P ++ [x]).length = P.length + 1 := by simp
      rw [hlen] at this
      rw [this]
      simp

theorem eraseOne_unfold (h : Heap) (v : SVec) (i : Nat) :
    v.eraseOne h i
      = (destroyRows h ((eraseOneLoop (v.size - (i + 1)) (i + 1) v.impl).drop
            ((eraseOneLoop (v.size - (i + 1)) (i + 1) v.impl).length - 1)),
          ⟨(eraseOneLoop (v.size - (i + 1)) (i + 1) v.impl).take
            ((eraseOneLoop (v.size - (i + 1)) (i + 1) v.impl).length - 1), v.cap⟩, i) := rfl

end OwnsKit
end PPLV.Value.Move

namespace C13Proofs
open PPLV.Value PPLV.Value.Move PPLV.Value.Move.OwnsKit

/-- `erase(itr)`: order kept, exactly the erased row is freed, the returned position is
the erased one, every other cell keeps its owner; granting the loop more iterations changes nothing
(so `size - (old_i+1)` iterations reach the exit `i = size`). -/
theorem swapping_vector_erase_one (h : Heap) (v : SVec) (i : Nat) (frame : List Nat)
    (hO : Owns h (owned v.impl ++ frame)) (hi : i < v.size) :
    let out := v.eraseOne h i
    out.2.1.impl = v.impl.take i ++ v.impl.drop (i + 1)
    ∧ out.2.1.cap = v.cap
    ∧ out.2.2 = i
    ∧ Owns out.1 (owned (v.impl.take i ++ v.impl.drop (i + 1)) ++ frame)
    ∧ FrameEq h out.1 (owned (v.impl.take i ++ v.impl.drop (i + 1)) ++ frame)
    ∧ (∀ r, v.impl[i]? = some r → out.1.cells r.impl = none)
    ∧ (∀ extra, eraseOneLoop (v.size - (i + 1) + extra) (i + 1) v.impl
                  = eraseOneLoop (v.size - (i + 1)) (i + 1) v.impl) := by
  intro out
  have hil : i < v.impl.length := hi
  have hsz : v.size = v.impl.length := rfl
  have hsplit : v.impl = v.impl.take i ++ v.impl[i] :: v.impl.drop (i + 1) := by
    conv => lhs; rw [← List.take_append_drop i v.impl, List.drop_eq_getElem_cons hil]
  have hP : (v.impl.take i).length = i := by rw [List.length_take]; omega
  have hT : (v.impl.drop (i + 1)).length = v.size - (i + 1) := by rw [List.length_drop, hsz]
  have hloop : ∀ k, v.size - (i + 1) ≤ k →
      eraseOneLoop k (i + 1) v.impl = v.impl.take i ++ v.impl.drop (i + 1) ++ [v.impl[i]] := by
    intro k hk
    have := eraseOneLoop_spec v.impl[i] (v.impl.drop (i + 1)) (v.impl.take i) k (by rw [hT]; exact hk)
    rw [hP, ← hsplit] at this
    exact this
  have hout : out = _ := eraseOne_unfold h v i
  rw [hloop _ (Nat.le_refl _)] at hout
  have hlen : (v.impl.take i ++ v.impl.drop (i + 1) ++ [v.impl[i]]).length - 1
      = (v.impl.take i ++ v.impl.drop (i + 1)).length := by simp
  rw [hlen, List.drop_left, List.take_left] at hout
  have hO' : Owns h (owned [v.impl[i]] ++ (owned (v.impl.take i ++ v.impl.drop (i + 1)) ++ frame)) := by
    refine owns_perm hO ?_
    conv => lhs; rw [hsplit]
    owns_perm_tac
  obtain ⟨d1, d2⟩ := destroyRows_refines h [v.impl[i]] _ hO'
  rw [hout]
  refine ⟨rfl, rfl, rfl, d1, d2, fun r hr => ?_, fun extra => ?_⟩
  · have hr' : r = v.impl[i] := by
      rw [List.getElem?_eq_getElem hil] at hr; exact (Option.some.inj hr).symm
    subst hr'
    apply owns_none_of_not_mem d1
    intro hm
    exact owns_ne_of_mem_append hO' (List.mem_cons_self) hm rfl
  · rw [hloop _ (Nat.le_add_right _ _), hloop _ (Nat.le_refl _)]

end C13Proofs

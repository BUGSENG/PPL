import PPLV.Value.MoveRepr
import PPLV.Value.MoveProofsSys
import PPLV.Value.MoveProofsCopyKit

/-!
# C13 moving mechanics — `Congruence_System` recycling (`Grid::add_recycled_congruences`) and the
representation change of a recycled argument

No Mathlib.
-/
namespace PPLV.Value.Move
open OwnsKit

namespace OwnsKit

/-! ## representation change -/

theorem setRepresentation_spec {h : Heap} {r : Row} {as : List Nat} (hO : Owns h (r.impl :: as)) :
    (Row.setRepresentation h r).2 = { r with impl := h.next }
    ∧ Owns (Row.setRepresentation h r).1 (h.next :: as)
    ∧ (Row.setRepresentation h r).2.val (Row.setRepresentation h r).1 = r.val h
    ∧ (∀ a ∈ as, (Row.setRepresentation h r).1.cells a = h.cells a)
    ∧ (Row.setRepresentation h r).1.next = h.next + 1 := by
  obtain ⟨c, hc⟩ := owns_read_some hO List.mem_cons_self
  have e : Row.setRepresentation h r = ((h.alloc c).1.free r.impl, { r with impl := h.next }) := by
    unfold Row.setRepresentation Row.copy Heap.read
    rw [hc]; rfl
  rw [e]
  have hA : Owns (h.alloc c).1 (r.impl :: h.next :: as) :=
    owns_perm (owns_alloc hO c) (List.Perm.swap _ _ _)
  have hne : h.next ≠ r.impl := fun e => owns_next_not_mem hO (e ▸ List.mem_cons_self)
  refine ⟨rfl, owns_free_head hA, ?_, fun a ha => ?_, by simp⟩
  · simp only [Row.val, Heap.read]
    rw [free_cells_of_ne _ hne, alloc_cells_self, hc]
  · have hna : a ≠ r.impl := fun e => (List.nodup_cons.1 (owns_nodup hO)).1 (e ▸ ha)
    rw [free_cells_of_ne _ hna, owns_alloc_cells_of_mem hO c (List.mem_cons_of_mem _ ha)]

theorem convertRows_cons (h : Heap) (r : Row) (rs : List Row) :
    convertRows h (r :: rs)
      = ((convertRows (Row.setRepresentation h r).1 rs).1,
          (Row.setRepresentation h r).2 :: (convertRows (Row.setRepresentation h r).1 rs).2) := rfl

theorem convertRows_spec : ∀ (rows : List Row) (h : Heap) (as : List Nat), Owns h (owned rows ++ as) →
    Owns (convertRows h rows).1 (owned (convertRows h rows).2 ++ as)
    ∧ rowValues (convertRows h rows).1 (convertRows h rows).2 = rowValues h rows
    ∧ (∀ r ∈ (convertRows h rows).2, h.next ≤ r.impl)
    ∧ (∀ a ∈ as, (convertRows h rows).1.cells a = h.cells a)
  | [], h, as, hO => ⟨hO, rfl, fun _ hr => (by cases hr), fun _ _ => rfl⟩
  | r :: rs, h, as, hO => by
    have hO' : Owns h (r.impl :: (owned rs ++ as)) := hO
    obtain ⟨s1, s2, s3, s4, s5⟩ := setRepresentation_spec hO'
    have hO1 : Owns (Row.setRepresentation h r).1 (owned rs ++ h.next :: as) :=
      owns_perm s2 (by owns_perm_tac)
    obtain ⟨i1, i2, i3, i4⟩ := convertRows_spec rs (Row.setRepresentation h r).1 (h.next :: as) hO1
    rw [convertRows_cons]
    refine ⟨?_, ?_, fun x hx => ?_, fun a ha => ?_⟩
    · refine owns_perm i1 ?_
      rw [s1]
      owns_perm_tac
    · simp only [rowValues_cons]
      rw [i2]
      congr 1
      · have hi : (Row.setRepresentation h r).2.impl = h.next := by rw [s1]
        have hv : (Row.setRepresentation h r).2.val (convertRows (Row.setRepresentation h r).1 rs).1
            = (Row.setRepresentation h r).2.val (Row.setRepresentation h r).1 :=
          row_val_congr (by rw [hi]; exact i4 h.next List.mem_cons_self)
        rw [hv, s3]
      · exact rowValues_congr (fun a ha => s4 a (List.mem_append_left _ ha))
    · rcases List.mem_cons.1 hx with rfl | hx
      · rw [s1]; exact Nat.le_refl _
      · have := i3 x hx
        omega
    · rw [i4 a (List.mem_cons_of_mem _ ha), s4 a (List.mem_append_right _ ha)]

/-! ## `Congruence_System::set_space_dimension` over all rows -/

/-- zero padding / truncation of a congruence row to space dimension `sd` -/
def padV (sd : Nat) (v : RowV) : RowV := { v with coeffs := resizeCoeffs v.coeffs (sd + 1) }

theorem cgInsertSysV_eq (x y : CgSysV) :
    cgInsertSysV x y
      = ⟨(if x.spaceDim < y.spaceDim then x.rows.map (padV (max x.spaceDim y.spaceDim)) else x.rows)
          ++ y.rows.map (padV (max x.spaceDim y.spaceDim)), max x.spaceDim y.spaceDim⟩ := rfl

theorem cgSetSpaceDimRows_eq (sd : Nat) :
    cgSetSpaceDimRows sd = modifyRows (fun _ c => resizeCoeffs c (sd + 1)) := by
  funext i
  induction i with
  | zero => rfl
  | succ i ih => funext h rows; simp only [cgSetSpaceDimRows, modifyRows, ih]; rfl

theorem cgSetSpaceDimRows_full (sd : Nat) (rows : List Row) (as : List Nat) (h : Heap) (hsub : ∀ r ∈ rows, r.impl ∈ as)
    (hnd : (owned rows).Nodup) (hO : Owns h as) :
    Owns (cgSetSpaceDimRows sd rows.length h rows) as
    ∧ (∀ a, a ∉ owned rows → (cgSetSpaceDimRows sd rows.length h rows).cells a = h.cells a)
    ∧ rowValues (cgSetSpaceDimRows sd rows.length h rows) rows = (rowValues h rows).map (padV sd) := by
  rw [cgSetSpaceDimRows_eq]
  exact modifyRows_full _ _ (fun _ _ => rfl) rows as h hsub hnd hO

/-! ## the stealing loop of `Congruence_System::insert(cgs, Recycle_Input)` -/

theorem cgStealLoop_spec (sd old : Nat) : ∀ (i : Nat) (h : Heap) (xs ys : List Row),
    i ≤ ys.length → old + i ≤ xs.length →
    (cgStealLoop sd old i h xs ys).1 = cgSetSpaceDimRows sd i h ys
    ∧ (cgStealLoop sd old i h xs ys).2.1.length = xs.length
    ∧ (cgStealLoop sd old i h xs ys).2.2.length = ys.length
    ∧ (∀ j, (cgStealLoop sd old i h xs ys).2.1[j]? = if old ≤ j ∧ j < old + i then ys[j - old]? else xs[j]?)
    ∧ (∀ j, (cgStealLoop sd old i h xs ys).2.2[j]? = if j < i then xs[old + j]? else ys[j]?)
  | 0, h, xs, ys, _, _ => by
    refine ⟨rfl, rfl, rfl, fun j => ?_, fun j => ?_⟩
    · have hn : ¬ (old ≤ j ∧ j < old + 0) := by omega
      rw [if_neg hn]; rfl
    · simp [cgStealLoop]
  | i + 1, h, xs, ys, hy, hx => by
    have hyl : i < ys.length := hy
    have hxl : old + i < xs.length := hx
    have e : cgStealLoop sd old (i + 1) h xs ys
        = cgStealLoop sd old i (cgRowSetSpaceDim h ys[i] sd) (xs.set (old + i) ys[i]) (ys.set i xs[old + i]) := by
      show (match ys[i]?, xs[old + i]? with
        | some yr, some xr => cgStealLoop sd old i (cgRowSetSpaceDim h yr sd) (xs.set (old + i) yr) (ys.set i xr)
        | _, _ => ({ h with fault := true }, xs, ys)) = _
      rw [List.getElem?_eq_getElem hyl, List.getElem?_eq_getElem hxl]
    obtain ⟨i1, i2, i3, i4, i5⟩ := cgStealLoop_spec sd old i (cgRowSetSpaceDim h ys[i] sd)
      (xs.set (old + i) ys[i]) (ys.set i xs[old + i]) (by simp; omega) (by simp; omega)
    rw [e]
    refine ⟨?_, by simpa using i2, by simpa using i3, fun j => ?_, fun j => ?_⟩
    · rw [i1, cgSetSpaceDimRows_eq, modifyRows_succ _ i h ys hyl]
      apply modifyRows_congr
      intro j hj
      rw [List.getElem?_set_ne (by omega)]
    · rw [i4 j]
      by_cases h1 : old ≤ j ∧ j < old + i
      · have h2 : old ≤ j ∧ j < old + (i + 1) := by omega
        rw [if_pos h1, if_pos h2, List.getElem?_set_ne (by omega)]
      · rw [if_neg h1]
        by_cases h3 : j = old + i
        · have h2 : old ≤ j ∧ j < old + (i + 1) := by omega
          rw [if_pos h2]
          subst h3
          have : old + i - old = i := by omega
          rw [this, List.getElem?_set_self hxl, List.getElem?_eq_getElem hyl]
        · have h2 : ¬ (old ≤ j ∧ j < old + (i + 1)) := by omega
          rw [if_neg h2, List.getElem?_set_ne (by omega)]
    · rw [i5 j]
      by_cases h1 : j < i
      · have h2 : j < i + 1 := by omega
        rw [if_pos h1, if_pos h2, List.getElem?_set_ne (by omega)]
      · rw [if_neg h1]
        by_cases h3 : j = i
        · subst h3
          rw [if_pos (Nat.lt_succ_self j), List.getElem?_set_self hyl, List.getElem?_eq_getElem hxl]
        · have h2 : ¬ j < i + 1 := by omega
          rw [if_neg h2, List.getElem?_set_ne (by omega)]

/-- the loop moves all rows of `ys` behind `xr` and hands the default rows `ds` back -/
theorem cgStealLoop_full (sd : Nat) (h : Heap) (xr ds ys : List Row) (hl : ds.length = ys.length) :
    cgStealLoop sd xr.length ys.length h (xr ++ ds) ys
      = (cgSetSpaceDimRows sd ys.length h ys, xr ++ ys, ds) := by
  obtain ⟨i1, i2, i3, i4, i5⟩ := cgStealLoop_spec sd xr.length ys.length h (xr ++ ds) ys (Nat.le_refl _)
    (by simp [hl])
  have e1 : (cgStealLoop sd xr.length ys.length h (xr ++ ds) ys).2.1 = xr ++ ys := by
    apply List.ext_getElem?
    intro j
    rw [i4 j]
    by_cases h1 : xr.length ≤ j ∧ j < xr.length + ys.length
    · rw [if_pos h1, List.getElem?_append_right h1.1]
    · rw [if_neg h1]
      by_cases h2 : j < xr.length
      · rw [List.getElem?_append_left h2, List.getElem?_append_left h2]
      · rw [List.getElem?_eq_none (by simp; omega), List.getElem?_eq_none (by simp; omega)]
  have e2 : (cgStealLoop sd xr.length ys.length h (xr ++ ds) ys).2.2 = ds := by
    apply List.ext_getElem?
    intro j
    rw [i5 j]
    by_cases h1 : j < ys.length
    · rw [if_pos h1, List.getElem?_append_right (by omega)]
      congr 1; omega
    · rw [if_neg h1, List.getElem?_eq_none (by omega), List.getElem?_eq_none (by omega)]
  exact Prod.ext i1 (Prod.ext e1 e2)

/-! ## the pieces of `Congruence_System::insert(cgs, Recycle_Input)` -/

/-- the dimension adjustment of the receiver -/
def cgAdjust (h : Heap) (x y : CgSys) : Heap × CgSys :=
  if x.spaceDim < y.spaceDim then x.setSpaceDim h y.spaceDim else (h, x)

theorem cgInsertSys_unfold (h : Heap) (x y : CgSys) :
    x.insertSys h y =
      let a := cgAdjust h x y
      let r := a.2.rows.resize congruenceClass a.1 (x.rows.size + y.rows.size)
      let l := cgStealLoop a.2.spaceDim x.rows.size y.rows.size r.1 r.2.impl y.rows.impl
      let c := CgSys.clear l.1 { y with rows := ⟨l.2.2, y.rows.cap⟩ }
      (c.1, { a.2 with rows := ⟨l.2.1, r.2.cap⟩ }, c.2) := by
  simp only [CgSys.insertSys, cgAdjust]

theorem cgAdjust_spec (h : Heap) (x y : CgSys) (frame : List Nat) (hO : Owns h (x.owned ++ y.owned ++ frame)) :
    Owns (cgAdjust h x y).1 (x.owned ++ y.owned ++ frame)
    ∧ (cgAdjust h x y).2 = ⟨x.rows, max x.spaceDim y.spaceDim⟩
    ∧ rowValues (cgAdjust h x y).1 x.rows.impl
        = (if x.spaceDim < y.spaceDim then (rowValues h x.rows.impl).map (padV (max x.spaceDim y.spaceDim))
           else rowValues h x.rows.impl)
    ∧ (∀ a ∈ y.owned ++ frame, (cgAdjust h x y).1.cells a = h.cells a) := by
  unfold cgAdjust
  by_cases hlt : x.spaceDim < y.spaceDim
  · have hmax : max x.spaceDim y.spaceDim = y.spaceDim := by omega
    have hne : (x.spaceDim != y.spaceDim) = true := by simp; omega
    have e : x.setSpaceDim h y.spaceDim
        = (cgSetSpaceDimRows y.spaceDim x.rows.impl.length h x.rows.impl, ⟨x.rows, y.spaceDim⟩) := by
      unfold CgSys.setSpaceDim
      rw [if_pos hne]; rfl
    rw [if_pos hlt, if_pos hlt, hmax, e]
    have hnd : (owned x.rows.impl).Nodup := (List.nodup_append.1 (owns_nodup_left hO)).1
    obtain ⟨i1, i2, i3⟩ := cgSetSpaceDimRows_full y.spaceDim x.rows.impl _ h
      (fun r hr => List.mem_append_left _ (List.mem_append_left _ (mem_owned hr))) hnd hO
    refine ⟨i1, rfl, i3, fun a ha => i2 a (fun hm => ?_)⟩
    have hO' : Owns h (x.owned ++ (y.owned ++ frame)) := by rw [← List.append_assoc]; exact hO
    exact owns_ne_of_mem_append hO' hm ha rfl
  · have hmax : max x.spaceDim y.spaceDim = x.spaceDim := by omega
    rw [if_neg hlt, if_neg hlt, hmax]
    exact ⟨hO, rfl, rfl, fun _ _ => rfl⟩

end OwnsKit

/-! ## interface lemmas -/

theorem cgInsertSys_refines (h : Heap) (x y : CgSys) (frame : List Nat)
    (hO : Owns h (x.owned ++ y.owned ++ frame)) :
    let out := x.insertSys h y
    Owns out.1 (out.2.1.owned ++ frame)
    ∧ out.2.1.value out.1 = cgInsertSysV (x.value h) (y.value h)
    ∧ out.2.2.value out.1 = ⟨[], 0⟩ ∧ out.2.2.owned = []
    ∧ FrameEq h out.1 frame := by
  intro out
  have hout : out = _ := cgInsertSys_unfold h x y
  dsimp only at hout
  obtain ⟨a1, a2, a3, a4⟩ := cgAdjust_spec h x y frame hO
  generalize cgAdjust h x y = p at a1 a2 a3 a4 hout
  obtain ⟨h1, x1⟩ := p
  simp only at a1 a2 a3 a4 hout
  subst a2
  simp only at hout
  -- resize
  have hO1 : Owns h1 (owned x.rows.impl ++ (y.owned ++ frame)) := by
    rw [← List.append_assoc]; exact a1
  obtain ⟨g1, g2, _, g4, g5⟩ :=
    resize_grow_refines congruenceClass h1 x.rows (x.rows.size + y.rows.size) (y.owned ++ frame) hO1 (Nat.le_add_right _ _)
  generalize x.rows.resize congruenceClass h1 (x.rows.size + y.rows.size) = q at g1 g2 g4 g5 hout
  obtain ⟨h2, ⟨impl2, cap2⟩⟩ := q
  simp only at g1 g2 g4 g5 hout
  have himpl : impl2 = x.rows.impl ++ impl2.drop x.rows.size := by
    conv => lhs; rw [← List.take_append_drop x.rows.size impl2, g1]
  have hdl : (impl2.drop x.rows.size).length = y.rows.impl.length := by
    have : impl2.length = x.rows.size + y.rows.size := g2
    rw [List.length_drop, this]
    show x.rows.size + y.rows.impl.length - x.rows.size = _
    omega
  generalize impl2.drop x.rows.size = ds at himpl hdl
  subst himpl
  -- the stealing loop
  have hsteal := cgStealLoop_full (max x.spaceDim y.spaceDim) h2 x.rows.impl ds y.rows.impl hdl
  simp only [SVec.size] at hout
  rw [hsteal] at hout
  simp only at hout
  have hO2 : Owns h2 (owned (x.rows.impl ++ ds) ++ (owned y.rows.impl ++ frame)) := g4
  have hndy : (owned y.rows.impl).Nodup := (List.nodup_append.1 (owns_nodup_right hO2)).1
  obtain ⟨s1, s2, s3⟩ := cgSetSpaceDimRows_full (max x.spaceDim y.spaceDim) y.rows.impl _ h2
    (fun r hr => List.mem_append_right _ (List.mem_append_left _ (mem_owned hr))) hndy hO2
  generalize cgSetSpaceDimRows (max x.spaceDim y.spaceDim) y.rows.impl.length h2 y.rows.impl = h3 at s1 s2 s3 hout
  -- clear
  have hO3 : Owns h3 (owned (⟨ds, y.rows.cap⟩ : SVec).impl ++ (owned (x.rows.impl ++ y.rows.impl) ++ frame)) := by
    refine owns_perm s1 ?_
    owns_perm_tac
  obtain ⟨_, c1, c2⟩ := Move.clear_refines h3 ⟨ds, y.rows.cap⟩ _ hO3
  rw [hout]
  refine ⟨c1, ?_, rfl, rfl, fun a ha => ?_⟩
  · show (⟨rowValues (SVec.clear h3 ⟨ds, y.rows.cap⟩).1 (x.rows.impl ++ y.rows.impl), max x.spaceDim y.spaceDim⟩ : CgSysV) = _
    rw [cgInsertSysV_eq]
    have e1 : rowValues (SVec.clear h3 ⟨ds, y.rows.cap⟩).1 (x.rows.impl ++ y.rows.impl)
        = rowValues h3 (x.rows.impl ++ y.rows.impl) := rowValues_congr (frameEq_append_left c2)
    have hxy : ∀ a ∈ owned x.rows.impl, a ∉ owned y.rows.impl := by
      intro a ha hm
      exact owns_ne_of_mem_append hO2 (by simp [ha]) (List.mem_append_left _ hm) rfl
    have e2 : rowValues h3 x.rows.impl = rowValues h1 x.rows.impl := by
      have : rowValues h3 x.rows.impl = rowValues h2 x.rows.impl :=
        rowValues_congr (fun a ha => s2 a (hxy a ha))
      rw [this]
      exact rowValues_congr (fun a ha => g5 a (List.mem_append_left _ ha))
    have e3 : rowValues h2 y.rows.impl = rowValues h y.rows.impl := by
      have : rowValues h2 y.rows.impl = rowValues h1 y.rows.impl :=
        rowValues_congr (fun a ha => g5 a (List.mem_append_right _ (List.mem_append_left _ ha)))
      rw [this]
      exact rowValues_congr (fun a ha => a4 a (List.mem_append_left _ ha))
    rw [e1, rowValues_append, e2, s3, e3, a3]
    rfl
  · show (SVec.clear h3 ⟨ds, y.rows.cap⟩).1.cells a = h.cells a
    rw [c2 a (List.mem_append_right _ ha)]
    have hay : a ∉ owned y.rows.impl := fun hm =>
      owns_ne_of_mem_append hO (List.mem_append_right _ hm) ha rfl
    rw [s2 a hay, g5 a (List.mem_append_right _ (List.mem_append_right _ ha)), a4 a (List.mem_append_right _ ha)]

theorem CgSys.copy_refines (h : Heap) (y : CgSys) (frame : List Nat) (hO : Owns h (y.owned ++ frame)) :
    let out := CgSys.copy h y
    Owns out.1 (out.2.owned ++ y.owned ++ frame) ∧ out.2.value out.1 = y.value h
    ∧ FrameEq h out.1 (y.owned ++ frame) := by
  intro out
  obtain ⟨i1, i2, i3, _⟩ := CopyKit.copyRows_spec y.rows.impl h (y.owned ++ frame) hO
    (fun r hr => List.mem_append_left _ (mem_owned hr))
  refine ⟨?_, ?_, i3⟩
  · show Owns (copyRows h y.rows.impl).1 (Move.owned (copyRows h y.rows.impl).2 ++ y.owned ++ frame)
    rw [List.append_assoc]; exact i1
  · show (⟨rowValues (copyRows h y.rows.impl).1 (copyRows h y.rows.impl).2, y.spaceDim⟩ : CgSysV) = _
    rw [i2]; rfl

/-- representation change: same values, all storage new, old storage deleted -/
theorem convertRows_refines (h : Heap) (rows : List Row) (frame : List Nat) (hO : Owns h (owned rows ++ frame)) :
    let out := convertRows h rows
    Owns out.1 (owned out.2 ++ frame) ∧ rowValues out.1 out.2 = rowValues h rows
    ∧ (∀ r ∈ out.2, h.next ≤ r.impl) ∧ FrameEq h out.1 frame :=
  convertRows_spec rows h frame hO

/-! ## `Grid::add_recycled_congruences` -/

namespace OwnsKit

/-- the early exits of `Grid::add_recycled_congruences`: they only look at the argument's dimension and
    whether it has rows -/
def cgGuardExit (x : GridC) (sd : Nat) (emp : Bool) : Option Exit :=
  if x.spaceDim < sd then some .threw
  else if emp then some .noRows
  else if testAny x.status EMPTY then some .markedEmpty
  else if x.spaceDim == 0 then some .zeroDim
  else if !testAny x.status C_UP then some .notModelled
  else none

theorem addRecycledCongruences_cases (h : Heap) (x : GridC) (cgs : CgSys) :
    (∃ e, e ≠ Exit.moved ∧ cgGuardExit x cgs.spaceDim cgs.rows.impl.isEmpty = some e
        ∧ x.addRecycledCongruences h cgs = (h, x, cgs, e))
    ∨ (cgGuardExit x cgs.spaceDim cgs.rows.impl.isEmpty = none
        ∧ x.addRecycledCongruences h cgs
          = ((x.conSys.insertSys h cgs).1,
              { x with conSys := (x.conSys.insertSys h cgs).2.1,
                       status := resetF (resetF (resetF x.status C_MIN) G_MIN) G_UP },
              (x.conSys.insertSys h cgs).2.2, .moved)) := by
  unfold GridC.addRecycledCongruences cgGuardExit
  by_cases c1 : x.spaceDim < cgs.spaceDim
  · left; exact ⟨.threw, by decide, by simp [c1], by simp [c1]⟩
  · by_cases c2 : cgs.rows.impl.isEmpty = true
    · left; exact ⟨.noRows, by decide, by simp [c1, c2], by simp [c1, c2]⟩
    · by_cases c3 : testAny x.status EMPTY = true
      · left; exact ⟨.markedEmpty, by decide, by simp [c1, c2, c3], by simp [c1, c2, c3]⟩
      · by_cases c4 : (x.spaceDim == 0) = true
        · left; exact ⟨.zeroDim, by decide, by simp [c1, c2, c3, c4], by simp [c1, c2, c3, c4]⟩
        · by_cases c5 : (!testAny x.status C_UP) = true
          · left; exact ⟨.notModelled, by decide, by simp [c1, c2, c3, c4, c5], by simp [c1, c2, c3, c4, c5]⟩
          · right
            rw [if_neg c1, if_neg c2, if_neg c3, if_neg c4, if_neg c5,
              if_neg c1, if_neg c2, if_neg c3, if_neg c4, if_neg c5]
            exact ⟨rfl, rfl⟩

theorem addCongruences_unfold (h : Heap) (x : GridC) (cgs : CgSys) :
    x.addCongruences h cgs
      = ((x.addRecycledCongruences (CgSys.copy h cgs).1 (CgSys.copy h cgs).2).2.2.1.destroy
            (x.addRecycledCongruences (CgSys.copy h cgs).1 (CgSys.copy h cgs).2).1,
         (x.addRecycledCongruences (CgSys.copy h cgs).1 (CgSys.copy h cgs).2).2.1,
         (x.addRecycledCongruences (CgSys.copy h cgs).1 (CgSys.copy h cgs).2).2.2.2) := by
  simp only [GridC.addCongruences]

theorem cgSys_value_congr {h h' : Heap} {s : CgSys} (hf : FrameEq h h' s.owned) : s.value h' = s.value h := by
  unfold CgSys.value
  rw [rowValues_congr hf]

theorem copy_guard (h : Heap) (x : GridC) (cgs : CgSys) :
    cgGuardExit x (CgSys.copy h cgs).2.spaceDim (CgSys.copy h cgs).2.rows.impl.isEmpty
      = cgGuardExit x cgs.spaceDim cgs.rows.impl.isEmpty := by
  have hl : (copyRows h cgs.rows.impl).2.length = cgs.rows.impl.length := by
    generalize cgs.rows.impl = rows
    induction rows generalizing h with
    | nil => rfl
    | cons r rs ih =>
      show ((Row.copy h r).2 :: (copyRows (Row.copy h r).1 rs).2).length = _
      simp [ih]
  have he : (CgSys.copy h cgs).2.rows.impl.isEmpty = cgs.rows.impl.isEmpty := by
    show (copyRows h cgs.rows.impl).2.isEmpty = _
    generalize (copyRows h cgs.rows.impl).2 = a at hl
    generalize cgs.rows.impl = b at hl
    cases a <;> cases b <;> simp_all
  rw [he]
  rfl

theorem owned_eq_nil {rows : List Row} (ho : owned rows = []) : rows = [] := List.map_eq_nil_iff.1 ho

end OwnsKit
end PPLV.Value.Move

namespace C13Proofs
open PPLV.Value PPLV.Value.Move PPLV.Value.Move.OwnsKit

/-- `gr.add_recycled_congruences(cgs)` and `gr.add_congruences(cgs)` give the receiver the same value -/
theorem recycled_congruences_eq_copy (h : Heap) (x : GridC) (cgs : CgSys) (frame : List Nat)
    (hO : Owns h (x.conSys.owned ++ cgs.owned ++ frame)) :
    (x.addRecycledCongruences h cgs).2.1.value (x.addRecycledCongruences h cgs).1
      = (x.addCongruences h cgs).2.1.value (x.addCongruences h cgs).1
    ∧ (x.addRecycledCongruences h cgs).2.2.2 = (x.addCongruences h cgs).2.2 := by
  have hOc : Owns h (cgs.owned ++ (x.conSys.owned ++ frame)) := owns_perm hO (by unfold CgSys.owned; owns_perm_tac)
  obtain ⟨k1, k2, k3⟩ := CgSys.copy_refines h cgs (x.conSys.owned ++ frame) hOc
  have hg := copy_guard h x cgs
  rw [addCongruences_unfold]
  generalize CgSys.copy h cgs = p at k1 k2 k3 hg
  obtain ⟨h1, cp⟩ := p
  simp only at k1 k2 k3 hg ⊢
  have hxf : FrameEq h h1 x.conSys.owned := frameEq_append_left (frameEq_append_right k3)
  rcases addRecycledCongruences_cases h x cgs with ⟨e, _, ge, he⟩ | ⟨ge, he⟩
  · rw [← hg] at ge
    rcases addRecycledCongruences_cases h1 x cp with ⟨e', _, ge', he'⟩ | ⟨ge', _⟩
    · have : e' = e := by rw [ge'] at ge; exact Option.some.inj ge
      subst this
      rw [he, he']
      refine ⟨?_, rfl⟩
      show (⟨x.conSys.value h, x.status, x.spaceDim⟩ : GridCV) = ⟨x.conSys.value (cp.destroy h1), x.status, x.spaceDim⟩
      have hd := (destroyRows_refines h1 cp.rows.impl _ (by rw [← List.append_assoc]; exact k1)).2
      have : FrameEq h (cp.destroy h1) x.conSys.owned :=
        frameEq_trans hxf (frameEq_append_left (frameEq_append_right hd))
      rw [cgSys_value_congr this]
    · rw [ge'] at ge; cases ge
  · rw [← hg] at ge
    rcases addRecycledCongruences_cases h1 x cp with ⟨e', _, ge', _⟩ | ⟨_, he'⟩
    · rw [ge'] at ge; cases ge
    · rw [he, he']
      refine ⟨?_, rfl⟩
      obtain ⟨_, l2, _, _, _⟩ := cgInsertSys_refines h x.conSys cgs frame hO
      have hO1 : Owns h1 (x.conSys.owned ++ cp.owned ++ (cgs.owned ++ frame)) :=
        owns_perm k1 (by unfold CgSys.owned; owns_perm_tac)
      obtain ⟨_, r2, _, r4, _⟩ := cgInsertSys_refines h1 x.conSys cp (cgs.owned ++ frame) hO1
      have hnil : (x.conSys.insertSys h1 cp).2.2.rows.impl = [] := owned_eq_nil r4
      have hd : (x.conSys.insertSys h1 cp).2.2.destroy (x.conSys.insertSys h1 cp).1 = (x.conSys.insertSys h1 cp).1 := by
        unfold CgSys.destroy SVec.destroy
        rw [hnil]; rfl
      rw [hd]
      simp only [GridC.value]
      rw [l2, r2, k2, cgSys_value_congr hxf]

/-- the argument of `Grid::add_recycled_congruences` afterwards: untouched, or (rows moved) the EMPTY
congruence system of space dimension 0 owning no storage; nothing leaked, nothing owned twice -/
theorem recycled_congruences_argument_valid (h : Heap) (x : GridC) (cgs : CgSys) (frame : List Nat)
    (hO : Owns h (x.conSys.owned ++ cgs.owned ++ frame)) :
    let out := x.addRecycledCongruences h cgs
    Owns out.1 (out.2.1.conSys.owned ++ out.2.2.1.owned ++ frame) ∧ FrameEq h out.1 frame
    ∧ (out.2.2.2 = .moved → out.2.2.1.value out.1 = ⟨[], 0⟩ ∧ out.2.2.1.owned = [])
    ∧ (out.2.2.2 ≠ .moved → out.2.2.1 = cgs) := by
  intro out
  rcases addRecycledCongruences_cases h x cgs with ⟨e, hne, _, he⟩ | ⟨_, he⟩
  · have hout : out = (h, x, cgs, e) := he
    rw [hout]
    exact ⟨hO, frameEq_refl h frame, fun hm => absurd hm hne, fun _ => rfl⟩
  · have hout : out = _ := he
    obtain ⟨l1, _, l3, l4, l5⟩ := cgInsertSys_refines h x.conSys cgs frame hO
    rw [hout]
    simp only at l1 l3 l4 l5 ⊢
    refine ⟨?_, l5, fun _ => ⟨l3, l4⟩, fun hm => absurd rfl hm⟩
    rw [l4, List.append_nil]
    exact l1

/-- a sparse system recycled into a dense polyhedron: the converted argument has the same value, so the
receiver gets the same value as without conversion (only the storage is new) -/
theorem converted_same_value (h : Heap) (y : LinSys) (frame : List Nat) (hO : Owns h (y.owned ++ frame)) :
    let out := y.converted h
    Owns out.1 (out.2.owned ++ frame) ∧ out.2.value out.1 = y.value h
    ∧ (∀ a ∈ out.2.owned, h.next ≤ a) ∧ FrameEq h out.1 frame := by
  intro out
  obtain ⟨c1, c2, c3, c4⟩ := convertRows_refines h y.rows.impl frame hO
  have hout : out = ((convertRows h y.rows.impl).1, { y with rows := ⟨(convertRows h y.rows.impl).2, y.rows.cap⟩ }) := rfl
  rw [hout]
  refine ⟨c1, ?_, fun a ha => ?_, c4⟩
  · show (⟨rowValues _ (convertRows h y.rows.impl).2, y.spaceDim, y.nnc, y.firstPending, y.sorted⟩ : LinSysV) = _
    rw [c2]; rfl
  · obtain ⟨r, hr, rfl⟩ := List.mem_map.1 ha
    exact c3 r hr

end C13Proofs

import PPLV.Value.MoveProofsRecycle

/-!
# C13 moving mechanics — `concatenate_assign` on values

The constraint insertions `Constraint_System::insert[_pending](c, Recycle_Input)` with their topology
adjustment, the row loop of `Polyhedron::concatenate_assign` and the part of it after the argument's
constraints have been copied, as functions of the values involved.
-/
namespace PPLV.Value.Move.AliasKit
open PPLV.Value PPLV.Value.Move

/-- modifying one owned cell leaves every other listed cell alone -/
theorem frame_of_ne {h h' : Heap} {a : Nat} {G : List Nat} (hne : ∀ b, b ≠ a → h'.cells b = h.cells b)
    (ha : a ∉ G) : FrameEq h h' G := by
  intro b hb
  exact hne b (fun e => ha (e ▸ hb))

theorem val_modify {h : Heap} {as : List Nat} (hO : Owns h as) (r : Row) (ha : r.impl ∈ as)
    (f : List Int → List Int) :
    r.val (h.modify r.impl f) = { r.val h with coeffs := f (r.val h).coeffs } := by
  obtain ⟨c, hc⟩ := OwnsKit.owns_read_some hO ha
  obtain ⟨_, _, h3⟩ := CopyKit.owns_modify hO ha f
  simp [Row.val, Heap.read, h3, hc]

/-! ## `Constraint_System::insert[_pending](c, Recycle_Input)` -/

def csAdjustV (s : LinSysV) (c : RowV) : LinSysV × RowV :=
  if s.nnc != c.nnc then (if !s.nnc then (setTopologySysV true s, c) else (s, setTopologyV true c)) else (s, c)

def csInsertV (pending : Bool) (s : LinSysV) (c : RowV) : LinSysV :=
  if pending then insertPendingNoOkV (csAdjustV s c).1 (csAdjustV s c).2
  else insertNoOkV constraintClass (csAdjustV s c).1 (csAdjustV s c).2

theorem csAdjust_refines (h : Heap) (s : LinSys) (c : Row) (frame : List Nat)
    (hO : Owns h (s.owned ++ c.impl :: frame)) :
    Owns (csAdjustTopology h s c).1 ((csAdjustTopology h s c).2.1.owned ++ (csAdjustTopology h s c).2.2.impl :: frame)
    ∧ (csAdjustTopology h s c).2.1.value (csAdjustTopology h s c).1 = (csAdjustV (s.value h) (c.val h)).1
    ∧ (csAdjustTopology h s c).2.2.val (csAdjustTopology h s c).1 = (csAdjustV (s.value h) (c.val h)).2
    ∧ FrameEq h (csAdjustTopology h s c).1 frame := by
  unfold csAdjustTopology csAdjustV
  have hn : (s.value h).nnc = s.nnc := rfl
  have hm : (c.val h).nnc = c.nnc := rfl
  by_cases h1 : (s.nnc != c.nnc) = true
  · simp only [hn, hm, h1, ↓reduceIte]
    by_cases h2 : (!s.nnc) = true
    · simp only [h2, ↓reduceIte]
      obtain ⟨t1, t2, t3, t4⟩ := CopyKit.setTopology_spec h s true (c.impl :: frame) hO
      refine ⟨by rw [t2]; exact t1, t3, ?_, OwnsKit.frameEq_mono t4 (fun a ha => List.mem_cons_of_mem _ ha)⟩
      exact OwnsKit.row_val_congr (t4 _ List.mem_cons_self)
    · simp only [h2, Bool.false_eq_true, ↓reduceIte]
      obtain ⟨s1, s2, s3, s4⟩ := CopyKit.rowSetTopology_spec (r := c) hO (by simp) true
      have hO' : Owns h (c.impl :: (s.owned ++ frame)) := PolyKit.Owns.perm (by owns_perm_tac) hO
      have hnd : c.impl ∉ s.owned ++ frame := (List.nodup_cons.mp hO'.2.1).1
      have hfr : FrameEq h (c.setTopology h true).1 (s.owned ++ frame) := frame_of_ne s4 hnd
      refine ⟨by rw [s2]; exact s1, ?_, s3, OwnsKit.frameEq_append_right hfr⟩
      exact PolyKit.LinSys.value_frame s hfr (fun a ha => List.mem_append_left _ ha)
  · simp only [hn, hm, h1, Bool.false_eq_true, ↓reduceIte]
    exact ⟨hO, by trivial, by trivial, OwnsKit.frameEq_refl _ _⟩

theorem csInsertRow_eq (h : Heap) (s : LinSys) (c : Row) : csInsertRow h s c =
    (csAdjustTopology h s c).2.1.insertNoOk constraintClass (csAdjustTopology h s c).1 (csAdjustTopology h s c).2.2 := rfl

theorem csInsertPendingRow_eq (h : Heap) (s : LinSys) (c : Row) : csInsertPendingRow h s c =
    (csAdjustTopology h s c).2.1.insertPendingNoOk constraintClass (csAdjustTopology h s c).1
      (csAdjustTopology h s c).2.2 := rfl

theorem csInsert_refines (pending : Bool) (h : Heap) (s : LinSys) (c : Row) (frame : List Nat)
    (hO : Owns h (s.owned ++ c.impl :: frame)) :
    let out := if pending then csInsertPendingRow h s c else csInsertRow h s c
    Owns out.1 (out.2.1.owned ++ out.2.2.impl :: frame)
    ∧ out.2.1.value out.1 = csInsertV pending (s.value h) (c.val h)
    ∧ FrameEq h out.1 frame := by
  obtain ⟨a1, a2, a3, a4⟩ := csAdjust_refines h s c frame hO
  -- the conditionals are decided by rewriting: left to `exact`, unification unfolds `Owns` through them
  cases pending with
  | true =>
    rw [if_pos rfl, csInsertPendingRow_eq, csInsertV, if_pos rfl, ← a2, ← a3]
    obtain ⟨b1, b2, _, b4⟩ := insertPendingNoOk_refines constraintClass _ _ _ frame a1
    exact ⟨b1, b2, OwnsKit.frameEq_trans a4 b4⟩
  | false =>
    rw [if_neg Bool.false_ne_true, csInsertRow_eq, csInsertV, if_neg Bool.false_ne_true, ← a2, ← a3]
    obtain ⟨b1, b2, _, b4⟩ := insertNoOk_refines constraintClass _ _ _ frame a1
    exact ⟨b1, b2, OwnsKit.frameEq_trans a4 b4⟩

/-! ## the row loop and the tail of `concatenate_assign` -/

def shiftV (shift : Nat) (r : RowV) : RowV := { r with coeffs := shiftCoeffs shift r.coeffs }

def concatStepV (pending : Bool) (shift : Nat) (x : LinSysV) (r : RowV) : LinSysV :=
  csInsertV pending x (shiftV shift r)

theorem concatLoop_refines (pending : Bool) (shift : Nat) (frame : List Nat) (rest : List Row) :
    ∀ (done : List Row) (h : Heap) (x : LinSys),
    Owns h (x.owned ++ (owned done ++ (owned rest ++ frame))) →
    Owns (concatLoop pending shift rest.length done.length h x (done ++ rest)).1
      ((concatLoop pending shift rest.length done.length h x (done ++ rest)).2.1.owned
        ++ (owned (concatLoop pending shift rest.length done.length h x (done ++ rest)).2.2 ++ frame))
    ∧ (concatLoop pending shift rest.length done.length h x (done ++ rest)).2.1.value
        (concatLoop pending shift rest.length done.length h x (done ++ rest)).1
      = (rowValues h rest).foldl (concatStepV pending shift) (x.value h)
    ∧ FrameEq h (concatLoop pending shift rest.length done.length h x (done ++ rest)).1 frame := by
  induction rest with
  | nil =>
    intro done h x hO
    simp only [List.length_nil, concatLoop, List.append_nil, rowValues, List.map_nil, List.foldl_nil]
    refine ⟨?_, by trivial, OwnsKit.frameEq_refl _ _⟩
    simpa using hO
  | cons r rest' ih =>
    intro done h x hO
    have hget : (done ++ r :: rest')[done.length]? = some r := by simp
    have hO0 : Owns h (r.impl :: (x.owned ++ (owned done ++ (owned rest' ++ frame)))) :=
      PolyKit.Owns.perm (by owns_perm_tac) hO
    have hnd : r.impl ∉ x.owned ++ (owned done ++ (owned rest' ++ frame)) := (List.nodup_cons.mp hO0.2.1).1
    obtain ⟨m1, m2, _⟩ := CopyKit.owns_modify hO0 List.mem_cons_self (shiftCoeffs shift)
    have hrv := val_modify hO0 r List.mem_cons_self (shiftCoeffs shift)
    generalize hh0 : h.modify r.impl (shiftCoeffs shift) = h₀ at m1 m2 hrv
    have hfr0 : FrameEq h h₀ (x.owned ++ (owned done ++ (owned rest' ++ frame))) := frame_of_ne m2 hnd
    have hO1 : Owns h₀ (x.owned ++ r.impl :: (owned done ++ (owned rest' ++ frame))) :=
      PolyKit.Owns.perm (by owns_perm_tac) m1
    obtain ⟨c1, c2, c3⟩ := csInsert_refines pending h₀ x r _ hO1
    generalize hst : (if pending then csInsertPendingRow h₀ x r else csInsertRow h₀ x r) = st at c1 c2 c3
    have hstep : concatLoop pending shift (r :: rest').length done.length h x (done ++ r :: rest')
        = concatLoop pending shift rest'.length (done ++ [st.2.2]).length st.1 st.2.1 ((done ++ [st.2.2]) ++ rest') := by
      conv => lhs; rw [List.length_cons]; unfold concatLoop
      simp only [hget, hh0]
      rw [← hst]
      cases pending <;> simp
    rw [hstep]
    have hO2 : Owns st.1 (st.2.1.owned ++ (owned (done ++ [st.2.2]) ++ (owned rest' ++ frame))) :=
      PolyKit.Owns.perm (by owns_perm_tac) c1
    obtain ⟨i1, i2, i3⟩ := ih (done ++ [st.2.2]) st.1 st.2.1 hO2
    refine ⟨i1, ?_, ?_⟩
    · rw [i2, c2]
      have hxv : x.value h₀ = x.value h :=
        PolyKit.LinSys.value_frame x hfr0 (fun a ha => List.mem_append_left _ ha)
      have hr1 : rowValues st.1 rest' = rowValues h₀ rest' :=
        PolyKit.rowValues_frame rest' c3 (fun a ha => by simp [ha])
      have hr2 : rowValues h₀ rest' = rowValues h rest' :=
        PolyKit.rowValues_frame rest' hfr0 (fun a ha => by simp [ha])
      rw [hr1, hr2, hxv, hrv]
      simp only [rowValues, List.map_cons, List.foldl_cons, concatStepV, shiftV]
    · exact OwnsKit.frameEq_trans (OwnsKit.frameEq_mono hfr0 (fun a ha => by simp [ha]))
        (OwnsKit.frameEq_trans (OwnsKit.frameEq_mono c3 (fun a ha => by simp [ha])) i3)

/-- `concatenate_assign` after `Constraint_System cs = y.constraints();` -/
def concatTail (pending : Bool) (shift newsd : Nat) (h₁ : Heap) (xc cs : LinSys) : Heap × LinSys :=
  let (h₂, c) := xc.setSpaceDimNoOk h₁ newsd
  let (h₃, c₁, yrows) := concatLoop pending shift cs.numRows 0 h₂ c cs.rows.impl
  let (h₄, cs₁) := LinSys.clear h₃ { cs with rows := ⟨yrows, cs.rows.cap⟩ }
  (cs₁.destroy h₄, c₁)

theorem adjust_same_topology (h : Heap) (s : LinSys) (sd : Nat) :
    adjustTopologyAndSpaceDimension h s s.nnc sd = s.setSpaceDimNoOk h sd := by
  simp [adjustTopologyAndSpaceDimension, LinSys.setTopology]

theorem concatTail_value (pending : Bool) (shift newsd : Nat) (h₁ : Heap) (xc cs : LinSys) (G : List Nat)
    (hO : Owns h₁ (xc.owned ++ (cs.owned ++ G))) :
    (concatTail pending shift newsd h₁ xc cs).2.value (concatTail pending shift newsd h₁ xc cs).1
      = (cs.value h₁).rows.foldl (concatStepV pending shift) (setSpaceDimSysV newsd (xc.value h₁)) := by
  obtain ⟨a1, a2, a3, a4⟩ := adjust_refines h₁ xc xc.nnc newsd _ hO
  rw [adjust_same_topology] at a1 a2 a3 a4
  have a3' : (xc.setSpaceDimNoOk h₁ newsd).2.value (xc.setSpaceDimNoOk h₁ newsd).1
      = setSpaceDimSysV newsd (xc.value h₁) := by
    rw [a3]; simp [adjustV, setTopologySysV, LinSys.value]
  unfold concatTail
  generalize xc.setSpaceDimNoOk h₁ newsd = p at a1 a2 a3 a3' a4
  have hO2 : Owns p.1 (p.2.owned ++ (owned [] ++ (owned cs.rows.impl ++ G))) := by
    simpa [LinSys.owned] using a1
  obtain ⟨l1, l2, l3⟩ := concatLoop_refines pending shift G cs.rows.impl [] p.1 p.2 hO2
  have hnum : cs.numRows = cs.rows.impl.length := rfl
  simp only [List.nil_append, List.length_nil] at l1 l2 l3
  simp only [hnum]
  generalize concatLoop pending shift cs.rows.impl.length 0 p.1 p.2 cs.rows.impl = q at l1 l2 l3
  have hO3 : Owns q.1 (LinSys.owned { cs with rows := ⟨q.2.2, cs.rows.cap⟩ } ++ (q.2.1.owned ++ G)) :=
    PolyKit.Owns.perm (by owns_perm_tac) l1
  obtain ⟨k1, _, k3, k4⟩ := LinSys.clear_refines q.1 _ _ hO3
  generalize LinSys.clear q.1 { cs with rows := ⟨q.2.2, cs.rows.cap⟩ } = w at k1 k3 k4
  have hO4 : Owns w.1 (w.2.owned ++ (q.2.1.owned ++ G)) := by rw [k3]; simpa using k1
  obtain ⟨_, d2⟩ := LinSys.destroy_refines w.1 w.2 _ hO4
  show q.2.1.value (w.2.destroy w.1) = _
  rw [PolyKit.LinSys.value_frame q.2.1 d2 (fun a ha => List.mem_append_left _ ha),
    PolyKit.LinSys.value_frame q.2.1 k4 (fun a ha => List.mem_append_left _ ha), l2, a3']
  have : rowValues p.1 cs.rows.impl = (cs.value h₁).rows :=
    PolyKit.rowValues_frame cs.rows.impl a4 (fun a ha => List.mem_append_left _ ha)
  rw [this]

theorem Poly.concatenateAssignCons_eq (h : Heap) (x : Poly) (y : Arg Poly) :
    x.concatenateAssignCons h y =
      if x.nnc != (y.get x).nnc then (h, x.conSys, .threw)
      else if x.markedEmpty || (y.get x).markedEmpty then (h, x.conSys, .markedEmpty)
      else if (y.get x).spaceDim == 0 || x.spaceDim == 0 then (h, x.conSys, .zeroDim)
      else if testAny x.status GS_PENDING || !testAny x.status C_UP
              || testAny (y.get x).status GS_PENDING || !testAny (y.get x).status C_UP then
        (h, x.conSys, .notModelled)
      else
        ((concatTail x.canHaveSomethingPending x.spaceDim (x.conSys.spaceDim + (y.get x).spaceDim)
            (LinSys.copy h (y.get x).conSys).1 x.conSys (LinSys.copy h (y.get x).conSys).2).1,
         (concatTail x.canHaveSomethingPending x.spaceDim (x.conSys.spaceDim + (y.get x).spaceDim)
            (LinSys.copy h (y.get x).conSys).1 x.conSys (LinSys.copy h (y.get x).conSys).2).2,
         if x.canHaveSomethingPending then .movedPending else .moved) := by
  cases y <;> simp only [Poly.concatenateAssignCons, concatTail, Arg.get]

end PPLV.Value.Move.AliasKit

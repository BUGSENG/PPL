import PPLV.Value.MoveProofsVec

/-!
# C13 moving mechanics — `Linear_System`: refinement of the single-row recycling insertions

`insert_pending_no_ok(Row&, Recycle_Input)` / `insert_no_ok(Row&, Recycle_Input)`, `clear()`, `~Linear_System`,
and the system moves `insert_pending(y, Recycle_Input)` / `insert(y, Recycle_Input)`.

No Mathlib.
-/
namespace PPLV.Value.Move
open OwnsKit

namespace OwnsKit

/-! ## `set_space_dimension_no_ok` over all rows -/

theorem owned_getElem (rows : List Row) (j : Nat) (hj : j < rows.length) :
    (owned rows)[j]'(by simpa using hj) = rows[j].impl := by
  simp [owned]

theorem nodup_owned_ne {rows : List Row} (hnd : (owned rows).Nodup) {i j : Nat} (hi : i < rows.length)
    (hj : j < rows.length) (hij : i ≠ j) : rows[i].impl ≠ rows[j].impl := by
  intro e
  have hi' : i < (owned rows).length := by simpa using hi
  have hj' : j < (owned rows).length := by simpa using hj
  have hp : List.Pairwise (· ≠ ·) (owned rows) := hnd
  rw [List.pairwise_iff_getElem] at hp
  rcases Nat.lt_or_gt_of_ne hij with hlt | hgt
  · exact hp i j hi' hj' hlt (by rw [owned_getElem rows i hi, owned_getElem rows j hj]; exact e)
  · exact hp j i hj' hi' hgt (by rw [owned_getElem rows i hi, owned_getElem rows j hj]; exact e.symm)

/-- `for (i = n; i-- > 0; ) rows[i].update();` where the update rewrites the coefficients behind the row in
    place (`f r` is what it does to the cell of row `r`): the shape of `set_space_dimension_no_ok` over the rows of a
    `Linear_System` and of `Congruence_System::set_space_dimension`. -/
def modifyRows (f : Row → List Int → List Int) : Nat → Heap → List Row → Heap
  | 0, h, _ => h
  | i + 1, h, rows =>
    match rows[i]? with
    | some r => modifyRows f i (h.modify r.impl (f r)) rows
    | none => modifyRows f i { h with fault := true } rows

theorem setSpaceDimRows_eq (sd : Nat) : setSpaceDimRows sd = modifyRows (fun r => setSpaceDimCoeffs r.nnc sd) := by
  funext i
  induction i with
  | zero => rfl
  | succ i ih => funext h rows; simp only [setSpaceDimRows, modifyRows, ih]; rfl

theorem modifyRows_succ (f : Row → List Int → List Int) (i : Nat) (h : Heap) (rows : List Row) (hi : i < rows.length) :
    modifyRows f (i + 1) h rows = modifyRows f i (h.modify rows[i].impl (f rows[i])) rows := by
  show (match rows[i]? with
    | some r => modifyRows f i (h.modify r.impl (f r)) rows
    | none => modifyRows f i { h with fault := true } rows) = _
  rw [List.getElem?_eq_getElem hi]

/-- the loop only reads the rows below `i` -/
theorem modifyRows_congr (f : Row → List Int → List Int) : ∀ (i : Nat) (h : Heap) (rows rows' : List Row),
    (∀ j, j < i → rows[j]? = rows'[j]?) → modifyRows f i h rows = modifyRows f i h rows'
  | 0, _, _, _, _ => rfl
  | i + 1, h, rows, rows', hr => by
    unfold modifyRows
    rw [hr i (Nat.lt_succ_self i)]
    cases rows'[i]? <;> exact modifyRows_congr f i _ rows rows' (fun j hj => hr j (by omega))

/-- `g` is the update on row values -/
theorem modifyRows_spec (f : Row → List Int → List Int) (g : RowV → RowV)
    (hg : ∀ (r : Row) (c : List Int), g ⟨c, r.tag, r.nnc⟩ = ⟨f r c, r.tag, r.nnc⟩)
    (rows : List Row) (as : List Nat) (hsub : ∀ r ∈ rows, r.impl ∈ as)
    (hnd : (owned rows).Nodup) : ∀ (i : Nat) (h : Heap), i ≤ rows.length → Owns h as →
    Owns (modifyRows f i h rows) as
    ∧ (∀ a, (∀ j (_ : j < i) (hjl : j < rows.length), rows[j].impl ≠ a) → (modifyRows f i h rows).cells a = h.cells a)
    ∧ (∀ j (_ : j < i) (hjl : j < rows.length), rows[j].val (modifyRows f i h rows) = g (rows[j].val h))
  | 0, h, _, hO => ⟨hO, fun _ _ => rfl, fun j hj => absurd hj (Nat.not_lt_zero _)⟩
  | i + 1, h, hi, hO => by
    have hil : i < rows.length := hi
    rw [modifyRows_succ f i h rows hil]
    have hmem : rows[i].impl ∈ as := hsub _ (List.getElem_mem hil)
    have hO0 : Owns (h.modify rows[i].impl (f rows[i])) as := owns_modify hO hmem _
    obtain ⟨i1, i2, i3⟩ := modifyRows_spec f g hg rows as hsub hnd i _ (by omega) hO0
    refine ⟨i1, fun a ha => ?_, fun j hj hjl => ?_⟩
    · rw [i2 a (fun j hj hjl => ha j (by omega) hjl)]
      exact modify_cells_of_ne h _ (fun e => ha i (by omega) hil e.symm)
    · by_cases hji : j < i
      · rw [i3 j hji hjl]
        congr 1
        apply row_val_congr
        exact modify_cells_of_ne h _ (nodup_owned_ne hnd hjl hil (by omega))
      · have hje : j = i := by omega
        subst hje
        obtain ⟨c, hc⟩ := owns_read_some hO hmem
        have h1 : (modifyRows f j (h.modify rows[j].impl (f rows[j])) rows).cells rows[j].impl
            = some (f rows[j] c) := by
          rw [i2 _ (fun k hk hkl => nodup_owned_ne hnd hkl hil (by omega))]
          exact modify_cells_self _ hc
        simp [Row.val, Heap.read, h1, hc, hg]

theorem modifyRows_full (f : Row → List Int → List Int) (g : RowV → RowV)
    (hg : ∀ (r : Row) (c : List Int), g ⟨c, r.tag, r.nnc⟩ = ⟨f r c, r.tag, r.nnc⟩)
    (rows : List Row) (as : List Nat) (h : Heap) (hsub : ∀ r ∈ rows, r.impl ∈ as)
    (hnd : (owned rows).Nodup) (hO : Owns h as) :
    Owns (modifyRows f rows.length h rows) as
    ∧ (∀ a, a ∉ owned rows → (modifyRows f rows.length h rows).cells a = h.cells a)
    ∧ rowValues (modifyRows f rows.length h rows) rows = (rowValues h rows).map g := by
  obtain ⟨i1, i2, i3⟩ := modifyRows_spec f g hg rows as hsub hnd rows.length h (Nat.le_refl _) hO
  refine ⟨i1, fun a ha => i2 a (fun j _ hjl e => ha (e ▸ mem_owned (List.getElem_mem hjl))), ?_⟩
  unfold rowValues
  rw [List.map_map]
  apply List.map_congr_left
  intro r hr
  obtain ⟨j, hj, rfl⟩ := List.getElem_of_mem hr
  exact i3 j hj hj

theorem setSpaceDimRows_full (sd : Nat) (rows : List Row) (as : List Nat) (h : Heap) (hsub : ∀ r ∈ rows, r.impl ∈ as)
    (hnd : (owned rows).Nodup) (hO : Owns h as) :
    Owns (setSpaceDimRows sd rows.length h rows) as
    ∧ (∀ a, a ∉ owned rows → (setSpaceDimRows sd rows.length h rows).cells a = h.cells a)
    ∧ rowValues (setSpaceDimRows sd rows.length h rows) rows = (rowValues h rows).map (setSpaceDimV sd) := by
  rw [setSpaceDimRows_eq]
  exact modifyRows_full _ _ (fun _ _ => rfl) rows as h hsub hnd hO

/-! ## the pieces of `insert_pending_no_ok` -/

/-- `r.space_dimension()` as read by `insert_pending_no_ok` -/
def rsdOf (h : Heap) (r : Row) : Nat := match r.value h with | some v => v.spaceDim | none => 0

/-- the dimension adjustment at the start of `insert_pending_no_ok` -/
def adjustStep (h : Heap) (s : LinSys) (r : Row) : Heap × LinSys :=
  if s.spaceDim < rsdOf h r then s.setSpaceDimNoOk h (rsdOf h r) else (r.setSpaceDimNoOk h s.spaceDim, s)

theorem insertPendingNoOk_unfold (K : RowClass) (h : Heap) (s : LinSys) (r : Row) :
    s.insertPendingNoOk K h r =
      let a := adjustStep h s r
      let v := a.2.rows.resize K a.1 (a.2.rows.size + 1)
      let b := swapBack v.2.impl r
      (v.1, { a.2 with rows := ⟨b.1, v.2.cap⟩ }, b.2) := by
  -- a bare `rfl` compares the two sides through `SVec.resize` and is ten times dearer
  simp only [LinSys.insertPendingNoOk, adjustStep, rsdOf]
  rfl

theorem insertPendingNoOkV_rest (x : LinSysV) (v : RowV) :
    insertPendingNoOkV x v
      = ⟨(insertPendingNoOkV x v).rows, (insertPendingNoOkV x v).spaceDim, x.nnc, x.firstPending, x.sorted⟩ := by
  unfold insertPendingNoOkV
  split <;> rfl

theorem adjustStep_spec (h : Heap) (s : LinSys) (r : Row) (frame : List Nat)
    (hO : Owns h (s.owned ++ r.impl :: frame)) :
    Owns (adjustStep h s r).1 (s.owned ++ r.impl :: frame)
    ∧ (adjustStep h s r).2 = { s with spaceDim := (insertPendingNoOkV (s.value h) (r.val h)).spaceDim }
    ∧ rowValues (adjustStep h s r).1 s.rows.impl ++ [r.val (adjustStep h s r).1]
        = (insertPendingNoOkV (s.value h) (r.val h)).rows
    ∧ FrameEq h (adjustStep h s r).1 frame := by
  have hrm : r.impl ∈ s.owned ++ r.impl :: frame := by simp
  have hrsd : rsdOf h r = (r.val h).spaceDim := by
    unfold rsdOf; rw [owns_row_value hO hrm]
  have hrn : r.impl ∉ s.owned := fun hm =>
    owns_ne_of_mem_append hO hm (List.mem_cons_self) rfl
  have hfn : ∀ a ∈ frame, a ≠ r.impl := by
    intro a ha e
    have hnd := owns_nodup_right hO
    exact (List.nodup_cons.1 hnd).1 (e ▸ ha)
  unfold adjustStep
  rw [hrsd]
  by_cases hlt : s.spaceDim < (r.val h).spaceDim
  · rw [if_pos hlt]
    obtain ⟨i1, i2, i3⟩ := setSpaceDimRows_full (r.val h).spaceDim s.rows.impl _ h
      (fun r' hr' => List.mem_append_left _ (mem_owned hr')) (owns_nodup_left hO) hO
    have hV : insertPendingNoOkV (s.value h) (r.val h)
        = { s.value h with rows := (s.value h).rows.map (setSpaceDimV (r.val h).spaceDim) ++ [r.val h],
                           spaceDim := (r.val h).spaceDim } := by
      unfold insertPendingNoOkV
      rw [if_pos (show (s.value h).spaceDim < (r.val h).spaceDim from hlt)]
    rw [hV]
    refine ⟨i1, rfl, ?_, fun a ha => ?_⟩
    · show rowValues (setSpaceDimRows _ s.rows.impl.length h s.rows.impl) s.rows.impl ++ [_] = _
      have e2 : r.val (setSpaceDimRows (r.val h).spaceDim s.rows.impl.length h s.rows.impl) = r.val h :=
        row_val_congr (i2 r.impl hrn)
      rw [i3]
      show _ ++ [r.val (setSpaceDimRows (r.val h).spaceDim s.rows.impl.length h s.rows.impl)] = _
      rw [e2]
      rfl
    · exact i2 a (fun hm => owns_ne_of_mem_append hO hm (List.mem_cons_of_mem _ ha) rfl)
  · rw [if_neg hlt]
    have hV : insertPendingNoOkV (s.value h) (r.val h)
        = { s.value h with rows := (s.value h).rows ++ [setSpaceDimV (s.value h).spaceDim (r.val h)] } := by
      unfold insertPendingNoOkV
      rw [if_neg (show ¬ (s.value h).spaceDim < (r.val h).spaceDim from hlt)]
    rw [hV]
    obtain ⟨c, hc⟩ := owns_read_some hO hrm
    refine ⟨owns_modify hO hrm _, rfl, ?_, fun a ha => modify_cells_of_ne h _ (hfn a ha)⟩
    · show rowValues (h.modify r.impl _) s.rows.impl ++ [r.val (h.modify r.impl _)] = rowValues h s.rows.impl ++ [_]
      rw [rowValues_congr (frameEq_modify _ hrn)]
      congr 2
      simp [Row.val, Heap.read, modify_cells_self _ hc, hc, setSpaceDimV, LinSys.value]

theorem eq_append_singleton_of_take {α : Type} (l a : List α) (n : Nat) (ht : l.take n = a) (hl : l.length = n + 1) :
    ∃ d, l = a ++ [d] := by
  have hd : (l.drop n).length = 1 := by simp [hl]
  match hdd : l.drop n, hd with
  | [d], _ => exact ⟨d, by rw [← ht, ← hdd, List.take_append_drop]⟩

theorem swapBack_concat (l : List Row) (d r : Row) : swapBack (l ++ [d]) r = (l ++ [r], d) := by
  simp [swapBack]

/-- `rows.resize(rows.size() + 1); swap(rows.back(), r);` -/
theorem pushStep_spec (K : RowClass) (h : Heap) (v : SVec) (r : Row) (frame : List Nat)
    (hO : Owns h (owned v.impl ++ r.impl :: frame)) :
    ∃ d, (v.resize K h (v.size + 1)).2.impl = v.impl ++ [d]
      ∧ d.val (v.resize K h (v.size + 1)).1 = dfltV K
      ∧ Owns (v.resize K h (v.size + 1)).1 (owned (v.impl ++ [r]) ++ d.impl :: frame)
      ∧ (∀ a ∈ owned v.impl ++ r.impl :: frame, (v.resize K h (v.size + 1)).1.cells a = h.cells a) := by
  obtain ⟨g1, g2, g3, g4, g5⟩ := resize_grow_refines K h v (v.size + 1) (r.impl :: frame) hO (Nat.le_succ _)
  obtain ⟨d, hd⟩ := eq_append_singleton_of_take _ _ _ g1 g2
  refine ⟨d, hd, ?_, ?_, g5⟩
  · apply g3
    rw [hd]
    have : v.size = v.impl.length := rfl
    rw [this, List.drop_left]
    simp
  · rw [hd] at g4
    refine owns_perm g4 ?_
    simp only [owned_append, owned_cons, owned_nil, List.append_assoc, List.singleton_append]
    apply List.Perm.append_left
    exact List.Perm.swap _ _ _

end OwnsKit

/-! ## interface lemmas -/

theorem insertPendingNoOk_refines (K : RowClass) (h : Heap) (s : LinSys) (r : Row) (frame : List Nat)
    (hO : Owns h (s.owned ++ r.impl :: frame)) :
    let out := s.insertPendingNoOk K h r
    Owns out.1 (out.2.1.owned ++ out.2.2.impl :: frame)
    ∧ out.2.1.value out.1 = insertPendingNoOkV (s.value h) (r.val h)
    ∧ out.2.2.val out.1 = dfltV K
    ∧ FrameEq h out.1 frame := by
  intro out
  obtain ⟨a1, a2, a3, a4⟩ := adjustStep_spec h s r frame hO
  have hout : out = _ := insertPendingNoOk_unfold K h s r
  generalize adjustStep h s r = p at a1 a2 a3 a4 hout
  obtain ⟨h1, s1⟩ := p
  simp only at a1 a2 a3 a4 hout
  have hrows : s1.rows = s.rows := by rw [a2]
  rw [hrows] at hout
  have hO1 : Owns h1 (owned s.rows.impl ++ r.impl :: frame) := a1
  obtain ⟨d, p1, p2, p3, p4⟩ := pushStep_spec K h1 s.rows r frame hO1
  rw [p1, swapBack_concat] at hout
  simp only at hout
  rw [hout]
  refine ⟨p3, ?_, p2, ?_⟩
  · show (⟨rowValues _ (s.rows.impl ++ [r]), s1.spaceDim, s1.nnc, s1.firstPending, s1.sorted⟩ : LinSysV) = _
    rw [insertPendingNoOkV_rest, ← a3, a2]
    have e1 : rowValues (s.rows.resize K h1 (s.rows.size + 1)).1 (s.rows.impl ++ [r])
        = rowValues h1 s.rows.impl ++ [r.val h1] := by
      have : FrameEq h1 (s.rows.resize K h1 (s.rows.size + 1)).1 (owned (s.rows.impl ++ [r])) := by
        intro a ha
        apply p4
        simp only [owned_append, owned_cons, owned_nil, List.mem_append, List.mem_singleton] at ha
        rcases ha with ha | ha
        · exact List.mem_append_left _ ha
        · exact List.mem_append_right _ (ha ▸ List.mem_cons_self)
      rw [rowValues_congr this]
      simp
    rw [e1]
    rfl
  · intro a ha
    show (s.rows.resize K h1 (s.rows.size + 1)).1.cells a = h.cells a
    rw [p4 a (List.mem_append_right _ (List.mem_cons_of_mem _ ha))]
    exact a4 a ha

/-! # `insert_no_ok`, `clear`, destructor, system moves -/

namespace OwnsKit

/-! ## comparisons read the same values -/

theorem rowsLe_eq_leV (K : RowClass) (h : Heap) (a b : Option Row)
    (ha : ∀ r, a = some r → ∃ c, h.cells r.impl = some c) (hb : ∀ r, b = some r → ∃ c, h.cells r.impl = some c) :
    rowsLe K h a b = leV K (a.map (Row.val h)) (b.map (Row.val h)) := by
  cases a with
  | none => rfl
  | some x =>
    cases b with
    | none => rfl
    | some y =>
      obtain ⟨c, hc⟩ := ha x rfl
      obtain ⟨c', hc'⟩ := hb y rfl
      simp [rowsLe, leV, row_value_eq_some_val hc, row_value_eq_some_val hc']

theorem live_getElem? {h : Heap} {as : List Nat} (hO : Owns h as) {rows : List Row} (hsub : ∀ r ∈ rows, r.impl ∈ as)
    (i : Nat) : ∀ r, rows[i]? = some r → ∃ c, h.cells r.impl = some c := by
  intro r hr
  exact owns_read_some hO (hsub r (List.mem_of_getElem? hr))

theorem rowValues_getElem? (h : Heap) (rows : List Row) (i : Nat) :
    (rowValues h rows)[i]? = (rows[i]?).map (Row.val h) := by
  simp [rowValues]

/-! ## `insert_no_ok` -/

/-- the `sorted` bookkeeping of `insert_no_ok` -/
def noOkFlag (K : RowClass) (ws : Bool) (h₁ : Heap) (s₁ : LinSys) : LinSys :=
  if ws then
    (if s₁.numRows > 1 then
      { s₁ with sorted := rowsLe K h₁ s₁.rows.impl[s₁.numRows - 2]? s₁.rows.impl[s₁.numRows - 1]? }
     else { s₁ with sorted := true })
  else s₁

def noOkFlagV (K : RowClass) (ws : Bool) (x₁ : LinSysV) : LinSysV :=
  let n := x₁.rows.length
  let x₂ := if ws then
      (if n > 1 then { x₁ with sorted := leV K x₁.rows[n - 2]? x₁.rows[n - 1]? } else { x₁ with sorted := true })
    else x₁
  { x₂ with firstPending := x₂.rows.length }

theorem insertNoOk_unfold (K : RowClass) (h : Heap) (s : LinSys) (r : Row) :
    s.insertNoOk K h r
      = ((s.insertPendingNoOk K h r).1,
          (noOkFlag K s.sorted (s.insertPendingNoOk K h r).1 (s.insertPendingNoOk K h r).2.1).unsetPendingRows,
          (s.insertPendingNoOk K h r).2.2) := by
  simp only [LinSys.insertNoOk, noOkFlag]

theorem insertNoOkV_unfold (K : RowClass) (x : LinSysV) (r : RowV) :
    insertNoOkV K x r = noOkFlagV K x.sorted (insertPendingNoOkV x r) := rfl

theorem noOkFlag_rows (K : RowClass) (ws : Bool) (h₁ : Heap) (s₁ : LinSys) :
    (noOkFlag K ws h₁ s₁).unsetPendingRows.rows = s₁.rows := by
  unfold noOkFlag LinSys.unsetPendingRows
  cases ws
  · rfl
  · by_cases hn : s₁.numRows > 1 <;> simp [hn]

theorem noOkFlag_value (K : RowClass) (ws : Bool) (h₁ : Heap) (s₁ : LinSys) (as : List Nat) (hO : Owns h₁ as)
    (hsub : ∀ r ∈ s₁.rows.impl, r.impl ∈ as) :
    (noOkFlag K ws h₁ s₁).unsetPendingRows.value h₁ = noOkFlagV K ws (s₁.value h₁) := by
  have hle := rowsLe_eq_leV K h₁ s₁.rows.impl[s₁.numRows - 2]? s₁.rows.impl[s₁.numRows - 1]?
    (live_getElem? hO hsub _) (live_getElem? hO hsub _)
  have hlen : (s₁.value h₁).rows.length = s₁.numRows := by
    simp [LinSys.value, LinSys.numRows, SVec.size]
  unfold noOkFlag noOkFlagV
  simp only [hlen]
  cases ws
  · simp [LinSys.value, LinSys.unsetPendingRows, LinSys.numRows, SVec.size]
  · by_cases hn : s₁.numRows > 1
    · simp only [hn, if_true, hle]
      simp [LinSys.value, LinSys.unsetPendingRows, LinSys.numRows, SVec.size, rowValues_getElem?]
    · simp only [hn, if_false]
      simp [LinSys.value, LinSys.unsetPendingRows, LinSys.numRows, SVec.size]

end OwnsKit

theorem insertNoOk_refines (K : RowClass) (h : Heap) (s : LinSys) (r : Row) (frame : List Nat)
    (hO : Owns h (s.owned ++ r.impl :: frame)) :
    let out := s.insertNoOk K h r
    Owns out.1 (out.2.1.owned ++ out.2.2.impl :: frame)
    ∧ out.2.1.value out.1 = insertNoOkV K (s.value h) (r.val h)
    ∧ out.2.2.val out.1 = dfltV K
    ∧ FrameEq h out.1 frame := by
  intro out
  obtain ⟨p1, p2, p3, p4⟩ := insertPendingNoOk_refines K h s r frame hO
  have hout : out = _ := insertNoOk_unfold K h s r
  generalize s.insertPendingNoOk K h r = q at p1 p2 p3 p4 hout
  obtain ⟨h1, s1, r'⟩ := q
  simp only at p1 p2 p3 p4 hout
  rw [hout]
  refine ⟨?_, ?_, p3, p4⟩
  · show Owns h1 (owned (noOkFlag K s.sorted h1 s1).unsetPendingRows.rows.impl ++ r'.impl :: frame)
    rw [noOkFlag_rows]
    exact p1
  · show (noOkFlag K s.sorted h1 s1).unsetPendingRows.value h1 = _
    rw [noOkFlag_value K s.sorted h1 s1 _ p1 (fun r hr => List.mem_append_left _ (mem_owned hr)), p2,
      insertNoOkV_unfold]
    rfl

/-! ## `clear`, destructor -/

theorem LinSys.clear_refines (h : Heap) (s : LinSys) (frame : List Nat) (hO : Owns h (s.owned ++ frame)) :
    Owns (LinSys.clear h s).1 frame ∧ (LinSys.clear h s).2.value (LinSys.clear h s).1 = clearV (s.value h)
    ∧ (LinSys.clear h s).2.owned = [] ∧ FrameEq h (LinSys.clear h s).1 frame := by
  obtain ⟨_, i1, i2⟩ := Move.clear_refines h s.rows frame hO
  exact ⟨i1, rfl, rfl, i2⟩

theorem LinSys.destroy_refines (h : Heap) (s : LinSys) (frame : List Nat) (hO : Owns h (s.owned ++ frame)) :
    Owns (s.destroy h) frame ∧ FrameEq h (s.destroy h) frame :=
  destroyRows_refines h s.rows.impl frame hO

/-! ## `insert_pending(y, Recycle_Input)` -/

namespace OwnsKit

theorem stealRowsLoop_step (K : RowClass) (pre post : List Row) (r : Row) (h : Heap) (x : LinSys) :
    stealRowsLoop K (r :: post).length pre.length h x (pre ++ r :: post)
      = stealRowsLoop K post.length (pre ++ [(x.insertPendingNoOk K h r).2.2]).length (x.insertPendingNoOk K h r).1
          (x.insertPendingNoOk K h r).2.1 ((pre ++ [(x.insertPendingNoOk K h r).2.2]) ++ post) := by
  have e1 : (pre ++ r :: post)[pre.length]? = some r := by simp
  rw [List.length_cons, stealRowsLoop]
  simp [LinSys.insertPendingRow]

theorem stealRowsLoop_spec (K : RowClass) : ∀ (post pre : List Row) (h : Heap) (x : LinSys) (frame : List Nat),
    Owns h (x.owned ++ owned (pre ++ post) ++ frame) →
    Owns (stealRowsLoop K post.length pre.length h x (pre ++ post)).1
      ((stealRowsLoop K post.length pre.length h x (pre ++ post)).2.1.owned
        ++ owned (stealRowsLoop K post.length pre.length h x (pre ++ post)).2.2 ++ frame)
    ∧ (stealRowsLoop K post.length pre.length h x (pre ++ post)).2.1.value
        (stealRowsLoop K post.length pre.length h x (pre ++ post)).1
        = (rowValues h post).foldl insertPendingNoOkV (x.value h)
    ∧ FrameEq h (stealRowsLoop K post.length pre.length h x (pre ++ post)).1 frame
  | [], pre, h, x, frame, hO => by
    simp only [List.length_nil, stealRowsLoop, List.append_nil] at *
    exact ⟨hO, rfl, frameEq_refl h frame⟩
  | r :: post, pre, h, x, frame, hO => by
    rw [stealRowsLoop_step]
    have hO' : Owns h (x.owned ++ r.impl :: (owned pre ++ owned post ++ frame)) := by
      refine owns_perm hO ?_
      owns_perm_tac
    obtain ⟨p1, p2, _, p4⟩ := insertPendingNoOk_refines K h x r _ hO'
    generalize x.insertPendingNoOk K h r = q at p1 p2 p4
    obtain ⟨h1, x1, r'⟩ := q
    simp only at p1 p2 p4 ⊢
    have hO1 : Owns h1 (x1.owned ++ owned ((pre ++ [r']) ++ post) ++ frame) := by
      refine owns_perm p1 ?_
      owns_perm_tac
    obtain ⟨i1, i2, i3⟩ := stealRowsLoop_spec K post (pre ++ [r']) h1 x1 frame hO1
    refine ⟨i1, ?_, frameEq_trans (frameEq_append_right p4) i3⟩
    rw [i2, p2]
    have : rowValues h1 post = rowValues h post :=
      rowValues_congr (frameEq_append_right (frameEq_append_left p4))
    rw [this]
    rfl

theorem insertPendingSys_unfold (K : RowClass) (h : Heap) (x y : LinSys) :
    x.insertPendingSys K h y =
      let l := stealRowsLoop K y.numRows 0 h x y.rows.impl
      let c := LinSys.clear l.1 { y with rows := ⟨l.2.2, y.rows.cap⟩ }
      (c.1, l.2.1, c.2) := by
  simp only [LinSys.insertPendingSys]

end OwnsKit

theorem insertPendingSys_refines (K : RowClass) (h : Heap) (x y : LinSys) (frame : List Nat)
    (hO : Owns h (x.owned ++ y.owned ++ frame)) :
    let out := x.insertPendingSys K h y
    Owns out.1 (out.2.1.owned ++ frame)
    ∧ out.2.1.value out.1 = insertPendingSysV (x.value h) (y.value h)
    ∧ out.2.2.value out.1 = clearV (y.value h) ∧ out.2.2.owned = []
    ∧ FrameEq h out.1 frame := by
  intro out
  have hout : out = _ := insertPendingSys_unfold K h x y
  have hO0 : Owns h (x.owned ++ owned ([] ++ y.rows.impl) ++ frame) := hO
  obtain ⟨i1, i2, i3⟩ := stealRowsLoop_spec K y.rows.impl [] h x frame hO0
  have e0 : stealRowsLoop K y.rows.impl.length ([] : List Row).length h x ([] ++ y.rows.impl)
      = stealRowsLoop K y.numRows 0 h x y.rows.impl := rfl
  rw [e0] at i1 i2 i3
  generalize stealRowsLoop K y.numRows 0 h x y.rows.impl = q at i1 i2 i3 hout
  obtain ⟨h1, x1, yrows⟩ := q
  simp only at i1 i2 i3 hout
  have hO1 : Owns h1 ((⟨⟨yrows, y.rows.cap⟩, y.spaceDim, y.nnc, y.firstPending, y.sorted⟩ : LinSys).owned
      ++ (x1.owned ++ frame)) := by
    refine owns_perm i1 ?_
    owns_perm_tac
  obtain ⟨c1, c2, c3, c4⟩ := LinSys.clear_refines h1 _ _ hO1
  rw [hout]
  refine ⟨c1, ?_, c2, c3, frameEq_trans i3 (frameEq_append_right c4)⟩
  show x1.value _ = _
  rw [LinSys.value_congr h1 _ x1 (frameEq_append_left c4), i2]
  rfl

/-! ## `insert(y, Recycle_Input)` -/

namespace OwnsKit

/-- the `sorted` bookkeeping at the start of `insert(y, Recycle_Input)` -/
def insertSysFlag (K : RowClass) (h : Heap) (x y : LinSys) : LinSys :=
  if x.sorted then
    if !y.sorted || y.numPendingRows > 0 then { x with sorted := false }
    else
      if x.numRows > 0 then { x with sorted := rowsLe K h x.rows.impl[x.numRows - 1]? y.rows.impl[0]? } else x
  else x

def insertSysFlagV (K : RowClass) (x y : LinSysV) : LinSysV :=
  if x.sorted then
    if !y.sorted || y.numPendingRows > 0 then { x with sorted := false }
    else if x.rows.length > 0 then { x with sorted := leV K x.rows[x.rows.length - 1]? y.rows[0]? } else x
  else x

theorem insertSys_unfold (K : RowClass) (h : Heap) (x y : LinSys) (hy : y.hasNoRows = false) :
    x.insertSys K h y
      = (((insertSysFlag K h x y).insertPendingSys K h y).1,
          ((insertSysFlag K h x y).insertPendingSys K h y).2.1.unsetPendingRows,
          ((insertSysFlag K h x y).insertPendingSys K h y).2.2) := by
  unfold LinSys.insertSys
  simp only [hy]
  rfl

theorem insertSysV_unfold (K : RowClass) (x y : LinSysV) (hy : y.rows.isEmpty = false) :
    insertSysV K x y
      = { insertPendingSysV (insertSysFlagV K x y) y with
          firstPending := (insertPendingSysV (insertSysFlagV K x y) y).rows.length } := by
  unfold insertSysV
  simp only [hy]
  rfl

theorem insertSysFlag_rows (K : RowClass) (h : Heap) (x y : LinSys) : (insertSysFlag K h x y).rows = x.rows := by
  unfold insertSysFlag
  repeat' split
  all_goals rfl

theorem insertSysFlag_value (K : RowClass) (h : Heap) (x y : LinSys) (as : List Nat) (hO : Owns h as)
    (hx : ∀ r ∈ x.rows.impl, r.impl ∈ as) (hy : ∀ r ∈ y.rows.impl, r.impl ∈ as) :
    (insertSysFlag K h x y).value h = insertSysFlagV K (x.value h) (y.value h) := by
  have hle := rowsLe_eq_leV K h x.rows.impl[x.numRows - 1]? y.rows.impl[0]?
    (live_getElem? hO hx _) (live_getElem? hO hy _)
  have hlen : (x.value h).rows.length = x.numRows := by
    simp [LinSys.value, LinSys.numRows, SVec.size]
  have hpend : (y.value h).numPendingRows = y.numPendingRows := by
    simp [LinSys.value, LinSysV.numPendingRows, LinSys.numPendingRows, LinSys.numRows, SVec.size]
  unfold insertSysFlag insertSysFlagV
  rw [hlen, hpend]
  have hs : (x.value h).sorted = x.sorted := rfl
  have hys : (y.value h).sorted = y.sorted := rfl
  rw [hs, hys]
  by_cases h1 : x.sorted = true
  · simp only [h1, if_true]
    by_cases h2 : (!y.sorted || decide (y.numPendingRows > 0)) = true
    · simp only [h2, if_true]; rfl
    · simp only [h2]
      by_cases h3 : x.numRows > 0
      · simp only [h3, if_true, hle]
        simp [LinSys.value, rowValues_getElem?]
      · simp [h3]
  · simp [h1]

end OwnsKit

theorem insertSys_refines (K : RowClass) (h : Heap) (x y : LinSys) (frame : List Nat)
    (hO : Owns h (x.owned ++ y.owned ++ frame)) :
    let out := x.insertSys K h y
    Owns out.1 (out.2.1.owned ++ out.2.2.owned ++ frame)
    ∧ out.2.1.value out.1 = insertSysV K (x.value h) (y.value h)
    ∧ out.2.2.value out.1 = insertSysArgV (y.value h)
    ∧ (y.hasNoRows = true → out.2.2 = y) ∧ (y.hasNoRows = false → out.2.2.owned = [])
    ∧ FrameEq h out.1 frame := by
  intro out
  have hemp : (y.value h).rows.isEmpty = y.hasNoRows := by
    simp [LinSys.value, LinSys.hasNoRows, rowValues]
  by_cases hy : y.hasNoRows = true
  · have hout : out = (h, x, y) := by
      show x.insertSys K h y = _
      unfold LinSys.insertSys
      simp [hy]
    rw [hout]
    refine ⟨hO, ?_, ?_, fun _ => rfl, fun hn => ?_, frameEq_refl h frame⟩
    · show x.value h = _
      unfold insertSysV
      simp [hemp, hy]
    · show y.value h = _
      unfold insertSysArgV
      simp [hemp, hy]
    · rw [hy] at hn; cases hn
  · have hy' : y.hasNoRows = false := by simpa using hy
    have hout : out = _ := insertSys_unfold K h x y hy'
    have hOf : Owns h ((insertSysFlag K h x y).owned ++ y.owned ++ frame) := by
      show Owns h (owned (insertSysFlag K h x y).rows.impl ++ y.owned ++ frame)
      rw [insertSysFlag_rows]; exact hO
    obtain ⟨p1, p2, p3, p4, p5⟩ := insertPendingSys_refines K h (insertSysFlag K h x y) y frame hOf
    generalize (insertSysFlag K h x y).insertPendingSys K h y = q at p1 p2 p3 p4 p5 hout
    obtain ⟨h1, x1, y1⟩ := q
    simp only at p1 p2 p3 p4 p5 hout
    rw [hout]
    refine ⟨?_, ?_, ?_, fun hn => ?_, fun _ => p4, p5⟩
    · show Owns h1 (x1.owned ++ y1.owned ++ frame)
      rw [p4]; simpa using p1
    · show x1.unsetPendingRows.value h1 = _
      rw [insertSysV_unfold K _ _ (by rw [hemp]; exact hy')]
      rw [← insertSysFlag_value K h x y _ hO
        (fun r hr => List.mem_append_left _ (List.mem_append_left _ (mem_owned hr)))
        (fun r hr => List.mem_append_left _ (List.mem_append_right _ (mem_owned hr))), ← p2]
      simp [LinSys.value, LinSys.unsetPendingRows, LinSys.numRows, SVec.size]
    · show y1.value h1 = _
      rw [p3]
      unfold insertSysArgV
      simp [hemp, hy']
    · rw [hy'] at hn; cases hn

end PPLV.Value.Move

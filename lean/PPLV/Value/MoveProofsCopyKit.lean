import PPLV.Value.MoveProofsOwn
/-!
# C13 moving mechanics — `Row.copy` and `copyRows`, with the list facts they need (namespace `CopyKit`)
No Mathlib.
-/
namespace PPLV.Value.Move
open OwnsKit
namespace CopyKit

theorem perm_test (a b c : List Nat) (x y : Nat) : (a ++ x :: b ++ y :: c).Perm (y :: x :: (c ++ b ++ a)) := by
  owns_perm_tac

/-! ### Owns -/

theorem alloc_snd (h : Heap) (c : List Int) : (h.alloc c).2 = h.next := rfl
theorem alloc_fault (h : Heap) (c : List Int) : (h.alloc c).1.fault = h.fault := rfl

/-- freeing the head of the owned list, with the frame of the rest -/
theorem owns_free {h : Heap} {a : Nat} {as : List Nat} (hO : Owns h (a :: as)) :
    Owns (h.free a) as ∧ ∀ x ∈ as, (h.free a).cells x = h.cells x :=
  ⟨owns_free_head hO, fun _ hx => free_cells_of_ne h (fun e => (List.nodup_cons.mp hO.2.1).1 (e ▸ hx))⟩

theorem owns_modify {h : Heap} {a : Nat} {as : List Nat} (hO : Owns h as) (ha : a ∈ as) (f : List Int → List Int) :
    Owns (h.modify a f) as ∧ (∀ x, x ≠ a → (h.modify a f).cells x = h.cells x)
    ∧ (h.modify a f).cells a = (h.cells a).map f := by
  obtain ⟨c, hc⟩ := owns_read_some hO ha
  exact ⟨OwnsKit.owns_modify hO ha f, fun _ hx => modify_cells_of_ne h f hx, by rw [modify_cells_self f hc, hc]; rfl⟩

/-! ### FrameEq -/

theorem frameEq_refl (h : Heap) (f : List Nat) : FrameEq h h f := fun _ _ => rfl

/-! ### rows -/

theorem owned_cons (r : Row) (rs : List Row) : owned (r :: rs) = r.impl :: owned rs := rfl
theorem owned_nil : owned [] = [] := rfl
theorem mem_owned_of_getElem? {r : Row} {rs : List Row} {i : Nat} (h : rs[i]? = some r) : r.impl ∈ owned rs :=
  mem_owned (List.mem_of_getElem? h)

theorem owned_set (rs : List Row) (i : Nat) (r : Row) : owned (rs.set i r) = (owned rs).set i r.impl := by
  simp [owned, List.map_set]

/-- replacing one element: the new element and the old list are a permutation of the old element and the new list -/
theorem perm_set {α : Type} [DecidableEq α] (l : List α) (i : Nat) (d x : α) (hd : l[i]? = some d) :
    (x :: l).Perm (d :: l.set i x) := by
  induction l generalizing i with
  | nil => simp at hd
  | cons a l ih =>
    cases i with
    | zero =>
      simp at hd; subst hd
      simp only [List.set_cons_zero]
      exact List.Perm.swap _ _ _
    | succ i =>
      simp at hd
      simp only [List.set_cons_succ]
      have := ih i hd
      exact (List.Perm.swap a x l).trans ((this.cons a).trans (List.Perm.swap d a _))

theorem nodup_impl_ne {rows : List Row} (hn : (owned rows).Nodup) {i j : Nat} {r r' : Row}
    (hi : rows[i]? = some r) (hj : rows[j]? = some r') (hij : i ≠ j) : r.impl ≠ r'.impl := by
  have hp := List.pairwise_iff_getElem.mp hn
  have hil : i < rows.length := (List.getElem?_eq_some_iff.mp hi).1
  have hjl : j < rows.length := (List.getElem?_eq_some_iff.mp hj).1
  have ei : (owned rows)[i]'(by rw [owned_length]; exact hil) = r.impl := by
    simp [owned, (List.getElem?_eq_some_iff.mp hi).2]
  have ej : (owned rows)[j]'(by rw [owned_length]; exact hjl) = r'.impl := by
    simp [owned, (List.getElem?_eq_some_iff.mp hj).2]
  rcases Nat.lt_or_gt_of_ne hij with hlt | hlt
  · have := hp i j (by rw [owned_length]; exact hil) (by rw [owned_length]; exact hjl) hlt
    rw [ei, ej] at this; exact this
  · have := hp j i (by rw [owned_length]; exact hjl) (by rw [owned_length]; exact hil) hlt
    rw [ei, ej] at this; exact fun e => this e.symm

/-! ### `Row.copy` -/

theorem rowCopy_spec {h : Heap} {as : List Nat} (hO : Owns h as) {r : Row} (hr : r.impl ∈ as) :
    Owns (Row.copy h r).1 ((Row.copy h r).2.impl :: as)
    ∧ (Row.copy h r).2.val (Row.copy h r).1 = r.val h
    ∧ (∀ a ∈ as, (Row.copy h r).1.cells a = h.cells a)
    ∧ (Row.copy h r).2.tag = r.tag ∧ (Row.copy h r).2.nnc = r.nnc := by
  obtain ⟨c, hc⟩ := owns_read_some hO hr
  have e : Row.copy h r = ((h.alloc c).1, { r with impl := h.next }) := by
    unfold Row.copy Heap.read; rw [hc]; rfl
  rw [e]
  refine ⟨owns_alloc hO c, ?_, fun _ ha => owns_alloc_cells_of_mem hO c ha, rfl, rfl⟩
  simp [Row.val, Heap.read, alloc_cells, hc]

/-! ### `copyRows` -/

theorem copyRows_spec (rows : List Row) : ∀ (h : Heap) (as : List Nat), Owns h as → (∀ r ∈ rows, r.impl ∈ as) →
    Owns (copyRows h rows).1 (owned (copyRows h rows).2 ++ as)
    ∧ rowValues (copyRows h rows).1 (copyRows h rows).2 = rowValues h rows
    ∧ (∀ a ∈ as, (copyRows h rows).1.cells a = h.cells a)
    ∧ (copyRows h rows).2.length = rows.length := by
  induction rows with
  | nil => intro h as hO _; exact ⟨by simpa [copyRows, owned] using hO, rfl, fun _ _ => rfl, rfl⟩
  | cons r rs ih =>
    intro h as hO hm
    obtain ⟨c1, c2, c3, _, _⟩ := rowCopy_spec hO (hm r List.mem_cons_self)
    have e : copyRows h (r :: rs) = ((copyRows (Row.copy h r).1 rs).1, (Row.copy h r).2 :: (copyRows (Row.copy h r).1 rs).2) := rfl
    rw [e]
    obtain ⟨i1, i2, i3, i4⟩ := ih (Row.copy h r).1 ((Row.copy h r).2.impl :: as) c1
      (fun x hx => List.mem_cons_of_mem _ (hm x (List.mem_cons_of_mem _ hx)))
    refine ⟨?_, ?_, ?_, ?_⟩
    · refine owns_perm i1 ?_
      simp only [owned_cons]
      owns_perm_tac
    · simp only [rowValues, List.map_cons] at *
      rw [i2]
      congr 1
      · rw [row_val_congr (i3 _ List.mem_cons_self), c2]
      · apply List.map_congr_left
        intro x hx
        exact row_val_congr (c3 _ (hm x (List.mem_cons_of_mem _ hx)))
    · intro a ha
      rw [i3 a (List.mem_cons_of_mem _ ha), c3 a ha]
    · simp [i4]

end CopyKit
end PPLV.Value.Move

import PPLV.Value.Proofs

/-! # C13 — the `Determinate` machine: reference counts are exact, for every history -/
namespace PPLV.Value.Cow
variable {P : Type}

/-- The representation invariant of the handle/heap machine. -/
structure Inv (σ : State P) : Prop where
  nofault : σ.fault = false
  fresh : ∀ a, σ.next ≤ a → σ.heap a = none
  live : ∀ a r, σ.heap a = some r → r.refs = holders σ a ∧ 0 < r.refs
  dead : ∀ a, σ.heap a = none → holders σ a = 0

theorem prep_eq_some {σ : State P} {h a : Nat} : σ.prep h = some a ↔ σ.handles[h]? = some (some a) := by
  simp [State.prep, Option.join_eq_some_iff]

theorem prep_eq_none {σ : State P} {h : Nat} (hh : h < σ.handles.length) :
    σ.prep h = none ↔ σ.handles[h]? = some none := by
  simp only [State.prep, List.getElem?_eq_getElem hh, Option.join_some, Option.some.injEq]

theorem lt_of_prep {σ : State P} {h a : Nat} (hp : σ.prep h = some a) : h < σ.handles.length := by
  rw [prep_eq_some] at hp
  exact (List.getElem?_eq_some_iff.mp hp).1

theorem holders_pos_of_prep {σ : State P} {h a : Nat} (hp : σ.prep h = some a) : 0 < holders σ a := by
  rw [prep_eq_some] at hp
  exact List.count_pos_iff.mpr (List.mem_of_getElem? hp)

/-- a live handle points to a live `Rep` whose counter is the number of its holders -/
theorem Inv.cell {σ : State P} (I : Inv σ) {h a : Nat} (hp : σ.prep h = some a) :
    ∃ r, σ.heap a = some r ∧ r.refs = holders σ a ∧ 0 < r.refs := by
  cases hc : σ.heap a with
  | none => have := I.dead a hc; have := holders_pos_of_prep hp; omega
  | some r => exact ⟨r, rfl, I.live a r hc⟩

theorem holders_setPrep (σ : State P) (h : Nat) (o v : Option Nat) (hh : σ.handles[h]? = some o) (a : Nat) :
    holders (σ.setPrep h v) a + (if o = some a then 1 else 0)
      = holders σ a + (if v = some a then 1 else 0) := by
  obtain ⟨hl, he⟩ := List.getElem?_eq_some_iff.mp hh
  have := count_set_add σ.handles h v (some a) hl
  simp only [he, beq_iff_eq] at this
  simpa [holders, State.setPrep] using this

@[simp] theorem setCell_heap (σ : State P) (a : Nat) (c : Option (Rep P)) (x : Nat) :
    (σ.setCell a c).heap x = if x = a then c else σ.heap x := rfl
@[simp] theorem setCell_handles (σ : State P) (a : Nat) (c : Option (Rep P)) :
    (σ.setCell a c).handles = σ.handles := rfl
@[simp] theorem setCell_next (σ : State P) (a : Nat) (c : Option (Rep P)) : (σ.setCell a c).next = σ.next := rfl
@[simp] theorem setCell_fault (σ : State P) (a : Nat) (c : Option (Rep P)) : (σ.setCell a c).fault = σ.fault := rfl
@[simp] theorem setPrep_heap (σ : State P) (h : Nat) (v : Option Nat) : (σ.setPrep h v).heap = σ.heap := rfl
@[simp] theorem setPrep_next (σ : State P) (h : Nat) (v : Option Nat) : (σ.setPrep h v).next = σ.next := rfl
@[simp] theorem setPrep_fault (σ : State P) (h : Nat) (v : Option Nat) : (σ.setPrep h v).fault = σ.fault := rfl
@[simp] theorem setPrep_handles (σ : State P) (h : Nat) (v : Option Nat) :
    (σ.setPrep h v).handles = σ.handles.set h v := rfl
@[simp] theorem holders_setCell (σ : State P) (a : Nat) (c : Option (Rep P)) (x : Nat) :
    holders (σ.setCell a c) x = holders σ x := rfl

theorem State.ext' {σ τ : State P} (h1 : σ.heap = τ.heap) (h2 : σ.next = τ.next)
    (h3 : σ.handles = τ.handles) (h4 : σ.fault = τ.fault) : σ = τ := by
  cases σ; cases τ; simp_all

/-- `new_reference` on a live cell -/
theorem newRef_eq {σ : State P} {a : Nat} {r : Rep P} (hr : σ.heap a = some r) :
    newRef σ a = σ.setCell a (some { r with refs := r.refs + 1 }) := by
  simp [newRef, hr]

/-- `if (prep->del_reference()) delete prep;` on a live cell with a positive counter -/
theorem release_eq {σ : State P} {a : Nat} {r : Rep P} (hr : σ.heap a = some r) (hpos : 0 < r.refs) :
    release σ a = σ.setCell a (if r.refs = 1 then none else some { r with refs := r.refs - 1 }) := by
  have h0 : r.refs ≠ 0 := by omega
  by_cases h1 : r.refs = 1
  · simp only [release, delRef, hr, h1, Nat.sub_self, beq_self_eq_true, if_true, free]
    apply State.ext' <;> simp [State.setCell]
    funext x; by_cases hx : x = a <;> simp [hx]
  · have h2 : ¬ (r.refs - 1 = 0) := by omega
    simp [release, delRef, hr, h0, h1, h2]

/-- address of a live cell is below `next` -/
theorem Inv.lt_next {σ : State P} (I : Inv σ) {a : Nat} {r : Rep P} (hr : σ.heap a = some r) : a < σ.next := by
  rcases Nat.lt_or_ge a σ.next with h | h
  · exact h
  · rw [I.fresh a h] at hr; cases hr

theorem Inv.holders_next {σ : State P} (I : Inv σ) : holders σ σ.next = 0 :=
  I.dead _ (I.fresh _ (Nat.le_refl _))

/-- `mutate()` on an unshared representation does nothing -/
theorem mutateAt_unshared {σ : State P} {h a : Nat} {r : Rep P} (hr : σ.heap a = some r) (h1 : ¬ 1 < r.refs) :
    mutateAt σ h a = σ := by
  simp [mutateAt, hr, h1]

/-- `mutate()` on a shared representation: clone, decrement the old counter, count the clone once -/
theorem mutateAt_shared {σ : State P} (I : Inv σ) {h a : Nat} {r : Rep P} (hr : σ.heap a = some r)
    (h1 : 1 < r.refs) :
    mutateAt σ h a =
      { heap := fun x => if x = σ.next then some ⟨1, r.pset⟩
                          else if x = a then some ⟨r.refs - 1, r.pset⟩ else σ.heap x,
        next := σ.next + 1, handles := σ.handles.set h (some σ.next), fault := σ.fault } := by
  have hlt := I.lt_next hr
  have hne : a ≠ σ.next := by omega
  have hne' : σ.next ≠ a := by omega
  have h0 : r.refs ≠ 0 := by omega
  simp only [mutateAt, hr, h1, if_true, alloc, delRef, hne, hne', if_false, h0, newRef, State.setCell,
    State.setPrep]
  apply State.ext' <;> simp
  funext x
  by_cases hx : x = σ.next
  · simp [hx]
  · by_cases hx' : x = a <;> simp [hx, hx']

/-- What the invariant says of one cell with `n` holders: absent if `n = 0`, else its counter is `n`. -/
def CellOk (c : Option (Rep P)) (n : Nat) : Prop :=
  (∀ r, c = some r → r.refs = n ∧ 0 < r.refs) ∧ (c = none → n = 0)

theorem CellOk.of_pos {n : Nat} (hn : 0 < n) (p : P) : CellOk (some ⟨n, p⟩) n :=
  ⟨fun _ hr => by cases hr; exact ⟨rfl, hn⟩, fun hc => nomatch hc⟩

/-- the cell left by `if (prep->del_reference()) delete prep;` -/
theorem CellOk.dec {r : Rep P} (hpos : 0 < r.refs) :
    CellOk (if r.refs = 1 then none else some ⟨r.refs - 1, r.pset⟩) (r.refs - 1) := by
  by_cases h1 : r.refs = 1
  · rw [if_pos h1]; exact ⟨fun _ hr => (nomatch hr), fun _ => by omega⟩
  · rw [if_neg h1]; exact CellOk.of_pos (by omega) _

theorem Inv.cellOk {σ : State P} (I : Inv σ) (a : Nat) : CellOk (σ.heap a) (holders σ a) :=
  ⟨I.live a, I.dead a⟩

theorem Inv.mk' {τ : State P} (hf : τ.fault = false) (hfresh : ∀ a, τ.next ≤ a → τ.heap a = none)
    (hc : ∀ a, CellOk (τ.heap a) (holders τ a)) : Inv τ :=
  ⟨hf, hfresh, fun a r h => (hc a).1 r h, fun a h => (hc a).2 h⟩

/-- Re-pointing handle `h` from `o` to `v` keeps the invariant if the cell behind `o` is left with one
    holder less, the cell behind `v` with one more, and no other cell is touched. -/
theorem Inv.retarget {σ τ : State P} (I : Inv σ) {h : Nat} {o v : Option Nat} (hh : σ.handles[h]? = some o)
    (hov : o ≠ v) (hhd : τ.handles = σ.handles.set h v) (hf : τ.fault = false) (hn : σ.next ≤ τ.next)
    (hsame : ∀ x, o ≠ some x → v ≠ some x → τ.heap x = σ.heap x)
    (hold : ∀ a, o = some a → CellOk (τ.heap a) (holders σ a - 1))
    (hnew : ∀ a, v = some a → a < τ.next ∧ CellOk (τ.heap a) (holders σ a + 1)) : Inv τ := by
  have hH : ∀ x, holders τ x + (if o = some x then 1 else 0) = holders σ x + (if v = some x then 1 else 0) :=
    fun x => by
      have := holders_setPrep σ h o v hh x
      simpa only [holders, hhd, setPrep_handles] using this
  refine Inv.mk' hf ?_ ?_
  · intro x hx
    by_cases eo : o = some x
    · obtain ⟨r, hr, -⟩ := I.cell (prep_eq_some.mpr (eo ▸ hh))
      have := I.lt_next hr
      omega
    · by_cases ev : v = some x
      · have := (hnew x ev).1
        omega
      · rw [hsame x eo ev]; exact I.fresh x (by omega)
  · intro x
    have hHx := hH x
    by_cases eo : o = some x
    · have ev : v ≠ some x := fun ev => hov (eo.trans ev.symm)
      have hp := holders_pos_of_prep (prep_eq_some.mpr (eo ▸ hh))
      rw [if_pos eo, if_neg ev] at hHx
      rw [show holders τ x = holders σ x - 1 by omega]
      exact hold x eo
    · by_cases ev : v = some x
      · rw [if_neg eo, if_pos ev] at hHx
        rw [show holders τ x = holders σ x + 1 by omega]
        exact (hnew x ev).2
      · rw [if_neg eo, if_neg ev] at hHx
        rw [hsame x eo ev, show holders τ x = holders σ x by omega]
        exact I.cellOk x

/-- `mutate()` preserves the invariant -/
theorem Inv.mutateAt {σ : State P} (I : Inv σ) {h a : Nat} (hp : σ.prep h = some a) :
    Inv (mutateAt σ h a) := by
  obtain ⟨r, hr, hrc, -⟩ := I.cell hp
  by_cases h1 : 1 < r.refs
  · rw [mutateAt_shared I hr h1]
    have hlt := I.lt_next hr
    refine I.retarget (prep_eq_some.mp hp) (by simp only [ne_eq, Option.some.injEq]; omega) rfl I.nofault
      (Nat.le_succ _) ?_ ?_ ?_
    · intro x hx hx'
      have e1 : x ≠ σ.next := fun e => hx' (e ▸ rfl)
      have e2 : x ≠ a := fun e => hx (e ▸ rfl)
      show (if x = σ.next then _ else if x = a then _ else σ.heap x) = σ.heap x
      rw [if_neg e1, if_neg e2]
    · intro x hx
      cases hx
      show CellOk (if a = σ.next then _ else if a = a then _ else σ.heap a) _
      rw [if_neg (by omega), if_pos rfl, ← hrc]
      exact CellOk.of_pos (by omega) _
    · intro x hx
      cases hx
      refine ⟨Nat.lt_succ_self _, ?_⟩
      show CellOk (if σ.next = σ.next then _ else _) _
      rw [if_pos rfl, I.holders_next]
      exact CellOk.of_pos Nat.one_pos _
  · rw [mutateAt_unshared hr h1]; exact I

theorem set_self_of_get {α : Type} (l : List α) (i : Nat) (v : α) (h : l[i]? = some v) : l.set i v = l := by
  obtain ⟨hl, he⟩ := List.getElem?_eq_some_iff.mp h
  apply List.ext_getElem? ; intro j
  by_cases hj : i = j
  · subst hj; simp [hl, he]
  · simp [hj]

/-- assignment between two handles that already share their representation (in particular
    self-assignment) leaves the whole machine state unchanged -/
theorem step_assign_same {σ : State P} (I : Inv σ) {h y a : Nat} (hh : σ.prep h = some a)
    (hy : σ.prep y = some a) : step σ (.assign h y) = σ := by
  obtain ⟨r, hr, hrc, hpos⟩ := I.cell hh
  have hne : r.refs + 1 ≠ 1 := by omega
  simp only [step, hh, hy, newRef_eq hr]
  rw [release_eq (r := { r with refs := r.refs + 1 }) (by simp) (by simp)]
  simp only [hne, if_false, Nat.add_sub_cancel]
  apply State.ext' <;> simp
  · funext x; by_cases hx : x = a <;> simp [hx, hr]
  · exact set_self_of_get _ _ _ (prep_eq_some.mp hh)

/-- assignment between handles with different representations -/
theorem step_assign_diff {σ : State P} (I : Inv σ) {h y ah ay : Nat} (hh : σ.prep h = some ah)
    (hy : σ.prep y = some ay) (hne : ah ≠ ay) {rh ry : Rep P} (hrh : σ.heap ah = some rh)
    (hry : σ.heap ay = some ry) :
    step σ (.assign h y) =
      ((σ.setCell ay (some ⟨ry.refs + 1, ry.pset⟩)).setCell ah
        (if rh.refs = 1 then none else some ⟨rh.refs - 1, rh.pset⟩)).setPrep h (some ay) := by
  simp only [step, hh, hy, newRef_eq hry]
  rw [release_eq (r := rh) (by rw [setCell_heap, if_neg hne, hrh]) (I.live ah rh hrh).2]

theorem Inv.step_assign {σ : State P} (I : Inv σ) (h y : Nat) : Inv (step σ (.assign h y)) := by
  cases hh : σ.prep h with
  | none => simp only [step, hh]; exact I
  | some ah =>
    cases hy : σ.prep y with
    | none => simp only [step, hh, hy]; exact I
    | some ay =>
      by_cases hne : ah = ay
      · subst hne; rw [step_assign_same I hh hy]; exact I
      · obtain ⟨rh, hrh, hrhc, hrhp⟩ := I.cell hh
        obtain ⟨ry, hry, hryc, -⟩ := I.cell hy
        rw [step_assign_diff I hh hy hne hrh hry]
        refine I.retarget (prep_eq_some.mp hh) (by simpa only [ne_eq, Option.some.injEq] using hne) rfl
          I.nofault (Nat.le_refl _) ?_ ?_ ?_
        · intro x hx hx'
          rw [setPrep_heap, setCell_heap, setCell_heap, if_neg (fun e : x = ah => hx (e ▸ rfl)),
            if_neg (fun e : x = ay => hx' (e ▸ rfl))]
        · intro x hx
          cases hx
          rw [setPrep_heap, setCell_heap, if_pos rfl, ← hrhc]
          exact CellOk.dec hrhp
        · intro x hx
          cases hx
          refine ⟨I.lt_next hry, ?_⟩
          rw [setPrep_heap, setCell_heap, setCell_heap, if_neg (Ne.symm hne), if_pos rfl, ← hryc]
          exact CellOk.of_pos (Nat.succ_pos _) _

theorem Inv.writePset {σ : State P} (I : Inv σ) (a : Nat) (f : P → P) (hl : σ.heap a ≠ none) :
    Inv (writePset σ a f) := by
  cases hr : σ.heap a with
  | none => exact absurd hr hl
  | some r =>
    simp only [Cow.writePset, hr]
    refine Inv.mk' (show _ = false from I.nofault) ?_ ?_
    · intro x hx
      have : x ≠ a := by have := I.lt_next hr; simp only [setCell_next] at hx; omega
      simp [this, I.fresh x hx]
    · intro x
      by_cases e : x = a
      · subst e
        have := I.live x r hr
        simp only [setCell_heap, if_true, holders_setCell]
        refine ⟨?_, fun hn => by cases hn⟩
        intro r' hr'; simp only [Option.some.injEq] at hr'; subst hr'; exact this
      · simp only [setCell_heap, e, if_false, holders_setCell]
        exact ⟨I.live x, I.dead x⟩

theorem Inv.step_construct {σ : State P} (I : Inv σ) (h : Nat) (p : P) : Inv (step σ (.construct h p)) := by
  by_cases hc : h < σ.handles.length ∧ σ.prep h = none
  · simp only [step, hc, and_self, if_true, alloc, newRef, if_true, State.setCell, State.setPrep]
    refine I.retarget ((prep_eq_none hc.1).mp hc.2) (by simp only [ne_eq, reduceCtorEq, not_false_eq_true]) rfl
      I.nofault (Nat.le_succ _) ?_ (fun _ ho => by cases ho) ?_
    · intro x _ hx
      have e : x ≠ σ.next := fun e => hx (e ▸ rfl)
      show (if x = σ.next then _ else if x = σ.next then _ else σ.heap x) = σ.heap x
      rw [if_neg e, if_neg e]
    · intro x hx
      cases hx
      refine ⟨Nat.lt_succ_self _, ?_⟩
      show CellOk (if σ.next = σ.next then _ else _) _
      rw [if_pos rfl, I.holders_next]
      exact CellOk.of_pos Nat.one_pos _
  · simp only [step, hc, if_false]; exact I

theorem Inv.step_copyCtor {σ : State P} (I : Inv σ) (h y : Nat) : Inv (step σ (.copyCtor h y)) := by
  cases hy : σ.prep y with
  | none => simp only [step, hy]; exact I
  | some ay =>
    by_cases hc : h < σ.handles.length ∧ σ.prep h = none
    · obtain ⟨ry, hry, hryc, -⟩ := I.cell hy
      simp only [step, hy, hc, and_self, if_true, newRef_eq hry]
      refine I.retarget ((prep_eq_none hc.1).mp hc.2) (by simp only [ne_eq, reduceCtorEq, not_false_eq_true]) rfl
        I.nofault (Nat.le_refl _) ?_ (fun _ ho => by cases ho) ?_
      · intro x _ hx
        rw [setPrep_heap, setCell_heap, if_neg (fun e : x = _ => hx (e ▸ rfl))]
      · intro x hx
        cases hx
        refine ⟨I.lt_next hry, ?_⟩
        rw [setPrep_heap, setCell_heap, if_pos rfl, ← hryc]
        exact CellOk.of_pos (Nat.succ_pos _) _
    · simp only [step, hy, hc, if_false]; exact I

theorem Inv.step_destroy {σ : State P} (I : Inv σ) (h : Nat) : Inv (step σ (.destroy h)) := by
  cases hh : σ.prep h with
  | none => simp only [step, hh]; exact I
  | some a =>
    obtain ⟨r, hr, hrc, hrp⟩ := I.cell hh
    simp only [step, hh, release_eq hr hrp]
    refine I.retarget (prep_eq_some.mp hh) (by simp only [ne_eq, reduceCtorEq, not_false_eq_true]) rfl
      I.nofault (Nat.le_refl _) ?_ ?_ (fun _ hv => by cases hv)
    · intro x hx _
      rw [setPrep_heap, setCell_heap, if_neg (fun e : x = _ => hx (e ▸ rfl))]
    · intro x hx
      cases hx
      rw [setPrep_heap, setCell_heap, if_pos rfl, ← hrc]
      exact CellOk.dec hrp

theorem holders_swap {σ : State P} {h y ah ay : Nat} (hh : σ.prep h = some ah) (hy : σ.prep y = some ay)
    (x : Nat) : holders ((σ.setPrep h (some ay)).setPrep y (some ah)) x = holders σ x := by
  have h1 := holders_setPrep σ h (some ah) (some ay) (prep_eq_some.mp hh) x
  have hy' : (σ.setPrep h (some ay)).handles[y]? = some (some ay) := by
    simp only [setPrep_handles, List.getElem?_set]
    by_cases e : h = y
    · subst e; simp [lt_of_prep hh]
    · simp [e, prep_eq_some.mp hy]
  have h2 := holders_setPrep (σ.setPrep h (some ay)) y (some ay) (some ah) hy' x
  omega

theorem Inv.step_swap {σ : State P} (I : Inv σ) (h y : Nat) : Inv (step σ (.swap h y)) := by
  cases hh : σ.prep h with
  | none => simp only [step, hh]; exact I
  | some ah =>
    cases hy : σ.prep y with
    | none => simp only [step, hh, hy]; exact I
    | some ay =>
      simp only [step, hh, hy]
      refine Inv.mk' (show _ = false from I.nofault) (fun x hx => I.fresh x hx) ?_
      intro x
      rw [holders_swap hh hy x]
      exact ⟨I.live x, I.dead x⟩

end PPLV.Value.Cow

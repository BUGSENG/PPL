import PPLV.Value.MoveSpec

/-!
# C13 moving mechanics — the `Owns` toolkit

Basic facts about the ownership invariant `Owns h as`, frames, and the dependence of values on
the cells they own (namespace `OwnsKit`).

No Mathlib.
-/
namespace PPLV.Value.Move
namespace OwnsKit

/-! ## heap micro-steps -/

@[simp] theorem alloc_next (h : Heap) (c : List Int) : (h.alloc c).1.next = h.next + 1 := rfl
@[simp] theorem alloc_addr (h : Heap) (c : List Int) : (h.alloc c).2 = h.next := rfl
@[simp] theorem alloc_fault (h : Heap) (c : List Int) : (h.alloc c).1.fault = h.fault := rfl
theorem alloc_cells (h : Heap) (c : List Int) (a : Nat) :
    (h.alloc c).1.cells a = if a = h.next then some c else h.cells a := rfl

theorem free_of_some {h : Heap} {a : Nat} {c : List Int} (hc : h.cells a = some c) :
    h.free a = { h with cells := fun x => if x = a then none else h.cells x } := by
  simp [Heap.free, hc]

theorem modify_of_some {h : Heap} {a : Nat} {c : List Int} (f : List Int → List Int) (hc : h.cells a = some c) :
    h.modify a f = { h with cells := fun x => if x = a then some (f c) else h.cells x } := by
  simp [Heap.modify, hc]

/-! ## `Owns` -/

theorem owns_fault_eq {h : Heap} {as : List Nat} (hO : Owns h as) : h.fault = false := hO.1
theorem owns_nodup {h : Heap} {as : List Nat} (hO : Owns h as) : as.Nodup := hO.2.1
theorem owns_isSome_iff {h : Heap} {as : List Nat} (hO : Owns h as) (a : Nat) :
    (h.cells a).isSome = true ↔ a ∈ as := hO.2.2.1 a
theorem owns_none_of_ge {h : Heap} {as : List Nat} (hO : Owns h as) {a : Nat} (ha : h.next ≤ a) :
    h.cells a = none := hO.2.2.2 a ha

/-- reading an owned cell succeeds -/
theorem owns_read_some {h : Heap} {as : List Nat} (hO : Owns h as) {a : Nat} (ha : a ∈ as) :
    ∃ c, h.cells a = some c := by
  have := (owns_isSome_iff hO a).2 ha
  exact Option.isSome_iff_exists.1 this

theorem owns_read_some' {h : Heap} {as : List Nat} (hO : Owns h as) {a : Nat} (ha : a ∈ as) :
    ∃ c, h.read a = some c := owns_read_some hO ha

theorem owns_none_of_not_mem {h : Heap} {as : List Nat} (hO : Owns h as) {a : Nat} (ha : a ∉ as) :
    h.cells a = none := by
  have := (owns_isSome_iff hO a)
  cases hc : h.cells a with
  | none => rfl
  | some c => exact absurd (this.1 (by simp [hc])) ha

/-- an owned address is below `next` -/
theorem owns_lt_next {h : Heap} {as : List Nat} (hO : Owns h as) {a : Nat} (ha : a ∈ as) : a < h.next := by
  apply Nat.lt_of_not_le
  intro hle
  obtain ⟨c, hc⟩ := owns_read_some hO ha
  rw [owns_none_of_ge hO hle] at hc
  cases hc

theorem owns_next_not_mem {h : Heap} {as : List Nat} (hO : Owns h as) : h.next ∉ as :=
  fun hm => Nat.lt_irrefl _ (owns_lt_next hO hm)

/-- `Owns` does not depend on the order of the list -/
theorem owns_perm {h : Heap} {as bs : List Nat} (hO : Owns h as) (hp : as.Perm bs) : Owns h bs :=
  ⟨hO.1, hp.nodup_iff.1 hO.2.1, fun a => (hO.2.2.1 a).trans hp.mem_iff, hO.2.2.2⟩

theorem owns_perm_iff {h : Heap} {as bs : List Nat} (hp : as.Perm bs) : Owns h as ↔ Owns h bs :=
  ⟨fun hO => owns_perm hO hp, fun hO => owns_perm hO hp.symm⟩

/-- allocation: the new address is `h.next`, it is fresh, and it joins the owned set -/
theorem owns_alloc {h : Heap} {as : List Nat} (hO : Owns h as) (c : List Int) :
    Owns (h.alloc c).1 (h.next :: as) := by
  refine ⟨hO.1, List.nodup_cons.2 ⟨owns_next_not_mem hO, hO.2.1⟩, fun a => ?_, fun a ha => ?_⟩
  · rw [alloc_cells]
    by_cases ha : a = h.next
    · simp [ha]
    · simp [ha, owns_isSome_iff hO]
  · rw [alloc_cells]
    have h1 : h.next + 1 ≤ a := ha
    have hne : a ≠ h.next := by omega
    simp only [hne, if_false]
    exact owns_none_of_ge hO (by omega)

/-- cells other than the new one are untouched by an allocation -/
theorem alloc_cells_of_ne (h : Heap) (c : List Int) {a : Nat} (ha : a ≠ h.next) :
    (h.alloc c).1.cells a = h.cells a := by
  rw [alloc_cells]; simp [ha]

theorem alloc_cells_self (h : Heap) (c : List Int) : (h.alloc c).1.cells h.next = some c := by
  rw [alloc_cells]; simp

theorem owns_alloc_cells_of_mem {h : Heap} {as : List Nat} (hO : Owns h as) (c : List Int) {a : Nat} (ha : a ∈ as) :
    (h.alloc c).1.cells a = h.cells a :=
  alloc_cells_of_ne h c (fun e => owns_next_not_mem hO (e ▸ ha))

/-- freeing the head of the owned list -/
theorem owns_free_head {h : Heap} {a : Nat} {as : List Nat} (hO : Owns h (a :: as)) : Owns (h.free a) as := by
  obtain ⟨c, hc⟩ := owns_read_some hO (List.mem_cons_self)
  rw [free_of_some hc]
  have hnd := List.nodup_cons.1 hO.2.1
  refine ⟨hO.1, hnd.2, fun x => ?_, fun x hx => ?_⟩
  · show (if x = a then none else h.cells x).isSome = true ↔ x ∈ as
    by_cases hx : x = a
    · subst hx; simp [hnd.1]
    · simp only [hx, if_false]
      rw [owns_isSome_iff hO]; simp [hx]
  · show (if x = a then none else h.cells x) = none
    by_cases hxa : x = a
    · simp [hxa]
    · simp only [hxa, if_false]; exact owns_none_of_ge hO hx

theorem free_cells_of_ne (h : Heap) {a x : Nat} (hx : x ≠ a) : (h.free a).cells x = h.cells x := by
  unfold Heap.free
  cases h.cells a <;> simp [hx]

@[simp] theorem free_next (h : Heap) (a : Nat) : (h.free a).next = h.next := by
  unfold Heap.free; cases h.cells a <;> rfl

/-- freeing any owned address -/
theorem owns_free {h : Heap} {a : Nat} {as : List Nat} (hO : Owns h as) (ha : a ∈ as) :
    Owns (h.free a) (as.erase a) :=
  owns_free_head (owns_perm hO (List.perm_cons_erase ha))

/-- freeing an address in the middle of the owned list -/
theorem owns_free_mid {h : Heap} {a : Nat} {l₁ l₂ : List Nat} (hO : Owns h (l₁ ++ a :: l₂)) :
    Owns (h.free a) (l₁ ++ l₂) :=
  owns_free_head (owns_perm hO List.perm_middle)

/-- in-place modification of an owned cell keeps the invariant -/
theorem owns_modify {h : Heap} {a : Nat} {as : List Nat} (hO : Owns h as) (ha : a ∈ as) (f : List Int → List Int) :
    Owns (h.modify a f) as := by
  obtain ⟨c, hc⟩ := owns_read_some hO ha
  rw [modify_of_some f hc]
  refine ⟨hO.1, hO.2.1, fun x => ?_, fun x hx => ?_⟩
  · show (if x = a then some (f c) else h.cells x).isSome = true ↔ x ∈ as
    by_cases hx : x = a
    · subst hx; simp [ha]
    · simp only [hx, if_false]; exact owns_isSome_iff hO x
  · show (if x = a then some (f c) else h.cells x) = none
    have hx' : h.next ≤ x := hx
    have hne : x ≠ a := fun e => by
      have := owns_lt_next hO ha
      omega
    simp only [hne, if_false]; exact owns_none_of_ge hO hx

theorem modify_cells_of_ne (h : Heap) (f : List Int → List Int) {a x : Nat} (hx : x ≠ a) :
    (h.modify a f).cells x = h.cells x := by
  unfold Heap.modify
  cases h.cells a <;> simp [hx]

theorem modify_cells_self {h : Heap} {a : Nat} {c : List Int} (f : List Int → List Int) (hc : h.cells a = some c) :
    (h.modify a f).cells a = some (f c) := by
  rw [modify_of_some f hc]; simp

@[simp] theorem modify_next (h : Heap) (a : Nat) (f : List Int → List Int) : (h.modify a f).next = h.next := by
  unfold Heap.modify; cases h.cells a <;> rfl

/-- two different entries of an owned list are different addresses: `a ∈ l₁`, `b ∈ l₂` -/
theorem owns_ne_of_mem_append {h : Heap} {l₁ l₂ : List Nat} (hO : Owns h (l₁ ++ l₂)) {a b : Nat}
    (ha : a ∈ l₁) (hb : b ∈ l₂) : a ≠ b :=
  (List.nodup_append.1 hO.2.1).2.2 a ha b hb

theorem owns_nodup_left {h : Heap} {l₁ l₂ : List Nat} (hO : Owns h (l₁ ++ l₂)) : l₁.Nodup :=
  (List.nodup_append.1 hO.2.1).1

theorem owns_nodup_right {h : Heap} {l₁ l₂ : List Nat} (hO : Owns h (l₁ ++ l₂)) : l₂.Nodup :=
  (List.nodup_append.1 hO.2.1).2.1

/-! ## frames -/

theorem frameEq_refl (h : Heap) (frame : List Nat) : FrameEq h h frame := fun _ _ => rfl

theorem frameEq_trans {h₁ h₂ h₃ : Heap} {frame : List Nat} (h12 : FrameEq h₁ h₂ frame) (h23 : FrameEq h₂ h₃ frame) :
    FrameEq h₁ h₃ frame := fun a ha => (h23 a ha).trans (h12 a ha)

theorem frameEq_mono {h h' : Heap} {frame frame' : List Nat} (hf : FrameEq h h' frame)
    (hsub : ∀ a ∈ frame', a ∈ frame) : FrameEq h h' frame' := fun a ha => hf a (hsub a ha)

theorem frameEq_symm {h h' : Heap} {frame : List Nat} (hf : FrameEq h h' frame) : FrameEq h' h frame :=
  fun a ha => (hf a ha).symm

theorem frameEq_of_forall {h h' : Heap} {frame : List Nat} (hf : ∀ a ∈ frame, h'.cells a = h.cells a) :
    FrameEq h h' frame := hf

theorem frameEq_append_left {h h' : Heap} {l₁ l₂ : List Nat} (hf : FrameEq h h' (l₁ ++ l₂)) : FrameEq h h' l₁ :=
  frameEq_mono hf (fun _ ha => List.mem_append_left _ ha)

theorem frameEq_append_right {h h' : Heap} {l₁ l₂ : List Nat} (hf : FrameEq h h' (l₁ ++ l₂)) : FrameEq h h' l₂ :=
  frameEq_mono hf (fun _ ha => List.mem_append_right _ ha)

theorem frameEq_append {h h' : Heap} {l₁ l₂ : List Nat} (h1 : FrameEq h h' l₁) (h2 : FrameEq h h' l₂) :
    FrameEq h h' (l₁ ++ l₂) := fun a ha => (List.mem_append.1 ha).elim (h1 a) (h2 a)

theorem frameEq_free {h : Heap} {a : Nat} {frame : List Nat} (ha : a ∉ frame) : FrameEq h (h.free a) frame :=
  fun _ hx => free_cells_of_ne h (fun e => ha (e ▸ hx))

theorem frameEq_modify {h : Heap} {a : Nat} {frame : List Nat} (f : List Int → List Int) (ha : a ∉ frame) :
    FrameEq h (h.modify a f) frame :=
  fun _ hx => modify_cells_of_ne h f (fun e => ha (e ▸ hx))

theorem frameEq_alloc {h : Heap} {as frame : List Nat} (hO : Owns h as) (c : List Int)
    (hsub : ∀ a ∈ frame, a ∈ as) : FrameEq h (h.alloc c).1 frame :=
  fun x hx => owns_alloc_cells_of_mem hO c (hsub x hx)

/-! ## values only depend on owned cells -/

theorem row_val_congr {h h' : Heap} {r : Row} (hc : h'.cells r.impl = h.cells r.impl) : r.val h' = r.val h := by
  simp [Row.val, Heap.read, hc]

theorem rowValues_congr {h h' : Heap} {rows : List Row} (hf : FrameEq h h' (owned rows)) :
    rowValues h' rows = rowValues h rows := by
  unfold rowValues
  apply List.map_congr_left
  intro r hr
  exact row_val_congr (hf r.impl (List.mem_map_of_mem hr))

theorem mem_owned {rows : List Row} {r : Row} (hr : r ∈ rows) : r.impl ∈ owned rows :=
  List.mem_map_of_mem hr

@[simp] theorem owned_nil : owned [] = [] := rfl
@[simp] theorem owned_cons (r : Row) (rs : List Row) : owned (r :: rs) = r.impl :: owned rs := rfl
@[simp] theorem owned_append (a b : List Row) : owned (a ++ b) = owned a ++ owned b := by simp [owned]
@[simp] theorem owned_length (a : List Row) : (owned a).length = a.length := by simp [owned]
@[simp] theorem rowValues_nil (h : Heap) : rowValues h [] = [] := rfl
@[simp] theorem rowValues_cons (h : Heap) (r : Row) (rs : List Row) :
    rowValues h (r :: rs) = r.val h :: rowValues h rs := rfl
@[simp] theorem rowValues_append (h : Heap) (a b : List Row) :
    rowValues h (a ++ b) = rowValues h a ++ rowValues h b := by simp [rowValues]
@[simp] theorem rowValues_length (h : Heap) (a : List Row) : (rowValues h a).length = a.length := by simp [rowValues]

/-- the `Option`-valued and the total value agree on a live cell -/
theorem row_value_eq_some_val {h : Heap} {r : Row} {c : List Int} (hc : h.cells r.impl = some c) :
    r.value h = some (r.val h) := by
  simp [Row.value, Row.val, Heap.read, hc]

theorem owns_row_value {h : Heap} {as : List Nat} (hO : Owns h as) {r : Row} (hr : r.impl ∈ as) :
    r.value h = some (r.val h) := by
  obtain ⟨c, hc⟩ := owns_read_some hO hr
  exact row_value_eq_some_val hc

end OwnsKit

/-- closes goals `l₁.Perm l₂` between `++`/`::`-combinations of the same address lists (by counting) -/
macro "owns_perm_tac" : tactic =>
  `(tactic| (rw [List.perm_iff_count]; intro a;
             simp only [List.count_append, List.count_cons, List.count_nil, List.append_assoc,
               OwnsKit.owned_append, OwnsKit.owned_cons, OwnsKit.owned_nil, LinSys.owned, Poly.owned] <;> omega))

/-- a value only depends on the cells it owns -/
theorem LinSys.value_congr (h h' : Heap) (s : LinSys) (hf : FrameEq h h' s.owned) : s.value h' = s.value h := by
  unfold LinSys.value
  rw [OwnsKit.rowValues_congr hf]

end PPLV.Value.Move

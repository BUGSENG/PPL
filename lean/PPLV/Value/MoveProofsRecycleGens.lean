import PPLV.Value.MoveProofsRecycleGenRows

/-!
# C13 moving mechanics — refinement of `Poly.addRecycledGenerators`
-/
namespace PPLV.Value.Move.PolyKit
open PPLV.Value.Move OwnsKit

/-- the part of `add_recycled_generators` after the argument has been adjusted -/
def genPost (h₁ : Heap) (x : Poly) (gs₁ : LinSys) : Heap × Poly × LinSys × Exit :=
  if x.markedEmpty then
    if !hasPoints h₁ gs₁.rows.impl then (h₁, x, gs₁, .threw)
    else
      let (g, gs₂) := LinSys.mSwap x.genSys gs₁
      let g₁ := if g.numPendingRows > 0 then { g with firstPending := g.numRows, sorted := false } else g
      (h₁, { x with genSys := g₁, status := resetF (setF x.status G_UP) EMPTY }, gs₂, .wasEmptySwapped)
  else if testAny x.status CS_PENDING || !testAny x.status G_UP then (h₁, x, gs₁, .notModelled)
  else if x.canHaveSomethingPending then
    let (h₂, g, yrows) := stealGenRowsLoop true gs₁.numRows 0 h₁ x.genSys gs₁.rows.impl
    let (h₃, gs₂) := LinSys.clear h₂ { gs₁ with rows := ⟨yrows, gs₁.rows.cap⟩ }
    (h₃, { x with genSys := g, status := setF x.status GS_PENDING }, gs₂, .movedPending)
  else
    let (h₂, g, yrows) := stealGenRowsLoop false gs₁.numRows 0 h₁ x.genSys gs₁.rows.impl
    let (h₃, gs₂) := LinSys.clear h₂ { gs₁ with rows := ⟨yrows, gs₁.rows.cap⟩ }
    (h₃, { x with genSys := g, status := resetF (clearConstraintsUpToDate x.status) G_MIN }, gs₂, .moved)

theorem addRecycledGenerators_eq (h : Heap) (x : Poly) (gs : LinSys) :
    x.addRecycledGenerators h gs =
      if x.nnc || gs.nnc then (h, x, gs, .notModelled)
      else if x.spaceDim < gs.spaceDim then (h, x, gs, .threw)
      else if gs.hasNoRows then (h, x, gs, .noRows)
      else if x.spaceDim == 0 then
        if x.markedEmpty && !hasPoints h gs.rows.impl then (h, x, gs, .threw)
        else ((x.setZeroDimUniv h).1, (x.setZeroDimUniv h).2, gs, .zeroDim)
      else genPost (adjustTopologyAndSpaceDimension h gs x.nnc x.spaceDim).1 x
            (adjustTopologyAndSpaceDimension h gs x.nnc x.spaceDim).2 := rfl

def genPostV (x : PolyV) (gs₁ : LinSysV) : PolyV × Exit :=
  if testAny x.status EMPTY then
    if !hasPointsV gs₁.rows then (x, .threw)
    else
      ({ x with genSys := (if gs₁.numPendingRows > 0 then { gs₁ with firstPending := gs₁.rows.length, sorted := false }
                           else gs₁),
                status := resetF (setF x.status G_UP) EMPTY }, .wasEmptySwapped)
  else if testAny x.status CS_PENDING || !testAny x.status G_UP then (x, .notModelled)
  else if canPendV x.status then
    ({ x with genSys := stealGenV true x.genSys gs₁.rows, status := setF x.status GS_PENDING }, .movedPending)
  else
    ({ x with genSys := stealGenV false x.genSys gs₁.rows,
              status := resetF (clearConstraintsUpToDate x.status) G_MIN }, .moved)

def addRecycledGeneratorsV (x : PolyV) (gs : LinSysV) : PolyV × Exit :=
  if x.conSys.nnc || gs.nnc then (x, .notModelled)
  else if x.spaceDim < gs.spaceDim then (x, .threw)
  else if gs.rows.isEmpty then (x, .noRows)
  else if x.spaceDim == 0 then
    if testAny x.status EMPTY && !hasPointsV gs.rows then (x, .threw) else (setZeroDimUnivV x, .zeroDim)
  else genPostV x (adjustV x.conSys.nnc x.spaceDim gs)

/-- what the refinement of `add_recycled_generators` says of an outcome `out` of the machine against the outcome
    `v` on values -/
def RefinesOut (h : Heap) (frame : List Nat) (out : Heap × Poly × LinSys × Exit) (v : PolyV × Exit) : Prop :=
  Owns out.1 (out.2.1.owned ++ out.2.2.1.owned ++ frame) ∧ FrameEq h out.1 frame
  ∧ (out.2.1.value out.1, out.2.2.2) = v

/-- the moving paths of `genPost` -/
theorem genPost_steal (pending : Bool) (h : Heap) (x : Poly) (gs : LinSys) (frame : List Nat)
    (hO : Owns h (x.owned ++ gs.owned ++ frame)) (st : Nat) (e : Exit) :
    let L := stealGenRowsLoop pending gs.numRows 0 h x.genSys gs.rows.impl
    let K := LinSys.clear L.1 { gs with rows := ⟨L.2.2, gs.rows.cap⟩ }
    RefinesOut h frame (K.1, { x with genSys := L.2.1, status := st }, K.2, e)
      (⟨x.conSys.value h, stealGenV pending (x.genSys.value h) (gs.value h).rows, x.satC, x.satG, st, x.spaceDim⟩, e) := by
  have hO1 : Owns h (x.genSys.owned ++ (Move.owned [] ++ Move.owned gs.rows.impl) ++ (x.conSys.owned ++ frame)) :=
    Owns.perm (by simp only [Poly.owned, LinSys.owned, owned_nil]; owns_perm_tac) hO
  have A := stealGen_loop pending gs.rows.impl [] h x.genSys _ hO1
  simp only [List.length_nil, List.nil_append] at A
  dsimp only
  rw [show gs.numRows = gs.rows.impl.length from rfl]
  generalize stealGenRowsLoop pending gs.rows.impl.length 0 h x.genSys gs.rows.impl = L at A ⊢
  obtain ⟨a1, a2, a3⟩ := A
  have hO2 : Owns L.1 ((({ gs with rows := ⟨L.2.2, gs.rows.cap⟩ } : LinSys)).owned ++ (L.2.1.owned ++ (x.conSys.owned ++ frame))) :=
    Owns.perm (by simp only [LinSys.owned]; owns_perm_tac) a1
  have B := LinSys.clear_refines L.1 { gs with rows := ⟨L.2.2, gs.rows.cap⟩ } _ hO2
  generalize LinSys.clear L.1 { gs with rows := ⟨L.2.2, gs.rows.cap⟩ } = K at B ⊢
  obtain ⟨b1, _, b3, b4⟩ := B
  have e1 : x.conSys.value L.1 = x.conSys.value h := LinSys.value_frame _ a3 (fun a ha => by simp [ha])
  have e2 : x.conSys.value K.1 = x.conSys.value L.1 := LinSys.value_frame _ b4 (fun a ha => by simp [ha])
  have e3 : L.2.1.value K.1 = L.2.1.value L.1 := LinSys.value_frame _ b4 (fun a ha => by simp [ha])
  refine ⟨?_, frameEq_trans (frameEq_append_right a3) (frameEq_append_right (frameEq_append_right b4)), ?_⟩
  · show Owns K.1 ((x.conSys.owned ++ L.2.1.owned) ++ K.2.owned ++ frame)
    rw [b3]; exact Owns.perm (by simp only [List.append_nil]; owns_perm_tac) b1
  · show (Poly.value K.1 _, e) = _
    simp only [Poly.value, e2, e1, e3, a2]; rfl

theorem genPost_refines (h : Heap) (x : Poly) (gs : LinSys) (frame : List Nat)
    (hO : Owns h (x.owned ++ gs.owned ++ frame)) :
    RefinesOut h frame (genPost h x gs) (genPostV (x.value h) (gs.value h)) := by
  have same : ∀ e, RefinesOut h frame (h, x, gs, e) (x.value h, e) := fun _ => ⟨hO, frameEq_refl _ _, rfl⟩
  unfold genPost genPostV
  simp only [pv_status, markedEmpty_eq, canPend_eq, mSwap_eq, hasPoints_eq]
  refine rel_ite (fun _ => rel_ite (fun _ => same _) fun _ => ?_) fun _ => rel_ite (fun _ => same _) fun _ =>
    rel_ite (fun _ => genPost_steal true h x gs frame hO _ _) fun _ => genPost_steal false h x gs frame hO _ _
  -- `*this` was empty: the argument is swapped in, its pending rows made non-pending
  refine ⟨?_, frameEq_refl _ _, ?_⟩
  · have : (if gs.numPendingRows > 0 then ({ gs with firstPending := gs.numRows, sorted := false } : LinSys) else gs).owned
        = gs.owned := by split <;> rfl
    simp only [Poly.owned, this]
    exact Owns.perm (by simp only [Poly.owned]; owns_perm_tac) hO
  · simp only [Poly.value, value_numPending, value_rows_length]
    congr 2
    split <;> rfl

/-- **refinement of `add_recycled_generators`** -/
theorem addRecycledGenerators_refines (h : Heap) (x : Poly) (gs : LinSys) (frame : List Nat)
    (hO : Owns h (x.owned ++ gs.owned ++ frame)) :
    Owns (x.addRecycledGenerators h gs).1
      ((x.addRecycledGenerators h gs).2.1.owned ++ (x.addRecycledGenerators h gs).2.2.1.owned ++ frame)
    ∧ FrameEq h (x.addRecycledGenerators h gs).1 frame
    ∧ ((x.addRecycledGenerators h gs).2.1.value (x.addRecycledGenerators h gs).1, (x.addRecycledGenerators h gs).2.2.2)
        = addRecycledGeneratorsV (x.value h) (gs.value h) := by
  show RefinesOut h frame (x.addRecycledGenerators h gs) (addRecycledGeneratorsV (x.value h) (gs.value h))
  have same : ∀ e, RefinesOut h frame (h, x, gs, e) (x.value h, e) := fun _ => ⟨hO, frameEq_refl _ _, rfl⟩
  rw [addRecycledGenerators_eq]
  unfold addRecycledGeneratorsV
  simp only [pv_nnc, pv_spaceDim, pv_status, lv_nnc, lv_spaceDim, value_rows_isEmpty, markedEmpty_eq, hasPoints_eq]
  refine rel_ite (fun _ => same _) fun _ => rel_ite (fun _ => same _) fun _ => rel_ite (fun _ => same _) fun _ =>
    rel_ite (fun _ => rel_ite (fun _ => same _) fun _ => ?_) fun _ => ?_
  · have hO1 : Owns h (x.owned ++ (gs.owned ++ frame)) := by rw [← List.append_assoc]; exact hO
    obtain ⟨z1, z2, z3, z4⟩ := Poly.setZeroDimUniv_refines h x _ hO1
    refine ⟨?_, frameEq_append_right z4, ?_⟩
    · dsimp only; rw [z2]; simpa using z1
    · dsimp only; rw [z3]
  · have hO1 : Owns h (gs.owned ++ (x.owned ++ frame)) := Owns.perm (by owns_perm_tac) hO
    have A := adjust_refines h gs x.nnc x.spaceDim _ hO1
    dsimp only at A
    generalize adjustTopologyAndSpaceDimension h gs x.nnc x.spaceDim = a at A ⊢
    obtain ⟨a1, a2, a3, a4⟩ := A
    have hO2 : Owns a.1 (x.owned ++ a.2.owned ++ frame) := Owns.perm (by owns_perm_tac) a1
    obtain ⟨g1, g2, g3⟩ := genPost_refines a.1 x a.2 frame hO2
    have hxv : x.value a.1 = x.value h := Poly.value_frame x a4 (fun b hb => by simp [hb])
    refine ⟨g1, frameEq_trans (frameEq_append_right a4) g2, ?_⟩
    rw [g3, hxv, a3]

/-! ## the copy constructor in front of `add_recycled_generators` -/

theorem genPostV_congr (x : PolyV) (s t : LinSysV) (hr : s.rows = t.rows)
    (hsw : (genPostV x s).2 = .wasEmptySwapped →
      (if s.numPendingRows > 0 then { s with firstPending := s.rows.length, sorted := false } else s)
        = (if t.numPendingRows > 0 then { t with firstPending := t.rows.length, sorted := false } else t)) :
    genPostV x s = genPostV x t := by
  unfold genPostV at hsw ⊢
  rw [hr] at hsw ⊢
  by_cases c1 : testAny x.status EMPTY = true
  · by_cases c2 : (!hasPointsV t.rows) = true
    · simp only [c1, c2, if_true]
    · simp only [c1, c2, if_true, if_false, Bool.false_eq_true] at hsw ⊢
      rw [hsw trivial]
  · simp only [c1, if_false, Bool.false_eq_true]

theorem swapped_eq_aux (s t : LinSysV) (hrows : s.rows = t.rows) (hsn : s.nnc = t.nnc)
    (hsd : s.spaceDim = t.spaceDim) (hsf : s.firstPending = t.rows.length)
    (hss : s.sorted = (if t.rows.length - t.firstPending > 0 then false else t.sorted))
    (hfp : t.firstPending ≤ t.rows.length) :
    (if s.numPendingRows > 0 then { s with firstPending := s.rows.length, sorted := false } else s)
      = (if t.numPendingRows > 0 then { t with firstPending := t.rows.length, sorted := false } else t) := by
  obtain ⟨sr, sdm, sn, sf, ss⟩ := s
  obtain ⟨tr, tdm, tn, tf, ts⟩ := t
  simp only at hrows hsn hsd hsf hss hfp
  subst hrows hsn hsd hsf hss
  simp only [LinSysV.numPendingRows]
  by_cases hp : sr.length - tf > 0
  · simp [hp]
  · have : tf = sr.length := by omega
    simp [this]

theorem copyV_swapped_eq (n : Bool) (sd : Nat) (y : LinSysV) (hfp : y.firstPending ≤ y.rows.length) :
    (if (adjustV n sd (copyV y)).numPendingRows > 0 then
        { adjustV n sd (copyV y) with firstPending := (adjustV n sd (copyV y)).rows.length, sorted := false }
      else adjustV n sd (copyV y))
      = (if (adjustV n sd y).numPendingRows > 0 then
          { adjustV n sd y with firstPending := (adjustV n sd y).rows.length, sorted := false }
        else adjustV n sd y) := by
  apply swapped_eq_aux
  · exact adjustV_rows_congr n sd _ _ rfl rfl
  · simp only [adjustV_nnc]
  · simp only [adjustV_spaceDim]
  · rw [adjustV_firstPending, adjustV_rows_length]; rfl
  · rw [adjustV_sorted, adjustV_sorted, adjustV_rows_length, adjustV_firstPending]; rfl
  · rw [adjustV_firstPending, adjustV_rows_length]; exact hfp

/-- with the copy the receiver gets the same value, unless the argument is ill-formed
    (`index_first_pending > num_rows()`) and is swapped into an empty receiver -/
theorem addRecycledGeneratorsV_copyV (x : PolyV) (gs : LinSysV)
    (hfp : gs.firstPending ≤ gs.rows.length ∨ (addRecycledGeneratorsV x gs).2 ≠ .wasEmptySwapped) :
    addRecycledGeneratorsV x (copyV gs) = addRecycledGeneratorsV x gs := by
  unfold addRecycledGeneratorsV at hfp ⊢
  simp only [copyV_rows, copyV_nnc, copyV_spaceDim] at hfp ⊢
  by_cases c1 : (x.conSys.nnc || gs.nnc) = true
  · simp only [c1, if_true]
  by_cases c2 : x.spaceDim < gs.spaceDim
  · simp only [c1, c2, if_true, if_false, Bool.false_eq_true]
  by_cases c3 : gs.rows.isEmpty = true
  · simp only [c1, c2, c3, if_true, if_false, Bool.false_eq_true]
  by_cases c4 : (x.spaceDim == 0) = true
  · simp only [c1, c2, c3, c4, if_true, if_false, Bool.false_eq_true]
    rfl
  simp only [c1, c2, c3, c4, if_false, Bool.false_eq_true] at hfp ⊢
  -- symmetric use of the congruence: compare both with the common swapped system
  have key : ∀ s t : LinSysV, s.rows = t.rows →
      ((genPostV x t).2 = .wasEmptySwapped →
        (if s.numPendingRows > 0 then { s with firstPending := s.rows.length, sorted := false } else s)
          = (if t.numPendingRows > 0 then { t with firstPending := t.rows.length, sorted := false } else t)) →
      genPostV x s = genPostV x t := by
    intro s t hr hsw
    apply genPostV_congr x s t hr
    intro he
    apply hsw
    -- the exit does not depend on the flags
    unfold genPostV at he ⊢
    rw [hr] at he
    by_cases d1 : testAny x.status EMPTY = true
    · by_cases d2 : (!hasPointsV t.rows) = true
      · simp only [d1, d2, if_true] at he; cases he
      · simp only [d1, d2, if_true, if_false, Bool.false_eq_true]
    · by_cases d3 : (testAny x.status CS_PENDING || !testAny x.status G_UP) = true
      · simp only [d1, d3, if_true, if_false, Bool.false_eq_true] at he; cases he
      · by_cases d4 : canPendV x.status = true
        · simp only [d1, d3, d4, if_true, if_false, Bool.false_eq_true] at he; cases he
        · simp only [d1, d3, d4, if_false, Bool.false_eq_true] at he; cases he
  apply key (adjustV x.conSys.nnc x.spaceDim (copyV gs)) (adjustV x.conSys.nnc x.spaceDim gs)
    (adjustV_rows_congr _ _ _ _ rfl rfl)
  intro he
  rcases hfp with hfp | hfp
  · exact copyV_swapped_eq _ _ gs hfp
  · exact absurd he hfp

end PPLV.Value.Move.PolyKit

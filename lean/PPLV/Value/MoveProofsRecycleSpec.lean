import PPLV.Value.MoveProofsPolyKit

/-!
# C13 moving mechanics — `add_recycled_constraints` on values, and the value facts (adjustment, copy
constructor) that the refinements of both recycling entry points use
-/
namespace PPLV.Value.Move.PolyKit
open PPLV.Value.Move

/-! ## small value facts -/

theorem value_rows_isEmpty (h : Heap) (s : LinSys) : (s.value h).rows.isEmpty = s.hasNoRows := by
  simp [LinSys.value, rowValues, LinSys.hasNoRows]

theorem value_rows_length (h : Heap) (s : LinSys) : (s.value h).rows.length = s.numRows := by
  simp [LinSys.value, rowValues, LinSys.numRows, SVec.size]

theorem value_numPending (h : Heap) (s : LinSys) : (s.value h).numPendingRows = s.numPendingRows := by
  simp [LinSysV.numPendingRows, LinSys.numPendingRows, value_rows_length]
  rfl

theorem hasNoRows_of_owned_eq {s t : LinSys} (ho : s.owned = t.owned) : s.hasNoRows = t.hasNoRows := by
  have hl : s.rows.impl.length = t.rows.impl.length := by
    have := congrArg List.length ho
    simpa [LinSys.owned, Move.owned] using this
  simp only [LinSys.hasNoRows]
  cases hs : s.rows.impl <;> cases ht : t.rows.impl <;> simp_all

theorem okV_clear (K : RowClass) (n : Bool) : okV K ⟨[], 0, n, 0, true⟩ = true := by
  simp [okV, checkSortedV]

theorem adjustV_nnc (n : Bool) (sd : Nat) (s : LinSysV) : (adjustV n sd s).nnc = n := by
  simp only [adjustV, setSpaceDimSysV, setTopologySysV]
  split
  · next hc => simpa using hc
  · rfl

theorem adjustV_rows_length (n : Bool) (sd : Nat) (s : LinSysV) : (adjustV n sd s).rows.length = s.rows.length := by
  simp only [adjustV, setSpaceDimSysV, setTopologySysV]
  split <;> simp

theorem adjustV_firstPending (n : Bool) (sd : Nat) (s : LinSysV) : (adjustV n sd s).firstPending = s.firstPending := by
  simp only [adjustV, setSpaceDimSysV, setTopologySysV]
  split <;> rfl

theorem adjustV_sorted (n : Bool) (sd : Nat) (s : LinSysV) : (adjustV n sd s).sorted = s.sorted := by
  simp only [adjustV, setSpaceDimSysV, setTopologySysV]
  split <;> rfl

theorem adjustV_spaceDim (n : Bool) (sd : Nat) (s : LinSysV) : (adjustV n sd s).spaceDim = sd := by
  simp only [adjustV, setSpaceDimSysV]

/-- the rows of the adjusted system only depend on the rows and topology of the input -/
theorem adjustV_rows_congr (n : Bool) (sd : Nat) (s t : LinSysV) (hr : s.rows = t.rows) (hn : s.nnc = t.nnc) :
    (adjustV n sd s).rows = (adjustV n sd t).rows := by
  simp only [adjustV, setSpaceDimSysV, setTopologySysV, hn]
  split <;> simp [hr]

/-! ## the copy constructor does not change what a recycling insertion does to the receiver -/

theorem copyV_rows (y : LinSysV) : (copyV y).rows = y.rows := rfl
theorem copyV_nnc (y : LinSysV) : (copyV y).nnc = y.nnc := rfl
theorem copyV_spaceDim (y : LinSysV) : (copyV y).spaceDim = y.spaceDim := rfl

theorem insertPendingSysV_congr (x y z : LinSysV) (hr : y.rows = z.rows) :
    insertPendingSysV x y = insertPendingSysV x z := by
  simp [insertPendingSysV, hr]

theorem insertSysV_congr (K : RowClass) (x y z : LinSysV) (hr : y.rows = z.rows)
    (hf : (!y.sorted || decide (y.numPendingRows > 0)) = (!z.sorted || decide (z.numPendingRows > 0))) :
    insertSysV K x y = insertSysV K x z := by
  simp only [insertSysV, hr, insertPendingSysV_congr _ y z hr]
  simp only [Bool.or_eq_true, decide_eq_true_eq, Bool.not_eq_true'] at *
  have hf' : (y.sorted = false ∨ y.numPendingRows > 0) ↔ (z.sorted = false ∨ z.numPendingRows > 0) := by
    have := hf
    constructor
    · intro hy
      have : (!y.sorted || decide (y.numPendingRows > 0)) = true := by
        rcases hy with hy | hy <;> simp [hy]
      rw [hf] at this; simpa using this
    · intro hz
      have : (!z.sorted || decide (z.numPendingRows > 0)) = true := by
        rcases hz with hz | hz <;> simp [hz]
      rw [← hf] at this; simpa using this
  simp only [hf']

theorem copyV_flag (y : LinSysV) :
    (!(copyV y).sorted || decide ((copyV y).numPendingRows > 0)) = (!y.sorted || decide (y.numPendingRows > 0)) := by
  simp only [copyV, LinSysV.numPendingRows]
  by_cases hp : y.rows.length - y.firstPending > 0 <;> simp [hp]

theorem insertSysV_copyV (K : RowClass) (x y : LinSysV) : insertSysV K x (copyV y) = insertSysV K x y :=
  insertSysV_congr K x _ _ rfl (copyV_flag y)

theorem insertPendingSysV_copyV (x y : LinSysV) : insertPendingSysV x (copyV y) = insertPendingSysV x y :=
  insertPendingSysV_congr x _ _ rfl

theorem adjustV_flag (n : Bool) (sd : Nat) (y : LinSysV) :
    (!(adjustV n sd y).sorted || decide ((adjustV n sd y).numPendingRows > 0))
      = (!y.sorted || decide (y.numPendingRows > 0)) := by
  simp [LinSysV.numPendingRows, adjustV_sorted, adjustV_rows_length, adjustV_firstPending]

theorem insertSysV_adjust_copyV (K : RowClass) (n : Bool) (sd : Nat) (x y : LinSysV) :
    insertSysV K x (adjustV n sd (copyV y)) = insertSysV K x (adjustV n sd y) :=
  insertSysV_congr K x _ _ (adjustV_rows_congr n sd _ _ rfl rfl) (by rw [adjustV_flag, adjustV_flag, copyV_flag])

theorem insertPendingSysV_adjust_copyV (n : Bool) (sd : Nat) (x y : LinSysV) :
    insertPendingSysV x (adjustV n sd (copyV y)) = insertPendingSysV x (adjustV n sd y) :=
  insertPendingSysV_congr x _ _ (adjustV_rows_congr n sd _ _ rfl rfl)

/-! ## `add_recycled_constraints` on values -/

def zeroDimTautologyV (v : RowV) : Bool :=
  let b := v.coeffs.headD 0
  if v.tag == 0 then b == 0
  else if !v.nnc then b ≥ 0
  else
    let e := v.coeffs.getD 1 0
    if e == 0 then b ≥ 0 else if e < 0 then b > 0 else b ≥ 0

def canPendV (st : Nat) : Bool :=
  testAny st C_MIN && testAny st G_MIN && (testAny st SAT_C_UP || testAny st SAT_G_UP)

def addRecycledConstraintsV (x : PolyV) (cs : LinSysV) : PolyV × Exit :=
  if !x.conSys.nnc && cs.nnc then (x, .notModelled)
  else if x.spaceDim < cs.spaceDim then (x, .threw)
  else if cs.rows.isEmpty then (x, .noRows)
  else if x.spaceDim == 0 then
    ((if cs.rows.all zeroDimTautologyV then x else { x with status := EMPTY }), .zeroDim)
  else if testAny x.status EMPTY then (x, .markedEmpty)
  else if testAny x.status GS_PENDING || !testAny x.status C_UP then (x, .notModelled)
  else
    let cs₁ := adjustV x.conSys.nnc x.spaceDim cs
    if canPendV x.status then
      ({ x with conSys := insertPendingSysV x.conSys cs₁, status := setF x.status CS_PENDING }, .movedPending)
    else
      ({ x with conSys := insertSysV constraintClass x.conSys cs₁,
                status := clearGeneratorsUpToDate (resetF x.status C_MIN) }, .moved)

theorem addRecycledConstraintsV_copyV (x : PolyV) (cs : LinSysV) :
    addRecycledConstraintsV x (copyV cs) = addRecycledConstraintsV x cs := by
  simp [addRecycledConstraintsV, copyV_rows, copyV_nnc, copyV_spaceDim,
    insertSysV_adjust_copyV, insertPendingSysV_adjust_copyV]

theorem zeroDimTautology_eq {h : Heap} (r : Row) {c : List Int} (hc : h.cells r.impl = some c) :
    zeroDimTautology h r = zeroDimTautologyV (r.val h) := by
  simp [zeroDimTautology, zeroDimTautologyV, Row.val, Heap.read, hc]

theorem zeroDim_all_eq {h : Heap} {as : List Nat} (hO : Owns h as) (rows : List Row)
    (hs : ∀ a ∈ Move.owned rows, a ∈ as) :
    rows.all (zeroDimTautology h) = (rowValues h rows).all zeroDimTautologyV := by
  induction rows with
  | nil => rfl
  | cons r rs ih =>
    have hr : r.impl ∈ as := hs _ (by simp)
    obtain ⟨c, hc⟩ := OwnsKit.owns_read_some hO hr
    have ih' := ih (fun a ha => hs a (by simp [ha]))
    simp only [rowValues] at ih'
    simp only [List.all_cons, rowValues, List.map_cons, zeroDimTautology_eq r hc, ih']

end PPLV.Value.Move.PolyKit

import PPLV.Value.MoveProofsRecycleCons

/-!
# C13 moving mechanics — the row loops of `Poly.addRecycledGenerators` on values
-/
namespace PPLV.Value.Move.PolyKit
open PPLV.Value.Move OwnsKit

theorem mSwap_eq (x y : LinSys) : LinSys.mSwap x y = (y, x) := by
  cases x; cases y; rfl

/-- an owned list with one address singled out: that address occurs nowhere else -/
theorem Owns.notin_of_perm {h : Heap} {l l' : List Nat} {a : Nat} (hO : Owns h l) (hp : l.Perm (a :: l')) :
    a ∉ l' := by
  have := (hp.nodup_iff.mp hO.2.1)
  exact (List.nodup_cons.mp this).1

/-! ## `has_points` -/

def hasPointsV (rows : List RowV) : Bool := rows.any (fun v => v.tag != 0 && v.coeffs.headD 0 != 0)

theorem hasPoints_eq (h : Heap) (rows : List Row) : hasPoints h rows = hasPointsV (rowValues h rows) := by
  simp only [hasPoints, hasPointsV, rowValues, List.any_map]
  congr 1; funext r
  simp only [Function.comp, Row.val]
  cases h.read r.impl <;> simp

/-! ## `set_zero_dim_univ` -/

def setZeroDimUnivV (p : PolyV) : PolyV := ⟨clearV p.conSys, clearV p.genSys, p.satC, p.satG, 0, 0⟩

theorem value_of_owned_nil {s : LinSys} (ho : s.owned = []) (h h' : Heap) : s.value h' = s.value h :=
  LinSys.value_congr h h' s (by rw [ho]; intro a ha; cases ha)

theorem Poly.setZeroDimUniv_refines (h : Heap) (p : Poly) (F : List Nat) (hO : Owns h (p.owned ++ F)) :
    Owns (p.setZeroDimUniv h).1 F ∧ (p.setZeroDimUniv h).2.owned = []
    ∧ (p.setZeroDimUniv h).2.value (p.setZeroDimUniv h).1 = setZeroDimUnivV (p.value h)
    ∧ FrameEq h (p.setZeroDimUniv h).1 F := by
  have e : p.setZeroDimUniv h =
      ((LinSys.clear (LinSys.clear h p.conSys).1 p.genSys).1,
       { p with status := 0, spaceDim := 0, conSys := (LinSys.clear h p.conSys).2,
                genSys := (LinSys.clear (LinSys.clear h p.conSys).1 p.genSys).2 }) := rfl
  rw [e]
  have hO1 : Owns h (p.conSys.owned ++ (p.genSys.owned ++ F)) := by
    simpa [Poly.owned, List.append_assoc] using hO
  have A := LinSys.clear_refines h p.conSys _ hO1
  generalize LinSys.clear h p.conSys = k at A ⊢
  obtain ⟨a1, a2, a3, a4⟩ := A
  have B := LinSys.clear_refines k.1 p.genSys F a1
  generalize LinSys.clear k.1 p.genSys = k' at B ⊢
  obtain ⟨b1, b2, b3, b4⟩ := B
  refine ⟨b1, by simp [Poly.owned, a3, b3], ?_, frameEq_trans (frameEq_append_right a4) b4⟩
  have hg : p.genSys.value k.1 = p.genSys.value h := LinSys.value_frame _ a4 (fun a ha => by simp [ha])
  simp only [Poly.value, setZeroDimUnivV, b2, hg, value_of_owned_nil a3 k.1 k'.1, a2]

/-! ## the row loops of `add_recycled_generators` -/

def stealGenStepV (pending : Bool) (x : LinSysV) (r : RowV) : LinSysV :=
  if pending then insertPendingNoOkV x (setTopologyV x.nnc r)
  else insertNoOkV generatorClass x (setTopologyV x.nnc r)

def stealGenV (pending : Bool) (x : LinSysV) (rows : List RowV) : LinSysV := rows.foldl (stealGenStepV pending) x

theorem stealGen_step (pending : Bool) (k i : Nat) (h : Heap) (x : LinSys) (yrows : List Row) (r : Row)
    (hr : yrows[i]? = some r) :
    stealGenRowsLoop pending (k + 1) i h x yrows =
      stealGenRowsLoop pending k (i + 1)
        (if pending then x.insertPendingRow generatorClass (r.setTopology h x.nnc).1 (r.setTopology h x.nnc).2
          else x.insertRow generatorClass (r.setTopology h x.nnc).1 (r.setTopology h x.nnc).2).1
        (if pending then x.insertPendingRow generatorClass (r.setTopology h x.nnc).1 (r.setTopology h x.nnc).2
          else x.insertRow generatorClass (r.setTopology h x.nnc).1 (r.setTopology h x.nnc).2).2.1
        (yrows.set i
          (if pending then x.insertPendingRow generatorClass (r.setTopology h x.nnc).1 (r.setTopology h x.nnc).2
            else x.insertRow generatorClass (r.setTopology h x.nnc).1 (r.setTopology h x.nnc).2).2.2) := by
  rw [stealGenRowsLoop]
  simp only [hr]

/-- one step on the heap is one step on values -/
theorem stealGen_one (pending : Bool) (h : Heap) (x : LinSys) (r : Row) (G : List Nat)
    (hO : Owns h (x.owned ++ r.impl :: G)) :
    let I := (if pending then x.insertPendingRow generatorClass (r.setTopology h x.nnc).1 (r.setTopology h x.nnc).2
          else x.insertRow generatorClass (r.setTopology h x.nnc).1 (r.setTopology h x.nnc).2)
    Owns I.1 (I.2.1.owned ++ I.2.2.impl :: G)
    ∧ I.2.1.value I.1 = stealGenStepV pending (x.value h) (r.val h)
    ∧ FrameEq h I.1 G := by
  have hmem : r.impl ∈ x.owned ++ r.impl :: G := by simp
  obtain ⟨t1, t2, t3, t4⟩ := CopyKit.rowSetTopology_spec hO hmem x.nnc
  have hnot : r.impl ∉ x.owned ++ G := Owns.notin_of_perm hO (by owns_perm_tac)
  have hT : FrameEq h (r.setTopology h x.nnc).1 (x.owned ++ G) := by
    intro a ha
    exact t4 a (fun e => hnot (e ▸ ha))
  have hxv : x.value (r.setTopology h x.nnc).1 = x.value h := LinSys.value_frame _ hT (fun a ha => by simp [ha])
  generalize r.setTopology h x.nnc = T at *
  have hO' : Owns T.1 (x.owned ++ T.2.impl :: G) := by rw [t2]; exact t1
  have hnnc : (x.value h).nnc = x.nnc := rfl
  -- the conditionals are decided by rewriting before the refinement lemma is matched against the goal
  cases pending
  · rw [if_neg Bool.false_ne_true, LinSys.insertRow, stealGenStepV, if_neg Bool.false_ne_true, hnnc, ← hxv, ← t3]
    obtain ⟨b1, b2, _, b4⟩ := insertNoOk_refines generatorClass T.1 x T.2 G hO'
    exact ⟨b1, b2, frameEq_trans (frameEq_append_right hT) b4⟩
  · rw [if_pos rfl, LinSys.insertPendingRow, stealGenStepV, if_pos rfl, hnnc, ← hxv, ← t3]
    obtain ⟨b1, b2, _, b4⟩ := insertPendingNoOk_refines generatorClass T.1 x T.2 G hO'
    exact ⟨b1, b2, frameEq_trans (frameEq_append_right hT) b4⟩

theorem stealGen_loop (pending : Bool) : ∀ (rest done : List Row) (h : Heap) (x : LinSys) (F : List Nat),
    Owns h (x.owned ++ (Move.owned done ++ Move.owned rest) ++ F) →
    Owns (stealGenRowsLoop pending rest.length done.length h x (done ++ rest)).1
      ((stealGenRowsLoop pending rest.length done.length h x (done ++ rest)).2.1.owned
        ++ Move.owned (stealGenRowsLoop pending rest.length done.length h x (done ++ rest)).2.2 ++ F)
    ∧ (stealGenRowsLoop pending rest.length done.length h x (done ++ rest)).2.1.value
        (stealGenRowsLoop pending rest.length done.length h x (done ++ rest)).1
        = stealGenV pending (x.value h) (rowValues h rest)
    ∧ FrameEq h (stealGenRowsLoop pending rest.length done.length h x (done ++ rest)).1 F := by
  intro rest
  induction rest with
  | nil =>
    intro done h x F hO
    simp only [List.length_nil, stealGenRowsLoop, List.append_nil]
    refine ⟨by simpa using hO, rfl, frameEq_refl _ _⟩
  | cons r rest ih =>
    intro done h x F hO
    have hr : (done ++ r :: rest)[done.length]? = some r := by simp
    rw [List.length_cons, stealGen_step pending _ _ h x _ r hr]
    have hO1 : Owns h (x.owned ++ r.impl :: (Move.owned done ++ Move.owned rest ++ F)) :=
      Owns.perm (by simp only [owned_cons]; owns_perm_tac) hO
    have S := stealGen_one pending h x r _ hO1
    dsimp only at S
    generalize (if pending then x.insertPendingRow generatorClass (r.setTopology h x.nnc).1 (r.setTopology h x.nnc).2
          else x.insertRow generatorClass (r.setTopology h x.nnc).1 (r.setTopology h x.nnc).2) = I at S ⊢
    obtain ⟨s1, s2, s3⟩ := S
    have hset : (done ++ r :: rest).set done.length I.2.2 = (done ++ [I.2.2]) ++ rest := by simp
    have hlen : done.length + 1 = (done ++ [I.2.2]).length := by simp
    rw [hset, hlen]
    have hO2 : Owns I.1 (I.2.1.owned ++ (Move.owned (done ++ [I.2.2]) ++ Move.owned rest) ++ F) :=
      Owns.perm (by simp only [owned_append, owned_cons, owned_nil]; owns_perm_tac) s1
    obtain ⟨i1, i2, i3⟩ := ih (done ++ [I.2.2]) I.1 I.2.1 F hO2
    refine ⟨i1, ?_, frameEq_trans (frameEq_append_right s3) i3⟩
    rw [i2, s2]
    have hrv : rowValues I.1 rest = rowValues h rest :=
      rowValues_frame rest s3 (fun a ha => by simp [ha])
    rw [hrv]
    simp [stealGenV, rowValues]

end PPLV.Value.Move.PolyKit

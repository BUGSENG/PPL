import PPLV.Value.MoveProofsMerge
import PPLV.Value.MoveProofsRecycle
import PPLV.Value.MoveProofsCmp

/-!
# C13 moving mechanics — ownership / frame lemmas of the `Poly` operations

Each operation keeps `Owns h (x.owned ++ F)` and leaves the frame `F` alone; a `const&` argument is the receiver
itself or owns cells inside `F` (`ArgIn`, `PArgIn`).
-/
namespace PPLV.Value.Move.PolyKit
open PPLV.Value.Move OwnsKit

/-! ## `set_empty`, `set_zero_dim_univ` -/

theorem Poly.setEmpty_owns (h : Heap) (p : Poly) (F : List Nat) (hO : Owns h (p.owned ++ F)) :
    Owns (p.setEmpty h).1 ((p.setEmpty h).2.owned ++ F) ∧ FrameEq h (p.setEmpty h).1 F := by
  have hO' : Owns h (p.conSys.owned ++ (p.genSys.owned ++ F)) := by
    simpa [Poly.owned, List.append_assoc] using hO
  obtain ⟨a1, _, a3, a4⟩ := LinSys.clear_refines h p.conSys _ hO'
  obtain ⟨b1, _, b3, b4⟩ := LinSys.clear_refines (LinSys.clear h p.conSys).1 p.genSys F a1
  refine ⟨?_, frameEq_trans (frameEq_append_right a4) b4⟩
  show Owns _ ((LinSys.clear h p.conSys).2.owned ++ (LinSys.clear (LinSys.clear h p.conSys).1 p.genSys).2.owned ++ F)
  rw [a3, b3]; exact b1

theorem Poly.setZeroDimUniv_owns (h : Heap) (p : Poly) (F : List Nat) (hO : Owns h (p.owned ++ F)) :
    Owns (p.setZeroDimUniv h).1 ((p.setZeroDimUniv h).2.owned ++ F) ∧ FrameEq h (p.setZeroDimUniv h).1 F := by
  obtain ⟨a, b, _, c⟩ := Poly.setZeroDimUniv_refines h p F hO
  rw [b]; exact ⟨a, c⟩

/-! ## `Linear_System` operations with a `const&` argument, in frame shape -/

/-- the argument of a `const Linear_System&` parameter is `*this` or owns cells inside the frame `F` -/
def ArgIn (F : List Nat) (y : Arg LinSys) : Prop :=
  match y with
  | .self => True
  | .other q => ∃ rest, F.Perm (q.owned ++ rest)

theorem ArgIn.frame {F : List Nat} {y : Arg LinSys} (A : List Nat) (hy : ArgIn F y) : ArgIn (A ++ F) y := by
  cases y with
  | self => trivial
  | other q =>
    obtain ⟨rest, hp⟩ := hy
    exact ⟨A ++ rest, (List.Perm.append_left A hp).trans (perm_rot A q.owned rest)⟩

theorem ArgIn.perm {F G : List Nat} {y : Arg LinSys} (hp : F.Perm G) (hy : ArgIn F y) : ArgIn G y := by
  cases y with
  | self => trivial
  | other q =>
    obtain ⟨rest, hq⟩ := hy
    exact ⟨rest, hp.symm.trans hq⟩

theorem ArgIn.mem {F : List Nat} {y : Arg LinSys} (hy : ArgIn F y) (x : LinSys) :
    ∀ a ∈ (y.get x).owned, a ∈ x.owned ++ F := by
  intro a ha
  cases y with
  | self => exact List.mem_append_left _ ha
  | other q =>
    obtain ⟨rest, hq⟩ := hy
    exact List.mem_append_right _ (hq.mem_iff.mpr (List.mem_append_left _ ha))

theorem LinSys.mergeRowsAssign_owns (K : RowClass) (hK : ∀ v, K.cmp v v = 0) (h : Heap) (x : LinSys)
    (y : Arg LinSys) (F : List Nat) (hy : ArgIn F y) (hO : Owns h (x.owned ++ F)) :
    Owns (x.mergeRowsAssign K h y).1 ((x.mergeRowsAssign K h y).2.owned ++ F)
    ∧ FrameEq h (x.mergeRowsAssign K h y).1 F := by
  cases y with
  | self =>
    obtain ⟨a, b, _⟩ := LinSys.mergeRowsAssign_self_owns K hK h x F hO
    exact ⟨a, b⟩
  | other q =>
    obtain ⟨rest, hp⟩ := hy
    exact lift_other hp hO (fun H => LinSys.mergeRowsAssign_other_owns K h x q rest H)

/-! ## `Polyhedron::operator=` -/

theorem assign_core (h : Heap) (xc xg : LinSys) (yc yg : Arg LinSys) (bc bg : Bool) (F : List Nat)
    (hyc : ArgIn F yc) (hyg : ArgIn F yg) (hO : Owns h (xc.owned ++ xg.owned ++ F)) :
    let r1 := if bc = true then LinSys.assignWithPending h xc yc else (h, xc)
    let r2 := if bg = true then LinSys.assignWithPending r1.1 xg yg else (r1.1, xg)
    Owns r2.1 (r1.2.owned ++ r2.2.owned ++ F) ∧ FrameEq h r2.1 F
    ∧ (bc = true → r1.2.value r2.1 = (yc.get xc).value h)
    ∧ (bg = true → r2.2.value r2.1 = (yg.get xg).value h) := by
  intro r1 r2
  have hO1 : Owns h (xc.owned ++ (xg.owned ++ F)) := by rw [← List.append_assoc]; exact hO
  -- step 1
  have s1 : Owns r1.1 (r1.2.owned ++ (xg.owned ++ F)) ∧ FrameEq h r1.1 (xg.owned ++ F)
      ∧ (bc = true → r1.2.value r1.1 = (yc.get xc).value h) := by
    by_cases hb : bc = true
    · have e : r1 = LinSys.assignWithPending h xc yc := by simp [r1, hb]
      rw [e]
      obtain ⟨a, c, b⟩ := LinSys.assignWithPending_refines h xc yc _ ((ArgIn.frame xg.owned hyc).mem xc) hO1
      exact ⟨a, b, fun _ => c⟩
    · have e : r1 = (h, xc) := by simp [r1, hb]
      rw [e]
      exact ⟨hO1, frameEq_refl _ _, fun hh => absurd hh hb⟩
  obtain ⟨a1, f1, v1⟩ := s1
  have hO2 : Owns r1.1 (xg.owned ++ (r1.2.owned ++ F)) := Owns.perm (perm_rot _ _ _) a1
  have hyg' : ArgIn (r1.2.owned ++ F) yg := ArgIn.frame _ hyg
  have s2 : Owns r2.1 (r2.2.owned ++ (r1.2.owned ++ F)) ∧ FrameEq r1.1 r2.1 (r1.2.owned ++ F)
      ∧ (bg = true → r2.2.value r2.1 = (yg.get xg).value r1.1) := by
    by_cases hb : bg = true
    · have e : r2 = LinSys.assignWithPending r1.1 xg yg := by simp [r2, hb]
      rw [e]
      obtain ⟨a, c, b⟩ := LinSys.assignWithPending_refines r1.1 xg yg _ (hyg'.mem xg) hO2
      exact ⟨a, b, fun _ => c⟩
    · have e : r2 = (r1.1, xg) := by simp [r2, hb]
      rw [e]
      exact ⟨hO2, frameEq_refl _ _, fun hh => absurd hh hb⟩
  obtain ⟨a2, f2, v2⟩ := s2
  refine ⟨?_, frameEq_trans (frameEq_append_right f1) (frameEq_append_right f2), ?_, ?_⟩
  · rw [List.append_assoc]; exact Owns.perm (perm_rot _ _ _) a2
  · intro hb
    rw [LinSys.value_frame r1.2 f2 (fun a ha => List.mem_append_left _ ha)]
    exact v1 hb
  · intro hb
    rw [v2 hb]
    exact LinSys.value_frame _ f1 (ArgIn.mem hyg xg)

/-- the argument of a `const Polyhedron&` parameter is `*this` or owns cells inside the frame `F` -/
def PArgIn (F : List Nat) (y : Arg Poly) : Prop :=
  match y with
  | .self => True
  | .other q => ∃ rest, F.Perm (q.owned ++ rest)

/-- the member systems of the argument -/
def argCon (y : Arg Poly) : Arg LinSys := match y with | .self => .self | .other q => .other q.conSys
def argGen (y : Arg Poly) : Arg LinSys := match y with | .self => .self | .other q => .other q.genSys

theorem PArgIn.con {F : List Nat} {y : Arg Poly} (hy : PArgIn F y) : ArgIn F (argCon y) := by
  cases y with
  | self => trivial
  | other q =>
    obtain ⟨rest, hp⟩ := hy
    refine ⟨q.genSys.owned ++ rest, ?_⟩
    simpa [Poly.owned, List.append_assoc] using hp

theorem PArgIn.gen {F : List Nat} {y : Arg Poly} (hy : PArgIn F y) : ArgIn F (argGen y) := by
  cases y with
  | self => trivial
  | other q =>
    obtain ⟨rest, hp⟩ := hy
    refine ⟨q.conSys.owned ++ rest, ?_⟩
    refine hp.trans ?_
    simp only [Poly.owned, List.append_assoc]
    exact perm_rot _ _ _

theorem argCon_get (x : Poly) (y : Arg Poly) : (argCon y).get x.conSys = (y.get x).conSys := by
  cases y <;> rfl
theorem argGen_get (x : Poly) (y : Arg Poly) : (argGen y).get x.genSys = (y.get x).genSys := by
  cases y <;> rfl

theorem Poly.assign_eq (h : Heap) (x : Poly) (y : Arg Poly) :
    x.assign h y =
      if (y.get x).markedEmpty = true then ({ x with spaceDim := (y.get x).spaceDim } : Poly).setEmpty h
      else if ((y.get x).spaceDim == 0) = true then ({ x with spaceDim := (y.get x).spaceDim } : Poly).setZeroDimUniv h
      else
        let r1 := if testAny (y.get x).status C_UP = true then LinSys.assignWithPending h x.conSys (argCon y) else (h, x.conSys)
        let r2 := if testAny (y.get x).status G_UP = true then LinSys.assignWithPending r1.1 x.genSys (argGen y) else (r1.1, x.genSys)
        (r2.1, (⟨r1.2, r2.2, if testAny (y.get x).status SAT_C_UP then (y.get x).satC else x.satC,
                   if testAny (y.get x).status SAT_G_UP then (y.get x).satG else x.satG,
                   (y.get x).status, (y.get x).spaceDim⟩ : Poly)) := by
  cases y <;> rfl


theorem Poly.assign_owns' (h : Heap) (x : Poly) (y : Arg Poly) (F : List Nat)
    (hy : PArgIn F y) (hO : Owns h (x.owned ++ F)) :
    Owns (x.assign h y).1 ((x.assign h y).2.owned ++ F) ∧ FrameEq h (x.assign h y).1 F := by
  rw [Poly.assign_eq]
  by_cases he : (y.get x).markedEmpty = true
  · rw [if_pos he]; exact Poly.setEmpty_owns h _ F hO
  rw [if_neg he]
  by_cases hz : ((y.get x).spaceDim == 0) = true
  · rw [if_pos hz]; exact Poly.setZeroDimUniv_owns h _ F hO
  rw [if_neg hz]
  have := assign_core h x.conSys x.genSys (argCon y) (argGen y) (testAny (y.get x).status C_UP)
    (testAny (y.get x).status G_UP) F hy.con hy.gen hO
  exact ⟨this.1, this.2.1⟩

theorem Poly.assign_owns (h : Heap) (x : Poly) (y : Arg Poly) (F : List Nat)
    (hy : match y with | .self => True | .other q => ∃ rest, F.Perm (q.owned ++ rest))
    (hO : Owns h (x.owned ++ F)) :
    Owns (x.assign h y).1 ((x.assign h y).2.owned ++ F) ∧ FrameEq h (x.assign h y).1 F :=
  Poly.assign_owns' h x y F hy hO

/-- the value computed by `x = y` when everything of `y` is up to date -/
theorem Poly.assign_value' (h : Heap) (x : Poly) (y : Arg Poly) (F : List Nat)
    (hy : PArgIn F y) (hO : Owns h (x.owned ++ F))
    (hne : (y.get x).markedEmpty = false) (hd : (y.get x).spaceDim ≠ 0)
    (hc : testAny (y.get x).status C_UP = true) (hg : testAny (y.get x).status G_UP = true)
    (hsc : testAny (y.get x).status SAT_C_UP = true) (hsg : testAny (y.get x).status SAT_G_UP = true) :
    (x.assign h y).2.value (x.assign h y).1 = (y.get x).value h := by
  have hd' : ((y.get x).spaceDim == 0) = false := by simpa using hd
  have := assign_core h x.conSys x.genSys (argCon y) (argGen y) (testAny (y.get x).status C_UP)
        (testAny (y.get x).status G_UP) F hy.con hy.gen hO
  obtain ⟨_, _, v1, v2⟩ := this
  have v1 := v1 hc
  have v2 := v2 hg
  rw [argCon_get] at v1
  rw [argGen_get] at v2
  rw [Poly.assign_eq]
  simp only [hne, hd', Bool.false_eq_true, if_false]
  simp only [Poly.value, hsc, hsg, if_true]
  rw [v1, v2]

theorem Poly.assign_value_other (h : Heap) (x q : Poly) (rest : List Nat)
    (hO : Owns h (x.owned ++ q.owned ++ rest))
    (hne : q.markedEmpty = false) (hd : q.spaceDim ≠ 0)
    (hc : testAny q.status C_UP = true) (hg : testAny q.status G_UP = true)
    (hsc : testAny q.status SAT_C_UP = true) (hsg : testAny q.status SAT_G_UP = true) :
    (x.assign h (.other q)).2.value (x.assign h (.other q)).1 = q.value h :=
  Poly.assign_value' h x (.other q) (q.owned ++ rest) ⟨rest, List.Perm.refl _⟩
    (by rw [← List.append_assoc]; exact hO) hne hd hc hg hsc hsg

theorem Poly.assign_value_self (h : Heap) (x : Poly) (F : List Nat)
    (hO : Owns h (x.owned ++ F))
    (hne : x.markedEmpty = false) (hd : x.spaceDim ≠ 0)
    (hc : testAny x.status C_UP = true) (hg : testAny x.status G_UP = true)
    (hsc : testAny x.status SAT_C_UP = true) (hsg : testAny x.status SAT_G_UP = true) :
    (x.assign h .self).2.value (x.assign h .self).1 = x.value h :=
  Poly.assign_value' h x .self F trivial hO hne hd hc hg hsc hsg

/-! ## `intersection_assign`, `poly_hull_assign` -/

theorem con_update_owns {h h' : Heap} (x : Poly) (c' : LinSys) (s : Nat) (F : List Nat)
    (H : Owns h' (c'.owned ++ (x.genSys.owned ++ F)) ∧ FrameEq h h' (x.genSys.owned ++ F)) :
    Owns h' (({ x with conSys := c', status := s } : Poly).owned ++ F) ∧ FrameEq h h' F := by
  refine ⟨?_, frameEq_append_right H.2⟩
  show Owns h' (c'.owned ++ x.genSys.owned ++ F)
  rw [List.append_assoc]; exact H.1

theorem gen_update_owns {h h' : Heap} (x : Poly) (g' : LinSys) (s : Nat) (F : List Nat)
    (H : Owns h' (g'.owned ++ (x.conSys.owned ++ F)) ∧ FrameEq h h' (x.conSys.owned ++ F)) :
    Owns h' (({ x with genSys := g', status := s } : Poly).owned ++ F) ∧ FrameEq h h' F := by
  refine ⟨?_, frameEq_append_right H.2⟩
  show Owns h' (x.conSys.owned ++ g'.owned ++ F)
  rw [List.append_assoc]; exact Owns.perm (perm_rot _ _ _) H.1

/-- The system part shared by `intersection_assign` (on the constraints) and `poly_hull_assign` (on the
    generators) once both descriptions are up to date: `insert_pending`, `merge_rows_assign` or `insert`
    of the argument's system. -/
def joinSys (K : RowClass) (h : Heap) (s : LinSys) (ys : Arg LinSys) (pending sorted : Bool) : Heap × LinSys :=
  if pending then s.insertPendingConst K h ys
  else if sorted then s.mergeRowsAssign K h ys else s.insertConst K h ys

theorem joinSys_owns (K : RowClass) (hK : ∀ v, K.cmp v v = 0) (h : Heap) (s : LinSys) (ys : Arg LinSys)
    (pending sorted : Bool) (F : List Nat) (hy : ArgIn F ys) (hO : Owns h (s.owned ++ F)) :
    Owns (joinSys K h s ys pending sorted).1 ((joinSys K h s ys pending sorted).2.owned ++ F)
    ∧ FrameEq h (joinSys K h s ys pending sorted).1 F := by
  unfold joinSys
  split
  · exact (LinSys.insertPendingConst_refines K h s ys F (hy.mem s) hO).imp_right And.right
  · split
    · exact LinSys.mergeRowsAssign_owns K hK h s ys F hy hO
    · exact (LinSys.insertConst_refines K h s ys F (hy.mem s) hO).imp_right And.right

theorem Poly.intersectionAssign_eq (h : Heap) (x : Poly) (y : Arg Poly) :
    x.intersectionAssign h y =
      if (x.nnc != (y.get x).nnc || x.spaceDim != (y.get x).spaceDim) = true then (h, x, .threw)
      else if x.markedEmpty = true then (h, x, .markedEmpty)
      else if (y.get x).markedEmpty = true then ((x.setEmpty h).1, (x.setEmpty h).2, .markedEmpty)
      else if (x.spaceDim == 0) = true then (h, x, .zeroDim)
      else if (testAny x.status GS_PENDING || !testAny x.status C_UP
          || testAny (y.get x).status GS_PENDING || !testAny (y.get x).status C_UP) = true then (h, x, .notModelled)
      else
        let r := joinSys constraintClass h x.conSys (argCon y) x.canHaveSomethingPending
          (x.conSys.sorted && (y.get x).conSys.sorted && !testAny (y.get x).status CS_PENDING)
        (r.1, { x with conSys := r.2, status := if x.canHaveSomethingPending = true then setF x.status CS_PENDING
                                                 else resetF (clearGeneratorsUpToDate x.status) C_MIN },
          if x.canHaveSomethingPending = true then .movedPending else .moved) := by
  cases y <;> cases hp : x.canHaveSomethingPending <;>
    simp only [Poly.intersectionAssign, joinSys, argCon, Arg.get, hp, if_true, if_false, Bool.false_eq_true]

/-- every outcome of `intersection_assign`: nothing written, `set_empty()`, or a `joinSys` step on the constraints -/
theorem Poly.intersectionAssign_elim {P : Heap × Poly × Exit → Prop} (h : Heap) (x : Poly) (y : Arg Poly)
    (same : ∀ e, P (h, x, e)) (empty : P ((x.setEmpty h).1, (x.setEmpty h).2, .markedEmpty))
    (join : ∀ p s st e, P ((joinSys constraintClass h x.conSys (argCon y) p s).1,
      { x with conSys := (joinSys constraintClass h x.conSys (argCon y) p s).2, status := st }, e)) :
    P (x.intersectionAssign h y) := by
  rw [Poly.intersectionAssign_eq]
  exact prop_ite (fun _ => same _) fun _ => prop_ite (fun _ => same _) fun _ => prop_ite (fun _ => empty) fun _ =>
    prop_ite (fun _ => same _) fun _ => prop_ite (fun _ => same _) fun _ => join _ _ _ _

theorem Poly.intersectionAssign_owns' (h : Heap) (x : Poly) (y : Arg Poly) (F : List Nat)
    (hy : PArgIn F y) (hO : Owns h (x.owned ++ F)) :
    Owns (x.intersectionAssign h y).1 ((x.intersectionAssign h y).2.1.owned ++ F)
    ∧ FrameEq h (x.intersectionAssign h y).1 F := by
  have hO1 : Owns h (x.conSys.owned ++ (x.genSys.owned ++ F)) := by rw [← List.append_assoc]; exact hO
  refine Poly.intersectionAssign_elim (P := fun r => Owns r.1 (r.2.1.owned ++ F) ∧ FrameEq h r.1 F) h x y
    (fun _ => ⟨hO, frameEq_refl _ _⟩) (Poly.setEmpty_owns h x F hO) fun p s st _ => ?_
  exact con_update_owns x _ st F
    (joinSys_owns constraintClass constraintClass_cmp_self h x.conSys (argCon y) p s _ (ArgIn.frame _ hy.con) hO1)

theorem Poly.intersectionAssign_owns (h : Heap) (x : Poly) (y : Arg Poly) (F : List Nat)
    (hy : match y with | .self => True | .other q => ∃ rest, F.Perm (q.owned ++ rest))
    (hO : Owns h (x.owned ++ F)) :
    Owns (x.intersectionAssign h y).1 ((x.intersectionAssign h y).2.1.owned ++ F)
    ∧ FrameEq h (x.intersectionAssign h y).1 F :=
  Poly.intersectionAssign_owns' h x y F hy hO

theorem Poly.polyHullAssign_eq (h : Heap) (x : Poly) (y : Arg Poly) :
    x.polyHullAssign h y =
      if (x.nnc != (y.get x).nnc || x.spaceDim != (y.get x).spaceDim) = true then (h, x, .threw)
      else if (y.get x).markedEmpty = true then (h, x, .markedEmpty)
      else if x.markedEmpty = true then ((x.assign h y).1, (x.assign h y).2, .markedEmpty)
      else if (x.spaceDim == 0) = true then (h, x, .zeroDim)
      else if (testAny x.status CS_PENDING || !testAny x.status G_UP
          || testAny (y.get x).status CS_PENDING || !testAny (y.get x).status G_UP) = true then (h, x, .notModelled)
      else
        let r := joinSys generatorClass h x.genSys (argGen y) x.canHaveSomethingPending
          (x.genSys.sorted && (y.get x).genSys.sorted && !testAny (y.get x).status GS_PENDING)
        (r.1, { x with genSys := r.2, status := if x.canHaveSomethingPending = true then setF x.status GS_PENDING
                                                 else resetF (clearConstraintsUpToDate x.status) G_MIN },
          if x.canHaveSomethingPending = true then .movedPending else .moved) := by
  cases y <;> cases hp : x.canHaveSomethingPending <;>
    simp only [Poly.polyHullAssign, joinSys, argGen, Arg.get, hp, if_true, if_false, Bool.false_eq_true]

/-- every outcome of `poly_hull_assign`: nothing written, `*this = y`, or a `joinSys` step on the generators -/
theorem Poly.polyHullAssign_elim {P : Heap × Poly × Exit → Prop} (h : Heap) (x : Poly) (y : Arg Poly)
    (same : ∀ e, P (h, x, e)) (assign : P ((x.assign h y).1, (x.assign h y).2, .markedEmpty))
    (join : ∀ p s st e, P ((joinSys generatorClass h x.genSys (argGen y) p s).1,
      { x with genSys := (joinSys generatorClass h x.genSys (argGen y) p s).2, status := st }, e)) :
    P (x.polyHullAssign h y) := by
  rw [Poly.polyHullAssign_eq]
  exact prop_ite (fun _ => same _) fun _ => prop_ite (fun _ => same _) fun _ => prop_ite (fun _ => assign) fun _ =>
    prop_ite (fun _ => same _) fun _ => prop_ite (fun _ => same _) fun _ => join _ _ _ _

theorem Poly.polyHullAssign_owns' (h : Heap) (x : Poly) (y : Arg Poly) (F : List Nat)
    (hy : PArgIn F y) (hO : Owns h (x.owned ++ F)) :
    Owns (x.polyHullAssign h y).1 ((x.polyHullAssign h y).2.1.owned ++ F)
    ∧ FrameEq h (x.polyHullAssign h y).1 F := by
  have hO1 : Owns h (x.genSys.owned ++ (x.conSys.owned ++ F)) := by
    refine Owns.perm ?_ hO
    simp only [Poly.owned, List.append_assoc]
    exact perm_rot _ _ _
  refine Poly.polyHullAssign_elim (P := fun r => Owns r.1 (r.2.1.owned ++ F) ∧ FrameEq h r.1 F) h x y
    (fun _ => ⟨hO, frameEq_refl _ _⟩) (Poly.assign_owns' h x y F hy hO) fun p s st _ => ?_
  exact gen_update_owns x _ st F
    (joinSys_owns generatorClass generatorClass_cmp_self h x.genSys (argGen y) p s _ (ArgIn.frame _ hy.gen) hO1)

theorem Poly.polyHullAssign_owns (h : Heap) (x : Poly) (y : Arg Poly) (F : List Nat)
    (hy : match y with | .self => True | .other q => ∃ rest, F.Perm (q.owned ++ rest))
    (hO : Owns h (x.owned ++ F)) :
    Owns (x.polyHullAssign h y).1 ((x.polyHullAssign h y).2.1.owned ++ F)
    ∧ FrameEq h (x.polyHullAssign h y).1 F :=
  Poly.polyHullAssign_owns' h x y F hy hO

/-! ## `add_constraints(const Constraint_System&)` -/

theorem Poly.addConstraints_owns (h : Heap) (x : Poly) (cs : LinSys) (F : List Nat)
    (hcs : ∃ rest, (x.owned ++ F).Perm (cs.owned ++ rest)) (hO : Owns h (x.owned ++ F)) :
    Owns (x.addConstraints h cs).1 ((x.addConstraints h cs).2.1.owned ++ F)
    ∧ FrameEq h (x.addConstraints h cs).1 F := by
  obtain ⟨rest, hp⟩ := hcs
  simp only [Poly.addConstraints]
  obtain ⟨a1, _, a3⟩ := LinSys.copy_refines h cs rest (Owns.perm hp hO)
  generalize LinSys.copy h cs = c at a1 a3 ⊢
  have hO1 : Owns c.1 (x.owned ++ c.2.owned ++ F) := by
    refine Owns.perm ?_ a1
    rw [List.append_assoc, List.append_assoc]
    exact (List.Perm.append_left _ hp.symm).trans (perm_rot _ _ _)
  have f1 : FrameEq h c.1 F := frameEq_append_right (FrameEq.perm hp.symm a3)
  obtain ⟨b1, b2, _, _⟩ := C13Proofs.recycled_argument_valid c.1 x c.2 F hO1
  generalize x.addRecycledConstraints c.1 c.2 = r at b1 b2 ⊢
  obtain ⟨c1, c2⟩ := LinSys.destroy_refines r.1 r.2.2.1 (r.2.1.owned ++ F) (Owns.perm (by owns_perm_tac) b1)
  exact ⟨c1, frameEq_trans (frameEq_trans f1 b2) (frameEq_append_right c2)⟩

/-! ## `m_swap`, in-place writes -/

theorem Poly.mSwap_eq (x y : Poly) : Poly.mSwap x y = if x.nnc = y.nnc then (y, x) else (x, y) := by
  unfold Poly.mSwap
  by_cases hn : x.nnc = y.nnc
  · simp [hn, LinSys.mSwap, SVec.mSwap, swapM]
  · simp [hn]

theorem Poly.mSwap_owned (x y : Poly) :
    ((Poly.mSwap x y).1.owned ++ (Poly.mSwap x y).2.owned).Perm (x.owned ++ y.owned) := by
  rw [Poly.mSwap_eq]
  split
  · exact List.perm_append_comm
  · exact List.Perm.refl _

/-- an in-place write through row `k` of one of `x`'s systems -/
theorem Poly.writeRow_owns (h : Heap) (x : Poly) (gen : Bool) (k : Nat) (r : Row) (f : List Int → List Int)
    (F : List Nat) (hr : (if gen then x.genSys else x.conSys).rows.impl[k]? = some r)
    (hO : Owns h (x.owned ++ F)) :
    Owns (h.modify r.impl f) (x.owned ++ F) ∧ FrameEq h (h.modify r.impl f) F := by
  have hmem : r.impl ∈ x.owned := by
    have hr' : r ∈ (if gen then x.genSys else x.conSys).rows.impl := List.mem_of_getElem? hr
    have : r.impl ∈ (if gen then x.genSys else x.conSys).owned := by
      simp only [LinSys.owned, Move.owned]; exact List.mem_map_of_mem hr'
    cases gen
    · exact List.mem_append_left _ (by simpa using this)
    · exact List.mem_append_right _ (by simpa using this)
  obtain ⟨a, b, _⟩ := CopyKit.owns_modify hO (List.mem_append_left F hmem) f
  refine ⟨a, fun c hc => b c ?_⟩
  intro hca
  subst hca
  have := (List.nodup_append.mp (owns_nodup hO)).2.2 _ hmem _ hc
  exact this rfl

end PPLV.Value.Move.PolyKit

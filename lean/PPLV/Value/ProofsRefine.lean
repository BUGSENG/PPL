import PPLV.Value.ProofsCow

/-! # C13 — `Determinate`: copy on write is invisible; the machine refines the value specification -/
namespace PPLV.Value.Cow
variable {P : Type}

theorem prep_setPrep_self (σ : State P) (h : Nat) (v : Option Nat) (hh : h < σ.handles.length) :
    (σ.setPrep h v).prep h = v := by
  simp [State.prep, hh]

theorem prep_setPrep_other (σ : State P) (h k : Nat) (v : Option Nat) (hk : k ≠ h) :
    (σ.setPrep h v).prep k = σ.prep k := by
  have : ¬ h = k := fun e => hk e.symm
  simp [State.prep, this]

/-- What `mutate()` achieves: afterwards the handle owns its representation exclusively, no other
handle moved, and no point set changed. -/
theorem mutateAt_spec {σ : State P} (I : Inv σ) {h a : Nat} (hp : σ.prep h = some a) :
    ∃ a' r', (mutateAt σ h a).prep h = some a' ∧ (mutateAt σ h a).heap a' = some r' ∧ r'.refs = 1 ∧
      (∀ k, k ≠ h → (mutateAt σ h a).prep k = σ.prep k) ∧
      (∀ x, σ.heap x ≠ none → readPset (mutateAt σ h a) x = readPset σ x) ∧
      readPset (mutateAt σ h a) a' = readPset σ a := by
  obtain ⟨r, hr, hrc, hpos⟩ := I.cell hp
  by_cases h1 : 1 < r.refs
  · rw [mutateAt_shared I hr h1]
    have hlt := I.lt_next hr
    refine ⟨σ.next, ⟨1, r.pset⟩, ?_, by simp, rfl, ?_, ?_, ?_⟩
    · have := prep_setPrep_self σ h (some σ.next) (lt_of_prep hp)
      simpa [State.prep, State.setPrep] using this
    · intro k hk
      have := prep_setPrep_other σ h k (some σ.next) hk
      simpa [State.prep, State.setPrep] using this
    · intro x hx
      have hxn : x ≠ σ.next := fun e => hx (e ▸ I.fresh _ (Nat.le_refl _))
      by_cases e : x = a
      · subst e; simp [readPset, hxn, hr]
      · simp [readPset, hxn, e]
    · simp [readPset, hr]
  · rw [mutateAt_unshared hr h1]
    exact ⟨a, r, hp, hr, by omega, fun _ _ => rfl, fun _ _ => rfl, rfl⟩

/-- **`mutate()` is invisible**: no handle sees a different value after it -/
theorem value_mutateAt {σ : State P} (I : Inv σ) {h a : Nat} (hp : σ.prep h = some a) (k : Nat) :
    value (mutateAt σ h a) k = value σ k := by
  obtain ⟨a', r', hp', _, _, hk, hx, ha'⟩ := mutateAt_spec I hp
  by_cases e : k = h
  · subst e; simp only [value, hp', hp, ha']
  · simp only [value, hk k e]
    cases hb : σ.prep k with
    | none => rfl
    | some b =>
      obtain ⟨rb, hrb, _, _⟩ := I.cell hb
      exact hx b (by simp [hrb])

/-- a live handle is still live after another handle's (or its own) `mutate()` -/
theorem mutateAt_prep_some {σ : State P} (I : Inv σ) {h a y ay : Nat} (hp : σ.prep h = some a)
    (hy : σ.prep y = some ay) : ∃ b, (mutateAt σ h a).prep y = some b := by
  obtain ⟨a', _, hp', _, _, hk, _, _⟩ := mutateAt_spec I hp
  by_cases e : y = h
  · subst e; exact ⟨a', hp'⟩
  · exact ⟨ay, by rw [hk y e, hy]⟩

/-- in a state satisfying the invariant, a representation with counter 1 has exactly one holder -/
theorem Inv.unique_holder {σ : State P} (I : Inv σ) {a h k : Nat} {r : Rep P} (hr : σ.heap a = some r)
    (h1 : r.refs = 1) (hh : σ.prep h = some a) (hk : σ.prep k = some a) : k = h := by
  refine Decidable.byContradiction fun hne => ?_
  have := two_le_count σ.handles k h (some a) hne (prep_eq_some.mp hk) (prep_eq_some.mp hh)
  have := (I.live a r hr).1
  simp only [holders] at this
  omega

theorem prep_writePset (σ : State P) (a : Nat) (f : P → P) (hl : σ.heap a ≠ none) (k : Nat) :
    (writePset σ a f).prep k = σ.prep k := by
  cases hr : σ.heap a with
  | none => exact absurd hr hl
  | some r => simp [writePset, hr, State.prep]

theorem readPset_writePset (σ : State P) (a : Nat) (f : P → P) (r : Rep P) (hr : σ.heap a = some r) (x : Nat) :
    readPset (writePset σ a f) x = if x = a then some (f r.pset) else readPset σ x := by
  by_cases e : x = a <;> simp [writePset, hr, readPset, e]

/-- writing through an exclusively owned representation changes exactly one handle's value -/
theorem value_writePset {σ : State P} (I : Inv σ) {h a : Nat} {r : Rep P} (hp : σ.prep h = some a)
    (hr : σ.heap a = some r) (h1 : r.refs = 1) (f : P → P) (k : Nat) :
    value (writePset σ a f) k = if k = h then some (f r.pset) else value σ k := by
  have hl : σ.heap a ≠ none := by simp [hr]
  simp only [value, prep_writePset σ a f hl]
  by_cases e : k = h
  · subst e; simp [hp, readPset_writePset σ a f r hr]
  · simp only [e, if_false]
    cases hb : σ.prep k with
    | none => rfl
    | some b =>
      have : b ≠ a := fun eb => e (I.unique_holder hr h1 hp (eb ▸ hb))
      simp [readPset_writePset σ a f r hr, this]

theorem Inv.step_mutate {σ : State P} (I : Inv σ) (h : Nat) (f : P → P) : Inv (step σ (.mutate h f)) := by
  cases hh : σ.prep h with
  | none => simp only [step, hh]; exact I
  | some a =>
    obtain ⟨a', r', hp', hr', _, _, _, _⟩ := mutateAt_spec I hh
    simp only [step, hh, hp']
    exact (I.mutateAt hh).writePset a' f (by simp [hr'])

theorem Inv.step_binop {σ : State P} (I : Inv σ) (h y : Nat) (g : P → P → P) :
    Inv (step σ (.binop h y g)) := by
  cases hh : σ.prep h with
  | none => simp only [step, hh]; exact I
  | some a =>
    cases hy : σ.prep y with
    | none => simp only [step, hh, hy]; exact I
    | some ay =>
      obtain ⟨a', r', hp', hr', _, _, _, _⟩ := mutateAt_spec I hh
      have I' := I.mutateAt hh
      obtain ⟨b, hb⟩ := mutateAt_prep_some I hh hy
      obtain ⟨rb, hrb, _, _⟩ := I'.cell hb
      simp only [step, hh, hy, hp', hb, readPset, hrb, Option.map_some]
      exact I'.writePset a' _ (by simp [hr'])

/-- every operation preserves the invariant -/
theorem Inv.step {σ : State P} (I : Inv σ) (op : Op P) : Inv (Cow.step σ op) := by
  cases op with
  | construct h p => exact I.step_construct h p
  | copyCtor h y => exact I.step_copyCtor h y
  | assign h y => exact I.step_assign h y
  | destroy h => exact I.step_destroy h
  | swap h y => exact I.step_swap h y
  | mutate h f => exact I.step_mutate h f
  | binop h y g => exact I.step_binop h y g

theorem Inv.init (n : Nat) : Inv (State.init P n) := by
  refine ⟨rfl, fun _ _ => rfl, fun a r h => by simp [State.init] at h, fun a _ => ?_⟩
  simp [holders, State.init, List.count_replicate]

theorem Inv.run {σ : State P} (I : Inv σ) (ops : List (Op P)) : Inv (Cow.run σ ops) := by
  induction ops generalizing σ with
  | nil => exact I
  | cons op ops ih => exact ih (I.step op)


/-! ### the value-level meaning of the operations, written out -/

open Spec in
/-- the operations on a pool of optional values (`none` = no object in the slot) -/
def vstep (n : Nat) (p : Pool (Option P)) : Op P → Pool (Option P)
  | .construct h v => match p h with
    | none => if h < n then upd p h (some v) else p
    | some _ => p
  | .copyCtor h y => match p h, p y with
    | none, some v => if h < n then upd p h (some v) else p
    | _, _ => p
  | .assign h y => match p h, p y with
    | some _, some v => upd p h (some v)
    | _, _ => p
  | .destroy h => upd p h none
  | .swap h y => match p h, p y with
    | some u, some v => upd (upd p h (some v)) y (some u)
    | _, _ => p
  | .mutate h f => match p h with
    | some v => upd p h (some (f v))
    | none => p
  | .binop h y g => match p h, p y with
    | some u, some v => upd p h (some (g u v))
    | _, _ => p

/-- `toSpec` says the same as `vstep`: the value-level operations are steps of the pool specification -/
theorem spec_step_toSpec (n : Nat) (p : Spec.Pool (Option P)) (op : Op P) :
    Spec.step p (toSpec n op) = vstep n p op := by
  cases op with
  | construct h v =>
    simp only [Spec.step, toSpec, vstep, Spec.applyWrites, List.map_cons, List.map_nil, List.getElem?_cons_zero]
    by_cases hn : h < n <;> cases p h <;> simp [hn]
  | copyCtor h y =>
    simp only [Spec.step, toSpec, vstep, Spec.applyWrites, List.map_cons, List.map_nil,
      List.getElem?_cons_zero, List.getElem?_cons_succ]
    by_cases hn : h < n <;> cases p h <;> cases p y <;> simp [hn]
  | assign h y =>
    simp only [Spec.step, toSpec, vstep, Spec.applyWrites, List.map_cons, List.map_nil,
      List.getElem?_cons_zero, List.getElem?_cons_succ]
    cases p h <;> cases p y <;> simp
  | destroy h => simp [Spec.step, toSpec, vstep, Spec.applyWrites]
  | swap h y =>
    simp only [Spec.step, toSpec, vstep, Spec.applyWrites, List.map_cons, List.map_nil,
      List.getElem?_cons_zero, List.getElem?_cons_succ]
    cases p h <;> cases p y <;> simp
  | mutate h f =>
    simp only [Spec.step, toSpec, vstep, Spec.applyWrites, List.map_cons, List.map_nil, List.getElem?_cons_zero]
    cases p h <;> simp
  | binop h y g =>
    simp only [Spec.step, toSpec, vstep, Spec.applyWrites, List.map_cons, List.map_nil,
      List.getElem?_cons_zero, List.getElem?_cons_succ]
    cases p h <;> cases p y <;> simp

/-! ### the machine computes `vstep` -/

theorem value_of_prep_none {σ : State P} {k : Nat} (h : σ.prep k = none) : value σ k = none := by
  simp [value, h]

theorem Inv.value_of_prep {σ : State P} (I : Inv σ) {k a : Nat} (h : σ.prep k = some a) :
    ∃ r, σ.heap a = some r ∧ value σ k = some r.pset := by
  obtain ⟨r, hr, _, _⟩ := I.cell h
  exact ⟨r, hr, by simp [value, h, readPset, hr]⟩

theorem prep_none_of_ge {σ : State P} {k : Nat} (h : σ.handles.length ≤ k) : σ.prep k = none := by
  simp [State.prep, List.getElem?_eq_none h]

/-- a live handle never points at or beyond `next` -/
theorem Inv.prep_ne_next {σ : State P} (I : Inv σ) {k b : Nat} (h : σ.prep k = some b) : b ≠ σ.next := by
  obtain ⟨r, hr, _, _⟩ := I.cell h
  have := I.lt_next hr
  omega

/-- Re-pointing handle `h` to `v` changes the value seen through `h` only, provided no point set seen through
    another handle is touched (counters may be). -/
theorem abs_retarget {σ τ : State P} {h : Nat} (v : Option Nat) (hl : h < σ.handles.length)
    (hhd : τ.handles = σ.handles.set h v)
    (hps : ∀ k b, k ≠ h → σ.prep k = some b → readPset τ b = readPset σ b) :
    abs τ = Spec.upd (abs σ) h (v.bind (readPset τ)) := by
  funext k
  by_cases e : k = h
  · subst e
    have hk : τ.prep k = v := by simp [State.prep, hhd, hl]
    simp only [abs, value, hk, Spec.upd, if_true]
    cases v <;> rfl
  · have hk : τ.prep k = σ.prep k := by simp [State.prep, hhd, Ne.symm e]
    simp only [abs, value, hk, Spec.upd, e, if_false]
    cases hb : σ.prep k with
    | none => rfl
    | some b => exact hps k b e hb

theorem abs_construct {σ : State P} (I : Inv σ) (h : Nat) (v : P) :
    abs (step σ (.construct h v)) = vstep σ.handles.length (abs σ) (.construct h v) := by
  by_cases hc : h < σ.handles.length ∧ σ.prep h = none
  · have hv : abs σ h = none := value_of_prep_none hc.2
    simp only [vstep, hv, hc.1, if_true, step, hc, and_self, alloc, newRef, State.setCell]
    refine (abs_retarget (some σ.next) hc.1 rfl fun k b _ hb => ?_).trans ?_
    · have : b ≠ σ.next := I.prep_ne_next hb
      simp [readPset, this]
    · simp [readPset]
  · simp only [step, hc, if_false]
    by_cases hl : h < σ.handles.length
    · have hs : σ.prep h ≠ none := fun x => hc ⟨hl, x⟩
      cases hp : σ.prep h with
      | none => exact absurd hp hs
      | some a =>
        obtain ⟨r, _, hr⟩ := I.value_of_prep hp
        simp [abs, vstep, hr]
    · have hv : value σ h = none := value_of_prep_none (prep_none_of_ge (by omega))
      simp [abs, vstep, hv, hl]

theorem abs_copyCtor {σ : State P} (I : Inv σ) (h y : Nat) :
    abs (step σ (.copyCtor h y)) = vstep σ.handles.length (abs σ) (.copyCtor h y) := by
  cases hy : σ.prep y with
  | none =>
    have hv : value σ y = none := value_of_prep_none hy
    simp only [abs, vstep, step, hy, hv]
    cases value σ h <;> rfl
  | some ay =>
    obtain ⟨ry, hry, hvy⟩ := I.value_of_prep hy
    by_cases hc : h < σ.handles.length ∧ σ.prep h = none
    · have hv : abs σ h = none := value_of_prep_none hc.2
      have hvy' : abs σ y = some ry.pset := hvy
      simp only [vstep, hv, hvy', hc.1, if_true, step, hy, hc, and_self, newRef_eq hry]
      refine (abs_retarget (some ay) hc.1 rfl fun k b _ _ => ?_).trans ?_
      · by_cases eb : b = ay <;> simp [readPset, eb, hry]
      · simp [readPset]
    · simp only [step, hy, hc, if_false]
      by_cases hl : h < σ.handles.length
      · have hs : σ.prep h ≠ none := fun x => hc ⟨hl, x⟩
        cases hp : σ.prep h with
        | none => exact absurd hp hs
        | some a =>
          obtain ⟨r, _, hr⟩ := I.value_of_prep hp
          simp [abs, vstep, hr]
      · have hv : value σ h = none := value_of_prep_none (prep_none_of_ge (by omega))
        simp [abs, vstep, hv, hvy, hl]

theorem abs_assign {σ : State P} (I : Inv σ) (h y : Nat) :
    abs (step σ (.assign h y)) = vstep σ.handles.length (abs σ) (.assign h y) := by
  cases hh : σ.prep h with
  | none =>
    have hv : abs σ h = none := value_of_prep_none hh
    simp [vstep, step, hh, hv]
  | some ah =>
    obtain ⟨rh, hrh, hvh⟩ := I.value_of_prep hh
    have hvh' : abs σ h = some rh.pset := hvh
    cases hy : σ.prep y with
    | none =>
      have hv : abs σ y = none := value_of_prep_none hy
      simp [vstep, step, hh, hy, hv, hvh']
    | some ay =>
      obtain ⟨ry, hry, hvy⟩ := I.value_of_prep hy
      have hvy' : abs σ y = some ry.pset := hvy
      simp only [vstep, hvh', hvy']
      by_cases hne : ah = ay
      · subst hne
        have : ry = rh := Option.some.inj (hry.symm.trans hrh)
        rw [step_assign_same I hh hy, this, ← hvh', Spec.upd_self]
      · rw [step_assign_diff I hh hy hne hrh hry]
        refine (abs_retarget (some ay) (lt_of_prep hh) rfl fun k b e hb => ?_).trans ?_
        · by_cases e1 : b = ah
          · subst e1
            -- `k ≠ h` also holds `ah`, so its counter is not 1: it is not freed
            have : rh.refs ≠ 1 := fun h1 => e (I.unique_holder hrh h1 hh hb)
            simp [readPset, this, hrh]
          · by_cases e2 : b = ay
            · subst e2; simp [readPset, e1, hry]
            · simp [readPset, e1, e2]
        · have n : ay ≠ ah := fun x => hne x.symm
          simp [readPset, n]

theorem abs_destroy {σ : State P} (I : Inv σ) (h : Nat) :
    abs (step σ (.destroy h)) = vstep σ.handles.length (abs σ) (.destroy h) := by
  cases hh : σ.prep h with
  | none =>
    have hv : abs σ h = none := value_of_prep_none hh
    simp only [vstep, step, hh]
    rw [← hv, Spec.upd_self]
  | some a =>
    obtain ⟨r, hr, -, hrp⟩ := I.cell hh
    simp only [vstep, step, hh, release_eq hr hrp]
    refine abs_retarget none (lt_of_prep hh) rfl fun k b e hb => ?_
    by_cases eb : b = a
    · subst eb
      -- `k ≠ h` also holds `b`, so its counter is not 1: it is not freed
      have : r.refs ≠ 1 := fun h1 => e (I.unique_holder hr h1 hh hb)
      simp [readPset, this, hr]
    · simp [readPset, eb]

theorem abs_swap {σ : State P} (I : Inv σ) (h y : Nat) :
    abs (step σ (.swap h y)) = vstep σ.handles.length (abs σ) (.swap h y) := by
  cases hh : σ.prep h with
  | none =>
    have hv : abs σ h = none := value_of_prep_none hh
    simp [vstep, step, hh, hv]
  | some ah =>
    obtain ⟨rh, hrh, hvh⟩ := I.value_of_prep hh
    have hvh' : abs σ h = some rh.pset := hvh
    cases hy : σ.prep y with
    | none =>
      have hv : abs σ y = none := value_of_prep_none hy
      simp [vstep, step, hh, hy, hv, hvh']
    | some ay =>
      obtain ⟨ry, hry, hvy⟩ := I.value_of_prep hy
      have hvy' : abs σ y = some ry.pset := hvy
      simp only [vstep, step, hh, hy, hvh', hvy']
      -- two re-pointings, no cell written
      rw [abs_retarget (σ := σ.setPrep h (some ay)) (τ := (σ.setPrep h (some ay)).setPrep y (some ah)) (some ah)
          (by simpa using lt_of_prep hy) rfl fun _ _ _ _ => rfl,
        abs_retarget (τ := σ.setPrep h (some ay)) (some ay) (lt_of_prep hh) rfl fun _ _ _ _ => rfl]
      simp [readPset, hrh, hry]

theorem abs_mutate {σ : State P} (I : Inv σ) (h : Nat) (f : P → P) :
    abs (step σ (.mutate h f)) = vstep σ.handles.length (abs σ) (.mutate h f) := by
  funext k
  cases hh : σ.prep h with
  | none =>
    have hv : value σ h = none := value_of_prep_none hh
    simp [abs, vstep, step, hh, hv]
  | some a =>
    obtain ⟨r, hr, hvh⟩ := I.value_of_prep hh
    obtain ⟨a', r', hp', hr', h1, _, _, hps⟩ := mutateAt_spec I hh
    have I' := I.mutateAt hh
    have hpset : r'.pset = r.pset := by
      simp only [readPset, hr', hr, Option.map_some, Option.some.injEq] at hps; exact hps
    simp only [abs, vstep, step, hh, hp', hvh, Spec.upd]
    rw [value_writePset I' hp' hr' h1 f k, hpset]
    by_cases e : k = h
    · simp [e]
    · simp only [e, if_false]; exact value_mutateAt I hh k

theorem abs_binop {σ : State P} (I : Inv σ) (h y : Nat) (g : P → P → P) :
    abs (step σ (.binop h y g)) = vstep σ.handles.length (abs σ) (.binop h y g) := by
  funext k
  cases hh : σ.prep h with
  | none =>
    have hv : value σ h = none := value_of_prep_none hh
    simp [abs, vstep, step, hh, hv]
  | some a =>
    obtain ⟨r, hr, hvh⟩ := I.value_of_prep hh
    cases hy : σ.prep y with
    | none =>
      have hv : value σ y = none := value_of_prep_none hy
      simp [abs, vstep, step, hh, hy, hv, hvh]
    | some ay =>
      obtain ⟨ry, hry, hvy⟩ := I.value_of_prep hy
      obtain ⟨a', r', hp', hr', h1, _, _, hps⟩ := mutateAt_spec I hh
      have I' := I.mutateAt hh
      have hpset : r'.pset = r.pset := by
        simp only [readPset, hr', hr, Option.map_some, Option.some.injEq] at hps; exact hps
      -- the argument is read after the receiver's `mutate()`: it still shows the same value
      have hvy' : value (mutateAt σ h a) y = some ry.pset := by rw [value_mutateAt I hh y]; exact hvy
      obtain ⟨b, hb⟩ := mutateAt_prep_some I hh hy
      have hrb : readPset (mutateAt σ h a) b = some ry.pset := by
        simpa [value, hb] using hvy'
      simp only [abs, vstep, step, hh, hy, hp', hb, hrb, hvh, hvy, Spec.upd]
      rw [value_writePset I' hp' hr' h1 _ k, hpset]
      by_cases e : k = h
      · simp [e]
      · simp only [e, if_false]; exact value_mutateAt I hh k

/-- **refinement, one step**: the abstraction (handles ↦ values) commutes with every operation -/
theorem abs_step {σ : State P} (I : Inv σ) (op : Op P) :
    abs (step σ op) = Spec.step (abs σ) (toSpec σ.handles.length op) := by
  rw [spec_step_toSpec]
  cases op with
  | construct h p => exact abs_construct I h p
  | copyCtor h y => exact abs_copyCtor I h y
  | assign h y => exact abs_assign I h y
  | destroy h => exact abs_destroy I h
  | swap h y => exact abs_swap I h y
  | mutate h f => exact abs_mutate I h f
  | binop h y g => exact abs_binop I h y g

theorem value_step {σ : State P} (I : Inv σ) (op : Op P) (k : Nat) :
    value (step σ op) k = Spec.step (abs σ) (toSpec σ.handles.length op) k :=
  congrFun (abs_step I op) k

theorem newRef_handles (σ : State P) (a : Nat) : (newRef σ a).handles = σ.handles := by
  unfold newRef; split <;> rfl
theorem delRef_handles (σ : State P) (a : Nat) : (delRef σ a).1.handles = σ.handles := by
  unfold delRef; split
  · split <;> rfl
  · rfl
theorem free_handles (σ : State P) (a : Nat) : (free σ a).handles = σ.handles := by
  unfold free; split
  · split <;> rfl
  · rfl
theorem release_handles (σ : State P) (a : Nat) : (release σ a).handles = σ.handles := by
  show (if (delRef σ a).2 = true then free (delRef σ a).1 a else (delRef σ a).1).handles = _
  split
  · rw [free_handles, delRef_handles]
  · rw [delRef_handles]
theorem writePset_handles (σ : State P) (a : Nat) (f : P → P) : (writePset σ a f).handles = σ.handles := by
  unfold writePset; split <;> rfl
theorem mutateAt_length (σ : State P) (h a : Nat) : (mutateAt σ h a).handles.length = σ.handles.length := by
  unfold mutateAt; split
  · rfl
  · split
    · simp only [setPrep_handles, List.length_set, newRef_handles, delRef_handles]; rfl
    · rfl
/-- no operation changes the number of object slots -/
theorem length_step (σ : State P) (op : Op P) : (step σ op).handles.length = σ.handles.length := by
  cases op with
  | construct h p => simp only [step]; split <;> simp [newRef_handles, alloc]
  | copyCtor h y =>
    simp only [step]; split
    · split <;> simp [newRef_handles]
    · rfl
  | assign h y => simp only [step]; split <;> simp [release_handles, newRef_handles]
  | destroy h => simp only [step]; split <;> simp [release_handles]
  | swap h y => simp only [step]; split <;> simp
  | mutate h f =>
    simp only [step]; split
    · split <;> simp [writePset_handles, mutateAt_length, State.bad]
    · rfl
  | binop h y g =>
    simp only [step]; split
    · split
      · split <;> simp [writePset_handles, mutateAt_length, State.bad]
      · simp [mutateAt_length, State.bad]
    · rfl

theorem length_run (σ : State P) (ops : List (Op P)) : (run σ ops).handles.length = σ.handles.length := by
  induction ops generalizing σ with
  | nil => rfl
  | cons op ops ih => exact (ih (step σ op)).trans (length_step σ op)

end PPLV.Value.Cow

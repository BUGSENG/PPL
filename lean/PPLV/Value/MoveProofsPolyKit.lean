import PPLV.Value.MoveProofsSys
import PPLV.Value.MoveProofsCopy
import PPLV.Value.MoveProofsAdjust

/-!
# C13 moving mechanics — ownership / frame bookkeeping for the `Poly` level: permutations of owned lists, values under a frame
-/
namespace PPLV.Value.Move.PolyKit
open PPLV.Value.Move OwnsKit

/-- What holds of both branches holds of the conditional.  (`split` on the guards of this model, tests of status
    bits, costs a hundred times the `if_pos`/`if_neg` rewriting done here.) -/
theorem prop_ite {α : Type} {P : α → Prop} {c : Prop} [Decidable c] {a b : α} (ha : c → P a) (hb : ¬c → P b) :
    P (if c then a else b) := by
  by_cases hc : c
  · rw [if_pos hc]; exact ha hc
  · rw [if_neg hc]; exact hb hc

/-- Two conditionals on the same guard are related if their branches are, pairwise. -/
theorem rel_ite {α β : Type} {R : α → β → Prop} {c : Prop} [Decidable c] {a b : α} {a' b' : β}
    (ha : c → R a a') (hb : ¬c → R b b') : R (if c then a else b) (if c then a' else b') := by
  by_cases hc : c
  · rw [if_pos hc, if_pos hc]; exact ha hc
  · rw [if_neg hc, if_neg hc]; exact hb hc

theorem Owns.perm {h : Heap} {as bs : List Nat} (hp : as.Perm bs) (hO : Owns h as) : Owns h bs :=
  OwnsKit.owns_perm hO hp

theorem FrameEq.perm {h h' : Heap} {F G : List Nat} (hp : F.Perm G) (hf : FrameEq h h' F) : FrameEq h h' G :=
  frameEq_mono hf (fun _ ha => hp.mem_iff.mpr ha)

theorem FrameEq.append {h h' : Heap} {F G : List Nat} (h1 : FrameEq h h' F) (h2 : FrameEq h h' G) :
    FrameEq h h' (F ++ G) := frameEq_append h1 h2

/-- a system's value is unchanged when the cells it owns are -/
theorem LinSys.value_frame {h h' : Heap} {F : List Nat} (s : LinSys) (hf : FrameEq h h' F)
    (hs : ∀ a ∈ s.owned, a ∈ F) : s.value h' = s.value h :=
  LinSys.value_congr h h' s (frameEq_mono hf hs)

theorem Poly.value_frame {h h' : Heap} {F : List Nat} (p : Poly) (hf : FrameEq h h' F)
    (hs : ∀ a ∈ p.owned, a ∈ F) : p.value h' = p.value h := by
  have h1 : p.conSys.value h' = p.conSys.value h :=
    LinSys.value_frame _ hf (fun a ha => hs a (by simp [Poly.owned, ha]))
  have h2 : p.genSys.value h' = p.genSys.value h :=
    LinSys.value_frame _ hf (fun a ha => hs a (by simp [Poly.owned, ha]))
  simp [Poly.value, h1, h2]

theorem Poly.value_congr (h h' : Heap) (p : Poly) (hf : FrameEq h h' p.owned) : p.value h' = p.value h :=
  Poly.value_frame p hf (fun _ ha => ha)

/-- turn an interface lemma stated for `x.owned ++ y.owned ++ rest` into one stated for `x.owned ++ F`
    with `y.owned` somewhere inside `F` -/
theorem lift_other {h h' : Heap} {xo xo' yo F rest : List Nat} (hp : F.Perm (yo ++ rest))
    (hO : Owns h (xo ++ F))
    (H : Owns h (xo ++ yo ++ rest) → Owns h' (xo' ++ yo ++ rest) ∧ FrameEq h h' (yo ++ rest)) :
    Owns h' (xo' ++ F) ∧ FrameEq h h' F := by
  have h1 : Owns h (xo ++ yo ++ rest) := by
    rw [List.append_assoc]; exact Owns.perm (List.Perm.append_left xo hp) hO
  obtain ⟨h2, h3⟩ := H h1
  refine ⟨?_, FrameEq.perm hp.symm h3⟩
  rw [List.append_assoc] at h2
  exact Owns.perm (List.Perm.append_left xo' hp.symm) h2

/-- the receiver's part changes, the rest is a frame: re-associate `(c ++ g) ++ F` -/
theorem owns_assoc {h : Heap} {a b c : List Nat} : Owns h (a ++ b ++ c) ↔ Owns h (a ++ (b ++ c)) := by
  rw [List.append_assoc]

theorem perm_swap12 (a b c : List Nat) : (a ++ b ++ c).Perm (b ++ a ++ c) :=
  List.Perm.append_right c List.perm_append_comm

theorem perm_rot (a b c : List Nat) : (a ++ (b ++ c)).Perm (b ++ (a ++ c)) := by
  rw [← List.append_assoc, ← List.append_assoc]; exact perm_swap12 a b c

@[simp] theorem owned_nil : Move.owned [] = [] := rfl
@[simp] theorem owned_cons (r : Row) (rs : List Row) : Move.owned (r :: rs) = r.impl :: Move.owned rs := rfl
@[simp] theorem owned_append (a b : List Row) : Move.owned (a ++ b) = Move.owned a ++ Move.owned b := by
  simp [Move.owned]
theorem owned_length (a : List Row) : (Move.owned a).length = a.length := by simp [Move.owned]

theorem rowValues_frame {h h' : Heap} {F : List Nat} (rows : List Row) (hf : FrameEq h h' F)
    (hs : ∀ a ∈ Move.owned rows, a ∈ F) : rowValues h' rows = rowValues h rows :=
  OwnsKit.rowValues_congr (frameEq_mono hf hs)

end PPLV.Value.Move.PolyKit

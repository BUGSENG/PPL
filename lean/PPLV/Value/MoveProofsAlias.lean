import PPLV.Value.MoveProofsPoly
import PPLV.Value.MoveProofsAliasConcat

/-!
# C13 moving mechanics — aliasing at the data level

`x.op(x)` computes what `x.op(copy of x)` computes, for `insert`, `add_constraints`, `intersection_assign`,
`poly_hull_assign` and `concatenate_assign`.  Each binary operation of `Polyhedron` tests the same guards
in both calls (the copy has the scalar members of `x`), and its working part sees value-equal systems.
-/
namespace PPLV.Value.Move.AliasKit
open PPLV.Value PPLV.Value.Move

/-! ## `Polyhedron(const Polyhedron&)` -/

theorem assignWithPending_mk0 (h : Heap) (n : Bool) (s : LinSys) :
    LinSys.assignWithPending h (LinSys.mk0 n) (.other s) = LinSys.copyWithPending h s := rfl

/-- the conditional member copy of `Polyhedron(const Polyhedron&)` -/
def optCopy (b : Bool) (n : Bool) (h : Heap) (s : LinSys) : Heap × LinSys :=
  if b then LinSys.assignWithPending h (LinSys.mk0 n) (.other s) else (h, LinSys.mk0 n)

theorem optCopy_refines (b n : Bool) (h : Heap) (s : LinSys) (frame : List Nat)
    (hO : Owns h (s.owned ++ frame)) :
    Owns (optCopy b n h s).1 ((optCopy b n h s).2.owned ++ s.owned ++ frame)
    ∧ FrameEq h (optCopy b n h s).1 (s.owned ++ frame)
    ∧ (optCopy b n h s).2.nnc = (if b then s.nnc else n)
    ∧ (b = true → (optCopy b n h s).2.value (optCopy b n h s).1 = s.value h) := by
  cases b with
  | false =>
    refine ⟨?_, OwnsKit.frameEq_refl _ _, rfl, by simp⟩
    simpa [optCopy, LinSys.mk0, LinSys.owned, SVec.nil, Move.owned] using hO
  | true =>
    obtain ⟨h1, h2, h3⟩ := LinSys.copyWithPending_refines h s _ hO (fun _ ha => List.mem_append_left _ ha)
    exact ⟨PolyKit.owns_assoc.mpr h1, h3, rfl, fun _ => h2⟩

theorem Poly.copy_eq (h : Heap) (x : Poly) :
    Poly.copy h x =
      ((optCopy (testAny x.status G_UP) x.nnc (optCopy (testAny x.status C_UP) x.nnc h x.conSys).1 x.genSys).1,
       ⟨(optCopy (testAny x.status C_UP) x.nnc h x.conSys).2,
        (optCopy (testAny x.status G_UP) x.nnc (optCopy (testAny x.status C_UP) x.nnc h x.conSys).1 x.genSys).2,
        if testAny x.status SAT_C_UP then x.satC else BitMatrix.empty,
        if testAny x.status SAT_G_UP then x.satG else BitMatrix.empty, x.status, x.spaceDim⟩) := rfl

/-- `y` in `h'` is a copy of `x` in `h` as `Polyhedron(const Polyhedron&)` makes it: storage of its own, the
    scalar members of `x`, and the value of each description of `x` that is up to date. -/
structure IsCopy (h h' : Heap) (x y : Poly) (F : List Nat) : Prop where
  owns : Owns h' (x.owned ++ y.owned ++ F)
  frame : FrameEq h h' (x.owned ++ F)
  status : y.status = x.status
  spaceDim : y.spaceDim = x.spaceDim
  nnc : y.conSys.nnc = x.conSys.nnc
  con : testAny x.status C_UP = true → y.conSys.value h' = x.conSys.value h
  gen : testAny x.status G_UP = true → y.genSys.value h' = x.genSys.value h

theorem IsCopy.value {h h' : Heap} {x y : Poly} {F : List Nat} (hc : IsCopy h h' x y F) : x.value h' = x.value h :=
  PolyKit.Poly.value_frame x hc.frame (fun _ ha => List.mem_append_left _ ha)

theorem Poly.copy_isCopy (h : Heap) (x : Poly) (frame : List Nat) (hO : Owns h (x.owned ++ frame)) :
    IsCopy h (Poly.copy h x).1 x (Poly.copy h x).2 frame := by
  rw [Poly.copy_eq]
  generalize hb1 : testAny x.status C_UP = b1
  generalize hb2 : testAny x.status G_UP = b2
  have hO1 : Owns h (x.conSys.owned ++ (x.genSys.owned ++ frame)) := by
    rw [← List.append_assoc]; exact hO
  obtain ⟨o1, f1, n1, v1⟩ := optCopy_refines b1 x.nnc h x.conSys _ hO1
  generalize optCopy b1 x.nnc h x.conSys = c1 at *
  have hO2 : Owns c1.1 (x.genSys.owned ++ (c1.2.owned ++ x.conSys.owned ++ frame)) :=
    PolyKit.Owns.perm (by owns_perm_tac) o1
  obtain ⟨o2, f2, n2, v2⟩ := optCopy_refines b2 x.nnc c1.1 x.genSys _ hO2
  generalize optCopy b2 x.nnc c1.1 x.genSys = c2 at *
  have fG : FrameEq h c1.1 x.genSys.owned := OwnsKit.frameEq_append_left (OwnsKit.frameEq_append_right f1)
  refine ⟨PolyKit.Owns.perm (by owns_perm_tac) o2, ?_, rfl, rfl, ?_, ?_, ?_⟩
  · intro a ha
    have ha' : a ∈ x.conSys.owned ++ (x.genSys.owned ++ frame) := by
      simpa [Poly.owned, List.append_assoc] using ha
    rw [f2 a (by simp only [List.mem_append] at ha' ⊢; rcases ha' with h | h | h <;> simp [h]), f1 a ha']
  · show c1.2.nnc = x.conSys.nnc
    rw [n1]; cases b1 <;> rfl
  · intro hb
    show c1.2.value c2.1 = _
    rw [← v1 (hb1 ▸ hb)]
    exact PolyKit.LinSys.value_frame c1.2 f2 (fun a ha => by simp only [List.mem_append]; simp [ha])
  · intro hb
    show c2.2.value c2.1 = _
    rw [v2 (hb2 ▸ hb)]
    exact PolyKit.LinSys.value_frame x.genSys fG (fun a ha => ha)

/-! ## the system part of `intersection_assign` / `poly_hull_assign` -/

/-- `s.op(s)` and `s.op(t)` for a value-equal `t` with storage of its own give `s` the same value, for each of
    the three insertions `joinSys` chooses from; cells outside `s` (and `t`) are not written. -/
theorem joinSys_alias (K : RowClass) (hK : ∀ v, K.cmp v v = 0) (h h' : Heap) (s t : LinSys) (G G' : List Nat)
    (p b : Bool) (hO : Owns h (s.owned ++ G)) (hO' : Owns h' (s.owned ++ t.owned ++ G'))
    (hfr : FrameEq h h' s.owned) (hv : t.value h' = s.value h) :
    (PolyKit.joinSys K h s .self p b).2.value (PolyKit.joinSys K h s .self p b).1
      = (PolyKit.joinSys K h' s (.other t) p b).2.value (PolyKit.joinSys K h' s (.other t) p b).1
    ∧ FrameEq h (PolyKit.joinSys K h s .self p b).1 G
    ∧ FrameEq h' (PolyKit.joinSys K h' s (.other t) p b).1 G' := by
  have hs : s.value h' = s.value h := LinSys.value_congr h h' s hfr
  have hO'' : Owns h' (s.owned ++ (t.owned ++ G')) := PolyKit.owns_assoc.mp hO'
  have ht : ∀ a ∈ t.owned, a ∈ s.owned ++ (t.owned ++ G') :=
    fun _ ha => List.mem_append_right _ (List.mem_append_left _ ha)
  have hself : ∀ a ∈ s.owned, a ∈ s.owned ++ G := fun _ ha => List.mem_append_left _ ha
  refine ⟨?_, (PolyKit.joinSys_owns K hK h s .self p b G trivial hO).2,
    OwnsKit.frameEq_append_right (PolyKit.joinSys_owns K hK h' s (.other t) p b _ ⟨G', List.Perm.refl _⟩ hO'').2⟩
  unfold PolyKit.joinSys
  cases p
  · cases b
    · rw [if_neg Bool.false_ne_true, if_neg Bool.false_ne_true, if_neg Bool.false_ne_true, if_neg Bool.false_ne_true,
        (LinSys.insertConst_refines K h s .self G hself hO).2.1,
        (LinSys.insertConst_refines K h' s (.other t) _ ht hO'').2.1]
      show insertSysV K (s.value h) (s.value h) = insertSysV K (s.value h') (t.value h')
      rw [hv, hs]
    · have hrows : rowValues h' t.rows.impl = rowValues h' s.rows.impl := congrArg LinSysV.rows (hv.trans hs.symm)
      rw [if_neg Bool.false_ne_true, if_neg Bool.false_ne_true, if_pos rfl, if_pos rfl,
        (LinSys.mergeRowsAssign_self_owns K hK h s G hO).2.2,
        LinSys.mergeRowsAssign_other_sameval K hK h' s t G' hO' hrows, hs]
  · rw [if_pos rfl, if_pos rfl, (LinSys.insertPendingConst_refines K h s .self G hself hO).2.1,
      (LinSys.insertPendingConst_refines K h' s (.other t) _ ht hO'').2.1]
    show insertPendingSysV (s.value h) (s.value h) = insertPendingSysV (s.value h') (t.value h')
    rw [hv, hs]

/-! ## `intersection_assign`, `poly_hull_assign`, `concatenate_assign` against a copy -/

/-- the "not modelled" guard of the binary operations (a pending or out-of-date description on either side),
    for a receiver and its copy, fails only if the description is up to date -/
theorem upToDate_of_not_guard {p u : Bool} (hN : ¬ (p || !u || p || !u) = true) : u = true := by
  cases u
  · exact absurd (by cases p <;> rfl) hN
  · rfl

/-- two outcomes `(heap, object, exit)` showing the same value and the same exit -/
def SameOut {α V : Type} (val : Heap → α → V) (r r' : Heap × α × Exit) : Prop :=
  val r.1 r.2.1 = val r'.1 r'.2.1 ∧ r.2.2 = r'.2.2

theorem inter_core (h h' : Heap) (x y : Poly) (F : List Nat) (hO : Owns h (x.owned ++ F))
    (hc : IsCopy h h' x y F) :
    SameOut Poly.value (x.intersectionAssign h .self) (x.intersectionAssign h' (.other y)) := by
  have hxv := hc.value
  rw [PolyKit.Poly.intersectionAssign_eq, PolyKit.Poly.intersectionAssign_eq]
  simp only [Arg.get, PolyKit.argCon, Poly.markedEmpty, Poly.nnc, hc.status, hc.spaceDim, hc.nnc,
    bne_self_eq_false, Bool.or_self, Bool.false_eq_true, if_false]
  have early : ∀ e, SameOut Poly.value (h, x, e) (h', x, e) := fun _ => ⟨hxv.symm, rfl⟩
  refine PolyKit.rel_ite (fun _ => early _) fun hE => PolyKit.rel_ite (fun hE' => absurd hE' hE) fun _ =>
    PolyKit.rel_ite (fun _ => early _) fun _ => PolyKit.rel_ite (fun _ => early _) fun hN => ?_
  have hyv := hc.con (upToDate_of_not_guard hN)
  have hO1 : Owns h (x.conSys.owned ++ (x.genSys.owned ++ F)) := by rw [← List.append_assoc]; exact hO
  have hO2 : Owns h' (x.conSys.owned ++ y.conSys.owned ++ (x.genSys.owned ++ y.genSys.owned ++ F)) :=
    PolyKit.Owns.perm (by owns_perm_tac) hc.owns
  obtain ⟨jv, f1, f2⟩ := joinSys_alias constraintClass constraintClass_cmp_self h h' x.conSys y.conSys _ _
    x.canHaveSomethingPending (x.conSys.sorted && x.conSys.sorted && !testAny x.status CS_PENDING) hO1 hO2
    (OwnsKit.frameEq_mono hc.frame (fun a ha => by simp [Poly.owned, ha])) hyv
  refine ⟨?_, by trivial⟩
  rw [show y.conSys.sorted = x.conSys.sorted from congrArg LinSysV.sorted hyv]
  simp only [Poly.value]
  rw [jv, PolyKit.LinSys.value_frame x.genSys f1 (fun a ha => by simp [ha]),
    PolyKit.LinSys.value_frame x.genSys f2 (fun a ha => by simp [ha]),
    PolyKit.LinSys.value_frame x.genSys hc.frame (fun a ha => by simp [Poly.owned, ha])]

theorem hull_core (h h' : Heap) (x y : Poly) (F : List Nat) (hO : Owns h (x.owned ++ F))
    (hc : IsCopy h h' x y F) :
    SameOut Poly.value (x.polyHullAssign h .self) (x.polyHullAssign h' (.other y)) := by
  have hxv := hc.value
  rw [PolyKit.Poly.polyHullAssign_eq, PolyKit.Poly.polyHullAssign_eq]
  simp only [Arg.get, PolyKit.argGen, Poly.markedEmpty, Poly.nnc, hc.status, hc.spaceDim, hc.nnc,
    bne_self_eq_false, Bool.or_self, Bool.false_eq_true, if_false]
  have early : ∀ e, SameOut Poly.value (h, x, e) (h', x, e) := fun _ => ⟨hxv.symm, rfl⟩
  refine PolyKit.rel_ite (fun _ => early _) fun hE => PolyKit.rel_ite (fun hE' => absurd hE' hE) fun _ =>
    PolyKit.rel_ite (fun _ => early _) fun _ => PolyKit.rel_ite (fun _ => early _) fun hN => ?_
  have hyv := hc.gen (upToDate_of_not_guard hN)
  have hO1 : Owns h (x.genSys.owned ++ (x.conSys.owned ++ F)) := PolyKit.Owns.perm (by owns_perm_tac) hO
  have hO2 : Owns h' (x.genSys.owned ++ y.genSys.owned ++ (x.conSys.owned ++ y.conSys.owned ++ F)) :=
    PolyKit.Owns.perm (by owns_perm_tac) hc.owns
  obtain ⟨jv, f1, f2⟩ := joinSys_alias generatorClass generatorClass_cmp_self h h' x.genSys y.genSys _ _
    x.canHaveSomethingPending (x.genSys.sorted && x.genSys.sorted && !testAny x.status GS_PENDING) hO1 hO2
    (OwnsKit.frameEq_mono hc.frame (fun a ha => by simp [Poly.owned, ha])) hyv
  refine ⟨?_, by trivial⟩
  rw [show y.genSys.sorted = x.genSys.sorted from congrArg LinSysV.sorted hyv]
  simp only [Poly.value]
  rw [jv, PolyKit.LinSys.value_frame x.conSys f1 (fun a ha => by simp [ha]),
    PolyKit.LinSys.value_frame x.conSys f2 (fun a ha => by simp [ha]),
    PolyKit.LinSys.value_frame x.conSys hc.frame (fun a ha => by simp [Poly.owned, ha])]

theorem concat_core (h h' : Heap) (x y : Poly) (F : List Nat) (hO : Owns h (x.owned ++ F))
    (hc : IsCopy h h' x y F) :
    SameOut LinSys.value (x.concatenateAssignCons h .self) (x.concatenateAssignCons h' (.other y)) := by
  have hcv : x.conSys.value h' = x.conSys.value h :=
    PolyKit.LinSys.value_frame x.conSys hc.frame (fun a ha => by simp [Poly.owned, ha])
  rw [Poly.concatenateAssignCons_eq, Poly.concatenateAssignCons_eq]
  simp only [Arg.get, Poly.markedEmpty, Poly.nnc, hc.status, hc.spaceDim, hc.nnc, bne_self_eq_false, Bool.or_self,
    Bool.false_eq_true, if_false]
  have early : ∀ e, SameOut LinSys.value (h, x.conSys, e) (h', x.conSys, e) := fun _ => ⟨hcv.symm, rfl⟩
  refine PolyKit.rel_ite (fun _ => early _) fun _ => PolyKit.rel_ite (fun _ => early _) fun _ =>
    PolyKit.rel_ite (fun _ => early _) fun hN => ?_
  have hyv := hc.con (upToDate_of_not_guard hN)
  refine ⟨?_, by trivial⟩
  -- self
  have hO1 : Owns h (x.conSys.owned ++ (x.genSys.owned ++ F)) := by
    rw [← List.append_assoc]; exact hO
  obtain ⟨p1, p2, p3⟩ := LinSys.copy_refines h x.conSys _ hO1
  generalize LinSys.copy h x.conSys = cp at p1 p2 p3
  have hT1 : Owns cp.1 (x.conSys.owned ++ (cp.2.owned ++ (x.genSys.owned ++ F))) :=
    PolyKit.Owns.perm (by owns_perm_tac) p1
  rw [concatTail_value _ _ _ _ _ _ _ hT1]
  -- other
  have hO2 : Owns h' (y.conSys.owned ++ (x.conSys.owned ++ (x.genSys.owned ++ y.genSys.owned ++ F))) :=
    PolyKit.Owns.perm (by owns_perm_tac) hc.owns
  obtain ⟨r1, r2, r3⟩ := LinSys.copy_refines h' y.conSys _ hO2
  generalize LinSys.copy h' y.conSys = cq at r1 r2 r3
  have hT2 : Owns cq.1 (x.conSys.owned ++ (cq.2.owned ++ (y.conSys.owned ++ (x.genSys.owned ++ y.genSys.owned ++ F)))) :=
    PolyKit.Owns.perm (by owns_perm_tac) r1
  rw [concatTail_value _ _ _ _ _ _ _ hT2]
  have e1 : x.conSys.value cp.1 = x.conSys.value h :=
    PolyKit.LinSys.value_frame x.conSys p3 (fun a ha => List.mem_append_left _ ha)
  have e2 : x.conSys.value cq.1 = x.conSys.value h' :=
    PolyKit.LinSys.value_frame x.conSys r3 (fun a ha => by simp [ha])
  rw [p2, r2, e1, e2, hcv, hyv]

end PPLV.Value.Move.AliasKit

namespace C13Proofs
open PPLV.Value PPLV.Value.Move

theorem alias_invariance_insert (K : RowClass) (h : Heap) (x : LinSys) (frame : List Nat)
    (hO : Owns h (x.owned ++ frame)) :
    let a := x.insertConst K h .self
    let c := LinSys.copyWithPending h x
    let b := x.insertConst K c.1 (.other c.2)
    a.2.value a.1 = b.2.value b.1 := by
  intro a c b
  obtain ⟨_, ha, _⟩ := LinSys.insertConst_refines K h x .self frame (fun _ ha => List.mem_append_left _ ha) hO
  obtain ⟨hcO, hcv, hcf⟩ := LinSys.copyWithPending_refines h x _ hO (fun _ ha => List.mem_append_left _ ha)
  have hO2 : Owns c.1 (x.owned ++ (c.2.owned ++ frame)) := PolyKit.Owns.perm (PolyKit.perm_rot _ _ _) hcO
  obtain ⟨_, hb, _⟩ := LinSys.insertConst_refines K c.1 x (.other c.2) _
    (fun _ ha => List.mem_append_right _ (List.mem_append_left _ ha)) hO2
  have hxv : x.value c.1 = x.value h :=
    PolyKit.LinSys.value_frame x hcf (fun a ha => List.mem_append_left _ ha)
  show a.2.value a.1 = b.2.value b.1
  rw [show a.2.value a.1 = _ from ha, show b.2.value b.1 = _ from hb, hxv]
  exact congrArg _ hcv.symm

theorem alias_invariance_add_own_constraints (h : Heap) (x : Poly) (frame : List Nat)
    (hO : Owns h (x.owned ++ frame)) :
    let a := x.addConstraints h x.conSys
    let c := LinSys.copy h x.conSys
    let b := x.addRecycledConstraints c.1 c.2
    a.2.1.value a.1 = b.2.1.value b.1 ∧ a.2.2 = b.2.2.2 := by
  intro a c b
  have ha : a = (b.2.2.1.destroy b.1, b.2.1, b.2.2.2) := by simp only [a, b, c, Poly.addConstraints]
  rw [ha]
  refine ⟨?_, rfl⟩
  have hO1 : Owns h (x.conSys.owned ++ (x.genSys.owned ++ frame)) := by
    rw [← List.append_assoc]; exact hO
  have hcO : Owns c.1 (c.2.owned ++ x.conSys.owned ++ (x.genSys.owned ++ frame)) :=
    (LinSys.copy_refines h x.conSys (x.genSys.owned ++ frame) hO1).1
  have hO2 : Owns c.1 (x.owned ++ c.2.owned ++ frame) := PolyKit.Owns.perm (by owns_perm_tac) hcO
  obtain ⟨hbO, _, _, _⟩ := recycled_argument_valid c.1 x c.2 frame hO2
  have hO3 : Owns b.1 (b.2.2.1.owned ++ (b.2.1.owned ++ frame)) := by
    rw [← List.append_assoc]; exact PolyKit.Owns.perm (PolyKit.perm_swap12 _ _ _) hbO
  obtain ⟨_, hdf⟩ := LinSys.destroy_refines b.1 b.2.2.1 (b.2.1.owned ++ frame) hO3
  exact PolyKit.Poly.value_frame b.2.1 hdf (fun a ha => List.mem_append_left _ ha)

/-- `x.intersection_assign(x)` = `x.intersection_assign(copy of x)`, all modelled paths -/
theorem alias_invariance_intersection (h : Heap) (x : Poly) (frame : List Nat)
    (hO : Owns h (x.owned ++ frame)) :
    let a := x.intersectionAssign h .self
    let c := Poly.copy h x
    let b := x.intersectionAssign c.1 (.other c.2)
    a.2.1.value a.1 = b.2.1.value b.1 ∧ a.2.2 = b.2.2 :=
  AliasKit.inter_core h _ x _ frame hO (AliasKit.Poly.copy_isCopy h x frame hO)

/-- `x.poly_hull_assign(x)` = `x.poly_hull_assign(copy of x)`, all modelled paths -/
theorem alias_invariance_hull (h : Heap) (x : Poly) (frame : List Nat)
    (hO : Owns h (x.owned ++ frame)) :
    let a := x.polyHullAssign h .self
    let c := Poly.copy h x
    let b := x.polyHullAssign c.1 (.other c.2)
    a.2.1.value a.1 = b.2.1.value b.1 ∧ a.2.2 = b.2.2 :=
  AliasKit.hull_core h _ x _ frame hO (AliasKit.Poly.copy_isCopy h x frame hO)

-- `hmerge` (the `merge_rows_assign` path is not taken) is not needed: the path is covered above
set_option linter.unusedVariables false in
theorem alias_invariance_intersection_partial (h : Heap) (x : Poly) (frame : List Nat)
    (hO : Owns h (x.owned ++ frame))
    (hmerge : ¬ (x.canHaveSomethingPending = false ∧ x.conSys.sorted = true ∧ testAny x.status CS_PENDING = false)) :
    let a := x.intersectionAssign h .self
    let c := Poly.copy h x
    let b := x.intersectionAssign c.1 (.other c.2)
    a.2.1.value a.1 = b.2.1.value b.1 ∧ a.2.2 = b.2.2 :=
  alias_invariance_intersection h x frame hO

set_option linter.unusedVariables false in
theorem alias_invariance_hull_partial (h : Heap) (x : Poly) (frame : List Nat)
    (hO : Owns h (x.owned ++ frame))
    (hmerge : ¬ (x.canHaveSomethingPending = false ∧ x.genSys.sorted = true ∧ testAny x.status GS_PENDING = false)) :
    let a := x.polyHullAssign h .self
    let c := Poly.copy h x
    let b := x.polyHullAssign c.1 (.other c.2)
    a.2.1.value a.1 = b.2.1.value b.1 ∧ a.2.2 = b.2.2 :=
  alias_invariance_hull h x frame hO

theorem alias_invariance_concatenate (h : Heap) (x : Poly) (frame : List Nat)
    (hO : Owns h (x.owned ++ frame)) :
    let a := x.concatenateAssignCons h .self
    let c := Poly.copy h x
    let b := x.concatenateAssignCons c.1 (.other c.2)
    a.2.1.value a.1 = b.2.1.value b.1 ∧ a.2.2 = b.2.2 :=
  AliasKit.concat_core h _ x _ frame hO (AliasKit.Poly.copy_isCopy h x frame hO)

end C13Proofs

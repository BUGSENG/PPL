import PPLV.Value.MovePoly
import PPLV.Value.ProofsRefine

/-!
# C13 moving mechanics — `Pointset_Powerset` on the `Determinate` machine: `add_disjunct` copies, `m_swap` relinks

No Mathlib.
-/
namespace PPLV.Value.Move
namespace PsetKit
open PPLV.Value PPLV.Value.Cow

variable {P : Type}

theorem prep_setCell (σ : Cow.State P) (a : Nat) (c : Option (Cow.Rep P)) (k : Nat) :
    (σ.setCell a c).prep k = σ.prep k := rfl

theorem prep_alloc (σ : Cow.State P) (p : P) (k : Nat) : (Cow.alloc σ p).1.prep k = σ.prep k := rfl

theorem handles_alloc (σ : Cow.State P) (p : P) : (Cow.alloc σ p).1.handles = σ.handles := rfl

theorem heap_alloc (σ : Cow.State P) (p : P) (x : Nat) :
    (Cow.alloc σ p).1.heap x = if x = σ.next then some ⟨0, p⟩ else σ.heap x := rfl

/-- `Determinate(const PSET&)` into a dead slot -/
theorem step_construct_eq {σ : Cow.State P} {h : Nat} (p : P) (hl : h < σ.handles.length) (hd : σ.prep h = none) :
    Cow.step σ (.construct h p)
      = ((Cow.alloc σ p).1.setCell σ.next (some ⟨1, p⟩)).setPrep h (some σ.next) := by
  have hc : h < σ.handles.length ∧ σ.prep h = none := ⟨hl, hd⟩
  have hr : (Cow.alloc σ p).1.heap σ.next = some ⟨0, p⟩ := by simp [heap_alloc]
  show (if h < σ.handles.length ∧ σ.prep h = none then
      (Cow.newRef (Cow.alloc σ p).1 (Cow.alloc σ p).2).setPrep h (some (Cow.alloc σ p).2) else σ) = _
  rw [if_pos hc]
  show (Cow.newRef (Cow.alloc σ p).1 σ.next).setPrep h (some σ.next) = _
  rw [newRef_eq hr]

/-- `Determinate(const Determinate&)` into a dead slot -/
theorem step_copyCtor_eq {σ : Cow.State P} {h y a : Nat} {r : Cow.Rep P} (hl : h < σ.handles.length)
    (hd : σ.prep h = none) (hy : σ.prep y = some a) (hr : σ.heap a = some r) :
    Cow.step σ (.copyCtor h y) = (σ.setCell a (some { r with refs := r.refs + 1 })).setPrep h (some a) := by
  have hc : h < σ.handles.length ∧ σ.prep h = none := ⟨hl, hd⟩
  simp only [Cow.step, hy, hc, and_self, if_true, newRef_eq hr]

/-- `~Determinate()` of a handle that shares its representation -/
theorem step_destroy_eq {σ : Cow.State P} {h a : Nat} {r : Cow.Rep P} (hp : σ.prep h = some a)
    (hr : σ.heap a = some r) (h2 : 1 < r.refs) :
    Cow.step σ (.destroy h) = (σ.setCell a (some { r with refs := r.refs - 1 })).setPrep h none := by
  have h1 : ¬ r.refs = 1 := by omega
  simp only [Cow.step, hp, release_eq hr (by omega : 0 < r.refs), h1, if_false]

end PsetKit
end PPLV.Value.Move

namespace C13Proofs
open PPLV.Value PPLV.Value.Move PPLV.Value.Move.PsetKit

/-- `add_disjunct(ph)`: the new disjunct holds a COPY of `ph` in a representation of its own
(reference count 1: exactly one handle, the new list node), no other handle changes its value, the
temporary is gone, and the machine invariant (exact counters, no use after free) is kept -/
theorem add_disjunct_copies {P : Type} (σ : Cow.State P) (x : PS.Pset) (ph : P) (tmp node : Nat)
    (hI : Cow.Inv σ) (ht : tmp < σ.handles.length) (hn : node < σ.handles.length) (hne : tmp ≠ node)
    (htd : σ.prep tmp = none) (hnd : σ.prep node = none) (hx : node ∉ x.seq ∧ tmp ∉ x.seq) :
    let out := PS.addDisjunct σ x ph tmp node
    Cow.Inv out.1
    ∧ Cow.value out.1 node = some ph
    ∧ Cow.value out.1 tmp = none
    ∧ (∀ k, k ≠ node → k ≠ tmp → Cow.value out.1 k = Cow.value σ k)
    ∧ (∃ a, out.1.prep node = some a ∧ Cow.holders out.1 a = 1)
    ∧ PS.value out.1 out.2 = PS.value σ x ++ [some ph]
    ∧ out.2.reduced = false := by
  intro out
  -- the three micro-steps, explicitly
  let σ₁ := ((Cow.alloc σ ph).1.setCell σ.next (some ⟨1, ph⟩)).setPrep tmp (some σ.next)
  have e1 : Cow.step σ (.construct tmp ph) = σ₁ := step_construct_eq ph ht htd
  have l1 : σ₁.handles.length = σ.handles.length := by simp [σ₁, handles_alloc]
  have p1t : σ₁.prep tmp = some σ.next :=
    Cow.prep_setPrep_self _ tmp _ (by simpa [handles_alloc] using ht)
  have p1n : σ₁.prep node = none := by
    show (Cow.State.setPrep _ tmp _).prep node = none
    rw [Cow.prep_setPrep_other _ tmp node _ (fun e => hne e.symm)]
    exact hnd
  have c1 : σ₁.heap σ.next = some ⟨1, ph⟩ := by simp [σ₁]
  let σ₂ := (σ₁.setCell σ.next (some ⟨2, ph⟩)).setPrep node (some σ.next)
  have e2 : Cow.step σ₁ (.copyCtor node tmp) = σ₂ := step_copyCtor_eq (by rw [l1]; exact hn) p1n p1t c1
  have l2 : σ₂.handles.length = σ.handles.length := by simp [σ₂, l1]
  have p2t : σ₂.prep tmp = some σ.next := by
    show (Cow.State.setPrep _ node _).prep tmp = _
    rw [Cow.prep_setPrep_other _ node tmp _ hne]
    exact p1t
  have c2 : σ₂.heap σ.next = some ⟨2, ph⟩ := by simp [σ₂]
  let σ₃ := (σ₂.setCell σ.next (some ⟨1, ph⟩)).setPrep tmp none
  have e3 : Cow.step σ₂ (.destroy tmp) = σ₃ := step_destroy_eq p2t c2 (Nat.lt_succ_self 1)
  have hout : out = (σ₃, { x with seq := x.seq ++ [node], reduced := false }) := by
    show (Cow.step (Cow.step (Cow.step σ (.construct tmp ph)) (.copyCtor node tmp)) (.destroy tmp),
      ({ x with seq := x.seq ++ [node], reduced := false } : PS.Pset)) = _
    rw [e1, e2, e3]
  -- facts about the final state
  have I3 : Cow.Inv σ₃ := by
    rw [← e3, ← e2, ← e1]
    exact ((hI.step _).step _).step _
  have c3 : σ₃.heap σ.next = some ⟨1, ph⟩ := by simp [σ₃]
  have p3n : σ₃.prep node = some σ.next := by
    show (Cow.State.setPrep _ tmp _).prep node = _
    rw [Cow.prep_setPrep_other _ tmp node _ (fun e => hne e.symm), prep_setCell]
    exact Cow.prep_setPrep_self _ node _ (by simpa [l1] using hn)
  have p3t : σ₃.prep tmp = none :=
    Cow.prep_setPrep_self _ tmp _ (by simpa [l2] using ht)
  have p3k : ∀ k, k ≠ node → k ≠ tmp → σ₃.prep k = σ.prep k := by
    intro k hkn hkt
    show (Cow.State.setPrep _ tmp _).prep k = _
    rw [Cow.prep_setPrep_other _ tmp k _ hkt, prep_setCell]
    show (Cow.State.setPrep _ node _).prep k = _
    rw [Cow.prep_setPrep_other _ node k _ hkn, prep_setCell]
    show (Cow.State.setPrep _ tmp _).prep k = _
    rw [Cow.prep_setPrep_other _ tmp k _ hkt, prep_setCell, prep_alloc]
  have h3 : ∀ b, b ≠ σ.next → σ₃.heap b = σ.heap b := by
    intro b hb
    simp [σ₃, σ₂, σ₁, hb, heap_alloc]
  have vnode : Cow.value σ₃ node = some ph := by
    simp [Cow.value, p3n, Cow.readPset, c3]
  have vtmp : Cow.value σ₃ tmp = none := Cow.value_of_prep_none p3t
  have vk : ∀ k, k ≠ node → k ≠ tmp → Cow.value σ₃ k = Cow.value σ k := by
    intro k hkn hkt
    unfold Cow.value
    rw [p3k k hkn hkt]
    cases hp : σ.prep k with
    | none => rfl
    | some b =>
      have hb : b ≠ σ.next := hI.prep_ne_next hp
      simp only [Cow.readPset, h3 b hb]
  rw [hout]
  refine ⟨I3, vnode, vtmp, vk, ⟨σ.next, p3n, ?_⟩, ?_, rfl⟩
  · have := (I3.live σ.next _ c3).1
    exact this.symm
  · show (x.seq ++ [node]).map (Cow.value σ₃) = x.seq.map (Cow.value σ) ++ [some ph]
    rw [List.map_append, List.map_singleton, vnode]
    congr 1
    apply List.map_congr_left
    intro k hk
    exact vk k (fun e => hx.1 (e ▸ hk)) (fun e => hx.2 (e ▸ hk))

theorem powerset_swap_exchanges {P : Type} (σ : Cow.State P) (x y : PS.Pset) :
    PS.mSwap x y = (y, x) ∧ PS.value σ (PS.mSwap x y).1 = PS.value σ y ∧ PS.value σ (PS.mSwap x y).2 = PS.value σ x :=
  ⟨rfl, rfl, rfl⟩

theorem powerset_self_swap_identity (x : PS.Pset) : PS.mSwap x x = (x, x) := rfl

end C13Proofs

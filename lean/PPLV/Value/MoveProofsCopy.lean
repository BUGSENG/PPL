import PPLV.Value.MoveProofsSys
import PPLV.Value.MoveProofsCopyKit
/-!
# C13 moving mechanics — `Linear_System`: copy constructors, assignment, the `const&` overloads of the insertions
-/
namespace PPLV.Value.Move
open OwnsKit


namespace CopyKit

theorem copySwapLoop_spec (yrows : List Row) (as : List Nat) (hm : ∀ r ∈ yrows, r.impl ∈ as) :
    ∀ (k i : Nat) (h : Heap) (rows : List Row), i + k = yrows.length → rows.length = yrows.length →
    Owns h (owned rows ++ as) →
    Owns (copySwapLoop k i h yrows rows).1 (owned (copySwapLoop k i h yrows rows).2 ++ as)
    ∧ (copySwapLoop k i h yrows rows).2.length = rows.length
    ∧ (∀ j, j < i → (copySwapLoop k i h yrows rows).2[j]? = rows[j]?)
    ∧ (∀ j, i ≤ j → ((copySwapLoop k i h yrows rows).2[j]?).map (Row.val (copySwapLoop k i h yrows rows).1)
          = (yrows[j]?).map (Row.val h))
    ∧ (∀ a ∈ as, (copySwapLoop k i h yrows rows).1.cells a = h.cells a)
    ∧ (∀ j r, j < i → rows[j]? = some r → (copySwapLoop k i h yrows rows).1.cells r.impl = h.cells r.impl) := by
  intro k
  induction k with
  | zero =>
    intro i h rows hik hl hO
    have e : copySwapLoop 0 i h yrows rows = (h, rows) := rfl
    rw [e]
    refine ⟨hO, rfl, fun _ _ => rfl, ?_, fun _ _ => rfl, fun _ _ _ _ => rfl⟩
    intro j hj
    have h1 : rows[j]? = none := List.getElem?_eq_none (by omega)
    have h2 : yrows[j]? = none := List.getElem?_eq_none (by omega)
    simp [h1, h2]
  | succ k ih =>
    intro i h rows hik hl hO
    have hiy : i < yrows.length := by omega
    have hir : i < rows.length := by omega
    have hy : yrows[i]? = some yrows[i] := List.getElem?_eq_getElem hiy
    have hd : rows[i]? = some rows[i] := List.getElem?_eq_getElem hir
    generalize yrows[i] = yr at hy
    generalize rows[i] = d at hd
    have hyr : yr.impl ∈ as := hm yr (List.mem_of_getElem? hy)
    obtain ⟨c1, c2, c3, _, _⟩ := rowCopy_spec hO (List.mem_append_right _ hyr)
    have e : copySwapLoop (k + 1) i h yrows rows
        = copySwapLoop k (i + 1) (Row.destroy (Row.copy h yr).1 d) yrows (rows.set i (Row.copy h yr).2) := by
      simp only [copySwapLoop, hy, hd]
    rw [e]
    have hdo : (owned rows)[i]? = some d.impl := by simp [owned, hd]
    have hO1 : Owns (Row.copy h yr).1 (d.impl :: (owned (rows.set i (Row.copy h yr).2) ++ as)) := by
      refine owns_perm c1 ?_
      rw [owned_set]
      have := (perm_set (owned rows) i d.impl (Row.copy h yr).2.impl hdo).append_right as
      simpa using this
    obtain ⟨f1, f2⟩ := owns_free hO1
    obtain ⟨i1, i2, i3, i4, i5, i6⟩ := ih (i + 1) (Row.destroy (Row.copy h yr).1 d) (rows.set i (Row.copy h yr).2)
      (by omega) (by simp [hl]) f1
    have hset : ∀ j, j ≠ i → (rows.set i (Row.copy h yr).2)[j]? = rows[j]? := by
      intro j hj; rw [List.getElem?_set]; simp [Ne.symm hj]
    have hseti : (rows.set i (Row.copy h yr).2)[i]? = some (Row.copy h yr).2 := by
      rw [List.getElem?_set]; simp [hir]
    -- cells of `as` are untouched by copy + destroy
    have has : ∀ a ∈ as, (Row.destroy (Row.copy h yr).1 d).cells a = h.cells a := by
      intro a ha
      rw [show Row.destroy (Row.copy h yr).1 d = (Row.copy h yr).1.free d.impl from rfl,
        f2 a (List.mem_append_right _ ha), c3 a (List.mem_append_right _ ha)]
    refine ⟨i1, by rw [i2]; simp, ?_, ?_, ?_, ?_⟩
    · intro j hj
      rw [i3 j (by omega), hset j (by omega)]
    · intro j hj
      by_cases hji : j = i
      · subst hji
        rw [i3 j (by omega), hseti, hy]
        simp only [Option.map_some]
        congr 1
        rw [← c2]
        have m1 : (Row.copy h yr).2.impl ∈ owned (rows.set j (Row.copy h yr).2) ++ as :=
          List.mem_append_left _ (mem_owned_of_getElem? hseti)
        rw [row_val_congr (i6 j _ (by omega) hseti)]
        exact row_val_congr (f2 _ m1)
      · rw [i4 j (by omega)]
        cases hyj : yrows[j]? with
        | none => rfl
        | some r =>
          simp only [Option.map_some]
          congr 1
          exact row_val_congr (has _ (hm r (List.mem_of_getElem? hyj)))
    · intro a ha
      rw [i5 a ha, has a ha]
    · intro j r hj hr
      have hr' : (rows.set i (Row.copy h yr).2)[j]? = some r := by rw [hset j (by omega)]; exact hr
      rw [i6 j r (by omega) hr']
      rw [show Row.destroy (Row.copy h yr).1 d = (Row.copy h yr).1.free d.impl from rfl,
        f2 _ (List.mem_append_left _ (mem_owned_of_getElem? hr')),
        c3 _ (List.mem_append_left _ (mem_owned_of_getElem? hr))]

end CopyKit

open CopyKit

theorem LinSys.copy_refines (h : Heap) (y : LinSys) (frame : List Nat) (hO : Owns h (y.owned ++ frame)) :
    let out := LinSys.copy h y
    Owns out.1 (out.2.owned ++ y.owned ++ frame) ∧ out.2.value out.1 = copyV (y.value h)
    ∧ FrameEq h out.1 (y.owned ++ frame) := by
  intro out
  have hm : ∀ r ∈ y.rows.impl, r.impl ∈ y.owned ++ frame :=
    fun r hr => List.mem_append_left _ (mem_owned hr)
  obtain ⟨c1, c2, c3, c4⟩ := copyRows_spec y.rows.impl h _ hO hm
  refine ⟨?_, ?_, ?_⟩
  · show Owns (copyRows h y.rows.impl).1 (Move.owned (copyRows h y.rows.impl).2 ++ y.owned ++ frame)
    simpa [List.append_assoc] using c1
  · show LinSysV.mk (rowValues (copyRows h y.rows.impl).1 (copyRows h y.rows.impl).2) y.spaceDim y.nnc
      (copyRows h y.rows.impl).2.length (if y.numPendingRows > 0 then false else y.sorted) = _
    rw [c2, c4]
    simp only [LinSys.value, copyV, LinSys.numRows, SVec.size, LinSysV.numPendingRows,
      LinSys.numPendingRows, rowValues, List.length_map]
    congr 1
  · exact c3

/-- The copy constructors read rows that lie anywhere in the owned cells `as` (in the `const&` overloads
    the source is the receiver itself or another object). -/
theorem LinSys.copyWithPending_refines (h : Heap) (y : LinSys) (as : List Nat) (hO : Owns h as)
    (hy : ∀ a ∈ y.owned, a ∈ as) :
    let out := LinSys.copyWithPending h y
    Owns out.1 (out.2.owned ++ as) ∧ out.2.value out.1 = y.value h ∧ FrameEq h out.1 as := by
  intro out
  obtain ⟨c1, c2, c3, c4⟩ := copyRows_spec y.rows.impl h _ hO (fun r hr => hy _ (mem_owned hr))
  refine ⟨c1, ?_, c3⟩
  show LinSysV.mk (rowValues (copyRows h y.rows.impl).1 (copyRows h y.rows.impl).2) _ _ _ _ = _
  rw [c2]; rfl

theorem LinSys.copyReprWithPending_refines (K : RowClass) (h : Heap) (y : LinSys) (as : List Nat)
    (hO : Owns h as) (hy : ∀ a ∈ y.owned, a ∈ as) :
    let out := LinSys.copyReprWithPending K h y
    Owns out.1 (out.2.owned ++ as) ∧ out.2.value out.1 = y.value h ∧ FrameEq h out.1 as := by
  intro out
  have hm : ∀ r ∈ y.rows.impl, r.impl ∈ as := fun r hr => hy _ (mem_owned hr)
  obtain ⟨_, r2, _, r4, r5⟩ := resize_grow_refines K h SVec.nil y.numRows as
    (by simpa [SVec.nil, Move.owned] using hO) (Nat.zero_le _)
  generalize hR : SVec.nil.resize K h y.numRows = R at r2 r4 r5
  have r5' : ∀ a ∈ as, R.1.cells a = h.cells a := by
    intro a ha; exact r5 a (by simpa [SVec.nil, Move.owned] using ha)
  obtain ⟨l1, l2, _, l4, l5, _⟩ := copySwapLoop_spec y.rows.impl as hm y.numRows 0 R.1 R.2.impl
    (by simp [LinSys.numRows, SVec.size]) (by simpa [LinSys.numRows, SVec.size] using r2) r4
  have eo : out = ((copySwapLoop y.numRows 0 R.1 y.rows.impl R.2.impl).1,
      ⟨⟨(copySwapLoop y.numRows 0 R.1 y.rows.impl R.2.impl).2, R.2.cap⟩, y.spaceDim, y.nnc, y.firstPending, y.sorted⟩) := by
    simp only [out, LinSys.copyReprWithPending, hR]
  rw [eo]
  generalize copySwapLoop y.numRows 0 R.1 y.rows.impl R.2.impl = L at l1 l2 l4 l5
  refine ⟨l1, ?_, fun a ha => by rw [l5 a ha, r5' a ha]⟩
  show LinSysV.mk (rowValues L.1 L.2) _ _ _ _ = LinSysV.mk (rowValues h y.rows.impl) _ _ _ _
  congr 1
  have : rowValues L.1 L.2 = rowValues R.1 y.rows.impl := by
    apply List.ext_getElem?
    intro j
    simp only [rowValues, List.getElem?_map]
    exact l4 j (Nat.zero_le _)
  rw [this]
  exact rowValues_congr (fun a ha => r5' a (hy a ha))

/-! ## the `const Linear_System&` overloads

The argument `y` is the receiver itself (`Arg.self`) or another system; all that matters is that its rows lie
among the owned cells `x.owned ++ frame`.  A copy of it is made, worked on, and destroyed. -/

/-- `x = y` / `x.assign_with_pending(y)`: new storage, the value of `y` (of `x` for a self-assignment) -/
theorem LinSys.assignWithPending_refines (h : Heap) (x : LinSys) (y : Arg LinSys) (frame : List Nat)
    (hy : ∀ a ∈ (y.get x).owned, a ∈ x.owned ++ frame) (hO : Owns h (x.owned ++ frame)) :
    let out := LinSys.assignWithPending h x y
    Owns out.1 (out.2.owned ++ frame) ∧ out.2.value out.1 = (y.get x).value h ∧ FrameEq h out.1 frame := by
  intro out
  have eo : out = (x.destroy (LinSys.copyWithPending h (y.get x)).1, (LinSys.copyWithPending h (y.get x)).2) := rfl
  rw [eo]
  obtain ⟨c1, c2, c3⟩ := LinSys.copyWithPending_refines h (y.get x) _ hO hy
  generalize LinSys.copyWithPending h (y.get x) = C at c1 c2 c3
  obtain ⟨d1, d2⟩ := LinSys.destroy_refines C.1 x (C.2.owned ++ frame) (owns_perm c1 (by owns_perm_tac))
  refine ⟨d1, ?_, frameEq_trans (frameEq_mono c3 (fun _ ha => List.mem_append_right _ ha)) (frameEq_mono d2 (fun _ ha => List.mem_append_right _ ha))⟩
  show C.2.value (x.destroy C.1) = (y.get x).value h
  rw [← c2]
  exact LinSys.value_congr _ _ _ (frameEq_mono d2 (fun _ ha => List.mem_append_left _ ha))

theorem LinSys.insertConst_refines (K : RowClass) (h : Heap) (x : LinSys) (y : Arg LinSys) (frame : List Nat)
    (hy : ∀ a ∈ (y.get x).owned, a ∈ x.owned ++ frame) (hO : Owns h (x.owned ++ frame)) :
    let out := x.insertConst K h y
    Owns out.1 (out.2.owned ++ frame)
    ∧ out.2.value out.1 = insertSysV K (x.value h) ((y.get x).value h)
    ∧ FrameEq h out.1 frame := by
  intro out
  obtain ⟨c1, c2, c3⟩ := LinSys.copyReprWithPending_refines K h (y.get x) _ hO hy
  have eo : out = (let C := LinSys.copyReprWithPending K h (y.get x); let S := x.insertSys K C.1 C.2
      (S.2.2.destroy S.1, S.2.1)) := by simp only [out, LinSys.insertConst]
  rw [eo]; dsimp only
  generalize LinSys.copyReprWithPending K h (y.get x) = C at c1 c2 c3
  obtain ⟨s1, s2, _, _, _, s6⟩ := insertSys_refines K C.1 x C.2 frame (owns_perm c1 (by owns_perm_tac))
  have hx : x.value C.1 = x.value h := LinSys.value_congr _ _ _ (frameEq_mono c3 (fun _ ha => List.mem_append_left _ ha))
  rw [hx, c2] at s2
  generalize x.insertSys K C.1 C.2 = S at s1 s2 s6
  obtain ⟨d1, d2⟩ := LinSys.destroy_refines S.1 S.2.2 (S.2.1.owned ++ frame) (owns_perm s1 (by owns_perm_tac))
  refine ⟨d1, ?_, frameEq_trans (frameEq_trans (frameEq_mono c3 (fun _ ha => List.mem_append_right _ ha)) s6)
      (frameEq_mono d2 (fun _ ha => List.mem_append_right _ ha))⟩
  show S.2.1.value (S.2.2.destroy S.1) = _
  rw [← s2]
  exact LinSys.value_congr _ _ _ (frameEq_mono d2 (fun _ ha => List.mem_append_left _ ha))

theorem LinSys.insertPendingConst_refines (K : RowClass) (h : Heap) (x : LinSys) (y : Arg LinSys)
    (frame : List Nat) (hy : ∀ a ∈ (y.get x).owned, a ∈ x.owned ++ frame) (hO : Owns h (x.owned ++ frame)) :
    let out := x.insertPendingConst K h y
    Owns out.1 (out.2.owned ++ frame)
    ∧ out.2.value out.1 = insertPendingSysV (x.value h) ((y.get x).value h)
    ∧ FrameEq h out.1 frame := by
  intro out
  obtain ⟨c1, c2, c3⟩ := LinSys.copyReprWithPending_refines K h (y.get x) _ hO hy
  have eo : out = (let C := LinSys.copyReprWithPending K h (y.get x); let S := x.insertPendingSys K C.1 C.2
      (S.2.2.destroy S.1, S.2.1)) := by simp only [out, LinSys.insertPendingConst]
  rw [eo]; dsimp only
  generalize LinSys.copyReprWithPending K h (y.get x) = C at c1 c2 c3
  obtain ⟨s1, s2, _, s4, s6⟩ := insertPendingSys_refines K C.1 x C.2 frame (owns_perm c1 (by owns_perm_tac))
  have hx : x.value C.1 = x.value h := LinSys.value_congr _ _ _ (frameEq_mono c3 (fun _ ha => List.mem_append_left _ ha))
  rw [hx, c2] at s2
  generalize x.insertPendingSys K C.1 C.2 = S at s1 s2 s4 s6
  obtain ⟨d1, d2⟩ := LinSys.destroy_refines S.1 S.2.2 (S.2.1.owned ++ frame)
    (by rw [s4]; simpa [List.append_assoc] using s1)
  refine ⟨d1, ?_, frameEq_trans (frameEq_trans (frameEq_mono c3 (fun _ ha => List.mem_append_right _ ha)) s6)
      (frameEq_mono d2 (fun _ ha => List.mem_append_right _ ha))⟩
  show S.2.1.value (S.2.2.destroy S.1) = _
  rw [← s2]
  exact LinSys.value_congr _ _ _ (frameEq_mono d2 (fun _ ha => List.mem_append_left _ ha))

end PPLV.Value.Move

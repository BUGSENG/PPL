import PPLV.Term.Proofs
import PPLV.Lin.Segment

/-! # C18: `assign_all_inequalities_approximation` (termination.cc:35) loses nothing

The termination functions analyse the topological closure of the relation (`relax`: strict rows
become non-strict).  For a **non-empty** relation the affine ranking functions of the relation
and of its closure coincide: every point `w` of the closure is the limit, along the segment to a
point `w0` of the relation, of points of the relation, and the value and the decrease of an affine
function are affine along that segment.  For an empty relation with a non-empty "closure"
(`relax cs` is the closure of `sem cs` only when `sem cs ≠ ∅`) the statement fails: see
`relax_ranking_empty_sharp`. -/
namespace PPLV.Term
open PPLV.Lin

theorem linAt_seg (n : Nat) (mu : Val) (off : Nat) (s : Rat) (x y : Val) :
    linAt n mu off (Val.seg s x y) = s * linAt n mu off x + (1 - s) * linAt n mu off y := by
  unfold linAt
  rw [← sumTo_mul_left, ← sumTo_mul_left, ← sumTo_add]
  apply sumTo_congr
  intro i _
  simp only [Val.seg]; ring

theorem valueAt_seg (n : Nat) (mu : Val) (s : Rat) (x y : Val) :
    Spec.valueAt n mu (Val.seg s x y) = s * Spec.valueAt n mu x + (1 - s) * Spec.valueAt n mu y := by
  unfold Spec.valueAt; rw [linAt_seg]; ring

theorem decrAt_seg (n : Nat) (mu : Val) (s : Rat) (x y : Val) :
    Spec.decrAt n mu (Val.seg s x y) = s * Spec.decrAt n mu x + (1 - s) * Spec.decrAt n mu y := by
  unfold Spec.decrAt; rw [linAt_seg, linAt_seg]; ring

/-- ranking conditions with fixed constants transfer between a non-empty relation and its
    relaxation -/
theorem isRankingWith_relax_iff (n : Nat) (cs : List Con) (hne : ∃ w, Sat cs w) (mu : Val)
    (δ β : Rat) :
    Spec.isRankingWith n (sem (relax cs)) mu δ β ↔ Spec.isRankingWith n (sem cs) mu δ β := by
  refine ⟨fun h w hw => h w (sem_subset_relax cs hw), fun h w hw => ?_⟩
  obtain ⟨q, hq⟩ := hne
  have key := fun s h0 h1 => h _ (segment_mem cs q w hq hw s h0 h1)
  constructor
  · refine le_of_segment _ (Spec.valueAt n mu q) _ fun s h0 h1 => ?_
    rw [← valueAt_seg]
    exact (key s h0 h1).1
  · refine le_of_segment _ (Spec.decrAt n mu q) _ fun s h0 h1 => ?_
    rw [← decrAt_seg]
    exact (key s h0 h1).2

/-- **`assign_all_inequalities_approximation` is exact for ranking functions**: a non-empty
    relation and its closure have the same ranking functions (normal form). -/
theorem isRanking_relax_iff (n : Nat) (cs : List Con) (hne : ∃ w, Sat cs w) (mu : Val) :
    Spec.isRanking n (sem (relax cs)) mu ↔ Spec.isRanking n (sem cs) mu :=
  isRankingWith_relax_iff n cs hne mu 1 0

/-- the same for the general form (some `δ > 0`, some `β`) -/
theorem isRankingGen_relax_iff (n : Nat) (cs : List Con) (hne : ∃ w, Sat cs w) (mu : Val) :
    Spec.isRankingGen n (sem (relax cs)) mu ↔ Spec.isRankingGen n (sem cs) mu := by
  unfold Spec.isRankingGen
  constructor
  · rintro ⟨δ, β, hδ, h⟩
    exact ⟨δ, β, hδ, (isRankingWith_relax_iff n cs hne mu δ β).mp h⟩
  · rintro ⟨δ, β, hδ, h⟩
    exact ⟨δ, β, hδ, (isRankingWith_relax_iff n cs hne mu δ β).mpr h⟩

/-- non-vacuity: `x − x' ≥ 1 ∧ x > 0` (`n = 1`) is non-empty and has a strict row; `μ(x) = x`
    is a ranking function of it, hence (by the theorem) of its closure -/
example : ∃ (n : Nat) (cs : List Con) (mu : Val), (∃ w, Sat cs w) ∧ (∃ c ∈ cs, c.strict = true) ∧
    Spec.isRanking n (sem cs) mu ∧ Spec.isRanking n (sem (relax cs)) mu := by
  have hne : ∃ w, Sat [(⟨[-1, 1], -1, false⟩ : Con), ⟨[0, 1], 0, true⟩] w := by
    refine ⟨fun j => if j = 0 then 0 else 1, ?_⟩
    intro c hc; simp at hc
    rcases hc with rfl | rfl <;> simp [Con.sat, Con.eval, Val.tail]
  have hr : Spec.isRanking 1 (sem [(⟨[-1, 1], -1, false⟩ : Con), ⟨[0, 1], 0, true⟩])
      (fun j => if j = 0 then 1 else 0) := by
    intro w hw
    have h1 := hw ⟨[-1, 1], -1, false⟩ (by simp)
    have h2 := hw ⟨[0, 1], 0, true⟩ (by simp)
    simp [Con.sat, Con.eval, Val.tail] at h1 h2
    simp [Spec.valueAt, Spec.decrAt, linAt, sumTo]
    constructor <;> linarith
  exact ⟨1, _, _, hne, ⟨⟨[0, 1], 0, true⟩, by simp, rfl⟩, hr, (isRanking_relax_iff 1 _ hne _).mpr hr⟩

/-- `x' = x ∧ x > 0 ∧ x ≤ 0` (`n = 1`; coordinate 0 is `x'`, coordinate 1 is `x`) -/
def closureCex : List Con :=
  [⟨[1, -1], 0, false⟩, ⟨[-1, 1], 0, false⟩, ⟨[0, 1], 0, true⟩, ⟨[0, -1], 0, false⟩]

/-- **the hypothesis `hne` is sharp**: `closureCex` is empty, so every function is vacuously a
    ranking function of it, while its relaxation `x' = x = 0` is a non-empty relation (a
    self-loop) that has no ranking function at all, not even in the general form.  On such an
    input the termination functions analyse `relax cs` (and answer "no ranking function"),
    although the relation given to them is empty. -/
theorem relax_ranking_empty_sharp :
    (¬ ∃ w, Sat closureCex w) ∧ (∀ mu, Spec.isRanking 1 (sem closureCex) mu) ∧
    (∃ w, Sat (relax closureCex) w) ∧ (∀ mu, ¬ Spec.isRankingGen 1 (sem (relax closureCex)) mu) ∧
    (∀ mu, ¬ Spec.isRanking 1 (sem (relax closureCex)) mu) := by
  have hem : ¬ ∃ w, Sat closureCex w := by
    rintro ⟨w, hw⟩
    have h1 := hw ⟨[0, 1], 0, true⟩ (by simp [closureCex])
    have h2 := hw ⟨[0, -1], 0, false⟩ (by simp [closureCex])
    simp [Con.sat, Con.eval, Val.tail] at h1 h2
    linarith
  have hz : Sat (relax closureCex) Val.zero := by
    intro c hc
    simp [relax, closureCex] at hc
    rcases hc with rfl | rfl | rfl | rfl <;> simp [Con.sat, Con.eval, Val.tail, Val.zero]
  have hno : ∀ mu, ¬ Spec.isRankingGen 1 (sem (relax closureCex)) mu := by
    rintro mu ⟨δ, β, hδ, h⟩
    have := (h Val.zero hz).2
    simp [Spec.decrAt, linAt, sumTo, Val.zero] at this
    linarith
  refine ⟨hem, fun mu w hw => absurd ⟨w, hw⟩ hem, ⟨_, hz⟩, hno, ?_⟩
  intro mu h
  exact hno mu ⟨1, 0, one_pos, h⟩

end PPLV.Term

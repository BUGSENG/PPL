import PPLV.Term.Proofs2

/-! # C18 helper lemmas: every element of a returned space is a ranking function

`mu_space` is a polyhedron of dimension `n+1`; by `GenSem` each of its elements is
`Σ_j λ_j g_j` (points with weights summing to one, rays `≥ 0`, lines free).  `μ ↦ μ(x)` and
`μ ↦ μ(x) − μ(x')` are linear in `μ` for a fixed pair `(x', x)`, so the conditions checked on the
generators (`spaceOK`) carry over to every element. -/
namespace PPLV.Term
open PPLV.Lin

theorem sumTo_wsum (N : Nat) (a : Nat → Rat) (F : Gen → Nat → Rat) (gs : List Gen) (lam : Val) :
    sumTo N (fun i => wsum (fun g => F g i) gs lam * a i)
      = wsum (fun g => sumTo N (fun i => F g i * a i)) gs lam := by
  induction gs generalizing lam with
  | nil =>
    simp only [wsum, zero_mul]
    exact sumTo_zero N
  | cons g gs ih =>
    simp only [wsum]
    rw [← ih lam.tail, ← sumTo_mul_left, ← sumTo_add]
    apply sumTo_congr
    intro i _
    ring

theorem wsum_sub (f h : Gen → Rat) (gs : List Gen) (lam : Val) :
    wsum (fun g => f g - h g) gs lam = wsum f gs lam - wsum h gs lam := by
  induction gs generalizing lam with
  | nil => simp [wsum]
  | cons g gs ih => simp only [wsum, ih]; ring

theorem wsum_mul_left (a : Rat) (f : Gen → Rat) (gs : List Gen) (lam : Val) :
    wsum (fun g => a * f g) gs lam = a * wsum f gs lam := by
  induction gs generalizing lam with
  | nil => simp [wsum]
  | cons g gs ih => simp only [wsum, ih]; ring

theorem valueAt_genSem (n : Nat) (gs : List Gen) (lam mu w : Val)
    (hmu : ∀ i < n + 1, mu i = wsum (fun g => g.coord i) gs lam) :
    Spec.valueAt n mu w = wsum (fun g => Spec.valueAt n g.coord w) gs lam := by
  let a : Nat → Rat := fun i => if i < n then w (n + i) else 1
  have h0 : ∀ m : Val, Spec.valueAt n m w = sumTo (n + 1) (fun i => m i * a i) := by
    intro m
    unfold Spec.valueAt linAt
    simp only [sumTo, a, Nat.lt_irrefl, if_false, mul_one]
    rw [add_comm]
    congr 1
    apply sumTo_congr
    intro i hi
    simp [hi]
  rw [h0 mu]
  have : (fun g : Gen => Spec.valueAt n g.coord w) = fun g : Gen => sumTo (n + 1) (fun i => g.coord i * a i) :=
    funext (fun g => h0 g.coord)
  rw [this, ← sumTo_wsum]
  apply sumTo_congr
  intro i hi
  rw [hmu i hi]

theorem decrAt_genSem (n : Nat) (gs : List Gen) (lam mu w : Val)
    (hmu : ∀ i < n + 1, mu i = wsum (fun g => g.coord i) gs lam) :
    Spec.decrAt n mu w = wsum (fun g => Spec.decrAt n g.coord w) gs lam := by
  let b : Nat → Rat := fun i => w (n + i) - w (0 + i)
  have h0 : ∀ m : Val, Spec.decrAt n m w = sumTo n (fun i => m i * b i) := by
    intro m
    unfold Spec.decrAt linAt
    rw [← sumTo_sub]
    apply sumTo_congr
    intro i _
    simp only [b]; ring
  rw [h0 mu]
  have : (fun g : Gen => Spec.decrAt n g.coord w) = fun g : Gen => sumTo n (fun i => g.coord i * b i) :=
    funext (fun g => h0 g.coord)
  rw [this, ← sumTo_wsum]
  apply sumTo_congr
  intro i hi
  rw [hmu i (by omega)]

/-! ### what the checks on one generator mean -/

theorem coord_eq_ratPoint (g : Gen) : g.coord = ratPoint g.coords g.d := rfl

theorem getD_map_neg (c : List Int) (i : Nat) : (c.map (- ·)).getD i 0 = - c.getD i 0 := by
  simp only [List.getD_eq_getElem?_getD, List.getElem?_map]
  cases c[i]? <;> simp

theorem linAt_ratPoint_neg (n : Nat) (c : List Int) (d : Int) (off : Nat) (w : Val) :
    linAt n (ratPoint (c.map (- ·)) d) off w = - linAt n (ratPoint c d) off w := by
  unfold linAt
  rw [← neg_one_mul, ← sumTo_mul_left]
  apply sumTo_congr
  intro i _
  simp only [ratPoint, getD_map_neg]
  push_cast; ring

theorem valueAt_ratPoint_neg (n : Nat) (c : List Int) (d : Int) (w : Val) :
    Spec.valueAt n (ratPoint (c.map (- ·)) d) w = - Spec.valueAt n (ratPoint c d) w := by
  unfold Spec.valueAt
  rw [linAt_ratPoint_neg]
  simp only [ratPoint, getD_map_neg]
  push_cast; ring

theorem decrAt_ratPoint_neg (n : Nat) (c : List Int) (d : Int) (w : Val) :
    Spec.decrAt n (ratPoint (c.map (- ·)) d) w = - Spec.decrAt n (ratPoint c d) w := by
  unfold Spec.decrAt
  rw [linAt_ratPoint_neg, linAt_ratPoint_neg]; ring

/-! ### the two quasi spaces of `all_affine_quasi_ranking_functions_MS` -/

theorem decrRow_implies_spec (n : Nat) (R : List Con) (c : List Int) (d e : Int) (hd : 0 < d)
    (hwf : WF (2*n) R) (h : implies (2*n) R (decrRow n c e) = true) (w : Val) (hw : w ∈ sem R) :
    (e : Rat) ≤ (d : Rat) * Spec.decrAt n (ratPoint c d) w := by
  have hd' : (0 : Rat) < (d : Rat) := by exact_mod_cast hd
  rw [implies_iff (2*n) R _ hwf (decrRow_len n c e)] at h
  have a := h w hw
  have e2 := decrRow_eval_ratPoint n c d e (ne_of_gt hd') w
  unfold Con.sat at a
  simp only [decrRow, Bool.false_eq_true, if_false] at a e2
  rw [e2] at a
  linarith

theorem valueRow_implies_spec (n : Nat) (R : List Con) (c : List Int) (d : Int) (hd : 0 < d)
    (hwf : WF (2*n) R) (h : implies (2*n) R (valueRow n c) = true) (w : Val) (hw : w ∈ sem R) :
    0 ≤ Spec.valueAt n (ratPoint c d) w := by
  have hd' : (0 : Rat) < (d : Rat) := by exact_mod_cast hd
  rw [implies_iff (2*n) R _ hwf (valueRow_len n c)] at h
  have a := h w hw
  have e1 := valueRow_eval_ratPoint n c d (ne_of_gt hd') w
  unfold Con.sat at a
  simp only [valueRow, Bool.false_eq_true, if_false] at a e1
  rw [e1] at a
  exact (mul_nonneg_iff_of_pos_left hd').mp a

/-- A combination of generators inherits a bound that holds generator by generator: `b` on the points
    and closure points (their multipliers sum to one), `0` on the rays (multipliers `≥ 0`), and the value
    `0` on the lines (multipliers free). -/
theorem wsum_ge_of_gens (F : Gen → Rat) (b : Rat) (gs : List Gen) (lam : Val)
    (hnn : ∀ j < gs.length, (gs.getD j default).isLine = false → 0 ≤ lam j)
    (hsum : wsum (fun g => if g.isPtOrCp then 1 else 0) gs lam = 1)
    (h : ∀ k c d, (⟨k, c, d⟩ : Gen) ∈ gs → match k with
      | .point | .cpoint => b ≤ F ⟨k, c, d⟩
      | .ray => 0 ≤ F ⟨k, c, d⟩
      | .line => F ⟨k, c, d⟩ = 0) :
    b ≤ wsum F gs lam := by
  have key : 0 ≤ wsum (fun g => F g - b * (if g.isPtOrCp then 1 else 0)) gs lam := by
    apply wsum_nonneg
    intro j hj
    have hm := mem_getD gs j hj
    have hl := hnn j hj
    generalize gs.getD j default = g at hm hl
    obtain ⟨k, c, d⟩ := g
    cases k with
    | line =>
      have hg : F ⟨.line, c, d⟩ = 0 := h _ c d hm
      rw [hg]; simp [Gen.isPtOrCp]
    | ray =>
      have hg : 0 ≤ F ⟨.ray, c, d⟩ := h _ c d hm
      exact mul_nonneg (hl rfl) (by simpa [Gen.isPtOrCp] using hg)
    | point =>
      have hg : b ≤ F ⟨.point, c, d⟩ := h _ c d hm
      exact mul_nonneg (hl rfl) (by simpa [Gen.isPtOrCp] using hg)
    | cpoint =>
      have hg : b ≤ F ⟨.cpoint, c, d⟩ := h _ c d hm
      exact mul_nonneg (hl rfl) (by simpa [Gen.isPtOrCp] using hg)
  rw [wsum_sub, wsum_mul_left, hsum] at key
  linarith

/-- every element of a space whose generators pass `decrGenOK` decreases by at least `1` -/
theorem quasi_decreasing_sound (n : Nat) (R : List Con) (gs : List Gen) (hwf : WF (2*n) R)
    (h : quasiOK n R true gs = true) (mu : Val) (hmu : mu ∈ GenSem (n + 1) gs)
    (w : Val) (hw : w ∈ sem R) : 1 ≤ Spec.decrAt n mu w := by
  obtain ⟨lam, hnn, hsum, -, hcoord⟩ := hmu
  unfold quasiOK at h
  simp only [if_true, List.all_eq_true] at h
  rw [decrAt_genSem n gs lam mu w hcoord]
  apply wsum_ge_of_gens _ 1 gs lam hnn hsum
  intro k c d hg
  have hg := h _ hg
  unfold decrGenOK at hg
  cases k with
  | point =>
    simp only [Bool.and_eq_true, decide_eq_true_eq] at hg
    have hd : (0 : Rat) < (d : Rat) := by exact_mod_cast hg.1
    have a : (d : Rat) ≤ d * Spec.decrAt n (ratPoint c d) w :=
      decrRow_implies_spec n R c d d hg.1 hwf hg.2 w hw
    exact (le_mul_iff_one_le_right hd).mp a
  | ray =>
    show 0 ≤ Spec.decrAt n (ratPoint c 1) w
    simpa using decrRow_implies_spec n R c 1 0 one_pos hwf hg w hw
  | line =>
    show Spec.decrAt n (ratPoint c 1) w = 0
    simp only [Bool.and_eq_true] at hg
    have a := decrRow_implies_spec n R c 1 0 one_pos hwf hg.1 w hw
    have b := decrRow_implies_spec n R _ 1 0 one_pos hwf hg.2 w hw
    rw [decrAt_ratPoint_neg] at b
    simp only [Int.cast_zero, Int.cast_one, one_mul] at a b
    exact le_antisymm (by linarith) a
  | cpoint => cases hg

/-- every element of a space whose generators pass `boundGenOK` is bounded from below by `0` -/
theorem quasi_bounded_sound (n : Nat) (R : List Con) (gs : List Gen) (hwf : WF (2*n) R)
    (h : quasiOK n R false gs = true) (mu : Val) (hmu : mu ∈ GenSem (n + 1) gs)
    (w : Val) (hw : w ∈ sem R) : 0 ≤ Spec.valueAt n mu w := by
  obtain ⟨lam, hnn, hsum, -, hcoord⟩ := hmu
  unfold quasiOK at h
  simp only [Bool.false_eq_true, if_false, List.all_eq_true] at h
  rw [valueAt_genSem n gs lam mu w hcoord]
  apply wsum_ge_of_gens _ 0 gs lam hnn hsum
  intro k c d hg
  have hg := h _ hg
  unfold boundGenOK at hg
  cases k with
  | point =>
    simp only [Bool.and_eq_true, decide_eq_true_eq] at hg
    exact valueRow_implies_spec n R c d hg.1 hwf hg.2 w hw
  | ray => exact valueRow_implies_spec n R c 1 one_pos hwf hg w hw
  | line =>
    show Spec.valueAt n (ratPoint c 1) w = 0
    simp only [Bool.and_eq_true] at hg
    have a := valueRow_implies_spec n R c 1 one_pos hwf hg.1 w hw
    have b := valueRow_implies_spec n R _ 1 one_pos hwf hg.2 w hw
    rw [valueAt_ratPoint_neg] at b
    exact le_antisymm (by linarith) a
  | cpoint => cases hg

/-- the check on a generator of `mu_space` is the conjunction of the two quasi-space checks -/
theorem spaceGenOK_iff (n : Nat) (R : List Con) (g : Gen) :
    spaceGenOK n R g = true ↔ boundGenOK n R g = true ∧ decrGenOK n R g = true := by
  unfold spaceGenOK boundGenOK decrGenOK
  cases g.kind <;> simp only [isRankingB, homOK, Bool.and_eq_true]
  · exact and_and_and_comm
  · exact ⟨fun ⟨⟨a, b⟩, c⟩ => ⟨⟨a, b⟩, a, c⟩, fun ⟨⟨a, b⟩, _, c⟩ => ⟨⟨a, b⟩, c⟩⟩
  · exact ⟨fun h => ⟨h, h⟩, fun h => h.1⟩

/-- **Every element of a space whose generators pass `spaceOK` is a ranking function.** -/
theorem spaceOK_sound (n : Nat) (R : List Con) (gs : List Gen) (hwf : WF (2*n) R)
    (h : spaceOK n R gs = true) (mu : Val) (hmu : mu ∈ GenSem (n + 1) gs) :
    Spec.isRanking n (sem R) mu := by
  have hg := fun g hg => (spaceGenOK_iff n R g).mp (List.all_eq_true.mp h g hg)
  have hb : quasiOK n R false gs = true := by
    unfold quasiOK
    simp only [Bool.false_eq_true, if_false]
    exact List.all_eq_true.mpr fun g hm => (hg g hm).1
  have hd : quasiOK n R true gs = true := by
    unfold quasiOK
    simp only [if_true]
    exact List.all_eq_true.mpr fun g hm => (hg g hm).2
  exact fun w hw => ⟨quasi_bounded_sound n R gs hwf hb mu hmu w hw,
    quasi_decreasing_sound n R gs hwf hd mu hmu w hw⟩

end PPLV.Term

import PPLV.Term.ProofsCompleteFarkas
import PPLV.Term.ProofsCompleteMS2
import PPLV.Term.ProofsCompletePR
import PPLV.Term.ProofsCompletePRO
import PPLV.Term.ProofsClosure

/-! # C18 completeness, top: relations with strict rows (the code analyses the closure), and the
    before/after form when the guard entails what `after` implies about `x` -/
namespace PPLV.Term
open PPLV.Lin

theorem approxIneq_nonstrict (cs : List Con) : ∀ c ∈ approxIneq cs, c.strict = false := by
  intro c hc
  unfold approxIneq relax at hc
  obtain ⟨d, -, rfl⟩ := List.mem_map.mp hc
  rfl

theorem approxIneq_wf (N : Nat) (cs : List Con) (h : WF N cs) : WF N (approxIneq cs) := by
  intro c hc
  unfold approxIneq relax at hc
  obtain ⟨d, hd, rfl⟩ := List.mem_map.mp hc
  exact h d hd

theorem approxIneq_nonempty (cs : List Con) (h : ∃ w, Sat cs w) : ∃ w, Sat (approxIneq cs) w := by
  obtain ⟨w, hw⟩ := h
  exact ⟨w, sem_subset_relax cs hw⟩

/-- `termination_test_MS` on a pointset with strict constraints: `assign_all_inequalities_approximation`
    relaxes them, the encoding is built for the closure; for a NON-EMPTY relation the answer is still
    exactly "an affine ranking function of the relation exists". -/
theorem termination_test_MS_iff_nnc (n : Nat) (cs : List Con) (hwf : WF (2*n) cs) (hne : ∃ w, Sat cs w) :
    feasible (msDim n (approxIneq cs)) (msSystem n (approxIneq cs)) = true ↔
      ∃ mu, Spec.isRanking n (sem cs) mu := by
  rw [termination_test_MS_iff_of_farkas farkasImplied_holds farkasInfeasible_holds n (approxIneq cs)
    (approxIneq_wf _ cs hwf) (approxIneq_nonstrict cs)]
  constructor
  · rintro ⟨mu, h⟩; exact ⟨mu, (isRanking_relax_iff n cs hne mu).mp h⟩
  · rintro ⟨mu, h⟩; exact ⟨mu, (isRanking_relax_iff n cs hne mu).mpr h⟩

theorem termination_test_PR_original_iff_nnc (n : Nat) (cs : List Con) (hwf : WF (2*n) cs)
    (hne : ∃ w, Sat cs w) :
    feasible (prOrigDim (approxIneq cs)) (prOrigSystem n (approxIneq cs)) = true ↔
      ∃ mu, Spec.isRankingGen n (sem cs) mu := by
  rw [termination_test_PR_original_iff_of_farkas farkasImplied_holds farkasInfeasible_holds n
    (approxIneq cs) (approxIneq_wf _ cs hwf) (approxIneq_nonstrict cs)]
  constructor
  · rintro ⟨mu, h⟩; exact ⟨mu, (isRankingGen_relax_iff n cs hne mu).mp h⟩
  · rintro ⟨mu, h⟩; exact ⟨mu, (isRankingGen_relax_iff n cs hne mu).mpr h⟩

/-- when every state of the guard has a successor (`sem csB ⊆ π_x(sem csA)`), a function that is
    bounded from below on the *relation* is bounded from below on the guard: the before/after
    Podelski–Rybalchenko encoding is then complete for all ranking functions -/
theorem rankingGuard_of_guard_entailed (n : Nat) (csB csA : List Con) (hB : WF n csB)
    (hent : ∀ x, Sat csB x → ∃ w, Sat csA w ∧ ∀ j < n, w (n + j) = x j) (mu : Val)
    (h : Spec.isRankingGen n (sem (pairRel n csB csA)) mu) :
    Spec.isRankingGuard n (fun x => Sat csB x) (fun w => Sat (pairRel n csB csA) w) mu := by
  obtain ⟨δ, β, hδ, hr⟩ := h
  refine ⟨δ, β, hδ, fun x hx => ?_, fun w hw => (hr w hw).2⟩
  obtain ⟨w, hwA, hwx⟩ := hent x hx
  have hwB : Sat csB (fun j => w (j + n)) := by
    intro c hc
    refine (sat_agree c _ x ?_).mpr (hx c hc)
    intro i hi
    have : i < n := lt_of_lt_of_le hi (hB c hc)
    show w (i + n) = x i
    rw [Nat.add_comm]; exact hwx i this
  have hw : Sat (pairRel n csB csA) w := (Sat_pairRel n csB csA w).mpr ⟨hwA, hwB⟩
  have h1 := (hr w hw).1
  unfold Spec.valueAt at h1
  unfold Spec.valueOn
  have : linAt n mu 0 x = linAt n mu n w := by
    unfold linAt
    apply sumTo_congr
    intro i hi
    rw [Nat.zero_add, hwx i hi]
  rw [this]
  exact h1

end PPLV.Term

namespace PPLV.Term
open PPLV.Lin

theorem approxIneq_of_nonstrict (cs : List Con) (h : ∀ c ∈ cs, c.strict = false) : approxIneq cs = cs := by
  unfold approxIneq relax
  induction cs with
  | nil => rfl
  | cons c cs ih =>
    simp only [List.map_cons]
    rw [ih (fun d hd => h d (by simp [hd]))]
    have hc := h c (by simp)
    cases c with
    | mk cf k s => simp only at hc; subst hc; rfl

theorem feasible_of_certify (N : Nat) (cs : List Con) (b : Bool) (h : certify N cs = some b) :
    feasible N cs = b := by
  unfold feasible; rw [h]

/-- what `pplv_term` prints as `ms_model=`: the certified verdict of the model of the MS encoding on
    the relaxed system is the exact answer to "does an affine ranking function of the relation exist",
    for closed relations (empty or not) and for non-empty relations with strict rows -/
theorem ms_certified_verdict (n : Nat) (cs : List Con) (hwf : WF (2*n) cs)
    (hc : (∀ c ∈ cs, c.strict = false) ∨ ∃ w, Sat cs w) (b : Bool)
    (h : certify (msDim n (approxIneq cs)) (msSystem n (approxIneq cs)) = some b) :
    b = true ↔ ∃ mu, Spec.isRanking n (sem cs) mu := by
  rw [← feasible_of_certify _ _ b h]
  rcases hc with hns | hne
  · rw [approxIneq_of_nonstrict cs hns]
    exact termination_test_MS_iff_of_farkas farkasImplied_holds farkasInfeasible_holds n cs hwf hns
  · exact termination_test_MS_iff_nnc n cs hwf hne

/-- the same for `pr_model=` in the single-relation form -/
theorem pr_original_certified_verdict (n : Nat) (cs : List Con) (hwf : WF (2*n) cs)
    (hc : (∀ c ∈ cs, c.strict = false) ∨ ∃ w, Sat cs w) (b : Bool)
    (h : certify (prOrigDim (approxIneq cs)) (prOrigSystem n (approxIneq cs)) = some b) :
    b = true ↔ ∃ mu, Spec.isRankingGen n (sem cs) mu := by
  rw [← feasible_of_certify _ _ b h]
  rcases hc with hns | hne
  · rw [approxIneq_of_nonstrict cs hns]
    exact termination_test_PR_original_iff_of_farkas farkasImplied_holds farkasInfeasible_holds n cs hwf hns
  · exact termination_test_PR_original_iff_nnc n cs hwf hne

end PPLV.Term

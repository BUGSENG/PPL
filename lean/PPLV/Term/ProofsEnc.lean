import PPLV.Term.Proofs

/-! # C18 helper lemmas: the Farkas encodings are sound (weighted-sum argument)

If `y ≥ 0` and every row `a_i·w + b_i ≥ 0` holds at `w`, then `Σ_i y_i (a_i·w + b_i) ≥ 0`;
exchanging the two sums, `Σ_j (Σ_i y_i a_{ij}) w_j + Σ_i y_i b_i ≥ 0`.  The equalities of the
encodings identify the column sums `Σ_i y_i a_{ij}` with `±μ_j`. -/
namespace PPLV.Term
open PPLV.Lin

/-- `Σ_i y_i · (a_i·w + b_i)` -/
def wrows : List Con → Val → Val → Rat
  | [], _, _ => 0
  | c :: cs, y, w => y 0 * c.eval w + wrows cs y.tail w

theorem wrows_nonneg (cs : List Con) (y w : Val) (hy : ∀ i < cs.length, 0 ≤ y i) (hs : Sat cs w) :
    0 ≤ wrows cs y w := by
  induction cs generalizing y with
  | nil => exact le_refl _
  | cons c cs ih =>
    rw [List.length_cons, Nat.forall_lt_succ_left] at hy
    exact add_nonneg (mul_nonneg hy.1 (sat_nonneg c w (hs c List.mem_cons_self)))
      (ih _ hy.2 fun d hd => hs d (List.mem_cons_of_mem _ hd))

theorem wrows_exchange (N : Nat) (cs : List Con) (y w : Val) (hwf : WF N cs) :
    wrows cs y w = sumTo N (fun j => dot (col cs j) y * w j) + dot (consts cs) y := by
  induction cs generalizing y with
  | nil =>
    simp only [wrows, col, consts, List.map_nil, dot_nil, zero_mul, add_zero]
    exact (sumTo_zero N).symm
  | cons c cs ih =>
    have hwf' : WF N cs := fun d hd => hwf d (by simp [hd])
    have hc : c.coeffs.length ≤ N := hwf c (by simp)
    simp only [wrows, ih y.tail hwf']
    have hcol : ∀ j, dot (col (c :: cs) j) y = ((c.at j : Int) : Rat) * y 0 + dot (col cs j) y.tail := by
      intro j; simp [col, dot_cons]
    have hk : dot (consts (c :: cs)) y = ((c.k : Int) : Rat) * y 0 + dot (consts cs) y.tail := by
      simp [consts, dot_cons]
    rw [hk]
    have : sumTo N (fun j => dot (col (c :: cs) j) y * w j)
        = y 0 * sumTo N (fun j => ((c.coeffs.getD j 0 : Int) : Rat) * w j)
          + sumTo N (fun j => dot (col cs j) y.tail * w j) := by
      rw [← sumTo_mul_left, ← sumTo_add]
      apply sumTo_congr
      intro j _
      rw [hcol j]
      simp only [Con.at]
      ring
    rw [this]
    unfold Con.eval
    rw [dot_sumTo c.coeffs N hc w]
    ring

/-- the weighted-sum argument, in the form the soundness proofs apply to each block of multipliers -/
theorem comb_nonneg (N : Nat) (cs : List Con) (hwf : WF N cs) (y w : Val)
    (hy : ∀ i < cs.length, 0 ≤ y i) (hs : Sat cs w) :
    0 ≤ sumTo N (fun j => dot (col cs j) y * w j) + dot (consts cs) y := by
  rw [← wrows_exchange N cs y w hwf]
  exact wrows_nonneg cs y w hy hs

/-! ### reading the rows of the encodings -/

theorem Sat_nonnegRows (off m : Nat) (sol : Val) :
    Sat (nonnegRows off m) sol ↔ ∀ i < m, 0 ≤ sol (off + i) := by
  unfold Sat nonnegRows
  simp only [List.mem_map, List.mem_range, forall_exists_index, and_imp, forall_apply_eq_imp_iff₂]
  have key : ∀ i, (geRow (unitRow (off + i) 1) 0).sat sol ↔ 0 ≤ sol (off + i) := by
    intro i
    unfold Con.sat geRow Con.eval
    simp only [Bool.false_eq_true, if_false, dot_unitRow]
    simp
  exact ⟨fun h i hi => (key i).mp (h i hi), fun h i hi => (key i).mpr (h i hi)⟩

theorem WF_nonnegRows (N off m : Nat) (h : off + m ≤ N) : WF N (nonnegRows off m) := by
  intro c hc
  simp only [nonnegRows, List.mem_map, List.mem_range] at hc
  obtain ⟨i, hi, rfl⟩ := hc
  simp [geRow, unitRow]; omega

theorem dot_headRow (N j : Nat) (hj : j < N) (a : Int) (tl : List Int) (sol : Val) :
    dot (headRow N j a tl) sol = (a : Rat) * sol j + dot tl (fun i => sol (i + N)) := by
  unfold headRow
  have hlen : (unitRow j a ++ List.replicate (N - 1 - j) 0).length = N := by
    simp [unitRow]; omega
  rw [dot_append, dot_append, dot_unitRow, dot_replicate_zero, hlen]
  ring

theorem length_col (cs : List Con) (j : Nat) : (col cs j).length = cs.length := by simp [col]
theorem length_consts (cs : List Con) : (consts cs).length = cs.length := by simp [consts]

/-! ### Mesnard–Serebrenik -/

/-- the rows of `cs_out1`, read as conditions on `(μ, y)` with `y_i = sol (yb + i)` -/
theorem fillMS1_sat (n : Nat) (cs : List Con) (yb : Nat) (hyb : n ≤ yb) (sol : Val) :
    Sat (fillMS1 n cs yb) sol ↔
      (∀ i < cs.length, 0 ≤ sol (yb + i)) ∧
      dot (consts cs) (fun i => sol (i + yb)) ≤ -1 ∧
      (∀ j < n, dot (col cs (n + j)) (fun i => sol (i + yb)) = sol j) ∧
      (∀ j < n, dot (col cs j) (fun i => sol (i + yb)) = - sol j) := by
  unfold fillMS1
  rw [Sat_append, Sat_append, Sat_append, Sat_nonnegRows, Sat_singleton, sat_geRow, Sat_flatMap,
    Sat_flatMap, dot_replicate_zero_append, dot_map_neg, and_assoc, and_assoc]
  refine and_congr_right fun _ => and_congr ?_ (and_congr ?_ ?_)
  · rw [Int.cast_neg, Int.cast_one, ← sub_eq_add_neg, sub_nonneg, le_neg]
  · refine forall_congr' fun j => ?_
    rw [List.mem_range]
    refine imp_congr_right fun hj => ?_
    rw [Sat_eqRows, dot_headRow yb j (by omega), Int.cast_neg, Int.cast_one, Int.cast_zero,
      add_zero, neg_one_mul, neg_add_eq_zero, eq_comm]
  · refine forall_congr' fun j => ?_
    rw [List.mem_range]
    refine imp_congr_right fun hj => ?_
    rw [Sat_eqRows, dot_headRow yb j (by omega), Int.cast_one, Int.cast_zero, add_zero, one_mul,
      add_comm, add_eq_zero_iff_eq_neg]

/-- system 1 forces a decrease of at least `1` on every pair of the relation -/
theorem fillMS1_sound (n : Nat) (cs : List Con) (yb : Nat) (hyb : n ≤ yb) (hwf : WF (2*n) cs)
    (sol : Val) (hs : Sat (fillMS1 n cs yb) sol) (w : Val) (hw : Sat cs w) :
    1 ≤ Spec.decrAt n sol w := by
  obtain ⟨hnn, hle, hxj, hpj⟩ := (fillMS1_sat n cs yb hyb sol).mp hs
  have hpos := comb_nonneg (2*n) cs hwf (fun i => sol (i + yb)) w (fun i hi => by
    rw [Nat.add_comm]; exact hnn i hi) hw
  rw [Nat.two_mul, sumTo_split,
    sumTo_congr n _ _ fun j hj => by rw [hpj j hj, neg_mul, ← neg_one_mul],
    sumTo_congr n (fun j => _ * w (n + j)) _ fun j hj => by rw [hxj j hj], sumTo_mul_left] at hpos
  unfold Spec.decrAt linAt
  simp only [Nat.zero_add]
  linarith
theorem dot_one_neg_one (v : Val) : dot [1, -1] v = v 0 - v 1 := by
  simp [dot_cons, Val.tail]; ring

/-- the rows of `cs_out2`, read as conditions on `(μ, z)` with `z_i = sol (zb + i)` -/
theorem fillMS2_sat (n : Nat) (cs : List Con) (zb : Nat) (hzb : n < zb) (sol : Val) :
    Sat (fillMS2 n cs zb) sol ↔
      (∀ i < cs.length + 2, 0 ≤ sol (zb + i)) ∧
      dot (consts cs) (fun i => sol (i + zb)) ≤ sol (zb + cs.length) - sol (zb + (cs.length + 1)) ∧
      (∀ j < n, dot (col cs (n + j)) (fun i => sol (i + zb)) = sol j) ∧
      (∀ j < n, dot (col cs j) (fun i => sol (i + zb)) = 0) ∧
      sol (zb + cs.length) - sol (zb + (cs.length + 1)) = sol n := by
  have e0 : 0 + cs.length + zb = zb + cs.length := by omega
  have e1 : 1 + cs.length + zb = zb + (cs.length + 1) := by omega
  unfold fillMS2
  simp only
  rw [Sat_append, Sat_append, Sat_append, Sat_append, Sat_nonnegRows, Sat_singleton, sat_geRow,
    Sat_flatMap, Sat_flatMap, Sat_eqRows, dot_replicate_zero_append, dot_append, dot_map_neg,
    List.length_map, length_consts, dot_one_neg_one, dot_headRow zb n hzb, dot_replicate_zero_append,
    dot_one_neg_one, e0, e1, and_assoc, and_assoc, and_assoc]
  refine and_congr_right fun _ => and_congr ?_ (and_congr ?_ (and_congr ?_ ?_))
  · rw [Int.cast_zero, add_zero, neg_add_eq_sub, sub_nonneg]
  · refine forall_congr' fun j => ?_
    rw [List.mem_range]
    refine imp_congr_right fun hj => ?_
    rw [Sat_eqRows, dot_headRow zb j (by omega), Int.cast_neg, Int.cast_one, Int.cast_zero,
      add_zero, neg_one_mul, neg_add_eq_zero, eq_comm]
  · refine forall_congr' fun j => ?_
    rw [List.mem_range]
    refine imp_congr_right fun hj => ?_
    rw [Sat_eqRows, dot_replicate_zero_append, Int.cast_zero, add_zero]
  · rw [Int.cast_neg, Int.cast_one, Int.cast_zero, add_zero, neg_one_mul, neg_add_eq_zero, eq_comm]

/-- system 2 forces `μ(x) ≥ 0` on every pair of the relation -/
theorem fillMS2_sound (n : Nat) (cs : List Con) (zb : Nat) (hzb : n < zb) (hwf : WF (2*n) cs)
    (sol : Val) (hs : Sat (fillMS2 n cs zb) sol) (w : Val) (hw : Sat cs w) :
    0 ≤ Spec.valueAt n sol w := by
  obtain ⟨hnn, hle, hxj, hpj, h0⟩ := (fillMS2_sat n cs zb hzb sol).mp hs
  have hpos := comb_nonneg (2*n) cs hwf (fun i => sol (i + zb)) w (fun i hi => by
    rw [Nat.add_comm]; exact hnn i (by omega)) hw
  rw [Nat.two_mul, sumTo_split,
    sumTo_congr n _ (fun _ => 0) fun j hj => by rw [hpj j hj, zero_mul], sumTo_zero,
    sumTo_congr n (fun j => _ * w (n + j)) _ fun j hj => by rw [hxj j hj]] at hpos
  unfold Spec.valueAt linAt
  linarith

end PPLV.Term

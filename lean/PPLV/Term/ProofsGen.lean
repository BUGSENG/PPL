import PPLV.Term.Proofs
import PPLV.Lin.GenSpecs

/-! # C18 helper lemmas: refutation through generators; the existence decider -/
namespace PPLV.Term
open PPLV.Lin

/-! ### moving along a direction -/

def along (p r : Val) (t : Rat) : Val := fun i => p i + t * r i

theorem along_tail (p r : Val) (t : Rat) : (along p r t).tail = along p.tail r.tail t := rfl

theorem dot_along (a : List Int) (p r : Val) (t : Rat) :
    dot a (along p r t) = dot a p + t * dot a r := by
  induction a generalizing p r with
  | nil => simp
  | cons x xs ih =>
    rw [dot_cons, dot_cons, dot_cons, along_tail, ih]
    simp only [along]; ring

theorem linAt_along (n : Nat) (mu : Val) (off : Nat) (p r : Val) (t : Rat) :
    linAt n mu off (along p r t) = linAt n mu off p + t * linAt n mu off r := by
  unfold linAt
  rw [← sumTo_mul_left, ← sumTo_add]
  apply sumTo_congr
  intro i _
  simp only [along]; ring

theorem Sat_along (cs : List Con) (p r : Val) (t : Rat) (ht : 0 ≤ t) (hp : Sat cs p)
    (hr : ∀ c ∈ cs, 0 ≤ dot c.coeffs r) : Sat cs (along p r t) := by
  intro c hc
  have h1 := hp c hc
  have h2 := mul_nonneg ht (hr c hc)
  unfold Con.sat Con.eval at *
  rw [dot_along]
  split
  · rename_i hs; simp only [hs, if_true] at h1; linarith
  · rename_i hs; simp only [hs] at h1; simp only [Bool.false_eq_true, if_false] at h1; linarith

/-! ### the rows a generator imposes on `μ` -/

theorem getD_padTo (n : Nat) (c : List Int) (i : Nat) (hi : i < n) : (padTo n c).getD i 0 = c.getD i 0 := by
  unfold padTo
  simp only [List.getD_eq_getElem?_getD, List.getElem?_append, List.length_take]
  by_cases h : i < c.length
  · have : i < min n c.length := by omega
    simp [this, List.getElem?_eq_getElem h]
  · have : ¬ i < min n c.length := by omega
    simp only [this, if_false]
    have h2 : c[i]? = none := by simp; omega
    rw [h2, List.getElem?_replicate]
    split <;> simp

theorem length_xPart (n : Nat) (c : List Int) : (xPart n c).length = n := by
  simp [xPart, length_padTo]; omega

theorem dot_xPart (n : Nat) (c : List Int) (mu : Val) :
    dot (xPart n c) mu = sumTo n (fun i => ((c.getD (n + i) 0 : Int) : Rat) * mu i) := by
  rw [dot_sumTo (xPart n c) n (le_of_eq (length_xPart n c))]
  apply sumTo_congr
  intro i hi
  have : (xPart n c).getD i 0 = c.getD (n + i) 0 := by
    unfold xPart
    rw [List.getD_eq_getElem?_getD, List.getElem?_drop, ← List.getD_eq_getElem?_getD,
      getD_padTo (2*n) c (n + i) (by omega)]
  rw [this]

theorem dot_pPart (n : Nat) (c : List Int) (mu : Val) :
    dot (pPart n c) mu = sumTo n (fun i => ((c.getD i 0 : Int) : Rat) * mu i) := dot_padTo n c mu

theorem dot_diffPart (n : Nat) (c : List Int) (mu : Val) :
    dot (diffPart n c) mu = dot (xPart n c) mu - dot (pPart n c) mu := by
  unfold diffPart
  rw [dot_lincomb]; push_cast; ring

theorem linAt_ratPoint' (n : Nat) (mu : Val) (c : List Int) (d : Int) (hd : (d : Rat) ≠ 0) (off : Nat) :
    (d : Rat) * linAt n mu off (ratPoint c d) = sumTo n (fun i => ((c.getD (off + i) 0 : Int) : Rat) * mu i) := by
  unfold linAt
  rw [← sumTo_mul_left]
  apply sumTo_congr
  intro i _
  simp only [ratPoint]
  field_simp

theorem value_row_point (n : Nat) (mu : Val) (c : List Int) (d : Int) (hd : (d : Rat) ≠ 0) :
    dot (xPart n c ++ [d]) mu = (d : Rat) * Spec.valueAt n mu (ratPoint c d) := by
  rw [dot_append, length_xPart, dot_xPart, Spec.valueAt, mul_add, linAt_ratPoint' n mu c d hd n]
  simp [dot_cons]; ring

theorem decr_row_gen (n : Nat) (mu : Val) (c : List Int) (d : Int) (hd : (d : Rat) ≠ 0) :
    dot (diffPart n c) mu = (d : Rat) * Spec.decrAt n mu (ratPoint c d) := by
  rw [dot_diffPart, dot_xPart, dot_pPart, Spec.decrAt, mul_sub, linAt_ratPoint' n mu c d hd n,
    linAt_ratPoint' n mu c d hd 0]
  congr 1
  apply sumTo_congr
  intro i _
  simp

theorem lin_row_ray (n : Nat) (mu : Val) (c : List Int) :
    dot (xPart n c) mu = linAt n mu n (ratPoint c 1) := by
  have := linAt_ratPoint' n mu c 1 (by norm_num) n
  rw [dot_xPart, ← this]; simp

theorem valueAt_along (n : Nat) (mu p r : Val) (t : Rat) :
    Spec.valueAt n mu (along p r t) = Spec.valueAt n mu p + t * linAt n mu n r := by
  unfold Spec.valueAt; rw [linAt_along]; ring

theorem decrAt_along (n : Nat) (mu p r : Val) (t : Rat) :
    Spec.decrAt n mu (along p r t) = Spec.decrAt n mu p + t * Spec.decrAt n mu r := by
  unfold Spec.decrAt; rw [linAt_along, linAt_along]; ring

/-! ### well-formedness of `rankCons` -/

theorem length_diffPart (n : Nat) (c : List Int) : (diffPart n c).length = n := by
  unfold diffPart
  rw [length_lincomb]
  all_goals simp [length_xPart, pPart, length_padTo]

theorem rankCons_wf (n : Nat) (gs : List Gen) : WF (n + 1) (rankCons n gs) := by
  intro c hc
  unfold rankCons at hc
  rw [List.mem_flatMap] at hc
  obtain ⟨g, -, hcg⟩ := hc
  unfold rankRows at hcg
  split at hcg
  · simp only [List.mem_cons, List.not_mem_nil, or_false] at hcg
    rcases hcg with rfl | rfl
    · simp [geRow, length_xPart]
    · simp [geRow, length_diffPart]
  · simp only [List.mem_cons, List.not_mem_nil, or_false] at hcg
    rcases hcg with rfl | rfl
    · simp [geRow, length_xPart]
    · simp [geRow, length_diffPart]
  · simp only [List.mem_cons, List.not_mem_nil, or_false] at hcg
    subst hcg; simp [falseRow]

/-! ### refutation -/

theorem genInB_point (cs : List Con) (g : Gen) (hk : g.kind = .point) (h : genInB cs g = true) :
    0 < g.div ∧ Sat cs (ratPoint g.coords g.div) := by
  unfold genInB at h
  rw [hk] at h
  simp only [Bool.and_eq_true, decide_eq_true_eq, List.all_eq_true] at h
  exact ⟨h.1, fun c hc => (holdsAt_iff c _ _ h.1).mp (h.2 c hc)⟩

theorem genInB_ray (cs : List Con) (g : Gen) (hk : g.kind = .ray) (h : genInB cs g = true) :
    ∀ c ∈ cs, 0 ≤ dot c.coeffs (ratPoint g.coords 1) := by
  unfold genInB at h
  rw [hk] at h
  simp only [List.all_eq_true] at h
  intro c hc
  have := (holdsAt_iff _ _ _ (by norm_num : (0:Int) < 1)).mp (h c hc)
  simpa [Con.sat, Con.eval] using this

theorem genInB_kind (cs : List Con) (g : Gen) (h : genInB cs g = true) :
    g.kind = .point ∨ g.kind = .ray := by
  unfold genInB at h
  cases hk : g.kind <;> simp [hk] at h ⊢

/-- a ranking function of `sem cs` satisfies the rows of every generator lying in `sem cs` -/
theorem rankCons_of_ranking (n : Nat) (cs : List Con) (gs : List Gen)
    (hpt : ∃ g ∈ gs, g.kind = .point) (hin : ∀ g ∈ gs, genInB cs g = true)
    (mu : Val) (hmu : Spec.isRanking n (sem cs) mu) : Sat (rankCons n gs) mu := by
  obtain ⟨g0, hg0, hk0⟩ := hpt
  obtain ⟨hd0, hp0⟩ := genInB_point cs g0 hk0 (hin g0 hg0)
  intro c hc
  unfold rankCons at hc
  rw [List.mem_flatMap] at hc
  obtain ⟨g, hg, hcg⟩ := hc
  rcases genInB_kind cs g (hin g hg) with hk | hk
  · -- a point of the relation
    obtain ⟨hd, hp⟩ := genInB_point cs g hk (hin g hg)
    have hd' : (0 : Rat) < (g.div : Rat) := by exact_mod_cast hd
    have hr := hmu _ hp
    unfold rankRows at hcg
    rw [hk] at hcg
    simp only [List.mem_cons, List.not_mem_nil, or_false] at hcg
    rcases hcg with rfl | rfl
    · rw [sat_geRow, value_row_point n mu _ _ (ne_of_gt hd')]
      have := mul_nonneg (le_of_lt hd') hr.1
      simpa using this
    · rw [sat_geRow, decr_row_gen n mu _ _ (ne_of_gt hd')]
      have : 0 ≤ (g.div : Rat) * (Spec.decrAt n mu (ratPoint g.coords g.div) - 1) :=
        mul_nonneg (le_of_lt hd') (by linarith [hr.2])
      push_cast; linarith
  · -- a recession direction
    have hrec := genInB_ray cs g hk (hin g hg)
    have hall : ∀ t : Rat, 0 ≤ t →
        0 ≤ Spec.valueAt n mu (ratPoint g0.coords g0.div) + t * linAt n mu n (ratPoint g.coords 1) ∧
        1 ≤ Spec.decrAt n mu (ratPoint g0.coords g0.div) + t * Spec.decrAt n mu (ratPoint g.coords 1) := by
      intro t ht
      have := hmu _ (Sat_along cs _ _ t ht hp0 hrec)
      rw [valueAt_along, decrAt_along] at this
      exact this
    unfold rankRows at hcg
    rw [hk] at hcg
    simp only [List.mem_cons, List.not_mem_nil, or_false] at hcg
    rcases hcg with rfl | rfl
    · rw [sat_geRow, lin_row_ray]
      simpa using ray_argument _ _ fun t ht => (hall t ht).1
    · rw [sat_geRow, decr_row_gen n mu _ 1 (by norm_num)]
      have := ray_argument (Spec.decrAt n mu (ratPoint g0.coords g0.div) - 1)
        (Spec.decrAt n mu (ratPoint g.coords 1)) fun t ht => by linarith [(hall t ht).2]
      simpa using this

/-- **Refutation is sound**: `noRankingB` proves that no affine ranking function exists. -/
theorem noRankingB_sound (n : Nat) (cs : List Con) (gs : List Gen) (h : noRankingB n cs gs = true) :
    ¬ ∃ mu, Spec.isRanking n (sem cs) mu := by
  unfold noRankingB at h
  simp only [Bool.and_eq_true, List.any_eq_true, List.all_eq_true, Bool.not_eq_true', beq_iff_eq] at h
  obtain ⟨⟨hpt, hin⟩, hinf⟩ := h
  rintro ⟨mu, hmu⟩
  have hs := rankCons_of_ranking n cs (expandLines gs) hpt hin mu hmu
  have := (feasible_iff (n + 1) _ (rankCons_wf n _)).mpr ⟨mu, hs⟩
  rw [hinf] at this
  cases this

/-- **The existence decider is sound in both answers.** -/
theorem existsRankingDecider_sound (n : Nat) (cs : List Con) (gs : List Gen) (hwf : WF (2*n) cs)
    (b : Bool) (h : existsRankingDecider n cs gs = some b) :
    b = true ↔ ∃ mu, Spec.isRanking n (sem cs) mu := by
  unfold existsRankingDecider at h
  split at h
  · rename_i he
    have hempty := (isEmptyB_iff (2*n) cs hwf).mp he
    cases h
    refine ⟨fun _ => ⟨Val.zero, fun w hw => ?_⟩, fun _ => rfl⟩
    have hw' : w ∈ sem cs := hw
    rw [hempty] at hw'
    exact absurd hw' (Set.notMem_empty w)
  · split at h
    · rename_i c d _
      split at h
      · rename_i hr
        cases h
        exact ⟨fun _ => ⟨_, ((isRankingB_iff n cs c d hwf).mp hr).2⟩, fun _ => rfl⟩
      · cases h
    · split at h
      · rename_i hno
        cases h
        exact ⟨fun h => (by cases h), fun hex => absurd hex (noRankingB_sound n cs gs hno)⟩
      · cases h

end PPLV.Term

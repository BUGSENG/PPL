import PPLV.Term.FarkasStmt
import PPLV.Farkas.Main

/-! # C18 completeness: the two Farkas statements of `FarkasStmt.lean` hold

Bridge from the list/integer form proved over K1's elimination (`PPLV/Farkas/Main.lean`) to the
vocabulary of the encodings: multipliers as a valuation, column sums `dot (col cs j) y`, rational
target `Σ_j e_j w_j + k` (scaled to an integer row by the product of the denominators). -/
namespace PPLV.Term
open PPLV.Lin PPLV.Farkas

/-! ### multipliers: from a list of integers (scaled by `s`) to a valuation -/

theorem wrows_of_list (cs : List Con) (y : List Int) (s : Rat) (w : Val) :
    wrows cs (fun i => ((y.getD i 0 : Int) : Rat) * s) w = s * wev cs y w := by
  induction cs generalizing y with
  | nil => simp [wrows, wev]
  | cons c cs ih =>
    cases y with
    | nil =>
      have h0 := ih []
      simp only [List.getD_nil, wev, mul_zero] at h0 ⊢
      simp only [wrows, Int.cast_zero, zero_mul, zero_add]
      have : Val.tail (fun _ : Nat => (0 : Rat)) = fun _ => 0 := rfl
      rw [this]
      simpa using h0
    | cons a ys =>
      simp only [wrows, wev, List.getD_cons_zero]
      have : Val.tail (fun i => (((a :: ys).getD i 0 : Int) : Rat) * s)
          = fun i => ((ys.getD i 0 : Int) : Rat) * s := by
        funext i; simp [Val.tail]
      rw [this, ih ys]; ring

theorem getD_nonneg (y : List Int) (hy : ∀ a ∈ y, 0 ≤ a) (i : Nat) : 0 ≤ y.getD i 0 := by
  by_cases hi : i < y.length
  · have : y.getD i 0 = y[i] := by simp [List.getD_eq_getElem?_getD, List.getElem?_eq_getElem hi]
    rw [this]; exact hy _ (List.getElem_mem hi)
  · have : y.getD i 0 = 0 := by
      simp [List.getD_eq_getElem?_getD, List.getElem?_eq_none (by omega : y.length ≤ i)]
    rw [this]

/-! ### reading off the coefficients of an affine identity -/

theorem sumTo_eq_zero (N : Nat) (f : Nat → Rat) (h : ∀ i < N, f i = 0) : sumTo N f = 0 :=
  (sumTo_congr N f _ h).trans (sumTo_zero N)

theorem sumTo_unit (N : Nat) (A : Nat → Rat) (j : Nat) (hj : j < N) :
    sumTo N (fun i => A i * (if i = j then 1 else 0)) = A j := by
  induction N with
  | zero => omega
  | succ N ih =>
    simp only [sumTo]
    by_cases h : j = N
    · subst h
      have : sumTo j (fun i => A i * (if i = j then (1 : Rat) else 0)) = 0 := by
        apply sumTo_eq_zero
        intro i hi
        have : i ≠ j := by omega
        simp [this]
      rw [this]; simp
    · have hne : N ≠ j := fun h' => h h'.symm
      rw [ih (by omega)]; simp [hne]

theorem affine_coeffs (N : Nat) (A E : Nat → Rat) (B C : Rat)
    (h : ∀ w : Val, sumTo N (fun j => A j * w j) + B = sumTo N (fun j => E j * w j) + C) :
    (∀ j < N, A j = E j) ∧ B = C := by
  have h0 : B = C := by
    have := h (fun _ => 0)
    have z1 : sumTo N (fun j => A j * (0 : Rat)) = 0 := sumTo_eq_zero _ _ (fun i _ => by simp)
    have z2 : sumTo N (fun j => E j * (0 : Rat)) = 0 := sumTo_eq_zero _ _ (fun i _ => by simp)
    rw [z1, z2] at this
    linarith
  refine ⟨fun j hj => ?_, h0⟩
  have := h (fun i => if i = j then 1 else 0)
  rw [sumTo_unit N A j hj, sumTo_unit N E j hj, h0] at this
  linarith

/-! ### a rational target as an integer row -/

/-- product of the denominators of `e 0 … e (N-1)` -/
def denProd (e : Val) : Nat → Nat
  | 0 => 1
  | j + 1 => denProd e j * (e j).den

theorem denProd_pos (e : Val) (N : Nat) : 0 < denProd e N := by
  induction N with
  | zero => exact Nat.one_pos
  | succ N ih => exact Nat.mul_pos ih (e N).den_pos

theorem denProd_int (e : Val) (N : Nat) : ∀ j < N, ∃ z : Int, (z : Rat) = (denProd e N : Rat) * e j := by
  induction N with
  | zero => intro j hj; omega
  | succ N ih =>
    intro j hj
    by_cases h : j = N
    · subst h
      refine ⟨(denProd e j : Int) * (e j).num, ?_⟩
      simp only [denProd]
      push_cast
      rw [mul_assoc, mul_comm ((e j).den : Rat) (e j), Rat.mul_den_eq_num]
    · obtain ⟨z, hz⟩ := ih j (by omega)
      refine ⟨z * (e N).den, ?_⟩
      simp only [denProd]
      push_cast
      rw [hz]; ring

theorem num_of_int (q : Rat) (h : ∃ z : Int, (z : Rat) = q) : ((q.num : Int) : Rat) = q := by
  obtain ⟨z, rfl⟩ := h
  simp

/-- the row `D·(Σ_j e_j w_j + k) ≥ 0` with integer coefficients -/
theorem exists_int_row (N : Nat) (e : Val) (k : Rat) :
    ∃ (D : Int) (t : Con), 0 < D ∧ t.coeffs.length ≤ N ∧ t.strict = false ∧
      ∀ w, t.eval w = (D : Rat) * (sumTo N (fun j => e j * w j) + k) := by
  let D : Nat := denProd e N * k.den
  have hD : 0 < D := Nat.mul_pos (denProd_pos e N) k.den_pos
  have hint : ∀ j < N, ∃ z : Int, (z : Rat) = (D : Rat) * e j := by
    intro j hj
    obtain ⟨z, hz⟩ := denProd_int e N j hj
    refine ⟨z * k.den, ?_⟩
    show ((z * (k.den : Int) : Int) : Rat) = ((denProd e N * k.den : Nat) : Rat) * e j
    push_cast
    rw [hz]; ring
  have hk : ∃ z : Int, (z : Rat) = (D : Rat) * k := by
    refine ⟨(denProd e N : Int) * k.num, ?_⟩
    show (((denProd e N : Int) * k.num : Int) : Rat) = ((denProd e N * k.den : Nat) : Rat) * k
    push_cast
    rw [mul_assoc, mul_comm ((k.den : Rat)) k, Rat.mul_den_eq_num]
  let cf : List Int := (List.range N).map fun j => ((D : Rat) * e j).num
  refine ⟨(D : Int), ⟨cf, ((D : Rat) * k).num, false⟩, by exact_mod_cast hD, by simp [cf], rfl, fun w => ?_⟩
  unfold Con.eval
  simp only
  rw [dot_sumTo cf N (by simp [cf]) w, num_of_int _ hk, mul_add, ← sumTo_mul_left]
  congr 1
  apply sumTo_congr
  intro j hj
  have : cf.getD j 0 = ((D : Rat) * e j).num := by
    simp [cf, List.getD_eq_getElem?_getD, hj]
  rw [this, num_of_int _ (hint j hj)]
  push_cast
  ring

/-! ### the two statements -/

/-- **the affine Farkas lemma holds** (from K1's Fourier–Motzkin elimination) -/
theorem farkasImplied_holds : FarkasImplied := by
  intro N cs hwf hns hne e k himp
  obtain ⟨D, t, hD, htl, hts, hte⟩ := exists_int_row N e k
  have hD' : (0 : Rat) < (D : Rat) := by exact_mod_cast hD
  have ht : ∀ x, Sat cs x → t.sat x := by
    intro x hx
    unfold Con.sat
    simp only [hts, Bool.false_eq_true, if_false]
    rw [hte]
    exact mul_nonneg (le_of_lt hD') (himp x hx)
  obtain ⟨ys, y0, l0, hy0, hl, hys, hl0, hev⟩ := farkas_implied N cs hwf hns hne t htl hts ht
  have hy0' : (0 : Rat) < (y0 : Rat) := by exact_mod_cast hy0
  let s : Rat := 1 / ((y0 : Rat) * (D : Rat))
  have hs : 0 < s := by positivity
  let y : Val := fun i => ((ys.getD i 0 : Int) : Rat) * s
  have hcoef := affine_coeffs N (fun j => dot (col cs j) y) e (dot (consts cs) y) (k - s * l0) (by
    intro w
    rw [← wrows_exchange N cs y w hwf, wrows_of_list cs ys s w]
    have h1 := hev w
    rw [hte] at h1
    have : wev cs ys w = (y0 : Rat) * ((D : Rat) * (sumTo N (fun j => e j * w j) + k)) - l0 := by
      linarith
    rw [this]
    simp only [s]
    field_simp
    ring)
  refine ⟨y, fun i => ?_, hcoef.1, ?_⟩
  · have : (0 : Rat) ≤ ((ys.getD i 0 : Int) : Rat) := by exact_mod_cast getD_nonneg ys hys i
    exact mul_nonneg this (le_of_lt hs)
  · rw [hcoef.2]
    have := mul_nonneg (le_of_lt hs) hl0
    linarith

/-- **the Farkas lemma for empty closed polyhedra holds** -/
theorem farkasInfeasible_holds : FarkasInfeasible := by
  intro N cs hwf hns hem
  obtain ⟨ys, hl, hys, K, hK, hsign⟩ := farkas_refutation N cs hwf hem
  have hK0 : K < 0 := by
    rcases hsign with h | h
    · exact h
    · rw [sw_nonstrict cs hns ys] at h; exact absurd h.2 (lt_irrefl _)
  let s : Rat := 1 / (-K)
  have hs : 0 < s := by
    have : 0 < -K := by linarith
    positivity
  let y : Val := fun i => ((ys.getD i 0 : Int) : Rat) * s
  have hcoef := affine_coeffs N (fun j => dot (col cs j) y) (fun _ => 0) (dot (consts cs) y) (-1) (by
    intro w
    rw [← wrows_exchange N cs y w hwf, wrows_of_list cs ys s w, hK w]
    have z : sumTo N (fun j => (fun _ => (0 : Rat)) j * w j) = 0 :=
      sumTo_eq_zero _ _ (fun i _ => by simp)
    rw [z]
    simp only [s]
    have hKne : K ≠ 0 := ne_of_lt hK0
    field_simp
    ring)
  refine ⟨y, fun i => ?_, hcoef.1, hcoef.2⟩
  have : (0 : Rat) ≤ ((ys.getD i 0 : Int) : Rat) := by exact_mod_cast getD_nonneg ys hys i
  exact mul_nonneg this (le_of_lt hs)

end PPLV.Term

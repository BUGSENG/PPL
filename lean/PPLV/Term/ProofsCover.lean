import PPLV.Term.ProofsGen
import PPLV.Term.ProofsSpace

/-! # C18 helper lemmas: when the generator hint covers the relation, every solution of
the finite system `rankCons` is a ranking function (the converse of `rankCons_of_ranking`) -/
namespace PPLV.Term
open PPLV.Lin

theorem wsum_add (f h : Gen → Rat) (gs : List Gen) (lam : Val) :
    wsum (fun g => f g + h g) gs lam = wsum f gs lam + wsum h gs lam := by
  induction gs generalizing lam with
  | nil => simp [wsum]
  | cons g gs ih => simp only [wsum, ih]; ring

/-- `μ`-linear forms of a combination of generators -/
theorem linAt_genSem (n N : Nat) (mu : Val) (off : Nat) (hoff : off + n ≤ N) (gs : List Gen) (lam w : Val)
    (hw : ∀ i < N, w i = wsum (fun g => g.coord i) gs lam) :
    linAt n mu off w = wsum (fun g => linAt n mu off g.coord) gs lam := by
  unfold linAt
  have h1 : sumTo n (fun i => mu i * w (off + i))
      = sumTo n (fun i => wsum (fun g => g.coord (off + i)) gs lam * mu i) := by
    apply sumTo_congr
    intro i hi
    rw [hw (off + i) (by omega)]; ring
  rw [h1, sumTo_wsum n mu (fun g i => g.coord (off + i)) gs lam]
  congr 1
  funext g
  apply sumTo_congr
  intro i _
  ring

theorem mem_expandLines (gs : List Gen) (g : Gen) (hg : g ∈ gs) :
    (g.kind ≠ .line → g ∈ expandLines gs) ∧
    (g.kind = .line → (⟨.ray, g.coords, 1⟩ : Gen) ∈ expandLines gs ∧
                       (⟨.ray, g.coords.map (- ·), 1⟩ : Gen) ∈ expandLines gs) := by
  unfold expandLines
  simp only [List.mem_flatMap]
  constructor
  · intro hk
    refine ⟨g, hg, ?_⟩
    have : (g.kind == GKind.line) = false := by simpa using hk
    simp [this]
  · intro hk
    have : (g.kind == GKind.line) = true := by simpa using hk
    exact ⟨⟨g, hg, by simp [this]⟩, ⟨g, hg, by simp [this]⟩⟩

theorem Sat_rankRows (n : Nat) (gs : List Gen) (mu : Val) (h : Sat (rankCons n gs) mu)
    (g : Gen) (hg : g ∈ gs) : Sat (rankRows n g) mu := by
  unfold rankCons at h
  exact (Sat_flatMap gs (rankRows n) mu).mp h g hg

theorem rankRows_ray (n : Nat) (c : List Int) (mu : Val)
    (h : Sat (rankRows n (⟨.ray, c, 1⟩ : Gen)) mu) :
    0 ≤ linAt n mu n (ratPoint c 1) ∧ 0 ≤ Spec.decrAt n mu (ratPoint c 1) := by
  have h1 := (sat_geRow _ _ _).mp (h (geRow (xPart n c) 0) List.mem_cons_self)
  have h2 := (sat_geRow _ _ _).mp
    (h (geRow (diffPart n c) 0) (List.mem_cons_of_mem _ List.mem_cons_self))
  rw [lin_row_ray] at h1
  rw [decr_row_gen n mu c 1 (by norm_num)] at h2
  exact ⟨by simpa using h1, by simpa using h2⟩

theorem linAt_point_neg (n : Nat) (mu : Val) (off : Nat) (c : List Int) (d : Int) :
    linAt n mu off (ratPoint (c.map (- ·)) d) = - linAt n mu off (ratPoint c d) := by
  unfold linAt
  rw [← neg_one_mul, ← sumTo_mul_left]
  apply sumTo_congr
  intro i _
  simp only [ratPoint, getD_map_neg]; push_cast; ring

theorem rankRows_point (n : Nat) (c : List Int) (d : Int) (hd : 0 < d) (mu : Val)
    (h : Sat (rankRows n (⟨.point, c, d⟩ : Gen)) mu) :
    0 ≤ Spec.valueAt n mu (ratPoint c d) ∧ 1 ≤ Spec.decrAt n mu (ratPoint c d) := by
  have hd' : (0 : Rat) < (d : Rat) := by exact_mod_cast hd
  have h1 := (sat_geRow _ _ _).mp (h (geRow (xPart n c ++ [d]) 0) List.mem_cons_self)
  have h2 := (sat_geRow _ _ _).mp
    (h (geRow (diffPart n c) (-d)) (List.mem_cons_of_mem _ List.mem_cons_self))
  rw [value_row_point n mu _ _ (ne_of_gt hd')] at h1
  rw [decr_row_gen n mu _ _ (ne_of_gt hd')] at h2
  constructor
  · exact (mul_nonneg_iff_of_pos_left hd').mp (by simpa using h1)
  · have : 0 ≤ (d : Rat) * (Spec.decrAt n mu (ratPoint c d) - 1) := by push_cast at h2; linarith
    linarith [(mul_nonneg_iff_of_pos_left hd').mp this]

/-- **Covering hint**: if every pair of the relation is a combination of the generators `gs`
    (no closure points), a solution of `rankCons` is a ranking function of the relation. -/
theorem rankCons_sound (n : Nat) (gs : List Gen) (hclosed : ∀ g ∈ gs, g.kind ≠ .cpoint)
    (hwf : gensWF (2*n) gs = true) (mu : Val) (h : Sat (rankCons n (expandLines gs)) mu)
    (w : Val) (hw : w ∈ GenSem (2*n) gs) :
    0 ≤ Spec.valueAt n mu w ∧ 1 ≤ Spec.decrAt n mu w := by
  obtain ⟨lam, hnn, hsum, -, hcoord⟩ := hw
  have hL0 := linAt_genSem n (2*n) mu 0 (by omega) gs lam w hcoord
  have hLn := linAt_genSem n (2*n) mu n (by omega) gs lam w hcoord
  -- value and decrease as weighted sums over the generators
  have hV : Spec.valueAt n mu w
      = wsum (fun g => mu n * (if g.isPtOrCp then 1 else 0) + linAt n mu n g.coord) gs lam := by
    rw [wsum_add, wsum_mul_left, hsum, ← hLn]; unfold Spec.valueAt; ring
  have hD : Spec.decrAt n mu w = wsum (fun g => Spec.decrAt n mu g.coord) gs lam := by
    unfold Spec.decrAt
    rw [wsum_sub, ← hLn, ← hL0]
  -- what the rows say about one generator
  have pt : ∀ c d, (⟨.point, c, d⟩ : Gen) ∈ gs →
      0 ≤ Spec.valueAt n mu (ratPoint c d) ∧ 1 ≤ Spec.decrAt n mu (ratPoint c d) := by
    intro c d hg
    unfold gensWF at hwf
    simp only [List.all_eq_true, Bool.and_eq_true, decide_eq_true_eq] at hwf
    exact rankRows_point n c d (hwf _ hg).2 mu
      (Sat_rankRows n _ mu h _ ((mem_expandLines gs _ hg).1 (by simp)))
  have ry : ∀ c d, (⟨.ray, c, d⟩ : Gen) ∈ gs →
      0 ≤ linAt n mu n (ratPoint c 1) ∧ 0 ≤ Spec.decrAt n mu (ratPoint c 1) :=
    fun c d hg => rankRows_ray n c mu
      (Sat_rankRows n _ mu h ⟨.ray, c, d⟩ ((mem_expandLines gs _ hg).1 (by simp)))
  have ln : ∀ c d, (⟨.line, c, d⟩ : Gen) ∈ gs →
      linAt n mu n (ratPoint c 1) = 0 ∧ Spec.decrAt n mu (ratPoint c 1) = 0 := by
    intro c d hg
    obtain ⟨m1, m2⟩ := (mem_expandLines gs _ hg).2 rfl
    obtain ⟨a1, a2⟩ := rankRows_ray n c mu (Sat_rankRows n _ mu h _ m1)
    obtain ⟨b1, b2⟩ := rankRows_ray n (c.map (- ·)) mu (Sat_rankRows n _ mu h _ m2)
    unfold Spec.decrAt at a2 b2 ⊢
    rw [linAt_point_neg] at b1 b2
    rw [linAt_point_neg] at b2
    exact ⟨le_antisymm (by linarith) a1, le_antisymm (by linarith) a2⟩
  constructor
  · rw [hV]
    apply wsum_ge_of_gens _ 0 gs lam hnn hsum
    intro k c d hg
    cases k with
    | point =>
      show 0 ≤ mu n * 1 + linAt n mu n (ratPoint c d)
      have := (pt c d hg).1
      unfold Spec.valueAt at this
      linarith
    | ray =>
      show 0 ≤ mu n * 0 + linAt n mu n (ratPoint c 1)
      linarith [(ry c d hg).1]
    | line =>
      show mu n * 0 + linAt n mu n (ratPoint c 1) = 0
      rw [(ln c d hg).1]; ring
    | cpoint => exact absurd rfl (hclosed _ hg)
  · rw [hD]
    apply wsum_ge_of_gens _ 1 gs lam hnn hsum
    intro k c d hg
    cases k with
    | point => exact (pt c d hg).2
    | ray => exact (ry c d hg).2
    | line => exact (ln c d hg).2
    | cpoint => exact absurd rfl (hclosed _ hg)

theorem findPoint_sound (n : Nat) (cs : List Con) (c : List Int) (d : Int)
    (h : findPoint n cs = some (c, d)) : 0 < d ∧ Sat cs (ratPoint c d) := by
  unfold findPoint at h
  split at h
  · rename_i num den _
    split at h
    · rename_i hc
      cases h
      refine ⟨?_, certFeas_point cs c d hc⟩
      unfold certFeas at hc
      simp only [Bool.and_eq_true, decide_eq_true_eq] at hc
      exact hc.1
    · cases h
  · cases h

end PPLV.Term

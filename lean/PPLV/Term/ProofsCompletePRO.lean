import PPLV.Term.ProofsCompleteAux

/-! # C18 completeness of the original Podelski–Rybalchenko encoding: `fill_constraint_system_PR_original` (termination.cc:430)

`prOrigSystem_sound` (`ProofsPR.lean`) shows that every solution of the encoding yields a
function that decreases by `1` and is bounded from below on the relation.  Here the converse:
given the affine Farkas lemma (`FarkasImplied`, `FarkasInfeasible`: explicit hypotheses, proved in
`ProofsCompleteFarkas.lean`), every function `μ` with `Spec.isRankingGen` on a non-empty closed
relation is, up to a positive factor, synthesised from a solution of the encoding; on an empty
relation the encoding is satisfiable too.  Hence `termination_test_PR_original` answers `true`
exactly when a (general) affine ranking function exists. -/
namespace PPLV.Term
open PPLV.Lin

/-- **Completeness of the Podelski–Rybalchenko encoding, single-relation form**: on a non-empty
    closed relation every affine function that decreases by a positive amount and is bounded from
    below is, up to the positive factor `t = 1/δ`, the function `prOrigMu` synthesised from a
    solution of the encoding. -/
theorem pr_original_complete_of_farkas (hF : FarkasImplied) (n : Nat) (cs : List Con)
    (hwf : WF (2*n) cs) (hns : ∀ c ∈ cs, c.strict = false) (hne : ∃ w, Sat cs w) (mu : Val)
    (h : Spec.isRankingGen n (sem cs) mu) :
    ∃ (u : Val) (t : Rat), 0 < t ∧ Sat (prOrigSystem n cs) u ∧
      ∀ j < n, prOrigMu n cs u j = t * mu j := by
  obtain ⟨δ, β, hδ, hr⟩ := h
  have ht : 0 < 1 / δ := one_div_pos.mpr hδ
  have htδ : 1 / δ * δ = 1 := by field_simp
  -- the decrease: multipliers `λ_2`
  obtain ⟨y2, hy2, hc2, hk2⟩ := hF (2*n) cs hwf hns hne
    (splice n (fun j => -(1 / δ * mu j)) (fun j => 1 / δ * mu j)) (-1) (by
      intro w hw
      rw [sumTo_splice]
      have hd := (hr w hw).2
      have e1 : linAt n (fun j => -(1 / δ * mu j)) 0 w = -(1 / δ) * linAt n mu 0 w := by
        simp only [← neg_mul, linAt_smul]
      have e2 := linAt_smul n (1 / δ) mu n w
      rw [e1, e2]
      unfold Spec.decrAt at hd
      have := mul_le_mul_of_nonneg_left hd (le_of_lt ht)
      rw [htδ] at this
      linarith)
  -- the lower bound: multipliers `λ_1`
  obtain ⟨y1, hy1, hc1, -⟩ := hF (2*n) cs hwf hns hne
    (splice n (fun _ => 0) (fun j => 1 / δ * mu j)) (1 / δ * (mu n - β)) (by
      intro w hw
      rw [sumTo_splice]
      have hb := (hr w hw).1
      have e1 : linAt n (fun _ => (0 : Rat)) 0 w = 0 :=
        (sumTo_congr n _ (fun _ => 0) (fun i _ => by ring)).trans (sumTo_zero n)
      have e2 := linAt_smul n (1 / δ) mu n w
      rw [e1, e2]
      unfold Spec.valueAt at hb
      have := mul_nonneg (le_of_lt ht) (sub_nonneg.mpr hb)
      linarith)
  have c2p : ∀ j < n, dot (col cs j) y2 = -(1 / δ * mu j) := by
    intro j hj; rw [hc2 j (by omega), splice_lt _ _ _ _ hj]
  have c2u : ∀ j < n, dot (col cs (n + j)) y2 = 1 / δ * mu j := by
    intro j hj; rw [hc2 (n + j) (by omega), splice_add]
  have c1p : ∀ j < n, dot (col cs j) y1 = 0 := by
    intro j hj; rw [hc1 j (by omega), splice_lt _ _ _ _ hj]
  have c1u : ∀ j < n, dot (col cs (n + j)) y1 = 1 / δ * mu j := by
    intro j hj; rw [hc1 (n + j) (by omega), splice_add]
  have hl : ∀ j, dot (col cs j) (splice cs.length y1 y2) = dot (col cs j) y1 :=
    fun j => dot_splice_left _ _ _ _ (by rw [length_col])
  refine ⟨splice cs.length y1 y2, 1 / δ, ht, ?_, ?_⟩
  · rw [Sat_prOrigSystem_iff, splice_shift]
    refine ⟨fun i _ => splice_nonneg _ _ _ hy1 hy2 i, ?_, ?_, ?_, hk2⟩
    · intro j hj; rw [hl, c1p j hj]
    · intro j hj; rw [hl, c1u j hj, c2u j hj]
    · intro j hj; rw [c2p j hj, c2u j hj]; ring
  · intro j hj
    rw [prOrigMu_lt n cs _ j hj, splice_shift, c2p j hj]; ring

/-- non-vacuity: `x − x' ≥ 1 ∧ x ≥ 0` (`n = 1`), `μ(x) = x` -/
example : ∃ (n : Nat) (cs : List Con) (mu : Val), WF (2*n) cs ∧ (∀ c ∈ cs, c.strict = false) ∧
    (∃ w, Sat cs w) ∧ Spec.isRankingGen n (sem cs) mu := by
  refine ⟨1, [⟨[-1, 1], -1, false⟩, ⟨[0, 1], 0, false⟩], fun j => if j = 0 then 1 else 0, ?_, ?_,
    ⟨fun j => if j = 0 then 0 else 1, ?_⟩, 1, 0, one_pos, ?_⟩
  · intro c hc; simp at hc; rcases hc with rfl | rfl <;> simp
  · intro c hc; simp at hc; rcases hc with rfl | rfl <;> rfl
  · intro c hc; simp at hc
    rcases hc with rfl | rfl <;> simp [Con.sat, Con.eval, Val.tail]
  · intro w hw
    have h1 := hw ⟨[-1, 1], -1, false⟩ (by simp)
    have h2 := hw ⟨[0, 1], 0, false⟩ (by simp)
    simp [Con.sat, Con.eval, Val.tail] at h1 h2
    simp [Spec.valueAt, Spec.decrAt, linAt, sumTo]
    constructor <;> linarith

/-- **the empty relation**: the encoding is satisfiable (`λ_1 = λ_2` = the infeasibility
    multipliers), so `termination_test_PR_original` answers `true` through the encoding. -/
theorem pr_original_complete_empty_of_farkas (hE : FarkasInfeasible) (n : Nat) (cs : List Con)
    (hwf : WF (2*n) cs) (hns : ∀ c ∈ cs, c.strict = false) (hem : ¬ ∃ w, Sat cs w) :
    ∃ u, Sat (prOrigSystem n cs) u := by
  obtain ⟨y, hy, hc, hk⟩ := hE (2*n) cs hwf hns hem
  have hl : ∀ j, dot (col cs j) (splice cs.length y y) = dot (col cs j) y :=
    fun j => dot_splice_left _ _ _ _ (by rw [length_col])
  refine ⟨splice cs.length y y, ?_⟩
  rw [Sat_prOrigSystem_iff, splice_shift]
  refine ⟨fun i _ => splice_nonneg _ _ _ hy hy i, ?_, ?_, ?_, le_of_eq hk⟩
  · intro j hj; rw [hl, hc j (by omega)]
  · intro j hj; rw [hl]
  · intro j hj; rw [hc j (by omega), hc (n + j) (by omega)]; ring

/-- non-vacuity: `x' = x ∧ x ≥ 1 ∧ x ≤ 0` (`n = 1`) is closed, well-formed and empty -/
example : ∃ (n : Nat) (cs : List Con), WF (2*n) cs ∧ (∀ c ∈ cs, c.strict = false) ∧
    ¬ ∃ w, Sat cs w := by
  refine ⟨1, [⟨[0, 1], -1, false⟩, ⟨[0, -1], 0, false⟩], ?_, ?_, ?_⟩
  · intro c hc; simp at hc; rcases hc with rfl | rfl <;> simp
  · intro c hc; simp at hc; rcases hc with rfl | rfl <;> rfl
  · rintro ⟨w, hw⟩
    have h1 := hw ⟨[0, 1], -1, false⟩ (by simp)
    have h2 := hw ⟨[0, -1], 0, false⟩ (by simp)
    simp [Con.sat, Con.eval, Val.tail] at h1 h2
    linarith

theorem prOrigSystem_wf (n : Nat) (cs : List Con) : WF (prOrigDim cs) (prOrigSystem n cs) := by
  unfold prOrigSystem fillPROrig prOrigDim
  simp only
  rw [WF_append_iff, WF_append_iff, WF_append_iff, WF_append_iff]
  refine ⟨⟨⟨⟨WF_nonnegRows _ _ _ (by omega), ?_⟩, ?_⟩, ?_⟩, ?_⟩
  · exact WF_flatMap _ _ _ (fun j _ => WF_eqRows _ _ _ (by rw [length_col]; omega))
  · exact WF_flatMap _ _ _ (fun j _ => WF_eqRows _ _ _ (by
      rw [List.length_append, List.length_map, length_col]; omega))
  · exact WF_flatMap _ _ _ (fun j _ => WF_eqRows _ _ _ (by
      rw [List.length_append, List.length_replicate,
        length_lincomb _ _ _ _ (by rw [length_col, length_col]), length_col]; omega))
  · apply WF_singleton
    simp [geRow, length_consts]; omega

/-- **`termination_test_PR_original` decides the existence of a general affine ranking function**
    of a closed relation (given the Farkas lemma): the satisfiability problem it hands to the
    MIP solver is feasible iff some `μ` is bounded from below and decreases by a fixed positive
    amount on every pair of the relation. -/
theorem termination_test_PR_original_iff_of_farkas (hF : FarkasImplied) (hE : FarkasInfeasible)
    (n : Nat) (cs : List Con) (hwf : WF (2*n) cs) (hns : ∀ c ∈ cs, c.strict = false) :
    feasible (prOrigDim cs) (prOrigSystem n cs) = true ↔ ∃ mu, Spec.isRankingGen n (sem cs) mu := by
  rw [feasible_iff _ _ (prOrigSystem_wf n cs)]
  constructor
  · rintro ⟨u, hu⟩
    exact ⟨prOrigMu n cs u, 1, _, one_pos, prOrigSystem_sound n cs hwf u hu⟩
  · rintro ⟨mu, hmu⟩
    by_cases hne : ∃ w, Sat cs w
    · obtain ⟨u, _, _, hu, _⟩ := pr_original_complete_of_farkas hF n cs hwf hns hne mu hmu
      exact ⟨u, hu⟩
    · exact pr_original_complete_empty_of_farkas hE n cs hwf hns hne

end PPLV.Term

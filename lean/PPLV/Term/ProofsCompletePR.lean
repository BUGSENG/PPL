import PPLV.Term.ProofsCompleteAux

/-! # C18 completeness of the Podelski–Rybalchenko encoding: `fill_constraint_system_PR` (before/after form, termination.cc:347)

The encoding bounds the synthesised function from below with the rows of `cs_before` only
(`μ = u_1·B`), so it characterises exactly the affine functions that are bounded from below on
the **guard** `sem csB` (not merely on the states from which a transition exists) and decrease by
a fixed positive amount on the relation `pairRel n csB csA`: `Spec.isRankingGuard`.  This is the
documented incompleteness KF-C18-1 with respect to `Spec.isRankingGen`.  `FarkasImplied` /
`FarkasInfeasible` are explicit hypotheses (proved in `ProofsCompleteFarkas.lean`). -/
namespace PPLV.Term
open PPLV.Lin

/-- **Soundness with respect to the guard**: the function synthesised from a solution decreases
    by at least `1` on the relation and is bounded from below by `−u_1·d_B` on every state of
    `cs_before` (strengthening of `prSystem_sound`, whose bound is stated on the relation only). -/
theorem prSystem_sound_guard (n : Nat) (csB csA : List Con) (hB : WF n csB) (hA : WF (2*n) csA)
    (u : Val) (hs : Sat (prSystem n csB csA) u) :
    Spec.isRankingGuard n (fun x => Sat csB x) (fun w => Sat (pairRel n csB csA) w)
      (prMu n csA u) := by
  refine ⟨1, - dot (consts csB) (fun i => u (i + csB.length + csA.length)), one_pos, ?_, ?_⟩
  · obtain ⟨hnn, h1, h2, -⟩ := (Sat_prSystem_iff n csB csA u).mp hs
    intro x hx
    have p := comb_nonneg n csB hB (fun i => u (i + csB.length + csA.length)) x
      (fun i hi => hnn (i + csB.length + csA.length) (by omega)) hx
    have s : sumTo n (fun j => dot (col csB j) (fun i => u (i + csB.length + csA.length)) * x j)
        = linAt n (prMu n csA u) 0 x := by
      unfold linAt
      apply sumTo_congr
      intro j hj
      rw [prMu_lt n csA u j hj, Nat.zero_add]
      have a := h1 j hj
      have b := h2 j hj
      have e : dot (col csB j) (fun i => u (i + csB.length + csA.length)) = - dot (col csA j) u := by
        linarith
      rw [e]
    unfold Spec.valueOn
    rw [prMu_n, ← s]
    linarith
  · intro w hw
    exact (prSystem_sound n csB csA hB hA u hs w hw).2

/-- **Completeness of the Podelski–Rybalchenko encoding, before/after form**: on a non-empty
    closed relation every affine function that is bounded from below on the guard and decreases
    by a positive amount on the relation is, up to the positive factor `t = 1/δ`, the function
    `prMu` synthesised from a solution of the encoding. -/
theorem pr_complete_of_farkas (hF : FarkasImplied) (n : Nat) (csB csA : List Con)
    (hB : WF n csB) (hA : WF (2*n) csA) (hnsB : ∀ c ∈ csB, c.strict = false)
    (hnsA : ∀ c ∈ csA, c.strict = false) (hne : ∃ w, Sat (pairRel n csB csA) w) (mu : Val)
    (h : Spec.isRankingGuard n (fun x => Sat csB x) (fun w => Sat (pairRel n csB csA) w) mu) :
    ∃ (u : Val) (t : Rat), 0 < t ∧ Sat (prSystem n csB csA) u ∧
      ∀ j < n, prMu n csA u j = t * mu j := by
  obtain ⟨δ, β, hδ, hb, hd⟩ := h
  have ht : 0 < 1 / δ := one_div_pos.mpr hδ
  have htδ : 1 / δ * δ = 1 := by field_simp
  -- the decrease on the relation: multipliers `(u_3, u_2)`
  obtain ⟨y, hy, hc, hk⟩ := hF (2*n) (pairRel n csB csA) (pairRel_wf n csB csA hB hA)
    (pairRel_nonstrict n csB csA hnsB hnsA) hne
    (splice n (fun j => -(1 / δ * mu j)) (fun j => 1 / δ * mu j)) (-1) (by
      intro w hw
      rw [sumTo_splice]
      have hd' := hd w hw
      have e1 : linAt n (fun j => -(1 / δ * mu j)) 0 w = -(1 / δ) * linAt n mu 0 w := by
        simp only [← neg_mul, linAt_smul]
      have e2 := linAt_smul n (1 / δ) mu n w
      rw [e1, e2]
      unfold Spec.decrAt at hd'
      have := mul_le_mul_of_nonneg_left hd' (le_of_lt ht)
      rw [htδ] at this
      linarith)
  -- the lower bound on the guard: multipliers `u_1`
  have hneB : ∃ x, Sat csB x := by
    obtain ⟨w, hw⟩ := hne
    exact ⟨_, ((Sat_pairRel n csB csA w).mp hw).2⟩
  obtain ⟨y1, hy1, hc1, -⟩ := hF n csB hB hnsB hneB (fun j => 1 / δ * mu j)
    (1 / δ * (mu n - β)) (by
      intro x hx
      have hb' := hb x hx
      unfold Spec.valueOn linAt at hb'
      have e : sumTo n (fun j => 1 / δ * mu j * x j)
          = 1 / δ * sumTo n (fun i => mu i * x (0 + i)) := by
        rw [← sumTo_mul_left]; apply sumTo_congr; intro i _; rw [Nat.zero_add]; ring
      rw [e]
      have := mul_nonneg (le_of_lt ht) (sub_nonneg.mpr hb')
      linarith)
  -- reading the columns of the relation
  have cp : ∀ j < n, dot (col csA j) y = -(1 / δ * mu j) := by
    intro j hj
    rw [← dot_col_pairRel_lt n csB csA j hj, hc j (by omega), splice_lt _ _ _ _ hj]
  have cu : ∀ j < n, dot (col csA (n + j)) y + dot (col csB j) (fun i => y (i + csA.length))
      = 1 / δ * mu j := by
    intro j hj
    rw [← dot_col_pairRel_add, hc (n + j) (by omega), splice_add]
  rw [dot_consts_pairRel] at hk
  -- the solution
  have hlA : ∀ as : List Int, as.length = csA.length →
      dot as (splice (csA.length + csB.length) y y1) = dot as y :=
    fun as h => dot_splice_left _ _ _ _ (by omega)
  have hlB : ∀ as : List Int, as.length = csB.length →
      dot as (fun i => splice (csA.length + csB.length) y y1 (i + csA.length))
        = dot as (fun i => y (i + csA.length)) :=
    fun as h => dot_agree as _ _ (fun i hi => splice_lt _ _ _ _ (by omega))
  have hs1 : (fun i => splice (csA.length + csB.length) y y1 (i + csB.length + csA.length)) = y1 := by
    funext i
    have : i + csB.length + csA.length = (csA.length + csB.length) + i := by omega
    rw [this, splice_add]
  refine ⟨splice (csA.length + csB.length) y y1, 1 / δ, ht, ?_, ?_⟩
  · rw [Sat_prSystem_iff, hs1]
    refine ⟨fun i _ => splice_nonneg _ _ _ hy hy1 i, ?_, ?_, ?_⟩
    · intro j hj
      rw [hlA _ (length_col _ _), hlB _ (length_col _ _), cu j hj, hc1 j hj]
    · intro j hj
      rw [hlA _ (length_col _ _), hlA _ (length_col _ _), hlB _ (length_col _ _)]
      have a := cp j hj
      have b := cu j hj
      linarith
    · rw [hlA _ (length_consts _), hlB _ (length_consts _)]
      exact hk
  · intro j hj
    rw [prMu_lt n csA _ j hj, hlA _ (length_col _ _), cp j hj]; ring

/-- non-vacuity: guard `x ≥ 0`, update `x' ≤ x − 1` (`n = 1`), `μ(x) = x` -/
example : ∃ (n : Nat) (csB csA : List Con) (mu : Val), WF n csB ∧ WF (2*n) csA ∧
    (∀ c ∈ csB, c.strict = false) ∧ (∀ c ∈ csA, c.strict = false) ∧
    (∃ w, Sat (pairRel n csB csA) w) ∧
    Spec.isRankingGuard n (fun x => Sat csB x) (fun w => Sat (pairRel n csB csA) w) mu := by
  refine ⟨1, [⟨[1], 0, false⟩], [⟨[-1, 1], -1, false⟩], fun j => if j = 0 then 1 else 0, ?_, ?_,
    ?_, ?_, ⟨fun j => if j = 0 then 0 else 1, ?_⟩, 1, 0, one_pos, ?_, ?_⟩
  · intro c hc; simp at hc; subst hc; simp
  · intro c hc; simp at hc; subst hc; simp
  · intro c hc; simp at hc; subst hc; rfl
  · intro c hc; simp at hc; subst hc; rfl
  · intro c hc
    simp [pairRel, Con.shift] at hc
    rcases hc with rfl | rfl <;> simp [Con.sat, Con.eval, Val.tail]
  · intro x hx
    have h1 := hx ⟨[1], 0, false⟩ (by simp)
    simp [Con.sat, Con.eval] at h1
    simp [Spec.valueOn, linAt, sumTo]
    exact h1
  · intro w hw
    have h1 := hw ⟨[-1, 1], -1, false⟩ (by simp [pairRel])
    simp [Con.sat, Con.eval, Val.tail] at h1
    simp [Spec.decrAt, linAt, sumTo]
    linarith

/-- **the empty relation**: the encoding is satisfiable (`(u_3, u_2)` = the infeasibility
    multipliers of the relation, `u_1 = 0`). -/
theorem pr_complete_empty_of_farkas (hE : FarkasInfeasible) (n : Nat) (csB csA : List Con)
    (hB : WF n csB) (hA : WF (2*n) csA) (hnsB : ∀ c ∈ csB, c.strict = false)
    (hnsA : ∀ c ∈ csA, c.strict = false) (hem : ¬ ∃ w, Sat (pairRel n csB csA) w) :
    ∃ u, Sat (prSystem n csB csA) u := by
  obtain ⟨y, hy, hc, hk⟩ := hE (2*n) (pairRel n csB csA) (pairRel_wf n csB csA hB hA)
    (pairRel_nonstrict n csB csA hnsB hnsA) hem
  have cp : ∀ j < n, dot (col csA j) y = 0 := by
    intro j hj
    rw [← dot_col_pairRel_lt n csB csA j hj, hc j (by omega)]
  have cu : ∀ j < n, dot (col csA (n + j)) y + dot (col csB j) (fun i => y (i + csA.length)) = 0 := by
    intro j hj
    rw [← dot_col_pairRel_add, hc (n + j) (by omega)]
  rw [dot_consts_pairRel] at hk
  have hlA : ∀ as : List Int, as.length = csA.length →
      dot as (splice (csA.length + csB.length) y (fun _ => 0)) = dot as y :=
    fun as h => dot_splice_left _ _ _ _ (by omega)
  have hlB : ∀ as : List Int, as.length = csB.length →
      dot as (fun i => splice (csA.length + csB.length) y (fun _ => 0) (i + csA.length))
        = dot as (fun i => y (i + csA.length)) :=
    fun as h => dot_agree as _ _ (fun i hi => splice_lt _ _ _ _ (by omega))
  have hs1 : (fun i => splice (csA.length + csB.length) y (fun _ => 0)
      (i + csB.length + csA.length)) = Val.zero := by
    funext i
    have : i + csB.length + csA.length = (csA.length + csB.length) + i := by omega
    rw [this, splice_add]; rfl
  refine ⟨splice (csA.length + csB.length) y (fun _ => 0), ?_⟩
  rw [Sat_prSystem_iff, hs1]
  refine ⟨fun i _ => splice_nonneg _ _ _ hy (fun _ => le_refl _) i, ?_, ?_, ?_⟩
  · intro j hj
    rw [hlA _ (length_col _ _), hlB _ (length_col _ _), cu j hj, dot_zero]
  · intro j hj
    rw [hlA _ (length_col _ _), hlA _ (length_col _ _), hlB _ (length_col _ _)]
    have a := cp j hj
    have b := cu j hj
    linarith
  · rw [hlA _ (length_consts _), hlB _ (length_consts _)]
    exact le_of_eq hk

/-- non-vacuity: guard `x ≤ 0`, update `x' = x ∧ x ≥ 1` is an empty closed relation (`n = 1`) -/
example : ∃ (n : Nat) (csB csA : List Con), WF n csB ∧ WF (2*n) csA ∧
    (∀ c ∈ csB, c.strict = false) ∧ (∀ c ∈ csA, c.strict = false) ∧
    ¬ ∃ w, Sat (pairRel n csB csA) w := by
  refine ⟨1, [⟨[-1], 0, false⟩], [⟨[0, 1], -1, false⟩], ?_, ?_, ?_, ?_, ?_⟩
  · intro c hc; simp at hc; subst hc; simp
  · intro c hc; simp at hc; subst hc; simp
  · intro c hc; simp at hc; subst hc; rfl
  · intro c hc; simp at hc; subst hc; rfl
  · rintro ⟨w, hw⟩
    have h1 := hw ⟨[0, 1], -1, false⟩ (by simp [pairRel])
    have h2 := hw ⟨[0, -1], 0, false⟩ (by simp [pairRel, Con.shift])
    simp [Con.sat, Con.eval, Val.tail] at h1 h2
    linarith

theorem prSystem_wf (n : Nat) (csB csA : List Con) : WF (prDim csB csA) (prSystem n csB csA) := by
  unfold prSystem fillPR prDim
  simp only
  rw [WF_append_iff, WF_append_iff, WF_append_iff]
  refine ⟨⟨⟨WF_nonnegRows _ _ _ (by omega), ?_⟩, ?_⟩, ?_⟩
  · exact WF_flatMap _ _ _ (fun j _ => WF_eqRows _ _ _ (by
      simp only [List.length_append, List.length_map, length_col]; omega))
  · exact WF_flatMap _ _ _ (fun j _ => WF_eqRows _ _ _ (by
      rw [List.length_append, length_lincomb _ _ _ _ (by rw [length_col, length_col]),
        length_col, length_col]; omega))
  · apply WF_singleton
    simp [geRow, length_consts]; omega

/-- **`termination_test_PR(cs_before, cs_after)` decides `Spec.isRankingGuard`** for closed
    operands (given the Farkas lemma): the satisfiability problem is feasible iff some affine `μ`
    is bounded from below on the guard and decreases by a fixed positive amount on the relation. -/
theorem termination_test_PR_iff_of_farkas (hF : FarkasImplied) (hE : FarkasInfeasible)
    (n : Nat) (csB csA : List Con) (hB : WF n csB) (hA : WF (2*n) csA)
    (hnsB : ∀ c ∈ csB, c.strict = false) (hnsA : ∀ c ∈ csA, c.strict = false) :
    feasible (prDim csB csA) (prSystem n csB csA) = true ↔
      ∃ mu, Spec.isRankingGuard n (fun x => Sat csB x) (fun w => Sat (pairRel n csB csA) w) mu := by
  rw [feasible_iff _ _ (prSystem_wf n csB csA)]
  constructor
  · rintro ⟨u, hu⟩
    exact ⟨prMu n csA u, prSystem_sound_guard n csB csA hB hA u hu⟩
  · rintro ⟨mu, hmu⟩
    by_cases hne : ∃ w, Sat (pairRel n csB csA) w
    · obtain ⟨u, _, _, hu, _⟩ := pr_complete_of_farkas hF n csB csA hB hA hnsB hnsA hne mu hmu
      exact ⟨u, hu⟩
    · exact pr_complete_empty_of_farkas hE n csB csA hB hA hnsB hnsA hne

end PPLV.Term

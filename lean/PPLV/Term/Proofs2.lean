import PPLV.Term.Proofs

/-! # C18 helper lemmas: the supremum-based checker of the general form -/
namespace PPLV.Term
open PPLV.Lin

theorem neg_obj (e : List Int) (k : Int) (x : Val) :
    dot (e.map (- ·)) x + (((-k : Int)) : Rat) = - (dot e x + (k : Rat)) := by
  rw [dot_map_neg]; push_cast; ring

/-- the two supremum tests with `supFM` for `supB` (`supB_eq_supFM`): the forms to evaluate on
    closed terms -/
theorem lowerBoundedB_eq (N : Nat) (R : List Con) (e : List Int) (k : Int) :
    lowerBoundedB N R e k = match supFM N (e.map (- ·)) (-k) R with
      | .unbounded => false
      | _ => true := by
  rw [lowerBoundedB, supB_eq_supFM]; cases supFM N (e.map (- ·)) (-k) R <;> rfl

theorem posBoundedB_eq (N : Nat) (R : List Con) (e : List Int) (k : Int) :
    posBoundedB N R e k = match supFM N (e.map (- ·)) (-k) R with
      | .empty => true
      | .unbounded => false
      | .val p _ _ => decide (p < 0) := by
  rw [posBoundedB, supB_eq_supFM]; cases supFM N (e.map (- ·)) (-k) R <;> rfl

theorem lowerBoundedB_iff (N : Nat) (R : List Con) (e : List Int) (k : Int) (hwf : WF N R)
    (he : e.length ≤ N) :
    lowerBoundedB N R e k = true ↔ ∃ β : Rat, ∀ w ∈ sem R, β ≤ dot e w + (k : Rat) := by
  have hs := supB_spec N (e.map (- ·)) (-k) R hwf (by simpa using he)
  unfold lowerBoundedB
  generalize supB N (e.map (- ·)) (-k) R = r at hs ⊢
  cases r with
  | empty =>
    simp only at hs
    refine ⟨fun _ => ⟨0, fun w hw => ?_⟩, fun _ => rfl⟩
    rw [hs] at hw; exact absurd hw (Set.notMem_empty w)
  | unbounded =>
    simp only at hs
    refine ⟨fun h => (by cases h), ?_⟩
    rintro ⟨β, hβ⟩
    obtain ⟨x, hx, hM⟩ := hs.2 (-β)
    rw [neg_obj] at hM
    have := hβ x hx
    linarith
  | val p q att =>
    simp only at hs
    refine ⟨fun _ => ⟨-((p:Rat)/q), fun w hw => ?_⟩, fun _ => rfl⟩
    have := hs.2.1 w hw
    rw [neg_obj] at this
    linarith

theorem posBoundedB_iff (N : Nat) (R : List Con) (e : List Int) (k : Int) (hwf : WF N R)
    (he : e.length ≤ N) :
    posBoundedB N R e k = true ↔ ∃ δ : Rat, 0 < δ ∧ ∀ w ∈ sem R, δ ≤ dot e w + (k : Rat) := by
  have hs := supB_spec N (e.map (- ·)) (-k) R hwf (by simpa using he)
  unfold posBoundedB
  generalize supB N (e.map (- ·)) (-k) R = r at hs ⊢
  cases r with
  | empty =>
    simp only at hs
    refine ⟨fun _ => ⟨1, one_pos, fun w hw => ?_⟩, fun _ => rfl⟩
    rw [hs] at hw; exact absurd hw (Set.notMem_empty w)
  | unbounded =>
    simp only at hs
    refine ⟨fun h => (by cases h), ?_⟩
    rintro ⟨δ, hδ, hb⟩
    obtain ⟨x, hx, hM⟩ := hs.2 0
    rw [neg_obj] at hM
    have := hb x hx
    linarith
  | val p q att =>
    simp only at hs
    obtain ⟨hq, hle, hatt, hnatt⟩ := hs
    have hq' : (0 : Rat) < (q : Rat) := by exact_mod_cast hq
    simp only [decide_eq_true_eq]
    constructor
    · intro hp
      have hp' : (p : Rat) < 0 := by exact_mod_cast hp
      have hneg : (p : Rat) / q < 0 := div_neg_of_neg_of_pos hp' hq'
      refine ⟨-((p:Rat)/q), by linarith, fun w hw => ?_⟩
      have := hle w hw
      rw [neg_obj] at this
      linarith
    · rintro ⟨δ, hδ, hb⟩
      have hneg : (p : Rat) / q < 0 := by
        cases att with
        | true =>
          obtain ⟨x, hx, hxe⟩ := hatt rfl
          rw [neg_obj] at hxe
          have := hb x hx
          linarith
        | false =>
          obtain ⟨-, heps⟩ := hnatt rfl
          obtain ⟨x, hx, hxe⟩ := heps (δ / 2) (by linarith)
          rw [neg_obj] at hxe
          have := hb x hx
          linarith
      have : (p : Rat) < 0 := by
        by_contra hc
        have : 0 ≤ (p : Rat) / q := div_nonneg (not_lt.mp hc) (le_of_lt hq')
        linarith
      exact_mod_cast this

/-- **The general-form checker decides the general specification.** -/
theorem isRankingGenB_iff (n : Nat) (R : List Con) (c : List Int) (d : Int) (hwf : WF (2*n) R) :
    isRankingGenB n R c d = true ↔ 0 < d ∧ Spec.isRankingGen n (sem R) (ratPoint c d) := by
  unfold isRankingGenB
  rw [Bool.and_eq_true, Bool.and_eq_true, decide_eq_true_eq,
    lowerBoundedB_iff (2*n) R _ _ hwf (valueRow_len n c),
    posBoundedB_iff (2*n) R _ _ hwf (decrRow_len n c 0)]
  constructor
  · rintro ⟨⟨hd, β, hβ⟩, δ, hδ, hb⟩
    have hd' : (0 : Rat) < (d : Rat) := by exact_mod_cast hd
    refine ⟨hd, δ / d, β / d, div_pos hδ hd', fun w hw => ⟨?_, ?_⟩⟩
    · have := hβ w hw
      have e1 := valueRow_eval_ratPoint n c d (ne_of_gt hd') w
      unfold Con.eval at e1
      rw [e1] at this
      rw [div_le_iff₀ hd']; linarith
    · have := hb w hw
      have e2 := decrRow_eval_ratPoint n c d 0 (ne_of_gt hd') w
      unfold Con.eval at e2
      simp only [decrRow, Int.cast_zero, neg_zero, add_zero, sub_zero] at e2 this
      rw [e2] at this
      rw [div_le_iff₀ hd']; linarith
  · rintro ⟨hd, δ, β, hδ, h⟩
    have hd' : (0 : Rat) < (d : Rat) := by exact_mod_cast hd
    refine ⟨⟨hd, β * d, fun w hw => ?_⟩, δ * d, mul_pos hδ hd', fun w hw => ?_⟩
    · have := (h w hw).1
      have e1 := valueRow_eval_ratPoint n c d (ne_of_gt hd') w
      unfold Con.eval at e1
      rw [e1]
      nlinarith
    · have := (h w hw).2
      have e2 := decrRow_eval_ratPoint n c d 0 (ne_of_gt hd') w
      unfold Con.eval at e2
      simp only [decrRow, Int.cast_zero, neg_zero, add_zero, sub_zero] at e2 ⊢
      rw [e2]
      nlinarith

end PPLV.Term

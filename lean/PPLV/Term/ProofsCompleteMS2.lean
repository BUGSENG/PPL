import PPLV.Term.ProofsCompleteMS

/-! # C18 completeness of the Mesnard–Serebrenik encoding: the single system, the empty
relation, the projected space, the decision

* `ms_complete_of_farkas`: `termination_test_MS` / `one_affine_ranking_function_MS` on a non-empty
  closed relation: every ranking function (normal form) extends to a solution of the single system.
* `ms_complete_empty_of_farkas`: on an empty relation the system is satisfiable too (`μ = 0`,
  `y` = the infeasibility multipliers, `z = 0`): the real `termination_test_MS(cs)` has no
  emptiness test on that path and answers `true` through the encoding.
* `ms_space_exact_of_farkas`: `all_affine_ranking_functions_MS` (termination.cc:513-556): the
  intersection of the two projected solution spaces is exactly the set of ranking functions.
* `termination_test_MS_iff_of_farkas`: the satisfiability test decides existence.

`FarkasImplied` / `FarkasInfeasible` are explicit hypotheses (proved in
`ProofsCompleteFarkas.lean`). -/
namespace PPLV.Term
open PPLV.Lin

/-! ### the single system -/

/-- **completeness of `termination_test_MS` / `one_affine_ranking_function_MS`** on a non-empty
    closed relation: every ranking function in normal form is the `μ`-part of a solution -/
theorem ms_complete_of_farkas (hF : FarkasImplied) (n : Nat) (cs : List Con) (hwf : WF (2*n) cs)
    (hns : ∀ c ∈ cs, c.strict = false) (hne : ∃ w, Sat cs w) (mu : Val)
    (h : Spec.isRanking n (sem cs) mu) :
    ∃ sol, Sat (msSystem n cs) sol ∧ ∀ j ≤ n, sol j = mu j := by
  obtain ⟨y, _, hy⟩ := fillMS1_complete hF n cs hwf hns hne mu (fun w hw => (h w hw).2)
  obtain ⟨z, _, hz⟩ := fillMS2_complete hF n cs hwf hns hne mu (fun w hw => (h w hw).1)
  let sol : Val := fun j =>
    if j ≤ n then mu j else if j < n + 1 + cs.length then y (j - (n + 1))
    else z (j - (n + 1 + cs.length))
  have hlo : ∀ j ≤ n, sol j = mu j := fun j hj => by simp only [sol, hj, if_true]
  refine ⟨sol, ?_, hlo⟩
  unfold msSystem
  rw [Sat_append]
  refine ⟨hy (n + 1) sol (by omega) (fun j hj => hlo j (by omega)) (fun i hi => ?_),
    hz (n + 1 + cs.length) sol (by omega) hlo (fun i hi => ?_)⟩
  · have h1 : ¬ (n + 1 + i ≤ n) := by omega
    have h2 : n + 1 + i < n + 1 + cs.length := by omega
    simp only [sol, h1, h2, if_true, if_false, Nat.add_sub_cancel_left]
  · have h1 : ¬ (n + 1 + cs.length + i ≤ n) := by omega
    have h2 : ¬ (n + 1 + cs.length + i < n + 1 + cs.length) := by omega
    simp only [sol, h1, h2, if_false, Nat.add_sub_cancel_left]

/-- **the empty relation**: the single system is satisfiable (`μ = 0`, `y` = multipliers of the
    contradiction `−1 ≥ 0`, `z = 0`); this is the path the real `termination_test_MS` takes, it
    does not test the relation for emptiness -/
theorem ms_complete_empty_of_farkas (hE : FarkasInfeasible) (n : Nat) (cs : List Con)
    (hwf : WF (2*n) cs) (hns : ∀ c ∈ cs, c.strict = false) (hem : ¬ ∃ w, Sat cs w) :
    ∃ sol, Sat (msSystem n cs) sol := by
  obtain ⟨y, hy0, hycol, hyk⟩ := hE (2*n) cs hwf hns hem
  let sol : Val := fun j =>
    if j ≤ n then 0 else if j < n + 1 + cs.length then y (j - (n + 1)) else 0
  have hlo : ∀ j ≤ n, sol j = 0 := fun j hj => by simp only [sol, hj, if_true]
  refine ⟨sol, ?_⟩
  unfold msSystem
  rw [Sat_append]
  constructor
  · refine fillMS1_of n cs (n + 1) (by omega) sol y (fun i hi => ?_) (fun i _ => hy0 i)
      (le_of_eq hyk) (fun j hj => ?_) (fun j hj => ?_)
    · have h1 : ¬ (n + 1 + i ≤ n) := by omega
      have h2 : n + 1 + i < n + 1 + cs.length := by omega
      simp only [sol, h1, h2, if_true, if_false, Nat.add_sub_cancel_left]
    · rw [hycol (n + j) (by omega), hlo j (by omega)]
    · rw [hycol j (by omega), hlo j (by omega)]; ring
  · refine fillMS2_of n cs (n + 1 + cs.length) (by omega) sol Val.zero (fun i hi => ?_)
      (fun i _ => le_refl _) ?_ (fun j hj => ?_) (fun j hj => dot_zero _) ?_
    · have h1 : ¬ (n + 1 + cs.length + i ≤ n) := by omega
      have h2 : ¬ (n + 1 + cs.length + i < n + 1 + cs.length) := by omega
      simp only [sol, h1, h2, if_false, Val.zero]
    · rw [dot_zero]; simp [Val.zero]
    · rw [dot_zero, hlo j (by omega)]
    · rw [hlo n (le_refl _)]; simp [Val.zero]

/-! ### the projected space (`all_affine_ranking_functions_MS`) -/

/-- **`all_affine_ranking_functions_MS` is exact** (termination.cc:513-556: `ph1` = `cs_out1`
    projected on the first `n` dimensions and embedded with `μ_0` free, `ph2` = `cs_out2` projected
    on `n+1` dimensions, `mu_space = ph1 ∩ ph2`): on a non-empty closed relation, `μ` is a ranking
    function (normal form) iff its first `n` coordinates extend to a solution of system 1 and its
    first `n+1` coordinates extend to a solution of system 2 -/
theorem ms_space_exact_of_farkas (hF : FarkasImplied) (n : Nat) (cs : List Con)
    (hwf : WF (2*n) cs) (hns : ∀ c ∈ cs, c.strict = false) (hne : ∃ w, Sat cs w) (mu : Val) :
    Spec.isRanking n (sem cs) mu ↔
      ((∃ s1, (∀ j < n, s1 j = mu j) ∧ Sat (fillMS1 n cs (n + 1)) s1) ∧
       (∃ s2, (∀ j ≤ n, s2 j = mu j) ∧ Sat (fillMS2 n cs (n + 1)) s2)) := by
  constructor
  · intro h
    obtain ⟨y, _, hy⟩ := fillMS1_complete hF n cs hwf hns hne mu (fun w hw => (h w hw).2)
    obtain ⟨z, _, hz⟩ := fillMS2_complete hF n cs hwf hns hne mu (fun w hw => (h w hw).1)
    constructor
    · let s1 : Val := fun j => if j ≤ n then mu j else y (j - (n + 1))
      have hlo : ∀ j ≤ n, s1 j = mu j := fun j hj => by simp only [s1, hj, if_true]
      refine ⟨s1, fun j hj => hlo j (by omega),
        hy (n + 1) s1 (by omega) (fun j hj => hlo j (by omega)) (fun i _ => ?_)⟩
      have h1 : ¬ (n + 1 + i ≤ n) := by omega
      simp only [s1, h1, if_false, Nat.add_sub_cancel_left]
    · let s2 : Val := fun j => if j ≤ n then mu j else z (j - (n + 1))
      have hlo : ∀ j ≤ n, s2 j = mu j := fun j hj => by simp only [s2, hj, if_true]
      refine ⟨s2, hlo, hz (n + 1) s2 (by omega) hlo (fun i _ => ?_)⟩
      have h1 : ¬ (n + 1 + i ≤ n) := by omega
      simp only [s2, h1, if_false, Nat.add_sub_cancel_left]
  · rintro ⟨⟨s1, h1, S1⟩, ⟨s2, h2, S2⟩⟩
    intro w hw
    constructor
    · rw [valueAt_congr n mu s2 w (fun j hj => (h2 j hj).symm)]
      exact fillMS2_sound n cs _ (by omega) hwf s2 S2 w hw
    · rw [decrAt_congr n mu s1 w (fun j hj => (h1 j hj).symm)]
      exact fillMS1_sound n cs _ (by omega) hwf s1 S1 w hw

/-! ### well-formedness of the single system -/

theorem length_headRow (N j : Nat) (hj : j < N) (a : Int) (tl : List Int) :
    (headRow N j a tl).length = N + tl.length := by
  simp [headRow, unitRow]; omega

theorem fillMS1_wf (n : Nat) (cs : List Con) (yb : Nat) (hyb : n ≤ yb) (N : Nat)
    (hN : yb + cs.length ≤ N) : WF N (fillMS1 n cs yb) := by
  unfold fillMS1
  refine WF_append _ _ _ (WF_append _ _ _ (WF_append _ _ _ (WF_nonnegRows N yb _ hN) (WF_singleton _ _ ?_))
    (WF_flatMap _ _ _ fun j hj => WF_eqRows _ _ _ ?_)) (WF_flatMap _ _ _ fun j hj => WF_eqRows _ _ _ ?_)
  · simp [geRow, length_consts]; omega
  · rw [length_headRow _ _ (by have := List.mem_range.mp hj; omega), length_col]; exact hN
  · rw [length_headRow _ _ (by have := List.mem_range.mp hj; omega), length_col]; exact hN

theorem fillMS2_wf (n : Nat) (cs : List Con) (zb : Nat) (hzb : n < zb) (N : Nat)
    (hN : zb + cs.length + 2 ≤ N) : WF N (fillMS2 n cs zb) := by
  unfold fillMS2
  simp only
  refine WF_append _ _ _ (WF_append _ _ _ (WF_append _ _ _ (WF_append _ _ _
    (WF_nonnegRows N zb _ (by omega)) (WF_singleton _ _ ?_))
    (WF_flatMap _ _ _ fun j hj => WF_eqRows _ _ _ ?_))
    (WF_flatMap _ _ _ fun j hj => WF_eqRows _ _ _ ?_)) (WF_eqRows _ _ _ ?_)
  · simp [geRow, length_consts]; omega
  · rw [length_headRow _ _ (by have := List.mem_range.mp hj; omega), length_col]; omega
  · simp [length_col]; omega
  · rw [length_headRow _ _ hzb]; simp; omega

/-- the single system lives in `n + 1 + 2m + 2` dimensions (`μ`, `y`, `z`) -/
theorem msSystem_wf (n : Nat) (cs : List Con) : WF (msDim n cs) (msSystem n cs) := by
  unfold msSystem msDim
  exact WF_append _ _ _ (fillMS1_wf n cs (n + 1) (by omega) _ (by omega))
    (fillMS2_wf n cs (n + 1 + cs.length) (by omega) _ (by omega))

/-! ### the decision -/

/-- **`termination_test_MS` decides the existence of an affine ranking function** (normal form) of
    a closed relation: the verified feasibility test of the single system answers `true` iff some
    `μ` is bounded from below by `0` and decreases by at least `1` on every pair.  (On an empty
    relation both sides are true.) -/
theorem termination_test_MS_iff_of_farkas (hF : FarkasImplied) (hE : FarkasInfeasible) (n : Nat)
    (cs : List Con) (hwf : WF (2*n) cs) (hns : ∀ c ∈ cs, c.strict = false) :
    feasible (msDim n cs) (msSystem n cs) = true ↔ ∃ mu, Spec.isRanking n (sem cs) mu := by
  rw [feasible_iff _ _ (msSystem_wf n cs)]
  constructor
  · rintro ⟨sol, hs⟩
    unfold msSystem at hs
    rw [Sat_append] at hs
    exact ⟨sol, fun w hw => ⟨fillMS2_sound n cs _ (by omega) hwf sol hs.2 w hw,
      fillMS1_sound n cs _ (by omega) hwf sol hs.1 w hw⟩⟩
  · rintro ⟨mu, h⟩
    by_cases hne : ∃ w, Sat cs w
    · obtain ⟨sol, hs, _⟩ := ms_complete_of_farkas hF n cs hwf hns hne mu h
      exact ⟨sol, hs⟩
    · exact ms_complete_empty_of_farkas hE n cs hwf hns hne

/-! ### non-vacuity -/

/-- `x' = x − 1`, `x ≥ 0` over the pair `(x', x)` -/
def decLoopC : List Con := eqRows [1, -1] 1 ++ [geRow [0, 1] 0]

/-- the hypotheses of the theorems above are satisfiable: well-formed, closed, non-empty
    (`(x', x) = (0, 1)`) -/
example : WF (2*1) decLoopC ∧ (∀ c ∈ decLoopC, c.strict = false) ∧ ∃ w, Sat decLoopC w :=
  ⟨(wfB_iff _ _).mp (by decide), by decide, certFeas_sound _ [0, 1] 1 (by decide +kernel)⟩

/-- … and so is the conclusion of `ms_complete_of_farkas` on that loop: `μ(x) = x` with
    `y = (0,1,0)`, `z = (0,0,1)`, `z_4 = z_5 = 0` -/
example : ∃ sol, Sat (msSystem 1 decLoopC) sol :=
  certFeas_sound _ [1, 0, 0, 1, 0, 0, 0, 1, 0, 0] 1 (by decide +kernel)

/-- the hypotheses of `ms_complete_empty_of_farkas`: `x ≥ 0 ∧ −x − 1 ≥ 0` is well-formed, closed,
    and the system of the empty relation is satisfiable with `μ = 0`, `y = (1,1)`, `z = 0` -/
example : WF (2*1) [geRow [0, 1] 0, geRow [0, -1] (-1)] ∧
    (∀ c ∈ [geRow [0, 1] 0, geRow [0, -1] (-1)], c.strict = false) ∧
    ∃ sol, Sat (msSystem 1 [geRow [0, 1] 0, geRow [0, -1] (-1)]) sol :=
  ⟨(wfB_iff _ _).mp (by decide), by decide,
    certFeas_sound _ [0, 0, 1, 1, 0, 0, 0, 0] 1 (by decide +kernel)⟩

end PPLV.Term

import PPLV.Term.ProofsSpace

/-! # C18 helper lemmas: the NNC space returned by the Podelski–Rybalchenko functions -/
namespace PPLV.Term
open PPLV.Lin

/-- termwise lower bounds add up -/
theorem wsum_lower (S : Val → Prop) (F : Gen → Val → Rat) (gs : List Gen) (lam : Val)
    (h : ∀ j < gs.length, ∃ b : Rat, ∀ w, S w → b ≤ lam j * F (gs.getD j default) w) :
    ∃ β : Rat, ∀ w, S w → β ≤ wsum (fun g => F g w) gs lam := by
  induction gs generalizing lam with
  | nil => exact ⟨0, fun w _ => by simp [wsum]⟩
  | cons g gs ih =>
    rw [List.length_cons, Nat.forall_lt_succ_left] at h
    obtain ⟨⟨b0, hb0⟩, ht⟩ := h
    obtain ⟨β, hβ⟩ := ih lam.tail ht
    exact ⟨b0 + β, fun w hw => add_le_add (hb0 w hw) (hβ w hw)⟩

/-- non-negative termwise lower bounds, one of them positive, add up to a positive bound -/
theorem wsum_pos_lower (S : Val → Prop) (F : Gen → Val → Rat) (gs : List Gen) (lam : Val)
    (Q : Nat → Prop)
    (h : ∀ j < gs.length, ∃ e : Rat, 0 ≤ e ∧ (Q j → 0 < e) ∧
      ∀ w, S w → e ≤ lam j * F (gs.getD j default) w)
    (hq : ∃ j < gs.length, Q j) :
    ∃ δ : Rat, 0 < δ ∧ ∀ w, S w → δ ≤ wsum (fun g => F g w) gs lam := by
  induction gs generalizing lam Q with
  | nil => obtain ⟨j, hj, -⟩ := hq; simp at hj
  | cons g gs ih =>
    rw [List.length_cons, Nat.forall_lt_succ_left] at h
    obtain ⟨⟨e0, he0, hq0, hb0⟩, htail⟩ := h
    simp only [List.getD_cons_zero] at hb0
    have htail : ∀ j < gs.length, ∃ e : Rat, 0 ≤ e ∧ (Q (j+1) → 0 < e) ∧
        ∀ w, S w → e ≤ lam.tail j * F (gs.getD j default) w := htail
    by_cases hex : ∃ j < gs.length, Q (j+1)
    · obtain ⟨δ, hδ, hb⟩ := ih lam.tail (fun j => Q (j+1)) htail hex
      refine ⟨e0 + δ, by linarith, fun w hw => ?_⟩
      simp only [wsum]
      have := hb0 w hw
      have := hb w hw
      linarith
    · have hQ0 : Q 0 := by
        obtain ⟨j, hj, hqj⟩ := hq
        cases j with
        | zero => exact hqj
        | succ j => exact absurd ⟨j, by simpa using hj, hqj⟩ hex
      refine ⟨e0, hq0 hQ0, fun w hw => ?_⟩
      simp only [wsum]
      have h1 := hb0 w hw
      have h2 : 0 ≤ wsum (fun g => F g w) gs lam.tail := by
        apply wsum_nonneg
        intro j hj
        obtain ⟨e, he, -, hb⟩ := htail j hj
        have := hb w hw
        linarith
      linarith

theorem homGenOK_spec (n : Nat) (R : List Con) (c : List Int) (d : Int) (hd : 0 < d) (hwf : WF (2*n) R)
    (h : homGenOK n R c = true) :
    (∀ w ∈ sem R, 0 ≤ Spec.decrAt n (ratPoint c d) w) ∧
    ∃ β : Rat, ∀ w ∈ sem R, β ≤ Spec.valueAt n (ratPoint c d) w := by
  have hd' : (0 : Rat) < (d : Rat) := by exact_mod_cast hd
  unfold homGenOK at h
  rw [Bool.and_eq_true, lowerBoundedB_iff (2*n) R _ _ hwf (valueRow_len n c)] at h
  obtain ⟨h1, β, hβ⟩ := h
  constructor
  · intro w hw
    have a := decrRow_implies_spec n R c d 0 hd hwf h1 w hw
    rw [Int.cast_zero] at a
    exact (mul_nonneg_iff_of_pos_left hd').mp a
  · refine ⟨β / d, fun w hw => ?_⟩
    have a := hβ w hw
    have e1 := valueRow_eval_ratPoint n c d (ne_of_gt hd') w
    unfold Con.eval at e1
    rw [e1] at a
    rw [div_le_iff₀ hd']; linarith

/-- **Every element of an NNC space whose generators pass `spaceGenOKAll` is bounded from below
    and decreases by a fixed positive amount on the relation.** -/
theorem spaceGenOKAll_sound (n : Nat) (R : List Con) (gs : List Gen) (hwf : WF (2*n) R)
    (h : spaceGenOKAll n R gs = true) (mu : Val) (hmu : mu ∈ GenSem (n + 1) gs) :
    Spec.isRankingGen n (sem R) mu := by
  obtain ⟨lam, hnn, -, hpt, hcoord⟩ := hmu
  unfold spaceGenOKAll at h
  rw [List.all_eq_true] at h
  -- facts about one generator
  have key : ∀ j < gs.length,
      (∃ b : Rat, ∀ w, sem R w → b ≤ lam j * Spec.valueAt n (gs.getD j default).coord w) ∧
      (∃ e : Rat, 0 ≤ e ∧ (((gs.getD j default).isPt = true ∧ 0 < lam j) → 0 < e) ∧
        ∀ w, sem R w → e ≤ lam j * Spec.decrAt n (gs.getD j default).coord w) := by
    intro j hj
    have hg := h _ (mem_getD gs j hj)
    have hl := hnn j hj
    generalize gs.getD j default = g at hg hl
    obtain ⟨k, c, d⟩ := g
    unfold spaceGenGenOK at hg
    cases k with
    | point =>
      have hlam := hl rfl
      obtain ⟨-, δ, β, hδ, hr⟩ := (isRankingGenB_iff n R _ _ hwf).mp hg
      exact ⟨⟨lam j * β, fun w hw => mul_le_mul_of_nonneg_left (hr w hw).1 hlam⟩,
        lam j * δ, mul_nonneg hlam (le_of_lt hδ), fun hq => mul_pos hq.2 hδ,
        fun w hw => mul_le_mul_of_nonneg_left (hr w hw).2 hlam⟩
    | cpoint =>
      have hlam := hl rfl
      simp only [Bool.and_eq_true, decide_eq_true_eq] at hg
      obtain ⟨hD, β, hβ⟩ := homGenOK_spec n R c d hg.1 hwf hg.2
      exact ⟨⟨lam j * β, fun w hw => mul_le_mul_of_nonneg_left (hβ w hw) hlam⟩,
        0, le_refl _, fun hq => by simp [Gen.isPt] at hq, fun w hw => mul_nonneg hlam (hD w hw)⟩
    | ray =>
      have hlam := hl rfl
      obtain ⟨hD, β, hβ⟩ := homGenOK_spec n R c 1 one_pos hwf hg
      exact ⟨⟨lam j * β, fun w hw => mul_le_mul_of_nonneg_left (hβ w hw) hlam⟩,
        0, le_refl _, fun hq => by simp [Gen.isPt] at hq, fun w hw => mul_nonneg hlam (hD w hw)⟩
    | line =>
      simp only [Bool.and_eq_true] at hg
      obtain ⟨hD1, β1, hβ1⟩ := homGenOK_spec n R c 1 one_pos hwf hg.1
      obtain ⟨hD2, β2, hβ2⟩ := homGenOK_spec n R _ 1 one_pos hwf hg.2
      have d0 : ∀ w, sem R w → Spec.decrAt n (ratPoint c 1) w = 0 := by
        intro w hw
        have b := hD2 w hw
        rw [decrAt_ratPoint_neg] at b
        exact le_antisymm (by linarith) (hD1 w hw)
      refine ⟨?_, 0, le_refl _, fun hq => by simp [Gen.isPt] at hq, fun w hw => ?_⟩
      · -- the sign of the multiplier decides which of the two bounds applies
        by_cases hs : 0 ≤ lam j
        · exact ⟨lam j * β1, fun w hw => mul_le_mul_of_nonneg_left (hβ1 w hw) hs⟩
        · refine ⟨(- lam j) * β2, fun w hw => ?_⟩
          have b := hβ2 w hw
          rw [valueAt_ratPoint_neg] at b
          have := mul_le_mul_of_nonneg_left b (by linarith : 0 ≤ - lam j)
          show -lam j * β2 ≤ lam j * Spec.valueAt n (ratPoint c 1) w
          linarith
      · show 0 ≤ lam j * Spec.decrAt n (ratPoint c 1) w
        rw [d0 w hw]; simp
  obtain ⟨β, hβ⟩ := wsum_lower (sem R) (fun g w => Spec.valueAt n g.coord w) gs lam
    (fun j hj => (key j hj).1)
  obtain ⟨δ, hδ, hb⟩ := wsum_pos_lower (sem R) (fun g w => Spec.decrAt n g.coord w) gs lam
    (fun j => (gs.getD j default).isPt = true ∧ 0 < lam j) (fun j hj => (key j hj).2) hpt
  refine ⟨δ, β, hδ, fun w hw => ?_⟩
  rw [valueAt_genSem n gs lam mu w hcoord, decrAt_genSem n gs lam mu w hcoord]
  exact ⟨hβ w hw, hb w hw⟩

end PPLV.Term

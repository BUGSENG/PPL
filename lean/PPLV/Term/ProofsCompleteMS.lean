import PPLV.Term.FarkasStmt

/-! # C18 completeness of the Mesnard–Serebrenik encoding: the two systems

`fill_constraint_systems_MS` (termination.cc:133).  `ProofsEnc.lean` shows that every solution of
`cs_out1` / `cs_out2` is a decreasing / bounded function (weighted-sum argument).  Here the
converse: by the affine Farkas lemma (`FarkasImplied`, an explicit hypothesis, proved in
`ProofsCompleteFarkas.lean`) every function that decreases by `1` (is non-negative) on a non-empty
closed relation has multipliers `y ≥ 0` (`z ≥ 0`) such that `(μ, y)` solves `cs_out1`
(`(μ, z)` solves `cs_out2`), wherever the multipliers are placed (`yb`, `zb`). -/
namespace PPLV.Term
open PPLV.Lin

/-! ### congruence lemmas -/

theorem linAt_congr (n : Nat) (mu mu' : Val) (off : Nat) (w : Val) (h : ∀ j < n, mu j = mu' j) :
    linAt n mu off w = linAt n mu' off w := by
  unfold linAt
  exact sumTo_congr _ _ _ (fun i hi => by rw [h i hi])

/-- `μ(x) − μ(x')` reads `μ` at the indices `< n` only (not `μ_0`) -/
theorem decrAt_congr (n : Nat) (mu mu' w : Val) (h : ∀ j < n, mu j = mu' j) :
    Spec.decrAt n mu w = Spec.decrAt n mu' w := by
  unfold Spec.decrAt
  rw [linAt_congr n mu mu' n w h, linAt_congr n mu mu' 0 w h]

/-- `μ(x)` reads `μ` at the indices `≤ n` only -/
theorem valueAt_congr (n : Nat) (mu mu' w : Val) (h : ∀ j ≤ n, mu j = mu' j) :
    Spec.valueAt n mu w = Spec.valueAt n mu' w := by
  unfold Spec.valueAt
  rw [h n (le_refl _), linAt_congr n mu mu' n w (fun j hj => h j (by omega))]

/-- the multipliers read off a solution at base `b` -/
theorem dot_shift_eq (l : List Int) (sol y : Val) (b : Nat)
    (h : ∀ i < l.length, sol (b + i) = y i) : dot l (fun i => sol (i + b)) = dot l y :=
  dot_agree l _ _ (fun i hi => by show sol (i + b) = y i; rw [Nat.add_comm]; exact h i hi)

/-! ### writing the rows of the two systems from multipliers -/

/-- sufficient conditions, in terms of multipliers `y`, for a solution of system 1 -/
theorem fillMS1_of (n : Nat) (cs : List Con) (yb : Nat) (hyb : n ≤ yb) (sol y : Val)
    (hsol : ∀ i < cs.length, sol (yb + i) = y i) (hy0 : ∀ i < cs.length, 0 ≤ y i)
    (hk : dot (consts cs) y ≤ -1)
    (hx : ∀ j < n, dot (col cs (n + j)) y = sol j)
    (hp : ∀ j < n, dot (col cs j) y = - sol j) : Sat (fillMS1 n cs yb) sol := by
  have hd : ∀ l : List Int, l.length = cs.length → dot l (fun i => sol (i + yb)) = dot l y :=
    fun l hl => dot_shift_eq l sol y yb (fun i hi => hsol i (by omega))
  rw [fillMS1_sat n cs yb hyb, hd _ (length_consts cs)]
  exact ⟨fun i hi => by rw [hsol i hi]; exact hy0 i hi, hk,
    fun j hj => by rw [hd _ (length_col cs (n + j))]; exact hx j hj,
    fun j hj => by rw [hd _ (length_col cs j)]; exact hp j hj⟩

/-- sufficient conditions, in terms of multipliers `z`, for a solution of system 2 -/
theorem fillMS2_of (n : Nat) (cs : List Con) (zb : Nat) (hzb : n < zb) (sol z : Val)
    (hsol : ∀ i < cs.length + 2, sol (zb + i) = z i) (hz0 : ∀ i < cs.length + 2, 0 ≤ z i)
    (hk : dot (consts cs) z ≤ z cs.length - z (cs.length + 1))
    (hx : ∀ j < n, dot (col cs (n + j)) z = sol j)
    (hp : ∀ j < n, dot (col cs j) z = 0)
    (h0 : z cs.length - z (cs.length + 1) = sol n) : Sat (fillMS2 n cs zb) sol := by
  have hd : ∀ l : List Int, l.length = cs.length → dot l (fun i => sol (i + zb)) = dot l z :=
    fun l hl => dot_shift_eq l sol z zb (fun i hi => hsol i (by omega))
  rw [fillMS2_sat n cs zb hzb, hd _ (length_consts cs), hsol cs.length (by omega),
    hsol (cs.length + 1) (by omega)]
  exact ⟨fun i hi => by rw [hsol i hi]; exact hz0 i hi, hk,
    fun j hj => by rw [hd _ (length_col cs (n + j))]; exact hx j hj,
    fun j hj => by rw [hd _ (length_col cs j)]; exact hp j hj, h0⟩

/-! ### system 1 -/

/-- the objective `μ(x) − μ(x')` as one sum over the `2n` coordinates of the pair -/
theorem sumTo_decr (n : Nat) (mu w : Val) :
    sumTo (2*n) (fun j => (if j < n then - mu j else mu (j - n)) * w j) = Spec.decrAt n mu w := by
  rw [Nat.two_mul, sumTo_split]
  unfold Spec.decrAt linAt
  have h1 : sumTo n (fun j => (if j < n then - mu j else mu (j - n)) * w j)
      = - sumTo n (fun i => mu i * w (0 + i)) := by
    rw [← neg_one_mul, ← sumTo_mul_left]
    apply sumTo_congr
    intro j hj
    simp only [hj, if_true, Nat.zero_add]
    ring
  have h2 : sumTo n (fun j => (if n + j < n then - mu (n + j) else mu (n + j - n)) * w (n + j))
      = sumTo n (fun i => mu i * w (n + i)) := by
    apply sumTo_congr
    intro j _
    have : ¬ (n + j < n) := by omega
    simp only [this, if_false, Nat.add_sub_cancel_left]
  rw [h1, h2]; ring

/-- **completeness of `cs_out1`**: a function that decreases by at least `1` on every pair of a
    non-empty closed relation extends, by Farkas multipliers that do not depend on where they are
    placed, to a solution of system 1 -/
theorem fillMS1_complete (hF : FarkasImplied) (n : Nat) (cs : List Con) (hwf : WF (2*n) cs)
    (hns : ∀ c ∈ cs, c.strict = false) (hne : ∃ w, Sat cs w) (mu : Val)
    (h : ∀ w, Sat cs w → 1 ≤ Spec.decrAt n mu w) :
    ∃ y : Val, (∀ i, 0 ≤ y i) ∧ ∀ (yb : Nat) (sol : Val), n ≤ yb → (∀ j < n, sol j = mu j) →
      (∀ i < cs.length, sol (yb + i) = y i) → Sat (fillMS1 n cs yb) sol := by
  obtain ⟨y, hy0, hycol, hyk⟩ := hF (2*n) cs hwf hns hne
    (fun j => if j < n then - mu j else mu (j - n)) (-1) (fun w hw => by
      rw [sumTo_decr]
      have := h w hw
      linarith)
  refine ⟨y, hy0, fun yb sol hyb hmu hsol => ?_⟩
  refine fillMS1_of n cs yb hyb sol y hsol (fun i _ => hy0 i) hyk (fun j hj => ?_) (fun j hj => ?_)
  · rw [hycol (n + j) (by omega), hmu j hj, if_neg (by omega), Nat.add_sub_cancel_left]
  · rw [hycol j (by omega), hmu j hj, if_pos hj]

/-! ### system 2 -/

/-- the objective `μ(x) − μ_0` as one sum over the `2n` coordinates of the pair -/
theorem sumTo_value (n : Nat) (mu w : Val) :
    sumTo (2*n) (fun j => (if j < n then 0 else mu (j - n)) * w j) = linAt n mu n w := by
  rw [Nat.two_mul, sumTo_split]
  unfold linAt
  have h1 : sumTo n (fun j => (if j < n then 0 else mu (j - n)) * w j) = 0 := by
    refine (sumTo_congr n _ (fun _ => 0) ?_).trans (sumTo_zero n)
    intro j hj
    simp only [hj, if_true, zero_mul]
  have h2 : sumTo n (fun j => (if n + j < n then 0 else mu (n + j - n)) * w (n + j))
      = sumTo n (fun i => mu i * w (n + i)) := by
    apply sumTo_congr
    intro j _
    have : ¬ (n + j < n) := by omega
    simp only [this, if_false, Nat.add_sub_cancel_left]
  rw [h1, h2]; ring

/-- **completeness of `cs_out2`**: a function that is non-negative on every pair of a non-empty
    closed relation extends to a solution of system 2; `μ_0 = z_{m+1} − z_{m+2}` is split into its
    positive and negative part -/
theorem fillMS2_complete (hF : FarkasImplied) (n : Nat) (cs : List Con) (hwf : WF (2*n) cs)
    (hns : ∀ c ∈ cs, c.strict = false) (hne : ∃ w, Sat cs w) (mu : Val)
    (h : ∀ w, Sat cs w → 0 ≤ Spec.valueAt n mu w) :
    ∃ z : Val, (∀ i, 0 ≤ z i) ∧ ∀ (zb : Nat) (sol : Val), n < zb → (∀ j ≤ n, sol j = mu j) →
      (∀ i < cs.length + 2, sol (zb + i) = z i) → Sat (fillMS2 n cs zb) sol := by
  obtain ⟨z0, hz0, hzcol, hzk⟩ := hF (2*n) cs hwf hns hne
    (fun j => if j < n then 0 else mu (j - n)) (mu n) (fun w hw => by
      rw [sumTo_value]
      have := h w hw
      unfold Spec.valueAt at this
      linarith)
  let z : Val := fun i =>
    if i < cs.length then z0 i else if i = cs.length then max (mu n) 0 else max (- mu n) 0
  have hzlo : ∀ i < cs.length, z i = z0 i := by
    intro i hi; simp only [z, hi, if_true]
  have hzm : z cs.length = max (mu n) 0 := by simp [z]
  have hzm1 : z (cs.length + 1) = max (- mu n) 0 := by simp [z]
  have hdiff : z cs.length - z (cs.length + 1) = mu n := by
    rw [hzm, hzm1]
    rcases le_total 0 (mu n) with hm | hm
    · rw [max_eq_left hm, max_eq_right (by linarith)]; ring
    · rw [max_eq_right hm, max_eq_left (by linarith)]; ring
  have hznn : ∀ i, 0 ≤ z i := by
    intro i
    simp only [z]
    split
    · exact hz0 i
    · split
      · exact le_max_right _ _
      · exact le_max_right _ _
  refine ⟨z, hznn, fun zb sol hzb hmu hsol => ?_⟩
  have hd : ∀ l : List Int, l.length = cs.length → dot l z = dot l z0 :=
    fun l hl => dot_agree l _ _ (fun i hi => hzlo i (by omega))
  refine fillMS2_of n cs zb hzb sol z hsol (fun i _ => hznn i) ?_ (fun j hj => ?_) (fun j hj => ?_)
    (hdiff.trans (hmu n le_rfl).symm)
  · rw [hd _ (length_consts cs), hdiff]; exact hzk
  · rw [hd _ (length_col cs (n + j)), hzcol (n + j) (by omega), hmu j (by omega),
      if_neg (by omega), Nat.add_sub_cancel_left]
  · rw [hd _ (length_col cs j), hzcol j (by omega), if_pos hj]

end PPLV.Term

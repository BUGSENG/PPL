import PPLV.Term.ProofsEnc

/-! # C18 helper lemmas: the Podelski–Rybalchenko encodings are sound -/
namespace PPLV.Term
open PPLV.Lin

theorem prMu_n (n : Nat) (csA : List Con) (u : Val) : prMu n csA u n = 0 := by simp [prMu]
theorem prMu_lt (n : Nat) (csA : List Con) (u : Val) (j : Nat) (hj : j < n) :
    prMu n csA u j = - dot (col csA j) u := by simp [prMu, hj]

/-- the rows of `prSystem`, read back as conditions on `u_3 = u_{0..s-1}`, `u_2 = u_{s..s+r-1}`,
    `u_1 = u_{s+r..s+2r-1}` -/
theorem Sat_prSystem_iff (n : Nat) (csB csA : List Con) (u : Val) :
    Sat (prSystem n csB csA) u ↔
      (∀ i < csA.length + 2 * csB.length, 0 ≤ u i) ∧
      (∀ j < n, dot (col csB j) (fun i => u (i + csB.length + csA.length))
          = dot (col csA (n + j)) u + dot (col csB j) (fun i => u (i + csA.length))) ∧
      (∀ j < n, dot (col csA (n + j)) u + dot (col csA j) u
          + dot (col csB j) (fun i => u (i + csA.length)) = 0) ∧
      dot (consts csA) u + dot (consts csB) (fun i => u (i + csA.length)) ≤ -1 := by
  unfold prSystem fillPR
  simp only
  rw [Sat_append, Sat_append, Sat_append, Sat_nonnegRows, Sat_singleton, sat_geRow,
    Sat_flatMap, Sat_flatMap, dot_map_neg, dot_append, length_consts]
  have hm1 : (((-1 : Int)) : Rat) = -1 := by norm_num
  have e1 : ∀ j, Sat (eqRows ((col csA (n + j)).map (- ·)
        ++ ((col csB j).map (- ·) ++ col csB j)) 0) u ↔
      dot (col csB j) (fun i => u (i + csB.length + csA.length))
        = dot (col csA (n + j)) u + dot (col csB j) (fun i => u (i + csA.length)) := by
    intro j
    rw [Sat_eqRows, dot_append, dot_append, dot_map_neg, dot_map_neg, List.length_map,
      List.length_map, length_col, length_col]
    simp only [Int.cast_zero, add_zero]
    constructor <;> intro h <;> linarith
  have e2 : ∀ j, Sat (eqRows (lincomb 1 1 (col csA (n + j)) (col csA j) ++ col csB j) 0) u ↔
      dot (col csA (n + j)) u + dot (col csA j) u
        + dot (col csB j) (fun i => u (i + csA.length)) = 0 := by
    intro j
    rw [Sat_eqRows, dot_append, dot_lincomb,
      length_lincomb _ _ _ _ (by rw [length_col, length_col]), length_col]
    simp only [Int.cast_zero, Int.cast_one, add_zero, one_mul]
  simp only [List.mem_range, e1, e2, hm1, Nat.zero_add]
  constructor
  · rintro ⟨⟨⟨hnn, h1⟩, h2⟩, hle⟩
    exact ⟨hnn, h1, h2, by linarith⟩
  · rintro ⟨hnn, h1, h2, hle⟩
    exact ⟨⟨⟨hnn, h1⟩, h2⟩, by linarith⟩

/-- `fill_constraint_system_PR` + `le_out ≤ −1`: the synthesised function decreases by at least
    `1` and is bounded from below by `−u_1·d_B` on the relation of the before/after pair. -/
theorem prSystem_sound (n : Nat) (csB csA : List Con) (hB : WF n csB) (hA : WF (2*n) csA)
    (u : Val) (hs : Sat (prSystem n csB csA) u) :
    Spec.isRankingWith n (sem (pairRel n csB csA)) (prMu n csA u) 1
      (- dot (consts csB) (fun i => u (i + csB.length + csA.length))) := by
  obtain ⟨hnn, h1, h2, hle⟩ := (Sat_prSystem_iff n csB csA u).mp hs
  let u2 : Val := fun i => u (i + csA.length)
  let u1 : Val := fun i => u (i + csB.length + csA.length)
  intro w hw
  have hw' : Sat (pairRel n csB csA) w := hw
  unfold pairRel at hw'
  rw [Sat_append, Sat_map_shift] at hw'
  obtain ⟨hwA, hwB⟩ := hw'
  let xw : Val := fun j => w (j + n)
  have pA := comb_nonneg (2*n) csA hA u w (fun i hi => hnn i (by omega)) hwA
  have pB2 := comb_nonneg n csB hB u2 xw (fun i hi => hnn (i + csA.length) (by omega)) hwB
  have pB1 := comb_nonneg n csB hB u1 xw
    (fun i hi => hnn (i + csB.length + csA.length) (by omega)) hwB
  rw [Nat.two_mul, sumTo_split] at pA
  -- sums in terms of μ
  have s1 : sumTo n (fun j => dot (col csA j) u * w j) = - linAt n (prMu n csA u) 0 w := by
    unfold linAt
    rw [← neg_one_mul, ← sumTo_mul_left]
    apply sumTo_congr
    intro j hj
    rw [prMu_lt n csA u j hj]; simp
  have s2 : sumTo n (fun j => dot (col csA (n + j)) u * w (n + j))
      + sumTo n (fun j => dot (col csB j) u2 * xw j) = linAt n (prMu n csA u) n w := by
    unfold linAt
    rw [← sumTo_add]
    apply sumTo_congr
    intro j hj
    rw [prMu_lt n csA u j hj]
    have := h2 j hj
    show dot (col csA (n + j)) u * w (n + j) + dot (col csB j) u2 * w (j + n) = _
    rw [Nat.add_comm j n]
    have e : dot (col csA (n + j)) u + dot (col csB j) u2 = - dot (col csA j) u := by linarith
    rw [← e]; ring
  have s3 : sumTo n (fun j => dot (col csB j) u1 * xw j) = linAt n (prMu n csA u) n w := by
    unfold linAt
    apply sumTo_congr
    intro j hj
    rw [prMu_lt n csA u j hj]
    have a := h1 j hj
    have b := h2 j hj
    show dot (col csB j) u1 * w (j + n) = _
    rw [Nat.add_comm j n]
    have e : dot (col csB j) u1 = - dot (col csA j) u := by linarith
    rw [e]
  constructor
  · unfold Spec.valueAt
    rw [prMu_n, ← s3]
    show - dot (consts csB) u1 ≤ _
    linarith
  · unfold Spec.decrAt
    rw [← s2]
    linarith

theorem prOrigMu_n (n : Nat) (cs : List Con) (u : Val) : prOrigMu n cs u n = 0 := by simp [prOrigMu]
theorem prOrigMu_lt (n : Nat) (cs : List Con) (u : Val) (j : Nat) (hj : j < n) :
    prOrigMu n cs u j = - dot (col cs j) (fun i => u (i + cs.length)) := by simp [prOrigMu, hj]

/-- the rows of `prOrigSystem`, read back as conditions on `λ_1 = u_{0..m-1}`, `λ_2 = u_{m..2m-1}` -/
theorem Sat_prOrigSystem_iff (n : Nat) (cs : List Con) (u : Val) :
    Sat (prOrigSystem n cs) u ↔
      (∀ i < 2 * cs.length, 0 ≤ u i) ∧
      (∀ j < n, dot (col cs j) u = 0) ∧
      (∀ j < n, dot (col cs (n + j)) u = dot (col cs (n + j)) (fun i => u (i + cs.length))) ∧
      (∀ j < n, dot (col cs j) (fun i => u (i + cs.length))
          + dot (col cs (n + j)) (fun i => u (i + cs.length)) = 0) ∧
      dot (consts cs) (fun i => u (i + cs.length)) ≤ -1 := by
  unfold prOrigSystem fillPROrig
  simp only
  rw [Sat_append, Sat_append, Sat_append, Sat_append, Sat_nonnegRows, Sat_singleton, sat_geRow,
    Sat_flatMap, Sat_flatMap, Sat_flatMap, dot_map_neg, dot_replicate_zero_append]
  have hm1 : (((-1 : Int)) : Rat) = -1 := by norm_num
  have eA : ∀ j, Sat (eqRows (col cs j) 0) u ↔ dot (col cs j) u = 0 := by
    intro j; rw [Sat_eqRows]; simp
  have eB : ∀ j, Sat (eqRows (col cs (n + j) ++ (col cs (n + j)).map (- ·)) 0) u ↔
      dot (col cs (n + j)) u = dot (col cs (n + j)) (fun i => u (i + cs.length)) := by
    intro j
    rw [Sat_eqRows, dot_append, dot_map_neg, length_col]
    simp only [Int.cast_zero, add_zero]
    constructor <;> intro h <;> linarith
  have eC : ∀ j, Sat (eqRows (List.replicate cs.length 0 ++ lincomb 1 1 (col cs j) (col cs (n + j))) 0) u ↔
      dot (col cs j) (fun i => u (i + cs.length))
        + dot (col cs (n + j)) (fun i => u (i + cs.length)) = 0 := by
    intro j
    rw [Sat_eqRows, dot_replicate_zero_append, dot_lincomb]
    simp only [Int.cast_zero, Int.cast_one, add_zero, one_mul]
  simp only [List.mem_range, eA, eB, eC, hm1, Nat.zero_add]
  constructor
  · rintro ⟨⟨⟨⟨hnn, hA⟩, hB⟩, hC⟩, hle⟩
    exact ⟨hnn, hA, hB, hC, by linarith⟩
  · rintro ⟨hnn, hA, hB, hC, hle⟩
    exact ⟨⟨⟨⟨hnn, hA⟩, hB⟩, hC⟩, by linarith⟩

/-- `fill_constraint_system_PR_original` + `le_out ≤ −1`: decrease by at least `1`, bounded
    from below by `−λ_1·b`. -/
theorem prOrigSystem_sound (n : Nat) (cs : List Con) (hwf : WF (2*n) cs)
    (u : Val) (hs : Sat (prOrigSystem n cs) u) :
    Spec.isRankingWith n (sem cs) (prOrigMu n cs u) 1 (- dot (consts cs) u) := by
  obtain ⟨hnn, hAj, hBj, hCj, hle⟩ := (Sat_prOrigSystem_iff n cs u).mp hs
  let l2 : Val := fun i => u (i + cs.length)
  intro w hw
  have hw' : Sat cs w := hw
  have p1 := comb_nonneg (2*n) cs hwf u w (fun i hi => hnn i (by omega)) hw'
  have p2 := comb_nonneg (2*n) cs hwf l2 w (fun i hi => hnn (i + cs.length) (by omega)) hw'
  rw [Nat.two_mul, sumTo_split] at p1 p2
  have a1 : sumTo n (fun j => dot (col cs j) u * w j) = 0 := by
    rw [← sumTo_zero n]
    apply sumTo_congr
    intro j hj
    rw [hAj j hj]; simp
  have a2 : sumTo n (fun j => dot (col cs (n + j)) u * w (n + j)) = linAt n (prOrigMu n cs u) n w := by
    unfold linAt
    apply sumTo_congr
    intro j hj
    rw [prOrigMu_lt n cs u j hj, hBj j hj]
    have := hCj j hj
    have e : dot (col cs (n + j)) l2 = - dot (col cs j) l2 := by linarith
    rw [e]
  have b1 : sumTo n (fun j => dot (col cs j) l2 * w j) = - linAt n (prOrigMu n cs u) 0 w := by
    unfold linAt
    rw [← neg_one_mul, ← sumTo_mul_left]
    apply sumTo_congr
    intro j hj
    rw [prOrigMu_lt n cs u j hj]
    show dot (col cs j) l2 * w j = -1 * (-dot (col cs j) l2 * w (0 + j))
    rw [Nat.zero_add]; ring
  have b2 : sumTo n (fun j => dot (col cs (n + j)) l2 * w (n + j)) = linAt n (prOrigMu n cs u) n w := by
    unfold linAt
    apply sumTo_congr
    intro j hj
    rw [prOrigMu_lt n cs u j hj]
    have := hCj j hj
    have e : dot (col cs (n + j)) l2 = - dot (col cs j) l2 := by linarith
    rw [e]
  constructor
  · unfold Spec.valueAt
    rw [prOrigMu_n, ← a2]
    linarith
  · unfold Spec.decrAt
    rw [← b2]
    linarith

/-- When the rows of `cs_after` have no inhomogeneous term (updates such as
    `x_2' = x_2 − x_1`, `x_1' ≥ x_1`), the strict inequality of the encoding rests on the guard
    alone: every solution has `u_2·d_B ≤ −1`, so the multipliers `u_2` of the guard rows are
    non-zero and the term `u_2·d_B` of `le_out` cannot be dropped. -/
theorem prSystem_guard_term (n : Nat) (csB csA : List Con) (h0 : (consts csA).all (· == 0) = true)
    (u : Val) (hs : Sat (prSystem n csB csA) u) :
    dot (consts csB) (fun i => u (i + csA.length)) ≤ -1 := by
  have hle := ((Sat_prSystem_iff n csB csA u).mp hs).2.2.2
  rwa [dot_allZero _ h0, zero_add] at hle

end PPLV.Term

import PPLV.Term.FarkasStmt

/-! # C18 completeness, shared helpers: splicing valuations, columns of shifted rows,
the relation `pairRel` of a before/after pair -/
namespace PPLV.Term
open PPLV.Lin

/-! ### splicing two valuations (`a` on `0..m-1`, then `b`) -/

/-- `a_0 … a_{m-1}, b_0, b_1, …` -/
def splice (m : Nat) (a b : Val) : Val := fun i => if i < m then a i else b (i - m)

theorem splice_lt (m : Nat) (a b : Val) (i : Nat) (h : i < m) : splice m a b i = a i := by
  simp [splice, h]

theorem splice_add (m : Nat) (a b : Val) (i : Nat) : splice m a b (m + i) = b i := by
  simp [splice]

theorem splice_shift (m : Nat) (a b : Val) : (fun i => splice m a b (i + m)) = b := by
  funext i; simp [splice]

theorem splice_nonneg (m : Nat) (a b : Val) (ha : ∀ i, 0 ≤ a i) (hb : ∀ i, 0 ≤ b i) (i : Nat) :
    0 ≤ splice m a b i := by
  unfold splice; split
  · exact ha i
  · exact hb _

theorem dot_splice_left (m : Nat) (a b : Val) (as : List Int) (h : as.length ≤ m) :
    dot as (splice m a b) = dot as a :=
  dot_agree as _ _ (fun i hi => splice_lt m a b i (by omega))

/-- an affine form over `(x', x)` given by its two halves -/
theorem sumTo_splice (n : Nat) (a b w : Val) :
    sumTo (2 * n) (fun j => splice n a b j * w j) = linAt n a 0 w + linAt n b n w := by
  rw [Nat.two_mul, sumTo_split]
  unfold linAt
  congr 1
  · apply sumTo_congr
    intro i hi
    rw [splice_lt n a b i hi, Nat.zero_add]
  · apply sumTo_congr
    intro i _
    rw [splice_add]

/-! ### columns of a concatenation / of rows shifted by `n` -/

theorem col_append (as bs : List Con) (j : Nat) : col (as ++ bs) j = col as j ++ col bs j := by
  simp [col]

theorem consts_append (as bs : List Con) : consts (as ++ bs) = consts as ++ consts bs := by
  simp [consts]

theorem consts_shift (n : Nat) (cs : List Con) : consts (cs.map (Con.shift n)) = consts cs := by
  simp [consts, Con.shift, Function.comp_def]

theorem at_shift_add (n : Nat) (c : Con) (j : Nat) : (c.shift n).at (n + j) = c.at j := by
  simp [Con.at, Con.shift, List.getD_eq_getElem?_getD, List.getElem?_append_right]

theorem at_shift_lt (n : Nat) (c : Con) (j : Nat) (hj : j < n) : (c.shift n).at j = 0 := by
  simp [Con.at, Con.shift, List.getD_eq_getElem?_getD, List.getElem?_append_left, hj]

theorem col_shift_add (n : Nat) (cs : List Con) (j : Nat) :
    col (cs.map (Con.shift n)) (n + j) = col cs j := by
  simp [col, Function.comp_def, at_shift_add]

theorem dot_col_shift_lt (n : Nat) (cs : List Con) (j : Nat) (hj : j < n) (y : Val) :
    dot (col (cs.map (Con.shift n)) j) y = 0 := by
  apply dot_allZero
  simp [col, at_shift_lt n _ j hj]

/-- columns of the relation of a before/after pair -/
theorem dot_col_pairRel_lt (n : Nat) (csB csA : List Con) (j : Nat) (hj : j < n) (y : Val) :
    dot (col (pairRel n csB csA) j) y = dot (col csA j) y := by
  unfold pairRel
  rw [col_append, dot_append, dot_col_shift_lt n csB j hj, add_zero]

theorem dot_col_pairRel_add (n : Nat) (csB csA : List Con) (j : Nat) (y : Val) :
    dot (col (pairRel n csB csA) (n + j)) y
      = dot (col csA (n + j)) y + dot (col csB j) (fun i => y (i + csA.length)) := by
  unfold pairRel
  rw [col_append, dot_append, col_shift_add, length_col]

theorem dot_consts_pairRel (n : Nat) (csB csA : List Con) (y : Val) :
    dot (consts (pairRel n csB csA)) y
      = dot (consts csA) y + dot (consts csB) (fun i => y (i + csA.length)) := by
  unfold pairRel
  rw [consts_append, dot_append, consts_shift, length_consts]

theorem pairRel_wf (n : Nat) (csB csA : List Con) (hB : WF n csB) (hA : WF (2*n) csA) :
    WF (2*n) (pairRel n csB csA) := by
  unfold pairRel
  rw [WF_append_iff]
  refine ⟨hA, ?_⟩
  intro c hc
  obtain ⟨d, hd, rfl⟩ := List.mem_map.mp hc
  have := hB d hd
  simp [Con.shift]; omega

theorem pairRel_nonstrict (n : Nat) (csB csA : List Con) (hnsB : ∀ c ∈ csB, c.strict = false)
    (hnsA : ∀ c ∈ csA, c.strict = false) : ∀ c ∈ pairRel n csB csA, c.strict = false := by
  intro c hc
  unfold pairRel at hc
  rcases List.mem_append.mp hc with h | h
  · exact hnsA c h
  · obtain ⟨d, hd, rfl⟩ := List.mem_map.mp h
    exact hnsB d hd

/-- a pair of the relation restricts to a state of the guard -/
theorem Sat_pairRel (n : Nat) (csB csA : List Con) (w : Val) :
    Sat (pairRel n csB csA) w ↔ Sat csA w ∧ Sat csB (fun j => w (j + n)) := by
  unfold pairRel
  rw [Sat_append, Sat_map_shift]

end PPLV.Term

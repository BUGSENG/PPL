import PPLV.Term.Model
import PPLV.Lin.Sup
import PPLV.Lin.GenSem
import Mathlib.Tactic.Linarith
import Mathlib.Tactic.Ring
import Mathlib.Tactic.FieldSimp

/-! # C18 helper lemmas: finite sums, the rows of the checkers, `isRankingB_iff` -/
namespace PPLV.Term
open PPLV.Lin

/-! ### `sumTo` algebra -/

theorem sumTo_congr (k : Nat) (f g : Nat → Rat) (h : ∀ i < k, f i = g i) : sumTo k f = sumTo k g := by
  induction k with
  | zero => rfl
  | succ k ih =>
    simp only [sumTo]
    rw [ih (fun i hi => h i (by omega)), h k (by omega)]

theorem sumTo_add (k : Nat) (f g : Nat → Rat) :
    sumTo k (fun i => f i + g i) = sumTo k f + sumTo k g := by
  induction k with
  | zero => simp [sumTo]
  | succ k ih => simp only [sumTo, ih]; ring

theorem sumTo_sub (k : Nat) (f g : Nat → Rat) :
    sumTo k (fun i => f i - g i) = sumTo k f - sumTo k g := by
  induction k with
  | zero => simp [sumTo]
  | succ k ih => simp only [sumTo, ih]; ring

theorem sumTo_mul_left (k : Nat) (a : Rat) (f : Nat → Rat) :
    sumTo k (fun i => a * f i) = a * sumTo k f := by
  induction k with
  | zero => simp [sumTo]
  | succ k ih => simp only [sumTo, ih]; ring

theorem sumTo_zero (k : Nat) : sumTo k (fun _ => 0) = 0 := by
  induction k with
  | zero => rfl
  | succ k ih => simp [sumTo, ih]

theorem sumTo_succ' (k : Nat) (f : Nat → Rat) :
    sumTo (k+1) f = f 0 + sumTo k (fun i => f (i+1)) := by
  induction k with
  | zero => simp [sumTo]
  | succ k ih =>
    rw [sumTo, ih]
    simp only [sumTo]
    ring

theorem sumTo_split (n m : Nat) (f : Nat → Rat) :
    sumTo (n + m) f = sumTo n f + sumTo m (fun j => f (n + j)) := by
  induction m with
  | zero => simp [sumTo]
  | succ m ih =>
    rw [← Nat.add_assoc]
    simp only [sumTo, ih]
    ring

theorem linAt_smul (n : Nat) (a : Rat) (mu : Val) (off : Nat) (w : Val) :
    linAt n (fun j => a * mu j) off w = a * linAt n mu off w := by
  unfold linAt; rw [← sumTo_mul_left]; exact sumTo_congr _ _ _ fun i _ => mul_assoc ..

theorem sumTo_nonneg (k : Nat) (f : Nat → Rat) (h : ∀ i < k, 0 ≤ f i) : 0 ≤ sumTo k f := by
  induction k with
  | zero => exact le_refl _
  | succ k ih =>
    simp only [sumTo]
    have := ih (fun i hi => h i (by omega))
    have := h k (by omega)
    linarith

/-- `dot` as an indexed sum -/
theorem dot_sumTo (as : List Int) (N : Nat) (h : as.length ≤ N) (x : Val) :
    dot as x = sumTo N (fun i => ((as.getD i 0 : Int) : Rat) * x i) := by
  induction as generalizing N x with
  | nil =>
    simp only [dot_nil, List.getD_nil, Int.cast_zero, zero_mul]
    exact (sumTo_zero N).symm
  | cons a as ih =>
    cases N with
    | zero => simp at h
    | succ N =>
      rw [dot_cons, sumTo_succ', ih N (by simpa using h) x.tail]
      simp [Val.tail]

theorem length_padTo (n : Nat) (c : List Int) : (padTo n c).length = n := by
  simp [padTo]; omega

theorem dot_padTo (n : Nat) (c : List Int) (x : Val) :
    dot (padTo n c) x = sumTo n (fun i => ((c.getD i 0 : Int) : Rat) * x i) := by
  unfold padTo
  rw [dot_append, dot_replicate_zero, add_zero, dot_sumTo (c.take n) n (by simp)]
  apply sumTo_congr
  intro i hi
  have : (c.take n).getD i 0 = c.getD i 0 := by
    simp [List.getD_eq_getElem?_getD, hi]
  rw [this]

theorem length_lincomb (a b : Int) (xs ys : List Int) (h : xs.length = ys.length) :
    (lincomb a b xs ys).length = xs.length := by
  induction xs generalizing ys with
  | nil => cases ys with
    | nil => simp [lincomb]
    | cons y ys => simp at h
  | cons x xs ih =>
    cases ys with
    | nil => simp at h
    | cons y ys => simp only [lincomb, List.length_cons]; rw [ih ys (by simpa using h)]

theorem sat_geRow (cf : List Int) (k : Int) (w : Val) : (geRow cf k).sat w ↔ 0 ≤ dot cf w + (k : Rat) := by
  simp [Con.sat, geRow, Con.eval]

/-! ### the rows of `isRankingB` -/

theorem valueRow_eval (n : Nat) (c : List Int) (w : Val) :
    (valueRow n c).eval w = sumTo n (fun i => ((c.getD i 0 : Int) : Rat) * w (n + i)) + ((c.getD n 0 : Int) : Rat) := by
  unfold valueRow Con.eval
  simp only
  rw [dot_replicate_zero_append, dot_padTo]
  congr 1
  apply sumTo_congr
  intro i _
  rw [Nat.add_comm]

theorem decrRow_eval (n : Nat) (c : List Int) (e : Int) (w : Val) :
    (decrRow n c e).eval w = sumTo n (fun i => ((c.getD i 0 : Int) : Rat) * w (n + i))
      - sumTo n (fun i => ((c.getD i 0 : Int) : Rat) * w (0 + i)) - (e : Rat) := by
  unfold decrRow Con.eval
  simp only
  rw [dot_append, dot_map_neg, List.length_map, length_padTo, dot_padTo, dot_padTo]
  have h1 : sumTo n (fun i => ((c.getD i 0 : Int) : Rat) * (fun j => w (j + n)) i)
      = sumTo n (fun i => ((c.getD i 0 : Int) : Rat) * w (n + i)) :=
    sumTo_congr _ _ _ (fun i _ => by simp [Nat.add_comm])
  have h2 : sumTo n (fun i => ((c.getD i 0 : Int) : Rat) * w i)
      = sumTo n (fun i => ((c.getD i 0 : Int) : Rat) * w (0 + i)) :=
    sumTo_congr _ _ _ (fun i _ => by simp)
  rw [h1, h2]; push_cast; ring

theorem valueRow_len (n : Nat) (c : List Int) : (valueRow n c).coeffs.length ≤ 2 * n := by
  simp [valueRow, length_padTo]; omega
theorem decrRow_len (n : Nat) (c : List Int) (e : Int) : (decrRow n c e).coeffs.length ≤ 2 * n := by
  simp [decrRow, length_padTo]; omega

/-- `d · linAt` of the rational vector `c/d` is the integer sum -/
theorem linAt_ratPoint (n : Nat) (c : List Int) (d : Int) (hd : (d : Rat) ≠ 0) (off : Nat) (w : Val) :
    (d : Rat) * linAt n (ratPoint c d) off w = sumTo n (fun i => ((c.getD i 0 : Int) : Rat) * w (off + i)) := by
  unfold linAt
  rw [← sumTo_mul_left]
  apply sumTo_congr
  intro i _
  simp only [ratPoint]
  field_simp

theorem valueRow_eval_ratPoint (n : Nat) (c : List Int) (d : Int) (hd : (d : Rat) ≠ 0) (w : Val) :
    (valueRow n c).eval w = (d : Rat) * Spec.valueAt n (ratPoint c d) w := by
  rw [valueRow_eval, Spec.valueAt, mul_add, linAt_ratPoint n c d hd]
  have : (d : Rat) * ratPoint c d n = ((c.getD n 0 : Int) : Rat) := by
    simp only [ratPoint]; field_simp
  rw [this]; ring

theorem decrRow_eval_ratPoint (n : Nat) (c : List Int) (d e : Int) (hd : (d : Rat) ≠ 0) (w : Val) :
    (decrRow n c e).eval w = (d : Rat) * Spec.decrAt n (ratPoint c d) w - (e : Rat) := by
  rw [decrRow_eval, Spec.decrAt, mul_sub, linAt_ratPoint n c d hd, linAt_ratPoint n c d hd]

/-- **The checker decides the specification** (two K1 inclusions). -/
theorem isRankingB_iff (n : Nat) (R : List Con) (c : List Int) (d : Int) (hwf : WF (2*n) R) :
    isRankingB n R c d = true ↔ 0 < d ∧ Spec.isRanking n (sem R) (ratPoint c d) := by
  unfold isRankingB
  rw [Bool.and_eq_true, Bool.and_eq_true, decide_eq_true_eq,
    implies_iff (2*n) R _ hwf (valueRow_len n c), implies_iff (2*n) R _ hwf (decrRow_len n c d)]
  constructor
  · rintro ⟨⟨hd, h1⟩, h2⟩
    have hd' : (0 : Rat) < (d : Rat) := by exact_mod_cast hd
    refine ⟨hd, fun w hw => ?_⟩
    have a1 := h1 w hw
    have a2 := h2 w hw
    simp only [Con.sat, valueRow, decrRow, Bool.false_eq_true, if_false] at a1 a2
    have e1 := valueRow_eval_ratPoint n c d (ne_of_gt hd') w
    have e2 := decrRow_eval_ratPoint n c d d (ne_of_gt hd') w
    simp only [valueRow, decrRow] at e1 e2
    rw [e1] at a1
    rw [e2] at a2
    constructor
    · exact (mul_nonneg_iff_of_pos_left hd').mp a1
    · have : 0 ≤ (d : Rat) * (Spec.decrAt n (ratPoint c d) w - 1) := by rw [mul_sub, mul_one]; exact a2
      have := (mul_nonneg_iff_of_pos_left hd').mp this
      linarith
  · rintro ⟨hd, h⟩
    have hd' : (0 : Rat) < (d : Rat) := by exact_mod_cast hd
    refine ⟨⟨hd, fun w hw => ?_⟩, fun w hw => ?_⟩
    · have := (h w hw).1
      show (valueRow n c).sat w
      unfold Con.sat
      rw [valueRow_eval_ratPoint n c d (ne_of_gt hd') w]
      simp only [valueRow, Bool.false_eq_true, if_false]
      exact mul_nonneg (le_of_lt hd') this
    · have := (h w hw).2
      show (decrRow n c d).sat w
      unfold Con.sat
      rw [decrRow_eval_ratPoint n c d d (ne_of_gt hd') w]
      simp only [decrRow, Bool.false_eq_true, if_false]
      have : 0 ≤ (d : Rat) * (Spec.decrAt n (ratPoint c d) w - 1) := mul_nonneg (le_of_lt hd') (by linarith)
      rw [mul_sub, mul_one] at this
      exact this

end PPLV.Term

import PPLV.COTree.ProofsRebHint

/-!
# hinted insertion `CO_Tree::insert(iterator, key[, data])`

Model `PPLV/COTree/RebalanceHint.lean` (CO_Tree.cc:45-176): empty tree and `end()` fall back to
the unhinted insert; otherwise `bisect_near(hint, key)` — the model `HoleArray.bisectNear`
run on the real `indexes[]` (`Tree.toHoleArray`) — gives the slot of the key or of an in-order
neighbour, the next used slot on the other side of the key is the second candidate, and
`insert_precise` is called on the deeper of the two.
-/
namespace C16
open PPLV.COTree

/-- **`insert(itr, key, data)` refines `SMap.set` for ANY valid hint** — `end()` or an iterator on
any used slot, next to the key or arbitrarily stale: every loop terminates, the invariant is kept,
the listing is `SMap.set (toList t) key value`, the returned iterator is on the pair, sizes follow
`afterInsert`.  (Uses `C16.bisect_near_spec` through the bridge `toHoleArray`.) -/
theorem insert_hinted_refines : InsertHintedSpec := insertHintedSpec

/-- **`insert(itr, key)`** (no data): refines `SMap.touch` — a stored key keeps its value, a new
key is stored with `0`; the returned iterator is on the entry. -/
theorem insert_hinted0_refines : InsertHinted0Spec := insertHinted0Spec

/-- the node handed to `insert_precise`: for a key that is not stored and `c1` an in-order
neighbour of it, `hintNode` is a used in-order neighbour of the key that is a leaf or whose child on
the key's side is free — what `go_down_searching_key` would have found. -/
theorem hint_node_ok (t : Tree) (c1 key : Nat) (hs : t.Shape) (h1 : 1 ≤ c1) (h2 : c1 ≤ t.rs)
    (hu : t.isUnused c1 = false) (hk : t.keyAt c1 ≠ key) (hb : t.Brackets c1 c1 key) :
    NodeOK t key (hintNode t c1 key) := hintNode_spec t hs c1 key h1 h2 hu hk hb

/-- hypotheses are satisfiable: `end()` is a valid hint of every tree, and the root slot of a
non-empty valid tree is a used slot, hence a valid (usually stale) hint -/
example (t : Tree) : t.ValidHint none := fun _ h => by cases h
example (t : Tree) (hinv : t.Inv) (hne : 1 ≤ t.size) : t.ValidHint (some (t.rs / 2 + 1)) := by
  intro h hh
  cases hh
  have hb := (Tree.IsNode.root hinv.shape).bounds hinv.shape
  exact ⟨by omega, by omega, root_used hinv.shape hinv.upClosed (by rw [hinv.count]; omega)⟩

end C16

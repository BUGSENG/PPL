import PPLV.WR.Trans2LatProofsMapExact
import PPLV.WR.Trans2LatProofsRemoveExact
import PPLV.WR.Trans2LatProofsDiff
import PPLV.WR.TransOct2LatProofsRemoveExact
import PPLV.WR.TransOct2LatProofsFoldExact
import PPLV.WR.TransOct2LatProofsMapExact
import PPLV.WR.Trans2LatProofsFoldExact
import Mathlib.Tactic.IntervalCases
import Mathlib.Tactic.NormNum
/-!
# C03 — lattice-style and dimension-changing operations of `BD_Shape<T>` and `Octagonal_Shape<T>`

Statements about the code-shaped models of `PPLV/WR/Trans2Lat.lean` (`BD_Shape_templates.hh`,
`BD_Shape_inlines.hh`) and `PPLV/WR/TransOct2Lat.lean` (`Octagonal_Shape_templates.hh`,
`Octagonal_Shape_inlines.hh`): `intersection_assign`, `upper_bound_assign`, `concatenate_assign`,
`add_space_dimensions_and_embed / _and_project`, `remove_space_dimensions`,
`remove_higher_space_dimensions`, `map_space_dimensions`, `expand_space_dimension`,
`fold_space_dimensions`.  Entry points take raw matrices, the space dimension, the closed flags, and
answer `Option LatRes` (`none` = marked empty; `dim`, `m`, `closed` afterwards).

`γB n m` / `γO n m` is the set of valuations `ℕ → ℚ` satisfying every (stored) cell of the raw matrix.
`_sound` theorems hold for EVERY rounding `R` with `R.Sound` (none of these operations converts a
coefficient: no side condition); theorems without an `R.Sound` hypothesis hold for every `R` whatsoever
(the operation performs no arithmetic).  `_exact` theorems that need the closure are about `Rnd.exact`.
Besides the preconditions of the C++ call (`var < n`, ids of `vars` `< n`, …) the hypotheses are: the class
invariant `+∞` on the main diagonal (`DBM n` / `bdsLatDiag`), where a cell of the diagonal is copied or read;
that the shape has a point, in `bds_fold_exact`; and, in the `_flags` variants, that a closed flag which is set
means what it says (`bdsLatCanon`, `octLatCanon`).

Octagon exactness that needs the closure (`oct_upper_bound_exact`, `oct_remove_dims_exact`,
`oct_remove_higher_exact`, `oct_fold_exact`) rests on `OctM.strongClosure_isStronglyClosed` (the exact strong
closure is strongly closed) and `OctM.IsStronglyClosed.exists_point_ge` (a strongly closed matrix over `ℚ` is
tight); `bds_fold_exact` rests on `DBM.closure_tight`.  No model of `time_elapse_assign` (round trip through
`C_Polyhedron`).
-/
namespace C03
open PPLV.WR
open PPLV.WR.ExtRat (fin pinf)

/-! ## fixtures for the non-vacuity examples -/

/-- `0 ≤ x₀ ≤ 3`, `0 ≤ x₁ ≤ 4`, `x₁ - x₀ ≤ 1` -/
def latM1 : DBM 2 := DBM.ofLists 2
  [[pinf, fin 3, fin 4],
   [fin 0, pinf, fin 1],
   [fin 0, pinf, pinf]]

/-- `1 ≤ x₀ ≤ 2`, `x₀ - x₁ ≤ 0` -/
def latM2 : DBM 2 := DBM.ofLists 2
  [[pinf, fin 2, pinf],
   [fin (-1), pinf, pinf],
   [pinf, fin 0, pinf]]

def latP : ℕ → ℚ := fun i => if i = 0 then 1 else 2

theorem latP_mem1 : latP ∈ γB 2 latM1.e := by
  rw [← DBM.γ_eq]
  intro i j hi hj
  interval_cases i <;> interval_cases j <;> decide +kernel

theorem latP_mem2 : latP ∈ γB 2 latM2.e := by
  rw [← DBM.γ_eq]
  intro i j hi hj
  interval_cases i <;> interval_cases j <;> decide +kernel

/-- an octagon around `(1, 2)`: `0 ≤ x₀ ≤ 3`, `0 ≤ x₁ ≤ 4`, `x₀ - x₁ ≤ 0`, `x₀ + x₁ ≤ 5`, `x₁ - x₀ ≤ 1` -/
def latO1 : OctM 2 := OctM.ofLists 2
  [[pinf, fin 0],
   [fin 6, pinf],
   [fin 0, pinf, pinf, fin 0],
   [fin 5, fin 1, fin 8, pinf]]

/-- `1 ≤ x₀ ≤ 2` -/
def latO2 : OctM 2 := OctM.ofLists 2
  [[pinf, fin (-2)],
   [fin 4, pinf],
   [pinf, pinf, pinf, pinf],
   [pinf, pinf, pinf, pinf]]

theorem latP_memO1 : latP ∈ γO 2 latO1.e := by
  rw [← OctM.γ_eq]
  intro i j hi hj
  interval_cases i <;> simp only [rowSize] at hj <;> interval_cases j <;> decide +kernel

theorem latP_memO2 : latP ∈ γO 2 latO2.e := by
  rw [← OctM.γ_eq]
  intro i j hi hj
  interval_cases i <;> simp only [rowSize] at hj <;> interval_cases j <;> decide +kernel

/-! ## `BD_Shape<T>` -/

/-- `intersection_assign`: a common point stays (every bound type, every flag) -/
theorem bds_intersection_sound (R : Rnd) (n : ℕ) (c1 c2 : Bool) (m1 m2 : Mat) :
    ∀ x, x ∈ γB n m1 → x ∈ γB n m2 →
      ∃ r, bdsLatIntersection R n c1 m1 c2 m2 = some r ∧ r.dim = n ∧ x ∈ γB n r.m :=
  fun _ h1 h2 => bdsLatIntersection_sound R n c1 c2 m1 m2 h1 h2

example : ∃ r, bdsLatIntersection Rnd.ceil 2 false latM1.e true latM2.e = some r ∧ r.dim = 2 ∧ latP ∈ γB 2 r.m :=
  bds_intersection_sound _ 2 false true _ _ latP latP_mem1 latP_mem2

/-- `intersection_assign` is exact for EVERY bound type (it performs no arithmetic) -/
theorem bds_intersection_exact (R : Rnd) {n : ℕ} (c1 c2 : Bool) (m1 : Mat) (m2 : DBM n) :
    ∃ r, bdsLatIntersection R n c1 m1 c2 m2.e = some r ∧ r.dim = n ∧
      γB n r.m = γB n m1 ∩ γB n m2.e := by
  obtain ⟨r, e, hd, h⟩ := bdsLatIntersection_exact R n c1 c2 m1 m2.e m2.diag
  exact ⟨r, e, hd, Set.ext fun x => h x⟩

example : ∃ r, bdsLatIntersection (Rnd.range (-126) 126) 2 true latM1.e true latM2.e = some r ∧ r.dim = 2 ∧
    γB 2 r.m = γB 2 latM1.e ∩ γB 2 latM2.e := bds_intersection_exact _ true true _ latM2

/-- `upper_bound_assign`: a point of either argument is in the result, which is never marked empty then -/
theorem bds_upper_bound_sound (R : Rnd) (hR : R.Sound) (n : ℕ) (c1 c2 : Bool) (m1 m2 : Mat) :
    ∀ x, (x ∈ γB n m1 ∨ x ∈ γB n m2) →
      ∃ r, bdsLatUpperBound R n c1 m1 c2 m2 = some r ∧ r.dim = n ∧ x ∈ γB n r.m :=
  fun _ h => bdsLatUpperBound_sound hR n c1 c2 m1 m2 h

example : ∃ r, bdsLatUpperBound Rnd.ceil 2 false latM1.e false latM2.e = some r ∧ r.dim = 2 ∧ latP ∈ γB 2 r.m :=
  bds_upper_bound_sound _ Rnd.ceil_sound 2 false false _ _ latP (Or.inl latP_mem1)

/-- `upper_bound_assign`, exact arithmetic, closure run inside (flags clear): the result is the LEAST
bounded-difference shape containing both arguments: it is contained in `γ d` for every matrix `d`
whose shape contains both -/
theorem bds_upper_bound_exact {n : ℕ} (m1 m2 : DBM n) :
    ∃ r, bdsLatUpperBound Rnd.exact n false m1.e false m2.e = some r ∧ r.dim = n ∧
      ∀ d : Mat, γB n m1.e ⊆ γB n d → γB n m2.e ⊆ γB n d → γB n r.m ⊆ γB n d :=
  bdsLatUpperBound_least n false false m1.e m2.e m1.diag m2.diag (fun h => by cases h) (fun h => by cases h)

/-- the same with arbitrary flags: a set closed flag has to mean what it says (`bdsLatCanon`: the shape
has a point and the matrix is the least one denoting it) -/
theorem bds_upper_bound_exact_flags {n : ℕ} (c1 c2 : Bool) (m1 m2 : DBM n)
    (hc1 : c1 = true → bdsLatCanon n m1.e) (hc2 : c2 = true → bdsLatCanon n m2.e) :
    ∃ r, bdsLatUpperBound Rnd.exact n c1 m1.e c2 m2.e = some r ∧ r.dim = n ∧
      ∀ d : Mat, γB n m1.e ⊆ γB n d → γB n m2.e ⊆ γB n d → γB n r.m ⊆ γB n d :=
  bdsLatUpperBound_least n c1 c2 m1.e m2.e m1.diag m2.diag hc1 hc2

example : ∃ r, bdsLatUpperBound Rnd.exact 2 false latM1.e false latM2.e = some r ∧ r.dim = 2 ∧
    ∀ d : Mat, γB 2 latM1.e ⊆ γB 2 d → γB 2 latM2.e ⊆ γB 2 d → γB 2 r.m ⊆ γB 2 d :=
  bds_upper_bound_exact latM1 latM2

/-- `concatenate_assign`: `z` whose first `n1` coordinates are a point of `*this` and whose next `n2`
coordinates are a point of `y` is in the result -/
theorem bds_concatenate_sound (R : Rnd) (n1 n2 : ℕ) (c1 c2 : Bool) (m1 m2 : Mat) :
    ∀ z, z ∈ γB n1 m1 → (fun i => z (n1 + i)) ∈ γB n2 m2 →
      ∃ r, bdsLatConcatenate R n1 c1 m1 n2 c2 m2 = some r ∧ r.dim = n1 + n2 ∧ z ∈ γB (n1 + n2) r.m :=
  fun _ h1 h2 => bdsLatConcatenate_sound R n1 c1 m1 n2 c2 m2 h1 h2

/-- `concatenate_assign` is exact for EVERY bound type -/
theorem bds_concatenate_exact (R : Rnd) (n1 : ℕ) {n2 : ℕ} (c1 c2 : Bool) (m1 : Mat) (m2 : DBM n2) :
    ∃ r, bdsLatConcatenate R n1 c1 m1 n2 c2 m2.e = some r ∧ r.dim = n1 + n2 ∧
      ∀ z, z ∈ γB (n1 + n2) r.m ↔ (z ∈ γB n1 m1 ∧ (fun i => z (n1 + i)) ∈ γB n2 m2.e) :=
  bdsLatConcatenate_exact R n1 c1 m1 n2 c2 m2.e m2.diag

/-- the point `(1, 2, 1, 2)` -/
def latPP : ℕ → ℚ := fun i => if i = 0 ∨ i = 2 then 1 else 2

example : ∃ r, bdsLatConcatenate Rnd.ceil 2 true latM1.e 2 false latM2.e = some r ∧ r.dim = 4 ∧ latPP ∈ γB 4 r.m :=
  bds_concatenate_sound _ 2 2 true false _ _ latPP
    (latGammaB_congr (x := latP) (fun i hi => by interval_cases i <;> simp [latP, latPP]) latP_mem1)
    (latGammaB_congr (x := latP) (fun i hi => by interval_cases i <;> simp [latP, latPP]) latP_mem2)

/-- `add_space_dimensions_and_embed(k)`: the old coordinates decide (the new ones are unconstrained) -/
theorem bds_embed_exact (R : Rnd) (n : ℕ) (c : Bool) (m : Mat) (k : ℕ) :
    ∃ r, bdsLatEmbed R n c m k = some r ∧ r.dim = n + k ∧ ∀ z, z ∈ γB (n + k) r.m ↔ z ∈ γB n m :=
  bdsLatEmbed_spec R n c m k

theorem bds_embed_sound (R : Rnd) (n : ℕ) (c : Bool) (m : Mat) (k : ℕ) :
    ∀ z, z ∈ γB n m → ∃ r, bdsLatEmbed R n c m k = some r ∧ r.dim = n + k ∧ z ∈ γB (n + k) r.m := by
  intro z hz
  obtain ⟨r, e, hd, h⟩ := bdsLatEmbed_spec R n c m k
  exact ⟨r, e, hd, (h z).2 hz⟩

example : ∃ r, bdsLatEmbed Rnd.ceil 2 true latM1.e 3 = some r ∧ r.dim = 5 ∧ latP ∈ γB 5 r.m :=
  bds_embed_sound _ 2 true _ 3 latP latP_mem1

/-- `add_space_dimensions_and_project(k)`: the old coordinates are a point of the shape and the new
ones are `0` -/
theorem bds_project_exact (R : Rnd) (n : ℕ) (c : Bool) (m : Mat) (k : ℕ) :
    ∃ r, bdsLatProject R n c m k = some r ∧ r.dim = n + k ∧
      ∀ z, z ∈ γB (n + k) r.m ↔ (z ∈ γB n m ∧ ∀ i, n ≤ i → i < n + k → z i = 0) :=
  bdsLatProject_spec R n c m k

theorem bds_project_sound (R : Rnd) (n : ℕ) (c : Bool) (m : Mat) (k : ℕ) :
    ∀ z, z ∈ γB n m → (∀ i, n ≤ i → i < n + k → z i = 0) →
      ∃ r, bdsLatProject R n c m k = some r ∧ r.dim = n + k ∧ z ∈ γB (n + k) r.m := by
  intro z hz h0
  obtain ⟨r, e, hd, h⟩ := bdsLatProject_spec R n c m k
  exact ⟨r, e, hd, (h z).2 ⟨hz, h0⟩⟩

example : ∃ r, bdsLatProject Rnd.ceil 2 true latM1.e 1 = some r ∧ r.dim = 3 ∧
    (fun i => if i = 2 then 0 else latP i) ∈ γB 3 r.m :=
  bds_project_sound _ 2 true _ 1 _
    (latGammaB_congr (x := latP) (fun i hi => by simp; intro h; omega) latP_mem1)
    (fun i h1 h2 => by have : i = 2 := by omega
                       simp [this])

/-- `remove_space_dimensions(vars)`: for every point of the shape, the point with the removed
coordinates dropped (new coordinate `i` is the old dbm index `(bdsLatRemoveTable n vars)[i+1]`,
`bdsLatDropPoint`) is in the result, which is not marked empty -/
theorem bds_remove_dims_sound (R : Rnd) (hR : R.Sound) (n : ℕ) (c : Bool) (m : Mat) (vars : List ℕ)
    (hne : vars ≠ []) (hvs : ∀ v ∈ vars, v < n) :
    ∀ x, x ∈ γB n m → ∃ r, bdsLatRemoveDims R n c m vars = some r ∧ r.dim = n - vars.length ∧
      bdsLatDropPoint n vars x ∈ γB r.dim r.m :=
  fun _ hx => bdsLatRemoveDims_sound hR n c m vars hne hvs hx

example : bdsLatRemoveTable 5 [1, 3] = [0, 1, 3, 5] := by decide
example : ∃ r, bdsLatRemoveDims Rnd.ceil 2 false latM1.e [0] = some r ∧ r.dim = 1 ∧
    bdsLatDropPoint 2 [0] latP ∈ γB r.dim r.m :=
  bds_remove_dims_sound _ Rnd.ceil_sound 2 false _ [0] (by simp) (by simp) latP latP_mem1
example : bdsLatDropPoint 2 [0] latP 0 = 2 := by
  simp [bdsLatDropPoint, bdsLatRemoveTable, bdsLatRemoveSrcs, DBM.val, latP]

/-- `remove_space_dimensions(vars)`, exact arithmetic, closure run inside (flag clear): the result is
EXACTLY the projection — every point of the result is the dropped image of a point of the shape, and
an empty answer means an empty shape -/
theorem bds_remove_dims_exact {n : ℕ} (m : DBM n) (vars : List ℕ) (hne : vars ≠ []) (hvs : ∀ v ∈ vars, v < n) :
    match bdsLatRemoveDims Rnd.exact n false m.e vars with
    | none => γB n m.e = ∅
    | some r => r.dim = n - vars.length ∧
        ∀ z, z ∈ γB r.dim r.m → ∃ x, x ∈ γB n m.e ∧ ∀ i, i < r.dim → bdsLatDropPoint n vars x i = z i :=
  bdsLatRemoveDims_exact n m.e m.diag vars hne hvs

example : match bdsLatRemoveDims Rnd.exact 2 false latM1.e [0] with
    | none => γB 2 latM1.e = ∅
    | some r => r.dim = 1 ∧
        ∀ z, z ∈ γB r.dim r.m → ∃ x, x ∈ γB 2 latM1.e ∧ ∀ i, i < r.dim → bdsLatDropPoint 2 [0] x i = z i :=
  bds_remove_dims_exact latM1 [0] (by simp) (by simp)

/-- `remove_higher_space_dimensions(newDim)` -/
theorem bds_remove_higher_sound (R : Rnd) (hR : R.Sound) (n : ℕ) (c : Bool) (m : Mat) (newDim : ℕ)
    (hnd : newDim ≤ n) :
    ∀ x, x ∈ γB n m → ∃ r, bdsLatRemoveHigher R n c m newDim = some r ∧ r.dim = newDim ∧ x ∈ γB newDim r.m :=
  fun _ hx => bdsLatRemoveHigher_sound hR n c m newDim hnd hx

/-- exact arithmetic, closure run inside: the result is exactly the projection -/
theorem bds_remove_higher_exact {n : ℕ} (m : DBM n) (newDim : ℕ) (hnd : newDim < n) :
    match bdsLatRemoveHigher Rnd.exact n false m.e newDim with
    | none => γB n m.e = ∅
    | some r => r.dim = newDim ∧
        ∀ z, z ∈ γB newDim r.m → ∃ x, x ∈ γB n m.e ∧ ∀ i, i < newDim → x i = z i :=
  bdsLatRemoveHigher_exact n m.e m.diag newDim hnd

example : ∃ r, bdsLatRemoveHigher Rnd.exact 2 false latM1.e 1 = some r ∧ r.dim = 1 ∧ latP ∈ γB 1 r.m :=
  bds_remove_higher_sound _ Rnd.exact_sound 2 false _ 1 (by norm_num) latP latP_mem1

/-- `map_space_dimensions(pfunc)`: `y` with `y (pfunc i) = x i` on the domain of `pfunc` -/
theorem bds_map_dims_sound (R : Rnd) (hR : R.Sound) (n : ℕ) (c : Bool) (m : Mat) (pf : List (Option ℕ)) :
    ∀ x y, x ∈ γB n m → (∀ i, i < n → ∀ a, latMaps pf i = some a → y a = x i) →
      ∃ r, bdsLatMapDims R n c m pf = some r ∧ r.dim = latMapNewDim pf n ∧ y ∈ γB r.dim r.m :=
  fun _ _ hx hy => bdsLatMapDims_sound hR n c m pf hx hy

/-- the swap of the two coordinates -/
example : ∃ r, bdsLatMapDims Rnd.ceil 2 true latM1.e [some 1, some 0] = some r ∧
    r.dim = latMapNewDim [some 1, some 0] 2 ∧ (fun i => if i = 0 then (2 : ℚ) else 1) ∈ γB r.dim r.m :=
  bds_map_dims_sound _ Rnd.ceil_sound 2 true _ _ latP _ latP_mem1 (by
    intro i hi a ha
    interval_cases i <;> simp [latMaps] at ha <;> subst ha <;> simp [latP])
example : latMapNewDim [some 1, some 0] 2 = 2 := by decide

/-- `map_space_dimensions(pfunc)` for a total injective `pfunc` (`img i` the image of `Variable(i)`) that
does not shrink the space, i.e. when the code runs no closure (a permutation, or an injection into a
larger space): exact for EVERY bound type -/
theorem bds_map_dims_exact (R : Rnd) {n : ℕ} (c : Bool) (m : DBM n) (pf : List (Option ℕ)) (img : ℕ → ℕ)
    (himg : ∀ i, i < n → latMaps pf i = some (img i)) (hinj : latInjective pf n)
    (hns : ¬ latMaxInCodomain pf n + 1 < n) :
    ∃ r, bdsLatMapDims R n c m.e pf = some r ∧ r.dim = latMapNewDim pf n ∧
      ∀ y, y ∈ γB r.dim r.m ↔ (fun i => y (img i)) ∈ γB n m.e :=
  bdsLatMapDims_exact R n c m.e m.diag pf img himg hinj hns

example : ∃ r, bdsLatMapDims Rnd.ceil 2 false latM1.e [some 1, some 0] = some r ∧
    r.dim = latMapNewDim [some 1, some 0] 2 ∧
    ∀ y, y ∈ γB r.dim r.m ↔ (fun i => y ((fun i => if i = 0 then 1 else 0) i)) ∈ γB 2 latM1.e :=
  bds_map_dims_exact _ false latM1 _ (fun i => if i = 0 then 1 else 0)
    (by intro i hi; interval_cases i <;> simp [latMaps])
    (by intro i j a hi hj h1 h2
        interval_cases i <;> interval_cases j <;> simp [latMaps] at h1 h2 <;> omega)
    (by decide)

/-- `expand_space_dimension(var, k)`: the result is EXACTLY the set of the points `y` such that
substituting any of the copies (`var` itself or a new coordinate) for `var` gives a point of the shape
(every bound type) -/
theorem bds_expand_exact (R : Rnd) {n : ℕ} (c : Bool) (m : DBM n) (var k : ℕ) (hvar : var < n) :
    ∃ r, bdsLatExpand R n c m.e var k = some r ∧ r.dim = n + k ∧
      ∀ y, y ∈ γB (n + k) r.m ↔
        ∀ j, (j = var ∨ (n ≤ j ∧ j < n + k)) → upd y var (y j) ∈ γB n m.e :=
  bdsLatExpand_spec R n c m.e var k hvar m.diag

theorem bds_expand_sound (R : Rnd) {n : ℕ} (c : Bool) (m : DBM n) (var k : ℕ) (hvar : var < n) :
    ∀ y, (∀ j, (j = var ∨ (n ≤ j ∧ j < n + k)) → upd y var (y j) ∈ γB n m.e) →
      ∃ r, bdsLatExpand R n c m.e var k = some r ∧ r.dim = n + k ∧ y ∈ γB (n + k) r.m := by
  intro y hy
  obtain ⟨r, e, hd, h⟩ := bdsLatExpand_spec R n c m.e var k hvar m.diag
  exact ⟨r, e, hd, (h y).2 hy⟩

/-- `(1, 2, 1)`: the copy of `x₀` takes the same value -/
example : ∃ r, bdsLatExpand Rnd.ceil 2 true latM1.e 0 1 = some r ∧ r.dim = 3 ∧
    (fun i => if i = 1 then (2 : ℚ) else 1) ∈ γB 3 r.m :=
  bds_expand_sound _ true latM1 0 1 (by norm_num) _ (by
    intro j hj
    have e : upd (fun i => if i = 1 then (2 : ℚ) else 1) 0 ((fun i => if i = 1 then (2 : ℚ) else 1) j)
        = fun i => if i = 1 then (2 : ℚ) else 1 := by
      funext i
      rcases hj with rfl | ⟨h1, h2⟩
      · simp [upd]; intro h; omega
      · have : j = 2 := by omega
        subst this; simp [upd]; intro h; omega
    rw [e]
    exact latGammaB_congr (x := latP) (fun i hi => by interval_cases i <;> simp [latP]) latP_mem1)

/-- `fold_space_dimensions(vars, dest)`: for every point `x` of the shape and every `w ∈ vars ∪ {dest}`,
the point obtained by moving `x_w` to `dest` and dropping the coordinates `vars` is in the result -/
theorem bds_fold_sound (R : Rnd) (hR : R.Sound) (n : ℕ) (c : Bool) (m : Mat) (vars : List ℕ) (dest : ℕ)
    (hne : vars ≠ []) (hvs : ∀ v ∈ vars, v < n) (hdest : dest < n) :
    ∀ x w, x ∈ γB n m → (w = dest ∨ w ∈ vars) →
      ∃ r, bdsLatFold R n c m vars dest = some r ∧ r.dim = n - vars.length ∧
        bdsLatDropPoint n vars (upd x dest (x w)) ∈ γB r.dim r.m :=
  fun _ _ hx hw => bdsLatFold_sound hR n c m vars dest hne hvs hdest hx hw

example : ∃ r, bdsLatFold Rnd.ceil 2 false latM1.e [1] 0 = some r ∧ r.dim = 1 ∧
    bdsLatDropPoint 2 [1] (upd latP 0 (latP 1)) ∈ γB r.dim r.m :=
  bds_fold_sound _ Rnd.ceil_sound 2 false _ [1] 0 (by simp) (by simp) (by norm_num) latP 1 latP_mem1
    (Or.inr (by simp))

/-- `fold_space_dimensions(vars, dest)`, exact arithmetic, closure run inside (flag clear), non-empty shape:
the result is the LEAST bounded-difference shape containing every folded piece — it is contained in `γ d`
for every matrix `d` whose shape contains, for every point `x` and every `w ∈ vars ∪ {dest}`, the point
obtained by moving `x_w` to `dest` and dropping the coordinates `vars`.  `vars` ascending with ids `< n` (as
`Variables_Set` iterates); the other preconditions of the call (`dest < n`, `dest ∉ vars`) are not needed. -/
theorem bds_fold_exact {n : ℕ} (m : DBM n) (vars : List ℕ) (dest : ℕ) (hne : vars ≠ [])
    (hsorted : vars.Pairwise (· < ·)) (hvs : ∀ v ∈ vars, v < n) (hq : ∃ q, q ∈ γB n m.e) :
    ∃ r, bdsLatFold Rnd.exact n false m.e vars dest = some r ∧ r.dim = n - vars.length ∧
      ∀ d : Mat, (∀ x, x ∈ γB n m.e → ∀ w, (w = dest ∨ w ∈ vars) →
          bdsLatDropPoint n vars (upd x dest (x w)) ∈ γB r.dim d) → γB r.dim r.m ⊆ γB r.dim d :=
  bdsLatFold_exact n false m.e m.diag (fun h => by cases h) hq vars dest hne hsorted hvs

/-- the same with an arbitrary flag: a set closed flag has to mean what it says (`bdsLatCanon`) -/
theorem bds_fold_exact_flags {n : ℕ} (c : Bool) (m : DBM n) (hc : c = true → bdsLatCanon n m.e)
    (vars : List ℕ) (dest : ℕ) (hne : vars ≠ [])
    (hsorted : vars.Pairwise (· < ·)) (hvs : ∀ v ∈ vars, v < n) (hq : ∃ q, q ∈ γB n m.e) :
    ∃ r, bdsLatFold Rnd.exact n c m.e vars dest = some r ∧ r.dim = n - vars.length ∧
      ∀ d : Mat, (∀ x, x ∈ γB n m.e → ∀ w, (w = dest ∨ w ∈ vars) →
          bdsLatDropPoint n vars (upd x dest (x w)) ∈ γB r.dim d) → γB r.dim r.m ⊆ γB r.dim d :=
  bdsLatFold_exact n c m.e m.diag hc hq vars dest hne hsorted hvs

/-- folding `x₁` into `x₀` on `latM1` -/
example : ∃ r, bdsLatFold Rnd.exact 2 false latM1.e [1] 0 = some r ∧ r.dim = 2 - [1].length ∧
    ∀ d : Mat, (∀ x, x ∈ γB 2 latM1.e → ∀ w, (w = 0 ∨ w ∈ [1]) →
        bdsLatDropPoint 2 [1] (upd x 0 (x w)) ∈ γB r.dim d) → γB r.dim r.m ⊆ γB r.dim d :=
  bds_fold_exact latM1 [1] 0 (by simp) (by simp) (by simp) ⟨latP, latP_mem1⟩

/-! ## `Octagonal_Shape<T>` -/

theorem oct_intersection_sound (R : Rnd) (n : ℕ) (c1 c2 : Bool) (m1 m2 : Mat) :
    ∀ x, x ∈ γO n m1 → x ∈ γO n m2 →
      ∃ r, octLatIntersection R n c1 m1 c2 m2 = some r ∧ r.dim = n ∧ x ∈ γO n r.m :=
  fun _ h1 h2 => octLatIntersection_sound R n c1 c2 m1 m2 h1 h2

/-- exact for EVERY bound type -/
theorem oct_intersection_exact (R : Rnd) (n : ℕ) (c1 c2 : Bool) (m1 m2 : Mat) :
    ∃ r, octLatIntersection R n c1 m1 c2 m2 = some r ∧ r.dim = n ∧ γO n r.m = γO n m1 ∩ γO n m2 := by
  obtain ⟨r, e, hd, h⟩ := octLatIntersection_exact R n c1 c2 m1 m2
  exact ⟨r, e, hd, Set.ext fun x => h x⟩

example : ∃ r, octLatIntersection Rnd.ceil 2 true latO1.e false latO2.e = some r ∧ r.dim = 2 ∧ latP ∈ γO 2 r.m :=
  oct_intersection_sound _ 2 true false _ _ latP latP_memO1 latP_memO2

theorem oct_upper_bound_sound (R : Rnd) (hR : R.Sound) (n : ℕ) (c1 c2 : Bool) (m1 m2 : Mat) :
    ∀ x, (x ∈ γO n m1 ∨ x ∈ γO n m2) →
      ∃ r, octLatUpperBound R n c1 m1 c2 m2 = some r ∧ r.dim = n ∧ x ∈ γO n r.m :=
  fun _ h => octLatUpperBound_sound hR n c1 c2 m1 m2 h

example : ∃ r, octLatUpperBound Rnd.ceil 2 false latO1.e false latO2.e = some r ∧ r.dim = 2 ∧ latP ∈ γO 2 r.m :=
  oct_upper_bound_sound _ Rnd.ceil_sound 2 false false _ _ latP (Or.inr latP_memO2)

theorem oct_concatenate_sound (R : Rnd) (n1 n2 : ℕ) (c1 c2 : Bool) (m1 m2 : Mat) :
    ∀ z, z ∈ γO n1 m1 → (fun i => z (n1 + i)) ∈ γO n2 m2 →
      ∃ r, octLatConcatenate R n1 c1 m1 n2 c2 m2 = some r ∧ r.dim = n1 + n2 ∧ z ∈ γO (n1 + n2) r.m :=
  fun _ h1 h2 => octLatConcatenate_sound R n1 c1 m1 n2 c2 m2 h1 h2

/-- exact for EVERY bound type -/
theorem oct_concatenate_exact (R : Rnd) (n1 n2 : ℕ) (c1 c2 : Bool) (m1 m2 : Mat) :
    ∃ r, octLatConcatenate R n1 c1 m1 n2 c2 m2 = some r ∧ r.dim = n1 + n2 ∧
      ∀ z, z ∈ γO (n1 + n2) r.m ↔ (z ∈ γO n1 m1 ∧ (fun i => z (n1 + i)) ∈ γO n2 m2) :=
  octLatConcatenate_exact R n1 c1 m1 n2 c2 m2

example : ∃ r, octLatConcatenate Rnd.ceil 2 true latO1.e 2 false latO2.e = some r ∧ r.dim = 4 ∧ latPP ∈ γO 4 r.m :=
  oct_concatenate_sound _ 2 2 true false _ _ latPP
    (latGammaO_congr (x := latP) (fun i hi => by interval_cases i <;> simp [latP, latPP]) latP_memO1)
    (latGammaO_congr (x := latP) (fun i hi => by interval_cases i <;> simp [latP, latPP]) latP_memO2)

theorem oct_embed_exact (R : Rnd) (n : ℕ) (c : Bool) (m : Mat) (k : ℕ) :
    ∃ r, octLatEmbed R n c m k = some r ∧ r.dim = n + k ∧ ∀ z, z ∈ γO (n + k) r.m ↔ z ∈ γO n m :=
  octLatEmbed_spec R n c m k

theorem oct_embed_sound (R : Rnd) (n : ℕ) (c : Bool) (m : Mat) (k : ℕ) :
    ∀ z, z ∈ γO n m → ∃ r, octLatEmbed R n c m k = some r ∧ r.dim = n + k ∧ z ∈ γO (n + k) r.m := by
  intro z hz
  obtain ⟨r, e, hd, h⟩ := octLatEmbed_spec R n c m k
  exact ⟨r, e, hd, (h z).2 hz⟩

example : ∃ r, octLatEmbed Rnd.ceil 2 true latO1.e 3 = some r ∧ r.dim = 5 ∧ latP ∈ γO 5 r.m :=
  oct_embed_sound _ 2 true _ 3 latP latP_memO1

theorem oct_project_exact (R : Rnd) (n : ℕ) (c : Bool) (m : Mat) (k : ℕ) :
    ∃ r, octLatProject R n c m k = some r ∧ r.dim = n + k ∧
      ∀ z, z ∈ γO (n + k) r.m ↔ (z ∈ γO n m ∧ ∀ i, n ≤ i → i < n + k → z i = 0) :=
  octLatProject_spec R n c m k

theorem oct_project_sound (R : Rnd) (n : ℕ) (c : Bool) (m : Mat) (k : ℕ) :
    ∀ z, z ∈ γO n m → (∀ i, n ≤ i → i < n + k → z i = 0) →
      ∃ r, octLatProject R n c m k = some r ∧ r.dim = n + k ∧ z ∈ γO (n + k) r.m := by
  intro z hz h0
  obtain ⟨r, e, hd, h⟩ := octLatProject_spec R n c m k
  exact ⟨r, e, hd, (h z).2 ⟨hz, h0⟩⟩

example : ∃ r, octLatProject Rnd.ceil 2 true latO1.e 1 = some r ∧ r.dim = 3 ∧
    (fun i => if i = 2 then 0 else latP i) ∈ γO 3 r.m :=
  oct_project_sound _ 2 true _ 1 _
    (latGammaO_congr (x := latP) (fun i hi => by simp; intro h; omega) latP_memO1)
    (fun i h1 h2 => by have : i = 2 := by omega
                       simp [this])

/-- `remove_space_dimensions(vars)`: new coordinate `i` is the old coordinate
`(octLatRemoveTable n vars)[i]` (`octLatDropPoint`) -/
theorem oct_remove_dims_sound (R : Rnd) (hR : R.Sound) (n : ℕ) (c : Bool) (m : Mat) (vars : List ℕ)
    (hne : vars ≠ []) (hvs : ∀ v ∈ vars, v < n) :
    ∀ x, x ∈ γO n m → ∃ r, octLatRemoveDims R n c m vars = some r ∧ r.dim = n - vars.length ∧
      octLatDropPoint n vars x ∈ γO r.dim r.m :=
  fun _ hx => octLatRemoveDims_sound hR n c m vars hne hvs hx

example : octLatRemoveTable 5 [1, 3] = [0, 2, 4] := by decide
example : ∃ r, octLatRemoveDims Rnd.ceil 2 false latO1.e [0] = some r ∧ r.dim = 1 ∧
    octLatDropPoint 2 [0] latP ∈ γO r.dim r.m :=
  oct_remove_dims_sound _ Rnd.ceil_sound 2 false _ [0] (by simp) (by simp) latP latP_memO1

theorem oct_remove_higher_sound (R : Rnd) (hR : R.Sound) (n : ℕ) (c : Bool) (m : Mat) (newDim : ℕ)
    (hnd : newDim ≤ n) :
    ∀ x, x ∈ γO n m → ∃ r, octLatRemoveHigher R n c m newDim = some r ∧ r.dim = newDim ∧ x ∈ γO newDim r.m :=
  fun _ hx => octLatRemoveHigher_sound hR n c m newDim hnd hx

example : ∃ r, octLatRemoveHigher Rnd.ceil 2 false latO1.e 1 = some r ∧ r.dim = 1 ∧ latP ∈ γO 1 r.m :=
  oct_remove_higher_sound _ Rnd.ceil_sound 2 false _ 1 (by norm_num) latP latP_memO1

theorem oct_map_dims_sound (R : Rnd) (hR : R.Sound) (n : ℕ) (c : Bool) (m : Mat) (pf : List (Option ℕ)) :
    ∀ x y, x ∈ γO n m → (∀ i, i < n → ∀ a, latMaps pf i = some a → y a = x i) →
      ∃ r, octLatMapDims R n c m pf = some r ∧ r.dim = latMapNewDim pf n ∧ y ∈ γO r.dim r.m :=
  fun _ _ hx hy => octLatMapDims_sound hR n c m pf hx hy

example : ∃ r, octLatMapDims Rnd.ceil 2 true latO1.e [some 1, some 0] = some r ∧
    r.dim = latMapNewDim [some 1, some 0] 2 ∧ (fun i => if i = 0 then (2 : ℚ) else 1) ∈ γO r.dim r.m :=
  oct_map_dims_sound _ Rnd.ceil_sound 2 true _ _ latP _ latP_memO1 (by
    intro i hi a ha
    interval_cases i <;> simp [latMaps] at ha <;> subst ha <;> simp [latP])

/-- `map_space_dimensions(pfunc)` for a total injective `pfunc` (`img i` the image of `Variable(i)`) that
does not shrink the space, i.e. when the code runs no closure: exact for EVERY bound type and EVERY matrix
(no hypothesis on the diagonal: the octagon loop nest copies the diagonal cells too) -/
theorem oct_map_dims_exact (R : Rnd) (n : ℕ) (c : Bool) (m : Mat) (pf : List (Option ℕ)) (img : ℕ → ℕ)
    (himg : ∀ i, i < n → latMaps pf i = some (img i)) (hinj : latInjective pf n)
    (hns : ¬ latMaxInCodomain pf n + 1 < n) :
    ∃ r, octLatMapDims R n c m pf = some r ∧ r.dim = latMapNewDim pf n ∧
      ∀ y, y ∈ γO r.dim r.m ↔ (fun i => y (img i)) ∈ γO n m :=
  octLatMapDims_exact R n c m pf img himg hinj hns

example : ∃ r, octLatMapDims Rnd.ceil 2 false latO1.e [some 1, some 0] = some r ∧
    r.dim = latMapNewDim [some 1, some 0] 2 ∧
    ∀ y, y ∈ γO r.dim r.m ↔ (fun i => y ((fun i => if i = 0 then 1 else 0) i)) ∈ γO 2 latO1.e :=
  oct_map_dims_exact _ 2 false latO1.e _ (fun i => if i = 0 then 1 else 0)
    (by intro i hi; interval_cases i <;> simp [latMaps])
    (by intro i j a hi hj h1 h2
        interval_cases i <;> interval_cases j <;> simp [latMaps] at h1 h2 <;> omega)
    (by decide)

/-- `expand_space_dimension(var, k)`: the result is EXACTLY the set of the points `y` such that substituting
any of the copies for `var` gives a point of the shape (every bound type, no hypothesis on the matrix) -/
theorem oct_expand_exact (R : Rnd) (n : ℕ) (c : Bool) (m : Mat) (var k : ℕ) (hvar : var < n) :
    ∃ r, octLatExpand R n c m var k = some r ∧ r.dim = n + k ∧
      ∀ y, y ∈ γO (n + k) r.m ↔
        ∀ j, (j = var ∨ (n ≤ j ∧ j < n + k)) → upd y var (y j) ∈ γO n m :=
  octLatExpand_spec R n c m var k hvar

theorem oct_expand_sound (R : Rnd) (n : ℕ) (c : Bool) (m : Mat) (var k : ℕ) (hvar : var < n) :
    ∀ y, (∀ j, (j = var ∨ (n ≤ j ∧ j < n + k)) → upd y var (y j) ∈ γO n m) →
      ∃ r, octLatExpand R n c m var k = some r ∧ r.dim = n + k ∧ y ∈ γO (n + k) r.m := by
  intro y hy
  obtain ⟨r, e, hd, h⟩ := octLatExpand_spec R n c m var k hvar
  exact ⟨r, e, hd, (h y).2 hy⟩

example : ∃ r, octLatExpand Rnd.ceil 2 true latO1.e 0 1 = some r ∧ r.dim = 3 ∧
    (fun i => if i = 1 then (2 : ℚ) else 1) ∈ γO 3 r.m :=
  oct_expand_sound _ 2 true _ 0 1 (by norm_num) _ (by
    intro j hj
    have e : upd (fun i => if i = 1 then (2 : ℚ) else 1) 0 ((fun i => if i = 1 then (2 : ℚ) else 1) j)
        = fun i => if i = 1 then (2 : ℚ) else 1 := by
      funext i
      rcases hj with rfl | ⟨h1, h2⟩
      · simp [upd]; intro h; omega
      · have : j = 2 := by omega
        subst this; simp [upd]; intro h; omega
    rw [e]
    exact latGammaO_congr (x := latP) (fun i hi => by interval_cases i <;> simp [latP]) latP_memO1)

/-- `fold_space_dimensions(vars, dest)` (`vars` ascending, as `Variables_Set` iterates): for every point
`x` of the shape and every `w ∈ vars ∪ {dest}`, the point obtained by moving `x_w` to `dest` and dropping
the coordinates `vars` is in the result -/
theorem oct_fold_sound (R : Rnd) (hR : R.Sound) (n : ℕ) (c : Bool) (m : Mat) (vars : List ℕ) (dest : ℕ)
    (hne : vars ≠ []) (hsorted : vars.Pairwise (· < ·)) (hvs : ∀ v ∈ vars, v < n) (hdest : dest < n) :
    ∀ x w, x ∈ γO n m → (w = dest ∨ w ∈ vars) →
      ∃ r, octLatFold R n c m vars dest = some r ∧ r.dim = n - vars.length ∧
        octLatDropPoint n vars (upd x dest (x w)) ∈ γO r.dim r.m :=
  fun _ _ hx hw => octLatFold_sound hR n c m vars dest hne hsorted hvs hdest hx hw

example : ∃ r, octLatFold Rnd.ceil 2 false latO1.e [1] 0 = some r ∧ r.dim = 1 ∧
    octLatDropPoint 2 [1] (upd latP 0 (latP 1)) ∈ γO r.dim r.m :=
  oct_fold_sound _ Rnd.ceil_sound 2 false _ [1] 0 (by simp) (by simp) (by simp) (by norm_num) latP 1 latP_memO1
    (Or.inr (by simp))

/-- `upper_bound_assign`, exact arithmetic, closure run inside (flags clear): the result is the LEAST octagon
containing both arguments: it is contained in `γ d` for every matrix `d` whose octagon contains both -/
theorem oct_upper_bound_exact {n : ℕ} (m1 m2 : OctM n) :
    ∃ r, octLatUpperBound Rnd.exact n false m1.e false m2.e = some r ∧ r.dim = n ∧
      ∀ d : Mat, γO n m1.e ⊆ γO n d → γO n m2.e ⊆ γO n d → γO n r.m ⊆ γO n d :=
  octLatUpperBound_least n false false m1.e m2.e m1.diag m2.diag (fun h => by cases h) (fun h => by cases h)

/-- the same with arbitrary flags: a set closed flag has to mean what it says (`octLatCanon`: the shape has a
point and every stored off-diagonal cell is the least bound of its shape; every strongly closed matrix is:
`octLatCanon_of_strong`) -/
theorem oct_upper_bound_exact_flags {n : ℕ} (c1 c2 : Bool) (m1 m2 : OctM n)
    (hc1 : c1 = true → octLatCanon n m1.e) (hc2 : c2 = true → octLatCanon n m2.e) :
    ∃ r, octLatUpperBound Rnd.exact n c1 m1.e c2 m2.e = some r ∧ r.dim = n ∧
      ∀ d : Mat, γO n m1.e ⊆ γO n d → γO n m2.e ⊆ γO n d → γO n r.m ⊆ γO n d :=
  octLatUpperBound_least n c1 c2 m1.e m2.e m1.diag m2.diag hc1 hc2

example : ∃ r, octLatUpperBound Rnd.exact 2 false latO1.e false latO2.e = some r ∧ r.dim = 2 ∧
    ∀ d : Mat, γO 2 latO1.e ⊆ γO 2 d → γO 2 latO2.e ⊆ γO 2 d → γO 2 r.m ⊆ γO 2 d :=
  oct_upper_bound_exact latO1 latO2

/-- `upper_bound_assign` on two arguments marked strongly closed whose matrices are canonical: no closure is run, so
the result is the least octagon for EVERY bound type (for `Rnd.exact` this is a case of `oct_upper_bound_exact_flags`) -/
theorem oct_upper_bound_exact_partial (R : Rnd) (n : ℕ) (m1 m2 : Mat) (hc1 : octLatCanon n m1)
    (hc2 : octLatCanon n m2) :
    ∃ r, octLatUpperBound R n true m1 true m2 = some r ∧ r.dim = n ∧ r.closed = true ∧
      ∀ d : Mat, γO n m1 ⊆ γO n d → γO n m2 ⊆ γO n d → γO n r.m ⊆ γO n d :=
  octLatUpperBound_least_closed R n m1 m2 hc1 hc2

/-- `remove_space_dimensions(vars)`, exact arithmetic, closure run inside (flag clear): the result is EXACTLY
the projection — every point of the result is the dropped image of a point of the shape, and an empty answer
means an empty shape -/
theorem oct_remove_dims_exact {n : ℕ} (m : OctM n) (vars : List ℕ) (hne : vars ≠ []) (hvs : ∀ v ∈ vars, v < n) :
    match octLatRemoveDims Rnd.exact n false m.e vars with
    | none => γO n m.e = ∅
    | some r => r.dim = n - vars.length ∧
        ∀ z, z ∈ γO r.dim r.m → ∃ x, x ∈ γO n m.e ∧ ∀ i, i < r.dim → octLatDropPoint n vars x i = z i :=
  octLatRemoveDims_exact n m.e m.diag vars hne hvs

example : match octLatRemoveDims Rnd.exact 2 false latO1.e [0] with
    | none => γO 2 latO1.e = ∅
    | some r => r.dim = 1 ∧
        ∀ z, z ∈ γO r.dim r.m → ∃ x, x ∈ γO 2 latO1.e ∧ ∀ i, i < r.dim → octLatDropPoint 2 [0] x i = z i :=
  oct_remove_dims_exact latO1 [0] (by simp) (by simp)

/-- `remove_higher_space_dimensions(newDim)`, exact arithmetic, closure run inside: exact projection -/
theorem oct_remove_higher_exact {n : ℕ} (m : OctM n) (newDim : ℕ) (hnd : newDim < n) :
    match octLatRemoveHigher Rnd.exact n false m.e newDim with
    | none => γO n m.e = ∅
    | some r => r.dim = newDim ∧
        ∀ z, z ∈ γO newDim r.m → ∃ x, x ∈ γO n m.e ∧ ∀ i, i < newDim → x i = z i :=
  octLatRemoveHigher_exact n m.e m.diag newDim hnd

example : match octLatRemoveHigher Rnd.exact 2 false latO1.e 1 with
    | none => γO 2 latO1.e = ∅
    | some r => r.dim = 1 ∧
        ∀ z, z ∈ γO 1 r.m → ∃ x, x ∈ γO 2 latO1.e ∧ ∀ i, i < 1 → x i = z i :=
  oct_remove_higher_exact latO1 1 (by norm_num)

set_option linter.unusedVariables false in -- `hsorted` is a precondition of the C++ call that the proof does not use
/-- `fold_space_dimensions(vars, dest)` (`vars` ascending, `dest ∉ vars`), exact arithmetic, closure run inside
(flag clear): the octagon hull of the folded pieces is not their union, the exact statement is that the result is
the LEAST octagon containing every piece — for every matrix `d` of the result dimension whose octagon contains
all the pieces `octLatDropPoint n vars (upd x dest (x w))` (`x` a point of the shape, `w ∈ vars ∪ {dest}`),
`γ result ⊆ γ d`; an empty answer means an empty shape.  (With `oct_fold_sound`: the result contains the pieces.) -/
theorem oct_fold_exact {n : ℕ} (m : OctM n) (vars : List ℕ) (dest : ℕ) (hne : vars ≠ [])
    (hsorted : vars.Pairwise (· < ·)) (hvs : ∀ v ∈ vars, v < n) (hdest : dest < n) (hdv : dest ∉ vars) :
    match octLatFold Rnd.exact n false m.e vars dest with
    | none => γO n m.e = ∅
    | some r => r.dim = n - vars.length ∧
        ∀ d : Mat, (∀ x w, x ∈ γO n m.e → (w = dest ∨ w ∈ vars) →
            octLatDropPoint n vars (upd x dest (x w)) ∈ γO r.dim d) → γO r.dim r.m ⊆ γO r.dim d :=
  octLatFold_exact n m.e m.diag vars dest hne hvs hdest hdv

example : match octLatFold Rnd.exact 2 false latO1.e [1] 0 with
    | none => γO 2 latO1.e = ∅
    | some r => r.dim = 1 ∧
        ∀ d : Mat, (∀ x w, x ∈ γO 2 latO1.e → (w = 0 ∨ w ∈ [1]) →
            octLatDropPoint 2 [1] (upd x 0 (x w)) ∈ γO r.dim d) → γO r.dim r.m ⊆ γO r.dim d :=
  oct_fold_exact latO1 [1] 0 (by simp) (by simp) (by simp) (by norm_num) (by simp)

/-- the 0-dimensional octagon is canonical -/
example : octLatCanon 0 latO1.e :=
  ⟨⟨latP, fun a b hab => by have := hab.1; omega⟩, fun d _ i j hi _ _ => by omega⟩

/-! ## `difference_assign`: the control flow over abstract pieces

`contains`, `constraints`, `relation_with`, `add_constraint`, `is_empty` are arguments of the model
(`yContainsX`, `pieces`: see `bdsLatDifference`); what is proved is that the accumulation of the joins keeps
every point of every piece that was joined. -/

theorem bds_difference_pieces_sound (R : Rnd) (hR : R.Sound) (n : ℕ) (hn : n ≠ 0) (c1 c2 : Bool) (m1 m2 : Mat)
    (pieces : List (Option Mat)) :
    ∀ x y z p, x ∈ γB n m1 → y ∈ γB n m2 → some z ∈ pieces → p ∈ γB n z →
      ∃ r, bdsLatDifference R n c1 m1 c2 m2 false pieces = some r ∧ p ∈ γB n r.m :=
  fun _ _ _ _ hx hy hz hp => bdsLatDifference_sound hR n hn c1 c2 m1 m2 pieces hx hy hz hp

theorem oct_difference_pieces_sound (R : Rnd) (hR : R.Sound) (n : ℕ) (hn : n ≠ 0) (c1 c2 : Bool) (m1 m2 : Mat)
    (pieces : List (Option Mat)) :
    ∀ x z p, x ∈ γO n m1 → some z ∈ pieces → p ∈ γO n z →
      ∃ r, octLatDifference R n c1 m1 c2 m2 false pieces = some r ∧ p ∈ γO n r.m :=
  fun _ _ _ hx hz hp => octLatDifference_sound hR n hn c1 c2 m1 m2 pieces hx hz hp

example : ∃ r, bdsLatDifference Rnd.ceil 2 false latM1.e false latM2.e false [none, some latM1.e] = some r ∧
    latP ∈ γB 2 r.m :=
  bds_difference_pieces_sound _ Rnd.ceil_sound 2 (by norm_num) false false _ _ _ latP latP latM1.e latP
    latP_mem1 latP_mem2 (by simp) latP_mem1

end C03

import PPLV.Conv.ProofsCompleteMin
import PPLV.Conv.ProofsCompleteRay7
import PPLV.Conv.ProofsCompleteK1c
import PPLV.Conv.ProofsCompleteGauss4
import PPLV.Props.C01Conv
/-!
# completeness of the double description conversion

`C01Conv.lean` has that `Polyhedron::conversion` (model `PPLV/Conv/Model.lean`, tied row for
row to the real code) is SOUND and keeps the saturation matrix exact.  Here: it is COMPLETE — the rows it
returns generate the WHOLE cone of the source rows — and the pair it returns is minimal as the code sees
it, by induction over the main loop with the invariant the C++ comments state informally:

* `(source[0,k) kept, dest)` is a double description pair inside the ambient space (`CExtra.complete`);
* no ray's saturation row is contained in another's (`CExtra.antichain`) and none is empty (`proper`);
* the lines are linearly independent (`CExtra.rank`).

The mathematics (`PPLV/Conv/ProofsCompleteAbs*.lean`, over an arbitrary `ℚ`-vector space, no Farkas lemma,
no polyhedral library): the classical Double Description lemma (`dd_step_complete`), the lemma with the
combinatorial adjacency test (`dd_step_complete_adjacent`: skipping non-adjacent pairs loses nothing), the
quick adjacency test (elementary) and the quick non-adjacency test (one dimension count).  The model rows
(`List Int`) are embedded by `emb x = fun c => scalarProduct c x`.
-/
namespace C01
open PPLV.Conv PPLV.Conv.Abs

/-! ## the Double Description lemma, abstractly -/

/-- **`dd_step_complete`** — the classical Double Description lemma (one iteration with ALL pairs on
opposite sides combined), no hypothesis on the generators: `cone(L,R) ∩ {c ≥ 0}` is generated by the
rays with `c ≥ 0` and one strictly positive combination, lying on `c = 0`, of every pair `(c > 0, c < 0)`. -/
theorem dd_step_complete {V : Type*} [AddCommGroup V] [Module ℚ V] (L R R' : Set V) (c : V →ₗ[ℚ] ℚ)
    (hcL : ∀ l ∈ L, c l = 0) (hkeep : ∀ r ∈ R, 0 ≤ c r → r ∈ R')
    (hnew : ∀ r ∈ R, ∀ s ∈ R, 0 < c r → c s < 0 →
      ∃ p ∈ R', ∃ a b : ℚ, 0 < a ∧ 0 < b ∧ p = a • r + b • s ∧ c p = 0) :
    ∀ x, Cone L R x → 0 ≤ c x → Cone L R' x :=
  dd_step_all_pairs L R R' c hcL hkeep hnew

/-- the same for an equality `c = 0`: only the rays on the hyperplane and the combinations are needed. -/
theorem dd_step_complete_eq {V : Type*} [AddCommGroup V] [Module ℚ V] (L R R' : Set V) (c : V →ₗ[ℚ] ℚ)
    (hcL : ∀ l ∈ L, c l = 0) (hkeep : ∀ r ∈ R, c r = 0 → r ∈ R')
    (hnew : ∀ r ∈ R, ∀ s ∈ R, 0 < c r → c s < 0 →
      ∃ p ∈ R', ∃ a b : ℚ, 0 < a ∧ 0 < b ∧ p = a • r + b • s ∧ c p = 0) :
    ∀ x, Cone L R x → c x = 0 → Cone L R' x :=
  dd_step_all_pairs_eq L R R' c hcL hkeep hnew

/-- non-vacuity: the line `ℚ` generated by `1` and `-1`, cut by `x ≥ 0`: generated by `1` and `1 + (-1)`. -/
example : ∀ x : ℚ, Cone (∅ : Set ℚ) {1, -1} x → 0 ≤ x → Cone (∅ : Set ℚ) {1, 0} x := by
  apply dd_step_complete ∅ {1, -1} {1, 0} LinearMap.id
  · intro l hl; cases hl
  · intro r hr h
    rcases hr with rfl | rfl
    · simp
    · simp only [LinearMap.id_coe, id_eq] at h; norm_num at h
  · intro r hr s hs h1 h2
    have h1' : (0 : ℚ) < r := h1
    have h2' : s < (0 : ℚ) := h2
    have er : r = 1 := by
      rcases hr with rfl | hr
      · rfl
      · have : r = -1 := hr
        rw [this] at h1'; norm_num at h1'
    have es : s = -1 := by
      rcases hs with rfl | hs
      · norm_num at h2'
      · exact hs
    subst er es
    exact ⟨0, by simp, 1, 1, by norm_num, by norm_num, by norm_num, rfl⟩

/-- **`dd_step_complete_adjacent`** — the Double Description lemma with the adjacency test.  Under the
loop invariant `DDInv` (a DD pair inside `U`; no ray's saturators all saturate another ray; no ray in the
lineality space), the new cone `P ∩ {c}` is generated by the rays that satisfy `c` and the combinations of
the ADJACENT pairs only (`Adjacent`: no third ray saturates every constraint saturated by both). -/
theorem dd_step_complete_adjacent {V : Type*} [AddCommGroup V] [Module ℚ V] (U : Submodule ℚ V) (A : List (ACon V))
    (L R R' : Set V) (c : ACon V) (inv : DDInv U A L R) (hcL : ∀ l ∈ L, c.f l = 0)
    (hkeep : ∀ r ∈ R, c.holds r → r ∈ R')
    (hnew : ∀ r ∈ R, ∀ s ∈ R, 0 < c.f r → c.f s < 0 → Adjacent A R r s →
        ∃ p ∈ R', ∃ a b : ℚ, 0 < a ∧ 0 < b ∧ p = a • r + b • s ∧ c.f p = 0) :
    ∀ x ∈ U, InP A x → c.holds x → Cone L R' x :=
  ray_step_complete U A L R R' c inv hcL hkeep hnew

/-- **`nonadjacent_pair_redundant`** — the combination of ANY pair on opposite sides (in particular of a
pair the full adjacency test rejects because a third ray saturates the common saturators) is a
non-negative combination of the rows of the result built from the adjacent pairs only: skipping it loses
nothing. -/
theorem nonadjacent_pair_redundant {V : Type*} [AddCommGroup V] [Module ℚ V] (U : Submodule ℚ V) (A : List (ACon V))
    (L R R' : Set V) (c : ACon V) (inv : DDInv U A L R) (hcL : ∀ l ∈ L, c.f l = 0)
    (hkeep : ∀ r ∈ R, c.holds r → r ∈ R')
    (hnew : ∀ r ∈ R, ∀ s ∈ R, 0 < c.f r → c.f s < 0 → Adjacent A R r s →
        ∃ p ∈ R', ∃ a b : ℚ, 0 < a ∧ 0 < b ∧ p = a • r + b • s ∧ c.f p = 0)
    (r s : V) (hr : r ∈ R) (hs : s ∈ R) (a b : ℚ) (ha : 0 ≤ a) (hb : 0 ≤ b) (hz : c.f (a • r + b • s) = 0) :
    Cone L R' (a • r + b • s) := by
  apply ray_step_complete U A L R R' c inv hcL hkeep hnew
  · exact U.add_mem (U.smul_mem _ (inv.rayU r hr)) (U.smul_mem _ (inv.rayU s hs))
  · intro x hx
    exact ACon.holds_add (ACon.holds_smul a ha (inv.raySound r hr x hx)) (ACon.holds_smul b hb (inv.raySound s hs x hx))
  · exact ACon.holds_of_zero hz

/-- the invariant on a one-dimensional instance: the half line `x ≥ 0` of `ℚ`, generated by `1`. -/
theorem halfLine_inv : DDInv (⊤ : Submodule ℚ ℚ) [⟨false, LinearMap.id⟩] ∅ {(1 : ℚ)} where
  lineU := by intro l hl; cases hl
  rayU := by intro r _; trivial
  lineSat := by intro l hl; cases hl
  raySound := by
    intro r hr a ha
    have hr' : r = 1 := hr
    have ha' : a = ⟨false, LinearMap.id⟩ := by simpa using ha
    subst hr' ha'
    simp [ACon.holds]
  complete := by
    intro x _ hx
    have h0 : 0 ≤ x := by
      have := hx ⟨false, LinearMap.id⟩ (by simp)
      simpa [ACon.holds] using this
    have := Cone.of_ray (L := (∅ : Set ℚ)) (R := {(1 : ℚ)}) (r := 1) rfl x h0
    simpa using this
  antichain := by
    intro r hr r' hr' _
    have h1 : r = 1 := hr
    have h2 : r' = 1 := hr'
    rw [h1, h2]
  proper := by
    intro r hr
    have h1 : r = 1 := hr
    exact ⟨⟨false, LinearMap.id⟩, by simp, by rw [h1]; simp⟩

/-- non-vacuity: cutting the half line `x ≥ 0` with `-x ≥ 0` leaves the origin. -/
example : ∀ x ∈ (⊤ : Submodule ℚ ℚ), InP [⟨false, LinearMap.id⟩] x → (⟨false, -LinearMap.id⟩ : ACon ℚ).holds x →
    Cone (∅ : Set ℚ) ∅ x := by
  apply dd_step_complete_adjacent ⊤ [⟨false, LinearMap.id⟩] ∅ {1} ∅ ⟨false, -LinearMap.id⟩ halfLine_inv
  · intro l hl; cases hl
  · intro r hr h
    have h1 : r = 1 := hr
    rw [h1] at h
    simp [ACon.holds] at h
    norm_num at h
  · intro r hr s hs h1 h2
    have e1 : r = 1 := hr
    rw [e1] at h1
    simp at h1
    norm_num at h1

/-- **the quick adjacency test** (`Polyhedron_conversion_templates.hh:808-813`), abstractly: if the
constraints NOT saturated by `s` are, but for exactly one `e`, not saturated by `r` either (this is what
`max(ones_i, ones_j) + 1 == ones(union)` says), the pair is adjacent — GIVEN the invariant. -/
theorem quick_adjacency_test_sound {V : Type*} [AddCommGroup V] [Module ℚ V] {U : Submodule ℚ V} {A : List (ACon V)}
    {L R : Set V} (inv : DDInv U A L R) (r s : V) (hr : r ∈ R) (hs : s ∈ R) (e : ACon V) (he : e ∈ A)
    (her : e.f r = 0) (hes : e.f s ≠ 0) (hone : ∀ a ∈ A, a.f s ≠ 0 → a.f r ≠ 0 ∨ a = e) : Adjacent A R r s :=
  quick_adjacent_sound inv r s hr hs e he her hes hone

example : Adjacent [(⟨false, LinearMap.id⟩ : ACon ℚ)] {(1 : ℚ)} 1 1 := by
  intro q hq _
  exact Or.inl hq

/-- **the quick non-adjacency test** (`:755-799`), abstractly: an adjacent pair has at least
`dim U - #lines - 2` common saturators — GIVEN the invariant — so the test
`num_common_satur < num_columns - num_lines - 2` only rejects non-adjacent pairs.  (The one place where
dimensions are counted: the common kernel of the common saturators is spanned by the lines and the two
rays.) -/
theorem quick_nonadjacency_test_sound {V : Type*} [AddCommGroup V] [Module ℚ V] {U : Submodule ℚ V}
    [FiniteDimensional ℚ U] {A : List (ACon V)} {L R : Set V} (inv : DDInv U A L R)
    (Ll : List V) (hL : L = {x | x ∈ Ll}) (r s : V) (hr : r ∈ R) (hs : s ∈ R) (hadj : Adjacent A R r s)
    (Zc : List (ACon V)) (hZc : ∀ a ∈ A, a.f r = 0 → a.f s = 0 → a ∈ Zc) :
    Module.finrank ℚ U ≤ Zc.length + Ll.length + 2 :=
  quick_nonadjacent_sound inv Ll hL r s hr hs hadj Zc hZc

example : Module.finrank ℚ (⊤ : Submodule ℚ ℚ) ≤ ([] : List (ACon ℚ)).length + ([] : List ℚ).length + 2 :=
  quick_nonadjacency_test_sound halfLine_inv [] (by ext x; simp) 1 1 rfl rfl (fun q hq _ => Or.inl hq) []
    (by intro a ha h1; have : a = ⟨false, LinearMap.id⟩ := by simpa using ha
        subst this; simp at h1)

/-! ## the model: the verdict of `adjacent`, the loop invariant, the whole function -/

/-- **the three tests of `adjacent` (:755-835) together decide the abstract adjacency**, for a row of Q+
and a row of Q- of the partitioned list, GIVEN the invariant (`RayCtx`: the step hypotheses `StepHyp`,
exact saturation rows, `CExtra`; `R` is `st.rows` partitioned, `PartOK`) and no wrap-around of `dimension_type`. -/
theorem adjacent_verdict_iff (ncols : Nat) (srcK : LRow) (kept : List LRow) (st : CState) (R : List DRow) (leb sup : Nat)
    (C : RayCtx ncols srcK kept st R leb sup) (hsz : ncols < 2 ^ 64) (hkz : kept.length < 2 ^ 64)
    (i j : Nat) (di dj : DRow) (hi : st.nle ≤ i) (hj : st.nle ≤ j) (ei : R[i]? = some di) (ej : R[j]? = some dj)
    (hpos : 0 < di.sp) (hneg : dj.sp < 0) :
    (adjacent ncols st.nle kept.length st.rows.length R i j).isSome = true ↔
      Adjacent (kept.map conOf) (raysOf st.gens) (emb di.row.v) (emb dj.row.v) := by
  constructor
  · intro h
    obtain ⟨s, hs⟩ := Option.isSome_iff_exists.mp h
    exact C.adjacent_some_abs hi hj ei ej hs
  · intro h
    rw [C.adjacent_of_abs (finrank_ambient ncols) hsz hkz hi hj ei ej hpos hneg h]
    rfl

/-- **the loop invariant, one iteration**: with `kept` the processed rows owning a saturation column,
the invariant `CExtra` (complete inside the ambient space, saturation rows an antichain and
non-empty, lines independent) survives `conversionStep`, whether the new row gets a column or is
recorded as redundant. -/
theorem conversion_step_keeps_invariant (ncols : Nat) (srcK : LRow) (st : CState) (kept : List LRow)
    (hk : kept.length = st.k - st.redundant.length)
    (hs : ∀ d ∈ st.rows, ∀ s ∈ kept, satisfies s d.row)
    (hl : ∀ m d, st.rows[m]? = some d → d.row.le = decide (m < st.nle)) (hn : st.nle ≤ st.rows.length)
    (hsat : RowsSatCorrect kept st.rows) (X : CExtra ncols kept st)
    (hsz : ncols < 2 ^ 64) (hkz : kept.length < 2 ^ 64) :
    ((conversionStep ncols srcK st).redundant = st.redundant → CExtra ncols (kept ++ [srcK]) (conversionStep ncols srcK st)) ∧
    ((conversionStep ncols srcK st).redundant = st.redundant ++ [st.k] → CExtra ncols kept (conversionStep ncols srcK st)) :=
  conversionStep_extra ncols srcK st kept hk hs hl hn hsat X hsz hkz

/-- the triangle `x ≥ 0, y ≥ 0, x + y ≤ 2` (+ positivity), used for the non-vacuity examples. -/
private def triangle : List LRow := [⟨false, [0, 1, 0]⟩, ⟨false, [0, 0, 1]⟩, ⟨false, [2, -1, -1]⟩, ⟨false, [1, 0, 0]⟩]

example : CExtra 3 [] { rows := initRows (identityLines 3) (List.replicate 3 (List.replicate 4 false)),
                        nle := 3, k := 0, redundant := [] } := cextra_identity 3 4

/-- **`conversion_complete`** — the conversion run by `minimize` (from the identity matrix of lines, no
row processed) returns generators that generate the WHOLE cone of `source`: every `x` (with at most
`ncols` coordinates) satisfying every source row is a combination of the returned rows, any
coefficient on the lines, non-negative on the others (`Generated`, `Spec.lean`). -/
theorem conversion_complete (ncols : Nat) (source : List LRow) (hsz : ncols < 2 ^ 64) (hsrc : source.length < 2 ^ 64) :
    ∀ x : Vec, x.length ≤ ncols → holdsAll source x →
      Generated (conversion ncols source 0 (identityLines ncols)
        (List.replicate ncols (List.replicate source.length false)) ncols).dest x := by
  intro x hx h
  have D := conversion_identity_complete ncols source hsz hsrc
  exact D.generated x hx (fun s hs => h s (conversion_source_subset _ _ _ _ _ _ s hs))

/-- non-vacuity: `(2, 1, 1)` (the point `(1/2, 1/2)`) is generated by the three vertices `conversion` returns. -/
example : Generated [⟨false, [1, 0, 0]⟩, ⟨false, [1, 0, 2]⟩, ⟨false, [1, 2, 0]⟩] [2, 1, 1] := by
  have h := conversion_complete 3 triangle (by norm_num) (by simp [triangle]) [2, 1, 1] (by simp) (by
    intro r hr
    simp only [triangle, List.mem_cons, List.not_mem_nil, or_false] at hr
    rcases hr with rfl | rfl | rfl | rfl <;> simp [holds, scalarProduct])
  have e : (conversion 3 triangle 0 (identityLines 3) (List.replicate 3 (List.replicate triangle.length false)) 3).dest
      = [⟨false, [1, 0, 0]⟩, ⟨false, [1, 0, 2]⟩, ⟨false, [1, 2, 0]⟩] := by decide
  rw [e] at h; exact h

/-- **`conversion_complete_from`** — the incremental case (`add_and_minimize`, `start > 0`): if the pair
handed in satisfies the invariant for the rows already processed (a DD pair of `source[0,start)` inside the
ambient space, exact saturation matrix, saturation rows of the rays an antichain and non-empty, lines
independent: `CExtra`), the pair returned is a DD pair of the whole `source`, with the same minimality. -/
theorem conversion_complete_from (ncols : Nat) (source : List LRow) (start : Nat) (dest : List LRow) (sat : List BRow)
    (nle : Nat) (hstart : start ≤ source.length) (h0 : Sound (source.take start) dest) (hl : LinesFirst dest nle)
    (hn : nle ≤ dest.length) (hsat0 : SatCorrect (source.take start) dest sat)
    (X0 : CExtra ncols (source.take start) { rows := initRows dest sat, nle := nle, k := start, redundant := [] })
    (hsz : ncols < 2 ^ 64) (hsrc : source.length < 2 ^ 64) :
    DDComplete ncols (conversion ncols source start dest sat nle) ∧
    ∀ x : Vec, x.length ≤ ncols → holdsAll source x → Generated (conversion ncols source start dest sat nle).dest x := by
  have D := conversion_complete' ncols source start dest sat nle hstart h0 hl hn hsat0 X0 hsz hsrc
  exact ⟨D, fun x hx h => D.generated x hx (fun s hs => h s (conversion_source_subset _ _ _ _ _ _ s hs))⟩

example : SatCorrect ([] : List LRow) (identityLines 3) (List.replicate 3 (List.replicate 4 false)) :=
  satCorrect_identity 3 4

/-- **`conversion_dd_pair`** — the output of the conversion run by `minimize` is a double description
pair of the input cone, in minimal form as the code sees it:
every returned row satisfies every source row and the lines come first (`conversion_sound`); every vector
satisfying the source rows is generated (`conversion_complete`); the saturation matrix returned is exact
(`conversion_sat_correct`); no ray saturates every kept source row another ray saturates, none saturates
all of them, and the lines are linearly independent (`DDComplete`). -/
theorem conversion_dd_pair (ncols : Nat) (source : List LRow) (hsz : ncols < 2 ^ 64) (hsrc : source.length < 2 ^ 64) :
    let r := conversion ncols source 0 (identityLines ncols) (List.replicate ncols (List.replicate source.length false)) ncols
    Sound source r.dest ∧ LinesFirst r.dest r.nle ∧
    (∀ x : Vec, x.length ≤ ncols → holdsAll source x → Generated r.dest x) ∧
    (∀ x : Vec, Generated r.dest x → holdsAll source x) ∧
    SatCorrect r.source r.dest r.sat ∧ DDComplete ncols r := by
  intro r
  obtain ⟨hs, hlf, _⟩ := conversion_identity_sound ncols source
  exact ⟨hs, hlf, conversion_complete ncols source hsz hsrc, holdsAll_of_generated hs,
    conversion_identity_sat ncols source, conversion_identity_complete ncols source hsz hsrc⟩

example : (conversion 3 triangle 0 (identityLines 3) (List.replicate 3 (List.replicate triangle.length false)) 3).nle = 0 ∧
    (conversion 3 triangle 0 (identityLines 3) (List.replicate 3 (List.replicate triangle.length false)) 3).source.length = 3 := by
  decide

/-! ## tie to the K1 kernel -/

/-- **`conversion_output_passes_checkDD`** — the per-run obligation `dd` of the native driver `pplv_conv`
(`ddHolds`, `PPLV/Conv/SpecK1.lean`: the K1 decider `checkDD` — proved sound and complete,
`checkDD_iff_genSem` — on the homogeneous cone of the constraint rows and the cone generated by the returned
rows plus the origin) ALWAYS holds of what the model of `conversion` returns, when the source rows have at
most `ncols` columns: `sem (coneCons source) = GenSem ncols (coneGens ncols dest)` in K1's own semantics.
The driver keeps evaluating `ddHolds` on the REAL output of every journalled call: the theorem says the
model cannot fail it, the run that the real code does not either. -/
theorem conversion_output_passes_checkDD (ncols : Nat) (source : List LRow) (hsz : ncols < 2 ^ 64)
    (hsrc : source.length < 2 ^ 64) (hlen : ∀ s ∈ source, s.v.length ≤ ncols) :
    ddHolds ncols source (conversion ncols source 0 (identityLines ncols)
        (List.replicate ncols (List.replicate source.length false)) ncols).dest = true ∧
    PPLV.Lin.sem (coneCons source) = PPLV.Lin.GenSem ncols (coneGens ncols (conversion ncols source 0 (identityLines ncols)
        (List.replicate ncols (List.replicate source.length false)) ncols).dest) :=
  ⟨conversion_checkDD ncols source hsz hsrc hlen, conversion_sem_eq_genSem ncols source hsz hsrc hlen⟩

example : ∀ s ∈ triangle, s.v.length ≤ 3 := by decide

/-! ## an "empty" report is right -/

/-- **`minimize_empty_report_correct`** — when `minimize(true, cs, gs, sat)` reports "empty" (no generator
beyond the lines has a positive divisor — C — or epsilon coefficient — NNC), the constraint system has no
solution with a positive divisor / epsilon: the polyhedron is empty.  Needed besides completeness: the
source rows entail that this coordinate is non-negative (the positivity constraint, present or implied;
PPL's low-level constraints always do). -/
theorem minimize_empty_report_correct (nnc : Bool) (ncols : Nat) (source : List LRow) (sat0 : List BRow)
    (hsz : ncols < 2 ^ 64) (hsrc : source.length < 2 ^ 64)
    (hpos : ∀ x : Vec, x.length ≤ ncols → holdsAll source x → 0 ≤ x.getD (if nnc then ncols - 1 else 0) 0)
    (h : (minimize true nnc ncols source sat0).empty = true) :
    ∀ x : Vec, x.length ≤ ncols → holdsAll source x → ¬ 0 < x.getD (if nnc then ncols - 1 else 0) 0 := by
  intro x hx hall hgt
  have hp : hasPoint nnc ncols
      (conversion ncols source 0 (identityLines ncols) (List.replicate ncols (List.replicate source.length false)) ncols).nle
      (conversion ncols source 0 (identityLines ncols) (List.replicate ncols (List.replicate source.length false)) ncols).dest
      = false := by
    by_contra hc
    rw [minimize_of_point true nnc ncols source sat0 _ _ rfl rfl (by simpa using hc)] at h
    cases h
  have := no_point_of_hasPoint_false nnc ncols source hsz hsrc hpos hp x hx hall
  omega

/-- non-vacuity: `x ≥ 1, x ≤ 0` (rows `-d + x ≥ 0`, `-x ≥ 0`, `d ≥ 0`): reported empty. -/
example :
    (minimize true false 2 [⟨false, [-1, 1]⟩, ⟨false, [0, -1]⟩, ⟨false, [1, 0]⟩] []).empty = true ∧
    (∀ x : Vec, x.length ≤ 2 → holdsAll [⟨false, [-1, 1]⟩, ⟨false, [0, -1]⟩, ⟨false, [1, 0]⟩] x → 0 ≤ x.getD 0 0) := by
  refine ⟨by decide, ?_⟩
  intro x _ h
  have := h ⟨false, [1, 0]⟩ (by simp)
  unfold holds at this
  simp only [Bool.false_eq_true, if_false] at this
  match x with
  | [] => simp
  | a :: xs =>
    cases xs with
    | nil => simpa [scalarProduct] using this
    | cons b ys => simpa [scalarProduct] using this

/-! ## the rows `simplify` drops are redundant

The converse of `C01.simplify_sound`.  Proved without Farkas' lemma: a vector that satisfies the
rows kept but violates a row dropped is moved towards an interior point of the cone until the last
violated dropped row becomes tight; that point is generated (completeness) by generators saturating the
dropped row — which all saturate the kept row that dominates it (independence rule), or span too small a
space (saturation rule: one dimension count).  The `_partial` statements carry two hypotheses about the
echelon form produced by `gauss`: `hrank` (the number of equalities returned is `< num_columns`, so
`num_columns - num_equalities - 1` does not wrap) and `hpiv` (`back_substitute` meets no zero pivot row:
the code's own assertion).  Both are theorems (`simplify_rank_lt` when some generator is not the zero row,
`simplify_backSubPivots` always, `PPLV/Conv/ProofsCompleteGauss*.lean`); the statements without them
(`simplify_drops_only_redundant`, `simplify_same_set`, `minimize_same_set`) and minimality of the result
(`simplify_result_irredundant`, `conversion_rays_irredundant`, `minimize_minimal_form`) are in
`PPLV/Props/C01ConvMinimal.lean`. -/

/-- everything `simplify` does before `back_substitute` (equality detection, `gauss`, dropping the dependent
equalities, saturation rule, independence rule) drops only redundant rows; needs `hrank` only. -/
theorem simplify_phases_drop_only_redundant (ncols numColsSat : Nat) (rows : List LRow) (sat : List BRow)
    (gens : List LRow) (hsat : SatCorrect gens rows sat) (hsound : Sound rows gens)
    (hcomp : ∀ x : Vec, x.length ≤ ncols → holdsAll rows x → Generated gens x)
    (hncs : numColsSat = gens.length) (hglen : ∀ g ∈ gens, g.v.length ≤ ncols) (hsz : ncols < 2 ^ 64)
    (hrank : (simplify ncols numColsSat (zipSys rows sat)).2 + 1 ≤ ncols) :
    ∀ x : Vec, x.length ≤ ncols →
      holdsAll ((simpT ncols numColsSat (zipSys rows sat)).map (·.row)) x → holdsAll rows x :=
  PPLV.Conv.simplify_phases_drop_only_redundant ncols numColsSat rows sat gens hsat hsound hcomp hncs hglen hsz hrank

/-- **`simplify_drops_only_redundant_partial`** — GIVEN a double description pair `(rows, gens)` with its
exact saturation matrix, every vector (with at most `ncols` coordinates) satisfying the system `simplify`
returns satisfies the system it was given.  `_partial`: `hrank` and `hpiv` (see above) are assumed. -/
theorem simplify_drops_only_redundant_partial (ncols numColsSat : Nat) (rows : List LRow) (sat : List BRow)
    (gens : List LRow) (hsat : SatCorrect gens rows sat) (hsound : Sound rows gens)
    (hcomp : ∀ x : Vec, x.length ≤ ncols → holdsAll rows x → Generated gens x)
    (hncs : numColsSat = gens.length) (hglen : ∀ g ∈ gens, g.v.length ≤ ncols) (hsz : ncols < 2 ^ 64)
    (hrank : (simplify ncols numColsSat (zipSys rows sat)).2 + 1 ≤ ncols)
    (hpiv : BackSubPivots (simpP ncols (zipSys rows sat)).2
      (List.range (simpP ncols (zipSys rows sat)).2).reverse (simpT ncols numColsSat (zipSys rows sat))) :
    ∀ x : Vec, x.length ≤ ncols →
      holdsAll ((simplify ncols numColsSat
        (List.zipWith (fun a s => ({ row := a, sat := s } : SRow)) rows sat)).1.map (·.row)) x →
      holdsAll rows x :=
  PPLV.Conv.simplify_drops_only_redundant_partial ncols numColsSat rows sat gens hsat hsound hcomp hncs hglen hsz hrank hpiv

/-- non-vacuity: the square `0 ≤ x ≤ 1, 0 ≤ y ≤ 1` with the redundant `x + y ≤ 3` and its four vertices:
`hrank` holds and `simplify` returns exactly the four sides. -/
example :
    let rows : List LRow := [⟨false, [0, 1, 0]⟩, ⟨false, [1, -1, 0]⟩, ⟨false, [0, 0, 1]⟩, ⟨false, [1, 0, -1]⟩, ⟨false, [3, -1, -1]⟩]
    let sat : List BRow := [[false, true, false, true], [true, false, true, false], [false, false, true, true],
                            [true, true, false, false], [true, true, true, true]]
    (simplify 3 4 (zipSys rows sat)).2 + 1 ≤ 3 ∧
    (simplify 3 4 (zipSys rows sat)).1.map (·.row)
      = [⟨false, [0, 1, 0]⟩, ⟨false, [1, -1, 0]⟩, ⟨false, [0, 0, 1]⟩, ⟨false, [1, 0, -1]⟩] := by
  decide

/-- **`minimize_same_set_partial`** — the whole of `minimize(true, cs, gs, sat)`: when it does not report
"empty", the constraint system it leaves has exactly the solutions (vectors with at most `ncols`
coordinates) of the system it was given.  `→`: `conversion` is complete, and the rows dropped by `conversion`
and by `simplify` are redundant (`_partial` for `hrank`, `hpiv`); `←` is `C01.simplify_sound`, made
unconditional by completeness. -/
theorem minimize_same_set_partial (nnc : Bool) (ncols : Nat) (source : List LRow) (sat0 : List BRow)
    (hsz : ncols < 2 ^ 64) (hsrc : source.length < 2 ^ 64)
    (hne : (minimize true nnc ncols source sat0).empty = false)
    (hrank : let r := conversion ncols source 0 (identityLines ncols) (List.replicate ncols (List.replicate source.length false)) ncols
      (simplify ncols r.dest.length (zipSys r.source (transpose r.source.length r.sat))).2 + 1 ≤ ncols)
    (hpiv : let r := conversion ncols source 0 (identityLines ncols) (List.replicate ncols (List.replicate source.length false)) ncols
      BackSubPivots (simpP ncols (zipSys r.source (transpose r.source.length r.sat))).2
        (List.range (simpP ncols (zipSys r.source (transpose r.source.length r.sat))).2).reverse
        (simpT ncols r.dest.length (zipSys r.source (transpose r.source.length r.sat)))) :
    ∀ x : Vec, x.length ≤ ncols →
      (holdsAll (minimize true nnc ncols source sat0).source x ↔ holdsAll source x) :=
  minimize_same_set_iff nnc ncols source sat0 hsz hsrc hne

example : (minimize true false 2 [⟨false, [1, 0]⟩, ⟨false, [3, -1]⟩] []).empty = false ∧
    (minimize true false 2 [⟨false, [1, 0]⟩, ⟨false, [3, -1]⟩] []).source = [⟨false, [1, 0]⟩, ⟨false, [3, -1]⟩] := by
  decide

/-! ## the status-protocol contract: which clauses are theorems

`PPLV/PolyStatus/Helpers.lean` models `minimize` / `add_and_minimize` as ghost parameters (`convCG`,
`convGC`, `addMinC`, `addMinG`) "assumed exact — they report "empty" iff the set is empty, and they produce a
DD pair in minimal form from valid inputs".  For the conversion model the following clauses of that
contract are theorems (for `minimize(true, …)` on a source system that entails positivity, with no
`dimension_type` overflow):

1. a report "empty" is right (`emp`) — `minimize_empty_report_correct`;
2. a report "not empty" is right — `C01.minimize_nonempty_sound`;
3. the generators produced denote the set of the constraints (`vG := vC`, `dd := true`) — soundness and
   completeness of `dest`;
4. the generators are in minimal form (`mG := true`) as the code measures it: saturation rows of the rays
   pairwise incomparable and non-empty, lines independent (`DDComplete`);
5. the saturation matrix of the conversion is exact (`vSG`) — `C01.conversion_sat_correct` (the rows `simplify` then
   drops from it are redundant: `simplify_drops_only_redundant_partial` above, `C01.simplify_drops_only_redundant`).

`mC := true` (the simplified constraint system has the same solutions and no redundant inequality remains)
is `C01.minimize_minimal_form` in `C01ConvMinimal.lean`.  Still assumed there (not theorems of this model):
the `sorted` flags (`srcS`, `dstS`), and the
generator-to-constraint direction `convGC`, which is the same function on swapped arguments (the theorems
above are stated for `conversion` itself and apply verbatim; only clause 1-2 are specific to `con_to_gen`). -/
theorem status_contract_clauses (ncols : Nat) (source : List LRow) (sat0 : List BRow)
    (hsz : ncols < 2 ^ 64) (hsrc : source.length < 2 ^ 64)
    (hpos : ∀ x : Vec, x.length ≤ ncols → holdsAll source x → 0 ≤ x.getD 0 0) :
    let m := minimize true false ncols source sat0
    (m.empty = true → ∀ x : Vec, x.length ≤ ncols → holdsAll source x → ¬ 0 < x.getD 0 0) ∧
    (m.empty = false → ∃ d ∈ m.dest, 0 < d.v.getD 0 0 ∧ ∀ s ∈ source, satisfies s d) ∧
    Sound source m.dest ∧
    (∀ x : Vec, x.length ≤ ncols → holdsAll source x → Generated m.dest x) ∧
    (∃ r : ConvResult, r.dest = m.dest ∧ DDComplete ncols r ∧ SatCorrect r.source r.dest r.sat) := by
  intro m
  have hdest : m.dest = (conversion ncols source 0 (identityLines ncols)
      (List.replicate ncols (List.replicate source.length false)) ncols).dest := by
    show (minimize true false ncols source sat0).dest = _
    cases hp : hasPoint false ncols
      (conversion ncols source 0 (identityLines ncols)
        (List.replicate ncols (List.replicate source.length false)) ncols).nle
      (conversion ncols source 0 (identityLines ncols)
        (List.replicate ncols (List.replicate source.length false)) ncols).dest
    · rw [minimize_of_no_point true false ncols source sat0 _ rfl hp]
    · rw [minimize_of_point true false ncols source sat0 _ _ rfl rfl hp]
  obtain ⟨_, _, hcomp, _, hsatc, hD⟩ := conversion_dd_pair ncols source hsz hsrc
  refine ⟨?_, ?_, ?_, ?_, ?_⟩
  · intro h
    exact minimize_empty_report_correct false ncols source sat0 hsz hsrc hpos h
  · exact C01.minimize_nonempty_sound ncols source sat0
  · exact C01.minimize_dest_sound true false ncols source sat0
  · rw [hdest]; exact hcomp
  · exact ⟨_, hdest.symm, hD, hsatc⟩

example : (minimize true false 2 [⟨false, [1, 0]⟩, ⟨false, [3, -1]⟩] []).empty = false := by decide

end C01

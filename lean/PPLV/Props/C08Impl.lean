import PPLV.Widen.ImplPolySem
import PPLV.Widen.ImplH79ProofsDriver
import PPLV.Widen.ImplH79ProofsMain
import PPLV.Widen.ImplH79ProofsEx
import PPLV.Widen.ImplH79ProofsGen
import PPLV.Widen.ImplBHRZ03Proofs
import PPLV.Widen.ImplBHRZ03ProofsNNC
import PPLV.Widen.ProofsConv
import PPLV.Widen.ImplH79ProofsEngine
import PPLV.Widen.ImplH79ProofsEngineBridge4
import PPLV.Widen.ImplH79ProofsEngineMinEx
import PPLV.Widen.ImplH79ProofsEngineFacetPoints
import PPLV.Widen.ImplH79ProofsEngineChain

/-!
# C08 — the polyhedra widenings as coded: `H79_widening_assign`, `BHRZ03_widening_assign`

Theorems about the code-shaped models `PPLV/Widen/ImplH79.lean`, `PPLV/Widen/ImplBHRZ03.lean`
(semantics and the contract of the conversions: `PPLV/Widen/ImplPolySem.lean`; helper lemmas:
`PPLV/Widen/ImplH79Proofs*.lean`, `PPLV/Widen/ImplBHRZ03Proofs.lean`).
The weakly-relational widenings are in `PPLV/Props/C08ImplShape.lean`, the grid widenings in
`PPLV/Props/C08ImplGrid.lean`.

The running example of the non-vacuity checks (`PPLV/Widen/ImplH79ProofsEx.lean`): `y = [0, 1]`,
`x = [0, 2]` in dimension 1, with `MinimalDD 1 yEx` PROVED (`yEx_minimal`); the selection keeps `p ≥ 0`.
-/
namespace C08
open PPLV.Widen PPLV.Widen.Impl

/-- what `H79_widening_assign` leaves in `*this`, as a point set -/
def resDen (x : Poly) (γx γy : Set Pt) : Res → Set Pt
  | .unchanged => γx
  | .assignY => γy
  | .fresh cs => den x.nnc x.n cs

/-! ### data of the examples -/

/-- `x = [0, 2]` with up-to-date constraints -/
def exPoly : Poly :=
  { nnc := false, n := 1, markedEmpty := false, pendingGens := false, consUpToDate := true,
    conSys := xEx.conSys, genSys := xEx.genSys }

/-- the same `x` given by generators only (the [CousotH78] shortcut is taken) -/
def exPolyGens : Poly := { exPoly with consUpToDate := false }

def exOracle : Oracle :=
  { yMin := some yEx, xConsUpdated := xEx.conSys, ySel := yEx, xContains := fun _ => false }

/-! ## `select_H79_constraints` -/

/-- **only constraints of `x` are kept**: `cs_selected` and `cs_not_selected` partition `x.con_sys`
    in order. -/
theorem h79_selected_sublist (nnc : Bool) (xCs yCs : List CRow) (yGens : List GRow) (satG : List BitRow) :
    (selectH79Constraints nnc xCs yCs yGens satG).1.Sublist xCs ∧
    (selectH79Constraints nnc xCs yCs yGens satG).2.Sublist xCs ∧
    ∀ c ∈ xCs, c ∈ (selectH79Constraints nnc xCs yCs yGens satG).1 ∨
               c ∈ (selectH79Constraints nnc xCs yCs yGens satG).2 := by
  rw [selectH79_fst, selectH79_snd]
  refine ⟨List.filter_sublist, List.filter_sublist, fun c hc => ?_⟩
  by_cases h : sortedContains (tmpSatG nnc yCs satG) (satRow c yGens) = true
  · exact Or.inl (List.mem_filter.mpr ⟨hc, h⟩)
  · exact Or.inr (List.mem_filter.mpr ⟨hc, by simpa using h⟩)

example : selectH79Constraints false xEx.conSys yEx.conSys yEx.genSys yEx.satG =
    ([⟨[0, 1], false⟩], [⟨[2, -1], false⟩]) := by decide

/-- **what the selection guarantees**: a selected constraint of `x` is positive on exactly the generators
    of `y` on which some row `cj` of `y`'s minimal system is positive (it saturates the same generators). -/
theorem h79_selected_are_ys (nnc : Bool) (xCs yCs : List CRow) (yGens : List GRow) (satG : List BitRow)
    (hs : satG = yCs.map fun c => satRow c yGens)
    (ci : CRow) (hci : ci ∈ (selectH79Constraints nnc xCs yCs yGens satG).1) :
    ∃ cj ∈ yCs, ∀ g ∈ yGens, (0 < sp ci.e g.e ↔ 0 < sp cj.e g.e) := by
  obtain ⟨_, b, hb, hbe⟩ := mem_selectH79_fst hci
  have hl : satG.length = yCs.length := by rw [hs]; simp
  have hb' := mem_tmpSatG hl hb
  rw [hs, List.mem_map] at hb'
  obtain ⟨cj, hcj, hcjb⟩ := hb'
  refine ⟨cj, hcj, fun g hg => ?_⟩
  have he : satRow ci yGens = satRow cj yGens := by rw [← hbe, hcjb]
  unfold satRow at he
  have := List.map_inj_left.mp he g hg
  simpa using this

example : (⟨[0, 1], false⟩ : CRow) ∈ (selectH79Constraints false xEx.conSys yEx.conSys yEx.genSys yEx.satG).1 ∧
    yEx.satG = yEx.conSys.map fun c => satRow c yEx.genSys := by decide

/-- … and with at most one tautology in `y.con_sys` (every minimised closed polyhedron) the matched row is
    not a tautology: the swap-with-last loop removes exactly the tautological rows. -/
theorem h79_selected_are_ys_nontaut (nnc : Bool) (xCs yCs : List CRow) (yGens : List GRow) (satG : List BitRow)
    (hs : satG = yCs.map fun c => satRow c yGens)
    (h1 : (yCs.filter (·.isTautological nnc)).length ≤ 1)
    (ci : CRow) (hci : ci ∈ (selectH79Constraints nnc xCs yCs yGens satG).1) :
    ∃ cj ∈ yCs, cj.isTautological nnc = false ∧ satRow ci yGens = satRow cj yGens := by
  obtain ⟨_, b, hb, hbe⟩ := mem_selectH79_fst hci
  have hl : satG.length = yCs.length := by rw [hs]; simp
  obtain ⟨j, hj, hnt, hsj⟩ := mem_tmpSatG_nontaut hl h1 hb
  refine ⟨yCs.getD j default, ?_, hnt, ?_⟩
  · rw [List.getD_eq_getElem _ _ hj]; exact List.getElem_mem hj
  · rw [← hbe, ← hsj]
    have hj' : j < satG.length := by omega
    rw [List.getD_eq_getElem _ _ hj', List.getD_eq_getElem _ _ hj]
    simp [hs]

/-- a system with the positivity constraint (a tautology) in the middle: the loop swaps it out -/
example : (([⟨[0, 1], false⟩, ⟨[1, 0], false⟩, ⟨[1, -1], false⟩] : List CRow).filter
      (·.isTautological false)).length ≤ 1 ∧
    tmpSatG false [⟨[0, 1], false⟩, ⟨[1, 0], false⟩, ⟨[1, -1], false⟩]
      [[false, true], [true, true], [true, false]] = [[false, true], [true, false]] := by decide

/-- the hypothesis `h1` cannot be dropped: with two tautologies (first and last row) the loop swaps the last
    row to the front and never examines it — the row of a tautology stays in `tmp_sat_g` (the quirk of the
    swap-with-last loop; for closed minimised systems there is at most one tautology) -/
example : tmpSatG false [⟨[1, 0], false⟩, ⟨[0, 1], false⟩, ⟨[2, 0], false⟩]
      [[true, true], [false, true], [true, false]] = [[true, false], [false, true]] ∧
    (⟨[2, 0], false⟩ : CRow).isTautological false = true := by decide

/-! ## `H79_widening_assign` -/

/-- **`result ⊇ x`** (closed polyhedra, every path of the function): the constraint path keeps a sublist of
    `x.con_sys`; the [CousotH78] shortcut keeps the constraints of `y` that all generators of `x` satisfy;
    `x = y` is taken only when all of them do. -/
theorem h79_contains_x (x : Poly) (hc : x.nnc = false) (yEmpty : Bool) (o : Oracle) (tp : Option Nat)
    (γx γy : Set Pt)
    (hx : γx ⊆ den false x.n o.xConsUpdated)
    (hgen : ∀ c : CRow, satisfiedByAllGenerators false x.genSys c = true → ∀ p ∈ γx, c.holds (hom x.n p 0))
    (hy : ∀ y, o.yMin = some y → den false x.n y.conSys ⊆ γy) :
    γx ⊆ resDen x γx γy (h79WideningAssign x yEmpty o tp).1 := by
  have hch : ∀ ycs : List CRow, γx ⊆ den false x.n (selectCH78Constraints false x.genSys ycs) := by
    intro ycs p hp c hcm
    exact hgen c (List.mem_filter.mp hcm).2 p hp
  rcases h79_cases x yEmpty o tp with h | ⟨y, hym, _, hlen, h⟩ | ⟨y, _, _, h⟩ | h
  · rw [h]; exact subset_rfl
  · rw [h]
    rw [hc] at hlen
    unfold selectCH78Constraints at hlen
    rw [List.length_filter_eq_length_iff] at hlen
    intro p hp
    exact hy y hym fun c hcm => hgen c (hlen c hcm) p hp
  · rw [h]
    simp only [resDen, hc]
    exact hch _
  · rw [h]
    simp only [resDen, hc]
    exact hx.trans (den_mono_sublist false x.n (h79_selected_sublist _ _ _ _ _).1)

/-- constraint path: `[0, 2] ∇ [0, 1] = [0, +∞)` -/
example : den false 1 xEx.conSys ⊆ den false 1 [⟨[0, 1], false⟩] := by
  have h := h79_contains_x exPoly rfl false exOracle none (den false 1 xEx.conSys) (den false 1 yEx.conSys)
    subset_rfl xEx_hgen (fun y hy => by cases hy; exact subset_rfl)
  have e : (h79WideningAssign exPoly false exOracle none).1 = .fresh [⟨[0, 1], false⟩] := by rfl
  rw [e] at h
  exact h

/-- generator path ([CousotH78] shortcut): the same result -/
example : (h79WideningAssign exPolyGens false exOracle none).1 = .fresh [⟨[0, 1], false⟩] ∧
    den false 1 xEx.conSys ⊆ resDen exPolyGens (den false 1 xEx.conSys) (den false 1 yEx.conSys)
      (h79WideningAssign exPolyGens false exOracle none).1 :=
  ⟨by rfl, h79_contains_x exPolyGens rfl false exOracle none _ _ subset_rfl xEx_hgen
    (fun y hy => by cases hy; exact subset_rfl)⟩

/-- **`Generator_System::satisfied_by_all_generators` is sound** (closed polyhedra): a constraint of at most
    `n + 1` columns that every generator satisfies holds at every point generated by them (`GenComb`:
    non-negative combination of points and rays, free combination of lines, divisors summing to `1`). -/
theorem h79_satisfied_by_all_generators_sound (n : Nat) (gs : List GRow) (c : CRow) (hlen : c.e.length ≤ n + 1)
    (h : satisfiedByAllGenerators false gs c = true) (p : Pt) (hp : GenComb n gs p) :
    c.holds (hom n p 0) :=
  satisfiedByAllGenerators_sound hlen h hp

/-- **`result ⊇ x`** with the double-description contract in place of the soundness hypothesis `hgen`:
    `x` is generated by `x.gen_sys` and the rows of `y` have `n + 1` columns. -/
theorem h79_contains_x_gens (x : Poly) (hc : x.nnc = false) (yEmpty : Bool) (o : Oracle) (tp : Option Nat)
    (γx γy : Set Pt)
    (hx : γx ⊆ den false x.n o.xConsUpdated)
    (hxg : ∀ p ∈ γx, GenComb x.n x.genSys p)
    (hywf : ∀ y, o.yMin = some y → WFRows x.n y.conSys)
    (hy : ∀ y, o.yMin = some y → den false x.n y.conSys ⊆ γy) :
    γx ⊆ resDen x γx γy (h79WideningAssign x yEmpty o tp).1 := by
  have hch : ∀ y, o.yMin = some y → ∀ c ∈ y.conSys, satisfiedByAllGenerators false x.genSys c = true →
      ∀ p ∈ γx, c.holds (hom x.n p 0) := fun y hym c hcm hs p hp =>
    satisfiedByAllGenerators_sound (le_of_eq (hywf y hym c hcm)) hs (hxg p hp)
  rcases h79_cases x yEmpty o tp with h | ⟨y, hym, _, hlen, h⟩ | ⟨y, hym, _, h⟩ | h
  · rw [h]; exact subset_rfl
  · rw [h]
    rw [hc] at hlen
    unfold selectCH78Constraints at hlen
    rw [List.length_filter_eq_length_iff] at hlen
    intro p hp
    exact hy y hym fun c hcm => hch y hym c hcm (hlen c hcm) p hp
  · rw [h]
    simp only [resDen, hc]
    intro p hp c hcm
    obtain ⟨hcy, hs⟩ := List.mem_filter.mp hcm
    exact hch y hym c hcy hs p hp
  · rw [h]
    simp only [resDen, hc]
    exact hx.trans (den_mono_sublist false x.n (h79_selected_sublist _ _ _ _ _).1)

example : den false 1 xEx.conSys ⊆ resDen exPolyGens (den false 1 xEx.conSys) (den false 1 yEx.conSys)
    (h79WideningAssign exPolyGens false exOracle none).1 :=
  h79_contains_x_gens exPolyGens rfl false exOracle none _ _ subset_rfl exPoly_gens
    (fun y hy => by cases hy; exact yEx_wf) (fun y hy => by cases hy; exact subset_rfl)

/-- the same for NNC polyhedra on the constraint path.  `_partial`: the [CousotH78] shortcut of an NNC `x`
    given by generators only is not covered (the eps-representation semantics of
    `satisfied_by_all_generators` is not formalised). -/
theorem h79_contains_x_nnc_partial (x : Poly) (yEmpty : Bool) (o : Oracle) (tp : Option Nat)
    (hpath : x.pendingGens = false ∧ x.consUpToDate = true)
    (γx γy : Set Pt) (hx : γx ⊆ den x.nnc x.n o.xConsUpdated) :
    γx ⊆ resDen x γx γy (h79WideningAssign x yEmpty o tp).1 := by
  rcases h79_cases_conspath x yEmpty o tp hpath with h | h
  · rw [h]; exact subset_rfl
  · rw [h]
    exact hx.trans (den_mono_sublist x.nnc x.n (h79_selected_sublist _ _ _ _ _).1)

/-- an NNC instance: `x = {0 ≤ p < 3}`, `y = [0, 1]`, rows with the epsilon column -/
example : (h79WideningAssign
    { nnc := true, n := 1, markedEmpty := false, pendingGens := false, consUpToDate := true,
      conSys := [⟨[0, 1, 0], false⟩, ⟨[3, -1, -1], false⟩], genSys := [] } false
    { yMin := some ⟨[⟨[0, 1, 0], false⟩, ⟨[1, -1, 0], false⟩], [⟨[1, 0, 1], false⟩, ⟨[1, 1, 1], false⟩],
        [[false, true], [true, false]]⟩,
      xConsUpdated := [⟨[0, 1, 0], false⟩, ⟨[3, -1, -1], false⟩],
      ySel := ⟨[⟨[0, 1, 0], false⟩, ⟨[1, -1, 0], false⟩], [⟨[1, 0, 1], false⟩, ⟨[1, 1, 1], false⟩],
        [[false, true], [true, false]]⟩,
      xContains := fun _ => false } none).1 = .fresh [⟨[0, 1, 0], false⟩] := by rfl

/-- **token protocol of `H79_widening_assign`** -/
theorem h79_token_spec (x : Poly) (yEmpty : Bool) (o : Oracle) (t : Nat) (ht : 0 < t) :
    (h79WideningAssign x yEmpty o (some t)).1 = .unchanged ∨ (h79WideningAssign x yEmpty o (some t)).1 = .assignY :=
  h79_token x yEmpty o t ht

/-- with a token: `x` untouched, the token consumed because `x` does not contain the widened polyhedron -/
example : h79WideningAssign exPoly false exOracle (some 2) = (.unchanged, some 1) := by rfl

/-- **the result is described by a sub-system of `y`'s minimal system** when the affine hull did not grow -/
theorem h79_constraints_subset_of_y (n : Nat) (x y : YMin) (hy : MinimalDD n y) (hxwf : WFRows n x.conSys)
    (hyx : den false n y.conSys ⊆ den false n x.conSys)
    (hdim : annih n (den false n (h79Rows x y)) = annih n (den false n y.conSys)) :
    ∃ sub : List CRow, sub.Sublist (y.conSys.filter (!·.isTautological false)) ∧
      den false n sub = den false n (h79Rows x y) :=
  ⟨h79Sub x y, h79Sub_sublist x y, h79Sub_den n x y hy hxwf hyx hdim⟩

/-- the sub-system of the running example -/
example : h79Sub xEx yEx = [⟨[0, 1], false⟩] ∧ MinimalDD 1 yEx ∧ WFRows 1 xEx.conSys ∧
    den false 1 yEx.conSys ⊆ den false 1 xEx.conSys :=
  ⟨by decide, yEx_minimal, xEx_wf, yEx_sub_xEx⟩

/-- **non-stationary ⇒ the H79 certificate strictly decreases**.  `_partial`: the contract `MinimalDD` of the
    minimised `y` (`hymin`, `hfacet`) is a hypothesis here.  It is DISCHARGED for every `y` produced by the engine
    model `PPLV.Conv.minimize` (`h79_minimalDD_engine`): see `h79_certificate_decreases_engine` (no hypothesis
    about minimal systems left).  For an NNC `y` (strong minimisation) it remains an assumption. -/
theorem h79_certificate_decreases_partial (n : Nat) (x y : YMin) (hy : MinimalDD n y) (hxwf : WFRows n x.conSys)
    (hyx : den false n y.conSys ⊆ den false n x.conSys)
    (hne : den false n (h79Rows x y) ≠ den false n y.conSys) :
    certLess (setCert n (den false n (h79Rows x y))) (setCert n (den false n y.conSys)) :=
  h79_certificate_decreases n x y hy hxwf hyx hne

/-- all hypotheses hold for `x = [0, 2]`, `y = [0, 1]` (the contract `MinimalDD` is proved for this `y`) -/
example : certLess (setCert 1 (den false 1 (h79Rows xEx yEx))) (setCert 1 (den false 1 yEx.conSys)) :=
  h79_certificate_decreases_partial 1 xEx yEx yEx_minimal xEx_wf yEx_sub_xEx h79Rows_ex_ne

/-- **the same decrease in the order of `H79_Certificate::compare(ph)`** (`H79Cert.LessPh`, well-founded by
    `h79_comparePh_wf`), for a non-empty `y` (then at most `n` independent equalities hold on it, proved:
    `eqRank_le`).  `_partial` for the same reason as above. -/
theorem h79_certificate_decreases_lessPh_partial (n : Nat) (x y : YMin) (hy : MinimalDD n y)
    (hxwf : WFRows n x.conSys)
    (hyx : den false n y.conSys ⊆ den false n x.conSys)
    (hyne : (den false n y.conSys).Nonempty)
    (hne : den false n (h79Rows x y) ≠ den false n y.conSys) :
    H79Cert.LessPh n (setH79Cert n (den false n (h79Rows x y))) (setH79Cert n (den false n y.conSys)) :=
  h79_certificate_decreases_lessPh n x y hy hxwf hyx hyne hne

example : H79Cert.LessPh 1 (setH79Cert 1 (den false 1 (h79Rows xEx yEx)))
    (setH79Cert 1 (den false 1 yEx.conSys)) :=
  h79_certificate_decreases_lessPh_partial 1 xEx yEx yEx_minimal xEx_wf yEx_sub_xEx
    ⟨fun _ => 0, by rw [mem_yEx]; norm_num⟩ h79Rows_ex_ne

/-- **the [CousotH78] shortcut (and `x = y`) decrease the certificate too**: a result described by a
    sub-system of `y`'s rows either denotes `y` or has a strictly smaller certificate.  `_partial`: rests on
    `MinimalDD.hymin` (not on `hfacet`); discharged for engine outputs by `h79_minimalDD_engine`. -/
theorem h79_ch78_certificate_decreases_partial (n : Nat) (y : YMin) (hy : MinimalDD n y) (xGens : List GRow)
    (hne : den false n (selectCH78Constraints false xGens y.conSys) ≠ den false n y.conSys) :
    certLess (setCert n (den false n (selectCH78Constraints false xGens y.conSys)))
      (setCert n (den false n y.conSys)) :=
  subsystem_certLess n y hy _ (selectCH78_sublist false xGens y.conSys) hne

example : selectCH78Constraints false xEx.genSys yEx.conSys = [⟨[0, 1], false⟩] ∧
    certLess (setCert 1 (den false 1 (selectCH78Constraints false xEx.genSys yEx.conSys)))
      (setCert 1 (den false 1 yEx.conSys)) := by
  have e : selectCH78Constraints false xEx.genSys yEx.conSys = [⟨[0, 1], false⟩] := by decide
  refine ⟨e, h79_ch78_certificate_decreases_partial 1 yEx yEx_minimal xEx.genSys ?_⟩
  rw [e]
  have := h79Rows_ex_ne
  rw [h79Rows_ex] at this
  exact this

/-- **the driver as a whole** (closed polyhedra, non-trivial call, no tokens): whatever way out
    `H79_widening_assign` takes — all constraints selected, `x = y`, the [CousotH78] shortcut, the selection —
    what it leaves in `*this` either denotes `y` or has a strictly smaller certificate than `y`.
    `_partial`: the contract `MinimalDD` of `y.minimize()` is a hypothesis; discharged when the oracle's `y` is the
    output of the engine model: `h79_driver_certificate_decreases_engine`. -/
theorem h79_driver_certificate_decreases_partial (x : Poly) (hc : x.nnc = false) (yEmpty : Bool) (o : Oracle)
    (y : YMin) (h1 : (x.n == 0 || x.markedEmpty || yEmpty) = false) (hym : o.yMin = some y) (hsel : o.ySel = y)
    (hy : MinimalDD x.n y) (hxwf : WFRows x.n o.xConsUpdated)
    (hyx : den false x.n y.conSys ⊆ den false x.n o.xConsUpdated)
    (hne : resDen x (den false x.n o.xConsUpdated) (den false x.n y.conSys)
      (h79WideningAssign x yEmpty o none).1 ≠ den false x.n y.conSys) :
    certLess (setCert x.n (resDen x (den false x.n o.xConsUpdated) (den false x.n y.conSys)
        (h79WideningAssign x yEmpty o none).1))
      (setCert x.n (den false x.n y.conSys)) := by
  have hrows : h79Rows ⟨o.xConsUpdated, [], []⟩ y =
      (selectH79Constraints x.nnc o.xConsUpdated o.ySel.conSys o.ySel.genSys o.ySel.satG).1 := by
    rw [h79Rows_eq, hc, hsel]
  have main : ∀ hne' : den false x.n (h79Rows ⟨o.xConsUpdated, [], []⟩ y) ≠ den false x.n y.conSys,
      certLess (setCert x.n (den false x.n (h79Rows ⟨o.xConsUpdated, [], []⟩ y)))
        (setCert x.n (den false x.n y.conSys)) :=
    h79_certificate_decreases x.n ⟨o.xConsUpdated, [], []⟩ y hy hxwf hyx
  rcases h79_cases_notoken x yEmpty o y h1 hym with ⟨h, hemp⟩ | h | h | h
  · rw [h] at hne ⊢
    have e : h79Rows ⟨o.xConsUpdated, [], []⟩ y = o.xConsUpdated := by
      rw [hrows]; exact selectH79_fst_of_snd_empty _ _ _ _ _ hemp
    simp only [resDen] at hne ⊢
    rw [e] at main
    exact main hne
  · rw [h] at hne
    exact absurd rfl hne
  · rw [h] at hne ⊢
    simp only [resDen, hc] at hne ⊢
    exact subsystem_certLess x.n y hy _ (selectCH78_sublist false x.genSys y.conSys) hne
  · rw [h] at hne ⊢
    simp only [resDen, hc] at hne ⊢
    rw [hc] at hrows
    rw [← hrows] at hne ⊢
    exact main hne

example : certLess (setCert 1 (den false 1 [⟨[0, 1], false⟩])) (setCert 1 (den false 1 yEx.conSys)) := by
  have hne : den false 1 [⟨[0, 1], false⟩] ≠ den false 1 yEx.conSys := by
    have := h79Rows_ex_ne
    rw [h79Rows_ex] at this
    exact this
  exact h79_driver_certificate_decreases_partial exPoly rfl false exOracle yEx rfl rfl rfl yEx_minimal
    xEx_wf yEx_sub_xEx hne

/-! ### the contract `MinimalDD` derived from the conversion engine (closed polyhedra)

`MinimalDD.hfacet` and `MinimalDD.hymin` follow from `EngineDD`
(`PPLV/Widen/ImplH79ProofsEngine0.lean`), which is PROVED of the output of the engine model `PPLV.Conv.minimize`
from `C01.conversion_dd_pair`, `C01.minimize_same_set`, `C01.minimize_minimal_form` and the echelon form of
`gauss`, plus `GPos` (proved when the positivity constraint is a row of the system given to `minimize`) and
`FacetPoints` (every non-tautological inequality is saturated by a point of the generator system).
`FacetPoints` is derived from the engine model too (`facetPoints_of_minimize`, from the back-substituted normal
form of the inequalities and the independence rule); it cannot be dropped: without it the minimum-cardinality
clause is false (`h79_engine_contract_needs_facetPoints`). -/

/-- **`MinimalDD` from the engine's guarantees** -/
theorem h79_minimalDD_of_engine (n : Nat) (y : YMin) (hy : EngineDD n y) (hgp : GPos y) (hfp : FacetPoints y) :
    MinimalDD n y := minimalDD_of_engine n y hy hgp hfp

example : MinimalDD 1 yGood :=
  h79_minimalDD_of_engine 1 yGood engine_yGood (by intro g hg; revert g hg; decide) facetPoints_yGood

/-- **the output of the engine model satisfies `EngineDD` and `GPos`**: `minimize(true, cs, gs, sat)` on a
    closed constraint system of dimension `n` that carries its positivity row and is not reported empty. -/
theorem h79_engine_contract (n : Nat) (source : List PPLV.Conv.LRow) (sat0 : List PPLV.Conv.BRow)
    (hsz : n + 1 < 2 ^ 64) (hsrc : source.length < 2 ^ 64) (hlen : ∀ s ∈ source, s.v.length = n + 1)
    (hne : (PPLV.Conv.minimize true false (n + 1) source sat0).empty = false)
    (hpos : (⟨false, 1 :: List.replicate n 0⟩ : PPLV.Conv.LRow) ∈ source) :
    EngineDD n (ofEngine (PPLV.Conv.minimize true false (n + 1) source sat0)) ∧
    GPos (ofEngine (PPLV.Conv.minimize true false (n + 1) source sat0)) :=
  ⟨engineDD_of_minimize n source sat0 hsz hsrc hlen hne, gpos_of_minimize n source sat0 hsz hsrc hlen hne hpos⟩

example : EngineDD 1 (ofEngine (PPLV.Conv.minimize true false 2 [⟨false, [0, 1]⟩, ⟨false, [3, -1]⟩, ⟨false, [1, 0]⟩] [])) ∧
    GPos (ofEngine (PPLV.Conv.minimize true false 2 [⟨false, [0, 1]⟩, ⟨false, [3, -1]⟩, ⟨false, [1, 0]⟩] [])) :=
  h79_engine_contract 1 _ [] (by norm_num) (by simp) (by decide) (by decide) (by simp)

/-- `EngineDD` alone does not give the minimum-cardinality clause: `{x = 0, 1 + x ≥ 0}` (the positivity
    constraint in disguise, which the real `simplify` turns into a tautology by back-substitution) has every
    field of `EngineDD`, two non-tautological rows, and is denoted by one row. -/
theorem h79_engine_contract_needs_facetPoints :
    EngineDD 1 yBad ∧
      (yBad.conSys.filter (!·.isTautological false)).length ≠ minCons 1 (den false 1 yBad.conSys) :=
  hymin_fails_without_facetPoints

/-- **non-stationary ⇒ the H79 certificate strictly decreases, for a `y` minimised by the engine model.**
    `_partial`: `FacetPoints` is a hypothesis here; it is proved of the engine
    output (`facetPoints_of_minimize`), which gives `h79_certificate_decreases_engine` below. -/
theorem h79_certificate_decreases_engine_partial (n : Nat) (x : YMin) (source : List PPLV.Conv.LRow)
    (sat0 : List PPLV.Conv.BRow)
    (hsz : n + 1 < 2 ^ 64) (hsrc : source.length < 2 ^ 64) (hlen : ∀ s ∈ source, s.v.length = n + 1)
    (hne : (PPLV.Conv.minimize true false (n + 1) source sat0).empty = false)
    (hpos : (⟨false, 1 :: List.replicate n 0⟩ : PPLV.Conv.LRow) ∈ source)
    (hfp : FacetPoints (ofEngine (PPLV.Conv.minimize true false (n + 1) source sat0)))
    (hxwf : WFRows n x.conSys)
    (hyx : den false n (ofEngine (PPLV.Conv.minimize true false (n + 1) source sat0)).conSys ⊆ den false n x.conSys)
    (hne' : den false n (h79Rows x (ofEngine (PPLV.Conv.minimize true false (n + 1) source sat0))) ≠
            den false n (ofEngine (PPLV.Conv.minimize true false (n + 1) source sat0)).conSys) :
    certLess (setCert n (den false n (h79Rows x (ofEngine (PPLV.Conv.minimize true false (n + 1) source sat0)))))
      (setCert n (den false n (ofEngine (PPLV.Conv.minimize true false (n + 1) source sat0)).conSys)) := by
  obtain ⟨hE, hG⟩ := h79_engine_contract n source sat0 hsz hsrc hlen hne hpos
  exact h79_certificate_decreases_partial n x _ (minimalDD_of_engine n _ hE hG hfp) hxwf hyx hne'

/-- the same from the abstract guarantees (any `y` with `EngineDD`, `GPos`, `FacetPoints`) -/
theorem h79_certificate_decreases_of_engineDD (n : Nat) (x y : YMin) (hy : EngineDD n y) (hgp : GPos y)
    (hfp : FacetPoints y) (hxwf : WFRows n x.conSys)
    (hyx : den false n y.conSys ⊆ den false n x.conSys)
    (hne : den false n (h79Rows x y) ≠ den false n y.conSys) :
    certLess (setCert n (den false n (h79Rows x y))) (setCert n (den false n y.conSys)) :=
  h79_certificate_decreases_partial n x y (minimalDD_of_engine n y hy hgp hfp) hxwf hyx hne


/-! ### closed polyhedra whose smaller argument is minimised by the engine model: no assumption left

`facetPoints_of_minimize` / `minimalDD_of_minimize` (`PPLV/Widen/ImplH79ProofsEngineFacetPoints.lean`) prove the
whole contract `MinimalDD` of the output of `PPLV.Conv.minimize` on a closed constraint system that carries its
positivity row and is not reported empty.  The `_partial` theorems above therefore hold without any hypothesis
about minimal systems when `y` is such an output. -/

/-- the minimised description the engine model returns for the constraint system `source` (dimension `n`) -/
abbrev engineY (n : Nat) (source : List PPLV.Conv.LRow) (sat0 : List PPLV.Conv.BRow) : YMin :=
  ofEngine (PPLV.Conv.minimize true false (n + 1) source sat0)

/-- **the engine output satisfies the whole contract `MinimalDD`** -/
theorem h79_minimalDD_engine (n : Nat) (source : List PPLV.Conv.LRow) (sat0 : List PPLV.Conv.BRow)
    (hsz : n + 1 < 2 ^ 64) (hsrc : source.length < 2 ^ 64) (hlen : ∀ s ∈ source, s.v.length = n + 1)
    (hne : (PPLV.Conv.minimize true false (n + 1) source sat0).empty = false)
    (hpos : (⟨false, 1 :: List.replicate n 0⟩ : PPLV.Conv.LRow) ∈ source) :
    MinimalDD n (engineY n source sat0) :=
  minimalDD_of_minimize n source sat0 hsz hsrc hlen hne hpos

example : MinimalDD 1 (engineY 1 [⟨false, [0, 1]⟩, ⟨false, [3, -1]⟩, ⟨false, [1, 0]⟩] []) :=
  h79_minimalDD_engine 1 _ [] (by norm_num) (by simp) (by decide) (by decide) (by simp)

/-- **non-stationary ⇒ the H79 certificate strictly decreases** (closed polyhedra, `y` minimised by the engine
    model): full strength, nothing assumed about minimal systems. -/
theorem h79_certificate_decreases_engine (n : Nat) (x : YMin) (source : List PPLV.Conv.LRow)
    (sat0 : List PPLV.Conv.BRow)
    (hsz : n + 1 < 2 ^ 64) (hsrc : source.length < 2 ^ 64) (hlen : ∀ s ∈ source, s.v.length = n + 1)
    (hne : (PPLV.Conv.minimize true false (n + 1) source sat0).empty = false)
    (hpos : (⟨false, 1 :: List.replicate n 0⟩ : PPLV.Conv.LRow) ∈ source)
    (hxwf : WFRows n x.conSys)
    (hyx : den false n (engineY n source sat0).conSys ⊆ den false n x.conSys)
    (hne' : den false n (h79Rows x (engineY n source sat0)) ≠ den false n (engineY n source sat0).conSys) :
    certLess (setCert n (den false n (h79Rows x (engineY n source sat0))))
      (setCert n (den false n (engineY n source sat0).conSys)) :=
  h79_certificate_decreases_partial n x _ (minimalDD_of_minimize n source sat0 hsz hsrc hlen hne hpos) hxwf hyx hne'

/-- the same in the order of `H79_Certificate::compare(ph)` (`H79Cert.LessPh`) -/
theorem h79_certificate_decreases_lessPh_engine (n : Nat) (x : YMin) (source : List PPLV.Conv.LRow)
    (sat0 : List PPLV.Conv.BRow)
    (hsz : n + 1 < 2 ^ 64) (hsrc : source.length < 2 ^ 64) (hlen : ∀ s ∈ source, s.v.length = n + 1)
    (hne : (PPLV.Conv.minimize true false (n + 1) source sat0).empty = false)
    (hpos : (⟨false, 1 :: List.replicate n 0⟩ : PPLV.Conv.LRow) ∈ source)
    (hxwf : WFRows n x.conSys)
    (hyx : den false n (engineY n source sat0).conSys ⊆ den false n x.conSys)
    (hyne : (den false n (engineY n source sat0).conSys).Nonempty)
    (hne' : den false n (h79Rows x (engineY n source sat0)) ≠ den false n (engineY n source sat0).conSys) :
    H79Cert.LessPh n (setH79Cert n (den false n (h79Rows x (engineY n source sat0))))
      (setH79Cert n (den false n (engineY n source sat0).conSys)) :=
  h79_certificate_decreases_lessPh_partial n x _ (minimalDD_of_minimize n source sat0 hsz hsrc hlen hne hpos)
    hxwf hyx hyne hne'

/-- **the driver `H79_widening_assign` as a whole** (closed, non-trivial call, no tokens), when the oracle's
    minimised `y` is the engine output: what it leaves in `*this` denotes `y` or has a strictly smaller
    certificate — full strength. -/
theorem h79_driver_certificate_decreases_engine (x : Poly) (hc : x.nnc = false) (yEmpty : Bool) (o : Oracle)
    (source : List PPLV.Conv.LRow) (sat0 : List PPLV.Conv.BRow)
    (hsz : x.n + 1 < 2 ^ 64) (hsrc : source.length < 2 ^ 64) (hlen : ∀ s ∈ source, s.v.length = x.n + 1)
    (hne : (PPLV.Conv.minimize true false (x.n + 1) source sat0).empty = false)
    (hpos : (⟨false, 1 :: List.replicate x.n 0⟩ : PPLV.Conv.LRow) ∈ source)
    (h1 : (x.n == 0 || x.markedEmpty || yEmpty) = false)
    (hym : o.yMin = some (engineY x.n source sat0)) (hsel : o.ySel = engineY x.n source sat0)
    (hxwf : WFRows x.n o.xConsUpdated)
    (hyx : den false x.n (engineY x.n source sat0).conSys ⊆ den false x.n o.xConsUpdated)
    (hne' : resDen x (den false x.n o.xConsUpdated) (den false x.n (engineY x.n source sat0).conSys)
      (h79WideningAssign x yEmpty o none).1 ≠ den false x.n (engineY x.n source sat0).conSys) :
    certLess (setCert x.n (resDen x (den false x.n o.xConsUpdated) (den false x.n (engineY x.n source sat0).conSys)
        (h79WideningAssign x yEmpty o none).1))
      (setCert x.n (den false x.n (engineY x.n source sat0).conSys)) :=
  h79_driver_certificate_decreases_partial x hc yEmpty o _ h1 hym hsel
    (minimalDD_of_minimize x.n source sat0 hsz hsrc hlen hne hpos) hxwf hyx hne'


/-- minimised closed polyhedra -/
abbrev MinPoly (n : Nat) := {y : YMin // MinimalDD n y}

/-- the model's H79 widening followed by `minimize()` (an oracle with the contract `hmini`) -/
def h79Min (n : Nat) (mini : List CRow → YMin)
    (hmini : ∀ cs, WFRows n cs → MinimalDD n (mini cs) ∧ den false n (mini cs).conSys = den false n cs)
    (x y : MinPoly n) : MinPoly n :=
  ⟨mini (h79Rows x.1 y.1), (hmini _ (wfRows_sublist (h79Rows_sublist x.1 y.1) x.2.wf)).1⟩

/-- **every ascending chain stabilises** (H79, closed polyhedra): whatever larger minimised arguments
    `z k y ⊇ y` the environment supplies, the iteration `y_{k+1} = minimize (H79 (z k y_k) y_k)` is eventually
    stationary as a sequence of point sets.  `_partial` only because `minimize()` is an oracle with
    the contract `hmini` (`MinimalDD` + same point set); the engine model `PPLV.Conv.minimize` satisfies `MinimalDD`
    on every non-empty closed system carrying its positivity row (`h79_minimalDD_engine`). -/
theorem h79_chain_stabilises_partial (n : Nat) (mini : List CRow → YMin)
    (hmini : ∀ cs, WFRows n cs → MinimalDD n (mini cs) ∧ den false n (mini cs).conSys = den false n cs)
    (x0 : MinPoly n) (z : Nat → MinPoly n → MinPoly n)
    (hz : ∀ k (y : MinPoly n), den false n y.1.conSys ⊆ den false n (z k y).1.conSys) :
    ∃ N, ∀ i ≥ N,
      den false n (advSeq (h79Min n mini hmini) x0 z (i + 1)).1.conSys =
      den false n (advSeq (h79Min n mini hmini) x0 z i).1.conSys := by
  have hw : ∀ x y : MinPoly n, den false n (h79Min n mini hmini x y).1.conSys =
      den false n (h79Rows x.1 y.1) := fun x y =>
    (hmini _ (wfRows_sublist (h79Rows_sublist x.1 y.1) x.2.wf)).2
  exact PPLV.Widen.converges_adversary (fun y : MinPoly n => den false n y.1.conSys)
    (h79Min n mini hmini) (fun y => setCert n (den false n y.1.conSys)) certLess certLess_wf
    (fun a b h => by simp only [h])
    (fun x y hyx hne => by
      simp only [hw] at hne ⊢
      exact h79_certificate_decreases n x.1 y.1 y.2 x.2.wf hyx hne)
    x0 z hz

/-- the step of the iteration on the running example (a total `mini` is a minimiser, which this model does
    not contain; `hmini` is the contract of `Polyhedron::minimize()`, cf. C01) -/
example : (⟨yEx, yEx_minimal⟩ : MinPoly 1).1.conSys = yEx.conSys := rfl

/-- **the same for every way out of the driver**: any operator on minimised closed polyhedra whose result
    denotes the selected rows of `x` or a sub-system of the rows of `y` (all rows selected / `x = y` / the
    [CousotH78] shortcut / the selection, cf. `h79_driver_certificate_decreases_partial`) converges against
    every adversary.  `_partial`: the contract `MinimalDD` of the states (discharged for engine outputs,
    `h79_minimalDD_engine`). -/
theorem h79_chain_stabilises_every_path_partial (n : Nat) (w : MinPoly n → MinPoly n → MinPoly n)
    (hw : ∀ x y : MinPoly n, den false n y.1.conSys ⊆ den false n x.1.conSys →
      den false n (w x y).1.conSys = den false n (h79Rows x.1 y.1) ∨
      ∃ sub : List CRow, sub.Sublist y.1.conSys ∧ den false n (w x y).1.conSys = den false n sub)
    (x0 : MinPoly n) (z : Nat → MinPoly n → MinPoly n)
    (hz : ∀ k (y : MinPoly n), den false n y.1.conSys ⊆ den false n (z k y).1.conSys) :
    ∃ N, ∀ i ≥ N,
      den false n (advSeq w x0 z (i + 1)).1.conSys = den false n (advSeq w x0 z i).1.conSys := by
  refine PPLV.Widen.converges_adversary (fun y : MinPoly n => den false n y.1.conSys)
    w (fun y => setCert n (den false n y.1.conSys)) certLess certLess_wf
    (fun a b h => by simp only [h]) ?_ x0 z hz
  intro x y hyx hne
  rcases hw x y hyx with h | ⟨sub, hsub, h⟩
  · simp only [h] at hne ⊢
    exact h79_certificate_decreases n x.1 y.1 y.2 x.2.wf hyx hne
  · simp only [h] at hne ⊢
    exact subsystem_certLess n y.1 y.2 sub hsub hne

/-- the operator "return `y`" (`x = y`, l. 225) satisfies `hw` -/
example (n : Nat) (y : MinPoly n) :
    ∃ sub : List CRow, sub.Sublist y.1.conSys ∧ den false n y.1.conSys = den false n sub :=
  ⟨y.1.conSys, List.Sublist.refl _, rfl⟩

/-! ### `limited_H79_extrapolation_assign` -/

/-! ### the chain theorem with the engine model as the minimiser -/

/-- the model's H79 step with `minimize()` := the engine model: `y_{k+1} = engine-minimise (selected rows of x)`,
    applied whenever the call is within the engine's preconditions (`y ⊆ x`, `y` not empty, sizes below `2^64`);
    outside them the step returns `y`. -/
noncomputable def h79Engine (n : Nat) (x y : MinPoly n) : MinPoly n :=
  open Classical in
  if h : den false n y.1.conSys ⊆ den false n x.1.conSys ∧ (den false n y.1.conSys).Nonempty ∧
      n + 1 < 2 ^ 64 ∧ x.1.conSys.length + 1 < 2 ^ 64
  then ⟨engineMini n (h79Rows x.1 y.1), (engineMini_step n x.1 y.1 x.2.wf h.1 h.2.1 h.2.2.1 h.2.2.2).1⟩
  else y

/-- within the preconditions the step denotes exactly the selected rows of `x` (the H79 widening) -/
theorem h79Engine_den (n : Nat) (x y : MinPoly n)
    (h : den false n y.1.conSys ⊆ den false n x.1.conSys ∧ (den false n y.1.conSys).Nonempty ∧
      n + 1 < 2 ^ 64 ∧ x.1.conSys.length + 1 < 2 ^ 64) :
    den false n (h79Engine n x y).1.conSys = den false n (h79Rows x.1 y.1) := by
  unfold h79Engine
  rw [dif_pos h]
  exact (engineMini_step n x.1 y.1 x.2.wf h.1 h.2.1 h.2.2.1 h.2.2.2).2

/-- **every ascending chain stabilises** (H79, closed polyhedra, `minimize()` = the engine model
    `PPLV.Conv.minimize`): against every adversary supplying larger minimised arguments, the iteration
    `y_{k+1} = minimize (H79 (z k y_k) y_k)` is eventually stationary as a sequence of point sets.  Nothing is
    assumed about minimal systems: the states carry `MinimalDD`, which the engine step re-establishes
    (`engineMini_step`, from `minimalDD_of_minimize`). -/
theorem h79_chain_stabilises_engine (n : Nat) (x0 : MinPoly n) (z : Nat → MinPoly n → MinPoly n)
    (hz : ∀ k (y : MinPoly n), den false n y.1.conSys ⊆ den false n (z k y).1.conSys) :
    ∃ N, ∀ i ≥ N,
      den false n (advSeq (h79Engine n) x0 z (i + 1)).1.conSys =
      den false n (advSeq (h79Engine n) x0 z i).1.conSys := by
  refine h79_chain_stabilises_every_path_partial n (h79Engine n) ?_ x0 z hz
  intro x y _
  by_cases h : den false n y.1.conSys ⊆ den false n x.1.conSys ∧ (den false n y.1.conSys).Nonempty ∧
      n + 1 < 2 ^ 64 ∧ x.1.conSys.length + 1 < 2 ^ 64
  · exact Or.inl (h79Engine_den n x y h)
  · refine Or.inr ⟨y.1.conSys, List.Sublist.refl _, ?_⟩
    unfold h79Engine
    rw [dif_neg h]

/-- non-vacuity: the engine output for `0 ≤ x ≤ 3` is a state, and one engine step from it against itself
    denotes its selected rows -/
example : ∃ y : MinPoly 1, den false 1 (h79Engine 1 y y).1.conSys = den false 1 (h79Rows y.1 y.1) ∨
    ¬ (den false 1 y.1.conSys).Nonempty :=
  ⟨⟨engineY 1 [⟨false, [0, 1]⟩, ⟨false, [3, -1]⟩, ⟨false, [1, 0]⟩] [],
     h79_minimalDD_engine 1 _ [] (by norm_num) (by simp) (by decide) (by decide) (by simp)⟩,
   by
     by_cases hne : (den false 1 (engineY 1 [⟨false, [0, 1]⟩, ⟨false, [3, -1]⟩, ⟨false, [1, 0]⟩] []).conSys).Nonempty
     · left
       refine h79Engine_den 1 _ _ ⟨subset_rfl, hne, by norm_num, ?_⟩
       have : (engineY 1 [⟨false, [0, 1]⟩, ⟨false, [3, -1]⟩, ⟨false, [1, 0]⟩] []).conSys.length = 2 := by decide
       show (engineY 1 _ []).conSys.length + 1 < 2 ^ 64
       rw [this]; norm_num
     · right; exact hne⟩


/-- **limited extrapolation**: the added constraints are a sublist of the supplied ones, each satisfied by
    all generators of `x`; as sets (closed polyhedra) `x ⊆ result ∩ den newCs ⊆ result`. -/
theorem h79_limited_between (x : Poly) (hc : x.nnc = false) (yEmpty : Bool) (o : Oracle) (xGens : List GRow)
    (cs : List CRow) (tp : Option Nat) (γx γy : Set Pt)
    (hx : γx ⊆ den false x.n o.xConsUpdated)
    (hgen : ∀ c : CRow, satisfiedByAllGenerators false x.genSys c = true → ∀ p ∈ γx, c.holds (hom x.n p 0))
    (hgen' : ∀ c : CRow, satisfiedByAllGenerators false xGens c = true → ∀ p ∈ γx, c.holds (hom x.n p 0))
    (hy : ∀ y, o.yMin = some y → den false x.n y.conSys ⊆ γy) :
    (limitedH79 x yEmpty o xGens cs tp).2.1.Sublist cs ∧
    (∀ c ∈ (limitedH79 x yEmpty o xGens cs tp).2.1, satisfiedByAllGenerators x.nnc xGens c = true) ∧
    γx ⊆ resDen x γx γy (limitedH79 x yEmpty o xGens cs tp).1 ∩
          den false x.n (limitedH79 x yEmpty o xGens cs tp).2.1 ∧
    resDen x γx γy (limitedH79 x yEmpty o xGens cs tp).1 ∩
          den false x.n (limitedH79 x yEmpty o xGens cs tp).2.1 ⊆
      resDen x γx γy (h79WideningAssign x yEmpty o tp).1 := by
  unfold limitedH79
  refine ⟨List.filter_sublist, fun c hcm => (List.mem_filter.mp hcm).2, ?_, Set.inter_subset_left⟩
  intro p hp
  refine ⟨h79_contains_x x hc yEmpty o tp γx γy hx hgen hy hp, ?_⟩
  intro c hcm
  have := (List.mem_filter.mp hcm).2
  rw [hc] at this
  exact hgen' c this p hp

/-- `p ≤ 5` is kept (both generators of `x = [0, 2]` satisfy it), `p ≤ 1` is dropped -/
example : (limitedH79 exPoly false exOracle xEx.genSys [⟨[5, -1], false⟩, ⟨[1, -1], false⟩] none).2.1 =
    [⟨[5, -1], false⟩] := by decide

/-! ## `BHRZ03_widening_assign` -/

/-- the certificate of what the driver leaves in `*this` (all taken from the oracle: certificates need the
    minimised generator systems) -/
def resCert (o : BOracle) (r : BRes) : BHRZ03Cert :=
  match r.branch with
  | .combining => o.cert1 (r.cs.getD [])
  | .points => o.cand2.cert
  | .rays => (o.cand3.getD default).cert
  | .h79 => o.h79.cert
  | _ => o.xCert

/-- the point set the driver leaves in `*this` (`cs = none`: `x` itself) -/
def bresDen (x : Poly) (γx : Set Pt) (r : BRes) : Set Pt :=
  match r.cs with
  | none => γx
  | some cs => den x.nnc x.n cs

/-- **the result passed the acceptance test of its technique**, by construction: a result of one of the
    three techniques is stabilizing w.r.t. `y_cert` and does not contain `H79`; the other ways out are the
    precheck, the token and the fallback `H79`. -/
theorem bhrz03_result_accepted (x : Poly) (yEmpty : Bool) (o : BOracle) (tp : Option Nat) :
    ((bhrz03WideningAssign x yEmpty o tp).branch = .combining ∨
     (bhrz03WideningAssign x yEmpty o tp).branch = .points ∨
     (bhrz03WideningAssign x yEmpty o tp).branch = .rays →
      ∃ c : Cand, (bhrz03WideningAssign x yEmpty o tp).cs = some c.cs ∧
        c.cert = resCert o (bhrz03WideningAssign x yEmpty o tp) ∧ accept o c = true ∧
        o.yCert.isStabilizing c.cert = true ∧ o.containsH79 c.cs = false ∧
        ((bhrz03WideningAssign x yEmpty o tp).branch = .combining →
          c.cs = o.h79.cs ++ combiningNewCs x.nnc x.n o.ySel.genSys o.h79.cs
            (selectH79Constraints x.nnc o.xCons o.ySel.conSys o.ySel.genSys o.ySel.satG).2) ∧
        ((bhrz03WideningAssign x yEmpty o tp).branch = .points → c = o.cand2) ∧
        ((bhrz03WideningAssign x yEmpty o tp).branch = .rays → o.cand3 = some c)) ∧
    ((bhrz03WideningAssign x yEmpty o tp).branch = .stabilizing →
      (o.yCert.isStabilizing o.xCert = true ∨ o.yContainsX = true) ∧
      (bhrz03WideningAssign x yEmpty o tp).cs = none) ∧
    ((bhrz03WideningAssign x yEmpty o tp).branch = .token →
      ∃ t, tp = some (t + 1) ∧ (bhrz03WideningAssign x yEmpty o tp).tp = some t ∧
        (bhrz03WideningAssign x yEmpty o tp).cs = none) ∧
    ((bhrz03WideningAssign x yEmpty o tp).branch = .h79 →
      (bhrz03WideningAssign x yEmpty o tp).cs = some o.h79.cs) := by
  have hacc : ∀ c : Cand, accept o c = true →
      o.yCert.isStabilizing c.cert = true ∧ o.containsH79 c.cs = false := by
    intro c h
    unfold accept at h
    simpa using h
  rcases bhrz03_cases x yEmpty o tp with h | h | ⟨hs, h⟩ | ⟨t, ht, h⟩ | h
  · rw [h]; simp
  · rw [h]; simp
  · rw [h]; simp [hs]
  · rw [h]; simp [ht]
  · rw [h]
    rcases bhrz03Tail_cases x o tp with ⟨c, hc, h'⟩ | ⟨ha, h'⟩ | ⟨c3, hc3, ha, h'⟩ | h'
    · rw [h']
      obtain ⟨ha, hcs, hcert⟩ := combining_some hc
      exact ⟨fun _ => ⟨c, rfl, by simp [resCert, hcert], ha, (hacc c ha).1, (hacc c ha).2,
        fun _ => hcs, fun hb => (by cases hb), fun hb => (by cases hb)⟩,
        fun hb => (by cases hb), fun hb => (by cases hb), fun hb => (by cases hb)⟩
    · rw [h']
      exact ⟨fun _ => ⟨o.cand2, rfl, by simp [resCert], ha, (hacc _ ha).1, (hacc _ ha).2,
        fun hb => (by cases hb), fun _ => rfl, fun hb => (by cases hb)⟩,
        fun hb => (by cases hb), fun hb => (by cases hb), fun hb => (by cases hb)⟩
    · rw [h']
      exact ⟨fun _ => ⟨c3, rfl, by simp [resCert, hc3], ha, (hacc _ ha).1, (hacc _ ha).2,
        fun hb => (by cases hb), fun hb => (by cases hb), fun _ => hc3⟩,
        fun hb => (by cases hb), fun hb => (by cases hb), fun hb => (by cases hb)⟩
    · rw [h']
      exact ⟨fun hb => (by rcases hb with hb | hb | hb <;> cases hb),
        fun hb => (by cases hb), fun hb => (by cases hb), fun _ => rfl⟩

/-- data of the BHRZ03 examples: `x = [0, 2]`, `y = [0, 1]`; `H79 = [0, +∞)`; the first technique does not
    apply (`x_minus_H79_cs` has one row), the second one offers `[0, 3]`, which is accepted -/
def exBOracle : BOracle :=
  { yMin := some yEx, xCons := xEx.conSys
    yCert := ⟨1, 0, 2, 2, [0]⟩, xCert := ⟨1, 0, 2, 2, [0]⟩, yContainsX := false, ySel := yEx
    h79 := ⟨[⟨[0, 1], false⟩], ⟨1, 0, 1, 1, [1]⟩⟩
    strictlyIntersects := fun _ => true, containsH79 := fun _ => false
    cert1 := fun _ => ⟨1, 0, 2, 2, [0]⟩
    cand2 := ⟨[⟨[0, 1], false⟩], ⟨1, 0, 1, 1, [1]⟩⟩
    cand3 := none }

example : (bhrz03WideningAssign exPoly false exBOracle none).branch = .points ∧
    accept exBOracle exBOracle.cand2 = true := by decide

example : (bhrz03WideningAssign exPoly false exBOracle (some 1)).branch = .token := by decide

/-- **H79 decrease ⇒ BHRZ03-stabilizing**, with NO further condition (the two extra hypotheses
    `cy.affineDim ≤ cr.affineDim`, `cy.linSpaceDim ≤ cr.linSpaceDim` of the plan are not needed:
    `BHRZ03_Certificate::compare(ph)` answers `1` as soon as the affine dimension grew, or the lineality
    grew, or — neither — the number of constraints shrank). -/
theorem h79_decrease_implies_bhrz03_stabilizing (cy cr : BHRZ03Cert)
    (h : (⟨cy.affineDim, cy.numConstraints⟩ : H79Cert).comparePh ⟨cr.affineDim, cr.numConstraints⟩ = .gt) :
    cy.isStabilizing cr = true :=
  PPLV.Widen.Impl.h79_decrease_implies_bhrz03_stabilizing cy cr h

example : (⟨1, 2⟩ : H79Cert).comparePh ⟨1, 1⟩ = .gt ∧
    (⟨1, 0, 2, 2, [0]⟩ : BHRZ03Cert).isStabilizing ⟨1, 0, 1, 1, [1]⟩ = true := by decide

/-- **the certificate of the result is stabilizing** on every way out that changes `x` (and on the precheck,
    unless `y ⊇ x`).  `_partial`: for the fallback the code only ASSERTS that H79 is stabilizing
    (`PPL_ASSERT(y_cert.is_stabilizing(x))`, l. 851, "The H79 widening is always stabilizing"); this is the
    hypothesis `hfallback` (it follows from `h79_certificate_decreases_partial` and
    `h79_decrease_implies_bhrz03_stabilizing` when the certificate data are those of the sets; for a `y`
    minimised by the engine model without any assumption: `bhrz03_fallback_stabilizing_engine`). -/
theorem bhrz03_certificate_decreases_partial (x : Poly) (yEmpty : Bool) (o : BOracle) (tp : Option Nat)
    (hfallback : o.yCert.isStabilizing o.h79.cert = true)
    (hb : (bhrz03WideningAssign x yEmpty o tp).branch ≠ .trivial ∧
          (bhrz03WideningAssign x yEmpty o tp).branch ≠ .yEmpty ∧
          (bhrz03WideningAssign x yEmpty o tp).branch ≠ .token) :
    o.yCert.isStabilizing (resCert o (bhrz03WideningAssign x yEmpty o tp)) = true ∨
    ((bhrz03WideningAssign x yEmpty o tp).branch = .stabilizing ∧ o.yContainsX = true) := by
  obtain ⟨h1, h2, h3, h4⟩ := bhrz03_result_accepted x yEmpty o tp
  cases hbr : (bhrz03WideningAssign x yEmpty o tp).branch with
  | trivial => exact absurd hbr hb.1
  | yEmpty => exact absurd hbr hb.2.1
  | token => exact absurd hbr hb.2.2
  | stabilizing =>
    rcases (h2 hbr).1 with h | h
    · left; simp only [resCert, hbr]; exact h
    · right; exact ⟨rfl, h⟩
  | combining =>
    obtain ⟨c, _, hc, _, hs, _⟩ := h1 (Or.inl hbr)
    left; rw [← hc]; exact hs
  | points =>
    obtain ⟨c, _, hc, _, hs, _⟩ := h1 (Or.inr (Or.inl hbr))
    left; rw [← hc]; exact hs
  | rays =>
    obtain ⟨c, _, hc, _, hs, _⟩ := h1 (Or.inr (Or.inr hbr))
    left; rw [← hc]; exact hs
  | h79 =>
    left; simp only [resCert, hbr]; exact hfallback

example : exBOracle.yCert.isStabilizing exBOracle.h79.cert = true ∧
    exBOracle.yCert.isStabilizing (resCert exBOracle (bhrz03WideningAssign exPoly false exBOracle none)) = true := by
  decide

/-- **the assertion of l. 851 holds for the model**: when the certificates carry the H79 data of the point
    sets (`affine_dim = n - eqRank`, `num_constraints = minCons`), the H79 result is BHRZ03-stabilizing
    w.r.t. `y` unless it denotes `y`.  `_partial`: the contract `MinimalDD`; discharged for engine outputs:
    `bhrz03_fallback_stabilizing_engine`. -/
theorem bhrz03_fallback_stabilizing_partial (n : Nat) (x y : YMin) (hy : MinimalDD n y)
    (hxwf : WFRows n x.conSys)
    (hyx : den false n y.conSys ⊆ den false n x.conSys)
    (hyne : (den false n y.conSys).Nonempty)
    (hne : den false n (h79Rows x y) ≠ den false n y.conSys)
    (cy cr : BHRZ03Cert)
    (hcy : cy.affineDim = n - eqRank n (den false n y.conSys) ∧
           cy.numConstraints = minCons n (den false n y.conSys))
    (hcr : cr.affineDim = n - eqRank n (den false n (h79Rows x y)) ∧
           cr.numConstraints = minCons n (den false n (h79Rows x y))) :
    cy.isStabilizing cr = true := by
  apply PPLV.Widen.Impl.h79_decrease_implies_bhrz03_stabilizing
  have h := (h79_certificate_decreases_lessPh n x y hy hxwf hyx hyne hne).1
  unfold setH79Cert at h
  rw [hcy.1, hcy.2, hcr.1, hcr.2]
  exact h

example : (⟨1 - eqRank 1 (den false 1 yEx.conSys), 0, minCons 1 (den false 1 yEx.conSys), 2, [0]⟩ :
      BHRZ03Cert).isStabilizing
    ⟨1 - eqRank 1 (den false 1 (h79Rows xEx yEx)), 0, minCons 1 (den false 1 (h79Rows xEx yEx)), 1, [1]⟩ = true :=
  bhrz03_fallback_stabilizing_partial 1 xEx yEx yEx_minimal xEx_wf yEx_sub_xEx
    ⟨fun _ => 0, by rw [mem_yEx]; norm_num⟩ h79Rows_ex_ne _ _ ⟨rfl, rfl⟩ ⟨rfl, rfl⟩

/-- **the H79 fallback of `BHRZ03_widening_assign` is stabilizing** (the assertion of l. 851), closed polyhedra,
    `y` minimised by the engine model: full strength. -/
theorem bhrz03_fallback_stabilizing_engine (n : Nat) (x : YMin) (source : List PPLV.Conv.LRow)
    (sat0 : List PPLV.Conv.BRow)
    (hsz : n + 1 < 2 ^ 64) (hsrc : source.length < 2 ^ 64) (hlen : ∀ s ∈ source, s.v.length = n + 1)
    (hne : (PPLV.Conv.minimize true false (n + 1) source sat0).empty = false)
    (hpos : (⟨false, 1 :: List.replicate n 0⟩ : PPLV.Conv.LRow) ∈ source)
    (hxwf : WFRows n x.conSys)
    (hyx : den false n (engineY n source sat0).conSys ⊆ den false n x.conSys)
    (hyne : (den false n (engineY n source sat0).conSys).Nonempty)
    (hne' : den false n (h79Rows x (engineY n source sat0)) ≠ den false n (engineY n source sat0).conSys)
    (cy cr : BHRZ03Cert)
    (hcy : cy.affineDim = n - eqRank n (den false n (engineY n source sat0).conSys) ∧
           cy.numConstraints = minCons n (den false n (engineY n source sat0).conSys))
    (hcr : cr.affineDim = n - eqRank n (den false n (h79Rows x (engineY n source sat0))) ∧
           cr.numConstraints = minCons n (den false n (h79Rows x (engineY n source sat0)))) :
    cy.isStabilizing cr = true :=
  bhrz03_fallback_stabilizing_partial n x _ (minimalDD_of_minimize n source sat0 hsz hsrc hlen hne hpos)
    hxwf hyx hyne hne' cy cr hcy hcr

/-- **`result ⊇ x`** (closed polyhedra): the precheck / token leave `x`; the combining candidate
    `H79 + new_cs` contains `x` because every new constraint is a row of `x_minus_H79_cs` or the SUM of such
    rows; the generator-side candidates and `H79` contain `x` by the contract of their constructions
    (`(x + rays) ∩ H79`; `minimize()` keeps the set). -/
theorem bhrz03_contains_x (x : Poly) (hc : x.nnc = false) (yEmpty : Bool) (o : BOracle) (tp : Option Nat)
    (hh79 : den false x.n o.h79.cs =
      den false x.n (selectH79Constraints false o.xCons o.ySel.conSys o.ySel.genSys o.ySel.satG).1)
    (h2 : den false x.n o.xCons ⊆ den false x.n o.cand2.cs)
    (h3 : ∀ c, o.cand3 = some c → den false x.n o.xCons ⊆ den false x.n c.cs) :
    den false x.n o.xCons ⊆ bresDen x (den false x.n o.xCons) (bhrz03WideningAssign x yEmpty o tp) := by
  have hH : den false x.n o.xCons ⊆ den false x.n o.h79.cs := by
    rw [hh79]
    exact den_mono_sublist false x.n (h79_selected_sublist _ _ _ _ _).1
  rcases bhrz03_cases x yEmpty o tp with h | h | ⟨_, h⟩ | ⟨t, _, h⟩ | h
  · rw [h]; exact subset_rfl
  · rw [h]; exact subset_rfl
  · rw [h]; exact subset_rfl
  · rw [h]; exact subset_rfl
  · rw [h]
    rcases bhrz03Tail_cases x o tp with ⟨c, hcc, h'⟩ | ⟨_, h'⟩ | ⟨c3, hc3, _, h'⟩ | h'
    · rw [h']
      obtain ⟨_, hcs, _⟩ := combining_some hcc
      simp only [bresDen, hc, hcs]
      intro p hp
      rw [mem_den_false, satRows_append]
      refine ⟨hH hp, ?_⟩
      apply combiningNewCs_holds
      intro c' hc'
      exact hp c' ((h79_selected_sublist _ _ _ _ _).2.1.subset hc')
    · rw [h']; simp only [bresDen, hc]; exact h2
    · rw [h']; simp only [bresDen, hc]; exact h3 c3 hc3
    · rw [h']; simp only [bresDen, hc]; exact hH

example : den false 1 xEx.conSys ⊆
    bresDen exPoly (den false 1 xEx.conSys) (bhrz03WideningAssign exPoly false exBOracle none) :=
  bhrz03_contains_x exPoly rfl false exBOracle none rfl
    (den_mono_sublist false 1 (a := [⟨[0, 1], false⟩]) (b := xEx.conSys) (by decide)) (fun c h => by cases h)

/-- a 2-dimensional instance of the first technique: `x_minus_H79_cs = {x ≥ 0, y ≥ 0}`, the point `(0,0)` of
    `y` saturates both and does not lie on the boundary of `H79 = {x + y ≤ 4}`: the averaged constraint
    `x + y ≥ 0` is added -/
example : combiningNewCs false 2 [⟨[1, 0, 0], false⟩] [⟨[4, -1, -1], false⟩]
    [⟨[0, 1, 0], false⟩, ⟨[0, 0, 1], false⟩] = [⟨[0, 1, 1], false⟩] := by decide

/-- **on NNC polyhedra `BHRZ03_combining_constraints` never produces a constraint**: `H79.con_sys` holds the
    row `ε ≥ 0` (`epsGeZero n`, raw row `[0, 0 … 0, 1]`), every closure point of `y` has `ε = 0` and so
    saturates it, hence `lies_on_the_boundary_of_H79` (l. 459–470) is true for every generator the loop
    considers and `new_cs` stays empty. -/
theorem bhrz03_combining_dead_for_nnc (n : Nat) (yGens : List GRow) (h79Cs xMinusH79 : List CRow)
    (hlen : ∀ g ∈ yGens, g.e.length = n + 2) (hmem : epsGeZero n ∈ h79Cs) :
    combiningNewCs true n yGens h79Cs xMinusH79 = [] :=
  combiningNewCs_nnc_nil n yGens h79Cs xMinusH79 hlen hmem

/-- … so the first technique returns `false` (`improves_upon_H79` is never set) and on NNC polyhedra the
    driver always falls through to `BHRZ03_evolving_points`. -/
theorem bhrz03_combining_none_for_nnc (n : Nat) (o : BOracle) (yGens : List GRow) (xMinusH79 : List CRow)
    (hlen : ∀ g ∈ yGens, g.e.length = n + 2) (hmem : epsGeZero n ∈ o.h79.cs) :
    bhrz03CombiningConstraints true n o yGens xMinusH79 = none :=
  bhrz03CombiningConstraints_nnc_none n o yGens xMinusH79 hlen hmem

/-- the driver never takes the `combining` branch on such data -/
theorem bhrz03_never_combining_for_nnc (x : Poly) (hn : x.nnc = true) (yEmpty : Bool) (o : BOracle)
    (tp : Option Nat) (hlen : ∀ g ∈ o.ySel.genSys, g.e.length = x.n + 2) (hmem : epsGeZero x.n ∈ o.h79.cs) :
    (bhrz03WideningAssign x yEmpty o tp).branch ≠ .combining := by
  intro hb
  rcases bhrz03_cases x yEmpty o tp with h | h | ⟨_, h⟩ | ⟨t, _, h⟩ | h
  · rw [h] at hb; cases hb
  · rw [h] at hb; cases hb
  · rw [h] at hb; cases hb
  · rw [h] at hb; cases hb
  · rw [h] at hb
    rcases bhrz03Tail_cases x o tp with ⟨c, hc, _⟩ | ⟨_, h'⟩ | ⟨c3, _, _, h'⟩ | h'
    · rw [hn, bhrz03CombiningConstraints_nnc_none x.n o _ _ hlen hmem] at hc
      cases hc
    · rw [h'] at hb; cases hb
    · rw [h'] at hb; cases hb
    · rw [h'] at hb; cases hb

/-- a 1-dimensional NNC instance: the closure point `p = 0` of `y` saturates both rows of `x_minus_H79_cs`
    and not `5 - p ≥ 0`; with the row `ε ≥ 0` in `H79` nothing is produced … -/
example : combiningNewCs true 1 [⟨[1, 0, 0], false⟩, ⟨[1, 1, 1], false⟩]
    [⟨[5, -1, 0], false⟩, epsGeZero 1] [⟨[0, 1, 0], false⟩, ⟨[0, 2, 0], false⟩] = [] :=
  bhrz03_combining_dead_for_nnc 1 _ _ _ (by decide) (by decide)

/-- … whereas without that row (a system no NNC `H79` has) the averaged constraint `3p ≥ 0` would be added:
    the hypothesis `hmem` is what kills the technique -/
example : combiningNewCs true 1 [⟨[1, 0, 0], false⟩, ⟨[1, 1, 1], false⟩]
    [⟨[5, -1, 0], false⟩] [⟨[0, 1, 0], false⟩, ⟨[0, 2, 0], false⟩] = [⟨[0, 3, 0], false⟩] := by decide

/-- **every ascending chain stabilises** (BHRZ03, abstract): for every domain whose certificate is a function
    of the point set, monotone in affine dimension and lineality, and a widening that contains its larger
    argument and whose result either denotes `y` again or is BHRZ03-stabilizing w.r.t. `y`'s certificate
    (which is what `bhrz03_certificate_decreases_partial` gives for the model), every adversary sequence is
    eventually stationary.  `_partial`: the hypotheses on `certOf` are facts about the true certificates of
    point sets that are assumed, not proved of a model of `BHRZ03_Certificate(ph)` (it needs the minimised
    generator system). -/
theorem bhrz03_chain_stabilises_partial {D : Type} (n : Nat) (γ : D → Set Pt) (certOf : D → BHRZ03Cert)
    (hval : ∀ a b, γ a = γ b → certOf a = certOf b)
    (hmonoA : ∀ a b, γ a ⊆ γ b → (certOf a).affineDim ≤ (certOf b).affineDim)
    (hmonoL : ∀ a b, γ a ⊆ γ b → (certOf a).linSpaceDim ≤ (certOf b).linSpaceDim)
    (hok : ∀ a, (certOf a).affineDim ≤ n ∧ (certOf a).linSpaceDim ≤ n ∧ (certOf a).numRaysNullCoord.length = n)
    (w : D → D → D)
    (hsup : ∀ x y, γ y ⊆ γ x → γ x ⊆ γ (w x y))
    (hdec : ∀ x y, γ y ⊆ γ x → γ (w x y) = γ y ∨ (certOf y).isStabilizing (certOf (w x y)) = true)
    (x0 : D) (z : Nat → D → D) (hz : ∀ i x, γ x ⊆ γ (z i x)) :
    ∃ N, ∀ i ≥ N, γ (advSeq w x0 z (i + 1)) = γ (advSeq w x0 z i) := by
  refine PPLV.Widen.converges_adversary γ w certOf (BHRZ03Cert.LessPh n) (bhrz03_comparePh_wf n) hval ?_ x0 z hz
  intro x y hyx hne
  have hyw : γ y ⊆ γ (w x y) := hyx.trans (hsup x y hyx)
  rcases hdec x y hyx with h | h
  · exact absurd h hne
  · unfold BHRZ03Cert.isStabilizing at h
    exact ⟨by simpa using h, hmonoA _ _ hyw, (hok _).1, hmonoL _ _ hyw, (hok _).2.1, (hok _).2.2, (hok _).2.2⟩

/-- a two-element instance: the point `{p₀ = 0}` and the whole line, `w x y = x` -/
example : ∃ N, ∀ i ≥ N,
    (fun b : Bool => {p : Pt | b = true ∨ p 0 = 0}) (advSeq (fun x _ => x) false (fun _ _ => true) (i + 1)) =
    (fun b : Bool => {p : Pt | b = true ∨ p 0 = 0}) (advSeq (fun x _ => x) false (fun _ _ => true) i) := by
  have hne : ({p : Pt | true = true ∨ p 0 = 0} : Set Pt) ≠ {p : Pt | false = true ∨ p 0 = 0} := by
    intro h
    have : (fun _ => (1 : ℚ)) ∈ ({p : Pt | true = true ∨ p 0 = 0} : Set Pt) := Or.inl rfl
    rw [h] at this
    simp at this
  have hsub : ¬ ({p : Pt | true = true ∨ p 0 = 0} : Set Pt) ⊆ {p : Pt | false = true ∨ p 0 = 0} := by
    intro h
    have := h (show (fun _ => (1 : ℚ)) ∈ ({p : Pt | true = true ∨ p 0 = 0} : Set Pt) from Or.inl rfl)
    simp at this
  refine bhrz03_chain_stabilises_partial 1 (fun b : Bool => {p : Pt | b = true ∨ p 0 = 0})
    (fun b => if b then ⟨1, 1, 0, 1, [0]⟩ else ⟨0, 0, 1, 1, [0]⟩) ?_ ?_ ?_ ?_ (fun x _ => x) ?_ ?_
    false (fun _ _ => true) ?_
  · intro a b h
    cases a <;> cases b <;> first | rfl | exact absurd h hne | exact absurd h.symm hne
  · intro a b h
    cases a <;> cases b <;> first | exact absurd h hsub | simp
  · intro a b h
    cases a <;> cases b <;> first | exact absurd h hsub | simp
  · intro a; cases a <;> simp
  · intro x y _; exact subset_rfl
  · intro x y h
    cases x <;> cases y <;> first | exact Or.inl rfl | exact absurd h hsub | (right; decide)
  · intro i x p hp; exact Or.inl rfl

end C08

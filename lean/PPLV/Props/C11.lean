import PPLV.Checked.ProofsExt2
import PPLV.Checked.ProofsBounded
import PPLV.Checked.ProofsPre
import PPLV.Checked.ProofsSpec
import PPLV.Checked.ProofsConv
import PPLV.Checked.ModelAsWritten
import PPLV.Checked.ProofsFloatMpz
import PPLV.Checked.ProofsSqrt
import PPLV.Checked.ProofsGcd
import PPLV.Checked.ProofsConvMp
/-!
# C11 — checked arithmetic reports true rounding relations; bounded builds never lie

The theorems are about the code-shaped model `PPLV/Checked/Model.lean` of
`checked_int_inlines.hh` + `checked_ext_inlines.hh` (what `assign_r`, `add_assign_r`, … run on
`Checked_Number<T, Policy>` for a native integer `T`), for **every** width (`t.bits` is a
variable), signedness, policy, rounding direction and operand bit pattern.

`OKQ t π dir (stored, code) exact` bundles the clauses of the property:
`holds` (the code's relation between the exact result and the stored value is true — K4),
`directed` (never below the exact result when rounding up, never above when rounding down),
`overflow` (an overflow claim is true), `no_wrap` (the stored value is a bit pattern of the type),
`nan_stored` (undefined results are stored as NaN when the policy has one).

Standing assumptions (`C11.Cfg`): at least one bit, three when the policy reserves special bit
patterns; `check_overflow` on (true of every policy the library instantiates — without it
`CHECK_P` makes representability a precondition of the call); the `int_fast` type of `Larger<T>` at
least twice as wide; a signed type has two bits (`add_2exp` shifts by `bits - 2`).
The contract of a call is `IntOp.pre` (operands are bit patterns of the type; conditions that a
`check_*` flag set to false leaves to the caller hold) — the same Boolean the driver evaluates.

Four defects found by this property (KF-C11-1 … KF-C11-4: `div_signed_int`, `sub_mul_int`,
`umod_2exp_signed_int`, `isqrt_rem`) are repaired in /repo (commits 5157d9d, 295149f, f54ddd9,
1ff2aae); `Model.lean` is the repaired code and `div_holds`, `subMul_holds`, `umod2exp_holds` are
full-strength.  What was wrong is kept as historical witnesses `…_before_fix_fails` about the
as-written variants of `ModelAsWritten.lean` (the driver compares the library with those variants
when the harness measures that a repair is absent, so a regression is reported through the violated
clause and its witness).  `lcm` returned the result code of an intermediate `abs` without
storing anything (KF-C11-5) — repaired by /repo 5d13b40, `lcm_spec` is full-strength, the old behaviour is
`lcm_spec_before_fix_fails`.
`sqrt_holds` (over `ℝ`: the exact result is irrational), `gcd_spec` are full-strength.  Conversions
into `mpz_class` / `mpq_class`: `assign_mpz_mpq_holds`, `assign_mpz_float_holds`, `assign_mpz_int_exact`.
-/
namespace C11
open PPLV.Checked PPLV.Checked.Result

/-- standing assumptions on a (type, policy) pair -/
structure Cfg (t : IntTy) (π : Policy) : Prop where
  wf : t.WF π
  larger : t.LargerOK
  checkOverflow : π.checkOverflow = true
  signed_two_bits : t.signed = true → 2 ≤ t.bits

/-- instantiations the library makes satisfy the standing assumptions -/
example : Cfg .i8 .extended := ⟨⟨by decide, fun _ => by decide⟩, ⟨fun _ => ⟨by decide, by decide⟩⟩, rfl, fun _ => by decide⟩
example : Cfg .i64 .checkOverflowOnly := ⟨⟨by decide, fun _ => by decide⟩, ⟨fun h => by simp [IntTy.i64] at h⟩, rfl, fun _ => by decide⟩
example : Cfg .u64 .debugExtended := ⟨⟨by decide, fun _ => by decide⟩, ⟨fun h => by simp [IntTy.u64] at h⟩, rfl, fun _ => by decide⟩

/-! ## the operations that hold at full strength -/

/-- conversion `assign_r(to : T/π, x : F/πf)` -/
theorem assign_holds {t f : IntTy} {π πf : Policy} (c : Cfg t π) (wf : f.WF πf) (hg : t.GapOK f) (dir : Dir)
    (a : Operands) (hpre : IntOp.pre t π (.assign f πf) a = true) :
    OKQ t π dir (IntOp.run t π (.assign f πf) dir a) (IntOp.exact t π (.assign f πf) a).toQ := by
  simp only [IntOp.pre, Bool.and_eq_true, decide_eq_true_eq] at hpre
  obtain ⟨⟨x1, x2⟩, z1, z2⟩ := hpre
  simp only [IntOp.run, IntOp.exact, Exact.toQ_ofExt]
  exact ok_toQ (assignExt_ok c.wf wf c.checkOverflow hg dir ⟨z1, z2⟩ ⟨x1, x2⟩)

example : IntOp.run .i8 .extended (.assign .i32 .checkOverflowOnly) .down { x := 1000 } = (126, V_GT_SUP) := by decide

theorem neg_holds {t : IntTy} {π : Policy} (c : Cfg t π) (dir : Dir) (a : Operands)
    (hpre : IntOp.pre t π .neg a = true) :
    OKQ t π dir (IntOp.run t π .neg dir a) (IntOp.exact t π .neg a).toQ := by
  simp only [IntOp.pre, Bool.and_eq_true, decide_eq_true_eq] at hpre
  obtain ⟨⟨x1, x2⟩, z1, z2⟩ := hpre
  simp only [IntOp.run, IntOp.exact, Exact.toQ_ofExt]
  exact ok_toQ (negExt_ok c.wf c.larger c.checkOverflow dir ⟨z1, z2⟩ ⟨x1, x2⟩)

example : IntOp.run .i8 .checkOverflowOnly .neg .up { to0 := 5, x := -128 } = (5, V_LT_PLUS_INFINITY.orUnrep) := by decide

theorem abs_holds {t : IntTy} {π : Policy} (c : Cfg t π) (dir : Dir) (a : Operands)
    (hpre : IntOp.pre t π .abs a = true) :
    OKQ t π dir (IntOp.run t π .abs dir a) (IntOp.exact t π .abs a).toQ := by
  simp only [IntOp.pre, Bool.and_eq_true, decide_eq_true_eq] at hpre
  obtain ⟨⟨x1, x2⟩, z1, z2⟩ := hpre
  simp only [IntOp.run, IntOp.exact, Exact.toQ_ofExt]
  exact ok_toQ (absExt_ok c.wf c.larger c.checkOverflow dir ⟨z1, z2⟩ ⟨x1, x2⟩)

example : IntOp.run .i8 .extended .abs .up { x := -128 } = (127, V_EQ_PLUS_INFINITY) := by decide

theorem add_holds {t : IntTy} {π : Policy} (c : Cfg t π) (dir : Dir) (a : Operands)
    (hpre : IntOp.pre t π .add a = true) :
    OKQ t π dir (IntOp.run t π .add dir a) (IntOp.exact t π .add a).toQ := by
  simp only [IntOp.pre, Bool.and_eq_true, decide_eq_true_eq, Bool.or_eq_true, Bool.not_eq_true'] at hpre
  obtain ⟨⟨⟨⟨x1, x2⟩, y1, y2⟩, z1, z2⟩, hp⟩ := hpre
  rw [opposite_iff] at hp
  simp only [IntOp.run, IntOp.exact, Exact.toQ_ofExt]
  exact ok_toQ (addExt_ok c.wf c.larger c.checkOverflow dir ⟨z1, z2⟩ ⟨x1, x2⟩ ⟨y1, y2⟩ hp)

example : IntOp.run .i8 .checkOverflowOnly .add .down { x := 100, y := 100 } = (127, V_GT_SUP) := by decide
example : IntOp.run .i8 .extended .add .up { x := 100, y := 100 } = (127, V_LT_PLUS_INFINITY) := by decide
example : IntOp.run .i8 .extended .add .up { x := -128, y := 100 } = (-128, V_EQ_MINUS_INFINITY) := by decide

theorem sub_holds {t : IntTy} {π : Policy} (c : Cfg t π) (dir : Dir) (a : Operands)
    (hpre : IntOp.pre t π .sub a = true) :
    OKQ t π dir (IntOp.run t π .sub dir a) (IntOp.exact t π .sub a).toQ := by
  simp only [IntOp.pre, Bool.and_eq_true, decide_eq_true_eq, Bool.or_eq_true, Bool.not_eq_true'] at hpre
  obtain ⟨⟨⟨⟨x1, x2⟩, y1, y2⟩, z1, z2⟩, hp⟩ := hpre
  rw [same_iff] at hp
  simp only [IntOp.run, IntOp.exact, Exact.toQ_ofExt]
  exact ok_toQ (subExt_ok c.wf c.larger c.checkOverflow dir ⟨z1, z2⟩ ⟨x1, x2⟩ ⟨y1, y2⟩ hp)

example : IntOp.run .u8 .checkOverflowOnly .sub .up { x := 3, y := 5 } = (0, V_LT_INF) := by decide

theorem mul_holds {t : IntTy} {π : Policy} (c : Cfg t π) (dir : Dir) (a : Operands)
    (hpre : IntOp.pre t π .mul a = true) :
    OKQ t π dir (IntOp.run t π .mul dir a) (IntOp.exact t π .mul a).toQ := by
  simp only [IntOp.pre, Bool.and_eq_true, decide_eq_true_eq] at hpre
  obtain ⟨⟨⟨x1, x2⟩, y1, y2⟩, z1, z2⟩ := hpre
  simp only [IntOp.run, IntOp.exact, Exact.toQ_ofExt]
  exact ok_toQ (mulExt_ok c.wf c.larger c.checkOverflow dir ⟨z1, z2⟩ ⟨x1, x2⟩ ⟨y1, y2⟩)

example : IntOp.run .i64 .checkOverflowOnly .mul .down { x := 3037000500, y := 3037000500 } =
    (9223372036854775807, V_GT_SUP) := by decide
example : IntOp.run .i8 .extended .mul .up { x := 127, y := 0 } = (-127, V_INF_MUL_ZERO) := by decide

theorem addMul_holds {t : IntTy} {π : Policy} (c : Cfg t π) (dir : Dir) (a : Operands)
    (hpre : IntOp.pre t π .addMul a = true) :
    OKQ t π dir (IntOp.run t π .addMul dir a) (IntOp.exact t π .addMul a).toQ := by
  simp only [IntOp.pre, Bool.and_eq_true, decide_eq_true_eq, Bool.or_eq_true, Bool.not_eq_true'] at hpre
  obtain ⟨⟨⟨⟨x1, x2⟩, y1, y2⟩, z1, z2⟩, hp⟩ := hpre
  rw [opposite_iff] at hp
  simp only [IntOp.run, IntOp.exact, Exact.toQ_ofExt]
  exact ok_toQ (addMulExt_ok c.wf c.larger c.checkOverflow dir ⟨z1, z2⟩ ⟨x1, x2⟩ ⟨y1, y2⟩ hp)

example : IntOp.run .i8 .checkOverflowOnly .addMul .up { to0 := -100, x := 16, y := 16 } =
    (-100, V_UNKNOWN_POS_OVERFLOW) := by decide
example : IntOp.run .i8 .checkOverflowOnly .addMul .down { to0 := -100, x := 16, y := 16 } = (27, V_GT) := by decide
example : IntOp.run .i8 .checkOverflowOnly .addMul .up { to0 := 100, x := -16, y := 16 } = (-28, V_LT) := by decide

theorem idiv_holds {t : IntTy} {π : Policy} (c : Cfg t π) (dir : Dir) (a : Operands)
    (hpre : IntOp.pre t π .idiv a = true) :
    OKQ t π dir (IntOp.run t π .idiv dir a) (IntOp.exact t π .idiv a).toQ := by
  simp only [IntOp.pre, Bool.and_eq_true, decide_eq_true_eq, Bool.or_eq_true, Bool.not_eq_true'] at hpre
  obtain ⟨⟨⟨⟨⟨x1, x2⟩, y1, y2⟩, z1, z2⟩, hp2⟩, hp1⟩ := hpre
  rw [finZero_iff] at hp2
  rw [bothInf_iff] at hp1
  simp only [IntOp.run, IntOp.exact]
  exact idivExt_ok c.wf c.larger c.checkOverflow dir ⟨z1, z2⟩ ⟨x1, x2⟩ ⟨y1, y2⟩ hp1 hp2

example : IntOp.run .i8 .checkOverflowOnly .idiv .down { x := -128, y := -1 } = (127, V_GT_SUP) := by decide

theorem rem_holds {t : IntTy} {π : Policy} (c : Cfg t π) (dir : Dir) (a : Operands)
    (hpre : IntOp.pre t π .rem a = true) :
    OKQ t π dir (IntOp.run t π .rem dir a) (IntOp.exact t π .rem a).toQ := by
  simp only [IntOp.pre, Bool.and_eq_true, decide_eq_true_eq, Bool.or_eq_true, Bool.not_eq_true'] at hpre
  obtain ⟨⟨⟨⟨⟨x1, x2⟩, y1, y2⟩, z1, z2⟩, hp2⟩, hp1⟩ := hpre
  rw [finZero_iff] at hp2
  simp only [IntOp.run, IntOp.exact]
  exact remExt_ok c.wf dir ⟨z1, z2⟩ ⟨x1, x2⟩ ⟨y1, y2⟩ hp1 hp2

example : IntOp.run .i8 .debugExtended .rem .down { x := 7, y := 0 } = (-127, V_MOD_ZERO) := by decide

theorem add2exp_holds {t : IntTy} {π : Policy} (c : Cfg t π) (dir : Dir) (a : Operands)
    (hpre : IntOp.pre t π .add2exp a = true) :
    OKQ t π dir (IntOp.run t π .add2exp dir a) (IntOp.exact t π .add2exp a).toQ := by
  simp only [IntOp.pre, Bool.and_eq_true, decide_eq_true_eq] at hpre
  obtain ⟨⟨⟨x1, x2⟩, z1, z2⟩, _⟩ := hpre
  simp only [IntOp.run, IntOp.exact, Exact.toQ_ofExt]
  exact ok_toQ (add2expExt_ok c.wf c.larger c.signed_two_bits c.checkOverflow dir a.e ⟨z1, z2⟩ ⟨x1, x2⟩)

theorem sub2exp_holds {t : IntTy} {π : Policy} (c : Cfg t π) (dir : Dir) (a : Operands)
    (hpre : IntOp.pre t π .sub2exp a = true) :
    OKQ t π dir (IntOp.run t π .sub2exp dir a) (IntOp.exact t π .sub2exp a).toQ := by
  simp only [IntOp.pre, Bool.and_eq_true, decide_eq_true_eq] at hpre
  obtain ⟨⟨⟨x1, x2⟩, z1, z2⟩, _⟩ := hpre
  simp only [IntOp.run, IntOp.exact, Exact.toQ_ofExt]
  exact ok_toQ (sub2expExt_ok c.wf c.larger c.signed_two_bits c.checkOverflow dir a.e ⟨z1, z2⟩ ⟨x1, x2⟩)

theorem mul2exp_holds {t : IntTy} {π : Policy} (c : Cfg t π) (dir : Dir) (a : Operands)
    (hpre : IntOp.pre t π .mul2exp a = true) :
    OKQ t π dir (IntOp.run t π .mul2exp dir a) (IntOp.exact t π .mul2exp a).toQ := by
  simp only [IntOp.pre, Bool.and_eq_true, decide_eq_true_eq] at hpre
  obtain ⟨⟨⟨x1, x2⟩, z1, z2⟩, _⟩ := hpre
  simp only [IntOp.run, IntOp.exact, Exact.toQ_ofExt]
  exact ok_toQ (mul2expExt_ok c.wf c.checkOverflow dir a.e ⟨z1, z2⟩ ⟨x1, x2⟩)

example : IntOp.run .i8 .checkOverflowOnly .mul2exp .up { x := -1, e := 7 } = (-128, V_EQ) := by decide
example : IntOp.run .i8 .extended .mul2exp .up { x := -1, e := 7 } = (-126, V_LT_INF) := by decide

theorem div2exp_holds {t : IntTy} {π : Policy} (c : Cfg t π) (dir : Dir) (a : Operands)
    (hpre : IntOp.pre t π .div2exp a = true) :
    OKQ t π dir (IntOp.run t π .div2exp dir a) (IntOp.exact t π .div2exp a).toQ := by
  simp only [IntOp.pre, Bool.and_eq_true, decide_eq_true_eq] at hpre
  obtain ⟨⟨⟨x1, x2⟩, z1, z2⟩, _⟩ := hpre
  simp only [IntOp.run, IntOp.exact]
  exact div2expExt_okq c.wf dir a.e ⟨z1, z2⟩ ⟨x1, x2⟩

example : IntOp.run .i8 .checkOverflowOnly .div2exp .down { x := -7, e := 1 } = (-4, V_GT) := by decide

theorem smod2exp_holds {t : IntTy} {π : Policy} (c : Cfg t π) (dir : Dir) (a : Operands)
    (hpre : IntOp.pre t π .smod2exp a = true) :
    OKQ t π dir (IntOp.run t π .smod2exp dir a) (IntOp.exact t π .smod2exp a).toQ := by
  simp only [IntOp.pre, Bool.and_eq_true, decide_eq_true_eq, Bool.or_eq_true, Bool.not_eq_true'] at hpre
  obtain ⟨⟨⟨⟨x1, x2⟩, z1, z2⟩, he⟩, hp⟩ := hpre
  simp only [IntOp.run, IntOp.exact]
  have := ok_toQ (smod2expExt_ok c.wf dir a.e he ⟨z1, z2⟩ ⟨x1, x2⟩ hp)
  have e : (exactSmod (t.denote π a.x) a.e).toQ =
      Ext.map Int.cast (match t.denote π a.x with | .fin v => Ext.fin (smodInt v a.e) | _ => Ext.nan) := by
    cases t.denote π a.x <;> simp [exactSmod, Exact.ofInt, Exact.toQ, Ext.map]
  rw [e]
  exact this

example : IntOp.run .i8 .checkOverflowOnly .smod2exp .down { x := 100, e := 7 } = (-28, V_EQ) := by decide
example : IntOp.run .u8 .checkOverflowOnly .smod2exp .up { x := 200, e := 8 } = (0, V_LT_INF) := by decide

/-! ## the rounding steps and the conversions from GMP numbers -/

/-- `round_lt_int`: the stored integer `s` is above the exact result `q` and within one unit of it -/
theorem round_lt_int_holds {t : IntTy} {π : Policy} (c : Cfg t π) (dir : Dir) {s : Int} (hf : t.finite π s) {q : Rat}
    (hlt : q < (s : Rat)) (hgt : ((s - 1 : Int) : Rat) < q) : OKQ t π dir (roundLt t π s dir) (.fin q) :=
  roundLt_okq c.wf dir hf hlt hgt

/-- `round_gt_int`: the stored integer `s` is below the exact result `q` and within one unit of it -/
theorem round_gt_int_holds {t : IntTy} {π : Policy} (c : Cfg t π) (dir : Dir) {s : Int} (hf : t.finite π s) {q : Rat}
    (hgt : (s : Rat) < q) (hlt : q < ((s + 1 : Int) : Rat)) : OKQ t π dir (roundGt t π s dir) (.fin q) :=
  roundGt_okq c.wf dir hf hgt hlt

example : roundLt .i8 .extended (-126) .down = (-128, V_GT_MINUS_INFINITY) := by decide
example : roundGt .u8 .checkOverflowOnly 255 .up = (255, V_LT_PLUS_INFINITY.orUnrep) := by decide

/-- `assign_r(to, mpz_class)` (by its effect: a range test on the value) -/
theorem assign_mpz_holds {t : IntTy} {π : Policy} (c : Cfg t π) (dir : Dir) {to0 : Int} (h0 : t.inRange to0) (v : Int) :
    OKQ t π dir (assignMpz t π to0 v dir) (.fin (v : Rat)) :=
  ok_toQ (e := .fin v) (tri_ok c.wf h0 (assignMpz_tri c.checkOverflow dir to0 v))

/-- `assign_r(to, mpq_class)`: truncating division, range test, `round_lt_int` / `round_gt_int` -/
theorem assign_mpq_holds {t : IntTy} {π : Policy} (c : Cfg t π) (dir : Dir) {to0 n d : Int} (h0 : t.inRange to0)
    (hd : 0 < d) : OKQ t π dir (assignMpq t π to0 n d dir) (.fin ((n : Rat) / (d : Rat))) :=
  assignMpq_okq c.wf c.checkOverflow dir h0 hd

example : assignMpq .i8 .extended 0 (-253) 2 .down = (-128, V_GT_MINUS_INFINITY) := by decide
example : assignMpq .i8 .checkOverflowOnly 0 255 2 .up = (127, V_LT_PLUS_INFINITY.orUnrep) := by decide

/-! ## division -/

/-- `div_assign_r`: every divisor, every direction (as repaired by /repo 5157d9d) -/
theorem div_holds {t : IntTy} {π : Policy} (c : Cfg t π) (dir : Dir) (a : Operands)
    (hpre : IntOp.pre t π .div a = true) :
    OKQ t π dir (IntOp.run t π .div dir a) (IntOp.exact t π .div a).toQ := by
  simp only [IntOp.pre, Bool.and_eq_true, decide_eq_true_eq, Bool.or_eq_true, Bool.not_eq_true'] at hpre
  obtain ⟨⟨⟨⟨⟨x1, x2⟩, y1, y2⟩, z1, z2⟩, hp2⟩, hp1⟩ := hpre
  rw [finZero_iff] at hp2
  rw [bothInf_iff] at hp1
  simp only [IntOp.run, IntOp.exact]
  exact divExt_okq c.wf c.larger c.checkOverflow dir ⟨z1, z2⟩ ⟨x1, x2⟩ ⟨y1, y2⟩ hp1 hp2

example : IntOp.run .i8 .checkOverflowOnly .div .down { x := 7, y := -2 } = (-4, V_GT) := by decide
example : IntOp.run .i8 .checkOverflowOnly .div .up { x := -7, y := -2 } = (4, V_LT) := by decide
example : IntOp.run .i8 .checkOverflowOnly .div .down { x := -7, y := 2 } = (-4, V_GT) := by decide

/-! ## fused multiply-subtract -/

/-- `sub_mul_assign_r` (as repaired by /repo 295149f) -/
theorem subMul_holds {t : IntTy} {π : Policy} (c : Cfg t π) (dir : Dir) (a : Operands)
    (hpre : IntOp.pre t π .subMul a = true) :
    OKQ t π dir (IntOp.run t π .subMul dir a) (IntOp.exact t π .subMul a).toQ := by
  simp only [IntOp.pre, Bool.and_eq_true, decide_eq_true_eq, Bool.or_eq_true, Bool.not_eq_true'] at hpre
  obtain ⟨⟨⟨⟨x1, x2⟩, y1, y2⟩, z1, z2⟩, hp⟩ := hpre
  rw [same_iff] at hp
  simp only [IntOp.run, IntOp.exact, Exact.toQ_ofExt]
  exact ok_toQ (subMulExt_ok c.wf c.larger c.checkOverflow dir ⟨z1, z2⟩ ⟨x1, x2⟩ ⟨y1, y2⟩ hp)

example : IntOp.run .i8 .checkOverflowOnly .subMul .up { to0 := 0, x := 2, y := 64 } = (-127, V_LT) := by decide
example : IntOp.run .i8 .checkOverflowOnly .subMul .down { to0 := 0, x := 2, y := 64 } = (0, V_UNKNOWN_POS_OVERFLOW) := by decide
example : IntOp.run .i8 .checkOverflowOnly .subMul .down { to0 := -5, x := -2, y := 100 } = (123, V_GT) := by decide
example : IntOp.run .u8 .checkOverflowOnly .subMul .up { to0 := 5, x := 20, y := 20 } = (5, V_UNKNOWN_POS_OVERFLOW) := by decide
example : IntOp.run .i8 .extended .subMul .up { to0 := 0, x := 2, y := 64 } = (-126, V_LT_INF) := by decide
example : IntOp.run .i8 .checkOverflowOnly .subMul .up { to0 := -1, x := 2, y := 64 } = (-128, V_LT_INF) := by decide

/-! ## umod_2exp -/

/-- `umod_2exp_assign_r` (as repaired by /repo f54ddd9) -/
theorem umod2exp_holds {t : IntTy} {π : Policy} (c : Cfg t π) (dir : Dir) (a : Operands)
    (hpre : IntOp.pre t π .umod2exp a = true) :
    OKQ t π dir (IntOp.run t π .umod2exp dir a) (IntOp.exact t π .umod2exp a).toQ := by
  simp only [IntOp.pre, Bool.and_eq_true, decide_eq_true_eq, Bool.or_eq_true, Bool.not_eq_true'] at hpre
  obtain ⟨⟨⟨x1, x2⟩, z1, z2⟩, hp⟩ := hpre
  simp only [IntOp.run, IntOp.exact]
  have := ok_toQ (umod2expExt_ok c.wf dir a.e ⟨z1, z2⟩ ⟨x1, x2⟩ hp)
  have e : (exactUmod (t.denote π a.x) a.e).toQ =
      Ext.map Int.cast (match t.denote π a.x with | .fin v => Ext.fin (v % pow2 a.e) | _ => Ext.nan) := by
    cases t.denote π a.x <;> simp [exactUmod, Exact.ofInt, Exact.toQ, Ext.map]
  rw [e]
  exact this

example : IntOp.run .i8 .extended .umod2exp .down { x := -1, e := 7 } = (126, V_GT_SUP) := by decide
example : IntOp.run .i8 .checkOverflowOnly .umod2exp .down { x := -1, e := 7 } = (127, V_EQ) := by decide


/-! ## square root, gcd, lcm -/

/-- **`sqrt_assign_r`** (`isqrt_rem` + `sqrt_unsigned_int` / `sqrt_signed_int` + `sqrt_ext`): for every even
width (the bitwise algorithm steps through the powers of four), signedness, policy, direction and operand
within the contract — the relation between `√x` (a real number) and the stored integer is true, the
direction is honoured (the stored value is `⌊√x⌋`, or `⌊√x⌋ + 1` when rounding up an inexact root), no
intermediate value leaves the type, a negative operand yields NaN / `V_SQRT_NEG`. -/
theorem sqrt_holds {t : IntTy} {π : Policy} (c : Cfg t π) (hev : 2 ∣ t.bits) (dir : Dir) (a : Operands)
    (hpre : IntOp.pre t π .sqrt a = true) :
    OKR t π dir (IntOp.run t π .sqrt dir a) (IntOp.exact t π .sqrt a).toR := by
  simp only [IntOp.pre, Bool.and_eq_true, decide_eq_true_eq, Bool.or_eq_true, Bool.not_eq_true'] at hpre
  obtain ⟨⟨⟨x1, x2⟩, z1, z2⟩, hp⟩ := hpre
  simp only [IntOp.run, IntOp.exact]
  rw [exactSqrt_toR]
  refine sqrtExt_okr c.wf hev dir ⟨z1, z2⟩ ⟨x1, x2⟩ ?_
  rcases hp with h | h
  · exact Or.inl h
  · refine Or.inr fun v hv => ?_
    rw [hv] at h
    simpa using h

/-- the checker's verdict on a real `sqrt` output (comparison through squares) is the comparison with `√n` -/
theorem sqrt_checker_sound {n : Int} (hn : 0 ≤ n) (s : Int) :
    (Exact.sqrt n 1).cmpInt s = some (compare (Real.sqrt n) (s : ℝ)) := cmpInt_sqrt_sound hn s

example : IntOp.run .i8 .checkOverflowOnly .sqrt .up { x := 127 } = (12, V_LT) := by decide
example : IntOp.run .i8 .checkOverflowOnly .sqrt .down { x := 127 } = (11, V_GT) := by decide
example : IntOp.run .u8 .checkOverflowOnly .sqrt .ignore { x := 255 } = (15, V_GE) := by decide
example : IntOp.run .i8 .debugExtended .sqrt .up { x := -4 } = (-127, V_SQRT_NEG) := by decide

/-- **`gcd_assign_r`** (`gcd_exact_no_abs` — Euclid's loop on the signed values — then `abs`; `gcd_ext` for
special operands): the exact result is the non-negative gcd; it is stored exactly, or an overflow is
reported when it is not a value of the type (`gcd(min, min)`, `gcd(min, 0)`).  The loop terminates within
the `2·bits + 2` iterations of the model and no remainder leaves the type. -/
theorem gcd_spec {t : IntTy} {π : Policy} (c : Cfg t π) (dir : Dir) (a : Operands)
    (hpre : IntOp.pre t π .gcd a = true) :
    OKQ t π dir (IntOp.run t π .gcd dir a) (IntOp.exact t π .gcd a).toQ := by
  simp only [IntOp.pre, Bool.and_eq_true, decide_eq_true_eq] at hpre
  obtain ⟨⟨⟨x1, x2⟩, y1, y2⟩, z1, z2⟩ := hpre
  simp only [IntOp.run, IntOp.exact]
  rw [exactGcd_eq, Exact.toQ_ofExt]
  exact ok_toQ (gcdExt_ok c.wf c.larger c.checkOverflow dir ⟨z1, z2⟩ ⟨x1, x2⟩ ⟨y1, y2⟩)

/-- in plain terms: for finite operands whose gcd is a value of the type, `to = gcd(x, y) ≥ 0` and `V_EQ` -/
theorem gcd_value {t : IntTy} {π : Policy} (c : Cfg t π) (dir : Dir) {to0 x y : Int}
    (hx : t.finite π x) (hy : t.finite π y) (hg : (Int.gcd x y : Int) ≤ t.emax π) :
    PPLV.Checked.gcd t π to0 x y dir = ((Int.gcd x y : Int), V_EQ) := by
  have hmin := (IntTy.emin_le_emax c.wf).1
  rcases gcd_tri c.wf c.larger c.checkOverflow dir (to0 := to0) hx hy with ⟨h, _⟩ | ⟨h, _⟩ | ⟨h, _⟩
  · exact h
  · exact absurd h (by omega)
  · exact absurd h (by omega)

example : IntOp.run .i8 .checkOverflowOnly .gcd .up { x := -128, y := 96 } = (32, V_EQ) := by decide
example : IntOp.run .i8 .checkOverflowOnly .gcd .down { x := -128, y := 0 } = (127, V_GT_SUP) := by decide
example : IntOp.run .i8 .extended .gcd .up { x := 127, y := -12 } = (12, V_EQ) := by decide

/-- **`lcm_assign_r`** (`lcm_gcd_exact` as repaired by /repo 5d13b40, `lcm_ext` for special operands):
`lcm(x, y)` is stored exactly or a true overflow is reported — also when `|x|` or `|y|` is not a value of
the type (then the lcm is not one either and `to` receives the outcome of that `abs`). -/
theorem lcm_spec {t : IntTy} {π : Policy} (c : Cfg t π) (dir : Dir) (a : Operands)
    (hpre : IntOp.pre t π .lcm a = true) :
    OKQ t π dir (IntOp.run t π .lcm dir a) (IntOp.exact t π .lcm a).toQ := by
  simp only [IntOp.pre, Bool.and_eq_true, decide_eq_true_eq] at hpre
  obtain ⟨⟨⟨x1, x2⟩, y1, y2⟩, z1, z2⟩ := hpre
  simp only [IntOp.run, IntOp.exact]
  rw [exactLcm_eq, Exact.toQ_ofExt]
  exact ok_toQ (lcmExt_ok c.wf c.larger c.checkOverflow dir ⟨z1, z2⟩ ⟨x1, x2⟩ ⟨y1, y2⟩)

example : IntOp.run .i8 .checkOverflowOnly .lcm .up { x := -12, y := 10 } = (60, V_EQ) := by decide
example : IntOp.run .i8 .checkOverflowOnly .lcm .down { x := 12, y := 11 } = (127, V_GT_SUP) := by decide
example : IntOp.run .i8 .checkOverflowOnly .lcm .down { to0 := 85, x := 1, y := -128 } = (127, V_GT_SUP) := by decide
example : IntOp.run .i8 .checkOverflowOnly .lcm .up { to0 := 85, x := 1, y := -128 } = (85, V_LT_PLUS_INFINITY.orUnrep) := by decide

/-! ## conversions into `mpz_class` / `mpq_class` -/

/-- **`assign_r(mpz_class, mpq_class)`**: floor / ceiling / truncation as the direction asks; the relation is
true and the direction honoured, also with `ROUND_STRICT_RELATION` -/
theorem assign_mpz_mpq_holds (n : Int) {d : Int} (hd : 0 < d) (dir : Dir) (strict : Bool) :
    K4.holds (Mp.assignMpzMpq n d dir strict).2 (.fin ((Mp.assignMpzMpq n d dir strict).1 : Rat)) (.fin ((n : Rat) / d)) ∧
    K4.directed dir (Mp.assignMpzMpq n d dir strict).2 (.fin ((Mp.assignMpzMpq n d dir strict).1 : Rat)) (.fin ((n : Rat) / d)) :=
  assignMpzMpq_ok n hd dir strict

example : Mp.assignMpzMpq (-7) 2 .down true = (-4, V_GT) := by decide
example : Mp.assignMpzMpq (-7) 2 .up false = (-3, V_LE) := by decide
example : Mp.assignMpzMpq (-7) 2 .ignore false = (-3, V_LGE) := by decide

/-- **`assign_r(mpz_class, float | double)`** on a finite operand `n / d`, the FPU rounding upward (the
library's invariant; the kernel's `round_direct(ROUND_UP)` test is a constant) -/
theorem assign_mpz_float_holds (π : Policy) (to0 : QV) (n : Int) {d : Int} (hd : 0 < d) (dir : Dir) :
    K4.holds (Mp.assignMpzFloat π to0 .up (.fin n d) dir).2 (Mp.assignMpzFloat π to0 .up (.fin n d) dir).1.toExtQ (.fin ((n : Rat) / d)) ∧
    K4.directed dir (Mp.assignMpzFloat π to0 .up (.fin n d) dir).2 (Mp.assignMpzFloat π to0 .up (.fin n d) dir).1.toExtQ (.fin ((n : Rat) / d)) :=
  assignMpzFloat_ok π to0 n hd dir

example : Mp.assignMpzFloat .extended .nan .up (.fin (-5) 2) .down = (.fin (-3) 1, V_GT) := by decide
example : Mp.assignMpzFloat .extended .nan .up (.fin (-5) 2) .up = (.fin (-2) 1, V_LT) := by decide

/-- `assign_r(mpz_class | mpq_class, native integer)` is exact, also for the minimum of `long long` -/
theorem assign_mpz_int_exact (f : IntTy) {v : Int} (h : f.inRange v) : Mp.assignMpzInt f v = (v, V_EQ) :=
  assignMpzInt_exact f h

/-! ## all proved operations at once -/

/-- operations for which theorems exist -/
def proved : IntOp → Bool
  | .sqrt => false
  | _ => true

/-- **C11.op_holds**, partial: for every width, signedness, policy, direction and operand bit
patterns within the contract — relation, direction, overflow claim, no wrap, NaN stored.
Not in this aggregate: `sqrt` only (`sqrt_holds`: the same clauses stated over `ℝ`, the exact result being
irrational). -/
theorem op_holds_partial {t : IntTy} {π : Policy} (c : Cfg t π) (op : IntOp) (hop : proved op = true)
    (hasg : ∀ f πf, op = .assign f πf → f.WF πf ∧ t.GapOK f)
    (dir : Dir) (a : Operands) (hpre : IntOp.pre t π op a = true) :
    OKQ t π dir (IntOp.run t π op dir a) (IntOp.exact t π op a).toQ := by
  cases op with
  | assign f πf => exact assign_holds c (hasg f πf rfl).1 (hasg f πf rfl).2 dir a hpre
  | neg => exact neg_holds c dir a hpre
  | abs => exact abs_holds c dir a hpre
  | add => exact add_holds c dir a hpre
  | sub => exact sub_holds c dir a hpre
  | mul => exact mul_holds c dir a hpre
  | div => exact div_holds c dir a hpre
  | idiv => exact idiv_holds c dir a hpre
  | rem => exact rem_holds c dir a hpre
  | addMul => exact addMul_holds c dir a hpre
  | subMul => exact subMul_holds c dir a hpre
  | add2exp => exact add2exp_holds c dir a hpre
  | sub2exp => exact sub2exp_holds c dir a hpre
  | mul2exp => exact mul2exp_holds c dir a hpre
  | div2exp => exact div2exp_holds c dir a hpre
  | umod2exp => exact umod2exp_holds c dir a hpre
  | smod2exp => exact smod2exp_holds c dir a hpre
  | sqrt => cases hop
  | gcd => exact gcd_spec c dir a hpre
  | lcm => exact lcm_spec c dir a hpre

/-! ## bounded builds never lie -/

/-- **A straight-line coefficient computation in a bounded configuration** (every operator hands
its result code to `Bounded_Integer_Coefficient_Policy::handle_result`, which throws on every
overflow class and on NaN) **either throws or ends with exactly the registers of the unbounded
(`mpz_class`) computation** — for every width and signedness, every program over `neg, abs, +, -, *,
add_mul, sub_mul, /, %`, every initial register file of representable values.
(`gcd`, `lcm`, `sqrt` are not among the instructions; division by zero is a trap in both
configurations.) -/
theorem bounded_never_lies {t : IntTy} {π : Policy} (c : Cfg t π)
    (hn : π.hasNan = false) (hi : π.hasInfinity = false) (dir : Dir) (hdir : dir.notRequested = true)
    (prog : List BInstr) (r : Regs) (hr : ∀ j, t.inRange (r j)) (r' : Regs)
    (h : runB t π dir prog r = some r') : runU prog r = some r' :=
  runB_some c.wf c.larger c.checkOverflow hn hi dir hdir prog r hr r' h

/-- non-vacuity: a computation that stays in range, and one that throws where wrapping would
have produced a different answer (100 + 100 on `int8_t`) -/
example : (runB .i8 .checkOverflowOnly .ignore [.mul 2 0 1, .addMul 2 0 0, .div 3 2 1] (fun i => if i = 0 then 7 else 3)).map
    (fun r => (r 2, r 3)) = some (70, 23) := by decide
example : runB .i8 .checkOverflowOnly .ignore [.add 2 0 0] (fun _ => 100) = none := by decide

/-! ## historical witnesses: what the five primitives did before they were repaired

About the as-written variants of `ModelAsWritten.lean` (the code of /repo before 5157d9d, 295149f,
f54ddd9, 1ff2aae, 5d13b40).  `IntOp.runM fx` is what the driver compares the library with: `IntOp.run`, except
that an operation whose repair the harness measured absent runs its as-written primitive. -/

theorem runM_repaired (t : IntTy) (π : Policy) (op : IntOp) (dir : Dir) (a : Operands) :
    IntOp.runM {} t π op dir a = IntOp.run t π op dir a := IntOp.runM_repaired t π op dir a

/-- **KF-C11-1 (fixed).  `7 / -2`, ROUND_DOWN on `int8_t` stored −3 and returned `V_GT`** ("the exact
result is greater than −3"; it is −3.5): relation and direction both violated. -/
theorem div_holds_before_fix_fails :
    divAsWritten .i8 .checkOverflowOnly 0 7 (-2) .down = (-3, V_GT) ∧
    ¬ K4.holds V_GT (Ext.fin ((-3 : Int) : Rat)) (Ext.fin ((7 : Rat) / (-2 : Rat))) ∧
    ¬ K4.directed .down V_GT (Ext.fin ((-3 : Int) : Rat)) (Ext.fin ((7 : Rat) / (-2 : Rat))) := by
  refine ⟨by decide, ?_, ?_⟩
  · simp only [K4.holds, V_GT, K4.relHolds, Rel.GT, Rel.EMPTY, Ext.lt, Ext.eqv]
    norm_num
  · simp only [K4.directed, V_GT, Ext.le, Ext.lt, Ext.eqv]
    intro h
    have := (h trivial (by decide)).2 trivial
    norm_num at this

/-- **KF-C11-2 (fixed).  `0 − 2·64` on `int8_t`, ROUND_UP stored −128 and returned `V_LT_INF`**
("negative overflow, the exact result is below −128"); the exact result is −128. -/
theorem subMul_holds_before_fix_fails :
    subMulAsWritten .i8 .checkOverflowOnly 0 2 64 .up = (-128, V_LT_INF) ∧
    ¬ K4.holds V_LT_INF (Ext.fin (-128 : Int)) (Ext.fin ((0 : Int) - 2 * 64)) := by
  refine ⟨by decide, ?_⟩
  simp [K4.holds, V_LT_INF, K4.relHolds, Rel.LT, Rel.EMPTY, Ext.lt, Ext.eqv]

/-- **KF-C11-3 (fixed).  `-1 umod 2^7` on `int8_t` under `Extended_Number_Policy` stored 127 with
`V_EQ`** — 127 is the bit pattern of `+∞` under that policy. -/
theorem umod2exp_holds_before_fix_fails :
    umod2expAsWritten .i8 .extended 0 (-1) 7 .down = (127, V_EQ) ∧
    ¬ K4.holds V_EQ (IntTy.i8.denote .extended 127) (Ext.fin (127 : Int)) := by
  refine ⟨by decide, ?_⟩
  have e2 : IntTy.i8.denote .extended 127 = .pinf := by decide
  simp only [e2, K4.holds, V_EQ]
  intro ⟨_, ⟨s, hs⟩, _⟩
  cases hs

/-- **KF-C11-4 (fixed).  `sqrt(64)` on `int8_t`, ROUND_UP stored 0 and returned `V_LT`** ("the exact
result is below 0"; it is 8): the accumulator `q = s + t` of `isqrt_rem` exceeded the signed type.
(Judged through squares by the checker: `0² < 64` refutes `√64 < 0`.) -/
theorem sqrt_before_fix_fails :
    sqrtAsWritten .i8 .checkOverflowOnly 0 64 .up = (0, V_LT) ∧
    K4.holdsB V_LT (.fin 0) (IntOp.exact .i8 .checkOverflowOnly .sqrt { x := 64 }) = false ∧
    IntOp.run .i8 .checkOverflowOnly .sqrt .up { x := 64 } = (8, V_EQ) := by decide

/-- the "infinities only" layout of `Extended_Int` (not a policy the library instantiates) -/
def infOnly : Policy := { Policy.debugExtended with hasNan := false }

/-- **KF-C11-5 (fixed by /repo 5d13b40).  `lcm(1, -127)` on `int8_t` with infinities only, ROUND_UP returned
`V_LT_PLUS_INFINITY`** (class `+∞`, representable: "`+∞` was stored") while `to` still held its old value 85:
the code of the `abs` of a temporary.  The repaired code stores `+∞`. -/
theorem lcm_spec_before_fix_fails :
    lcmAsWritten .i8 infOnly 85 1 (-127) .up = (85, V_LT_PLUS_INFINITY) ∧
    K4.holdsB V_LT_PLUS_INFINITY (IntTy.i8.denote infOnly 85) (IntOp.exact .i8 infOnly .lcm { to0 := 85, x := 1, y := -127 })
      = false ∧
    IntOp.run .i8 infOnly .lcm .up { to0 := 85, x := 1, y := -127 } = (127, V_LT_PLUS_INFINITY) := by decide

/-- a tree measured without the div repair is compared with the as-written division -/
example : IntOp.runM { div := false } .i8 .checkOverflowOnly .div .down { x := 7, y := -2 } = (-3, V_GT) := by decide

/-! ## the checker that judges the real library's output decides the property clauses -/

/-- **The driver's verdict on a real output is the property clause itself.**  `pplv_c11` evaluates
`K4.holdsB`, `K4.directedB`, `K4.overflowHoldsB` on the (stored value, result code) printed by the
library and the exact result `IntOp.exact`; for every operation except `sqrt` (whose exact result
is irrational and is compared through squares) these Booleans are equivalent to `K4.holds`,
`K4.directed`, `K4.overflowHolds` over `ℚ`. -/
theorem checker_decides (t : IntTy) (π : Policy) (op : IntOp) (hop : op ≠ .sqrt) (dir : Dir) (a : Operands)
    (r : Result) (stored : Int) :
    let exact := IntOp.exact t π op a
    let st := t.denote π stored
    (K4.holdsB r st exact = true ↔ K4.holds r (st.map (Int.cast : Int → Rat)) exact.toQ) ∧
    (K4.directedB dir r st exact = true ↔ K4.directed dir r (st.map (Int.cast : Int → Rat)) exact.toQ) ∧
    (K4.overflowHoldsB r (t.emin π) (t.emax π) exact = true ↔
      K4.overflowHolds r ((t.emin π : Int) : Rat) ((t.emax π : Int) : Rat) exact.toQ) := by
  have he := exact_rational t π op a hop
  exact ⟨holdsB_iff he r _, directedB_iff he dir r _, overflowHoldsB_iff he r _ _⟩

/-- non-vacuity: the checker rejects the library's answer to `7 / -2` and accepts `-7 / 2` -/
example : K4.holdsB V_GT (.fin (-3)) (IntOp.exact .i8 .checkOverflowOnly .div { x := 7, y := -2 }) = false := by decide
example : K4.holdsB V_GT (.fin (-4)) (IntOp.exact .i8 .checkOverflowOnly .div { x := -7, y := 2 }) = true := by decide

/-! ## floating point: judged on the real output; one conversion modelled and proved -/

/-- **The float judge decides the property clauses.**  For every float operation whose exact result is an
extended rational (everything except `sqrt`, which is compared through squares) `pplv_c11` brings the
stored value `sn / sd` and the exact result `n / d` to the denominator of the stored value and evaluates
`K4.holdsFB` / `K4.directedB`; these Booleans are equivalent to `K4.holdsF` / `K4.directed` about the two
rationals (`holdsF`: as `holds`, but a normal-class code may accompany a stored infinity of the format). -/
theorem float_judge_sound (stored ex : QV) (hs : stored.WF) (he : ex.WF) (r : Result) (dir : Dir) :
    (K4.holdsFB r stored.split.1 ((QX.val ex).scaled stored.split.2) = true ↔ K4.holdsF r stored.toQ ex.toQ) ∧
    (K4.directedB dir r stored.split.1 ((QX.val ex).scaled stored.split.2) = true ↔
      K4.directed dir r stored.toQ ex.toQ) :=
  PPLV.Checked.float_judge_sound stored ex hs he r dir

/-- non-vacuity: 1/3 stored as 0.375 = 3/8 with `V_LT` is accepted, with `V_GT` rejected -/
example : K4.holdsFB V_LT (QV.fin 3 8).split.1 ((QX.val (.fin 1 3)).scaled (QV.fin 3 8).split.2) = true := by decide
example : K4.holdsFB V_GT (QV.fin 3 8).split.1 ((QX.val (.fin 1 3)).scaled (QV.fin 3 8).split.2) = false := by decide

/-- **`assign_float_mpz` for every binary format** (`MANTISSA_BITS = f.mbits`, `EXPONENT_MAX = f.emax`), every
integer and direction: relation, direction and overflow claim are true; in particular the
meaningful-bits test `exponent - zeroes > MANTISSA_BITS` is exactly "more than `mbits + 1` significant
bits".  `e`, `z` are the values of `mpz_sizeinbase(from, 2) - 1` and `mpn_scan1(from, 0)`. -/
theorem assign_float_mpz_holds (f : FloatFormat) (hf : f.mbits ≤ f.emax) (v : Int) (e z : Nat) (dir : Dir)
    (he : v ≠ 0 → pow2 e ≤ (if v < 0 then -v else v) ∧ (if v < 0 then -v else v) < pow2 (e + 1))
    (hz : v ≠ 0 → pow2 z ∣ (if v < 0 then -v else v) ∧ ¬ pow2 (z + 1) ∣ (if v < 0 then -v else v)) :
    K4.holdsF (f.assignMpz v e z dir).2 (f.assignMpz v e z dir).1 (.fin v) ∧
    K4.directed dir (f.assignMpz v e z dir).2 (f.assignMpz v e z dir).1 (.fin v) ∧
    K4.overflowHolds (f.assignMpz v e z dir).2 (-(f.maxF)) f.maxF (.fin v) :=
  assignFloatMpz_ok f hf v e z dir he hz

/-- 2^24 + 1 has 25 significant bits: inexact in binary32; 2^24 + 2 = (2^23 + 1)·2 has 24: exact -/
example : FloatFormat.binary32.assignMpz 16777217 24 0 .up = (.fin 16777218, V_LT) := by decide
example : FloatFormat.binary32.assignMpz 16777217 24 0 .down = (.fin 16777216, V_GT) := by decide
example : FloatFormat.binary32.assignMpz 16777218 24 1 .up = (.fin 16777218, V_EQ) := by decide
example : FloatFormat.binary32.assignMpz (-(pow2 128)) 128 128 .up = (.fin (-(FloatFormat.binary32.maxF)), V_LT_INF) := by decide

end C11

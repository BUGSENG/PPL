import PPLV.Term.ProofsPR
import PPLV.Term.ProofsGen
import PPLV.Term.ProofsSpaceGen
import PPLV.Term.ProofsCover

/-!
# C18 — termination analysis returns only genuine ranking functions

Conventions (`src/termination_defs.hh`): a relation over `n` program variables is a set of pairs
`w = (x', x) ∈ ℚ^{2n}`, primed values first; `μ(x) = μ_0 + Σ μ_i x_i` is the vector
`(μ_1, …, μ_n, μ_0)`.  `Spec.isRanking n S μ`: on every pair of `S`, `μ(x) ≥ 0` and
`μ(x) − μ(x') ≥ 1` (the normal form the Mesnard–Serebrenik encoding produces);
`Spec.isRankingGen n S μ`: bounded from below by some constant and decreasing by at least some
fixed `δ > 0` (what the Podelski–Rybalchenko functions produce, `μ_0 = 0`).  A function of the
second kind rescales to one of the first kind (`ranking_of_rankingGen`), so "an affine ranking
function exists" means the same for both.

The judge of `pplv_term` uses exactly the Boolean procedures below on what the real library
returned; `sem R` is the point set of the constraint system the library was given.
-/
namespace C18
open PPLV.Lin PPLV.Term

/-! ## the verified checkers -/

/-- **`isRankingB` decides the specification**: `μ = c/d` passes iff it is bounded from below by
    `0` and decreases by at least `1` on every pair of the relation (two K1 inclusions; strict
    rows of an NNC relation included). -/
theorem ranking_iff (n : Nat) (R : List Con) (c : List Int) (d : Int) (hwf : WF (2*n) R) :
    isRankingB n R c d = true ↔ 0 < d ∧ Spec.isRanking n (sem R) (ratPoint c d) :=
  isRankingB_iff n R c d hwf

/-- the loop `x' = x − 1, x ≥ 0` (rows over `(x', x)`) -/
def decLoop : List Con := eqRows [1, -1] 1 ++ [geRow [0, 1] 0]
/-- the loop `x' = x, x ≥ 0` -/
def idLoop : List Con := eqRows [1, -1] 0 ++ [geRow [0, 1] 0]

-- the side condition of `feasible_eq_feasibleFM` is discharged by `decide`; what the kernel
-- evaluates is the elimination alone
example : isRankingB 1 decLoop [1, 0] 1 = true := by      -- μ(x) = x
  simp (disch := decide) only [isRankingB, implies, feasible_eq_feasibleFM]; decide +kernel
example : isRankingB 1 decLoop [1, -1] 1 = false := by    -- μ(x) = x − 1 < 0 at x = 0
  simp (disch := decide) only [isRankingB, implies, feasible_eq_feasibleFM]; decide +kernel
example : isRankingB 1 decLoop [1, 0] 2 = false := by     -- μ(x) = x/2 decreases by 1/2 only
  simp (disch := decide) only [isRankingB, implies, feasible_eq_feasibleFM]; decide +kernel
example : isRankingB 1 idLoop [1, 0] 1 = false := by
  simp (disch := decide) only [isRankingB, implies, feasible_eq_feasibleFM]; decide +kernel

/-- **`isRankingGenB` decides the general form** (supremum of a linear function over the
    relation, K1 `supB`): bounded from below and decreasing by a fixed positive amount. -/
theorem ranking_gen_iff (n : Nat) (R : List Con) (c : List Int) (d : Int) (hwf : WF (2*n) R) :
    isRankingGenB n R c d = true ↔ 0 < d ∧ Spec.isRankingGen n (sem R) (ratPoint c d) :=
  isRankingGenB_iff n R c d hwf

example : isRankingGenB 1 decLoop [1, 0] 2 = true := by   -- x/2: δ = 1/2
  simp only [isRankingGenB, lowerBoundedB_eq, posBoundedB_eq]; decide +kernel
example : isRankingGenB 1 decLoop [1, -7] 1 = true := by  -- x − 7: β = −7
  simp only [isRankingGenB, lowerBoundedB_eq, posBoundedB_eq]; decide +kernel
example : isRankingGenB 1 idLoop [1, 0] 1 = false := by
  simp only [isRankingGenB, lowerBoundedB_eq, posBoundedB_eq]; decide +kernel

theorem rankingGen_of_ranking (n : Nat) (S : Val → Prop) (mu : Val) (h : Spec.isRanking n S mu) :
    Spec.isRankingGen n S mu := ⟨1, 0, one_pos, h⟩

/-- a function of the general form rescales to the normal form: existence is the same notion -/
theorem ranking_of_rankingGen (n : Nat) (S : Val → Prop) (mu : Val) (h : Spec.isRankingGen n S mu) :
    ∃ mu', Spec.isRanking n S mu' := by
  obtain ⟨δ, β, hδ, h⟩ := h
  refine ⟨fun i => if i = n then (mu n - β) / δ else mu i / δ, fun w hw => ?_⟩
  have hlin : ∀ off, linAt n (fun i => if i = n then (mu n - β) / δ else mu i / δ) off w
      = linAt n mu off w / δ := by
    intro off
    have e : linAt n mu off w / δ = δ⁻¹ * linAt n mu off w := by ring
    rw [e]
    unfold linAt
    rw [← sumTo_mul_left]
    apply sumTo_congr
    intro i hi
    have : i ≠ n := by omega
    simp only [this, if_false]
    field_simp
  obtain ⟨h1, h2⟩ := h w hw
  unfold Spec.valueAt Spec.decrAt at *
  rw [hlin, hlin]
  simp only [if_true]
  constructor
  · have : (mu n - β) / δ + linAt n mu n w / δ = (mu n + linAt n mu n w - β) / δ := by ring
    rw [this]
    exact div_nonneg (by linarith) (le_of_lt hδ)
  · have : linAt n mu n w / δ - linAt n mu 0 w / δ = (linAt n mu n w - linAt n mu 0 w) / δ := by ring
    rw [this, le_div_iff₀ hδ]
    linarith

/-! ## the Farkas encodings are sound (code-shaped models of `termination.cc`) -/

/-- **Mesnard–Serebrenik**: every solution `(μ_1..μ_n, μ_0, y, z)` of the system built by
    `fill_constraint_systems_MS` (single-system form of `termination_test_MS` /
    `one_affine_ranking_function_MS`) is a ranking function of the relation: weighted-sum
    argument with the non-negative multipliers `y` (decrease) and `z` (lower bound). -/
theorem ms_sound (n : Nat) (cs : List Con) (hwf : WF (2*n) cs) (sol : Val)
    (h : Sat (msSystem n cs) sol) : Spec.isRanking n (sem cs) sol := by
  unfold msSystem at h
  rw [Sat_append] at h
  intro w hw
  exact ⟨fillMS2_sound n cs _ (by omega) hwf sol h.2 w hw,
         fillMS1_sound n cs _ (by omega) hwf sol h.1 w hw⟩

/-- non-vacuity: `μ = x` with `y = (0,1,0)`, `z = (0,0,1)`, `z_4 = z_5 = 0` solves the system of
    `x' = x − 1, x ≥ 0` -/
example : ∃ sol, Sat (msSystem 1 decLoop) sol :=
  certFeas_sound _ [1, 0, 0, 1, 0, 0, 0, 1, 0, 0] 1 (by decide +kernel)

/-- the two separate systems of `all_affine_ranking_functions_MS` /
    `all_affine_quasi_ranking_functions_MS`: system 1 gives the decreasing functions, system 2
    the functions bounded from below by `0` -/
theorem ms_quasi_sound (n : Nat) (cs : List Con) (hwf : WF (2*n) cs) (sol : Val) :
    (Sat (fillMS1 n cs (n + 1)) sol → ∀ w ∈ sem cs, 1 ≤ Spec.decrAt n sol w) ∧
    (Sat (fillMS2 n cs (n + 1)) sol → ∀ w ∈ sem cs, 0 ≤ Spec.valueAt n sol w) :=
  ⟨fun h w hw => fillMS1_sound n cs _ (by omega) hwf sol h w hw,
   fun h w hw => fillMS2_sound n cs _ (by omega) hwf sol h w hw⟩

/-- **Podelski–Rybalchenko, before/after form** (`fill_constraint_system_PR` with
    `le_out ≤ −1`): from every solution `u = (u_3, u_2, u_1) ≥ 0` the function
    `μ = −u_3ᵀE'_C` (`μ_0 = 0`) decreases by at least `1` and is bounded from below by
    `−u_1·d_B` on the relation `x ∈ before ∧ (x', x) ∈ after`. -/
theorem pr_sound (n : Nat) (csB csA : List Con) (hB : WF n csB) (hA : WF (2*n) csA) (u : Val)
    (h : Sat (prSystem n csB csA) u) :
    Spec.isRankingGen n (sem (pairRel n csB csA)) (prMu n csA u) :=
  ⟨1, _, one_pos, prSystem_sound n csB csA hB hA u h⟩

/-- `x ≥ 0` before; `x' = x − 1` after -/
example : ∃ u, Sat (prSystem 1 [geRow [1] 0] (eqRows [1, -1] 1)) u :=
  certFeas_sound _ [0, 1, 0, 1] 1 (by decide +kernel)
example : feasible (prDim [geRow [1] 0] (eqRows [1, -1] 0))
    (prSystem 1 [geRow [1] 0] (eqRows [1, -1] 0)) = false := by
  rw [feasible_eq_feasibleFM _ _ (by decide)]; decide +kernel

/-- the guarded decrement `x_2' = x_2 − x_1, x_1' ≥ x_1` under the guard `x_1 ≥ 1, x_2 ≥ 0`
    (rows over `(x_1', x_2', x_1, x_2)`): the size of the decrement is known through the guard only -/
def guardB : List Con := [geRow [1, 0] (-1), geRow [0, 1] 0]
def guardA : List Con := eqRows [0, 1, 1, -1] 0 ++ [geRow [1, 0, -1, 0] 0]

-- `u_3 = (0,1,0)`, `u_2 = (1,0)`, `u_1 = (0,1)`: `μ = x_2`
example : ∃ u, Sat (prSystem 2 guardB guardA) u :=
  certFeas_sound _ [0, 1, 0, 1, 0, 0, 1] 1 (by decide +kernel)
example : isRankingB 2 (pairRel 2 guardB guardA) [0, 1, 0] 1 = true := by
  simp (disch := decide) only [isRankingB, implies, feasible_eq_feasibleFM]; decide +kernel

/-- on such relations (no inhomogeneous term in `cs_after`) every solution of the encoding puts a
    total weight `u_2·d_B ≤ −1` on the guard rows: the guard multipliers are non-zero and the
    term `u_2·d_B` of `le_out` is indispensable (`guardB / guardA` above is such a relation, with
    the ranking function `μ = x_2`) -/
theorem pr_guard_term_needed (n : Nat) (csB csA : List Con)
    (h0 : (consts csA).all (· == 0) = true) (u : Val) (hs : Sat (prSystem n csB csA) u) :
    dot (consts csB) (fun i => u (i + csA.length)) ≤ -1 :=
  prSystem_guard_term n csB csA h0 u hs

example : (consts guardA).all (· == 0) = true := by decide

/-- **Podelski–Rybalchenko, single-relation form** (`fill_constraint_system_PR_original`):
    `μ = −λ_2ᵀA'` decreases by at least `1` and is bounded from below by `−λ_1·b`. -/
theorem pr_original_sound (n : Nat) (cs : List Con) (hwf : WF (2*n) cs) (u : Val)
    (h : Sat (prOrigSystem n cs) u) :
    Spec.isRankingGen n (sem cs) (prOrigMu n cs u) :=
  ⟨1, _, one_pos, prOrigSystem_sound n cs hwf u h⟩

example : ∃ u, Sat (prOrigSystem 1 decLoop) u :=
  certFeas_sound _ [0, 0, 1, 0, 1, 0] 1 (by decide +kernel)

/-! ## does a ranking function exist? -/

/-- **Refutation**: points of the relation and recession directions of it whose finitely many
    conditions on `μ` are unsatisfiable (K1 emptiness) prove that no affine ranking function
    exists — no Farkas lemma involved. -/
theorem no_ranking_sound (n : Nat) (cs : List Con) (gs : List Gen) (h : noRankingB n cs gs = true) :
    ¬ ∃ mu, Spec.isRanking n (sem cs) mu := noRankingB_sound n cs gs h

/-- **The existence decider is sound in both answers**: `some true` — a ranking function exists
    (a witness passed `isRankingB`, or the relation is empty); `some false` — none exists. -/
theorem exists_ranking_decider_sound (n : Nat) (cs : List Con) (gs : List Gen) (hwf : WF (2*n) cs)
    (b : Bool) (h : existsRankingDecider n cs gs = some b) :
    b = true ↔ ∃ mu, Spec.isRanking n (sem cs) mu :=
  existsRankingDecider_sound n cs gs hwf b h

-- `x' = x − 1, x ≥ 0`: vertex `(−1, 0)`, ray `(1, 1)`
example : existsRankingDecider 1 decLoop [⟨.point, [-1, 0], 1⟩, ⟨.ray, [1, 1], 1⟩] = some true := by
  -- the one simplex run that the statement needs: the proposed function `μ(x) = x`
  have h : findPoint (1 + 1) (rankCons 1 (expandLines [⟨.point, [-1, 0], 1⟩, ⟨.ray, [1, 1], 1⟩]))
      = some ([1, 0], 1) := by decide +kernel
  simp (disch := decide) only [existsRankingDecider, isEmptyB, h, isRankingB, implies,
    feasible_eq_feasibleFM]
  decide +kernel
-- `x' = x, x ≥ 0`: vertex `(0, 0)`, ray `(1, 1)`
example : existsRankingDecider 1 idLoop [⟨.point, [0, 0], 1⟩, ⟨.ray, [1, 1], 1⟩] = some false := by
  simp (disch := decide) only [existsRankingDecider, isEmptyB, noRankingB, feasible_eq_feasibleFM]
  decide +kernel
-- the empty relation
example : existsRankingDecider 1 [falseRow] [] = some true := by decide +kernel
-- a wrong hint is never believed
example : existsRankingDecider 1 idLoop [⟨.point, [-1, 0], 1⟩] = none := by
  have h : findPoint (1 + 1) (rankCons 1 (expandLines [⟨.point, [-1, 0], 1⟩])) = some ([1, 0], 1) := by
    decide +kernel
  simp (disch := decide) only [existsRankingDecider, isEmptyB, h, isRankingB, implies,
    feasible_eq_feasibleFM]
  decide +kernel

/-- the converse of the refutation: when the hint covers the relation (every pair is a combination
    of the generators, e.g. established by K1 `checkDD`), the finite system `rankCons` is exact —
    each of its solutions is a ranking function of the relation -/
theorem rank_cons_exact (n : Nat) (cs : List Con) (gs : List Gen)
    (hclosed : ∀ g ∈ gs, g.kind ≠ .cpoint) (hgwf : gensWF (2*n) gs = true)
    (hcover : ∀ w ∈ sem cs, w ∈ GenSem (2*n) gs) (mu : Val)
    (h : Sat (rankCons n (expandLines gs)) mu) : Spec.isRanking n (sem cs) mu :=
  fun w hw => rankCons_sound n gs hclosed hgwf mu h w (hcover w hw)

/-- **Completeness of the decider, partial.**  With a covering hint the decider answers
    `some true` as soon as the (untrusted) simplex search `findPoint` returns a solution of the
    finite system.  Missing for full completeness: a proof that the search returns a solution
    whenever the system is feasible (the simplex of `PPLV/Lin/Simplex.lean` is deliberately
    untrusted and unproved; K1's complete `feasible` does not produce a witness), and that the
    hint of the harness (the library's own generators) is exact — the latter is checked at run
    time, not assumed: a hint that is not exact leads to `none`, never to a wrong answer
    (`exists_ranking_decider_sound`). -/
theorem exists_ranking_decider_complete_partial (n : Nat) (cs : List Con) (gs : List Gen)
    (hwf : WF (2*n) cs) (hne : isEmptyB (2*n) cs = false)
    (hclosed : ∀ g ∈ gs, g.kind ≠ .cpoint) (hgwf : gensWF (2*n) gs = true)
    (hcover : ∀ w ∈ sem cs, w ∈ GenSem (2*n) gs) (c : List Int) (d : Int)
    (hfp : findPoint (n + 1) (rankCons n (expandLines gs)) = some (c, d)) :
    existsRankingDecider n cs gs = some true := by
  obtain ⟨hd, hsat⟩ := findPoint_sound _ _ c d hfp
  have hr : isRankingB n cs c d = true :=
    (isRankingB_iff n cs c d hwf).mpr ⟨hd, rank_cons_exact n cs gs hclosed hgwf hcover _ hsat⟩
  unfold existsRankingDecider
  simp [hne, hfp, hr]

/-! ## every element of a returned space of functions -/

/-- **`mu_space` of the Mesnard–Serebrenik functions** (a closed polyhedron of dimension `n+1`):
    if every generator passes `spaceGenOK` (points: `isRankingB`; rays and lines: the homogeneous
    inclusions) then *every* element of the polyhedron is a ranking function. -/
theorem mu_space_sound (n : Nat) (R : List Con) (gs : List Gen) (hwf : WF (2*n) R)
    (h : spaceOK n R gs = true) :
    ∀ mu ∈ GenSem (n + 1) gs, Spec.isRanking n (sem R) mu :=
  fun mu hmu => spaceOK_sound n R gs hwf h mu hmu

-- all ranking functions of `x' = x − 1, x ≥ 0`: `μ_1 ≥ 1, μ_0 ≥ 0`
example : spaceOK 1 decLoop [⟨.point, [1, 0], 1⟩, ⟨.ray, [1, 0], 1⟩, ⟨.ray, [0, 1], 1⟩] = true := by
  simp (disch := decide) only [spaceOK, List.all_cons, List.all_nil, spaceGenOK, homOK, isRankingB,
    implies, feasible_eq_feasibleFM]
  decide +kernel
example : spaceOK 1 decLoop [⟨.point, [1, 0], 1⟩, ⟨.line, [0, 1], 1⟩] = false := by
  simp (disch := decide) only [spaceOK, List.all_cons, List.all_nil, spaceGenOK, homOK, isRankingB,
    implies, feasible_eq_feasibleFM]
  decide +kernel

/-- **the two quasi spaces** of `all_affine_quasi_ranking_functions_MS`: generator-wise checks
    carry over to every element — `decreasing_mu_space` decreases by at least `1`,
    `bounded_mu_space` is bounded from below by `0` on every pair of the relation -/
theorem quasi_spaces_sound (n : Nat) (R : List Con) (gsD gsB : List Gen) (hwf : WF (2*n) R) :
    (quasiOK n R true gsD = true → ∀ mu ∈ GenSem (n + 1) gsD, ∀ w ∈ sem R, 1 ≤ Spec.decrAt n mu w) ∧
    (quasiOK n R false gsB = true → ∀ mu ∈ GenSem (n + 1) gsB, ∀ w ∈ sem R, 0 ≤ Spec.valueAt n mu w) :=
  ⟨fun h mu hmu w hw => quasi_decreasing_sound n R gsD hwf h mu hmu w hw,
   fun h mu hmu w hw => quasi_bounded_sound n R gsB hwf h mu hmu w hw⟩

-- `x' = x − 1, x ≥ 0`: decreasing `μ_1 ≥ 1` (`μ_0` free); bounded `μ_1 ≥ 0, μ_0 ≥ 0`
example : quasiOK 1 decLoop true [⟨.point, [1, 0], 1⟩, ⟨.ray, [1, 0], 1⟩, ⟨.line, [0, 1], 1⟩] = true := by
  simp (disch := decide) only [quasiOK, if_true, List.all_cons, List.all_nil, decrGenOK, implies,
    feasible_eq_feasibleFM]
  decide +kernel
example : quasiOK 1 decLoop false [⟨.point, [0, 0], 1⟩, ⟨.ray, [1, 0], 1⟩, ⟨.line, [0, 1], 1⟩] = false := by
  simp (disch := decide) only [quasiOK, Bool.false_eq_true, if_false, List.all_cons, List.all_nil,
    boundGenOK, implies, feasible_eq_feasibleFM]
  decide +kernel

/-- **`mu_space` of the Podelski–Rybalchenko functions** (an NNC polyhedron): points must pass
    `isRankingGenB`, closure points / rays / lines the homogeneous conditions (non-increasing,
    bounded from below); then every element is bounded from below and decreases by a fixed
    positive amount. -/
theorem mu_space_gen_sound (n : Nat) (R : List Con) (gs : List Gen) (hwf : WF (2*n) R)
    (h : spaceGenOKAll n R gs = true) :
    ∀ mu ∈ GenSem (n + 1) gs, Spec.isRankingGen n (sem R) mu :=
  fun mu hmu => spaceGenOKAll_sound n R gs hwf h mu hmu

-- what PPL returns for `x' = x − 1, x ≥ 0`: `μ_1 > 0`, `μ_0` free
example : spaceGenOKAll 1 decLoop
    [⟨.line, [0, 1], 1⟩, ⟨.cpoint, [0, 0], 1⟩, ⟨.ray, [1, 0], 1⟩, ⟨.point, [1, 0], 1⟩] = true := by
  simp (disch := decide) only [spaceGenOKAll, List.all_cons, List.all_nil, spaceGenGenOK, homGenOK,
    isRankingGenB, lowerBoundedB_eq, posBoundedB_eq, implies, feasible_eq_feasibleFM]
  decide +kernel
example : spaceGenOKAll 1 decLoop [⟨.point, [0, 0], 1⟩] = false := by
  simp only [spaceGenOKAll, List.all_cons, List.all_nil, spaceGenGenOK, isRankingGenB,
    lowerBoundedB_eq, posBoundedB_eq]
  decide +kernel

end C18

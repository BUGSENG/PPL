import PPLV.Dump.Proofs

/-!
# C15 — `ascii_dump` / `ascii_load` round trips (property theorems)

Models: `PPLV/Dump/Model.lean` (code-shaped printers and loaders), status tables regenerated from the
sources at every run (`PPLV/Gen/StatusTables.lean`).  Every theorem quantifies over **all** states of the
grammar (all flag combinations a `Status` object can hold, matrices and boxes of any size).

What the theorems are about: the *grammars* (token order, keywords, separators, per-flag load actions, the
loader's control flow).  That the C++ functions implement these grammars is the correspondence part of the
check (`harness/c15_dumpload.cc`, `Driver/C15.lean`): the Lean loader must accept every real status line /
header / matrix the histories produce, the Lean printer must reproduce them byte for byte, and the Lean
status loader must predict the flags the real `ascii_load` leaves in a receiver with prior flags.
-/
namespace C15
open PPLV.Dump

/-! ## the grammars -/

/-- keywords are pairwise distinct words -/
def enumOk (ks : List Word) : Bool := kwDistinct ks && ks.all isWordB

/-- a grammar of the dump format.  `status c` is the flag grammar of class `c` over the table regenerated
from the current sources, loaded into a default-constructed `Status()`. -/
inductive Grammar : Type 1 where
  | status (c : StatusClass)
  | dimension                       -- `dimension_type` fields
  | coefficient                     -- `mpz_class` fields
  | extCoefficient                  -- entries of a DB/OR matrix over `mpz_class`: integer or `+inf`
  | linSysHeader                    -- topology, sizes, representation, sortedness, `index_first_pending`
  | bitMatrix                       -- `Bit_Matrix` (saturation matrices)
  | dbMatrix (C : Codec)            -- `DB_Matrix<T>`, numbers of `T` abstract
  | orMatrix (C : Codec)            -- `OR_Matrix<T>`
  | enum (ks : List Word) (h : enumOk ks = true)       -- a keyword enumeration (MIP/PIP status fields)

def Grammar.State : Grammar → Type
  | .status c => { f : Nat // validFlags c.table f = true }
  | .dimension => Nat
  | .coefficient => Int
  | .extCoefficient => Option Int
  | .linSysHeader => LinSysHeader
  | .bitMatrix => { m : BitMatrix // m.valid = true }
  | .dbMatrix C => { m : ShapedMatrix C // m.valid dbShape = true }
  | .orMatrix C => { m : ShapedMatrix C // m.valid orShape = true }
  | .enum ks _ => Fin ks.length

def Grammar.dump : (G : Grammar) → G.State → List Char
  | .status c, s => dumpStatus c.table s.1
  | .dimension, n => printNat n
  | .coefficient, i => printInt i
  | .extCoefficient, a => printExt a
  | .linSysHeader, h => h.dump
  | .bitMatrix, m => m.1.dump
  | .dbMatrix _, m => m.1.dump
  | .orMatrix _, m => m.1.dump
  | .enum ks _, v => enumDump ks v.1

def Grammar.load : (G : Grammar) → List Char → Option G.State
  | .status c, s =>
    match loadStatus c.table c.init (words s) with
    | some (f, _) => if h : validFlags c.table f = true then some ⟨f, h⟩ else none
    | none => none
  | .dimension, s => loadWord natCodec s
  | .coefficient, s => loadWord intCodec s
  | .extCoefficient, s => loadWord extIntCodec s
  | .linSysHeader, s => LinSysHeader.load s
  | .bitMatrix, s =>
    match BitMatrix.load s with
    | some m => if h : m.valid = true then some ⟨m, h⟩ else none
    | none => none
  | .dbMatrix C, s =>
    match ShapedMatrix.load C dbShape s with
    | some m => if h : m.valid dbShape = true then some ⟨m, h⟩ else none
    | none => none
  | .orMatrix C, s =>
    match ShapedMatrix.load C orShape s with
    | some m => if h : m.valid orShape = true then some ⟨m, h⟩ else none
    | none => none
  | .enum ks _, s =>
    match words s with
    | [w] =>
      match enumLoad ks w with
      | some v => if h : v < ks.length then some ⟨v, h⟩ else none
      | none => none
    | _ => none

/-! ## theorems over the regenerated tables -/

/-- every regenerated table is understood: keywords are words, separators are non-empty blanks, the load
actions have one of the two recognised shapes, the keywords of a table are pairwise distinct (so no field
can be read for another one), the table is not empty -/
theorem gen_tables_wf : ∀ c : StatusClass, WF c.table = true := by
  intro c; cases c <;> decide +kernel

theorem gen_tokens_distinct : ∀ c : StatusClass, tokensDistinct c.table = true := by
  intro c; cases c <;> decide +kernel

/-- `get_field` still accepts exactly `+KEYWORD` / `-KEYWORD`, and the signs are `+` and `-` -/
theorem gen_get_field_standard : ∀ c : StatusClass, c.getFieldStandard = true ∧ c.yesNo = ('+', '-') := by
  intro c; cases c <;> decide +kernel

/-- a default-constructed `Status()` holds none of the flags the loader never clears -/
theorem gen_init_clean : ∀ c : StatusClass,
    validFlags c.table c.init = true ∧ (noClearBits c.table).all (fun b => !c.init.testBit b) = true := by
  intro c; cases c <;> decide +kernel

example : (StatusClass.table .ph).length = 10 ∧ (StatusClass.table .box).length = 3 := by decide +kernel

/-! ## round trips -/

/-- **Status flags, any table of a recognised shape, any receiver.**  Loading the dump of the flag state
`s` into a status object whose flags are `p` yields exactly `s` (and consumes exactly the dump), provided
`compat t p s`: no flag that `ascii_load` never clears is set in `p` but not in `s`.
`…_partial`: the side condition is what is missing for "every receiver"; it is vacuous for a table whose
'-' branches all clear their flag (`status_load_dump_any_receiver`). -/
theorem status_load_dump_partial (t : Table) (hwf : WF t = true) (s p : Nat)
    (vs : validFlags t s = true) (vp : validFlags t p = true) (hc : compat t p s = true) (x : List Char) :
    loadStatus t p (words (dumpStatus t s ++ x)) = some (s, words x) :=
  loadStatus_dump t hwf s p x vs vp hc

example : loadStatus (StatusClass.table .ph) 0 (words (dumpStatus (StatusClass.table .ph) 6)) = some (6, []) := by
  decide

/-- if every '-' branch of the loader resets its flag, the receiver's prior flags do not matter -/
theorem status_load_dump_any_receiver (t : Table) (hwf : WF t = true) (hclr : noClearBits t = [])
    (s p : Nat) (vs : validFlags t s = true) (vp : validFlags t p = true) :
    loadStatus t p (words (dumpStatus t s)) = some (s, []) := by
  have := loadStatus_dump t hwf s p [] vs vp (compat_of_allClear t hclr p s)
  simpa [words_nil] using this

example : WF (boxTable false) = true ∧ noClearBits (boxTable false) = [] := by decide +kernel

/-- **C15.load_dump** (Appendix B): for every modelled grammar and every state, loading the dump gives
back the state.  For `status c` this is `Status::ascii_load` over the table regenerated from the sources,
into a default-constructed `Status()`. -/
theorem load_dump (G : Grammar) (s : G.State) : G.load (G.dump s) = some s := by
  cases G with
  | status c =>
    obtain ⟨f, hf⟩ := s
    have hi := gen_init_clean c
    have := loadStatus_dump c.table (gen_tables_wf c) f c.init [] hf hi.1 (compat_of_clean _ _ _ hi.2)
    rw [List.append_nil] at this
    simp only [Grammar.load, Grammar.dump, this, hf, dite_true]
  | dimension => exact loadWord_print natCodec s
  | coefficient => exact loadWord_print intCodec s
  | extCoefficient => exact loadWord_print extIntCodec s
  | linSysHeader => exact LinSysHeader.load_dump s
  | bitMatrix =>
    obtain ⟨m, hm⟩ := s
    simp only [Grammar.load, Grammar.dump, BitMatrix.load_dump m hm, hm, dite_true]
  | dbMatrix C =>
    obtain ⟨m, hm⟩ := s
    simp only [Grammar.load, Grammar.dump, ShapedMatrix.load_dump dbShape m hm, hm, dite_true]
  | orMatrix C =>
    obtain ⟨m, hm⟩ := s
    simp only [Grammar.load, Grammar.dump, ShapedMatrix.load_dump orShape m hm, hm, dite_true]
  | enum ks h =>
    obtain ⟨v, hv⟩ := s
    simp only [enumOk, Bool.and_eq_true] at h
    have hmem : enumDump ks v ∈ ks := by
      unfold enumDump
      rw [List.getD_eq_getElem?_getD, List.getElem?_eq_getElem hv]
      exact List.getElem_mem hv
    have hword : isWordB (enumDump ks v) = true := (List.all_eq_true.1 h.2) _ hmem
    simp only [Grammar.load, Grammar.dump, words_word _ hword, enumLoad_dump ks h.1 v hv, hv, dite_true]

/-! non-vacuity: the printers write the text the library writes (compare `Polyhedron::ascii_dump` output) -/
example : String.ofList ((Grammar.linSysHeader).dump ⟨false, 2, 2, false, true, 2⟩)
    = "topology NECESSARILY_CLOSED\n2 x 2 DENSE (sorted)\nindex_first_pending 2\n" := by decide +kernel
example : String.ofList (dumpStatus (StatusClass.table .ph) (2 + 4 + 8 + 16 + 64))
    = "-ZE -EM  +CM +GM  +CS +GS  -CP -GP  -SC +SG " := by decide +kernel
example : String.ofList (dumpStatus (StatusClass.table .grid) 0) = "+ZE -EM  -CM -GM  -CS -GS  -CP -GP  -SC -SG\n" := by decide +kernel
example : String.ofList (BitMatrix.dump ⟨2, [[false, true], [true, false]]⟩) = "2 x 2\n0 1 \n1 0 \n" := by decide +kernel
example : String.ofList (ShapedMatrix.dump (C := extIntCodec) ⟨2, [[none, some 3], [some (-1), none]]⟩)
    = "2 \n+inf 3 \n-1 +inf \n" := by decide +kernel
example : BitMatrix.load "2 x 2\n0 1 \n1 0 \n".toList = some ⟨2, [[false, true], [true, false]]⟩ := by decide +kernel
example : String.ofList (dumpBox natCodec (boxTable true) ⟨0, [((0 : Nat), (0 : Nat), (1 : Nat))]⟩)
    = "-EUP -EM -UN space_dim 1\ninfo 0 lower 0 upper 1\n" := by decide +kernel

example : enumOk mipStatusKw = true ∧ enumOk mipPricingKw = true ∧ enumOk optModeKw = true ∧ enumOk yesNoKw = true
    ∧ enumOk pipStatusKw = true ∧ enumOk pipControlKw = true := by decide +kernel

/-- so `dump` is injective: equal text means equal abstract state -/
theorem dump_injective (G : Grammar) (s₁ s₂ : G.State) (h : G.dump s₁ = G.dump s₂) : s₁ = s₂ := by
  have h1 := load_dump G s₁
  rw [h, load_dump G s₂] at h1
  exact (Option.some.inj h1).symm

/-! ## `Box`: the loader as written, the defect, the repaired loader -/

/-- `Box::ascii_load` (any table of a recognised shape, e.g. the regenerated one; any receiver) under the
side condition `compat`: a flag the status loader never clears is not set in the receiver unless it is set
in the dumped box.  Missing for the full statement: receivers with such a flag — see `box_load_dump_fails`. -/
theorem box_load_dump_partial (C : Codec) (t : Table) (hwf : WF t = true) (recv b : BoxSt C)
    (vs : validFlags t b.flags = true) (vp : validFlags t recv.flags = true)
    (hc : compat t recv.flags b.flags = true) :
    loadBox C t recv (dumpBox C t b) = some b :=
  loadBox_dump C t hwf recv b vs vp hc

/-- the instance for the table regenerated from the current `Box_Status*` sources -/
theorem box_load_dump_gen_partial (C : Codec) (recv b : BoxSt C)
    (vs : validFlags (StatusClass.table .box) b.flags = true)
    (vp : validFlags (StatusClass.table .box) recv.flags = true)
    (hc : compat (StatusClass.table .box) recv.flags b.flags = true) :
    loadBox C (StatusClass.table .box) recv (dumpBox C (StatusClass.table .box) b) = some b :=
  loadBox_dump C _ (gen_tables_wf .box) recv b vs vp hc

example : compat (boxTable true) 0 5 = true ∧ compat (boxTable true) 1 4 = false := by decide +kernel

/-- **Defect 21.**  With `Box::Status::ascii_load` as written before its repair (`boxTable true`: `+` sets a flag, `-` leaves
`EUP` and `EM` alone) loading into a default-constructed box (`+EUP`) does not round-trip: the dump of the
one-dimensional box `-EUP -EM -UN` with interval `(0, 0, 1)` comes back with `+EUP`. -/
theorem box_load_dump_fails :
    ¬ ∀ b : BoxSt natCodec, validFlags (boxTable true) b.flags = true →
        loadBox natCodec (boxTable true) (defaultBox natCodec) (dumpBox natCodec (boxTable true) b) = some b := by
  intro h
  have h1 := h (⟨0, [((0 : Nat), (0 : Nat), (1 : Nat))]⟩ : BoxSt natCodec) (by decide)
  have h2 : (loadBox natCodec (boxTable true) (defaultBox natCodec)
      (dumpBox natCodec (boxTable true) (⟨0, [((0 : Nat), (0 : Nat), (1 : Nat))]⟩ : BoxSt natCodec))).map (·.flags) = some 1 := by decide +kernel
  rw [h1] at h2
  exact absurd h2 (by decide)

/-- with the two missing `else reset_…()` branches every receiver works -/
theorem box_load_dump_repaired (C : Codec) (recv b : BoxSt C)
    (vs : validFlags (boxTable false) b.flags = true) (vp : validFlags (boxTable false) recv.flags = true) :
    loadBox C (boxTable false) recv (dumpBox C (boxTable false) b) = some b :=
  loadBox_dump C _ (by decide) recv b vs vp (compat_of_allClear _ (by decide) _ _)

example : (loadBox natCodec (boxTable false) (defaultBox natCodec)
    (dumpBox natCodec (boxTable false) (⟨0, [((0 : Nat), (0 : Nat), (1 : Nat))]⟩ : BoxSt natCodec))).map (·.flags)
      = some 0 := by decide +kernel

/-- the same omission in the four `ZE`/`EM` classes: `-EM` does not clear `EMPTY`.  Loading the dump of
`-ZE -EM … +CS …` (flags `C_UP_TO_DATE`) into a receiver that is marked empty leaves `+EM` set. -/
theorem ph_load_into_empty_receiver_fails :
    loadStatus (phTable true) 1 (words (dumpStatus (phTable true) 2)) = some (3, []) ∧
    loadStatus (bdsTable true) 1 (words (dumpStatus (bdsTable true) 2)) = some (3, []) ∧
    loadStatus (ogTable true) 1 (words (dumpStatus (ogTable true) 2)) = some (3, []) := by decide +kernel

/-- with `else reset_empty()` added, any receiver works for the four classes -/
theorem ze_tables_repaired :
    WF (phTable false) = true ∧ noClearBits (phTable false) = [] ∧
    WF (phTable false "\n") = true ∧ noClearBits (phTable false "\n") = [] ∧
    WF (bdsTable false) = true ∧ noClearBits (bdsTable false) = [] ∧
    WF (ogTable false) = true ∧ noClearBits (ogTable false) = [] := by decide +kernel

end C15

import PPLV.Solver.PendingProofsOracle
import PPLV.Props.C06BB

/-!
# branch-and-bound over the modelled two-phase simplex, with NO oracle hypothesis

`model_oracle_ok`: the LP oracle induced by the model of the LP machinery (`modelOracle fc fuel`: every node is
solved from scratch by the modelled `is_lp_satisfiable()` / `second_phase()`, the entering column chosen by ANY
rule `fc` returning candidates) satisfies `BB.OracleOK`.
`solve_mip_end_to_end`: hence `solveTop` over it returns the true MIP answer.
Not covered: termination (both fuels), zero-dimensional nodes (`modelOracle` answers `none`).  The real `solve_mip`
re-solves children INCREMENTALLY: that variant is `modelOracleIncr` / `solve_mip_end_to_end_incremental` in
`PPLV/Props/C06TabOracleIncr.lean`.
-/
namespace C06
open PPLV.Lin PPLV.Solver PPLV.Solver.BB PPLV.Solver.Pend

/-- **the oracle induced by the LP machinery model is correct**, for every pricing rule returning candidates -/
theorem model_oracle_ok (fc : Chooser) (hfc : ChooserOK fc) (fuel : Nat) : OracleOK (modelOracle fc fuel) :=
  modelOracle_ok fc hfc fuel

/-- **END TO END, no oracle hypothesis**: branch-and-bound (`solveTop` = the MIP case of `solve()`) over the
    modelled two-phase simplex, each node solved from scratch, any candidate-choosing pricing rule: when it returns
    (fuel of the recursion and of the simplex loops sufficed) the answer is the true one —
    UNFEASIBLE ⇒ no feasible integral point; UNBOUNDED ⇒ unbounded, and the stored point is feasible;
    OPTIMIZED `v` at `p` ⇒ `v` is the optimum, `p` is feasible and attains it. -/
theorem solve_mip_end_to_end (fc : Chooser) (hfc : ChooserOK fc) (fuelLP fuelBB : Nat) (N : Node)
    (hwf : N.toProblem.WF) (out : Outcome) (h : solveTop (modelOracle fc fuelLP) fuelBB N = some out) :
    match out with
    | .unfeasible => IsUnfeasible N.toProblem
    | .unbounded p => IsUnbounded N.toProblem ∧ Feasible N.toProblem p.val
    | .optimized v p => IsOptimum N.toProblem v ∧ Feasible N.toProblem p.val ∧ N.toProblem.objVal p.val = v := by
  have hs := solve_mip_sound (modelOracle fc fuelLP) (model_oracle_ok fc hfc fuelLP) N hwf fuelBB out h
  cases out <;> exact hs

/-- all three pricing rules of the model are covered -/
theorem solve_mip_end_to_end_rules (choice : List Tab.Row → Tab.Row → List Nat → Nat) :
    ChooserOK textbookChooser ∧ ChooserOK steepestEdgeExact ∧ ChooserOK (arbitraryEntering choice) :=
  ⟨textbookChooser_ok, steepestEdgeExact_ok, arbitraryEntering_ok choice⟩

-- max x0, 1/2 ≤ x0 ≤ 3/2, x0 integer: the relaxation answers 3/2, the branch x0 ≤ 1 gives the optimum 1
example : modelOracle textbookChooser 50 ⟨1, [⟨[-2], 3, false⟩, ⟨[2], -1, false⟩], [0], ⟨[1], 0⟩, true⟩ =
    some (.optimized ⟨[3], 2⟩) := by decide +kernel
example : solveTop (modelOracle textbookChooser 50) 5 ⟨1, [⟨[-2], 3, false⟩, ⟨[2], -1, false⟩], [0], ⟨[1], 0⟩, true⟩ =
    some (.optimized 1 ⟨[1], 1⟩) := by decide +kernel

end C06

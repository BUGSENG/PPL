import PPLV.Props.C03Trans2Oct
import PPLV.Props.C03Trans2Lhs
import PPLV.Props.C03Trans2Lat
/-!
# C03 — the transformers of `BD_Shape<T>` and `Octagonal_Shape<T>` that `Props/C03Trans.lean` does not cover

One import for the three families (they coexist without a name clash).  Every statement is about a CODE-SHAPED
model (`PPLV/WR/TransOct2*.lean`, `Trans2Lhs.lean`, `TransOct2Lhs.lean`, `Trans2Lat.lean`, `TransOct2Lat.lean`) of
`/repo/src/{BD_Shape,Octagonal_Shape}_templates.hh`, for EVERY bound type `T` through an arbitrary `R : Rnd`
with the one-sided hypotheses `R.Sound`; `_partial` = under the side conditions of `Props/C03Trans.lean` only
(`CoeffExact`: non-zero |coefficients| (for the invertible preimages also |den|) representable in `T`;
`HalfFiniteOn` for octagons), except where the comment next to the theorem names one more hypothesis and why.

* `PPLV.Props.C03Trans2Oct` — `Octagonal_Shape<T>`: `oct_refine_sound`, `oct_add_constraint_sound`,
  `oct_unconstrain_sound` (full strength); `oct_generalized_affine_image_sound_partial` (+ `_special`, `_mpq`,
  `_mpz`); `oct_refine_var_sound_partial` / `_repaired` / `_fails` (private `refine(var, relsym, expr, den)`: the
  code as written writes the cell of `v + u` where `u - v` is meant — open findings KF-C03-75..78);
  `oct_affine_preimage_sound_partial`, `oct_generalized_affine_preimage_sound_partial` (+ `_repaired`);
  `oct_bounded_affine_image_sound_special_partial` / `oct_bounded_affine_image_sound_partial`.
* `PPLV.Props.C03Trans2Lhs` — both domains, `generalized_affine_image(lhs, relsym, rhs)` and
  `generalized_affine_preimage(lhs, relsym, rhs)` (constant lhs, single variable → delegate, general lhs
  disjoint from / sharing variables with rhs → forget, resp. the new-dimension trick):
  `bds_generalized_affine_image_lhs_sound_partial`, `bds_generalized_affine_preimage_lhs_sound_partial`,
  `oct_generalized_affine_image_lhs_sound_partial`, `oct_generalized_affine_preimage_lhs_sound_partial`
  (+ `_special`, `_mpq`, `_mpz`), and `BD_Shape`'s private `refine(var, …)`: `bds_refine_var_sound_partial`,
  `bds_refine_var_entries_decrease_special` / `_fails`.
* `PPLV.Props.C03Trans2Lat` — both domains, the lattice-style and dimension-changing operations:
  `*_intersection_*`, `*_upper_bound_*`, `*_concatenate_*`, `*_embed_*`, `*_project_*`, `*_remove_dims_*`,
  `*_remove_higher_*`, `*_map_dims_*`, `*_expand_*`, `*_fold_sound`, `*_difference_pieces_sound`
  (`_sound`: every rounding; `_exact`: equality of γ, resp. leastness for `upper_bound` / `fold`, for every
  rounding where the operation only copies / compares entries, for exact arithmetic where a closure is involved —
  both domains complete: the octagon ones rest on tightness of the exact strong closure,
  `OctM.IsStronglyClosed.exists_point_ge`).

The tie to the real code is `harness/c03_trans.cc --s5`, `Driver/WRT.lean` (`pplv_wrt`), `checks/c03_trans.py`.
-/
namespace C03
open PPLV.WR

-- the entry points of the three families, side by side (a clash of names or of instances would not elaborate)
example := @octGenAffineImage
example := @octLhsGenAffinePreimage
example := @bdsLhsGenAffineImage
example := @bdsLatUpperBound
example := @octLatFold

end C03

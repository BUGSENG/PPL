import PPLV.Lin.Decide
import PPLV.Lin.Ops
import PPLV.Lin.OpSpecs
import PPLV.Lin.QuerySpecs
import PPLV.Lin.QueryDim
import PPLV.Lin.QueryCong

/-!
# C01 — a polyhedron answers every query from one point set, whatever its history

The property theorems of C01: the procedures with which `pplv_lin` judges every observation of
the real library decide the set-level statement **exactly** (sound and complete), for every
constraint system, every dimension, both topologies (strict rows).  `sem cs` is the point set
`{x : ℕ → ℚ | ∀ c ∈ cs, c.sat x}`; `WF n cs` says the rows mention variables `< n` only.
-/
namespace C01
open PPLV.Lin

/-- Two constraint descriptions (e.g. `constraints()` and `minimized_constraints()`, or a
    reported system and the reference model) denote the same set iff the judge says so. -/
theorem cons_descriptions_agree_iff (n : Nat) (cs ds : List Con) (h1 : WF n cs) (h2 : WF n ds) :
    equivB n cs ds = true ↔ sem cs = sem ds := equivB_iff n cs ds h1 h2

-- here and below: on well-formed rows the certificate search of `feasible` is bypassed
-- (`feasible_eq_feasibleFM` and its consequences, side conditions by `decide`), so that the kernel
-- evaluates the elimination alone
example : equivB 2 [geRow [1, 0] 0, geRow [0, 1] 0, geRow [1, 1] 0] [geRow [1] 0, geRow [0, 2] 0] = true := by
  simp (disch := decide) only [equivB, subsetB_eq_all_feasibleFM]; decide +kernel

/-- `is_empty()` -/
theorem query_is_empty_iff (p : RefPoly) (h : WF p.n p.cs) : p.isEmpty = true ↔ sem p.cs = ∅ :=
  isEmptyB_iff p.n p.cs h

/-- `contains(y)` -/
theorem query_contains_iff (p q : RefPoly) (hp : WF p.n p.cs) (hq : WF p.n q.cs) :
    p.contains q = true ↔ sem q.cs ⊆ sem p.cs := subsetB_iff p.n q.cs p.cs hq hp

/-- `strictly_contains(y)` -/
theorem query_strictly_contains_iff (p q : RefPoly) (hp : WF p.n p.cs) (hq : WF p.n q.cs) :
    (p.contains q && !(RefPoly.contains ⟨q.nnc, p.n, q.cs⟩ p)) = true ↔ sem q.cs ⊂ sem p.cs := by
  have h1 := subsetB_iff p.n q.cs p.cs hq hp
  have h2 := subsetB_iff p.n p.cs q.cs hp hq
  simp only [RefPoly.contains, Bool.and_eq_true, Bool.not_eq_true', ← Bool.not_eq_true] at *
  rw [h1, h2]
  exact Iff.rfl

/-- `is_disjoint_from(y)` -/
theorem query_disjoint_iff (p q : RefPoly) (hp : WF p.n p.cs) (hq : WF p.n q.cs) :
    p.disjoint q = true ↔ sem p.cs ∩ sem q.cs = ∅ := disjointB_iff p.n p.cs q.cs hp hq

/-- `operator==` -/
theorem query_equals_iff (p q : RefPoly) (hp : WF p.n p.cs) (hq : WF p.n q.cs) :
    p.equiv q = true ↔ sem p.cs = sem q.cs := equivB_iff p.n p.cs q.cs hp hq

/-- `is_universe()` -/
theorem query_is_universe_iff (p : RefPoly) (hp : WF p.n p.cs) :
    p.isUniverse = true ↔ sem p.cs = Set.univ := by
  unfold RefPoly.isUniverse
  rw [subsetB_iff p.n [] p.cs (by intro c hc; cases hc) hp]
  have : sem ([] : List Con) = Set.univ := by ext x; simp [sem, Sat]
  rw [this]
  exact Set.univ_subset_iff

/-- `relation_with(c)`: the three facts (disjoint / included / saturates) are decided exactly. -/
theorem query_relation_with_constraint (p : RefPoly) (rows hyper : List Con)
    (hp : WF p.n p.cs) (hr : WF p.n rows) (hh : WF p.n hyper) :
    ((p.relCon rows hyper).1 = true ↔ sem p.cs ∩ sem rows = ∅) ∧
    ((p.relCon rows hyper).2.1 = true ↔ sem p.cs ⊆ sem rows) ∧
    ((p.relCon rows hyper).2.2 = true ↔ sem p.cs ⊆ sem hyper) :=
  ⟨disjointB_iff _ _ _ hp hr, subsetB_iff _ _ _ hp hr, subsetB_iff _ _ _ hp hh⟩

/-- Answers are a function of the denoted set: two well-formed reference polyhedra of the same
    dimension with the same point set give the same answer to emptiness, containment of a third
    set and disjointness from a third set. -/
theorem indistinguishable (p r q : RefPoly) (hn : p.n = r.n)
    (hp : WF p.n p.cs) (hr : WF r.n r.cs) (hq : WF p.n q.cs) (h : sem p.cs = sem r.cs) :
    p.isEmpty = r.isEmpty ∧ p.contains q = r.contains q ∧ p.disjoint q = r.disjoint q := by
  have hq' : WF r.n q.cs := hn ▸ hq
  refine ⟨?_, ?_, ?_⟩
  · rw [Bool.eq_iff_iff, query_is_empty_iff p hp, query_is_empty_iff r hr, h]
  · rw [Bool.eq_iff_iff, query_contains_iff p q hp hq, query_contains_iff r q hr hq', h]
  · rw [Bool.eq_iff_iff, query_disjoint_iff p q hp hq, query_disjoint_iff r q hr hq', h]

example : (univ false 2).isEmpty = false ∧ (emptyP false 2).isEmpty = true := by decide +kernel

/-! ### the two descriptions, optimisation, point membership -/

/-- the unit segment, used in the examples below -/
def seg : RefPoly := ⟨false, 1, [geRow [1] 0, geRow [-1] 1]⟩

/-- The constraint description and the generator description (`GenSem`: the documented
    `linear.hull(L) + conic.hull(R) + NNC.hull(P, C)`) denote the same set iff the judge says so. -/
theorem descriptions_agree_iff (n : Nat) (cs : List Con) (gs : List Gen) (h1 : WF n cs)
    (h2 : gensWF n gs = true) : checkDD n cs gs = true ↔ sem cs = GenSem n gs :=
  checkDD_iff_genSem n cs gs h1 h2

example : checkDD 1 [geRow [1] 0, geRow [-1] 0] [⟨.point, [0], 1⟩] = true ∧
    checkDD 1 [geRow [1] 0] [⟨.point, [0], 1⟩] = false := by
  simp (disch := decide +kernel) only [checkDD, equivB, subsetB_eq_all_feasibleFM]; decide +kernel

/-- `maximize(e, …)`: the answer classifies `sup {e(x) | x ∈ P}` exactly — empty, unbounded, or
    the rational value `a/b` together with whether it is attained (`maximum` flag). -/
theorem optimum_spec (p : RefPoly) (e : LinExpr) (hp : WF p.n p.cs) (he : e.coeffs.length ≤ p.n) :
    match p.sup e with
    | .empty => sem p.cs = ∅
    | .unbounded => (∃ x, x ∈ sem p.cs) ∧ ∀ M : Rat, ∃ x ∈ sem p.cs, M < e.val x
    | .val a b att => 0 < b ∧ (∀ x ∈ sem p.cs, e.val x ≤ (a : Rat) / b) ∧
        (att = true → ∃ x ∈ sem p.cs, e.val x = (a : Rat) / b) ∧
        (att = false → (∀ x ∈ sem p.cs, e.val x < (a : Rat) / b) ∧
          ∀ ε : Rat, 0 < ε → ∃ x ∈ sem p.cs, (a : Rat) / b - ε < e.val x) :=
  sup_spec p e hp he

/-- `minimize(e, …)` -/
theorem optimum_min_spec (p : RefPoly) (e : LinExpr) (hp : WF p.n p.cs) (he : e.coeffs.length ≤ p.n) :
    match p.inf e with
    | .empty => sem p.cs = ∅
    | .unbounded => (∃ x, x ∈ sem p.cs) ∧ ∀ M : Rat, ∃ x ∈ sem p.cs, e.val x < M
    | .val a b att => 0 < b ∧ (∀ x ∈ sem p.cs, (a : Rat) / b ≤ e.val x) ∧
        (att = true → ∃ x ∈ sem p.cs, e.val x = (a : Rat) / b) ∧
        (att = false → (∀ x ∈ sem p.cs, (a : Rat) / b < e.val x) ∧
          ∀ ε : Rat, 0 < ε → ∃ x ∈ sem p.cs, e.val x < (a : Rat) / b + ε) :=
  inf_spec p e hp he

example : seg.sup ⟨[2], 1⟩ = .val 3 1 true ∧ seg.inf ⟨[2], 1⟩ = .val 1 1 true ∧
    RefPoly.sup ⟨true, 1, [gtRow [-1] 1]⟩ ⟨[1], 0⟩ = .val 1 1 false ∧
    RefPoly.inf ⟨true, 1, [gtRow [-1] 1]⟩ ⟨[1], 0⟩ = .unbounded := by
  simp only [RefPoly.sup_eq_supFM, RefPoly.inf_eq_supFM]; decide +kernel

/-- point membership (`relation_with(point)`, `contains` of a point): the rational point
    `num/den` (coordinates beyond `num.length` are `0`) belongs to the set iff the judge says so. -/
theorem point_membership (p : RefPoly) (num : List Int) (den : Int) (hd : 0 < den) :
    p.hasPoint num den = true ↔ ratPoint num den ∈ sem p.cs := hasPoint_iff p num den hd

example : seg.hasPoint [1] 2 = true ∧ seg.hasPoint [3] 2 = false := by decide

/-! ### boundedness, affine dimension, congruences, `constrains`, generators -/

/-- `is_bounded()`: the oracle (`sup`/`inf` of every coordinate finite, decided by the proved
    `supB`) answers `true` iff the set is empty or all its points lie within one common bound. -/
theorem query_is_bounded_iff (p : RefPoly) (hp : WF p.n p.cs) :
    p.isBounded = true ↔ sem p.cs = ∅ ∨ ∃ M : Rat, ∀ x ∈ sem p.cs, ∀ i < p.n, |x i| ≤ M :=
  isBounded_iff p hp

example : seg.isBounded = true ∧ RefPoly.isBounded ⟨false, 1, [geRow [1] 0]⟩ = false ∧
    RefPoly.isBounded ⟨true, 1, [gtRow [1] 0, gtRow [-1] 1]⟩ = true := by
  simp (disch := decide) only [RefPoly.isBounded, RefPoly.isEmpty, feasible_eq_feasibleFM,
    RefPoly.coordBounded, supB_eq_supFM]
  decide +kernel

/-- `affine_dimension()`, two-sided: for a non-empty set and `d := p.affineDim` (Gaussian
    elimination `eqFree` on the implicit equalities) there are `d + 1` points of the set that are
    affinely independent — the only `lam` with `Σ lam = 0` and `Σ lam_k·x_k = 0` (on the
    coordinates `< n`) is `0` — and affinely span it: every point of the set is `Σ mu_k·x_k`
    with `Σ mu = 1`.  So they are an affine basis of the affine hull, whose dimension is
    therefore exactly `d` (independence: `≥ d`, spanning: `≤ d`).  `lcomb lam xs = Σ_k lam_k·xs_k`. -/
theorem query_affine_dimension_spec (p : RefPoly) (hp : WF p.n p.cs) (hne : (sem p.cs).Nonempty) :
    ∃ xs : List Val, xs.length = p.affineDim + 1 ∧
      (∀ x ∈ xs, x ∈ sem p.cs) ∧
      (∀ lam : List Rat, lam.length = xs.length → lam.sum = 0 →
        (∀ i < p.n, lcomb lam xs i = 0) → ∀ l ∈ lam, l = 0) ∧
      (∀ y ∈ sem p.cs, ∃ mu : List Rat, mu.length = xs.length ∧ mu.sum = 1 ∧
        ∀ i < p.n, y i = lcomb mu xs i) :=
  affineDim_spec p hp hne

/-- the empty set has affine dimension 0 (the library's convention) -/
theorem query_affine_dimension_empty (p : RefPoly) (hp : WF p.n p.cs) (h : sem p.cs = ∅) :
    p.affineDim = 0 := affineDim_empty p hp h

example : RefPoly.affineDim ⟨false, 2, [geRow [1,0] 0, geRow [-1,0] 0]⟩ = 1 ∧
    RefPoly.affineDim ⟨true, 2, [gtRow [1,0] 0]⟩ = 2 ∧ (emptyP false 2).affineDim = 0 := by
  simp (disch := decide) only [RefPoly.affineDim, RefPoly.isEmpty, implicitEqs_eq_FM,
    feasible_eq_feasibleFM]
  decide +kernel

/-- `relation_with(congruence)` for a proper congruence `e ≡ 0 (mod m)`, `m > 0`: the two facts
    (disjoint, included) are decided exactly, for closed and NNC polyhedra — no point of the set
    has `e(x) ∈ mℤ`, resp. every point has. -/
theorem query_relation_with_congruence_spec (p : RefPoly) (e : LinExpr) (m : Int) (hp : WF p.n p.cs)
    (he : e.coeffs.length ≤ p.n) (hm : 0 < m) :
    ((p.relCongruence e m).1 = true ↔ ∀ x ∈ sem p.cs, ¬ ∃ z : Int, e.val x = (m : Rat) * z) ∧
    ((p.relCongruence e m).2 = true ↔ ∀ x ∈ sem p.cs, ∃ z : Int, e.val x = (m : Rat) * z) :=
  relCongruence_spec p e m hp he hm

example : seg.relCongruence ⟨[2], 1⟩ 2 = (false, false) ∧
    RefPoly.relCongruence ⟨true, 1, [gtRow [1] 0, gtRow [-1] 1]⟩ ⟨[2], 0⟩ 2 = (true, false) := by
  rw [RefPoly.relCongruence, RefPoly.relCongruence]
  simp only [RefPoly.sup_eq_supFM, RefPoly.inf_eq_supFM]
  decide +kernel

/-- `constrains(v)`: `true` iff the set is empty or cylindrification along `v` changes it … -/
theorem query_constrains_iff (p : RefPoly) (v : Nat) (hp : WF p.n p.cs) :
    p.constrains v = true ↔ sem p.cs = ∅ ∨ sem (p.unconstrain [v]).cs ≠ sem p.cs :=
  constrains_iff p v hp

/-- … equivalently: some point of the set leaves it when only coordinate `v` is changed -/
theorem query_constrains_iff_update (p : RefPoly) (v : Nat) (hp : WF p.n p.cs) :
    p.constrains v = true ↔ sem p.cs = ∅ ∨ ∃ x ∈ sem p.cs, ∃ t : Rat, x.update v t ∉ sem p.cs :=
  constrains_iff_update p v hp

example : RefPoly.constrains ⟨false, 2, [geRow [1,0] 0]⟩ 0 = true ∧
    RefPoly.constrains ⟨false, 2, [geRow [1,0] 0]⟩ 1 = false := by
  simp (disch := decide +kernel) only [RefPoly.constrains, RefPoly.isEmpty,
    subsetB_eq_all_feasibleFM, feasible_eq_feasibleFM]
  decide +kernel

/-- `relation_with(generator)`: `g` is subsumed iff the set is non-empty and — a point: belongs
    to it; a closure point: every half-open segment from a point of the set towards it stays in
    the set (it belongs to the topological closure); a ray: the set is closed under translation
    by its non-negative multiples; a line: by all its multiples.  Strict rows are handled
    exactly (the recession cone of a non-empty NNC polyhedron is that of its closure). -/
theorem query_relation_with_generator_spec (p : RefPoly) (g : Gen) (hp : WF p.n p.cs) (hd : 0 < g.div) :
    p.subsumes g = true ↔ (∃ x, x ∈ sem p.cs) ∧
      match g.kind with
      | .point => ratPoint g.coords g.div ∈ sem p.cs
      | .cpoint => ∀ x ∈ sem p.cs, ∀ s : Rat, 0 < s → s ≤ 1 →
          Val.seg s x (ratPoint g.coords g.div) ∈ sem p.cs
      | .ray => ∀ x ∈ sem p.cs, ∀ t : Rat, 0 ≤ t → x.move t g.coords ∈ sem p.cs
      | .line => ∀ x ∈ sem p.cs, ∀ t : Rat, x.move t g.coords ∈ sem p.cs :=
  subsumes_spec p g hp hd

example : RefPoly.subsumes ⟨true, 1, [gtRow [1] 0]⟩ ⟨.cpoint, [0], 1⟩ = true ∧
    RefPoly.subsumes ⟨true, 1, [gtRow [1] 0]⟩ ⟨.point, [0], 1⟩ = false ∧
    RefPoly.subsumes ⟨true, 1, [gtRow [1] 0]⟩ ⟨.ray, [1], 1⟩ = true ∧
    RefPoly.subsumes ⟨true, 1, [gtRow [1] 0]⟩ ⟨.line, [1], 1⟩ = false := by decide +kernel

end C01

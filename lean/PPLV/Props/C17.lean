import PPLV.Wrap.ProofsBoxDom
import PPLV.Wrap.ProofsInterval
import PPLV.Wrap.ProofsBox
import PPLV.Wrap.ProofsInteger

/-!
# C17 — integer-aware operators never discard an integer point of the concrete semantics

`Pt = ℕ → ℚ`.  `Spec.wrapImages cfg v` is the set of wrapped images of the point `v` (integer on the
wrapped dimensions): wrapped coordinates when overflow wraps, the coordinate itself if in range and any
in-range integer otherwise when overflow is undefined, the point itself if in range when overflow is
impossible; the guard `cs_p` is applied to the image.  `Dom` is the interface the template
`Implementation::wrap_assign<PSET>` (src/wrap_assign.hh) is written against, with one soundness
hypothesis per member function; `wrapAssignG fix d cfg P` transliterates `wrap_assign`, `wrap_assign_ind`,
`wrap_assign_col`.

* `wrap_sound` is stated for `wrapAssign`, the code with the repair of KF-C17-3 (`goto set_full_range` for
  the variable at which collective wrapping becomes too complex; fixes/fix_c17_wrap_collective_too_complex.diff).
  The variant before the repair (`wrapAssignBeforeFix`: that variable is neither recorded nor given the
  full range) is kept as a named historical witness: `wrap_sound_before_fix_fails` (concrete witness on
  rational boxes), `wrap_sound_before_fix_partial` (every run in which the branch is not executed — ghost
  flag `wrapTrips`), `…_individually_partial`, `…_notWraps_partial`.  Which variant the library implements
  is measured by the check on every run: the symbolic traces of the real template equal one of the two.
* `Interval::wrap_assign` (hence `Box::wrap_assign`): `interval_wrap_sound` for the code (the comparison
  `u >= lower()` since the fix of defect 12 in /repo, 7a40b81); `interval_wrap_defect12_before_fix`
  (`[0,256]` to unsigned 8 bits gave `{0}`) and `interval_wrap_sound_before_fix_partial` document the repaired defect.
* `Box::wrap_assign` without guard: `box_wrap_sound` for the code with the repair of KF-C17-10;
  `box_wrap_sound_before_fix_partial` / `_fails` (`Z_Box`, overflow undefined, upper boundary `max + 1`) for
  the variant before it; the check measures the variant.
* `drop_sound`: the clause the harness judges `drop_some_non_integer_points` with, and the two
  tightening steps of `Polyhedron::drop_some_non_integer_points` satisfy it.
* `containsIntegerPointRef_sound`: the reference for `contains_integer_point()`.
-/
namespace C17
open PPLV.Lin PPLV.Wrap

/-- the wrapped images of `v` -/
def Spec.wrapImages (cfg : WrapCfg) (v : Pt) : Set Pt := {v' | PPLV.Wrap.Spec.WrapImage cfg v v'}

/-- the concretisation as a set of points -/
abbrev _root_.PPLV.Wrap.Dom.γs (d : Dom) (P : d.D) : Set Pt := {v | d.γ P v}

/-! ## the generic algorithm -/

/-- **wrap_sound** (Appendix B): for every abstract domain, width, signedness, overflow mode, guard,
threshold, individual/collective wrapping, every wrapped image of an integer point of the argument lies
in the concretisation of the result.  `wrapAssign` is the code with the repair of KF-C17-3; the check
measures on every run (symbolic traces of the real template) whether the library is this variant. -/
theorem wrap_sound (d : Dom) (P : d.D) (cfg : WrapCfg) (v : Pt) (hv : v ∈ d.γs P)
    (_hint : ∀ i ∈ cfg.vars, isInt (v i)) :
    ∀ v' ∈ Spec.wrapImages cfg v, v' ∈ d.γs (wrapAssign d cfg P) :=
  fun _ hv' => wrapAssignG_sound hv' true P hv
    (Bool.eq_false_iff.mpr fun h => Bool.noConfusion (wrapAssignG_flag true P h).1)

/-- the variant before the repair, every run that does not execute the unrepaired branch (the ghost
flag `wrapTrips`).  Missing for full strength: the runs of `wrap_sound_before_fix_fails`. -/
theorem wrap_sound_before_fix_partial (d : Dom) (P : d.D) (cfg : WrapCfg) (v : Pt) (hv : v ∈ d.γs P)
    (_hint : ∀ i ∈ cfg.vars, isInt (v i)) (htrip : wrapTrips d cfg P = false) :
    ∀ v' ∈ Spec.wrapImages cfg v, v' ∈ d.γs (wrapAssignBeforeFix d cfg P) :=
  fun _ hv' => wrapAssignG_sound hv' false P hv htrip

/-- before the repair: individual wrapping never executes the unrepaired branch -/
theorem wrap_sound_before_fix_individually_partial (d : Dom) (P : d.D) (cfg : WrapCfg) (v : Pt)
    (hv : v ∈ d.γs P) (hint : ∀ i ∈ cfg.vars, isInt (v i)) (hind : cfg.individually = true) :
    ∀ v' ∈ Spec.wrapImages cfg v, v' ∈ d.γs (wrapAssignBeforeFix d cfg P) :=
  wrap_sound_before_fix_partial d P cfg v hv hint
    (Bool.eq_false_iff.mpr fun h => by rw [(wrapAssignG_flag false P h).2.1] at hind; cases hind)

/-- before the repair: `OVERFLOW_UNDEFINED` and `OVERFLOW_IMPOSSIBLE` never execute the unrepaired branch -/
theorem wrap_sound_before_fix_notWraps_partial (d : Dom) (P : d.D) (cfg : WrapCfg) (v : Pt)
    (hv : v ∈ d.γs P) (hint : ∀ i ∈ cfg.vars, isInt (v i)) (ho : cfg.o ≠ .wraps) :
    ∀ v' ∈ Spec.wrapImages cfg v, v' ∈ d.γs (wrapAssignBeforeFix d cfg P) :=
  wrap_sound_before_fix_partial d P cfg v hv hint
    (Bool.eq_false_iff.mpr fun h => ho (wrapAssignG_flag false P h).2.2)

namespace Witness
open PPLV.Wrap.BoxDom

/-- both variables to unsigned 8 bits, collectively, threshold 4 -/
def cfg : WrapCfg := ⟨[0, 1], 8, .unsigned, .wraps, none, 4, false⟩
/-- `A ∈ [0,600]` (3 quadrants), `B ∈ [300,1000]` (3 quadrants): `3·3 > 4` trips at `B` -/
def P : Bx := some [⟨some 0, some 600⟩, ⟨some 300, some 1000⟩]
def v : Pt := fun i => if i = 1 then 300 else 0
def v' : Pt := fun i => if i = 1 then 44 else 0

theorem v_mem : gamma P v := by decide +kernel
theorem img_not_mem : ¬ gamma (wrapAssignBeforeFix boxDom cfg P) v' := by decide +kernel
theorem trips : wrapTrips boxDom cfg P = true := by decide +kernel

theorem img_is_image : PPLV.Wrap.Spec.WrapImage cfg v v' := by
  refine ⟨?_, ?_, ?_⟩
  · intro i hi
    have h0 : i ≠ 0 := fun h => hi (by simp [cfg, h])
    have h1 : i ≠ 1 := fun h => hi (by simp [cfg, h])
    simp [v, v', h1]
  · intro i hi
    simp only [cfg, List.mem_cons, List.mem_nil_iff, or_false] at hi
    rcases hi with rfl | rfl
    · exact ⟨0, by simp [v], by simp [cfg, v', wrapR, wrapU, pow2]⟩
    · exact ⟨300, by simp [v], by simp [cfg, v', wrapR, wrapU, pow2]⟩
  · intro cs hcs; simp [cfg] at hcs

end Witness

/-- **KF-C17-3, the historical witness**: before the repair, `A ∈ [0,600]`, `B ∈ [300,1000]` wrapped
collectively to unsigned 8 bits with threshold 4 keeps `B ∈ [300,1000]`; the point `(0,300)` wraps to
`(0,44)`, which is lost.  (A library without the repair returns exactly this on `C_Polyhedron`: case `p4`
of the harness; the check then reports KF-C17-3 and sets the switch
`kf3_collective_too_complex_variable_left_unwrapped` of `defect_switches_measured`, checks/c17.py.) -/
theorem wrap_sound_before_fix_fails :
    ¬ ∀ (d : Dom) (P : d.D) (cfg : WrapCfg) (v : Pt), v ∈ d.γs P → (∀ i ∈ cfg.vars, isInt (v i)) →
      ∀ v' ∈ Spec.wrapImages cfg v, v' ∈ d.γs (wrapAssignBeforeFix d cfg P) := by
  intro h
  exact Witness.img_not_mem
    (h BoxDom.boxDom Witness.P Witness.cfg Witness.v Witness.v_mem (fun _ _ => isInt_ite ⟨300, by norm_num⟩ ⟨0, by norm_num⟩) Witness.v' Witness.img_is_image)

/-- non-vacuity: the repaired code keeps the image that the code before the repair loses, and the theorems
apply to a concrete domain (every hypothesis field of `Dom` is proved for rational boxes) -/
example : Witness.v' ∈ BoxDom.boxDom.γs (wrapAssign BoxDom.boxDom Witness.cfg Witness.P) :=
  wrap_sound BoxDom.boxDom Witness.P Witness.cfg Witness.v Witness.v_mem
    (fun _ _ => isInt_ite ⟨300, by norm_num⟩ ⟨0, by norm_num⟩) Witness.v' Witness.img_is_image

example : Witness.v' ∈ BoxDom.boxDom.γs (wrapAssignBeforeFix BoxDom.boxDom { Witness.cfg with individually := true } Witness.P) := by
  exact wrap_sound_before_fix_individually_partial BoxDom.boxDom Witness.P
    { Witness.cfg with individually := true } Witness.v Witness.v_mem (fun _ _ => isInt_ite ⟨300, by norm_num⟩ ⟨0, by norm_num⟩) rfl _ Witness.img_is_image

/-- the executable image test of the driver is the specification -/
theorem coordImageB_iff (cfg : WrapCfg) (z z' : Int) :
    coordImageB cfg z z' = true ↔ PPLV.Wrap.Spec.CoordImage cfg (z : Rat) (z' : Rat) :=
  PPLV.Wrap.coordImageB_iff cfg z z'

/-- the key lemma of the quadrant loops: `quadrant x = ⌊(x − min)/2ʷ⌋` and `x − quadrant·2ʷ = wrap x` -/
theorem wrap_eq_translate (r : Repn) (w : Nat) (z : Int) :
    quadrant r w z = (z - minValue r w) / 2 ^ w ∧ z - quadrant r w z * 2 ^ w = wrapR r w z ∧
    inRange r w (wrapR r w z) :=
  ⟨rfl, by rw [wrapR_eq_sub]; rfl, wrapR_inRange r w z⟩

example : wrapU 8 300 = 44 ∧ wrapS 8 200 = -56 ∧ wrapS 8 (-129) = 127 ∧ quadrant .signed 8 200 = 1 := by decide

/-! ## `Interval::wrap_assign` -/

/-- the clause for one interval: every integer of `I` whose wrapped value lies in the refinement
interval is, wrapped, in the result (`strictTest = false`: the code; `true`: the comparison `u > lower()`
it had before the fix of defect 12) -/
def IntervalWrapSound (strictTest : Bool) (I : Itv) (w : Nat) (r : Repn) (ref : Itv) : Prop :=
  ∀ z : Int, I.mem (z : Rat) → ref.mem ((wrapR r w z : Int) : Rat) →
    (ivWrap strictTest I w r ref).mem ((wrapR r w z : Int) : Rat)

/-- **interval_wrap_sound**: `Interval::wrap_assign` (comparison `u >= lower()`, /repo 7a40b81) never loses
a wrapped value, for every interval (open, closed, unbounded, empty), width, signedness, refinement -/
theorem interval_wrap_sound (I : Itv) (w : Nat) (r : Repn) (ref : Itv) :
    IntervalWrapSound false I w r ref :=
  fun z hz hr => ivWrap_sound false I w r ref (Or.inl rfl) z hz hr

/-- **defect 12** (repaired in /repo by 7a40b81; kept so that a regression is recognised — the driver reports
which comparison explains the real result): with `u > lower()`, `[0,256]` wrapped to unsigned 8 bits
inside `[0,255]` is `{0}`; `5` is lost -/
theorem interval_wrap_defect12_before_fix :
    ¬ ∀ (I : Itv) (w : Nat) (r : Repn) (ref : Itv), IntervalWrapSound true I w r ref := by
  intro h
  have := h ⟨some (0, false), some (256, false)⟩ 8 .unsigned (rangeItv .unsigned 8) 5
    (by decide +kernel) (by decide +kernel)
  revert this
  decide +kernel

/-- the comparison before the fix was sound for every interval whose width is not `2ʷ` -/
theorem interval_wrap_sound_before_fix_partial (I : Itv) (w : Nat) (r : Repn) (ref : Itv)
    (hnarrow : ∀ l lo u uo, I.lo = some (l, lo) → I.hi = some (u, uo) → u - l ≠ ((2 : Int) ^ w : Int)) :
    IntervalWrapSound true I w r ref :=
  fun z hz hr => ivWrap_sound true I w r ref (Or.inr hnarrow) z hz hr

example : (ivWrap false ⟨some (0, false), some (256, false)⟩ 8 .unsigned (rangeItv .unsigned 8)).mem 5 := by
  decide +kernel
example : (ivWrap false ⟨some (200, false), some (300, false)⟩ 8 .unsigned (rangeItv .unsigned 8)).mem 44 := by
  decide +kernel

/-! ## `Box::wrap_assign` (branch without guard) -/

/-- the clause for a box: `boxWrap strictTest storeOpen kf10 cfg B` transliterates the three loops of the
`cs_p == nullptr` branch of `Box::wrap_assign` on a non-empty box `B` (`strictTest = false`: the interval
comparison of the code); `storeOpen` says whether the interval type can store open boundaries; `kf10 = false`
is the quadrant test with the repair of KF-C17-10 (fixes/fix_c17_box_wrap_undefined_closed_bounds.diff),
`kf10 = true` the test before it.  The check measures on every run which variant the library implements. -/
def BoxWrapSound (strictTest storeOpen kf10 : Bool) (cfg : WrapCfg) (B : List Itv) : Prop :=
  ∀ v v' : Pt, boxMem B v → v' ∈ Spec.wrapImages cfg v → boxMem (boxWrap strictTest storeOpen kf10 cfg B) v'

/-- **box_wrap_sound**: `Box::wrap_assign` (with the repair of KF-C17-10) never loses a wrapped image, for
every box, interval type, width, signedness and overflow mode -/
theorem box_wrap_sound (storeOpen : Bool) (cfg : WrapCfg) (B : List Itv) :
    BoxWrapSound false storeOpen false cfg B :=
  fun v v' hB himg => boxWrap_sound false storeOpen false cfg B v v' himg (Or.inl rfl) (fun _ => Or.inr rfl) hB

/-- before the repair of KF-C17-10: sound for `OVERFLOW_WRAPS` and `OVERFLOW_IMPOSSIBLE` on every box, and for
`OVERFLOW_UNDEFINED` when the interval type stores open boundaries (`Rational_Box`) -/
theorem box_wrap_sound_before_fix_partial (storeOpen : Bool) (cfg : WrapCfg) (B : List Itv)
    (hopen : cfg.o = .undefined → storeOpen = true) :
    BoxWrapSound false storeOpen true cfg B :=
  fun v v' hB himg => boxWrap_sound false storeOpen true cfg B v v' himg (Or.inl rfl) (fun h => Or.inl (hopen h)) hB

/-- **KF-C17-10, the historical witness**: before the repair, on `Z_Box` (closed integer boundaries) `[250,256]` to
unsigned 8 bits with undefined overflow is left alone, although `256` overflows and may become, e.g., `0` -/
theorem box_wrap_sound_before_fix_fails :
    ¬ ∀ (storeOpen : Bool) (cfg : WrapCfg) (B : List Itv), BoxWrapSound false storeOpen true cfg B := by
  intro h
  have := h false ⟨[0], 8, .unsigned, .undefined, none, 16, false⟩ [⟨some (250, false), some (256, false)⟩]
    (fun i => if i = 0 then 256 else 0) (fun _ => 0) (by decide +kernel) ?_
  · revert this; decide +kernel
  · refine ⟨?_, ?_, ?_⟩
    · intro i hi
      have : i ≠ 0 := fun h => hi (by simp [h])
      simp [this]
    · intro i hi
      simp only [List.mem_cons, List.mem_nil_iff, or_false] at hi
      subst hi
      exact ⟨256, by simp, Or.inr ⟨by decide, 0, by decide, by simp⟩⟩
    · intro cs hcs; simp at hcs

example : boxMem (boxWrap false false false ⟨[0], 8, .unsigned, .undefined, none, 16, false⟩ [⟨some (250, false), some (256, false)⟩])
    (fun _ => 0) := by decide +kernel

/-! ## dropping non-integer points -/

/-- the clause: a subset of the argument that keeps every point with integer coordinates on the
designated dimensions -/
def DropOK (vars : Set Nat) (P R : Set Pt) : Prop :=
  R ⊆ P ∧ ∀ x ∈ P, (∀ i ∈ vars, isInt (x i)) → x ∈ R

/-- **drop_sound**: an operator whose result satisfies the clause never discards an integer point.
The clause composes (`drop_sound_refl`, `drop_sound_trans`), so it can be applied constraint by constraint, domain
component by component. -/
theorem drop_sound (vars : Set Nat) (P R : Set Pt) (h : DropOK vars P R) :
    {x ∈ P | ∀ i ∈ vars, isInt (x i)} = {x ∈ R | ∀ i ∈ vars, isInt (x i)} := by
  ext x
  constructor
  · rintro ⟨hx, hi⟩; exact ⟨h.2 x hx hi, hi⟩
  · rintro ⟨hx, hi⟩; exact ⟨h.1 hx, hi⟩

theorem drop_sound_refl (vars : Set Nat) (P : Set Pt) : DropOK vars P P := ⟨fun _ h => h, fun _ h _ => h⟩

theorem drop_sound_trans (vars : Set Nat) (P Q R : Set Pt) (h1 : DropOK vars P Q) (h2 : DropOK vars Q R) :
    DropOK vars P R :=
  ⟨fun _ h => h1.1 (h2.1 h), fun x hx hi => h2.2 x (h1.2 x hx hi) hi⟩

/-- the judge of the driver for `drop_some_non_integer_points` on constraint descriptions: `R ⊆ P` is
decided exactly by K1 -/
theorem drop_subset_decided (n : Nat) (rs ps : List Con) (h1 : WF n rs) (h2 : WF n ps) :
    subsetB n rs ps = true ↔ sem rs ⊆ sem ps := subsetB_iff n rs ps h1 h2

/-- one tightening step of `Polyhedron::drop_some_non_integer_points`: a row `g·(e·x) + k ≥ 0` (or `> 0`)
all of whose variables are designated is replaced by `e·x + ⌊k/g⌋ ≥ 0` (resp. by the non-strict row with
`k − 1` first): the clause holds -/
theorem drop_tighten_sound (vars : Set Nat) (cs : List Con) (c : Con) (e : List Int) (g k : Int) (hg : 0 < g)
    (hc : c.coeffs = e.map (g * ·)) (hk : c.k = k) (hvars : ∀ i, e.getD i 0 ≠ 0 → i ∈ vars) :
    DropOK vars (sem (c :: cs))
      (sem ((⟨e, (if c.strict then k - 1 else k) / g, false⟩ : Con) :: cs)) :=
  PPLV.Wrap.drop_tighten_sound vars cs c e g k hg hc hk hvars

example : DropOK {0} (sem [geRow [2] (-1)]) (sem [geRow [1] (-1)]) := by
  have := drop_tighten_sound {0} [] (geRow [2] (-1)) [1] 2 (-1) (by decide) (by decide) rfl
    (by intro i hi
        match i with
        | 0 => rfl
        | i + 1 => simp at hi)
  simpa [geRow] using this

/-! ## `contains_integer_point()` -/

/-- **the reference answers exactly**: `some b` only when decided inside the bounds proved by K1 -/
theorem containsIntegerPointRef_sound (cap n : Nat) (cs : List Con) (hwf : WF n cs) (b : Bool)
    (h : containsIntegerPointRef cap n cs = some b) :
    b = true ↔ ∃ x ∈ sem cs, ∀ i < n, isInt (x i) :=
  PPLV.Wrap.containsIntegerPointRef_sound cap n cs hwf b h

example : containsIntegerPointRef 1000 1 [gtRow [2] (-3), gtRow [-10] 19] = some false := by decide +kernel
example : containsIntegerPointRef 1000 2 [geRow [2, 0] (-1), geRow [-1, 0] 3, geRow [0, 1] 0, geRow [0, -3] 2] = some true := by
  decide +kernel

end C17

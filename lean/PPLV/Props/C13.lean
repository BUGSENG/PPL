import PPLV.Value.ProofsRefine
import PPLV.Value.Judge
import PPLV.Lin.Decide
import PPLV.Lattice.ProofsDecide

/-!
# C13 — objects are values: copies are independent and aliased arguments are safe

Two layers.

* **Specification** (`PPLV.Value.Spec`): a pool history is a pure fold over values.  `frame`,
  `alias_invariance`, `self_assign_value`, `self_swap_value`, `const_args_unchanged` are what the
  native driver `pplv_c13` replays against the real library for every class family of the
  statement (harness `c13_values.cc`): every observation of every pool member after every step is
  compared with `Spec.run`.
* **`Determinate<PSET>`** (`PPLV.Value.Cow`): the one sharing mechanism of the library that is
  visible through the public interface (powerset disjuncts) is modelled as a heap machine,
  transliterated from `Determinate_inlines.hh` with the order of increments and decrements, and
  proved for *every* operation sequence: the counters are exact, nothing is used after it is freed,
  copy-on-write is invisible, self-assignment and self-swap leave the whole machine state unchanged,
  and the machine refines the value specification.

The machine is tied to the class template itself: the harness drives `Determinate<C_Polyhedron>` and
`Determinate<Grid>` through the machine's operations (including `d = d` for a sole owner and for a
shared `Rep`, assignment between two handles of one `Rep`, self-swap, destruction in any order) and
`pplv_c13` runs `Cow.step` in lock step: values, liveness, the partition of the handles by `Rep`,
double deletes and the final live-block count must agree after every operation.

Outside `Determinate`: the recycling entry points, row swapping and the swap / assignment of systems
and polyhedra are modelled and proved in `PPLV/Props/C13Move.lean` (heap-with-ownership
machine `PPLV/Value/Move*.lean`, storage-level correspondence `pplv_c13 --move`); lazy updates of
`const` arguments are validated by the correspondence run, not modelled.
-/
namespace C13
open PPLV.Value

/-! ## the value specification -/

/-- **frame**: a step changes no pool member outside its destinations (in particular no `const`
argument and no copy made earlier). -/
theorem frame {V : Type} (pool : Spec.Pool V) (s : Spec.Step V) (i : Nat) (h : i ∉ s.dsts) :
    Spec.step pool s i = pool i := Spec.frame pool s i h

example : Spec.step (fun i => i * 10) (Spec.op 1 [1, 2] (fun a => a.sum)) 2 = 20 := by decide
example : Spec.step (fun i => i * 10) (Spec.op 1 [1, 2] (fun a => a.sum)) 1 = 30 := by decide

/-- the frame rule along a whole history: a member that is never a destination keeps its value -/
theorem frame_history {V : Type} (pool : Spec.Pool V) (steps : List (Spec.Step V)) (i : Nat)
    (h : ∀ s ∈ steps, i ∉ s.dsts) : Spec.run pool steps i = pool i := Spec.frame_run pool steps i h

example : Spec.run (fun i => i * 10) [Spec.copy 3 1, Spec.op 1 [1, 1] (fun a => a.sum), Spec.swap 1 2] 3 = 10 := by
  decide

/-- **alias invariance**: a step depends on the *values* of its arguments, not on the slots they
come from: `x.op(x)` equals `x.op(copy of x)`, one object in two argument positions equals two
equal copies. -/
theorem alias_invariance {V : Type} (pool : Spec.Pool V) (d : Nat) (args args' : List Nat) (f : List V → V)
    (h : args.map pool = args'.map pool) :
    Spec.step pool (Spec.op d args f) = Spec.step pool (Spec.op d args' f) :=
  Spec.op_args_congr pool d args args' f h

/-- `op x x = op x (copy x)` -/
theorem op_self_eq_op_copy {V : Type} (pool : Spec.Pool V) (x c : Nat) (f : List V → V) (hc : pool c = pool x) :
    Spec.step pool (Spec.op x [x, x] f) = Spec.step pool (Spec.op x [x, c] f) :=
  Spec.op_self_eq_op_copy pool x c f hc

example : Spec.step (fun i => if i = 7 then 3 else i) (Spec.op 3 [3, 3] (fun a => a.sum)) 3 = 6
    ∧ Spec.step (fun i => if i = 7 then 3 else i) (Spec.op 3 [3, 7] (fun a => a.sum)) 3 = 6 := by decide

/-- the value written by an operation is the function of the argument values -/
theorem op_value {V : Type} (pool : Spec.Pool V) (d : Nat) (args : List Nat) (f : List V → V) :
    Spec.step pool (Spec.op d args f) d = f (args.map pool) := Spec.op_value pool d args f

/-- copy construction / assignment: the destination gets the value of the source … -/
theorem copy_value {V : Type} (pool : Spec.Pool V) (d s : Nat) : Spec.step pool (Spec.copy d s) d = pool s :=
  Spec.copy_value pool d s
/-- … and swap exchanges the two values -/
theorem swap_value {V : Type} (pool : Spec.Pool V) (a b : Nat) :
    Spec.step pool (Spec.swap a b) a = pool b ∧ Spec.step pool (Spec.swap a b) b = pool a :=
  Spec.swap_value pool a b

/-- self-assignment changes nothing (value level) -/
theorem self_assign_value {V : Type} (pool : Spec.Pool V) (x : Nat) : Spec.step pool (Spec.copy x x) = pool :=
  Spec.self_copy pool x
/-- self-swap changes nothing (value level) -/
theorem self_swap_value {V : Type} (pool : Spec.Pool V) (x : Nat) : Spec.step pool (Spec.swap x x) = pool :=
  Spec.self_swap pool x

/-- an operation never changes the value of an argument it takes as const: every argument slot
other than the destination is in the frame -/
theorem const_args_unchanged {V : Type} (pool : Spec.Pool V) (d : Nat) (args : List Nat) (f : List V → V)
    (i : Nat) (_hi : i ∈ args) (hd : i ≠ d) : Spec.step pool (Spec.op d args f) i = pool i :=
  Spec.frame pool _ i (by simp [Spec.Step.dsts, Spec.op, hd])

/-- a recycling entry point may change the donor and the receiver, nothing else -/
theorem recycle_frame {V : Type} (pool : Spec.Pool V) (d e : Nat) (args : List Nat) (f g : List V → V)
    (i : Nat) (hd : i ≠ d) (he : i ≠ e) : Spec.step pool (Spec.recycle d e args f g) i = pool i :=
  Spec.frame pool _ i (by simp [Spec.Step.dsts, Spec.recycle, hd, he])

/-- the value a step writes depends only on the values it reads (two pools that agree on the
arguments and on the destination agree on the result) -/
theorem step_functional {V : Type} (p q : Spec.Pool V) (s : Spec.Step V) (d : Nat)
    (hr : s.reads.map p = s.reads.map q) (hd : p d = q d) : Spec.step p s d = Spec.step q s d :=
  Spec.step_congr p q s d hr hd

/-! ## `Determinate<PSET>`: every operation sequence -/
open Cow

theorem run_snoc {P : Type} (σ : State P) (ops : List (Op P)) (op : Op P) :
    Cow.run σ (ops ++ [op]) = Cow.step (Cow.run σ ops) op := by
  simp [Cow.run, List.foldl_append]

/-- the invariant holds after every history from the empty machine with `n` object slots -/
theorem inv_history {P : Type} (n : Nat) (ops : List (Op P)) : Inv (Cow.run (State.init P n) ops) :=
  (Inv.init n).run ops

/-- **reference counts are exact**, for every operation sequence:
* no micro-step touched a freed `Rep`, freed one twice, decremented a zero counter or deleted a
  `Rep` whose counter was not zero (`fault = false`);
* the counter of every live `Rep` is the number of live handles pointing to it, and is positive;
* an allocated `Rep` has been freed exactly when no handle points to it (no leak, no early free);
* no handle points to a freed `Rep` (no use after free). -/
theorem refcount_exact {P : Type} (n : Nat) (ops : List (Op P)) :
    let σ := Cow.run (State.init P n) ops
    σ.fault = false
    ∧ (∀ a r, σ.heap a = some r → r.refs = (σ.handles.filter (· == some a)).length ∧ 0 < r.refs)
    ∧ (∀ a, a < σ.next → (σ.heap a = none ↔ (σ.handles.filter (· == some a)).length = 0))
    ∧ (∀ (h a : Nat), σ.handles[h]? = some (some a) → ∃ r, σ.heap a = some r) := by
  intro σ
  have I : Inv σ := inv_history n ops
  have hc : ∀ a, (σ.handles.filter (· == some a)).length = holders σ a := by
    intro a; simp [holders, List.count_eq_length_filter]
  refine ⟨I.nofault, ?_, ?_, ?_⟩
  · intro a r hr; rw [hc]; exact I.live a r hr
  · intro a _
    rw [hc]
    constructor
    · exact I.dead a
    · intro h0
      cases hr : σ.heap a with
      | none => rfl
      | some r => have := I.live a r hr; omega
  · intro h a hh
    obtain ⟨r, hr, _⟩ := I.cell (prep_eq_some.mpr hh)
    exact ⟨r, hr⟩

/-- a history on naturals: construct, copy twice, mutate one copy, destroy the original -/
def demo : List (Op Nat) :=
  [.construct 0 5, .copyCtor 1 0, .copyCtor 2 0, .mutate 1 (· + 1), .destroy 0, .assign 2 1, .swap 1 2]

example : (Cow.run (State.init Nat 3) [.construct 0 5, .copyCtor 1 0, .copyCtor 2 0]).heap 0 = some ⟨3, 5⟩ := by
  decide
example : (List.range 3).map (value (Cow.run (State.init Nat 3) (demo.take 4))) = [some 5, some 6, some 5] := by
  decide
example : (Cow.run (State.init Nat 3) demo).fault = false
    ∧ (Cow.run (State.init Nat 3) demo).heap 0 = none          -- freed by `assign 2 1` (last holder)
    ∧ (Cow.run (State.init Nat 3) demo).heap 1 = some ⟨2, 6⟩ := by decide

/-- **copy on write**: mutating through one handle never changes the value seen through another -/
theorem cow_independent {P : Type} (n : Nat) (ops : List (Op P)) (h₁ h₂ : Nat) (f : P → P) (hne : h₁ ≠ h₂) :
    value (Cow.run (State.init P n) (ops ++ [.mutate h₁ f])) h₂ = value (Cow.run (State.init P n) ops) h₂ := by
  rw [run_snoc, value_step (inv_history n ops)]
  exact Spec.frame _ _ h₂ (by simp [Spec.Step.dsts, toSpec, Ne.symm hne])

/-- the same for the binary operations lifted to `Determinate` (`upper_bound_assign`,
`meet_assign`, `concatenate_assign`, `Binary_Operator_Assign_Lifter`), whatever sharing exists
between receiver and argument -/
theorem cow_independent_binop {P : Type} (n : Nat) (ops : List (Op P)) (h₁ y h₂ : Nat) (g : P → P → P)
    (hne : h₁ ≠ h₂) :
    value (Cow.run (State.init P n) (ops ++ [.binop h₁ y g])) h₂ = value (Cow.run (State.init P n) ops) h₂ := by
  rw [run_snoc, value_step (inv_history n ops)]
  exact Spec.frame _ _ h₂ (by simp [Spec.Step.dsts, toSpec, Ne.symm hne])

/-- the handle that is mutated sees the new value, also when its representation was shared -/
theorem mutate_value {P : Type} (n : Nat) (ops : List (Op P)) (h : Nat) (f : P → P) :
    value (Cow.run (State.init P n) (ops ++ [.mutate h f])) h
      = (value (Cow.run (State.init P n) ops) h).map f := by
  rw [run_snoc, value_step (inv_history n ops), Cow.spec_step_toSpec]
  simp only [vstep]
  cases hv : value (Cow.run (State.init P n) ops) h <;> simp [Cow.abs, Spec.upd, hv]

/-- `x.op(y)` through handles that share one representation, and `x.op(x)`, compute `g` of the two
values (the aliasing inside `PSET::op` itself is C13's correspondence part, not the model's) -/
theorem binop_value {P : Type} (n : Nat) (ops : List (Op P)) (h y : Nat) (g : P → P → P) (u v : P)
    (hu : value (Cow.run (State.init P n) ops) h = some u) (hv : value (Cow.run (State.init P n) ops) y = some v) :
    value (Cow.run (State.init P n) (ops ++ [.binop h y g])) h = some (g u v) := by
  rw [run_snoc, value_step (inv_history n ops), Cow.spec_step_toSpec]
  simp [vstep, Cow.abs, hu, hv, Spec.upd]

example : value (Cow.run (State.init Nat 2) [.construct 0 5, .copyCtor 1 0, .binop 0 1 (· + ·)]) 0 = some 10
    ∧ value (Cow.run (State.init Nat 2) [.construct 0 5, .copyCtor 1 0, .binop 0 1 (· + ·)]) 1 = some 5
    ∧ value (Cow.run (State.init Nat 2) [.construct 0 5, .binop 0 0 (· + ·)]) 0 = some 10 := by decide

/-- **self-assignment is harmless**: `x = x` leaves the complete machine state (heap, counters,
handles, fault flag) as it was — because `y.prep->new_reference()` comes before
`prep->del_reference()`; see `assign_order_matters`. -/
theorem self_assign_harmless {P : Type} (n : Nat) (ops : List (Op P)) (h : Nat) :
    Cow.run (State.init P n) (ops ++ [.assign h h]) = Cow.run (State.init P n) ops := by
  rw [run_snoc]
  have I := inv_history n ops
  cases hh : (Cow.run (State.init P n) ops).prep h with
  | none => simp [Cow.step, hh]
  | some a => exact step_assign_same I hh hh

/-- more generally: assignment between two handles that already share leaves the state unchanged -/
theorem assign_shared_harmless {P : Type} (n : Nat) (ops : List (Op P)) (h y a : Nat)
    (hh : (Cow.run (State.init P n) ops).prep h = some a) (hy : (Cow.run (State.init P n) ops).prep y = some a) :
    Cow.run (State.init P n) (ops ++ [.assign h y]) = Cow.run (State.init P n) ops := by
  rw [run_snoc]; exact step_assign_same (inv_history n ops) hh hy

/-- **self-swap is harmless**: `x.m_swap(x)` leaves the complete machine state as it was -/
theorem self_swap_harmless {P : Type} (n : Nat) (ops : List (Op P)) (h : Nat) :
    Cow.run (State.init P n) (ops ++ [.swap h h]) = Cow.run (State.init P n) ops := by
  rw [run_snoc]
  cases hh : (Cow.run (State.init P n) ops).prep h with
  | none => simp [Cow.step, hh]
  | some a =>
    simp only [Cow.step, hh]
    have hg := prep_eq_some.mp hh
    have e1 := set_self_of_get _ _ _ hg
    apply State.ext' <;> simp [e1]

example : Cow.run (State.init Nat 2) [.construct 0 5, .copyCtor 1 0, .assign 0 0, .swap 1 1, .assign 1 0]
    = Cow.run (State.init Nat 2) [.construct 0 5, .copyCtor 1 0] :=
  (assign_shared_harmless 2 _ 1 0 0 (by decide) (by decide)).trans
    ((self_swap_harmless 2 [.construct 0 5, .copyCtor 1 0, .assign 0 0] 1).trans
      (self_assign_harmless 2 [.construct 0 5, .copyCtor 1 0] 0))

/-- **refinement**: the abstraction map (handles ↦ the values seen through them) commutes with every
step, hence the handle-level machine computes exactly the pure value specification. -/
theorem refines_value_spec {P : Type} (n : Nat) (ops : List (Op P)) :
    Cow.abs (Cow.run (State.init P n) ops) = Spec.run (fun _ => none) (ops.map (toSpec n)) := by
  have key : ∀ (ops : List (Op P)) (σ : State P), Inv σ → σ.handles.length = n →
      Cow.abs (Cow.run σ ops) = Spec.run (Cow.abs σ) (ops.map (toSpec n)) := by
    intro ops
    induction ops with
    | nil => intro σ _ _; rfl
    | cons op ops ih =>
      intro σ I hl
      simp only [Cow.run, List.foldl_cons, List.map_cons, Spec.run]
      have := ih (Cow.step σ op) (I.step op) (by rw [length_step σ op, hl])
      simp only [Cow.run, Spec.run] at this
      rw [this, abs_step I op, hl]
  have h0 : Cow.abs (State.init P n) = fun _ => none := by
    funext k
    simp only [Cow.abs, value, State.prep, State.init]
    by_cases hk : k < n
    · simp [hk]
    · simp [List.getElem?_eq_none (l := List.replicate n (none : Option Nat)) (by simpa using hk)]
  rw [key ops (State.init P n) (Inv.init n) (by simp [State.init]), h0]

/-- one step of the refinement square -/
theorem refines_step {P : Type} (n : Nat) (ops : List (Op P)) (op : Op P) :
    Cow.abs (Cow.run (State.init P n) (ops ++ [op]))
      = Spec.step (Cow.abs (Cow.run (State.init P n) ops)) (toSpec n op) := by
  rw [run_snoc, abs_step (inv_history n ops) op, length_run]
  simp [State.init]

example : (List.range 3).map (Cow.abs (Cow.run (State.init Nat 3) demo)) = [none, some 6, some 6] := by decide
example : (List.range 3).map (Spec.run (fun _ => none) (demo.map (toSpec 3))) = [none, some 6, some 6] := by decide

/-! ## what the proofs exclude (the order of the counter updates matters) -/

/-- `operator=` with the decrement *before* the increment frees the representation of an unshared
object on self-assignment and then touches it: use after free. -/
theorem assign_order_matters :
    (assignDelFirst (Cow.run (State.init Nat 1) [.construct 0 5]) 0 0).fault = true := by decide

/-- `operator=` without `y.prep->new_reference()`: two handles, counter 1; the next `mutate()`
writes in place and the other handle sees it. -/
theorem assign_needs_new_reference :
    let σ := assignNoNewRef (Cow.run (State.init Nat 2) [.construct 0 5, .construct 1 7]) 1 0
    value (Cow.step σ (.mutate 1 (· + 1))) 0 = some 6
    ∧ (Cow.step (Cow.step σ (.destroy 0)) (.destroy 1)).fault = true := by decide

/-- `mutate()` that does not clone a shared representation breaks independence. -/
theorem mutate_must_clone :
    value (mutateNoClone (Cow.run (State.init Nat 2) [.construct 0 5, .copyCtor 1 0]) 1 (· + 1)) 0 = some 6
    ∧ value (Cow.run (State.init Nat 2) [.construct 0 5, .copyCtor 1 0, .mutate 1 (· + 1)]) 0 = some 5 := by
  decide

/-! ## the judge of the correspondence run is exact

`pplv_c13` compares the specification pool with the observations through `valEq`; on polyhedral
values and on grids it decides equality of the denoted sets (K1 / K2). -/

/-- polyhedral values (C / NNC polyhedra, BD shapes, octagons, boxes, powerset disjuncts, constraint
systems): `valEq` holds iff the two constraint systems have the same solutions -/
theorem judge_poly_exact (n : Nat) (cs ds : List PPLV.Lin.Con) (h1 : PPLV.Lin.WF n cs) (h2 : PPLV.Lin.WF n ds) :
    valEq (.poly n cs) (.poly n ds) = true ↔ PPLV.Lin.sem cs = PPLV.Lin.sem ds := by
  simp only [valEq, beq_self_eq_true, Bool.true_and, polyEq, Bool.or_eq_true, beq_iff_eq]
  constructor
  · rintro (h | h)
    · rw [h]
    · exact (PPLV.Lin.equivB_iff n cs ds h1 h2).mp h
  · intro h; exact Or.inr ((PPLV.Lin.equivB_iff n cs ds h1 h2).mpr h)

/-- values of different space dimension are never equal -/
theorem judge_poly_dim (n m : Nat) (cs ds : List PPLV.Lin.Con) (h : n ≠ m) :
    valEq (.poly n cs) (.poly m ds) = false := by
  simp [valEq, h]

/-- grids given by congruence systems: `valEq` holds iff the systems have the same solutions -/
theorem judge_grid_exact (n : Nat) (c1 c2 : List PPLV.Lattice.Cg) :
    valEq (.grid n (some c1)) (.grid n (some c2)) = true
      ↔ ∀ x, PPLV.Lattice.CgSys.sem n c1 x ↔ PPLV.Lattice.CgSys.sem n c2 x := by
  simp only [valEq, beq_self_eq_true, Bool.true_and, gridEq, gridGens, PPLV.Lattice.equivB_iff,
    PPLV.Lattice.consToGens_sem]

/-- the empty grid equals a congruence system iff the system has no solution -/
theorem judge_grid_empty (n : Nat) (c : List PPLV.Lattice.Cg) :
    valEq (.grid n none) (.grid n (some c)) = true ↔ ∀ x, ¬ PPLV.Lattice.CgSys.sem n c x := by
  simp only [valEq, beq_self_eq_true, Bool.true_and, gridEq, gridGens, PPLV.Lattice.equivB_iff]
  constructor
  · intro h x hx
    exact (h x).mpr ((PPLV.Lattice.consToGens_sem n c x).mpr hx)
  · intro h x
    constructor
    · intro hf; exact absurd hf (by simp [PPLV.Lattice.Gen.sem])
    · intro hx; exact absurd ((PPLV.Lattice.consToGens_sem n c x).mp hx) (h x)

example : valEq (.poly 1 [⟨[1], 0, false⟩, ⟨[2], 0, false⟩]) (.poly 1 [⟨[3], 0, false⟩]) = true := by decide +kernel
example : valEq (.poly 1 [⟨[1], 0, false⟩]) (.poly 1 [⟨[1], -1, false⟩]) = false := by decide +kernel

end C13

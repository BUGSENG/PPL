import PPLV.WR.Trans2LhsProofsPre
import PPLV.WR.Trans2LhsProofsRefineVar
import PPLV.WR.TransOct2LhsProofsPre
import Mathlib.Tactic.IntervalCases
import Mathlib.Tactic.NormNum
/-!
# C03 — `generalized_affine_image(lhs, relsym, rhs)`, `generalized_affine_preimage(lhs, relsym, rhs)` of
`BD_Shape<T>` and `Octagonal_Shape<T>`, and `BD_Shape`'s private `refine(var, relsym, expr, den)`

Statements about the code-shaped models of `PPLV/WR/Trans2Lhs.lean` (`/repo/src/BD_Shape_templates.hh:6017,
6297, 3688`) and `PPLV/WR/TransOct2Lhs.lean` (`/repo/src/Octagonal_Shape_templates.hh:6581, 7164`), for every
bound type: an arbitrary `R : Rnd` with `R.Sound`.  `lhs(y) = linEval el y n + bl`, `rhs(y) = linEval er y n + br`.

The specification is the one of PPL and of the K1 reference operators `RefPoly.genAffineImage2`,
`RefPoly.genAffinePreimage2` (`PPLV/Lin/Ops.lean`, `generalized_affine_image2_spec`,
`generalized_affine_preimage2_spec` in `Props/C02.lean`):

* image: every `x'` that agrees with a point `x` of the shape on the variables NOT occurring in `lhs` and has
  `lhs(x') relsym rhs(x)` is in the result;
* preimage: every `x` for which some point `x'` of the shape agrees with it off the variables of `lhs` and has
  `lhs(x') relsym rhs(x)` is in the result.

Side conditions (`_partial`), ONLY those of the delegates:
* `t_lhs == 1` (`lhs == a*v + b`): `CoeffExact R er` (the delegate converts the coefficients of `rhs`); for the
  preimage also `|a|` representable (`hcd` of `generalized_affine_preimage_sound_partial`, `Props/C03Trans.lean`);
* preimage, `lhs` general and sharing a variable with `rhs` (additional dimension, `affine_image(new_var, lhs)`):
  `CoeffExact R el`;
* octagons: `HalfFiniteOn R.up` of the closed matrix where a delegate halves unary cells; and, for the
  preimage with `t_lhs == 1`, the hypothesis `lhsOctDelegateOK` INHERITED from the delegate
  `generalized_affine_preimage(v, relsym', rhs - b_lhs, a)`: the private `Octagonal_Shape::refine` writes the wrong
  cell in its `GREATER_OR_EQUAL`, `pinf_count == 1`, `pinf_index > var`, coefficient `== denominator` branch
  (`Octagonal_Shape_templates.hh:5159`, open finding KF-C03-75/76, `octGenAffinePreimage_sound`).
The constant case, the disjoint case and the simplified `#if 1` computation need NO side condition
(`_special`).  `hel`/`her` (coefficients beyond the space dimension are zero) is the encoding convention,
it is what the dimension check of the code enforces.
-/
namespace C03
open PPLV.WR
open PPLV.WR.ExtRat (fin pinf)

/-- `t_lhs`: `0` for a constant `lhs`, `1` for exactly one variable, `2` otherwise -/
abbrev lhsT (el : ℕ → ℤ) (n : ℕ) : ℕ := exprT el (lastNonzero el n)
/-- `lhs` and `rhs` share a variable, as the code decides it -/
abbrev lhsCommon (el er : ℕ → ℤ) (n : ℕ) : Bool :=
  lhsHaveCommonVar el er (min (lhsSpaceDim el n) (lhsSpaceDim er n))
/-- `|a_lhs|` is representable in `T` (the side condition `hcd` of the preimage theorems of `Props/C03Trans.lean`) -/
abbrev lhsDenExact (R : Rnd) (el : ℕ → ℤ) (n : ℕ) : Prop :=
  R.up ((absI (el (lastNonzero el n - 1)) : ℤ) : ℚ) = fin ((absI (el (lastNonzero el n - 1)) : ℤ) : ℚ)

/-! ## `BD_Shape<T>::generalized_affine_image(lhs, relsym, rhs)` -/

theorem bds_generalized_affine_image_lhs_sound_partial (R : Rnd) (hR : R.Sound) {n : ℕ} (m : DBM n)
    (closed : Bool) (rel : RelSym) (el : ℕ → ℤ) (bl : ℤ) (er : ℕ → ℤ) (br : ℤ)
    (hc : lhsT el n = 1 → CoeffExact R er) :
    ∀ x ∈ DBM.γ m, ∀ x' : ℕ → ℚ, (∀ i, i < n → el i = 0 → x' i = x i) →
      RelSym.holds rel (linEval el x' n + bl) (linEval er x n + br) →
      ∃ m', bdsLhsGenAffineImage R closed rel el bl er br m = some m' ∧ x' ∈ γB n m' :=
  fun x hx x' hag hrel => by
    obtain ⟨m1, h1, hx1⟩ := closeFirst_sound hR.up_le closed m hx
    obtain ⟨m', hm', hx'⟩ := bdsLhsGenAffineImageCore_sound hR rel bl br hc hx1 hag hrel
    exact ⟨m', by simp [bdsLhsGenAffineImage, h1, hm'], hx'⟩

/-- `lhs` constant or with at least two variables (disjoint from `rhs` or not): no side condition -/
theorem bds_generalized_affine_image_lhs_sound_special (R : Rnd) (hR : R.Sound) {n : ℕ} (m : DBM n)
    (closed : Bool) (rel : RelSym) (el : ℕ → ℤ) (bl : ℤ) (er : ℕ → ℤ) (br : ℤ) (ht : lhsT el n ≠ 1) :
    ∀ x ∈ DBM.γ m, ∀ x' : ℕ → ℚ, (∀ i, i < n → el i = 0 → x' i = x i) →
      RelSym.holds rel (linEval el x' n + bl) (linEval er x n + br) →
      ∃ m', bdsLhsGenAffineImage R closed rel el bl er br m = some m' ∧ x' ∈ γB n m' :=
  bds_generalized_affine_image_lhs_sound_partial R hR m closed rel el bl er br (fun h => absurd h ht)

theorem bds_generalized_affine_image_lhs_sound_mpq {n : ℕ} (m : DBM n) (closed : Bool) (rel : RelSym)
    (el : ℕ → ℤ) (bl : ℤ) (er : ℕ → ℤ) (br : ℤ) :
    ∀ x ∈ DBM.γ m, ∀ x' : ℕ → ℚ, (∀ i, i < n → el i = 0 → x' i = x i) →
      RelSym.holds rel (linEval el x' n + bl) (linEval er x n + br) →
      ∃ m', bdsLhsGenAffineImage Rnd.exact closed rel el bl er br m = some m' ∧ x' ∈ γB n m' :=
  bds_generalized_affine_image_lhs_sound_partial _ Rnd.exact_sound m closed rel el bl er br
    (fun _ => Rnd.exact_coeff er)

theorem bds_generalized_affine_image_lhs_sound_mpz {n : ℕ} (m : DBM n) (closed : Bool) (rel : RelSym)
    (el : ℕ → ℤ) (bl : ℤ) (er : ℕ → ℤ) (br : ℤ) :
    ∀ x ∈ DBM.γ m, ∀ x' : ℕ → ℚ, (∀ i, i < n → el i = 0 → x' i = x i) →
      RelSym.holds rel (linEval el x' n + bl) (linEval er x n + br) →
      ∃ m', bdsLhsGenAffineImage Rnd.ceil closed rel el bl er br m = some m' ∧ x' ∈ γB n m' :=
  bds_generalized_affine_image_lhs_sound_partial _ Rnd.ceil_sound m closed rel el bl er br
    (fun _ => Rnd.ceil_coeff er)

/-! ## `BD_Shape<T>::generalized_affine_preimage(lhs, relsym, rhs)` -/

theorem bds_generalized_affine_preimage_lhs_sound_partial (R : Rnd) (hR : R.Sound) {n : ℕ} (m : DBM n)
    (closed : Bool) (rel : RelSym) (el : ℕ → ℤ) (bl : ℤ) (er : ℕ → ℤ) (br : ℤ)
    (hel : ∀ i, n ≤ i → el i = 0) (her : ∀ i, n ≤ i → er i = 0)
    (hc1 : lhsT el n = 1 → CoeffExact R er ∧ lhsDenExact R el n)
    (hc2 : lhsT el n = 2 → lhsCommon el er n = true → CoeffExact R el) :
    ∀ x x' : ℕ → ℚ, x' ∈ DBM.γ m → (∀ i, i < n → el i = 0 → x' i = x i) →
      RelSym.holds rel (linEval el x' n + bl) (linEval er x n + br) →
      ∃ m', bdsLhsGenAffinePreimage R closed rel el bl er br m = some m' ∧ x ∈ γB n m' :=
  fun x x' hx' hag hrel => by
    obtain ⟨m1, h1, hx1⟩ := closeFirst_sound hR.up_le closed m hx'
    obtain ⟨m', hm', hx2⟩ := bdsLhsGenAffinePreimageCore_sound hR rel bl br hel her hc1 hc2 hx1 hag hrel
    exact ⟨m', by simp [bdsLhsGenAffinePreimage, h1, hm'], hx2⟩

/-- `lhs` constant, or general with variables disjoint from `rhs`: no side condition -/
theorem bds_generalized_affine_preimage_lhs_sound_special (R : Rnd) (hR : R.Sound) {n : ℕ} (m : DBM n)
    (closed : Bool) (rel : RelSym) (el : ℕ → ℤ) (bl : ℤ) (er : ℕ → ℤ) (br : ℤ)
    (hel : ∀ i, n ≤ i → el i = 0) (her : ∀ i, n ≤ i → er i = 0)
    (ht : lhsT el n = 0 ∨ (lhsT el n = 2 ∧ lhsCommon el er n = false)) :
    ∀ x x' : ℕ → ℚ, x' ∈ DBM.γ m → (∀ i, i < n → el i = 0 → x' i = x i) →
      RelSym.holds rel (linEval el x' n + bl) (linEval er x n + br) →
      ∃ m', bdsLhsGenAffinePreimage R closed rel el bl er br m = some m' ∧ x ∈ γB n m' :=
  bds_generalized_affine_preimage_lhs_sound_partial R hR m closed rel el bl er br hel her
    (fun h => by rcases ht with h0 | ⟨h2, _⟩ <;> omega)
    (fun h hcm => by
      rcases ht with h0 | ⟨_, hf⟩
      · omega
      · rw [hf] at hcm; exact absurd hcm (by decide))

theorem bds_generalized_affine_preimage_lhs_sound_mpq {n : ℕ} (m : DBM n) (closed : Bool) (rel : RelSym)
    (el : ℕ → ℤ) (bl : ℤ) (er : ℕ → ℤ) (br : ℤ)
    (hel : ∀ i, n ≤ i → el i = 0) (her : ∀ i, n ≤ i → er i = 0) :
    ∀ x x' : ℕ → ℚ, x' ∈ DBM.γ m → (∀ i, i < n → el i = 0 → x' i = x i) →
      RelSym.holds rel (linEval el x' n + bl) (linEval er x n + br) →
      ∃ m', bdsLhsGenAffinePreimage Rnd.exact closed rel el bl er br m = some m' ∧ x ∈ γB n m' :=
  bds_generalized_affine_preimage_lhs_sound_partial _ Rnd.exact_sound m closed rel el bl er br hel her
    (fun _ => ⟨Rnd.exact_coeff er, rfl⟩) (fun _ _ => Rnd.exact_coeff el)

theorem bds_generalized_affine_preimage_lhs_sound_mpz {n : ℕ} (m : DBM n) (closed : Bool) (rel : RelSym)
    (el : ℕ → ℤ) (bl : ℤ) (er : ℕ → ℤ) (br : ℤ)
    (hel : ∀ i, n ≤ i → el i = 0) (her : ∀ i, n ≤ i → er i = 0) :
    ∀ x x' : ℕ → ℚ, x' ∈ DBM.γ m → (∀ i, i < n → el i = 0 → x' i = x i) →
      RelSym.holds rel (linEval el x' n + bl) (linEval er x n + br) →
      ∃ m', bdsLhsGenAffinePreimage Rnd.ceil closed rel el bl er br m = some m' ∧ x ∈ γB n m' :=
  bds_generalized_affine_preimage_lhs_sound_partial _ Rnd.ceil_sound m closed rel el bl er br hel her
    (fun _ => ⟨Rnd.ceil_coeff er, by show upCeil _ = _; simp only [upCeil]; rw [Rat.ceil_intCast]⟩)
    (fun _ _ => Rnd.ceil_coeff el)

/-! ## the private `BD_Shape<T>::refine(var, relsym, expr, den)` -/

/-- precondition of the code: `expr.coefficient(var) == 0`.  Every point of the matrix with
`x_var relsym expr(x)/den` stays. -/
theorem bds_refine_var_sound_partial (R : Rnd) (hR : R.Sound) {n : ℕ} (m : Mat) (var : ℕ) (hvar : var < n)
    (rel : RelSym) (e : ℕ → ℤ) (b den : ℤ) (hden : den ≠ 0) (hev : e var = 0) (hc : CoeffExact R e) :
    ∀ x ∈ γB n m, RelSym.holds rel (x var) ((linEval e x n + b) / den) →
      x ∈ γB n (bdsRefineVar R n var rel e b den m) :=
  fun _ hx ht => refineVar_sound hR hvar hc hev hden hx rel ht

/-- `expr == b` or `expr == den*w + b`: only `add_dbm_constraint` writes — entries only decrease -/
theorem bds_refine_var_entries_decrease_special (R : Rnd) (n var : ℕ) (rel : RelSym) (e : ℕ → ℤ) (b den : ℤ)
    (m : Mat) (hsp : exprT e (lastNonzero e n) = 0 ∨
      (exprT e (lastNonzero e n) = 1 ∧ e (lastNonzero e n - 1) = den)) :
    MLe (bdsRefineVar R n var rel e b den m) m :=
  bdsRefineVar_mle_special R n var rel e b den m hsp

/-- in the general case "entries only decrease" is FALSE: `deduce_v_minus_u_bounds` overwrites the cell of
`x₀ - x₁ ≤ 0` by `10` (`refine(x₀, ≤, x₁ + x₂, 1)` on `0 ≤ xᵢ ≤ 10, x₀ ≤ x₁`).  No point satisfying the
relation is lost (`bds_refine_var_sound_partial`), and the only caller forgets `var` right afterwards. -/
theorem bds_refine_var_entries_decrease_fails :
    ¬ (∀ (R : Rnd) (n var : ℕ) (rel : RelSym) (e : ℕ → ℤ) (b den : ℤ) (m : Mat),
        MLe (bdsRefineVar R n var rel e b den m) m) := by
  intro h
  have := h Rnd.exact 3 0 .le (fun i => if i = 1 ∨ i = 2 then 1 else 0) 0 1 lhsExLoose.e 2 1
  rw [bdsRefineVar_not_decreasing.1, bdsRefineVar_not_decreasing.2] at this
  exact absurd (ExtRat.fin_le_fin.1 this) (by norm_num)

/-! ## `Octagonal_Shape<T>`: the branches without a delegate (no side condition) -/

theorem oct_generalized_affine_preimage_lhs_sound_special (R : Rnd) (hR : R.Sound) {n : ℕ} (m : OctM n)
    (closed : Bool) (rel : RelSym) (el : ℕ → ℤ) (bl : ℤ) (er : ℕ → ℤ) (br : ℤ)
    (ht : lhsT el n = 0 ∨ (lhsT el n = 2 ∧ lhsCommon el er n = false)) :
    ∀ x x' : ℕ → ℚ, x' ∈ OctM.γ m → (∀ i, i < n → el i = 0 → x' i = x i) →
      RelSym.holds rel (linEval el x' n + bl) (linEval er x n + br) →
      ∃ m', octLhsGenAffinePreimage R closed rel el bl er br m = some m' ∧ x ∈ γO n m' := by
  intro x x' hx' hag hrel
  obtain ⟨m1, h1, hx1⟩ := octCloseFirst_sound hR.up_le closed m hx'
  have key : ∃ m', octLhsGenAffinePreimageCore R n rel el bl er br m1 = some m' ∧ x ∈ γO n m' := by
    rcases ht with h0 | ⟨h2, hcom⟩
    · exact octLhsPre_t0_sound hR rel bl br h0 hx1 hag hrel
    · exact octLhsPre_disjoint_sound hR rel bl br (by unfold lhsT at h2; omega) (by unfold lhsT at h2; omega)
        hcom hx1 hag hrel
  obtain ⟨m', hm', hx2⟩ := key
  exact ⟨m', by simp [octLhsGenAffinePreimage, h1, hm'], hx2⟩

/-! ## `Octagonal_Shape<T>`: all branches -/

/-- the side condition of `octGenAffinePreimage_sound` for the delegate call
`generalized_affine_preimage(v, relsym', rhs - b_lhs, a)`: it excludes the open finding KF-C03-75/76
(`Octagonal_Shape_templates.hh:5159`) -/
abbrev lhsOctDelegateOK (rel : RelSym) (el er : ℕ → ℤ) (n : ℕ) : Prop :=
  lhsNewRelSym rel (el (lastNonzero el n - 1)) ≠ .ge ∨
    ∀ u, lastNonzero el n - 1 < u → er u ≠ el (lastNonzero el n - 1)

theorem oct_generalized_affine_image_lhs_sound_partial (R : Rnd) (hR : R.Sound) {n : ℕ} (m : OctM n)
    (closed : Bool) (rel : RelSym) (el : ℕ → ℤ) (bl : ℤ) (er : ℕ → ℤ) (br : ℤ)
    (hc : lhsT el n = 1 → CoeffExact R er)
    (hh : lhsT el n = 1 → ∀ m', octCloseFirst R.up closed m = some m' → HalfFiniteOn R.up m') :
    ∀ x ∈ OctM.γ m, ∀ x' : ℕ → ℚ, (∀ i, i < n → el i = 0 → x' i = x i) →
      RelSym.holds rel (linEval el x' n + bl) (linEval er x n + br) →
      ∃ m', octLhsGenAffineImage R closed rel el bl er br m = some m' ∧ x' ∈ γO n m' :=
  fun x hx x' hag hrel => by
    obtain ⟨m1, h1, hx1⟩ := octCloseFirst_sound hR.up_le closed m hx
    obtain ⟨m', hm', hx'⟩ := octLhsGenAffineImageCore_sound hR rel bl br hc (fun h => hh h m1 h1) hx1 hag hrel
    exact ⟨m', by simp [octLhsGenAffineImage, h1, hm'], hx'⟩

theorem oct_generalized_affine_image_lhs_sound_special (R : Rnd) (hR : R.Sound) {n : ℕ} (m : OctM n)
    (closed : Bool) (rel : RelSym) (el : ℕ → ℤ) (bl : ℤ) (er : ℕ → ℤ) (br : ℤ) (ht : lhsT el n ≠ 1) :
    ∀ x ∈ OctM.γ m, ∀ x' : ℕ → ℚ, (∀ i, i < n → el i = 0 → x' i = x i) →
      RelSym.holds rel (linEval el x' n + bl) (linEval er x n + br) →
      ∃ m', octLhsGenAffineImage R closed rel el bl er br m = some m' ∧ x' ∈ γO n m' :=
  oct_generalized_affine_image_lhs_sound_partial R hR m closed rel el bl er br (fun h => absurd h ht)
    (fun h => absurd h ht)

theorem oct_generalized_affine_image_lhs_sound_mpq {n : ℕ} (m : OctM n) (closed : Bool) (rel : RelSym)
    (el : ℕ → ℤ) (bl : ℤ) (er : ℕ → ℤ) (br : ℤ) :
    ∀ x ∈ OctM.γ m, ∀ x' : ℕ → ℚ, (∀ i, i < n → el i = 0 → x' i = x i) →
      RelSym.holds rel (linEval el x' n + bl) (linEval er x n + br) →
      ∃ m', octLhsGenAffineImage Rnd.exact closed rel el bl er br m = some m' ∧ x' ∈ γO n m' :=
  oct_generalized_affine_image_lhs_sound_partial _ Rnd.exact_sound m closed rel el bl er br
    (fun _ => Rnd.exact_coeff er) (fun _ m' _ => halfFiniteOn_exact m')

theorem oct_generalized_affine_image_lhs_sound_mpz {n : ℕ} (m : OctM n) (closed : Bool) (rel : RelSym)
    (el : ℕ → ℤ) (bl : ℤ) (er : ℕ → ℤ) (br : ℤ) :
    ∀ x ∈ OctM.γ m, ∀ x' : ℕ → ℚ, (∀ i, i < n → el i = 0 → x' i = x i) →
      RelSym.holds rel (linEval el x' n + bl) (linEval er x n + br) →
      ∃ m', octLhsGenAffineImage Rnd.ceil closed rel el bl er br m = some m' ∧ x' ∈ γO n m' :=
  oct_generalized_affine_image_lhs_sound_partial _ Rnd.ceil_sound m closed rel el bl er br
    (fun _ => Rnd.ceil_coeff er) (fun _ m' _ => halfFiniteOn_ceil m')

theorem oct_generalized_affine_preimage_lhs_sound_partial (R : Rnd) (hR : R.Sound) {n : ℕ} (m : OctM n)
    (closed : Bool) (rel : RelSym) (el : ℕ → ℤ) (bl : ℤ) (er : ℕ → ℤ) (br : ℤ)
    (hel : ∀ i, n ≤ i → el i = 0) (her : ∀ i, n ≤ i → er i = 0)
    (hc1 : lhsT el n = 1 → CoeffExact R er ∧ lhsDenExact R el n ∧ lhsOctDelegateOK rel el er n)
    (hc2 : lhsT el n = 2 → lhsCommon el er n = true → CoeffExact R el)
    (hh : lhsT el n = 1 ∨ (lhsT el n = 2 ∧ lhsCommon el er n = true) →
      ∀ m', octCloseFirst R.up closed m = some m' → HalfFiniteOn R.up m') :
    ∀ x x' : ℕ → ℚ, x' ∈ OctM.γ m → (∀ i, i < n → el i = 0 → x' i = x i) →
      RelSym.holds rel (linEval el x' n + bl) (linEval er x n + br) →
      ∃ m', octLhsGenAffinePreimage R closed rel el bl er br m = some m' ∧ x ∈ γO n m' :=
  fun x x' hx' hag hrel => by
    obtain ⟨m1, h1, hx1⟩ := octCloseFirst_sound hR.up_le closed m hx'
    obtain ⟨m', hm', hx2⟩ := octLhsGenAffinePreimageCore_sound hR rel bl br hel her hc1 hc2
      (fun h => hh h m1 h1) hx1 hag hrel
    exact ⟨m', by simp [octLhsGenAffinePreimage, h1, hm'], hx2⟩

/-- `Octagonal_Shape<mpz_class>`: only the inherited exclusion of KF-C03-75/76 remains -/
theorem oct_generalized_affine_preimage_lhs_sound_mpz_partial {n : ℕ} (m : OctM n) (closed : Bool) (rel : RelSym)
    (el : ℕ → ℤ) (bl : ℤ) (er : ℕ → ℤ) (br : ℤ)
    (hel : ∀ i, n ≤ i → el i = 0) (her : ∀ i, n ≤ i → er i = 0)
    (hok : lhsT el n = 1 → lhsOctDelegateOK rel el er n) :
    ∀ x x' : ℕ → ℚ, x' ∈ OctM.γ m → (∀ i, i < n → el i = 0 → x' i = x i) →
      RelSym.holds rel (linEval el x' n + bl) (linEval er x n + br) →
      ∃ m', octLhsGenAffinePreimage Rnd.ceil closed rel el bl er br m = some m' ∧ x ∈ γO n m' :=
  oct_generalized_affine_preimage_lhs_sound_partial _ Rnd.ceil_sound m closed rel el bl er br hel her
    (fun h => ⟨Rnd.ceil_coeff er, by show upCeil _ = _; simp only [upCeil]; rw [Rat.ceil_intCast], hok h⟩)
    (fun _ _ => Rnd.ceil_coeff el) (fun _ m' _ => halfFiniteOn_ceil m')

theorem oct_generalized_affine_preimage_lhs_sound_mpq_partial {n : ℕ} (m : OctM n) (closed : Bool) (rel : RelSym)
    (el : ℕ → ℤ) (bl : ℤ) (er : ℕ → ℤ) (br : ℤ)
    (hel : ∀ i, n ≤ i → el i = 0) (her : ∀ i, n ≤ i → er i = 0)
    (hok : lhsT el n = 1 → lhsOctDelegateOK rel el er n) :
    ∀ x x' : ℕ → ℚ, x' ∈ OctM.γ m → (∀ i, i < n → el i = 0 → x' i = x i) →
      RelSym.holds rel (linEval el x' n + bl) (linEval er x n + br) →
      ∃ m', octLhsGenAffinePreimage Rnd.exact closed rel el bl er br m = some m' ∧ x ∈ γO n m' :=
  oct_generalized_affine_preimage_lhs_sound_partial _ Rnd.exact_sound m closed rel el bl er br hel her
    (fun h => ⟨Rnd.exact_coeff er, rfl, hok h⟩)
    (fun _ _ => Rnd.exact_coeff el) (fun _ m' _ => halfFiniteOn_exact m')

/-! ## non-vacuity: `0 ≤ x₀ ≤ 3`, `x₁ - x₀ ≤ 1`, `x₁ ≥ 0`, the point `(1, 2)` -/

def lhsExT : DBM 2 := DBM.ofLists 2
  [[pinf, fin 3, pinf],
   [fin 0, pinf, fin 1],
   [fin 0, pinf, pinf]]

def lhsPtT : ℕ → ℚ := fun i => if i = 0 then 1 else 2

theorem lhsPtT_mem : lhsPtT ∈ DBM.γ lhsExT := by
  have h : ∀ i, i < 2 + 1 → ∀ j, j < 2 + 1 → fin (DBM.val lhsPtT j - DBM.val lhsPtT i) ≤ lhsExT.e i j := by
    decide +kernel
  exact fun i j hi hj => h i (by omega) j (by omega)

/-- `x₀ + x₁` -/
def lhsE01 : ℕ → ℤ := fun i => if i < 2 then 1 else 0
/-- `x₀` -/
def lhsE0 : ℕ → ℤ := fun i => if i = 0 then 1 else 0
/-- `2·x₁` -/
def lhsE1x2 : ℕ → ℤ := fun i => if i = 1 then 2 else 0

theorem lhsE01_t : lhsT lhsE01 2 = 2 := by decide +kernel
theorem lhsE1x2_t : lhsT lhsE1x2 2 = 1 := by decide +kernel

-- the `Constraint` object `-2·x₀ - 2·x₁ == 4·x₀ + 2`: `-6·x₀ - 2·x₁ - 2 = 0` is divided by the gcd and
-- sign-normalised to `3·x₀ + x₁ + 1 = 0`
example : (let c := lhsRelConstraint .eq 2 (fun i => if i < 2 then -2 else 0) 0 1 (fun i => if i = 0 then 4 else 0) 2
    (c.1, c.2.1 0, c.2.1 1, c.2.2.1, c.2.2.2)) = (2, 3, 1, 1, CKind.eq) := by decide +kernel

-- image, `lhs` general sharing `x₀` with `rhs` (`#if 1`: forget only): `x₀' + x₁' ≤ x₀ + 2` from `(1, 2)` to `(0, 1)`
example : ∃ m', bdsLhsGenAffineImage Rnd.ceil false .le lhsE01 0 lhsE0 2 lhsExT = some m' ∧
    (fun i => if i = 0 then (0 : ℚ) else 1) ∈ γB 2 m' :=
  bds_generalized_affine_image_lhs_sound_special _ Rnd.ceil_sound lhsExT false .le lhsE01 0 lhsE0 2
    (by rw [lhsE01_t]; decide) lhsPtT lhsPtT_mem _
    (by intro i hi h; interval_cases i <;> simp [lhsE01] at h)
    (by simp [RelSym.holds, linEval, lhsE01, lhsE0, lhsPtT])

-- image, `lhs == 2·x₁ - 1` (delegate with denominator 2): `2·x₁' - 1 ≥ x₀ + 1` from `(1, 2)` to `(1, 5)`
example : ∃ m', bdsLhsGenAffineImage Rnd.ceil false .ge lhsE1x2 (-1) lhsE0 1 lhsExT = some m' ∧
    (fun i => if i = 0 then (1 : ℚ) else 5) ∈ γB 2 m' :=
  bds_generalized_affine_image_lhs_sound_mpz lhsExT false .ge lhsE1x2 (-1) lhsE0 1 lhsPtT lhsPtT_mem _
    (by intro i hi h; interval_cases i <;> simp [lhsE1x2, lhsPtT] at h ⊢)
    (by simp [RelSym.holds, linEval, lhsE1x2, lhsE0, lhsPtT]; norm_num)

-- the delegate over the integers: `2·x₁' ≤ x₀ + 2` with `x₀ ≤ 3` gives `x₁' ≤ ⌈5/2⌉ = 3`
example : ((bdsLhsGenAffineImage Rnd.ceil false .le lhsE1x2 0 lhsE0 2 lhsExT).map fun m => m 0 2) = some (fin 3) := by
  decide +kernel

-- preimage through the additional dimension: `x₀' + x₁' ≤ x₀ + 2` with `x' = (1, 2)` in the shape: `x = (1, 7)`
example : ∃ m', bdsLhsGenAffinePreimage Rnd.ceil false .le lhsE01 0 lhsE0 2 lhsExT = some m' ∧
    (fun i => if i = 0 then (1 : ℚ) else 7) ∈ γB 2 m' :=
  bds_generalized_affine_preimage_lhs_sound_mpz lhsExT false .le lhsE01 0 lhsE0 2
    (by intro i hi; simp [lhsE01]; omega) (by intro i hi; simp [lhsE0]; omega) _ lhsPtT lhsPtT_mem
    (by intro i hi h; interval_cases i <;> simp [lhsE01] at h)
    (by simp [RelSym.holds, linEval, lhsE01, lhsE0, lhsPtT])

-- the result of that preimage: `x₀ ≥ -2` (the minimum of `x₀' + x₁'` on the shape is `0`), nothing else
example : ((bdsLhsGenAffinePreimage Rnd.exact false .le lhsE01 0 lhsE0 2 lhsExT).map fun m => (m 1 0, m 0 1)) =
    some (fin 2, pinf) := by decide +kernel

-- `refine(x₁, ≥, x₀ - 1, 1)` keeps `(1, 2)`
example : lhsPtT ∈ γB 2 (bdsRefineVar Rnd.ceil 2 1 .ge lhsE0 (-1) 1 lhsExT.e) :=
  bds_refine_var_sound_partial _ Rnd.ceil_sound lhsExT.e 1 (by norm_num) .ge lhsE0 (-1) 1 (by norm_num)
    (by simp [lhsE0]) (Rnd.ceil_coeff _) lhsPtT (by rw [← DBM.γ_eq]; exact lhsPtT_mem)
    (by simp [RelSym.holds, linEval, lhsE0, lhsPtT])

/-! ### octagon: `x₀ + x₁ ≤ 3`, `x₀ - x₁ ≤ 0`, the point `(3/2, 3/2)` -/

def lhsExOc : OctM 2 := OctM.ofLists 2
  [[pinf, pinf],
   [pinf, pinf],
   [fin 0, pinf, pinf, pinf],
   [fin 3, pinf, pinf, pinf]]

def lhsPtOc : ℕ → ℚ := fun _ => 3/2

theorem lhsPtOc_mem : lhsPtOc ∈ OctM.γ lhsExOc := by
  have h : ∀ i, i < 2 * 2 → ∀ j, j < rowSize i →
      fin (OctM.oval lhsPtOc j - OctM.oval lhsPtOc i) ≤ lhsExOc.e i j := by decide +kernel
  exact fun i j hi hj => h i hi j hj

example : ∃ m', octLhsGenAffineImage Rnd.ceil false .le lhsE01 0 lhsE0 2 lhsExOc = some m' ∧
    (fun i => if i = 0 then (0 : ℚ) else 1) ∈ γO 2 m' :=
  oct_generalized_affine_image_lhs_sound_special _ Rnd.ceil_sound lhsExOc false .le lhsE01 0 lhsE0 2
    (by rw [lhsE01_t]; decide) lhsPtOc lhsPtOc_mem _
    (by intro i hi h; interval_cases i <;> simp [lhsE01] at h)
    (by simp [RelSym.holds, linEval, lhsE01, lhsE0, lhsPtOc]; norm_num)

-- the delegate: `2·x₁' - 1 ≥ x₀ + 1` from `(3/2, 3/2)` to `(3/2, 5)`
example : ∃ m', octLhsGenAffineImage Rnd.ceil false .ge lhsE1x2 (-1) lhsE0 1 lhsExOc = some m' ∧
    (fun i => if i = 0 then (3/2 : ℚ) else 5) ∈ γO 2 m' :=
  oct_generalized_affine_image_lhs_sound_mpz lhsExOc false .ge lhsE1x2 (-1) lhsE0 1 lhsPtOc lhsPtOc_mem _
    (by intro i hi h; interval_cases i <;> simp [lhsE1x2, lhsPtOc] at h ⊢)
    (by simp [RelSym.holds, linEval, lhsE1x2, lhsE0, lhsPtOc]; norm_num)

-- preimage through the additional dimension: `x₀' + x₁' ≤ x₀ + 2` with `x' = (3/2, 3/2)`: `x = (1, 7)`
example : ∃ m', octLhsGenAffinePreimage Rnd.ceil false .le lhsE01 0 lhsE0 2 lhsExOc = some m' ∧
    (fun i => if i = 0 then (1 : ℚ) else 7) ∈ γO 2 m' :=
  oct_generalized_affine_preimage_lhs_sound_mpz_partial lhsExOc false .le lhsE01 0 lhsE0 2
    (by intro i hi; simp [lhsE01]; omega) (by intro i hi; simp [lhsE0]; omega)
    (by intro h; rw [lhsE01_t] at h; exact absurd h (by decide)) _ lhsPtOc lhsPtOc_mem
    (by intro i hi h; interval_cases i <;> simp [lhsE01] at h)
    (by simp [RelSym.holds, linEval, lhsE01, lhsE0, lhsPtOc]; norm_num)

-- the delegate of the preimage: `2·x₁' ≤ x₀ + 2` with `x' = (3/2, 3/2)`: `x = (3/2, -4)`; `relsym' = ≤`
example : ∃ m', octLhsGenAffinePreimage Rnd.ceil false .le lhsE1x2 0 lhsE0 2 lhsExOc = some m' ∧
    (fun i => if i = 0 then (3/2 : ℚ) else -4) ∈ γO 2 m' :=
  oct_generalized_affine_preimage_lhs_sound_mpz_partial lhsExOc false .le lhsE1x2 0 lhsE0 2
    (by intro i hi; simp [lhsE1x2]; omega) (by intro i hi; simp [lhsE0]; omega)
    (by intro _; left; decide +kernel) _ lhsPtOc lhsPtOc_mem
    (by intro i hi h; interval_cases i <;> simp [lhsE1x2, lhsPtOc] at h ⊢)
    (by simp [RelSym.holds, linEval, lhsE1x2, lhsE0, lhsPtOc]; norm_num)

end C03

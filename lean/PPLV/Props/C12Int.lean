import PPLV.Props.C12
import PPLV.Interval.ProofsIntBoundaryDiv
import PPLV.Interval.ProofsIntAdjustSpec
import PPLV.Interval.ProofsIntClosed
/-!
# C12 — interval arithmetic over native bounded integers encloses every concrete result

`Interval<int8_t … uint64_t, Native_Integer_Box_Interval_Info>` (`Int8_Box … Uint64_Box` of
`/repo/interfaces/interfaced_boxes.hh`): a boundary is a native integer; a boundary computation is a
checked operation of `checked_int_inlines.hh` (destination policy `Check_Overflow_Policy<T>`) with the
rounding direction of the side, followed by `Boundary_NS::adjust_boundary`, which maps the returned
`Result` code to the OPEN bit and — when the checked layer reported an overflow towards the infinity of the
side without storing anything (`V_GT_MINUS_INFINITY | V_UNREPRESENTABLE`, `V_LT_PLUS_INFINITY |
V_UNREPRESENTABLE`) — to the SPECIAL bit (the side becomes unbounded).

* `PPLV/Interval/IntModel.lean`: `adjustBoundary` (code-shaped `adjust_boundary`, both halves, case by
  case), the native boundary functions `nbAssign … nbDivZ` = *the C11 model's operation* (`PPLV.Checked`,
  property C11) + `adjustBoundary`, and the rounding instance `Rounding.native ty` = C11 conversion of the
  exact rational with the direction of the side + `adjustBoundary`.
* here: the instance satisfies the soundness hypothesis `Rounding.Sound` of every C12 theorem
  (`int_rounding_sound`), hence all enclosure theorems of `Props/C12.lean` hold for native-integer
  intervals (`int_*_encloses`, emptiness); `adjust_boundary_spec` (soundness of `adjust_boundary` for the
  meaning of every result code the checked layer returns, quantified over the C11 model's outputs);
  `int_boundary_refines` (the C12 model under `Rounding.native ty` computes, at every boundary, exactly
  what C11 arithmetic + `adjust_boundary` compute); `int_native_closed` (native intervals are closed under
  the operations, so the correspondence holds along chains).

All for every width and signedness (`ty.bits` is a variable) and every interval policy that stores
SPECIAL (the only kind the library instantiates for a native integer boundary).  `mul_assign` is the
code with the chosen candidate's bits copied (`d3 = false`: /repo since 10f5984).
-/
namespace C12
open PPLV.Interval PPLV.Interval.Native
open PPLV.Interval.ExtRat (ninf fin pinf)
open PPLV.Checked (IntTy Result Dir OKQ)

/-! ## the rounding instance -/

/-- **`Rounding.native ty`** — the conversion `assign_r(T&, mpq_class, dir)` of the verified
checked-integer model with the direction of the side, followed by `adjust_boundary` — **satisfies the
soundness hypothesis of the C12 theorems**, for every width and signedness. -/
theorem int_rounding_sound (ty : IntTy) (hb : 1 ≤ ty.bits) : Rounding.Sound (Rounding.native ty) :=
  native_sound hb

example : Rounding.Sound (Rounding.native (tyOfBits 8 true)) := int_rounding_sound _ (by decide)
example : Rounding.Sound (Rounding.native (tyOfBits 64 false)) := int_rounding_sound _ (by decide)

/-- explicitly: floor saturated at the maximum and `−∞` below the minimum; ceiling saturated at the
minimum and `+∞` above the maximum -/
theorem int_rounding_is_floor_ceil (ty : IntTy) (hb : 1 ≤ ty.bits) (q : Rat) :
    (Rounding.native ty).down q =
      (if q.floor < ty.cmin then ninf else if ty.cmax < q.floor then fin (ty.cmax : Rat) else fin (q.floor : Rat)) ∧
    (Rounding.native ty).up q =
      (if ty.cmax < q.ceil then pinf else if q.ceil < ty.cmin then fin (ty.cmin : Rat) else fin (q.ceil : Rat)) :=
  ⟨native_down hb q, native_up hb q⟩

example : (Rounding.native (tyOfBits 8 true)).down (-257 / 2) = ninf ∧ (Rounding.native (tyOfBits 8 true)).up (-257 / 2) = fin (-128)
    ∧ (Rounding.native (tyOfBits 8 true)).down 200 = fin 127 ∧ (Rounding.native (tyOfBits 8 true)).up 200 = pinf
    ∧ (Rounding.native (tyOfBits 8 false)).down (7 / 2) = fin 3 ∧ (Rounding.native (tyOfBits 8 false)).up (7 / 2) = fin 4 := by
  decide +kernel

/-- while nothing overflows, a native integer boundary is rounded exactly like an `mpz_class` boundary
(`Rounding.int`, the instance of `Z_Box`): precision is lost only through saturation / unboundedness -/
theorem int_rounding_eq_mpz_in_range (ty : IntTy) (hb : 1 ≤ ty.bits) (q : Rat)
    (h1 : ty.cmin ≤ q.floor) (h2 : q.floor ≤ ty.cmax) (h3 : ty.cmin ≤ q.ceil) (h4 : q.ceil ≤ ty.cmax) :
    (Rounding.native ty).down q = Rounding.int.down q ∧ (Rounding.native ty).up q = Rounding.int.up q := by
  rw [native_down hb, native_up hb]
  unfold downSpec upSpec Rounding.int
  have a : ¬ q.floor < ty.cmin := by omega
  have b : ¬ ty.cmax < q.floor := by omega
  have c : ¬ ty.cmax < q.ceil := by omega
  have d : ¬ q.ceil < ty.cmin := by omega
  simp [a, b, c, d]

/-! ## `adjust_boundary` -/

/-- **`adjust_boundary` is sound for every result code of the checked layer.**  Let `(stored, code)` be
ANY outcome of a checked operation with the direction of side `t` for which the clauses of property C11
hold w.r.t. the exact value `e` (`OKQ`: `C11.op_holds_partial` proves them of every operation of the checked
model but `sqrt`), and let `adjust_boundary` take one of its case labels.  Then the boundary it sets
(1) accepts every number that the exact bound `(e, open)` accepts — lower: stored ≤ e, upper: stored ≥ e,
    with the strictness the OPEN bit claims;
(2) is unbounded (SPECIAL) exactly when the code is of an infinity class (an overflow towards the
    infinity of the side);
(3) carries OPEN only if the caller asked for it, or the side is unbounded, or the stored value is
    strictly on the safe side of the exact value. -/
theorem adjust_boundary_spec (ty : IntTy) (p : Policy) (hp : p.storeSpecial = true) (t : BT) (opn : Bool)
    (out : Int × Result) (e : Rat) (hq : OKQ ty cop (dirOf t) out (.fin e)) (nb : NB) (r' : Result)
    (h : adjustBoundary p t { raw := out.1 } opn out.2 = some (nb, r')) :
    (∀ a, sideOkV t (fin e) opn a → sideOk p t (nb.toBound t) a) ∧
    (nb.special = true ↔ out.2.cls ≠ .normal) ∧
    (nb.open = true → opn = true ∨ nb.special = true ∨
      (match t with | .lower => (nb.raw : Rat) < e | .upper => e < (nb.raw : Rat))) := by
  obtain ⟨h1, h2, h3⟩ := adjustBoundary_spec p hp t opn out e hq nb r' h
  refine ⟨h1, h2, fun ho => (h3 ho).imp_right (Or.imp_right fun hs => ?_)⟩
  cases t <;> simpa [sideOkV] using hs

/-- non-vacuity of the hypothesis: the outcome of `-100 + -100` on `int8_t`, rounding down, satisfies the C11
clauses w.r.t. the exact value −200 (by the C11 lemmas `add_tri`, `tri_ok`) … -/
example : OKQ (tyOfBits 8 true) cop (dirOf .lower)
    (PPLV.Checked.add (tyOfBits 8 true) cop 85 (-100) (-100) .down) (.fin (((-100 + -100 : Int)) : Rat)) :=
  PPLV.Checked.ok_toQ (e := .fin (-100 + -100))
    (PPLV.Checked.tri_ok (wf_cop (by decide)) (show _ ∧ _ by decide)
      (PPLV.Checked.add_tri (wf_cop (by decide)) (tyOK_of 8 true (by decide)).larger rfl .down (show _ ∧ _ by decide)
        (finite_cop.mpr (by decide)) (show _ ∧ _ by decide)))

/-- … and LOWER: `-100 + -100` on `int8_t` rounding down returns `V_GT_MINUS_INFINITY |
V_UNREPRESENTABLE` with the destination untouched; `adjust_boundary` makes the bound SPECIAL -/
example : chk (tyOfBits 8 true) .add .lower 85 (-100) (-100) = (85, PPLV.Checked.Result.V_GT_MINUS_INFINITY.orUnrep) ∧
    adjustBoundary Policy.integer .lower { raw := 85 } false PPLV.Checked.Result.V_GT_MINUS_INFINITY.orUnrep
      = some ({ raw := 85, special := true }, PPLV.Checked.Result.V_EQ) := by decide
/-- … and `100 + 100` rounding down saturates: stored 127 with `V_GT | V_OVERFLOW`, the bound stays finite -/
example : chk (tyOfBits 8 true) .add .lower 85 100 100 = (127, PPLV.Checked.Result.V_GT_SUP) ∧
    adjustBoundary Policy.integer .lower { raw := 127 } false PPLV.Checked.Result.V_GT_SUP
      = some ({ raw := 127 }, PPLV.Checked.Result.V_GT) := by decide
/-- the `default: PPL_UNREACHABLE` label: an UPPER-side code on the LOWER side -/
example : adjustBoundary Policy.integer .lower { raw := 0 } false PPLV.Checked.Result.V_LT_PLUS_INFINITY = none := by decide

/-! ## the C12 model under `Rounding.native` is C11 arithmetic + `adjust_boundary` -/

/-- **Every boundary function of the C12 model, instantiated with `Rounding.native ty`, computes exactly
what the checked operation of the C11 model followed by `adjust_boundary` computes** (`nbF`), on
boundaries of the type: value, SPECIAL (as the infinity of the side) and OPEN bit; in particular
`adjust_boundary` never reaches its `default:` label after `assign_r`, `neg_assign_r`, `add_assign_r`,
`sub_assign_r`, `mul_assign_r`, `div_assign_r` (all divisors ≠ 0, `min / -1` included). -/
theorem int_boundary_refines {ty : IntTy} {p : Policy} (ok : TyOK ty) (hp : p.storeSpecial = true)
    (tt t1 t2 : BT) {x1 x2 : NB} (h1 : x1.WF ty) (h2 : x2.WF ty) (s : Bool) (s1 s2 : Int) {to0 : Int}
    (h0 : ty.inRange to0) :
    let R := Rounding.native ty
    (nbAssign ty p tt t1 x1 s to0).map (NB.toBound tt) = some (bAssign p R tt p t1 (x1.toBound t1) s) ∧
    (nbNeg ty p tt t1 x1 to0).map (NB.toBound tt) = some (bNeg p R tt p t1 (x1.toBound t1)) ∧
    (nbAdd ty p tt t1 x1 t2 x2 to0).map (NB.toBound tt) = some (bAdd p R tt p t1 (x1.toBound t1) p t2 (x2.toBound t2)) ∧
    (nbSub ty p tt t1 x1 t2 x2 to0).map (NB.toBound tt) = some (bSub p R tt p t1 (x1.toBound t1) p t2 (x2.toBound t2)) ∧
    (nbMul ty p tt t1 x1 t2 x2 to0).map (NB.toBound tt) = some (bMul p R tt p t1 (x1.toBound t1) p t2 (x2.toBound t2)) ∧
    (nbMulZ ty p tt t1 x1 s1 t2 x2 s2 to0).map (NB.toBound tt)
      = some (bMulZ p R tt p t1 (x1.toBound t1) s1 p t2 (x2.toBound t2) s2) ∧
    (nbSetZero ty p tt s to0).map (NB.toBound tt) = some (setZero p R tt s) ∧
    ((x2.special = false → x2.raw ≠ 0) →
      (nbDiv ty p tt t1 x1 t2 x2 to0).map (NB.toBound tt) = some (bDiv p R tt p t1 (x1.toBound t1) p t2 (x2.toBound t2)) ∧
      (nbDivZ ty p tt t1 x1 s1 t2 x2 s2 to0).map (NB.toBound tt)
        = some (bDivZ p R tt p t1 (x1.toBound t1) s1 p t2 (x2.toBound t2) s2)) ∧
    (x1.special = false →
      (nbComplement ty p tt t1 x1 to0).map (NB.toBound tt) = some (bComplement p R tt p t1 (x1.toBound t1))) :=
  ⟨nbAssign_refines ok hp tt t1 h1 s h0, nbNeg_refines ok hp tt t1 h1 h0, nbAdd_refines ok hp tt t1 t2 h1 h2 h0,
   nbSub_refines ok hp tt t1 t2 h1 h2 h0, nbMul_refines ok hp tt t1 t2 h1 h2 h0,
   nbMulZ_refines ok hp tt t1 t2 h1 h2 s1 s2 h0, nbSetZero_refines ok hp tt s,
   fun hnz => ⟨nbDiv_refines ok hp tt t1 t2 h1 h2 hnz h0, nbDivZ_refines ok hp tt t1 t2 h1 h2 s1 s2 (fun _ => hnz) h0⟩,
   fun hsp => nbComplement_refines ok hp tt t1 h1 hsp h0⟩

/-- the native types of the library satisfy the standing assumption -/
theorem int_types_ok (bits : Nat) (signed : Bool) (h : 1 ≤ bits) : TyOK (tyOfBits bits signed) := tyOK_of bits signed h

example : TyOK (tyOfBits 8 true) ∧ TyOK (tyOfBits 64 false) ∧ (⟨-128, false, false⟩ : NB).WF (tyOfBits 8 true) :=
  ⟨int_types_ok 8 true (by decide), int_types_ok 64 false (by decide), show _ ∧ _ by decide⟩
example : nbDiv (tyOfBits 8 true) Policy.integer .lower .lower { raw := -128 } .upper { raw := -1 }
    = some { raw := 127 } := by decide
example : nbMul (tyOfBits 8 true) Policy.integer .upper .lower { raw := -128 } .lower { raw := -1 }
    = some { raw := 0, special := true } := by decide

/-- a native bound of the model comes from a native boundary: with `NB.ofBound`, the correspondence above
speaks about every bound that occurs in a computation on native intervals -/
theorem int_bound_is_native (ty : IntTy) (t : BT) (b : Bound) (h : NatB ty t b) :
    (NB.ofBound b).toBound t = b ∧ (NB.ofBound b).WF ty := ofBound_toBound h

/-- **native intervals are closed** under `assign`, `neg_assign`, `add_assign`, `sub_assign`, `mul_assign`,
`div_assign`, `join_assign`, `intersect_assign` of the model with `Rounding.native ty` -/
theorem int_native_closed {ty : IntTy} {p : Policy} (c : NatCfg ty p) (I J : Iv) (hI : NatIv ty I) (hJ : NatIv ty J) :
    let R := Rounding.native ty
    NatIv ty (assign p R p I) ∧ NatIv ty (negAssign p R I) ∧ NatIv ty (addAssign p R I J) ∧ NatIv ty (subAssign p R I J)
      ∧ NatIv ty (mulAssign false p R I J) ∧ NatIv ty (divAssign p R I J) ∧ NatIv ty (joinAssign p R I J)
      ∧ NatIv ty (intersectAssign p R I J) :=
  ⟨assign_native c hI, negAssign_native c hI, addAssign_native c hI hJ, subAssign_native c hI hJ,
   mulAssign_native c hI hJ, divAssign_native c hI hJ, joinAssign_native c hI hJ, intersectAssign_native c hI hJ⟩

example : NatCfg (tyOfBits 8 true) Policy.integer := ⟨by decide, by decide, rfl, rfl⟩

/-- **interval level**: `Interval::add_assign` / `sub_assign` / `neg_assign` of the model on non-empty native
intervals are, bound by bound, the checked operation of the C11 model on the stored integers followed by
`adjust_boundary` (the product and the quotient go through the sign tables of `Interval::mul_assign` /
`div_assign`, whose every entry is `mul_assign_z` / `div_assign_z`: `int_boundary_refines`). -/
theorem int_add_sub_neg_are_checked_arith {ty : IntTy} {p : Policy} (ok : TyOK ty) (c : NatCfg ty p) (I J : Iv)
    (hI : NatIv ty I) (hJ : NatIv ty J) (hIe : checkEmptyArg p I = false) (hJe : checkEmptyArg p J = false) :
    let R := Rounding.native ty
    (∃ l u, nbAdd ty p .lower .lower (NB.ofBound I.lo) .lower (NB.ofBound J.lo) = some l ∧
            nbAdd ty p .upper .upper (NB.ofBound I.hi) .upper (NB.ofBound J.hi) = some u ∧
            addAssign p R I J = ⟨l.toBound .lower, u.toBound .upper⟩) ∧
    (∃ l u, nbSub ty p .lower .lower (NB.ofBound I.lo) .upper (NB.ofBound J.hi) = some l ∧
            nbSub ty p .upper .upper (NB.ofBound I.hi) .lower (NB.ofBound J.lo) = some u ∧
            subAssign p R I J = ⟨l.toBound .lower, u.toBound .upper⟩) ∧
    (∃ l u, nbNeg ty p .lower .upper (NB.ofBound I.hi) = some l ∧ nbNeg ty p .upper .lower (NB.ofBound I.lo) = some u ∧
            negAssign p R I = ⟨l.toBound .lower, u.toBound .upper⟩) := by
  intro R
  obtain ⟨eIl, wIl⟩ := ofBound_toBound hI.1
  obtain ⟨eIu, wIu⟩ := ofBound_toBound hI.2
  obtain ⟨eJl, wJl⟩ := ofBound_toBound hJ.1
  obtain ⟨eJu, wJu⟩ := ofBound_toBound hJ.2
  have h0 : ty.inRange 0 := cmin_le_zero_le_cmax c.bits
  have hp := c.special
  refine ⟨?_, ?_, ?_⟩
  · have a := nbAdd_refines ok hp .lower .lower .lower wIl wJl h0
    have b := nbAdd_refines ok hp .upper .upper .upper wIu wJu h0
    rw [eIl, eJl] at a; rw [eIu, eJu] at b
    obtain ⟨l, hl, el⟩ := Option.map_eq_some_iff.mp a
    obtain ⟨u, hu, eu⟩ := Option.map_eq_some_iff.mp b
    refine ⟨l, u, hl, hu, ?_⟩
    simp [addAssign, hIe, hJe, infinitySign_zero c.noInf, el, eu, R]
  · have a := nbSub_refines ok hp .lower .lower .upper wIl wJu h0
    have b := nbSub_refines ok hp .upper .upper .lower wIu wJl h0
    rw [eIl, eJu] at a; rw [eIu, eJl] at b
    obtain ⟨l, hl, el⟩ := Option.map_eq_some_iff.mp a
    obtain ⟨u, hu, eu⟩ := Option.map_eq_some_iff.mp b
    refine ⟨l, u, hl, hu, ?_⟩
    simp [subAssign, hIe, hJe, infinitySign_zero c.noInf, el, eu, R]
  · have a := nbNeg_refines ok hp .lower .upper wIu h0
    have b := nbNeg_refines ok hp .upper .lower wIl h0
    rw [eIu] at a; rw [eIl] at b
    obtain ⟨l, hl, el⟩ := Option.map_eq_some_iff.mp a
    obtain ⟨u, hu, eu⟩ := Option.map_eq_some_iff.mp b
    refine ⟨l, u, hl, hu, ?_⟩
    simp [negAssign, hIe, el, eu, R]

/-! ## enclosure: every theorem of `Props/C12.lean` with `R := Rounding.native ty` -/

/-- negation, sum, difference, product, quotient of native-integer intervals enclose the exact result of
every pair of (rational) members -/
theorem int_op_encloses (ty : IntTy) (hb : 1 ≤ ty.bits) (pol : Policy) (op : IvOp) (I J : Iv) (a b : Rat)
    (ha : I.mem pol a) (hb' : J.mem pol b) (hd : defined op a b) :
    (IvOp.run false pol (Rounding.native ty) op I J).mem pol (op.exact a b) :=
  op_encloses pol _ (int_rounding_sound ty hb) op I J a b ha hb' hd

theorem int_neg_encloses (ty : IntTy) (hb : 1 ≤ ty.bits) (pol : Policy) (I : Iv) (a : Rat) (ha : I.mem pol a) :
    (negAssign pol (Rounding.native ty) I).mem pol (-a) :=
  int_op_encloses ty hb pol .neg I I a a ha ha trivial

theorem int_add_encloses (ty : IntTy) (hb : 1 ≤ ty.bits) (pol : Policy) (I J : Iv) (a b : Rat)
    (ha : I.mem pol a) (hb' : J.mem pol b) : (addAssign pol (Rounding.native ty) I J).mem pol (a + b) :=
  int_op_encloses ty hb pol .add I J a b ha hb' trivial

theorem int_sub_encloses (ty : IntTy) (hb : 1 ≤ ty.bits) (pol : Policy) (I J : Iv) (a b : Rat)
    (ha : I.mem pol a) (hb' : J.mem pol b) : (subAssign pol (Rounding.native ty) I J).mem pol (a - b) :=
  int_op_encloses ty hb pol .sub I J a b ha hb' trivial

theorem int_mul_encloses (ty : IntTy) (hb : 1 ≤ ty.bits) (pol : Policy) (I J : Iv) (a b : Rat)
    (ha : I.mem pol a) (hb' : J.mem pol b) : (mulAssign false pol (Rounding.native ty) I J).mem pol (a * b) :=
  int_op_encloses ty hb pol .mul I J a b ha hb' trivial

theorem int_div_encloses (ty : IntTy) (hb : 1 ≤ ty.bits) (pol : Policy) (I J : Iv) (a b : Rat)
    (ha : I.mem pol a) (hb' : J.mem pol b) (h0 : b ≠ 0) : (divAssign pol (Rounding.native ty) I J).mem pol (a / b) :=
  int_op_encloses ty hb pol .div I J a b ha hb' h0

theorem int_assign_encloses (ty : IntTy) (hb : 1 ≤ ty.bits) (pol : Policy) (I : Iv) (a : Rat) (h : I.mem pol a) :
    (assign pol (Rounding.native ty) pol I).mem pol a :=
  assign_copy_encloses pol _ (int_rounding_sound ty hb) I a h

theorem int_join_encloses (ty : IntTy) (hb : 1 ≤ ty.bits) (pol : Policy) (I J : Iv) (a : Rat)
    (h : I.mem pol a ∨ J.mem pol a) : (joinAssign pol (Rounding.native ty) I J).mem pol a :=
  join_encloses pol _ (int_rounding_sound ty hb) I J a h

theorem int_intersect_encloses (ty : IntTy) (hb : 1 ≤ ty.bits) (pol : Policy) (I J : Iv) (a : Rat)
    (hI : I.mem pol a) (hJ : J.mem pol a) : (intersectAssign pol (Rounding.native ty) I J).mem pol a :=
  intersect_encloses pol _ (int_rounding_sound ty hb) I J a hI hJ

theorem int_difference_encloses (ty : IntTy) (hb : 1 ≤ ty.bits) (pol : Policy) (I J : Iv) (a : Rat)
    (hI : I.mem pol a) (hJ : ¬ J.mem pol a) : (differenceAssign pol (Rounding.native ty) I J).mem pol a :=
  difference_encloses pol _ (int_rounding_sound ty hb) I J a hI hJ

theorem int_refine_existential_encloses (ty : IntTy) (hb : 1 ≤ ty.bits) (pol : Policy) (I J : Iv) (rel : Rel)
    (a b : Rat) (ha : I.mem pol a) (hb' : J.mem pol b) (hrel : rel.holds a b) :
    (refineExistential pol (Rounding.native ty) I rel J).mem pol a :=
  refine_existential_encloses pol _ (int_rounding_sound ty hb) I J rel a b ha hb' hrel

/-- emptiness: an empty operand gives the empty result, non-empty operands a non-empty one, and
`is_empty()` is decided by the bounds alone (`C12.is_empty_iff` does not depend on the rounding) -/
theorem int_op_empty (ty : IntTy) (pol : Policy) (op : IvOp) (I J : Iv) (hpe : pol.mayBeEmpty = true)
    (hI : I.lo.value ≠ pinf ∧ I.hi.value ≠ ninf) (hJ : J.lo.value ≠ pinf ∧ J.hi.value ≠ ninf)
    (h : (∀ a, ¬ I.mem pol a) ∨ (op ≠ .neg ∧ ∀ b, ¬ J.mem pol b)) :
    ∀ c, ¬ (IvOp.run false pol (Rounding.native ty) op I J).mem pol c :=
  op_empty pol _ false op I J hpe hI hJ h

theorem int_op_nonempty (ty : IntTy) (hb : 1 ≤ ty.bits) (pol : Policy) (op : IvOp) (I J : Iv) (a b : Rat)
    (ha : I.mem pol a) (hb' : J.mem pol b) (hd : defined op a b) :
    isEmpty pol (IvOp.run false pol (Rounding.native ty) op I J) = false :=
  op_nonempty pol _ (int_rounding_sound ty hb) op I J a b ha hb' hd

/-! ## non-vacuity on `int8_t` / `uint8_t` with the policy of `interfaced_boxes.hh` -/

/-- `[100,100] + [100,100]` on `int8_t`: the lower bound saturates at 127, the upper bound overflows to `+∞` -/
example : addAssign Policy.integer (Rounding.native (tyOfBits 8 true)) (Iv.closed 100 100) (Iv.closed 100 100)
    = ⟨⟨fin 127, false⟩, ⟨pinf, false⟩⟩ := by decide +kernel

example : (addAssign Policy.integer (Rounding.native (tyOfBits 8 true)) (Iv.closed 100 100) (Iv.closed 100 100)).mem
    Policy.integer (100 + 100) :=
  int_add_encloses (tyOfBits 8 true) (by decide) Policy.integer (Iv.closed 100 100) (Iv.closed 100 100) 100 100
    (by simp [Iv.mem, Iv.closed, lowerOk, upperOk, getOpen, Policy.integer])
    (by simp [Iv.mem, Iv.closed, lowerOk, upperOk, getOpen, Policy.integer])

/-- `[-100,-3] * [2,2]` on `int8_t` is `(-∞, -6]`: the lower bound overflows below the minimum of the type (the
case that seeded change S-C03-3 breaks) -/
example : mulAssign false Policy.integer (Rounding.native (tyOfBits 8 true)) (Iv.closed (-100) (-3)) (Iv.closed 2 2)
    = ⟨⟨ninf, false⟩, ⟨fin (-6), false⟩⟩ := by decide +kernel

/-- `[3,3] - [5,5]` on `uint8_t` is `(-∞, 0]`; `[7,7] / [2,2]` is `[3,4]`; `[-128,-128] / [-1,-1]` on `int8_t`
is `[127, +∞)` -/
example : subAssign Policy.integer (Rounding.native (tyOfBits 8 false)) (Iv.closed 3 3) (Iv.closed 5 5)
    = ⟨⟨ninf, false⟩, ⟨fin 0, false⟩⟩ := by decide +kernel
example : divAssign Policy.integer (Rounding.native (tyOfBits 8 false)) (Iv.closed 7 7) (Iv.closed 2 2)
    = ⟨⟨fin 3, false⟩, ⟨fin 4, false⟩⟩ := by decide +kernel
example : divAssign Policy.integer (Rounding.native (tyOfBits 8 true)) (Iv.closed (-128) (-128)) (Iv.closed (-1) (-1))
    = ⟨⟨fin 127, false⟩, ⟨pinf, false⟩⟩ := by decide +kernel

end C12

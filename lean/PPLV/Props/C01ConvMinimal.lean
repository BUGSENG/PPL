import PPLV.Conv.ProofsCompleteGauss4
import PPLV.Conv.ProofsCompleteMinimal4
import PPLV.Conv.ProofsCompleteMinimalGen
import PPLV.Props.C01ConvComplete
/-!
# `simplify` and `minimize` at full strength; the result is in minimal form

The `_partial` statements of `C01ConvComplete.lean` assume two facts about the echelon form of
`Linear_System::gauss` (`hrank`, `hpiv`).  Both follow from the model of `gauss` / `back_substitute`
(`PPLV/Conv/ProofsCompleteGauss1-4.lean`):

* `gauss` leaves an echelon form (`Ech`: strictly decreasing pivot columns; a pivot row is zero to the
  right of its pivot; the rows below a pivot row are zero in its pivot column);
* the rank returned is `< num_columns` under the precondition that really holds at the call site: SOME
  GENERATOR IS NOT THE ZERO ROW (in `minimize`: `hasPoint` found a row with a positive divisor /
  epsilon coefficient, otherwise `simplify` is not called) — the first non-zero column of that generator
  cannot be a pivot column;
* `back_substitute` never meets a zero pivot row (the code's own assertion), unconditionally.

And the system returned is in MINIMAL FORM: no inequality returned by `simplify` is implied by the other
rows returned (`simplify_result_irredundant`; elementary: a kept inequality has, for every other kept
inequality, a generator saturating it and not the other — this is what the independence rule leaves), and
no ray returned by `conversion` is generated by the lines and the other rays (`conversion_rays_irredundant`).
-/
namespace C01
open PPLV.Conv PPLV.Conv.Abs

/-- **`simplify_drops_only_redundant`** — GIVEN a double description pair `(rows, gens)` with its exact
saturation matrix and a generator that is not the zero row, every vector (at most `ncols` coordinates)
satisfying the system `simplify` returns satisfies the system it was given: the rows dropped (equality
detection, `gauss`, dependent equalities, saturation rule, independence rule, `back_substitute`) are
redundant. -/
theorem simplify_drops_only_redundant (ncols numColsSat : Nat) (rows : List LRow) (sat : List BRow)
    (gens : List LRow) (hsat : SatCorrect gens rows sat) (hsound : Sound rows gens)
    (hcomp : ∀ x : Vec, x.length ≤ ncols → holdsAll rows x → Generated gens x)
    (hncs : numColsSat = gens.length) (hglen : ∀ g ∈ gens, g.v.length ≤ ncols) (hsz : ncols < 2 ^ 64)
    (hpt : ∃ g ∈ gens, ∃ k, g.v.getD k 0 ≠ 0) :
    ∀ x : Vec, x.length ≤ ncols →
      holdsAll ((simplify ncols numColsSat
        (List.zipWith (fun a s => ({ row := a, sat := s } : SRow)) rows sat)).1.map (·.row)) x →
      holdsAll rows x :=
  PPLV.Conv.simplify_drops_only_redundant ncols numColsSat rows sat gens hsat hsound hcomp hncs hglen hsz hpt

/-- `simplify` returns a system with exactly the solutions of the one it was given. -/
theorem simplify_same_set (ncols numColsSat : Nat) (rows : List LRow) (sat : List BRow)
    (gens : List LRow) (hsat : SatCorrect gens rows sat) (hsound : Sound rows gens)
    (hcomp : ∀ x : Vec, x.length ≤ ncols → holdsAll rows x → Generated gens x)
    (hncs : numColsSat = gens.length) (hglen : ∀ g ∈ gens, g.v.length ≤ ncols) (hsz : ncols < 2 ^ 64)
    (hpt : ∃ g ∈ gens, ∃ k, g.v.getD k 0 ≠ 0) :
    ∀ x : Vec, x.length ≤ ncols →
      (holdsAll ((simplify ncols numColsSat (zipSys rows sat)).1.map (·.row)) x ↔ holdsAll rows x) :=
  PPLV.Conv.simplify_same_set ncols numColsSat rows sat gens hsat hsound hcomp hncs hglen hsz hpt

/-- the two facts about `gauss` / `back_substitute` that the `_partial` theorems take as hypotheses. -/
theorem simplify_gauss_facts (ncols numColsSat : Nat) (rows : List LRow) (sat : List BRow) (gens : List LRow)
    (hsat : SatCorrect gens rows sat) (hsound : Sound rows gens) (hglen : ∀ g ∈ gens, g.v.length ≤ ncols)
    (hpt : ∃ g ∈ gens, ∃ k, g.v.getD k 0 ≠ 0) :
    (simplify ncols numColsSat (zipSys rows sat)).2 + 1 ≤ ncols ∧
    BackSubPivots (simpP ncols (zipSys rows sat)).2 (List.range (simpP ncols (zipSys rows sat)).2).reverse
      (simpT ncols numColsSat (zipSys rows sat)) :=
  ⟨simplify_rank_lt ncols numColsSat rows sat gens hsat hsound hglen hpt,
   simplify_backSubPivots ncols numColsSat (zipSys rows sat)⟩

/-- non-vacuity: the square with the redundant `x + y ≤ 3`; its first vertex is not the zero row. -/
example :
    let gens : List LRow := [⟨false, [1, 0, 0]⟩, ⟨false, [1, 1, 0]⟩, ⟨false, [1, 0, 1]⟩, ⟨false, [1, 1, 1]⟩]
    (∃ g ∈ gens, ∃ k, g.v.getD k 0 ≠ 0) ∧ (∀ g ∈ gens, g.v.length ≤ 3) := by
  refine ⟨⟨⟨false, [1, 0, 0]⟩, by simp, 0, by simp⟩, by decide⟩

/-- **`minimize_same_set`** — the whole of `minimize(true, cs, gs, sat)`, no assumption left: when it does
not report "empty", the constraint system it leaves has exactly the solutions (vectors with at most
`ncols` coordinates) of the system it was given. -/
theorem minimize_same_set (nnc : Bool) (ncols : Nat) (source : List LRow) (sat0 : List BRow)
    (hsz : ncols < 2 ^ 64) (hsrc : source.length < 2 ^ 64)
    (hne : (minimize true nnc ncols source sat0).empty = false) :
    ∀ x : Vec, x.length ≤ ncols →
      (holdsAll (minimize true nnc ncols source sat0).source x ↔ holdsAll source x) :=
  minimize_same_set_iff nnc ncols source sat0 hsz hsrc hne

example : (minimize true false 2 [⟨false, [1, 0]⟩, ⟨false, [3, -1]⟩] []).empty = false := by decide

/-! ## minimal form -/

/-- **`simplify_result_irredundant`** — no redundant inequality remains: for every inequality row `i`
of the system `simplify` returns there is a vector (at most `ncols` coordinates) that satisfies every
OTHER row returned and violates row `i`. -/
theorem simplify_result_irredundant (ncols numColsSat : Nat) (rows : List LRow) (sat : List BRow)
    (gens : List LRow) (hsat : SatCorrect gens rows sat) (hsound : Sound rows gens)
    (hncs : numColsSat = gens.length) (hglen : ∀ g ∈ gens, g.v.length ≤ ncols) :
    let F := (simplify ncols numColsSat (zipSys rows sat)).1
    let n := (simplify ncols numColsSat (zipSys rows sat)).2
    ∀ i, n ≤ i → i < F.length → ∃ x : Vec, x.length ≤ ncols ∧
      (∀ m, m < F.length → m ≠ i → holds (F.getD m default).row x) ∧ ¬ holds (F.getD i default).row x :=
  simplify_irredundant ncols numColsSat rows sat gens hsat hsound hglen

/-- non-vacuity: on the square (+ `x + y ≤ 3`) `simplify` returns four inequalities and no equality. -/
example :
    let rows : List LRow := [⟨false, [0, 1, 0]⟩, ⟨false, [1, -1, 0]⟩, ⟨false, [0, 0, 1]⟩, ⟨false, [1, 0, -1]⟩, ⟨false, [3, -1, -1]⟩]
    let sat : List BRow := [[false, true, false, true], [true, false, true, false], [false, false, true, true],
                            [true, true, false, false], [true, true, true, true]]
    (simplify 3 4 (zipSys rows sat)).2 = 0 ∧ (simplify 3 4 (zipSys rows sat)).1.length = 4 := by
  decide

/-- **`conversion_rays_irredundant`** — no redundant ray remains: no ray returned by the conversion of
`minimize` is a combination of the returned lines and the OTHER returned rays. -/
theorem conversion_rays_irredundant (ncols : Nat) (source : List LRow) (hsz : ncols < 2 ^ 64) (hsrc : source.length < 2 ^ 64) :
    let r := conversion ncols source 0 (identityLines ncols) (List.replicate ncols (List.replicate source.length false)) ncols
    ∀ i (hi : i < r.dest.length), r.nle ≤ i →
      ¬ Cone (linesOf r.dest) (raysOf (r.dest.eraseIdx i)) (emb r.dest[i].v) := by
  intro r i hi hge
  obtain ⟨hs, hlf, _, _, _, hD⟩ := conversion_dd_pair ncols source hsz hsrc
  exact hD.ray_irredundant (fun d hd s hs' => hs d hd s (conversion_source_subset _ _ _ _ _ _ s hs')) i hi hge hlf

example : (conversion 3 [⟨false, [0, 1, 0]⟩, ⟨false, [0, 0, 1]⟩, ⟨false, [2, -1, -1]⟩, ⟨false, [1, 0, 0]⟩] 0 (identityLines 3)
    (List.replicate 3 (List.replicate 4 false)) 3).dest.length = 3 := by decide

/-- **`minimize_minimal_form`** — the `mC` / `mG` clauses of the status-protocol contract for
`minimize(true, cs, gs, sat)` when it does not report "empty": the constraint system it leaves has the
solutions of the one given (`minimize_same_set`), none of its inequalities (the rows from `rank` on) is
implied by its other rows, and none of the rays it produced is generated by the lines and the other rays. -/
theorem minimize_minimal_form (nnc : Bool) (ncols : Nat) (source : List LRow) (sat0 : List BRow)
    (hsz : ncols < 2 ^ 64) (hsrc : source.length < 2 ^ 64)
    (hne : (minimize true nnc ncols source sat0).empty = false) :
    let m := minimize true nnc ncols source sat0
    (∀ x : Vec, x.length ≤ ncols → (holdsAll m.source x ↔ holdsAll source x)) ∧
    (∀ i, m.rank ≤ i → i < m.source.length → ∃ x : Vec, x.length ≤ ncols ∧
      (∀ k, k < m.source.length → k ≠ i → holds (m.source.getD k default) x) ∧
      ¬ holds (m.source.getD i default) x) ∧
    (∃ r : ConvResult, r.dest = m.dest ∧ ∀ i (hi : i < r.dest.length), r.nle ≤ i →
      ¬ Cone (linesOf r.dest) (raysOf (r.dest.eraseIdx i)) (emb r.dest[i].v)) := by
  have hsame := minimize_same_set nnc ncols source sat0 hsz hsrc hne
  have hrays := conversion_rays_irredundant ncols source hsz hsrc
  have hp := minimize_hasPoint nnc ncols source sat0 hne
  obtain ⟨hs, _, hsub⟩ := conversion_identity_sound ncols source
  have hsatc := conversion_identity_sat ncols source
  have hglen := conversion_identity_length ncols source
  generalize hr : conversion ncols source 0 (identityLines ncols)
    (List.replicate ncols (List.replicate source.length false)) ncols = r at hrays hp hs hsub hsatc hglen
  have hirr := simplify_irredundant ncols r.dest.length r.source (transpose r.source.length r.sat) r.dest
    (satCorrect_transpose r.source r.dest r.sat hsatc) (fun d hd s hs' => hs d hd s (hsub s hs')) hglen
  generalize hS : simplify ncols r.dest.length (zipSys r.source (transpose r.source.length r.sat)) = S at hirr
  rw [minimize_of_point true nnc ncols source sat0 r S hr hS hp] at hsame ⊢
  refine ⟨hsame, fun i hi1 hi2 => ?_, r, rfl, hrays⟩
  rw [List.length_map] at hi2
  obtain ⟨x, hx, h1, h2⟩ := hirr i hi1 hi2
  refine ⟨x, hx, fun k hk hki => ?_, by rwa [getD_map_row S.1 i hi2]⟩
  rw [List.length_map] at hk
  rw [getD_map_row S.1 k hk]
  exact h1 k hk hki

example : (minimize true false 2 [⟨false, [1, 0]⟩, ⟨false, [3, -1]⟩] []).rank = 0 ∧
    (minimize true false 2 [⟨false, [1, 0]⟩, ⟨false, [3, -1]⟩] []).source.length = 2 := by decide

end C01

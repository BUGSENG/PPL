import PPLV.Lin.OpSpecs
import PPLV.Lin.OpSpecs2
import PPLV.Lin.OpSpecs2b
import PPLV.Lin.OpSpecs3

/-!
# C02 — every operator computes exactly the set its documentation defines

The reference operators of `PPLV/Lin/Ops.lean` (against which `pplv_lin` judges the real library)
are proved to denote the relation that `doc/definitions.dox` uses to define them — for every
constraint system, every dimension and both topologies (strict rows).  Notation: `Sat cs x` /
`x ∈ sem cs` — the valuation `x : ℕ → ℚ` satisfies every row; `WF n cs` — rows mention variables
`< n` only; `e.val x = e.coeffs·x + e.k`; `Rel.holds r a b` — `a ⋈ b`; `GenSem n gs` — the set
`linear.hull(L) + conic.hull(R) + NNC.hull(P, C)` generated by `gs`; `rowAdmits c g` — generator
`g` is compatible with row `c` (a point satisfies it, a closure point its non-strict version, a ray
has non-negative and a line zero scalar product with its coefficients).
-/
namespace C02
open PPLV.Lin

/-- the unit square, used in the non-vacuity examples -/
def sq : RefPoly := ⟨false, 2, [geRow [1,0] 0, geRow [0,1] 0, geRow [-1,0] 1, geRow [0,-1] 1]⟩
/-- the unit segment -/
def seg : RefPoly := ⟨false, 1, [geRow [1] 0, geRow [-1] 1]⟩

/-! ## (A) constraint-side operators -/

/-- `add_constraints`, `refine_with_constraints` -/
theorem add_constraints_spec (p : RefPoly) (rows : List Con) :
    sem (p.addCons rows).cs = sem p.cs ∩ sem rows := sem_append p.cs rows

/-- `intersection_assign` -/
theorem intersection_spec (p q : RefPoly) : sem (p.meet q).cs = sem p.cs ∩ sem q.cs :=
  sem_append p.cs q.cs

example : sem (sq.addCons [gtRow [1,1] (-3)]).cs = sem sq.cs ∩ sem [gtRow [1,1] (-3)] :=
  add_constraints_spec _ _

/-- `affine_image(v, e, d)`: `x'_v = e(x)/d`, the other coordinates unchanged -/
theorem affine_image_spec (p : RefPoly) (v : Nat) (e : LinExpr) (d : Int) (hp : WF p.n p.cs)
    (hv : v < p.n) (he : e.coeffs.length ≤ p.n) (w : Val) :
    Sat (p.affineImage v e d).cs w ↔
      ∃ x, Sat p.cs x ∧ (d : Rat) * w v = e.val x ∧ ∀ j < p.n, j ≠ v → w j = x j :=
  affineImage_spec p v e d hp hv he w

example : (seg.affineImage 0 ⟨[2],1⟩ 1).cs = [geRow [1] (-1), geRow [-1] 3] := by decide +kernel

/-- `affine_preimage(v, e, d)` -/
theorem affine_preimage_spec (p : RefPoly) (v : Nat) (e : LinExpr) (d : Int) (hp : WF p.n p.cs)
    (hv : v < p.n) (he : e.coeffs.length ≤ p.n) (w : Val) :
    Sat (p.affinePreimage v e d).cs w ↔
      ∃ x', Sat p.cs x' ∧ (d : Rat) * x' v = e.val w ∧ ∀ j < p.n, j ≠ v → x' j = w j :=
  affinePreimage_spec p v e d hp hv he w

example : (seg.affinePreimage 0 ⟨[2],1⟩ 1).cs = [geRow [2] 1, geRow [-1] 0] := by decide +kernel

/-- `generalized_affine_image(v, r, e, d)`: `x'_v ⋈ e(x)/d` -/
theorem generalized_affine_image_spec (p : RefPoly) (v : Nat) (r : Rel) (e : LinExpr) (d : Int)
    (hp : WF p.n p.cs) (hv : v < p.n) (he : e.coeffs.length ≤ p.n) (hd : d ≠ 0) (w : Val) :
    Sat (p.genAffineImage v r e d).cs w ↔
      ∃ x, Sat p.cs x ∧ Rel.holds r (w v) (e.val x / (d : Rat)) ∧ ∀ j < p.n, j ≠ v → w j = x j :=
  genAffineImage_spec p v r e d hp hv he hd w

example : (seg.genAffineImage 0 .le ⟨[1],0⟩ (-1)).cs = [geRow [-1] 0] := by decide +kernel

/-- `generalized_affine_preimage(v, r, e, d)` -/
theorem generalized_affine_preimage_spec (p : RefPoly) (v : Nat) (r : Rel) (e : LinExpr) (d : Int)
    (hp : WF p.n p.cs) (hv : v < p.n) (he : e.coeffs.length ≤ p.n) (hd : d ≠ 0) (w : Val) :
    Sat (p.genAffinePreimage v r e d).cs w ↔
      ∃ x', Sat p.cs x' ∧ Rel.holds r (x' v) (e.val w / (d : Rat)) ∧
        ∀ j < p.n, j ≠ v → x' j = w j :=
  genAffinePreimage_spec p v r e d hp hv he hd w

/-- `generalized_affine_image(lhs, r, rhs)`: `lhs(x') ⋈ rhs(x)`, variables not occurring in
    `lhs` unchanged -/
theorem generalized_affine_image2_spec (p : RefPoly) (lhs : LinExpr) (r : Rel) (rhs : LinExpr)
    (hp : WF p.n p.cs) (hl : lhs.coeffs.length ≤ p.n) (hr : rhs.coeffs.length ≤ p.n) (w : Val) :
    Sat (p.genAffineImage2 lhs r rhs).cs w ↔
      ∃ x, Sat p.cs x ∧ Rel.holds r (lhs.val w) (rhs.val x) ∧
        ∀ j < p.n, lhs.coeffs.getD j 0 = 0 → w j = x j :=
  genAffineImage2_spec p lhs r rhs hp hl hr w

/-- `generalized_affine_preimage(lhs, r, rhs)` -/
theorem generalized_affine_preimage2_spec (p : RefPoly) (lhs : LinExpr) (r : Rel) (rhs : LinExpr)
    (hp : WF p.n p.cs) (hl : lhs.coeffs.length ≤ p.n) (hr : rhs.coeffs.length ≤ p.n) (w : Val) :
    Sat (p.genAffinePreimage2 lhs r rhs).cs w ↔
      ∃ x', Sat p.cs x' ∧ Rel.holds r (lhs.val x') (rhs.val w) ∧
        ∀ j < p.n, lhs.coeffs.getD j 0 = 0 → x' j = w j :=
  genAffinePreimage2_spec p lhs r rhs hp hl hr w

/-- `bounded_affine_image(v, lb, ub, d)`: `lb(x)/d ≤ x'_v ≤ ub(x)/d` -/
theorem bounded_affine_image_spec (p : RefPoly) (v : Nat) (lb ub : LinExpr) (d : Int)
    (hp : WF p.n p.cs) (hv : v < p.n) (hl : lb.coeffs.length ≤ p.n) (hu : ub.coeffs.length ≤ p.n)
    (hd : d ≠ 0) (w : Val) :
    Sat (p.boundedAffineImage v lb ub d).cs w ↔
      ∃ x, Sat p.cs x ∧ (lb.val x / (d : Rat) ≤ w v ∧ w v ≤ ub.val x / (d : Rat)) ∧
        ∀ j < p.n, j ≠ v → w j = x j :=
  boundedAffineImage_spec p v lb ub d hp hv hl hu hd w

example : (seg.boundedAffineImage 0 ⟨[1],0⟩ ⟨[1],1⟩ 1).cs = [geRow [-1] 2, geRow [1] 0] := by
  decide +kernel

/-- `bounded_affine_preimage(v, lb, ub, d)` -/
theorem bounded_affine_preimage_spec (p : RefPoly) (v : Nat) (lb ub : LinExpr) (d : Int)
    (hp : WF p.n p.cs) (hv : v < p.n) (hl : lb.coeffs.length ≤ p.n) (hu : ub.coeffs.length ≤ p.n)
    (hd : d ≠ 0) (w : Val) :
    Sat (p.boundedAffinePreimage v lb ub d).cs w ↔
      ∃ x', Sat p.cs x' ∧ (lb.val w / (d : Rat) ≤ x' v ∧ x' v ≤ ub.val w / (d : Rat)) ∧
        ∀ j < p.n, j ≠ v → x' j = w j :=
  boundedAffinePreimage_spec p v lb ub d hp hv hl hu hd w

/-- `unconstrain(vs)`: cylindrification -/
theorem unconstrain_spec (p : RefPoly) (vs : List Nat) (hp : WF p.n p.cs) (w : Val) :
    Sat (p.unconstrain vs).cs w ↔ ∃ x, Sat p.cs x ∧ ∀ j < p.n, j ∉ vs → w j = x j :=
  PPLV.Lin.unconstrain_spec p vs hp w

example : (sq.unconstrain [1]).cs = [geRow [1,0] 0, geRow [-1,0] 1] := by decide +kernel

/-! ### dimensions -/

/-- `add_space_dimensions_and_embed(m)`: the rows are unchanged, so as a set of valuations
    `ℕ → ℚ` nothing changes — the new coordinates `p.n ≤ j < p.n + m` are unconstrained. -/
theorem add_dims_embed_spec (p : RefPoly) (m : Nat) :
    (p.addDimsEmbed m).n = p.n + m ∧ sem (p.addDimsEmbed m).cs = sem p.cs := ⟨rfl, rfl⟩

/-- `add_space_dimensions_and_project(m)`: the new coordinates are `0` -/
theorem add_dims_project_spec (p : RefPoly) (m : Nat) (w : Val) :
    Sat (p.addDimsProject m).cs w ↔ Sat p.cs w ∧ ∀ j, p.n ≤ j → j < p.n + m → w j = 0 :=
  addDimsProject_spec p m w

/-- `concatenate_assign(q)` -/
theorem concatenate_spec (p q : RefPoly) (w : Val) :
    Sat (p.concat q).cs w ↔ Sat p.cs w ∧ Sat q.cs (fun j => w (j + p.n)) :=
  concat_spec p q w

/-- `map_space_dimensions(f)` for a partial map given as pairs `(j, f j)` (the library requires
    `f` injective; the statement needs the index bounds only) -/
theorem map_dims_spec (p : RefPoly) (nOut : Nat) (f : List (Nat × Nat)) (hp : WF p.n p.cs)
    (hf : ∀ jf ∈ f, jf.1 < p.n ∧ jf.2 < nOut) (w : Val) :
    Sat (p.mapDims nOut f).cs w ↔ ∃ x, Sat p.cs x ∧ ∀ jf ∈ f, w jf.2 = x jf.1 :=
  mapDims_spec p nOut f hp hf w

/-- `remove_space_dimensions(vs)`: coordinate `idx` of the result is the `idx`-th kept variable -/
theorem remove_dims_spec (p : RefPoly) (vs : List Nat) (hp : WF p.n p.cs) (w : Val) :
    Sat (p.removeDims vs).cs w ↔
      ∃ x, Sat p.cs x ∧
        ∀ (idx : Nat) (h : idx < (otherVars p.n vs).length), w idx = x ((otherVars p.n vs)[idx]) :=
  removeDims_spec p vs hp w

example : (sq.removeDims [0]).cs = [geRow [1] 0, geRow [-1] 1] := by decide +kernel

/-- `expand_space_dimension(v, m)`: each new variable is a copy of `v` -/
theorem expand_dim_spec (p : RefPoly) (v m : Nat) (hp : WF p.n p.cs) (hv : v < p.n) (w : Val) :
    Sat (p.expandDim v m).cs w ↔
      Sat p.cs w ∧ ∀ i < m, Sat p.cs (w.update v (w (p.n + i))) :=
  expandDim_spec p v m hp hv w

/-! ## (B) generator-side operators -/

/-- `poly_hull_assign`: the generated set of the joined generator systems contains both
    arguments and is contained in every polyhedron (closed or NNC) that contains both. -/
theorem poly_hull_least (n : Nat) (g1 g2 : List Gen) (hw1 : gensWF n g1 = true)
    (hw2 : gensWF n g2 = true) (hp1 : ∃ g ∈ g1, g.isPt = true) (hp2 : ∃ g ∈ g2, g.isPt = true) :
    GenSem n g1 ∪ GenSem n g2 ⊆ GenSem n (g1 ++ g2) ∧
    ∀ cs : List Con, WF n cs → GenSem n g1 ∪ GenSem n g2 ⊆ sem cs → GenSem n (g1 ++ g2) ⊆ sem cs :=
  ⟨Set.union_subset (genSem_subset_append_left n g1 g2 (gensWF_append n g1 g2 hw1 hw2) hp1)
      (genSem_subset_append_right n g1 g2 (gensWF_append n g1 g2 hw1 hw2) hp2),
    fun cs hcs h => (polyHull_subset_iff n g1 g2 hp1 hp2 cs hcs).mpr h⟩

example : GenSem 1 [⟨.point, [0], 1⟩] ∪ GenSem 1 [⟨.point, [2], 1⟩] ⊆
    GenSem 1 ([⟨.point, [0], 1⟩] ++ [⟨.point, [2], 1⟩]) :=
  (poly_hull_least 1 _ _ (by decide) (by decide) ⟨⟨.point, [0], 1⟩, by simp, rfl⟩
    ⟨⟨.point, [2], 1⟩, by simp, rfl⟩).1

/-- `add_generators(g2)` to a non-empty polyhedron generated by `g1`: the result contains the
    old set, and a polyhedron contains the result iff it contains the old set and each of its
    rows is admitted by every added generator (so the result is the least such polyhedron). -/
theorem add_generators_spec (n : Nat) (g1 g2 : List Gen) (hw1 : gensWF n g1 = true)
    (hw2 : gensWF n g2 = true) (hp1 : ∃ g ∈ g1, g.isPt = true) :
    GenSem n g1 ⊆ GenSem n (g1 ++ g2) ∧
    ∀ cs : List Con, WF n cs →
      (GenSem n (g1 ++ g2) ⊆ sem cs ↔
        GenSem n g1 ⊆ sem cs ∧ ∀ c ∈ cs, ∀ g ∈ g2, rowAdmits c g) :=
  ⟨genSem_subset_append_left n g1 g2 (gensWF_append n g1 g2 hw1 hw2) hp1,
    fun cs hcs => addGens_subset_iff n g1 g2 hp1 cs hcs⟩

example : GenSem 1 [⟨.point, [0], 1⟩] ⊆ GenSem 1 ([⟨.point, [0], 1⟩] ++ [⟨.ray, [1], 0⟩]) :=
  (add_generators_spec 1 _ _ (by decide) (by decide) ⟨⟨.point, [0], 1⟩, by simp, rfl⟩).1

/-- `time_elapse_assign`: the set generated by `timeElapseGens gp gq` contains every
    `p + t·q` (`p ∈ P`, `q ∈ Q`, `t ≥ 0`) and is contained in every polyhedron (closed or NNC)
    containing all of them. -/
theorem time_elapse_spec (n : Nat) (gp gq : List Gen) (hwp : gensWF n gp = true)
    (hwq : gensWF n gq = true) (hpp : ∃ g ∈ gp, g.isPt = true) (hpq : ∃ g ∈ gq, g.isPt = true) :
    {y | ∃ p ∈ GenSem n gp, ∃ q ∈ GenSem n gq, ∃ t : Rat, 0 ≤ t ∧ ∀ i < n, y i = p i + t * q i}
      ⊆ GenSem n (timeElapseGens gp gq) ∧
    ∀ cs : List Con, WF n cs →
      {y | ∃ p ∈ GenSem n gp, ∃ q ∈ GenSem n gq, ∃ t : Rat, 0 ≤ t ∧ ∀ i < n, y i = p i + t * q i}
        ⊆ sem cs → GenSem n (timeElapseGens gp gq) ⊆ sem cs := by
  have hw := gensWF_timeElapse n gp gq hwp hwq
  refine ⟨?_, fun cs hcs h => (timeElapse_subset_iff n gp gq hwq hpp hpq cs hcs).mp h⟩
  have := (timeElapse_subset_iff n gp gq hwq hpp hpq (gensToCons n (timeElapseGens gp gq))
    (gensToCons_wf n _)).mpr (by rw [sem_gensToCons n _ hw])
  rw [sem_gensToCons n _ hw] at this
  exact this

example : timeElapseGens [⟨.point, [0,0], 1⟩] [⟨.point, [1,2], 2⟩, ⟨.cpoint, [0,0], 1⟩] =
    [⟨.point, [0,0], 1⟩, ⟨.ray, [1,2], 1⟩] := by decide

/-! ## (C) closure, conversions, positive time-elapse, congruences, fold, difference
(models: `PPLV/Lin/Ops2.lean`; proofs: `PPLV/Lin/OpSpecs2.lean`, `OpSpecs2b.lean`, `OpSpecs3.lean`) -/

/-- `topological_closure_assign`: the result is empty when the set is, contains the set, and is
    contained in every closed polyhedron (`ds`: all rows non-strict) that contains the set. -/
theorem topological_closure_spec (p : RefPoly) (hp : WF p.n p.cs) :
    (sem p.cs = ∅ → sem p.closure.cs = ∅) ∧ sem p.cs ⊆ sem p.closure.cs ∧
    ∀ ds : List Con, (∀ c ∈ ds, c.strict = false) → sem p.cs ⊆ sem ds → sem p.closure.cs ⊆ sem ds :=
  closure_spec p hp

/-- `C_Polyhedron(const NNC_Polyhedron&)` applied to `P ∩ rows`: the least closed polyhedron
    containing the NNC set — in particular empty when the NNC set is empty, whether or not that
    had been detected. -/
theorem conversion_to_closed_spec (p : RefPoly) (rows : List Con) (hp : WF p.n p.cs)
    (hr : WF p.n rows) :
    (sem p.cs ∩ sem rows = ∅ → sem (p.addCons rows).closure.cs = ∅) ∧
    sem p.cs ∩ sem rows ⊆ sem (p.addCons rows).closure.cs ∧
    ∀ ds : List Con, (∀ c ∈ ds, c.strict = false) → sem p.cs ∩ sem rows ⊆ sem ds →
      sem (p.addCons rows).closure.cs ⊆ sem ds := by
  have h := closure_spec (p.addCons rows) (WF_append _ _ _ hp hr)
  rw [show sem (p.addCons rows).cs = sem p.cs ∩ sem rows from sem_append p.cs rows] at h
  exact h

/-- an empty NNC set that no single row shows to be empty: `{A > 0, A < 0}`; its closure is empty -/
example : (RefPoly.closure ⟨true, 1, [gtRow [1] 0, gtRow [-1] 0]⟩).isEmpty = true := by
  -- here and below: the certificate search of `feasible` is bypassed on well-formed rows
  -- (`feasible_eq_feasibleFM`, side conditions by `decide`); the kernel evaluates the elimination
  simp (disch := decide) only [RefPoly.closure, RefPoly.isEmpty, feasible_eq_feasibleFM]
  decide +kernel

/-- `positive_time_elapse_assign`: an NNC receiver gets exactly `{a + λ b | a ∈ P, b ∈ Q, λ > 0}`
    (`PosTE`); a C receiver gets the least closed polyhedron containing that set. -/
theorem positive_time_elapse_spec (p q : RefPoly) (hp : WF p.n p.cs) (hq : WF p.n q.cs) :
    (p.nnc = true → sem (p.posTimeElapse q).cs = PosTE p.n (sem p.cs) (sem q.cs)) ∧
    (p.nnc = false →
      (PosTE p.n (sem p.cs) (sem q.cs) = ∅ → sem (p.posTimeElapse q).cs = ∅) ∧
      PosTE p.n (sem p.cs) (sem q.cs) ⊆ sem (p.posTimeElapse q).cs ∧
      ∀ ds : List Con, (∀ c ∈ ds, c.strict = false) →
        PosTE p.n (sem p.cs) (sem q.cs) ⊆ sem ds → sem (p.posTimeElapse q).cs ⊆ sem ds) :=
  posTimeElapse_refpoly_spec p q hp hq

/-- the point `0` elapsing along the segment `[1, 2]` for a positive time: the open ray `x > 0` -/
example : (RefPoly.posTimeElapse ⟨true, 1, eqRows [1] 0⟩ ⟨true, 1, [geRow [1] (-1), geRow [-1] 2]⟩).equiv
    ⟨true, 1, [gtRow [1] 0]⟩ = true := by
  simp (disch := decide +kernel) only [RefPoly.equiv, equivB, RefPoly.posTimeElapse, if_true,
    subsetB_eq_all_feasibleFM]
  decide +kernel

/-- `add_congruences(cgs)` / `add_congruence(cg)` (`Cong.holds`: the equality `e = 0` for modulus
    `0`, `e(x) ∈ mℤ` otherwise): the result lies between `P ∩ cgs` and `P`, and *is* `P ∩ cgs`
    when no congruence is proper and non-trivial (the case in which the library does not throw). -/
theorem add_congruences_spec (p : RefPoly) (cgs : List Cong) :
    (∀ x ∈ sem p.cs, (∀ c ∈ cgs, c.holds x) → x ∈ sem (p.addCongs cgs).cs) ∧
    sem (p.addCongs cgs).cs ⊆ sem p.cs ∧
    ((∀ c ∈ cgs, c.nonTrivialProper = false) →
      sem (p.addCongs cgs).cs = {x | x ∈ sem p.cs ∧ ∀ c ∈ cgs, c.holds x}) :=
  addCongs_spec p cgs

example : (seg.addCongs [⟨0, ⟨[2], -1⟩⟩, ⟨3, ⟨[0], 6⟩⟩]).cs = seg.cs ++ eqRows [2] (-1) ∧
    (seg.addCongs [⟨3, ⟨[0], 1⟩⟩]).isEmpty = true := by
  simp (disch := decide +kernel) only [RefPoly.isEmpty, feasible_eq_feasibleFM]
  decide +kernel

/-- `refine_with_congruence(s)`: a result accepted by the judge lies between `P ∩ cgs` and `P`
    (the judge certifies, row by row of the result, that the part of `P ∩ equalities` cut off by
    the row contains no point of some proper congruence — `C01.query_relation_with_congruence_spec`). -/
theorem refine_with_congruences_sound (p : RefPoly) (cgs : List Cong) (r : List Con)
    (hp : WF p.n p.cs) (hr : WF p.n r) (hcg : ∀ c ∈ cgs, 0 ≤ c.m ∧ c.e.coeffs.length ≤ p.n)
    (h : p.refineCongsJudge cgs r = true) :
    sem r ⊆ sem p.cs ∧ ∀ x ∈ sem p.cs, (∀ c ∈ cgs, c.holds x) → x ∈ sem r :=
  refineCongsJudge_sound p cgs r hp hr hcg h

example : seg.refineCongsJudge [⟨2, ⟨[2], 0⟩⟩] seg.cs = true ∧
    seg.refineCongsJudge [⟨2, ⟨[2], 0⟩⟩] [geRow [1] (-1), geRow [-1] 1] = false := by
  simp (disch := decide +kernel) only [RefPoly.refineCongsJudge, seg, List.all_cons, List.all_nil,
    List.any_cons, List.any_nil, subsetB_eq_all_feasibleFM, RefPoly.isEmpty, feasible_eq_feasibleFM]
  rw [RefPoly.relCongruence, RefPoly.relCongruence, RefPoly.relCongruence]
  simp only [RefPoly.sup_eq_supFM, RefPoly.inf_eq_supFM]
  decide +kernel

/-- `fold_space_dimensions(vars, dest)` of the non-empty set generated by `gs` (`doc/definitions.dox`:
    `⊎_d Q_d`, where in `Q_d` the variable `d ∈ dest :: vars` plays the role of `dest` and the
    variables of `vars` are removed): the set generated by the model contains every `Q_d` and is
    contained in every polyhedron (closed or NNC) containing all of them. -/
theorem fold_space_dimensions_least (n : Nat) (vars : List Nat) (dest : Nat) (gs : List Gen)
    (hw : gensWF n gs = true) (hpt : ∃ g ∈ gs, g.isPt = true) (hdest : dest < n)
    (hvars : ∀ v ∈ vars, v < n) :
    (∀ d ∈ dest :: vars,
      {y | ∃ x ∈ GenSem n gs, ∀ i < (otherVars n vars).length,
          y i = x ((foldSel n vars dest d).getD i 0)}
        ⊆ GenSem (otherVars n vars).length (hullGens (foldGenss n vars dest gs))) ∧
    ∀ cs : List Con, WF (otherVars n vars).length cs →
      (∀ d ∈ dest :: vars,
        {y | ∃ x ∈ GenSem n gs, ∀ i < (otherVars n vars).length,
            y i = x ((foldSel n vars dest d).getD i 0)} ⊆ sem cs) →
      GenSem (otherVars n vars).length (hullGens (foldGenss n vars dest gs)) ⊆ sem cs :=
  fold_least n vars dest gs hw hpt hdest hvars

/-- the reference polyhedron built by the driver denotes that generated set -/
theorem fold_space_dimensions_model (p : RefPoly) (vars : List Nat) (dest : Nat) (gs : List Gen)
    (hw : gensWF p.n gs = true) :
    sem (RefPoly.foldGens p vars dest gs).cs =
      GenSem (otherVars p.n vars).length (hullGens (foldGenss p.n vars dest gs)) ∧
    (RefPoly.foldGens p vars dest gs).n = (otherVars p.n vars).length ∧
    WF (otherVars p.n vars).length (RefPoly.foldGens p vars dest gs).cs :=
  sem_foldGens p vars dest gs hw

/-- folding `y` into `x` on the point `(1, 2)`: the points `1` and `2` of the line -/
example : hullGens (foldGenss 2 [1] 0 [⟨.point, [1, 2], 1⟩]) = [⟨.point, [1], 1⟩, ⟨.point, [2], 1⟩] := by
  decide

/-- `poly_difference_assign` / `difference_assign`: a result `r` accepted by the judge
    (`RefPoly.diffJudge`: generator hints of the pieces `P ∩ ¬c`, every claim decided by the
    kernel) contains `P ∖ Q` and is the least such polyhedron — among all polyhedra for an NNC
    receiver, among the closed ones for a C receiver. -/
theorem poly_difference_least (p q : RefPoly) (pieces : List (Con × List Gen)) (r : List Con)
    (hp : WF p.n p.cs) (hq : WF p.n q.cs) (hr : WF p.n r)
    (h : RefPoly.diffJudge p q pieces r = true) :
    sem p.cs \ sem q.cs ⊆ sem r ∧
    (p.nnc = true →
      ∀ cs : List Con, WF p.n cs → sem p.cs \ sem q.cs ⊆ sem cs → sem r ⊆ sem cs) ∧
    (p.nnc = false →
      ∀ cs : List Con, WF p.n cs → (∀ c ∈ cs, c.strict = false) →
        sem p.cs \ sem q.cs ⊆ sem cs → sem r ⊆ sem cs) :=
  diffJudge_sound p q pieces r hp hq hr h

/-- `{0} ∖ [1,∞)`: the closed receiver gets `{0}` (accepted), not `[0,∞)` (rejected); and
    `[0,∞) ∖ [-1,∞)` is empty: no piece, the empty result is accepted, `[0,∞)` is not -/
example :
    RefPoly.diffJudge ⟨false, 1, eqRows [1] 0⟩ ⟨false, 1, [geRow [1] (-1)]⟩
      [(geRow [-1] 1, [⟨.point, [0], 1⟩])] (eqRows [1] 0) = true ∧
    RefPoly.diffJudge ⟨false, 1, eqRows [1] 0⟩ ⟨false, 1, [geRow [1] (-1)]⟩
      [(geRow [-1] 1, [⟨.point, [0], 1⟩])] [geRow [1] 0] = false ∧
    RefPoly.diffJudge ⟨false, 1, [geRow [1] 0]⟩ ⟨false, 1, [geRow [1] 1]⟩ [] [falseRow] = true ∧
    RefPoly.diffJudge ⟨false, 1, [geRow [1] 0]⟩ ⟨false, 1, [geRow [1] 1]⟩ [] [geRow [1] 0] = false := by
  simp (disch := decide +kernel) only [RefPoly.diffJudge, List.all_cons, List.all_nil, List.map_cons,
    List.map_nil, Bool.false_eq_true, if_false, List.isEmpty_cons, List.isEmpty_nil, if_true, checkDD,
    equivB, subsetB_eq_all_feasibleFM, disjointB, isEmptyB, feasible_eq_feasibleFM]
  decide +kernel

end C02

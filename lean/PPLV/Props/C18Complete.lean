import PPLV.Term.ProofsCompleteTop
import PPLV.Props.C18

/-!
# C18 — the Farkas encodings are COMPLETE: the termination tests answer *exactly*

`PPLV/Props/C18.lean` proves that every solution of the code-shaped models of
`fill_constraint_systems_MS` / `fill_constraint_system_PR(_original)` is a genuine ranking function
(soundness).  Here the converse: if a linear ranking function exists the encoded system has a
solution.  This is Farkas' lemma, which is proved first — constructively, by induction over the
verified Fourier–Motzkin kernel K1 (`PPLV/Farkas/*`): every row K1 ever derives (cross
combination, equality pinning, gcd normalisation, certificate-based pruning) is a non-negative
combination of the input rows.

**Class of relations.**  The encodings work on non-strict rows (`termination.cc:35`
`assign_all_inequalities_approximation` relaxes strict rows and splits equalities): the theorems
`…_iff` are stated for *closed* relations (`∀ c ∈ cs, c.strict = false`), empty or not — on an
empty closed relation the real tests answer `true` through the encoding itself (`ms_complete_empty`),
there is no emptiness test on that path.  For a relation with strict rows the code analyses the
topological closure; for a NON-EMPTY such relation the ranking functions of the relation and of
its closure coincide (`ranking_closure_iff`), so the tests are still exact (`…_iff_nnc`); for an
EMPTY relation with strict rows whose closure is non-empty the code may answer `false` although
every function is vacuously a ranking function (`closure_needs_nonempty`).

**Before/after form of PR.**  `fill_constraint_system_PR` bounds `μ` from below with the rows of
`pset_before` only; it is complete exactly for functions bounded from below *on the guard*
(`Spec.isRankingGuard`, `termination_test_PR_iff`), hence for all ranking functions when every
state of the guard has a successor (`pr_complete_guard_entailed`), and incomplete otherwise
(`pr_complete_without_guard_bound_fails`, the documented KF-C18-1).
-/
namespace C18
open PPLV.Lin PPLV.Term

/-! ## Farkas / Motzkin from Fourier–Motzkin -/

/-- **Motzkin transposition**: an empty system (strict rows allowed) over `n` variables has
    non-negative integer multipliers `y` with `Σ y_i a_i = 0` and (`Σ y_i k_i < 0`, or `≤ 0` with
    positive weight on a strict row) — exactly what K1's checker `certInfeas` accepts. -/
theorem farkas_infeasible (n : Nat) (cs : List Con) (hwf : WF n cs) (h : sem cs = ∅) :
    ∃ y : List Int, certInfeas cs y = true :=
  PPLV.Farkas.farkas_infeasible_sem n cs hwf h

/-- x ≥ 1 ∧ x ≤ 0 -/
def emptyRel1 : List Con := [geRow [1] (-1), geRow [-1] 0]
example : WF 1 emptyRel1 ∧ sem emptyRel1 = ∅ ∧ certInfeas emptyRel1 [1, 1] = true := by
  have hc : certInfeas emptyRel1 [1, 1] = true := by decide
  refine ⟨(wfB_iff _ _).mp (by decide), ?_, hc⟩
  rw [Set.eq_empty_iff_forall_notMem]
  exact fun x hx => certInfeas_sound _ _ hc ⟨x, hx⟩

/-- the certificate checker is sound and complete: the certificate search of `certify` can, in
    principle, always succeed on an empty system -/
theorem farkas_certificate_iff (n : Nat) (cs : List Con) (hwf : WF n cs) :
    (∃ y : List Int, certInfeas cs y = true) ↔ sem cs = ∅ := by
  rw [PPLV.Farkas.certInfeas_complete n cs hwf, Set.eq_empty_iff_forall_notMem]
  exact ⟨fun h x hx => h ⟨x, hx⟩, fun h ⟨x, hx⟩ => h x hx⟩

/-- **affine Farkas lemma** (integer multipliers, scaled): a non-strict row `t` that holds on the
    non-empty closed polyhedron `sem cs` satisfies `y0·t = Σ ys_i·cs_i + l0` as affine functions
    (`wev cs ys x = Σ_i ys_i · (a_i·x + k_i)`), `y0 > 0`, `ys ≥ 0`, `l0 ≥ 0`. -/
theorem farkas_implied (n : Nat) (cs : List Con) (hwf : WF n cs) (hns : ∀ c ∈ cs, c.strict = false)
    (hne : sem cs ≠ ∅) (t : Con) (ht : t.coeffs.length ≤ n) (hts : t.strict = false)
    (himp : ∀ x ∈ sem cs, t.sat x) :
    ∃ (ys : List Int) (y0 : Int) (l0 : Rat), 0 < y0 ∧ ys.length = cs.length ∧ (∀ a ∈ ys, 0 ≤ a) ∧
      0 ≤ l0 ∧ ∀ x, (y0 : Rat) * t.eval x = wev cs ys x + l0 := by
  obtain ⟨x, hx⟩ := Set.nonempty_iff_ne_empty.mpr hne
  exact PPLV.Farkas.farkas_implied n cs hwf hns ⟨x, hx⟩ t ht hts himp

-- `x ≥ 0` implies `2x + 3 ≥ 0`: `1·(2x+3) = 2·x + 3`
example : WF 1 [geRow [1] 0] ∧ sem [geRow [1] 0] ≠ ∅ ∧ implies 1 [geRow [1] 0] (geRow [2] 3) = true := by
  refine ⟨(wfB_iff _ _).mp (by decide), ?_, ?_⟩
  · apply Set.nonempty_iff_ne_empty.mp
    exact certFeas_sound [geRow [1] 0] [0] 1 (by decide)
  · simp (disch := decide) only [implies, feasible_eq_feasibleFM]; decide +kernel

/-- **affine Farkas lemma, coefficient form** (the form the encodings are built from): if
    `Σ_j e_j w_j + k ≥ 0` on the non-empty closed polyhedron `sem cs ⊆ ℚ^N` then there are `y ≥ 0`
    with `Σ_i y_i a_{ij} = e_j` for every column `j` and `Σ_i y_i b_i ≤ k`. -/
theorem farkas_implied_affine (N : Nat) (cs : List Con) (hwf : WF N cs)
    (hns : ∀ c ∈ cs, c.strict = false) (hne : sem cs ≠ ∅) (e : Val) (k : Rat)
    (h : ∀ w ∈ sem cs, 0 ≤ sumTo N (fun j => e j * w j) + k) :
    ∃ y : Val, (∀ i, 0 ≤ y i) ∧ (∀ j < N, dot (col cs j) y = e j) ∧ dot (consts cs) y ≤ k := by
  obtain ⟨x, hx⟩ := Set.nonempty_iff_ne_empty.mpr hne
  exact farkasImplied_holds N cs hwf hns ⟨x, hx⟩ e k h

/-! ## Mesnard–Serebrenik -/

/-- **MS is complete**: on a non-empty closed relation every ranking function `μ` (normal form:
    `μ(x) ≥ 0`, `μ(x) − μ(x') ≥ 1` on every pair) extends to a solution `(μ, y, z)` of the system
    built by `fill_constraint_systems_MS` (single-system form). -/
theorem ms_complete (n : Nat) (cs : List Con) (hwf : WF (2*n) cs) (hns : ∀ c ∈ cs, c.strict = false)
    (hne : sem cs ≠ ∅) (mu : Val) (h : Spec.isRanking n (sem cs) mu) :
    ∃ sol, Sat (msSystem n cs) sol ∧ ∀ j ≤ n, sol j = mu j := by
  obtain ⟨x, hx⟩ := Set.nonempty_iff_ne_empty.mpr hne
  exact ms_complete_of_farkas farkasImplied_holds n cs hwf hns ⟨x, hx⟩ mu h

example : WF (2*1) decLoop ∧ (∀ c ∈ decLoop, c.strict = false) ∧ sem decLoop ≠ ∅ ∧
    isRankingB 1 decLoop [1, 0] 1 = true := by
  refine ⟨(wfB_iff _ _).mp (by decide), by decide, ?_, ?_⟩
  · apply Set.nonempty_iff_ne_empty.mp
    exact certFeas_sound decLoop [0, 1] 1 (by decide)
  · simp (disch := decide) only [isRankingB, implies, feasible_eq_feasibleFM]; decide +kernel

/-- on an EMPTY closed relation the encoding is satisfiable too (`μ = 0`, `y` = Farkas refutation of
    the relation, `z = 0`): `termination_test_MS(cs)` answers `true` without an emptiness test -/
theorem ms_complete_empty (n : Nat) (cs : List Con) (hwf : WF (2*n) cs)
    (hns : ∀ c ∈ cs, c.strict = false) (h : sem cs = ∅) : ∃ sol, Sat (msSystem n cs) sol := by
  apply ms_complete_empty_of_farkas farkasInfeasible_holds n cs hwf hns
  rintro ⟨x, hx⟩
  have : x ∈ sem cs := hx
  rw [h] at this; exact this

/-- `x ≥ 1 ∧ x ≤ 0` as a relation over `(x', x)` -/
def emptyLoop : List Con := [geRow [0, 1] (-1), geRow [0, -1] 0]
example : WF (2*1) emptyLoop ∧ (∀ c ∈ emptyLoop, c.strict = false) ∧ sem emptyLoop = ∅ := by
  refine ⟨(wfB_iff _ _).mp (by decide), by decide, ?_⟩
  rw [Set.eq_empty_iff_forall_notMem]
  exact fun x hx => certInfeas_sound emptyLoop [1, 1] (by decide) ⟨x, hx⟩
-- `μ = 0`, `y = (1,1)`, `z = 0`
example : ∃ sol, Sat (msSystem 1 emptyLoop) sol :=
  certFeas_sound _ [0, 0, 1, 1, 0, 0, 0, 0] 1 (by decide +kernel)

/-- **`termination_test_MS` answers exactly** (closed relation, empty or not): the model of the
    Boolean test — satisfiability of the system of `fill_constraint_systems_MS`, decided by K1 — is
    `true` iff an affine ranking function exists. -/
theorem termination_test_MS_iff (n : Nat) (cs : List Con) (hwf : WF (2*n) cs)
    (hns : ∀ c ∈ cs, c.strict = false) :
    feasible (msDim n cs) (msSystem n cs) = true ↔ ∃ mu, Spec.isRanking n (sem cs) mu :=
  termination_test_MS_iff_of_farkas farkasImplied_holds farkasInfeasible_holds n cs hwf hns

-- hypotheses satisfiable on `x' = x, x ≥ 0` (answer: no ranking function, see `C18.lean`), and the
-- zero-dimensional loop `while (true) {}`: the encoded system contains `−1 ≥ 0`
example : WF (2*1) idLoop ∧ (∀ c ∈ idLoop, c.strict = false) := ⟨(wfB_iff _ _).mp (by decide), by decide⟩
example : feasible (msDim 0 []) (msSystem 0 []) = false := by
  rw [feasible_eq_feasibleFM _ _ (by decide)]; decide +kernel

/-- the same through `assign_all_inequalities_approximation` for a NON-EMPTY relation with strict rows -/
theorem termination_test_MS_iff_nnc (n : Nat) (cs : List Con) (hwf : WF (2*n) cs) (hne : sem cs ≠ ∅) :
    feasible (msDim n (approxIneq cs)) (msSystem n (approxIneq cs)) = true ↔
      ∃ mu, Spec.isRanking n (sem cs) mu := by
  obtain ⟨x, hx⟩ := Set.nonempty_iff_ne_empty.mpr hne
  exact PPLV.Term.termination_test_MS_iff_nnc n cs hwf ⟨x, hx⟩

/-- **`all_affine_ranking_functions_MS` is exact** (termination.cc:513: `ph1` = system 1 projected
    on `μ_1..μ_n` with `μ_0` free, `ph2` = system 2 projected on `μ_1..μ_n, μ_0`, intersection): on a
    non-empty closed relation the projected solution space is EXACTLY the set of ranking functions. -/
theorem all_affine_ranking_functions_MS_exact (n : Nat) (cs : List Con) (hwf : WF (2*n) cs)
    (hns : ∀ c ∈ cs, c.strict = false) (hne : sem cs ≠ ∅) (mu : Val) :
    Spec.isRanking n (sem cs) mu ↔
      ((∃ s1, (∀ j < n, s1 j = mu j) ∧ Sat (fillMS1 n cs (n+1)) s1) ∧
       (∃ s2, (∀ j ≤ n, s2 j = mu j) ∧ Sat (fillMS2 n cs (n+1)) s2)) := by
  obtain ⟨x, hx⟩ := Set.nonempty_iff_ne_empty.mpr hne
  exact ms_space_exact_of_farkas farkasImplied_holds n cs hwf hns ⟨x, hx⟩ mu

/-- what the judge `pplv_term` prints as `ms_model=` and `checks/c18_complete.py` uses as the
    reference answer: a CERTIFIED verdict of the model on the relaxed system decides existence of a
    ranking function of the relation (closed, or non-empty with strict rows) -/
theorem ms_certified_verdict (n : Nat) (cs : List Con) (hwf : WF (2*n) cs)
    (hc : (∀ c ∈ cs, c.strict = false) ∨ sem cs ≠ ∅) (b : Bool)
    (h : certify (msDim n (approxIneq cs)) (msSystem n (approxIneq cs)) = some b) :
    b = true ↔ ∃ mu, Spec.isRanking n (sem cs) mu := by
  refine PPLV.Term.ms_certified_verdict n cs hwf ?_ b h
  rcases hc with hns | hne
  · exact Or.inl hns
  · obtain ⟨x, hx⟩ := Set.nonempty_iff_ne_empty.mpr hne
    exact Or.inr ⟨x, hx⟩

-- `x − x' > 1` (strict row, non-empty, unbounded from below): certified `false`
example : certify (msDim 1 (approxIneq [gtRow [-1, 1] (-1)])) (msSystem 1 (approxIneq [gtRow [-1, 1] (-1)]))
    = some false := by decide +kernel

/-! ## Podelski–Rybalchenko, single-relation form -/

/-- **PR_original is complete**: a function bounded from below and decreasing by `δ > 0` on a
    non-empty closed relation gives, scaled by `t = 1/δ`, a solution of
    `fill_constraint_system_PR_original` + `le_out ≤ −1` that synthesises `t·μ`. -/
theorem pr_original_complete (n : Nat) (cs : List Con) (hwf : WF (2*n) cs)
    (hns : ∀ c ∈ cs, c.strict = false) (hne : sem cs ≠ ∅) (mu : Val)
    (h : Spec.isRankingGen n (sem cs) mu) :
    ∃ (u : Val) (t : Rat), 0 < t ∧ Sat (prOrigSystem n cs) u ∧ ∀ j < n, prOrigMu n cs u j = t * mu j := by
  obtain ⟨x, hx⟩ := Set.nonempty_iff_ne_empty.mpr hne
  exact pr_original_complete_of_farkas farkasImplied_holds n cs hwf hns ⟨x, hx⟩ mu h

-- hypotheses: `decLoop` with `μ = x` (see `ms_complete`); conclusion: `λ_1 = (0,0,1)`, `λ_2 = (0,1,0)`
example : ∃ u, Sat (prOrigSystem 1 decLoop) u ∧ prOrigMu 1 decLoop u 0 = 1 * ratPoint [1, 0] 1 0 := by
  refine ⟨_, certFeas_point _ [0, 0, 1, 0, 1, 0] 1 (by decide +kernel), ?_⟩
  simp [prOrigMu, col, decLoop, eqRows, geRow, Con.at, ratPoint, dot, Val.tail]

theorem pr_original_complete_empty (n : Nat) (cs : List Con) (hwf : WF (2*n) cs)
    (hns : ∀ c ∈ cs, c.strict = false) (h : sem cs = ∅) : ∃ u, Sat (prOrigSystem n cs) u := by
  apply pr_original_complete_empty_of_farkas farkasInfeasible_holds n cs hwf hns
  rintro ⟨x, hx⟩
  have : x ∈ sem cs := hx
  rw [h] at this; exact this

/-- **`termination_test_PR_original` answers exactly** (closed relation, empty or not) -/
theorem termination_test_PR_original_iff (n : Nat) (cs : List Con) (hwf : WF (2*n) cs)
    (hns : ∀ c ∈ cs, c.strict = false) :
    feasible (prOrigDim cs) (prOrigSystem n cs) = true ↔ ∃ mu, Spec.isRankingGen n (sem cs) mu :=
  termination_test_PR_original_iff_of_farkas farkasImplied_holds farkasInfeasible_holds n cs hwf hns

example : feasible (prOrigDim idLoop) (prOrigSystem 1 idLoop) = false := by
  rw [feasible_eq_feasibleFM _ _ (by decide)]; decide +kernel

theorem termination_test_PR_original_iff_nnc (n : Nat) (cs : List Con) (hwf : WF (2*n) cs)
    (hne : sem cs ≠ ∅) :
    feasible (prOrigDim (approxIneq cs)) (prOrigSystem n (approxIneq cs)) = true ↔
      ∃ mu, Spec.isRankingGen n (sem cs) mu := by
  obtain ⟨x, hx⟩ := Set.nonempty_iff_ne_empty.mpr hne
  exact PPLV.Term.termination_test_PR_original_iff_nnc n cs hwf ⟨x, hx⟩

/-- **the two methods agree** on every closed relation: the MS test is `true` iff the PR test is -/
theorem ms_iff_pr_original (n : Nat) (cs : List Con) (hwf : WF (2*n) cs)
    (hns : ∀ c ∈ cs, c.strict = false) :
    feasible (msDim n cs) (msSystem n cs) = true ↔ feasible (prOrigDim cs) (prOrigSystem n cs) = true := by
  rw [termination_test_MS_iff n cs hwf hns, termination_test_PR_original_iff n cs hwf hns]
  exact ⟨fun ⟨mu, h⟩ => ⟨mu, rankingGen_of_ranking n _ mu h⟩,
         fun ⟨mu, h⟩ => ranking_of_rankingGen n _ mu h⟩

theorem pr_original_certified_verdict (n : Nat) (cs : List Con) (hwf : WF (2*n) cs)
    (hc : (∀ c ∈ cs, c.strict = false) ∨ sem cs ≠ ∅) (b : Bool)
    (h : certify (prOrigDim (approxIneq cs)) (prOrigSystem n (approxIneq cs)) = some b) :
    b = true ↔ ∃ mu, Spec.isRankingGen n (sem cs) mu := by
  refine PPLV.Term.pr_original_certified_verdict n cs hwf ?_ b h
  rcases hc with hns | hne
  · exact Or.inl hns
  · obtain ⟨x, hx⟩ := Set.nonempty_iff_ne_empty.mpr hne
    exact Or.inr ⟨x, hx⟩

/-! ## Podelski–Rybalchenko, before/after form -/

/-- soundness, sharpened: the synthesised function is bounded from below on the whole *guard*
    `sem csB` (by `−u_1·d_B`), not only on the relation -/
theorem pr_sound_guard (n : Nat) (csB csA : List Con) (hB : WF n csB) (hA : WF (2*n) csA) (u : Val)
    (h : Sat (prSystem n csB csA) u) :
    Spec.isRankingGuard n (fun x => Sat csB x) (fun w => Sat (pairRel n csB csA) w) (prMu n csA u) :=
  prSystem_sound_guard n csB csA hB hA u h

/-- **PR (before/after) is complete for functions bounded from below on the guard** -/
theorem pr_complete (n : Nat) (csB csA : List Con) (hB : WF n csB) (hA : WF (2*n) csA)
    (hnsB : ∀ c ∈ csB, c.strict = false) (hnsA : ∀ c ∈ csA, c.strict = false)
    (hne : sem (pairRel n csB csA) ≠ ∅) (mu : Val)
    (h : Spec.isRankingGuard n (fun x => Sat csB x) (fun w => Sat (pairRel n csB csA) w) mu) :
    ∃ (u : Val) (t : Rat), 0 < t ∧ Sat (prSystem n csB csA) u ∧ ∀ j < n, prMu n csA u j = t * mu j := by
  obtain ⟨x, hx⟩ := Set.nonempty_iff_ne_empty.mpr hne
  exact pr_complete_of_farkas farkasImplied_holds n csB csA hB hA hnsB hnsA ⟨x, hx⟩ mu h

-- the guarded decrement of `C18.lean` (`guardB`, `guardA`): closed, non-empty, `μ = x_2` bounded on the guard
example : WF 2 guardB ∧ WF (2*2) guardA ∧ (∀ c ∈ guardB, c.strict = false) ∧ (∀ c ∈ guardA, c.strict = false) ∧
    sem (pairRel 2 guardB guardA) ≠ ∅ := by
  refine ⟨(wfB_iff _ _).mp (by decide), (wfB_iff _ _).mp (by decide), by decide, by decide, ?_⟩
  apply Set.nonempty_iff_ne_empty.mp
  exact certFeas_sound _ [1, 0, 1, 1] 1 (by decide)

theorem pr_complete_empty (n : Nat) (csB csA : List Con) (hB : WF n csB) (hA : WF (2*n) csA)
    (hnsB : ∀ c ∈ csB, c.strict = false) (hnsA : ∀ c ∈ csA, c.strict = false)
    (h : sem (pairRel n csB csA) = ∅) : ∃ u, Sat (prSystem n csB csA) u := by
  apply pr_complete_empty_of_farkas farkasInfeasible_holds n csB csA hB hA hnsB hnsA
  rintro ⟨x, hx⟩
  have : x ∈ sem (pairRel n csB csA) := hx
  rw [h] at this; exact this

-- guard `x ≥ 1`, relation `x ≤ 0` (empty pair): `u_3 = 1`, `u_2 = 1`, `u_1 = 0`
example : ∃ u, Sat (prSystem 1 [geRow [1] (-1)] [geRow [0, -1] 0]) u :=
  certFeas_sound _ [1, 1, 0] 1 (by decide +kernel)

/-- **`termination_test_PR(before, after)` answers exactly** the question "is there an affine
    function bounded from below on the guard and decreasing by a fixed amount on the relation" -/
theorem termination_test_PR_iff (n : Nat) (csB csA : List Con) (hB : WF n csB) (hA : WF (2*n) csA)
    (hnsB : ∀ c ∈ csB, c.strict = false) (hnsA : ∀ c ∈ csA, c.strict = false) :
    feasible (prDim csB csA) (prSystem n csB csA) = true ↔
      ∃ mu, Spec.isRankingGuard n (fun x => Sat csB x) (fun w => Sat (pairRel n csB csA) w) mu :=
  termination_test_PR_iff_of_farkas farkasImplied_holds farkasInfeasible_holds n csB csA hB hA hnsB hnsA

/-- when every state of the guard has a successor the before/after form is complete for ALL ranking
    functions of the relation (then `guard_entailed=1` in the judge's `caseinfo`) -/
theorem pr_complete_guard_entailed (n : Nat) (csB csA : List Con) (hB : WF n csB) (hA : WF (2*n) csA)
    (hnsB : ∀ c ∈ csB, c.strict = false) (hnsA : ∀ c ∈ csA, c.strict = false)
    (hne : sem (pairRel n csB csA) ≠ ∅)
    (hent : ∀ x, Sat csB x → ∃ w, Sat csA w ∧ ∀ j < n, w (n + j) = x j) (mu : Val)
    (h : Spec.isRankingGen n (sem (pairRel n csB csA)) mu) :
    ∃ (u : Val) (t : Rat), 0 < t ∧ Sat (prSystem n csB csA) u ∧ ∀ j < n, prMu n csA u j = t * mu j :=
  pr_complete n csB csA hB hA hnsB hnsA hne mu (rankingGuard_of_guard_entailed n csB csA hB hent mu h)

-- guard `x ≥ 0`, update `x' = x − 1`: every state of the guard has a successor
example : ∃ u, Sat (prSystem 1 [geRow [1] 0] (eqRows [1, -1] 1)) u :=
  certFeas_sound _ [0, 1, 0, 1] 1 (by decide +kernel)

/-- without that, the before/after form is INCOMPLETE (KF-C18-1): guard = universe, relation
    `x' = x − 1 ∧ x ≥ 0` (the bound `x ≥ 0` is known through `after` only): `μ = x` is a ranking
    function, the encoded system has no solution -/
theorem pr_complete_without_guard_bound_fails :
    ¬ (∀ (n : Nat) (csB csA : List Con), WF n csB → WF (2*n) csA →
        (∀ c ∈ csB, c.strict = false) → (∀ c ∈ csA, c.strict = false) →
        (∃ mu, Spec.isRankingGen n (sem (pairRel n csB csA)) mu) →
        feasible (prDim csB csA) (prSystem n csB csA) = true) := by
  intro hall
  have hr : isRankingB 1 (pairRel 1 [] decLoop) [1, 0] 1 = true := by
    simp (disch := decide) only [isRankingB, implies, feasible_eq_feasibleFM]; decide +kernel
  have hwf : WF (2*1) (pairRel 1 [] decLoop) := (wfB_iff _ _).mp (by decide)
  have h1 := (ranking_iff 1 _ [1, 0] 1 hwf).mp hr
  have hf := hall 1 [] decLoop (by intro c hc; cases hc) ((wfB_iff _ _).mp (by decide))
    (by intro c hc; cases hc) (by decide) ⟨_, rankingGen_of_ranking 1 _ _ h1.2⟩
  -- `(x ≥ 0) + (−x' + x − 1 ≥ 0)` of the relation against `le_out ≤ −1`
  have : feasible (prDim [] decLoop) (prSystem 1 [] decLoop) = false :=
    feasible_eq_false_of_certInfeas _ _ [0, 0, 1, 1, 0, 0, 0, 1] (by decide +kernel)
  rw [this] at hf
  cases hf

/-! ## relations with strict rows -/

/-- **a non-empty relation and its closure have the same ranking functions** (this is why
    `assign_all_inequalities_approximation` may relax strict rows) -/
theorem ranking_closure_iff (n : Nat) (cs : List Con) (hne : sem cs ≠ ∅) (mu : Val) :
    Spec.isRanking n (sem (relax cs)) mu ↔ Spec.isRanking n (sem cs) mu := by
  obtain ⟨x, hx⟩ := Set.nonempty_iff_ne_empty.mpr hne
  exact isRanking_relax_iff n cs ⟨x, hx⟩ mu

/-- … and the hypothesis is sharp: `x' = x ∧ x > 0 ∧ x ≤ 0` is empty (every function is vacuously a
    ranking function) while its closure `x' = x = 0` has none, so the tests, which analyse the
    closure, answer `false` on such an input (`termination_test_MS_iff` on `relax closureCex`) -/
theorem closure_needs_nonempty :
    (¬ ∃ w, Sat closureCex w) ∧ (∀ mu, Spec.isRanking 1 (sem closureCex) mu) ∧
    (∃ w, Sat (relax closureCex) w) ∧ (∀ mu, ¬ Spec.isRanking 1 (sem (relax closureCex)) mu) :=
  ⟨relax_ranking_empty_sharp.1, relax_ranking_empty_sharp.2.1, relax_ranking_empty_sharp.2.2.1,
   relax_ranking_empty_sharp.2.2.2.2⟩

end C18

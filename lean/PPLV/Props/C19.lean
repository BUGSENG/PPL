import PPLV.Watchdog.ProofsJudge
import PPLV.Watchdog.ProofsAtomic
import PPLV.Watchdog.ProofsLagSched
import PPLV.Watchdog.ProofsWeight

/-!
# C19 — watchdog / weight timeouts fire once, in order, never early, never after death

All statements are about the transition system of `PPLV/Watchdog/Model.lean`
(`run eqBug sched`: `eqBug = true` is `Time::operator==` of `Time_inlines.hh` as written before
commit 26a6e2f, `eqBug = false` the comparison as it is), for ALL schedules `sched : List Step`: any number of
watchdogs, created and destroyed in any order with any delays, time passing — and the timer
expiring — between any two statement groups, inside or outside the critical sections.

Log events carry ghost data: `born id b cs` (constructor entered at real time `b`, delay `cs`
centiseconds), `fired id t b cs` (handler action ran at real time `t`), `destroyed id t`
(destructor returned).  The log is newest-first.

* `at_most_once`, `not_after_destroy`, `fired_was_born` hold for every schedule and both variants.
* `negative_delay_rejected`: a constructor called with `csecs <= 0` changes nothing.
* `never_early` and `no_internal_error` hold for EVERY schedule of the statement-level system
  (`eqBug = false`, the code as it is): time may pass — and the timer expire — between any two
  statement groups, inside or outside the critical sections; an expiry inside a critical section
  only sets `timeout_deferred` and is handled by `leave_critical_section`.
* `exact_partial` / `prompt_partial` / `deadline_order_partial` are proved under `Quiet`: no time
  passes inside a critical section (signals are delivered between public operations and at the
  critical-section boundaries, including between the destructor's test of `expired` and its
  critical section); the `_atomic` versions need no hypothesis at all.  They CANNOT hold for all
  schedules: the bookkeeping reconstructs elapsed time from `getitimer`, so time that passes
  between `get_timer` and the re-arming `setitimer`, or after an expiry that had to be deferred,
  is lost by design — every pending watchdog is late by that amount (see the example after
  `never_early`: late by 16 µs) and two deadlines closer than it may be served in the other order.
  What is missing is the quantitative version ("late by at most the time spent inside critical
  sections"); the harness judges exactly that bound on the real traces.
* The `_fails` theorems about `eqBug = true` document what the check reports should the typo of
  `Time::operator==` (repaired by 26a6e2f) come back; the `_before_fix_fails` theorems
  (`runBeforeFix`: the handler calling `reschedule()` inside a critical section, repaired by
  9ac8059, KF-C19-2) are the concrete schedules on which the old code fired early / late.
-/
namespace C19
open PPLV.Watchdog

/-- no time has passed inside a critical section -/
@[reducible] def Quiet (σ : St) : Prop := σ.dirty = false

/-! ## Clauses that hold for all schedules, both variants of `operator==`, any arguments -/

/-- a watchdog's action runs at most once -/
theorem at_most_once (eqBug : Bool) (sched : List Step) (id : Nat) :
    firedCount (run eqBug sched).log id ≤ 1 :=
  firedCount_le_one (safe_run eqBug sched).once id

example : firedCount (run true (atomicSched [.create 0 10, .create 1 50, .tick 100000])).log 1 = 1 := by decide +kernel

/-- never after its destruction has returned: in the (newest-first) log no `destroyed id` lies
before a `fired id` -/
theorem not_after_destroy (eqBug : Bool) (sched : List Step) (pre post : List Event) (id : Nat) (t b cs : Int)
    (h : (run eqBug sched).log = pre ++ Event.fired id t b cs :: post) :
    ∀ t', Event.destroyed id t' ∉ post := by
  intro t' hmem
  have := (safe_run eqBug sched).nad
  rw [h] at this
  exact nad_split pre post id t b cs this ⟨t', hmem⟩

example : ∃ t, Event.destroyed 0 t ∈ (run false (atomicSched [.create 0 10, .tick 100000, .destroy 0])).log ∧
    ∃ t' b cs, Event.fired 0 t' b cs ∈ (run false (atomicSched [.create 0 10, .tick 100000, .destroy 0])).log :=
  ⟨100000, by decide +kernel, 100000, 0, 10, by decide +kernel⟩

/-- every firing belongs to exactly one creation, whose birth time and delay it carries -/
theorem fired_was_born (eqBug : Bool) (sched : List Step) (id : Nat) (t b cs : Int)
    (h : Event.fired id t b cs ∈ (run eqBug sched).log) :
    Event.born id b cs ∈ (run eqBug sched).log ∧
    ∀ b' cs', Event.born id b' cs' ∈ (run eqBug sched).log → b' = b ∧ cs' = cs := by
  have hs := safe_run eqBug sched
  have hb := (hs.firedExp id t b cs h).2
  exact ⟨hb, fun b' cs' h' => hs.bornUniq id b' cs' b cs h' hb⟩

/-! ## never early -/

/-- defect 1 (`Time::operator==` ignores the microseconds): watchdog 1, due at 0.50 s, fires at
    0.10 s together with watchdog 0 — atomic operations, no signal inside a critical section -/
theorem never_early_fails : ¬ ∀ sched, NeverEarly (run true sched).log := by
  intro h
  have := neverEarlyB_of (h (atomicSched [.create 0 10, .create 1 50, .tick 100000]))
  revert this; decide +kernel

/-- … and after removing the first pending event the timer is not re-armed (the schedule of
    `design-notes/probes/p5.cc`) -/
theorem never_early_fails_removal : ¬ ∀ sched, NeverEarly (run true sched).log := by
  intro h
  have := neverEarlyB_of (h (atomicSched [.create 0 10, .create 1 50, .tick 50000, .destroy 0, .tick 100000]))
  revert this; decide +kernel

/-- the timer expires between `get_timer` and the read of `last_time_requested` inside
    `~Watchdog()` -/
def deferredEarly : List Step :=
  atomicSched [.create 0 100, .tick 4000, .create 1 200, .tick 3000, .create 2 99, .tick 2000,
               .create 3 200, .tick 988000, .tick 1000] ++
  [.destroy 0, .step, .step, .tick 2000, .step, .step, .step, .step, .step, .step, .tick 1006000, .tick 10000]

/-- KF-C19-2, before commit 9ac8059: the handler, inside the critical section, called
    `reschedule()`, which overwrote `last_time_requested`; the reconstructed clock ran ahead and
    watchdog 3, due at 2.009000 s, fired at 2.006000 s -/
theorem never_early_before_fix_fails : ¬ ∀ sched, NeverEarly (runBeforeFix false sched).log := by
  intro h
  have := neverEarlyB_of (h deferredEarly)
  revert this; decide +kernel

/-- never before `delay` has elapsed since the constructor was entered: EVERY schedule of the
    statement-level system — time passing, and the timer expiring, between any two statement
    groups, inside or outside the critical sections -/
theorem never_early (sched : List Step) : NeverEarly (run false sched).log :=
  (ninv_run sched).base.fired

/-- non-vacuity: on the schedule of `never_early_before_fix_fails` a signal is deferred and the
    watchdogs fire, none early (watchdog 3, due at 2.009 s, at 2.011 s) -/
example : Event.deferred 1000000 ∈ (run false deferredEarly).log ∧
    Event.fired 3 2011000 9000 200 ∈ (run false deferredEarly).log ∧
    Event.fired 1 2006000 4000 200 ∈ (run false deferredEarly).log := by decide +kernel

/-- non-vacuity: time passes inside the constructor's critical section (between `get_timer` and the
    re-arming `setitimer`), no signal is deferred, the watchdogs fire — late by the time that passed
    there, never early -/
example :
    let s : List Step := atomicSched [.create 0 50] ++ [.create 1 10, .step, .tick 7, .step, .tick 9, .step, .step,
                                       .tick 100000, .tick 400000]
    (run false s).dirty = true ∧
    (run false s).log.all (fun e => match e with | .deferred _ => false | _ => true) = true ∧
    Event.fired 1 100016 0 10 ∈ (run false s).log ∧ Event.fired 0 500016 0 50 ∈ (run false s).log := by
  decide +kernel

/-- `set_timer` is never called with a null interval ("PPL internal error") and no timer call
    fails, on any schedule -/
theorem no_internal_error (sched : List Step) : (run false sched).err = false :=
  (ninv_run sched).base.noErr

/-- in quiet runs the action runs EXACTLY at birth + delay (never early and prompt at once) -/
theorem exact_partial (sched : List Step) (hq : Quiet (run false sched)) (id : Nat) (t b cs : Int)
    (hf : Event.fired id t b cs ∈ (run false sched).log) : t = b + cs * 10000 := by
  obtain ⟨l, ⟨es, hl⟩, hex, _⟩ := quiet_log_facts (inv_run sched) hq
  exact hex id t b cs (by rw [hl]; exact List.mem_append_right _ hf)

example : Quiet (run false (atomicSched [.create 0 10, .create 1 50, .tick 50000, .destroy 0, .tick 450000])) ∧
    Event.fired 1 500000 0 50 ∈
      (run false (atomicSched [.create 0 10, .create 1 50, .tick 50000, .destroy 0, .tick 450000])).log :=
  ⟨by decide +kernel, by decide +kernel⟩

/-! ## prompt -/

/-- the timer expires at the entry of a constructor's critical section -/
def deferredLate : List Step :=
  atomicSched [.create 0 100, .tick 500000, .create 1 100] ++
  [.create 2 300, .tick 500000, .step, .step, .step, .step, .step, .step, .step, .tick 10000, .tick 600000]

/-- KF-C19-2, before commit 9ac8059: the deferred signal lost a whole timer interval: watchdog 1,
    due at 1.5 s and alive, had not fired at 1.61 s (it fired at 2.5 s) -/
theorem prompt_before_fix_fails :
    ¬ ∀ sched, (runBeforeFix false sched).inCrit = false → Prompt (runBeforeFix false sched) := by
  intro h
  have := promptB_of (h deferredLate (by decide))
  revert this; decide +kernel

/-- on the same schedule the code as it is serves both watchdogs exactly on time (the deferred
    timeout is handled on leaving the critical section, in which no further time passes) -/
example : Event.deferred 1000000 ∈ (run false deferredLate).log ∧
    Event.fired 0 1000000 0 100 ∈ (run false deferredLate).log ∧
    Event.fired 1 1500000 500000 100 ∈ (run false deferredLate).log := by decide +kernel

/-- the constructors reject a non-positive delay (`invalid_argument`) before anything is changed:
    the bookkeeping state is untouched, only the ghost log records the rejection (defect 17 of the
    design notes, repaired: formerly the test was `csecs == 0` and a negative delay reached
    `setitimer`) -/
theorem negative_delay_rejected (σ : St) (id : Nat) (cs : Int) (hcs : cs ≤ 0) :
    create σ id cs = σ ∨
    create σ id cs = { σ with used := id :: σ.used, log := Event.rejected id cs :: σ.log } := by
  unfold create
  split
  · exact Or.inl rfl
  · simp

example : (run false (atomicSched [.create 0 71, .tick 1969, .create 1 (-111), .create 2 165, .tick 708031])).log
    = [.hset 941969, .fired 0 710000 0 71, .constructed 2 1969, .getitimer 708031, .born 2 1969 165,
       .rejected 1 (-111), .constructed 0 0, .setitimer 710000, .born 0 0 71] := by decide +kernel

/-- promptly after the deadline: outside critical sections of a quiet run of the repaired code,
    every watchdog whose deadline has been reached has fired — exactly at its deadline — unless its
    destructor has returned -/
theorem prompt_partial (sched : List Step) (hq : Quiet (run false sched))
    (hout : (run false sched).inCrit = false) : Prompt (run false sched) := by
  intro id b cs hb hd
  exact (clock_of_quiet (inv_run sched) hq hout).prompt id b cs hb hd

example : Quiet (run false (atomicSched [.create 0 10, .create 1 50, .tick 100000])) ∧
    (run false (atomicSched [.create 0 10, .create 1 50, .tick 100000])).inCrit = false ∧
    Event.born 0 0 10 ∈ (run false (atomicSched [.create 0 10, .create 1 50, .tick 100000])).log ∧
    (0 : Int) + 10 * 10000 ≤ (run false (atomicSched [.create 0 10, .create 1 50, .tick 100000])).now :=
  ⟨by decide +kernel, by decide +kernel, by decide +kernel, by decide +kernel⟩

/-! ## deadline order -/

/-- expirations are delivered in deadline order: a firing's real deadline is not smaller than that
    of any earlier firing — repaired `==`, quiet runs -/
theorem deadline_order_partial (sched : List Step) (hq : Quiet (run false sched))
    (pre post : List Event) (id : Nat) (t b cs : Int)
    (h : (run false sched).log = pre ++ Event.fired id t b cs :: post) :
    ∀ id' t' b' cs', Event.fired id' t' b' cs' ∈ post → b' + cs' * 10000 ≤ b + cs * 10000 := by
  obtain ⟨l, ⟨es, hl⟩, _, hord⟩ := quiet_log_facts (inv_run sched) hq
  rw [hl] at hord
  have := ordered_suffix es _ hord
  rw [h] at this
  exact ordered_split pre post id t b cs this

/-- defect 1 breaks the order as well: watchdog 1 (due 0.56 s) fires at 0.10 s, before
    watchdog 2 (due 0.20 s) -/
theorem deadline_order_fails : ¬ ∀ sched, orderB (run true sched).log = true := by
  intro h
  have := h (atomicSched [.create 0 10, .create 1 56, .tick 100000, .create 2 10, .tick 100000])
  revert this; decide +kernel

example : orderB (run false (atomicSched [.create 0 10, .create 1 56, .tick 100000, .create 2 10, .tick 100000,
    .tick 400000])).log = true ∧
    (firedList (run false (atomicSched [.create 0 10, .create 1 56, .tick 100000, .create 2 10, .tick 100000,
    .tick 400000])).log).length = 3 := by decide +kernel

/-! ## the granularity of public operations

`atomicSched ops`: every constructor / destructor of `ops` runs to completion before time passes
again; time passes (and the handler runs) between the operations.  No hypothesis on the run is
needed: such a run is quiet. -/

theorem atomic_is_quiet (ops : List Step) :
    Quiet (run false (atomicSched ops)) ∧ (run false (atomicSched ops)).inCrit = false := by
  have := rest_atomic ops {} rest_init
  exact ⟨this.clean, this.clock.notCrit⟩

/-- never early, at the granularity of public operations -/
theorem never_early_atomic (ops : List Step) : NeverEarly (run false (atomicSched ops)).log := by
  intro id t b cs hf
  have := exact_partial _ (atomic_is_quiet ops).1 id t b cs hf
  omega

/-- exactly at the deadline, hence promptly: every watchdog whose deadline has been reached has
    fired at its deadline, unless destroyed -/
theorem prompt_atomic (ops : List Step) : Prompt (run false (atomicSched ops)) :=
  prompt_partial _ (atomic_is_quiet ops).1 (atomic_is_quiet ops).2

theorem deadline_order_atomic (ops : List Step)
    (pre post : List Event) (id : Nat) (t b cs : Int)
    (h : (run false (atomicSched ops)).log = pre ++ Event.fired id t b cs :: post) :
    ∀ id' t' b' cs', Event.fired id' t' b' cs' ∈ post → b' + cs' * 10000 ≤ b + cs * 10000 :=
  deadline_order_partial _ (atomic_is_quiet ops).1 pre post id t b cs h

example : Event.fired 1 500000 0 50 ∈
    (run false (atomicSched [.create 0 10, .create 1 50, .tick 50000, .destroy 0, .tick 450000])).log := by
  decide +kernel

/-! ## the weight watcher -/

/-- With all live thresholds and the weight inside a window narrower than 2^63 at every comparison
    (`lapped = false`: the side condition under which `Weightwatch_Traits::less_than` is the true
    comparison): a watcher fires at a check only if the accumulated weight has REACHED its threshold
    there (`g ≤ c`) and had not at the previous check (`p < g`), i.e. at the first check after the
    threshold is reached; and after a check no pending watcher's threshold has been reached by the
    weight at that check. -/
theorem fires_iff_reached_partial (w0 : Nat) (ops : List WOp) (h : (wRun w0 ops).lapped = false) :
    (∀ id g p c, WEvent.fired id g p c ∈ (wRun w0 ops).log → p < g ∧ g ≤ c) ∧
    (∀ e ∈ (wRun w0 ops).pending, (wRun w0 ops).gLast < e.gThr) := by
  rcases winv_run w0 ops with hl | hi
  · rw [h] at hl; exact absurd hl (by simp)
  · exact ⟨hi.fired, fun e he => (hi.thr e he).2⟩

/-- across the wrap-around of the 64-bit counter -/
example : (wRun 18446744073709551610 [.create 0 10, .add 11, .check]).lapped = false ∧
    WEvent.fired 0 18446744073709551620 18446744073709551610 18446744073709551621 ∈
      (wRun 18446744073709551610 [.create 0 10, .add 11, .check]).log := by decide +kernel

/-- at weight == threshold exactly the watcher triggers; a zero delta is "already reached" -/
example : WEvent.fired 0 5 0 5 ∈ (wRun 0 [.create 0 5, .add 5, .check]).log ∧
    WEvent.rejected 1 ∈ (wRun 0 [.create 1 0]).log := by decide +kernel

/-- without the window condition the clause is false: a jump of more than 2^63 past the threshold
    is not seen -/
theorem fires_iff_reached_fails_outside_window :
    ¬ ∀ w0 ops, ∀ e ∈ (wRun w0 ops).pending, (wRun w0 ops).gLast < e.gThr := by
  intro h
  have := h 0 [.create 0 1, .add (H63 + 5), .check] ⟨1, 0, 1⟩ (by decide)
  revert this; decide +kernel

end C19

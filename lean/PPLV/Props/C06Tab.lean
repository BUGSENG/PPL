import PPLV.Solver.PendingProofsObj
import PPLV.Solver.PendingProofsEraseBasis
import PPLV.Solver.PendingProofsFresh
import PPLV.Solver.PendingProofsE2E4

/-!
# the LP machinery of `MIP_Problem`, proved on the code-shaped model

Model: `PPLV/Solver/Pending.lean` (`PPLV.Solver.Pend`), a transliteration of `parse_constraints`,
`process_pending_constraints`, `merge_split_variable`, the two exact pricing rules, the simplex loop,
`erase_artificials`, `compute_generator`, `second_phase`, `is_lp_satisfiable` and the mutators of
/repo/src/MIP_Problem.cc; tied to the real code by exact replay of the private state
(harness/c06_tab.cc, `pplv_mip --tab`, checks/c06_tab.py).

* (b1) `tableau_setup_solutions`       the tableau set up for a fresh problem has, with the artificial columns 0
                                        and all columns ≥ 0, exactly the solutions projecting onto `sem cs`;
* (b2) `erase_artificials_valid`       removing the artificial columns (and the redundant rows) keeps them;
* (c)  `second_phase_sound`, `reoptimize_value_eq_fresh`, `reoptimize_value_eq_fresh_tableau`
                                        second_phase from ANY feasible basis is optimal / unbounded exactly when
                                        the LP is: in status and value a re-optimisation equals a fresh solve;
       `status_transitions`            the status transitions of the mutators and solvers (the full protocol
                                        with the feasible-basis invariant: `status_sound` in `C06TabIncr.lean`);
* (d)  `textbook_is_candidate`, `steepestEdgeExact_is_candidate`, `arbitrary_is_candidate`,
       `pricing_choice_irrelevant`, `pricing_same_answer`
                                        every pricing rule that picks a candidate column gives correct answers.

* end to end (problem never solved before): `setup_hands_canon_to_phase1`, `phase1_decides_feasibility`,
       `lp_fresh_correct` — status, witness `last_generator` and optimality against `Sat` / `Better`.

Not covered: termination (anti-cycling) — the loops are fuelled and every theorem has the hypothesis that the
fuel sufficed.  (b1) and the chain set-up → first phase for the INCREMENTAL case are in `C06TabIncr.lean`
(`incremental_setup_hands_over`, `lp_incremental_correct`, `status_sound`).
-/
namespace C06
open PPLV.Lin PPLV.Solver PPLV.Solver.Tab PPLV.Solver.Pend

/-! ### (d) pricing -/

/-- **`textbook_entering_index`**: the column returned, when non-zero, has a cost coefficient with the sign of
    the sign column (`isCandidate`), and 0 is returned iff no such column exists. -/
theorem textbook_is_candidate (cost : Row) :
    (textbookEntering cost ≠ 0 → isCandidate cost (textbookEntering cost) = true) ∧
    (textbookEntering cost = 0 ↔ ∀ j, isCandidate cost j = false) :=
  Pend.textbook_is_candidate cost

/-- **`steepest_edge_exact_entering_index`** (sparse variant, candidates compared from the last to the first):
    the same two facts, for every tableau and base. -/
theorem steepestEdgeExact_is_candidate (T : List Row) (cost : Row) (base : List Nat) :
    (steepestEdgeExact T cost base ≠ 0 → isCandidate cost (steepestEdgeExact T cost base) = true) ∧
    (steepestEdgeExact T cost base = 0 ↔ ∀ j, isCandidate cost j = false) :=
  Pend.steepestEdgeExact_is_candidate T cost base

/-- the float pricing modelled as an arbitrary proposal `choice`: same two facts for every `choice` -/
theorem arbitrary_is_candidate (choice : List Row → Row → List Nat → Nat) (T : List Row) (cost : Row) (base : List Nat) :
    (arbitraryEntering choice T cost base ≠ 0 → isCandidate cost (arbitraryEntering choice T cost base) = true) ∧
    (arbitraryEntering choice T cost base = 0 ↔ ∀ j, isCandidate cost j = false) :=
  Pend.arbitraryEntering_is_candidate choice T cost base

-- maximise x1 subject to x1 + s = 4: both rules pick column 1; at the optimum they return 0
example : textbookEntering [0, 1, 0, 1] = 1 ∧ steepestEdgeExact [[-4, 1, 1, 0]] [0, 1, 0, 1] [2] = 1 ∧
    textbookEntering [-4, 0, 1, -1] = 0 ∧ steepestEdgeExact [[-4, 1, 1, 0]] [-4, 0, 1, -1] [1] = 0 := by decide
-- ties go to the LAST candidate with steepest edge, to the first with textbook
example : steepestEdgeExact [[-4, 1, 1, 1, 0]] [0, 1, 1, 0, 1] [3] = 2 ∧ textbookEntering [0, 1, 1, 0, 1] = 1 := by decide

/-- a canonical feasible tableau: x1 + s − 4 = 0 with the slack basic, objective x1 -/
def exTab : Tab := ⟨[[-4, 1, 1, 0]], [0, 1, 0, 1], [2]⟩

theorem exTab_canon : Canon exTab := by
  have one : ∀ i, i < exTab.T.length → i = 0 := by intro i hi; simp [exTab] at hi; exact hi
  constructor
  · rfl
  · decide
  · intro i hi; rw [one i hi]; rfl
  · intro i hi; rw [one i hi]; decide
  · intro i hi; rw [one i hi]; decide
  · intro i j hi hj hij; exact absurd ((one i hi).trans (one j hj).symm) hij
  · intro i hi; rw [one i hi]; rfl
  · intro i hi; rw [one i hi]; rfl
  · decide
  · intro i hi; rw [one i hi]
    show (0 : Rat) ≤ -((-4 : Int) : Rat) / ((1 : Int) : Rat)
    norm_num

/-- (d) **the choice of the entering column is irrelevant for correctness.**  `ch` is ANY rule that returns a
    candidate column and returns 0 only when there is none (`ChooserOK`: proved for textbook, steepest-edge exact
    and every `arbitraryEntering choice`, i.e. whatever the float variant picks).  From a canonical feasible tableau
    (`Canon`), when the loop of `compute_simplex_using_*` terminates with `(ok, t')`:
    the solution set is unchanged; `t'` is canonical and feasible; the cost row denotes the same objective on the
    solutions; `ok = true` ("no candidate") ⇒ no non-negative solution beats `c'_0/c'_last`, and the basic solution
    of `t'` is a non-negative solution attaining it; `ok = false` ("candidate without exiting row") ⇒ there are
    non-negative solutions with arbitrarily large objective (the ray from the basic solution along the candidate). -/
theorem pricing_choice_irrelevant (ch : Chooser) (hch : ChooserOK ch) (fuel : Nat) (t : Tab) (ok : Bool) (t' : Tab)
    (hC : Canon t) (h : computeSimplexWith ch fuel t = some (ok, t')) :
    (∀ x, Sol t'.T x ↔ Sol t.T x) ∧ Canon t' ∧ (∀ x, Sol t.T x → objAt t'.cost x = objAt t.cost x) ∧
    (ok = true → ∀ x, Sol t.T x → NonnegPt t.cost.length x → objAt t.cost x ≤ basicObj t'.cost) ∧
    (ok = true → Sol t.T (basicPt t') ∧ NonnegPt t.cost.length (basicPt t') ∧ objAt t.cost (basicPt t') = basicObj t'.cost) ∧
    (ok = false → ∀ M : Rat, ∃ x, Sol t.T x ∧ NonnegPt t.cost.length x ∧ M < objAt t.cost x) :=
  Pend.pricing_choice_irrelevant ch hch fuel t ok t' hC h

theorem chooser_ok_all (choice : List Row → Row → List Nat → Nat) :
    ChooserOK textbookChooser ∧ ChooserOK steepestEdgeExact ∧ ChooserOK (arbitraryEntering choice) :=
  ⟨textbookChooser_ok, steepestEdgeExact_ok, arbitraryEntering_ok choice⟩

example : Canon exTab ∧
    computeSimplexWith textbookChooser 5 exTab = some (true, ⟨[[-4, 1, 1, 0]], [-4, 0, 1, -1], [1]⟩) ∧
    computeSimplexWith steepestEdgeExact 5 exTab = some (true, ⟨[[-4, 1, 1, 0]], [-4, 0, 1, -1], [1]⟩) :=
  ⟨exTab_canon, by decide, by decide⟩
-- maximise x1 with x1 − s − 1 = 0 (x1 ≥ 1), x1 basic: the slack column is a candidate without exiting row
example : computeSimplexWith textbookChooser 5 ⟨[[-1, 1, -1, 0]], [-1, 0, -1, -1], [1]⟩ =
    some (false, ⟨[[-1, 1, -1, 0]], [-1, 0, -1, -1], [1]⟩) := by decide

/-- (d) **all pricing rules return the same STATUS and VALUE** (textbook, steepest-edge exact, float). -/
theorem pricing_same_answer (ch1 ch2 : Chooser) (h1 : ChooserOK ch1) (h2 : ChooserOK ch2)
    (f1 f2 : Nat) (t r1 r2 : Tab) (ok1 ok2 : Bool) (hC : Canon t)
    (hr1 : computeSimplexWith ch1 f1 t = some (ok1, r1)) (hr2 : computeSimplexWith ch2 f2 t = some (ok2, r2)) :
    ok1 = ok2 ∧ (ok1 = true → basicObj r1.cost = basicObj r2.cost) :=
  Pend.pricing_same_answer ch1 ch2 h1 h2 f1 f2 t r1 r2 ok1 ok2 hC hr1 hr2

/-! ### (b2) erase_artificials -/

/-- (b2) **`erase_artificials` is valid.**  The artificial columns `[b, e)` are the trailing columns before the
    sign column (`e = numCols − 1`); the first phase ended with value 0, so that every artificial still in the
    base is 0 in the basic solution (`ArtInv`: such a row has inhomogeneous term 0).  Then the new tableau has
    `b + 1` columns and, on every valuation that is 0 on the artificial and sign columns (`NoArt b`), exactly the
    solutions of the old one (pivots keep solutions; a row dropped as redundant is `0 = 0` on the remaining
    columns: `redundant_row_zero`). -/
theorem erase_artificials_valid (b e numCols : Nat) (t : Tab) (hb : 1 ≤ b) (hbe : b < e) (he : e = numCols - 1)
    (h : ArtInv b e t) :
    (eraseArtificials b e numCols t).2 = b + 1 ∧
    (eraseArtificials b e numCols t).1.base.length = (eraseArtificials b e numCols t).1.T.length ∧
    ∀ y, NoArt b y → (Sol (eraseArtificials b e numCols t).1.T y ↔ Sol t.T y) :=
  Pend.erase_artificials_valid b e numCols t hb hbe he h

theorem redundant_rows_are_zero_rows {r : Row} {b : Nat} (h : firstNonzeroIn r 1 b = none) (h0 : r.get 0 = 0) :
    ∀ j, j < b → r.get j = 0 :=
  Pend.redundant_row_zero h h0

-- two rows with the artificial column 2 basic at value 0: the first pivots on x1, the second is redundant
example : eraseArtificials 2 3 4 ⟨[[0, 1, 1, 0], [0, 0, 1, 0]], [0, 0, 0, 1], [2, 2]⟩ =
    (⟨[[0, 1, 0]], [0, 0, 1], [1]⟩, 3) := by decide
example : ArtInv 2 3 ⟨[[0, 1, 1, 0], [0, 0, 1, 0]], [0, 0, 0, 1], [2, 2]⟩ :=
  ⟨rfl, by
    intro i hi _ _
    have : i = 0 ∨ i = 1 := by simp at hi; omega
    rcases this with rfl | rfl <;> rfl⟩

/-- (b2)/(c) **`erase_artificials` hands a feasible basis to the second phase.**  If the tableau at the end of
    the first phase is canonical and feasible (`CanonTB`: what `pricing_choice_irrelevant` (b) gives) and every
    artificial still basic is 0 (`ArtInv`), then after `erase_artificials` the tableau of width `b + 1` is again
    canonical and feasible, and no artificial column is left in the base (the pivots of step 1 are degenerate: the
    basic solution does not move; removing redundant rows keeps the other rows' basic columns). -/
theorem erase_artificials_feasible_basis (b e numCols : Nat) (t : Tab) (hb : 1 ≤ b) (hbe : b < e) (he : e = numCols - 1)
    (hC : CanonTB t.T t.base numCols) (hA : ArtInv b e t) (hcl : t.cost.length = numCols) :
    CanonTB (eraseArtificials b e numCols t).1.T (eraseArtificials b e numCols t).1.base (b + 1) ∧
    (eraseArtificials b e numCols t).1.cost.length = b + 1 :=
  eraseArtificials_canonTB b e numCols t hb hbe he hC hA hcl

-- x1 + a = 0 with the artificial a (column 3) basic at 0, x2 = 2 basic: a leaves, x1 enters, width 5 → 4
example : eraseArtificials 3 4 5 ⟨[[0, 1, 0, 1, 0], [-2, 0, 1, 0, 0]], [0, 0, 0, 0, 1], [3, 2]⟩ =
    (⟨[[0, 1, 0, 0], [-2, 0, 1, 0]], [0, 0, 0, 1], [1, 2]⟩, 4) := by decide
example : CanonTB [[0, 1, 0, 1, 0], [-2, 0, 1, 0, 0]] [3, 2] 5 := by
  have two : ∀ i, i < ([[0, 1, 0, 1, 0], [-2, 0, 1, 0, 0]] : List Row).length → i = 0 ∨ i = 1 := by
    intro i hi; simp at hi; omega
  constructor
  · rfl
  · decide
  · intro i hi; rcases two i hi with rfl | rfl <;> rfl
  · intro i hi; rcases two i hi with rfl | rfl <;> decide
  · intro i hi; rcases two i hi with rfl | rfl <;> decide
  · intro i j hi hj hij
    rcases two i hi with rfl | rfl <;> rcases two j hj with rfl | rfl <;> first | exact absurd rfl hij | rfl
  · intro i hi; rcases two i hi with rfl | rfl <;> rfl
  · intro i hi
    rcases two i hi with rfl | rfl
    · show (0 : Rat) ≤ -((0 : Int) : Rat) / ((1 : Int) : Rat); norm_num
    · show (0 : Rat) ≤ -((-2 : Int) : Rat) / ((1 : Int) : Rat); norm_num

/-! ### (b1) the tableau set up by process_pending_constraints -/

/-- (b1) **the tableau set up for a fresh problem has exactly the solutions of the constraint system.**
    `s` is the state `is_lp_satisfiable()` hands to `process_pending_constraints()` for a problem never solved
    before (`Fresh s`: nothing processed, `mapping = [(0,0)]`, two columns, no row).  With
    `TabSol T numCols b y` = (`y 0 = 1`, every column `≥ 1` non-negative, `y` zero from the first artificial column
    — or, without artificials, from the sign column — to the last column, every row of `T` vanishes at `y`) and
    `proj mapping y i = y (mapping i).first − y (mapping i).second`:
    * the set-up stops UNSATISFIABLE ⇒ the constraints have no solution (a trivially false row);
    * ready for the first phase with `(s', b, e)`, or stopped with an empty tableau (`b = 0`) ⇒
      (→) every `TabSol` projects into the solution set `csSem cs` (= `sem` of the reference rows, `csSem_iff_Sat`),
      (←) every point of `csSem cs` is the projection of a `TabSol`.
    The proof covers the rows dropped by `parse_constraints` (tautologies; `a·x ≥ 0` = the non-negativity of the
    column of a variable left unsplit) and shows that a variable is left unsplit only when a constraint forces it
    to be non-negative.
    Incremental case (`first_pending > 0`, re-merged variables, rows combined against the base, flags computed at
    `last_generator`): `incremental_setup_hands_over` in `C06TabIncr.lean`. -/
theorem tableau_setup_solutions (s : LPState) (hF : Fresh s) :
    (∀ s', ppcSetup s = .done s' → s'.status = .UNSATISFIABLE → ∀ x, ¬ csSem s.input_cs x) ∧
    (∀ s' b e, ppcSetup s = .phase1 s' b e → SetupGood s.input_cs s.external_space_dim s' b) ∧
    (∀ s', ppcSetup s = .done s' → s'.status ≠ .UNSATISFIABLE → SetupGood s.input_cs s.external_space_dim s' 0) :=
  Pend.tableau_setup_solutions s hF

/-- (b1) **the hypothesis `Fresh` is what the first `is_lp_satisfiable()` produces.**  A problem on which no
    solver call has run (`Untouched`: true of `MIP_Problem(dim)`, kept by every mutator) with at least one
    dimension and constraints inside the space: `is_lp_satisfiable()` runs `process_pending_constraints()` on the
    `Fresh` state `firstCall s` (two columns, `mapping[0]`), then marks everything processed. -/
theorem first_call_is_fresh (fc : Chooser) (fuel : Nat) (s : LPState) (h : Untouched s)
    (hn : 0 < s.external_space_dim) (hl : ∀ c ∈ s.input_cs, c.coeffs.length ≤ s.external_space_dim)
    (c : ICon) (e : LinExpr) (b : Bool) (m : Nat) (p : Pricing) :
    Fresh (firstCall s) ∧
    (isLpSatisfiable fc fuel s =
      match processPendingConstraints fc fuel (firstCall s) with
      | none => none
      | some s1 =>
        some ({ s1 with first_pending := s1.input_cs.length, internal_space_dim := s1.external_space_dim },
          s1.status != .UNSATISFIABLE)) ∧
    (Untouched (addConstraint s c) ∧ Untouched (setObjectiveFunction s e) ∧ Untouched (setOptimizationMode s b) ∧
      Untouched (addSpaceDimensionsAndEmbed s m) ∧ Untouched (setPricing s p)) :=
  ⟨firstCall_fresh s h hn hl, isLpSatisfiable_untouched fc fuel s h, mutators_untouched s h c e b m p⟩

example : Untouched (addConstraint (addConstraint (LPState.new 2) ⟨[1, 1], -2, false⟩) ⟨[1, 0], 0, false⟩) ∧
    Fresh (firstCall (addConstraint (addConstraint (LPState.new 2) ⟨[1, 1], -2, false⟩) ⟨[1, 0], 0, false⟩)) :=
  ⟨⟨rfl, rfl, rfl, rfl, rfl, rfl, rfl⟩,
    firstCall_fresh _ ⟨rfl, rfl, rfl, rfl, rfl, rfl, rfl⟩ (by decide) (by decide)⟩

theorem csSem_is_reference_sem (cs : List ICon) (x : Val) : csSem cs x ↔ Sat (cs.flatMap ICon.toCons) x :=
  csSem_iff_Sat cs x

/-- x0 + x1 ≥ 2, x0 ≥ 0 in two variables -/
def exFresh : LPState :=
  { LPState.new 2 with input_cs := [⟨[1, 1], -2, false⟩, ⟨[1, 0], 0, false⟩], numCols := 2, mapping := [(0, 0)] }

example : Fresh exFresh := ⟨rfl, rfl, rfl, rfl, rfl, rfl, by decide, by decide⟩
-- x0 unsplit (column 1), x1 split (columns 2, 3), slack 4, artificial 5, sign 6; the row `x0 ≥ 0` is dropped
example : (match ppcSetup exFresh with
    | .phase1 s' b e => (s'.tableau, s'.mapping, s'.numCols, b, e, s'.base)
    | .done _ => ([], [], 0, 0, 0, [])) =
    ([[-2, 1, 1, -1, -1, 1, 0]], [(0, 0), (1, 0), (2, 3)], 7, 5, 6, [5]) := by decide

/-! ### end to end for a problem never solved before -/

/-- **the set-up hands a canonical feasible tableau to the first phase** (fresh problem, `last_generator` = the
    origin as `MIP_Problem(dim)` leaves it): tableau + `base` + first-phase cost row are `Canon`;
    `end_artificials = numCols − 1`; the artificial columns start at `artStart b numCols ≥ 1`; on the solutions the cost
    row denotes `−Σ artificials`: it is `≤ 0` on non-negative valuations and `0` exactly when every artificial is 0.
    (Uses the count: artificial columns reserved at :803–:822 = rows not worked out.) -/
theorem setup_hands_canon_to_phase1 (s : LPState) (hF : Fresh s) (hlg : s.last_generator = ⟨[], 1⟩)
    (s' : LPState) (b e : Nat) (h : ppcSetup s = .phase1 s' b e) : Phase1Start s' b e :=
  setup_phase1_canon s hF hlg s' b e h

/-- **the first phase decides feasibility and gives `ArtInv`.**  From such a start, for any pricing rule returning
    candidates, when the loop terminates with `(ok, t)`: `ok = true` (never "unbounded"); `working_cost[0] ≠ 0` ⇒ the
    tableau has no non-negative solution with all artificials 0; `working_cost[0] = 0` ⇒ the basic solution of `t` is
    one, and every artificial still basic is 0 (`ArtInv`, the hypothesis of `erase_artificials_valid`). -/
theorem phase1_decides_feasibility (ch : Chooser) (hch : ChooserOK ch) (fuel : Nat) (s' : LPState) (b e : Nat)
    (hP : Phase1Start s' b e) (ok : Bool) (t : Tab) (h : computeSimplexWith ch fuel s'.tab = some (ok, t)) :
    ok = true ∧ Canon t ∧ t.cost.length = s'.numCols ∧ (∀ y, Sol t.T y ↔ Sol s'.tableau y) ∧
    (t.cost.get 0 ≠ 0 → ∀ y, ¬ TabSol s'.tableau s'.numCols b y) ∧
    (t.cost.get 0 = 0 → TabSol s'.tableau s'.numCols b (basicPt t) ∧ (b ≠ 0 → ArtInv b e t)) :=
  phase1_verdict ch hch fuel s' b e hP ok t h

example : Phase1Start
    (match ppcSetup exFresh with | .phase1 s' _ _ => s' | .done s' => s') 5 6 := by
  have h : ppcSetup exFresh = .phase1 (match ppcSetup exFresh with | .phase1 s' _ _ => s' | .done s' => s') 5 6 := by
    rfl
  exact setup_phase1_canon exFresh ⟨rfl, rfl, rfl, rfl, rfl, rfl, by decide, by decide⟩ rfl _ 5 6 h

/-- **`compute_generator`**: for a feasible basis and a mapping with non-zero first columns, the point built has a
    positive divisor, one coordinate per problem variable, and is the projection of the basic solution. -/
theorem compute_generator_is_basic_solution {T : List Row} {base : List Nat} {n : Nat} (hC : CanonTB T base n)
    (M : List (Nat × Nat)) (ext : Nat) (hext : 0 < ext) (hM : ∀ i, i < ext → (M.getD (i+1) (0, 0)).1 ≠ 0) :
    0 < (computeGeneratorPt ext T base M).den ∧
    (computeGeneratorPt ext T base M).num.length = ext ∧
    ∀ i, i < ext → (computeGeneratorPt ext T base M).val i = proj M (bsol T base) i :=
  computeGeneratorPt_spec hC M ext hext hM

/-- **END TO END: the LP answers of the model on a problem never solved before are right** (any pricing rule
    returning candidates; fuel hypotheses = the two calls terminate).  `s` is built by `MIP_Problem(dim)` and mutators
    (`Untouched`, `last_generator` the origin), `dim > 0`, constraints and objective inside the space;
    `P = s.problem` is the reference problem (`Sat P.cs` = `sem` of the rows `ICon.toCons`).
    (i)  `is_lp_satisfiable()` returns false ⇒ no point satisfies the constraints;
    (ii) it returns true ⇒ some point does, and after `second_phase()` (which returns at once when the set-up
         produced no tableau row and `process_pending_constraints` answered by `is_unbounded_obj_function`):
         the status is OPTIMIZED or UNBOUNDED; `last_generator` has a positive divisor and satisfies every constraint;
         OPTIMIZED ⇒ no point of the solution set has a better objective value than `last_generator` (in the mode of
         `P`; the inhomogeneous term of the objective is not in the cost row, `objVal` includes it: the comparison is
         unaffected); UNBOUNDED ⇒ points with arbitrarily good objective value exist.
    These are the three clauses of `PPLV.Solver.BB.LPCorrect` (`C06.lp_fresh_implies_LPCorrect` in
    `Props/C06TabBB.lean`). -/
theorem lp_fresh_correct (fc : Chooser) (hfc : ChooserOK fc) (f1 f2 : Nat) (s s1 : LPState) (r : Bool)
    (hU : Untouched s) (hlg : s.last_generator = ⟨[], 1⟩) (hn : 0 < s.external_space_dim)
    (hl : ∀ c ∈ s.input_cs, c.coeffs.length ≤ s.external_space_dim)
    (hobj : s.obj.coeffs.length ≤ s.external_space_dim)
    (h1 : isLpSatisfiable fc f1 s = some (s1, r)) :
    (r = false → ∀ x, ¬ Sat s.problem.cs x) ∧
    (r = true → (∃ x, Sat s.problem.cs x) ∧ ∀ s2, secondPhase fc f2 s1 = some s2 →
      (s2.status = .OPTIMIZED ∨ s2.status = .UNBOUNDED) ∧
      0 < s2.last_generator.den ∧ Sat s.problem.cs s2.last_generator.val ∧
      (s2.status = .OPTIMIZED → ∀ x, Sat s.problem.cs x →
        ¬ Better s.problem (s.problem.objVal x) (s.problem.objVal s2.last_generator.val)) ∧
      (s2.status = .UNBOUNDED → ∀ M : Rat, ∃ x, Sat s.problem.cs x ∧ Better s.problem (s.problem.objVal x) M)) := by
  have hsem : ∀ x, Sat s.problem.cs x ↔ csSem s.input_cs x := fun x => (csSem_iff_Sat s.input_cs x).symm
  obtain ⟨a, b⟩ := Pend.lp_fresh_correct fc hfc f1 f2 s s1 r hU hlg hn hl hobj h1
  refine ⟨fun hr x hx => a hr x ((hsem x).mp hx), fun hr => ?_⟩
  obtain ⟨⟨x0, hx0⟩, b2⟩ := b hr
  refine ⟨⟨x0, (hsem x0).mpr hx0⟩, fun s2 h2 => ?_⟩
  obtain ⟨w1, w2, w3, w4, w5⟩ := b2 s2 h2
  exact ⟨w1, w2, (hsem _).mpr w3, fun hopt x hx => w4 hopt x ((hsem x).mp hx),
    fun hunb M => by obtain ⟨x, x1, x2⟩ := w5 hunb M; exact ⟨x, (hsem x).mpr x1, x2⟩⟩

/-- x ≤ 4, x ≥ 0, maximise x: never solved before -/
def exNew : LPState :=
  setPricing (setObjectiveFunction (addConstraint (addConstraint (LPState.new 1) ⟨[-1], 4, false⟩) ⟨[1], 0, false⟩) ⟨[1], 0⟩)
    .TEXTBOOK

example : Untouched exNew ∧ exNew.last_generator = ⟨[], 1⟩ ∧
    (isLpSatisfiable textbookChooser 20 exNew).map (fun r => (r.1.status, r.2)) = some (.SATISFIABLE, true) ∧
    ((isLpSatisfiable textbookChooser 20 exNew).bind fun r => (secondPhase textbookChooser 20 r.1).map
      fun s2 => (s2.status, s2.last_generator.num, s2.last_generator.den)) = some (.OPTIMIZED, [4], 1) :=
  ⟨⟨rfl, rfl, rfl, rfl, rfl, rfl, rfl⟩, rfl, by decide, by decide⟩

/-! ### (c) second phase / re-optimisation -/

/-- (c) **`second_phase()` from ANY feasible basis, with ANY pricing rule.**  `s` is SATISFIABLE and holds a
    feasible basis (`CanonTB`); `secondPhaseCost s` (the objective, negated when minimising, at the columns of the
    mapping, sign entry 1) has the tableau's width and a non-zero sign entry.  When the phase terminates: status
    OPTIMIZED or UNBOUNDED; same solution set; the basis left is feasible again; OPTIMIZED ⇒ `basicObj` of the final
    cost row is the maximum of the objective over the non-negative solutions (bound + attained); UNBOUNDED ⇒ the
    objective has no upper bound on them. -/
theorem second_phase_sound (fc : Chooser) (hfc : ChooserOK fc) (fuel : Nat) (s s' : LPState)
    (hst : s.status = .SATISFIABLE) (hTB : CanonTB s.tableau s.base s.working_cost.length)
    (hcl : (secondPhaseCost s).length = s.working_cost.length)
    (hcs : (secondPhaseCost s).get (s.working_cost.length - 1) ≠ 0)
    (h : secondPhase fc fuel s = some s') :
    (s'.status = .OPTIMIZED ∨ s'.status = .UNBOUNDED) ∧
    s'.working_cost.length = s.working_cost.length ∧
    CanonTB s'.tableau s'.base s'.working_cost.length ∧
    (∀ y, Sol s'.tableau y ↔ Sol s.tableau y) ∧
    (s'.status = .OPTIMIZED →
      (∀ y, Sol s.tableau y → NonnegPt s.working_cost.length y → objAt (secondPhaseCost s) y ≤ basicObj s'.working_cost) ∧
      ∃ y, Sol s.tableau y ∧ NonnegPt s.working_cost.length y ∧ objAt (secondPhaseCost s) y = basicObj s'.working_cost) ∧
    (s'.status = .UNBOUNDED →
      ∀ M : Rat, ∃ y, Sol s.tableau y ∧ NonnegPt s.working_cost.length y ∧ M < objAt (secondPhaseCost s) y) :=
  secondPhase_sound fc hfc fuel s s' hst hTB hcl hcs h

/-- the state after `is_lp_satisfiable()` on `x ≤ 4, x ≥ 0`, objective `x` -/
def exSat : LPState where
  external_space_dim := 1
  internal_space_dim := 1
  tableau := [[-4, 1, 1, 0]]
  numCols := 4
  working_cost := [0, 0, 0, 1]
  mapping := [(0, 0), (1, 0)]
  base := [1]
  status := .SATISFIABLE
  pricing := .TEXTBOOK
  input_cs := [⟨[-1], 4, false⟩, ⟨[1], 0, false⟩]
  first_pending := 2
  obj := ⟨[1], 0⟩
  last_generator := ⟨[4], 1⟩

example : CanonTB exSat.tableau exSat.base exSat.working_cost.length := by
  have one : ∀ i, i < exSat.tableau.length → i = 0 := by intro i hi; simp [exSat] at hi; exact hi
  constructor
  · rfl
  · decide
  · intro i hi; rw [one i hi]; rfl
  · intro i hi; rw [one i hi]; decide
  · intro i hi; rw [one i hi]; decide
  · intro i j hi hj hij; exact absurd ((one i hi).trans (one j hj).symm) hij
  · intro i hi; rw [one i hi]; rfl
  · intro i hi; rw [one i hi]
    show (0 : Rat) ≤ -((-4 : Int) : Rat) / ((1 : Int) : Rat)
    norm_num
example : secondPhaseCost exSat = [0, 1, 0, 1] ∧
    (secondPhase textbookChooser 5 exSat).map (fun r => (r.status, r.working_cost, r.last_generator.num)) =
      some (.OPTIMIZED, [-4, 0, 1, -1], [4]) := by decide

/-- (c) **the cost row of the second phase is the objective.**  For a mapping laid out as `MapOK` (distinct
    columns increasing with the variable, all before the sign column — what the mapping loop produces,
    `ppcMapping_fresh`), `objAt (secondPhaseCost s) y` is `±obj·x` at the projected point `x = proj mapping y`
    (`+` maximising, `−` minimising; the inhomogeneous term of the objective is not part of the cost row), for every
    valuation with `y 0 = 1` and sign column 0.  Together with `second_phase_sound`: OPTIMIZED ⇒ the value is the
    optimum of the objective over the projected solution set, UNBOUNDED ⇒ it is unbounded there. -/
theorem second_phase_cost_is_objective (s : LPState) (nn : List Bool) (n j : Nat) (hM : MapOK s.mapping nn n j)
    (hcols : 1 + j ≤ s.working_cost.length - 1) (hobj : s.obj.coeffs.length ≤ n) :
    (secondPhaseCost s).length = s.working_cost.length ∧
    (secondPhaseCost s).get (s.working_cost.length - 1) = 1 ∧
    ∀ y : Val, NonnegPt s.working_cost.length y →
      objAt (secondPhaseCost s) y = dot (sgnObj s) (proj s.mapping y) :=
  ⟨(secondPhaseCost_spec s nn n j hM hcols hobj).1, (secondPhaseCost_spec s nn n j hM hcols hobj).2.1,
    fun y hy => objAt_secondPhaseCost s nn n j hM hcols hobj y hy⟩

example : MapOK exSat.mapping [true] 1 1 := by
  refine ⟨rfl, rfl, fun u hu => ?_, fun u u' h1 h2 => by omega⟩
  have : u = 0 := by omega
  subst this
  exact ⟨by decide, Or.inl rfl, ⟨fun _ => rfl, fun _ => rfl⟩, by decide⟩

/-- (c) **re-optimisation equals a fresh solve in status and value** (model states).  Two SATISFIABLE states
    holding feasible bases of tableaux with the same columns and the same solution set — e.g. the state left by
    earlier solves and incremental steps, and the state of a fresh problem with the same constraints (both describe
    `sem cs` by (b1)/(b2)) — whose second-phase cost rows denote the same objective there: whatever the two pricing
    rules, when both second phases terminate they end with the same status, and OPTIMIZED with the same value. -/
theorem reoptimize_value_eq_fresh (fc1 fc2 : Chooser) (h1 : ChooserOK fc1) (h2 : ChooserOK fc2) (f1 f2 : Nat)
    (s1 s2 r1 r2 : LPState) (hs1 : s1.status = .SATISFIABLE) (hs2 : s2.status = .SATISFIABLE)
    (hT1 : CanonTB s1.tableau s1.base s1.working_cost.length)
    (hT2 : CanonTB s2.tableau s2.base s2.working_cost.length)
    (hn : s1.working_cost.length = s2.working_cost.length)
    (hc1 : (secondPhaseCost s1).length = s1.working_cost.length ∧ (secondPhaseCost s1).get (s1.working_cost.length - 1) ≠ 0)
    (hc2 : (secondPhaseCost s2).length = s2.working_cost.length ∧ (secondPhaseCost s2).get (s2.working_cost.length - 1) ≠ 0)
    (hsol : ∀ y, Sol s1.tableau y ↔ Sol s2.tableau y)
    (hobj : ∀ y, Sol s1.tableau y → objAt (secondPhaseCost s1) y = objAt (secondPhaseCost s2) y)
    (hr1 : secondPhase fc1 f1 s1 = some r1) (hr2 : secondPhase fc2 f2 s2 = some r2) :
    r1.status = r2.status ∧ (r1.status = .OPTIMIZED → basicObj r1.working_cost = basicObj r2.working_cost) :=
  secondPhase_value_eq fc1 fc2 h1 h2 f1 f2 s1 s2 r1 r2 hs1 hs2 hT1 hT2 hn hc1 hc2 hsol hobj hr1 hr2

/-- (c) the same on tableaux: any two canonical feasible tableaux with the same solutions and the same objective -/
theorem reoptimize_value_eq_fresh_tableau (ch1 ch2 : Chooser) (h1 : ChooserOK ch1) (h2 : ChooserOK ch2)
    (f1 f2 : Nat) (t1 t2 r1 r2 : Tab) (ok1 ok2 : Bool) (hC1 : Canon t1) (hC2 : Canon t2)
    (hlen : t1.cost.length = t2.cost.length) (hsol : ∀ x, Sol t1.T x ↔ Sol t2.T x)
    (hobj : ∀ x, Sol t1.T x → objAt t1.cost x = objAt t2.cost x)
    (hr1 : computeSimplexWith ch1 f1 t1 = some (ok1, r1)) (hr2 : computeSimplexWith ch2 f2 t2 = some (ok2, r2)) :
    ok1 = ok2 ∧ (ok1 = true → basicObj r1.cost = basicObj r2.cost) :=
  Pend.reoptimize_value_eq_fresh ch1 ch2 h1 h2 f1 f2 t1 t2 r1 r2 ok1 ok2 hC1 hC2 hlen hsol hobj hr1 hr2

-- the same LP from two different feasible bases (slack basic / x basic): both end OPTIMIZED with value 4
example : (computeSimplexWith textbookChooser 5 exTab).map (fun r => (r.1, r.2.cost)) = some (true, [-4, 0, 1, -1]) ∧
    (computeSimplexWith steepestEdgeExact 5 ⟨[[-4, 1, 1, 0]], [-4, 0, 1, -1], [1]⟩).map (fun r => (r.1, r.2.cost)) =
      some (true, [-4, 0, 1, -1]) ∧ basicObj [-4, 0, 1, -1] = 4 := by
  refine ⟨by decide, by decide, ?_⟩
  show ((-4 : Int) : Rat) / ((-1 : Int) : Rat) = 4
  norm_num

/-- (c) **the status transitions** (`StatusInv s`: a status SATISFIABLE / UNBOUNDED / OPTIMIZED promises that no
    constraint and no space dimension is pending).  It holds initially, every mutator keeps it — `add_constraint`
    and `add_space_dimensions_and_embed` never leave such a status (PARTIALLY_SATISFIABLE, or UNSATISFIABLE which is
    sticky), `set_objective_function` / `set_optimization_mode` turn UNBOUNDED / OPTIMIZED into SATISFIABLE and give
    SATISFIABLE only if the problem was solved — the mutators do not touch tableau, base, mapping and cost row (a
    feasible basis of the processed constraints stays one), `is_lp_satisfiable()` establishes it and answers
    `status ≠ UNSATISFIABLE`, `second_phase()` keeps it and ends solved.
    The remaining part of the protocol — "solved status ⇒ the basis is feasible and encodes the processed
    constraints, the answers are truthful", through fresh AND incremental calls — is `C06.status_sound`
    (`PPLV/Props/C06TabIncr.lean`, invariant `ProtoInv`). -/
theorem status_transitions (s : LPState) (h : StatusInv s) (c : ICon) (e : LinExpr) (b : Bool) (m : Nat) (p : Pricing) :
    StatusInv (LPState.new m) ∧
    (StatusInv (addConstraint s c) ∧ StatusInv (setObjectiveFunction s e) ∧ StatusInv (setOptimizationMode s b) ∧
      StatusInv (addSpaceDimensionsAndEmbed s m) ∧ StatusInv (setPricing s p)) ∧
    (¬ Solved (addConstraint s c).status ∧ ¬ Solved (addSpaceDimensionsAndEmbed s m).status) ∧
    ((setObjectiveFunction s e).status ≠ .UNBOUNDED ∧ (setObjectiveFunction s e).status ≠ .OPTIMIZED ∧
      ((setObjectiveFunction s e).status = .SATISFIABLE → Solved s.status)) ∧
    (∀ s' ∈ [addConstraint s c, setObjectiveFunction s e, setOptimizationMode s b,
        addSpaceDimensionsAndEmbed s m, setPricing s p],
      s'.tableau = s.tableau ∧ s'.base = s.base ∧ s'.mapping = s.mapping ∧ s'.numCols = s.numCols ∧
      s'.working_cost = s.working_cost ∧ s'.first_pending = s.first_pending ∧
      s'.internal_space_dim = s.internal_space_dim) ∧
    (∀ fc fuel s' r, isLpSatisfiable fc fuel s = some (s', r) →
      StatusInv s' ∧ (r = true ↔ s'.status ≠ .UNSATISFIABLE) ∧
      (s.status = .PARTIALLY_SATISFIABLE →
        s'.first_pending = s'.input_cs.length ∧ s'.internal_space_dim = s'.external_space_dim) ∧
      (s.status ≠ .PARTIALLY_SATISFIABLE → s' = s)) ∧
    (∀ fc fuel s', Solved s.status → secondPhase fc fuel s = some s' → StatusInv s' ∧ Solved s'.status) :=
  ⟨new_statusInv m, mutators_statusInv s h c e b m p,
    ⟨(addConstraint_status s c).2, (addSpaceDimensionsAndEmbed_status s m).2⟩,
    (setObjectiveFunction_status s e).2, mutators_keep_tableau s c e b m p,
    fun fc fuel s' r hr => isLpSatisfiable_statusInv fc fuel s s' r h hr,
    fun fc fuel s' hs hr => secondPhase_statusInv fc fuel s s' h hs hr⟩

example : StatusInv exSat ∧ Solved exSat.status ∧ (addConstraint exSat ⟨[1], -1, false⟩).status = .PARTIALLY_SATISFIABLE ∧
    (setObjectiveFunction (setObjectiveFunction exSat ⟨[2], 0⟩) ⟨[1], 0⟩).status = .SATISFIABLE :=
  ⟨fun _ => ⟨rfl, rfl⟩, Or.inl rfl, rfl, rfl⟩

end C06

import PPLV.WR.ClosureProofsBDS
import PPLV.WR.ClosureProofsOct
import PPLV.WR.ClosureProofsDeduceOct
import PPLV.WR.ClosureProofsFW
import Mathlib.Tactic.IntervalCases
import Mathlib.Tactic.NormNum
/-!
# C03 — closure kernels and deduction helpers of the weakly-relational domains, for every bound type

Statements about the code-shaped models of `PPLV/WR/Closure.lean` (`BD_Shape_templates.hh`,
`Octagonal_Shape_templates.hh`).  A bound is an extended rational, every `ROUND_UP` operation of the
code is an arbitrary `up : ℚ → ExtRat` with the single hypothesis `hup : ∀ x, fin x ≤ up x`
(`mpq_class`: `upId`; `mpz_class`: `upCeil`; bounded integers: `upCeilMax`; floats: round to the next
float, overflow to `+∞`).  `γ m` is the set of valuations `ℕ → ℚ` satisfying every stored entry.

* closures only tighten and never cut a point: `closure_sound`, `incClosure_sound`,
  `strongClosure_sound`, `strongCoherence_sound`, `incStrongClosure_sound`; `tightClosure_sound`
  w.r.t. integer points (`γInt`); `tightClosure_tightens` needs that decrementing an odd integer is
  not rounded above it (true of every integer type; `upCeil_dec`).
* a firing emptiness test is right: `empty_sound`, `incEmpty_sound`, `oct_empty_sound`,
  `incOct_empty_sound`, `tight_empty_sound` (no *integer* point).
* exact arithmetic (`up = upId`, `mpq_class`), `BD_Shape`: `closure_exact` (the closed matrix is the
  canonical tightest one: same points, non-empty, every finite entry attained, every `+∞` entry
  unbounded), `empty_iff_exact` (the emptiness test fires iff the shape is empty),
  `closure_canonical` (closed matrices of equal non-empty shapes are equal).  The analogue for
  `strong_closure_assign` (octagons) is not proved.
* deduction helpers: `deduce_v_minus_u_sound`, `deduce_u_minus_v_sound`, `deduce_v_pm_u_sound`,
  `deduce_minus_v_pm_u_sound`.
-/
set_option linter.unnecessarySeqFocus false
set_option linter.unusedTactic false
set_option linter.unreachableTactic false
namespace C03
open PPLV.WR
open PPLV.WR.ExtRat (fin pinf)

/-! ## bounded-difference shapes -/

/-- `shortest_path_closure_assign` keeps every point and only lowers entries. -/
theorem closure_sound {n : ℕ} (up : ℚ → ExtRat) (hup : ∀ x : ℚ, (x : ExtRat) ≤ up x) (m : DBM n) :
    DBM.γ m ⊆ DBM.γ (DBM.closure up m) ∧ DBM.closure up m ≤ m :=
  ⟨fun x hx => DBM.closure_sat hup m x hx, DBM.closure_le hup m⟩

/-- `incremental_shortest_path_closure_assign(Variable(v-1))`, `v` the dbm index. -/
theorem incClosure_sound {n : ℕ} (up : ℚ → ExtRat) (hup : ∀ x : ℚ, (x : ExtRat) ≤ up x) (v : ℕ) (hv : v ≤ n)
    (m : DBM n) : DBM.γ m ⊆ DBM.γ (DBM.incClosure up v m) ∧ DBM.incClosure up v m ≤ m :=
  ⟨fun x hx => DBM.incClosure_sat hup hv m x hx, DBM.incClosure_le hup hv m⟩

/-- if the emptiness test of the closure fires (a negative diagonal entry), the shape is empty. -/
theorem empty_sound {n : ℕ} (up : ℚ → ExtRat) (hup : ∀ x : ℚ, (x : ExtRat) ≤ up x) (m : DBM n)
    (h : DBM.closureEmpty up m = true) : DBM.γ m = ∅ :=
  Set.eq_empty_iff_forall_notMem.2 fun x hx => DBM.closureEmpty_sound hup m h x hx

theorem incEmpty_sound {n : ℕ} (up : ℚ → ExtRat) (hup : ∀ x : ℚ, (x : ExtRat) ≤ up x) (v : ℕ) (hv : v ≤ n)
    (m : DBM n) (h : DBM.incClosureEmpty up v m = true) : DBM.γ m = ∅ :=
  Set.eq_empty_iff_forall_notMem.2 fun x hx => DBM.incClosureEmpty_sound hup hv m h x hx

/-! ### non-vacuity: `0 ≤ x₀ ≤ 3`, `x₁ - x₀ ≤ 1` -/

def exB : DBM 2 := DBM.ofLists 2
  [[pinf, fin 3, pinf],
   [fin 0, pinf, fin 1],
   [pinf, pinf, pinf]]

/-- the point `(1, 2)` -/
def ptB : ℕ → ℚ := fun i => if i = 0 then 1 else 2

-- cell by cell: the entry is `+∞`, or the difference of the coordinates is at most the finite entry
example : ptB ∈ DBM.γ exB := by
  intro i j hi hj
  interval_cases i <;> interval_cases j <;>
    first | exact ExtRat.le_pinf _ | exact ExtRat.fin_le_fin.2 (by norm_num [DBM.val, ptB])
example : ptB ∈ DBM.γ (DBM.closure upId exB) := (closure_sound upId upId_sound exB).1 (by
  intro i j hi hj
  interval_cases i <;> interval_cases j <;>
    first | exact ExtRat.le_pinf _ | exact ExtRat.fin_le_fin.2 (by norm_num [DBM.val, ptB]))
-- the closure deduces `x₁ ≤ 4` and `x₀ - x₁ …` stays unbounded; integers: the same; emptiness test silent
example : (DBM.closure upId exB).e 0 2 = fin 4 := by decide +kernel
example : (DBM.closure upId exB).e 2 1 = pinf := by decide +kernel
example : (DBM.closure upCeil exB).e 0 2 = fin 4 := by decide +kernel
example : (DBM.incClosure upId 1 exB).e 0 2 = fin 4 := by decide +kernel
example : DBM.closureEmpty upId exB = false := by decide +kernel
example : (DBM.incClosure upId 1 exB).e 0 2 ≤ exB.e 0 2 :=
  (incClosure_sound upId upId_sound 1 (by norm_num) exB).2 0 2 (by norm_num) (by norm_num)

/-- `x₀ ≤ 0`, `x₀ ≥ 1` -/
def exBE : DBM 2 := DBM.ofLists 2
  [[pinf, fin 0, pinf],
   [fin (-1), pinf, pinf],
   [pinf, pinf, pinf]]

example : DBM.closureEmpty upId exBE = true := by decide +kernel
example : DBM.γ exBE = ∅ := empty_sound upId upId_sound exBE (by decide +kernel)
example : DBM.γ exBE = ∅ := incEmpty_sound upCeil upCeil_sound 1 (by norm_num) exBE (by decide +kernel)

/-! ## exact arithmetic: the closed matrix is canonical (`BD_Shape<mpq_class>`) -/

/-- With exact arithmetic and a silent emptiness test, `shortest_path_closure_assign` leaves the
canonical matrix of the shape: it has the same points, the shape is non-empty, and for `i ≠ j` a
finite entry is the maximum of `x_j - x_i` over the shape (attained), an infinite entry means that
`x_j - x_i` is unbounded above on the shape. -/
theorem closure_exact {n : ℕ} (m : DBM n) (hne : DBM.closureEmpty upId m = false) :
    DBM.γ (DBM.closure upId m) = DBM.γ m ∧ (DBM.γ m).Nonempty ∧
    ∀ i j, i ≤ n → j ≤ n → i ≠ j →
      (∀ w : ℚ, (DBM.closure upId m).e i j = fin w →
        (∀ x ∈ DBM.γ m, DBM.val x j - DBM.val x i ≤ w) ∧ ∃ x ∈ DBM.γ m, DBM.val x j - DBM.val x i = w) ∧
      ((DBM.closure upId m).e i j = pinf → ∀ B : ℚ, ∃ x ∈ DBM.γ m, B ≤ DBM.val x j - DBM.val x i) := by
  have hs := closure_sound upId upId_sound m
  refine ⟨Set.Subset.antisymm (fun x hx i j hi hj => ExtRat.le_trans' (hx i j hi hj) (hs.2 i j hi hj)) hs.1,
    DBM.closure_nonempty m hne, fun i j hi hj hij => ⟨fun w hw => ⟨fun x hx => ?_, ?_⟩, ?_⟩⟩
  · have := hs.1 hx i j hi hj
    rw [hw, ExtRat.fin_le_fin] at this
    exact this
  · exact (DBM.closure_tight m hne hi hj hij).1 w hw
  · exact (DBM.closure_tight m hne hi hj hij).2

/-- exact arithmetic: the emptiness test of the closure decides emptiness. -/
theorem empty_iff_exact {n : ℕ} (m : DBM n) : DBM.closureEmpty upId m = true ↔ DBM.γ m = ∅ := by
  constructor
  · exact empty_sound upId upId_sound m
  · intro h
    cases hc : DBM.closureEmpty upId m with
    | true => rfl
    | false =>
      obtain ⟨x, hx⟩ := DBM.closure_nonempty m hc
      exact absurd (h ▸ hx : x ∈ (∅ : Set (ℕ → ℚ))) (Set.notMem_empty x)

/-- exact arithmetic: two non-empty shapes with the same points have the same closed matrix. -/
theorem closure_canonical {n : ℕ} (m₁ m₂ : DBM n) (h₁ : DBM.closureEmpty upId m₁ = false)
    (h₂ : DBM.closureEmpty upId m₂ = false) (heq : DBM.γ m₁ = DBM.γ m₂) :
    ∀ i j, i ≤ n → j ≤ n → (DBM.closure upId m₁).e i j = (DBM.closure upId m₂).e i j :=
  fun _ _ hi hj => DBM.closure_canonical m₁ m₂ h₁ h₂
    (fun x => ⟨fun h => (heq ▸ h : x ∈ DBM.γ m₂), fun h => (heq ▸ h : x ∈ DBM.γ m₁)⟩) hi hj

-- non-vacuity on `exB` (`0 ≤ x₀ ≤ 3`, `x₁ - x₀ ≤ 1`): the entry `x₁ ≤ 4` is attained
example : ∃ x ∈ DBM.γ exB, DBM.val x 2 - DBM.val x 0 = 4 :=
  ((closure_exact exB (by decide +kernel)).2.2 0 2 (by norm_num) (by norm_num) (by norm_num)).1 4
    (by decide +kernel) |>.2
example : ∀ B : ℚ, ∃ x ∈ DBM.γ exB, B ≤ DBM.val x 1 - DBM.val x 2 :=
  ((closure_exact exB (by decide +kernel)).2.2 2 1 (by norm_num) (by norm_num) (by norm_num)).2
    (by decide +kernel)
example : DBM.closureEmpty upId exBE = true := (empty_iff_exact exBE).2
  (empty_sound upId upId_sound exBE (by decide +kernel))
/-- the same shape as `exB` with the redundant `x₁ ≤ 7` added -/
def exB' : DBM 2 := DBM.ofLists 2
  [[pinf, fin 3, fin 7],
   [fin 0, pinf, fin 1],
   [pinf, pinf, pinf]]
example : (DBM.closure upId exB').e 0 2 = (DBM.closure upId exB).e 0 2 := by decide +kernel

/-! ## octagonal shapes -/

/-- `strong_closure_assign`. -/
theorem strongClosure_sound {n : ℕ} (up : ℚ → ExtRat) (hup : ∀ x : ℚ, (x : ExtRat) ≤ up x) (m : OctM n) :
    OctM.γ m ⊆ OctM.γ (OctM.strongClosure up m) ∧ OctM.strongClosure up m ≤ m :=
  ⟨fun x hx => OctM.strongClosure_sat hup m x hx, OctM.strongClosure_le hup m⟩

/-- `strong_coherence_assign`: `m_ij := min(m_ij, (m_i,ci + m_cj,j)/2)` with both operations rounded up. -/
theorem strongCoherence_sound {n : ℕ} (up : ℚ → ExtRat) (hup : ∀ x : ℚ, (x : ExtRat) ≤ up x) (m : OctM n) :
    OctM.γ m ⊆ OctM.γ (OctM.strongCoherence up m) ∧ OctM.strongCoherence up m ≤ m :=
  ⟨fun x hx => OctM.strongCoherence_sat hup m x hx, OctM.strongCoherence_le hup m⟩

/-- `incremental_strong_closure_assign(Variable(vid))`. -/
theorem incStrongClosure_sound {n : ℕ} (up : ℚ → ExtRat) (hup : ∀ x : ℚ, (x : ExtRat) ≤ up x) (vid : ℕ)
    (hv : vid < n) (m : OctM n) :
    OctM.γ m ⊆ OctM.γ (OctM.incStrongClosure up vid m) ∧ OctM.incStrongClosure up vid m ≤ m :=
  ⟨fun x hx => OctM.incStrongClosure_sat hup hv m x hx, OctM.incStrongClosure_le hup hv m⟩

theorem oct_empty_sound {n : ℕ} (up : ℚ → ExtRat) (hup : ∀ x : ℚ, (x : ExtRat) ≤ up x) (m : OctM n)
    (h : OctM.strongClosureEmpty up m = true) : OctM.γ m = ∅ :=
  Set.eq_empty_iff_forall_notMem.2 fun x hx => OctM.strongClosureEmpty_sound hup m h x hx

theorem incOct_empty_sound {n : ℕ} (up : ℚ → ExtRat) (hup : ∀ x : ℚ, (x : ExtRat) ≤ up x) (vid : ℕ)
    (hv : vid < n) (m : OctM n) (h : OctM.incStrongClosureEmpty up vid m = true) : OctM.γ m = ∅ :=
  Set.eq_empty_iff_forall_notMem.2 fun x hx => OctM.incStrongClosureEmpty_sound hup hv m h x hx

/-- `tight_closure_assign` keeps every *integer* point. -/
theorem tightClosure_sound {n : ℕ} (up : ℚ → ExtRat) (hup : ∀ x : ℚ, (x : ExtRat) ≤ up x) (m : OctM n) :
    OctM.γInt m ⊆ OctM.γInt (OctM.tightClosure up m) :=
  fun x hx => ⟨OctM.tightClosure_sat hup m x hx.2 hx.1, hx.2⟩

/-- … and only lowers entries, provided `sub_assign_r(x, x, 1, ROUND_UP)` on an odd integer `x` does not
exceed `x` (every integer type; an arbitrary `up` could round `x - 1` above `x`). -/
theorem tightClosure_tightens {n : ℕ} (up : ℚ → ExtRat) (hup : ∀ x : ℚ, (x : ExtRat) ≤ up x)
    (hdec : ∀ q : ℚ, (fin q).isOddInt = true → up (q - 1) ≤ fin q) (m : OctM n) :
    OctM.tightClosure up m ≤ m :=
  OctM.tightClosure_le hup hdec m

/-- when `tight_closure_assign` marks the shape empty it has no integer point. -/
theorem tight_empty_sound {n : ℕ} (up : ℚ → ExtRat) (hup : ∀ x : ℚ, (x : ExtRat) ≤ up x) (m : OctM n)
    (h : OctM.tightClosureEmpty up m = true) : OctM.γInt m = ∅ :=
  Set.eq_empty_iff_forall_notMem.2 fun x hx => OctM.tightClosureEmpty_sound hup m h x hx.2 hx.1

/-! ### non-vacuity: `2·x₀ ≤ 3`, `-2·x₀ ≤ 0`, `x₁ - x₀ ≤ 1` (rows `+x₀, -x₀, +x₁, -x₁`) -/

def exO : OctM 2 := OctM.ofLists 2
  [[pinf, fin 0],
   [fin 3, pinf],
   [pinf, pinf, pinf, pinf],
   [pinf, fin 1, pinf, pinf]]

/-- the point `(1, 2)` -/
def ptO : ℕ → ℚ := fun i => if i = 0 then 1 else 2

theorem ptO_mem : ptO ∈ OctM.γ exO := by
  intro i j hi hj
  interval_cases i <;> simp only [rowSize] at hj <;> interval_cases j <;>
    first | exact ExtRat.le_pinf _ | exact ExtRat.fin_le_fin.2 (by norm_num [OctM.oval, ptO])

example : ptO ∈ OctM.γ (OctM.strongClosure upId exO) := (strongClosure_sound upId upId_sound exO).1 ptO_mem
example : ptO ∈ OctM.γ (OctM.strongCoherence upCeil exO) := (strongCoherence_sound upCeil upCeil_sound exO).1 ptO_mem
example : ptO ∈ OctM.γ (OctM.incStrongClosure upId 0 exO) :=
  (incStrongClosure_sound upId upId_sound 0 (by norm_num) exO).1 ptO_mem
example : ptO ∈ OctM.γInt (OctM.tightClosure upCeil exO) :=
  tightClosure_sound upCeil upCeil_sound exO ⟨ptO_mem, fun i _ => by
    by_cases h : i = 0
    · exact ⟨1, by simp [ptO, h]⟩
    · exact ⟨2, by simp [ptO, h]⟩⟩
-- `m[3][1]` bounds `-x₀ + x₁`, `m[3][2]` bounds `2·x₁`: strong closure gives `2·x₁ ≤ 5`, tight closure
-- first lowers `2·x₀ ≤ 3` to `2·x₀ ≤ 2` and then gives `2·x₁ ≤ 4`
example : (OctM.strongClosure upId exO).e 3 2 = fin 5 := by decide +kernel
example : (OctM.incStrongClosure upId 0 exO).e 3 2 = fin 5 := by decide +kernel
example : (OctM.tightClosure upCeil exO).e 1 0 = fin 2 := by decide +kernel
example : (OctM.tightClosure upCeil exO).e 3 2 = fin 4 := by decide +kernel
example : OctM.tightClosureEmpty upCeil exO = false := by decide +kernel
example : (OctM.tightClosure upCeil exO).e 3 2 ≤ exO.e 3 2 :=
  tightClosure_tightens upCeil upCeil_sound upCeil_dec exO 3 2 (by norm_num) (by decide)

/-- `2·x₀ ≤ 1`, `-2·x₀ ≤ -1`: the rational point `x₀ = 1/2` only -/
def exOT : OctM 1 := OctM.ofLists 1 [[pinf, fin (-1)], [fin 1, pinf]]

example : OctM.strongClosureEmpty upCeil exOT = false := by decide +kernel
example : OctM.tightClosureEmpty upCeil exOT = true := by decide +kernel
example : OctM.γInt exOT = ∅ := tight_empty_sound upCeil upCeil_sound exOT (by decide +kernel)

/-- `2·x₀ ≤ 0`, `-2·x₀ ≤ -2` -/
def exOE : OctM 1 := OctM.ofLists 1 [[pinf, fin (-2)], [fin 0, pinf]]

example : OctM.γ exOE = ∅ := oct_empty_sound upId upId_sound exOE (by decide +kernel)
example : OctM.γ exOE = ∅ := incOct_empty_sound upId upId_sound 0 (by norm_num) exOE (by decide +kernel)

/-! ## deduction helpers

Common setting.  `x` is the point before the assignment, `x'` the point after it: `x'` agrees with
`x` outside `Variable(vid)` (`hframe`) and `x'_vid ⋈ (Σ_{i<last} e_i·x_i + b)/d` (`hval`; `≤` for the
upper helpers, `≥` for the lower ones, so `=` and the relational forms are both covered).  `m` is the
matrix the helper runs on — in the callers: after `forget_all_…_constraints(v)` and the new unary
bound on `v` — and `x'` satisfies it (`hx'`).  `c` is the finite `ub_v` (resp. `minus_lb_v`) passed by
the caller, which dominates the expression over the box of the unary bounds of the *other*
variables read from `m` (`hS`; the coordinate `vid` keeps its old value `x vid`).  Then `x'` also
satisfies every bound the helper writes. -/

/-- `BD_Shape::deduce_v_minus_u_bounds(v = vid+1, last_v = last, sc_expr, sc_denom = d, ub_v = c)` -/
theorem deduce_v_minus_u_sound (up : ℚ → ExtRat) (hup : ∀ x : ℚ, (x : ExtRat) ≤ up x) (n : ℕ) (m : Mat)
    (vid last : ℕ) (e : ℕ → ℤ) (d : ℤ) (hd : 0 < d) (b c : ℚ) (hlast : last ≤ n) (x x' : ℕ → ℚ)
    (hx' : x' ∈ γB n m) (hframe : ∀ u, u ≠ vid → x' u = x u)
    (hval : x' vid ≤ (linEval e x last + b) / d)
    (hS : ∀ y : ℕ → ℚ, y vid = x vid →
      (∀ w, w < last → w ≠ vid → fin (y w) ≤ m 0 (w+1) ∧ fin (-(y w)) ≤ m (w+1) 0) →
      (linEval e y last + b) / d ≤ c) :
    x' ∈ γB n (deduceVMinusU up (vid+1) last e d (fin c) m) :=
  deduceVMinusU_holds hup hd hlast hx' hframe hval hS

/-- `BD_Shape::deduce_u_minus_v_bounds(v = vid+1, last_v = last, sc_expr, sc_denom = d, minus_lb_v = c)` -/
theorem deduce_u_minus_v_sound (up : ℚ → ExtRat) (hup : ∀ x : ℚ, (x : ExtRat) ≤ up x) (n : ℕ) (m : Mat)
    (vid last : ℕ) (e : ℕ → ℤ) (d : ℤ) (hd : 0 < d) (b c : ℚ) (hlast : last ≤ n) (x x' : ℕ → ℚ)
    (hx' : x' ∈ γB n m) (hframe : ∀ u, u ≠ vid → x' u = x u)
    (hval : (linEval e x last + b) / d ≤ x' vid)
    (hS : ∀ y : ℕ → ℚ, y vid = x vid →
      (∀ w, w < last → w ≠ vid → fin (y w) ≤ m 0 (w+1) ∧ fin (-(y w)) ≤ m (w+1) 0) →
      -((linEval e y last + b) / d) ≤ c) :
    x' ∈ γB n (deduceUMinusV up (vid+1) last e d (fin c) m) :=
  deduceUMinusV_holds hup hd hlast hx' hframe hval hS

/-- `Octagonal_Shape::deduce_v_pm_u_bounds(v_id = vid, last_id = last, sc_expr, sc_denom = d, ub_v = c)`.
The box of `hS` is that of the halves *rounded up* (`div_2exp_assign_r(half, m_cu_u, 1, ROUND_UP)`),
exactly what every caller accumulates `ub_v` from; the `q ≥ 1` rule subtracts such a rounded half
and would not be sound for a `c` that only dominates the expression over the exact box. -/
theorem deduce_v_pm_u_sound (up : ℚ → ExtRat) (hup : ∀ x : ℚ, (x : ExtRat) ≤ up x) (n : ℕ) (m : Mat)
    (vid last : ℕ) (e : ℕ → ℤ) (d : ℤ) (hd : 0 < d) (b c : ℚ) (hlast : last < n) (x x' : ℕ → ℚ)
    (hx' : x' ∈ γO n m) (hframe : ∀ u, u ≠ vid → x' u = x u)
    (hval : x' vid ≤ (linEval e x (last + 1) + b) / d)
    (hS : ∀ y : ℕ → ℚ, y vid = x vid →
      (∀ w, w < last + 1 → w ≠ vid →
        fin (y w) ≤ ExtRat.halfUp up (m (2 * w + 1) (2 * w)) ∧
        fin (-(y w)) ≤ ExtRat.halfUp up (m (2 * w) (2 * w + 1))) →
      (linEval e y (last + 1) + b) / d ≤ c) :
    x' ∈ γO n (deduceVPmU up vid last e d (fin c) m) :=
  deduceVPmU_holds hup hd hlast hx' hframe hval hS

/-- `Octagonal_Shape::deduce_minus_v_pm_u_bounds(v_id = vid, last_id = last, …, minus_lb_v = c)` -/
theorem deduce_minus_v_pm_u_sound (up : ℚ → ExtRat) (hup : ∀ x : ℚ, (x : ExtRat) ≤ up x) (n : ℕ) (m : Mat)
    (vid last : ℕ) (e : ℕ → ℤ) (d : ℤ) (hd : 0 < d) (b c : ℚ) (hlast : last < n) (x x' : ℕ → ℚ)
    (hx' : x' ∈ γO n m) (hframe : ∀ u, u ≠ vid → x' u = x u)
    (hval : (linEval e x (last + 1) + b) / d ≤ x' vid)
    (hS : ∀ y : ℕ → ℚ, y vid = x vid →
      (∀ w, w < last + 1 → w ≠ vid →
        fin (y w) ≤ ExtRat.halfUp up (m (2 * w + 1) (2 * w)) ∧
        fin (-(y w)) ≤ ExtRat.halfUp up (m (2 * w) (2 * w + 1))) →
      -((linEval e y (last + 1) + b) / d) ≤ c) :
    x' ∈ γO n (deduceMinusVPmU up vid last e d (fin c) m) :=
  deduceMinusVPmU_holds hup hd hlast hx' hframe hval hS

/-! ### non-vacuity: `x₀ := 2·x₁` resp. `x₀ := x₁/2` with `0 ≤ x₁ ≤ 3`, old point `(5, 1)` -/

/-- the matrix after `forget_all_dbm_constraints(x₀)`: only `0 ≤ x₁ ≤ 3` -/
def exD : Mat := Mat.ofLists
  [[pinf, pinf, fin 3],
   [pinf, pinf, pinf],
   [fin 0, pinf, pinf]]

def eTwo : ℕ → ℤ := fun i => if i = 1 then 2 else 0
def eOne : ℕ → ℤ := fun i => if i = 1 then 1 else 0
def ptOld : ℕ → ℚ := fun i => if i = 0 then 5 else 1

-- `q = 2 ≥ 1`: `x₀ - x₁ ≤ ub_v - ub_u = 6 - 3`;  `q = 1/2`: `x₀ - x₁ ≤ 3/2 + (0 - 1/2·3) = 0`
example : deduceVMinusU upId 1 2 eTwo 1 (fin 6) exD 2 1 = fin 3 := by decide +kernel
example : deduceVMinusU upId 1 2 eOne 2 (fin (3/2)) exD 2 1 = fin 0 := by decide +kernel
example : deduceUMinusV upId 1 2 eTwo 1 (fin 0) exD 1 2 = fin 0 := by decide +kernel

theorem exD_mem (t : ℚ) : (fun i => if i = 0 then t else 1) ∈ γB 2 exD := by
  intro i j ⟨hi, hj⟩
  interval_cases i <;> interval_cases j <;>
    first | exact ExtRat.le_pinf _ | exact ExtRat.fin_le_fin.2 (by norm_num [DBM.val])

/-- all hypotheses of `deduce_v_minus_u_sound` hold on the instance `x₀' = 2·x₁ = 2`, `c = 6` -/
example : (fun i => if i = 0 then (2 : ℚ) else 1) ∈ γB 2 (deduceVMinusU upId 1 2 eTwo 1 (fin 6) exD) :=
  deduce_v_minus_u_sound upId upId_sound 2 exD 0 2 eTwo 1 (by norm_num) 0 6 (by norm_num) ptOld _
    (exD_mem 2) (by intro u hu; simp [ptOld, hu]) (by simp [linEval, eTwo, ptOld])
    (by
      intro y _ hb
      have := (hb 1 (by norm_num) (by norm_num)).1
      simp only [exD, Mat.ofLists] at this
      simp [ExtRat.fin_le_fin] at this
      simp [linEval, eTwo]
      linarith)

/-- … and of `deduce_u_minus_v_sound` on `x₀' = 2·x₁ = 2`, `minus_lb_v = 0` -/
example : (fun i => if i = 0 then (2 : ℚ) else 1) ∈ γB 2 (deduceUMinusV upId 1 2 eTwo 1 (fin 0) exD) :=
  deduce_u_minus_v_sound upId upId_sound 2 exD 0 2 eTwo 1 (by norm_num) 0 0 (by norm_num) ptOld _
    (exD_mem 2) (by intro u hu; simp [ptOld, hu]) (by simp [linEval, eTwo, ptOld])
    (by
      intro y _ hb
      have := (hb 1 (by norm_num) (by norm_num)).2
      simp only [exD, Mat.ofLists] at this
      simp [ExtRat.fin_le_fin] at this
      simp [linEval, eTwo]
      linarith)

/-- octagon after `forget_all_octagonal_constraints(x₀)`: `2·x₁ ≤ 6`, `-2·x₁ ≤ 0` -/
def exDO : Mat := Mat.ofLists
  [[pinf, pinf],
   [pinf, pinf],
   [pinf, pinf, pinf, fin 0],
   [pinf, pinf, fin 6, pinf]]

def eMinusTwo : ℕ → ℤ := fun i => if i = 1 then -2 else 0

-- `x₀ := 2·x₁`: `x₀ - x₁ ≤ 6 - 3` stored at `m[2][0]`; `x₀ := -2·x₁`: `x₀ + x₁ ≤ 0 - 0` at `m[3][0]`
example : deduceVPmU upId 0 1 eTwo 1 (fin 6) exDO 2 0 = fin 3 := by decide +kernel
example : deduceVPmU upId 0 1 eMinusTwo 1 (fin 0) exDO 3 0 = fin 0 := by decide +kernel
example : deduceMinusVPmU upId 0 1 eTwo 1 (fin 0) exDO 3 1 = fin 0 := by decide +kernel
example : deduceMinusVPmU upId 0 1 eMinusTwo 1 (fin 6) exDO 2 1 = fin 3 := by decide +kernel

theorem exDO_mem (t : ℚ) : (fun i => if i = 0 then t else 1) ∈ γO 2 exDO := by
  intro i j ⟨hi, hj⟩
  interval_cases i <;> simp only [rowSize] at hj <;> interval_cases j <;>
    first | exact ExtRat.le_pinf _ | exact ExtRat.fin_le_fin.2 (by norm_num [OctM.oval])

example : (fun i => if i = 0 then (2 : ℚ) else 1) ∈ γO 2 (deduceVPmU upId 0 1 eTwo 1 (fin 6) exDO) :=
  deduce_v_pm_u_sound upId upId_sound 2 exDO 0 1 eTwo 1 (by norm_num) 0 6 (by norm_num) ptOld _
    (exDO_mem 2) (by intro u hu; simp [ptOld, hu]) (by simp [linEval, eTwo, ptOld])
    (by
      intro y _ hb
      have := (hb 1 (by norm_num) (by norm_num)).1
      simp only [exDO, Mat.ofLists] at this
      simp [ExtRat.halfUp, upId, ExtRat.fin_le_fin] at this
      simp [linEval, eTwo]
      linarith)

example : (fun i => if i = 0 then (2 : ℚ) else 1) ∈ γO 2 (deduceMinusVPmU upId 0 1 eTwo 1 (fin 0) exDO) :=
  deduce_minus_v_pm_u_sound upId upId_sound 2 exDO 0 1 eTwo 1 (by norm_num) 0 0 (by norm_num) ptOld _
    (exDO_mem 2) (by intro u hu; simp [ptOld, hu]) (by simp [linEval, eTwo, ptOld])
    (by
      intro y _ hb
      have := (hb 1 (by norm_num) (by norm_num)).2
      simp only [exDO, Mat.ofLists] at this
      simp [ExtRat.halfUp, upId, ExtRat.fin_le_fin] at this
      simp [linEval, eTwo]
      linarith)

end C03

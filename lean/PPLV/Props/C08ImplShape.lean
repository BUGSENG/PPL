import PPLV.Widen.ImplShapeProofsContains2
import PPLV.Widen.ImplShapeProofsRank
import PPLV.Widen.ImplShapeProofsFinite
import PPLV.Widen.ImplShapeProofsLimEx
/-!
# The widenings of the weakly-relational domains as coded

Model: `PPLV/Widen/ImplShape.lean` (code-shaped transliteration of `BD_Shape_templates.hh:3129-3423`,
`Octagonal_Shape_templates.hh:3890-4210`, `Box_templates.hh:4221-4346`), tied to the real library by
`harness/c08_impl_shape.cc` + `Driver/WidenImplShape.lean` (identical matrices, flags, tokens, limiting shapes).
An object is its raw matrix plus status flags (`BDS`, `OCS`, `BoxS`); `BDS.γ`, `OCS.γ`, `BoxS.γ` are the points it
denotes; `up` is the rounding of the bound type (`upId`: `mpq_class`, `upCeil`: `mpz_class`), `hup : ∀ q, fin q ≤ up q`.

Sections: (1) the result contains the larger argument (CC76, BHMZ05, tokens); (2) stabilisation at the matrix level
(CC76: rank; BHMZ05: finite-cell count, chaining under the Larsen-minimality hypothesis that the driver checks on every
real step); (3) limited extrapolations: between the larger argument and the plain widening, which supplied constraints
are kept, and the clauses the code as written does not guarantee (`…_fails`).
-/
namespace C08
open PPLV.Widen PPLV.WR PPLV.WR.ExtRat

/-! ### p1 — the shape widenings return an object that contains the receiver (whole modelled functions)

Proofs: `PPLV/Widen/ImplShapeProofsClose.lean` (the flag-guarded closures), `ImplShapeProofsContains.lean` (CC76),
`ImplShapeProofsContains2.lean` (BHMZ05, the concrete instances `ContainsEx.*`). -/

/-- `BD_Shape<T>::CC76_extrapolation_assign(y, first, last, tp)` (`/repo/src/BD_Shape_templates.hh:3129`), the whole
function as modelled by `bdCC76` (closure of `*this` and of `y`, the emptiness exits, the token branch, the two
loops `:3175-3193`): every point of the receiver is a point of the returned receiver, for every rounding `up` with
`fin q ≤ up q`, every list of stop points, every token state, and any `y` whatsoever (no invariant on `y`, no
`y ⊆ x` needed). -/
theorem bd_cc76_contains_x {up : Rat → ExtRat} (hup : ∀ q, fin q ≤ up q) (n : Nat) (stops : List Rat)
    (X Y : BDS) (tp : Option Nat) (hX : BDS.WF n X) :
    ∀ p, BDS.γ n X p → BDS.γ n (bdCC76 up n stops X Y tp).1 p :=
  PPLV.Widen.bd_cc76_contains_x hup n stops X Y tp hX

example : BDS.γ 1 (bdCC76 upId 1 defaultStops ContainsEx.bdX ContainsEx.bdY none).1 ContainsEx.pt :=
  C08.bd_cc76_contains_x upId_sound 1 defaultStops _ _ none ContainsEx.bdX_WF _ ContainsEx.bdX_γ
/-- on this instance the widening does move a bound: `x₀ ≤ 3/2` becomes `x₀ ≤ 2` (the next stop point) -/
example : (bdCC76 upId 1 defaultStops ContainsEx.bdX ContainsEx.bdY none).1.dbm 0 1 = fin 2 := by decide +kernel

/-- the entrywise form on what the two loops (`BD_Shape_templates.hh:3175-3193`) see: no cell decreases -/
theorem bd_cc76_contains_x_entrywise {up : Rat → ExtRat} (hup : ∀ q, fin q ≤ up q) (n : Nat) (stops : List Rat) :
    ∀ x y : Mat, bdLE n x (bdCC76Loops up stops n x y) :=
  fun x y => PPLV.Widen.bdCC76Loops_ge hup stops n x y

example : bdLE 1 ContainsEx.bdX.dbm (bdCC76Loops upId defaultStops 1 ContainsEx.bdX.dbm ContainsEx.bdY.dbm) :=
  C08.bd_cc76_contains_x_entrywise upId_sound 1 defaultStops _ _

/-- hence, under the precondition `y ⊆ x` of the widening (`:3129`), the result contains `y` -/
theorem bd_cc76_contains_y {up : Rat → ExtRat} (hup : ∀ q, fin q ≤ up q) (n : Nat) (stops : List Rat)
    (X Y : BDS) (tp : Option Nat) (hX : BDS.WF n X) (hyx : ∀ p, BDS.γ n Y p → BDS.γ n X p) :
    ∀ p, BDS.γ n Y p → BDS.γ n (bdCC76 up n stops X Y tp).1 p :=
  fun p hp => PPLV.Widen.bd_cc76_contains_x hup n stops X Y tp hX p (hyx p hp)

example : BDS.γ 1 (bdCC76 upId 1 defaultStops ContainsEx.bdX ContainsEx.bdY none).1 ContainsEx.pt :=
  C08.bd_cc76_contains_y upId_sound 1 defaultStops _ _ none ContainsEx.bdX_WF ContainsEx.bdY_sub_bdX _
    ContainsEx.bdY_γ

/-- the `const` argument `y` that `CC76_extrapolation_assign` closes through `const_cast` (`:3151`) keeps exactly
its points -/
theorem bd_cc76_y_unchanged {up : Rat → ExtRat} (hup : ∀ q, fin q ≤ up q) (n : Nat) (stops : List Rat)
    (X Y : BDS) (tp : Option Nat) (hY : BDS.WF n Y) :
    ∀ p, BDS.γ n (bdCC76 up n stops X Y tp).2.1 p ↔ BDS.γ n Y p :=
  PPLV.Widen.bd_cc76_y_γ hup n stops X Y tp hY

example : BDS.γ 1 (bdCC76 upId 1 defaultStops ContainsEx.bdX ContainsEx.bdY none).2.1 ContainsEx.pt :=
  (C08.bd_cc76_y_unchanged upId_sound 1 defaultStops _ _ none ContainsEx.bdY_WF _).2 ContainsEx.bdY_γ

/-- the token protocol of `BD_Shape::CC76_extrapolation_assign` (`BD_Shape_templates.hh:3157-3165`): with a positive
token count the receiver is only closed, and the count stays or drops by one; with `nullptr` or `0` the count is
untouched -/
theorem bd_cc76_token (up : Rat → ExtRat) (n : Nat) (stops : List Rat) (X Y : BDS) :
    (∀ t, 0 < t →
      (bdCC76 up n stops X Y (some t)).1 = bdClosureAssign up n X
      ∧ ((bdCC76 up n stops X Y (some t)).2.2 = some t ∨ (bdCC76 up n stops X Y (some t)).2.2 = some (t - 1)))
    ∧ (∀ tp, tp = none ∨ tp = some 0 → (bdCC76 up n stops X Y tp).2.2 = tp) :=
  ⟨fun t ht => by
    rw [bdCC76_eq_frame]; exact cc76Frame_token X Y ht fun h => h ▸ bdClosureAssign_zero up X,
   fun tp h => by rw [bdCC76_eq_frame]; exact cc76Frame_no_token X Y h⟩

/-- the widening above is not precise: the one token is used -/
example : (bdCC76 upId 1 defaultStops ContainsEx.bdX ContainsEx.bdY (some 1)).2.2 = some 0 := by decide +kernel

/-- `Octagonal_Shape<T>::CC76_extrapolation_assign(y, first, last, tp)`
(`/repo/src/Octagonal_Shape_templates.hh:3890`), the whole function as modelled by `octCC76` (strong closures, the
emptiness exits, the token branch, the element loop `:3938-3955`): every point of the receiver is a point of the
returned receiver -/
theorem oct_cc76_contains_x {up : Rat → ExtRat} (hup : ∀ q, fin q ≤ up q) (n : Nat) (stops : List Rat)
    (X Y : OCS) (tp : Option Nat) (hX : OCS.WF n X) :
    ∀ p, OCS.γ n X p → OCS.γ n (octCC76 up n stops X Y tp).1 p :=
  PPLV.Widen.oct_cc76_contains_x hup n stops X Y tp hX

example : OCS.γ 1 (octCC76 upId 1 defaultStops ContainsEx.octX ContainsEx.octY none).1 ContainsEx.pt :=
  C08.oct_cc76_contains_x upId_sound 1 defaultStops _ _ none ContainsEx.octX_WF _ ContainsEx.octX_γ
/-- on this instance `2x₀ ≤ 3` is lost altogether (`3` is beyond the last stop point `2`) -/
example : (octCC76 upId 1 defaultStops ContainsEx.octX ContainsEx.octY none).1.mat 1 0 = pinf := by decide +kernel

/-- the entrywise form on what the element loop (`Octagonal_Shape_templates.hh:3938-3955`) sees -/
theorem oct_cc76_contains_x_entrywise {up : Rat → ExtRat} (hup : ∀ q, fin q ≤ up q) (n : Nat) (stops : List Rat) :
    ∀ x y : Mat, octLE n x (octCC76Loops up stops n x y) :=
  fun x y => PPLV.Widen.octCC76Loops_ge hup stops n x y

example : octLE 1 ContainsEx.octX.mat (octCC76Loops upId defaultStops 1 ContainsEx.octX.mat ContainsEx.octY.mat) :=
  C08.oct_cc76_contains_x_entrywise upId_sound 1 defaultStops _ _

/-- hence, under the precondition `y ⊆ x`, the result contains `y` -/
theorem oct_cc76_contains_y {up : Rat → ExtRat} (hup : ∀ q, fin q ≤ up q) (n : Nat) (stops : List Rat)
    (X Y : OCS) (tp : Option Nat) (hX : OCS.WF n X) (hyx : ∀ p, OCS.γ n Y p → OCS.γ n X p) :
    ∀ p, OCS.γ n Y p → OCS.γ n (octCC76 up n stops X Y tp).1 p :=
  fun p hp => PPLV.Widen.oct_cc76_contains_x hup n stops X Y tp hX p (hyx p hp)

example : OCS.γ 1 (octCC76 upId 1 defaultStops ContainsEx.octX ContainsEx.octY none).1 ContainsEx.pt :=
  C08.oct_cc76_contains_y upId_sound 1 defaultStops _ _ none ContainsEx.octX_WF ContainsEx.octY_sub_octX _
    ContainsEx.octY_γ

/-- the strongly closed `y` (`const_cast`, `:3912`) keeps exactly its points -/
theorem oct_cc76_y_unchanged {up : Rat → ExtRat} (hup : ∀ q, fin q ≤ up q) (n : Nat) (stops : List Rat)
    (X Y : OCS) (tp : Option Nat) (hY : OCS.WF n Y) :
    ∀ p, OCS.γ n (octCC76 up n stops X Y tp).2.1 p ↔ OCS.γ n Y p :=
  PPLV.Widen.oct_cc76_y_γ hup n stops X Y tp hY

example : OCS.γ 1 (octCC76 upId 1 defaultStops ContainsEx.octX ContainsEx.octY none).2.1 ContainsEx.pt :=
  (C08.oct_cc76_y_unchanged upId_sound 1 defaultStops _ _ none ContainsEx.octY_WF _).2 ContainsEx.octY_γ

/-- the token protocol of `Octagonal_Shape::CC76_extrapolation_assign` (`Octagonal_Shape_templates.hh:3919-3927`) -/
theorem oct_cc76_token (up : Rat → ExtRat) (n : Nat) (stops : List Rat) (X Y : OCS) :
    (∀ t, 0 < t →
      (octCC76 up n stops X Y (some t)).1 = octClosureAssign up n X
      ∧ ((octCC76 up n stops X Y (some t)).2.2 = some t ∨ (octCC76 up n stops X Y (some t)).2.2 = some (t - 1)))
    ∧ (∀ tp, tp = none ∨ tp = some 0 → (octCC76 up n stops X Y tp).2.2 = tp) :=
  ⟨fun t ht => by
    rw [octCC76_eq_frame]; exact cc76Frame_token X Y ht fun h => h ▸ octClosureAssign_zero up X,
   fun tp h => by rw [octCC76_eq_frame]; exact cc76Frame_no_token X Y h⟩

example : (octCC76 upId 1 defaultStops ContainsEx.octX ContainsEx.octY (some 2)).2.2 = some 1 := by decide +kernel

/-- `Box<ITV>::CC76_widening_assign(y, tp)` (`/repo/src/Box_templates.hh:4242`) and
`CC76_widening_assign(y, first, last)` (`:4221`) for rational boundaries: every point of the receiver is a point of
the result (componentwise `cc76_sup`); no hypothesis on `y` -/
theorem box_cc76_contains_x (stops : List Rat) (x y : BoxS) (tp : Option Nat) :
    ∀ p, BoxS.γ x p → BoxS.γ (boxCC76 x y tp).1 p ∧ BoxS.γ (boxCC76Stops stops x y) p :=
  fun p hp => ⟨PPLV.Widen.box_cc76_contains_x x y tp p hp, PPLV.Widen.box_cc76_stops_contains_x stops x y p hp⟩

example : BoxS.γ (boxCC76 ContainsEx.boxX ContainsEx.boxY none).1 ContainsEx.pt :=
  (C08.box_cc76_contains_x defaultStops _ _ none _ ContainsEx.boxX_γ).1
/-- on this instance the upper boundary `3/2` moves to the stop point `2` -/
example : (boxCC76 ContainsEx.boxX ContainsEx.boxY none).1.seq = [⟨some 0, false, some 2, false⟩] := by
  decide +kernel

/-- the space dimension is kept (`x.space_dimension() == y.space_dimension()` is checked at `:4253`) -/
theorem box_cc76_dimension (stops : List Rat) (x y : BoxS) (h : x.seq.length = y.seq.length) :
    (boxCC76Stops stops x y).seq.length = x.seq.length :=
  PPLV.Widen.boxCC76Stops_length stops x y h

example : (boxCC76Stops defaultStops ContainsEx.boxX ContainsEx.boxY).seq.length = 1 :=
  C08.box_cc76_dimension defaultStops _ _ rfl

/-- hence, under the precondition `y ⊆ x`, the result contains `y` -/
theorem box_cc76_contains_y (stops : List Rat) (x y : BoxS) (tp : Option Nat)
    (hyx : ∀ p, BoxS.γ y p → BoxS.γ x p) :
    ∀ p, BoxS.γ y p → BoxS.γ (boxCC76 x y tp).1 p ∧ BoxS.γ (boxCC76Stops stops x y) p :=
  fun p hp => C08.box_cc76_contains_x stops x y tp p (hyx p hp)

example : BoxS.γ (boxCC76 ContainsEx.boxX ContainsEx.boxY none).1 ContainsEx.pt :=
  (C08.box_cc76_contains_y defaultStops _ _ none ContainsEx.boxY_sub_boxX _ ContainsEx.boxY_γ).1

/-- the token protocol of `Box::CC76_widening_assign(y, tp)` (`Box_templates.hh:4257-4265`) -/
theorem box_cc76_token (x y : BoxS) :
    (∀ t, 0 < t → (boxCC76 x y (some t)).1 = x
      ∧ ((boxCC76 x y (some t)).2 = some t ∨ (boxCC76 x y (some t)).2 = some (t - 1)))
    ∧ (∀ tp, tp = none ∨ tp = some 0 → (boxCC76 x y tp).2 = tp) :=
  ⟨fun t ht => PPLV.Widen.box_cc76_token x y t ht, fun tp h => PPLV.Widen.box_cc76_no_token x y tp h⟩

example : (boxCC76 ContainsEx.boxX ContainsEx.boxY (some 1)).2 = some 0 := by decide +kernel

/-- `BD_Shape<T>::BHMZ05_widening_assign(y, tp)` (`/repo/src/BD_Shape_templates.hh:3315`), the whole function as
modelled by `bdBHMZ05` (the two `affine_dimension()` calls with their closures, the exits, the reduction of `y`,
the token branch, the loops `:3357-3370`): whenever the function returns (`none` = a predecessor walk of the
reduction ran out of fuel), every point of the receiver is a point of the returned receiver -/
theorem bd_bhmz05_contains_x {up : Rat → ExtRat} (hup : ∀ q, fin q ≤ up q) (n : Nat) (X Y : BDS) (tp : Option Nat)
    {X' Y' : BDS} {tp' : Option Nat} (h : bdBHMZ05 up n X Y tp = some (X', Y', tp')) (hX : BDS.WF n X) :
    ∀ p, BDS.γ n X p → BDS.γ n X' p :=
  PPLV.Widen.bd_bhmz05_contains_x hup n X Y tp h hX

example : ∃ r, bdBHMZ05 upId 1 ContainsEx.bdX ContainsEx.bdY none = some r ∧ BDS.γ 1 r.1 ContainsEx.pt := by
  have hs : (bdBHMZ05 upId 1 ContainsEx.bdX ContainsEx.bdY none).isSome = true := by decide +kernel
  obtain ⟨⟨X', Y', tp'⟩, h⟩ := Option.isSome_iff_exists.1 hs
  exact ⟨_, h, C08.bd_bhmz05_contains_x upId_sound 1 _ _ none h ContainsEx.bdX_WF _ ContainsEx.bdX_γ⟩
/-- on this instance the loops are reached and `x₀ ≤ 3/2` is dropped -/
example : ((bdBHMZ05 upId 1 ContainsEx.bdX ContainsEx.bdY none).map fun r => r.1.dbm 0 1) = some pinf := by
  decide +kernel

/-- the entrywise form on what the loops (`BD_Shape_templates.hh:3357-3370`) see: a cell is kept or set to `+∞` -/
theorem bd_bhmz05_contains_x_entrywise (n : Nat) :
    ∀ (x y : Mat) (y_redundancy : BMat), bdLE n x (bdBHMZ05Loops n x y y_redundancy) :=
  fun x y r => PPLV.Widen.bdBHMZ05Loops_ge n x y r

example : bdLE 1 ContainsEx.bdX.dbm (bdBHMZ05Loops 1 ContainsEx.bdX.dbm ContainsEx.bdY.dbm (BMat.const false)) :=
  C08.bd_bhmz05_contains_x_entrywise 1 _ _ _

/-- hence, under the precondition `y ⊆ x`, the result contains `y` -/
theorem bd_bhmz05_contains_y {up : Rat → ExtRat} (hup : ∀ q, fin q ≤ up q) (n : Nat) (X Y : BDS) (tp : Option Nat)
    {X' Y' : BDS} {tp' : Option Nat} (h : bdBHMZ05 up n X Y tp = some (X', Y', tp')) (hX : BDS.WF n X)
    (hyx : ∀ p, BDS.γ n Y p → BDS.γ n X p) :
    ∀ p, BDS.γ n Y p → BDS.γ n X' p :=
  fun p hp => PPLV.Widen.bd_bhmz05_contains_x hup n X Y tp h hX p (hyx p hp)

example : ∃ r, bdBHMZ05 upId 1 ContainsEx.bdX ContainsEx.bdY none = some r ∧ BDS.γ 1 r.1 ContainsEx.pt := by
  have hs : (bdBHMZ05 upId 1 ContainsEx.bdX ContainsEx.bdY none).isSome = true := by decide +kernel
  obtain ⟨⟨X', Y', tp'⟩, h⟩ := Option.isSome_iff_exists.1 hs
  exact ⟨_, h, C08.bd_bhmz05_contains_y upId_sound 1 _ _ none h ContainsEx.bdX_WF ContainsEx.bdY_sub_bdX _
    ContainsEx.bdY_γ⟩

/-- the `const` argument `y` that `BHMZ05_widening_assign` closes and reduces (`:3326`, `:3354`) keeps exactly its
points -/
theorem bd_bhmz05_y_unchanged {up : Rat → ExtRat} (hup : ∀ q, fin q ≤ up q) (n : Nat) (X Y : BDS) (tp : Option Nat)
    {X' Y' : BDS} {tp' : Option Nat} (h : bdBHMZ05 up n X Y tp = some (X', Y', tp')) (hY : BDS.WF n Y) :
    ∀ p, BDS.γ n Y' p ↔ BDS.γ n Y p :=
  PPLV.Widen.bd_bhmz05_y_γ hup n X Y tp h hY

example : ∃ r, bdBHMZ05 upId 1 ContainsEx.bdX ContainsEx.bdY none = some r ∧ BDS.γ 1 r.2.1 ContainsEx.pt := by
  have hs : (bdBHMZ05 upId 1 ContainsEx.bdX ContainsEx.bdY none).isSome = true := by decide +kernel
  obtain ⟨⟨X', Y', tp'⟩, h⟩ := Option.isSome_iff_exists.1 hs
  exact ⟨_, h, (C08.bd_bhmz05_y_unchanged upId_sound 1 _ _ none h ContainsEx.bdY_WF _).2 ContainsEx.bdY_γ⟩

/-- the token protocol of `BD_Shape::BHMZ05_widening_assign` (`BD_Shape_templates.hh:3341-3349`): with a positive
count the receiver is untouched or only closed, the count stays or drops by one; with `nullptr` or `0` the count
is untouched -/
theorem bd_bhmz05_token (up : Rat → ExtRat) (n : Nat) (X Y : BDS) (tp : Option Nat)
    {X' Y' : BDS} {tp' : Option Nat} (h : bdBHMZ05 up n X Y tp = some (X', Y', tp')) :
    (∀ t, 0 < t → tp = some t →
      (X' = X ∨ X' = bdClosureAssign up n X) ∧ (tp' = some t ∨ tp' = some (t - 1)))
    ∧ (tp = none ∨ tp = some 0 → tp' = tp) :=
  ⟨fun t ht e => by subst e; exact bhmz05Frame_token ht (bdBHMZ05_eq_frame up n X Y (some t) ▸ h),
   fun e => bhmz05Frame_no_token e (bdBHMZ05_eq_frame up n X Y tp ▸ h)⟩

example : ((bdBHMZ05 upId 1 ContainsEx.bdX ContainsEx.bdY (some 1)).map fun r => r.2.2) = some (some 0) := by
  decide +kernel

/-- `Octagonal_Shape<T>::BHMZ05_widening_assign(y, tp)` (`/repo/src/Octagonal_Shape_templates.hh:4103`), the whole
function as modelled by `octBHMZ05`: whenever the function returns, every point of the receiver is a point of the
returned receiver -/
theorem oct_bhmz05_contains_x {up : Rat → ExtRat} (hup : ∀ q, fin q ≤ up q) (n : Nat) (X Y : OCS) (tp : Option Nat)
    {X' Y' : OCS} {tp' : Option Nat} (h : octBHMZ05 up n X Y tp = some (X', Y', tp')) (hX : OCS.WF n X) :
    ∀ p, OCS.γ n X p → OCS.γ n X' p :=
  PPLV.Widen.oct_bhmz05_contains_x hup n X Y tp h hX

example : ∃ r, octBHMZ05 upId 1 ContainsEx.octX ContainsEx.octY none = some r ∧ OCS.γ 1 r.1 ContainsEx.pt := by
  have hs : (octBHMZ05 upId 1 ContainsEx.octX ContainsEx.octY none).isSome = true := by decide +kernel
  obtain ⟨⟨X', Y', tp'⟩, h⟩ := Option.isSome_iff_exists.1 hs
  exact ⟨_, h, C08.oct_bhmz05_contains_x upId_sound 1 _ _ none h ContainsEx.octX_WF _ ContainsEx.octX_γ⟩
/-- on this instance the loop is reached and `2x₀ ≤ 3` is dropped -/
example : ((octBHMZ05 upId 1 ContainsEx.octX ContainsEx.octY none).map fun r => r.1.mat 1 0) = some pinf := by
  decide +kernel

/-- the entrywise form on what the element loop (`Octagonal_Shape_templates.hh:4147-4158`) sees -/
theorem oct_bhmz05_contains_x_entrywise (n : Nat) : ∀ x y : Mat, octLE n x (octBHMZ05Loops n x y) :=
  fun x y => PPLV.Widen.octBHMZ05Loops_ge n x y

example : octLE 1 ContainsEx.octX.mat (octBHMZ05Loops 1 ContainsEx.octX.mat ContainsEx.octY.mat) :=
  C08.oct_bhmz05_contains_x_entrywise 1 _ _

/-- hence, under the precondition `y ⊆ x`, the result contains `y` -/
theorem oct_bhmz05_contains_y {up : Rat → ExtRat} (hup : ∀ q, fin q ≤ up q) (n : Nat) (X Y : OCS) (tp : Option Nat)
    {X' Y' : OCS} {tp' : Option Nat} (h : octBHMZ05 up n X Y tp = some (X', Y', tp')) (hX : OCS.WF n X)
    (hyx : ∀ p, OCS.γ n Y p → OCS.γ n X p) :
    ∀ p, OCS.γ n Y p → OCS.γ n X' p :=
  fun p hp => PPLV.Widen.oct_bhmz05_contains_x hup n X Y tp h hX p (hyx p hp)

example : ∃ r, octBHMZ05 upId 1 ContainsEx.octX ContainsEx.octY none = some r ∧ OCS.γ 1 r.1 ContainsEx.pt := by
  have hs : (octBHMZ05 upId 1 ContainsEx.octX ContainsEx.octY none).isSome = true := by decide +kernel
  obtain ⟨⟨X', Y', tp'⟩, h⟩ := Option.isSome_iff_exists.1 hs
  exact ⟨_, h, C08.oct_bhmz05_contains_y upId_sound 1 _ _ none h ContainsEx.octX_WF ContainsEx.octY_sub_octX _
    ContainsEx.octY_γ⟩

/-- the token protocol of `Octagonal_Shape::BHMZ05_widening_assign` (`Octagonal_Shape_templates.hh:4130-4138`) -/
theorem oct_bhmz05_token (up : Rat → ExtRat) (n : Nat) (X Y : OCS) (tp : Option Nat)
    {X' Y' : OCS} {tp' : Option Nat} (h : octBHMZ05 up n X Y tp = some (X', Y', tp')) :
    (∀ t, 0 < t → tp = some t →
      (X' = X ∨ X' = octClosureAssign up n X) ∧ (tp' = some t ∨ tp' = some (t - 1)))
    ∧ (tp = none ∨ tp = some 0 → tp' = tp) :=
  ⟨fun t ht e => by subst e; exact bhmz05Frame_token ht (octBHMZ05_eq_frame up n X Y (some t) ▸ h),
   fun e => bhmz05Frame_no_token e (octBHMZ05_eq_frame up n X Y tp ▸ h)⟩

example : ((octBHMZ05 upId 1 ContainsEx.octX ContainsEx.octY (some 1)).map fun r => r.2.2) = some (some 0) := by
  decide +kernel

/-! ### p2 — stabilisation of the shape widenings at the matrix level -/

/-- **CC76 loops of `BD_Shape` stabilise (matrix level).**  For every list of stop points (sorted or not — the
model's `lower_bound` is `takeWhile`), every start matrix `y0` and every adversary `z` whose larger argument is
cellwise at least the previous iterate, the sequence `Y 0 = y0`, `Y (k+1) = bdCC76Loops up stops n (z k (Y k)) (Y k)`
is eventually stationary on the cells `i, j ≤ n`.  Measure: `bdRank` = sum over the cells of `cellRank` (`0` at `+∞`,
else one plus the number of stop points strictly above the cell); a cell that extrapolates strictly loses rank
(`cc76Cell_rank_step`).  Scope: this is the matrix-level operator; the real
`BD_Shape::CC76_extrapolation_assign` re-closes both arguments (`shortest_path_closure_assign`) before the loops,
so the iterates of the real function are `cc76(closure(x_k), closure(y_k))` and closure can lower cells again
(`bd_cc76_closure_undoes_progress`) — which is why PPL calls CC76 on shapes an *extrapolation*. -/
theorem bd_cc76_chain_stabilises {up : Rat → ExtRat} (hup : ∀ q, fin q ≤ up q) (stops : List Rat) (n : Nat)
    (y0 : Mat) (z : Nat → Mat → Mat) (hz : ∀ k m, bdLE n m (z k m)) :
    ∃ N, ∀ k, k ≥ N → ∀ i j, i ≤ n → j ≤ n →
      advSeq (fun x y => bdCC76Loops up stops n x y) y0 z (k + 1) i j
        = advSeq (fun x y => bdCC76Loops up stops n x y) y0 z k i j :=
  PPLV.Widen.bd_cc76_chain_stabilises hup stops n y0 z hz

-- non-vacuity: an adversary that forces an extrapolation at every step (every finite cell grows by one) …
example : ∃ N, ∀ k, k ≥ N → ∀ i j, i ≤ 1 → j ≤ 1 →
    advSeq (fun x y => bdCC76Loops upId defaultStops 1 x y) exY1 (fun _ m => matBump m) (k + 1) i j
      = advSeq (fun x y => bdCC76Loops upId defaultStops 1 x y) exY1 (fun _ m => matBump m) k i j :=
  bd_cc76_chain_stabilises upId_sound defaultStops 1 exY1 (fun _ m => matBump m) (fun _ m => bdLE_matBump 1 m)
-- … the constant adversary is admissible too, and a real step strictly decreases the rank (`x₀ ≤ 1/2` becomes `x₀ ≤ 1`)
example : ∀ (k : Nat) (m : Mat), bdLE 1 m ((fun (_ : Nat) (m : Mat) => m) k m) := fun _ m i j _ _ => le_rfl' (m i j)
example : bdRank defaultStops 1 (bdCC76Loops upId defaultStops 1 exX1 exY1) < bdRank defaultStops 1 exY1
    ∧ bdCC76Loops upId defaultStops 1 exX1 exY1 0 1 = fin 1 := by decide +kernel

/-- **CC76 element loop of `Octagonal_Shape` stabilises (matrix level, stored cells `i < 2n`, `j < row_size(i)`).**
Same statement and measure (`octRank`) as for `BD_Shape`; same scope: the real function applies
`strong_closure_assign` to both arguments before the loop. -/
theorem oct_cc76_chain_stabilises {up : Rat → ExtRat} (hup : ∀ q, fin q ≤ up q) (stops : List Rat) (n : Nat)
    (y0 : Mat) (z : Nat → Mat → Mat) (hz : ∀ k m, octLE n m (z k m)) :
    ∃ N, ∀ k, k ≥ N → ∀ i j, i < 2 * n → j < rowSize i →
      advSeq (fun x y => octCC76Loops up stops n x y) y0 z (k + 1) i j
        = advSeq (fun x y => octCC76Loops up stops n x y) y0 z k i j :=
  PPLV.Widen.oct_cc76_chain_stabilises hup stops n y0 z hz

example : ∃ N, ∀ k, k ≥ N → ∀ i j, i < 2 * 1 → j < rowSize i →
    advSeq (fun x y => octCC76Loops upId defaultStops 1 x y) exY1 (fun _ m => matBump m) (k + 1) i j
      = advSeq (fun x y => octCC76Loops upId defaultStops 1 x y) exY1 (fun _ m => matBump m) k i j :=
  oct_cc76_chain_stabilises upId_sound defaultStops 1 exY1 (fun _ m => matBump m) (fun _ m => octLE_matBump 1 m)
example : octRank defaultStops 1 (octCC76Loops upId defaultStops 1 exX1 exY1) < octRank defaultStops 1 exY1
    ∧ octCC76Loops upId defaultStops 1 exX1 exY1 0 1 = fin 1 := by decide +kernel

/-- **`Box::CC76_widening_assign(y, first, last)` stabilises** — the product of the interval result
(`cc76_rank_step`, measure `boxRank` = sum of `Itv.rank`): against every adversary supplying a larger argument that
contains the previous iterate on the boundaries (`List.Forall₂ Itv.LE`: same length, componentwise the method's
precondition `contains(y)`), the iterated `zipWith (Itv.cc76 stops)` eventually returns the boundaries of the
previous iterate (`Itv.Same`, hence the same points: `forall₂_same_mem_iff`).  No closure is involved for boxes:
this IS the function (minus the `y.is_empty()` guard of `BoxM.cc76`). -/
theorem box_cc76_chain_stabilises (stops : List Rat) (b0 : BoxM) (z : Nat → BoxM → BoxM)
    (hz : ∀ k b, List.Forall₂ Itv.LE b (z k b)) :
    ∃ N, ∀ k, k ≥ N →
      List.Forall₂ Itv.Same (advSeq (fun x y => List.zipWith (Itv.cc76 stops) x y) b0 z (k + 1))
        (advSeq (fun x y => List.zipWith (Itv.cc76 stops) x y) b0 z k) :=
  PPLV.Widen.box_cc76_chain_stabilises stops b0 z hz

-- non-vacuity: the adversary that moves every finite upper boundary up by one, on `[0, 0] × [0, 1/2)`
example : ∃ N, ∀ k, k ≥ N →
    List.Forall₂ Itv.Same
      (advSeq (fun x y => List.zipWith (Itv.cc76 defaultStops) x y)
        [⟨some 0, false, some 0, false⟩, ⟨some 0, false, some (1/2), true⟩] (fun _ b => boxBump b) (k + 1))
      (advSeq (fun x y => List.zipWith (Itv.cc76 defaultStops) x y)
        [⟨some 0, false, some 0, false⟩, ⟨some 0, false, some (1/2), true⟩] (fun _ b => boxBump b) k) :=
  box_cc76_chain_stabilises defaultStops _ (fun _ b => boxBump b) (fun _ b => forall₂_LE_boxBump b)
example : boxRank defaultStops (List.zipWith (Itv.cc76 defaultStops) (boxBump [⟨some 0, false, some 0, false⟩])
    [⟨some 0, false, some 0, false⟩]) < boxRank defaultStops [⟨some 0, false, some 0, false⟩] := by decide +kernel

/-- **Closure undoes the progress of a CC76 step** (dimension 2, exact arithmetic, the static stop points
`-2 … 2`): `exX2`, `exY2` are closed and `exY2 ≤ exX2`; the loops raise the cell `x₁ ≤ 1/2` to the stop point `1`
(cell rank `3 → 2`); `shortest_path_closure_assign` of the result brings it back to `1/2` (rank `3` again, yet the
cell is not the one of `exY2`).  The measure of `bd_cc76_chain_stabilises` does not survive the closure that the
real function performs between two steps. -/
theorem bd_cc76_closure_undoes_progress :
    ((List.range 3).all fun i => (List.range 3).all fun j =>
        decide ((bdClosureAssign upId 2 { dbm := exX2 }).dbm i j = exX2 i j) &&
        decide ((bdClosureAssign upId 2 { dbm := exY2 }).dbm i j = exY2 i j) &&
        decide (exY2 i j ≤ exX2 i j)) = true ∧
    exY2 0 2 = fin 0 ∧ exX2 0 2 = fin (1/2) ∧ exW2 0 2 = fin 1 ∧ exC2 0 2 = fin (1/2) ∧
    cellRank defaultStops (exW2 0 2) < cellRank defaultStops (exY2 0 2) ∧
    cellRank defaultStops (exC2 0 2) = cellRank defaultStops (exY2 0 2) ∧ exC2 0 2 ≠ exY2 0 2 :=
  PPLV.Widen.bd_cc76_closure_undoes_progress

-- the definitions behind the witness are the model's own functions
example : exW2 = bdCC76Loops upId defaultStops 2 exX2 exY2 ∧ exC2 = (bdClosureAssign upId 2 { dbm := exW2 }).dbm :=
  ⟨rfl, rfl⟩

/-- **The loops of `BD_Shape::BHMZ05_widening_assign`: finite entries only disappear.**  With
`R = bdBHMZ05Loops n x y red` and `bdsReducedMat y red` the reduced `y` (redundant cells replaced by `+∞`):
(1) a finite cell of `R` is a non-redundant cell of `y` equal to the cell of `x`; (2) every cell of `R` is `+∞` or
the cell of the reduced `y`; (3) `R` has at most as many finite cells (`bdFinCount`) as the reduced `y`, and strictly
fewer as soon as it differs from it on one cell. -/
theorem bd_bhmz05_finite_entries_decrease (n : Nat) (x y : Mat) (red : BMat) :
    (∀ i j, i ≤ n → j ≤ n → bdBHMZ05Loops n x y red i j ≠ pinf →
        red i j = false ∧ y i j = x i j ∧ bdBHMZ05Loops n x y red i j = y i j) ∧
    (∀ i j, i ≤ n → j ≤ n →
        bdBHMZ05Loops n x y red i j = pinf ∨ bdBHMZ05Loops n x y red i j = bdsReducedMat y red i j) ∧
    bdFinCount n (bdBHMZ05Loops n x y red) ≤ bdFinCount n (bdsReducedMat y red) ∧
    ((∃ i j, i ≤ n ∧ j ≤ n ∧ bdBHMZ05Loops n x y red i j ≠ bdsReducedMat y red i j) →
        bdFinCount n (bdBHMZ05Loops n x y red) < bdFinCount n (bdsReducedMat y red)) :=
  PPLV.Widen.bd_bhmz05_finite_entries_decrease n x y red

-- non-vacuity: `x₀ ≤ 0` against `x₀ ≤ 1/2` loses the upper bound, the lower bound `-x₀ ≤ 0` survives: 2 finite cells → 1
example : bdFinCount 1 (bdBHMZ05Loops 1 exX1 exY1 (BMat.const false)) = 1
    ∧ bdFinCount 1 (bdsReducedMat exY1 (BMat.const false)) = 2
    ∧ bdBHMZ05Loops 1 exX1 exY1 (BMat.const false) 0 1 ≠ bdsReducedMat exY1 (BMat.const false) 0 1
    ∧ bdBHMZ05Loops 1 exX1 exY1 (BMat.const false) 1 0 = fin 0 := by decide +kernel

/-- **The loop of `Octagonal_Shape::BHMZ05_widening_assign`: finite entries only disappear.**  Here `y` is already
the strongly reduced matrix (`octReducedMat`: its redundant cells hold `+∞`, no bits): a finite stored cell of the
result is the cell of `y` and of `x`; every stored cell of the result is `+∞` or the cell of `y`; the number of finite
stored cells (`octFinCount`) does not increase and strictly decreases as soon as the result differs from `y`. -/
theorem oct_bhmz05_finite_entries_decrease (n : Nat) (x y : Mat) :
    (∀ i j, i < 2 * n → j < rowSize i → octBHMZ05Loops n x y i j ≠ pinf →
        y i j = x i j ∧ octBHMZ05Loops n x y i j = y i j) ∧
    (∀ i j, i < 2 * n → j < rowSize i → octBHMZ05Loops n x y i j = pinf ∨ octBHMZ05Loops n x y i j = y i j) ∧
    octFinCount n (octBHMZ05Loops n x y) ≤ octFinCount n y ∧
    ((∃ i j, i < 2 * n ∧ j < rowSize i ∧ octBHMZ05Loops n x y i j ≠ y i j) →
        octFinCount n (octBHMZ05Loops n x y) < octFinCount n y) :=
  PPLV.Widen.oct_bhmz05_finite_entries_decrease n x y

example : octFinCount 1 (octBHMZ05Loops 1 exX1 exY1) = 1 ∧ octFinCount 1 exY1 = 2
    ∧ octBHMZ05Loops 1 exX1 exY1 0 1 ≠ exY1 0 1 ∧ octBHMZ05Loops 1 exX1 exY1 1 0 = fin 0 := by decide +kernel

/-- **The BHMZ05 iteration on `BD_Shape` is eventually stationary — PARTIAL.**  `Y k` is the closed previous iterate
of step `k`, `Red k` its redundancy bits, `X k` the (arbitrary) larger argument, `R k` the result of the loops; the
real iteration obtains `Y (k+1)`, `Red (k+1)` from `R k` by `shortest_path_closure_assign` +
`shortest_path_reduction_assign`.  EXTRA HYPOTHESIS `hLarsen`, NOT proved (minimality of the shortest-path reduction:
closing and reducing a matrix with `c` finite cells leaves at most `c` finite non-redundant cells); the native driver
checks this inequality on every real step.  Conclusion: from some step on the loops return the reduced previous
iterate on every cell — the iteration is stationary as sets. -/
theorem bd_bhmz05_chain_stabilises_partial (n : Nat) (X Y : Nat → Mat) (Red : Nat → BMat) (R : Nat → Mat)
    (hR : ∀ k, R k = bdBHMZ05Loops n (X k) (Y k) (Red k))
    (hLarsen : ∀ k, bdFinCount n (bdsReducedMat (Y (k + 1)) (Red (k + 1))) ≤ bdFinCount n (R k)) :
    ∃ N, ∀ k, k ≥ N → ∀ i j, i ≤ n → j ≤ n → R k i j = bdsReducedMat (Y k) (Red k) i j :=
  PPLV.Widen.bd_bhmz05_chain_stabilises_partial n X Y Red R hR hLarsen

-- non-vacuity: first step `x₀ ≤ 0 ∇ x₀ ≤ 1/2` (drops the upper bound), then the result against itself for ever
example : ∃ N, ∀ k, k ≥ N → ∀ i j, i ≤ 1 → j ≤ 1 →
    bdBHMZ05Loops 1 (exXs k) (exYs k) (BMat.const false) i j = bdsReducedMat (exYs k) (BMat.const false) i j :=
  bd_bhmz05_chain_stabilises_partial 1 exXs exYs (fun _ => BMat.const false)
    (fun k => bdBHMZ05Loops 1 (exXs k) (exYs k) (BMat.const false)) (fun _ => rfl) exR1_larsen
example : exXs 0 = exX1 ∧ exYs 0 = exY1 ∧ exXs 1 = exR1 ∧ exYs 1 = exR1 := ⟨rfl, rfl, rfl, rfl⟩

/-- **The BHMZ05 iteration on `Octagonal_Shape` is eventually stationary — PARTIAL.**  `Y k` is the strongly reduced
previous iterate, `X k` arbitrary, `R k = octBHMZ05Loops n (X k) (Y k)`; `Y (k+1)` comes from `R k` by
`strong_closure_assign` + `strong_reduction_assign`.  EXTRA HYPOTHESIS `hLarsen`, NOT proved (minimality of the strong
reduction), checked by the native driver on every real step: `Y (k+1)` has at most as many finite stored cells as
`R k`. -/
theorem oct_bhmz05_chain_stabilises_partial (n : Nat) (X Y : Nat → Mat) (R : Nat → Mat)
    (hR : ∀ k, R k = octBHMZ05Loops n (X k) (Y k))
    (hLarsen : ∀ k, octFinCount n (Y (k + 1)) ≤ octFinCount n (R k)) :
    ∃ N, ∀ k, k ≥ N → ∀ i j, i < 2 * n → j < rowSize i → R k i j = Y k i j :=
  PPLV.Widen.oct_bhmz05_chain_stabilises_partial n X Y R hR hLarsen

example : ∃ N, ∀ k, k ≥ N → ∀ i j, i < 2 * 1 → j < rowSize i →
    octBHMZ05Loops 1 (exXs k) (exYs k) i j = exYs k i j :=
  oct_bhmz05_chain_stabilises_partial 1 exXs exYs (fun k => octBHMZ05Loops 1 (exXs k) (exYs k)) (fun _ => rfl)
    exR1_larsen_oct

/-! ## the limited extrapolations (`limited_CC76_extrapolation_assign`, `limited_BHMZ05_extrapolation_assign`) -/

/-- **`BD_Shape::limited_CC76_extrapolation_assign(y, cs, tp)`** (`BD_Shape_templates.hh:3268`; model
`bdLimitedCC76`): on the path that does any work (`space_dim ≠ 0`, neither argument marked empty) every point of
the receiver is a point of the result, and every point of the result is a point of the plain
`CC76_extrapolation_assign(y, tp)` (`BD_Shape_inlines.hh:844`, the static stop points).  Holds for every rounding
`up` that rounds upwards and every token count.  (On the other paths the receiver is returned untouched:
`PPLV.Widen.bdLimitedCC76_early`.) -/
theorem bd_limited_cc76_between {up : Rat → ExtRat} (hup : ∀ q, fin q ≤ up q) (n csd : Nat)
    (cs : List LimCon) (X Y : BDS) (tp : Option Nat) (hWF : BDS.WF n X)
    (hn : n ≠ 0) (hx : X.empty = false) (hy : Y.empty = false) (p : Nat → Rat) :
    (BDS.γ n X p → BDS.γ n (bdLimitedCC76 up n csd cs X Y tp).1 p) ∧
    (BDS.γ n (bdLimitedCC76 up n csd cs X Y tp).1 p → BDS.γ n (bdCC76 up n defaultStops X Y tp).1 p) :=
  PPLV.Widen.bd_limited_cc76_between hup n csd cs X Y tp hWF hn hx hy p

example : BDS.γ 1 limExX (fun _ => 0) ∧
    BDS.γ 1 (bdLimitedCC76 upCeil 1 1 [limExC] limExX limExY none).1 (fun _ => 0) :=
  ⟨limExX_γ0, (bd_limited_cc76_between upCeil_sound 1 1 [limExC] limExX limExY none limExX_WF (by decide) rfl rfl
    _).1 limExX_γ0⟩

/-- the same, cell by cell and without the class invariant: with `Xc` the receiver as
`shortest_path_closure_assign()` at the head of `get_limiting_shape` (`:3205`) leaves it, `Xc ≤ result ≤ plain
widening` entrywise (all cells), and the three carry the same emptiness flag -/
theorem bd_limited_cc76_between_cells {up : Rat → ExtRat} (hup : ∀ q, fin q ≤ up q) (n csd : Nat)
    (cs : List LimCon) (X Y : BDS) (tp : Option Nat) (hn : n ≠ 0) (hx : X.empty = false) (hy : Y.empty = false) :
    let Xc := bdClosureAssign up n X
    let P := (bdCC76 up n defaultStops X Y tp).1
    let R := (bdLimitedCC76 up n csd cs X Y tp).1
    R.empty = Xc.empty ∧ P.empty = Xc.empty ∧ (∀ a b, Xc.dbm a b ≤ R.dbm a b) ∧ (∀ a b, R.dbm a b ≤ P.dbm a b) :=
  PPLV.Widen.bd_limited_cc76_between_cells hup n csd cs X Y tp hn hx hy

example : (bdLimitedCC76 upCeil 1 1 [limExC] limExX limExY none).1.dbm 0 1
    ≤ (bdCC76 upCeil 1 defaultStops limExX limExY none).1.dbm 0 1 :=
  (bd_limited_cc76_between_cells upCeil_sound 1 1 [limExC] limExX limExY none (by decide) rfl rfl).2.2.2 0 1

/-- **kept constraints, `BD_Shape`, CC76** (`get_limiting_shape`, `:3200-3264`).  PARTIAL in two respects, both
forced by the code as written: (1) only INEQUALITIES (`c.isEq = false`) — for equalities see
`bd_limiting_equality_half_dropped_fails`; (2) what is kept is the ROUNDED constraint `v_col - v_row ≤ d`,
`d = div_round_up(inhomo, |coeff|)` (`:3232`) — with an inexact `div_round_up` the supplied constraint itself is
not kept, see `bd_limited_keeps_rounded_fails`.  Hypotheses: `c` is one of the supplied rows, a bounded difference
with a variable (`bdLimSel`, `:3220-3221`), the constraint system has at most the space dimension of the receiver (checked at
`:3280`), and the closed receiver passes the test `x <= d` of `:3233`. -/
theorem bd_limited_cc76_keeps_partial {up : Rat → ExtRat} (hup : ∀ q, fin q ≤ up q) (n csd : Nat)
    (cs : List LimCon) (X Y : BDS) (tp : Option Nat) (hn : n ≠ 0) (hx : X.empty = false) (hy : Y.empty = false)
    (c : LimCon) (hc : c ∈ cs) (hsel : bdLimSel csd c = true) (hineq : c.isEq = false)
    (hcsd : csd ≤ n)
    (hsat : (bdClosureAssign up n X).dbm (bdLimCell csd c).1 (bdLimCell csd c).2 ≤ bdLimBound up csd c) :
    ((bdClosureAssign up n X).empty = false →
      (bdLimitedCC76 up n csd cs X Y tp).1.dbm (bdLimCell csd c).1 (bdLimCell csd c).2 ≤ bdLimBound up csd c) ∧
    ∀ p, BDS.γ n (bdLimitedCC76 up n csd cs X Y tp).1 p →
      fin (DBM.val p (bdLimCell csd c).2 - DBM.val p (bdLimCell csd c).1) ≤ bdLimBound up csd c :=
  PPLV.Widen.bd_limited_cc76_keeps hup n csd cs X Y tp hn hx hy c hc hsel hineq
    (le_trans (bdLimCell_range csd c hsel).1 hcsd) (le_trans (bdLimCell_range csd c hsel).2.1 hcsd) hsat

example : (bdLimitedCC76 upCeil 1 1 [limExC] limExX limExY none).1.dbm (bdLimCell 1 limExC).1 (bdLimCell 1 limExC).2
    ≤ bdLimBound upCeil 1 limExC :=
  (bd_limited_cc76_keeps_partial upCeil_sound 1 1 [limExC] limExX limExY none (by decide) rfl rfl limExC
    (List.mem_singleton.2 rfl) limExC_sel.1 limExC_sel.2.1 (le_refl _) limExC_sel.2.2.2.2).1 rfl

/-- **`BD_Shape::limited_BHMZ05_extrapolation_assign(y, cs, tp)`** (`BD_Shape_templates.hh:3381`; model
`bdLimitedBHMZ05`, `none` only if a predecessor walk of the reduction runs out of fuel): whenever the call returns,
the plain `BHMZ05_widening_assign(y, tp)` (`:3315`) of the closed receiver returns too, every point of the receiver
is a point of the result, and every point of the result is a point of that plain widening. -/
theorem bd_limited_bhmz05_between {up : Rat → ExtRat} (hup : ∀ q, fin q ≤ up q) (n csd : Nat)
    (cs : List LimCon) (X Y : BDS) (tp : Option Nat) (hWF : BDS.WF n X)
    (hn : n ≠ 0) (hx : X.empty = false) (hy : Y.empty = false)
    (r : BDS × BDS × Option Nat × Mat) (hr : bdLimitedBHMZ05 up n csd cs X Y tp = some r) :
    ∃ P, bdBHMZ05 up n (bdClosureAssign up n X) Y tp = some P ∧
      ∀ p, (BDS.γ n X p → BDS.γ n r.1 p) ∧ (BDS.γ n r.1 p → BDS.γ n P.1 p) :=
  PPLV.Widen.bd_limited_bhmz05_between hup n csd cs X Y tp hWF hn hx hy r hr

example : ∃ r, bdLimitedBHMZ05 upCeil 1 1 [limExC] limExX limExY none = some r ∧ BDS.γ 1 r.1 (fun _ => 0) := by
  cases hr : bdLimitedBHMZ05 upCeil 1 1 [limExC] limExX limExY none with
  | none => have := limEx_bhmz05_some; rw [hr] at this; cases this
  | some r =>
    obtain ⟨P, _, h⟩ := bd_limited_bhmz05_between upCeil_sound 1 1 [limExC] limExX limExY none limExX_WF
      (by decide) rfl rfl r hr
    exact ⟨r, rfl, (h _).1 limExX_γ0⟩

/-- **kept constraints, `BD_Shape`, BHMZ05**: as `bd_limited_cc76_keeps_partial` (inequalities only, rounded
bound); no hypothesis on `up` is needed here (the BHMZ05 loops do not round) -/
theorem bd_limited_bhmz05_keeps_partial (up : Rat → ExtRat) (n csd : Nat)
    (cs : List LimCon) (X Y : BDS) (tp : Option Nat) (hn : n ≠ 0) (hx : X.empty = false) (hy : Y.empty = false)
    (r : BDS × BDS × Option Nat × Mat) (hr : bdLimitedBHMZ05 up n csd cs X Y tp = some r)
    (c : LimCon) (hc : c ∈ cs) (hsel : bdLimSel csd c = true) (hineq : c.isEq = false)
    (hcsd : csd ≤ n)
    (hsat : (bdClosureAssign up n X).dbm (bdLimCell csd c).1 (bdLimCell csd c).2 ≤ bdLimBound up csd c) :
    ((bdClosureAssign up n X).empty = false →
      r.1.dbm (bdLimCell csd c).1 (bdLimCell csd c).2 ≤ bdLimBound up csd c) ∧
    ∀ p, BDS.γ n r.1 p →
      fin (DBM.val p (bdLimCell csd c).2 - DBM.val p (bdLimCell csd c).1) ≤ bdLimBound up csd c :=
  PPLV.Widen.bd_limited_bhmz05_keeps up n csd cs X Y tp hn hx hy r hr c hc hsel hineq
    (le_trans (bdLimCell_range csd c hsel).1 hcsd) (le_trans (bdLimCell_range csd c hsel).2.1 hcsd) hsat

example : ∃ r, bdLimitedBHMZ05 upCeil 1 1 [limExC] limExX limExY none = some r ∧
    r.1.dbm (bdLimCell 1 limExC).1 (bdLimCell 1 limExC).2 ≤ bdLimBound upCeil 1 limExC := by
  cases hr : bdLimitedBHMZ05 upCeil 1 1 [limExC] limExX limExY none with
  | none => have := limEx_bhmz05_some; rw [hr] at this; cases this
  | some r =>
    exact ⟨r, rfl, (bd_limited_bhmz05_keeps_partial upCeil 1 1 [limExC] limExX limExY none (by decide) rfl rfl r hr
      limExC (List.mem_singleton.2 rfl) limExC_sel.1 limExC_sel.2.1 (le_refl _) limExC_sel.2.2.2.2).1 rfl⟩

/-- **kept constraints with an exact `div_round_up`** (e.g. rational coefficients, `upId`): when the quotient
`inhomo / |coeff|` of a supplied inequality is computed exactly, the supplied constraint ITSELF,
`cf·v + inhomo ≥ 0`, holds at every point of the result of `limited_CC76_extrapolation_assign`
(`BD_Shape_templates.hh:3268`). -/
theorem bd_limited_cc76_keeps_exact {up : Rat → ExtRat} (hup : ∀ q, fin q ≤ up q) (n csd : Nat)
    (cs : List LimCon) (X Y : BDS) (tp : Option Nat) (hn : n ≠ 0) (hx : X.empty = false) (hy : Y.empty = false)
    (hcsd : csd ≤ n) (c : LimCon) (hc : c ∈ cs) (hsel : bdLimSel csd c = true) (hineq : c.isEq = false)
    (hex : bdLimBound up csd c = fin ((c.inhomo : Rat) / (bdLimCoeff csd c : Rat)))
    (hsat : (bdClosureAssign up n X).dbm (bdLimCell csd c).1 (bdLimCell csd c).2 ≤ bdLimBound up csd c)
    (p : Nat → Rat) (hp : BDS.γ n (bdLimitedCC76 up n csd cs X Y tp).1 p) :
    0 ≤ linEval c.coeff p csd + c.inhomo :=
  PPLV.Widen.bd_limited_cc76_keeps_exact hup n csd cs X Y tp hn hx hy hcsd c hc hsel hineq hex hsat p hp

example : 0 ≤ linEval limExC.coeff (fun _ => 0) 1 + limExC.inhomo :=
  bd_limited_cc76_keeps_exact upId_sound 1 1 [limExC] limExX limExY none (by decide) rfl rfl (le_refl _) limExC
    (List.mem_singleton.2 rfl) limExC_sel.1 rfl (bdLimBound_upId 1 limExC).1 limExC_sat_upId _
    ((bd_limited_cc76_between upId_sound 1 1 [limExC] limExX limExY none limExX_WF (by decide) rfl rfl _).1 limExX_γ0)

/-- the same for `limited_BHMZ05_extrapolation_assign` (`:3381`) -/
theorem bd_limited_bhmz05_keeps_exact (up : Rat → ExtRat) (n csd : Nat)
    (cs : List LimCon) (X Y : BDS) (tp : Option Nat) (hn : n ≠ 0) (hx : X.empty = false) (hy : Y.empty = false)
    (r : BDS × BDS × Option Nat × Mat) (hr : bdLimitedBHMZ05 up n csd cs X Y tp = some r)
    (hcsd : csd ≤ n) (c : LimCon) (hc : c ∈ cs) (hsel : bdLimSel csd c = true) (hineq : c.isEq = false)
    (hex : bdLimBound up csd c = fin ((c.inhomo : Rat) / (bdLimCoeff csd c : Rat)))
    (hsat : (bdClosureAssign up n X).dbm (bdLimCell csd c).1 (bdLimCell csd c).2 ≤ bdLimBound up csd c)
    (p : Nat → Rat) (hp : BDS.γ n r.1 p) :
    0 ≤ linEval c.coeff p csd + c.inhomo :=
  PPLV.Widen.bd_limited_bhmz05_keeps_exact up n csd cs X Y tp hn hx hy r hr hcsd c hc hsel hineq hex hsat p hp

example : bdLimSel 1 limExC = true ∧ bdLimBound upId 1 limExC = fin ((limExC.inhomo : Rat) / (bdLimCoeff 1 limExC : Rat))
    ∧ (bdClosureAssign upId 1 limExX).dbm (bdLimCell 1 limExC).1 (bdLimCell 1 limExC).2 ≤ bdLimBound upId 1 limExC :=
  ⟨limExC_sel.1, (bdLimBound_upId 1 limExC).1, limExC_sat_upId⟩

/-- **supplied EQUALITIES, `BD_Shape`** (`:3241-3254`): what is true.  If the receiver has a point, both quotients
`inhomo / |coeff|`, `-inhomo / |coeff|` are computed exactly and the closed receiver passes both tests `x <= d`,
`y <= d1`, then the equality holds at every point of the result.  (Then the receiver's two cells are exactly `d`
and `d1`, the limiting cells are still at or above them when the equality is reached, and the guard of `:3248`
cannot drop a half.)  Without exactness a half can be dropped: `bd_limiting_equality_half_dropped_fails`. -/
theorem bd_limited_cc76_keeps_eq_exact {up : Rat → ExtRat} (hup : ∀ q, fin q ≤ up q) (n csd : Nat)
    (cs : List LimCon) (X Y : BDS) (tp : Option Nat) (hWF : BDS.WF n X)
    (hn : n ≠ 0) (hx : X.empty = false) (hy : Y.empty = false)
    (hcsd : csd ≤ n) (c : LimCon) (hc : c ∈ cs) (hsel : bdLimSel csd c = true) (heq : c.isEq = true)
    (hex : bdLimBound up csd c = fin ((c.inhomo : Rat) / (bdLimCoeff csd c : Rat)))
    (hex1 : bdLimBound1 up csd c = fin (((- c.inhomo : Int) : Rat) / (bdLimCoeff csd c : Rat)))
    (hsat : (bdClosureAssign up n X).dbm (bdLimCell csd c).1 (bdLimCell csd c).2 ≤ bdLimBound up csd c)
    (hsat1 : (bdClosureAssign up n X).dbm (bdLimCell csd c).2 (bdLimCell csd c).1 ≤ bdLimBound1 up csd c)
    (p0 : Nat → Rat) (hp0 : BDS.γ n X p0)
    (p : Nat → Rat) (hp : BDS.γ n (bdLimitedCC76 up n csd cs X Y tp).1 p) :
    linEval c.coeff p csd + c.inhomo = 0 :=
  PPLV.Widen.bd_limited_cc76_keeps_eq_exact hup n csd cs X Y tp hWF hn hx hy hcsd c hc hsel heq hex hex1 hsat hsat1
    p0 hp0 p hp

example : linEval limExEqC.coeff (fun _ => 1) 1 + limExEqC.inhomo = 0 :=
  bd_limited_cc76_keeps_eq_exact upId_sound 1 1 [limExEqC] limExEqX limExEqX none limExEqX_WF (by decide) rfl rfl
    (le_refl _) limExEqC (List.mem_singleton.2 rfl) limExEqC_sel.1 rfl (bdLimBound_upId 1 limExEqC).1
    (bdLimBound_upId 1 limExEqC).2 limExEqC_sel.2.2.1 limExEqC_sel.2.2.2 _ limExEqX_γ1 _
    ((bd_limited_cc76_between upId_sound 1 1 [limExEqC] limExEqX limExEqX none limExEqX_WF (by decide) rfl rfl _).1
      limExEqX_γ1)

/-- the same for `limited_BHMZ05_extrapolation_assign` -/
theorem bd_limited_bhmz05_keeps_eq_exact {up : Rat → ExtRat} (hup : ∀ q, fin q ≤ up q) (n csd : Nat)
    (cs : List LimCon) (X Y : BDS) (tp : Option Nat) (hWF : BDS.WF n X)
    (hn : n ≠ 0) (hx : X.empty = false) (hy : Y.empty = false)
    (r : BDS × BDS × Option Nat × Mat) (hr : bdLimitedBHMZ05 up n csd cs X Y tp = some r)
    (hcsd : csd ≤ n) (c : LimCon) (hc : c ∈ cs) (hsel : bdLimSel csd c = true) (heq : c.isEq = true)
    (hex : bdLimBound up csd c = fin ((c.inhomo : Rat) / (bdLimCoeff csd c : Rat)))
    (hex1 : bdLimBound1 up csd c = fin (((- c.inhomo : Int) : Rat) / (bdLimCoeff csd c : Rat)))
    (hsat : (bdClosureAssign up n X).dbm (bdLimCell csd c).1 (bdLimCell csd c).2 ≤ bdLimBound up csd c)
    (hsat1 : (bdClosureAssign up n X).dbm (bdLimCell csd c).2 (bdLimCell csd c).1 ≤ bdLimBound1 up csd c)
    (p0 : Nat → Rat) (hp0 : BDS.γ n X p0) (p : Nat → Rat) (hp : BDS.γ n r.1 p) :
    linEval c.coeff p csd + c.inhomo = 0 :=
  PPLV.Widen.bd_limited_bhmz05_keeps_eq_exact hup n csd cs X Y tp hWF hn hx hy r hr hcsd c hc hsel heq hex hex1
    hsat hsat1 p0 hp0 p hp

example : ∃ r, bdLimitedBHMZ05 upId 1 1 [limExEqC] limExEqX limExEqX none = some r ∧
    ∀ p, BDS.γ 1 r.1 p → linEval limExEqC.coeff p 1 + limExEqC.inhomo = 0 := by
  cases hr : bdLimitedBHMZ05 upId 1 1 [limExEqC] limExEqX limExEqX none with
  | none => have := limExEq_bhmz05_some; rw [hr] at this; cases this
  | some r =>
    exact ⟨r, rfl, fun p hp => bd_limited_bhmz05_keeps_eq_exact upId_sound 1 1 [limExEqC] limExEqX limExEqX none
      limExEqX_WF (by decide) rfl rfl r hr (le_refl _) limExEqC (List.mem_singleton.2 rfl) limExEqC_sel.1 rfl
      (bdLimBound_upId 1 limExEqC).1 (bdLimBound_upId 1 limExEqC).2 limExEqC_sel.2.2.1 limExEqC_sel.2.2.2 _
      limExEqX_γ1 p hp⟩

/-- **rounding** (`BD_Shape_templates.hh:3232`, `div_round_up`): over an integer coefficient type every point of
the receiver `A ≤ 2` satisfies the supplied `2A ≤ 5`, `y` is `A ≤ 1`, yet the result of
`limited_BHMZ05_extrapolation_assign` is `A ≤ 3` and contains `A = 3`: the clause "a supplied constraint that
every point of the receiver satisfies is satisfied by every point of the result" is false as written. -/
theorem bd_limited_keeps_rounded_fails :
    ¬ ∀ (n csd : Nat) (cs : List LimCon) (X Y : BDS) (r : BDS × BDS × Option Nat × Mat),
        bdLimitedBHMZ05 upCeil n csd cs X Y none = some r →
        ∀ c ∈ cs, c.isEq = false → (∀ p, BDS.γ n X p → c.holds csd p) → ∀ p, BDS.γ n r.1 p → c.holds csd p :=
  PPLV.Widen.bd_limited_keeps_rounded_fails

example : (bdGetLimitingShape upCeil 1 1 [limExC] limExX BDS.univ).2.dbm 0 1 = fin 3 :=
  PPLV.Widen.bd_limiting_rounded_cell

/-- **equalities in `get_limiting_shape`** (`BD_Shape_templates.hh:3241-3254`): both halves of a supplied
equality are written only when `(ls_x >= d && ls_y > d1) || (ls_x > d && ls_y >= d1)`.  Over an integer
coefficient type the closed receiver `A = 1` passes both tests `x <= d`, `y <= d1` for `2A = 1` (`d = 0`,
`d1 = 1`), but the earlier `A ≥ 1` has already put `-1 < d` into the limiting cell: neither disjunct holds and the
half `A ≤ 1` is silently dropped.  So "both cells of an equality end up at most `d`, `d1` whenever the receiver's
cells are" is false.  (What is true: `PPLV.Widen.bdLimitStep_keeps_eq` — both are written when the limiting cells
are still at or above the bounds.) -/
theorem bd_limiting_equality_half_dropped_fails :
    ¬ ∀ (up : Rat → ExtRat) (csd : Nat) (dbm : Mat) (cs : List LimCon) (c : LimCon),
        c ∈ cs → bdLimSel csd c = true → c.isEq = true →
        dbm (bdLimCell csd c).1 (bdLimCell csd c).2 ≤ bdLimBound up csd c →
        dbm (bdLimCell csd c).2 (bdLimCell csd c).1 ≤ bdLimBound1 up csd c →
        (cs.foldl (bdLimitStep up csd dbm) (BDS.univ.dbm, false)).1 (bdLimCell csd c).1 (bdLimCell csd c).2
            ≤ bdLimBound up csd c ∧
        (cs.foldl (bdLimitStep up csd dbm) (BDS.univ.dbm, false)).1 (bdLimCell csd c).2 (bdLimCell csd c).1
            ≤ bdLimBound1 up csd c :=
  PPLV.Widen.bd_limiting_equality_half_dropped_fails

/-- **`Octagonal_Shape::limited_CC76_extrapolation_assign(y, cs, tp)`** (`Octagonal_Shape_templates.hh:4055`;
model `octLimitedCC76`): receiver ⊆ result ⊆ plain `CC76_extrapolation_assign(y, tp)`, for every upward rounding
and every token count, on the path that does any work (otherwise `PPLV.Widen.octLimitedCC76_early`). -/
theorem oct_limited_cc76_between {up : Rat → ExtRat} (hup : ∀ q, fin q ≤ up q) (n csd : Nat)
    (cs : List LimCon) (X Y : OCS) (tp : Option Nat) (hWF : OCS.WF n X)
    (hn : n ≠ 0) (hx : X.empty = false) (hy : Y.empty = false) (p : Nat → Rat) :
    (OCS.γ n X p → OCS.γ n (octLimitedCC76 up n csd cs X Y tp).1 p) ∧
    (OCS.γ n (octLimitedCC76 up n csd cs X Y tp).1 p → OCS.γ n (octCC76 up n defaultStops X Y tp).1 p) :=
  PPLV.Widen.oct_limited_cc76_between hup n csd cs X Y tp hWF hn hx hy p

example : OCS.γ 1 limExOX (fun _ => 0) ∧
    OCS.γ 1 (octLimitedCC76 upId 1 1 [limExOC] limExOX limExOY none).1 (fun _ => 0) :=
  ⟨limExOX_γ0, (oct_limited_cc76_between upId_sound 1 1 [limExOC] limExOX limExOY none limExOX_WF (by decide) rfl rfl
    _).1 limExOX_γ0⟩

/-- **kept constraints, `Octagonal_Shape`, CC76** (`get_limiting_octagon`, `:3964-4050`).  PARTIAL: only
INEQUALITIES — an equality contributes nothing at all (`oct_limiting_drops_equality_fails`) — and only the rounded
bound `d = div_round_up(term, |coeff|)` (`:4012`).  After the loop the cell of every supplied inequality that the
closed receiver satisfies (`m_i_j <= d`, `:4013`) is at most `d`: either it was written (`:4016`) or the `else`
ran, which means it was at most `d` already. -/
theorem oct_limited_cc76_keeps_partial {up : Rat → ExtRat} (hup : ∀ q, fin q ≤ up q) (n csd : Nat)
    (cs : List LimCon) (X Y : OCS) (tp : Option Nat) (hn : n ≠ 0) (hx : X.empty = false) (hy : Y.empty = false)
    (c : LimCon) (hc : c ∈ cs) (hsel : octLimSel csd c = true) (hineq : c.isEq = false)
    (hcsd : csd ≤ n)
    (hsat : (octClosureAssign up n X).mat (octLimCell csd c).1 (octLimCell csd c).2 ≤ octLimBound up csd c) :
    ((octClosureAssign up n X).empty = false →
      (octLimitedCC76 up n csd cs X Y tp).1.mat (octLimCell csd c).1 (octLimCell csd c).2 ≤ octLimBound up csd c) ∧
    ∀ p, OCS.γ n (octLimitedCC76 up n csd cs X Y tp).1 p →
      fin (OctM.oval p (octLimCell csd c).2 - OctM.oval p (octLimCell csd c).1) ≤ octLimBound up csd c :=
  PPLV.Widen.oct_limited_cc76_keeps hup n csd cs X Y tp hn hx hy c hc hsel hineq
    (lt_of_lt_of_le (octLimCell_range csd c hsel).1 (Nat.mul_le_mul_left 2 hcsd)) (octLimCell_range csd c hsel).2 hsat

example : (octLimitedCC76 upId 1 1 [limExOC] limExOX limExOY none).1.mat (octLimCell 1 limExOC).1
    (octLimCell 1 limExOC).2 ≤ octLimBound upId 1 limExOC :=
  (oct_limited_cc76_keeps_partial upId_sound 1 1 [limExOC] limExOX limExOY none (by decide) rfl rfl limExOC
    (List.mem_singleton.2 rfl) limExOC_sel.1 limExOC_sel.2.1 (le_refl _) limExOC_sel.2.2.2.2).1 rfl

/-- **`Octagonal_Shape::limited_BHMZ05_extrapolation_assign(y, cs, tp)`** (`Octagonal_Shape_templates.hh:4166`;
model `octLimitedBHMZ05`): whenever the call returns, receiver ⊆ result ⊆ plain `BHMZ05_widening_assign(y, tp)`
(`:4103`) of the closed receiver. -/
theorem oct_limited_bhmz05_between {up : Rat → ExtRat} (hup : ∀ q, fin q ≤ up q) (n csd : Nat)
    (cs : List LimCon) (X Y : OCS) (tp : Option Nat) (hWF : OCS.WF n X)
    (hn : n ≠ 0) (hx : X.empty = false) (hy : Y.empty = false)
    (r : OCS × OCS × Option Nat × Mat) (hr : octLimitedBHMZ05 up n csd cs X Y tp = some r) :
    ∃ P, octBHMZ05 up n (octClosureAssign up n X) Y tp = some P ∧
      ∀ p, (OCS.γ n X p → OCS.γ n r.1 p) ∧ (OCS.γ n r.1 p → OCS.γ n P.1 p) :=
  PPLV.Widen.oct_limited_bhmz05_between hup n csd cs X Y tp hWF hn hx hy r hr

example : ∃ r, octLimitedBHMZ05 upId 1 1 [limExOC] limExOX limExOY none = some r ∧ OCS.γ 1 r.1 (fun _ => 0) := by
  cases hr : octLimitedBHMZ05 upId 1 1 [limExOC] limExOX limExOY none with
  | none => have := limExO_bhmz05_some; rw [hr] at this; cases this
  | some r =>
    obtain ⟨P, _, h⟩ := oct_limited_bhmz05_between upId_sound 1 1 [limExOC] limExOX limExOY none limExOX_WF
      (by decide) rfl rfl r hr
    exact ⟨r, rfl, (h _).1 limExOX_γ0⟩

/-- **kept constraints, `Octagonal_Shape`, BHMZ05**: as `oct_limited_cc76_keeps_partial` -/
theorem oct_limited_bhmz05_keeps_partial (up : Rat → ExtRat) (n csd : Nat)
    (cs : List LimCon) (X Y : OCS) (tp : Option Nat) (hn : n ≠ 0) (hx : X.empty = false) (hy : Y.empty = false)
    (r : OCS × OCS × Option Nat × Mat) (hr : octLimitedBHMZ05 up n csd cs X Y tp = some r)
    (c : LimCon) (hc : c ∈ cs) (hsel : octLimSel csd c = true) (hineq : c.isEq = false)
    (hcsd : csd ≤ n)
    (hsat : (octClosureAssign up n X).mat (octLimCell csd c).1 (octLimCell csd c).2 ≤ octLimBound up csd c) :
    ((octClosureAssign up n X).empty = false →
      r.1.mat (octLimCell csd c).1 (octLimCell csd c).2 ≤ octLimBound up csd c) ∧
    ∀ p, OCS.γ n r.1 p →
      fin (OctM.oval p (octLimCell csd c).2 - OctM.oval p (octLimCell csd c).1) ≤ octLimBound up csd c :=
  PPLV.Widen.oct_limited_bhmz05_keeps up n csd cs X Y tp hn hx hy r hr c hc hsel hineq
    (lt_of_lt_of_le (octLimCell_range csd c hsel).1 (Nat.mul_le_mul_left 2 hcsd)) (octLimCell_range csd c hsel).2 hsat

example : ∃ r, octLimitedBHMZ05 upId 1 1 [limExOC] limExOX limExOY none = some r ∧
    r.1.mat (octLimCell 1 limExOC).1 (octLimCell 1 limExOC).2 ≤ octLimBound upId 1 limExOC := by
  cases hr : octLimitedBHMZ05 upId 1 1 [limExOC] limExOX limExOY none with
  | none => have := limExO_bhmz05_some; rw [hr] at this; cases this
  | some r =>
    exact ⟨r, rfl, (oct_limited_bhmz05_keeps_partial upId 1 1 [limExOC] limExOX limExOY none (by decide) rfl rfl r hr
      limExOC (List.mem_singleton.2 rfl) limExOC_sel.1 limExOC_sel.2.1 (le_refl _) limExOC_sel.2.2.2.2).1 rfl⟩

/-- **kept inequalities with an exact `div_round_up`, `Octagonal_Shape`**: when the quotient `term / |coeff|` is
computed exactly (e.g. `upId`), the supplied inequality ITSELF holds at every point of the result of
`limited_CC76_extrapolation_assign` (`Octagonal_Shape_templates.hh:4055`). -/
theorem oct_limited_cc76_keeps_exact {up : Rat → ExtRat} (hup : ∀ q, fin q ≤ up q) (n csd : Nat)
    (cs : List LimCon) (X Y : OCS) (tp : Option Nat) (hn : n ≠ 0) (hx : X.empty = false) (hy : Y.empty = false)
    (hcsd : csd ≤ n) (c : LimCon) (hc : c ∈ cs) (hsel : octLimSel csd c = true) (hineq : c.isEq = false)
    (hex : octLimBound up csd c
      = fin (((extractOctagonalDifference csd c.coeff c.inhomo).term : Rat) / (octLimCoeff csd c : Rat)))
    (hsat : (octClosureAssign up n X).mat (octLimCell csd c).1 (octLimCell csd c).2 ≤ octLimBound up csd c)
    (p : Nat → Rat) (hp : OCS.γ n (octLimitedCC76 up n csd cs X Y tp).1 p) :
    0 ≤ linEval c.coeff p csd + c.inhomo :=
  PPLV.Widen.oct_limited_cc76_keeps_exact hup n csd cs X Y tp hn hx hy hcsd c hc hsel hineq hex hsat p hp

example : 0 ≤ linEval limExOC.coeff (fun _ => 0) 1 + limExOC.inhomo :=
  oct_limited_cc76_keeps_exact upId_sound 1 1 [limExOC] limExOX limExOY none (by decide) rfl rfl (le_refl _) limExOC
    (List.mem_singleton.2 rfl) limExOC_sel.1 rfl (octLimBound_upId 1 limExOC) limExOC_sel.2.2.2.2 _
    ((oct_limited_cc76_between upId_sound 1 1 [limExOC] limExOX limExOY none limExOX_WF (by decide) rfl rfl _).1
      limExOX_γ0)

/-- the same for `limited_BHMZ05_extrapolation_assign` (`:4166`) -/
theorem oct_limited_bhmz05_keeps_exact (up : Rat → ExtRat) (n csd : Nat)
    (cs : List LimCon) (X Y : OCS) (tp : Option Nat) (hn : n ≠ 0) (hx : X.empty = false) (hy : Y.empty = false)
    (r : OCS × OCS × Option Nat × Mat) (hr : octLimitedBHMZ05 up n csd cs X Y tp = some r)
    (hcsd : csd ≤ n) (c : LimCon) (hc : c ∈ cs) (hsel : octLimSel csd c = true) (hineq : c.isEq = false)
    (hex : octLimBound up csd c
      = fin (((extractOctagonalDifference csd c.coeff c.inhomo).term : Rat) / (octLimCoeff csd c : Rat)))
    (hsat : (octClosureAssign up n X).mat (octLimCell csd c).1 (octLimCell csd c).2 ≤ octLimBound up csd c)
    (p : Nat → Rat) (hp : OCS.γ n r.1 p) :
    0 ≤ linEval c.coeff p csd + c.inhomo :=
  PPLV.Widen.oct_limited_bhmz05_keeps_exact up n csd cs X Y tp hn hx hy r hr hcsd c hc hsel hineq hex hsat p hp

example : ∃ r, octLimitedBHMZ05 upId 1 1 [limExOC] limExOX limExOY none = some r ∧
    ∀ p, OCS.γ 1 r.1 p → 0 ≤ linEval limExOC.coeff p 1 + limExOC.inhomo := by
  cases hr : octLimitedBHMZ05 upId 1 1 [limExOC] limExOX limExOY none with
  | none => have := limExO_bhmz05_some; rw [hr] at this; cases this
  | some r =>
    exact ⟨r, rfl, fun p hp => oct_limited_bhmz05_keeps_exact upId 1 1 [limExOC] limExOX limExOY none (by decide)
      rfl rfl r hr (le_refl _) limExOC (List.mem_singleton.2 rfl) limExOC_sel.1 rfl (octLimBound_upId 1 limExOC)
      limExOC_sel.2.2.2.2 p hp⟩

/-- **equalities in `get_limiting_octagon`** (`Octagonal_Shape_templates.hh:4014-4042`): the whole body of the
loop, the "other half" included, sits inside `if (c.is_inequality())` — the "other half" is the `else` of
`if (lo_m_i_j > d)` — so a supplied equality leaves the limiting octagon untouched although the closed receiver
(`A = 1`) satisfies both halves (`A = 1` supplied, exact coefficients).  (`PPLV.Widen.octLimitFold_equalities`: a
system of equalities never changes the limiting octagon.) -/
theorem oct_limiting_drops_equality_fails :
    ¬ ∀ (up : Rat → ExtRat) (csd : Nat) (m : Mat) (cs : List LimCon) (c : LimCon),
        c ∈ cs → octLimSel csd c = true → c.isEq = true →
        m (octLimCell csd c).1 (octLimCell csd c).2 ≤ octLimBound up csd c →
        m (octLimCell2 csd c).1 (octLimCell2 csd c).2 ≤ octLimBound2 up csd c →
        (cs.foldl (octLimitStep up csd m) (OCS.univ.mat, false)).1 (octLimCell csd c).1 (octLimCell csd c).2
            ≤ octLimBound up csd c ∧
        (cs.foldl (octLimitStep up csd m) (OCS.univ.mat, false)).1 (octLimCell2 csd c).1 (octLimCell2 csd c).2
            ≤ octLimBound2 up csd c :=
  PPLV.Widen.oct_limiting_drops_equality_fails

/-- the misplaced `else` (`:4019`) at work: supplying the inequality `A ≥ 1` twice on the receiver `A = 1` adds
`A ≤ 1` to the limiting octagon, which nobody supplied; it is guarded by `m_ci_cj <= d` (`:4037`), so the limiting
octagon still contains the receiver (`PPLV.Widen.octGetLimitingOctagon_dom`) -/
theorem oct_limiting_misplaced_else_witness :
    (([⟨false, [1], -1, false⟩] : List LimCon).foldl (octLimitStep upId 1 limExOctM) (OCS.univ.mat, false)).1 1 0
      = pinf ∧
    (([⟨false, [1], -1, false⟩, ⟨false, [1], -1, false⟩] : List LimCon).foldl
      (octLimitStep upId 1 limExOctM) (OCS.univ.mat, false)).1 1 0 = fin 2 :=
  PPLV.Widen.oct_limiting_misplaced_else_witness

/-- **`Box::limited_CC76_extrapolation_assign(y, cs, tp)`** (`Box_templates.hh:4305`; model `boxLimitedCC76`,
rational boundaries): receiver ⊆ result ⊆ plain `CC76_widening_assign(y, tp)` (`:4242`), for every token count,
on the path that does any work (space dimension `≠ 0`, neither box marked empty; otherwise
`PPLV.Widen.boxLimitedCC76_early`). -/
theorem box_limited_cc76_between (sd : Nat) (cs : List LimCon) (x y : BoxS) (tp : Option Nat)
    (hl : x.seq.length ≠ 0) (hx : x.markedEmpty = false) (hy : y.markedEmpty = false) (p : Nat → Rat) :
    (BoxS.γ x p → BoxS.γ (boxLimitedCC76 sd cs x y tp).1 p) ∧
    (BoxS.γ (boxLimitedCC76 sd cs x y tp).1 p → BoxS.γ (boxCC76 x y tp).1 p) :=
  PPLV.Widen.box_limited_cc76_between sd cs x y tp hl hx hy p

example : BoxS.γ limExBX (fun _ => 0) ∧ BoxS.γ (boxLimitedCC76 1 [limExBC] limExBX limExBY none).1 (fun _ => 0) :=
  ⟨limExBX_γ0, (box_limited_cc76_between 1 [limExBC] limExBX limExBY none (by decide) rfl rfl _).1 limExBX_γ0⟩

/-- **kept constraints, `Box`** (`get_limiting_box`, `:4274-4301`).  PARTIAL: restricted to the constraints the
loop SELECTS (`boxLimSel`: an interval constraint on a variable `ov` with
`interval_relation(seq[ov], …) == Poly_Con_Relation::is_included()`, `:4294`); these hold exactly (no rounding) at
every point of the result.  NOT selected although the receiver satisfies them: every equality
(`PPLV.Widen.intervalRelationIsIncluded_eq_false`) and every inequality that a singleton component saturates
(`box_limiting_drops_saturated_singleton_fails`): `interval_relation` then answers
`is_included() && saturates()`, which `==` does not match.  (Under the precondition `y ⊆ x`, `y` non-empty, the
component of `y` is then the same singleton and the plain widening leaves it alone — not proved here.) -/
theorem box_limited_cc76_keeps_partial (sd : Nat) (cs : List LimCon) (x y : BoxS) (tp : Option Nat)
    (hl : x.seq.length ≠ 0) (hx : x.markedEmpty = false) (hy : y.markedEmpty = false)
    (c : LimCon) (hc : c ∈ cs) (ov : Nat) (hsel : boxLimSel sd x.seq c ov)
    (hov : ov < (boxCC76 x y tp).1.seq.length) (p : Nat → Rat)
    (hp : BoxS.γ (boxLimitedCC76 sd cs x y tp).1 p) : conHolds1 c c.inhomo (c.coeff ov) (p ov) :=
  PPLV.Widen.box_limited_cc76_keeps sd cs x y tp hl hx hy c hc ov hsel hov p hp

example : conHolds1 limExBC limExBC.inhomo (limExBC.coeff 0) 0 :=
  box_limited_cc76_keeps_partial 1 [limExBC] limExBX limExBY none (by decide) rfl rfl limExBC
    (List.mem_singleton.2 rfl) 0 limExBC_sel (by decide +kernel) (fun _ => 0)
    ((box_limited_cc76_between 1 [limExBC] limExBX limExBY none (by decide) rfl rfl _).1 limExBX_γ0)

example : (boxLimitedCC76 1 [limExBC] limExBX limExBY none).1 = { seq := [⟨none, false, some (7 / 2), false⟩] } :=
  limExB_result

/-- the two interval primitives of `get_limiting_box`: `interval_relation(…) == is_included()` is sound
(the interval lies in the half-line), and `refine_interval_no_check` is exactly the intersection with it -/
theorem box_limiting_primitives (I J : Itv) (c : LimCon) (numer denom : Int) (hd : denom ≠ 0) (q : Rat) :
    (intervalRelationIsIncluded I c numer denom = true → I.mem q → conHolds1 c numer denom q) ∧
    ((refineIntervalNoCheck J c numer denom).mem q ↔ J.mem q ∧ conHolds1 c numer denom q) ∧
    ((Itv.intersect I J).mem q ↔ I.mem q ∧ J.mem q) :=
  ⟨fun h hq => intervalRelationIsIncluded_sound I c numer denom hd h q hq,
   refineIntervalNoCheck_mem J c numer denom hd q, Itv.intersect_mem I J q⟩

example : intervalRelationIsIncluded ⟨none, false, some 3, false⟩ limExBC 7 (-2) = true := by decide +kernel

/-- **a saturated singleton is not selected** (`Box_templates.hh:4294`, `==` against
`Poly_Con_Relation::is_included()`): `I = [3, 3]` and `A ≥ 3`: every point of `I` satisfies the constraint, yet
the comparison fails because `interval_relation` answers `is_included() && saturates()`. -/
theorem box_limiting_drops_saturated_singleton_fails :
    ¬ ∀ (I : Itv) (c : LimCon) (numer denom : Int), denom ≠ 0 → c.isEq = false →
        ¬ (I.lo.isNone = true ∧ I.hi.isNone = true) → (∀ q, I.mem q → conHolds1 c numer denom q) →
        intervalRelationIsIncluded I c numer denom = true :=
  PPLV.Widen.box_limiting_drops_saturated_singleton_fails

/-- **the unselected constraints are harmless under the precondition `y ⊆ x`**: if the receiver's `k`-th component
is a singleton and the `k`-th component of `y` shares a point with it (as it must when `y ⊆ x` and `y` is not
empty), the plain widening leaves that component alone, so every point of the result of
`limited_CC76_extrapolation_assign` has its `k`-th coordinate in the receiver's component: whatever equality or
saturated inequality on variable `k` the receiver satisfies is satisfied by the result although
`get_limiting_box` did not select it. -/
theorem box_limited_cc76_singleton_harmless (sd : Nat) (cs : List LimCon) (x y : BoxS) (tp : Option Nat)
    (hl : x.seq.length ≠ 0) (hxe : x.markedEmpty = false) (hye : y.markedEmpty = false)
    (k : Nat) (hkx : k < x.seq.length) (hky : k < y.seq.length) (hs : (x.seq[k]).isSingleton = true) (q : Rat)
    (hy : (y.seq[k]).mem q) (hx : (x.seq[k]).mem q) (hk : k < (boxCC76 x y tp).1.seq.length)
    (p : Nat → Rat) (hp : BoxS.γ (boxLimitedCC76 sd cs x y tp).1 p) : (x.seq[k]).mem (p k) :=
  PPLV.Widen.box_limited_cc76_singleton_harmless sd cs x y tp hl hxe hye k hkx hky hs q hy hx hk p hp

example : (limExBS.seq[0]'(by decide)).mem ((fun _ : Nat => (3 : Rat)) 0) :=
  box_limited_cc76_singleton_harmless 1 [⟨false, [1], -3, false⟩] limExBS limExBS none (by decide) rfl rfl 0
    (by decide) (by decide) (by decide +kernel) 3 limExBS_mem3 limExBS_mem3 (by decide +kernel) _
    ((box_limited_cc76_between 1 [⟨false, [1], -3, false⟩] limExBS limExBS none (by decide) rfl rfl _).1 limExBS_γ3)

end C08

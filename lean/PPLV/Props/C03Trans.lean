import PPLV.WR.TransProofsPre
import PPLV.WR.TransProofsRefine
import PPLV.WR.TransOctProofsMain
import PPLV.WR.TransProofsAffExact
import PPLV.WR.ClosureProofsFW
import Mathlib.Tactic.IntervalCases
import Mathlib.Tactic.NormNum
/-!
# C03 — the sign-case transformers of `BD_Shape<T>`, for every bound type

Statements about the code-shaped models of `PPLV/WR/Trans.lean` (`/repo/src/BD_Shape_templates.hh`:
`add_constraint`, `refine_no_check`, `affine_image`, `generalized_affine_image(var, …)`,
`bounded_affine_image`, `unconstrain`).  A bound is an extended rational; the directed operations of the
bound type are an arbitrary `R : Rnd` with the one-sided hypotheses `R.Sound` (`x ≤ up x`,
`0 < dn y ≤ y` for `y ≥ 1`, `s + c·a ≤ addMul s c a`).  `Rnd.exact` (`mpq_class`), `Rnd.ceil`
(`mpz_class`) and `Rnd.range lo hi` (bounded integers, overflow to `+∞`) are instances
(`Rnd.exact_sound`, `Rnd.ceil_sound`, `Rnd.range_sound`).  `DBM.γ m` / `γB n m` is the set of
valuations `ℕ → ℚ` satisfying every entry; `upd x var t` is `x[var := t]`.

* `refine_sound`, `add_constraint_sound` — full strength (every rounding, every constraint, BD or not,
  strict or not); `refine_exact` — exact arithmetic: the result is exactly `γ m ∩ c`.
* `affine_image_sound_partial`, `generalized_affine_image_sound_partial`,
  `bounded_affine_image_sound_partial` — for every rounding, matrix, expression, denominator, closure
  flag, UNDER the side condition `CoeffExact R e`: the absolute values of the coefficients are
  representable in `T`.  Without it the code as written is not sound
  (`affine_image_sound_fails`: `assign_r(coeff_i, sc_i, ROUND_UP)` followed by
  `add_mul_assign_r(sum, coeff_i, bound_i, ROUND_UP)` with `bound_i < 0`; open findings
  `coefficient_or_denominator_not_representable_in_T`; for a bounded integer `T` the coefficient
  becomes `+∞` and the code stores `-∞` / Not-a-Number, values outside the model).  The denominator needs
  no side condition: `div_round_up_by_positive` rounds it in the direction that keeps the quotient an upper bound.
* `affine_image_sound_special` — the constant, `±var + b`, `±w + b` forms: full strength, no side condition.
* `affine_image_sound_mpq`, `affine_image_sound_mpz`, … — `mpq_class` / `mpz_class`: no side condition.
* `unconstrain_sound`.
* `affine_preimage_sound_partial`, `generalized_affine_preimage_sound_partial` (side condition: coefficients
  and `|den|` representable — the inverse expression has the coefficient `den`).
* `affine_image_exact` — `BD_Shape<mpq_class>`: constant, `var + b/den`, `w + b/den` are exact.
* `oct_affine_image_sound_partial` — `Octagonal_Shape<T>::affine_image` (model `PPLV/WR/TransOct.lean`), all
  cases; side conditions `CoeffExact` and `HalfFiniteOn` (halving a finite unary cell does not overflow: a fact
  about every real `T` that an abstract `up` does not provide); `oct_affine_image_sound_special`,
  `oct_affine_image_sound_mpq/_mpz` without side conditions.
-/
namespace C03
open PPLV.WR
open PPLV.WR.ExtRat (fin pinf)

/-! ## `refine_no_check(const Constraint&)`, `add_constraint` -/

/-- every point of the shape that satisfies the constraint `cf·x + inhomo ⋈ 0` is in the refined shape
(which is never marked empty then), and entries only decrease.  Non-BD constraints are ignored. -/
theorem refine_sound (R : Rnd) (hR : R.Sound) {n : ℕ} (m : DBM n) (sd : ℕ) (hsd : sd ≤ n) (cf : ℕ → ℤ)
    (inhomo : ℤ) (kind : CKind) :
    ∀ x ∈ DBM.γ m, CSat cf sd inhomo kind x →
      match refineNoCheck R sd cf inhomo kind m.e with
      | .ok m' => x ∈ γB n m' ∧ MLe m' m.e
      | .empty => False
      | .throws => False := by
  intro x hx hc
  rw [DBM.γ_eq] at hx
  exact refineNoCheck_sound hR.up_le hsd cf inhomo kind m.e hx hc

set_option linter.unusedVariables false in
/-- `add_constraint`: the same (it throws on non-BD and on non-trivial strict constraints). -/
theorem add_constraint_sound (R : Rnd) (hR : R.Sound) {n : ℕ} (m : DBM n) (sd : ℕ) (hsd : sd ≤ n) (cf : ℕ → ℤ)
    (inhomo : ℤ) (kind : CKind) :
    ∀ x ∈ DBM.γ m, CSat cf sd inhomo kind x →
      match addConstraint R sd cf inhomo kind m.e with
      | .ok m' => x ∈ γB n m' ∧ MLe m' m.e
      | .empty => False
      | .throws => True := by
  intro x hx hc
  rw [DBM.γ_eq] at hx
  exact addConstraint_sound hR.up_le cf inhomo kind m.e hx hc

/-- exact arithmetic, a bounded-difference constraint: the refined shape is exactly `γ m ∩ c`, and it is
marked empty only if that set is empty. -/
theorem refine_exact {n : ℕ} (m : DBM n) (sd : ℕ) (hsd : sd ≤ n) (cf : ℕ → ℤ) (inhomo : ℤ) (kind : CKind)
    (hbd : (extractBoundedDifference sd cf).ok = true) (hk : kind ≠ .gt) :
    match refineNoCheck Rnd.exact sd cf inhomo kind m.e with
    | .ok m' => ∀ y, y ∈ γB n m' ↔ (y ∈ DBM.γ m ∧ CSat cf sd inhomo kind y)
    | .empty => ¬ ∃ y, y ∈ DBM.γ m ∧ CSat cf sd inhomo kind y
    | .throws => False := by
  rw [DBM.γ_eq]
  exact refineNoCheck_exact hsd cf inhomo kind m.e hbd hk

/-! ## `affine_image` -/

/-- `affine_image(var, expr, den)`: for every point `x` of the shape, `x[var := expr(x)/den]` is in the
result — every rounding, matrix, expression, denominator, closed flag; coefficients representable. -/
theorem affine_image_sound_partial (R : Rnd) (hR : R.Sound) {n : ℕ} (m : DBM n) (closed : Bool) (var : ℕ)
    (hvar : var < n) (e : ℕ → ℤ) (b den : ℤ) (hden : den ≠ 0) (hc : CoeffExact R e) :
    ∀ x ∈ DBM.γ m, ∃ m', affineImage R closed var e b den m = some m' ∧
      upd x var ((linEval e x n + b) / den) ∈ γB n m' := by
  intro x hx
  obtain ⟨m1, h1, hx1⟩ := closeFirst_sound hR.up_le closed m hx
  exact ⟨_, by simp [affineImage, h1], affineImageCore_sound hR hvar hc hden hx1⟩

/-- the forms `expr == b`, `±den*var + b`, `±den*w + b`: no side condition at all. -/
theorem affine_image_sound_special (R : Rnd) (hR : R.Sound) {n : ℕ} (m : DBM n) (closed : Bool) (var : ℕ)
    (hvar : var < n) (e : ℕ → ℤ) (b den : ℤ) (hden : den ≠ 0)
    (hsp : exprT e (lastNonzero e n) = 0 ∨
      (exprT e (lastNonzero e n) = 1 ∧ (e (lastNonzero e n - 1) = den ∨ e (lastNonzero e n - 1) = - den))) :
    ∀ x ∈ DBM.γ m, ∃ m', affineImage R closed var e b den m = some m' ∧
      upd x var ((linEval e x n + b) / den) ∈ γB n m' := by
  intro x hx
  obtain ⟨m1, h1, hx1⟩ := closeFirst_sound hR.up_le closed m hx
  exact ⟨_, by simp [affineImage, h1], affineImageCore_special_sound hR hvar hden hx1 hsp⟩

/-- `BD_Shape<mpq_class>` -/
theorem affine_image_sound_mpq {n : ℕ} (m : DBM n) (closed : Bool) (var : ℕ) (hvar : var < n) (e : ℕ → ℤ)
    (b den : ℤ) (hden : den ≠ 0) :
    ∀ x ∈ DBM.γ m, ∃ m', affineImage Rnd.exact closed var e b den m = some m' ∧
      upd x var ((linEval e x n + b) / den) ∈ γB n m' :=
  affine_image_sound_partial _ Rnd.exact_sound m closed var hvar e b den hden (Rnd.exact_coeff e)

/-- `BD_Shape<mpz_class>` -/
theorem affine_image_sound_mpz {n : ℕ} (m : DBM n) (closed : Bool) (var : ℕ) (hvar : var < n) (e : ℕ → ℤ)
    (b den : ℤ) (hden : den ≠ 0) :
    ∀ x ∈ DBM.γ m, ∃ m', affineImage Rnd.ceil closed var e b den m = some m' ∧
      upd x var ((linEval e x n + b) / den) ∈ γB n m' :=
  affine_image_sound_partial _ Rnd.ceil_sound m closed var hvar e b den hden (Rnd.ceil_coeff e)

/-! ### exact arithmetic: where the code comments claim that nothing is lost -/

/-- the matrix left by the exact closure satisfies the triangle inequality through any index -/
theorem closedAt_closure {n : ℕ} (m : DBM n) (hne : DBM.closureEmpty upId m = false) (v : ℕ) (hv : v ≤ n) :
    ClosedAt n v (DBM.closure upId m).e := by
  intro i j hi hj hiv hjv hij p q hp hq
  rw [DBM.closure_offdiag m hiv] at hp
  rw [DBM.closure_offdiag m (Ne.symm hjv)] at hq
  rw [DBM.closure_offdiag m hij]
  have := (DBM.closure_core_closed m hne).tri i j v (by omega) (by omega) (by omega)
  rw [hp, hq] at this
  exact this

theorem γ_closure_exact {n : ℕ} (m : DBM n) : γB n (DBM.closure upId m).e = DBM.γ m := by
  rw [← DBM.γ_eq]
  ext x
  constructor
  · intro hx i j hi hj
    exact ExtRat.le_trans' (hx i j hi hj) (DBM.closure_le upId_sound m i j hi hj)
  · intro hx
    exact DBM.closure_sat upId_sound m x hx

/-- `BD_Shape<mpq_class>::affine_image` is EXACT for `expr == b`, `var + b/den` (`den*var + b`) and
`w + b/den`: the result is precisely the image of the shape (and it is marked empty only if the shape is
empty). -/
theorem affine_image_exact {n : ℕ} (m : DBM n) (var : ℕ) (hvar : var < n) (e : ℕ → ℤ) (b den : ℤ)
    (hden : den ≠ 0)
    (hform : exprT e (lastNonzero e n) = 0 ∨
      (exprT e (lastNonzero e n) = 1 ∧ e (lastNonzero e n - 1) = den)) :
    match affineImage Rnd.exact false var e b den m with
    | none => DBM.γ m = ∅
    | some m' => ∀ y, y ∈ γB n m' ↔ ∃ x ∈ DBM.γ m, y = upd x var ((linEval e x n + b) / den) := by
  unfold affineImage closeFirst
  simp only [Bool.false_eq_true, if_false]
  cases hne : DBM.closureEmpty Rnd.exact.up m with
  | true =>
    simp only [if_true, Option.map_none]
    exact Set.eq_empty_iff_forall_notMem.2 fun x hx => DBM.closureEmpty_sound upId_sound m hne x hx
  | false =>
    simp only [Bool.false_eq_true, if_false, Option.map_some]
    have hcl := closedAt_closure m hne (var + 1) (by omega)
    have hγ := γ_closure_exact m
    have hnonempty : ∃ x, x ∈ γB n (DBM.closure upId m).e := by
      obtain ⟨x, hx⟩ := DBM.closure_nonempty m hne
      exact ⟨x, by rw [hγ]; exact hx⟩
    intro y
    rw [← hγ]
    rcases hform with h0 | ⟨h1, ha⟩
    · exact affineImage_constant_exact hvar hden h0 hcl hnonempty y
    · by_cases hwv : lastNonzero e n = var + 1
      · have ha' : e var = den := by rw [hwv] at ha; simpa using ha
        exact affineImage_translation_exact hvar hden h1 hwv ha' y
      · exact affineImage_w_plus_b_exact hvar hden h1 hwv ha hcl hnonempty y

/-! ### the clause that fails: a coefficient that is rounded (`up 3 = 4`) meets a negative bound -/

/-- a sound rounding whose values are the even integers: `up x = 2·⌈x/2⌉` -/
def rndEven : Rnd :=
  ⟨fun x => fin ((2 * (x / 2).ceil : Int) : Rat), id, fun s c a => fin ((2 * ((s + c * a) / 2).ceil : Int) : Rat)⟩

theorem rndEven_sound : rndEven.Sound := by
  have key : ∀ x : ℚ, x ≤ ((2 * (x / 2).ceil : Int) : Rat) := by
    intro x
    have := Rat.le_ceil (x := x / 2)
    push_cast
    linarith
  exact ⟨fun x => ExtRat.fin_le_fin.2 (key x), fun y hy => by simp [rndEven]; linarith, fun y _ => le_refl _,
    fun s c a => ExtRat.fin_le_fin.2 (key _)⟩

/-- `x₀ = -1` -/
def exW : DBM 1 := DBM.ofLists 1 [[pinf, fin (-1)], [fin 1, pinf]]
def ptW : ℕ → ℚ := fun _ => -1
def eW : ℕ → ℤ := fun i => if i = 0 then 3 else 0

theorem ptW_mem : ptW ∈ DBM.γ exW := by
  intro i j hi hj
  interval_cases i <;> interval_cases j <;>
    simp [exW, DBM.ofLists, Mat.diagDown_apply, Mat.ofLists, DBM.val, ptW]

/-- the code computes the upper bound `up(0 + up(3)·(-1)) = -4` of `3·x₀` on `x₀ = -1` -/
theorem affine_image_fails_entry : (affineImageCore rndEven 1 0 eW 0 1 exW.e) 0 1 = fin (-4) := by
  decide +kernel

/-- WITHOUT the side condition the statement of `affine_image_sound_partial` is false: `x₀ := 3·x₀` on
`{x₀ = -1}` yields `x₀ ≤ -4`, which cuts the image `-3` away. -/
theorem affine_image_sound_fails :
    ¬ (∀ (R : Rnd), R.Sound → ∀ {n : ℕ} (m : DBM n) (closed : Bool) (var : ℕ), var < n →
        ∀ (e : ℕ → ℤ) (b den : ℤ), den ≠ 0 → ∀ x ∈ DBM.γ m,
          ∃ m', affineImage R closed var e b den m = some m' ∧
            upd x var ((linEval e x n + b) / den) ∈ γB n m') := by
  intro h
  obtain ⟨m', hm', hx'⟩ := h rndEven rndEven_sound exW true 0 (by norm_num) eW 0 1 (by norm_num) ptW ptW_mem
  have hm : m' = affineImageCore rndEven 1 0 eW 0 1 exW.e := by
    simp [affineImage, closeFirst] at hm'; exact hm'.symm
  subst hm
  have := hx' 0 1 ⟨by norm_num, by norm_num⟩
  rw [affine_image_fails_entry] at this
  simp [ExtRat.fin_le_fin, DBM.val, upd, linEval, eW, ptW] at this
  norm_num at this

/-! ## `generalized_affine_image(var, relsym, expr, den)` -/

/-- `t relsym q` -/
abbrev relHolds := RelSym.holds

/-- every `x'` that agrees with a point `x` of the shape off `var` and has `x'_var relsym expr(x)/den`
is in the result. -/
theorem generalized_affine_image_sound_partial (R : Rnd) (hR : R.Sound) {n : ℕ} (m : DBM n) (closed : Bool)
    (var : ℕ) (hvar : var < n) (rel : RelSym) (e : ℕ → ℤ) (b den : ℤ) (hden : den ≠ 0) (hc : CoeffExact R e) :
    ∀ x ∈ DBM.γ m, ∀ t : ℚ, relHolds rel t ((linEval e x n + b) / den) →
      ∃ m', genAffineImage R closed var rel e b den m = some m' ∧ upd x var t ∈ γB n m' := by
  intro x hx t ht
  cases rel with
  | eq =>
    have ht' : t = (linEval e x n + b) / den := ht
    subst ht'
    exact affine_image_sound_partial R hR m closed var hvar e b den hden hc x hx
  | le =>
    obtain ⟨m1, h1, hx1⟩ := closeFirst_sound hR.up_le closed m hx
    have ht' : t ≤ (linEval e x n + b) / den := ht
    exact ⟨_, by simp [genAffineImage, h1],
      genAffineImageCore_sound hR hvar hc hden (b := b) hx1 true (by simpa using ht')⟩
  | ge =>
    obtain ⟨m1, h1, hx1⟩ := closeFirst_sound hR.up_le closed m hx
    have ht' : (linEval e x n + b) / den ≤ t := ht
    exact ⟨_, by simp [genAffineImage, h1],
      genAffineImageCore_sound hR hvar hc hden (b := b) hx1 false (by simpa using ht')⟩

theorem generalized_affine_image_sound_mpq {n : ℕ} (m : DBM n) (closed : Bool) (var : ℕ) (hvar : var < n)
    (rel : RelSym) (e : ℕ → ℤ) (b den : ℤ) (hden : den ≠ 0) :
    ∀ x ∈ DBM.γ m, ∀ t : ℚ, relHolds rel t ((linEval e x n + b) / den) →
      ∃ m', genAffineImage Rnd.exact closed var rel e b den m = some m' ∧ upd x var t ∈ γB n m' :=
  generalized_affine_image_sound_partial _ Rnd.exact_sound m closed var hvar rel e b den hden (Rnd.exact_coeff e)

theorem generalized_affine_image_sound_mpz {n : ℕ} (m : DBM n) (closed : Bool) (var : ℕ) (hvar : var < n)
    (rel : RelSym) (e : ℕ → ℤ) (b den : ℤ) (hden : den ≠ 0) :
    ∀ x ∈ DBM.γ m, ∀ t : ℚ, relHolds rel t ((linEval e x n + b) / den) →
      ∃ m', genAffineImage Rnd.ceil closed var rel e b den m = some m' ∧ upd x var t ∈ γB n m' :=
  generalized_affine_image_sound_partial _ Rnd.ceil_sound m closed var hvar rel e b den hden (Rnd.ceil_coeff e)

/-! ## `bounded_affine_image(var, lb_expr, ub_expr, den)` -/

/-- every `x'` that agrees with a point `x` of the shape off `var` and has
`lb(x)/den ≤ x'_var ≤ ub(x)/den` is in the result (all branches, including the one through an additional
dimension; the expressions have space dimension `≤ n`, as the code checks). -/
theorem bounded_affine_image_sound_partial (R : Rnd) (hR : R.Sound) {n : ℕ} (m : DBM n) (closed : Bool)
    (var : ℕ) (hvar : var < n) (el : ℕ → ℤ) (bl : ℤ) (eu : ℕ → ℤ) (bu : ℤ) (den : ℤ) (hden : den ≠ 0)
    (hel : ∀ i, n ≤ i → el i = 0) (heu : ∀ i, n ≤ i → eu i = 0)
    (hcl : CoeffExact R el) (hcu : CoeffExact R eu) :
    ∀ x ∈ DBM.γ m, ∀ t : ℚ, (linEval el x n + bl) / den ≤ t → t ≤ (linEval eu x n + bu) / den →
      ∃ m', boundedAffineImage R closed var el bl eu bu den m = some m' ∧ upd x var t ∈ γB n m' := by
  intro x hx t hlb hub
  obtain ⟨m1, h1, hx1⟩ := closeFirst_sound hR.up_le closed m hx
  have hgen := genAffineImageCore_sound hR hvar hcl hden hx1 false (t := t) (by simpa using hlb)
  suffices h : ∃ m', boundedAffineImageCore R n var el bl eu bu den m1 = some m' ∧ upd x var t ∈ γB n m' by
    obtain ⟨m', hm', hx'⟩ := h
    exact ⟨m', by simp [boundedAffineImage, h1, hm'], hx'⟩
  by_cases h0 : exprT eu (lastNonzero eu n) = 0
  · exact boundedAffineImageCore_special_sound hR hden hub hgen (Or.inl h0)
  · by_cases h1' : exprT eu (lastNonzero eu n) = 1 ∧
        (eu (lastNonzero eu n - 1) = den ∨ eu (lastNonzero eu n - 1) = - den)
    · by_cases hwv : lastNonzero eu n = var + 1
      · rw [boundedAffineImageCore_extra R n var el bl eu bu den m1 h0 h1' hwv]
        exact bndExtraDim_sound hR hvar hcl hel hcu heu hden hx1 hlb hub
      · exact boundedAffineImageCore_special_sound hR hden hub hgen (Or.inr ⟨h1'.1, hwv, h1'.2⟩)
    · exact boundedAffineImageCore_general_sound hR hcu hden hx1 hub hgen h0 h1'

theorem bounded_affine_image_sound_mpq {n : ℕ} (m : DBM n) (closed : Bool) (var : ℕ) (hvar : var < n)
    (el : ℕ → ℤ) (bl : ℤ) (eu : ℕ → ℤ) (bu : ℤ) (den : ℤ) (hden : den ≠ 0)
    (hel : ∀ i, n ≤ i → el i = 0) (heu : ∀ i, n ≤ i → eu i = 0) :
    ∀ x ∈ DBM.γ m, ∀ t : ℚ, (linEval el x n + bl) / den ≤ t → t ≤ (linEval eu x n + bu) / den →
      ∃ m', boundedAffineImage Rnd.exact closed var el bl eu bu den m = some m' ∧ upd x var t ∈ γB n m' :=
  bounded_affine_image_sound_partial _ Rnd.exact_sound m closed var hvar el bl eu bu den hden hel heu
    (Rnd.exact_coeff el) (Rnd.exact_coeff eu)

theorem bounded_affine_image_sound_mpz {n : ℕ} (m : DBM n) (closed : Bool) (var : ℕ) (hvar : var < n)
    (el : ℕ → ℤ) (bl : ℤ) (eu : ℕ → ℤ) (bu : ℤ) (den : ℤ) (hden : den ≠ 0)
    (hel : ∀ i, n ≤ i → el i = 0) (heu : ∀ i, n ≤ i → eu i = 0) :
    ∀ x ∈ DBM.γ m, ∀ t : ℚ, (linEval el x n + bl) / den ≤ t → t ≤ (linEval eu x n + bu) / den →
      ∃ m', boundedAffineImage Rnd.ceil closed var el bl eu bu den m = some m' ∧ upd x var t ∈ γB n m' :=
  bounded_affine_image_sound_partial _ Rnd.ceil_sound m closed var hvar el bl eu bu den hden hel heu
    (Rnd.ceil_coeff el) (Rnd.ceil_coeff eu)

/-! ## `affine_preimage`, `generalized_affine_preimage(var, relsym, expr, den)` -/

/-- every `x` whose image `x[var := expr(x)/den]` is in the shape is in the result.  The invertible
cases go through `affine_image` with the inverse expression, whose coefficient of `var` is `den`:
besides the coefficients, `|den|` must be representable. -/
theorem affine_preimage_sound_partial (R : Rnd) (hR : R.Sound) {n : ℕ} (m : DBM n) (closed : Bool) (var : ℕ)
    (hvar : var < n) (e : ℕ → ℤ) (b den : ℤ) (hden : den ≠ 0) (hc : CoeffExact R e)
    (hcd : R.up ((absI den : ℤ) : ℚ) = fin ((absI den : ℤ) : ℚ)) :
    ∀ x, upd x var ((linEval e x n + b) / den) ∈ DBM.γ m →
      ∃ m', affinePreimage R closed var e b den m = some m' ∧ x ∈ γB n m' := by
  intro x hx
  obtain ⟨m1, h1, hx1⟩ := closeFirst_sound hR.up_le closed m hx
  exact ⟨_, by simp [affinePreimage, h1], affinePreimageCore_sound hR hvar hc hden hcd hx1⟩

/-- every `x` for which some `x' = x[var := t]` with `t relsym expr(x)/den` is in the shape, is in the
result (invertible: `generalized_affine_image` of the inverse relation; otherwise private
`refine(var, relsym, expr, den)`, emptiness test, `forget_all_dbm_constraints`). -/
theorem generalized_affine_preimage_sound_partial (R : Rnd) (hR : R.Sound) {n : ℕ} (m : DBM n) (closed : Bool)
    (var : ℕ) (hvar : var < n) (rel : RelSym) (e : ℕ → ℤ) (b den : ℤ) (hden : den ≠ 0) (hc : CoeffExact R e)
    (hcd : R.up ((absI den : ℤ) : ℚ) = fin ((absI den : ℤ) : ℚ)) :
    ∀ x, ∀ t : ℚ, upd x var t ∈ DBM.γ m → relHolds rel t ((linEval e x n + b) / den) →
      ∃ m', genAffinePreimage R closed var rel e b den m = some m' ∧ x ∈ γB n m' := by
  intro x t hx ht
  cases rel with
  | eq =>
    have ht' : t = (linEval e x n + b) / den := ht
    subst ht'
    exact affine_preimage_sound_partial R hR m closed var hvar e b den hden hc hcd x hx
  | le =>
    obtain ⟨m1, h1, hx1⟩ := closeFirst_sound hR.up_le closed m hx
    have ht' : t ≤ (linEval e x n + b) / den := ht
    obtain ⟨m', hm', hx'⟩ := genAffinePreimageCore_sound hR hvar hc hden hcd true (b := b) hx1 (by simpa using ht')
    exact ⟨m', by simp [genAffinePreimage, h1, hm'], hx'⟩
  | ge =>
    obtain ⟨m1, h1, hx1⟩ := closeFirst_sound hR.up_le closed m hx
    have ht' : (linEval e x n + b) / den ≤ t := ht
    obtain ⟨m', hm', hx'⟩ := genAffinePreimageCore_sound hR hvar hc hden hcd false (b := b) hx1 (by simpa using ht')
    exact ⟨m', by simp [genAffinePreimage, h1, hm'], hx'⟩

theorem generalized_affine_preimage_sound_mpz {n : ℕ} (m : DBM n) (closed : Bool) (var : ℕ) (hvar : var < n)
    (rel : RelSym) (e : ℕ → ℤ) (b den : ℤ) (hden : den ≠ 0) :
    ∀ x, ∀ t : ℚ, upd x var t ∈ DBM.γ m → relHolds rel t ((linEval e x n + b) / den) →
      ∃ m', genAffinePreimage Rnd.ceil closed var rel e b den m = some m' ∧ x ∈ γB n m' :=
  generalized_affine_preimage_sound_partial _ Rnd.ceil_sound m closed var hvar rel e b den hden
    (Rnd.ceil_coeff e) (by simp only [Rnd.ceil, upCeil]; rw [Rat.ceil_intCast])

/-! ## `unconstrain(var)` -/

theorem unconstrain_sound (R : Rnd) (hR : R.Sound) {n : ℕ} (m : DBM n) (closed : Bool) (var : ℕ) :
    ∀ x ∈ DBM.γ m, ∀ t : ℚ, ∃ m', unconstrain R closed var m = some m' ∧ upd x var t ∈ γB n m' := by
  intro x hx t
  obtain ⟨m1, h1, hx1⟩ := closeFirst_sound hR.up_le closed m hx
  exact ⟨_, by simp [unconstrain, h1], forgetAll_sound hx1 t⟩

/-! ## `Octagonal_Shape<T>::affine_image` -/

/-- for every point `x` of the octagon, `x[var := expr(x)/den]` is in the result: every rounding, matrix,
expression, denominator, closed flag; coefficients representable, halved unary cells finite. -/
theorem oct_affine_image_sound_partial (R : Rnd) (hR : R.Sound) {n : ℕ} (m : OctM n) (closed : Bool) (vid : ℕ)
    (hv : vid < n) (e : ℕ → ℤ) (b den : ℤ) (hden : den ≠ 0) (hc : CoeffExact R e)
    (hh : ∀ m', octCloseFirst R.up closed m = some m' → HalfFiniteOn R.up m') :
    ∀ x ∈ OctM.γ m, ∃ m', octAffineImage R closed vid e b den m = some m' ∧
      upd x vid ((linEval e x n + b) / den) ∈ γO n m' := by
  intro x hx
  obtain ⟨m1, h1, hx1⟩ := octCloseFirst_sound hR.up_le closed m hx
  obtain ⟨m', hm', hx'⟩ := octAffineImageCore_sound hR hv hc hden (b := b) (hh m1 h1) hx1
  exact ⟨m', by simp [octAffineImage, h1, hm'], hx'⟩

/-- the forms `expr == b`, `±den*var + b`, `±den*w + b`: no side condition. -/
theorem oct_affine_image_sound_special (R : Rnd) (hR : R.Sound) {n : ℕ} (m : OctM n) (closed : Bool) (vid : ℕ)
    (hv : vid < n) (e : ℕ → ℤ) (b den : ℤ) (hden : den ≠ 0)
    (hsp : exprT e (lastNonzero e n) = 0 ∨
      (exprT e (lastNonzero e n) = 1 ∧ (e (lastNonzero e n - 1) = den ∨ e (lastNonzero e n - 1) = - den))) :
    ∀ x ∈ OctM.γ m, ∃ m', octAffineImage R closed vid e b den m = some m' ∧
      upd x vid ((linEval e x n + b) / den) ∈ γO n m' := by
  intro x hx
  obtain ⟨m1, h1, hx1⟩ := octCloseFirst_sound hR.up_le closed m hx
  obtain ⟨m', hm', hx'⟩ := octAffineImageCore_sound_special hR hv hden (b := b) hx1 hsp
  exact ⟨m', by simp [octAffineImage, h1, hm'], hx'⟩

/-- `Octagonal_Shape<mpq_class>` -/
theorem oct_affine_image_sound_mpq {n : ℕ} (m : OctM n) (closed : Bool) (vid : ℕ) (hv : vid < n) (e : ℕ → ℤ)
    (b den : ℤ) (hden : den ≠ 0) :
    ∀ x ∈ OctM.γ m, ∃ m', octAffineImage Rnd.exact closed vid e b den m = some m' ∧
      upd x vid ((linEval e x n + b) / den) ∈ γO n m' :=
  oct_affine_image_sound_partial _ Rnd.exact_sound m closed vid hv e b den hden (Rnd.exact_coeff e)
    (fun m' _ => halfFiniteOn_exact m')

/-- `Octagonal_Shape<mpz_class>` -/
theorem oct_affine_image_sound_mpz {n : ℕ} (m : OctM n) (closed : Bool) (vid : ℕ) (hv : vid < n) (e : ℕ → ℤ)
    (b den : ℤ) (hden : den ≠ 0) :
    ∀ x ∈ OctM.γ m, ∃ m', octAffineImage Rnd.ceil closed vid e b den m = some m' ∧
      upd x vid ((linEval e x n + b) / den) ∈ γO n m' :=
  oct_affine_image_sound_partial _ Rnd.ceil_sound m closed vid hv e b den hden (Rnd.ceil_coeff e)
    (fun m' _ => halfFiniteOn_ceil m')

/-! ## non-vacuity: `0 ≤ x₀ ≤ 3`, `x₁ - x₀ ≤ 1`, `x₁ ≥ 0`, the point `(1, 2)` -/

def exT : DBM 2 := DBM.ofLists 2
  [[pinf, fin 3, pinf],
   [fin 0, pinf, fin 1],
   [fin 0, pinf, pinf]]

def ptT : ℕ → ℚ := fun i => if i = 0 then 1 else 2

theorem ptT_mem : ptT ∈ DBM.γ exT := by
  intro i j hi hj
  interval_cases i <;> interval_cases j <;>
    simp [exT, DBM.ofLists, Mat.diagDown_apply, Mat.ofLists, DBM.val, ptT]
  norm_num

/-- `2·x₀ + x₁` -/
def eT : ℕ → ℤ := fun i => if i = 0 then 2 else if i = 1 then 1 else 0
/-- `x₀` -/
def eV : ℕ → ℤ := fun i => if i = 0 then 1 else 0

-- general case, exact arithmetic, `x₁ := (2·x₀ + x₁ + 1)/2` on the closed matrix (`x₁ ≤ 4`):
-- upper bound `(1 + 2·3 + 4)/2 = 11/2`, lower bound `-(1 + 0 + 0)/2`
example : (affineImageCore Rnd.exact 2 1 eT 1 2 (DBM.closure upId exT).e) 0 2 = fin (11/2) := by decide +kernel
example : (affineImageCore Rnd.exact 2 1 eT 1 2 (DBM.closure upId exT).e) 2 0 = fin (-1/2) := by decide +kernel
-- integers: the quotient is rounded up
example : (affineImageCore Rnd.ceil 2 1 eT 1 2 (DBM.closure upCeil exT).e) 0 2 = fin 6 := by decide +kernel
-- `int8_t`: `x₁ := 50·x₀ + x₁` overflows to `+∞`
example : (affineImageCore (Rnd.range (-126) 126) 2 1 (fun i => if i = 0 then 50 else if i = 1 then 1 else 0) 0 1
    (DBM.closure (upCeilRange (-126) 126) exT).e) 0 2 = pinf := by decide +kernel

example : ∃ m', affineImage Rnd.exact false 1 eT 1 2 exT = some m' ∧
    upd ptT 1 ((linEval eT ptT 2 + (1 : ℤ)) / (2 : ℤ)) ∈ γB 2 m' :=
  affine_image_sound_mpq exT false 1 (by norm_num) eT 1 2 (by norm_num) ptT ptT_mem

example : ∃ m', affineImage (Rnd.range (-126) 126) false 1 eT 1 2 exT = some m' ∧
    upd ptT 1 ((linEval eT ptT 2 + (1 : ℤ)) / (2 : ℤ)) ∈ γB 2 m' :=
  affine_image_sound_partial _ (Rnd.range_sound _ _ (by norm_num)) exT false 1 (by norm_num) eT 1 2 (by norm_num)
    (by intro i _; simp only [Rnd.range, eT, absI]; split_ifs <;> decide +kernel) ptT ptT_mem

example : ∃ m', genAffineImage Rnd.ceil true 0 .le eT 0 (-3) exT = some m' ∧ upd ptT 0 (-2) ∈ γB 2 m' :=
  generalized_affine_image_sound_mpz exT true 0 (by norm_num) .le eT 0 (-3) (by norm_num) ptT ptT_mem (-2)
    (by simp [relHolds, RelSym.holds, linEval, eT, ptT]; norm_num)

example : ∃ m', boundedAffineImage Rnd.exact false 0 eV (-1) eV 1 1 exT = some m' ∧ upd ptT 0 (3/2) ∈ γB 2 m' :=
  bounded_affine_image_sound_mpq exT false 0 (by norm_num) eV (-1) eV 1 1 (by norm_num)
    (by intro i hi; simp [eV]; omega) (by intro i hi; simp [eV]; omega) ptT ptT_mem (3/2)
    (by simp [linEval, eV, ptT]; norm_num) (by simp [linEval, eV, ptT]; norm_num)

example : ∃ m', unconstrain Rnd.ceil false 0 exT = some m' ∧ upd ptT 0 77 ∈ γB 2 m' :=
  unconstrain_sound _ Rnd.ceil_sound exT false 0 ptT ptT_mem 77

-- preimage of `x₀ := (2·x₀ + x₁)/3` (invertible) and of `x₀ ≤ x₁/2` (through `refine`): the point `(1, 2)`
-- is mapped to `(4/3, 2)` resp. related to `(1, 2)`, both in the shape
example : ∃ m', affinePreimage Rnd.exact false 0 eT 0 3 exT = some m' ∧ ptT ∈ γB 2 m' :=
  affine_preimage_sound_partial _ Rnd.exact_sound exT false 0 (by norm_num) eT 0 3 (by norm_num)
    (Rnd.exact_coeff eT) rfl ptT (by
      have : upd ptT 0 ((linEval eT ptT 2 + (0 : ℤ)) / (3 : ℤ)) = fun i => if i = 0 then 4/3 else 2 := by
        funext i; simp [upd, linEval, eT, ptT]; split_ifs <;> norm_num
      rw [this]
      intro i j hi hj
      interval_cases i <;> interval_cases j <;>
        simp [exT, DBM.ofLists, Mat.diagDown_apply, Mat.ofLists, DBM.val] <;> norm_num)

example : ∃ m', genAffinePreimage Rnd.ceil false 0 .le (fun i => if i = 1 then 1 else 0) 0 2 exT = some m' ∧
    ptT ∈ γB 2 m' :=
  generalized_affine_preimage_sound_mpz exT false 0 (by norm_num) .le (fun i => if i = 1 then 1 else 0) 0 2
    (by norm_num) ptT 1 (by
      have : upd ptT 0 1 = ptT := by funext i; simp [upd, ptT]
      rw [this]; exact ptT_mem)
    (by simp [relHolds, RelSym.holds, linEval, ptT])

-- exactness: `x₁ := x₀ + 1` in exact arithmetic
example : match affineImage Rnd.exact false 1 eV 1 1 exT with
    | none => DBM.γ exT = ∅
    | some m' => ∀ y, y ∈ γB 2 m' ↔ ∃ x ∈ DBM.γ exT, y = upd x 1 ((linEval eV x 2 + (1 : ℤ)) / (1 : ℤ)) :=
  affine_image_exact exT 1 (by norm_num) eV 1 1 (by norm_num) (Or.inr (by decide +kernel))

/-- `x₁ - x₀ ≥ 1`, i.e. `-x₀ + x₁ - 1 ≥ 0` -/
def cT : ℕ → ℤ := fun i => if i = 0 then -1 else if i = 1 then 1 else 0

example : (extractBoundedDifference 2 cT) = ⟨true, 2, 1, 2, 1⟩ := by decide +kernel
example : match refineNoCheck Rnd.exact 2 cT (-1) .ge exT.e with
    | .ok m' => ptT ∈ γB 2 m' ∧ MLe m' exT.e
    | .empty => False
    | .throws => False :=
  refine_sound _ Rnd.exact_sound exT 2 (by norm_num) cT (-1) .ge ptT ptT_mem
    (by simp [CSat, linEval, cT, ptT]; norm_num)

/-! ### octagon: `x₀ + x₁ ≤ 3`, `x₀ - x₁ ≤ 0` (rows `+x₀, -x₀, +x₁, -x₁`), the point `(3/2, 3/2)`;
`x₁ := -2·x₀` over the integers: strong closure gives the odd cell `2·x₀ ≤ 3`, the general case halves it to
`⌈3/2⌉ = 2` and obtains `-x₁ ≤ 4`, the doubled cell `8`, which the incremental closure tightens to `7`
(the seeded change "half rounded down" yields `-2·x₁ ≤ 3`, which cuts the image `x₁ = -3` away) -/

def exOc : OctM 2 := OctM.ofLists 2
  [[pinf, pinf],
   [pinf, pinf],
   [fin 0, pinf, pinf, pinf],
   [fin 3, pinf, pinf, pinf]]

def ptOc : ℕ → ℚ := fun _ => 3/2
def eOc : ℕ → ℤ := fun i => if i = 0 then -2 else 0

theorem ptOc_mem : ptOc ∈ OctM.γ exOc := by
  intro i j hi hj
  interval_cases i <;> simp only [rowSize] at hj <;> interval_cases j <;>
    simp [exOc, OctM.ofLists, Mat.diagUp_apply, Mat.ofLists, OctM.oval, ptOc]

example : (OctM.strongClosure upCeil exOc).e 1 0 = fin 3 := by decide +kernel
example : ((octAffineImage Rnd.ceil false 1 eOc 0 1 exOc).map fun m => m 2 3) = some (fin 7) := by
  decide +kernel
example : ∃ m', octAffineImage Rnd.ceil false 1 eOc 0 1 exOc = some m' ∧
    upd ptOc 1 ((linEval eOc ptOc 2 + (0 : ℤ)) / (1 : ℤ)) ∈ γO 2 m' :=
  oct_affine_image_sound_mpz exOc false 1 (by norm_num) eOc 0 1 (by norm_num) ptOc ptOc_mem

end C03

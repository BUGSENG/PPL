import PPLV.Solver.Spec
import PPLV.Solver.TableauProofs

/-!
# C06 — MIP solver: status, optimum and witness are right, incrementally or from scratch

The judge of `pplv_mip` is the reference of `PPLV/Solver/MIP.lean`.  These theorems say that the
reference answers are the answers the property text defines (`PPLV/Solver/Spec.lean`:
`Feasible`, `IsUnfeasible`, `IsUnbounded`, `IsOptimum`, `Better`), for every problem whose rows
are non-strict and stay inside the space (`Problem.WF`, checked by the driver with
`Problem.wfB` on every journal).

* `lp_spec`            the relaxation (K1 `supB`): exact, unconditional;
* `mip_spec_partial`   the enumeration: exact when every integer variable is bounded in the
                       relaxation — what is missing: integer variables without a finite range
                       (the reference then says `unknownUnboundedIntVar`, and the driver falls
                       back to `unbounded_of_point_and_ray` (decisive for "unbounded") and to the
                       one-sided judges `mip_relaxation_bound` and `window_sound`);
* `mip_ref_sound`      whatever `mipRef` answers (≠ unknown) is true — no boundedness hypothesis;
* `witness_check`      the witness checker decides feasibility ∧ objective value exactly;
* `no_better_sound`    the `noBetter` certificate;
* `final_data_only`    the reference is a function of the final data of a history;
* `answer_of_set_only` … and, semantically, of the feasible *set*, the objective *function* and the mode.
-/
namespace C06
open PPLV.Lin PPLV.Solver

/-- **LP relaxation.**  `lpAnswer` is `unfeasible` iff no point satisfies the rows, `unbounded` iff
    points exist with arbitrarily good objective value, `optimum v` iff `v` is attained and no
    point is better. -/
theorem lp_spec (P : Problem) (hwf : P.WF) :
    (lpAnswer P = .unfeasible ↔ sem P.cs = ∅) ∧
    (lpAnswer P = .unbounded ↔
      (∃ x, x ∈ sem P.cs) ∧ ∀ M : Rat, ∃ x ∈ sem P.cs, Better P (P.objVal x) M) ∧
    (∀ v : Rat, lpAnswer P = .optimum v ↔
      (∃ x ∈ sem P.cs, P.objVal x = v) ∧ ∀ x ∈ sem P.cs, ¬ Better P (P.objVal x) v) := by
  have hk : (mipRef P.relaxed).isKnown = true :=
    mipRef_known P.relaxed (relaxed_WF P hwf) (fun i hi => by cases hi)
  have hans := mipRef_isAnswer P.relaxed (relaxed_WF P hwf) hk
  rw [← lpAnswer_eq] at hans
  have key : ∀ a, lpAnswer P = a ↔ IsAnswer P.relaxed a :=
    fun a => ⟨fun h => h ▸ hans, fun h => isAnswer_unique P.relaxed _ _ hans h⟩
  have hf := feasible_relaxed P
  refine ⟨?_, ?_, fun v => ?_⟩
  · rw [key, Set.eq_empty_iff_forall_notMem]
    show (¬ ∃ x, Feasible P.relaxed x) ↔ _
    simp only [hf, not_exists]
  · rw [key]
    show ((∃ x, Feasible P.relaxed x) ∧ ∀ M : Rat, ∃ x, Feasible P.relaxed x ∧ Better P (P.objVal x) M) ↔ _
    simp only [hf]
  · rw [key]
    show ((∃ x, Feasible P.relaxed x ∧ P.objVal x = v) ∧ ∀ x, Feasible P.relaxed x → ¬ Better P (P.objVal x) v) ↔ _
    simp only [hf]

-- non-vacuity: max x+y over {x ≥ 0, y ≥ 0, x + y ≤ 3}: optimum 3; without the bound: unbounded;
-- with x ≤ -1 added: unfeasible
example : lpAnswer ⟨2, [geRow [1, 0] 0, geRow [0, 1] 0, geRow [-1, -1] 3], [], ⟨[1, 1], 0⟩, true⟩
    = .optimum 3 := by decide +kernel
example : lpAnswer ⟨2, [geRow [1, 0] 0, geRow [0, 1] 0], [], ⟨[1, 1], 0⟩, true⟩ = .unbounded := by decide +kernel
example : lpAnswer ⟨2, [geRow [1, 0] 0, geRow [-1] (-1)], [], ⟨[1, 1], 0⟩, false⟩ = .unfeasible := by decide +kernel

/-- **Soundness of the MIP reference**, no boundedness assumption: an answer other than
    `unknownUnboundedIntVar` is the true one. -/
theorem mip_ref_sound (P : Problem) (hwf : P.WF) (hk : (mipRef P).isKnown = true) : IsAnswer P (mipRef P) :=
  mipRef_isAnswer P hwf hk

/-- **MIP reference, bounded-integer case.**  If every integer variable is bounded in the relaxation
    the reference is `unfeasible` exactly when no point satisfies the rows with the designated
    variables integral, `unbounded` exactly when such points exist with arbitrarily good value,
    `optimum v` exactly when `v` is attained by such a point and none is better.
    *Partial*: without the boundedness hypothesis `mipRef` may answer `unknownUnboundedIntVar`
    (`mip_ref_sound` still applies to every other answer). -/
theorem mip_spec_partial (P : Problem) (hwf : P.WF) (hb : IntVarsBoundedInRelaxation P) :
    (mipRef P = .unfeasible ↔ ¬ ∃ x, Feasible P x) ∧
    (mipRef P = .unbounded ↔
      (∃ x, Feasible P x) ∧ ∀ M : Rat, ∃ x, Feasible P x ∧ Better P (P.objVal x) M) ∧
    (∀ v : Rat, mipRef P = .optimum v ↔
      (∃ x, Feasible P x ∧ P.objVal x = v) ∧ ∀ x, Feasible P x → ¬ Better P (P.objVal x) v) ∧
    mipRef P ≠ .unknownUnboundedIntVar := by
  have hk := mipRef_known P hwf hb
  have hans := mipRef_isAnswer P hwf hk
  have key : ∀ a, mipRef P = a ↔ IsAnswer P a :=
    fun a => ⟨fun h => h ▸ hans, fun h => isAnswer_unique P _ _ hans h⟩
  refine ⟨key _, key _, fun v => key _, ?_⟩
  intro h; rw [h] at hk; cases hk

-- non-vacuity (kernel evaluation of the K1 deciders is slow: tiny instances only):
-- max x over {1 ≤ 2x ≤ 3}, x integer: 1 (relaxation 3/2); 2x = 1: unfeasible;
-- x = 0 integer, y ≥ 0 free: unbounded; x integer without upper bound: unknown
example : mipRef ⟨1, [geRow [-2] 3, geRow [2] (-1)], [0], ⟨[1], 0⟩, true⟩ = .optimum 1 := by decide +kernel
example : lpAnswer ⟨1, [geRow [-2] 3, geRow [2] (-1)], [0], ⟨[1], 0⟩, true⟩ = .optimum (3/2) := by decide +kernel
example : mipRef ⟨1, eqRows [2] (-1), [0], ⟨[1], 0⟩, true⟩ = .unfeasible := by decide +kernel
example : mipRef ⟨2, eqRows [1] 0 ++ [geRow [0, 1] 0], [0], ⟨[0, 1], 0⟩, true⟩ = .unbounded := by decide +kernel
example : mipRef ⟨1, [geRow [2] (-1)], [0], ⟨[1], 0⟩, true⟩ = .unknownUnboundedIntVar := by decide +kernel

/-- **One-sided judge 1**: a feasible point of the MIP is a point of the relaxation, so the
    relaxation bounds the MIP: relaxation unfeasible ⇒ MIP unfeasible; relaxation optimum `r` ⇒ no
    feasible point of the MIP is better than `r`. -/
theorem mip_relaxation_bound (P : Problem) (hwf : P.WF) :
    (lpAnswer P = .unfeasible → ¬ ∃ x, Feasible P x) ∧
    (∀ r : Rat, lpAnswer P = .optimum r → ∀ x, Feasible P x → ¬ Better P (P.objVal x) r) := by
  obtain ⟨h1, -, h3⟩ := lp_spec P hwf
  refine ⟨fun h => ?_, fun r h x hx => ?_⟩
  · rintro ⟨x, hx⟩
    have := h1.mp h
    rw [Set.eq_empty_iff_forall_notMem] at this
    exact this x hx.1
  · exact ((h3 r).mp h).2 x hx.1

/-- **Unbounded, decisively, whatever the ranges of the integer variables.**  One feasible point of
    the MIP (e.g. the library's own `feasible_point()`, verified by `feasible_check`) together with a
    recession direction of the relaxation that improves the objective (found and verified by K1:
    `rayExists`) proves that feasible points with arbitrarily good value exist.  (The direction is
    rational, so a multiple of it keeps the integer variables integral.) -/
theorem unbounded_of_point_and_ray (P : Problem) (x : Val) (hx : Feasible P x)
    (hwf : P.WF) (hray : rayExists P = true) : IsUnbounded P := by
  obtain ⟨h1, -, h3, -⟩ := hwf
  unfold rayExists at hray
  obtain ⟨d, hd⟩ := (feasible_iff P.n _ (rayRows_wf P.n _ P.cs h1 (maxObj_length P h3))).mp hray
  have := unbounded_max_of_point_and_ray P.maxObj.1 P.maxObj.2 P.ints P.cs x d hx hd
  have h := isAnswer_of_correct P .unbounded this rfl
  have hb : P.back .unbounded = .unbounded := by unfold Problem.back; split <;> rfl
  rw [hb] at h
  exact h

-- {2x ≥ 1}, x integer, maximise x: the reference enumeration says `unknown`, the ray x ↦ x + 1 exists
example : rayExists ⟨1, [geRow [2] (-1)], [0], ⟨[1], 0⟩, true⟩ = true := by decide +kernel

/-- **One-sided judge 2**: confining the integer variables to `[-B, B]` only removes feasible
    points, so an optimum / unboundedness of the confined problem is witnessed in the original:
    the original is not unfeasible, has a feasible point of that value, is unbounded as well. -/
theorem window_sound (P : Problem) (B : Int) (hwf : P.WF) :
    (∀ w : Rat, mipRef (P.withWindow B) = .optimum w → ∃ x, Feasible P x ∧ P.objVal x = w) ∧
    (mipRef (P.withWindow B) = .unbounded → IsUnbounded P) := by
  have hwf' := withWindow_WF P B hwf
  refine ⟨fun w h => ?_, fun h => ?_⟩
  · have := mip_ref_sound (P.withWindow B) hwf' (by rw [h]; rfl)
    rw [h] at this
    obtain ⟨⟨x, hx, hv⟩, -⟩ := this
    exact ⟨x, feasible_of_window P B x hx, hv⟩
  · have := mip_ref_sound (P.withWindow B) hwf' (by rw [h]; rfl)
    rw [h] at this
    obtain ⟨⟨x, hx⟩, hM⟩ := this
    refine ⟨⟨x, feasible_of_window P B x hx⟩, fun M => ?_⟩
    obtain ⟨y, hy, hb⟩ := hM M
    exact ⟨y, feasible_of_window P B y hy, hb⟩

-- {2x ≥ 1}, x integer, minimise x: the reference is `unknown`, the window [-1, 1] exhibits the point 1
example : mipRef (Problem.withWindow ⟨1, [geRow [2] (-1)], [0], ⟨[1], 0⟩, false⟩ 1) = .optimum 1 := by
  decide +kernel

/-- **Witness check.**  For a reported point `x` (numerators / divisor) and value `v`:
    the checker accepts iff `x` satisfies every row, is integral on the integer variables and the
    objective at `x` is `v`. -/
theorem witness_check (P : Problem) (x : Pt) (v : Rat) :
    checkWitness P x v = true ↔ (Feasible P x.val ∧ P.objVal x.val = v) := by
  unfold checkWitness
  rw [Bool.and_eq_true, checkFeasible_iff, decide_eq_true_eq]

/-- `feasible_point()`: the checker without the objective -/
theorem feasible_check (P : Problem) (x : Pt) : checkFeasible P x = true ↔ Feasible P x.val :=
  checkFeasible_iff P x

-- non-vacuity: (3/2, 1) with y integer on {2x + y ≤ 4, x,y ≥ 0}, objective x + y = 5/2; x integer fails
example : checkWitness ⟨2, [geRow [-2, -1] 4, geRow [1] 0, geRow [0, 1] 0], [1], ⟨[1, 1], 0⟩, true⟩ ⟨[3, 2], 2⟩ (5/2)
    = true := by decide +kernel
example : checkWitness ⟨2, [geRow [-2, -1] 4, geRow [1] 0, geRow [0, 1] 0], [0], ⟨[1, 1], 0⟩, true⟩ ⟨[3, 2], 2⟩ (5/2)
    = false := by decide +kernel
example : checkWitness ⟨2, [geRow [-2, -1] 4, geRow [1] 0, geRow [0, 1] 0], [1], ⟨[1, 1], 0⟩, true⟩ ⟨[3, 2], 2⟩ 2
    = false := by decide +kernel

/-- **No better point.**  When `noBetter P v` holds no feasible point has a strictly better
    objective value than `v`. -/
theorem no_better_sound (P : Problem) (hwf : P.WF) (v : Rat) (h : noBetter P v = true) :
    ∀ x, Feasible P x → ¬ Better P (P.objVal x) v := by
  unfold noBetter at h
  intro x hx
  cases hr : mipRef P with
  | unfeasible =>
    have := mip_ref_sound P hwf (by rw [hr]; rfl)
    rw [hr] at this
    exact absurd ⟨x, hx⟩ this
  | unbounded => rw [hr] at h; cases h
  | unknownUnboundedIntVar => rw [hr] at h; cases h
  | optimum w =>
    rw [hr] at h
    have := mip_ref_sound P hwf (by rw [hr]; rfl)
    rw [hr] at this
    have hxw := this.2 x hx
    unfold Better at hxw ⊢
    unfold Problem.notBetter at h
    by_cases hm : P.maximize = true
    · simp only [hm, if_true, decide_eq_true_eq] at h hxw ⊢
      exact not_lt.mpr (le_trans (not_lt.mp hxw) h)
    · simp only [hm, Bool.false_eq_true, if_false, decide_eq_true_eq] at h hxw ⊢
      exact not_lt.mpr (le_trans h (not_lt.mp hxw))

example : noBetter ⟨1, [geRow [-2] 3, geRow [2] (-1)], [0], ⟨[1], 0⟩, true⟩ 1 = true := by decide +kernel

/-- **Incremental ≡ fresh, model half.**  The data of an object after a history is the fold of the
    mutators; observers (`solve`, `is_satisfiable`, …) and the pricing rule do not enter, so the
    reference answer after any history equals the reference answer of the history with every
    observer and pricing change removed — in particular of the fresh object that receives the same
    mutators with no `solve()` in between.  (Definitional in the model; the correspondence run
    tests the real library against exactly this statement.) -/
theorem final_data_only (dim : Nat) (ops : List Op) :
    finalData dim ops = finalData dim (ops.filter Op.isMutator) ∧
    mipRef (finalData dim ops) = mipRef (finalData dim (ops.filter Op.isMutator)) := by
  have h : finalData dim ops = finalData dim (ops.filter Op.isMutator) := foldl_apply_filter ops _
  exact ⟨h, by rw [h]⟩

example : finalData 1 [.addCons [geRow [1] 0], .observe, .setPricing 2, .addInts [0], .observe, .setMode false]
    = ⟨1, [geRow [1] 0], [0], ⟨[], 0⟩, false⟩ := rfl

/-- **The answer depends on the feasible set, the objective function and the mode only** — not on the
    rows chosen to describe the set, their order, or how the integer variables were listed.  (The
    non-definitional half of "incremental ≡ fresh": any two descriptions of the same problem get the
    same reference answer whenever both are answered.) -/
theorem answer_of_set_only (P Q : Problem) (hP : P.WF) (hQ : Q.WF)
    (hset : ∀ x, Feasible P x ↔ Feasible Q x) (hobj : ∀ x, P.objVal x = Q.objVal x)
    (hmode : P.maximize = Q.maximize)
    (hkP : (mipRef P).isKnown = true) (hkQ : (mipRef Q).isKnown = true) : mipRef P = mipRef Q := by
  have hp := mip_ref_sound P hP hkP
  have hq := mip_ref_sound Q hQ hkQ
  have hB : ∀ a b, Better P a b ↔ Better Q a b := fun a b => by unfold Better; rw [hmode]
  apply isAnswer_unique Q _ _ _ hq
  cases hr : mipRef P with
  | unfeasible =>
    rw [hr] at hp
    show ¬ ∃ x, Feasible Q x
    rintro ⟨x, hx⟩; exact hp ⟨x, (hset x).mpr hx⟩
  | unbounded =>
    rw [hr] at hp
    obtain ⟨⟨x, hx⟩, hM⟩ := hp
    refine ⟨⟨x, (hset x).mp hx⟩, fun M => ?_⟩
    obtain ⟨y, hy, hb⟩ := hM M
    exact ⟨y, (hset y).mp hy, by rw [← hobj, ← hB]; exact hb⟩
  | optimum v =>
    rw [hr] at hp
    obtain ⟨⟨x, hx, hv⟩, hbest⟩ := hp
    refine ⟨⟨x, (hset x).mp hx, by rw [← hobj]; exact hv⟩, fun y hy => ?_⟩
    rw [← hobj, ← hB]; exact hbest y ((hset y).mpr hy)
  | unknownUnboundedIntVar => rw [hr] at hkP; cases hkP

-- the same point set described twice (rows in another order)
example : mipRef ⟨1, [geRow [1] 0, geRow [-1] 1], [], ⟨[1], 0⟩, true⟩ =
    mipRef ⟨1, [geRow [-1] 1, geRow [1] 0], [], ⟨[1], 0⟩, true⟩ := by decide +kernel

/-! ## the tableau steps of `src/MIP_Problem.cc` (code-shaped model `PPLV/Solver/Tableau.lean`)

Partial correctness of one simplex phase: every step keeps the solution set, keeps the basic
solution feasible, and the stop test means optimality.  Termination (anti-cycling by index) and
the floating-point pricing rule (which only *chooses* among entering candidates) stay outside. -/
section TableauSteps
open PPLV.Solver.Tab

/-- **`pivot` (`linear_combine` on every other row) preserves the solutions of the tableau** and
    clears the entering column outside the pivot row. -/
theorem pivot_preserves_solutions (T : List Row) (e r : Nat) (hr : r < T.length)
    (he : (T.getD r []).get e ≠ 0) :
    (∀ x : Val, Sol (pivotRows T e r) x ↔ Sol T x) ∧
    (∀ i, i < T.length → i ≠ r → ((pivotRows T e r).getD i []).get e = 0) :=
  ⟨pivotRows_solutions T e r hr he, fun i hi hir => pivotRows_column T e r i hi hir⟩

-- x1 + x2 − 4 = 0, x1 − x2 = 0: pivoting on column 1 of row 0 turns row 1 into (a multiple of) 2·x2 − 4 = 0
example : pivotRows [[-4, 1, 1], [0, 1, -1]] 1 0 = [[-4, 1, 1], [-2, 0, 1]] := by decide

/-- **`get_exiting_base_index`**, with the lcm-scaled comparison and the index tie-break as written:
    the row returned limits the entering variable (is eligible) and has the least ratio
    `|t_i0| / |t_ie|` among the eligible rows, the least base index among ties; `none` is returned
    exactly when no row is eligible. -/
theorem exiting_index_minimal (T : List Row) (base : List Nat) (e : Nat) :
    (∀ r, exitingIndex T base e = some r →
      r < T.length ∧ eligible T base e r = true ∧
      ∀ j, j < T.length → eligible T base e j = true →
        ratio T e r < ratio T e j ∨ (ratio T e r = ratio T e j ∧ base.getD r 0 ≤ base.getD j 0)) ∧
    (exitingIndex T base e = none → ∀ j, j < T.length → eligible T base e j = false) :=
  ⟨fun r h => exitingIndex_some T base e r h, exitingIndex_none T base e⟩

-- rows 3 − x1 − s1 = 0 (ratio 3), 2 − x1 − s2 = 0 (ratio 2), 2 − 2 x1 − s3 = 0 (ratio 1): row 2 leaves
example : exitingIndex [[3, -1, -1, 0, 0], [2, -1, 0, -1, 0], [2, -2, 0, 0, -1]] [2, 3, 4] 1 = some 2 := by decide
-- equal ratios: the smaller base index wins, whatever the row order
example : exitingIndex [[2, -1, 0, -1], [2, -1, -1, 0]] [3, 2] 1 = some 1
    ∧ exitingIndex [[2, -1, -1, 0], [2, -1, 0, -1]] [2, 3] 1 = some 0 := by decide
example : exitingIndex [[2, 1, -1, 0], [2, 0, 0, -1]] [2, 3] 1 = none := by decide

/-- **The ratio test keeps the basic solution feasible.**  Let `r` be the row returned for the entering
    column `e` and `θ` its ratio.  For every row `i` whose basic coefficient is non-zero and whose
    basic variable currently has a non-negative value `−t_i0 / t_ib`, the value after the entering
    variable is raised to `θ`, namely `(−t_i0 − t_ie·θ) / t_ib`, is still non-negative. -/
theorem ratio_test_keeps_feasible (T : List Row) (base : List Nat) (e r : Nat)
    (hr : exitingIndex T base e = some r) (i : Nat) (hi : i < T.length)
    (hb : (T.getD i []).get (base.getD i 0) ≠ 0)
    (hv : 0 ≤ -(((T.getD i []).get 0 : Int) : Rat) / (((T.getD i []).get (base.getD i 0) : Int) : Rat)) :
    0 ≤ (-(((T.getD i []).get 0 : Int) : Rat) - (((T.getD i []).get e : Int) : Rat) * ratio T e r) /
          (((T.getD i []).get (base.getD i 0) : Int) : Rat) := by
  obtain ⟨-, -, hmin⟩ := exitingIndex_some T base e r hr
  have hθ : 0 ≤ ratio T e r := by unfold ratio; positivity
  apply ratio_step_nonneg _ _ _ _ hb hθ hv
  rintro ⟨ha, hs⟩
  have hel : eligible T base e i = true := by
    unfold eligible
    simp only [Bool.and_eq_true, bne_iff_ne, beq_iff_eq]
    refine ⟨?_, hs⟩
    have hsgn : ∀ a : Int, a ≠ 0 → sgn a ≠ 0 := by
      intro a ha'
      unfold sgn
      split
      · omega
      · omega
    exact hsgn _ ha
  rcases hmin i hi hel with h | ⟨h, -⟩
  · exact le_of_lt h
  · exact le_of_eq h

/-- **`textbook_entering_index` and the stop test.**  If no column `1 ≤ j < last` of the cost row has
    the sign of its last ("sign") entry `s`, then for every valuation with non-negative variables
    the objective `(c_0 + Σ c_j x_j)/s` is at most `c_0/s`, the value at the basic solution: the basic
    solution is optimal. -/
theorem no_entering_optimal (cost : Row) (h : textbookEntering cost = 0)
    (hs : cost.get (cost.length - 1) ≠ 0) (hlen : 2 ≤ cost.length) (x : Val)
    (hx0 : x 0 = 1) (hxl : x (cost.length - 1) = 0) (hx : ∀ j, 1 ≤ j → j < cost.length - 1 → 0 ≤ x j) :
    dot cost x / ((cost.get (cost.length - 1) : Int) : Rat) ≤
      ((cost.get 0 : Int) : Rat) / ((cost.get (cost.length - 1) : Int) : Rat) :=
  no_entering_bound cost h hs hlen x hx0 hxl hx

example : textbookEntering [5, -1, 0, -2, 1] = 0 ∧ textbookEntering [5, -1, 3, -2, 1] = 2
    ∧ textbookEntering [5, 1, -3, 2, -1] = 2 := by decide

/-- **`compute_generator`**: the value read off a basic row is `−t_0 / t_b` with a positive denominator,
    and a split variable gets positive part minus negative part over the lcm of the denominators. -/
theorem generator_is_basic_solution (t : Row) (b : Nat) (hb : t.get b ≠ 0) (n1 d1 n2 d2 : Int)
    (h1 : 0 < d1) (h2 : 0 < d2) :
    (0 < (basicValue t b).2 ∧
      ((basicValue t b).1 : Rat) / ((basicValue t b).2 : Rat) = -((t.get 0 : Int) : Rat) / ((t.get b : Int) : Rat)) ∧
    (0 < (mergeSplit n1 d1 n2 d2).2 ∧
      ((mergeSplit n1 d1 n2 d2).1 : Rat) / ((mergeSplit n1 d1 n2 d2).2 : Rat) =
        (n1 : Rat) / (d1 : Rat) - (n2 : Rat) / (d2 : Rat)) :=
  ⟨basicValue_spec t b hb, mergeSplit_spec n1 d1 n2 d2 h1 h2⟩

example : basicValue [-6, 0, -4] 2 = (-6, 4) ∧ mergeSplit 1 2 5 3 = (-7, 6) ∧ mergeSplit 1 2 2 4 = (0, 1) := by decide

end TableauSteps

end C06

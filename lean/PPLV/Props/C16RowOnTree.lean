import PPLV.COTree.ProofsRowOnTree
import PPLV.COTree.ProofsRebSlot
import PPLV.Props.C16

/-!
# `Sparse_Row` on the real tree denotes the abstract sparse row `SRow`

Model `PPLV/COTree/RowOnTree.lean`: `Sparse_Row` = `size_` + `CO_Tree`; its element operations
(Sparse_Row_inlines.hh:95-360, Sparse_Row.cc:128-210) are code-shaped compositions of the verified
tree operations (`insert`, hinted `insert`, `erase(key)`, `erase(iterator)`, `bisect`,
`bisect_near`, the key-shifting loops of CO_Tree.cc:178-215).
-/
namespace C16
open PPLV.COTree

/-- **the row on the tree refines the abstract row.**  For every row whose tree is empty or satisfies the full tree
invariant, with all keys below `size()`: each of `insert(i,x)`, `insert(itr,i,x)`, `insert(i)`,
`insert(itr,i)`, `reset(i)`, `reset(iterator)`, `find` / `lower_bound` (with ANY valid hint),
`reset_after`, `add_zeroes_and_shift`, `delete_element_and_shift`, `swap_coefficients` run on the
real tree layout terminates, keeps validity, and the row it leaves (`TRow.toSRow` = `size_` + the
in-order listing of the tree) is exactly what the abstract operation (`RowOp.sparse`)
gives; the observers return what `SMap.find?` / `SMap.lowerBound` / `SMap.next` say. -/
theorem sparse_row_on_tree_refines : SparseRowOnTreeSpec := sparseRowOnTreeSpec

/-- the iterator returned by every insertion is on a slot `1 … reserved_size` of the result, never
on one of the two markers (callers such as `swap_coefficients` write through it) -/
theorem insert_returns_slot : InsertSlotSpec := insertSlotSpec

/-- a valid row on the tree is a well-formed abstract row -/
theorem tree_row_wf (r : TRow) (hv : r.Valid) : r.toSRow.WF := by
  obtain ⟨h, hb⟩ := hv
  refine ⟨?_, hb⟩
  rcases h with h | h
  · show SMap.Sorted r.tree.toList
    rw [h]; exact (SMap.sortedB_iff _).mp (by decide)
  · exact h.1.sorted

/-- **… hence dense ≡ sparse holds for the row on the real tree**: whenever a tree-level
operation realises the abstract operation `f`, reading the resulting tree densely is running the
dense algorithm on the dense reading of the old tree (`C16.dense_sparse_equiv` transported). -/
theorem tree_row_dense (r r' : TRow) (f : RowOp) (hv : r.Valid) (hp : f.pre r.toSRow)
    (h : r'.toSRow = f.sparse r.toSRow) : toDense r'.toSRow = f.dense (toDense r.toSRow) := by
  rw [h]; exact dense_sparse_equiv f _ (tree_row_wf r hv) hp

/-- non-vacuity: the empty row of size 6 is valid; so is the row after `insert(3, -6)` (by the theorem) -/
example : (⟨6, init 0⟩ : TRow).Valid := ⟨Or.inl rfl, fun p hp => by simp [Tree.toList, Tree.listRange, init] at hp⟩
example : ∃ r' it, (⟨6, init 0⟩ : TRow).insert 3 (-6) = some (r', it) ∧ r'.Valid ∧
    r'.toSRow = RowOp.sparse (⟨6, init 0⟩ : TRow).toSRow (.set 3 (-6)) := by
  obtain ⟨r', it, h1, h2, h3, _⟩ := sparse_row_on_tree_refines.1 ⟨6, init 0⟩ 3 (-6)
    ⟨Or.inl rfl, fun p hp => by simp [Tree.toList, Tree.listRange, init] at hp⟩ (by decide)
  exact ⟨r', it, h1, h2, h3⟩

end C16

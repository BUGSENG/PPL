import PPLV.Widen.ProofsCert
import PPLV.Widen.ProofsMultiset
import PPLV.Widen.ProofsConv
import PPLV.Widen.ProofsItv

/-!
# C08 — widenings are upper bounds, well defined on values, and force convergence

What is proved here, about the code-shaped models of `PPLV/Widen/Model.lean`:

* `cert_wf` — the strict orders induced by the three certificate `compare` methods, *as the widenings
  use them* ("new certificate strictly smaller"), are well-founded on certificates of a fixed space
  dimension.  For the `compare(ph)` overloads this needs the two facts the C++ only asserts
  (`ph ⊇ *this`, so affine dimension and lineality do not decrease): without them the relation has a
  2-cycle (`cert_wf_ph_unguarded_fails`).
* `compare_overloads_agree_fails` / `_partial` — DESIGN §9 #15 is true: `compare(cert)` orders
  affine dimension (and lineality) *ascending*, `compare(ph)` *descending*; they agree whenever
  these two components are equal.  Both induced orders are well-founded, so `BHZ03` (hull through
  `compare(ph)`, multiset through `compare(cert)`) still terminates; what differs from the BHZ03
  paper is which candidates the multiset test accepts.
* `multiset_wf` — `is_cert_multiset_stabilizing` is a sub-relation of the Dershowitz–Manna extension
  of `compare = -1`, hence well-founded.
* `converges` — the abstract convergence theorem; `converges_adversary` is the stronger form.
  (Appendix B omitted the hypothesis `hval`; without it the statement is false: a widening may return
  a different representation of the same set carrying a larger certificate.)
* `cc76_interval_sup`, `cc76_interval_converges` — `Interval::CC76_widening_assign` outright.
* `token_spec`, `limited_between`, `bounded_between` — over the abstract interface.

Monitored at run time, not proved: that each concrete PPL widening decreases its certificate and is a
function of the point sets (`harness/c08_widen.cc`, `Driver/Widen.lean`).
-/
namespace C08
open PPLV.Widen

/-! ### certificates -/

/-- **The certificate orders are well-founded** (space dimension `n`):
    `compare(cert) = -1` for BHRZ03 / H79 / Grid, and "`old.compare(new_ph) = 1`" with the asserted
    inclusion facts for BHRZ03 / H79 (`LessPh`), plain for Grid. -/
theorem cert_wf (n : Nat) :
    WellFounded (BHRZ03Cert.LessCert n) ∧
    WellFounded (BHRZ03Cert.LessPh n) ∧
    WellFounded (fun a b : H79Cert => a.compare b = .lt) ∧
    WellFounded (H79Cert.LessPh n) ∧
    WellFounded (fun a b : GridCert => a.compare b = .lt) ∧
    WellFounded (fun new old : GridCert => old.comparePh new = .gt) :=
  ⟨bhrz03_compare_wf n, bhrz03_comparePh_wf n, h79_compare_wf, h79_comparePh_wf n,
   grid_compare_wf, grid_comparePh_wf⟩

/-- non-vacuity: a segment is below a point in the BHRZ03 order of dimension 1 (`compare(ph) = 1`) -/
example : BHRZ03Cert.LessPh 1 ⟨1, 0, 2, 2, [0]⟩ ⟨0, 0, 1, 1, [0]⟩ := by unfold BHRZ03Cert.LessPh; decide

example : H79Cert.LessPh 2 ⟨2, 3⟩ ⟨2, 4⟩ := by unfold H79Cert.LessPh; decide

/-- Without the asserted facts the relation "`old.compare(new_ph) = 1`" is **not** well-founded: the raw
    transliteration of `BHRZ03_Certificate::compare(const Polyhedron&)` has a 2-cycle already among
    certificates that pass `OK()` (it never tests `ph_affine_dim < affine_dim`). -/
theorem cert_wf_ph_unguarded_fails :
    ¬ WellFounded (fun new old : BHRZ03Cert => old.comparePh new = .gt) := by
  intro wf
  let a : BHRZ03Cert := ⟨2, 2, 0, 1, [0, 0, 0]⟩
  let b : BHRZ03Cert := ⟨3, 1, 0, 1, [0, 0, 0]⟩
  have hab : b.comparePh a = .gt := by decide
  have hba : a.comparePh b = .gt := by decide
  exact wf.asymmetric a b hab hba

theorem cert_wf_h79_ph_unguarded_fails :
    ¬ WellFounded (fun new old : H79Cert => old.comparePh new = .gt) := by
  intro wf
  let a : H79Cert := ⟨1, 5⟩
  let b : H79Cert := ⟨2, 6⟩
  have hab : b.comparePh a = .gt := by decide
  have hba : a.comparePh b = .gt := by decide
  exact wf.asymmetric a b hab hba

/-- **DESIGN §9 #15 confirmed**: the two overloads of `BHRZ03_Certificate::compare` do not agree —
    for the certificate `c` of a point and the certificate `p` of a segment containing it,
    `c.compare(ph) = 1` ("stabilizing") while `c.compare(Cert(ph)) = -1`. -/
theorem compare_overloads_agree_fails :
    ¬ ∀ c p : BHRZ03Cert, c.comparePh p = c.compare p := by
  intro h
  have := h ⟨0, 0, 1, 1, [0]⟩ ⟨1, 0, 2, 2, [0]⟩
  revert this
  decide

theorem compare_overloads_agree_h79_fails :
    ¬ ∀ c p : H79Cert, c.comparePh p = c.compare p := by
  intro h
  have := h ⟨0, 1⟩ ⟨1, 2⟩
  revert this
  decide

/-- … they agree whenever affine dimension and lineality coincide (extra hypotheses `h1 h2`: this is the
    case in which `BHZ03` goes on to consult the multiset ordering). -/
theorem compare_overloads_agree_partial (c p : BHRZ03Cert)
    (h1 : c.affineDim = p.affineDim) (h2 : c.linSpaceDim = p.linSpaceDim) :
    c.comparePh p = c.compare p :=
  BHRZ03Cert.comparePh_eq_compare_of_same_dims c p h1 h2

theorem compare_overloads_agree_h79_partial (c p : H79Cert) (h1 : c.affineDim = p.affineDim) :
    c.comparePh p = c.compare p :=
  H79Cert.comparePh_eq_compare_of_same_dims c p h1

example : (⟨1, 0, 2, 2, [0]⟩ : BHRZ03Cert).comparePh ⟨1, 0, 2, 2, [1]⟩ = .lt := by decide

/-- The Grid certificate has a single order: `compare(gr)` *is* `compare(Grid_Certificate(gr))`. -/
theorem grid_overloads_agree (c p : GridCert) : c.comparePh p = c.compare p := rfl

/-! ### certificate multisets -/

/-- **`is_cert_multiset_stabilizing` is well-founded** for each of the three certificate kinds (the lists
    are the certificates of the disjuncts of the two powersets). -/
theorem multiset_wf (n : Nat) :
    WellFounded (fun X Y : List H79Cert => isCertMultisetStabilizing H79Cert.compare X Y = true) ∧
    WellFounded (fun X Y : List GridCert => isCertMultisetStabilizing GridCert.compare X Y = true) ∧
    WellFounded (fun X Y : List (BHRZ03CertN n) =>
      isCertMultisetStabilizing BHRZ03CertN.compare X Y = true) :=
  ⟨isCertMultisetStabilizing_wf h79_lawful h79_compare_wf,
   isCertMultisetStabilizing_wf grid_lawful grid_compare_wf,
   isCertMultisetStabilizing_wf (bhrz03_lawful n) (bhrz03N_compare_wf n)⟩

/-- **The order of `BHZ03_widening_assign` is well-founded**: hull certificate through `compare(ph)`,
    then "singleton below non-singleton", then the multiset through `compare(cert)` — although the two
    overloads order affine dimension in opposite directions (each is well-founded on its own). -/
theorem bhz03_order_wf (n : Nat) :
    WellFounded (Bhz03Less (H79Cert.LessPh n) H79Cert.compare) ∧
    WellFounded (Bhz03Less (fun new old : GridCert => old.comparePh new = .gt) GridCert.compare) ∧
    WellFounded (Bhz03Less (fun a b : BHRZ03CertN n => BHRZ03Cert.LessPh n a.1 b.1) BHRZ03CertN.compare) :=
  ⟨bhz03Less_wf (h79_comparePh_wf n) h79_lawful h79_compare_wf,
   bhz03Less_wf grid_comparePh_wf grid_lawful grid_compare_wf,
   bhz03Less_wf (InvImage.wf Subtype.val (bhrz03_comparePh_wf n)) (bhrz03_lawful n) (bhrz03N_compare_wf n)⟩

/-- … and it implies the Dershowitz–Manna order of the multisets of certificates. -/
theorem multiset_stabilizing_is_dershowitz_manna {α : Type} {cmp : α → α → Ordering}
    (h : LawfulCmp cmp) (X Y : List α) (hs : isCertMultisetStabilizing cmp X Y = true) :
    @Multiset.IsDershowitzMannaLT α h.preorder (X : Multiset α) (Y : Multiset α) := by
  obtain ⟨dX, mX⟩ := collect_spec h X
  obtain ⟨dY, mY⟩ := collect_spec h Y
  have := msStabilizing_dm h _ _ dX dY hs
  rwa [mX, mY] at this

/-- non-vacuity: `{(2,3), (1,7), (1,7)}` is below `{(2,4)}`, and `{(2,4)}` is not below itself -/
example : isCertMultisetStabilizing H79Cert.compare [⟨1, 7⟩, ⟨2, 3⟩, ⟨1, 7⟩] [⟨2, 4⟩] = true := by decide
example : isCertMultisetStabilizing H79Cert.compare [⟨2, 4⟩] [⟨2, 4⟩] = false := by decide
example : collectCertificates H79Cert.compare [⟨1, 7⟩, ⟨2, 3⟩, ⟨1, 7⟩] = [(⟨2, 3⟩, 1), (⟨1, 7⟩, 2)] := by decide

/-! ### convergence -/

/-- **The abstract convergence theorem** (Appendix B).  `w x y` is `x.widening_assign(y)`, `x` the larger
    argument; `ub` is any upper-bound operator used to form the next larger argument.  If the widening
    returns a superset of its larger argument (`sup`) and every non-stationary application strictly
    decreases a certificate (`dec`) that is well defined on values (`hval`) in a well-founded order, then
    along *every* chain the widened sequence is eventually stationary. -/
theorem converges {D Pt C : Type} (γ : D → Set Pt) (w : D → D → D) (ub : D → D → D) (cert : D → C)
    (r : C → C → Prop) (wf : WellFounded r)
    (hub : ∀ a b, γ a ⊆ γ (ub a b) ∧ γ b ⊆ γ (ub a b))
    (_sup : ∀ x y, γ y ⊆ γ x → γ x ⊆ γ (w x y))
    (hval : ∀ a b, γ a = γ b → cert a = cert b)
    (dec : ∀ x y, γ y ⊆ γ x → γ (w x y) ≠ γ y → r (cert (w x y)) (cert y))
    (chain : Nat → D) (_asc : ∀ i, γ (chain i) ⊆ γ (chain (i + 1))) :
    ∃ N, ∀ i ≥ N, γ (iterW ub w chain (i + 1)) = γ (iterW ub w chain i) := by
  obtain ⟨N, hN⟩ := converges_adversary γ w cert r wf hval dec (chain 0)
    (fun i x => ub x (chain (i + 1))) (fun i x => (hub x _).1)
  refine ⟨N, fun i hi => ?_⟩
  rw [iterW_eq_advSeq, iterW_eq_advSeq]
  exact hN i hi

/-- the limit is above the whole chain -/
theorem converges_covers {D Pt : Type} (γ : D → Set Pt) (w : D → D → D) (ub : D → D → D)
    (hub : ∀ a b, γ a ⊆ γ (ub a b) ∧ γ b ⊆ γ (ub a b))
    (sup : ∀ x y, γ y ⊆ γ x → γ x ⊆ γ (w x y)) (chain : Nat → D) (i : Nat) :
    γ (chain i) ⊆ γ (iterW ub w chain i) := iterW_covers γ ub w hub sup chain i

/-- the same against an arbitrary adversary supplying the larger arguments -/
theorem converges_adversary {D Pt C : Type} (γ : D → Set Pt) (w : D → D → D) (cert : D → C)
    (r : C → C → Prop) (wf : WellFounded r)
    (hval : ∀ a b, γ a = γ b → cert a = cert b)
    (dec : ∀ x y, γ y ⊆ γ x → γ (w x y) ≠ γ y → r (cert (w x y)) (cert y))
    (x0 : D) (z : Nat → D → D) (hz : ∀ i x, γ x ⊆ γ (z i x)) :
    ∃ N, ∀ i ≥ N, γ (advSeq w x0 z (i + 1)) = γ (advSeq w x0 z i) :=
  PPLV.Widen.converges_adversary γ w cert r wf hval dec x0 z hz

/-- **The hypothesis `hval` cannot be dropped** (the statement of Appendix B as first written is false):
    there is a sound operator, decreasing a ℕ-valued certificate at every non-stationary application,
    and an environment against which the widened sequence never becomes stationary — the operator
    re-represents a stationary value with a larger certificate.  This is exactly what a certificate that
    is *not* a function of the point set permits (cf. KF-C08-5). -/
theorem converges_without_cert_on_values_fails :
    ¬ (∀ (γ : Nat × Nat → Set Nat) (w : Nat × Nat → Nat × Nat → Nat × Nat) (cert : Nat × Nat → Nat)
        (x0 : Nat × Nat) (z : Nat → Nat × Nat → Nat × Nat),
        (∀ x y, γ y ⊆ γ x → γ x ⊆ γ (w x y)) →
        (∀ x y, γ y ⊆ γ x → γ (w x y) ≠ γ y → cert (w x y) < cert y) →
        (∀ i x, γ x ⊆ γ (z i x)) →
        ∃ N, ∀ i ≥ N, γ (advSeq w x0 z (i + 1)) = γ (advSeq w x0 z i)) := by
  intro h
  obtain ⟨h1, h2, h3, h4⟩ := converges_needs_hval
  exact h4 (h cexγ cexW cexCert (0, 1) cexZ h1 h2 h3)

/-- non-vacuity: the hypotheses are jointly satisfiable — the two-point domain `∅ ⊂ univ` with the
    identity widening and the certificate `1, 0`, along the chain `∅, ∅, ∅, univ, univ, …` -/
example : ∃ N, ∀ i ≥ N,
    (fun b : Bool => ({_k | b = true} : Set Unit)) (iterW or (fun x _ => x) (fun i => decide (3 ≤ i)) (i + 1)) =
    (fun b : Bool => ({_k | b = true} : Set Unit)) (iterW or (fun x _ => x) (fun i => decide (3 ≤ i)) i) := by
  refine converges (fun b : Bool => ({_k | b = true} : Set Unit)) (fun x _ => x) or
    (fun b => if b then 0 else 1) (· < ·) Nat.lt_wfRel.wf ?_ ?_ ?_ ?_ _ ?_
  · intro a b; cases a <;> cases b <;> simp
  · intro x y _; exact subset_rfl
  · intro a b; cases a <;> cases b <;> simp [eq_comm (a := (∅ : Set Unit))]
  · intro x y; cases x <;> cases y <;> simp
  · intro i
    by_cases h : 3 ≤ i
    · simp [h, Nat.le_succ_of_le h]
    · simp [h]

/-! ### the interval widening, outright -/

/-- `Interval::CC76_widening_assign(y, first, last)` returns a superset of `*this`, for every list of
    stop points and every `y` -/
theorem cc76_interval_sup (stops : List Rat) (x y : Itv) (q : Rat) (h : x.mem q) :
    (x.cc76 stops y).mem q := cc76_sup stops x y q h

/-- **`CC76` on intervals converges with no certificate hypothesis**: for every finite list of stop
    points and every sequence of intervals starting from a non-empty one,
    `xᵢ₊₁ = (xᵢ ⊔ cᵢ₊₁).CC76_widening_assign(xᵢ)` (with the box-level guard for an empty `y`) is
    eventually stationary. -/
theorem cc76_interval_converges (stops : List Rat) (chain : Nat → Itv) (h0 : (chain 0).isEmpty = false) :
    ∃ N, ∀ i ≥ N, ∀ q, (iterW Itv.join (Itv.widen stops) chain (i + 1)).mem q ↔
      (iterW Itv.join (Itv.widen stops) chain i).mem q :=
  cc76_converges_chain stops chain h0

/-- the adversary form: any supplier of larger arguments that respects `contains(y)` on the boundaries -/
theorem cc76_interval_converges_adversary (stops : List Rat) (x0 : Itv) (z : Nat → Itv → Itv)
    (hz : ∀ (i : Nat) (x : Itv), x.LE (z i x)) :
    ∃ N, ∀ i ≥ N, ∀ q, (advSeq (Itv.cc76 stops) x0 z (i + 1)).mem q ↔
      (advSeq (Itv.cc76 stops) x0 z i).mem q :=
  cc76_converges_adv stops x0 z hz

/-- non-vacuity / the code's behaviour on concrete data: `[0, 3/2] ∇ [0, 1]` with the default stop points
    is `[0, 2]`; `[−5/2, 1] ∇ [−1, 1]` is `(−∞, 1]`; `[−3/2, 1] ∇ [−1, 1]` is `[−2, 1]`. -/
example : (Itv.cc76 defaultStops ⟨some 0, false, some (3/2), false⟩ ⟨some 0, false, some 1, false⟩)
    = ⟨some 0, false, some 2, false⟩ := by decide +kernel
example : (Itv.cc76 defaultStops ⟨some (-5/2), false, some 1, false⟩ ⟨some (-1), false, some 1, false⟩)
    = ⟨none, false, some 1, false⟩ := by decide +kernel
example : (Itv.cc76 defaultStops ⟨some (-3/2), false, some 1, false⟩ ⟨some (-1), false, some 1, false⟩)
    = ⟨some (-2), false, some 1, false⟩ := by decide +kernel

/-! ### tokens -/

/-- **Token protocol**: with a token available the object is left unchanged and the token is consumed
    exactly when the plain widening would lose precision (`γ (w x y) ≠ γ x`); otherwise the result is (as a
    set) the plain widening and the count is unchanged. -/
theorem token_spec {D Pt : Type} (γ : D → Set Pt) (contains : D → D → Bool) (w : D → D → D)
    (hc : ∀ a b, contains a b = true ↔ γ b ⊆ γ a)
    (sup : ∀ x y, γ y ⊆ γ x → γ x ⊆ γ (w x y))
    (x y : D) (hyx : γ y ⊆ γ x) (tp : Nat) :
    let r := widenTok contains w x y tp
    (0 < tp ∧ γ (w x y) ≠ γ x → r = (x, tp - 1)) ∧
    (¬ (0 < tp ∧ γ (w x y) ≠ γ x) → γ r.1 = γ (w x y) ∧ r.2 = tp) :=
  widenTok_sets γ contains w hc sup x y hyx tp

example : widenTok (fun a b : Nat => decide (b ≤ a)) (fun x _ => x + 1) 3 2 2 = (3, 1) := by decide
example : widenTok (fun a b : Nat => decide (b ≤ a)) (fun x _ => x) 3 2 2 = (3, 2) := by decide
example : widenTok (fun a b : Nat => decide (b ≤ a)) (fun x _ => x + 1) 3 2 0 = (4, 0) := by decide

/-! ### limited and bounded extrapolation -/

/-- **Limited extrapolation** is between the larger argument and the plain widening, and satisfies every
    supplied constraint that the larger argument satisfies — for every `refine` that removes only points
    violating a constraint it was given, and for the constraints that `refine` enforces (hypothesis of the
    third part: for PPL's polyhedra all of them; for boxes / BD shapes / octagons those the domain can
    express — the others are documented as ignored). -/
theorem limited_between {D Pt K : Type} (γ : D → Set Pt) (csat : K → Pt → Prop)
    (sat : D → K → Bool) (refine : D → List K → D) (w : D → D → D)
    (sat_iff : ∀ a c, sat a c = true ↔ ∀ p ∈ γ a, csat c p)
    (refine_sub : ∀ a l, γ (refine a l) ⊆ γ a)
    (refine_keeps : ∀ a l p, p ∈ γ a → (∀ c ∈ l, csat c p) → p ∈ γ (refine a l))
    (sup : ∀ x y, γ y ⊆ γ x → γ x ⊆ γ (w x y))
    (x y : D) (hyx : γ y ⊆ γ x) (cs : List K) :
    γ x ⊆ γ (limited sat refine w x y cs) ∧
    γ (limited sat refine w x y cs) ⊆ γ (w x y) ∧
    (∀ c ∈ cs, (∀ p ∈ γ x, csat c p) →
      (∀ a l, c ∈ l → ∀ p ∈ γ (refine a l), csat c p) →
      ∀ p ∈ γ (limited sat refine w x y cs), csat c p) :=
  limited_spec γ csat sat refine w sat_iff refine_sub refine_keeps sup x y hyx cs

theorem bounded_between {D Pt K : Type} (γ : D → Set Pt) (csat : K → Pt → Prop)
    (sat : D → K → Bool) (refine : D → List K → D) (w : D → D → D) (boxCons : D → D → List K)
    (sat_iff : ∀ a c, sat a c = true ↔ ∀ p ∈ γ a, csat c p)
    (refine_sub : ∀ a l, γ (refine a l) ⊆ γ a)
    (refine_keeps : ∀ a l p, p ∈ γ a → (∀ c ∈ l, csat c p) → p ∈ γ (refine a l))
    (sup : ∀ x y, γ y ⊆ γ x → γ x ⊆ γ (w x y))
    (box_sound : ∀ x y, γ y ⊆ γ x → ∀ c ∈ boxCons x y, ∀ p ∈ γ x, csat c p)
    (x y : D) (hyx : γ y ⊆ γ x) (cs : List K) :
    γ x ⊆ γ (bounded sat refine w boxCons x y cs) ∧
    γ (bounded sat refine w boxCons x y cs) ⊆ γ (w x y) ∧
    (∀ c ∈ cs, (∀ p ∈ γ x, csat c p) →
      (∀ a l, c ∈ l → ∀ p ∈ γ (refine a l), csat c p) →
      ∀ p ∈ γ (bounded sat refine w boxCons x y cs), csat c p) :=
  bounded_spec γ csat sat refine w boxCons sat_iff refine_sub refine_keeps sup box_sound x y hyx cs

/-- non-vacuity on the domain of upper bounds `{k | k ≤ a}` over ℕ with constraints `k ≤ c`:
    widening `3 ∇ 2` to `10`, limited by `[5, 2]`, keeps `≤ 5` (satisfied by `3`) and drops `≤ 2`. -/
example : limited (fun a c : Nat => decide (a ≤ c)) (fun a l => l.foldl min a) (fun _ _ => 10) 3 2 [5, 2] = 5 := by
  decide

end C08

import PPLV.Props.C05Reduce
import PPLV.Lattice.ProofsGridOpsHist
import PPLV.Lattice.ProofsGridOpsAddCongruence
import PPLV.Lattice.ProofsGridOpsRemoveHigher
import PPLV.Lattice.ProofsGridOpsAddDimsCon
import PPLV.Lattice.ProofsGridOpsLazy
import PPLV.Lattice.ProofsGridOpsInclusion
import PPLV.Lattice.ProofsGridOpsGenSet
import PPLV.Lattice.ProofsGridOpsGenAffine
import PPLV.Lattice.ProofsGridOpsRemoveDims
import PPLV.Lattice.ProofsGridOpsFrequency
import PPLV.Lattice.ProofsGridOpsDiscrete
import PPLV.Lattice.ProofsGridOpsQuickFalse
import PPLV.Lattice.ProofsGridOpsIsBounded
import PPLV.Lattice.ProofsGridOpsAddDims
import PPLV.Lattice.ProofsGridOpsConstrains
import PPLV.Lattice.ProofsGridOpsFold
import PPLV.Lattice.ProofsGridOpsExpand
import PPLV.Lattice.ProofsGridOpsMapDims

/-!
# C05 — the `Grid` class itself: lazy status machinery, mutators and observers on the raw object

Property statements only.  The code-shaped model of the object (`space_dim`, status word, `con_sys`, `gen_sys`,
`dim_kinds`) and of the functions of Grid_nonpublic.cc / Grid_public.cc / Grid_chdims.cc is in
`PPLV/Lattice/GridOps.lean` (state, primitives, lazy machinery, constructors), `GridOpsObs.lean` (observers),
`GridOpsMut.lean` (mutators), `GridOpsDims.lean` (dimension operators, affine transformers); it calls the
models of `Grid::simplify` / `Grid::conversion` / `normalize_divisors`, whose theorems (`C05Reduce`) discharge every
conversion step below.

* `Grid.sem g : Set Pt` — the set a raw state denotes: `∅` when marked empty, the origin in dimension 0, else the
  homogeneous lattice of the generator rows (read at the divisor of the first point) when they are flagged up to date,
  else the solutions of the congruence rows (`PPLV/Lattice/ProofsGridOpsDefs.lean`);
* `GridInv g` — the status flags are truthful: shape of the marked-empty and 0-dimensional objects; something is up to
  date; an up-to-date description is well formed (generators: one common divisor); two up-to-date descriptions denote
  the same set; minimized ⇒ the triangular form of `Grid::simplify` recorded by `dim_kinds` (and, when it is the only
  description, what `conversion` needs).

The driver `pplv_gridops` replays the model from the journalled raw pre-state of every operation of seeded histories of
the real library, demands the identical raw post-state, evaluates `invB` (the executable core of `GridInv`) on every real
post-state and judges the conclusions below on the real output with the K2 deciders.
-/
namespace C05
open PPLV.Lattice PPLV.Lattice.Red PPLV.Lattice.GO

/-! ## the invariant at construction: `grid_inv_init` -/

/-- `Grid(n, EMPTY)`: the invariant holds, the empty set is denoted -/
theorem grid_inv_init_empty (n : Nat) : GridInv (constructDeg n false) ∧ (constructDeg n false).sem = ∅ :=
  ⟨constructDeg_empty_inv n, constructDeg_empty_sem n⟩

/-- `Grid(0, UNIVERSE)`: the single point of the 0-dimensional space -/
theorem grid_inv_init_zero_dim : GridInv (constructDeg 0 true) ∧ (constructDeg 0 true).sem = {x | Supp 0 x} :=
  ⟨constructDeg_zdim_inv, constructDeg_zdim_sem⟩

example : (constructDeg 2 false).con = [{ e := [1, 0, 0], m := 0 }] := by decide

/-- `Grid(n, UNIVERSE)` / `Grid(n, EMPTY)` in every dimension: the invariant holds; the whole space, resp. ∅ -/
theorem grid_inv_init_degenerate (n : Nat) (u : Bool) :
    GridInv (constructDeg n u) ∧ (constructDeg n u).sem = if u then {x | Supp n x} else ∅ :=
  ⟨constructDeg_inv n u, constructDeg_sem n u⟩

example : (constructDeg 1 true).gen = [{ line := false, e := [1, 0, 0] }, { line := true, e := [0, 1, 0] }] := by decide

/-- `Grid(const Congruence_System&)` (`construct(cgs)`, Grid_nonpublic.cc:102) for a well-formed system of dimension > 0:
    the invariant holds and the solutions of the system are denoted (`normalize_moduli` keeps them) -/
theorem grid_inv_init_congruences (cgs : CSys) (hw : CWf cgs.dim cgs.rows) (hpos : 0 < cgs.dim) :
    GridInv (constructCgs cgs) ∧ (constructCgs cgs).sem = consSet cgs.dim cgs.rows ∧ (constructCgs cgs).spaceDim = cgs.dim :=
  ⟨(constructCgs_pos cgs hw hpos).1, (constructCgs_pos cgs hw hpos).2.1, (constructCgs_pos cgs hw hpos).2.2.1⟩

/-- … in any dimension the invariant holds -/
theorem grid_inv_init_congruences_inv (cgs : CSys) (hw : CWf cgs.dim cgs.rows) : GridInv (constructCgs cgs) :=
  constructCgs_inv cgs hw

example : CWf 1 [(⟨[0, 1], 2⟩ : CRow)] ∧ (constructCgs ⟨1, [⟨[0, 1], 2⟩]⟩).con = [⟨[0, 1], 2⟩] := by
  refine ⟨?_, by decide⟩
  intro r hr; simp at hr; subst hr; exact ⟨rfl, by decide⟩

/-- `Grid(const Grid_Generator_System&)` (`construct(ggs)`, Grid_nonpublic.cc:140) for a well-formed system (right sizes,
    positive divisors, a point) of dimension > 0: it does not throw, the invariant holds and the PPL reading of the
    generators (`gn_set`: each point and parameter read with its own divisor) is denoted — `normalize_divisors` keeps it.
    `constructGgs` answers `none` (throws) exactly when there are rows but no point (`constructGgs_none_iff`). -/
theorem grid_inv_init_generators (ggs : GSys) (hw : gn_WF ggs.dim ggs.rows) (hpos : 0 < ggs.dim) :
    ∃ r, constructGgs ggs = some r ∧ GridInv r ∧ r.sem = gn_set ggs.rows ∧ r.spaceDim = ggs.dim := by
  obtain ⟨_, h2, h3, h4⟩ := gn_normalizeDivisors1 hw hpos
  obtain ⟨p, hp, hpt⟩ := hw.pt
  have hr : ggs.rows ≠ [] := by intro h; rw [h] at hp; cases hp
  have hpts : ggs.hasPoints = true := by
    unfold GSys.hasPoints
    rw [List.any_eq_true]
    refine ⟨p, hp, ?_⟩
    have h2 : p.line = false ∧ ¬ Red.get p.e 0 = 0 := by simpa [gn_isPt] using hpt
    simpa [GRow.isLineOrParameter] using h2.2
  obtain ⟨r, a, b, c, d, _⟩ := constructGgs_pos ggs hr hpts hpos ⟨h2, h3⟩
  exact ⟨r, a, b, by rw [c, gn_bridge h3 h2, h4], d⟩

/-- the copy constructor and `operator=`: invariant, same set, same dimension -/
theorem grid_inv_init_copy (y : Grid) (hy : GridInv y) :
    GridInv (copyCtor y) ∧ (copyCtor y).sem = y.sem ∧ (copyCtor y).spaceDim = y.spaceDim :=
  ⟨copyCtor_inv y hy, copyCtor_sem y hy, (copyCtor_spec y hy).2.2.1⟩

theorem grid_inv_init_assign (x y : Grid) (hy : GridInv y) :
    GridInv (assign x y) ∧ (assign x y).sem = y.sem ∧ (assign x y).spaceDim = y.spaceDim := assign_spec x y hy

example : GridInv cn_exGrid := cn_exGrid_inv

/-! ## the lazy machinery: every conversion step is discharged by the theorems of `C05Reduce` -/

/-- `update_generators()` (Grid_nonpublic.cc:520) where the code calls it: the object is not marked empty, dimension > 0,
    the congruences are up to date and the generators are not.  Afterwards the invariant holds, the same set is denoted,
    the answer is `true` exactly on a non-empty grid and then both descriptions are flagged up to date and minimized;
    on `false` the object has been marked empty. -/
theorem update_generators_correct : UpdateGeneratorsSpec := updateGenerators_spec

/-- `update_congruences()` (Grid_nonpublic.cc:493) where the code calls it -/
theorem update_congruences_correct : UpdateCongruencesSpec := updateCongruences_spec

/-- `is_empty()` (Grid_public.cc:781): answers according to the denoted set, keeps invariant, set and dimension -/
theorem is_empty_correct : IsEmptySpec := isEmpty_spec

/-- `generators_are_up_to_date() || update_generators()` as the mutators use it -/
theorem ensure_generators_correct : EnsureGeneratorsSpec := ensureGenerators_spec

/-- `congruences()` and `grid_generators()` only change the representation -/
theorem congruences_correct : LazyOK congruences := congruences_lazy
theorem grid_generators_correct : LazyOK gridGenerators := gridGenerators_lazy

/-- `minimize()` (Grid_nonpublic.cc:546): invariant, set and dimension kept; the answer is `false` exactly on the empty
    grid (the object is then marked empty); on `true` in dimension > 0 both descriptions are flagged minimized.
    The case "both up to date, `simplify` runs on one of them while the other one is already minimized" overwrites the
    shared `dim_kinds`; it rests on the duality of the two triangular forms of one grid, proved as `dkCompatG` /
    `dkCompatC` (`ProofsGridOpsDimKinds.lean`). -/
theorem minimize_correct : MinimizeSpec := minimize_spec

/-- the duality behind the shared `dim_kinds` -/
theorem dim_kinds_shared_generators_side : DkCompatG := dkCompatG
theorem dim_kinds_shared_congruences_side : DkCompatC := dkCompatC

theorem minimized_congruences_correct : LazyOK minimizedCongruences := minimizedCongruences_lazy
theorem minimized_grid_generators_correct : LazyOK minimizedGridGenerators := minimizedGridGenerators_lazy

example : (updateGenerators cn_exGrid).2 = true ∧
    (updateGenerators cn_exGrid).1.gen = [{ line := false, e := [1, 0, 0] }, { line := false, e := [0, 2, 1] }] := by
  decide +kernel

/-! ## operations as history steps -/

/-- the operations whose step theorems are closed (arguments included; a `Grid` argument is a raw object satisfying the
    invariant, see `Op.pre`) -/
inductive Op where
  | addCongruence (cg : CRow)                    -- add_congruence / refine_with_congruence
  | addCongruences (cgs : CSys)                  -- add_congruences / refine_with_congruences
  | addRecycledCongruences (cgs : CSys)
  | addConstraint (c : Con)
  | refineWithConstraint (c : Con)
  | addConstraints (dim : Nat) (cs : List Con)   -- add_constraints / add_recycled_constraints
  | refineWithConstraints (dim : Nat) (cs : List Con)
  | intersectionAssign (y : Grid)
  | concatenateAssign (y : Grid)
  | assign (y : Grid)
  | congruences
  | gridGenerators
  | minimizedCongruences
  | minimizedGridGenerators
  | minimize
  | isEmpty
  | upperBoundAssign (y : Grid)
  | timeElapseAssign (y : Grid)
  | addSpaceDimensionsAndEmbed (m : Nat)
  | affineImage (v : Nat) (e : LinExpr) (den : Int)
  | affinePreimage (v : Nat) (e : LinExpr) (den : Int)
  | removeSpaceDimensions (vars : List Nat)
  | differenceAssign (y : Grid)
  | expandSpaceDimension (v m : Nat)
  | foldSpaceDimensions (vars : List Nat) (dest : Nat)
  | addRecycledGridGenerators (gs : GSys)        -- add_grid_generators / add_recycled_grid_generators
  | addSpaceDimensionsAndProject (m : Nat)
  | boundedAffineImage (v : Nat) (lb ub : LinExpr) (den : Int)
  | boundedAffinePreimage (v : Nat) (lb ub : LinExpr) (den : Int)
  | unconstrainVar (v : Nat)
  | unconstrainSet (vars : List Nat)
  | addGridGenerator (x : GRow)

/-- what the operation does to the raw receiver -/
def Op.run : Op → Grid → Grid
  | .addCongruence cg, g => (GO.addCongruence g cg).g
  | .addCongruences cgs, g => (GO.addCongruences g cgs).g
  | .addRecycledCongruences cgs, g => (GO.addRecycledCongruences g cgs).g
  | .addConstraint c, g => (GO.addConstraint g c).g
  | .refineWithConstraint c, g => (GO.refineWithConstraint g c).g
  | .addConstraints d cs, g => (GO.addConstraints g d cs).g
  | .refineWithConstraints d cs, g => (GO.refineWithConstraints g d cs).g
  | .intersectionAssign y, g => (GO.intersectionAssign g y).x
  | .concatenateAssign y, g => (GO.concatenateAssign g y).x
  | .assign y, g => GO.assign g y
  | .congruences, g => GO.congruences g
  | .gridGenerators, g => GO.gridGenerators g
  | .minimizedCongruences, g => GO.minimizedCongruences g
  | .minimizedGridGenerators, g => GO.minimizedGridGenerators g
  | .minimize, g => (GO.minimize g).1
  | .isEmpty, g => (GO.isEmpty g).1
  | .upperBoundAssign y, g => (GO.upperBoundAssign g y).x
  | .timeElapseAssign y, g => (GO.timeElapseAssign g y).x
  | .addSpaceDimensionsAndEmbed m, g => GO.addSpaceDimensionsAndEmbed g m
  | .affineImage v e den, g => (GO.affineImage g v e den).g
  | .affinePreimage v e den, g => (GO.affinePreimage g v e den).g
  | .removeSpaceDimensions vars, g => (GO.removeSpaceDimensions g vars).g
  | .differenceAssign y, g => (GO.differenceAssign g y).x
  | .expandSpaceDimension v m, g => (GO.expandSpaceDimension g v m).g
  | .foldSpaceDimensions vars dest, g => (GO.foldSpaceDimensions g vars dest).g
  | .addRecycledGridGenerators gs, g => (GO.addRecycledGridGenerators g gs).g
  | .addSpaceDimensionsAndProject m, g => GO.addSpaceDimensionsAndProject g m
  | .boundedAffineImage v lb ub den, g => (GO.boundedAffineImage g v lb ub den).g
  | .boundedAffinePreimage v lb ub den, g => (GO.boundedAffinePreimage g v lb ub den).g
  | .unconstrainVar v, g => (GO.unconstrainVar g v).g
  | .unconstrainSet vs, g => (GO.unconstrainSet g vs).g
  | .addGridGenerator x, g => (GO.addGridGenerator g x).g

/-- admissible arguments: what the C++ interface requires (dimension compatibility, well-formed rows, the trivial
    flags of a constraint are truthful) and, for `add_constraint(s)` / `add_grid_generator`, that the call is not rejected
    (rejected calls: `add_constraint_rejected_unchanged`, `add_constraints_rejected_unchanged` below) -/
def Op.pre : Op → Grid → Prop
  | .addCongruence cg, g => cg.spaceDim ≤ g.spaceDim ∧ 0 ≤ cg.m ∧ cg.e ≠ []
  | .addCongruences cgs, g => cgs.dim ≤ g.spaceDim ∧ CWf cgs.dim cgs.rows
  | .addRecycledCongruences cgs, g => cgs.dim ≤ g.spaceDim ∧ CWf cgs.dim cgs.rows
  | .addConstraint c, g => cn_ConOK g.spaceDim g.sem c ∧ cn_hardIneq c = false
  | .refineWithConstraint c, g => cn_ConOK g.spaceDim g.sem c ∧ (cn_eff c = true ∨ c.tautological = true)
  | .addConstraints d cs, g => d ≤ g.spaceDim ∧ (∀ c ∈ cs, cn_ConOK g.spaceDim g.sem c) ∧ ∀ c ∈ cs, cn_hardIneq c = false
  | .refineWithConstraints d cs, g => d ≤ g.spaceDim ∧ (∀ c ∈ cs, cn_ConOK g.spaceDim g.sem c) ∧
      ∀ c ∈ cs, cn_eff c = false → c.tautological = true
  | .intersectionAssign y, g => GridInv y ∧ y.spaceDim = g.spaceDim
  | .concatenateAssign y, _ => GridInv y
  | .assign y, _ => GridInv y
  | .congruences, _ => True
  | .gridGenerators, _ => True
  | .minimizedCongruences, _ => True
  | .minimizedGridGenerators, _ => True
  | .minimize, _ => True
  | .isEmpty, _ => True
  | .upperBoundAssign y, g => GridInv y ∧ g.spaceDim = y.spaceDim
  | .timeElapseAssign y, g => GridInv y ∧ g.spaceDim = y.spaceDim
  | .addSpaceDimensionsAndEmbed _, _ => True
  | .affineImage v e den, g => den ≠ 0 ∧ e.spaceDim ≤ g.spaceDim ∧ v + 1 ≤ g.spaceDim
  | .affinePreimage v e den, g => den ≠ 0 ∧ e.spaceDim ≤ g.spaceDim ∧ v + 1 ≤ g.spaceDim
  | .removeSpaceDimensions vars, g => vars.Pairwise (· < ·) ∧ ∀ v ∈ vars, v < g.spaceDim
  | .differenceAssign y, g => GridInv y ∧ g.spaceDim = y.spaceDim
  | .expandSpaceDimension v m, g => v < g.spaceDim ∧ 0 < m
  | .foldSpaceDimensions vars dest, g => dest < g.spaceDim ∧ vars ≠ [] ∧ vars.Pairwise (· < ·) ∧ (∀ v ∈ vars, v < g.spaceDim) ∧ dest ∉ vars
  | .addRecycledGridGenerators gs, g => gn_GsOK gs ∧ gs.dim ≤ g.spaceDim ∧ 0 < g.spaceDim ∧ gs.rows ≠ [] ∧
      (g.sem = ∅ → ∃ p ∈ gs.rows, gn_isPt p = true)
  | .addSpaceDimensionsAndProject m, g => m = 0 ∨ g.st.empty = true ∨ 0 < g.spaceDim     -- the remaining case is KF-C05-9
  | .boundedAffineImage v lb ub den, g => g.st.empty = false ∧ den ≠ 0 ∧ v + 1 ≤ g.spaceDim ∧ lb.spaceDim ≤ g.spaceDim ∧ ub.spaceDim ≤ g.spaceDim
  | .boundedAffinePreimage v lb ub den, g => g.st.empty = false ∧ den ≠ 0 ∧ v + 1 ≤ g.spaceDim ∧ lb.spaceDim ≤ g.spaceDim ∧ ub.spaceDim ≤ g.spaceDim
  | .unconstrainVar v, g => v < g.spaceDim
  | .unconstrainSet vs, g => ∀ v ∈ vs, v < g.spaceDim
  | .addGridGenerator x, g => gn_RowOK x ∧ x.spaceDim ≤ g.spaceDim ∧ 0 < g.spaceDim ∧ (g.sem = ∅ → gn_isPt x = true)

/-- the dimension after the operation -/
def Op.dim : Op → Nat → Nat
  | .concatenateAssign y, n => n + y.spaceDim
  | .assign y, _ => y.spaceDim
  | .addSpaceDimensionsAndEmbed m, n => n + m
  | .removeSpaceDimensions vars, n => n - vars.length
  | .expandSpaceDimension _ m, n => n + m
  | .foldSpaceDimensions vars _, n => n - vars.length
  | .addSpaceDimensionsAndProject m, n => n + m
  | _, n => n

/-- **the reference**: the documented set transformer, as a relation between the set denoted before and after
    (`n` = space dimension before) -/
def Op.post : Op → Nat → Set Pt → Set Pt → Prop
  | .addCongruence cg, _, S, S' => S' = S ∩ CRow.set cg
  | .addCongruences cgs, _, S, S' => S' = S ∩ cn_rowsSet cgs.rows
  | .addRecycledCongruences cgs, _, S, S' => S' = S ∩ cn_rowsSet cgs.rows
  | .addConstraint c, _, S, S' => S' = S ∩ cn_conSet c
  | .refineWithConstraint c, _, S, S' => S' = S ∩ cn_conSet c
  | .addConstraints _ cs, _, S, S' => S' = S ∩ cn_consSetL cs
  | .refineWithConstraints _ cs, _, S, S' => S' = S ∩ cn_consSetL cs
  | .intersectionAssign y, _, S, S' => S' = S ∩ y.sem
  | .concatenateAssign y, n, S, S' => S' = cn_prodSet n y.spaceDim S y.sem
  | .assign y, _, _, S' => S' = y.sem
  | .congruences, _, S, S' => S' = S
  | .gridGenerators, _, S, S' => S' = S
  | .minimizedCongruences, _, S, S' => S' = S
  | .minimizedGridGenerators, _, S, S' => S' = S
  | .minimize, _, S, S' => S' = S
  | .isEmpty, _, S, S' => S' = S
  | .upperBoundAssign y, _, S, S' => gn_IsJoin S' S y.sem
  | .timeElapseAssign y, _, S, S' => gn_IsTE S' S y.sem
  | .addSpaceDimensionsAndEmbed m, n, S, S' => S' = cn_embedSet n m S
  | .affineImage v e den, _, S, S' => S' = lzF v e den '' S
  | .affinePreimage v e den, n, S, S' => S' = cn_preSet n v e den S
  | .removeSpaceDimensions vars, n, S, S' => S' = cn_sel n vars '' S
  | .differenceAssign y, _, S, S' => S \ y.sem ⊆ S' ∧ S' ⊆ S
  | .expandSpaceDimension v m, n, S, S' => S' = cn_expandSet n v m S
  | .foldSpaceDimensions vars dest, n, S, S' => ∃ T, cn_FoldChain dest vars S T ∧ S' = cn_sel n vars '' T
  | .addRecycledGridGenerators gs, _, S, S' => (S = ∅ → S' = gn_set gs.rows) ∧ (S.Nonempty → gn_IsAddGens S' S gs.rows)
  | .addSpaceDimensionsAndProject _, _, S, S' => S' = S
  | .boundedAffineImage v _ _ _, _, S, S' => S' = {y | ∃ a ∈ S, ∃ c : ℚ, y = a + c • (unit v).toFun}
  | .boundedAffinePreimage v _ _ _, _, S, S' => S' = {y | ∃ a ∈ S, ∃ c : ℚ, y = a + c • (unit v).toFun}
  | .unconstrainVar v, _, S, S' => S' = {y | ∃ x ∈ S, ∃ c : ℚ, y = x + c • (unit v).toFun}
  | .unconstrainSet vs, _, S, S' => S' = gn_cyl S vs
  | .addGridGenerator x, _, S, S' =>
      (x.line = true → S' = {y | ∃ a ∈ S, ∃ c : ℚ, y = a + c • gn_vecOf x}) ∧
      (gn_isPar x = true → S' = {y | ∃ a ∈ S, ∃ k : Int, y = a + (k : ℚ) • gn_vecOf x}) ∧
      (gn_isPt x = true → S = ∅ → S' = {gn_vecOf x}) ∧
      (gn_isPt x = true → ∀ a0 ∈ S, S' = {y | ∃ a ∈ S, ∃ k : Int, y = a + (k : ℚ) • (gn_vecOf x - a0)})

def Op.toSem (op : Op) : OpSem := { run := op.run, pre := op.pre, post := op.post, dim := op.dim }

/-- the three conclusions for one operation -/
theorem op_step (op : Op) (g : Grid) (hI : GridInv g) (hp : op.pre g) :
    GridInv (op.run g) ∧ op.post g.spaceDim g.sem (op.run g).sem ∧ (op.run g).spaceDim = op.dim g.spaceDim := by
  cases op with
  | addCongruence cg =>
    obtain ⟨hd, hm, he⟩ := hp
    obtain ⟨h1, _, _, h4⟩ := cn_addCongruence g cg hI hm he
    have hnt : (addCongruence g cg).thrown = false :=
      Bool.eq_false_iff.mpr fun h => absurd (h1.mp h) (by omega)
    obtain ⟨a, b, c⟩ := h4 hnt
    exact ⟨a, b, c⟩
  | addCongruences cgs =>
    obtain ⟨hd, hw⟩ := hp
    obtain ⟨h1, _, _, h4⟩ := cn_addCongruences g cgs hI hw
    have hnt : (addCongruences g cgs).thrown = false :=
      Bool.eq_false_iff.mpr fun h => absurd (h1.mp h) (by omega)
    obtain ⟨a, b, c⟩ := h4 hnt
    exact ⟨a, b, c⟩
  | addRecycledCongruences cgs =>
    obtain ⟨hd, hw⟩ := hp
    obtain ⟨h1, _, _, h4⟩ := cn_addRecycledCongruences g cgs hI hw
    have hnt : (addRecycledCongruences g cgs).thrown = false :=
      Bool.eq_false_iff.mpr fun h => absurd (h1.mp h) (by omega)
    obtain ⟨a, b, c⟩ := h4 hnt
    exact ⟨a, b, c⟩
  | addConstraint c =>
    obtain ⟨hok, hh⟩ := hp
    obtain ⟨h1, _, h3, h4, h5, h6⟩ := cn_addConstraint g c hI (fun _ => hok)
    have hnt : (addConstraint g c).thrown = false := by
      cases h : (addConstraint g c).thrown
      · rfl
      · rcases h1.mp h with hlt | hhard
        · exact absurd hok.1 (by omega)
        · rw [hh] at hhard; cases hhard
    exact ⟨h4, h6 hnt, h5⟩
  | refineWithConstraint c =>
    obtain ⟨hok, heff⟩ := hp
    obtain ⟨h1, _, _, h4, h5, h6, _⟩ := cn_refineWithConstraint g c hI (fun _ => hok)
    have hnt : (refineWithConstraint g c).thrown = false :=
      Bool.eq_false_iff.mpr fun h => absurd (h1.mp h) (by have := hok.1; omega)
    exact ⟨h4, h6 hnt heff, h5⟩
  | addConstraints d cs =>
    obtain ⟨hd, hok, hh⟩ := hp
    obtain ⟨h1, _, _, h3, h4, h5⟩ := cn_addConstraints g d cs hI (fun _ => hok)
    have hnt : (addConstraints g d cs).thrown = false := by
      cases h : (addConstraints g d cs).thrown
      · rfl
      · rcases h1.mp h with hlt | ⟨c, hc, hhard⟩
        · omega
        · rw [hh c hc] at hhard; cases hhard
    exact ⟨h3, h5 hnt, h4⟩
  | refineWithConstraints d cs =>
    obtain ⟨hd, hok, ht⟩ := hp
    obtain ⟨h1, _, h3, h4, h5⟩ := cn_refineWithConstraints g d cs hI (fun _ => hok)
    have hnt : (refineWithConstraints g d cs).thrown = false :=
      Bool.eq_false_iff.mpr fun h => absurd (h1.mp h) (by omega)
    exact ⟨h3, (h5 hnt).2 ht, h4⟩
  | intersectionAssign y =>
    obtain ⟨hy, hd⟩ := hp
    obtain ⟨h1, _, h3⟩ := cn_intersectionAssign g y hI hy
    have hnt : (intersectionAssign g y).thrown = false :=
      Bool.eq_false_iff.mpr fun h => absurd hd.symm (h1.mp h)
    obtain ⟨a, _, c, _, e, _⟩ := h3 hnt
    exact ⟨a, c, e⟩
  | concatenateAssign y =>
    obtain ⟨_, a, _, c, d, _⟩ := cn_concatenateAssign g y hI hp
    exact ⟨a, d, c⟩
  | assign y =>
    obtain ⟨a, b, c⟩ := assign_spec g y hp
    exact ⟨a, b, c⟩
  | congruences => exact congruences_lazy g hI
  | gridGenerators => exact gridGenerators_lazy g hI
  | minimizedCongruences => exact minimizedCongruences_lazy g hI
  | minimizedGridGenerators => exact minimizedGridGenerators_lazy g hI
  | minimize =>
    obtain ⟨a, b, c, _⟩ := minimize_spec g hI
    exact ⟨a, b, c⟩
  | isEmpty =>
    obtain ⟨a, b, c, _⟩ := isEmpty_spec g hI
    exact ⟨a, b, c⟩
  | upperBoundAssign y =>
    obtain ⟨hy, hd⟩ := hp
    obtain ⟨a, _, _, d, _, _, h⟩ := gn_upperBoundAssign g y hI hy hd
    exact ⟨a, h, d⟩
  | timeElapseAssign y =>
    obtain ⟨hy, hd⟩ := hp
    obtain ⟨a, _, _, d, _, _, h⟩ := gn_timeElapseAssign g y hI hy hd
    exact ⟨a, h, d⟩
  | addSpaceDimensionsAndEmbed m => exact addSpaceDimensionsAndEmbed_full g m hI
  | differenceAssign y =>
    obtain ⟨hy, hd⟩ := hp
    obtain ⟨a, _, _, d, _, _, h1, h2⟩ := gn_differenceAssign g y hI hy hd
    exact ⟨a, ⟨h1, h2⟩, d⟩
  | expandSpaceDimension v m =>
    obtain ⟨hv, hm⟩ := hp
    obtain ⟨a, b, c⟩ := (cn_expandSpaceDimension g v m hI).2.2.2 hv hm
    exact ⟨a, c, b⟩
  | foldSpaceDimensions vars dest =>
    obtain ⟨hd, hne, hinc, hlt, hnd⟩ := hp
    obtain ⟨_, a, b, c⟩ := cn_foldSpaceDimensions g vars dest hI hd hne hinc hlt hnd
    exact ⟨a, c, b⟩
  | addRecycledGridGenerators gs =>
    obtain ⟨hgs, hd, hn, hne, hpt⟩ := hp
    obtain ⟨a, b, c, _, e⟩ := gn_addRecycledGridGenerators g hI gs hgs hd hn hne
    have hnt : (addRecycledGridGenerators g gs).thrown = false := by
      cases h : (addRecycledGridGenerators g gs).thrown
      · rfl
      · obtain ⟨h1, h2⟩ := c.mp h
        exact absurd (hpt h1) h2
    exact ⟨a, e hnt, b⟩
  | addSpaceDimensionsAndProject m =>
    obtain ⟨a, b, c, _⟩ := cn_addSpaceDimensionsAndProject_full g m hI
    exact ⟨a, c hp, b⟩
  | boundedAffineImage v lb ub den =>
    obtain ⟨hne, hden, hv, hlb, hub⟩ := hp
    obtain ⟨_, a, b, c⟩ := boundedAffineImage_spec g v lb ub den hI hne hden hv hlb hub
    exact ⟨a, c, b⟩
  | boundedAffinePreimage v lb ub den =>
    obtain ⟨hne, hden, hv, hlb, hub⟩ := hp
    obtain ⟨_, a, b, c⟩ := boundedAffinePreimage_spec g v lb ub den hI hne hden hv hlb hub
    exact ⟨a, c, b⟩
  | affineImage v e den =>
    obtain ⟨hden, hed, hv⟩ := hp
    cases hemp : g.st.empty
    · obtain ⟨_, a, b, c⟩ := affineImage_full g v e den hI hemp hden hed hv
      exact ⟨a, b, c⟩
    · have hU : (GO.affineImage g v e den).g = g := (affineImage_thrown g v e den).2.2 hemp
      refine ⟨?_, ?_, ?_⟩
      · show GridInv (GO.affineImage g v e den).g
        rw [hU]; exact hI
      · show (GO.affineImage g v e den).g.sem = lzF v e den '' g.sem
        rw [hU, sem_of_empty hemp, Set.image_empty]
      · show (GO.affineImage g v e den).g.spaceDim = g.spaceDim
        rw [hU]
  | affinePreimage v e den =>
    obtain ⟨hden, hed, hv⟩ := hp
    cases hemp : g.st.empty
    · obtain ⟨_, a, b, c⟩ := affinePreimage_full g v e den hI hemp hden hed hv
      exact ⟨a, b, c⟩
    · have hU : (GO.affinePreimage g v e den).g = g := (cn_affinePreimage_thrown g v e den).2.2 hemp
      refine ⟨?_, ?_, ?_⟩
      · show GridInv (GO.affinePreimage g v e den).g
        rw [hU]; exact hI
      · show (GO.affinePreimage g v e den).g.sem = cn_preSet g.spaceDim v e den g.sem
        rw [hU, sem_of_empty hemp]
        ext x; simp [cn_preSet]
      · show (GO.affinePreimage g v e den).g.spaceDim = g.spaceDim
        rw [hU]
  | removeSpaceDimensions vars =>
    obtain ⟨hinc, hlt⟩ := hp
    obtain ⟨_, a, b, c⟩ := cn_removeSpaceDimensions g vars hI hinc hlt
    exact ⟨a, c, b⟩
  | unconstrainVar v =>
    obtain ⟨a, _, c, d⟩ := gn_unconstrainVar g hI v hp
    exact ⟨a, d, c⟩
  | unconstrainSet vs =>
    obtain ⟨a, _, c, d⟩ := gn_unconstrainSet g hI vs hp
    exact ⟨a, d, c⟩
  | addGridGenerator x =>
    obtain ⟨hx, hd, hn, hpt⟩ := hp
    obtain ⟨a, b, c, _, e⟩ := gn_addGridGenerator g hI x hx hd hn
    have hnt : (addGridGenerator g x).thrown = false := by
      cases h : (addGridGenerator g x).thrown
      · rfl
      · obtain ⟨h1, h2⟩ := c.mp h
        rw [hpt h1] at h2; cases h2
    exact ⟨a, e hnt, b⟩

/-- **`grid_inv_step`**: every operation keeps the invariant -/
theorem grid_inv_step (op : Op) (g : Grid) (hI : GridInv g) (hp : op.pre g) : GridInv (op.run g) :=
  (op_step op g hI hp).1

/-- **`grid_ops_refine_reference`**: after every operation the denoted set is the reference transformer applied to the
    set denoted before (and the dimension is the documented one) -/
theorem grid_ops_refine_reference (op : Op) (g : Grid) (hI : GridInv g) (hp : op.pre g) :
    op.post g.spaceDim g.sem (op.run g).sem ∧ (op.run g).spaceDim = op.dim g.spaceDim :=
  ⟨(op_step op g hI hp).2.1, (op_step op g hI hp).2.2⟩

theorem op_correct (op : Op) : op.toSem.Correct := fun g hI hp => op_step op g hI hp

/-- **`grid_history_correct`**: along any sequence of these operations, started from an object satisfying the invariant
    with admissible arguments at every step, every object met satisfies the invariant and the denoted sets form the
    chain of the reference transformers -/
theorem grid_history_correct (ops : List Op) (g : Grid) (hI : GridInv g) (hp : HistPre (ops.map Op.toSem) g) :
    (∀ x ∈ runHist (ops.map Op.toSem) g, GridInv x) ∧
    RefChain (ops.map Op.toSem) g.spaceDim g.sem ((runHist (ops.map Op.toSem) g).map fun x => (x.spaceDim, x.sem)) :=
  hist_correct (ops.map Op.toSem)
    (fun o ho => by obtain ⟨op, _, rfl⟩ := List.mem_map.mp ho; exact op_correct op) g hI hp

/-- a history on the grid `x ≡ 0 (mod 2)`: add `3x + 1 ≡ 0 (mod 6)`, ask for the generators, unconstrain `x` -/
example : HistPre ([Op.addCongruence ⟨[1, 3], 6⟩, Op.gridGenerators, Op.unconstrainVar 0].map Op.toSem) cn_exGrid := by
  refine ⟨⟨by decide, by decide, by decide⟩, trivial, ?_, trivial⟩
  show 0 < (Op.run Op.gridGenerators (Op.run (Op.addCongruence ⟨[1, 3], 6⟩) cn_exGrid)).spaceDim
  decide +kernel

/-! ## rejected calls leave the object unchanged -/

/-- **`add_constraints_rejected_unchanged`** (`add_constraints` / `add_recycled_constraints`, Grid_public.cc:1272 after
    7218b6b): the call is rejected exactly on a dimension mismatch or when the system holds a non-trivial inequality — also
    on a marked-empty receiver — and then the object is unchanged (the whole system is validated before anything is added).
    Before 7218b6b the constraints preceding the non-trivial inequality had been applied when the
    exception was thrown (the object was cut by that prefix: `cn_addConstraintsLoop` still describes that loop), and a
    marked-empty receiver did not throw. -/
theorem add_constraints_rejected_unchanged (g : Grid) (csDim : Nat) (cs : List Con) :
    ((addConstraints g csDim cs).thrown = true ↔ (g.spaceDim < csDim ∨ ∃ c ∈ cs, c.isHardInequality = true)) ∧
    ((addConstraints g csDim cs).thrown = true → (addConstraints g csDim cs).g = g) := by
  refine ⟨?_, cn_addConstraints_rejected_unchanged g csDim cs⟩
  unfold addConstraints
  by_cases hd : g.spaceDim < csDim
  · rw [if_pos hd]; exact ⟨fun _ => Or.inl hd, fun _ => rfl⟩
  · rw [if_neg hd]
    by_cases hh : cs.any Con.isHardInequality = true
    · rw [if_pos hh]
      exact ⟨fun _ => Or.inr (by simpa [List.any_eq_true] using hh), fun _ => rfl⟩
    · rw [if_neg hh]
      have hno : ∀ c ∈ cs, cn_hardIneq c = false := by
        intro c hc
        cases hcc : cn_hardIneq c
        · rfl
        · exact absurd (List.any_eq_true.mpr ⟨c, hc, by rw [← cn_hardIneq_eq]; exact hcc⟩) hh
      have hnt : (if g.markedEmpty = true then ({ g := g } : R) else addConstraintsLoop g cs).thrown = false := by
        split
        · rfl
        · exact cn_loop_not_thrown cs hno g
      rw [hnt]
      constructor
      · intro h; cases h
      · rintro (h | ⟨c, hc, hcc⟩)
        · exact absurd h hd
        · exact absurd (List.any_eq_true.mpr ⟨c, hc, hcc⟩) hh

/-- a system with a non-trivial inequality in the middle is rejected and the congruences stay as they were -/
example : (addConstraints cn_exGrid 1 [⟨0, false, false, [0, 1]⟩, ⟨1, false, false, [0, 1]⟩]).thrown = true ∧
    (addConstraints cn_exGrid 1 [⟨0, false, false, [0, 1]⟩, ⟨1, false, false, [0, 1]⟩]).g = cn_exGrid := by decide

/-- `add_constraint(c)` (Grid_inlines.hh after 680f35a): rejected exactly on a dimension mismatch or a non-trivial
    inequality — also by a marked-empty receiver — and then nothing changes -/
theorem add_constraint_rejected_unchanged (g : Grid) (c : Con) (hI : GridInv g)
    (hc : c.spaceDim ≤ g.spaceDim → cn_ConOK g.spaceDim g.sem c) :
    ((addConstraint g c).thrown = true ↔ (g.spaceDim < c.spaceDim ∨ c.isHardInequality = true)) ∧
    ((addConstraint g c).thrown = true → (addConstraint g c).g = g) := by
  obtain ⟨a, b, _⟩ := cn_addConstraint g c hI hc
  rw [cn_hardIneq_eq] at a
  exact ⟨a, b⟩

/-- `generalized_affine_image(var, relsym, expr, d, m)` (after a13dde6): the argument checks — `d = 0`, dimensions,
    `NOT_EQUAL`, a non-zero modulus with a relation symbol other than `EQUAL` — reject the call for EVERY receiver, marked
    empty or not, and a rejected call changes nothing -/
theorem generalized_affine_image_var_rejects (g : Grid) (hI : GridInv g) (v : Nat) (relsym : Nat) (e : LinExpr)
    (den modulus : Int) :
    ((generalizedAffineImageVar g v relsym e den modulus).thrown = true ↔
      (den = 0 ∨ g.spaceDim < e.spaceDim ∨ g.spaceDim < v + 1 ∨ relsym = NOT_EQUAL ∨ (relsym ≠ EQUAL ∧ modulus ≠ 0))) ∧
    ((generalizedAffineImageVar g v relsym e den modulus).thrown = true →
      (generalizedAffineImageVar g v relsym e den modulus).g = g) :=
  ⟨(generalizedAffineImageVar_thrown g hI v relsym e den modulus).1, (generalizedAffineImageVar_thrown g hI v relsym e den modulus).2.1⟩

/-! ## the references are the K2 operators (`Props/C05.lean`) -/

/-- adding a congruence: the reference set is K2's `intersectCon` -/
theorem ref_add_congruence (G : GridGens) (cg : CRow) :
    gridSet G ∩ CRow.set cg = gridSet (intersectCon G cg.toCg) := (intersectCon_spec G cg.toCg).symm

/-- adding a congruence system: K2's `intersectCons` -/
theorem ref_add_congruences (G : GridGens) (rows : List CRow) :
    gridSet G ∩ cn_rowsSet rows = gridSet (intersectCons G (cgsOf rows)) := by
  rw [intersectCons_spec]
  congr 1
  ext x
  simp only [cn_rowsSet, cgsOf, Set.mem_ofPred_eq, List.mem_map, forall_exists_index, and_imp, forall_apply_eq_imp_iff₂]
  rfl

/-- cylindrification: K2's `addLine` -/
theorem ref_unconstrain (G : GridGens) (v : Nat) :
    {y | ∃ x ∈ gridSet G, ∃ c : ℚ, y = x + c • (unit v).toFun} = gridSet (addLine G (unit v)) := (addLine_spec G (unit v)).symm

/-! ## observers -/

/-- `is_disjoint_from(y)` (Grid_public.cc:2854): works on a copy of the receiver, may update the argument lazily, and
    answers according to the denoted sets -/
theorem is_disjoint_from_correct (x y : Grid) (hx : GridInv x) (hy : GridInv y) :
    ((isDisjointFrom x y).2.2 = none ↔ x.spaceDim ≠ y.spaceDim) ∧
    (isDisjointFrom x y).1 = x ∧
    GridInv (isDisjointFrom x y).2.1 ∧ (isDisjointFrom x y).2.1.sem = y.sem ∧
    (∀ b, (isDisjointFrom x y).2.2 = some b → (b = true ↔ x.sem ∩ y.sem = ∅)) := by
  obtain ⟨a, _, c, d, e, _, g⟩ := cn_isDisjointFrom x y hx hy
  exact ⟨a, c, d, e, g⟩


/-- join and time-elapse against K2's generator form: the result is the least K2 grid containing the union, resp. all
    `p + μ q` (`Props/C05.lean`: `join_least`, `timeElapse_least` state the same of the K2 reference operators) -/
theorem upper_bound_assign_least (x y : Grid) (hx : GridInv x) (hy : GridInv y) (hd : x.spaceDim = y.spaceDim) :
    x.sem ⊆ (upperBoundAssign x y).x.sem ∧ y.sem ⊆ (upperBoundAssign x y).x.sem ∧
    ∀ K : GridGens, x.sem ⊆ gridSet K → y.sem ⊆ gridSet K → (upperBoundAssign x y).x.sem ⊆ gridSet K :=
  gn_upperBoundAssign_least x y hx hy hd

theorem time_elapse_assign_least (x y : Grid) (hx : GridInv x) (hy : GridInv y) (hd : x.spaceDim = y.spaceDim) :
    (∀ p ∈ x.sem, ∀ q ∈ y.sem, ∀ μ : Int, p + (μ : ℚ) • q ∈ (timeElapseAssign x y).x.sem) ∧
    ∀ K : GridGens, (∀ p ∈ x.sem, ∀ q ∈ y.sem, ∀ μ : Int, p + (μ : ℚ) • q ∈ gridSet K) →
      (timeElapseAssign x y).x.sem ⊆ gridSet K :=
  gn_timeElapseAssign_least x y hx hy hd

/-- the hypotheses of the binary statements on `x ≡ 0 (mod 2)` and `x ≡ 0 (mod 3)`; the code's join is the grid `ℤ` -/
example : GridInv cn_exGrid ∧ GridInv cn_exGrid3 ∧ cn_exGrid.spaceDim = cn_exGrid3.spaceDim ∧
    (upperBoundAssign cn_exGrid cn_exGrid3).x.gen =
      [{ line := false, e := [1, 0, 0] }, { line := false, e := [0, 2, 1] }, { line := false, e := [1, 0, 0] },
       { line := false, e := [0, 3, 1] }] :=
  ⟨cn_exGrid_inv, cn_exGrid3_inv, rfl, by decide +kernel⟩

/-- the argument of a binary operation keeps its invariant and its set (its lazy state may change) -/
theorem binary_argument_kept (x y : Grid) (hx : GridInv x) (hy : GridInv y) (hd : x.spaceDim = y.spaceDim) :
    (GridInv (intersectionAssign x y).y ∧ (intersectionAssign x y).y.sem = y.sem) ∧
    (GridInv (upperBoundAssign x y).y ∧ (upperBoundAssign x y).y.sem = y.sem) ∧
    (GridInv (timeElapseAssign x y).y ∧ (timeElapseAssign x y).y.sem = y.sem) := by
  obtain ⟨h1, _, h3⟩ := cn_intersectionAssign x y hx hy
  have hnt : (intersectionAssign x y).thrown = false :=
    Bool.eq_false_iff.mpr fun h => absurd hd (h1.mp h)
  obtain ⟨_, b, _, d, _, _⟩ := h3 hnt
  obtain ⟨_, u2, _, _, _, u6, _⟩ := gn_upperBoundAssign x y hx hy hd
  obtain ⟨_, t2, _, _, _, t6, _⟩ := gn_timeElapseAssign x y hx hy hd
  exact ⟨⟨b, d⟩, ⟨u2, u6⟩, ⟨t2, t6⟩⟩

/-! ## affine preimage, dimensions -/

/-- `affine_preimage(var, expr, denominator)` (Grid_public.cc:2043): it throws exactly on `denominator = 0` or a dimension
    mismatch, and then (and on a marked-empty receiver) nothing changes -/
theorem affine_preimage_rejects (g : Grid) (v : Nat) (e : LinExpr) (den : Int) :
    ((affinePreimage g v e den).thrown = true ↔ (den = 0 ∨ g.spaceDim < e.spaceDim ∨ g.spaceDim < v + 1)) ∧
    ((affinePreimage g v e den).thrown = true → (affinePreimage g v e den).g = g) ∧
    (g.st.empty = true → (affinePreimage g v e den).g = g) := cn_affinePreimage_thrown g v e den

/-- the non-invertible path (`minimize()` if the congruences are not up to date, then `Congruence_System::affine_preimage`)
    and the invertible path on a grid whose generators are not up to date: the result denotes the preimage
    `{x | x[v := (⟨e,x⟩ + e₀)/den] ∈ G}` -/
theorem affine_preimage_correct_congruence_paths (g : Grid) (v : Nat) (e : LinExpr) (den : Int) (hI : GridInv g)
    (hne : g.st.empty = false) (hden : den ≠ 0) (hed : e.spaceDim ≤ g.spaceDim) (hv : v + 1 ≤ g.spaceDim)
    (hpath : ¬ (v + 1 ≤ e.spaceDim ∧ e.coeff v ≠ 0) ∨ g.st.gUp = false) :
    (affinePreimage g v e den).thrown = false ∧ GridInv (affinePreimage g v e den).g ∧
      (affinePreimage g v e den).g.sem = cn_preSet g.spaceDim v e den g.sem ∧
      (affinePreimage g v e den).g.spaceDim = g.spaceDim := by
  by_cases hinv : v + 1 ≤ e.spaceDim ∧ e.coeff v ≠ 0
  · rcases hpath with h | h
    · exact absurd hinv h
    · exact cn_affinePreimage_inv_con g v e den hI hne hden hed hv hinv h
  · exact cn_affinePreimage_noninv g v e den hI hne hden hed hv hinv

/-- every path, the invertible one with up-to-date generators included (`Grid_Generator_System::affine_image` with the
    inverse map: `genAffineImageInv_spec`) -/
theorem affine_preimage_full (g : Grid) (v : Nat) (e : LinExpr) (den : Int)
    (hI : GridInv g) (hne : g.st.empty = false) (hden : den ≠ 0) (hed : e.spaceDim ≤ g.spaceDim) (hv : v + 1 ≤ g.spaceDim) :
    (affinePreimage g v e den).thrown = false ∧ GridInv (affinePreimage g v e den).g ∧
      (affinePreimage g v e den).g.sem = cn_preSet g.spaceDim v e den g.sem ∧
      (affinePreimage g v e den).g.spaceDim = g.spaceDim := affinePreimage_full g v e den hI hne hden hed hv

/-- `affine_image(var, expr, denominator)` (Grid_public.cc:1951): rejects exactly `denominator = 0` and dimension
    mismatches (nothing changes then, nor on a marked-empty receiver); otherwise the image under
    `x ↦ x[v := (⟨e,x⟩ + e₀)/den]`, on the invertible and the non-invertible path -/
theorem affine_image_rejects (g : Grid) (v : Nat) (e : LinExpr) (den : Int) :
    ((affineImage g v e den).thrown = true ↔ (den = 0 ∨ g.spaceDim < e.spaceDim ∨ g.spaceDim < v + 1)) ∧
    ((affineImage g v e den).thrown = true → (affineImage g v e den).g = g) ∧
    (g.st.empty = true → (affineImage g v e den).g = g) := affineImage_thrown g v e den

theorem affine_image_correct (g : Grid) (v : Nat) (e : LinExpr) (den : Int) (hI : GridInv g) (hne : g.st.empty = false)
    (hden : den ≠ 0) (hed : e.spaceDim ≤ g.spaceDim) (hv : v + 1 ≤ g.spaceDim) :
    (affineImage g v e den).thrown = false ∧ GridInv (affineImage g v e den).g ∧
      (affineImage g v e den).g.sem = lzF v e den '' g.sem ∧ (affineImage g v e den).g.spaceDim = g.spaceDim :=
  affineImage_full g v e den hI hne hden hed hv

/-- `generalized_affine_image(var, EQUAL, expr, denominator, modulus)` (Grid_public.cc:2127): the affine image, and for
    `modulus ≠ 0` all its translates by integer multiples of `|modulus|·e_var`; the other relation symbols (modulus 0) add
    the line of `var` -/
theorem generalized_affine_image_var_equal (g : Grid) (v : Nat) (e : LinExpr) (den modulus : Int) (hI : GridInv g)
    (hne : g.st.empty = false) (hden : den ≠ 0) (hed : e.spaceDim ≤ g.spaceDim) (hv : v + 1 ≤ g.spaceDim) :
    (generalizedAffineImageVar g v EQUAL e den modulus).thrown = false ∧
    GridInv (generalizedAffineImageVar g v EQUAL e den modulus).g ∧
    (generalizedAffineImageVar g v EQUAL e den modulus).g.spaceDim = g.spaceDim ∧
    (modulus = 0 → (generalizedAffineImageVar g v EQUAL e den modulus).g.sem = lzF v e den '' g.sem) ∧
    (modulus ≠ 0 → (generalizedAffineImageVar g v EQUAL e den modulus).g.sem =
      {y | ∃ a ∈ lzF v e den '' g.sem, ∃ k : Int, y = a + (k : ℚ) • (fun i => if i = v then ((absI modulus : Int) : ℚ) else 0)}) :=
  generalizedAffineImageVar_equal g v e den modulus hI hne hden hed hv

theorem relsym_line_correct (g : Grid) (v : Nat) (hI : GridInv g) (hv : v + 1 ≤ g.spaceDim) :
    (relsymLine g v).thrown = false ∧ GridInv (relsymLine g v).g ∧ (relsymLine g v).g.spaceDim = g.spaceDim ∧
    (relsymLine g v).g.sem = {y | ∃ a ∈ g.sem, ∃ c : ℚ, y = a + c • (unit v).toFun} := relsymLine_spec g v hI hv

/-- `x₀ := x₀ + 1` read backwards on `x ≡ 0 (mod 2)` (invertible, congruences only) -/
example : (affinePreimage cn_exGrid 0 [1, 1] 1).g.con = [{ e := [1, 1], m := 2 }] := by decide

/-- `Grid(m, UNIVERSE)` in positive dimension: a legal object denoting the whole space -/
theorem construct_universe (m : Nat) (hm : 0 < m) :
    GridInv (constructDeg m true) ∧ (constructDeg m true).sem = spaceSet m ∧ (constructDeg m true).spaceDim = m :=
  constructUniv_spec m hm

/-- `add_space_dimensions_and_embed(m)` on the 0-dimensional universe: the `m`-dimensional universe -/
theorem embed_zero_dim (g : Grid) (m : Nat) (hm : 0 < m) (he : g.st.empty = false) (h0 : g.spaceDim = 0) :
    GridInv (addSpaceDimensionsAndEmbed g m) ∧ (addSpaceDimensionsAndEmbed g m).sem = cn_embedSet g.spaceDim m g.sem ∧
      (addSpaceDimensionsAndEmbed g m).spaceDim = g.spaceDim + m := cn_embed_zdim g m hm he h0

/-- `add_space_dimensions_and_project(m)`, congruences only and not minimized: the same points (the new coordinates are 0) -/
theorem project_congruences_only (g : Grid) (m : Nat) (hI : GridInv g) (hm : 0 < m) (he : g.st.empty = false)
    (hpos : 0 < g.spaceDim) (hc : g.st.cUp = true) (hg : g.st.gUp = false) (hcm : g.st.cMin = false) :
    GridInv (addSpaceDimensionsAndProject g m) ∧ (addSpaceDimensionsAndProject g m).sem = g.sem ∧
      (addSpaceDimensionsAndProject g m).spaceDim = g.spaceDim + m := cn_project_con g m hI hm he hpos hc hg hcm

/-- **KF-C05-9 as the code does it**: projecting the 0-dimensional universe into `m > 0` dimensions yields the whole space,
    which is not the documented single point -/
theorem project_zero_dim_fails (g : Grid) (m : Nat) (hm : 0 < m) (he : g.st.empty = false) (h0 : g.spaceDim = 0) :
    (addSpaceDimensionsAndProject g m).sem = spaceSet m ∧ (addSpaceDimensionsAndProject g m).sem ≠ g.sem :=
  ⟨(cn_project_zdim g m hm he h0).2.1, cn_project_zero_dim_fails g m hm he h0⟩

example : (addSpaceDimensionsAndProject (constructDeg 0 true) 1).gen =
    [{ line := false, e := [1, 0, 0] }, { line := true, e := [0, 1, 0] }] := by decide

/-- `remove_higher_space_dimensions(k)`: throws exactly when `k` exceeds the dimension; on an empty grid (detected by
    `is_empty()`) the empty grid of dimension `k`; `k = 0` on a non-empty grid: the 0-dimensional universe.
    (The two branches that chop a minimized description are only covered by the tie: `cn_removeHigher_con_partial`.) -/
theorem remove_higher_space_dimensions_cases (g : Grid) (k : Nat) (hI : GridInv g) :
    ((removeHigherSpaceDimensions g k).thrown = true ↔ g.spaceDim < k) ∧
    (k < g.spaceDim → g.sem = ∅ → GridInv (removeHigherSpaceDimensions g k).g ∧
      (removeHigherSpaceDimensions g k).g.sem = cn_projSet k g.sem ∧ (removeHigherSpaceDimensions g k).g.spaceDim = k) ∧
    (k = 0 → 0 < g.spaceDim → g.sem.Nonempty → GridInv (removeHigherSpaceDimensions g 0).g ∧
      (removeHigherSpaceDimensions g 0).g.sem = cn_projSet 0 g.sem ∧ (removeHigherSpaceDimensions g 0).g.spaceDim = 0) :=
  ⟨(cn_removeHigher_thrown g k).1, fun hlt hemp => cn_removeHigher_empty g k hI hlt hemp,
   fun _ hpos hne => cn_removeHigher_zero g hI hpos hne⟩

/-! ## observers return the reference's answer -/

/-- `is_empty()`, `minimize()`: the answers -/
theorem is_empty_answer (g : Grid) (hI : GridInv g) : ((GO.isEmpty g).2 = true ↔ g.sem = ∅) := (isEmpty_spec g hI).2.2.2.1
theorem minimize_answer (g : Grid) (hI : GridInv g) : ((GO.minimize g).2 = true ↔ (g.sem).Nonempty) :=
  (minimize_spec g hI).2.2.2.1

/-- `is_included_in(y)` (Grid_nonpublic.cc:246, private; precondition as asserted in the code): both objects keep
    invariant and set, the answer is the inclusion of the denoted sets -/
theorem is_included_in_correct (x y : Grid) (hx : GridInv x) (hy : GridInv y) (hex : x.st.empty = false)
    (hey : y.st.empty = false) (hn : 0 < x.spaceDim) (hd : x.spaceDim = y.spaceDim) :
    GridInv (isIncludedIn x y).1 ∧ GridInv (isIncludedIn x y).2.1 ∧ (isIncludedIn x y).1.sem = x.sem ∧
    (isIncludedIn x y).2.1.sem = y.sem ∧ ((isIncludedIn x y).2.2 = true ↔ x.sem ⊆ y.sem) := by
  obtain ⟨a, b, c, d, _, _, g⟩ := gn_isIncludedIn x y hx hy hex hey hn hd
  exact ⟨a, b, c, d, g⟩

example : cn_exGrid.st.empty = false ∧ cn_exGrid3.st.empty = false ∧ 0 < cn_exGrid.spaceDim ∧
    (isIncludedIn cn_exGrid cn_exGrid3).2.2 = false := ⟨rfl, rfl, by decide, by decide +kernel⟩

/-- `quick_equivalence_test`: `TVB_TRUE` is sound (both sources: syntactically equal minimized line-free generators,
    syntactically equal minimized equality-free congruences) -/
theorem quick_equivalence_test_true_sound : gn_QuickTrueSound := gn_quickTrueSound

/-- `contains(y)` (Grid_public.cc:2830): both objects keep invariant and set, the answer is `y ⊆ x` -/
theorem contains_correct (x y : Grid) (hx : GridInv x) (hy : GridInv y) (hd : x.spaceDim = y.spaceDim) :
    GridInv (GO.contains x y).1 ∧ GridInv (GO.contains x y).2.1 ∧ (GO.contains x y).1.sem = x.sem ∧
    (GO.contains x y).2.1.sem = y.sem ∧ ∃ b, (GO.contains x y).2.2 = some b ∧ (b = true ↔ y.sem ⊆ x.sem) := by
  obtain ⟨a, b, c, d, _, _, g⟩ := gn_contains x y hx hy hd
  exact ⟨a, b, c, d, g⟩

/-- `operator==`, `equals_partial`.  MISSING: the soundness of the `TVB_FALSE` answers of `quick_equivalence_test` on
    these two operands (different row counts / numbers of equalities / numbers of lines, or syntactically different
    minimized systems ⇒ different grids), i.e. uniqueness of the STRONG minimal form.  With `GridInv` as it stands that is
    false (`quick_false_needs_reduced_form` below): the invariant records the triangular form, not the reduction of the
    entries above the pivots that `simplify` / `conversion` also establish.  The driver compares every real answer of
    `operator==` and `quick_equivalence_test` with the K2 decider. -/
theorem equals_partial (x y : Grid) (hx : GridInv x) (hy : GridInv y) (hd : x.spaceDim = y.spaceDim)
    (hF : quickEquivalenceTest x y = TVB_FALSE → x.sem ≠ y.sem) :
    GridInv (GO.equals x y).1 ∧ GridInv (GO.equals x y).2.1 ∧ (GO.equals x y).1.sem = x.sem ∧ (GO.equals x y).2.1.sem = y.sem ∧
    ((GO.equals x y).2.2 = true ↔ x.sem = y.sem) := by
  obtain ⟨a, b, c, d, _, _, g⟩ := gn_equals_partial x y hx hy hd hF
  exact ⟨a, b, c, d, g⟩

/-- two raw states satisfying `GridInv` with minimized generators, both denoting `ℤ²`, on which the quick test answers
    `TVB_FALSE` (the second one is triangular but not reduced; the library never builds it) -/
theorem quick_false_needs_reduced_form : ¬ gn_QuickFalseSound := gn_quickFalseSound_fails

/-- `relation_with(const Grid_Generator&)` (Grid_public.cc:578): `subsumes` exactly when the point lies in the grid, resp.
    the grid is non-empty and closed under the integer (parameter) / rational (line) multiples of the direction -/
theorem relation_with_generator_correct (g : Grid) (hI : GridInv g) (x : GRow) (hx : gn_RowOK x) (hd : x.spaceDim ≤ g.spaceDim) :
    GridInv (relationWithGen g x).1 ∧ (relationWithGen g x).1.sem = g.sem ∧
    ∃ b, (relationWithGen g x).2 = some b ∧ (b = true ↔ gn_Subsumes g.sem x) := by
  obtain ⟨a, b, _, c⟩ := gn_relationWithGen g hI x hx hd
  exact ⟨a, b, c⟩

/-- `relation_with(const Congruence&)` (Grid_public.cc:390, the whole gcd bookkeeping of the loop): is_disjoint ↔ empty
    intersection, is_included ↔ inclusion, strictly_intersects ↔ neither, saturates ⇒ included (and, on a non-empty grid of
    dimension > 0, saturates ↔ included ∧ equality) -/
theorem relation_with_congruence_correct (g : Grid) (hI : GridInv g) (cg : CRow) (hd : cg.spaceDim ≤ g.spaceDim) (hm : 0 ≤ cg.m) :
    GridInv (relationWithCg g cg).1 ∧ (relationWithCg g cg).1.sem = g.sem ∧
    ∃ rel, (relationWithCg g cg).2 = some rel ∧ gn_RelOK rel g.sem (CRow.set cg) ∧
      (0 < g.spaceDim → g.sem.Nonempty → (rel.saturates = true ↔ rel.included = true ∧ cg.isEquality = true)) := by
  obtain ⟨a, b, _, c⟩ := gn_relationWithCg g hI cg hd hm
  exact ⟨a, b, c⟩

/-- `relation_with(const Constraint&)`, equalities: as a congruence -/
theorem relation_with_constraint_equality_correct (g : Grid) (hI : GridInv g) (c : Con) (hd : c.spaceDim ≤ g.spaceDim)
    (hk : c.isEquality = true) :
    GridInv (relationWithCon g c).1 ∧ (relationWithCon g c).1.sem = g.sem ∧
    ∃ rel, (relationWithCon g c).2 = some rel ∧ gn_RelOK rel g.sem (cn_conSet c) := by
  obtain ⟨a, b, _, rel, e, ok, _⟩ := gn_relationWithCon_equality g hI c hd hk
  exact ⟨a, b, rel, e, ok⟩

/-- `relation_with(const Constraint&)`, inequalities (repaired code), on up-to-date generators with ONE point row: the
    object is untouched and the four answers are those of the denoted set.  With several point rows the `const` function
    rewrites the later points into parameters (KF-C05-16, open): not covered. -/
theorem relation_with_constraint_inequality_one_point (g : Grid) (hI : GridInv g) (c : Con) (hd : c.spaceDim ≤ g.spaceDim)
    (hk : c.isEquality = false) (hn : 0 < g.spaceDim) (he : g.st.empty = false) (hg : g.st.gUp = true)
    (hone : (g.gen.filter gn_isPt).length = 1) :
    (relationWithCon g c).1 = g ∧ ∃ rel, (relationWithCon g c).2 = some rel ∧ gn_ConRelOK rel g.sem c :=
  gn_relationWithCon_ineq_gUp g hI c hd hk hn he hg hone

/-- `bounds_from_above/below` (Grid_nonpublic.cc:288): `true` exactly when the expression is constant on the grid -/
theorem bounds_correct (g : Grid) (e : LinExpr) (hI : GridInv g) :
    ((bounds g e).2 = none ↔ g.spaceDim < e.spaceDim) ∧ GridInv (bounds g e).1 ∧ (bounds g e).1.sem = g.sem ∧
    (∀ b, (bounds g e).2 = some b → (b = true ↔ cn_Const e g.sem)) := by
  obtain ⟨a, b, c, _, d⟩ := cn_bounds g e hI
  exact ⟨a, b, c, d⟩

/-- `maximize` / `minimize` (`max_min`, Grid_nonpublic.cc:423): succeeds exactly on a non-empty grid on which the expression
    is constant, and then returns that value as a reduced fraction with positive denominator -/
theorem max_min_correct (g : Grid) (e : LinExpr) (hI : GridInv g) :
    ((maxMin g e).2 = none ↔ g.spaceDim < e.spaceDim) ∧ GridInv (maxMin g e).1 ∧ (maxMin g e).1.sem = g.sem ∧
    (∀ mm, (maxMin g e).2 = some mm →
      (mm.ok = true ↔ g.sem.Nonempty ∧ cn_Const e g.sem) ∧
      (mm.ok = true → 0 < mm.den ∧ Int.gcd mm.num mm.den = 1 ∧ mm.included = true ∧
        ∀ x ∈ g.sem, evalRow e x = (mm.num : ℚ) / (mm.den : ℚ))) := by
  obtain ⟨a, b, c, _, d⟩ := cn_maxMin g e hI
  exact ⟨a, b, c, d⟩

/-- `frequency` (Grid_public.cc:2767, `frequency_no_check`): fails exactly on the empty grid or when a line moves the
    expression; otherwise (`cn_FreqOK`) `fn/fd ≥ 0` reduced generates the differences of the values and is itself a
    difference, `vn/vd` reduced is a value attained on the grid with `|2·val| ≤ freq` -/
theorem frequency_correct (g : Grid) (e : LinExpr) (hI : GridInv g) :
    ((frequency g e).2 = none ↔ g.spaceDim < e.spaceDim) ∧ GridInv (frequency g e).1 ∧ (frequency g e).1.sem = g.sem ∧
    (∀ fr, (frequency g e).2 = some fr →
      (fr.ok = false ↔ g.sem = ∅ ∨ cn_LineMoves e g.sem) ∧ (fr.ok = true → cn_FreqOK e g.sem fr)) := by
  obtain ⟨a, b, c, _, d⟩ := cn_frequency g e hI
  exact ⟨a, b, c, d⟩

/-- `is_discrete()`: `true` exactly when the grid contains no rational line -/
theorem is_discrete_correct (g : Grid) (hI : GridInv g) :
    GridInv (isDiscrete g).1 ∧ (isDiscrete g).1.sem = g.sem ∧ ((isDiscrete g).2 = true ↔ ¬ cn_HasLine g.sem) := by
  obtain ⟨a, b, _, c⟩ := cn_isDiscrete g hI
  exact ⟨a, b, c⟩

/-- `is_universe()`: `true` exactly when the grid is the whole space -/
theorem is_universe_correct (g : Grid) (hI : GridInv g) :
    GridInv (isUniverse g).1 ∧ (isUniverse g).1.sem = g.sem ∧ ((isUniverse g).2 = true ↔ g.sem = {x | Supp g.spaceDim x}) := by
  obtain ⟨a, b, _, c⟩ := gn_isUniverse g hI
  exact ⟨a, b, c⟩

/-- `is_bounded()`: `true` exactly when the grid has at most one point -/
theorem is_bounded_correct (g : Grid) (hI : GridInv g) :
    GridInv (isBounded g).1 ∧ (isBounded g).1.sem = g.sem ∧ ((isBounded g).2 = true ↔ g.sem.Subsingleton) := by
  obtain ⟨a, b, _, c⟩ := gn_isBounded g hI
  exact ⟨a, b, c⟩

/-- `constrains(var)`: `false` exactly when the grid is non-empty and invariant under every change of coordinate `var`
    (the syntactic test on non-minimized up-to-date congruences is exact too) -/
theorem constrains_correct (g : Grid) (v : Nat) (hI : GridInv g) :
    ((constrains g v).2 = none ↔ g.spaceDim < v + 1) ∧ GridInv (constrains g v).1 ∧ (constrains g v).1.sem = g.sem ∧
    (∀ b, (constrains g v).2 = some b → (b = false ↔ cn_Unconstrained v g.sem)) := by
  obtain ⟨a, b, c, _, d⟩ := cn_constrains g v hI
  exact ⟨a, b, c, d⟩

/-- `difference_assign(y)` (Grid_public.cc:1668): both objects keep their invariants, the argument its set, and the result
    is sound as K2's reference `difference` is (`C05.difference_sound`): `G ∖ H ⊆ D ⊆ G` -/
theorem difference_assign_sound (x y : Grid) (hx : GridInv x) (hy : GridInv y) (hd : x.spaceDim = y.spaceDim) :
    GridInv (differenceAssign x y).x ∧ GridInv (differenceAssign x y).y ∧ (differenceAssign x y).thrown = false ∧
    (differenceAssign x y).y.sem = y.sem ∧ x.sem \ y.sem ⊆ (differenceAssign x y).x.sem ∧
    (differenceAssign x y).x.sem ⊆ x.sem := by
  obtain ⟨a, b, c, _, _, d, e, f⟩ := gn_differenceAssign x y hx hy hd
  exact ⟨a, b, c, d, e, f⟩

/-- `expand_space_dimension(v, m)`: rejected exactly when `v` is not a dimension, and then unchanged; `m = 0` unchanged -/
theorem expand_space_dimension_rejects (g : Grid) (v m : Nat) (hI : GridInv g) :
    ((expandSpaceDimension g v m).thrown = true ↔ g.spaceDim < v + 1) ∧
    ((expandSpaceDimension g v m).thrown = true → (expandSpaceDimension g v m).g = g) ∧
    (v < g.spaceDim → m = 0 → (expandSpaceDimension g v m).g = g) :=
  ⟨(cn_expandSpaceDimension g v m hI).1, (cn_expandSpaceDimension g v m hI).2.1, (cn_expandSpaceDimension g v m hI).2.2.1⟩

/-- `map_space_dimensions(pfunc)` with a permutation that moves something: the image under the coordinate permutation.
    (Also proved: dimension 0, empty codomain, the identity, the non-permutation case on an empty grid — `cn_mapSD_*`;
    NOT proved: the non-permutation case on a non-empty grid, rows rebuilt through `grid_line`/`parameter`/`grid_point`.) -/
theorem map_space_dimensions_permutation (g : Grid) (pf : PFunc) (hI : GridInv g) (he : g.st.empty = false)
    (hpos : 0 < g.spaceDim) (hne : pf.hasEmptyCodomain = false) (hdim : pf.maxInCodomain + 1 = g.spaceDim)
    (hmoved : ((List.range g.spaceDim).any fun j => pf.maps j ≠ some j) = true) (hperm : cn_IsPerm pf g.spaceDim) :
    (mapSpaceDimensions g pf).thrown = false ∧ GridInv (mapSpaceDimensions g pf).g ∧
      (mapSpaceDimensions g pf).g.spaceDim = g.spaceDim ∧
      (mapSpaceDimensions g pf).g.sem = cn_pfMap pf g.spaceDim '' g.sem :=
  cn_mapSD_perm g pf hI he hpos hne hdim hmoved hperm

/-- `generalized_affine_preimage(var, EQUAL, expr, d, m)`, `m ≠ 0`, `expr` without `var` (the path that adds the induced
    congruence and then the line of `var`): the cylinder over `var` of the points satisfying the congruence.
    (`m = 0`: `affine_preimage`; other relation symbols: the line of `var`; `expr` with `var`, `m ≠ 0`: what the code
    computes is `generalizedAffinePreimageVar_equal_inv` — it is NOT the documented relation, open finding KF-C05-10.) -/
theorem generalized_affine_preimage_var_noninvertible (g : Grid) (v : Nat) (e : LinExpr) (den modulus : Int) (hI : GridInv g)
    (hne : g.st.empty = false) (hden : den ≠ 0) (hed : e.spaceDim ≤ g.spaceDim) (hv : v + 1 ≤ g.spaceDim)
    (hm : modulus ≠ 0) (hninv : ¬ (v + 1 ≤ e.spaceDim ∧ e.coeff v ≠ 0)) :
    (generalizedAffinePreimageVar g v EQUAL e den modulus).thrown = false ∧
    GridInv (generalizedAffinePreimageVar g v EQUAL e den modulus).g ∧
    (generalizedAffinePreimageVar g v EQUAL e den modulus).g.sem =
      {y | ∃ a ∈ g.sem ∩ CRow.set (preimageCg v e den modulus), ∃ c : ℚ, y = a + c • (unit v).toFun} := by
  obtain ⟨a, b, _, c⟩ := generalizedAffinePreimageVar_equal_noninv g v e den modulus hI hne hden hed hv hm hninv
  exact ⟨a, b, c⟩

/-- … rejected calls (argument checks) for every receiver, unchanged object -/
theorem generalized_affine_preimage_var_rejects (g : Grid) (hI : GridInv g) (v : Nat) (relsym : Nat) (e : LinExpr)
    (den modulus : Int) :
    ((generalizedAffinePreimageVar g v relsym e den modulus).thrown = true ↔
      (den = 0 ∨ g.spaceDim < e.spaceDim ∨ g.spaceDim < v + 1 ∨ relsym = NOT_EQUAL ∨ (relsym ≠ EQUAL ∧ modulus ≠ 0))) ∧
    ((generalizedAffinePreimageVar g v relsym e den modulus).thrown = true →
      (generalizedAffinePreimageVar g v relsym e den modulus).g = g) :=
  ⟨(generalizedAffinePreimageVar_thrown g hI v relsym e den modulus).1,
   (generalizedAffinePreimageVar_thrown g hI v relsym e den modulus).2.1⟩

/-! ## inputs on which the code departs from the reference (known findings)

* KF-C05-9: `project_zero_dim_fails` above.
* KF-C05-25 (repaired in /repo by 1e4d543): the witness below, on the code before the repair (`…_before_fix_fails`).
* KF-C05-16 (open) / KF-C05-26 (repaired in /repo by 963a718) (`relation_with(Constraint)` rewrites later points into parameters inside the `const` object; a
  reference into a sparse row dangles): the rewriting is modelled as written (`pointToParameter`, `relConLoop`; the driver
  finds the real post-state outside `invB`), the dangling reference is undefined behaviour of the C++ and cannot be
  modelled — the tie reports it as `state` + `sem` on the real output. -/

/-- the grid `{3}` of the line, generators only -/
def kf25Grid : Grid :=
  { spaceDim := 1, st := { gUp := true }, conDim := 1, con := [], genDim := 1, gen := [{ line := false, e := [1, 3, 0] }], dk := [] }
/-- the constraint `1 > 0` built in dimension 0 -/
def kf25Con : Con := { kind := 2, inconsistent := false, tautological := true, e := [1] }

/-- **KF-C05-25** (repaired in /repo by 1e4d543; `relationWithConBeforeFix` is the code before the repair,
    `relationWithCon` the repaired code, which answers `is_included` here): on the grid `{3}` the code before the repair
    answers `is_disjoint` to the strict inequality `1 > 0` of space dimension 0 — the ε-coefficient of the constraint row
    meets the coordinate of the point (`Scalar_Products::sign(c, g)` over the whole row; the repair is at
    Grid_public.cc:721) — although every point of the grid satisfies it: the clause "relations with constraints answer
    according to the set" failed on this input. -/
theorem relation_with_constraint_strict_lower_dimension_before_fix_fails :
    GridInv kf25Grid ∧ (relationWithConBeforeFix kf25Grid kf25Con).2 = some { disjoint := true } ∧
      (relationWithCon kf25Grid kf25Con).2 = some { included := true } ∧
      kf25Grid.sem ⊆ cn_conSet kf25Con ∧ (kf25Grid.sem).Nonempty := by
  have hw : GWf kf25Grid.spaceDim kf25Grid.gen := by
    intro r hr; simp [kf25Grid] at hr; subst hr; rfl
  have hN : GNorm kf25Grid.spaceDim 1 kf25Grid.gen := by
    refine ⟨by decide, ⟨_, List.mem_cons_self, rfl, rfl⟩, ?_, ?_, ?_⟩
    · intro r hr _; simp [kf25Grid] at hr; subst hr; right; rfl
    · intro r hr _ h0; simp [kf25Grid] at hr; subst hr; simp [Red.get] at h0
    · intro r hr hl; simp [kf25Grid] at hr; subst hr; cases hl
  obtain ⟨hI, hs⟩ := gn_inv_gens (g := kf25Grid) (by decide) rfl rfl rfl rfl rfl rfl rfl hw hN
  refine ⟨hI, by decide, by decide, ?_, ?_⟩
  · intro x _
    show (if kf25Con.kind = 0 then evalRow kf25Con.e x = 0 else if kf25Con.kind = 2 then 0 < evalRow kf25Con.e x
      else 0 ≤ evalRow kf25Con.e x)
    simp [kf25Con, evalRow_eq, ratRow, Red.get]
  · obtain ⟨_, _, hgn⟩ := hI.gwf rfl (by decide) rfl
    exact gensSet_nonempty hgn |> fun h => by
      have : kf25Grid.sem = gensSet kf25Grid.spaceDim kf25Grid.gen := sem_of_gUp rfl (by decide) rfl
      rw [this]; exact h

end C05

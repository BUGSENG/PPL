import PPLV.Solver.PIPCoreProofsMain7
import PPLV.Solver.PIPCoreProofsMainR3

/-!
# C07 — the core of the PIP solver (`PIP_Tree.cc`) inside the model

Model (code-shaped, executable, replayed against the real library by `pplv_pipcore`):
`PPLV/Solver/PIPCore.lean` (tableau, `normalize`, `scale`, the pivot of `PIP_Solution_Node::solve`),
`PIPCoreSolve.lean` (`row_sign`, `complement_assign`, `integral_simplification`, `find_lexico_minimal_column`,
`column_lower`, `is_better_pivot`, `generate_cut`, the main loop and the recursion of `solve`),
`PIPCoreCompat.lean` (`compatibility_check`, used by the driver; the theorems take its decision contract
`CCContract` as hypothesis), `PIPCoreSem.lean` / `PIPCoreSem2.lean` (what a tableau, a sign, a context and a
tree under construction MEAN).

Reading of a tableau (`TabSat`): a valuation `v` of ALL variables (problem variables, then one slack per
row, cuts included) and `q = 1 :: parameters`; row `i` states
`den * v (var_row[i]) = Σ_j s[i][j] * v (var_column[j]) + t[i]·q`; `Feasible` adds `v k ≥ 0`.

What is proved (for all tableaux / rows / contexts, nothing bounded):
* `pivot_preserves`, `pivot_wf`, `normalize_preserves`, `scale_preserves` — the tableau operations keep the
  solutions and the shape;
* `row_sign_sound` — the syntactic sign is true for EVERY non-negative parameter vector;
  `sign_refinement_*`: what the two refinements through `compatibility_check` really establish — the
  exact reading is FALSE (`sign_refinement_exact_fails`), the reading up to one unit (`SignWeak`) holds;
* `pivot_choice_lexico`, `find_lexico_minimal_column_correct`, `solve_step_invariant`,
  `solution_node_correct` — the lexicographic dual simplex invariant;
* `split_partitions_context` — the two children of a decision node partition the integer valuations;
* `cut_step_preserves` — a Gomory cut (with its new artificial parameter and the two context rows) keeps the
  integer solutions, the signs, the lexicographic invariant and integrality;
* `solve_partial_correct` — END TO END, every fuel, all three cutting and both pivot-row strategies: whenever the
  modelled `solve` returns a tree, then at every non-negative integer parameter valuation of the initial context
  a point of the public semantics `Tree.eval` is THE lexicographic minimum of the problem the root tableau
  describes, and bottom means that the problem has no non-negative integer point there (oracle contract as
  hypothesis).  `solve` is the code WITH the repair of finding KF-C07-12 (commit deb2fdf); for the code before
  the repair (`solveAsWritten`) the point half holds (`solve_point_correct_before_fix`) and the bottom half
  fails (`solve_bottom_before_fix_fails`).
-/
namespace C07
open PPLV.PIPCore

/-! ### 1. the tableau and the pivot -/

/-- **`Tableau::scale` does not change the solutions** -/
theorem scale_preserves {nd : SolNode} (h : WF nd) {r : Int} (hr : r ≠ 0) (v : Nat → Int) (q : List Int) :
    TabSat { nd with tab := nd.tab.scale r } v q ↔ TabSat nd v q := scale_tabsat h hr v q

/-- **`Tableau::normalize` does not change the solutions** -/
theorem normalize_preserves {nd : SolNode} (h : WF nd) (v : Nat → Int) (q : List Int) :
    TabSat { nd with tab := nd.tab.normalize } v q ↔ TabSat nd v q := normalize_tabsat h v q

/-- **the pivot of `PIP_Solution_Node::solve` (PIP_Tree.cc:2879-3078: normalise, swap basis/mapping, the three
    passes with `pivot_denom` and the global `scale` in the middle of the loops) does not change the set of
    (x, params) solutions the tableau describes**, for every well-formed node and every positive pivot. -/
theorem pivot_preserves {nd : SolNode} (h : WF nd) {pi pj : Nat} (hpi : pi < nd.tab.s.length)
    (hpj : pj < nd.tab.ns) (hspp : 0 < mget nd.tab.s pi pj) {q : List Int} (hq : q.length = nd.tab.nt) :
    ∀ v, (TabSat nd v q ↔ TabSat (pivot nd pi pj) v q) := PPLV.PIPCore.pivot_preserves' h hpi hpj hspp hq

/-- … and keeps `basis`, `mapping`, `var_row`, `var_column` coherent (`PIP_Solution_Node::OK`) -/
theorem pivot_wf {nd : SolNode} (h : WF nd) {pi pj : Nat} (hpi : pi < nd.tab.s.length)
    (hpj : pj < nd.tab.ns) (hspp : 0 < mget nd.tab.s pi pj) : WF (pivot nd pi pj) :=
  PPLV.PIPCore.pivot_wf' h hpi hpj hspp

/-- the entries the pivot computes (all divisions exact) -/
theorem pivot_entries {nd : SolNode} (h : WF nd) {pi pj : Nat} (hpi : pi < nd.tab.s.length)
    (hpj : pj < nd.tab.ns) (hspp : 0 < mget nd.tab.normalize.s pi pj) :
    ∃ f, PivotSpec { nd with tab := nd.tab.normalize } (pivot nd pi pj) pi pj f := pivot_spec h hpi hpj hspp

-- non-vacuity: a 2 x 2 node with denominator 4 whose pivot really rescales (spp = 3, den = 2 after normalize)
example : WF Piv.exNd ∧ 0 < mget Piv.exNd.tab.s 0 0 ∧ (pivot Piv.exNd 0 0).tab.den = 6 :=
  ⟨Piv.exNd_wf, by decide, by decide⟩
example : TabSat Piv.exNd Piv.exVal [1, 2] := Piv.exVal_sat

/-! ### 2. the sign of a parametric row -/

/-- **`row_sign` is sound**: POSITIVE ⇒ the row is ≥ 0, NEGATIVE ⇒ it is < 0, ZERO ⇒ it is 0, at EVERY
    non-negative parameter vector (no context needed: the function is syntactic; MIXED claims nothing). -/
theorem row_sign_sound {x : Row} {q : List Int} (hq : ParamVec x.length q) :
    SignTrue (rowSign x none) (dot x q) := rowSign_sound hq

example : rowSign [2, 0, 3] none = .positive ∧ rowSign [-1, -2, 0] none = .negative
    ∧ rowSign [0, -2] none = .mixed ∧ ParamVec 3 [1, 4, 0] := by
  refine ⟨by decide, by decide, by decide, rfl, rfl, by decide⟩

/-- the refinement of MIXED rows through `compatibility_check` (PIP_Tree.cc:2714-2808), under the decision
    contract of the oracle: every answer is true UP TO ONE UNIT of the row value (`SignWeak den`:
    POSITIVE ⇒ value > -den, NEGATIVE ⇒ value < den, ZERO ⇒ both) at every integer valuation of the context. -/
theorem sign_refinement_weak_sound {cc : Mat → Option Bool} (hcc : CCContract cc) {nd : SolNode}
    (hden : 0 < nd.tab.den) (hbig : nd.big = none) {n : Nat} (hn : 0 < n) {ctx : Mat}
    (hctx : ∀ r ∈ ctx, r.length = n) (hrows : ∀ k, k < nd.tab.t.length → (mrow nd.tab.t k).length = n)
    {sg' : List RowSign} {fs' : Firsts} (h : signAnalysis cc nd ctx = some (sg', fs'))
    {q : List Int} (hq : ParamVec n q) (hsat : CtxSat ctx q)
    (hinv : ∀ k, SignWeak nd.tab.den (signGet nd.sign k) (dot (mrow nd.tab.t k) q)) :
    ∀ k, SignWeak nd.tab.den (signGet sg' k) (dot (mrow nd.tab.t k) q) :=
  signAnalysis_weak_sound hcc hden hbig hn hctx hrows h hq hsat hinv

/-- **the exact reading of the refined signs fails** (`row_sign_sound` does not extend to the refinement):
    with denominator 3, row `t(z) = p - 1` and context `p ≤ 2`, the whole sign analysis answers NEGATIVE with
    an oracle that obeys the contract, although `t(z) = 1 > 0` at `p = 2`, which lies in the context:
    `complement_assign` / the `t_i(z) > 0` row round the constant term to a multiple of the tableau
    denominator, which is exact only when the denominator divides the parameter coefficients. -/
theorem sign_refinement_exact_fails :
    CCContract exCC2 ∧ (signAnalysis exCC2 exNd2 exCtx2).map (·.1) = some [.negative] ∧
    ParamVec 2 [1, 2] ∧ CtxSat exCtx2 [1, 2] ∧ dot (mrow exNd2.tab.t 0) [1, 2] = 1 :=
  signAnalysis_unsound_example

/-- even with denominator 1 the second refinement caches NEGATIVE for a row that is 0 at a valuation of
    the context (the case `row_sign` itself refuses to call negative): the root of finding KF-C07-12 -/
theorem sign_refinement_negative_is_weak :
    CCContract exCC2w ∧ DenDivides exT2w.den (mrow exT2w.t 0) ∧
    (refineMixed2 exCC2w exT2w [] [0] ([.mixed], { mix := some 0 })).map (·.1) = some [.negative] ∧
    ParamVec 2 [1, 0] ∧ CtxSat [] [1, 0] ∧ dot (mrow exT2w.t 0) [1, 0] = 0 ∧
    ¬ SignTrue .negative (dot (mrow exT2w.t 0) [1, 0]) := refineMixed2_not_strict_example

/-! ### 3. the lexicographic pivot selection -/

/-- **`find_lexico_minimal_column` (with `find_lexico_minimal_column_in_set`) returns a column that is
    lexicographically minimal** among the columns with a positive entry in the pivot row, columns divided
    by that entry, rows of the full matrix taken in the order of the variables. -/
theorem find_lexico_minimal_column_correct (nd : SolNode) (pi pj : Nat) (h : WF nd)
    (hpi : pi < nd.tab.s.length)
    (hf : findLexicoMinimalColumn nd.tab.s nd.mapping nd.basis (mrow nd.tab.s pi) 0 = some pj) :
    LexMinCol nd pi pj := flmc_lexmin nd pi pj h hpi hf

/-- **the chosen column keeps the tableau lexico-positive**: pivoting on a lexico-minimal column of a
    tableau whose columns are lexico-non-negative gives such a tableau again. -/
theorem pivot_choice_lexico (nd0 nd' : SolNode) (pi pj : Nat) (f : Int) (h : WF nd0) (hl : LexPos nd0)
    (hpi : pi < nd0.tab.s.length) (hm : LexMinCol nd0 pi pj) (hs : PivotSpec nd0 nd' pi pj f) :
    LexPos nd' := pivot_choice_lexico' nd0 nd' pi pj f h hl hpi hm hs

/-- **one pivot step of `solve` preserves the invariant**: for the column the code chooses in row `pi`
    (any row — the row strategies `PIVOT_ROW_STRATEGY_FIRST` / `MAX_COLUMN` only choose `pi`), the node
    after `pivot` is well-formed, its columns are lexico-non-negative, and it has the same feasible
    valuations. -/
theorem solve_step_invariant {nd : SolNode} (h : WF nd) (hl : LexPos nd) {pi pj : Nat}
    (hpi : pi < nd.tab.s.length)
    (hf : findLexicoMinimalColumn nd.tab.s nd.mapping nd.basis (mrow nd.tab.s pi) 0 = some pj)
    {q : List Int} (hq : q.length = nd.tab.nt) :
    WF (pivot nd pi pj) ∧ LexPos (pivot nd pi pj) ∧ ∀ v, (Feasible nd v q ↔ Feasible (pivot nd pi pj) v q) := by
  obtain ⟨hpj, hpos⟩ := flmc_positive nd pi pj h hpi hf
  have hpos' : 0 < mget nd.tab.normalize.s pi pj := (normalize_sign h pi pj).mpr hpos
  obtain ⟨f, hs⟩ := pivot_spec h hpi hpj hpos'
  exact ⟨PPLV.PIPCore.pivot_wf h hpi hpj hpos',
    solve_pivot_lexpos nd _ pi pj f h hl hpi hf (normalize_wf h) hs,
    pivot_feasible h hpi hpj hpos' hq⟩

/-- the other steps of the main loop keep the invariant too: cuts (all three cutting strategies) … -/
theorem cut_step_invariant (ctl : Ctl) (nd : SolNode) (ctx : Mat) (h : WF nd) (hl : LexPos nd) :
    WF (generateCuts ctl nd ctx).1 ∧ LexPos (generateCuts ctl nd ctx).1 := generateCuts_inv ctl nd ctx h hl

/-- … and a fresh root satisfies it (the problem variables are the column variables) -/
theorem root_invariant (nd : SolNode) (h : WF nd)
    (hinit : ∀ k, k < nd.tab.ns → boolGet nd.basis k = true ∧ natGet nd.mapping k = k) : LexPos nd :=
  init_lexpos nd h hinit

/-- **at termination the basic solution is the lexicographic minimum**: under the invariant, the basic
    solution `b` of the node is lexicographically ≤ every feasible valuation `v`, on all variables and hence
    on the problem variables (which come first). -/
theorem solution_node_correct (nd : SolNode) (v b : Nat → Int) (q : List Int) (h : WF nd) (hl : LexPos nd)
    (hq : q.length = nd.tab.nt) (hf : Feasible nd v q) (hb : IsBasic nd b q) :
    lexLeFrom b v 0 nd.mapping.length ∧ lexLeFrom b v 0 nd.tab.ns :=
  ⟨lex_basic_min nd v b q h hl hq hf hb,
   lex_basic_min_prefix nd v b q nd.tab.ns h hl hq hf hb (by rw [h.map_len]; omega)⟩

-- non-vacuity: `x2 = x0 + x1 - 2` is negative, the code's column choice is column 1, the step keeps the invariant
example : WF Lex.exNodeB ∧ LexPos Lex.exNodeB ∧ LexMinCol Lex.exNodeB 0 1 ∧ ¬ LexMinCol Lex.exNodeB 0 0
    ∧ findLexicoMinimalColumn Lex.exNodeB.tab.s Lex.exNodeB.mapping Lex.exNodeB.basis (mrow Lex.exNodeB.tab.s 0) 0 = some 1 :=
  ⟨Lex.exNodeB_wf, by decide, by decide, by decide, by decide⟩
example : LexPos (pivot Lex.exNodeB 0 1) :=
  (solve_step_invariant Lex.exNodeB_wf (by decide) (pi := 0) (pj := 1) (by decide) (by decide) (q := [1]) (by decide)).2.1

/-! ### 4. the split on a MIXED row -/

/-- **the two children of a decision node partition the context** for INTEGER parameter valuations:
    exactly one of `t ≥ 0` (true child) and `complement_assign(t, 1) = -t - 1 ≥ 0` (false child) holds. -/
theorem split_partitions_context {n : Nat} {q : List Int} {t : Row} (hq : ParamVec n q) (ht : t.length = n)
    (hn : 0 < n) :
    ((0 ≤ dot t q) ∨ (0 ≤ dot (complementAssign t 1) q))
      ∧ ¬ ((0 ≤ dot t q) ∧ (0 ≤ dot (complementAssign t 1) q)) :=
  PPLV.PIPCore.split_partitions_context hq ht hn

/-- the test stored in the node (`integral_simplification`, then the normalisation of `Constraint`) is
    equivalent, on integer valuations, to the MIXED row it was taken from -/
theorem split_test_equiv {row : Row} {q : List Int} (hm : rowSign row none = .mixed) (hq : q.head? = some 1)
    (hlen : row.length = q.length) :
    0 ≤ dot (rowNormalizeAll (integralSimplification row)) q ↔ 0 ≤ dot row q := by
  rw [rowNormalizeAll_sign]
  exact integralSimplification_equiv_of_mixed hm hq hlen

example : ParamVec 3 [1, 4, 5] ∧ ¬ (0 ≤ dot [2, -3, 1] [1, 4, 5]) ∧ 0 ≤ dot (complementAssign [2, -3, 1] 1) [1, 4, 5] := by
  refine ⟨⟨rfl, rfl, by decide⟩, by decide, by decide⟩

/-! ### 5. cuts, and the whole recursion -/

/-- **a cut step keeps everything**: for the parameter vector `q = extendArts nd.arts qpre` of a node whose
    own artificial parameters own the last columns, `generate_cut` (one cut, or all cuts of the strategy)
    appends at most one artificial parameter (the floor: `q'` extends `q`), keeps the context satisfied, the
    integer solutions (`feas_ext` / `feas_res`: a feasible valuation extends to the new slack variable and
    restricts back), the cached signs and integrality.  (`CutStep`, `PIPCoreProofsCut5.lean`.) -/
theorem cut_step_preserves {n0 : Nat} {qpre : List Int} (ctl : Ctl) {nd : SolNode} {ctx : Mat}
    (hs : CutSetting n0 qpre nd ctx) :
    CutSetting n0 qpre (generateCuts ctl nd ctx).1 (generateCuts ctl nd ctx).2
      ∧ CutStep qpre nd ctx (generateCuts ctl nd ctx).1 (generateCuts ctl nd ctx).2 := generateCuts_step ctl hs

/-- the search for an artificial parameter to re-use (PIP_Tree.cc:3635-3647) never succeeds within a node:
    the candidate has more columns than any parameter the node already owns (the real `operator==` compares
    the space dimensions first) -/
theorem cut_reuse_is_dead {n0 : Nat} {qpre : List Int} {nd : SolNode} {ctx : Mat}
    (hs : CutSetting n0 qpre nd ctx) {index : Nat} (hi : index < nd.tab.s.length) :
    findArt nd.arts (ArtP.mk' (Cut.apNum nd index) nd.tab.den) = none := Cut.findArt_none_of_setting hs hi

/-- the sign bookkeeping of the pivot (PIP_Tree.cc:3022-3046) keeps the cached signs true up to one unit -/
theorem pivot_sign_sound {nd : SolNode} (h : WF nd) {pi pj : Nat} (hpi : pi < nd.tab.s.length)
    (hpj : pj < nd.tab.ns) (hspp : 0 < mget nd.tab.s pi pj) {q : List Int} (hq : ParamVec nd.tab.nt q)
    (hs : SignAt nd q) : SignAt (pivot nd pi pj) q := pivot_signweak h hpi hpj hspp hq hs

/-- the exit "solution found" (PIP_Tree.cc:3380-3415): signs POSITIVE / ZERO up to one unit, the problem
    variables integral (the only test the code makes), integrality of the rational reading ⇒ the parametric
    values of the node are THE lexicographic minimum at `q` -/
theorem solution_exit_correct {nd : SolNode} {q : List Int} (hwf : WF nd) (hlp : LexPos nd)
    (hq : ParamVec nd.tab.nt q) (hsign : SignAt nd q)
    (hpz : ∀ k, k < nd.tab.t.length → signGet nd.sign k = .positive ∨ signGet nd.sign k = .zero)
    (hsi : solutionIntegral nd = true) (hint : IntInv nd q) : IsLexMin nd q (nd.point q) :=
  final_node_correct hwf hlp hq hsign hpz hsi hint

/-- **the code before the repair of KF-C07-12: the half that holds** (every fuel, every strategy).
    `RootOK`: a fresh root as `update_tableau` builds it (denominator 1, problem variables = column variables,
    signs = `row_sign` or UNKNOWN, no big parameter) with the initial context; `CCContract cc`: the decision
    contract of `compatibility_check`.  If the model returns a tree `r` and the public semantics of that tree
    at a non-negative integer valuation `θ` of the initial context is a point `x`, then `x` lists the values of
    the problem variables of a feasible valuation that is lexicographically ≤ every feasible valuation.

    The bottom half is false for that code: `solve_bottom_before_fix_fails`. -/
theorem solve_point_correct_before_fix {cc : Mat → Option Bool} (hcc : CCContract cc) (ctl : Ctl)
    {cfc : Bool} {fuel : Nat} {root : SolNode} {ctx0 : Mat} (h : RootOK root ctx0) {r : Option CTree}
    (hs : solveAsWritten cc ctl cfc fuel root ctx0 = .done r) {θ : List Int} (hlen : θ.length + 1 = root.tab.nt)
    (hnn : ∀ a ∈ θ, 0 ≤ a) (hsat : CtxSat ctx0 (1 :: θ)) {x : List Int}
    (hx : (resToTree r).eval θ = .point x) : IsLexMin root (1 :: θ) x :=
  solveAsWritten_sound_eval hcc ctl h hs hlen hnn hsat hx

-- non-vacuity: the contract is satisfiable, and on the root of `x ≥ 1` the model returns `x = 1`
example : CCContract ccClassical := ccClassical_contract
example : IsLexMin exRootX [1] [1] := by
  obtain ⟨r, hr, he⟩ := exRootX_run ccClassical
  exact solve_point_correct_before_fix ccClassical_contract {} exRootX_ok hr (θ := []) rfl
    (by intro a ha; simp at ha) (by intro r hr; simp at hr) he

/-- **before the repair the bottom half failed** (finding KF-C07-12, fixed by commit deb2fdf).  `kfRoot` is the root
    tableau, journalled from the real library, of `{4A + C + E = 3, C - E ≥ 3, 2B + 2C - 3D = 3,
    B + 2C - 2E + 3 ≥ 0}` with parameters `D, E`; under `PIVOT_ROW_STRATEGY_MAX_COLUMN`, with the modelled
    `compatibility_check` as oracle, `solveAsWritten` returns — like the real `PIP_Problem::solve` did, tree for
    tree — a tree that is bottom at `(D, E) = (1, 0)`, where `(A, B, C) = (0, 0, 3)` is feasible. -/
theorem solve_bottom_before_fix_fails :
    kfTree.eval [1, 0] = .bottom ∧ Feasible kfRoot kfVal [1, 1, 0] ∧ (List.range 3).map kfVal = [0, 0, 3] :=
  ⟨kf_bottom, kf_feasible, by decide⟩

/-! ### 6. the code as it is (with the repair of KF-C07-12): both halves

Before concluding "No positive pivot: Solution = _|_" from a cached NEGATIVE sign the code asks
`compatibility_check(ctx, t_i)`; if `t_i(z) ≥ 0` is compatible with the context the sign is reset to MIXED and
the loop starts over (rows that mention the big parameter are left alone). -/

/-- **`solve_partial_correct`** (partial correctness, every fuel, every strategy; the decision contract of
    `compatibility_check` is a hypothesis).  `RootOK`: a fresh root as `update_tableau` builds it (denominator 1,
    problem variables = column variables, signs = `row_sign` or UNKNOWN, no big parameter) with the initial
    context.  If the model returns a tree `r`, then at every non-negative integer valuation `θ` of the initial
    context: a point of `Tree.eval` is the lexicographic minimum of the feasible region, and bottom means that the
    region is empty.  (Not part of the statement: that `Tree.eval` never answers `scopeError` / `nonIntegral` on
    these trees — the converse bridge `resToTree_eval_eq` exists under `WellFormedC` — and termination.) -/
theorem solve_partial_correct {cc : Mat → Option Bool} (hcc : CCContract cc) (ctl : Ctl)
    {cfc : Bool} {fuel : Nat} {root : SolNode} {ctx0 : Mat} (h : RootOK root ctx0) {r : Option CTree}
    (hs : solve cc ctl cfc fuel root ctx0 = .done r) {θ : List Int} (hlen : θ.length + 1 = root.tab.nt)
    (hnn : ∀ a ∈ θ, 0 ≤ a) (hsat : CtxSat ctx0 (1 :: θ)) :
    (∀ x, (resToTree r).eval θ = .point x → IsLexMin root (1 :: θ) x) ∧
    ((resToTree r).eval θ = .bottom → Infeasible root (1 :: θ)) :=
  ⟨fun _ hx => solve_point_eval hcc ctl h hs hlen hnn hsat hx,
   fun hx => solve_bottom_eval hcc ctl h hs hlen hnn hsat hx⟩

/-- the bottom half on its own -/
theorem solve_bottom_correct {cc : Mat → Option Bool} (hcc : CCContract cc) (ctl : Ctl)
    {cfc : Bool} {fuel : Nat} {root : SolNode} {ctx0 : Mat} (h : RootOK root ctx0) {r : Option CTree}
    (hs : solve cc ctl cfc fuel root ctx0 = .done r) {θ : List Int} (hlen : θ.length + 1 = root.tab.nt)
    (hnn : ∀ a ∈ θ, 0 ≤ a) (hsat : CtxSat ctx0 (1 :: θ))
    (hx : (resToTree r).eval θ = .bottom) : Infeasible root (1 :: θ) :=
  (solve_partial_correct hcc ctl h hs hlen hnn hsat).2 hx

/-- the same over the parameter columns (`evalRes` = the tree evaluated on rows; `Claim`: a point is the
    lexicographic minimum, bottom is infeasibility) -/
theorem solve_partial_correct_columns {cc : Mat → Option Bool} (hcc : CCContract cc) (ctl : Ctl)
    {cfc : Bool} {fuel : Nat} {root : SolNode} {ctx0 : Mat} (h : RootOK root ctx0) {r : Option CTree}
    (hs : solve cc ctl cfc fuel root ctx0 = .done r) {q : List Int} (hq : ParamVec root.tab.nt q)
    (hsat : CtxSat ctx0 q) : Claim root q (evalRes r q) := solve_correct hcc ctl h hs hq hsat

-- non-vacuity: the contract is satisfiable; on the root of `x ≥ 1` the model returns `x = 1`; on the witness of
-- KF-C07-12 the code as it is returns the lexicographic minimum (0, 0, 3)
example : ∃ r, solve ccClassical {} false 5 exRootX [] = .done r ∧ (resToTree r).eval [] = .point [1] :=
  ⟨_, rfl, by decide⟩
example : IsLexMin exRootX [1] [1] := by
  have hrun : ∃ r, solve ccClassical {} false 5 exRootX [] = .done r ∧ (resToTree r).eval [] = .point [1] :=
    ⟨_, rfl, by decide⟩
  obtain ⟨r, hr, he⟩ := hrun
  exact (solve_partial_correct ccClassical_contract {} exRootX_ok hr (θ := []) rfl
    (by intro a ha; simp at ha) (by intro r hr; simp at hr)).1 [1] he
example : kfTreeR.eval [1, 0] = .point [0, 0, 3] := kf_repaired_point

end C07

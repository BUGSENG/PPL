import PPLV.Props.C09
import PPLV.Powerset.ExactRefine
import PPLV.Powerset.ExactAddLub
import PPLV.Powerset.ExactOmegaSpec
import PPLV.Powerset.ExactPairwiseReduce

/-!
# C09 — sequence-level theorems about the code-shaped model `PPLV.Powerset.Exact`

`PPLV/Powerset/Exact.lean` transliterates `Powerset<D>` / `Pointset_Powerset<PSET>` over raw
base-level operations (`Ops`, `PolyOps`) — it is the model the native driver `pplv_ps --exact`
replays on the journalled disjunct lists of the real library (same length, disjunct `i` equal as a
set to disjunct `i`, same `reduced` flag).  Here:

* `exact_refines_model*` : at the operations `d.ops` of a K5 domain its functions equal the
  functions of `PPLV/Powerset/Model.lean`, so every theorem of `Props/C09.lean` is a theorem about
  the replayed model (a few are restated: `*_union_exact`);
* WHICH disjuncts survive, in WHICH order, and WHEN the flag is set: `omega_reduce_result_is_antichain`,
  `omega_reduce_keeps_first_representative`, `add_non_bottom_disjunct_preserve_reduction_spec`,
  `pairwise_reduce_spec`, `collapse_spec_exact`, `linear_partition_order_spec`, `difference_order_spec`,
  `bgp99_heuristics_spec`, `transformer_flags`;
* `reduced_flag_sound` : along every sequence of operations the class invariant "flag set ⇒ the
  sequence is omega-reduced" (`Inv`; what `OK()` checks) is maintained.
-/
namespace C09
open PPLV PPLV.Powerset

/-! pointwise statements about `d.U` as equalities of unions (`d.ops.D` is `d.D` only up to
unfolding, so these are applied by unification rather than by rewriting) -/
theorem union_eq_of_iff (d : Dom) (s t : List d.D) (h : ∀ p, d.U s p ↔ d.U t p) :
    (⋃ z ∈ s, Γ d z) = ⋃ z ∈ t, Γ d z := by
  ext p; rw [mem_union, mem_union]; exact h p

theorem union_eq_union_of_iff (d : Dom) (s t u : List d.D) (h : ∀ p, d.U s p ↔ (d.U t p ∨ d.U u p)) :
    (⋃ z ∈ s, Γ d z) = (⋃ z ∈ t, Γ d z) ∪ ⋃ z ∈ u, Γ d z := by
  ext p; rw [Set.mem_union, mem_union, mem_union, mem_union]; exact h p

theorem union_eq_insert_of_iff (d : Dom) (s t : List d.D) (x : d.D) (h : ∀ p, d.U s p ↔ (d.U t p ∨ d.γ x p)) :
    (⋃ z ∈ s, Γ d z) = (⋃ z ∈ t, Γ d z) ∪ Γ d x := by
  ext p; rw [Set.mem_union, mem_union, mem_union]; exact h p

theorem union_eq_inter_of_iff (d : Dom) (s t u : List d.D) (h : ∀ p, d.U s p ↔ (d.U t p ∧ d.U u p)) :
    (⋃ z ∈ s, Γ d z) = (⋃ z ∈ t, Γ d z) ∩ ⋃ z ∈ u, Γ d z := by
  ext p; rw [Set.mem_inter_iff, mem_union, mem_union, mem_union]; exact h p

theorem union_eq_diff_of_iff (d : Dom) (s t u : List d.D) (h : ∀ p, d.U s p ↔ (d.U t p ∧ ¬ d.U u p)) :
    (⋃ z ∈ s, Γ d z) = (⋃ z ∈ t, Γ d z) \ ⋃ z ∈ u, Γ d z := by
  ext p; rw [Set.mem_sdiff, mem_union, mem_union, mem_union]; exact h p

theorem union_sub_of_imp (d : Dom) (s t : List d.D) (h : ∀ p, d.U s p → d.U t p) :
    (⋃ z ∈ s, Γ d z) ⊆ ⋃ z ∈ t, Γ d z :=
  fun p hp => (mem_union d t p).mpr (h p ((mem_union d s p).mp hp))

/-- the raw operations of the toy domain of `Props/C09.lean` (non-vacuity examples) -/
abbrev ToyOps : Exact.Ops := Toy.ops

/-! ## the executable model refines the proved model -/

/-- **`exact_refines_model`** (generic `Powerset<D>` part): every operation of the replayed model,
    at the operations of a K5 domain, is the operation of `Model.lean` (sequence and flag). -/
theorem exact_refines_model (d : Dom) (ab : Bool) (x y : Exact.PS d.D) (m : Nat) (z : d.D)
    (op : d.D → d.D → d.D) (f : d.D → d.D) :
    Exact.toOld d (Exact.omegaReduce d.ops ab x) = omegaReduce d ab (Exact.toOld d x) ∧
    Exact.toOld d (Exact.collapse d.ops x) = collapse d (Exact.toOld d x) ∧
    Exact.toOld d (Exact.collapseMax d.ops ab m x) = collapseMax d ab m (Exact.toOld d x) ∧
    Exact.toOld d (Exact.addDisjunct d.ops x z) = addDisjunct d (Exact.toOld d x) z ∧
    Exact.toOld d (Exact.lub d.ops ab x y).1 = (lub d ab (Exact.toOld d x) (Exact.toOld d y)).1 ∧
    Exact.toOld d (Exact.lub d.ops ab x y).2 = (lub d ab (Exact.toOld d x) (Exact.toOld d y)).2 ∧
    Exact.toOld d (Exact.pairwiseApply d.ops ab op x y).1
        = (pairwiseApply d ab op (Exact.toOld d x) (Exact.toOld d y)).1 ∧
    Exact.toOld d (Exact.pairwiseApply d.ops ab op x y).2
        = (pairwiseApply d ab op (Exact.toOld d x) (Exact.toOld d y)).2 ∧
    Exact.toOld d (Exact.mapSetFlag d.ops f x) = mapDisjuncts d f (Exact.toOld d x) ∧
    (Exact.eq d.ops ab x y).1 = Powerset.eq d ab (Exact.toOld d x) (Exact.toOld d y) ∧
    Exact.definitelyEntails d.ops x.seq y.seq = definitelyEntails d x.seq y.seq :=
  ⟨Exact.omegaReduce_refines d ab x, Exact.collapse_refines d x, Exact.collapseMax_refines d ab m x,
   Exact.addDisjunct_refines d x z, Exact.lub_refines_fst d ab x y, Exact.lub_refines_snd d ab x y,
   Exact.pairwiseApply_refines_fst d ab op x y, Exact.pairwiseApply_refines_snd d ab op x y,
   Exact.mapSetFlag_refines d f x, Exact.eq_refines d ab x y, Exact.definitelyEntails_refines d x.seq y.seq⟩

example : (Exact.omegaReduce ToyOps false ⟨([[1], [1, 2], [], [3], [2, 1]] : List (List Nat)), false⟩).seq
    = [[1, 2], [3]] := rfl

/-- **`exact_refines_model`** (`Pointset_Powerset` part) -/
theorem exact_refines_model_poly (d : PolyDom) (isTop : d.D → Bool) (ab : Bool) (x y : Exact.PS d.D)
    (p q : d.D) :
    Exact.linearPartition (d.ops isTop) p q = linearPartition d p q ∧
    Exact.toOld d.toDom (Exact.psDiff (d.ops isTop) ab x y).1
        = psDiff d ab (Exact.toOld d.toDom x) (Exact.toOld d.toDom y) ∧
    Exact.toOld d.toDom (Exact.pairwiseReduce (d.ops isTop) ab x)
        = pairwiseReduce d ab (Exact.toOld d.toDom x) ∧
    Exact.toOld d.toDom (Exact.simplifyCtx (d.ops isTop) ab x y).1
        = (simplifyCtx d ab (Exact.toOld d.toDom x) (Exact.toOld d.toDom y)).1 ∧
    (Exact.simplifyCtx (d.ops isTop) ab x y).2.2
        = (simplifyCtx d ab (Exact.toOld d.toDom x) (Exact.toOld d.toDom y)).2.2 :=
  ⟨Exact.linearPartition_refines d isTop p q, Exact.psDiff_refines d isTop ab x y,
   Exact.pairwiseReduce_refines d isTop ab x, (Exact.simplifyCtx_refines d isTop ab x y).1,
   (Exact.simplifyCtx_refines d isTop ab x y).2.2⟩

/-! ## `omega_reduce` -/

/-- **`omega_reduce_result_is_antichain`**: after `omega_reduce()` the flag is set; if it was clear,
    no disjunct is bottom, no disjunct entails a disjunct at another position, and the surviving
    list is a sublist (same relative order) of the non-bottom disjuncts; the union is unchanged.
    No assumption on `definitely_entails` beyond soundness. -/
theorem omega_reduce_result_is_antichain (d : Dom) (x : Exact.PS d.D) :
    (Exact.omegaReduce d.ops false x).reduced = true ∧
    (x.reduced = false →
      Exact.OmegaReduced d.ops (Exact.omegaReduce d.ops false x).seq ∧
      (Exact.omegaReduce d.ops false x).seq.Sublist (x.seq.filter (fun y => !d.isBottom y))) ∧
    (⋃ z ∈ (Exact.omegaReduce d.ops false x).seq, Γ d z) = ⋃ z ∈ x.seq, Γ d z := by
  refine ⟨Exact.omegaReduce_reduced d.ops false x, fun h => ⟨Exact.omegaReduce_omegaReduced d.ops x h,
    Exact.omegaReduce_sublist d.ops x h⟩, union_eq_of_iff d _ _ fun p => Exact.omegaReduce_U' d x p⟩

example : Exact.OmegaReduced ToyOps ([[1, 2], [3]] : List (List Nat)) :=
  (Exact.checkOmegaReduced_iff ToyOps _).mp rfl

/-- **which representatives survive**: when `definitely_entails` is a preorder (it decides
    inclusion for every exact base domain) the survivors are exactly the disjuncts that entail no
    EARLIER disjunct and are entailed back by every LATER disjunct they entail (`omegaSpec`): the
    maximal ones, a class of mutually entailing (equal) disjuncts represented by its FIRST
    occurrence, in the original order. -/
theorem omega_reduce_keeps_first_representative (d : Dom) (hp : Exact.IsPreorder d.ops)
    (x : Exact.PS d.D) (h : x.reduced = false) :
    (Exact.omegaReduce d.ops false x).seq
      = Exact.omegaSpec d.ops [] (x.seq.filter (fun y => !d.isBottom y)) ∧
    (∀ a ∈ (Exact.omegaReduce d.ops false x).seq,
      ∀ b ∈ x.seq.filter (fun y => !d.isBottom y), d.leq a b = true → d.leq b a = true) := by
  have e := Exact.omegaReduce_eq_omegaSpec d.ops hp x h
  refine ⟨e, fun a ha b hb => ?_⟩
  rw [e] at ha
  exact (Exact.omegaSpec_mem_maximal d.ops _ a ha).2 b hb

/-- of two equal disjuncts the one visited first (the earlier one) is kept … -/
theorem omega_reduce_equal_pair (d : Dom) (hp : Exact.IsPreorder d.ops) (a b : d.D)
    (hab : d.leq a b = true) (hba : d.leq b a = true)
    (ha : d.isBottom a = false) (hb : d.isBottom b = false) :
    (Exact.omegaReduce d.ops false ⟨[a, b], false⟩).seq = [a] :=
  Exact.omegaReduce_first_of_equals_two d.ops hp a b hab hba ha hb

/-- … also with an unrelated disjunct in between (order of the survivors = original order) -/
theorem omega_reduce_equal_pair_apart (d : Dom) (hp : Exact.IsPreorder d.ops) (a b c : d.D)
    (hab : d.leq a b = true) (hba : d.leq b a = true)
    (hac : Exact.Incomp d.ops a c) (hbc : Exact.Incomp d.ops b c)
    (ha : d.isBottom a = false) (hb : d.isBottom b = false) (hc : d.isBottom c = false) :
    (Exact.omegaReduce d.ops false ⟨[a, c, b], false⟩).seq = [a, c] :=
  Exact.omegaReduce_first_of_equals_three d.ops hp a b c hab hba hac hbc ha hb hc

-- `[1,2]` and `[2,1]` are equal sets: the first representative survives, `[3]` keeps its place
example : (Exact.omegaReduce ToyOps false ⟨([[1, 2], [3], [2, 1]] : List (List Nat)), false⟩).seq
    = [[1, 2], [3]] := rfl
example : (Exact.omegaReduce ToyOps false ⟨([[2, 1], [3], [1, 2]] : List (List Nat)), false⟩).seq
    = [[2, 1], [3]] := rfl

/-- `check_omega_reduced()` decides exactly `OmegaReduced`; `is_omega_reduced()` sets the flag only then -/
theorem check_omega_reduced_iff (o : Exact.Ops) (s : List o.D) :
    Exact.checkOmegaReduced o s = true ↔ Exact.OmegaReduced o s := Exact.checkOmegaReduced_iff o s

/-! ## `add_non_bottom_disjunct_preserve_reduction` -/

/-- **`add_non_bottom_disjunct_preserve_reduction_spec`** (sequence `pre ++ rng`, `first` = head of `rng`):
    (1) if `x` entails a disjunct of the range, the function returns at the FIRST such disjunct: the
        disjuncts before it that entail `x` are erased, `x` is not added;
    (2) otherwise every disjunct of the range entailing `x` is erased and `x` is pushed at the end —
        outside the range when the whole range was erased;
    (3) an omega-reduced sequence stays omega-reduced (given `x` is incomparable with `pre`);
    (4) the union gains exactly the points of `x`. -/
theorem add_non_bottom_disjunct_preserve_reduction_spec (d : Dom) (x : d.D) (pre rng : List d.D) :
    (∀ l1 xv l2, rng = l1 ++ xv :: l2 → d.leq x xv = true → (∀ z ∈ l1, d.leq x z = false) →
      Exact.addNB d.ops x pre rng = (pre, l1.filter (fun z => !d.leq z x) ++ xv :: l2)) ∧
    ((∀ z ∈ rng, d.leq x z = false) →
      (Exact.addNB d.ops x pre rng).1 ++ (Exact.addNB d.ops x pre rng).2
          = pre ++ rng.filter (fun z => !d.leq z x) ++ [x] ∧
      ((Exact.addNB d.ops x pre rng).2 = [] ↔ rng.filter (fun z => !d.leq z x) = []) ∧
      (Exact.addNB d.ops x pre rng).1 = if rng.filter (fun z => !d.leq z x) = [] then pre ++ [x] else pre) ∧
    (Exact.OmegaReduced d.ops (pre ++ rng) → d.isBottom x = false → (∀ p ∈ pre, Exact.Incomp d.ops x p) →
      Exact.OmegaReduced d.ops ((Exact.addNB d.ops x pre rng).1 ++ (Exact.addNB d.ops x pre rng).2)) ∧
    ((⋃ z ∈ (Exact.addNB d.ops x pre rng).1 ++ (Exact.addNB d.ops x pre rng).2, Γ d z)
      = (⋃ z ∈ pre ++ rng, Γ d z) ∪ Γ d x) := by
  refine ⟨fun l1 xv l2 e hx h1 => Exact.addNB_spec_early d.ops x pre rng l1 xv l2 e hx h1,
    fun h => Exact.addNB_spec_push d.ops x pre rng h,
    fun hr hb hp => Exact.addNB_omegaReduced d.ops x pre rng hr hb hp,
    union_eq_insert_of_iff d _ _ x fun p => Exact.addNB_U' d x pre rng p⟩

example : Exact.addNB ToyOps [1, 2] [] ([[1], [3], [2]] : List (List Nat)) = ([], [[3], [1, 2]]) := rfl
example : Exact.addNB ToyOps [1, 2] [[9]] ([[1], [2]] : List (List Nat)) = ([[9], [1, 2]], []) := rfl
example : Exact.addNB ToyOps [1] [] ([[0], [3], [1, 2], [1]] : List (List Nat)) = ([], [[0], [3], [1, 2], [1]]) := rfl

/-- `least_upper_bound_assign` keeps both operands omega-reduced and leaves the flag set -/
theorem lub_reduced (d : Dom) (x y : Exact.PS d.D) (hx : Exact.Inv d.ops x) (hy : Exact.Inv d.ops y) :
    Exact.Inv d.ops (Exact.lub d.ops false x y).1 ∧ Exact.Inv d.ops (Exact.lub d.ops false x y).2 ∧
    (Exact.lub d.ops false x y).1.reduced = true ∧
    ((⋃ z ∈ (Exact.lub d.ops false x y).1.seq, Γ d z) = (⋃ z ∈ x.seq, Γ d z) ∪ ⋃ z ∈ y.seq, Γ d z) := by
  obtain ⟨h1, h2, h3⟩ := Exact.lub_inv d.ops x y hx hy
  exact ⟨h1, h2, h3, union_eq_union_of_iff d _ _ _ fun p => Exact.lub_U' d x y p⟩

/-! ## `collapse` -/

/-- **`collapse_spec_exact`**: `collapse(max_disjuncts)` reduces first; with at most `max` disjuncts
    nothing else happens; otherwise the first `max-1` reduced disjuncts are kept in order — except
    those entailed by the join, which are erased —, and the disjunct number `max` absorbs, in the
    code's order, all the later ones and comes LAST; the flag is set; `collapse()` joins everything
    into the first disjunct and leaves the flag alone. -/
theorem collapse_spec_exact (d : Dom) (maxD : Nat) (x : Exact.PS d.D) :
    ((Exact.omegaReduce d.ops false x).seq.length ≤ maxD →
      Exact.collapseMax d.ops false maxD x = Exact.omegaReduce d.ops false x) ∧
    (∀ y ys, maxD < (Exact.omegaReduce d.ops false x).seq.length → 0 < maxD →
      (Exact.omegaReduce d.ops false x).seq.drop (maxD - 1) = y :: ys →
      (Exact.collapseMax d.ops false maxD x).seq =
          ((Exact.omegaReduce d.ops false x).seq.take (maxD - 1)).filter
            (fun z => !d.leq z (ys.foldl d.join y)) ++ [ys.foldl d.join y] ∧
      (Exact.collapseMax d.ops false maxD x).reduced = true ∧
      (Exact.collapseMax d.ops false maxD x).seq.length ≤ maxD) ∧
    (∀ y ys r, Exact.collapse d.ops ⟨y :: ys, r⟩ = ⟨[ys.foldl d.join y], r⟩) ∧
    ((⋃ z ∈ x.seq, Γ d z) ⊆ ⋃ z ∈ (Exact.collapseMax d.ops false maxD x).seq, Γ d z) := by
  refine ⟨(Exact.collapseMax_exact_spec d.ops maxD x).1, (Exact.collapseMax_exact_spec d.ops maxD x).2,
    fun y ys r => Exact.collapse_exact_spec d.ops y ys r,
    union_sub_of_imp d _ _ fun p => Exact.collapseMax_ge' d false maxD x p⟩

example : (Exact.collapseMax ToyOps false 3 ⟨([[1], [5], [2], [7]] : List (List Nat)), false⟩).seq
    = [[1], [5], [2, 7]] := rfl
example : (Exact.collapseMax ToyOps false 2 ⟨([[2], [5], [2, 7], [9]] : List (List Nat)), false⟩).seq
    = [[5], [2, 7, 9]] := rfl     -- `[2]` is erased by the reduction, `[2,7]` absorbs `[9]` and comes last
example : (Exact.collapseMax ToyOps false 2 ⟨([[1], [5], [1, 7]] : List (List Nat)), true⟩).seq
    = [[5, 1, 7]] := rfl          -- flag already set: no reduction; `[1]` is entailed by the join and erased

/-! ## `pairwise_reduce` -/

/-- **`pairwise_reduce_spec`**.  One round: every merge replaces two disjuncts at different positions
    (`a` before `b`) by the upper bound the base level declared exact for them; `deleted` merges shrink
    the sequence by at least `deleted`; a round without a merge returns the sequence unchanged (same
    order: no comparison is made at all).  The whole: the `do … while (deleted > 0)` loop ends because
    `deleted = 0` (the fuel of the model is never exhausted: more fuel changes nothing), its result is
    a fixpoint of the round, not longer than the reduced input, flagged reduced; the union is unchanged. -/
theorem pairwise_reduce_spec (d : PolyDom) (isTop : d.D → Bool) (x : Exact.PS d.D) (s : List d.D) :
    ((Exact.pairwiseRound (d.ops isTop) s).1.length + (Exact.pairwiseRound (d.ops isTop) s).2 ≤ s.length ∧
     ((Exact.pairwiseRound (d.ops isTop) s).2 = 0 → (Exact.pairwiseRound (d.ops isTop) s).1 = s) ∧
     (∀ u ∈ (Exact.pairwiseRound (d.ops isTop) s).1, u ∈ s ∨
        ∃ l1 a l2 b l3, s = l1 ++ a :: l2 ++ b :: l3 ∧ d.ubIfExact a b = some u)) ∧
    ((Exact.pairwiseReduce (d.ops isTop) false x).reduced = true ∧
     (Exact.pairwiseReduce (d.ops isTop) false x).seq.length
        ≤ (Exact.omegaReduce d.toDom.ops false x).seq.length ∧
     ∃ t, (Exact.pairwiseRound (d.ops isTop) t).2 = 0 ∧
        (Exact.pairwiseReduce (d.ops isTop) false x).seq = (Exact.pairwiseRound (d.ops isTop) t).1 ∧
        (Exact.pairwiseRound (d.ops isTop) t).1 = t) ∧
    (∀ fuel, s.length < fuel →
      Exact.pairwiseLoop (d.ops isTop) fuel s = Exact.pairwiseLoop (d.ops isTop) (s.length + 1) s) ∧
    ((⋃ z ∈ (Exact.pairwiseReduce (d.ops isTop) false x).seq, Γ d.toDom z) = ⋃ z ∈ x.seq, Γ d.toDom z) := by
  refine ⟨Exact.pairwiseRound_spec (d.ops isTop) s, Exact.pairwiseReduce_spec (d.ops isTop) x,
    fun fuel hf => Exact.pairwiseLoop_terminates (d.ops isTop) fuel s hf,
    union_eq_of_iff d.toDom _ _ fun p => Exact.pairwiseReduce_U' d isTop x p⟩

section K1
open PPLV.Lin
/-- `is_universe` for the K1 instance -/
def k1IsTop (a : K1Poly.D) : Bool := kLeq [] a
/-- the elements of the K1 instance are constraint lists -/
def viewX (x : List (K1Poly.ops k1IsTop).D) : List (List LCon) := x

-- [0,1] ∪ [5,∞) ∪ [0,1]∩(-∞,7]: the comparable pair is merged, two disjuncts remain
example : (Exact.pairwiseReduce (K1Poly.ops k1IsTop) false
    ⟨[[geC 0, leC 1], [geC 5], [geC 0, leC 1, leC 7]], false⟩).seq.length = 2 := by decide +kernel
end K1

/-! ## `linear_partition` / `difference_assign` -/

/-- **`linear_partition_order_spec`**: with `cs` = the constraints of the first argument in the
    library's order, an equality replaced by its `≤` half followed by its `≥` half, the first
    component is `q` plus all of `cs`, and the residues are produced IN THE ORDER OF `cs`: residue `i`
    is `q ∧ cs[0..i-1] ∧ ¬cs[i]`, empty residues skipped.  They are pairwise disjoint, disjoint from
    `p`, non-empty, and with the first component they cover `q` (`C09.linear_partition_spec`, which
    transfers by `exact_refines_model_poly`). -/
theorem linear_partition_order_spec (d : PolyDom) (isTop : d.D → Bool) (p q : d.D) :
    (Exact.linearPartition (d.ops isTop) p q).1 = (Exact.splitEqs (d.cons p)).foldl d.addCon q ∧
    (Exact.linearPartition (d.ops isTop) p q).2 =
      (List.range (Exact.splitEqs (d.cons p)).length).filterMap (fun i =>
        let n := d.addCon (((Exact.splitEqs (d.cons p)).take i).foldl d.addCon q)
          (Exact.negCon ((Exact.splitEqs (d.cons p)).getD i default))
        if d.isBottom n then none else some n) ∧
    (Γ d.toDom (Exact.linearPartition (d.ops isTop) p q).1 = Γ d.toDom p ∩ Γ d.toDom q ∧
     (Γ d.toDom (Exact.linearPartition (d.ops isTop) p q).1
        ∪ ⋃ n ∈ (Exact.linearPartition (d.ops isTop) p q).2, Γ d.toDom n) = Γ d.toDom q ∧
     (Exact.linearPartition (d.ops isTop) p q).2.Pairwise (fun a b => Γ d.toDom a ∩ Γ d.toDom b = ∅)) := by
  have h := linear_partition_spec d p q
  rw [Exact.linearPartition_refines d isTop p q]
  have ho := Exact.linearPartition_order (d.ops isTop) p q
  rw [Exact.linearPartition_refines d isTop p q] at ho
  exact ⟨ho.1, ho.2, h.1, h.2.2.1, h.2.2.2⟩

/-- **`difference_order_spec`** (`Pointset_Powerset<NNC_Polyhedron>::difference_assign`): both operands
    are reduced, then for every disjunct `yi` of the argument IN ORDER every current piece is replaced
    (in place, in order) by its residues w.r.t. `yi`; the flag is cleared; the union is the difference. -/
theorem difference_order_spec (d : PolyDom) (isTop : d.D → Bool) (x y : Exact.PS d.D) :
    (Exact.psDiff (d.ops isTop) false x y).1.seq =
      (Exact.omegaReduce d.toDom.ops false y).seq.foldl
        (fun acc yi => acc.flatMap fun itr => (Exact.linearPartition (d.ops isTop) yi itr).2)
        (Exact.omegaReduce d.toDom.ops false x).seq ∧
    (Exact.psDiff (d.ops isTop) false x y).1.reduced = false ∧
    (Exact.psDiff (d.ops isTop) false x y).2 = Exact.omegaReduce d.toDom.ops false y ∧
    ((⋃ z ∈ (Exact.psDiff (d.ops isTop) false x y).1.seq, Γ d.toDom z)
      = (⋃ z ∈ x.seq, Γ d.toDom z) \ ⋃ z ∈ y.seq, Γ d.toDom z) := by
  obtain ⟨h1, h2, h3⟩ := Exact.psDiff_order (d.ops isTop) x y
  exact ⟨h1, h2, h3, union_eq_diff_of_iff d.toDom _ _ _ fun p => Exact.psDiff_U' d isTop x y p⟩

section K1
open PPLV.Lin
-- [1,2] against [0,3]: residues in the order of the constraints `x ≥ 1`, `x ≤ 2`
example : viewX (Exact.linearPartition (K1Poly.ops k1IsTop) [geC 1, leC 2] [geC 0, leC 3]).2
    = [[geC 0, leC 3, ltC 1], [geC 0, leC 3, geC 1, gtC 2]] := by decide +kernel
-- … and in the other order when the first argument lists them the other way round
example : viewX (Exact.linearPartition (K1Poly.ops k1IsTop) [leC 2, geC 1] [geC 0, leC 3]).2
    = [[geC 0, leC 3, gtC 2], [geC 0, leC 3, leC 2, ltC 1]] := by decide +kernel
end K1

/-! ## flags of the disjunct-wise transformers -/

/-- **`transformer_flags`**: the three families of `Pointset_Powerset` transformers map the disjuncts
    in place (same order, same number) and differ only in the flag: cleared after the loop
    (`add_constraint(s)`, `topological_closure_assign`, …); cleared inside the loop body, so NOT for
    an empty sequence (`affine_image`, `remove_space_dimensions`, `unconstrain`, …); untouched
    (`add_space_dimensions_and_embed/project`, `expand_space_dimension`); `map_space_dimensions`
    reduces first; `concatenate_assign` returns a sequence flagged reduced. -/
theorem transformer_flags (o : Exact.Ops) (f : o.D → o.D) (conc : o.D → o.D → o.D) (x y : Exact.PS o.D) :
    (Exact.mapSetFlag o f x = ⟨x.seq.map f, false⟩) ∧
    (Exact.mapLoopFlag o f x = ⟨x.seq.map f, if x.seq.isEmpty then x.reduced else false⟩) ∧
    (Exact.mapKeepFlag o f x = ⟨x.seq.map f, x.reduced⟩) ∧
    (Exact.mapSpaceDimensions o false f x =
      if (Exact.omegaReduce o false x).seq.isEmpty then Exact.omegaReduce o false x
      else ⟨(Exact.omegaReduce o false x).seq.map f, false⟩) ∧
    ((Exact.concatenateAssign o conc x y).1.reduced = true ∧
     (Exact.concatenateAssign o conc x y).1.seq =
        (Exact.omegaReduce o false x).seq.flatMap fun xi => (Exact.omegaReduce o false y).seq.map fun yi => conc xi yi) :=
  ⟨rfl, rfl, rfl, rfl, rfl, rfl⟩

example : Exact.mapLoopFlag ToyOps (fun a => a.map (· + 1)) ⟨([] : List (List Nat)), true⟩ = ⟨[], true⟩ := rfl
example : (Exact.mapLoopFlag ToyOps (fun a => a.map (· + 1)) ⟨([[1]] : List (List Nat)), true⟩).reduced = false := rfl

/-! ## `BGP99_heuristics_assign` and the BHZ03 driver -/

/-- **`bgp99_heuristics_spec`**: only the sequence is replaced (the flag of `x` stays); every new
    disjunct is either an old disjunct of `x` containing no disjunct of `y`, or `widen(pi, pj)` for a
    pair `pj ⊆ pi`; if no disjunct of `x` contains a disjunct of `y` nothing changes; omega-reduction
    is preserved when the widening never returns bottom on a non-bottom first argument. -/
theorem bgp99_heuristics_spec (o : Exact.PolyOps) (w : o.D → o.D → o.D) (x y : Exact.PS o.D) :
    (Exact.bgp99HeuristicsAssign o w x y).reduced = x.reduced ∧
    (∀ v ∈ (Exact.bgp99HeuristicsAssign o w x y).seq,
      (v ∈ x.seq ∧ y.seq.any (o.contains v) = false) ∨
      ∃ pi ∈ x.seq, ∃ pj ∈ y.seq, o.contains pi pj = true ∧ v = w pi pj) ∧
    ((∀ pi ∈ x.seq, y.seq.any (o.contains pi) = false) → (Exact.bgp99HeuristicsAssign o w x y).seq = x.seq) ∧
    ((∀ a b, o.isBottom a = false → o.isBottom (w a b) = false) → Exact.Inv o.toOps x →
      Exact.Inv o.toOps (Exact.bgp99HeuristicsAssign o w x y)) :=
  ⟨(Exact.bgp99HeuristicsAssign_shape o w x y).1, (Exact.bgp99HeuristicsAssign_shape o w x y).2.1,
   Exact.bgp99HeuristicsAssign_none o w x y, fun hw hx => Exact.bgp99HeuristicsAssign_inv o w x y hw hx⟩

/-- the control flow of `bhz03WideningAssign`: conditions and candidate results abstracted, `m` the final
    `match` on the outcome of the third technique -/
theorem driver_cases {α : Type} (c1 c2 c3 c4 c5 c6 c7 c8 : Prop) [Decidable c1] [Decidable c2] [Decidable c3]
    [Decidable c4] [Decidable c5] [Decidable c6] [Decidable c7] [Decidable c8] (x b rb a s r : α)
    (m : Option α → α) (hs : ∀ v, m (some v) = v) (hn : m none = if c8 then a else s)
    (hr : r = if c1 then x else if c2 then x else if c3 then x else if c4 then b else
      m (if c5 then (if c6 then some b else if c7 then some rb else none) else none)) :
    r = x ∨ r = b ∨ r = rb ∨ r = a ∨ r = s := by
  subst hr
  by_cases h1 : c1; · exact Or.inl (if_pos h1)
  by_cases h2 : c2; · exact Or.inl (by rw [if_neg h1, if_pos h2])
  by_cases h3 : c3; · exact Or.inl (by rw [if_neg h1, if_neg h2, if_pos h3])
  by_cases h4 : c4; · exact Or.inr (Or.inl (by rw [if_neg h1, if_neg h2, if_neg h3, if_pos h4]))
  rw [if_neg h1, if_neg h2, if_neg h3, if_neg h4]
  have hnone : m none = x ∨ m none = b ∨ m none = rb ∨ m none = a ∨ m none = s := by
    rw [hn]; by_cases h8 : c8
    · exact Or.inr (Or.inr (Or.inr (Or.inl (if_pos h8))))
    · exact Or.inr (Or.inr (Or.inr (Or.inr (if_neg h8))))
  by_cases h5 : c5
  · rw [if_pos h5]
    by_cases h6 : c6; · rw [if_pos h6, hs]; exact Or.inr (Or.inl rfl)
    by_cases h7 : c7; · rw [if_neg h6, if_pos h7, hs]; exact Or.inr (Or.inr (Or.inl rfl))
    rw [if_neg h6, if_neg h7]; exact hnone
  · rw [if_neg h5]; exact hnone

/-- **`bhz03_driver_shape`**: `BHZ03_widening_assign` returns one of: `x` unchanged (empty `y`, or a
    certificate already stabilizing), the BGP99 heuristics result, its pairwise reduction, `x` plus one
    disjunct (fourth technique), or the singleton of the hull of `x`. -/
theorem bhz03_driver_shape (o : Exact.PolyOps) (P : Exact.BHZ03Par o) (x y : Exact.PS o.D) :
    let r := Exact.bhz03WideningAssign o P x y
    let b := Exact.bgp99HeuristicsAssign o P.widen x y
    r = x ∨ r = b ∨ r = Exact.pairwiseReduce o false b ∨
    r = Exact.addDisjunct o.toOps x
          (P.diff (P.widen (Exact.hullOf o P.bot b.seq) (Exact.hullOf o P.bot y.seq)) (Exact.hullOf o P.bot b.seq)) ∨
    r = ⟨[Exact.hullOf o P.bot x.seq], false⟩ := by
  exact driver_cases _ _ _ _ _ _ _ _ _ _ _ _ _ _
    (fun t => match t with | some v => v | none => _) (fun _ => rfl) rfl rfl

-- with an empty previous iterate nothing is done
example (P : Exact.BHZ03Par (K1Poly.ops fun _ => false)) (x : Exact.PS K1Poly.D) :
    Exact.bhz03WideningAssign (K1Poly.ops fun _ => false) P x ⟨[], true⟩ = x := rfl

/-! ## the `reduced` flag is sound along every sequence of operations -/

/-- facts about an exact polyhedral domain the flag arguments need; all follow from K5 -/
theorem isPreorder_of_exact (d : ExactDom) : Exact.IsPreorder d.toDom.ops where
  refl a := (d.leq_iff a a).mpr fun _ h => h
  trans a b c h1 h2 := (d.leq_iff a c).mpr fun p hp => (d.leq_iff b c).mp h2 p ((d.leq_iff a b).mp h1 p hp)

theorem join_above (d : ExactDom) (a b : d.D) : d.leq a (d.join a b) = true :=
  (d.leq_iff a _).mpr fun p hp => d.join_sound a b p (Or.inl hp)

theorem bottom_down (d : ExactDom) (a b : d.D) (h : d.leq a b = true) (hb : d.isBottom b = true) :
    d.isBottom a = true :=
  (d.isBottom_iff a).mpr fun p hp => (d.isBottom_iff b).mp hb p ((d.leq_iff a b).mp h p hp)

theorem ub_nonbottom (d : PolyDom) (a b u : d.D) (h : d.ubIfExact a b = some u) (ha : d.isBottom a = false) :
    d.isBottom u = false := by
  cases hu : d.isBottom u with
  | false => rfl
  | true =>
    exfalso
    have : d.isBottom a = true := (d.isBottom_iff a).mpr fun p hp =>
      (d.isBottom_iff u).mp hu p ((d.ubIfExact_spec a b u h p).mpr (Or.inl hp))
    rw [ha] at this; cases this

theorem top_nonbottom (d : ExactDom) : d.isBottom d.top = false := by
  cases h : d.isBottom d.top with
  | false => rfl
  | true => exact absurd (d.top_spec (fun _ => 0)) ((d.isBottom_iff d.top).mp h _)

/-- the operations of a history on ONE powerset (binary operations carry their argument) -/
inductive Op (d : PolyDom) where
  | omegaReduce | pairwiseReduce | collapse | isUniverse | isOmegaReduced | queryReduces
  | collapseMax (m : Nat)
  | addDisjunct (z : d.D)
  | lub (y : Exact.PS d.D)
  | meet (y : Exact.PS d.D)
  | diff (y : Exact.PS d.D)
  | diffVia (back : d.D → d.D) (y : Exact.PS d.D)
  | simplify (y : Exact.PS d.D)
  | mapSetFlag (f : d.D → d.D)
  | mapLoopFlag (f : d.D → d.D)
  | mapKeepFlag (f : d.D → d.D)
  | foldDims (nonempty : Bool) (f : d.D → d.D)
  | mapSpaceDims (f : d.D → d.D)
  | concat (conc : d.D → d.D → d.D) (y : Exact.PS d.D)
  | bgp99 (w : d.D → d.D → d.D) (y : Exact.PS d.D)

/-- the new state of the receiver -/
def Op.apply {d : PolyDom} (isTop : d.D → Bool) : Op d → Exact.PS d.D → Exact.PS d.D
  | .omegaReduce, x => Exact.omegaReduce d.toDom.ops false x
  | .pairwiseReduce, x => Exact.pairwiseReduce (d.ops isTop) false x
  | .collapse, x => Exact.collapse d.toDom.ops x
  | .isUniverse, x => (Exact.isUniverse (d.ops isTop) x).2
  | .isOmegaReduced, x => (Exact.isOmegaReduced d.toDom.ops x).1
  | .queryReduces, x => Exact.queryReduces d.toDom.ops x
  | .collapseMax m, x => Exact.collapseMax d.toDom.ops false m x
  | .addDisjunct z, x => Exact.addDisjunct d.toDom.ops x z
  | .lub y, x => (Exact.lub d.toDom.ops false x y).1
  | .meet y, x => (Exact.meetAssign d.toDom.ops false x y).1
  | .diff y, x => (Exact.psDiff (d.ops isTop) false x y).1
  | .diffVia back y, x => (Exact.psDiffVia (d.ops isTop) back x y).1
  | .simplify y, x => (Exact.simplifyCtx (d.ops isTop) false x y).1
  | .mapSetFlag f, x => Exact.mapSetFlag d.toDom.ops f x
  | .mapLoopFlag f, x => Exact.mapLoopFlag d.toDom.ops f x
  | .mapKeepFlag f, x => Exact.mapKeepFlag d.toDom.ops f x
  | .foldDims b f, x => Exact.foldDims d.toDom.ops b f x
  | .mapSpaceDims f, x => Exact.mapSpaceDimensions d.toDom.ops false f x
  | .concat conc y, x => (Exact.concatenateAssign d.toDom.ops conc x y).1
  | .bgp99 w y, x => Exact.bgp99HeuristicsAssign (d.ops isTop) w x y

/-- side conditions: arguments satisfy the invariant themselves; a flag-keeping transformer
    preserves and reflects inclusion and emptiness (embedding / projection / expansion do); the
    concatenation orders pairs componentwise; the widening of a non-empty element is non-empty -/
def Op.Good {d : PolyDom} : Op d → Prop
  | .lub y | .meet y | .diff y | .diffVia _ y | .simplify y => Exact.Inv d.toDom.ops y
  | .mapKeepFlag f => (∀ a b, d.leq (f a) (f b) = d.leq a b) ∧ (∀ a, d.isBottom (f a) = d.isBottom a)
  | .concat conc y => Exact.Inv d.toDom.ops y ∧
      (∀ a a' b b', d.isBottom a = false → d.isBottom b = false →
        d.leq (conc a b) (conc a' b') = (d.leq a a' && d.leq b b')) ∧
      (∀ a b, d.isBottom a = false → d.isBottom b = false → d.isBottom (conc a b) = false)
  | .bgp99 w _ => ∀ a b, d.isBottom a = false → d.isBottom (w a b) = false
  | _ => True

/-- one operation preserves the invariant -/
theorem op_preserves_inv (d : PolyDom) (isTop : d.D → Bool) (op : Op d) (hg : op.Good)
    (x : Exact.PS d.D) (hx : Exact.Inv d.toDom.ops x) : Exact.Inv d.toDom.ops (op.apply isTop x) := by
  have hp := isPreorder_of_exact d.toExactDom
  have hj : ∀ a b, d.toDom.ops.leq a (d.toDom.ops.join a b) = true := join_above d.toExactDom
  have hb : ∀ a b, d.toDom.ops.leq a b = true → d.toDom.ops.isBottom b = true → d.toDom.ops.isBottom a = true :=
    bottom_down d.toExactDom
  have hom : ∀ y : Exact.PS d.D, Exact.Inv d.toDom.ops y → Exact.Inv d.toDom.ops (Exact.omegaReduce d.toDom.ops false y) :=
    fun y hy => Exact.omegaReduce_inv d.toDom.ops y hy
  cases op with
  | omegaReduce => exact hom x hx
  | pairwiseReduce => exact Exact.pairwiseReduce_inv (d.ops isTop) false x (ub_nonbottom d) hom hx
  | collapse => exact Exact.collapse_inv d.toDom.ops hp hj hb x hx
  | isUniverse => exact Exact.isUniverse_inv (d.ops isTop) x (top_nonbottom d.toExactDom) hx
  | isOmegaReduced => exact Exact.isOmegaReduced_inv d.toDom.ops x hx
  | queryReduces => exact hom x hx
  | collapseMax m => exact Exact.collapseMax_inv d.toDom.ops hp hj hb m x hx
  | addDisjunct z => exact Exact.addDisjunct_inv d.toDom.ops x z
  | lub y => exact (Exact.lub_inv d.toDom.ops x y hx hg).1
  | meet y => exact (Exact.meetAssign_inv d.toDom.ops false x y hom hg).1
  | diff y => exact (Exact.psDiff_inv (d.ops isTop) false x y hom hg).1
  | diffVia back y => exact (Exact.psDiffVia_inv (d.ops isTop) back x y hg).1
  | simplify y => exact (Exact.simplifyCtx_inv (d.ops isTop) false x y hom hx hg).1
  | mapSetFlag f => exact Exact.mapSetFlag_inv d.toDom.ops f x
  | mapLoopFlag f => exact Exact.mapLoopFlag_inv d.toDom.ops f x
  | mapKeepFlag f => exact Exact.mapKeepFlag_inv d.toDom.ops f x hg.1 hg.2 hx
  | foldDims b f => exact Exact.foldDims_inv d.toDom.ops b f x (fun _ => hx)
  | mapSpaceDims f => exact Exact.mapSpaceDimensions_inv d.toDom.ops false f x
  | concat conc y => exact (Exact.concatenateAssign_inv d.toDom.ops conc x y hg.2.1 hg.2.2 hom hx hg.1).1
  | bgp99 w y => exact Exact.bgp99HeuristicsAssign_inv (d.ops isTop) w x y hg hx

/-- the argument of a binary operation is left in a state satisfying the invariant, too -/
theorem op_argument_inv (d : PolyDom) (isTop : d.D → Bool) (x y : Exact.PS d.D)
    (hx : Exact.Inv d.toDom.ops x) (hy : Exact.Inv d.toDom.ops y) :
    Exact.Inv d.toDom.ops (Exact.lub d.toDom.ops false x y).2 ∧
    Exact.Inv d.toDom.ops (Exact.meetAssign d.toDom.ops false x y).2 ∧
    Exact.Inv d.toDom.ops (Exact.psDiff (d.ops isTop) false x y).2 ∧
    Exact.Inv d.toDom.ops (Exact.simplifyCtx (d.ops isTop) false x y).2.1 := by
  have hom : ∀ y : Exact.PS d.D, Exact.Inv d.toDom.ops y → Exact.Inv d.toDom.ops (Exact.omegaReduce d.toDom.ops false y) :=
    fun y hy => Exact.omegaReduce_inv d.toDom.ops y hy
  exact ⟨(Exact.lub_inv d.toDom.ops x y hx hy).2.1, (Exact.meetAssign_inv d.toDom.ops false x y hom hy).2,
    (Exact.psDiff_inv (d.ops isTop) false x y hom hy).2, (Exact.simplifyCtx_inv (d.ops isTop) false x y hom hx hy).2⟩

/-- **`reduced_flag_sound`**: start from any state satisfying the invariant (every constructor
    does: the empty powerset and the universe are flagged reduced and are; everything else starts
    with the flag clear) and apply ANY sequence of operations: whenever the model has the flag set,
    the sequence is omega-reduced (no bottom, no disjunct entailing another). -/
theorem reduced_flag_sound (d : PolyDom) (isTop : d.D → Bool) (ops : List (Op d)) (hg : ∀ op ∈ ops, op.Good)
    (x0 : Exact.PS d.D) (h0 : Exact.Inv d.toDom.ops x0) :
    Exact.Inv d.toDom.ops (ops.foldl (fun x op => op.apply isTop x) x0) := by
  induction ops generalizing x0 with
  | nil => exact h0
  | cons op rest ih =>
    exact ih (fun o ho => hg o (List.mem_cons_of_mem _ ho)) _
      (op_preserves_inv d isTop op (hg op List.mem_cons_self) x0 h0)

/-- the constructors: `Powerset()` / `Pointset_Powerset(n, EMPTY)`, `(n, UNIVERSE)`, and `add_disjunct` -/
theorem constructors_inv (d : PolyDom) (z : d.D) (x : Exact.PS d.D) :
    Exact.Inv d.toDom.ops ⟨[], true⟩ ∧ Exact.Inv d.toDom.ops ⟨[d.top], true⟩ ∧
    Exact.Inv d.toDom.ops (Exact.addDisjunct d.toDom.ops x z) := by
  refine ⟨fun _ => ⟨by simp, by simp [Exact.Antichain]⟩, fun _ => ⟨?_, List.pairwise_singleton _ _⟩,
    Exact.addDisjunct_inv d.toDom.ops x z⟩
  intro a ha
  have : a = d.top := List.mem_singleton.mp ha
  rw [this]
  exact top_nonbottom d.toExactDom

section K1
open PPLV.Lin
-- a history on the K1 instance: add two equal disjuncts and a third one, take an upper bound, reduce
example : Exact.Inv K1Poly.toDom.ops
    ([Op.addDisjunct [geC 0], Op.addDisjunct [geC 0, geC (-1)], Op.lub ⟨[[leC 5]], false⟩, Op.omegaReduce].foldl
      (fun x op => Op.apply k1IsTop op x) ⟨[], true⟩) :=
  reduced_flag_sound K1Poly k1IsTop _ (by
    intro op hop
    simp only [List.mem_cons, List.not_mem_nil, or_false] at hop
    rcases hop with rfl | rfl | rfl | rfl
    · trivial
    · trivial
    · intro h; cases h
    · trivial) _ (constructors_inv K1Poly [] ⟨[], true⟩).1
end K1

/-! ## union-level theorems of `Props/C09.lean`, restated for the replayed model -/

theorem omega_reduce_union_exact (d : Dom) (x : Exact.PS d.D) :
    (⋃ z ∈ (Exact.omegaReduce d.ops false x).seq, Γ d z) = ⋃ z ∈ x.seq, Γ d z :=
  union_eq_of_iff d _ _ fun p => Exact.omegaReduce_U' d x p

theorem meet_union_exact (d : ExactDom) (x y : Exact.PS d.D) :
    (⋃ z ∈ (Exact.meetAssign d.toDom.ops false x y).1.seq, Γ d.toDom z)
      = (⋃ z ∈ x.seq, Γ d.toDom z) ∩ ⋃ z ∈ y.seq, Γ d.toDom z :=
  union_eq_inter_of_iff d.toDom _ _ _ fun p =>
    Exact.pairwiseApply_exact_U' d.toDom d.meet (fun a b q => d.meet_exact a b q) x y p

/-- the difference of the non-NNC instantiations (through NNC copies, pieces converted back by an
    enlarging `back`, e.g. the topological closure) contains the exact difference -/
theorem difference_via_contains (d : PolyDom) (isTop : d.D → Bool) (back : d.D → d.D)
    (hb : ∀ a p, d.γ a p → d.γ (back a) p) (x y : Exact.PS d.D) :
    ((⋃ z ∈ x.seq, Γ d.toDom z) \ ⋃ z ∈ y.seq, Γ d.toDom z)
      ⊆ ⋃ z ∈ (Exact.psDiffVia (d.ops isTop) back x y).1.seq, Γ d.toDom z := by
  intro p hp
  rw [Set.mem_sdiff, mem_union, mem_union] at hp
  exact (mem_union d.toDom _ p).mpr (Exact.psDiffVia_U d isTop back hb x y p hp)

end C09

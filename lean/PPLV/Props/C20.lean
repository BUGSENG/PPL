import PPLV.CIface.Proofs

/-!
# C20 — the C interface is a faithful, exception-tight wrapper of the C++ library

Every theorem below quantifies over `PPLV.Gen.cEntryPoints`, the table of *all* `extern "C"` entry
points that `gen/c20_table.py` regenerates from the clang AST of `interfaces/C/*.cc` at every run
(≈ 1990 rows), over `PPLV.Gen.catchAll` (the handler list `CATCH_ALL` expands to) and over
`PPLV.Gen.errorCodes` (`enum ppl_enum_error_code` of `ppl_c.h`).  The quantifiers are finite, so
kernel evaluation (`decide +kernel`) *is* the proof; no name (`String`) is ever evaluated.

What the table cannot express (that the C++ operation behind a wrapper computes the right set)
is covered by the correspondence harness `harness/c20_ciface.cc`.
-/

namespace C20
open PPLV.CIface PPLV.Gen

private abbrev of_chunks := @forall_of_chunks

/-- The table really has the advertised size (so none of the sweeps below is vacuous). -/
theorem table_size : cEntryPoints.length = numEntryPoints ∧ 1800 ≤ numEntryPoints := by
  decide +kernel

/-! ### error codes -/

/-- `enum ppl_enum_error_code` of the current `ppl_c.h` has exactly the documented values, in the
documented order (−2 … −12; the codes are part of the ABI). -/
theorem error_codes_documented : errorCodes = documentedEnum := by decide +kernel

example : PPL_ARITHMETIC_OVERFLOW ∈ errorCodes := by decide +kernel

/-! ### handler selection -/

theorem excClass_all_complete : ∀ e : ExcClass, e ∈ ExcClass.all := by
  intro e; cases e <;> decide

/-- **dispatch_correct.**  Whatever class of exception the wrapped operation throws, the handler
that C++ selects among the clauses of `CATCH_ALL` (first clause whose class is a base of the thrown
class) is well formed, calls `notify_error` with the documented code *before* returning, returns
that same documented code, and — for the two timeout classes — first disarms the matching timeout
object.  In particular `overflow_error` is not shadowed by `runtime_error`, and
`invalid_argument` / `domain_error` / `length_error` are not shadowed by `logic_error`. -/
theorem dispatch_correct : ∀ e ∈ ExcClass.all,
    observe catchAll e
      = .returned (some (documentedCode e)) (some (documentedCode e)) (documentedReset e) true := by
  decide +kernel

theorem dispatch_correct_all (e : ExcClass) :
    observe catchAll e
      = .returned (some (documentedCode e)) (some (documentedCode e)) (documentedReset e) true :=
  dispatch_correct e (excClass_all_complete e)

/-- No class of exception escapes a `CATCH_ALL`. -/
theorem catch_all_total (e : ExcClass) : observe catchAll e ≠ .escapes := by
  rw [dispatch_correct_all e]; exact fun h => Observed.noConfusion h

-- non-vacuity: the two shadowing hazards are real distinctions of the model
example : isBase .runtimeError .overflowError = true ∧ documentedCode .overflowError ≠ documentedCode .runtimeError := by
  decide
example : isBase .logicError .invalidArgument = true ∧ documentedCode .invalidArgument ≠ documentedCode .logicError := by
  decide
example : (dispatch catchAll .overflowError).map (·.ret) = some (some PPL_ARITHMETIC_OVERFLOW) := by decide +kernel
/-- a handler list with `runtime_error` first would be rejected by the same statement -/
example : observe [⟨.cls .runtimeError, true, some (-8), some (-8), .none, true⟩,
                   ⟨.cls .overflowError, true, some (-6), some (-6), .none, true⟩] .overflowError
    ≠ .returned (some (documentedCode .overflowError)) (some (documentedCode .overflowError)) .none true := by
  decide

/-! ### exception tightness -/

/-- **all_tight (partial).**  Every entry point whose C return type is `int` either has a
function-try-block closed by exactly the clauses of `CATCH_ALL`, or its body contains no call-like
node at all (no call, construction, `new`, `delete`, `throw`, `dynamic_cast`, `typeid`) and hence
cannot throw.

Missing for the full statement: the hypothesis `f.retInt`.  The unchanged tree has one entry
point that returns `char*` (`ppl_io_wrap_string`): it has no try block and builds a `std::string`
(see `all_tight_verdict`, finding KF-C20-1). -/
theorem all_tight_partial : ∀ f ∈ cEntryPoints, f.retInt = true →
    (f.tryBlock = true ∧ f.catchClauses catchVariants = catchAll) ∨ f.cannotThrow = true := by
  intro f hf hr
  have h := of_chunks (fun f => !f.retInt || f.tight catchVariants catchAll) (by decide +kernel) f hf
  simp [hr, EntryPoint.tight] at h
  exact h

/-- **all_tight**, full strength: every entry point — whatever it returns — is closed by exactly the
clauses of `CATCH_ALL`, or cannot throw, or (pointer-returning) is closed by handlers that catch every
class, notify the error handler with the documented code of their class and return the null pointer. -/
def AllTight : Prop := ∀ f ∈ cEntryPoints, f.tightFull catchVariants catchAll = true

/-- Which way `AllTight` goes on the regenerated table, with its proof.  On the unchanged tree:
`fails` (`ppl_io_wrap_string`, finding KF-C20-1); the same text yields `holds` once that is repaired. -/
def all_tight_verdict : Verdict AllTight := by
  first
  | exact .holds (of_chunks (fun f => f.tightFull catchVariants catchAll) (by decide +kernel))
  | exact .fails (fun h => by
      have hw : cEntryPoints.any (fun f => !f.tightFull catchVariants catchAll) = true := by decide +kernel
      rcases List.any_eq_true.mp hw with ⟨f, hf, hnt⟩
      simp [h f hf] at hnt)

/-- The only entry points without a try block that still satisfy tightness are call-free. -/
theorem untried_cannot_throw : ∀ f ∈ cEntryPoints, f.retInt = true → f.tryBlock = false →
    f.calls = 0 ∧ f.throws = 0 ∧ f.news = 0 := by
  intro f hf hr ht
  rcases all_tight_partial f hf hr with ⟨h1, _⟩ | h
  · simp [ht] at h1
  · simpa [EntryPoint.cannotThrow, and_assoc] using h

/-- **boundary.**  End-to-end form: for every `int`-returning entry point that can throw at all and
every class of exception, the C caller observes the documented error code, after the error
handler has been invoked with that code (and after the matching timeout has been disarmed). -/
theorem boundary : ∀ f ∈ cEntryPoints, f.retInt = true → f.cannotThrow = false → ∀ e : ExcClass,
    observe (f.catchClauses catchVariants) e
      = .returned (some (documentedCode e)) (some (documentedCode e)) (documentedReset e) true := by
  intro f hf hr hc e
  rcases all_tight_partial f hf hr with ⟨_, h2⟩ | h
  · rw [h2]; exact dispatch_correct_all e
  · simp [hc] at h

-- non-vacuity: almost every row is in the scope of `boundary`
example : 1800 ≤ (cEntryPoints.filter (fun f => f.retInt && !f.cannotThrow && f.tryBlock)).length := by
  decide +kernel
example : (cEntryPoints.filter (fun f => !f.tryBlock)).length ≤ 2 := by decide +kernel

/-! ### const handles -/

/-- **const_handles.**  A parameter of const-handle type `ppl_const_T_t` is only ever converted with
`to_const` (whose result is a pointer to `const`) or forwarded to a const-handle parameter of
another entry point — never `to_nonconst`, never forwarded as a non-const handle, never used in any
other expression — and no entry point contains a cast that removes `const` from a pointer or
reference (`const_cast`, C-style, `reinterpret_cast`, functional). -/
theorem const_handles : ∀ f ∈ cEntryPoints,
    (∀ p ∈ f.params, p.isConstHandle = true → p.toNonconst = 0 ∧ p.passNonconst = 0 ∧ p.other = 0)
    ∧ f.constCasts = 0 := by
  intro f hf
  have h := of_chunks (fun f => f.constOK) (by decide +kernel) f hf
  simp [EntryPoint.constOK, List.all_eq_true, Param.constRespected] at h
  refine ⟨fun p hp hc => ?_, h.2⟩
  have := h.1 p hp
  simpa [hc, and_assoc] using this

example : 2000 ≤ ((cEntryPoints.flatMap (·.params)).filter Param.isConstHandle).length := by decide +kernel
example : ∃ f ∈ cEntryPoints, ∃ p ∈ f.params, p.kind = .handle ∧ 0 < p.toNonconst := by
  decide +kernel

/-! ### Boolean answers and return convention -/

/-- **bool_wrappers.**  Every `c ? t : e` with integer-literal branches in any entry point (returned
or stored through an `int*` out-parameter) has `t = 1`, `e = 0` and an un-negated C++ `bool`
condition; a `bool` returned through the implicit conversion is un-negated as well. -/
theorem bool_wrappers : ∀ f ∈ cEntryPoints,
    (∀ t ∈ f.terns, t.neg = false ∧ t.t = 1 ∧ t.e = 0) ∧ (∀ r ∈ f.rets, r.faithful = true) := by
  intro f hf
  have h := of_chunks (fun f => f.boolOK) (by decide +kernel) f hf
  simp [EntryPoint.boolOK, List.all_eq_true, Tern.faithful] at h
  exact ⟨fun t ht => by have := h.1 t ht; simpa [and_assoc] using this, h.2⟩

/-- **return_convention.**  A status wrapper returns literal `0`, a member of
`enum ppl_enum_error_code`, or the status of the entry point it delegates to; a Boolean wrapper
additionally `0`/`1` or a faithful Boolean. -/
theorem return_convention : ∀ f ∈ cEntryPoints, f.retOK errorCodes = true :=
  of_chunks (fun f => f.retOK errorCodes) (by decide +kernel)

example : 350 ≤ (cEntryPoints.filter (fun f => f.retConv == .bool)).length := by decide +kernel
example : 400 ≤ (cEntryPoints.flatMap (·.terns)).length := by decide +kernel

/-- **silent_errors (partial).**  Outside the `ppl_io_*` family the only error code an entry point
returns directly (i.e. not from a `CATCH_ALL` handler, hence without calling `notify_error`) is
`PPL_STDIO_ERROR`, which is not one of the conditions the error handler is promised for.

Missing for the full statement: the hypothesis `f.kind ≠ .io`; see `silent_errors_verdict`
(finding KF-C20-3: `ppl_io_asprint_*` return `PPL_ERROR_OUT_OF_MEMORY` on a failed `strdup` without
invoking the handler). -/
theorem silent_errors_partial : ∀ f ∈ cEntryPoints, f.kind ≠ .io →
    ∀ c, Ret.err c ∈ f.rets → c = PPL_STDIO_ERROR := by
  intro f hf hk c hc
  have h := of_chunks (fun f => f.kind == .io || f.rets.all (Ret.silentOnly [PPL_STDIO_ERROR]))
    (by decide +kernel) f hf
  simp [hk, List.all_eq_true] at h
  simpa [Ret.silentOnly] using h _ hc

/-- **silent_errors**, full strength: `PPL_STDIO_ERROR` is the only code any entry point returns
directly without having called the error handler. -/
def SilentErrors : Prop := ∀ f ∈ cEntryPoints, f.rets.all (Ret.silentOnly [PPL_STDIO_ERROR]) = true

/-- On the unchanged tree: `fails` (finding KF-C20-3). -/
def silent_errors_verdict : Verdict SilentErrors := by
  first
  | exact .holds (of_chunks (fun f => f.rets.all (Ret.silentOnly [PPL_STDIO_ERROR])) (by decide +kernel))
  | exact .fails (fun h => by
      have hw : cEntryPoints.any (fun f => !f.rets.all (Ret.silentOnly [PPL_STDIO_ERROR])) = true := by
        decide +kernel
      rcases List.any_eq_true.mp hw with ⟨f, hf, hnt⟩
      simp [h f hf] at hnt)

/-! ### timeouts leave the handles usable -/

/-- **timeout_disarmed (partial).**  When the wall-clock timeout armed by `ppl_set_timeout` expires,
the handler selected for the registered exception class deletes exactly the armed object and
clears `abandon_expensive_computations`, so the interrupted handle (and every other) is usable
again.

Missing for the full statement: the hypothesis `s.object = .timeout`; see
`timeout_disarmed_verdict` (finding KF-C20-2: `ppl_set_deterministic_timeout` registers a
`timeout_exception` object, so `reset_timeout()` runs instead of `reset_deterministic_timeout()`). -/
theorem timeout_disarmed_partial : ∀ s ∈ timeoutSetters, s.object = .timeout →
    disarmed catchAll resetFns s = true := by
  decide +kernel

/-- **timeout_disarmed**, full strength: both timeouts. -/
def TimeoutDisarmed : Prop := ∀ s ∈ timeoutSetters, disarmed catchAll resetFns s = true

/-- On the unchanged tree: `fails` (finding KF-C20-2). -/
def timeout_disarmed_verdict : Verdict TimeoutDisarmed := by
  first
  | exact .holds (by unfold TimeoutDisarmed; decide +kernel)
  | exact .fails (by unfold TimeoutDisarmed; decide +kernel)

example : timeoutSetters.length = 2 ∧ resetFns.length = 2 := by decide +kernel

/-! ### object life cycle -/

/-- **delete_once.**  Each `ppl_delete_*` contains exactly one `delete` expression, applied to the
conversion of its first (handle) parameter; no other entry point contains a `delete`. -/
theorem delete_once : ∀ f ∈ cEntryPoints, f.deleteOK = true :=
  of_chunks (fun f => f.deleteOK) (by decide +kernel)

theorem delete_once_spec : ∀ f ∈ cEntryPoints,
    (f.kind = .delete → f.deleteArgs = [1]) ∧ (f.kind ≠ .delete → f.deleteArgs = []) := by
  intro f hf
  have h := delete_once f hf
  unfold EntryPoint.deleteOK at h
  constructor
  · intro hk; rw [hk] at h; simp at h; exact h.1
  · intro hk
    cases hk' : f.kind <;> rw [hk'] at h <;> simp_all [List.isEmpty_iff]

/-- Every handle type that some `ppl_new_*` creates has a `ppl_delete_*`. -/
theorem new_has_delete : ∀ f ∈ cEntryPoints, f.kind = .new →
    ∃ g ∈ cEntryPoints, g.kind = .delete ∧ g.cls = f.cls := by
  intro f hf hk
  have h := of_chunks (hasDeleteFor (cEntryPoints.filter EntryPoint.isDelete)) (by decide +kernel) f hf
  unfold hasDeleteFor at h
  have hn : f.isNew = true := by simp [EntryPoint.isNew, hk]
  rw [hn] at h
  simp only [Bool.not_true, Bool.false_or] at h
  rcases List.any_eq_true.mp h with ⟨g, hg, hc⟩
  have hg' := List.mem_filter.mp hg
  exact ⟨g, hg'.1, by simpa [EntryPoint.isDelete] using hg'.2, by simpa using hc⟩

example : 30 ≤ (cEntryPoints.filter EntryPoint.isDelete).length := by decide +kernel
example : 400 ≤ (cEntryPoints.filter EntryPoint.isNew).length := by decide +kernel

/-! ### the wrapped operation is the one the name promises -/

/-- **wraps_named_method.**  For every entry point to which the naming table
(`gen/c20_naming.json`: identity on the operation part of the name, plus the listed exceptions such
as `equals_T ↦ operator==`, `get_constraints ↦ constraints`, `new_T_… ↦ new T`) attaches a
promise, the promised C++ callee is among the functions its try body calls. -/
theorem wraps_named_method : ∀ f ∈ cEntryPoints, f.promised = 0 ∨ f.promised ∈ f.callees := by
  intro f hf
  have h := of_chunks (fun f => f.namedOK) (by decide +kernel) f hf
  simpa [EntryPoint.namedOK] using h

example : 1800 ≤ (cEntryPoints.filter (fun f => f.promised != 0)).length := by decide +kernel

end C20

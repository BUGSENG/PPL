import PPLV.Solver.PendingProofsIncrStep
import PPLV.Props.C06TabOracle

/-!
# branch-and-bound over the modelled simplex with INCREMENTAL re-solving, no oracle hypothesis

`modelOracleIncr fc fuel k` (executable, `PPLV/Solver/PendingOracleIncr.lean`): a node is solved by building the
`MIP_Problem` of its first `min k rows.length` rows, `is_lp_satisfiable()` + `second_phase()`, and then, for each
remaining row in order, `add_constraint`, `is_lp_satisfiable()` (an INCREMENTAL `process_pending_constraints`:
re-merging, old rows, rows combined against the base, …), `second_phase()`; UNSATISFIABLE is sticky.  This is how
the real `solve_mip` treats the branching constraints of a child (`k = rows.length − 1`).
`model_oracle_incr_ok`: this oracle satisfies `BB.OracleOK` for every `k` and every candidate-choosing pricing
rule; `solve_mip_end_to_end_incremental`: hence `solveTop` over it returns the true MIP answer.
Not covered: termination (fuels), zero-dimensional nodes (`none`).
-/
namespace C06
open PPLV.Lin PPLV.Solver PPLV.Solver.BB PPLV.Solver.Pend

/-- one step `add_constraint(c); is_lp_satisfiable(); second_phase()` from a solved state (`SolvedInv`: everything
    processed, `ReadyS`) answers correctly about the enlarged constraint system and re-establishes `SolvedInv` -/
theorem incremental_step_correct (fc : Chooser) (hfc : ChooserOK fc) : IncrStepSpec fc := incr_step_spec fc hfc

/-- **the incrementally re-solving oracle induced by the LP machinery model is correct**, for every split point
    `k` and every pricing rule returning candidates -/
theorem model_oracle_incr_ok (fc : Chooser) (hfc : ChooserOK fc) (fuel k : Nat) :
    OracleOK (modelOracleIncr fc fuel k) :=
  modelOracleIncr_ok fc hfc (incr_step_spec fc hfc) fuel k

/-- **END TO END with incremental re-solving, no oracle hypothesis**: branch-and-bound over the modelled two-phase
    simplex where each node's last rows are added one by one to an already solved problem: when it returns, the
    answer is the true one (as in `solve_mip_end_to_end`). -/
theorem solve_mip_end_to_end_incremental (fc : Chooser) (hfc : ChooserOK fc) (fuelLP fuelBB k : Nat) (N : Node)
    (hwf : N.toProblem.WF) (out : Outcome) (h : solveTop (modelOracleIncr fc fuelLP k) fuelBB N = some out) :
    match out with
    | .unfeasible => IsUnfeasible N.toProblem
    | .unbounded p => IsUnbounded N.toProblem ∧ Feasible N.toProblem p.val
    | .optimized v p => IsOptimum N.toProblem v ∧ Feasible N.toProblem p.val ∧ N.toProblem.objVal p.val = v := by
  have hs := solve_mip_sound (modelOracleIncr fc fuelLP k) (model_oracle_incr_ok fc hfc fuelLP k) N hwf fuelBB out h
  cases out <;> exact hs

-- max x0 + x1; x0 ≤ 2, x1 ≤ 3 solved first, then x0 + x1 ≤ 4 added incrementally
example : modelOracleIncr textbookChooser 50 2
    ⟨2, [⟨[-1, 0], 2, false⟩, ⟨[0, -1], 3, false⟩, ⟨[-1, -1], 4, false⟩], [], ⟨[1, 1], 0⟩, true⟩ =
    modelOracle textbookChooser 50
      ⟨2, [⟨[-1, 0], 2, false⟩, ⟨[0, -1], 3, false⟩, ⟨[-1, -1], 4, false⟩], [], ⟨[1, 1], 0⟩, true⟩ := by
  decide +kernel
-- the MIP of `C06TabOracle` (max x0, 1/2 ≤ x0 ≤ 3/2, x0 integer) with every child re-solved incrementally
example : solveTop (modelOracleIncr textbookChooser 50 1) 5
    ⟨1, [⟨[-2], 3, false⟩, ⟨[2], -1, false⟩], [0], ⟨[1], 0⟩, true⟩ = some (.optimized 1 ⟨[1], 1⟩) := by
  decide +kernel

end C06

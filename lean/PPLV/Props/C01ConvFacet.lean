import PPLV.Conv.ProofsCompleteFacetPoints2
/-!
# the facets of a minimised closed polyhedron hold points

What the H79 convergence theorems of C08 need beyond "DD pair in minimal form" (`C01ConvMinimal.lean`):
every inequality `minimize` returns that is not the positivity constraint in disguise is saturated by a
POINT it returns.  Ingredients (`PPLV/Conv/ProofsCompleteFacetPoints*.lean`): `back_substitute` leaves the
system REDUCED (the pivot column of an equality is zero in the equalities above it and in every inequality:
`simplify_result_reduced`); a linear form that is zero on the pivot columns and vanishes on the integer
solutions of a reduced system of equalities vanishes everywhere (`reduced_kernel_zero`); irredundancy and
completeness give a vector in the relative interior of the facet, so a facet without points lies in
`{x_0 = 0}` and its inequality is `λ·x_0` modulo the equalities — after back-substitution literally a
tautology (`facet_point_core`).
-/
namespace C01
open PPLV.Conv

/-- **`minimize_facet_points`** — `minimize(true, cs, gs, sat)` on a closed, non-empty polyhedron whose
constraints entail positivity: every inequality returned that is not a tautology (`c_0 ≥ 0`, all other
coefficients zero) is saturated by a generator returned that is not a line and has a positive divisor. -/
theorem minimize_facet_points (ncols : Nat) (source : List LRow) (sat0 : List BRow)
    (hsz : ncols < 2 ^ 64) (hsrc : source.length < 2 ^ 64)
    (hne : (minimize true false ncols source sat0).empty = false)
    (hpos : ∀ x : Vec, x.length ≤ ncols → holdsAll source x → 0 ≤ x.getD 0 0)
    (hlenF : ∀ s ∈ (minimize true false ncols source sat0).source, s.v.length ≤ ncols) :
    ∀ c ∈ (minimize true false ncols source sat0).source, c.le = false →
      ¬ ((∀ j, 1 ≤ j → c.v.getD j 0 = 0) ∧ 0 ≤ c.v.getD 0 0) →
      ∃ g ∈ (minimize true false ncols source sat0).dest, g.le = false ∧ 0 < g.v.getD 0 0 ∧
        scalarProduct c.v g.v = 0 :=
  PPLV.Conv.minimize_facet_points ncols source sat0 hsz hsrc hne hpos hlenF

/-- non-vacuity: the segment `0 ≤ x ≤ 3` with its positivity row: two non-tautological inequalities, two points. -/
example : (minimize true false 2 [⟨false, [0, 1]⟩, ⟨false, [3, -1]⟩, ⟨false, [1, 0]⟩] []).empty = false ∧
    (minimize true false 2 [⟨false, [0, 1]⟩, ⟨false, [3, -1]⟩, ⟨false, [1, 0]⟩] []).source.length = 2 ∧
    (∀ s ∈ (minimize true false 2 [⟨false, [0, 1]⟩, ⟨false, [3, -1]⟩, ⟨false, [1, 0]⟩] []).source, s.v.length ≤ 2) := by
  decide

/-- the reduced form `back_substitute` leaves (unconditional). -/
theorem simplify_result_reduced (ncols numColsSat : Nat) (sys : List SRow) :
    let F := (simplify ncols numColsSat sys).1
    let n := (simplify ncols numColsSat sys).2
    ∀ p, p < n →
      (F.getD p default).row.v.getD (lastNonzero (F.getD p default).row.v) 0 ≠ 0 ∧
      ∀ m, m < F.length → (m < p ∨ n ≤ m) →
        (F.getD m default).row.v.getD (lastNonzero (F.getD p default).row.v) 0 = 0 :=
  PPLV.Conv.simplify_result_reduced ncols numColsSat sys

example : (simplify 2 1 [⟨⟨true, [0, 1]⟩, [false]⟩, ⟨⟨false, [1, 1]⟩, [true]⟩]).1.map (·.row)
    = [⟨true, [0, 1]⟩, ⟨false, [1, 0]⟩] := by decide

end C01

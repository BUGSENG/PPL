import PPLV.Alloc.ProofsFuel
import PPLV.Alloc.Precond

/-!
# C14 — exceptional exits are clean

Property theorems only.  `Run.<machine> … pre k` is `runWithFaultAt`: the protocol run on a heap
with `pre` older live blocks and the `k`-th allocation event failing, unwound, and every surviving
object destroyed; `initialLive pre` is the live set before the call.

A machine without suffix follows the code with the repairs of `/verif/fixes/fix_c14_*.diff`; the
`…AsWritten` machines are the historical witnesses of the code as it was found.

* proved for every input and every `k` (full strength): the copy constructor and `operator=` of
  `CO_Tree` (`init` + `copy_data_from`; `operator=` also leaves a valid tree), `CO_Tree(Iterator, n)`
  with its handler, `Dense_Row` copy / `resize` / assignment from a sparse row (copy aside and
  swap), `Swapping_Vector::push_back`, the `Safe_Ptr`-guarded clone of a PIP solution tree,
  `MIP_Problem::add_constraint`, the `MIP_Problem` constructors with their handler;
* historical witnesses (`_as_written_fails` on a concrete input, `_as_written_partial` under the
  exact side condition, exact count of the leaked blocks): `CO_Tree(Iterator, n)` without handler,
  the `MIP_Problem` constructors that call `add_constraint_helper` from their body, `CO_Tree::init`
  leaving the cached end iterators dangling, `Dense_Row::operator=(const Sparse_Row&)` releasing
  its vector twice.
-/

namespace C14
open PPLV.Alloc

/-! ## CO_Tree -/

/-- `CO_Tree(const CO_Tree&)` = `init` + `copy_data_from`: for every source tree and every failing
event nothing leaks, nothing is freed twice. -/
theorem no_leak_cotree_copy (x : List Bool) (pre k : Nat) :
    (Run.cotreeCopy x pre k).live = initialLive pre ∧ (Run.cotreeCopy x pre k).bad = 0
      ∧ (Run.cotreeCopy x pre k).valid = true := by
  have := cotreeCopy_clean x (Tracks.ofStart pre k)
  exact ⟨this.1.live, this.1.bad, this.2⟩

example : (Run.cotreeCopy [true, false, true, true] 3 3).thrown = true
    ∧ (Run.cotreeCopy [true, false, true, true] 3 3).live = [2, 1, 0] := by decide +kernel

/-- `CO_Tree::operator=`: no leak and no bad free for every receiver, source and `k`. -/
theorem no_leak_cotree_assign_as_written (m : Nat) (x : List Bool) (pre k : Nat) :
    (Run.cotreeAssignAsWritten m x pre k).live = initialLive pre ∧ (Run.cotreeAssignAsWritten m x pre k).bad = 0 := by
  have := cotreeAssignAsWritten_clean m x (Tracks.ofStart pre k)
  exact ⟨this.live, this.bad⟩

example : (Run.cotreeAssignAsWritten 2 [true, true] 1 3).thrown = true ∧ (Run.cotreeAssignAsWritten 2 [true, true] 1 3).live = [0] := by decide +kernel

/-- `CO_Tree::operator=` with the repaired `init` (fix_c14_cotree_init_cached_iterators): no leak,
no bad free **and a valid tree** for every receiver, every source and every `k`. -/
theorem no_leak_cotree_assign (m : Nat) (x : List Bool) (pre k : Nat) :
    (Run.cotreeAssign m x pre k).live = initialLive pre ∧ (Run.cotreeAssign m x pre k).bad = 0
      ∧ (Run.cotreeAssign m x pre k).valid = true := by
  have := cotreeAssign_clean m x (Tracks.ofStart pre k)
  exact ⟨this.live, this.bad, cotreeAssign_valid _ x _⟩

example : (Run.cotreeAssign 1 [true] 0 0).thrown = true ∧ (Run.cotreeAssign 1 [true] 0 0).valid = true := by decide +kernel

/-- Historical witness — as written, when `init` throws, `refresh_cached_iterators()` is not reached: the now empty tree keeps
end iterators into the array `destroy()` has just released (`begin() != end()` on an empty tree). -/
theorem valid_cotree_assign_as_written_fails : ¬ (∀ m x pre k, (Run.cotreeAssignAsWritten m x pre k).valid = true) := by
  intro h; have := h 1 [true] 0 0; revert this; decide +kernel

/-- Validity holds when the receiver was the empty tree (its cached iterators are null already). -/
theorem valid_cotree_assign_as_written_partial (x : List Bool) (pre k : Nat) :
    (Run.cotreeAssignAsWritten 0 x pre k).valid = true := by
  unfold Run.cotreeAssignAsWritten
  simp only [buildTree, if_true]
  exact cotreeAssignAsWritten_valid_of_empty x _

/-- `CO_Tree::insert` (fix_c14_cotree_insert_atomic: build the element first, count it afterwards):
no leak, no bad free, and a valid tree when the copy of the new element throws. -/
theorem no_leak_cotree_insert (m pre k : Nat) (hm : m ≠ 0) :
    (Run.cotreeInsert m pre k).live = initialLive pre ∧ (Run.cotreeInsert m pre k).bad = 0
      ∧ (Run.cotreeInsert m pre k).valid = true := by
  have := cotreeInsert_clean m hm (Tracks.ofStart pre k)
  exact ⟨this.1.live, this.1.bad, this.2⟩

example : (Run.cotreeInsert 3 1 0).thrown = true ∧ (Run.cotreeInsert 3 1 0).valid = true := by decide +kernel

/-- Historical witness — as written `++size_` preceded the construction: after a failed copy the
tree counts an element it does not have (the root of the double frees and crashes observed under
`Grid`, `Polyhedron`, `MIP_Problem` and `CO_Tree` itself). -/
theorem valid_cotree_insert_as_written_fails :
    ¬ (∀ m pre k, m ≠ 0 → (Run.cotreeInsertAsWritten m pre k).valid = true) := by
  intro h; have := h 3 0 0 (by decide); revert this; decide +kernel

/-- `CO_Tree(Iterator, n)` **leaks as written**: one element, the copy of that element fails
(events 0 and 1 are the two arrays of `init`): both arrays stay allocated. -/
theorem no_leak_cotree_iter_as_written_fails :
    ¬ (∀ n pre k, (Run.cotreeIterAsWritten n pre k).live = initialLive pre) := by
  intro h; have := h 1 0 2; revert this; decide +kernel

/-- Exactly: a fault in one of the `n` element copies leaks the two arrays and the `k - 2`
elements built so far — `k` blocks. -/
theorem cotree_iter_as_written_leaks_exactly (n pre k : Nat) (h2 : 2 ≤ k) (hk : k < n + 2) :
    (Run.cotreeIterAsWritten n pre k).thrown = true ∧ (Run.cotreeIterAsWritten n pre k).live.length = pre + k
      ∧ (Run.cotreeIterAsWritten n pre k).bad = 0 :=
  cotreeIterAsWritten_leaks n pre k h2 hk

/-- Outside that window (`n = 0`, fault inside `init`, or no fault) the constructor is clean.
Missing for the full statement: the fill loop has no handler (see `_guarded`). -/
theorem no_leak_cotree_iter_as_written_partial (n pre k : Nat) (hside : n = 0 ∨ k < 2 ∨ n + 2 ≤ k) :
    (Run.cotreeIterAsWritten n pre k).live = initialLive pre ∧ (Run.cotreeIterAsWritten n pre k).bad = 0 := by
  have t := Tracks.ofStart pre k
  by_cases hn : n = 0
  · subst hn
    have := cotreeIterAsWritten_clean_of_not_thrown 0 t (by simp [cotreeIterAsWritten, Outcome.ofHeap])
    exact ⟨this.live, this.bad⟩
  · rcases hside with h0 | hlt | hge
    · exact absurd h0 hn
    · have := cotreeIterAsWritten_clean_of_init_throws n t (cotInit_throws_lt2 n pre k hn hlt)
      exact ⟨this.live, this.bad⟩
    · have := cotreeIterAsWritten_clean_of_not_thrown n t (cotreeIterAsWritten_not_thrown n pre k hge)
      exact ⟨this.live, this.bad⟩

example : (Run.cotreeIterAsWritten 3 2 1).thrown = true ∧ (Run.cotreeIterAsWritten 3 2 1).live = [1, 0] := by decide +kernel

/-- With the handler `copy_data_from` has, the same constructor is clean for every `n`, `k`. -/
theorem no_leak_cotree_iter (n pre k : Nat) :
    (Run.cotreeIter n pre k).live = initialLive pre ∧ (Run.cotreeIter n pre k).bad = 0 := by
  have := cotreeIter_clean n (Tracks.ofStart pre k)
  exact ⟨this.live, this.bad⟩

example : (Run.cotreeIter 3 2 3).thrown = true ∧ (Run.cotreeIter 3 2 3).live = [1, 0] := by decide +kernel

/-! ## Dense_Row, Swapping_Vector -/

theorem no_leak_dense_copy (m cap pre k : Nat) :
    (Run.denseCopy m cap pre k).live = initialLive pre ∧ (Run.denseCopy m cap pre k).bad = 0 := by
  have := denseCopy_clean m cap (Tracks.ofStart pre k)
  exact ⟨this.live, this.bad⟩

example : (Run.denseCopy 3 5 2 2).thrown = true ∧ (Run.denseCopy 3 5 2 2).live = [1, 0] := by decide +kernel

theorem no_leak_dense_resize (m cap newSize pre k : Nat) :
    (Run.denseResize m cap newSize pre k).live = initialLive pre ∧ (Run.denseResize m cap newSize pre k).bad = 0 := by
  have := denseResize_clean m cap newSize (Tracks.ofStart pre k)
  exact ⟨this.live, this.bad⟩

example : (Run.denseResize 2 2 6 1 2).thrown = true ∧ (Run.denseResize 2 2 6 1 2).live = [0] := by decide +kernel

/-- `Dense_Row::operator=(const Sparse_Row&)`, reallocation branch, **frees twice as written**: the
allocation of `init` fails (`k = 0`) after `destroy()` has released the vector without resetting the
pointer; `~Impl()` releases it again. -/
theorem no_double_free_dense_assign_sparse_as_written_fails :
    ¬ (∀ m0 cap m pre k, (Run.denseAssignSparseAsWritten m0 cap m pre k).bad = 0) := by
  intro h; have := h 3 3 12 0 0; revert this; decide +kernel

/-- After fix_c14_dense_row_assign_sparse_double_free (`Dense_Row tmp(row); m_swap(tmp);`) the
reallocation branch is clean at full strength. -/
theorem no_double_free_dense_assign_sparse (m0 cap m pre k : Nat) :
    (Run.denseAssignSparse m0 cap m pre k).live = initialLive pre ∧ (Run.denseAssignSparse m0 cap m pre k).bad = 0 := by
  have := denseAssignSparse_clean m0 cap m (Tracks.ofStart pre k)
  exact ⟨this.live, this.bad⟩

example : (Run.denseAssignSparse 3 3 12 1 0).thrown = true ∧ (Run.denseAssignSparse 3 3 12 1 0).bad = 0
    ∧ (Run.denseAssignSparse 3 3 12 1 0).live = [0] := by decide +kernel

/-- …and is clean for every later fault position (and every shape of the two rows).  Missing for
the full statement: `destroy()` should null `impl.vec` (or `init` should run before `destroy`). -/
theorem no_double_free_dense_assign_sparse_as_written_partial (m0 cap m pre k : Nat) (hcap : cap ≠ 0) (hk : k ≠ 0) :
    (Run.denseAssignSparseAsWritten m0 cap m pre k).live = initialLive pre ∧ (Run.denseAssignSparseAsWritten m0 cap m pre k).bad = 0 := by
  have := denseAssignSparseAsWritten_clean_of_alloc m0 cap m (Tracks.ofStart pre k) hcap (by
    intro h1 hcd _
    rw [alloc_ok (Or.inr (by rw [hcd]; simpa [Heap.start] using hk))]
    simp)
  exact ⟨this.live, this.bad⟩

example : (Run.denseAssignSparseAsWritten 3 3 12 1 0).thrown = true ∧ (Run.denseAssignSparseAsWritten 3 3 12 1 0).bad = 1
    ∧ (Run.denseAssignSparseAsWritten 3 3 12 1 4).bad = 0 ∧ (Run.denseAssignSparseAsWritten 3 3 12 1 4).live = [0] := by decide +kernel

theorem no_leak_swapvec_push (m cap pre k : Nat) :
    (Run.svecPush m cap pre k).live = initialLive pre ∧ (Run.svecPush m cap pre k).bad = 0 := by
  have := svecPush_clean m cap (Tracks.ofStart pre k)
  exact ⟨this.live, this.bad⟩

example : (Run.svecPush 3 3 1 2).thrown = true ∧ (Run.svecPush 3 3 1 2).live = [0] := by decide +kernel

/-! ## PIP tree guard -/

/-- The `Safe_Ptr` guard: cloning any solution tree is clean for every failing event. -/
theorem no_leak_pip_clone (t : PNode) (pre k : Nat) :
    (Run.pipClone true t pre k).live = initialLive pre ∧ (Run.pipClone true t pre k).bad = 0 := by
  have := pipClone_clean t (Tracks.ofStart pre k)
  exact ⟨this.live, this.bad⟩

/-- Without the guard the first clone leaks when the second one throws (what the guard is for). -/
theorem no_leak_pip_clone_unguarded_fails :
    ¬ (∀ t pre k, (Run.pipClone false t pre k).live = initialLive pre) := by
  intro h; have := h (.dec .sol .sol) 0 4; revert this; decide +kernel

example : (Run.pipClone true (.dec .sol .sol) 0 4).thrown = true ∧ (Run.pipClone true (.dec .sol .sol) 0 4).live = [] := by decide +kernel

/-! ## MIP_Problem -/

/-- `add_constraint` on a live problem (the helper reserves before it allocates the copy). -/
theorem no_leak_mip_add (m cap pre k : Nat) :
    (Run.mipAdd m cap pre k).live = initialLive pre ∧ (Run.mipAdd m cap pre k).bad = 0 := by
  have := mipAdd_clean m cap (Tracks.ofStart pre k)
  exact ⟨this.live, this.bad⟩

example : (Run.mipAdd 2 2 1 1).thrown = true ∧ (Run.mipAdd 2 2 1 1).live = [0] := by decide +kernel

/-- `MIP_Problem(dim, cs, obj, mode)` **leaks as written**: the helper is called from the
constructor body, so the constraints copied before the failing one are never deleted
(two constraints; events: buffer, first copy, second copy — the second copy fails). -/
theorem no_leak_mip_ctor_as_written_fails : ¬ (∀ n pre k, (Run.mipCtorAsWritten n pre k).live = initialLive pre) := by
  intro h; have := h 2 0 2; revert this; decide +kernel

/-- The constructor is clean whenever it does not throw.  Missing for the full statement:
`~MIP_Problem()` does not run for a throwing constructor and nothing else deletes the copies. -/
theorem no_leak_mip_ctor_as_written_partial (n pre k : Nat) (hside : (Run.mipCtorAsWritten n pre k).thrown = false) :
    (Run.mipCtorAsWritten n pre k).live = initialLive pre ∧ (Run.mipCtorAsWritten n pre k).bad = 0 := by
  have := mipCtorAsWritten_clean_of_not_thrown n (Tracks.ofStart pre k) hside
  exact ⟨this.live, this.bad⟩

theorem no_leak_mip_ctor (n pre k : Nat) :
    (Run.mipCtor n pre k).live = initialLive pre ∧ (Run.mipCtor n pre k).bad = 0 := by
  have := mipCtor_clean n (Tracks.ofStart pre k)
  exact ⟨this.live, this.bad⟩

/-- The repaired copy constructor (fix_c14_mip_ctor_constraint_leak) is clean for every `n`, `k`. -/
theorem no_leak_mip_copy (n pre k : Nat) :
    (Run.mipCopy n pre k).live = initialLive pre ∧ (Run.mipCopy n pre k).bad = 0 := by
  have := mipCopy_clean n (Tracks.ofStart pre k)
  exact ⟨this.live, this.bad⟩

example : (Run.mipCopy 2 0 2).thrown = true ∧ (Run.mipCopy 2 0 2).live = [] := by decide +kernel

/-- Historical witness — the copy constructor had the same defect (one reservation, then `n` copies). -/
theorem no_leak_mip_copy_as_written_fails : ¬ (∀ n pre k, (Run.mipCopyAsWritten n pre k).live = initialLive pre) := by
  intro h; have := h 2 0 2; revert this; decide +kernel

theorem no_leak_mip_copy_as_written_partial (n pre k : Nat) (hside : (Run.mipCopyAsWritten n pre k).thrown = false) :
    (Run.mipCopyAsWritten n pre k).live = initialLive pre ∧ (Run.mipCopyAsWritten n pre k).bad = 0 := by
  have := mipCopyAsWritten_clean_of_not_thrown n (Tracks.ofStart pre k) hside
  exact ⟨this.live, this.bad⟩

example : (Run.mipCtorAsWritten 3 1 9).thrown = false ∧ (Run.mipCtorAsWritten 3 1 9).live = [0] := by decide +kernel

/-! ## rejected calls -/

/-- A call the precondition table rejects leaves the model pool unchanged and reports the
table's exception class (this is what the harness tests the library against). -/
theorem rejected_unchanged (op : Op) (a : Args) (pool : Pool) (e : ErrClass)
    (h : precond op a pool = .error e) : step op a pool = (.error e, pool) := by
  simp [step, h]

/-- An accepted call is not reported as rejected. -/
theorem accepted_runs (op : Op) (a : Args) (pool : Pool) (h : precond op a pool = .ok ()) :
    step op a pool = (.ok (), apply op a pool) := by
  simp [step, h]

/-- System overloads (`add_constraints(cs)`, `add_generators(gs)`, `add_congruences(cgs)`, … of every
domain): one ill-formed element **at any position** makes the model reject the call and leave the
receiver unchanged — whatever the elements before it would have done. -/
theorem rejected_unchanged_system {σ : Type} (applyAll : List ElemKind → σ → σ) (d : DomKind) (op : SysOp)
    (before after : List ElemKind) (e : ElemKind) (r : σ) (h : elemBad d op e = true) :
    stepSystem applyAll d op (before ++ e :: after) r = (.error .invalidArgument, r) := by
  have : precondSystem d op (before ++ e :: after) = .error .invalidArgument := by
    simp [precondSystem, bad, h]
  simp [stepSystem, this]

/-- …and a system without ill-formed element is applied. -/
theorem accepted_runs_system {σ : Type} (applyAll : List ElemKind → σ → σ) (d : DomKind) (op : SysOp)
    (es : List ElemKind) (r : σ) (h : ∀ e ∈ es, elemBad d op e = false) :
    stepSystem applyAll d op es r = (.ok (), applyAll es r) := by
  have : precondSystem d op es = .ok () := by
    have hany : es.any (elemBad d op) = false := by
      rw [List.any_eq_false]; intro e he; simp [h e he]
    simp [precondSystem, bad, hany]
  simp [stepSystem, this]

/-- What each repaired domain rejects in a constraint system (`add_constraints`, `add_recycled_constraints`). -/
theorem rejected_constraint_kinds (k : ElemKind) :
    (elemBad .bds .addConstraints k = true ↔ k = .strict ∨ k = .unsupported ∨ k = .dimIncompatible) ∧
    (elemBad .oct .addConstraints k = true ↔ k = .strict ∨ k = .unsupported ∨ k = .dimIncompatible) ∧
    (elemBad .box .addConstraints k = true ↔ k = .unsupported ∨ k = .dimIncompatible) ∧
    (elemBad .grid .addConstraints k = true ↔ k = .inequality ∨ k = .dimIncompatible) ∧
    (elemBad .polyC .addConstraints k = true ↔ k = .strict ∨ k = .dimIncompatible) ∧
    (elemBad .polyNNC .addConstraints k = true ↔ k = .dimIncompatible) := by
  cases k <;> decide

/-- …and in a congruence system: a proper congruence everywhere but in a grid. -/
theorem rejected_congruence_kinds (k : ElemKind) :
    (elemBad .bds .addCongruences k = true ↔ k = .proper ∨ k = .dimIncompatible) ∧
    (elemBad .oct .addCongruences k = true ↔ k = .proper ∨ k = .dimIncompatible) ∧
    (elemBad .box .addCongruences k = true ↔ k = .proper ∨ k = .dimIncompatible) ∧
    (elemBad .grid .addCongruences k = true ↔ k = .dimIncompatible) ∧
    (elemBad .polyC .addCongruences k = true ↔ k = .proper ∨ k = .dimIncompatible) := by
  cases k <;> decide

/-- BD shapes, octagons, boxes and grids **as repaired** (validate first: bcff4db, d118ccd, 2c68c03,
7218b6b): an unsupported / strict / proper / dimension-incompatible element at any position rejects
the call and nothing has been applied. -/
theorem rejected_unchanged_system_weakly_relational {σ : Type} (apply1 : ElemKind → σ → σ)
    (d : DomKind) (hd : d = .bds ∨ d = .oct ∨ d = .box ∨ d = .grid)
    (op : SysOp) (before after : List ElemKind) (e : ElemKind) (r : σ) (h : elemBad d op e = true) :
    stepSystem (applyEach apply1) d op (before ++ e :: after) r = (.error .invalidArgument, r) := by
  have _ := hd
  exact rejected_unchanged_system (applyEach apply1) d op before after e r h

/-- Historical witness: checking each element when it is met (the code as found) changes the
receiver before it throws, as soon as an accepted element precedes the offender. -/
theorem rejected_unchanged_system_as_written_fails :
    ¬ (∀ (d : DomKind) (op : SysOp) (es : List ElemKind) (r : Nat),
        (stepSystemAsWritten (fun _ n => n + 1) d op es r).1 = .error .invalidArgument →
        (stepSystemAsWritten (fun _ n => n + 1) d op es r).2 = r) := by
  intro h
  have := h .bds .addConstraints [.ok, .unsupported] 0 rfl
  revert this; decide +kernel

/-- The as-written overloads are clean exactly when the offender comes first (what the products still do
with their two components in sequence). -/
theorem rejected_unchanged_system_as_written_partial {σ : Type} (apply1 : ElemKind → σ → σ) (d : DomKind)
    (op : SysOp) (e : ElemKind) (after : List ElemKind) (r : σ) (h : elemBad d op e = true) :
    stepSystemAsWritten apply1 d op (e :: after) r = (.error .invalidArgument, r) := by
  simp [stepSystemAsWritten, h]

example : precondSystem .bds .addConstraints [.ok, .ok, .unsupported] = .error .invalidArgument := rfl
example : precondSystem .box .addConstraints [.ok, .strict, .ok] = .ok () := rfl
example : precondSystem .grid .refine [.ok, .dimIncompatible] = .error .invalidArgument := rfl
example : stepSystemAsWritten (fun _ n => n + 1) .oct .addCongruences [.ok, .ok, .proper] 0 = (.error .invalidArgument, 2) := rfl

example : precondSystem .polyC .addCongruences [.ok, .ok, .proper] = .error .invalidArgument := rfl
example : precondSystem .polyC .addCongruences [.proper, .ok, .ok] = .error .invalidArgument := rfl
example : precondSystem .polyNNC .addConstraints [.ok, .strict, .ok] = .ok () := rfl
example : precondSystem .grid .addConstraints [.ok, .inequality] = .error .invalidArgument := rfl

example : step .addConstraint { recv := 0, adim := 4 } [⟨.c, 3, false⟩] = (.error .invalidArgument, [⟨.c, 3, false⟩]) := rfl
example : step .addConstraint { recv := 0, adim := 3, strict := true } [⟨.c, 3, false⟩] = (.error .invalidArgument, [⟨.c, 3, false⟩]) := rfl
example : step .addSpaceDims { recv := 0, adim := 2 } [⟨.nnc, 3, false⟩] = (.ok (), [⟨.nnc, 5, false⟩]) := rfl
example : step .addSpaceDims { recv := 0, overflow := true } [⟨.nnc, 3, false⟩] = (.error .lengthError, [⟨.nnc, 3, false⟩]) := rfl
example : step .addGenerator { recv := 0, adim := 2, hasPoint := false } [⟨.c, 2, true⟩] = (.error .invalidArgument, [⟨.c, 2, true⟩]) := rfl

end C14

import PPLV.WR.Proofs

/-!
# C03 — box, BD-shape and octagon results contain the exact result, for every type

The judge of `pplv_wr --mode c03`: for every operation of every instantiation the exact result `E`
is computed by K1 from the concretisations of the arguments *as the library reports them*
(`constraints()`, bounds read as exact rationals), the result `R` is read the same way, and the
verdict is `subsetB n E R`.  `sound_iff` says this verdict is the set-level statement of the
property — sound and complete, for all systems.  Definite answers are judged by the deciders of K1
(`definite_answers`).  (The closure-kernel theorems `C03.closure_sound …` for every rounding are in
`PPLV/Props/C03Closure.lean`.)
-/
namespace C03
open PPLV.Lin PPLV.WR

/-- **Soundness judge**: accepted iff the exact result is contained in the reported result. -/
theorem sound_iff (n : Nat) (exact result : List Con) (hE : WF n exact) (hR : WF n result) :
    subsetB n exact result = true ↔ sem exact ⊆ sem result := subsetB_iff n exact result hE hR

-- x ≤ 1/3 is contained in x ≤ 1 (an integer shape rounding the bound up), not in x ≤ 0
example : subsetB 1 [geRow [-3] 1] [geRow [-1] 1] = true ∧ subsetB 1 [geRow [-3] 1] [geRow [-1] 0] = false := by
  decide +kernel

/-- … for an exact result given as a union of convex pieces (upper bound, difference, time elapse, fold). -/
theorem sound_pieces_iff (n : Nat) (pieces : List (List Con)) (result : List Con)
    (hE : ∀ P ∈ pieces, WF n P) (hR : WF n result) :
    (pieces.all fun P => subsetB n P result) = true ↔ semU pieces ⊆ sem result := by
  rw [List.all_eq_true]
  constructor
  · rintro h x ⟨P, hP, hx⟩
    exact (subsetB_iff n P result (hE P hP) hR).mp (h P hP) hx
  · intro h P hP
    exact (subsetB_iff n P result (hE P hP) hR).mpr fun x hx => h ⟨P, hP, hx⟩

/-- **Definite answers**: a `true` of `is_empty`, `contains`, `is_disjoint_from` is accepted iff the
    statement holds of the reported point sets. -/
theorem definite_answers (n : Nat) (A B : List Con) (hA : WF n A) (hB : WF n B) :
    (isEmptyB n A = true ↔ sem A = ∅) ∧ (subsetB n B A = true ↔ sem B ⊆ sem A) ∧
    (disjointB n A B = true ↔ sem A ∩ sem B = ∅) :=
  ⟨isEmptyB_iff n A hA, subsetB_iff n B A hB hA, disjointB_iff n A B hA hB⟩

example : isEmptyB 2 [geRow [1, -1] (-1), geRow [-1, 1] 0] = true := by decide +kernel

end C03

import PPLV.PolyStatus.UnaryMethods
import PPLV.PolyStatus.BinaryMethods
import PPLV.PolyStatus.Mutants
/-!
# C01, stage 2 — the lazy status protocol of `Polyhedron`

Model: `PPLV/PolyStatus/{State,Helpers,Ops,Ops2,Step}.lean` — the flag logic of every public method the C01/C02
harness calls and of the private helpers they go through, statement by statement, over the nine status bits of
`Ph_Status_idefs.hh`, the dimension, the `sorted` flags of the two systems and ghost facts (which description
denotes the set, minimal form, validity of the saturation matrices, real sortedness, pending rows, emptiness).
Conversion / simplification, the row operations of `Linear_System` and the `Bit_Matrix` operations are parameters
(`State.lean`, `Helpers.lean`: "assumed exact").  Data the abstract state does not hold enters as ghost inputs
(`Gh`, `GhQ`, `Facts`), over which every theorem quantifies.

`Inv` (`PPLV/PolyStatus/Inv.lean`) = the legality table of `Ph_Status::OK()` ∧ the status clauses of
`Polyhedron::OK()` ∧ "no flag is set over a description that was modified without being re-validated".
-/
namespace C01
open PPLV.PolyStatus PPLV.PolyStatus.PState

/-- **Stage 2 of C01.** For every sequence of modelled operations (`PolyOp`: the three constructors, copy
construction, the public methods named by `Op1` and `Op2`), with any ghost inputs and any aliasing of operands,
every object of the pool satisfies the invariant: the status word is legal and no flag is left set for a
description the history has modified without re-validating it. -/
theorem status_inv (ops : List PolyOp) : StatusInv (ops.foldl PolyProto.step PolyProto.init) := by
  have step_inv : ∀ (w : World) (op : PolyOp), StatusInv w → StatusInv (PolyProto.step w op) := by
    intro w op hw
    have set_inv : ∀ (i : Nat) (s : PState), Inv s → StatusInv (w.set i s) := by
      intro i s hs j
      unfold World.set
      split
      · exact hs
      · exact hw j
    cases op with
    | newDegenerate i nnc dim empty g => exact set_inv i _ (ctorDegenerate_inv nnc dim empty g)
    | newCons i nnc f g => exact set_inv i _ (ctorCons_inv nnc f g)
    | newGens i nnc f g => exact set_inv i _ (ctorGens_inv nnc f g)
    | copy d s => exact set_inv d _ (copyCtor_spec (w s) (hw s)).1
    | un i o gs f => exact set_inv i _ (apply1_inv o gs f (w i) (hw i))
    | bin i j o hs its =>
      simp only [PolyProto.step]
      split
      · exact hw
      next hc =>
      have hdim : o = .concatenateAssign ∨ (w i).dim = (w j).dim := by
        by_cases ho : o = Op2.concatenateAssign
        · exact .inl ho
        · have hc' : (w i).nnc = (w j).nnc ∧ (w i).dim = (w j).dim := by simpa [Op2.compatible, ho] using hc
          exact .inr hc'.2
      split
      · next hij =>
        have hk : TwoOK { x := w i, y := w i, al := true } := ⟨hw i, by simpa [Two.gy] using hw i⟩
        exact set_inv i _ (apply2_ok o hs its _ hk (by simp [Two.gy])).x
      · have hk : TwoOK { x := w i, y := w j, al := false } := ⟨hw i, by simpa [Two.gy] using hw j⟩
        have hd : o = .concatenateAssign ∨ ({ x := w i, y := w j, al := false } : Two).gy.dim = (w i).dim := by
          rcases hdim with h1 | h1
          · exact Or.inl h1
          · exact Or.inr (by simp [Two.gy, h1])
        have hr := apply2_ok o hs its _ hk hd
        intro k
        simp only [World.set]
        split
        · exact hr.y
        · split
          · exact hr.x
          · exact hw k
  have init_inv : StatusInv PolyProto.init := by
    intro i
    show (fresh false).invB = true
    decide
  suffices h : ∀ (l : List PolyOp) (w : World), StatusInv w → StatusInv (l.foldl PolyProto.step w) from
    h ops _ init_inv
  intro l
  induction l with
  | nil => intro w hw; exact hw
  | cons a t ih => intro w hw; exact ih _ (step_inv w a hw)

/-- non-vacuity: a history with constructors, mutators, observers, an aliased binary call and a copy. -/
example : StatusInv ([PolyOp.newDegenerate 0 false 2 false {}, .newCons 1 false { dim := 2 } {},
    .un 0 .addConstraint [{}] {}, .un 0 .minimizedGenerators [{}, {}] {}, .bin 0 1 .intersectionAssign [{}] [],
    .bin 0 0 .polyHullAssign [{}] [], .copy 2 0, .un 2 .affineImage [{}] { inv := false },
    .bin 1 2 .polyDifferenceAssign [{}] [({}, {})]].foldl PolyProto.step PolyProto.init) := status_inv _

/-- the legality table of `Polyhedron::Status::OK()` (`src/Ph_Status.cc`). -/
theorem legal_table {s : PState} (h : Inv s) : s.statusOK = true := by
  simp only [PPLV.PolyStatus.Inv, invB, Bool.and_eq_true] at h; exact h.1.1

/-- CS (and no pending generators) ⇒ the constraint system denotes the set;
GS (and no pending constraints) ⇒ the generator system denotes the set. -/
theorem up_to_date_denotes {s : PState} (h : Inv s) :
    (s.cup = true → s.gpend = false → s.vC = true) ∧ (s.gup = true → s.cpend = false → s.vG = true) := by
  inv_facts

/-- with pending rows the system holding them denotes the set, and the two non-pending parts are a DD pair. -/
theorem pending_denotes {s : PState} (h : Inv s) :
    (s.cpend = true → s.vC = true ∧ s.dd = true) ∧ (s.gpend = true → s.vG = true ∧ s.dd = true) := by
  inv_facts

/-- CM / GM ⇒ minimal form; pending rows exist only under the pending flag. -/
theorem minimized_valid {s : PState} (h : Inv s) :
    (s.cmin = true → s.mC = true) ∧ (s.gmin = true → s.mG = true)
    ∧ (s.pC = true → s.cpend = true) ∧ (s.pG = true → s.gpend = true) := by
  inv_facts

/-- SC / SG ⇒ the saturation matrix is the saturation relation of the two systems. -/
theorem sat_valid {s : PState} (h : Inv s) : (s.satc = true → s.vSC = true) ∧ (s.satg = true → s.vSG = true) := by
  inv_facts

/-- `sorted` flag ⇒ the rows are sorted. -/
theorem sorted_valid {s : PState} (h : Inv s) : (s.csS = true → s.rC = true) ∧ (s.gsS = true → s.rG = true) := by
  inv_facts

/-- marked empty ⇒ the set is empty; generators up to date without pending constraint rows ⇒ it is not. -/
theorem emptiness_valid {s : PState} (h : Inv s) :
    (s.em = true → s.emp = true) ∧ (s.gup = true → s.cpend = false → s.emp = false) := by
  inv_facts

/-- **Observers keep the set**: `constraints()`, `minimized_constraints()`, `generators()`, `minimized_generators()`,
`is_empty`, `is_universe`, `is_bounded`, `is_topologically_closed`, `constrains`, the three `relation_with`,
`bounds_from_*`, `maximize`/`minimize`, `affine_dimension` change only the representation: the ghost set (its
emptiness, the counter of set changes), the dimension and the topology are untouched, and the invariant holds. -/
theorem observers_keep_set (o : Op1) (ho : o.isObserver = true) (gs : List Gh) (f : Facts) (s : PState)
    (h : Inv s) :
    Inv (apply1 o gs f s) ∧ (apply1 o gs f s).ver = s.ver ∧ (apply1 o gs f s).emp = s.emp
    ∧ (apply1 o gs f s).dim = s.dim ∧ (apply1 o gs f s).nnc = s.nnc := by
  have k := apply1_obs o ho gs f s h
  exact ⟨k.inv, k.same.ver, k.same.emp, k.same.dim, k.same.nnc⟩

/-- the binary observers `contains`, `strictly_contains`, `is_disjoint_from`, `==` keep the set of BOTH operands
(the `const` argument is lazily updated too), aliased or not. -/
theorem binary_observers_keep_sets (o : Op2) (ho : o.isObserver = true) (hs : List Gh2) (c : Two)
    (hx : Inv c.x) (hy : Inv c.gy) (hd : c.gy.dim = c.x.dim) :
    let d := apply2 o hs [] c
    Inv d.x ∧ Inv d.gy ∧ d.x.ver = c.x.ver ∧ d.x.emp = c.x.emp ∧ d.gy.ver = c.gy.ver ∧ d.gy.emp = c.gy.emp
    ∧ d.x.dim = c.x.dim ∧ d.gy.dim = c.gy.dim := by
  intro d
  have k : Obs2 c d := by
    show Obs2 c (apply2 o hs [] c)
    unfold apply2
    cases o <;> (try (exact absurd ho (by decide))) <;> simp only [steps2Of]
    case contains =>
      rcases hs with _ | ⟨a, t⟩ <;> exact contains_obs2 _ _ _ c ⟨hx, hy⟩ hd
    case strictlyContains => exact strictlyContains_obs2 hs c ⟨hx, hy⟩ hd
    case isDisjointFrom =>
      rcases hs with _ | ⟨a, t⟩ <;> exact isDisjointFrom_obs2 _ _ c ⟨hx, hy⟩ hd
    case equals => exact equals_obs2 hs c ⟨hx, hy⟩ hd
  exact ⟨k.x.inv, k.y.inv, k.x.same.ver, k.x.same.emp, k.y.same.ver, k.y.same.emp, k.x.same.dim, k.y.same.dim⟩

/-- non-vacuity of `observers_keep_set`: an observer that does change the lazy state (flags go from `CS` to the
fully minimised word) while the set stays. -/
example :
    let s : PState := ctorCons false { dim := 2 } {}
    (apply1 .minimizedGenerators [{}, {}] {} s).gmin = true ∧ s.gmin = false
    ∧ (apply1 .minimizedGenerators [{}, {}] {} s).ver = s.ver := by decide

/-! ### the theorem is not vacuous about the code: a forgotten `clear_*()` breaks it

Each statement below is the model of one method with one status update removed (the mutants of the mutation
smoke test); a concrete legal state is given from which the invariant fails. -/

theorem forgotten_clear_generators_fails :
    Inv bothUpToDate ∧ ¬ Inv (insertConsForgotGens {} bothUpToDate) := by
  constructor
  · show bothUpToDate.invB = true; decide
  · show ¬ ((insertConsForgotGens {} bothUpToDate).invB = true); decide

theorem forgotten_clear_cmin_fails :
    Inv consMinimizedGensUp ∧ ¬ Inv (insertGensForgotCmin {} consMinimizedGensUp) := by
  constructor
  · show consMinimizedGensUp.invB = true; decide
  · show ¬ ((insertGensForgotCmin {} consMinimizedGensUp).invB = true); decide

theorem forgotten_clear_sat_g_fails :
    Inv minimizedBothSat ∧ ¬ Inv (obtainSortedGeneratorsForgot minimizedBothSat) := by
  constructor
  · show minimizedBothSat.invB = true; decide
  · show ¬ ((obtainSortedGeneratorsForgot minimizedBothSat).invB = true); decide

end C01

import PPLV.Conv.ProofsSound3
import PPLV.Conv.ProofsSat3
import PPLV.Conv.ProofsSpan
import PPLV.Conv.ProofsSimp9
import PPLV.Conv.ProofsSort
import PPLV.Conv.ProofsK1
/-!
# the double-description engine inside the model

Theorems about the code-shaped model `PPLV/Conv/{Model,Simplify}.lean` of `Polyhedron::conversion`,
`simplify`, `minimize`, `add_and_minimize` (tied row for row to the real static members by
`harness/c01_conv.cc` + `lean/Driver/Conv.lean`).

Proved here: the invariant of the C++ comments (soundness), step by step and for the whole function;
the half of completeness that needs no adjacency argument (ray case); the consequence for the drivers
(`minimize` never says "non-empty" wrongly).  Full completeness of `conversion` (the Double Description
lemma with the adjacency criterion — `dest` generates the WHOLE cone) is in `C01ConvComplete.lean`, the
redundancy criteria of `simplify` in `C01ConvMinimal.lean`; the driver also checks both per run on the
real output, by the K1 deciders `checkDD` / `equivB`.
-/
namespace C01
open PPLV.Conv

/-- **`conversion_sound`** — if the generators handed to `conversion` satisfy the constraints already
processed (`source[0, start)`) and the first `nle` of them are exactly the lines, then EVERY generator
returned satisfies EVERY row of `source` (`≥ 0`, and `= 0` when the source row is an equality or the
generator is a line) — also the rows `conversion` removes from `source` as redundant — and the first
`num_lines_or_equalities` (the returned value) rows of `dest` are exactly the lines.  By induction over
the main loop (`conversionStep_sound` is the invariant of the C++ comments). -/
theorem conversion_sound (ncols : Nat) (source : List LRow) (start : Nat) (dest : List LRow) (sat : List BRow)
    (nle : Nat) (h0 : Sound (source.take start) dest) (hl : LinesFirst dest nle) (hn : nle ≤ dest.length)
    (hlen : sat.length = dest.length) :
    Sound source (conversion ncols source start dest sat nle).dest ∧
    LinesFirst (conversion ncols source start dest sat nle).dest (conversion ncols source start dest sat nle).nle :=
  conversion_sound' ncols source start dest sat nle h0 hl hn hlen

/-- non-vacuity: the triangle `x ≥ 0, y ≥ 0, x + y ≤ 2` (+ positivity), from the identity matrix of lines. -/
example :
    let src : List LRow := [⟨false, [0, 1, 0]⟩, ⟨false, [0, 0, 1]⟩, ⟨false, [2, -1, -1]⟩, ⟨false, [1, 0, 0]⟩]
    let sat0 : List BRow := List.replicate 3 (List.replicate 4 false)
    Sound (src.take 0) (identityLines 3) ∧ LinesFirst (identityLines 3) 3 ∧
    (conversion 3 src 0 (identityLines 3) sat0 3).dest
      = [⟨false, [1, 0, 0]⟩, ⟨false, [1, 0, 2]⟩, ⟨false, [1, 2, 0]⟩] ∧
    (conversion 3 src 0 (identityLines 3) sat0 3).source.length = 3 := by
  refine ⟨?_, ?_, by decide, by decide⟩
  · intro d _ s hs; simp at hs
  · unfold LinesFirst; decide

/-- **the loop invariant, one iteration** (`for k …` at `Polyhedron_conversion_templates.hh:422`):
whatever the adjacency tests decide, after processing `source[k]` every generator satisfies the rows
processed so far and `source[k]`, and the lines are the first `num_lines_or_equalities` rows. -/
theorem conversion_step_invariant (ncols : Nat) (srcK : LRow) (st : CState) (processed : List LRow)
    (h : ∀ d ∈ st.rows, ∀ s ∈ processed, satisfies s d.row)
    (hl : ∀ m d, st.rows[m]? = some d → d.row.le = decide (m < st.nle)) (hn : st.nle ≤ st.rows.length) :
    (∀ d ∈ (conversionStep ncols srcK st).rows, ∀ s ∈ processed ++ [srcK], satisfies s d.row) ∧
    (∀ m d, (conversionStep ncols srcK st).rows[m]? = some d → d.row.le = decide (m < (conversionStep ncols srcK st).nle)) ∧
    (conversionStep ncols srcK st).nle ≤ (conversionStep ncols srcK st).rows.length :=
  conversionStep_sound ncols srcK st processed h hl hn

example :
    let st : CState := { rows := [⟨⟨true, [0, 0, 1]⟩, 0, [false]⟩, ⟨⟨false, [1, 0, 0]⟩, 0, [true]⟩, ⟨⟨false, [0, 1, 0]⟩, 0, [false]⟩],
                         nle := 1, k := 1, redundant := [] }
    (∀ d ∈ st.rows, ∀ s ∈ [(⟨false, [1, 0, 0]⟩ : LRow)], satisfies s d.row) ∧
    ((conversionStep 3 ⟨false, [2, -1, 0]⟩ st).rows.map (·.row)) = [⟨true, [0, 0, 1]⟩, ⟨false, [1, 0, 0]⟩, ⟨false, [1, 2, 0]⟩] := by
  constructor
  · decide
  · decide

/-- **`conversion_sat_correct`** — the saturation bookkeeping never goes stale.  If the matrix handed in
is the saturation relation of `dest` and the already processed rows `source[0, start)` (the code's
convention: `sat[i][j]` set iff `scalar_product(dest_i, source_j) ≠ 0`, no bit beyond), then the matrix
returned is exactly the saturation relation of the returned `dest` and the returned `source` (the rows
found redundant have lost their column), with as many rows as `dest` and no bit set beyond `source`. -/
theorem conversion_sat_correct (ncols : Nat) (source : List LRow) (start : Nat) (dest : List LRow) (sat : List BRow)
    (nle : Nat) (hstart : start ≤ source.length) (h0 : Sound (source.take start) dest) (hl : LinesFirst dest nle)
    (hn : nle ≤ dest.length) (hsat0 : SatCorrect (source.take start) dest sat) :
    SatCorrect (conversion ncols source start dest sat nle).source (conversion ncols source start dest sat nle).dest
      (conversion ncols source start dest sat nle).sat :=
  PPLV.Conv.conversion_sat_correct ncols source start dest sat nle hstart h0 hl hn hsat0

/-- non-vacuity: the triangle again; the hypotheses hold for the fresh matrix of `minimize`, and the
returned matrix has one bit per (vertex, facet not through it). -/
example :
    let src : List LRow := [⟨false, [0, 1, 0]⟩, ⟨false, [0, 0, 1]⟩, ⟨false, [2, -1, -1]⟩, ⟨false, [1, 0, 0]⟩]
    let sat0 : List BRow := List.replicate 3 (List.replicate 4 false)
    SatCorrect (src.take 0) (identityLines 3) sat0 ∧
    (conversion 3 src 0 (identityLines 3) sat0 3).sat = [[false, false, true], [false, true, false], [true, false, false]] := by
  refine ⟨⟨by decide, ?_⟩, by decide⟩
  intro i hi j
  have hi' : i < 3 := by simpa [identityLines] using hi
  have : bit ((List.replicate 3 (List.replicate 4 false)).getD i []) j = false := by
    rw [List.getD_eq_getElem?_getD, List.getElem?_replicate, if_pos hi']
    show bit (List.replicate 4 false) j = false
    unfold bit
    rw [List.getD_eq_getElem?_getD, List.getElem?_replicate]
    split <;> rfl
  rw [this]; simp

/-- the same bookkeeping, one iteration: either `source[k]` gets the next column, or it is recorded as
redundant and the matrix is untouched. -/
theorem conversion_step_sat (ncols : Nat) (srcK : LRow) (st : CState) (kept : List LRow)
    (hk : kept.length = st.k - st.redundant.length)
    (hs : ∀ d ∈ st.rows, ∀ s ∈ kept, satisfies s d.row)
    (hl : ∀ m d, st.rows[m]? = some d → d.row.le = decide (m < st.nle)) (hn : st.nle ≤ st.rows.length)
    (hsat : RowsSatCorrect kept st.rows) :
    ((conversionStep ncols srcK st).redundant = st.redundant ∧ RowsSatCorrect (kept ++ [srcK]) (conversionStep ncols srcK st).rows) ∨
    ((conversionStep ncols srcK st).redundant = st.redundant ++ [st.k] ∧ RowsSatCorrect kept (conversionStep ncols srcK st).rows) :=
  conversionStep_sat ncols srcK st kept hk hs hl hn hsat

example :
    let st : CState := { rows := [⟨⟨false, [1, 0]⟩, 0, [true]⟩, ⟨⟨false, [1, 2]⟩, 0, [true]⟩], nle := 0, k := 1, redundant := [] }
    let kept : List LRow := [⟨false, [1, 0]⟩]
    RowsSatCorrect kept st.rows ∧
    (conversionStep 2 ⟨false, [1, -1]⟩ st).rows.map (·.sat) = [[true, true], [true]] := by
  refine ⟨?_, by decide⟩
  intro d hd j
  simp only [List.mem_cons, List.not_mem_nil, or_false] at hd
  rcases hd with h | h <;> subst h <;> rcases j with _ | j <;> simp [bit, scalarProduct]

/-- **`conversion_preserves_span_ray`** — the half of completeness that needs no adjacency argument,
for one iteration in the case where every line saturates `source[k]` (`rayCase`, :635-968; `st` holds the
scalar products): (a) every old generator that satisfies the new constraint (`= 0` for an equality) is
kept, unchanged as a row; (b) every row of the result is an old row, or a strictly POSITIVE
combination of exactly two old rows, one with a positive and one with a negative scalar product.
The line case is `conversion_preserves_span_line`, both together `conversion_preserves_span`.  That the
rows the adjacency criterion declines to build are redundant (the Double Description lemma, hence FULL
completeness: `dest` generates the whole cone) is `C01.conversion_complete` in `C01ConvComplete.lean`. -/
theorem conversion_preserves_span_ray (ncols : Nat) (srcK : LRow) (newK : Nat) (st : CState)
    (hn : st.nle ≤ st.rows.length) (hz : ∀ d ∈ st.rows.take st.nle, d.sp = 0)
    (hl : ∀ m d, st.rows[m]? = some d → d.row.le = decide (m < st.nle)) :
    (∀ d ∈ st.rows, survives srcK d → ∃ d' ∈ (rayCase ncols srcK newK st).rows, d'.row = d.row) ∧
    (∀ d' ∈ (rayCase ncols srcK newK st).rows,
      (∃ d ∈ st.rows, d'.row = d.row) ∨
      (∃ ri ∈ st.rows, ∃ rj ∈ st.rows, 0 < ri.sp ∧ rj.sp < 0 ∧ ∃ g a b : Int, 0 < g ∧ 0 < a ∧ 0 < b ∧
        ∀ s, g * scalarProduct s d'.row.v = a * scalarProduct s rj.row.v + b * scalarProduct s ri.row.v)) := by
  obtain ⟨_, _, _, tail, hrows, hmem, hsurv⟩ := rayCase_rows ncols srcK newK st hn hz
  constructor
  · intro d hd hs
    rw [hrows]
    have : d ∈ st.rows.take st.nle ++ st.rows.drop st.nle := by rw [List.take_append_drop]; exact hd
    rcases List.mem_append.mp this with h | h
    · exact ⟨d, List.mem_append_left _ h, rfl⟩
    · exact ⟨_, List.mem_append_right _ (hsurv d h hs), keepImage_row _ _ _⟩
  · intro d' hd'
    rw [hrows] at hd'
    rcases List.mem_append.mp hd' with h | h
    · exact Or.inl ⟨d', List.mem_of_mem_take h, rfl⟩
    · rcases hmem d' h with ⟨d, hd, _, he⟩ | ⟨ri, hri, rj, hrj, hi, hj, he⟩
      · exact Or.inl ⟨d, List.mem_of_mem_drop hd, by rw [he, keepImage_row]⟩
      · right
        have hjl : rj.row.le = false := by
          obtain ⟨m, hm, hdm⟩ := (mem_drop_iff_getElem? _ _ _).mp hrj
          rw [hl m rj hdm]; simp; omega
        obtain ⟨g, a, b, hg, ha, hb, _, _, _, _, hs⟩ := sp_newRay ri rj (bor ri.sat rj.sat) hi hj hjl
        refine ⟨ri, List.mem_of_mem_drop hri, rj, List.mem_of_mem_drop hrj, hi, hj, g, a, b, hg, ha, hb, ?_⟩
        intro s; rw [he]; exact (hs s).symm

example :
    let st : CState := { rows := [⟨⟨false, [1, 0]⟩, 1, []⟩, ⟨⟨false, [1, 2]⟩, -1, []⟩], nle := 0, k := 0, redundant := [] }
    ((rayCase 2 ⟨false, [1, -1]⟩ 0 st).rows.map (·.row)) = [⟨false, [1, 0]⟩, ⟨false, [1, 1]⟩] := by decide

/-- **`conversion_preserves_span_line`** — the same for the case where the line `inz` does not saturate
`source[k]` (`lineCase`, :478-633; `st` holds the scalar products): every other old record with product
0 is kept with the same row; an old ray `d0` with a positive product (for an inequality) is replaced by
`d'` with `a·d0 = g·d' + b·p`, `a, g, b > 0`, `p` the new ray made from the line — so it is still
generated. -/
theorem conversion_preserves_span_line (srcK : LRow) (newK : Nat) (st : CState) (inz : Nat)
    (hinz : inz < st.nle) (hn : st.nle ≤ st.rows.length)
    (hpiv : ∃ r, st.rows[inz]? = some r ∧ r.sp ≠ 0)
    (m0 : Nat) (d0 : DRow) (hm0 : m0 ≠ inz) (hd0 : st.rows[m0]? = some d0) :
    (d0.sp = 0 → ∃ d' ∈ (lineCase srcK newK st inz).rows, d'.row = d0.row) ∧
    (0 < d0.sp → st.nle ≤ m0 → d0.row.le = false → srcK.le = false →
      ∃ d' ∈ (lineCase srcK newK st inz).rows, ∃ p ∈ (lineCase srcK newK st inz).rows, ∃ g a b : Int,
        0 < g ∧ 0 < a ∧ 0 < b ∧
        ∀ s, a * scalarProduct s d0.row.v = g * scalarProduct s d'.row.v + b * scalarProduct s p.row.v) :=
  lineCase_preserves_span srcK newK st inz hinz hn hpiv m0 d0 hm0 hd0

example :
    let st : CState := { rows := [⟨⟨true, [0, 1]⟩, 1, []⟩, ⟨⟨false, [1, 1]⟩, 1, []⟩], nle := 1, k := 0, redundant := [] }
    ((lineCase ⟨false, [0, 1]⟩ 0 st 0).rows.map (·.row)) = [⟨false, [0, 1]⟩, ⟨false, [1, 0]⟩] := by decide

/-- **`conversion_preserves_span`** — one iteration of the main loop, both cases: every old generator
that satisfies the new constraint (`≥ 0`; `= 0` for an equality or for a line) is still a row of the
result, or is a strictly positive combination `a·d0 = g·d' + b·p` of two rows of the result.  Together
with `conversion_preserves_span_ray` (b) (each row built is a strictly positive combination of exactly
two old rows that lie on opposite sides) this is the half of completeness that needs no adjacency
argument. -/
theorem conversion_preserves_span (ncols : Nat) (srcK : LRow) (st : CState)
    (hl : ∀ m d, st.rows[m]? = some d → d.row.le = decide (m < st.nle)) (hn : st.nle ≤ st.rows.length)
    (d0 : DRow) (hd0 : d0 ∈ st.rows) (hsat : satisfies srcK d0.row) :
    (∃ d' ∈ (conversionStep ncols srcK st).rows, d'.row = d0.row) ∨
    (∃ d' ∈ (conversionStep ncols srcK st).rows, ∃ p ∈ (conversionStep ncols srcK st).rows, ∃ g a b : Int,
        0 < g ∧ 0 < a ∧ 0 < b ∧
        ∀ s, a * scalarProduct s d0.row.v = g * scalarProduct s d'.row.v + b * scalarProduct s p.row.v) := by
  obtain ⟨m0, hm0⟩ := List.mem_iff_getElem?.mp hd0
  have H := stepHyp_withSp srcK st [] (fun _ _ _ hs => nomatch hs) hl hn
  -- the record of `d0` with its scalar product stored
  have hd1 : (withSp srcK st).rows[m0]? = some { d0 with sp := scalarProduct srcK.v d0.row.v } := by
    show (st.rows.map _)[m0]? = _
    rw [List.getElem?_map, hm0]; rfl
  have hle : d0.row.le = decide (m0 < st.nle) := hl m0 d0 hm0
  rcases conversionStep_cases ncols srcK st hn with ⟨inz, hc, e, _, r, hr, hrnz⟩ | ⟨e, hz⟩
  · rw [e]
    have hne : m0 ≠ inz := by
      rintro rfl
      -- the record at `inz` is a line: it satisfies `srcK` only with product 0
      obtain rfl : r = _ := Option.some.inj (hr.symm.trans hd1)
      exact hrnz (satisfies_line_zero srcK d0.row hsat (Or.inr (by rw [hle]; exact decide_eq_true hc)))
    obtain ⟨h1, h2⟩ := lineCase_preserves_span srcK (st.k - st.redundant.length) (withSp srcK st) inz hc H.hn
      ⟨r, hr, hrnz⟩ m0 _ hne hd1
    by_cases hz : scalarProduct srcK.v d0.row.v = 0
    · exact Or.inl (h1 hz)
    · right
      have hnn : 0 ≤ scalarProduct srcK.v d0.row.v := satisfies_nonneg srcK d0.row hsat
      have hray : d0.row.le = false := by
        cases hd : d0.row.le
        · rfl
        · exact absurd (satisfies_line_zero srcK d0.row hsat (Or.inr hd)) hz
      have hk : srcK.le = false := by
        cases hd : srcK.le
        · rfl
        · exact absurd (satisfies_line_zero srcK d0.row hsat (Or.inl hd)) hz
      exact h2 (by show 0 < scalarProduct srcK.v d0.row.v; omega)
        (Nat.le_of_not_lt (of_decide_eq_false (hle ▸ hray))) hray hk
  · rw [e]
    left
    have hsurv : survives srcK { d0 with sp := scalarProduct srcK.v d0.row.v } := by
      unfold survives
      split
      · exact satisfies_line_zero srcK d0.row hsat (Or.inl ‹_›)
      · exact satisfies_nonneg srcK d0.row hsat
    exact (conversion_preserves_span_ray ncols srcK (st.k - st.redundant.length) (withSp srcK st) H.hn hz H.hl).1
      { d0 with sp := scalarProduct srcK.v d0.row.v } (List.mem_of_getElem? hd1) hsurv

example :
    let st : CState := { rows := [⟨⟨false, [1, 0]⟩, 0, []⟩, ⟨⟨false, [1, 2]⟩, 0, []⟩], nle := 0, k := 0, redundant := [] }
    satisfies ⟨false, [1, -1]⟩ (⟨false, [1, 0]⟩ : LRow) ∧
    ((conversionStep 2 ⟨false, [1, -1]⟩ st).rows.map (·.row)) = [⟨false, [1, 0]⟩, ⟨false, [1, 1]⟩] := by decide

/-! ## `simplify`

`sys` = the rows of the system beside their saturation rows (columns = the generators `gens` of the
other description).  Proved: which rows the two rules remove (the saturation criterion, exactly as the
code applies it), and that `simplify` never loses a point of the set GIVEN a correct saturation matrix
and a complete `gens` (every point of the set is generated by `gens`): inequalities saturated by all
generators really are equalities there, Gauss / back-substitution keep the solution set, the other phases
only remove rows.  The converse inclusion (the rows removed are semantically redundant — needs the rank
argument behind the saturation rule `num_saturators < num_columns - num_equalities - 1` and the
independence rule) is `C01.simplify_drops_only_redundant` in `C01ConvMinimal.lean`; the driver also checks
it per run on the real output by K1 `equivB` (obligation `same`). -/

/-- the saturation rule (:235-246) removes only rows with fewer than `min_saturators` saturators, and
every inequality it keeps has at least that many. -/
theorem simplify_satRule_criterion (fuel numColsSat minSat : Nat) (rows : List SRow) (i : Nat) (hf : rows.length - i ≤ fuel) :
    (∀ x ∈ satRuleLoop fuel numColsSat minSat rows i, x ∈ rows) ∧
    (∀ x ∈ rows, x ∈ satRuleLoop fuel numColsSat minSat rows i ∨ numSaturators numColsSat x < minSat) ∧
    (∀ x ∈ (satRuleLoop fuel numColsSat minSat rows i).drop i, ¬ numSaturators numColsSat x < minSat) :=
  ⟨satRuleLoop_mem fuel numColsSat minSat rows i, satRuleLoop_removed fuel numColsSat minSat rows i,
   satRuleLoop_kept fuel numColsSat minSat rows i hf⟩

example :
    satRuleLoop 2 3 2 [⟨⟨false, [1, 0]⟩, [true, true, false]⟩, ⟨⟨false, [0, 1]⟩, [false, false, true]⟩] 0
      = [⟨⟨false, [0, 1]⟩, [false, false, true]⟩] := by decide

/-- the independence rule (:249-314) removes only inequalities whose saturators are all saturators of an
inequality that is KEPT (`sat[kept] ⊆ sat[removed]`), leaves the equalities alone, and what it keeps is
pairwise independent. -/
theorem simplify_indep_criterion (fuel nle : Nat) (rows : List SRow) (hf : rows.length ≤ fuel) :
    (∀ x ∈ indepLoop fuel nle rows nle, x ∈ rows) ∧
    (indepLoop fuel nle rows nle).take nle = rows.take nle ∧
    (∀ x ∈ rows.drop nle, ∃ y ∈ (indepLoop fuel nle rows nle).drop nle, subsetOrEqual y.sat x.sat = true) ∧
    (∀ j k, nle ≤ j → j < (indepLoop fuel nle rows nle).length → nle ≤ k → k < (indepLoop fuel nle rows nle).length → k ≠ j →
      subsetOrEqual ((indepLoop fuel nle rows nle).getD k default).sat ((indepLoop fuel nle rows nle).getD j default).sat = false) :=
  ⟨indepLoop_mem fuel nle rows nle, indepLoop_take fuel nle rows hf, indepLoop_dominated fuel nle rows hf,
   indepLoop_independent fuel nle rows hf⟩

example :
    indepLoop 2 0 [⟨⟨false, [1, 0]⟩, [true, true]⟩, ⟨⟨false, [0, 1]⟩, [false, true]⟩] 0
      = [⟨⟨false, [0, 1]⟩, [false, true]⟩] := by decide

/-- Gauss elimination on the equalities and back-substitution keep the solution set
(`Linear_System::gauss`, `back_substitute`; the latter under the code's own assertion that no pivot
row is the zero row, `BackSubPivots`). -/
theorem simplify_gauss_same_set (ncols nle : Nat) (rows : List SRow)
    (hle : ∀ i, i < nle → (rows.getD i default).row.le = true) (hn : nle ≤ rows.length) :
    ∀ x, holdsAll ((gauss ncols nle rows).1.map (·.row)) x ↔ holdsAll (rows.map (·.row)) x :=
  gauss_same_set ncols nle rows hle hn

theorem simplify_backSubstitute_same_set (nle : Nat) (rows : List SRow)
    (hle : ∀ i, i < nle → (rows.getD i default).row.le = true) (hn : nle ≤ rows.length)
    (hnz : BackSubPivots nle (List.range nle).reverse rows) :
    ∀ x, holdsAll ((backSubstitute nle rows).map (·.row)) x ↔ holdsAll (rows.map (·.row)) x :=
  backSubstitute_same_set nle rows hle hn hnz

example :
    (gauss 3 2 [⟨⟨true, [0, 1, 1]⟩, []⟩, ⟨⟨true, [2, 1, -1]⟩, []⟩]).1.map (·.row) = [⟨true, [0, 1, 1]⟩, ⟨true, [1, 1, 0]⟩] := by
  decide

/-- **`simplify_sound`** — GIVEN a correct saturation matrix (`SatCorrect gens rows sat`: bit `j` of
row `i` set iff `gens[j]` does not saturate `rows[i]`) `simplify` loses no point generated by `gens`:
every `x` generated by `gens` that satisfies the system satisfies the simplified system. -/
theorem simplify_sound (ncols numColsSat : Nat) (rows : List LRow) (sat : List BRow) (gens : List LRow)
    (hsat : SatCorrect gens rows sat) :
    ∀ x, Generated gens x → holdsAll rows x →
      holdsAll ((simplify ncols numColsSat (List.zipWith (fun a s => ({ row := a, sat := s } : SRow)) rows sat)).1.map (·.row)) x := by
  intro x hx hall
  have hlen := hsat.1
  have hrows : (List.zipWith (fun a s => ({ row := a, sat := s } : SRow)) rows sat).map (·.row) = rows := by
    clear hsat hall
    induction rows generalizing sat with
    | nil => simp
    | cons r rs ih =>
      cases sat with
      | nil => simp at hlen
      | cons b bs =>
        simp only [List.zipWith_cons_cons, List.map_cons]
        congr 1
        exact ih bs (by simpa using hlen)
  apply PPLV.Conv.simplify_sound ncols numColsSat _ gens ?_ x hx (by rw [hrows]; exact hall)
  intro r hr hempty g hg
  -- r = ⟨rows[i], sat[i]⟩
  obtain ⟨i, hi⟩ := List.mem_iff_getElem?.mp hr
  rw [List.getElem?_zipWith] at hi
  match hq1 : rows[i]?, hq2 : sat[i]? with
  | some a, some b =>
    rw [hq1, hq2] at hi
    have hi' : ({ row := a, sat := b } : SRow) = r := by simpa using hi
    subst hi'
    have hilt : i < rows.length := by
      by_contra hc
      rw [List.getElem?_eq_none (by omega)] at hq1; cases hq1
    have ha : rows[i] = a := by
      rw [List.getElem?_eq_getElem hilt] at hq1; exact Option.some.inj hq1
    have hb : sat.getD i [] = b := by rw [List.getD_eq_getElem?_getD, hq2]; rfl
    obtain ⟨j, hj⟩ := List.mem_iff_getElem?.mp hg
    have hjlt : j < gens.length := by
      by_contra hc
      rw [List.getElem?_eq_none (by omega)] at hj; cases hj
    have hgj : gens.getD j default = g := by rw [List.getD_eq_getElem?_getD, hj]; rfl
    have hbit := hsat.2 i hilt j
    rw [hb, ha, hgj] at hbit
    have hfalse : bit b j = false := by
      unfold bit
      unfold bitsEmpty at hempty
      simp only at hempty
      rw [List.getD_eq_getElem?_getD]
      match hq : b[j]? with
      | none => rfl
      | some v =>
        have := List.all_eq_true.mp hempty v (List.mem_of_getElem? hq)
        simpa using this
    rw [hfalse] at hbit
    have : scalarProduct g.v a.v = 0 := by
      by_contra hne
      simp [hjlt, hne] at hbit
    show scalarProduct a.v g.v = 0
    rw [sp_comm]; exact this
  | none, _ => rw [hq1] at hi; simp at hi
  | some _, none => rw [hq1, hq2] at hi; simp at hi

/-- non-vacuity: the square `0 ≤ x ≤ 1, 0 ≤ y ≤ 1` with the redundant `x + y ≤ 3`; its saturation rows
against the four vertices; `simplify` drops the redundant row (no saturator). -/
example :
    let rows : List LRow := [⟨false, [0, 1, 0]⟩, ⟨false, [1, -1, 0]⟩, ⟨false, [0, 0, 1]⟩, ⟨false, [1, 0, -1]⟩, ⟨false, [3, -1, -1]⟩]
    let gens : List LRow := [⟨false, [1, 0, 0]⟩, ⟨false, [1, 1, 0]⟩, ⟨false, [1, 0, 1]⟩, ⟨false, [1, 1, 1]⟩]
    let sat : List BRow := [[false, true, false, true], [true, false, true, false], [false, false, true, true],
                            [true, true, false, false], [true, true, true, true]]
    ((simplify 3 4 (List.zipWith (fun a s => ({ row := a, sat := s } : SRow)) rows sat)).1.map (·.row)).length = 4 := by
  decide

/-! ## the drivers: the part of the status-protocol contract that is proved

`PPLV/PolyStatus/Helpers.lean` takes `minimize` / `add_and_minimize` as parameters "assumed exact — they
report "empty" iff the set is empty, and they produce a DD pair in minimal form from valid inputs".
Proved here for the model: the generators produced always satisfy the whole source system, so a report
"not empty" is always right (a generator with a positive divisor is a point of the polyhedron).  The
converse (a report "empty" is right; the pair is minimal) needs completeness:
`C01.minimize_empty_report_correct` (`C01ConvComplete.lean`), `C01.minimize_minimal_form`
(`C01ConvMinimal.lean`). -/

theorem linesFirst_identity (n : Nat) : LinesFirst (identityLines n) n :=
  linesFirst_identity' n

/-- `minimize`: every row of the `dest` it builds satisfies every row of `source`. -/
theorem minimize_dest_sound (conToGen nnc : Bool) (ncols : Nat) (source : List LRow) (sat0 : List BRow) :
    Sound source (minimize conToGen nnc ncols source sat0).dest := by
  have h := (conversion_sound ncols source 0 (identityLines ncols)
    (List.replicate ncols (List.replicate source.length false)) ncols
    (by intro d _ s hs; simp at hs) (linesFirst_identity ncols) (by simp [identityLines]) (by simp [identityLines])).1
  unfold minimize
  simp only
  split
  · exact h
  · exact h

example : Sound [⟨false, [1, 0]⟩, ⟨false, [3, -1]⟩] (minimize true false 2 [⟨false, [1, 0]⟩, ⟨false, [3, -1]⟩] []).dest := by
  unfold Sound; decide

/-- the same with the head of `minimize` (`if (!source.is_sorted()) source.sort_rows();`): `sort_rows()`
neither invents nor loses a row (`mem_sortRows`), so the generators satisfy the caller's system. -/
theorem minimizeUnsorted_dest_sound (conToGen nnc sorted : Bool) (ncols : Nat) (source : List LRow) (sat0 : List BRow) :
    Sound source (minimizeUnsorted conToGen nnc sorted ncols source sat0).dest := by
  unfold minimizeUnsorted
  by_cases h : sorted = true
  · simp only [h, if_true]; exact minimize_dest_sound conToGen nnc ncols source sat0
  · simp only [h, Bool.false_eq_true, if_false]
    intro d hd s hs
    exact minimize_dest_sound conToGen nnc ncols _ sat0 d hd s ((mem_sortRows _ _ _ _).mpr hs)

example :
    sortRows false false [⟨false, [3, -1]⟩, ⟨false, [1, 0]⟩, ⟨true, [0, 1]⟩, ⟨false, [1, 0]⟩]
      = [⟨true, [0, 1]⟩, ⟨false, [3, -1]⟩, ⟨false, [1, 0]⟩] := by decide

/-- `add_and_minimize`: if the pair handed in is sound for the non-pending rows (`source[0, start)`) and
its lines come first, every row of the `dest` returned satisfies every row of `source`, pending rows
included. -/
theorem addAndMinimize_dest_sound (conToGen nnc : Bool) (ncols : Nat) (source : List LRow) (start : Nat)
    (dest : List LRow) (sat : List BRow) (h0 : Sound (source.take start) dest)
    (hl : LinesFirst dest (dest.filter (·.le)).length) (hlen : sat.length = dest.length) :
    Sound source (addAndMinimize conToGen nnc ncols source start dest sat).dest := by
  have h := (conversion_sound ncols source start dest
    (sat.map fun r => (r ++ List.replicate (source.length - r.length) false).take source.length)
    (dest.filter (·.le)).length h0 hl (List.length_filter_le _ _) (by simpa using hlen)).1
  unfold addAndMinimize
  simp only
  split
  · exact h
  · exact h

example :
    let source : List LRow := [⟨false, [1, 0]⟩, ⟨false, [3, -1]⟩, ⟨false, [-1, 1]⟩]
    let dest : List LRow := [⟨false, [0, -1]⟩, ⟨false, [1, 3]⟩]
    Sound (source.take 2) dest ∧ LinesFirst dest (dest.filter (·.le)).length ∧
    (addAndMinimize true false 2 source 2 dest [[true, false], [false, true]]).dest = [⟨false, [1, 3]⟩, ⟨false, [1, 1]⟩] := by
  refine ⟨by unfold Sound; decide, by unfold LinesFirst; decide, by decide⟩

/-- `minimize(true, cs, gs, sat)` on a C system: when it does not report "empty" it has produced a
generator with a positive divisor that satisfies every constraint — the constraint system is feasible. -/
theorem minimize_nonempty_sound (ncols : Nat) (source : List LRow) (sat0 : List BRow)
    (h : (minimize true false ncols source sat0).empty = false) :
    ∃ d ∈ (minimize true false ncols source sat0).dest, 0 < d.v.getD 0 0 ∧ ∀ s ∈ source, satisfies s d := by
  have hs := minimize_dest_sound true false ncols source sat0
  unfold minimize at h hs ⊢
  simp only at h hs ⊢
  split at h
  · simp at h
  · rename_i hp
    simp only [hp] at hs ⊢
    have hp' : hasPoint false ncols
        (conversion ncols source 0 (identityLines ncols) (List.replicate ncols (List.replicate source.length false)) ncols).nle
        (conversion ncols source 0 (identityLines ncols) (List.replicate ncols (List.replicate source.length false)) ncols).dest = true := by
      simpa using hp
    unfold hasPoint at hp'
    obtain ⟨r, hr, hpos⟩ := List.any_eq_true.mp hp'
    refine ⟨r, List.mem_of_mem_drop hr, by simpa using hpos, fun s hsm => ?_⟩
    exact hs r (List.mem_of_mem_drop hr) s hsm

example :
    (minimize true false 2 [⟨false, [1, 0]⟩, ⟨false, [3, -1]⟩] []).empty = false ∧
    (minimize true false 2 [⟨false, [1, 0]⟩, ⟨false, [3, -1]⟩] []).dest = [⟨false, [0, -1]⟩, ⟨false, [1, 3]⟩] := by
  decide

/-- **tie to the K1 kernel** — `sysCons source` is the K1 reading (`PPLV.Lin.Con`, necessarily closed) of
the constraint rows.  When the model of `minimize(true, cs, gs, sat)` does not report "empty", the K1
decider `feasible` (proved sound and complete, `feasible_iff`) agrees: the set `sem (sysCons source)` has a
point — the generator with a positive divisor the engine produced.  (The converse, "empty" reports are
right, needs completeness: `C01.minimize_empty_report_correct`.) -/
theorem minimize_nonempty_feasible (ncols n : Nat) (source : List LRow) (sat0 : List BRow)
    (hwf : PPLV.Lin.WF n (sysCons source))
    (h : (minimize true false ncols source sat0).empty = false) :
    PPLV.Lin.feasible n (sysCons source) = true := by
  obtain ⟨d, _, hpos, hs⟩ := minimize_nonempty_sound ncols source sat0 h
  exact (PPLV.Lin.feasible_iff n (sysCons source) hwf).mpr ⟨_, sound_point_sat source d hpos hs⟩

example :
    PPLV.Lin.WF 1 (sysCons [⟨false, [1, 0]⟩, ⟨false, [3, -1]⟩]) ∧
    (minimize true false 2 [⟨false, [1, 0]⟩, ⟨false, [3, -1]⟩] []).empty = false := by
  refine ⟨?_, by decide⟩
  intro c hc
  simp [sysCons, rowCons, PPLV.Lin.geRow] at hc
  rcases hc with rfl | rfl <;> simp

end C01

import PPLV.Powerset.K1Inst
import PPLV.Powerset.ProofsDNF
import Mathlib.Data.Set.Lattice

/-!
# C09 — powersets denote the union of their disjuncts and every operation respects it

`Γ d x : Set Pt` is the point set of a base-level element, a powerset denotes `⋃ x ∈ s, Γ d x`.
The theorems quantify over **every** domain satisfying the K5 interface (`Dom`: sound operators;
`ExactDom`/`PolyDom`: exact ones, the hypotheses C01/C02/C05 establish for the real polyhedra and
grids) and over **every** finite sequence of disjuncts (redundant, empty, overlapping … are all
just lists) and every value of the lazy `reduced` flag.  The functions are the code-shaped models
of `PPLV/Powerset/Model.lean`; `false` as first argument = no `abandon_expensive_computations`
deadline pending (with a deadline the library documents a coarser result: the `_deadline` versions).
Copy-on-write sharing is value semantics of the list in the model; it is exercised on the real
code by the harness (copies re-observed after the original changed).
-/
namespace C09
open PPLV PPLV.Powerset

/-- the point set of a base-level element -/
def Γ (d : Dom) (x : d.D) : Set Pt := {p | d.γ x p}

theorem mem_union (d : Dom) (s : List d.D) (p : Pt) : p ∈ (⋃ x ∈ s, Γ d x) ↔ d.U s p := by
  simp only [Set.mem_iUnion, Γ, Dom.U]
  exact ⟨fun ⟨x, hx, h⟩ => ⟨x, hx, h⟩, fun ⟨x, hx, h⟩ => ⟨x, hx, h⟩⟩

/-! ## a tiny concrete domain for the non-vacuity examples: finite sets of naturals on axis 0 -/

def Toy : Dom where
  D := List Nat
  γ a p := ∃ n ∈ a, p 0 = (n : Rat)
  leq a b := a.all (b.contains ·)
  isBottom a := a.isEmpty
  join a b := a ++ b
  meet a b := a.filter (b.contains ·)
  eqv a b := a.all (b.contains ·) && b.all (a.contains ·)
  leq_sound := by
    intro a b h p ⟨n, hn, hp⟩
    simp only [List.all_eq_true, List.contains_iff_mem] at h
    exact ⟨n, h n hn, hp⟩
  isBottom_sound := by
    intro a h p ⟨n, hn, _⟩
    rw [List.isEmpty_iff] at h; subst h; cases hn
  join_sound := by
    rintro a b p (⟨n, hn, hp⟩ | ⟨n, hn, hp⟩)
    · exact ⟨n, List.mem_append_left _ hn, hp⟩
    · exact ⟨n, List.mem_append_right _ hn, hp⟩
  meet_sound := by
    rintro a b p ⟨n, hn, hp⟩ ⟨m, hm, hq⟩
    have : n = m := by
      have : (n : Rat) = (m : Rat) := by rw [← hp, ← hq]
      exact_mod_cast this
    subst this
    exact ⟨n, List.mem_filter.mpr ⟨hn, by simpa using hm⟩, hp⟩
  eqv_sound := by
    intro a b h p
    simp only [Bool.and_eq_true, List.all_eq_true, List.contains_iff_mem] at h
    exact ⟨fun ⟨n, hn, hp⟩ => ⟨n, h.1 n hn, hp⟩, fun ⟨n, hn, hp⟩ => ⟨n, h.2 n hn, hp⟩⟩

/-! ## generic `Powerset<D>` -/

/-- **Omega-reduction never changes the union** (whatever the flag says, whatever the order). -/
theorem omega_reduce_union (d : Dom) (s : PS d) :
    (⋃ x ∈ (omegaReduce d false s).seq, Γ d x) = ⋃ x ∈ s.seq, Γ d x := by
  ext p; rw [mem_union, mem_union]; exact omegaReduce_U d s p

example : (omegaReduce Toy false ⟨[[1], [1, 2], [], [3], [2, 1]], false⟩).seq = ([[1, 2], [3]] : List (List Nat)) := rfl
example : (omegaReduce Toy false ⟨[[1], [1, 2]], true⟩).seq = ([[1], [1, 2]] : List (List Nat)) := rfl

/-- With a deadline pending (`abandon_expensive_computations`) it may collapse: union only enlarged. -/
theorem omega_reduce_deadline (d : Dom) (abandon : Bool) (s : PS d) :
    (⋃ x ∈ s.seq, Γ d x) ⊆ ⋃ x ∈ (omegaReduce d abandon s).seq, Γ d x := by
  intro p; rw [mem_union, mem_union]; exact omegaReduce_ge d abandon s p

example : (omegaReduce Toy true ⟨[[1], [2], [3]], false⟩).seq = ([[1], [2, 3]] : List (List Nat)) := rfl

/-- **`collapse()`**: the result is the single disjunct "base-level upper bound of all disjuncts
    (in iteration order)", and it contains the union. -/
theorem collapse_spec (d : Dom) (y : d.D) (ys : List d.D) (r : Bool) :
    (collapse d ⟨y :: ys, r⟩).seq = [ys.foldl d.join y] ∧
    (⋃ x ∈ (y :: ys), Γ d x) ⊆ Γ d (ys.foldl d.join y) := by
  refine ⟨collapse_seq d y ys r, ?_⟩
  intro p hp
  rw [mem_union] at hp
  exact foldl_join_ge d y ys p ((U_cons d y ys p).mp hp)

example : (collapse Toy ⟨[[1], [5], [2]], false⟩).seq = ([[1, 5, 2]] : List (List Nat)) := rfl

/-- **`collapse(max_disjuncts)`**: at most `max` disjuncts remain; the union is only enlarged, and
    only by points of the base-level upper bound of the collapsed tail. -/
theorem collapse_max_spec (d : Dom) (maxD : Nat) (hm : 0 < maxD) (s : PS d) :
    (collapseMax d false maxD s).seq.length ≤ maxD ∧
    (⋃ x ∈ s.seq, Γ d x) ⊆ ⋃ x ∈ (collapseMax d false maxD s).seq, Γ d x := by
  refine ⟨collapseMax_length d maxD hm s, ?_⟩
  intro p; rw [mem_union, mem_union]; exact collapseMax_ge d false maxD s p

example : (collapseMax Toy false 2 ⟨[[1], [5], [2], [1]], false⟩).seq = ([[1], [5, 2]] : List (List Nat)) := rfl

/-- what `collapse(sink)` adds lies in the base-level upper bound of the sink and its successors;
    the earlier disjuncts are kept or entailed -/
theorem collapse_at_spec (d : Dom) (pre : List d.D) (x : d.D) (post : List d.D) :
    (⋃ z ∈ pre ++ x :: post, Γ d z) ⊆ (⋃ z ∈ collapseAt d pre x post, Γ d z) ∧
    (⋃ z ∈ collapseAt d pre x post, Γ d z) ⊆ (⋃ z ∈ pre, Γ d z) ∪ Γ d (post.foldl d.join x) := by
  constructor
  · intro p; rw [mem_union, mem_union]; exact collapseAt_ge d pre x post p
  · intro p hp
    rw [mem_union] at hp
    rcases collapseAt_le d pre x post p hp with h | h
    · exact Or.inl ((mem_union d pre p).mpr h)
    · exact Or.inr h

/-- **Adding a disjunct** (plain `add_disjunct`, and `add_non_bottom_disjunct_preserve_reduction`
    on any split `pre ++ rng` of the sequence) adds exactly the points of that disjunct. -/
theorem add_disjunct_union (d : Dom) (s : PS d) (y : d.D) (pre rng : List d.D) :
    ((⋃ x ∈ (addDisjunct d s y).seq, Γ d x) = (⋃ x ∈ s.seq, Γ d x) ∪ Γ d y) ∧
    ((⋃ x ∈ (addNB d y pre rng).1 ++ (addNB d y pre rng).2, Γ d x) = (⋃ x ∈ pre ++ rng, Γ d x) ∪ Γ d y) := by
  constructor
  · ext p; rw [Set.mem_union, mem_union, mem_union]; exact addDisjunct_U d s y p
  · ext p; rw [Set.mem_union, mem_union, mem_union]; exact addNB_U d y pre rng p

example : (addNB Toy [1, 2] [] [[1], [3], [2]]) = (([] : List (List Nat)), ([[3], [1, 2]] : List (List Nat))) := rfl
example : (addNB Toy [1] [] [[3], [1, 2]]) = (([] : List (List Nat)), ([[3], [1, 2]] : List (List Nat))) := rfl

/-- **Upper bound**: the union of the result is the union of the two unions; the argument (whose
    mutable representation is omega-reduced on the way) keeps its union. -/
theorem lub_union (d : Dom) (s t : PS d) :
    ((⋃ x ∈ (lub d false s t).1.seq, Γ d x) = (⋃ x ∈ s.seq, Γ d x) ∪ ⋃ y ∈ t.seq, Γ d y) ∧
    ((⋃ y ∈ (lub d false s t).2.seq, Γ d y) = ⋃ y ∈ t.seq, Γ d y) := by
  constructor
  · ext p; rw [Set.mem_union, mem_union, mem_union, mem_union]; exact lub_U d s t p
  · ext p; rw [mem_union, mem_union]; exact lub_arg_U d s t p

example : (lub Toy false ⟨[[1], [1, 2]], false⟩ ⟨[[1, 2, 3], [4], []], false⟩).1.seq
    = ([[1, 2, 3], [4]] : List (List Nat)) := rfl

/-- **Meet** (`pairwise_apply_assign` with a base operator that is exact for intersection, e.g.
    `intersection_assign` of polyhedra and grids): union of the result = intersection of the unions. -/
theorem pairwise_apply_meet (d : Dom) (op : d.D → d.D → d.D)
    (hop : ∀ a b, Γ d (op a b) = Γ d a ∩ Γ d b) (s t : PS d) :
    (⋃ x ∈ (pairwiseApply d false op s t).1.seq, Γ d x) = (⋃ x ∈ s.seq, Γ d x) ∩ ⋃ y ∈ t.seq, Γ d y := by
  ext p
  rw [Set.mem_inter_iff, mem_union, mem_union, mem_union]
  refine pairwiseApply_exact_U d op (fun a b q => ?_) s t p
  have := hop a b
  exact ⟨fun h => (this ▸ h : q ∈ Γ d a ∩ Γ d b), fun h => (this ▸ h : q ∈ Γ d (op a b))⟩

example : (meetAssign Toy false ⟨[[1, 2], [3]], false⟩ ⟨[[2, 3], [7]], false⟩).1.seq
    = ([[2], [3]] : List (List Nat)) := rfl

/-- for exact domains `meet_assign` itself qualifies -/
theorem meet_exact_union (d : ExactDom) (s t : PS d.toDom) :
    (⋃ x ∈ (meetAssign d.toDom false s t).1.seq, Γ d.toDom x)
      = (⋃ x ∈ s.seq, Γ d.toDom x) ∩ ⋃ y ∈ t.seq, Γ d.toDom y :=
  pairwise_apply_meet d.toDom d.meet (fun a b => by ext p; exact d.meet_exact a b p) s t

/-- with a merely sound base-level meet (boxes, BD shapes, octagons with inexact coefficients)
    the result still contains the intersection of the unions -/
theorem meet_sound_union (d : Dom) (abandon : Bool) (s t : PS d) :
    (⋃ x ∈ s.seq, Γ d x) ∩ (⋃ y ∈ t.seq, Γ d y) ⊆ ⋃ x ∈ (meetAssign d abandon s t).1.seq, Γ d x := by
  intro p hp
  rw [Set.mem_inter_iff, mem_union, mem_union] at hp
  rw [mem_union]
  exact meetAssign_ge d abandon s t p hp

/-- **Entailment-based containment implies geometric containment.** -/
theorem entails_sound (d : Dom) (s t : List d.D) (h : definitelyEntails d s t = true) :
    (⋃ x ∈ s, Γ d x) ⊆ ⋃ y ∈ t, Γ d y := by
  intro p; rw [mem_union, mem_union]; exact definitelyEntails_sound d s t h p

example : definitelyEntails Toy [[1], [2, 3]] [[3, 2], [1, 9]] = true := rfl
example : definitelyEntails Toy [[1, 2]] [[1], [2]] = false := rfl   -- not complete: geometric containment holds

/-- `operator==` answers `true` only for powersets denoting the same set -/
theorem eq_sound (d : Dom) (s t : PS d) (h : Powerset.eq d false s t = true) :
    (⋃ x ∈ s.seq, Γ d x) = ⋃ y ∈ t.seq, Γ d y := by
  ext p; rw [mem_union, mem_union]; exact Powerset.eq_sound d s t h p

example : Powerset.eq Toy false ⟨[[1], [2, 1], []], false⟩ ⟨[[1, 2]], false⟩ = true := rfl

/-- **Transformers act disjunct-wise**: a base-level operator that computes the exact image under
    a relation `R` (`add_constraint(s)`, affine image / preimage, adding / removing / mapping
    dimensions, …) acts on the union as that image … -/
theorem transformer_exact (d : Dom) (f : d.D → d.D) (R : Pt → Pt → Prop)
    (hf : ∀ a, Γ d (f a) = {q | ∃ p ∈ Γ d a, R p q}) (s : PS d) :
    (⋃ x ∈ (mapDisjuncts d f s).seq, Γ d x) = {q | ∃ p ∈ (⋃ x ∈ s.seq, Γ d x), R p q} := by
  ext q
  rw [mem_union]
  have := mapDisjuncts_exact d f R (fun a q => by
    have h := hf a
    exact ⟨fun hq => (h ▸ hq : q ∈ {q | ∃ p ∈ Γ d a, R p q}), fun hq => (h ▸ hq : q ∈ Γ d (f a))⟩) s q
  rw [this]
  constructor
  · rintro ⟨p, hp, hr⟩; exact ⟨p, (mem_union d s.seq p).mpr hp, hr⟩
  · rintro ⟨p, hp, hr⟩; exact ⟨p, (mem_union d s.seq p).mp hp, hr⟩

/-- … and a sound one returns a powerset containing the image of the union. -/
theorem transformer_sound (d : Dom) (f : d.D → d.D) (R : Pt → Pt → Prop)
    (hf : ∀ a, {q | ∃ p ∈ Γ d a, R p q} ⊆ Γ d (f a)) (s : PS d) :
    {q | ∃ p ∈ (⋃ x ∈ s.seq, Γ d x), R p q} ⊆ ⋃ x ∈ (mapDisjuncts d f s).seq, Γ d x := by
  rintro q ⟨p, hp, hr⟩
  rw [mem_union]
  exact mapDisjuncts_sound d f R (fun a p q hp hr => hf a ⟨p, hp, hr⟩) s q ⟨p, (mem_union d s.seq p).mp hp, hr⟩

/-- `add_constraint` on every disjunct intersects the union with the constraint -/
theorem add_constraint_union (d : PolyDom) (c : LCon) (s : PS d.toDom) :
    (⋃ x ∈ (mapDisjuncts d.toDom (d.addCon · c) s).seq, Γ d.toDom x) = (⋃ x ∈ s.seq, Γ d.toDom x) ∩ {p | c.sat p} := by
  rw [transformer_exact d.toDom (d.addCon · c) (fun p q => p = q ∧ c.sat p)]
  · ext q
    constructor
    · rintro ⟨p, hp, rfl, hc⟩; exact ⟨hp, hc⟩
    · rintro ⟨hq, hc⟩; exact ⟨q, hq, rfl, hc⟩
  · intro a
    ext q
    constructor
    · intro h
      obtain ⟨h1, h2⟩ := (d.addCon_spec a c q).mp h
      exact ⟨q, h1, rfl, h2⟩
    · rintro ⟨p, hp, rfl, hc⟩
      exact (d.addCon_spec a c p).mpr ⟨hp, hc⟩

/-! ## `Pointset_Powerset` over an exact polyhedral domain -/

/-- **`pairwise_reduce` (merging pairs whose upper bound is exact) never changes the union.** -/
theorem pairwise_reduce_union (d : PolyDom) (s : PS d.toDom) :
    (⋃ x ∈ (pairwiseReduce d false s).seq, Γ d.toDom x) = ⋃ x ∈ s.seq, Γ d.toDom x := by
  ext p; rw [mem_union, mem_union]; exact pairwiseReduce_U d s p

/-- **`linear_partition(p, q)`**: the first component is `p ∩ q`; the pieces are non-empty,
    pairwise disjoint, disjoint from `p`, and together with the first component they make up `q`. -/
theorem linear_partition_spec (d : PolyDom) (p q : d.D) :
    let r := linearPartition d p q
    Γ d.toDom r.1 = Γ d.toDom p ∩ Γ d.toDom q ∧
    (∀ n ∈ r.2, Γ d.toDom n ∩ Γ d.toDom p = ∅ ∧ Γ d.toDom n ≠ ∅) ∧
    (Γ d.toDom r.1 ∪ ⋃ n ∈ r.2, Γ d.toDom n) = Γ d.toDom q ∧
    r.2.Pairwise (fun a b => Γ d.toDom a ∩ Γ d.toDom b = ∅) := by
  intro r
  have h := linearPartition_spec d p q
  refine ⟨?_, ?_, ?_, ?_⟩
  · ext x
    exact ⟨fun hx => ((h.first x).mp hx).symm, fun hx => (h.first x).mpr hx.symm⟩
  · intro n hn
    constructor
    · rw [Set.eq_empty_iff_forall_notMem]
      rintro x ⟨h1, h2⟩
      exact (h.pieces n hn x h1).2 h2
    · intro he
      have hb := h.nonbot n hn
      have : d.isBottom n = true := (d.isBottom_iff n).mpr fun x hx => by
        have : x ∈ Γ d.toDom n := hx
        rw [he] at this; exact this
      rw [hb] at this; cases this
  · ext x
    rw [Set.mem_union, mem_union]
    constructor
    · rintro (hx | hx)
      · exact ((h.first x).mp hx).1
      · obtain ⟨n, hn, hx⟩ := hx
        exact (h.pieces n hn x hx).1
    · intro hx
      by_cases hp : d.γ p x
      · exact Or.inl ((h.first x).mpr ⟨hx, hp⟩)
      · exact Or.inr (h.cover x hx hp)
  · refine h.disj.imp ?_
    intro a b hab
    rw [Set.eq_empty_iff_forall_notMem]
    exact fun x hx => hab x hx

/-- **`difference_assign` is the exact set difference of the unions.** -/
theorem difference_exact (d : PolyDom) (s t : PS d.toDom) :
    (⋃ x ∈ (psDiff d false s t).seq, Γ d.toDom x) = (⋃ x ∈ s.seq, Γ d.toDom x) \ ⋃ y ∈ t.seq, Γ d.toDom y := by
  ext p
  rw [Set.mem_sdiff, mem_union, mem_union, mem_union]
  exact psDiff_U d s t p

/-- **`check_containment` / `geometrically_covers` decide inclusion of the unions.** -/
theorem covers_iff (d : PolyDom) (s t : List d.D) :
    geometricallyCovers d false s t = true ↔ (⋃ y ∈ t, Γ d.toDom y) ⊆ ⋃ x ∈ s, Γ d.toDom x := by
  rw [geometricallyCovers_iff]
  constructor
  · intro h p; rw [mem_union, mem_union]; exact h p
  · intro h p hp; exact (mem_union d.toDom s p).mp (h ((mem_union d.toDom t p).mpr hp))

theorem check_containment_iff (d : PolyDom) (ph : d.D) (ps : List d.D) :
    checkContainment d false ph ps = true ↔ Γ d.toDom ph ⊆ ⋃ x ∈ ps, Γ d.toDom x := by
  rw [checkContainment_iff]
  constructor
  · intro h p hp; exact (mem_union d.toDom ps p).mpr (h p hp)
  · intro h p hp; exact (mem_union d.toDom ps p).mp (h hp)

/-- under a deadline the positive answer is still sound -/
theorem check_containment_deadline (d : PolyDom) (abandon : Bool) (ph : d.D) (ps : List d.D)
    (h : checkContainment d abandon ph ps = true) : Γ d.toDom ph ⊆ ⋃ x ∈ ps, Γ d.toDom x := by
  intro p hp; exact (mem_union d.toDom ps p).mpr (checkContainment_sound d abandon ph ps h p hp)

/-- **`geometrically_equals` decides equality of the unions.** -/
theorem geometrically_equals_iff (d : PolyDom) (s t : List d.D) :
    geometricallyEquals d false s t = true ↔ (⋃ x ∈ s, Γ d.toDom x) = ⋃ y ∈ t, Γ d.toDom y := by
  rw [geometricallyEquals_iff]
  constructor
  · intro h; ext p; rw [mem_union, mem_union]; exact h p
  · intro h p; rw [← mem_union, ← mem_union, h]

/-- **`simplify_using_context_assign`**: the meet with the context is preserved, the number of
    disjuncts does not grow, `false` is returned only for an empty meet — for every base domain
    whose own `simplify_using_context_assign` is a meet-preserving *enlargement* (K5 fields
    `simplify_meet`, `simplify_enl`, `simplify_false`; documented in the PPL manual).
    (`hy`: the context satisfies the class invariant checked by `OK()`: flag set ⇒ no empty disjunct.) -/
theorem simplify_ctx (d : PolyDom) (s c : PS d.toDom)
    (hy : c.reduced = true → ∀ a ∈ c.seq, d.isBottom a = false) :
    let r := simplifyCtx d false s c
    ((⋃ x ∈ r.1.seq, Γ d.toDom x) ∩ (⋃ y ∈ c.seq, Γ d.toDom y)
        = (⋃ x ∈ s.seq, Γ d.toDom x) ∩ ⋃ y ∈ c.seq, Γ d.toDom y) ∧
    r.1.seq.length ≤ s.seq.length ∧
    (r.2.2 = false → (⋃ x ∈ s.seq, Γ d.toDom x) ∩ (⋃ y ∈ c.seq, Γ d.toDom y) = ∅) := by
  intro r
  refine ⟨?_, simplifyCtx_length d s c hy, ?_⟩
  · ext p
    rw [Set.mem_inter_iff, Set.mem_inter_iff, mem_union, mem_union, mem_union]
    exact simplifyCtx_meet d s c p
  · intro hf
    rw [Set.eq_empty_iff_forall_notMem]
    intro p hp
    rw [Set.mem_inter_iff, mem_union, mem_union] at hp
    exact simplifyCtx_false d s c hf p hp

/-! ### the model runs on concrete polyhedra (K1 instance of the interface) -/

section K1
open PPLV.Lin

/-- `x ≥ a`, `x ≤ b` on axis 0 -/
def geC (a : Int) : LCon := ⟨[1], -a, .ge⟩
def leC (b : Int) : LCon := ⟨[-1], b, .ge⟩
def gtC (a : Int) : LCon := ⟨[1], -a, .gt⟩
def ltC (b : Int) : LCon := ⟨[-1], b, .gt⟩

-- [1,2] against [0,3]: meet [1,2], residues [0,1) and (2,3]
def viewP (x : K1Poly.D × List K1Poly.D) : List LCon × List (List LCon) := x
def viewS (x : List K1Poly.D) : List (List LCon) := x

example : viewP (linearPartition K1Poly [geC 1, leC 2] [geC 0, leC 3]) =
    ([geC 0, leC 3, geC 1, leC 2], [[geC 0, leC 3, ltC 1], [geC 0, leC 3, geC 1, gtC 2]]) := by
  decide +kernel

-- [0,3] is covered by [0,1] ∪ (1,3], and not by [0,1] ∪ (2,3]
example : geometricallyCovers K1Poly false [[geC 0, leC 1], [gtC 1, leC 3]] [[geC 0, leC 3]] = true := by
  decide +kernel
example : geometricallyCovers K1Poly false [[geC 0, leC 1], [gtC 2, leC 3]] [[geC 0, leC 3]] = false := by
  decide +kernel

-- [0,3] ∖ [1,2] = [0,1) ∪ (2,3]
example : viewS (psDiff K1Poly false ⟨[[geC 0, leC 3]], false⟩ ⟨[[geC 1, leC 2]], false⟩).seq
    = [[geC 0, leC 3, ltC 1], [geC 0, leC 3, geC 1, gtC 2]] := by decide +kernel

-- pairwise_reduce merges comparable pairs (the K1 instance's `ubIfExact`)
example : (pairwiseReduce K1Poly false ⟨[[geC 0, leC 1], [geC 5], [geC 0, leC 1, leC 7]], false⟩).seq.length = 2 := by
  decide +kernel

end K1

/-! ### what happens when the base-level simplification is not an enlargement

On the unchanged tree `C_Polyhedron::simplify_using_context_assign` returns, for
`x = {B ≥ 2}` in the context `c₁ = {-2A-B ≥ -4, 2A+2B ≥ -1, 2A-B ≥ 0, 2A+B ≥ 0}`, the polyhedron
`{B ≥ 2, 2A-B ≥ 0}`: meet-preserving but **not an enlargement** (it adds a constraint of the
context).  Fed with exactly that answer, `intersection_preserving_enlarge_element` for the context
`{c₁, c₂}`, `c₂ = {A + B = 2}`, loses the non-empty meet of `x` with `c₂` — the K5 hypothesis
`simplify_enl` is therefore necessary for `simplify_ctx`, and the library's own base operator
breaks it (known finding KF-C09-1, observed through the harness). -/

section Fails
def xW : List LCon := [⟨[0, 1], -2, .ge⟩]
def c1W : List LCon := [⟨[-2, -1], 4, .ge⟩, ⟨[2, 2], 1, .ge⟩, ⟨[2, -1], 0, .ge⟩, ⟨[2, 1], 0, .ge⟩]
def c2W : List LCon := [⟨[1, 1], -2, .eq⟩]
def rW : List LCon := [⟨[0, 1], -2, .ge⟩, ⟨[2, -1], 0, .ge⟩]

/-- the answers of the real library on the two base-level calls of this run -/
def libSimp (a y : List LCon) : List LCon × Bool :=
  if kEmpty y then ([], false) else if a = xW ∧ y = c1W ++ [] then (rW, true) else (a, !kDisjoint a y)

/-- the observed first answer is meet-preserving for its context but not an enlargement -/
theorem base_simplify_not_enlargement_witness :
    kDisjoint xW c2W = false ∧ kLeq xW rW = false ∧ kLeq (rW ++ c1W) (xW ++ c1W) = true ∧ kLeq (xW ++ c1W) (rW ++ c1W) = true := by
  -- `2A - B ≥ 0` is a row of `c₁`, so both meets consist of the same rows
  refine ⟨?_, ?_, kLeq_of_subset (by decide), kLeq_of_subset (by decide)⟩
  · exact Bool.eq_false_iff.mpr fun h => (kDisjoint_iff _ _).mp h pW ⟨xW_pW, c2W_pW⟩
  · exact Bool.eq_false_iff.mpr fun h => rW_pW ((kLeq_iff _ _).mp h pW xW_pW)

/-- … and with it the powerset-level clause fails: the enlarged disjunct no longer meets `c₂`
    although `x` does -/
theorem simplify_ctx_fails_without_enlargement :
    ¬ (∀ p, (K1Poly.γ (enlargeElementWith K1Poly libSimp [c1W, c2W] xW).1 p ∧ K1Poly.U [c1W, c2W] p)
          ↔ (K1Poly.γ xW p ∧ K1Poly.U [c1W, c2W] p)) := by
  intro h
  have hk : kEmpty c1W = false :=
    Bool.eq_false_iff.mpr fun hk => (kEmpty_iff _).mp hk (fun _ => 0) (by decide +kernel)
  -- the first step of the fold puts `rW` into the result, whatever the second step adds
  have h1 : libSimp xW (c1W ++ []) = (rW, true) := by simp [libSimp, hk]
  have hp := ((h pW).mpr ⟨xW_pW, c2W, List.mem_cons_of_mem _ List.mem_cons_self, c2W_pW⟩).1
  refine rW_pW fun c hc => hp c ?_
  show c ∈ ([] ++ (libSimp xW (c1W ++ [])).1) ++ _
  rw [h1]
  exact List.mem_append_left _ hc
end Fails

/-! ## the judge used on the real library's output -/

/-- **Inclusion of finite unions of polyhedra is decided exactly** by successive difference
    (`pplv_ps` uses `dnfSubset`/`dnfEquiv`/`dnfMinus`/`dnfDisjoint` on the printed disjuncts). -/
theorem dnfSubset_iff (n : Nat) (A B : DNF) (hA : DWF n A) (hB : DWF n B) :
    dnfSubset n A B = true ↔ dnfSem A ⊆ dnfSem B := Powerset.dnfSubset_iff n A B hA hB

theorem dnfEquiv_iff (n : Nat) (A B : DNF) (hA : DWF n A) (hB : DWF n B) :
    dnfEquiv n A B = true ↔ dnfSem A = dnfSem B := Powerset.dnfEquiv_iff n A B hA hB

/-- the variants with the single-disjunct shortcut, as called by the driver -/
theorem dnfSubsetF_iff (n : Nat) (A B : DNF) (hA : DWF n A) (hB : DWF n B) :
    dnfSubsetF n A B = true ↔ dnfSem A ⊆ dnfSem B := Powerset.dnfSubsetF_iff n A B hA hB

theorem dnfEquivF_iff (n : Nat) (A B : DNF) (hA : DWF n A) (hB : DWF n B) :
    dnfEquivF n A B = true ↔ dnfSem A = dnfSem B := Powerset.dnfEquivF_iff n A B hA hB

theorem dnfEmpty_iff (n : Nat) (A : DNF) (hA : DWF n A) : dnfEmpty n A = true ↔ dnfSem A = ∅ :=
  Powerset.dnfEmpty_iff n A hA

theorem dnfAddCons_sem (A : DNF) (cs : List PPLV.Lin.Con) : dnfSem (dnfAddCons A cs) = dnfSem A ∩ PPLV.Lin.sem cs :=
  Powerset.dnfAddCons_sem A cs

theorem dnfMinus_sem (n : Nat) (A B : DNF) (hA : DWF n A) (hB : DWF n B) :
    dnfSem (dnfMinus n A B) = dnfSem A \ dnfSem B := Powerset.dnfMinus_sem n A B hA hB

theorem dnfDisjoint_iff (n : Nat) (A B : DNF) (hA : DWF n A) (hB : DWF n B) :
    dnfDisjoint n A B = true ↔ dnfSem A ∩ dnfSem B = ∅ := Powerset.dnfDisjoint_iff n A B hA hB

theorem dnfMeet_sem (A B : DNF) : dnfSem (dnfMeet A B) = dnfSem A ∩ dnfSem B := Powerset.dnfMeet_sem A B

open PPLV.Lin in
example : dnfSubset 1 [[geRow [1] 0, geRow [-1] 3]] [[geRow [1] 0, geRow [-1] 1], [gtRow [1] (-1), geRow [-1] 3]] = true
    ∧ dnfSubset 1 [[geRow [1] 0, geRow [-1] 3]] [[geRow [1] 0, geRow [-1] 1], [gtRow [1] (-2), geRow [-1] 3]] = false := by
  decide +kernel

end C09

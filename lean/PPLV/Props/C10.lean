import PPLV.Product.Proofs
import PPLV.Product.ProofsJudge
import PPLV.Lin.Decide
import Mathlib.Data.Set.Lattice

/-!
# C10 — products denote the intersection of their components; reductions never lose it

`Γ X d : Set Pt` is the point set of a component, a product `(d₁, d₂)` denotes `Γ A d₁ ∩ Γ B d₂`.
The theorems hold for **every** pair of component domains satisfying the K5 interface `RDom`
(sound `is_empty`, `refine_with_*`, `maximize`/`minimize` bounds, `frequency`, and
`minimized_constraints`/`minimized_congruences` that hold on the element — the content of
C01–C05 for the real domains), every component values (consistent or not) and every state of the
lazy `reduced` flag.  The functions are the code-shaped models of `PPLV/Product/Model.lean`
(C++ `%` = `Int.tmod`).
-/
namespace C10
open PPLV PPLV.Product

def Γ (X : RDom) (x : X.D) : Set Pt := {p | X.γ x p}

/-- **Every reduction policy** (none, smash, constraints, congruences, shape-preserving): the
    intersection is unchanged and both components shrink. -/
theorem reduce_preserves_meet (R : Policy) (A B : RDom) (x : A.D) (y : B.D) :
    let r := productReduce A B R x y
    Γ A r.1 ∩ Γ B r.2 = Γ A x ∩ Γ B y ∧ Γ A r.1 ⊆ Γ A x ∧ Γ B r.2 ⊆ Γ B y := by
  intro r
  have h := productReduce_red A B R x y
  exact ⟨Set.ext fun p => h.meet_eq A B p, fun p hp => h.sub1 p hp, fun p hp => h.sub2 p hp⟩

/-- the lazy `reduce()`: whatever the `reduced` flag says when it is called -/
theorem lazy_reduce_preserves_meet (R : Policy) (A B : RDom) (x : Prod A B) :
    Γ A (reduce A B R x).d1 ∩ Γ B (reduce A B R x).d2 = Γ A x.d1 ∩ Γ B x.d2 ∧
    Γ A (reduce A B R x).d1 ⊆ Γ A x.d1 ∧ Γ B (reduce A B R x).d2 ⊆ Γ B x.d2 := by
  have h := reduce_red A B R x
  exact ⟨Set.ext fun p => h.meet_eq A B p, fun p hp => h.sub1 p hp, fun p hp => h.sub2 p hp⟩

/-- **The shrink step** of the congruences reduction, for a proper congruence satisfied by the
    whole first component: the modular arithmetic (`Int.tmod`) never loses a common point. -/
theorem shrink_to_congruence_preserves_meet (A B : RDom) (x : A.D) (y : B.D) (cg : Cg)
    (hm : 0 < cg.modulus) (hcg : Γ A x ⊆ {p | cg.sat p}) :
    let r := (shrinkStep A B x y cg).1
    Γ A r.1 ∩ Γ B r.2 = Γ A x ∩ Γ B y ∧ Γ A r.1 ⊆ Γ A x ∧ Γ B r.2 ⊆ Γ B y := by
  intro r
  have h := shrinkStep_red A B x y cg hm (fun p hp => hcg hp)
  exact ⟨Set.ext fun p => h.meet_eq A B p, fun p hp => h.sub1 p hp, fun p hp => h.sub2 p hp⟩

/-- the arithmetic core: `N - shrinkMax N m incl` is the largest multiple of `m` that is `≤ N`
    (`< N` when the bound is not attained), and dually -/
theorem shrink_arithmetic (N m z : Int) (incl : Bool) (hm : 0 < m) :
    (m ∣ N - shrinkMax N m incl) ∧ (m ∣ N - shrinkMin N m incl) ∧
    ((z * m ≤ N ∧ (incl = false → z * m < N)) → z * m ≤ N - shrinkMax N m incl) ∧
    ((N ≤ z * m ∧ (incl = false → N < z * m)) → N - shrinkMin N m incl ≤ z * m) :=
  ⟨(shrinkMax_spec N m incl hm).1, (shrinkMin_spec N m incl hm).1,
   fun h => shrinkMax_floor N m z incl hm h.1 h.2, fun h => shrinkMin_ceil N m z incl hm h.1 h.2⟩

example : shrinkMax 7 3 true = 1 ∧ shrinkMax (-7) 3 true = 2 ∧ shrinkMax 6 3 false = 3 ∧ shrinkMax 6 3 true = 0
    ∧ shrinkMin 7 3 true = -2 ∧ shrinkMin (-7) 3 true = -1 ∧ shrinkMin 6 3 false = -3 ∧ shrinkMin (-6) 3 true = 0 := by
  decide

/-- **Transformers are component-wise**: if each component operator contains the image of its
    argument under a relation `Rel` (affine images, added constraints, dimension changes, meets
    with a fixed argument …) then the result's intersection contains the image of the argument's
    intersection — with or without a preceding `reduce()`. -/
theorem transformer_sound (R : Policy) (A B : RDom) (f1 : A.D → A.D) (f2 : B.D → B.D) (Rel : Pt → Pt → Prop)
    (h1 : ∀ a, {q | ∃ p ∈ Γ A a, Rel p q} ⊆ Γ A (f1 a)) (h2 : ∀ b, {q | ∃ p ∈ Γ B b, Rel p q} ⊆ Γ B (f2 b))
    (x : Prod A B) :
    ({q | ∃ p ∈ Γ A x.d1 ∩ Γ B x.d2, Rel p q} ⊆ Γ A (mapBoth A B f1 f2 x).d1 ∩ Γ B (mapBoth A B f1 f2 x).d2) ∧
    ({q | ∃ p ∈ Γ A x.d1 ∩ Γ B x.d2, Rel p q} ⊆
        Γ A (mapBothReduced A B R f1 f2 x).d1 ∩ Γ B (mapBothReduced A B R f1 f2 x).d2) := by
  constructor
  · rintro q ⟨p, hp, hr⟩
    exact mapBoth_sound A B f1 f2 Rel (fun a p q hp hr => h1 a ⟨p, hp, hr⟩) (fun b p q hp hr => h2 b ⟨p, hp, hr⟩) x p q hp hr
  · rintro q ⟨p, hp, hr⟩
    exact mapBothReduced_sound A B R f1 f2 Rel (fun a p q hp hr => h1 a ⟨p, hp, hr⟩)
      (fun b p q hp hr => h2 b ⟨p, hp, hr⟩) x p q hp hr

/-- **Definite answers are true of the intersections**: `is_empty()` -/
theorem is_empty_sound (R : Policy) (A B : RDom) (x : Prod A B) (h : isEmpty A B R x = true) :
    Γ A x.d1 ∩ Γ B x.d2 = ∅ := by
  rw [Set.eq_empty_iff_forall_notMem]
  intro p hp
  exact isEmpty_sound A B R x h p hp

/-- `contains(y)` (component-wise, after reducing both) -/
theorem contains_sound (R : Policy) (A B : RDom) (c1 : A.D → A.D → Bool) (c2 : B.D → B.D → Bool)
    (hc1 : ∀ a b, c1 a b = true → Γ A b ⊆ Γ A a) (hc2 : ∀ a b, c2 a b = true → Γ B b ⊆ Γ B a)
    (x y : Prod A B) (h : contains A B R c1 c2 x y = true) :
    Γ A y.d1 ∩ Γ B y.d2 ⊆ Γ A x.d1 ∩ Γ B x.d2 := by
  intro p hp
  exact Product.contains_sound A B R c1 c2 (fun a b h p hp => hc1 a b h hp) (fun a b h p hp => hc2 a b h hp) x y h p hp

/-- `is_disjoint_from(y)`, `is_bounded()`, `bounds_from_above/below(e)`, inclusion in a constraint:
    "some component has the property" for a property of sets that is inherited by subsets -/
theorem any_component_sound (R : Policy) (A B : RDom) (q1 : A.D → Bool) (q2 : B.D → Bool) (P : Set Pt → Prop)
    (hP : ∀ S T : Set Pt, S ⊆ T → P T → P S)
    (h1 : ∀ a, q1 a = true → P (Γ A a)) (h2 : ∀ b, q2 b = true → P (Γ B b))
    (x : Prod A B) (h : anyComponent A B R q1 q2 x = true) : P (Γ A x.d1 ∩ Γ B x.d2) :=
  anyComponent_sound A B R q1 q2 P (fun S T hST hT => hP S T (fun p hp => hST p hp) hT) h1 h2 x h

/-- **`relation_with(c)`** (constraint or congruence `c` with point set `S` and hyperplane `H`):
    the product reports `is_included` / `is_disjoint` / `saturates` as soon as ONE component does;
    each reported fact is true of the intersection when the component answers are sound. -/
theorem relation_with_sound (R : Policy) (A B : RDom) (q1 : A.D → Rel3) (q2 : B.D → Rel3) (S H : Set Pt)
    (h1 : ∀ a, ((q1 a).included = true → Γ A a ⊆ S) ∧ ((q1 a).disjoint = true → Γ A a ∩ S = ∅) ∧
               ((q1 a).saturates = true → Γ A a ⊆ H))
    (h2 : ∀ b, ((q2 b).included = true → Γ B b ⊆ S) ∧ ((q2 b).disjoint = true → Γ B b ∩ S = ∅) ∧
               ((q2 b).saturates = true → Γ B b ⊆ H))
    (x : Prod A B) :
    ((relationWith A B R q1 q2 x).included = true → Γ A x.d1 ∩ Γ B x.d2 ⊆ S) ∧
    ((relationWith A B R q1 q2 x).disjoint = true → (Γ A x.d1 ∩ Γ B x.d2) ∩ S = ∅) ∧
    ((relationWith A B R q1 q2 x).saturates = true → Γ A x.d1 ∩ Γ B x.d2 ⊆ H) := by
  have key := fun p hp => relationWith_sound A B R q1 q2 (· ∈ S) (· ∈ H)
    (fun a => ⟨fun h p hp => (h1 a).1 h hp,
               fun h p hp hs => by have := (h1 a).2.1 h; exact (Set.eq_empty_iff_forall_notMem.mp this) p ⟨hp, hs⟩,
               fun h p hp => (h1 a).2.2 h hp⟩)
    (fun b => ⟨fun h p hp => (h2 b).1 h hp,
               fun h p hp hs => by have := (h2 b).2.1 h; exact (Set.eq_empty_iff_forall_notMem.mp this) p ⟨hp, hs⟩,
               fun h p hp => (h2 b).2.2 h hp⟩) x p hp
  refine ⟨fun h p hp => (key p hp).1 h, fun h => ?_, fun h p hp => (key p hp).2.2 h⟩
  rw [Set.eq_empty_iff_forall_notMem]
  rintro p ⟨hp, hs⟩
  exact (key p hp).2.1 h hs

/-- saturation of the hyperplane of a NON-strict inequality `e ≥ 0` (or of an equality) entails
    inclusion: a rule the library could use … -/
theorem saturates_nonstrict_included (e : LE) (X : Set Pt) (h : X ⊆ {p | e.eval p = 0}) :
    X ⊆ {p | 0 ≤ e.eval p} := fun _ hp => le_of_eq (h hp).symm

/-- … whereas for a STRICT inequality `e > 0` saturation entails *disjointness*, never inclusion
    (a non-empty saturating set is not included): reporting `is_included` on saturation of a strict
    constraint is wrong. -/
theorem saturates_strict_disjoint (e : LE) (X : Set Pt) (h : X ⊆ {p | e.eval p = 0}) :
    X ∩ {p | 0 < e.eval p} = ∅ := by
  rw [Set.eq_empty_iff_forall_notMem]
  rintro p ⟨hp, hpos⟩
  have h0 : e.eval p = 0 := h hp
  have hpos' : 0 < e.eval p := hpos
  rw [h0] at hpos'
  exact lt_irrefl _ hpos'

theorem saturates_strict_not_included :
    ¬ ∀ (e : LE) (X : Set Pt), X ⊆ {p | e.eval p = 0} → X ⊆ {p | 0 < e.eval p} := by
  intro h
  have := h ⟨[], 0⟩ {fun _ => 0} (by intro p _; simp [LE.eval, PPLV.Lin.dot]) (a := fun _ => 0) rfl
  simp [LE.eval, PPLV.Lin.dot] at this

/-- **`maximize` / `minimize`**: the reported value is a bound of the expression on the intersection,
    whichever component it is taken from (the library takes the LARGER of the two suprema — sound,
    though its comment says "minimum"). -/
theorem optimize_bound_sound (R : Policy) (A B : RDom) (x : Prod A B) (e : LE) (n dn : Int) (incl : Bool) :
    (prodMaximize A B R x e = some (n, dn, incl) → 0 < dn ∧ ∀ p ∈ Γ A x.d1 ∩ Γ B x.d2, e.eval p * (dn : Rat) ≤ (n : Rat)) ∧
    (prodMinimize A B R x e = some (n, dn, incl) → 0 < dn ∧ ∀ p ∈ Γ A x.d1 ∩ Γ B x.d2, (n : Rat) ≤ e.eval p * (dn : Rat)) := by
  constructor
  · intro h
    by_cases hne : ∃ p, p ∈ Γ A x.d1 ∩ Γ B x.d2
    · obtain ⟨p0, hp0⟩ := hne
      exact ⟨(prodMaximize_sound A B R x e n dn incl h p0 hp0).1, fun p hp => (prodMaximize_sound A B R x e n dn incl h p hp).2⟩
    · refine ⟨?_, fun p hp => absurd ⟨p, hp⟩ hne⟩
      -- the denominator is positive by the component oracle, even on an empty intersection
      unfold prodMaximize at h
      simp only at h
      cases hA : A.maximize (reduce A B R x).d1 e with
      | none =>
        cases hB : B.maximize (reduce A B R x).d2 e with
        | none => simp [hA, hB] at h
        | some rb => simp only [hA, hB, Option.some.injEq] at h; subst h; exact (B.maximize_spec _ e n dn incl hB).1
      | some ra =>
        cases hB : B.maximize (reduce A B R x).d2 e with
        | none => simp only [hA, hB, Option.some.injEq] at h; subst h; exact (A.maximize_spec _ e n dn incl hA).1
        | some rb =>
          simp only [hA, hB] at h
          split at h
          · simp only [Option.some.injEq] at h; subst h; exact (A.maximize_spec _ e n dn incl hA).1
          · simp only [Option.some.injEq] at h; subst h; exact (B.maximize_spec _ e n dn incl hB).1
  · intro h
    by_cases hne : ∃ p, p ∈ Γ A x.d1 ∩ Γ B x.d2
    · obtain ⟨p0, hp0⟩ := hne
      exact ⟨(prodMinimize_sound A B R x e n dn incl h p0 hp0).1, fun p hp => (prodMinimize_sound A B R x e n dn incl h p hp).2⟩
    · refine ⟨?_, fun p hp => absurd ⟨p, hp⟩ hne⟩
      unfold prodMinimize at h
      simp only at h
      cases hA : A.minimize (reduce A B R x).d1 e with
      | none =>
        cases hB : B.minimize (reduce A B R x).d2 e with
        | none => simp [hA, hB] at h
        | some rb => simp only [hA, hB, Option.some.injEq] at h; subst h; exact (B.minimize_spec _ e n dn incl hB).1
      | some ra =>
        cases hB : B.minimize (reduce A B R x).d2 e with
        | none => simp only [hA, hB, Option.some.injEq] at h; subst h; exact (A.minimize_spec _ e n dn incl hA).1
        | some rb =>
          simp only [hA, hB] at h
          split at h
          · simp only [Option.some.injEq] at h; subst h; exact (A.minimize_spec _ e n dn incl hA).1
          · simp only [Option.some.injEq] at h; subst h; exact (B.minimize_spec _ e n dn incl hB).1

/-- `difference_assign` is component-wise, `(d₁ ∖ y₁, d₂ ∖ y₂)`: that is **not** an
    over-approximation of the difference of the intersections (known finding KF-C10-1; on the real
    library: `x = (ℝ, ℤ)`, `y = ([0,+∞), ℝ)` gives the empty product, the negative integers are lost). -/
theorem difference_componentwise_fails :
    ¬ ∀ d1 d2 y1 y2 : Set Pt, (d1 ∩ d2) \ (y1 ∩ y2) ⊆ (d1 \ y1) ∩ (d2 \ y2) := by
  intro h
  have hx : (fun _ => 0 : Pt) ∈ (Set.univ ∩ Set.univ : Set Pt) \ (Set.univ ∩ ∅) :=
    ⟨⟨trivial, trivial⟩, fun hx => hx.2⟩
  have := h Set.univ Set.univ Set.univ ∅ hx
  exact this.1.2 trivial

/-! ## the judge used on the real library's output

For pairs both of whose components are constraint systems the driver decides "components shrink"
and "intersection unchanged" with the K1 procedures on the concatenated systems (sound and
complete: `PPLV.Lin.subsetB_iff`); for pairs with a proper `Grid` it evaluates the printed
constraints and congruences at enumerated lattice points with the evaluators below. -/

open PPLV.Lin in
/-- both components constraint systems: "no common point lost" is decided exactly -/
theorem judge_meet_subset_iff (n : Nat) (r1 r2 o1 o2 : List Con)
    (hr : WF n (r1 ++ r2)) (ho : WF n (o1 ++ o2)) :
    subsetB n (r1 ++ r2) (o1 ++ o2) = true ↔ sem r1 ∩ sem r2 ⊆ sem o1 ∩ sem o2 := by
  rw [subsetB_iff n _ _ hr ho]
  have h : ∀ a b : List Con, sem (a ++ b) = sem a ∩ sem b := by
    intro a b; ext x; exact Sat_append a b x
  rw [h, h]

open PPLV.Lin in
/-- the point evaluators decide membership of a rational point -/
theorem judge_point_iff (cs : List Con) (c : Cgr) (x : List Rat) :
    (allHold cs x = true ↔ Sat cs (toPt x)) ∧
    (cgrHolds c x = true ↔ ∃ z : Int, dot c.coeffs (toPt x) + (c.k : Rat) = (z : Rat) * (c.m : Rat)) :=
  ⟨allHold_iff cs x, cgrHolds_iff c x⟩

example : cgrHolds ⟨3, -1, [1, 1]⟩ [2, 2] = true ∧ cgrHolds ⟨3, -1, [1, 1]⟩ [2, (1 : Rat) / 2] = false
    ∧ cgrHolds ⟨0, -4, [1, 1]⟩ [2, 2] = true := by decide +kernel

/-! ## non-vacuity: a tiny concrete component domain (integer intervals with a congruence on axis 0) -/

structure Ax where
  lo : Int
  hi : Int
  m : Nat
  r : Int
deriving DecidableEq, Repr

def axγ : Option Ax → Pt → Prop
  | none, _ => False
  | some a, p => (a.lo : Rat) ≤ p 0 ∧ p 0 ≤ (a.hi : Rat) ∧ ∃ z : Int, p 0 = (a.r : Rat) + (z : Rat) * (a.m : Rat)

def axRefine (d : Option Ax) (c : LCon) : Option Ax :=
  match d, c.coeffs, c.rel with
  | some a, [1], .eq => if a.lo ≤ -c.k ∧ -c.k ≤ a.hi then some { a with lo := -c.k, hi := -c.k } else none
  | d, _, _ => d

theorem dot_single (x : Pt) : Lin.dot [1] x = x 0 := by simp [Lin.dot]

def AxDom : RDom where
  D := Option Ax
  γ := axγ
  leq a _ := a.isNone
  isBottom a := match a with | none => true | some a => decide (a.hi < a.lo)
  join a b := match a, b with
    | none, b => b
    | a, none => a
    | some a, some b => some ⟨min a.lo b.lo, max a.hi b.hi, 1, 0⟩
  meet a _ := a
  eqv a b := decide (a = b)
  empty := none
  refineCon := axRefine
  refineCg d _ := d
  maximize d e := match d, e.coeffs with
    | some a, [1] => some (a.hi + e.k, 1, true)
    | _, _ => none
  minimize d e := match d, e.coeffs with
    | some a, [1] => some (a.lo + e.k, 1, true)
    | _, _ => none
  frequency _ _ := none
  constraints d := match d with
    | none => []
    | some a => [⟨[1], -a.lo, .ge⟩, ⟨[-1], a.hi, .ge⟩]
  congruences d := match d with
    | none => []
    | some a => [⟨[1], -a.r, a.m⟩]
  leq_sound := by
    intro a b h p hp
    cases a with
    | none => exact absurd hp (by simp [axγ])
    | some a => simp at h
  isBottom_sound := by
    intro a h p hp
    cases a with
    | none => exact hp
    | some a =>
      simp only [decide_eq_true_eq] at h
      obtain ⟨h1, h2, _⟩ := hp
      have : (a.hi : Rat) < (a.lo : Rat) := by exact_mod_cast h
      linarith
  join_sound := by
    intro a b p h
    cases a with
    | none => cases b with
      | none => rcases h with h | h <;> exact h
      | some b => rcases h with h | h
                  · exact absurd h (by simp [axγ])
                  · exact h
    | some a => cases b with
      | none => rcases h with h | h
                · exact h
                · exact absurd h (by simp [axγ])
      | some b =>
        have key : ∀ c : Ax, axγ (some c) p → min a.lo b.lo ≤ c.lo → c.hi ≤ max a.hi b.hi →
            axγ (some ⟨min a.lo b.lo, max a.hi b.hi, 1, 0⟩) p := by
          rintro c ⟨h1, h2, z, hz⟩ hl hh
          have hl' : ((min a.lo b.lo : Int) : Rat) ≤ (c.lo : Rat) := by exact_mod_cast hl
          have hh' : (c.hi : Rat) ≤ ((max a.hi b.hi : Int) : Rat) := by exact_mod_cast hh
          refine ⟨le_trans hl' h1, le_trans h2 hh', c.r + z * c.m, ?_⟩
          rw [hz]; push_cast; ring
        rcases h with h | h
        · exact key a h (min_le_left _ _) (le_max_left _ _)
        · exact key b h (min_le_right _ _) (le_max_right _ _)
  meet_sound := by intro a b p h _; exact h
  eqv_sound := by
    intro a b h p
    simp only [decide_eq_true_eq] at h
    rw [h]
  empty_spec := by intro p h; exact h
  refineCon_sub := by
    intro d c p h
    unfold axRefine at h
    split at h
    · rename_i a _ _
      split at h
      · rename_i hb
        obtain ⟨h1, h2, hz⟩ := h
        have hb1 : (a.lo : Rat) ≤ ((-c.k : Int) : Rat) := by exact_mod_cast hb.1
        have hb2 : ((-c.k : Int) : Rat) ≤ (a.hi : Rat) := by exact_mod_cast hb.2
        exact ⟨le_trans hb1 h1, le_trans h2 hb2, hz⟩
      · exact absurd h (by simp [axγ])
    · exact h
  refineCon_keep := by
    intro d c p hp hc
    unfold axRefine
    split
    · rename_i a hco hrel
      obtain ⟨h1, h2, hz⟩ := hp
      have hv : p 0 = ((-c.k : Int) : Rat) := by
        simp only [LCon.sat, hrel, LCon.eval, hco, dot_single] at hc
        push_cast; linarith
      have hb : a.lo ≤ -c.k ∧ -c.k ≤ a.hi := by
        constructor
        · have : (a.lo : Rat) ≤ ((-c.k : Int) : Rat) := by rw [← hv]; exact h1
          exact_mod_cast this
        · have : ((-c.k : Int) : Rat) ≤ (a.hi : Rat) := by rw [← hv]; exact h2
          exact_mod_cast this
      simp only [hb, and_self, if_true]
      exact ⟨le_of_eq hv.symm, le_of_eq hv, hz⟩
    · exact hp
  refineCg_sub := by intro a c p h; exact h
  refineCg_keep := by intro a c p h _; exact h
  maximize_spec := by
    intro d e n dn incl h
    cases d with
    | none => simp at h
    | some a =>
      cases hc : e.coeffs with
      | nil => simp [hc] at h
      | cons c0 cs =>
        by_cases h1 : c0 = 1 ∧ cs = []
        · obtain ⟨rfl, rfl⟩ := h1
          simp only [hc, Option.some.injEq, Prod.mk.injEq] at h
          obtain ⟨rfl, rfl, rfl⟩ := h
          refine ⟨by decide, ?_⟩
          rintro p ⟨_, h2, _⟩
          simp only [LE.eval, hc, dot_single]
          push_cast
          exact ⟨by linarith, fun h => by cases h⟩
        · exfalso
          revert h
          simp only [hc]
          split
          · rename_i heq; injection heq with e1 e2; exact absurd ⟨e1, e2⟩ h1
          · intro h; cases h
  minimize_spec := by
    intro d e n dn incl h
    cases d with
    | none => simp at h
    | some a =>
      cases hc : e.coeffs with
      | nil => simp [hc] at h
      | cons c0 cs =>
        by_cases h1 : c0 = 1 ∧ cs = []
        · obtain ⟨rfl, rfl⟩ := h1
          simp only [hc, Option.some.injEq, Prod.mk.injEq] at h
          obtain ⟨rfl, rfl, rfl⟩ := h
          refine ⟨by decide, ?_⟩
          rintro p ⟨h1, _, _⟩
          simp only [LE.eval, hc, dot_single]
          push_cast
          exact ⟨by linarith, fun h => by cases h⟩
        · exfalso
          revert h
          simp only [hc]
          split
          · rename_i heq; injection heq with e1 e2; exact absurd ⟨e1, e2⟩ h1
          · intro h; cases h
  frequency_spec := by intro a e fn fd vn vd h; cases h
  constraints_sound := by
    intro d p hp c hc
    cases d with
    | none => exact absurd hp (by simp [axγ])
    | some a =>
      obtain ⟨h1, h2, _⟩ := hp
      simp only [List.mem_cons, List.not_mem_nil, or_false] at hc
      rcases hc with rfl | rfl
      · simp only [LCon.sat, LCon.eval, dot_single]; push_cast; linarith
      · simp only [LCon.sat, LCon.eval, Lin.dot]; push_cast; linarith
  congruences_sound := by
    intro d p hp c hc
    cases d with
    | none => exact absurd hp (by simp [axγ])
    | some a =>
      obtain ⟨_, _, z, hz⟩ := hp
      simp only [List.mem_singleton] at hc
      subst hc
      refine ⟨z, ?_⟩
      simp only [Cg.expr, LE.eval, dot_single, hz]
      push_cast; ring
  congruences_nonneg := by
    intro d c hc
    cases d with
    | none => simp at hc
    | some a =>
      simp only [List.mem_singleton] at hc
      subst hc
      exact Int.natCast_nonneg _

instance : DecidableEq AxDom.D := inferInstanceAs (DecidableEq (Option Ax))
def view (x : AxDom.D × AxDom.D) : Option Ax × Option Ax := x

-- x ≡ 2 (mod 5) meets [6, 8] in exactly {7}: both components become the point 7
example : view (productReduce AxDom AxDom .congruences (some ⟨-100, 100, 5, 2⟩) (some ⟨6, 8, 1, 0⟩))
    = (some ⟨7, 7, 5, 2⟩, some ⟨7, 7, 1, 0⟩) := by decide
-- … and misses [8, 11]: the product is emptied
example : view (productReduce AxDom AxDom .congruences (some ⟨-100, 100, 5, 2⟩) (some ⟨8, 11, 1, 0⟩))
    = (none, none) := by decide
-- two hyperplanes (2 and 7) meet [1, 8]: no reduction possible
example : view (productReduce AxDom AxDom .congruences (some ⟨-100, 100, 5, 2⟩) (some ⟨1, 8, 1, 0⟩))
    = (some ⟨-100, 100, 5, 2⟩, some ⟨1, 8, 1, 0⟩) := by decide
-- smash: an empty second component empties the first
example : view (productReduce AxDom AxDom .smash (some ⟨0, 1, 1, 0⟩) (some ⟨3, 2, 1, 0⟩)) = (none, some ⟨3, 2, 1, 0⟩) := by
  decide
example : isEmpty AxDom AxDom .congruences ⟨some ⟨-100, 100, 5, 2⟩, some ⟨8, 11, 1, 0⟩, false⟩ = true := by decide

end C10

import PPLV.WR.TransOct2ProofsRefine
import PPLV.WR.TransOct2ProofsBndMain
import Mathlib.Tactic.NormNum
/-!
# C03 — the transformers of `Octagonal_Shape<T>`, for every bound type

Statements about the code-shaped models of `PPLV/WR/TransOct2.lean`, `PPLV/WR/TransOct2Gen.lean`
(`/repo/src/Octagonal_Shape_templates.hh`: `add_constraint`, `refine_no_check`, `unconstrain`, the private
`refine(var, relsym, expr, den)`, `generalized_affine_image(var, …)`, `bounded_affine_image`, `affine_preimage`,
`generalized_affine_preimage(var, …)`).  Vocabulary of `Props/C03Trans.lean`: a bound is an extended rational, the
directed operations of the bound type are an arbitrary `R : Rnd` with `R.Sound`; `OctM.γ m` / `γO n m` is the set
of valuations satisfying every stored entry; `upd x var t` is `x[var := t]`.

* `oct_refine_sound`, `oct_add_constraint_sound`, `oct_unconstrain_sound` — FULL strength.
* `oct_generalized_affine_image_sound_partial` — every rounding, matrix, expression, denominator, relation, closed
  flag; side conditions of `Props/C03Trans.lean` only (`CoeffExact`, `HalfFiniteOn` of the closed matrix);
  `…_special` (constant, `±den*var + b`, `±den*w + b`): no side condition; `…_mpq`, `…_mpz`.
* `oct_refine_var_sound_partial` — private `refine(var, relsym, expr, den)`: besides those side conditions it
  EXCLUDES the branch of the open finding KF-C03-75/76 (`GREATER_OR_EQUAL`, general case, one unbounded variable
  `u > var` with `expr.coefficient(u) == den`: `Octagonal_Shape_templates.hh:5159` stores the cell of `v + u <= sum`
  where `u - v <= sum` is meant); `oct_refine_var_sound_fails` shows that the code as written is not sound there,
  `oct_refine_var_sound_repaired` is the statement for the repaired cell (`octRefineVarV true`).
* `oct_affine_preimage_sound_partial`, `oct_generalized_affine_preimage_sound_partial` (+ `_repaired`) — side
  conditions as for `BD_Shape` in `Props/C03Trans.lean` (coefficients and `|den|` representable) and
  `HalfFiniteOn`; the second inherits the exclusion of KF-C03-75.
* `oct_bounded_affine_image_sound_special_partial` — `lb_expr` constant or `±den*w + b` with `w ≠ var`, any
  `ub_expr`: `CoeffExact` and `HalfFiniteOn` only.
* `oct_bounded_affine_image_sound_partial` — ALL branches (also `lb_expr == ±den*var + b` through an additional
  dimension, and the general `lb_expr`), with two hypotheses beyond `CoeffExact` / `HalfFiniteOn` of the closed
  matrix: (1) `hmono`: the rounding is monotone — used by the general `lb_expr` only: its lower-bound kernel
  (`deduce_minus_v_pm_u_bounds`) reads unary cells that the inner `generalized_affine_image(var, ≤, ub_expr, den)`
  (incremental closure) may have LOWERED while the sum was accumulated over the old cells; every real `T` rounds
  monotonically, the excluded point is a non-monotone rounding, which no instantiation has: not a candidate defect;
  (2) `hmid`: `HalfFiniteOn` of the intermediate matrix `octBoundedExtraMid` (after `affine_image(new_var, lb_expr,
  den)`) — used by the extra-dimension branch only, where `ub_expr` is approximated over the unary cells left by
  that inner call; halving a finite value of `T` never overflows, but an abstract `up` does not say so.
  `…_mpq`, `…_mpz`: no side condition.
-/
namespace C03
open PPLV.WR
open PPLV.WR.ExtRat (fin pinf)

/-! ## `refine_no_check(const Constraint&)`, `add_constraint` -/

/-- every point of the octagon that satisfies `cf·x + inhomo ⋈ 0` is in the refined octagon (which is never
marked empty then), and entries only decrease.  Non-octagonal constraints are ignored.  No closure is run. -/
theorem oct_refine_sound (R : Rnd) (hR : R.Sound) {n : ℕ} (m : OctM n) (sd : ℕ) (cf : ℕ → ℤ)
    (inhomo : ℤ) (kind : CKind) :
    ∀ x ∈ OctM.γ m, CSat cf sd inhomo kind x →
      match octRefineNoCheck R n sd cf inhomo kind m.e with
      | .ok m' => x ∈ γO n m' ∧ MLe m' m.e
      | .empty => False
      | .throws => False :=
  octRefineNoCheck_sound hR m sd cf inhomo kind

/-- `add_constraint`: the same (it throws on non-octagonal and on non-trivial strict constraints). -/
theorem oct_add_constraint_sound (R : Rnd) (hR : R.Sound) {n : ℕ} (m : OctM n) (sd : ℕ) (cf : ℕ → ℤ)
    (inhomo : ℤ) (kind : CKind) :
    ∀ x ∈ OctM.γ m, CSat cf sd inhomo kind x →
      match octAddConstraint R n sd cf inhomo kind m.e with
      | .ok m' => x ∈ γO n m' ∧ MLe m' m.e
      | .empty => False
      | .throws => True := by
  intro x hx hc
  exact octAddConstraint_sound_raw hR.up_le cf inhomo kind m.e ((OctM.sat_iff_holds m x).1 hx) hc

/-! ## `unconstrain(var)` -/

theorem oct_unconstrain_sound (R : Rnd) (hR : R.Sound) {n : ℕ} (m : OctM n) (closed : Bool) (vid : ℕ)
    (hv : vid < n) :
    ∀ x ∈ OctM.γ m, ∀ t : ℚ, ∃ m', octUnconstrain R closed vid m = some m' ∧ upd x vid t ∈ γO n m' :=
  fun x hx t => by
    obtain ⟨m1, h1, hx1⟩ := octCloseFirst_sound hR.up_le closed m hx
    exact ⟨_, by simp [octUnconstrain, h1], holds_octForgetAll hv hx1 t⟩

/-! ## `generalized_affine_image(var, relsym, expr, den)` -/

/-- every `x'` that agrees with a point `x` of the octagon off `var` and has `x'_var relsym expr(x)/den` is in the
result (which is not marked empty). -/
theorem oct_generalized_affine_image_sound_partial (R : Rnd) (hR : R.Sound) {n : ℕ} (m : OctM n) (closed : Bool)
    (vid : ℕ) (hv : vid < n) (rel : RelSym) (e : ℕ → ℤ) (b den : ℤ) (hden : den ≠ 0) (hc : CoeffExact R e)
    (hh : ∀ m', octCloseFirst R.up closed m = some m' → HalfFiniteOn R.up m') :
    ∀ x ∈ OctM.γ m, ∀ t : ℚ, RelSym.holds rel t ((linEval e x n + b) / den) →
      ∃ m', octGenAffineImage R closed vid rel e b den m = some m' ∧ upd x vid t ∈ γO n m' :=
  octGenAffineImage_sound hR m closed hv rel hden hc hh

/-- the forms `expr == b`, `±den*var + b`, `±den*w + b`: no side condition at all. -/
theorem oct_generalized_affine_image_sound_special (R : Rnd) (hR : R.Sound) {n : ℕ} (m : OctM n) (closed : Bool)
    (vid : ℕ) (hv : vid < n) (rel : RelSym) (e : ℕ → ℤ) (b den : ℤ) (hden : den ≠ 0)
    (hsp : exprT e (lastNonzero e n) = 0 ∨
      (exprT e (lastNonzero e n) = 1 ∧ (e (lastNonzero e n - 1) = den ∨ e (lastNonzero e n - 1) = - den))) :
    ∀ x ∈ OctM.γ m, ∀ t : ℚ, RelSym.holds rel t ((linEval e x n + b) / den) →
      ∃ m', octGenAffineImage R closed vid rel e b den m = some m' ∧ upd x vid t ∈ γO n m' :=
  octGenAffineImage_sound_of hR m closed hv rel hden (Or.inl hsp)

/-- `Octagonal_Shape<mpq_class>` -/
theorem oct_generalized_affine_image_sound_mpq {n : ℕ} (m : OctM n) (closed : Bool) (vid : ℕ) (hv : vid < n)
    (rel : RelSym) (e : ℕ → ℤ) (b den : ℤ) (hden : den ≠ 0) :
    ∀ x ∈ OctM.γ m, ∀ t : ℚ, RelSym.holds rel t ((linEval e x n + b) / den) →
      ∃ m', octGenAffineImage Rnd.exact closed vid rel e b den m = some m' ∧ upd x vid t ∈ γO n m' :=
  octGenAffineImage_sound Rnd.exact_sound m closed hv rel hden (Rnd.exact_coeff e) (fun m' _ => halfFiniteOn_exact m')

/-- `Octagonal_Shape<mpz_class>` -/
theorem oct_generalized_affine_image_sound_mpz {n : ℕ} (m : OctM n) (closed : Bool) (vid : ℕ) (hv : vid < n)
    (rel : RelSym) (e : ℕ → ℤ) (b den : ℤ) (hden : den ≠ 0) :
    ∀ x ∈ OctM.γ m, ∀ t : ℚ, RelSym.holds rel t ((linEval e x n + b) / den) →
      ∃ m', octGenAffineImage Rnd.ceil closed vid rel e b den m = some m' ∧ upd x vid t ∈ γO n m' :=
  octGenAffineImage_sound Rnd.ceil_sound m closed hv rel hden (Rnd.ceil_coeff e) (fun m' _ => halfFiniteOn_ceil m')

/-! ## private `refine(var, relsym, expr, den)` (called with `expr.coefficient(var) == 0`) -/

/-- the code as written: every point `x` of the octagon with `x_var relsym expr(x)/den` stays in the refined
octagon (the function never marks the shape empty) — for `relsym` other than `≥`, or when no variable after `var`
has the coefficient `den` (the branch of KF-C03-75 cannot be taken). -/
theorem oct_refine_var_sound_partial (R : Rnd) (hR : R.Sound) {n : ℕ} (m : Mat) (vid : ℕ) (hv : vid < n)
    (rel : RelSym) (e : ℕ → ℤ) (hev : e vid = 0) (b den : ℤ) (hden : den ≠ 0) (hc : CoeffExact R e)
    (hh : HalfFiniteOn R.up m) (hok : rel ≠ .ge ∨ ∀ u, vid < u → e u ≠ den) :
    ∀ x ∈ γO n m, RelSym.holds rel (x vid) ((linEval e x n + b) / den) →
      ∃ m', octRefineVar R n vid rel e b den m = some m' ∧ x ∈ γO n m' := by
  intro x hx ht
  exact ⟨_, rfl, octRefineVarV_sound false hR hc hev hden hh hx rel (Or.inr hok) ht⟩

/-- with the repaired cell (`n_var + 1` at `Octagonal_Shape_templates.hh:5159`): no exclusion. -/
theorem oct_refine_var_sound_repaired (R : Rnd) (hR : R.Sound) {n : ℕ} (m : Mat) (vid : ℕ) (hv : vid < n)
    (rel : RelSym) (e : ℕ → ℤ) (hev : e vid = 0) (b den : ℤ) (hden : den ≠ 0) (hc : CoeffExact R e)
    (hh : HalfFiniteOn R.up m) :
    ∀ x ∈ γO n m, RelSym.holds rel (x vid) ((linEval e x n + b) / den) →
      x ∈ γO n (octRefineVarV true R n vid rel e b den m).1 := by
  intro x hx ht
  exact octRefineVarV_sound true hR hc hev hden hh hx rel (Or.inl rfl) ht

/-- KF-C03-75: `{C = 0, A ≥ 0}` (strongly closed), `refine(A, ≥, B + C, 1)` -/
def exKF : OctM 3 := OctM.ofLists 3
  [[pinf, fin 0],
   [pinf, pinf],
   [pinf, pinf, pinf, pinf],
   [pinf, pinf, pinf, pinf],
   [pinf, pinf, pinf, pinf, pinf, fin 0],
   [pinf, pinf, pinf, pinf, fin 0, pinf]]
def eKF : ℕ → ℤ := fun i => if i = 1 then 1 else if i = 2 then 1 else 0
/-- `A = 1, B = 1, C = 0` -/
def ptKF : ℕ → ℚ := fun i => if i = 2 then 0 else 1

theorem ptKF_mem : ptKF ∈ γO 3 exKF.e := by
  have h : ∀ i, i < 2 * 3 → ∀ j, j < rowSize i → fin (OctM.oval ptKF j - OctM.oval ptKF i) ≤ exKF.e i j := by
    decide +kernel
  exact fun i j hij => h i hij.1 j hij.2

/-- the code stores `A + B ≤ 0` (cell `[2·1+1][2·0]`) where `B - A ≤ 0` is meant -/
theorem oct_refine_var_fails_entry : (octRefineVarV false Rnd.exact 3 0 .ge eKF 0 1 exKF.e).1 3 0 = fin 0 := by
  decide +kernel

/-- WITHOUT the exclusion the statement of `oct_refine_var_sound_partial` is false for the code as written:
the point `(1, 1, 0)` of `{C = 0, A ≥ 0}` satisfies `A ≥ B + C` and is cut away. -/
theorem oct_refine_var_sound_fails :
    ¬ (∀ (R : Rnd), R.Sound → ∀ {n : ℕ} (m : Mat) (vid : ℕ), vid < n → ∀ (rel : RelSym) (e : ℕ → ℤ), e vid = 0 →
        ∀ (b den : ℤ), den ≠ 0 → CoeffExact R e → HalfFiniteOn R.up m →
          ∀ x ∈ γO n m, RelSym.holds rel (x vid) ((linEval e x n + b) / den) →
            ∃ m', octRefineVar R n vid rel e b den m = some m' ∧ x ∈ γO n m') := by
  intro h
  obtain ⟨m', hm', hx'⟩ := h Rnd.exact Rnd.exact_sound (n := 3) exKF.e 0 (by norm_num) .ge eKF (by decide) 0 1
    (by norm_num) (Rnd.exact_coeff eKF) (halfFiniteOn_exact _) ptKF ptKF_mem
    (by simp [RelSym.holds, linEval, eKF, ptKF])
  have hm : m' = (octRefineVarV false Rnd.exact 3 0 .ge eKF 0 1 exKF.e).1 := by
    simp [octRefineVar, octRefineVarF] at hm'; exact hm'.symm
  subst hm
  have := hx' 3 0 ⟨by norm_num, by simp [rowSize]⟩
  rw [oct_refine_var_fails_entry] at this
  simp [ExtRat.fin_le_fin, OctM.oval, ptKF] at this
  norm_num at this

/-! ## `affine_preimage`, `generalized_affine_preimage(var, relsym, expr, den)` -/

/-- every `x` whose image `x[var := expr(x)/den]` is in the octagon is in the result.  The invertible cases go
through `affine_image` with the inverse expression, whose coefficient of `var` is `±den`: besides the
coefficients, `|den|` must be representable (as for `BD_Shape`). -/
theorem oct_affine_preimage_sound_partial (R : Rnd) (hR : R.Sound) {n : ℕ} (m : OctM n) (closed : Bool) (vid : ℕ)
    (hv : vid < n) (e : ℕ → ℤ) (b den : ℤ) (hden : den ≠ 0) (hc : CoeffExact R e)
    (hcd : R.up ((absI den : ℤ) : ℚ) = fin ((absI den : ℤ) : ℚ))
    (hh : ∀ m', octCloseFirst R.up closed m = some m' → HalfFiniteOn R.up m') :
    ∀ x, upd x vid ((linEval e x n + b) / den) ∈ OctM.γ m →
      ∃ m', octAffinePreimage R closed vid e b den m = some m' ∧ x ∈ γO n m' := by
  intro x hx
  obtain ⟨m1, h1, hx1⟩ := octCloseFirst_sound hR.up_le closed m hx
  obtain ⟨m', hm', hx'⟩ := octAffinePreimageCore_sound hR hv hc hden hcd (hh m1 h1) hx1
  exact ⟨m', by simp [octAffinePreimage, h1, hm'], hx'⟩

theorem oct_affine_preimage_sound_mpq {n : ℕ} (m : OctM n) (closed : Bool) (vid : ℕ) (hv : vid < n) (e : ℕ → ℤ)
    (b den : ℤ) (hden : den ≠ 0) :
    ∀ x, upd x vid ((linEval e x n + b) / den) ∈ OctM.γ m →
      ∃ m', octAffinePreimage Rnd.exact closed vid e b den m = some m' ∧ x ∈ γO n m' :=
  oct_affine_preimage_sound_partial _ Rnd.exact_sound m closed vid hv e b den hden (Rnd.exact_coeff e) rfl
    (fun m' _ => halfFiniteOn_exact m')

theorem oct_affine_preimage_sound_mpz {n : ℕ} (m : OctM n) (closed : Bool) (vid : ℕ) (hv : vid < n) (e : ℕ → ℤ)
    (b den : ℤ) (hden : den ≠ 0) :
    ∀ x, upd x vid ((linEval e x n + b) / den) ∈ OctM.γ m →
      ∃ m', octAffinePreimage Rnd.ceil closed vid e b den m = some m' ∧ x ∈ γO n m' :=
  oct_affine_preimage_sound_partial _ Rnd.ceil_sound m closed vid hv e b den hden (Rnd.ceil_coeff e)
    (by simp only [Rnd.ceil, upCeil]; rw [Rat.ceil_intCast]) (fun m' _ => halfFiniteOn_ceil m')

/-- every `x` for which some `x' = x[var := t]` with `t relsym expr(x)/den` is in the octagon, is in the result
(invertible: `generalized_affine_image` of the inverse relation; otherwise the private `refine`, `is_empty()`,
`forget_all_octagonal_constraints`) — the code as written, outside the branch of KF-C03-75. -/
theorem oct_generalized_affine_preimage_sound_partial (R : Rnd) (hR : R.Sound) {n : ℕ} (m : OctM n)
    (closed : Bool) (vid : ℕ) (hv : vid < n) (rel : RelSym) (e : ℕ → ℤ) (b den : ℤ) (hden : den ≠ 0)
    (hc : CoeffExact R e) (hcd : R.up ((absI den : ℤ) : ℚ) = fin ((absI den : ℤ) : ℚ))
    (hh : ∀ m', octCloseFirst R.up closed m = some m' → HalfFiniteOn R.up m')
    (hok : rel ≠ .ge ∨ ∀ u, vid < u → e u ≠ den) :
    ∀ x, ∀ t : ℚ, upd x vid t ∈ OctM.γ m → RelSym.holds rel t ((linEval e x n + b) / den) →
      ∃ m', octGenAffinePreimage R closed vid rel e b den m = some m' ∧ x ∈ γO n m' :=
  octGenAffinePreimage_sound hR m closed hv rel hden hc hcd hh hok

/-- with the repaired `refine`: no exclusion. -/
theorem oct_generalized_affine_preimage_sound_repaired (R : Rnd) (hR : R.Sound) {n : ℕ} (m : OctM n)
    (closed : Bool) (vid : ℕ) (hv : vid < n) (rel : RelSym) (e : ℕ → ℤ) (b den : ℤ) (hden : den ≠ 0)
    (hc : CoeffExact R e) (hcd : R.up ((absI den : ℤ) : ℚ) = fin ((absI den : ℤ) : ℚ))
    (hh : ∀ m', octCloseFirst R.up closed m = some m' → HalfFiniteOn R.up m') :
    ∀ x, ∀ t : ℚ, upd x vid t ∈ OctM.γ m → RelSym.holds rel t ((linEval e x n + b) / den) →
      ∃ m', octGenAffinePreimageV true R closed vid rel e b den m = some m' ∧ x ∈ γO n m' :=
  octGenAffinePreimageV_sound true hR m closed hv rel hden hc hcd hh (Or.inl rfl)

theorem oct_generalized_affine_preimage_sound_mpz {n : ℕ} (m : OctM n) (closed : Bool) (vid : ℕ) (hv : vid < n)
    (rel : RelSym) (e : ℕ → ℤ) (b den : ℤ) (hden : den ≠ 0) (hok : rel ≠ .ge ∨ ∀ u, vid < u → e u ≠ den) :
    ∀ x, ∀ t : ℚ, upd x vid t ∈ OctM.γ m → RelSym.holds rel t ((linEval e x n + b) / den) →
      ∃ m', octGenAffinePreimage Rnd.ceil closed vid rel e b den m = some m' ∧ x ∈ γO n m' :=
  octGenAffinePreimage_sound Rnd.ceil_sound m closed hv rel hden
    (Rnd.ceil_coeff e) (by simp only [Rnd.ceil, upCeil]; rw [Rat.ceil_intCast])
    (fun m' _ => halfFiniteOn_ceil m') hok

/-! ## `bounded_affine_image(var, lb_expr, ub_expr, den)` -/

/-- `lb_expr` constant or `±den*w + b` with `w ≠ var`, any `ub_expr`: every `x'` that agrees with a point `x` of
the octagon off `var` and has `lb(x)/den ≤ x'_var ≤ ub(x)/den` is in the result.  (`_partial`: these two
branches only; `lb_expr == ±den*var + b` through an additional dimension and the general `lb_expr` need the two
further hypotheses of `oct_bounded_affine_image_sound_partial`.) -/
theorem oct_bounded_affine_image_sound_special_partial (R : Rnd) (hR : R.Sound) {n : ℕ} (m : OctM n)
    (closed : Bool) (vid : ℕ) (hv : vid < n) (el : ℕ → ℤ) (bl : ℤ) (eu : ℕ → ℤ) (bu : ℤ) (den : ℤ)
    (hden : den ≠ 0) (hcu : CoeffExact R eu)
    (hh : ∀ m', octCloseFirst R.up closed m = some m' → HalfFiniteOn R.up m')
    (hsp : exprT el (lastNonzero el n) = 0 ∨
      (exprT el (lastNonzero el n) = 1 ∧ lastNonzero el n - 1 ≠ vid ∧
        (el (lastNonzero el n - 1) = den ∨ el (lastNonzero el n - 1) = - den))) :
    ∀ x ∈ OctM.γ m, ∀ t : ℚ, (linEval el x n + bl) / den ≤ t → t ≤ (linEval eu x n + bu) / den →
      ∃ m', octBoundedAffineImage R closed vid el bl eu bu den m = some m' ∧ upd x vid t ∈ γO n m' := by
  intro x hx t hlb hub
  obtain ⟨m1, h1, hx1⟩ := octCloseFirst_sound hR.up_le closed m hx
  obtain ⟨m', hm', hx'⟩ := octBoundedAffineImageCore_special_sound hR hv hcu hden (hh m1 h1) hx1 hlb hub hsp
  exact ⟨m', by simp [octBoundedAffineImage, h1, hm'], hx'⟩

/-- all branches of `bounded_affine_image`: every `x'` that agrees with a point `x` of the octagon off `var` and
has `lb(x)/den ≤ x'_var ≤ ub(x)/den` is in the result.  Beyond `CoeffExact` and `HalfFiniteOn`: `hmono` (monotone
rounding: general `lb_expr`), `hmid` (halving the unary cells of the intermediate matrix does not overflow:
extra-dimension branch), and the expressions have space dimension `≤ n` (checked by the code). -/
theorem oct_bounded_affine_image_sound_partial (R : Rnd) (hR : R.Sound)
    (hmono : ∀ a b : ℚ, a ≤ b → R.up a ≤ R.up b) {n : ℕ} (m : OctM n)
    (closed : Bool) (vid : ℕ) (hv : vid < n) (el : ℕ → ℤ) (bl : ℤ) (eu : ℕ → ℤ) (bu : ℤ) (den : ℤ)
    (hden : den ≠ 0) (hel : ∀ i, n ≤ i → el i = 0) (heu : ∀ i, n ≤ i → eu i = 0)
    (hcl : CoeffExact R el) (hcu : CoeffExact R eu)
    (hh : ∀ m', octCloseFirst R.up closed m = some m' → HalfFiniteOn R.up m')
    (hmid : ∀ m0 m1, octCloseFirst R.up closed m = some m0 → octBoundedExtraMid R n el bl den m0 = some m1 →
      HalfFiniteOn R.up m1) :
    ∀ x ∈ OctM.γ m, ∀ t : ℚ, (linEval el x n + bl) / den ≤ t → t ≤ (linEval eu x n + bu) / den →
      ∃ m', octBoundedAffineImage R closed vid el bl eu bu den m = some m' ∧ upd x vid t ∈ γO n m' := by
  intro x hx t hlb hub
  obtain ⟨m1, h1, hx1⟩ := octCloseFirst_sound hR.up_le closed m hx
  obtain ⟨m', hm', hx'⟩ := octBoundedAffineImageCore_sound hR hv hcu hden hx1 hlb hub hmono hel heu hcl
    (hh m1 h1) (hmid m1 · h1)
  exact ⟨m', by simp [octBoundedAffineImage, h1, hm'], hx'⟩

/-- `Octagonal_Shape<mpq_class>` -/
theorem oct_bounded_affine_image_sound_mpq {n : ℕ} (m : OctM n) (closed : Bool) (vid : ℕ) (hv : vid < n)
    (el : ℕ → ℤ) (bl : ℤ) (eu : ℕ → ℤ) (bu : ℤ) (den : ℤ) (hden : den ≠ 0)
    (hel : ∀ i, n ≤ i → el i = 0) (heu : ∀ i, n ≤ i → eu i = 0) :
    ∀ x ∈ OctM.γ m, ∀ t : ℚ, (linEval el x n + bl) / den ≤ t → t ≤ (linEval eu x n + bu) / den →
      ∃ m', octBoundedAffineImage Rnd.exact closed vid el bl eu bu den m = some m' ∧ upd x vid t ∈ γO n m' :=
  oct_bounded_affine_image_sound_partial _ Rnd.exact_sound octUpId_mono m closed vid hv el bl eu bu den hden hel heu
    (Rnd.exact_coeff el) (Rnd.exact_coeff eu) (fun m' _ => halfFiniteOn_exact m')
    (fun _ m1 _ _ => halfFiniteOn_exact m1)

/-- `Octagonal_Shape<mpz_class>` -/
theorem oct_bounded_affine_image_sound_mpz {n : ℕ} (m : OctM n) (closed : Bool) (vid : ℕ) (hv : vid < n)
    (el : ℕ → ℤ) (bl : ℤ) (eu : ℕ → ℤ) (bu : ℤ) (den : ℤ) (hden : den ≠ 0)
    (hel : ∀ i, n ≤ i → el i = 0) (heu : ∀ i, n ≤ i → eu i = 0) :
    ∀ x ∈ OctM.γ m, ∀ t : ℚ, (linEval el x n + bl) / den ≤ t → t ≤ (linEval eu x n + bu) / den →
      ∃ m', octBoundedAffineImage Rnd.ceil closed vid el bl eu bu den m = some m' ∧ upd x vid t ∈ γO n m' :=
  oct_bounded_affine_image_sound_partial _ Rnd.ceil_sound octUpCeil_mono m closed vid hv el bl eu bu den hden hel heu
    (Rnd.ceil_coeff el) (Rnd.ceil_coeff eu) (fun m' _ => halfFiniteOn_ceil m')
    (fun _ m1 _ _ => halfFiniteOn_ceil m1)

/-! ## non-vacuity: `0 ≤ x₀ ≤ 4`, `x₀ - x₁ ≤ 0`, `x₀ + x₁ ≤ 3` (rows `+x₀, -x₀, +x₁, -x₁`), the point `(1, 3/2)` -/

def exO2 : OctM 2 := OctM.ofLists 2
  [[pinf, fin 0],
   [fin 8, pinf],
   [fin 0, pinf, pinf, pinf],
   [fin 3, pinf, pinf, pinf]]

def ptO2 : ℕ → ℚ := fun i => if i = 0 then 1 else 3/2

theorem ptO2_mem : ptO2 ∈ OctM.γ exO2 := by
  have h : ∀ i, i < 2 * 2 → ∀ j, j < rowSize i → fin (OctM.oval ptO2 j - OctM.oval ptO2 i) ≤ exO2.e i j := by
    decide +kernel
  exact fun i j hi hj => h i hi j hj

/-- `2·x₀ + x₁` -/
def eO2 : ℕ → ℤ := fun i => if i = 0 then 2 else if i = 1 then 1 else 0
/-- `x₁` -/
def eW2 : ℕ → ℤ := fun i => if i = 1 then 1 else 0
/-- `2·x₁ - 2·x₀ - 1 ≥ 0` -/
def cO2 : ℕ → ℤ := fun i => if i = 0 then -2 else if i = 1 then 2 else 0

example : octExtractOctagonalDifference 2 cO2 (-1) = ⟨true, 2, 2, 0, 2, -1⟩ := by decide +kernel
-- one variable: the term is doubled, the cell is the unary one
example : octExtractOctagonalDifference 2 (fun i => if i = 1 then -3 else 0) 5 = ⟨true, 1, 3, 2, -3, 10⟩ := by
  decide +kernel
example : match octRefineNoCheck Rnd.exact 2 2 cO2 (-1) .ge exO2.e with
    | .ok m' => ptO2 ∈ γO 2 m' ∧ MLe m' exO2.e
    | .empty => False
    | .throws => False :=
  oct_refine_sound _ Rnd.exact_sound exO2 2 cO2 (-1) .ge ptO2 ptO2_mem
    (by simp [CSat, linEval, cO2, ptO2]; norm_num)
-- the stored cell: `x₀ - x₁ ≤ -1/2`
example : (match octRefineNoCheck Rnd.exact 2 2 cO2 (-1) .ge exO2.e with | .ok m' => m' 2 0 | _ => pinf)
    = fin (-1/2) := by decide +kernel

example : ∃ m', octUnconstrain Rnd.ceil false 0 exO2 = some m' ∧ upd ptO2 0 77 ∈ γO 2 m' :=
  oct_unconstrain_sound _ Rnd.ceil_sound exO2 false 0 (by norm_num) ptO2 ptO2_mem 77

-- general case over the integers: `x₀' ≤ (2·x₀ + x₁)/2` (`= 7/4` at the point), `x₀' = 1`
example : ∃ m', octGenAffineImage Rnd.ceil false 0 .le eO2 0 2 exO2 = some m' ∧ upd ptO2 0 1 ∈ γO 2 m' :=
  oct_generalized_affine_image_sound_mpz exO2 false 0 (by norm_num) .le eO2 0 2 (by norm_num) ptO2 ptO2_mem 1
    (by simp [RelSym.holds, linEval, eO2, ptO2]; norm_num)
-- `x₁' ≥ -x₁ + 1` through `octGenTranslate`
example : ∃ m', octGenAffineImage (Rnd.range (-126) 126) false 1 .ge (fun i => if i = 1 then -1 else 0) 1 1 exO2
    = some m' ∧ upd ptO2 1 5 ∈ γO 2 m' :=
  oct_generalized_affine_image_sound_special _ (Rnd.range_sound _ _ (by norm_num)) exO2 false 1 (by norm_num) .ge
    (fun i => if i = 1 then -1 else 0) 1 1 (by norm_num) (Or.inr (by decide +kernel)) ptO2 ptO2_mem 5
    (by simp [RelSym.holds, linEval, ptO2]; norm_num)

-- `refine(x₀, ≤, x₁, 1)`: the point has `x₀ = 1 ≤ 3/2 = x₁`
example : ∃ m', octRefineVar Rnd.exact 2 0 .le eW2 0 1 exO2.e = some m' ∧ ptO2 ∈ γO 2 m' :=
  oct_refine_var_sound_partial _ Rnd.exact_sound exO2.e 0 (by norm_num) .le eW2 (by decide) 0 1 (by norm_num)
    (Rnd.exact_coeff eW2) (halfFiniteOn_exact _) (Or.inl (by decide)) ptO2 ((OctM.sat_iff_holds _ _).1 ptO2_mem)
    (by simp [RelSym.holds, linEval, eW2, ptO2]; norm_num)

-- preimage of `x₀ := (2·x₀ + x₁)/3` (invertible): the point `(1, 3/2)` is mapped to `(7/6, 3/2)`, in the octagon
example : ∃ m', octAffinePreimage Rnd.exact false 0 eO2 0 3 exO2 = some m' ∧ ptO2 ∈ γO 2 m' :=
  oct_affine_preimage_sound_mpq exO2 false 0 (by norm_num) eO2 0 3 (by norm_num) ptO2 (by
    have h : ∀ i, i < 2 * 2 → ∀ j, j < rowSize i →
        fin (OctM.oval (upd ptO2 0 ((linEval eO2 ptO2 2 + (0 : ℤ)) / (3 : ℤ))) j
          - OctM.oval (upd ptO2 0 ((linEval eO2 ptO2 2 + (0 : ℤ)) / (3 : ℤ))) i) ≤ exO2.e i j := by
      decide +kernel
    exact fun i j hi hj => h i hi j hj)

-- preimage of `x₀ ≤ x₁` (through `refine`)
example : ∃ m', octGenAffinePreimage Rnd.ceil false 0 .le eW2 0 1 exO2 = some m' ∧ ptO2 ∈ γO 2 m' :=
  oct_generalized_affine_preimage_sound_mpz exO2 false 0 (by norm_num) .le eW2 0 1 (by norm_num)
    (Or.inl (by decide)) ptO2 1 (by
      have : upd ptO2 0 1 = ptO2 := by funext i; by_cases h : i = 0 <;> simp [upd, ptO2, h]
      rw [this]; exact ptO2_mem)
    (by simp [RelSym.holds, linEval, eW2, ptO2]; norm_num)

-- `x₁ - 2 ≤ x₀' ≤ 2·x₀ + x₁ + 1`
example : ∃ m', octBoundedAffineImage Rnd.exact false 0 eW2 (-2) eO2 1 1 exO2 = some m' ∧ upd ptO2 0 0 ∈ γO 2 m' :=
  oct_bounded_affine_image_sound_special_partial _ Rnd.exact_sound exO2 false 0 (by norm_num) eW2 (-2) eO2 1 1
    (by norm_num) (Rnd.exact_coeff eO2) (fun m' _ => halfFiniteOn_exact m') (Or.inr (by decide +kernel))
    ptO2 ptO2_mem 0 (by simp [linEval, eW2, ptO2]; norm_num) (by simp [linEval, eO2, ptO2]; norm_num)

-- the branch through an additional dimension: `x₀ - 1 ≤ x₀' ≤ 2·x₀ + x₁ + 1`, over the integers
example : ∃ m', octBoundedAffineImage Rnd.ceil false 0 (fun i => if i = 0 then 1 else 0) (-1) eO2 1 1 exO2 = some m' ∧
    upd ptO2 0 2 ∈ γO 2 m' :=
  oct_bounded_affine_image_sound_mpz exO2 false 0 (by norm_num) (fun i => if i = 0 then 1 else 0) (-1) eO2 1 1
    (by norm_num) (by intro i hi; simp; omega) (by intro i hi; simp [eO2]; omega)
    ptO2 ptO2_mem 2 (by simp [linEval, ptO2]) (by simp [linEval, eO2, ptO2]; norm_num)
-- the lower bound survives: `x₀' - x₀ ≥ -1` is lost with `x₀`, but `x₀' ≥ -1` (doubled cell `2`) is kept
example : ((octBoundedAffineImage Rnd.exact false 0 (fun i => if i = 0 then 1 else 0) (-1) eO2 1 1 exO2).map
    fun m => m 0 1) = some (fin 2) := by decide +kernel

-- general `lb_expr`: `(2·x₀ + x₁ - 4)/2 ≤ x₀' ≤ (2·x₀ + x₁)/2`
example : ∃ m', octBoundedAffineImage Rnd.exact false 0 eO2 (-4) eO2 0 2 exO2 = some m' ∧ upd ptO2 0 0 ∈ γO 2 m' :=
  oct_bounded_affine_image_sound_mpq exO2 false 0 (by norm_num) eO2 (-4) eO2 0 2 (by norm_num)
    (by intro i hi; simp [eO2]; omega) (by intro i hi; simp [eO2]; omega)
    ptO2 ptO2_mem 0 (by simp [linEval, eO2, ptO2]; norm_num) (by simp [linEval, eO2, ptO2]; norm_num)

end C03

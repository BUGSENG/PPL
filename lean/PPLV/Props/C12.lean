import PPLV.Interval.ProofsSet
import PPLV.Interval.ProofsDiv
import PPLV.Interval.ProofsExact
import PPLV.Interval.ProofsMulExact
import PPLV.Interval.ProofsRefine
import PPLV.Interval.ProofsLF
import PPLV.Interval.ProofsWiden
import PPLV.Interval.ProofsWrap
import PPLV.Interval.ProofsLinearize
import PPLV.Interval.ProofsFloatModel
import PPLV.Interval.ProofsDiffExact
import Mathlib.Tactic.NormNum
/-!
# C12 — interval arithmetic encloses every concrete result

Statements about the code-shaped model `PPLV/Interval/Model.lean` of `Boundary_NS` and `Interval`
(`/repo/src/Boundary_defs.hh`, `Interval_inlines.hh`, `Interval_defs.hh`), for **every** policy
(`store_special`, `store_open`, `may_contain_infinity`, `check_inexact`, `may_be_empty`) and
**every** sound directed rounding `R` (`down q ≤ q ≤ up q`, overflow to the infinity of the
direction): exact (`mpq_class`), floor/ceiling (`mpz_class`), binary floating point (`double`).
An interval denotes its set of rational members `Iv.mem p x`, which reads the OPEN bit through
the policy as the class does.

The unchanged tree violates the enclosure for `mul_assign` (defect 3) and `wrap_assign`
(defect 12): `mul_encloses_fails`, `wrap_encloses_fails` are the negations on the witnesses,
`mul_encloses_partial` is the enclosure for the code as written under the exact side condition
that defect 3 does not act (`d3Differs = false`), and `op_encloses` is the enclosure for all five
arithmetic operations with the candidate's info bits copied (`d3 = false`).
-/
set_option linter.unnecessarySeqFocus false
set_option linter.unusedSimpArgs false
namespace C12
open PPLV.Interval
open PPLV.Interval.ExtRat (ninf fin pinf)

/-- division is defined for a non-zero divisor -/
def defined : IvOp → Rat → Rat → Prop
  | .div, _, b => b ≠ 0
  | _, _, _ => True

/-! ## the three boundary types are instances of the abstract rounding -/

theorem rounding_exact_sound : Rounding.Sound Rounding.id := Rounding.id_sound
theorem rounding_integer_sound : Rounding.Sound Rounding.int := Rounding.int_sound
theorem rounding_float_sound (prec : Nat) (emin emax : Int) : Rounding.Sound (Rounding.float prec emin emax) :=
  Rounding.float_sound prec emin emax

example : Rounding.Sound Rounding.double := rounding_float_sound 53 (-1022) 1023

/-! ## enclosure: `a ∈ I → b ∈ J → a ⋆ b ∈ op I J` -/

/-- Enclosure for negation, sum, difference, product (all nine sign cases, bits of the chosen
candidate copied: `d3 = false`) and quotient (all six cases; universe when the divisor straddles
zero), for every policy and every sound rounding. -/
theorem op_encloses (pol : Policy) (R : Rounding) (hR : R.Sound) (op : IvOp) (I J : Iv) (a b : Rat)
    (ha : I.mem pol a) (hb : J.mem pol b) (hd : defined op a b) :
    (IvOp.run false pol R op I J).mem pol (op.exact a b) := by
  cases op
  · exact negAssign_encloses hR ha
  · exact addAssign_encloses hR ha hb
  · exact subAssign_encloses hR ha hb
  · exact mulAssign_encloses hR ha hb
  · exact divAssign_encloses hR ha hb hd

/-- non-vacuity: `(−1,2]·[−3,1)` contains `2·(−3) = −6` once the bits are copied -/
example : (IvOp.run false Policy.rational Rounding.id .mul ⟨⟨fin (-1), true⟩, ⟨fin 2, false⟩⟩
    ⟨⟨fin (-3), false⟩, ⟨fin 1, true⟩⟩).mem Policy.rational (-6) := by
  have := op_encloses Policy.rational Rounding.id rounding_exact_sound .mul
    ⟨⟨fin (-1), true⟩, ⟨fin 2, false⟩⟩ ⟨⟨fin (-3), false⟩, ⟨fin 1, true⟩⟩ 2 (-3)
    (by simp [Iv.mem, lowerOk, upperOk, getOpen, Policy.rational] <;> norm_num)
    (by simp [Iv.mem, lowerOk, upperOk, getOpen, Policy.rational] <;> norm_num) trivial
  have e : IvOp.exact .mul (2 : Rat) (-3) = -6 := by simp [IvOp.exact]; norm_num
  rw [e] at this
  exact this

/-- The code **as written** (`d3 = true`): the enclosure for the product fails.
`(−1,2]·[−3,1)` is computed as `(−6,3)`, which loses `2·(−3) = −6` (defect 3). -/
theorem mul_encloses_fails :
    ¬ (∀ (I J : Iv) (a b : Rat), I.mem Policy.rational a → J.mem Policy.rational b →
        (mulAssign true Policy.rational Rounding.id I J).mem Policy.rational (a * b)) := by
  intro h
  have hv : mulAssign true Policy.rational Rounding.id ⟨⟨fin (-1), true⟩, ⟨fin 2, false⟩⟩
      ⟨⟨fin (-3), false⟩, ⟨fin 1, true⟩⟩ = ⟨⟨fin (-6), true⟩, ⟨fin 3, true⟩⟩ := by decide +kernel
  have := h ⟨⟨fin (-1), true⟩, ⟨fin 2, false⟩⟩ ⟨⟨fin (-3), false⟩, ⟨fin 1, true⟩⟩ 2 (-3)
    (by simp [Iv.mem, lowerOk, upperOk, getOpen, Policy.rational] <;> norm_num)
    (by simp [Iv.mem, lowerOk, upperOk, getOpen, Policy.rational] <;> norm_num)
  rw [hv] at this
  simp [Iv.mem, lowerOk, upperOk, getOpen, Policy.rational] at this
  norm_num at this

/-- the witness is a case where defect 3 acts -/
example : d3Differs Policy.rational Rounding.id ⟨⟨fin (-1), true⟩, ⟨fin 2, false⟩⟩
    ⟨⟨fin (-3), false⟩, ⟨fin 1, true⟩⟩ = true := by decide +kernel

/-- The code as written encloses the product whenever defect 3 does not act: outside the case
"both operands straddle zero", or when every replaced candidate has the OPEN bit of the candidate
that replaces it.  (`_partial`: the missing part is exactly `d3Differs = true`, where
`mul_encloses_fails` shows the clause is false.) -/
theorem mul_encloses_partial (pol : Policy) (R : Rounding) (hR : R.Sound) (I J : Iv) (a b : Rat)
    (hd : d3Differs pol R I J = false) (ha : I.mem pol a) (hb : J.mem pol b) :
    (mulAssign true pol R I J).mem pol (a * b) :=
  mulAssign_encloses_asWritten hR hd ha hb

/-- where defect 3 does not act the code as written *is* the repaired code -/
theorem mul_asWritten_eq_repaired (pol : Policy) (R : Rounding) (I J : Iv)
    (hd : d3Differs pol R I J = false) : mulAssign true pol R I J = mulAssign false pol R I J :=
  mulAssign_d3_eq hd

/-- non-vacuity: a straddle/straddle pair on which defect 3 does not act -/
example : d3Differs Policy.rational Rounding.id ⟨⟨fin (-1), false⟩, ⟨fin 2, false⟩⟩
    ⟨⟨fin (-3), false⟩, ⟨fin 1, false⟩⟩ = false := by decide +kernel

/-- the uniform statement for the code as written, under the side condition -/
theorem op_encloses_partial (pol : Policy) (R : Rounding) (hR : R.Sound) (op : IvOp) (I J : Iv) (a b : Rat)
    (hd3 : op = .mul → d3Differs pol R I J = false)
    (ha : I.mem pol a) (hb : J.mem pol b) (hd : defined op a b) :
    (IvOp.run true pol R op I J).mem pol (op.exact a b) := by
  cases op
  · exact negAssign_encloses hR ha
  · exact addAssign_encloses hR ha hb
  · exact subAssign_encloses hR ha hb
  · exact mulAssign_encloses_asWritten hR (hd3 rfl) ha hb
  · exact divAssign_encloses hR ha hb hd

/-! ## exactness when the rounding is the identity -/

/-- With exact rounding, negation, sum and difference return **exactly** the image of the operands
(which is an interval, hence the least interval containing the image), openness of each bound and
infinities included; for every policy.  (For the product see `mul_hull_closed_bounded_partial`.) -/
theorem op_exact (pol : Policy) (d3 : Bool) (op : IvOp) (hop : op = .neg ∨ op = .add ∨ op = .sub) (I J : Iv)
    (hI : ∃ a, I.mem pol a) (hJ : ∃ b, J.mem pol b) (c : Rat) :
    (IvOp.run d3 pol Rounding.id op I J).mem pol c ↔ ∃ a b, I.mem pol a ∧ J.mem pol b ∧ c = op.exact a b := by
  rcases hop with rfl | rfl | rfl
  · obtain ⟨b0, hb0⟩ := hJ
    simp only [IvOp.run, IvOp.exact]
    rw [negAssign_exact]
    constructor
    · intro h; exact ⟨-c, b0, h, hb0, by ring⟩
    · rintro ⟨a, b, ha, _, rfl⟩; simpa using ha
  · exact addAssign_exact hI hJ
  · exact subAssign_exact hI hJ

/-- non-vacuity: `(0,1] + [2,3) = (2,4)`: `4` is not a sum, `3` is -/
example : ¬ (IvOp.run false Policy.rational Rounding.id .add ⟨⟨fin 0, true⟩, ⟨fin 1, false⟩⟩
    ⟨⟨fin 2, false⟩, ⟨fin 3, true⟩⟩).mem Policy.rational 4 := by
  have hv : IvOp.run false Policy.rational Rounding.id .add ⟨⟨fin 0, true⟩, ⟨fin 1, false⟩⟩
      ⟨⟨fin 2, false⟩, ⟨fin 3, true⟩⟩ = ⟨⟨fin 2, true⟩, ⟨fin 4, true⟩⟩ := by decide +kernel
  rw [hv]; simp [Iv.mem, lowerOk, upperOk, getOpen, Policy.rational]


/-- For the product the hull of the image is always inside the result (any policy, any sound
rounding) … -/
theorem mul_hull_subset (pol : Policy) (R : Rounding) (hR : R.Sound) (I J : Iv) (c s1 s2 : Rat)
    (h1 : ∃ a b, I.mem pol a ∧ J.mem pol b ∧ s1 = a * b) (h2 : ∃ a b, I.mem pol a ∧ J.mem pol b ∧ s2 = a * b)
    (hc1 : s1 ≤ c) (hc2 : c ≤ s2) : (mulAssign false pol R I J).mem pol c :=
  mulAssign_hull_subset hR h1 h2 hc1 hc2

/-- … and with exact rounding, for closed bounded operands `[l,u]·[m,n]` (all nine sign cases), the
result is exactly that hull: the least interval containing the image.
(`_partial`: open or unbounded operands of the product are covered by the
enclosure theorem and by the correspondence run against the set-level reference, not by a theorem.) -/
theorem mul_hull_closed_bounded_partial (pol : Policy) (l u m n : Rat) (hx : l ≤ u) (hy : m ≤ n) (c : Rat) :
    (mulAssign false pol Rounding.id (Iv.closed l u) (Iv.closed m n)).mem pol c ↔
      ∃ s1 s2, (∃ a b, (Iv.closed l u).mem pol a ∧ (Iv.closed m n).mem pol b ∧ s1 = a * b) ∧
               (∃ a b, (Iv.closed l u).mem pol a ∧ (Iv.closed m n).mem pol b ∧ s2 = a * b) ∧ s1 ≤ c ∧ c ≤ s2 :=
  mulAssign_hull_closed hx hy c

example : mulAssign false Policy.rational Rounding.id (Iv.closed (-1) 2) (Iv.closed (-3) 1)
    = Iv.closed (-6) 3 := by decide +kernel

/-! ## emptiness -/

/-- `is_empty()` answers `true` exactly when the interval has no rational member (bounds on their
own sides, which `OK()` demands of every interval) -/
theorem is_empty_iff (pol : Policy) (I : Iv) (hlo : I.lo.value ≠ pinf) (hhi : I.hi.value ≠ ninf) :
    isEmpty pol I = true ↔ ∀ a, ¬ I.mem pol a := isEmpty_iff hlo hhi

example : isEmpty Policy.rational ⟨⟨fin 2, true⟩, ⟨fin 2, false⟩⟩ = true := by decide +kernel

/-- an empty operand gives the empty result (policies that may be empty) -/
theorem op_empty (pol : Policy) (R : Rounding) (d3 : Bool) (op : IvOp) (I J : Iv)
    (hpe : pol.mayBeEmpty = true)
    (hI : I.lo.value ≠ pinf ∧ I.hi.value ≠ ninf) (hJ : J.lo.value ≠ pinf ∧ J.hi.value ≠ ninf)
    (h : (∀ a, ¬ I.mem pol a) ∨ (op ≠ .neg ∧ ∀ b, ¬ J.mem pol b)) :
    ∀ c, ¬ (IvOp.run d3 pol R op I J).mem pol c := by
  intro c
  have eI : (∀ a, ¬ I.mem pol a) → checkEmptyArg pol I = true := fun h => by
    unfold checkEmptyArg; rw [hpe]; simpa using (isEmpty_iff hI.1 hI.2).mpr h
  have eJ : (∀ a, ¬ J.mem pol a) → checkEmptyArg pol J = true := fun h => by
    unfold checkEmptyArg; rw [hpe]; simpa using (isEmpty_iff hJ.1 hJ.2).mpr h
  rcases h with h | ⟨hn, h⟩
  · cases op <;> simp [IvOp.run, negAssign, addAssign, subAssign, mulAssign, divAssign, eI h] <;>
      exact not_mem_empty pol c
  · cases op <;> simp [IvOp.run, negAssign, addAssign, subAssign, mulAssign, divAssign, eJ h] at hn ⊢ <;>
      exact not_mem_empty pol c

/-- and non-empty operands give a non-empty result (a consequence of the enclosure) -/
theorem op_nonempty (pol : Policy) (R : Rounding) (hR : R.Sound) (op : IvOp) (I J : Iv) (a b : Rat)
    (ha : I.mem pol a) (hb : J.mem pol b) (hd : defined op a b) :
    isEmpty pol (IvOp.run false pol R op I J) = false :=
  isEmpty_of_mem (op_encloses pol R hR op I J a b ha hb hd)

/-! ## set operations -/

theorem assign_copy_encloses (pol : Policy) (R : Rounding) (hR : R.Sound) (I : Iv) (a : Rat)
    (h : I.mem pol a) : (assign pol R pol I).mem pol a := assign_encloses hR h

/-- the join contains both operands -/
theorem join_encloses (pol : Policy) (R : Rounding) (hR : R.Sound) (I J : Iv) (a : Rat)
    (h : I.mem pol a ∨ J.mem pol a) : (joinAssign pol R I J).mem pol a := joinAssign_encloses hR h

/-- … and, with exact rounding, nothing below both lower bounds or above both upper bounds: it is
the interval hull of the union -/
theorem join_exact (pol : Policy) (I J : Iv) (a : Rat) (h : (joinAssign pol Rounding.id I J).mem pol a) :
    (lowerOk pol I.lo a ∨ lowerOk pol J.lo a) ∧ (upperOk pol I.hi a ∨ upperOk pol J.hi a) :=
  joinAssign_exact_bounds h

/-- the intersection is contained in the result -/
theorem intersect_encloses (pol : Policy) (R : Rounding) (hR : R.Sound) (I J : Iv) (a : Rat)
    (hI : I.mem pol a) (hJ : J.mem pol a) : (intersectAssign pol R I J).mem pol a :=
  intersectAssign_encloses hR hI hJ

/-- with exact rounding `intersect_assign` is exactly the intersection (openness included) -/
theorem intersect_exact (pol : Policy) (I J : Iv) (a : Rat) :
    (intersectAssign pol Rounding.id I J).mem pol a ↔ I.mem pol a ∧ J.mem pol a := intersectAssign_exact

example : (intersectAssign Policy.rational Rounding.id ⟨⟨fin 0, false⟩, ⟨fin 2, true⟩⟩
    ⟨⟨fin 1, true⟩, ⟨pinf, true⟩⟩).mem Policy.rational (3 / 2) := by
  rw [intersect_exact]
  constructor <;> simp [Iv.mem, lowerOk, upperOk, getOpen, Policy.rational] <;> norm_num

/-- the set difference is contained in the result of `difference_assign` -/
theorem difference_encloses (pol : Policy) (R : Rounding) (hR : R.Sound) (I J : Iv) (a : Rat)
    (hI : I.mem pol a) (hJ : ¬ J.mem pol a) : (differenceAssign pol R I J).mem pol a :=
  differenceAssign_encloses hR hI hJ


/-- `refine_existential(rel, J)` keeps every member of `I` that is `rel`-related to some member of `J`
(all six relation symbols) -/
theorem refine_existential_encloses (pol : Policy) (R : Rounding) (hR : R.Sound) (I J : Iv) (rel : Rel)
    (a b : Rat) (ha : I.mem pol a) (hb : J.mem pol b) (hrel : rel.holds a b) :
    (refineExistential pol R I rel J).mem pol a := refineExistential_encloses hR ha hb hrel

example : (refineExistential Policy.rational Rounding.id ⟨⟨fin 0, false⟩, ⟨fin 5, false⟩⟩ .lt
    ⟨⟨fin 1, false⟩, ⟨fin 3, false⟩⟩) = ⟨⟨fin 0, false⟩, ⟨fin 3, true⟩⟩ := by decide +kernel

/-- `contains` answering `true` is the inclusion of the sets -/
theorem contains_true (pol : Policy) (I J : Iv) (h : contains pol I J = true) (a : Rat)
    (hJ : J.mem pol a) : I.mem pol a := contains_sound h hJ

/-- `is_disjoint_from` answering `true`: no common member -/
theorem is_disjoint_true (pol : Policy) (I J : Iv) (h : isDisjointFrom pol I J = true) (a : Rat) :
    ¬ (I.mem pol a ∧ J.mem pol a) := isDisjointFrom_sound h



/-- `CC76_widening_assign` (any list of stop points) contains the interval it widens -/
theorem cc76_widening_encloses (pol : Policy) (I J : Iv) (stops : List Rat) (a : Rat) (h : I.mem pol a) :
    (cc76Widening pol I J stops).mem pol a := cc76Widening_encloses h

example : cc76Widening Policy.rational ⟨⟨fin (-3/2), false⟩, ⟨fin (1/2), true⟩⟩ ⟨⟨fin (-1), false⟩, ⟨fin 0, false⟩⟩
    [-2, -1, 0, 1, 2] = ⟨⟨fin (-2), false⟩, ⟨fin 1, true⟩⟩ := by decide +kernel

/-! ## linear forms with interval coefficients -/

/-- `operator+`, `operator-` and `operator*(C, f)` of `Linear_Form<Interval>` enclose
coefficientwise: if `c` is an instance of `F`, `d` of `G` and `n ∈ N`, then `c + d`, `c − d`,
`n·c` are instances of `F + G`, `F − G`, `N·F` (forms of any lengths; product with the
candidate's bits copied, `d3 = false`). -/
theorem lf_encloses (pol : Policy) (R : Rounding) (hR : R.Sound) (F G : List Iv) (c d : List Rat)
    (N : Iv) (n : Rat) (hF : lfMem pol F c) (hG : lfMem pol G d) (hn : N.mem pol n) :
    lfMem pol (lfAdd pol R F G) (vecAdd c d) ∧ lfMem pol (lfSub pol R F G) (vecSub c d)
      ∧ lfMem pol (lfScale false pol R N F) (c.map (fun a => a * n)) :=
  ⟨lfAdd_encloses hR hF hG, lfSub_encloses hR hF hG, lfScale_encloses hR hn hF⟩

/-- and the value of a sum of two forms on a store is the sum of the values -/
theorem lf_value_add (c d rho : List Rat) (h : c.length = d.length) :
    vecEval (vecAdd c d) rho = vecEval c rho + vecEval d rho := vecEval_add c d rho h

example : lfMem Policy.rational (lfAdd Policy.rational Rounding.id
    [⟨⟨fin 0, false⟩, ⟨fin 1, false⟩⟩, ⟨⟨fin 2, true⟩, ⟨fin 3, false⟩⟩] [⟨⟨fin 1, false⟩, ⟨fin 1, false⟩⟩])
    (vecAdd [1, 3] [1]) :=
  (lf_encloses Policy.rational Rounding.id rounding_exact_sound _ _ [1, 3] [1] ⟨⟨fin 1, false⟩, ⟨fin 1, false⟩⟩ 1
    (by simp [lfMem, Iv.mem, lowerOk, upperOk, getOpen, Policy.rational]; norm_num)
    (by simp [lfMem, Iv.mem, lowerOk, upperOk, getOpen, Policy.rational])
    (by simp [Iv.mem, lowerOk, upperOk, getOpen, Policy.rational])).1

/-! ## linear forms on a concrete store, `relative_error`, `intervalize`, `linearize`

`lfEvalMem pol F ρ v`: `v` is the value on the store `ρ` of some instance of the interval linear
form `F`.  The analysed machine is the *stated float model*: every arithmetic operation returns
`fl(exact)` with `|fl v − v| ≤ ε_f·|v| + ω_f` (`FloatModel`), `ε_f = 2^-MANTISSA_BITS`,
`ω_f = 2^(1 − EXPONENT_BIAS − MANTISSA_BITS)` of `Float_defs.hh` — satisfied by round-to-nearest,
upwards, downwards and towards zero of a binary format while no operation overflows; negation is
exact. -/

set_option linter.unusedVariables false in
/-- The float model is met by the exact directed roundings of a binary format with `prec`
significand bits (hidden bit included: `prec - 1 = MANTISSA_BITS`) and least normal exponent
`emin = 1 - EXPONENT_BIAS`: inside the finite range, `down v` and `up v` are within
`2^-(prec-1)·|v| + 2^(emin-prec+1)` of `v`.  Round-to-nearest and round-towards-zero return one of
the two, so all four rounding modes of the analysed machine satisfy `FloatModel` on every
operation that does not overflow. -/
theorem float_model_of_directed_rounding (prec : Nat) (hprec : 1 ≤ prec) (emin emax : Int) (v d : Rat)
    (hrange : |v| ≤ Rounding.maxFinite prec emax)
    (h : (Rounding.float prec emin emax).down v = fin d ∨ (Rounding.float prec emin emax).up v = fin d) :
    |d - v| ≤ Rounding.pow2 (-((prec : Int) - 1)) * |v| + Rounding.pow2 (emin - (prec : Int) + 1) :=
  float_model_directed prec emin emax v d hrange h

example : (Rounding.float 24 (-126) 127).down (1 / 10) = fin (13421772 / 134217728) := by decide +kernel

/-- `f1 += f2`, `f1 -= f2`, `f *= n`, `f /= n` (divisor member non-zero), `f += n`, `negate()`
on the values of the forms on a store -/
theorem lf_compound_encloses (pol : Policy) (R : Rounding) (hR : R.Sound) (rho : Nat → Rat)
    (F G : List Iv) (N : Iv) (a b n : Rat)
    (hF : lfEvalMem pol F rho a) (hG : lfEvalMem pol G rho b) (hn : N.mem pol n) :
    lfEvalMem pol (lfAddAssign pol R F G) rho (a + b) ∧ lfEvalMem pol (lfSubAssign pol R F G) rho (a - b)
      ∧ lfEvalMem pol (lfMulAssign false pol R F N) rho (a * n)
      ∧ (n ≠ 0 → lfEvalMem pol (lfDivAssign pol R F N) rho (a / n))
      ∧ (F ≠ [] → lfEvalMem pol (lfAddConst pol R F N) rho (a + n))
      ∧ lfEvalMem pol (lfNegate pol R F) rho (-a) :=
  ⟨lfEvalMem_add hR hF hG, lfEvalMem_sub hR hF hG, lfEvalMem_mul hR hF hn,
   fun h0 => lfEvalMem_div hR hF hn h0, fun hne => lfEvalMem_addConst hR hne hF hn, lfEvalMem_neg hR hF⟩

/-- `intervalize`: the interval contains every value of the form on every store inside the box -/
theorem intervalize_encloses (pol : Policy) (R : Rounding) (hR : R.Sound) (rho : Nat → Rat) (store : List Iv)
    (hstore : ∀ (k : Nat) (S : Iv), store[k]? = some S → S.mem pol (rho k))
    (F : List Iv) (v : Rat) (I : Iv) (hv : lfEvalMem pol F rho v)
    (h : intervalize false pol R store F = some I) : I.mem pol v :=
  intervalize_sound hR hstore hv h

/-- `relative_error`: for a form without unbounded coefficients, every value `a` of the form on the
store and every rounding error `t = fl(a) − a` with `|t| ≤ ε_f·|a|`: `t` is a value of the
relative-error form on the store (the coefficients are scaled with the LARGEST magnitude of each
interval coefficient, which is what makes this true). -/
theorem relative_error_encloses (pol : Policy) (R : Rounding) (hR : R.Sound) (eps : Rat) (heps : 0 ≤ eps)
    (rho : Nat → Rat) (F : List Iv) (a t : Rat) (hb : lfOverflows pol F = false)
    (ha : lfEvalMem pol F rho a) (ht : |t| ≤ eps * |a|) :
    lfEvalMem pol (relativeError false pol R eps F) rho t :=
  relativeError_encloses hR heps hb ha ht

example : relativeError false Policy.floating Rounding.double (1 / 4) [⟨⟨fin (-3), false⟩, ⟨fin 1, false⟩⟩, Iv.point 2]
    = [Iv.sym (3 / 4), Iv.sym (1 / 2)] := by decide +kernel

/-- **soundness of `linearize`** (constants, variables with or without an entry in the linear-form
abstract store, unary minus, `+`, `−`, `×`, `÷`; structural induction): if `linearize` answers `true`
with the form `F`, then for every concrete store `ρ` inside the abstract store and every machine
satisfying the float model — in particular each of the four rounding modes — the value the machine
computes for the expression is a value of `F` on `ρ`.  A `false` answer (division by an interval
that may contain zero, unbounded coefficients, unbounded operands of a product) claims nothing. -/
theorem linearize_sound (pol : Policy) (R : Rounding) (fm : FFormat) (store : List Iv)
    (lfStore : Nat → Option (List Iv)) (rho : Nat → Rat) (fl : Rat → Rat)
    (H : LinHyps pol R fm store lfStore rho) (hfl : FloatModel fm fl)
    (e : FExpr) (F : List Iv) (hw : e.WF pol) (h : linearize false pol R fm store lfStore e = some F) :
    lfEvalMem pol F rho (e.ceval fl rho) :=
  PPLV.Interval.linearize_sound H hfl e F hw h

/-- the hypothesis `neg_bounded` of `LinHyps` holds for exact rounding -/
theorem neg_bounded_exact (pol : Policy) (x : Iv) (h : isBounded pol x = true) :
    isBounded pol (negAssign pol Rounding.id x) = true := by
  unfold negAssign
  split
  · simp [isBounded, Iv.empty, isBoundaryInfinity_eq, normalIsBoundaryInfinity]
  · unfold isBounded at h ⊢
    rwa [bNeg_id_isBoundaryInfinity pol (by decide), bNeg_id_isBoundaryInfinity pol (by decide), Bool.and_comm]

/-- non-vacuity: `x / 2` over `x ∈ [1,3]` linearizes, `1 / x` over `x ∈ [-1,1]` is refused -/
example : (linearize false Policy.floating Rounding.double ⟨1 / 8388608, 1 / 4⟩ [Iv.closed 1 3] (fun _ => none)
    (.div (.var 0) (.const (Iv.point 2) 2))).isSome = true := by decide +kernel
example : linearize false Policy.floating Rounding.double ⟨1 / 8388608, 1 / 4⟩ [Iv.closed (-1) 1] (fun _ => none)
    (.div (.const (Iv.point 1) 1) (.var 0)) = none := by decide +kernel

/-! ## `difference_assign` and the repaired `refine_universal(NOT_EQUAL, ·)` (commit 17f6149) -/

/-- enclosure, every policy and sound rounding: every member of `I` that differs from all members
of `J` (i.e. is not in `J`) stays -/
theorem refine_universal_ne_encloses (pol : Policy) (R : Rounding) (hR : R.Sound) (I J : Iv) (a : Rat)
    (ha : I.mem pol a) (hJ : ¬ J.mem pol a) : (refineUniversal pol R I .ne J).mem pol a :=
  refineUniversal_ne_encloses hR ha hJ

/-- **`refine_universal(NOT_EQUAL, J)` returns the smallest interval containing `I ∖ J`**: with exact
rounding and a policy that stores OPEN bits (otherwise the complement bound cannot be represented),
for intervals as `OK()` admits them (bounds on their own sides, infinite bounds open), a value is in
the result iff it lies between two members of the difference.  Empty `I` or `J` included. -/
theorem refine_universal_ne_spec (pol : Policy) (hso : pol.storeOpen = true) (I J : Iv)
    (hI : I.OKReal) (hJ : J.OKReal) (c : Rat) :
    (refineUniversal pol Rounding.id I .ne J).mem pol c ↔
      ∃ s1 s2, (I.mem pol s1 ∧ ¬ J.mem pol s1) ∧ (I.mem pol s2 ∧ ¬ J.mem pol s2) ∧ s1 ≤ c ∧ c ≤ s2 :=
  refineUniversal_ne_hull hso hI hJ c

/-- the same for `difference_assign` itself; the `⊇` half holds for every policy and sound rounding -/
theorem difference_spec (pol : Policy) (hso : pol.storeOpen = true) (I J : Iv)
    (hI : I.OKReal) (hJ : J.OKReal) (c : Rat) :
    (differenceAssign pol Rounding.id I J).mem pol c ↔
      ∃ s1 s2, (I.mem pol s1 ∧ ¬ J.mem pol s1) ∧ (I.mem pol s2 ∧ ¬ J.mem pol s2) ∧ s1 ≤ c ∧ c ≤ s2 :=
  ⟨fun h => differenceAssign_subset_hull hso hI hJ h,
   fun ⟨_, _, h1, h2, hc1, hc2⟩ => differenceAssign_hull_subset Rounding.id_sound h1 h2 hc1 hc2⟩

example : refineUniversal Policy.rational Rounding.id (Iv.closed 0 2) .ne (Iv.closed 0 (1 / 2))
    = ⟨⟨fin (1 / 2), true⟩, ⟨fin 2, false⟩⟩ := by decide +kernel

/-- Before the repair (KF-C12-5) only coinciding end points were opened: `[0,2]` refined by
"≠ all of `[0,1/2]`" stayed `(0,2]`, which is not the smallest interval containing `(1/2,2]`:
`1/4` is in it but below every member of the difference. -/
theorem refine_universal_ne_before_fix_fails :
    ¬ (∀ (I J : Iv) (c : Rat), (refineUniversalNeBeforeFix Policy.rational I J).mem Policy.rational c →
        ∃ s1 s2, (I.mem Policy.rational s1 ∧ ¬ J.mem Policy.rational s1)
          ∧ (I.mem Policy.rational s2 ∧ ¬ J.mem Policy.rational s2) ∧ s1 ≤ c ∧ c ≤ s2) := by
  intro h
  have hv : refineUniversalNeBeforeFix Policy.rational (Iv.closed 0 2) (Iv.closed 0 (1 / 2))
      = ⟨⟨fin 0, true⟩, ⟨fin 2, false⟩⟩ := by decide +kernel
  obtain ⟨s1, s2, ⟨h1, h1'⟩, _, hc1, _⟩ := h (Iv.closed 0 2) (Iv.closed 0 (1 / 2)) (1 / 4)
    (by rw [hv]; simp [Iv.mem, lowerOk, upperOk, getOpen, Policy.rational]; norm_num)
  simp only [Iv.closed, Iv.mem, lowerOk, upperOk, getOpen, Policy.rational, Bool.and_false,
    lowerOkV_fin_closed, upperOkV_fin_closed, not_and, not_le] at h1 h1'
  have := h1' h1.1
  linarith

/-! ## wrapping (defect 12) -/

/-- `[0,256]` wrapped to unsigned 8 bits inside the quadrant `[0,255]` is computed as `{0}` by the
code as written: `5 ∈ [0,256]` wraps to `5 ∈ [0,255]`, which is lost. -/
theorem wrap_encloses_fails :
    ¬ (∀ (I ref : Iv) (a : Int), I.mem Policy.rational (a : Rat) →
        ref.mem Policy.rational (umod2exp (a : Rat) 8) →
        (wrapAssign true Policy.rational Rounding.id I 8 .unsigned ref).mem Policy.rational (umod2exp (a : Rat) 8)) := by
  intro h
  have hv : wrapAssign true Policy.rational Rounding.id ⟨⟨fin 0, false⟩, ⟨fin 256, false⟩⟩ 8 .unsigned
      ⟨⟨fin 0, false⟩, ⟨fin 255, false⟩⟩ = ⟨⟨fin 0, false⟩, ⟨fin 0, false⟩⟩ := by decide +kernel
  have hm : umod2exp ((5 : Int) : Rat) 8 = 5 := by decide +kernel
  have := h ⟨⟨fin 0, false⟩, ⟨fin 256, false⟩⟩ ⟨⟨fin 0, false⟩, ⟨fin 255, false⟩⟩ 5
    (by simp [Iv.mem, lowerOk, upperOk, getOpen, Policy.rational] <;> norm_num)
    (by rw [hm]; simp [Iv.mem, lowerOk, upperOk, getOpen, Policy.rational] <;> norm_num)
  rw [hv, hm] at this
  simp [Iv.mem, lowerOk, upperOk, getOpen, Policy.rational] at this
  norm_num at this

/-- with the test repaired (`u ≥ lower`) the same input gives the whole quadrant -/
example : wrapAssign false Policy.rational Rounding.id ⟨⟨fin 0, false⟩, ⟨fin 256, false⟩⟩ 8 .unsigned
    ⟨⟨fin 0, false⟩, ⟨fin 255, false⟩⟩ = ⟨⟨fin 0, false⟩, ⟨fin 255, false⟩⟩ := by decide +kernel

/-- The code as written, exact rounding, every policy, both representations: if the width of the
interval is not exactly `2^w`, the residue of every (rational) member that lies in the refinement
is in the result.  (`_partial`: the missing case is exactly width `= 2^w`, where
`wrap_encloses_fails` shows the clause is false; with the test repaired (`d12 = false`) the
side condition is not needed: `wrap_encloses_repaired`.) -/
theorem wrap_encloses_partial (pol : Policy) (I ref : Iv) (w : Nat) (r : Repn) (a : Rat)
    (hne : ∀ l h, I.lo.value = fin l → I.hi.value = fin h → h - l ≠ (2 : Rat) ^ w)
    (ha : I.mem pol a) (hr : ref.mem pol (wrapVal r w a)) :
    (wrapAssign true pol Rounding.id I w r ref).mem pol (wrapVal r w a) :=
  wrapAssign_encloses_asWritten hne ha hr

theorem wrap_encloses_repaired (pol : Policy) (I ref : Iv) (w : Nat) (r : Repn) (a : Rat)
    (ha : I.mem pol a) (hr : ref.mem pol (wrapVal r w a)) :
    (wrapAssign false pol Rounding.id I w r ref).mem pol (wrapVal r w a) :=
  wrapAssign_encloses ha hr

/-- non-vacuity: `[250,260]` wrapped to unsigned 8 bits is `[0,4] ∪ [250,255]`, hull `[0,255]` -/
example : wrapAssign true Policy.rational Rounding.id ⟨⟨fin 250, false⟩, ⟨fin 260, false⟩⟩ 8 .unsigned
    ⟨⟨fin 0, false⟩, ⟨fin 255, false⟩⟩ = ⟨⟨fin 0, false⟩, ⟨fin 255, false⟩⟩ := by decide +kernel

end C12

import PPLV.Props.C06Tab
import PPLV.Solver.BBSound

/-!
# the LP machinery model discharges the oracle hypothesis of the branch-and-bound part

`lp_fresh_implies_LPCorrect`: for a problem never solved before, what the modelled `is_lp_satisfiable()` /
`second_phase()` leave behind satisfies `PPLV.Solver.BB.LPCorrect` for the node with the same rows, objective and
mode (the clauses of `BB.OracleOK`), whatever the pricing rule, provided the calls terminate.
-/
namespace C06
open PPLV.Lin PPLV.Solver PPLV.Solver.Tab PPLV.Solver.Pend

/-- the branch-and-bound node with the data of an LP state -/
def modelNode (s : LPState) : BB.Node :=
  { n := s.external_space_dim, rows := s.input_cs.map fun c => ⟨c.coeffs, c.k, c.isEq⟩, ivars := [],
    obj := s.obj, maximize := s.maximize }

theorem modelNode_toProblem (s : LPState) : (modelNode s).toProblem = s.problem := by
  unfold modelNode BB.Node.toProblem LPState.problem
  simp only [Problem.mk.injEq, and_true, true_and]
  rw [List.flatMap_map]
  rfl

theorem lp_fresh_implies_LPCorrect (fc : Chooser) (hfc : ChooserOK fc) (f1 f2 : Nat) (s s1 : LPState) (r : Bool)
    (hU : Untouched s) (hlg : s.last_generator = ⟨[], 1⟩) (hn : 0 < s.external_space_dim)
    (hl : ∀ c ∈ s.input_cs, c.coeffs.length ≤ s.external_space_dim)
    (hobj : s.obj.coeffs.length ≤ s.external_space_dim)
    (h1 : isLpSatisfiable fc f1 s = some (s1, r)) :
    (r = false → BB.LPCorrect (modelNode s) .unfeasible) ∧
    (r = true → ∀ s2, secondPhase fc f2 s1 = some s2 →
      (s2.status = .OPTIMIZED ∨ s2.status = .UNBOUNDED) ∧
      (s2.status = .OPTIMIZED → BB.LPCorrect (modelNode s) (.optimized s2.last_generator)) ∧
      (s2.status = .UNBOUNDED → BB.LPCorrect (modelNode s) (.unbounded s2.last_generator))) := by
  obtain ⟨a, b⟩ := lp_fresh_correct fc hfc f1 f2 s s1 r hU hlg hn hl hobj h1
  refine ⟨fun hr => ?_, fun hr s2 h2 => ?_⟩
  · show ∀ x, ¬ Sat (modelNode s).toProblem.cs x
    rw [modelNode_toProblem]; exact a hr
  · obtain ⟨-, b2⟩ := b hr
    obtain ⟨w1, w2, w3, w4, w5⟩ := b2 s2 h2
    refine ⟨w1, fun hopt => ?_, fun hunb => ?_⟩
    · show 0 < s2.last_generator.den ∧ Sat (modelNode s).toProblem.cs s2.last_generator.val ∧
        ∀ x, Sat (modelNode s).toProblem.cs x →
          ¬ Better (modelNode s).toProblem ((modelNode s).toProblem.objVal x) (BB.objAt (modelNode s) s2.last_generator)
      unfold BB.objAt
      rw [modelNode_toProblem]
      exact ⟨w2, w3, w4 hopt⟩
    · show 0 < s2.last_generator.den ∧ Sat (modelNode s).toProblem.cs s2.last_generator.val ∧
        BB.LPUnb (modelNode s).toProblem
      unfold BB.LPUnb
      rw [modelNode_toProblem]
      exact ⟨w2, w3, w5 hunb⟩

example : (modelNode exNew).toProblem = exNew.problem := modelNode_toProblem exNew

end C06

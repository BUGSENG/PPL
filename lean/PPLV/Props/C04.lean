import PPLV.WR.Proofs
import PPLV.Lin.QueryCong

/-!
# C04 — over the rationals, boxes / BD shapes / octagons are exact and best where documented

What the native driver `pplv_wr --mode c04` computes when it judges the real library, and why its
verdicts are the set-level statements of the property:

* a `Box`, `BD_Shape<mpq_class>`, `Octagonal_Shape<mpq_class>` is read from `constraints()` as a
  constraint system `R`; its concretisation is K1's `sem R`;
* "the result is the exact set `E`" is judged by `equivB` (`exact_iff`: sound and complete);
* "the result is the smallest element of the domain containing the exact result" is judged by
  `equivB R (bestU K n pieces)`, where `pieces` are the convex pieces of the exact result (one piece
  for constructors, the two arguments for the upper bound, `A ∧ ¬b` for the difference, the renamings
  for fold).  `best_least` / `bestU_least` say that this system is a shape of the domain, contains every
  piece, and is contained in every shape of the domain that contains every piece — for all inputs;
* the Boolean of `upper_bound_assign_if_exact` is judged by `unionInDomain` (`ub_if_exact_spec`).

`KindRow K n c` (in `PPLV/WR/Proofs.lean`): the coefficient vector of `c` is a positive multiple of a
template direction of `K` (`±x_i`; `x_i − x_j`; `±(x_i + x_j)`) or zero, and `c` is non-strict unless
`K = box`.  `OfKind K n Q`: every row of `Q` is one.
-/
namespace C04
open PPLV.Lin PPLV.WR

/-- **Best abstraction of one convex set.**  `best K n P` is an element of the domain, contains
    `sem P`, and every element of the domain containing `sem P` contains it. -/
theorem best_least (K : ShapeKind) (n : Nat) (P : List Con) (hP : WF n P) :
    OfKind K n (best K n P) ∧ sem P ⊆ sem (best K n P) ∧
    ∀ Q, OfKind K n Q → sem P ⊆ sem Q → sem (best K n P) ⊆ sem Q := by
  have hwf : ∀ P' ∈ [P], WF n P' := by
    intro P' h; rw [List.mem_singleton] at h; subst h; exact hP
  have hU : semU [P] = sem P := by rw [semU_cons, semU_nil, Set.union_empty]
  refine ⟨bestU_ofKind K n [P] hwf, ?_, fun Q hQ hsub => ?_⟩
  · have := bestU_sound K n [P] hwf
    rwa [hU] at this
  · exact bestU_least K n [P] hwf Q hQ (by rw [hU]; exact hsub)

-- the triangle x ≥ 0, y ≥ 0, x + y ≤ 4: its best BD shape adds −4 ≤ x − y ≤ 4, and the open half-plane
-- x + y > 0 cut by x ≤ 1, y ≤ 1 has the best box (−1, 1] × (−1, 1]
example : best .bds 2 [geRow [1, 1] 0, geRow [1, 0] 0, geRow [-1, -1] 4, geRow [0, 1] 0]
    = [geRow [1, 0] 0, geRow [-1, 0] 4, geRow [0, 1] 0, geRow [0, -1] 4, geRow [1, -1] 4, geRow [-1, 1] 4] := by
  decide +kernel
example : best .box 2 [gtRow [1, 1] 0, geRow [-1, 0] 1, geRow [0, -1] 1]
    = [gtRow [1, 0] 1, geRow [-1, 0] 1, gtRow [0, 1] 1, geRow [0, -1] 1] := by
  decide +kernel

/-- **Best abstraction of a union of convex pieces** (upper bound, difference, fold). -/
theorem bestU_least (K : ShapeKind) (n : Nat) (Ps : List (List Con)) (hP : ∀ P ∈ Ps, WF n P) :
    OfKind K n (bestU K n Ps) ∧ (∀ P ∈ Ps, sem P ⊆ sem (bestU K n Ps)) ∧
    ∀ Q, OfKind K n Q → (∀ P ∈ Ps, sem P ⊆ sem Q) → sem (bestU K n Ps) ⊆ sem Q := by
  refine ⟨bestU_ofKind K n Ps hP, fun P hPm x hx => bestU_sound K n Ps hP ⟨P, hPm, hx⟩, fun Q hQ hsub => ?_⟩
  exact PPLV.WR.bestU_least K n Ps hP Q hQ (fun x ⟨P, hPm, hx⟩ => hsub P hPm hx)

-- the octagonal hull of two unit squares on the diagonal
example : bestU .oct 2 [[geRow [1,0] 0, geRow [-1,0] 1, geRow [0,1] 0, geRow [0,-1] 1],
                        [geRow [1,0] (-2), geRow [-1,0] 3, geRow [0,1] (-2), geRow [0,-1] 3]]
    = [geRow [1, 0] 0, geRow [-1, 0] 3, geRow [0, 1] 0, geRow [0, -1] 3, geRow [1, -1] 1, geRow [-1, 1] 1,
       geRow [1, 1] 0, geRow [-1, -1] 6] := by
  decide +kernel

/-- The pieces used for `difference_assign` denote the set difference. -/
theorem difference_pieces (A B : List Con) : semU (diffPieces A B) = sem A \ sem B := diffPieces_sem A B

/-- **Exactness judge** (`equivB_iff` of K1 restated): the result `R` of an exact operator is accepted
    iff it denotes the exact set `E`. -/
theorem exact_iff (n : Nat) (R E : List Con) (hR : WF n R) (hE : WF n E) :
    equivB n R E = true ↔ sem R = sem E := equivB_iff n R E hR hE

example : equivB 2 [geRow [1, -1] 0, geRow [-1, 1] 0, geRow [1, 0] (-1)] [geRow [0, 1] (-1), geRow [2, -2] 0, geRow [-3, 3] 0] = true := by
  refine (exact_iff 2 _ _ ((wfB_iff 2 _).1 rfl) ((wfB_iff 2 _).1 rfl)).2 (Set.ext fun x => ?_)
  simp only [mem_sem_cons, mem_sem_nil, sat_geRow, dot, and_true]
  norm_num
  constructor <;> rintro ⟨a, b, c⟩ <;> refine ⟨?_, ?_, ?_⟩ <;> linarith

/-- **`upper_bound_assign_if_exact`**: the judge answers `true` exactly when the set union is the
    point set of an element of the domain. -/
theorem ub_if_exact_spec (K : ShapeKind) (n : Nat) (A B : List Con) (hA : WF n A) (hB : WF n B) :
    unionInDomain K n A B = true ↔ ∃ Q, OfKind K n Q ∧ sem Q = sem A ∪ sem B :=
  unionInDomain_iff K n A B hA hB

/-- … and then the expected result `bestU K n [A, B]` is that union. -/
theorem ub_if_exact_result (K : ShapeKind) (n : Nat) (A B : List Con) (hA : WF n A) (hB : WF n B)
    (h : unionInDomain K n A B = true) : sem (bestU K n [A, B]) = sem A ∪ sem B :=
  unionInDomain_best K n A B hA hB h

-- [0,1] ∪ [1,2] is an interval, [0,1] ∪ [2,3] is not
example : unionInDomain .box 1 [geRow [1] 0, geRow [-1] 1] [geRow [1] (-1), geRow [-1] 2] = true := by
  refine (ub_if_exact_spec .box 1 _ _ ((wfB_iff 1 _).1 rfl) ((wfB_iff 1 _).1 rfl)).2
    ⟨[geRow [1] 0, geRow [-1] 2], ?_, Set.ext fun x => ?_⟩
  · intro c hc
    refine ⟨Or.inr ?_, fun h => (h rfl).elim⟩
    rcases List.mem_cons.1 hc with rfl | hc
    · exact ⟨[1], by decide, 1, by decide, rfl⟩
    · rw [List.mem_singleton] at hc
      subst hc
      exact ⟨[-1], by decide, 1, by decide, rfl⟩
  · simp only [Set.mem_union, mem_sem_cons, mem_sem_nil, sat_geRow, dot, and_true]
    norm_num
    constructor
    · rintro ⟨a, b⟩
      rcases le_total (x 0) 1 with h | h
      · exact Or.inl ⟨a, h⟩
      · exact Or.inr ⟨h, b⟩
    · rintro (⟨a, b⟩ | ⟨a, b⟩) <;> constructor <;> linarith
example : unionInDomain .box 1 [geRow [1] 0, geRow [-1] 1] [geRow [1] (-2), geRow [-1] 3] = false := by
  refine Bool.eq_false_iff.2 fun h => ?_
  obtain ⟨Q, -, hQ⟩ := (ub_if_exact_spec .box 1 _ _ ((wfB_iff 1 _).1 rfl) ((wfB_iff 1 _).1 rfl)).1 h
  have key : ∀ x : Val, x ∈ sem Q ↔ (0 ≤ x 0 ∧ x 0 ≤ 1) ∨ (2 ≤ x 0 ∧ x 0 ≤ 3) := by
    intro x
    rw [hQ]
    simp only [Set.mem_union, mem_sem_cons, mem_sem_nil, sat_geRow, dot, and_true]
    norm_num
  -- `1` and `2` belong to the union, their midpoint does not, and `sem Q` is convex
  have h1 : (fun _ => 1 : Val) ∈ sem Q := (key _).2 (by norm_num)
  have h2 : (fun _ => 2 : Val) ∈ sem Q := (key _).2 (by norm_num)
  have := (key _).1 (sem_convex Q _ _ h1 h2 (1/2) (by norm_num) (by norm_num))
  norm_num at this

/-- Predicates are judged by K1's deciders, which are sound and complete (both polarities):
    emptiness, containment, disjointness, equality. -/
theorem predicates_exact (n : Nat) (A B : List Con) (hA : WF n A) (hB : WF n B) :
    (isEmptyB n A = true ↔ sem A = ∅) ∧ (subsetB n B A = true ↔ sem B ⊆ sem A) ∧
    (disjointB n A B = true ↔ sem A ∩ sem B = ∅) ∧ (equivB n A B = true ↔ sem A = sem B) :=
  ⟨isEmptyB_iff n A hA, subsetB_iff n B A hB hA, disjointB_iff n A B hA hB, equivB_iff n A B hA hB⟩

-- the alternating cycle x ≤ y ≤ z ≤ 0 ≤ x − 1 split between two BD shapes: disjoint
example : disjointB 3 [geRow [-1, 1, 0] 0, geRow [0, 0, -1] 0] [geRow [0, -1, 1] 0, geRow [1, 0, 0] (-1)] = true := by
  refine ((predicates_exact 3 _ _ ((wfB_iff 3 _).1 rfl) ((wfB_iff 3 _).1 rfl)).2.2.1).2
    (Set.eq_empty_of_forall_notMem fun x ⟨h1, h2⟩ => ?_)
  simp only [mem_sem_cons, mem_sem_nil, sat_geRow, dot, and_true] at h1 h2
  norm_num at h1 h2
  linarith

/-- Bounds and optima are judged by K1's `supB` (`supB_spec`): empty / unbounded / the exact value with
    its attained flag. -/
theorem optimum_exact (n : Nat) (e : List Int) (k : Int) (A : List Con) (hA : WF n A) (he : e.length ≤ n) :
    match supB n e k A with
    | .empty => sem A = ∅
    | .unbounded => (∃ x, x ∈ sem A) ∧ ∀ M : Rat, ∃ x ∈ sem A, M < dot e x + k
    | .val p q att => 0 < q ∧ (∀ x ∈ sem A, dot e x + k ≤ (p:Rat)/q) ∧
        (att = true → ∃ x ∈ sem A, dot e x + k = (p:Rat)/q) ∧
        (att = false → (∀ x ∈ sem A, dot e x + k < (p:Rat)/q) ∧
          ∀ ε : Rat, 0 < ε → ∃ x ∈ sem A, (p:Rat)/q - ε < dot e x + k) :=
  supB_spec n e k A hA he

end C04

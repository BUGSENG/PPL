import PPLV.COTree.ProofsBisect
import PPLV.COTree.ProofsLC
import PPLV.COTree.ProofsDensity

/-!
# C16 — sparse and dense rows are interchangeable; the sparse tree is a correct map

Models: `PPLV/COTree/Model.lean` (`SMap`, `HoleArray`, `bisectIn`, `bisectNear`, density
arithmetic, `RowOp`/`RowQuery` with a sparse and a dense implementation).
Everything here is for rows / arrays / histories of any size (induction, no bound).
-/
namespace C16
open PPLV.COTree PPLV.COTree.SMap

/-! ## the sparse row is an ordered map, unstored entries read `0` -/

/-- **Map laws.**  On a map with strictly increasing keys: reading after `insert`, `reset`,
`insert(i)` (a stored zero), both index shifts, `swap_coefficients`, `reset_after`, range reset;
which entries are stored; what `lower_bound` returns; all of them keep the keys increasing. -/
theorem smap_laws (m : SMap) (hs : m.Sorted) :
    (∀ i v j, (m.set i v).get j = if j = i then v else m.get j) ∧
    (∀ i v, (m.set i v).find? i = some v) ∧
    (∀ i j, (m.erase i).get j = if j = i then 0 else m.get j) ∧
    (∀ i, (m.erase i).find? i = none) ∧
    (∀ i j, (m.touch i).get j = m.get j) ∧ (∀ i, (m.touch i).stored i = true) ∧
    (∀ i n j, (m.shiftUp i n).get j
        = if j < i then m.get j else if j < i + n then 0 else m.get (j - n)) ∧
    (∀ i j, (m.deleteShift i).get j = if j < i then m.get j else m.get (j + 1)) ∧
    (∀ i j k, (m.swap i j).get k = if k = i then m.get j else if k = j then m.get i else m.get k) ∧
    (∀ i j, (m.resetFrom i).get j = if j < i then m.get j else 0) ∧
    (∀ lo hi j, (m.resetRange lo hi).get j = if lo ≤ j ∧ j < hi then 0 else m.get j) ∧
    (∀ i n j, (m.addAt i n).get j = if j = i then m.get i + n else m.get j) ∧
    (∀ k v, (k, v) ∈ m → m.get k = v) ∧
    (∀ i, m.get i ≠ 0 → (i, m.get i) ∈ m) ∧
    (∀ i, match m.lowerBound i with
          | none => ∀ p ∈ m, p.1 < i
          | some k => i ≤ k ∧ (∃ v, (k, v) ∈ m) ∧ ∀ p ∈ m, i ≤ p.1 → k ≤ p.1) ∧
    (∀ i v, (m.set i v).Sorted) ∧ (∀ i, (m.erase i).Sorted) ∧ (∀ i, (m.touch i).Sorted) ∧
    (∀ i n, (m.shiftUp i n).Sorted) ∧ (∀ i, (m.deleteShift i).Sorted) ∧
    (∀ i j, (m.swap i j).Sorted) ∧ (∀ i, (m.resetFrom i).Sorted) ∧
    (∀ lo hi, (m.resetRange lo hi).Sorted) ∧ (∀ i n, (m.addAt i n).Sorted) :=
  ⟨get_set m, find?_set_self m, get_erase m, find?_erase_self m, get_touch m, stored_touch m,
   get_shiftUp m, get_deleteShift m, get_swap m, get_resetFrom m, get_resetRange m, get_addAt m,
   fun _ _ h => hs.get_of_mem h, mem_of_get_ne_zero m, fun i => lowerBound_spec m i hs,
   fun i v => sorted_set m i v hs, fun _ => hs.filter _, fun i => sorted_touch m i hs,
   fun i n => sorted_shiftUp m i n hs, fun i => sorted_deleteShift m i hs,
   fun i j => sorted_swap m i j hs, fun _ => hs.filter _, fun _ _ => hs.filter _,
   fun i n => sorted_addAt m i n hs⟩

example : SMap.Sorted [(1, 5), (4, -2), (9, 0)] := (sortedB_iff _).mp (by decide)
example : (SMap.deleteShift [(1, 5), (4, -2), (9, 0)] 4) = [(1, 5), (8, 0)] := by decide
example : (SMap.swap [(1, 5), (4, -2), (9, 0)] 1 2).get 2 = 5 := by decide

/-! ## `bisect_in`, `bisect_near` -/

/-- **`CO_Tree::bisect_in(first, last, key)`** on any `indexes[]` array whose used keys strictly
increase, for any two used positions `first ≤ last`: the loop terminates (the model's fuel
`last + 1 - first` suffices) and the result is a used position of `[first, last]` holding `key`,
or — when `key` is not in the range — its nearest smaller or nearest larger neighbour there. -/
theorem bisect_in_spec (a : HoleArray) (h : a.SortedUsed) (first last : Nat)
    (hf : a.used first) (hl : a.used last) (hle : first ≤ last) (key : Nat) :
    let p := a.bisectIn first last key
    a.used p ∧ first ≤ p ∧ p ≤ last ∧ (a.hasIn first last key → a.key p = key) ∧
      (¬ a.hasIn first last key → a.adjacentIn first last p key) :=
  HoleArray.bisectIn_spec a h hf hl hle key

/-- **`CO_Tree::bisect_near(hint, key)`**, any valid hint (stale or not). -/
theorem bisect_near_spec (a : HoleArray) (h : a.SortedUsed) (hint : Nat) (hv : a.used hint)
    (key : Nat) :
    let p := a.bisectNear hint key
    a.used p ∧ (a.has key → a.key p = key) ∧ (¬ a.has key → a.adjacent p key) :=
  HoleArray.bisectNear_spec a h hv key

/-- **`CO_Tree::bisect(key)`** on a non-empty tree. -/
theorem bisect_spec (a : HoleArray) (h : a.SortedUsed) (hne : ∃ p, a.used p) (key : Nat) :
    let p := a.bisect key
    a.used p ∧ (a.has key → a.key p = key) ∧ (¬ a.has key → a.adjacent p key) :=
  HoleArray.bisect_spec a h hne key

/-- indexes `_ 3 _ 8 9 _ _`: keys 3, 8, 9 at positions 2, 4, 5 -/
def exArr : HoleArray := ⟨#[none, some 3, none, some 8, some 9, none, none]⟩
example : exArr.bisectNear 2 9 = 5 := by decide
example : exArr.bisectNear 5 4 = 4 := by decide       -- 4 is absent: neighbour 8
example : exArr.bisectNear 2 10 = 5 := by decide      -- 10 is absent: neighbour 9
example : exArr.bisectIn 2 5 8 = 4 := by decide
example : exArr.usedB 2 = true ∧ exArr.usedB 5 = true ∧ exArr.usedB 3 = false := by decide

/-! ## density thresholds -/

/-- **Rebuild thresholds.**
(1) after `rebuild_bigger_tree()` the insertion precondition
    `!is_greater_than_ratio(size_+1, reserved_size, max_density_percent)` holds;
(2) an insertion of a new key keeps the density clauses of `OK()`;
(3) `erase` never asks `rebuild_smaller_tree()` for a 3-slot tree (its `reserved_size > 3`);
(4) an erasure — with or without `rebuild_smaller_tree()` — keeps the density clauses of `OK()`;
(5) the bulk constructor's tree has room for its `n` elements and satisfies them too. -/
theorem density_ok :
    (∀ size rs, 1 ≤ rs → size ≤ rs → insertRebuilds size (biggerRs rs) = false) ∧
    (∀ size rs, size ≤ rs → (size = 0 → rs = 0) → densityOK size rs = true →
        densityOK (afterInsert size rs).1 (afterInsert size rs).2 = true) ∧
    (∀ size, 2 ≤ size → eraseRebuilds size 3 = false) ∧
    (∀ size rs, 1 ≤ size → densityOK size rs = true →
        densityOK (afterErase size rs).1 (afterErase size rs).2 = true) ∧
    (∀ n, densityOK n (bulkRs n) = true ∧ n ≤ bulkRs n) :=
  ⟨bigger_ok, insert_density_ok, erase_shrink_pre, erase_density_ok, bulk_density_ok⟩

example : afterInsert 6 7 = (7, 15) := by decide
example : afterErase 3 7 = (2, 3) := by decide
example : densityOK 3 15 = false := by decide

/-! ## dense ≡ sparse -/

/-- every modelled row operation keeps the invariant of a sparse row -/
theorem rowop_wf (f : RowOp) (r : SRow) (hr : r.WF) (hp : f.pre r) : (f.sparse r).WF := by
  obtain ⟨hs, hb⟩ := hr
  cases f with
  | set i v => exact ⟨sorted_set _ _ _ hs, below_set _ hb hp⟩
  | touch i => exact ⟨sorted_touch _ _ hs, below_touch hb hp⟩
  | reset i => exact ⟨hs.filter _, hb.filter _⟩
  | resetRange lo hi => exact ⟨hs.filter _, hb.filter _⟩
  | resetFrom i => exact ⟨hs.filter _, hb.filter _⟩
  | swap i j => exact ⟨sorted_swap _ _ _ hs, below_swap hb hp.1 hp.2⟩
  | shiftUp n i => exact ⟨sorted_shiftUp _ _ _ hs, below_shiftUp _ _ hb⟩
  | deleteShift i => exact ⟨sorted_deleteShift _ _ hs, below_deleteShift _ hb hp⟩
  | resize n =>
    show SMap.Sorted (if n < r.size then r.m.resetFrom n else r.m) ∧
      SMap.Below (if n < r.size then r.m.resetFrom n else r.m) n
    split
    · exact ⟨hs.filter _, below_resetFrom _ _⟩
    · exact ⟨hs, hb.mono (by omega)⟩
  | addAt i n => exact ⟨sorted_addAt _ _ _ hs, below_addAt _ hb hp⟩
  | scaleIn c s e =>
    show SMap.Sorted (if c = 0 then r.m.resetRange s e else r.m.mapValsIn (c * ·) s e) ∧
      SMap.Below (if c = 0 then r.m.resetRange s e else r.m.mapValsIn (c * ·) s e) r.size
    split
    · exact ⟨hs.filter _, hb.filter _⟩
    · exact ⟨sorted_mapValsIn _ _ _ hs, below_mapValsIn _ _ _ hb⟩
  | negateIn s e => exact ⟨sorted_mapValsIn _ _ _ hs, below_mapValsIn _ _ _ hb⟩
  | linearCombine y c1 c2 s e =>
    exact ⟨sorted_linearCombine hs hp.1.1 c1 c2 hp.2.1, below_linearCombine hb c1 c2 hp.2.2.1⟩
  | normalize => exact ⟨sorted_normalize hs, below_normalize hb⟩
  | permute c => exact ⟨sorted_permute hs c, below_permute hb c hp⟩

/- About the hypotheses of the next theorems: `hr : r.WF` is the representation invariant of the
   type (Appendix B writes `SMap` for "sorted association list"; here the order and the bound
   `keys < size` are a predicate on plain lists so that the driver can run the same functions on
   journal data); `hp : f.pre r` is the side condition that the C++ function asserts
   (`i < size()`, `start <= end <= size()`, …).  Neither restricts sizes or values. -/

/-- **Dense ≡ sparse, row transformers.**  For every modelled operation (`insert`, `reset`,
range reset, `reset_after`, `swap_coefficients`, both index shifts, `resize`, `add_mul_assign`,
`mul_assign`/`negate` on a sub-range, `linear_combine` on a sub-range, `normalize`, permutation
cycles): running the sparse algorithm and reading the result densely is running the dense
algorithm on the dense reading. -/
theorem dense_sparse_equiv (f : RowOp) (r : SRow) (hr : r.WF) (hp : f.pre r) :
    toDense (f.sparse r) = f.dense (toDense r) := by
  obtain ⟨hs, hb⟩ := hr
  cases f with
  | set i v => exact dense_set _ _ _ _
  | touch i => exact dense_touch _ _ _
  | reset i => exact dense_erase _ _ _
  | resetRange lo hi => exact dense_resetRange _ _ _ _
  | resetFrom i => exact dense_resetFrom _ _ _
  | swap i j => exact dense_swap hb i j hp.1 hp.2
  | shiftUp n i => exact dense_shiftUp i n hp
  | deleteShift i => exact dense_deleteShift i hp
  | resize n => exact dense_resize hb n
  | addAt i n => exact dense_addAt hb i n
  | scaleIn c s e =>
    show toDenseN r.size (if c = 0 then r.m.resetRange s e else r.m.mapValsIn (c * ·) s e) =
      Dense.mapIn (c * ·) s e (toDenseN r.size r.m)
    split
    · rename_i hc
      subst hc
      rw [dense_resetRange]
      simp [Dense.resetRange, Dense.mapIn]
    · exact dense_mapValsIn _ (by simp) _ _ _ _
  | negateIn s e => exact dense_mapValsIn _ (by simp) _ _ _ _
  | linearCombine y c1 c2 s e => exact dense_linearCombine hs hp.1.1 hp.1.2 c1 c2 hp.2.1
  | normalize => exact dense_normalize hs hb
  | permute c => exact dense_permute hb c hp

/-- **Dense ≡ sparse, observations**: `get`, scalar product on a sub-range, equality on a
sub-range (plain and scaled), `compare`, gcd on a sub-range. -/
theorem dense_sparse_query (q : RowQuery) (r : SRow) (hr : r.WF) (hp : q.pre r) :
    q.sparse r = q.dense (toDense r) := by
  obtain ⟨hs, hb⟩ := hr
  cases q with
  | get i => exact (getD_toDenseN_of_below hb i).symm
  | dot y s e =>
    show r.m.dot y.m s e = Dense.dot (toDenseN r.size r.m) (toDenseN y.size y.m) s e
    exact dense_dot hs hp.1.1 s e hp.2.1 hp.2.2
  | eqIn y s e =>
    show (if r.m.eqIn y.m s e then (1 : Int) else 0) = _
    rw [dense_eqIn hs hp.1.1 s e hp.2.1 hp.2.2]; rfl
  | eqScaledIn y c1 c2 s e =>
    show (if r.m.eqScaledIn y.m c1 c2 s e then (1 : Int) else 0) = _
    rw [dense_eqScaledIn hs hp.1.1 c1 c2 s e hp.2.1 hp.2.2]; rfl
  | compare y => exact dense_compare hs hp.1 hb hp.2
  | gcdIn s e =>
    show ((gcdFwd (r.m.restrict s e).vals : Nat) : Int) = _
    rw [dense_gcdIn hs s e hp]; rfl

/-- converting a dense row to a sparse one and back is the identity -/
theorem ofDense_toDense (d : List Int) : toDense (ofDense d) = d ∧ (ofDense d).WF := by
  have key : ∀ (d : List Int) (k : Nat),
      SMap.Sorted (ofDenseFrom k d) ∧ (∀ p ∈ ofDenseFrom k d, k ≤ p.1 ∧ p.1 < k + d.length) ∧
      ∀ j, (ofDenseFrom k d).get (k + j) = d.getD j 0 := by
    intro d
    induction d with
    | nil => intro k; simp [ofDenseFrom, sorted_nil]
    | cons a t ih =>
      intro k
      obtain ⟨h1, h2, h3⟩ := ih (k + 1)
      have h3' : ∀ j, (ofDenseFrom (k + 1) t).get (k + (j + 1)) = t.getD j 0 := by
        intro j; have := h3 j; rwa [show k + 1 + j = k + (j + 1) by omega] at this
      have hk0 : (ofDenseFrom (k + 1) t).get k = 0 :=
        get_eq_zero_of_not_mem _ _ (fun p hp => by have := (h2 p hp).1; omega)
      unfold ofDenseFrom
      by_cases ha : a = 0
      · simp only [ha, if_true]
        refine ⟨h1, fun p hp => ?_, fun j => ?_⟩
        · have := h2 p hp; simp only [List.length_cons]; omega
        · cases j with
          | zero => simpa using hk0
          | succ j => simpa using h3' j
      · simp only [ha, if_false]
        refine ⟨sorted_cons.mpr ⟨fun q hq => ?_, h1⟩, fun p hp => ?_, fun j => ?_⟩
        · have := (h2 q hq).1; show k < q.1; omega
        · simp only [List.length_cons]
          rcases List.mem_cons.mp hp with rfl | hp
          · simp
          · have := h2 p hp; omega
        · cases j with
          | zero => simp
          | succ j =>
            have : ¬ k = k + (j + 1) := by omega
            simpa [get_cons, this] using h3' j
  obtain ⟨h1, h2, h3⟩ := key d 0
  refine ⟨?_, h1, fun p hp => by have := (h2 p hp).2; rw [Nat.zero_add] at this; exact this⟩
  symm
  apply eq_toDenseN
  intro j
  have := h3 j
  rw [Nat.zero_add] at this
  show d[j]? = if j < d.length then some ((ofDenseFrom 0 d).get j) else none
  rw [this]
  by_cases hj : j < d.length
  · simp [hj, List.getD_eq_getElem?_getD]
  · simp [hj]

/-- size 6, entries 1 ↦ 4, 3 ↦ -6, 4 ↦ 0 (a stored zero) -/
def exRow : SRow := ⟨6, [(1, 4), (3, -6), (4, 0)]⟩
example : exRow.WF := ⟨(sortedB_iff _).mp (by decide), (belowB_iff _ _).mp (by decide)⟩
example : toDense exRow = [0, 4, 0, -6, 0, 0] := by decide
example : toDense ((RowOp.deleteShift 1).sparse exRow) = [0, 0, -6, 0, 0] := by decide
example : toDense (RowOp.normalize.sparse exRow) = [0, 2, 0, -3, 0, 0] := by decide
example : (RowQuery.gcdIn 0 6).dense (toDense exRow) = 2 := by decide
example : (RowQuery.compare ⟨6, [(3, -6)]⟩).sparse exRow = 2 := by simp [RowQuery.sparse, SMap.compare, exRow, SMap.zipWalk, SMap.cmpStep]

end C16

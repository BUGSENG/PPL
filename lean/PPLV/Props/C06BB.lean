import PPLV.Props.C06
import PPLV.Solver.BBSat
import PPLV.Solver.BBTerm

/-!
# the branch-and-bound recursion of `MIP_Problem` returns the true status / optimum

Model: `PPLV/Solver/BB.lean` (`solveMip` = `MIP_Problem::solve_mip`, `solveTop` = the MIP case of
`solve()`, `chooseBranchingVariable`, `isMipSatisfiable`), with the LP machinery as an oracle.
The hypothesis on the oracle, `OracleOK`, is the statement of `C06.lp_spec` for the data of the node,
together with the point `last_generator` (`oracle_hypothesis_is_lp_spec`); the reference LP solver
satisfies it (`ref_oracle_ok`), and the native driver checks it on every LP answer of the real code.

* `solve_mip_sound`            every answer of the modelled `solve()` (any fuel) is the true one;
* `solve_mip_node_sound`       the invariant of the recursion at an arbitrary node / incumbent;
* `solve_mip_oracle_independent` status and value do not depend on the LP vertex / pricing / incremental re-solve;
* `unbounded_rule_valid`       the rule by which the code says UNBOUNDED ("the relaxation of some node is
                               unbounded and some feasible integral point is known") is valid for
                               rational data — no extra condition has to be checked by the code;
* `branch_partition`           the `≤ ⌊q⌋` / `≥ ⌈q⌉` rows lose no integral point and share none;
* `incumbent_update_best`, `prune_never_loses_better_point`, `mpq_compare_exact`;
* `is_mip_satisfiable_sound`, `choose_branching_variable_spec`, `is_satisfiable_leaves_rows_harmless`;
* `solve_mip_terminates_partial` termination when the integer variables are boxed in the relaxation
                               (not provable in general: `2x − 2y = 1` branches for ever).
-/
namespace C06
open PPLV.Lin PPLV.Solver PPLV.Solver.BB

/-- the answer an LP result stands for -/
def lpResultAnswer (N : Node) : LPResult → Answer
  | .unfeasible => .unfeasible
  | .unbounded _ => .unbounded
  | .optimized p => .optimum (objAt N p)

/-- **The oracle hypothesis is `lp_spec`.**  For a well-formed node an LP result is correct
    (`LPCorrect`, the hypothesis of `solve_mip_sound`) iff it names the answer of the proved reference
    `lpAnswer` and its point (if any) is a point of the relaxation. -/
theorem oracle_hypothesis_is_lp_spec (N : Node) (hwf : N.toProblem.WF) (r : LPResult) :
    LPCorrect N r ↔
      lpAnswer N.toProblem = lpResultAnswer N r ∧
      (∀ p, (r = .unbounded p ∨ r = .optimized p) → 0 < p.den ∧ Sat N.toProblem.cs p.val) := by
  obtain ⟨h1, h2, h3⟩ := lp_spec N.toProblem hwf
  cases r with
  | unfeasible =>
    simp only [LPCorrect, lpResultAnswer, reduceCtorEq, or_self, false_imp_iff, implies_true, and_true]
    rw [h1, Set.eq_empty_iff_forall_notMem]; rfl
  | unbounded p =>
    simp only [LPCorrect, lpResultAnswer, LPResult.unbounded.injEq, reduceCtorEq, or_false, forall_eq']
    rw [h2]
    constructor
    · rintro ⟨a, b, c⟩
      exact ⟨⟨⟨p.val, b⟩, fun M => by obtain ⟨x, hx, hb⟩ := c M; exact ⟨x, hx, hb⟩⟩, a, b⟩
    · rintro ⟨⟨-, c⟩, a, b⟩
      exact ⟨a, b, fun M => by obtain ⟨x, hx, hb⟩ := c M; exact ⟨x, hx, hb⟩⟩
  | optimized p =>
    simp only [LPCorrect, lpResultAnswer, LPResult.optimized.injEq, reduceCtorEq, false_or, forall_eq']
    rw [h3]
    constructor
    · rintro ⟨a, b, c⟩
      exact ⟨⟨⟨p.val, b, rfl⟩, fun x hx => c x hx⟩, a, b⟩
    · rintro ⟨⟨-, c⟩, a, b⟩
      exact ⟨a, b, fun x hx => c x hx⟩

/-- **The proved LP reference is an admissible oracle.** -/
theorem ref_oracle_ok : OracleOK refOracle := by
  intro N r hwf h
  rw [oracle_hypothesis_is_lp_spec N hwf]
  unfold refOracle at h
  simp only at h
  cases ha : lpAnswer N.toProblem with
  | unfeasible =>
    rw [ha] at h; simp only at h
    injection h with h; subst h
    exact ⟨rfl, fun p hp => by rcases hp with hp | hp <;> cases hp⟩
  | unbounded =>
    rw [ha] at h; simp only at h
    rw [Option.map_eq_some_iff] at h
    obtain ⟨x, hx, rfl⟩ := h
    have hx2 := List.find?_some hx
    simp only [Bool.and_eq_true, decide_eq_true_eq] at hx2
    refine ⟨rfl, fun p hp => ?_⟩
    rcases hp with hp | hp
    · injection hp with hp; subst hp
      exact ⟨hx2.1, (checkFeasible_relaxed _ _).mp hx2.2⟩
    · cases hp
  | optimum v =>
    rw [ha] at h; simp only at h
    rw [Option.map_eq_some_iff] at h
    obtain ⟨x, hx, rfl⟩ := h
    have hx2 := List.find?_some hx
    simp only [Bool.and_eq_true, decide_eq_true_eq] at hx2
    refine ⟨?_, fun p hp => ?_⟩
    · simp only [lpResultAnswer, objAt]; rw [hx2.2]
    · rcases hp with hp | hp
      · cases hp
      · injection hp with hp; subst hp
        exact ⟨hx2.1.1, (checkFeasible_relaxed _ _).mp hx2.1.2⟩
  | unknownUnboundedIntVar => rw [ha] at h; simp at h

/-- **The invariant of `solve_mip`** at an arbitrary node `N` of the tree of a root problem `R`, entered
    with an incumbent that is a feasible integral point of `R` with the recorded value, for every fuel:
    UNBOUNDED ⇒ the point handed back is a feasible integral point of `R` and `R` is unbounded;
    otherwise the incumbent handed back is a feasible integral point of `R` with the recorded value, is
    at least as good as the one received, and **no feasible integral point of the node is strictly
    better** (so nothing was lost by pruning or branching); OPTIMIZED is only returned with an
    incumbent; UNFEASIBLE entered without incumbent leaves none. -/
theorem solve_mip_node_sound (lp : Oracle) (hO : OracleOK lp) (R : Problem) (hR : R.WF) (fuel : Nat)
    (inc : Inc) (N : Node) (st : Status) (inc' : Inc)
    (hwf : N.toProblem.WF) (hsub : Sub N R) (hinc : IncOK R inc)
    (h : solveMip lp fuel inc N = some (st, inc')) :
    (st = .unbounded → Feasible R inc'.pt.val ∧ IsUnbounded R) ∧
    (st ≠ .unbounded →
      IncOK R inc' ∧
      (inc.has = true → inc'.has = true ∧ ¬ Better R inc.val inc'.val) ∧
      (∀ x, Feasible N.toProblem x → inc'.has = true ∧ ¬ Better R (R.objVal x) inc'.val) ∧
      (st = .optimized → inc'.has = true) ∧
      (st = .unfeasible → inc.has = false → inc'.has = false)) := by
  have hp := solveMip_post lp hO R fuel inc N (st, inc') hwf hsub hinc h
  refine ⟨fun hst => ?_, hp.2⟩
  obtain ⟨-, hf, hu⟩ := hp.1 hst
  exact ⟨hf, unbounded_of_point_and_lpUnb R hR _ hf hu⟩

/-- **`solve()` with integer variables returns the true answer** (model `solveTop`, any fuel, any LP
    oracle that answers correctly):
    UNFEASIBLE ⇒ no point satisfies the rows with the designated variables integral;
    UNBOUNDED ⇒ such points exist with arbitrarily good objective value, and the stored point is one;
    OPTIMIZED `v` at `p` ⇒ `p` is feasible, integral on the integer variables, its objective value is
    `v`, and no feasible integral point is better. -/
theorem solve_mip_sound (lp : Oracle) (hO : OracleOK lp) (N : Node) (hwf : N.toProblem.WF) (fuel : Nat)
    (out : Outcome) (h : solveTop lp fuel N = some out) :
    match out with
    | .unfeasible => IsUnfeasible N.toProblem
    | .unbounded p => IsUnbounded N.toProblem ∧ Feasible N.toProblem p.val
    | .optimized v p => IsOptimum N.toProblem v ∧ Feasible N.toProblem p.val ∧ N.toProblem.objVal p.val = v := by
  unfold solveTop at h
  cases hlp : lp N with
  | none => rw [hlp] at h; cases h
  | some r =>
    rw [hlp] at h
    simp only at h
    by_cases hunf : (r.mipStatus == Status.unfeasible) = true
    · rw [if_pos hunf] at h
      injection h with h; subst h
      have hr : r = .unfeasible := by cases r <;> simp_all [LPResult.mipStatus]
      subst hr
      have hc := hO N _ hwf hlp
      rintro ⟨x, hx⟩
      exact hc x hx.1
    · rw [if_neg hunf] at h
      have hsub : Sub N N.toProblem := ⟨rfl, rfl, rfl, fun _ hx => hx⟩
      have hinc : IncOK N.toProblem Inc.init := fun hh => by cases hh
      cases hs : solveMip lp fuel Inc.init N with
      | none => rw [hs] at h; cases h
      | some res =>
        obtain ⟨st, inc⟩ := res
        rw [hs] at h
        obtain ⟨hU, hB⟩ := solve_mip_node_sound lp hO N.toProblem hwf fuel Inc.init N st inc hwf hsub hinc hs
        cases st with
        | unfeasible =>
          simp only at h; injection h with h; subst h
          obtain ⟨-, -, hcov, -, hno⟩ := hB (by simp)
          rintro ⟨x, hx⟩
          have := (hcov x hx).1
          rw [hno rfl rfl] at this; cases this
        | unbounded =>
          simp only at h; injection h with h; subst h
          obtain ⟨hf, hu⟩ := hU rfl
          exact ⟨hu, hf⟩
        | optimized =>
          simp only at h; injection h with h; subst h
          obtain ⟨hok, -, hcov, hhas, -⟩ := hB (by simp)
          obtain ⟨-, hf, hv⟩ := hok (hhas rfl)
          have hval : objAt N inc.pt = inc.val := hv
          refine ⟨⟨⟨inc.pt.val, hf, rfl⟩, fun x hx => ?_⟩, hf, rfl⟩
          show ¬ Better N.toProblem (N.toProblem.objVal x) (objAt N inc.pt)
          rw [hval]
          exact (hcov x hx).2

-- non-vacuity: max x, 1 ≤ 2x ≤ 3, x integer — relaxation 3/2, children x ≤ 1 (optimum 1) and x ≥ 2
-- (unfeasible); with the proved reference as oracle the model answers OPTIMIZED 1 at x = 1
example : solveTop refOracle 3 ⟨1, [⟨[-2], 3, false⟩, ⟨[2], -1, false⟩], [0], ⟨[1], 0⟩, true⟩
    = some (.optimized 1 ⟨[1], 1⟩) := by decide +kernel
-- 2x = 1: both children unfeasible
example : solveTop refOracle 3 ⟨1, [⟨[2], -1, true⟩], [0], ⟨[1], 0⟩, true⟩ = some .unfeasible := by decide +kernel

/-- the claim an outcome of `solve()` makes -/
def outcomeAnswer : Outcome → Answer
  | .unfeasible => .unfeasible
  | .unbounded _ => .unbounded
  | .optimized v _ => .optimum v

/-- **The answer does not depend on the LP oracle** — on which optimal vertex the simplex stops at, hence on
    the pricing rule (textbook, steepest edge exact or float), on degenerate ties, and on whether a
    node's LP was solved incrementally from the parent's basis or from scratch: two runs of the
    modelled `solve()` with any two correct oracles and any fuels report the same status and the same
    optimal value (the points may differ). -/
theorem solve_mip_oracle_independent (lp₁ lp₂ : Oracle) (h₁ : OracleOK lp₁) (h₂ : OracleOK lp₂) (N : Node)
    (hwf : N.toProblem.WF) (f₁ f₂ : Nat) (o₁ o₂ : Outcome)
    (e₁ : solveTop lp₁ f₁ N = some o₁) (e₂ : solveTop lp₂ f₂ N = some o₂) : outcomeAnswer o₁ = outcomeAnswer o₂ := by
  have a₁ := solve_mip_sound lp₁ h₁ N hwf f₁ o₁ e₁
  have a₂ := solve_mip_sound lp₂ h₂ N hwf f₂ o₂ e₂
  apply isAnswer_unique N.toProblem
  · cases o₁ <;> simp only [outcomeAnswer, IsAnswer] at a₁ ⊢
    · exact a₁
    · exact a₁.1
    · exact a₁.1
  · cases o₂ <;> simp only [outcomeAnswer, IsAnswer] at a₂ ⊢
    · exact a₂
    · exact a₂.1
    · exact a₂.1

-- the same problem, the oracle of the reference and an oracle that reports the other optimal vertex of
-- a degenerate LP would agree in value; here: the reference oracle at two different fuels
example : (solveTop refOracle 3 ⟨1, [⟨[-2], 3, false⟩, ⟨[2], -1, false⟩], [0], ⟨[1], 0⟩, true⟩).map outcomeAnswer
    = (solveTop refOracle 5 ⟨1, [⟨[-2], 3, false⟩, ⟨[2], -1, false⟩], [0], ⟨[1], 0⟩, true⟩).map outcomeAnswer := by
  decide +kernel

/-- **The code's UNBOUNDED rule is valid**, whatever the ranges of the integer variables: if the
    relaxation of the (root) problem has points of arbitrarily good value and one feasible integral
    point exists, the mixed-integer problem is unbounded.  (The data are rational: the relaxation then
    has a rational improving recession direction — affine Farkas lemma `unbounded_has_ray` — and a
    multiple of it keeps integral coordinates integral.)  The code relies on exactly this and checks
    nothing else; nothing else is needed. -/
theorem unbounded_rule_valid (R : Problem) (hwf : R.WF) (x : Val) (hx : Feasible R x)
    (hu : ∀ M : Rat, ∃ y, Sat R.cs y ∧ Better R (R.objVal y) M) : IsUnbounded R :=
  unbounded_of_point_and_lpUnb R hwf x hx hu

example : Feasible ⟨1, [geRow [2] (-1)], [0], ⟨[1], 0⟩, true⟩ (fun _ => 1) := by
  refine ⟨?_, fun i hi => ⟨1, rfl⟩⟩
  intro c hc
  simp only [List.mem_singleton] at hc; subst hc
  simp [Con.sat, geRow, Con.eval, dot]

/-- **Branching step.**  For an integer variable `i` and any rational `q` (the coordinate of the LP
    vertex): every feasible point of the node is a feasible point of the child `x_i ≤ ⌊q⌋` or of the
    child `x_i ≥ ⌈q⌉` (no integral point lost), each child only has points of the node, and when `q` is
    not an integer no point belongs to both children (none duplicated). -/
theorem branch_partition (N : Node) (i : Nat) (hi : i ∈ N.ivars) (q : Rat) :
    (∀ x, Feasible N.toProblem x →
      Feasible (N.addRow (branchLe i (floorQ q))).toProblem x ∨ Feasible (N.addRow (branchGe i (ceilQ q))).toProblem x) ∧
    (∀ x, Feasible (N.addRow (branchLe i (floorQ q))).toProblem x → Feasible N.toProblem x ∧ x i ≤ (⌊q⌋ : Int)) ∧
    (∀ x, Feasible (N.addRow (branchGe i (ceilQ q))).toProblem x → Feasible N.toProblem x ∧ ((⌈q⌉ : Int) : Rat) ≤ x i) ∧
    ((¬ ∃ z : Int, q = (z : Rat)) → ∀ x,
      ¬ (Feasible (N.addRow (branchLe i (floorQ q))).toProblem x ∧ Feasible (N.addRow (branchGe i (ceilQ q))).toProblem x)) := by
  refine ⟨fun x hx => children_cover N i hi q x hx, fun x hx => ?_, fun x hx => ?_, fun hq x => children_disjoint N i q hq x⟩
  · rw [feasible_addRow, sat_branchLe, floorQ_eq] at hx; exact hx
  · rw [feasible_addRow, sat_branchGe, ceilQ_eq] at hx; exact hx

example : floorQ (3/2) = 1 ∧ ceilQ (3/2) = 2 ∧ floorQ (-3/2) = -2 ∧ ceilQ (-3/2) = -1 ∧ floorQ 2 = 2 ∧ ceilQ 2 = 2 := by
  decide +kernel

/-- **Exact comparison of rationals by cross-multiplication** (`mpq_class` `<=`, `<` on canonical fractions). -/
theorem mpq_compare_exact (a b : Rat) : (mpqLe a b = true ↔ a ≤ b) ∧ (mpqLt a b = true ↔ a < b) :=
  ⟨mpqLe_iff a b, mpqLt_iff a b⟩

example : mpqLe (1/3) (1/2) = true ∧ mpqLt (1/2) (1/2) = false ∧ mpqLe (-1/2) (-2/3) = false := by decide +kernel

/-- **The pruning test never prunes a strictly better integral point.**  If the test `LP optimum ≤
    incumbent` (`≥` when minimising) abandons the node, then an incumbent exists and every point of the
    relaxation of the node — in particular every feasible integral point — is not strictly better than
    the incumbent. -/
theorem prune_never_loses_better_point (N : Node) (inc : Inc) (v : Rat) (h : pruned N inc v = true)
    (hv : ∀ x, Sat N.toProblem.cs x → ¬ Better N.toProblem (N.toProblem.objVal x) v) (x : Val)
    (hx : Feasible N.toProblem x) :
    inc.has = true ∧ ¬ Better N.toProblem (N.toProblem.objVal x) inc.val :=
  pruned_safe N inc v h x (hv x hx.1)

example : pruned ⟨1, [], [0], ⟨[1], 0⟩, true⟩ ⟨true, 2, ⟨[2], 1⟩⟩ (3/2) = true
    ∧ pruned ⟨1, [], [0], ⟨[1], 0⟩, true⟩ ⟨true, 1, ⟨[1], 1⟩⟩ (3/2) = false
    ∧ pruned ⟨1, [], [0], ⟨[1], 0⟩, false⟩ ⟨true, 1, ⟨[1], 1⟩⟩ (3/2) = true := by decide +kernel

/-- **The incumbent update keeps the best-so-far invariant.**  At a node that was not pruned and
    whose LP vertex `p` (value `v`) is integral, the update as written — including its third disjunct
    `tmp_rational < incumbent_solution_value`, which is *not* guarded by the optimisation mode —
    stores exactly `(v, p)`, and `v` is strictly better than the previous incumbent (if any). -/
theorem incumbent_update_best (N : Node) (inc : Inc) (v : Rat) (p : Pt) (h : pruned N inc v = false) :
    updateInc N inc v p = ⟨true, v, p⟩ ∧ (inc.has = true → Better N.toProblem v inc.val) :=
  ⟨updateInc_eq N inc v p h, not_pruned_better N inc v h⟩

example : updateInc ⟨1, [], [0], ⟨[1], 0⟩, true⟩ ⟨true, 1, ⟨[1], 1⟩⟩ 2 ⟨[2], 1⟩ = ⟨true, 2, ⟨[2], 1⟩⟩ := by decide +kernel

/-- **`choose_branching_variable`** answers "all integral" exactly when every integer variable is
    integral at the LP point, and otherwise names an integer variable whose coordinate is fractional. -/
theorem choose_branching_variable_spec (N : Node) (p : Pt) (hd : 0 < p.den) :
    (chooseBranchingVariable N p = none → ∀ i ∈ N.ivars, ∃ z : Int, p.val i = (z : Rat)) ∧
    (∀ i, chooseBranchingVariable N p = some i → i ∈ N.ivars ∧ ¬ ∃ z : Int, p.val i = (z : Rat)) :=
  chooseBranchingVariable_spec N p hd

-- x0 = 1/2 occurs in one active row, x1 = 1/2 in two: x1 wins; ties go to the larger index
example : chooseBranchingVariable ⟨2, [⟨[2, 0], -1, true⟩, ⟨[0, 2], -1, true⟩, ⟨[0, -2], 1, false⟩], [0, 1], ⟨[], 0⟩, true⟩ ⟨[1, 1], 2⟩ = some 1
    ∧ chooseBranchingVariable ⟨2, [⟨[2, 0], -1, true⟩, ⟨[0, 2], -1, true⟩], [0, 1], ⟨[], 0⟩, true⟩ ⟨[1, 1], 2⟩ = some 1
    ∧ chooseBranchingVariable ⟨2, [⟨[2, 0], -1, true⟩], [0, 1], ⟨[], 0⟩, true⟩ ⟨[1, 2], 2⟩ = some 0
    ∧ chooseBranchingVariable ⟨2, [], [0, 1], ⟨[], 0⟩, true⟩ ⟨[2, 4], 2⟩ = none := by decide +kernel

/-- **`is_mip_satisfiable` is sound**, for every fuel and every satisfiability oracle that answers
    correctly: `true` comes with a point that satisfies the rows of the node and is integral on the
    integer variables; `false` means the node has no such point. -/
theorem is_mip_satisfiable_sound (lp : SatOracle) (hO : SatOracleOK lp) (fuel : Nat) (N : Node)
    (hwf : N.toProblem.WF) :
    (∀ q, isMipSatisfiable lp fuel N = some (some q) → 0 < q.den ∧ Feasible N.toProblem q.val) ∧
    (isMipSatisfiable lp fuel N = some none → IsUnfeasible N.toProblem) := by
  obtain ⟨a, b⟩ := isMipSatisfiable_sound lp hO fuel N hwf
  exact ⟨a, fun h => by rintro ⟨x, hx⟩; exact b h x hx⟩

/-- the satisfiability oracle induced by a correct LP oracle is correct -/
theorem sat_of_lp_ok (lp : Oracle) (hO : OracleOK lp) : SatOracleOK (satOfLp lp) := by
  intro N hwf
  unfold satOfLp
  constructor
  · intro h x
    rw [Option.map_eq_some_iff] at h
    obtain ⟨r, hr, hm⟩ := h
    have hc := hO N r hwf hr
    cases r <;> simp at hm
    exact hc x
  · intro p h
    rw [Option.map_eq_some_iff] at h
    obtain ⟨r, hr, hm⟩ := h
    have hc := hO N r hwf hr
    cases r <;> simp at hm
    · subst hm; exact ⟨hc.1, hc.2.1⟩
    · subst hm; exact ⟨hc.1, hc.2.1⟩

example : isMipSatisfiable (satOfLp refOracle) 3 ⟨1, [⟨[-2], 3, false⟩, ⟨[2], -1, false⟩], [0], ⟨[1], 0⟩, true⟩
    = some (some ⟨[1], 1⟩) := by decide +kernel
example : isMipSatisfiable (satOfLp refOracle) 3 ⟨1, [⟨[2], -1, true⟩], [0], ⟨[1], 0⟩, true⟩ = some none := by
  decide +kernel

/-- **The rows `is_satisfiable()` leaves in the object are harmless.**  `is_mip_satisfiable` adds the
    right-branch row `x_i ≥ ⌈q⌉` to the caller's object itself, but only after the left branch was
    found to hold no feasible integral point: the feasible integral points are unchanged. -/
theorem is_satisfiable_leaves_rows_harmless (N : Node) (i : Nat) (hi : i ∈ N.ivars) (q : Rat)
    (hleft : IsUnfeasible (N.addRow (branchLe i (floorQ q))).toProblem) (x : Val) :
    Feasible (N.addRow (branchGe i (ceilQ q))).toProblem x ↔ Feasible N.toProblem x :=
  right_branch_row_keeps_integral_points N i hi q (fun x hx => hleft ⟨x, hx⟩) x

/-- **Termination when the integer variables are boxed** — *partial*: what is missing is termination
    without the box hypothesis, which is false for the code as well (`2x − 2y = 1`, `x`, `y` integer and
    free, branches for ever).  If every integer variable lies between two integers on the relaxation
    of the node and the oracle answers at every node, `solve_mip` returns with fuel
    `(sum of the box widths) + 1`. -/
theorem solve_mip_terminates_partial (lp : Oracle) (hO : OracleOK lp) (hT : Answers lp) (N : Node)
    (inc : Inc) (lo hi : Nat → Int) (hwf : N.toProblem.WF) (hbox : Boxed N lo hi) :
    ∃ res, solveMip lp (width N.ivars lo hi + 1) inc N = some res :=
  Option.isSome_iff_exists.mp (solveMip_terminates lp hO hT _ N inc lo hi hwf hbox (le_refl _))

example : width [0, 1] (fun _ => -1) (fun i => if i = 0 then 2 else 0) = 4 := by decide

end C06

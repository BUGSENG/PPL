import PPLV.Props.C08
import PPLV.Widen.ImplGridProofsCg2
import PPLV.Widen.ImplGridProofsCg3
import PPLV.Widen.ImplGridProofsCg4
import PPLV.Widen.ImplGridProofsGen3

/-!
# C08 — the GRID widening implementations (/repo/src/Grid_widenings.cc)

Property statements only.  The code-shaped model is `PPLV/Widen/ImplGrid.lean` (`select_wider_congruences`,
`congruence_widening_assign`, `select_wider_generators`, `generator_widening_assign`, `widening_assign`, the three
`limited_*_extrapolation_assign`, over the models of `Grid::simplify` / `Grid::conversion` of C05 stage 2).  Denotations:
a congruence system denotes `cgsSem n rows` (K2's `CgSys.sem` of the rows), a generator system the homogeneous lattice
`Hom n rows` (`PPLV/Lattice/RedSem.lean`, `ProofsRedSem.lean`).  `Grid::contains` and `relation_with` are parameters.

The driver `pplv_widenimpl_grid` replays the model on the journalled members of the real objects and demands identical
objects / selected rows / token counts, and evaluates the conclusions below on the real outputs with the K2 deciders.
-/
namespace C08
open PPLV.Lattice PPLV.Lattice.Red PPLV.Widen PPLV.Widen.ImplGrid

/-! ## `Congruence::strong_normalize` (every `Congruence_System::insert(cg)` applies it to its copy) -/

/-- sign normalisation, reduction of the inhomogeneous term modulo the modulus and division by the common gcd keep the
    set of points of a congruence -/
theorem grid_strong_normalize_preserves (r : CRow) (x : Pt) : rsem (strongNormalizeCg r) x ↔ rsem r x :=
  rsem_strongNormalizeCg' r x

/-- `-6 - 4B ≡ 0 (mod 8)` becomes `3 + 2B ≡ 0 (mod 4)` -/
example : strongNormalizeCg ⟨[-6, 0, -4], 8⟩ = ⟨[3, 0, 2], 4⟩ := by decide

/-! ## `Grid::select_wider_congruences` and `Grid::congruence_widening_assign` -/

/-- the congruences selected by `select_wider_congruences` are (strongly normalised copies of) rows of x's system — or
    of the trivially true `0 = 0` that an out-of-range row access of the model returns -/
theorem grid_cgw_selected_subset (n : Nat) (xs : List CRow) (xdk : List Nat) (ys : List CRow) (ydk : List Nat) :
    ∀ r ∈ selectWiderCongruences n xs xdk ys ydk,
      (∃ r0 ∈ xs, r = strongNormalizeCg r0) ∨ r = strongNormalizeCg (default : CRow) :=
  selectWiderCongruences_mem' n xs xdk ys ydk

/-- `x = {B ≡ 0 (3), 2A ≡ 0 (4)}`, `y = {B ≡ 0 (3), A ≡ 0 (4)}`: only the row with the same diagonal entry is selected -/
example : selectWiderCongruences 2 [⟨[0, 0, 1], 3⟩, ⟨[0, 2, 0], 4⟩, ⟨[1, 0, 0], 1⟩] [0, 0, 0]
    [⟨[0, 0, 1], 3⟩, ⟨[0, 1, 0], 4⟩, ⟨[1, 0, 0], 1⟩] [0, 0, 0] = [⟨[0, 0, 1], 3⟩] := by decide

/-- hence every point of x's (minimised) system satisfies the system of `result` = universe + selected rows -/
theorem grid_cgw_result_contains (n : Nat) (xs : List CRow) (xdk : List Nat) (ys : List CRow) (ydk : List Nat)
    (hwf : CWf n xs) (p : Pt) (h : cgsSem n xs p) :
    cgsSem n ((universeGrid n).addRecycledCongruences (selectWiderCongruences n xs xdk ys ydk)).con p :=
  cgw_result_contains n xs xdk ys ydk p h

/-- **result ⊇ x** for the whole function (every exit, any token argument): on objects whose congruences are up to
    date, every point of `x` is a point of the object the call leaves in `*this` (which is not marked empty and has
    its congruences up to date) -/
theorem grid_cgw_contains_x (contains : GridM → GridM → Bool) (n : Nat) (x y : GridM) (tp : Option Nat)
    (hxup : x.cgUp = true) (hyup : y.cgUp = true) (hxn : x.n = n) (hyn : y.n = n)
    (hxwf : CWf n x.con) (hywf : CWf n y.con) (hxe : x.empty = false) (hye : y.empty = false) (hn : 0 < n) :
    let r := congruenceWideningAssign contains x y tp
    ∀ p, cgsSem n x.con p → (r.1.empty = false ∧ r.1.cgUp = true ∧ cgsSem n r.1.con p) :=
  congruenceWideningAssign_contains_x_tp contains n x y tp hxup hyup hxn hyn hxwf hywf hxe hye hn

/-- hence **result ⊇ y** when `y ⊆ x` (the precondition of every widening) -/
theorem grid_cgw_contains_y (contains : GridM → GridM → Bool) (n : Nat) (x y : GridM) (tp : Option Nat)
    (hxup : x.cgUp = true) (hyup : y.cgUp = true) (hxn : x.n = n) (hyn : y.n = n)
    (hxwf : CWf n x.con) (hywf : CWf n y.con) (hxe : x.empty = false) (hye : y.empty = false) (hn : 0 < n)
    (hyx : ∀ p, cgsSem n y.con p → cgsSem n x.con p) :
    ∀ p, cgsSem n y.con p → cgsSem n (congruenceWideningAssign contains x y tp).1.con p :=
  fun p hp => (grid_cgw_contains_x contains n x y tp hxup hyup hxn hyn hxwf hywf hxe hye hn p (hyx p hp)).2.2

/-- `x = {A ≡ 0 (2)}`, `y = {A ≡ 0 (4)}` in dimension 2: the hypotheses hold and the result is `{B ≡ 0 (1)}` = ℚ×ℤ… -/
example : CWf 2 exX.con ∧ CWf 2 exY.con ∧ exX.cgUp = true ∧ exY.cgUp = true ∧
    (congruenceWideningAssign (fun _ _ => false) exX exY none).1.con = [⟨[1, 0, 0], 1⟩, ⟨[0, 0, 1], 1⟩] := by
  refine ⟨?_, ?_, rfl, rfl, by decide +kernel⟩ <;> intro r hr <;> simp [exX, exY] at hr <;>
    rcases hr with rfl | rfl | rfl <;> decide

/-- the widening does not change the point set of `y` (it minimises `y` in place through a `const_cast`) -/
theorem grid_cgw_keeps_y (contains : GridM → GridM → Bool) (n : Nat) (x y : GridM) (tp : Option Nat)
    (hyup : y.cgUp = true) (hyn : y.n = n) (hywf : CWf n y.con) (hne : (y.minimizeCongruences).2 = false) :
    ∀ p, cgsSem n (congruenceWideningAssign contains x y tp).2.1.con p ↔ cgsSem n y.con p :=
  congruenceWideningAssign_keeps_y contains n x y tp hyup hyn hywf hne

/-- **the early return on `num_equalities`** (l.122): the value left in `*this` is `x` (with its congruences
    minimised, the same point set: `grid_cgw_minimize_preserves`).  Under `y ⊆ x` this is the case where the affine
    dimension grew. -/
theorem grid_cgw_early_return_is_x (contains : GridM → GridM → Bool) (x y : GridM) (tp : Option Nat)
    (h0 : ¬ (x.n = 0 ∨ x.empty = true ∨ y.empty = true))
    (hx : (x.minimizeCongruences).2 = false) (hy : (y.minimizeCongruences).2 = false)
    (hlt : numEqualities (x.minimizeCongruences).1.con < numEqualities (y.minimizeCongruences).1.con) :
    congruenceWideningAssign contains x y tp =
      ((x.minimizeCongruences).1, (y.minimizeCongruences).1, tp, "fewer_equalities") :=
  congruenceWideningAssign_fewer_equalities contains x y tp h0 hx hy hlt

/-- `y = {A = 0}` has more equalities than `x = {A ≡ 0 (2)}` -/
example : (congruenceWideningAssign (fun _ _ => false) exX
    { exX with con := [⟨[0, 0, 4], 0⟩, ⟨[0, 1, 0], 4⟩, ⟨[4, 0, 0], 4⟩], dk := [0, 0, 2] } none).1 = exX := by decide +kernel

/-- the minimisation preamble (l.92-104) keeps the point set; a `true` flag means there was none -/
theorem grid_cgw_minimize_preserves (g : GridM) (hup : g.cgUp = true) (hwf : CWf g.n g.con) :
    ((g.minimizeCongruences).2 = false → ∀ p, cgsSem g.n (g.minimizeCongruences).1.con p ↔ cgsSem g.n g.con p) ∧
    ((g.minimizeCongruences).2 = true → ∀ p, ¬ cgsSem g.n g.con p) :=
  ⟨fun h => ((minimizeCongruences_spec g hup hwf).1 h).2.2.2.2, (minimizeCongruences_spec g hup hwf).2⟩

example : exX.cgUp = true ∧ (exX.minimizeCongruences).2 = false := by decide +kernel

/-- `widening_assign` (l.457) is the congruence widening when both congruence systems are up to date -/
theorem grid_widening_dispatch_cg (contains : GridM → GridM → Bool) (x y : GridM) (tp : Option Nat)
    (hx : x.cgUp = true) (hy : y.cgUp = true) :
    wideningAssign contains x y tp = congruenceWideningAssign contains x y tp :=
  wideningAssign_cg contains x y tp hx hy

example : wideningAssign (fun _ _ => false) exX exY none = congruenceWideningAssign (fun _ _ => false) exX exY none :=
  grid_widening_dispatch_cg _ exX exY none rfl rfl

/-! ## tokens -/

/-- **Token protocol of the model**: with a token available the object left in `*this` is `x` (minimised), never the
    widened grid, and the pair (object, count) is `widenTok` (`PPLV/Widen/Model.lean`) of the plain result — so
    `C08.token_spec` applies verbatim with `w := fun _ _ => plain result`; when the plain call does not build a result
    (an early return) nothing changes. -/
theorem grid_widen_token_spec (contains : GridM → GridM → Bool) (x y : GridM) (t : Nat) :
    let plain := congruenceWideningAssign contains x y none
    let tok := congruenceWideningAssign contains x y (some (t + 1))
    (plain.2.2.2 ≠ "widened" → tok = (plain.1, plain.2.1, some (t + 1), plain.2.2.2)) ∧
    (plain.2.2.2 = "widened" →
      let r := widenTok contains (fun _ _ => plain.1) (x.minimizeCongruences).1 y (t + 1)
      tok.1 = r.1 ∧ tok.2.2.1 = some r.2 ∧ tok.2.1 = plain.2.1) := by
  intro plain tok
  obtain ⟨h1, h2⟩ := congruenceWideningAssign_token contains x y t
  refine ⟨h1, fun hw => ?_⟩
  obtain ⟨a, b, c⟩ := h2 hw
  intro r
  have hr : r = (if contains (x.minimizeCongruences).1 plain.1 then ((x.minimizeCongruences).1, t + 1)
      else ((x.minimizeCongruences).1, t)) := by
    show widenTok contains (fun _ _ => plain.1) (x.minimizeCongruences).1 y (t + 1) = _
    unfold widenTok
    by_cases hc : contains (x.minimizeCongruences).1 plain.1 = true <;> simp [hc]
  refine ⟨?_, ?_, b⟩
  · rw [a, hr]; split <;> rfl
  · rw [c, hr]; split <;> rfl

/-- the semantic reading, in the shape of `C08.token_spec` (its hypothesis `sup` is needed for this `x` only): when
    `contains` is exact for a concretisation `γ` under which the plain result is above `x`, a token is consumed exactly
    when the plain widening loses precision, and the object is `x` in both cases -/
theorem grid_widen_token_sets {Pt' : Type} (γ : GridM → Set Pt') (contains : GridM → GridM → Bool) (x y : GridM) (t : Nat)
    (hc : ∀ a b, contains a b = true ↔ γ b ⊆ γ a)
    (hsup : γ (x.minimizeCongruences).1 ⊆ γ (congruenceWideningAssign contains x y none).1) :
    let plain := congruenceWideningAssign contains x y none
    let r := widenTok contains (fun _ _ => plain.1) (x.minimizeCongruences).1 y (t + 1)
    (γ plain.1 ≠ γ (x.minimizeCongruences).1 → r = ((x.minimizeCongruences).1, t)) ∧
    (γ plain.1 = γ (x.minimizeCongruences).1 → γ r.1 = γ plain.1 ∧ r.2 = t + 1) := by
  intro plain r
  have hr : r = (if contains (x.minimizeCongruences).1 plain.1 then ((x.minimizeCongruences).1, t + 1)
      else ((x.minimizeCongruences).1, t)) := by
    show widenTok contains (fun _ _ => plain.1) (x.minimizeCongruences).1 y (t + 1) = _
    unfold widenTok
    by_cases hc' : contains (x.minimizeCongruences).1 plain.1 = true <;> simp [hc']
  refine ⟨fun hne => ?_, fun heq => ?_⟩
  · have hn : ¬ contains (x.minimizeCongruences).1 plain.1 = true := by
      intro h
      exact hne (Set.Subset.antisymm ((hc _ _).mp h) hsup)
    rw [hr, if_neg hn]
  · have hy : contains (x.minimizeCongruences).1 plain.1 = true := (hc _ _).mpr (le_of_eq heq)
    rw [hr, if_pos hy]
    exact ⟨heq.symm, rfl⟩

/-- with one token and a `contains` that answers `false` the widening is postponed and the token is used -/
example : (congruenceWideningAssign (fun _ _ => false) exX exY (some 1)).1 = exX ∧
    (congruenceWideningAssign (fun _ _ => false) exX exY (some 1)).2.2.1 = some 0 := by decide +kernel

/-! ## the Grid certificate along the congruence widening

`Final n xs xdk` is the triangular form `Grid::simplify` leaves (`C05.simplify_congs_triangular`): row `i` is the pivot row
of a strictly decreasing dimension, its kind recorded in `dim_kinds`, the last row is the integrality congruence. -/

/-- the minimisation preamble establishes the triangular form -/
theorem grid_cgw_minimize_triangular (g : GridM) (hup : g.cgUp = true) (hwf : CWf g.n g.con) (hmin : g.cgMin = false)
    (hne : (g.minimizeCongruences).2 = false) :
    Final g.n (g.minimizeCongruences).1.con (g.minimizeCongruences).1.dk :=
  minimizeCongruences_final g hup hwf hmin hne

/-- what the selection does to the two members of `Grid_Certificate`: every equality of `x` is selected; the integrality
    row (dimension 0, which the loop `dim > 0` never visits) is not; when a row is dropped it is a proper congruence -/
theorem grid_cgw_selection_counts (n : Nat) (xs : List CRow) (xdk : List Nat) (ys : List CRow) (ydk : List Nat)
    (hfin : Final n xs xdk) :
    let sel := selectWiderCongruences n xs xdk ys ydk
    numEqualities sel = numEqualities xs ∧ numProperCongruences sel + 1 ≤ numProperCongruences xs ∧
      sel.length + 1 ≤ xs.length ∧
      (sel.length + 1 < xs.length → numProperCongruences sel + 1 < numProperCongruences xs) :=
  selectWiderCongruences_counts n xs xdk ys ydk hfin

/-- **a quirk of the code that exists**: `if (cgs.num_rows() == con_sys.num_rows()) return;` (l.131, "All congruences
    were selected, thus the result is `x`") can never fire — `con_sys` contains the integrality row, which
    `select_wider_congruences` never selects.  The result is then rebuilt from the selected rows (same point set, not
    minimised).  The driver sees the exit `all_selected` on the generator path only. -/
theorem grid_cgw_all_selected_dead (contains : GridM → GridM → Bool) (x y : GridM) (tp : Option Nat)
    (hfin : Final (x.minimizeCongruences).1.n (x.minimizeCongruences).1.con (x.minimizeCongruences).1.dk) :
    (congruenceWideningAssign contains x y tp).2.2.2 ≠ "all_selected" :=
  congruenceWideningAssign_all_selected_dead contains x y tp hfin

example : Final 2 (simplifyCgs 2 exRows []).1 (simplifyCgs 2 exRows []).2.1 :=
  simplifyCgs_triangular 2 exRows [] (by
    intro r hr
    simp only [exRows, List.mem_cons, List.not_mem_nil, or_false] at hr
    rcases hr with rfl | rfl | rfl <;> exact ⟨rfl, by decide⟩) (by decide +kernel)

/-- **certificate**: when a congruence is dropped, the pair (equalities, proper congruences) of the rows of `result`
    is strictly below that of x's minimised system in the order of `Grid_Certificate::compare`
    (`PPLV.Widen.grid_compare_wf`: well founded); when none is dropped the pair is the same.
    `_partial`: the statement wanted is about `Grid_Certificate(result)` against `Grid_Certificate(y)`.  Missing:
    (i) `Grid_Certificate(result)` counts the rows of `simplify(result.con_sys)`; that these are as many equalities and
    proper congruences as `result.con_sys` itself has (the selected rows of a triangular system are triangular up to
    the row order and the normalisation of `strong_normalize`) is not proved; (ii) after the early return on
    `num_equalities`, `y ⊆ x` forces the certificate of `x` to be at most that of `y` (equal affine hulls, hence equal
    sets of non-virtual dimensions: a rank argument) — not proved.  Both are checked by the driver on every real call
    (`certval`: the library's certificate members are the counts of the minimised result; `cert`: strictly below y's
    unless the result is y). -/
theorem grid_cgw_certificate_decreases_partial (n : Nat) (xs : List CRow) (xdk : List Nat) (ys : List CRow) (ydk : List Nat)
    (hfin : Final n xs xdk) :
    let sel := selectWiderCongruences n xs xdk ys ydk
    let result := (universeGrid n).addRecycledCongruences sel
    (sel.length + 1 < xs.length → GridCert.compare (certOfRows result.con) (certOfRows xs) = .lt) ∧
    (sel.length + 1 = xs.length → certOfRows result.con = certOfRows xs) :=
  ⟨cgw_certificate_decreases n xs xdk ys ydk hfin, cgw_certificate_keeps n xs xdk ys ydk hfin⟩

/-- `x = {A ≡ 0 (2)}` against `y = {A ≡ 0 (4)}`: one of the two proper congruences besides the integrality row is dropped -/
example : (selectWiderCongruences 2 exX.con exX.dk exY.con exY.dk).length + 1 < exX.con.length ∧
    GridCert.compare (certOfRows (cgwResult exX exY).con) (certOfRows exX.con) = .lt := by
  constructor <;> decide +kernel

/-- **every ascending chain stabilises** — the reduction to the certificate: for a widening `w` on the model's objects,
    any concretisation `γ`, whatever larger arguments `z i xᵢ ⊇ xᵢ` the environment supplies, the sequence
    `xᵢ₊₁ = w (z i xᵢ) xᵢ` is eventually stationary as soon as the Grid certificate is a function of the point set
    (`hval`) and every non-stationary application strictly lowers it (`dec`).
    `_partial`: `hval` and `dec` are hypotheses; for `w = congruence_widening_assign`, `dec` is
    `grid_cgw_certificate_decreases_partial` plus its two missing pieces, and `hval` is the canonicity of the pair
    (equalities, proper congruences) of the minimal form (again a rank argument).  The driver checks `dec` on every
    real call of every chain it drives. -/
theorem grid_cgw_chain_stabilises_partial {Pt' : Type} (γ : GridM → Set Pt') (w : GridM → GridM → GridM)
    (cert : GridM → GridCert)
    (hval : ∀ a b, γ a = γ b → cert a = cert b)
    (dec : ∀ x y, γ y ⊆ γ x → γ (w x y) ≠ γ y → (cert (w x y)).compare (cert y) = .lt)
    (x0 : GridM) (z : Nat → GridM → GridM) (hz : ∀ i x, γ x ⊆ γ (z i x)) :
    ∃ N, ∀ i ≥ N, γ (advSeq w x0 z (i + 1)) = γ (advSeq w x0 z i) :=
  PPLV.Widen.converges_adversary γ w cert (fun a b => a.compare b = .lt) grid_compare_wf hval dec x0 z hz

/-- non-vacuity: a widening that jumps to the universe, certificate = number of proper congruences -/
example : ∃ N, ∀ i ≥ N, (fun g : GridM => ({p : Nat | p < g.con.length} : Set Nat))
      (advSeq (fun _ _ => universeGrid 1) exX (fun _ x => x) (i + 1)) =
    (fun g : GridM => ({p : Nat | p < g.con.length} : Set Nat)) (advSeq (fun _ _ => universeGrid 1) exX (fun _ x => x) i) :=
  ⟨1, fun i hi => by
    obtain ⟨k, rfl⟩ : ∃ k, i = k + 1 := ⟨i - 1, by omega⟩
    rfl⟩

/-! ## limited extrapolation (congruence widening inside) -/

/-- **`limited_congruence_extrapolation_assign`** (no token): the result lies between `x` and the plain widening and
    satisfies every supplied congruence the code selects — those with `relation_with(cg) == is_included()`, i.e. the
    PROPER congruences that `x` satisfies (`relationIsIncluded`; an equality that `x` satisfies answers
    `is_included() && saturates()` and is not selected — harmless, the widening keeps every equality of `x`).
    Hypotheses: congruences and generators of `x` up to date (otherwise the prologue first runs `update_generators`,
    modelled but not covered by this theorem), `sat` sound. -/
theorem grid_limited_between (contains : GridM → GridM → Bool) (sat : GridM → CRow → Bool) (n : Nat) (x y : GridM)
    (cgs : List CRow)
    (hxup : x.cgUp = true) (hxg : x.genUp = true) (hyup : y.cgUp = true) (hxn : x.n = n) (hyn : y.n = n)
    (hxwf : CWf n x.con) (hywf : CWf n y.con) (hxe : x.empty = false) (hye : y.empty = false) (hn : 0 < n)
    (hc : cgs ≠ [])
    (hsat : ∀ c, sat x c = true → ∀ p, cgsSem n x.con p → rsem c p) :
    let plain := congruenceWideningAssign contains x y none
    let r := limitedCongruenceExtrapolationAssign contains sat x y cgs none
    (∀ p, cgsSem n x.con p → cgsSem n r.1.con p) ∧ (∀ p, cgsSem n r.1.con p → cgsSem n plain.1.con p) ∧
    (∀ c ∈ cgs, relationIsIncluded sat x c = true → ∀ p, cgsSem n r.1.con p → rsem c p) := by
  intro plain r
  have e : r = limitedBody (congruenceWideningAssign contains) sat x y cgs none :=
    limitedCongruenceExtrapolationAssign_eq contains sat x y cgs none hc
  rw [e]
  exact limitedBody_cg_between contains sat n x y cgs hxup hxg hyup hxn hyn hxwf hywf hxe hye hn hc hsat

/-- the plain widening drops the congruence on `A`; limited by `A ≡ 0 (mod 2)` it comes back -/
example : (limitedBody (congruenceWideningAssign fun _ _ => false) (fun _ _ => true) exXg exY [⟨[0, 1, 0], 2⟩] none).1.con =
    [⟨[1, 0, 0], 1⟩, ⟨[0, 0, 1], 1⟩, ⟨[0, 1, 0], 2⟩] := by decide +kernel

/-- **with tokens available the limited variants only widen** (l.231 / l.435 / l.553): the supplied congruences are
    not looked at, so the result is `x` or the count is decremented (`grid_widen_token_spec`) -/
theorem grid_limited_tokens (w : GridM → GridM → Option Nat → GridM × GridM × Option Nat × String)
    (sat : GridM → CRow → Bool) (x y : GridM) (cgs : List CRow) (t : Nat)
    (hc : cgs ≠ []) (hy : y.empty = false) (hx : x.empty = false) (hn : x.n ≠ 0) (hg : x.genUp = true) :
    limitedBody w sat x y cgs (some (t + 1)) = w x y (some (t + 1)) :=
  limitedBody_tokens w sat x y cgs t hc hy hx hn hg

example : limitedBody (congruenceWideningAssign fun _ _ => false) (fun _ _ => true) exXg exY [⟨[0, 1, 0], 2⟩] (some 1) =
    congruenceWideningAssign (fun _ _ => false) exXg exY (some 1) :=
  grid_limited_tokens _ _ exXg exY _ 0 (by simp) rfl rfl (by decide) rfl

/-! ## `Grid::select_wider_generators` and `Grid::generator_widening_assign`

`numNonVirtual n xdk` is the number of `PARAMETER` / `LINE` entries of `dim_kinds[0..n]`; a minimised generator system
has exactly that many rows (`C05.simplify_gens_triangular`: `Tri`), which the theorems take as hypothesis `hk`. -/

/-- the selection emits, for the i-th non-virtual dimension, the i-th row of x unchanged or `grid_line` of it -/
theorem grid_genw_selected_shape (n : Nat) (xs : List GRow) (xdk : List Nat) (ys : List GRow) (ydk : List Nat) :
    (selectWiderGenerators n xs xdk ys ydk).length = numNonVirtual n xdk ∧
    ∀ i, i < numNonVirtual n xdk →
      rowAt (selectWiderGenerators n xs xdk ys ydk) i = rowAt xs i ∨
      rowAt (selectWiderGenerators n xs xdk ys ydk) i = gridLine (rowAt xs i) :=
  selectWiderGenerators_spec n xs xdk ys ydk

/-- `x = (0,0) + ℤ(2,1) + ℚ(0,1)`, `y` with the parameter `(4,0)`: the parameter of x becomes the line `(2,1)` -/
example : selectWiderGenerators 2 exGx [0, 0, 1] exGy [0, 0, 0] =
    [⟨false, [1, 0, 0, 0]⟩, ⟨true, [0, 2, 1, 0]⟩, ⟨true, [0, 0, 1, 0]⟩] := by decide

/-- **result ⊇ x**: turning a parameter into a line only enlarges the homogeneous lattice (ℤ-span of the
    parameter/point rows + ℚ-span of the lines), hence the grid `{x | (D, D·x) ∈ Hom}` for every divisor `D`.
    Hypotheses: what a minimised system satisfies (row count `hk`, row sizes, only row 0 — the point of dimension 0 —
    has an inhomogeneous term) and that row 0 is kept (`he0`: two points are always "equal at dimension 0",
    `genIsEqualAtDimension_points`). -/
theorem grid_genw_contains_x (n : Nat) (xs : List GRow) (xdk : List Nat) (ys : List GRow) (ydk : List Nat) (D : Rat)
    (hk : numNonVirtual n xdk = xs.length) (hlen : ∀ i, i < xs.length → n + 2 ≤ (rowAt xs i).e.length)
    (h0 : ∀ i, 0 < i → i < xs.length → Red.get (rowAt xs i).e 0 = 0) (hd0 : kind xdk 0 = PARAMETER)
    (he0 : genIsEqualAtDimension (rowAt xs 0) 0 (rowAt ys 0) = true) :
    (∀ v, Hom n xs v → Hom n (selectWiderGenerators n xs xdk ys ydk) v) ∧
    (∀ x, gensSem n D xs x → gensSem n D (selectWiderGenerators n xs xdk ys ydk) x) :=
  ⟨selectWiderGenerators_hom_mono n xs xdk ys ydk hk hlen h0 hd0 he0,
   selectWiderGenerators_gensSem_mono n D xs xdk ys ydk hk hlen h0 hd0 he0⟩

example : numNonVirtual 2 [0, 0, 1] = exGx.length ∧ kind [0, 0, 1] 0 = PARAMETER ∧
    genIsEqualAtDimension (rowAt exGx 0) 0 (rowAt exGy 0) = true := by decide

/-- two points are equal at dimension 0 (`e[0]` is the divisor of a point) -/
theorem grid_genw_point_kept (x y : GRow) (hx : Red.get x.e 0 ≠ 0) (hy : Red.get y.e 0 ≠ 0) :
    genIsEqualAtDimension x 0 y = true := genIsEqualAtDimension_points x y hx hy

example : genIsEqualAtDimension ⟨false, [2, 1, 0]⟩ 0 ⟨false, [3, 5, 0]⟩ = true := by decide

/-- **certificate, generator side**: the number of rows (lines + parameters + the point) is unchanged, the lines
    can only grow, the parameters only shrink, and when the test `ggs.num_parameters() == gen_sys.num_parameters()`
    (l.345) fails a parameter became a line: strictly fewer parameters.  In `Grid_Certificate` terms
    (`num_proper_congruences = num_parameters + 1`, `num_equalities = n + 1 - num_rows`): same equalities, strictly
    fewer proper congruences. -/
theorem grid_genw_certificate_decreases (n : Nat) (xs : List GRow) (xdk : List Nat) (ys : List GRow) (ydk : List Nat)
    (hk : numNonVirtual n xdk = xs.length) :
    let sel := selectWiderGenerators n xs xdk ys ydk
    sel.length = xs.length ∧ numLines xs ≤ numLines sel ∧ numParameters sel ≤ numParameters xs ∧
    (numParameters sel ≠ numParameters xs → numParameters sel < numParameters xs) :=
  selectWiderGenerators_counts n xs xdk ys ydk hk

example : numParameters (selectWiderGenerators 2 exGx [0, 0, 1] exGy [0, 0, 0]) = 0 ∧ numParameters exGx = 1 := by decide

/-- **the early returns** (l.335 `num_rows`, l.339 `num_lines`): the value left in `*this` is `x` with its generators
    minimised.  Under `y ⊆ x` these are the cases where the affine dimension, resp. the lineality space, grew. -/
theorem grid_genw_early_return_is_x (contains : GridM → GridM → Bool) (x y : GridM) (tp : Option Nat)
    (h0 : ¬ (x.n = 0 ∨ x.empty = true ∨ y.empty = true)) (hx : x.minimizeGenerators.empty = false) :
    (x.minimizeGenerators.gen.length > y.minimizeGenerators.gen.length →
      generatorWideningAssign contains x y tp = (x.minimizeGenerators, y.minimizeGenerators, tp, "more_rows")) ∧
    (¬ x.minimizeGenerators.gen.length > y.minimizeGenerators.gen.length →
      numLines x.minimizeGenerators.gen > numLines y.minimizeGenerators.gen →
      generatorWideningAssign contains x y tp = (x.minimizeGenerators, y.minimizeGenerators, tp, "more_lines")) :=
  ⟨generatorWideningAssign_more_rows contains x y tp h0 hx,
   generatorWideningAssign_more_lines contains x y tp h0 hx⟩

example : (generatorWideningAssign (fun _ _ => false) exGenX
    { exGenX with gen := [⟨false, [1, 0, 0, 0]⟩, ⟨false, [0, 4, 0, 1]⟩, ⟨false, [0, 0, 3, 1]⟩], dk := [0, 0, 0] } none).2.2.2
      = "more_lines" := by decide +kernel

/-- "All parameters are kept as parameters, thus the result is `x`" (l.345) -/
theorem grid_genw_all_selected_is_x (contains : GridM → GridM → Bool) (x y : GridM) (tp : Option Nat)
    (h0 : ¬ (x.n = 0 ∨ x.empty = true ∨ y.empty = true)) (hx : x.minimizeGenerators.empty = false)
    (hrows : ¬ x.minimizeGenerators.gen.length > y.minimizeGenerators.gen.length)
    (hlines : ¬ numLines x.minimizeGenerators.gen > numLines y.minimizeGenerators.gen)
    (hall : numParameters (genwSelected x y) = numParameters x.minimizeGenerators.gen) :
    generatorWideningAssign contains x y tp = (x.minimizeGenerators, y.minimizeGenerators, tp, "all_selected") :=
  generatorWideningAssign_all_selected contains x y tp h0 hx hrows hlines hall

example : (generatorWideningAssign (fun _ _ => false) exGenX exGenX none).2.2.2 = "all_selected" := by decide +kernel

/-- **token protocol of the generator widening**: as `grid_widen_token_spec`; the object left in `*this` is `x` with
    its generators minimised — and its congruences brought up to date, a side effect of `x.contains(result)` -/
theorem grid_genw_token_spec (contains : GridM → GridM → Bool) (x y : GridM) (t : Nat) :
    let plain := generatorWideningAssign contains x y none
    let tok := generatorWideningAssign contains x y (some (t + 1))
    (plain.2.2.2 ≠ "widened" → tok = (plain.1, plain.2.1, some (t + 1), plain.2.2.2)) ∧
    (plain.2.2.2 = "widened" →
      tok.1 = (if x.minimizeGenerators.cgUp then x.minimizeGenerators else x.minimizeGenerators.updateCongruences) ∧
      tok.2.1 = plain.2.1 ∧
      tok.2.2.1 = some (widenTok contains (fun _ _ => plain.1) x.minimizeGenerators y (t + 1)).2) := by
  intro plain tok
  obtain ⟨h1, h2⟩ := generatorWideningAssign_token contains x y t
  refine ⟨h1, fun hw => ?_⟩
  obtain ⟨a, b, c⟩ := h2 hw
  refine ⟨a, b, ?_⟩
  rw [c]
  show _ = some (widenTok contains (fun _ _ => plain.1) x.minimizeGenerators y (t + 1)).2
  unfold widenTok
  by_cases hc : contains x.minimizeGenerators (generatorWideningAssign contains x y none).1 = true
  · simp [plain, hc]
  · have hf : contains x.minimizeGenerators (generatorWideningAssign contains x y none).1 = false := by simpa using hc
    simp [plain, hf]

example : (generatorWideningAssign (fun _ _ => false) exGenX exGenY (some 1)).2.2.1 = some 0 ∧
    (generatorWideningAssign (fun _ _ => false) exGenX exGenY (some 1)).1.gen = exGenX.gen := by decide +kernel

/-- `widening_assign` (l.457) is the generator widening when the congruences of one argument are out of date and both
    generator systems are up to date -/
theorem grid_widening_dispatch_gen (contains : GridM → GridM → Bool) (x y : GridM) (tp : Option Nat)
    (hc : ¬ (x.cgUp = true ∧ y.cgUp = true)) (hx : x.genUp = true) (hy : y.genUp = true) :
    wideningAssign contains x y tp = generatorWideningAssign contains x y tp :=
  wideningAssign_gen contains x y tp hc hx hy

example : wideningAssign (fun _ _ => false) exGenX exGenY none = generatorWideningAssign (fun _ _ => false) exGenX exGenY none :=
  grid_widening_dispatch_gen _ exGenX exGenY none (by decide) rfl rfl

end C08

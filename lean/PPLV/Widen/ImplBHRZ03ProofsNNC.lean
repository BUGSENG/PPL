import PPLV.Widen.ImplBHRZ03
import Mathlib.Data.List.Basic

/-!
# `BHRZ03_combining_constraints` on NNC polyhedra never produces a constraint

`H79.con_sys` of an NNC polyhedron always holds the row `ε ≥ 0`; every closure point has `ε = 0`, so it
saturates that row and `lies_on_the_boundary_of_H79` (l. 459–470) is true for every generator the loop of
l. 453 considers.
-/
namespace PPLV.Widen.Impl

/-- the raw row `ε ≥ 0` of an NNC system of dimension `n` (`n + 2` columns) -/
def epsGeZero (n : Nat) : CRow := { e := List.replicate (n + 1) 0 ++ [1], eq := false }

theorem sp_eps_row : ∀ (as : Vec) (b : Int), sp (List.replicate as.length 0 ++ [1]) (as ++ [b]) = b
  | [], b => by simp [sp]
  | a :: as, b => by
    simp only [List.length_cons, List.replicate_succ, List.cons_append, sp]
    rw [sp_eps_row as b]
    simp

theorem epsCoeff_concat (as : Vec) (b : Int) : epsCoeff (as ++ [b]) = b := by
  simp [epsCoeff]

/-- the scalar product of `ε ≥ 0` with a generator row of `n + 2` columns is its epsilon coefficient -/
theorem sp_epsGeZero (n : Nat) (e : Vec) (hlen : e.length = n + 2) : sp (epsGeZero n).e e = epsCoeff e := by
  have hne : e ≠ [] := by intro h; rw [h] at hlen; simp at hlen
  have hd : e = e.dropLast ++ [e.getLast hne] := (List.dropLast_append_getLast hne).symm
  have hl : e.dropLast.length = n + 1 := by simp [hlen]
  rw [hd, epsCoeff_concat]
  unfold epsGeZero
  simp only
  rw [← hl]
  exact sp_eps_row _ _

theorem epsCoeff_of_closurePoint {g : GRow} (h : g.isClosurePoint true = true) : epsCoeff g.e = 0 := by
  unfold GRow.isClosurePoint at h
  simp only [Bool.true_and, Bool.and_eq_true, beq_iff_eq] at h
  exact h.2

theorem combiningForPoint_nnc_nil (n : Nat) (h79Cs xm : List CRow) (g : GRow) (hlen : g.e.length = n + 2)
    (hmem : epsGeZero n ∈ h79Cs) : combiningForPoint true n h79Cs xm g = [] := by
  unfold combiningForPoint
  by_cases h1 : ((g.isPoint true && !true) || (g.isClosurePoint true && true)) = true
  · rw [if_pos h1]
    have hcp : g.isClosurePoint true = true := by simpa using h1
    have hb : (h79Cs.reverse.any fun c => !c.eq && sp c.e g.e == 0) = true := by
      rw [List.any_eq_true]
      refine ⟨epsGeZero n, List.mem_reverse.mpr hmem, ?_⟩
      rw [sp_epsGeZero n g.e hlen, epsCoeff_of_closurePoint hcp]
      rfl
    dsimp only
    rw [if_pos hb]
  · rw [if_neg h1]

theorem combiningNewCs_nnc_nil (n : Nat) (yGens : List GRow) (h79Cs xMinusH79 : List CRow)
    (hlen : ∀ g ∈ yGens, g.e.length = n + 2) (hmem : epsGeZero n ∈ h79Cs) :
    combiningNewCs true n yGens h79Cs xMinusH79 = [] := by
  unfold combiningNewCs
  rw [List.flatMap_eq_nil_iff]
  intro g hg
  exact combiningForPoint_nnc_nil n h79Cs xMinusH79 g (hlen g (List.mem_reverse.mp hg)) hmem

theorem bhrz03CombiningConstraints_nnc_none (n : Nat) (o : BOracle) (yGens : List GRow) (xMinusH79 : List CRow)
    (hlen : ∀ g ∈ yGens, g.e.length = n + 2) (hmem : epsGeZero n ∈ o.h79.cs) :
    bhrz03CombiningConstraints true n o yGens xMinusH79 = none := by
  unfold bhrz03CombiningConstraints
  by_cases h1 : xMinusH79.length ≤ 1
  · rw [if_pos h1]
  · rw [if_neg h1]
    dsimp only
    rw [combiningNewCs_nnc_nil n yGens o.h79.cs xMinusH79 hlen hmem]
    rfl

end PPLV.Widen.Impl

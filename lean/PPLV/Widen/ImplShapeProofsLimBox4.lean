import PPLV.Widen.ImplShapeProofsLimBox3
/-!
# `Box::limited_CC76_extrapolation_assign`: the constraints that `get_limiting_box` does not select
(equalities, inequalities saturated by a singleton component) are harmless under the precondition `y ⊆ x`
-/
namespace PPLV.Widen
open PPLV.WR

/-- a singleton component is left alone by `CC76_widening_assign` as soon as the component of `y` shares a point
with it (in particular when `y ⊆ x` and `y` is not empty) -/
theorem Itv.cc76_singleton (stops : List Rat) (x y : Itv) (hs : x.isSingleton = true) (q : Rat)
    (hy : y.mem q) (hx : x.mem q) : Itv.cc76 stops x y = x := by
  obtain ⟨xl, xlo, xh, xho⟩ := x
  unfold Itv.isSingleton at hs
  cases xl with
  | none => simp at hs
  | some a =>
    cases xh with
    | none => simp at hs
    | some b =>
      simp only [Bool.and_eq_true, decide_eq_true_eq, Bool.not_eq_true'] at hs
      obtain ⟨⟨hab, h1⟩, h2⟩ := hs
      subst hab
      subst h1; subst h2
      have hqa : q = a := by
        have l1 : a ≤ q := hx.1
        have l2 : q ≤ a := hx.2
        exact le_antisymm l2 l1
      subst hqa
      unfold Itv.cc76
      have e1 : cc76Lo stops (some q) y.lo = some q := by
        unfold cc76Lo
        cases hyl : y.lo with
        | none => rfl
        | some yl =>
          have : ¬ yl > q := by
            have := hy.1
            rw [hyl] at this
            simp only [loOK] at this
            split at this <;> linarith
          simp only [this, if_false]
      have e2 : cc76Hi stops (some q) y.hi = some q := by
        unfold cc76Hi
        cases hyu : y.hi with
        | none => rfl
        | some yu =>
          have : ¬ yu < q := by
            have := hy.2
            rw [hyu] at this
            simp only [hiOK] at this
            split at this <;> linarith
          simp only [this, if_false]
      simp only [e1, e2]

/-- hence the plain widening leaves that component alone … -/
theorem boxCC76_singleton_component (x y : BoxS) (tp : Option Nat) (k : Nat) (hkx : k < x.seq.length)
    (hky : k < y.seq.length) (hs : (x.seq[k]).isSingleton = true) (q : Rat) (hy : (y.seq[k]).mem q)
    (hx : (x.seq[k]).mem q) (hk : k < (boxCC76 x y tp).1.seq.length) :
    (boxCC76 x y tp).1.seq[k] = x.seq[k] := by
  have hstops : ∀ (hk' : k < (boxCC76Stops defaultStops x y).seq.length),
      (boxCC76Stops defaultStops x y).seq[k] = x.seq[k] := by
    intro hk'
    unfold boxCC76Stops at hk' ⊢
    split
    · rfl
    · show (List.zipWith (Itv.cc76 defaultStops) x.seq y.seq)[k]'(by
        rw [List.length_zipWith]; omega) = _
      rw [List.getElem_zipWith]
      exact Itv.cc76_singleton defaultStops _ _ hs q hy hx
  revert hk
  unfold boxCC76
  cases tp with
  | none => exact fun hk => hstops hk
  | some t =>
    simp only
    split
    · intro _; rfl
    · exact fun hk => hstops hk

/-- … and every point of the result of `limited_CC76_extrapolation_assign` has its `k`-th coordinate in the
receiver's (singleton) component: whatever constraint on variable `k` the receiver satisfies — an equality, or an
inequality that the singleton saturates, neither of which `get_limiting_box` selects — is satisfied by the result -/
theorem box_limited_cc76_singleton_harmless (sd : Nat) (cs : List LimCon) (x y : BoxS) (tp : Option Nat)
    (hl : x.seq.length ≠ 0) (hxe : x.markedEmpty = false) (hye : y.markedEmpty = false)
    (k : Nat) (hkx : k < x.seq.length) (hky : k < y.seq.length) (hs : (x.seq[k]).isSingleton = true) (q : Rat)
    (hy : (y.seq[k]).mem q) (hx : (x.seq[k]).mem q) (hk : k < (boxCC76 x y tp).1.seq.length)
    (p : Nat → Rat) (hp : BoxS.γ (boxLimitedCC76 sd cs x y tp).1 p) : (x.seq[k]).mem (p k) := by
  have h1 := (box_limited_cc76_between sd cs x y tp hl hxe hye p).2 hp
  have h2 := h1.2 k hk
  rw [boxCC76_singleton_component x y tp k hkx hky hs q hy hx hk] at h2
  exact h2

end PPLV.Widen

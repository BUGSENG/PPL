import PPLV.Widen.ImplH79ProofsEngineFacetPoints
import PPLV.Widen.ImplH79ProofsEngineFacetQ
import PPLV.Widen.ImplH79ProofsSem

/-!
# the engine's `minimize` as the minimisation step of the H79 chain

`engineMini n cs`: the rows `cs` of a closed constraint system of dimension `n`, with the positivity row in
front, minimised by the conversion engine model (`PPLV.Conv.minimize`) and read back through `ofEngine`.
For a non-empty `cs` the result satisfies the whole contract `MinimalDD` and denotes the same point set
(`engineMini_spec`); in particular after an H79 widening step (`engineMini_step`).
-/
namespace PPLV.Widen.Impl
open PPLV.Conv

/-- the rows handed to the engine: the positivity constraint, then `cs` -/
def toSource (n : Nat) (cs : List CRow) : List PPLV.Conv.LRow :=
  ⟨false, 1 :: List.replicate n 0⟩ :: cs.map fun c => (⟨c.eq, c.e⟩ : PPLV.Conv.LRow)

/-- `minimize()` of the engine model on `cs` (closed polyhedron of dimension `n`) -/
def engineMini (n : Nat) (cs : List CRow) : YMin :=
  ofEngine (PPLV.Conv.minimize true false (n + 1) (toSource n cs) [])

theorem ech_evalRow_replicate_zero : ∀ (k : Nat) (v : Nat → Rat), evalRow (List.replicate k 0) v = 0
  | 0, _ => rfl
  | k + 1, v => by simp [List.replicate_succ, evalRow, ech_evalRow_replicate_zero k]

theorem ech_getD0 {n : Nat} {d : Int} {v : Vec} {p : Pt} (h : RepZ n d v p) : v.getD 0 0 = d := by
  have h0 := h.2.2 0 (Nat.zero_le _)
  have h1 : hom n p 0 0 = 1 := by simp [hom]
  rw [h1, mul_one] at h0
  exact_mod_cast h0

theorem ech_toSource_length (n : Nat) (cs : List CRow) : (toSource n cs).length = cs.length + 1 := by
  simp [toSource]

theorem ech_toSource_rowlen (n : Nat) (cs : List CRow) (hwf : WFRows n cs) :
    ∀ s ∈ toSource n cs, s.v.length = n + 1 := by
  intro s hs
  unfold toSource at hs
  rcases List.mem_cons.mp hs with rfl | hs
  · simp
  · obtain ⟨c, hc, rfl⟩ := List.mem_map.mp hs
    exact hwf c hc

theorem ech_map_toC_toSource (n : Nat) (cs : List CRow) :
    (toSource n cs).map toC = (⟨1 :: List.replicate n 0, false⟩ : CRow) :: cs := by
  unfold toSource
  rw [List.map_cons, List.map_map]
  have h : (toC ∘ fun c : CRow => (⟨c.eq, c.e⟩ : PPLV.Conv.LRow)) = id := funext fun c => rfl
  rw [h, List.map_id]
  rfl

/-- a rational point against rows of the engine, through an integer representative -/
theorem ech_den_map_toC {n : Nat} {d : Int} {v : Vec} {p : Pt} (h : RepZ n d v p)
    (rows : List PPLV.Conv.LRow) (hlen : ∀ r ∈ rows, r.v.length ≤ n + 1) :
    p ∈ den false n (rows.map toC) ↔ holdsAll rows v := by
  rw [mem_den_false]
  constructor
  · intro hs r hr
    have h1 := hs (toC r) (List.mem_map_of_mem hr)
    rw [holds_iff_holdsZ h (toC r) (hlen r hr), holdsZ_toC] at h1
    exact h1
  · intro ha c hc
    obtain ⟨r, hr, rfl⟩ := List.mem_map.mp hc
    rw [holds_iff_holdsZ h (toC r) (hlen r hr), holdsZ_toC]
    exact ha r hr

/-- the positivity row does not change the point set -/
theorem ech_den_toSource (n : Nat) (cs : List CRow) :
    den false n ((toSource n cs).map toC) = den false n cs := by
  rw [ech_map_toC_toSource]
  ext p
  rw [mem_den_false, mem_den_false]
  unfold SatRows
  rw [List.forall_mem_cons]
  constructor
  · exact fun h => h.2
  · intro h
    refine ⟨?_, h⟩
    unfold CRow.holds
    simp [evalRow, ech_evalRow_replicate_zero, hom]

theorem ech_mem_den_iff_holdsAll {n : Nat} {d : Int} {v : Vec} {p : Pt} (h : RepZ n d v p)
    (cs : List CRow) (hwf : WFRows n cs) :
    p ∈ den false n cs ↔ holdsAll (toSource n cs) v := by
  rw [← ech_den_toSource n cs]
  exact ech_den_map_toC h _ fun r hr => le_of_eq (ech_toSource_rowlen n cs hwf r hr)

/-- step (1): a non-empty system is not reported empty -/
theorem ech_not_empty (n : Nat) (cs : List CRow) (hwf : WFRows n cs) (hsz : n + 1 < 2 ^ 64)
    (hlen : cs.length + 1 < 2 ^ 64) (hne : (den false n cs).Nonempty) :
    (PPLV.Conv.minimize true false (n + 1) (toSource n cs) []).empty = false := by
  obtain ⟨p, hp⟩ := hne
  obtain ⟨d, v, hrep⟩ := exists_repZ_of_pt n p
  have hall := (ech_mem_den_iff_holdsAll hrep cs hwf).mp hp
  cases hE : (PPLV.Conv.minimize true false (n + 1) (toSource n cs) []).empty with
  | false => rfl
  | true =>
    exfalso
    have hposx : ∀ x : Vec, x.length ≤ n + 1 → holdsAll (toSource n cs) x →
        0 ≤ x.getD (if false = true then n + 1 - 1 else 0) 0 := by
      intro x _ hx
      have h1 := hx _ (List.mem_cons_self (a := (⟨false, 1 :: List.replicate n 0⟩ : PPLV.Conv.LRow))
        (l := cs.map fun c => (⟨c.eq, c.e⟩ : PPLV.Conv.LRow)))
      unfold holds at h1
      simp only [Bool.false_eq_true, if_false] at h1
      rw [scalarProduct_unit0, headD_eq_getD] at h1
      simpa using h1
    have h2 := C01.minimize_empty_report_correct false (n + 1) (toSource n cs) [] hsz
      (by rw [ech_toSource_length]; exact hlen) hposx hE v (le_of_eq hrep.2.1) hall
    apply h2
    simp only [Bool.false_eq_true, if_false]
    rw [ech_getD0 hrep]
    exact hrep.1

/-- **`engineMini_spec`** — for a non-empty closed system the engine's `minimize` returns a triple that
satisfies `MinimalDD` and denotes the same point set. -/
theorem engineMini_spec (n : Nat) (cs : List CRow) (hwf : WFRows n cs) (hsz : n + 1 < 2 ^ 64)
    (hlen : cs.length + 1 < 2 ^ 64) (hne : (den false n cs).Nonempty) :
    MinimalDD n (engineMini n cs) ∧ den false n (engineMini n cs).conSys = den false n cs := by
  have hE := ech_not_empty n cs hwf hsz hlen hne
  have hsrc : (toSource n cs).length < 2 ^ 64 := by rw [ech_toSource_length]; exact hlen
  have hrow := ech_toSource_rowlen n cs hwf
  refine ⟨minimalDD_of_minimize n (toSource n cs) [] hsz hsrc hrow hE (List.mem_cons_self ..), ?_⟩
  ext p
  obtain ⟨d, v, hrep⟩ := exists_repZ_of_pt n p
  unfold engineMini
  rw [ofEngine_conSys,
    ech_den_map_toC hrep _ fun r hr => le_of_eq (minimize_source_length n _ [] hrow hE r hr),
    C01.minimize_same_set false (n + 1) (toSource n cs) [] hsz hsrc hE v (le_of_eq hrep.2.1),
    ← ech_mem_den_iff_holdsAll hrep cs hwf]

/-- **`engineMini_step`** — the minimisation after an H79 widening step: `h79Rows x y` are rows of `x`, and
their point set contains the non-empty `y`. -/
theorem engineMini_step (n : Nat) (x y : YMin) (hx : WFRows n x.conSys)
    (hyx : den false n y.conSys ⊆ den false n x.conSys)
    (hyne : (den false n y.conSys).Nonempty) (hsz : n + 1 < 2 ^ 64)
    (hlen : x.conSys.length + 1 < 2 ^ 64) :
    MinimalDD n (engineMini n (h79Rows x y)) ∧
    den false n (engineMini n (h79Rows x y)).conSys = den false n (h79Rows x y) := by
  have hsub := h79Rows_sublist x y
  apply engineMini_spec n (h79Rows x y) (wfRows_sublist hsub hx) hsz
  · have := hsub.length_le
    omega
  · obtain ⟨p, hp⟩ := hyne
    exact ⟨p, den_mono_sublist false n hsub (hyx hp)⟩

/-- non-vacuity: the segment `0 ≤ x ≤ 3`; the engine returns the two facets (positivity is redundant) -/
example : (engineMini 1 [⟨[0, 1], false⟩, ⟨[3, -1], false⟩]).conSys.length = 2 := by decide

example : MinimalDD 1 (engineMini 1 [⟨[0, 1], false⟩, ⟨[3, -1], false⟩]) ∧
    den false 1 (engineMini 1 [⟨[0, 1], false⟩, ⟨[3, -1], false⟩]).conSys
      = den false 1 [⟨[0, 1], false⟩, ⟨[3, -1], false⟩] :=
  engineMini_spec 1 _ (by intro c hc; simp at hc; rcases hc with rfl | rfl <;> rfl) (by norm_num)
    (by simp) ⟨fun _ => 1, by
      rw [mem_den_false]
      intro c hc
      simp at hc
      rcases hc with rfl | rfl <;> (unfold CRow.holds; simp [evalRow, hom]; try norm_num)⟩

end PPLV.Widen.Impl

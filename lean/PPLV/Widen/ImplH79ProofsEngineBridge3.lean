import PPLV.Widen.ImplH79ProofsEngineBridge2
import PPLV.Widen.ImplH79ProofsEngineBridgeEq
import PPLV.Widen.ImplH79ProofsEngineBridgeLen
import PPLV.Widen.ImplH79ProofsEngineBridgeLen2

/-!
# `EngineDD` is a THEOREM about the conversion engine model

`engineDD_of_minimize`: what `PPLV.Conv.minimize true false (n + 1) source sat0` (closed polyhedra,
constraints to generators; the model tied row for row to `Polyhedron::minimize` by property C01) returns,
read through `ofEngine`, satisfies every field of the contract `EngineDD n` that the H79 convergence
theorems of C08 assume about minimised systems — when it does not report "empty" and the source rows have
`n + 1` columns.  No hypothesis is left about the engine.

Fields and where they come from:
`wf` / `gwf` — `minimize_source_length` / `minimize_dest_length` (`…BridgeLen`, `…BridgeLen2`);
`satG_ok` — definition of `ofEngine`; `gens_in` — `C01.minimize_dest_sound` + `C01.minimize_same_set`;
`complete` — `C01.minimize_same_set` + `C01.conversion_complete`; `irred` — `C01.minimize_minimal_form` +
`minimize_source_le_iff` (`…BridgeEq`); `proper` — `minimize_proper` (`…BridgeEq`: equality detection);
`eqIndep` — `minimize_eq_indep` (`…BridgeIndep`: echelon form of `gauss` kept by `back_substitute`);
`hasPoint` — `minimize_hasPoint` + `LinesFirst` of `C01.conversion_dd_pair`.
-/
namespace PPLV.Widen.Impl
open PPLV.Conv

/-- **`engineDD_of_minimize`** — the contract `EngineDD` holds of the result of the engine's `minimize`. -/
theorem engineDD_of_minimize (n : Nat) (source : List PPLV.Conv.LRow) (sat0 : List PPLV.Conv.BRow)
    (hsz : n + 1 < 2 ^ 64) (hsrc : source.length < 2 ^ 64)
    (hlen : ∀ s ∈ source, s.v.length = n + 1)
    (hne : (PPLV.Conv.minimize true false (n + 1) source sat0).empty = false) :
    EngineDD n (ofEngine (PPLV.Conv.minimize true false (n + 1) source sat0)) :=
  engineDD_of_minimize_core n source sat0 hsz hsrc hne
    (minimize_source_length n source sat0 hlen hne)
    (minimize_dest_length n source sat0)
    (minimize_source_le_iff (n + 1) source sat0 hsz hsrc hne)
    (minimize_proper (n + 1) source sat0 hsz hsrc hne)

/-- non-vacuity: the segment `0 ≤ x ≤ 3` (`n = 1`; rows `d ≥ 0` is implied): `minimize` does not report
empty, and the hypotheses of `engineDD_of_minimize` hold. -/
example : EngineDD 1 (ofEngine (minimize true false 2 [⟨false, [0, 1]⟩, ⟨false, [3, -1]⟩] [])) :=
  engineDD_of_minimize 1 _ [] (by norm_num) (by simp) (by decide) (by decide)

example : (ofEngine (minimize true false 2 [⟨false, [0, 1]⟩, ⟨false, [3, -1]⟩] [])).conSys.length = 2 ∧
    (ofEngine (minimize true false 2 [⟨false, [0, 1]⟩, ⟨false, [3, -1]⟩] [])).genSys.length = 2 := by
  decide

end PPLV.Widen.Impl

import PPLV.Widen.ImplGridProofsCg2
import PPLV.Widen.ProofsCert
import Mathlib.Tactic.Linarith

/-!
# `Grid::select_wider_congruences` on a minimised system: what is selected, counted

Under the triangular form `Grid::simplify` establishes (`Final`): every equality of `x` is selected, the integrality
row (dimension 0) is never visited, so strictly fewer rows than `x` has are selected (the exit "all_selected" of
`congruence_widening_assign` is dead code) and the certificate of the widened grid is the one of `x` or smaller.
-/
namespace PPLV.Widen.ImplGrid
open PPLV.Lattice PPLV.Lattice.Red

/-! ### counting -/

theorem numEqualities_append (a b : List CRow) : numEqualities (a ++ b) = numEqualities a + numEqualities b := by
  simp [numEqualities]

theorem numProperCongruences_append (a b : List CRow) :
    numProperCongruences (a ++ b) = numProperCongruences a + numProperCongruences b := by
  simp [numProperCongruences]

theorem numEqualities_cons (r : CRow) (l : List CRow) :
    numEqualities (r :: l) = numEqualities [r] + numEqualities l :=
  numEqualities_append [r] l

theorem numProperCongruences_cons (r : CRow) (l : List CRow) :
    numProperCongruences (r :: l) = numProperCongruences [r] + numProperCongruences l :=
  numProperCongruences_append [r] l

theorem numEqualities_singleton (r : CRow) : numEqualities [r] = if r.isEquality = true then 1 else 0 := by
  cases h : r.isEquality <;> simp [numEqualities, h]

theorem numProperCongruences_singleton (r : CRow) :
    numProperCongruences [r] = if r.isProperCongruence = true then 1 else 0 := by
  cases h : r.isProperCongruence <;> simp [numProperCongruences, h]

/-! ### `strong_normalize` keeps the kind of a congruence -/

theorem strongNormalizeCg_m_eq_zero (r : CRow) : (strongNormalizeCg r).m = 0 ↔ r.m = 0 := by
  rw [strongNormalizeCg_eq]
  split
  · rename_i hg
    obtain ⟨q, hq⟩ := snDiv_dvd_m r
    show (normalizeCg r).m / snDiv r = 0 ↔ r.m = 0
    rw [hq, Int.mul_ediv_cancel_left _ hg.1]
    rw [normalizeCg_m] at hq
    rw [hq]
    constructor
    · intro h; rw [h]; ring
    · intro h
      rcases Int.mul_eq_zero.mp h with h | h
      · exact absurd h hg.1
      · exact h
  · rw [normalizeCg_m]

theorem strongNormalizeCg_isEquality (r : CRow) : (strongNormalizeCg r).isEquality = r.isEquality := by
  unfold CRow.isEquality
  rw [Bool.eq_iff_iff]
  simp only [beq_iff_eq]
  exact strongNormalizeCg_m_eq_zero r

theorem strongNormalizeCg_isProperCongruence (r : CRow) (hm : 0 ≤ r.m) :
    (strongNormalizeCg r).isProperCongruence = r.isProperCongruence := by
  unfold CRow.isProperCongruence
  rw [Bool.eq_iff_iff]
  simp only [decide_eq_true_eq, gt_iff_lt]
  have h1 := strongNormalizeCg_m_nonneg r hm
  have h2 := strongNormalizeCg_m_eq_zero r
  constructor
  · intro h
    have : r.m ≠ 0 := fun e => by rw [h2.mpr e] at h; exact absurd h (lt_irrefl _)
    omega
  · intro h
    have : (strongNormalizeCg r).m ≠ 0 := fun e => by rw [h2.mp e] at h; exact absurd h (lt_irrefl _)
    omega

theorem numEqualities_strongNormalizeCg (r : CRow) :
    numEqualities [strongNormalizeCg r] = numEqualities [r] := by
  rw [numEqualities_singleton, numEqualities_singleton, strongNormalizeCg_isEquality]

theorem numProperCongruences_strongNormalizeCg (r : CRow) (hm : 0 ≤ r.m) :
    numProperCongruences [strongNormalizeCg r] = numProperCongruences [r] := by
  rw [numProperCongruences_singleton, numProperCongruences_singleton, strongNormalizeCg_isProperCongruence r hm]

/-! ### the loop on a triangular system -/

theorem takeDrop_cons (xs : List CRow) (j : Nat) (h : j + 1 < xs.length) :
    (xs.take (xs.length - 1)).drop j = rowAt xs j :: (xs.take (xs.length - 1)).drop (j + 1) := by
  have hl : j < (xs.take (xs.length - 1)).length := by simp; omega
  rw [List.drop_eq_getElem_cons hl]
  congr 1
  rw [List.getElem_take, rowAt_eq_getElem xs j (by omega)]

/-- the loop of `select_wider_congruences` from dimension `d` down, the row counter standing at the first row whose
    pivot dimension is `≤ d`: with `R` the rows from there to the last but one, every equality of `R` is appended,
    and `dr` proper congruences of `R` are not -/
theorem selectWiderCongruencesLoop_counts (n : Nat) (xs : List CRow) (xdk : List Nat) (ys : List CRow) (ydk : List Nat)
    (p : Nat → Nat) (hI : Inv n xs xdk p xs.length 0) (hlast : p (xs.length - 1) = 0) (hpos : 0 < xs.length) :
    ∀ (d xRow yRow : Nat) (sel : List CRow), d ≤ n → (∀ i, i < xs.length → (i < xRow ↔ d < p i)) →
      ∃ dr : Nat,
        numEqualities (selectWiderCongruencesLoop xs xdk ys ydk d xRow yRow sel) =
          numEqualities sel + numEqualities ((xs.take (xs.length - 1)).drop xRow) ∧
        numProperCongruences (selectWiderCongruencesLoop xs xdk ys ydk d xRow yRow sel) + dr =
          numProperCongruences sel + numProperCongruences ((xs.take (xs.length - 1)).drop xRow) ∧
        (selectWiderCongruencesLoop xs xdk ys ydk d xRow yRow sel).length + dr =
          sel.length + ((xs.take (xs.length - 1)).drop xRow).length := by
  intro d
  induction d with
  | zero =>
    intro xRow yRow sel _ hinv
    have hge : xs.length - 1 ≤ xRow := by
      by_contra hc
      have hx : xRow < xs.length - 1 := by omega
      have := hI.kinv.anti xRow (xs.length - 1) hx (by omega)
      have := (hinv xRow (by omega)).mpr (by omega)
      omega
    have hnil : (xs.take (xs.length - 1)).drop xRow = [] := by
      apply List.drop_eq_nil_of_le; simp; omega
    refine ⟨0, ?_⟩
    rw [hnil]
    simp [selectWiderCongruencesLoop, numEqualities, numProperCongruences]
  | succ d ih =>
    intro xRow yRow sel hd hinv
    by_cases hnv : kind xdk (d + 1) = CON_VIRTUAL
    · -- a virtual dimension: no row
      have hno : ∀ i, i < xs.length → p i ≠ d + 1 := by
        intro i hi e
        exact (hI.kinv.nv (d + 1) (by omega) (by omega)).mpr ⟨i, hi, e⟩ hnv
      have hloop : selectWiderCongruencesLoop xs xdk ys ydk (d + 1) xRow yRow sel =
          selectWiderCongruencesLoop xs xdk ys ydk d xRow
            (if kind ydk (d + 1) ≠ CON_VIRTUAL then yRow + 1 else yRow) sel := by
        rw [selectWiderCongruencesLoop]
        simp [hnv, CON_VIRTUAL, PROPER_CONGRUENCE, EQUALITY]
      rw [hloop]
      exact ih xRow _ sel (by omega) (fun i hi => by
        have := hinv i hi; have := hno i hi; omega)
    · obtain ⟨i, hi, hpi⟩ := (hI.kinv.nv (d + 1) (by omega) (by omega)).mp hnv
      -- the row of dimension `d + 1` is the row the counter stands at
      have hix : i = xRow := by
        have h1 : ¬ i < xRow := fun h => by have := (hinv i hi).mp h; omega
        by_contra hne
        have hlt : xRow < i := by omega
        have := hI.kinv.anti xRow i hlt hi
        have := (hinv xRow (by omega)).mpr (by omega)
        omega
      subst hix
      have hne1 : i ≠ xs.length - 1 := fun e => by rw [e] at hpi; omega
      have hi1 : i + 1 < xs.length := by omega
      have hinv' : ∀ j, j < xs.length → (j < i + 1 ↔ d < p j) := by
        intro j hj
        have := hinv j hj
        by_cases e : j = i
        · subst e; omega
        · by_cases e2 : j < i
          · omega
          · have := hI.kinv.anti i j (by omega) hj
            omega
      have hpiv := hI.piv i hi
      rw [hpi] at hpiv
      have hm0 : 0 ≤ (rowAt xs i).m := (hI.wf i hi).2
      have hR := takeDrop_cons xs i hi1
      -- the row is visited; `keep` tells whether its normalised copy is appended: always for an equality
      obtain ⟨keep, hloop, hkeep⟩ : ∃ keep : Bool,
          selectWiderCongruencesLoop xs xdk ys ydk (d + 1) i yRow sel =
            selectWiderCongruencesLoop xs xdk ys ydk d (i + 1) (yRow + 1)
              (if keep = true then sel ++ [strongNormalizeCg (rowAt xs i)] else sel) ∧
          (keep = false → 0 < (rowAt xs i).m) := by
        rcases hpiv.kindok with ⟨hm, hk⟩ | ⟨hm, hk⟩
        · refine ⟨true, ?_, fun h => nomatch h⟩
          rw [selectWiderCongruencesLoop]
          simp [hk, PROPER_CONGRUENCE, EQUALITY]
        · refine ⟨cgIsEqualAtDimension (rowAt xs i) (d + 1) (rowAt ys yRow), ?_, fun _ => hm⟩
          rw [selectWiderCongruencesLoop]
          simp only [hk, if_true]
      rw [hloop, hR, numEqualities_cons, numProperCongruences_cons, List.length_cons]
      cases keep
      · -- a proper congruence that is dropped
        obtain ⟨dr, e1, e2, e3⟩ := ih (i + 1) (yRow + 1) sel (by omega) hinv'
        have hm := hkeep rfl
        have q1 : numEqualities [rowAt xs i] = 0 := by
          rw [numEqualities_singleton, CRow.isEquality, if_neg (by simpa using ne_of_gt hm)]
        have q2 : numProperCongruences [rowAt xs i] = 1 := by
          rw [numProperCongruences_singleton, CRow.isProperCongruence, if_pos (by simpa using hm)]
        rw [if_neg Bool.false_ne_true]
        exact ⟨dr + 1, by omega, by omega, by omega⟩
      · obtain ⟨dr, e1, e2, e3⟩ := ih (i + 1) (yRow + 1) (sel ++ [strongNormalizeCg (rowAt xs i)]) (by omega) hinv'
        rw [numEqualities_append, numEqualities_strongNormalizeCg] at e1
        rw [numProperCongruences_append, numProperCongruences_strongNormalizeCg _ hm0] at e2
        rw [List.length_append, List.length_singleton] at e3
        rw [if_pos rfl]
        exact ⟨dr, by omega, by omega, by omega⟩

/-- the selection on a minimised system, counted: `dr` proper congruences (besides the integrality row) are dropped -/
theorem selectWiderCongruences_counts_dr (n : Nat) (xs : List CRow) (xdk : List Nat) (ys : List CRow) (ydk : List Nat)
    (hfin : Final n xs xdk) :
    ∃ dr : Nat,
      numEqualities (selectWiderCongruences n xs xdk ys ydk) = numEqualities xs ∧
      numProperCongruences (selectWiderCongruences n xs xdk ys ydk) + dr + 1 = numProperCongruences xs ∧
      (selectWiderCongruences n xs xdk ys ydk).length + dr + 1 = xs.length := by
  obtain ⟨p, mm, hI, hmm, hlastrow, hk0⟩ := hfin
  have hcv : kind xdk 0 ≠ CON_VIRTUAL := by rw [hk0]; decide
  obtain ⟨hpos, hp0⟩ := hI.kinv.last0 (by omega) hcv
  obtain ⟨dr, e1, e2, e3⟩ := selectWiderCongruencesLoop_counts n xs xdk ys ydk p hI hp0 hpos n 0 0 [] (le_refl _)
    (fun i hi => by have := (hI.kinv.rng i hi).2; omega)
  -- the system is its first `length - 1` rows and the integrality row
  have hsplit : xs = xs.take (xs.length - 1) ++ [integralityRow n mm] := by
    rw [← hlastrow]
    have h1 : xs = xs.take (xs.length - 1) ++ xs.drop (xs.length - 1) := (List.take_append_drop _ _).symm
    have h2 : xs.drop (xs.length - 1) = [rowAt xs (xs.length - 1)] := by
      rw [List.drop_eq_getElem_cons (by omega), rowAt_eq_getElem xs _ (by omega)]
      congr 1
      apply List.drop_eq_nil_of_le; omega
    rw [← h2]; exact h1
  have c1 : numEqualities xs = numEqualities (xs.take (xs.length - 1)) := by
    conv_lhs => rw [hsplit]
    rw [numEqualities_append]
    have : (integralityRow n mm).isEquality = false := by
      simp [CRow.isEquality, integralityRow]; omega
    simp [numEqualities, this]
  have c2 : numProperCongruences xs = numProperCongruences (xs.take (xs.length - 1)) + 1 := by
    conv_lhs => rw [hsplit]
    rw [numProperCongruences_append]
    have : (integralityRow n mm).isProperCongruence = true := by
      simp [CRow.isProperCongruence, integralityRow, hmm]
    simp [numProperCongruences, this]
  simp only [List.drop_zero, List.length_take] at e1 e2 e3
  refine ⟨dr, ?_, ?_, ?_⟩
  · show numEqualities (selectWiderCongruencesLoop xs xdk ys ydk n 0 0 []) = _
    rw [e1, c1]; simp [numEqualities]
  · show numProperCongruences (selectWiderCongruencesLoop xs xdk ys ydk n 0 0 []) + dr + 1 = _
    rw [e2, c2]; simp [numProperCongruences]
  · show (selectWiderCongruencesLoop xs xdk ys ydk n 0 0 []).length + dr + 1 = _
    rw [e3]; simp; omega

/-- every equality is selected, the integrality row never is, and a shorter selection has lost proper congruences -/
theorem selectWiderCongruences_counts (n : Nat) (xs : List CRow) (xdk : List Nat) (ys : List CRow) (ydk : List Nat)
    (hfin : Final n xs xdk) :
    let sel := selectWiderCongruences n xs xdk ys ydk
    numEqualities sel = numEqualities xs ∧ numProperCongruences sel + 1 ≤ numProperCongruences xs ∧
      sel.length + 1 ≤ xs.length ∧
      (sel.length + 1 < xs.length → numProperCongruences sel + 1 < numProperCongruences xs) := by
  intro sel
  obtain ⟨dr, e1, e2, e3⟩ := selectWiderCongruences_counts_dr n xs xdk ys ydk hfin
  refine ⟨e1, ?_, ?_, ?_⟩
  · show numProperCongruences (selectWiderCongruences n xs xdk ys ydk) + 1 ≤ _; omega
  · show (selectWiderCongruences n xs xdk ys ydk).length + 1 ≤ _; omega
  · show (selectWiderCongruences n xs xdk ys ydk).length + 1 < _ →
      numProperCongruences (selectWiderCongruences n xs xdk ys ydk) + 1 < _
    omega

/-- the test `selected_cgs.num_rows() == x.con_sys.num_rows()` (l.133) is never true on a minimised `x` -/
theorem selectWiderCongruences_length_ne (n : Nat) (xs : List CRow) (xdk : List Nat) (ys : List CRow) (ydk : List Nat)
    (hfin : Final n xs xdk) : (selectWiderCongruences n xs xdk ys ydk).length ≠ xs.length := by
  have := (selectWiderCongruences_counts n xs xdk ys ydk hfin).2.2.1
  omega

/-! ### the exit "all_selected" is dead code -/

/-- the minimisation preamble establishes the triangular form when it has to minimise -/
theorem minimizeCongruences_final (g : GridM) (hup : g.cgUp = true) (hwf : CWf g.n g.con) (hmin : g.cgMin = false)
    (hne : (g.minimizeCongruences).2 = false) :
    Final g.n (g.minimizeCongruences).1.con (g.minimizeCongruences).1.dk := by
  have htri := simplifyCgs_triangular g.n g.con g.dk hwf
  by_cases hf : (simplifyCgs g.n g.con g.dk).2.2 = true
  · have e : g.minimizeCongruences = (g.setEmpty, true) := by
      unfold GridM.minimizeCongruences; simp [hup, hmin, hf]
    rw [e] at hne; cases hne
  · have hf' : (simplifyCgs g.n g.con g.dk).2.2 = false := by simpa using hf
    have e : g.minimizeCongruences =
        (({ g with con := (simplifyCgs g.n g.con g.dk).1, dk := (simplifyCgs g.n g.con g.dk).2.1, cgMin := true } : GridM),
          false) := by
      unfold GridM.minimizeCongruences; simp [hup, hmin, hf']
    rw [e]
    exact htri hf'

theorem congruenceWideningAssign_all_selected_dead (contains : GridM → GridM → Bool) (x y : GridM) (tp : Option Nat)
    (hfin : Final (x.minimizeCongruences).1.n (x.minimizeCongruences).1.con (x.minimizeCongruences).1.dk) :
    (congruenceWideningAssign contains x y tp).2.2.2 ≠ "all_selected" := by
  have hall := selectWiderCongruences_length_ne (x.minimizeCongruences).1.n (x.minimizeCongruences).1.con
    (x.minimizeCongruences).1.dk (y.minimizeCongruences).1.con (y.minimizeCongruences).1.dk hfin
  by_cases h0 : x.n = 0 ∨ x.empty = true ∨ y.empty = true
  · rw [congruenceWideningAssign_trivial _ _ _ _ h0]; simp
  by_cases hx : (x.minimizeCongruences).2 = true
  · rw [congruenceWideningAssign_x_empty _ _ _ _ h0 hx]; simp
  have hx' : (x.minimizeCongruences).2 = false := by simpa using hx
  by_cases hy : (y.minimizeCongruences).2 = true
  · rw [congruenceWideningAssign_y_empty _ _ _ _ h0 hx' hy]; simp
  have hy' : (y.minimizeCongruences).2 = false := by simpa using hy
  by_cases hlt : numEqualities (x.minimizeCongruences).1.con < numEqualities (y.minimizeCongruences).1.con
  · rw [congruenceWideningAssign_fewer_equalities _ _ _ _ h0 hx' hy' hlt]; simp
  rcases tp with _ | _ | t
  · rw [congruenceWideningAssign_widened _ _ _ _ (Or.inl rfl) h0 hx' hy' hlt hall]; simp
  · rw [congruenceWideningAssign_widened _ _ _ _ (Or.inr rfl) h0 hx' hy' hlt hall]; simp
  · rw [congruenceWideningAssign_tokens _ _ _ _ h0 hx' hy' hlt hall]
    split <;> simp

/-! ### the certificate -/

/-- `Grid_Certificate` of a minimised congruence system -/
def certOfRows (rows : List CRow) : GridCert :=
  { numEqualities := numEqualities rows, numProperCongruences := numProperCongruences rows }

theorem certOfRows_result (n : Nat) (cgs : List CRow) :
    certOfRows ((universeGrid n).addRecycledCongruences cgs).con =
      { numEqualities := numEqualities cgs, numProperCongruences := numProperCongruences cgs + 1 } := by
  rw [addRecycledCongruences_universe_con]
  unfold certOfRows
  have h1 : (integralityRow n 1).isEquality = false := by simp [CRow.isEquality, integralityRow]
  have h2 : (integralityRow n 1).isProperCongruence = true := by simp [CRow.isProperCongruence, integralityRow]
  rw [numEqualities_cons, numProperCongruences_cons, numEqualities_singleton, numProperCongruences_singleton,
    h1, h2, if_neg Bool.false_ne_true, if_pos rfl, Nat.zero_add, Nat.add_comm 1]

/-- a congruence was dropped: the certificate of `result` is strictly smaller than the one of `x` -/
theorem cgw_certificate_decreases (n : Nat) (xs : List CRow) (xdk : List Nat) (ys : List CRow) (ydk : List Nat)
    (hfin : Final n xs xdk) (hdrop : (selectWiderCongruences n xs xdk ys ydk).length + 1 < xs.length) :
    GridCert.compare (certOfRows ((universeGrid n).addRecycledCongruences (selectWiderCongruences n xs xdk ys ydk)).con)
      (certOfRows xs) = .lt := by
  obtain ⟨dr, e1, e2, e3⟩ := selectWiderCongruences_counts_dr n xs xdk ys ydk hfin
  rw [certOfRows_result, GridCert.compare_lt]
  right
  simp only [certOfRows]
  exact ⟨e1, by omega⟩

/-- nothing was dropped but the integrality row, which the universe brings back: the same certificate -/
theorem cgw_certificate_keeps (n : Nat) (xs : List CRow) (xdk : List Nat) (ys : List CRow) (ydk : List Nat)
    (hfin : Final n xs xdk) (hkeep : (selectWiderCongruences n xs xdk ys ydk).length + 1 = xs.length) :
    certOfRows ((universeGrid n).addRecycledCongruences (selectWiderCongruences n xs xdk ys ydk)).con = certOfRows xs := by
  obtain ⟨dr, e1, e2, e3⟩ := selectWiderCongruences_counts_dr n xs xdk ys ydk hfin
  rw [certOfRows_result]
  simp only [certOfRows]
  rw [e1]
  congr 1
  omega

/-! ### examples -/

/-- the hypothesis `Final` holds of what `Grid::simplify` returns -/
example : Final 2 (simplifyCgs 2 exRows []).1 (simplifyCgs 2 exRows []).2.1 :=
  simplifyCgs_triangular 2 exRows [] (by
    intro r hr
    simp only [exRows, List.mem_cons, List.not_mem_nil, or_false] at hr
    rcases hr with rfl | rfl | rfl <;> exact ⟨rfl, by decide⟩) (by decide +kernel)

/-- `exX` against `exY`: of the two proper congruences besides the integrality row one is dropped -/
example : (selectWiderCongruences 2 exX.con exX.dk exY.con exY.dk).length + 1 < exX.con.length := by decide +kernel
example : GridCert.compare (certOfRows (cgwResult exX exY).con) (certOfRows exX.con) = .lt := by decide +kernel
/-- against itself nothing is dropped: the same certificate -/
example : certOfRows (cgwResult exX exX).con = certOfRows exX.con := by decide +kernel

end PPLV.Widen.ImplGrid

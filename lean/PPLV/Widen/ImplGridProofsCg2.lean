import PPLV.Widen.ImplGridProofsCg
import PPLV.Lattice.ProofsRedCgLoop
import PPLV.Lattice.ProofsRedCgConv

/-!
# `Grid::congruence_widening_assign`: the object level of the congruence path

* the minimisation preamble keeps the meaning (`minimizeCongruences_spec`);
* every exit of `congruence_widening_assign` with a null token pointer returns a grid that contains `x`
  (`congruenceWideningAssign_contains_x`);
* the early returns (`congruenceWideningAssign_fewer_equalities`, `congruenceWideningAssign_all_selected`) and the
  widening exit (`congruenceWideningAssign_widened`) as equations;
* what a token changes (`congruenceWideningAssign_token`).
-/
namespace PPLV.Widen.ImplGrid
open PPLV.Lattice PPLV.Lattice.Red

/-! ### the minimisation preamble -/

/-- "Ensure that the congruences are in minimal form" on a grid whose congruences are up to date: when the grid is
    not found empty only `con_sys`, `dim_kinds` and the minimised flag change, the rows keep their shape and the
    system keeps its meaning; when it is found empty the system has no solution -/
theorem minimizeCongruences_spec (g : GridM) (hup : g.cgUp = true) (hwf : CWf g.n g.con) :
    ((g.minimizeCongruences).2 = false →
      (g.minimizeCongruences).1.n = g.n ∧ (g.minimizeCongruences).1.empty = g.empty ∧
      (g.minimizeCongruences).1.cgUp = true ∧ CWf g.n (g.minimizeCongruences).1.con ∧
      ∀ p, cgsSem g.n (g.minimizeCongruences).1.con p ↔ cgsSem g.n g.con p) ∧
    ((g.minimizeCongruences).2 = true → ∀ p, ¬ cgsSem g.n g.con p) := by
  obtain ⟨hp1, hp2⟩ := simplifyCgs_preserves g.n g.con g.dk hwf
  have htri := simplifyCgs_triangular g.n g.con g.dk hwf
  by_cases hmin : g.cgMin = true
  · have e : g.minimizeCongruences = (g, false) := by
      unfold GridM.minimizeCongruences; simp [hup, hmin]
    rw [e]
    exact ⟨fun _ => ⟨rfl, rfl, hup, hwf, fun p => Iff.rfl⟩, fun h => by simp at h⟩
  · have hmin' : g.cgMin = false := by simpa using hmin
    by_cases hf : (simplifyCgs g.n g.con g.dk).2.2 = true
    · have e : g.minimizeCongruences = (g.setEmpty, true) := by
        unfold GridM.minimizeCongruences; simp [hup, hmin', hf]
      rw [e]
      exact ⟨fun h => by simp at h, fun _ => hp2 hf⟩
    · have hf' : (simplifyCgs g.n g.con g.dk).2.2 = false := by simpa using hf
      have e : g.minimizeCongruences =
          (({ g with con := (simplifyCgs g.n g.con g.dk).1, dk := (simplifyCgs g.n g.con g.dk).2.1, cgMin := true } : GridM),
            false) := by
        unfold GridM.minimizeCongruences; simp [hup, hmin', hf']
      rw [e]
      exact ⟨fun _ => ⟨rfl, rfl, hup, cgc_final_cwf (htri hf'), hp1 hf'⟩, fun h => by simp at h⟩

/-- the meaning of `x` after the preamble -/
theorem minimizeCongruences_sem (n : Nat) (g : GridM) (hup : g.cgUp = true) (hn : g.n = n) (hwf : CWf n g.con)
    (hne : (g.minimizeCongruences).2 = false) :
    ∀ p, cgsSem n (g.minimizeCongruences).1.con p ↔ cgsSem n g.con p := by
  subst hn
  exact ((minimizeCongruences_spec g hup hwf).1 hne).2.2.2.2

/-! ### the exits as equations -/

theorem congruenceWideningAssign_trivial (contains : GridM → GridM → Bool) (x y : GridM) (tp : Option Nat)
    (h : x.n = 0 ∨ x.empty = true ∨ y.empty = true) :
    congruenceWideningAssign contains x y tp = (x, y, tp, "trivial") := by
  unfold congruenceWideningAssign
  rw [if_pos h]

theorem congruenceWideningAssign_x_empty (contains : GridM → GridM → Bool) (x y : GridM) (tp : Option Nat)
    (h0 : ¬ (x.n = 0 ∨ x.empty = true ∨ y.empty = true)) (hx : (x.minimizeCongruences).2 = true) :
    congruenceWideningAssign contains x y tp = ((x.minimizeCongruences).1, y, tp, "x_empty") := by
  unfold congruenceWideningAssign
  rw [if_neg h0]
  simp only [hx, if_true]

theorem congruenceWideningAssign_y_empty (contains : GridM → GridM → Bool) (x y : GridM) (tp : Option Nat)
    (h0 : ¬ (x.n = 0 ∨ x.empty = true ∨ y.empty = true)) (hx : (x.minimizeCongruences).2 = false)
    (hy : (y.minimizeCongruences).2 = true) :
    congruenceWideningAssign contains x y tp =
      ((x.minimizeCongruences).1, (y.minimizeCongruences).1, tp, "y_empty") := by
  unfold congruenceWideningAssign
  rw [if_neg h0]
  simp only [hx, hy, Bool.false_eq_true, if_false, if_true]

/-- the early return "the number of equalities in `x` is smaller" (l.123) -/
theorem congruenceWideningAssign_fewer_equalities (contains : GridM → GridM → Bool) (x y : GridM) (tp : Option Nat)
    (h0 : ¬ (x.n = 0 ∨ x.empty = true ∨ y.empty = true)) (hx : (x.minimizeCongruences).2 = false)
    (hy : (y.minimizeCongruences).2 = false)
    (hlt : numEqualities (x.minimizeCongruences).1.con < numEqualities (y.minimizeCongruences).1.con) :
    congruenceWideningAssign contains x y tp =
      ((x.minimizeCongruences).1, (y.minimizeCongruences).1, tp, "fewer_equalities") := by
  unfold congruenceWideningAssign
  rw [if_neg h0]
  simp only [hx, hy, Bool.false_eq_true, if_false, hlt, if_true]

/-- the early return "all the congruences were selected" (l.133) -/
theorem congruenceWideningAssign_all_selected (contains : GridM → GridM → Bool) (x y : GridM) (tp : Option Nat)
    (h0 : ¬ (x.n = 0 ∨ x.empty = true ∨ y.empty = true)) (hx : (x.minimizeCongruences).2 = false)
    (hy : (y.minimizeCongruences).2 = false)
    (hlt : ¬ numEqualities (x.minimizeCongruences).1.con < numEqualities (y.minimizeCongruences).1.con)
    (hall : (selectWiderCongruences (x.minimizeCongruences).1.n (x.minimizeCongruences).1.con
        (x.minimizeCongruences).1.dk (y.minimizeCongruences).1.con (y.minimizeCongruences).1.dk).length
          = (x.minimizeCongruences).1.con.length) :
    congruenceWideningAssign contains x y tp =
      ((x.minimizeCongruences).1, (y.minimizeCongruences).1, tp, "all_selected") := by
  unfold congruenceWideningAssign
  rw [if_neg h0]
  simp only [hx, hy, Bool.false_eq_true, if_false, hlt, hall, if_true]

/-- the grid `congruence_widening_assign` builds from the selected congruences -/
def cgwResult (x y : GridM) : GridM :=
  (universeGrid (x.minimizeCongruences).1.n).addRecycledCongruences
    (selectWiderCongruences (x.minimizeCongruences).1.n (x.minimizeCongruences).1.con
      (x.minimizeCongruences).1.dk (y.minimizeCongruences).1.con (y.minimizeCongruences).1.dk)

/-- the exit that widens: no token, or a null token pointer, or a token count of 0 -/
theorem congruenceWideningAssign_widened (contains : GridM → GridM → Bool) (x y : GridM) (tp : Option Nat)
    (htp : tp = none ∨ tp = some 0)
    (h0 : ¬ (x.n = 0 ∨ x.empty = true ∨ y.empty = true)) (hx : (x.minimizeCongruences).2 = false)
    (hy : (y.minimizeCongruences).2 = false)
    (hlt : ¬ numEqualities (x.minimizeCongruences).1.con < numEqualities (y.minimizeCongruences).1.con)
    (hall : (selectWiderCongruences (x.minimizeCongruences).1.n (x.minimizeCongruences).1.con
        (x.minimizeCongruences).1.dk (y.minimizeCongruences).1.con (y.minimizeCongruences).1.dk).length
          ≠ (x.minimizeCongruences).1.con.length) :
    congruenceWideningAssign contains x y tp = (cgwResult x y, (y.minimizeCongruences).1, tp, "widened") := by
  unfold congruenceWideningAssign
  rw [if_neg h0]
  simp only [hx, hy, Bool.false_eq_true, if_false, hlt, hall]
  rcases htp with rfl | rfl <;> rfl

/-- the exit with a positive token count: `x` (minimised) is kept, a token is used iff `result` is not contained -/
theorem congruenceWideningAssign_tokens (contains : GridM → GridM → Bool) (x y : GridM) (t : Nat)
    (h0 : ¬ (x.n = 0 ∨ x.empty = true ∨ y.empty = true)) (hx : (x.minimizeCongruences).2 = false)
    (hy : (y.minimizeCongruences).2 = false)
    (hlt : ¬ numEqualities (x.minimizeCongruences).1.con < numEqualities (y.minimizeCongruences).1.con)
    (hall : (selectWiderCongruences (x.minimizeCongruences).1.n (x.minimizeCongruences).1.con
        (x.minimizeCongruences).1.dk (y.minimizeCongruences).1.con (y.minimizeCongruences).1.dk).length
          ≠ (x.minimizeCongruences).1.con.length) :
    congruenceWideningAssign contains x y (some (t + 1)) =
      if contains (x.minimizeCongruences).1 (cgwResult x y) = true
      then ((x.minimizeCongruences).1, (y.minimizeCongruences).1, some (t + 1), "token_kept")
      else ((x.minimizeCongruences).1, (y.minimizeCongruences).1, some t, "token_used") := by
  unfold congruenceWideningAssign
  rw [if_neg h0]
  simp only [hx, hy, Bool.false_eq_true, if_false, hlt, hall]
  unfold cgwResult
  cases contains (x.minimizeCongruences).1 ((universeGrid (x.minimizeCongruences).1.n).addRecycledCongruences
    (selectWiderCongruences (x.minimizeCongruences).1.n (x.minimizeCongruences).1.con
      (x.minimizeCongruences).1.dk (y.minimizeCongruences).1.con (y.minimizeCongruences).1.dk)) <;> simp

/-! ### the result contains `x` -/

theorem addRecycledCongruences_universe_flags (n : Nat) (cgs : List CRow) :
    ((universeGrid n).addRecycledCongruences cgs).empty = false ∧
    ((universeGrid n).addRecycledCongruences cgs).cgUp = true ∧
    ((universeGrid n).addRecycledCongruences cgs).n = n := by
  unfold GridM.addRecycledCongruences
  cases cgs with
  | nil => simp [universeGrid]
  | cons a l => simp [universeGrid]

/-- `x.congruence_widening_assign(y)` (null token pointer): whatever exit is taken, the grid assigned to `x` is
    non-empty, has its congruences up to date and contains every point of `x` -/
theorem congruenceWideningAssign_contains_x (contains : GridM → GridM → Bool) (n : Nat) (x y : GridM)
    (hxup : x.cgUp = true) (_hyup : y.cgUp = true) (hxn : x.n = n) (hyn : y.n = n)
    (hxwf : CWf n x.con) (hywf : CWf n y.con) (hxe : x.empty = false) (hye : y.empty = false) (hn : 0 < n) :
    let r := congruenceWideningAssign contains x y none
    ∀ p, cgsSem n x.con p → (r.1.empty = false ∧ r.1.cgUp = true ∧ cgsSem n r.1.con p) := by
  intro r p hp
  subst hxn
  have h0 : ¬ (x.n = 0 ∨ x.empty = true ∨ y.empty = true) := by
    rw [hxe, hye]; simp; omega
  obtain ⟨hs1, hs2⟩ := minimizeCongruences_spec x hxup hxwf
  by_cases hx : (x.minimizeCongruences).2 = true
  · exact absurd hp (hs2 hx p)
  · have hx' : (x.minimizeCongruences).2 = false := by simpa using hx
    obtain ⟨hmn, hme, hmup, hmwf, hmsem⟩ := hs1 hx'
    have keep : (x.minimizeCongruences).1.empty = false ∧ (x.minimizeCongruences).1.cgUp = true ∧
        cgsSem x.n (x.minimizeCongruences).1.con p := ⟨by rw [hme, hxe], hmup, (hmsem p).mpr hp⟩
    by_cases hy : (y.minimizeCongruences).2 = true
    · have : r = _ := congruenceWideningAssign_y_empty contains x y none h0 hx' hy
      rw [this]; exact keep
    · have hy' : (y.minimizeCongruences).2 = false := by simpa using hy
      by_cases hlt : numEqualities (x.minimizeCongruences).1.con < numEqualities (y.minimizeCongruences).1.con
      · have : r = _ := congruenceWideningAssign_fewer_equalities contains x y none h0 hx' hy' hlt
        rw [this]; exact keep
      · by_cases hall : (selectWiderCongruences (x.minimizeCongruences).1.n (x.minimizeCongruences).1.con
            (x.minimizeCongruences).1.dk (y.minimizeCongruences).1.con (y.minimizeCongruences).1.dk).length
              = (x.minimizeCongruences).1.con.length
        · have : r = _ := congruenceWideningAssign_all_selected contains x y none h0 hx' hy' hlt hall
          rw [this]; exact keep
        · have : r = _ := congruenceWideningAssign_widened contains x y none (Or.inl rfl) h0 hx' hy' hlt hall
          rw [this]
          obtain ⟨f1, f2, _⟩ := addRecycledCongruences_universe_flags (x.minimizeCongruences).1.n
            (selectWiderCongruences (x.minimizeCongruences).1.n (x.minimizeCongruences).1.con
              (x.minimizeCongruences).1.dk (y.minimizeCongruences).1.con (y.minimizeCongruences).1.dk)
          refine ⟨f1, f2, ?_⟩
          have := cgw_result_contains (x.minimizeCongruences).1.n (x.minimizeCongruences).1.con
            (x.minimizeCongruences).1.dk (y.minimizeCongruences).1.con (y.minimizeCongruences).1.dk
            p (by rw [hmn]; exact keep.2.2)
          rw [hmn] at this
          show cgsSem x.n (cgwResult x y).con p
          unfold cgwResult
          rw [hmn]; exact this

/-! ### tokens -/

/-- what a positive token count changes: nothing but the count on every exit that does not widen; where the plain
    call widens, `x` (minimised) is kept and one token is used iff `result` is not contained in it -/
theorem congruenceWideningAssign_token (contains : GridM → GridM → Bool) (x y : GridM) (t : Nat) :
    let plain := congruenceWideningAssign contains x y none
    let tok := congruenceWideningAssign contains x y (some (t + 1))
    (plain.2.2.2 ≠ "widened" → tok = (plain.1, plain.2.1, some (t + 1), plain.2.2.2)) ∧
    (plain.2.2.2 = "widened" → tok.1 = (x.minimizeCongruences).1 ∧ tok.2.1 = plain.2.1 ∧
      tok.2.2.1 = (if contains (x.minimizeCongruences).1 plain.1 then some (t + 1) else some t)) := by
  intro plain tok
  by_cases h0 : x.n = 0 ∨ x.empty = true ∨ y.empty = true
  · exact token_of_same_exit (by decide) (congruenceWideningAssign_trivial contains x y none h0)
      (congruenceWideningAssign_trivial contains x y (some (t + 1)) h0)
  by_cases hx : (x.minimizeCongruences).2 = true
  · exact token_of_same_exit (by decide) (congruenceWideningAssign_x_empty contains x y none h0 hx)
      (congruenceWideningAssign_x_empty contains x y (some (t + 1)) h0 hx)
  have hx' : (x.minimizeCongruences).2 = false := by simpa using hx
  by_cases hy : (y.minimizeCongruences).2 = true
  · exact token_of_same_exit (by decide) (congruenceWideningAssign_y_empty contains x y none h0 hx' hy)
      (congruenceWideningAssign_y_empty contains x y (some (t + 1)) h0 hx' hy)
  have hy' : (y.minimizeCongruences).2 = false := by simpa using hy
  by_cases hlt : numEqualities (x.minimizeCongruences).1.con < numEqualities (y.minimizeCongruences).1.con
  · exact token_of_same_exit (by decide) (congruenceWideningAssign_fewer_equalities contains x y none h0 hx' hy' hlt)
      (congruenceWideningAssign_fewer_equalities contains x y (some (t + 1)) h0 hx' hy' hlt)
  by_cases hall : (selectWiderCongruences (x.minimizeCongruences).1.n (x.minimizeCongruences).1.con
      (x.minimizeCongruences).1.dk (y.minimizeCongruences).1.con (y.minimizeCongruences).1.dk).length
        = (x.minimizeCongruences).1.con.length
  · exact token_of_same_exit (by decide) (congruenceWideningAssign_all_selected contains x y none h0 hx' hy' hlt hall)
      (congruenceWideningAssign_all_selected contains x y (some (t + 1)) h0 hx' hy' hlt hall)
  · have e1 : plain = _ := congruenceWideningAssign_widened contains x y none (Or.inl rfl) h0 hx' hy' hlt hall
    have e2 : tok = _ := congruenceWideningAssign_tokens contains x y t h0 hx' hy' hlt hall
    rw [e1, e2]
    refine ⟨fun h => absurd rfl h, fun _ => ?_⟩
    cases contains (x.minimizeCongruences).1 (cgwResult x y) <;> simp

/-! ### any token count; the second argument; the dispatch of `widening_assign` -/

/-- with any token argument the grid assigned to `x` is the one of the plain call or `x` minimised -/
theorem congruenceWideningAssign_fst_cases (contains : GridM → GridM → Bool) (x y : GridM) (tp : Option Nat) :
    (congruenceWideningAssign contains x y tp).1 = (congruenceWideningAssign contains x y none).1 ∨
    ((congruenceWideningAssign contains x y none).2.2.2 = "widened" ∧
      (congruenceWideningAssign contains x y tp).1 = (x.minimizeCongruences).1) := by
  rcases tp with _ | _ | t
  · left; rfl
  · by_cases h0 : x.n = 0 ∨ x.empty = true ∨ y.empty = true
    · rw [congruenceWideningAssign_trivial _ _ _ _ h0, congruenceWideningAssign_trivial _ _ _ _ h0]; left; rfl
    by_cases hx : (x.minimizeCongruences).2 = true
    · rw [congruenceWideningAssign_x_empty _ _ _ _ h0 hx, congruenceWideningAssign_x_empty _ _ _ _ h0 hx]; left; rfl
    have hx' : (x.minimizeCongruences).2 = false := by simpa using hx
    by_cases hy : (y.minimizeCongruences).2 = true
    · rw [congruenceWideningAssign_y_empty _ _ _ _ h0 hx' hy, congruenceWideningAssign_y_empty _ _ _ _ h0 hx' hy]
      left; rfl
    have hy' : (y.minimizeCongruences).2 = false := by simpa using hy
    by_cases hlt : numEqualities (x.minimizeCongruences).1.con < numEqualities (y.minimizeCongruences).1.con
    · rw [congruenceWideningAssign_fewer_equalities _ _ _ _ h0 hx' hy' hlt,
        congruenceWideningAssign_fewer_equalities _ _ _ _ h0 hx' hy' hlt]; left; rfl
    by_cases hall : (selectWiderCongruences (x.minimizeCongruences).1.n (x.minimizeCongruences).1.con
        (x.minimizeCongruences).1.dk (y.minimizeCongruences).1.con (y.minimizeCongruences).1.dk).length
          = (x.minimizeCongruences).1.con.length
    · rw [congruenceWideningAssign_all_selected _ _ _ _ h0 hx' hy' hlt hall,
        congruenceWideningAssign_all_selected _ _ _ _ h0 hx' hy' hlt hall]; left; rfl
    · rw [congruenceWideningAssign_widened _ _ _ _ (Or.inr rfl) h0 hx' hy' hlt hall,
        congruenceWideningAssign_widened _ _ _ _ (Or.inl rfl) h0 hx' hy' hlt hall]; left; rfl
  · obtain ⟨h1, h2⟩ := congruenceWideningAssign_token contains x y t
    by_cases hw : (congruenceWideningAssign contains x y none).2.2.2 = "widened"
    · right; exact ⟨hw, (h2 hw).1⟩
    · left; rw [h1 hw]

/-- `x.congruence_widening_assign(y, tp)` with any token argument: the grid assigned to `x` is non-empty, has its
    congruences up to date and contains every point of `x` -/
theorem congruenceWideningAssign_contains_x_tp (contains : GridM → GridM → Bool) (n : Nat) (x y : GridM)
    (tp : Option Nat)
    (hxup : x.cgUp = true) (hyup : y.cgUp = true) (hxn : x.n = n) (hyn : y.n = n)
    (hxwf : CWf n x.con) (hywf : CWf n y.con) (hxe : x.empty = false) (hye : y.empty = false) (hn : 0 < n) :
    let r := congruenceWideningAssign contains x y tp
    ∀ p, cgsSem n x.con p → (r.1.empty = false ∧ r.1.cgUp = true ∧ cgsSem n r.1.con p) := by
  intro r p hp
  have hplain := congruenceWideningAssign_contains_x contains n x y hxup hyup hxn hyn hxwf hywf hxe hye hn p hp
  rcases congruenceWideningAssign_fst_cases contains x y tp with h | ⟨_, h⟩
  · show (congruenceWideningAssign contains x y tp).1.empty = false ∧ _
    rw [h]; exact hplain
  · show (congruenceWideningAssign contains x y tp).1.empty = false ∧ _
    rw [h]
    subst hxn
    obtain ⟨hs1, hs2⟩ := minimizeCongruences_spec x hxup hxwf
    by_cases hx : (x.minimizeCongruences).2 = true
    · exact absurd hp (hs2 hx p)
    · obtain ⟨_, hme, hmup, _, hmsem⟩ := hs1 (by simpa using hx)
      exact ⟨by rw [hme, hxe], hmup, (hmsem p).mpr hp⟩

/-- the grid assigned to `y` (through the `const_cast`) is `y` or `y` minimised -/
theorem congruenceWideningAssign_snd_cases (contains : GridM → GridM → Bool) (x y : GridM) (tp : Option Nat) :
    (congruenceWideningAssign contains x y tp).2.1 = y ∨
    ((y.minimizeCongruences).2 = false ∧
      (congruenceWideningAssign contains x y tp).2.1 = (y.minimizeCongruences).1) ∨
    ((y.minimizeCongruences).2 = true ∧ (congruenceWideningAssign contains x y tp).2.2.2 = "y_empty" ∧
      (congruenceWideningAssign contains x y tp).2.1 = (y.minimizeCongruences).1) := by
  by_cases h0 : x.n = 0 ∨ x.empty = true ∨ y.empty = true
  · rw [congruenceWideningAssign_trivial _ _ _ _ h0]; left; rfl
  by_cases hx : (x.minimizeCongruences).2 = true
  · rw [congruenceWideningAssign_x_empty _ _ _ _ h0 hx]; left; rfl
  have hx' : (x.minimizeCongruences).2 = false := by simpa using hx
  by_cases hy : (y.minimizeCongruences).2 = true
  · rw [congruenceWideningAssign_y_empty _ _ _ _ h0 hx' hy]; right; right; exact ⟨hy, rfl, rfl⟩
  have hy' : (y.minimizeCongruences).2 = false := by simpa using hy
  right; left
  refine ⟨hy', ?_⟩
  by_cases hlt : numEqualities (x.minimizeCongruences).1.con < numEqualities (y.minimizeCongruences).1.con
  · rw [congruenceWideningAssign_fewer_equalities _ _ _ _ h0 hx' hy' hlt]
  by_cases hall : (selectWiderCongruences (x.minimizeCongruences).1.n (x.minimizeCongruences).1.con
      (x.minimizeCongruences).1.dk (y.minimizeCongruences).1.con (y.minimizeCongruences).1.dk).length
        = (x.minimizeCongruences).1.con.length
  · rw [congruenceWideningAssign_all_selected _ _ _ _ h0 hx' hy' hlt hall]
  · rcases tp with _ | _ | t
    · rw [congruenceWideningAssign_widened _ _ _ _ (Or.inl rfl) h0 hx' hy' hlt hall]
    · rw [congruenceWideningAssign_widened _ _ _ _ (Or.inr rfl) h0 hx' hy' hlt hall]
    · rw [congruenceWideningAssign_tokens _ _ _ _ h0 hx' hy' hlt hall]
      split <;> rfl

/-- the minimisation of `y` in place keeps the meaning of `y` (when `y` is not found empty) -/
theorem congruenceWideningAssign_keeps_y (contains : GridM → GridM → Bool) (n : Nat) (x y : GridM) (tp : Option Nat)
    (hyup : y.cgUp = true) (hyn : y.n = n) (hywf : CWf n y.con) (hne : (y.minimizeCongruences).2 = false) :
    ∀ p, cgsSem n (congruenceWideningAssign contains x y tp).2.1.con p ↔ cgsSem n y.con p := by
  intro p
  rcases congruenceWideningAssign_snd_cases contains x y tp with h | ⟨_, h⟩ | ⟨h, _⟩
  · rw [h]
  · rw [h]; exact minimizeCongruences_sem n y hyup hyn hywf hne p
  · rw [hne] at h; cases h

/-- `widening_assign` takes the congruence path when both congruence systems are up to date -/
theorem wideningAssign_cg (contains : GridM → GridM → Bool) (x y : GridM) (tp : Option Nat)
    (hx : x.cgUp = true) (hy : y.cgUp = true) :
    wideningAssign contains x y tp = congruenceWideningAssign contains x y tp := by
  unfold wideningAssign
  simp [hx, hy]

/-! ### examples: `x = {A ≡ 0 (mod 2)}`, `y = {A ≡ 0 (mod 4)}` in dimension 2, both minimised -/

def exX : GridM :=
  { n := 2, empty := false, cgUp := true, cgMin := true, genUp := false, genMin := false,
    con := [⟨[0, 0, 4], 4⟩, ⟨[0, 2, 0], 4⟩, ⟨[4, 0, 0], 4⟩], gen := [], dk := [0, 0, 0] }
def exY : GridM := { exX with con := [⟨[0, 0, 4], 4⟩, ⟨[0, 1, 0], 4⟩, ⟨[4, 0, 0], 4⟩] }

example : CWf 2 exX.con ∧ CWf 2 exY.con := by
  constructor <;> intro r hr <;> simp [exX, exY] at hr <;> rcases hr with rfl | rfl | rfl <;> decide

/-- the congruence on `A` differs and is dropped: the result is `{B ≡ 0 (mod 1)}` -/
example : (congruenceWideningAssign (fun _ _ => false) exX exY none).1.con = [⟨[1, 0, 0], 1⟩, ⟨[0, 0, 1], 1⟩] := by
  decide +kernel
example : (congruenceWideningAssign (fun _ _ => false) exX exY none).2.2.2 = "widened" := by decide +kernel
/-- with a token the widening is postponed -/
example : (congruenceWideningAssign (fun _ _ => false) exX exY (some 1)).1 = exX ∧
    (congruenceWideningAssign (fun _ _ => false) exX exY (some 1)).2.2.1 = some 0 := by decide +kernel
/-- `y` has more equalities than `x`: early return -/
example : (congruenceWideningAssign (fun _ _ => false) exX
    { exX with con := [⟨[0, 0, 4], 0⟩, ⟨[0, 1, 0], 4⟩, ⟨[4, 0, 0], 4⟩], dk := [0, 0, 2] } none).1 = exX := by decide +kernel

end PPLV.Widen.ImplGrid

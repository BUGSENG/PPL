import PPLV.Widen.ImplH79ProofsEngineFacet0
import Mathlib.Tactic.Linarith

/-!
# consequences of `EngineDD.complete` for linear forms
-/
namespace PPLV.Widen.Impl

private theorem sum_map_zero (l : List Nat) (f : Nat → Int) (h : ∀ i ∈ l, f i = 0) :
    (l.map f).sum = 0 := by
  induction l with
  | nil => simp
  | cons a t ih =>
    simp only [List.map_cons, List.sum_cons]
    have h1 := h a (by simp)
    have h2 := ih (fun i hi => h i (by simp [hi]))
    omega

private theorem sum_map_nonneg (l : List Nat) (f : Nat → Int) (h : ∀ i ∈ l, 0 ≤ f i) :
    0 ≤ (l.map f).sum := by
  induction l with
  | nil => simp
  | cons a t ih =>
    simp only [List.map_cons, List.sum_cons]
    have h1 := h a (by simp)
    have h2 := ih (fun i hi => h i (by simp [hi]))
    omega

private theorem sum_map_eq_zero (l : List Nat) (f : Nat → Int) (h : ∀ i ∈ l, 0 ≤ f i)
    (hs : (l.map f).sum = 0) : ∀ i ∈ l, f i = 0 := by
  induction l with
  | nil => simp
  | cons a t ih =>
    simp only [List.map_cons, List.sum_cons] at hs
    have h1 := h a (by simp)
    have h2 := sum_map_nonneg t f (fun i hi => h i (by simp [hi]))
    intro i hi
    rcases List.mem_cons.1 hi with rfl | hi
    · omega
    · exact ih (fun i hi => h i (by simp [hi])) (by omega) i hi

private theorem getD_gen_eq (y : YMin) (i : Nat) (hi : i < y.genSys.length) :
    y.genSys.getD i default = y.genSys[i] := by
  simp [hi]

private theorem getD_gen (y : YMin) (i : Nat) (hi : i < y.genSys.length) :
    y.genSys.getD i default ∈ y.genSys := by
  rw [getD_gen_eq y i hi]; exact List.getElem_mem _

private theorem eq_zero_of_den {den x : Int} (hden : 0 < den) (h : den * x = 0) : x = 0 := by
  rcases Int.mul_eq_zero.1 h with h1 | h1
  · omega
  · exact h1

theorem complete_zero {n : Nat} {y : YMin} (hy : EngineDD n y) (a : Vec)
    (h : ∀ g ∈ y.genSys, sp a g.e = 0) (v : Vec) (hv : InK n y v) : sp a v = 0 := by
  obtain ⟨den, coef, hden, _, _, hsum⟩ := hy.complete v hv.1 hv.2
  have h0 := hsum a
  rw [sum_map_zero] at h0
  · exact eq_zero_of_den hden h0
  · intro i hi
    have hi' := List.mem_range.1 hi
    have : sp a (y.genSys.getD i default).e = 0 := h _ (getD_gen y i hi')
    show coef.getD i 0 * sp a (y.genSys.getD i default).e = 0
    rw [this, mul_zero]

theorem complete_nonneg {n : Nat} {y : YMin} (hy : EngineDD n y) (a : Vec) (h : ValidG y a)
    (v : Vec) (hv : InK n y v) : 0 ≤ sp a v := by
  obtain ⟨den, coef, hden, _, hcoef, hsum⟩ := hy.complete v hv.1 hv.2
  have h0 := hsum a
  have hnn : 0 ≤ den * sp a v := by
    rw [h0]
    apply sum_map_nonneg
    intro i hi
    have hi' := List.mem_range.1 hi
    have hg := h _ (getD_gen y i hi')
    have hc := hcoef i hi'
    rw [getD_gen_eq y i hi'] at hg
    show 0 ≤ coef.getD i 0 * sp a (y.genSys.getD i default).e
    rw [getD_gen_eq y i hi']
    cases hl : y.genSys[i].line
    · simp [hl] at hg
      exact mul_nonneg (hc hl) hg
    · simp [hl] at hg
      rw [hg, mul_zero]
  by_contra hneg
  have hneg' : sp a v < 0 := by omega
  nlinarith [mul_pos hden (neg_pos.2 hneg')]

theorem complete_sat {n : Nat} {y : YMin} (hy : EngineDD n y) (a b : Vec) (ha : ValidG y a)
    (hb : ValidG y b) (hsat : ∀ g ∈ y.genSys, 0 < sp a g.e → 0 < sp b g.e)
    (v : Vec) (hv : InK n y v) (hbv : sp b v = 0) : sp a v = 0 := by
  obtain ⟨den, coef, hden, _, hcoef, hsum⟩ := hy.complete v hv.1 hv.2
  have hB := hsum b
  rw [hbv, mul_zero] at hB
  have hBt : ∀ i ∈ List.range y.genSys.length,
      (fun i => coef.getD i 0 * sp b (y.genSys.getD i default).e) i = 0 := by
    apply sum_map_eq_zero _ _ _ hB.symm
    intro i hi
    have hi' := List.mem_range.1 hi
    have hg := hb _ (getD_gen y i hi')
    have hc := hcoef i hi'
    rw [getD_gen_eq y i hi'] at hg
    show 0 ≤ coef.getD i 0 * sp b (y.genSys.getD i default).e
    rw [getD_gen_eq y i hi']
    cases hl : y.genSys[i].line
    · simp [hl] at hg
      exact mul_nonneg (hc hl) hg
    · simp [hl] at hg
      rw [hg, mul_zero]
  have h0 := hsum a
  rw [sum_map_zero] at h0
  · exact eq_zero_of_den hden h0
  · intro i hi
    have hi' := List.mem_range.1 hi
    have hmem := getD_gen y i hi'
    have hg := ha _ hmem
    have hc := hcoef i hi'
    have hbt : coef.getD i 0 * sp b (y.genSys.getD i default).e = 0 := hBt i hi
    have hs := hsat _ hmem
    show coef.getD i 0 * sp a (y.genSys.getD i default).e = 0
    rw [getD_gen_eq y i hi'] at hg hbt hs ⊢
    cases hl : y.genSys[i].line
    · simp [hl] at hg
      rcases Int.mul_eq_zero.1 hbt with h1 | h1
      · rw [h1, zero_mul]
      · have : ¬ 0 < sp a y.genSys[i].e := fun hp => by
          have := hs hp
          omega
        have : sp a y.genSys[i].e = 0 := by omega
        rw [this, mul_zero]
    · simp [hl] at hg
      rw [hg, mul_zero]

end PPLV.Widen.Impl

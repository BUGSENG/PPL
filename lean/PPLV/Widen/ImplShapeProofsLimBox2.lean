import PPLV.Widen.ImplShapeProofsLimBox
import Mathlib.Data.List.GetD
/-!
# `Box::get_limiting_box`, `Box::limited_CC76_extrapolation_assign`: the limiting box, the result
-/
namespace PPLV.Widen
open PPLV.WR

/-! ## (B2) `refine_interval_no_check` is the intersection with the half-line -/

def refLower (q0 : Rat) (I : Itv) (o : Bool) : Itv :=
  if loLE I.lo I.loOpen (some q0) o && !(I.lo == some q0 && I.loOpen == o) then { I with lo := some q0, loOpen := o }
  else I

def refUpper (q0 : Rat) (I : Itv) (o : Bool) : Itv :=
  if hiGE I.hi I.hiOpen (some q0) o && !(I.hi == some q0 && I.hiOpen == o) then { I with hi := some q0, hiOpen := o }
  else I

theorem refineIntervalNoCheck_eq (I : Itv) (c : LimCon) (numer denom : Int) :
    refineIntervalNoCheck I c numer denom =
      if c.isEq then refUpper (-((numer : Rat) / denom)) (refLower (-((numer : Rat) / denom)) I false) false
      else if denom > 0 then refLower (-((numer : Rat) / denom)) I c.strict
      else refUpper (-((numer : Rat) / denom)) I c.strict := rfl

theorem refLower_mem (q0 : Rat) (I : Itv) (o : Bool) (q : Rat) :
    (refLower q0 I o).mem q ↔ I.mem q ∧ loOK (some q0) o q := by
  unfold refLower
  by_cases h1 : loLE I.lo I.loOpen (some q0) o = true
  · by_cases h2 : (I.lo == some q0 && I.loOpen == o) = true
    · simp only [h1, h2, Bool.not_true, Bool.and_false, Bool.false_eq_true, if_false]
      simp only [Bool.and_eq_true, beq_iff_eq] at h2
      refine ⟨fun h => ⟨h, ?_⟩, fun h => h.1⟩
      have := h.1
      rw [h2.1, h2.2] at this
      exact this
    · have h2' : (I.lo == some q0 && I.loOpen == o) = false := by simpa using h2
      simp only [h1, h2', Bool.not_false, Bool.and_true, if_true]
      unfold Itv.mem
      exact ⟨fun h => ⟨⟨loLE_imp h1 h.1, h.2⟩, h.1⟩, fun h => ⟨h.2, h.1.2⟩⟩
  · have h1' : loLE I.lo I.loOpen (some q0) o = false := by simpa using h1
    simp only [h1', Bool.false_and, Bool.false_eq_true, if_false]
    exact ⟨fun h => ⟨h, not_loLE_imp h1' h.1⟩, fun h => h.1⟩

theorem refUpper_mem (q0 : Rat) (I : Itv) (o : Bool) (q : Rat) :
    (refUpper q0 I o).mem q ↔ I.mem q ∧ hiOK (some q0) o q := by
  unfold refUpper
  by_cases h1 : hiGE I.hi I.hiOpen (some q0) o = true
  · by_cases h2 : (I.hi == some q0 && I.hiOpen == o) = true
    · simp only [h1, h2, Bool.not_true, Bool.and_false, Bool.false_eq_true, if_false]
      simp only [Bool.and_eq_true, beq_iff_eq] at h2
      refine ⟨fun h => ⟨h, ?_⟩, fun h => h.1⟩
      have := h.2
      rw [h2.1, h2.2] at this
      exact this
    · have h2' : (I.hi == some q0 && I.hiOpen == o) = false := by simpa using h2
      simp only [h1, h2', Bool.not_false, Bool.and_true, if_true]
      unfold Itv.mem
      exact ⟨fun h => ⟨⟨h.1, hiGE_imp h1 h.2⟩, h.2⟩, fun h => ⟨h.1.1, h.2⟩⟩
  · have h1' : hiGE I.hi I.hiOpen (some q0) o = false := by simpa using h1
    simp only [h1', Bool.false_and, Bool.false_eq_true, if_false]
    exact ⟨fun h => ⟨h, not_hiGE_imp h1' h.2⟩, fun h => h.1⟩

/-- (B2) the refined interval is exactly the part of `J` that satisfies the constraint -/
theorem refineIntervalNoCheck_mem (J : Itv) (c : LimCon) (numer denom : Int) (hd : denom ≠ 0) (q : Rat) :
    (refineIntervalNoCheck J c numer denom).mem q ↔ J.mem q ∧ conHolds1 c numer denom q := by
  rw [refineIntervalNoCheck_eq, conHolds1_iff c numer denom hd]
  split_ifs
  · rw [refUpper_mem, refLower_mem, and_assoc]
    exact and_congr_right fun _ => ⟨fun h => le_antisymm h.2 h.1, fun h => h ▸ ⟨le_refl _, le_refl _⟩⟩
  · exact refLower_mem _ J c.strict q
  · exact refUpper_mem _ J c.strict q

/-! ## one constraint of `get_limiting_box` -/

theorem extractIntervalConstraint_coeff_ne (sd : Nat) (c : LimCon) (nv ov : Nat)
    (h : extractIntervalConstraint sd c = some (nv, ov)) (hnv : nv ≠ 0) : c.coeff ov ≠ 0 := by
  unfold extractIntervalConstraint at h
  simp only at h
  obtain ⟨_, h2, _, h4⟩ := firstNonzero_spec c.coeff (lo := 1) (hi := sd + 1) (by omega)
  split at h
  · injection h with h; injection h with h1 h2; exact absurd h1.symm hnv
  · rename_i hne
    split at h
    · injection h with h; injection h with h1 h2
      rw [← h2]
      exact h4 (by omega)
    · cases h

/-- the constraint is selected by `get_limiting_box` for the receiver `x`: an interval constraint on variable `ov`
whose relation with `x[ov]` is exactly `is_included()` -/
def boxLimSel (sd : Nat) (x : BoxM) (c : LimCon) (ov : Nat) : Prop :=
  ∃ nv, extractIntervalConstraint sd c = some (nv, ov) ∧ nv ≠ 0 ∧
    intervalRelationIsIncluded (x.getD ov default) c c.inhomo (c.coeff ov) = true

theorem boxLimitStep_cases (sd : Nat) (x lb : BoxM) (c : LimCon) :
    boxLimitStep sd x lb c = lb ∨
    ∃ ov, boxLimSel sd x c ov ∧
      boxLimitStep sd x lb c = lb.set ov (refineIntervalNoCheck (lb.getD ov default) c c.inhomo (c.coeff ov)) := by
  unfold boxLimitStep
  cases h : extractIntervalConstraint sd c with
  | none => left; rfl
  | some pr =>
    obtain ⟨nv, ov⟩ := pr
    by_cases hnv : nv ≠ 0
    · by_cases hi : intervalRelationIsIncluded (x.getD ov default) c c.inhomo (c.coeff ov) = true
      · right
        refine ⟨ov, ⟨nv, h, hnv, hi⟩, ?_⟩
        simp only [hi, if_true]
        rw [if_pos hnv]
      · left; simp only [hi, if_false, Bool.false_eq_true]
        rw [if_pos hnv]
    · left; show (if nv ≠ 0 then _ else lb) = lb; rw [if_neg hnv]

theorem boxLimitStep_of_sel (sd : Nat) (x lb : BoxM) (c : LimCon) (ov : Nat) (h : boxLimSel sd x c ov) :
    boxLimitStep sd x lb c = lb.set ov (refineIntervalNoCheck (lb.getD ov default) c c.inhomo (c.coeff ov)) := by
  obtain ⟨nv, h1, h2, h3⟩ := h
  unfold boxLimitStep
  rw [h1]
  simp only [h2, h3, if_true, ne_eq, not_false_eq_true]

theorem boxLimSel_coeff_ne {sd : Nat} {x : BoxM} {c : LimCon} {ov : Nat} (h : boxLimSel sd x c ov) :
    c.coeff ov ≠ 0 := by
  obtain ⟨nv, h1, h2, _⟩ := h
  exact extractIntervalConstraint_coeff_ne sd c nv ov h1 h2

theorem boxLimitStep_length (sd : Nat) (x lb : BoxM) (c : LimCon) :
    (boxLimitStep sd x lb c).length = lb.length := by
  rcases boxLimitStep_cases sd x lb c with h | ⟨ov, _, h⟩ <;> rw [h]
  exact List.length_set

/-- the step only shrinks components -/
theorem boxLimitStep_sub (sd : Nat) (x lb : BoxM) (c : LimCon) (k : Nat) (h1 : k < (boxLimitStep sd x lb c).length)
    (h2 : k < lb.length) (q : Rat) (hq : ((boxLimitStep sd x lb c)[k]).mem q) : (lb[k]).mem q := by
  rcases boxLimitStep_cases sd x lb c with h | ⟨ov, hsel, h⟩
  · simp only [h] at hq; exact hq
  · simp only [h, List.getElem_set] at hq
    split at hq
    · rename_i hov
      subst hov
      rw [refineIntervalNoCheck_mem _ _ _ _ (boxLimSel_coeff_ne hsel)] at hq
      have := hq.1
      rw [List.getD_eq_getElem _ _ h2] at this
      exact this
    · exact hq

/-- the step keeps every point of the receiver -/
theorem boxLimitStep_dom (sd : Nat) (x lb : BoxM) (c : LimCon) (hlen : lb.length = x.length)
    (hdom : ∀ k (h1 : k < x.length) (h2 : k < lb.length) q, (x[k]).mem q → (lb[k]).mem q)
    (k : Nat) (h1 : k < x.length) (h2 : k < (boxLimitStep sd x lb c).length) (q : Rat) (hq : (x[k]).mem q) :
    ((boxLimitStep sd x lb c)[k]).mem q := by
  have h2' : k < lb.length := by omega
  rcases boxLimitStep_cases sd x lb c with h | ⟨ov, hsel, h⟩
  · simp only [h]; exact hdom k h1 h2' q hq
  · simp only [h, List.getElem_set]
    split
    · rename_i hov
      subst hov
      have hne := boxLimSel_coeff_ne hsel
      rw [refineIntervalNoCheck_mem _ _ _ _ hne]
      rw [List.getD_eq_getElem _ _ h2']
      refine ⟨hdom _ h1 h2' q hq, ?_⟩
      obtain ⟨nv, _, _, hi⟩ := hsel
      rw [List.getD_eq_getElem _ _ h1] at hi
      exact intervalRelationIsIncluded_sound _ c _ _ hne hi q hq
    · exact hdom k h1 h2' q hq

/-- after a selected constraint has been processed, its component satisfies it -/
theorem boxLimitStep_keeps (sd : Nat) (x lb : BoxM) (c : LimCon) (ov : Nat) (hsel : boxLimSel sd x c ov)
    (h1 : ov < (boxLimitStep sd x lb c).length) (q : Rat) (hq : ((boxLimitStep sd x lb c)[ov]).mem q) :
    conHolds1 c c.inhomo (c.coeff ov) q := by
  have h := boxLimitStep_of_sel sd x lb c ov hsel
  simp only [h, List.getElem_set, if_true] at hq
  rw [refineIntervalNoCheck_mem _ _ _ _ (boxLimSel_coeff_ne hsel)] at hq
  exact hq.2

/-! ## the fold -/

theorem boxGetLimitingBox_length (sd : Nat) (cs : List LimCon) (x lb : BoxM) :
    (boxGetLimitingBox sd cs x lb).length = lb.length := by
  unfold boxGetLimitingBox
  induction cs generalizing lb with
  | nil => rfl
  | cons c cs ih => simp only [List.foldl_cons]; rw [ih, boxLimitStep_length]

theorem boxGetLimitingBox_sub (sd : Nat) (cs : List LimCon) (x lb : BoxM) (k : Nat)
    (h1 : k < (boxGetLimitingBox sd cs x lb).length) (h2 : k < lb.length) (q : Rat)
    (hq : ((boxGetLimitingBox sd cs x lb)[k]).mem q) : (lb[k]).mem q := by
  induction cs generalizing lb with
  | nil => exact hq
  | cons c cs ih =>
    have hl : k < (boxLimitStep sd x lb c).length := by rw [boxLimitStep_length]; exact h2
    exact boxLimitStep_sub sd x lb c k hl h2 q (ih (boxLimitStep sd x lb c) h1 hl hq)

theorem boxGetLimitingBox_dom (sd : Nat) (cs : List LimCon) (x lb : BoxM) (hlen : lb.length = x.length)
    (hdom : ∀ k (h1 : k < x.length) (h2 : k < lb.length) q, (x[k]).mem q → (lb[k]).mem q)
    (k : Nat) (h1 : k < x.length) (h2 : k < (boxGetLimitingBox sd cs x lb).length) (q : Rat) (hq : (x[k]).mem q) :
    ((boxGetLimitingBox sd cs x lb)[k]).mem q := by
  induction cs generalizing lb with
  | nil => exact hdom k h1 h2 q hq
  | cons c cs ih =>
    exact ih (boxLimitStep sd x lb c) (by rw [boxLimitStep_length]; exact hlen)
      (fun k' h1' h2' q' hq' => boxLimitStep_dom sd x lb c hlen hdom k' h1' h2' q' hq') h2

theorem boxGetLimitingBox_keeps (sd : Nat) (cs : List LimCon) (x lb : BoxM) (c : LimCon) (hc : c ∈ cs)
    (ov : Nat) (hsel : boxLimSel sd x c ov) (h1 : ov < (boxGetLimitingBox sd cs x lb).length) (q : Rat)
    (hq : ((boxGetLimitingBox sd cs x lb)[ov]).mem q) : conHolds1 c c.inhomo (c.coeff ov) q := by
  induction cs generalizing lb with
  | nil => cases hc
  | cons c' cs ih =>
    rcases List.mem_cons.mp hc with h | h
    · subst h
      have hl : ov < (boxLimitStep sd x lb c).length := by
        have := boxGetLimitingBox_length sd cs x (boxLimitStep sd x lb c)
        have h1' : ov < (boxGetLimitingBox sd cs x (boxLimitStep sd x lb c)).length := h1
        omega
      exact boxLimitStep_keeps sd x lb c ov hsel hl q
        (boxGetLimitingBox_sub sd cs x (boxLimitStep sd x lb c) ov h1 hl q hq)
    · exact ih (boxLimitStep sd x lb c') h h1 hq

end PPLV.Widen

import PPLV.Widen.ImplH79ProofsEngineBridge
import PPLV.Widen.ImplH79ProofsEngineBridgeIndep

/-!
# bridge to `EngineDD`: `irred`, `proper`, `eqIndep`, and the assembly of `EngineDD` from the facts
about `PPLV.Conv.minimize` (`engineDD_of_minimize_core`: the facts about the shape of the minimised system
— row lengths, equalities first, equality detection — enter as hypotheses that
`ImplH79ProofsEngineBridge3.lean` discharges).
-/
namespace PPLV.Widen.Impl
open PPLV.Conv

/-- "equalities first": a list whose rows satisfy `p` exactly at the indices `< k` -/
theorem filter_eq_take_of_iff {α : Type} [Inhabited α] (p : α → Bool) :
    ∀ (l : List α) (k : Nat), (∀ i, i < l.length → (p (l.getD i default) = true ↔ i < k)) →
      l.filter p = l.take k
  | [], k, _ => by simp
  | a :: l, 0, h => by
    have h0 : p a = false := by
      have := h 0 (by simp)
      simpa using this
    have ih := filter_eq_take_of_iff p l 0 (fun i hi => by
      have := h (i + 1) (by simpa using hi)
      simpa using this)
    simp [h0, ih]
  | a :: l, k + 1, h => by
    have h0 : p a = true := by
      have := h 0 (by simp)
      simpa using this
    have ih := filter_eq_take_of_iff p l k (fun i hi => by
      have := h (i + 1) (by simpa using hi)
      simpa using this)
    simp [h0, ih]

section core
variable (n : Nat) (source : List LRow) (sat0 : List BRow)

theorem engine_irred
    (hsz : n + 1 < 2 ^ 64) (hsrc : source.length < 2 ^ 64)
    (hne : (minimize true false (n + 1) source sat0).empty = false)
    (hle : ∀ i, i < (minimize true false (n + 1) source sat0).source.length →
      (((minimize true false (n + 1) source sat0).source.getD i default).le = true ↔
        i < (minimize true false (n + 1) source sat0).rank)) :
    let y := ofEngine (minimize true false (n + 1) source sat0)
    ∀ i, i < y.conSys.length → (y.conSys.getD i default).eq = false →
      ∃ v : Vec, v.length = n + 1 ∧
        (∀ k, k < y.conSys.length → k ≠ i → (y.conSys.getD k default).holdsZ v) ∧
        ¬ (y.conSys.getD i default).holdsZ v := by
  intro y i hi heq
  have hcl : y.conSys.length = (minimize true false (n + 1) source sat0).source.length := by
    show ((minimize true false (n + 1) source sat0).source.map toC).length = _
    rw [List.length_map]
  have hget : ∀ k, y.conSys.getD k default = toC ((minimize true false (n + 1) source sat0).source.getD k default) :=
    fun k => getD_map_toC _ k
  rw [hcl] at hi
  rw [hget i] at heq
  have hrk : (minimize true false (n + 1) source sat0).rank ≤ i := by
    by_contra hc
    have := (hle i hi).mpr (by omega)
    have heq' : ((minimize true false (n + 1) source sat0).source.getD i default).le = false := heq
    rw [this] at heq'
    exact Bool.noConfusion heq'
  obtain ⟨_, hirr, _⟩ := C01.minimize_minimal_form false (n + 1) source sat0 hsz hsrc hne
  obtain ⟨x, hx, h1, h2⟩ := hirr i hrk hi
  refine ⟨x ++ List.replicate (n + 1 - x.length) 0, by simp; omega, ?_, ?_⟩
  · intro k hk hki
    rw [hcl] at hk
    rw [hget k, holdsZ_toC, holds_pad]
    exact h1 k hk hki
  · rw [hget i, holdsZ_toC, holds_pad]
    exact h2

theorem engine_proper
    (hsz : n + 1 < 2 ^ 64) (hsrc : source.length < 2 ^ 64)
    (hne : (minimize true false (n + 1) source sat0).empty = false)
    (hprop : ∀ c ∈ (minimize true false (n + 1) source sat0).source, c.le = false →
      ∃ g ∈ (minimize true false (n + 1) source sat0).dest, scalarProduct c.v g.v ≠ 0) :
    let y := ofEngine (minimize true false (n + 1) source sat0)
    ∀ c ∈ y.conSys, c.eq = false → ∃ g ∈ y.genSys, 0 < sp c.e g.e := by
  intro y c hc heq
  rw [ofEngine_conSys] at hc
  obtain ⟨s, hs, rfl⟩ := List.mem_map.mp hc
  obtain ⟨d, hd, hne0⟩ := hprop s hs heq
  refine ⟨toG d, by rw [ofEngine_genSys]; exact List.mem_map_of_mem hd, ?_⟩
  have := minimize_sound_min (n + 1) source sat0 hsz hsrc hne d hd s hs
  unfold satisfies at this
  have hsl : s.le = false := heq
  show 0 < sp s.v d.v
  rw [sp_eq_scalarProduct]
  cases hdl : d.le <;> simp [hsl, hdl] at this <;> omega

theorem engine_eqIndep
    (hne : (minimize true false (n + 1) source sat0).empty = false)
    (hle : ∀ i, i < (minimize true false (n + 1) source sat0).source.length →
      (((minimize true false (n + 1) source sat0).source.getD i default).le = true ↔
        i < (minimize true false (n + 1) source sat0).rank)) :
    let y := ofEngine (minimize true false (n + 1) source sat0)
    ∀ f : Nat → Rat,
      (∀ k, k < n + 1 → ∑ i ∈ Finset.range (y.conSys.filter (·.eq)).length,
          f i * (((y.conSys.filter (·.eq)).getD i default).e.getD k 0 : Rat) = 0) →
      ∀ i, i < (y.conSys.filter (·.eq)).length → f i = 0 := by
  dsimp only
  have hind := minimize_eq_indep (n + 1) source sat0 hne
  simp only at hind
  generalize hm : minimize true false (n + 1) source sat0 = m at *
  -- the rank does not exceed the number of rows
  have hrl : m.rank ≤ m.source.length := by
    by_contra hc
    have h1 := hind (fun i => if i = m.source.length then 1 else 0) (by
      intro k _
      apply Finset.sum_eq_zero
      intro i _
      by_cases hi : i = m.source.length
      · subst hi
        have : m.source.getD m.source.length default = default := by
          rw [List.getD_eq_getElem?_getD, List.getElem?_eq_none (Nat.le_refl _)]; rfl
        rw [this]
        show _ * (((([] : List Int).getD k 0 : Int)) : Rat) = 0
        simp
      · simp [hi]) m.source.length (by omega)
    simp at h1
  have hfil : (ofEngine m).conSys.filter (·.eq) = (m.source.take m.rank).map toC := by
    show (m.source.map toC).filter (·.eq) = _
    rw [List.filter_map]
    have hco : ((fun x : CRow => x.eq) ∘ toC) = (fun r : LRow => r.le) := rfl
    rw [hco, filter_eq_take_of_iff (fun r : LRow => r.le) m.source m.rank hle]
  have hlen : ((ofEngine m).conSys.filter (·.eq)).length = m.rank := by
    rw [hfil, List.length_map, List.length_take]; omega
  have hget : ∀ i, i < m.rank → ((ofEngine m).conSys.filter (·.eq)).getD i default = toC (m.source.getD i default) := by
    intro i hi
    rw [hfil, getD_map_toC]
    congr 1
    rw [List.getD_eq_getElem?_getD, List.getD_eq_getElem?_getD, List.getElem?_take, if_pos hi]
  intro f hf i hi
  rw [hlen] at hi
  apply hind f _ i hi
  intro k hk
  have := hf k hk
  rw [hlen] at this
  rw [← this]
  apply Finset.sum_congr rfl
  intro j hj
  rw [hget j (Finset.mem_range.mp hj)]
  rfl

/-- **the assembly**: `EngineDD` of the result of `minimize`, from the theorems of `Props/C01ConvComplete`,
`Props/C01ConvMinimal`, `minimize_eq_indep`, and three facts about the shape of the minimised system. -/
theorem engineDD_of_minimize_core
    (hsz : n + 1 < 2 ^ 64) (hsrc : source.length < 2 ^ 64)
    (hne : (minimize true false (n + 1) source sat0).empty = false)
    (hsl : ∀ c ∈ (minimize true false (n + 1) source sat0).source, c.v.length = n + 1)
    (hdl : ∀ g ∈ (minimize true false (n + 1) source sat0).dest, g.v.length = n + 1)
    (hle : ∀ i, i < (minimize true false (n + 1) source sat0).source.length →
      (((minimize true false (n + 1) source sat0).source.getD i default).le = true ↔
        i < (minimize true false (n + 1) source sat0).rank))
    (hprop : ∀ c ∈ (minimize true false (n + 1) source sat0).source, c.le = false →
      ∃ g ∈ (minimize true false (n + 1) source sat0).dest, scalarProduct c.v g.v ≠ 0) :
    EngineDD n (ofEngine (minimize true false (n + 1) source sat0)) where
  wf := by
    intro c hc
    rw [ofEngine_conSys] at hc
    obtain ⟨s, hs, rfl⟩ := List.mem_map.mp hc
    exact hsl s hs
  gwf := by
    intro g hg
    rw [ofEngine_genSys] at hg
    obtain ⟨d, hd, rfl⟩ := List.mem_map.mp hg
    exact hdl d hd
  satG_ok := ofEngine_satG _
  gens_in := engine_gens_in (n + 1) source sat0 hsz hsrc hne
  complete := engine_complete n source sat0 hsz hsrc hne
  irred := engine_irred n source sat0 hsz hsrc hne hle
  proper := engine_proper n source sat0 hsz hsrc hne hprop
  eqIndep := engine_eqIndep n source sat0 hne hle
  hasPoint := engine_hasPoint (n + 1) source sat0 hsz hsrc hne

end core

end PPLV.Widen.Impl

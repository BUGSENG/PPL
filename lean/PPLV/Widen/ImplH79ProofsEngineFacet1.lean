import PPLV.Widen.ImplH79ProofsEngineFacetV
import PPLV.Widen.ImplH79ProofsEngineFacetQ

/-!
# `hfacet`: a constraint valid on the point set is valid on the generators
-/
namespace PPLV.Widen.Impl

/-- column 0 of a generator row: `0` for lines, `≥ 0` for rays (`0`) and points (the divisor) -/
def GPos (y : YMin) : Prop :=
  ∀ g ∈ y.genSys, if g.line then g.e.headD 0 = 0 else 0 ≤ g.e.headD 0

theorem holdsZ_ineq {c : CRow} (he : c.eq = false) (v : Vec) : c.holdsZ v ↔ 0 ≤ sp c.e v := by
  unfold CRow.holdsZ; simp [he]

theorem holdsZ_eq {c : CRow} (he : c.eq = true) (v : Vec) : c.holdsZ v ↔ sp c.e v = 0 := by
  unfold CRow.holdsZ; simp [he]

theorem headD_zadd (a b : Vec) (h : a.length = b.length) :
    (zadd a b).headD 0 = a.headD 0 + b.headD 0 := by
  cases a <;> cases b <;> simp [zadd] at h ⊢

theorem headD_zsmul (k : Int) (a : Vec) : (zsmul k a).headD 0 = k * a.headD 0 := by
  cases a <;> simp [zsmul]

theorem holdsZ_zadd (c : CRow) (a b : Vec) (hl : a.length = b.length) (ha : c.holdsZ a)
    (hb : c.holdsZ b) : c.holdsZ (zadd a b) := by
  cases he : c.eq
  · rw [holdsZ_ineq he] at *
    rw [sp_zadd _ _ _ hl]; linarith
  · rw [holdsZ_eq he] at *
    rw [sp_zadd _ _ _ hl, ha, hb]; rfl

theorem holdsZ_zsmul (c : CRow) (k : Int) (hk : 0 ≤ k) (a : Vec) (ha : c.holdsZ a) :
    c.holdsZ (zsmul k a) := by
  cases he : c.eq
  · rw [holdsZ_ineq he] at *
    rw [sp_zsmul]; exact mul_nonneg hk ha
  · rw [holdsZ_eq he] at *
    rw [sp_zsmul, ha]; ring

theorem sat_iff {ci cj : CRow} {gs : List GRow} (h : satRow ci gs = satRow cj gs) :
    ∀ g ∈ gs, (0 < sp ci.e g.e ↔ 0 < sp cj.e g.e) := by
  intro g hg
  unfold satRow at h
  have := List.map_inj_left.mp h g hg
  exact decide_eq_decide.mp this

/-- a vector of the cone with positive column 0 is a positive multiple of a point of the polyhedron -/
theorem ci_holdsZ_of_pos {n : Nat} {y : YMin} (hy : EngineDD n y) (ci : CRow)
    (hci : ci.e.length = n + 1) (hval : ∀ p ∈ den false n y.conSys, ci.holds (hom n p 0))
    (v : Vec) (hv : InK n y v) (hd : 0 < v.headD 0) : ci.holdsZ v := by
  obtain ⟨p, hp⟩ := exists_repZ_of_vec n v hv.1 hd
  have hpden : p ∈ den false n y.conSys :=
    mem_den_false.mpr fun c hc => (holds_iff_holdsZ hp c (le_of_eq (hy.wf c hc))).mpr (hv.2 c hc)
  exact (holds_iff_holdsZ hp ci (le_of_eq hci)).mp (hval p hpden)

/-- … hence the constraint holds at every vector of the cone with non-negative column 0 -/
theorem ci_holdsZ_of_nonneg {n : Nat} {y : YMin} (hy : EngineDD n y) (ci : CRow)
    (hci : ci.e.length = n + 1) (hval : ∀ p ∈ den false n y.conSys, ci.holds (hom n p 0))
    (u : Vec) (hu : InK n y u) (h0 : 0 ≤ u.headD 0) : ci.holdsZ u := by
  obtain ⟨gp, hgp, _, hgp0⟩ := hy.hasPoint
  have hgpK := gen_inK hy hgp
  have hl : ∀ t : Int, gp.e.length = (zsmul t u).length := fun t => by
    rw [length_zsmul, hgpK.1, hu.1]
  have key : ∀ t : Int, 0 ≤ t → ci.holdsZ (zadd gp.e (zsmul t u)) := by
    intro t ht
    apply ci_holdsZ_of_pos hy ci hci hval _ (hgpK.zadd (hu.zsmul t ht))
    rw [headD_zadd _ _ (hl t), headD_zsmul]
    have := mul_nonneg ht h0
    linarith
  cases he : ci.eq
  · rw [holdsZ_ineq he]
    have k0 := key 0 (le_refl _)
    rw [holdsZ_ineq he, sp_zadd _ _ _ (hl 0), sp_zsmul] at k0
    have hG : 0 ≤ sp ci.e gp.e := by linarith
    have kG := key (sp ci.e gp.e + 1) (by linarith)
    rw [holdsZ_ineq he, sp_zadd _ _ _ (hl _), sp_zsmul] at kG
    by_contra hneg
    have hneg := not_le.mp hneg
    have h1 : sp ci.e u ≤ -1 := by omega
    nlinarith
  · rw [holdsZ_eq he]
    have k0 := key 0 (le_refl _)
    have k1 := key 1 (by norm_num)
    rw [holdsZ_eq he, sp_zadd _ _ _ (hl 0), sp_zsmul] at k0
    rw [holdsZ_eq he, sp_zadd _ _ _ (hl 1), sp_zsmul] at k1
    linarith

/-- step 0: `ci` is valid on the generators (and vanishes on them when it is an equality) -/
theorem ci_validG {n : Nat} {y : YMin} (hy : EngineDD n y) (hgp : GPos y) (ci : CRow)
    (hci : ci.e.length = n + 1) (hval : ∀ p ∈ den false n y.conSys, ci.holds (hom n p 0)) :
    ValidG y ci.e ∧ (ci.eq = true → ∀ g ∈ y.genSys, sp ci.e g.e = 0) := by
  have hall : ∀ g ∈ y.genSys, ci.holdsZ g.e ∧ (g.line = true → sp ci.e g.e = 0) := by
    intro g hg
    have hpos := hgp g hg
    cases hl : g.line
    · simp only [hl, Bool.false_eq_true, if_false] at hpos
      exact ⟨ci_holdsZ_of_nonneg hy ci hci hval _ (gen_inK hy hg) hpos, fun h => by cases h⟩
    · simp only [hl, if_true] at hpos
      have h1 := ci_holdsZ_of_nonneg hy ci hci hval _ (gen_inK hy hg) (le_of_eq hpos.symm)
      have h2 := ci_holdsZ_of_nonneg hy ci hci hval _ (line_neg_inK hy hg hl (-1))
        (by rw [headD_zsmul, hpos]; norm_num)
      refine ⟨h1, fun _ => ?_⟩
      cases he : ci.eq
      · rw [holdsZ_ineq he] at h1 h2
        rw [sp_zsmul] at h2
        linarith
      · exact (holdsZ_eq he _).mp h1
  constructor
  · intro g hg
    obtain ⟨h1, h2⟩ := hall g hg
    cases hl : g.line
    · simp only [Bool.false_eq_true, if_false]
      cases he : ci.eq
      · exact (holdsZ_ineq he _).mp h1
      · exact le_of_eq ((holdsZ_eq he _).mp h1).symm
    · simp only [if_true]
      exact h2 hl
  · intro he g hg
    exact (holdsZ_eq he _).mp (hall g hg).1

/-- a row of the system is valid on the generators -/
theorem cj_validG {n : Nat} {y : YMin} (hy : EngineDD n y) {cj : CRow} (hcj : cj ∈ y.conSys) :
    ValidG y cj.e := by
  intro g hg
  have := hy.gens_in g hg cj hcj
  cases he : cj.eq <;> cases hl : g.line <;> simp [he, hl] at this ⊢ <;> omega

end PPLV.Widen.Impl

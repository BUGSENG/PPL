import PPLV.Widen.ProofsCert
import Mathlib.Data.Multiset.DershowitzManna

/-!
# C08 — `is_cert_multiset_stabilizing` decides (a sub-relation of) the Dershowitz–Manna order

For a comparison function with the laws of the three `compare(cert)` methods, the Boolean computed by
`is_cert_multiset_stabilizing` on the two `std::map`s implies that the multiset of certificates of
`*this` is below that of `y` in the multiset extension of `compare = -1`; hence the relation is
well-founded (`Multiset.wellFounded_isDershowitzMannaLT`).
-/
namespace PPLV.Widen

/-- the laws of a three-way comparison that the map and the multiset test rely on -/
structure LawfulCmp {α : Type} (cmp : α → α → Ordering) : Prop where
  eq_iff : ∀ a b, cmp a b = .eq ↔ a = b
  swap : ∀ a b, cmp a b = .gt ↔ cmp b a = .lt
  trans : ∀ a b c, cmp a b = .lt → cmp b c = .lt → cmp a c = .lt

section
variable {α : Type} {cmp : α → α → Ordering}

theorem LawfulCmp.irrefl (h : LawfulCmp cmp) (a : α) : cmp a a ≠ .lt := by
  have := (h.eq_iff a a).mpr rfl
  simp [this]

theorem LawfulCmp.asymm (h : LawfulCmp cmp) (a b : α) : cmp a b = .lt → cmp b a ≠ .lt := by
  intro h1 h2
  have := (h.swap a b).mpr h2
  simp [h1] at this

/-- the preorder whose strict part is `cmp · · = lt` -/
def LawfulCmp.preorder (h : LawfulCmp cmp) : Preorder α where
  le a b := a = b ∨ cmp a b = .lt
  lt a b := cmp a b = .lt
  le_refl a := Or.inl rfl
  le_trans a b c := by
    rintro (rfl | h1) (rfl | h2)
    · exact Or.inl rfl
    · exact Or.inr h2
    · exact Or.inr h1
    · exact Or.inr (h.trans _ _ _ h1 h2)
  lt_iff_le_not_ge a b := by
    constructor
    · intro h1
      refine ⟨Or.inr h1, ?_⟩
      rintro (rfl | h2)
      · exact h.irrefl _ h1
      · exact h.asymm _ _ h1 h2
    · rintro ⟨rfl | h1, h2⟩
      · exact absurd (Or.inl rfl) h2
      · exact h1

/-- the multiset a `std::map<Cert, size_type>` denotes -/
def toMS : List (α × Nat) → Multiset α
  | [] => 0
  | (c, k) :: rest => Multiset.replicate k c + toMS rest

/-- invariant of the map: positive counts, keys strictly descending -/
def Desc (cmp : α → α → Ordering) : List (α × Nat) → Prop
  | [] => True
  | (c, k) :: rest => 0 < k ∧ (∀ p ∈ rest, cmp p.1 c = .lt) ∧ Desc cmp rest

theorem mem_toMS {l : List (α × Nat)} {a : α} (h : a ∈ toMS l) : ∃ p ∈ l, p.1 = a := by
  induction l with
  | nil => simp [toMS] at h
  | cons p rest ih =>
    obtain ⟨c, k⟩ := p
    simp only [toMS, Multiset.mem_add] at h
    rcases h with h | h
    · exact ⟨(c, k), by simp, (Multiset.eq_of_mem_replicate h).symm⟩
    · obtain ⟨q, hq, e⟩ := ih h
      exact ⟨q, by simp [hq], e⟩

theorem head_mem_toMS {c : α} {k : Nat} (rest : List (α × Nat)) (hk : 0 < k) : c ∈ toMS ((c, k) :: rest) :=
  Multiset.mem_add.mpr (Or.inl (Multiset.mem_replicate.mpr ⟨Nat.pos_iff_ne_zero.mp hk, rfl⟩))

theorem toMS_cons_ne_zero {c : α} {k : Nat} (rest : List (α × Nat)) (hk : 0 < k) : toMS ((c, k) :: rest) ≠ 0 := by
  intro he
  have : c ∈ toMS ((c, k) :: rest) := head_mem_toMS rest hk
  rw [he] at this
  simp at this

theorem insertCert_keys (c : α) (l : List (α × Nat)) :
    ∀ p ∈ insertCert cmp c l, p.1 = c ∨ ∃ q ∈ l, q.1 = p.1 := by
  induction l with
  | nil => intro p hp; simp [insertCert] at hp; exact Or.inl (by simp [hp])
  | cons d rest ih =>
    obtain ⟨d, k⟩ := d
    intro p hp
    simp only [insertCert] at hp
    split_ifs at hp with h1 h2
    · simp only [List.mem_cons] at hp
      rcases hp with rfl | rfl | hp
      · exact Or.inl rfl
      · exact Or.inr ⟨(d, k), by simp, rfl⟩
      · exact Or.inr ⟨p, by simp [hp], rfl⟩
    · simp only [List.mem_cons] at hp
      rcases hp with rfl | hp
      · exact Or.inr ⟨(d, k), by simp, rfl⟩
      · rcases ih p hp with h | ⟨q, hq, e⟩
        · exact Or.inl h
        · exact Or.inr ⟨q, by simp [hq], e⟩
    · simp only [List.mem_cons] at hp
      rcases hp with rfl | hp
      · exact Or.inr ⟨(d, k), by simp, rfl⟩
      · exact Or.inr ⟨p, by simp [hp], rfl⟩

theorem insertCert_spec (h : LawfulCmp cmp) (c : α) (l : List (α × Nat)) (hd : Desc cmp l) :
    Desc cmp (insertCert cmp c l) ∧ toMS (insertCert cmp c l) = c ::ₘ toMS l := by
  induction l with
  | nil => simp [insertCert, Desc, toMS]
  | cons d rest ih =>
    obtain ⟨d, k⟩ := d
    obtain ⟨hk, hlt, hrest⟩ := hd
    simp only [insertCert]
    split_ifs with h1 h2
    · refine ⟨⟨Nat.one_pos, ?_, hk, hlt, hrest⟩, ?_⟩
      · intro p hp
        have hdc : cmp d c = .lt := (h.swap c d).mp h1
        simp only [List.mem_cons] at hp
        rcases hp with rfl | hp
        · exact hdc
        · exact h.trans _ _ _ (hlt p hp) hdc
      · simp [toMS]
    · obtain ⟨ih1, ih2⟩ := ih hrest
      refine ⟨⟨hk, ?_, ih1⟩, ?_⟩
      · intro p hp
        rcases insertCert_keys c rest p hp with e | ⟨q, hq, e⟩
        · rw [e]; exact (h.swap d c).mp h2
        · rw [← e]; exact hlt q hq
      · simp only [toMS, ih2]
        rw [Multiset.add_cons]
    · have hcd : c = d := by
        have h3 : cmp c d ≠ .lt := fun hh => h2 ((h.swap d c).mpr hh)
        have : cmp c d = .eq := by
          cases hc : cmp c d <;> simp_all
        exact (h.eq_iff c d).mp this
      subst hcd
      refine ⟨⟨Nat.succ_pos _, hlt, hrest⟩, ?_⟩
      simp [toMS, Multiset.replicate_succ]

theorem collect_spec (h : LawfulCmp cmp) (cs : List α) :
    Desc cmp (collectCertificates cmp cs) ∧ toMS (collectCertificates cmp cs) = (cs : Multiset α) := by
  have gen : ∀ (cs : List α) (m : List (α × Nat)), Desc cmp m →
      Desc cmp (cs.foldl (fun m c => insertCert cmp c m) m) ∧
      toMS (cs.foldl (fun m c => insertCert cmp c m) m) = toMS m + (cs : Multiset α) := by
    intro cs
    induction cs with
    | nil => intro m hm; simpa using hm
    | cons c cs ih =>
      intro m hm
      obtain ⟨h1, h2⟩ := insertCert_spec h c m hm
      obtain ⟨h3, h4⟩ := ih _ h1
      refine ⟨h3, ?_⟩
      simp only [List.foldl_cons]
      rw [h4, h2, ← Multiset.cons_coe, Multiset.cons_add, Multiset.add_cons]
  have := gen cs [] trivial
  simpa [collectCertificates, toMS] using this

/-- the core: on well-formed maps the loop of `is_cert_multiset_stabilizing` returns `true` only if the
    first multiset is Dershowitz–Manna-below the second -/
theorem msStabilizing_dm (h : LawfulCmp cmp) :
    ∀ (xs ys : List (α × Nat)), Desc cmp xs → Desc cmp ys → msStabilizing cmp xs ys = true →
      @Multiset.IsDershowitzMannaLT α h.preorder (toMS xs) (toMS ys)
  | [], [], _, _, hs => by simp [msStabilizing] at hs
  | _ :: _, [], _, _, hs => by simp [msStabilizing] at hs
  | [], (yc, yk) :: ys, _, hy, _ => by
    exact ⟨0, 0, toMS ((yc, yk) :: ys), toMS_cons_ne_zero ys hy.1, by simp [toMS], by simp,
      by simp⟩
  | (xc, xk) :: xs, (yc, yk) :: ys, hx, hy, hs => by
    letI := h.preorder
    obtain ⟨hxk, hxlt, hxs⟩ := hx
    obtain ⟨hyk, hylt, hys⟩ := hy
    simp only [msStabilizing] at hs
    cases hc : cmp xc yc with
    | gt => simp [hc] at hs
    | lt =>
      -- every element of the `x` multiset is below `yc`
      refine ⟨0, toMS ((xc, xk) :: xs), toMS ((yc, yk) :: ys), toMS_cons_ne_zero ys hyk,
        by simp, by simp, ?_⟩
      · intro a ha
        refine ⟨yc, head_mem_toMS ys hyk, ?_⟩
        · obtain ⟨p, hp, e⟩ := mem_toMS ha
          simp only [List.mem_cons] at hp
          rcases hp with rfl | hp
          · rw [← e]; exact hc
          · rw [← e]; exact h.trans _ _ _ (hxlt p hp) hc
    | eq =>
      have e : xc = yc := (h.eq_iff _ _).mp hc
      subst e
      simp only [hc] at hs
      split_ifs at hs with hk
      · -- same count: recurse, then add the common prefix
        subst hk
        obtain ⟨X, Y, Z, hZ, hM, hN, hlt⟩ := msStabilizing_dm h xs ys hxs hys hs
        refine ⟨Multiset.replicate xk xc + X, Y, Z, hZ, ?_, ?_, hlt⟩
        · simp only [toMS, hM, add_assoc]
        · simp only [toMS, hN, add_assoc]
      · -- fewer occurrences in `x`
        have hlt : xk < yk := by simpa using hs
        refine ⟨Multiset.replicate xk xc, toMS xs, Multiset.replicate (yk - xk) xc + toMS ys, ?_, ?_, ?_, ?_⟩
        · intro he
          have : xc ∈ Multiset.replicate (yk - xk) xc + toMS ys := by
            simp only [Multiset.mem_add]
            exact Or.inl (Multiset.mem_replicate.mpr ⟨by omega, rfl⟩)
          rw [he] at this
          simp at this
        · simp [toMS]
        · simp only [toMS, ← add_assoc, ← Multiset.replicate_add]
          congr 2
          omega
        · intro a ha
          refine ⟨xc, ?_, ?_⟩
          · simp only [Multiset.mem_add]
            exact Or.inl (Multiset.mem_replicate.mpr ⟨by omega, rfl⟩)
          · obtain ⟨p, hp, e⟩ := mem_toMS ha
            rw [← e]; exact hxlt p hp

/-- `is_cert_multiset_stabilizing`, as a relation on the lists of the disjuncts' certificates, is
    well-founded whenever `compare = -1` is. -/
theorem isCertMultisetStabilizing_wf (h : LawfulCmp cmp)
    (wf : WellFounded (fun a b : α => cmp a b = .lt)) :
    WellFounded (fun X Y : List α => isCertMultisetStabilizing cmp X Y = true) := by
  letI := h.preorder
  haveI : WellFoundedLT α := ⟨wf⟩
  refine Subrelation.wf (r := InvImage (Multiset.IsDershowitzMannaLT) (fun l : List α => (l : Multiset α)))
    ?_ (InvImage.wf _ Multiset.wellFounded_isDershowitzMannaLT)
  intro X Y hXY
  obtain ⟨dX, mX⟩ := collect_spec h X
  obtain ⟨dY, mY⟩ := collect_spec h Y
  have := msStabilizing_dm h _ _ dX dY hXY
  rw [mX, mY] at this
  exact this

end

/-! ### instances -/

theorem h79_lawful : LawfulCmp H79Cert.compare :=
  ⟨H79Cert.compare_eq, H79Cert.compare_swap, H79Cert.compare_trans⟩

theorem grid_lawful : LawfulCmp GridCert.compare :=
  ⟨GridCert.compare_eq, GridCert.compare_swap, GridCert.compare_trans⟩

/-- BHRZ03 certificates of space dimension `n` -/
abbrev BHRZ03CertN (n : Nat) := { c : BHRZ03Cert // c.numRaysNullCoord.length = n }

def BHRZ03CertN.compare {n : Nat} (a b : BHRZ03CertN n) : Ordering := a.1.compare b.1

theorem bhrz03_lawful (n : Nat) : LawfulCmp (BHRZ03CertN.compare (n := n)) where
  eq_iff a b := by
    unfold BHRZ03CertN.compare
    rw [BHRZ03Cert.compare_eq _ _ (by rw [a.2, b.2])]
    exact Subtype.ext_iff.symm
  swap a b := BHRZ03Cert.compare_swap _ _
  trans a b c := BHRZ03Cert.compare_trans _ _ _

theorem bhrz03N_compare_wf (n : Nat) :
    WellFounded (fun a b : BHRZ03CertN n => BHRZ03CertN.compare a b = .lt) := by
  refine Subrelation.wf (r := InvImage (BHRZ03Cert.LessCert n) Subtype.val) ?_
    (InvImage.wf _ (bhrz03_compare_wf n))
  intro a b h
  exact ⟨a.2, b.2, h⟩

/-! ### the order of `BHZ03_widening_assign` on powersets -/

/-- certificate of a powerset element: certificate of the hull of its disjuncts, certificates of the disjuncts -/
structure PSCert (α : Type) where
  hull : α
  certs : List α

/-- "`x` is below `y`" as `BHZ03_widening_assign` guarantees it of its result `x` against the previous
    iterate `y`: the hull certificate decreased (first / second / fourth technique), or the hulls have the
    same certificate and either `x` is a singleton while `y` is not (the fall-back to the hull), or `y`
    is not a singleton and the multiset test passed. -/
def Bhz03Less {α : Type} (lessPh : α → α → Prop) (cmp : α → α → Ordering) (x y : PSCert α) : Prop :=
  lessPh x.hull y.hull ∨
  (x.hull = y.hull ∧
    ((x.certs.length = 1 ∧ 1 < y.certs.length) ∨
     (1 < y.certs.length ∧ isCertMultisetStabilizing cmp x.certs y.certs = true)))

theorem bhz03Less_wf {α : Type} {lessPh : α → α → Prop} {cmp : α → α → Ordering}
    (wfPh : WellFounded lessPh) (h : LawfulCmp cmp) (wf : WellFounded (fun a b : α => cmp a b = .lt)) :
    WellFounded (Bhz03Less lessPh cmp) := by
  have wfMS := isCertMultisetStabilizing_wf h wf
  have wfL : WellFounded (Prod.Lex lessPh (Prod.Lex (· < · : Nat → Nat → Prop)
      (fun X Y : List α => isCertMultisetStabilizing cmp X Y = true))) :=
    WellFounded.prod_lex wfPh (WellFounded.prod_lex Nat.lt_wfRel.wf wfMS)
  refine Subrelation.wf (r := InvImage _ (fun p : PSCert α =>
    (p.hull, (if p.certs.length = 1 then 0 else 1), p.certs))) ?_ (InvImage.wf _ wfL)
  intro x y hxy
  rcases hxy with h1 | ⟨e, h2⟩
  · exact Prod.Lex.left _ _ h1
  · simp only [InvImage]
    rw [e]
    apply Prod.Lex.right
    rcases h2 with ⟨hx, hy⟩ | ⟨hy, hs⟩
    · have : ¬ y.certs.length = 1 := by omega
      simp only [hx, this, ↓reduceIte]
      exact Prod.Lex.left _ _ Nat.zero_lt_one
    · have hy' : ¬ y.certs.length = 1 := by omega
      by_cases hx : x.certs.length = 1
      · simp only [hx, hy', ↓reduceIte]
        exact Prod.Lex.left _ _ Nat.zero_lt_one
      · simp only [hx, hy', ↓reduceIte]
        exact Prod.Lex.right _ hs

end PPLV.Widen

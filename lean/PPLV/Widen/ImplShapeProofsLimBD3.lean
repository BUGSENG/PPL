import PPLV.Widen.ImplShapeProofsLimBD2
import PPLV.Widen.ImplShapeProofsClose
/-!
# the limited extrapolations of `BD_Shape`: between the receiver and the plain widening, and
which of the supplied constraints are kept
-/
namespace PPLV.Widen
open PPLV.WR
open PPLV.WR.ExtRat (fin pinf le_rfl' le_trans' le_total' le_pinf)

theorem BDS.lim_γ_mono {n : Nat} {A B : BDS} (he : B.empty = A.empty) (h : bdLE n A.dbm B.dbm) (p : Nat → Rat)
    (hp : BDS.γ n A p) : BDS.γ n B p :=
  ⟨he.trans hp.1, fun i j hi hj => le_trans' (hp.2 i j hi hj) (h i j hi hj)⟩

/-- `CC76_extrapolation_assign` closes its receiver first, so it does not matter whether `get_limiting_shape`
has closed it already -/
theorem bdCC76_closed_arg (up : Rat → ExtRat) (n : Nat) (stops : List Rat) (X Y : BDS) (tp : Option Nat)
    (hn : n ≠ 0) :
    bdCC76 up n stops (bdClosureAssign up n X) Y tp = bdCC76 up n stops X Y tp := by
  unfold bdCC76
  simp only [hn, if_false, bdClosureAssign_idem]

/-! ## CC76 -/

/-- matrix level, no well-formedness needed -/
theorem bd_limited_cc76_between_cells {up : Rat → ExtRat} (hup : ∀ q, fin q ≤ up q) (n csd : Nat)
    (cs : List LimCon) (X Y : BDS) (tp : Option Nat) (hn : n ≠ 0) (hx : X.empty = false) (hy : Y.empty = false) :
    let Xc := bdClosureAssign up n X
    let P := (bdCC76 up n defaultStops X Y tp).1
    let R := (bdLimitedCC76 up n csd cs X Y tp).1
    R.empty = Xc.empty ∧ P.empty = Xc.empty ∧ (∀ a b, Xc.dbm a b ≤ R.dbm a b) ∧ (∀ a b, R.dbm a b ≤ P.dbm a b) := by
  intro Xc P R
  have hfix : bdClosureAssign up n Xc = Xc := bdClosureAssign_idem up n X
  have hP : BDS.Dom Xc (bdCC76 up n defaultStops Xc Y tp).1 := bdCC76_dom hup n defaultStops Xc Y tp hfix
  have hR : R = bdIntersectionAssign n (bdCC76 up n defaultStops Xc Y tp).1
      (bdGetLimitingShape up n csd cs X BDS.univ).2 := bdLimitedCC76_eq up n csd cs X Y tp hn hx hy
  have hPP : P = (bdCC76 up n defaultStops Xc Y tp).1 := by
    show (bdCC76 up n defaultStops X Y tp).1 = _
    rw [bdCC76_closed_arg up n defaultStops X Y tp hn]
  obtain ⟨h1, h2, h3, _⟩ := bdLimited_core n Xc _ _ hP
    (by rw [bdGetLimitingShape_empty]; rfl) (bdGetLimitingShape_dom up n csd cs X)
  rw [hR, hPP]
  exact ⟨h1, hP.1, h2, h3⟩

/-- `limited_CC76_extrapolation_assign` (`BD_Shape_templates.hh:3268`): the result contains the receiver and is
contained in the plain `CC76_extrapolation_assign` -/
theorem bd_limited_cc76_between {up : Rat → ExtRat} (hup : ∀ q, fin q ≤ up q) (n csd : Nat)
    (cs : List LimCon) (X Y : BDS) (tp : Option Nat) (hWF : BDS.WF n X)
    (hn : n ≠ 0) (hx : X.empty = false) (hy : Y.empty = false) (p : Nat → Rat) :
    (BDS.γ n X p → BDS.γ n (bdLimitedCC76 up n csd cs X Y tp).1 p) ∧
    (BDS.γ n (bdLimitedCC76 up n csd cs X Y tp).1 p → BDS.γ n (bdCC76 up n defaultStops X Y tp).1 p) := by
  obtain ⟨h1, h2, h3, h4⟩ := bd_limited_cc76_between_cells hup n csd cs X Y tp hn hx hy
  constructor
  · intro hp
    exact BDS.lim_γ_mono h1 (fun i j _ _ => h3 i j) p (bdClosureAssign_γ hup hWF hp)
  · intro hp
    exact BDS.lim_γ_mono (h2.trans h1.symm) (fun i j _ _ => h4 i j) p hp

/-- a supplied inequality that is a bounded difference, whose cell is in range and which the closed receiver
satisfies at matrix level (`x ≤ d`, the test of `:3233`), is a constraint of the result: its cell is at most `d`,
so every point of the result satisfies `v_col - v_row ≤ d` -/
theorem bd_limited_cc76_keeps {up : Rat → ExtRat} (hup : ∀ q, fin q ≤ up q) (n csd : Nat)
    (cs : List LimCon) (X Y : BDS) (tp : Option Nat) (hn : n ≠ 0) (hx : X.empty = false) (hy : Y.empty = false)
    (c : LimCon) (hc : c ∈ cs) (hsel : bdLimSel csd c = true) (hineq : c.isEq = false)
    (hi : (bdLimCell csd c).1 ≤ n) (hj : (bdLimCell csd c).2 ≤ n)
    (hsat : (bdClosureAssign up n X).dbm (bdLimCell csd c).1 (bdLimCell csd c).2 ≤ bdLimBound up csd c) :
    ((bdClosureAssign up n X).empty = false →
      (bdLimitedCC76 up n csd cs X Y tp).1.dbm (bdLimCell csd c).1 (bdLimCell csd c).2 ≤ bdLimBound up csd c) ∧
    ∀ p, BDS.γ n (bdLimitedCC76 up n csd cs X Y tp).1 p →
      fin (DBM.val p (bdLimCell csd c).2 - DBM.val p (bdLimCell csd c).1) ≤ bdLimBound up csd c := by
  have hfix : bdClosureAssign up n (bdClosureAssign up n X) = bdClosureAssign up n X := bdClosureAssign_idem up n X
  have hP := bdCC76_dom hup n defaultStops (bdClosureAssign up n X) Y tp hfix
  have hR := bdLimitedCC76_eq up n csd cs X Y tp hn hx hy
  obtain ⟨h1, _, _, h4⟩ := bdLimited_core n (bdClosureAssign up n X) _ _ hP
    (by rw [bdGetLimitingShape_empty]; rfl) (bdGetLimitingShape_dom up n csd cs X)
  rw [← hR] at h1 h4
  have key : (bdClosureAssign up n X).empty = false →
      (bdLimitedCC76 up n csd cs X Y tp).1.dbm (bdLimCell csd c).1 (bdLimCell csd c).2 ≤ bdLimBound up csd c :=
    fun hne => le_trans' (h4 hne hn _ _ hi hj) (bdGetLimitingShape_keeps up n csd cs X _ c hc hsel hineq hsat)
  refine ⟨key, fun p hp => ?_⟩
  exact le_trans' (hp.2 _ _ hi hj) (key (h1.symm.trans hp.1))

/-! ## BHMZ05 -/

theorem bd_limited_bhmz05_between_cells (up : Rat → ExtRat) (n csd : Nat)
    (cs : List LimCon) (X Y : BDS) (tp : Option Nat) (hn : n ≠ 0) (hx : X.empty = false) (hy : Y.empty = false)
    (r : BDS × BDS × Option Nat × Mat) (hr : bdLimitedBHMZ05 up n csd cs X Y tp = some r) :
    ∃ P, bdBHMZ05 up n (bdClosureAssign up n X) Y tp = some P ∧
      r.1.empty = (bdClosureAssign up n X).empty ∧ P.1.empty = (bdClosureAssign up n X).empty ∧
      (∀ a b, (bdClosureAssign up n X).dbm a b ≤ r.1.dbm a b) ∧ (∀ a b, r.1.dbm a b ≤ P.1.dbm a b) := by
  obtain ⟨P, hP, hR⟩ := bdLimitedBHMZ05_eq up n csd cs X Y tp hn hx hy r hr
  have hdom := bdBHMZ05_dom up n (bdClosureAssign up n X) Y tp (bdClosureAssign_idem up n X) P hP
  obtain ⟨h1, h2, h3, _⟩ := bdLimited_core n (bdClosureAssign up n X) _ _ hdom
    (by rw [bdGetLimitingShape_empty]; rfl) (bdGetLimitingShape_dom up n csd cs X)
  rw [← hR] at h1 h2 h3
  exact ⟨P, hP, h1, hdom.1, h2, h3⟩

/-- `limited_BHMZ05_extrapolation_assign` (`BD_Shape_templates.hh:3381`): the result contains the receiver and is
contained in the plain `BHMZ05_widening_assign` of the closed receiver -/
theorem bd_limited_bhmz05_between {up : Rat → ExtRat} (hup : ∀ q, fin q ≤ up q) (n csd : Nat)
    (cs : List LimCon) (X Y : BDS) (tp : Option Nat) (hWF : BDS.WF n X)
    (hn : n ≠ 0) (hx : X.empty = false) (hy : Y.empty = false)
    (r : BDS × BDS × Option Nat × Mat) (hr : bdLimitedBHMZ05 up n csd cs X Y tp = some r) :
    ∃ P, bdBHMZ05 up n (bdClosureAssign up n X) Y tp = some P ∧
      ∀ p, (BDS.γ n X p → BDS.γ n r.1 p) ∧ (BDS.γ n r.1 p → BDS.γ n P.1 p) := by
  obtain ⟨P, hP, h1, h2, h3, h4⟩ := bd_limited_bhmz05_between_cells up n csd cs X Y tp hn hx hy r hr
  refine ⟨P, hP, fun p => ⟨fun hp => ?_, fun hp => ?_⟩⟩
  · exact BDS.lim_γ_mono h1 (fun i j _ _ => h3 i j) p (bdClosureAssign_γ hup hWF hp)
  · exact BDS.lim_γ_mono (h2.trans h1.symm) (fun i j _ _ => h4 i j) p hp

theorem bd_limited_bhmz05_keeps (up : Rat → ExtRat) (n csd : Nat)
    (cs : List LimCon) (X Y : BDS) (tp : Option Nat) (hn : n ≠ 0) (hx : X.empty = false) (hy : Y.empty = false)
    (r : BDS × BDS × Option Nat × Mat) (hr : bdLimitedBHMZ05 up n csd cs X Y tp = some r)
    (c : LimCon) (hc : c ∈ cs) (hsel : bdLimSel csd c = true) (hineq : c.isEq = false)
    (hi : (bdLimCell csd c).1 ≤ n) (hj : (bdLimCell csd c).2 ≤ n)
    (hsat : (bdClosureAssign up n X).dbm (bdLimCell csd c).1 (bdLimCell csd c).2 ≤ bdLimBound up csd c) :
    ((bdClosureAssign up n X).empty = false →
      r.1.dbm (bdLimCell csd c).1 (bdLimCell csd c).2 ≤ bdLimBound up csd c) ∧
    ∀ p, BDS.γ n r.1 p →
      fin (DBM.val p (bdLimCell csd c).2 - DBM.val p (bdLimCell csd c).1) ≤ bdLimBound up csd c := by
  obtain ⟨P, hP, hR⟩ := bdLimitedBHMZ05_eq up n csd cs X Y tp hn hx hy r hr
  have hdom := bdBHMZ05_dom up n (bdClosureAssign up n X) Y tp (bdClosureAssign_idem up n X) P hP
  obtain ⟨h1, _, _, h4⟩ := bdLimited_core n (bdClosureAssign up n X) _ _ hdom
    (by rw [bdGetLimitingShape_empty]; rfl) (bdGetLimitingShape_dom up n csd cs X)
  rw [← hR] at h1 h4
  have key : (bdClosureAssign up n X).empty = false →
      r.1.dbm (bdLimCell csd c).1 (bdLimCell csd c).2 ≤ bdLimBound up csd c :=
    fun hne => le_trans' (h4 hne hn _ _ hi hj) (bdGetLimitingShape_keeps up n csd cs X _ c hc hsel hineq hsat)
  refine ⟨key, fun p hp => ?_⟩
  exact le_trans' (hp.2 _ _ hi hj) (key (h1.symm.trans hp.1))

end PPLV.Widen

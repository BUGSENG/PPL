import PPLV.Widen.ImplShapeProofsLimOct2
import PPLV.Widen.ImplShapeProofsLimRange
import Mathlib.Tactic.Linarith
import Mathlib.Tactic.Ring
import Mathlib.Tactic.Push
import Mathlib.Algebra.Order.Field.Rat
/-!
# `Octagonal_Shape`: what the kept cell means for the supplied inequality itself when
`div_round_up` is exact
-/
namespace PPLV.Widen
open PPLV.WR
open PPLV.WR.ExtRat (fin pinf le_rfl' le_trans' le_total' le_pinf fin_le_fin)

theorem oval_even (x : Nat → Rat) (f : Nat) : OctM.oval x (f * 2) = x f := by
  unfold OctM.oval
  have h1 : (f * 2) % 2 = 0 := by omega
  have h2 : (f * 2) / 2 = f := by omega
  simp [h1, h2]

theorem oval_odd (x : Nat → Rat) (f : Nat) : OctM.oval x (f * 2 + 1) = - x f := by
  unfold OctM.oval
  have h1 : (f * 2 + 1) % 2 = 1 := by omega
  have h2 : (f * 2 + 1) / 2 = f := by omega
  simp [h1, h2]

/-- the row index `extract_octagonal_difference` picks for a coefficient `c` of variable `f` (odd for `c < 0`) -/
theorem oval_abs_neg (x : Nat → Rat) (f : Nat) (c : Int) :
    ((if c < 0 then -c else c : Int) : Rat) * OctM.oval x (if c < 0 then f * 2 + 1 else f * 2) = c * x f := by
  split_ifs
  · rw [oval_odd]; push_cast; ring
  · rw [oval_even]

/-- … and the column index (odd for `c > 0`) -/
theorem oval_abs_pos (x : Nat → Rat) (f : Nat) (c : Int) :
    ((if c < 0 then -c else c : Int) : Rat) * OctM.oval x (if c > 0 then f * 2 + 1 else f * 2) = -(c * x f) := by
  rcases lt_trichotomy c 0 with h | rfl | h
  · rw [if_pos h, if_neg (by omega), oval_even]; push_cast; ring
  · simp
  · rw [if_neg (by omega), if_pos h, oval_odd]; ring

/-- the normal form of a proper octagonal difference (`Octagonal_Shape.cc:34`):
`term - |coeff|·(v_j - v_i) = k·(cf·x + inhomo)` with `k = 2` for one variable (`term = 2·inhomo`), `k = 1`
for two -/
theorem extractOctagonalDifference_spec (sd : Nat) (cf : Nat → Int) (inhomo : Int)
    (hok : (extractOctagonalDifference sd cf inhomo).ok = true)
    (hnv : (extractOctagonalDifference sd cf inhomo).numVars ≠ 0) :
    (0 : Int) < (if (extractOctagonalDifference sd cf inhomo).coeff < 0
        then - (extractOctagonalDifference sd cf inhomo).coeff else (extractOctagonalDifference sd cf inhomo).coeff) ∧
    ∃ k : Rat, 0 < k ∧ ∀ x : Nat → Rat,
      ((extractOctagonalDifference sd cf inhomo).term : Rat)
        - (((if (extractOctagonalDifference sd cf inhomo).coeff < 0
              then - (extractOctagonalDifference sd cf inhomo).coeff
              else (extractOctagonalDifference sd cf inhomo).coeff : Int)) : Rat)
          * (OctM.oval x (extractOctagonalDifference sd cf inhomo).j
              - OctM.oval x (extractOctagonalDifference sd cf inhomo).i)
        = k * (linEval cf x sd + inhomo) := by
  obtain ⟨f1, f2, f3, f4⟩ := firstNonzero_spec cf (show 1 ≤ sd + 1 by omega)
  unfold extractOctagonalDifference at hok hnv ⊢
  dsimp only at hok hnv ⊢
  generalize firstNonzero cf 1 (sd + 1) = i at *
  by_cases h1 : i = sd + 1
  · rw [if_pos h1] at hnv; simp at hnv
  · rw [if_neg h1] at hok hnv ⊢
    obtain ⟨i', rfl⟩ : ∃ i', i = i' + 1 := ⟨i - 1, by omega⟩
    simp only [Nat.add_sub_cancel] at hok hnv ⊢
    obtain ⟨s1, s2, s3, s4⟩ := firstNonzero_spec cf (show i' + 2 ≤ sd + 1 by omega)
    generalize firstNonzero cf (i' + 2) (sd + 1) = j at *
    have hci : cf i' ≠ 0 := by simpa using f4 (by omega)
    have zlo : ∀ t, t < i' → cf t = 0 := by
      intro t ht
      have := f3 (t + 1) (by omega) (by omega)
      simpa using this
    have zmid : ∀ t, i' < t → t + 1 < j → cf t = 0 := by
      intro t ht1 ht2
      have := s3 (t + 1) (by omega) (by omega)
      simpa using this
    by_cases h2 : j = sd + 1
    · rw [if_pos h2]
      have hlin : ∀ x : Nat → Rat, linEval cf x sd = (cf i' : Rat) * x i' := by
        intro x
        refine linEval_support1 cf x (a := i') (by omega) (fun t ht hta => ?_)
        rcases Nat.lt_or_gt_of_ne hta with hlt | hgt
        · exact zlo t hlt
        · exact zmid t hgt (by omega)
      by_cases hneg : cf i' < 0
      · simp only [hneg, if_true]
        refine ⟨by omega, 2, by norm_num, fun x => ?_⟩
        rw [hlin, oval_even, oval_odd]
        push_cast
        ring
      · simp only [hneg, if_false]
        refine ⟨by omega, 2, by norm_num, fun x => ?_⟩
        rw [hlin, oval_even, oval_odd]
        push_cast
        ring
    · rw [if_neg h2] at hok hnv ⊢
      obtain ⟨j', rfl⟩ : ∃ j', j = j' + 1 := ⟨j - 1, by omega⟩
      simp only [Nat.add_sub_cancel] at hok hnv ⊢
      have hcj : cf j' ≠ 0 := by simpa using s4 (by omega)
      by_cases h3 : (!allZeroes cf (j' + 2) (sd + 1)) = true
      · rw [if_pos h3] at hok; simp at hok
      · rw [if_neg h3] at hok hnv ⊢
        by_cases h4 : cf j' ≠ cf i' ∧ cf j' ≠ - cf i'
        · rw [if_pos h4] at hok; simp at hok
        · rw [if_neg h4]
          have hall : firstNonzero cf (j' + 2) (sd + 1) = sd + 1 := by
            simpa [allZeroes] using h3
          obtain ⟨u1, u2, u3, u4⟩ := firstNonzero_spec cf (show j' + 2 ≤ sd + 1 by omega)
          rw [hall] at u3
          have zhi : ∀ t, j' < t → t < sd → cf t = 0 := by
            intro t ht1 ht2
            have := u3 (t + 1) (by omega) (by omega)
            simpa using this
          have hlin : ∀ x : Nat → Rat, linEval cf x sd = (cf i' : Rat) * x i' + (cf j' : Rat) * x j' := by
            intro x
            refine linEval_support2 cf x (a := i') (b := j') (by omega) (by omega) (by omega)
              (fun t ht hta htb => ?_)
            rcases Nat.lt_or_gt_of_ne hta with hlt | hgt
            · exact zlo t hlt
            · rcases Nat.lt_or_gt_of_ne htb with hlt' | hgt'
              · exact zmid t hgt (by omega)
              · exact zhi t hgt' ht
          have h4' : cf j' = cf i' ∨ cf j' = - cf i' := by
            by_contra hc
            exact h4 ⟨fun e => hc (Or.inl e), fun e => hc (Or.inr e)⟩
          dsimp only
          -- `|c0| = |c1|`, and `|c| · oval` at the index chosen by the sign of `c` is `± c · x`
          have habs : (if cf j' < 0 then -cf j' else cf j') = (if cf i' < 0 then -cf i' else cf i') := by
            rcases h4' with e | e <;> split_ifs <;> omega
          refine ⟨by split_ifs <;> omega, 1, by norm_num, fun x => ?_⟩
          rw [hlin, mul_sub, oval_abs_neg x j' (cf j'), habs, oval_abs_pos x i' (cf i')]
          ring

/-- `v_j - v_i ≤ term / |coeff|` is the supplied inequality `cf·v + inhomo ≥ 0` -/
theorem oct_exact_ineq_holds (csd : Nat) (c : LimCon) (hsel : octLimSel csd c = true) (p : Nat → Rat)
    (h : OctM.oval p (octLimCell csd c).2 - OctM.oval p (octLimCell csd c).1
      ≤ ((extractOctagonalDifference csd c.coeff c.inhomo).term : Rat) / (octLimCoeff csd c : Rat)) :
    0 ≤ linEval c.coeff p csd + c.inhomo := by
  unfold octLimSel at hsel
  simp only [Bool.and_eq_true, bne_iff_ne, ne_eq] at hsel
  obtain ⟨hpos, k, hk, hlin⟩ := extractOctagonalDifference_spec csd c.coeff c.inhomo hsel.1 hsel.2
  unfold octLimCell octLimCoeff at h
  simp only at h
  have hc : (0 : Rat) < (((if (extractOctagonalDifference csd c.coeff c.inhomo).coeff < 0
      then - (extractOctagonalDifference csd c.coeff c.inhomo).coeff
      else (extractOctagonalDifference csd c.coeff c.inhomo).coeff : Int)) : Rat) := by exact_mod_cast hpos
  rw [le_div_iff₀ hc] at h
  have := hlin p
  have hk' : 0 ≤ k * (linEval c.coeff p csd + c.inhomo) := by linarith
  exact nonneg_of_mul_nonneg_right hk' hk

/-- any result `P ⊓ limiting octagon` with `P` dominating the closed receiver keeps, at the level of the supplied
constraint, every selected inequality whose quotient `div_round_up` computes exactly -/
theorem octLimited_keeps_exact (up : Rat → ExtRat) (n csd : Nat) (cs : List LimCon) (X P : OCS)
    (hP : OCS.Dom (octClosureAssign up n X) P) (hn : n ≠ 0) (hcsd : csd ≤ n)
    (c : LimCon) (hc : c ∈ cs) (hsel : octLimSel csd c = true) (hineq : c.isEq = false)
    (hex : octLimBound up csd c
      = fin (((extractOctagonalDifference csd c.coeff c.inhomo).term : Rat) / (octLimCoeff csd c : Rat)))
    (hsat : (octClosureAssign up n X).mat (octLimCell csd c).1 (octLimCell csd c).2 ≤ octLimBound up csd c)
    (p : Nat → Rat)
    (hp : OCS.γ n (octIntersectionAssign n P (octGetLimitingOctagon up n csd cs X OCS.univ).2) p) :
    0 ≤ linEval c.coeff p csd + c.inhomo := by
  obtain ⟨r1, r2⟩ := octLimCell_range csd c hsel
  have r1' : (octLimCell csd c).1 < 2 * n := by omega
  obtain ⟨h1, _, _, h4⟩ := octLimited_core n _ P _ hP (by rw [octGetLimitingOctagon_empty]; rfl)
    (octGetLimitingOctagon_dom up n csd cs X)
  have := le_trans' (hp.2 _ _ r1' r2) (le_trans' (h4 (h1.symm.trans hp.1) hn _ _ r1' r2)
    (octGetLimitingOctagon_keeps up n csd cs X _ c hc hsel hineq hsat))
  rw [hex, fin_le_fin] at this
  exact oct_exact_ineq_holds csd c hsel p this

theorem oct_limited_cc76_keeps_exact {up : Rat → ExtRat} (hup : ∀ q, fin q ≤ up q) (n csd : Nat)
    (cs : List LimCon) (X Y : OCS) (tp : Option Nat) (hn : n ≠ 0) (hx : X.empty = false) (hy : Y.empty = false)
    (hcsd : csd ≤ n) (c : LimCon) (hc : c ∈ cs) (hsel : octLimSel csd c = true) (hineq : c.isEq = false)
    (hex : octLimBound up csd c
      = fin (((extractOctagonalDifference csd c.coeff c.inhomo).term : Rat) / (octLimCoeff csd c : Rat)))
    (hsat : (octClosureAssign up n X).mat (octLimCell csd c).1 (octLimCell csd c).2 ≤ octLimBound up csd c)
    (p : Nat → Rat) (hp : OCS.γ n (octLimitedCC76 up n csd cs X Y tp).1 p) :
    0 ≤ linEval c.coeff p csd + c.inhomo := by
  rw [octLimitedCC76_eq up n csd cs X Y tp hn hx hy] at hp
  exact octLimited_keeps_exact up n csd cs X _
    (octCC76_dom hup n defaultStops _ Y tp (octClosureAssign_fix up n X)) hn hcsd c hc hsel hineq hex hsat p hp

theorem oct_limited_bhmz05_keeps_exact (up : Rat → ExtRat) (n csd : Nat)
    (cs : List LimCon) (X Y : OCS) (tp : Option Nat) (hn : n ≠ 0) (hx : X.empty = false) (hy : Y.empty = false)
    (r : OCS × OCS × Option Nat × Mat) (hr : octLimitedBHMZ05 up n csd cs X Y tp = some r)
    (hcsd : csd ≤ n) (c : LimCon) (hc : c ∈ cs) (hsel : octLimSel csd c = true) (hineq : c.isEq = false)
    (hex : octLimBound up csd c
      = fin (((extractOctagonalDifference csd c.coeff c.inhomo).term : Rat) / (octLimCoeff csd c : Rat)))
    (hsat : (octClosureAssign up n X).mat (octLimCell csd c).1 (octLimCell csd c).2 ≤ octLimBound up csd c)
    (p : Nat → Rat) (hp : OCS.γ n r.1 p) :
    0 ≤ linEval c.coeff p csd + c.inhomo := by
  obtain ⟨P, hP, hR⟩ := octLimitedBHMZ05_eq up n csd cs X Y tp hn hx hy r hr
  rw [hR] at hp
  exact octLimited_keeps_exact up n csd cs X _
    (octBHMZ05_dom up n _ Y tp (octClosureAssign_fix up n X) P hP) hn hcsd c hc hsel hineq hex hsat p hp

theorem octLimBound_upId (csd : Nat) (c : LimCon) :
    octLimBound upId csd c
      = fin (((extractOctagonalDifference csd c.coeff c.inhomo).term : Rat) / (octLimCoeff csd c : Rat)) := rfl

end PPLV.Widen

import PPLV.Widen.ImplH79ProofsEngineMinG3
import PPLV.Widen.ImplH79ProofsEngineMinAbs1
import PPLV.Widen.ImplH79ProofsEngineMinAbs2

/-!
# `MinimalDD.hymin` from the engine guarantees

`hymin_of_engine`: for a `YMin` with the engine guarantees `EngineDD n y` AND `FacetPoints y` (every
non-tautological inequality is saturated by a point of `gen_sys`), the number of non-tautological rows of
`y.conSys` is the least number of rows of a constraint system denoting the same set.

`FacetPoints` is NOT a consequence of `EngineDD` and the statement is false without it
(`ImplH79ProofsEngineMinEx.hymin_fails_without_facetPoints`): `n = 1`, `con_sys = {x = 0, 1 + x ≥ 0}`,
`gen_sys = {point 0}` has every `EngineDD` field, two non-tautological rows, and `{x = 0}` denotes the same
set.  (The real `simplify` back-substitutes the equalities into the inequalities, which turns `1 + x ≥ 0`
into the positivity constraint; `EngineDD` does not record that.)

Structure of the proof (`ImplH79ProofsEngineMinAbs0/1/2`: pure linear algebra over `ℚ`, rows as linear
functionals on `ℕ → ℚ`, everything homogeneous — "small ε" is replaced by "large multiple"):
* `Abs.facets_inj`: an injection of the inequalities of `y` into the rows of `D` that do not vanish on the
  polyhedron (interior vector, facet vectors `w_j`, a failing row of `D` at `M • w_j + x_j`);
* `Abs.eqs_count`: at least `e` rows of `D` vanish on the polyhedron (`mem_span_of_iInf_ker_le_ker`);
* `Abs.count_total`: `e + f ≤ m`.
-/
namespace PPLV.Widen.Impl

/-- every constraint system denoting the set of `y.conSys` has at least as many rows as `y.conSys` has
non-tautological ones -/
theorem nontaut_le_of_den_eq {n : Nat} {y : YMin} (hy : EngineDD n y) (hfp : FacetPoints y)
    (cs : List CRow) (wf : WFRows n cs) (hden : den false n cs = den false n y.conSys) :
    (y.conSys.filter (!·.isTautological false)).length ≤ cs.length := by
  rw [nontaut_length hy]
  have hs := setup_of_engine hy hfp cs wf hden
  exact Abs.count_total hs (famA_indep hy) (Abs.facets_inj hs)

theorem hymin_of_engine (n : Nat) (y : YMin) (hy : EngineDD n y) (hfp : FacetPoints y) :
    (y.conSys.filter (!·.isTautological false)).length = minCons n (den false n y.conSys) := by
  apply le_antisymm
  · apply le_csInf
    · exact ⟨_, _, wfRows_sublist List.filter_sublist hy.wf, rfl, den_filter_nontaut n y.conSys⟩
    · rintro k ⟨cs, wf, rfl, hden⟩
      exact nontaut_le_of_den_eq hy hfp cs wf hden
  · exact minCons_le_nontaut n y.conSys hy.wf

end PPLV.Widen.Impl

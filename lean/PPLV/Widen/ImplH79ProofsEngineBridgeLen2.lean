import PPLV.Conv.ProofsCompleteK1a
import PPLV.Widen.ImplH79ProofsEngineBridgeIndep
/-!
# exact row lengths through `conversion` / `minimize` (dest side)

The `≤` lemmas of `PPLV/Conv/ProofsCompleteK1a.lean`, with `=`: the identity matrix has rows of exactly `ncols`
coefficients, a combination of two rows of equal length keeps it, normalisation keeps it.
-/
namespace PPLV.Widen.Impl
open PPLV.Conv

theorem lengthEq_combRow (n : Nat) (pr : LRow) (psp : Int) (r : LRow) (sp : Int)
    (h1 : pr.v.length = n) (h2 : r.v.length = n) : (combRow pr psp r sp).v.length = n := by
  unfold combRow combineWithNle
  simp only
  rw [length_strongNormalize]
  simp only [length_linearCombine]
  omega

theorem lengthEq_newRay (n : Nat) (ri rj : DRow) (s : BRow)
    (h1 : ri.row.v.length = n) (h2 : rj.row.v.length = n) : (newRay ri rj s).row.v.length = n := by
  unfold newRay
  simp only
  rw [length_strongNormalize]
  simp only [length_linearCombine]
  omega

/-- one iteration of the main loop does not lengthen the rows. -/
theorem conversionStep_lengthEq (ncols n : Nat) (srcK : LRow) (st : CState)
    (hn : st.nle ≤ st.rows.length) (hlen : ∀ d ∈ st.rows, d.row.v.length = n) :
    ∀ d ∈ (conversionStep ncols srcK st).rows, d.row.v.length = n := by
  let rows1 := st.rows.map fun d => { d with sp := scalarProduct srcK.v d.row.v }
  let st1 : CState := { st with rows := rows1 }
  have hlen1 : ∀ d ∈ st1.rows, d.row.v.length = n := by
    intro d hd
    obtain ⟨d0, hd0, rfl⟩ := List.mem_map.mp hd
    exact hlen d0 hd0
  have hn1 : st1.nle ≤ st1.rows.length := by
    show st.nle ≤ rows1.length
    simp only [rows1, List.length_map]; exact hn
  have hbefore : ∀ m d, m < indexNonZero rows1 → st1.rows[m]? = some d → d.sp = 0 :=
    fun m d hm hd => indexNonZero_before rows1 m d hm hd
  by_cases hc : indexNonZero rows1 < st.nle
  · have e : conversionStep ncols srcK st
        = lineCase srcK (st.k - st.redundant.length) st1 (indexNonZero rows1) := by
      show (if indexNonZero rows1 < st.nle then lineCase srcK (st.k - st.redundant.length) st1 (indexNonZero rows1)
            else rayCase ncols srcK (st.k - st.redundant.length) st1) = _
      rw [if_pos hc]
    rw [e]
    have hlt : indexNonZero rows1 < st1.rows.length := by
      have : st1.nle = st.nle := rfl
      omega
    intro d hd
    have hr : st1.rows[indexNonZero rows1]? = some (st1.rows[indexNonZero rows1]'hlt) :=
      List.getElem?_eq_getElem hlt
    have hp : (linePivot (st1.rows[indexNonZero rows1]'hlt)).row.v.length = n := by
      rw [length_linePivot]; exact hlen1 _ (List.getElem_mem hlt)
    rcases lineCase_row_cases srcK _ st1 _ hc hn1 _ hr d hd with h | ⟨d0, hd0, h | h⟩
    · rw [h]; exact hp
    · rw [h]; exact hlen1 d0 hd0
    · rw [h]; exact lengthEq_combRow n _ _ _ _ hp (hlen1 d0 hd0)
  · have e : conversionStep ncols srcK st = rayCase ncols srcK (st.k - st.redundant.length) st1 := by
      show (if indexNonZero rows1 < st.nle then lineCase srcK (st.k - st.redundant.length) st1 (indexNonZero rows1)
            else rayCase ncols srcK (st.k - st.redundant.length) st1) = _
      rw [if_neg hc]
    rw [e]
    have hz : ∀ d ∈ st1.rows.take st1.nle, d.sp = 0 := by
      intro d hd
      obtain ⟨m, hm⟩ := List.mem_iff_getElem?.mp hd
      rw [List.getElem?_take] at hm
      by_cases hlt : m < st1.nle
      · simp only [hlt, if_true] at hm
        have : m < indexNonZero rows1 := by
          have : st1.nle = st.nle := rfl
          omega
        exact hbefore m d this hm
      · simp [hlt] at hm
    obtain ⟨_, _, _, tail, hrows, htail, _⟩ := rayCase_rows ncols srcK (st.k - st.redundant.length) st1 hn1 hz
    intro d hd
    rw [hrows] at hd
    rcases List.mem_append.mp hd with h | h
    · exact hlen1 d (List.mem_of_mem_take h)
    · rcases htail d h with ⟨d0, hd0, _, rfl⟩ | ⟨ri, hri, rj, hrj, _, _, rfl⟩
      · rw [keepImage_row]; exact hlen1 d0 (List.mem_of_mem_drop hd0)
      · exact lengthEq_newRay n ri rj _ (hlen1 ri (List.mem_of_mem_drop hri)) (hlen1 rj (List.mem_of_mem_drop hrj))

/-- the main loop does not lengthen the rows. -/
theorem conversionLoop_lengthEq (ncols n : Nat) (rest : List LRow) (st : CState)
    (hl : ∀ m d, st.rows[m]? = some d → d.row.le = decide (m < st.nle)) (hn : st.nle ≤ st.rows.length)
    (hlen : ∀ d ∈ st.rows, d.row.v.length = n) :
    ∀ d ∈ (conversionLoop ncols rest st).rows, d.row.v.length = n := by
  induction rest generalizing st with
  | nil => simpa only [conversionLoop] using hlen
  | cons s rest ih =>
    obtain ⟨_, h2, h3⟩ := conversionStep_sound ncols s st [] (fun _ _ _ hs => by cases hs) hl hn
    simp only [conversionLoop]
    exact ih { conversionStep ncols s st with k := st.k + 1 } h2 h3 (conversionStep_lengthEq ncols n s st hn hlen)

/-- **no returned row is longer than the longest row of `dest`.** -/
theorem conversion_lengthEq (ncols n : Nat) (source : List LRow) (start : Nat) (dest : List LRow) (sat : List BRow)
    (nle : Nat) (hl : LinesFirst dest nle) (hn : nle ≤ dest.length) (hsat : sat.length = dest.length)
    (hlen : ∀ g ∈ dest, g.v.length = n) :
    ∀ g ∈ (conversion ncols source start dest sat nle).dest, g.v.length = n := by
  have hrow := initRows_row dest sat hsat
  let st0 : CState := { rows := initRows dest sat, nle := nle, k := start, redundant := [] }
  have hmem : ∀ d ∈ st0.rows, d.row ∈ dest := by
    intro d hd
    rw [← hrow]; exact List.mem_map_of_mem hd
  have hl0 : ∀ m d, st0.rows[m]? = some d → d.row.le = decide (m < st0.nle) := by
    have : LinesFirst (st0.rows.map (·.row)) nle := by
      show LinesFirst ((initRows dest sat).map (·.row)) nle; rw [hrow]; exact hl
    exact (linesFirst_iff st0.rows nle).mp this
  have hn0 : st0.nle ≤ st0.rows.length := by
    show nle ≤ (initRows dest sat).length
    have : (initRows dest sat).length = dest.length := by
      have := congrArg List.length hrow
      simpa using this
    omega
  have h := conversionLoop_lengthEq ncols n (source.drop start) st0 hl0 hn0 (fun d hd => hlen d.row (hmem d hd))
  intro g hg
  obtain ⟨d, hd, rfl⟩ := List.mem_map.mp hg
  exact h d hd

/-- **the conversion run by `minimize`** returns rows with at most `ncols` coefficients. -/
theorem conversion_identity_lengthEq (ncols : Nat) (source : List LRow) :
    ∀ g ∈ (conversion ncols source 0 (identityLines ncols)
      (List.replicate ncols (List.replicate source.length false)) ncols).dest, g.v.length = ncols := by
  apply conversion_lengthEq ncols ncols source 0 (identityLines ncols) _ ncols (linesFirst_identity' ncols)
  · simp [identityLines]
  · simp [identityLines]
  · intro g hg
    rw [identityLines_eq] at hg
    obtain ⟨i, _, rfl⟩ := List.mem_map.mp hg
    simp [unitV_length]

/-- **the generator system `minimize` leaves has rows of exactly `n + 1` coefficients**: the rows come from the
identity matrix, whatever the lengths of the source rows. -/
theorem minimize_dest_length (n : Nat) (source : List PPLV.Conv.LRow) (sat0 : List PPLV.Conv.BRow) :
    ∀ g ∈ (PPLV.Conv.minimize true false (n + 1) source sat0).dest, g.v.length = n + 1 := by
  rw [minimize_dest_eq]
  exact conversion_identity_lengthEq (n + 1) source

end PPLV.Widen.Impl

import PPLV.Widen.ImplH79ProofsEngineMinAbs0
import Mathlib.Tactic.Linarith
import Mathlib.Tactic.Choose
import Mathlib.Tactic.Positivity
import Mathlib.Algebra.Order.BigOperators.Group.Finset

/-!
# the abstract counting argument: an injection facets → non-vanishing rows of `D`
-/
namespace PPLV.Widen.Impl.Abs

variable {V : Type*} [AddCommGroup V] [Module ℚ V]

/-- threshold: every large enough multiple of a positive family `s` dominates `-t` -/
theorem thr {ι : Type*} [Fintype ι] (s t : ι → ℚ) (hs : ∀ i, 0 < s i) :
    ∃ M : ℚ, 0 < M ∧ ∀ M', M ≤ M' → ∀ i, 0 < M' * s i + t i := by
  classical
  refine ⟨1 + ∑ i, |t i| / s i, ?_, ?_⟩
  · have : 0 ≤ ∑ i, |t i| / s i :=
      Finset.sum_nonneg (fun i _ => div_nonneg (abs_nonneg _) (hs i).le)
    linarith
  · intro M' hM' i
    have hnn : ∀ k ∈ (Finset.univ : Finset ι), 0 ≤ |t k| / s k :=
      fun k _ => div_nonneg (abs_nonneg _) (hs k).le
    have h1 := Finset.single_le_sum hnn (Finset.mem_univ i)
    have h2 : |t i| / s i < M' := by linarith
    rw [div_lt_iff₀ (hs i)] at h2
    have h3 := neg_abs_le (t i)
    linarith

theorem thr1 (s t : ℚ) (hs : 0 < s) :
    ∃ M : ℚ, 0 < M ∧ ∀ M', M ≤ M' → 0 < M' * s + t := by
  obtain ⟨M, hM, h⟩ := thr (fun _ : Unit => s) (fun _ => t) (fun _ => hs)
  exact ⟨M, hM, fun M' hM' => h M' hM' ()⟩

/-- a vector strictly inside the cone absorbs any `x ∈ ker A`: for large `M` both `M • mm ± x` are in the cone -/
theorem absorb {x0 : V →ₗ[ℚ] ℚ} {e f : ℕ} {A : Fin e → V →ₗ[ℚ] ℚ} {C : Fin f → V →ₗ[ℚ] ℚ}
    {mm x : V} (h0 : 0 < x0 mm) (hA : ∀ i, A i mm = 0) (hC : ∀ j, 0 < C j mm)
    (hx : ∀ i, A i x = 0) :
    ∃ M : ℚ, 0 < M ∧ (0 < x0 (M • mm + x) ∧ InK A C (M • mm + x)) ∧
      (0 < x0 (M • mm - x) ∧ InK A C (M • mm - x)) := by
  obtain ⟨M1, hM1, h1⟩ := thr (fun j => C j mm) (fun j => C j x) hC
  obtain ⟨M2, hM2, h2⟩ := thr (fun j => C j mm) (fun j => -(C j x)) hC
  obtain ⟨M3, hM3, h3⟩ := thr1 (x0 mm) (x0 x) h0
  obtain ⟨M4, hM4, h4⟩ := thr1 (x0 mm) (-(x0 x)) h0
  have hM : 0 < M1 + M2 + M3 + M4 := by linarith
  refine ⟨M1 + M2 + M3 + M4, hM, ⟨?_, ?_, ?_⟩, ⟨?_, ?_, ?_⟩⟩
  · have := h3 (M1 + M2 + M3 + M4) (by linarith)
    simpa [map_add, map_smul, smul_eq_mul] using this
  · intro i; simp [map_add, map_smul, hA, hx]
  · intro j
    have := h1 (M1 + M2 + M3 + M4) (by linarith) j
    have h' : C j ((M1 + M2 + M3 + M4) • mm + x) = (M1 + M2 + M3 + M4) * C j mm + C j x := by
      simp [map_add, map_smul, smul_eq_mul]
    rw [h']; exact this.le
  · have := h4 (M1 + M2 + M3 + M4) (by linarith)
    have h' : x0 ((M1 + M2 + M3 + M4) • mm - x) = (M1 + M2 + M3 + M4) * x0 mm + -(x0 x) := by
      simp [map_smul, smul_eq_mul, sub_eq_add_neg]
    rw [h']; exact this
  · intro i; simp [map_sub, map_smul, hA, hx]
  · intro j
    have := h2 (M1 + M2 + M3 + M4) (by linarith) j
    have h' : C j ((M1 + M2 + M3 + M4) • mm - x) = (M1 + M2 + M3 + M4) * C j mm + -(C j x) := by
      simp [map_smul, smul_eq_mul, sub_eq_add_neg]
    rw [h']; exact this.le

/-- a row valid on `K ∩ H` and vanishing at a relative interior vector vanishes on `ker A` -/
theorem row_zero_of_interior {x0 : V →ₗ[ℚ] ℚ} {e f : ℕ} {A : Fin e → V →ₗ[ℚ] ℚ}
    {C : Fin f → V →ₗ[ℚ] ℚ} {d : Bool × (V →ₗ[ℚ] ℚ)}
    (hd : ∀ v, 0 < x0 v → InK A C v → Holds d v)
    {mm : V} (h0 : 0 < x0 mm) (hA : ∀ i, A i mm = 0) (hC : ∀ j, 0 < C j mm)
    (hdm : d.2 mm = 0) : ∀ x, (∀ i, A i x = 0) → d.2 x = 0 := by
  intro x hx
  obtain ⟨M, _, ⟨hp0, hpK⟩, ⟨hm0, hmK⟩⟩ := absorb h0 hA hC hx
  have hp := hd _ hp0 hpK
  have hm := hd _ hm0 hmK
  have ep : d.2 (M • mm + x) = d.2 x := by simp [map_add, map_smul, hdm]
  have em : d.2 (M • mm - x) = -(d.2 x) := by simp [map_sub, map_smul, hdm]
  unfold Holds at hp hm
  rw [ep] at hp
  rw [em] at hm
  by_cases hb : d.1 = true
  · rw [if_pos hb] at hp; exact hp
  · rw [if_neg hb] at hp hm; linarith

/-- a vector of the half space in the relative interior of facet `j`, with the violating vector -/
theorem facet_interior {x0 : V →ₗ[ℚ] ℚ} {e f m : ℕ}
    {A : Fin e → V →ₗ[ℚ] ℚ} {C : Fin f → V →ₗ[ℚ] ℚ} {D : Fin m → Bool × (V →ₗ[ℚ] ℚ)}
    (h : Setup x0 A C D) (j : Fin f) :
    ∃ w x, (∀ i, A i x = 0) ∧ C j x < 0 ∧ 0 < x0 w ∧ (∀ i, A i w = 0) ∧ C j w = 0 ∧
      ∀ k, k ≠ j → 0 < C k w := by
  obtain ⟨p, hp0, hpA, hpC⟩ := h.pstar
  obtain ⟨x, hxA, hxC, hxj⟩ := h.irred j
  obtain ⟨g, hg0, ⟨hgA, hgC⟩, hgj⟩ := h.facetPt j
  obtain ⟨M, hM, hM'⟩ := thr1 (x0 g) (x0 ((-(C j x)) • p + (C j p) • x)) hg0
  refine ⟨M • g + ((-(C j x)) • p + (C j p) • x), x, hxA, hxj, ?_, ?_, ?_, ?_⟩
  · have := hM' M le_rfl
    have h' : x0 (M • g + ((-(C j x)) • p + (C j p) • x))
        = M * x0 g + x0 ((-(C j x)) • p + (C j p) • x) := by
      simp [map_add, map_smul, smul_eq_mul]
    rw [h']; exact this
  · intro i; simp [map_add, map_smul, hgA, hpA, hxA]
  · simp only [map_add, map_smul, smul_eq_mul, hgj]; ring
  · intro k hk
    have h' : C k (M • g + ((-(C j x)) • p + (C j p) • x))
        = M * C k g + ((-(C j x)) * C k p + C j p * C k x) := by
      simp [map_add, map_smul, smul_eq_mul]
    rw [h']
    have a1 : 0 ≤ M * C k g := mul_nonneg hM.le (hgC k)
    have a2 : 0 < (-(C j x)) * C k p := mul_pos (by linarith) (hpC k)
    have a3 : 0 ≤ C j p * C k x := mul_nonneg (hpC j).le (hxC k hk)
    linarith

/-- a row of `D` vanishing at `w` but not at `x` -/
theorem exists_row {x0 : V →ₗ[ℚ] ℚ} {e f m : ℕ}
    {A : Fin e → V →ₗ[ℚ] ℚ} {C : Fin f → V →ₗ[ℚ] ℚ} {D : Fin m → Bool × (V →ₗ[ℚ] ℚ)}
    (h : Setup x0 A C D) {w x : V} {j : Fin f}
    (h0w : 0 < x0 w) (hK : InK A C w) (hjw : C j w = 0) (hjx : C j x < 0) :
    ∃ i, (D i).2 w = 0 ∧ (D i).2 x ≠ 0 := by
  classical
  have hall := (h.same w h0w).1 hK
  obtain ⟨M1, hM1, h1⟩ := thr (fun i => if 0 < (D i).2 w then (D i).2 w else 1)
    (fun i => if 0 < (D i).2 w then (D i).2 x else 0)
    (by intro i; by_cases hh : 0 < (D i).2 w
        · simp only [if_pos hh]; exact hh
        · simp only [if_neg hh]; exact one_pos)
  obtain ⟨M2, hM2, h2⟩ := thr1 (x0 w) (x0 x) h0w
  have hq0 : 0 < x0 ((M1 + M2) • w + x) := by
    have := h2 (M1 + M2) (by linarith)
    have h' : x0 ((M1 + M2) • w + x) = (M1 + M2) * x0 w + x0 x := by
      simp [map_add, map_smul, smul_eq_mul]
    rw [h']; exact this
  have hnK : ¬ InK A C ((M1 + M2) • w + x) := by
    intro hq
    have := hq.2 j
    have h' : C j ((M1 + M2) • w + x) = C j x := by
      simp [map_add, map_smul, hjw]
    rw [h'] at this; linarith
  have hnall : ¬ ∀ i, Holds (D i) ((M1 + M2) • w + x) := fun hh => hnK ((h.same _ hq0).2 hh)
  obtain ⟨i, hi⟩ := not_forall.1 hnall
  have hq : (D i).2 ((M1 + M2) • w + x) = (M1 + M2) * (D i).2 w + (D i).2 x := by
    simp [map_add, map_smul, smul_eq_mul]
  have hw0 : (D i).2 w = 0 := by
    by_contra hne
    have hiw := hall i
    unfold Holds at hiw hi
    by_cases hb : (D i).1 = true
    · rw [if_pos hb] at hiw; exact hne hiw
    · rw [if_neg hb] at hiw hi
      have hpos : 0 < (D i).2 w := lt_of_le_of_ne hiw (Ne.symm hne)
      have := h1 (M1 + M2) (by linarith) i
      simp only [if_pos hpos] at this
      apply hi; rw [hq]; exact this.le
  refine ⟨i, hw0, ?_⟩
  intro hx0
  apply hi
  unfold Holds
  rw [hq, hw0, hx0]
  simp

/-- a row not vanishing on `ker A` does not vanish on `K ∩ H` -/
theorem not_vanish_of_ne {x0 : V →ₗ[ℚ] ℚ} {e f m : ℕ}
    {A : Fin e → V →ₗ[ℚ] ℚ} {C : Fin f → V →ₗ[ℚ] ℚ} {D : Fin m → Bool × (V →ₗ[ℚ] ℚ)}
    (h : Setup x0 A C D) {d : V →ₗ[ℚ] ℚ} {x : V} (hxA : ∀ i, A i x = 0) (hne : d x ≠ 0) :
    ¬ Vanish x0 A C d := by
  intro hv
  obtain ⟨p, hp0, hpA, hpC⟩ := h.pstar
  obtain ⟨M, _, ⟨hq0, hqK⟩, _⟩ := absorb hp0 hpA hpC hxA
  have e1 := hv _ hq0 hqK
  have e2 := hv p hp0 ⟨hpA, fun j => (hpC j).le⟩
  apply hne
  simpa [map_add, map_smul, e2] using e1

/-- the per-facet data, bundled -/
theorem per_facet {x0 : V →ₗ[ℚ] ℚ} {e f m : ℕ}
    {A : Fin e → V →ₗ[ℚ] ℚ} {C : Fin f → V →ₗ[ℚ] ℚ} {D : Fin m → Bool × (V →ₗ[ℚ] ℚ)}
    (h : Setup x0 A C D) (j : Fin f) :
    ∃ (w x : V) (i : Fin m), (∀ i, A i x = 0) ∧ 0 < x0 w ∧ (∀ i, A i w = 0) ∧ C j w = 0 ∧
      (∀ k, k ≠ j → 0 < C k w) ∧ (D i).2 w = 0 ∧ (D i).2 x ≠ 0 := by
  obtain ⟨w, x, hxA, hxj, hw0, hwA, hwj, hwk⟩ := facet_interior h j
  have hK : InK A C w := by
    refine ⟨hwA, fun k => ?_⟩
    by_cases hk : k = j
    · rw [hk, hwj]
    · exact (hwk k hk).le
  obtain ⟨i, hi1, hi2⟩ := exists_row h hw0 hK hwj hxj
  exact ⟨w, x, i, hxA, hw0, hwA, hwj, hwk, hi1, hi2⟩

/-- distinct facets get distinct non-vanishing rows -/
theorem facets_inj {x0 : V →ₗ[ℚ] ℚ} {e f m : ℕ}
    {A : Fin e → V →ₗ[ℚ] ℚ} {C : Fin f → V →ₗ[ℚ] ℚ} {D : Fin m → Bool × (V →ₗ[ℚ] ℚ)}
    (h : Setup x0 A C D) :
    ∃ σ : Fin f → Fin m, Function.Injective σ ∧ ∀ j, ¬ Vanish x0 A C (D (σ j)).2 := by
  choose w x σ hxA hw0 hwA hwj hwk hdw hdx using per_facet h
  refine ⟨σ, ?_, fun j => not_vanish_of_ne h (hxA j) (hdx j)⟩
  intro j k hjk
  by_contra hne
  have hkj : k ≠ j := fun hh => hne hh.symm
  have m0 : 0 < x0 (w j + w k) := by
    rw [map_add]; have := hw0 j; have := hw0 k; linarith
  have mA : ∀ i, A i (w j + w k) = 0 := by
    intro i; rw [map_add, hwA j i, hwA k i, add_zero]
  have mC : ∀ l, 0 < C l (w j + w k) := by
    intro l
    rw [map_add]
    by_cases hlj : l = j
    · have := hwk k l (by rw [hlj]; exact hne)
      rw [hlj] at this ⊢
      rw [hwj j]; linarith
    · by_cases hlk : l = k
      · have := hwk j l hlj
        rw [hlk] at this ⊢
        rw [hwj k]; linarith
      · have := hwk j l hlj
        have := hwk k l hlk
        linarith
  have mD : (D (σ j)).2 (w j + w k) = 0 := by
    rw [map_add, hdw j]
    have := hdw k
    rw [← hjk] at this
    rw [this, add_zero]
  have hd : ∀ v, 0 < x0 v → InK A C v → Holds (D (σ j)) v :=
    fun v hv hK => (h.same v hv).1 hK (σ j)
  exact hdx j (row_zero_of_interior hd m0 mA mC mD (x j) (hxA j))

end PPLV.Widen.Impl.Abs

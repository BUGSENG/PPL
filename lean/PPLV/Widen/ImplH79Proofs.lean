import PPLV.Widen.ImplH79
import Mathlib.Data.List.Basic
import Mathlib.Data.List.GetD
import Mathlib.Order.Basic

/-!
# list-level facts about `select_H79_constraints` (the swap-with-last loop, the lookup)
-/
namespace PPLV.Widen.Impl

theorem selectH79_fst (nnc : Bool) (xCs yCs : List CRow) (yGens : List GRow) (satG : List BitRow) :
    (selectH79Constraints nnc xCs yCs yGens satG).1 =
      xCs.filter fun ci => sortedContains (tmpSatG nnc yCs satG) (satRow ci yGens) := by
  simp [selectH79Constraints, List.partition_eq_filter_filter]

theorem selectH79_snd (nnc : Bool) (xCs yCs : List CRow) (yGens : List GRow) (satG : List BitRow) :
    (selectH79Constraints nnc xCs yCs yGens satG).2 =
      xCs.filter fun ci => !sortedContains (tmpSatG nnc yCs satG) (satRow ci yGens) := by
  simp only [selectH79Constraints, List.partition_eq_filter_filter]
  congr 1

/-- `cs_not_selected` empty: every constraint of `x` was selected -/
theorem selectH79_fst_of_snd_empty (nnc : Bool) (xCs yCs : List CRow) (yGens : List GRow)
    (satG : List BitRow) (h : (selectH79Constraints nnc xCs yCs yGens satG).2.isEmpty = true) :
    (selectH79Constraints nnc xCs yCs yGens satG).1 = xCs := by
  rw [selectH79_snd, List.isEmpty_iff, List.filter_eq_nil_iff] at h
  rw [selectH79_fst, List.filter_eq_self]
  intro a ha
  have := h a ha
  simpa using this

theorem mem_selectH79_fst {nnc : Bool} {xCs yCs : List CRow} {yGens : List GRow} {satG : List BitRow}
    {ci : CRow} (h : ci ∈ (selectH79Constraints nnc xCs yCs yGens satG).1) :
    ci ∈ xCs ∧ ∃ b ∈ tmpSatG nnc yCs satG, b = satRow ci yGens := by
  rw [selectH79_fst, List.mem_filter] at h
  refine ⟨h.1, ?_⟩
  have h2 := h.2
  simp only [sortedContains, List.any_eq_true, beq_iff_eq] at h2
  exact h2

/-! ### `swap` -/

theorem length_swapAt {α : Type} [Inhabited α] (v : List α) (i j : Nat) :
    (swapAt v i j).length = v.length := by
  simp [swapAt]

theorem mem_swapAt {α : Type} [Inhabited α] {v : List α} {i j : Nat} (hi : i < v.length)
    (hj : j < v.length) {r : α} (h : r ∈ swapAt v i j) : r ∈ v := by
  unfold swapAt at h
  rcases List.mem_or_eq_of_mem_set h with h | h
  · rcases List.mem_or_eq_of_mem_set h with h | h
    · exact h
    · rw [h, List.getD_eq_getElem _ _ hj]; exact List.getElem_mem hj
  · rw [h, List.getD_eq_getElem _ _ hi]; exact List.getElem_mem hi

/-- entry `k` of `swap(v[i], v[j])`, `k ≠ j` -/
theorem getD_swapAt_ne {α : Type} [Inhabited α] (v : List α) (i j k : Nat) (hk : k ≠ j)
    (hkl : k < v.length) :
    (swapAt v i j).getD k default = if k = i then v.getD j default else v.getD k default := by
  unfold swapAt
  have h1 : k < ((v.set i (v.getD j default)).set j (v.getD i default)).length := by simpa using hkl
  rw [List.getD_eq_getElem _ _ h1, List.getElem_set_ne (Ne.symm hk)]
  by_cases hki : k = i
  · subst hki; simp
  · rw [List.getElem_set_ne (Ne.symm hki), if_neg hki, List.getD_eq_getElem _ _ hkl]

/-! ### the loop l. 105–111 -/

/-- the loop only permutes rows: every row of the result is a row of the input -/
theorem dropTautLoop_mem (nnc : Bool) (yCs : List CRow) :
    ∀ (fuel i : Nat) (tmp : List BitRow) (numRows : Nat), numRows ≤ tmp.length →
      (dropTautLoop nnc yCs fuel i (tmp, numRows)).2 ≤ (dropTautLoop nnc yCs fuel i (tmp, numRows)).1.length ∧
      ∀ b ∈ (dropTautLoop nnc yCs fuel i (tmp, numRows)).1, b ∈ tmp := by
  intro fuel
  induction fuel with
  | zero => intro i tmp numRows h; exact ⟨h, fun b hb => hb⟩
  | succ fuel ih =>
    intro i tmp numRows h
    unfold dropTautLoop
    by_cases hi : i < numRows
    · rw [if_pos hi]
      by_cases ht : (yCs.getD i default).isTautological nnc = true
      · rw [if_pos ht]
        have hl : numRows - 1 ≤ (swapAt tmp i (numRows - 1)).length := by
          rw [length_swapAt]; omega
        obtain ⟨h1, h2⟩ := ih (i + 1) (swapAt tmp i (numRows - 1)) (numRows - 1) hl
        refine ⟨h1, fun b hb => ?_⟩
        exact mem_swapAt (by omega) (by omega) (h2 b hb)
      · rw [if_neg ht]
        exact ih (i + 1) tmp numRows h
    · rw [if_neg hi]
      exact ⟨h, fun b hb => hb⟩

theorem mem_tmpSatG {nnc : Bool} {yCs : List CRow} {satG : List BitRow} (hl : satG.length = yCs.length)
    {b : BitRow} (h : b ∈ tmpSatG nnc yCs satG) : b ∈ satG := by
  unfold tmpSatG at h
  exact (dropTautLoop_mem nnc yCs yCs.length 0 satG yCs.length (by omega)).2 b (List.mem_of_mem_take h)

/-- no tautology among the rows still to be examined: nothing happens -/
theorem dropTautLoop_noTaut (nnc : Bool) (yCs : List CRow) :
    ∀ (fuel i : Nat) (tmp : List BitRow) (numRows : Nat),
      (∀ k, i ≤ k → k < numRows → (yCs.getD k default).isTautological nnc = false) →
      dropTautLoop nnc yCs fuel i (tmp, numRows) = (tmp, numRows) := by
  intro fuel
  induction fuel with
  | zero => intro i tmp numRows _; rfl
  | succ fuel ih =>
    intro i tmp numRows h
    unfold dropTautLoop
    by_cases hi : i < numRows
    · rw [if_pos hi, h i (Nat.le_refl _) hi]
      simp only [Bool.false_eq_true, if_false]
      exact ih (i + 1) tmp numRows fun k hk hk2 => h k (by omega) hk2
    · rw [if_neg hi]

/-- exactly one tautology (at `i0`) among the rows still to be examined: it is swapped with the last row -/
theorem dropTautLoop_oneTaut (nnc : Bool) (yCs : List CRow) (i0 : Nat)
    (ht : (yCs.getD i0 default).isTautological nnc = true) :
    ∀ (fuel i : Nat) (tmp : List BitRow) (numRows : Nat), i ≤ i0 → i0 < numRows → i0 - i < fuel →
      (∀ k, i ≤ k → k < numRows → k ≠ i0 → (yCs.getD k default).isTautological nnc = false) →
      dropTautLoop nnc yCs fuel i (tmp, numRows) = (swapAt tmp i0 (numRows - 1), numRows - 1) := by
  intro fuel
  induction fuel with
  | zero => intro i tmp numRows _ _ h; omega
  | succ fuel ih =>
    intro i tmp numRows h1 h2 h3 h
    unfold dropTautLoop
    have hi : i < numRows := by omega
    rw [if_pos hi]
    by_cases hii : i = i0
    · subst hii
      rw [if_pos ht]
      exact dropTautLoop_noTaut nnc yCs fuel (i + 1) _ _ fun k hk hk2 => h k (by omega) (by omega) (by omega)
    · rw [h i (Nat.le_refl _) hi hii]
      simp only [Bool.false_eq_true, if_false]
      exact ih (i + 1) tmp numRows (by omega) h2 (by omega) fun k hk hk2 hk3 => h k (by omega) hk2 hk3

/-- at most one element satisfies `p`: either none, or exactly one position -/
theorem atMostOne_cases {α : Type} [Inhabited α] (p : α → Bool) (l : List α)
    (h : (l.filter p).length ≤ 1) :
    (∀ k, k < l.length → p (l.getD k default) = false) ∨
    ∃ i0, i0 < l.length ∧ p (l.getD i0 default) = true ∧
      ∀ k, k < l.length → k ≠ i0 → p (l.getD k default) = false := by
  by_cases hex : ∃ c ∈ l, p c = true
  · right
    obtain ⟨c, hc, hpc⟩ := hex
    obtain ⟨s, t, rfl⟩ := List.append_of_mem hc
    simp only [List.filter_append, List.filter_cons, hpc, if_true, List.length_append,
      List.length_cons] at h
    have hs : s.filter p = [] := List.eq_nil_of_length_eq_zero (by omega)
    have ht : t.filter p = [] := List.eq_nil_of_length_eq_zero (by omega)
    rw [List.filter_eq_nil_iff] at hs ht
    refine ⟨s.length, by simp, by simp [hpc], ?_⟩
    intro k hk hne
    rw [List.getD_eq_getElem _ _ hk]
    by_cases hks : k < s.length
    · rw [List.getElem_append_left hks]
      have := hs _ (List.getElem_mem hks)
      simpa using this
    · have hk' : s.length ≤ k := by omega
      rw [List.getElem_append_right hk']
      have hpos : 0 < k - s.length := by omega
      obtain ⟨m, hm⟩ : ∃ m, k - s.length = m + 1 := ⟨k - s.length - 1, by omega⟩
      simp only [hm, List.getElem_cons_succ]
      have := ht _ (List.getElem_mem (l := t) (n := m) (by
        simp only [List.length_append, List.length_cons] at hk; omega))
      simpa using this
  · left
    intro k hk
    rw [List.getD_eq_getElem _ _ hk]
    by_contra hp
    exact hex ⟨_, List.getElem_mem hk, by simpa using hp⟩

/-- with at most one tautology in `y.con_sys` the rows of `tmp_sat_g` are exactly the rows of `sat_g` at
    the non-tautological positions -/
theorem mem_tmpSatG_nontaut {nnc : Bool} {yCs : List CRow} {satG : List BitRow}
    (hl : satG.length = yCs.length)
    (h1 : (yCs.filter (·.isTautological nnc)).length ≤ 1)
    {b : BitRow} (h : b ∈ tmpSatG nnc yCs satG) :
    ∃ j, j < yCs.length ∧ (yCs.getD j default).isTautological nnc = false ∧ satG.getD j default = b := by
  unfold tmpSatG at h
  rcases atMostOne_cases (·.isTautological nnc) yCs h1 with h0 | ⟨i0, hi0, ht, hrest⟩
  · rw [dropTautLoop_noTaut nnc yCs _ 0 satG yCs.length (fun k _ hk => h0 k hk)] at h
    simp only at h
    obtain ⟨k, hk, rfl⟩ := List.mem_iff_getElem.mp (List.mem_of_mem_take h)
    exact ⟨k, by omega, h0 k (by omega), List.getD_eq_getElem _ _ hk⟩
  · rw [dropTautLoop_oneTaut nnc yCs i0 ht yCs.length 0 satG yCs.length (by omega) hi0 (by omega)
      (fun k _ hk hne => hrest k hk hne)] at h
    simp only at h
    obtain ⟨k, hk, rfl⟩ := List.mem_iff_getElem.mp h
    rw [List.getElem_take]
    rw [List.length_take, length_swapAt] at hk
    have hk1 : k < yCs.length - 1 := by omega
    have hk2 : k < satG.length := by omega
    have hkl : k < (swapAt satG i0 (yCs.length - 1)).length := by rw [length_swapAt]; exact hk2
    have e := getD_swapAt_ne satG i0 (yCs.length - 1) k (by omega) hk2
    rw [List.getD_eq_getElem _ _ hkl] at e
    rw [e]
    by_cases hki : k = i0
    · rw [if_pos hki]
      exact ⟨yCs.length - 1, by omega, hrest _ (by omega) (by omega), rfl⟩
    · rw [if_neg hki]
      exact ⟨k, by omega, hrest k (by omega) hki, rfl⟩

end PPLV.Widen.Impl

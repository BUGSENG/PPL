import PPLV.Widen.ImplShapeProofsLimBD3
import PPLV.Widen.ImplShapeProofsLimOct2
import Mathlib.Tactic.Linarith
/-!
# what `get_limiting_shape` / `get_limiting_octagon` do NOT guarantee: concrete witnesses
-/
namespace PPLV.Widen
open PPLV.WR
open PPLV.WR.ExtRat (fin pinf le_rfl' le_trans' le_total' le_pinf fin_le_fin)

/-- the points that satisfy a row of the supplied `Constraint_System` (space dimension `csd`) -/
def LimCon.holds (c : LimCon) (csd : Nat) (p : Nat → Rat) : Prop :=
  if c.isEq then linEval c.coeff p csd + c.inhomo = 0
  else if c.strict then 0 < linEval c.coeff p csd + c.inhomo
  else 0 ≤ linEval c.coeff p csd + c.inhomo

/-! ## rounding: with an inexact `div_round_up` only the ROUNDED constraint is kept -/

/-- `2*A ≤ 5` -/
def limExC : LimCon := ⟨false, [-2], 5, false⟩
/-- `A ≤ 2`, closed -/
def limExX : BDS := { dbm := Mat.ofLists [[pinf, fin 2], [pinf, pinf]], closed := true }
/-- `A ≤ 1`, closed -/
def limExY : BDS := { dbm := Mat.ofLists [[pinf, fin 1], [pinf, pinf]], closed := true }

/-- the limiting shape of `A ≤ 2` for `2A ≤ 5` with integer coefficients is `A ≤ 3` (`div_round_up(5, 2) = 3`) -/
theorem bd_limiting_rounded_cell :
    (bdGetLimitingShape upCeil 1 1 [limExC] limExX BDS.univ).2.dbm 0 1 = fin 3 := by decide +kernel

theorem limExX_holds (p : Nat → Rat) (hp : BDS.γ 1 limExX p) : limExC.holds 1 p := by
  have h := hp.2 0 1 (by omega) (by omega)
  have h2 : p 0 ≤ 2 := by
    have : fin (p 0 - 0) ≤ fin 2 := h
    rw [fin_le_fin] at this; linarith
  simp only [LimCon.holds, limExC, linEval, LimCon.coeff]
  norm_num
  linarith

/-- **rounding** (`BD_Shape_templates.hh:3232`, `div_round_up`): every point of the receiver `A ≤ 2` satisfies the
supplied `2A ≤ 5`, `y` is `A ≤ 1`, yet the result of `limited_BHMZ05_extrapolation_assign` over an integer
coefficient type is `A ≤ 3`, which contains `A = 3`. -/
theorem bd_limited_keeps_rounded_fails :
    ¬ ∀ (n csd : Nat) (cs : List LimCon) (X Y : BDS) (r : BDS × BDS × Option Nat × Mat),
        bdLimitedBHMZ05 upCeil n csd cs X Y none = some r →
        ∀ c ∈ cs, c.isEq = false → (∀ p, BDS.γ n X p → c.holds csd p) → ∀ p, BDS.γ n r.1 p → c.holds csd p := by
  intro h
  have hv : (bdLimitedBHMZ05 upCeil 1 1 [limExC] limExX limExY none).map
      (fun r => (r.1.dbm 0 1, r.1.dbm 0 0, r.1.dbm 1 0, r.1.dbm 1 1, r.1.empty))
      = some (fin 3, pinf, pinf, pinf, false) := by decide +kernel
  cases hr : bdLimitedBHMZ05 upCeil 1 1 [limExC] limExX limExY none with
  | none => rw [hr] at hv; simp at hv
  | some r =>
    rw [hr] at hv
    simp only [Option.map_some, Option.some.injEq, Prod.mk.injEq] at hv
    obtain ⟨h01, h00, h10, h11, he⟩ := hv
    have hγ : BDS.γ 1 r.1 (fun _ => 3) := by
      refine ⟨he, fun i j hi hj => ?_⟩
      have hi' : i = 0 ∨ i = 1 := by omega
      have hj' : j = 0 ∨ j = 1 := by omega
      rcases hi' with rfl | rfl <;> rcases hj' with rfl | rfl
      · rw [h00]; exact le_pinf _
      · rw [h01, fin_le_fin]; simp [DBM.val]
      · rw [h10]; exact le_pinf _
      · rw [h11]; exact le_pinf _
    have := h 1 1 [limExC] limExX limExY r hr limExC (List.mem_singleton.2 rfl) rfl limExX_holds _ hγ
    simp only [LimCon.holds, limExC, linEval, LimCon.coeff] at this
    norm_num at this

/-- the same with CC76 and the default stop points: `2A ≤ 7`, receiver `A ≤ 3`, `y`: `A ≤ 2`; the result is
`A ≤ 4` -/
theorem bd_limited_cc76_keeps_rounded_witness :
    (bdLimitedCC76 upCeil 1 1 [⟨false, [-2], 7, false⟩]
        { dbm := Mat.ofLists [[pinf, fin 3], [pinf, pinf]], closed := true }
        { dbm := Mat.ofLists [[pinf, fin 2], [pinf, pinf]], closed := true } none).1.dbm 0 1 = fin 4 := by
  decide +kernel

/-! ## equalities in `get_limiting_shape`: a half can be dropped -/

/-- `A ≥ 1`, then `2A = 1` -/
def limExEqCs : List LimCon := [⟨false, [1], -1, false⟩, ⟨true, [2], -1, false⟩]
/-- the closed matrix of `A = 1` -/
def limExEqM : Mat := Mat.ofLists [[pinf, fin 1], [fin (-1), pinf]]

/-- **equalities** (`BD_Shape_templates.hh:3241-3254`): both halves of an equality are written only when
`(ls_x >= d && ls_y > d1) || (ls_x > d && ls_y >= d1)`.  Over an integer coefficient type the receiver `A = 1`
passes both tests `x <= d`, `y <= d1` for `2A = 1` (`d = ⌈-1/2⌉ = 0`, `d1 = ⌈1/2⌉ = 1`), but the earlier `A ≥ 1`
has already put `-1 < d` into the limiting cell, so neither disjunct holds and the half `A ≤ 1` is dropped. -/
theorem bd_limiting_equality_half_dropped_fails :
    ¬ ∀ (up : Rat → ExtRat) (csd : Nat) (dbm : Mat) (cs : List LimCon) (c : LimCon),
        c ∈ cs → bdLimSel csd c = true → c.isEq = true →
        dbm (bdLimCell csd c).1 (bdLimCell csd c).2 ≤ bdLimBound up csd c →
        dbm (bdLimCell csd c).2 (bdLimCell csd c).1 ≤ bdLimBound1 up csd c →
        (cs.foldl (bdLimitStep up csd dbm) (BDS.univ.dbm, false)).1 (bdLimCell csd c).1 (bdLimCell csd c).2
            ≤ bdLimBound up csd c ∧
        (cs.foldl (bdLimitStep up csd dbm) (BDS.univ.dbm, false)).1 (bdLimCell csd c).2 (bdLimCell csd c).1
            ≤ bdLimBound1 up csd c := by
  intro h
  have := h upCeil 1 limExEqM limExEqCs ⟨true, [2], -1, false⟩ (by decide) (by decide +kernel) rfl
    (by decide +kernel) (by decide +kernel)
  revert this
  decide +kernel

/-! ## equalities in `get_limiting_octagon`: nothing is kept -/

/-- `A = 1` -/
def limExOctC : LimCon := ⟨true, [1], -1, false⟩
/-- the strongly closed matrix of `A = 1`: `-2A ≤ -2`, `2A ≤ 2` -/
def limExOctM : Mat := Mat.ofLists [[pinf, fin (-2)], [fin 2, pinf]]

/-- **equalities** (`Octagonal_Shape_templates.hh:4014-4042`): the whole body of the loop, "other half" included,
sits inside `if (c.is_inequality())`, so a supplied equality leaves the limiting octagon untouched even though the
receiver satisfies both halves. -/
theorem oct_limiting_drops_equality_fails :
    ¬ ∀ (up : Rat → ExtRat) (csd : Nat) (m : Mat) (cs : List LimCon) (c : LimCon),
        c ∈ cs → octLimSel csd c = true → c.isEq = true →
        m (octLimCell csd c).1 (octLimCell csd c).2 ≤ octLimBound up csd c →
        m (octLimCell2 csd c).1 (octLimCell2 csd c).2 ≤ octLimBound2 up csd c →
        (cs.foldl (octLimitStep up csd m) (OCS.univ.mat, false)).1 (octLimCell csd c).1 (octLimCell csd c).2
            ≤ octLimBound up csd c ∧
        (cs.foldl (octLimitStep up csd m) (OCS.univ.mat, false)).1 (octLimCell2 csd c).1 (octLimCell2 csd c).2
            ≤ octLimBound2 up csd c := by
  intro h
  have := h upId 1 limExOctM [limExOctC] limExOctC (by decide) (by decide +kernel) rfl
    (by decide +kernel) (by decide +kernel)
  revert this
  decide +kernel

/-- the misplaced `else` (`:4019`): the "other half" runs for an INEQUALITY whose first half is already in the
limiting octagon; supplying `A ≥ 1` twice on the receiver `A = 1` adds `A ≤ 1` (cell `(1,0)`, value `2`), which
nobody supplied.  It is still dominated by the receiver (`octGetLimitingOctagon_dom`). -/
theorem oct_limiting_misplaced_else_witness :
    (([⟨false, [1], -1, false⟩] : List LimCon).foldl (octLimitStep upId 1 limExOctM) (OCS.univ.mat, false)).1 1 0
      = pinf ∧
    (([⟨false, [1], -1, false⟩, ⟨false, [1], -1, false⟩] : List LimCon).foldl
      (octLimitStep upId 1 limExOctM) (OCS.univ.mat, false)).1 1 0 = fin 2 := by
  decide +kernel

end PPLV.Widen

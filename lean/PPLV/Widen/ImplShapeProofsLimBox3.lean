import PPLV.Widen.ImplShapeProofsLimBox2
/-!
# `Box::limited_CC76_extrapolation_assign` (`Box_templates.hh:4305`): between the receiver and the
plain widening; the selected constraints are kept; what is not selected
-/
namespace PPLV.Widen
open PPLV.WR

theorem Itv.univ_mem (q : Rat) : Itv.univ.mem q := ⟨trivial, trivial⟩

/-! ## the plain widening, as far as needed here -/

theorem lim_boxCC76Stops_props (stops : List Rat) (x y : BoxS) :
    (boxCC76Stops stops x y).markedEmpty = x.markedEmpty ∧
    (boxCC76Stops stops x y).seq.length ≤ x.seq.length ∧
    ∀ p, BoxS.γ x p → BoxS.γ (boxCC76Stops stops x y) p := by
  unfold boxCC76Stops
  split
  · exact ⟨rfl, le_refl _, fun _ h => h⟩
  · refine ⟨rfl, ?_, fun p hp => ⟨hp.1, fun k hk => ?_⟩⟩
    · show (List.zipWith (Itv.cc76 stops) x.seq y.seq).length ≤ _
      rw [List.length_zipWith]; omega
    · have hk' : k < (List.zipWith (Itv.cc76 stops) x.seq y.seq).length := hk
      rw [List.length_zipWith] at hk'
      have hkx : k < x.seq.length := by omega
      show ((List.zipWith (Itv.cc76 stops) x.seq y.seq)[k]).mem (p k)
      rw [List.getElem_zipWith]
      exact cc76_sup stops _ _ _ (hp.2 k hkx)

theorem lim_boxCC76_props (x y : BoxS) (tp : Option Nat) :
    (boxCC76 x y tp).1.markedEmpty = x.markedEmpty ∧
    (boxCC76 x y tp).1.seq.length ≤ x.seq.length ∧
    ∀ p, BoxS.γ x p → BoxS.γ (boxCC76 x y tp).1 p := by
  have hw := lim_boxCC76Stops_props defaultStops x y
  unfold boxCC76
  cases tp with
  | none => exact hw
  | some t =>
    simp only
    split
    · exact ⟨rfl, le_refl _, fun _ h => h⟩
    · exact hw

/-! ## `intersection_assign` -/

theorem boxIntersectionAssign_γ (P L : BoxS) (hP : P.markedEmpty = false) (hL : L.markedEmpty = false)
    (hlen : P.seq.length ≤ L.seq.length) (p : Nat → Rat) :
    BoxS.γ (boxIntersectionAssign P L) p ↔
      BoxS.γ P p ∧ ∀ k (_ : k < P.seq.length) (h2 : k < L.seq.length), (L.seq[k]).mem (p k) := by
  unfold boxIntersectionAssign
  simp only [hP, hL, Bool.false_eq_true, if_false]
  by_cases h0 : P.seq.length = 0
  · simp only [h0, if_true]
    exact ⟨fun h => ⟨h, fun k hk _ => by omega⟩, fun h => h.1⟩
  · simp only [h0, if_false]
    unfold BoxS.γ
    simp only [hP, true_and]
    constructor
    · intro h
      refine ⟨fun k hk => ?_, fun k hk h2 => ?_⟩
      · have hk' : k < (List.zipWith Itv.intersect P.seq L.seq).length := by
          rw [List.length_zipWith]; omega
        have := h k hk'
        rw [List.getElem_zipWith, Itv.intersect_mem] at this
        exact this.1
      · have hk' : k < (List.zipWith Itv.intersect P.seq L.seq).length := by
          rw [List.length_zipWith]; omega
        have := h k hk'
        rw [List.getElem_zipWith, Itv.intersect_mem] at this
        exact this.2
    · intro h k hk
      have hk' : k < (List.zipWith Itv.intersect P.seq L.seq).length := hk
      rw [List.length_zipWith] at hk'
      have hk1 : k < P.seq.length := by omega
      have hk2 : k < L.seq.length := by omega
      show ((List.zipWith Itv.intersect P.seq L.seq)[k]).mem (p k)
      rw [List.getElem_zipWith, Itv.intersect_mem]
      exact ⟨h.1 k hk1, h.2 k hk1 hk2⟩

/-! ## the limiting box from the universe -/

theorem boxLimitingBox_univ_length (sd : Nat) (cs : List LimCon) (x : BoxM) :
    (boxGetLimitingBox sd cs x (List.replicate x.length Itv.univ)).length = x.length := by
  rw [boxGetLimitingBox_length, List.length_replicate]

/-- the limiting box contains the receiver, component by component -/
theorem boxLimitingBox_univ_dom (sd : Nat) (cs : List LimCon) (x : BoxM) (k : Nat) (h1 : k < x.length)
    (h2 : k < (boxGetLimitingBox sd cs x (List.replicate x.length Itv.univ)).length) (q : Rat)
    (hq : (x[k]).mem q) : ((boxGetLimitingBox sd cs x (List.replicate x.length Itv.univ))[k]).mem q := by
  refine boxGetLimitingBox_dom sd cs x _ (List.length_replicate) (fun k' _ h2' q' _ => ?_) k h1 h2 q hq
  rw [List.getElem_replicate]; exact Itv.univ_mem _

/-! ## `limited_CC76_extrapolation_assign` -/

theorem boxLimitedCC76_early (sd : Nat) (cs : List LimCon) (x y : BoxS) (tp : Option Nat)
    (h : x.seq.length = 0 ∨ x.markedEmpty = true ∨ y.markedEmpty = true) :
    (boxLimitedCC76 sd cs x y tp).1 = x := by
  unfold boxLimitedCC76
  simp only
  rcases h with h | h | h
  · rw [if_pos h]
  · split; rfl; rfl
  · split; rfl; split; rfl; rfl

theorem boxLimitedCC76_eq (sd : Nat) (cs : List LimCon) (x y : BoxS) (tp : Option Nat)
    (hl : x.seq.length ≠ 0) (hx : x.markedEmpty = false) (hy : y.markedEmpty = false) :
    (boxLimitedCC76 sd cs x y tp).1 =
      boxIntersectionAssign (boxCC76 x y tp).1
        { seq := boxGetLimitingBox sd cs x.seq (List.replicate x.seq.length Itv.univ) } := by
  unfold boxLimitedCC76
  simp only [hl, hx, hy, if_false, Bool.false_eq_true]

/-- the points of the result: those of the plain widening that lie in the limiting box (on the components that
the plain widening has) -/
theorem boxLimitedCC76_γ (sd : Nat) (cs : List LimCon) (x y : BoxS) (tp : Option Nat)
    (hl : x.seq.length ≠ 0) (hx : x.markedEmpty = false) (hy : y.markedEmpty = false) (p : Nat → Rat) :
    BoxS.γ (boxLimitedCC76 sd cs x y tp).1 p ↔
      BoxS.γ (boxCC76 x y tp).1 p ∧
      ∀ k (_ : k < (boxCC76 x y tp).1.seq.length)
        (h2 : k < (boxGetLimitingBox sd cs x.seq (List.replicate x.seq.length Itv.univ)).length),
        ((boxGetLimitingBox sd cs x.seq (List.replicate x.seq.length Itv.univ))[k]).mem (p k) := by
  obtain ⟨h1, h2, _⟩ := lim_boxCC76_props x y tp
  rw [boxLimitedCC76_eq sd cs x y tp hl hx hy]
  exact boxIntersectionAssign_γ _ _ (h1.trans hx) rfl
    (by show _ ≤ (boxGetLimitingBox sd cs x.seq _).length; rw [boxLimitingBox_univ_length]; exact h2) p

/-- **`limited_CC76_extrapolation_assign`** (`Box_templates.hh:4305`): the result contains the receiver and is
contained in the plain `CC76_widening_assign(y, tp)` -/
theorem box_limited_cc76_between (sd : Nat) (cs : List LimCon) (x y : BoxS) (tp : Option Nat)
    (hl : x.seq.length ≠ 0) (hx : x.markedEmpty = false) (hy : y.markedEmpty = false) (p : Nat → Rat) :
    (BoxS.γ x p → BoxS.γ (boxLimitedCC76 sd cs x y tp).1 p) ∧
    (BoxS.γ (boxLimitedCC76 sd cs x y tp).1 p → BoxS.γ (boxCC76 x y tp).1 p) := by
  obtain ⟨_, h2, h3⟩ := lim_boxCC76_props x y tp
  rw [boxLimitedCC76_γ sd cs x y tp hl hx hy p]
  refine ⟨fun hp => ⟨h3 p hp, fun k hk hk2 => ?_⟩, fun h => h.1⟩
  have hkx : k < x.seq.length := by omega
  exact boxLimitingBox_univ_dom sd cs x.seq k hkx hk2 (p k) (hp.2 k hkx)

/-- every supplied constraint that `get_limiting_box` SELECTS (an interval constraint on a variable `ov` of the
result whose `interval_relation` with the receiver's component is exactly `is_included()`) holds on the result -/
theorem box_limited_cc76_keeps (sd : Nat) (cs : List LimCon) (x y : BoxS) (tp : Option Nat)
    (hl : x.seq.length ≠ 0) (hx : x.markedEmpty = false) (hy : y.markedEmpty = false)
    (c : LimCon) (hc : c ∈ cs) (ov : Nat) (hsel : boxLimSel sd x.seq c ov)
    (hov : ov < (boxCC76 x y tp).1.seq.length) (p : Nat → Rat)
    (hp : BoxS.γ (boxLimitedCC76 sd cs x y tp).1 p) : conHolds1 c c.inhomo (c.coeff ov) (p ov) := by
  obtain ⟨_, h2, _⟩ := lim_boxCC76_props x y tp
  rw [boxLimitedCC76_γ sd cs x y tp hl hx hy p] at hp
  have hlen := boxLimitingBox_univ_length sd cs x.seq
  have hov2 : ov < (boxGetLimitingBox sd cs x.seq (List.replicate x.seq.length Itv.univ)).length := by omega
  exact boxGetLimitingBox_keeps sd cs x.seq _ c hc ov hsel hov2 (p ov) (hp.2 ov hov hov2)

/-! ## what is not selected -/

/-- an equality never answers exactly `is_included()` (`Box_templates.hh:4294-4295`: the comparison is `==`, and a
singleton answers `is_included() && saturates()`) -/
theorem intervalRelationIsIncluded_eq_false (I : Itv) (c : LimCon) (numer denom : Int) (h : c.isEq = true) :
    intervalRelationIsIncluded I c numer denom = false := by
  unfold intervalRelationIsIncluded
  split
  · rfl
  · simp

/-- **a saturated singleton is not selected**: `I = [3, 3]` and `A ≥ 3`: every point of `I` satisfies the
constraint, `interval_relation` answers `is_included() && saturates()`, which is not `== is_included()`. -/
theorem box_limiting_drops_saturated_singleton_fails :
    ¬ ∀ (I : Itv) (c : LimCon) (numer denom : Int), denom ≠ 0 → c.isEq = false →
        ¬ (I.lo.isNone = true ∧ I.hi.isNone = true) → (∀ q, I.mem q → conHolds1 c numer denom q) →
        intervalRelationIsIncluded I c numer denom = true := by
  intro h
  have := h ⟨some 3, false, some 3, false⟩ ⟨false, [1], -3, false⟩ (-3) 1 (by decide) rfl (by decide)
    (fun q hq => by
      have h1 : (3 : Rat) ≤ q := hq.1
      simp only [conHolds1, Bool.false_eq_true, if_false]
      push_cast
      linarith)
  revert this
  decide +kernel

end PPLV.Widen

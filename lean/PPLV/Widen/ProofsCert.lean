import PPLV.Widen.Model
import Mathlib.Order.WellFounded
import Mathlib.Order.RelClasses
import Mathlib.Tactic.SplitIfs

/-!
# C08 — the certificate orders are well-founded; laws of the three `compare(cert)` methods

`cmpStep a b k` is `(compare a b).then k`, so every `compare(cert)` is a lexicographic comparison and its laws
are those of `Ordering.then`; each `compare(ph)` is first rewritten as a chain of `cmpStep`s behind its
one-sided tests (`comparePh_eq`).
-/
namespace PPLV.Widen

/-! ### `cmpStep` / `cmpVec` -/

theorem cmpStep_eq_then (a b : Nat) (k : Ordering) : cmpStep a b k = (compare a b).then k := by
  rcases Nat.lt_trichotomy a b with h | h | h
  · simp [cmpStep, Nat.compare_eq_lt.2 h, Nat.ne_of_lt h, Nat.lt_asymm h]
  · simp [cmpStep, h]
  · simp [cmpStep, Nat.compare_eq_gt.2 h, Nat.ne_of_gt h, h]

theorem cmpStep_lt (a b : Nat) (k : Ordering) :
    cmpStep a b k = .lt ↔ a < b ∨ (a = b ∧ k = .lt) := by
  rw [cmpStep_eq_then, Ordering.then_eq_lt, Nat.compare_eq_lt, Nat.compare_eq_eq]

theorem cmpStep_gt (a b : Nat) (k : Ordering) :
    cmpStep a b k = .gt ↔ b < a ∨ (a = b ∧ k = .gt) := by
  rw [cmpStep_eq_then, Ordering.then_eq_gt, Nat.compare_eq_gt, Nat.compare_eq_eq]

theorem cmpStep_eq (a b : Nat) (k : Ordering) :
    cmpStep a b k = .eq ↔ (a = b ∧ k = .eq) := by
  rw [cmpStep_eq_then, Ordering.then_eq_eq, Nat.compare_eq_eq]

theorem cmpStep_self (a : Nat) (k : Ordering) : cmpStep a a k = k := by simp [cmpStep]

/-- the test of `compare(ph)`, written with the arguments the other way round -/
theorem cmpStep_flip (a b : Nat) (k : Ordering) :
    (if b ≠ a then (if b < a then Ordering.gt else .lt) else k) = cmpStep a b k :=
  if_congr ne_comm rfl rfl

theorem ite_gt_iff (P : Prop) [Decidable P] (k : Ordering) :
    (if P then Ordering.gt else k) = .gt ↔ P ∨ (¬ P ∧ k = .gt) := by
  by_cases h : P <;> simp [h]

/-- transitivity of one lexicographic step, given it for the rest -/
theorem cmpStep_trans {a b c : Nat} {k k' k'' : Ordering} (h : k = .lt → k' = .lt → k'' = .lt) :
    cmpStep a b k = .lt → cmpStep b c k' = .lt → cmpStep a c k'' = .lt := by
  simp only [cmpStep_lt]
  rintro (h1 | ⟨rfl, h1⟩) (h2 | ⟨rfl, h2⟩)
  · exact Or.inl (h1.trans h2)
  · exact Or.inl h1
  · exact Or.inl h2
  · exact Or.inr ⟨rfl, h h1 h2⟩

theorem cmpStep_swap {a b : Nat} {k k' : Ordering} (h : k = .gt ↔ k' = .lt) :
    cmpStep a b k = .gt ↔ cmpStep b a k' = .lt := by
  rw [cmpStep_gt, cmpStep_lt, h, eq_comm (a := a)]

theorem cmpVec_swap : ∀ (a b : List Nat), cmpVec a b = .gt ↔ cmpVec b a = .lt
  | [], _ => by simp [cmpVec]
  | _ :: _, [] => by simp [cmpVec]
  | x :: as, y :: bs => by
    exact cmpStep_swap (cmpVec_swap as bs)

theorem cmpVec_eq : ∀ (a b : List Nat), a.length = b.length → (cmpVec a b = .eq ↔ a = b)
  | [], [], _ => by simp [cmpVec]
  | [], _ :: _, h => by simp at h
  | _ :: _, [], h => by simp at h
  | x :: as, y :: bs, h => by
    rw [cmpVec, cmpStep_eq, cmpVec_eq as bs (Nat.succ.inj h), List.cons.injEq]

theorem cmpVec_trans : ∀ (a b c : List Nat), cmpVec a b = .lt → cmpVec b c = .lt → cmpVec a c = .lt
  | [], _, _, h, _ => by simp [cmpVec] at h
  | _ :: _, [], _, h, _ => by simp [cmpVec] at h
  | _ :: _, _ :: _, [], _, h => by simp [cmpVec] at h
  | x :: as, y :: bs, z :: cs, h3, h4 => by
    exact cmpStep_trans (cmpVec_trans as bs cs) h3 h4

theorem cmpVecPh_eq_cmpVec : ∀ (p c : List Nat), cmpVecPh p c = cmpVec c p
  | [], [] => rfl
  | [], _ :: _ => rfl
  | _ :: _, [] => rfl
  | x :: as, y :: bs => by rw [cmpVecPh, cmpVecPh_eq_cmpVec as bs, cmpStep_flip, cmpVec]

/-- lexicographic order on vectors of a fixed length, as `cmpVec` induces it -/
def VecLT (n : Nat) (a b : List Nat) : Prop := a.length = n ∧ b.length = n ∧ cmpVec a b = .lt

theorem lex_mk {α β : Type} {ra : α → α → Prop} {rb : β → β → Prop} {a a' : α} {b b' : β}
    (h : ra a a' ∨ (a = a' ∧ rb b b')) : Prod.Lex ra rb (a, b) (a', b') := by
  rcases h with h | ⟨e, h⟩
  · exact Prod.Lex.left _ _ h
  · subst e; exact Prod.Lex.right _ h

theorem vecLT_wf : ∀ n, WellFounded (VecLT n)
  | 0 => ⟨fun a => Acc.intro a fun b h => by
      obtain ⟨h1, _, h3⟩ := h
      have : b = [] := List.length_eq_zero_iff.mp h1
      subst this; simp [cmpVec] at h3⟩
  | n + 1 => by
    refine Subrelation.wf (r := InvImage (Prod.Lex (· < ·) (VecLT n)) (fun l : List Nat => (l.headD 0, l.tail)))
      ?_ (InvImage.wf _ (WellFounded.prod_lex Nat.lt_wfRel.wf (vecLT_wf n)))
    intro a b h
    obtain ⟨h1, h2, h3⟩ := h
    match a, b, h1, h2, h3 with
    | x :: as, y :: bs, h1, h2, h3 =>
      rw [cmpVec, cmpStep_lt] at h3
      exact lex_mk (h3.imp_right (And.imp_right fun h => ⟨Nat.succ.inj h1, Nat.succ.inj h2, h⟩))

/-- the one-sided dimension tests of `compare(ph)` as a decrease of the co-dimension -/
theorem codim_lex {n a b : Nat} {P : Prop} (hle : b ≤ a) (han : a ≤ n) (h : b < a ∨ (¬ b < a ∧ P)) :
    n - a < n - b ∨ (n - a = n - b ∧ P) :=
  h.imp (fun h => Nat.sub_lt_sub_left (h.trans_le han) h)
    (And.imp_left fun h => congrArg (n - ·) (le_antisymm (not_lt.1 h) hle))

theorem lex2_wf : WellFounded (Prod.Lex (· < · : Nat → Nat → Prop) (· < · : Nat → Nat → Prop)) :=
  WellFounded.prod_lex Nat.lt_wfRel.wf Nat.lt_wfRel.wf

/-! ### H79 -/

theorem H79Cert.compare_lt (a b : H79Cert) :
    a.compare b = .lt ↔ a.affineDim < b.affineDim ∨
      (a.affineDim = b.affineDim ∧ a.numConstraints < b.numConstraints) := by
  simp [H79Cert.compare, cmpStep_lt]

/-- the order in which `is_cert_multiset_stabilizing` uses `H79_Certificate::compare(cert)` -/
theorem h79_compare_wf : WellFounded (fun a b : H79Cert => a.compare b = .lt) :=
  Subrelation.wf (r := InvImage _ (fun c : H79Cert => (c.affineDim, c.numConstraints)))
    (fun {a b} h => lex_mk ((H79Cert.compare_lt a b).mp h)) (InvImage.wf _ lex2_wf)

theorem H79Cert.comparePh_eq (c p : H79Cert) :
    c.comparePh p = if c.affineDim < p.affineDim then .gt else cmpStep c.numConstraints p.numConstraints .eq := by
  rw [H79Cert.comparePh, cmpStep_flip]

theorem H79Cert.comparePh_gt (c p : H79Cert) :
    c.comparePh p = .gt ↔ c.affineDim < p.affineDim ∨
      (¬ c.affineDim < p.affineDim ∧ p.numConstraints < c.numConstraints) := by
  simp only [H79Cert.comparePh_eq, ite_gt_iff, cmpStep_gt, reduceCtorEq, and_false, or_false]

/-- "new certificate strictly smaller" as `H79_widening` / `BHZ03` test it through `compare(ph)`,
    together with what the code asserts (`ph ⊇ *this`, so the affine dimension does not decrease)
    and the bound `affine_dim ≤ space_dim` -/
def H79Cert.LessPh (n : Nat) (new old : H79Cert) : Prop :=
  old.comparePh new = .gt ∧ old.affineDim ≤ new.affineDim ∧ new.affineDim ≤ n

theorem h79_comparePh_wf (n : Nat) : WellFounded (H79Cert.LessPh n) := by
  refine Subrelation.wf (r := InvImage _ (fun c : H79Cert => (n - c.affineDim, c.numConstraints))) ?_
    (InvImage.wf _ lex2_wf)
  intro a b h
  obtain ⟨h1, h2, h3⟩ := h
  exact lex_mk (codim_lex h2 h3 ((H79Cert.comparePh_gt b a).mp h1))

theorem H79Cert.compare_eq (a b : H79Cert) : a.compare b = .eq ↔ a = b := by
  cases a; cases b
  simp [H79Cert.compare, cmpStep_eq]

theorem H79Cert.compare_swap (a b : H79Cert) : a.compare b = .gt ↔ b.compare a = .lt :=
  cmpStep_swap (cmpStep_swap (by simp))

theorem H79Cert.compare_trans (a b c : H79Cert) :
    a.compare b = .lt → b.compare c = .lt → a.compare c = .lt :=
  cmpStep_trans (cmpStep_trans fun h => nomatch h)

/-! ### Grid -/

/-- `Grid_Certificate::compare` tests equality first, but it is the same two lexicographic steps -/
theorem GridCert.compare_eq_cmpStep (a b : GridCert) :
    a.compare b = cmpStep a.numEqualities b.numEqualities
      (cmpStep a.numProperCongruences b.numProperCongruences .eq) := by
  simp only [GridCert.compare, cmpStep, ite_not]

theorem GridCert.compare_lt (a b : GridCert) :
    a.compare b = .lt ↔ a.numEqualities < b.numEqualities ∨
      (a.numEqualities = b.numEqualities ∧ a.numProperCongruences < b.numProperCongruences) := by
  simp [GridCert.compare_eq_cmpStep, cmpStep_lt]

theorem grid_compare_wf : WellFounded (fun a b : GridCert => a.compare b = .lt) :=
  Subrelation.wf (r := InvImage _ (fun c : GridCert => (c.numEqualities, c.numProperCongruences)))
    (fun {a b} h => lex_mk ((GridCert.compare_lt a b).mp h)) (InvImage.wf _ lex2_wf)

theorem GridCert.compare_swap (a b : GridCert) : a.compare b = .gt ↔ b.compare a = .lt := by
  rw [GridCert.compare_eq_cmpStep, GridCert.compare_eq_cmpStep]
  exact cmpStep_swap (cmpStep_swap (by simp))

/-- "new strictly smaller" as the grid widenings' certificate is used: `old.compare(new_grid) == 1` -/
theorem grid_comparePh_wf : WellFounded (fun new old : GridCert => old.comparePh new = .gt) :=
  Subrelation.wf (r := fun a b : GridCert => a.compare b = .lt)
    (fun {a b} h => (GridCert.compare_swap b a).mp h) grid_compare_wf

theorem GridCert.compare_eq (a b : GridCert) : a.compare b = .eq ↔ a = b := by
  cases a; cases b
  simp [GridCert.compare_eq_cmpStep, cmpStep_eq]

theorem GridCert.compare_trans (a b c : GridCert) :
    a.compare b = .lt → b.compare c = .lt → a.compare c = .lt := by
  simp only [GridCert.compare_eq_cmpStep]
  exact cmpStep_trans (cmpStep_trans fun h => nomatch h)

/-! ### BHRZ03 -/

theorem BHRZ03Cert.compare_lt (a b : BHRZ03Cert) :
    a.compare b = .lt ↔
      a.affineDim < b.affineDim ∨ (a.affineDim = b.affineDim ∧
      (a.linSpaceDim < b.linSpaceDim ∨ (a.linSpaceDim = b.linSpaceDim ∧
      (a.numConstraints < b.numConstraints ∨ (a.numConstraints = b.numConstraints ∧
      (a.numPoints < b.numPoints ∨ (a.numPoints = b.numPoints ∧
        cmpVec a.numRaysNullCoord b.numRaysNullCoord = .lt))))))) := by
  simp only [BHRZ03Cert.compare, cmpStep_lt]

/-- `compare(cert) = -1` between certificates of the same space dimension `n` -/
def BHRZ03Cert.LessCert (n : Nat) (a b : BHRZ03Cert) : Prop :=
  a.numRaysNullCoord.length = n ∧ b.numRaysNullCoord.length = n ∧ a.compare b = .lt

abbrev Lex5 (n : Nat) :=
  Prod.Lex (· < · : Nat → Nat → Prop) (Prod.Lex (· < · : Nat → Nat → Prop)
    (Prod.Lex (· < · : Nat → Nat → Prop) (Prod.Lex (· < · : Nat → Nat → Prop) (VecLT n))))

theorem lex5_wf (n : Nat) : WellFounded (Lex5 n) :=
  WellFounded.prod_lex Nat.lt_wfRel.wf (WellFounded.prod_lex Nat.lt_wfRel.wf
    (WellFounded.prod_lex Nat.lt_wfRel.wf (WellFounded.prod_lex Nat.lt_wfRel.wf (vecLT_wf n))))

theorem bhrz03_compare_wf (n : Nat) : WellFounded (BHRZ03Cert.LessCert n) := by
  refine Subrelation.wf (r := InvImage (Lex5 n) (fun c : BHRZ03Cert =>
    (c.affineDim, c.linSpaceDim, c.numConstraints, c.numPoints, c.numRaysNullCoord))) ?_
    (InvImage.wf _ (lex5_wf n))
  intro a b h
  obtain ⟨h1, h2, h3⟩ := h
  rw [BHRZ03Cert.compare_lt] at h3
  refine lex_mk (h3.imp_right (And.imp_right fun h => lex_mk (h.imp_right (And.imp_right fun h =>
    lex_mk (h.imp_right (And.imp_right fun h => lex_mk (h.imp_right (And.imp_right fun h =>
      ⟨h1, h2, h⟩))))))))

/-- `compare(ph)` tests the two dimensions one-sidedly (`ph ⊇ *this` is asserted, not tested) and then goes on
    as `compare(cert)` does -/
theorem BHRZ03Cert.comparePh_eq (c p : BHRZ03Cert) :
    c.comparePh p = if c.affineDim < p.affineDim then .gt else if c.linSpaceDim < p.linSpaceDim then .gt else
      cmpStep c.numConstraints p.numConstraints (cmpStep c.numPoints p.numPoints
        (cmpVec c.numRaysNullCoord p.numRaysNullCoord)) := by
  rw [BHRZ03Cert.comparePh, cmpVecPh_eq_cmpVec, cmpStep_flip, cmpStep_flip]

theorem BHRZ03Cert.comparePh_gt (c p : BHRZ03Cert) :
    c.comparePh p = .gt ↔
      c.affineDim < p.affineDim ∨ (¬ c.affineDim < p.affineDim ∧
      (c.linSpaceDim < p.linSpaceDim ∨ (¬ c.linSpaceDim < p.linSpaceDim ∧
      (p.numConstraints < c.numConstraints ∨ (p.numConstraints = c.numConstraints ∧
      (p.numPoints < c.numPoints ∨ (p.numPoints = c.numPoints ∧
        cmpVec p.numRaysNullCoord c.numRaysNullCoord = .lt))))))) := by
  simp only [BHRZ03Cert.comparePh_eq, ite_gt_iff, cmpStep_gt, cmpVec_swap, eq_comm (a := c.numConstraints),
    eq_comm (a := c.numPoints)]

/-- "new certificate strictly smaller" as `BHRZ03_widening_assign` and `BHZ03_widening_assign` test it
    through `compare(ph)` (`is_stabilizing`), with the two facts the code asserts after its tests
    (`ph ⊇ *this`: affine dimension and lineality do not decrease) and the bounds by the space dimension -/
def BHRZ03Cert.LessPh (n : Nat) (new old : BHRZ03Cert) : Prop :=
  old.comparePh new = .gt ∧ old.affineDim ≤ new.affineDim ∧ new.affineDim ≤ n ∧
  old.linSpaceDim ≤ new.linSpaceDim ∧ new.linSpaceDim ≤ n ∧
  new.numRaysNullCoord.length = n ∧ old.numRaysNullCoord.length = n

theorem bhrz03_comparePh_wf (n : Nat) : WellFounded (BHRZ03Cert.LessPh n) := by
  refine Subrelation.wf (r := InvImage (Lex5 n) (fun c : BHRZ03Cert =>
    (n - c.affineDim, n - c.linSpaceDim, c.numConstraints, c.numPoints, c.numRaysNullCoord))) ?_
    (InvImage.wf _ (lex5_wf n))
  intro a b h
  obtain ⟨h1, h2, h3, h4, h5, h6, h7⟩ := h
  refine lex_mk (codim_lex h2 h3 (((BHRZ03Cert.comparePh_gt b a).mp h1).imp_right (And.imp_right fun h =>
    lex_mk (codim_lex h4 h5 (h.imp_right (And.imp_right fun h => lex_mk (h.imp_right (And.imp_right fun h =>
      lex_mk (h.imp_right (And.imp_right fun h => ⟨h6, h7, h⟩))))))))))

theorem BHRZ03Cert.compare_eq (a b : BHRZ03Cert)
    (hl : a.numRaysNullCoord.length = b.numRaysNullCoord.length) : a.compare b = .eq ↔ a = b := by
  cases a; cases b
  simp only [BHRZ03Cert.compare, cmpStep_eq, BHRZ03Cert.mk.injEq]
  simp only at hl
  rw [cmpVec_eq _ _ hl]

theorem BHRZ03Cert.compare_swap (a b : BHRZ03Cert) : a.compare b = .gt ↔ b.compare a = .lt :=
  cmpStep_swap (cmpStep_swap (cmpStep_swap (cmpStep_swap (cmpVec_swap _ _))))

theorem BHRZ03Cert.compare_trans (a b c : BHRZ03Cert) :
    a.compare b = .lt → b.compare c = .lt → a.compare c = .lt :=
  cmpStep_trans (cmpStep_trans (cmpStep_trans (cmpStep_trans (cmpVec_trans _ _ _))))

/-! ### the two overloads -/

/-- Where they agree: on certificates with the same affine dimension and the same lineality the two
    overloads return the same value. -/
theorem BHRZ03Cert.comparePh_eq_compare_of_same_dims (c p : BHRZ03Cert)
    (h1 : c.affineDim = p.affineDim) (h2 : c.linSpaceDim = p.linSpaceDim) :
    c.comparePh p = c.compare p := by
  rw [BHRZ03Cert.comparePh_eq, BHRZ03Cert.compare, h1, h2, if_neg (lt_irrefl _), if_neg (lt_irrefl _),
    cmpStep_self, cmpStep_self]

theorem H79Cert.comparePh_eq_compare_of_same_dims (c p : H79Cert)
    (h1 : c.affineDim = p.affineDim) : c.comparePh p = c.compare p := by
  rw [H79Cert.comparePh_eq, H79Cert.compare, h1, if_neg (lt_irrefl _), cmpStep_self]

end PPLV.Widen

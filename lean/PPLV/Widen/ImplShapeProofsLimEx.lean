import PPLV.Widen.ImplShapeProofsLimFails
import PPLV.Widen.ImplShapeProofsLimBox4
import PPLV.Widen.ImplShapeProofsLimBDEq
import PPLV.Widen.ImplShapeProofsLimOctEx
/-!
# concrete instances for the non-vacuity examples of the limited extrapolations
-/
namespace PPLV.Widen
open PPLV.WR
open PPLV.WR.ExtRat (fin pinf le_rfl' le_trans' le_total' le_pinf fin_le_fin)

/-! ## `BD_Shape`: `limExX` (`A ≤ 2`), `limExY` (`A ≤ 1`), `limExC` (`2A ≤ 5`), integer coefficients -/

theorem limExX_WF : BDS.WF 1 limExX := by
  intro i hi
  have : i = 0 ∨ i = 1 := by omega
  rcases this with rfl | rfl <;> rfl

theorem limExX_γ0 : BDS.γ 1 limExX (fun _ => 0) := by
  refine ⟨rfl, fun i j hi hj => ?_⟩
  have hi' : i = 0 ∨ i = 1 := by omega
  have hj' : j = 0 ∨ j = 1 := by omega
  rcases hi' with rfl | rfl <;> rcases hj' with rfl | rfl <;> decide +kernel

theorem limExC_sel : bdLimSel 1 limExC = true ∧ limExC.isEq = false ∧ (bdLimCell 1 limExC).1 ≤ 1 ∧
    (bdLimCell 1 limExC).2 ≤ 1 ∧
    (bdClosureAssign upCeil 1 limExX).dbm (bdLimCell 1 limExC).1 (bdLimCell 1 limExC).2 ≤ bdLimBound upCeil 1 limExC := by
  decide +kernel

theorem limEx_bhmz05_some : (bdLimitedBHMZ05 upCeil 1 1 [limExC] limExX limExY none).isSome = true := by
  decide +kernel

/-! ## `BD_Shape`, exact coefficients: the receiver `A = 1` and the supplied equality `A = 1` -/

def limExEqX : BDS := { dbm := Mat.ofLists [[pinf, fin 1], [fin (-1), pinf]], closed := true }
def limExEqC : LimCon := ⟨true, [1], -1, false⟩

theorem limExEqX_WF : BDS.WF 1 limExEqX := by
  intro i hi
  have : i = 0 ∨ i = 1 := by omega
  rcases this with rfl | rfl <;> rfl

theorem limExEqX_γ1 : BDS.γ 1 limExEqX (fun _ => 1) := by
  refine ⟨rfl, fun i j hi hj => ?_⟩
  have hi' : i = 0 ∨ i = 1 := by omega
  have hj' : j = 0 ∨ j = 1 := by omega
  rcases hi' with rfl | rfl <;> rcases hj' with rfl | rfl <;> decide +kernel

theorem limExEqC_sel : bdLimSel 1 limExEqC = true ∧ limExEqC.isEq = true ∧
    (bdClosureAssign upId 1 limExEqX).dbm (bdLimCell 1 limExEqC).1 (bdLimCell 1 limExEqC).2
      ≤ bdLimBound upId 1 limExEqC ∧
    (bdClosureAssign upId 1 limExEqX).dbm (bdLimCell 1 limExEqC).2 (bdLimCell 1 limExEqC).1
      ≤ bdLimBound1 upId 1 limExEqC := by
  decide +kernel

theorem limExC_sat_upId :
    (bdClosureAssign upId 1 limExX).dbm (bdLimCell 1 limExC).1 (bdLimCell 1 limExC).2 ≤ bdLimBound upId 1 limExC := by
  decide +kernel

theorem limExEq_bhmz05_some : (bdLimitedBHMZ05 upId 1 1 [limExEqC] limExEqX limExEqX none).isSome = true := by
  decide +kernel

/-! ## `Octagonal_Shape`: `A ≤ 2` (`2A ≤ 4`), `A ≤ 1`, the supplied `A ≤ 3`, exact coefficients -/

def limExOX : OCS := { mat := Mat.ofLists [[pinf, pinf], [fin 4, pinf]], closed := true }
def limExOY : OCS := { mat := Mat.ofLists [[pinf, pinf], [fin 2, pinf]], closed := true }
def limExOC : LimCon := ⟨false, [-1], 3, false⟩

theorem limExOX_WF : OCS.WF 1 limExOX := by
  intro i hi
  have : i = 0 ∨ i = 1 := by omega
  rcases this with rfl | rfl <;> rfl

theorem limExOX_γ0 : OCS.γ 1 limExOX (fun _ => 0) := by
  refine ⟨rfl, fun i j hi hj => ?_⟩
  have hi' : i = 0 ∨ i = 1 := by omega
  rcases hi' with rfl | rfl
  · have hj' : j = 0 ∨ j = 1 := by simp [rowSize] at hj; omega
    rcases hj' with rfl | rfl <;> decide +kernel
  · have hj' : j = 0 ∨ j = 1 := by simp [rowSize] at hj; omega
    rcases hj' with rfl | rfl <;> decide +kernel

theorem limExOC_sel : octLimSel 1 limExOC = true ∧ limExOC.isEq = false ∧ (octLimCell 1 limExOC).1 < 2 * 1 ∧
    (octLimCell 1 limExOC).2 < rowSize (octLimCell 1 limExOC).1 ∧
    (octClosureAssign upId 1 limExOX).mat (octLimCell 1 limExOC).1 (octLimCell 1 limExOC).2
      ≤ octLimBound upId 1 limExOC := by
  decide +kernel

theorem limExO_bhmz05_some : (octLimitedBHMZ05 upId 1 1 [limExOC] limExOX limExOY none).isSome = true := by
  decide +kernel

theorem limExO_cc76_cell : (octLimitedCC76 upId 1 1 [limExOC] limExOX limExOY none).1.mat 1 0 = fin 6 := by
  decide +kernel

/-! ## `Box`: `A ≤ 3`, `A ≤ 2`, the supplied `2A ≤ 7` -/

def limExBX : BoxS := { seq := [⟨none, false, some 3, false⟩] }
def limExBY : BoxS := { seq := [⟨none, false, some 2, false⟩] }
def limExBC : LimCon := ⟨false, [-2], 7, false⟩

theorem limExBX_γ0 : BoxS.γ limExBX (fun _ => 0) := by
  refine ⟨rfl, fun k hk => ?_⟩
  have : k = 0 := by simp [limExBX] at hk; omega
  subst this
  exact ⟨trivial, by show (0 : Rat) ≤ 3; norm_num⟩

theorem limExBC_sel : boxLimSel 1 limExBX.seq limExBC 0 :=
  ⟨1, by decide +kernel, by decide, by decide +kernel⟩

theorem limExB_result : (boxLimitedCC76 1 [limExBC] limExBX limExBY none).1
    = { seq := [⟨none, false, some (7 / 2), false⟩] } := by decide +kernel

/-- the singleton box `A = 3` -/
def limExBS : BoxS := { seq := [⟨some 3, false, some 3, false⟩] }

theorem limExBS_mem3 : (limExBS.seq[0]'(by decide)).mem 3 := ⟨le_refl (3 : Rat), le_refl (3 : Rat)⟩

theorem limExBS_γ3 : BoxS.γ limExBS (fun _ => 3) := by
  refine ⟨rfl, fun k hk => ?_⟩
  have : k = 0 := by simp [limExBS] at hk; omega
  subst this
  exact limExBS_mem3

end PPLV.Widen

import PPLV.Widen.ImplH79ProofsSem
import PPLV.Widen.ProofsCert
import Mathlib.Tactic.Ring
import Mathlib.Tactic.Linarith
import Mathlib.Tactic.SplitIfs

/-!
# `BHRZ03_widening_assign`: the case analysis of the driver, the combining constraints
-/
namespace PPLV.Widen.Impl
open PPLV.Widen

/-! ### the driver, branch by branch -/

theorem combining_some {nnc : Bool} {n : Nat} {o : BOracle} {yGens : List GRow} {xm : List CRow} {c : Cand}
    (h : bhrz03CombiningConstraints nnc n o yGens xm = some c) :
    accept o c = true ∧ c.cs = o.h79.cs ++ combiningNewCs nnc n yGens o.h79.cs xm ∧ c.cert = o.cert1 c.cs := by
  unfold bhrz03CombiningConstraints at h
  by_cases h1 : xm.length ≤ 1
  · rw [if_pos h1] at h; cases h
  · rw [if_neg h1] at h
    dsimp only at h
    by_cases h2 : (!(combiningNewCs nnc n yGens o.h79.cs xm).reverse.any o.strictlyIntersects) = true
    · rw [if_pos h2] at h; cases h
    · rw [if_neg h2] at h
      split_ifs at h with h3
      cases h
      exact ⟨h3, rfl, rfl⟩

/-- the part of the driver after the token test (l. 814–851) -/
def bhrz03Tail (x : Poly) (o : BOracle) (tp : Option Nat) : BRes :=
  match bhrz03CombiningConstraints x.nnc x.n o o.ySel.genSys
      (selectH79Constraints x.nnc o.xCons o.ySel.conSys o.ySel.genSys o.ySel.satG).2 with
  | some c => ⟨.combining, some c.cs, tp⟩
  | none =>
    if accept o o.cand2 then ⟨.points, some o.cand2.cs, tp⟩ else
    match o.cand3 with
    | some c3 => if accept o c3 then ⟨.rays, some c3.cs, tp⟩ else ⟨.h79, some o.h79.cs, tp⟩
    | none => ⟨.h79, some o.h79.cs, tp⟩

theorem bhrz03Tail_cases (x : Poly) (o : BOracle) (tp : Option Nat) :
    (∃ c, bhrz03CombiningConstraints x.nnc x.n o o.ySel.genSys
        (selectH79Constraints x.nnc o.xCons o.ySel.conSys o.ySel.genSys o.ySel.satG).2 = some c ∧
      bhrz03Tail x o tp = ⟨.combining, some c.cs, tp⟩) ∨
    (accept o o.cand2 = true ∧ bhrz03Tail x o tp = ⟨.points, some o.cand2.cs, tp⟩) ∨
    (∃ c3, o.cand3 = some c3 ∧ accept o c3 = true ∧ bhrz03Tail x o tp = ⟨.rays, some c3.cs, tp⟩) ∨
    bhrz03Tail x o tp = ⟨.h79, some o.h79.cs, tp⟩ := by
  unfold bhrz03Tail
  cases hc : bhrz03CombiningConstraints x.nnc x.n o o.ySel.genSys
      (selectH79Constraints x.nnc o.xCons o.ySel.conSys o.ySel.genSys o.ySel.satG).2 with
  | some c => exact Or.inl ⟨c, rfl, rfl⟩
  | none =>
    simp only
    by_cases h2 : accept o o.cand2 = true
    · rw [if_pos h2]; exact Or.inr (Or.inl ⟨h2, rfl⟩)
    · rw [if_neg h2]
      cases h3 : o.cand3 with
      | none => exact Or.inr (Or.inr (Or.inr rfl))
      | some c3 =>
        simp only
        by_cases h4 : accept o c3 = true
        · rw [if_pos h4]; exact Or.inr (Or.inr (Or.inl ⟨c3, rfl, h4, rfl⟩))
        · rw [if_neg h4]; exact Or.inr (Or.inr (Or.inr rfl))

/-- every way out of `BHRZ03_widening_assign` -/
theorem bhrz03_cases (x : Poly) (yEmpty : Bool) (o : BOracle) (tp : Option Nat) :
    bhrz03WideningAssign x yEmpty o tp = ⟨.trivial, none, tp⟩ ∨
    bhrz03WideningAssign x yEmpty o tp = ⟨.yEmpty, none, tp⟩ ∨
    ((o.yCert.isStabilizing o.xCert = true ∨ o.yContainsX = true) ∧
      bhrz03WideningAssign x yEmpty o tp = ⟨.stabilizing, none, tp⟩) ∨
    (∃ t, tp = some (t + 1) ∧ bhrz03WideningAssign x yEmpty o tp = ⟨.token, none, some t⟩) ∨
    bhrz03WideningAssign x yEmpty o tp = bhrz03Tail x o tp := by
  unfold bhrz03WideningAssign
  by_cases h1 : (x.n == 0 || x.markedEmpty || yEmpty) = true
  · rw [if_pos h1]; exact Or.inl rfl
  · rw [if_neg h1]
    cases hy : o.yMin with
    | none => exact Or.inr (Or.inl rfl)
    | some y =>
      simp only
      by_cases h2 : (o.yCert.isStabilizing o.xCert || o.yContainsX) = true
      · rw [if_pos h2]
        exact Or.inr (Or.inr (Or.inl ⟨by simpa using h2, rfl⟩))
      · rw [if_neg h2]
        rcases tp with _ | t
        · exact Or.inr (Or.inr (Or.inr (Or.inr rfl)))
        · cases t with
          | zero => exact Or.inr (Or.inr (Or.inr (Or.inr rfl)))
          | succ t => exact Or.inr (Or.inr (Or.inr (Or.inl ⟨t, rfl, rfl⟩)))

/-! ### the combining constraints hold on `x` (closed polyhedra) -/

theorem evalRow_vadd : ∀ (a b : Vec) (v : Nat → Rat), evalRow (vadd a b) v = evalRow a v + evalRow b v
  | [], b, v => by simp [vadd, evalRow]
  | a :: as, [], v => by simp [vadd, evalRow]
  | a :: as, b :: bs, v => by
    simp only [vadd, evalRow, evalRow_vadd as bs]
    push_cast
    ring

theorem evalRow_replicate_zero : ∀ (k : Nat) (v : Nat → Rat), evalRow (List.replicate k 0) v = 0
  | 0, _ => rfl
  | k + 1, v => by simp [List.replicate_succ, evalRow, evalRow_replicate_zero k]

theorem evalRow_append_zeros : ∀ (e : Vec) (k : Nat) (v : Nat → Rat),
    evalRow (e ++ List.replicate k 0) v = evalRow e v
  | [], k, v => by simp [evalRow, evalRow_replicate_zero]
  | a :: as, k, v => by simp [evalRow, evalRow_append_zeros as k]

theorem evalRow_zero_fun : ∀ (e : Vec) (v : Nat → Rat), (∀ i, v i = 0) → evalRow e v = 0
  | [], _, _ => rfl
  | a :: as, v, h => by simp [evalRow, h 0, evalRow_zero_fun as _ (fun i => h (i + 1))]

theorem evalRow_take : ∀ (e : Vec) (m : Nat) (v : Nat → Rat), (∀ i, m ≤ i → v i = 0) →
    evalRow (e.take m) v = evalRow e v
  | [], m, v, _ => by simp
  | a :: as, 0, v, h => by
    simp only [List.take_zero, evalRow]
    rw [evalRow_zero_fun as _ (fun i => h (i + 1) (Nat.zero_le _)), h 0 (Nat.le_refl _)]
    simp
  | a :: as, m + 1, v, h => by
    simp only [List.take_succ_cons, evalRow]
    rw [evalRow_take as m _ (fun i hi => h (i + 1) (by omega))]

theorem hom_beyond (n : Nat) (p : Pt) {i : Nat} (hi : n + 1 ≤ i) : hom n p 0 i = 0 := by
  unfold hom
  have h1 : i ≠ 0 := by omega
  have h2 : ¬ i ≤ n := by omega
  simp [h1, h2]

/-- `mkIneq` (closed topology) denotes `e ≥ 0` -/
theorem mkIneq_holds (n : Nat) (e : Vec) (s : Bool) (p : Pt) :
    (mkIneq false n e s).holds (hom n p 0) ↔ 0 ≤ evalRow e (hom n p 0) := by
  unfold mkIneq CRow.holds
  simp only [Bool.false_eq_true, if_false]
  rw [evalRow_take _ _ _ (fun i hi => hom_beyond n p hi), evalRow_append_zeros]

theorem nonneg_of_holds {c : CRow} {v : Nat → Rat} (h : c.holds v) : 0 ≤ evalRow c.e v := by
  unfold CRow.holds at h
  split_ifs at h with he
  · rw [h]
  · exact h

theorem evalRow_foldl_nonneg (v : Nat → Rat) : ∀ (l : List CRow) (init : Vec), 0 ≤ evalRow init v →
    (∀ c ∈ l, c.holds v) → 0 ≤ evalRow (l.foldl (fun acc c => vadd acc (c.expression false)) init) v
  | [], init, h, _ => h
  | c :: l, init, h, hl => by
    simp only [List.foldl_cons]
    apply evalRow_foldl_nonneg v l
    · rw [evalRow_vadd]
      have := nonneg_of_holds (hl c (List.mem_cons_self))
      simp only [CRow.expression, Bool.false_eq_true, if_false]
      linarith
    · exact fun c' hc' => hl c' (List.mem_cons_of_mem _ hc')

/-- every constraint `BHRZ03_combining_constraints` adds for one point of `y` is a row of
    `x_minus_H79_cs` or a sum of such rows -/
theorem combiningForPoint_holds (n : Nat) (h79Cs xm : List CRow) (g : GRow) (p : Pt)
    (hxm : ∀ c ∈ xm, c.holds (hom n p 0)) :
    ∀ r ∈ combiningForPoint false n h79Cs xm g, r.holds (hom n p 0) := by
  intro r hr
  unfold combiningForPoint at hr
  by_cases h1 : ((g.isPoint false && !false) || (g.isClosurePoint false && false)) = true
  · rw [if_pos h1] at hr
    dsimp only at hr
    by_cases h2 : (h79Cs.reverse.any fun c => !c.eq && sp c.e g.e == 0) = true
    · rw [if_pos h2] at hr; simp at hr
    · rw [if_neg h2] at hr
      have hcomb : ∀ c ∈ (xm.reverse.filter fun c => sp c.e g.e == 0), c.holds (hom n p 0) := by
        intro c hc
        exact hxm c (List.mem_reverse.mp (List.mem_filter.mp hc).1)
      generalize (xm.reverse.filter fun c => sp c.e g.e == 0) = comb at hcomb hr
      rcases comb with _ | ⟨c1, _ | ⟨c2, rest⟩⟩
      · simp at hr
      · dsimp only at hr
        rw [List.mem_singleton] at hr
        subst hr
        exact hcomb _ (List.mem_singleton.mpr rfl)
      · dsimp only at hr
        split_ifs at hr with h3
        · rw [List.mem_singleton] at hr
          subst hr
          rw [mkIneq_holds]
          apply evalRow_foldl_nonneg
          · simp [evalRow]
          · intro c hc; exact hcomb c (List.mem_reverse.mp hc)
        · simp at hr
  · rw [if_neg h1] at hr; simp at hr

theorem combiningNewCs_holds (n : Nat) (yGens : List GRow) (h79Cs xm : List CRow) (p : Pt)
    (hxm : ∀ c ∈ xm, c.holds (hom n p 0)) :
    SatRows (combiningNewCs false n yGens h79Cs xm) (hom n p 0) := by
  intro r hr
  unfold combiningNewCs at hr
  rw [List.mem_flatMap] at hr
  obtain ⟨g, _, hg⟩ := hr
  exact combiningForPoint_holds n h79Cs xm g p hxm r hg

/-! ### certificates -/

/-- **H79 decrease ⇒ BHRZ03-stabilizing**: no further condition is needed — `compare(ph)` of the BHRZ03
    certificate answers `1` as soon as the affine dimension grew, the lineality grew, or (neither) the
    number of constraints shrank, and the H79 test is the first and third of these. -/
theorem h79_decrease_implies_bhrz03_stabilizing (cy cr : BHRZ03Cert)
    (h : (⟨cy.affineDim, cy.numConstraints⟩ : H79Cert).comparePh ⟨cr.affineDim, cr.numConstraints⟩ = .gt) :
    cy.isStabilizing cr = true := by
  rw [H79Cert.comparePh_gt] at h
  simp only at h
  unfold BHRZ03Cert.isStabilizing
  rw [beq_iff_eq, BHRZ03Cert.comparePh_gt]
  rcases h with h | ⟨h1, h2⟩
  · exact Or.inl h
  · right
    refine ⟨h1, ?_⟩
    by_cases hl : cy.linSpaceDim < cr.linSpaceDim
    · exact Or.inl hl
    · exact Or.inr ⟨hl, Or.inl h2⟩

end PPLV.Widen.Impl

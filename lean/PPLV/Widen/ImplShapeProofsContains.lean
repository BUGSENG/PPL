import PPLV.Widen.ImplShapeProofsClose
import PPLV.Widen.ProofsItv
/-!
# The shape widenings return an object that contains the receiver

At the level of the whole modelled functions (`bdCC76`, `octCC76`, `boxCC76`, `boxCC76Stops`): every point of the
receiver `x` is a point of the result; the loops only raise cells (that the result then contains `y` too, under
the precondition `y ⊆ x`, is stated here for the box only; for the shapes it is drawn in `Props/C08ImplShape.lean`).
The token protocol: with a positive token count the receiver is only
closed and the count stays or drops by one.
-/
namespace PPLV.Widen
open PPLV.WR
open PPLV.WR.ExtRat (fin pinf le_rfl' le_trans' le_total' le_pinf)

variable {up : Rat → ExtRat}

theorem bdClosureAssign_zero (up : Rat → ExtRat) (s : BDS) : bdClosureAssign up 0 s = s := by
  unfold bdClosureAssign; simp

theorem octClosureAssign_zero (up : Rat → ExtRat) (s : OCS) : octClosureAssign up 0 s = s := by
  unfold octClosureAssign; simp

/-! ## the frame shared by the shape widenings

`BD_Shape` and `Octagonal_Shape` wrap their matrix loops in the same code: closures, the emptiness exits, and the
token test `if (tp != 0 && *tp > 0) { … if (!contains(x_tmp)) --*tp; return; }` around the widened copy. -/

section Frame
variable {S : Type} (contains : S → S → Bool)

/-- the token test around the widened copy `w` of `x` -/
def tokenTail (x y w : S) (tp : Option Nat) : S × S × Option Nat :=
  match tp with
  | some t => if t > 0 then (x, y, if !contains x w then some (t - 1) else some t) else (w, y, tp)
  | none => (w, y, tp)

theorem tokenTail_cases (x y w : S) (tp : Option Nat) :
    (∃ t, tp = some t ∧ 0 < t ∧
      tokenTail contains x y w tp = (x, y, if !contains x w then some (t - 1) else some t))
    ∨ ((tp = none ∨ tp = some 0) ∧ tokenTail contains x y w tp = (w, y, tp)) := by
  cases tp with
  | none => exact Or.inr ⟨Or.inl rfl, rfl⟩
  | some t =>
    rcases Nat.eq_zero_or_pos t with rfl | ht
    · exact Or.inr ⟨Or.inr rfl, rfl⟩
    · exact Or.inl ⟨t, rfl, ht, if_pos ht⟩

theorem tokenTail_fst (x y w : S) (tp : Option Nat) :
    (tokenTail contains x y w tp).1 = x
    ∨ ((tp = none ∨ tp = some 0) ∧ (tokenTail contains x y w tp).1 = w) := by
  rcases tokenTail_cases contains x y w tp with ⟨t, _, _, h⟩ | ⟨ht, h⟩ <;> rw [h]
  exacts [Or.inl rfl, Or.inr ⟨ht, rfl⟩]

theorem tokenTail_snd (x y w : S) (tp : Option Nat) : (tokenTail contains x y w tp).2.1 = y := by
  rcases tokenTail_cases contains x y w tp with ⟨t, _, _, h⟩ | ⟨_, h⟩ <;> rw [h]

/-- with a positive count the receiver is not widened and the count stays or drops by one -/
theorem tokenTail_token (x y w : S) {t : Nat} (ht : 0 < t) :
    (tokenTail contains x y w (some t)).1 = x ∧
    ((tokenTail contains x y w (some t)).2.2 = some t ∨ (tokenTail contains x y w (some t)).2.2 = some (t - 1)) := by
  rcases tokenTail_cases contains x y w (some t) with ⟨t', ht', _, h⟩ | ⟨h0, _⟩
  · cases ht'
    rw [h]
    exact ⟨rfl, by cases !contains x w; exacts [Or.inl rfl, Or.inr rfl]⟩
  · rcases h0 with h0 | h0
    · cases h0
    · cases h0; exact absurd ht (lt_irrefl 0)

theorem tokenTail_no_token (x y w : S) {tp : Option Nat} (h : tp = none ∨ tp = some 0) :
    (tokenTail contains x y w tp).2.2 = tp := by
  rcases h with rfl | rfl <;> rfl

variable (empty : S → Bool) (close : S → S) (widen : S → S → S)

/-- `CC76_extrapolation_assign(y, first, last, tp)` of both shape classes, over the closure `close`, the emptiness
flag and the matrix loops `widen` (applied to the two closed arguments) -/
def cc76Frame (n : Nat) (x y : S) (tp : Option Nat) : S × S × Option Nat :=
  if n = 0 then (x, y, tp)
  else if empty (close x) then (close x, y, tp)
  else if empty (close y) then (close x, close y, tp)
  else tokenTail contains (close x) (close y) (widen (close x) (close y)) tp

variable {contains empty close widen}

/-- the receiver returned: the closed `*this`, or the closed `*this` with the widened matrix -/
theorem cc76Frame_fst {n : Nat} (x y : S) (tp : Option Nat) (h0 : n = 0 → close x = x) :
    (cc76Frame contains empty close widen n x y tp).1 = close x
    ∨ (empty (close x) = false ∧ empty (close y) = false ∧ n ≠ 0 ∧ (tp = none ∨ tp = some 0)
        ∧ (cc76Frame contains empty close widen n x y tp).1 = widen (close x) (close y)) := by
  unfold cc76Frame
  by_cases hn : n = 0
  · rw [if_pos hn]; exact Or.inl (h0 hn).symm
  by_cases hx : empty (close x) = true
  · rw [if_neg hn, if_pos hx]; exact Or.inl rfl
  by_cases hy : empty (close y) = true
  · rw [if_neg hn, if_neg hx, if_pos hy]; exact Or.inl rfl
  rw [if_neg hn, if_neg hx, if_neg hy]
  exact (tokenTail_fst contains _ _ _ tp).imp_right fun h =>
    ⟨Bool.eq_false_iff.2 hx, Bool.eq_false_iff.2 hy, hn, h⟩

/-- the argument returned: `y` as it came or closed -/
theorem cc76Frame_snd {n : Nat} (x y : S) (tp : Option Nat) :
    (cc76Frame contains empty close widen n x y tp).2.1 = y
    ∨ (cc76Frame contains empty close widen n x y tp).2.1 = close y := by
  unfold cc76Frame
  split_ifs
  exacts [Or.inl rfl, Or.inl rfl, Or.inr rfl, Or.inr (tokenTail_snd contains _ _ _ tp)]

theorem cc76Frame_token {n : Nat} (x y : S) {t : Nat} (ht : 0 < t) (h0 : n = 0 → close x = x) :
    (cc76Frame contains empty close widen n x y (some t)).1 = close x ∧
    ((cc76Frame contains empty close widen n x y (some t)).2.2 = some t
      ∨ (cc76Frame contains empty close widen n x y (some t)).2.2 = some (t - 1)) := by
  unfold cc76Frame
  split_ifs with hn
  exacts [⟨(h0 hn).symm, Or.inl rfl⟩, ⟨rfl, Or.inl rfl⟩, ⟨rfl, Or.inl rfl⟩, tokenTail_token contains _ _ _ ht]

/-- without tokens (`nullptr` or a count of `0`) the count is untouched -/
theorem cc76Frame_no_token {n : Nat} (x y : S) {tp : Option Nat} (h : tp = none ∨ tp = some 0) :
    (cc76Frame contains empty close widen n x y tp).2.2 = tp := by
  unfold cc76Frame
  split_ifs
  exacts [rfl, rfl, rfl, tokenTail_no_token contains _ _ _ h]

end Frame

/-! ## `BD_Shape::CC76_extrapolation_assign` -/

/-- the matrix-widened copy of the closed receiver -/
def bdCC76Widened (up : Rat → ExtRat) (n : Nat) (stops : List Rat) (X Y : BDS) : BDS :=
  { (bdClosureAssign up n X) with
    dbm := bdCC76Loops up stops n (bdClosureAssign up n X).dbm (bdClosureAssign up n Y).dbm }.resetClosed

theorem bdCC76_eq_frame (up : Rat → ExtRat) (n : Nat) (stops : List Rat) (X Y : BDS) (tp : Option Nat) :
    bdCC76 up n stops X Y tp =
      cc76Frame (bdContains up n) (·.empty) (bdClosureAssign up n)
        (fun x y => { x with dbm := bdCC76Loops up stops n x.dbm y.dbm }.resetClosed) n X Y tp := by
  unfold bdCC76 cc76Frame tokenTail
  cases tp <;> rfl

/-- the loops only raise cells -/
theorem bdCC76Loops_ge (hup : ∀ q, fin q ≤ up q) (stops : List Rat) (n : Nat) (x y : Mat) :
    bdLE n x (bdCC76Loops up stops n x y) := by
  intro i j _ _
  rw [bdCC76Loops_apply]
  split
  · exact le_cc76Cell hup stops _ _
  · exact le_rfl' _

/-- the receiver returned: the closed `*this`, or the closed `*this` with the widened matrix -/
theorem bdCC76_fst_cases (up : Rat → ExtRat) (n : Nat) (stops : List Rat) (X Y : BDS) (tp : Option Nat) :
    (bdCC76 up n stops X Y tp).1 = bdClosureAssign up n X
    ∨ ((bdClosureAssign up n X).empty = false ∧ (bdClosureAssign up n Y).empty = false ∧ n ≠ 0
        ∧ (tp = none ∨ tp = some 0) ∧ (bdCC76 up n stops X Y tp).1 = bdCC76Widened up n stops X Y) := by
  rw [bdCC76_eq_frame]
  exact cc76Frame_fst X Y tp fun h => h ▸ bdClosureAssign_zero up X

/-- **the result of the CC76 extrapolation contains the receiver** (`BD_Shape_templates.hh:3129`) -/
theorem bd_cc76_contains_x (hup : ∀ q, fin q ≤ up q) (n : Nat) (stops : List Rat) (X Y : BDS)
    (tp : Option Nat) (hX : BDS.WF n X) (p : Nat → Rat) (hp : BDS.γ n X p) :
    BDS.γ n (bdCC76 up n stops X Y tp).1 p := by
  have hc := bdClosureAssign_γ hup hX hp
  rcases bdCC76_fst_cases up n stops X Y tp with h | ⟨_, _, _, _, h⟩
  · rw [h]; exact hc
  · rw [h]
    refine ⟨hc.1, fun i j hi hj => ?_⟩
    exact le_trans' (hc.2 i j hi hj) (bdCC76Loops_ge hup stops n _ _ i j hi hj)

/-- the argument `y` comes back closed at most: the same points (the `const_cast` is harmless) -/
theorem bd_cc76_y_γ (hup : ∀ q, fin q ≤ up q) (n : Nat) (stops : List Rat) (X Y : BDS) (tp : Option Nat)
    (hY : BDS.WF n Y) (p : Nat → Rat) : BDS.γ n (bdCC76 up n stops X Y tp).2.1 p ↔ BDS.γ n Y p := by
  rw [bdCC76_eq_frame]
  rcases cc76Frame_snd X Y tp with h | h <;> rw [h]
  exact bdClosureAssign_γ_iff hup hY p

/-! ## `Octagonal_Shape::CC76_extrapolation_assign` -/

/-- the matrix-widened copy of the closed receiver -/
def octCC76Widened (up : Rat → ExtRat) (n : Nat) (stops : List Rat) (X Y : OCS) : OCS :=
  { (octClosureAssign up n X) with
    mat := octCC76Loops up stops n (octClosureAssign up n X).mat (octClosureAssign up n Y).mat }.resetClosed

theorem octCC76_eq_frame (up : Rat → ExtRat) (n : Nat) (stops : List Rat) (X Y : OCS) (tp : Option Nat) :
    octCC76 up n stops X Y tp =
      cc76Frame (octContains up n) (·.empty) (octClosureAssign up n)
        (fun x y => { x with mat := octCC76Loops up stops n x.mat y.mat }.resetClosed) n X Y tp := by
  unfold octCC76 cc76Frame tokenTail
  cases tp <;> rfl

/-- the loops only raise cells -/
theorem octCC76Loops_ge (hup : ∀ q, fin q ≤ up q) (stops : List Rat) (n : Nat) (x y : Mat) :
    octLE n x (octCC76Loops up stops n x y) := by
  intro i j _ _
  rw [octCC76Loops_apply]
  split
  · exact le_cc76Cell hup stops _ _
  · exact le_rfl' _

/-- the receiver returned: the closed `*this`, or the closed `*this` with the widened matrix -/
theorem octCC76_fst_cases (up : Rat → ExtRat) (n : Nat) (stops : List Rat) (X Y : OCS) (tp : Option Nat) :
    (octCC76 up n stops X Y tp).1 = octClosureAssign up n X
    ∨ ((octClosureAssign up n X).empty = false ∧ (octClosureAssign up n Y).empty = false ∧ n ≠ 0
        ∧ (tp = none ∨ tp = some 0) ∧ (octCC76 up n stops X Y tp).1 = octCC76Widened up n stops X Y) := by
  rw [octCC76_eq_frame]
  exact cc76Frame_fst X Y tp fun h => h ▸ octClosureAssign_zero up X

/-- **the result of the CC76 extrapolation contains the receiver** (`Octagonal_Shape_templates.hh:3890`) -/
theorem oct_cc76_contains_x (hup : ∀ q, fin q ≤ up q) (n : Nat) (stops : List Rat) (X Y : OCS)
    (tp : Option Nat) (hX : OCS.WF n X) (p : Nat → Rat) (hp : OCS.γ n X p) :
    OCS.γ n (octCC76 up n stops X Y tp).1 p := by
  have hc := octClosureAssign_γ hup hX hp
  rcases octCC76_fst_cases up n stops X Y tp with h | ⟨_, _, _, _, h⟩
  · rw [h]; exact hc
  · rw [h]
    refine ⟨hc.1, fun i j hi hj => ?_⟩
    exact le_trans' (hc.2 i j hi hj) (octCC76Loops_ge hup stops n _ _ i j hi hj)

/-- the argument `y` comes back closed at most: the same points (the `const_cast` is harmless) -/
theorem oct_cc76_y_γ (hup : ∀ q, fin q ≤ up q) (n : Nat) (stops : List Rat) (X Y : OCS) (tp : Option Nat)
    (hY : OCS.WF n Y) (p : Nat → Rat) : OCS.γ n (octCC76 up n stops X Y tp).2.1 p ↔ OCS.γ n Y p := by
  rw [octCC76_eq_frame]
  rcases cc76Frame_snd X Y tp with h | h <;> rw [h]
  exact octClosureAssign_γ_iff hup hY p

/-! ## `Box::CC76_widening_assign` -/

/-- **`x.CC76_widening_assign(y, first, last)` contains `x`** (`Box_templates.hh:4221`), componentwise by
`cc76_sup`.  No hypothesis on the lengths: the result has `min` of the two lengths components, each one a
superset of the component of `x`. -/
theorem box_cc76_stops_contains_x (stops : List Rat) (x y : BoxS) (p : Nat → Rat) (hp : BoxS.γ x p) :
    BoxS.γ (boxCC76Stops stops x y) p := by
  unfold boxCC76Stops
  split
  · exact hp
  · refine ⟨hp.1, fun k hk => ?_⟩
    have hk' : k < (List.zipWith (Itv.cc76 stops) x.seq y.seq).length := hk
    rw [List.length_zipWith] at hk'
    have hkx : k < x.seq.length := by omega
    have hky : k < y.seq.length := by omega
    show ((List.zipWith (Itv.cc76 stops) x.seq y.seq)[k]).mem (p k)
    rw [List.getElem_zipWith]
    exact cc76_sup stops _ _ _ (hp.2 k hkx)

/-- the space dimension is kept when both boxes have the same one -/
theorem boxCC76Stops_length (stops : List Rat) (x y : BoxS) (h : x.seq.length = y.seq.length) :
    (boxCC76Stops stops x y).seq.length = x.seq.length := by
  unfold boxCC76Stops
  split
  · rfl
  · show (List.zipWith (Itv.cc76 stops) x.seq y.seq).length = _
    rw [List.length_zipWith]; omega

theorem boxCC76_fst_cases (x y : BoxS) (tp : Option Nat) :
    (boxCC76 x y tp).1 = x ∨ ((tp = none ∨ tp = some 0) ∧ (boxCC76 x y tp).1 = boxCC76Stops defaultStops x y) := by
  unfold boxCC76
  cases tp with
  | none => right; exact ⟨Or.inl rfl, rfl⟩
  | some t =>
    by_cases ht : t > 0
    · left; simp only [ht, if_true]
    · right
      have : t = 0 := by omega
      subst this
      exact ⟨Or.inr rfl, rfl⟩

/-- **`x.CC76_widening_assign(y, tp)` contains `x`** (`Box_templates.hh:4242`) -/
theorem box_cc76_contains_x (x y : BoxS) (tp : Option Nat) (p : Nat → Rat) (hp : BoxS.γ x p) :
    BoxS.γ (boxCC76 x y tp).1 p := by
  rcases boxCC76_fst_cases x y tp with h | ⟨_, h⟩
  · rw [h]; exact hp
  · rw [h]; exact box_cc76_stops_contains_x _ x y p hp

theorem box_cc76_contains_y (x y : BoxS) (tp : Option Nat) (hyx : ∀ p, BoxS.γ y p → BoxS.γ x p)
    (p : Nat → Rat) (hp : BoxS.γ y p) : BoxS.γ (boxCC76 x y tp).1 p :=
  box_cc76_contains_x x y tp p (hyx p hp)

theorem box_cc76_stops_contains_y (stops : List Rat) (x y : BoxS) (hyx : ∀ p, BoxS.γ y p → BoxS.γ x p)
    (p : Nat → Rat) (hp : BoxS.γ y p) : BoxS.γ (boxCC76Stops stops x y) p :=
  box_cc76_stops_contains_x stops x y p (hyx p hp)

/-- the token protocol of the box widening (`Box_templates.hh:4257-4265`) -/
theorem box_cc76_token (x y : BoxS) (t : Nat) (ht : 0 < t) :
    (boxCC76 x y (some t)).1 = x
    ∧ ((boxCC76 x y (some t)).2 = some t ∨ (boxCC76 x y (some t)).2 = some (t - 1)) := by
  unfold boxCC76
  have ht' : t > 0 := ht
  simp only [ht', if_true]
  refine ⟨trivial, ?_⟩
  split
  · right; rfl
  · left; rfl

theorem box_cc76_no_token (x y : BoxS) (tp : Option Nat) (h : tp = none ∨ tp = some 0) :
    (boxCC76 x y tp).2 = tp := by
  unfold boxCC76
  rcases h with h | h <;> subst h <;> simp

end PPLV.Widen

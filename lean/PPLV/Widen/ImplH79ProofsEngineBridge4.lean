import PPLV.Widen.ImplH79ProofsEngineBridge3
import PPLV.Widen.ImplH79ProofsEngineFacet1

/-!
# `GPos` of the result of the engine's `minimize`

The positivity constraint `d ≥ 0` (row `(1, 0, …, 0)`) is a row of every closed constraint system of PPL;
every generator `conversion` returns satisfies every source row (`C01.minimize_dest_sound`), and the scalar
product of `(1, 0, …, 0)` with a generator is its column 0: `= 0` for a line, `≥ 0` otherwise.
-/
namespace PPLV.Widen.Impl
open PPLV.Conv

theorem scalarProduct_replicate_zero_left (k : Nat) (b : List Int) :
    scalarProduct (List.replicate k 0) b = 0 := by
  induction k generalizing b with
  | zero => simp [scalarProduct]
  | succ k ih =>
    cases b with
    | nil => simp [List.replicate_succ, scalarProduct]
    | cons y ys => simp [List.replicate_succ, scalarProduct, ih]

theorem scalarProduct_unit0 (k : Nat) (b : List Int) :
    scalarProduct (1 :: List.replicate k 0) b = b.headD 0 := by
  cases b with
  | nil => simp [scalarProduct]
  | cons y ys => simp [scalarProduct, scalarProduct_replicate_zero_left]

/-- **`gpos_of_minimize`** — column 0 of the generators returned: `0` on lines, `≥ 0` on the others, when the
positivity constraint is a row of the source. -/
theorem gpos_of_minimize (n : Nat) (source : List PPLV.Conv.LRow) (sat0 : List PPLV.Conv.BRow)
    (_hsz : n + 1 < 2 ^ 64) (_hsrc : source.length < 2 ^ 64)
    (_hlen : ∀ s ∈ source, s.v.length = n + 1)
    (_hne : (PPLV.Conv.minimize true false (n + 1) source sat0).empty = false)
    (hpos : (⟨false, 1 :: List.replicate n 0⟩ : PPLV.Conv.LRow) ∈ source) :
    GPos (ofEngine (PPLV.Conv.minimize true false (n + 1) source sat0)) := by
  intro g hg
  rw [ofEngine_genSys] at hg
  obtain ⟨d, hd, rfl⟩ := List.mem_map.mp hg
  have h := C01.minimize_dest_sound true false (n + 1) source sat0 d hd _ hpos
  unfold satisfies at h
  rw [scalarProduct_unit0] at h
  show if d.le then d.v.headD 0 = 0 else 0 ≤ d.v.headD 0
  cases hl : d.le <;> simpa [hl] using h

/-- non-vacuity: the segment `0 ≤ x ≤ 3` with its positivity constraint. -/
example : GPos (ofEngine (minimize true false 2 [⟨false, [0, 1]⟩, ⟨false, [3, -1]⟩, ⟨false, [1, 0]⟩] [])) :=
  gpos_of_minimize 1 _ [] (by norm_num) (by simp) (by decide) (by decide) (by decide)

end PPLV.Widen.Impl

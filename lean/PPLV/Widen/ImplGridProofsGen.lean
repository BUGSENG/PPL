import PPLV.Widen.ImplGridProofsCg

/-!
# `Grid::generator_widening_assign`: the object level of the generator path

* every exit of `generator_widening_assign` as an equation on the whole 4-tuple
  (`generatorWideningAssign_trivial`, `_x_empty`, `_more_rows`, `_more_lines`, `_all_selected`, `_widened`, `_tokens`);
* what a token changes (`generatorWideningAssign_token`);
* the grid assigned to `x` / to `y` with any token argument (`generatorWideningAssign_fst_cases`,
  `generatorWideningAssign_snd_cases`); the dispatch of `widening_assign` (`wideningAssign_gen`).
-/
namespace PPLV.Widen.ImplGrid
open PPLV.Lattice PPLV.Lattice.Red

/-! ### the exits as equations -/

theorem generatorWideningAssign_trivial (contains : GridM → GridM → Bool) (x y : GridM) (tp : Option Nat)
    (h : x.n = 0 ∨ x.empty = true ∨ y.empty = true) :
    generatorWideningAssign contains x y tp = (x, y, tp, "trivial") := by
  unfold generatorWideningAssign
  rw [if_pos h]

/-- `x` is found empty while its generators are brought up to date (l.312) -/
theorem generatorWideningAssign_x_empty (contains : GridM → GridM → Bool) (x y : GridM) (tp : Option Nat)
    (h0 : ¬ (x.n = 0 ∨ x.empty = true ∨ y.empty = true)) (hx : x.minimizeGenerators.empty = true) :
    generatorWideningAssign contains x y tp = (x.minimizeGenerators, y, tp, "x_empty") := by
  unfold generatorWideningAssign
  rw [if_neg h0]
  simp only [hx, if_true]

/-- the early return "`x` has more generator rows than `y`" (l.335) -/
theorem generatorWideningAssign_more_rows (contains : GridM → GridM → Bool) (x y : GridM) (tp : Option Nat)
    (h0 : ¬ (x.n = 0 ∨ x.empty = true ∨ y.empty = true)) (hx : x.minimizeGenerators.empty = false)
    (hrows : x.minimizeGenerators.gen.length > y.minimizeGenerators.gen.length) :
    generatorWideningAssign contains x y tp = (x.minimizeGenerators, y.minimizeGenerators, tp, "more_rows") := by
  unfold generatorWideningAssign
  rw [if_neg h0]
  simp only [hx, Bool.false_eq_true, if_false, hrows, if_true]

/-- the early return "`x` has more lines than `y`" (l.339) -/
theorem generatorWideningAssign_more_lines (contains : GridM → GridM → Bool) (x y : GridM) (tp : Option Nat)
    (h0 : ¬ (x.n = 0 ∨ x.empty = true ∨ y.empty = true)) (hx : x.minimizeGenerators.empty = false)
    (hrows : ¬ x.minimizeGenerators.gen.length > y.minimizeGenerators.gen.length)
    (hlines : numLines x.minimizeGenerators.gen > numLines y.minimizeGenerators.gen) :
    generatorWideningAssign contains x y tp = (x.minimizeGenerators, y.minimizeGenerators, tp, "more_lines") := by
  unfold generatorWideningAssign
  rw [if_neg h0]
  simp only [hx, Bool.false_eq_true, if_false, hrows, hlines, if_true]

/-- the generators `generator_widening_assign` selects -/
def genwSelected (x y : GridM) : List GRow :=
  selectWiderGenerators x.minimizeGenerators.n x.minimizeGenerators.gen x.minimizeGenerators.dk
    y.minimizeGenerators.gen y.minimizeGenerators.dk

/-- the grid `generator_widening_assign` builds from the selected generators -/
def genwResult (x y : GridM) : GridM :=
  addRecycledGridGeneratorsToEmpty x.minimizeGenerators.n
    (selectWiderGenerators x.minimizeGenerators.n x.minimizeGenerators.gen x.minimizeGenerators.dk
      y.minimizeGenerators.gen y.minimizeGenerators.dk)

theorem genwResult_eq (x y : GridM) :
    genwResult x y = addRecycledGridGeneratorsToEmpty x.minimizeGenerators.n (genwSelected x y) := rfl

/-- the early return "all the parameters were selected" (l.348) -/
theorem generatorWideningAssign_all_selected (contains : GridM → GridM → Bool) (x y : GridM) (tp : Option Nat)
    (h0 : ¬ (x.n = 0 ∨ x.empty = true ∨ y.empty = true)) (hx : x.minimizeGenerators.empty = false)
    (hrows : ¬ x.minimizeGenerators.gen.length > y.minimizeGenerators.gen.length)
    (hlines : ¬ numLines x.minimizeGenerators.gen > numLines y.minimizeGenerators.gen)
    (hall : numParameters (genwSelected x y) = numParameters x.minimizeGenerators.gen) :
    generatorWideningAssign contains x y tp = (x.minimizeGenerators, y.minimizeGenerators, tp, "all_selected") := by
  unfold genwSelected at hall
  unfold generatorWideningAssign
  rw [if_neg h0]
  simp only [hx, Bool.false_eq_true, if_false, hrows, hlines, hall, if_true]

/-- the exit that widens: a null token pointer, or a token count of 0 -/
theorem generatorWideningAssign_widened (contains : GridM → GridM → Bool) (x y : GridM) (tp : Option Nat)
    (htp : tp = none ∨ tp = some 0)
    (h0 : ¬ (x.n = 0 ∨ x.empty = true ∨ y.empty = true)) (hx : x.minimizeGenerators.empty = false)
    (hrows : ¬ x.minimizeGenerators.gen.length > y.minimizeGenerators.gen.length)
    (hlines : ¬ numLines x.minimizeGenerators.gen > numLines y.minimizeGenerators.gen)
    (hall : numParameters (genwSelected x y) ≠ numParameters x.minimizeGenerators.gen) :
    generatorWideningAssign contains x y tp = (genwResult x y, y.minimizeGenerators, tp, "widened") := by
  unfold genwSelected at hall
  unfold generatorWideningAssign
  rw [if_neg h0]
  simp only [hx, Bool.false_eq_true, if_false, hrows, hlines, hall]
  rcases htp with rfl | rfl <;> rfl

/-- `x` after `x.contains(result)`: the congruences of `x` (minimised generators) are brought up to date -/
def genwXTok (x : GridM) : GridM :=
  if x.minimizeGenerators.cgUp then x.minimizeGenerators else x.minimizeGenerators.updateCongruences

/-- the exit with a positive token count: `x` (minimised, congruences up to date) is kept, a token is used iff
    `result` is not contained -/
theorem generatorWideningAssign_tokens (contains : GridM → GridM → Bool) (x y : GridM) (t : Nat)
    (h0 : ¬ (x.n = 0 ∨ x.empty = true ∨ y.empty = true)) (hx : x.minimizeGenerators.empty = false)
    (hrows : ¬ x.minimizeGenerators.gen.length > y.minimizeGenerators.gen.length)
    (hlines : ¬ numLines x.minimizeGenerators.gen > numLines y.minimizeGenerators.gen)
    (hall : numParameters (genwSelected x y) ≠ numParameters x.minimizeGenerators.gen) :
    generatorWideningAssign contains x y (some (t + 1)) =
      if contains x.minimizeGenerators (genwResult x y) = true
      then (genwXTok x, y.minimizeGenerators, some (t + 1), "token_kept")
      else (genwXTok x, y.minimizeGenerators, some t, "token_used") := by
  unfold genwSelected at hall
  unfold generatorWideningAssign
  rw [if_neg h0]
  simp only [hx, Bool.false_eq_true, if_false, hrows, hlines, hall]
  unfold genwResult genwXTok
  cases contains x.minimizeGenerators (addRecycledGridGeneratorsToEmpty x.minimizeGenerators.n
    (selectWiderGenerators x.minimizeGenerators.n x.minimizeGenerators.gen x.minimizeGenerators.dk
      y.minimizeGenerators.gen y.minimizeGenerators.dk)) <;>
    cases x.minimizeGenerators.cgUp <;> simp

/-! ### tokens -/

/-- what a positive token count changes: nothing but the count on every exit that does not widen; where the plain
    call widens, `x` (minimised, with its congruences brought up to date by `x.contains(result)`) is kept and one
    token is used iff `result` is not contained in it -/
theorem generatorWideningAssign_token (contains : GridM → GridM → Bool) (x y : GridM) (t : Nat) :
    let plain := generatorWideningAssign contains x y none
    let tok := generatorWideningAssign contains x y (some (t + 1))
    (plain.2.2.2 ≠ "widened" → tok = (plain.1, plain.2.1, some (t + 1), plain.2.2.2)) ∧
    (plain.2.2.2 = "widened" →
      tok.1 = (if x.minimizeGenerators.cgUp then x.minimizeGenerators else x.minimizeGenerators.updateCongruences) ∧
      tok.2.1 = plain.2.1 ∧
      tok.2.2.1 = (if contains x.minimizeGenerators plain.1 then some (t + 1) else some t)) := by
  intro plain tok
  by_cases h0 : x.n = 0 ∨ x.empty = true ∨ y.empty = true
  · exact token_of_same_exit (by decide) (generatorWideningAssign_trivial contains x y none h0)
      (generatorWideningAssign_trivial contains x y (some (t + 1)) h0)
  by_cases hx : x.minimizeGenerators.empty = true
  · exact token_of_same_exit (by decide) (generatorWideningAssign_x_empty contains x y none h0 hx)
      (generatorWideningAssign_x_empty contains x y (some (t + 1)) h0 hx)
  have hx' : x.minimizeGenerators.empty = false := by simpa using hx
  by_cases hrows : x.minimizeGenerators.gen.length > y.minimizeGenerators.gen.length
  · exact token_of_same_exit (by decide) (generatorWideningAssign_more_rows contains x y none h0 hx' hrows)
      (generatorWideningAssign_more_rows contains x y (some (t + 1)) h0 hx' hrows)
  by_cases hlines : numLines x.minimizeGenerators.gen > numLines y.minimizeGenerators.gen
  · exact token_of_same_exit (by decide) (generatorWideningAssign_more_lines contains x y none h0 hx' hrows hlines)
      (generatorWideningAssign_more_lines contains x y (some (t + 1)) h0 hx' hrows hlines)
  by_cases hall : numParameters (genwSelected x y) = numParameters x.minimizeGenerators.gen
  · exact token_of_same_exit (by decide) (generatorWideningAssign_all_selected contains x y none h0 hx' hrows hlines hall)
      (generatorWideningAssign_all_selected contains x y (some (t + 1)) h0 hx' hrows hlines hall)
  · have e1 : plain = _ := generatorWideningAssign_widened contains x y none (Or.inl rfl) h0 hx' hrows hlines hall
    have e2 : tok = _ := generatorWideningAssign_tokens contains x y t h0 hx' hrows hlines hall
    rw [e1, e2]
    refine ⟨fun h => absurd rfl h, fun _ => ?_⟩
    unfold genwXTok
    cases contains x.minimizeGenerators (genwResult x y) <;> simp

/-! ### any token count; the second argument; the dispatch of `widening_assign` -/

/-- with any token argument the grid assigned to `x` is the one of the plain call, or (only where the plain call
    widens) `x` minimised with its congruences up to date -/
theorem generatorWideningAssign_fst_cases (contains : GridM → GridM → Bool) (x y : GridM) (tp : Option Nat) :
    (generatorWideningAssign contains x y tp).1 = (generatorWideningAssign contains x y none).1 ∨
    ((generatorWideningAssign contains x y none).2.2.2 = "widened" ∧
      (generatorWideningAssign contains x y tp).1 = genwXTok x) := by
  rcases tp with _ | _ | t
  · left; rfl
  · by_cases h0 : x.n = 0 ∨ x.empty = true ∨ y.empty = true
    · rw [generatorWideningAssign_trivial _ _ _ _ h0, generatorWideningAssign_trivial _ _ _ _ h0]; left; rfl
    by_cases hx : x.minimizeGenerators.empty = true
    · rw [generatorWideningAssign_x_empty _ _ _ _ h0 hx, generatorWideningAssign_x_empty _ _ _ _ h0 hx]; left; rfl
    have hx' : x.minimizeGenerators.empty = false := by simpa using hx
    by_cases hrows : x.minimizeGenerators.gen.length > y.minimizeGenerators.gen.length
    · rw [generatorWideningAssign_more_rows _ _ _ _ h0 hx' hrows, generatorWideningAssign_more_rows _ _ _ _ h0 hx' hrows]
      left; rfl
    by_cases hlines : numLines x.minimizeGenerators.gen > numLines y.minimizeGenerators.gen
    · rw [generatorWideningAssign_more_lines _ _ _ _ h0 hx' hrows hlines,
        generatorWideningAssign_more_lines _ _ _ _ h0 hx' hrows hlines]; left; rfl
    by_cases hall : numParameters (genwSelected x y) = numParameters x.minimizeGenerators.gen
    · rw [generatorWideningAssign_all_selected _ _ _ _ h0 hx' hrows hlines hall,
        generatorWideningAssign_all_selected _ _ _ _ h0 hx' hrows hlines hall]; left; rfl
    · rw [generatorWideningAssign_widened _ _ _ _ (Or.inr rfl) h0 hx' hrows hlines hall,
        generatorWideningAssign_widened _ _ _ _ (Or.inl rfl) h0 hx' hrows hlines hall]; left; rfl
  · obtain ⟨h1, h2⟩ := generatorWideningAssign_token contains x y t
    by_cases hw : (generatorWideningAssign contains x y none).2.2.2 = "widened"
    · right; exact ⟨hw, (h2 hw).1⟩
    · left; rw [h1 hw]

/-- the grid assigned to `y` (through the `const_cast`) is `y` or `y` with its generators minimised -/
theorem generatorWideningAssign_snd_cases (contains : GridM → GridM → Bool) (x y : GridM) (tp : Option Nat) :
    (generatorWideningAssign contains x y tp).2.1 = y ∨
    (generatorWideningAssign contains x y tp).2.1 = y.minimizeGenerators := by
  by_cases h0 : x.n = 0 ∨ x.empty = true ∨ y.empty = true
  · rw [generatorWideningAssign_trivial _ _ _ _ h0]; left; rfl
  by_cases hx : x.minimizeGenerators.empty = true
  · rw [generatorWideningAssign_x_empty _ _ _ _ h0 hx]; left; rfl
  have hx' : x.minimizeGenerators.empty = false := by simpa using hx
  right
  by_cases hrows : x.minimizeGenerators.gen.length > y.minimizeGenerators.gen.length
  · rw [generatorWideningAssign_more_rows _ _ _ _ h0 hx' hrows]
  by_cases hlines : numLines x.minimizeGenerators.gen > numLines y.minimizeGenerators.gen
  · rw [generatorWideningAssign_more_lines _ _ _ _ h0 hx' hrows hlines]
  by_cases hall : numParameters (genwSelected x y) = numParameters x.minimizeGenerators.gen
  · rw [generatorWideningAssign_all_selected _ _ _ _ h0 hx' hrows hlines hall]
  · rcases tp with _ | _ | t
    · rw [generatorWideningAssign_widened _ _ _ _ (Or.inl rfl) h0 hx' hrows hlines hall]
    · rw [generatorWideningAssign_widened _ _ _ _ (Or.inr rfl) h0 hx' hrows hlines hall]
    · rw [generatorWideningAssign_tokens _ _ _ _ h0 hx' hrows hlines hall]
      split <;> rfl

/-- `widening_assign` takes the generator path when a congruence system is out of date and both generator systems
    are up to date -/
theorem wideningAssign_gen (contains : GridM → GridM → Bool) (x y : GridM) (tp : Option Nat)
    (hc : ¬ (x.cgUp = true ∧ y.cgUp = true)) (hx : x.genUp = true) (hy : y.genUp = true) :
    wideningAssign contains x y tp = generatorWideningAssign contains x y tp := by
  unfold wideningAssign
  have : (x.cgUp && y.cgUp) = false := by
    cases h1 : x.cgUp <;> cases h2 : y.cgUp <;> simp_all
  simp [this, hx, hy]

/-! ### the grid built from the selected generators -/

/-- `result.add_recycled_grid_generators(ggs)` on `Grid(n, EMPTY)` with a non-empty `ggs`: the generators are the
    selected rows with their divisors normalised; only the generators are up to date -/
theorem addRecycledGridGeneratorsToEmpty_of_ne (n : Nat) (ggs : List GRow) (h : ggs ≠ []) :
    (addRecycledGridGeneratorsToEmpty n ggs).gen = (normalizeDivisors n ggs 1).1 ∧
    (addRecycledGridGeneratorsToEmpty n ggs).n = n ∧
    (addRecycledGridGeneratorsToEmpty n ggs).empty = false ∧
    (addRecycledGridGeneratorsToEmpty n ggs).genUp = true ∧
    (addRecycledGridGeneratorsToEmpty n ggs).genMin = false ∧
    (addRecycledGridGeneratorsToEmpty n ggs).cgUp = false := by
  unfold addRecycledGridGeneratorsToEmpty
  cases ggs with
  | nil => exact absurd rfl h
  | cons a l => simp [emptyGrid]

theorem addRecycledGridGeneratorsToEmpty_nil (n : Nat) : addRecycledGridGeneratorsToEmpty n [] = emptyGrid n := rfl

/-! ### examples: `x = (0,0) + ℤ(2,1) + ℚ(0,1)`, `y = (0,0) + ℤ(4,0) + ℚ(0,1)` in dimension 2, generators minimised -/

def exGenX : GridM :=
  { n := 2, empty := false, cgUp := false, cgMin := false, genUp := true, genMin := true, con := [],
    gen := [⟨false, [1, 0, 0, 0]⟩, ⟨false, [0, 2, 1, 1]⟩, ⟨true, [0, 0, 1, 0]⟩], dk := [0, 0, 1] }
def exGenY : GridM :=
  { exGenX with gen := [⟨false, [1, 0, 0, 0]⟩, ⟨false, [0, 4, 0, 1]⟩, ⟨true, [0, 0, 1, 0]⟩] }

/-- the parameter along `A` differs and becomes a line: the result is the whole plane -/
example : (generatorWideningAssign (fun _ _ => false) exGenX exGenY none).2.2.2 = "widened" := by decide +kernel
example : (generatorWideningAssign (fun _ _ => false) exGenX exGenY none).1.gen =
    [⟨false, [1, 0, 0, 0]⟩, ⟨true, [0, 2, 1, 0]⟩, ⟨true, [0, 0, 1, 0]⟩] := by decide +kernel
/-- with a token the widening is postponed and the token is used -/
example : (generatorWideningAssign (fun _ _ => false) exGenX exGenY (some 1)).2.2.1 = some 0 ∧
    (generatorWideningAssign (fun _ _ => false) exGenX exGenY (some 1)).2.2.2 = "token_used" ∧
    (generatorWideningAssign (fun _ _ => false) exGenX exGenY (some 1)).1.gen = exGenX.gen := by decide +kernel
/-- `x` has more lines than `y`: early return -/
example : (generatorWideningAssign (fun _ _ => false) exGenX
    { exGenX with gen := [⟨false, [1, 0, 0, 0]⟩, ⟨false, [0, 4, 0, 1]⟩, ⟨false, [0, 0, 3, 1]⟩], dk := [0, 0, 0] } none).2.2.2
      = "more_lines" := by decide +kernel

end PPLV.Widen.ImplGrid

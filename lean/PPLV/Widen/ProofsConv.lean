import PPLV.Widen.Model
import Mathlib.Data.Set.Basic
import Mathlib.Order.WellFounded
import Mathlib.Data.Nat.Find

/-!
# C08 — the abstract convergence theorem, the token protocol, limited / bounded extrapolation
-/
namespace PPLV.Widen

/-- A sequence that, at every step, either keeps its value or moves strictly down in a
    well-founded relation is eventually constant. -/
theorem eventually_const_of_wf {C : Type} (r : C → C → Prop) (wf : WellFounded r)
    (c : Nat → C) (step : ∀ i, c (i + 1) = c i ∨ r (c (i + 1)) (c i)) :
    ∃ N, ∀ i ≥ N, c (i + 1) = c i := by
  -- induction on the starting value, generalising the sequence
  suffices H : ∀ a : C, ∀ c : Nat → C, c 0 = a → (∀ i, c (i + 1) = c i ∨ r (c (i + 1)) (c i)) →
      ∃ N, ∀ i ≥ N, c (i + 1) = c i from H (c 0) c rfl step
  intro a
  induction a using wf.induction with
  | _ a ih =>
    intro c h0 step
    by_cases hall : ∀ i, c (i + 1) = c i
    · exact ⟨0, fun i _ => hall i⟩
    · -- the first index at which the value changes
      have hex : ∃ i, c (i + 1) ≠ c i := by
        by_contra hne
        exact hall fun i => by_contra fun h => hne ⟨i, h⟩
      classical
      let i0 := Nat.find hex
      have hi0 : c (i0 + 1) ≠ c i0 := Nat.find_spec hex
      have hbefore : ∀ j ≤ i0, c j = a := by
        intro j hj
        induction j with
        | zero => exact h0
        | succ j ihj =>
          have hlt : j < i0 := hj
          have : ¬ c (j + 1) ≠ c j := Nat.find_min hex hlt
          rw [not_not.mp this]
          exact ihj (Nat.le_of_lt hlt)
      have hdown : r (c (i0 + 1)) a := by
        rcases step i0 with h | h
        · exact absurd h hi0
        · rw [hbefore i0 (le_refl _)] at h; exact h
      obtain ⟨N, hN⟩ := ih (c (i0 + 1)) hdown (fun i => c (i0 + 1 + i)) rfl
        (fun i => by
          have := step (i0 + 1 + i)
          simpa [Nat.add_assoc] using this)
      refine ⟨i0 + 1 + N, fun i hi => ?_⟩
      have := hN (i - (i0 + 1)) (by omega)
      have e1 : i0 + 1 + (i - (i0 + 1) + 1) = i + 1 := by omega
      have e2 : i0 + 1 + (i - (i0 + 1)) = i := by omega
      rw [e1, e2] at this
      exact this

section
variable {D Pt C : Type}

/-- **Convergence against any adversary.**  `w x y` is PPL's `x.widening_assign(y)` (`x` the larger
    argument).  Whatever larger argument `z i xᵢ ⊇ xᵢ` the environment supplies at step `i`, the
    sequence `xᵢ₊₁ = w (z i xᵢ) xᵢ` becomes stationary, provided every non-stationary application
    strictly decreases a certificate that is well defined on values. -/
theorem converges_adversary (γ : D → Set Pt) (w : D → D → D) (cert : D → C)
    (r : C → C → Prop) (wf : WellFounded r)
    (hval : ∀ a b, γ a = γ b → cert a = cert b)
    (dec : ∀ x y, γ y ⊆ γ x → γ (w x y) ≠ γ y → r (cert (w x y)) (cert y))
    (x0 : D) (z : Nat → D → D) (hz : ∀ i x, γ x ⊆ γ (z i x)) :
    ∃ N, ∀ i ≥ N, γ (advSeq w x0 z (i + 1)) = γ (advSeq w x0 z i) := by
  have step : ∀ i, cert (advSeq w x0 z (i + 1)) = cert (advSeq w x0 z i) ∨
      r (cert (advSeq w x0 z (i + 1))) (cert (advSeq w x0 z i)) := by
    intro i
    by_cases h : γ (advSeq w x0 z (i + 1)) = γ (advSeq w x0 z i)
    · exact Or.inl (hval _ _ h)
    · exact Or.inr (dec _ _ (hz i _) h)
  obtain ⟨N, hN⟩ := eventually_const_of_wf r wf (fun i => cert (advSeq w x0 z i)) step
  refine ⟨N, fun i hi => ?_⟩
  by_contra h
  have hr := dec _ _ (hz i (advSeq w x0 z i)) h
  have he : cert (advSeq w x0 z (i + 1)) = cert (advSeq w x0 z i) := hN i hi
  simp only [advSeq] at he
  rw [he] at hr
  exact (wf.irrefl.irrefl _) hr

theorem iterW_eq_advSeq (join w : D → D → D) (chain : Nat → D) (i : Nat) :
    iterW join w chain i = advSeq w (chain 0) (fun i x => join x (chain (i + 1))) i := by
  induction i with
  | zero => rfl
  | succ i ih => simp only [iterW, advSeq, ih]

/-- the widened sequence covers the chain (so its limit is a post-fixpoint above every element) -/
theorem iterW_covers (γ : D → Set Pt) (join w : D → D → D)
    (hjoin : ∀ a b, γ a ⊆ γ (join a b) ∧ γ b ⊆ γ (join a b))
    (sup : ∀ x y, γ y ⊆ γ x → γ x ⊆ γ (w x y))
    (chain : Nat → D) (i : Nat) : γ (chain i) ⊆ γ (iterW join w chain i) := by
  cases i with
  | zero => exact subset_rfl
  | succ i => exact (hjoin _ _).2.trans (sup _ _ (hjoin _ _).1)

theorem iterW_mono (γ : D → Set Pt) (join w : D → D → D)
    (hjoin : ∀ a b, γ a ⊆ γ (join a b) ∧ γ b ⊆ γ (join a b))
    (sup : ∀ x y, γ y ⊆ γ x → γ x ⊆ γ (w x y))
    (chain : Nat → D) (i : Nat) : γ (iterW join w chain i) ⊆ γ (iterW join w chain (i + 1)) :=
  (hjoin _ _).1.trans (sup _ _ (hjoin _ _).1)

/-! ### tokens -/

open Classical in
/-- **Token protocol** (up to `γ`): with a token available the object is left unchanged; the token is
    consumed exactly when the plain widening would lose precision (`w x y ⊄ x`); without tokens the
    result is the plain widening. -/
theorem widenTok_spec (γ : D → Set Pt) (contains : D → D → Bool) (w : D → D → D)
    (hc : ∀ a b, contains a b = true ↔ γ b ⊆ γ a)
    (x y : D) (tp : Nat) :
    widenTok contains w x y tp =
      (if 0 < tp then (x, if γ (w x y) ⊆ γ x then tp else tp - 1) else (w x y, tp)) := by
  unfold widenTok
  by_cases ht : 0 < tp
  · by_cases hs : γ (w x y) ⊆ γ x
    · have : contains x (w x y) = true := (hc _ _).mpr hs
      simp [ht, hs, this]
    · have : contains x (w x y) = false := by
        cases hcx : contains x (w x y)
        · rfl
        · exact absurd ((hc _ _).mp hcx) hs
      simp [ht, hs, this]
  · simp [ht]

open Classical in
/-- the same, in the form of Appendix B: the *set* of the result and the token count -/
theorem widenTok_sets (γ : D → Set Pt) (contains : D → D → Bool) (w : D → D → D)
    (hc : ∀ a b, contains a b = true ↔ γ b ⊆ γ a)
    (sup : ∀ x y, γ y ⊆ γ x → γ x ⊆ γ (w x y))
    (x y : D) (hyx : γ y ⊆ γ x) (tp : Nat) :
    let r := widenTok contains w x y tp
    (0 < tp ∧ γ (w x y) ≠ γ x → r = (x, tp - 1)) ∧
    (¬ (0 < tp ∧ γ (w x y) ≠ γ x) → γ r.1 = γ (w x y) ∧ r.2 = tp) := by
  intro r
  have hr : r = _ := widenTok_spec γ contains w hc x y tp
  constructor
  · rintro ⟨ht, hne⟩
    have : ¬ γ (w x y) ⊆ γ x := fun hs => hne (Set.Subset.antisymm hs (sup x y hyx))
    rw [hr]; simp [ht, this]
  · intro hn
    by_cases ht : 0 < tp
    · have heq : γ (w x y) = γ x := by
        by_contra hne; exact hn ⟨ht, hne⟩
      rw [hr]; simp [ht, heq]
    · rw [hr]; simp [ht]

/-! ### limited and bounded extrapolation -/

/-- **Limited extrapolation lies between the larger argument and the plain widening, and keeps every
    supplied constraint that the larger argument satisfies** — for every `refine` that only removes
    points violating one of the constraints it is given; the third part speaks of the constraints that
    `refine` enforces (e.g. those the domain can express). -/
theorem limited_spec (γ : D → Set Pt) {K : Type} (csat : K → Pt → Prop)
    (sat : D → K → Bool) (refine : D → List K → D) (w : D → D → D)
    (sat_iff : ∀ a c, sat a c = true ↔ ∀ p ∈ γ a, csat c p)
    (refine_sub : ∀ a l, γ (refine a l) ⊆ γ a)
    (refine_keeps : ∀ a l p, p ∈ γ a → (∀ c ∈ l, csat c p) → p ∈ γ (refine a l))
    (sup : ∀ x y, γ y ⊆ γ x → γ x ⊆ γ (w x y))
    (x y : D) (hyx : γ y ⊆ γ x) (cs : List K) :
    γ x ⊆ γ (limited sat refine w x y cs) ∧
    γ (limited sat refine w x y cs) ⊆ γ (w x y) ∧
    (∀ c ∈ cs, (∀ p ∈ γ x, csat c p) →
      (∀ a l, c ∈ l → ∀ p ∈ γ (refine a l), csat c p) →
      ∀ p ∈ γ (limited sat refine w x y cs), csat c p) := by
  refine ⟨?_, refine_sub _ _, ?_⟩
  · intro p hp
    refine refine_keeps _ _ p (sup x y hyx hp) ?_
    intro c hc
    have := (List.mem_filter.mp hc).2
    exact (sat_iff x c).mp this p hp
  · intro c hc hsat henf p hp
    exact henf _ _ (List.mem_filter.mpr ⟨hc, (sat_iff x c).mpr hsat⟩) p hp

/-- the same for bounded extrapolation: the box constraints are satisfied by `x`, so refining with them
    keeps the result between `x` and the plain widening -/
theorem bounded_spec (γ : D → Set Pt) {K : Type} (csat : K → Pt → Prop)
    (sat : D → K → Bool) (refine : D → List K → D) (w : D → D → D) (boxCons : D → D → List K)
    (sat_iff : ∀ a c, sat a c = true ↔ ∀ p ∈ γ a, csat c p)
    (refine_sub : ∀ a l, γ (refine a l) ⊆ γ a)
    (refine_keeps : ∀ a l p, p ∈ γ a → (∀ c ∈ l, csat c p) → p ∈ γ (refine a l))
    (sup : ∀ x y, γ y ⊆ γ x → γ x ⊆ γ (w x y))
    (box_sound : ∀ x y, γ y ⊆ γ x → ∀ c ∈ boxCons x y, ∀ p ∈ γ x, csat c p)
    (x y : D) (hyx : γ y ⊆ γ x) (cs : List K) :
    γ x ⊆ γ (bounded sat refine w boxCons x y cs) ∧
    γ (bounded sat refine w boxCons x y cs) ⊆ γ (w x y) ∧
    (∀ c ∈ cs, (∀ p ∈ γ x, csat c p) →
      (∀ a l, c ∈ l → ∀ p ∈ γ (refine a l), csat c p) →
      ∀ p ∈ γ (bounded sat refine w boxCons x y cs), csat c p) := by
  obtain ⟨h1, h2, h3⟩ := limited_spec γ csat sat refine w sat_iff refine_sub refine_keeps sup x y hyx cs
  refine ⟨?_, (refine_sub _ _).trans h2, ?_⟩
  · intro p hp
    exact refine_keeps _ _ p (h1 hp) (fun c hc => box_sound x y hyx c hc p hp)
  · intro c hc hsat henf p hp
    exact h3 c hc hsat henf p (refine_sub _ _ hp)

end

/-! ### the hypothesis "the certificate is a function of the value" cannot be dropped -/

/-- elements `(value, padding)`; padding `0` is "top" -/
def cexγ (a : Nat × Nat) : Set Nat := {k | a.2 = 0 ∨ k < a.1}
def cexCert (a : Nat × Nat) : Nat := a.2
/-- a sound "widening" whose every non-stationary application decreases the padding, but which
    re-represents a stationary value with a *larger* padding -/
def cexW (x y : Nat × Nat) : Nat × Nat :=
  if y.2 = 0 then y else if x.2 = 0 then (0, 0) else if x.1 ≤ y.1 then (y.1, y.2 + 5) else (x.1, y.2 - 1)
/-- the adversary alternates: repeat the current value, then enlarge it by one -/
def cexZ (i : Nat) (x : Nat × Nat) : Nat × Nat :=
  if x.2 = 0 then x else if i % 2 = 0 then x else (x.1 + 1, 1)

theorem cex_mem (a : Nat × Nat) (k : Nat) : k ∈ cexγ a ↔ (a.2 = 0 ∨ k < a.1) := Iff.rfl

theorem cex_le_of_subset {x y : Nat × Nat} (h : cexγ y ⊆ cexγ x) (hx : x.2 ≠ 0) (hy : y.2 ≠ 0) : y.1 ≤ x.1 := by
  by_contra hlt
  have : x.1 ∈ cexγ y := (cex_mem y x.1).mpr (Or.inr (by omega))
  have := (cex_mem x x.1).mp (h this)
  omega

theorem cex_sup (x y : Nat × Nat) (h : cexγ y ⊆ cexγ x) : cexγ x ⊆ cexγ (cexW x y) := by
  intro k hk
  rw [cex_mem] at hk ⊢
  unfold cexW
  split_ifs with h1 h2 h3
  · exact Or.inl h1
  · exact Or.inl rfl
  · have := cex_le_of_subset h h2 h1
    rcases hk with hk | hk
    · exact absurd hk h2
    · exact Or.inr (by simp only; omega)
  · rcases hk with hk | hk
    · exact absurd hk h2
    · exact Or.inr hk

theorem cex_dec (x y : Nat × Nat) (_h : cexγ y ⊆ cexγ x) (hne : cexγ (cexW x y) ≠ cexγ y) :
    cexCert (cexW x y) < cexCert y := by
  unfold cexW at hne ⊢
  split_ifs at hne ⊢ with h1 h2 h3
  · exact absurd rfl hne
  · simp only [cexCert]; omega
  · exfalso; apply hne
    ext k
    simp only [cex_mem]
    constructor
    · rintro (h | h)
      · omega
      · exact Or.inr h
    · rintro (h | h)
      · exact absurd h h1
      · exact Or.inr h
  · simp only [cexCert]; omega

theorem cex_hz (i : Nat) (x : Nat × Nat) : cexγ x ⊆ cexγ (cexZ i x) := by
  intro k hk
  rw [cex_mem] at hk ⊢
  unfold cexZ
  split_ifs with h1 h2
  · exact Or.inl h1
  · exact hk
  · rcases hk with hk | hk
    · exact absurd hk h1
    · exact Or.inr (by simp only; omega)

theorem cex_step_even (i k p : Nat) (hp : p ≠ 0) (hi : i % 2 = 0) :
    cexW (cexZ i (k, p)) (k, p) = (k, p + 5) := by
  have hz : cexZ i (k, p) = (k, p) := by simp [cexZ, hp, hi]
  rw [hz]
  simp [cexW, hp]

theorem cex_step_odd (i k p : Nat) (hp : p ≠ 0) (hi : i % 2 = 1) :
    cexW (cexZ i (k, p)) (k, p) = (k + 1, p - 1) := by
  have hz : cexZ i (k, p) = (k + 1, 1) := by simp [cexZ, hp, hi]
  rw [hz]
  simp [cexW, hp]

theorem cex_seq (k : Nat) :
    advSeq cexW (0, 1) cexZ (2 * k) = (k, 1 + 4 * k) ∧
    advSeq cexW (0, 1) cexZ (2 * k + 1) = (k, 6 + 4 * k) := by
  induction k with
  | zero =>
    refine ⟨rfl, ?_⟩
    show cexW (cexZ 0 (0, 1)) (0, 1) = _
    rw [cex_step_even 0 0 1 (by omega) (by omega)]
  | succ k ih =>
    obtain ⟨_, ih2⟩ := ih
    have e1 : advSeq cexW (0, 1) cexZ (2 * (k + 1)) = (k + 1, 1 + 4 * (k + 1)) := by
      have : 2 * (k + 1) = (2 * k + 1) + 1 := by omega
      rw [this, advSeq, ih2, cex_step_odd _ _ _ (by omega) (by omega)]
      congr 1
      omega
    refine ⟨e1, ?_⟩
    rw [advSeq, e1, cex_step_even _ _ _ (by omega) (by omega)]
    congr 1
    omega

/-- **Without `hval` the convergence statement is false**: all other hypotheses hold for `cexW`, yet the
    widened sequence changes its value at every other step for ever. -/
theorem converges_needs_hval :
    (∀ x y, cexγ y ⊆ cexγ x → cexγ x ⊆ cexγ (cexW x y)) ∧
    (∀ x y, cexγ y ⊆ cexγ x → cexγ (cexW x y) ≠ cexγ y → cexCert (cexW x y) < cexCert y) ∧
    (∀ i x, cexγ x ⊆ cexγ (cexZ i x)) ∧
    ¬ ∃ N, ∀ i ≥ N, cexγ (advSeq cexW (0, 1) cexZ (i + 1)) = cexγ (advSeq cexW (0, 1) cexZ i) := by
  refine ⟨cex_sup, cex_dec, cex_hz, ?_⟩
  rintro ⟨N, hN⟩
  have h := hN (2 * N + 1) (by omega)
  have e1 : 2 * N + 1 + 1 = 2 * (N + 1) := by omega
  rw [e1, (cex_seq (N + 1)).1, (cex_seq N).2] at h
  have : N ∈ cexγ (N + 1, 1 + 4 * (N + 1)) := (cex_mem _ _).mpr (Or.inr (by simp))
  rw [h] at this
  have := (cex_mem _ _).mp this
  simp at this

end PPLV.Widen

import PPLV.Widen.ImplShapeProofsLimBD
import PPLV.Widen.ImplShapeProofsContains2
/-!
# `limited_CC76_extrapolation_assign` / `limited_BHMZ05_extrapolation_assign` of `BD_Shape`

Object level, relative to the closed receiver `Xc := bdClosureAssign up n X` (the `*this` that
`get_limiting_shape` leaves behind, `BD_Shape_templates.hh:3205`).
-/
namespace PPLV.Widen
open PPLV.WR
open PPLV.WR.ExtRat (fin pinf le_rfl' le_trans' le_total' le_pinf)

/-- `P` has the emptiness flag of `Xc` and every cell at or above that of `Xc` -/
def BDS.Dom (Xc P : BDS) : Prop := P.empty = Xc.empty ∧ ∀ a b, Xc.dbm a b ≤ P.dbm a b

theorem BDS.Dom.refl (s : BDS) : BDS.Dom s s := ⟨rfl, fun _ _ => le_rfl' _⟩

/-! ## the plain widenings dominate the closed receiver -/

theorem bdCC76_dom {up : Rat → ExtRat} (hup : ∀ q, fin q ≤ up q) (n : Nat) (stops : List Rat) (Xc Y : BDS)
    (tp : Option Nat) (hfix : bdClosureAssign up n Xc = Xc) : BDS.Dom Xc (bdCC76 up n stops Xc Y tp).1 := by
  rcases bdCC76_fst_cases up n stops Xc Y tp with h | ⟨_, _, _, _, h⟩
  · rw [h, hfix]; exact .refl _
  · rw [h, bdCC76Widened, hfix]
    refine ⟨rfl, fun a b => ?_⟩
    show Xc.dbm a b ≤ bdCC76Loops up stops n Xc.dbm _ a b
    rw [bdCC76Loops_apply]
    split
    · exact le_cc76Cell hup _ _ _
    · exact le_rfl' _

theorem bdBHMZ05_dom (up : Rat → ExtRat) (n : Nat) (Xc Y : BDS) (tp : Option Nat)
    (hfix : bdClosureAssign up n Xc = Xc) (P : BDS × BDS × Option Nat) (hP : bdBHMZ05 up n Xc Y tp = some P) :
    BDS.Dom Xc P.1 := by
  obtain ⟨X', Y', tp'⟩ := P
  rcases bdBHMZ05_fst_cases hP with h | h | ⟨_, h, _⟩
  · rw [h]; exact .refl _
  · rw [h, hfix]; exact .refl _
  · rw [h, bdBHMZ05Widened, hfix]
    refine ⟨rfl, fun a b => ?_⟩
    show Xc.dbm a b ≤ bdBHMZ05Loops n Xc.dbm _ _ a b
    rw [bdBHMZ05Loops_apply]
    split
    · exact le_bhmz05Cell _ _ _
    · exact le_rfl' _

/-! ## `intersection_assign` -/

theorem bdIntersectionAssign_spec (n : Nat) (P ls : BDS) (hls : ls.empty = false) :
    (bdIntersectionAssign n P ls).empty = P.empty ∧
    ∀ a b, (bdIntersectionAssign n P ls).dbm a b
      = if P.empty = false ∧ n ≠ 0 ∧ a < n + 1 ∧ b < n + 1 then minCell (P.dbm a b) (ls.dbm a b) else P.dbm a b := by
  unfold bdIntersectionAssign
  by_cases h1 : P.empty = true
  · simp [h1]
  · have h1' : P.empty = false := by cases h : P.empty <;> simp_all
    by_cases h0 : n = 0
    · simp [h1', hls, h0]
    · simp only [h1', hls, h0, if_false, Bool.false_eq_true]
      constructor
      · split <;> simp [BDS.resetClosed]
      · intro a b
        have := bdIntersection_loops_apply n P.dbm ls.dbm a b
        split
        · simp only [BDS.resetClosed]
          rw [this]; simp [h0]
        · simp only
          rw [this]; simp [h0]

/-- the core of both limited extrapolations: intersecting something that dominates `Xc` with a limiting shape
that dominates `Xc` -/
theorem bdLimited_core (n : Nat) (Xc P ls : BDS) (hP : BDS.Dom Xc P) (hls : ls.empty = false)
    (hdom : ∀ a b, Xc.dbm a b ≤ ls.dbm a b) :
    (bdIntersectionAssign n P ls).empty = Xc.empty ∧
    (∀ a b, Xc.dbm a b ≤ (bdIntersectionAssign n P ls).dbm a b) ∧
    (∀ a b, (bdIntersectionAssign n P ls).dbm a b ≤ P.dbm a b) ∧
    (Xc.empty = false → n ≠ 0 → ∀ a b, a ≤ n → b ≤ n → (bdIntersectionAssign n P ls).dbm a b ≤ ls.dbm a b) := by
  obtain ⟨he, hc⟩ := bdIntersectionAssign_spec n P ls hls
  refine ⟨he.trans hP.1, fun a b => ?_, fun a b => ?_, fun hne h0 a b ha hb => ?_⟩
  · rw [hc]; split
    · exact le_minCell (hP.2 a b) (hdom a b)
    · exact hP.2 a b
  · rw [hc]; split
    · exact minCell_le_left _ _
    · exact le_rfl' _
  · rw [hc, if_pos ⟨hP.1.trans hne, h0, by omega, by omega⟩]
    exact minCell_le_right _ _

/-! ## `get_limiting_shape` -/

theorem bdGetLimitingShape_fst (up : Rat → ExtRat) (n csd : Nat) (cs : List LimCon) (x ls : BDS) :
    (bdGetLimitingShape up n csd cs x ls).1 = bdClosureAssign up n x := rfl

theorem bdGetLimitingShape_empty (up : Rat → ExtRat) (n csd : Nat) (cs : List LimCon) (x ls : BDS) :
    (bdGetLimitingShape up n csd cs x ls).2.empty = ls.empty := by
  unfold bdGetLimitingShape; simp only; split <;> rfl

theorem bdGetLimitingShape_dbm (up : Rat → ExtRat) (n csd : Nat) (cs : List LimCon) (x ls : BDS) :
    (bdGetLimitingShape up n csd cs x ls).2.dbm
      = (cs.foldl (bdLimitStep up csd (bdClosureAssign up n x).dbm) (ls.dbm, false)).1 := by
  unfold bdGetLimitingShape; simp only; split <;> rfl

/-- the limiting shape built from the universe dominates the closed receiver, cell by cell -/
theorem bdGetLimitingShape_dom (up : Rat → ExtRat) (n csd : Nat) (cs : List LimCon) (x : BDS) :
    ∀ a b, (bdClosureAssign up n x).dbm a b ≤ (bdGetLimitingShape up n csd cs x BDS.univ).2.dbm a b := by
  rw [bdGetLimitingShape_dbm]
  exact bdLimitFold_dom up csd _ cs _ (fun a b => le_pinf _)

/-- at matrix level the limiting shape keeps every selected inequality that the closed receiver satisfies -/
theorem bdGetLimitingShape_keeps (up : Rat → ExtRat) (n csd : Nat) (cs : List LimCon) (x ls : BDS)
    (c : LimCon) (hc : c ∈ cs) (hsel : bdLimSel csd c = true) (hineq : c.isEq = false)
    (hx : (bdClosureAssign up n x).dbm (bdLimCell csd c).1 (bdLimCell csd c).2 ≤ bdLimBound up csd c) :
    (bdGetLimitingShape up n csd cs x ls).2.dbm (bdLimCell csd c).1 (bdLimCell csd c).2 ≤ bdLimBound up csd c := by
  rw [bdGetLimitingShape_dbm]
  exact bdLimitFold_keeps_ineq up csd _ cs _ c hc hsel hineq hx

/-! ## the limited extrapolations, unfolded -/

theorem bdLimitedCC76_early (up : Rat → ExtRat) (n csd : Nat) (cs : List LimCon) (X Y : BDS) (tp : Option Nat)
    (h : n = 0 ∨ X.empty = true ∨ Y.empty = true) :
    (bdLimitedCC76 up n csd cs X Y tp).1 = X := by
  unfold bdLimitedCC76
  rcases h with h | h | h
  · simp [h]
  · split; rfl; simp
  · split; rfl; split; rfl; simp

theorem bdLimitedCC76_eq (up : Rat → ExtRat) (n csd : Nat) (cs : List LimCon) (X Y : BDS) (tp : Option Nat)
    (hn : n ≠ 0) (hx : X.empty = false) (hy : Y.empty = false) :
    (bdLimitedCC76 up n csd cs X Y tp).1 =
      bdIntersectionAssign n (bdCC76 up n defaultStops (bdClosureAssign up n X) Y tp).1
        (bdGetLimitingShape up n csd cs X BDS.univ).2 := by
  unfold bdLimitedCC76
  simp only [hn, hx, hy, if_false, Bool.false_eq_true]
  rfl

theorem bdLimitedBHMZ05_early (up : Rat → ExtRat) (n csd : Nat) (cs : List LimCon) (X Y : BDS) (tp : Option Nat)
    (h : n = 0 ∨ X.empty = true ∨ Y.empty = true) :
    ∃ r, bdLimitedBHMZ05 up n csd cs X Y tp = some r ∧ r.1 = X := by
  unfold bdLimitedBHMZ05
  by_cases hn : n = 0
  · rw [if_pos hn]; exact ⟨_, rfl, rfl⟩
  by_cases hx : X.empty = true
  · rw [if_neg hn, if_pos hx]; exact ⟨_, rfl, rfl⟩
  · rw [if_neg hn, if_neg hx, if_pos ((h.resolve_left hn).resolve_left hx)]; exact ⟨_, rfl, rfl⟩

theorem bdLimitedBHMZ05_eq (up : Rat → ExtRat) (n csd : Nat) (cs : List LimCon) (X Y : BDS) (tp : Option Nat)
    (hn : n ≠ 0) (hx : X.empty = false) (hy : Y.empty = false) (r : BDS × BDS × Option Nat × Mat)
    (hr : bdLimitedBHMZ05 up n csd cs X Y tp = some r) :
    ∃ P, bdBHMZ05 up n (bdClosureAssign up n X) Y tp = some P ∧
      r.1 = bdIntersectionAssign n P.1 (bdGetLimitingShape up n csd cs X BDS.univ).2 := by
  unfold bdLimitedBHMZ05 at hr
  simp only [hn, hx, hy, if_false, Bool.false_eq_true] at hr
  change Option.map _ (bdBHMZ05 up n (bdClosureAssign up n X) Y tp) = some r at hr
  cases hP : bdBHMZ05 up n (bdClosureAssign up n X) Y tp with
  | none => rw [hP] at hr; simp at hr
  | some P =>
    rw [hP] at hr
    simp only [Option.map_some] at hr
    injection hr with hr
    subst hr
    exact ⟨P, rfl, rfl⟩

end PPLV.Widen

import PPLV.Widen.ImplH79ProofsEngine0
import PPLV.Widen.ImplH79Proofs

/-!
# an engine-minimised closed system holds at most one tautology

From `EngineDD.irred` (every inequality has a vector violating only it) and `EngineDD.eqIndep` (no zero
equality row): two tautological inequalities `(c, 0 … 0)`, `(c', 0 … 0)` cannot both be irredundant, and the
row `0 = 0` is linearly dependent.
-/
namespace PPLV.Widen.Impl

theorem sp_zeros_left (e v : Vec) (h : e.all (· == 0) = true) : sp e v = 0 := by
  induction e generalizing v with
  | nil => cases v <;> simp [sp]
  | cons a as ih =>
    simp only [List.all_cons, Bool.and_eq_true, beq_iff_eq] at h
    cases v with
    | nil => simp [sp]
    | cons b bs => simp [sp, h.1, ih bs h.2]

theorem sp_allHomZero (e v : Vec) (h : allHomZero e = true) : sp e v = e.headD 0 * v.headD 0 := by
  cases e with
  | nil => cases v <;> simp [sp]
  | cons a as =>
    cases v with
    | nil => simp [sp]
    | cons b bs =>
      simp only [allHomZero, List.tail_cons] at h
      simp [sp, sp_zeros_left as bs h]

theorem exists_of_filter_pos {α : Type} [Inhabited α] (p : α → Bool) (l : List α)
    (h : 1 ≤ (l.filter p).length) : ∃ i, i < l.length ∧ p (l.getD i default) = true := by
  have hne : l.filter p ≠ [] := by intro h0; rw [h0] at h; simp at h
  obtain ⟨c, hc⟩ := List.exists_mem_of_ne_nil _ hne
  obtain ⟨hcl, hpc⟩ := List.mem_filter.mp hc
  obtain ⟨i, hi, rfl⟩ := List.getElem_of_mem hcl
  exact ⟨i, hi, by rw [List.getD_eq_getElem _ _ hi]; exact hpc⟩

/-- two positions of a list whose filter has at least two elements -/
theorem two_of_filter {α : Type} [Inhabited α] (p : α → Bool) (l : List α) (h : 2 ≤ (l.filter p).length) :
    ∃ i k, i < l.length ∧ k < l.length ∧ i ≠ k ∧ p (l.getD i default) = true ∧ p (l.getD k default) = true := by
  induction l with
  | nil => simp at h
  | cons a t ih =>
    by_cases hpa : p a = true
    · rw [List.filter_cons_of_pos hpa, List.length_cons] at h
      obtain ⟨k, hk, hpk⟩ := exists_of_filter_pos p t (by omega)
      exact ⟨0, k + 1, by simp, by simp; omega, by omega, by simpa using hpa, by simpa using hpk⟩
    · rw [List.filter_cons_of_neg hpa] at h
      obtain ⟨i, k, hi, hk, hik, hpi, hpk⟩ := ih h
      exact ⟨i + 1, k + 1, by simp; omega, by simp; omega, by omega, by simpa using hpi, by simpa using hpk⟩

/-- **at most one tautology** in an engine-minimised closed system -/
theorem oneTaut_of_engine (n : Nat) (y : YMin) (hy : EngineDD n y) :
    (y.conSys.filter (·.isTautological false)).length ≤ 1 := by
  by_contra hcon
  obtain ⟨i, k, hi, hk, hik, hti, htk⟩ := two_of_filter (·.isTautological false) y.conSys (by omega)
  -- a tautological row is not an equality (the zero equality is linearly dependent)
  have noEq : ∀ j, j < y.conSys.length → (y.conSys.getD j default).isTautological false = true →
      (y.conSys.getD j default).eq = false := by
    intro j hj ht
    by_contra he
    have he : (y.conSys.getD j default).eq = true := by simpa using he
    have hcm : y.conSys.getD j default ∈ y.conSys.filter (·.eq) := by
      refine List.mem_filter.mpr ⟨?_, he⟩
      rw [List.getD_eq_getElem _ _ hj]; exact List.getElem_mem hj
    generalize y.conSys.getD j default = c at ht he hcm
    obtain ⟨m, hm, hmc⟩ := List.getElem_of_mem hcm
    have hz : ∀ t, c.e.getD t 0 = 0 := by
      intro t
      unfold CRow.isTautological at ht
      by_cases hh : allHomZero c.e = true
      · simp only [hh, if_true, he] at ht
        have h0 : c.e.headD 0 = 0 := by simpa using ht
        cases hce : c.e with
        | nil => simp
        | cons a as =>
          rw [hce] at hh h0
          simp only [allHomZero, List.tail_cons] at hh
          simp only [List.headD_cons] at h0
          cases t with
          | zero => simpa using h0
          | succ t =>
            simp only [List.getD_cons_succ]
            rw [List.getD_eq_getElem?_getD]
            cases hg : as[t]? with
            | none => simp
            | some b =>
              have hb : b ∈ as := List.mem_of_getElem? hg
              have := (List.all_eq_true.mp hh) b hb
              simpa using this
      · simp [hh] at ht
    have := hy.eqIndep (fun t => if t = m then 1 else 0) (by
      intro col _
      rw [Finset.sum_eq_single m]
      · have : (y.conSys.filter (·.eq)).getD m default = c := by
          rw [List.getD_eq_getElem _ _ hm]; exact hmc
        simp only [this, hz col, Int.cast_zero, mul_zero]
      · intro b _ hb; simp [hb]
      · intro hnm; exact absurd (Finset.mem_range.mpr hm) hnm) m hm
    simp at this
  have hei := noEq i hi hti
  have hek := noEq k hk htk
  -- shape of a tautological inequality: all homogeneous terms zero, head ≥ 0
  have shape : ∀ j, (y.conSys.getD j default).isTautological false = true → (y.conSys.getD j default).eq = false →
      allHomZero (y.conSys.getD j default).e = true ∧ 0 ≤ (y.conSys.getD j default).e.headD 0 := by
    intro j ht he
    unfold CRow.isTautological at ht
    by_cases hh : allHomZero (y.conSys.getD j default).e = true
    · simp only [hh, if_true, he] at ht
      exact ⟨hh, by simpa using ht⟩
    · rw [if_neg hh] at ht
      simp at ht
  obtain ⟨hzi, hci⟩ := shape i hti hei
  obtain ⟨hzk, hck⟩ := shape k htk hek
  obtain ⟨v, _, hothers, hviol⟩ := hy.irred i hi hei
  have hkv := hothers k hk (Ne.symm hik)
  unfold CRow.holdsZ at hviol hkv
  rw [hei] at hviol; rw [hek] at hkv
  simp only [Bool.false_eq_true, if_false, sp_allHomZero _ _ hzi, not_le] at hviol
  simp only [Bool.false_eq_true, if_false, sp_allHomZero _ _ hzk] at hkv
  -- c_i * v0 < 0 with c_i ≥ 0 gives v0 < 0 and c_i > 0; then c_k * v0 ≥ 0 with c_k ≥ 0 gives c_k = 0
  have hv0 : v.headD 0 < 0 := by
    by_contra h
    have h1 := Int.mul_nonneg hci (not_lt.mp h)
    exact absurd h1 (not_le.mpr hviol)
  have hck0 : (y.conSys.getD k default).e.headD 0 = 0 := by
    by_contra h
    have hpos : 0 < (y.conSys.getD k default).e.headD 0 := by omega
    have := Int.mul_neg_of_pos_of_neg hpos hv0
    omega
  -- but then row k is `0 ≥ 0`, which no vector violates
  obtain ⟨w, _, _, hviolk⟩ := hy.irred k hk hek
  unfold CRow.holdsZ at hviolk
  rw [hek] at hviolk
  simp only [Bool.false_eq_true, if_false, not_le] at hviolk
  rw [sp_allHomZero _ _ hzk, hck0] at hviolk
  simp at hviolk

end PPLV.Widen.Impl

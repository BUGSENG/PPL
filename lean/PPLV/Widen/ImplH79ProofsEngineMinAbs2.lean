import PPLV.Widen.ImplH79ProofsEngineMinAbs0
import Mathlib.LinearAlgebra.Dimension.Constructions
import Mathlib.LinearAlgebra.Dimension.Finite
import Mathlib.SetTheory.Cardinal.Finite
import Mathlib.Data.Fintype.Card

/-!
# the abstract counting argument: the equalities (`e ≤ #vanishing rows`) and the assembly
-/
namespace PPLV.Widen.Impl.Abs

open Classical

variable {V : Type*} [AddCommGroup V] [Module ℚ V]

/-! ## small facts on `Holds` and `InK` -/

theorem holds_nonneg {d : Bool × (V →ₗ[ℚ] ℚ)} {v : V} (h : Holds d v) : 0 ≤ d.2 v := by
  unfold Holds at h
  cases hb : d.1 <;> simp [hb] at h
  · exact h
  · exact h.ge

theorem holds_of_zero {d : Bool × (V →ₗ[ℚ] ℚ)} {v : V} (h : d.2 v = 0) : Holds d v := by
  unfold Holds
  cases hb : d.1 <;> simp [h]

theorem holds_of_false {d : Bool × (V →ₗ[ℚ] ℚ)} {v : V} (hb : d.1 = false) (h : 0 ≤ d.2 v) :
    Holds d v := by
  unfold Holds
  simp [hb, h]

theorem eq_zero_of_holds_true {d : Bool × (V →ₗ[ℚ] ℚ)} {v : V} (hb : d.1 = true) (h : Holds d v) :
    d.2 v = 0 := by
  unfold Holds at h
  simpa [hb] using h

theorem inK_add {e f : ℕ} {A : Fin e → V →ₗ[ℚ] ℚ} {C : Fin f → V →ₗ[ℚ] ℚ} {u v : V}
    (hu : InK A C u) (hv : InK A C v) : InK A C (u + v) := by
  refine ⟨fun i => ?_, fun j => ?_⟩
  · rw [map_add, hu.1 i, hv.1 i, add_zero]
  · rw [map_add]; exact add_nonneg (hu.2 j) (hv.2 j)

/-! ## S1: the threshold lemma -/

theorem threshold {ι : Type*} (S : Finset ι) (s t : ι → ℚ) (hs : ∀ i ∈ S, 0 < s i) (M0 : ℚ) :
    ∃ M : ℚ, 0 < M ∧ M0 ≤ M ∧ ∀ i ∈ S, 0 ≤ M * s i + t i := by
  induction S using Finset.induction_on with
  | empty =>
    refine ⟨max M0 1, ?_, le_max_left _ _, ?_⟩
    · exact lt_of_lt_of_le one_pos (le_max_right _ _)
    · intro i hi; simp at hi
  | insert a S ha ih =>
    obtain ⟨M, hM, hM0, hall⟩ := ih (fun i hi => hs i (Finset.mem_insert_of_mem hi))
    have hsa : 0 < s a := hs a (Finset.mem_insert_self a S)
    refine ⟨max M (-(t a) / s a), lt_of_lt_of_le hM (le_max_left _ _),
      le_trans hM0 (le_max_left _ _), ?_⟩
    intro i hi
    rcases Finset.mem_insert.1 hi with rfl | hi
    · have h1 : -(t i) / s i * s i = -(t i) := div_mul_cancel₀ _ hsa.ne'
      have h2 : -(t i) / s i * s i ≤ max M (-(t i) / s i) * s i :=
        mul_le_mul_of_nonneg_right (le_max_right _ _) hsa.le
      linarith
    · have hsi : 0 < s i := hs i (Finset.mem_insert_of_mem hi)
      have h2 : M * s i ≤ max M (-(t a) / s a) * s i :=
        mul_le_mul_of_nonneg_right (le_max_left _ _) hsi.le
      have := hall i hi
      linarith

theorem threshold_strict (s t : ℚ) (hs : 0 < s) : ∃ M0 : ℚ, ∀ M, M0 ≤ M → 0 < M * s + t := by
  refine ⟨(1 - t) / s, fun M hM => ?_⟩
  have h1 : (1 - t) / s * s = 1 - t := div_mul_cancel₀ _ hs.ne'
  have h2 : (1 - t) / s * s ≤ M * s := mul_le_mul_of_nonneg_right hM hs.le
  linarith

section
variable {x0 : V →ₗ[ℚ] ℚ} {e f m : ℕ}
  {A : Fin e → V →ₗ[ℚ] ℚ} {C : Fin f → V →ₗ[ℚ] ℚ} {D : Fin m → Bool × (V →ₗ[ℚ] ℚ)}

/-! ## S2: a non-vanishing row is an inequality row, strict somewhere in the cone -/

theorem nonvanish_witness (h : Setup x0 A C D) {i : Fin m} (hi : ¬ Vanish x0 A C (D i).2) :
    (D i).1 = false ∧ ∃ p, 0 < x0 p ∧ InK A C p ∧ 0 < (D i).2 p := by
  unfold Vanish at hi
  push Not at hi
  obtain ⟨v, hv, hK, hne⟩ := hi
  have hH : Holds (D i) v := (h.same v hv).1 hK i
  have hb : (D i).1 = false := by
    cases hb : (D i).1
    · rfl
    · exact absurd (eq_zero_of_holds_true hb hH) hne
  exact ⟨hb, v, hv, hK, lt_of_le_of_ne (holds_nonneg hH) (Ne.symm hne)⟩

/-- every row is nonnegative on the cone inside the half space -/
theorem row_nonneg (h : Setup x0 A C D) {v : V} (hv : 0 < x0 v) (hK : InK A C v) (i : Fin m) :
    0 ≤ (D i).2 v :=
  holds_nonneg ((h.same v hv).1 hK i)

/-! ## S3: a vector of the cone at which every non-vanishing row is strict -/

theorem exists_strict_on (h : Setup x0 A C D) (S : Finset (Fin m)) :
    ∃ p, 0 < x0 p ∧ InK A C p ∧ ∀ i ∈ S, ¬ Vanish x0 A C (D i).2 → 0 < (D i).2 p := by
  induction S using Finset.induction_on with
  | empty =>
    obtain ⟨p, hp, hA, hC⟩ := h.pstar
    exact ⟨p, hp, ⟨hA, fun j => (hC j).le⟩, fun i hi => by simp at hi⟩
  | insert a S ha ih =>
    obtain ⟨p, hp, hK, hall⟩ := ih
    by_cases hva : Vanish x0 A C (D a).2
    · refine ⟨p, hp, hK, fun i hi hnv => ?_⟩
      rcases Finset.mem_insert.1 hi with rfl | hi
      · exact absurd hva hnv
      · exact hall i hi hnv
    · obtain ⟨_, q, hq, hqK, hqa⟩ := nonvanish_witness h hva
      refine ⟨p + q, ?_, inK_add hK hqK, fun i hi hnv => ?_⟩
      · rw [map_add]; exact add_pos hp hq
      · rw [map_add]
        rcases Finset.mem_insert.1 hi with rfl | hi
        · exact add_pos_of_nonneg_of_pos (row_nonneg h hp hK i) hqa
        · exact add_pos_of_pos_of_nonneg (hall i hi hnv) (row_nonneg h hq hqK i)

theorem exists_pcirc (h : Setup x0 A C D) :
    ∃ p, 0 < x0 p ∧ InK A C p ∧ (∀ i, ¬ Vanish x0 A C (D i).2 → 0 < (D i).2 p) ∧
      ∀ i, Vanish x0 A C (D i).2 → (D i).2 p = 0 := by
  obtain ⟨p, hp, hK, hall⟩ := exists_strict_on h Finset.univ
  exact ⟨p, hp, hK, fun i hnv => hall i (Finset.mem_univ i) hnv, fun i hv => hv p hp hK⟩

/-! ## S4: the vanishing rows cut out (a subspace of) the kernel of every equality -/

theorem eq_zero_of_vanishing_rows (h : Setup x0 A C D) {l : V}
    (hl : ∀ i, Vanish x0 A C (D i).2 → (D i).2 l = 0) (a : Fin e) : A a l = 0 := by
  obtain ⟨p, hp, hK, hpos, hzero⟩ := exists_pcirc h
  obtain ⟨M0, hM0⟩ := threshold_strict (x0 p) (x0 l) hp
  obtain ⟨M, hM, hMM0, hall⟩ := threshold (Finset.univ : Finset (Fin m))
    (fun i => if Vanish x0 A C (D i).2 then 1 else (D i).2 p)
    (fun i => if Vanish x0 A C (D i).2 then 0 else (D i).2 l)
    (fun i _ => by
      by_cases hv : Vanish x0 A C (D i).2
      · simp only [if_pos hv]; exact one_pos
      · simp only [if_neg hv]; exact hpos i hv) M0
  have hx : 0 < x0 (M • p + l) := by
    rw [map_add, map_smul, smul_eq_mul]; exact hM0 M hMM0
  have hrows : ∀ i, Holds (D i) (M • p + l) := by
    intro i
    by_cases hv : Vanish x0 A C (D i).2
    · apply holds_of_zero
      rw [map_add, map_smul, smul_eq_mul, hzero i hv, hl i hv, mul_zero, add_zero]
    · apply holds_of_false (nonvanish_witness h hv).1
      have := hall i (Finset.mem_univ i)
      simp only [if_neg hv] at this
      rw [map_add, map_smul, smul_eq_mul]; exact this
  have hKv : InK A C (M • p + l) := (h.same _ hx).2 hrows
  have h1 := hKv.1 a
  rw [map_add, map_smul, smul_eq_mul, hK.1 a, mul_zero, zero_add] at h1
  exact h1

/-! ## S5: every equality is in the span of the vanishing rows; the count -/

theorem A_mem_span (h : Setup x0 A C D) (a : Fin e) :
    A a ∈ Submodule.span ℚ
      (Set.range fun i : {i : Fin m // Vanish x0 A C (D i).2} => (D i.1).2) := by
  apply mem_span_of_iInf_ker_le_ker
  intro l hl
  rw [Submodule.mem_iInf] at hl
  rw [LinearMap.mem_ker]
  exact eq_zero_of_vanishing_rows h (fun i hv => LinearMap.mem_ker.1 (hl ⟨i, hv⟩)) a

theorem span_A_le (h : Setup x0 A C D) :
    Submodule.span ℚ (Set.range A) ≤ Submodule.span ℚ
      (Set.range fun i : {i : Fin m // Vanish x0 A C (D i).2} => (D i.1).2) := by
  rw [Submodule.span_le]
  rintro _ ⟨a, rfl⟩
  exact A_mem_span h a

theorem eqs_count_fintype (h : Setup x0 A C D) (hA : LinearIndependent ℚ A) :
    e ≤ Fintype.card {i : Fin m // Vanish x0 A C (D i).2} := by
  have h1 : Module.finrank ℚ (Submodule.span ℚ (Set.range A)) = e := by
    rw [finrank_span_eq_card hA, Fintype.card_fin]
  have hfin : Module.Finite ℚ (Submodule.span ℚ
      (Set.range fun i : {i : Fin m // Vanish x0 A C (D i).2} => (D i.1).2)) :=
    Module.Finite.span_of_finite ℚ (Set.finite_range _)
  have h2 := Submodule.finrank_mono (span_A_le h)
  have h3 : Module.finrank ℚ (Submodule.span ℚ
      (Set.range fun i : {i : Fin m // Vanish x0 A C (D i).2} => (D i.1).2)) ≤
      Fintype.card {i : Fin m // Vanish x0 A C (D i).2} :=
    finrank_range_le_card (R := ℚ) _
  omega

theorem eqs_count (h : Setup x0 A C D) (hA : LinearIndependent ℚ A) :
    e ≤ Nat.card {i : Fin m // Vanish x0 A C (D i).2} := by
  rw [Nat.card_eq_fintype_card]
  exact eqs_count_fintype h hA

/-! ## the assembly -/

theorem facets_count
    (hσ : ∃ σ : Fin f → Fin m, Function.Injective σ ∧ ∀ j, ¬ Vanish x0 A C (D (σ j)).2) :
    f ≤ Fintype.card {i : Fin m // ¬ Vanish x0 A C (D i).2} := by
  obtain ⟨σ, hinj, hnv⟩ := hσ
  have := Fintype.card_le_of_injective
    (fun j : Fin f => (⟨σ j, hnv j⟩ : {i : Fin m // ¬ Vanish x0 A C (D i).2}))
    (fun j k hjk => hinj (congrArg Subtype.val hjk))
  rwa [Fintype.card_fin] at this

theorem count_total (h : Setup x0 A C D) (hA : LinearIndependent ℚ A)
    (hσ : ∃ σ : Fin f → Fin m, Function.Injective σ ∧ ∀ j, ¬ Vanish x0 A C (D (σ j)).2) :
    e + f ≤ m := by
  have h1 := eqs_count_fintype h hA
  have h2 := facets_count (x0 := x0) (A := A) (C := C) (D := D) hσ
  have h3 := Fintype.card_subtype_compl (fun i : Fin m => Vanish x0 A C (D i).2)
  have h4 := Fintype.card_subtype_le (fun i : Fin m => Vanish x0 A C (D i).2)
  rw [Fintype.card_fin] at h3 h4
  omega

end

end PPLV.Widen.Impl.Abs

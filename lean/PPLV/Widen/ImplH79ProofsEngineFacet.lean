import PPLV.Widen.ImplH79ProofsEngineFacet2

/-!
# `MinimalDD.hfacet` derived from the engine contract `EngineDD`

`hfacet_of_engine`: a constraint valid on the point set and saturated by exactly the generators that
saturate a non-tautological row `cj` of the minimised system coincides with `cj` wherever the
equalities of the system hold.  Besides `EngineDD` the derivation uses `GPos`: column 0 of a generator
row is `0` for a line and `≥ 0` for rays and points (true of every `Generator_System` of a closed
polyhedron: divisor of a point `> 0`, rays and lines `0`); `EngineDD` itself does not say it.
-/
namespace PPLV.Widen.Impl

theorem hfacet_of_engine (n : Nat) (y : YMin) (hy : EngineDD n y) (hgp : GPos y) :
    ∀ ci : CRow, ci.e.length = n + 1 →
    (∀ p ∈ den false n y.conSys, ci.holds (hom n p 0)) →
    ∀ cj ∈ y.conSys, cj.isTautological false = false → satRow ci y.genSys = satRow cj y.genSys →
    ∀ p : Pt, SatRows (y.conSys.filter (·.eq)) (hom n p 0) →
      (ci.holds (hom n p 0) ↔ cj.holds (hom n p 0)) := by
  intro ci hci hval cj hcj _ hsatrow p hpE
  obtain ⟨d, v, hrep⟩ := exists_repZ_of_pt n p
  have hvE : InE n y v := by
    refine ⟨hrep.2.1, fun c hc he => ?_⟩
    have h1 := (holds_iff_holdsZ hrep c (le_of_eq (hy.wf c hc))).mp
      (hpE c (List.mem_filter.mpr ⟨hc, he⟩))
    exact (holdsZ_eq he v).mp h1
  obtain ⟨ha, haeq⟩ := ci_validG hy hgp ci hci hval
  rw [holds_iff_holdsZ hrep ci (le_of_eq hci), holds_iff_holdsZ hrep cj (le_of_eq (hy.wf cj hcj))]
  exact facet_core hy ci cj hcj ha haeq (sat_iff hsatrow) v hvE

end PPLV.Widen.Impl

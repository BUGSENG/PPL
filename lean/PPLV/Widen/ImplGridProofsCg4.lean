import PPLV.Widen.ImplGridProofsCg2

/-!
# `limited_congruence_extrapolation_assign`, congruence path

`limitedBody` with a null token pointer adds to the widened grid the supplied congruences that `x` satisfies
(strongly normalised); the result lies between `x` and the plain widening and satisfies every added congruence.
With a positive token count the body is the widening itself.
-/
namespace PPLV.Widen.ImplGrid
open PPLV.Lattice PPLV.Lattice.Red

/-! ### unfolding `limitedBody` -/

/-- with tokens the limited extrapolation is the widening (l.206: `if (tp != NULL && *tp > 0) widening_assign(y, tp)`) -/
theorem limitedBody_tokens (w : GridM → GridM → Option Nat → GridM × GridM × Option Nat × String)
    (sat : GridM → CRow → Bool) (x y : GridM) (cgs : List CRow) (t : Nat)
    (hc : cgs ≠ []) (hy : y.empty = false) (hx : x.empty = false) (hn : x.n ≠ 0) (hg : x.genUp = true) :
    limitedBody w sat x y cgs (some (t + 1)) = w x y (some (t + 1)) := by
  have hce : cgs.isEmpty = false := by cases cgs <;> simp_all
  unfold limitedBody
  simp [hce, hy, hx, hn, hg]

/-- the congruences `limitedBody` adds -/
def limitedNewCgs (sat : GridM → CRow → Bool) (x : GridM) (cgs : List CRow) : List CRow :=
  (cgs.filter (relationIsIncluded sat x)).map strongNormalizeCg

/-- without tokens: the widening, then `add_recycled_congruences(new_cgs)` -/
theorem limitedBody_none (w : GridM → GridM → Option Nat → GridM × GridM × Option Nat × String)
    (sat : GridM → CRow → Bool) (x y : GridM) (cgs : List CRow) (tp : Option Nat) (htp : tp = none ∨ tp = some 0)
    (hc : cgs ≠ []) (hy : y.empty = false) (hx : x.empty = false) (hn : x.n ≠ 0) (hg : x.genUp = true) :
    limitedBody w sat x y cgs tp =
      ((w x y tp).1.addRecycledCongruences (limitedNewCgs sat x cgs), (w x y tp).2.1, (w x y tp).2.2.1, (w x y tp).2.2.2) := by
  have hce : cgs.isEmpty = false := by cases cgs <;> simp_all
  unfold limitedBody limitedNewCgs
  rcases htp with rfl | rfl <;> simp [hce, hy, hx, hn, hg]

/-! ### `add_recycled_congruences` -/

theorem addRecycledCongruences_of_empty (g : GridM) (cgs : List CRow) (he : g.empty = true) :
    g.addRecycledCongruences cgs = g := by
  unfold GridM.addRecycledCongruences
  simp [he]

theorem addRecycledCongruences_con (g : GridM) (cgs : List CRow) (he : g.empty = false) (hup : g.cgUp = true) :
    (g.addRecycledCongruences cgs).con = g.con ++ cgs := by
  unfold GridM.addRecycledCongruences
  cases cgs with
  | nil => simp
  | cons a l => simp [he, hup]

theorem cgsSem_append (n : Nat) (a b : List CRow) (p : Pt) :
    cgsSem n (a ++ b) p ↔ cgsSem n a p ∧ ∀ r ∈ b, rsem r p := by
  rw [cgsSem_iff, cgsSem_iff, Sol_iff_mem, Sol_iff_mem]
  constructor
  · rintro ⟨hs, h⟩
    exact ⟨⟨hs, fun r hr => h r (List.mem_append_left _ hr)⟩, fun r hr => h r (List.mem_append_right _ hr)⟩
  · rintro ⟨⟨hs, h1⟩, h2⟩
    refine ⟨hs, fun r hr => ?_⟩
    rcases List.mem_append.mp hr with h | h
    · exact h1 r h
    · exact h2 r h

/-- the false congruence has no solution -/
theorem not_rsem_falseRow (n : Nat) (p : Pt) : ¬ rsem (falseRow n) p := by
  rintro ⟨t, ht⟩
  have hc : evalRow (falseRow n).e p = ((get (falseRow n).e 0 : Int) : ℚ) :=
    evalRow_const _ p (fun i hi => by
      cases i with
      | zero => omega
      | succ j => show get (1 :: List.replicate n 0) (j + 1) = 0
                  rw [get_cons_succ]; exact get_replicate_zero n j)
  rw [hc] at ht
  have : get (falseRow n).e 0 = 1 := rfl
  rw [this] at ht
  simp [falseRow] at ht

theorem not_cgsSem_setEmpty (g : GridM) (n : Nat) (p : Pt) : ¬ cgsSem n g.setEmpty.con p := by
  intro h
  have := ((cgsSem_iff _ _ _).mp h).2
  rw [Sol_iff_mem] at this
  exact not_rsem_falseRow g.n p (this _ (by simp [GridM.setEmpty]))

/-- "found empty" is `set_empty()` -/
theorem minimizeCongruences_of_true (g : GridM) (h : (g.minimizeCongruences).2 = true) :
    (g.minimizeCongruences).1 = g.setEmpty := by
  by_cases hup : g.cgUp = true
  · by_cases hmin : g.cgMin = true
    · have e : g.minimizeCongruences = (g, false) := by
        unfold GridM.minimizeCongruences; simp [hup, hmin]
      rw [e] at h; cases h
    · have hmin' : g.cgMin = false := by simpa using hmin
      by_cases hf : (simplifyCgs g.n g.con g.dk).2.2 = true
      · have e : g.minimizeCongruences = (g.setEmpty, true) := by
          unfold GridM.minimizeCongruences; simp [hup, hmin', hf]
        rw [e]
      · have hf' : (simplifyCgs g.n g.con g.dk).2.2 = false := by simpa using hf
        have e : (g.minimizeCongruences).2 = false := by
          unfold GridM.minimizeCongruences; simp [hup, hmin', hf']
        rw [e] at h; cases h
  · have e : (g.minimizeCongruences).2 = false := by
      unfold GridM.minimizeCongruences; simp [hup]
    rw [e] at h; cases h

/-! ### flags of the grid the plain widening assigns -/

theorem congruenceWideningAssign_fst_flags (contains : GridM → GridM → Bool) (x y : GridM)
    (hxup : x.cgUp = true) (hxwf : CWf x.n x.con) (hxe : x.empty = false) (hye : y.empty = false) (hn : x.n ≠ 0)
    (hne : (x.minimizeCongruences).2 = false) :
    (congruenceWideningAssign contains x y none).1.empty = false ∧
      (congruenceWideningAssign contains x y none).1.cgUp = true := by
  have h0 : ¬ (x.n = 0 ∨ x.empty = true ∨ y.empty = true) := by
    rw [hxe, hye]; simp; exact hn
  obtain ⟨_, hme, hmup, _, _⟩ := (minimizeCongruences_spec x hxup hxwf).1 hne
  have keep : (x.minimizeCongruences).1.empty = false ∧ (x.minimizeCongruences).1.cgUp = true :=
    ⟨by rw [hme, hxe], hmup⟩
  by_cases hy : (y.minimizeCongruences).2 = true
  · rw [congruenceWideningAssign_y_empty _ _ _ _ h0 hne hy]; exact keep
  have hy' : (y.minimizeCongruences).2 = false := by simpa using hy
  by_cases hlt : numEqualities (x.minimizeCongruences).1.con < numEqualities (y.minimizeCongruences).1.con
  · rw [congruenceWideningAssign_fewer_equalities _ _ _ _ h0 hne hy' hlt]; exact keep
  by_cases hall : (selectWiderCongruences (x.minimizeCongruences).1.n (x.minimizeCongruences).1.con
      (x.minimizeCongruences).1.dk (y.minimizeCongruences).1.con (y.minimizeCongruences).1.dk).length
        = (x.minimizeCongruences).1.con.length
  · rw [congruenceWideningAssign_all_selected _ _ _ _ h0 hne hy' hlt hall]; exact keep
  · rw [congruenceWideningAssign_widened _ _ _ _ (Or.inl rfl) h0 hne hy' hlt hall]
    obtain ⟨f1, f2, _⟩ := addRecycledCongruences_universe_flags (x.minimizeCongruences).1.n
      (selectWiderCongruences (x.minimizeCongruences).1.n (x.minimizeCongruences).1.con
        (x.minimizeCongruences).1.dk (y.minimizeCongruences).1.con (y.minimizeCongruences).1.dk)
    exact ⟨f1, f2⟩

/-- the grid the limited extrapolation assigns: the plain one (found empty), or the plain one with the new rows -/
theorem limitedBody_cg_con (contains : GridM → GridM → Bool) (sat : GridM → CRow → Bool) (x y : GridM)
    (cgs : List CRow) (hxup : x.cgUp = true) (hxg : x.genUp = true) (hxwf : CWf x.n x.con)
    (hxe : x.empty = false) (hye : y.empty = false) (hn : x.n ≠ 0) (hc : cgs ≠ []) :
    ((x.minimizeCongruences).2 = true ∧
      (limitedBody (congruenceWideningAssign contains) sat x y cgs none).1 = x.setEmpty ∧
      (congruenceWideningAssign contains x y none).1 = x.setEmpty) ∨
    ((x.minimizeCongruences).2 = false ∧
      (limitedBody (congruenceWideningAssign contains) sat x y cgs none).1.con =
        (congruenceWideningAssign contains x y none).1.con ++ limitedNewCgs sat x cgs) := by
  rw [limitedBody_none _ sat x y cgs none (Or.inl rfl) hc hye hxe hn hxg]
  by_cases hne : (x.minimizeCongruences).2 = true
  · left
    have h0 : ¬ (x.n = 0 ∨ x.empty = true ∨ y.empty = true) := by
      rw [hxe, hye]; simp; exact hn
    have e : (congruenceWideningAssign contains x y none).1 = x.setEmpty := by
      rw [congruenceWideningAssign_x_empty _ _ _ _ h0 hne]
      exact minimizeCongruences_of_true x hne
    refine ⟨hne, ?_, e⟩
    show (congruenceWideningAssign contains x y none).1.addRecycledCongruences _ = _
    rw [e]
    exact addRecycledCongruences_of_empty _ _ rfl
  · right
    have hne' : (x.minimizeCongruences).2 = false := by simpa using hne
    obtain ⟨f1, f2⟩ := congruenceWideningAssign_fst_flags contains x y hxup hxwf hxe hye hn hne'
    exact ⟨hne', addRecycledCongruences_con _ _ f1 f2⟩

/-! ### between `x` and the plain widening -/

/-- `x.limited_congruence_extrapolation_assign(y, cgs)` (null token pointer, non-empty `cgs`): the result contains
    `x`, is contained in the plain congruence widening, and satisfies every supplied congruence that was selected -/
theorem limitedBody_cg_between (contains : GridM → GridM → Bool) (sat : GridM → CRow → Bool) (n : Nat) (x y : GridM)
    (cgs : List CRow)
    (hxup : x.cgUp = true) (hxg : x.genUp = true) (hyup : y.cgUp = true) (hxn : x.n = n) (hyn : y.n = n)
    (hxwf : CWf n x.con) (hywf : CWf n y.con) (hxe : x.empty = false) (hye : y.empty = false) (hn : 0 < n)
    (hc : cgs ≠ [])
    (hsat : ∀ c, sat x c = true → ∀ p, cgsSem n x.con p → rsem c p) :
    let plain := congruenceWideningAssign contains x y none
    let r := limitedBody (congruenceWideningAssign contains) sat x y cgs none
    (∀ p, cgsSem n x.con p → cgsSem n r.1.con p) ∧
    (∀ p, cgsSem n r.1.con p → cgsSem n plain.1.con p) ∧
    (∀ c ∈ cgs, relationIsIncluded sat x c = true → ∀ p, cgsSem n r.1.con p → rsem c p) := by
  intro plain r
  have hn' : x.n ≠ 0 := by omega
  have hxwf' : CWf x.n x.con := by rw [hxn]; exact hxwf
  have hcon := limitedBody_cg_con contains sat x y cgs hxup hxg hxwf' hxe hye hn' hc
  refine ⟨fun p hp => ?_, fun p hp => ?_, fun c hc' hrel p hp => ?_⟩
  · obtain ⟨_, _, hpl⟩ := congruenceWideningAssign_contains_x contains n x y hxup hyup hxn hyn hxwf hywf hxe hye hn p hp
    rcases hcon with ⟨hemp, _, _⟩ | ⟨_, e⟩
    · have := (minimizeCongruences_spec x hxup hxwf').2 hemp p
      rw [hxn] at this
      exact absurd hp this
    · show cgsSem n (limitedBody (congruenceWideningAssign contains) sat x y cgs none).1.con p
      rw [e, cgsSem_append]
      refine ⟨hpl, fun c' hc' => ?_⟩
      unfold limitedNewCgs at hc'
      obtain ⟨c, hcm, rfl⟩ := List.mem_map.mp hc'
      have hrel := (List.mem_filter.mp hcm).2
      rw [rsem_strongNormalizeCg']
      have hs : sat x c = true := by
        unfold relationIsIncluded at hrel
        simp only [Bool.and_eq_true] at hrel
        exact hrel.2
      exact hsat c hs p hp
  · rcases hcon with ⟨_, e1, e2⟩ | ⟨_, e⟩
    · show cgsSem n (congruenceWideningAssign contains x y none).1.con p
      have hp' : cgsSem n (limitedBody (congruenceWideningAssign contains) sat x y cgs none).1.con p := hp
      rw [e1] at hp'; rw [e2]; exact hp'
    · have hp' : cgsSem n (limitedBody (congruenceWideningAssign contains) sat x y cgs none).1.con p := hp
      rw [e, cgsSem_append] at hp'
      exact hp'.1
  · have hp' : cgsSem n (limitedBody (congruenceWideningAssign contains) sat x y cgs none).1.con p := hp
    rcases hcon with ⟨_, e1, _⟩ | ⟨_, e⟩
    · rw [e1] at hp'
      exact absurd hp' (not_cgsSem_setEmpty x n p)
    · rw [e, cgsSem_append] at hp'
      have := hp'.2 (strongNormalizeCg c) (by
        unfold limitedNewCgs
        exact List.mem_map.mpr ⟨c, List.mem_filter.mpr ⟨hc', hrel⟩, rfl⟩)
      exact (rsem_strongNormalizeCg' c p).mp this

/-- `limited_congruence_extrapolation_assign` with a non-empty `cgs` is `limitedBody` on the congruence widening -/
theorem limitedCongruenceExtrapolationAssign_eq (contains : GridM → GridM → Bool) (sat : GridM → CRow → Bool)
    (x y : GridM) (cgs : List CRow) (tp : Option Nat) (hc : cgs ≠ []) :
    limitedCongruenceExtrapolationAssign contains sat x y cgs tp =
      limitedBody (congruenceWideningAssign contains) sat x y cgs tp := by
  have hce : cgs.isEmpty = false := by cases cgs <;> simp_all
  unfold limitedCongruenceExtrapolationAssign
  simp [hce]

/-! ### example: `exX`, `exY` of `ImplGridProofsCg2`, the supplied congruence `A ≡ 0 (mod 2)` holds of `exX` -/

def exXg : GridM := { exX with genUp := true }

/-- the plain widening drops the congruence on `A`; the limited one gets `A ≡ 0 (mod 2)` back -/
example : (limitedBody (congruenceWideningAssign fun _ _ => false) (fun _ _ => true) exXg exY [⟨[0, 1, 0], 2⟩] none).1.con =
    (congruenceWideningAssign (fun _ _ => false) exXg exY none).1.con ++ [⟨[0, 1, 0], 2⟩] := by
  decide +kernel
example : (limitedBody (congruenceWideningAssign fun _ _ => false) (fun _ _ => true) exXg exY [⟨[0, 1, 0], 2⟩] none).1.con =
    [⟨[1, 0, 0], 1⟩, ⟨[0, 0, 1], 1⟩, ⟨[0, 1, 0], 2⟩] := by
  decide +kernel

end PPLV.Widen.ImplGrid

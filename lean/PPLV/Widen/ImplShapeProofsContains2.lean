import PPLV.Widen.ImplShapeProofsContains
/-!
# `BHMZ05_widening_assign` of the shapes returns an object that contains the receiver

`bdBHMZ05` / `octBHMZ05` (`BD_Shape_templates.hh:3315`, `Octagonal_Shape_templates.hh:4103`): every path, the loops
only raise cells (to `+∞`), every point of the receiver is a point of the result, the token protocol.
-/
namespace PPLV.Widen
open PPLV.WR
open PPLV.WR.ExtRat (fin pinf le_rfl' le_trans' le_total' le_pinf)

variable {up : Rat → ExtRat}

/-! ## the frame shared by the two `BHMZ05_widening_assign` -/

section Frame
variable {S : Type} (contains : S → S → Bool) (close : S → S) (adim : S → Nat) (reduce : S → Option S)
  (widen : S → S → S)

/-- `BHMZ05_widening_assign(y, tp)` of both shape classes, over the closure, `affine_dimension()`, the reduction of
the closed `y` (which may run out of fuel) and the matrix loops `widen` -/
def bhmz05Frame (x y : S) (tp : Option Nat) : Option (S × S × Option Nat) :=
  if adim y = 0 then some (x, close y, tp)
  else if adim x ≠ adim y then some (close x, close y, tp)
  else (reduce (close y)).map fun ry => tokenTail contains (close x) ry (widen (close x) ry) tp

variable {contains close adim reduce widen}

/-- every returning path: an early exit with the arguments at most closed, or the token test on the reduced `y` -/
theorem bhmz05Frame_some {x y : S} {tp : Option Nat} {r : S × S × Option Nat}
    (h : bhmz05Frame contains close adim reduce widen x y tp = some r) :
    ((r.1 = x ∨ r.1 = close x) ∧ r.2.1 = close y ∧ r.2.2 = tp)
    ∨ (reduce (close y) = some r.2.1 ∧ r = tokenTail contains (close x) r.2.1 (widen (close x) r.2.1) tp) := by
  unfold bhmz05Frame at h
  split_ifs at h
  · cases h; exact Or.inl ⟨Or.inl rfl, rfl, rfl⟩
  · cases h; exact Or.inl ⟨Or.inr rfl, rfl, rfl⟩
  · obtain ⟨ry, hr, rfl⟩ := Option.map_eq_some_iff.1 h
    rw [tokenTail_snd]
    exact Or.inr ⟨hr, rfl⟩

/-- the receiver returned: `*this` untouched, closed, or closed with the widened matrix -/
theorem bhmz05Frame_fst {x y X' Y' : S} {tp tp' : Option Nat}
    (h : bhmz05Frame contains close adim reduce widen x y tp = some (X', Y', tp')) :
    X' = x ∨ X' = close x
    ∨ ((tp = none ∨ tp = some 0) ∧ X' = widen (close x) Y' ∧ reduce (close y) = some Y') := by
  rcases bhmz05Frame_some h with ⟨h1, _⟩ | ⟨hr, h2⟩
  · exact h1.imp_right Or.inl
  · rcases tokenTail_fst contains (close x) Y' (widen (close x) Y') tp with h3 | ⟨ht, h3⟩
    · exact Or.inr (Or.inl ((congrArg Prod.fst h2).trans h3))
    · exact Or.inr (Or.inr ⟨ht, (congrArg Prod.fst h2).trans h3, hr⟩)

/-- the argument returned: the closed `y`, or its reduction -/
theorem bhmz05Frame_snd {x y X' Y' : S} {tp tp' : Option Nat}
    (h : bhmz05Frame contains close adim reduce widen x y tp = some (X', Y', tp')) :
    Y' = close y ∨ reduce (close y) = some Y' :=
  (bhmz05Frame_some h).imp (·.2.1) (·.1)

theorem bhmz05Frame_token {x y X' Y' : S} {t : Nat} (ht : 0 < t) {tp' : Option Nat}
    (h : bhmz05Frame contains close adim reduce widen x y (some t) = some (X', Y', tp')) :
    (X' = x ∨ X' = close x) ∧ (tp' = some t ∨ tp' = some (t - 1)) := by
  rcases bhmz05Frame_some h with ⟨h1, _, h3⟩ | ⟨_, h2⟩
  · exact ⟨h1, Or.inl h3⟩
  · obtain ⟨h3, h4⟩ := tokenTail_token contains (close x) Y' (widen (close x) Y') ht
    rw [← h2] at h3 h4
    exact ⟨Or.inr h3, h4⟩

theorem bhmz05Frame_no_token {x y X' Y' : S} {tp tp' : Option Nat} (htp : tp = none ∨ tp = some 0)
    (h : bhmz05Frame contains close adim reduce widen x y tp = some (X', Y', tp')) : tp' = tp := by
  rcases bhmz05Frame_some h with ⟨_, _, h3⟩ | ⟨_, h2⟩
  · exact h3
  · have := tokenTail_no_token contains (close x) Y' (widen (close x) Y') htp
    rwa [← h2] at this
end Frame

/-! ## `BD_Shape::BHMZ05_widening_assign` -/

/-- `affine_dimension()` leaves the object closed, nothing else -/
theorem bdAffineDim_snd (up : Rat → ExtRat) (n : Nat) (s : BDS) :
    (bdAffineDim up n s).2 = bdClosureAssign up n s := by
  unfold bdAffineDim
  by_cases h0 : n = 0
  · subst h0; rw [bdClosureAssign_zero]; rfl
  · rw [if_neg h0]; dsimp only; split <;> rfl

/-- the loops only raise cells -/
theorem bdBHMZ05Loops_ge (n : Nat) (x y : Mat) (r : BMat) : bdLE n x (bdBHMZ05Loops n x y r) := by
  intro i j _ _
  rw [bdBHMZ05Loops_apply]
  split
  · exact le_bhmz05Cell _ _ _
  · exact le_rfl' _

/-- the matrix-widened copy of the closed receiver, `ry` the reduced `y` -/
def bdBHMZ05Widened (up : Rat → ExtRat) (n : Nat) (X ry : BDS) : BDS :=
  { (bdClosureAssign up n X) with
    dbm := bdBHMZ05Loops n (bdClosureAssign up n X).dbm ry.dbm ry.red }.resetClosed

theorem bdBHMZ05_eq_frame (up : Rat → ExtRat) (n : Nat) (X Y : BDS) (tp : Option Nat) :
    bdBHMZ05 up n X Y tp =
      bhmz05Frame (bdContains up n) (bdClosureAssign up n) (fun s => (bdAffineDim up n s).1) (bdReductionAssign up n)
        (fun x ry => { x with dbm := bdBHMZ05Loops n x.dbm ry.dbm ry.red }.resetClosed) X Y tp := by
  have hsy := bdAffineDim_snd up n Y
  have hsx := bdAffineDim_snd up n X
  show bdBHMZ05 up n X Y tp =
    if (bdAffineDim up n Y).1 = 0 then some (X, bdClosureAssign up n Y, tp)
    else if (bdAffineDim up n X).1 ≠ (bdAffineDim up n Y).1 then some (bdClosureAssign up n X, bdClosureAssign up n Y, tp)
    else (bdReductionAssign up n (bdClosureAssign up n Y)).map fun ry =>
      tokenTail (bdContains up n) (bdClosureAssign up n X) ry (bdBHMZ05Widened up n X ry) tp
  unfold bdBHMZ05 tokenTail bdBHMZ05Widened
  rcases hY : bdAffineDim up n Y with ⟨dy, cy⟩
  rcases hX : bdAffineDim up n X with ⟨dx, cx⟩
  rw [hY] at hsy; rw [hX] at hsx
  dsimp only at hsy hsx ⊢
  subst hsy; subst hsx
  cases tp <;> rfl

/-- the receiver returned: `*this` untouched, closed, or closed with the widened matrix -/
theorem bdBHMZ05_fst_cases {n : Nat} {X Y X' Y' : BDS} {tp tp' : Option Nat}
    (h : bdBHMZ05 up n X Y tp = some (X', Y', tp')) :
    X' = X ∨ X' = bdClosureAssign up n X
    ∨ ((tp = none ∨ tp = some 0) ∧ X' = bdBHMZ05Widened up n X Y'
        ∧ bdReductionAssign up n (bdClosureAssign up n Y) = some Y') :=
  bhmz05Frame_fst (bdBHMZ05_eq_frame up n X Y tp ▸ h)

/-- **the result of the BHMZ05 widening contains the receiver** (`BD_Shape_templates.hh:3315`) -/
theorem bd_bhmz05_contains_x (hup : ∀ q, fin q ≤ up q) (n : Nat) (X Y : BDS) (tp : Option Nat)
    {X' Y' : BDS} {tp' : Option Nat} (h : bdBHMZ05 up n X Y tp = some (X', Y', tp'))
    (hX : BDS.WF n X) (p : Nat → Rat) (hp : BDS.γ n X p) : BDS.γ n X' p := by
  have hc := bdClosureAssign_γ hup hX hp
  rcases bdBHMZ05_fst_cases h with h | h | ⟨_, h, _⟩
  · rw [h]; exact hp
  · rw [h]; exact hc
  · rw [h]
    refine ⟨hc.1, fun i j hi hj => ?_⟩
    exact le_trans' (hc.2 i j hi hj) (bdBHMZ05Loops_ge n _ _ _ i j hi hj)

/-- `shortest_path_reduction_assign()` changes the flags and `redundancy_dbm` only: the same points -/
theorem bdReductionAssign_γ (hup : ∀ q, fin q ≤ up q) {n : Nat} {s r : BDS} (hs : BDS.WF n s)
    (h : bdReductionAssign up n s = some r) (p : Nat → Rat) : BDS.γ n r p ↔ BDS.γ n s p := by
  unfold bdReductionAssign at h
  split at h
  · injection h with h; rw [h]
  · split at h
    · injection h with h; rw [h]
    · dsimp only at h
      split at h
      · injection h with h; rw [← h]; exact bdClosureAssign_γ_iff hup hs p
      · cases hr : bdsShortestPathReduction up n (bdClosureAssign up n s).dbm with
        | none => rw [hr] at h; cases h
        | some b =>
          rw [hr] at h; injection h with h
          rw [← bdClosureAssign_γ_iff hup hs p, ← h]
          exact Iff.rfl

/-- the argument `y` comes back closed and reduced at most: the same points -/
theorem bd_bhmz05_y_γ (hup : ∀ q, fin q ≤ up q) (n : Nat) (X Y : BDS) (tp : Option Nat)
    {X' Y' : BDS} {tp' : Option Nat} (h : bdBHMZ05 up n X Y tp = some (X', Y', tp'))
    (hY : BDS.WF n Y) (p : Nat → Rat) : BDS.γ n Y' p ↔ BDS.γ n Y p := by
  have key := bhmz05Frame_snd (bdBHMZ05_eq_frame up n X Y tp ▸ h)
  rcases key with h | h
  · rw [h]; exact bdClosureAssign_γ_iff hup hY p
  · by_cases he : (bdClosureAssign up n Y).empty = false
    · rw [bdReductionAssign_γ hup (bdClosureAssign_WF hY he) h p]
      exact bdClosureAssign_γ_iff hup hY p
    · have he' : (bdClosureAssign up n Y).empty = true := by
        cases hh : (bdClosureAssign up n Y).empty <;> simp_all
      -- a marked-empty `y`: the reduction returns it as it is (or closed, which is the same)
      have : Y' = bdClosureAssign up n Y := by
        unfold bdReductionAssign at h
        split at h
        · injection h with h; exact h.symm
        · split at h
          · injection h with h; exact h.symm
          · dsimp only at h
            rw [bdClosureAssign_of_empty _ _ _ he'] at h
            simp only [he', ↓reduceIte] at h
            injection h with h; exact h.symm
      rw [this]; exact bdClosureAssign_γ_iff hup hY p

/-! ## `Octagonal_Shape::BHMZ05_widening_assign` -/

/-- `affine_dimension()` leaves the object closed, nothing else -/
theorem octAffineDim_snd (up : Rat → ExtRat) (n : Nat) (s : OCS) :
    (octAffineDim up n s).2 = octClosureAssign up n s := by
  unfold octAffineDim
  by_cases h0 : n = 0
  · subst h0; rw [octClosureAssign_zero]; rfl
  · rw [if_neg h0]; dsimp only; split <;> rfl

/-- the loops only raise cells -/
theorem octBHMZ05Loops_ge (n : Nat) (x y : Mat) : octLE n x (octBHMZ05Loops n x y) := by
  intro i j _ _
  rw [octBHMZ05Loops_apply]
  split
  · exact le_bhmz05Cell _ _ _
  · exact le_rfl' _

/-- the matrix-widened copy of the closed receiver, `ry` the reduced `y` -/
def octBHMZ05Widened (up : Rat → ExtRat) (n : Nat) (X ry : OCS) : OCS :=
  { (octClosureAssign up n X) with
    mat := octBHMZ05Loops n (octClosureAssign up n X).mat ry.mat }.resetClosed

theorem octBHMZ05_eq_frame (up : Rat → ExtRat) (n : Nat) (X Y : OCS) (tp : Option Nat) :
    octBHMZ05 up n X Y tp =
      bhmz05Frame (octContains up n) (octClosureAssign up n) (fun s => (octAffineDim up n s).1) (octReductionAssign up n)
        (fun x ry => { x with mat := octBHMZ05Loops n x.mat ry.mat }.resetClosed) X Y tp := by
  have hsy := octAffineDim_snd up n Y
  have hsx := octAffineDim_snd up n X
  show octBHMZ05 up n X Y tp =
    if (octAffineDim up n Y).1 = 0 then some (X, octClosureAssign up n Y, tp)
    else if (octAffineDim up n X).1 ≠ (octAffineDim up n Y).1 then some (octClosureAssign up n X, octClosureAssign up n Y, tp)
    else (octReductionAssign up n (octClosureAssign up n Y)).map fun ry =>
      tokenTail (octContains up n) (octClosureAssign up n X) ry (octBHMZ05Widened up n X ry) tp
  unfold octBHMZ05 tokenTail octBHMZ05Widened
  rcases hY : octAffineDim up n Y with ⟨dy, cy⟩
  rcases hX : octAffineDim up n X with ⟨dx, cx⟩
  rw [hY] at hsy; rw [hX] at hsx
  dsimp only at hsy hsx ⊢
  subst hsy; subst hsx
  cases tp <;> rfl

/-- the receiver returned: `*this` untouched, closed, or closed with the widened matrix -/
theorem octBHMZ05_fst_cases {n : Nat} {X Y X' Y' : OCS} {tp tp' : Option Nat}
    (h : octBHMZ05 up n X Y tp = some (X', Y', tp')) :
    X' = X ∨ X' = octClosureAssign up n X
    ∨ ((tp = none ∨ tp = some 0) ∧ X' = octBHMZ05Widened up n X Y'
        ∧ octReductionAssign up n (octClosureAssign up n Y) = some Y') :=
  bhmz05Frame_fst (octBHMZ05_eq_frame up n X Y tp ▸ h)

/-- **the result of the BHMZ05 widening contains the receiver** (`Octagonal_Shape_templates.hh:4103`) -/
theorem oct_bhmz05_contains_x (hup : ∀ q, fin q ≤ up q) (n : Nat) (X Y : OCS) (tp : Option Nat)
    {X' Y' : OCS} {tp' : Option Nat} (h : octBHMZ05 up n X Y tp = some (X', Y', tp'))
    (hX : OCS.WF n X) (p : Nat → Rat) (hp : OCS.γ n X p) : OCS.γ n X' p := by
  have hc := octClosureAssign_γ hup hX hp
  rcases octBHMZ05_fst_cases h with h | h | ⟨_, h, _⟩
  · rw [h]; exact hp
  · rw [h]; exact hc
  · rw [h]
    refine ⟨hc.1, fun i j hi hj => ?_⟩
    exact le_trans' (hc.2 i j hi hj) (octBHMZ05Loops_ge n _ _ i j hi hj)

/-! ## concrete instances (dimension 1) for the non-vacuity examples of the property file -/
namespace ContainsEx

/-- `0 ≤ x₀ ≤ 3/2` -/
def bdX : BDS := { dbm := Mat.ofLists [[pinf, fin (3/2)], [fin 0, pinf]] }
/-- `0 ≤ x₀ ≤ 1/2` -/
def bdY : BDS := { dbm := Mat.ofLists [[pinf, fin (1/2)], [fin 0, pinf]] }
/-- the point `x₀ = 1/2` -/
def pt : Nat → Rat := fun _ => 1/2

theorem le_one {i : Nat} (hi : i ≤ 1) : i = 0 ∨ i = 1 := by omega

theorem bdX_WF : BDS.WF 1 bdX := by
  intro i hi
  match i, hi with
  | 0, _ => rfl
  | 1, _ => rfl

theorem bdY_WF : BDS.WF 1 bdY := by
  intro i hi
  match i, hi with
  | 0, _ => rfl
  | 1, _ => rfl

theorem bdX_γ : BDS.γ 1 bdX pt := by
  refine ⟨rfl, fun i j hi hj => ?_⟩
  rcases le_one hi with rfl | rfl <;> rcases le_one hj with rfl | rfl <;> decide +kernel

theorem bdY_γ : BDS.γ 1 bdY pt := by
  refine ⟨rfl, fun i j hi hj => ?_⟩
  rcases le_one hi with rfl | rfl <;> rcases le_one hj with rfl | rfl <;> decide +kernel

theorem bdY_sub_bdX : ∀ p, BDS.γ 1 bdY p → BDS.γ 1 bdX p := by
  intro p hp
  refine ⟨rfl, fun i j hi hj => le_trans' (hp.2 i j hi hj) ?_⟩
  rcases le_one hi with rfl | rfl <;> rcases le_one hj with rfl | rfl <;> decide +kernel

/-- `0 ≤ x₀ ≤ 3/2` as an octagon: `matrix[1][0] ≥ 2x₀`, `matrix[0][1] ≥ -2x₀` -/
def octX : OCS := { mat := Mat.ofLists [[pinf, fin 0], [fin 3, pinf]] }
/-- `0 ≤ x₀ ≤ 1/2` -/
def octY : OCS := { mat := Mat.ofLists [[pinf, fin 0], [fin 1, pinf]] }

theorem octX_WF : OCS.WF 1 octX := by
  intro i hi
  match i, hi with
  | 0, _ => rfl
  | 1, _ => rfl

theorem octY_WF : OCS.WF 1 octY := by
  intro i hi
  match i, hi with
  | 0, _ => rfl
  | 1, _ => rfl

theorem rowSize_lt_two {i j : Nat} (hi : i < 2 * 1) (hj : j < rowSize i) : j = 0 ∨ j = 1 := by
  unfold rowSize at hj; omega

theorem octX_γ : OCS.γ 1 octX pt := by
  refine ⟨rfl, fun i j hi hj => ?_⟩
  rcases le_one (Nat.le_of_lt_succ hi) with rfl | rfl <;> rcases rowSize_lt_two hi hj with rfl | rfl <;>
    decide +kernel

theorem octY_γ : OCS.γ 1 octY pt := by
  refine ⟨rfl, fun i j hi hj => ?_⟩
  rcases le_one (Nat.le_of_lt_succ hi) with rfl | rfl <;> rcases rowSize_lt_two hi hj with rfl | rfl <;>
    decide +kernel

theorem octY_sub_octX : ∀ p, OCS.γ 1 octY p → OCS.γ 1 octX p := by
  intro p hp
  refine ⟨rfl, fun i j hi hj => le_trans' (hp.2 i j hi hj) ?_⟩
  rcases le_one (Nat.le_of_lt_succ hi) with rfl | rfl <;> rcases rowSize_lt_two hi hj with rfl | rfl <;>
    decide +kernel

/-- the box `[0, 3/2]` -/
def boxX : BoxS := { seq := [⟨some 0, false, some (3/2), false⟩] }
/-- the box `[0, 1/2]` -/
def boxY : BoxS := { seq := [⟨some 0, false, some (1/2), false⟩] }

theorem boxX_γ : BoxS.γ boxX pt := by
  refine ⟨rfl, fun k hk => ?_⟩
  obtain rfl : k = 0 := Nat.lt_one_iff.1 hk
  exact ⟨show (0 : Rat) ≤ 1 / 2 by norm_num, show (1 / 2 : Rat) ≤ 3 / 2 by norm_num⟩

theorem boxY_γ : BoxS.γ boxY pt := by
  refine ⟨rfl, fun k hk => ?_⟩
  obtain rfl : k = 0 := Nat.lt_one_iff.1 hk
  exact ⟨show (0 : Rat) ≤ 1 / 2 by norm_num, le_refl (1 / 2 : Rat)⟩

theorem boxY_sub_boxX : ∀ p, BoxS.γ boxY p → BoxS.γ boxX p := by
  intro p hp
  refine ⟨rfl, fun k hk => ?_⟩
  obtain rfl : k = 0 := Nat.lt_one_iff.1 hk
  obtain ⟨h1, h2⟩ := hp.2 0 Nat.zero_lt_one
  exact ⟨h1, le_trans (b := (1 / 2 : Rat)) h2 (by norm_num)⟩

end ContainsEx

end PPLV.Widen

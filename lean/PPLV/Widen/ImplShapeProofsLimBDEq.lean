import PPLV.Widen.ImplShapeProofsLimBD3
import PPLV.Widen.ImplShapeProofsLimRange
import PPLV.Widen.ImplShapeProofsLimFails
import Mathlib.Tactic.Linarith
import Mathlib.Tactic.Push
import Mathlib.Algebra.Order.Field.Rat
/-!
# `BD_Shape`: supplied equalities, and what the kept cell means for the supplied constraint itself
when `div_round_up` is exact
-/
namespace PPLV.Widen
open PPLV.WR
open PPLV.WR.ExtRat (fin pinf le_rfl' le_trans' le_total' le_pinf fin_le_fin)

/-! ## equalities along the fold -/

/-- a supplied equality whose two cells in the closed receiver are EXACTLY the two bounds (`x = d`, `y = d1`) is
kept: both limiting cells end up at most their bounds.  (The limiting matrix dominates the receiver, so the
limiting cells are still at or above the bounds when the equality is reached, and the test of `:3248`
either writes both or finds both equal already.) -/
theorem bdLimitFold_keeps_eq (up : Rat → ExtRat) (csd : Nat) (dbm : Mat) (cs : List LimCon) (st : Mat × Bool)
    (hdom : ∀ a b, dbm a b ≤ st.1 a b)
    (c : LimCon) (hc : c ∈ cs) (hsel : bdLimSel csd c = true) (heq : c.isEq = true)
    (hx : dbm (bdLimCell csd c).1 (bdLimCell csd c).2 ≤ bdLimBound up csd c)
    (hy : dbm (bdLimCell csd c).2 (bdLimCell csd c).1 ≤ bdLimBound1 up csd c)
    (hlx : bdLimBound up csd c ≤ dbm (bdLimCell csd c).1 (bdLimCell csd c).2)
    (hly : bdLimBound1 up csd c ≤ dbm (bdLimCell csd c).2 (bdLimCell csd c).1) :
    (cs.foldl (bdLimitStep up csd dbm) st).1 (bdLimCell csd c).1 (bdLimCell csd c).2 ≤ bdLimBound up csd c ∧
    (cs.foldl (bdLimitStep up csd dbm) st).1 (bdLimCell csd c).2 (bdLimCell csd c).1 ≤ bdLimBound1 up csd c := by
  induction cs generalizing st with
  | nil => cases hc
  | cons c' cs ih =>
    rcases List.mem_cons.mp hc with h | h
    · subst h
      obtain ⟨h1, h2⟩ := bdLimitStep_keeps_eq up csd dbm st c hsel (bdLimCell_range csd c hsel).2.2 hx hy
        (le_trans' hlx (hdom _ _)) (le_trans' hly (hdom _ _)) heq
      exact ⟨le_trans' (bdLimitFold_le up csd dbm cs _ _ _) h1, le_trans' (bdLimitFold_le up csd dbm cs _ _ _) h2⟩
    · exact ih _ (bdLimitStep_dom up csd dbm st c' hdom) h

theorem bdGetLimitingShape_keeps_eq (up : Rat → ExtRat) (n csd : Nat) (cs : List LimCon) (x : BDS)
    (c : LimCon) (hc : c ∈ cs) (hsel : bdLimSel csd c = true) (heq : c.isEq = true)
    (hx : (bdClosureAssign up n x).dbm (bdLimCell csd c).1 (bdLimCell csd c).2 ≤ bdLimBound up csd c)
    (hy : (bdClosureAssign up n x).dbm (bdLimCell csd c).2 (bdLimCell csd c).1 ≤ bdLimBound1 up csd c)
    (hlx : bdLimBound up csd c ≤ (bdClosureAssign up n x).dbm (bdLimCell csd c).1 (bdLimCell csd c).2)
    (hly : bdLimBound1 up csd c ≤ (bdClosureAssign up n x).dbm (bdLimCell csd c).2 (bdLimCell csd c).1) :
    (bdGetLimitingShape up n csd cs x BDS.univ).2.dbm (bdLimCell csd c).1 (bdLimCell csd c).2 ≤ bdLimBound up csd c ∧
    (bdGetLimitingShape up n csd cs x BDS.univ).2.dbm (bdLimCell csd c).2 (bdLimCell csd c).1
      ≤ bdLimBound1 up csd c := by
  rw [bdGetLimitingShape_dbm]
  exact bdLimitFold_keeps_eq up csd _ cs _ (fun a b => le_pinf _) c hc hsel heq hx hy hlx hly

/-- on a receiver that has a point, with exact quotients `d = q`, `d1 = -q`, passing both tests `x <= d`,
`y <= d1` forces `x = d` and `y = d1` -/
theorem bd_eq_cells_exact {n : Nat} {s : BDS} {p0 : Nat → Rat} (hp0 : BDS.γ n s p0) {a b : Nat} (ha : a ≤ n)
    (hb : b ≤ n) {q : Rat} (hx : s.dbm a b ≤ fin q) (hy : s.dbm b a ≤ fin (-q)) :
    fin q ≤ s.dbm a b ∧ fin (-q) ≤ s.dbm b a := by
  have h1 := hp0.2 a b ha hb
  have h2 := hp0.2 b a hb ha
  cases hab : s.dbm a b with
  | pinf => rw [hab] at hx; cases hx
  | fin u =>
    cases hba : s.dbm b a with
    | pinf => rw [hba] at hy; cases hy
    | fin v =>
      rw [hab] at hx h1
      rw [hba] at hy h2
      rw [fin_le_fin] at hx hy h1 h2 ⊢
      rw [fin_le_fin]
      constructor <;> linarith

/-! ## from the cell to the points, generically -/

theorem bdLimited_cell_le (n : Nat) (Xc P ls : BDS) (hP : BDS.Dom Xc P) (hls : ls.empty = false)
    (hdom : ∀ a b, Xc.dbm a b ≤ ls.dbm a b) (hn : n ≠ 0) (a b : Nat) (ha : a ≤ n) (hb : b ≤ n) (d : ExtRat)
    (hd : ls.dbm a b ≤ d) (p : Nat → Rat) (hp : BDS.γ n (bdIntersectionAssign n P ls) p) :
    fin (DBM.val p b - DBM.val p a) ≤ d := by
  obtain ⟨h1, _, _, h4⟩ := bdLimited_core n Xc P ls hP hls hdom
  exact le_trans' (hp.2 a b ha hb) (le_trans' (h4 (h1.symm.trans hp.1) hn a b ha hb) hd)

/-! ## exact quotients: the supplied constraint itself -/

theorem bdLimSel_shape (csd : Nat) (c : LimCon) (hsel : bdLimSel csd c = true) :
    BDShape csd c.coeff (extractBoundedDifference csd c.coeff) := by
  unfold bdLimSel at hsel
  simp only [Bool.and_eq_true, bne_iff_ne, ne_eq] at hsel
  rcases extractBoundedDifference_spec csd c.coeff hsel.1 with h | h
  · exact absurd h.1 hsel.2
  · exact h.2

/-- `v_col - v_row ≤ inhomo / |coeff|` is the supplied inequality `cf·v + inhomo ≥ 0` -/
theorem bd_exact_ineq_holds (csd : Nat) (c : LimCon) (hsel : bdLimSel csd c = true) (p : Nat → Rat)
    (h : DBM.val p (bdLimCell csd c).2 - DBM.val p (bdLimCell csd c).1
      ≤ (c.inhomo : Rat) / (bdLimCoeff csd c : Rat)) :
    0 ≤ linEval c.coeff p csd + c.inhomo := by
  have hs := bdLimSel_shape csd c hsel
  rw [hs.hlin]
  unfold bdLimCell bdLimCoeff at h
  by_cases hneg : (extractBoundedDifference csd c.coeff).coeff < 0
  · simp only [hneg, if_true] at h
    have hc : (0 : Rat) < ((-(extractBoundedDifference csd c.coeff).coeff : Int) : Rat) := by
      exact_mod_cast (by omega : 0 < -(extractBoundedDifference csd c.coeff).coeff)
    rw [le_div_iff₀ hc] at h
    push_cast at h
    linarith
  · simp only [hneg, if_false] at h
    have hne := hs.hc
    have hc : (0 : Rat) < ((extractBoundedDifference csd c.coeff).coeff : Rat) := by
      exact_mod_cast (by omega : 0 < (extractBoundedDifference csd c.coeff).coeff)
    rw [le_div_iff₀ hc] at h
    linarith

/-- the other half: `v_row - v_col ≤ -inhomo / |coeff|` is `cf·v + inhomo ≤ 0` -/
theorem bd_exact_ineq_holds1 (csd : Nat) (c : LimCon) (hsel : bdLimSel csd c = true) (p : Nat → Rat)
    (h : DBM.val p (bdLimCell csd c).1 - DBM.val p (bdLimCell csd c).2
      ≤ ((- c.inhomo : Int) : Rat) / (bdLimCoeff csd c : Rat)) :
    linEval c.coeff p csd + c.inhomo ≤ 0 := by
  have hs := bdLimSel_shape csd c hsel
  rw [hs.hlin]
  unfold bdLimCell bdLimCoeff at h
  by_cases hneg : (extractBoundedDifference csd c.coeff).coeff < 0
  · simp only [hneg, if_true] at h
    have hc : (0 : Rat) < ((-(extractBoundedDifference csd c.coeff).coeff : Int) : Rat) := by
      exact_mod_cast (by omega : 0 < -(extractBoundedDifference csd c.coeff).coeff)
    rw [le_div_iff₀ hc] at h
    push_cast at h
    linarith
  · simp only [hneg, if_false] at h
    have hne := hs.hc
    have hc : (0 : Rat) < ((extractBoundedDifference csd c.coeff).coeff : Rat) := by
      exact_mod_cast (by omega : 0 < (extractBoundedDifference csd c.coeff).coeff)
    rw [le_div_iff₀ hc] at h
    push_cast at h
    linarith

/-- generic form: any result `P ⊓ limiting shape` with `P` dominating the closed receiver keeps, at the level of
the supplied constraint, every selected inequality whose quotient `div_round_up` computes exactly -/
theorem bdLimited_keeps_exact (up : Rat → ExtRat) (n csd : Nat) (cs : List LimCon) (X P : BDS)
    (hP : BDS.Dom (bdClosureAssign up n X) P) (hn : n ≠ 0) (hcsd : csd ≤ n)
    (c : LimCon) (hc : c ∈ cs) (hsel : bdLimSel csd c = true) (hineq : c.isEq = false)
    (hex : bdLimBound up csd c = fin ((c.inhomo : Rat) / (bdLimCoeff csd c : Rat)))
    (hsat : (bdClosureAssign up n X).dbm (bdLimCell csd c).1 (bdLimCell csd c).2 ≤ bdLimBound up csd c)
    (p : Nat → Rat)
    (hp : BDS.γ n (bdIntersectionAssign n P (bdGetLimitingShape up n csd cs X BDS.univ).2) p) :
    0 ≤ linEval c.coeff p csd + c.inhomo := by
  obtain ⟨r1, r2, _⟩ := bdLimCell_range csd c hsel
  have := bdLimited_cell_le n _ P _ hP (by rw [bdGetLimitingShape_empty]; rfl)
    (bdGetLimitingShape_dom up n csd cs X) hn _ _ (by omega) (by omega) _
    (bdGetLimitingShape_keeps up n csd cs X _ c hc hsel hineq hsat) p hp
  rw [hex, fin_le_fin] at this
  exact bd_exact_ineq_holds csd c hsel p this

/-- generic form for a supplied EQUALITY: the receiver has a point, both quotients are computed exactly, both
tests `x <= d`, `y <= d1` pass; then the equality holds at every point of the result -/
theorem bdLimited_keeps_eq_exact {up : Rat → ExtRat} (hup : ∀ q, fin q ≤ up q) (n csd : Nat) (cs : List LimCon)
    (X P : BDS) (hWF : BDS.WF n X)
    (hP : BDS.Dom (bdClosureAssign up n X) P) (hn : n ≠ 0) (hcsd : csd ≤ n)
    (c : LimCon) (hc : c ∈ cs) (hsel : bdLimSel csd c = true) (heq : c.isEq = true)
    (hex : bdLimBound up csd c = fin ((c.inhomo : Rat) / (bdLimCoeff csd c : Rat)))
    (hex1 : bdLimBound1 up csd c = fin (((- c.inhomo : Int) : Rat) / (bdLimCoeff csd c : Rat)))
    (hsat : (bdClosureAssign up n X).dbm (bdLimCell csd c).1 (bdLimCell csd c).2 ≤ bdLimBound up csd c)
    (hsat1 : (bdClosureAssign up n X).dbm (bdLimCell csd c).2 (bdLimCell csd c).1 ≤ bdLimBound1 up csd c)
    (p0 : Nat → Rat) (hp0 : BDS.γ n X p0) (p : Nat → Rat)
    (hp : BDS.γ n (bdIntersectionAssign n P (bdGetLimitingShape up n csd cs X BDS.univ).2) p) :
    linEval c.coeff p csd + c.inhomo = 0 := by
  obtain ⟨r1, r2, _⟩ := bdLimCell_range csd c hsel
  have hp0c := bdClosureAssign_γ hup hWF hp0
  have hneg : ((- c.inhomo : Int) : Rat) / (bdLimCoeff csd c : Rat)
      = - ((c.inhomo : Rat) / (bdLimCoeff csd c : Rat)) := by
    push_cast; ring
  have hsat' := hsat; have hsat1' := hsat1
  rw [hex] at hsat'
  rw [hex1, hneg] at hsat1'
  obtain ⟨hlx, hly⟩ := bd_eq_cells_exact hp0c (by omega : (bdLimCell csd c).1 ≤ n)
    (by omega : (bdLimCell csd c).2 ≤ n) hsat' hsat1'
  rw [← hex] at hlx
  rw [← hneg, ← hex1] at hly
  obtain ⟨k1, k2⟩ := bdGetLimitingShape_keeps_eq up n csd cs X c hc hsel heq hsat hsat1 hlx hly
  have a1 := bdLimited_cell_le n _ P _ hP (by rw [bdGetLimitingShape_empty]; rfl)
    (bdGetLimitingShape_dom up n csd cs X) hn _ _ (by omega) (by omega) _ k1 p hp
  have a2 := bdLimited_cell_le n _ P _ hP (by rw [bdGetLimitingShape_empty]; rfl)
    (bdGetLimitingShape_dom up n csd cs X) hn _ _ (by omega) (by omega) _ k2 p hp
  rw [hex, fin_le_fin] at a1
  rw [hex1, fin_le_fin] at a2
  exact le_antisymm (bd_exact_ineq_holds1 csd c hsel p a2) (bd_exact_ineq_holds csd c hsel p a1)

/-! ## the two limited extrapolations with exact quotients (e.g. `up = upId`, rational coefficients) -/

/-- CC76, supplied inequality, exact quotient: the supplied constraint itself holds on the result -/
theorem bd_limited_cc76_keeps_exact {up : Rat → ExtRat} (hup : ∀ q, fin q ≤ up q) (n csd : Nat)
    (cs : List LimCon) (X Y : BDS) (tp : Option Nat) (hn : n ≠ 0) (hx : X.empty = false) (hy : Y.empty = false)
    (hcsd : csd ≤ n) (c : LimCon) (hc : c ∈ cs) (hsel : bdLimSel csd c = true) (hineq : c.isEq = false)
    (hex : bdLimBound up csd c = fin ((c.inhomo : Rat) / (bdLimCoeff csd c : Rat)))
    (hsat : (bdClosureAssign up n X).dbm (bdLimCell csd c).1 (bdLimCell csd c).2 ≤ bdLimBound up csd c)
    (p : Nat → Rat) (hp : BDS.γ n (bdLimitedCC76 up n csd cs X Y tp).1 p) :
    0 ≤ linEval c.coeff p csd + c.inhomo := by
  rw [bdLimitedCC76_eq up n csd cs X Y tp hn hx hy] at hp
  exact bdLimited_keeps_exact up n csd cs X _
    (bdCC76_dom hup n defaultStops _ Y tp (bdClosureAssign_idem up n X)) hn hcsd c hc hsel hineq hex hsat p hp

/-- CC76, supplied equality, exact quotients, receiver with a point -/
theorem bd_limited_cc76_keeps_eq_exact {up : Rat → ExtRat} (hup : ∀ q, fin q ≤ up q) (n csd : Nat)
    (cs : List LimCon) (X Y : BDS) (tp : Option Nat) (hWF : BDS.WF n X)
    (hn : n ≠ 0) (hx : X.empty = false) (hy : Y.empty = false)
    (hcsd : csd ≤ n) (c : LimCon) (hc : c ∈ cs) (hsel : bdLimSel csd c = true) (heq : c.isEq = true)
    (hex : bdLimBound up csd c = fin ((c.inhomo : Rat) / (bdLimCoeff csd c : Rat)))
    (hex1 : bdLimBound1 up csd c = fin (((- c.inhomo : Int) : Rat) / (bdLimCoeff csd c : Rat)))
    (hsat : (bdClosureAssign up n X).dbm (bdLimCell csd c).1 (bdLimCell csd c).2 ≤ bdLimBound up csd c)
    (hsat1 : (bdClosureAssign up n X).dbm (bdLimCell csd c).2 (bdLimCell csd c).1 ≤ bdLimBound1 up csd c)
    (p0 : Nat → Rat) (hp0 : BDS.γ n X p0)
    (p : Nat → Rat) (hp : BDS.γ n (bdLimitedCC76 up n csd cs X Y tp).1 p) :
    linEval c.coeff p csd + c.inhomo = 0 := by
  rw [bdLimitedCC76_eq up n csd cs X Y tp hn hx hy] at hp
  exact bdLimited_keeps_eq_exact hup n csd cs X _ hWF
    (bdCC76_dom hup n defaultStops _ Y tp (bdClosureAssign_idem up n X)) hn hcsd c hc hsel heq hex hex1 hsat hsat1
    p0 hp0 p hp

/-- BHMZ05, supplied inequality, exact quotient -/
theorem bd_limited_bhmz05_keeps_exact (up : Rat → ExtRat) (n csd : Nat)
    (cs : List LimCon) (X Y : BDS) (tp : Option Nat) (hn : n ≠ 0) (hx : X.empty = false) (hy : Y.empty = false)
    (r : BDS × BDS × Option Nat × Mat) (hr : bdLimitedBHMZ05 up n csd cs X Y tp = some r)
    (hcsd : csd ≤ n) (c : LimCon) (hc : c ∈ cs) (hsel : bdLimSel csd c = true) (hineq : c.isEq = false)
    (hex : bdLimBound up csd c = fin ((c.inhomo : Rat) / (bdLimCoeff csd c : Rat)))
    (hsat : (bdClosureAssign up n X).dbm (bdLimCell csd c).1 (bdLimCell csd c).2 ≤ bdLimBound up csd c)
    (p : Nat → Rat) (hp : BDS.γ n r.1 p) :
    0 ≤ linEval c.coeff p csd + c.inhomo := by
  obtain ⟨P, hP, hR⟩ := bdLimitedBHMZ05_eq up n csd cs X Y tp hn hx hy r hr
  rw [hR] at hp
  exact bdLimited_keeps_exact up n csd cs X _
    (bdBHMZ05_dom up n _ Y tp (bdClosureAssign_idem up n X) P hP) hn hcsd c hc hsel hineq hex hsat p hp

/-- BHMZ05, supplied equality, exact quotients, receiver with a point -/
theorem bd_limited_bhmz05_keeps_eq_exact {up : Rat → ExtRat} (hup : ∀ q, fin q ≤ up q) (n csd : Nat)
    (cs : List LimCon) (X Y : BDS) (tp : Option Nat) (hWF : BDS.WF n X)
    (hn : n ≠ 0) (hx : X.empty = false) (hy : Y.empty = false)
    (r : BDS × BDS × Option Nat × Mat) (hr : bdLimitedBHMZ05 up n csd cs X Y tp = some r)
    (hcsd : csd ≤ n) (c : LimCon) (hc : c ∈ cs) (hsel : bdLimSel csd c = true) (heq : c.isEq = true)
    (hex : bdLimBound up csd c = fin ((c.inhomo : Rat) / (bdLimCoeff csd c : Rat)))
    (hex1 : bdLimBound1 up csd c = fin (((- c.inhomo : Int) : Rat) / (bdLimCoeff csd c : Rat)))
    (hsat : (bdClosureAssign up n X).dbm (bdLimCell csd c).1 (bdLimCell csd c).2 ≤ bdLimBound up csd c)
    (hsat1 : (bdClosureAssign up n X).dbm (bdLimCell csd c).2 (bdLimCell csd c).1 ≤ bdLimBound1 up csd c)
    (p0 : Nat → Rat) (hp0 : BDS.γ n X p0) (p : Nat → Rat) (hp : BDS.γ n r.1 p) :
    linEval c.coeff p csd + c.inhomo = 0 := by
  obtain ⟨P, hP, hR⟩ := bdLimitedBHMZ05_eq up n csd cs X Y tp hn hx hy r hr
  rw [hR] at hp
  exact bdLimited_keeps_eq_exact hup n csd cs X _ hWF
    (bdBHMZ05_dom up n _ Y tp (bdClosureAssign_idem up n X) P hP) hn hcsd c hc hsel heq hex hex1 hsat hsat1
    p0 hp0 p hp

/-- with `upId` (exact rational coefficients) both quotients are exact -/
theorem bdLimBound_upId (csd : Nat) (c : LimCon) :
    bdLimBound upId csd c = fin ((c.inhomo : Rat) / (bdLimCoeff csd c : Rat)) ∧
    bdLimBound1 upId csd c = fin (((- c.inhomo : Int) : Rat) / (bdLimCoeff csd c : Rat)) := ⟨rfl, rfl⟩

end PPLV.Widen

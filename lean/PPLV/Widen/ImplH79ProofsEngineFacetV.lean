import PPLV.Widen.ImplH79ProofsEngineFacet0
import Mathlib.Tactic.Ring
import Mathlib.Tactic.Linarith
import Mathlib.Algebra.Order.Group.Abs

/-!
# integer vectors of the homogeneous space: `sp` is linear, the cone is a cone,
interior vectors, absorption (`N·u + v` is in the cone for `N` large)
-/
namespace PPLV.Widen.Impl

theorem sp_nilL (a : Vec) : sp [] a = 0 := by cases a <;> rfl
theorem sp_nilR (a : Vec) : sp a [] = 0 := by cases a <;> rfl

theorem length_zadd (a b : Vec) (h : a.length = b.length) : (zadd a b).length = a.length := by
  simp [zadd, h]

theorem length_zsmul (k : Int) (a : Vec) : (zsmul k a).length = a.length := by simp [zsmul]

theorem sp_zadd : ∀ (c a b : Vec), a.length = b.length → sp c (zadd a b) = sp c a + sp c b
  | [], a, b, _ => by simp [sp_nilL]
  | c :: cs, [], [], _ => by simp [sp_nilR, zadd]
  | c :: cs, [], b :: bs, h => by simp at h
  | c :: cs, a :: as, [], h => by simp at h
  | c :: cs, a :: as, b :: bs, h => by
    have ih := sp_zadd cs as bs (by simpa using h)
    simp only [zadd, List.zipWith_cons_cons, sp] at ih ⊢
    rw [ih]; ring

theorem sp_zsmul : ∀ (c : Vec) (k : Int) (a : Vec), sp c (zsmul k a) = k * sp c a
  | [], k, a => by simp [sp_nilL]
  | c :: cs, k, [] => by simp [sp_nilR, zsmul]
  | c :: cs, k, a :: as => by
    have ih := sp_zsmul cs k as
    simp only [zsmul, List.map_cons, sp] at ih ⊢
    rw [ih]; ring

/-- the equalities vanish at `v` -/
def InE (n : Nat) (y : YMin) (v : Vec) : Prop :=
  v.length = n + 1 ∧ ∀ c ∈ y.conSys, c.eq = true → sp c.e v = 0

theorem InK.nonneg {n : Nat} {y : YMin} {v : Vec} (hv : InK n y v) {c : CRow} (hc : c ∈ y.conSys)
    (he : c.eq = false) : 0 ≤ sp c.e v := by
  have := hv.2 c hc
  unfold CRow.holdsZ at this
  simpa [he] using this

theorem InK.eqz {n : Nat} {y : YMin} {v : Vec} (hv : InK n y v) {c : CRow} (hc : c ∈ y.conSys)
    (he : c.eq = true) : sp c.e v = 0 := by
  have := hv.2 c hc
  unfold CRow.holdsZ at this
  simpa [he] using this

theorem InK.inE {n : Nat} {y : YMin} {v : Vec} (hv : InK n y v) : InE n y v :=
  ⟨hv.1, fun _ hc he => hv.eqz hc he⟩

theorem InE.zadd {n : Nat} {y : YMin} {a b : Vec} (ha : InE n y a) (hb : InE n y b) :
    InE n y (zadd a b) := by
  have hl : a.length = b.length := by rw [ha.1, hb.1]
  refine ⟨by rw [length_zadd _ _ hl, ha.1], fun c hc he => ?_⟩
  rw [sp_zadd _ _ _ hl, ha.2 c hc he, hb.2 c hc he]; rfl

theorem InE.zsmul {n : Nat} {y : YMin} {a : Vec} (k : Int) (ha : InE n y a) :
    InE n y (zsmul k a) := by
  refine ⟨by rw [length_zsmul, ha.1], fun c hc he => ?_⟩
  rw [sp_zsmul, ha.2 c hc he]; ring

theorem InK.zadd {n : Nat} {y : YMin} {a b : Vec} (ha : InK n y a) (hb : InK n y b) :
    InK n y (zadd a b) := by
  have hl : a.length = b.length := by rw [ha.1, hb.1]
  refine ⟨by rw [length_zadd _ _ hl, ha.1], fun c hc => ?_⟩
  unfold CRow.holdsZ
  rw [sp_zadd _ _ _ hl]
  cases he : c.eq
  · have h1 := ha.nonneg hc he
    have h2 := hb.nonneg hc he
    simp only [Bool.false_eq_true, if_false]
    linarith
  · have h1 := ha.eqz hc he
    have h2 := hb.eqz hc he
    simp only [if_true]
    rw [h1, h2]; rfl

theorem InK.zsmul {n : Nat} {y : YMin} {a : Vec} (k : Int) (hk : 0 ≤ k) (ha : InK n y a) :
    InK n y (zsmul k a) := by
  refine ⟨by rw [length_zsmul, ha.1], fun c hc => ?_⟩
  unfold CRow.holdsZ
  rw [sp_zsmul]
  cases he : c.eq
  · have h1 := ha.nonneg hc he
    simp only [Bool.false_eq_true, if_false]
    exact mul_nonneg hk h1
  · have h1 := ha.eqz hc he
    simp only [if_true]
    rw [h1]; ring

/-- every generator is in the cone -/
theorem gen_inK {n : Nat} {y : YMin} (hy : EngineDD n y) {g : GRow} (hg : g ∈ y.genSys) :
    InK n y g.e := by
  refine ⟨hy.gwf g hg, fun c hc => ?_⟩
  have := hy.gens_in g hg c hc
  unfold CRow.holdsZ
  cases he : c.eq <;> cases hl : g.line <;> simp [he, hl] at this ⊢ <;> omega

/-- lines: also the opposite vector is in the cone -/
theorem line_neg_inK {n : Nat} {y : YMin} (hy : EngineDD n y) {g : GRow} (hg : g ∈ y.genSys)
    (hl : g.line = true) (k : Int) : InK n y (zsmul k g.e) := by
  refine ⟨by rw [length_zsmul, hy.gwf g hg], fun c hc => ?_⟩
  have := hy.gens_in g hg c hc
  simp only [hl, Bool.or_true, if_true] at this
  unfold CRow.holdsZ
  rw [sp_zsmul, this]
  split_ifs <;> simp

theorem exists_interior_aux {n : Nat} {y : YMin} (hy : EngineDD n y) :
    ∀ L : List CRow, (∀ c ∈ L, c ∈ y.conSys) →
      ∃ z, InK n y z ∧ ∀ c ∈ L, c.eq = false → 0 < sp c.e z
  | [], _ => by
    obtain ⟨g, hg, _, _⟩ := hy.hasPoint
    refine ⟨zsmul 0 g.e, (gen_inK hy hg).zsmul 0 (le_refl _), ?_⟩
    intro c hc; simp at hc
  | c :: L, hL => by
    obtain ⟨z', hz', hpos⟩ := exists_interior_aux hy L (fun c' hc' => hL c' (List.mem_cons_of_mem _ hc'))
    have hcm : c ∈ y.conSys := hL c List.mem_cons_self
    cases he : c.eq
    · obtain ⟨g, hg, hgpos⟩ := hy.proper c hcm he
      have hgK := gen_inK hy hg
      have hl : z'.length = g.e.length := by rw [hz'.1, hgK.1]
      refine ⟨zadd z' g.e, hz'.zadd hgK, ?_⟩
      intro c' hc' he'
      rw [sp_zadd _ _ _ hl]
      rcases List.mem_cons.mp hc' with rfl | hc''
      · have := hz'.nonneg hcm he
        linarith
      · have h1 := hpos c' hc'' he'
        have h2 := hgK.nonneg (hL c' hc') he'
        linarith
    · refine ⟨z', hz', ?_⟩
      intro c' hc' he'
      rcases List.mem_cons.mp hc' with rfl | hc''
      · rw [he] at he'; cases he'
      · exact hpos c' hc'' he'

/-- an interior vector of the cone: all inequalities strictly positive -/
theorem exists_interior {n : Nat} {y : YMin} (hy : EngineDD n y) :
    ∃ z, InK n y z ∧ ∀ c ∈ y.conSys, c.eq = false → 0 < sp c.e z :=
  exists_interior_aux hy y.conSys (fun _ h => h)

theorem absorb_aux {n : Nat} {y : YMin} (u v : Vec) (hu : InK n y u) (hv : InE n y v) :
    ∀ L : List CRow, (∀ c ∈ L, c ∈ y.conSys) →
      (∀ c ∈ L, c.eq = false → 0 < sp c.e u ∨ 0 ≤ sp c.e v) →
      ∃ N : Int, 0 ≤ N ∧ ∀ M, N ≤ M → ∀ c ∈ L, c.holdsZ (zadd (zsmul M u) v)
  | [], _, _ => ⟨0, le_refl _, fun _ _ c hc => by simp at hc⟩
  | c :: L, hL, hcond => by
    obtain ⟨N', hN', hall⟩ := absorb_aux u v hu hv L
      (fun c' hc' => hL c' (List.mem_cons_of_mem _ hc'))
      (fun c' hc' => hcond c' (List.mem_cons_of_mem _ hc'))
    have hcm : c ∈ y.conSys := hL c List.mem_cons_self
    refine ⟨N' + |sp c.e v|, by have := abs_nonneg (sp c.e v); linarith, ?_⟩
    intro M hM c' hc'
    have habs := abs_nonneg (sp c.e v)
    rcases List.mem_cons.mp hc' with rfl | hc''
    · have hl : (zsmul M u).length = v.length := by rw [length_zsmul, hu.1, hv.1]
      unfold CRow.holdsZ
      rw [sp_zadd _ _ _ hl, sp_zsmul]
      cases he : c'.eq
      · simp only [Bool.false_eq_true, if_false]
        have hM0 : 0 ≤ M := by linarith
        rcases hcond c' List.mem_cons_self he with h | h
        · have h1 : M ≤ M * sp c'.e u := by nlinarith
          have h2 := neg_abs_le (sp c'.e v)
          linarith
        · have h1 := mul_nonneg hM0 (hu.nonneg hcm he)
          linarith
      · simp only [if_true]
        rw [hu.eqz hcm he, hv.2 c' hcm he]; ring
    · exact hall M (by linarith) c' hc''

/-- absorption: `N·u + v` is in the cone for some `N ≥ 0` when `u` is in the cone, the equalities
    vanish at `v`, and every inequality is strict at `u` or holds at `v` -/
theorem absorb {n : Nat} {y : YMin} (u v : Vec) (hu : InK n y u) (hv : InE n y v)
    (hcond : ∀ c ∈ y.conSys, c.eq = false → 0 < sp c.e u ∨ 0 ≤ sp c.e v) :
    ∃ N : Int, 0 ≤ N ∧ InK n y (zadd (zsmul N u) v) := by
  obtain ⟨N, hN, hall⟩ := absorb_aux u v hu hv y.conSys (fun _ h => h) hcond
  refine ⟨N, hN, ?_, hall N (le_refl _)⟩
  rw [length_zadd _ _ (by rw [length_zsmul, hu.1, hv.1]), length_zsmul, hu.1]

end PPLV.Widen.Impl

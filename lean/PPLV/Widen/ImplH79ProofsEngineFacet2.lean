import PPLV.Widen.ImplH79ProofsEngineFacet1
import PPLV.Widen.ImplH79ProofsEngineFacetC

/-!
# `hfacet`: the two cases (`cj` an equality, `cj` a facet), on integer vectors
-/
namespace PPLV.Widen.Impl

/-- case `cj` equality: both forms vanish wherever the equalities vanish -/
theorem facet_eq_case {n : Nat} {y : YMin} (hy : EngineDD n y) (ci cj : CRow) (hcj : cj ∈ y.conSys)
    (ha : ValidG y ci.e) (hsat : ∀ g ∈ y.genSys, (0 < sp ci.e g.e ↔ 0 < sp cj.e g.e))
    (hjeq : cj.eq = true) (v : Vec) (hv : InE n y v) : sp ci.e v = 0 ∧ sp cj.e v = 0 := by
  have hb0 : ∀ g ∈ y.genSys, sp cj.e g.e = 0 := fun g hg => (gen_inK hy hg).eqz hcj hjeq
  have ha0 : ∀ g ∈ y.genSys, sp ci.e g.e = 0 := by
    intro g hg
    have h1 : ¬ 0 < sp ci.e g.e := fun h => by
      have := (hsat g hg).mp h
      rw [hb0 g hg] at this
      exact lt_irrefl _ this
    have h2 := ha g hg
    split_ifs at h2
    · exact h2
    · omega
  obtain ⟨z, hz, hzpos⟩ := exists_interior hy
  obtain ⟨N, _, hNK⟩ := absorb z v hz hv (fun c hc he => Or.inl (hzpos c hc he))
  have h1 := complete_zero hy ci.e ha0 _ hNK
  have h2 := complete_zero hy ci.e ha0 _ hz
  rw [sp_zadd _ _ _ (by rw [length_zsmul, hz.1, hv.1]), sp_zsmul, h2] at h1
  exact ⟨by linarith, hv.2 cj hcj hjeq⟩

/-- case `cj` inequality: the two forms are proportional on the space where the equalities vanish -/
theorem facet_ineq_key {n : Nat} {y : YMin} (hy : EngineDD n y) (ci cj : CRow) (hcj : cj ∈ y.conSys)
    (ha : ValidG y ci.e) (hsat : ∀ g ∈ y.genSys, (0 < sp ci.e g.e ↔ 0 < sp cj.e g.e))
    (hjeq : cj.eq = false) :
    ∃ z, InK n y z ∧ 0 < sp cj.e z ∧
      ∀ v, InE n y v → sp cj.e z * sp ci.e v = sp cj.e v * sp ci.e z := by
  have hb := cj_validG hy hcj
  obtain ⟨z, hz, hzpos⟩ := exists_interior hy
  have hbz := hzpos cj hcj hjeq
  -- the vector violating only row `cj`
  obtain ⟨j, hj, hjc⟩ := List.getElem_of_mem hcj
  have hgetj : y.conSys.getD j default = cj := by rw [List.getD_eq_getElem _ _ hj]; exact hjc
  obtain ⟨x, hxl, hxo, hxn⟩ := hy.irred j hj (by rw [hgetj]; exact hjeq)
  rw [hgetj, holdsZ_ineq hjeq] at hxn
  have hbx : sp cj.e x < 0 := not_le.mp hxn
  have hxother : ∀ c ∈ y.conSys, c ≠ cj → c.holdsZ x := by
    intro c hc hne
    obtain ⟨k, hk, hkc⟩ := List.getElem_of_mem hc
    have hgetk : y.conSys.getD k default = c := by rw [List.getD_eq_getElem _ _ hk]; exact hkc
    have hkj : k ≠ j := by
      rintro rfl
      exact hne (hkc.symm.trans hjc)
    have := hxo k hk hkj
    rwa [hgetk] at this
  -- `w` on the facet, strictly inside every other inequality
  have hapos : 0 < - sp cj.e x := by linarith
  have hlw : (zsmul (- sp cj.e x) z).length = (zsmul (sp cj.e z) x).length := by
    rw [length_zsmul, length_zsmul, hz.1, hxl]
  have hspw : ∀ c : Vec, sp c (zadd (zsmul (- sp cj.e x) z) (zsmul (sp cj.e z) x)) =
      (- sp cj.e x) * sp c z + sp cj.e z * sp c x := by
    intro c
    rw [sp_zadd _ _ _ hlw, sp_zsmul, sp_zsmul]
  have hbw : sp cj.e (zadd (zsmul (- sp cj.e x) z) (zsmul (sp cj.e z) x)) = 0 := by
    rw [hspw]; ring
  have hwK : InK n y (zadd (zsmul (- sp cj.e x) z) (zsmul (sp cj.e z) x)) := by
    refine ⟨by rw [length_zadd _ _ hlw, length_zsmul, hz.1], fun c hc => ?_⟩
    by_cases hcc : c = cj
    · rw [hcc, holdsZ_ineq hjeq, hbw]
    · exact holdsZ_zadd c _ _ hlw (holdsZ_zsmul c _ (le_of_lt hapos) z (hz.2 c hc))
        (holdsZ_zsmul c _ (le_of_lt hbz) x (hxother c hc hcc))
  have hwpos : ∀ c ∈ y.conSys, c.eq = false → c ≠ cj →
      0 < sp c.e (zadd (zsmul (- sp cj.e x) z) (zsmul (sp cj.e z) x)) := by
    intro c hc he hne
    rw [hspw]
    have h1 := hzpos c hc he
    have h2 : 0 ≤ sp c.e x := (holdsZ_ineq he x).mp (hxother c hc hne)
    have h3 := mul_pos hapos h1
    have h4 := mul_nonneg (le_of_lt hbz) h2
    linarith
  have haw : sp ci.e (zadd (zsmul (- sp cj.e x) z) (zsmul (sp cj.e z) x)) = 0 :=
    complete_sat hy ci.e cj.e ha hb (fun g hg => (hsat g hg).mp) _ hwK hbw
  -- forms vanishing with `cj`
  have half : ∀ v, InE n y v → sp cj.e v = 0 → 0 ≤ sp ci.e v := by
    intro v hv hbv
    obtain ⟨N, _, hNK⟩ := absorb _ v hwK hv (fun c hc he => by
      by_cases hcc : c = cj
      · right; rw [hcc, hbv]
      · left; exact hwpos c hc he hcc)
    have h1 := complete_nonneg hy ci.e ha _ hNK
    rw [sp_zadd _ _ _ (by rw [length_zsmul, hwK.1, hv.1]), sp_zsmul, haw] at h1
    linarith
  have hvan : ∀ v, InE n y v → sp cj.e v = 0 → sp ci.e v = 0 := by
    intro v hv hbv
    have h1 := half v hv hbv
    have h2 := half (zsmul (-1) v) (hv.zsmul (-1)) (by rw [sp_zsmul, hbv]; ring)
    rw [sp_zsmul] at h2
    linarith
  refine ⟨z, hz, hbz, fun v hv => ?_⟩
  have hl : (zsmul (sp cj.e z) v).length = (zsmul (- sp cj.e v) z).length := by
    rw [length_zsmul, length_zsmul, hv.1, hz.1]
  have h := hvan (zadd (zsmul (sp cj.e z) v) (zsmul (- sp cj.e v) z))
    ((hv.zsmul _).zadd (hz.inE.zsmul _))
    (by rw [sp_zadd _ _ _ hl, sp_zsmul, sp_zsmul]; ring)
  rw [sp_zadd _ _ _ hl, sp_zsmul, sp_zsmul] at h
  linarith

/-- the two rows agree wherever the equalities vanish -/
theorem facet_core {n : Nat} {y : YMin} (hy : EngineDD n y) (ci cj : CRow) (hcj : cj ∈ y.conSys)
    (ha : ValidG y ci.e) (haeq : ci.eq = true → ∀ g ∈ y.genSys, sp ci.e g.e = 0)
    (hsat : ∀ g ∈ y.genSys, (0 < sp ci.e g.e ↔ 0 < sp cj.e g.e))
    (v : Vec) (hv : InE n y v) : ci.holdsZ v ↔ cj.holdsZ v := by
  cases hjeq : cj.eq
  · obtain ⟨z, hz, hbz, hprop⟩ := facet_ineq_key hy ci cj hcj ha hsat hjeq
    have haz0 : 0 ≤ sp ci.e z := complete_nonneg hy ci.e ha z hz
    have haz : 0 < sp ci.e z := by
      rcases lt_or_eq_of_le haz0 with h | h
      · exact h
      · exfalso
        obtain ⟨g, hg, hgpos⟩ := hy.proper cj hcj hjeq
        have h1 := hprop g.e (gen_inK hy hg).inE
        rw [← h, mul_zero] at h1
        have h2 : sp ci.e g.e = 0 := by
          rcases mul_eq_zero.mp h1 with h3 | h3
          · omega
          · exact h3
        have h3 := (hsat g hg).mpr hgpos
        omega
    cases hieq : ci.eq
    · rw [holdsZ_ineq hieq, holdsZ_ineq hjeq]
      have h := hprop v hv
      constructor
      · intro h1
        have h2 : 0 ≤ sp cj.e v * sp ci.e z := by rw [← h]; exact mul_nonneg (le_of_lt hbz) h1
        exact nonneg_of_mul_nonneg_left h2 haz
      · intro h1
        have h2 : 0 ≤ sp ci.e v * sp cj.e z := by
          rw [mul_comm, h]; exact mul_nonneg h1 (le_of_lt haz)
        exact nonneg_of_mul_nonneg_left h2 hbz
    · exfalso
      have := complete_zero hy ci.e (haeq hieq) z hz
      omega
  · obtain ⟨h1, h2⟩ := facet_eq_case hy ci cj hcj ha hsat hjeq v hv
    rw [holdsZ_eq hjeq]
    unfold CRow.holdsZ
    split_ifs
    · exact ⟨fun _ => h2, fun _ => h1⟩
    · exact ⟨fun _ => h2, fun _ => le_of_eq h1.symm⟩

end PPLV.Widen.Impl

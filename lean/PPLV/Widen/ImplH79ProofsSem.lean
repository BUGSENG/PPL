import PPLV.Widen.ImplPolySem
import PPLV.Widen.ImplH79Proofs
import Mathlib.Algebra.BigOperators.Fin
import Mathlib.Tactic.Linarith

/-!
# semantic lemmas about raw rows: `evalRow`, `den`, tautologies, affine forms
-/
namespace PPLV.Widen.Impl

theorem mem_den_false {n : Nat} {cs : List CRow} {p : Pt} :
    p ∈ den false n cs ↔ SatRows cs (hom n p 0) := Iff.rfl

theorem mem_den_true {n : Nat} {cs : List CRow} {p : Pt} :
    p ∈ den true n cs ↔ ∃ ε : Rat, 0 < ε ∧ SatRows cs (hom n p ε) := Iff.rfl

theorem SatRows.sublist {a b : List CRow} (h : a.Sublist b) {v : Nat → Rat} (hb : SatRows b v) :
    SatRows a v := fun c hc => hb c (h.subset hc)

theorem satRows_append {a b : List CRow} {v : Nat → Rat} :
    SatRows (a ++ b) v ↔ SatRows a v ∧ SatRows b v := by
  unfold SatRows
  simp only [List.mem_append]
  constructor
  · intro h; exact ⟨fun c hc => h c (Or.inl hc), fun c hc => h c (Or.inr hc)⟩
  · rintro ⟨h1, h2⟩ c (hc | hc)
    · exact h1 c hc
    · exact h2 c hc

/-- fewer constraints, more points (both topologies) -/
theorem den_mono_sublist (nnc : Bool) (n : Nat) {a b : List CRow} (h : a.Sublist b) :
    den nnc n b ⊆ den nnc n a := by
  intro p hp
  cases nnc
  · exact SatRows.sublist h hp
  · obtain ⟨ε, he, hs⟩ := hp
    exact ⟨ε, he, SatRows.sublist h hs⟩

theorem wfRows_sublist {n : Nat} {a b : List CRow} (h : a.Sublist b) (hb : WFRows n b) : WFRows n a :=
  fun c hc => hb c (h.subset hc)

/-! ### `evalRow` -/

theorem evalRow_eq_sum : ∀ (e : Vec) (v : Nat → Rat) (m : Nat), e.length ≤ m →
    evalRow e v = ∑ i ∈ Finset.range m, ((e.getD i 0 : Int) : Rat) * v i
  | [], v, m, _ => by simp [evalRow]
  | a :: as, v, m, h => by
    obtain ⟨m', rfl⟩ : ∃ m', m = m' + 1 := ⟨m - 1, by simp at h; omega⟩
    rw [Finset.sum_range_succ', evalRow, evalRow_eq_sum as _ m' (by simpa using h)]
    simp [add_comm]

theorem evalRow_all_zero : ∀ (e : Vec) (v : Nat → Rat), e.all (· == 0) = true → evalRow e v = 0
  | [], _, _ => rfl
  | a :: as, v, h => by
    simp only [List.all_cons, Bool.and_eq_true, beq_iff_eq] at h
    rw [evalRow, evalRow_all_zero as _ h.2, h.1]
    simp

/-- the affine form of a raw row -/
def affOf (n : Nat) (e : Vec) : Fin (n + 1) → ℚ := fun i => ((e.getD i.val 0 : Int) : ℚ)

/-- glue between `evalRow` at the homogeneous vector and the affine forms of `annih` -/
theorem evalRow_hom (n : Nat) (e : Vec) (h : e.length ≤ n + 1) (p : Pt) (ε : Rat) :
    evalRow e (hom n p ε) = affOf n e 0 + ∑ i : Fin n, affOf n e i.succ * p i := by
  have e2 : ∑ i : Fin n, affOf n e i.succ * p i =
      ∑ i ∈ Finset.range n, ((e.getD (i + 1) 0 : Int) : ℚ) * p i := by
    rw [Finset.sum_range]
    rfl
  rw [evalRow_eq_sum e _ (n + 1) h, Finset.sum_range_succ', e2]
  rw [add_comm]
  congr 1
  · simp [hom, affOf]
  · apply Finset.sum_congr rfl
    intro i hi
    have hi' : i < n := Finset.mem_range.mp hi
    have h1 : i + 1 ≤ n := hi'
    simp [hom, h1]

theorem affOf_mem_annih {n : Nat} {e : Vec} (h : e.length ≤ n + 1) {S : Set Pt} :
    affOf n e ∈ annih n S ↔ ∀ p ∈ S, evalRow e (hom n p 0) = 0 := by
  constructor
  · intro ha p hp
    rw [evalRow_hom n e h]
    exact ha p hp
  · intro ha p hp
    have := ha p hp
    rw [evalRow_hom n e h] at this
    exact this

theorem annih_anti {n : Nat} {S T : Set Pt} (h : S ⊆ T) : annih n T ≤ annih n S :=
  fun _ ha p hp => ha p (h hp)

/-! ### tautologies of a closed system hold everywhere -/

theorem holds_of_taut {c : CRow} (h : c.isTautological false = true) (v : Nat → Rat) (hv : v 0 = 1) :
    c.holds v := by
  unfold CRow.isTautological at h
  by_cases hz : allHomZero c.e = true
  · rw [if_pos hz] at h
    rcases c with ⟨e, eq⟩
    cases e with
    | nil =>
      unfold CRow.holds
      simp [evalRow]
    | cons a as =>
      have h0 : evalRow (a :: as) v = (a : ℚ) := by
        rw [evalRow, evalRow_all_zero as _ (by simpa [allHomZero] using hz), hv]; simp
      unfold CRow.holds
      cases eq
      · simp only [Bool.false_eq_true, if_false, List.headD_cons] at h
        have h' : 0 ≤ a := of_decide_eq_true h
        simp only [Bool.false_eq_true, if_false, h0]
        exact_mod_cast h'
      · simp only [if_true, List.headD_cons, beq_iff_eq] at h
        simp only [if_true, h0]
        exact_mod_cast h
  · rw [if_neg hz] at h
    simp at h

theorem hom_zero (n : Nat) (p : Pt) (ε : Rat) : hom n p ε 0 = 1 := by simp [hom]

/-- dropping the tautologies does not change the set -/
theorem den_filter_nontaut (n : Nat) (cs : List CRow) :
    den false n (cs.filter (!·.isTautological false)) = den false n cs := by
  apply Set.Subset.antisymm
  · intro p hp c hc
    by_cases ht : c.isTautological false = true
    · exact holds_of_taut ht _ (hom_zero n p 0)
    · exact hp c (List.mem_filter.mpr ⟨hc, by simpa using ht⟩)
  · exact den_mono_sublist false n List.filter_sublist

/-! ### `h79Rows` -/

theorem h79Rows_eq (x y : YMin) :
    h79Rows x y = (selectH79Constraints false x.conSys y.conSys y.genSys y.satG).1 := by
  unfold h79Rows
  by_cases h : (selectH79Constraints false x.conSys y.conSys y.genSys y.satG).2.isEmpty = true
  · simp only [h, if_true]
    exact (selectH79_fst_of_snd_empty _ _ _ _ _ h).symm
  · simp only [h]
    rfl

theorem h79Rows_sublist (x y : YMin) : (h79Rows x y).Sublist x.conSys := by
  rw [h79Rows_eq, selectH79_fst]
  exact List.filter_sublist

end PPLV.Widen.Impl

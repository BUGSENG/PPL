import PPLV.Widen.ImplH79Proofs
import Mathlib.Tactic.SplitIfs

/-!
# `H79_widening_assign`: the ways out of the driver
-/
namespace PPLV.Widen.Impl

theorem commit_cases (o : Oracle) (cs : List CRow) (tp : Option Nat) :
    (commit o cs tp).1 = .unchanged ∨ (commit o cs tp).1 = .fresh cs := by
  unfold commit
  rcases tp with _ | t
  · exact Or.inr rfl
  · dsimp only
    split_ifs <;> first | exact Or.inl rfl | exact Or.inr rfl

theorem commit_token (o : Oracle) (cs : List CRow) (t : Nat) (ht : 0 < t) :
    (commit o cs (some t)).1 = .unchanged := by
  unfold commit
  dsimp only
  rw [if_pos ht]
  split_ifs <;> rfl

/-- every way out of `H79_widening_assign` -/
theorem h79_cases (x : Poly) (yEmpty : Bool) (o : Oracle) (tp : Option Nat) :
    (h79WideningAssign x yEmpty o tp).1 = .unchanged ∨
    (∃ y, o.yMin = some y ∧ (x.pendingGens || !x.consUpToDate) = true ∧
      (selectCH78Constraints x.nnc x.genSys y.conSys).length = y.conSys.length ∧
      (h79WideningAssign x yEmpty o tp).1 = .assignY) ∨
    (∃ y, o.yMin = some y ∧ (x.pendingGens || !x.consUpToDate) = true ∧
      (h79WideningAssign x yEmpty o tp).1 = .fresh (selectCH78Constraints x.nnc x.genSys y.conSys)) ∨
    (h79WideningAssign x yEmpty o tp).1 =
      .fresh (selectH79Constraints x.nnc o.xConsUpdated o.ySel.conSys o.ySel.genSys o.ySel.satG).1 := by
  unfold h79WideningAssign
  by_cases h1 : (x.n == 0 || x.markedEmpty || yEmpty) = true
  · rw [if_pos h1]; exact Or.inl rfl
  · rw [if_neg h1]
    cases hy : o.yMin with
    | none => exact Or.inl rfl
    | some y =>
      dsimp only
      have tail : ((if (selectH79Constraints x.nnc o.xConsUpdated o.ySel.conSys o.ySel.genSys
              o.ySel.satG).2.isEmpty = true then ((Res.unchanged, tp) : Res × Option Nat)
            else commit o (selectH79Constraints x.nnc o.xConsUpdated o.ySel.conSys o.ySel.genSys
              o.ySel.satG).1 tp).1 = .unchanged) ∨
          ((if (selectH79Constraints x.nnc o.xConsUpdated o.ySel.conSys o.ySel.genSys
              o.ySel.satG).2.isEmpty = true then ((Res.unchanged, tp) : Res × Option Nat)
            else commit o (selectH79Constraints x.nnc o.xConsUpdated o.ySel.conSys o.ySel.genSys
              o.ySel.satG).1 tp).1 =
            .fresh (selectH79Constraints x.nnc o.xConsUpdated o.ySel.conSys o.ySel.genSys o.ySel.satG).1) := by
        split_ifs
        · exact Or.inl rfl
        · exact commit_cases _ _ _
      by_cases hp : (x.pendingGens || !x.consUpToDate) = true
      · rw [if_pos hp]
        by_cases hl : ((selectCH78Constraints x.nnc x.genSys y.conSys).length == y.conSys.length) = true
        · rw [if_pos hl]
          exact Or.inr (Or.inl ⟨y, rfl, hp, by simpa using hl, rfl⟩)
        · rw [if_neg hl]
          by_cases he : (numEqualities (selectCH78Constraints x.nnc x.genSys y.conSys) ==
              numEqualities y.conSys) = true
          · rw [if_pos he]
            dsimp only
            rcases commit_cases o (selectCH78Constraints x.nnc x.genSys y.conSys) tp with h | h
            · exact Or.inl h
            · exact Or.inr (Or.inr (Or.inl ⟨y, rfl, hp, h⟩))
          · rw [if_neg he]
            dsimp only
            rcases tail with h | h
            · exact Or.inl h
            · exact Or.inr (Or.inr (Or.inr h))
      · rw [if_neg hp]
        dsimp only
        rcases tail with h | h
        · exact Or.inl h
        · exact Or.inr (Or.inr (Or.inr h))

/-- the ways out of a non-trivial call without tokens -/
theorem h79_cases_notoken (x : Poly) (yEmpty : Bool) (o : Oracle) (y : YMin)
    (h1 : (x.n == 0 || x.markedEmpty || yEmpty) = false) (hy : o.yMin = some y) :
    ((h79WideningAssign x yEmpty o none).1 = .unchanged ∧
      (selectH79Constraints x.nnc o.xConsUpdated o.ySel.conSys o.ySel.genSys o.ySel.satG).2.isEmpty = true) ∨
    (h79WideningAssign x yEmpty o none).1 = .assignY ∨
    (h79WideningAssign x yEmpty o none).1 = .fresh (selectCH78Constraints x.nnc x.genSys y.conSys) ∨
    (h79WideningAssign x yEmpty o none).1 =
      .fresh (selectH79Constraints x.nnc o.xConsUpdated o.ySel.conSys o.ySel.genSys o.ySel.satG).1 := by
  unfold h79WideningAssign
  rw [h1, hy]
  simp only [Bool.false_eq_true, if_false]
  have tail : ((if (selectH79Constraints x.nnc o.xConsUpdated o.ySel.conSys o.ySel.genSys
            o.ySel.satG).2.isEmpty = true then ((Res.unchanged, none) : Res × Option Nat)
          else commit o (selectH79Constraints x.nnc o.xConsUpdated o.ySel.conSys o.ySel.genSys
            o.ySel.satG).1 none).1 = .unchanged ∧
        (selectH79Constraints x.nnc o.xConsUpdated o.ySel.conSys o.ySel.genSys o.ySel.satG).2.isEmpty = true) ∨
        ((if (selectH79Constraints x.nnc o.xConsUpdated o.ySel.conSys o.ySel.genSys
            o.ySel.satG).2.isEmpty = true then ((Res.unchanged, none) : Res × Option Nat)
          else commit o (selectH79Constraints x.nnc o.xConsUpdated o.ySel.conSys o.ySel.genSys
            o.ySel.satG).1 none).1 =
          .fresh (selectH79Constraints x.nnc o.xConsUpdated o.ySel.conSys o.ySel.genSys o.ySel.satG).1) := by
    split_ifs with h
    · exact Or.inl ⟨rfl, h⟩
    · exact Or.inr rfl
  by_cases hp : (x.pendingGens || !x.consUpToDate) = true
  · rw [if_pos hp]
    by_cases hl : ((selectCH78Constraints x.nnc x.genSys y.conSys).length == y.conSys.length) = true
    · rw [if_pos hl]
      exact Or.inr (Or.inl rfl)
    · rw [if_neg hl]
      by_cases he : (numEqualities (selectCH78Constraints x.nnc x.genSys y.conSys) ==
          numEqualities y.conSys) = true
      · rw [if_pos he]
        exact Or.inr (Or.inr (Or.inl rfl))
      · rw [if_neg he]
        dsimp only
        rcases tail with h | h
        · exact Or.inl h
        · exact Or.inr (Or.inr (Or.inr h))
  · rw [if_neg hp]
    dsimp only
    rcases tail with h | h
    · exact Or.inl h
    · exact Or.inr (Or.inr (Or.inr h))

/-- on the constraint path (`x` has up-to-date constraints and no pending generators) -/
theorem h79_cases_conspath (x : Poly) (yEmpty : Bool) (o : Oracle) (tp : Option Nat)
    (hpath : x.pendingGens = false ∧ x.consUpToDate = true) :
    (h79WideningAssign x yEmpty o tp).1 = .unchanged ∨
    (h79WideningAssign x yEmpty o tp).1 =
      .fresh (selectH79Constraints x.nnc o.xConsUpdated o.ySel.conSys o.ySel.genSys o.ySel.satG).1 := by
  rcases h79_cases x yEmpty o tp with h | ⟨y, _, hp, _⟩ | ⟨y, _, hp, _⟩ | h
  · exact Or.inl h
  · simp [hpath.1, hpath.2] at hp
  · simp [hpath.1, hpath.2] at hp
  · exact Or.inr h

theorem h79_token (x : Poly) (yEmpty : Bool) (o : Oracle) (t : Nat) (ht : 0 < t) :
    (h79WideningAssign x yEmpty o (some t)).1 = .unchanged ∨
    (h79WideningAssign x yEmpty o (some t)).1 = .assignY := by
  unfold h79WideningAssign
  by_cases h1 : (x.n == 0 || x.markedEmpty || yEmpty) = true
  · rw [if_pos h1]; exact Or.inl rfl
  · rw [if_neg h1]
    cases hy : o.yMin with
    | none => exact Or.inl rfl
    | some y =>
      dsimp only
      split_ifs <;> first | exact Or.inl rfl | exact Or.inr rfl | exact Or.inl (commit_token _ _ _ ht)

end PPLV.Widen.Impl

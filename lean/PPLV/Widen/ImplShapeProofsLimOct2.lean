import PPLV.Widen.ImplShapeProofsLimOct
import PPLV.Widen.ImplShapeProofsClose
/-!
# the limited extrapolations of `Octagonal_Shape`: between the receiver and the plain widening,
and which of the supplied constraints are kept (inequalities: yes; equalities: no)
-/
namespace PPLV.Widen
open PPLV.WR
open PPLV.WR.ExtRat (fin pinf le_rfl' le_trans' le_total' le_pinf)

theorem OCS.lim_γ_mono {n : Nat} {A B : OCS} (he : B.empty = A.empty) (h : octLE n A.mat B.mat) (p : Nat → Rat)
    (hp : OCS.γ n A p) : OCS.γ n B p :=
  ⟨he.trans hp.1, fun i j hi hj => le_trans' (hp.2 i j hi hj) (h i j hi hj)⟩

theorem octCC76_closed_arg (up : Rat → ExtRat) (n : Nat) (stops : List Rat) (X Y : OCS) (tp : Option Nat)
    (hn : n ≠ 0) :
    octCC76 up n stops (octClosureAssign up n X) Y tp = octCC76 up n stops X Y tp := by
  unfold octCC76
  simp only [hn, if_false, octClosureAssign_fix]

/-! ## CC76 -/

theorem oct_limited_cc76_between_cells {up : Rat → ExtRat} (hup : ∀ q, fin q ≤ up q) (n csd : Nat)
    (cs : List LimCon) (X Y : OCS) (tp : Option Nat) (hn : n ≠ 0) (hx : X.empty = false) (hy : Y.empty = false) :
    let Xc := octClosureAssign up n X
    let P := (octCC76 up n defaultStops X Y tp).1
    let R := (octLimitedCC76 up n csd cs X Y tp).1
    R.empty = Xc.empty ∧ P.empty = Xc.empty ∧ (∀ a b, Xc.mat a b ≤ R.mat a b) ∧ (∀ a b, R.mat a b ≤ P.mat a b) := by
  intro Xc P R
  have hfix : octClosureAssign up n Xc = Xc := octClosureAssign_fix up n X
  have hP : OCS.Dom Xc (octCC76 up n defaultStops Xc Y tp).1 := octCC76_dom hup n defaultStops Xc Y tp hfix
  have hR : R = octIntersectionAssign n (octCC76 up n defaultStops Xc Y tp).1
      (octGetLimitingOctagon up n csd cs X OCS.univ).2 := octLimitedCC76_eq up n csd cs X Y tp hn hx hy
  have hPP : P = (octCC76 up n defaultStops Xc Y tp).1 := by
    show (octCC76 up n defaultStops X Y tp).1 = _
    rw [octCC76_closed_arg up n defaultStops X Y tp hn]
  obtain ⟨h1, h2, h3, _⟩ := octLimited_core n Xc _ _ hP
    (by rw [octGetLimitingOctagon_empty]; rfl) (octGetLimitingOctagon_dom up n csd cs X)
  rw [hR, hPP]
  exact ⟨h1, hP.1, h2, h3⟩

/-- `limited_CC76_extrapolation_assign` (`Octagonal_Shape_templates.hh:4055`): the result contains the receiver
and is contained in the plain `CC76_extrapolation_assign` -/
theorem oct_limited_cc76_between {up : Rat → ExtRat} (hup : ∀ q, fin q ≤ up q) (n csd : Nat)
    (cs : List LimCon) (X Y : OCS) (tp : Option Nat) (hWF : OCS.WF n X)
    (hn : n ≠ 0) (hx : X.empty = false) (hy : Y.empty = false) (p : Nat → Rat) :
    (OCS.γ n X p → OCS.γ n (octLimitedCC76 up n csd cs X Y tp).1 p) ∧
    (OCS.γ n (octLimitedCC76 up n csd cs X Y tp).1 p → OCS.γ n (octCC76 up n defaultStops X Y tp).1 p) := by
  obtain ⟨h1, h2, h3, h4⟩ := oct_limited_cc76_between_cells hup n csd cs X Y tp hn hx hy
  constructor
  · intro hp
    exact OCS.lim_γ_mono h1 (fun i j _ _ => h3 i j) p (octClosureAssign_γ hup hWF hp)
  · intro hp
    exact OCS.lim_γ_mono (h2.trans h1.symm) (fun i j _ _ => h4 i j) p hp

/-- a supplied INEQUALITY that is an octagonal difference, whose cell is stored and which the closed receiver
satisfies at matrix level (`m_i_j <= d`, `:4013`), is a constraint of the result -/
theorem oct_limited_cc76_keeps {up : Rat → ExtRat} (hup : ∀ q, fin q ≤ up q) (n csd : Nat)
    (cs : List LimCon) (X Y : OCS) (tp : Option Nat) (hn : n ≠ 0) (hx : X.empty = false) (hy : Y.empty = false)
    (c : LimCon) (hc : c ∈ cs) (hsel : octLimSel csd c = true) (hineq : c.isEq = false)
    (hi : (octLimCell csd c).1 < 2 * n) (hj : (octLimCell csd c).2 < rowSize (octLimCell csd c).1)
    (hsat : (octClosureAssign up n X).mat (octLimCell csd c).1 (octLimCell csd c).2 ≤ octLimBound up csd c) :
    ((octClosureAssign up n X).empty = false →
      (octLimitedCC76 up n csd cs X Y tp).1.mat (octLimCell csd c).1 (octLimCell csd c).2 ≤ octLimBound up csd c) ∧
    ∀ p, OCS.γ n (octLimitedCC76 up n csd cs X Y tp).1 p →
      fin (OctM.oval p (octLimCell csd c).2 - OctM.oval p (octLimCell csd c).1) ≤ octLimBound up csd c := by
  have hfix := octClosureAssign_fix up n X
  have hP := octCC76_dom hup n defaultStops (octClosureAssign up n X) Y tp hfix
  have hR := octLimitedCC76_eq up n csd cs X Y tp hn hx hy
  obtain ⟨h1, _, _, h4⟩ := octLimited_core n (octClosureAssign up n X) _ _ hP
    (by rw [octGetLimitingOctagon_empty]; rfl) (octGetLimitingOctagon_dom up n csd cs X)
  rw [← hR] at h1 h4
  have key : (octClosureAssign up n X).empty = false →
      (octLimitedCC76 up n csd cs X Y tp).1.mat (octLimCell csd c).1 (octLimCell csd c).2 ≤ octLimBound up csd c :=
    fun hne => le_trans' (h4 hne hn _ _ hi hj) (octGetLimitingOctagon_keeps up n csd cs X _ c hc hsel hineq hsat)
  refine ⟨key, fun p hp => ?_⟩
  exact le_trans' (hp.2 _ _ hi hj) (key (h1.symm.trans hp.1))

/-! ## BHMZ05 -/

theorem oct_limited_bhmz05_between_cells (up : Rat → ExtRat) (n csd : Nat)
    (cs : List LimCon) (X Y : OCS) (tp : Option Nat) (hn : n ≠ 0) (hx : X.empty = false) (hy : Y.empty = false)
    (r : OCS × OCS × Option Nat × Mat) (hr : octLimitedBHMZ05 up n csd cs X Y tp = some r) :
    ∃ P, octBHMZ05 up n (octClosureAssign up n X) Y tp = some P ∧
      r.1.empty = (octClosureAssign up n X).empty ∧ P.1.empty = (octClosureAssign up n X).empty ∧
      (∀ a b, (octClosureAssign up n X).mat a b ≤ r.1.mat a b) ∧ (∀ a b, r.1.mat a b ≤ P.1.mat a b) := by
  obtain ⟨P, hP, hR⟩ := octLimitedBHMZ05_eq up n csd cs X Y tp hn hx hy r hr
  have hdom := octBHMZ05_dom up n (octClosureAssign up n X) Y tp (octClosureAssign_fix up n X) P hP
  obtain ⟨h1, h2, h3, _⟩ := octLimited_core n (octClosureAssign up n X) _ _ hdom
    (by rw [octGetLimitingOctagon_empty]; rfl) (octGetLimitingOctagon_dom up n csd cs X)
  rw [← hR] at h1 h2 h3
  exact ⟨P, hP, h1, hdom.1, h2, h3⟩

/-- `limited_BHMZ05_extrapolation_assign` (`Octagonal_Shape_templates.hh:4166`) -/
theorem oct_limited_bhmz05_between {up : Rat → ExtRat} (hup : ∀ q, fin q ≤ up q) (n csd : Nat)
    (cs : List LimCon) (X Y : OCS) (tp : Option Nat) (hWF : OCS.WF n X)
    (hn : n ≠ 0) (hx : X.empty = false) (hy : Y.empty = false)
    (r : OCS × OCS × Option Nat × Mat) (hr : octLimitedBHMZ05 up n csd cs X Y tp = some r) :
    ∃ P, octBHMZ05 up n (octClosureAssign up n X) Y tp = some P ∧
      ∀ p, (OCS.γ n X p → OCS.γ n r.1 p) ∧ (OCS.γ n r.1 p → OCS.γ n P.1 p) := by
  obtain ⟨P, hP, h1, h2, h3, h4⟩ := oct_limited_bhmz05_between_cells up n csd cs X Y tp hn hx hy r hr
  refine ⟨P, hP, fun p => ⟨fun hp => ?_, fun hp => ?_⟩⟩
  · exact OCS.lim_γ_mono h1 (fun i j _ _ => h3 i j) p (octClosureAssign_γ hup hWF hp)
  · exact OCS.lim_γ_mono (h2.trans h1.symm) (fun i j _ _ => h4 i j) p hp

theorem oct_limited_bhmz05_keeps (up : Rat → ExtRat) (n csd : Nat)
    (cs : List LimCon) (X Y : OCS) (tp : Option Nat) (hn : n ≠ 0) (hx : X.empty = false) (hy : Y.empty = false)
    (r : OCS × OCS × Option Nat × Mat) (hr : octLimitedBHMZ05 up n csd cs X Y tp = some r)
    (c : LimCon) (hc : c ∈ cs) (hsel : octLimSel csd c = true) (hineq : c.isEq = false)
    (hi : (octLimCell csd c).1 < 2 * n) (hj : (octLimCell csd c).2 < rowSize (octLimCell csd c).1)
    (hsat : (octClosureAssign up n X).mat (octLimCell csd c).1 (octLimCell csd c).2 ≤ octLimBound up csd c) :
    ((octClosureAssign up n X).empty = false →
      r.1.mat (octLimCell csd c).1 (octLimCell csd c).2 ≤ octLimBound up csd c) ∧
    ∀ p, OCS.γ n r.1 p →
      fin (OctM.oval p (octLimCell csd c).2 - OctM.oval p (octLimCell csd c).1) ≤ octLimBound up csd c := by
  obtain ⟨P, hP, hR⟩ := octLimitedBHMZ05_eq up n csd cs X Y tp hn hx hy r hr
  have hdom := octBHMZ05_dom up n (octClosureAssign up n X) Y tp (octClosureAssign_fix up n X) P hP
  obtain ⟨h1, _, _, h4⟩ := octLimited_core n (octClosureAssign up n X) _ _ hdom
    (by rw [octGetLimitingOctagon_empty]; rfl) (octGetLimitingOctagon_dom up n csd cs X)
  rw [← hR] at h1 h4
  have key : (octClosureAssign up n X).empty = false →
      r.1.mat (octLimCell csd c).1 (octLimCell csd c).2 ≤ octLimBound up csd c :=
    fun hne => le_trans' (h4 hne hn _ _ hi hj) (octGetLimitingOctagon_keeps up n csd cs X _ c hc hsel hineq hsat)
  refine ⟨key, fun p hp => ?_⟩
  exact le_trans' (hp.2 _ _ hi hj) (key (h1.symm.trans hp.1))

end PPLV.Widen

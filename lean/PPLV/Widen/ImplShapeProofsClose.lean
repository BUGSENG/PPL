import PPLV.Widen.ImplShapeProofsBase
import PPLV.WR.ClosureProofsBDS
import PPLV.WR.ClosureProofsOct
/-!
# `shortest_path_closure_assign()` / `strong_closure_assign()` as the widenings see them

`bdClosureAssign up n s` and `octClosureAssign up n s` (the flag-guarded closures of `ImplShape.lean`) keep the
class invariant (when the result is not marked empty; after `set_empty()` the matrix is garbage), keep every point
of the object, only lower cells, and — in the non-empty outcome — lose no point either.
-/
namespace PPLV.Widen
open PPLV.WR
open PPLV.WR.ExtRat (fin pinf le_rfl' le_trans' le_total' le_pinf)

variable {up : Rat → ExtRat}

/-! ## `BD_Shape` -/

/-- the three outcomes of `shortest_path_closure_assign()` -/
theorem bdClosureAssign_cases (up : Rat → ExtRat) (n : Nat) (s : BDS) :
    bdClosureAssign up n s = s
    ∨ (s.empty = false ∧ s.closed = false ∧ n ≠ 0 ∧ (bdsCore up (n+1) s.dbm).negDiag (n+1) = true
        ∧ bdClosureAssign up n s = { s.setEmpty with dbm := bdsCore up (n+1) s.dbm })
    ∨ (s.empty = false ∧ s.closed = false ∧ n ≠ 0 ∧ (bdsCore up (n+1) s.dbm).negDiag (n+1) = false
        ∧ bdClosureAssign up n s
            = { s with dbm := Mat.diagDown (n+1) pinf (bdsCore up (n+1) s.dbm), closed := true }) := by
  unfold bdClosureAssign
  by_cases h1 : (s.empty || s.closed) = true
  · left; rw [if_pos h1]
  · rw [if_neg h1]
    by_cases h2 : n = 0
    · left; rw [if_pos h2]
    · rw [if_neg h2]
      have he : s.empty = false := by cases h : s.empty <;> simp_all
      have hc : s.closed = false := by cases h : s.closed <;> simp_all
      right
      by_cases h3 : (bdsCore up (n+1) s.dbm).negDiag (n+1) = true
      · left; exact ⟨he, hc, h2, h3, by simp only [h3, if_true]⟩
      · right
        have h3' : (bdsCore up (n+1) s.dbm).negDiag (n+1) = false := by
          cases h : (bdsCore up (n+1) s.dbm).negDiag (n+1) <;> simp_all
        exact ⟨he, hc, h2, h3', by simp only [h3']; rfl⟩

theorem bdClosureAssign_of_empty (up : Rat → ExtRat) (n : Nat) (s : BDS) (h : s.empty = true) :
    bdClosureAssign up n s = s := by
  unfold bdClosureAssign; simp [h]

theorem bdClosureAssign_of_closed (up : Rat → ExtRat) (n : Nat) (s : BDS) (h : s.closed = true) :
    bdClosureAssign up n s = s := by
  unfold bdClosureAssign; simp [h]

/-- closing is idempotent (the flags short-circuit the second call) -/
theorem bdClosureAssign_idem (up : Rat → ExtRat) (n : Nat) (s : BDS) :
    bdClosureAssign up n (bdClosureAssign up n s) = bdClosureAssign up n s := by
  rcases bdClosureAssign_cases up n s with h | ⟨_, _, _, _, h⟩ | ⟨_, _, _, _, h⟩
  · rw [h]; exact h
  · rw [h]; exact bdClosureAssign_of_empty _ _ _ rfl
  · rw [h]; exact bdClosureAssign_of_closed _ _ _ rfl

theorem bdClosureAssign_empty_false {n : Nat} {s : BDS} (h : (bdClosureAssign up n s).empty = false) :
    s.empty = false := by
  rcases bdClosureAssign_cases up n s with h' | ⟨he, _⟩ | ⟨he, _⟩
  · rw [h'] at h; exact h
  · exact he
  · exact he

/-- the class invariant survives the closure (non-empty outcome; after `set_empty()` the diagonal is garbage) -/
theorem bdClosureAssign_WF {n : Nat} {s : BDS} (hWF : BDS.WF n s)
    (hne : (bdClosureAssign up n s).empty = false) : BDS.WF n (bdClosureAssign up n s) := by
  rcases bdClosureAssign_cases up n s with h | ⟨_, _, _, _, h⟩ | ⟨_, _, _, _, h⟩
  · rw [h]; exact hWF
  · rw [h] at hne; simp [BDS.setEmpty] at hne
  · rw [h]; intro i hi
    show Mat.diagDown (n+1) pinf (bdsCore up (n+1) s.dbm) i i = pinf
    rw [Mat.diagDown_apply, if_pos ⟨rfl, by omega⟩]

/-- the flags of the non-empty outcome: closed, or dimension zero -/
theorem bdClosureAssign_closed {n : Nat} {s : BDS} (hne : (bdClosureAssign up n s).empty = false) :
    (bdClosureAssign up n s).closed = true ∨ n = 0 := by
  by_cases h0 : n = 0
  · exact Or.inr h0
  · left
    unfold bdClosureAssign at hne ⊢
    by_cases h1 : (s.empty || s.closed) = true
    · rw [if_pos h1] at hne ⊢; cases hc : s.closed <;> simp_all
    · rw [if_neg h1, if_neg h0] at hne ⊢
      by_cases h3 : (bdsCore up (n+1) s.dbm).negDiag (n+1) = true
      · simp [h3, BDS.setEmpty] at hne
      · simp [h3]

/-- the matrix with its invariant, as a `DBM n` -/
def BDS.toDBM {n : Nat} (s : BDS) (hWF : BDS.WF n s) : DBM n := ⟨s.dbm, hWF⟩

theorem BDS.γ_iff_sat {n : Nat} (s : BDS) (hWF : BDS.WF n s) (p : Nat → Rat) :
    BDS.γ n s p ↔ s.empty = false ∧ (s.toDBM hWF).Sat p := Iff.rfl

/-- `shortest_path_closure_assign()` keeps every point of the object -/
theorem bdClosureAssign_γ (hup : ∀ q, fin q ≤ up q) {n : Nat} {s : BDS} (hWF : BDS.WF n s) {p : Nat → Rat}
    (hp : BDS.γ n s p) : BDS.γ n (bdClosureAssign up n s) p := by
  rcases bdClosureAssign_cases up n s with h | ⟨_, _, _, hneg, _⟩ | ⟨_, _, _, _, h⟩
  · rw [h]; exact hp
  · exact absurd hp.2 (DBM.closureEmpty_sound hup (s.toDBM hWF) hneg p)
  · rw [h]
    exact ⟨hp.1, DBM.closure_sat hup (s.toDBM hWF) p hp.2⟩

/-- a closure that finds emptiness is right: the object had no point -/
theorem bdClosureAssign_empty_sound (hup : ∀ q, fin q ≤ up q) {n : Nat} {s : BDS} (hWF : BDS.WF n s)
    (he : (bdClosureAssign up n s).empty = true) (p : Nat → Rat) : ¬ BDS.γ n s p := by
  intro hp
  have := (bdClosureAssign_γ hup hWF hp).1
  rw [he] at this; exact Bool.noConfusion this

/-- `shortest_path_closure_assign()` only lowers cells -/
theorem bdClosureAssign_le (hup : ∀ q, fin q ≤ up q) {n : Nat} {s : BDS} (hWF : BDS.WF n s)
    (hne : (bdClosureAssign up n s).empty = false) : bdLE n (bdClosureAssign up n s).dbm s.dbm := by
  rcases bdClosureAssign_cases up n s with h | ⟨_, _, _, _, h⟩ | ⟨_, _, _, _, h⟩
  · rw [h]; intro i j _ _; exact le_rfl' _
  · rw [h] at hne; simp [BDS.setEmpty] at hne
  · rw [h]; exact DBM.closure_le hup (s.toDBM hWF)

/-- … hence it loses no point -/
theorem bdClosureAssign_γ_back (hup : ∀ q, fin q ≤ up q) {n : Nat} {s : BDS} (hWF : BDS.WF n s)
    {p : Nat → Rat} (hp : BDS.γ n (bdClosureAssign up n s) p) : BDS.γ n s p := by
  have hne := hp.1
  refine ⟨bdClosureAssign_empty_false hne, fun i j hi hj => ?_⟩
  exact le_trans' (hp.2 i j hi hj) (bdClosureAssign_le hup hWF hne i j hi hj)

theorem bdClosureAssign_γ_iff (hup : ∀ q, fin q ≤ up q) {n : Nat} {s : BDS} (hWF : BDS.WF n s)
    (p : Nat → Rat) : BDS.γ n (bdClosureAssign up n s) p ↔ BDS.γ n s p :=
  ⟨bdClosureAssign_γ_back hup hWF, bdClosureAssign_γ hup hWF⟩

/-! ## `Octagonal_Shape` -/

/-- the three outcomes of `strong_closure_assign()` -/
theorem octClosureAssign_cases (up : Rat → ExtRat) (n : Nat) (s : OCS) :
    octClosureAssign up n s = s
    ∨ (s.empty = false ∧ s.closed = false ∧ n ≠ 0 ∧ (octCore up n s.mat).negDiag (2 * n) = true
        ∧ octClosureAssign up n s = { s.setEmpty with mat := octCore up n s.mat })
    ∨ (s.empty = false ∧ s.closed = false ∧ n ≠ 0 ∧ (octCore up n s.mat).negDiag (2 * n) = false
        ∧ octClosureAssign up n s
            = { s with mat := strongCoherenceM up n (Mat.diagUp (2 * n) pinf (octCore up n s.mat)),
                       closed := true }) := by
  unfold octClosureAssign
  by_cases h1 : (s.empty || s.closed || decide (n = 0)) = true
  · left; rw [if_pos h1]
  · rw [if_neg h1]
    have he : s.empty = false := by cases h : s.empty <;> simp_all
    have hc : s.closed = false := by cases h : s.closed <;> simp_all
    have h2 : n ≠ 0 := by intro h; simp_all
    right
    by_cases h3 : (octCore up n s.mat).negDiag (2 * n) = true
    · left; exact ⟨he, hc, h2, h3, by simp only [h3, if_true]⟩
    · right
      have h3' : (octCore up n s.mat).negDiag (2 * n) = false := by
        cases h : (octCore up n s.mat).negDiag (2 * n) <;> simp_all
      exact ⟨he, hc, h2, h3', by simp only [h3']; rfl⟩

theorem octClosureAssign_of_empty (up : Rat → ExtRat) (n : Nat) (s : OCS) (h : s.empty = true) :
    octClosureAssign up n s = s := by
  unfold octClosureAssign; simp [h]

theorem octClosureAssign_of_closed (up : Rat → ExtRat) (n : Nat) (s : OCS) (h : s.closed = true) :
    octClosureAssign up n s = s := by
  unfold octClosureAssign; simp [h]

theorem octClosureAssign_empty_false {n : Nat} {s : OCS} (h : (octClosureAssign up n s).empty = false) :
    s.empty = false := by
  rcases octClosureAssign_cases up n s with h' | ⟨he, _⟩ | ⟨he, _⟩
  · rw [h'] at h; exact h
  · exact he
  · exact he

/-- the class invariant survives the strong closure (non-empty outcome) -/
theorem octClosureAssign_WF {n : Nat} {s : OCS} (hWF : OCS.WF n s)
    (hne : (octClosureAssign up n s).empty = false) : OCS.WF n (octClosureAssign up n s) := by
  rcases octClosureAssign_cases up n s with h | ⟨_, _, _, _, h⟩ | ⟨_, _, _, _, h⟩
  · rw [h]; exact hWF
  · rw [h] at hne; simp [OCS.setEmpty] at hne
  · rw [h]; intro i hi
    show strongCoherenceM up n (Mat.diagUp (2 * n) pinf (octCore up n s.mat)) i i = pinf
    rw [strongCoherenceM_diag, Mat.diagUp_apply, if_pos ⟨rfl, hi⟩]

/-- the flags of the non-empty outcome: closed, or dimension zero -/
theorem octClosureAssign_closed {n : Nat} {s : OCS} (hne : (octClosureAssign up n s).empty = false) :
    (octClosureAssign up n s).closed = true ∨ n = 0 := by
  by_cases h0 : n = 0
  · exact Or.inr h0
  · left
    unfold octClosureAssign at hne ⊢
    by_cases h1 : (s.empty || s.closed || decide (n = 0)) = true
    · rw [if_pos h1] at hne ⊢; cases hc : s.closed <;> simp_all
    · rw [if_neg h1] at hne ⊢
      by_cases h3 : (octCore up n s.mat).negDiag (2 * n) = true
      · simp [h3, OCS.setEmpty] at hne
      · simp [h3]

/-- the matrix with its invariant, as an `OctM n` -/
def OCS.toOctM {n : Nat} (s : OCS) (hWF : OCS.WF n s) : OctM n := ⟨s.mat, hWF⟩

theorem OCS.γ_iff_sat {n : Nat} (s : OCS) (hWF : OCS.WF n s) (p : Nat → Rat) :
    OCS.γ n s p ↔ s.empty = false ∧ (s.toOctM hWF).Sat p := Iff.rfl

theorem octClosureAssign_mat_eq {n : Nat} {s : OCS} (hWF : OCS.WF n s)
    (hneg : (octCore up n s.mat).negDiag (2 * n) = false) :
    strongCoherenceM up n (Mat.diagUp (2 * n) pinf (octCore up n s.mat))
      = (OctM.strongClosure up (s.toOctM hWF)).e := by
  have : OctM.strongClosureEmpty up (s.toOctM hWF) = false := hneg
  unfold OctM.strongClosure
  rw [this]; rfl

/-- `strong_closure_assign()` keeps every point of the object -/
theorem octClosureAssign_γ (hup : ∀ q, fin q ≤ up q) {n : Nat} {s : OCS} (hWF : OCS.WF n s) {p : Nat → Rat}
    (hp : OCS.γ n s p) : OCS.γ n (octClosureAssign up n s) p := by
  rcases octClosureAssign_cases up n s with h | ⟨_, _, _, hneg, _⟩ | ⟨_, _, _, hneg, h⟩
  · rw [h]; exact hp
  · exact absurd hp.2 (OctM.strongClosureEmpty_sound hup (s.toOctM hWF) hneg p)
  · rw [h]
    refine ⟨hp.1, ?_⟩
    show ∀ i j, i < 2 * n → j < rowSize i → fin (OctM.oval p j - OctM.oval p i)
      ≤ strongCoherenceM up n (Mat.diagUp (2 * n) pinf (octCore up n s.mat)) i j
    rw [octClosureAssign_mat_eq hWF hneg]
    exact OctM.strongClosure_sat hup (s.toOctM hWF) p hp.2

theorem octClosureAssign_empty_sound (hup : ∀ q, fin q ≤ up q) {n : Nat} {s : OCS} (hWF : OCS.WF n s)
    (he : (octClosureAssign up n s).empty = true) (p : Nat → Rat) : ¬ OCS.γ n s p := by
  intro hp
  have := (octClosureAssign_γ hup hWF hp).1
  rw [he] at this; exact Bool.noConfusion this

/-- `strong_closure_assign()` only lowers cells -/
theorem octClosureAssign_le (hup : ∀ q, fin q ≤ up q) {n : Nat} {s : OCS} (hWF : OCS.WF n s)
    (hne : (octClosureAssign up n s).empty = false) : octLE n (octClosureAssign up n s).mat s.mat := by
  rcases octClosureAssign_cases up n s with h | ⟨_, _, _, _, h⟩ | ⟨_, _, _, hneg, h⟩
  · rw [h]; intro i j _ _; exact le_rfl' _
  · rw [h] at hne; simp [OCS.setEmpty] at hne
  · rw [h]
    show octLE n (strongCoherenceM up n (Mat.diagUp (2 * n) pinf (octCore up n s.mat))) s.mat
    rw [octClosureAssign_mat_eq hWF hneg]
    exact OctM.strongClosure_le hup (s.toOctM hWF)

/-- … hence it loses no point -/
theorem octClosureAssign_γ_back (hup : ∀ q, fin q ≤ up q) {n : Nat} {s : OCS} (hWF : OCS.WF n s)
    {p : Nat → Rat} (hp : OCS.γ n (octClosureAssign up n s) p) : OCS.γ n s p := by
  have hne := hp.1
  refine ⟨octClosureAssign_empty_false hne, fun i j hi hj => ?_⟩
  exact le_trans' (hp.2 i j hi hj) (octClosureAssign_le hup hWF hne i j hi hj)

theorem octClosureAssign_γ_iff (hup : ∀ q, fin q ≤ up q) {n : Nat} {s : OCS} (hWF : OCS.WF n s)
    (p : Nat → Rat) : OCS.γ n (octClosureAssign up n s) p ↔ OCS.γ n s p :=
  ⟨octClosureAssign_γ_back hup hWF, octClosureAssign_γ hup hWF⟩

end PPLV.Widen

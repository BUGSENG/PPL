import PPLV.Widen.ImplShapeProofsLimBD
import PPLV.Widen.ImplShapeProofsContains2
/-!
# `Octagonal_Shape::get_limiting_octagon` and the limited extrapolations, relative to the closed
receiver `Xc := octClosureAssign up n X` (`Octagonal_Shape_templates.hh:3970`: `strong_closure_assign()`)
-/
namespace PPLV.Widen
open PPLV.WR
open PPLV.WR.ExtRat (fin pinf le_rfl' le_trans' le_total' le_pinf)

theorem octClosureAssign_fix (up : Rat → ExtRat) (n : Nat) (s : OCS) :
    octClosureAssign up n (octClosureAssign up n s) = octClosureAssign up n s := by
  rcases octClosureAssign_cases up n s with h | ⟨_, _, _, _, h⟩ | ⟨_, _, _, _, h⟩
  · rw [h]; exact h
  · rw [h]; exact octClosureAssign_of_empty _ _ _ rfl
  · rw [h]; exact octClosureAssign_of_closed _ _ _ rfl

/-! ## the cell and the bound of a supplied constraint -/

/-- the constraint is one that `get_limiting_octagon` looks at: an octagonal difference with a variable -/
def octLimSel (csd : Nat) (c : LimCon) : Bool :=
  let X := extractOctagonalDifference csd c.coeff c.inhomo
  X.ok && X.numVars != 0

/-- the cell `m_i[j]` (`:4002-4003`) -/
def octLimCell (csd : Nat) (c : LimCon) : Nat × Nat :=
  let X := extractOctagonalDifference csd c.coeff c.inhomo
  (X.i, X.j)

/-- `|coeff|` (`:4008-4010`) -/
def octLimCoeff (csd : Nat) (c : LimCon) : Int :=
  let X := extractOctagonalDifference csd c.coeff c.inhomo
  if X.coeff < 0 then - X.coeff else X.coeff

/-- `d = div_round_up(term, coeff)` (`:4012`) -/
def octLimBound (up : Rat → ExtRat) (csd : Nat) (c : LimCon) : ExtRat :=
  divUp up (extractOctagonalDifference csd c.coeff c.inhomo).term (octLimCoeff csd c)

/-- the coherent cell `m_ci[cj]` of the "other half" (`:4021-4034`) -/
def octLimCell2 (csd : Nat) (c : LimCon) : Nat × Nat :=
  let X := extractOctagonalDifference csd c.coeff c.inhomo
  (if X.i % 2 = 0 then X.i + 1 else X.i - 1, cidx X.j)

/-- `d = div_round_up(-term, coeff)` (`:4035-4036`) -/
def octLimBound2 (up : Rat → ExtRat) (csd : Nat) (c : LimCon) : ExtRat :=
  divUp up (- (extractOctagonalDifference csd c.coeff c.inhomo).term) (octLimCoeff csd c)

theorem octLimitStep_eq (up : Rat → ExtRat) (csd : Nat) (m : Mat) (st : Mat × Bool) (c : LimCon) :
    octLimitStep up csd m st c =
      if octLimSel csd c then
        let ij := octLimCell csd c
        let d := octLimBound up csd c
        if m ij.1 ij.2 ≤ d then
          if !c.isEq then
            if ExtRat.ltB d (st.1 ij.1 ij.2) then (st.1.set ij.1 ij.2 d, true)
            else
              let cij := octLimCell2 csd c
              let d2 := octLimBound2 up csd c
              if decide (m cij.1 cij.2 ≤ d2) && ExtRat.ltB d2 (st.1 cij.1 cij.2) then
                (st.1.set cij.1 cij.2 d2, true)
              else st
          else st
        else st
      else st := by
  unfold octLimitStep octLimSel octLimCell octLimBound octLimCell2 octLimBound2 octLimCoeff
  by_cases hok : (extractOctagonalDifference csd c.coeff c.inhomo).ok = true
  · by_cases hnv : (extractOctagonalDifference csd c.coeff c.inhomo).numVars = 0
    · simp [hok, hnv]
    · simp [hok, hnv]
  · simp [hok]

/-! ## domination, monotonicity, kept inequalities -/

theorem octLimitStep_between (up : Rat → ExtRat) (csd : Nat) (m : Mat) (st : Mat × Bool) (c : LimCon) :
    LimBetween m st.1 (octLimitStep up csd m st c).1 := by
  rw [octLimitStep_eq]
  dsimp only
  by_cases hsel : octLimSel csd c = true
  swap
  · rw [if_neg hsel]; exact .refl _ _
  by_cases hx : m (octLimCell csd c).1 (octLimCell csd c).2 ≤ octLimBound up csd c
  swap
  · rw [if_pos hsel, if_neg hx]; exact .refl _ _
  by_cases hineq : (!c.isEq) = true
  swap
  · rw [if_pos hsel, if_pos hx, if_neg hineq]; exact .refl _ _
  rw [if_pos hsel, if_pos hx, if_pos hineq]
  by_cases hlt : ExtRat.ltB (octLimBound up csd c) (st.1 (octLimCell csd c).1 (octLimCell csd c).2) = true
  · rw [if_pos hlt]; exact (LimBetween.refl _ _).set hx (lim_le_of_ltB hlt)
  rw [if_neg hlt]
  split
  · rename_i hc
    simp only [Bool.and_eq_true, decide_eq_true_eq] at hc
    exact (LimBetween.refl _ _).set hc.1 (lim_le_of_ltB hc.2)
  · exact .refl _ _

theorem octLimitStep_le (up : Rat → ExtRat) (csd : Nat) (m : Mat) (st : Mat × Bool) (c : LimCon) :
    ∀ a b, (octLimitStep up csd m st c).1 a b ≤ st.1 a b :=
  (octLimitStep_between up csd m st c).1

/-- after an inequality that the closed receiver satisfies has been processed its cell is at most `d`: either it
was written, or the `else` branch ran, which means that the limiting cell was at most `d` already (the cell the
misplaced "other half" may write there is only ever lowered) -/
theorem octLimitStep_keeps_ineq (up : Rat → ExtRat) (csd : Nat) (m : Mat) (st : Mat × Bool) (c : LimCon)
    (hsel : octLimSel csd c = true) (hineq : c.isEq = false)
    (hx : m (octLimCell csd c).1 (octLimCell csd c).2 ≤ octLimBound up csd c) :
    (octLimitStep up csd m st c).1 (octLimCell csd c).1 (octLimCell csd c).2 ≤ octLimBound up csd c := by
  by_cases hlt : ExtRat.ltB (octLimBound up csd c) (st.1 (octLimCell csd c).1 (octLimCell csd c).2) = true
  · rw [octLimitStep_eq]
    simp only [hsel, hx, hineq, hlt, if_true, Bool.not_false]
    simp [Mat.set_apply]; exact le_rfl' _
  · exact le_trans' (octLimitStep_le up csd m st c _ _) (lim_le_of_not_ltB hlt)

/-- an equality contributes nothing (`:4014`: the whole body is inside `if (c.is_inequality())`) -/
theorem octLimitStep_eq_noop (up : Rat → ExtRat) (csd : Nat) (m : Mat) (st : Mat × Bool) (c : LimCon)
    (heq : c.isEq = true) : octLimitStep up csd m st c = st := by
  rw [octLimitStep_eq]
  simp [heq]

theorem octLimitFold_dom (up : Rat → ExtRat) (csd : Nat) (m : Mat) (cs : List LimCon) (st : Mat × Bool)
    (h : ∀ a b, m a b ≤ st.1 a b) : ∀ a b, m a b ≤ (cs.foldl (octLimitStep up csd m) st).1 a b :=
  (LimBetween.foldl (octLimitStep_between up csd m) cs st).2 h

theorem octLimitFold_le (up : Rat → ExtRat) (csd : Nat) (m : Mat) (cs : List LimCon) (st : Mat × Bool) :
    ∀ a b, (cs.foldl (octLimitStep up csd m) st).1 a b ≤ st.1 a b :=
  (LimBetween.foldl (octLimitStep_between up csd m) cs st).1

theorem octLimitFold_keeps_ineq (up : Rat → ExtRat) (csd : Nat) (m : Mat) (cs : List LimCon) (st : Mat × Bool)
    (c : LimCon) (hc : c ∈ cs) (hsel : octLimSel csd c = true) (hineq : c.isEq = false)
    (hx : m (octLimCell csd c).1 (octLimCell csd c).2 ≤ octLimBound up csd c) :
    (cs.foldl (octLimitStep up csd m) st).1 (octLimCell csd c).1 (octLimCell csd c).2 ≤ octLimBound up csd c := by
  induction cs generalizing st with
  | nil => cases hc
  | cons c' cs ih =>
    rcases List.mem_cons.mp hc with h | h
    · subst h
      exact le_trans' (octLimitFold_le up csd m cs _ _ _) (octLimitStep_keeps_ineq up csd m st c hsel hineq hx)
    · exact ih _ h

/-- a system of equalities leaves the limiting octagon untouched -/
theorem octLimitFold_equalities (up : Rat → ExtRat) (csd : Nat) (m : Mat) (cs : List LimCon) (st : Mat × Bool)
    (h : ∀ c ∈ cs, c.isEq = true) : cs.foldl (octLimitStep up csd m) st = st := by
  induction cs generalizing st with
  | nil => rfl
  | cons c cs ih =>
    simp only [List.foldl_cons]
    rw [octLimitStep_eq_noop up csd m st c (h c List.mem_cons_self)]
    exact ih st (fun c' hc' => h c' (List.mem_cons_of_mem _ hc'))

/-! ## object level -/

def OCS.Dom (Xc P : OCS) : Prop := P.empty = Xc.empty ∧ ∀ a b, Xc.mat a b ≤ P.mat a b

theorem OCS.Dom.refl (s : OCS) : OCS.Dom s s := ⟨rfl, fun _ _ => le_rfl' _⟩

theorem octCC76_dom {up : Rat → ExtRat} (hup : ∀ q, fin q ≤ up q) (n : Nat) (stops : List Rat) (Xc Y : OCS)
    (tp : Option Nat) (hfix : octClosureAssign up n Xc = Xc) : OCS.Dom Xc (octCC76 up n stops Xc Y tp).1 := by
  rcases octCC76_fst_cases up n stops Xc Y tp with h | ⟨_, _, _, _, h⟩
  · rw [h, hfix]; exact .refl _
  · rw [h, octCC76Widened, hfix]
    refine ⟨rfl, fun a b => ?_⟩
    show Xc.mat a b ≤ octCC76Loops up stops n Xc.mat _ a b
    rw [octCC76Loops_apply]
    split
    · exact le_cc76Cell hup _ _ _
    · exact le_rfl' _

theorem octBHMZ05_dom (up : Rat → ExtRat) (n : Nat) (Xc Y : OCS) (tp : Option Nat)
    (hfix : octClosureAssign up n Xc = Xc) (P : OCS × OCS × Option Nat) (hP : octBHMZ05 up n Xc Y tp = some P) :
    OCS.Dom Xc P.1 := by
  obtain ⟨X', Y', tp'⟩ := P
  rcases octBHMZ05_fst_cases hP with h | h | ⟨_, h, _⟩
  · rw [h]; exact .refl _
  · rw [h, hfix]; exact .refl _
  · rw [h, octBHMZ05Widened, hfix]
    refine ⟨rfl, fun a b => ?_⟩
    show Xc.mat a b ≤ octBHMZ05Loops n Xc.mat _ a b
    rw [octBHMZ05Loops_apply]
    split
    · exact le_bhmz05Cell _ _ _
    · exact le_rfl' _

theorem octIntersectionAssign_spec (n : Nat) (P ls : OCS) (hls : ls.empty = false) :
    (octIntersectionAssign n P ls).empty = P.empty ∧
    ∀ a b, (octIntersectionAssign n P ls).mat a b
      = if P.empty = false ∧ n ≠ 0 ∧ a < 2 * n ∧ b < rowSize a then minCell (P.mat a b) (ls.mat a b)
        else P.mat a b := by
  unfold octIntersectionAssign
  by_cases h1 : P.empty = true
  · simp [h1]
  · have h1' : P.empty = false := by cases h : P.empty <;> simp_all
    by_cases h0 : n = 0
    · simp [h1', hls, h0]
    · simp only [h1', hls, h0, if_false, Bool.false_eq_true]
      constructor
      · split <;> simp [OCS.resetClosed]
      · intro a b
        have := octIntersection_loops_apply n P.mat ls.mat a b
        split
        · simp only [OCS.resetClosed]
          rw [this]; simp [h0]
        · simp only
          rw [this]; simp [h0]

theorem octLimited_core (n : Nat) (Xc P ls : OCS) (hP : OCS.Dom Xc P) (hls : ls.empty = false)
    (hdom : ∀ a b, Xc.mat a b ≤ ls.mat a b) :
    (octIntersectionAssign n P ls).empty = Xc.empty ∧
    (∀ a b, Xc.mat a b ≤ (octIntersectionAssign n P ls).mat a b) ∧
    (∀ a b, (octIntersectionAssign n P ls).mat a b ≤ P.mat a b) ∧
    (Xc.empty = false → n ≠ 0 → ∀ a b, a < 2 * n → b < rowSize a →
      (octIntersectionAssign n P ls).mat a b ≤ ls.mat a b) := by
  obtain ⟨he, hc⟩ := octIntersectionAssign_spec n P ls hls
  refine ⟨he.trans hP.1, fun a b => ?_, fun a b => ?_, fun hne h0 a b ha hb => ?_⟩
  · rw [hc]; split
    · exact le_minCell (hP.2 a b) (hdom a b)
    · exact hP.2 a b
  · rw [hc]; split
    · exact minCell_le_left _ _
    · exact le_rfl' _
  · rw [hc, if_pos ⟨hP.1.trans hne, h0, ha, hb⟩]
    exact minCell_le_right _ _

theorem octGetLimitingOctagon_empty (up : Rat → ExtRat) (n csd : Nat) (cs : List LimCon) (x lo : OCS) :
    (octGetLimitingOctagon up n csd cs x lo).2.empty = lo.empty := by
  unfold octGetLimitingOctagon; simp only; split <;> rfl

theorem octGetLimitingOctagon_mat (up : Rat → ExtRat) (n csd : Nat) (cs : List LimCon) (x lo : OCS) :
    (octGetLimitingOctagon up n csd cs x lo).2.mat
      = (cs.foldl (octLimitStep up csd (octClosureAssign up n x).mat) (lo.mat, false)).1 := by
  unfold octGetLimitingOctagon; simp only; split <;> rfl

/-- the limiting octagon built from the universe dominates the closed receiver; this holds whatever the
misplaced `else` writes, because that write too is guarded by `m_ci_cj <= d` -/
theorem octGetLimitingOctagon_dom (up : Rat → ExtRat) (n csd : Nat) (cs : List LimCon) (x : OCS) :
    ∀ a b, (octClosureAssign up n x).mat a b ≤ (octGetLimitingOctagon up n csd cs x OCS.univ).2.mat a b := by
  rw [octGetLimitingOctagon_mat]
  exact octLimitFold_dom up csd _ cs _ (fun a b => le_pinf _)

theorem octGetLimitingOctagon_keeps (up : Rat → ExtRat) (n csd : Nat) (cs : List LimCon) (x lo : OCS)
    (c : LimCon) (hc : c ∈ cs) (hsel : octLimSel csd c = true) (hineq : c.isEq = false)
    (hx : (octClosureAssign up n x).mat (octLimCell csd c).1 (octLimCell csd c).2 ≤ octLimBound up csd c) :
    (octGetLimitingOctagon up n csd cs x lo).2.mat (octLimCell csd c).1 (octLimCell csd c).2
      ≤ octLimBound up csd c := by
  rw [octGetLimitingOctagon_mat]
  exact octLimitFold_keeps_ineq up csd _ cs _ c hc hsel hineq hx

theorem octLimitedCC76_early (up : Rat → ExtRat) (n csd : Nat) (cs : List LimCon) (X Y : OCS) (tp : Option Nat)
    (h : n = 0 ∨ X.empty = true ∨ Y.empty = true) :
    (octLimitedCC76 up n csd cs X Y tp).1 = X := by
  unfold octLimitedCC76
  rcases h with h | h | h
  · simp [h]
  · split; rfl; simp
  · split; rfl; split; rfl; simp

theorem octLimitedCC76_eq (up : Rat → ExtRat) (n csd : Nat) (cs : List LimCon) (X Y : OCS) (tp : Option Nat)
    (hn : n ≠ 0) (hx : X.empty = false) (hy : Y.empty = false) :
    (octLimitedCC76 up n csd cs X Y tp).1 =
      octIntersectionAssign n (octCC76 up n defaultStops (octClosureAssign up n X) Y tp).1
        (octGetLimitingOctagon up n csd cs X OCS.univ).2 := by
  unfold octLimitedCC76
  simp only [hn, hx, hy, if_false, Bool.false_eq_true]
  rfl

theorem octLimitedBHMZ05_early (up : Rat → ExtRat) (n csd : Nat) (cs : List LimCon) (X Y : OCS) (tp : Option Nat)
    (h : n = 0 ∨ X.empty = true ∨ Y.empty = true) :
    ∃ r, octLimitedBHMZ05 up n csd cs X Y tp = some r ∧ r.1 = X := by
  unfold octLimitedBHMZ05
  by_cases hn : n = 0
  · rw [if_pos hn]; exact ⟨_, rfl, rfl⟩
  by_cases hx : X.empty = true
  · rw [if_neg hn, if_pos hx]; exact ⟨_, rfl, rfl⟩
  · rw [if_neg hn, if_neg hx, if_pos ((h.resolve_left hn).resolve_left hx)]; exact ⟨_, rfl, rfl⟩

theorem octLimitedBHMZ05_eq (up : Rat → ExtRat) (n csd : Nat) (cs : List LimCon) (X Y : OCS) (tp : Option Nat)
    (hn : n ≠ 0) (hx : X.empty = false) (hy : Y.empty = false) (r : OCS × OCS × Option Nat × Mat)
    (hr : octLimitedBHMZ05 up n csd cs X Y tp = some r) :
    ∃ P, octBHMZ05 up n (octClosureAssign up n X) Y tp = some P ∧
      r.1 = octIntersectionAssign n P.1 (octGetLimitingOctagon up n csd cs X OCS.univ).2 := by
  unfold octLimitedBHMZ05 at hr
  simp only [hn, hx, hy, if_false, Bool.false_eq_true] at hr
  change Option.map _ (octBHMZ05 up n (octClosureAssign up n X) Y tp) = some r at hr
  cases hP : octBHMZ05 up n (octClosureAssign up n X) Y tp with
  | none => rw [hP] at hr; simp at hr
  | some P =>
    rw [hP] at hr
    simp only [Option.map_some] at hr
    injection hr with hr
    subst hr
    exact ⟨P, rfl, rfl⟩

end PPLV.Widen

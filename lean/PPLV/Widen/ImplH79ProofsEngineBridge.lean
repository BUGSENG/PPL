import PPLV.Widen.ImplH79ProofsEngine0
import PPLV.Props.C01ConvMinimal
import PPLV.Widen.ImplH79ProofsEngineBridgeIndep

/-!
# bridge from the conversion engine model (`PPLV.Conv.minimize`) to `EngineDD`

`ofEngine` reads the result of `PPLV.Conv.minimize true false (n + 1) source sat0` (closed polyhedra,
constraint-to-generator direction) as a `YMin` of `ImplH79.lean`.  This file: the glue between the two
vocabularies (`sp` / `scalarProduct`, `CRow.holdsZ` / `holds`) and the fields of `EngineDD` that follow from
the theorems of `Props/C01ConvComplete.lean` and `Props/C01ConvMinimal.lean` alone (`satG_ok`, `gens_in`,
`complete`, `hasPoint`).  `ImplH79ProofsEngineBridge2.lean` has the other fields and the assembly.
-/
namespace PPLV.Widen.Impl
open PPLV.Conv

/-- a row of the engine read as a constraint row -/
def toC (r : LRow) : CRow := { e := r.v, eq := r.le }
/-- a row of the engine read as a generator row -/
def toG (r : LRow) : GRow := { e := r.v, line := r.le }

/-- the result of `minimize` (constraints to generators) as the `(con_sys, gen_sys, sat_g)` of `ImplH79` -/
def ofEngine (m : PPLV.Conv.MinResult) : YMin :=
  let cs := m.source.map fun r => ({ e := r.v, eq := r.le } : CRow)
  let gs := m.dest.map fun r => ({ e := r.v, line := r.le } : GRow)
  { conSys := cs, genSys := gs, satG := cs.map fun c => satRow c gs }

theorem ofEngine_conSys (m : MinResult) : (ofEngine m).conSys = m.source.map toC := rfl
theorem ofEngine_genSys (m : MinResult) : (ofEngine m).genSys = m.dest.map toG := rfl
theorem ofEngine_satG (m : MinResult) :
    (ofEngine m).satG = (ofEngine m).conSys.map fun c => satRow c (ofEngine m).genSys := rfl

/-! ## glue -/

theorem sp_eq_scalarProduct (a b : List Int) : sp a b = scalarProduct a b := by
  induction a generalizing b with
  | nil => simp [sp, scalarProduct]
  | cons x xs ih =>
    cases b with
    | nil => simp [sp, scalarProduct]
    | cons y ys => simp [sp, scalarProduct, ih]

theorem scalarProduct_neg_right (a b : List Int) : scalarProduct a (b.map (- ·)) = - scalarProduct a b := by
  induction a generalizing b with
  | nil => simp [scalarProduct]
  | cons x xs ih =>
    cases b with
    | nil => simp [scalarProduct]
    | cons y ys =>
      simp only [List.map_cons, scalarProduct, ih]
      ring

theorem scalarProduct_replicate_zero (k : Nat) (a : List Int) : scalarProduct a (List.replicate k 0) = 0 := by
  induction k generalizing a with
  | zero => cases a <;> simp [scalarProduct]
  | succ k ih =>
    cases a with
    | nil => simp [scalarProduct]
    | cons x xs => simp [List.replicate_succ, scalarProduct, ih]

theorem scalarProduct_pad (k : Nat) (a b : List Int) :
    scalarProduct a (b ++ List.replicate k 0) = scalarProduct a b := by
  induction b generalizing a with
  | nil =>
    cases a <;> simp [scalarProduct, scalarProduct_replicate_zero]
  | cons y ys ih =>
    cases a with
    | nil => simp [scalarProduct]
    | cons x xs => simp [scalarProduct, ih]

theorem holds_pad (k : Nat) (r : LRow) (x : List Int) : holds r (x ++ List.replicate k 0) ↔ holds r x := by
  unfold holds
  rw [scalarProduct_pad]

theorem holdsZ_toC (r : LRow) (v : List Int) : (toC r).holdsZ v ↔ holds r v := by
  unfold CRow.holdsZ holds toC
  simp only [sp_eq_scalarProduct]

theorem getD_map_toC (l : List LRow) (i : Nat) : (l.map toC).getD i default = toC (l.getD i default) := by
  rw [List.getD_eq_getElem?_getD, List.getD_eq_getElem?_getD, List.getElem?_map]
  cases l[i]? <;> rfl

theorem getD_map_toG (l : List LRow) (i : Nat) : (l.map toG).getD i default = toG (l.getD i default) := by
  rw [List.getD_eq_getElem?_getD, List.getD_eq_getElem?_getD, List.getElem?_map]
  cases l[i]? <;> rfl

theorem getElem_map_toG (l : List LRow) (i : Nat) (h : i < (l.map toG).length) :
    (l.map toG)[i] = toG (l[i]'(by simpa using h)) := by simp

/-! ## the engine facts in one place -/

theorem minimize_dest_length_le (nnc : Bool) (ncols : Nat) (source : List LRow) (sat0 : List BRow) :
    ∀ g ∈ (minimize true nnc ncols source sat0).dest, g.v.length ≤ ncols := by
  rw [minimize_dest_eq]
  exact conversion_identity_length ncols source

/-- every generator satisfies every row of the MINIMISED system (soundness is stated for the rows given to
`minimize`; `simplify` replaces rows by combinations: go through `minimize_same_set`). -/
theorem minimize_sound_min (ncols : Nat) (source : List LRow) (sat0 : List BRow)
    (hsz : ncols < 2 ^ 64) (hsrc : source.length < 2 ^ 64)
    (hne : (minimize true false ncols source sat0).empty = false) :
    Sound (minimize true false ncols source sat0).source (minimize true false ncols source sat0).dest := by
  intro d hd s hs
  have hS : ∀ s ∈ source, satisfies s d := C01.minimize_dest_sound true false ncols source sat0 d hd
  have hdl := minimize_dest_length_le false ncols source sat0 d hd
  have hsame := C01.minimize_same_set false ncols source sat0 hsz hsrc hne
  have h1 : holdsAll source d.v := by
    intro s' hs'
    have := hS s' hs'
    unfold satisfies at this
    unfold holds
    cases h1 : s'.le <;> cases h2 : d.le <;> simp [h1, h2] at this ⊢ <;> omega
  have h2 := (hsame d.v hdl).mpr h1 s hs
  unfold satisfies
  unfold holds at h2
  cases hl : d.le
  · cases hsl : s.le <;> simp [hsl] at h2 ⊢ <;> exact h2
  · have h3 : holdsAll source (d.v.map (- ·)) := by
      intro s' hs'
      have := hS s' hs'
      unfold satisfies at this
      unfold holds
      rw [scalarProduct_neg_right]
      simp [hl] at this
      simp [this]
    have h4 := (hsame (d.v.map (- ·)) (by simpa using hdl)).mpr h3 s hs
    unfold holds at h4
    rw [scalarProduct_neg_right] at h4
    cases hsl : s.le <;> simp [hsl] at h2 h4 ⊢ <;> omega

theorem engine_gens_in (ncols : Nat) (source : List LRow) (sat0 : List BRow)
    (hsz : ncols < 2 ^ 64) (hsrc : source.length < 2 ^ 64)
    (hne : (minimize true false ncols source sat0).empty = false) :
    let y := ofEngine (minimize true false ncols source sat0)
    ∀ g ∈ y.genSys, ∀ c ∈ y.conSys, if c.eq || g.line then sp c.e g.e = 0 else 0 ≤ sp c.e g.e := by
  intro y g hg c hc
  rw [ofEngine_genSys] at hg
  rw [ofEngine_conSys] at hc
  obtain ⟨d, hd, rfl⟩ := List.mem_map.mp hg
  obtain ⟨s, hs, rfl⟩ := List.mem_map.mp hc
  have := minimize_sound_min ncols source sat0 hsz hsrc hne d hd s hs
  unfold satisfies at this
  simpa [toC, toG, sp_eq_scalarProduct] using this

theorem engine_complete (n : Nat) (source : List LRow) (sat0 : List BRow)
    (hsz : n + 1 < 2 ^ 64) (hsrc : source.length < 2 ^ 64)
    (hne : (minimize true false (n + 1) source sat0).empty = false) :
    let y := ofEngine (minimize true false (n + 1) source sat0)
    ∀ v : Vec, v.length = n + 1 → (∀ c ∈ y.conSys, c.holdsZ v) →
    ∃ (den : Int) (coef : List Int), 0 < den ∧ coef.length = y.genSys.length ∧
      (∀ i (h : i < y.genSys.length), y.genSys[i].line = false → 0 ≤ coef.getD i 0) ∧
      ∀ c : Vec, den * sp c v =
        ((List.range y.genSys.length).map fun i => coef.getD i 0 * sp c (y.genSys.getD i default).e).sum := by
  intro y v hv hall
  have h1 : holdsAll (minimize true false (n + 1) source sat0).source v := by
    intro s hs
    exact (holdsZ_toC s v).mp (hall (toC s) (by rw [ofEngine_conSys]; exact List.mem_map_of_mem hs))
  have h2 := (C01.minimize_same_set false (n + 1) source sat0 hsz hsrc hne v (by omega)).mp h1
  have h3 := C01.conversion_complete (n + 1) source hsz hsrc v (by omega) h2
  rw [← minimize_dest_eq false (n + 1) source sat0] at h3
  obtain ⟨den, coef, hden, hlen, hnn, hsum⟩ := h3
  have hgl : y.genSys.length = (minimize true false (n + 1) source sat0).dest.length := by
    show ((minimize true false (n + 1) source sat0).dest.map toG).length = _
    rw [List.length_map]
  refine ⟨den, coef, hden, by rw [hgl]; exact hlen, ?_, ?_⟩
  · intro i hi hline
    have hi' : i < (minimize true false (n + 1) source sat0).dest.length := by rw [← hgl]; exact hi
    apply hnn i hi'
    have : y.genSys[i] = toG ((minimize true false (n + 1) source sat0).dest[i]) :=
      getElem_map_toG _ i hi
    rw [this] at hline
    exact hline
  · intro c
    rw [sp_eq_scalarProduct, hsum c, hgl]
    congr 1
    apply List.map_congr_left
    intro i _
    have : y.genSys.getD i default = toG ((minimize true false (n + 1) source sat0).dest.getD i default) :=
      getD_map_toG _ i
    rw [this, sp_eq_scalarProduct]
    rfl

theorem engine_hasPoint (ncols : Nat) (source : List LRow) (sat0 : List BRow)
    (hsz : ncols < 2 ^ 64) (hsrc : source.length < 2 ^ 64)
    (hne : (minimize true false ncols source sat0).empty = false) :
    let y := ofEngine (minimize true false ncols source sat0)
    ∃ g ∈ y.genSys, g.line = false ∧ 0 < g.e.headD 0 := by
  intro y
  have hp := PPLV.Conv.minimize_hasPoint false ncols source sat0 hne
  obtain ⟨_, hlf, _⟩ := C01.conversion_dd_pair ncols source hsz hsrc
  rw [← minimize_dest_eq false ncols source sat0] at hp hlf
  unfold hasPoint at hp
  rw [List.any_eq_true] at hp
  obtain ⟨r, hr, hd⟩ := hp
  have h1 : r.v.getD 0 0 > 0 := by simpa using hd
  obtain ⟨i, hi, rfl⟩ := List.mem_iff_getElem.mp hr
  rw [List.getElem_drop] at h1
  rw [List.length_drop] at hi
  generalize hk : (conversion ncols source 0 (identityLines ncols)
      (List.replicate ncols (List.replicate source.length false)) ncols).nle = k at *
  have hki : k + i < (minimize true false ncols source sat0).dest.length := by omega
  refine ⟨toG ((minimize true false ncols source sat0).dest[k + i]), ?_, ?_, ?_⟩
  · rw [ofEngine_genSys]; exact List.mem_map_of_mem (List.getElem_mem hki)
  · show ((minimize true false ncols source sat0).dest[k + i]).le = false
    rw [hlf _ hki]
    simp
  · show 0 < ((minimize true false ncols source sat0).dest[k + i]).v.headD 0
    revert h1
    cases ((minimize true false ncols source sat0).dest[k + i]).v <;> simp

end PPLV.Widen.Impl

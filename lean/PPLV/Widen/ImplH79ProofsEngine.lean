import PPLV.Widen.ImplH79ProofsEngineTaut
import PPLV.Widen.ImplH79ProofsEngineFacet
import PPLV.Widen.ImplH79ProofsEngineMin

/-!
# the contract `MinimalDD` derived from what the conversion engine guarantees

`MinimalDD.hfacet` and `MinimalDD.hymin`, assumed by the `_partial` theorems of `Props/C08Impl.lean`, follow
from `EngineDD` (proved of the output of `PPLV.Conv.minimize`: `engineDD_of_minimize`) together with
* `GPos`: the first column of a generator is `0` for a line and `≥ 0` otherwise (holds when the positivity
  constraint is a row of the system given to `minimize`), and
* `FacetPoints`: every non-tautological inequality is saturated by a POINT of the generator system.
  `EngineDD` alone does not imply `hymin` (`hymin_fails_without_facetPoints`: `{x = 0, 1 + x ≥ 0}` — the
  positivity constraint in disguise, which the real `simplify` removes by back-substitution).
-/
namespace PPLV.Widen.Impl

theorem minimalDD_of_engine (n : Nat) (y : YMin) (hy : EngineDD n y) (hgp : GPos y) (hfp : FacetPoints y) :
    MinimalDD n y where
  wf := hy.wf
  satG_ok := hy.satG_ok
  oneTaut := oneTaut_of_engine n y hy
  gens_in := hy.gens_in
  hymin := hymin_of_engine n y hy hfp
  hfacet := hfacet_of_engine n y hy hgp

end PPLV.Widen.Impl

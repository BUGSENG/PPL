import PPLV.Widen.ProofsConv
import Mathlib.Algebra.Order.Field.Rat
import Mathlib.Tactic.Linarith

/-!
# C08 — `Interval::CC76_widening_assign` converges outright

The interval widening with an arbitrary finite list of stop points: soundness (`cc76_sup`) and
convergence (`cc76_converges_adv`, `cc76_converges_chain`) with no hypothesis about certificates:
the measure `Itv.rank` (per boundary: `0` at infinity, else twice one plus the number of stop points
strictly beyond the boundary, plus one if open) strictly decreases at every non-stationary step.
-/
namespace PPLV.Widen

/-! ### `lower_bound` -/

theorem lowerBound_spec (stops : List Rat) (v : Rat) :
    (∀ i, i < lowerBound stops v → ∀ t, stops[i]? = some t → t < v) ∧
    (∀ t, stops[lowerBound stops v]? = some t → ¬ t < v) := by
  induction stops with
  | nil => simp [lowerBound]
  | cons s rest ih =>
    unfold lowerBound at *
    by_cases hs : s < v
    · simp only [List.takeWhile_cons, hs, decide_true, ↓reduceIte, List.length_cons]
      constructor
      · intro i hi t ht
        cases i with
        | zero => simp at ht; rw [← ht]; exact hs
        | succ i => exact ih.1 i (by omega) t (by simpa using ht)
      · intro t ht
        exact ih.2 t (by simpa using ht)
    · simp only [List.takeWhile_cons, hs, decide_false, Bool.false_eq_true, ↓reduceIte, List.length_nil]
      constructor
      · intro i hi; omega
      · intro t ht
        simp at ht; rw [← ht]; exact hs

theorem lowerBound_le (stops : List Rat) (v : Rat) : lowerBound stops v ≤ stops.length := by
  unfold lowerBound
  exact (List.takeWhile_sublist _).length_le

theorem filter_length_le {α : Type} (l : List α) (p q : α → Bool)
    (hpq : ∀ a, p a = true → q a = true) : (l.filter p).length ≤ (l.filter q).length := by
  rw [← List.countP_eq_length_filter, ← List.countP_eq_length_filter]
  exact List.countP_mono_left fun a _ => hpq a

theorem filter_length_lt {α : Type} (l : List α) (p q : α → Bool)
    (hpq : ∀ a, p a = true → q a = true) (t : α) (ht : t ∈ l) (hq : q t = true) (hp : p t = false) :
    (l.filter p).length < (l.filter q).length := by
  induction l with
  | nil => simp at ht
  | cons a rest ih =>
    simp only [List.mem_cons] at ht
    rcases ht with rfl | ht
    · have hp' : ¬ p t = true := by simp [hp]
      rw [List.filter_cons_of_neg hp', List.filter_cons_of_pos hq]
      have := filter_length_le rest p q hpq
      simp only [List.length_cons]; omega
    · have := ih ht
      by_cases hb : p a = true
      · rw [List.filter_cons_of_pos hb, List.filter_cons_of_pos (hpq a hb)]
        simp only [List.length_cons]; omega
      · rw [List.filter_cons_of_neg hb]
        by_cases hq' : q a = true
        · rw [List.filter_cons_of_pos hq']; simp only [List.length_cons]; omega
        · rw [List.filter_cons_of_neg hq']; exact this

/-! ### what the two blocks return -/

/-- the upper block, when it extrapolates (`y_ub < x_ub`), returns `+∞` or a stop point `≥ x_ub` -/
theorem cc76Hi_widened (stops : List Rat) (xu yu : Rat) (h : yu < xu) :
    cc76Hi stops (some xu) (some yu) = none ∨
    ∃ t, cc76Hi stops (some xu) (some yu) = some t ∧ t ∈ stops ∧ xu ≤ t := by
  simp only [cc76Hi, h, ↓reduceIte]
  split_ifs with hk hlt
  · exact Or.inr ⟨_, rfl, List.getElem_mem hk, le_of_lt hlt⟩
  · refine Or.inr ⟨stops[lowerBound stops xu], ?_, List.getElem_mem hk, ?_⟩
    · have h2 := (lowerBound_spec stops xu).2 _ (List.getElem?_eq_getElem hk)
      have : xu = stops[lowerBound stops xu] := le_antisymm (not_lt.mp h2) (not_lt.mp hlt)
      rw [← this]
    · exact not_lt.mp ((lowerBound_spec stops xu).2 _ (List.getElem?_eq_getElem hk))
  · exact Or.inl rfl

theorem cc76Hi_same (stops : List Rat) (xu yu : Rat) (h : ¬ yu < xu) :
    cc76Hi stops (some xu) (some yu) = some xu := by
  simp [cc76Hi, h]

/-- the lower block, when it extrapolates (`y_lb > x_lb`), returns `-∞` or a stop point `≤ x_lb` -/
theorem cc76Lo_widened (stops : List Rat) (xl yl : Rat) (h : xl < yl) :
    cc76Lo stops (some xl) (some yl) = none ∨
    ∃ t, cc76Lo stops (some xl) (some yl) = some t ∧ t ∈ stops ∧ t ≤ xl := by
  have prev : ∀ k, k = lowerBound stops xl → k ≠ 0 →
      (stops[k - 1]? = none ∨ ∃ t, stops[k - 1]? = some t ∧ t ∈ stops ∧ t ≤ xl) := by
    intro k hk hk0
    cases hg : stops[k - 1]? with
    | none => exact Or.inl rfl
    | some t =>
      refine Or.inr ⟨t, rfl, List.mem_of_getElem? hg, le_of_lt ?_⟩
      exact (lowerBound_spec stops xl).1 (k - 1) (by omega) t hg
  simp only [cc76Lo, gt_iff_lt, h, ↓reduceIte]
  split_ifs with hk hlt hk0 hk0'
  · exact prev _ rfl hk0
  · exact Or.inl rfl
  · refine Or.inr ⟨xl, rfl, ?_, le_refl _⟩
    have h2 := (lowerBound_spec stops xl).2 _ (List.getElem?_eq_getElem hk)
    have : xl = stops[lowerBound stops xl] := le_antisymm (not_lt.mp h2) (not_lt.mp hlt)
    rw [this]; exact List.getElem_mem hk
  · exact prev _ rfl hk0'
  · exact Or.inl rfl

theorem cc76Lo_same (stops : List Rat) (xl yl : Rat) (h : ¬ xl < yl) :
    cc76Lo stops (some xl) (some yl) = some xl := by
  simp [cc76Lo, h]

/-! ### soundness: the result contains the larger argument (no precondition at all) -/

theorem cc76Hi_ge (stops : List Rat) (xh yh : Option Rat) :
    cc76Hi stops xh yh = none ∨ ∃ xu t, xh = some xu ∧ cc76Hi stops xh yh = some t ∧ xu ≤ t := by
  cases xh with
  | none => exact Or.inl rfl
  | some xu =>
    cases yh with
    | none => exact Or.inr ⟨xu, xu, rfl, rfl, le_refl _⟩
    | some yu =>
      by_cases h : yu < xu
      · rcases cc76Hi_widened stops xu yu h with h1 | ⟨t, h1, _, h3⟩
        · exact Or.inl h1
        · exact Or.inr ⟨xu, t, rfl, h1, h3⟩
      · exact Or.inr ⟨xu, xu, rfl, cc76Hi_same stops xu yu h, le_refl _⟩

theorem cc76Lo_le (stops : List Rat) (xl yl : Option Rat) :
    cc76Lo stops xl yl = none ∨ ∃ xv t, xl = some xv ∧ cc76Lo stops xl yl = some t ∧ t ≤ xv := by
  cases xl with
  | none => exact Or.inl rfl
  | some xv =>
    cases yl with
    | none => exact Or.inr ⟨xv, xv, rfl, rfl, le_refl _⟩
    | some yv =>
      by_cases h : xv < yv
      · rcases cc76Lo_widened stops xv yv h with h1 | ⟨t, h1, _, h3⟩
        · exact Or.inl h1
        · exact Or.inr ⟨xv, t, rfl, h1, h3⟩
      · exact Or.inr ⟨xv, xv, rfl, cc76Lo_same stops xv yv h, le_refl _⟩

theorem loOK_mono (o : Bool) (t xv q : Rat) (h : t ≤ xv) (hq : loOK (some xv) o q) : loOK (some t) o q := by
  cases o <;> simp only [loOK] at hq ⊢
  · simp at hq ⊢; linarith
  · simp at hq ⊢; linarith

theorem hiOK_mono (o : Bool) (t xu q : Rat) (h : xu ≤ t) (hq : hiOK (some xu) o q) : hiOK (some t) o q := by
  cases o <;> simp only [hiOK] at hq ⊢
  · simp at hq ⊢; linarith
  · simp at hq ⊢; linarith

/-- **The CC76 interval widening returns a superset of its larger argument** (for every list of stop
    points, sorted or not, and every `y`). -/
theorem cc76_sup (stops : List Rat) (x y : Itv) (q : Rat) (h : x.mem q) : (x.cc76 stops y).mem q := by
  obtain ⟨hl, hh⟩ := h
  refine ⟨?_, ?_⟩
  · simp only [Itv.cc76]
    rcases cc76Lo_le stops x.lo y.lo with h1 | ⟨xv, t, e, h1, h2⟩
    · rw [h1]; trivial
    · rw [h1]; rw [e] at hl
      exact loOK_mono _ _ _ _ h2 hl
  · simp only [Itv.cc76]
    rcases cc76Hi_ge stops x.hi y.hi with h1 | ⟨xu, t, e, h1, h2⟩
    · rw [h1]; trivial
    · rw [h1]; rw [e] at hh
      exact hiOK_mono _ _ _ _ h2 hh

/-! ### the structural order on boundaries (what `PPL_ASSERT(contains(y))` says about them) -/

/-- upper boundary `a` is at or below upper boundary `b` -/
def HiLE (a b : Option Rat × Bool) : Prop :=
  match a.1, b.1 with
  | _, none => True
  | none, some _ => False
  | some u, some v => u < v ∨ (u = v ∧ (a.2 = true ∨ b.2 = false))

/-- lower boundary `b` is at or below lower boundary `a` -/
def LoGE (a b : Option Rat × Bool) : Prop :=
  match a.1, b.1 with
  | _, none => True
  | none, some _ => False
  | some u, some v => v < u ∨ (u = v ∧ (a.2 = true ∨ b.2 = false))

/-- `y ⊆ x` on the boundaries -/
def Itv.LE (y x : Itv) : Prop :=
  LoGE (y.lo, y.loOpen) (x.lo, x.loOpen) ∧ HiLE (y.hi, y.hiOpen) (x.hi, x.hiOpen)

/-- same boundaries (flags of infinite boundaries are irrelevant) -/
def Itv.Same (a b : Itv) : Prop :=
  a.lo = b.lo ∧ (a.lo = none ∨ a.loOpen = b.loOpen) ∧ a.hi = b.hi ∧ (a.hi = none ∨ a.hiOpen = b.hiOpen)

theorem Itv.Same.mem_iff {a b : Itv} (h : a.Same b) (q : Rat) : a.mem q ↔ b.mem q := by
  obtain ⟨h1, h2, h3, h4⟩ := h
  unfold Itv.mem
  rw [← h1, ← h3]
  have e1 : loOK a.lo a.loOpen q ↔ loOK a.lo b.loOpen q := by
    rcases h2 with h2 | h2
    · rw [h2]; simp [loOK]
    · rw [h2]
  have e2 : hiOK a.hi a.hiOpen q ↔ hiOK a.hi b.hiOpen q := by
    rcases h4 with h4 | h4
    · rw [h4]; simp [hiOK]
    · rw [h4]
  rw [e1, e2]

/-! ### the measure decreases -/

/-- the share of the open flags in the rank, for two boundaries at the same place -/
theorem flagRank_le {a b : Bool} (h : a = true ∨ b = false) :
    (if b then 1 else 0 : Nat) ≤ (if a then 1 else 0) ∧
    ((if b then 1 else 0 : Nat) = (if a then 1 else 0) → b = a) := by
  cases a <;> cases b <;> simp at h ⊢

theorem rankHi_step (stops : List Rat) (yh zh : Option Rat) (yo zo : Bool)
    (hle : HiLE (yh, yo) (zh, zo)) :
    rankHi stops (cc76Hi stops zh yh) zo ≤ rankHi stops yh yo ∧
    (rankHi stops (cc76Hi stops zh yh) zo = rankHi stops yh yo →
      cc76Hi stops zh yh = yh ∧ (yh = none ∨ zo = yo)) := by
  cases zh with
  | none =>
    simp only [cc76Hi, rankHi]
    refine ⟨Nat.zero_le _, fun h => ?_⟩
    cases yh with
    | none => exact ⟨rfl, Or.inl rfl⟩
    | some yu => simp at h; omega
  | some zu =>
    cases yh with
    | none => simp [HiLE] at hle
    | some yu =>
      simp only [HiLE] at hle
      by_cases hlt : yu < zu
      · -- extrapolation: strictly smaller rank
        have strict : rankHi stops (cc76Hi stops (some zu) (some yu)) zo < rankHi stops (some yu) yo := by
          rcases cc76Hi_widened stops zu yu hlt with h1 | ⟨t, h1, h2, h3⟩
          · rw [h1]; simp [rankHi]
          · rw [h1]
            have hty : yu < t := lt_of_lt_of_le hlt h3
            have := filter_length_lt stops (fun s => decide (t < s)) (fun s => decide (yu < s))
              (fun a ha => by simp at ha ⊢; exact lt_trans hty ha) t h2 (by simpa using hty) (by simp)
            simp only [rankHi]
            split_ifs <;> omega
        exact ⟨le_of_lt strict, fun h => absurd h (ne_of_lt strict)⟩
      · have hs := cc76Hi_same stops zu yu hlt
        rw [hs]
        rcases hle with hle | ⟨e, hle⟩
        · exact absurd hle hlt
        · subst e
          obtain ⟨f1, f2⟩ := flagRank_le (a := yo) (b := zo) hle
          refine ⟨?_, fun h => ⟨rfl, Or.inr (f2 ?_)⟩⟩
          · simp only [rankHi]; omega
          · simp only [rankHi] at h; omega

theorem rankLo_step (stops : List Rat) (yl zl : Option Rat) (yo zo : Bool)
    (hle : LoGE (yl, yo) (zl, zo)) :
    rankLo stops (cc76Lo stops zl yl) zo ≤ rankLo stops yl yo ∧
    (rankLo stops (cc76Lo stops zl yl) zo = rankLo stops yl yo →
      cc76Lo stops zl yl = yl ∧ (yl = none ∨ zo = yo)) := by
  cases zl with
  | none =>
    simp only [cc76Lo, rankLo]
    refine ⟨Nat.zero_le _, fun h => ?_⟩
    cases yl with
    | none => exact ⟨rfl, Or.inl rfl⟩
    | some yu => simp at h; omega
  | some zv =>
    cases yl with
    | none => simp [LoGE] at hle
    | some yv =>
      simp only [LoGE] at hle
      by_cases hlt : zv < yv
      · have strict : rankLo stops (cc76Lo stops (some zv) (some yv)) zo < rankLo stops (some yv) yo := by
          rcases cc76Lo_widened stops zv yv hlt with h1 | ⟨t, h1, h2, h3⟩
          · rw [h1]; simp [rankLo]
          · rw [h1]
            have hty : t < yv := lt_of_le_of_lt h3 hlt
            have := filter_length_lt stops (fun s => decide (s < t)) (fun s => decide (s < yv))
              (fun a ha => by simp at ha ⊢; exact lt_trans ha hty) t h2 (by simpa using hty) (by simp)
            simp only [rankLo]
            split_ifs <;> omega
        exact ⟨le_of_lt strict, fun h => absurd h (ne_of_lt strict)⟩
      · have hs := cc76Lo_same stops zv yv hlt
        rw [hs]
        rcases hle with hle | ⟨e, hle⟩
        · exact absurd hle hlt
        · subst e
          obtain ⟨f1, f2⟩ := flagRank_le (a := yo) (b := zo) hle
          refine ⟨?_, fun h => ⟨rfl, Or.inr (f2 ?_)⟩⟩
          · simp only [rankLo]; omega
          · simp only [rankLo] at h; omega

/-- one application: the rank does not increase, and if it stays the boundaries stay -/
theorem cc76_rank_step (stops : List Rat) (y z : Itv) (hle : y.LE z) :
    (z.cc76 stops y).rank stops ≤ y.rank stops ∧
    ((z.cc76 stops y).rank stops = y.rank stops → (z.cc76 stops y).Same y) := by
  obtain ⟨hl, hh⟩ := hle
  obtain ⟨l1, l2⟩ := rankLo_step stops y.lo z.lo y.loOpen z.loOpen hl
  obtain ⟨h1, h2⟩ := rankHi_step stops y.hi z.hi y.hiOpen z.hiOpen hh
  simp only [Itv.rank, Itv.cc76]
  refine ⟨by omega, fun h => ?_⟩
  obtain ⟨a1, a2⟩ := l2 (by omega)
  obtain ⟨b1, b2⟩ := h2 (by omega)
  refine ⟨a1, ?_, b1, ?_⟩
  · rcases a2 with a2 | a2
    · exact Or.inl (by rw [a1, a2])
    · exact Or.inr a2
  · rcases b2 with b2 | b2
    · exact Or.inl (by rw [b1, b2])
    · exact Or.inr b2

/-- a non-increasing sequence of naturals is eventually constant -/
theorem nat_antitone_eventually_const (f : Nat → Nat) (h : ∀ i, f (i + 1) ≤ f i) :
    ∃ N, ∀ i ≥ N, f (i + 1) = f i := by
  have := eventually_const_of_wf (· < · : Nat → Nat → Prop) Nat.lt_wfRel.wf f
    (fun i => by have := h i; omega)
  exact this

/-- **`Interval::CC76_widening_assign` converges, outright**: for every list of stop points and every
    environment that supplies larger arguments respecting the method's precondition
    (`contains(y)`, on the boundaries), the iterated widening is eventually stationary. -/
theorem cc76_converges_adv (stops : List Rat) (x0 : Itv) (z : Nat → Itv → Itv)
    (hz : ∀ (i : Nat) (x : Itv), x.LE (z i x)) :
    ∃ N, ∀ i ≥ N, ∀ q, (advSeq (Itv.cc76 stops) x0 z (i + 1)).mem q ↔ (advSeq (Itv.cc76 stops) x0 z i).mem q := by
  obtain ⟨N, hN⟩ := nat_antitone_eventually_const (fun i => (advSeq (Itv.cc76 stops) x0 z i).rank stops)
    (fun i => (cc76_rank_step stops _ _ (hz i _)).1)
  refine ⟨N, fun i hi q => ?_⟩
  exact ((cc76_rank_step stops _ _ (hz i _)).2 (hN i hi)).mem_iff q

/-! ### the chain form: joins of non-empty intervals respect the precondition -/

theorem hullHi_ge_left (a b : Option Rat × Bool) : HiLE a (hullHi a b) := by
  obtain ⟨a1, a2⟩ := a; obtain ⟨b1, b2⟩ := b
  cases a1 <;> cases b1 <;> simp only [hullHi, HiLE]
  rename_i u v
  split_ifs with h1 h2
  · exact Or.inl h1
  · exact Or.inr ⟨rfl, by cases a2 <;> simp⟩
  · exact Or.inr ⟨rfl, by cases a2 <;> cases b2 <;> simp⟩

theorem hullLo_le_left (a b : Option Rat × Bool) : LoGE a (hullLo a b) := by
  obtain ⟨a1, a2⟩ := a; obtain ⟨b1, b2⟩ := b
  cases a1 <;> cases b1 <;> simp only [hullLo, LoGE]
  rename_i u v
  split_ifs with h1 h2
  · exact Or.inr ⟨rfl, by cases a2 <;> simp⟩
  · exact Or.inl h2
  · exact Or.inr ⟨rfl, by cases a2 <;> cases b2 <;> simp⟩

theorem Itv.LE.refl (a : Itv) : a.LE a := by
  constructor
  · simp only [LoGE]; cases a.lo <;> cases a.loOpen <;> simp
  · simp only [HiLE]; cases a.hi <;> cases a.hiOpen <;> simp

theorem Itv.join_ge_left (a b : Itv) (ha : a.isEmpty = false) : a.LE (a.join b) := by
  unfold Itv.join
  rw [ha]
  by_cases hb : b.isEmpty = true
  · simp only [Bool.false_eq_true, ↓reduceIte, hb]
    exact Itv.LE.refl a
  · simp only [Bool.false_eq_true, ↓reduceIte, hb]
    exact ⟨hullLo_le_left _ _, hullHi_ge_left _ _⟩

theorem Itv.nonempty_of_LE {y x : Itv} (h : y.LE x) (hy : y.isEmpty = false) : x.isEmpty = false := by
  obtain ⟨hl, hh⟩ := h
  unfold Itv.isEmpty at hy ⊢
  cases hxl : x.lo with
  | none => simp
  | some xl =>
    cases hxh : x.hi with
    | none => simp
    | some xu =>
      rw [hxl] at hl; rw [hxh] at hh
      cases hyl : y.lo with
      | none => rw [hyl] at hl; simp [LoGE] at hl
      | some yl =>
        cases hyh : y.hi with
        | none => rw [hyh] at hh; simp [HiLE] at hh
        | some yu =>
          rw [hyl] at hl; rw [hyh] at hh
          simp only [hyl, hyh, Bool.or_eq_false_iff, decide_eq_false_iff_not, Bool.and_eq_false_imp,
            decide_eq_true_eq] at hy
          simp only [LoGE] at hl
          simp only [HiLE] at hh
          simp only [Bool.or_eq_false_iff, decide_eq_false_iff_not, Bool.and_eq_false_imp,
            decide_eq_true_eq]
          obtain ⟨hy1, hy2⟩ := hy
          have hy1' : yl ≤ yu := not_lt.mp hy1
          refine ⟨?_, ?_⟩
          · rcases hl with hl | ⟨e, _⟩ <;> rcases hh with hh | ⟨e', _⟩ <;> intro hc <;> linarith
          · intro e
            subst e
            rcases hl with hl | ⟨e1, hl⟩
            · rcases hh with hh | ⟨e', _⟩ <;> linarith
            · rcases hh with hh | ⟨e2, hh⟩
              · linarith
              · subst e1; subst e2
                obtain ⟨h1, h2⟩ := hy2 rfl
                rw [h1] at hl; rw [h2] at hh
                exact ⟨hl.resolve_left Bool.false_ne_true, hh.resolve_left Bool.false_ne_true⟩

theorem cc76_LE (stops : List Rat) (x y : Itv) : x.LE (x.cc76 stops y) := by
  constructor
  · simp only [LoGE, Itv.cc76]
    rcases cc76Lo_le stops x.lo y.lo with h1 | ⟨xv, t, e, h1, h2⟩
    · rw [h1]; cases x.lo <;> trivial
    · rw [h1, e]
      simp only
      rcases lt_or_eq_of_le h2 with h | h
      · exact Or.inl h
      · exact Or.inr ⟨h.symm, by cases x.loOpen <;> simp⟩
  · simp only [HiLE, Itv.cc76]
    rcases cc76Hi_ge stops x.hi y.hi with h1 | ⟨xu, t, e, h1, h2⟩
    · rw [h1]; cases x.hi <;> trivial
    · rw [h1, e]
      simp only
      rcases lt_or_eq_of_le h2 with h | h
      · exact Or.inl h
      · exact Or.inr ⟨h, by cases x.hiOpen <;> simp⟩

theorem iter_nonempty (stops : List Rat) (chain : Nat → Itv) (h0 : (chain 0).isEmpty = false) (i : Nat) :
    (iterW Itv.join (Itv.widen stops) chain i).isEmpty = false := by
  induction i with
  | zero => exact h0
  | succ i ih =>
    simp only [iterW, Itv.widen, ih]
    exact Itv.nonempty_of_LE (cc76_LE stops _ _) (Itv.nonempty_of_LE (Itv.join_ge_left _ _ ih) ih)

/-- **Chain form**: along any sequence of intervals (not even required to be ascending) starting from a
    non-empty one, `xᵢ₊₁ = (xᵢ ⊔ cᵢ₊₁).CC76_widening_assign(xᵢ)` is eventually stationary. -/
theorem cc76_converges_chain (stops : List Rat) (chain : Nat → Itv) (h0 : (chain 0).isEmpty = false) :
    ∃ N, ∀ i ≥ N, ∀ q, (iterW Itv.join (Itv.widen stops) chain (i + 1)).mem q ↔
      (iterW Itv.join (Itv.widen stops) chain i).mem q := by
  obtain ⟨N, hN⟩ := nat_antitone_eventually_const
    (fun i => (iterW Itv.join (Itv.widen stops) chain i).rank stops)
    (fun i => by
      have hne := iter_nonempty stops chain h0 i
      simp only [iterW, Itv.widen, hne]
      exact (cc76_rank_step stops _ _ (Itv.join_ge_left _ _ hne)).1)
  refine ⟨N, fun i hi q => ?_⟩
  have hne := iter_nonempty stops chain h0 i
  have h := hN i hi
  simp only [iterW, Itv.widen, hne] at h ⊢
  exact ((cc76_rank_step stops _ _ (Itv.join_ge_left _ _ hne)).2 h).mem_iff q

end PPLV.Widen

import PPLV.Widen.ImplH79ProofsSem
import PPLV.Widen.ProofsCert
import Mathlib.LinearAlgebra.FiniteDimensional.Basic
import Mathlib.LinearAlgebra.FiniteDimensional.Lemmas
import Mathlib.LinearAlgebra.Dimension.Constructions

/-!
# the H79 widening on minimised closed polyhedra: the certificate decreases
-/
namespace PPLV.Widen.Impl
open PPLV.Widen

/-- what the selection gives for a row of `h79Rows x y` when `y` is minimised -/
theorem h79Rows_matched {n : Nat} {x y : YMin} (hy : MinimalDD n y) {ci : CRow} (hci : ci ∈ h79Rows x y) :
    ci ∈ x.conSys ∧ ∃ cj ∈ y.conSys, cj.isTautological false = false ∧
      satRow ci y.genSys = satRow cj y.genSys := by
  rw [h79Rows_eq] at hci
  obtain ⟨hx, b, hb, hbe⟩ := mem_selectH79_fst hci
  refine ⟨hx, ?_⟩
  have hl : y.satG.length = y.conSys.length := by rw [hy.satG_ok]; simp
  obtain ⟨j, hj, hnt, hsj⟩ := mem_tmpSatG_nontaut hl hy.oneTaut hb
  refine ⟨y.conSys.getD j default, ?_, hnt, ?_⟩
  · rw [List.getD_eq_getElem _ _ hj]; exact List.getElem_mem hj
  · rw [← hbe, ← hsj]
    have hj' : j < y.satG.length := by omega
    rw [List.getD_eq_getElem _ _ hj', List.getD_eq_getElem _ _ hj]
    simp [hy.satG_ok]

/-- the sub-system of `y` describing the widened polyhedron -/
def h79Sub (x y : YMin) : List CRow :=
  (y.conSys.filter (!·.isTautological false)).filter fun c =>
    c.eq || (h79Rows x y).any fun ci => satRow ci y.genSys == satRow c y.genSys

theorem h79Sub_sublist (x y : YMin) : (h79Sub x y).Sublist (y.conSys.filter (!·.isTautological false)) :=
  List.filter_sublist

theorem h79Sub_den (n : Nat) (x y : YMin) (hy : MinimalDD n y) (hxwf : WFRows n x.conSys)
    (hyx : den false n y.conSys ⊆ den false n x.conSys)
    (hdim : annih n (den false n (h79Rows x y)) = annih n (den false n y.conSys)) :
    den false n (h79Sub x y) = den false n (h79Rows x y) := by
  -- the equality rows of `y` hold on the result
  have heqs : ∀ p ∈ den false n (h79Rows x y), SatRows (y.conSys.filter (·.eq)) (hom n p 0) := by
    intro p hp c hc
    obtain ⟨hcy, hceq⟩ := List.mem_filter.mp hc
    have hlen : c.e.length ≤ n + 1 := le_of_eq (hy.wf c hcy)
    have hmem : affOf n c.e ∈ annih n (den false n y.conSys) := by
      rw [affOf_mem_annih hlen]
      intro q hq
      have := hq c hcy
      unfold CRow.holds at this
      rw [if_pos hceq] at this
      exact this
    rw [← hdim, affOf_mem_annih hlen] at hmem
    unfold CRow.holds
    rw [if_pos hceq]
    exact hmem p hp
  -- a row of the result and its matched row of `y` agree where the equalities of `y` hold
  have hagree : ∀ ci ∈ h79Rows x y, ∀ cj ∈ y.conSys, cj.isTautological false = false →
      satRow ci y.genSys = satRow cj y.genSys → ∀ p : Pt,
      SatRows (y.conSys.filter (·.eq)) (hom n p 0) → (ci.holds (hom n p 0) ↔ cj.holds (hom n p 0)) := by
    intro ci hci cj hcj hnt hs p hp
    have hcix : ci ∈ x.conSys := (h79Rows_sublist x y).subset hci
    exact hy.hfacet ci (hxwf ci hcix) (fun q hq => hyx hq ci hcix) cj hcj hnt hs p hp
  apply Set.Subset.antisymm
  · intro p hp
    -- all equality rows of `y` hold at `p`
    have hpe : SatRows (y.conSys.filter (·.eq)) (hom n p 0) := by
      intro c hc
      obtain ⟨hcy, hceq⟩ := List.mem_filter.mp hc
      by_cases ht : c.isTautological false = true
      · exact holds_of_taut ht _ (hom_zero n p 0)
      · apply hp c
        unfold h79Sub
        rw [List.mem_filter, List.mem_filter]
        exact ⟨⟨hcy, by simpa using ht⟩, by simp [hceq]⟩
    intro ci hci
    obtain ⟨_, cj, hcj, hnt, hs⟩ := h79Rows_matched hy hci
    rw [hagree ci hci cj hcj hnt hs p hpe]
    apply hp cj
    unfold h79Sub
    rw [List.mem_filter, List.mem_filter]
    refine ⟨⟨hcj, by simp [hnt]⟩, ?_⟩
    rw [Bool.or_eq_true]
    right
    rw [List.any_eq_true]
    exact ⟨ci, hci, by simpa using hs⟩
  · intro p hp c hc
    unfold h79Sub at hc
    rw [List.mem_filter, List.mem_filter] at hc
    obtain ⟨⟨hcy, hnt⟩, hsel⟩ := hc
    have hpe := heqs p hp
    rw [Bool.or_eq_true] at hsel
    rcases hsel with hceq | hany
    · exact hpe c (List.mem_filter.mpr ⟨hcy, hceq⟩)
    · rw [List.any_eq_true] at hany
      obtain ⟨ci, hci, hs⟩ := hany
      rw [← hagree ci hci c hcy (by simpa using hnt) (by simpa using hs) p hpe]
      exact hp ci hci

/-- `den y ⊆ den (h79Rows x y)` -/
theorem h79Rows_contains_y (n : Nat) (x y : YMin)
    (hyx : den false n y.conSys ⊆ den false n x.conSys) :
    den false n y.conSys ⊆ den false n (h79Rows x y) :=
  hyx.trans (den_mono_sublist false n (h79Rows_sublist x y))

theorem minCons_le {n : Nat} {cs : List CRow} (h : WFRows n cs) :
    minCons n (den false n cs) ≤ cs.length :=
  Nat.sInf_le ⟨cs, h, rfl, rfl⟩

theorem eqRank_anti {n : Nat} {S T : Set Pt} (h : S ⊆ T) : eqRank n T ≤ eqRank n S :=
  Submodule.finrank_mono (annih_anti h)

theorem h79_certificate_decreases (n : Nat) (x y : YMin) (hy : MinimalDD n y) (hxwf : WFRows n x.conSys)
    (hyx : den false n y.conSys ⊆ den false n x.conSys)
    (hne : den false n (h79Rows x y) ≠ den false n y.conSys) :
    certLess (setCert n (den false n (h79Rows x y))) (setCert n (den false n y.conSys)) := by
  have hsub := h79Rows_contains_y n x y hyx
  have hle : annih n (den false n (h79Rows x y)) ≤ annih n (den false n y.conSys) := annih_anti hsub
  have hfr : eqRank n (den false n (h79Rows x y)) ≤ eqRank n (den false n y.conSys) := eqRank_anti hsub
  unfold certLess setCert
  apply lex_mk
  rcases Nat.lt_or_ge (eqRank n (den false n (h79Rows x y))) (eqRank n (den false n y.conSys)) with hlt | hge
  · exact Or.inl hlt
  · right
    have hfe : eqRank n (den false n (h79Rows x y)) = eqRank n (den false n y.conSys) := le_antisymm hfr hge
    refine ⟨hfe, ?_⟩
    have hdim : annih n (den false n (h79Rows x y)) = annih n (den false n y.conSys) :=
      Submodule.eq_of_le_of_finrank_eq hle hfe
    have hden := h79Sub_den n x y hy hxwf hyx hdim
    have hsl := h79Sub_sublist x y
    have hwf : WFRows n (h79Sub x y) :=
      wfRows_sublist (hsl.trans List.filter_sublist) hy.wf
    have hlen : (h79Sub x y).length < (y.conSys.filter (!·.isTautological false)).length := by
      rcases Nat.lt_or_ge (h79Sub x y).length (y.conSys.filter (!·.isTautological false)).length with h | h
      · exact h
      · exfalso
        have he := hsl.eq_of_length_le h
        apply hne
        rw [← hden, he, den_filter_nontaut]
    rw [← hy.hymin, ← hden]
    exact lt_of_le_of_lt (minCons_le hwf) hlen

/-! ### a result described by a sub-system of `y`'s rows ([CousotH78] shortcut, `x = y`) -/

/-- dropping rows of a minimised system: either the set is the same or the certificate decreases
    (uses `hymin` only) -/
theorem subsystem_certLess (n : Nat) (y : YMin) (hy : MinimalDD n y) (sub : List CRow)
    (hsub : sub.Sublist y.conSys)
    (hne : den false n sub ≠ den false n y.conSys) :
    certLess (setCert n (den false n sub)) (setCert n (den false n y.conSys)) := by
  have hsup : den false n y.conSys ⊆ den false n sub := den_mono_sublist false n hsub
  have hfr := eqRank_anti (n := n) hsup
  unfold certLess setCert
  apply lex_mk
  rcases Nat.lt_or_ge (eqRank n (den false n sub)) (eqRank n (den false n y.conSys)) with hlt | hge
  · exact Or.inl hlt
  · right
    refine ⟨le_antisymm hfr hge, ?_⟩
    have hsl : (sub.filter (!·.isTautological false)).Sublist (y.conSys.filter (!·.isTautological false)) :=
      hsub.filter _
    have hwf : WFRows n (sub.filter (!·.isTautological false)) :=
      wfRows_sublist (hsl.trans List.filter_sublist) hy.wf
    have hlen : (sub.filter (!·.isTautological false)).length <
        (y.conSys.filter (!·.isTautological false)).length := by
      rcases Nat.lt_or_ge (sub.filter (!·.isTautological false)).length
        (y.conSys.filter (!·.isTautological false)).length with h | h
      · exact h
      · exfalso
        have he := hsl.eq_of_length_le h
        apply hne
        rw [← den_filter_nontaut n sub, he, den_filter_nontaut]
    rw [← hy.hymin, ← den_filter_nontaut n sub]
    exact lt_of_le_of_lt (minCons_le hwf) hlen

theorem selectCH78_sublist (nnc : Bool) (xGens : List GRow) (yCons : List CRow) :
    (selectCH78Constraints nnc xGens yCons).Sublist yCons := List.filter_sublist

/-! ### the same in the order `H79Cert.LessPh` -/

/-- a non-empty set satisfies at most `n` independent equalities: the constant form `1` vanishes nowhere -/
theorem eqRank_le {n : Nat} {S : Set Pt} (hS : S.Nonempty) : eqRank n S ≤ n := by
  obtain ⟨p, hp⟩ := hS
  have hne : annih n S ≠ ⊤ := by
    intro htop
    have hmem : (fun i : Fin (n + 1) => if i = 0 then (1 : ℚ) else 0) ∈ annih n S := by
      rw [htop]; exact Submodule.mem_top
    have := hmem p hp
    simp [Fin.succ_ne_zero] at this
  have hlt := Submodule.finrank_lt hne
  rw [Module.finrank_fin_fun] at hlt
  exact Nat.lt_succ_iff.mp hlt

theorem h79_certificate_decreases_lessPh (n : Nat) (x y : YMin) (hy : MinimalDD n y)
    (hxwf : WFRows n x.conSys)
    (hyx : den false n y.conSys ⊆ den false n x.conSys)
    (hyne : (den false n y.conSys).Nonempty)
    (hne : den false n (h79Rows x y) ≠ den false n y.conSys) :
    H79Cert.LessPh n (setH79Cert n (den false n (h79Rows x y))) (setH79Cert n (den false n y.conSys)) := by
  have hsub := h79Rows_contains_y n x y hyx
  have hfr : eqRank n (den false n (h79Rows x y)) ≤ eqRank n (den false n y.conSys) := eqRank_anti hsub
  have hyn : eqRank n (den false n y.conSys) ≤ n := eqRank_le hyne
  have hdec := h79_certificate_decreases n x y hy hxwf hyx hne
  unfold certLess setCert at hdec
  unfold H79Cert.LessPh setH79Cert
  refine ⟨?_, by simp only; omega, by simp only; omega⟩
  rw [H79Cert.comparePh_gt]
  simp only
  rcases (Prod.lex_def).mp hdec with h | ⟨h1, h2⟩
  · left; simp only at h; omega
  · right; simp only at h1 h2; exact ⟨by omega, h2⟩

theorem certLess_wf : WellFounded certLess :=
  WellFounded.prod_lex Nat.lt_wfRel.wf Nat.lt_wfRel.wf


end PPLV.Widen.Impl

import PPLV.Widen.ImplH79ProofsSem
import Mathlib.Tactic.Ring
import Mathlib.Tactic.Linarith

/-!
# `Generator_System::satisfied_by_all_generators` is sound (closed polyhedra):
a constraint that every generator satisfies holds at every point generated by them
-/
namespace PPLV.Widen.Impl

theorem evalRow_congr : ∀ (e : Vec) (v w : Nat → Rat), (∀ i, i < e.length → v i = w i) →
    evalRow e v = evalRow e w
  | [], _, _, _ => rfl
  | a :: as, v, w, h => by
    simp only [evalRow]
    rw [h 0 (by simp), evalRow_congr as _ _ (fun i hi => h (i + 1) (by simpa using hi))]

theorem evalRow_add_fun : ∀ (e : Vec) (v w : Nat → Rat),
    evalRow e (fun i => v i + w i) = evalRow e v + evalRow e w
  | [], _, _ => by simp [evalRow]
  | a :: as, v, w => by
    simp only [evalRow]
    rw [evalRow_add_fun as]
    ring

theorem evalRow_smul_fun : ∀ (e : Vec) (c : Rat) (v : Nat → Rat),
    evalRow e (fun i => c * v i) = c * evalRow e v
  | [], _, _ => by simp [evalRow]
  | a :: as, c, v => by
    simp only [evalRow]
    rw [evalRow_smul_fun as]
    ring

/-- `Scalar_Products::assign` is `evalRow` at the generator's vector -/
theorem evalRow_getD : ∀ (e l : Vec), evalRow e (fun i => ((l.getD i 0 : Int) : Rat)) = ((sp e l : Int) : Rat)
  | [], _ => by simp [evalRow, sp]
  | a :: as, [] => by
    have h : evalRow as (fun _ => (0 : Rat)) = 0 := evalRow_zero_fun' as
    simp only [evalRow, sp, List.getD_nil]
    simp [h]
  | a :: as, b :: bs => by
    simp only [evalRow, sp, List.getD_cons_zero, List.getD_cons_succ]
    rw [evalRow_getD as bs]
    push_cast
    ring
where
  evalRow_zero_fun' : ∀ (e : Vec), evalRow e (fun _ => (0 : Rat)) = 0
    | [] => rfl
    | a :: as => by simp [evalRow, evalRow_zero_fun' as]

theorem evalRow_vec (e : Vec) (g : GRow) : evalRow e g.vec = ((sp e g.e : Int) : Rat) :=
  evalRow_getD e g.e

/-- `Σ_k t k * sp(e, gs[k])` -/
def combSp (e : Vec) : List GRow → (Nat → Rat) → Rat
  | [], _ => 0
  | g :: gs, t => t 0 * ((sp e g.e : Int) : Rat) + combSp e gs (fun k => t (k + 1))

theorem evalRow_genComb (e : Vec) : ∀ (gs : List GRow) (t : Nat → Rat),
    evalRow e (genComb gs t) = combSp e gs t
  | [], t => by
    show evalRow e (fun _ => (0 : Rat)) = 0
    exact evalRow_getD.evalRow_zero_fun' e
  | g :: gs, t => by
    show evalRow e (fun i => t 0 * g.vec i + genComb gs (fun k => t (k + 1)) i) = _
    rw [evalRow_add_fun, evalRow_smul_fun, evalRow_vec, evalRow_genComb e gs]
    rfl

theorem combSp_eq_zero (e : Vec) : ∀ (gs : List GRow) (t : Nat → Rat),
    (∀ g ∈ gs, sp e g.e = 0) → combSp e gs t = 0
  | [], _, _ => rfl
  | g :: gs, t, h => by
    simp only [combSp]
    rw [h g (List.mem_cons_self), combSp_eq_zero e gs _ (fun g' hg' => h g' (List.mem_cons_of_mem _ hg'))]
    simp

theorem combSp_nonneg (e : Vec) : ∀ (gs : List GRow) (t : Nat → Rat), CoefOK gs t →
    (∀ g ∈ gs, if g.line then sp e g.e = 0 else 0 ≤ sp e g.e) → 0 ≤ combSp e gs t
  | [], _, _, _ => le_refl _
  | g :: gs, t, hc, h => by
    simp only [combSp]
    have ih := combSp_nonneg e gs _ hc.2 (fun g' hg' => h g' (List.mem_cons_of_mem _ hg'))
    have hg := h g (List.mem_cons_self)
    cases hl : g.line
    · rw [hl] at hg
      simp only [Bool.false_eq_true, if_false] at hg
      have h1 : (0 : Rat) ≤ ((sp e g.e : Int) : Rat) := by exact_mod_cast hg
      have h2 := hc.1 hl
      have := mul_nonneg h2 h1
      linarith
    · rw [hl] at hg
      simp only [if_true] at hg
      rw [hg]
      simp only [Int.cast_zero, mul_zero, zero_add]
      exact ih

/-- **`satisfied_by_all_generators` is sound** for rows of at most `n + 1` columns -/
theorem satisfiedByAllGenerators_sound {n : Nat} {gs : List GRow} {c : CRow} (hlen : c.e.length ≤ n + 1)
    (h : satisfiedByAllGenerators false gs c = true) {p : Pt} (hp : GenComb n gs p) :
    c.holds (hom n p 0) := by
  obtain ⟨t, htok, ht⟩ := hp
  have he : evalRow c.e (hom n p 0) = combSp c.e gs t := by
    rw [← evalRow_genComb]
    exact evalRow_congr _ _ _ fun i hi => ht i (by omega)
  unfold CRow.holds
  rw [he]
  unfold satisfiedByAllGenerators CRow.type at h
  cases heq : c.eq
  · rw [heq] at h
    simp only [Bool.false_eq_true, if_false, Bool.not_false, if_true, List.all_eq_true] at h
    simp only [Bool.false_eq_true, if_false]
    apply combSp_nonneg _ _ _ htok
    intro g hg
    have := h g hg
    unfold spsAdj at this
    simp only [Bool.false_eq_true, if_false] at this
    split_ifs at this ⊢ with hl
    · simpa using this
    · simpa using this
  · rw [heq] at h
    simp only [if_true, List.all_eq_true] at h
    simp only [if_true]
    apply combSp_eq_zero
    intro g hg
    have := h g hg
    unfold spsAdj at this
    simpa using this

end PPLV.Widen.Impl

import PPLV.Widen.ImplH79ProofsEngineFacet0
import PPLV.Widen.ImplH79ProofsGen
import Mathlib.Tactic.Ring
import Mathlib.Tactic.Linarith
import Mathlib.Tactic.FieldSimp
import Mathlib.Data.Rat.Lemmas

/-!
# rational points `(1, p)` versus integer vectors of the homogeneous space
-/
namespace PPLV.Widen.Impl

theorem sp_of_repZ {n : Nat} {d : Int} {v : Vec} {p : Pt} (h : RepZ n d v p) (e : Vec)
    (he : e.length ≤ n + 1) : ((sp e v : Int) : Rat) = (d : Rat) * evalRow e (hom n p 0) := by
  rw [← evalRow_getD e v, ← evalRow_smul_fun]
  exact evalRow_congr _ _ _ fun i hi => h.2.2 i (by omega)

theorem holds_iff_holdsZ {n : Nat} {d : Int} {v : Vec} {p : Pt} (h : RepZ n d v p) (c : CRow)
    (hc : c.e.length ≤ n + 1) : c.holds (hom n p 0) ↔ c.holdsZ v := by
  have hs := sp_of_repZ h c.e hc
  have hd : (0 : Rat) < (d : Rat) := by exact_mod_cast h.1
  unfold CRow.holds CRow.holdsZ
  cases c.eq
  · simp only [Bool.false_eq_true, if_false]
    rw [show (0 ≤ sp c.e v) ↔ (0 : Rat) ≤ ((sp c.e v : Int) : Rat) from (by norm_cast), hs]
    constructor
    · intro h0; exact mul_nonneg hd.le h0
    · intro h0; exact (mul_nonneg_iff_of_pos_left hd).1 h0
  · simp only [if_true]
    rw [show (sp c.e v = 0) ↔ ((sp c.e v : Int) : Rat) = 0 from (by norm_cast), hs]
    constructor
    · intro h0; rw [h0, mul_zero]
    · intro h0
      rcases mul_eq_zero.1 h0 with h1 | h1
      · exact absurd h1 hd.ne'
      · exact h1

theorem getD_map_mul (k : Int) (l : List Int) (i : Nat) :
    (l.map (fun x => k * x)).getD i 0 = k * l.getD i 0 := by
  induction l generalizing i with
  | nil => simp
  | cons a as ih =>
    cases i with
    | zero => simp
    | succ j => simpa using ih j

theorem exists_scaled (n : Nat) : ∀ p : Nat → Rat, ∃ d : Int, 0 < d ∧ ∃ l : List Int, l.length = n ∧
    ∀ i, i < n → ((l.getD i 0 : Int) : Rat) = p i * (d : Rat) := by
  induction n with
  | zero => intro p; exact ⟨1, one_pos, [], rfl, fun i hi => absurd hi (by omega)⟩
  | succ m ih =>
    intro p
    obtain ⟨d, hd, l, hl, hi⟩ := ih (fun i => p (i + 1))
    refine ⟨((p 0).den : Int) * d, mul_pos (by exact_mod_cast (p 0).den_pos) hd,
      ((p 0).num * d) :: l.map (fun x => ((p 0).den : Int) * x), by simp [hl], ?_⟩
    intro i hlt
    cases i with
    | zero =>
      simp only [List.getD_cons_zero]
      push_cast
      have := Rat.mul_den_eq_num (p 0)
      rw [← this]; ring
    | succ j =>
      simp only [List.getD_cons_succ]
      rw [getD_map_mul]
      push_cast
      rw [hi j (by omega)]
      ring

theorem exists_repZ_of_pt (n : Nat) (p : Pt) : ∃ (d : Int) (v : Vec), RepZ n d v p := by
  obtain ⟨d, hd, l, hl, hi⟩ := exists_scaled n p
  refine ⟨d, d :: l, hd, by simp [hl], ?_⟩
  intro i hle
  cases i with
  | zero => simp [hom]
  | succ j =>
    simp only [List.getD_cons_succ]
    rw [hi j (by omega)]
    have : j + 1 ≤ n := hle
    simp [hom, this, mul_comm]

theorem exists_repZ_of_vec (n : Nat) (v : Vec) (hl : v.length = n + 1) (hd : 0 < v.headD 0) :
    ∃ p : Pt, RepZ n (v.headD 0) v p := by
  refine ⟨fun i => ((v.getD (i + 1) 0 : Int) : Rat) / ((v.headD 0 : Int) : Rat), hd, hl, ?_⟩
  have hne : ((v.headD 0 : Int) : Rat) ≠ 0 := by exact_mod_cast hd.ne'
  intro i hle
  cases i with
  | zero =>
    cases v with
    | nil => simp at hl
    | cons a as => simp [hom]
  | succ j =>
    have : j + 1 ≤ n := hle
    simp only [hom, this, if_true, Nat.add_sub_cancel, Nat.succ_ne_zero, if_false]
    rw [mul_div_cancel₀ _ hne]

end PPLV.Widen.Impl

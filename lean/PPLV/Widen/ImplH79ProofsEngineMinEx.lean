import PPLV.Widen.ImplH79ProofsEngineMin

/-!
# `hymin_of_engine`: the hypotheses are satisfiable, and `FacetPoints` cannot be dropped
-/
namespace PPLV.Widen.Impl

theorem sp_pair (c : Vec) (a b : Int) : sp c [a, b] = a * sp c [1, 0] + b * sp c [0, 1] := by
  rcases c with _ | ⟨c0, _ | ⟨c1, cs⟩⟩
  · simp [sp]
  · simp [sp]; ring
  · cases cs <;> simp [sp] <;> ring

/-! ### a non-trivial instance of all hypotheses: `{x ≥ 0}` in dimension one -/

def yGood : YMin :=
  { conSys := [⟨[0, 1], false⟩, ⟨[1, 0], false⟩]
    genSys := [⟨[1, 0], false⟩, ⟨[0, 1], false⟩]
    satG := [⟨[0, 1], false⟩, ⟨[1, 0], false⟩].map fun c => satRow c [⟨[1, 0], false⟩, ⟨[0, 1], false⟩] }

theorem engine_yGood : EngineDD 1 yGood where
  wf := by intro c hc; simp [yGood] at hc; rcases hc with rfl | rfl <;> rfl
  gwf := by decide
  satG_ok := rfl
  gens_in := by decide
  complete := by
    intro v hv hc
    obtain ⟨a, b, rfl⟩ : ∃ a b, v = [a, b] := by
      rcases v with _ | ⟨a, _ | ⟨b, _ | _⟩⟩ <;> simp at hv
      exact ⟨a, b, rfl⟩
    have h1 := hc ⟨[0, 1], false⟩ (by simp [yGood])
    have h2 := hc ⟨[1, 0], false⟩ (by simp [yGood])
    simp [CRow.holdsZ, sp] at h1 h2
    refine ⟨1, [a, b], by omega, rfl, ?_, ?_⟩
    · intro i hi _
      have : i = 0 ∨ i = 1 := by simp [yGood] at hi; omega
      rcases this with rfl | rfl <;> simp <;> assumption
    · intro c
      rw [sp_pair c a b]
      simp [yGood, List.range_succ]
  irred := by
    intro i hi he
    have : i = 0 ∨ i = 1 := by simp [yGood] at hi; omega
    rcases this with rfl | rfl
    · exact ⟨[0, -1], rfl, by decide, by decide⟩
    · exact ⟨[-1, 0], rfl, by decide, by decide⟩
  proper := by decide
  eqIndep := fun f _ i hi => absurd hi (Nat.not_lt_zero i)
  hasPoint := by decide

theorem facetPoints_yGood : FacetPoints yGood := by
  intro c hc _ ht
  simp [yGood] at hc
  rcases hc with rfl | rfl
  · exact ⟨⟨[1, 0], false⟩, by simp [yGood], rfl, by simp, by simp [sp]⟩
  · exact absurd ht (by decide)

example : (yGood.conSys.filter (!·.isTautological false)).length = minCons 1 (den false 1 yGood.conSys) :=
  hymin_of_engine 1 yGood engine_yGood facetPoints_yGood

/-! ### `FacetPoints` cannot be dropped: `{x = 0, 1 + x ≥ 0}` -/

def yBad : YMin :=
  { conSys := [⟨[0, 1], true⟩, ⟨[1, 1], false⟩]
    genSys := [⟨[1, 0], false⟩]
    satG := [⟨[0, 1], true⟩, ⟨[1, 1], false⟩].map fun c => satRow c [⟨[1, 0], false⟩] }

theorem engine_yBad : EngineDD 1 yBad where
  wf := by intro c hc; simp [yBad] at hc; rcases hc with rfl | rfl <;> rfl
  gwf := by decide
  satG_ok := rfl
  gens_in := by decide
  complete := by
    intro v hv hc
    obtain ⟨a, b, rfl⟩ : ∃ a b, v = [a, b] := by
      rcases v with _ | ⟨a, _ | ⟨b, _ | _⟩⟩ <;> simp at hv
      exact ⟨a, b, rfl⟩
    have h1 := hc ⟨[0, 1], true⟩ (by simp [yBad])
    have h2 := hc ⟨[1, 1], false⟩ (by simp [yBad])
    simp [CRow.holdsZ, sp] at h1 h2
    subst h1
    refine ⟨1, [a], by omega, rfl, ?_, ?_⟩
    · intro i hi _
      have : i = 0 := by simp [yBad] at hi; omega
      subst this
      simpa using h2
    · intro c
      rw [sp_pair c a 0]
      simp [yBad]
  irred := by
    intro i hi he
    have : i = 0 ∨ i = 1 := by simp [yBad] at hi; omega
    rcases this with rfl | rfl
    · exact absurd he (by decide)
    · exact ⟨[-1, 0], rfl, by decide, by decide⟩
  proper := by decide
  eqIndep := by
    intro f hf i hi
    have : i = 0 := by simp [yBad] at hi; omega
    subst this
    have := hf 1 (by omega)
    simpa [yBad] using this
  hasPoint := by decide

theorem den_yBad : den false 1 [⟨[0, 1], true⟩] = den false 1 yBad.conSys := by
  ext p
  simp only [mem_den_false, SatRows, yBad, List.mem_cons, List.mem_nil_iff, or_false, forall_eq_or_imp,
    forall_eq, CRow.holds, evalRow, hom]
  simp
  intro h
  rw [h]; norm_num

/-- the conclusion of `hymin_of_engine` fails for `yBad`, which has every `EngineDD` field -/
theorem hymin_fails_without_facetPoints :
    EngineDD 1 yBad ∧
      (yBad.conSys.filter (!·.isTautological false)).length ≠ minCons 1 (den false 1 yBad.conSys) := by
  refine ⟨engine_yBad, ?_⟩
  have h2 : (yBad.conSys.filter (!·.isTautological false)).length = 2 := by decide
  have h1 : minCons 1 (den false 1 yBad.conSys) ≤ 1 :=
    Nat.sInf_le ⟨[⟨[0, 1], true⟩], by intro c hc; simp at hc; subst hc; rfl, rfl, den_yBad⟩
  omega

end PPLV.Widen.Impl

import PPLV.Widen.ImplGridProofsGen2
import PPLV.Lattice.ProofsRedGenBase
import Mathlib.Tactic.Ring
import Mathlib.Tactic.FieldSimp

/-!
# `Grid::select_wider_generators`: turning a parameter into a line only enlarges the grid

* `gridLine_get`, `hv_gridLine`, `hv_gridLine_inv`: on the columns `0..n` a row with a zero inhomogeneous term is a
  non-zero integer multiple of its `grid_line` (the gcd the normalisation divides by, up to the sign);
* `hom_mono_to_line` / `hom_mono_param_to_line`: replacing such rows by their `grid_line` only enlarges `Hom`;
* `selectWiderGenerators_hom_mono`, `selectWiderGenerators_gensSem_mono`: the corollary for the selection.
-/
namespace PPLV.Widen.ImplGrid
open PPLV.Lattice PPLV.Lattice.Red

/-! ### `grid_line` rescales -/

/-- on the columns `0..n` (the inhomogeneous term is zero, the zeroed last column lies beyond `n`) a row is a non-zero
    integer multiple of its `grid_line`: `s = ± gcd` -/
theorem gridLine_get (n : Nat) (r : GRow) (h0 : get r.e 0 = 0) (hlen : n + 2 ≤ r.e.length) :
    ∃ s : Int, s ≠ 0 ∧ ∀ i, i ≤ n → get r.e i = s * get (gridLine r).e i := by
  obtain ⟨e0, he0def⟩ : ∃ e0 : Row, e0 = tab r.e (fun i => if i = 0 ∨ i + 1 = r.e.length then 0 else get r.e i) :=
    ⟨_, rfl⟩
  obtain ⟨e1, he1def⟩ : ∃ e1 : Row,
      e1 = if rowGcd e0 ≠ 0 ∧ rowGcd e0 ≠ 1 then e0.map (fun z => z / rowGcd e0) else e0 := ⟨_, rfl⟩
  have he0 : ∀ i, i ≤ n → get e0 i = get r.e i := by
    intro i hi
    rw [he0def, get_tab, if_pos (by omega)]
    by_cases hi0 : i = 0
    · subst hi0; simp [h0]
    · rw [if_neg (by omega)]
  have he1 : ∃ s1 : Int, s1 ≠ 0 ∧ ∀ i, get e0 i = s1 * get e1 i := by
    by_cases hg : rowGcd e0 ≠ 0 ∧ rowGcd e0 ≠ 1
    · rw [he1def, if_pos hg]
      refine ⟨rowGcd e0, hg.1, fun i => ?_⟩
      rw [get_map0 _ _ (by simp)]
      exact (Int.mul_ediv_cancel' (rowGcd_dvd_get e0 i)).symm
    · rw [he1def, if_neg hg]; exact ⟨1, by decide, fun i => by simp⟩
  obtain ⟨s1, hs1, h1⟩ := he1
  have hgl : (gridLine r).e = signNormalize e1 := by rw [he1def, he0def]; rfl
  rcases signNormalize_cases e1 with hs | hs
  · refine ⟨s1, hs1, fun i hi => ?_⟩
    rw [hgl, hs, ← h1, he0 i hi]
  · refine ⟨-s1, by simpa using hs1, fun i hi => ?_⟩
    rw [hgl, hs, get_map0 _ _ (by simp), ← he0 i hi, h1 i]; ring

/-- the homogeneous vector of the row is a non-zero integer multiple of the one of its `grid_line` -/
theorem hv_gridLine (n : Nat) (r : GRow) (h0 : get r.e 0 = 0) (hlen : n + 2 ≤ r.e.length) :
    ∃ s : Int, s ≠ 0 ∧ hv n r = (s : Rat) • hv n (gridLine r) := by
  obtain ⟨s, hs, h⟩ := gridLine_get n r h0 hlen
  exact ⟨s, hs, hv_smul s h⟩

/-- … equivalently `hvec (grid_line r) = c • hvec r` for a non-zero rational `c` (`= ± 1 / gcd`) -/
theorem hv_gridLine_inv (n : Nat) (r : GRow) (h0 : get r.e 0 = 0) (hlen : n + 2 ≤ r.e.length) :
    ∃ c : Rat, c ≠ 0 ∧ hv n (gridLine r) = c • hv n r := by
  obtain ⟨s, hs, h⟩ := hv_gridLine n r h0 hlen
  have hs' : (s : Rat) ≠ 0 := by exact_mod_cast hs
  refine ⟨1 / (s : Rat), one_div_ne_zero hs', ?_⟩
  rw [h, smul_smul]
  have : 1 / (s : Rat) * s = 1 := by field_simp
  rw [this, one_smul]

/-! ### turning rows into lines only enlarges -/

/-- rows replaced by their `grid_line` (zero inhomogeneous term, at least `n + 2` columns; whether the replaced row
    was a parameter or already a line does not matter): the lattice only grows -/
theorem hom_mono_to_line {n : Nat} {xs out : List GRow} (hlen : out.length = xs.length)
    (h : ∀ i, i < xs.length → rowAt out i = rowAt xs i ∨
      (rowAt out i = gridLine (rowAt xs i) ∧ get (rowAt xs i).e 0 = 0 ∧ n + 2 ≤ (rowAt xs i).e.length)) :
    ∀ v, Hom n xs v → Hom n out v := by
  intro v
  refine hom_le_idx1 fun i hi => ?_
  rcases h i hi with e | ⟨e, h0, hl⟩
  · rw [← e]
    exact ⟨fun hl => hom_pc (by omega) hl, fun hl c => hom_line (by omega) hl c⟩
  · obtain ⟨s, _, hs⟩ := hv_gridLine n (rowAt xs i) h0 hl
    have hL : (rowAt out i).line = true := by rw [e]; rfl
    rw [hs, ← e]
    refine ⟨fun _ => hom_line (by omega) hL _, fun _ c => ?_⟩
    rw [smul_smul]
    exact hom_line (by omega) hL _

/-- (3) "turning a parameter into a line only enlarges", in the form asked for: every replaced row is a parameter
    with a zero inhomogeneous term and `n + 2` columns -/
theorem hom_mono_param_to_line {n : Nat} {xs out : List GRow} (hlen : out.length = xs.length)
    (h : ∀ i, i < xs.length → rowAt out i = rowAt xs i ∨
      (rowAt out i = gridLine (rowAt xs i) ∧
        (rowAt xs i).line = false ∧ get (rowAt xs i).e 0 = 0 ∧ (rowAt xs i).e.length = n + 2)) :
    ∀ v, Hom n xs v → Hom n out v := by
  refine hom_mono_to_line hlen fun i hi => ?_
  rcases h i hi with e | ⟨e, _, h0, hl⟩
  · exact Or.inl e
  · exact Or.inr ⟨e, h0, by omega⟩

theorem rowAt_of_forall₂ {R : GRow → GRow → Prop} {xs out : List GRow} (h : List.Forall₂ R xs out) :
    ∀ i, i < xs.length → R (rowAt xs i) (rowAt out i) := by
  induction h with
  | nil => intro i hi; simp at hi
  | @cons a b l m hab _ ih =>
    intro i hi
    cases i with
    | zero => rw [rowAt_cons_zero, rowAt_cons_zero]; exact hab
    | succ i => rw [rowAt_cons_succ, rowAt_cons_succ]; exact ih i (by simpa using hi)

/-- the `Forall₂` carrier -/
theorem hom_mono_of_forall₂ {n : Nat} {xs out : List GRow}
    (h : List.Forall₂ (fun a b => b = a ∨ (b = gridLine a ∧ get a.e 0 = 0 ∧ n + 2 ≤ a.e.length)) xs out) :
    ∀ v, Hom n xs v → Hom n out v :=
  hom_mono_to_line h.length_eq.symm (rowAt_of_forall₂ h)

/-! ### the corollary for `select_wider_generators` -/

/-- the selected generators span at least the homogeneous lattice of `x`, when: `dim_kinds` of `x` names as many
    non-virtual dimensions as `x` has rows; the rows have (at least) `n + 2` columns; only row 0 (the point, at the
    parameter dimension 0) has a non-zero inhomogeneous term, and it agrees with row 0 of `y` at dimension 0 (always
    the case when that is a point too, `genIsEqualAtDimension_points`) -/
theorem selectWiderGenerators_hom_mono (n : Nat) (xs : List GRow) (xdk : List Nat) (ys : List GRow) (ydk : List Nat)
    (hk : numNonVirtual n xdk = xs.length)
    (hlen : ∀ i, i < xs.length → n + 2 ≤ (rowAt xs i).e.length)
    (h0 : ∀ i, 0 < i → i < xs.length → get (rowAt xs i).e 0 = 0)
    (hd0 : kind xdk 0 = PARAMETER)
    (he0 : genIsEqualAtDimension (rowAt xs 0) 0 (rowAt ys 0) = true) :
    ∀ v, Hom n xs v → Hom n (selectWiderGenerators n xs xdk ys ydk) v := by
  obtain ⟨hl, hrows⟩ := selectWiderGenerators_spec n xs xdk ys ydk
  rw [hk] at hl hrows
  refine hom_mono_to_line hl fun i hi => ?_
  by_cases hi0 : i = 0
  · subst hi0
    exact Or.inl (selectWiderGenerators_row0 n xs xdk ys ydk hd0 he0)
  · rcases hrows i hi with e | e
    · exact Or.inl e
    · exact Or.inr ⟨e, h0 i (by omega) hi, hlen i hi⟩

/-- the same on the grids: every point of `x` is a point of the grid the selected generators describe -/
theorem selectWiderGenerators_gensSem_mono (n : Nat) (D : Rat) (xs : List GRow) (xdk : List Nat) (ys : List GRow)
    (ydk : List Nat)
    (hk : numNonVirtual n xdk = xs.length)
    (hlen : ∀ i, i < xs.length → n + 2 ≤ (rowAt xs i).e.length)
    (h0 : ∀ i, 0 < i → i < xs.length → get (rowAt xs i).e 0 = 0)
    (hd0 : kind xdk 0 = PARAMETER)
    (he0 : genIsEqualAtDimension (rowAt xs 0) 0 (rowAt ys 0) = true) :
    ∀ x, gensSem n D xs x → gensSem n D (selectWiderGenerators n xs xdk ys ydk) x :=
  fun _ hx => selectWiderGenerators_hom_mono n xs xdk ys ydk hk hlen h0 hd0 he0 _ hx

def exGx : List GRow := [⟨false, [1, 0, 0, 0]⟩, ⟨false, [0, 2, 1, 1]⟩, ⟨true, [0, 0, 1, 0]⟩]
def exGy : List GRow := [⟨false, [1, 0, 0, 0]⟩, ⟨false, [0, 4, 0, 1]⟩, ⟨false, [0, 0, 3, 1]⟩]

/-- the hypotheses are satisfiable: `x = {(0,0) + ℤ(2,1) + ℚ(0,1)}`, `y` with the parameter `(4,0)` -/
example :
    numNonVirtual 2 [0, 0, 1] = exGx.length ∧
    (∀ i, i < exGx.length → 2 + 2 ≤ (rowAt exGx i).e.length) ∧
    (∀ i, i < exGx.length → 0 < i → get (rowAt exGx i).e 0 = 0) ∧
    kind [0, 0, 1] 0 = PARAMETER ∧ genIsEqualAtDimension (rowAt exGx 0) 0 (rowAt exGy 0) = true := by
  decide

example : selectWiderGenerators 2 exGx [0, 0, 1] exGy [0, 0, 0] =
    [⟨false, [1, 0, 0, 0]⟩, ⟨true, [0, 2, 1, 0]⟩, ⟨true, [0, 0, 1, 0]⟩] := by decide

example : gridLine ⟨false, [0, 4, -6, 3]⟩ = ⟨true, [0, 2, -3, 0]⟩ ∧
    gridLine ⟨false, [0, -4, 6, 3]⟩ = ⟨true, [0, 2, -3, 0]⟩ ∧
    gridLine ⟨false, [0, 0, 0, 3]⟩ = ⟨true, [0, 0, 0, 0]⟩ := by decide

end PPLV.Widen.ImplGrid

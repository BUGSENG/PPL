import PPLV.Conv.ProofsCompleteGauss4
import Mathlib.Algebra.BigOperators.Group.Finset.Basic
import Mathlib.Algebra.Order.Field.Rat
import Mathlib.Tactic.Linarith

/-!
# the equalities returned by `minimize` are linearly independent

The first `rank` rows of the system `PPLV.Conv.minimize` leaves (the equalities) are linearly independent
over `ℚ`, reading only the first `ncols` columns.

* `tri_indep`: rows with a pivot column each (`R p (piv p) ≠ 0`, `piv p < ncols`) such that the rows after
  row `p` are zero at `piv p` are linearly independent (strong induction: at column `piv i` only the rows
  `≤ i` contribute, and the rows `< i` already have a zero coefficient).
* `backSub_bsinv`: `back_substitute` keeps `BSInv` (row `p` non-zero at `piv p`, later equality rows zero
  there) — every step does (`backSubstituteStep_bsinv`).
* `simplify_bsinv`: the echelon form of `gauss` (`gauss_echelon`) gives `BSInv` on the first `rank` rows of
  the list handed to `back_substitute` (`simpT_take`), hence on the output of `simplify`.
-/
namespace PPLV.Widen.Impl
open PPLV.Conv

/-- triangular shape ⇒ linear independence. -/
theorem tri_indep (rank ncols : Nat) (R : Nat → Nat → Rat) (piv : Nat → Nat)
    (hpiv : ∀ p, p < rank → piv p < ncols)
    (hnz : ∀ p, p < rank → R p (piv p) ≠ 0)
    (hzp : ∀ p m, p < m → m < rank → R m (piv p) = 0)
    (f : Nat → Rat)
    (h : ∀ k, k < ncols → ∑ i ∈ Finset.range rank, f i * R i k = 0) :
    ∀ i, i < rank → f i = 0 := by
  intro i
  induction i using Nat.strong_induction_on with
  | _ i ih =>
    intro hi
    have hs := h (piv i) (hpiv i hi)
    rw [Finset.sum_eq_single i] at hs
    · exact (mul_eq_zero.mp hs).resolve_right (hnz i hi)
    · intro b hb hbi
      rw [Finset.mem_range] at hb
      rcases Nat.lt_or_gt_of_ne hbi with h1 | h1
      · rw [ih b h1 hb, zero_mul]
      · rw [hzp i b h1 hb, mul_zero]
    · intro hni
      exact absurd (Finset.mem_range.mpr hi) hni

/-- any sequence of steps of `back_substitute` keeps `GInv` and `BSInv`. -/
theorem backSub_bsinv (nle : Nat) (piv : Nat → Nat) : ∀ (ks : List Nat) (rows : List SRow), GInv nle rows →
    (∀ k ∈ ks, k < nle) → BSInv nle rows piv →
    GInv nle (ks.foldl (backSubstituteStep nle) rows) ∧ BSInv nle (ks.foldl (backSubstituteStep nle) rows) piv
  | [], _, hI, _, hB => ⟨hI, hB⟩
  | k :: ks, rows, hI, hks, hB => by
    obtain ⟨_, h2⟩ := backSubstituteStep_bsinv nle rows piv k hI (hks k List.mem_cons_self) hB
    exact backSub_bsinv nle piv ks _
      (backSubstituteStep_keeps nle rows k hI (hks k List.mem_cons_self)).2.1
      (fun k' hk' => hks k' (List.mem_cons_of_mem _ hk')) h2

/-- the output of `simplify`: its first `rank` rows have a pivot column `< ncols` each, and the later ones
among them are zero there. -/
theorem simplify_bsinv (ncols numColsSat : Nat) (sys : List SRow) :
    ∃ piv : Nat → Nat,
      (∀ p, p < (simplify ncols numColsSat sys).2 → piv p < ncols) ∧
      GInv (simplify ncols numColsSat sys).2 (simplify ncols numColsSat sys).1 ∧
      BSInv (simplify ncols numColsSat sys).2 (simplify ncols numColsSat sys).1 piv := by
  rw [simplify_eq']
  obtain ⟨tI, tT⟩ := simpT_take ncols numColsSat sys
  obtain ⟨_, eI⟩ := simpE_ginv sys
  obtain ⟨piv, hE⟩ := gauss_echelon ncols (simpE sys).2 (simpE sys).1 eI
  have hn : (simpP ncols sys).2 = (gauss ncols (simpE sys).2 (simpE sys).1).2 := simpP_snd ncols sys
  have hrk := hE.rk
  refine ⟨piv, fun p hp => (hE.rng p (by simpa [hn] using hp)).2, ?_⟩
  show GInv (simpP ncols sys).2 (backSubstitute (simpP ncols sys).2 (simpT ncols numColsSat sys)) ∧
    BSInv (simpP ncols sys).2 (backSubstitute (simpP ncols sys).2 (simpT ncols numColsSat sys)) piv
  unfold backSubstitute
  apply backSub_bsinv _ piv _ _ tI (range_reverse_lt _)
  constructor
  · intro p hp
    rw [getD_of_take_eq _ _ _ p tT hp]
    exact hE.nz p (by omega)
  · intro p m hpm hm
    rw [getD_of_take_eq _ _ _ m tT hm]
    exact hE.zp p m (by omega) hpm (by omega)

/-- `minimize` on its non-empty path, in terms of the conversion result `r` -/
theorem minimize_of_hasPoint (conToGen nnc : Bool) (ncols : Nat) (source : List LRow) (sat0 : List BRow)
    (r : ConvResult) (hr : conversion ncols source 0 (identityLines ncols)
      (List.replicate ncols (List.replicate source.length false)) ncols = r)
    (hp : hasPoint nnc ncols r.nle r.dest = true) :
    minimize conToGen nnc ncols source sat0 =
      { empty := false,
        source := (simplify ncols r.dest.length (zipSys r.source (transpose r.source.length r.sat))).1.map (·.row),
        dest := r.dest,
        sat := (simplify ncols r.dest.length (zipSys r.source (transpose r.source.length r.sat))).1.map (·.sat),
        rank := (simplify ncols r.dest.length (zipSys r.source (transpose r.source.length r.sat))).2 } := by
  unfold minimize
  simp only [hr, hp, Bool.not_true, Bool.false_eq_true, if_false]
  rfl

/-- `minimize(...).dest` is the `dest` of the conversion -/
theorem minimize_dest_eq (nnc : Bool) (ncols : Nat) (source : List LRow) (sat0 : List BRow) :
    (minimize true nnc ncols source sat0).dest = (conversion ncols source 0 (identityLines ncols)
      (List.replicate ncols (List.replicate source.length false)) ncols).dest := by
  unfold minimize
  simp only
  split <;> rfl

/-- **the equalities `minimize` returns are linearly independent** (over `ℚ`, on the first `ncols`
columns). -/
theorem minimize_eq_indep (ncols : Nat) (source : List PPLV.Conv.LRow) (sat0 : List PPLV.Conv.BRow)
    (hne : (PPLV.Conv.minimize true false ncols source sat0).empty = false) :
    let m := PPLV.Conv.minimize true false ncols source sat0
    ∀ f : Nat → Rat,
      (∀ k, k < ncols → ∑ i ∈ Finset.range m.rank,
        f i * (((m.source.getD i default).v.getD k 0 : Int) : Rat) = 0) →
      ∀ i, i < m.rank → f i = 0 := by
  intro m
  show ∀ f : Nat → Rat, _
  rw [show m = _ from minimize_of_hasPoint true false ncols source sat0 _ rfl
    (minimize_hasPoint false ncols source sat0 hne)]
  generalize conversion ncols source 0 (identityLines ncols)
    (List.replicate ncols (List.replicate source.length false)) ncols = r
  dsimp only
  obtain ⟨piv, hpv, hG, hB⟩ := simplify_bsinv ncols r.dest.length
    (zipSys r.source (transpose r.source.length r.sat))
  generalize simplify ncols r.dest.length (zipSys r.source (transpose r.source.length r.sat)) = S at *
  have hget : ∀ k, k < S.2 → (S.1.map (·.row)).getD k default = (S.1.getD k default).row := by
    intro k hk
    have hk' : k < S.1.length := by have := hG.1; omega
    rw [List.getD_eq_getElem?_getD, List.getElem?_map, List.getElem?_eq_getElem hk',
      List.getD_eq_getElem?_getD, List.getElem?_eq_getElem hk']
    rfl
  intro f hf
  refine tri_indep S.2 ncols (fun i k => (((S.1.getD i default).row.v.getD k 0 : Int) : Rat)) piv hpv
    (fun p hp' => by
      have := hB.nz p hp'
      exact_mod_cast this)
    (fun p q hpq hq => by
      have := hB.zp p q hpq hq
      simp only [this, Int.cast_zero]) f ?_
  intro k hk
  rw [← hf k hk]
  apply Finset.sum_congr rfl
  intro i hi
  rw [Finset.mem_range] at hi
  rw [hget i hi]

end PPLV.Widen.Impl

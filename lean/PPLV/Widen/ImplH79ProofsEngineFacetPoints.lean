import PPLV.Widen.ImplH79ProofsEngine
import PPLV.Widen.ImplH79ProofsEngineBridge3
import PPLV.Widen.ImplH79ProofsEngineBridge4
import PPLV.Conv.ProofsCompleteFacetPoints2

/-!
# `FacetPoints` is a THEOREM about the conversion engine model

`PPLV.Conv.minimize_facet_points` (C01 stage 4c: reduced form left by `back_substitute`, irredundancy,
completeness) read through `ofEngine`: every non-tautological inequality of the minimised system is
saturated by a point of the generator system.  With `engineDD_of_minimize` and `gpos_of_minimize` the whole
contract `MinimalDD` holds of what the engine's `minimize` returns: no hypothesis is left about the engine.
-/
namespace PPLV.Widen.Impl
open PPLV.Conv

theorem headD_eq_getD (v : List Int) : v.headD 0 = v.getD 0 0 := by cases v <;> rfl

theorem allHomZero_of_getD (v : List Int) (h : ∀ j, 1 ≤ j → v.getD j 0 = 0) : allHomZero v = true := by
  unfold allHomZero
  rw [List.all_eq_true]
  intro x hx
  cases v with
  | nil => simp at hx
  | cons a t =>
    obtain ⟨k, hk, rfl⟩ := List.getElem_of_mem hx
    have := h (k + 1) (by omega)
    simp only [List.tail_cons] at hk ⊢
    rw [List.getD_cons_succ, List.getD_eq_getElem?_getD, List.getElem?_eq_getElem hk] at this
    simpa using this

/-- **`facetPoints_of_minimize`** — every non-tautological inequality row returned by the engine's `minimize`
is saturated by a point it returns, when the positivity constraint is a row of the source. -/
theorem facetPoints_of_minimize (n : Nat) (source : List PPLV.Conv.LRow) (sat0 : List PPLV.Conv.BRow)
    (hsz : n + 1 < 2 ^ 64) (hsrc : source.length < 2 ^ 64)
    (hlen : ∀ s ∈ source, s.v.length = n + 1)
    (hne : (PPLV.Conv.minimize true false (n + 1) source sat0).empty = false)
    (hpos : (⟨false, 1 :: List.replicate n 0⟩ : PPLV.Conv.LRow) ∈ source) :
    FacetPoints (ofEngine (PPLV.Conv.minimize true false (n + 1) source sat0)) := by
  intro c hc hceq hnt
  rw [ofEngine_conSys] at hc
  obtain ⟨r, hr, rfl⟩ := List.mem_map.mp hc
  have hposx : ∀ x : Vec, x.length ≤ n + 1 → holdsAll source x → 0 ≤ x.getD 0 0 := by
    intro x _ hx
    have := hx _ hpos
    unfold holds at this
    simp only [Bool.false_eq_true, if_false] at this
    rw [scalarProduct_unit0, headD_eq_getD] at this
    exact this
  have hlenF : ∀ s ∈ (PPLV.Conv.minimize true false (n + 1) source sat0).source, s.v.length ≤ n + 1 :=
    fun s hs => le_of_eq (minimize_source_length n source sat0 hlen hne s hs)
  obtain ⟨g, hg, hgle, hg0, hsp⟩ := minimize_facet_points (n + 1) source sat0 hsz hsrc hne hposx hlenF r hr hceq
    (by
      rintro ⟨h1, h2⟩
      have ht : (toC r).isTautological false = true := by
        unfold CRow.isTautological
        have e1 : (toC r).e = r.v := rfl
        have e2 : (toC r).eq = r.le := rfl
        have hr' : r.le = false := hceq
        rw [e1, e2, allHomZero_of_getD r.v h1, hr']
        simp only [if_true, Bool.false_eq_true, if_false]
        rw [headD_eq_getD]
        simpa using h2
      rw [ht] at hnt
      cases hnt)
  refine ⟨toG g, ?_, hgle, ?_, ?_⟩
  · rw [ofEngine_genSys]; exact List.mem_map_of_mem hg
  · show 0 < g.v.headD 0
    rw [headD_eq_getD]; exact hg0
  · show sp r.v g.v = 0
    rw [sp_eq_scalarProduct]; exact hsp

/-- **`minimalDD_of_minimize`** — the contract `MinimalDD` of the H79 convergence theorems holds of what the
engine's `minimize` returns for a closed constraint system with its positivity row that is not reported empty. -/
theorem minimalDD_of_minimize (n : Nat) (source : List PPLV.Conv.LRow) (sat0 : List PPLV.Conv.BRow)
    (hsz : n + 1 < 2 ^ 64) (hsrc : source.length < 2 ^ 64)
    (hlen : ∀ s ∈ source, s.v.length = n + 1)
    (hne : (PPLV.Conv.minimize true false (n + 1) source sat0).empty = false)
    (hpos : (⟨false, 1 :: List.replicate n 0⟩ : PPLV.Conv.LRow) ∈ source) :
    MinimalDD n (ofEngine (PPLV.Conv.minimize true false (n + 1) source sat0)) :=
  minimalDD_of_engine n _ (engineDD_of_minimize n source sat0 hsz hsrc hlen hne)
    (gpos_of_minimize n source sat0 hsz hsrc hlen hne hpos)
    (facetPoints_of_minimize n source sat0 hsz hsrc hlen hne hpos)

/-- non-vacuity: the segment `0 ≤ x ≤ 3` with its positivity constraint. -/
example : MinimalDD 1 (ofEngine (minimize true false 2 [⟨false, [0, 1]⟩, ⟨false, [3, -1]⟩, ⟨false, [1, 0]⟩] [])) :=
  minimalDD_of_minimize 1 _ [] (by norm_num) (by simp) (by decide) (by decide) (by simp)

end PPLV.Widen.Impl

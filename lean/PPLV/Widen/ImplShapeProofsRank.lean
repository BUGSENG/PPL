import PPLV.Widen.ImplShapeProofsBase
import PPLV.Widen.ProofsItv
/-!
# The CC76 loops of the shapes stabilise at the matrix level

`cellRank stops v` is `0` for `+∞`, else one plus the number of stop points strictly greater than `v`.  One cell
of the CC76 loops (`cc76Cell`) never increases the rank of the *smaller* argument, and leaves the rank unchanged
only if it returns that argument (`cc76Cell_rank_step`); the list of stop points need not be sorted (the model's
`lower_bound` is `takeWhile`).  The sum of the cell ranks over the finitely many cells is therefore a measure for
the matrix-level operators `bdCC76Loops` / `octCC76Loops` against any adversary that supplies larger arguments
that are cellwise at least the previous iterate.

Scope: this is the matrix-level operator.  The real functions `BD_Shape::CC76_extrapolation_assign` /
`Octagonal_Shape::CC76_extrapolation_assign` re-close both arguments (`shortest_path_closure_assign` /
`strong_closure_assign`) before the loops, so the iterates of the real function are
`cc76(closure(x_k), closure(y_k))`: closure can lower cells again (`bd_cc76_closure_undoes_progress`), which is
why PPL calls CC76 on shapes an *extrapolation*, not a widening.
-/
namespace PPLV.Widen
open PPLV.WR
open PPLV.WR.ExtRat (fin pinf le_rfl' le_trans' le_total' le_pinf)

theorem extRat_le_antisymm {a b : ExtRat} (h1 : a ≤ b) (h2 : b ≤ a) : a = b := by
  cases a <;> cases b
  · rw [ExtRat.fin_le_fin] at h1 h2; rw [le_antisymm h1 h2]
  · exact absurd h2 (ExtRat.not_pinf_le_fin _)
  · exact absurd h1 (ExtRat.not_pinf_le_fin _)
  · rfl

/-! ## sums of termwise comparable naturals -/

theorem sum_map_le {α : Type} (l : List α) (f g : α → Nat) (h : ∀ a, a ∈ l → f a ≤ g a) :
    (l.map f).sum ≤ (l.map g).sum ∧ ((l.map f).sum = (l.map g).sum → ∀ a, a ∈ l → f a = g a) := by
  induction l with
  | nil => simp
  | cons b r ih =>
    have hb := h b (List.mem_cons_self ..)
    obtain ⟨i1, i2⟩ := ih (fun a ha => h a (List.mem_cons_of_mem _ ha))
    simp only [List.map_cons, List.sum_cons]
    refine ⟨by omega, fun he a ha => ?_⟩
    rcases List.mem_cons.1 ha with rfl | ha
    · omega
    · exact i2 (by omega) a ha

theorem sum_map_lt {α : Type} (l : List α) (f g : α → Nat) (h : ∀ a, a ∈ l → f a ≤ g a)
    (b : α) (hb : b ∈ l) (hlt : f b < g b) : (l.map f).sum < (l.map g).sum := by
  obtain ⟨i1, i2⟩ := sum_map_le l f g h
  rcases Nat.lt_or_ge (l.map f).sum (l.map g).sum with h1 | h1
  · exact h1
  · have := i2 (by omega) b hb; omega

/-- the sum of a cell measure over a list of cells -/
def matSum (cells : List (Nat × Nat)) (μ : ExtRat → Nat) (m : Mat) : Nat :=
  (cells.map fun p => μ (m p.1 p.2)).sum

/-- the cells of a `BD_Shape` of dimension `n` -/
def bdCells (n : Nat) : List (Nat × Nat) :=
  (List.range (n + 1)).flatMap fun i => (List.range (n + 1)).map fun j => (i, j)

theorem mem_bdCells (n i j : Nat) : (i, j) ∈ bdCells n ↔ i ≤ n ∧ j ≤ n := by
  simp only [bdCells, List.mem_flatMap, List.mem_range, List.mem_map, Prod.mk.injEq]
  constructor
  · rintro ⟨a, ha, b, hb, rfl, rfl⟩; omega
  · rintro ⟨h1, h2⟩; exact ⟨i, by omega, j, by omega, rfl, rfl⟩

theorem mem_octCells (n i j : Nat) : (i, j) ∈ octCells n ↔ i < 2 * n ∧ j < rowSize i := by
  simp only [octCells, List.mem_flatMap, List.mem_range, List.mem_map, Prod.mk.injEq]
  constructor
  · rintro ⟨a, ha, b, hb, rfl, rfl⟩; exact ⟨ha, hb⟩
  · rintro ⟨h1, h2⟩; exact ⟨i, h1, j, h2, rfl, rfl⟩

/-! ## the rank of one cell -/

/-- `0` at `+∞`, else one plus the number of stop points strictly greater than the value -/
def cellRank (stops : List Rat) : ExtRat → Nat
  | .pinf => 0
  | .fin q => 1 + (stops.filter (fun s => decide (q < s))).length

theorem cellRank_lt_of_stop (stops : List Rat) (yq u s : Rat) (hs : s ∈ stops) (h1 : yq < s) (h2 : s ≤ u) :
    cellRank stops (fin u) < cellRank stops (fin yq) := by
  have := filter_length_lt stops (fun t => decide (u < t)) (fun t => decide (yq < t))
    (fun a ha => by simp only [decide_eq_true_eq] at ha ⊢; linarith) s hs (by simpa using h1)
    (by simpa using h2)
  simp only [cellRank]; omega

theorem cc76Cell_fin_lt (up : Rat → ExtRat) (stops : List Rat) (xq : Rat) (y : ExtRat)
    (hlt : ExtRat.ltB y (fin xq) = true) (hk : lowerBound stops xq < stops.length) :
    cc76Cell up stops (fin xq) y
      = if xq < stops[lowerBound stops xq] then up stops[lowerBound stops xq] else fin xq := by
  simp [cc76Cell, hlt, lowerBoundE, hk, ltB_iff]

theorem cc76Cell_beyond (up : Rat → ExtRat) (stops : List Rat) (x y : ExtRat)
    (hlt : ExtRat.ltB y x = true) (hk : ¬ lowerBoundE stops x < stops.length) :
    cc76Cell up stops x y = pinf := by
  simp [cc76Cell, hlt, hk]

/-- when it extrapolates (`y_elem < elem`), the cell returns `+∞` or a value at or above a stop point that is
strictly above `y_elem` -/
theorem cc76Cell_widened {up : Rat → ExtRat} (hup : ∀ q, fin q ≤ up q) (stops : List Rat) (x : ExtRat) (yq : Rat)
    (h : ¬ x ≤ fin yq) :
    cc76Cell up stops x (fin yq) = pinf ∨
    ∃ u s, cc76Cell up stops x (fin yq) = fin u ∧ s ∈ stops ∧ yq < s ∧ s ≤ u := by
  have hlt : ExtRat.ltB (fin yq) x = true := (ltB_iff _ _).2 h
  by_cases hk : lowerBoundE stops x < stops.length
  · cases x with
    | pinf => exfalso; simp [lowerBoundE] at hk
    | fin xq =>
      have hyx : yq < xq := by simpa using h
      simp only [lowerBoundE] at hk
      have hsp := (lowerBound_spec stops xq).2 _ (List.getElem?_eq_getElem hk)
      rw [cc76Cell_fin_lt up stops xq _ hlt hk]
      by_cases h2 : xq < stops[lowerBound stops xq]
      · rw [if_pos h2]
        cases hu : up stops[lowerBound stops xq] with
        | pinf => exact Or.inl rfl
        | fin u =>
          refine Or.inr ⟨u, stops[lowerBound stops xq], rfl, List.getElem_mem hk, lt_trans hyx h2, ?_⟩
          have := hup stops[lowerBound stops xq]
          rw [hu] at this
          simpa using this
      · rw [if_neg h2]
        refine Or.inr ⟨xq, stops[lowerBound stops xq], rfl, List.getElem_mem hk, ?_, not_lt.mp h2⟩
        exact lt_of_lt_of_le hyx (not_lt.mp hsp)
  · exact Or.inl (cc76Cell_beyond up stops x _ hlt hk)

theorem cc76Cell_same (up : Rat → ExtRat) (stops : List Rat) (x y : ExtRat) (h : x ≤ y) :
    cc76Cell up stops x y = x := by
  unfold cc76Cell
  rw [if_neg]
  rw [ltB_iff]; exact not_not.mpr h

/-- **one cell of the CC76 loops**: with `y_elem ≤ elem`, the rank of the result is at most the rank of `y_elem`,
and equal only if the result is `y_elem`.  No hypothesis on the stop points. -/
theorem cc76Cell_rank_step {up : Rat → ExtRat} (hup : ∀ q, fin q ≤ up q) (stops : List Rat) (x y : ExtRat)
    (hyx : y ≤ x) :
    cellRank stops (cc76Cell up stops x y) ≤ cellRank stops y ∧
    (cellRank stops (cc76Cell up stops x y) = cellRank stops y → cc76Cell up stops x y = y) := by
  by_cases hxy : x ≤ y
  · have e : x = y := extRat_le_antisymm hxy hyx
    rw [cc76Cell_same up stops x y hxy, e]
    exact ⟨Nat.le_refl _, fun _ => rfl⟩
  · cases y with
    | pinf => exact absurd (le_pinf x) hxy
    | fin yq =>
      have strict : cellRank stops (cc76Cell up stops x (fin yq)) < cellRank stops (fin yq) := by
        rcases cc76Cell_widened hup stops x yq hxy with h1 | ⟨u, s, h1, hs, h2, h3⟩
        · rw [h1]; simp only [cellRank]; omega
        · rw [h1]; exact cellRank_lt_of_stop stops yq u s hs h2 h3
      exact ⟨Nat.le_of_lt strict, fun h => absurd h (Nat.ne_of_lt strict)⟩

/-! ## any operator that is `cc76Cell` on a list of cells stabilises on those cells -/

/-- one step on a list of cells: the summed rank does not increase; if it stays, the step returns `y` there -/
theorem cc76_cells_rank_step {up : Rat → ExtRat} (hup : ∀ q, fin q ≤ up q) (stops : List Rat)
    (cells : List (Nat × Nat)) (w x y : Mat)
    (hw : ∀ p, p ∈ cells → w p.1 p.2 = cc76Cell up stops (x p.1 p.2) (y p.1 p.2))
    (hyx : ∀ p, p ∈ cells → y p.1 p.2 ≤ x p.1 p.2) :
    matSum cells (cellRank stops) w ≤ matSum cells (cellRank stops) y ∧
    (matSum cells (cellRank stops) w = matSum cells (cellRank stops) y → ∀ p, p ∈ cells → w p.1 p.2 = y p.1 p.2) := by
  have step : ∀ p, p ∈ cells → cellRank stops (w p.1 p.2) ≤ cellRank stops (y p.1 p.2) ∧
      (cellRank stops (w p.1 p.2) = cellRank stops (y p.1 p.2) → w p.1 p.2 = y p.1 p.2) := fun p hp => by
    rw [hw p hp]; exact cc76Cell_rank_step hup stops _ _ (hyx p hp)
  obtain ⟨i1, i2⟩ := sum_map_le cells _ _ (fun p hp => (step p hp).1)
  exact ⟨i1, fun he p hp => (step p hp).2 (i2 he p hp)⟩

theorem cc76_cells_chain_stabilises {up : Rat → ExtRat} (hup : ∀ q, fin q ≤ up q) (stops : List Rat)
    (cells : List (Nat × Nat)) (W : Mat → Mat → Mat)
    (hW : ∀ x y p, p ∈ cells → W x y p.1 p.2 = cc76Cell up stops (x p.1 p.2) (y p.1 p.2))
    (y0 : Mat) (z : Nat → Mat → Mat) (hz : ∀ k m p, p ∈ cells → m p.1 p.2 ≤ z k m p.1 p.2) :
    ∃ N, ∀ k, k ≥ N → ∀ p, p ∈ cells → advSeq W y0 z (k + 1) p.1 p.2 = advSeq W y0 z k p.1 p.2 := by
  have step := fun k => cc76_cells_rank_step hup stops cells (advSeq W y0 z (k + 1)) (z k (advSeq W y0 z k))
    (advSeq W y0 z k) (hW _ _) (hz k _)
  obtain ⟨N, hN⟩ := nat_antitone_eventually_const (fun k => matSum cells (cellRank stops) (advSeq W y0 z k))
    (fun k => (step k).1)
  exact ⟨N, fun k hk => (step k).2 (hN k hk)⟩

/-- the rank of a `BD_Shape` matrix of dimension `n` -/
def bdRank (stops : List Rat) (n : Nat) (m : Mat) : Nat := matSum (bdCells n) (cellRank stops) m
/-- the rank of an `Octagonal_Shape` matrix of dimension `n` (stored cells) -/
def octRank (stops : List Rat) (n : Nat) (m : Mat) : Nat := matSum (octCells n) (cellRank stops) m

theorem bdCC76Loops_cell (up : Rat → ExtRat) (stops : List Rat) (n : Nat) (x y : Mat) (p : Nat × Nat)
    (hp : p ∈ bdCells n) : bdCC76Loops up stops n x y p.1 p.2 = cc76Cell up stops (x p.1 p.2) (y p.1 p.2) := by
  obtain ⟨i, j⟩ := p
  rw [mem_bdCells] at hp
  rw [bdCC76Loops_apply, if_pos (by simp only; omega)]

theorem octCC76Loops_cell (up : Rat → ExtRat) (stops : List Rat) (n : Nat) (x y : Mat) (p : Nat × Nat)
    (hp : p ∈ octCells n) : octCC76Loops up stops n x y p.1 p.2 = cc76Cell up stops (x p.1 p.2) (y p.1 p.2) := by
  obtain ⟨i, j⟩ := p
  rw [octCC76Loops_apply, if_pos ((mem_octCells n i j).1 hp)]

/-- one step of the BD loops: the matrix rank does not increase; if it stays, the step returns `y` on the cells -/
theorem bd_cc76_rank_step {up : Rat → ExtRat} (hup : ∀ q, fin q ≤ up q) (stops : List Rat) (n : Nat) (x y : Mat)
    (hyx : bdLE n y x) :
    bdRank stops n (bdCC76Loops up stops n x y) ≤ bdRank stops n y ∧
    (bdRank stops n (bdCC76Loops up stops n x y) = bdRank stops n y →
      ∀ i j, i ≤ n → j ≤ n → bdCC76Loops up stops n x y i j = y i j) := by
  obtain ⟨i1, i2⟩ := cc76_cells_rank_step hup stops (bdCells n) _ x y (bdCC76Loops_cell up stops n x y)
    (fun p hp => hyx p.1 p.2 ((mem_bdCells n _ _).1 hp).1 ((mem_bdCells n _ _).1 hp).2)
  exact ⟨i1, fun he i j hi hj => i2 he (i, j) ((mem_bdCells n i j).2 ⟨hi, hj⟩)⟩

theorem oct_cc76_rank_step {up : Rat → ExtRat} (hup : ∀ q, fin q ≤ up q) (stops : List Rat) (n : Nat) (x y : Mat)
    (hyx : octLE n y x) :
    octRank stops n (octCC76Loops up stops n x y) ≤ octRank stops n y ∧
    (octRank stops n (octCC76Loops up stops n x y) = octRank stops n y →
      ∀ i j, i < 2 * n → j < rowSize i → octCC76Loops up stops n x y i j = y i j) := by
  obtain ⟨i1, i2⟩ := cc76_cells_rank_step hup stops (octCells n) _ x y (octCC76Loops_cell up stops n x y)
    (fun p hp => hyx p.1 p.2 ((mem_octCells n _ _).1 hp).1 ((mem_octCells n _ _).1 hp).2)
  exact ⟨i1, fun he i j hi hj => i2 he (i, j) ((mem_octCells n i j).2 ⟨hi, hj⟩)⟩

/-- **The two loops of `BD_Shape::CC76_extrapolation_assign` stabilise**: for every list of stop points (sorted or
not), every start matrix and every adversary whose larger argument is cellwise at least the previous iterate,
the iterated matrix-level operator is eventually stationary on the cells.  (Matrix level: the real function
re-closes its arguments first; see the header.) -/
theorem bd_cc76_chain_stabilises {up : Rat → ExtRat} (hup : ∀ q, fin q ≤ up q) (stops : List Rat) (n : Nat)
    (y0 : Mat) (z : Nat → Mat → Mat) (hz : ∀ k m, bdLE n m (z k m)) :
    ∃ N, ∀ k, k ≥ N → ∀ i j, i ≤ n → j ≤ n →
      advSeq (fun x y => bdCC76Loops up stops n x y) y0 z (k + 1) i j
        = advSeq (fun x y => bdCC76Loops up stops n x y) y0 z k i j := by
  obtain ⟨N, hN⟩ := cc76_cells_chain_stabilises hup stops (bdCells n) (fun x y => bdCC76Loops up stops n x y)
    (bdCC76Loops_cell up stops n) y0 z
    (fun k m p hp => hz k m p.1 p.2 ((mem_bdCells n _ _).1 hp).1 ((mem_bdCells n _ _).1 hp).2)
  exact ⟨N, fun k hk i j hi hj => hN k hk (i, j) ((mem_bdCells n i j).2 ⟨hi, hj⟩)⟩

/-- **The element loop of `Octagonal_Shape::CC76_extrapolation_assign` stabilises** (matrix level, stored cells). -/
theorem oct_cc76_chain_stabilises {up : Rat → ExtRat} (hup : ∀ q, fin q ≤ up q) (stops : List Rat) (n : Nat)
    (y0 : Mat) (z : Nat → Mat → Mat) (hz : ∀ k m, octLE n m (z k m)) :
    ∃ N, ∀ k, k ≥ N → ∀ i j, i < 2 * n → j < rowSize i →
      advSeq (fun x y => octCC76Loops up stops n x y) y0 z (k + 1) i j
        = advSeq (fun x y => octCC76Loops up stops n x y) y0 z k i j := by
  obtain ⟨N, hN⟩ := cc76_cells_chain_stabilises hup stops (octCells n) (fun x y => octCC76Loops up stops n x y)
    (octCC76Loops_cell up stops n) y0 z
    (fun k m p hp => hz k m p.1 p.2 ((mem_octCells n _ _).1 hp).1 ((mem_octCells n _ _).1 hp).2)
  exact ⟨N, fun k hk i j hi hj => hN k hk (i, j) ((mem_octCells n i j).2 ⟨hi, hj⟩)⟩

/-! ## boxes: the product of the interval result -/

/-- the rank of a box: the sum of the interval ranks -/
def boxRank (stops : List Rat) (b : BoxM) : Nat := (b.map (Itv.rank stops)).sum

theorem box_cc76_rank_step (stops : List Rat) (b zb : BoxM) (h : List.Forall₂ Itv.LE b zb) :
    boxRank stops (List.zipWith (Itv.cc76 stops) zb b) ≤ boxRank stops b ∧
    (boxRank stops (List.zipWith (Itv.cc76 stops) zb b) = boxRank stops b →
      List.Forall₂ Itv.Same (List.zipWith (Itv.cc76 stops) zb b) b) := by
  induction h with
  | nil => exact ⟨Nat.le_refl _, fun _ => List.Forall₂.nil⟩
  | @cons a c l1 l2 hab _ ih =>
    obtain ⟨s1, s2⟩ := cc76_rank_step stops a c hab
    obtain ⟨i1, i2⟩ := ih
    simp only [boxRank, List.zipWith_cons_cons, List.map_cons, List.sum_cons] at i1 i2 ⊢
    refine ⟨by omega, fun he => List.Forall₂.cons (s2 (by omega)) (i2 (by omega))⟩

/-- **`Box::CC76_widening_assign(y, first, last)` stabilises** (componentwise; the boxes keep their length):
against every adversary that supplies a larger argument containing the previous iterate on the boundaries
(`contains(y)`, the precondition of the method), the iterated `zipWith (Itv.cc76 stops)` eventually returns the
boundaries of the previous iterate. -/
theorem box_cc76_chain_stabilises (stops : List Rat) (b0 : BoxM) (z : Nat → BoxM → BoxM)
    (hz : ∀ k b, List.Forall₂ Itv.LE b (z k b)) :
    ∃ N, ∀ k, k ≥ N →
      List.Forall₂ Itv.Same (advSeq (fun x y => List.zipWith (Itv.cc76 stops) x y) b0 z (k + 1))
        (advSeq (fun x y => List.zipWith (Itv.cc76 stops) x y) b0 z k) := by
  obtain ⟨N, hN⟩ := nat_antitone_eventually_const
    (fun k => boxRank stops (advSeq (fun x y => List.zipWith (Itv.cc76 stops) x y) b0 z k))
    (fun k => (box_cc76_rank_step stops _ _ (hz k _)).1)
  exact ⟨N, fun k hk => (box_cc76_rank_step stops _ _ (hz k _)).2 (hN k hk)⟩

/-- stationary boundaries are the same points, component by component -/
theorem forall₂_same_mem_iff {a b : BoxM} (h : List.Forall₂ Itv.Same a b) :
    a.length = b.length ∧ ∀ i (h1 : i < a.length) (h2 : i < b.length) q, (a[i]).mem q ↔ (b[i]).mem q := by
  induction h with
  | nil => exact ⟨rfl, fun i h1 => by simp at h1⟩
  | cons hab _ ih =>
    obtain ⟨l, f⟩ := ih
    refine ⟨by simp [l], fun i h1 h2 q => ?_⟩
    cases i with
    | zero => exact hab.mem_iff q
    | succ i => simpa using f i (by simpa using h1) (by simpa using h2) q

/-! ## instances for the non-vacuity examples, and what closure does to the measure -/

/-- an adversary that really forces extrapolation: every finite cell grows by one -/
def matBump (m : Mat) : Mat :=
  { f := fun i j => match m i j with | .fin q => fin (q + 1) | .pinf => pinf }

theorem le_matBump (m : Mat) (i j : Nat) : m i j ≤ matBump m i j := by
  show m.f i j ≤ (match m.f i j with | .fin q => fin (q + 1) | .pinf => pinf)
  cases m.f i j with
  | pinf => exact le_pinf _
  | fin q => simp

theorem bdLE_matBump (n : Nat) (m : Mat) : bdLE n m (matBump m) := fun i j _ _ => le_matBump m i j
theorem octLE_matBump (n : Nat) (m : Mat) : octLE n m (matBump m) := fun i j _ _ => le_matBump m i j

/-- an adversary for boxes: every finite upper boundary grows by one -/
def boxBump (b : BoxM) : BoxM := b.map fun I => { I with hi := I.hi.map (· + 1) }

theorem forall₂_LE_boxBump (b : BoxM) : List.Forall₂ Itv.LE b (boxBump b) := by
  induction b with
  | nil => exact List.Forall₂.nil
  | cons I r ih =>
    refine List.Forall₂.cons ⟨(Itv.LE.refl I).1, ?_⟩ ih
    simp only [HiLE]
    cases I.hi with
    | none => trivial
    | some u => exact Or.inl (by show u < u + 1; linarith)

/-- dimension 1: `x₀ ≤ 0`, `-x₀ ≤ 0` -/
def exY1 : Mat := Mat.ofLists [[pinf, fin 0], [fin 0, pinf]]
/-- dimension 1: `x₀ ≤ 1/2`, `-x₀ ≤ 0` -/
def exX1 : Mat := Mat.ofLists [[pinf, fin (1/2)], [fin 0, pinf]]

/-- dimension 2, closed: `x₀ ≤ 1/4`, `x₁ - x₀ ≤ 1/4`, `x₁ ≤ 0` -/
def exY2 : Mat := Mat.ofLists [[pinf, fin (1/4), fin 0], [pinf, pinf, fin (1/4)], [pinf, pinf, pinf]]
/-- dimension 2, closed, cellwise above `exY2`: `x₀ ≤ 1/4`, `x₁ - x₀ ≤ 1/4`, `x₁ ≤ 1/2` -/
def exX2 : Mat := Mat.ofLists [[pinf, fin (1/4), fin (1/2)], [pinf, pinf, fin (1/4)], [pinf, pinf, pinf]]
/-- the result of the CC76 loops on `exX2`, `exY2` -/
def exW2 : Mat := bdCC76Loops upId defaultStops 2 exX2 exY2
/-- `shortest_path_closure_assign` of that result -/
def exC2 : Mat := (bdClosureAssign upId 2 { dbm := exW2 }).dbm

/-- **Closure undoes the progress of a CC76 step** (why the real function is an *extrapolation*): both arguments
are closed and `exY2 ≤ exX2` cellwise; the loops raise the cell `x₁ ≤ 1/2` to the stop point `1` (cell rank
`3 → 2`); re-closing the result, as the next call of the real function does, brings the cell back to `1/2`
through `x₀ ≤ 1/4`, `x₁ - x₀ ≤ 1/4`: the rank is `3` again although the cell is not the one of `exY2`.  So the
measure of `bd_cc76_chain_stabilises` does not survive the closure between two steps. -/
theorem bd_cc76_closure_undoes_progress :
    ((List.range 3).all fun i => (List.range 3).all fun j =>
        decide ((bdClosureAssign upId 2 { dbm := exX2 }).dbm i j = exX2 i j) &&
        decide ((bdClosureAssign upId 2 { dbm := exY2 }).dbm i j = exY2 i j) &&
        decide (exY2 i j ≤ exX2 i j)) = true ∧
    exY2 0 2 = fin 0 ∧ exX2 0 2 = fin (1/2) ∧ exW2 0 2 = fin 1 ∧ exC2 0 2 = fin (1/2) ∧
    cellRank defaultStops (exW2 0 2) < cellRank defaultStops (exY2 0 2) ∧
    cellRank defaultStops (exC2 0 2) = cellRank defaultStops (exY2 0 2) ∧ exC2 0 2 ≠ exY2 0 2 := by
  decide +kernel

end PPLV.Widen

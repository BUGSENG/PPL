import PPLV.Widen.ImplH79ProofsMain
import PPLV.Widen.ImplBHRZ03Proofs
import Mathlib.Tactic.Ring
import Mathlib.Tactic.Linarith
import Mathlib.Order.ConditionallyCompleteLattice.Basic

/-!
# a concrete instance of the `MinimalDD` contract (non-vacuity of the H79 theorems)

`y = [0, 1] ⊆ ℚ¹` (constraints `p ≥ 0`, `1 - p ≥ 0`; generators the points `0` and `1`) and
`x = [0, 2]`.  `MinimalDD 1 yEx` is PROVED here (including `hymin` and `hfacet`), the selection keeps
`p ≥ 0` only, so the widening gives `[0, +∞)`.
-/
namespace PPLV.Widen.Impl

def yEx : YMin :=
  { conSys := [⟨[0, 1], false⟩, ⟨[1, -1], false⟩]
    genSys := [⟨[1, 0], false⟩, ⟨[1, 1], false⟩]
    satG := [[false, true], [true, false]] }

def xEx : YMin :=
  { conSys := [⟨[0, 1], false⟩, ⟨[2, -1], false⟩]
    genSys := [⟨[1, 0], false⟩, ⟨[1, 2], false⟩]
    satG := [[false, true], [true, false]] }

theorem holds2 (a b : Int) (eq : Bool) (p : Pt) :
    (⟨[a, b], eq⟩ : CRow).holds (hom 1 p 0) ↔
      if eq then (a : ℚ) + b * p 0 = 0 else 0 ≤ (a : ℚ) + b * p 0 := by
  simp [CRow.holds, evalRow, hom]

theorem mem_yEx (p : Pt) : p ∈ den false 1 yEx.conSys ↔ 0 ≤ p 0 ∧ p 0 ≤ 1 := by
  rw [mem_den_false]
  unfold SatRows yEx
  simp only [List.mem_cons, List.not_mem_nil, or_false, forall_eq_or_imp, forall_eq, holds2]
  simp only [Bool.false_eq_true, if_false]
  constructor
  · rintro ⟨h1, h2⟩; constructor <;> (push_cast at h1 h2; linarith)
  · rintro ⟨h1, h2⟩; constructor <;> (push_cast; linarith)

theorem mem_xEx (p : Pt) : p ∈ den false 1 xEx.conSys ↔ 0 ≤ p 0 ∧ p 0 ≤ 2 := by
  rw [mem_den_false]
  unfold SatRows xEx
  simp only [List.mem_cons, List.not_mem_nil, or_false, forall_eq_or_imp, forall_eq, holds2]
  simp only [Bool.false_eq_true, if_false]
  constructor
  · rintro ⟨h1, h2⟩; constructor <;> (push_cast at h1 h2; linarith)
  · rintro ⟨h1, h2⟩; constructor <;> (push_cast; linarith)

theorem yEx_sub_xEx : den false 1 yEx.conSys ⊆ den false 1 xEx.conSys := by
  intro p hp
  rw [mem_yEx] at hp
  rw [mem_xEx]
  exact ⟨hp.1, by linarith [hp.2]⟩

theorem h79Rows_ex : h79Rows xEx yEx = [⟨[0, 1], false⟩] := by decide

theorem h79Rows_ex_ne : den false 1 (h79Rows xEx yEx) ≠ den false 1 yEx.conSys := by
  intro h
  have h2 : (fun _ => (2 : ℚ)) ∈ den false 1 (h79Rows xEx yEx) := by
    rw [h79Rows_ex, mem_den_false]
    intro c hc
    rw [List.mem_singleton] at hc
    subst hc
    rw [holds2]
    norm_num
  rw [h, mem_yEx] at h2
  norm_num at h2

/-- no system of at most one row denotes `[0, 1]` -/
theorem yEx_needs_two (cs : List CRow) (hwf : WFRows 1 cs) (hden : den false 1 cs = den false 1 yEx.conSys) :
    2 ≤ cs.length := by
  have m0 : (fun _ => (0 : ℚ)) ∈ den false 1 cs := by rw [hden, mem_yEx]; norm_num
  have m1 : (fun _ => (1 : ℚ)) ∈ den false 1 cs := by rw [hden, mem_yEx]; norm_num
  have m2 : (fun _ => (2 : ℚ)) ∉ den false 1 cs := by rw [hden, mem_yEx]; norm_num
  have m3 : (fun _ => (-1 : ℚ)) ∉ den false 1 cs := by rw [hden, mem_yEx]; norm_num
  rcases cs with _ | ⟨c, _ | ⟨c', rest⟩⟩
  · exfalso; apply m2; intro c hc; cases hc
  · exfalso
    have hl := hwf c (List.mem_singleton.mpr rfl)
    obtain ⟨e, eq⟩ := c
    match e, hl with
    | [a, b], _ =>
      have k0 := m0 _ (List.mem_singleton.mpr rfl)
      have k1 := m1 _ (List.mem_singleton.mpr rfl)
      have k2 : ¬ (⟨[a, b], eq⟩ : CRow).holds (hom 1 (fun _ => (2 : ℚ)) 0) := by
        intro hh; apply m2; intro c hc; rw [List.mem_singleton] at hc; subst hc; exact hh
      have k3 : ¬ (⟨[a, b], eq⟩ : CRow).holds (hom 1 (fun _ => (-1 : ℚ)) 0) := by
        intro hh; apply m3; intro c hc; rw [List.mem_singleton] at hc; subst hc; exact hh
      rw [holds2] at k0 k1 k2 k3
      cases eq
      · simp only [Bool.false_eq_true, if_false, not_le] at k0 k1 k2 k3
        linarith
      · simp only [if_true] at k0 k1 k2 k3
        apply k2
        linarith
  · simp

theorem yEx_wf : WFRows 1 yEx.conSys := by
  intro c hc
  simp only [yEx, List.mem_cons, List.not_mem_nil, or_false] at hc
  rcases hc with rfl | rfl <;> rfl

theorem xEx_wf : WFRows 1 xEx.conSys := by
  intro c hc
  simp only [xEx, List.mem_cons, List.not_mem_nil, or_false] at hc
  rcases hc with rfl | rfl <;> rfl

theorem yEx_minimal : MinimalDD 1 yEx where
  wf := yEx_wf
  satG_ok := by decide
  oneTaut := by decide
  gens_in := by decide
  hymin := by
    have hmem : 2 ∈ {k | ∃ cs : List CRow, WFRows 1 cs ∧ cs.length = k ∧
        den false 1 cs = den false 1 yEx.conSys} := ⟨yEx.conSys, yEx_wf, rfl, rfl⟩
    have h2 : (yEx.conSys.filter (!·.isTautological false)).length = 2 := by decide
    rw [h2]
    apply le_antisymm
    · apply le_csInf ⟨2, hmem⟩
      rintro k ⟨cs, hwf, rfl, hden⟩
      exact yEx_needs_two cs hwf hden
    · exact Nat.sInf_le hmem
  hfacet := by
    intro ci hl hvalid cj hcj _ hsat p _
    obtain ⟨e, eq⟩ := ci
    match e, hl with
    | [a, b], _ =>
      have v0 := hvalid (fun _ => (0 : ℚ)) (by rw [mem_yEx]; norm_num)
      have v1 := hvalid (fun _ => (1 : ℚ)) (by rw [mem_yEx]; norm_num)
      rw [holds2] at v0 v1 ⊢
      simp only [yEx, List.mem_cons, List.not_mem_nil, or_false] at hcj
      rcases hcj with rfl | rfl
      · -- `cj` is `p ≥ 0`
        rw [holds2]
        simp only [satRow, yEx, sp, List.map_cons, List.map_nil, List.cons.injEq, and_true] at hsat
        obtain ⟨s0, s1⟩ := hsat
        have i0 : a ≤ 0 := by have := decide_eq_decide.mp s0; omega
        have i1 : 0 < a + b := by have := decide_eq_decide.mp s1; omega
        have s0' : (a : ℚ) ≤ 0 := by exact_mod_cast i0
        have s1' : (0 : ℚ) < a + b := by exact_mod_cast i1
        cases eq
        · simp only [Bool.false_eq_true, if_false] at v0 v1 ⊢
          have ha : (a : ℚ) = 0 := by linarith
          have hb : (0 : ℚ) < b := by linarith
          rw [ha]
          push_cast
          constructor
          · intro h
            have : 0 ≤ (b : ℚ) * p 0 := by linarith
            have := (mul_nonneg_iff_of_pos_left hb).mp this
            linarith
          · intro h
            have : 0 ≤ p 0 := by linarith
            have := mul_nonneg hb.le this
            linarith
        · simp only [if_true] at v0 v1
          exfalso
          linarith
      · -- `cj` is `1 - p ≥ 0`
        rw [holds2]
        simp only [satRow, yEx, sp, List.map_cons, List.map_nil, List.cons.injEq, and_true] at hsat
        obtain ⟨s0, s1⟩ := hsat
        have i0 : 0 < a := by have := decide_eq_decide.mp s0; omega
        have i1 : a + b ≤ 0 := by have := decide_eq_decide.mp s1; omega
        have s0' : (0 : ℚ) < a := by exact_mod_cast i0
        have s1' : (a : ℚ) + b ≤ 0 := by exact_mod_cast i1
        cases eq
        · simp only [Bool.false_eq_true, if_false] at v0 v1 ⊢
          have hab : (b : ℚ) = -a := by linarith
          rw [hab]
          push_cast
          constructor
          · intro h
            have : 0 ≤ (a : ℚ) * (1 - p 0) := by linarith
            have := (mul_nonneg_iff_of_pos_left s0').mp this
            linarith
          · intro h
            have : 0 ≤ 1 - p 0 := by linarith
            have := mul_nonneg s0'.le this
            linarith
        · simp only [if_true] at v0 v1
          exfalso
          linarith

/-! ### `x = [0, 2]` is the convex hull of its generators: `satisfied_by_all_generators` is sound -/

theorem sp_nil_right (a : Vec) : sp a [] = 0 := by cases a <;> rfl

theorem eval1 (e : Vec) (p : Pt) :
    evalRow e (hom 1 p 0) =
      ((sp e [1, 0] : Int) : ℚ) * (1 - p 0 / 2) + ((sp e [1, 2] : Int) : ℚ) * (p 0 / 2) := by
  rcases e with _ | ⟨a, _ | ⟨b, rest⟩⟩
  · simp [evalRow, sp]
  · simp only [evalRow, sp, hom_zero]
    push_cast
    ring
  · have hz : evalRow rest (fun i => hom 1 p 0 (i + 1 + 1)) = 0 :=
      evalRow_zero_fun _ _ fun i => hom_beyond 1 p (by omega)
    simp only [evalRow, sp, hom_zero, hz, sp_nil_right]
    have h1 : hom 1 p 0 (0 + 1) = p 0 := by simp [hom]
    rw [h1]
    push_cast
    ring

theorem xEx_hgen (c : CRow) (h : satisfiedByAllGenerators false xEx.genSys c = true) (p : Pt)
    (hp : p ∈ den false 1 xEx.conSys) : c.holds (hom 1 p 0) := by
  rw [mem_xEx] at hp
  obtain ⟨e, eq⟩ := c
  unfold CRow.holds
  rw [eval1]
  have hp1 : 0 ≤ 1 - p 0 / 2 := by linarith [hp.2]
  have hp2 : 0 ≤ p 0 / 2 := by linarith [hp.1]
  cases eq
  · simp only [satisfiedByAllGenerators, CRow.type, xEx, spsAdj, Bool.false_eq_true, if_false,
      Bool.not_false, if_true, List.all_cons, List.all_nil, Bool.and_true, Bool.and_eq_true,
      decide_eq_true_eq] at h
    have h0 : (0 : ℚ) ≤ (sp e [1, 0] : Int) := by exact_mod_cast h.1
    have h2 : (0 : ℚ) ≤ (sp e [1, 2] : Int) := by exact_mod_cast h.2
    simp only [Bool.false_eq_true, if_false]
    exact add_nonneg (mul_nonneg h0 hp1) (mul_nonneg h2 hp2)
  · simp only [satisfiedByAllGenerators, CRow.type, xEx, spsAdj, if_true, List.all_cons, List.all_nil,
      Bool.and_true, Bool.and_eq_true, beq_iff_eq, Bool.false_eq_true, if_false] at h
    simp only [if_true]
    rw [h.1, h.2]
    simp

/-- every point of `[0, 2]` is generated by the points `0` and `2` -/
theorem exPoly_gens (p : Pt) (hp : p ∈ den false 1 xEx.conSys) : GenComb 1 xEx.genSys p := by
  rw [mem_xEx] at hp
  refine ⟨fun k => if k = 0 then 1 - p 0 / 2 else p 0 / 2, ⟨fun _ => ?_, fun _ => ?_, trivial⟩, ?_⟩
  · simp only [if_true]; linarith [hp.2]
  · simp only [Nat.succ_ne_zero, if_false]; linarith [hp.1]
  · intro i hi
    have : i = 0 ∨ i = 1 := by omega
    rcases this with rfl | rfl
    · simp [hom, genComb, xEx, GRow.vec]
    · simp [hom, genComb, xEx, GRow.vec]


end PPLV.Widen.Impl

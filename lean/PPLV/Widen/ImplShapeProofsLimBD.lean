import PPLV.Widen.ImplShapeProofsClose
/-!
# `BD_Shape::get_limiting_shape` and the limited extrapolations, matrix level

Everything here is about the state in which the loops of `get_limiting_shape` run: the receiver after the
`shortest_path_closure_assign()` at the head of `get_limiting_shape` (`BD_Shape_templates.hh:3205`), written
`Xc := bdClosureAssign up n X`.  The lift to the points of the unclosed receiver is in `ImplShapeProofsLimBD3`.
-/
namespace PPLV.Widen
open PPLV.WR
open PPLV.WR.ExtRat (fin pinf le_rfl' le_trans' le_total' le_pinf)

/-! ## generic facts -/

theorem lim_le_of_ltB {a b : ExtRat} (h : ExtRat.ltB a b = true) : a ≤ b := by
  rw [ltB_iff] at h
  rcases le_total' a b with h1 | h1
  · exact h1
  · exact absurd h1 h

theorem lim_le_of_not_ltB {a b : ExtRat} (h : ¬ ExtRat.ltB a b = true) : b ≤ a := by
  rw [ltB_iff] at h; exact not_not.mp h

/-- `m'` comes from the limiting matrix `m` by lowering cells to bounds that the matrix `x` (the closed receiver)
satisfies: what a step of `get_limiting_shape` / `get_limiting_octagon` does -/
def LimBetween (x m m' : Mat) : Prop :=
  (∀ a b, m' a b ≤ m a b) ∧ ((∀ a b, x a b ≤ m a b) → ∀ a b, x a b ≤ m' a b)

theorem LimBetween.refl (x m : Mat) : LimBetween x m m := ⟨fun _ _ => le_rfl' _, id⟩

theorem LimBetween.set {x m m' : Mat} (h : LimBetween x m m') {i j : Nat} {d : ExtRat} (hx : x i j ≤ d)
    (hd : d ≤ m i j) : LimBetween x m (m'.set i j d) := by
  refine ⟨fun a b => ?_, fun hdom a b => ?_⟩ <;> rw [Mat.set_apply] <;> split
  · rename_i hab; rw [hab.1, hab.2]; exact hd
  · exact h.1 a b
  · rename_i hab; rw [hab.1, hab.2]; exact hx
  · exact h.2 hdom a b

theorem LimBetween.trans {x m m' m'' : Mat} (h : LimBetween x m m') (h' : LimBetween x m' m'') :
    LimBetween x m m'' :=
  ⟨fun a b => le_trans' (h'.1 a b) (h.1 a b), fun hdom => h'.2 (h.2 hdom)⟩

theorem LimBetween.foldl {α : Type} {x : Mat} {f : Mat × Bool → α → Mat × Bool}
    (hf : ∀ st c, LimBetween x st.1 (f st c).1) (cs : List α) (st : Mat × Bool) :
    LimBetween x st.1 (cs.foldl f st).1 := by
  induction cs generalizing st with
  | nil => exact .refl _ _
  | cons c cs ih => exact (hf st c).trans (ih _)

/-! ## the cell and the bound of a supplied constraint -/

/-- the cell `x` of `get_limiting_shape` (`:3225`): `negative ? dbm[i][j] : dbm[j][i]` -/
def bdLimCell (csd : Nat) (c : LimCon) : Nat × Nat :=
  let X := extractBoundedDifference csd c.coeff
  if X.coeff < 0 then (X.i, X.j) else (X.j, X.i)

/-- `|coeff|` (`:3228-3230`) -/
def bdLimCoeff (csd : Nat) (c : LimCon) : Int :=
  let X := extractBoundedDifference csd c.coeff
  if X.coeff < 0 then - X.coeff else X.coeff

/-- `d = div_round_up(c.inhomogeneous_term(), coeff)` (`:3232`) -/
def bdLimBound (up : Rat → ExtRat) (csd : Nat) (c : LimCon) : ExtRat := divUp up c.inhomo (bdLimCoeff csd c)

/-- `d1 = div_round_up(-c.inhomogeneous_term(), coeff)` (`:3243-3244`) -/
def bdLimBound1 (up : Rat → ExtRat) (csd : Nat) (c : LimCon) : ExtRat := divUp up (- c.inhomo) (bdLimCoeff csd c)

/-- the constraint is one that `get_limiting_shape` looks at: a bounded difference with at least one variable -/
def bdLimSel (csd : Nat) (c : LimCon) : Bool :=
  let X := extractBoundedDifference csd c.coeff
  X.ok && X.numVars != 0

/-- `bdLimitStep` in terms of the cell and the bounds -/
theorem bdLimitStep_eq (up : Rat → ExtRat) (csd : Nat) (dbm : Mat) (st : Mat × Bool) (c : LimCon) :
    bdLimitStep up csd dbm st c =
      if bdLimSel csd c then
        let ij := bdLimCell csd c
        let d := bdLimBound up csd c
        if dbm ij.1 ij.2 ≤ d then
          if !c.isEq then
            if ExtRat.ltB d (st.1 ij.1 ij.2) then (st.1.set ij.1 ij.2 d, true) else st
          else
            let d1 := bdLimBound1 up csd c
            if dbm ij.2 ij.1 ≤ d1 then
              if (decide (d ≤ st.1 ij.1 ij.2) && ExtRat.ltB d1 (st.1 ij.2 ij.1))
                  || (ExtRat.ltB d (st.1 ij.1 ij.2) && decide (d1 ≤ st.1 ij.2 ij.1)) then
                ((st.1.set ij.1 ij.2 d).set ij.2 ij.1 d1, true)
              else st
            else st
        else st
      else st := by
  unfold bdLimitStep bdLimSel bdLimCell bdLimBound bdLimBound1 bdLimCoeff
  by_cases hneg : (extractBoundedDifference csd c.coeff).coeff < 0 <;> simp [hneg]

/-! ## the limiting matrix dominates the closed receiver, and only decreases along the fold -/

theorem bdLimitStep_between (up : Rat → ExtRat) (csd : Nat) (dbm : Mat) (st : Mat × Bool) (c : LimCon) :
    LimBetween dbm st.1 (bdLimitStep up csd dbm st c).1 := by
  rw [bdLimitStep_eq]
  dsimp only
  -- `by_cases` + `if_pos`/`if_neg` by hand: `split_ifs` is slow on this term
  by_cases hsel : bdLimSel csd c = true
  swap
  · rw [if_neg hsel]; exact .refl _ _
  by_cases hx : dbm (bdLimCell csd c).1 (bdLimCell csd c).2 ≤ bdLimBound up csd c
  swap
  · rw [if_pos hsel, if_neg hx]; exact .refl _ _
  rw [if_pos hsel, if_pos hx]
  by_cases hineq : (!c.isEq) = true
  · by_cases hlt : ExtRat.ltB (bdLimBound up csd c) (st.1 (bdLimCell csd c).1 (bdLimCell csd c).2) = true
    · rw [if_pos hineq, if_pos hlt]; exact (LimBetween.refl _ _).set hx (lim_le_of_ltB hlt)
    · rw [if_pos hineq, if_neg hlt]; exact .refl _ _
  by_cases hy : dbm (bdLimCell csd c).2 (bdLimCell csd c).1 ≤ bdLimBound1 up csd c
  swap
  · rw [if_neg hineq, if_neg hy]; exact .refl _ _
  rw [if_neg hineq, if_pos hy]
  -- an equality: both halves are written when one of them improves and the other does not lose
  split
  · rename_i hc
    simp only [Bool.or_eq_true, Bool.and_eq_true, decide_eq_true_eq] at hc
    exact ((LimBetween.refl _ _).set hx (hc.elim (·.1) (lim_le_of_ltB ·.1))).set hy
      (hc.elim (lim_le_of_ltB ·.2) (·.2))
  · exact .refl _ _

theorem bdLimitStep_dom (up : Rat → ExtRat) (csd : Nat) (dbm : Mat) (st : Mat × Bool) (c : LimCon)
    (h : ∀ a b, dbm a b ≤ st.1 a b) : ∀ a b, dbm a b ≤ (bdLimitStep up csd dbm st c).1 a b :=
  (bdLimitStep_between up csd dbm st c).2 h

/-- after an inequality that the closed receiver satisfies has been processed its cell is at most `d` -/
theorem bdLimitStep_keeps_ineq (up : Rat → ExtRat) (csd : Nat) (dbm : Mat) (st : Mat × Bool) (c : LimCon)
    (hsel : bdLimSel csd c = true) (hineq : c.isEq = false)
    (hx : dbm (bdLimCell csd c).1 (bdLimCell csd c).2 ≤ bdLimBound up csd c) :
    (bdLimitStep up csd dbm st c).1 (bdLimCell csd c).1 (bdLimCell csd c).2 ≤ bdLimBound up csd c := by
  rw [bdLimitStep_eq]
  simp only [hsel, hx, hineq, if_true, Bool.not_false]
  split
  · simp [Mat.set_apply]; exact le_rfl' _
  · rename_i hlt; exact lim_le_of_not_ltB hlt

/-- after an equality that the closed receiver satisfies (both halves) has been processed, both cells are at most
their bounds PROVIDED the limiting cells were not yet strictly below the bounds (`d ≤ ls_x`, `d1 ≤ ls_y`) -/
theorem bdLimitStep_keeps_eq (up : Rat → ExtRat) (csd : Nat) (dbm : Mat) (st : Mat × Bool) (c : LimCon)
    (hsel : bdLimSel csd c = true) (hij : (bdLimCell csd c).1 ≠ (bdLimCell csd c).2)
    (hx : dbm (bdLimCell csd c).1 (bdLimCell csd c).2 ≤ bdLimBound up csd c)
    (hy : dbm (bdLimCell csd c).2 (bdLimCell csd c).1 ≤ bdLimBound1 up csd c)
    (hlx : bdLimBound up csd c ≤ st.1 (bdLimCell csd c).1 (bdLimCell csd c).2)
    (hly : bdLimBound1 up csd c ≤ st.1 (bdLimCell csd c).2 (bdLimCell csd c).1)
    (heq : c.isEq = true) :
    (bdLimitStep up csd dbm st c).1 (bdLimCell csd c).1 (bdLimCell csd c).2 ≤ bdLimBound up csd c ∧
    (bdLimitStep up csd dbm st c).1 (bdLimCell csd c).2 (bdLimCell csd c).1 ≤ bdLimBound1 up csd c := by
  rw [bdLimitStep_eq]
  simp only [hsel, hx, hy, heq, if_true, Bool.not_true, Bool.false_eq_true, if_false]
  split
  · simp only [Mat.set_apply]
    have : ¬ ((bdLimCell csd c).1 = (bdLimCell csd c).2 ∧ (bdLimCell csd c).2 = (bdLimCell csd c).1) :=
      fun h => hij h.1
    simp [this]
    exact ⟨le_rfl' _, le_rfl' _⟩
  · rename_i hc
    simp only [Bool.or_eq_true, Bool.and_eq_true, decide_eq_true_eq, not_or, not_and] at hc
    have h1 := hc.1 hlx
    have h2 : ¬ ExtRat.ltB (bdLimBound up csd c) (st.1 (bdLimCell csd c).1 (bdLimCell csd c).2) = true :=
      fun h => hc.2 h hly
    exact ⟨lim_le_of_not_ltB h2, lim_le_of_not_ltB h1⟩

/-! ### the fold -/

theorem bdLimitFold_dom (up : Rat → ExtRat) (csd : Nat) (dbm : Mat) (cs : List LimCon) (st : Mat × Bool)
    (h : ∀ a b, dbm a b ≤ st.1 a b) : ∀ a b, dbm a b ≤ (cs.foldl (bdLimitStep up csd dbm) st).1 a b :=
  (LimBetween.foldl (bdLimitStep_between up csd dbm) cs st).2 h

theorem bdLimitFold_le (up : Rat → ExtRat) (csd : Nat) (dbm : Mat) (cs : List LimCon) (st : Mat × Bool) :
    ∀ a b, (cs.foldl (bdLimitStep up csd dbm) st).1 a b ≤ st.1 a b :=
  (LimBetween.foldl (bdLimitStep_between up csd dbm) cs st).1

/-- every supplied inequality that `get_limiting_shape` looks at and that the closed receiver
satisfies ends up in the limiting matrix: its cell is at most `d` -/
theorem bdLimitFold_keeps_ineq (up : Rat → ExtRat) (csd : Nat) (dbm : Mat) (cs : List LimCon) (st : Mat × Bool)
    (c : LimCon) (hc : c ∈ cs) (hsel : bdLimSel csd c = true) (hineq : c.isEq = false)
    (hx : dbm (bdLimCell csd c).1 (bdLimCell csd c).2 ≤ bdLimBound up csd c) :
    (cs.foldl (bdLimitStep up csd dbm) st).1 (bdLimCell csd c).1 (bdLimCell csd c).2 ≤ bdLimBound up csd c := by
  induction cs generalizing st with
  | nil => cases hc
  | cons c' cs ih =>
    rcases List.mem_cons.mp hc with h | h
    · subst h
      exact le_trans' (bdLimitFold_le up csd dbm cs _ _ _) (bdLimitStep_keeps_ineq up csd dbm st c hsel hineq hx)
    · exact ih _ h

end PPLV.Widen

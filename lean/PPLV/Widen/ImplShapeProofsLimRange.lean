import PPLV.Widen.ImplShapeProofsLimBD
import PPLV.Widen.ImplShapeProofsLimOct
import PPLV.WR.TransProofsRefine
/-!
# the cells that `get_limiting_shape` / `get_limiting_octagon` address are stored cells
(when the constraint system has at most the space dimension of the receiver, which both callers check:
`BD_Shape_templates.hh:3280`, `Octagonal_Shape_templates.hh:4066`)
-/
namespace PPLV.Widen
open PPLV.WR

theorem extractBoundedDifference_range (csd : Nat) (cf : Nat → Int)
    (hnv : (extractBoundedDifference csd cf).numVars ≠ 0) :
    (extractBoundedDifference csd cf).i ≤ csd ∧ (extractBoundedDifference csd cf).j ≤ csd ∧
    (extractBoundedDifference csd cf).i ≠ (extractBoundedDifference csd cf).j := by
  obtain ⟨h1, h1', -⟩ := firstNonzero_spec cf (lo := 1) (hi := csd + 1) (by omega)
  unfold extractBoundedDifference at hnv ⊢
  by_cases hf : firstNonzero cf 1 (csd + 1) = csd + 1
  · simp [hf] at hnv
  · obtain ⟨h2, h2', -⟩ :=
      firstNonzero_spec cf (lo := firstNonzero cf 1 (csd + 1) + 1) (hi := csd + 1) (by omega)
    simp only [hf, if_false]
    split_ifs <;> dsimp only <;> omega

/-- the cell of a selected constraint is a stored cell off the diagonal -/
theorem bdLimCell_range (csd : Nat) (c : LimCon) (h : bdLimSel csd c = true) :
    (bdLimCell csd c).1 ≤ csd ∧ (bdLimCell csd c).2 ≤ csd ∧ (bdLimCell csd c).1 ≠ (bdLimCell csd c).2 := by
  unfold bdLimSel at h
  simp only [Bool.and_eq_true, bne_iff_ne, ne_eq] at h
  obtain ⟨h1, h2, h3⟩ := extractBoundedDifference_range csd c.coeff h.2
  unfold bdLimCell
  simp only
  split
  · exact ⟨h1, h2, h3⟩
  · exact ⟨h2, h1, fun e => h3 e.symm⟩

/-- cells `(2a | 2a+1, 2b | 2b+1)` with `b ≤ a` are stored cells of the pseudo-triangular matrix -/
theorem lt_rowSize_of_half_le {i j : Nat} (h : j / 2 ≤ i / 2) : j < rowSize i := by
  unfold rowSize; omega

theorem extractOctagonalDifference_range (csd : Nat) (cf : Nat → Int) (inhomo : Int)
    (hok : (extractOctagonalDifference csd cf inhomo).ok = true)
    (hnv : (extractOctagonalDifference csd cf inhomo).numVars ≠ 0) :
    (extractOctagonalDifference csd cf inhomo).i < 2 * csd ∧
    (extractOctagonalDifference csd cf inhomo).j < rowSize (extractOctagonalDifference csd cf inhomo).i := by
  obtain ⟨h1, h1', -⟩ := firstNonzero_spec cf (lo := 1) (hi := csd + 1) (by omega)
  unfold extractOctagonalDifference at hok hnv ⊢
  dsimp only at hok hnv ⊢
  generalize firstNonzero cf 1 (csd + 1) = first at *
  by_cases hf : first = csd + 1
  · rw [if_pos hf] at hnv; exact absurd rfl hnv
  rw [if_neg hf] at hok ⊢
  clear hnv
  obtain ⟨h2, h2', -⟩ := firstNonzero_spec cf (lo := first - 1 + 2) (hi := csd + 1) (by omega)
  generalize firstNonzero cf (first - 1 + 2) (csd + 1) = second at *
  -- `split_ifs` is slow here: the branches by hand
  by_cases hs : second = csd + 1
  · rw [if_pos hs]
    by_cases hc : cf (first - 1) < 0
    · rw [if_pos hc]; exact ⟨by dsimp only; omega, lt_rowSize_of_half_le (by dsimp only; omega)⟩
    · rw [if_neg hc]; exact ⟨by dsimp only; omega, lt_rowSize_of_half_le (by dsimp only; omega)⟩
  rw [if_neg hs] at hok ⊢
  by_cases hz : (!allZeroes cf (second - 1 + 2) (csd + 1)) = true
  · rw [if_pos hz] at hok; cases hok
  rw [if_neg hz] at hok ⊢
  by_cases hcc : cf (second - 1) ≠ cf (first - 1) ∧ cf (second - 1) ≠ -cf (first - 1)
  · rw [if_pos hcc] at hok; cases hok
  rw [if_neg hcc]
  dsimp only
  refine ⟨?_, lt_rowSize_of_half_le ?_⟩
  · split <;> omega
  · split <;> split <;> omega

theorem octLimCell_range (csd : Nat) (c : LimCon) (h : octLimSel csd c = true) :
    (octLimCell csd c).1 < 2 * csd ∧ (octLimCell csd c).2 < rowSize (octLimCell csd c).1 := by
  unfold octLimSel at h
  simp only [Bool.and_eq_true, bne_iff_ne, ne_eq] at h
  exact extractOctagonalDifference_range csd c.coeff c.inhomo h.1 h.2

end PPLV.Widen

import PPLV.Widen.ImplH79ProofsEngineMinG2
import Mathlib.LinearAlgebra.LinearIndependent.Lemmas

/-!
# `hymin` from the engine guarantees: `Abs.Setup`, independence, row count
-/
namespace PPLV.Widen.Impl

theorem setup_of_engine {n : Nat} {y : YMin} (hy : EngineDD n y) (hfp : FacetPoints y)
    (cs : List CRow) (wf : WFRows n cs) (hden : den false n cs = den false n y.conSys) :
    Abs.Setup x0L (famA y) (famC y) (famD cs) where
  pstar := by
    obtain ⟨p, hp0, hps, hpl⟩ := pstar_aux hy (ineqsOf y)
      (fun c hc => ⟨(mem_ineqsOf.mp hc).1, (mem_ineqsOf.mp hc).2.1⟩)
    refine ⟨p, hp0, ((inK_iff_sat y p hp0).mpr hps).1, ?_⟩
    intro j
    exact hpl _ (List.get_mem (ineqsOf y) j)
  irred := by
    intro j
    have hm := mem_ineqsOf.mp (List.get_mem (ineqsOf y) j)
    obtain ⟨v, hv1, hv2⟩ := irred_row hy hm.1 hm.2.1
    refine ⟨vecQ v, ?_, ?_, ?_⟩
    · intro i
      have hi := mem_eqsOf.mp (List.get_mem (eqsOf y) i)
      have hne : (eqsOf y).get i ≠ (ineqsOf y).get j := by
        intro h; rw [h] at hi; rw [hm.2.1] at hi; exact absurd hi.2 (by simp)
      exact (holds_eq hi.2 _).mp ((holds_vecQ _ v).mpr (hv1 _ hi.1 hne))
    · intro k hkj
      have hk := mem_ineqsOf.mp (List.get_mem (ineqsOf y) k)
      have hne : (ineqsOf y).get k ≠ (ineqsOf y).get j := by
        intro h
        exact hkj ((List.nodup_iff_injective_get.mp (ineqsOf_nodup hy)) h)
      exact (holds_ineq hk.2.1 _).mp ((holds_vecQ _ v).mpr (hv1 _ hk.1 hne))
    · have h := mt (holds_vecQ ((ineqsOf y).get j) v).mp hv2
      rw [holds_ineq hm.2.1] at h
      exact not_le.mp h
  facetPt := by
    intro j
    have hm := mem_ineqsOf.mp (List.get_mem (ineqsOf y) j)
    obtain ⟨g, hg, _, hg0, hsp⟩ := hfp _ hm.1 hm.2.1 hm.2.2
    have h0 : 0 < vecQ g.e 0 := by rw [vecQ_zero]; exact_mod_cast hg0
    refine ⟨vecQ g.e, h0, (inK_iff_sat y _ h0).mpr (gen_holds hy hg), ?_⟩
    simp only [famC, evalL_apply, evalRow_vecQ, hsp]
    simp
  same := by
    intro v hv
    have hv' : 0 < v 0 := hv
    rw [inK_iff_sat y v hv', ← satRows_iff_famD]
    exact satRows_iff_of_den_eq n y.conSys cs hy.wf wf hden v hv'

/-! ### the equalities are linearly independent functionals -/

theorem evalRow_single : ∀ (e : Vec) (k : Nat), evalRow e (Pi.single k 1) = ((e.getD k 0 : Int) : Rat)
  | [], k => by simp [evalRow]
  | a :: as, 0 => by
    have h : (fun i => (Pi.single 0 1 : Nat → Rat) (i + 1)) = fun _ => 0 := by
      funext i; simp
    simp [evalRow, evalRow_zero_funM]
  | a :: as, k + 1 => by
    have h : (fun i => (Pi.single (k + 1) 1 : Nat → Rat) (i + 1)) = Pi.single k 1 := by
      funext i; simp [Pi.single_apply]
    simp [evalRow, h, evalRow_single as k]

theorem famA_indep {n : Nat} {y : YMin} (hy : EngineDD n y) : LinearIndependent ℚ (famA y) := by
  rw [Fintype.linearIndependent_iff]
  intro g hg i
  let f : Nat → Rat := fun i => if h : i < (eqsOf y).length then g ⟨i, h⟩ else 0
  have hf : ∀ i : Fin (eqsOf y).length, f i.val = g i := by
    intro i; simp [f]
  have key := hy.eqIndep f ?_ i.val i.2
  · rw [← hf i]; exact key
  · intro k _
    have h1 := congrArg (fun L : (Nat → Rat) →ₗ[ℚ] ℚ => L (Pi.single k 1)) hg
    simp only [LinearMap.sum_apply, LinearMap.smul_apply, smul_eq_mul,
      LinearMap.zero_apply] at h1
    show ∑ i ∈ Finset.range (eqsOf y).length,
      f i * ((((eqsOf y).getD i default).e.getD k 0 : Int) : Rat) = 0
    rw [Finset.sum_range]
    rw [← h1]
    apply Finset.sum_congr rfl
    intro j _
    rw [hf j]
    congr 1
    simp only [famA, evalL_apply, evalRow_single]
    have : (eqsOf y).getD j.val default = (eqsOf y).get j := by
      rw [List.getD_eq_getElem _ _ j.2]; rfl
    rw [this]

/-- no equality row is a tautology -/
theorem eq_not_taut {n : Nat} {y : YMin} (hy : EngineDD n y) {c : CRow} (hc : c ∈ y.conSys)
    (hce : c.eq = true) : c.isTautological false = false := by
  by_contra ht
  have ht' : c.isTautological false = true := by simpa using ht
  obtain ⟨i, hi⟩ := List.get_of_mem (mem_eqsOf.mpr ⟨hc, hce⟩)
  have hne := (famA_indep hy).ne_zero i
  apply hne
  apply LinearMap.ext
  intro v
  simp only [famA, evalL_apply, hi, LinearMap.zero_apply]
  unfold CRow.isTautological at ht'
  by_cases hz : allHomZero c.e = true
  · rw [if_pos hz, if_pos hce] at ht'
    apply evalRow_all_zero
    rcases c with ⟨e, eq⟩
    cases e with
    | nil => rfl
    | cons a as =>
      simp only [List.headD_cons, beq_iff_eq] at ht'
      simp only [allHomZero, List.tail_cons] at hz
      simp [ht', hz]
  · rw [if_neg hz] at ht'
    simp at ht'

theorem len_split : ∀ (cs : List CRow), (∀ c ∈ cs, c.eq = true → c.isTautological false = false) →
    (cs.filter (!·.isTautological false)).length =
      (cs.filter (·.eq)).length + (cs.filter (fun c => !c.eq && !c.isTautological false)).length
  | [], _ => rfl
  | c :: cs, h => by
    have ih := len_split cs (fun c' hc' => h c' (List.mem_cons_of_mem _ hc'))
    have hc := h c List.mem_cons_self
    cases hce : c.eq <;> cases hct : c.isTautological false <;>
      simp [hce, hct] at hc ⊢ <;> omega

theorem nontaut_length {n : Nat} {y : YMin} (hy : EngineDD n y) :
    (y.conSys.filter (!·.isTautological false)).length = (eqsOf y).length + (ineqsOf y).length :=
  len_split y.conSys (fun _ hc hce => eq_not_taut hy hc hce)

end PPLV.Widen.Impl

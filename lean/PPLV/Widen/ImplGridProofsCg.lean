import PPLV.Widen.ImplGrid
import PPLV.Lattice.ProofsRedCgTail
import Mathlib.Tactic.Ring
import Mathlib.Tactic.Linarith

/-!
# the grid widenings, congruence path: row normalisation and `select_wider_congruences`

* `Congruence::normalize` / `strong_normalize` keep the meaning of a row (`rsem_normalizeCg`,
  `rsem_strongNormalizeCg`), its size and the sign of the modulus;
* every row `select_wider_congruences` selects is the strongly normalised copy of a row of `x`
  (`selectWiderCongruences_mem`);
* the grid built from the selected rows contains `x` (`cgw_result_contains`).
-/
namespace PPLV.Widen.ImplGrid
open PPLV.Lattice PPLV.Lattice.Red

/-! ### entries of mapped rows -/

/-- an exit of a grid widening that does not widen returns the same tuple for every token argument -/
theorem token_of_same_exit {A B : Type} {plain tok : A × B × Option Nat × String} {a : A} {b : B} {s : String}
    {t : Nat} {Q : Prop} (hs : s ≠ "widened") (e1 : plain = (a, b, none, s))
    (e2 : tok = (a, b, some (t + 1), s)) :
    (plain.2.2.2 ≠ "widened" → tok = (plain.1, plain.2.1, some (t + 1), plain.2.2.2)) ∧
    (plain.2.2.2 = "widened" → Q) := by
  subst e1 e2
  exact ⟨fun _ => rfl, fun h => absurd h hs⟩

theorem get_map0 (e : Row) (f : Int → Int) (hf : f 0 = 0) (i : Nat) : get (e.map f) i = f (get e i) := by
  unfold Red.get
  by_cases h : i < e.length
  · simp [h]
  · simp [h, hf]

theorem evalRow_map_neg (e : Row) (x : Pt) : evalRow (e.map (fun z => -z)) x = - evalRow e x := by
  have := evalRow_smul (e.map (fun z => -z)) e (-1) x (by simp) (fun i => by
    rw [get_map0 _ _ (by simp)]; ring)
  rw [this]; push_cast; ring

/-! ### `sign_normalize` -/

theorem signNormalize_cases (e : Row) : signNormalize e = e ∨ signNormalize e = e.map (fun z => -z) := by
  unfold signNormalize
  split
  · split
    · right; rfl
    · left; rfl
  · left; rfl

@[simp] theorem length_signNormalize (e : Row) : (signNormalize e).length = e.length := by
  rcases signNormalize_cases e with h | h <;> simp [h]

theorem rsem_signNormalize (e : Row) (m : Int) (x : Pt) :
    rsem { e := signNormalize e, m := m } x ↔ rsem { e := e, m := m } x := by
  rcases signNormalize_cases e with h | h
  · rw [h]
  · rw [h]
    exact rsem_neg { e := e, m := m } { e := e.map (fun z => -z), m := m } x (evalRow_map_neg e x) rfl

/-! ### `Congruence::normalize` -/

/-- replacing the inhomogeneous term shifts the value by the difference -/
theorem evalRow_set0 (e : Row) (c : Int) (x : Pt) (h : 0 < e.length) :
    evalRow (e.set 0 c) x = evalRow e x + ((c : ℚ) - (get e 0 : ℚ)) := by
  cases e with
  | nil => simp at h
  | cons a l =>
    rw [evalRow_eq, evalRow_eq]
    simp only [List.set_cons_zero, get_cons_zero, ratRow, List.map_cons, List.tail_cons]
    ring

/-- the inhomogeneous term changed by a multiple of the modulus -/
theorem rsem_set0 (e : Row) (m c q : Int) (x : Pt) (hc : c = get e 0 - q * m) :
    rsem { e := e.set 0 c, m := m } x ↔ rsem { e := e, m := m } x := by
  by_cases h : 0 < e.length
  · unfold rsem
    simp only
    rw [evalRow_set0 e c x h, hc]
    constructor
    · rintro ⟨t, ht⟩
      exact ⟨t + q, by push_cast at ht ⊢; linarith⟩
    · rintro ⟨t, ht⟩
      exact ⟨t - q, by push_cast; linarith⟩
  · have : e = [] := by
      cases e with
      | nil => rfl
      | cons a l => simp at h
    subst this
    simp

theorem normalizeCg_m (r : CRow) : (normalizeCg r).m = r.m := by
  unfold normalizeCg
  simp only
  split <;> rfl

@[simp] theorem length_normalizeCg (r : CRow) : (normalizeCg r).e.length = r.e.length := by
  unfold normalizeCg
  simp only
  split <;> simp

/-- `Congruence::normalize()` keeps the meaning of the row (any modulus) -/
theorem rsem_normalizeCg' (r : CRow) (x : Pt) : rsem (normalizeCg r) x ↔ rsem r x := by
  have hs := rsem_signNormalize r.e r.m x
  unfold normalizeCg
  simp only
  split
  · exact hs
  · refine Iff.trans ?_ hs
    have hdm := Int.mul_tdiv_add_tmod (get (signNormalize r.e) 0) r.m
    split
    · exact rsem_set0 _ _ _ ((get (signNormalize r.e) 0).tdiv r.m - 1) x (by linarith)
    · exact rsem_set0 _ _ _ ((get (signNormalize r.e) 0).tdiv r.m) x (by linarith)

set_option linter.unusedVariables false in
/-- `Congruence::normalize()` keeps the meaning of the row -/
theorem rsem_normalizeCg (r : CRow) (hm : 0 ≤ r.m) (x : Pt) : rsem (normalizeCg r) x ↔ rsem r x :=
  rsem_normalizeCg' r x

/-! ### `expr.gcd(...)` -/

theorem foldl_gcdI_dvd (e : Row) : ∀ g : Int, e.foldl (fun g z => gcdI g z) g ∣ g ∧
    ∀ z ∈ e, e.foldl (fun g z => gcdI g z) g ∣ z := by
  induction e with
  | nil => intro g; simp
  | cons a l ih =>
    intro g
    obtain ⟨h1, h2⟩ := ih (gcdI g a)
    simp only [List.foldl_cons, List.mem_cons]
    refine ⟨h1.trans (Int.gcd_dvd_left g a), ?_⟩
    rintro z (rfl | hz)
    · exact h1.trans (Int.gcd_dvd_right g z)
    · exact h2 z hz

theorem foldl_gcdI_nonneg (e : Row) : ∀ g : Int, 0 ≤ g → 0 ≤ e.foldl (fun g z => gcdI g z) g := by
  induction e with
  | nil => intro g hg; simpa using hg
  | cons a l ih =>
    intro g _
    simp only [List.foldl_cons]
    exact ih _ (Int.natCast_nonneg _)

theorem rowGcd_nonneg (e : Row) : 0 ≤ rowGcd e := foldl_gcdI_nonneg e 0 (le_refl _)

theorem rowGcd_dvd_get (e : Row) (i : Nat) : rowGcd e ∣ get e i := by
  by_cases h : i < e.length
  · have : get e i = e[i] := by simp [Red.get, h]
    rw [this]
    exact (foldl_gcdI_dvd e 0).2 _ (List.getElem_mem h)
  · rw [get_of_length_le e i (by omega)]; exact dvd_zero _

/-! ### `Congruence::strong_normalize` -/

/-- the divisor `strong_normalize` uses -/
def snDiv (r : CRow) : Int :=
  if rowGcd (normalizeCg r).e = 0 then (normalizeCg r).m else gcdI (normalizeCg r).m (rowGcd (normalizeCg r).e)

theorem strongNormalizeCg_eq (r : CRow) : strongNormalizeCg r =
    if snDiv r ≠ 0 ∧ snDiv r ≠ 1 then
      { e := (normalizeCg r).e.map (fun z => z / snDiv r), m := (normalizeCg r).m / snDiv r }
    else normalizeCg r := rfl

theorem snDiv_dvd_m (r : CRow) : snDiv r ∣ (normalizeCg r).m := by
  unfold snDiv
  split
  · exact dvd_refl _
  · exact Int.gcd_dvd_left _ _

theorem snDiv_dvd_get (r : CRow) (i : Nat) : snDiv r ∣ get (normalizeCg r).e i := by
  unfold snDiv
  split
  · rename_i h0
    have := rowGcd_dvd_get (normalizeCg r).e i
    rw [h0] at this
    rw [Int.zero_dvd.mp this]; exact dvd_zero _
  · exact (Int.gcd_dvd_right _ _).trans (rowGcd_dvd_get _ i)

theorem snDiv_nonneg (r : CRow) (hm : 0 ≤ r.m) : 0 ≤ snDiv r := by
  unfold snDiv
  split
  · rw [normalizeCg_m]; exact hm
  · exact Int.natCast_nonneg _

@[simp] theorem length_strongNormalizeCg (r : CRow) : (strongNormalizeCg r).e.length = r.e.length := by
  rw [strongNormalizeCg_eq]
  split <;> simp

theorem strongNormalizeCg_m_nonneg (r : CRow) (hm : 0 ≤ r.m) : 0 ≤ (strongNormalizeCg r).m := by
  rw [strongNormalizeCg_eq]
  split
  · exact Int.ediv_nonneg (by rw [normalizeCg_m]; exact hm) (snDiv_nonneg r hm)
  · rw [normalizeCg_m]; exact hm

/-- `Congruence::strong_normalize()` keeps the meaning of the row (any modulus) -/
theorem rsem_strongNormalizeCg' (r : CRow) (x : Pt) : rsem (strongNormalizeCg r) x ↔ rsem r x := by
  refine Iff.trans ?_ (rsem_normalizeCg' r x)
  rw [strongNormalizeCg_eq]
  split
  · rename_i hg
    symm
    apply rsem_scaled _ (normalizeCg r) (snDiv r) x hg.1
    · apply evalRow_smul _ _ (snDiv r) x (by simp)
      intro i
      rw [get_map0 _ _ (by simp)]
      exact (Int.mul_ediv_cancel' (snDiv_dvd_get r i)).symm
    · exact (Int.ediv_mul_cancel (snDiv_dvd_m r)).symm
  · rfl

set_option linter.unusedVariables false in
/-- `Congruence::strong_normalize()` keeps the meaning of the row -/
theorem rsem_strongNormalizeCg (r : CRow) (hm : 0 ≤ r.m) (x : Pt) : rsem (strongNormalizeCg r) x ↔ rsem r x :=
  rsem_strongNormalizeCg' r x

example : strongNormalizeCg ⟨[7, -2, 4], 6⟩ = ⟨[5, 2, -4], 6⟩ := by decide
example : strongNormalizeCg ⟨[-6, 0, -4], 8⟩ = ⟨[3, 0, 2], 4⟩ := by decide
example : strongNormalizeCg ⟨[-6, 0, -4], 0⟩ = ⟨[3, 0, 2], 0⟩ := by decide

/-! ### `Grid::select_wider_congruences` -/

theorem selectWiderCongruencesLoop_mem (xs : List CRow) (xdk : List Nat) (ys : List CRow) (ydk : List Nat) :
    ∀ (dim xRow yRow : Nat) (sel : List CRow),
      ∀ r ∈ selectWiderCongruencesLoop xs xdk ys ydk dim xRow yRow sel,
        r ∈ sel ∨ ∃ i, r = strongNormalizeCg (rowAt xs i) := by
  intro dim
  induction dim with
  | zero => intro xRow yRow sel r hr; left; simpa [selectWiderCongruencesLoop] using hr
  | succ dim ih =>
    intro xRow yRow sel r hr
    have app : ∀ {l : List CRow}, r ∈ l ++ [strongNormalizeCg (rowAt xs xRow)] →
        r ∈ l ∨ ∃ i, r = strongNormalizeCg (rowAt xs i) := fun h =>
      (List.mem_append.mp h).imp_right fun h => ⟨xRow, List.mem_singleton.mp h⟩
    rw [selectWiderCongruencesLoop] at hr
    by_cases hp : kind xdk (dim + 1) = PROPER_CONGRUENCE
    · rw [if_pos hp] at hr
      rcases ih _ _ _ r hr with h | h
      · by_cases hc : cgIsEqualAtDimension (rowAt xs xRow) (dim + 1) (rowAt ys yRow) = true
        · rw [if_pos hc] at h; exact app h
        · rw [if_neg hc] at h; exact Or.inl h
      · exact Or.inr h
    rw [if_neg hp] at hr
    by_cases he : kind xdk (dim + 1) = EQUALITY
    · rw [if_pos he] at hr
      exact (ih _ _ _ r hr).elim app Or.inr
    rw [if_neg he] at hr
    split at hr <;> exact ih _ _ _ r hr

/-- every selected row is the strongly normalised copy of a row of `x` -/
theorem selectWiderCongruences_mem (n : Nat) (xs : List CRow) (xdk : List Nat) (ys : List CRow) (ydk : List Nat) :
    ∀ r ∈ selectWiderCongruences n xs xdk ys ydk, ∃ i, r = strongNormalizeCg (rowAt xs i) := by
  intro r hr
  rcases selectWiderCongruencesLoop_mem xs xdk ys ydk n 0 0 [] r hr with h | h
  · simp at h
  · exact h

theorem rowAt_default_of_le {R : Type} [Inhabited R] (rows : List R) (i : Nat) (h : rows.length ≤ i) :
    rowAt rows i = default := by
  simp [rowAt, List.getElem?_eq_none h]

/-- … of a member of `xs`, or of the row `0 = 0` an out-of-range read gives -/
theorem selectWiderCongruences_mem' (n : Nat) (xs : List CRow) (xdk : List Nat) (ys : List CRow) (ydk : List Nat) :
    ∀ r ∈ selectWiderCongruences n xs xdk ys ydk,
      (∃ r0 ∈ xs, r = strongNormalizeCg r0) ∨ r = strongNormalizeCg (default : CRow) := by
  intro r hr
  obtain ⟨i, rfl⟩ := selectWiderCongruences_mem n xs xdk ys ydk r hr
  by_cases h : i < xs.length
  · left; exact ⟨_, rowAt_mem xs i h, rfl⟩
  · right; rw [rowAt_default_of_le xs i (by omega)]

theorem rsem_default (x : Pt) : rsem (default : CRow) x :=
  rsem_zero_row _ x (fun j => by show get ([] : Row) j = 0; simp [Red.get])

/-- every selected row holds wherever `x` holds -/
theorem selectWiderCongruences_rsem (n : Nat) (xs : List CRow) (xdk : List Nat) (ys : List CRow) (ydk : List Nat)
    (p : Pt) (h : Sol xs p) : ∀ r ∈ selectWiderCongruences n xs xdk ys ydk, rsem r p := by
  intro r hr
  rcases selectWiderCongruences_mem' n xs xdk ys ydk r hr with ⟨r0, hr0, rfl⟩ | rfl
  · exact (rsem_strongNormalizeCg' r0 p).mpr ((Sol_iff_mem xs p).mp h r0 hr0)
  · exact (rsem_strongNormalizeCg' _ p).mpr (rsem_default p)

/-- the selected rows have the size and modulus sign of the rows of `x` -/
theorem selectWiderCongruences_cwf (n : Nat) (xs : List CRow) (xdk : List Nat) (ys : List CRow) (ydk : List Nat)
    (hwf : CWf n xs) : ∀ r ∈ selectWiderCongruences n xs xdk ys ydk,
      (r.e.length = n + 1 ∨ r.e.length = 0) ∧ 0 ≤ r.m := by
  intro r hr
  rcases selectWiderCongruences_mem' n xs xdk ys ydk r hr with ⟨r0, hr0, rfl⟩ | rfl
  · exact ⟨Or.inl (by rw [length_strongNormalizeCg]; exact (hwf r0 hr0).1),
      strongNormalizeCg_m_nonneg r0 (hwf r0 hr0).2⟩
  · exact ⟨Or.inr (by rw [length_strongNormalizeCg]; rfl), strongNormalizeCg_m_nonneg _ (le_refl _)⟩

/-! ### the widened grid contains `x` -/

theorem addRecycledCongruences_universe_con (n : Nat) (cgs : List CRow) :
    ((universeGrid n).addRecycledCongruences cgs).con = integralityRow n 1 :: cgs := by
  unfold GridM.addRecycledCongruences
  cases cgs with
  | nil => simp [universeGrid]
  | cons a l => simp [universeGrid]

/-- `result`, the universe with the selected congruences added, contains `x` -/
theorem cgw_result_contains (n : Nat) (xs : List CRow) (xdk : List Nat) (ys : List CRow) (ydk : List Nat)
    (p : Pt) (h : cgsSem n xs p) :
    cgsSem n ((universeGrid n).addRecycledCongruences (selectWiderCongruences n xs xdk ys ydk)).con p := by
  rw [addRecycledCongruences_universe_con, cgsSem_iff]
  obtain ⟨hs, hsol⟩ := (cgsSem_iff n xs p).mp h
  refine ⟨hs, (Sol_iff_mem _ p).mpr ?_⟩
  intro r hr
  rcases List.mem_cons.mp hr with rfl | hr
  · exact rsem_integralityRow n 1 p
  · exact selectWiderCongruences_rsem n xs xdk ys ydk p hsol r hr

example : selectWiderCongruences 2 [⟨[0, 0, 1], 3⟩, ⟨[0, 2, 0], 4⟩, ⟨[1, 0, 0], 1⟩] [0, 0, 0]
    [⟨[0, 0, 1], 3⟩, ⟨[0, 1, 0], 4⟩, ⟨[1, 0, 0], 1⟩] [0, 0, 0] = [⟨[0, 0, 1], 3⟩] := by decide

end PPLV.Widen.ImplGrid

import PPLV.Widen.ImplShape
import PPLV.WR.ClosureProofsBase
/-!
# The loops of the shape widenings, cell by cell

Every loop nest of `ImplShape.lean` (`bdCC76Loops`, `octCC76Loops`, `bdBHMZ05Loops`, `octBHMZ05Loops`, the loops
of `bdIntersectionAssign` / `octIntersectionAssign`) rewrites each cell of its range as a function of the old
value of that cell alone; `loopDown2_cells` / `loopUp2_cells` say so once, for any state with a matrix view.
-/
namespace PPLV.Widen
open PPLV.WR
open PPLV.WR.ExtRat (fin pinf le_rfl' le_trans' le_total' le_pinf)

section generic
variable {α : Type} (π : α → Nat → Nat → ExtRat) (g : Nat → Nat → ExtRat → ExtRat) (f : Nat → Nat → α → α)

theorem loopDown_row_cells
    (hf : ∀ i j s a b, π (f i j s) a b = if a = i ∧ b = j then g i j (π s i j) else π s a b)
    (i cols : Nat) (s : α) (a b : Nat) :
    π (loopDown cols (fun j s => f i j s) s) a b = if a = i ∧ b < cols then g i b (π s a b) else π s a b := by
  induction cols generalizing s with
  | zero => simp [loopDown]
  | succ c ih =>
    simp only [loopDown]
    rw [ih, hf]
    by_cases h1 : a = i ∧ b < c
    · have : ¬ (a = i ∧ b = c) := by omega
      rw [if_pos h1, if_neg this, if_pos (by omega)]
    · rw [if_neg h1]
      by_cases h2 : a = i ∧ b = c
      · rw [if_pos h2, if_pos (by omega)]; obtain ⟨h3, h4⟩ := h2; subst h3; subst h4; rfl
      · rw [if_neg h2, if_neg (by omega)]

theorem loopDown2_cells
    (hf : ∀ i j s a b, π (f i j s) a b = if a = i ∧ b = j then g i j (π s i j) else π s a b)
    (rows cols : Nat) (s : α) (a b : Nat) :
    π (loopDown rows (fun i s => loopDown cols (fun j s => f i j s) s) s) a b
      = if a < rows ∧ b < cols then g a b (π s a b) else π s a b := by
  induction rows generalizing s with
  | zero => simp [loopDown]
  | succ r ih =>
    simp only [loopDown]
    rw [ih, loopDown_row_cells π g f hf]
    by_cases h1 : a < r ∧ b < cols
    · have : ¬ (a = r ∧ b < cols) := by omega
      rw [if_pos h1, if_neg this, if_pos (by omega)]
    · rw [if_neg h1]
      by_cases h2 : a = r ∧ b < cols
      · rw [if_pos h2, if_pos (by omega)]; obtain ⟨h3, _⟩ := h2; subst h3; rfl
      · rw [if_neg h2, if_neg (by omega)]

theorem loopUp_row_cells
    (hf : ∀ i j s a b, π (f i j s) a b = if a = i ∧ b = j then g i j (π s i j) else π s a b)
    (i cols : Nat) (s : α) (a b : Nat) :
    π (loopUp cols (fun j s => f i j s) s) a b = if a = i ∧ b < cols then g i b (π s a b) else π s a b := by
  induction cols with
  | zero => simp [loopUp]
  | succ c ih =>
    simp only [loopUp]
    rw [hf]
    by_cases h2 : a = i ∧ b = c
    · obtain ⟨h3, h4⟩ := h2; subst h3; subst h4
      rw [if_pos ⟨rfl, rfl⟩, if_pos ⟨rfl, by omega⟩, ih, if_neg (by omega)]
    · rw [if_neg h2, ih]
      by_cases h1 : a = i ∧ b < c
      · rw [if_pos h1, if_pos (by omega)]
      · rw [if_neg h1, if_neg (by omega)]

theorem loopUp2_cells
    (hf : ∀ i j s a b, π (f i j s) a b = if a = i ∧ b = j then g i j (π s i j) else π s a b)
    (rows : Nat) (cols : Nat → Nat) (s : α) (a b : Nat) :
    π (loopUp rows (fun i s => loopUp (cols i) (fun j s => f i j s) s) s) a b
      = if a < rows ∧ b < cols a then g a b (π s a b) else π s a b := by
  induction rows with
  | zero => simp [loopUp]
  | succ r ih =>
    simp only [loopUp]
    rw [loopUp_row_cells π g f hf, ih]
    by_cases h2 : a = r ∧ b < cols r
    · obtain ⟨h3, h4⟩ := h2; subst h3
      have : ¬ (a < a ∧ b < cols a) := by omega
      rw [if_pos ⟨rfl, h4⟩, if_neg this, if_pos ⟨by omega, h4⟩]
    · rw [if_neg h2]
      by_cases h1 : a < r ∧ b < cols a
      · rw [if_pos h1, if_pos ⟨by omega, h1.2⟩]
      · rw [if_neg h1, if_neg]
        intro h
        have har : a = r := by
          by_contra hne; exact h1 ⟨by omega, h.2⟩
        subst har
        exact h2 ⟨rfl, h.2⟩

end generic

/-! ## the loops of `ImplShape.lean` -/

theorem bdCC76Loops_apply (up : Rat → ExtRat) (stops : List Rat) (n : Nat) (x y : Mat) (a b : Nat) :
    bdCC76Loops up stops n x y a b
      = if a < n + 1 ∧ b < n + 1 then cc76Cell up stops (x a b) (y a b) else x a b := by
  unfold bdCC76Loops
  exact loopDown2_cells (fun m : Mat => m.f) (fun i j v => cc76Cell up stops v (y i j))
    (fun i j m => m.set i j (cc76Cell up stops (m i j) (y i j)))
    (fun i j s a b => by simp [Mat.set]) (n+1) (n+1) x a b

theorem octCC76Loops_apply (up : Rat → ExtRat) (stops : List Rat) (n : Nat) (x y : Mat) (a b : Nat) :
    octCC76Loops up stops n x y a b
      = if a < 2 * n ∧ b < rowSize a then cc76Cell up stops (x a b) (y a b) else x a b := by
  unfold octCC76Loops
  exact loopUp2_cells (fun m : Mat => m.f) (fun i j v => cc76Cell up stops v (y i j))
    (fun i j m => m.set i j (cc76Cell up stops (m i j) (y i j)))
    (fun i j s a b => by simp [Mat.set]) (2 * n) rowSize x a b

theorem bdBHMZ05Loops_apply (n : Nat) (x y : Mat) (r : BMat) (a b : Nat) :
    bdBHMZ05Loops n x y r a b
      = if a < n + 1 ∧ b < n + 1 then bhmz05Cell (x a b) (y a b) (r a b) else x a b := by
  unfold bdBHMZ05Loops
  exact loopDown2_cells (fun m : Mat => m.f) (fun i j v => bhmz05Cell v (y i j) (r i j))
    (fun i j m => if r i j || y i j != m i j then m.set i j pinf else m)
    (fun i j s a b => by
      simp only [bhmz05Cell]
      by_cases hc : (r i j || y i j != s i j) = true
      · simp [hc, Mat.set]
      · simp only [hc]
        by_cases h : a = i ∧ b = j
        · obtain ⟨h1, h2⟩ := h; subst h1; subst h2; simp
        · simp [h]) (n+1) (n+1) x a b

theorem octBHMZ05Loops_apply (n : Nat) (x y : Mat) (a b : Nat) :
    octBHMZ05Loops n x y a b
      = if a < 2 * n ∧ b < rowSize a then bhmz05Cell (x a b) (y a b) false else x a b := by
  unfold octBHMZ05Loops
  exact loopUp2_cells (fun m : Mat => m.f) (fun i j v => bhmz05Cell v (y i j) false)
    (fun i j m => if y i j != m i j then m.set i j pinf else m)
    (fun i j s a b => by
      simp only [bhmz05Cell, Bool.false_or]
      by_cases hc : (y i j != s i j) = true
      · simp [hc, Mat.set]
      · simp only [hc]
        by_cases h : a = i ∧ b = j
        · obtain ⟨h1, h2⟩ := h; subst h1; subst h2; simp
        · simp [h]) (2 * n) rowSize x a b

/-- `if (dbm_ij > y_dbm_ij) dbm_ij = y_dbm_ij` -/
def minCell (elem y_elem : ExtRat) : ExtRat := if ExtRat.ltB y_elem elem then y_elem else elem

/-- the matrix left by the loops of `bdIntersectionAssign` -/
theorem bdIntersection_loops_apply (n : Nat) (x y : Mat) (a b : Nat) :
    (loopDown (n+1) (fun i (st : Mat × Bool) =>
      loopDown (n+1) (fun j (st : Mat × Bool) =>
        if ExtRat.ltB (y i j) (st.1 i j) then (st.1.set i j (y i j), true) else st) st) (x, false)).1 a b
      = if a < n + 1 ∧ b < n + 1 then minCell (x a b) (y a b) else x a b := by
  exact loopDown2_cells (fun st : Mat × Bool => st.1.f) (fun i j v => minCell v (y i j))
    (fun i j (st : Mat × Bool) => if ExtRat.ltB (y i j) (st.1 i j) then (st.1.set i j (y i j), true) else st)
    (fun i j s a b => by
      simp only [minCell]
      by_cases hc : ExtRat.ltB (y i j) (s.1 i j) = true
      · simp [hc, Mat.set]
      · simp only [hc]
        by_cases h : a = i ∧ b = j
        · obtain ⟨h1, h2⟩ := h; subst h1; subst h2; simp
        · simp [h]) (n+1) (n+1) (x, false) a b

theorem octIntersection_loops_apply (n : Nat) (x y : Mat) (a b : Nat) :
    (loopUp (2 * n) (fun i (st : Mat × Bool) =>
      loopUp (rowSize i) (fun j (st : Mat × Bool) =>
        if ExtRat.ltB (y i j) (st.1 i j) then (st.1.set i j (y i j), true) else st) st) (x, false)).1 a b
      = if a < 2 * n ∧ b < rowSize a then minCell (x a b) (y a b) else x a b := by
  exact loopUp2_cells (fun st : Mat × Bool => st.1.f) (fun i j v => minCell v (y i j))
    (fun i j (st : Mat × Bool) => if ExtRat.ltB (y i j) (st.1 i j) then (st.1.set i j (y i j), true) else st)
    (fun i j s a b => by
      simp only [minCell]
      by_cases hc : ExtRat.ltB (y i j) (s.1 i j) = true
      · simp [hc, Mat.set]
      · simp only [hc]
        by_cases h : a = i ∧ b = j
        · obtain ⟨h1, h2⟩ := h; subst h1; subst h2; simp
        · simp [h]) (2 * n) rowSize (x, false) a b

/-! ## the cells -/

theorem ltB_iff (a b : ExtRat) : ExtRat.ltB a b = true ↔ ¬ b ≤ a := by
  simp [ExtRat.ltB]

/-- the CC76 cell never decreases (`assign_r(…, ROUND_UP)` rounds upwards) -/
theorem le_cc76Cell {up : Rat → ExtRat} (hup : ∀ q, fin q ≤ up q) (stops : List Rat) (elem y_elem : ExtRat) :
    elem ≤ cc76Cell up stops elem y_elem := by
  unfold cc76Cell
  split
  · simp only
    split
    · split
      · rename_i h
        rw [ltB_iff] at h
        rcases le_total' elem (fin stops[lowerBoundE stops elem]) with h1 | h1
        · exact le_trans' h1 (hup _)
        · exact absurd h1 h
      · exact le_rfl' _
    · exact le_pinf _
  · exact le_rfl' _

theorem le_bhmz05Cell (elem y_elem : ExtRat) (r : Bool) : elem ≤ bhmz05Cell elem y_elem r := by
  unfold bhmz05Cell
  split
  · exact le_pinf _
  · exact le_rfl' _

theorem minCell_le_left (a b : ExtRat) : minCell a b ≤ a := by
  unfold minCell
  split
  · rename_i h
    rw [ltB_iff] at h
    rcases le_total' a b with h1 | h1
    · exact absurd h1 h
    · exact h1
  · exact le_rfl' _

theorem minCell_le_right (a b : ExtRat) : minCell a b ≤ b := by
  unfold minCell
  split
  · exact le_rfl' _
  · rename_i h
    rw [ltB_iff] at h
    exact not_not.mp h

theorem le_minCell {c a b : ExtRat} (h1 : c ≤ a) (h2 : c ≤ b) : c ≤ minCell a b := by
  unfold minCell; split <;> assumption

/-! ## what an object denotes -/

/-- class invariant of `BD_Shape::OK()`: the stored main diagonal is `+∞` -/
def BDS.WF (n : Nat) (s : BDS) : Prop := ∀ i, i ≤ n → s.dbm i i = pinf
/-- class invariant of `Octagonal_Shape::OK()` -/
def OCS.WF (n : Nat) (s : OCS) : Prop := ∀ i, i < 2 * n → s.mat i i = pinf

/-- the points of a `BD_Shape` object: none when marked empty, else those satisfying every cell (`DBM.Sat`) -/
def BDS.γ (n : Nat) (s : BDS) (p : Nat → Rat) : Prop :=
  s.empty = false ∧ ∀ i j, i ≤ n → j ≤ n → fin (DBM.val p j - DBM.val p i) ≤ s.dbm i j

/-- the points of an `Octagonal_Shape` object (`OctM.Sat` on the stored cells) -/
def OCS.γ (n : Nat) (s : OCS) (p : Nat → Rat) : Prop :=
  s.empty = false ∧ ∀ i j, i < 2 * n → j < rowSize i → fin (OctM.oval p j - OctM.oval p i) ≤ s.mat i j

/-- the points of a `Box` object -/
def BoxS.γ (b : BoxS) (p : Nat → Rat) : Prop :=
  b.markedEmpty = false ∧ ∀ k (h : k < b.seq.length), (b.seq[k]).mem (p k)

/-- entrywise order on the cells of a `BD_Shape` of dimension `n` -/
def bdLE (n : Nat) (a b : Mat) : Prop := ∀ i j, i ≤ n → j ≤ n → a i j ≤ b i j
/-- entrywise order on the stored cells of an `Octagonal_Shape` of dimension `n` -/
def octLE (n : Nat) (a b : Mat) : Prop := ∀ i j, i < 2 * n → j < rowSize i → a i j ≤ b i j

end PPLV.Widen

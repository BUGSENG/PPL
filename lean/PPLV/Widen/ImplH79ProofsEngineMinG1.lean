import PPLV.Widen.ImplH79ProofsSem
import PPLV.Widen.ImplH79ProofsEngine0
import PPLV.Widen.ImplH79ProofsEngineMinAbs0
import Mathlib.Tactic.FieldSimp

/-!
# `hymin` from the engine guarantees: rows as linear functionals on `ℕ → ℚ`
-/
namespace PPLV.Widen.Impl

/-! ### step (1): the easy direction -/

theorem minCons_le_nontaut (n : Nat) (cs : List CRow) (wf : WFRows n cs) :
    minCons n (den false n cs) ≤ (cs.filter (!·.isTautological false)).length :=
  Nat.sInf_le ⟨_, wfRows_sublist List.filter_sublist wf, rfl, den_filter_nontaut n cs⟩

/-! ### `evalRow` is linear -/

theorem evalRow_add : ∀ (e : Vec) (u v : Nat → Rat), evalRow e (u + v) = evalRow e u + evalRow e v
  | [], _, _ => by simp [evalRow]
  | a :: as, u, v => by
    have h : (fun i => (u + v) (i + 1)) = (fun i => u (i + 1)) + (fun i => v (i + 1)) := rfl
    show (a : ℚ) * (u + v) 0 + evalRow as (fun i => (u + v) (i + 1)) = _
    rw [h, evalRow_add as]
    simp only [evalRow, Pi.add_apply]
    ring

theorem evalRow_smul : ∀ (e : Vec) (k : Rat) (u : Nat → Rat), evalRow e (k • u) = k * evalRow e u
  | [], _, _ => by simp [evalRow]
  | a :: as, k, u => by
    have h : (fun i => (k • u) (i + 1)) = k • (fun i => u (i + 1)) := rfl
    show (a : ℚ) * (k • u) 0 + evalRow as (fun i => (k • u) (i + 1)) = _
    rw [h, evalRow_smul as]
    simp only [evalRow, Pi.smul_apply, smul_eq_mul]
    ring

/-- the row as a linear functional -/
def evalL (e : Vec) : (Nat → Rat) →ₗ[ℚ] ℚ where
  toFun := evalRow e
  map_add' := evalRow_add e
  map_smul' := by intro k u; simpa using evalRow_smul e k u

@[simp] theorem evalL_apply (e : Vec) (v : Nat → Rat) : evalL e v = evalRow e v := rfl

/-- the first coordinate -/
def x0L : (Nat → Rat) →ₗ[ℚ] ℚ := LinearMap.proj 0

@[simp] theorem x0L_apply (v : Nat → Rat) : x0L v = v 0 := rfl

/-! ### integer vectors -/

def vecQ (v : Vec) : Nat → Rat := fun i => ((v.getD i 0 : Int) : Rat)

theorem evalRow_zero_funM : ∀ (e : Vec), evalRow e (fun _ => 0) = 0
  | [] => rfl
  | a :: as => by simp [evalRow, evalRow_zero_funM as]

theorem evalRow_vecQ : ∀ (e v : Vec), evalRow e (vecQ v) = ((sp e v : Int) : Rat)
  | [], v => by simp [evalRow, sp]
  | a :: as, [] => by
    have h : vecQ [] = fun _ => 0 := by funext i; simp [vecQ]
    rw [h, evalRow_zero_funM]; simp [sp]
  | a :: as, b :: bs => by
    have h : (fun i => vecQ (b :: bs) (i + 1)) = vecQ bs := by funext i; simp [vecQ]
    simp only [evalRow, h, evalRow_vecQ as bs, sp]
    simp [vecQ]

theorem vecQ_zero (v : Vec) : vecQ v 0 = ((v.headD 0 : Int) : Rat) := by
  cases v <;> simp [vecQ]

theorem holds_vecQ (c : CRow) (v : Vec) : c.holds (vecQ v) ↔ c.holdsZ v := by
  unfold CRow.holds CRow.holdsZ
  rw [evalRow_vecQ]
  cases c.eq <;> simp

/-! ### the cone is closed under sums and non-negative multiples -/

theorem holds_add {c : CRow} {u v : Nat → Rat} (hu : c.holds u) (hv : c.holds v) : c.holds (u + v) := by
  unfold CRow.holds at *
  rw [evalRow_add]
  split_ifs at * with h
  · rw [hu, hv]; simp
  · exact add_nonneg hu hv

theorem holds_smul {c : CRow} {k : Rat} (hk : 0 ≤ k) {u : Nat → Rat} (hu : c.holds u) :
    c.holds (k • u) := by
  unfold CRow.holds at *
  rw [evalRow_smul]
  split_ifs at * with h
  · rw [hu]; simp
  · exact mul_nonneg hk hu

theorem holds_smul_iff {c : CRow} {k : Rat} (hk : 0 < k) {u : Nat → Rat} :
    c.holds (k • u) ↔ c.holds u := by
  constructor
  · intro h
    have := holds_smul (inv_nonneg.mpr hk.le) h
    rwa [smul_smul, inv_mul_cancel₀ hk.ne', one_smul] at this
  · exact holds_smul hk.le

/-! ### the slice `x_0 = 1` -/

/-- the point of the slice below a vector with positive first coordinate -/
def ptOf (v : Nat → Rat) : Pt := fun i => v (i + 1) / v 0

theorem evalRow_congrM (e : Vec) (m : Nat) (h : e.length ≤ m) (u v : Nat → Rat)
    (huv : ∀ i, i < m → u i = v i) : evalRow e u = evalRow e v := by
  rw [evalRow_eq_sum e u m h, evalRow_eq_sum e v m h]
  apply Finset.sum_congr rfl
  intro i hi
  rw [huv i (Finset.mem_range.mp hi)]

theorem evalRow_hom_ptOf (n : Nat) (e : Vec) (h : e.length ≤ n + 1) (v : Nat → Rat) (hv : 0 < v 0) :
    evalRow e (hom n (ptOf v) 0) = evalRow e ((v 0)⁻¹ • v) := by
  apply evalRow_congrM e (n + 1) h
  intro i hi
  by_cases h0 : i = 0
  · subst h0
    simp [hom, hv.ne']
  · have h1 : i ≤ n := by omega
    have h2 : i - 1 + 1 = i := by omega
    simp [hom, h0, h1, ptOf, h2, div_eq_inv_mul]

theorem holds_hom_ptOf (n : Nat) (c : CRow) (h : c.e.length ≤ n + 1) (v : Nat → Rat) (hv : 0 < v 0) :
    c.holds (hom n (ptOf v) 0) ↔ c.holds v := by
  rw [← holds_smul_iff (inv_pos.mpr hv) (c := c) (u := v)]
  unfold CRow.holds
  rw [evalRow_hom_ptOf n c.e h v hv]

theorem satRows_hom_ptOf (n : Nat) (cs : List CRow) (wf : WFRows n cs) (v : Nat → Rat) (hv : 0 < v 0) :
    ptOf v ∈ den false n cs ↔ SatRows cs v := by
  rw [mem_den_false]
  constructor
  · intro hs c hc
    exact (holds_hom_ptOf n c (by rw [wf c hc]) v hv).mp (hs c hc)
  · intro hs c hc
    exact (holds_hom_ptOf n c (by rw [wf c hc]) v hv).mpr (hs c hc)

/-- two systems with the same point set have the same cone inside the open half space -/
theorem satRows_iff_of_den_eq (n : Nat) (cs ds : List CRow) (wc : WFRows n cs) (wd : WFRows n ds)
    (hden : den false n ds = den false n cs) (v : Nat → Rat) (hv : 0 < v 0) :
    SatRows cs v ↔ SatRows ds v := by
  rw [← satRows_hom_ptOf n cs wc v hv, ← satRows_hom_ptOf n ds wd v hv, hden]

end PPLV.Widen.Impl

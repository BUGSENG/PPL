import PPLV.Widen.ImplGridProofsGen
import PPLV.Lattice.ProofsRedGenBase

/-!
# `Grid::select_wider_generators`: structure of the selection and the counting behind the certificate

* `selectWiderGenerators_spec`: the selection emits one row per non-virtual dimension of `x`; the `i`-th emitted row
  is the `i`-th row of `x` or `grid_line` of it;
* `numLines_le_of_rel`, `numParameters_le_of_rel`, `numParameters_lt_of_rel`: turning rows into lines can only raise
  the number of lines and lower the number of parameters.
-/
namespace PPLV.Widen.ImplGrid
open PPLV.Lattice PPLV.Lattice.Red

/-! ### rows of a list -/

theorem rowAt_cons_zero {R : Type} [Inhabited R] (a : R) (l : List R) : rowAt (a :: l) 0 = a := by
  simp [rowAt]

theorem rowAt_cons_succ {R : Type} [Inhabited R] (a : R) (l : List R) (i : Nat) :
    rowAt (a :: l) (i + 1) = rowAt l i := by
  simp [rowAt]

/-! ### the number of rows the selection emits -/

/-- number of non-virtual dimensions (`PARAMETER` or `LINE`) among `dim, …, dim + fuel - 1` -/
def selCount (xdk : List Nat) : Nat → Nat → Nat
  | 0, _ => 0
  | fuel + 1, dim =>
    (if kind xdk dim = PARAMETER ∨ kind xdk dim = LINE then 1 else 0) + selCount xdk fuel (dim + 1)

theorem selCount_eq_filter (xdk : List Nat) : ∀ fuel dim : Nat, selCount xdk fuel dim =
    ((List.range fuel).filter fun j => kind xdk (dim + j) == PARAMETER || kind xdk (dim + j) == LINE).length := by
  intro fuel
  induction fuel with
  | zero => intro dim; simp [selCount]
  | succ fuel ih =>
    intro dim
    rw [selCount, ih, List.range_succ_eq_map, List.filter_cons, List.filter_map]
    have e : ((fun j => kind xdk (dim + j) == PARAMETER || kind xdk (dim + j) == LINE) ∘ Nat.succ)
        = fun j => kind xdk (dim + 1 + j) == PARAMETER || kind xdk (dim + 1 + j) == LINE := by
      funext j
      simp only [Function.comp, Nat.succ_eq_add_one]
      rw [show dim + (j + 1) = dim + 1 + j by omega]
    rw [e]
    by_cases h : kind xdk dim = PARAMETER ∨ kind xdk dim = LINE
    · have : (kind xdk (dim + 0) == PARAMETER || kind xdk (dim + 0) == LINE) = true := by
        simpa using h
      rw [if_pos h, if_pos this]; simp [Nat.add_comm]
    · have : ¬ (kind xdk (dim + 0) == PARAMETER || kind xdk (dim + 0) == LINE) = true := by
        simpa using h
      rw [if_neg h, if_neg this]; simp

/-- the number of `d ≤ n` with `dim_kinds[d]` a parameter or a line -/
def numNonVirtual (n : Nat) (xdk : List Nat) : Nat :=
  ((List.range (n + 1)).filter fun d => kind xdk d == PARAMETER || kind xdk d == LINE).length

theorem selCount_zero (n : Nat) (xdk : List Nat) : selCount xdk (n + 1) 0 = numNonVirtual n xdk := by
  rw [selCount_eq_filter]
  unfold numNonVirtual
  simp

/-! ### `Grid::select_wider_generators` -/

/-- the loop appends one row per non-virtual dimension left; the `i`-th appended row is row `xRow + i` of `x`
    or `grid_line` of it -/
theorem selectWiderGeneratorsLoop_spec (xs : List GRow) (xdk : List Nat) (ys : List GRow) (ydk : List Nat) :
    ∀ (fuel dim xRow yRow : Nat) (w : List GRow),
      ∃ ext, selectWiderGeneratorsLoop xs xdk ys ydk fuel dim xRow yRow w = w ++ ext ∧
        ext.length = selCount xdk fuel dim ∧
        ∀ i, i < ext.length →
          rowAt ext i = rowAt xs (xRow + i) ∨ rowAt ext i = gridLine (rowAt xs (xRow + i)) := by
  intro fuel
  induction fuel with
  | zero =>
    intro dim xRow yRow w
    exact ⟨[], by simp [selectWiderGeneratorsLoop], by simp [selCount], by simp⟩
  | succ fuel ih =>
    intro dim xRow yRow w
    have key : ∀ r' : GRow, (r' = rowAt xs xRow ∨ r' = gridLine (rowAt xs xRow)) →
        (kind xdk dim = PARAMETER ∨ kind xdk dim = LINE) →
        ∃ ext, selectWiderGeneratorsLoop xs xdk ys ydk fuel (dim + 1) (xRow + 1) (yRow + 1) (w ++ [r']) = w ++ ext ∧
          ext.length = selCount xdk (fuel + 1) dim ∧
          ∀ i, i < ext.length →
            rowAt ext i = rowAt xs (xRow + i) ∨ rowAt ext i = gridLine (rowAt xs (xRow + i)) := by
      intro r' hr' hkd
      obtain ⟨ext, h1, h2, h3⟩ := ih (dim + 1) (xRow + 1) (yRow + 1) (w ++ [r'])
      refine ⟨r' :: ext, by rw [h1]; simp, by rw [selCount, if_pos hkd, List.length_cons, h2]; omega, ?_⟩
      intro i hi
      cases i with
      | zero => rw [rowAt_cons_zero]; exact hr'
      | succ i =>
        rw [rowAt_cons_succ, show xRow + (i + 1) = xRow + 1 + i by omega]
        exact h3 i (by simpa using hi)
    have skip : ¬ (kind xdk dim = PARAMETER ∨ kind xdk dim = LINE) → ∀ yRow' : Nat,
        ∃ ext, selectWiderGeneratorsLoop xs xdk ys ydk fuel (dim + 1) xRow yRow' w = w ++ ext ∧
          ext.length = selCount xdk (fuel + 1) dim ∧
          ∀ i, i < ext.length →
            rowAt ext i = rowAt xs (xRow + i) ∨ rowAt ext i = gridLine (rowAt xs (xRow + i)) := by
      intro hkd yRow'
      obtain ⟨ext, h1, h2, h3⟩ := ih (dim + 1) xRow yRow' w
      exact ⟨ext, h1, by rw [selCount, if_neg hkd, h2]; omega, h3⟩
    rw [selectWiderGeneratorsLoop]
    by_cases hk : kind xdk dim = PARAMETER
    · rw [if_pos hk]
      by_cases hc : genIsEqualAtDimension (rowAt xs xRow) dim (rowAt ys yRow) = true
      · simp only [hc, if_true]; exact key _ (Or.inl rfl) (Or.inl hk)
      · simp only [hc]; exact key _ (Or.inr rfl) (Or.inl hk)
    rw [if_neg hk]
    by_cases hl : kind xdk dim = LINE
    · rw [if_pos hl]; exact key _ (Or.inl rfl) (Or.inr hl)
    rw [if_neg hl]
    have hkd : ¬ (kind xdk dim = PARAMETER ∨ kind xdk dim = LINE) := fun h => h.elim hk hl
    split
    · exact skip hkd _
    · exact skip hkd _

/-- (1) `select_wider_generators` emits one row per non-virtual dimension of `x`, in the order of the rows of `x`:
    the `i`-th emitted row is the `i`-th row of `x`, or `grid_line` of it -/
theorem selectWiderGenerators_spec (n : Nat) (xs : List GRow) (xdk : List Nat) (ys : List GRow) (ydk : List Nat) :
    (selectWiderGenerators n xs xdk ys ydk).length = numNonVirtual n xdk ∧
    ∀ i, i < numNonVirtual n xdk →
      rowAt (selectWiderGenerators n xs xdk ys ydk) i = rowAt xs i ∨
      rowAt (selectWiderGenerators n xs xdk ys ydk) i = gridLine (rowAt xs i) := by
  obtain ⟨ext, h1, h2, h3⟩ := selectWiderGeneratorsLoop_spec xs xdk ys ydk (n + 1) 0 0 0 []
  have e : selectWiderGenerators n xs xdk ys ydk = ext := by
    unfold selectWiderGenerators; rw [h1]; simp
  rw [e, h2, selCount_zero]
  refine ⟨rfl, fun i hi => ?_⟩
  have := h3 i (by rw [h2, selCount_zero]; exact hi)
  simpa using this

/-- the membership form: every emitted row is a row of `x` (or the default row of an out-of-range read) or
    `grid_line` of one -/
theorem selectWiderGenerators_mem (n : Nat) (xs : List GRow) (xdk : List Nat) (ys : List GRow) (ydk : List Nat) :
    ∀ r ∈ selectWiderGenerators n xs xdk ys ydk, ∃ i, r = rowAt xs i ∨ r = gridLine (rowAt xs i) := by
  intro r hr
  obtain ⟨hlen, hrows⟩ := selectWiderGenerators_spec n xs xdk ys ydk
  obtain ⟨i, hi, rfl⟩ := (mem_iff_rowAt _ r).mp hr
  exact ⟨i, hrows i (by rw [← hlen]; exact hi)⟩

/-- the first iteration when dimension `dim` is a parameter of `x` that agrees with `y`: the row is emitted unchanged -/
theorem selectWiderGeneratorsLoop_head (xs : List GRow) (xdk : List Nat) (ys : List GRow) (ydk : List Nat)
    (fuel dim xRow yRow : Nat) (w : List GRow) (hk : kind xdk dim = PARAMETER)
    (he : genIsEqualAtDimension (rowAt xs xRow) dim (rowAt ys yRow) = true) :
    selectWiderGeneratorsLoop xs xdk ys ydk (fuel + 1) dim xRow yRow w =
      selectWiderGeneratorsLoop xs xdk ys ydk fuel (dim + 1) (xRow + 1) (yRow + 1) (w ++ [rowAt xs xRow]) := by
  rw [selectWiderGeneratorsLoop]
  simp only [hk, if_true, he]

/-- two points (non-zero inhomogeneous terms) always agree at dimension 0: `x₀·y₀ = y₀·x₀` -/
theorem genIsEqualAtDimension_points (x y : GRow) (hx : get x.e 0 ≠ 0) (hy : get y.e 0 ≠ 0) :
    genIsEqualAtDimension x 0 y = true := by
  have h1 : x.isLineOrParameter = false := by simp [GRow.isLineOrParameter, hx]
  have h2 : y.isLineOrParameter = false := by simp [GRow.isLineOrParameter, hy]
  unfold genIsEqualAtDimension GRow.divisor
  rw [h1, h2]
  simp [Int.mul_comm]

/-- the point row of `x` (row 0, at the parameter dimension 0) is emitted unchanged when row 0 of `y` is a point -/
theorem selectWiderGenerators_row0 (n : Nat) (xs : List GRow) (xdk : List Nat) (ys : List GRow) (ydk : List Nat)
    (hk : kind xdk 0 = PARAMETER) (he : genIsEqualAtDimension (rowAt xs 0) 0 (rowAt ys 0) = true) :
    rowAt (selectWiderGenerators n xs xdk ys ydk) 0 = rowAt xs 0 := by
  unfold selectWiderGenerators
  rw [selectWiderGeneratorsLoop_head xs xdk ys ydk n 0 0 0 [] hk he]
  obtain ⟨ext, h1, _, _⟩ := selectWiderGeneratorsLoop_spec xs xdk ys ydk n 1 1 1 ([] ++ [rowAt xs 0])
  rw [h1]
  simp [rowAt]

example : selectWiderGenerators 2
    [⟨false, [1, 0, 0, 0]⟩, ⟨false, [0, 2, 1, 1]⟩, ⟨true, [0, 0, 1, 0]⟩] [0, 0, 1]
    [⟨false, [1, 0, 0, 0]⟩, ⟨false, [0, 4, 0, 1]⟩, ⟨false, [0, 0, 3, 1]⟩] [0, 0, 0]
    = [⟨false, [1, 0, 0, 0]⟩, ⟨true, [0, 2, 1, 0]⟩, ⟨true, [0, 0, 1, 0]⟩] := by decide
example : numNonVirtual 2 [0, 0, 1] = 3 := by decide
example : numNonVirtual 2 [0, 2, 1] = 2 := by decide

/-! ### counting: lines and parameters -/

theorem gridLine_line (r : GRow) : (gridLine r).line = true := rfl

theorem gridLine_isLine (r : GRow) : (gridLine r).isLine = true := rfl

/-- the relation between a row of `x` and the row `select_wider_generators` emits for it -/
def SelRel (a b : GRow) : Prop := b = a ∨ b = gridLine a

theorem forall₂_of_rowAt (R : GRow → GRow → Prop) : ∀ (xs out : List GRow), out.length = xs.length →
    (∀ i, i < xs.length → R (rowAt xs i) (rowAt out i)) → List.Forall₂ R xs out := by
  intro xs
  induction xs with
  | nil =>
    intro out hlen _
    have : out = [] := List.length_eq_zero_iff.mp (by simpa using hlen)
    subst this; exact List.Forall₂.nil
  | cons a l ih =>
    intro out hlen h
    cases out with
    | nil => simp at hlen
    | cons b m =>
      refine List.Forall₂.cons ?_ (ih m (by simpa using hlen) fun i hi => ?_)
      · have := h 0 (by simp)
        rwa [rowAt_cons_zero, rowAt_cons_zero] at this
      · have := h (i + 1) (by simpa using hi)
        rwa [rowAt_cons_succ, rowAt_cons_succ] at this

theorem selRel_of_rowAt (xs out : List GRow) (hlen : out.length = xs.length)
    (h : ∀ i, i < xs.length → rowAt out i = rowAt xs i ∨ rowAt out i = gridLine (rowAt xs i)) :
    List.Forall₂ SelRel xs out := forall₂_of_rowAt SelRel xs out hlen h

theorem numLines_cons (a : GRow) (l : List GRow) :
    numLines (a :: l) = (if a.isLine = true then 1 else 0) + numLines l := by
  unfold numLines
  cases h : a.isLine <;> simp only [List.filter_cons, h] <;> simp [Nat.add_comm]

theorem numParameters_cons (a : GRow) (l : List GRow) :
    numParameters (a :: l) = (if (!a.isLine && a.isLineOrParameter) = true then 1 else 0) + numParameters l := by
  unfold numParameters
  cases h : (!a.isLine && a.isLineOrParameter) <;> simp only [List.filter_cons, h] <;> simp [Nat.add_comm]

/-- turning rows into lines: at least as many lines, at most as many parameters -/
theorem counts_of_selRel {xs out : List GRow} (h : List.Forall₂ SelRel xs out) :
    numLines xs ≤ numLines out ∧ numParameters out ≤ numParameters xs := by
  induction h with
  | nil => simp [numLines, numParameters]
  | @cons a b l m hab _ ih =>
    obtain ⟨ih1, ih2⟩ := ih
    rw [numLines_cons, numLines_cons, numParameters_cons, numParameters_cons]
    rcases hab with rfl | rfl
    · exact ⟨by omega, by omega⟩
    · rw [gridLine_isLine]
      simp only [Bool.not_true, Bool.false_and, if_true, Bool.false_eq_true, if_false]
      constructor
      · split <;> omega
      · split <;> omega

/-- (2) the number of lines does not decrease -/
theorem numLines_le_of_rel (xs out : List GRow) (hlen : out.length = xs.length)
    (h : ∀ i, i < xs.length → rowAt out i = rowAt xs i ∨ rowAt out i = gridLine (rowAt xs i)) :
    numLines xs ≤ numLines out := (counts_of_selRel (selRel_of_rowAt xs out hlen h)).1

/-- (2) the number of parameters does not increase -/
theorem numParameters_le_of_rel (xs out : List GRow) (hlen : out.length = xs.length)
    (h : ∀ i, i < xs.length → rowAt out i = rowAt xs i ∨ rowAt out i = gridLine (rowAt xs i)) :
    numParameters out ≤ numParameters xs := (counts_of_selRel (selRel_of_rowAt xs out hlen h)).2

/-- (2) … and when it differs it is strictly smaller (what `Grid_Certificate` compares after the equalities) -/
theorem numParameters_lt_of_rel (xs out : List GRow) (hlen : out.length = xs.length)
    (h : ∀ i, i < xs.length → rowAt out i = rowAt xs i ∨ rowAt out i = gridLine (rowAt xs i))
    (hne : numParameters out ≠ numParameters xs) : numParameters out < numParameters xs := by
  have := numParameters_le_of_rel xs out hlen h
  omega

/-- the counting for `select_wider_generators` when `dim_kinds` of `x` names as many non-virtual dimensions as
    `x` has rows -/
theorem selectWiderGenerators_counts (n : Nat) (xs : List GRow) (xdk : List Nat) (ys : List GRow) (ydk : List Nat)
    (hk : numNonVirtual n xdk = xs.length) :
    (selectWiderGenerators n xs xdk ys ydk).length = xs.length ∧
    numLines xs ≤ numLines (selectWiderGenerators n xs xdk ys ydk) ∧
    numParameters (selectWiderGenerators n xs xdk ys ydk) ≤ numParameters xs ∧
    (numParameters (selectWiderGenerators n xs xdk ys ydk) ≠ numParameters xs →
      numParameters (selectWiderGenerators n xs xdk ys ydk) < numParameters xs) := by
  obtain ⟨hlen, hrows⟩ := selectWiderGenerators_spec n xs xdk ys ydk
  rw [hk] at hlen hrows
  exact ⟨hlen, numLines_le_of_rel _ _ hlen hrows, numParameters_le_of_rel _ _ hlen hrows,
    numParameters_lt_of_rel _ _ hlen hrows⟩

example : numLines [⟨false, [1, 0, 0, 0]⟩, ⟨false, [0, 2, 1, 1]⟩, ⟨true, [0, 0, 1, 0]⟩] = 1 ∧
    numLines [⟨false, [1, 0, 0, 0]⟩, ⟨true, [0, 2, 1, 0]⟩, ⟨true, [0, 0, 1, 0]⟩] = 2 ∧
    numParameters [⟨false, [1, 0, 0, 0]⟩, ⟨false, [0, 2, 1, 1]⟩, ⟨true, [0, 0, 1, 0]⟩] = 1 ∧
    numParameters [⟨false, [1, 0, 0, 0]⟩, ⟨true, [0, 2, 1, 0]⟩, ⟨true, [0, 0, 1, 0]⟩] = 0 := by decide

end PPLV.Widen.ImplGrid

import PPLV.Props.C01ConvMinimal
import PPLV.Widen.ImplH79ProofsEngineBridgeIndep
/-!
# bridge facts about the constraint system `minimize(true, cs, gs, sat)` leaves

With `m := PPLV.Conv.minimize true false ncols source sat0`, when `m.empty = false`:

* `minimize_source_eq_of_lt` / `minimize_source_ineq_of_ge` / `minimize_source_le_iff` — the first
  `m.rank` rows of `m.source` are equalities and ALL the others are inequalities (an equality of the
  input is saturated by every generator, its exact saturation row is empty, so the equality detection
  of `simplify` finds it wherever it stands);
* `minimize_proper` — an inequality of `m.source` is not saturated by every generator of `m.dest`.

All of it is `PPLV.Conv.simplify_result_core` (`Conv/ProofsCompleteMinimal4.lean`) with the pivots of
`back_substitute` from `simplify_backSubPivots` (`Conv/ProofsCompleteGauss3.lean`).
-/
namespace PPLV.Widen.Impl
open PPLV.Conv

/-- the facts of `simplify_result_core` on the result of `minimize`. -/
theorem minimize_result_core (ncols : Nat) (source : List LRow) (sat0 : List BRow)
    (hsz : ncols < 2 ^ 64) (hsrc : source.length < 2 ^ 64)
    (hne : (minimize true false ncols source sat0).empty = false) :
    ∃ F : List SRow,
      (minimize true false ncols source sat0).source = F.map (·.row) ∧
      (∀ k, k < F.length → ∀ g ∈ (minimize true false ncols source sat0).dest,
        satisfies (F.getD k default).row g) ∧
      (∀ k, k < (minimize true false ncols source sat0).rank → (F.getD k default).row.le = true) ∧
      (∀ k, (minimize true false ncols source sat0).rank ≤ k → k < F.length →
        (F.getD k default).row.le = false ∧ bitsEmpty (F.getD k default).sat = false ∧
        ExactBits (minimize true false ncols source sat0).dest (F.getD k default)) := by
  have hp := minimize_hasPoint false ncols source sat0 hne
  obtain ⟨hs, _, _, _, hsatc, _⟩ := C01.conversion_dd_pair ncols source hsz hsrc
  have hsub := conversion_source_subset ncols source 0 (identityLines ncols)
    (List.replicate ncols (List.replicate source.length false)) ncols
  rw [minimize_of_hasPoint true false ncols source sat0 _ rfl hp]
  generalize conversion ncols source 0 (identityLines ncols)
    (List.replicate ncols (List.replicate source.length false)) ncols = r at hs hsatc hsub
  have hcore := simplify_result_core ncols r.dest.length
    (zipSys r.source (transpose r.source.length r.sat)) r.dest
    (zipSys_rowOK r.source (transpose r.source.length r.sat) r.dest
      (satCorrect_transpose r.source r.dest r.sat hsatc)
      (fun d hd s hs' => hs d hd s (hsub s hs')))
    (simplify_backSubPivots ncols r.dest.length (zipSys r.source (transpose r.source.length r.sat)))
  dsimp only
  exact ⟨_, rfl, hcore.1, hcore.2.1, hcore.2.2.1⟩

theorem getD_map_row (F : List SRow) (k : Nat) (hk : k < F.length) :
    (F.map (·.row)).getD k default = (F.getD k default).row := by
  rw [List.getD_eq_getElem?_getD, List.getElem?_map, List.getElem?_eq_getElem hk,
    List.getD_eq_getElem?_getD, List.getElem?_eq_getElem hk]
  rfl

/-- the first `rank` rows are equalities. -/
theorem minimize_source_eq_of_lt (ncols : Nat) (source : List LRow) (sat0 : List BRow)
    (hsz : ncols < 2 ^ 64) (hsrc : source.length < 2 ^ 64)
    (hne : (minimize true false ncols source sat0).empty = false) :
    ∀ i, i < (minimize true false ncols source sat0).source.length →
      i < (minimize true false ncols source sat0).rank →
      ((minimize true false ncols source sat0).source.getD i default).le = true := by
  obtain ⟨F, hF, _, he, _⟩ := minimize_result_core ncols source sat0 hsz hsrc hne
  intro i hi hlt
  rw [hF, List.length_map] at hi
  rw [hF, getD_map_row F i hi]
  exact he i hlt

/-- all the rows from `rank` on are inequalities. -/
theorem minimize_source_ineq_of_ge (ncols : Nat) (source : List LRow) (sat0 : List BRow)
    (hsz : ncols < 2 ^ 64) (hsrc : source.length < 2 ^ 64)
    (hne : (minimize true false ncols source sat0).empty = false) :
    ∀ i, (minimize true false ncols source sat0).rank ≤ i →
      i < (minimize true false ncols source sat0).source.length →
      ((minimize true false ncols source sat0).source.getD i default).le = false := by
  obtain ⟨F, hF, _, _, hb⟩ := minimize_result_core ncols source sat0 hsz hsrc hne
  intro i hge hi
  rw [hF, List.length_map] at hi
  rw [hF, getD_map_row F i hi]
  exact (hb i hge hi).1

/-- **the equalities of the result are exactly its first `rank` rows.** -/
theorem minimize_source_le_iff (ncols : Nat) (source : List LRow) (sat0 : List BRow)
    (hsz : ncols < 2 ^ 64) (hsrc : source.length < 2 ^ 64)
    (hne : (minimize true false ncols source sat0).empty = false) :
    ∀ i, i < (minimize true false ncols source sat0).source.length →
      (((minimize true false ncols source sat0).source.getD i default).le = true ↔
        i < (minimize true false ncols source sat0).rank) := by
  intro i hi
  constructor
  · intro hle
    by_contra hc
    have := minimize_source_ineq_of_ge ncols source sat0 hsz hsrc hne i (Nat.le_of_not_lt hc) hi
    rw [this] at hle
    cases hle
  · exact minimize_source_eq_of_lt ncols source sat0 hsz hsrc hne i hi

/-- **an inequality of the result is not saturated by every generator.** -/
theorem minimize_proper (ncols : Nat) (source : List LRow) (sat0 : List BRow)
    (hsz : ncols < 2 ^ 64) (hsrc : source.length < 2 ^ 64)
    (hne : (minimize true false ncols source sat0).empty = false) :
    ∀ c ∈ (minimize true false ncols source sat0).source, c.le = false →
      ∃ g ∈ (minimize true false ncols source sat0).dest, scalarProduct c.v g.v ≠ 0 := by
  obtain ⟨F, hF, ha, he, hb⟩ := minimize_result_core ncols source sat0 hsz hsrc hne
  intro c hc hle
  rw [hF] at hc
  obtain ⟨s, hs, rfl⟩ := List.mem_map.1 hc
  obtain ⟨k, hk, rfl⟩ := List.mem_iff_getElem.1 hs
  have hgk : F.getD k default = F[k] := by
    rw [List.getD_eq_getElem?_getD, List.getElem?_eq_getElem hk]; rfl
  have hge : (minimize true false ncols source sat0).rank ≤ k := by
    by_contra hlt
    have := he k (Nat.lt_of_not_le hlt)
    rw [hgk] at this
    change F[k].row.le = false at hle
    rw [this] at hle
    cases hle
  obtain ⟨_, hne', hex⟩ := hb k hge hk
  rw [hgk] at hne' hex
  have hj : ∃ j, bit F[k].sat j = true := by
    by_contra hall
    have : bitsEmpty F[k].sat = true := (bitsEmpty_iff _).2 (fun j => by
      cases hbj : bit F[k].sat j
      · rfl
      · exact absurd ⟨j, hbj⟩ hall)
    rw [this] at hne'
    cases hne'
  obtain ⟨j, hbj⟩ := hj
  obtain ⟨hjl, hpos⟩ := pos_of_bit hex (fun g hg => by have := ha k hk g hg; rwa [hgk] at this) j hbj
  exact ⟨_, List.getElem_mem hjl, ne_of_gt hpos⟩

end PPLV.Widen.Impl

import PPLV.Widen.ImplH79ProofsEngineMinG1
import Mathlib.Data.List.NodupEquivFin
import Mathlib.Data.List.Duplicate
import Mathlib.Data.List.GetD
import Mathlib.Tactic.Positivity

/-!
# `hymin` from the engine guarantees: the engine guarantees give `Abs.Setup`
-/
namespace PPLV.Widen.Impl

/-- the equality rows -/
def eqsOf (y : YMin) : List CRow := y.conSys.filter (·.eq)
/-- the non-tautological inequality rows -/
def ineqsOf (y : YMin) : List CRow := y.conSys.filter (fun c => !c.eq && !c.isTautological false)

def famA (y : YMin) : Fin (eqsOf y).length → (Nat → Rat) →ₗ[ℚ] ℚ := fun i => evalL ((eqsOf y).get i).e
def famC (y : YMin) : Fin (ineqsOf y).length → (Nat → Rat) →ₗ[ℚ] ℚ := fun i => evalL ((ineqsOf y).get i).e
def famD (cs : List CRow) : Fin cs.length → Bool × ((Nat → Rat) →ₗ[ℚ] ℚ) :=
  fun i => ((cs.get i).eq, evalL (cs.get i).e)

/-- EXTRA HYPOTHESIS (not a consequence of `EngineDD`, see the counterexample in `ImplH79ProofsEngineMin`):
every non-tautological inequality is saturated by a point of the generator system (every facet of the
homogeneous cone other than the facet at infinity holds a point of the polyhedron) -/
def FacetPoints (y : YMin) : Prop :=
  ∀ c ∈ y.conSys, c.eq = false → c.isTautological false = false →
    ∃ g ∈ y.genSys, g.line = false ∧ 0 < g.e.headD 0 ∧ sp c.e g.e = 0

theorem mem_eqsOf {y : YMin} {c : CRow} : c ∈ eqsOf y ↔ c ∈ y.conSys ∧ c.eq = true := by
  simp [eqsOf]

theorem mem_ineqsOf {y : YMin} {c : CRow} :
    c ∈ ineqsOf y ↔ c ∈ y.conSys ∧ c.eq = false ∧ c.isTautological false = false := by
  simp [ineqsOf]

theorem holds_eq {c : CRow} (h : c.eq = true) (v : Nat → Rat) : c.holds v ↔ evalRow c.e v = 0 := by
  unfold CRow.holds; simp [h]

theorem holds_ineq {c : CRow} (h : c.eq = false) (v : Nat → Rat) : c.holds v ↔ 0 ≤ evalRow c.e v := by
  unfold CRow.holds; simp [h]

/-- the generators belong to the cone -/
theorem gen_holds {n : Nat} {y : YMin} (hy : EngineDD n y) {g : GRow} (hg : g ∈ y.genSys) :
    SatRows y.conSys (vecQ g.e) := by
  intro c hc
  rw [holds_vecQ]
  have h := hy.gens_in g hg c hc
  unfold CRow.holdsZ
  cases hce : c.eq <;> cases hgl : g.line <;> simp [hce, hgl] at h ⊢ <;> omega

/-- inside the open half space the cone of the system is the cone of `famA`, `famC` -/
theorem inK_iff_sat (y : YMin) (v : Nat → Rat) (hv : 0 < v 0) :
    Abs.InK (famA y) (famC y) v ↔ SatRows y.conSys v := by
  constructor
  · rintro ⟨hA, hC⟩ c hc
    by_cases ht : c.isTautological false = true
    · rw [← holds_smul_iff (inv_pos.mpr hv)]
      apply holds_of_taut ht
      simp [hv.ne']
    · cases hce : c.eq
      · obtain ⟨j, hj⟩ := List.get_of_mem (mem_ineqsOf.mpr ⟨hc, hce, by simpa using ht⟩)
        have := hC j
        simp only [famC, evalL_apply, hj] at this
        exact (holds_ineq hce v).mpr this
      · obtain ⟨j, hj⟩ := List.get_of_mem (mem_eqsOf.mpr ⟨hc, hce⟩)
        have := hA j
        simp only [famA, evalL_apply, hj] at this
        exact (holds_eq hce v).mpr this
  · intro hs
    constructor
    · intro i
      have hm := mem_eqsOf.mp (List.get_mem (eqsOf y) i)
      exact (holds_eq hm.2 v).mp (hs _ hm.1)
    · intro j
      have hm := mem_ineqsOf.mp (List.get_mem (ineqsOf y) j)
      exact (holds_ineq hm.2.1 v).mp (hs _ hm.1)

theorem satRows_iff_famD (cs : List CRow) (v : Nat → Rat) :
    SatRows cs v ↔ ∀ i, Abs.Holds (famD cs i) v := by
  constructor
  · intro h i
    exact h _ (List.get_mem cs i)
  · intro h c hc
    obtain ⟨i, rfl⟩ := List.get_of_mem hc
    exact h i

/-! ### step (2): the interior vector -/

theorem pstar_aux {n : Nat} {y : YMin} (hy : EngineDD n y) :
    ∀ l : List CRow, (∀ c ∈ l, c ∈ y.conSys ∧ c.eq = false) →
      ∃ p : Nat → Rat, 0 < p 0 ∧ SatRows y.conSys p ∧ ∀ c ∈ l, 0 < evalRow c.e p
  | [], _ => by
    obtain ⟨g, hg, _, h0⟩ := hy.hasPoint
    refine ⟨vecQ g.e, ?_, gen_holds hy hg, by simp⟩
    rw [vecQ_zero]; exact_mod_cast h0
  | c :: l, hl => by
    obtain ⟨p, hp0, hps, hpl⟩ := pstar_aux hy l (fun c' hc' => hl c' (List.mem_cons_of_mem _ hc'))
    obtain ⟨hc, hce⟩ := hl c List.mem_cons_self
    obtain ⟨g, hg, hgp⟩ := hy.proper c hc hce
    have hgs := gen_holds hy hg
    set M : Rat := (|vecQ g.e 0| + 1) / p 0 with hM
    have hMpos : 0 < M := by positivity
    have hMp : M * p 0 = |vecQ g.e 0| + 1 := by rw [hM]; field_simp
    refine ⟨M • p + vecQ g.e, ?_, ?_, ?_⟩
    · simp only [Pi.add_apply, Pi.smul_apply, smul_eq_mul, hMp]
      have := neg_abs_le (vecQ g.e 0)
      linarith
    · intro c' hc'
      exact holds_add (holds_smul hMpos.le (hps c' hc')) (hgs c' hc')
    · intro c' hc'
      have hce' : c'.eq = false := (hl c' hc').2
      have hin : c' ∈ y.conSys := (hl c' hc').1
      have h1 : 0 ≤ evalRow c'.e p := (holds_ineq hce' p).mp (hps c' hin)
      have h2 : 0 ≤ evalRow c'.e (vecQ g.e) := (holds_ineq hce' _).mp (hgs c' hin)
      rw [evalRow_add, evalRow_smul]
      rcases List.mem_cons.mp hc' with rfl | hc''
      · have h3 : 0 < evalRow c'.e (vecQ g.e) := by rw [evalRow_vecQ]; exact_mod_cast hgp
        have := mul_nonneg hMpos.le h1
        linarith
      · have := mul_pos hMpos (hpl c' hc'')
        linarith

/-! ### irredundancy, row-wise -/

theorem irred_row {n : Nat} {y : YMin} (hy : EngineDD n y) {c : CRow} (hc : c ∈ y.conSys)
    (hce : c.eq = false) :
    ∃ v : Vec, (∀ c' ∈ y.conSys, c' ≠ c → c'.holdsZ v) ∧ ¬ c.holdsZ v := by
  obtain ⟨i, hi, rfl⟩ := List.getElem_of_mem hc
  obtain ⟨v, _, hv1, hv2⟩ := hy.irred i hi (by rw [List.getD_eq_getElem _ _ hi]; exact hce)
  rw [List.getD_eq_getElem _ _ hi] at hv2
  refine ⟨v, ?_, hv2⟩
  intro c' hc' hne
  obtain ⟨k, hk, rfl⟩ := List.getElem_of_mem hc'
  have hki : k ≠ i := by rintro rfl; exact hne rfl
  have := hv1 k hk hki
  rwa [List.getD_eq_getElem _ _ hk] at this

theorem count_ineq_le_one {n : Nat} {y : YMin} (hy : EngineDD n y) (c : CRow) (hce : c.eq = false) :
    y.conSys.count c ≤ 1 := by
  by_contra hcon
  have h2 : 2 ≤ y.conSys.count c := by omega
  obtain ⟨a, b, hab, ha, hb⟩ :=
    List.duplicate_iff_exists_distinct_get.mp (List.duplicate_iff_two_le_count.mpr h2)
  have hai : a.val < y.conSys.length := a.2
  have hbi : b.val < y.conSys.length := b.2
  have hga : y.conSys.getD a.val default = c := by
    rw [List.getD_eq_getElem _ _ hai]; exact ha.symm
  have hgb : y.conSys.getD b.val default = c := by
    rw [List.getD_eq_getElem _ _ hbi]; exact hb.symm
  obtain ⟨v, _, hv1, hv2⟩ := hy.irred a.val hai (by rw [hga]; exact hce)
  have hne : b.val ≠ a.val := by
    have : a.val < b.val := hab
    omega
  have := hv1 b.val hbi hne
  rw [hgb] at this
  rw [hga] at hv2
  exact hv2 this

theorem ineqsOf_nodup {n : Nat} {y : YMin} (hy : EngineDD n y) : (ineqsOf y).Nodup := by
  rw [List.nodup_iff_count_le_one]
  intro c
  by_cases hm : c ∈ ineqsOf y
  · have hm' := mem_ineqsOf.mp hm
    unfold ineqsOf
    rw [List.count_filter (by simp [hm'.2.1, hm'.2.2])]
    exact count_ineq_le_one hy c hm'.2.1
  · rw [List.count_eq_zero_of_not_mem hm]; omega

end PPLV.Widen.Impl

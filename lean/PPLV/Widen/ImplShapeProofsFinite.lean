import PPLV.Widen.ImplShapeProofsRank
/-!
# The BHMZ05 loops of the shapes: the finite entries only ever disappear

One cell of the BHMZ05 loops (`bhmz05Cell`) returns `+∞` unless the cell of `y` is non-redundant and equal to the
cell of `x`.  Hence the result of the loops is, cell by cell, `+∞` or the cell of the *reduced* previous iterate,
and the number of finite cells (`bdFinCount` / `octFinCount`) of the result is at most that of the reduced
previous iterate, strictly less unless the loops return the reduced previous iterate.

The chain theorems are `_partial`: between two steps the real iteration closes the result and reduces it again
(`shortest_path_closure_assign` + `shortest_path_reduction_assign`, `strong_closure_assign` +
`strong_reduction_assign`); that the reduction of the closure of a matrix has no more finite non-redundant cells
than the matrix has finite cells (minimality of the shortest-path reduction, Larsen et al.) is NOT proved here: it
is the named hypothesis `hLarsen`, which the native driver checks on every real step.
-/
namespace PPLV.Widen
open PPLV.WR
open PPLV.WR.ExtRat (fin pinf le_rfl' le_trans' le_total' le_pinf)

/-- `1` for a finite bound, `0` for `+∞` -/
def cellFin : ExtRat → Nat
  | .pinf => 0
  | .fin _ => 1

/-- the number of cells of a `BD_Shape` matrix of dimension `n` that are not `+∞` -/
def bdFinCount (n : Nat) (m : Mat) : Nat := matSum (bdCells n) cellFin m
/-- the number of stored cells of an `Octagonal_Shape` matrix of dimension `n` that are not `+∞` -/
def octFinCount (n : Nat) (m : Mat) : Nat := matSum (octCells n) cellFin m

theorem cellFin_pinf_or {a b : ExtRat} (h : a = pinf ∨ a = b) :
    cellFin a ≤ cellFin b ∧ (a ≠ b → cellFin a < cellFin b) := by
  rcases h with h | h
  · subst h
    cases b with
    | pinf => exact ⟨Nat.le_refl _, fun hne => absurd rfl hne⟩
    | fin q => exact ⟨by simp [cellFin], fun _ => by simp [cellFin]⟩
  · subst h; exact ⟨Nat.le_refl _, fun hne => absurd rfl hne⟩

/-- one cell: finite only when `y`'s cell is non-redundant and equal to `x`'s -/
theorem bhmz05Cell_finite {x y : ExtRat} {r : Bool} (h : bhmz05Cell x y r ≠ pinf) :
    r = false ∧ y = x ∧ bhmz05Cell x y r = y := by
  unfold bhmz05Cell at h ⊢
  by_cases hc : (r || y != x) = true
  · rw [if_pos hc] at h; exact absurd rfl h
  · rw [if_neg hc]
    simp only [Bool.or_eq_true, bne_iff_ne, ne_eq, not_or, Bool.not_eq_true, not_not] at hc
    exact ⟨hc.1, hc.2, hc.2.symm⟩

/-- generic counting step over a list of cells -/
theorem finCount_step (cells : List (Nat × Nat)) (R yr : Mat)
    (h : ∀ p, p ∈ cells → R p.1 p.2 = pinf ∨ R p.1 p.2 = yr p.1 p.2) :
    matSum cells cellFin R ≤ matSum cells cellFin yr ∧
    ((∃ p, p ∈ cells ∧ R p.1 p.2 ≠ yr p.1 p.2) → matSum cells cellFin R < matSum cells cellFin yr) := by
  refine ⟨(sum_map_le cells _ _ (fun p hp => (cellFin_pinf_or (h p hp)).1)).1, ?_⟩
  rintro ⟨p, hp, hne⟩
  exact sum_map_lt cells _ _ (fun p hp => (cellFin_pinf_or (h p hp)).1) p hp ((cellFin_pinf_or (h p hp)).2 hne)

/-- **`BD_Shape::BHMZ05_widening_assign`, the loops**: with `R` the result and `yr` the reduced `y`
(`bdsReducedMat`: redundant cells replaced by `+∞`),
(1) a finite cell of `R` is a non-redundant cell of `y` equal to the cell of `x`;
(2) every cell of `R` is `+∞` or the cell of `yr`;
(3) `R` has at most as many finite cells as `yr`, strictly fewer if it differs from `yr` on some cell. -/
theorem bd_bhmz05_finite_entries_decrease (n : Nat) (x y : Mat) (red : BMat) :
    (∀ i j, i ≤ n → j ≤ n → bdBHMZ05Loops n x y red i j ≠ pinf →
        red i j = false ∧ y i j = x i j ∧ bdBHMZ05Loops n x y red i j = y i j) ∧
    (∀ i j, i ≤ n → j ≤ n →
        bdBHMZ05Loops n x y red i j = pinf ∨ bdBHMZ05Loops n x y red i j = bdsReducedMat y red i j) ∧
    bdFinCount n (bdBHMZ05Loops n x y red) ≤ bdFinCount n (bdsReducedMat y red) ∧
    ((∃ i j, i ≤ n ∧ j ≤ n ∧ bdBHMZ05Loops n x y red i j ≠ bdsReducedMat y red i j) →
        bdFinCount n (bdBHMZ05Loops n x y red) < bdFinCount n (bdsReducedMat y red)) := by
  have h1 : ∀ i j, i ≤ n → j ≤ n → bdBHMZ05Loops n x y red i j ≠ pinf →
      red i j = false ∧ y i j = x i j ∧ bdBHMZ05Loops n x y red i j = y i j := by
    intro i j hi hj
    rw [bdBHMZ05Loops_apply, if_pos (by omega)]
    exact bhmz05Cell_finite
  have h2 : ∀ i j, i ≤ n → j ≤ n →
      bdBHMZ05Loops n x y red i j = pinf ∨ bdBHMZ05Loops n x y red i j = bdsReducedMat y red i j := by
    intro i j hi hj
    by_cases hp : bdBHMZ05Loops n x y red i j = pinf
    · exact Or.inl hp
    · obtain ⟨a, _, c⟩ := h1 i j hi hj hp
      refine Or.inr ?_
      rw [c]
      simp [bdsReducedMat, a]
  obtain ⟨c1, c2⟩ := finCount_step (bdCells n) (bdBHMZ05Loops n x y red) (bdsReducedMat y red)
    (fun p hp => by
      obtain ⟨i, j⟩ := p
      rw [mem_bdCells] at hp
      exact h2 i j hp.1 hp.2)
  refine ⟨h1, h2, c1, ?_⟩
  rintro ⟨i, j, hi, hj, hne⟩
  exact c2 ⟨(i, j), (mem_bdCells n i j).2 ⟨hi, hj⟩, hne⟩

/-- **`Octagonal_Shape::BHMZ05_widening_assign`, the loop** (`y` is already the strongly reduced matrix, its
redundant cells hold `+∞`): a finite cell of the result is the cell of `y` and of `x`; every stored cell of the
result is `+∞` or the cell of `y`; the finite stored cells can only disappear. -/
theorem oct_bhmz05_finite_entries_decrease (n : Nat) (x y : Mat) :
    (∀ i j, i < 2 * n → j < rowSize i → octBHMZ05Loops n x y i j ≠ pinf →
        y i j = x i j ∧ octBHMZ05Loops n x y i j = y i j) ∧
    (∀ i j, i < 2 * n → j < rowSize i → octBHMZ05Loops n x y i j = pinf ∨ octBHMZ05Loops n x y i j = y i j) ∧
    octFinCount n (octBHMZ05Loops n x y) ≤ octFinCount n y ∧
    ((∃ i j, i < 2 * n ∧ j < rowSize i ∧ octBHMZ05Loops n x y i j ≠ y i j) →
        octFinCount n (octBHMZ05Loops n x y) < octFinCount n y) := by
  have h1 : ∀ i j, i < 2 * n → j < rowSize i → octBHMZ05Loops n x y i j ≠ pinf →
      y i j = x i j ∧ octBHMZ05Loops n x y i j = y i j := by
    intro i j hi hj
    rw [octBHMZ05Loops_apply, if_pos ⟨hi, hj⟩]
    exact fun h => (bhmz05Cell_finite h).2
  have h2 : ∀ i j, i < 2 * n → j < rowSize i →
      octBHMZ05Loops n x y i j = pinf ∨ octBHMZ05Loops n x y i j = y i j := by
    intro i j hi hj
    by_cases hp : octBHMZ05Loops n x y i j = pinf
    · exact Or.inl hp
    · exact Or.inr (h1 i j hi hj hp).2
  obtain ⟨c1, c2⟩ := finCount_step (octCells n) (octBHMZ05Loops n x y) y
    (fun p hp => by
      obtain ⟨i, j⟩ := p
      rw [mem_octCells] at hp
      exact h2 i j hp.1 hp.2)
  refine ⟨h1, h2, c1, ?_⟩
  rintro ⟨i, j, hi, hj, hne⟩
  exact c2 ⟨(i, j), (mem_octCells n i j).2 ⟨hi, hj⟩, hne⟩

/-- **The BHMZ05 iteration on `BD_Shape` is eventually stationary — PARTIAL.**  `Y k` is the closed previous
iterate of step `k`, `Red k` its redundancy bits, `X k` the (arbitrary) larger argument,
`R k = bdBHMZ05Loops n (X k) (Y k) (Red k)` the result, from which the real iteration obtains `Y (k+1)`,
`Red (k+1)` by closure + reduction.  EXTRA HYPOTHESIS `hLarsen` (not proved: minimality of the shortest-path
reduction; the native driver checks it on every real step): closing and reducing `R k` leaves at most as many
finite non-redundant cells as `R k` has finite cells.  Conclusion: from some step on the loops return the
reduced previous iterate on every cell, i.e. the iteration is stationary as sets. -/
theorem bd_bhmz05_chain_stabilises_partial (n : Nat) (X Y : Nat → Mat) (Red : Nat → BMat) (R : Nat → Mat)
    (hR : ∀ k, R k = bdBHMZ05Loops n (X k) (Y k) (Red k))
    (hLarsen : ∀ k, bdFinCount n (bdsReducedMat (Y (k + 1)) (Red (k + 1))) ≤ bdFinCount n (R k)) :
    ∃ N, ∀ k, k ≥ N → ∀ i j, i ≤ n → j ≤ n → R k i j = bdsReducedMat (Y k) (Red k) i j := by
  have st : ∀ k, bdFinCount n (R k) ≤ bdFinCount n (bdsReducedMat (Y k) (Red k)) ∧
      ((∃ i j, i ≤ n ∧ j ≤ n ∧ R k i j ≠ bdsReducedMat (Y k) (Red k) i j) →
        bdFinCount n (R k) < bdFinCount n (bdsReducedMat (Y k) (Red k))) := by
    intro k
    rw [hR k]
    exact (bd_bhmz05_finite_entries_decrease n (X k) (Y k) (Red k)).2.2
  obtain ⟨N, hN⟩ := nat_antitone_eventually_const (fun k => bdFinCount n (bdsReducedMat (Y k) (Red k)))
    (fun k => Nat.le_trans (hLarsen k) (st k).1)
  refine ⟨N, fun k hk i j hi hj => ?_⟩
  by_contra hne
  have h1 := (st k).2 ⟨i, j, hi, hj, hne⟩
  have h2 := hLarsen k
  have h3 := hN k hk
  omega

/-- **The BHMZ05 iteration on `Octagonal_Shape` is eventually stationary — PARTIAL.**  `Y k` is the strongly
reduced previous iterate, `X k` arbitrary, `R k = octBHMZ05Loops n (X k) (Y k)`; `Y (k+1)` comes from `R k` by
strong closure + strong reduction.  EXTRA HYPOTHESIS `hLarsen` (not proved; checked by the native driver on every
real step): `Y (k+1)` has at most as many finite stored cells as `R k`. -/
theorem oct_bhmz05_chain_stabilises_partial (n : Nat) (X Y : Nat → Mat) (R : Nat → Mat)
    (hR : ∀ k, R k = octBHMZ05Loops n (X k) (Y k))
    (hLarsen : ∀ k, octFinCount n (Y (k + 1)) ≤ octFinCount n (R k)) :
    ∃ N, ∀ k, k ≥ N → ∀ i j, i < 2 * n → j < rowSize i → R k i j = Y k i j := by
  have st : ∀ k, octFinCount n (R k) ≤ octFinCount n (Y k) ∧
      ((∃ i j, i < 2 * n ∧ j < rowSize i ∧ R k i j ≠ Y k i j) → octFinCount n (R k) < octFinCount n (Y k)) := by
    intro k
    rw [hR k]
    exact (oct_bhmz05_finite_entries_decrease n (X k) (Y k)).2.2
  obtain ⟨N, hN⟩ := nat_antitone_eventually_const (fun k => octFinCount n (Y k))
    (fun k => Nat.le_trans (hLarsen k) (st k).1)
  refine ⟨N, fun k hk i j hi hj => ?_⟩
  by_contra hne
  have h1 := (st k).2 ⟨i, j, hi, hj, hne⟩
  have h2 := hLarsen k
  have h3 := hN k hk
  omega

/-! ## instances for the non-vacuity examples -/

/-- what the loops leave of `exY1` (`x₀ ≤ 0`, `-x₀ ≤ 0`) against `exX1` (`x₀ ≤ 1/2`, `-x₀ ≤ 0`): `-x₀ ≤ 0` -/
def exR1 : Mat := Mat.ofLists [[pinf, pinf], [fin 0, pinf]]
/-- previous iterates: `exY1`, then the result `exR1` for ever -/
def exYs (k : Nat) : Mat := if k = 0 then exY1 else exR1
/-- larger arguments: `exX1`, then `exR1` for ever -/
def exXs (k : Nat) : Mat := if k = 0 then exX1 else exR1

theorem exR1_larsen : ∀ k, bdFinCount 1 (bdsReducedMat (exYs (k + 1)) (BMat.const false))
    ≤ bdFinCount 1 (bdBHMZ05Loops 1 (exXs k) (exYs k) (BMat.const false)) := by
  intro k
  cases k with
  | zero => decide +kernel
  | succ k =>
    have e1 : exYs (k + 1 + 1) = exR1 := rfl
    have e2 : exYs (k + 1) = exR1 := rfl
    have e3 : exXs (k + 1) = exR1 := rfl
    rw [e1, e2, e3]
    decide +kernel

theorem exR1_larsen_oct : ∀ k, octFinCount 1 (exYs (k + 1)) ≤ octFinCount 1 (octBHMZ05Loops 1 (exXs k) (exYs k)) := by
  intro k
  cases k with
  | zero => decide +kernel
  | succ k =>
    have e1 : exYs (k + 1 + 1) = exR1 := rfl
    have e2 : exYs (k + 1) = exR1 := rfl
    have e3 : exXs (k + 1) = exR1 := rfl
    rw [e1, e2, e3]
    decide +kernel

end PPLV.Widen

import PPLV.Interval.ProofsIntFinish
/-!
# C12 / native integers: `Boundary_NS` on native boundaries = the C12 model with `Rounding.native`

For every native boundary function `nbF` of `IntModel.lean` (C11 checked operation with the direction of
the side, then `adjust_boundary`) and operands that are values of the type:
`(nbF …).map toBound = some (bF Policy Rounding.native … toBound-of-operands)` — the code-shaped
integer boundary arithmetic and the abstract-rounding boundary arithmetic of `Model.lean` compute the
same bound (value, SPECIAL as infinity, OPEN bit), in particular `adjust_boundary` never reaches its
`default:` label.  (`div_assign`: `ProofsIntBoundaryDiv.lean`.)
-/
set_option linter.unusedSimpArgs false
namespace PPLV.Interval.Native
open PPLV.Interval PPLV.Interval.ExtRat PPLV.Checked PPLV.Checked.Result

theorem isNan_cop (ty : IntTy) (v : Int) : ty.isNan cop v = false := by
  have : cop.hasNan = false := rfl
  simp [IntTy.isNan, this]
theorem isMinf_cop (ty : IntTy) (v : Int) : ty.isMinf cop v = false := by
  have : cop.hasInfinity = false := rfl
  simp [IntTy.isMinf, this]
theorem isPinf_cop (ty : IntTy) (v : Int) : ty.isPinf cop v = false := by
  have : cop.hasInfinity = false := rfl
  simp [IntTy.isPinf, this]

theorem chk_assign (ty f : IntTy) (tt : BT) (to0 x y : Int) :
    chk ty (.assign f cop) tt to0 x y = assignInt ty cop f cop to0 x (dirOf tt) := by
  simp [chk, IntOp.run, assignExt, extUnary, isNan_cop, isMinf_cop, isPinf_cop]
theorem chk_neg (ty : IntTy) (tt : BT) (to0 x y : Int) : chk ty .neg tt to0 x y = neg ty cop to0 x (dirOf tt) := by
  simp [chk, IntOp.run, negExt, isNan_cop, isMinf_cop, isPinf_cop]
theorem chk_add (ty : IntTy) (tt : BT) (to0 x y : Int) : chk ty .add tt to0 x y = add ty cop to0 x y (dirOf tt) := by
  simp [chk, IntOp.run, addExt, isNan_cop, isMinf_cop, isPinf_cop]
theorem chk_sub (ty : IntTy) (tt : BT) (to0 x y : Int) : chk ty .sub tt to0 x y = sub ty cop to0 x y (dirOf tt) := by
  simp [chk, IntOp.run, subExt, isNan_cop, isMinf_cop, isPinf_cop]
theorem chk_mul (ty : IntTy) (tt : BT) (to0 x y : Int) : chk ty .mul tt to0 x y = mul ty cop to0 x y (dirOf tt) := by
  simp [chk, IntOp.run, mulExt, mulInfClass, isNan_cop, isMinf_cop, isPinf_cop]
theorem chk_div (ty : IntTy) (tt : BT) (to0 x y : Int) : chk ty .div tt to0 x y = div ty cop to0 x y (dirOf tt) := by
  simp [chk, IntOp.run, divExt, divLikeExt, isNan_cop, isMinf_cop, isPinf_cop]

/-! ### reading a native boundary through the model's accessors -/

theorem getSpecial_toBound (p : Policy) (hp : p.storeSpecial = true) (t : BT) (x : NB) :
    getSpecial p t (x.toBound t) = x.special := by
  cases t <;> cases hs : x.special <;> simp [getSpecial, NB.toBound, hp, hs, infOf]

theorem isBoundaryInfinity_toBound (p : Policy) (hp : p.storeSpecial = true) (t : BT) (x : NB) :
    isBoundaryInfinity p t (x.toBound t) = x.special := by
  simp [isBoundaryInfinity, hp, getSpecial_toBound p hp]

theorem toBound_value_of_not_special (t : BT) (x : NB) (h : x.special = false) :
    (x.toBound t).value = fin (x.raw : Rat) := by simp [NB.toBound, h]

theorem nbSetBoundaryInfinity_toBound (p : Policy) (hp : p.storeSpecial = true) (tt : BT) (to0 : Int) (o : Bool) :
    (nbSetBoundaryInfinity p to0 o).toBound tt = setBoundaryInfinity p tt o := by
  cases o <;> cases hso : p.storeOpen <;>
    simp [nbSetBoundaryInfinity, specialSetBoundaryInfinity, setOpenBit, hp, hso, NB.toBound, setBoundaryInfinity]

/-! ### the boundary functions -/

variable {ty : IntTy} {p : Policy}

theorem nbSetZero_refines (ok : TyOK ty) (hp : p.storeSpecial = true) (tt : BT) (s : Bool) {to0 : Int} :
    (nbSetZero ty p tt s to0).map (NB.toBound tt) = some (setZero p (Rounding.native ty) tt s) := by
  unfold nbSetZero setZero
  rw [chk_assign]
  have hc := cmin_le_zero_le_cmax ok.bits
  have ht : Tri ty cop (dirOf tt) to0 (assignInt ty cop constTy cop to0 0 (dirOf tt)) 0 := by
    have e : assignInt ty cop constTy cop to0 0 (dirOf tt) = (0, V_EQ) := by
      have hco : cop.checkOverflow = true := rfl
      have hcs : constTy.signed = true := rfl
      unfold assignInt
      cases hs : ty.signed <;> simp only [hcs]
      · unfold assignUnsignedSigned
        simp only [hco, emax_cop, Bool.true_and, decide_eq_true_eq]
        split_ifs <;> first | rfl | omega
      · unfold assignSignedSigned
        simp only [hco, emax_cop, emin_cop, Bool.true_and, decide_eq_true_eq]
        split_ifs <;> first | rfl | omega
    rw [e]
    exact tri_eq (finite_cop.mpr ⟨hc.1, hc.2⟩)
  have := finish_tri ok.bits p hp tt s ht
  simpa using this

theorem nbAssign_refines (ok : TyOK ty) (hp : p.storeSpecial = true) (tt t : BT) {x : NB} (hx : x.WF ty) (s : Bool)
    {to0 : Int} (h0 : ty.inRange to0) :
    (nbAssign ty p tt t x s to0).map (NB.toBound tt)
      = some (bAssign p (Rounding.native ty) tt p t (x.toBound t) s) := by
  unfold nbAssign bAssign
  rw [getSpecial_toBound p hp]
  cases hsp : x.special
  · simp only [Bool.false_eq_true, if_false]
    rw [chk_assign, toBound_value_of_not_special t x hsp]
    exact finish_tri ok.bits p hp tt _
      (assignInt_tri (wf_cop ok.bits) (wf_cop ok.bits) rfl (Or.inl (Nat.le_refl _)) _ h0 (finite_cop.mpr hx))
  · simp [nbSetBoundaryInfinity_toBound p hp]

/-- (an argument bound that is SPECIAL makes the code call `set_minus_infinity` / `set_plus_infinity` with
`store_special`, whose assertion `type == LOWER` resp. `UPPER` about the DESTINATION side never holds in
`complement`; `difference_assign` never gets there — the statement is for a finite argument bound) -/
theorem nbComplement_refines (ok : TyOK ty) (hp : p.storeSpecial = true) (tt t : BT) {x : NB} (hx : x.WF ty)
    (hsp : x.special = false) {to0 : Int} (h0 : ty.inRange to0) :
    (nbComplement ty p tt t x to0).map (NB.toBound tt)
      = some (bComplement p (Rounding.native ty) tt p t (x.toBound t)) := by
  unfold nbComplement bComplement
  rw [getSpecial_toBound p hp]
  simp only [hsp, Bool.false_eq_true, if_false]
  rw [chk_assign, toBound_value_of_not_special t x hsp]
  exact finish_tri ok.bits p hp tt _
    (assignInt_tri (wf_cop ok.bits) (wf_cop ok.bits) rfl (Or.inl (Nat.le_refl _)) _ h0 (finite_cop.mpr hx))

theorem nbNeg_refines (ok : TyOK ty) (hp : p.storeSpecial = true) (tt t : BT) {x : NB} (hx : x.WF ty)
    {to0 : Int} (h0 : ty.inRange to0) :
    (nbNeg ty p tt t x to0).map (NB.toBound tt) = some (bNeg p (Rounding.native ty) tt p t (x.toBound t)) := by
  unfold nbNeg bNeg
  rw [getSpecial_toBound p hp]
  cases hsp : x.special
  · simp only [Bool.false_eq_true, if_false]
    rw [chk_neg, toBound_value_of_not_special t x hsp]
    have := finish_tri ok.bits p hp tt (normalIsOpen p t (x.toBound t))
      (neg_tri (wf_cop ok.bits) ok.larger rfl (dirOf tt) h0 (finite_cop.mpr hx))
    simpa [ExtRat.neg] using this
  · simp [nbSetBoundaryInfinity_toBound p hp]

/-- the exact integer operation behind each of the three arithmetic boundary functions -/
theorem nbArith_refines (ok : TyOK ty) (hp : p.storeSpecial = true) (op : IntOp) (f : ExtRat → ExtRat → ExtRat)
    (g : Int → Int → Int)
    (hf : ∀ a b : Int, f (fin (a : Rat)) (fin (b : Rat)) = fin ((g a b : Int) : Rat))
    (hop : ∀ (tt : BT) (to0 x y : Int), ty.inRange to0 → ty.inRange x → ty.inRange y →
      Tri ty cop (dirOf tt) to0 (chk ty op tt to0 x y) (g x y))
    (tt t1 t2 : BT) {x1 x2 : NB} (h1 : x1.WF ty) (h2 : x2.WF ty) {to0 : Int} (h0 : ty.inRange to0) :
    (nbArith op ty p tt t1 x1 t2 x2 to0).map (NB.toBound tt)
      = some (bArith f p (Rounding.native ty) tt p t1 (x1.toBound t1) p t2 (x2.toBound t2)) := by
  unfold nbArith bArith
  simp only [isBoundaryInfinity_toBound p hp]
  cases hs1 : x1.special
  · cases hs2 : x2.special
    · simp only [Bool.false_eq_true, if_false]
      rw [toBound_value_of_not_special t1 x1 hs1, toBound_value_of_not_special t2 x2 hs2, hf]
      exact finish_tri ok.bits p hp tt _ (hop tt to0 x1.raw x2.raw h0 h1 h2)
    · simp [nbSetBoundaryInfinity_toBound p hp]
  · simp [nbSetBoundaryInfinity_toBound p hp]

theorem nbAdd_refines (ok : TyOK ty) (hp : p.storeSpecial = true) (tt t1 t2 : BT) {x1 x2 : NB} (h1 : x1.WF ty)
    (h2 : x2.WF ty) {to0 : Int} (h0 : ty.inRange to0) :
    (nbAdd ty p tt t1 x1 t2 x2 to0).map (NB.toBound tt)
      = some (bAdd p (Rounding.native ty) tt p t1 (x1.toBound t1) p t2 (x2.toBound t2)) := by
  unfold nbAdd bAdd
  exact nbArith_refines ok hp .add ExtRat.add (· + ·) (fun a b => by simp [ExtRat.add])
    (fun tt to0 x y h0 hx hy => by
      rw [chk_add]; exact add_tri (wf_cop ok.bits) ok.larger rfl _ h0 (finite_cop.mpr hx) hy) tt t1 t2 h1 h2 h0

theorem nbSub_refines (ok : TyOK ty) (hp : p.storeSpecial = true) (tt t1 t2 : BT) {x1 x2 : NB} (h1 : x1.WF ty)
    (h2 : x2.WF ty) {to0 : Int} (h0 : ty.inRange to0) :
    (nbSub ty p tt t1 x1 t2 x2 to0).map (NB.toBound tt)
      = some (bSub p (Rounding.native ty) tt p t1 (x1.toBound t1) p t2 (x2.toBound t2)) := by
  unfold nbSub bSub
  exact nbArith_refines ok hp .sub ExtRat.sub (· - ·) (fun a b => by simp [ExtRat.sub])
    (fun tt to0 x y h0 hx hy => by
      rw [chk_sub]; exact sub_tri (wf_cop ok.bits) ok.larger rfl _ h0 (finite_cop.mpr hx) hy) tt t1 t2 h1 h2 h0

theorem nbMul_refines (ok : TyOK ty) (hp : p.storeSpecial = true) (tt t1 t2 : BT) {x1 x2 : NB} (h1 : x1.WF ty)
    (h2 : x2.WF ty) {to0 : Int} (h0 : ty.inRange to0) :
    (nbMul ty p tt t1 x1 t2 x2 to0).map (NB.toBound tt)
      = some (bMul p (Rounding.native ty) tt p t1 (x1.toBound t1) p t2 (x2.toBound t2)) := by
  unfold nbMul bMul
  exact nbArith_refines ok hp .mul ExtRat.mul (· * ·) (fun a b => by simp [ExtRat.mul])
    (fun tt to0 x y h0 hx hy => by
      rw [chk_mul]; exact mul_tri (wf_cop ok.bits) ok.larger rfl _ h0 (finite_cop.mpr hx) (finite_cop.mpr hy))
    tt t1 t2 h1 h2 h0

theorem nbMulZ_refines (ok : TyOK ty) (hp : p.storeSpecial = true) (tt t1 t2 : BT) {x1 x2 : NB} (h1 : x1.WF ty)
    (h2 : x2.WF ty) (x1s x2s : Int) {to0 : Int} (h0 : ty.inRange to0) :
    (nbMulZ ty p tt t1 x1 x1s t2 x2 x2s to0).map (NB.toBound tt)
      = some (bMulZ p (Rounding.native ty) tt p t1 (x1.toBound t1) x1s p t2 (x2.toBound t2) x2s) := by
  unfold nbMulZ bMulZ
  split
  · split
    · exact nbMul_refines ok hp tt t1 t2 h1 h2 h0
    · exact nbSetZero_refines ok hp tt _
  · exact nbSetZero_refines ok hp tt _

end PPLV.Interval.Native

import PPLV.Interval.ProofsMulMath
/-!
# C12 — soundness of the `Boundary_NS` operations of the model
-/
set_option linter.unnecessarySeqFocus false
set_option linter.unusedSimpArgs false
namespace PPLV.Interval
open ExtRat (ninf fin pinf)

theorem sideOkV_infOf (t : BT) (o : Bool) (a : Rat) : sideOkV t (infOf t) o a := by
  cases t <;> simp [sideOkV, infOf]

theorem sideOkV_weaken {t : BT} {v : ExtRat} {o o' : Bool} {a : Rat} (ho : o' = true → o = true)
    (h : sideOkV t v o a) : sideOkV t v o' a := by
  cases t
  · exact lowerOkV_weaken ho h
  · exact upperOkV_weaken ho h

theorem cmp_trans {o s : Bool} {x y z : Rat} (h1 : cmp o x y) (h2 : cmp s y z) : cmp (o || s) x z := by
  cases o <;> cases s <;> simp only [cmp_true, cmp_false, Bool.or_false, Bool.or_true] at h1 h2 ⊢
  exacts [le_trans h1 h2, lt_of_le_of_lt h1 h2, lt_of_lt_of_le h1 h2, lt_trans h1 h2]

/-- a bound `v` of `e` and a bound `e` of `a` make `v` a bound of `a`, strict if one of them is -/
theorem sideOkV_trans {t : BT} {v e a : Rat} {o s : Bool}
    (h1 : sideOkV t (fin v) o e) (h2 : sideOkV t (fin e) s a) : sideOkV t (fin v) (o || s) a := by
  cases t
  · exact (lowerOkV_fin_iff _ _ _).mpr (cmp_trans ((lowerOkV_fin_iff _ _ _).mp h1) ((lowerOkV_fin_iff _ _ _).mp h2))
  · rw [Bool.or_comm]
    exact (upperOkV_fin_iff _ _ _).mpr (cmp_trans ((upperOkV_fin_iff _ _ _).mp h2) ((upperOkV_fin_iff _ _ _).mp h1))

theorem sideOk_setBoundaryInfinity (p : Policy) (t : BT) (s : Bool) (a : Rat) :
    sideOk p t (setBoundaryInfinity p t s) a := sideOkV_infOf _ _ _

theorem lowerOk_setUnbounded (p : Policy) (a : Rat) : lowerOk p (setUnbounded p .lower) a :=
  sideOkV_infOf .lower _ a
theorem upperOk_setUnbounded (p : Policy) (a : Rat) : upperOk p (setUnbounded p .upper) a :=
  sideOkV_infOf .upper _ a

theorem sideOk_lower {p : Policy} {b : Bound} {a : Rat} : sideOk p .lower b a ↔ lowerOk p b a := Iff.rfl
theorem sideOk_upper {p : Policy} {b : Bound} {a : Rat} : sideOk p .upper b a ↔ upperOk p b a := Iff.rfl

/-- a bound that admits a member is the infinity of its own side or finite -/
theorem sideOk_cases {p : Policy} {t : BT} {x : Bound} {a : Rat} (h : sideOk p t x a) :
    (normalIsBoundaryInfinity t x = true ∧ x.value = infOf t)
    ∨ (normalIsBoundaryInfinity t x = false ∧ ∃ u, x.value = fin u) := by
  unfold sideOk at h
  unfold normalIsBoundaryInfinity
  cases t <;> cases hv : x.value <;> simp_all [sideOkV, infOf]

theorem normalIsOpen_fin {p : Policy} {t : BT} {x : Bound} (h : normalIsBoundaryInfinity t x = false) :
    normalIsOpen p t x = getOpen p x := by
  unfold normalIsOpen getOpen
  cases p.storeOpen <;> simp [h]

/-- on a bound that admits a member `normal_is_open` reads what membership reads -/
theorem sideOk_normalIsOpen {p : Policy} {t : BT} {x : Bound} {a : Rat} (h : sideOk p t x a) :
    sideOkV t x.value (normalIsOpen p t x) a := by
  rcases sideOk_cases h with ⟨_, hv⟩ | ⟨hi, _⟩
  · rw [hv]; exact sideOkV_infOf _ _ _
  · rw [normalIsOpen_fin hi]; exact h

theorem sideOkV_neg {tt t : BT} (hne : tt ≠ t) {v : ExtRat} {o : Bool} {a : Rat} (h : sideOkV t v o a) :
    sideOkV tt v.neg o (-a) := by
  cases tt <;> cases t <;> try contradiction
  · exact lowerOkV_neg h
  · exact upperOkV_neg h

/-- `Boundary_NS::neg_assign` -/
theorem bNeg_sound {p pf : Policy} {R : Rounding} (hR : R.Sound) {tt t : BT} (hne : tt ≠ t) {x : Bound} {a : Rat}
    (h : sideOk pf t x a) : sideOk p tt (bNeg p R tt pf t x) (-a) := by
  unfold bNeg
  split
  · exact sideOk_setBoundaryInfinity p tt _ _
  · exact adjust_sound hR (sideOkV_neg hne (sideOk_normalIsOpen h))

/-- the common shape of `add_assign`, `sub_assign`, `mul_assign` on boundaries: an infinite operand
gives the infinity of the target side, two finite operands go through `adjust` -/
theorem bArith_sound {p p1 p2 : Policy} {R : Rounding} (hR : R.Sound) {f : ExtRat → ExtRat → ExtRat}
    {tt t1 t2 : BT} {x1 x2 : Bound} {a b c : Rat}
    (h1 : sideOk p1 t1 x1 a) (h2 : sideOk p2 t2 x2 b)
    (hf : ∀ u v, x1.value = fin u → x2.value = fin v →
      sideOkV tt (f (fin u) (fin v)) (getOpen p1 x1 || getOpen p2 x2) c) :
    sideOk p tt (bArith f p R tt p1 t1 x1 p2 t2 x2) c := by
  unfold bArith
  simp only [isBoundaryInfinity_eq]
  rcases sideOk_cases h1 with ⟨hi1, _⟩ | ⟨hi1, u, hu⟩
  · simp [hi1]; exact sideOk_setBoundaryInfinity p tt _ _
  · rcases sideOk_cases h2 with ⟨hi2, _⟩ | ⟨hi2, v, hv⟩
    · simp [hi1, hi2]; exact sideOk_setBoundaryInfinity p tt _ _
    · simp only [hi1, hi2, Bool.false_eq_true, ↓reduceIte]
      apply adjust_sound hR
      rw [normalIsOpen_fin hi1, normalIsOpen_fin hi2, hu, hv]
      exact hf u v hu hv

section finite
variable {u v a b : Rat} {o1 o2 : Bool}

/-- the sum of two finite lower bounds, open iff one of them is; the other three by negating bounds and members -/
theorem add_lower_sound (h1 : lowerOkV (fin u) o1 a) (h2 : lowerOkV (fin v) o2 b) :
    lowerOkV (fin (u + v)) (o1 || o2) (a + b) := by
  revert h1 h2
  cases o1 <;> cases o2 <;> simp <;> intros <;> linarith
theorem add_upper_sound (h1 : upperOkV (fin u) o1 a) (h2 : upperOkV (fin v) o2 b) :
    upperOkV (fin (u + v)) (o1 || o2) (a + b) := by
  simpa [ExtRat.neg, add_comm] using upperOkV_neg (add_lower_sound (lowerOkV_neg h1) (lowerOkV_neg h2))
theorem sub_lower_sound (h1 : lowerOkV (fin u) o1 a) (h2 : upperOkV (fin v) o2 b) :
    lowerOkV (fin (u - v)) (o1 || o2) (a - b) := by
  simpa [ExtRat.neg, sub_eq_add_neg] using add_lower_sound h1 (lowerOkV_neg h2)
theorem sub_upper_sound (h1 : upperOkV (fin u) o1 a) (h2 : lowerOkV (fin v) o2 b) :
    upperOkV (fin (u - v)) (o1 || o2) (a - b) := by
  simpa [ExtRat.neg, sub_eq_add_neg] using add_upper_sound h1 (upperOkV_neg h2)

end finite

theorem bAdd_lower_sound {p p1 p2 : Policy} {R : Rounding} (hR : R.Sound) {x1 x2 : Bound} {a b : Rat}
    (h1 : lowerOk p1 x1 a) (h2 : lowerOk p2 x2 b) :
    lowerOk p (bAdd p R .lower p1 .lower x1 p2 .lower x2) (a + b) :=
  bArith_sound (tt := .lower) (t1 := .lower) (t2 := .lower) hR h1 h2
    fun u v hu hv => add_lower_sound (u := u) (v := v) (hu ▸ h1) (hv ▸ h2)

theorem bAdd_upper_sound {p p1 p2 : Policy} {R : Rounding} (hR : R.Sound) {x1 x2 : Bound} {a b : Rat}
    (h1 : upperOk p1 x1 a) (h2 : upperOk p2 x2 b) :
    upperOk p (bAdd p R .upper p1 .upper x1 p2 .upper x2) (a + b) :=
  bArith_sound (tt := .upper) (t1 := .upper) (t2 := .upper) hR h1 h2
    fun u v hu hv => add_upper_sound (u := u) (v := v) (hu ▸ h1) (hv ▸ h2)

theorem bSub_lower_sound {p p1 p2 : Policy} {R : Rounding} (hR : R.Sound) {x1 x2 : Bound} {a b : Rat}
    (h1 : lowerOk p1 x1 a) (h2 : upperOk p2 x2 b) :
    lowerOk p (bSub p R .lower p1 .lower x1 p2 .upper x2) (a - b) :=
  bArith_sound (tt := .lower) (t1 := .lower) (t2 := .upper) hR h1 h2
    fun u v hu hv => sub_lower_sound (u := u) (v := v) (hu ▸ h1) (hv ▸ h2)

theorem bSub_upper_sound {p p1 p2 : Policy} {R : Rounding} (hR : R.Sound) {x1 x2 : Bound} {a b : Rat}
    (h1 : upperOk p1 x1 a) (h2 : lowerOk p2 x2 b) :
    upperOk p (bSub p R .upper p1 .upper x1 p2 .lower x2) (a - b) :=
  bArith_sound (tt := .upper) (t1 := .upper) (t2 := .lower) hR h1 h2
    fun u v hu hv => sub_upper_sound (u := u) (v := v) (hu ▸ h1) (hv ▸ h2)

/-- `set_zero` -/
theorem setZero_sound {p : Policy} {R : Rounding} (hR : R.Sound) {tt : BT} {s : Bool} {c : Rat}
    (h : sideOkV tt (fin 0) s c) : sideOk p tt (setZero p R tt s) c := adjust_sound hR h

theorem sgn_fin_ne_zero {u : Rat} : ((fin u).sgn != 0) = decide (u ≠ 0) := by
  simp only [ExtRat.sgn]
  by_cases h : u = 0
  · simp [h, ExtRat.ratSgn]
  · have : ExtRat.ratSgn u ≠ 0 := fun h' => h (ratSgn_zero.mp h')
    simp [h, this]

/-- on a bound that admits a member the sign test `x_s != 0` fails exactly for the value zero -/
theorem sgn_ne_zero_of_sideOk {p : Policy} {t : BT} {x : Bound} {a : Rat} (h : sideOk p t x a) :
    (x.value.sgn != 0) = decide (x.value ≠ fin 0) := by
  rcases sideOk_cases h with ⟨_, hv⟩ | ⟨_, u, hu⟩
  · rw [hv]; cases t <;> simp [infOf, ExtRat.sgn]
  · rw [hu, sgn_fin_ne_zero]; simp

/-- a zero bound that squeezes its member to zero admits the product `0` on either side -/
theorem squeeze {t tt : BT} {o : Bool} {a c : Rat} (h : sideOkV t (fin 0) o a) (ha : a = 0) (hc : c = 0) :
    sideOkV tt (fin 0) o c := by
  subst ha; subst hc
  cases t <;> cases tt <;> cases o <;> simp_all [sideOkV]

/-- `mul_assign_z`: the obligations are the finite × finite product and, for the two `0 × infinite` products
(which the code answers by `set_zero`), that the member at the zero bound is zero -/
theorem bMulZ_sound {p p1 p2 : Policy} {R : Rounding} (hR : R.Sound) {tt t1 t2 : BT} {x1 x2 : Bound} {a b : Rat}
    (h1 : sideOk p1 t1 x1 a) (h2 : sideOk p2 t2 x2 b)
    (hfin : ∀ u v, x1.value = fin u → x2.value = fin v →
      sideOkV tt (fin (u * v)) (zopen u (getOpen p1 x1) v (getOpen p2 x2)) (a * b))
    (hz1 : x1.value = fin 0 → x2.value.isFin = false → a = 0)
    (hz2 : x2.value = fin 0 → x1.value.isFin = false → b = 0) :
    sideOk p tt (bMulZ p R tt p1 t1 x1 x1.value.sgn p2 t2 x2 x2.value.sgn) (a * b) := by
  unfold bMulZ
  rw [sgn_ne_zero_of_sideOk h1, sgn_ne_zero_of_sideOk h2]
  by_cases z1 : x1.value = fin 0
  · simp only [z1, ne_eq, not_true_eq_false, decide_false, Bool.false_eq_true, if_false]
    apply setZero_sound hR
    rcases sideOk_cases h2 with ⟨_, hv⟩ | ⟨_, v, hv⟩
    · have ha := hz1 z1 (by rw [hv]; cases t2 <;> rfl)
      have h1' : sideOkV t1 x1.value (getOpen p1 x1) a := h1
      rw [z1] at h1'
      simpa [hv, show infOf t2 ≠ fin 0 by cases t2 <;> simp [infOf]] using
        squeeze (tt := tt) (c := a * b) h1' ha (by rw [ha, zero_mul])
    · simpa [zopen, hv] using hfin 0 v z1 hv
  · by_cases z2 : x2.value = fin 0
    · simp only [z1, z2, ne_eq, not_false_eq_true, not_true_eq_false, decide_true, decide_false, Bool.false_eq_true,
        if_true, if_false]
      apply setZero_sound hR
      rcases sideOk_cases h1 with ⟨_, hv⟩ | ⟨_, u, hu⟩
      · have hb := hz2 z2 (by rw [hv]; cases t1 <;> rfl)
        have h2' : sideOkV t2 x2.value (getOpen p2 x2) b := h2
        rw [z2] at h2'
        exact squeeze h2' hb (by rw [hb, mul_zero])
      · have hu0 : u ≠ 0 := fun h => z1 (by rw [hu, h])
        simpa [zopen, hu0] using hfin u 0 hu z2
    · simp only [z1, z2, ne_eq, not_false_eq_true, decide_true, if_true]
      refine bArith_sound hR h1 h2 fun u v hu hv => ?_
      have hu0 : u ≠ 0 := fun h => z1 (by rw [hu, h])
      have hv0 : v ≠ 0 := fun h => z2 (by rw [hv, h])
      simpa [zopen, hu0, hv0, ExtRat.mul] using hfin u v hu hv

end PPLV.Interval

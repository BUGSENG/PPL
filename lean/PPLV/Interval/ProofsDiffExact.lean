import PPLV.Interval.ProofsSet
import PPLV.Interval.ProofsExact
/-!
# C12 — `difference_assign` (hence the repaired `refine_universal(NOT_EQUAL, ·)`) returns the
smallest interval containing the set difference (exact rounding, policies that store OPEN)
-/
set_option linter.unnecessarySeqFocus false
set_option linter.unusedSimpArgs false
namespace PPLV.Interval
open ExtRat (ninf fin pinf)

/-- a strictly weaker lower bound admits a point that the stronger one rejects -/
theorem lt_lower_lower_witness {p : Policy} {b1 b2 : Bound} (h1 : b1.value ≠ pinf)
    (ho1 : b1.value = ninf → b1.open = true) (ho2 : b2.value = ninf → b2.open = true)
    (h : lt p .lower b1 p .lower b2 = true) : ∃ a, lowerOk p b1 a ∧ ¬ lowerOk p b2 a := by
  simp only [lowerOk_iff_isOpen]
  simp only [lt, isMinusInfinity_lower, isPlusInfinity_lower] at h
  revert h
  obtain ⟨v1, o1⟩ := b1
  obtain ⟨v2, o2⟩ := b2
  cases v1 with
  | pinf => simp at h1
  | ninf =>
    cases v2 with
    | ninf => cases ho1 rfl; cases ho2 rfl; simp
    | pinf => exact fun _ => ⟨0, by simp⟩
    | fin q => exact fun _ => ⟨q - 1, by cases isOpen p .lower ⟨fin q, o2⟩ <;> simp⟩
  | fin q1 =>
    generalize isOpen p .lower ⟨fin q1, o1⟩ = e1
    cases v2 with
    | ninf => cases e1 <;> simp
    | pinf => exact fun _ => ⟨q1 + 1, by cases e1 <;> simp⟩
    | fin q2 =>
      generalize isOpen p .lower ⟨fin q2, o2⟩ = e2
      intro h
      by_cases hq : q1 < q2
      · exact ⟨(q1 + q2) / 2, lowerOkV_weaken (o := true) (fun _ => rfl) (by simp; linarith),
          fun h => absurd (lowerOkV_fin_le h) (by linarith)⟩
      · refine ⟨q1, ?_⟩
        revert h
        cases e1 <;> cases e2 <;> simp [ExtRat.le, ExtRat.lt] <;> linarith

/-- a strictly weaker upper bound admits a point that the stronger one rejects -/
theorem lt_upper_upper_witness {p : Policy} {b1 b2 : Bound} (h2 : b2.value ≠ ninf)
    (ho1 : b1.value = pinf → b1.open = true) (ho2 : b2.value = pinf → b2.open = true)
    (h : lt p .upper b1 p .upper b2 = true) : ∃ a, upperOk p b2 a ∧ ¬ upperOk p b1 a := by
  simp only [upperOk_iff_isOpen]
  simp only [lt, isMinusInfinity_upper, isPlusInfinity_upper] at h
  revert h
  obtain ⟨v1, o1⟩ := b1
  obtain ⟨v2, o2⟩ := b2
  cases v2 with
  | ninf => simp at h2
  | pinf =>
    cases v1 with
    | pinf => cases ho1 rfl; cases ho2 rfl; simp
    | ninf => exact fun _ => ⟨0, by simp⟩
    | fin q => exact fun _ => ⟨q + 1, by cases isOpen p .upper ⟨fin q, o1⟩ <;> simp⟩
  | fin q2 =>
    generalize isOpen p .upper ⟨fin q2, o2⟩ = e2
    cases v1 with
    | pinf => cases e2 <;> simp
    | ninf => exact fun _ => ⟨q2 - 1, by cases e2 <;> simp⟩
    | fin q1 =>
      generalize isOpen p .upper ⟨fin q1, o1⟩ = e1
      intro h
      by_cases hq : q1 < q2
      · exact ⟨(q1 + q2) / 2, upperOkV_weaken (o := true) (fun _ => rfl) (by simp; linarith),
          fun h => absurd (upperOkV_fin_le h) (by linarith)⟩
      · refine ⟨q2, ?_⟩
        revert h
        cases e1 <;> cases e2 <;> simp [ExtRat.le, ExtRat.lt] <;> linarith

/-- with exact rounding and a policy that stores OPEN, `complement` is the exact complement -/
theorem bComplement_lower_iff {p : Policy} (hso : p.storeOpen = true) {x : Bound} {c : Rat} :
    lowerOk p (bComplement p Rounding.id .lower p .upper x) c ↔ ¬ upperOk p x c := by
  obtain ⟨v, o⟩ := x
  cases v <;> cases hss : p.storeSpecial <;> cases o <;>
    simp [bComplement, getSpecial, setSignedInfinity, adjust_id, normalIsOpen, normalIsBoundaryInfinity,
      lowerOk, upperOk, getOpen, infOf, hso, hss]

theorem bComplement_upper_iff {p : Policy} (hso : p.storeOpen = true) {x : Bound} {c : Rat} :
    upperOk p (bComplement p Rounding.id .upper p .lower x) c ↔ ¬ lowerOk p x c := by
  obtain ⟨v, o⟩ := x
  cases v <;> cases hss : p.storeSpecial <;> cases o <;>
    simp [bComplement, getSpecial, setSignedInfinity, adjust_id, normalIsOpen, normalIsBoundaryInfinity,
      lowerOk, upperOk, getOpen, infOf, hso, hss]

/-- what `OK()` demands of an interval when infinities are not members: bounds on their own sides,
infinite bounds open -/
def Iv.OKReal (x : Iv) : Prop :=
  x.lo.value ≠ pinf ∧ x.hi.value ≠ ninf ∧ (x.lo.value = ninf → x.lo.open = true) ∧ (x.hi.value = pinf → x.hi.open = true)

/-- membership in the set difference -/
def inDiff (p : Policy) (x y : Iv) (s : Rat) : Prop := x.mem p s ∧ ¬ y.mem p s

/-- the interval hull of the difference is inside the result, for every policy and sound rounding -/
theorem differenceAssign_hull_subset {p : Policy} {R : Rounding} (hR : R.Sound) {x y : Iv} {c s1 s2 : Rat}
    (h1 : inDiff p x y s1) (h2 : inDiff p x y s2) (hc1 : s1 ≤ c) (hc2 : c ≤ s2) :
    (differenceAssign p R x y).mem p c :=
  ⟨lowerOk_up (differenceAssign_encloses hR h1.1 h1.2).1 hc1,
   upperOk_down (differenceAssign_encloses hR h2.1 h2.2).2 hc2⟩

/-- … and with exact rounding and stored OPEN bits the result is inside the hull: it is the
smallest interval containing the difference -/
theorem differenceAssign_subset_hull {p : Policy} (hso : p.storeOpen = true) {x y : Iv}
    (hx : x.OKReal) (hy : y.OKReal) {c : Rat}
    (h : (differenceAssign p Rounding.id x y).mem p c) :
    ∃ s1 s2, inDiff p x y s1 ∧ inDiff p x y s2 ∧ s1 ≤ c ∧ c ≤ s2 := by
  unfold differenceAssign at h
  dsimp only at h
  split_ifs at h with h0 hnl hnu hnu'
  · -- disjoint
    refine ⟨c, c, ⟨h, ?_⟩, ⟨h, ?_⟩, le_refl _, le_refl _⟩ <;>
    · intro hy'
      simp only [Bool.or_eq_true, gt] at h0
      rcases h0 with h0 | h0
      · exact lt_upper_lower_true h0 ⟨hy'.1, h.2⟩
      · exact lt_upper_lower_true h0 ⟨h.1, hy'.2⟩
  · exact absurd h (not_mem_empty p c)
  · -- the lower part of x is covered by y: the result is x above y
    have hno : ¬ upperOk p y.hi c := (bComplement_lower_iff hso).mp h.1
    have hnd : lt p .upper y.hi p .lower x.lo = false := by
      simp only [Bool.or_eq_true, gt, not_or, Bool.not_eq_true] at h0; exact h0.2
    obtain ⟨a0, ha1, ha2⟩ := lt_upper_lower_false hx.1 hy.2.1 hnd
    have hlt : a0 ≤ c := by
      by_contra hcon
      exact hno (upperOk_down ha2 (le_of_lt (not_le.mp hcon)))
    have hxc : x.mem p c := ⟨lowerOk_up ha1 hlt, h.2⟩
    have hyc : ¬ y.mem p c := fun hy' => hno hy'.2
    exact ⟨c, c, ⟨hxc, hyc⟩, ⟨hxc, hyc⟩, le_refl _, le_refl _⟩
  · have hno : ¬ lowerOk p y.lo c := (bComplement_upper_iff hso).mp h.2
    have hnd : lt p .upper x.hi p .lower y.lo = false := by
      simp only [Bool.or_eq_true, gt, not_or, Bool.not_eq_true] at h0; exact h0.1
    obtain ⟨a0, ha1, ha2⟩ := lt_upper_lower_false hy.1 hx.2.1 hnd
    have hlt : c ≤ a0 := by
      by_contra hcon
      exact hno (lowerOk_up ha1 (le_of_lt (not_le.mp hcon)))
    have hxc : x.mem p c := ⟨h.1, upperOk_down ha2 hlt⟩
    have hyc : ¬ y.mem p c := fun hy' => hno hy'.1
    exact ⟨c, c, ⟨hxc, hyc⟩, ⟨hxc, hyc⟩, le_refl _, le_refl _⟩
  · -- y strictly inside x: both sides of x stick out
    by_cases hyc : y.mem p c
    · have hl : lt p .lower x.lo p .lower y.lo = true := by simpa [ge] using hnl
      have hu : lt p .upper y.hi p .upper x.hi = true := by simpa [le, gt] using hnu'
      obtain ⟨s1, hs1, hs1'⟩ := lt_lower_lower_witness hx.1 hx.2.2.1 hy.2.2.1 hl
      obtain ⟨s2, hs2, hs2'⟩ := lt_upper_upper_witness hx.2.1 hy.2.2.2 hx.2.2.2 hu
      have h1c : s1 ≤ c := by
        by_contra hcon
        exact hs1' (lowerOk_up hyc.1 (le_of_lt (not_le.mp hcon)))
      have h2c : c ≤ s2 := by
        by_contra hcon
        exact hs2' (upperOk_down hyc.2 (le_of_lt (not_le.mp hcon)))
      exact ⟨s1, s2, ⟨⟨hs1, upperOk_down h.2 h1c⟩, fun hh => hs1' hh.1⟩,
        ⟨⟨lowerOk_up h.1 h2c, hs2⟩, fun hh => hs2' hh.2⟩, h1c, h2c⟩
    · exact ⟨c, c, ⟨h, hyc⟩, ⟨h, hyc⟩, le_refl _, le_refl _⟩

/-! ### `refine_universal(NOT_EQUAL, y)` as repaired -/

theorem refineUniversal_ne_eq (p : Policy) (R : Rounding) (x y : Iv) :
    refineUniversal p R x .ne y
      = if checkEmptyArg p y then x else if checkEmptyArg p x then x else differenceAssign p R x y := by
  simp only [refineUniversal]

theorem refineUniversal_ne_encloses {p : Policy} {R : Rounding} (hR : R.Sound) {x y : Iv} {a : Rat}
    (ha : x.mem p a) (hy : ¬ y.mem p a) : (refineUniversal p R x .ne y).mem p a := by
  rw [refineUniversal_ne_eq]
  split_ifs with h1 h2
  · exact ha
  · exact ha
  · exact differenceAssign_encloses hR ha hy

theorem refineUniversal_ne_hull {p : Policy} (hso : p.storeOpen = true) {x y : Iv}
    (hx : x.OKReal) (hy : y.OKReal) (c : Rat) :
    (refineUniversal p Rounding.id x .ne y).mem p c ↔
      ∃ s1 s2, inDiff p x y s1 ∧ inDiff p x y s2 ∧ s1 ≤ c ∧ c ≤ s2 := by
  constructor
  · intro h
    rw [refineUniversal_ne_eq] at h
    split_ifs at h with h1 h2
    · -- y is empty
      have hyc : ¬ y.mem p c := not_mem_of_checkEmptyArg h1
      exact ⟨c, c, ⟨h, hyc⟩, ⟨h, hyc⟩, le_refl _, le_refl _⟩
    · rw [checkEmptyArg_of_mem h] at h2; simp at h2
    · exact differenceAssign_subset_hull hso hx hy h
  · rintro ⟨s1, s2, h1, h2, hc1, hc2⟩
    exact ⟨lowerOk_up (refineUniversal_ne_encloses Rounding.id_sound h1.1 h1.2).1 hc1,
      upperOk_down (refineUniversal_ne_encloses Rounding.id_sound h2.1 h2.2).2 hc2⟩

end PPLV.Interval

import PPLV.Interval.ProofsMul
/-!
# C12 — linear forms with interval coefficients: `+`, `−`, scalar `×` enclose coefficientwise,
hence on every store
-/
set_option linter.unnecessarySeqFocus false
set_option linter.unusedSimpArgs false
namespace PPLV.Interval
open ExtRat (ninf fin pinf)

/-- the concrete coefficient vector `c` is an instance of the interval linear form `F` -/
def lfMem (p : Policy) (F : List Iv) (c : List Rat) : Prop := List.Forall₂ (fun I a => I.mem p a) F c

/-- a coefficientwise operation that encloses on members encloses on forms -/
theorem lfMem_map {p : Policy} {f : Iv → Iv} {g : Rat → Rat} (hfg : ∀ I a, I.mem p a → (f I).mem p (g a)) :
    ∀ {F : List Iv} {c : List Rat}, lfMem p F c → lfMem p (F.map f) (c.map g)
  | _, _, .nil => .nil
  | _, _, .cons h t => .cons (hfg _ _ h) (lfMem_map hfg t)

theorem lfAdd_encloses {p : Policy} {R : Rounding} (hR : R.Sound) :
    ∀ {F G : List Iv} {c d : List Rat}, lfMem p F c → lfMem p G d → lfMem p (lfAdd p R F G) (vecAdd c d)
  | [], G, _, d, hF, hG => by cases hF; simpa [lfAdd, vecAdd] using hG
  | x :: F, [], _, _, hF, hG => by cases hG; cases hF; simp only [lfAdd, vecAdd]; constructor <;> assumption
  | x :: F, y :: G, _, _, hF, hG => by
    cases hF with
    | cons h1 t1 =>
      cases hG with
      | cons h2 t2 =>
        simp only [lfAdd, vecAdd]
        exact List.Forall₂.cons (addAssign_encloses hR h1 h2) (lfAdd_encloses hR t1 t2)

theorem lfSub_encloses {p : Policy} {R : Rounding} (hR : R.Sound) :
    ∀ {F G : List Iv} {c d : List Rat}, lfMem p F c → lfMem p G d → lfMem p (lfSub p R F G) (vecSub c d)
  | [], G, _, d, hF, hG => by cases hF; simpa [lfSub, vecSub] using lfMem_map (fun _ _ => negAssign_encloses hR) hG
  | x :: F, [], _, _, hF, hG => by cases hG; cases hF; simp only [lfSub, vecSub]; constructor <;> assumption
  | x :: F, y :: G, _, _, hF, hG => by
    cases hF with
    | cons h1 t1 =>
      cases hG with
      | cons h2 t2 =>
        simp only [lfSub, vecSub]
        exact List.Forall₂.cons (subAssign_encloses hR h1 h2) (lfSub_encloses hR t1 t2)

theorem lfScale_encloses {p : Policy} {R : Rounding} (hR : R.Sound) {N : Iv} {n : Rat} (hn : N.mem p n)
    {F : List Iv} {c : List Rat} (h : lfMem p F c) : lfMem p (lfScale false p R N F) (c.map (fun a => a * n)) :=
  lfMem_map (fun _ _ h1 => mulAssign_encloses hR h1 hn) h

/-! evaluation is linear in the coefficient vector -/

theorem dotR_add : ∀ (c d rho : List Rat), c.length = d.length →
    vecEval.dotR (vecAdd c d) rho = vecEval.dotR c rho + vecEval.dotR d rho
  | [], [], rho, _ => by simp [vecAdd, vecEval.dotR]
  | a :: c, b :: d, [], _ => by simp [vecAdd, vecEval.dotR]
  | a :: c, b :: d, r :: rs, h => by
    simp only [vecAdd, vecEval.dotR]
    rw [dotR_add c d rs (by simpa using h)]
    ring

/-- forms of equal length: the value of the sum is the sum of the values, on every store -/
theorem vecEval_add (c d rho : List Rat) (h : c.length = d.length) :
    vecEval (vecAdd c d) rho = vecEval c rho + vecEval d rho := by
  cases c with
  | nil => cases d with
    | nil => simp [vecAdd, vecEval]
    | cons b d => simp at h
  | cons a c => cases d with
    | nil => simp at h
    | cons b d =>
      simp only [vecAdd, vecEval]
      rw [dotR_add c d rho (by simpa using h)]
      ring

end PPLV.Interval

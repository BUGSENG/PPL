import PPLV.Interval.ProofsMul
/-!
# C12 — enclosure for `Interval::div_assign` (the six-case table; the divisor does not straddle zero)

`a / b = a * (1/b)`: every entry is an entry of the multiplication table for the reciprocal of the
divisor, so the fourteen sign variants of `ProofsMulMath` are reused.
-/
set_option linter.unnecessarySeqFocus false
set_option linter.unusedSimpArgs false
namespace PPLV.Interval
open ExtRat (ninf fin pinf)

/-- `div_assign_z`, by the kind of the two bounds -/
theorem bDivZ_sound {p p1 p2 : Policy} {R : Rounding} (hR : R.Sound) {tt t1 t2 : BT} {x1 x2 : Bound} {a b : Rat}
    (h1 : sideOk p1 t1 x1 a) (h2 : sideOk p2 t2 x2 b)
    (hF : ∀ u v, x1.value = fin u → x2.value = fin v → u ≠ 0 → v ≠ 0 →
      sideOkV tt (fin (u / v)) (getOpen p1 x1 || getOpen p2 x2) (a / b))
    (hZ : x1.value = fin 0 → sideOkV tt (fin 0) (getOpen p1 x1) (a / b))
    (hI : ∀ u, x1.value = fin u → u ≠ 0 → x2.value.isFin = false → sideOkV tt (fin 0) true (a / b)) :
    sideOk p tt (bDivZ p R tt p1 t1 x1 x1.value.sgn p2 t2 x2 x2.value.sgn) (a / b) := by
  unfold bDivZ
  rw [sgn_ne_zero_of_sideOk h1, sgn_ne_zero_of_sideOk h2]
  by_cases z1 : x1.value = fin 0
  · simp only [z1, ne_eq, not_true_eq_false, decide_false, Bool.false_eq_true, if_false]
    exact setZero_sound hR (sideOkV_weaken (by simp; intro h _; exact h) (hZ z1))
  · by_cases z2 : x2.value = fin 0
    · simp only [z1, z2, ne_eq, not_false_eq_true, not_true_eq_false, decide_true, decide_false, Bool.false_eq_true,
        if_true, if_false]
      exact sideOk_setBoundaryInfinity p tt _ _
    · simp only [z1, z2, ne_eq, not_false_eq_true, decide_true, if_true, bDiv, isBoundaryInfinity_eq]
      rcases sideOk_cases h1 with ⟨hi1, _⟩ | ⟨hi1, u, hu⟩
      · simp only [hi1, if_true]
        exact sideOk_setBoundaryInfinity p tt _ _
      · have hu0 : u ≠ 0 := fun h => z1 (by rw [hu, h])
        rcases sideOk_cases h2 with ⟨hi2, hv2⟩ | ⟨hi2, v, hv⟩
        · simp only [hi1, hi2, Bool.false_eq_true, if_false, if_true]
          exact setZero_sound hR (sideOkV_weaken (fun _ => rfl) (hI u hu hu0 (by rw [hv2]; cases t2 <;> rfl)))
        · have hv0 : v ≠ 0 := fun h => z2 (by rw [hv, h])
          simp only [hi1, hi2, Bool.false_eq_true, if_false]
          apply adjust_sound hR
          rw [normalIsOpen_fin hi1, normalIsOpen_fin hi2, hu, hv]
          simpa [ExtRat.div] using hF u v hu hv hu0 hv0

/-! ### reciprocals -/

theorem cmp_inv_pos {o : Bool} {x y : Rat} (hx : 0 < x) (h : cmp o x y) : cmp o (1 / y) (1 / x) := by
  cases o <;> simp only [cmp_true, cmp_false] at h ⊢
  · exact one_div_le_one_div_of_le hx h
  · exact one_div_lt_one_div_of_lt hx h

theorem cmp_inv_neg {o : Bool} {x y : Rat} (hy : y < 0) (h : cmp o x y) : cmp o (1 / y) (1 / x) := by
  have h' : cmp o (-y) (-x) := cmp_neg.mpr h
  have := cmp_inv_pos (neg_pos.mpr hy) h'
  have e1 : 1 / -x = -(1 / x) := by rw [one_div, one_div, inv_neg]
  have e2 : 1 / -y = -(1 / y) := by rw [one_div, one_div, inv_neg]
  rw [e1, e2] at this
  exact cmp_neg.mp this

theorem div_of_mul {tt : BT} {u v a b : Rat} {o1 o2 : Bool} (hu : u ≠ 0) (hv : v ≠ 0)
    (h : sideOkV tt (fin (u * (1 / v))) (zopen u o1 (1 / v) o2) (a * (1 / b))) :
    sideOkV tt (fin (u / v)) (o1 || o2) (a / b) := by
  have hv' : (1 : Rat) / v ≠ 0 := one_div_ne_zero hv
  rw [zopen_ne hu hv', mul_one_div, mul_one_div] at h
  exact h

theorem zdiv_LP {o : Bool} {a b : Rat} (h : cmp o 0 a) (hb : 0 < b) : cmp o 0 (a / b) := by
  cases o <;> simp only [cmp_true, cmp_false] at h ⊢
  · exact div_nonneg h hb.le
  · exact div_pos h hb
theorem zdiv_UP {o : Bool} {a b : Rat} (h : cmp o a 0) (hb : 0 < b) : cmp o (a / b) 0 := by
  cases o <;> simp only [cmp_true, cmp_false] at h ⊢
  · exact div_nonpos_of_nonpos_of_nonneg h hb.le
  · exact div_neg_of_neg_of_pos h hb
theorem zdiv_LN {o : Bool} {a b : Rat} (h : cmp o 0 a) (hb : b < 0) : cmp o (a / b) 0 := by
  cases o <;> simp only [cmp_true, cmp_false] at h ⊢
  · exact div_nonpos_of_nonneg_of_nonpos h hb.le
  · exact div_neg_of_pos_of_neg h hb
theorem zdiv_UN {o : Bool} {a b : Rat} (h : cmp o a 0) (hb : b < 0) : cmp o 0 (a / b) := by
  cases o <;> simp only [cmp_true, cmp_false] at h ⊢
  · exact div_nonneg_of_nonpos h hb.le
  · exact div_pos_of_neg_of_neg h hb

/-! ### the entries of the division table -/
section entries
variable {p : Policy} {R : Rounding} {a b : Rat}

/-- `y ≥ 0`: `xl/yu` as lower bound, `xl ≥ 0` -/
theorem dentry_PP_L (hR : R.Sound) {xl yu : Bound} (h1 : lowerOk p xl a) (h2 : upperOk p yu b)
    (hx : xl.value.sgn ≥ 0) (hb : 0 < b) :
    lowerOk p (bDivZ p R .lower p .lower xl xl.value.sgn p .upper yu yu.value.sgn) (a / b) := by
  apply bDivZ_sound (tt := .lower) (t1 := .lower) (t2 := .upper) hR h1 h2
  · intro u v hu hv hu0 hv0
    have hl10 := lo_nonneg_fin hx hu
    have c2 := hi_cmp h2 hv
    have hvp : 0 < v := lt_of_lt_of_le hb (cmp_le c2)
    apply div_of_mul hu0 hv0
    exact (lowerOkV_fin_iff _ _ _).mpr
      (mulV1 hl10 (one_div_pos.mpr hvp).le (lo_cmp h1 hu) (cmp_inv_pos hb c2))
  · intro hz; exact (lowerOkV_fin_iff _ _ _).mpr (zdiv_LP (lo_cmp h1 hz) hb)
  · intro u hu hu0 _
    have hl10 := lo_nonneg_fin hx hu
    have : 0 < a := lt_of_lt_of_le (lt_of_le_of_ne hl10 (Ne.symm hu0)) (cmp_le (lo_cmp h1 hu))
    exact (lowerOkV_fin_open _ _).mpr (div_pos this hb)

/-- `y ≥ 0`: `xu/yl` as upper bound, `x ≥ 0` -/
theorem dentry_PP_U (hR : R.Sound) {xu yl : Bound} (h1 : upperOk p xu a) (h2 : lowerOk p yl b)
    (ha0 : 0 ≤ a) (hy : yl.value.sgn ≥ 0) (hb : 0 < b) :
    upperOk p (bDivZ p R .upper p .upper xu xu.value.sgn p .lower yl yl.value.sgn) (a / b) := by
  apply bDivZ_sound (tt := .upper) (t1 := .upper) (t2 := .lower) hR h1 h2
  · intro u v hu hv hu0 hv0
    have hl20 := lo_nonneg_fin hy hv
    have hvp : 0 < v := lt_of_le_of_ne hl20 (Ne.symm hv0)
    apply div_of_mul hu0 hv0
    exact (upperOkV_fin_iff _ _ _).mpr
      (mulV2 ha0 (one_div_pos.mpr hb).le (hi_cmp h1 hu) (cmp_inv_pos hvp (lo_cmp h2 hv)))
  · intro hz; exact (upperOkV_fin_iff _ _ _).mpr (zdiv_UP (hi_cmp h1 hz) hb)
  · exact fun u _ _ hinf => absurd hinf (lo_nonneg h2 hy).1

/-- `y ≥ 0`: `xl/yl` as lower bound, `xl < 0` -/
theorem dentry_NP_L (hR : R.Sound) {xl yl : Bound} (h1 : lowerOk p xl a) (h2 : lowerOk p yl b)
    (hx : ¬ xl.value.sgn ≥ 0) (hy : yl.value.sgn ≥ 0) (hb : 0 < b) :
    lowerOk p (bDivZ p R .lower p .lower xl xl.value.sgn p .lower yl yl.value.sgn) (a / b) := by
  apply bDivZ_sound (tt := .lower) (t1 := .lower) (t2 := .lower) hR h1 h2
  · intro u v hu hv hu0 hv0
    have hl20 := lo_nonneg_fin hy hv
    have hvp : 0 < v := lt_of_le_of_ne hl20 (Ne.symm hv0)
    apply div_of_mul hu0 hv0
    exact (lowerOkV_fin_iff _ _ _).mpr
      (mulV6 (lo_cmp h1 hu) (lo_neg_fin hx hu) (one_div_pos.mpr hb).le (cmp_inv_pos hvp (lo_cmp h2 hv)))
  · exact fun hz => absurd hz (lo_ne_zero hx)
  · exact fun u _ _ hinf => absurd hinf (lo_nonneg h2 hy).1

/-- `y ≥ 0`: `xu/yu` as upper bound, `xu ≤ 0` -/
theorem dentry_NP_U (hR : R.Sound) {xu yu : Bound} (h1 : upperOk p xu a) (h2 : upperOk p yu b)
    (hx : xu.value.sgn ≤ 0) (hb : 0 < b) :
    upperOk p (bDivZ p R .upper p .upper xu xu.value.sgn p .upper yu yu.value.sgn) (a / b) := by
  apply bDivZ_sound (tt := .upper) (t1 := .upper) (t2 := .upper) hR h1 h2
  · intro u v hu hv hu0 hv0
    have hu10 := hi_nonpos_fin hx hu
    have c2 := hi_cmp h2 hv
    have hvp : 0 < v := lt_of_lt_of_le hb (cmp_le c2)
    apply div_of_mul hu0 hv0
    exact (upperOkV_fin_iff _ _ _).mpr
      (mulV7 (hi_cmp h1 hu) hu10 (cmp_inv_pos hb c2) (one_div_pos.mpr hvp).le)
  · intro hz; exact (upperOkV_fin_iff _ _ _).mpr (zdiv_UP (hi_cmp h1 hz) hb)
  · intro u hu hu0 _
    have hu10 := hi_nonpos_fin hx hu
    have : a < 0 := lt_of_le_of_lt (cmp_le (hi_cmp h1 hu)) (lt_of_le_of_ne hu10 hu0)
    exact (upperOkV_fin_open _ _).mpr (div_neg_of_neg_of_pos this hb)

/-- `y ≥ 0`: `xu/yl` as upper bound, `xu > 0` -/
theorem dentry_SP_U (hR : R.Sound) {xu yl : Bound} (h1 : upperOk p xu a) (h2 : lowerOk p yl b)
    (hx : ¬ xu.value.sgn ≤ 0) (hy : yl.value.sgn ≥ 0) (hb : 0 < b) :
    upperOk p (bDivZ p R .upper p .upper xu xu.value.sgn p .lower yl yl.value.sgn) (a / b) := by
  apply bDivZ_sound (tt := .upper) (t1 := .upper) (t2 := .lower) hR h1 h2
  · intro u v hu hv hu0 hv0
    have hl20 := lo_nonneg_fin hy hv
    have hvp : 0 < v := lt_of_le_of_ne hl20 (Ne.symm hv0)
    apply div_of_mul hu0 hv0
    exact (upperOkV_fin_iff _ _ _).mpr
      (mulV14 (hi_cmp h1 hu) (hi_pos_fin hx hu) (one_div_pos.mpr hb).le (cmp_inv_pos hvp (lo_cmp h2 hv)))
  · exact fun hz => absurd hz (hi_ne_zero hx)
  · exact fun u _ _ hinf => absurd hinf (lo_nonneg h2 hy).1

/-- `y ≤ 0`: `xu/yu` as lower bound, `x ≥ 0` -/
theorem dentry_PN_L (hR : R.Sound) {xu yu : Bound} (h1 : upperOk p xu a) (h2 : upperOk p yu b)
    (ha0 : 0 ≤ a) (hy : yu.value.sgn ≤ 0) (hb : b < 0) :
    lowerOk p (bDivZ p R .lower p .upper xu xu.value.sgn p .upper yu yu.value.sgn) (a / b) := by
  apply bDivZ_sound (tt := .lower) (t1 := .upper) (t2 := .upper) hR h1 h2
  · intro u v hu hv hu0 hv0
    have hu20 := hi_nonpos_fin hy hv
    have hvn : v < 0 := lt_of_le_of_ne hu20 hv0
    apply div_of_mul hu0 hv0
    exact (lowerOkV_fin_iff _ _ _).mpr
      (mulV3 ha0 (hi_cmp h1 hu) (cmp_inv_neg hvn (hi_cmp h2 hv)) (one_div_neg.mpr hvn))
  · intro hz; exact (lowerOkV_fin_iff _ _ _).mpr (zdiv_UN (hi_cmp h1 hz) hb)
  · exact fun u _ _ hinf => absurd hinf (hi_nonpos h2 hy).1

/-- `y ≤ 0`: `xl/yl` as upper bound, `xl ≥ 0` -/
theorem dentry_PN_U (hR : R.Sound) {xl yl : Bound} (h1 : lowerOk p xl a) (h2 : lowerOk p yl b)
    (hx : xl.value.sgn ≥ 0) (hb : b < 0) :
    upperOk p (bDivZ p R .upper p .lower xl xl.value.sgn p .lower yl yl.value.sgn) (a / b) := by
  apply bDivZ_sound (tt := .upper) (t1 := .lower) (t2 := .lower) hR h1 h2
  · intro u v hu hv hu0 hv0
    have hl10 := lo_nonneg_fin hx hu
    have c2 := lo_cmp h2 hv
    have hvn : v < 0 := lt_of_le_of_lt (cmp_le c2) hb
    apply div_of_mul hu0 hv0
    exact (upperOkV_fin_iff _ _ _).mpr
      (mulV4 (lo_cmp h1 hu) hl10 (cmp_inv_neg hb c2) (one_div_neg.mpr hvn).le)
  · intro hz; exact (upperOkV_fin_iff _ _ _).mpr (zdiv_LN (lo_cmp h1 hz) hb)
  · intro u hu hu0 _
    have hl10 := lo_nonneg_fin hx hu
    have : 0 < a := lt_of_lt_of_le (lt_of_le_of_ne hl10 (Ne.symm hu0)) (cmp_le (lo_cmp h1 hu))
    exact (upperOkV_fin_open _ _).mpr (div_neg_of_pos_of_neg this hb)

/-- `y ≤ 0`: `xu/yl` as lower bound, `xu ≤ 0` -/
theorem dentry_NN_L (hR : R.Sound) {xu yl : Bound} (h1 : upperOk p xu a) (h2 : lowerOk p yl b)
    (hx : xu.value.sgn ≤ 0) (hb : b < 0) :
    lowerOk p (bDivZ p R .lower p .upper xu xu.value.sgn p .lower yl yl.value.sgn) (a / b) := by
  apply bDivZ_sound (tt := .lower) (t1 := .upper) (t2 := .lower) hR h1 h2
  · intro u v hu hv hu0 hv0
    have hu10 := hi_nonpos_fin hx hu
    have c2 := lo_cmp h2 hv
    have hvn : v < 0 := lt_of_le_of_lt (cmp_le c2) hb
    apply div_of_mul hu0 hv0
    exact (lowerOkV_fin_iff _ _ _).mpr
      (mulV8 (hi_cmp h1 hu) hu10 (cmp_inv_neg hb c2) (one_div_neg.mpr hvn).le)
  · intro hz; exact (lowerOkV_fin_iff _ _ _).mpr (zdiv_UN (hi_cmp h1 hz) hb)
  · intro u hu hu0 _
    have hu10 := hi_nonpos_fin hx hu
    have : a < 0 := lt_of_le_of_lt (cmp_le (hi_cmp h1 hu)) (lt_of_le_of_ne hu10 hu0)
    exact (lowerOkV_fin_open _ _).mpr (div_pos_of_neg_of_neg this hb)

/-- `y ≤ 0`: `xl/yu` as upper bound, `x ≤ 0` -/
theorem dentry_NN_U (hR : R.Sound) {xl yu : Bound} (h1 : lowerOk p xl a) (h2 : upperOk p yu b)
    (ha0 : a ≤ 0) (hy : yu.value.sgn ≤ 0) (hb : b < 0) :
    upperOk p (bDivZ p R .upper p .lower xl xl.value.sgn p .upper yu yu.value.sgn) (a / b) := by
  apply bDivZ_sound (tt := .upper) (t1 := .lower) (t2 := .upper) hR h1 h2
  · intro u v hu hv hu0 hv0
    have hu20 := hi_nonpos_fin hy hv
    have hvn : v < 0 := lt_of_le_of_ne hu20 hv0
    apply div_of_mul hu0 hv0
    exact (upperOkV_fin_iff _ _ _).mpr
      (mulV11 (lo_cmp h1 hu) ha0 (cmp_inv_neg hvn (hi_cmp h2 hv)) (one_div_neg.mpr hvn))
  · intro hz; exact (upperOkV_fin_iff _ _ _).mpr (zdiv_LN (lo_cmp h1 hz) hb)
  · exact fun u _ _ hinf => absurd hinf (hi_nonpos h2 hy).1

/-- `y ≤ 0`: `xu/yu` as lower bound, `xu > 0` -/
theorem dentry_SN_L (hR : R.Sound) {xu yu : Bound} (h1 : upperOk p xu a) (h2 : upperOk p yu b)
    (hx : ¬ xu.value.sgn ≤ 0) (hy : yu.value.sgn ≤ 0) (hb : b < 0) :
    lowerOk p (bDivZ p R .lower p .upper xu xu.value.sgn p .upper yu yu.value.sgn) (a / b) := by
  apply bDivZ_sound (tt := .lower) (t1 := .upper) (t2 := .upper) hR h1 h2
  · intro u v hu hv hu0 hv0
    have hu20 := hi_nonpos_fin hy hv
    have hvn : v < 0 := lt_of_le_of_ne hu20 hv0
    apply div_of_mul hu0 hv0
    exact (lowerOkV_fin_iff _ _ _).mpr
      (mulV12 (hi_cmp h1 hu) (hi_pos_fin hx hu) (cmp_inv_neg hvn (hi_cmp h2 hv)) (one_div_neg.mpr hb).le)
  · exact fun hz => absurd hz (hi_ne_zero hx)
  · exact fun u _ _ hinf => absurd hinf (hi_nonpos h2 hy).1

/-- `y ≤ 0`: `xl/yu` as upper bound, `xl < 0` -/
theorem dentry_SN_U (hR : R.Sound) {xl yu : Bound} (h1 : lowerOk p xl a) (h2 : upperOk p yu b)
    (hx : ¬ xl.value.sgn ≥ 0) (hy : yu.value.sgn ≤ 0) (hb : b < 0) :
    upperOk p (bDivZ p R .upper p .lower xl xl.value.sgn p .upper yu yu.value.sgn) (a / b) := by
  apply bDivZ_sound (tt := .upper) (t1 := .lower) (t2 := .upper) hR h1 h2
  · intro u v hu hv hu0 hv0
    have hu20 := hi_nonpos_fin hy hv
    have hvn : v < 0 := lt_of_le_of_ne hu20 hv0
    apply div_of_mul hu0 hv0
    exact (upperOkV_fin_iff _ _ _).mpr
      (mulV13 (lo_cmp h1 hu) (lo_neg_fin hx hu) (cmp_inv_neg hvn (hi_cmp h2 hv)) (one_div_neg.mpr hb).le)
  · exact fun hz => absurd hz (lo_ne_zero hx)
  · exact fun u _ _ hinf => absurd hinf (hi_nonpos h2 hy).1

end entries

theorem mem_universe (p : Policy) (a : Rat) : (Iv.universe p).mem p a := by
  simp [Iv.universe, Iv.mem, setUnbounded, lowerOk, upperOk, infOf]

/-- `div_assign`: enclosure of every defined quotient -/
theorem divAssign_encloses {p : Policy} {R : Rounding} (hR : R.Sound) {x y : Iv} {a b : Rat}
    (ha : x.mem p a) (hb : y.mem p b) (hb0 : b ≠ 0) : (divAssign p R x y).mem p (a / b) := by
  unfold divAssign
  simp only [checkEmptyArg_of_mem ha, checkEmptyArg_of_mem hb, infinitySign_of_mem ha, infinitySign_of_mem hb,
    sgnB_lower_of_mem ha, sgnB_upper_of_mem ha, sgnB_lower_of_mem hb, sgnB_upper_of_mem hb,
    xus_of_mem ha, xus_of_mem hb, Bool.or_self, Bool.false_eq_true, ↓reduceIte, bne_self_eq_false]
  refine mem_ite (fun hz => ?_) fun _ => mem_ite
    (fun hyl => mem_ite (fun hxl => ?_) fun hxl => mem_ite (fun hxu => ?_) fun hxu => ?_)
    fun hyl => mem_ite (fun hyu => mem_ite (fun hxl => ?_) fun hxl => mem_ite (fun hxu => ?_) fun hxu => ?_)
      fun _ => mem_universe p _
  · -- y = [0,0]: no non-zero member
    exfalso
    simp only [Bool.and_eq_true, beq_iff_eq] at hz
    have h1 := (lo_nonneg hb.1 (by rw [hz.1])).2
    have h2 := (hi_nonpos hb.2 (by rw [hz.2])).2
    exact hb0 (le_antisymm h2 h1)
  · -- y ≥ 0, x ≥ 0
    have hb1 := (lo_nonneg hb.1 hyl).2
    have hbp : 0 < b := lt_of_le_of_ne hb1 (Ne.symm hb0)
    have ha0 := (lo_nonneg ha.1 hxl).2
    exact ⟨dentry_PP_L hR ha.1 hb.2 hxl hbp, dentry_PP_U hR ha.2 hb.1 ha0 hyl hbp⟩
  · -- y ≥ 0, x ≤ 0
    have hb1 := (lo_nonneg hb.1 hyl).2
    have hbp : 0 < b := lt_of_le_of_ne hb1 (Ne.symm hb0)
    exact ⟨dentry_NP_L hR ha.1 hb.1 hxl hyl hbp, dentry_NP_U hR ha.2 hb.2 hxu hbp⟩
  · -- y ≥ 0, x straddles
    have hb1 := (lo_nonneg hb.1 hyl).2
    have hbp : 0 < b := lt_of_le_of_ne hb1 (Ne.symm hb0)
    exact ⟨dentry_NP_L hR ha.1 hb.1 hxl hyl hbp, dentry_SP_U hR ha.2 hb.1 hxu hyl hbp⟩
  · -- y ≤ 0, x ≥ 0
    have hb1 := (hi_nonpos hb.2 hyu).2
    have hbn : b < 0 := lt_of_le_of_ne hb1 hb0
    have ha0 := (lo_nonneg ha.1 hxl).2
    exact ⟨dentry_PN_L hR ha.2 hb.2 ha0 hyu hbn, dentry_PN_U hR ha.1 hb.1 hxl hbn⟩
  · -- y ≤ 0, x ≤ 0
    have hb1 := (hi_nonpos hb.2 hyu).2
    have hbn : b < 0 := lt_of_le_of_ne hb1 hb0
    have ha0 := (hi_nonpos ha.2 hxu).2
    exact ⟨dentry_NN_L hR ha.2 hb.1 hxu hbn, dentry_NN_U hR ha.1 hb.2 ha0 hyu hbn⟩
  · -- y ≤ 0, x straddles
    have hb1 := (hi_nonpos hb.2 hyu).2
    have hbn : b < 0 := lt_of_le_of_ne hb1 hb0
    exact ⟨dentry_SN_L hR ha.2 hb.2 hxu hyu hbn, dentry_SN_U hR ha.1 hb.2 hxl hyu hbn⟩

end PPLV.Interval

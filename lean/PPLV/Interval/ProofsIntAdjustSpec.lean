import PPLV.Interval.ProofsIntFinish
import PPLV.Interval.ProofsBound
/-!
# C12 / native integers: `adjust_boundary` is sound for the *meaning* of the result codes

`adjustBoundary_spec`: for ANY outcome `(stored, code)` of the checked layer that satisfies the clauses of
property C11 (`OKQ`: the code's relation between the exact result and the stored value is true, directed
rounding honoured — what `C11.op_holds_partial` proves of every operation of the checked-integer model but `sqrt`) and for
which `adjust_boundary` has a case label, the boundary it sets is a sound bound of the exact value, is
unbounded exactly when the code is of an infinity class, and carries OPEN only when that is justified.
-/
set_option linter.unusedSimpArgs false
namespace PPLV.Interval.Native
open PPLV.Interval PPLV.Interval.ExtRat PPLV.Checked PPLV.Checked.Result

theorem denote_cop (ty : IntTy) (v : Int) : ty.denote cop v = .fin v := by
  have h1 : cop.hasNan = false := rfl
  have h2 : cop.hasInfinity = false := rfl
  simp [IntTy.denote, IntTy.isNan, IntTy.isMinf, IntTy.isPinf, h1, h2]

theorem rrc_rel {r r' : Result} (h : resultRelationClass r = r') : r.rel = r'.rel := by
  rw [← h]; rfl
theorem rrc_cls {r r' : Result} (h : resultRelationClass r = r') : r.cls = r'.cls := by
  rw [← h]; rfl

/-- what a normal-class code says, read off `K4.holds` -/
theorem holds_normal {ty : IntTy} {dir : Dir} {out : Int × Result} {e : Rat}
    (hq : OKQ ty cop dir out (.fin e)) (hc : out.2.cls = .normal) :
    (out.2.rel.lt = true ∧ e < (out.1 : Rat)) ∨ (out.2.rel.eq = true ∧ e = (out.1 : Rat))
      ∨ (out.2.rel.gt = true ∧ (out.1 : Rat) < e) := by
  have h := hq.holds
  unfold K4.holds at h
  rw [hc] at h
  obtain ⟨_, _, hr⟩ := h
  rw [denote_cop] at hr
  unfold K4.relHolds at hr
  simp only [Ext.map, Ext.lt, Ext.eqv] at hr
  rcases hr with hr | hr | hr | hr
  · exact Or.inl hr
  · exact Or.inr (Or.inl hr)
  · exact Or.inr (Or.inr hr)
  · exact absurd hr.2 (by simp)

/-- the infinity labels: SPECIAL is set, every number is admitted -/
theorem spec_infinity (p : Policy) (hp : p.storeSpecial = true) (t : BT) {v : Int} {o shrink : Bool} {r r' : Result}
    {c : Cls} {nb : NB} {e : Rat} (hc : c ≠ .normal) (h : adjInfinity p ⟨v, false, false⟩ o r = (nb, r')) :
    (∀ a, sideOkV t (fin e) shrink a → sideOk p t (nb.toBound t) a) ∧ (nb.special = true ↔ c ≠ .normal) ∧
    (nb.open = true → shrink = true ∨ nb.special = true ∨ sideOkV t (fin (nb.raw : Rat)) true e) := by
  simp only [adjInfinity, hp, specialSetBoundaryInfinity, Bool.not_true, Bool.false_eq_true, if_false, if_true,
    Prod.mk.injEq] at h
  obtain ⟨rfl, _⟩ := h
  have hs : ∀ x : NB, ({ x with special := true } : NB).toBound t = ⟨infOf t, x.open⟩ := fun x => rfl
  refine ⟨fun a _ => ?_, ?_, fun _ => Or.inr (Or.inl ?_)⟩
  · unfold sideOk; rw [hs]; exact sideOkV_infOf t _ a
  · simp [hc]
  · rfl

/-- the normal labels: the stored value, which the code puts on the safe side of the exact one (strictly, for the
strict relation, which also forces OPEN) -/
theorem spec_normal (p : Policy) (t : BT) {v : Int} (strict : Bool) {shrink : Bool} {r r' : Result} {c : Cls} {nb : NB}
    {e : Rat} (hc : c = .normal) (hs : sideOkV t (fin (v : Rat)) strict e)
    (h : adjNormal p ⟨v, false, false⟩ (strict || shrink) r = (nb, r')) :
    (∀ a, sideOkV t (fin e) shrink a → sideOk p t (nb.toBound t) a) ∧ (nb.special = true ↔ c ≠ .normal) ∧
    (nb.open = true → shrink = true ∨ nb.special = true ∨ sideOkV t (fin (nb.raw : Rat)) true e) := by
  simp only [adjNormal, Prod.mk.injEq] at h
  obtain ⟨rfl, _⟩ := h
  refine ⟨fun a ha => ?_, ?_, fun hopen => ?_⟩
  · have := sideOkV_trans hs ha
    unfold sideOk
    cases strict <;> cases shrink <;> cases hso : p.storeOpen <;> simp [setOpenBit, hso, NB.toBound, getOpen] <;>
      exact sideOkV_weaken (by simp) this
  · cases strict <;> cases shrink <;> cases hso : p.storeOpen <;> simp [setOpenBit, hso, hc]
  · cases strict
    · cases shrink
      · simp at hopen
      · exact Or.inl rfl
    · refine Or.inr (Or.inr ?_)
      cases hso : p.storeOpen <;> simpa [setOpenBit, hso] using hs

theorem adjustBoundary_spec {ty : IntTy} (p : Policy) (hp : p.storeSpecial = true) (t : BT) (shrink : Bool)
    (out : Int × Result) (e : Rat) (hq : OKQ ty cop (dirOf t) out (.fin e)) (nb : NB) (r' : Result)
    (h : adjustBoundary p t ⟨out.1, false, false⟩ shrink out.2 = some (nb, r')) :
    (∀ a, sideOkV t (fin e) shrink a → sideOk p t (nb.toBound t) a) ∧
    (nb.special = true ↔ out.2.cls ≠ .normal) ∧
    (nb.open = true → shrink = true ∨ nb.special = true ∨ sideOkV t (fin (nb.raw : Rat)) true e) := by
  unfold adjustBoundary at h
  cases t <;> simp only at h <;> split_ifs at h with h1 h2 h3 h4
  -- the four case labels of LOWER, then those of UPPER; per side only the relation bits are read differently
  · exact spec_infinity p hp .lower (by rw [rrc_cls h1]; decide) (Option.some.inj h)
  · exact spec_infinity p hp .lower (by rw [rrc_cls h2]; decide) (Option.some.inj h)
  · refine spec_normal p .lower true (rrc_cls h3) ?_ (Option.some.inj h)
    rcases holds_normal hq (rrc_cls h3) with ⟨a, _⟩ | ⟨a, _⟩ | ⟨_, b⟩
    · rw [rrc_rel h3] at a; cases a
    · rw [rrc_rel h3] at a; cases a
    · simpa [sideOkV] using b
  · have hc : out.2.cls = .normal := by rcases h4 with h4 | h4 <;> exact rrc_cls h4
    refine spec_normal p .lower false hc ?_ (Option.some.inj h)
    rcases holds_normal hq hc with ⟨a, _⟩ | ⟨_, b⟩ | ⟨_, b⟩
    · rcases h4 with h4 | h4 <;> (rw [rrc_rel h4] at a; cases a)
    · simpa [sideOkV] using b.ge
    · simpa [sideOkV] using b.le
  · exact spec_infinity p hp .upper (by rw [rrc_cls h1]; decide) (Option.some.inj h)
  · exact spec_infinity p hp .upper (by rw [rrc_cls h2]; decide) (Option.some.inj h)
  · refine spec_normal p .upper true (rrc_cls h3) ?_ (Option.some.inj h)
    rcases holds_normal hq (rrc_cls h3) with ⟨_, b⟩ | ⟨a, _⟩ | ⟨a, _⟩
    · simpa [sideOkV] using b
    · rw [rrc_rel h3] at a; cases a
    · rw [rrc_rel h3] at a; cases a
  · have hc : out.2.cls = .normal := by rcases h4 with h4 | h4 <;> exact rrc_cls h4
    refine spec_normal p .upper false hc ?_ (Option.some.inj h)
    rcases holds_normal hq hc with ⟨_, b⟩ | ⟨_, b⟩ | ⟨a, _⟩
    · simpa [sideOkV] using b.le
    · simpa [sideOkV] using b.le
    · rcases h4 with h4 | h4 <;> (rw [rrc_rel h4] at a; cases a)

end PPLV.Interval.Native

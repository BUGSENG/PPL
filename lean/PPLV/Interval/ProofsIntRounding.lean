import PPLV.Interval.ProofsIntAdjust
/-!
# C12 / native integers: the rounding instance is sound

`roundSide_lower`, `roundSide_upper`: `Rounding.native ty` — defined as the C11 model of
`assign_r(T&, const mpq_class&, dir)` followed by the model of `adjust_boundary` — is `downSpec` /
`upSpec`; `native_sound`: `Rounding.Sound (Rounding.native ty)`.
-/
set_option linter.unusedSimpArgs false
namespace PPLV.Interval.Native
open PPLV.Interval PPLV.Interval.ExtRat PPLV.Checked PPLV.Checked.Result

theorem toBound_value_normal (t : BT) (v : Int) (o : Bool) : ((⟨v, false, o⟩ : NB).toBound t).value = fin (v : Rat) := rfl
theorem toBound_value_special (t : BT) (v : Int) (o : Bool) : ((⟨v, true, o⟩ : NB).toBound t).value = infOf t := rfl

theorem roundSide_lower {ty : IntTy} (hb : 1 ≤ ty.bits) (q : Rat) : roundSide ty .lower q = downSpec ty q := by
  obtain ⟨hmin, hmax⟩ := cmin_le_zero_le_cmax hb
  have hd : (0 : Int) < (q.den : Int) := by exact_mod_cast q.den_pos
  have hF : q.floor = if q.num.tmod q.den < 0 then q.num.tdiv q.den - 1 else q.num.tdiv q.den := by
    conv_lhs => rw [num_div_den' q]
    exact floor_of_tdiv q.num q.den hd
  obtain ⟨e, p, ng⟩ := tdiv_tmod_pos q.num hd
  unfold roundSide downSpec
  rw [hF]
  have hss : Policy.integer.storeSpecial = true := rfl
  have hco : cop.checkOverflow = true := rfl
  have hinf : cop.hasInfinity = false := rfl
  simp only [assignMpq, assignMpz, dirOf, emin_cop, emax_cop, hco, hinf, Bool.true_and,
    decide_eq_true_eq, setNegOverflow, setPosOverflow, Dir.roundUp, Dir.roundDown, Dir.notRequested]
  generalize q.num.tdiv q.den = T at *
  generalize q.num.tmod q.den = M at *
  by_cases h1 : T < ty.cmin
  · have hn : q.num < 0 := by
      by_contra hc
      have := (p (by omega)).2.2; omega
    have := ng hn
    simp only [h1, if_true]
    simp (decide := true) only [if_false, if_true, Bool.false_eq_true]
    rw [finish_lower_minf _ hss]
    simp only [toBound_value_special, infOf]
    have : (if M < 0 then T - 1 else T) < ty.cmin := by split <;> omega
    simp only [this, if_true]
  · simp only [h1, if_false]
    by_cases h2 : T > ty.cmax
    · have hn : 0 ≤ q.num := by
        by_contra hc
        have := (ng (by omega)).2.2; omega
      have := p hn
      simp only [h2, if_true]
      simp (decide := true) only [if_false, if_true, Bool.false_eq_true]
      rw [finish_lower_gt_sup]
      simp only [toBound_value_normal]
      have hM : ¬ M < 0 := by omega
      simp only [hM, if_false, h1]
      have : ty.cmax < T := h2
      simp only [this, if_true]
    · simp only [h2, if_false]
      rw [show (V_EQ != V_EQ) = false from by decide]
      simp (decide := true) only [if_false, if_true, Bool.false_eq_true]
      by_cases hM : M < 0
      · simp only [hM, if_true, roundLt, Dir.roundDown, emin_cop, hinf]
        simp (decide := true) only [if_false, if_true, Bool.false_eq_true]
        by_cases hT : T = ty.cmin
        · have hb' : (T == ty.cmin) = true := by simp [hT]
          simp only [hb', if_true]
          rw [finish_lower_minf _ hss]
          simp only [toBound_value_special, infOf]
          have : T - 1 < ty.cmin := by omega
          simp only [this, if_true]
        · have hb' : (T == ty.cmin) = false := by simp [hT]
          simp only [hb', if_false, Bool.false_eq_true]
          rw [finish_lower_gt]
          simp only [toBound_value_normal]
          have a : ¬ T - 1 < ty.cmin := by omega
          have b : ¬ ty.cmax < T - 1 := by omega
          simp only [a, b, if_false]
      · simp only [hM, if_false]
        have a : ¬ T < ty.cmin := h1
        have b : ¬ ty.cmax < T := by omega
        simp only [a, b, if_false]
        by_cases hM2 : M > 0
        · simp only [hM2, if_true, roundGt, Dir.roundUp]
          simp (decide := true) only [if_false, if_true, Bool.false_eq_true]
          rw [finish_lower_gt]
          simp only [toBound_value_normal]
        · simp only [hM2, if_false]
          rw [finish_lower_eq]
          simp only [toBound_value_normal]

theorem roundSide_upper {ty : IntTy} (hb : 1 ≤ ty.bits) (q : Rat) : roundSide ty .upper q = upSpec ty q := by
  obtain ⟨hmin, hmax⟩ := cmin_le_zero_le_cmax hb
  have hd : (0 : Int) < (q.den : Int) := by exact_mod_cast q.den_pos
  have hC : q.ceil = if 0 < q.num.tmod q.den then q.num.tdiv q.den + 1 else q.num.tdiv q.den := by
    conv_lhs => rw [num_div_den' q]
    exact ceil_of_tdiv q.num q.den hd
  obtain ⟨e, p, ng⟩ := tdiv_tmod_pos q.num hd
  unfold roundSide upSpec
  rw [hC]
  have hss : Policy.integer.storeSpecial = true := rfl
  have hco : cop.checkOverflow = true := rfl
  have hinf : cop.hasInfinity = false := rfl
  simp only [assignMpq, assignMpz, dirOf, emin_cop, emax_cop, hco, hinf, Bool.true_and,
    decide_eq_true_eq, setNegOverflow, setPosOverflow, Dir.roundUp, Dir.roundDown, Dir.notRequested]
  generalize q.num.tdiv q.den = T at *
  generalize q.num.tmod q.den = M at *
  by_cases h1 : T < ty.cmin
  · have hn : q.num < 0 := by
      by_contra hc
      have := (p (by omega)).2.2; omega
    have := ng hn
    simp only [h1, if_true]
    simp (decide := true) only [if_false, if_true, Bool.false_eq_true]
    rw [finish_upper_lt_inf]
    simp only [toBound_value_normal]
    have hM : ¬ 0 < M := by omega
    have a : ¬ ty.cmax < T := by omega
    simp only [hM, if_false, a, h1, if_true]
  · simp only [h1, if_false]
    by_cases h2 : T > ty.cmax
    · have hn : 0 ≤ q.num := by
        by_contra hc
        have := (ng (by omega)).2.2; omega
      have := p hn
      simp only [h2, if_true]
      simp (decide := true) only [if_false, if_true, Bool.false_eq_true]
      rw [finish_upper_pinf _ hss]
      simp only [toBound_value_special, infOf]
      have : ty.cmax < (if 0 < M then T + 1 else T) := by split <;> omega
      simp only [this, if_true]
    · simp only [h2, if_false]
      simp (decide := true) only [if_false, if_true, Bool.false_eq_true]
      by_cases hM : M < 0
      · simp only [hM, if_true, roundLt, Dir.roundDown]
        simp (decide := true) only [if_false, if_true, Bool.false_eq_true]
        rw [finish_upper_lt]
        simp only [toBound_value_normal]
        have hM' : ¬ 0 < M := by omega
        have a : ¬ ty.cmax < T := by omega
        simp only [hM', if_false, a, h1]
      · simp only [hM, if_false]
        by_cases hM2 : M > 0
        · have hM2' : 0 < M := hM2
          simp only [hM2, hM2', if_true, roundGt, Dir.roundUp, emax_cop, hinf]
          simp (decide := true) only [if_false, if_true, Bool.false_eq_true]
          by_cases hT : T = ty.cmax
          · have hb' : (T == ty.cmax) = true := by simp [hT]
            simp only [hb', if_true]
            rw [finish_upper_pinf _ hss]
            simp only [toBound_value_special, infOf]
            have : ty.cmax < T + 1 := by omega
            simp only [this, if_true]
          · have hb' : (T == ty.cmax) = false := by simp [hT]
            simp only [hb', if_false, Bool.false_eq_true]
            rw [finish_upper_lt]
            simp only [toBound_value_normal]
            have a : ¬ ty.cmax < T + 1 := by omega
            have b : ¬ T + 1 < ty.cmin := by omega
            simp only [a, b, if_false]
        · have hM2' : ¬ 0 < M := hM2
          simp only [hM2, hM2', if_false]
          rw [finish_upper_eq]
          simp only [toBound_value_normal]
          have a : ¬ ty.cmax < T := by omega
          simp only [a, h1, if_false]

/-- **`Rounding.native ty` is a sound directed rounding** (`down q ≤ q ≤ up q`, overflow to the infinity of
the direction), for every width and signedness -/
theorem native_sound {ty : IntTy} (hb : 1 ≤ ty.bits) : Rounding.Sound (Rounding.native ty) := by
  constructor
  · intro q
    show lowerOkV (roundSide ty .lower q) false q
    rw [roundSide_lower hb]
    unfold downSpec
    have h1 := Rat.floor_le q
    split
    · simp
    · split
      · rename_i h
        simp only [lowerOkV_fin_closed]
        have : ((ty.cmax : Int) : Rat) < (q.floor : Rat) := by exact_mod_cast h
        linarith
      · simp only [lowerOkV_fin_closed]; exact h1
  · intro q
    show upperOkV (roundSide ty .upper q) false q
    rw [roundSide_upper hb]
    unfold upSpec
    have h1 := Rat.le_ceil (x := q)
    split
    · simp
    · split
      · rename_i h
        simp only [upperOkV_fin_closed]
        have : ((q.ceil : Int) : Rat) < (ty.cmin : Rat) := by exact_mod_cast h
        linarith
      · simp only [upperOkV_fin_closed]; exact h1

theorem native_down {ty : IntTy} (hb : 1 ≤ ty.bits) (q : Rat) : (Rounding.native ty).down q = downSpec ty q :=
  roundSide_lower hb q
theorem native_up {ty : IntTy} (hb : 1 ≤ ty.bits) (q : Rat) : (Rounding.native ty).up q = upSpec ty q :=
  roundSide_upper hb q

end PPLV.Interval.Native

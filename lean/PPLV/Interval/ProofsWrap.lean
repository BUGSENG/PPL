import PPLV.Interval.ProofsSet
import Mathlib.Data.Rat.Floor
import Mathlib.Algebra.Order.Floor.Ring
/-!
# C12 — `Interval::wrap_assign` with the width test repaired (`u ≥ lower`, `d12 = false`) and exact
rounding: every member's residue that lies in the refinement is in the result
-/
set_option linter.unnecessarySeqFocus false
set_option linter.unusedSimpArgs false
namespace PPLV.Interval
open ExtRat (ninf fin pinf)

/-- the period index `⌊x / 2^w⌋` -/
def kk (x : Rat) (w : Nat) : Int := ⌊x / (2 : Rat) ^ w⌋

theorem pow2w_pos (w : Nat) : (0 : Rat) < (2 : Rat) ^ w := by positivity

theorem umod_eq (x : Rat) (w : Nat) : umod2exp x w = x - (2 : Rat) ^ w * (kk x w : Rat) := by
  unfold umod2exp kk; rfl

theorem kk_le (x : Rat) (w : Nat) : (2 : Rat) ^ w * (kk x w : Rat) ≤ x := by
  rw [mul_comm]; exact (le_div_iff₀ (pow2w_pos w)).mp (Int.floor_le _)

theorem lt_kk_succ (x : Rat) (w : Nat) : x < (2 : Rat) ^ w * ((kk x w : Rat) + 1) := by
  rw [mul_comm]; exact (div_lt_iff₀ (pow2w_pos w)).mp (Int.lt_floor_add_one _)

theorem umod_nonneg (x : Rat) (w : Nat) : 0 ≤ umod2exp x w := by
  rw [umod_eq]; linarith [kk_le x w]

theorem umod_lt (x : Rat) (w : Nat) : umod2exp x w < (2 : Rat) ^ w := by
  rw [umod_eq]; have := lt_kk_succ x w; linarith

theorem kk_mono {x y : Rat} (w : Nat) (h : x ≤ y) : kk x w ≤ kk y w := by
  unfold kk
  exact Int.floor_mono (div_le_div_of_nonneg_right h (pow2w_pos w).le)

/-- the index is determined by the period the value lies in -/
theorem kk_unique {x : Rat} {w : Nat} {k : Int} (h1 : (2 : Rat) ^ w * (k : Rat) ≤ x)
    (h2 : x < (2 : Rat) ^ w * ((k : Rat) + 1)) : kk x w = k := by
  unfold kk
  rw [Int.floor_eq_iff]
  have hm := pow2w_pos w
  constructor
  · rw [le_div_iff₀ hm]; linarith
  · rw [div_lt_iff₀ hm]; linarith

theorem kk_le_succ {x y : Rat} (w : Nat) (h : y - x < (2 : Rat) ^ w) : kk y w ≤ kk x w + 1 := by
  by_contra hc
  have hc' : ((kk x w : Rat) + 1) + 1 ≤ (kk y w : Rat) := by exact_mod_cast (by omega : kk x w + 1 + 1 ≤ kk y w)
  have := mul_le_mul_of_nonneg_left hc' (pow2w_pos w).le
  rw [mul_add, mul_one] at this
  linarith [kk_le y w, lt_kk_succ x w]

/-- no wrap-around inside `[l,h]`: residues stay ordered -/
theorem umod_caseA {l h a : Rat} {w : Nat} (hw : h - l < (2 : Rat) ^ w) (hla : l ≤ a) (hah : a ≤ h)
    (hmod : umod2exp l w ≤ umod2exp h w) :
    umod2exp l w ≤ umod2exp a w ∧ umod2exp a w ≤ umod2exp h w := by
  have hm := pow2w_pos w
  have k1 := kk_mono w hla
  have k2 := kk_mono w hah
  have k3 := kk_le_succ w hw
  have hk : kk h w = kk l w := by
    by_contra hne
    have : kk h w = kk l w + 1 := by omega
    rw [umod_eq, umod_eq, this] at hmod
    push_cast at hmod
    rw [mul_add, mul_one] at hmod
    linarith
  have hka : kk a w = kk l w := by omega
  rw [umod_eq, umod_eq, umod_eq, hka, hk]
  constructor <;> linarith

/-- one wrap-around inside `[l,h]`: a residue is above that of `l` or below that of `h` -/
theorem umod_caseB {l h a : Rat} {w : Nat} (hw : h - l < (2 : Rat) ^ w) (hla : l ≤ a) (hah : a ≤ h) :
    umod2exp l w ≤ umod2exp a w ∨ umod2exp a w ≤ umod2exp h w := by
  have k1 := kk_mono w hla
  have k2 := kk_mono w hah
  have k3 := kk_le_succ w hw
  by_cases hka : kk a w = kk l w
  · left; rw [umod_eq, umod_eq, hka]; linarith
  · right
    have : kk a w = kk h w := by omega
    rw [umod_eq, umod_eq, this]; linarith

/-- the signed residue is the unsigned residue of the value shifted by half a period -/
theorem smod_eq (x : Rat) (w : Nat) :
    smod2exp x w = umod2exp (x + (2 : Rat) ^ w / 2) w - (2 : Rat) ^ w / 2 := by
  have hm := pow2w_pos w
  unfold smod2exp
  simp only []
  have e := umod_eq x w
  have h0 := umod_nonneg x w
  have h1 := umod_lt x w
  split_ifs with hh
  · have hk : kk (x + (2 : Rat) ^ w / 2) w = kk x w + 1 := by
      apply kk_unique
      · push_cast; rw [e] at hh; rw [mul_add, mul_one]; linarith
      · push_cast; rw [e] at h1; rw [mul_add, mul_add, mul_one]; linarith
    rw [umod_eq (x + (2 : Rat) ^ w / 2) w, hk, e]; push_cast; ring
  · have hk : kk (x + (2 : Rat) ^ w / 2) w = kk x w := by
      apply kk_unique
      · rw [e] at h0; linarith
      · rw [e] at hh; rw [mul_add, mul_one]; linarith
    rw [umod_eq (x + (2 : Rat) ^ w / 2) w, hk, e]; ring

/-- the residue of a value in a representation -/
def wrapVal (r : Repn) (w : Nat) (a : Rat) : Rat :=
  match r with
  | .unsigned => umod2exp a w
  | .signed2c => smod2exp a w

/-- in both representations the residue is an unsigned residue of the shifted value, shifted back -/
theorem wrapVal_shift (r : Repn) (w : Nat) : ∃ s : Rat, ∀ x, wrapVal r w x = umod2exp (x + s) w - s := by
  cases r
  · exact ⟨0, fun x => by simp [wrapVal]⟩
  · exact ⟨(2 : Rat) ^ w / 2, fun x => smod_eq x w⟩

theorem wrap_caseA {r : Repn} {l h a : Rat} {w : Nat} (hw : h - l < (2 : Rat) ^ w) (hla : l ≤ a) (hah : a ≤ h)
    (hmod : wrapVal r w l ≤ wrapVal r w h) : wrapVal r w l ≤ wrapVal r w a ∧ wrapVal r w a ≤ wrapVal r w h := by
  obtain ⟨s, hs⟩ := wrapVal_shift r w
  simp only [hs] at hmod ⊢
  have := umod_caseA (w := w) (by rwa [add_sub_add_right_eq_sub]) (add_le_add_left hla s) (add_le_add_left hah s)
    ((sub_le_sub_iff_right s).mp hmod)
  exact ⟨sub_le_sub_right this.1 s, sub_le_sub_right this.2 s⟩

theorem wrap_caseB {r : Repn} {l h a : Rat} {w : Nat} (hw : h - l < (2 : Rat) ^ w) (hla : l ≤ a) (hah : a ≤ h) :
    wrapVal r w l ≤ wrapVal r w a ∨ wrapVal r w a ≤ wrapVal r w h := by
  obtain ⟨s, hs⟩ := wrapVal_shift r w
  simp only [hs]
  exact (umod_caseB (w := w) (by rwa [add_sub_add_right_eq_sub]) (add_le_add_left hla s)
    (add_le_add_left hah s)).imp (sub_le_sub_right · s) (sub_le_sub_right · s)

theorem le_closed (p : Policy) (x y : Rat) :
    le p .lower ⟨fin x, false⟩ p .upper ⟨fin y, false⟩ = decide (x ≤ y) := by
  simp [le, gt, lt, isOpen, getOpen, isBoundaryInfinity_eq, normalIsBoundaryInfinity, isMinusInfinity_lower,
    isPlusInfinity_upper, isPlusInfinity_lower, isMinusInfinity_upper, ExtRat.le, ExtRat.lt, ← not_le]

theorem bMod2exp_closed (signed : Bool) (p : Policy) (t : BT) (q : Rat) (w : Nat) :
    bMod2exp signed p Rounding.id t ⟨fin q, false⟩ w
      = ⟨fin (if signed then smod2exp q w else umod2exp q w), false⟩ := by
  cases t <;> simp [bMod2exp, isBoundaryInfinity_eq, normalIsBoundaryInfinity, adjust_id, normalIsOpen, getOpen]

theorem wrapVal_signed (r : Repn) (w : Nat) (q : Rat) :
    (if (r == Repn.signed2c) = true then smod2exp q w else umod2exp q w) = wrapVal r w q := by
  cases r <;> simp [wrapVal]

/-- `wrap_assign` with the repaired width test: the residue of every member, if it lies in the
refinement, is in the result -/
theorem wrapAssign_encloses {p : Policy} {tv ref : Iv} {w : Nat} {r : Repn} {a : Rat}
    (ha : tv.mem p a) (hr : ref.mem p (wrapVal r w a)) :
    (wrapAssign false p Rounding.id tv w r ref).mem p (wrapVal r w a) := by
  have hR := Rounding.id_sound
  unfold wrapAssign
  rw [isEmpty_of_mem ha]
  simp only [Bool.false_eq_true, ↓reduceIte]
  split_ifs with hinf
  · exact assign_encloses hR hr
  · -- both bounds finite
    simp only [isBoundaryInfinity_eq, Bool.or_eq_true, not_or, Bool.not_eq_true] at hinf
    rcases sideOk_cases (t := .lower) ha.1 with ⟨h1, _⟩ | ⟨_, l, hl⟩
    · rw [hinf.1] at h1; simp at h1
    rcases sideOk_cases (t := .upper) ha.2 with ⟨h2, _⟩ | ⟨_, h, hh⟩
    · rw [hinf.2] at h2; simp at h2
    have hla : l ≤ a := by have := ha.1; unfold lowerOk at this; rw [hl] at this; exact lowerOkV_fin_le this
    have hah : a ≤ h := by have := ha.2; unfold upperOk at this; rw [hh] at this; exact upperOkV_fin_le this
    rw [hl, hh]
    have hup : Rounding.id.up (h - (2 : Rat) ^ w) = fin (h - (2 : Rat) ^ w) := rfl
    dsimp only
    rw [hup]
    dsimp only
    split_ifs with hwide hle
    · exact assign_encloses hR hr
    · -- no wrap-around
      have hw : h - l < (2 : Rat) ^ w := by linarith [not_le.mp hwide]
      simp only [bMod2exp_closed, wrapVal_signed, le_closed, decide_eq_true_eq] at hle ⊢
      obtain ⟨c1, c2⟩ := wrap_caseA hw hla hah hle
      exact intersectAssign_encloses hR (mem_closed.mpr ⟨c1, c2⟩) hr
    · -- one wrap-around: the join of the two pieces
      have hw : h - l < (2 : Rat) ^ w := by linarith [not_le.mp hwide]
      simp only [bMod2exp_closed, wrapVal_signed]
      apply joinAssign_encloses hR
      rcases wrap_caseB (r := r) hw hla hah with c | c
      · right
        apply intersectAssign_encloses hR _ hr
        refine ⟨bAssign_sound' (t := .lower) hR ?_, upperOk_setUnbounded p _⟩
        simpa [sideOk, sideOkV, getOpen] using c
      · left
        apply intersectAssign_encloses hR _ hr
        refine ⟨lowerOk_setUnbounded p _, ?_⟩
        simpa [lowerExtend, upperOk, getOpen] using c

/-- the code as written differs from the repaired code only on intervals of width exactly `2^w` -/
theorem wrapAssign_d12_eq {p : Policy} {tv ref : Iv} {w : Nat} {r : Repn}
    (hne : ∀ l h, tv.lo.value = fin l → tv.hi.value = fin h → h - l ≠ (2 : Rat) ^ w) :
    wrapAssign true p Rounding.id tv w r ref = wrapAssign false p Rounding.id tv w r ref := by
  unfold wrapAssign
  cases hl : tv.lo.value with
  | ninf => rfl
  | pinf => rfl
  | fin l =>
    cases hh : tv.hi.value with
    | ninf => rfl
    | pinf => rfl
    | fin h =>
      have hup : Rounding.id.up (h - (2 : Rat) ^ w) = fin (h - (2 : Rat) ^ w) := rfl
      have hn := hne l h hl hh
      have hiff : (l < h - (2 : Rat) ^ w) ↔ (l ≤ h - (2 : Rat) ^ w) := by
        constructor
        · exact le_of_lt
        · intro hle
          rcases lt_or_eq_of_le hle with h' | h'
          · exact h'
          · exact absurd (by linarith) hn
      dsimp only
      rw [hup]
      dsimp only
      simp only [Bool.true_eq_false, Bool.false_eq_true, ↓reduceIte, hiff]

theorem wrapAssign_encloses_asWritten {p : Policy} {tv ref : Iv} {w : Nat} {r : Repn} {a : Rat}
    (hne : ∀ l h, tv.lo.value = fin l → tv.hi.value = fin h → h - l ≠ (2 : Rat) ^ w)
    (ha : tv.mem p a) (hr : ref.mem p (wrapVal r w a)) :
    (wrapAssign true p Rounding.id tv w r ref).mem p (wrapVal r w a) := by
  rw [wrapAssign_d12_eq hne]; exact wrapAssign_encloses ha hr

end PPLV.Interval

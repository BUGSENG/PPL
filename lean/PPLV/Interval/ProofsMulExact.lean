import PPLV.Interval.ProofsMul
import PPLV.Interval.ProofsExact
/-!
# C12 — exactness of `mul_assign` for closed bounded operands and exact rounding: both bounds of
the result are products of end points of the operands (which are members), so the result is the
least interval containing the image.
-/
set_option linter.unnecessarySeqFocus false
set_option linter.unusedSimpArgs false
namespace PPLV.Interval
open ExtRat (ninf fin pinf)

theorem bMul_id_closed (p : Policy) (tt t1 t2 : BT) (u v : Rat) :
    bMul p Rounding.id tt p t1 ⟨fin u, false⟩ p t2 ⟨fin v, false⟩ = ⟨fin (u * v), false⟩ := by
  cases t1 <;> cases t2 <;>
    simp [bMul, bArith, isBoundaryInfinity, getSpecial, normalIsBoundaryInfinity, adjust_id, normalIsOpen,
      getOpen, ExtRat.mul]

theorem bMulZ_id_closed (p : Policy) (tt t1 t2 : BT) (u v : Rat) :
    bMulZ p Rounding.id tt p t1 ⟨fin u, false⟩ (fin u).sgn p t2 ⟨fin v, false⟩ (fin v).sgn
      = ⟨fin (u * v), false⟩ := by
  unfold bMulZ
  rw [sgn_fin_ne_zero, sgn_fin_ne_zero]
  by_cases hu : u = 0 <;> by_cases hv : v = 0 <;>
    simp [hu, hv, bMul_id_closed, setZero, adjust_id, getOpen]

/-- `b` is the closed bound at the product of an end point of `[l,u]` and an end point of `[m,n]` -/
def Corner (l u m n : Rat) (b : Bound) : Prop :=
  ∃ a c, (a = l ∨ a = u) ∧ (c = m ∨ c = n) ∧ b = ⟨fin (a * c), false⟩

/-- both bounds of `[l,u]·[m,n]` are products of end points -/
theorem mulAssign_corners (p : Policy) {l u m n : Rat} (hx : l ≤ u) (hy : m ≤ n) :
    ∃ a b a' b', (a = l ∨ a = u) ∧ (b = m ∨ b = n) ∧ (a' = l ∨ a' = u) ∧ (b' = m ∨ b' = n) ∧
      mulAssign false p Rounding.id (Iv.closed l u) (Iv.closed m n)
        = ⟨⟨fin (a * b), false⟩, ⟨fin (a' * b'), false⟩⟩ := by
  have ha : (Iv.closed l u).mem p l := mem_closed.mpr ⟨le_refl _, hx⟩
  have hb : (Iv.closed m n).mem p m := mem_closed.mpr ⟨le_refl _, hy⟩
  have hS : (mulStraddle false p Rounding.id (Iv.closed l u) (Iv.closed m n)).Both fun _ => Corner l u m n := by
    unfold mulStraddle replaceCandidate
    simp only [Iv.closed, bMul_id_closed]
    constructor <;> dsimp only <;> split
    exacts [⟨u, m, .inr rfl, .inl rfl, rfl⟩, ⟨l, n, .inl rfl, .inr rfl, rfl⟩,
      ⟨u, n, .inr rfl, .inr rfl, rfl⟩, ⟨l, m, .inl rfl, .inl rfl, rfl⟩]
  obtain ⟨⟨a, b, h1, h2, e1⟩, ⟨a', b', h3, h4, e2⟩⟩ := mulTable_ind (p := p) (R := Rounding.id)
    (Px := fun _ b s => ∃ a, (a = l ∨ a = u) ∧ b = ⟨fin a, false⟩ ∧ s = (fin a).sgn)
    (Py := fun _ b s => ∃ c, (c = m ∨ c = n) ∧ b = ⟨fin c, false⟩ ∧ s = (fin c).sgn)
    (Q := fun _ => Corner l u m n)
    (by rintro tt t1 t2 _ _ _ _ ⟨a, ha, rfl, rfl⟩ ⟨c, hc, rfl, rfl⟩
        exact ⟨a, c, ha, hc, bMulZ_id_closed p tt t1 t2 a c⟩)
    (x := Iv.closed l u) (y := Iv.closed m n)
    ⟨l, .inl rfl, rfl, rfl⟩ ⟨u, .inr rfl, rfl, rfl⟩ ⟨m, .inl rfl, rfl, rfl⟩ ⟨n, .inr rfl, rfl, rfl⟩ hS
  refine ⟨a, b, a', b', h1, h2, h3, h4, ?_⟩
  unfold mulAssign
  simp only [checkEmptyArg_of_mem ha, checkEmptyArg_of_mem hb, infinitySign_of_mem ha, infinitySign_of_mem hb,
    sgnB_lower_of_mem ha, sgnB_upper_of_mem ha, sgnB_lower_of_mem hb, sgnB_upper_of_mem hb,
    xus_of_mem ha, xus_of_mem hb, Bool.or_self, Bool.false_eq_true, ↓reduceIte, bne_self_eq_false]
  rw [← e1, ← e2]
  rfl

/-- the hull of the image is always inside the result (any operands, any sound rounding) -/
theorem mulAssign_hull_subset {p : Policy} {R : Rounding} (hR : R.Sound) {x y : Iv} {c s1 s2 : Rat}
    (h1 : ∃ a b, x.mem p a ∧ y.mem p b ∧ s1 = a * b) (h2 : ∃ a b, x.mem p a ∧ y.mem p b ∧ s2 = a * b)
    (hc1 : s1 ≤ c) (hc2 : c ≤ s2) : (mulAssign false p R x y).mem p c := by
  obtain ⟨a, b, ha, hb, rfl⟩ := h1
  obtain ⟨a', b', ha', hb', rfl⟩ := h2
  exact ⟨lowerOk_up (mulAssign_encloses hR ha hb).1 hc1, upperOk_down (mulAssign_encloses hR ha' hb').2 hc2⟩

/-- closed bounded operands, exact rounding: the result is exactly the hull of the image -/
theorem mulAssign_hull_closed {p : Policy} {l u m n : Rat} (hx : l ≤ u) (hy : m ≤ n) (c : Rat) :
    (mulAssign false p Rounding.id (Iv.closed l u) (Iv.closed m n)).mem p c ↔
      ∃ s1 s2, (∃ a b, (Iv.closed l u).mem p a ∧ (Iv.closed m n).mem p b ∧ s1 = a * b) ∧
               (∃ a b, (Iv.closed l u).mem p a ∧ (Iv.closed m n).mem p b ∧ s2 = a * b) ∧ s1 ≤ c ∧ c ≤ s2 := by
  constructor
  · intro h
    obtain ⟨a, b, a', b', ha, hb, ha', hb', he⟩ := mulAssign_corners p hx hy
    rw [he] at h
    have hm : ∀ z, (z = l ∨ z = u) → (Iv.closed l u).mem p z := by
      rintro z (rfl | rfl) <;> exact mem_closed.mpr ⟨by linarith, by linarith⟩
    have hm' : ∀ z, (z = m ∨ z = n) → (Iv.closed m n).mem p z := by
      rintro z (rfl | rfl) <;> exact mem_closed.mpr ⟨by linarith, by linarith⟩
    refine ⟨a * b, a' * b', ⟨a, b, hm a ha, hm' b hb, rfl⟩, ⟨a', b', hm a' ha', hm' b' hb', rfl⟩, ?_, ?_⟩
    · have := h.1; simpa [lowerOk, getOpen] using this
    · have := h.2; simpa [upperOk, getOpen] using this
  · rintro ⟨s1, s2, h1, h2, hc1, hc2⟩
    exact mulAssign_hull_subset Rounding.id_sound h1 h2 hc1 hc2

end PPLV.Interval

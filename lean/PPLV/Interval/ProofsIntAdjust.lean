import PPLV.Interval.IntModel
import PPLV.Interval.ProofsBasic
import PPLV.Checked.ProofsDiv
import PPLV.Checked.ProofsConv
/-!
# C12 / native integers: `adjust_boundary` case by case

* `adjL_*`, `adjU_*`: what `adjustBoundary` does for each result code of its two `switch`es;
* `finish_*`: the boundary left by "checked operation, then `adjust_boundary`" for each ending of the
  checked operation;
* `floor_of_tdiv`, `ceil_of_tdiv`: truncating division against floor / ceiling;
* `downSpec`, `upSpec`: "floor (ceiling), saturated at the far end of the range, infinite beyond the near end",
  which `ProofsIntRounding` shows to be the rounding instance `Rounding.native`.
-/
set_option linter.unusedSimpArgs false
namespace PPLV.Interval.Native
open PPLV.Interval PPLV.Interval.ExtRat PPLV.Checked PPLV.Checked.Result

/-! ## `adjust_boundary`, one lemma per case label -/

/-- `adjustBoundary` depends on the code only through `result_relation_class` -/
theorem adjustBoundary_congr (p : Policy) (t : BT) (x : NB) (o : Bool) {r r' : Result}
    (h : resultRelationClass r = resultRelationClass r') : adjustBoundary p t x o r = adjustBoundary p t x o r' := by
  unfold adjustBoundary; rw [h]

theorem adjL_EQ (p : Policy) (x : NB) (o : Bool) : adjustBoundary p .lower x o V_EQ = some (adjNormal p x o V_EQ) := by
  unfold adjustBoundary; rw [show resultRelationClass V_EQ = V_EQ from rfl]; simp (decide := true)
theorem adjL_GE (p : Policy) (x : NB) (o : Bool) : adjustBoundary p .lower x o V_GE = some (adjNormal p x o V_GE) := by
  unfold adjustBoundary; rw [show resultRelationClass V_GE = V_GE from rfl]; simp (decide := true)
theorem adjL_GT (p : Policy) (x : NB) (o : Bool) : adjustBoundary p .lower x o V_GT = some (adjNormal p x true V_GT) := by
  unfold adjustBoundary; rw [show resultRelationClass V_GT = V_GT from rfl]; simp (decide := true)
theorem adjL_GT_MINF (p : Policy) (x : NB) (o : Bool) :
    adjustBoundary p .lower x o V_GT_MINUS_INFINITY = some (adjInfinity p x true V_GT_MINUS_INFINITY) := by
  unfold adjustBoundary; rw [show resultRelationClass V_GT_MINUS_INFINITY = V_GT_MINUS_INFINITY from rfl]
  simp (decide := true)
theorem adjL_EQ_MINF (p : Policy) (x : NB) (o : Bool) :
    adjustBoundary p .lower x o V_EQ_MINUS_INFINITY = some (adjInfinity p x o V_EQ_MINUS_INFINITY) := by
  unfold adjustBoundary; rw [show resultRelationClass V_EQ_MINUS_INFINITY = V_EQ_MINUS_INFINITY from rfl]
  simp (decide := true)

theorem adjU_EQ (p : Policy) (x : NB) (o : Bool) : adjustBoundary p .upper x o V_EQ = some (adjNormal p x o V_EQ) := by
  unfold adjustBoundary; rw [show resultRelationClass V_EQ = V_EQ from rfl]; simp (decide := true)
theorem adjU_LE (p : Policy) (x : NB) (o : Bool) : adjustBoundary p .upper x o V_LE = some (adjNormal p x o V_LE) := by
  unfold adjustBoundary; rw [show resultRelationClass V_LE = V_LE from rfl]; simp (decide := true)
theorem adjU_LT (p : Policy) (x : NB) (o : Bool) : adjustBoundary p .upper x o V_LT = some (adjNormal p x true V_LT) := by
  unfold adjustBoundary; rw [show resultRelationClass V_LT = V_LT from rfl]; simp (decide := true)
theorem adjU_LT_PINF (p : Policy) (x : NB) (o : Bool) :
    adjustBoundary p .upper x o V_LT_PLUS_INFINITY = some (adjInfinity p x true V_LT_PLUS_INFINITY) := by
  unfold adjustBoundary; rw [show resultRelationClass V_LT_PLUS_INFINITY = V_LT_PLUS_INFINITY from rfl]
  simp (decide := true)
theorem adjU_EQ_PINF (p : Policy) (x : NB) (o : Bool) :
    adjustBoundary p .upper x o V_EQ_PLUS_INFINITY = some (adjInfinity p x o V_EQ_PLUS_INFINITY) := by
  unfold adjustBoundary; rw [show resultRelationClass V_EQ_PLUS_INFINITY = V_EQ_PLUS_INFINITY from rfl]
  simp (decide := true)

/-! ## the endings of a checked operation followed by `adjust_boundary` (cleared info) -/

theorem finish_lower_eq (p : Policy) (s : Bool) (v : Int) :
    finish p .lower s (v, V_EQ) = some ⟨v, false, p.storeOpen && s⟩ := by
  simp only [finish, adjL_EQ, adjNormal, setOpenBit]
  cases p.storeOpen <;> cases s <;> rfl

theorem finish_upper_eq (p : Policy) (s : Bool) (v : Int) :
    finish p .upper s (v, V_EQ) = some ⟨v, false, p.storeOpen && s⟩ := by
  simp only [finish, adjU_EQ, adjNormal, setOpenBit]
  cases p.storeOpen <;> cases s <;> rfl

theorem finish_lower_gt (p : Policy) (s : Bool) (v : Int) :
    finish p .lower s (v, V_GT) = some ⟨v, false, p.storeOpen⟩ := by
  simp only [finish, adjL_GT, adjNormal, setOpenBit]
  cases p.storeOpen <;> rfl

theorem finish_upper_lt (p : Policy) (s : Bool) (v : Int) :
    finish p .upper s (v, V_LT) = some ⟨v, false, p.storeOpen⟩ := by
  simp only [finish, adjU_LT, adjNormal, setOpenBit]
  cases p.storeOpen <;> rfl

/-- `V_GT_SUP = V_GT | V_OVERFLOW`: the lower bound saturates at the stored maximum -/
theorem finish_lower_gt_sup (p : Policy) (s : Bool) (v : Int) :
    finish p .lower s (v, V_GT_SUP) = some ⟨v, false, p.storeOpen⟩ := by
  rw [← finish_lower_gt p s v]
  unfold finish
  rw [adjustBoundary_congr p .lower _ s (show resultRelationClass V_GT_SUP = resultRelationClass V_GT from rfl)]

theorem finish_upper_lt_inf (p : Policy) (s : Bool) (v : Int) :
    finish p .upper s (v, V_LT_INF) = some ⟨v, false, p.storeOpen⟩ := by
  rw [← finish_upper_lt p s v]
  unfold finish
  rw [adjustBoundary_congr p .upper _ s (show resultRelationClass V_LT_INF = resultRelationClass V_LT from rfl)]

/-- `V_GT_MINUS_INFINITY | V_UNREPRESENTABLE`: nothing was stored; the bound becomes SPECIAL -/
theorem finish_lower_minf (p : Policy) (hp : p.storeSpecial = true) (s : Bool) (v : Int) :
    finish p .lower s (v, V_GT_MINUS_INFINITY.orUnrep) = some ⟨v, true, p.storeOpen⟩ := by
  unfold finish
  rw [adjustBoundary_congr p .lower _ s
    (show resultRelationClass V_GT_MINUS_INFINITY.orUnrep = resultRelationClass V_GT_MINUS_INFINITY from rfl)]
  simp only [adjL_GT_MINF, adjInfinity, hp, specialSetBoundaryInfinity, setOpenBit]
  cases p.storeOpen <;> rfl

theorem finish_upper_pinf (p : Policy) (hp : p.storeSpecial = true) (s : Bool) (v : Int) :
    finish p .upper s (v, V_LT_PLUS_INFINITY.orUnrep) = some ⟨v, true, p.storeOpen⟩ := by
  unfold finish
  rw [adjustBoundary_congr p .upper _ s
    (show resultRelationClass V_LT_PLUS_INFINITY.orUnrep = resultRelationClass V_LT_PLUS_INFINITY from rfl)]
  simp only [adjU_LT_PINF, adjInfinity, hp, specialSetBoundaryInfinity, setOpenBit]
  cases p.storeOpen <;> rfl

/-! ## the layout of `Check_Overflow_Policy<T>`: no special encodings -/

theorem emin_cop (ty : IntTy) : ty.emin cop = ty.cmin := by
  simp [IntTy.emin, cop, Policy.checkOverflowOnly, b2i]
theorem emax_cop (ty : IntTy) : ty.emax cop = ty.cmax := by
  simp [IntTy.emax, cop, Policy.checkOverflowOnly, b2i]

theorem wf_cop {ty : IntTy} (h : 1 ≤ ty.bits) : ty.WF cop :=
  ⟨h, fun h' => by simp [cop, Policy.checkOverflowOnly] at h'⟩

theorem cmin_le_zero_le_cmax {ty : IntTy} (h : 1 ≤ ty.bits) : ty.cmin ≤ 0 ∧ 0 ≤ ty.cmax := by
  have := IntTy.emin_le_emax (wf_cop h)
  rwa [emin_cop, emax_cop] at this

theorem finite_cop {ty : IntTy} {v : Int} : ty.finite cop v ↔ ty.cmin ≤ v ∧ v ≤ ty.cmax := by
  unfold IntTy.finite; rw [emin_cop, emax_cop]

/-! ## truncating division against floor and ceiling -/

theorem floor_unique {q : Rat} {z : Int} (h1 : (z : Rat) ≤ q) (h2 : q < (z : Rat) + 1) : q.floor = z := by
  have a : z ≤ q.floor := Rat.le_floor_iff.mpr h1
  have b : (q.floor : Rat) < ((z + 1 : Int) : Rat) := by
    have := Rat.floor_le q; push_cast; linarith
  have b' : q.floor < z + 1 := by exact_mod_cast b
  omega

theorem le_div_int {x y s : Int} (hy : 0 < y) : ((s : Rat) ≤ (x : Rat) / y) ↔ s * y ≤ x := by
  have hy' : (0 : Rat) < y := by exact_mod_cast hy
  rw [le_div_iff₀ hy']
  exact_mod_cast Iff.rfl

theorem floor_of_tdiv (n d : Int) (hd : 0 < d) :
    ((n : Rat) / d).floor = if n.tmod d < 0 then n.tdiv d - 1 else n.tdiv d := by
  obtain ⟨e, p, ng⟩ := tdiv_tmod_pos n hd
  generalize n.tdiv d = T at *
  generalize n.tmod d = M at *
  split
  · rename_i hM
    apply floor_unique
    · rw [le_div_int hd]
      have : (T - 1) * d = d * T - d := by ring
      rcases (by omega : 0 ≤ n ∨ n < 0) with h | h
      · have := p h; omega
      · have := ng h; omega
    · have : ((T - 1 : Int) : Rat) + 1 = ((T : Int) : Rat) := by push_cast; ring
      rw [this, div_lt_int hd]
      have : T * d = d * T := by ring
      omega
  · rename_i hM
    apply floor_unique
    · rw [le_div_int hd]
      have : T * d = d * T := by ring
      omega
    · have : ((T : Int) : Rat) + 1 = ((T + 1 : Int) : Rat) := by push_cast; ring
      rw [this, div_lt_int hd]
      have : (T + 1) * d = d * T + d := by ring
      rcases (by omega : 0 ≤ n ∨ n < 0) with h | h
      · have := p h; omega
      · have := ng h; omega

theorem ceil_of_tdiv (n d : Int) (hd : 0 < d) :
    ((n : Rat) / d).ceil = if 0 < n.tmod d then n.tdiv d + 1 else n.tdiv d := by
  have h := floor_of_tdiv (-n) d hd
  rw [Int.cast_neg, neg_div, Int.neg_tmod, Int.neg_tdiv] at h
  rw [Rat.ceil_eq_neg_floor_neg, h]
  split <;> split <;> omega

/-! ## the rounding instance, explicitly -/

/-- floor, saturated at the maximum, `−∞` below the minimum -/
def downSpec (ty : IntTy) (q : Rat) : ExtRat :=
  if q.floor < ty.cmin then ninf else if ty.cmax < q.floor then fin (ty.cmax : Rat) else fin (q.floor : Rat)

/-- ceiling, saturated at the minimum, `+∞` above the maximum -/
def upSpec (ty : IntTy) (q : Rat) : ExtRat :=
  if ty.cmax < q.ceil then pinf else if q.ceil < ty.cmin then fin (ty.cmin : Rat) else fin (q.ceil : Rat)

theorem num_div_den' (q : Rat) : q = (q.num : Rat) / ((q.den : Int) : Rat) := by
  have := Rat.num_div_den q
  push_cast
  exact this.symm

end PPLV.Interval.Native

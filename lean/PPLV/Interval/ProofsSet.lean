import PPLV.Interval.ProofsArith
/-!
# C12 — `assign`, `join_assign`, `intersect_assign`, `difference_assign`, `contains`,
`is_disjoint_from` read on sets of rationals
-/
set_option linter.unnecessarySeqFocus false
set_option linter.unusedSimpArgs false
namespace PPLV.Interval
open ExtRat (ninf fin pinf)

/-- `Boundary_NS::assign` to the same side only weakens -/
theorem bAssign_sound {p pf : Policy} {R : Rounding} (hR : R.Sound) {t : BT} {x : Bound} {a : Rat} {s : Bool}
    (h : sideOkV t x.value (s || getOpen pf x) a) : sideOk p t (bAssign p R t pf t x s) a := by
  unfold bAssign
  by_cases hs : getSpecial pf t x = true
  · simp only [hs, ↓reduceIte]; exact sideOk_setBoundaryInfinity p t _ _
  · simp only [hs, Bool.false_eq_true, ↓reduceIte]
    apply adjust_sound hR
    by_cases hi : normalIsBoundaryInfinity t x = true
    · have : x.value = infOf t := by
        unfold normalIsBoundaryInfinity at hi
        cases t <;> cases hv : x.value <;> simp_all [infOf]
      rw [this]; exact sideOkV_infOf _ _ _
    · rw [normalIsOpen_fin (by simpa using hi)]; exact h

theorem bAssign_sound' {p pf : Policy} {R : Rounding} (hR : R.Sound) {t : BT} {x : Bound} {a : Rat}
    (h : sideOk pf t x a) : sideOk p t (bAssign p R t pf t x) a :=
  bAssign_sound hR (by simpa [sideOk] using h)

/-- with exact rounding and the same policy, `assign` copies the bound (as a set constraint) -/
theorem bAssign_id_iff {p : Policy} {t : BT} {x : Bound} {a : Rat} :
    sideOk p t (bAssign p Rounding.id t p t x) a ↔ sideOk p t x a := by
  obtain ⟨v, o⟩ := x
  cases t <;> cases v <;> cases hss : p.storeSpecial <;> cases hso : p.storeOpen <;>
    simp [bAssign, getSpecial, setBoundaryInfinity, adjust_id, normalIsOpen, normalIsBoundaryInfinity,
      sideOk, sideOkV, getOpen, infOf, hss, hso]

theorem assign_encloses {p : Policy} {R : Rounding} (hR : R.Sound) {x : Iv} {a : Rat}
    (h : x.mem p a) : (assign p R p x).mem p a := by
  unfold assign
  rw [checkEmptyArg_of_mem h]
  exact ⟨bAssign_sound' (t := .lower) hR h.1, bAssign_sound' (t := .upper) hR h.2⟩

theorem not_mem_of_checkEmptyArg {p : Policy} {x : Iv} {a : Rat} (h : checkEmptyArg p x = true) : ¬ x.mem p a := by
  intro hm; rw [checkEmptyArg_of_mem hm] at h; simp at h

/-- `join_assign`: the result contains both operands -/
theorem joinAssign_encloses {p : Policy} {R : Rounding} (hR : R.Sound) {x y : Iv} {a : Rat}
    (h : x.mem p a ∨ y.mem p a) : (joinAssign p R x y).mem p a := by
  unfold joinAssign
  split_ifs with h1 h2
  · rcases h with h | h
    · exact absurd h (not_mem_of_checkEmptyArg h1)
    · exact assign_encloses hR h
  · rcases h with h | h
    · exact h
    · exact absurd h (not_mem_of_checkEmptyArg h2)
  · unfold bMin1 bMax1 gt
    refine ⟨?_, ?_⟩
    · show lowerOk p (if _ then _ else _) a
      split_ifs with hl
      · apply bAssign_sound' (t := .lower) hR
        rcases h with h | h
        · exact lt_lower_lower_true hl h.1
        · exact h.1
      · rcases h with h | h
        · exact h.1
        · exact lt_lower_lower_false (by simpa using hl) h.1
    · show upperOk p (if _ then _ else _) a
      split_ifs with hl
      · apply bAssign_sound' (t := .upper) hR
        rcases h with h | h
        · exact lt_upper_upper_true hl h.2
        · exact h.2
      · rcases h with h | h
        · exact h.2
        · exact lt_upper_upper_false (by simpa using hl) h.2

/-- `intersect_assign`: the result contains the intersection -/
theorem intersectAssign_encloses {p : Policy} {R : Rounding} (hR : R.Sound) {x y : Iv} {a : Rat}
    (hx : x.mem p a) (hy : y.mem p a) : (intersectAssign p R x y).mem p a := by
  unfold intersectAssign bMin1 bMax1
  refine ⟨?_, ?_⟩
  · show lowerOk p (if _ then _ else _) a
    split_ifs
    · exact bAssign_sound' (t := .lower) hR hy.1
    · exact hx.1
  · show upperOk p (if _ then _ else _) a
    split_ifs
    · exact bAssign_sound' (t := .upper) hR hy.2
    · exact hx.2

/-- with exact rounding the stronger of two lower (upper) bounds admits exactly what both admit -/
theorem bMax1_id_lower_iff {p : Policy} {x y : Bound} {a : Rat} :
    lowerOk p (bMax1 p Rounding.id .lower x p .lower y) a ↔ lowerOk p x a ∧ lowerOk p y a := by
  unfold bMax1 gt
  split <;> rename_i hl
  · exact (bAssign_id_iff (t := .lower)).trans ⟨fun h => ⟨lt_lower_lower_true hl h, h⟩, And.right⟩
  · exact ⟨fun h => ⟨h, lt_lower_lower_false (by simpa using hl) h⟩, And.left⟩

theorem bMin1_id_upper_iff {p : Policy} {x y : Bound} {a : Rat} :
    upperOk p (bMin1 p Rounding.id .upper x p .upper y) a ↔ upperOk p x a ∧ upperOk p y a := by
  unfold bMin1
  split <;> rename_i hl
  · exact (bAssign_id_iff (t := .upper)).trans ⟨fun h => ⟨lt_upper_upper_true hl h, h⟩, And.right⟩
  · exact ⟨fun h => ⟨h, lt_upper_upper_false (by simpa using hl) h⟩, And.left⟩

/-- with exact rounding `intersect_assign` is exactly the intersection -/
theorem intersectAssign_exact {p : Policy} {x y : Iv} {a : Rat} :
    (intersectAssign p Rounding.id x y).mem p a ↔ x.mem p a ∧ y.mem p a :=
  (and_congr bMax1_id_lower_iff bMin1_id_upper_iff).trans and_and_and_comm

/-- with exact rounding the join adds nothing outside the hull: every member of the result lies
between members of the operands, or is a member -/
theorem joinAssign_exact_bounds {p : Policy} {x y : Iv} {a : Rat}
    (h : (joinAssign p Rounding.id x y).mem p a) :
    (lowerOk p x.lo a ∨ lowerOk p y.lo a) ∧ (upperOk p x.hi a ∨ upperOk p y.hi a) := by
  unfold joinAssign at h
  split_ifs at h with h1 h2
  · unfold assign at h
    split_ifs at h with h3
    · exact absurd h (not_mem_empty p a)
    · obtain ⟨hl, hu⟩ := h
      rw [← sideOk_lower, bAssign_id_iff] at hl
      rw [← sideOk_upper, bAssign_id_iff] at hu
      exact ⟨Or.inr hl, Or.inr hu⟩
  · exact ⟨Or.inl h.1, Or.inl h.2⟩
  · unfold bMin1 bMax1 gt at h
    obtain ⟨hl, hu⟩ := h
    refine ⟨?_, ?_⟩
    · change lowerOk p (if _ then _ else _) a at hl
      split_ifs at hl
      · rw [← sideOk_lower, bAssign_id_iff] at hl; exact Or.inr hl
      · exact Or.inl hl
    · change upperOk p (if _ then _ else _) a at hu
      split_ifs at hu
      · rw [← sideOk_upper, bAssign_id_iff] at hu; exact Or.inr hu
      · exact Or.inl hu

/-- what is not within a bound is within the same value read from the other side with the OPEN bit flipped -/
theorem sideOkV_compl {tt t : BT} (hne : tt ≠ t) {v : ExtRat} {o : Bool} {a : Rat} (h : ¬ sideOkV t v o a) :
    sideOkV tt v (!o) a := by
  revert h
  cases tt <;> cases t <;> try contradiction
  all_goals cases v <;> cases o <;> simp [sideOkV]

/-- complement of a bound of side `t`, as a bound of the other side: a bound that excludes a rational is not the
infinity of its side, so the value goes through `adjust` -/
theorem bComplement_sound {p : Policy} {R : Rounding} (hR : R.Sound) {tt t : BT} (hne : tt ≠ t) {x : Bound} {a : Rat}
    (h : ¬ sideOk p t x a) : sideOk p tt (bComplement p R tt p t x) a := by
  have hi : normalIsBoundaryInfinity t x = false := by
    cases t <;> cases hv : x.value <;> simp_all [normalIsBoundaryInfinity, sideOk, sideOkV]
  have hs : getSpecial p t x = false := by
    unfold getSpecial; unfold normalIsBoundaryInfinity at hi; rw [hi, Bool.and_false]
  unfold bComplement
  rw [hs, if_neg Bool.false_ne_true, normalIsOpen_fin hi]
  exact adjust_sound hR (sideOkV_compl hne h)

/-- `difference_assign`: the result contains the set difference -/
theorem differenceAssign_encloses {p : Policy} {R : Rounding} (hR : R.Sound) {x y : Iv} {a : Rat}
    (hx : x.mem p a) (hy : ¬ y.mem p a) : (differenceAssign p R x y).mem p a := by
  unfold differenceAssign
  dsimp only
  split_ifs with h0 hnl hnu hnu'
  · exact hx
  · -- x ⊆ y: contradiction
    have h1 : lt p .lower x.lo p .lower y.lo = false := by simpa [ge] using hnl
    have h2 : lt p .upper y.hi p .upper x.hi = false := by simpa [le, gt] using hnu
    exact absurd ⟨lt_lower_lower_false h1 hx.1, lt_upper_upper_false h2 hx.2⟩ hy
  · have h1 : lt p .lower x.lo p .lower y.lo = false := by simpa [ge] using hnl
    have hyl : lowerOk p y.lo a := lt_lower_lower_false h1 hx.1
    have : ¬ upperOk p y.hi a := fun h => hy ⟨hyl, h⟩
    exact ⟨bComplement_sound (tt := .lower) hR (by decide) this, hx.2⟩
  · have h2 : lt p .upper y.hi p .upper x.hi = false := by simpa [le, gt] using hnu'
    have hyu : upperOk p y.hi a := lt_upper_upper_false h2 hx.2
    have : ¬ lowerOk p y.lo a := fun h => hy ⟨h, hyu⟩
    exact ⟨hx.1, bComplement_sound (tt := .upper) hR (by decide) this⟩
  · exact hx

/-- `contains`: a `true` answer is the set inclusion -/
theorem contains_sound {p : Policy} {x y : Iv} (h : contains p x y = true) {a : Rat} (hy : y.mem p a) : x.mem p a := by
  unfold contains at h
  rw [checkEmptyArg_of_mem hy] at h
  simp only [Bool.false_eq_true, ↓reduceIte] at h
  split_ifs at h with h1
  simp only [Bool.and_eq_true, le, ge, gt, Bool.not_eq_true'] at h
  exact ⟨lt_lower_lower_false h.1 hy.1, lt_upper_upper_false h.2 hy.2⟩

/-- `is_disjoint_from`: a `true` answer means no common member -/
theorem isDisjointFrom_sound {p : Policy} {x y : Iv} (h : isDisjointFrom p x y = true) {a : Rat} :
    ¬ (x.mem p a ∧ y.mem p a) := by
  rintro ⟨hx, hy⟩
  unfold isDisjointFrom at h
  rw [checkEmptyArg_of_mem hx, checkEmptyArg_of_mem hy] at h
  simp only [Bool.or_self, Bool.false_eq_true, ↓reduceIte, Bool.or_eq_true, gt] at h
  rcases h with h | h
  · exact lt_upper_lower_true h ⟨hx.1, hy.2⟩
  · exact lt_upper_lower_true h ⟨hy.1, hx.2⟩

end PPLV.Interval

import PPLV.Interval.ProofsLinForm
import Mathlib.Algebra.Order.AbsoluteValue.Basic
/-!
# C12 — `Linear_Form::intervalize` and `Linear_Form::relative_error` on a concrete store
-/
set_option linter.unnecessarySeqFocus false
set_option linter.unusedSimpArgs false
namespace PPLV.Interval
open ExtRat (ninf fin pinf)

section
variable {p : Policy} {R : Rounding} {rho : Nat → Rat}

/-! ### `intervalize` -/

theorem intervalize_go_sound (hR : R.Sound) {store : List Iv}
    (hstore : ∀ (k : Nat) (S : Iv), store[k]? = some S → S.mem p (rho k)) :
    ∀ (cs : List Iv) (cv : List Rat) (k : Nat) (r : Iv) (acc : Rat) (I : Iv),
      lfMem p cs cv → r.mem p acc → intervalize.go false p R store cs k r = some I →
      I.mem p (acc + lfEval.dotFrom rho cv k)
  | [], _, k, r, acc, I, hc, hr, h => by
    cases hc
    simp only [intervalize.go, Option.some.injEq] at h
    subst h; simpa [lfEval.dotFrom] using hr
  | c :: cs, _, k, r, acc, I, hc, hr, h => by
    cases hc with
    | cons h1 t1 =>
      rename_i a cv
      simp only [intervalize.go] at h
      cases hs : store[k]? with
      | none => rw [hs] at h; simp at h
      | some s =>
        rw [hs] at h
        simp only at h
        have hm := addAssign_encloses hR hr (mulAssign_encloses hR h1 (hstore k s hs))
        have := intervalize_go_sound hR hstore cs cv (k + 1) _ _ I t1 hm h
        simp only [lfEval.dotFrom]
        have e : acc + (a * rho k + lfEval.dotFrom rho cv (k + 1)) = acc + a * rho k + lfEval.dotFrom rho cv (k + 1) := by ring
        rw [e]; exact this

/-- the intervalization of a form contains every value of the form on every store inside the box -/
theorem intervalize_sound (hR : R.Sound) {store : List Iv}
    (hstore : ∀ (k : Nat) (S : Iv), store[k]? = some S → S.mem p (rho k))
    {F : List Iv} {v : Rat} {I : Iv} (hv : lfEvalMem p F rho v)
    (h : intervalize false p R store F = some I) : I.mem p v := by
  obtain ⟨c, hc, rfl⟩ := hv
  cases hc with
  | nil => simp [intervalize] at h
  | cons h1 t1 =>
    simp only [intervalize] at h
    simp only [lfEval]
    exact intervalize_go_sound hR hstore _ _ 0 _ _ I t1 h1 h

/-! ### magnitudes -/

theorem ratAbs_eq (q : Rat) : ratAbs q = |q| := by
  unfold ratAbs
  split_ifs with h
  · exact (abs_of_neg h).symm
  · exact (abs_of_nonneg (not_lt.mp h)).symm

theorem magnitude_nonneg (x : Iv) : 0 ≤ magnitude x := by
  unfold magnitude
  split
  · split_ifs <;> rw [ratAbs_eq] <;> exact abs_nonneg _
  · exact le_refl _

theorem abs_le_magnitude {x : Iv} {c : Rat} (hb : isBounded p x = true) (h : x.mem p c) : |c| ≤ magnitude x := by
  obtain ⟨⟨v1, o1⟩, ⟨v2, o2⟩⟩ := x
  unfold isBounded at hb
  simp only [isBoundaryInfinity_eq, Bool.and_eq_true, Bool.not_eq_true'] at hb
  unfold Iv.mem lowerOk upperOk at h
  cases v1 with
  | ninf => simp [normalIsBoundaryInfinity] at hb
  | pinf => simp at h
  | fin l =>
    cases v2 with
    | pinf => simp [normalIsBoundaryInfinity] at hb
    | ninf => simp at h
    | fin u =>
      have h1 := lowerOkV_fin_le h.1
      have h2 := upperOkV_fin_le h.2
      simp only [magnitude, ratAbs_eq]
      have hc : |c| ≤ max |l| |u| := abs_le_max_abs_abs h1 h2
      split_ifs with hlt
      · exact le_trans hc (max_le hlt.le (le_refl _))
      · exact le_trans hc (max_le (le_refl _) (not_lt.mp hlt))

/-- `Σ magnitude(cₖ)·|ρₖ|` over the variable coefficients -/
def magSum (rho : Nat → Rat) : List Iv → Nat → Rat
  | [], _ => 0
  | c :: cs, k => magnitude c * |rho k| + magSum rho cs (k + 1)

theorem magSum_nonneg (rho : Nat → Rat) : ∀ (cs : List Iv) (k : Nat), 0 ≤ magSum rho cs k
  | [], _ => le_refl _
  | c :: cs, k => add_nonneg (mul_nonneg (magnitude_nonneg c) (abs_nonneg _)) (magSum_nonneg rho cs (k + 1))

theorem abs_dotFrom_le : ∀ (cs : List Iv) (cv : List Rat) (k : Nat),
    lfMem p cs cv → lfOverflows p cs = false → |lfEval.dotFrom rho cv k| ≤ magSum rho cs k
  | [], _, k, hc, _ => by cases hc; simp [lfEval.dotFrom, magSum]
  | c :: cs, _, k, hc, hb => by
    cases hc with
    | cons h1 t1 =>
      rename_i a cv
      simp only [lfOverflows, List.any_cons, Bool.or_eq_false_iff, Bool.not_eq_false'] at hb
      have ih := abs_dotFrom_le cs cv (k + 1) t1 (by simpa [lfOverflows] using hb.2)
      simp only [lfEval.dotFrom, magSum]
      have h2 : |a * rho k| ≤ magnitude c * |rho k| := by
        rw [abs_mul]; exact mul_le_mul_of_nonneg_right (abs_le_magnitude hb.1 h1) (abs_nonneg _)
      exact le_trans (abs_add_le _ _) (add_le_add h2 ih)

/-! ### `relative_error` -/

theorem split2 {T A B : Rat} (hA : 0 ≤ A) (hB : 0 ≤ B) (h : |T| ≤ A + B) :
    ∃ T1 T2, T = T1 + T2 ∧ |T1| ≤ A ∧ |T2| ≤ B := by
  have hT := abs_le.mp h
  by_cases h1 : |T| ≤ A
  · exact ⟨T, 0, by ring, h1, by simpa using hB⟩
  · have h1' : A < |T| := not_le.mp h1
    rcases le_or_gt 0 T with h0 | h0
    · rw [abs_of_nonneg h0] at h1'
      refine ⟨A, T - A, by ring, by rw [abs_of_nonneg hA], ?_⟩
      rw [abs_of_nonneg (by linarith)]; linarith
    · rw [abs_of_neg h0] at h1'
      refine ⟨-A, T + A, by ring, by rw [abs_neg, abs_of_nonneg hA], ?_⟩
      rw [abs_of_nonpos (by linarith)]; linarith

/-- one variable's term of `relative_error` -/
theorem relErr_term (hR : R.Sound) {eps : Rat} (heps : 0 ≤ eps) (c : Iv) (k : Nat) {s : Rat}
    (hs : |s| ≤ eps * (magnitude c * |rho k|)) :
    lfEvalMem p (lfMulAssign false p R (lfMulAssign false p R (varForm k) (Iv.point (magnitude c))) (Iv.sym eps)) rho s := by
  have hm := magnitude_nonneg c
  by_cases hz : rho k * magnitude c = 0
  · have : s = 0 := by
      have h0 : magnitude c * |rho k| = 0 := by
        rcases mul_eq_zero.mp hz with h | h
        · rw [h]; simp
        · rw [h]; simp
      rw [h0, mul_zero] at hs
      exact abs_eq_zero.mp (le_antisymm hs (abs_nonneg _))
    subst this
    have := lfEvalMem_mul hR (lfEvalMem_mul hR (lfEvalMem_varForm (p := p) (rho := rho) k) (mem_point p (magnitude c)))
      (mem_sym (p := p) (b := eps) (t := 0) (by simpa using heps))
    simpa using this
  · have hpos : 0 < |rho k * magnitude c| := abs_pos.mpr hz
    have hθ : |s / (rho k * magnitude c)| ≤ eps := by
      rw [abs_div, div_le_iff₀ hpos, abs_mul, abs_of_nonneg hm]
      calc |s| ≤ eps * (magnitude c * |rho k|) := hs
        _ = eps * (|rho k| * magnitude c) := by ring
    have := lfEvalMem_mul hR (lfEvalMem_mul hR (lfEvalMem_varForm (p := p) (rho := rho) k) (mem_point p (magnitude c)))
      (mem_sym (p := p) hθ)
    have e : rho k * magnitude c * (s / (rho k * magnitude c)) = s := by rw [mul_comm, div_mul_cancel₀ s hz]
    rw [e] at this
    exact this

theorem relErr_go (hR : R.Sound) {eps : Rat} (heps : 0 ≤ eps) :
    ∀ (cs : List Iv) (k : Nat) (r : List Iv) (acc T : Rat),
      lfEvalMem p r rho acc → |T| ≤ eps * magSum rho cs k →
      lfEvalMem p (relativeError.go false p R (Iv.sym eps) cs k r) rho (acc + T)
  | [], k, r, acc, T, hr, hT => by
    simp only [magSum, mul_zero] at hT
    have : T = 0 := abs_eq_zero.mp (le_antisymm hT (abs_nonneg _))
    subst this
    simpa [relativeError.go] using hr
  | c :: cs, k, r, acc, T, hr, hT => by
    simp only [magSum, mul_add] at hT
    obtain ⟨T1, T2, rfl, h1, h2⟩ := split2
      (mul_nonneg heps (mul_nonneg (magnitude_nonneg c) (abs_nonneg _)))
      (mul_nonneg heps (magSum_nonneg rho cs (k + 1))) hT
    simp only [relativeError.go]
    have ht := relErr_term (p := p) (rho := rho) hR heps c k h1
    have := relErr_go hR heps cs (k + 1) _ (acc + T1) T2 (lfEvalMem_add hR hr ht) h2
    have e : acc + (T1 + T2) = acc + T1 + T2 := by ring
    rw [e]; exact this

/-- **`relative_error`**: for every instance value `a` of a bounded form on the store and every error
`t` with `|t| ≤ eps·|a|`, `t` is a value of the relative-error form on the store -/
theorem relativeError_encloses (hR : R.Sound) {eps : Rat} (heps : 0 ≤ eps) {F : List Iv} {a t : Rat}
    (hb : lfOverflows p F = false) (ha : lfEvalMem p F rho a) (ht : |t| ≤ eps * |a|) :
    lfEvalMem p (relativeError false p R eps F) rho t := by
  obtain ⟨c, hc, rfl⟩ := ha
  cases hc with
  | nil =>
    simp only [lfEval, abs_zero, mul_zero] at ht
    have : t = 0 := abs_eq_zero.mp (le_antisymm ht (abs_nonneg _))
    subst this
    exact ⟨[], List.Forall₂.nil, by simp [lfEval]⟩
  | cons h1 t1 =>
    rename_i i0 c0 cs cv
    simp only [lfOverflows, List.any_cons, Bool.or_eq_false_iff, Bool.not_eq_false'] at hb
    have hb2 : lfOverflows p cs = false := by simpa [lfOverflows] using hb.2
    have hsum : |lfEval (c0 :: cv) rho| ≤ magnitude i0 + magSum rho cs 0 := by
      simp only [lfEval]
      exact le_trans (abs_add_le _ _) (add_le_add (abs_le_magnitude hb.1 h1) (abs_dotFrom_le cs cv 0 t1 hb2))
    have ht' : |t| ≤ eps * magnitude i0 + eps * magSum rho cs 0 := by
      calc |t| ≤ eps * |lfEval (c0 :: cv) rho| := ht
        _ ≤ eps * (magnitude i0 + magSum rho cs 0) := mul_le_mul_of_nonneg_left hsum heps
        _ = _ := by ring
    obtain ⟨T1, T2, rfl, h1', h2'⟩ := split2 (mul_nonneg heps (magnitude_nonneg i0))
      (mul_nonneg heps (magSum_nonneg rho cs 0)) ht'
    simp only [relativeError]
    -- the inhomogeneous term: [magnitude i0] *= [-eps, eps]
    have hr0 : lfEvalMem p (lfMulAssign false p R [Iv.point (magnitude i0)] (Iv.sym eps)) rho T1 := by
      have hm := magnitude_nonneg i0
      by_cases hz : magnitude i0 = 0
      · rw [hz, mul_zero] at h1'
        have : T1 = 0 := abs_eq_zero.mp (le_antisymm h1' (abs_nonneg _))
        subst this
        have := lfEvalMem_mul (rho := rho) hR ⟨[magnitude i0], List.Forall₂.cons (mem_point p _) List.Forall₂.nil, rfl⟩
          (mem_sym (p := p) (b := eps) (t := 0) (by simpa using heps))
        simpa using this
      · have hpos : 0 < magnitude i0 := lt_of_le_of_ne hm (Ne.symm hz)
        have hθ : |T1 / magnitude i0| ≤ eps := by
          rw [abs_div, abs_of_pos hpos, div_le_iff₀ hpos]; exact h1'
        have := lfEvalMem_mul (rho := rho) hR ⟨[magnitude i0], List.Forall₂.cons (mem_point p _) List.Forall₂.nil, rfl⟩
          (mem_sym (p := p) hθ)
        have e : lfEval [magnitude i0] rho * (T1 / magnitude i0) = T1 := by
          simp only [lfEval, lfEval.dotFrom, add_zero]; rw [mul_comm, div_mul_cancel₀ T1 hz]
        rw [e] at this; exact this
    exact relErr_go hR heps cs 0 _ T1 T2 hr0 h2'

end

end PPLV.Interval

import PPLV.Interval.Linearize
import PPLV.Interval.ProofsLF
import PPLV.Interval.ProofsDiv
/-!
# C12 — linear forms on a concrete store: the compound operators, `intervalize`, `relative_error`
-/
set_option linter.unnecessarySeqFocus false
set_option linter.unusedSimpArgs false
namespace PPLV.Interval
open ExtRat (ninf fin pinf)

/-- `v` is a value of the interval linear form `F` on the store `rho`: the value of one of its
instances -/
def lfEvalMem (p : Policy) (F : List Iv) (rho : Nat → Rat) (v : Rat) : Prop :=
  ∃ c, lfMem p F c ∧ v = lfEval c rho

/-! ### evaluation is linear in the coefficient vector -/

theorem dotFrom_vecAdd (rho : Nat → Rat) : ∀ (c d : List Rat) (k : Nat),
    lfEval.dotFrom rho (vecAdd c d) k = lfEval.dotFrom rho c k + lfEval.dotFrom rho d k
  | [], d, k => by simp [vecAdd, lfEval.dotFrom]
  | a :: c, [], k => by simp [vecAdd, lfEval.dotFrom]
  | a :: c, b :: d, k => by
    simp only [vecAdd, lfEval.dotFrom]
    rw [dotFrom_vecAdd rho c d (k + 1)]; ring

theorem lfEval_vecAdd (rho : Nat → Rat) (c d : List Rat) :
    lfEval (vecAdd c d) rho = lfEval c rho + lfEval d rho := by
  cases c with
  | nil => simp [vecAdd, lfEval]
  | cons a c =>
    cases d with
    | nil => simp [vecAdd, lfEval]
    | cons b d => simp only [vecAdd, lfEval]; rw [dotFrom_vecAdd]; ring

theorem dotFrom_map_mul (rho : Nat → Rat) (n : Rat) : ∀ (c : List Rat) (k : Nat),
    lfEval.dotFrom rho (c.map (fun a => a * n)) k = lfEval.dotFrom rho c k * n
  | [], k => by simp [lfEval.dotFrom]
  | a :: c, k => by simp only [List.map, lfEval.dotFrom]; rw [dotFrom_map_mul rho n c (k + 1)]; ring

theorem lfEval_map_mul (rho : Nat → Rat) (n : Rat) (c : List Rat) :
    lfEval (c.map (fun a => a * n)) rho = lfEval c rho * n := by
  cases c with
  | nil => simp [lfEval]
  | cons a c => simp only [List.map, lfEval]; rw [dotFrom_map_mul]; ring

/-- negation and division by `n` are multiplication by `-1` and by `n⁻¹` -/
theorem dotFrom_map_neg (rho : Nat → Rat) (d : List Rat) (k : Nat) :
    lfEval.dotFrom rho (d.map (fun b => -b)) k = -lfEval.dotFrom rho d k := by
  simpa using dotFrom_map_mul rho (-1) d k

theorem lfEval_map_neg (rho : Nat → Rat) (d : List Rat) : lfEval (d.map (fun b => -b)) rho = -lfEval d rho := by
  simpa using lfEval_map_mul rho (-1) d

theorem lfEval_map_div (rho : Nat → Rat) (n : Rat) (c : List Rat) :
    lfEval (c.map (fun a => a / n)) rho = lfEval c rho / n := by
  simpa [div_eq_mul_inv] using lfEval_map_mul rho n⁻¹ c

theorem dotFrom_vecSub (rho : Nat → Rat) : ∀ (c d : List Rat) (k : Nat),
    lfEval.dotFrom rho (vecSub c d) k = lfEval.dotFrom rho c k - lfEval.dotFrom rho d k
  | [], d, k => by simp [vecSub, lfEval.dotFrom, dotFrom_map_neg]
  | a :: c, [], k => by simp [vecSub, lfEval.dotFrom]
  | a :: c, b :: d, k => by
    simp only [vecSub, lfEval.dotFrom]
    rw [dotFrom_vecSub rho c d (k + 1)]; ring

theorem lfEval_vecSub (rho : Nat → Rat) (c d : List Rat) :
    lfEval (vecSub c d) rho = lfEval c rho - lfEval d rho := by
  cases c with
  | nil => rw [vecSub, lfEval_map_neg]; simp [lfEval]
  | cons a c =>
    cases d with
    | nil => simp [vecSub, lfEval]
    | cons b d => simp only [vecSub, lfEval]; rw [dotFrom_vecSub]; ring

/-! ### the compound operators enclose -/

theorem mem_point (p : Policy) (q : Rat) : (Iv.point q).mem p q := by
  simp [Iv.point, Iv.mem, lowerOk, upperOk, getOpen]

theorem mem_zero (p : Policy) : Iv.zero.mem p 0 := mem_point p 0

theorem mem_sym {p : Policy} {b t : Rat} (h : |t| ≤ b) : (Iv.sym b).mem p t := by
  have := abs_le.mp h
  simp [Iv.sym, Iv.mem, lowerOk, upperOk, getOpen, this.1, this.2]

theorem lfAddAssign_encloses {p : Policy} {R : Rounding} (hR : R.Sound) :
    ∀ {F G : List Iv} {c d : List Rat}, lfMem p F c → lfMem p G d → lfMem p (lfAddAssign p R F G) (vecAdd c d)
  | [], [], _, _, hF, hG => by cases hF; cases hG; simp only [lfAddAssign, vecAdd]; exact List.Forall₂.nil
  | x :: F, [], _, _, hF, hG => by cases hG; cases hF; simp only [lfAddAssign, vecAdd]; constructor <;> assumption
  | [], y :: G, _, _, hF, hG => by
    cases hF
    cases hG with
    | cons h2 t2 =>
      simp only [lfAddAssign, vecAdd]
      refine List.Forall₂.cons ?_ ?_
      · have := addAssign_encloses hR (mem_zero p) h2; simpa using this
      · have := lfAddAssign_encloses hR (F := []) (c := []) List.Forall₂.nil t2
        simp only [vecAdd] at this
        exact this
  | x :: F, y :: G, _, _, hF, hG => by
    cases hF with
    | cons h1 t1 =>
      cases hG with
      | cons h2 t2 =>
        simp only [lfAddAssign, vecAdd]
        exact List.Forall₂.cons (addAssign_encloses hR h1 h2) (lfAddAssign_encloses hR t1 t2)

theorem lfSubAssign_encloses {p : Policy} {R : Rounding} (hR : R.Sound) :
    ∀ {F G : List Iv} {c d : List Rat}, lfMem p F c → lfMem p G d → lfMem p (lfSubAssign p R F G) (vecSub c d)
  | [], [], _, _, hF, hG => by cases hF; cases hG; simp only [lfSubAssign, vecSub]; exact List.Forall₂.nil
  | x :: F, [], _, _, hF, hG => by cases hG; cases hF; simp only [lfSubAssign, vecSub]; constructor <;> assumption
  | [], y :: G, _, _, hF, hG => by
    cases hF
    cases hG with
    | cons h2 t2 =>
      simp only [lfSubAssign, vecSub, List.map]
      refine List.Forall₂.cons ?_ ?_
      · have := subAssign_encloses hR (mem_zero p) h2; simpa using this
      · have := lfSubAssign_encloses hR (F := []) (c := []) List.Forall₂.nil t2
        simp only [vecSub] at this
        exact this
  | x :: F, y :: G, _, _, hF, hG => by
    cases hF with
    | cons h1 t1 =>
      cases hG with
      | cons h2 t2 =>
        simp only [lfSubAssign, vecSub]
        exact List.Forall₂.cons (subAssign_encloses hR h1 h2) (lfSubAssign_encloses hR t1 t2)

section evalmem
variable {p : Policy} {R : Rounding} {rho : Nat → Rat}

theorem lfEvalMem_add (hR : R.Sound) {F G : List Iv} {a b : Rat}
    (hF : lfEvalMem p F rho a) (hG : lfEvalMem p G rho b) : lfEvalMem p (lfAddAssign p R F G) rho (a + b) := by
  obtain ⟨c, hc, rfl⟩ := hF
  obtain ⟨d, hd, rfl⟩ := hG
  exact ⟨vecAdd c d, lfAddAssign_encloses hR hc hd, (lfEval_vecAdd rho c d).symm⟩

theorem lfEvalMem_sub (hR : R.Sound) {F G : List Iv} {a b : Rat}
    (hF : lfEvalMem p F rho a) (hG : lfEvalMem p G rho b) : lfEvalMem p (lfSubAssign p R F G) rho (a - b) := by
  obtain ⟨c, hc, rfl⟩ := hF
  obtain ⟨d, hd, rfl⟩ := hG
  exact ⟨vecSub c d, lfSubAssign_encloses hR hc hd, (lfEval_vecSub rho c d).symm⟩

theorem lfEvalMem_neg (hR : R.Sound) {F : List Iv} {a : Rat}
    (hF : lfEvalMem p F rho a) : lfEvalMem p (lfNegate p R F) rho (-a) := by
  obtain ⟨c, hc, rfl⟩ := hF
  exact ⟨c.map (fun b => -b), lfMem_map (fun _ _ => negAssign_encloses hR) hc, (lfEval_map_neg rho c).symm⟩

theorem lfEvalMem_mul (hR : R.Sound) {F : List Iv} {N : Iv} {a n : Rat}
    (hF : lfEvalMem p F rho a) (hn : N.mem p n) : lfEvalMem p (lfMulAssign false p R F N) rho (a * n) := by
  obtain ⟨c, hc, rfl⟩ := hF
  exact ⟨c.map (fun a => a * n), lfScale_encloses hR hn hc, (lfEval_map_mul rho n c).symm⟩

theorem lfEvalMem_div (hR : R.Sound) {F : List Iv} {N : Iv} {a n : Rat}
    (hF : lfEvalMem p F rho a) (hn : N.mem p n) (hn0 : n ≠ 0) : lfEvalMem p (lfDivAssign p R F N) rho (a / n) := by
  obtain ⟨c, hc, rfl⟩ := hF
  exact ⟨c.map (fun a => a / n), lfMem_map (fun _ _ h1 => divAssign_encloses hR h1 hn hn0) hc, (lfEval_map_div rho n c).symm⟩

theorem lfEvalMem_addConst (hR : R.Sound) {F : List Iv} {N : Iv} {a n : Rat} (hne : F ≠ [])
    (hF : lfEvalMem p F rho a) (hn : N.mem p n) : lfEvalMem p (lfAddConst p R F N) rho (a + n) := by
  obtain ⟨c, hc, rfl⟩ := hF
  cases hc with
  | nil => exact absurd rfl hne
  | cons h1 t1 =>
    rename_i x c0 F' c'
    refine ⟨(c0 + n) :: c', ?_, ?_⟩
    · simp only [lfAddConst]; exact List.Forall₂.cons (addAssign_encloses hR h1 hn) t1
    · simp only [lfEval]; ring

theorem lfMem_replicate_zero (n : Nat) : lfMem p (List.replicate n Iv.zero) (List.replicate n 0) := by
  induction n with
  | zero => exact List.Forall₂.nil
  | succ n ih => simp only [List.replicate_succ]; exact List.Forall₂.cons (mem_zero p) ih

theorem dotFrom_replicate_zero (rho : Nat → Rat) (v : Rat) : ∀ (n k : Nat),
    lfEval.dotFrom rho (List.replicate n 0 ++ [v]) k = v * rho (k + n)
  | 0, k => by simp [lfEval.dotFrom]
  | n + 1, k => by
    simp only [List.replicate_succ, List.cons_append, lfEval.dotFrom]
    rw [dotFrom_replicate_zero rho v n (k + 1)]
    have : k + 1 + n = k + (n + 1) := by omega
    rw [this]; ring

theorem lfMem_replicate_zero_one (n : Nat) :
    lfMem p (List.replicate n Iv.zero ++ [Iv.point 1]) (List.replicate n 0 ++ [1]) := by
  induction n with
  | zero => exact List.Forall₂.cons (mem_point p 1) List.Forall₂.nil
  | succ n ih => simp only [List.replicate_succ, List.cons_append]; exact List.Forall₂.cons (mem_zero p) ih

theorem lfEvalMem_varForm (i : Nat) : lfEvalMem p (varForm i) rho (rho i) := by
  refine ⟨List.replicate (i + 1) 0 ++ [1], ?_, ?_⟩
  · exact lfMem_replicate_zero_one (i + 1)
  · simp only [List.replicate_succ, List.cons_append, lfEval]
    rw [dotFrom_replicate_zero]; simp

end evalmem

end PPLV.Interval

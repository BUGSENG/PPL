import PPLV.Interval.ProofsIntFinish
/-!
# C12 / native integers: native intervals are closed under the model's operations

`NatB ty t b`: the bound `b` of the C12 model is a boundary of `Interval<T, Info>` on side `t` — the
infinity of its side (SPECIAL) or an integer of the type.  With `Rounding.native ty` and a policy that
stores SPECIAL and has no infinite members, `assign`, `neg_assign`, `add_assign`, `sub_assign`,
`mul_assign`, `div_assign`, `join_assign`, `intersect_assign` return native intervals from native
operands (`*_native`): the correspondence of `ProofsIntBoundary`, `ProofsIntBoundaryDiv` (C11 arithmetic +
`adjust_boundary` at every boundary computation) therefore applies along whole chains of operations.
-/
set_option linter.unusedSimpArgs false
namespace PPLV.Interval.Native
open PPLV.Interval PPLV.Interval.ExtRat PPLV.Checked PPLV.Checked.Result

def NatB (ty : IntTy) (t : BT) (b : Bound) : Prop :=
  b.value = infOf t ∨ ∃ z : Int, b.value = fin (z : Rat) ∧ ty.cmin ≤ z ∧ z ≤ ty.cmax

def NatIv (ty : IntTy) (x : Iv) : Prop := NatB ty .lower x.lo ∧ NatB ty .upper x.hi

theorem nativeBound_iff (ty : IntTy) (t : BT) (b : Bound) : nativeBound ty t b = true ↔ NatB ty t b := by
  unfold nativeBound NatB
  cases hv : b.value with
  | ninf => cases t <;> simp [infOf]
  | pinf => cases t <;> simp [infOf]
  | fin q =>
    simp only [Bool.and_eq_true, beq_iff_eq, decide_eq_true_eq]
    constructor
    · rintro ⟨⟨h1, h2⟩, h3⟩
      refine Or.inr ⟨q.num, ?_, h2, h3⟩
      have : ((q.num : Int) : Rat) = q := by
        have := Rat.num_div_den q
        rw [h1] at this; simpa using this
      rw [this]
    · rintro (h | ⟨z, hz, h2, h3⟩)
      · cases t <;> simp [infOf] at h
      · have : q = (z : Rat) := by simpa using hz
        subst this
        simp [h2, h3]

theorem nativeIv_iff (ty : IntTy) (x : Iv) : nativeIv ty x = true ↔ NatIv ty x := by
  unfold nativeIv NatIv
  rw [Bool.and_eq_true, nativeBound_iff, nativeBound_iff]

/-- hypotheses shared by the closure theorems -/
structure NatCfg (ty : IntTy) (p : Policy) : Prop where
  bits : 1 ≤ ty.bits
  max1 : 1 ≤ ty.cmax
  special : p.storeSpecial = true
  noInf : p.mayContainInfinity = false

variable {ty : IntTy} {p : Policy}

theorem natB_inf (t : BT) (o : Bool) : NatB ty t ⟨infOf t, o⟩ := Or.inl rfl

/-- a finite rounded bound is an integer of the type -/
theorem natB_adjust_fin (c : NatCfg ty p) (t : BT) (q : Rat) (s : Bool) :
    NatB ty t (adjust p (Rounding.native ty) t (fin q) s) := by
  obtain ⟨hmin, hmax⟩ := cmin_le_zero_le_cmax c.bits
  cases t
  · rw [adjust_lower_fin, native_down c.bits]
    unfold downSpec
    split_ifs
    · exact Or.inl rfl
    · exact Or.inr ⟨ty.cmax, rfl, by omega, by omega⟩
    · exact Or.inr ⟨q.floor, rfl, by omega, by omega⟩
  · rw [adjust_upper_fin, native_up c.bits]
    unfold upSpec
    split_ifs
    · exact Or.inl rfl
    · exact Or.inr ⟨ty.cmin, rfl, by omega, by omega⟩
    · exact Or.inr ⟨q.ceil, rfl, by omega, by omega⟩

theorem natB_setBoundaryInfinity (t : BT) (o : Bool) : NatB ty t (setBoundaryInfinity p t o) := natB_inf t _
theorem natB_setZero (c : NatCfg ty p) (t : BT) (s : Bool) : NatB ty t (setZero p (Rounding.native ty) t s) :=
  natB_adjust_fin c t 0 s

/-- a native bound that is not the SPECIAL infinity has a finite value -/
theorem natB_fin_of_not_special {t : BT} {b : Bound} (h : NatB ty t b)
    (hs : isBoundaryInfinity p t b = false) : ∃ z : Int, b.value = fin (z : Rat) := by
  rcases h with h | ⟨z, hz, _⟩
  · rw [isBoundaryInfinity_eq] at hs
    cases t <;> simp [normalIsBoundaryInfinity, h, infOf] at hs
  · exact ⟨z, hz⟩

theorem getSpecial_eq_isBoundaryInfinity (c : NatCfg ty p) (t : BT) (b : Bound) :
    getSpecial p t b = isBoundaryInfinity p t b := by simp [isBoundaryInfinity, c.special]

section bounds
variable (c : NatCfg ty p) {tt t t1 t2 : BT} {x x1 x2 : Bound}
include c

theorem natB_bAssign (hx : NatB ty t x) (s : Bool) : NatB ty tt (bAssign p (Rounding.native ty) tt p t x s) := by
  unfold bAssign
  rw [getSpecial_eq_isBoundaryInfinity c]
  cases hs : isBoundaryInfinity p t x
  · obtain ⟨z, hz⟩ := natB_fin_of_not_special hx hs
    simp only [Bool.false_eq_true, if_false, hz]
    exact natB_adjust_fin c tt _ _
  · exact natB_setBoundaryInfinity tt _

theorem natB_bNeg (hx : NatB ty t x) : NatB ty tt (bNeg p (Rounding.native ty) tt p t x) := by
  unfold bNeg
  rw [getSpecial_eq_isBoundaryInfinity c]
  cases hs : isBoundaryInfinity p t x
  · obtain ⟨z, hz⟩ := natB_fin_of_not_special hx hs
    simp only [Bool.false_eq_true, if_false, hz, ExtRat.neg]
    exact natB_adjust_fin c tt _ _
  · exact natB_setBoundaryInfinity tt _

theorem natB_bArith (f : ExtRat → ExtRat → ExtRat) (hf : ∀ a b : Rat, ∃ r, f (fin a) (fin b) = fin r)
    (h1 : NatB ty t1 x1) (h2 : NatB ty t2 x2) :
    NatB ty tt (bArith f p (Rounding.native ty) tt p t1 x1 p t2 x2) := by
  unfold bArith
  cases hs1 : isBoundaryInfinity p t1 x1
  · cases hs2 : isBoundaryInfinity p t2 x2
    · obtain ⟨z1, hz1⟩ := natB_fin_of_not_special h1 hs1
      obtain ⟨z2, hz2⟩ := natB_fin_of_not_special h2 hs2
      obtain ⟨r, hr⟩ := hf z1 z2
      simp only [Bool.false_eq_true, if_false, hz1, hz2, hr]
      exact natB_adjust_fin c tt _ _
    · exact natB_setBoundaryInfinity tt _
  · exact natB_setBoundaryInfinity tt _

theorem natB_bAdd (h1 : NatB ty t1 x1) (h2 : NatB ty t2 x2) :
    NatB ty tt (bAdd p (Rounding.native ty) tt p t1 x1 p t2 x2) :=
  natB_bArith c _ (fun a b => ⟨a + b, rfl⟩) h1 h2
theorem natB_bSub (h1 : NatB ty t1 x1) (h2 : NatB ty t2 x2) :
    NatB ty tt (bSub p (Rounding.native ty) tt p t1 x1 p t2 x2) :=
  natB_bArith c _ (fun a b => ⟨a - b, rfl⟩) h1 h2
theorem natB_bMul (h1 : NatB ty t1 x1) (h2 : NatB ty t2 x2) :
    NatB ty tt (bMul p (Rounding.native ty) tt p t1 x1 p t2 x2) :=
  natB_bArith c _ (fun a b => ⟨a * b, rfl⟩) h1 h2

theorem natB_bMulZ (h1 : NatB ty t1 x1) (h2 : NatB ty t2 x2) {s1 s2 : Int} :
    NatB ty tt (bMulZ p (Rounding.native ty) tt p t1 x1 s1 p t2 x2 s2) := by
  unfold bMulZ
  split
  · split
    · exact natB_bMul c h1 h2
    · exact natB_setZero c tt _
  · exact natB_setZero c tt _

theorem natB_bDiv (h1 : NatB ty t1 x1) (h2 : NatB ty t2 x2) :
    NatB ty tt (bDiv p (Rounding.native ty) tt p t1 x1 p t2 x2) := by
  unfold bDiv
  cases hs1 : isBoundaryInfinity p t1 x1
  · cases hs2 : isBoundaryInfinity p t2 x2
    · obtain ⟨z1, hz1⟩ := natB_fin_of_not_special h1 hs1
      obtain ⟨z2, hz2⟩ := natB_fin_of_not_special h2 hs2
      simp only [Bool.false_eq_true, if_false, hz1, hz2, ExtRat.div]
      exact natB_adjust_fin c tt _ _
    · exact natB_setZero c tt _
  · exact natB_setBoundaryInfinity tt _

theorem natB_bDivZ (h1 : NatB ty t1 x1) (h2 : NatB ty t2 x2) {s1 s2 : Int} :
    NatB ty tt (bDivZ p (Rounding.native ty) tt p t1 x1 s1 p t2 x2 s2) := by
  unfold bDivZ
  split
  · split
    · exact natB_bDiv c h1 h2
    · exact natB_setBoundaryInfinity tt _
  · exact natB_setZero c tt _

theorem natB_bMin1 (h1 : NatB ty t x1) (h2 : NatB ty t x2) : NatB ty t (bMin1 p (Rounding.native ty) t x1 p t x2) := by
  unfold bMin1; split
  · exact natB_bAssign c h2 _
  · exact h1
theorem natB_bMax1 (h1 : NatB ty t x1) (h2 : NatB ty t x2) : NatB ty t (bMax1 p (Rounding.native ty) t x1 p t x2) := by
  unfold bMax1; split
  · exact natB_bAssign c h2 _
  · exact h1

/-- `assign(EMPTY)` stores `lower = 1`, `upper = 0`: values of every type with `max ≥ 1` -/
theorem natIv_empty : NatIv ty Iv.empty := by
  obtain ⟨hmin, hmax⟩ := cmin_le_zero_le_cmax c.bits
  exact ⟨Or.inr ⟨1, by simp [Iv.empty], by omega, c.max1⟩, Or.inr ⟨0, by simp [Iv.empty], hmin, hmax⟩⟩

end bounds

theorem natIv_ite {b : Prop} [Decidable b] {x y : Iv} (hx : NatIv ty x) (hy : NatIv ty y) :
    NatIv ty (if b then x else y) := Iv.Both.ite hx hy

theorem infinitySign_zero (hm : p.mayContainInfinity = false) (x : Iv) : infinitySign p x = 0 := by
  simp [infinitySign, isReverseInfinity, hm]

theorem assign_native (c : NatCfg ty p) {x : Iv} (hx : NatIv ty x) : NatIv ty (assign p (Rounding.native ty) p x) :=
  natIv_ite (natIv_empty c) ⟨natB_bAssign c hx.1 _, natB_bAssign c hx.2 _⟩

theorem negAssign_native (c : NatCfg ty p) {x : Iv} (hx : NatIv ty x) : NatIv ty (negAssign p (Rounding.native ty) x) :=
  natIv_ite (natIv_empty c) ⟨natB_bNeg c hx.2, natB_bNeg c hx.1⟩

theorem addAssign_native (c : NatCfg ty p) {x y : Iv} (hx : NatIv ty x) (hy : NatIv ty y) :
    NatIv ty (addAssign p (Rounding.native ty) x y) := by
  unfold addAssign
  simp only [infinitySign_zero c.noInf, bne_self_eq_false, Bool.false_and, Bool.false_eq_true, if_false,
    Int.lt_irrefl, gt_iff_lt]
  exact natIv_ite (natIv_empty c) ⟨natB_bAdd c hx.1 hy.1, natB_bAdd c hx.2 hy.2⟩

theorem subAssign_native (c : NatCfg ty p) {x y : Iv} (hx : NatIv ty x) (hy : NatIv ty y) :
    NatIv ty (subAssign p (Rounding.native ty) x y) := by
  unfold subAssign
  simp only [infinitySign_zero c.noInf, bne_self_eq_false, Bool.false_and, Bool.false_eq_true, if_false,
    Int.neg_zero, Int.lt_irrefl, gt_iff_lt]
  exact natIv_ite (natIv_empty c) ⟨natB_bSub c hx.1 hy.2, natB_bSub c hx.2 hy.1⟩

theorem natIv_mulStraddle (c : NatCfg ty p) {x y : Iv} (hx : NatIv ty x) (hy : NatIv ty y) :
    NatIv ty (mulStraddle false p (Rounding.native ty) x y) := by
  obtain ⟨xl, xu⟩ := hx; obtain ⟨yl, yu⟩ := hy
  unfold mulStraddle replaceCandidate
  constructor <;> dsimp only <;> split
  exacts [natB_bMul c xu yl, natB_bMul c xl yu, natB_bMul c xu yu, natB_bMul c xl yl]

theorem mulAssign_native (c : NatCfg ty p) {x y : Iv} (hx : NatIv ty x) (hy : NatIv ty y) :
    NatIv ty (mulAssign false p (Rounding.native ty) x y) := by
  unfold mulAssign
  simp only [infinitySign_zero c.noInf, bne_self_eq_false, Bool.false_eq_true, if_false]
  exact natIv_ite (natIv_empty c) (mulTable_ind (Px := fun t b _ => NatB ty t b) (Py := fun t b _ => NatB ty t b)
    (fun h1 h2 => natB_bMulZ c h1 h2) hx.1 hx.2 hy.1 hy.2 (natIv_mulStraddle c hx hy))

/-- the proof term follows the sign table of `div_assign`: each entry is `div_assign_z` of a bound of `x` and a
bound of `y` -/
theorem divAssign_native (c : NatCfg ty p) {x y : Iv} (hx : NatIv ty x) (hy : NatIv ty y) :
    NatIv ty (divAssign p (Rounding.native ty) x y) := by
  obtain ⟨xl, xu⟩ := hx; obtain ⟨yl, yu⟩ := hy
  have E := natIv_empty c
  have Z := fun {tt t1 t2 x1 x2 s1 s2} => natB_bDivZ c (tt := tt) (t1 := t1) (t2 := t2) (x1 := x1) (x2 := x2)
    (s1 := s1) (s2 := s2)
  unfold divAssign
  simp only [infinitySign_zero c.noInf, bne_self_eq_false, Bool.false_eq_true, if_false]
  exact natIv_ite E (natIv_ite E (natIv_ite
    (natIv_ite ⟨Z xl yu, Z xu yl⟩ (natIv_ite ⟨Z xl yl, Z xu yu⟩ ⟨Z xl yl, Z xu yl⟩))
    (natIv_ite (natIv_ite ⟨Z xu yu, Z xl yl⟩ (natIv_ite ⟨Z xu yl, Z xl yu⟩ ⟨Z xu yu, Z xl yu⟩))
      ⟨natB_inf _ _, natB_inf _ _⟩)))

theorem joinAssign_native (c : NatCfg ty p) {x y : Iv} (hx : NatIv ty x) (hy : NatIv ty y) :
    NatIv ty (joinAssign p (Rounding.native ty) x y) :=
  natIv_ite (assign_native c hy) (natIv_ite hx ⟨natB_bMin1 c hx.1 hy.1, natB_bMax1 c hx.2 hy.2⟩)

theorem intersectAssign_native (c : NatCfg ty p) {x y : Iv} (hx : NatIv ty x) (hy : NatIv ty y) :
    NatIv ty (intersectAssign p (Rounding.native ty) x y) :=
  ⟨natB_bMax1 c hx.1 hy.1, natB_bMin1 c hx.2 hy.2⟩

/-- a native bound of the model is the image of the native boundary `NB.ofBound b` -/
theorem ofBound_toBound {ty : IntTy} {t : BT} {b : Bound} (h : NatB ty t b) :
    (NB.ofBound b).toBound t = b ∧ (NB.ofBound b).WF ty := by
  obtain ⟨hmin, hmax⟩ : ty.cmin ≤ 0 ∧ 0 ≤ ty.cmax := by
    have := ty.half_pos
    unfold IntTy.cmin IntTy.cmax
    split <;> omega
  rcases b with ⟨v, o⟩
  rcases h with h | ⟨z, hz, h1, h2⟩
  · simp only at h; subst h
    cases t <;> simp [NB.ofBound, NB.toBound, infOf, NB.WF, hmin, hmax]
  · simp only at hz; subst hz
    simp [NB.ofBound, NB.toBound, NB.WF, h1, h2]

end PPLV.Interval.Native

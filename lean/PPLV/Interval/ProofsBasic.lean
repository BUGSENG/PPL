import PPLV.Interval.Model
import Mathlib.Tactic.Linarith
import Mathlib.Tactic.Ring
import Mathlib.Tactic.Positivity
import Mathlib.Algebra.Order.Field.Rat
/-!
# C12 — semantics of bounds and intervals, and the primitive lemmas about `Boundary_NS`

An interval denotes a set of rationals.  Membership reads the OPEN bit through the policy
(`getOpen`), exactly as the class does.
-/
set_option linter.unnecessarySeqFocus false
set_option linter.unusedSimpArgs false
namespace PPLV.Interval
open ExtRat (ninf fin pinf)

/-- `a` is admitted by a lower bound with value `v`, open iff `o` -/
def lowerOkV (v : ExtRat) (o : Bool) (a : Rat) : Prop :=
  match v with
  | ninf => True
  | fin q => if o then q < a else q ≤ a
  | pinf => False

def upperOkV (v : ExtRat) (o : Bool) (a : Rat) : Prop :=
  match v with
  | pinf => True
  | fin q => if o then a < q else a ≤ q
  | ninf => False

def sideOkV : BT → ExtRat → Bool → Rat → Prop
  | .lower => lowerOkV
  | .upper => upperOkV

def lowerOk (p : Policy) (b : Bound) (a : Rat) : Prop := lowerOkV b.value (getOpen p b) a
def upperOk (p : Policy) (b : Bound) (a : Rat) : Prop := upperOkV b.value (getOpen p b) a
def sideOk (p : Policy) (t : BT) (b : Bound) (a : Rat) : Prop := sideOkV t b.value (getOpen p b) a

/-- membership of a rational in an interval of policy `p` -/
def Iv.mem (p : Policy) (x : Iv) (a : Rat) : Prop := lowerOk p x.lo a ∧ upperOk p x.hi a

@[simp] theorem lowerOkV_ninf (o a) : lowerOkV ninf o a ↔ True := Iff.rfl
@[simp] theorem lowerOkV_pinf (o a) : lowerOkV pinf o a ↔ False := Iff.rfl
@[simp] theorem lowerOkV_fin_open (q a) : lowerOkV (fin q) true a ↔ q < a := by simp [lowerOkV]
@[simp] theorem lowerOkV_fin_closed (q a) : lowerOkV (fin q) false a ↔ q ≤ a := by simp [lowerOkV]
@[simp] theorem upperOkV_pinf (o a) : upperOkV pinf o a ↔ True := Iff.rfl
@[simp] theorem upperOkV_ninf (o a) : upperOkV ninf o a ↔ False := Iff.rfl
@[simp] theorem upperOkV_fin_open (q a) : upperOkV (fin q) true a ↔ a < q := by simp [upperOkV]
@[simp] theorem upperOkV_fin_closed (q a) : upperOkV (fin q) false a ↔ a ≤ q := by simp [upperOkV]

theorem lowerOkV_fin_le {q a : Rat} {o : Bool} (h : lowerOkV (fin q) o a) : q ≤ a := by
  cases o <;> simp at h <;> linarith
theorem upperOkV_fin_le {q a : Rat} {o : Bool} (h : upperOkV (fin q) o a) : a ≤ q := by
  cases o <;> simp at h <;> linarith

/-- negation swaps the sides -/
theorem lowerOkV_neg_iff {v : ExtRat} {o : Bool} {c : Rat} : lowerOkV v.neg o c ↔ upperOkV v o (-c) := by
  cases v <;> cases o <;> simp [ExtRat.neg] <;> constructor <;> intro h <;> linarith
theorem upperOkV_neg_iff {v : ExtRat} {o : Bool} {c : Rat} : upperOkV v.neg o c ↔ lowerOkV v o (-c) := by
  cases v <;> cases o <;> simp [ExtRat.neg] <;> constructor <;> intro h <;> linarith

theorem lowerOkV_neg {v : ExtRat} {o : Bool} {a : Rat} (h : upperOkV v o a) : lowerOkV v.neg o (-a) :=
  lowerOkV_neg_iff.mpr (by rwa [neg_neg])
theorem upperOkV_neg {v : ExtRat} {o : Bool} {a : Rat} (h : lowerOkV v o a) : upperOkV v.neg o (-a) :=
  upperOkV_neg_iff.mpr (by rwa [neg_neg])

/-- a closed bound is weaker than an open one at the same value -/
theorem lowerOkV_weaken {v : ExtRat} {o o' : Bool} {a : Rat} (ho : o' = true → o = true)
    (h : lowerOkV v o a) : lowerOkV v o' a := by
  cases v <;> cases o <;> cases o' <;> simp_all <;> linarith
theorem upperOkV_weaken {v : ExtRat} {o o' : Bool} {a : Rat} (ho : o' = true → o = true)
    (h : upperOkV v o a) : upperOkV v o' a := by
  cases v <;> cases o <;> cases o' <;> simp_all <;> linarith

/-- a lower (upper) bound that admits a member admits everything above (below) it -/
theorem upperOkV_trans_lt {v : ExtRat} {o : Bool} {a b : Rat} (h : upperOkV v o b) (hab : a < b) : upperOkV v true a := by
  cases v <;> cases o <;> simp_all <;> linarith
theorem upperOkV_trans_le {v : ExtRat} {o : Bool} {a b : Rat} (h : upperOkV v o b) (hab : a ≤ b) : upperOkV v o a := by
  cases v <;> cases o <;> simp_all <;> linarith
theorem lowerOkV_trans_lt {v : ExtRat} {o : Bool} {a b : Rat} (h : lowerOkV v o b) (hab : b < a) : lowerOkV v true a := by
  cases v <;> cases o <;> simp_all <;> linarith
theorem lowerOkV_trans_le {v : ExtRat} {o : Bool} {a b : Rat} (h : lowerOkV v o b) (hab : b ≤ a) : lowerOkV v o a := by
  cases v <;> cases o <;> simp_all <;> linarith

/-- soundness of a directed rounding: `down q ≤ q ≤ up q` (overflow to the infinity of the direction) -/
structure Rounding.Sound (R : Rounding) : Prop where
  down_le : ∀ q, lowerOkV (R.down q) false q
  le_up : ∀ q, upperOkV (R.up q) false q

theorem Rounding.id_sound : Rounding.Sound Rounding.id :=
  ⟨fun q => by simp [Rounding.id], fun q => by simp [Rounding.id]⟩

theorem Rounding.int_sound : Rounding.Sound Rounding.int :=
  ⟨fun q => by simpa [Rounding.int] using Rat.floor_le q,
   fun q => by simpa [Rounding.int] using (Rat.le_ceil (x := q))⟩

theorem Rounding.pow2_pos (e : Int) : 0 < Rounding.pow2 e := by
  unfold Rounding.pow2; split <;> positivity

theorem Rounding.ulp_pos (prec : Nat) (emin : Int) (q : Rat) : 0 < Rounding.ulp prec emin q := by
  unfold Rounding.ulp; exact Rounding.pow2_pos _

/-- rounding to a multiple of a positive unit `u` -/
theorem floor_div_mul_le {q u : Rat} (hu : 0 < u) : ((q / u).floor : Rat) * u ≤ q :=
  (le_div_iff₀ hu).mp (Rat.floor_le (q / u))
theorem le_ceil_div_mul {q u : Rat} (hu : 0 < u) : q ≤ ((q / u).ceil : Rat) * u :=
  (div_le_iff₀ hu).mp (Rat.le_ceil (x := q / u))

theorem Rounding.float_sound (prec : Nat) (emin emax : Int) : Rounding.Sound (Rounding.float prec emin emax) := by
  constructor <;> intro q <;> simp only [Rounding.float] <;> split_ifs with h1 h2
  · simp
  · simp; linarith
  · exact (lowerOkV_fin_closed _ _).mpr (floor_div_mul_le (Rounding.ulp_pos prec emin q))
  · simp
  · simp; linarith
  · exact (upperOkV_fin_closed _ _).mpr (le_ceil_div_mul (Rounding.ulp_pos prec emin q))

theorem Rounding.double_sound : Rounding.Sound Rounding.double := Rounding.float_sound _ _ _

/-! ### primitives -/

@[simp] theorem getOpen_mk (p : Policy) (v : ExtRat) (o : Bool) : getOpen p ⟨v, o⟩ = (p.storeOpen && o) := rfl

theorem isBoundaryInfinity_eq (p : Policy) (t : BT) (b : Bound) :
    isBoundaryInfinity p t b = normalIsBoundaryInfinity t b := by
  unfold isBoundaryInfinity getSpecial normalIsBoundaryInfinity
  cases p.storeSpecial <;> simp

theorem normalIsBoundaryInfinity_lower (b : Bound) :
    normalIsBoundaryInfinity .lower b = decide (b.value = ninf) := by
  unfold normalIsBoundaryInfinity; cases b.value <;> simp
theorem normalIsBoundaryInfinity_upper (b : Bound) :
    normalIsBoundaryInfinity .upper b = decide (b.value = pinf) := by
  unfold normalIsBoundaryInfinity; cases b.value <;> simp

theorem sgnB_eq (p : Policy) (t : BT) (b : Bound) (h : sideOkV t b.value o a) : sgnB p t b = b.value.sgn := by
  unfold sgnB getSpecial
  cases t <;> cases hb : b.value <;> cases p.storeSpecial <;> simp_all [ExtRat.sgn, sideOkV]

theorem ratSgn_neg {q : Rat} : ExtRat.ratSgn q < 0 ↔ q < 0 := by
  unfold ExtRat.ratSgn; split_ifs with h1 h2 <;> simp_all
theorem ratSgn_zero {q : Rat} : ExtRat.ratSgn q = 0 ↔ q = 0 := by
  unfold ExtRat.ratSgn; split_ifs with h1 h2 <;> simp_all <;> linarith
theorem ratSgn_pos {q : Rat} : 0 < ExtRat.ratSgn q ↔ 0 < q := by
  unfold ExtRat.ratSgn; split_ifs with h1 h2 <;> simp_all
  · linarith
  · exact lt_of_le_of_ne h1 (Ne.symm h2)
theorem ratSgn_nonneg {q : Rat} : 0 ≤ ExtRat.ratSgn q ↔ 0 ≤ q := by
  unfold ExtRat.ratSgn; split_ifs with h1 h2 <;> simp_all
theorem ratSgn_nonpos {q : Rat} : ExtRat.ratSgn q ≤ 0 ↔ q ≤ 0 := by
  unfold ExtRat.ratSgn; split_ifs with h1 h2 <;> simp_all
  · linarith
  · exact lt_of_le_of_ne h1 (Ne.symm h2)

/-- `adjust` only weakens the exact bound `(e, shrink)` -/
theorem adjust_lower_sound {p : Policy} {R : Rounding} (hR : R.Sound) {e : ExtRat} {s : Bool} {a : Rat}
    (h : lowerOkV e s a) : lowerOk p (adjust p R .lower e s) a := by
  unfold lowerOk
  cases e with
  | ninf => simp [adjust]
  | pinf => simp at h
  | fin q =>
    have hd := hR.down_le q
    simp only [adjust]
    cases hq : R.down q with
    | ninf => simp
    | pinf => simp [hq] at hd
    | fin q' =>
      simp only [hq, lowerOkV_fin_closed] at hd
      simp only [getOpen_mk]
      cases hso : p.storeOpen <;> cases s <;> simp at h ⊢
      · linarith
      · linarith
      · by_cases hne : q' = q
        · subst hne; simp; exact h
        · have : q' < q := lt_of_le_of_ne hd hne
          have hb : (q' != q) = true := by simp [hne]
          rw [hb]; simp; linarith
      · linarith

theorem adjust_upper_sound {p : Policy} {R : Rounding} (hR : R.Sound) {e : ExtRat} {s : Bool} {a : Rat}
    (h : upperOkV e s a) : upperOk p (adjust p R .upper e s) a := by
  unfold upperOk
  cases e with
  | pinf => simp [adjust]
  | ninf => simp at h
  | fin q =>
    have hd := hR.le_up q
    simp only [adjust]
    cases hq : R.up q with
    | pinf => simp
    | ninf => simp [hq] at hd
    | fin q' =>
      simp only [hq, upperOkV_fin_closed] at hd
      simp only [getOpen_mk]
      cases hso : p.storeOpen <;> cases s <;> simp at h ⊢
      · linarith
      · linarith
      · by_cases hne : q' = q
        · subst hne; simp; exact h
        · have : q < q' := lt_of_le_of_ne hd (Ne.symm hne)
          have hb : (q' != q) = true := by simp [hne]
          rw [hb]; simp; linarith
      · linarith

theorem adjust_sound {p : Policy} {R : Rounding} (hR : R.Sound) {t : BT} {e : ExtRat} {s : Bool} {a : Rat}
    (h : sideOkV t e s a) : sideOk p t (adjust p R t e s) a := by
  cases t
  · exact adjust_lower_sound hR h
  · exact adjust_upper_sound hR h

/-- with exact rounding `adjust` stores the exact bound -/
theorem adjust_id (p : Policy) (t : BT) (e : ExtRat) (s : Bool) :
    adjust p Rounding.id t e s = ⟨e, p.storeOpen && s⟩ := by
  cases e <;> cases t <;> simp [adjust, Rounding.id]

/-! ### the sign table of `mul_assign` -/

/-- a property of both bounds of an interval -/
def Iv.Both (Q : BT → Bound → Prop) (x : Iv) : Prop := Q .lower x.lo ∧ Q .upper x.hi

theorem Iv.Both.ite {Q : BT → Bound → Prop} {c : Prop} [Decidable c] {x y : Iv} (hx : x.Both Q) (hy : y.Both Q) :
    (if c then x else y).Both Q := by split <;> assumption

/-- Every entry of the sign table of `mul_assign` is `mul_assign_z` of a bound of `x` and a bound of `y`, each with
its sign argument: a property `Q` that `mul_assign_z` establishes from properties `Px`, `Py` of such pairs holds
of both bounds of the result.  The proof term follows the table. -/
theorem mulTable_ind {p : Policy} {R : Rounding} {Px Py : BT → Bound → Int → Prop} {Q : BT → Bound → Prop}
    (hZ : ∀ {tt t1 t2 b1 b2 s1 s2}, Px t1 b1 s1 → Py t2 b2 s2 → Q tt (bMulZ p R tt p t1 b1 s1 p t2 b2 s2))
    {x y s : Iv} {xls xus yls yus : Int}
    (xl : Px .lower x.lo xls) (xu : Px .upper x.hi xus) (yl : Py .lower y.lo yls) (yu : Py .upper y.hi yus)
    (hs : s.Both Q) : (mulTable p R x y xls xus yls yus s).Both Q := by
  unfold mulTable
  exact .ite
    (.ite ⟨hZ xl yl, hZ xu yu⟩ (.ite ⟨hZ xu yl, hZ xl yu⟩ ⟨hZ xu yl, hZ xu yu⟩))
    (.ite (.ite ⟨hZ xl yu, hZ xu yl⟩ (.ite ⟨hZ xu yu, hZ xl yl⟩ ⟨hZ xl yu, hZ xl yl⟩))
      (.ite ⟨hZ xl yu, hZ xu yu⟩ (.ite ⟨hZ xu yl, hZ xl yl⟩ hs)))

end PPLV.Interval

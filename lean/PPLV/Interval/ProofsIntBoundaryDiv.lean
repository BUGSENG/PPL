import PPLV.Interval.ProofsIntBoundary
import PPLV.Interval.ProofsIntDiv
/-!
# C12 / native integers: `Boundary_NS::div_assign`, `div_assign_z` on native boundaries

`finish_div`: checked division (every divisor ≠ 0, `min / -1` included) followed by `adjust_boundary`
is the bound the C12 model computes with `Rounding.native ty` from the exact rational quotient.
-/
set_option linter.unusedSimpArgs false
namespace PPLV.Interval.Native
open PPLV.Interval PPLV.Interval.ExtRat PPLV.Checked PPLV.Checked.Result

theorem finish_div {ty : IntTy} (ok : TyOK ty) (p : Policy) (hp : p.storeSpecial = true) (tt : BT) (s : Bool)
    {to0 x y : Int} (h0 : ty.inRange to0) (hx : ty.inRange x) (hy : ty.inRange y) (hy0 : y ≠ 0) :
    (finish p tt s (div ty cop to0 x y (dirOf tt))).map (NB.toBound tt)
      = some (adjust p (Rounding.native ty) tt (fin ((x : Rat) / (y : Rat))) s) := by
  cases tt
  · rcases div_down ok.bits ok.larger h0 hx hy hy0 with ⟨_, hy1, ht⟩ | ⟨_, F, hF, h1, h2, he⟩
    · have := finish_tri_lower ok.bits p hp s ht
      rw [hy1]
      have e : ((x : Rat) / ((-1 : Int) : Rat)) = ((-x : Int) : Rat) := by push_cast; ring
      rw [e]; rw [hy1] at this; exact this
    · show (finish p .lower s (div ty cop to0 x y .down)).map _ = _
      rw [he, adjust_lower_fin, native_down ok.bits]
      unfold downSpec
      rw [hF]
      have a : ¬ F < ty.cmin := by omega
      have b : ¬ ty.cmax < F := by omega
      simp only [a, b, if_false]
      by_cases hq : (F : Rat) = (x : Rat) / (y : Rat)
      · simp only [hq, if_true, finish_lower_eq, Option.map_some, NB.toBound]
        simp
      · have hne : ((F : Rat) != (x : Rat) / (y : Rat)) = true := by simp [hq]
        simp only [hq, if_false, finish_lower_gt, Option.map_some, NB.toBound, hne, open_inexact]
        simp
  · rcases div_up ok.bits ok.larger h0 hx hy hy0 with ⟨_, hy1, ht⟩ | ⟨_, C, hC, h1, h2, he⟩
    · have := finish_tri_upper ok.bits p hp s ht
      rw [hy1]
      have e : ((x : Rat) / ((-1 : Int) : Rat)) = ((-x : Int) : Rat) := by push_cast; ring
      rw [e]; rw [hy1] at this; exact this
    · show (finish p .upper s (div ty cop to0 x y .up)).map _ = _
      rw [he, adjust_upper_fin, native_up ok.bits]
      unfold upSpec
      rw [hC]
      have a : ¬ C < ty.cmin := by omega
      have b : ¬ ty.cmax < C := by omega
      simp only [a, b, if_false]
      by_cases hq : (C : Rat) = (x : Rat) / (y : Rat)
      · simp only [hq, if_true, finish_upper_eq, Option.map_some, NB.toBound]
        simp
      · have hne : ((C : Rat) != (x : Rat) / (y : Rat)) = true := by simp [hq]
        simp only [hq, if_false, finish_upper_lt, Option.map_some, NB.toBound, hne, open_inexact]
        simp

variable {ty : IntTy} {p : Policy}

/-- `Boundary_NS::div_assign` (the divisor bound, when finite, is not zero: `div_assign_z` /
`Interval::div_assign` call it only with `x2s ≠ 0`; the code asserts it) -/
theorem nbDiv_refines (ok : TyOK ty) (hp : p.storeSpecial = true) (tt t1 t2 : BT) {x1 x2 : NB} (h1 : x1.WF ty)
    (h2 : x2.WF ty) (hnz : x2.special = false → x2.raw ≠ 0) {to0 : Int} (h0 : ty.inRange to0) :
    (nbDiv ty p tt t1 x1 t2 x2 to0).map (NB.toBound tt)
      = some (bDiv p (Rounding.native ty) tt p t1 (x1.toBound t1) p t2 (x2.toBound t2)) := by
  unfold nbDiv bDiv
  simp only [isBoundaryInfinity_toBound p hp]
  cases hs1 : x1.special
  · cases hs2 : x2.special
    · simp only [Bool.false_eq_true, if_false]
      rw [toBound_value_of_not_special t1 x1 hs1, toBound_value_of_not_special t2 x2 hs2, chk_div]
      simp only [ExtRat.div]
      exact finish_div ok p hp tt _ h0 h1 h2 (hnz hs2)
    · simp only [Bool.false_eq_true, if_false, if_true]
      exact nbSetZero_refines ok hp tt _
  · simp [nbSetBoundaryInfinity_toBound p hp]

theorem nbDivZ_refines (ok : TyOK ty) (hp : p.storeSpecial = true) (tt t1 t2 : BT) {x1 x2 : NB} (h1 : x1.WF ty)
    (h2 : x2.WF ty) (x1s x2s : Int) (hnz : x2s ≠ 0 → x2.special = false → x2.raw ≠ 0) {to0 : Int}
    (h0 : ty.inRange to0) :
    (nbDivZ ty p tt t1 x1 x1s t2 x2 x2s to0).map (NB.toBound tt)
      = some (bDivZ p (Rounding.native ty) tt p t1 (x1.toBound t1) x1s p t2 (x2.toBound t2) x2s) := by
  unfold nbDivZ bDivZ
  split
  · split
    · rename_i _ hx2
      exact nbDiv_refines ok hp tt t1 t2 h1 h2 (hnz (by simpa using hx2)) h0
    · simp [nbSetBoundaryInfinity_toBound p hp]
  · exact nbSetZero_refines ok hp tt _

end PPLV.Interval.Native

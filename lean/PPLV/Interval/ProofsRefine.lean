import PPLV.Interval.ProofsSet
/-!
# C12 — `refine_existential`: the refined interval keeps every member that is related to some
member of the argument
-/
set_option linter.unnecessarySeqFocus false
set_option linter.unusedSimpArgs false
namespace PPLV.Interval
open ExtRat (ninf fin pinf)

/-- the meaning of a `Relation_Symbol` -/
def Rel.holds : Rel → Rat → Rat → Prop
  | .eq, a, b => a = b
  | .lt, a, b => a < b
  | .le, a, b => a ≤ b
  | .gt, a, b => a > b
  | .ge, a, b => a ≥ b
  | .ne, a, b => a ≠ b

/-- `is_singleton()`: the only member is the common value of the two bounds -/
theorem eq_lower_upper_value {p : Policy} {lo hi : Bound} {b : Rat}
    (h : eq p .lower lo p .upper hi = true) (h1 : lowerOk p lo b) (h2 : upperOk p hi b) :
    lo.value = fin b ∧ hi.value = fin b := by
  rw [lowerOk_iff_isOpen] at h1
  rw [upperOk_iff_isOpen] at h2
  simp only [eq, isMinusInfinity_lower, isPlusInfinity_lower, isMinusInfinity_upper, isPlusInfinity_upper] at h
  revert h h1 h2
  generalize isOpen p .lower lo = o1
  generalize isOpen p .upper hi = o2
  generalize (!p.storeSpecial && p.mayContainInfinity) = r
  cases lo.value <;> cases hi.value <;> simp <;> cases o1 <;> cases o2 <;> simp <;> intros <;> constructor <;> linarith

theorem eq_same_value {p : Policy} {t : BT} {b1 b2 : Bound} {c : Rat}
    (h : eq p t b1 p t b2 = true) (h2 : b2.value = fin c) : b1.value = fin c := by
  revert h
  cases t <;>
    simp only [eq, isMinusInfinity_lower, isPlusInfinity_lower, isMinusInfinity_upper, isPlusInfinity_upper, h2] <;>
    cases b1.value <;> simp

theorem removeInf_sound {p : Policy} {x : Iv} {a c : Rat} (h : x.mem p a) (hv : x.lo.value = fin c) (hc : c < a) :
    (removeInf p x).mem p a := by
  unfold removeInf
  split_ifs with hs
  · refine ⟨?_, h.2⟩
    simp [lowerOk, hv, getOpen, hs, hc]
  · exact h

theorem removeSup_sound {p : Policy} {x : Iv} {a c : Rat} (h : x.mem p a) (hv : x.hi.value = fin c) (hc : a < c) :
    (removeSup p x).mem p a := by
  unfold removeSup
  split_ifs with hs
  · refine ⟨h.1, ?_⟩
    simp [upperOk, hv, getOpen, hs, hc]
  · exact h

/-- `refine_existential(rel, x)`: every `a ∈ to` with `a rel b` for some `b ∈ x` stays -/
theorem refineExistential_encloses {p : Policy} {R : Rounding} (hR : R.Sound) {tv x : Iv} {rel : Rel} {a b : Rat}
    (ha : tv.mem p a) (hb : x.mem p b) (hrel : rel.holds a b) :
    (refineExistential p R tv rel x).mem p a := by
  unfold refineExistential
  rw [checkEmptyArg_of_mem hb]
  simp -zeta only [Bool.false_eq_true, ↓reduceIte]
  cases rel <;> simp -zeta only [Rel.holds] at hrel ⊢
  · -- eq
    subst hrel; exact intersectAssign_encloses hR ha hb
  · -- lt
    split_ifs
    · exact ha
    · refine ⟨ha.1, ?_⟩
      apply bAssign_sound (t := .upper) hR
      simpa [sideOkV] using upperOkV_trans_lt hb.2 hrel
  · -- le
    split_ifs
    · exact ha
    · refine ⟨ha.1, ?_⟩
      apply bAssign_sound (t := .upper) hR
      simpa [sideOkV] using upperOkV_trans_le hb.2 hrel
  · -- gt
    split_ifs
    · exact ha
    · refine ⟨?_, ha.2⟩
      apply bAssign_sound (t := .lower) hR
      simpa [sideOkV] using lowerOkV_trans_lt hb.1 hrel
  · -- ge
    split_ifs
    · exact ha
    · refine ⟨?_, ha.2⟩
      apply bAssign_sound (t := .lower) hR
      simpa [sideOkV] using lowerOkV_trans_le hb.1 hrel
  · -- ne: only the end points of a singleton argument are removed
    by_cases hsing : isSingleton p x = true
    · simp -zeta only [hsing, Bool.not_true, Bool.false_eq_true, ↓reduceIte, checkEmptyArg_of_mem ha]
      obtain ⟨hxl, hxu⟩ := eq_lower_upper_value hsing hb.1 hb.2
      extract_lets t1
      have step1 : t1.mem p a := by
        unfold t1
        split_ifs with he
        · have hv := eq_same_value he hxl
          have hle : b ≤ a := by
            have := ha.1; unfold lowerOk at this; rw [hv] at this; exact lowerOkV_fin_le this
          exact removeInf_sound ha hv (lt_of_le_of_ne hle (Ne.symm hrel))
        · exact ha
      have hhi : t1.hi = tv.hi := by
        unfold t1
        split_ifs <;> simp [removeInf] <;> split_ifs <;> rfl
      clear_value t1
      split_ifs with he
      · rw [hhi] at he
        have hv := eq_same_value he hxu
        have hle : a ≤ b := by
          have := ha.2; unfold upperOk at this; rw [hv] at this; exact upperOkV_fin_le this
        exact removeSup_sound step1 (by rw [hhi]; exact hv) (lt_of_le_of_ne hle hrel)
      · exact step1
    · simp only [hsing, Bool.not_false, ↓reduceIte]
      exact ha

end PPLV.Interval

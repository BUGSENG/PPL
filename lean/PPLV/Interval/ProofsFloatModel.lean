import PPLV.Interval.ProofsLinearize
import Mathlib.Algebra.Order.Floor.Ring
import Mathlib.Data.Rat.Floor
import Mathlib.Data.Nat.Log
/-!
# C12 — the stated float model holds for the exact directed roundings of a binary format

`Rounding.float prec emin emax` rounds an exact rational to the format with `prec` significand bits
(hidden bit included), least normal exponent `emin`, gradual underflow.  Whatever the rounding mode
(nearest, upwards, downwards, towards zero), the result of an operation is `down v` or `up v`; both
are within `2^-(prec-1)·|v| + 2^(emin-prec+1)` of `v` as long as `|v|` does not exceed the largest
finite number.  These two numbers are `eps` and `omega` of `FFormat`
(`prec - 1 = MANTISSA_BITS`, `emin = 1 - EXPONENT_BIAS`).
-/
set_option linter.unnecessarySeqFocus false
set_option linter.unusedSimpArgs false
namespace PPLV.Interval
open ExtRat (ninf fin pinf)
open Rounding

theorem pow2_eq_zpow (e : Int) : pow2 e = (2 : Rat) ^ e := by
  unfold pow2
  split_ifs with h
  · conv_rhs => rw [← Int.toNat_of_nonneg h]
    rw [zpow_natCast]
  · have h' : 0 ≤ -e := by omega
    have : e = -((-e).toNat : Int) := by rw [Int.toNat_of_nonneg h']; ring
    conv_rhs => rw [this]
    rw [zpow_neg, zpow_natCast, one_div]

theorem pow2_add (a b : Int) : pow2 (a + b) = pow2 a * pow2 b := by
  simp only [pow2_eq_zpow]; exact zpow_add₀ (by norm_num) a b

theorem pow2_mono {a b : Int} (h : a ≤ b) : pow2 a ≤ pow2 b := by
  simp only [pow2_eq_zpow]; exact zpow_le_zpow_right₀ (by norm_num) h

/-- `2^(ilog2 q) ≤ |q|` -/
theorem pow2_ilog2_le {q : Rat} (hq : q ≠ 0) : pow2 (ilog2 q) ≤ |q| := by
  unfold ilog2
  simp only []
  have habs : (if q < 0 then -q else q) = |q| := by
    split_ifs with h
    · exact (abs_of_neg h).symm
    · exact (abs_of_nonneg (not_lt.mp h)).symm
  rw [habs]
  split_ifs with h1 h2
  · -- |q| < 2^e0 : the answer is e0 - 1
    have hn : q.num.natAbs ≠ 0 := by simpa using hq
    have hd : q.den ≠ 0 := q.den_nz
    have h_n : (2 : Rat) ^ (Nat.log2 q.num.natAbs) ≤ (q.num.natAbs : Rat) := by
      exact_mod_cast Nat.log2_self_le hn
    have h_d : (q.den : Rat) < (2 : Rat) ^ (Nat.log2 q.den + 1) := by
      exact_mod_cast Nat.lt_log2_self
    have hq' : |q| = (q.num.natAbs : Rat) / (q.den : Rat) := by
      conv_lhs => rw [← Rat.num_div_den q]
      rw [abs_div, Nat.abs_cast]
      congr 1
      rw [Nat.cast_natAbs, Int.cast_abs]
    have hdpos : (0 : Rat) < q.den := by exact_mod_cast Nat.pos_of_ne_zero hd
    rw [hq', pow2_eq_zpow, le_div_iff₀ hdpos]
    have e : (2 : Rat) ^ ((Nat.log2 q.num.natAbs : Int) - (Nat.log2 q.den : Int) - 1)
        = (2 : Rat) ^ (Nat.log2 q.num.natAbs) / (2 : Rat) ^ (Nat.log2 q.den + 1) := by
      have hc : ((Nat.log2 q.den : Int) + 1) = ((Nat.log2 q.den + 1 : Nat) : Int) := by push_cast; ring
      rw [sub_sub, zpow_sub₀ (by norm_num), zpow_natCast, hc, zpow_natCast]
    rw [e]
    have hpos : (0 : Rat) < (2 : Rat) ^ (Nat.log2 q.den + 1) := by positivity
    rw [div_mul_eq_mul_div, div_le_iff₀ hpos]
    calc (2 : Rat) ^ (Nat.log2 q.num.natAbs) * (q.den : Rat)
        ≤ (q.num.natAbs : Rat) * (q.den : Rat) := mul_le_mul_of_nonneg_right h_n hdpos.le
      _ ≤ (q.num.natAbs : Rat) * (2 : Rat) ^ (Nat.log2 q.den + 1) :=
          mul_le_mul_of_nonneg_left h_d.le (by positivity)
  · exact h2
  · exact not_lt.mp h1

/-- the unit in the last place is covered by the relative plus the absolute error bound -/
theorem ulp_le (prec : Nat) (emin : Int) (v : Rat) :
    ulp prec emin v ≤ pow2 (-((prec : Int) - 1)) * |v| + pow2 (emin - (prec : Int) + 1) := by
  have hpos1 : 0 ≤ pow2 (-((prec : Int) - 1)) * |v| := mul_nonneg (pow2_pos _).le (abs_nonneg _)
  unfold ulp
  simp only []
  by_cases hv : v = 0
  · subst hv
    simp
  · simp only [hv, ↓reduceIte]
    split_ifs with hlt
    · linarith
    · -- normal range: ulp = 2^(e - prec + 1) with 2^e <= |v|
      have he := pow2_ilog2_le hv
      have : pow2 (ilog2 v - (prec : Int) + 1) = pow2 (-((prec : Int) - 1)) * pow2 (ilog2 v) := by
        rw [← pow2_add]; congr 1; ring
      rw [this]
      have := mul_le_mul_of_nonneg_left he (pow2_pos (-((prec : Int) - 1))).le
      linarith [(pow2_pos (emin - (prec : Int) + 1)).le]

/-- **the float model for directed roundings**: a finite `down v` / `up v` of a value inside the
range of the format is within `eps·|v| + omega` of `v` -/
theorem float_model_directed (prec : Nat) (emin emax : Int) (v d : Rat)
    (hrange : |v| ≤ maxFinite prec emax)
    (h : (Rounding.float prec emin emax).down v = fin d ∨ (Rounding.float prec emin emax).up v = fin d) :
    |d - v| ≤ pow2 (-((prec : Int) - 1)) * |v| + pow2 (emin - (prec : Int) + 1) := by
  have hr := abs_le.mp hrange
  have hu := ulp_pos prec emin v
  refine le_trans ?_ (ulp_le prec emin v)
  have n1 : ¬ v < -maxFinite prec emax := by linarith
  have n2 : ¬ maxFinite prec emax < v := by linarith
  simp only [Rounding.float, n1, n2, ↓reduceIte, ExtRat.fin.injEq] at h
  -- `d` is the multiple of the ulp just below or just above `v`
  rw [abs_le]
  rcases h with rfl | rfl
  · have f2 : v < ((v / ulp prec emin v).floor + 1 : Rat) * ulp prec emin v :=
      (div_lt_iff₀ hu).mp (Int.lt_floor_add_one (v / ulp prec emin v))
    constructor <;> linarith [floor_div_mul_le (q := v) hu]
  · have f2 : ((v / ulp prec emin v).ceil - 1 : Rat) * ulp prec emin v < v :=
      (lt_div_iff₀ hu).mp (by linarith [Rat.ceil_lt (x := v / ulp prec emin v)])
    constructor <;> linarith [le_ceil_div_mul (q := v) hu]

end PPLV.Interval

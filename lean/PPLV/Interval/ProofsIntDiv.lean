import PPLV.Interval.ProofsIntRounding
import PPLV.Checked.Proofs2
/-!
# C12 / native integers: checked division `PPLV.Checked.div` under `Check_Overflow_Policy<T>`

* `floor_tdiv_any`, `ceil_tdiv_any`: floor / ceiling of `x / y` from the truncated quotient and remainder, for any
  non-zero divisor (the fix-up condition is the one `div_signed_int` tests);
* `div_shape`: what `div` computes for `ROUND_DOWN` / `ROUND_UP` away from the delegated negation (signed and
  unsigned types alike: `round_gt_int` never reaches its overflow branch);
* `div_inRange`: the stored value is a value of the type (from `divSigned_okq` / `divUnsigned_okq`);
* `div_down`, `div_up`: the result is the delegated negation (signed, divisor −1) or the floor (ceiling) of the
  exact quotient with `V_EQ` exactly when the quotient is an integer.
-/
set_option linter.unusedSimpArgs false
namespace PPLV.Interval.Native
open PPLV.Interval PPLV.Checked PPLV.Checked.Result

/-! ## truncating division against floor / ceiling, any non-zero divisor -/

theorem cast_div_neg_neg (x y : Int) : ((x : Rat) / (y : Rat)) = (((-x : Int) : Rat) / ((-y : Int) : Rat)) := by
  push_cast; rw [neg_div_neg_eq]

/-- the condition `decide (m < 0) != decide (y < 0)` of `div_signed_int` -/
def truncAbove (m y : Int) : Bool := decide (m < 0) != decide (y < 0)

theorem floor_tdiv_any (x y : Int) (hy : y ≠ 0) :
    ((x : Rat) / (y : Rat)).floor =
      if x.tmod y = 0 then x.tdiv y else if truncAbove (x.tmod y) y = true then x.tdiv y - 1 else x.tdiv y := by
  unfold truncAbove
  rcases (by omega : 0 < y ∨ y < 0) with hp | hn
  · rw [floor_of_tdiv x y hp]
    have b : ¬ y < 0 := by omega
    by_cases h0 : x.tmod y = 0
    · simp [h0]
    · by_cases h1 : x.tmod y < 0 <;> simp [h0, h1, b]
  · rw [cast_div_neg_neg, floor_of_tdiv (-x) (-y) (by omega)]
    have e1 : (-x).tdiv (-y) = x.tdiv y := by rw [Int.neg_tdiv, Int.tdiv_neg]; omega
    have e2 : (-x).tmod (-y) = -(x.tmod y) := by rw [Int.neg_tmod, Int.tmod_neg]
    rw [e1, e2]
    by_cases h0 : x.tmod y = 0
    · simp [h0]
    · by_cases h1 : x.tmod y < 0
      · have : ¬ (-(x.tmod y) < 0) := by omega
        have t : (decide (x.tmod y < 0) != decide (y < 0)) = false := by simp [h1, hn]
        simp only [this, h0, t, if_false, Bool.false_eq_true]
      · have : -(x.tmod y) < 0 := by omega
        have t : (decide (x.tmod y < 0) != decide (y < 0)) = true := by simp [h1, hn]
        simp only [this, h0, t, if_false, if_true]

theorem truncAbove_neg {m : Int} (hm : m ≠ 0) (y : Int) : truncAbove (-m) y = !truncAbove m y := by
  unfold truncAbove
  rcases (by omega : m < 0 ∨ 0 < m) with h | h <;> simp [h, Int.not_lt.mpr h.le]

/-- the ceiling of `x / y` is minus the floor of `(-x) / y` -/
theorem ceil_tdiv_any (x y : Int) (hy : y ≠ 0) :
    ((x : Rat) / (y : Rat)).ceil =
      if x.tmod y = 0 then x.tdiv y else if truncAbove (x.tmod y) y = true then x.tdiv y else x.tdiv y + 1 := by
  have h := floor_tdiv_any (-x) y hy
  rw [Int.cast_neg, neg_div, Int.neg_tmod, Int.neg_tdiv] at h
  rw [Rat.ceil_eq_neg_floor_neg, h]
  by_cases h0 : x.tmod y = 0
  · rw [if_pos (by omega), if_pos h0, neg_neg]
  · rw [if_neg (by omega), if_neg h0, truncAbove_neg h0]
    cases truncAbove (x.tmod y) y
    · show -(-x.tdiv y - 1) = x.tdiv y + 1
      omega
    · exact neg_neg _

/-- the exact quotient is an integer exactly when the remainder is zero: this and `quot_of_tmod_zero` -/
theorem tmod_zero_of_quot_int (x y s : Int) (hy : y ≠ 0) : ((s : Rat) = (x : Rat) / (y : Rat)) → x.tmod y = 0 := by
  intro h
  have := (div_eq_int' (s := s) hy).mp h.symm
  rw [this]; exact Int.mul_tmod_left s y

theorem quot_of_tmod_zero (x y : Int) (hy : y ≠ 0) (h : x.tmod y = 0) : ((x.tdiv y : Int) : Rat) = (x : Rat) / (y : Rat) := by
  have e := Int.mul_tdiv_add_tmod x y
  rw [h] at e
  exact ((div_eq_int' hy).mpr (by rw [Int.mul_comm]; omega)).symm


/-! ## what `div` computes under a directed rounding, away from the delegated negation -/

theorem div_shape {ty : IntTy} (hb : 1 ≤ ty.bits) {to0 x y : Int}
    (hx : ty.inRange x) (hy : ty.inRange y) (hy0 : y ≠ 0) (hn : ¬ (ty.signed = true ∧ y = -1))
    {dir : Dir} (hd : dir = .down ∨ dir = .up) :
    div ty cop to0 x y dir =
      if x.tmod y = 0 then (x.tdiv y, V_EQ)
      else if truncAbove (x.tmod y) y = true then roundLtNoOverflow (x.tdiv y) dir
      else roundGtNoOverflow (x.tdiv y) dir := by
  have hco : cop.checkOverflow = true := rfl
  have hdz : cop.checkDivZero = false := rfl
  have hinf : cop.hasInfinity = false := rfl
  have hnr : dir.notRequested = false := by rcases hd with rfl | rfl <;> rfl
  unfold div truncAbove
  cases hs : ty.signed
  · -- unsigned
    simp only [Bool.false_eq_true, if_false]
    unfold divUnsigned
    simp only [hdz, Bool.false_and, Bool.false_eq_true, if_false, hnr]
    have hx' : ty.finite cop x := finite_cop.mpr hx
    have hy' : ty.finite cop y := finite_cop.mpr hy
    have c0 : ty.cmin = 0 := by simp [IntTy.cmin, hs]
    have hx0 : 0 ≤ x := by have := hx.1; omega
    have hyp : 0 < y := by have := hy.1; omega
    obtain ⟨e, p, _⟩ := tdiv_tmod_pos x hyp
    obtain ⟨m0, m1, q0⟩ := p hx0
    obtain ⟨hfq, hb2⟩ := tdiv_finite (wf_cop hb) hx' hy' hy0 (by omega)
    by_cases hm : x.tmod y = 0
    · simp only [hm, beq_self_eq_true, if_true]
    · have hmb : (x.tmod y == 0) = false := by simpa using hm
      have t : (decide (x.tmod y < 0) != decide (y < 0)) = false := by
        have a : ¬ x.tmod y < 0 := by omega
        have b : ¬ y < 0 := by omega
        simp [a, b]
      simp only [hmb, hm, t, Bool.false_eq_true, if_false]
      have hy2 : 2 ≤ y := by
        by_contra hc
        have : y = 1 := by omega
        rw [this] at hm; simp at hm
      have hb3 := (hb2 (Or.inl hy2)).1 hx0
      have hne : (x.tdiv y == ty.emax cop) = false := by
        have := hx.2; have := hy.2
        rw [emax_cop]
        have : x.tdiv y ≠ ty.cmax := by omega
        simpa using this
      unfold roundGt roundGtNoOverflow
      simp only [hne, Bool.false_eq_true, if_false]
  · -- signed
    have hm1 : y ≠ -1 := fun h => hn ⟨hs, h⟩
    have hb1 : (y == -1) = false := by simpa using hm1
    simp only [if_true]
    unfold divSigned
    simp only [hdz, hco, Bool.false_and, Bool.true_and, Bool.false_eq_true, if_false, hnr, hb1]
    by_cases hm : x.tmod y = 0
    · simp only [hm, beq_self_eq_true, if_true]
    · have hmb : (x.tmod y == 0) = false := by simpa using hm
      simp only [hmb, hm, Bool.false_eq_true, if_false]

/-- the stored value is a value of the type -/
theorem div_inRange {ty : IntTy} (hb : 1 ≤ ty.bits) (hl : ty.LargerOK) {to0 x y : Int}
    (h0 : ty.inRange to0) (hx : ty.inRange x) (hy : ty.inRange y) (hy0 : y ≠ 0) (dir : Dir) :
    ty.inRange (div ty cop to0 x y dir).1 := by
  have hco : cop.checkOverflow = true := rfl
  have hx' : ty.finite cop x := finite_cop.mpr hx
  have hy' : ty.finite cop y := finite_cop.mpr hy
  unfold div
  cases hs : ty.signed
  · simp only [Bool.false_eq_true, if_false]
    exact (divUnsigned_okq (wf_cop hb) hs dir h0 hx' hy' (Or.inr hy0)).no_wrap
  · simp only [if_true]
    exact (divSigned_okq (wf_cop hb) hs hl hco dir h0 hx' hy' (Or.inr hy0)).no_wrap

/-- a signed division by −1 is the delegated negation, whatever the direction -/
theorem div_neg_one {ty : IntTy} (hb : 1 ≤ ty.bits) (hl : ty.LargerOK) (hs : ty.signed = true) {to0 x : Int}
    (h0 : ty.inRange to0) (hx : ty.inRange x) (dir : Dir) : Tri ty cop dir to0 (div ty cop to0 x (-1) dir) (-x) := by
  have hco : cop.checkOverflow = true := rfl
  have hdz : cop.checkDivZero = false := rfl
  have e : div ty cop to0 x (-1) dir = negSigned ty cop to0 x dir := by
    unfold div divSigned
    simp only [hs, if_true, hdz, hco, Bool.false_and, Bool.true_and, Bool.false_eq_true, if_false,
      beq_self_eq_true]
  rw [e]
  exact negSigned_tri (wf_cop hb) hs hl hco dir h0 (finite_cop.mpr hx)

/-- checked division rounding down: either the delegated negation (signed, divisor −1), or the floor of the
exact quotient, which is a value of the type, with `V_EQ` exactly when the quotient is an integer -/
theorem div_down {ty : IntTy} (hb : 1 ≤ ty.bits) (hl : ty.LargerOK) {to0 x y : Int}
    (h0 : ty.inRange to0) (hx : ty.inRange x) (hy : ty.inRange y) (hy0 : y ≠ 0) :
    (ty.signed = true ∧ y = -1 ∧ Tri ty cop .down to0 (div ty cop to0 x y .down) (-x)) ∨
    (¬ (ty.signed = true ∧ y = -1) ∧ ∃ F : Int, ((x : Rat) / (y : Rat)).floor = F ∧ ty.cmin ≤ F ∧ F ≤ ty.cmax ∧
        div ty cop to0 x y .down = (F, if (F : Rat) = (x : Rat) / (y : Rat) then V_EQ else V_GT)) := by
  by_cases hn : ty.signed = true ∧ y = -1
  · obtain ⟨hs, rfl⟩ := hn
    exact Or.inl ⟨hs, rfl, div_neg_one hb hl hs h0 hx .down⟩
  · refine Or.inr ⟨hn, ?_⟩
    have hr := div_inRange hb hl h0 hx hy hy0 .down
    have hsh := div_shape (to0 := to0) hb hx hy hy0 hn (dir := .down) (Or.inl rfl)
    have hF := floor_tdiv_any x y hy0
    rw [hsh] at hr
    rw [hsh, hF]
    by_cases hm : x.tmod y = 0
    · simp only [hm, if_true] at hr ⊢
      refine ⟨_, rfl, hr.1, hr.2, ?_⟩
      simp only [quot_of_tmod_zero x y hy0 hm, if_true]
    · simp only [hm, if_false] at hr ⊢
      cases ht : truncAbove (x.tmod y) y
      · simp only [ht, Bool.false_eq_true, if_false, roundGtNoOverflow, Dir.roundUp] at hr ⊢
        refine ⟨_, rfl, hr.1, hr.2, ?_⟩
        have : ¬ ((x.tdiv y : Int) : Rat) = (x : Rat) / (y : Rat) := fun h => hm (tmod_zero_of_quot_int x y _ hy0 h)
        simp (decide := true) only [this, if_false, Bool.false_eq_true]
      · simp only [ht, if_true, roundLtNoOverflow, Dir.roundDown] at hr ⊢
        simp (decide := true) only [if_true] at hr ⊢
        refine ⟨_, rfl, hr.1, hr.2, ?_⟩
        have : ¬ ((x.tdiv y - 1 : Int) : Rat) = (x : Rat) / (y : Rat) := fun h => hm (tmod_zero_of_quot_int x y _ hy0 h)
        simp only [this, if_false]

theorem div_up {ty : IntTy} (hb : 1 ≤ ty.bits) (hl : ty.LargerOK) {to0 x y : Int}
    (h0 : ty.inRange to0) (hx : ty.inRange x) (hy : ty.inRange y) (hy0 : y ≠ 0) :
    (ty.signed = true ∧ y = -1 ∧ Tri ty cop .up to0 (div ty cop to0 x y .up) (-x)) ∨
    (¬ (ty.signed = true ∧ y = -1) ∧ ∃ C : Int, ((x : Rat) / (y : Rat)).ceil = C ∧ ty.cmin ≤ C ∧ C ≤ ty.cmax ∧
        div ty cop to0 x y .up = (C, if (C : Rat) = (x : Rat) / (y : Rat) then V_EQ else V_LT)) := by
  by_cases hn : ty.signed = true ∧ y = -1
  · obtain ⟨hs, rfl⟩ := hn
    exact Or.inl ⟨hs, rfl, div_neg_one hb hl hs h0 hx .up⟩
  · refine Or.inr ⟨hn, ?_⟩
    have hr := div_inRange hb hl h0 hx hy hy0 .up
    have hsh := div_shape (to0 := to0) hb hx hy hy0 hn (dir := .up) (Or.inr rfl)
    have hC := ceil_tdiv_any x y hy0
    rw [hsh] at hr
    rw [hsh, hC]
    by_cases hm : x.tmod y = 0
    · simp only [hm, if_true] at hr ⊢
      refine ⟨_, rfl, hr.1, hr.2, ?_⟩
      simp only [quot_of_tmod_zero x y hy0 hm, if_true]
    · simp only [hm, if_false] at hr ⊢
      cases ht : truncAbove (x.tmod y) y
      · simp only [ht, Bool.false_eq_true, if_false, roundGtNoOverflow, Dir.roundUp] at hr ⊢
        simp (decide := true) only [if_true] at hr ⊢
        refine ⟨_, rfl, hr.1, hr.2, ?_⟩
        have : ¬ ((x.tdiv y + 1 : Int) : Rat) = (x : Rat) / (y : Rat) := fun h => hm (tmod_zero_of_quot_int x y _ hy0 h)
        simp only [this, if_false]
      · simp only [ht, if_true, roundLtNoOverflow, Dir.roundDown] at hr ⊢
        refine ⟨_, rfl, hr.1, hr.2, ?_⟩
        have : ¬ ((x.tdiv y : Int) : Rat) = (x : Rat) / (y : Rat) := fun h => hm (tmod_zero_of_quot_int x y _ hy0 h)
        simp (decide := true) only [this, if_false, Bool.false_eq_true]

/-! ## non-vacuity -/

example : div (tyOfBits 8 true) cop 0 7 (-2) .down = (-4, V_GT) := by decide
example : div (tyOfBits 8 true) cop 0 7 (-2) .up = (-3, V_LT) := by decide
example : div (tyOfBits 8 true) cop 0 (-7) (-2) .down = (3, V_GT) := by decide
example : div (tyOfBits 8 true) cop 0 (-7) (-2) .up = (4, V_LT) := by decide
example : div (tyOfBits 8 true) cop 0 (-7) 2 .down = (-4, V_GT) := by decide
example : div (tyOfBits 8 true) cop 0 (-8) 2 .down = (-4, V_EQ) := by decide
example : div (tyOfBits 8 true) cop 0 (-128) (-1) .up = (0, V_LT_PLUS_INFINITY.orUnrep) := by decide
example : div (tyOfBits 8 true) cop 0 (-128) (-1) .down = (127, V_GT_SUP) := by decide
example : div (tyOfBits 8 true) cop 0 5 (-1) .down = (-5, V_EQ) := by decide
example : div (tyOfBits 8 false) cop 0 255 2 .up = (128, V_LT) := by decide
example : div (tyOfBits 8 false) cop 0 255 2 .down = (127, V_GT) := by decide
example : div (tyOfBits 8 false) cop 0 254 2 .up = (127, V_EQ) := by decide

/-- the hypotheses of `div_down` / `div_up` hold on a non-trivial instance and the second disjunct is the one
that applies -/
example : ∃ F : Int, (((7 : Int) : Rat) / ((-2 : Int) : Rat)).floor = F ∧
    div (tyOfBits 8 true) cop 0 7 (-2) .down = (F, if (F : Rat) = ((7 : Int) : Rat) / ((-2 : Int) : Rat) then V_EQ else V_GT) := by
  have hb : 1 ≤ (tyOfBits 8 true).bits := by decide
  have hl : (tyOfBits 8 true).LargerOK := ⟨fun _ => ⟨by decide, by decide⟩⟩
  have hr : ∀ v : Int, -128 ≤ v → v ≤ 127 → (tyOfBits 8 true).inRange v := fun v a b => by
    have e1 : (tyOfBits 8 true).cmin = -128 := by decide
    have e2 : (tyOfBits 8 true).cmax = 127 := by decide
    unfold IntTy.inRange; rw [e1, e2]; exact ⟨a, b⟩
  rcases div_down (to0 := 0) (x := 7) (y := -2) hb hl (hr 0 (by decide) (by decide)) (hr 7 (by decide) (by decide))
    (hr (-2) (by decide) (by decide)) (by decide) with ⟨_, h, _⟩ | ⟨_, F, a, _, _, b⟩
  · exact absurd h (by decide)
  · exact ⟨F, a, b⟩

end PPLV.Interval.Native

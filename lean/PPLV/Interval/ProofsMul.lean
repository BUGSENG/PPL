import PPLV.Interval.ProofsArith
/-!
# C12 — enclosure for `Interval::mul_assign`: every entry of the nine-case sign table
-/
set_option linter.unnecessarySeqFocus false
set_option linter.unusedSimpArgs false
namespace PPLV.Interval
open ExtRat (ninf fin pinf)

theorem sgnB_lower_of_mem {p : Policy} {x : Iv} {a : Rat} (h : x.mem p a) :
    sgnB p .lower x.lo = x.lo.value.sgn := sgnB_eq p .lower x.lo (a := a) h.1
theorem sgnB_upper_of_mem {p : Policy} {x : Iv} {a : Rat} (h : x.mem p a) :
    sgnB p .upper x.hi = x.hi.value.sgn := sgnB_eq p .upper x.hi (a := a) h.2

/-- the shortcut `xus = (xls > 0) ? 1 : sgn_b(UPPER, …)` is the sign of the upper bound -/
theorem xus_of_mem {p : Policy} {x : Iv} {a : Rat} (h : x.mem p a) :
    (if x.lo.value.sgn > 0 then 1 else x.hi.value.sgn) = x.hi.value.sgn := by
  obtain ⟨⟨v1, o1⟩, ⟨v2, o2⟩⟩ := x
  unfold Iv.mem lowerOk upperOk at h
  split_ifs with hs
  · cases v1 with
    | ninf => simp [ExtRat.sgn] at hs
    | pinf => simp at h
    | fin l =>
      have hl : 0 < l := ratSgn_pos.mp hs
      cases v2 with
      | ninf => simp at h
      | pinf => rfl
      | fin u =>
        have h1 := lowerOkV_fin_le h.1
        have h2 := upperOkV_fin_le h.2
        have : 0 < u := by linarith
        simp only [ExtRat.sgn, ExtRat.ratSgn]
        have h3 : ¬ u < 0 := by linarith
        have h4 : ¬ u = 0 := by linarith
        simp [h3, h4]
  · rfl

/-! sign facts read off the tests of the table -/

/-- a lower bound with a member that passes the test `sgn ≥ 0` is finite and the member is non-negative -/
theorem lo_nonneg {p : Policy} {lo : Bound} {a : Rat} (h : lowerOk p lo a) (hs : lo.value.sgn ≥ 0) :
    lo.value.isFin ≠ false ∧ 0 ≤ a := by
  unfold lowerOk at h
  cases hv : lo.value with
  | ninf => rw [hv] at hs; exact absurd hs (by decide)
  | pinf => rw [hv] at h; exact h.elim
  | fin l => rw [hv] at h hs; exact ⟨Bool.true_eq_false_eq_False, le_trans (ratSgn_nonneg.mp hs) (lowerOkV_fin_le h)⟩

theorem hi_nonpos {p : Policy} {hi : Bound} {a : Rat} (h : upperOk p hi a) (hs : hi.value.sgn ≤ 0) :
    hi.value.isFin ≠ false ∧ a ≤ 0 := by
  unfold upperOk at h
  cases hv : hi.value with
  | pinf => rw [hv] at hs; exact absurd hs (by decide)
  | ninf => rw [hv] at h; exact h.elim
  | fin u => rw [hv] at h hs; exact ⟨Bool.true_eq_false_eq_False, le_trans (upperOkV_fin_le h) (ratSgn_nonpos.mp hs)⟩

theorem lo_nonneg_fin {lo : Bound} {l : Rat} (hs : lo.value.sgn ≥ 0) (hv : lo.value = fin l) : 0 ≤ l := by
  rw [hv] at hs
  exact ratSgn_nonneg.mp hs

theorem hi_nonpos_fin {hi : Bound} {u : Rat} (hs : hi.value.sgn ≤ 0) (hv : hi.value = fin u) : u ≤ 0 := by
  rw [hv] at hs
  exact ratSgn_nonpos.mp hs

/-- a finite lower bound whose sign test failed is negative -/
theorem lo_neg_fin {lo : Bound} {l : Rat} (hs : ¬ lo.value.sgn ≥ 0) (hv : lo.value = fin l) : l < 0 := by
  rw [hv] at hs
  exact ratSgn_neg.mp (by simpa [ExtRat.sgn] using hs)

theorem hi_pos_fin {hi : Bound} {u : Rat} (hs : ¬ hi.value.sgn ≤ 0) (hv : hi.value = fin u) : 0 < u := by
  rw [hv] at hs
  exact ratSgn_pos.mp (by simpa [ExtRat.sgn] using hs)

theorem lo_ne_zero {lo : Bound} (hs : ¬ lo.value.sgn ≥ 0) : lo.value ≠ fin 0 :=
  fun hv => lt_irrefl _ (lo_neg_fin hs hv)

theorem hi_ne_zero {hi : Bound} (hs : ¬ hi.value.sgn ≤ 0) : hi.value ≠ fin 0 :=
  fun hv => lt_irrefl _ (hi_pos_fin hs hv)

theorem lo_cmp {p : Policy} {lo : Bound} {a l : Rat} (h : lowerOk p lo a) (hv : lo.value = fin l) :
    cmp (getOpen p lo) l a := by
  unfold lowerOk at h; rw [hv] at h; exact (lowerOkV_fin_iff _ _ _).mp h
theorem hi_cmp {p : Policy} {hi : Bound} {a u : Rat} (h : upperOk p hi a) (hv : hi.value = fin u) :
    cmp (getOpen p hi) a u := by
  unfold upperOk at h; rw [hv] at h; exact (upperOkV_fin_iff _ _ _).mp h

/-- a non-negative member below the upper bound zero is zero -/
theorem zero_of_hi {p : Policy} {hi : Bound} {a : Rat} (h : upperOk p hi a) (ha : 0 ≤ a) (hv : hi.value = fin 0) :
    a = 0 := le_antisymm (cmp_le (hi_cmp h hv)) ha

theorem zopen_ne {u v : Rat} (hu : u ≠ 0) (hv : v ≠ 0) (o1 o2 : Bool) : zopen u o1 v o2 = (o1 || o2) := by
  simp [zopen, hu, hv]

/-! ### the entries of the table (first bound belongs to `x`, second to `y`)

Each is `bMulZ_sound` with one of the sign variants `mulV…` for two finite bounds; a zero bound against an infinite
one is excluded by the sign tests or forces the member at the zero bound to be zero. -/
section entries
variable {p : Policy} {R : Rounding} {a b : Rat}

/-- `xl*yl` as lower bound, `xl ≥ 0`, `yl ≥ 0` -/
theorem entry_PP_L (hR : R.Sound) {xl yl : Bound} (h1 : lowerOk p xl a) (h2 : lowerOk p yl b)
    (hx : xl.value.sgn ≥ 0) (hy : yl.value.sgn ≥ 0) :
    lowerOk p (bMulZ p R .lower p .lower xl xl.value.sgn p .lower yl yl.value.sgn) (a * b) :=
  bMulZ_sound (tt := .lower) (t1 := .lower) (t2 := .lower) hR h1 h2
    (fun _ _ hu hv => (lowerOkV_fin_iff _ _ _).mpr
      (mulV1 (lo_nonneg_fin hx hu) (lo_nonneg_fin hy hv) (lo_cmp h1 hu) (lo_cmp h2 hv)))
    (fun _ hi => absurd hi (lo_nonneg h2 hy).1) (fun _ hi => absurd hi (lo_nonneg h1 hx).1)

/-- `xu*yu` as upper bound, members non-negative -/
theorem entry_PP_U (hR : R.Sound) {xu yu : Bound} (h1 : upperOk p xu a) (h2 : upperOk p yu b)
    (ha0 : 0 ≤ a) (hb0 : 0 ≤ b) :
    upperOk p (bMulZ p R .upper p .upper xu xu.value.sgn p .upper yu yu.value.sgn) (a * b) :=
  bMulZ_sound (tt := .upper) (t1 := .upper) (t2 := .upper) hR h1 h2
    (fun _ _ hu hv => (upperOkV_fin_iff _ _ _).mpr (mulV2 ha0 hb0 (hi_cmp h1 hu) (hi_cmp h2 hv)))
    (fun hz _ => zero_of_hi h1 ha0 hz) (fun hz _ => zero_of_hi h2 hb0 hz)

/-- `xu*yl` as lower bound, `x` non-negative, `yl < 0` -/
theorem entry_PN_L (hR : R.Sound) {xu yl : Bound} (h1 : upperOk p xu a) (h2 : lowerOk p yl b)
    (ha0 : 0 ≤ a) (hy : ¬ yl.value.sgn ≥ 0) :
    lowerOk p (bMulZ p R .lower p .upper xu xu.value.sgn p .lower yl yl.value.sgn) (a * b) :=
  bMulZ_sound (tt := .lower) (t1 := .upper) (t2 := .lower) hR h1 h2
    (fun _ _ hu hv => (lowerOkV_fin_iff _ _ _).mpr (mulV3 ha0 (hi_cmp h1 hu) (lo_cmp h2 hv) (lo_neg_fin hy hv)))
    (fun hz _ => zero_of_hi h1 ha0 hz) (fun hz => absurd hz (lo_ne_zero hy))

/-- `xl*yu` as upper bound, `xl ≥ 0`, `yu ≤ 0` -/
theorem entry_PN_U (hR : R.Sound) {xl yu : Bound} (h1 : lowerOk p xl a) (h2 : upperOk p yu b)
    (hx : xl.value.sgn ≥ 0) (hy : yu.value.sgn ≤ 0) :
    upperOk p (bMulZ p R .upper p .lower xl xl.value.sgn p .upper yu yu.value.sgn) (a * b) :=
  bMulZ_sound (tt := .upper) (t1 := .lower) (t2 := .upper) hR h1 h2
    (fun _ _ hu hv => (upperOkV_fin_iff _ _ _).mpr
      (mulV4 (lo_cmp h1 hu) (lo_nonneg_fin hx hu) (hi_cmp h2 hv) (hi_nonpos_fin hy hv)))
    (fun _ hi => absurd hi (hi_nonpos h2 hy).1) (fun _ hi => absurd hi (lo_nonneg h1 hx).1)

/-- `xu*yu` as upper bound, `x` non-negative, `yu > 0` -/
theorem entry_PS_U (hR : R.Sound) {xu yu : Bound} (h1 : upperOk p xu a) (h2 : upperOk p yu b)
    (ha0 : 0 ≤ a) (hy : ¬ yu.value.sgn ≤ 0) :
    upperOk p (bMulZ p R .upper p .upper xu xu.value.sgn p .upper yu yu.value.sgn) (a * b) :=
  bMulZ_sound (tt := .upper) (t1 := .upper) (t2 := .upper) hR h1 h2
    (fun _ _ hu hv => (upperOkV_fin_iff _ _ _).mpr (mulV5 ha0 (hi_cmp h1 hu) (hi_cmp h2 hv) (hi_pos_fin hy hv)))
    (fun hz _ => zero_of_hi h1 ha0 hz) (fun hz => absurd hz (hi_ne_zero hy))

/-- `xl*yu` as lower bound, `xl < 0`, `y` non-negative -/
theorem entry_NP_L (hR : R.Sound) {xl yu : Bound} (h1 : lowerOk p xl a) (h2 : upperOk p yu b)
    (hx : ¬ xl.value.sgn ≥ 0) (hb0 : 0 ≤ b) :
    lowerOk p (bMulZ p R .lower p .lower xl xl.value.sgn p .upper yu yu.value.sgn) (a * b) :=
  bMulZ_sound (tt := .lower) (t1 := .lower) (t2 := .upper) hR h1 h2
    (fun _ _ hu hv => (lowerOkV_fin_iff _ _ _).mpr (mulV6 (lo_cmp h1 hu) (lo_neg_fin hx hu) hb0 (hi_cmp h2 hv)))
    (fun hz => absurd hz (lo_ne_zero hx)) (fun hz _ => zero_of_hi h2 hb0 hz)

/-- `xu*yl` as upper bound, `xu ≤ 0`, `yl ≥ 0` -/
theorem entry_NP_U (hR : R.Sound) {xu yl : Bound} (h1 : upperOk p xu a) (h2 : lowerOk p yl b)
    (hx : xu.value.sgn ≤ 0) (hy : yl.value.sgn ≥ 0) :
    upperOk p (bMulZ p R .upper p .upper xu xu.value.sgn p .lower yl yl.value.sgn) (a * b) :=
  bMulZ_sound (tt := .upper) (t1 := .upper) (t2 := .lower) hR h1 h2
    (fun _ _ hu hv => (upperOkV_fin_iff _ _ _).mpr
      (mulV7 (hi_cmp h1 hu) (hi_nonpos_fin hx hu) (lo_cmp h2 hv) (lo_nonneg_fin hy hv)))
    (fun _ hi => absurd hi (lo_nonneg h2 hy).1) (fun _ hi => absurd hi (hi_nonpos h1 hx).1)

/-- `xu*yu` as lower bound, `xu ≤ 0`, `yu ≤ 0` -/
theorem entry_NN_L (hR : R.Sound) {xu yu : Bound} (h1 : upperOk p xu a) (h2 : upperOk p yu b)
    (hx : xu.value.sgn ≤ 0) (hy : yu.value.sgn ≤ 0) :
    lowerOk p (bMulZ p R .lower p .upper xu xu.value.sgn p .upper yu yu.value.sgn) (a * b) :=
  bMulZ_sound (tt := .lower) (t1 := .upper) (t2 := .upper) hR h1 h2
    (fun _ _ hu hv => (lowerOkV_fin_iff _ _ _).mpr
      (mulV8 (hi_cmp h1 hu) (hi_nonpos_fin hx hu) (hi_cmp h2 hv) (hi_nonpos_fin hy hv)))
    (fun _ hi => absurd hi (hi_nonpos h2 hy).1) (fun _ hi => absurd hi (hi_nonpos h1 hx).1)

/-- `xl*yl` as upper bound, `x` non-positive, `yl < 0` -/
theorem entry_NN_U (hR : R.Sound) {xl yl : Bound} (h1 : lowerOk p xl a) (h2 : lowerOk p yl b)
    (hx : ¬ xl.value.sgn ≥ 0) (ha0 : a ≤ 0) (hy : ¬ yl.value.sgn ≥ 0) :
    upperOk p (bMulZ p R .upper p .lower xl xl.value.sgn p .lower yl yl.value.sgn) (a * b) :=
  bMulZ_sound (tt := .upper) (t1 := .lower) (t2 := .lower) hR h1 h2
    (fun _ _ hu hv => (upperOkV_fin_iff _ _ _).mpr (mulV11 (lo_cmp h1 hu) ha0 (lo_cmp h2 hv) (lo_neg_fin hy hv)))
    (fun hz => absurd hz (lo_ne_zero hx)) (fun hz => absurd hz (lo_ne_zero hy))

/-- `xl*yu` as lower bound, `x` non-positive, `yu > 0` -/
theorem entry_NS_L (hR : R.Sound) {xl yu : Bound} (h1 : lowerOk p xl a) (h2 : upperOk p yu b)
    (hx : ¬ xl.value.sgn ≥ 0) (ha0 : a ≤ 0) (hy : ¬ yu.value.sgn ≤ 0) :
    lowerOk p (bMulZ p R .lower p .lower xl xl.value.sgn p .upper yu yu.value.sgn) (a * b) :=
  bMulZ_sound (tt := .lower) (t1 := .lower) (t2 := .upper) hR h1 h2
    (fun _ _ hu hv => (lowerOkV_fin_iff _ _ _).mpr (mulV10 (lo_cmp h1 hu) ha0 (hi_cmp h2 hv) (hi_pos_fin hy hv)))
    (fun hz => absurd hz (lo_ne_zero hx)) (fun hz => absurd hz (hi_ne_zero hy))

/-- `xu*yu` as upper bound, `xu > 0`, `y` non-negative -/
theorem entry_SP_U (hR : R.Sound) {xu yu : Bound} (h1 : upperOk p xu a) (h2 : upperOk p yu b)
    (hx : ¬ xu.value.sgn ≤ 0) (hb0 : 0 ≤ b) :
    upperOk p (bMulZ p R .upper p .upper xu xu.value.sgn p .upper yu yu.value.sgn) (a * b) :=
  bMulZ_sound (tt := .upper) (t1 := .upper) (t2 := .upper) hR h1 h2
    (fun _ _ hu hv => (upperOkV_fin_iff _ _ _).mpr (mulV14 (hi_cmp h1 hu) (hi_pos_fin hx hu) hb0 (hi_cmp h2 hv)))
    (fun hz => absurd hz (hi_ne_zero hx)) (fun hz _ => zero_of_hi h2 hb0 hz)

/-- `xu*yl` as lower bound, `xu > 0`, `y` non-positive with `yl < 0` -/
theorem entry_SN_L (hR : R.Sound) {xu yl : Bound} (h1 : upperOk p xu a) (h2 : lowerOk p yl b)
    (hx : ¬ xu.value.sgn ≤ 0) (hy : ¬ yl.value.sgn ≥ 0) (hb0 : b ≤ 0) :
    lowerOk p (bMulZ p R .lower p .upper xu xu.value.sgn p .lower yl yl.value.sgn) (a * b) :=
  bMulZ_sound (tt := .lower) (t1 := .upper) (t2 := .lower) hR h1 h2
    (fun _ _ hu hv => (lowerOkV_fin_iff _ _ _).mpr (mulV12 (hi_cmp h1 hu) (hi_pos_fin hx hu) (lo_cmp h2 hv) hb0))
    (fun hz => absurd hz (hi_ne_zero hx)) (fun hz => absurd hz (lo_ne_zero hy))

/-- `xl*yl` as upper bound, `xl < 0`, `y` non-positive with `yl < 0` -/
theorem entry_SN_U (hR : R.Sound) {xl yl : Bound} (h1 : lowerOk p xl a) (h2 : lowerOk p yl b)
    (hx : ¬ xl.value.sgn ≥ 0) (hy : ¬ yl.value.sgn ≥ 0) (hb0 : b ≤ 0) :
    upperOk p (bMulZ p R .upper p .lower xl xl.value.sgn p .lower yl yl.value.sgn) (a * b) :=
  bMulZ_sound (tt := .upper) (t1 := .lower) (t2 := .lower) hR h1 h2
    (fun _ _ hu hv => (upperOkV_fin_iff _ _ _).mpr (mulV13 (lo_cmp h1 hu) (lo_neg_fin hx hu) (lo_cmp h2 hv) hb0))
    (fun hz => absurd hz (lo_ne_zero hx)) (fun hz => absurd hz (lo_ne_zero hy))

theorem bMulZ_of_ne (tt t1 t2 : BT) (x1 x2 : Bound) {s1 s2 : Int} (h1 : s1 ≠ 0) (h2 : s2 ≠ 0) :
    bMulZ p R tt p t1 x1 s1 p t2 x2 s2 = bMul p R tt p t1 x1 p t2 x2 := by
  simp [bMulZ, h1, h2]

end entries

/-- both operands straddle zero: on each side the weaker of the two candidates -/
theorem mulStraddle_encloses {p : Policy} {R : Rounding} (hR : R.Sound) {x y : Iv} {a b : Rat}
    (ha : x.mem p a) (hb : y.mem p b) (hxl : ¬ x.lo.value.sgn ≥ 0) (hxu : ¬ x.hi.value.sgn ≤ 0)
    (hyl : ¬ y.lo.value.sgn ≥ 0) (hyu : ¬ y.hi.value.sgn ≤ 0) : (mulStraddle false p R x y).mem p (a * b) := by
  -- all four bounds are non-zero, so `mul_assign` on them is `mul_assign_z` and the candidates are entries of the table
  have L1 : 0 ≤ a → lowerOk p (bMul p R .lower p .upper x.hi p .lower y.lo) (a * b) := fun h => by
    rw [← bMulZ_of_ne _ _ _ _ _ (by omega : x.hi.value.sgn ≠ 0) (by omega : y.lo.value.sgn ≠ 0)]
    exact entry_PN_L hR ha.2 hb.1 h hyl
  have L2 : a ≤ 0 → lowerOk p (bMul p R .lower p .lower x.lo p .upper y.hi) (a * b) := fun h => by
    rw [← bMulZ_of_ne _ _ _ _ _ (by omega : x.lo.value.sgn ≠ 0) (by omega : y.hi.value.sgn ≠ 0)]
    exact entry_NS_L hR ha.1 hb.2 hxl h hyu
  have U1 : 0 ≤ a → upperOk p (bMul p R .upper p .upper x.hi p .upper y.hi) (a * b) := fun h => by
    rw [← bMulZ_of_ne _ _ _ _ _ (by omega : x.hi.value.sgn ≠ 0) (by omega : y.hi.value.sgn ≠ 0)]
    exact entry_PS_U hR ha.2 hb.2 h hyu
  have U2 : a ≤ 0 → upperOk p (bMul p R .upper p .lower x.lo p .lower y.lo) (a * b) := fun h => by
    rw [← bMulZ_of_ne _ _ _ _ _ (by omega : x.lo.value.sgn ≠ 0) (by omega : y.lo.value.sgn ≠ 0)]
    exact entry_NN_U hR ha.1 hb.1 hxl h hyl
  unfold mulStraddle replaceCandidate gt
  constructor <;> dsimp only <;> split <;> rename_i hc
  · exact (le_total 0 a).elim L1 fun h0 => lt_lower_lower_true hc (L2 h0)
  · exact (le_total 0 a).elim (fun h0 => lt_lower_lower_false (by simpa using hc) (L1 h0)) L2
  · exact (le_total 0 a).elim U1 fun h0 => lt_upper_upper_true hc (U2 h0)
  · exact (le_total 0 a).elim (fun h0 => lt_upper_upper_false (by simpa using hc) (U1 h0)) U2

/-- `mul_assign` with the candidate's bits copied (`d3 = false`): enclosure in all nine cases -/
theorem mulAssign_encloses {p : Policy} {R : Rounding} (hR : R.Sound) {x y : Iv} {a b : Rat}
    (ha : x.mem p a) (hb : y.mem p b) : (mulAssign false p R x y).mem p (a * b) := by
  unfold mulAssign mulTable
  simp only [checkEmptyArg_of_mem ha, checkEmptyArg_of_mem hb, infinitySign_of_mem ha, infinitySign_of_mem hb,
    sgnB_lower_of_mem ha, sgnB_upper_of_mem ha, sgnB_lower_of_mem hb, sgnB_upper_of_mem hb,
    xus_of_mem ha, xus_of_mem hb, Bool.or_self, Bool.false_eq_true, ↓reduceIte, bne_self_eq_false]
  refine mem_ite (fun hxl => mem_ite (fun hyl => ?_) fun hyl => mem_ite (fun hyu => ?_) fun hyu => ?_)
    fun hxl => mem_ite (fun hxu => mem_ite (fun hyl => ?_) fun hyl => mem_ite (fun hyu => ?_) fun hyu => ?_)
      fun hxu => mem_ite (fun hyl => ?_) fun hyl => mem_ite (fun hyu => ?_) fun hyu => ?_
  · -- x ≥ 0, y ≥ 0
    exact ⟨entry_PP_L hR ha.1 hb.1 hxl hyl, entry_PP_U hR ha.2 hb.2 (lo_nonneg ha.1 hxl).2 (lo_nonneg hb.1 hyl).2⟩
  · -- x ≥ 0, y ≤ 0
    have ha0 := (lo_nonneg ha.1 hxl).2
    exact ⟨entry_PN_L hR ha.2 hb.1 ha0 hyl, entry_PN_U hR ha.1 hb.2 hxl hyu⟩
  · -- x ≥ 0, y straddles
    have ha0 := (lo_nonneg ha.1 hxl).2
    exact ⟨entry_PN_L hR ha.2 hb.1 ha0 hyl, entry_PS_U hR ha.2 hb.2 ha0 hyu⟩
  · -- x ≤ 0, y ≥ 0
    have hb0 := (lo_nonneg hb.1 hyl).2
    exact ⟨entry_NP_L hR ha.1 hb.2 hxl hb0, entry_NP_U hR ha.2 hb.1 hxu hyl⟩
  · -- x ≤ 0, y ≤ 0
    have ha0 := (hi_nonpos ha.2 hxu).2
    exact ⟨entry_NN_L hR ha.2 hb.2 hxu hyu, entry_NN_U hR ha.1 hb.1 hxl ha0 hyl⟩
  · -- x ≤ 0, y straddles
    have ha0 := (hi_nonpos ha.2 hxu).2
    exact ⟨entry_NS_L hR ha.1 hb.2 hxl ha0 hyu, entry_NN_U hR ha.1 hb.1 hxl ha0 hyl⟩
  · -- x straddles, y ≥ 0
    have hb0 := (lo_nonneg hb.1 hyl).2
    exact ⟨entry_NP_L hR ha.1 hb.2 hxl hb0, entry_SP_U hR ha.2 hb.2 hxu hb0⟩
  · -- x straddles, y ≤ 0
    have hb0 := (hi_nonpos hb.2 hyu).2
    exact ⟨entry_SN_L hR ha.2 hb.1 hxu hyl hb0, entry_SN_U hR ha.1 hb.1 hxl hyl hb0⟩
  · exact mulStraddle_encloses hR ha hb hxl hxu hyl hyu

/-! ### the code as written (`d3 = true`) -/

theorem replaceCandidate_eq {first second : Bound} (h : first.open = second.open) :
    replaceCandidate true first second = replaceCandidate false first second := by
  obtain ⟨v1, o1⟩ := first; obtain ⟨v2, o2⟩ := second
  simp only at h; subst h; rfl

theorem mulStraddle_eq {p : Policy} {R : Rounding} {x y : Iv} (h : straddleFlagsDiffer p R x y = false) :
    mulStraddle true p R x y = mulStraddle false p R x y := by
  unfold straddleFlagsDiffer at h
  simp only [Bool.or_eq_false_iff, Bool.and_eq_false_iff, bne_eq_false_iff_eq] at h
  unfold mulStraddle
  simp only []
  congr 1
  · split_ifs with hg
    · rcases h.1 with h' | h'
      · rw [hg] at h'; simp at h'
      · exact replaceCandidate_eq h'
    · rfl
  · split_ifs with hg
    · rcases h.2 with h' | h'
      · rw [hg] at h'; simp at h'
      · exact replaceCandidate_eq h'
    · rfl

theorem mulTable_congr {p : Policy} {R : Rounding} {x y : Iv} {xls xus yls yus : Int} {s s' : Iv}
    (h : ¬ xls ≥ 0 → ¬ xus ≤ 0 → ¬ yls ≥ 0 → ¬ yus ≤ 0 → s = s') :
    mulTable p R x y xls xus yls yus s = mulTable p R x y xls xus yls yus s' := by
  unfold mulTable
  exact ite_congr rfl (fun _ => rfl) fun h1 => ite_congr rfl (fun _ => rfl) fun h2 =>
    ite_congr rfl (fun _ => rfl) fun h3 => ite_congr rfl (fun _ => rfl) fun h4 => h h1 h2 h3 h4

/-- where defect 3 does not act, the code as written computes what the repaired code computes -/
theorem mulAssign_d3_eq {p : Policy} {R : Rounding} {x y : Iv} (h : d3Differs p R x y = false) :
    mulAssign true p R x y = mulAssign false p R x y := by
  unfold mulAssign
  unfold d3Differs at h
  simp only [] at h ⊢
  by_cases h1 : (checkEmptyArg p x || checkEmptyArg p y) = true
  · simp only [h1, ↓reduceIte]
  simp only [h1, Bool.false_eq_true, ↓reduceIte] at h ⊢
  by_cases h2 : (infinitySign p x != 0) = true
  · simp only [h2, ↓reduceIte]
  simp only [h2, Bool.false_eq_true, ↓reduceIte] at h ⊢
  by_cases h3 : (infinitySign p y != 0) = true
  · simp only [h3, ↓reduceIte]
  simp only [h3, Bool.false_eq_true, ↓reduceIte] at h ⊢
  apply mulTable_congr
  intro c1 c2 c3 c4
  apply mulStraddle_eq
  simpa only [c1, c2, c3, c4, ↓reduceIte] using h

theorem mulAssign_encloses_asWritten {p : Policy} {R : Rounding} (hR : R.Sound) {x y : Iv} {a b : Rat}
    (hd : d3Differs p R x y = false) (ha : x.mem p a) (hb : y.mem p b) :
    (mulAssign true p R x y).mem p (a * b) := by
  rw [mulAssign_d3_eq hd]; exact mulAssign_encloses hR ha hb

end PPLV.Interval

import PPLV.Interval.ProofsSet
/-!
# C12 — `CC76_widening_assign` only moves bounds outwards
-/
set_option linter.unnecessarySeqFocus false
set_option linter.unusedSimpArgs false
namespace PPLV.Interval
open ExtRat (ninf fin pinf)

/-- every stop point before `std::lower_bound(first, last, v)` is `< v` -/
theorem takeWhile_get_lt (stops : List Rat) (v : Rat) (i : Nat) (s : Rat)
    (hi : i < (stops.takeWhile (fun s => s < v)).length) (hs : stops[i]? = some s) : s < v := by
  induction stops generalizing i with
  | nil => simp at hi
  | cons h t ih =>
    simp only [List.takeWhile] at hi
    split at hi
    · rename_i hh
      cases i with
      | zero => simp at hs; subst hs; simpa using hh
      | succ j =>
        simp only [List.length_cons, Nat.add_lt_add_iff_right] at hi
        exact ih j hi (by simpa using hs)
    · simp at hi

/-- moving a finite lower bound down (an upper bound up) keeps the members -/
theorem lowerOk_lower {p : Policy} {b : Bound} {c s a : Rat} (h : lowerOk p b a) (hv : b.value = fin c) (hs : s < c) :
    lowerOk p ⟨fin s, b.open⟩ a := by
  unfold lowerOk at h ⊢
  rw [hv] at h
  exact lowerOkV_weaken (o := true) (fun _ => rfl) ((lowerOkV_fin_open _ _).mpr (lt_of_lt_of_le hs (lowerOkV_fin_le h)))
theorem upperOk_raise {p : Policy} {b : Bound} {c s a : Rat} (h : upperOk p b a) (hv : b.value = fin c) (hs : c < s) :
    upperOk p ⟨fin s, b.open⟩ a := by
  unfold upperOk at h ⊢
  rw [hv] at h
  exact upperOkV_weaken (o := true) (fun _ => rfl) ((upperOkV_fin_open _ _).mpr (lt_of_le_of_lt (upperOkV_fin_le h) hs))

/-- the widened interval contains the interval that is widened -/
theorem cc76Widening_encloses {p : Policy} {x y : Iv} {stops : List Rat} {a : Rat} (h : x.mem p a) :
    (cc76Widening p x y stops).mem p a := by
  unfold cc76Widening
  extract_lets x1
  have hU : x1.mem p a := by
    unfold x1
    split_ifs
    · exact h
    · split
      · rename_i xu yu hxu hyu
        extract_lets k
        split_ifs with hlt
        · split
          · split_ifs with hxs
            · exact ⟨h.1, upperOk_raise h.2 hxu hxs⟩
            · exact h
          · exact ⟨h.1, upperOk_setUnbounded p a⟩
        · exact h
      · exact h
  clear_value x1
  split_ifs
  · exact hU
  · split
    · rename_i xl yl hxl hyl
      extract_lets k back
      have hback : back.mem p a := by
        unfold back
        split_ifs with hk
        · split
          · rename_i s hs
            have hk' : k - 1 < (stops.takeWhile (fun s => s < xl)).length := by
              have : (stops.takeWhile (fun s => s < xl)).length ≠ 0 := by simpa [k, lowerBoundIdx] using hk
              unfold k lowerBoundIdx
              omega
            exact ⟨lowerOk_lower hU.1 hxl (takeWhile_get_lt stops xl _ s hk' hs), hU.2⟩
          · exact hU
        · exact ⟨lowerOk_setUnbounded p a, hU.2⟩
      clear_value back
      split_ifs with hlt
      · split
        · split_ifs
          · exact hback
          · exact hU
        · exact hback
      · exact hU
    · exact hU
end PPLV.Interval

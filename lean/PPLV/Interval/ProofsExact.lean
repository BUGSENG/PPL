import PPLV.Interval.ProofsArith
/-!
# C12 — exactness of `neg_assign`, `add_assign`, `sub_assign` when the rounding is the identity:
the result *is* the image (a sum or difference of two intervals is an interval, so the least
interval containing the image is the image itself), openness of each bound included.
-/
set_option linter.unnecessarySeqFocus false
set_option linter.unusedSimpArgs false
namespace PPLV.Interval
open ExtRat (ninf fin pinf)

/-! a one-dimensional Helly lemma: two up-closed and two down-closed sets of rationals that meet
pairwise have a common point (up-closed sets are nested) -/

theorem upclosed_nested {L L' : Rat → Prop} (hL : ∀ a b, L a → a ≤ b → L b) (hL' : ∀ a b, L' a → a ≤ b → L' b) :
    (∀ a, L a → L' a) ∨ (∀ a, L' a → L a) := by
  by_cases h : ∀ a, L a → L' a
  · exact Or.inl h
  · right
    obtain ⟨l, hl'⟩ := not_forall.mp h
    obtain ⟨hl, hnl⟩ := Classical.not_imp.mp hl'
    intro a ha
    rcases le_total a l with h1 | h1
    · exact absurd (hL' a l ha h1) hnl
    · exact hL l a hl h1

theorem downclosed_nested {U U' : Rat → Prop} (hU : ∀ a b, U a → b ≤ a → U b) (hU' : ∀ a b, U' a → b ≤ a → U' b) :
    (∀ a, U a → U' a) ∨ (∀ a, U' a → U a) := by
  by_cases h : ∀ a, U a → U' a
  · exact Or.inl h
  · right
    obtain ⟨l, hl'⟩ := not_forall.mp h
    obtain ⟨hl, hnl⟩ := Classical.not_imp.mp hl'
    intro a ha
    rcases le_total l a with h1 | h1
    · exact absurd (hU' a l ha h1) hnl
    · exact hU l a hl h1

theorem helly1 {L L' U U' : Rat → Prop}
    (hL : ∀ a b, L a → a ≤ b → L b) (hL' : ∀ a b, L' a → a ≤ b → L' b)
    (hU : ∀ a b, U a → b ≤ a → U b) (hU' : ∀ a b, U' a → b ≤ a → U' b)
    (h11 : ∃ a, L a ∧ U a) (h12 : ∃ a, L a ∧ U' a) (h21 : ∃ a, L' a ∧ U a) (h22 : ∃ a, L' a ∧ U' a) :
    ∃ a, L a ∧ L' a ∧ U a ∧ U' a := by
  rcases upclosed_nested hL hL' with hl | hl <;> rcases downclosed_nested hU hU' with hu | hu
  · obtain ⟨a, h1, h2⟩ := h11; exact ⟨a, h1, hl a h1, h2, hu a h2⟩
  · obtain ⟨a, h1, h2⟩ := h12; exact ⟨a, h1, hl a h1, hu a h2, h2⟩
  · obtain ⟨a, h1, h2⟩ := h21; exact ⟨a, hl a h1, h1, h2, hu a h2⟩
  · obtain ⟨a, h1, h2⟩ := h22; exact ⟨a, hl a h1, h1, hu a h2, h2⟩

theorem lowerOk_up {p : Policy} {x : Bound} {a b : Rat} (h : lowerOk p x a) (hab : a ≤ b) : lowerOk p x b :=
  lowerOkV_trans_le h hab
theorem upperOk_down {p : Policy} {x : Bound} {a b : Rat} (h : upperOk p x a) (hab : b ≤ a) : upperOk p x b :=
  upperOkV_trans_le h hab

/-! ### negation -/

/-- with exact rounding, the negated bound is infinite exactly when the bound is -/
theorem bNeg_id_isBoundaryInfinity (p : Policy) {tt t : BT} (h : tt ≠ t) (b : Bound) :
    isBoundaryInfinity p tt (bNeg p Rounding.id tt p t b) = isBoundaryInfinity p t b := by
  obtain ⟨v, o⟩ := b
  simp only [isBoundaryInfinity_eq, bNeg, getSpecial, adjust_id]
  cases tt <;> cases t <;> try contradiction
  all_goals cases v <;> cases p.storeSpecial <;> rfl

theorem bNeg_id_iff {p : Policy} {tt t : BT} (h : tt ≠ t) {x : Bound} {c : Rat} :
    sideOk p tt (bNeg p Rounding.id tt p t x) c ↔ sideOk p t x (-c) := by
  obtain ⟨v, o⟩ := x
  cases tt <;> cases t <;> try contradiction
  all_goals
    cases v <;> cases hss : p.storeSpecial <;> cases hso : p.storeOpen <;>
      simp [bNeg, getSpecial, setBoundaryInfinity, adjust_id, normalIsOpen, normalIsBoundaryInfinity, sideOk, sideOkV,
        getOpen, infOf, hss, hso, lowerOkV_neg_iff, upperOkV_neg_iff]

/-- `neg_assign` with exact rounding: `c ∈ −x ↔ −c ∈ x` -/
theorem negAssign_exact {p : Policy} {x : Iv} {c : Rat} :
    (negAssign p Rounding.id x).mem p c ↔ x.mem p (-c) := by
  unfold negAssign
  split_ifs with he
  · constructor
    · intro h; exact absurd h (not_mem_empty p c)
    · intro h; rw [checkEmptyArg_of_mem h] at he; simp at he
  · exact (and_congr (bNeg_id_iff (tt := .lower) (t := .upper) (by decide))
      (bNeg_id_iff (tt := .upper) (t := .lower) (by decide))).trans and_comm

/-! ### sum and difference -/

/-- With exact rounding the bound that `add_assign` / `sub_assign` computes is attained: a member `c` of the
result side splits into a member `a` of the first operand's side and the member `k a` of the second's
(`k a = c - a` for the sum, `a - c` for the difference).  `hfin` is the case of two finite bounds. -/
theorem bArith_id_split {p : Policy} {f : ExtRat → ExtRat → ExtRat} {k : Rat → Rat}
    {tt t1 t2 : BT} {x1 x2 : Bound} {c a0 b0 : Rat}
    (h : sideOk p tt (bArith f p Rounding.id tt p t1 x1 p t2 x2) c)
    (h1 : sideOk p t1 x1 a0) (h2 : sideOk p t2 x2 b0) (hk : ∃ a, k a = b0)
    (hfin : ∀ u v o1 o2, sideOkV tt (f (fin u) (fin v)) (o1 || o2) c →
      ∃ a, sideOkV t1 (fin u) o1 a ∧ sideOkV t2 (fin v) o2 (k a)) :
    ∃ a, sideOk p t1 x1 a ∧ sideOk p t2 x2 (k a) := by
  rcases sideOk_cases h1 with ⟨_, hv1⟩ | ⟨hi1, u, hu⟩
  · obtain ⟨a, ha⟩ := hk
    exact ⟨a, by unfold sideOk; rw [hv1]; exact sideOkV_infOf _ _ _, by rwa [ha]⟩
  · rcases sideOk_cases h2 with ⟨_, hv2⟩ | ⟨hi2, v, hv⟩
    · exact ⟨a0, h1, by unfold sideOk; rw [hv2]; exact sideOkV_infOf _ _ _⟩
    · unfold sideOk at h ⊢
      simp only [bArith, isBoundaryInfinity_eq, hi1, hi2, Bool.false_eq_true, if_false, adjust_id, getOpen_mk,
        normalIsOpen_fin hi1, normalIsOpen_fin hi2, hu, hv] at h ⊢
      apply hfin u v
      revert h
      unfold getOpen
      cases p.storeOpen <;> simp

section finite
variable {u v c : Rat} {o1 o2 : Bool}

/-- a finite lower bound of a sum that admits `c`, open iff one of the summands' bounds is, splits `c` -/
theorem add_lower_split (h : lowerOkV (fin (u + v)) (o1 || o2) c) :
    ∃ a, lowerOkV (fin u) o1 a ∧ lowerOkV (fin v) o2 (c - a) := by
  refine ⟨u + (c - u - v) / 2, ?_⟩
  cases ho : (o1 || o2)
  · obtain ⟨rfl, rfl⟩ := Bool.or_eq_false_iff.mp ho
    simp at h ⊢
    constructor <;> linarith
  · rw [ho, lowerOkV_fin_open] at h
    exact ⟨lowerOkV_weaken (o := true) (fun _ => rfl) (by simp; linarith),
      lowerOkV_weaken (o := true) (fun _ => rfl) (by simp; linarith)⟩

/-- the other three by negating bounds and members -/
theorem add_upper_split (h : upperOkV (fin (u + v)) (o1 || o2) c) :
    ∃ a, upperOkV (fin u) o1 a ∧ upperOkV (fin v) o2 (c - a) := by
  obtain ⟨a, h1, h2⟩ := add_lower_split (u := -u) (v := -v) (c := -c)
    (by rw [← neg_add]; exact lowerOkV_neg h)
  exact ⟨-a, by simpa [ExtRat.neg] using upperOkV_neg h1, by simpa [ExtRat.neg, sub_eq_add_neg, add_comm] using upperOkV_neg h2⟩
theorem sub_lower_split (h : lowerOkV (fin (u - v)) (o1 || o2) c) :
    ∃ a, lowerOkV (fin u) o1 a ∧ upperOkV (fin v) o2 (a - c) := by
  obtain ⟨a, h1, h2⟩ := add_lower_split (v := -v) (by rwa [← sub_eq_add_neg])
  exact ⟨a, h1, by simpa [ExtRat.neg] using upperOkV_neg h2⟩
theorem sub_upper_split (h : upperOkV (fin (u - v)) (o1 || o2) c) :
    ∃ a, upperOkV (fin u) o1 a ∧ lowerOkV (fin v) o2 (a - c) := by
  obtain ⟨a, h1, h2⟩ := add_upper_split (v := -v) (by rwa [← sub_eq_add_neg])
  exact ⟨a, h1, by simpa [ExtRat.neg] using lowerOkV_neg h2⟩
end finite

/-- `add_assign` with exact rounding is exactly the set of sums -/
theorem addAssign_exact {p : Policy} {x y : Iv} {c : Rat}
    (hx : ∃ a, x.mem p a) (hy : ∃ b, y.mem p b) :
    (addAssign p Rounding.id x y).mem p c ↔ ∃ a b, x.mem p a ∧ y.mem p b ∧ c = a + b := by
  constructor
  · intro h
    obtain ⟨a0, ha0⟩ := hx
    obtain ⟨b0, hb0⟩ := hy
    unfold addAssign at h
    rw [checkEmptyArg_of_mem ha0, checkEmptyArg_of_mem hb0, infinitySign_of_mem ha0, infinitySign_of_mem hb0] at h
    simp only [Bool.or_self, Bool.false_eq_true, ↓reduceIte, bne_self_eq_false, Bool.false_and,
      lt_self_iff_false, gt_iff_lt] at h
    have k0 : ∃ a, c - a = b0 := ⟨c - b0, by ring⟩
    obtain ⟨a, h1, h3, h2, h4⟩ := helly1
      (L := fun a => lowerOk p x.lo a) (L' := fun a => upperOk p y.hi (c - a))
      (U := fun a => upperOk p x.hi a) (U' := fun a => lowerOk p y.lo (c - a))
      (fun a b h hab => lowerOk_up h hab)
      (fun a b h hab => upperOk_down h (by linarith))
      (fun a b h hab => upperOk_down h hab)
      (fun a b h hab => lowerOk_up h (by linarith))
      ⟨a0, ha0.1, ha0.2⟩
      (bArith_id_split (tt := .lower) (t1 := .lower) (t2 := .lower) h.1 ha0.1 hb0.1 k0 fun _ _ _ _ => add_lower_split)
      ((bArith_id_split (tt := .upper) (t1 := .upper) (t2 := .upper) h.2 ha0.2 hb0.2 k0
        fun _ _ _ _ => add_upper_split).imp fun _ => And.symm)
      ⟨c - b0, by simpa using hb0.2, by simpa using hb0.1⟩
    exact ⟨a, c - a, ⟨h1, h2⟩, ⟨h4, h3⟩, by ring⟩
  · rintro ⟨a, b, ha, hb, rfl⟩
    exact addAssign_encloses Rounding.id_sound ha hb

/-- `sub_assign` with exact rounding is exactly the set of differences -/
theorem subAssign_exact {p : Policy} {x y : Iv} {c : Rat}
    (hx : ∃ a, x.mem p a) (hy : ∃ b, y.mem p b) :
    (subAssign p Rounding.id x y).mem p c ↔ ∃ a b, x.mem p a ∧ y.mem p b ∧ c = a - b := by
  constructor
  · intro h
    obtain ⟨a0, ha0⟩ := hx
    obtain ⟨b0, hb0⟩ := hy
    unfold subAssign at h
    rw [checkEmptyArg_of_mem ha0, checkEmptyArg_of_mem hb0, infinitySign_of_mem ha0, infinitySign_of_mem hb0] at h
    simp only [Bool.or_self, Bool.false_eq_true, ↓reduceIte, bne_self_eq_false, Bool.false_and,
      lt_self_iff_false, gt_iff_lt, neg_zero] at h
    have k0 : ∃ a, a - c = b0 := ⟨b0 + c, by ring⟩
    obtain ⟨a, h1, h3, h2, h4⟩ := helly1
      (L := fun a => lowerOk p x.lo a) (L' := fun a => lowerOk p y.lo (a - c))
      (U := fun a => upperOk p x.hi a) (U' := fun a => upperOk p y.hi (a - c))
      (fun a b h hab => lowerOk_up h hab)
      (fun a b h hab => lowerOk_up h (by linarith))
      (fun a b h hab => upperOk_down h hab)
      (fun a b h hab => upperOk_down h (by linarith))
      ⟨a0, ha0.1, ha0.2⟩
      (bArith_id_split (tt := .lower) (t1 := .lower) (t2 := .upper) h.1 ha0.1 hb0.2 k0 fun _ _ _ _ => sub_lower_split)
      ((bArith_id_split (tt := .upper) (t1 := .upper) (t2 := .lower) h.2 ha0.2 hb0.1 k0
        fun _ _ _ _ => sub_upper_split).imp fun _ => And.symm)
      ⟨b0 + c, by simpa using hb0.1, by simpa using hb0.2⟩
    exact ⟨a, a - c, ⟨h1, h2⟩, ⟨h3, h4⟩, by ring⟩
  · rintro ⟨a, b, ha, hb, rfl⟩
    exact subAssign_encloses Rounding.id_sound ha hb

end PPLV.Interval

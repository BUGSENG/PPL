import PPLV.Interval.ProofsIntRounding
import PPLV.Checked.Proofs3
/-!
# C12 / native integers: an exact integer operation followed by `adjust_boundary`

`finish_tri`: a checked operation with one of "the three endings of an exact integer operation"
(`PPLV.Checked.Tri`: stored exactly / `set_neg_overflow_int` / `set_pos_overflow_int`), followed by
`adjust_boundary`, leaves exactly the bound that the C12 model computes with `Rounding.native ty`
(`adjust`).
-/
set_option linter.unusedSimpArgs false
namespace PPLV.Interval.Native
open PPLV.Interval PPLV.Interval.ExtRat PPLV.Checked PPLV.Checked.Result

/-- standing assumptions on the native type: at least one bit, `Larger<T>` at least twice as wide
when it is used (true of every C integer type: `C11.Cfg`) -/
structure TyOK (ty : IntTy) : Prop where
  bits : 1 ≤ ty.bits
  larger : ty.LargerOK

/-- the native types of `interfaced_boxes.hh` -/
theorem tyOK_of (bits : Nat) (signed : Bool) (h1 : 1 ≤ bits) : TyOK (tyOfBits bits signed) := by
  by_cases h : bits ≤ 32
  · refine ⟨?_, ⟨fun _ => ⟨?_, ?_⟩⟩⟩ <;> simp [tyOfBits, h] <;> omega
  · refine ⟨?_, ⟨fun h' => ?_⟩⟩
    · simp [tyOfBits, h]; omega
    · simp [tyOfBits, h] at h'

theorem adjust_lower_fin (p : Policy) (R : Rounding) (q : Rat) (s : Bool) :
    adjust p R .lower (fin q) s =
      match R.down q with
      | fin q' => ⟨fin q', p.storeOpen && (s || ((p.checkInexact || (!s && p.storeOpen)) && q' != q))⟩
      | v => ⟨v, p.storeOpen⟩ := by
  cases h : R.down q <;> simp [adjust, h]

theorem adjust_upper_fin (p : Policy) (R : Rounding) (q : Rat) (s : Bool) :
    adjust p R .upper (fin q) s =
      match R.up q with
      | fin q' => ⟨fin q', p.storeOpen && (s || ((p.checkInexact || (!s && p.storeOpen)) && q' != q))⟩
      | v => ⟨v, p.storeOpen⟩ := by
  cases h : R.up q <;> simp [adjust, h]

/-- the open bit of an inexactly rounded finite bound -/
theorem open_inexact (so ci s : Bool) : (so && (s || ((ci || (!s && so)) && true))) = so := by
  cases so <;> cases ci <;> cases s <;> rfl

theorem finish_tri_lower {ty : IntTy} (hb : 1 ≤ ty.bits) (p : Policy) (hp : p.storeSpecial = true) (s : Bool)
    {to0 e : Int} {out : Int × Result} (h : Tri ty cop .down to0 out e) :
    (finish p .lower s out).map (NB.toBound .lower) = some (adjust p (Rounding.native ty) .lower (fin (e : Rat)) s) := by
  rw [adjust_lower_fin, native_down hb]
  unfold downSpec
  rw [Rat.floor_intCast]
  rcases h with ⟨rfl, hf⟩ | ⟨he, rfl⟩ | ⟨he, rfl⟩
  · rw [finite_cop] at hf
    have a : ¬ e < ty.cmin := by omega
    have b : ¬ ty.cmax < e := by omega
    simp only [a, b, if_false, finish_lower_eq, Option.map_some, NB.toBound]
    simp
  · rw [emin_cop] at he
    have hinf : cop.hasInfinity = false := rfl
    simp only [he, if_true, setNegOverflow, Dir.roundUp, hinf]
    simp (decide := true) only [if_false, Bool.false_eq_true]
    rw [finish_lower_minf p hp]
    simp [NB.toBound, infOf]
  · rw [emax_cop] at he
    have a : ¬ e < ty.cmin := by have := cmin_le_zero_le_cmax hb; omega
    simp only [a, he, if_true, if_false, setPosOverflow, Dir.roundDown, emax_cop]
    simp (decide := true) only [if_true]
    rw [finish_lower_gt_sup]
    have hne : (((ty.cmax : Int) : Rat) != ((e : Int) : Rat)) = true := by
      simp only [bne_iff_ne, ne_eq]
      intro hh
      have : ty.cmax = e := by exact_mod_cast hh
      omega
    simp only [Option.map_some, NB.toBound, hne, open_inexact]
    simp

theorem finish_tri_upper {ty : IntTy} (hb : 1 ≤ ty.bits) (p : Policy) (hp : p.storeSpecial = true) (s : Bool)
    {to0 e : Int} {out : Int × Result} (h : Tri ty cop .up to0 out e) :
    (finish p .upper s out).map (NB.toBound .upper) = some (adjust p (Rounding.native ty) .upper (fin (e : Rat)) s) := by
  rw [adjust_upper_fin, native_up hb]
  unfold upSpec
  rw [Rat.ceil_intCast]
  rcases h with ⟨rfl, hf⟩ | ⟨he, rfl⟩ | ⟨he, rfl⟩
  · rw [finite_cop] at hf
    have a : ¬ e < ty.cmin := by omega
    have b : ¬ ty.cmax < e := by omega
    simp only [a, b, if_false, finish_upper_eq, Option.map_some, NB.toBound]
    simp
  · rw [emin_cop] at he
    have a : ¬ ty.cmax < e := by have := cmin_le_zero_le_cmax hb; omega
    simp only [a, he, if_true, if_false, setNegOverflow, Dir.roundUp, emin_cop]
    simp (decide := true) only [if_true]
    rw [finish_upper_lt_inf]
    have hne : (((ty.cmin : Int) : Rat) != ((e : Int) : Rat)) = true := by
      simp only [bne_iff_ne, ne_eq]
      intro hh
      have : ty.cmin = e := by exact_mod_cast hh
      omega
    simp only [Option.map_some, NB.toBound, hne, open_inexact]
    simp
  · rw [emax_cop] at he
    have hinf : cop.hasInfinity = false := rfl
    simp only [he, if_true, setPosOverflow, Dir.roundDown, hinf]
    simp (decide := true) only [if_false, Bool.false_eq_true]
    rw [finish_upper_pinf p hp]
    simp [NB.toBound, infOf]

/-- both sides at once -/
theorem finish_tri {ty : IntTy} (hb : 1 ≤ ty.bits) (p : Policy) (hp : p.storeSpecial = true) (tt : BT) (s : Bool)
    {to0 e : Int} {out : Int × Result} (h : Tri ty cop (dirOf tt) to0 out e) :
    (finish p tt s out).map (NB.toBound tt) = some (adjust p (Rounding.native ty) tt (fin (e : Rat)) s) := by
  cases tt
  · exact finish_tri_lower hb p hp s h
  · exact finish_tri_upper hb p hp s h

end PPLV.Interval.Native

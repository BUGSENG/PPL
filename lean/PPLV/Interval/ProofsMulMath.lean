import PPLV.Interval.ProofsBasic
/-!
# C12 — the arithmetic facts behind the sign table of `Interval::mul_assign`

`zopen u o1 v o2` is the OPEN bit that `Boundary_NS::mul_assign_z` gives to the product of two
finite bounds `u` (open iff `o1`) and `v` (open iff `o2`).  Fourteen sign variants `mulV1 … mulV14`, one per
entry family of the table; the first three are proved directly, the others follow from them by negating or exchanging the factors.
-/
set_option linter.unnecessarySeqFocus false
set_option linter.unusedSimpArgs false
namespace PPLV.Interval
open ExtRat (ninf fin pinf)

def zopen (u : Rat) (o1 : Bool) (v : Rat) (o2 : Bool) : Bool :=
  if u ≠ 0 then (if v ≠ 0 then o1 || o2 else o2) else o1 && (decide (v ≠ 0) || o2)

theorem zopen_comm (u : Rat) (o1 : Bool) (v : Rat) (o2 : Bool) : zopen u o1 v o2 = zopen v o2 u o1 := by
  unfold zopen; by_cases hu : u = 0 <;> by_cases hv : v = 0 <;> cases o1 <;> cases o2 <;> simp [hu, hv]
theorem zopen_neg_left (u : Rat) (o1 : Bool) (v : Rat) (o2 : Bool) : zopen (-u) o1 v o2 = zopen u o1 v o2 := by
  unfold zopen; simp
theorem zopen_neg_right (u : Rat) (o1 : Bool) (v : Rat) (o2 : Bool) : zopen u o1 (-v) o2 = zopen u o1 v o2 := by
  unfold zopen; simp

/-- strict-or-not comparison driven by a flag -/
def cmp (o : Bool) (x y : Rat) : Prop := if o then x < y else x ≤ y

@[simp] theorem cmp_true (x y : Rat) : cmp true x y ↔ x < y := by simp [cmp]
@[simp] theorem cmp_false (x y : Rat) : cmp false x y ↔ x ≤ y := by simp [cmp]
theorem cmp_le {o : Bool} {x y : Rat} (h : cmp o x y) : x ≤ y := by cases o <;> simp at h <;> linarith
theorem cmp_neg {o : Bool} {x y : Rat} : cmp o (-x) (-y) ↔ cmp o y x := by cases o <;> simp
theorem lowerOkV_fin_iff (q : Rat) (o : Bool) (a : Rat) : lowerOkV (fin q) o a ↔ cmp o q a := by cases o <;> simp
theorem upperOkV_fin_iff (q : Rat) (o : Bool) (a : Rat) : upperOkV (fin q) o a ↔ cmp o a q := by cases o <;> simp

/-- both bounds on the inner side of non-negative operands -/
theorem mulV1 {u v a b : Rat} {o1 o2 : Bool} (hu : 0 ≤ u) (hv : 0 ≤ v)
    (ha : cmp o1 u a) (hb : cmp o2 v b) : cmp (zopen u o1 v o2) (u * v) (a * b) := by
  have ha' := cmp_le ha
  have hb' := cmp_le hb
  unfold zopen
  by_cases hu0 : u = 0
  · subst hu0
    by_cases hv0 : v = 0
    · subst hv0
      cases o1 <;> cases o2 <;> simp at ha hb ⊢ <;> positivity
    · have hvp : 0 < v := lt_of_le_of_ne hv (Ne.symm hv0)
      have hbp : 0 < b := lt_of_lt_of_le hvp hb'
      cases o1 <;> simp [hv0] at ha ⊢
      · exact mul_nonneg ha hbp.le
      · exact mul_pos ha hbp
  · have hup : 0 < u := lt_of_le_of_ne hu (Ne.symm hu0)
    have hap : 0 < a := lt_of_lt_of_le hup ha'
    by_cases hv0 : v = 0
    · subst hv0
      cases o2 <;> simp [hu0] at hb ⊢
      · exact mul_nonneg hap.le hb
      · exact mul_pos hap hb
    · have hvp : 0 < v := lt_of_le_of_ne hv (Ne.symm hv0)
      have hbp : 0 < b := lt_of_lt_of_le hvp hb'
      cases o1 <;> cases o2 <;> simp [hu0, hv0] at ha hb ⊢
      · exact mul_le_mul ha hb hvp.le hap.le
      · exact mul_lt_mul' ha hb hvp.le hap
      · exact mul_lt_mul ha hb hvp hap.le
      · exact mul_lt_mul'' ha hb hup.le hvp.le

/-- both bounds on the outer side of non-negative members -/
theorem mulV2 {u v a b : Rat} {o1 o2 : Bool} (ha0 : 0 ≤ a) (hb0 : 0 ≤ b)
    (ha : cmp o1 a u) (hb : cmp o2 b v) : cmp (zopen u o1 v o2) (a * b) (u * v) := by
  have ha' := cmp_le ha
  have hb' := cmp_le hb
  unfold zopen
  by_cases hu0 : u = 0
  · subst hu0
    have : a = 0 := le_antisymm ha' ha0
    subst this
    cases o1 <;> simp at ha ⊢
  · have hup : 0 < u := lt_of_le_of_ne (le_trans ha0 ha') (Ne.symm hu0)
    by_cases hv0 : v = 0
    · subst hv0
      have : b = 0 := le_antisymm hb' hb0
      subst this
      cases o2 <;> simp [hu0] at hb ⊢
    · have hvp : 0 < v := lt_of_le_of_ne (le_trans hb0 hb') (Ne.symm hv0)
      cases o1 <;> cases o2 <;> simp [hu0, hv0] at ha hb ⊢
      · exact mul_le_mul ha hb hb0 hup.le
      · exact mul_lt_mul' ha hb hb0 hup
      · calc a * b ≤ a * v := mul_le_mul_of_nonneg_left hb ha0
          _ < u * v := mul_lt_mul_of_pos_right ha hvp
      · calc a * b ≤ a * v := mul_le_mul_of_nonneg_left hb.le ha0
          _ < u * v := mul_lt_mul_of_pos_right ha hvp

/-- a non-negative member bounded above, times a member bounded below by a negative bound -/
theorem mulV3 {u v a b : Rat} {o1 o2 : Bool} (ha0 : 0 ≤ a) (ha : cmp o1 a u) (hb : cmp o2 v b) (hv : v < 0) :
    cmp (zopen u o1 v o2) (u * v) (a * b) := by
  have ha' := cmp_le ha
  have hb' := cmp_le hb
  unfold zopen
  have hv0 : v ≠ 0 := ne_of_lt hv
  by_cases hu0 : u = 0
  · subst hu0
    have : a = 0 := le_antisymm ha' ha0
    subst this
    cases o1 <;> simp at ha ⊢
  · have hup : 0 < u := lt_of_le_of_ne (le_trans ha0 ha') (Ne.symm hu0)
    have s1 : u * v ≤ a * v := mul_le_mul_of_nonpos_right ha' hv.le
    have s2 : a * v ≤ a * b := mul_le_mul_of_nonneg_left hb' ha0
    cases o1 <;> cases o2 <;> simp [hu0, hv0] at ha hb ⊢
    · exact s1.trans s2
    · rcases eq_or_lt_of_le ha0 with h0 | hap
      · subst h0; simp; exact mul_neg_of_pos_of_neg hup hv
      · exact s1.trans_lt (mul_lt_mul_of_pos_left hb hap)
    · exact (mul_lt_mul_of_neg_right ha hv).trans_le s2
    · exact (mul_lt_mul_of_neg_right ha hv).trans_le s2

section variants
variable {u v a b : Rat} {o1 o2 : Bool}

theorem mulV4 (ha : cmp o1 u a) (hu : 0 ≤ u) (hb : cmp o2 b v) (hv : v ≤ 0) :
    cmp (zopen u o1 v o2) (a * b) (u * v) := by
  have := mulV1 (o1 := o1) (o2 := o2) hu (neg_nonneg.mpr hv) ha (cmp_neg.mpr hb)
  simpa [zopen_neg_right, cmp_neg] using this

theorem mulV5 (ha0 : 0 ≤ a) (ha : cmp o1 a u) (hb : cmp o2 b v) (hv : 0 < v) :
    cmp (zopen u o1 v o2) (a * b) (u * v) := by
  have := mulV3 (o1 := o1) (o2 := o2) ha0 ha (cmp_neg.mpr hb) (neg_neg_of_pos hv)
  simpa [zopen_neg_right, cmp_neg] using this

theorem mulV6 (ha : cmp o1 u a) (hu : u < 0) (hb0 : 0 ≤ b) (hb : cmp o2 b v) :
    cmp (zopen u o1 v o2) (u * v) (a * b) := by
  have := mulV3 (o1 := o2) (o2 := o1) hb0 hb ha hu
  rw [zopen_comm, mul_comm v u, mul_comm b a] at this
  exact this

theorem mulV7 (ha : cmp o1 a u) (hu : u ≤ 0) (hb : cmp o2 v b) (hv : 0 ≤ v) :
    cmp (zopen u o1 v o2) (a * b) (u * v) := by
  have := mulV1 (o1 := o1) (o2 := o2) (neg_nonneg.mpr hu) hv (cmp_neg.mpr ha) hb
  simpa [zopen_neg_left, cmp_neg] using this

theorem mulV8 (ha : cmp o1 a u) (hu : u ≤ 0) (hb : cmp o2 b v) (hv : v ≤ 0) :
    cmp (zopen u o1 v o2) (u * v) (a * b) := by
  have := mulV1 (o1 := o1) (o2 := o2) (neg_nonneg.mpr hu) (neg_nonneg.mpr hv) (cmp_neg.mpr ha) (cmp_neg.mpr hb)
  simpa [zopen_neg_left, zopen_neg_right] using this

theorem mulV9 (ha : cmp o1 u a) (ha0 : a ≤ 0) (hb : cmp o2 v b) (hb0 : b ≤ 0) :
    cmp (zopen u o1 v o2) (a * b) (u * v) := by
  have := mulV2 (o1 := o1) (o2 := o2) (neg_nonneg.mpr ha0) (neg_nonneg.mpr hb0) (cmp_neg.mpr ha) (cmp_neg.mpr hb)
  simpa [zopen_neg_left, zopen_neg_right] using this

theorem mulV10 (ha : cmp o1 u a) (ha0 : a ≤ 0) (hb : cmp o2 b v) (hv : 0 < v) :
    cmp (zopen u o1 v o2) (u * v) (a * b) := by
  have := mulV3 (o1 := o1) (o2 := o2) (neg_nonneg.mpr ha0) (cmp_neg.mpr ha) (cmp_neg.mpr hb) (neg_neg_of_pos hv)
  simpa [zopen_neg_left, zopen_neg_right] using this

theorem mulV11 (ha : cmp o1 u a) (ha0 : a ≤ 0) (hb : cmp o2 v b) (hv : v < 0) :
    cmp (zopen u o1 v o2) (a * b) (u * v) := by
  have := mulV3 (o1 := o1) (o2 := o2) (neg_nonneg.mpr ha0) (cmp_neg.mpr ha) hb hv
  simpa [zopen_neg_left, cmp_neg] using this

theorem mulV12 (ha : cmp o1 a u) (hu : 0 < u) (hb : cmp o2 v b) (hb0 : b ≤ 0) :
    cmp (zopen u o1 v o2) (u * v) (a * b) := by
  have := mulV3 (o1 := o2) (o2 := o1) (neg_nonneg.mpr hb0) (cmp_neg.mpr hb) (cmp_neg.mpr ha) (neg_neg_of_pos hu)
  rw [zopen_comm] at this
  simpa [zopen_neg_left, zopen_neg_right, mul_comm] using this

theorem mulV13 (ha : cmp o1 u a) (hu : u < 0) (hb : cmp o2 v b) (hb0 : b ≤ 0) :
    cmp (zopen u o1 v o2) (a * b) (u * v) := by
  have := mulV3 (o1 := o2) (o2 := o1) (neg_nonneg.mpr hb0) (cmp_neg.mpr hb) ha hu
  rw [zopen_comm] at this
  simpa [zopen_neg_right, cmp_neg, mul_comm] using this

theorem mulV14 (ha : cmp o1 a u) (hu : 0 < u) (hb0 : 0 ≤ b) (hb : cmp o2 b v) :
    cmp (zopen u o1 v o2) (a * b) (u * v) := by
  have := mulV5 (o1 := o2) (o2 := o1) hb0 hb ha hu
  rw [zopen_comm, mul_comm b a, mul_comm v u] at this
  exact this

end variants

end PPLV.Interval

import PPLV.Interval.ProofsBound
/-!
# C12 — what `Boundary_NS::lt` decides, read on sets of rationals

The policy enters `lt` through the OPEN bits that `is_open` reports and through whether an infinity of the wrong
side is recognised (`!store_special && may_contain_infinity`); with these generalised, each reading of `lt` is a
finite case analysis over the shapes of the two values.
-/
set_option linter.unnecessarySeqFocus false
set_option linter.unusedSimpArgs false
namespace PPLV.Interval
open ExtRat (ninf fin pinf)

theorem isMinusInfinity_lower (p : Policy) (b : Bound) : isMinusInfinity p .lower b = decide (b.value = ninf) :=
  (isBoundaryInfinity_eq p .lower b).trans (normalIsBoundaryInfinity_lower b)
theorem isPlusInfinity_upper (p : Policy) (b : Bound) : isPlusInfinity p .upper b = decide (b.value = pinf) :=
  (isBoundaryInfinity_eq p .upper b).trans (normalIsBoundaryInfinity_upper b)
theorem isPlusInfinity_lower (p : Policy) (b : Bound) :
    isPlusInfinity p .lower b = (!p.storeSpecial && p.mayContainInfinity && decide (b.value = pinf)) := by
  unfold isPlusInfinity isReverseInfinity
  cases p.mayContainInfinity <;> cases b.value <;> simp
theorem isMinusInfinity_upper (p : Policy) (b : Bound) :
    isMinusInfinity p .upper b = (!p.storeSpecial && p.mayContainInfinity && decide (b.value = ninf)) := by
  unfold isMinusInfinity isReverseInfinity
  cases p.mayContainInfinity <;> cases b.value <;> simp

/-- membership reads the OPEN bit as `is_open` reports it: the two differ on infinite bounds only -/
theorem lowerOk_iff_isOpen {p : Policy} {b : Bound} {a : Rat} :
    lowerOk p b a ↔ lowerOkV b.value (isOpen p .lower b) a := by
  unfold lowerOk isOpen
  rw [isBoundaryInfinity_eq, normalIsBoundaryInfinity_lower]
  cases b.value <;> cases h : p.storeOpen <;> simp [getOpen, h]
theorem upperOk_iff_isOpen {p : Policy} {b : Bound} {a : Rat} :
    upperOk p b a ↔ upperOkV b.value (isOpen p .upper b) a := by
  unfold upperOk isOpen
  rw [isBoundaryInfinity_eq, normalIsBoundaryInfinity_upper]
  cases b.value <;> cases h : p.storeOpen <;> simp [getOpen, h]

/-- `lt(UPPER, hi, LOWER, lo)` (the test of `is_empty`, `is_disjoint_from`, `difference_assign`):
no rational is above `lo` and below `hi` -/
theorem lt_upper_lower_true {p : Policy} {hi lo : Bound} {a : Rat}
    (h : lt p .upper hi p .lower lo = true) : ¬ (lowerOk p lo a ∧ upperOk p hi a) := by
  rw [lowerOk_iff_isOpen, upperOk_iff_isOpen]
  simp only [lt, isMinusInfinity_lower, isPlusInfinity_lower, isMinusInfinity_upper, isPlusInfinity_upper] at h
  revert h
  generalize isOpen p .upper hi = o1
  generalize isOpen p .lower lo = o2
  generalize (!p.storeSpecial && p.mayContainInfinity) = r
  cases hi.value <;> cases lo.value <;> simp [ExtRat.le, ExtRat.lt] <;>
    cases o1 <;> cases o2 <;> simp <;> intros <;> linarith

/-- conversely, when the test fails and the bounds are on their own sides, a member exists -/
theorem lt_upper_lower_false {p : Policy} {hi lo : Bound}
    (hlo : lo.value ≠ pinf) (hhi : hi.value ≠ ninf)
    (h : lt p .upper hi p .lower lo = false) : ∃ a : Rat, lowerOk p lo a ∧ upperOk p hi a := by
  simp only [lowerOk_iff_isOpen, upperOk_iff_isOpen]
  simp only [lt, isMinusInfinity_lower, isPlusInfinity_lower, isMinusInfinity_upper, isPlusInfinity_upper] at h
  revert h hlo hhi
  generalize isOpen p .upper hi = o1
  generalize isOpen p .lower lo = o2
  cases hi.value with
  | ninf => exact fun _ h => absurd rfl h
  | pinf =>
    cases lo.value with
    | pinf => exact fun h => absurd rfl h
    | ninf => exact fun _ _ _ => ⟨0, by simp⟩
    | fin l => exact fun _ _ _ => ⟨l + 1, by cases o2 <;> simp⟩
  | fin u =>
    cases lo.value with
    | pinf => exact fun h => absurd rfl h
    | ninf => exact fun _ _ _ => ⟨u - 1, by cases o1 <;> simp⟩
    | fin l =>
      intro _ _ h
      refine ⟨(l + u) / 2, ?_⟩
      revert h
      cases o1 <;> cases o2 <;> simp [ExtRat.le, ExtRat.lt] <;> intros <;> constructor <;> linarith

/-- two lower bounds: `lt` true means the first is the weaker one -/
theorem lt_lower_lower_true {p : Policy} {b1 b2 : Bound} {a : Rat}
    (h : lt p .lower b1 p .lower b2 = true) : lowerOk p b2 a → lowerOk p b1 a := by
  rw [lowerOk_iff_isOpen, lowerOk_iff_isOpen]
  simp only [lt, isMinusInfinity_lower, isPlusInfinity_lower] at h
  revert h
  generalize isOpen p .lower b1 = o1
  generalize isOpen p .lower b2 = o2
  generalize (!p.storeSpecial && p.mayContainInfinity) = r
  cases b1.value <;> cases b2.value <;> simp [ExtRat.le, ExtRat.lt] <;>
    cases o1 <;> cases o2 <;> simp <;> intros <;> linarith

theorem lt_lower_lower_false {p : Policy} {b1 b2 : Bound} {a : Rat}
    (h : lt p .lower b1 p .lower b2 = false) : lowerOk p b1 a → lowerOk p b2 a := by
  rw [lowerOk_iff_isOpen, lowerOk_iff_isOpen]
  simp only [lt, isMinusInfinity_lower, isPlusInfinity_lower] at h
  revert h
  generalize isOpen p .lower b1 = o1
  generalize isOpen p .lower b2 = o2
  generalize (!p.storeSpecial && p.mayContainInfinity) = r
  cases b1.value <;> cases b2.value <;> simp [ExtRat.le, ExtRat.lt] <;>
    cases o1 <;> cases o2 <;> simp <;> intros <;> linarith

/-- two upper bounds: `lt` true means the second is the weaker one -/
theorem lt_upper_upper_true {p : Policy} {b1 b2 : Bound} {a : Rat}
    (h : lt p .upper b1 p .upper b2 = true) : upperOk p b1 a → upperOk p b2 a := by
  rw [upperOk_iff_isOpen, upperOk_iff_isOpen]
  simp only [lt, isMinusInfinity_upper, isPlusInfinity_upper] at h
  revert h
  generalize isOpen p .upper b1 = o1
  generalize isOpen p .upper b2 = o2
  generalize (!p.storeSpecial && p.mayContainInfinity) = r
  cases b1.value <;> cases b2.value <;> simp [ExtRat.le, ExtRat.lt] <;>
    cases o1 <;> cases o2 <;> simp <;> intros <;> linarith

theorem lt_upper_upper_false {p : Policy} {b1 b2 : Bound} {a : Rat}
    (h : lt p .upper b1 p .upper b2 = false) : upperOk p b2 a → upperOk p b1 a := by
  rw [upperOk_iff_isOpen, upperOk_iff_isOpen]
  simp only [lt, isMinusInfinity_upper, isPlusInfinity_upper] at h
  revert h
  generalize isOpen p .upper b1 = o1
  generalize isOpen p .upper b2 = o2
  generalize (!p.storeSpecial && p.mayContainInfinity) = r
  cases b1.value <;> cases b2.value <;> simp [ExtRat.le, ExtRat.lt] <;>
    cases o1 <;> cases o2 <;> simp <;> intros <;> linarith

end PPLV.Interval

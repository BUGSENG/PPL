import PPLV.Interval.ProofsLt
/-!
# C12 — enclosure for `neg_assign`, `add_assign`, `sub_assign`; emptiness
-/
set_option linter.unnecessarySeqFocus false
set_option linter.unusedSimpArgs false
namespace PPLV.Interval
open ExtRat (ninf fin pinf)

/-- an interval with a member is not reported empty -/
theorem isEmpty_of_mem {p : Policy} {x : Iv} {a : Rat} (h : x.mem p a) : isEmpty p x = false := by
  unfold isEmpty
  cases hl : lt p .upper x.hi p .lower x.lo
  · rfl
  · exact absurd h (lt_upper_lower_true hl)

theorem checkEmptyArg_of_mem {p : Policy} {x : Iv} {a : Rat} (h : x.mem p a) : checkEmptyArg p x = false := by
  unfold checkEmptyArg; rw [isEmpty_of_mem h]; simp

/-- `is_empty()` is exact: it answers `true` iff the interval has no rational member
(bounds on their own sides: what every interval built by the library satisfies) -/
theorem isEmpty_iff {p : Policy} {x : Iv} (hlo : x.lo.value ≠ pinf) (hhi : x.hi.value ≠ ninf) :
    isEmpty p x = true ↔ ∀ a, ¬ x.mem p a := by
  constructor
  · intro h a ha; rw [isEmpty_of_mem ha] at h; simp at h
  · intro h
    cases he : isEmpty p x
    · obtain ⟨a, ha⟩ := lt_upper_lower_false hlo hhi he
      exact absurd ha (h a)
    · rfl

theorem not_mem_empty (p : Policy) (a : Rat) : ¬ Iv.empty.mem p a := by
  unfold Iv.mem Iv.empty lowerOk upperOk
  cases p.storeOpen <;> simp [getOpen] <;> intros <;> linarith

/-- `[l, u]` -/
def Iv.closed (l u : Rat) : Iv := ⟨⟨fin l, false⟩, ⟨fin u, false⟩⟩

theorem mem_closed {p : Policy} {l u a : Rat} : (Iv.closed l u).mem p a ↔ l ≤ a ∧ a ≤ u := by
  simp [Iv.closed, Iv.mem, lowerOk, upperOk, getOpen]

/-- membership in a conditional, with the condition at hand in each branch -/
theorem mem_ite {p : Policy} {c : Prop} [Decidable c] {x y : Iv} {a : Rat}
    (hx : c → x.mem p a) (hy : ¬ c → y.mem p a) : (if c then x else y).mem p a := by
  split
  · exact hx ‹_›
  · exact hy ‹_›

theorem infinitySign_of_mem {p : Policy} {x : Iv} {a : Rat} (h : x.mem p a) : infinitySign p x = 0 := by
  obtain ⟨⟨v1, o1⟩, ⟨v2, o2⟩⟩ := x
  unfold Iv.mem lowerOk upperOk at h
  cases v1 <;> cases v2 <;> simp_all [infinitySign, isReverseInfinity]

theorem negAssign_encloses {p : Policy} {R : Rounding} (hR : R.Sound) {x : Iv} {a : Rat}
    (h : x.mem p a) : (negAssign p R x).mem p (-a) := by
  unfold negAssign
  rw [checkEmptyArg_of_mem h]
  exact ⟨bNeg_sound (tt := .lower) hR (by decide) h.2, bNeg_sound (tt := .upper) hR (by decide) h.1⟩

theorem addAssign_encloses {p : Policy} {R : Rounding} (hR : R.Sound) {x y : Iv} {a b : Rat}
    (ha : x.mem p a) (hb : y.mem p b) : (addAssign p R x y).mem p (a + b) := by
  unfold addAssign
  rw [checkEmptyArg_of_mem ha, checkEmptyArg_of_mem hb, infinitySign_of_mem ha, infinitySign_of_mem hb]
  simp only [Bool.or_self, Bool.false_eq_true, ↓reduceIte, bne_self_eq_false, Bool.false_and, lt_self_iff_false,
    gt_iff_lt]
  exact ⟨bAdd_lower_sound hR ha.1 hb.1, bAdd_upper_sound hR ha.2 hb.2⟩

theorem subAssign_encloses {p : Policy} {R : Rounding} (hR : R.Sound) {x y : Iv} {a b : Rat}
    (ha : x.mem p a) (hb : y.mem p b) : (subAssign p R x y).mem p (a - b) := by
  unfold subAssign
  rw [checkEmptyArg_of_mem ha, checkEmptyArg_of_mem hb, infinitySign_of_mem ha, infinitySign_of_mem hb]
  simp only [Bool.or_self, Bool.false_eq_true, ↓reduceIte, bne_self_eq_false, Bool.false_and, lt_self_iff_false,
    gt_iff_lt, neg_zero]
  exact ⟨bSub_lower_sound hR ha.1 hb.2, bSub_upper_sound hR ha.2 hb.1⟩

end PPLV.Interval

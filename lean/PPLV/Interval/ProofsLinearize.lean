import PPLV.Interval.ProofsRelErr
/-!
# C12 — soundness of `linearize` by structural induction over the expression tree
-/
set_option linter.unnecessarySeqFocus false
set_option linter.unusedSimpArgs false
namespace PPLV.Interval
open ExtRat (ninf fin pinf)

/-- the stated model of the analysed machine: every operation returns `fl(exact result)` with
`|fl v − v| ≤ eps·|v| + omega`.  It holds for round-to-nearest, upwards, downwards and towards zero
of a binary format with `eps = 2^-MANTISSA_BITS`, `omega` = the least positive denormal, as long as
the result does not overflow. -/
def FloatModel (fm : FFormat) (fl : Rat → Rat) : Prop := ∀ v, |fl v - v| ≤ fm.eps * |v| + fm.omega

/-- constants: the oracle's interval is bounded and contains the concrete value -/
def FExpr.WF (p : Policy) : FExpr → Prop
  | .const K k => isBounded p K = true ∧ K.mem p k
  | .var _ => True
  | .neg e => e.WF p
  | .add e1 e2 => e1.WF p ∧ e2.WF p
  | .sub e1 e2 => e1.WF p ∧ e2.WF p
  | .mul e1 e2 => e1.WF p ∧ e2.WF p
  | .div e1 e2 => e1.WF p ∧ e2.WF p

/-- what `linearize` hands on: a non-empty form without unbounded coefficients -/
def Good (p : Policy) (F : List Iv) : Prop := F ≠ [] ∧ lfOverflows p F = false

section
variable {p : Policy} {R : Rounding} {rho : Nat → Rat}

theorem isBounded_point (q : Rat) : isBounded p (Iv.point q) = true := by
  simp [isBounded, Iv.point, isBoundaryInfinity_eq, normalIsBoundaryInfinity]

theorem lfOverflows_varForm (i : Nat) : lfOverflows p (varForm i) = false := by
  unfold lfOverflows varForm
  simp only [List.any_append, List.any_replicate, List.any_cons, List.any_nil, Iv.zero, isBounded_point]
  simp

theorem varForm_ne_nil (i : Nat) : varForm i ≠ [] := by simp [varForm]

theorem lfAddAssign_ne_nil {F G : List Iv} (h : F ≠ []) : lfAddAssign p R F G ≠ [] := by
  cases F with
  | nil => exact absurd rfl h
  | cons x F => cases G <;> simp [lfAddAssign]

theorem lfSubAssign_ne_nil {F G : List Iv} (h : F ≠ []) : lfSubAssign p R F G ≠ [] := by
  cases F with
  | nil => exact absurd rfl h
  | cons x F => cases G <;> simp [lfSubAssign]

theorem relErr_go_ne_nil {d3 : Bool} {ep : Iv} : ∀ (cs : List Iv) (k : Nat) (r : List Iv), r ≠ [] →
    relativeError.go d3 p R ep cs k r ≠ []
  | [], _, r, h => by simpa [relativeError.go] using h
  | c :: cs, k, r, h => by
    simp only [relativeError.go]
    exact relErr_go_ne_nil cs (k + 1) _ (lfAddAssign_ne_nil h)

theorem relativeError_ne_nil {d3 : Bool} {eps : Rat} {F : List Iv} (h : F ≠ []) :
    relativeError d3 p R eps F ≠ [] := by
  cases F with
  | nil => exact absurd rfl h
  | cons x F =>
    simp only [relativeError]
    exact relErr_go_ne_nil F 0 _ (by simp [lfMulAssign])

theorem lfMulAssign_ne_nil {d3 : Bool} {F : List Iv} {n : Iv} (h : F ≠ []) : lfMulAssign d3 p R F n ≠ [] := by
  cases F <;> simp_all [lfMulAssign]

theorem lfDivAssign_ne_nil {F : List Iv} {n : Iv} (h : F ≠ []) : lfDivAssign p R F n ≠ [] := by
  cases F <;> simp_all [lfDivAssign]

theorem finishLin_spec (hR : R.Sound) {fm : FFormat} {r F : List Iv} {v e3 : Rat}
    (hne : r ≠ []) (hv : lfEvalMem p r rho v) (he : |e3| ≤ fm.omega) (h : finishLin p R fm r = some F) :
    Good p F ∧ lfEvalMem p F rho (v + e3) := by
  unfold finishLin at h
  simp only at h
  split_ifs at h with ho
  simp only [Option.some.injEq] at h
  subst h
  refine ⟨⟨?_, by simpa using ho⟩, lfEvalMem_addConst hR hne hv (mem_sym he)⟩
  cases r with
  | nil => exact absurd rfl hne
  | cons x r => simp [lfAddConst]

theorem split3 {T A B C : Rat} (hA : 0 ≤ A) (hB : 0 ≤ B) (hC : 0 ≤ C) (h : |T| ≤ A + B + C) :
    ∃ T1 T2 T3, T = T1 + T2 + T3 ∧ |T1| ≤ A ∧ |T2| ≤ B ∧ |T3| ≤ C := by
  obtain ⟨T12, T3, rfl, h12, h3⟩ := split2 (add_nonneg hA hB) hC h
  obtain ⟨T1, T2, rfl, h1, h2⟩ := split2 hA hB h12
  exact ⟨T1, T2, T3, rfl, h1, h2, h3⟩

/-- an error bounded relative to a product is a relative error of one factor times the other factor -/
theorem factor_error {a b e eps : Rat} (heps : 0 ≤ eps) (h : |e| ≤ eps * (|a| * |b|)) :
    ∃ t, |t| ≤ eps * |b| ∧ t * a = e := by
  by_cases ha : a = 0
  · refine ⟨0, by simpa using mul_nonneg heps (abs_nonneg b), ?_⟩
    rw [ha, abs_zero, zero_mul, mul_zero] at h
    rw [zero_mul]; exact (abs_eq_zero.mp (le_antisymm h (abs_nonneg _))).symm
  · refine ⟨e / a, ?_, div_mul_cancel₀ e ha⟩
    rw [abs_div, div_le_iff₀ (abs_pos.mpr ha)]
    calc |e| ≤ eps * (|a| * |b|) := h
      _ = eps * |b| * |a| := by ring

/-- a divisor interval that passed the test "may divide by zero" has no zero member -/
theorem ne_zero_of_div_test {i2 : Iv} {b : Rat} (hb : i2.mem p b)
    (h : ((isBoundaryInfinity p .lower i2.lo || i2.lo.value.le (fin 0)) &&
          (isBoundaryInfinity p .upper i2.hi || (fin 0 : ExtRat).le i2.hi.value)) = false) : b ≠ 0 := by
  rintro rfl
  obtain ⟨⟨v1, o1⟩, ⟨v2, o2⟩⟩ := i2
  have h1 := hb.1
  have h2 := hb.2
  unfold lowerOk at h1
  unfold upperOk at h2
  simp only [isBoundaryInfinity_eq] at h
  cases v1 with
  | pinf => simp at h1
  | ninf =>
    cases v2 with
    | ninf => simp at h2
    | pinf => simp [normalIsBoundaryInfinity] at h
    | fin u =>
      have := upperOkV_fin_le h2
      simp [normalIsBoundaryInfinity, ExtRat.le, ExtRat.lt] at h
      linarith
  | fin l =>
    have hl := lowerOkV_fin_le h1
    cases v2 with
    | ninf => simp at h2
    | pinf =>
      simp [normalIsBoundaryInfinity, ExtRat.le, ExtRat.lt] at h
      linarith
    | fin u =>
      have hu := upperOkV_fin_le h2
      simp [normalIsBoundaryInfinity, ExtRat.le, ExtRat.lt] at h
      rcases le_or_gt l 0 with h0 | h0
      · have := h h0; linarith
      · linarith

end

/-! ### the induction -/

section main
variable {p : Policy} {R : Rounding} {fm : FFormat} {store : List Iv} {lfStore : Nat → Option (List Iv)}
  {rho : Nat → Rat} {fl : Rat → Rat}

/-- hypotheses of the induction over the expression -/
structure LinHyps (p : Policy) (R : Rounding) (fm : FFormat) (store : List Iv)
    (lfStore : Nat → Option (List Iv)) (rho : Nat → Rat) : Prop where
  sound : R.Sound
  eps_nonneg : 0 ≤ fm.eps
  omega_nonneg : 0 ≤ fm.omega
  /-- negating a bounded interval of the analyser type gives a bounded interval (formats are symmetric) -/
  neg_bounded : ∀ x : Iv, isBounded p x = true → isBounded p (negAssign p R x) = true
  /-- the concrete store is inside the abstract store -/
  store_mem : ∀ (k : Nat) (S : Iv), store[k]? = some S → S.mem p (rho k)
  /-- the linear-form abstract store is sound for the concrete store -/
  lfs_sound : ∀ (i : Nat) (L : List Iv), lfStore i = some L → L ≠ [] ∧ lfEvalMem p L rho (rho i)

theorem lfNegate_good (H : LinHyps p R fm store lfStore rho) {F : List Iv} (h : Good p F) : Good p (lfNegate p R F) := by
  obtain ⟨hne, hb⟩ := h
  refine ⟨by cases F <;> simp_all [lfNegate], ?_⟩
  unfold lfOverflows lfNegate at *
  rw [List.any_map]
  rw [List.any_eq_false] at hb ⊢
  intro x hx
  have := hb x hx
  simp only [Bool.not_eq_true', Bool.not_eq_false', Function.comp] at this ⊢
  have hb' := H.neg_bounded x (by simpa using this)
  rw [hb']; simp

/-- `add` and `sub` share their code up to the operation `lfOp` on forms: the rounding error of `op a b`, bounded
relative to `|a| + |b|`, splits into a relative error of each operand and an absolute one -/
theorem linearize_addSub (H : LinHyps p R fm store lfStore rho) (hfl : FloatModel fm fl) {op : Rat → Rat → Rat}
    {lfOp : List Iv → List Iv → List Iv} (hop : ∀ a b, |op a b| ≤ |a| + |b|) (hadd : ∀ a b c, op (a + c) b = op a b + c)
    (hne : ∀ {F G}, F ≠ [] → lfOp F G ≠ [])
    (hmem : ∀ {F G a b}, lfEvalMem p F rho a → lfEvalMem p G rho b → lfEvalMem p (lfOp F G) rho (op a b))
    {r l2 F : List Iv} {a b : Rat} (g1 : Good p r) (s1 : lfEvalMem p r rho a) (g2 : Good p l2) (s2 : lfEvalMem p l2 rho b)
    (h : finishLin p R fm (lfAddAssign p R (lfOp (lfAddAssign p R r (relativeError false p R fm.eps r)) l2)
      (relativeError false p R fm.eps l2)) = some F) :
    Good p F ∧ lfEvalMem p F rho (fl (op a b)) := by
  have hbound : |fl (op a b) - op a b| ≤ fm.eps * |a| + fm.eps * |b| + fm.omega := by
    have := mul_le_mul_of_nonneg_left (hop a b) H.eps_nonneg
    linarith [hfl (op a b)]
  obtain ⟨e1, e2, e3, he, hb1, hb2, hb3⟩ := split3 (mul_nonneg H.eps_nonneg (abs_nonneg a))
    (mul_nonneg H.eps_nonneg (abs_nonneg b)) H.omega_nonneg hbound
  have r1 := relativeError_encloses H.sound H.eps_nonneg g1.2 s1 hb1
  have r2 := relativeError_encloses H.sound H.eps_nonneg g2.2 s2 hb2
  have step := lfEvalMem_add H.sound (hmem (lfEvalMem_add H.sound s1 r1) s2) r2
  have e : fl (op a b) = op (a + e1) b + e2 + e3 := by rw [hadd]; linarith
  rw [e]
  exact finishLin_spec H.sound (lfAddAssign_ne_nil (hne (lfAddAssign_ne_nil g1.1))) step hb3 h

/-- the two branches of `mul` share their code up to the roles of the operands: the form `l` (value `y`) is
multiplied by the interval `i` (member `x`); the part of the rounding error relative to the product is a relative
error of `y` times `x` -/
theorem linearize_mulBy (H : LinHyps p R fm store lfStore rho) {l F : List Iv} {i : Iv} {x y v e12 e3 : Rat}
    (g : Good p l) (s : lfEvalMem p l rho y) (m : i.mem p x) (he : v - y * x = e12 + e3)
    (hb12 : |e12| ≤ fm.eps * (|x| * |y|)) (hb3 : |e3| ≤ fm.omega)
    (h : finishLin p R fm (lfAddAssign p R (lfMulAssign false p R (relativeError false p R fm.eps l) i)
      (lfMulAssign false p R l i)) = some F) :
    Good p F ∧ lfEvalMem p F rho v := by
  obtain ⟨t, htb, hta⟩ := factor_error H.eps_nonneg hb12
  have rr := relativeError_encloses H.sound H.eps_nonneg g.2 s htb
  have step := lfEvalMem_add H.sound (lfEvalMem_mul H.sound rr m) (lfEvalMem_mul H.sound s m)
  have e : v = t * x + y * x + e3 := by rw [hta]; linarith
  rw [e]
  exact finishLin_spec H.sound (lfAddAssign_ne_nil (lfMulAssign_ne_nil (relativeError_ne_nil g.1)))
    step hb3 h

/-- what `linearize` hands on is a non-empty form without unbounded coefficients, and the value computed by the
analysed machine on any concrete store inside the abstract store is a value of that form on the store -/
theorem linearize_good_sound (H : LinHyps p R fm store lfStore rho) (hfl : FloatModel fm fl) :
    ∀ (e : FExpr) (F : List Iv), e.WF p → linearize false p R fm store lfStore e = some F →
      Good p F ∧ lfEvalMem p F rho (e.ceval fl rho)
  | .const K k, F, hw, h => by
    simp only [linearize, Option.some.injEq] at h; subst h
    exact ⟨⟨by simp, by simp [lfOverflows, hw.1]⟩,
      [k], List.Forall₂.cons hw.2 List.Forall₂.nil, by simp [FExpr.ceval, lfEval, lfEval.dotFrom]⟩
  | .var i, F, hw, h => by
    simp only [linearize] at h
    cases hl : lfStore i with
    | none =>
      rw [hl] at h; simp only [Option.some.injEq] at h; subst h
      exact ⟨⟨varForm_ne_nil i, lfOverflows_varForm i⟩, lfEvalMem_varForm i⟩
    | some L =>
      rw [hl] at h
      simp only at h
      split_ifs at h with ho
      simp only [Option.some.injEq] at h; subst h
      exact ⟨⟨(H.lfs_sound i _ hl).1, by simpa using ho⟩, (H.lfs_sound i _ hl).2⟩
  | .neg e, F, hw, h => by
    simp only [linearize] at h
    split at h
    · cases h
    rename_i r he
    simp only [Option.some.injEq] at h; subst h
    obtain ⟨g, s⟩ := linearize_good_sound H hfl e r hw he
    exact ⟨lfNegate_good H g, lfEvalMem_neg H.sound s⟩
  | .add e1 e2, F, hw, h => by
    simp only [linearize] at h
    split at h
    · cases h
    rename_i r h1
    split at h
    · cases h
    rename_i l2 h2
    obtain ⟨g1, s1⟩ := linearize_good_sound H hfl e1 r hw.1 h1
    obtain ⟨g2, s2⟩ := linearize_good_sound H hfl e2 l2 hw.2 h2
    exact linearize_addSub H hfl abs_add_le (fun a b c => add_right_comm a c b) lfAddAssign_ne_nil
      (lfEvalMem_add H.sound) g1 s1 g2 s2 h
  | .sub e1 e2, F, hw, h => by
    simp only [linearize] at h
    split at h
    · cases h
    rename_i r h1
    split at h
    · cases h
    rename_i l2 h2
    obtain ⟨g1, s1⟩ := linearize_good_sound H hfl e1 r hw.1 h1
    obtain ⟨g2, s2⟩ := linearize_good_sound H hfl e2 l2 hw.2 h2
    exact linearize_addSub H hfl abs_sub (fun a b c => add_sub_right_comm a c b) lfSubAssign_ne_nil
      (lfEvalMem_sub H.sound) g1 s1 g2 s2 h
  | .mul e1 e2, F, hw, h => by
    simp only [linearize] at h
    split at h
    · cases h
    rename_i l1 h1
    split at h
    · cases h
    rename_i i1 hi1
    split at h
    · cases h
    rename_i l2 h2
    split at h
    · cases h
    rename_i i2 hi2
    obtain ⟨g1, s1⟩ := linearize_good_sound H hfl e1 l1 hw.1 h1
    obtain ⟨g2, s2⟩ := linearize_good_sound H hfl e2 l2 hw.2 h2
    have m1 := intervalize_sound H.sound H.store_mem s1 hi1
    have m2 := intervalize_sound H.sound H.store_mem s2 hi2
    set a := e1.ceval fl rho
    set b := e2.ceval fl rho
    have herr := hfl (a * b)
    rw [abs_mul] at herr
    obtain ⟨e12, e3, he, hb12, hb3⟩ := split2
      (mul_nonneg H.eps_nonneg (mul_nonneg (abs_nonneg a) (abs_nonneg b))) H.omega_nonneg herr
    split at h
    · simp at h
    · -- the first operand is intervalized: [i1] * l2
      exact linearize_mulBy H g2 s2 m1 (mul_comm a b ▸ he) hb12 hb3 h
    · -- the second operand is intervalized: l1 * [i2]
      exact linearize_mulBy H g1 s1 m2 he (mul_comm |a| |b| ▸ hb12) hb3 h
  | .div e1 e2, F, hw, h => by
    simp only [linearize] at h
    split at h
    · cases h
    rename_i l2 h2
    split at h
    · cases h
    rename_i i2 hi2
    split_ifs at h with hz
    split at h
    · cases h
    rename_i r h1
    obtain ⟨g1, s1⟩ := linearize_good_sound H hfl e1 r hw.1 h1
    obtain ⟨_, s2⟩ := linearize_good_sound H hfl e2 l2 hw.2 h2
    have m2 := intervalize_sound H.sound H.store_mem s2 hi2
    set a := e1.ceval fl rho
    set b := e2.ceval fl rho
    have hb0 : b ≠ 0 := ne_zero_of_div_test m2 (by simpa using hz)
    have hposb : 0 < |b| := abs_pos.mpr hb0
    have herr := hfl (a / b)
    rw [abs_div] at herr
    obtain ⟨e12, e3, he, hb12, hb3⟩ := split2
      (mul_nonneg H.eps_nonneg (div_nonneg (abs_nonneg a) (abs_nonneg b))) H.omega_nonneg herr
    have htb : |e12 * b| ≤ fm.eps * |a| := by
      rw [abs_mul]
      calc |e12| * |b| ≤ fm.eps * (|a| / |b|) * |b| := mul_le_mul_of_nonneg_right hb12 hposb.le
        _ = fm.eps * |a| := by rw [mul_assoc, div_mul_cancel₀ _ hposb.ne']
    have rr := relativeError_encloses H.sound H.eps_nonneg g1.2 s1 htb
    have step := lfEvalMem_add H.sound (lfEvalMem_div H.sound s1 m2 hb0) (lfEvalMem_div H.sound rr m2 hb0)
    have := finishLin_spec H.sound
      (lfAddAssign_ne_nil (lfDivAssign_ne_nil g1.1)) step hb3 h
    have e : FExpr.ceval fl rho (.div e1 e2) = a / b + e12 * b / b + e3 := by
      simp only [FExpr.ceval]; rw [mul_div_assoc, div_self hb0, mul_one]; linarith
    rw [e]; exact this

/-- **soundness of `linearize`**: if it answers `true` with the form `F`, the value computed by the
analysed machine on any concrete store inside the abstract store is a value of `F` on that store -/
theorem linearize_sound (H : LinHyps p R fm store lfStore rho) (hfl : FloatModel fm fl) :
    ∀ (e : FExpr) (F : List Iv), e.WF p → linearize false p R fm store lfStore e = some F →
      lfEvalMem p F rho (e.ceval fl rho)
  | e, F, hw, h => (linearize_good_sound H hfl e F hw h).2

end main

end PPLV.Interval
